/-
  The library root.  It imports the modules that no other module imports: the harness drivers (`Driver/`) and the
  closing module of each property family of `Props/`; every module of `Model/`, `Proofs/` and `Props/` is reached
  through these.  `Gen/` (the translated
  sources and their tie theorems) is built on its own, from `SymmModel.Gen.Tie`.
-/
import SymmModel.Driver.CacheH
import SymmModel.Driver.CheckH
import SymmModel.Driver.DTypeFlowH
import SymmModel.Driver.FermiOpsH
import SymmModel.Driver.HamH
import SymmModel.Driver.Heap2H
import SymmModel.Driver.Main
import SymmModel.Driver.RandH
import SymmModel.Driver.ReshapeH
import SymmModel.Driver.SparseH
import SymmModel.Driver.SymH
import SymmModel.Driver.TruncH
import SymmModel.Props.C01All
import SymmModel.Props.C02All5
import SymmModel.Props.C03All3
import SymmModel.Props.C04All14
import SymmModel.Props.C05All7
import SymmModel.Props.C06All9
import SymmModel.Props.C07All9
import SymmModel.Props.C08All7
import SymmModel.Props.C09All
import SymmModel.Props.C10All10
import SymmModel.Props.C11All6
import SymmModel.Props.C12All
import SymmModel.Props.C13All
import SymmModel.Props.C14All3
import SymmModel.Props.C16All
import SymmModel.Props.C18All
import SymmModel.Props.C19
import SymmModel.Props.C20All
