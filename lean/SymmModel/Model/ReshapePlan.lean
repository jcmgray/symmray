/-
  SymmModel.Model.ReshapePlan — the reshape planner `calc_reshape_args`
  (symmray/abelian_core.py:399-590), the symbolic plan executor / certificate `Plan.wfB` used by
  the C07 theorems and by the plan monitor of the driver, and the finite planner domain of C07.

  The planner is modelled loop for loop.  Python's `while`/`for` loops are structurally
  recursive functions on a fuel argument that is large enough (every iteration advances a
  position); running out of fuel is reported as `Err.other` and is unreachable.
  The label list `term` holds `Lbl`s: `o` ("o"), `s` ("s"), `u k` (f"u{k}"), `g k` (f"g{k}").
  The dicts `unfuse_sizes` / `fuse_sizes` have the keys u0,u1,… / g0,g1,… in insertion order,
  so they are the lists of their values (key `k` ↦ position `k`).
  Comparisons are written with `Nat.beq` / `Nat.blt` (kernel-accelerated) because the planner is
  evaluated inside the Lean kernel by the examples and counterexamples of C07.
-/
import SymmModel.Model.Arr
namespace SymmModel

/-- entries of the planner's label list `term` -/
inductive Lbl where
  | o | s | u (k : Nat) | g (k : Nat)
  deriving Repr, Inhabited

/-- string equality of two labels -/
def Lbl.beq : Lbl → Lbl → Bool
  | .o, .o => true
  | .s, .s => true
  | .u a, .u b => Nat.beq a b
  | .g a, .g b => Nat.beq a b
  | _, _ => false

instance : BEq Lbl := ⟨Lbl.beq⟩

/-- `label == "s"` -/
def Lbl.isS : Lbl → Bool
  | .s => true
  | _ => false

/-- equality of two tuples of sizes -/
def beqNats : List Nat → List Nat → Bool
  | [], [] => true
  | a :: as, b :: bs => Nat.beq a b && beqNats as bs
  | _, _ => false

/-- the local variables of `calc_reshape_args` that live through the first (matching) loop -/
structure RState where
  i : Nat := 0
  j : Nat := 0
  k : Nat := 0
  term : List Lbl := []
  axsSqueeze : List Nat := []
  unfuseSizes : List Nat := []
  fuseSizes : List Nat := []
  axsExpand : List Nat := []
  anySingleton : Bool := false
  anyFused : Bool := false
  deriving Repr, Inhabited

namespace Reshape

/-- `for ds in subsizes[i]: dj = newshape[j]; if ds != dj: raise …; s += 1; j += 1; k += 1`;
    returns `(s, j, k)` -/
def unfuseCheck (newshape : List Nat) : List Nat → Nat → Nat → Nat → Except Err (Nat × Nat × Nat)
  | [], s, j, k => pure (s, j, k)
  | ds :: rest, s, j, k =>
    match newshape[j]? with
    | none => throw Err.index
    | some dj =>
      if !Nat.beq ds dj then throw Err.value    -- ValueError("Shape mismatch for unfuse.")
      else unfuseCheck newshape rest (s + 1) (j + 1) (k + 1)

/-- `while di < dj: di *= shape[i]; term.append(label); i += 1; s += 1`;
    returns `(di, i, s, term)` -/
def fuseScan (shape : List Nat) (dj : Nat) (lbl : Lbl) :
    Nat → Nat → Nat → Nat → List Lbl → Except Err (Nat × Nat × Nat × List Lbl)
  | 0, _, _, _, _ => throw Err.other
  | fuel + 1, di, i, s, term =>
    if Nat.blt di dj then
      match shape[i]? with
      | none => throw Err.index          -- `shape[i]` past the end
      | some d => fuseScan shape dj lbl fuel (di * d) (i + 1) (s + 1) (term ++ [lbl])
    else pure (di, i, s, term)

/-- `subsizes[i] is not None and subsizes[i] == newshape[j : j + len(subsizes[i])]` -/
def unfuseMatch (newshape : List Nat) (j : Nat) : Option (List Nat) → Option (List Nat)
  | none => none
  | some subs => if beqNats subs ((newshape.drop j).take subs.length) then some subs else none

/-- the first loop `while i < ndim_old and j < ndim_new` -/
def mainLoop (shape newshape : List Nat) (subsizes : List (Option (List Nat))) :
    Nat → RState → Except Err RState
  | 0, st => if st.i < shape.length && st.j < newshape.length then throw Err.other else pure st
  | fuel + 1, st =>
    match shape[st.i]?, newshape[st.j]? with
    | some di, some dj =>
      match subsizes[st.i]? with
      | none => throw Err.index          -- `subsizes[i]` past the end
      | some sub =>
        match unfuseMatch newshape st.j sub with
        | some subs =>
          -- unfuse, check first
          match unfuseCheck newshape subs 0 st.j st.k with
          | .error e => throw e
          | .ok (s, j, k) =>
            mainLoop shape newshape subsizes fuel
              { st with term := st.term ++ [Lbl.u st.unfuseSizes.length],
                        unfuseSizes := st.unfuseSizes ++ [s],
                        i := st.i + 1, j := j, k := k }
        | none =>
          if Nat.beq di dj then
            -- output dimension already
            mainLoop shape newshape subsizes fuel
              { st with term := st.term ++ [Lbl.o], i := st.i + 1, j := st.j + 1, k := st.k + 1 }
          else if Nat.beq di 1 then
            -- squeezed dimension
            mainLoop shape newshape subsizes fuel
              { st with term := st.term ++ [Lbl.s], axsSqueeze := st.axsSqueeze ++ [st.i],
                        anySingleton := true, i := st.i + 1 }
          else if Nat.beq dj 1 then
            -- expansion location relative to the post-fuse shape
            mainLoop shape newshape subsizes fuel
              { st with axsExpand := st.axsExpand ++ [st.k], j := st.j + 1 }
          else if Nat.blt di dj then
            -- need to fuse
            let lbl := Lbl.g st.fuseSizes.length
            match fuseScan shape dj lbl (shape.length + 1) di (st.i + 1) 1 (st.term ++ [lbl]) with
            | .error e => throw e
            | .ok (di', i', s, term') =>
              if !Nat.beq di' dj then throw Err.value   -- ValueError("Shape mismatch for fuse.")
              else
                mainLoop shape newshape subsizes fuel
                  { st with term := term', fuseSizes := st.fuseSizes ++ [s], anyFused := true,
                            i := i', j := st.j + 1, k := st.k + 1 }
          else throw Err.value                    -- ValueError("Shape mismatch.")
    | _, _ => pure st

/-- `for label, s in unfuse_sizes.items(): ax = term.index(label); axs_unfuse.append(ax);
    term = term[:ax] + ["o"] * s + term[ax + 1:]`; `k` is the number of the current label -/
def unfusePhase : List Nat → Nat → List Lbl → List Nat → Except Err (List Lbl × List Nat)
  | [], _, term, axs => pure (term, axs)
  | s :: rest, k, term, axs =>
    match indexOf? term (Lbl.u k) with
    | none => throw Err.value            -- `list.index` of a missing label
    | some ax =>
      unfusePhase rest (k + 1) (term.take ax ++ List.replicate s Lbl.o ++ term.drop (ax + 1))
        (axs ++ [ax])

/-- `fuse_sizes[g] += 1` (KeyError for an unknown key) -/
def bump : List Nat → Nat → Except Err (List Nat)
  | [], _ => throw Err.key
  | x :: xs, 0 => pure ((x + 1) :: xs)
  | x :: xs, g + 1 => match bump xs g with
    | .ok r => pure (x :: r)
    | .error e => throw e

/-- the variable `g` of the squeeze phase: unbound (`none`) until first assigned; using it
    unbound is Python's `UnboundLocalError` -/
def useG : Option Nat → Except Err Nat
  | some g => pure g
  | none => throw Err.other

/-- `while label == "s": i += 1; label = term[i]` (entered with `term[i] == "s"`);
    returns `(i, label)` -/
def skipS (term : List Lbl) : Nat → Nat → Except Err (Nat × Lbl)
  | 0, _ => throw Err.other
  | fuel + 1, i =>
    match term[i + 1]? with
    | none => throw Err.index            -- `term[i]` past the end: every label is "s"
    | some l => if l.isS then skipS term fuel (i + 1) else pure (i + 1, l)

/-- `for j in range(0, i): fuse_sizes[g] += 1; term[j] = g`; `j` counts up -/
def markLeft (g : Nat) : Nat → Nat → List Lbl → List Nat → Except Err (List Lbl × List Nat)
  | 0, _, term, fs => pure (term, fs)
  | n + 1, j, term, fs =>
    match bump fs g with
    | .error e => throw e
    | .ok fs' => markLeft g n (j + 1) (term.set j (Lbl.g g)) fs'

/-- `while label == "s": term[i] = g; fuse_sizes[g] += 1; i += 1; if i == len(term): break;
    label = term[i]` (entered with `term[i] == "s"`); returns `(i, term, fuse_sizes)` -/
def absorb (g : Option Nat) : Nat → Nat → List Lbl → List Nat → Except Err (Nat × List Lbl × List Nat)
  | 0, _, _, _ => throw Err.other
  | fuel + 1, i, term, fs =>
    match useG g with
    | .error e => throw e
    | .ok gk =>
      let term' := term.set i (Lbl.g gk)
      match bump fs gk with
      | .error e => throw e
      | .ok fs' =>
        match term'[i + 1]? with
        | none => pure (i + 1, term', fs')               -- `i == len(term)`: break
        | some l => if l.isS then absorb g fuel (i + 1) term' fs' else pure (i + 1, term', fs')

/-- the second loop of the squeeze phase, `while i < len(term)`, preferring the left neighbour -/
def sqLoop : Nat → Nat → List Lbl → List Nat → Option Nat → Except Err (List Lbl × List Nat)
  | 0, _, _, _, _ => throw Err.other
  | fuel + 1, i, term, fs, g =>
    match term[i]? with
    | none => pure (term, fs)
    | some label =>
      if label.isS then
        match term[i - 1]? with
        | none => throw Err.index
        | some left =>
          let (g', term', fs') : Option Nat × List Lbl × List Nat :=
            match left with
            | Lbl.g k => (some k, term, fs)
            | Lbl.o => (some fs.length, term.set (i - 1) (Lbl.g fs.length), fs ++ [1])
            | _ => (g, term, fs)
          match absorb g' (term'.length + 1) i term' fs' with
          | .error e => throw e
          | .ok (i', term'', fs'') => sqLoop fuel (i' + 1) term'' fs'' g'
      else sqLoop fuel (i + 1) term fs g

/-- `if any_singleton:` block — squeezed axes are converted into fuse groups -/
def squeezePhase (term : List Lbl) (fs : List Nat) : Except Err (List Lbl × List Nat) :=
  match term[0]? with
  | none => throw Err.index              -- `term[0]` of an empty list
  | some label =>
    if label.isS then
      -- squeeze axes on the left are grouped into the right
      match skipS term (term.length + 1) 0 with
      | .error e => throw e
      | .ok (i, label) =>
        let (g, term', fs') : Option Nat × List Lbl × List Nat :=
          match label with
          | Lbl.g k => (some k, term, fs)
          | Lbl.o => (some fs.length, term.set i (Lbl.g fs.length), fs ++ [1])
          | _ => (none, term, fs)
        match useG g with
        | .error e => throw e
        | .ok gk =>
          match markLeft gk i 0 term' fs' with
          | .error e => throw e
          | .ok (term'', fs'') => sqLoop (term''.length + 1) (i + 1) term'' fs'' g
    else sqLoop (term.length + 1) 1 term fs none

/-- the fuse phase `while i < len(term)`; `cur` = `current_groups`, `acc` = `axs_fuse` -/
def fuseLoop (fs : List Nat) :
    Nat → Nat → List Lbl → List (List Nat) → List (List (List Nat)) → Except Err (List (List (List Nat)))
  | 0, _, _, _, _ => throw Err.other
  | fuel + 1, i, term, cur, acc =>
    match term[i]? with
    | none => pure (if cur.isEmpty then acc else acc ++ [cur])
    | some label =>
      let sz : Option Nat := match label with
        | Lbl.g k => fs[k]?
        | _ => none
      match sz with
      | none =>
        -- `label not in fuse_sizes`
        if !cur.isEmpty then
          let i0 := i - sumN (cur.map List.length)
          let ng := cur.length
          fuseLoop fs fuel (i0 + ng) (term.take i0 ++ List.replicate ng Lbl.o ++ term.drop i) []
            (acc ++ [cur])
        else fuseLoop fs fuel (i + 1) term cur acc
      | some s => fuseLoop fs fuel (i + s) term (cur ++ [List.range' i s]) acc

end Reshape

open Reshape in
/-- `calc_reshape_args(shape, newshape, subsizes)` → `(axs_unfuse, axs_fuse, axs_expand)` -/
def calcReshapeArgs (shape newshape : List Nat) (subsizes : List (Option (List Nat))) :
    Except Err (List Nat × List (List (List Nat)) × List Nat) :=
  match mainLoop shape newshape subsizes (shape.length + newshape.length) {} with
  | .error e => throw e
  | .ok st =>
    -- trailing dimensions: `for i in range(i, ndim_old)` / `for j in range(j, ndim_new)`
    let nTrailI := shape.length - st.i
    let anySingleton := st.anySingleton || Nat.blt 0 nTrailI
    let term := st.term ++ List.replicate nTrailI Lbl.s
    let axsExpand := st.axsExpand ++ List.replicate (newshape.length - st.j) st.k
    -- first the unfusings
    match unfusePhase st.unfuseSizes 0 term [] with
    | .error e => throw e
    | .ok (term, axsUnfuse) =>
      -- squeezes become fuse groups
      match (if anySingleton then squeezePhase term st.fuseSizes else pure (term, st.fuseSizes)) with
      | .error e => throw e
      | .ok (term, fuseSizes) =>
        -- now the fusing
        match (if st.anyFused || anySingleton then fuseLoop fuseSizes (2 * term.length + 2) 0 term [] []
               else pure []) with
        | .error e => throw e
        | .ok axsFuse => pure (axsUnfuse, axsFuse, axsExpand.reverse)

/-! ### symbolic execution of a plan on a shape, and the plan certificate -/

namespace C07

/-- a plan as returned by the planner -/
structure Plan where
  unfuse : List Nat
  fuse : List (List (List Nat))
  expand : List Nat
  deriving Repr, DecidableEq, Inhabited

def Plan.ofTriple (t : List Nat × List (List (List Nat)) × List Nat) : Plan := ⟨t.1, t.2.1, t.2.2⟩

/-- symbolic shape: per axis its size and the sizes of its sub-indices when it is fused -/
abbrev SymShape := List (Nat × Option (List Nat))

/-- unfuse: the axis must be in range and fused; it is replaced by its sub-sizes -/
def symUnfuse (st : SymShape) (ax : Nat) : Option SymShape :=
  match st[ax]? with
  | some (_, some subs) => some (st.take ax ++ subs.map (fun d => (d, none)) ++ st.drop (ax + 1))
  | _ => none

/-- one fused group: a single axis is kept as it is, several axes become their product and
    remember their sizes -/
def symGroup (st : SymShape) (g : List Nat) : Nat × Option (List Nat) :=
  match g with
  | [ax] => st.getD ax (0, none)
  | _ => let sizes := g.map (fun ax => (st.getD ax (0, none)).1)
         (prod sizes, some sizes)

/-- one `fuse(*groups)` call: at least one group, no empty group, and the groups taken
    together are the consecutive axes `p, p+1, …, p+n-1` in that order (so no data is
    permuted); each group is replaced by one axis at position `p` onwards -/
def symFuse (st : SymShape) (groups : List (List Nat)) : Option SymShape :=
  let flat := groups.flatten
  match flat with
  | [] => none
  | p :: _ =>
    if groups.all (fun g => !g.isEmpty) && beqNats flat (List.range' p flat.length)
        && Nat.ble (p + flat.length) st.length then
      some (st.take p ++ groups.map (symGroup st) ++ st.drop (p + flat.length))
    else none

/-- expand: insert a size-one axis at a position `≤ ndim` -/
def symExpand (st : SymShape) (ax : Nat) : Option SymShape :=
  if Nat.ble ax st.length then some (st.take ax ++ [(1, none)] ++ st.drop ax) else none

/-- fold with failure -/
def foldOpt {α β : Type} (f : β → α → Option β) : List α → β → Option β
  | [], b => some b
  | a :: as, b => match f b a with
    | some b' => foldOpt f as b'
    | none => none

/-- symbolic execution of a whole plan in the order `AbelianArray.reshape` applies it -/
def Plan.exec (st : SymShape) (p : Plan) : Option SymShape :=
  match foldOpt symUnfuse p.unfuse st with
  | none => none
  | some s1 => match foldOpt symFuse p.fuse s1 with
    | none => none
    | some s2 => foldOpt symExpand p.expand s2

def SymShape.sizes (st : SymShape) : List Nat := st.map (·.1)
def SymShape.subs (st : SymShape) : List (Option (List Nat)) := st.map (·.2)

/-- the certificate: executing the plan symbolically on `shape` (with the given sub-sizes)
    succeeds — all axes in range, only fused axes unfused, fuse groups consecutive — and
    yields exactly `newshape` -/
def Plan.wfB (shape : List Nat) (subsizes : List (Option (List Nat))) (newshape : List Nat)
    (p : Plan) : Bool :=
  Nat.beq shape.length subsizes.length &&
  match p.exec (shape.zip subsizes) with
  | some r => beqNats r.sizes newshape
  | none => false

/-! ### the finite planner domain of C07 -/

def sizes5 : List Nat := [1, 2, 3, 4, 6]

/-- all shapes with exactly `n` axes of sizes in {1,2,3,4,6} -/
def shapesOfLen : Nat → List (List Nat)
  | 0 => [[]]
  | n + 1 => sizes5.flatMap (fun d => (shapesOfLen n).map (fun r => d :: r))

/-- all ways of merging adjacent axes (every composition of the axis list; products) -/
def merges : List Nat → List (List Nat)
  | [] => [[]]
  | d :: rest =>
    (merges rest).flatMap (fun t => match t with
      | [] => [[d]]
      | e :: t' => if rest.isEmpty then [[d]] else [d :: e :: t', (d * e) :: t'])

/-- all ways of dropping size-one axes -/
def drops : List Nat → List (List Nat)
  | [] => [[]]
  | d :: rest =>
    if d == 1 then (drops rest).flatMap (fun r => [d :: r, r]) else (drops rest).map (fun r => d :: r)

/-- every target reachable from `shape` by dropping size-one axes and/or merging adjacent axes
    (with repetitions) -/
def targets (shape : List Nat) : List (List Nat) := (drops shape).flatMap merges

example : targets [2, 1, 3] = [[2, 1, 3], [2, 3], [2, 3], [6], [2, 3], [6]] := by decide

/-- remove repetitions (keeps the first occurrence) -/
def dedup : List (List Nat) → List (List Nat)
  | [] => []
  | t :: ts => t :: (dedup ts).filter (fun u => !beqNats t u)

def nones (shape : List Nat) : List (Option (List Nat)) := shape.map (fun _ => none)

/-- one shape/target pair, forward and back (the executable form of `RoundTrip`):
    the planner succeeds on `shape → target` (no fused axes), its plan executes symbolically to
    exactly `target`; then, from the resulting symbolic array (whose merged axes carry their
    sub-sizes), the planner succeeds on `target → shape` and that plan executes symbolically to
    exactly `shape` with no fused axis left. -/
def pairOk (shape target : List Nat) : Bool :=
  match calcReshapeArgs shape target (nones shape) with
  | .error _ => false
  | .ok p =>
    match (Plan.ofTriple p).exec (shape.zip (nones shape)) with
    | none => false
    | some st =>
      beqNats (SymShape.sizes st) target &&
      match calcReshapeArgs (SymShape.sizes st) shape (SymShape.subs st) with
      | .error _ => false
      | .ok q =>
        match (Plan.ofTriple q).exec st with
        | none => false
        | some st' => beqNats (SymShape.sizes st') shape && st'.all (fun x => x.2.isNone)

def shapeOk (shape : List Nat) : Bool :=
  ((dedup (targets shape)).filter (fun t => !t.isEmpty)).all (pairOk shape)

/-- all shapes `pre ++ r` with `r` of length `n` -/
def chunkOk (pre : List Nat) (n : Nat) : Bool :=
  (shapesOfLen n).all (fun r => shapeOk (pre ++ r))

/-- the planner there and back for one shape/target pair (what `pairOk` checks), in terms of the
    model's definitions -/
structure RoundTrip (shape target : List Nat) : Prop where
  fwd : ∃ p st, calcReshapeArgs shape target (nones shape) = .ok p ∧
        (Plan.ofTriple p).wfB shape (nones shape) target = true ∧
        (Plan.ofTriple p).exec (shape.zip (nones shape)) = some st ∧
        SymShape.sizes st = target ∧
        ∃ q st', calcReshapeArgs (SymShape.sizes st) shape (SymShape.subs st) = .ok q ∧
          (Plan.ofTriple q).wfB (SymShape.sizes st) (SymShape.subs st) shape = true ∧
          (Plan.ofTriple q).exec st = some st' ∧
          SymShape.sizes st' = shape ∧ (∀ x ∈ st', x.2 = none)

end C07
end SymmModel
