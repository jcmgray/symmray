/-
  SymmModel.Model.Fuse — fusing and unfusing.
  Python: symmray/abelian_core.py  calc_fuse_group_info (:594), calc_fuse_block_info (:654),
  _fuse_blocks_via_insert (:893), _fuse_blocks_via_concat (:952), _fuse_core (:1867),
  fuse (:1947), unfuse (:2012), unfuse_all (:2074).
-/
import SymmModel.Model.Arr
namespace SymmModel

structure FuseGroupInfo where
  numGroups : Nat
  singlets : List Nat
  newNdim : Nat
  perm : List Nat
  position : Nat
  axesBefore : List Nat
  axesAfter : List Nat
  groupDuals : List Bool
  deriving Repr, Inhabited

/-- `calc_fuse_group_info(axes_groups, duals)` -/
def calcFuseGroupInfo (groups : List (List Nat)) (duals : List Bool) : FuseGroupInfo :=
  let ndim := duals.length
  let grouped := groups.flatten
  let position := grouped.foldl min (grouped.headD 0)
  let before := (List.range position).filter (fun ax => !grouped.contains ax)
  let after := ((List.range ndim).filter (fun ax => position ≤ ax)).filter (fun ax => !grouped.contains ax)
  { numGroups := groups.length,
    singlets := (groups.zipIdx.filter (fun p => p.1.length == 1)).map (·.2),
    newNdim := before.length + groups.length + after.length,
    perm := before ++ grouped ++ after,
    position := position,
    axesBefore := before,
    axesAfter := after,
    groupDuals := groups.map (fun g => duals.getD (g.headD 0) false) }

/-- per-block plan entry: `(new_shape, new_sector, subsectors)` -/
structure BlockPlan where
  newShape : List Nat
  newSector : Sector
  subsectors : List Sector
  deriving Repr, Inhabited

structure FuseInfo where
  gi : FuseGroupInfo
  newIndices : List Index
  blockmap : List (Sector × BlockPlan)
  deriving Inhabited

/-- the part of `calc_fuse_block_info` that handles one sector -/
def planSector (sym : Sym) (indices : List Index) (groups : List (List Nat)) (gi : FuseGroupInfo)
    (sector : Sector) : Except Err BlockPlan := do
  let cd (ax : Nat) : Except Err (Charge × Nat × Bool) :=
    match indices[ax]?, sector[ax]? with
    | some ix, some c => match ix.sizeOf? c with
      | some d => pure (c, d, ix.dual)
      | none => throw Err.key
    | _, _ => throw Err.index
  let before ← gi.axesBefore.mapM cd
  let after ← gi.axesAfter.mapM cd
  let mids ← groups.zipIdx.mapM (fun (gaxes, g) => do
    let cds ← gaxes.mapM cd
    let gdual := gi.groupDuals.getD g false
    if gaxes.length == 1 then
      match cds with
      | [(c, d, _)] => pure (c, d, [c])
      | _ => throw Err.other
    else
      let signed := cds.map (fun (c, _, dl) => sym.sign c (gdual != dl))
      pure (sym.combine signed, prod (cds.map (fun x => x.2.1)), cds.map (·.1)))
  pure { newShape := before.map (·.2.1) ++ mids.map (·.2.1) ++ after.map (·.2.1),
         newSector := before.map (·.1) ++ mids.map (·.1) ++ after.map (·.1),
         subsectors := mids.map (·.2.2) }

/-- accumulate sorted `(subsector ↦ (charge, size))` into a chargemap and extents, both in
    first-appearance order (the chargemap is sorted afterwards by `BlockIndex`) -/
def accumExtents : List (Sector × Charge × Nat) → List (Charge × Nat) × Extents
  | [] => ([], [])
  | (ss, c, d) :: rest =>
    -- process in order: fold from the left
    let go := rest.foldl (fun (acc : List (Charge × Nat) × Extents) (x : Sector × Charge × Nat) =>
      let (ss, c, d) := x
      match alookup acc.1 c with
      | none => (acc.1 ++ [(c, d)], acc.2 ++ [(c, [(ss, d)])])
      | some d0 => (ainsert acc.1 c (d0 + d),
                    acc.2.map (fun (c', e) => if c' == c then (c', ainsert e ss d) else (c', e))))
      ([(c, d)], [(c, [(ss, d)])])
    go

/-- `calc_fuse_block_info(self, axes_groups)` -/
def calcFuseBlockInfo {R : Type} (a : Arr R) (groups : List (List Nat)) : Except Err FuseInfo := do
  let gi := calcFuseGroupInfo groups a.duals
  let blockmap ← a.blocks.mapM (fun (sector, _) => do
    let p ← planSector a.sym a.indices groups gi sector
    pure (sector, p))
  -- subinfos[g] : dict subsector ↦ (new_charge, new_size), later blocks overwrite
  let newMid := groups.zipIdx.map (fun (gaxes, g) =>
    if gaxes.length == 1 then a.indices.getD (gaxes.headD 0) default
    else
      let sub : List (Sector × Charge × Nat) :=
        adict (blockmap.map (fun (_, p) =>
          (p.subsectors.getD g [], (p.newSector.getD (gi.position + g) (0, 0),
                                    p.newShape.getD (gi.position + g) 0))))
      let sorted := isort (fun x y => sectorLt x.1 y.1) sub
      let (cmap, ext) := accumExtents sorted
      Index.mk (Index.sortCm cmap) (gi.groupDuals.getD g false)
        (some (gaxes.map (fun ax => a.indices.getD ax default), ext)))
  pure { gi := gi,
         newIndices := permuted a.indices gi.axesBefore ++ newMid ++ permuted a.indices gi.axesAfter,
         blockmap := blockmap }

/-- start offset of `subsector` inside the extent of `charge` of a fused index
    (`slice_lookup[g][new_charge][subsector].start`) -/
def extentStart? (ix : Index) (charge : Charge) (subsector : Sector) : Option (Nat × Nat) :=
  match ix.sub with
  | none => none
  | some (_, exts) =>
    match alookup exts charge with
    | none => none
    | some ext =>
      match indexOf? (ext.map (·.1)) subsector with
      | none => none
      | some k => some ((offsets (ext.map (·.2))).getD k 0, (ext.map (·.2)).getD k 0)

/-- `_fuse_blocks_via_insert` -/
def fuseInsert {R : Type} [Zero R] (blocks : List (Sector × Blk R)) (fi : FuseInfo) :
    Except Err (List (Sector × Blk R)) :=
  blocks.foldlM (fun (acc : List (Sector × Blk R)) (sb : Sector × Blk R) => do
    let (sector, array) := sb
    let p ← match alookup fi.blockmap sector with
      | some p => pure p
      | none => throw Err.key
    let newArray := (array.transposeK fi.gi.perm).reshapeK p.newShape
    let starts ← (List.range fi.newIndices.length).mapM (fun ax =>
      if fi.gi.position ≤ ax && ax < fi.gi.position + fi.gi.numGroups
          && !fi.gi.singlets.contains (ax - fi.gi.position) then
        match extentStart? (fi.newIndices.getD ax default) (p.newSector.getD ax (0, 0))
                (p.subsectors.getD (ax - fi.gi.position) []) with
        | some (st, _) => pure st
        | none => throw Err.key
      else pure 0)
    let target ← match alookup acc p.newSector with
      | some t => pure t
      | none => match Arr.blockShape? fi.newIndices p.newSector with
        | some shp => pure (Blk.zeros shp)
        | none => throw Err.key
    pure (ainsert acc p.newSector (target.setSliceK starts newArray))) []

/-- the recursion `_recurse_concat(new_sector, g, subkey)`; `fuel` = groups still to process -/
def recurseConcat {R : Type} [Zero R] (fi : FuseInfo) (subblocks : List (List Sector × Blk R))
    (newSector : Sector) (zeroShapeOf : List Sector → Except Err (List Nat)) :
    Nat → Nat → List Sector → Except Err (Blk R)
  | 0, _, _ => throw Err.other
  | fuel + 1, g, subkey =>
    let last := g + 1 == fi.gi.numGroups
    if fi.gi.singlets.contains g then
      let newSubkey := subkey ++ [[newSector.getD (fi.gi.position + g) (0, 0)]]
      if last then
        match alookup subblocks newSubkey with
        | some b => pure b
        | none => do
          -- (repaired behaviour, see known_findings: zeros for a missing sub-block)
          let shp ← zeroShapeOf newSubkey
          pure (Blk.zeros shp)
      else recurseConcat fi subblocks newSector zeroShapeOf fuel (g + 1) newSubkey
    else do
      let ix := fi.newIndices.getD (fi.gi.position + g) default
      let ext ← match ix.sub with
        | some (_, exts) => match alookup exts (newSector.getD (fi.gi.position + g) (0, 0)) with
          | some e => pure e
          | none => throw Err.key
        | none => throw Err.attr
      let arrays ← ext.mapM (fun (ss, _) =>
        let newSubkey := subkey ++ [ss]
        if last then
          match alookup subblocks newSubkey with
          | some b => pure b
          | none => do
            let shp ← zeroShapeOf newSubkey
            pure (Blk.zeros shp)
        else recurseConcat fi subblocks newSector zeroShapeOf fuel (g + 1) newSubkey)
      pure (Blk.concatK arrays (fi.gi.position + g))

/-- `_fuse_blocks_via_concat` -/
def fuseConcat {R : Type} [Zero R] (oldIndices : List Index) (blocks : List (Sector × Blk R))
    (fi : FuseInfo) : Except Err (List (Sector × Blk R)) := do
  -- group sub-blocks by new sector (dict of dicts, insertion ordered)
  let grouped ← blocks.foldlM (fun (acc : List (Sector × List (List Sector × Blk R))) (sb : Sector × Blk R) => do
    let (sector, array) := sb
    let p ← match alookup fi.blockmap sector with
      | some p => pure p
      | none => throw Err.key
    let newArray := (array.transposeK fi.gi.perm).reshapeK p.newShape
    let cur := (alookup acc p.newSector).getD []
    pure (ainsert acc p.newSector (ainsert cur p.subsectors newArray))) []
  grouped.mapM (fun (newSector, subblocks) => do
    let zeroShapeOf (subkey : List Sector) : Except Err (List Nat) := do
      let sz (ax : Nat) (pos : Nat) : Except Err Nat :=
        match (oldIndices.getD ax default).sizeOf? (newSector.getD pos (0, 0)) with
        | some d => pure d
        | none => throw Err.key
      let before ← fi.gi.axesBefore.zipIdx.mapM (fun (ax, k) => sz ax k)
      let mid ← subkey.zipIdx.mapM (fun (ss, g) =>
        let ix := fi.newIndices.getD (fi.gi.position + g) default
        let c := newSector.getD (fi.gi.position + g) (0, 0)
        if fi.gi.singlets.contains g then
          match ix.sizeOf? c with
          | some d => pure d
          | none => throw Err.key
        else match extentStart? ix c ss with
          | some (_, d) => pure d
          | none => throw Err.key)
      let after ← fi.gi.axesAfter.zipIdx.mapM (fun (ax, k) =>
        sz ax (fi.gi.position + fi.gi.numGroups + k))
      pure (before ++ mid ++ after)
    let b ← recurseConcat fi subblocks newSector zeroShapeOf fi.gi.numGroups 0 []
    pure (newSector, b))

inductive FuseMode where
  | insert | concat
  deriving DecidableEq, Repr, Inhabited

/-- `_fuse_core(*axes_groups, mode)` -/
def fuseCore {R : Type} [Zero R] (a : Arr R) (groups : List (List Nat)) (mode : FuseMode) :
    Except Err (Arr R) := do
  let fi ← calcFuseBlockInfo a groups
  let newBlocks ← match mode with
    | .insert => fuseInsert a.blocks fi
    | .concat => fuseConcat a.indices a.blocks fi
  pure { a with indices := fi.newIndices, blocks := newBlocks }

/-- `AbelianArray.fuse(*axes_groups, expand_empty, mode)` -/
def fuseA {R : Type} [Zero R] (a : Arr R) (groups : List (List Nat)) (mode : FuseMode := .insert)
    (expandEmpty : Bool := true) : Except Err (Arr R) := do
  let nonEmpty := groups.filter (fun g => !g.isEmpty)
  let expand := (groups.zipIdx.filter (fun p => p.1.isEmpty)).map (·.2)
  let xf ← if nonEmpty.isEmpty then pure a else fuseCore a nonEmpty mode
  if expandEmpty && !expand.isEmpty then
    match nonEmpty.flatten with
    | [] => throw Err.value      -- `min()` of an empty sequence
    | g :: gs =>
      let g0 := gs.foldl min g
      pure (expand.foldl (fun x ax => x.expandDims (g0 + ax) none none) xf)
  else pure xf

/-- `AbelianArray.unfuse(axis)` -/
def unfuseA {R : Type} [Zero R] (a : Arr R) (axis : Nat) : Except Err (Arr R) := do
  let ix ← match a.indices[axis]? with
    | some ix => pure ix
    | none => throw Err.index
  let (subIdx, exts) ← match ix.sub with
    | some s => pure s
    | none => throw Err.attr
  let newBlocks ← a.blocks.foldlM (fun (acc : List (Sector × Blk R)) (sb : Sector × Blk R) => do
    let (sector, array) := sb
    let oldCharge := sector.getD axis (0, 0)
    let ext ← match alookup exts oldCharge with
      | some e => pure e
      | none => throw Err.key
    let starts := offsets (ext.map (·.2))
    let pieces ← (ext.zip starts).mapM (fun ((subsector, d), st) => do
      let subshape ← match Arr.blockShape? subIdx subsector with
        | some s => pure s
        | none => throw Err.key
      let lens := array.shape.set axis d
      let piece := array.sliceK ((List.replicate array.shape.length 0).set axis st) lens
      pure (replaceWithSeq sector axis subsector,
            piece.reshapeK (replaceWithSeq array.shape axis subshape)))
    pure (pieces.foldl (fun m (k, v) => ainsert m k v) acc)) []
  pure { a with indices := replaceWithSeq a.indices axis subIdx, blocks := newBlocks }

/-- `unfuse_all` -/
def unfuseAllWith {R : Type} (unf : Arr R → Nat → Except Err (Arr R)) (a : Arr R) : Except Err (Arr R) :=
  (List.range a.ndim).reverse.foldlM (fun x ax =>
    match x.indices[ax]? with
    | some ix => if ix.sub.isSome then unf x ax else pure x
    | none => pure x) a

def unfuseAllA {R : Type} [Zero R] (a : Arr R) : Except Err (Arr R) := unfuseAllWith unfuseA a

end SymmModel
