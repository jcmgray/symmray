/-
  Property C10, network clause — the MIRROR IMAGES of the ket-bra-first bracketings of the
  two-tensor norm network `{a, b, ā, b̄}`: the first call has the KET operand on the left (`a·ā`, `b·b̄`).

  `a`, `b` as in C10i/j: valid fermionic, bonded along `xa`/`xb` (`tdotAdmissibleB`), sorted distinct ket
  labels; blockwise mode; commutative scalars (`hmul`), `AddCommMonoid`, `NetLaws`, `AssocLaws`.
  `ā = braOf a xa`, `b̄ = braOf b xb`, `K = a·b`, `X = ā·a`, `Y = b̄·b` (C10j), and
  `X' = a·ā`, `Y' = b·b̄` (each contracted over all dangling legs).  `X'` has the legs
  `[a's bond legs, ā's bond legs]`; `kbM a.ndim xa` lists them as "`ā`'s bond legs in the order of `xa`, then
  `a`'s" (= the legs that `kbP` lists for `X`), `kbP a.ndim xa` as "`a`'s, then `ā`'s".

  PROVED
  * `tdotF_swap_eqv_merge` — S5 as an equivalence for operands whose labels need NOT be distinct: if both
    label merges succeed with the same list and `sba = sab · sgn(parity a · parity b)`, then `b·a` rotated
    back by `transposeF` is `Eqv` to `a·b`.  (`C04.tdotF_swap_eqv` is the instance where these three facts
    follow from the distinctness of the labels.)
  * `merge_ket_bra_labels` — the labels of `a·ā` and of `ā·a` annihilate completely in either order, with
    the explicit signs `ph0 p n · (-1)^n` and `ph0 p n`; they differ by `sgn(p·p)` (`p = n mod 2`).
  * `network_norm_ketfirst_piece` — `a·ā` succeeds, carries NO label, has rank `2·|xa|`, and is the block
    transpose of `ā·a` with NO extra sign: `(ā·a).transposeF (rotB k k)` is `Eqv` to `a·ā` (the Koszul
    sign of the exchange of the two leg blocks is the only sign).
  * `network_norm_mirror_hub` — for EVERY pair of sorted distinct ket label lists (no label check) the
    routes
        `(a·ā)·(b̄·b)`, `(b̄·b)·(a·ā)`, `(b·b̄)·(a·ā)`, `(a·ā)·(b·b̄)` (both listings of the leg pairs),
        `(b·b̄)·(ā·a)`, `(ā·a)·(b·b̄)`
    all succeed and give the ONE scalar of the hub of C10j.
  * `network_norm_mirror_tri_hub` — likewise the routes that contract `a·ā` with `b̄` alone, then with `b`
    (and with the roles of the tensors exchanged):
        `((a·ā)·b̄)·b`, `(b̄·(a·ā))·b`, `((b·b̄)·ā)·a`, `(ā·(b·b̄))·a`
    succeed and give the scalar of the hub; `network_norm_mirror_tri`, `network_norm_mirror_tri_oneKet`: it
    is `Σ|K|²` under the label checks / for at most one label per tensor.  [`(a·ā)·b̄` is `Eqv` to `(ā·a)·b̄`:
    S6 as an equivalence (`Net4P.pre_eqv`) for the exchange of the two leg blocks — the free block keeps
    its order, the induced transposition is the identity (`transposeF_range_eqv`) — and congruence;
    `b̄·(a·ā)` by S5 + S6 for the full contraction.]
  * `network_norm_mirror_all`, `network_norm_mirror_all_oneKet` — this scalar is `Σ|K|²` under the label
    checks of C10j (`netLabelsB`: met whenever the labels are distinct; `ketBraLabelsB` for `(a, b)` or `(b, a)`), resp. for at most one ket
    label per tensor (both label orders, no check).
  * `network_norm_mirror_pair` — written out: `(a·ā)·(b·b̄) = Σ|K|²`, rank 0, no labels, sign `+1` for
    every parity / dualness pattern.  NO FINDING: the model never produces a minus sign here.
  * `mirror_vals`, `mirror_tri_vals` evaluate the routes on the concrete networks `gA`/`gA7`, `gB` (both label
    orders; `mirrorVals`, `mirrorTriVals` and the evaluation are in C10Vals).

  NOT COVERED
  * the routes that contract `a·ā` FIRST with the ket tensor `b` (`((a·ā)·b)·b̄`, `(b·(a·ā))·b̄`): their
    unmirrored versions `((ā·a)·b)·b̄` are not in the hub of C10j either;
  * fused / auto mode for the mirror routes: open.  `Net4P.pad_call` lifts one call at a time as in C10j but needs
    the blockwise weak guard of every later call; `HubHalf` records them (`wXY`, `wBX`, `wXB`), `MirrorHalf` and
    `MirrorTri` do not;
  * the nested routes of the three-tensor chain `c̄·(b̄·(ā·K3))`, `((K3·c̄)·b̄)·ā`, `K3 = (a·b)·c` :
    NOT PROVED.  `chain3_nested_vals` evaluates both routes, with their axes lists in closed form
    (`chain3NestedVals`, C10ChainVals), on the concrete chain `gA – gB – gC` for both label orders: all calls
    succeed and both give
    `Σ|K3|² = 117734`, rank 0, no labels (no sign anomaly); with `label a = 7` the intermediates `ā·K3`,
    `b̄·(ā·K3)` carry the un-annihilated lists `[7†, 3, 5, 7]`, `[7†, 5, 7]` (the scan does not bring the
    conjugate pair together, as in C10i `ketBraLabels_order`), so a general proof needs decidable label
    checks or an `Eqv`-up-to-labels form of S7.  Proof plan: S7 for the triangles `(c̄, b̄, ā·K3)` and
    `(c̄·b̄, ā, K3)` brings the route to `((c̄·b̄)·ā)·K3`; `(c̄·b̄)·ā` is a block transpose of `ā·(b̄·c̄)` (S5
    twice, `C04.tdotF_swap_eqv`; labels of the bra tensors are distinct); S6 for the full contraction
    (`scalar_pre`) and congruence reduce to `network_norm_chain3_routes`.
-/
import SymmModel.Proofs.NetNormM3
import SymmModel.Props.C10j

namespace SymmModel.C10
open SymmModel Lazy Norm NormNet TdotP
open SymmModel.Assoc3P (tdF Eqv)
open SymmModel.Assoc5P (rotB)
open SymmModel.KoszulP (sgn)
set_option linter.unusedSectionVars false

theorem kbM_def (n : Nat) (xa : List Nat) :
    kbM n xa = (kbQ n xa).map (xa.length + ·) ++ kbQ n xa := rfl

theorem kbM_example : kbM 5 [3, 1] = [3, 2, 1, 0] ∧ kbP 5 [3, 1] = [1, 0, 3, 2]
    ∧ rotB 2 2 = [2, 3, 0, 1] := by decide

theorem ph0_def (p : Bool) (n : Nat) : ph0 p n = if p && n % 2 == 1 then -1 else 1 := rfl

section gen
variable {R : Type} [AddCommMonoid R] [Mul R] [Neg R] [GradedP.SignRing R] [AssocP.AssocLaws R]

/-- **tdotF_swap_eqv_merge.**  S5 as an equivalence with the label merges as hypotheses. -/
theorem tdotF_swap_eqv_merge (hmul : ∀ x y : R, x * y = y * x) {a b : Arr R} {xa xb : List Nat}
    (W : AssocP.AdmW a b xa xb) (out : List (Int × Bool)) (sab sba : Int)
    (m1 : OddposP.mergeOddpos a.parity a.oddpos b.oddpos = .ok (out, sab))
    (m2 : OddposP.mergeOddpos b.parity b.oddpos a.oddpos = .ok (out, sba))
    (hsab : sab = 1 ∨ sab = -1) (hsba : sba = 1 ∨ sba = -1)
    (m3 : sba = sab * sgn (a.parity.toNat * b.parity.toNat)) (c : Arr R)
    (hc : a.tensordotF b (.pair (xa.map Int.ofNat) (xb.map Int.ofNat)) .blockwise = .ok c) :
    ∃ c', b.tensordotF a (.pair (xb.map Int.ofNat) (xa.map Int.ofNat)) .blockwise = .ok c'
      ∧ c'.validB = true
      ∧ (c'.transposeF (rotB (freeAxes b.ndim xb).length (freeAxes a.ndim xa).length)).validB = true
      ∧ Eqv (c'.transposeF (rotB (freeAxes b.ndim xb).length (freeAxes a.ndim xa).length)) c :=
  Assoc5P.swap_eqv_gen hmul W out sab sba m1 m2 m3 c hc

end gen

/-- **merge_ket_bra_labels.**  The labels of `a·ā` and of `ā·a` annihilate; explicit signs. -/
theorem merge_ket_bra_labels (p : Bool) (w : List (Int × Bool)) (hk : KetLabels w)
    (hd : w.Pairwise (fun x y => x.1 ≠ y.1)) :
    OddposP.mergeOddpos p w (Arr.oddposDag w)
        = .ok ([], ph0 p w.length * (if w.length % 2 = 1 then -1 else 1))
    ∧ OddposP.mergeOddpos p (Arr.oddposDag w) w = .ok ([], ph0 p w.length)
    ∧ ((w.length % 2 == 1) = p →
        ph0 p w.length
          = ph0 p w.length * (if w.length % 2 = 1 then -1 else 1) * sgn (p.toNat * p.toNat)) :=
  ⟨merge_ket_bra p w hk hd, merge_bra_ket p w hk hd, merge_mirror_sign p w.length⟩

example : OddposP.mergeOddpos true [(2, false), (5, false), (9, false)]
      (Arr.oddposDag [(2, false), (5, false), (9, false)]) = .ok ([], 1)
    ∧ OddposP.mergeOddpos true (Arr.oddposDag [(2, false), (5, false), (9, false)])
      [(2, false), (5, false), (9, false)] = .ok ([], -1) := by decide

section main
variable {R : Type} [AddCommMonoid R] [Mul R] [Neg R] [Conj R] [NetLaws R] [AssocP.AssocLaws R]

theorem mPiece_spec {a : Arr R} {xa : List Nat} {X' : Arr R} (M : MPiece a xa X') :
    a.tensordotF (NormNet.braOf a xa) (.pair ((freeAxes a.ndim xa).map Int.ofNat)
        ((freeAxes a.ndim xa).map Int.ofNat)) .blockwise = .ok X'
    ∧ X'.oddpos = [] ∧ X'.ndim = xa.length + xa.length ∧ X'.validB = true
    ∧ ∀ X, (NormNet.braOf a xa).tensordotF a (.pair ((freeAxes a.ndim xa).map Int.ofNat)
          ((freeAxes a.ndim xa).map Int.ofNat)) .blockwise = .ok X →
        Piece a xa X → Eqv (X.transposeF (rotB xa.length xa.length)) X' :=
  ⟨M.call, M.odd, M.nd, M.valid, fun X _ PX => M.eqv X PX⟩

/-- **network_norm_ketfirst_piece.**  `a·ā` succeeds, carries no label, and is the block transpose of
    `ā·a` — no sign besides the Koszul sign of the transposition. -/
theorem network_norm_ketfirst_piece (hmul : ∀ x y : R, x * y = y * x) (a : Arr R) (xa : List Nat)
    (ha : a.validB = true) (hfa : a.fermi = true) (hn : xa.Nodup) (hlt : ∀ i ∈ xa, i < a.ndim)
    (hoA : KetLabels a.oddpos) (hdA : a.oddpos.Pairwise (fun x y => x.1 ≠ y.1)) :
    ∃ X X', (NormNet.braOf a xa).tensordotF a (.pair ((freeAxes a.ndim xa).map Int.ofNat)
          ((freeAxes a.ndim xa).map Int.ofNat)) .blockwise = .ok X
      ∧ a.tensordotF (NormNet.braOf a xa) (.pair ((freeAxes a.ndim xa).map Int.ofNat)
          ((freeAxes a.ndim xa).map Int.ofNat)) .blockwise = .ok X'
      ∧ X.oddpos = [] ∧ X'.oddpos = [] ∧ X'.ndim = xa.length + xa.length ∧ X'.validB = true
      ∧ Eqv (X.transposeF (rotB xa.length xa.length)) X' := by
  obtain ⟨X, PX⟩ := piece_of a xa ha hfa hn hlt hoA hdA
  obtain ⟨X', MX⟩ := mpiece_of hmul a xa ha hfa hn hlt hoA hdA
  exact ⟨X, X', PX.call, MX.call, PX.odd, MX.odd, MX.nd, MX.valid, MX.eqv X PX⟩

theorem mirrorHalf_spec {a b : Arr R} {xa xb : List Nat} {X' Y Y' : Arr R} {v : R}
    (H : MirrorHalf a b xa xb X' Y Y' v) :
    (∃ c, tdF X' Y (kbM a.ndim xa) (kbP b.ndim xb) = .ok c ∧ Scal c v)
    ∧ (∃ c, tdF Y X' (kbP b.ndim xb) (kbM a.ndim xa) = .ok c ∧ Scal c v)
    ∧ (∃ c, tdF Y' X' (kbM b.ndim xb) (kbM a.ndim xa) = .ok c ∧ Scal c v)
    ∧ (∃ c, tdF X' Y' (kbM a.ndim xa) (kbM b.ndim xb) = .ok c ∧ Scal c v)
    ∧ (∃ c, tdF X' Y' (kbP a.ndim xa) (kbP b.ndim xb) = .ok c ∧ Scal c v) :=
  ⟨H.rMY, H.rYM, H.rMM', H.rMM, H.rMMk⟩

theorem mirrorHub_spec {a b : Arr R} {xa xb : List Nat} {X Y X' Y' : Arr R} {v : R}
    (H : MirrorHub a b xa xb X Y X' Y' v) :
    KetBraHub a b xa xb X Y v ∧ MPiece a xa X' ∧ MPiece b xb Y'
      ∧ MirrorHalf a b xa xb X' Y Y' v ∧ MirrorHalf b a xb xa Y' X X' v := H

/-- **network_norm_mirror_hub.**  For every pair of sorted distinct ket label lists all routes through
    the ket-first pieces succeed and give the scalar of the hub (no label check). -/
theorem network_norm_mirror_hub (hmul : ∀ x y : R, x * y = y * x) (a b : Arr R) (xa xb : List Nat)
    (ha : a.validB = true) (hb : b.validB = true) (hfa : a.fermi = true) (hfb : b.fermi = true)
    (hadm : ValidP.tdotAdmissibleB a b xa xb = true)
    (hoA : KetLabels a.oddpos) (hoB : KetLabels b.oddpos)
    (hdA : a.oddpos.Pairwise (fun x y => x.1 ≠ y.1))
    (hdB : b.oddpos.Pairwise (fun x y => x.1 ≠ y.1)) :
    ∃ X Y X' Y' v, MirrorHub a b xa xb X Y X' Y' v := by
  have h := RoutesP.Adm.of ha hb hfa hfb hadm
  obtain ⟨X, Y, v, K⟩ := hub_all hmul a b xa xb h hoA hoB hdA hdB
  obtain ⟨X', Y', M⟩ := mirror_hub_of hmul h hoA hoB hdA hdB K
  exact ⟨X, Y, X', Y', v, M⟩

/-- **network_norm_mirror_all.**  The routes through `a·ā`, `b·b̄` give `Σ|K|²` under the label checks
    of C10j. -/
theorem network_norm_mirror_all (hmul : ∀ x y : R, x * y = y * x) (a b : Arr R) (xa xb : List Nat)
    (ha : a.validB = true) (hb : b.validB = true) (hfa : a.fermi = true) (hfb : b.fermi = true)
    (hadm : ValidP.tdotAdmissibleB a b xa xb = true)
    (hoA : KetLabels a.oddpos) (hoB : KetLabels b.oddpos)
    (hd : (a.oddpos ++ b.oddpos).Pairwise (fun x y => x.1 ≠ y.1))
    (hlab : (netLabelsB a.parity b.parity a.oddpos b.oddpos = true
              ∧ ketBraLabelsB a.parity b.parity a.oddpos b.oddpos = true)
          ∨ (netLabelsB b.parity a.parity b.oddpos a.oddpos = true
              ∧ ketBraLabelsB b.parity a.parity b.oddpos a.oddpos = true)) :
    MirrorAll a b xa xb :=
  mirror_all_of hmul (RoutesP.Adm.of ha hb hfa hfb hadm) hoA hoB (List.pairwise_append.1 hd).1
    (List.pairwise_append.1 hd).2.1
    (network_norm_ketbra_all hmul a b xa xb ha hb hfa hfb hadm hoA hoB hd hlab)

/-- at most one ket label per tensor, labels distinct: both label orders, no check -/
theorem network_norm_mirror_all_oneKet (hmul : ∀ x y : R, x * y = y * x) (a b : Arr R)
    (xa xb : List Nat)
    (ha : a.validB = true) (hb : b.validB = true) (hfa : a.fermi = true) (hfb : b.fermi = true)
    (hadm : ValidP.tdotAdmissibleB a b xa xb = true)
    (hoA : OneKet a.oddpos) (hoB : OneKet b.oddpos)
    (hd : (a.oddpos ++ b.oddpos).Pairwise (fun x y => x.1 ≠ y.1)) :
    MirrorAll a b xa xb :=
  mirror_all_of hmul (RoutesP.Adm.of ha hb hfa hfb hadm) hoA.ketLabels hoB.ketLabels
    (List.pairwise_append.1 hd).1 (List.pairwise_append.1 hd).2.1
    (network_norm_ketbra_all_oneKet hmul a b xa xb ha hb hfa hfb hadm hoA hoB hd)

/-- **network_norm_mirror_pair.**  `(a·ā)·(b·b̄) = Σ|K|²`: rank 0, no labels, no stray sign. -/
theorem network_norm_mirror_pair {a b : Arr R} {xa xb : List Nat} (M : MirrorAll a b xa xb) :
    ∃ K X' Y' c, a.tensordotF b (.pair (xa.map Int.ofNat) (xb.map Int.ofNat)) .blockwise = .ok K
      ∧ a.tensordotF (NormNet.braOf a xa) (.pair ((freeAxes a.ndim xa).map Int.ofNat)
            ((freeAxes a.ndim xa).map Int.ofNat)) .blockwise = .ok X' ∧ X'.oddpos = []
      ∧ b.tensordotF (NormNet.braOf b xb) (.pair ((freeAxes b.ndim xb).map Int.ofNat)
            ((freeAxes b.ndim xb).map Int.ofNat)) .blockwise = .ok Y' ∧ Y'.oddpos = []
      ∧ X'.tensordotF Y' (.pair ((kbP a.ndim xa).map Int.ofNat) ((kbP b.ndim xb).map Int.ofNat))
            .blockwise = .ok c
      ∧ c.ndim = 0 ∧ c.oddpos = [] ∧ c.elem [] [] = normSq K := by
  obtain ⟨K, X, Y, X', Y', eK, _, MX, MY, H, _⟩ := M
  obtain ⟨c, ec, Sc⟩ := H.rMMk
  exact ⟨K, X', Y', c, eK, MX.call, MX.odd, MY.call, MY.odd, ec, Sc⟩

/-- `MirrorAll` written out: all eight mirror routes give `Σ|K|²` -/
theorem mirrorAll_spec {a b : Arr R} {xa xb : List Nat} (M : MirrorAll a b xa xb) :
    ∃ K X Y X' Y', tdF a b xa xb = .ok K
      ∧ tdF (NormNet.braOf a xa) a (freeAxes a.ndim xa) (freeAxes a.ndim xa) = .ok X
      ∧ tdF (NormNet.braOf b xb) b (freeAxes b.ndim xb) (freeAxes b.ndim xb) = .ok Y
      ∧ tdF a (NormNet.braOf a xa) (freeAxes a.ndim xa) (freeAxes a.ndim xa) = .ok X'
      ∧ tdF b (NormNet.braOf b xb) (freeAxes b.ndim xb) (freeAxes b.ndim xb) = .ok Y'
      ∧ X'.oddpos = [] ∧ Y'.oddpos = []
      ∧ (∃ c, tdF X' Y (kbM a.ndim xa) (kbP b.ndim xb) = .ok c ∧ Scal c (normSq K))
      ∧ (∃ c, tdF Y X' (kbP b.ndim xb) (kbM a.ndim xa) = .ok c ∧ Scal c (normSq K))
      ∧ (∃ c, tdF Y' X' (kbM b.ndim xb) (kbM a.ndim xa) = .ok c ∧ Scal c (normSq K))
      ∧ (∃ c, tdF X' Y' (kbM a.ndim xa) (kbM b.ndim xb) = .ok c ∧ Scal c (normSq K))
      ∧ (∃ c, tdF X' Y' (kbP a.ndim xa) (kbP b.ndim xb) = .ok c ∧ Scal c (normSq K))
      ∧ (∃ c, tdF Y' X (kbM b.ndim xb) (kbP a.ndim xa) = .ok c ∧ Scal c (normSq K))
      ∧ (∃ c, tdF X Y' (kbP a.ndim xa) (kbM b.ndim xb) = .ok c ∧ Scal c (normSq K))
      ∧ (∃ c, tdF Y' X' (kbP b.ndim xb) (kbP a.ndim xa) = .ok c ∧ Scal c (normSq K)) := by
  obtain ⟨K, X, Y, X', Y', eK, Hub, MX, MY, H, H'⟩ := M
  exact ⟨K, X, Y, X', Y', eK, Hub.1.call, Hub.2.1.call, MX.call, MY.call, MX.odd, MY.odd,
    H.rMY, H.rYM, H.rMM', H.rMM, H.rMMk, H'.rMY, H'.rYM, H'.rMMk⟩

theorem mirrorTri_spec {a b : Arr R} {xa xb : List Nat} {X' : Arr R} {v : R}
    (T : MirrorTri a b xa xb X' v) :
    -- ((a·ā)·b̄)·b
    (∃ XB c, tdF X' (NormNet.braOf b xb) ((kbQ a.ndim xa).map (xa.length + ·)) xb = .ok XB
      ∧ tdF XB b (kbQ a.ndim xa ++ (List.range (freeAxes b.ndim xb).length).map (xa.length + ·))
          (xb ++ freeAxes b.ndim xb) = .ok c ∧ Scal c v)
    -- (b̄·(a·ā))·b
    ∧ (∃ BX c, tdF (NormNet.braOf b xb) X' xb ((kbQ a.ndim xa).map (xa.length + ·)) = .ok BX
      ∧ tdF BX b ((kbQ a.ndim xa).map ((freeAxes b.ndim xb).length + ·)
          ++ List.range (freeAxes b.ndim xb).length) (xb ++ freeAxes b.ndim xb) = .ok c ∧ Scal c v) :=
  ⟨T.rXB, T.rBX⟩

/-- **network_norm_mirror_tri_hub.**  `((a·ā)·b̄)·b`, `(b̄·(a·ā))·b`, `((b·b̄)·ā)·a`, `(ā·(b·b̄))·a` succeed and
    give the scalar of the hub, for every pair of sorted distinct ket label lists (no label check). -/
theorem network_norm_mirror_tri_hub (hmul : ∀ x y : R, x * y = y * x) (a b : Arr R) (xa xb : List Nat)
    (ha : a.validB = true) (hb : b.validB = true) (hfa : a.fermi = true) (hfb : b.fermi = true)
    (hadm : ValidP.tdotAdmissibleB a b xa xb = true)
    (hoA : KetLabels a.oddpos) (hoB : KetLabels b.oddpos)
    (hdA : a.oddpos.Pairwise (fun x y => x.1 ≠ y.1))
    (hdB : b.oddpos.Pairwise (fun x y => x.1 ≠ y.1)) :
    ∃ X Y X' Y' v, MirrorHub a b xa xb X Y X' Y' v
      ∧ MirrorTri a b xa xb X' v ∧ MirrorTri b a xb xa Y' v := by
  obtain ⟨X, Y, X', Y', v, M⟩ := network_norm_mirror_hub hmul a b xa xb ha hb hfa hfb hadm hoA hoB
    hdA hdB
  exact ⟨X, Y, X', Y', v, M, mirror_tris_of hmul (RoutesP.Adm.of ha hb hfa hfb hadm) hdA hdB M⟩

/-- the value of the routes of `network_norm_mirror_tri_hub` from `MirrorAll` -/
theorem mirror_tri_of_all (hmul : ∀ x y : R, x * y = y * x) {a b : Arr R} {xa xb : List Nat}
    (ha : a.validB = true) (hb : b.validB = true) (hfa : a.fermi = true) (hfb : b.fermi = true)
    (hadm : ValidP.tdotAdmissibleB a b xa xb = true)
    (hd : (a.oddpos ++ b.oddpos).Pairwise (fun x y => x.1 ≠ y.1)) (M : MirrorAll a b xa xb) :
    ∃ K X' Y', a.tensordotF b (.pair (xa.map Int.ofNat) (xb.map Int.ofNat)) .blockwise = .ok K
      ∧ tdF a (NormNet.braOf a xa) (freeAxes a.ndim xa) (freeAxes a.ndim xa) = .ok X'
      ∧ tdF b (NormNet.braOf b xb) (freeAxes b.ndim xb) (freeAxes b.ndim xb) = .ok Y'
      ∧ MirrorTri a b xa xb X' (normSq K) ∧ MirrorTri b a xb xa Y' (normSq K) := by
  obtain ⟨K, X, Y, X', Y', eK, M⟩ := M
  have T := mirror_tris_of hmul (RoutesP.Adm.of ha hb hfa hfb hadm) (List.pairwise_append.1 hd).1
    (List.pairwise_append.1 hd).2.1 M
  exact ⟨K, X', Y', eK, M.2.1.call, M.2.2.1.call, T.1, T.2⟩

/-- **network_norm_mirror_tri.**  `((a·ā)·b̄)·b = (b̄·(a·ā))·b = ((b·b̄)·ā)·a = (ā·(b·b̄))·a = Σ|K|²` under the
    label checks of C10j. -/
theorem network_norm_mirror_tri (hmul : ∀ x y : R, x * y = y * x) (a b : Arr R) (xa xb : List Nat)
    (ha : a.validB = true) (hb : b.validB = true) (hfa : a.fermi = true) (hfb : b.fermi = true)
    (hadm : ValidP.tdotAdmissibleB a b xa xb = true)
    (hoA : KetLabels a.oddpos) (hoB : KetLabels b.oddpos)
    (hd : (a.oddpos ++ b.oddpos).Pairwise (fun x y => x.1 ≠ y.1))
    (hlab : (netLabelsB a.parity b.parity a.oddpos b.oddpos = true
              ∧ ketBraLabelsB a.parity b.parity a.oddpos b.oddpos = true)
          ∨ (netLabelsB b.parity a.parity b.oddpos a.oddpos = true
              ∧ ketBraLabelsB b.parity a.parity b.oddpos a.oddpos = true)) :
    ∃ K X' Y', a.tensordotF b (.pair (xa.map Int.ofNat) (xb.map Int.ofNat)) .blockwise = .ok K
      ∧ tdF a (NormNet.braOf a xa) (freeAxes a.ndim xa) (freeAxes a.ndim xa) = .ok X'
      ∧ tdF b (NormNet.braOf b xb) (freeAxes b.ndim xb) (freeAxes b.ndim xb) = .ok Y'
      ∧ MirrorTri a b xa xb X' (normSq K) ∧ MirrorTri b a xb xa Y' (normSq K) :=
  mirror_tri_of_all hmul ha hb hfa hfb hadm hd
    (network_norm_mirror_all hmul a b xa xb ha hb hfa hfb hadm hoA hoB hd hlab)

/-- at most one ket label per tensor: both label orders, no check -/
theorem network_norm_mirror_tri_oneKet (hmul : ∀ x y : R, x * y = y * x) (a b : Arr R)
    (xa xb : List Nat)
    (ha : a.validB = true) (hb : b.validB = true) (hfa : a.fermi = true) (hfb : b.fermi = true)
    (hadm : ValidP.tdotAdmissibleB a b xa xb = true)
    (hoA : OneKet a.oddpos) (hoB : OneKet b.oddpos)
    (hd : (a.oddpos ++ b.oddpos).Pairwise (fun x y => x.1 ≠ y.1)) :
    ∃ K X' Y', a.tensordotF b (.pair (xa.map Int.ofNat) (xb.map Int.ofNat)) .blockwise = .ok K
      ∧ tdF a (NormNet.braOf a xa) (freeAxes a.ndim xa) (freeAxes a.ndim xa) = .ok X'
      ∧ tdF b (NormNet.braOf b xb) (freeAxes b.ndim xb) (freeAxes b.ndim xb) = .ok Y'
      ∧ MirrorTri a b xa xb X' (normSq K) ∧ MirrorTri b a xb xa Y' (normSq K) :=
  mirror_tri_of_all hmul ha hb hfa hfb hadm hd
    (network_norm_mirror_all_oneKet hmul a b xa xb ha hb hfa hfb hadm hoA hoB hd)

end main

/-! ## non-vacuity -/

open scoped SymmModel.Lazy

/-- the network `gA`, `gB` of C10d (labels 1 < 3, both tensors odd) -/
example : MirrorAll C03.gA C03.gB [2] [0] :=
  network_norm_mirror_all_oneKet Int.mul_comm C03.gA C03.gB [2] [0] gA_valid
    gB_valid rfl rfl gAB_adm (Or.inr ⟨1, rfl⟩) (Or.inr ⟨3, rfl⟩) (by decide)

/-- `gA7`, `gB`: `label a = 7 > label b = 3` -/
example : MirrorAll gA7 C03.gB [2] [0] :=
  network_norm_mirror_all_oneKet Int.mul_comm gA7 C03.gB [2] [0] gA7_valid
    gB_valid rfl rfl gA7B_adm (Or.inr ⟨7, rfl⟩) (Or.inr ⟨3, rfl⟩) (by decide)

example : ∃ X Y X' Y' v, MirrorHub gA7 C03.gB [2] [0] X Y X' Y' (v : Int) :=
  network_norm_mirror_hub Int.mul_comm gA7 C03.gB [2] [0] gA7_valid gB_valid
    rfl rfl gA7B_adm (OneKet.ketLabels (Or.inr ⟨7, rfl⟩))
    (OneKet.ketLabels (Or.inr ⟨3, rfl⟩)) (by decide) (by decide)

example : ∃ X X', (NormNet.braOf C03.gA [2]).tensordotF C03.gA (.pair [0, 1] [0, 1]) .blockwise = .ok X
    ∧ C03.gA.tensordotF (NormNet.braOf C03.gA [2]) (.pair [0, 1] [0, 1]) .blockwise = .ok X'
    ∧ X.oddpos = [] ∧ X'.oddpos = [] ∧ X'.ndim = 1 + 1 ∧ X'.validB = true
    ∧ Eqv (X.transposeF (rotB 1 1)) X' :=
  network_norm_ketfirst_piece Int.mul_comm C03.gA [2] (by decide +kernel) rfl (by decide)
    (by decide) (OneKet.ketLabels (Or.inr ⟨1, rfl⟩)) (by decide)

/-- the triangle routes on `gA7`, `gB` (`label a = 7 > label b = 3`) -/
example : ∃ K X' Y', gA7.tensordotF C03.gB (.pair [2] [0]) .blockwise = .ok K
    ∧ tdF gA7 (NormNet.braOf gA7 [2]) [0, 1] [0, 1] = .ok X'
    ∧ tdF C03.gB (NormNet.braOf C03.gB [0]) [1, 2] [1, 2] = .ok Y'
    ∧ MirrorTri gA7 C03.gB [2] [0] X' (normSq K) ∧ MirrorTri C03.gB gA7 [0] [2] Y' (normSq K) :=
  network_norm_mirror_tri_oneKet Int.mul_comm gA7 C03.gB [2] [0] gA7_valid
    gB_valid rfl rfl gA7B_adm (Or.inr ⟨7, rfl⟩) (Or.inr ⟨3, rfl⟩) (by decide)

theorem mirror_vals :
    mirrorVals C03.gA C03.gB [2] [0]
      = [[16422], [16422, 0, 0], [16422, 0, 0], [16422, 0, 0], [16422, 0, 0], [16422, 0, 0],
          [16422, 0, 0], [16422, 0, 0], [0, 2, 0]]
    ∧ mirrorVals gA7 C03.gB [2] [0]
      = [[16422], [16422, 0, 0], [16422, 0, 0], [16422, 0, 0], [16422, 0, 0], [16422, 0, 0],
          [16422, 0, 0], [16422, 0, 0], [0, 2, 0]] :=
  gAB_routes_vals.2.2.1

theorem mirror_tri_vals :
    mirrorTriVals C03.gA C03.gB [2] [0]
      = [[16422], [16422, 0, 0], [16422, 0, 0], [16422, 0, 0], [16422, 0, 0]]
    ∧ mirrorTriVals gA7 C03.gB [2] [0]
      = [[16422], [16422, 0, 0], [16422, 0, 0], [16422, 0, 0], [16422, 0, 0]] :=
  gAB_routes_vals.2.2.2

/-! ## the nested routes of the three-tensor chain (evaluation only) -/

theorem chain3_nested_vals :
    chain3NestedVals C03.gA C03.gB gC [2] [0] [2] [0]
      = [[117734], [4, 1, 0, 3, 0, 5, 0], [3, 3, 0, 5, 0], [2, 5, 0], [117734, 0, 0],
          [4, 1, 0, 3, 0], [3, 1, 0], [117734, 0, 0]]
    ∧ chain3NestedVals gA7 C03.gB gC [2] [0] [2] [0]
      = [[117734], [4, 3, 0, 5, 0, 7, 0], [3, 7, 1, 3, 0, 5, 0, 7, 0], [2, 7, 1, 5, 0, 7, 0],
          [117734, 0, 0], [4, 3, 0, 7, 0], [3, 7, 0], [117734, 0, 0]] :=
  chain_vals.2

end SymmModel.C10
