/-
  SymmModel.Props.C14 — "Operations never modify their operands unless asked to", proved on the heap
  model `SymmModel.Model.Heap` (objects with identity, CPython's primitive effects, every public
  operation transcribed as an effect program).

  The proof architecture: `Proofs/HeapLemmas.lean` proves ONCE (`safe_inv`) that any effect program
  which mutates only through variables it owns (objects it allocated itself, or the operands it was
  asked to modify) leaves every other pre-existing object identical, and `Proofs/Heap2Lemmas.lean`
  draws the consequences for one call and for programs of calls of any operation given as an `OpSpec`.
  Here each operation's program is shown to obey that discipline (`op_safe`), from which the frame
  theorems follow for every operation, every sequence of operations with arbitrary sharing of operands,
  and every abuse of the results.
-/
import SymmModel.Proofs.Heap2Lemmas
import SymmModel.Proofs.HeapRefine
namespace SymmModel.C14
open SymmModel.Heap

def Unchanged (h h' : Heap) (objs : List ObjId) : Prop :=
  ∀ i ∈ objs, ∀ o, h.get? i = some o → h'.get? i = some o

def unchangedB (h h' : Heap) (objs : List ObjId) : Bool :=
  objs.all fun i => match h.get? i with
    | some o => h'.get? i == some o
    | none => true

theorem unchanged_iff (h h' : Heap) (objs : List ObjId) : Unchanged h h' objs ↔ unchangedB h h' objs = true := by
  simp only [Unchanged, unchangedB, List.all_eq_true]
  constructor
  · intro hu i hi
    cases hg : h.get? i with
    | none => rfl
    | some o => simpa using hu i hi o hg
  · intro hb i hi o ho
    have := hb i hi
    simpa [ho] using this

instance (h h' : Heap) (objs : List ObjId) : Decidable (Unchanged h h' objs) :=
  decidable_of_iff _ (unchanged_iff h h' objs).symm

/-- ownership of the operand variables at the start of a call: exactly the operands the call is
    asked to modify -/
def flags (op : Op) (inplace : Bool) : List Bool :=
  (List.range op.arity).map fun j => (op.targets inplace).contains j

/-- at the end, the returned objects are owned (new, or the operands asked to be modified) -/
def ResOwned (op : Op) (inplace : Bool) : List Bool → Prop :=
  fun o' => ∀ r ∈ op.results inplace, o'.getD r false = true

/-- the operations with an `inplace` switch that act on one array -/
def unaryFlagged : Op → Bool
  | .scalarOp _ | .unaryOpA _ | .unaryOpF _ | .conjA _ _ | .transposeA _ _ | .daggerA _ _ _ _ | .squeeze _ _
  | .expandDims _ | .fuseCore _ | .fuseA _ _ | .unfuseA _ | .unfuseAll _ | .reshape _ | .syncCharges _
  | .phaseFlip _ _ | .phaseTranspose _ | .phaseSector _ | .phaseGlobal | .phaseSync | .transposeF _ _ _ _
  | .conjF _ _ _ _ _ _ | .daggerF _ _ _ _ _ _ | .fuseF _ _ | .unfuseF _ => true
  | _ => false

/-- they all are `new = self if inplace else self.copy()` (or `copy_with`) followed by effects on `new` -/
theorem op_shape (op : Op) (hop : unaryFlagged op = true) :
    (∃ s, ∀ ip, op.prog ip = viaCopy 1 [] s ip) ∨
    (∃ mf post, ∀ ip, op.prog ip = viaCopyWith 1 [] mf post ip) := by
  cases op with
  | fuseA core es =>
    cases core with
    | none => exact Or.inl ⟨_, fun _ => rfl⟩
    | some f => exact Or.inr ⟨fun c _ => S.fuseMods f.plan f.fi c, expandsS es, fun _ => rfl⟩
  | fuseCore f => exact Or.inr ⟨fun c _ => S.fuseMods f.plan f.fi c, .nil, fun _ => rfl⟩
  | unfuseA u => exact Or.inr ⟨fun c _ => S.unfuseMods u.split u.fi c, .nil, fun _ => rfl⟩
  | syncCharges fi => exact Or.inr ⟨fun c _ => S.syncMods fi c, .nil, fun _ => rfl⟩
  | scalarOp _ | unaryOpA _ | unaryOpF _ | conjA _ _ | transposeA _ _ | daggerA _ _ _ _ | squeeze _ _
  | expandDims _ | unfuseAll _ | reshape _ | phaseFlip _ _ | phaseTranspose _ | phaseSector _ | phaseGlobal
  | phaseSync | transposeF _ _ _ _ | conjF _ _ _ _ _ _ | daggerF _ _ _ _ _ _ | fuseF _ _ | unfuseF _ =>
    exact Or.inl ⟨_, fun _ => rfl⟩
  | _ => exact absurd hop Bool.false_ne_true

theorem unaryFlagged_spec (op : Op) (hop : unaryFlagged op = true) :
    op.arity = 1 ∧ ∀ ip, op.targets ip = (if ip then [0] else []) ∧ op.results ip = (if ip then [0] else [1]) := by
  cases op <;> first
    | exact absurd hop Bool.false_ne_true
    | exact ⟨rfl, fun ip => by cases ip <;> exact ⟨rfl, rfl⟩⟩

theorem resOwned_of_all {op : Op} {ip : Bool} {o : List Bool}
    (h : (op.results ip).all (fun r => o.getD r false) = true) : ResOwned op ip o :=
  OpSpec.resOwned_of_all (s := op.spec ip) h

/-- The operations of `unaryFlagged` share one shape and are handled together.  Each other program is
    followed command by command: `⟨_, _⟩` is one command (its ownership condition, then the rest),
    `fun _ =>` a read, the `safe_…` lemmas the combinators; at `.done` the final flags are concrete and
    `resOwned_of_all rfl` evaluates them. -/
theorem op_safe (op : Op) (inplace : Bool) : Safe (ResOwned op inplace) (flags op inplace) (op.prog inplace) := by
  by_cases hop : unaryFlagged op = true
  · obtain ⟨har, hio⟩ := unaryFlagged_spec op hop
    obtain ⟨htg, hres⟩ := hio inplace
    have hfl : flags op inplace = [inplace] := by
      rw [flags, har, htg]; cases inplace <;> rfl
    have hQ : ResOwned op inplace (if inplace then [inplace] else [inplace] ++ [true]) := by
      rw [ResOwned, hres]; cases inplace <;> simp
    rw [hfl]
    rcases op_shape op hop with ⟨s, hs⟩ | ⟨mf, post, hs⟩
    · rw [hs]; exact safe_viaCopy rfl _ _ _ (fun e => by rw [e]; rfl) hQ
    · rw [hs]; exact safe_viaCopyWith rfl _ _ _ _ (fun e => by rw [e]; rfl) hQ
  cases op with
  | copy | copyWith _ | modify _ => exact ⟨rfl, resOwned_of_all rfl⟩
  | applyToArrays _ | mapBlocks _ _ | setParams _ | fillMissing _ | dropMissing _ =>
    exact Safe.script rfl (resOwned_of_all rfl)
  | multiplyDiagonal _ =>
    cases inplace
    · exact safe_viaCopy rfl _ _ _ (fun e => nomatch e) (resOwned_of_all rfl)
    · exact safe_viaCopy rfl _ _ _ (fun _ => rfl) (resOwned_of_all rfl)
  | binaryA m =>
    cases inplace
    · exact ⟨rfl, safe_binaryK rfl rfl _ _ _ (resOwned_of_all rfl)⟩
    · exact safe_binaryK rfl rfl _ _ _ (resOwned_of_all rfl)
  | binaryF m =>
    cases inplace
    · exact ⟨rfl, Safe.script rfl (safe_syncedK rfl _ _ _ (safe_binaryK rfl rfl _ _ _ (resOwned_of_all rfl))
        (safe_binaryK rfl rfl _ _ _ (resOwned_of_all rfl)))⟩
    · exact Safe.script rfl (safe_syncedK rfl _ _ _ (safe_binaryK rfl rfl _ _ _ (resOwned_of_all rfl))
        (safe_binaryK rfl rfl _ _ _ (resOwned_of_all rfl)))
  | alignAxes p =>
    cases inplace
    · exact (safe_alignK_false 0 1 p _).mpr (resOwned_of_all rfl)
    · exact (safe_alignK_true rfl rfl p _).mpr (resOwned_of_all rfl)
  | tdotBlockwise p => exact (safe_tdotBlockwiseK 0 1 p _).mpr (resOwned_of_all rfl)
  | tdotFused p => exact safe_tdotFusedK rfl _ _ _ _ (resOwned_of_all rfl)
  | qr p => exact fun _ => ⟨rfl, rfl, Safe.script rfl (resOwned_of_all rfl)⟩
  | svd p => exact safe_svdK _ _ (resOwned_of_all rfl)
  | svdTruncated p t =>
    -- every effect after `svd` is on one of the three objects it has just created
    have own : ∀ {Q : List Bool → Prop} (l : List (Key × Val)) (g : Key × Val → List Mut) (k : Prog),
        (∀ e, (g e).all (fun m => ([false, true, true, true] : List Bool).getD m.tgt false) = true) →
        Safe Q [false, true, true, true] k → Safe Q [false, true, true, true] (Prog.mutsK (l.flatMap g) k) := by
      intro Q l g k hg hk
      refine (safe_mutsK _ ?_ k).mpr hk
      intro m hm
      obtain ⟨e, _, hm⟩ := List.mem_flatMap.mp hm
      exact List.all_eq_true.mp (hg e) m hm
    refine safe_svdK _ _ fun _ => own _ _ _ (fun _ => rfl) (own _ _ _ (fun _ => rfl) fun _ =>
      ⟨rfl, rfl, fun _ => own _ _ _ (fun _ => ?_) (resOwned_of_all rfl)⟩)
    cases t.absorbU <;> cases t.absorbV <;> rfl
  | eigh p negate =>
    refine safe_syncedK rfl _ _ _ ?_ ?_ <;>
      exact fun _ => ⟨rfl, rfl, fun _ => Safe.actsK rfl (resOwned_of_all rfl)⟩
  | solve p fc =>
    refine safe_syncedK rfl _ _ _ ?_ ?_ <;>
    · refine safe_syncedK rfl _ _ _ ?_ ?_ <;>
        exact fun _ => ⟨rfl, Safe.script rfl (resOwned_of_all rfl)⟩
  | tdotFermionic p =>
    -- `a`, `b` are copied (variables 2, 3) and only the copies are acted on; the contraction creates
    -- variables 4 … 8 on either path, and `resolve_combined_oddpos` acts on the result 8
    have h23 : ([false, false, true, true] : List Bool).getD (if p.flipOnA = true then 2 else 3) false = true := by
      cases p.flipOnA <;> rfl
    refine ⟨rfl, Safe.script rfl ⟨rfl, Safe.script rfl (Safe.script rfl (Safe.script h23
      (Safe.script rfl (Safe.script rfl ?_))))⟩⟩
    cases p.fused with
    | some f => exact safe_tdotFusedK rfl _ _ _ _ fun _ => Safe.script rfl (resOwned_of_all rfl)
    | none =>
      exact (safe_tdotBlockwiseK 2 3 _ _).mpr ⟨rfl, rfl, rfl, rfl, fun _ => Safe.script rfl (resOwned_of_all rfl)⟩
  | _ => exact absurd rfl hop

theorem targets_lt_arity (op : Op) (inplace : Bool) : ∀ j ∈ op.targets inplace, j < op.arity := by
  have pos : 0 < op.arity := by cases op <;> exact Nat.succ_pos _
  intro j hj
  unfold Op.targets at hj
  split at hj
  · rw [List.mem_singleton.mp hj]; exact pos
  · split at hj
    · cases hj
    · split at hj
      · -- `drop_misaligned_sectors` has two operands and may modify both
        rcases List.mem_cons.mp hj with rfl | hj
        · exact pos
        · rw [List.mem_singleton.mp hj]; exact Nat.lt_succ_self 1
      · rw [List.mem_singleton.mp hj]; exact pos

theorem op_spec_ok (op : Op) (inplace : Bool) : (op.spec inplace).OK :=
  ⟨op_safe op inplace, targets_lt_arity op inplace⟩

def targetObjs (op : Op) (inplace : Bool) (operands : List ObjId) : List ObjId :=
  (op.targets inplace).map (envGet operands)

/-- **the footprint of one call**: of the objects existing before the call, only the objects it was
    asked to modify may be rebound and only they / the dicts they pointed to may be mutated;
    every returned object is owned: it and the dicts it points to are new or belong to that footprint -/
theorem op_step (op : Op) (inplace : Bool) (h : Heap) (operands : List ObjId)
    (hn : op.arity ≤ operands.length)
    (htg : ∀ x ∈ targetObjs op inplace operands, x < h.size) :
    Step (· ∈ targetObjs op inplace operands) (· ∈ reachable h (targetObjs op inplace operands))
      h (op.run inplace h operands).1 ∧
    (∀ r ∈ (op.run inplace h operands).2,
      Own h (· ∈ targetObjs op inplace operands) (· ∈ reachableDicts h (targetObjs op inplace operands))
        (op.run inplace h operands).1 r) ∧
    (∀ x ∈ targetObjs op inplace operands,
      Own h (· ∈ targetObjs op inplace operands) (· ∈ reachableDicts h (targetObjs op inplace operands))
        (op.run inplace h operands).1 x) :=
  spec_step (op.spec inplace) (op_spec_ok op inplace) h operands hn htg

/-- an operation not asked to modify anything: nothing that existed is rebound or mutated -/
theorem op_step_out (op : Op) (inplace : Bool) (h : Heap) (operands : List ObjId)
    (hn : op.arity ≤ operands.length) (hout : op.targets inplace = []) :
    Step Never Never h (op.run inplace h operands).1 :=
  spec_step_out (op.spec inplace) (op_spec_ok op inplace) h operands hn hout

/-- **`op_frame`, for every object**: an operation called without being asked to modify anything leaves EVERY
    object that existed before the call identical — in particular everything reachable from its
    operands, whatever they share with each other -/
theorem op_frame_all (op : Op) (inplace : Bool) (h : Heap) (operands : List ObjId)
    (hn : op.arity ≤ operands.length) (hout : op.targets inplace = []) (objs : List ObjId) :
    Unchanged h (op.run inplace h operands).1 objs := by
  intro i _ o ho
  exact (op_step_out op inplace h operands hn hout).same ho (fun e => e) (fun e => e)

theorem op_frame (op : Op) (h : Heap) (operands : List ObjId) (hn : op.arity ≤ operands.length)
    (hflag : op.alwaysInplace = false) {h' : Heap} {results : List ObjId}
    (hrun : op.run false h operands = (h', results)) :
    Unchanged h h' (reachable h operands) := by
  have := op_frame_all op false h operands hn (by simp [Op.targets, hflag]) (reachable h operands)
  rw [hrun] at this; exact this

/-- the in-place variant touches nothing but the operand it was asked to modify and that operand's
    dicts: all other operands (not sharing a dict with it) are unchanged -/
theorem op_frame_inplace (op : Op) (inplace : Bool) (h : Heap) (operands : List ObjId)
    (hn : op.arity ≤ operands.length)
    (htg : ∀ x ∈ targetObjs op inplace operands, x < h.size)
    (objs : List ObjId) (hdis : ∀ i ∈ objs, i ∉ reachable h (targetObjs op inplace operands)) :
    Unchanged h (op.run inplace h operands).1 objs := by
  obtain ⟨st, _, _⟩ := op_step op inplace h operands hn htg
  intro i hi o ho
  have hni := hdis i hi
  refine st.same ho ?_ hni
  intro hx
  apply hni
  simp only [reachable, List.mem_flatMap, List.mem_cons]
  exact ⟨i, hx, Or.inl rfl⟩

/-- the body of `no_shared_dict`: after an out-of-place call every returned object, and every dict a returned
    object points to, was allocated by the call … -/
theorem result_objects_new (op : Op) (inplace : Bool) (h : Heap) (operands : List ObjId)
    (hn : op.arity ≤ operands.length) (hout : op.targets inplace = []) :
    ∀ r ∈ (op.run inplace h operands).2, h.size ≤ r ∧
      ∀ d ∈ dictsOf (op.run inplace h operands).1 r, h.size ≤ d :=
  spec_result_objects_new (op.spec inplace) (op_spec_ok op inplace) h operands hn hout

/-- … hence no mutable object is shared between results and operands (or anything else that existed) -/
theorem no_shared_dict (op : Op) (inplace : Bool) (h : Heap) (operands : List ObjId)
    (hn : op.arity ≤ operands.length) (hout : op.targets inplace = [])
    (hvalid : ∀ d ∈ reachableDicts h operands, d < h.size) :
    ∀ d, d ∈ reachableDicts (op.run inplace h operands).1 (op.run inplace h operands).2 →
      d ∉ reachableDicts h operands := by
  intro d hd hd'
  simp only [reachableDicts, List.mem_flatMap] at hd
  obtain ⟨r, hr, hdr⟩ := hd
  have h1 : h.size ≤ d := (result_objects_new op inplace h operands hn hout r hr).2 d hdr
  have h2 : d < h.size := hvalid d hd'
  exact absurd h2 (Nat.not_lt.mpr h1)

def AllOut (cs : List Call) : Prop := ∀ c ∈ cs, c.op.arity ≤ c.args.length ∧ c.op.targets c.inplace = []

theorem prog_step (cs : List Call) (hout : AllOut cs) (h : Heap) (env : Env) :
    Step Never Never h (runCalls cs h env).1 := by
  induction cs generalizing h env with
  | nil => exact Step.refl _ _ _
  | cons c r ih =>
    obtain ⟨hn, ht⟩ := hout c (List.mem_cons_self ..)
    have s1 := op_step_out c.op c.inplace h (c.args.map (envGet env)) (by simpa using hn) ht
    exact s1.trans (ih (fun c' h' => hout c' (List.mem_cons_of_mem _ h')) _ _) (fun _ _ e => e) (fun _ _ e => e)

/-- **`prog_frame`**: any program of out-of-place operations — any length, any sharing pattern,
    results of earlier steps used as operands of later ones, the same object passed twice — leaves
    every object that existed before it identical -/
theorem prog_frame (cs : List Call) (hout : AllOut cs) (h : Heap) (env : Env) (objs : List ObjId) :
    Unchanged h (runCalls cs h env).1 objs := by
  intro i _ o ho
  exact (prog_step cs hout h env).same ho (fun e => e) (fun e => e)

theorem runCalls_append (cs1 cs2 : List Call) (h : Heap) (env : Env) :
    runCalls (cs1 ++ cs2) h env = runCalls cs2 (runCalls cs1 h env).1 (runCalls cs1 h env).2 := by
  induction cs1 generalizing h env with
  | nil => rfl
  | cons c r ih => simp only [List.cons_append, runCalls]; exact ih _ _

/-- … and every intermediate value is left identical by all later steps -/
theorem prog_frame_later (cs1 cs2 : List Call) (hout : AllOut cs2) (h : Heap) (env : Env)
    (objs : List ObjId) :
    Unchanged (runCalls cs1 h env).1 (runCalls (cs1 ++ cs2) h env).1 objs := by
  rw [runCalls_append]; exact prog_frame cs2 hout _ _ objs

/-- ownership discipline for a program of calls: whatever a call is asked to modify is an owned
    variable (a result of an earlier call); results of every call are owned afterwards -/
def CallsOwned : List Bool → List Call → Prop
  | _, [] => True
  | oo, c :: r => c.op.arity ≤ c.args.length ∧
      (∀ j ∈ c.op.targets c.inplace, oo.getD (c.args.getD j 0) false = true) ∧
      CallsOwned (oo ++ List.replicate (c.op.results c.inplace).length true) r

/-- a call of the first table (`Op`) as a call of either table -/
def toG (c : Call) : GCall := ⟨c.op.spec c.inplace, c.args⟩

theorem runCalls_eq_runG (cs : List Call) :
    ∀ (h : Heap) (env : Env), runCalls cs h env = runG (cs.map toG) h env := by
  induction cs with
  | nil => intro _ _; rfl
  | cons c r ih => intro h env; exact ih _ _

theorem CallsOwned.toG : ∀ {cs : List Call} {oo : List Bool}, CallsOwned oo cs → GCallsOwned oo (cs.map toG)
  | [], _, _ => trivial
  | c :: _, _, ⟨hn, ht, hr⟩ => ⟨op_spec_ok c.op c.inplace, hn, ht, CallsOwned.toG hr⟩

theorem call_inv {h0 h : Heap} {env : Env} {oo : List Bool} (c : Call) (I : GInv h0 h env oo)
    (hn : c.op.arity ≤ c.args.length)
    (ht : ∀ j ∈ c.op.targets c.inplace, oo.getD (c.args.getD j 0) false = true) :
    GInv h0 (c.op.run c.inplace h (c.args.map (envGet env))).1
      (env ++ (c.op.run c.inplace h (c.args.map (envGet env))).2)
      (oo ++ List.replicate (c.op.results c.inplace).length true) :=
  gcall_inv (toG c) I (op_spec_ok c.op c.inplace) hn ht

theorem calls_inv {h0 : Heap} (cs : List Call) {h : Heap} {env : Env} {oo : List Bool} (hc : CallsOwned oo cs)
    (I : GInv h0 h env oo) : ∃ oo', GInv h0 (runCalls cs h env).1 (runCalls cs h env).2 oo' := by
  rw [runCalls_eq_runG]; exact gcalls_inv _ hc.toG I

/-- **`result_mutation_safe`**: run an operation out of place, then apply ANY program of operations
    that is only ever asked to modify the RESULTS (every `inplace=True` method, `modify`,
    `apply_to_arrays`, `set_params`, …, and further out-of-place calls whose results are abused in
    turn; operands may be read at will): every object that existed before the first call is
    identical at the end -/
theorem result_mutation_safe (op : Op) (inplace : Bool) (h : Heap) (operands : List ObjId)
    (hn : op.arity ≤ operands.length) (hout : op.targets inplace = [])
    (cs : List Call)
    (hcs : CallsOwned (List.replicate operands.length false ++
      List.replicate (op.results inplace).length true) cs)
    (objs : List ObjId) :
    Unchanged h (runCalls cs (op.run inplace h operands).1 (operands ++ (op.run inplace h operands).2)).1 objs := by
  intro i _ o ho
  rw [runCalls_eq_runG]
  exact g_result_mutation_safe (op.spec inplace) (op_spec_ok op inplace) h operands hn hout _ hcs.toG i o ho

theorem run_of_prog {op : Op} {ip : Bool} {h : Heap} {operands : List ObjId} {h' : Heap} {env' : Env}
    (hr : (op.prog ip).run h (operands.take op.arity) = (h', env')) :
    op.run ip h operands = (h', (op.results ip).map (envGet env')) := by
  simp only [Op.run, hr]

/-- `new = self if inplace else self.copy(); body(new)` on the first of any number of variables, of which
    the body looks at the frozen ones `others`: both forms end with the content, and create the buffers,
    that the body's value-level meaning `s.pureV` computes from the operand's content and from what it sees
    of the others -/
theorem viaCopy_runs (s : Script) (rest : Env) (others : List Nat) {h : Heap} {x : ObjId} {a : ArrObj} {bd : Dict}
    {pd : Option Dict} (w : WFArr h x a bd pd)
    (ho : ∀ j ∈ others, j < (x :: rest).length)
    (fr : ∀ j ∈ others, Frozen h (· = x) (· ∈ dictsOf h x) (envGet (x :: rest) j)) :
    ∃ r c, ((viaCopy (rest.length + 1) others s true).run h (x :: rest)).2 = x :: rest ∧
      ((viaCopy (rest.length + 1) others s false).run h (x :: rest)).2 = x :: rest ++ [r] ∧
      content ((viaCopy (rest.length + 1) others s true).run h (x :: rest)).1 x = some c ∧
      content ((viaCopy (rest.length + 1) others s false).run h (x :: rest)).1 r = some c ∧
      ((viaCopy (rest.length + 1) others s true).run h (x :: rest)).1.bufs =
        ((viaCopy (rest.length + 1) others s false).run h (x :: rest)).1.bufs ∧
      (c, ((viaCopy (rest.length + 1) others s true).run h (x :: rest)).1.bufs) =
        s.pureV (othersView h (x :: rest) others) (cont a bd pd, h.bufs) := by
  -- in place: `x` is owned
  obtain ⟨ci, ri, hci, vi⟩ := script_run s 0 others (env := x :: rest)
    (o := true :: List.replicate rest.length false) rfl fr
    (Inv.start_inplace (get?_lt w.arr) _ _ (by simp)
      (fun j hj => by
        cases j with
        | zero => rfl
        | succ j => simp only [List.getD, List.getElem?_cons_succ, List.getElem?_replicate] at hj; split at hj <;> cases hj))
    w
  -- out of place: nothing that existed may be written; the copy is owned and has the operand's content
  obtain ⟨ac, bc, pc, wc, ec, hbc⟩ := copyArr_refines w
  have cs := copyArr_spec h x
  have er : envGet (x :: rest ++ [(copyArr h x).2]) (rest.length + 1) = (copyArr h x).2 :=
    envGet_append_len (x :: rest) _
  obtain ⟨co, ro, hco, vo⟩ := script_run s (rest.length + 1) others (h := (copyArr h x).1)
    (env := x :: rest ++ [(copyArr h x).2]) (o := List.replicate (x :: rest).length false ++ [true])
    (by simp)
    (fun j hj => by rw [envGet_append_left _ (ho j hj)]; exact Frozen.never (fr j hj))
    (runCmd_inv (.copy 0) rfl (Inv.start_out h (x :: rest)))
    (by rw [er]; exact wc)
  rw [er] at hco
  rw [othersView_append_new h _ cs.2.ge, ec, hbc, ← vi] at vo
  exact ⟨(copyArr h x).2, ci, ri, ro, hci, by rw [← (Prod.mk.inj vo).1]; exact hco,
    (Prod.mk.inj vo).2.symm, vi⟩

/-- the case without further variables: the value is `s.pure` of the operand's content -/
theorem viaCopy_value (s : Script) {h : Heap} {x : ObjId} {a : ArrObj} {bd : Dict} {pd : Option Dict}
    (w : WFArr h x a bd pd) :
    ∃ r c, ((viaCopy 1 [] s true).run h [x]).2 = [x] ∧ ((viaCopy 1 [] s false).run h [x]).2 = [x, r] ∧
      content ((viaCopy 1 [] s true).run h [x]).1 x = some c ∧
      content ((viaCopy 1 [] s false).run h [x]).1 r = some c ∧
      ((viaCopy 1 [] s true).run h [x]).1.bufs = ((viaCopy 1 [] s false).run h [x]).1.bufs ∧
      (c, ((viaCopy 1 [] s true).run h [x]).1.bufs) = s.pure (cont a bd pd, h.bufs) := by
  rw [Script.pure_eq_pureV]
  exact viaCopy_runs s [] [] w (fun _ hj => nomatch hj) (fun _ hj => nomatch hj)

theorem viaCopy_same (s : Script) {h : Heap} {x : ObjId} {a : ArrObj} {bd : Dict} {pd : Option Dict}
    (w : WFArr h x a bd pd) :
    ∃ r c, ((viaCopy 1 [] s true).run h [x]).2 = [x] ∧ ((viaCopy 1 [] s false).run h [x]).2 = [x, r] ∧
      content ((viaCopy 1 [] s true).run h [x]).1 x = some c ∧
      content ((viaCopy 1 [] s false).run h [x]).1 r = some c ∧
      ((viaCopy 1 [] s true).run h [x]).1.bufs = ((viaCopy 1 [] s false).run h [x]).1.bufs := by
  obtain ⟨r, c, h1, h2, h3, h4, h5, _⟩ := viaCopy_value s w
  exact ⟨r, c, h1, h2, h3, h4, h5⟩

/-- `m = …; self.modify(**m) if inplace else self.copy_with(**m)`, then `post` in place -/
theorem viaCopyWith_same (mf : Content → View → Mods) (post : Script) {h : Heap} {x : ObjId} {a : ArrObj}
    {bd : Dict} {pd : Option Dict} (w : WFArr h x a bd pd) :
    ∃ r c, ((viaCopyWith 1 [] mf post true).run h [x]).2 = [x] ∧
      ((viaCopyWith 1 [] mf post false).run h [x]).2 = [x, r] ∧
      content ((viaCopyWith 1 [] mf post true).run h [x]).1 x = some c ∧
      content ((viaCopyWith 1 [] mf post false).run h [x]).1 r = some c ∧
      ((viaCopyWith 1 [] mf post true).run h [x]).1.bufs = ((viaCopyWith 1 [] mf post false).run h [x]).1.bufs := by
  have hv : View.at (([x] : Env).map (see h)) 0 = cont a bd pd :=
    view_at (by simp) (by simpa [envGet] using w)
  obtain ⟨a1, b1, p1, w1, e1⟩ := runAct_refines (.modify (mf (cont a bd pd) [])) w
  obtain ⟨ci, ri, hci, vi⟩ := script_run_pure post 0 (env := [x]) (by simp) (by simpa [envGet] using w1)
  obtain ⟨ac, bc, pc, wc, ec⟩ := copyWithArr_refines (mf (cont a bd pd) []) w
  obtain ⟨co, ro, hco, vo⟩ := script_run_pure post 1 (h := (copyWithArr h x (mf (cont a bd pd) [])).1)
    (env := [x, (copyWithArr h x (mf (cont a bd pd) [])).2]) (by simp) (by simpa [envGet] using wc)
  have hpure := vo.trans (by rw [vi, ec, e1]; rfl : _ = (ci, _))
  have runIn : (viaCopyWith 1 [] mf post true).run h [x] =
      (post.prog 0 [] .done).run (runAct (.modify (mf (cont a bd pd) [])) h x) [x] := by
    simp only [viaCopyWith, Prog.run, List.map_nil, hv, if_true, runCmd, envGet, List.getD_cons_zero]
  have runOut : (viaCopyWith 1 [] mf post false).run h [x] =
      (post.prog 1 [] .done).run (copyWithArr h x (mf (cont a bd pd) [])).1
        [x, (copyWithArr h x (mf (cont a bd pd) [])).2] := by
    simp only [viaCopyWith, Prog.run, List.map_nil, hv, Bool.false_eq_true, if_false, runCmd, envGet,
      List.getD_cons_zero, List.cons_append, List.nil_append]
  rw [runIn, runOut]
  exact ⟨(copyWithArr h x (mf (cont a bd pd) [])).2, ci, ri, ro, hci,
    by rw [← (Prod.mk.inj hpure).1]; exact hco, (Prod.mk.inj hpure).2.symm⟩

/-- the case of a second, read-only operand `v` that shares no object with `x`
    (`x.multiply_diagonal(v, axis, inplace)`) -/
theorem viaCopy_value_other (s : Script) {h : Heap} {x v : ObjId} {a av : ArrObj} {bd bv : Dict}
    {pd pv : Option Dict} (wx : WFArr h x a bd pd) (wv : WFArr h v av bv pv) (hne : v ≠ x)
    (hb : av.blocks ∉ dictsOf h x) (hp : ∀ p, av.phases = some p → p ∉ dictsOf h x) :
    ∃ r c, ((viaCopy 2 [1] s true).run h [x, v]).2 = [x, v] ∧
      ((viaCopy 2 [1] s false).run h [x, v]).2 = [x, v, r] ∧
      content ((viaCopy 2 [1] s true).run h [x, v]).1 x = some c ∧
      content ((viaCopy 2 [1] s false).run h [x, v]).1 r = some c ∧
      ((viaCopy 2 [1] s true).run h [x, v]).1.bufs = ((viaCopy 2 [1] s false).run h [x, v]).1.bufs ∧
      (c, ((viaCopy 2 [1] s true).run h [x, v]).1.bufs) =
        s.pureV [Seen.arr (cont av bv pv)] (cont a bd pd, h.bufs) := by
  have kind : ∀ {q : ObjId} {l : Dict}, h.get? q = some (.dict l) → q ≠ x :=
    fun hq e => by rw [e, wx.arr] at hq; cases hq
  have hview : othersView h [x, v] [1] = [Seen.arr (cont av bv pv)] := by
    simp only [othersView, List.map_cons, List.map_nil, List.getD_cons_succ, List.getD_cons_zero]
    rw [see_arr wv]
  rw [← hview]
  refine viaCopy_runs s [v] [1] wx (fun j hj => by rw [List.mem_singleton.mp hj]; exact Nat.lt_succ_self 1) (fun j hj => ?_)
  rw [List.mem_singleton.mp hj]
  exact ⟨av, bv, pv, wv, hne, fun e => e.elim (kind wv.blk) hb,
    fun p hq e => e.elim (kind (wv.ph p hq).choose_spec.2.1) (hp p hq)⟩

theorem viaCopy_same_other (s : Script) {h : Heap} {x v : ObjId} {a av : ArrObj} {bd bv : Dict}
    {pd pv : Option Dict} (wx : WFArr h x a bd pd) (wv : WFArr h v av bv pv) (hne : v ≠ x)
    (hb : av.blocks ∉ dictsOf h x) (hp : ∀ p, av.phases = some p → p ∉ dictsOf h x) :
    ∃ r c, ((viaCopy 2 [1] s true).run h [x, v]).2 = [x, v] ∧
      ((viaCopy 2 [1] s false).run h [x, v]).2 = [x, v, r] ∧
      content ((viaCopy 2 [1] s true).run h [x, v]).1 x = some c ∧
      content ((viaCopy 2 [1] s false).run h [x, v]).1 r = some c ∧
      ((viaCopy 2 [1] s true).run h [x, v]).1.bufs = ((viaCopy 2 [1] s false).run h [x, v]).1.bufs := by
  obtain ⟨r, c, h1, h2, h3, h4, h5, _⟩ := viaCopy_value_other s wx wv hne hb hp
  exact ⟨r, c, h1, h2, h3, h4, h5⟩

/-- `inplace_same_value` for `multiply_diagonal`, with the value: the body's meaning `pureV` of the
    operand's content and of what it sees of `v` -/
theorem inplace_value_multiply_diagonal (chargeOf : Key → Key) {h : Heap} {x v : ObjId} {a av : ArrObj}
    {bd bv : Dict} {pd pv : Option Dict} (wx : WFArr h x a bd pd) (wv : WFArr h v av bv pv) (hne : v ≠ x)
    (hb : av.blocks ∉ dictsOf h x) (hp : ∀ p, av.phases = some p → p ∉ dictsOf h x) :
    ∃ r c, ((Op.multiplyDiagonal chargeOf).run true h [x, v]).2 = [x] ∧
      ((Op.multiplyDiagonal chargeOf).run false h [x, v]).2 = [r] ∧
      content ((Op.multiplyDiagonal chargeOf).run true h [x, v]).1 x = some c ∧
      content ((Op.multiplyDiagonal chargeOf).run false h [x, v]).1 r = some c ∧
      ((Op.multiplyDiagonal chargeOf).run true h [x, v]).1.bufs =
        ((Op.multiplyDiagonal chargeOf).run false h [x, v]).1.bufs ∧
      (c, ((Op.multiplyDiagonal chargeOf).run true h [x, v]).1.bufs) =
        (S.multiplyDiagonal chargeOf).pureV [Seen.arr (cont av bv pv)] (cont a bd pd, h.bufs) := by
  obtain ⟨r, c, e1, e2, c1, c2, hbf, hv⟩ :=
    viaCopy_value_other (S.multiplyDiagonal chargeOf) wx wv hne hb hp
  have run : ∀ ip, (Op.multiplyDiagonal chargeOf).run ip h [x, v] =
      (((viaCopy 2 [1] (S.multiplyDiagonal chargeOf) ip).run h [x, v]).1,
       ((Op.multiplyDiagonal chargeOf).results ip).map
         (envGet ((viaCopy 2 [1] (S.multiplyDiagonal chargeOf) ip).run h [x, v]).2)) := fun _ => rfl
  rw [run true, run false, e1, e2]
  exact ⟨r, c, rfl, rfl, c1, c2, hbf, hv⟩

theorem inplace_same_value_multiply_diagonal (chargeOf : Key → Key) {h : Heap} {x v : ObjId} {a av : ArrObj}
    {bd bv : Dict} {pd pv : Option Dict} (wx : WFArr h x a bd pd) (wv : WFArr h v av bv pv) (hne : v ≠ x)
    (hb : av.blocks ∉ dictsOf h x) (hp : ∀ p, av.phases = some p → p ∉ dictsOf h x) :
    ∃ r c, ((Op.multiplyDiagonal chargeOf).run true h [x, v]).2 = [x] ∧
      ((Op.multiplyDiagonal chargeOf).run false h [x, v]).2 = [r] ∧
      content ((Op.multiplyDiagonal chargeOf).run true h [x, v]).1 x = some c ∧
      content ((Op.multiplyDiagonal chargeOf).run false h [x, v]).1 r = some c ∧
      ((Op.multiplyDiagonal chargeOf).run true h [x, v]).1.bufs =
        ((Op.multiplyDiagonal chargeOf).run false h [x, v]).1.bufs := by
  obtain ⟨r, c, h1, h2, h3, h4, h5, _⟩ := inplace_value_multiply_diagonal chargeOf wx wv hne hb hp
  exact ⟨r, c, h1, h2, h3, h4, h5⟩

/-- **`inplace_same_value`**: for every operation with an `inplace` switch acting on one well-formed
    array object, the in-place call returns the operand itself, and that object ends with exactly
    the abstract content (index tables, charge, ordered block dict, ordered sign dict, `oddpos`) of the
    object the out-of-place call returns from the same heap; both calls create the same buffers
    (same kernels on the same arguments, in the same order), so equal buffer ids mean equal data -/
theorem inplace_same_value (op : Op) (hop : unaryFlagged op = true) {h : Heap} {x : ObjId} {a : ArrObj}
    {bd : Dict} {pd : Option Dict} (w : WFArr h x a bd pd) :
    ∃ r c, (op.run true h [x]).2 = [x] ∧ (op.run false h [x]).2 = [r] ∧
      content (op.run true h [x]).1 x = some c ∧ content (op.run false h [x]).1 r = some c ∧
      (op.run true h [x]).1.bufs = (op.run false h [x]).1.bufs := by
  obtain ⟨har, hio⟩ := unaryFlagged_spec op hop
  simp only [Op.run, har, (hio true).2, (hio false).2, if_true, Bool.false_eq_true, if_false,
    List.take_succ_cons, List.take_zero, List.map_cons, List.map_nil]
  rcases op_shape op hop with ⟨s, hs⟩ | ⟨mf, post, hs⟩
  · obtain ⟨r, c, e1, e2, c1, c2, hb⟩ := viaCopy_same s w
    rw [hs true, hs false]
    exact ⟨r, c, by rw [e1]; rfl, by rw [e2]; rfl, c1, c2, hb⟩
  · obtain ⟨r, c, e1, e2, c1, c2, hb⟩ := viaCopyWith_same mf post w
    rw [hs true, hs false]
    exact ⟨r, c, by rw [e1]; rfl, by rw [e2]; rfl, c1, c2, hb⟩

/-- … and for an operation of the shape `new = self if inplace else self.copy(); body(new)` that value
    is the body's value-level meaning `s.pure` of the operand's content -/
theorem inplace_value (op : Op) (hop : unaryFlagged op = true) (s : Script)
    (hs : ∀ ip, op.prog ip = viaCopy 1 [] s ip) {h : Heap} {x : ObjId} {a : ArrObj}
    {bd : Dict} {pd : Option Dict} (w : WFArr h x a bd pd) :
    ∃ r c, (op.run true h [x]).2 = [x] ∧ (op.run false h [x]).2 = [r] ∧
      content (op.run true h [x]).1 x = some c ∧ content (op.run false h [x]).1 r = some c ∧
      (op.run true h [x]).1.bufs = (op.run false h [x]).1.bufs ∧
      (c, (op.run true h [x]).1.bufs) = s.pure (cont a bd pd, h.bufs) := by
  obtain ⟨har, hio⟩ := unaryFlagged_spec op hop
  simp only [Op.run, har, (hio true).2, (hio false).2, if_true, Bool.false_eq_true, if_false,
    List.take_succ_cons, List.take_zero, List.map_cons, List.map_nil, hs]
  obtain ⟨r, c, e1, e2, c1, c2, hb, hv⟩ := viaCopy_value s w
  exact ⟨r, c, by rw [e1]; rfl, by rw [e2]; rfl, c1, c2, hb, hv⟩

/-- a fermionic array `x = 2` with two blocks and one pending sign -/
def h0 : Heap :=
  { objs := [.dict [(0, 0), (1, 1)], .dict [(1, -1)],
             .arr { indices := 5, charge := 1, blocks := 0, phases := some 1, oddpos := 3 }],
    bufs := [(0, []), (0, [])] }

def opT : Op := .transposeF (· + 10) (· + 1) (fun k => if k == 1 then -1 else 1) true

-- the hypotheses of `op_frame` / `no_shared_dict` hold for a call that really does something:
example : opT.arity ≤ [2].length ∧ opT.alwaysInplace = false ∧ opT.targets false = [] := by decide
example : ∀ d ∈ reachableDicts h0 [2], d < h0.size := by decide
-- out of place: a new array (object 5) with new dicts 3 → 6 (blocks) and 4 → 7 (signs); `x` is as before
example : (opT.run false h0 [2]).2 = [5] ∧ dictsOf (opT.run false h0 [2]).1 5 = [7, 6] ∧
    content (opT.run false h0 [2]).1 2 = content h0 2 ∧
    content (opT.run false h0 [2]).1 5 ≠ content h0 2 := by decide +kernel
-- in place: the same object is returned and it now holds the value the out-of-place call returned
example : (opT.run true h0 [2]).2 = [2] ∧
    content (opT.run true h0 [2]).1 2 = content (opT.run false h0 [2]).1 5 := by decide +kernel
-- `result_mutation_safe`: abusing the result in place (`phase_global`, `*= 2`, `modify`) is a program
-- whose calls are only asked to modify variable 1 = the result
example : CallsOwned (List.replicate [2].length false ++ List.replicate (opT.results false).length true)
    [⟨.phaseGlobal, true, [1]⟩, ⟨.scalarOp tMul, true, [1]⟩, ⟨.modify { indices := some 0 }, false, [1]⟩,
     ⟨.binaryF .outer, false, [1, 0]⟩, ⟨.phaseSync, true, [2]⟩] := by
  simp [CallsOwned, Op.arity, Op.targets, Op.alwaysInplace, Op.neverInplace, Op.results, opT]

-- the well-formedness hypothesis of `inplace_same_value` holds for `x`, and the theorem applies to `opT`:
example : WFArr h0 2 { indices := 5, charge := 1, blocks := 0, phases := some 1, oddpos := 3 }
    [(0, 0), (1, 1)] (some [(1, -1)]) :=
  ⟨rfl, rfl, fun p hp => by cases hp; exact ⟨_, rfl, rfl, by decide⟩, fun hn => by cases hn⟩
example : unaryFlagged opT = true := rfl

/- `inplace_same_value` covers the 24 operations of `unaryFlagged` (one array operand),
   `inplace_same_value_multiply_diagonal` covers `multiply_diagonal`; the in-place forms with a
   block-array right operand (`__iadd__/__isub__/__imul__/__itruediv__`: `binaryA`, `binaryF`) and
   `drop_misaligned_sectors(inplace=True)` (two targets) are in `Props/C14b.lean`. -/

/-- sharing a dict is rejected by the discipline, whatever follows … -/
theorem share_not_safe (Q : List Bool → Prop) (o : List Bool) (t s : Nat) (k : Prog) :
    ¬ Safe Q o (.cmd (.sharePhases t s) k) ∧ ¬ Safe Q o (.cmd (.shareBlocks t s) k) := by
  constructor <;> (intro h; simp [Safe, Cmd.ok] at h)

/-- … and rightly so.  `copy` that binds the operand's sign dict instead of a copy of it
    (`new._phases = self.phases`, mutant m42; `copy_with(phases=x.phases)` does the same through the
    public internal-use API): `phase_global(inplace=True)` on the RESULT changes the OPERAND. -/
def sharedCopy : Prog := .cmd (.copy 0) (.cmd (.sharePhases 1 0) .done)

theorem shared_sign_dict_leaks :
    let r := sharedCopy.run h0 [2]
    let r' := (Op.phaseGlobal.prog true).run r.1 [envGet r.2 1]
    Unchanged h0 r.1 (reachable h0 [2]) ∧ ¬ Unchanged h0 r'.1 (reachable h0 [2]) := by
  refine ⟨by decide +kernel, ?_⟩
  intro hu
  have := hu 1 (by decide) _ rfl
  revert this
  decide +kernel

/-- the same for the block dict: `x.copy_with(blocks=x.blocks)` keeps the caller's dict
    (`new._blocks = … if blocks is None else blocks`), so `y *= 2` on the result rewrites `x` -/
def sharedBlocks : Prog := .cmd (.copyWith 0 {}) (.cmd (.shareBlocks 1 0) .done)

theorem shared_block_dict_leaks :
    let r := sharedBlocks.run h0 [2]
    let r' := ((Op.scalarOp tMul).prog true).run r.1 [envGet r.2 1]
    ¬ Unchanged h0 r'.1 (reachable h0 [2]) := by
  intro r r' hu
  have := hu 0 (by decide) _ rfl
  revert this
  decide +kernel

end SymmModel.C14
