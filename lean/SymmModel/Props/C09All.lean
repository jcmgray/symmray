/-
  Property C09 — umbrella: Props/C09.lean (value view, sign operations, congruences, canonical
  form, operations that synchronise first, programs) and Props/C09b.lean (reductions and unary maps
  that synchronise first, decompositions, squeeze / expand_dims / fuse, einsum, programs over all
  operations).  Both files use `namespace SymmModel.C09`.
-/
import SymmModel.Props.C09
import SymmModel.Props.C09b
