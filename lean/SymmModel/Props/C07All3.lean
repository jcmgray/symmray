import SymmModel.Props.C07All2
import SymmModel.Props.C07d
