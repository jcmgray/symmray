/-
  Property C11 (second part) — `eigh` reconstruction, fermionic `solve`, and the two clauses of
  C13 about the values after truncation (absorb options, truncation error).

  Per-call value contracts (each is a hypothesis on the blocks of the call, because no kernel over
  an exact scalar type can meet them for every block; each has a concrete instance below):

    `K.EighBlock b`        (Proofs/LinalgMore.lean)   Σ_t (v[i,t]·w[t])·conj v[j,t] = b[i,j]
    `K.SolvesOn a b`       (Proofs/LinalgSolveRecon)  arr · K.solve arr bb = bb on paired blocks
    `K.OrthoBlock conj b`  (Proofs/LinalgMore5.lean)  columns of u, rows of vh orthonormal

  `eigh_reconstructs`            abelian: (ev · diag w) · ev† = a with the blockwise contraction
                                 and the abelian adjoint `Arr.adjA` (conj, then axes reversed).
  `eigh_reconstructs_fermionic`  `ev.multiply_diagonal(w, 1) @ ev.dagger()` = a (`matmulF`,
                                 `daggerF`), pending signs on `a` allowed (the model syncs first);
                                 the sign `eigh_fermionic` puts on the eigenvalues of odd charges
                                 when the column index is not dual cancels against the flip
                                 `__matmul__` applies to the dual first index of `ev†`.
  `solve_solves_fermionic`       even `a`, pending signs on both operands: `a @ solve(a, b)` has
                                 `b`'s value view on every sector `a` reaches.
  `absorb_products_agree(_truncated)`  the three absorb options of `svd_truncated`
                                 (linalg.py:369-385, model `absorbA`) give products with the same
                                 sectors, pending signs and value view.
  `truncation_error_block`, `truncation_error`  squared error of the truncated product =
                                 discarded squared weight, per block / per kept sector.

  Structural hypotheses of the eigh theorems: rank 2, charge zero, the two indices have opposite
  directions and equal chargemaps (then all stored sectors are `(c, c)` and square).  Fermionic
  statements need `oddpos = []` on the even operands (even arrays of the library carry no label).
-/
import SymmModel.Proofs.LinalgMore6
import SymmModel.Proofs.ReconEigh
import SymmModel.Proofs.ReconSolve
import SymmModel.Props.C11

namespace SymmModel.C11
open SymmModel LinalgLemmas

variable {R : Type}

theorem eigh_reconstructs [Zero R] [Add R] [Mul R] [Neg R] [Conj R]
    (hc0 : Conj.conj (0 : R) = 0) (K : Kernels R) (hK : K.ShapeOk) (a : Arr R)
    (hv : a.validB = true) (h2 : a.ndim = 2) (hch : a.charge = a.sym.zero)
    (hopp : (a.indices.getD 1 default).dual = !(a.indices.getD 0 default).dual)
    (hcm : (a.indices.getD 0 default).cm = (a.indices.getD 1 default).cm)
    (hf : a.fermi = false) (hE : ∀ p ∈ a.blocks, K.EighBlock p.2) :
    ∃ w ev, eighA K a = .ok (w, ev) ∧
      ∀ s off, AddrOf a s off →
        (tensordotBlockwise (multiplyDiagonal ev w 1) ev.adjA [0] [1] [0] [1]).elem s off
          = a.elem s off :=
  eigh_recon_abelian hc0 hK ⟨hv, h2, hch, hopp, hcm⟩ hf hE

/-- **eigh_reconstructs_fermionic.**  The kernel contract is on the blocks `eigh` really
    factorises, i.e. those of `a.phaseSync`. -/
theorem eigh_reconstructs_fermionic [Zero R] [Add R] [Mul R] [Neg R] [Conj R] [SignLaws R]
    (hc0 : Conj.conj (0 : R) = 0) (K : Kernels R) (hK : K.ShapeOk) (a : Arr R)
    (hv : a.validB = true) (h2 : a.ndim = 2) (hch : a.charge = a.sym.zero)
    (hopp : (a.indices.getD 1 default).dual = !(a.indices.getD 0 default).dual)
    (hcm : (a.indices.getD 0 default).cm = (a.indices.getD 1 default).cm)
    (hf : a.fermi = true) (ho : a.oddpos = [])
    (hE : ∀ p ∈ a.phaseSync.blocks, K.EighBlock p.2) :
    ∃ w ev y, eighA K a = .ok (w, ev)
      ∧ Arr.matmulF (multiplyDiagonal ev w 1) ev.daggerF = .ok y ∧ y.oddpos = []
      ∧ ∀ s off, AddrOf a s off → y.elem s off = a.elem s off :=
  ReconP.eigh_recon_fermi_labels hc0 hK ⟨hv, h2, hch, hopp, hcm⟩ hf (ho ▸ ReconP.sortedLabels_nil)
    (by rw [ho]; exact fun _ h => nomatch h) hE

/-- **solve_solves_fermionic.**  `a` an EVEN valid fermionic matrix without labels, `b` a valid
    fermionic vector with at most one label; both may carry pending signs.  The kernel is correct
    on the block pairs the call forms after syncing.  Then `a @ x` succeeds, carries `b`'s label
    and has `b`'s element at every row of every sector of `b` paired with a block of `a`. -/
theorem solve_solves_fermionic [Zero R] [Add R] [Mul R] [Neg R] (hn0 : -(0 : R) = 0)
    (K : Kernels R) (hK : K.ShapeOk) (a b x : Arr R) (hva : a.validB = true)
    (hvb : b.validB = true) (hfa : a.fermi = true) (hfb : b.fermi = true)
    (heven : a.parity = false) (hao : a.oddpos = []) (hbo : b.oddpos.length ≤ 1)
    (hS : K.SolvesOn a.phaseSync b.phaseSync) (h : solveA K a b = .ok x) :
    ∃ y, Arr.matmulF a x = .ok y ∧ y.oddpos = b.oddpos ∧
      ∀ s arr, (s, arr) ∈ a.blocks → [s.getD 0 (0, 0)] ∈ b.sectors →
        ∀ i, i < arr.shape.getD 0 0 →
          y.elem [s.getD 0 (0, 0)] [i] = b.elem [s.getD 0 (0, 0)] [i] :=
  ReconP.solve_recon_fermi_labels hn0 hK hva hvb hfa hfb heven hao (ReconP.sortedLabels_of_short hbo) hS h

/-! ## 3. absorbing the singular values (C13) -/

/-- hypothesis on the backend's `sqrt` for the blocks of a singular-value vector -/
def SqrtOn [Zero R] [Mul R] (sqrtK : Blk R → Blk R) (s : BVec R) : Prop :=
  ∀ q ∈ s.blocks, (sqrtK q.2).shape = q.2.shape
    ∧ ∀ t, t < q.2.shape.getD 0 0 → (sqrtK q.2).get [t] * (sqrtK q.2).get [t] = q.2.get [t]

/-- **absorb_products_agree.**  `u, s, vh` the factors of `svd` of a valid matrix; for any two
    absorb options the blockwise products of the absorbed factors have the same sectors, the same
    pending signs and the same element at every address of `x`. -/
theorem absorb_products_agree [CommRing R] (K : Kernels R) (hK : K.ShapeOk) (x : Arr R)
    (hv : x.validB = true) (h2 : x.ndim = 2) (u : Arr R) (s : BVec R) (vh : Arr R)
    (hsvd : svdA K x = .ok (u, s, vh)) (sqrtK : Blk R → Blk R) (hsq : SqrtOn sqrtK s)
    (m1 m2 : Absorb) :
    let P1 := tensordotBlockwise (absorbA m1 sqrtK u s vh).1 (absorbA m1 sqrtK u s vh).2 [0] [1] [0] [1]
    let P2 := tensordotBlockwise (absorbA m2 sqrtK u s vh).1 (absorbA m2 sqrtK u s vh).2 [0] [1] [0] [1]
    P1.sectors = P2.sectors ∧ P1.phases = P2.phases
      ∧ ∀ sec off, AddrOf x sec off → P1.elem sec off = P2.elem sec off := by
  obtain ⟨rfl, rfl, rfl⟩ := svd_factors_eq hv h2 hsvd
  have hsh := svd_itemShape hK hv h2
  obtain ⟨e1, e2, e3⟩ := absorb_agree_items (aligned_svd (K := K) hv h2) sqrtK
    (fun p => (p.2.shape.getD 0 0, min (p.2.shape.getD 0 0) (p.2.shape.getD 1 0), p.2.shape.getD 1 0))
    hsh (fun p hp => by
      have := hsq (colOf p.1, (K.svd p.2).2.1) (List.mem_map.mpr ⟨p, hp, rfl⟩)
      rw [(hsh p hp).2.1] at this
      exact this) m1 m2
  refine ⟨e1, e2, fun sec off ha => e3 sec off (addrOf_items hv h2 ha)⟩

/-- **absorb_products_agree_truncated.**  The same after the truncation step `applyCounts`
    (`counts` aligned with the stored blocks): sectors with count 0 are absent from both
    products, on the kept ones the full `m × n` boxes agree. -/
theorem absorb_products_agree_truncated [CommRing R] (K : Kernels R) (hK : K.ShapeOk) (x : Arr R)
    (hv : x.validB = true) (h2 : x.ndim = 2) (u : Arr R) (s : BVec R) (vh : Arr R)
    (hsvd : svdA K x = .ok (u, s, vh)) (counts : List Nat) (hlen : counts.length = x.blocks.length)
    (sqrtK : Blk R → Blk R) (hsq : SqrtOn sqrtK (applyCounts u s vh counts).2.1)
    (m1 m2 : Absorb) :
    let u' := (applyCounts u s vh counts).1
    let s' := (applyCounts u s vh counts).2.1
    let vh' := (applyCounts u s vh counts).2.2
    let P1 := tensordotBlockwise (absorbA m1 sqrtK u' s' vh').1 (absorbA m1 sqrtK u' s' vh').2 [0] [1] [0] [1]
    let P2 := tensordotBlockwise (absorbA m2 sqrtK u' s' vh').1 (absorbA m2 sqrtK u' s' vh').2 [0] [1] [0] [1]
    P1.sectors = P2.sectors ∧ P1.phases = P2.phases
      ∧ ∀ sec off, AddrOf x sec off → P1.elem sec off = P2.elem sec off := by
  obtain ⟨rfl, rfl, rfl⟩ := svd_factors_eq hv h2 hsvd
  rw [applyCounts_eq (S := fun b => (K.svd b).2.1) hv h2 hlen] at hsq ⊢
  have hsh := trunc_itemShape hK hv h2 hlen
  obtain ⟨e1, e2, e3⟩ := absorb_agree_items (aligned_trunc (K := K) hv h2 hlen) sqrtK
    (fun t => (t.1.2.shape.getD 0 0, t.2, t.1.2.shape.getD 1 0)) hsh
    (fun t ht => by
      have := hsq (colOf t.1.1, ((K.svd t.1.2).2.1).sliceK [0] [t.2]) (List.mem_map.mpr ⟨t, ht, rfl⟩)
      simpa using this) m1 m2
  refine ⟨e1, e2, fun sec off ha => e3 sec off (addrOf_kept hv h2 hlen ha)⟩

/-! ## 4. truncation error (C13) -/

open Finset in
/-- **truncation_error_block.**  For one block `b` (`m × n`) with `(u, s, vh) = K.svd b` meeting
    the svd value contract and orthonormality, and any array of entries `P i j` equal to those of
    `u[:, :c] · diag(s[:c]) · vh[:c, :]` (`c ≤ min m n`):
    `‖b − P‖² = Σ_{c ≤ t < min m n} conj(s[t]) · s[t]`. -/
theorem truncation_error_block [CommRing R] (conj : R →+* R) (K : Kernels R)
    (hC : K.SVDContract) (b : Blk R) (m n : Nat) (hs : b.shape = [m, n]) (hwf : b.wf = true)
    (hO : K.OrthoBlock conj b) (c : Nat) (hc : c ≤ min m n) (P : Nat → Nat → R)
    (hP : ∀ i j, i < m → j < n → P i j
      = ∑ t ∈ range c, ((K.svd b).1.get [i, t] * (K.svd b).2.1.get [t]) * (K.svd b).2.2.get [t, j]) :
    ∑ i ∈ range m, ∑ j ∈ range n, conj (b.get [i, j] - P i j) * (b.get [i, j] - P i j)
      = ∑ t ∈ Ico c (min m n), conj ((K.svd b).2.1.get [t]) * (K.svd b).2.1.get [t] :=
  LinalgLemmas.truncation_error_block conj hC hs hwf hO hc P hP

open Finset in
/-- the sliced kernel factors do have those entries (so `truncation_error_block` applies to the
    block `u[:, :c] · diag(s[:c]) · vh[:c, :]` the truncated arrays store) -/
theorem truncated_block_entries [CommRing R] (K : Kernels R) (b : Blk R) (m n c i j : Nat)
    (hi : i < m) (hj : j < n) :
    ((((K.svd b).1.sliceK [0, 0] [m, c]).mulAxisK ((K.svd b).2.1.sliceK [0] [c]) 1).tensordotK
        ((K.svd b).2.2.sliceK [0, 0] [c, n]) [1] [0]).get [i, j]
      = ∑ t ∈ range c, ((K.svd b).1.get [i, t] * (K.svd b).2.1.get [t]) * (K.svd b).2.2.get [t, j] := by
  rw [tensordotK_matmul_get _ _ (by rw [mulAxisK_shape]; rfl) (by rfl) hi hj, ← foldl_eq_sum]
  apply foldl_ext'
  intro acc t ht
  have ht' := List.mem_range.mp ht
  rw [mulAxisK_get _ _ (by rfl) hi ht', sliceK00_get _ hi ht', sliceK0_get _ ht',
    sliceK00_get _ ht' hj]

open Finset in
/-- **truncation_error** (array level, per kept sector).  `u, s, vh = svd(x)`, truncated with
    `counts`; `(sec, b)` a stored block of `x` with count `c ≠ 0`, `c ≤ min m n`, whose kernel
    factors are orthonormal.  With `P` the blockwise product of the truncated factors (`s`
    absorbed to the left; by `absorb_products_agree_truncated` any option gives the same values):
    the squared norm of `x − P` on that sector is the discarded squared weight of that sector. -/
theorem truncation_error [CommRing R] (conj : R →+* R) (K : Kernels R) (hK : K.ShapeOk)
    (hC : K.SVDContract) (x : Arr R) (hv : x.validB = true) (h2 : x.ndim = 2)
    (u : Arr R) (s : BVec R) (vh : Arr R) (hsvd : svdA K x = .ok (u, s, vh))
    (counts : List Nat) (hlen : counts.length = x.blocks.length)
    (sec : Sector) (b : Blk R) (c : Nat) (hmem : ((sec, b), c) ∈ x.blocks.zip counts)
    (hc0 : c ≠ 0) (m n : Nat) (hs : b.shape = [m, n]) (hO : K.OrthoBlock conj b)
    (hc : c ≤ min m n) :
    let u' := (applyCounts u s vh counts).1
    let s' := (applyCounts u s vh counts).2.1
    let vh' := (applyCounts u s vh counts).2.2
    let P := tensordotBlockwise (absorbA .left id u' s' vh').1 (absorbA .left id u' s' vh').2
      [0] [1] [0] [1]
    ∑ i ∈ range m, ∑ j ∈ range n,
        conj (x.elem sec [i, j] - P.elem sec [i, j]) * (x.elem sec [i, j] - P.elem sec [i, j])
      = ∑ t ∈ Ico c (min m n), conj ((K.svd b).2.1.get [t]) * (K.svd b).2.1.get [t] := by
  obtain ⟨rfl, rfl, rfl⟩ := svd_factors_eq hv h2 hsvd
  rw [applyCounts_eq (S := fun b => (K.svd b).2.1) hv h2 hlen]
  have hk : ((sec, b), c) ∈ kept x counts :=
    List.mem_filter.mpr ⟨hmem, by simpa using hc0⟩
  exact truncation_error_kept conj hK hC hv h2 hlen hk hs hO hc

/-! ## examples: every hypothesis is satisfiable, and the statements compute on concrete data -/

open scoped SymmModel.Lazy   -- `Conj Int` (trivial conjugation)

/-- abelian charge-zero matrix, opposite directions, equal chargemaps, diagonal blocks -/
def exEa : Arr Int :=
  { sym := .U1, fermi := false, charge := (0, 0),
    indices := [Index.mk [((0, 0), 2), ((1, 0), 1)] false none,
                Index.mk [((0, 0), 2), ((1, 0), 1)] true none],
    blocks := [([(0, 0), (0, 0)], ⟨[2, 2], #[2, 0, 0, 3]⟩), ([(1, 0), (1, 0)], ⟨[1, 1], #[5]⟩)] }

theorem isDiag_22 (x y : Int) : IsDiag ⟨[2, 2], #[x, 0, 0, y]⟩ := by
  intro m hs i j hi hj hne
  have hm : m = 2 := by
    have := congrArg List.length hs
    have h0 : ([2, 2] : List Nat) = [m, m] := hs
    exact (List.cons.inj h0).1.symm
  subst hm
  have : (i = 0 ∧ j = 1) ∨ (i = 1 ∧ j = 0) := by omega
  rcases this with ⟨rfl, rfl⟩ | ⟨rfl, rfl⟩ <;> rfl

theorem isDiag_11 (x : Int) : IsDiag ⟨[1, 1], #[x]⟩ := by
  intro m hs i j hi hj hne
  have h0 : ([1, 1] : List Nat) = [m, m] := hs
  have hm : m = 1 := (List.cons.inj h0).1.symm
  subst hm
  omega

/-- hypotheses of `eigh_reconstructs` for `exEa` and the diagonal kernel -/
example : Kernels.eighDiag.ShapeOk ∧ exEa.validB = true ∧ exEa.ndim = 2
    ∧ exEa.charge = exEa.sym.zero
    ∧ (exEa.indices.getD 1 default).dual = !(exEa.indices.getD 0 default).dual
    ∧ (exEa.indices.getD 0 default).cm = (exEa.indices.getD 1 default).cm ∧ exEa.fermi = false
    ∧ (∀ p ∈ exEa.blocks, Kernels.eighDiag.EighBlock p.2) := by
  refine ⟨eighDiag_shapeOk, by decide, rfl, by decide, by decide, by decide, rfl, ?_⟩
  intro p hp
  simp only [exEa, List.mem_cons, List.not_mem_nil, or_false] at hp
  rcases hp with rfl | rfl
  · exact eighDiag_block _ (isDiag_22 2 3)
  · exact eighDiag_block _ (isDiag_11 5)

/-- … and the reconstruction computed -/
example : ((eighA Kernels.eighDiag exEa).toOption.map (fun p =>
      (tensordotBlockwise (multiplyDiagonal p.2 p.1 1) p.2.adjA [0] [1] [0] [1]).blocks.map
        (fun q => (q.1, q.2.shape, q.2.data.toList)))
    == some [([(0, 0), (0, 0)], [2, 2], [2, 0, 0, 3]), ([(1, 0), (1, 0)], [1, 1], [5])]) = true := by
  decide +kernel

/-- fermionic version: row index dual, column index NOT dual (so `eigh_fermionic` negates the
    eigenvalues of the odd charge 1 and `__matmul__` flips `ev†`), a pending sign on the odd block -/
def exEf : Arr Int :=
  { sym := .U1, fermi := true, charge := (0, 0),
    indices := [Index.mk [((0, 0), 2), ((1, 0), 1)] true none,
                Index.mk [((0, 0), 2), ((1, 0), 1)] false none],
    blocks := [([(0, 0), (0, 0)], ⟨[2, 2], #[2, 0, 0, 3]⟩), ([(1, 0), (1, 0)], ⟨[1, 1], #[5]⟩)],
    phases := [([(1, 0), (1, 0)], -1)] }

example : exEf.validB = true ∧ exEf.ndim = 2 ∧ exEf.charge = exEf.sym.zero
    ∧ (exEf.indices.getD 1 default).dual = !(exEf.indices.getD 0 default).dual
    ∧ (exEf.indices.getD 0 default).cm = (exEf.indices.getD 1 default).cm ∧ exEf.fermi = true
    ∧ exEf.oddpos = []
    ∧ (∀ p ∈ exEf.phaseSync.blocks, Kernels.eighDiag.EighBlock p.2) := by
  refine ⟨by decide, rfl, by decide, by decide, by decide, rfl, rfl, ?_⟩
  intro p hp
  obtain ⟨b0, hb0, hor⟩ := phaseSync_mem (s := p.1) (b' := p.2) hp
  have hd : IsDiag b0 := by
    simp only [exEf, List.mem_cons, List.not_mem_nil, or_false, Prod.mk.injEq] at hb0
    rcases hb0 with ⟨_, rfl⟩ | ⟨_, rfl⟩
    · exact isDiag_22 2 3
    · exact isDiag_11 5
  rcases hor with h | h
  · rw [h]; exact eighDiag_block _ hd
  · rw [h]; exact eighDiag_block _ (isDiag_negK hd)

/-- the eigenvalue of the odd sector is stored negated (`-(-5) = 5`), the product has no pending
    signs and carries the value view of `exEf` (`-5` on the odd sector) -/
example : ((eighA Kernels.eighDiag exEf).toOption.bind (fun p =>
      (Arr.matmulF (multiplyDiagonal p.2 p.1 1) p.2.daggerF).toOption.map (fun y =>
        (p.1.blocks.map (fun q => (q.1, q.2.data.toList)),
         y.blocks.map (fun q => (q.1, q.2.data.toList)), y.phases, y.oddpos)))
    == some ([((0, 0), [2, 3]), ((1, 0), [5])],
        [([(0, 0), (0, 0)], [2, 0, 0, 3]), ([(1, 0), (1, 0)], [-5])], [], [])) = true := by
  decide +kernel

/-- even fermionic matrix with identity blocks; its column index is not dual, so the solution's
    index is dual and `solve_fermionic` flips it -/
def exSa : Arr Int :=
  { sym := .U1, fermi := true, charge := (0, 0),
    indices := [Index.mk [((0, 0), 1), ((1, 0), 2)] true none,
                Index.mk [((0, 0), 1), ((1, 0), 2)] false none],
    blocks := [([(0, 0), (0, 0)], eyeI 1), ([(1, 0), (1, 0)], eyeI 2)] }

/-- odd right-hand side with a label and a pending sign -/
def exSb : Arr Int :=
  { sym := .U1, fermi := true, charge := (-1, 0),
    indices := [Index.mk [((0, 0), 1), ((1, 0), 2)] true none],
    blocks := [([(1, 0)], ⟨[2], #[5, 6]⟩)],
    phases := [([(1, 0)], -1)], oddpos := [(7, false)] }

example : Kernels.solveCopy.ShapeOk ∧ exSa.validB = true ∧ exSb.validB = true
    ∧ exSa.fermi = true ∧ exSb.fermi = true ∧ exSa.parity = false ∧ exSa.oddpos = []
    ∧ exSb.oddpos.length ≤ 1 ∧ Kernels.solveCopy.SolvesOn exSa.phaseSync exSb.phaseSync
    ∧ (solveA Kernels.solveCopy exSa exSb).toOption.isSome = true := by
  refine ⟨solveCopy_shapeOk, by decide +kernel, by decide +kernel, rfl, rfl, by decide, rfl,
    by decide, ?_, by decide +kernel⟩
  apply solveCopy_solvesOn
  intro s arr hm
  rw [phaseSync_blocks_nil _ rfl] at hm
  simp only [exSa, List.mem_cons, List.not_mem_nil, or_false, Prod.mk.injEq] at hm
  rcases hm with ⟨_, rfl⟩ | ⟨_, rfl⟩
  · exact ⟨1, rfl⟩
  · exact ⟨2, rfl⟩

/-- `a @ solve(a, b)`: `b`'s values with its pending sign, `b`'s label, no pending sign -/
example : ((solveA Kernels.solveCopy exSa exSb).toOption.bind (fun x =>
      (Arr.matmulF exSa x).toOption.map (fun y =>
        ((x.indices.getD 0 default).dual, x.phases,
         y.blocks.map (fun q => (q.1, q.2.data.toList)), y.phases, y.oddpos)))
    == some (true, [([(1, 0)], -1)], [([(1, 0)], [-5, -6])], [], [(7, false)])) = true := by
  decide +kernel

/-- ALL hypotheses of the abelian `solve_solves` (Props/C11.lean) hold together, including
    `ShapeOk` (which the example next to that theorem does not list: its kernel `solveIdK` returns
    the right-hand side whatever its shape) -/
example : Kernels.solveCopy.ShapeOk
    ∧ ({ exSa with fermi := false } : Arr Int).validB = true
    ∧ ({ exSb with fermi := false, phases := [], oddpos := [] } : Arr Int).phases = []
    ∧ Kernels.solveCopy.SolvesOn ({ exSa with fermi := false } : Arr Int)
        ({ exSb with fermi := false, phases := [], oddpos := [] } : Arr Int)
    ∧ (solveA Kernels.solveCopy ({ exSa with fermi := false } : Arr Int)
        ({ exSb with fermi := false, phases := [], oddpos := [] } : Arr Int)).toOption.isSome = true := by
  refine ⟨solveCopy_shapeOk, by decide +kernel, rfl, ?_, by decide +kernel⟩
  apply solveCopy_solvesOn
  intro s arr hm
  simp only [exSa, List.mem_cons, List.not_mem_nil, or_false, Prod.mk.injEq] at hm
  rcases hm with ⟨_, rfl⟩ | ⟨_, rfl⟩
  · exact ⟨1, rfl⟩
  · exact ⟨2, rfl⟩

/-- absorb: with `Kernels.trivialFactor` all singular values are 1, and `sqrt = id` works -/
example (u : Arr Int) (s : BVec Int) (vh : Arr Int)
    (h : svdA Kernels.trivialFactor exM = .ok (u, s, vh)) : SqrtOn id s := by
  have hv : exM.validB = true := by decide
  have h2 : exM.ndim = 2 := rfl
  have h' := Except.ok.inj ((svdA_eq Kernels.trivialFactor hv h2).symm.trans h)
  have hs := (Prod.mk.inj (Prod.mk.inj h').2).1
  subst hs
  intro q hq
  obtain ⟨p, hp, rfl⟩ := List.mem_map.mp hq
  obtain ⟨i0, i1, hi⟩ := ndim_two h2
  obtain ⟨r, c, m, n, B⟩ := mat_block hv hi (s := p.1) (b := p.2) hp
  refine ⟨rfl, ?_⟩
  intro t ht
  simp only [id, trivialFactor_s p.2 B.hshape] at ht ⊢
  have ht' : t < min m n := ht
  rw [onesI_get ht']; rfl

/-- the three options give the same product on `exM` -/
example : ((svdA Kernels.trivialFactor exM).toOption.map (fun p =>
      ([Absorb.left, Absorb.right, Absorb.both].map (fun mode =>
        (tensordotBlockwise (absorbA mode id p.1 p.2.1 p.2.2).1 (absorbA mode id p.1 p.2.1 p.2.2).2
          [0] [1] [0] [1]).blocks.map (fun q => (q.1, q.2.data.toList)))))
    == some (List.replicate 3
        [([(0, 0), (-1, 0)], [1, 2]), ([(1, 0), (0, 0)], [3, 4, 5])])) = true := by
  decide +kernel

/-- truncation error: a block with orthonormal rows, `b = I · diag(1, 1) · b` -/
def bSwap : Blk Int := ⟨[2, 2], #[0, 1, 1, 0]⟩

example : Kernels.trivialFactor.SVDContract
    ∧ Kernels.trivialFactor.OrthoBlock (RingHom.id Int) bSwap := by
  refine ⟨trivialFactor_svd, ?_⟩
  intro m n hs t t' ht ht'
  have h0 : ([2, 2] : List Nat) = [m, n] := hs
  have hm : m = 2 := (List.cons.inj h0).1.symm
  have hn : n = 2 := (List.cons.inj (List.cons.inj h0).2).1.symm
  subst hm hn
  have h1 : t = 0 ∨ t = 1 := by omega
  have h2 : t' = 0 ∨ t' = 1 := by omega
  rcases h1 with rfl | rfl <;> rcases h2 with rfl | rfl <;> decide

/-- keeping one of the two unit singular values of `bSwap` leaves squared error 1 -/
example : (Finset.range 2).sum (fun i => (Finset.range 2).sum (fun j =>
      (bSwap.get [i, j] - ((((Kernels.trivialFactor.svd bSwap).1.sliceK [0, 0] [2, 1]).mulAxisK
          ((Kernels.trivialFactor.svd bSwap).2.1.sliceK [0] [1]) 1).tensordotK
          ((Kernels.trivialFactor.svd bSwap).2.2.sliceK [0, 0] [1, 2]) [1] [0]).get [i, j]) ^ 2)) = 1 := by
  decide +kernel

end SymmModel.C11
