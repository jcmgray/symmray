/-
  Property C04 (route independence, clauses S4–S6) — "A fermionic network's value does not depend
  on how it is contracted", for the MODEL's `Arr.tensordotF` (Model/Fermi.lean) in
  `mode = blockwise`, on valid fermionic operands of any rank, symmetry, sparsity, charge parity,
  pending signs, over any scalar type with the laws `GradedP.SignRing` and commutative addition
  (S5 also: commutative multiplication).  Built on `C03.tensordotF_refines_graded`
  (through `AssocP.coreT_frame_w`), `C04.koszul_cocycle`, `C04.block_move_sign`,
  `OddposP.mergeOddpos_spec`.

  Vocabulary (Proofs/Routes.lean, Routes2.lean, Routes3.lean; namespace `SymmModel.RoutesP`):
    `Adm a b xa xb`        the hypotheses of a call: both operands `validB` and fermionic, same
                           symmetry, `contractibleB`, distinct in-range axes (`Adm.of` from
                           `ValidP.tdotAdmissibleB`)
    `PreT n p xa xa' q`    the geometry of a pre-transposition by `p`: `xa'` = positions of the
                           contracted axes `xa` in the transposed array (`permuted p xa' = xa`),
                           `q` = induced permutation of the free axes
                           (`permuted (freeAxes n xa) q = permuted p (freeAxes n xa')`);
                           `PreT.canonical` constructs `xa'`, `q` from `p`, `xa` (`positions`)
    `sgnI σ x`             `σ · x` for a sign kept as an integer.
  Addresses are `(sector, offsets)` in the value view `Arr.elem` (stored number × pending sign).

  S4 (`tdotF_axes_perm`) is an EQUALITY of the two results (same `Except` value).  S5 (`tdotF_swap`)
  and S6 (`tdotF_pretranspose`) are stated address by address and not as
  `ObsEq (…) (transposeF c _)`: `ObsEq` compares block dictionaries as LISTS, and the swapped call
  visits the blocks in another order (`swap_block_order_differs` below), so `ObsEq` is false for S5
  as it stands.
  S7 (associativity of three operands) is in Props/C04c–C04e.  Here towards it:
  `assoc_sign_identity` (the sign part for the middle operand); `C04.oddpos_assoc` (labels) is in
  Props/C04.  The intermediate result's index tables are pruned (`dropUnused`), so `(A·B)·C` is not
  `contractibleB` in general: C04c generalises the refinement theorem to tables that agree on the
  charges present (`contractibleCommonB`).
-/
import SymmModel.Proofs.Routes4
import SymmModel.Props.C03b

namespace SymmModel.C04
open SymmModel SymmModel.GradedP SymmModel.TdotP SymmModel.RoutesP
open SymmModel.Lazy (sgnI)

variable {R : Type}

theorem adm_of_admissible {a b : Arr R} {xa xb : List Nat} (ha : a.validB = true)
    (hb : b.validB = true) (hfa : a.fermi = true) (hfb : b.fermi = true)
    (hadm : ValidP.tdotAdmissibleB a b xa xb = true) : Adm a b xa xb :=
  Adm.of ha hb hfa hfb hadm

/-- success of a call does not depend on the route: blockwise `tensordot_fermionic` is the label
    sort followed by attaching labels and label sign to the core contraction -/
theorem tensordotF_structure [AddMonoid R] [Mul R] [Neg R] [SignRing R] (a b : Arr R)
    (xa xb : List Nat) (h : Adm a b xa xb) :
    a.tensordotF b (.pair (xa.map Int.ofNat) (xb.map Int.ofNat)) .blockwise
      = (OddposP.mergeOddpos a.parity a.oddpos b.oddpos).map (finish (coreT a b xa xb)) :=
  AssocP.tensordotF_eq_core_w a b xa xb (.ofAdm h)

/-- **S4 tdotF_axes_perm.**  Listing the contracted axis pairs in another order (`π` a permutation
    of the positions of the pair list) returns the IDENTICAL result: the same blocks in the same
    order, index tables, charge, labels and pending signs (matched axes carry equal parities, so
    the two operand transposes change sign by the same factor; the reversal sign and the ket-bra
    sign are invariant; the contracted box is re-enumerated). -/
theorem tdotF_axes_perm [AddCommMonoid R] [Mul R] [Neg R] [SignRing R] (a b : Arr R)
    (xa xb π : List Nat) (h : Adm a b xa xb) (hπ : π.Perm (List.range xa.length)) :
    a.tensordotF b (.pair ((permuted xa π).map Int.ofNat) ((permuted xb π).map Int.ofNat)) .blockwise
      = a.tensordotF b (.pair (xa.map Int.ofNat) (xb.map Int.ofNat)) .blockwise :=
  AssocP.tdotF_axes_perm_eq_w a b xa xb π (.ofAdm h) hπ

/-- S4 at the level of the specification -/
theorem gradedContract_axes_perm [AddCommMonoid R] [Mul R] [Neg R] [SignRing R] (a b : Arr R)
    (xa xb π : List Nat) (h : Adm a b xa xb) (hπ : π.Perm (List.range xa.length)) (s : Sector)
    (oL oR : List Nat) :
    gradedContract a b (permuted xa π) (permuted xb π) s oL oR = gradedContract a b xa xb s oL oR :=
  gradedContract_relist a b xa xb π h.sym (Arr.shapesOk_of_validB h.va) (Arr.shapesOk_of_validB h.vb)
    h.nA h.ltA h.nB h.ltB h.len hπ s oL oR

theorem preT_canonical (n : Nat) (p xa : List Nat) (hp : p.Perm (List.range n)) (hn : xa.Nodup)
    (hlt : ∀ i ∈ xa, i < n) :
    PreT n p xa (positions p xa)
      (positions (freeAxes n xa) (permuted p (freeAxes n (positions p xa)))) :=
  PreT.canonical hp hn hlt

/-- **S6 tdotF_pretranspose.**  Transposing the left operand by `p` first and renumbering the
    contracted axes (`xa'`: `permuted p xa' = xa`) succeeds when the original call does, and gives
    a result with the same labels, charge, symmetry and kind whose value at the address with the
    left free part re-listed along the induced permutation `q` is the original value times the
    Koszul sign of `q` on the parities of the left free charges — the value of
    `transposeF c (q ++ id)` at that address (from the cocycle law). -/
theorem tdotF_pretranspose [AddMonoid R] [Mul R] [Neg R] [SignRing R] (a b c : Arr R)
    (p xa xa' q xb : List Nat) (h : Adm a b xa xb) (hp : Arr.isPerm p a.ndim = true)
    (hT : PreT a.ndim p xa xa' q)
    (hc : a.tensordotF b (.pair (xa.map Int.ofNat) (xb.map Int.ofNat)) .blockwise = .ok c) :
    ∃ c', (a.transposeF p).tensordotF b (.pair (xa'.map Int.ofNat) (xb.map Int.ofNat)) .blockwise = .ok c'
      ∧ c'.oddpos = c.oddpos ∧ c'.charge = c.charge ∧ c'.sym = c.sym ∧ c'.fermi = c.fermi
      ∧ ∀ (L Rr : Sector) (oL oR : List Nat), L.length = (freeAxes a.ndim xa).length →
          oL.length = (freeAxes a.ndim xa).length →
          inBox (Arr.blockShapeD (without a.indices xa ++ without b.indices xb) (L ++ Rr))
            (oL ++ oR) = true →
          c'.elem (permuted L q ++ Rr) (permuted oL q ++ oR)
            = sgnI (koszul (L.map a.sym.parity) (some q)) (c.elem (L ++ Rr) (oL ++ oR)) :=
  Assoc5P.tdotF_pretranspose_w a b c p xa xa' q xb (.ofAdm h) hp hT hc

/-- the sign in S6 is the Koszul sign of the result transposition `q ++ id` -/
theorem pretranspose_sign_is_transpose_sign (sym : Sym) (L Rr : Sector) (q : List Nat)
    (hq : q.Perm (List.range L.length)) :
    koszul ((L ++ Rr).map sym.parity) (some (q ++ (List.range Rr.length).map (L.length + ·)))
      = koszul (L.map sym.parity) (some q) := by
  have := koszul_id_block_right (L.map sym.parity) (Rr.map sym.parity) q (by rw [List.length_map]; exact hq)
  rw [List.length_map, List.length_map, ← List.map_append] at this
  exact this

/-- **S5 tdotF_swap.**  Passing the operands in the other order (pairwise-distinct labels,
    commutative scalars) succeeds when the original call does, and gives a result with the same
    merged labels, charge, symmetry and kind whose value at the address with the two free parts
    exchanged is the original value times the Koszul sign of the rotation
    `rot = [|L|, …, |L|+|Rr|-1, 0, …, |L|-1]` on the result sector's parities, i.e. `(-1)^(#odd L ·
    #odd Rr)` — the value of `transposeF c rot` at that address.  (Uses `block_move_sign` for
    both operand transposes, the parity of a stored sector = parity of the charge, and the label
    bookkeeping `|labels| ≡ parity`.) -/
theorem tdotF_swap [AddCommMonoid R] [Mul R] [Neg R] [SignRing R] (a b c : Arr R) (xa xb : List Nat)
    (hmul : ∀ x y : R, x * y = y * x) (h : Adm a b xa xb)
    (hd : (a.oddpos ++ b.oddpos).Pairwise (fun x y => x.1 ≠ y.1))
    (hc : a.tensordotF b (.pair (xa.map Int.ofNat) (xb.map Int.ofNat)) .blockwise = .ok c) :
    ∃ c', b.tensordotF a (.pair (xb.map Int.ofNat) (xa.map Int.ofNat)) .blockwise = .ok c'
      ∧ c'.oddpos = c.oddpos ∧ c'.charge = c.charge ∧ c'.sym = c.sym ∧ c'.fermi = c.fermi
      ∧ ∀ (L Rr : Sector) (oL oR : List Nat), L.length = (freeAxes a.ndim xa).length →
          Rr.length = (freeAxes b.ndim xb).length → oL.length = (freeAxes a.ndim xa).length →
          oR.length = (freeAxes b.ndim xb).length →
          inBox (Arr.blockShapeD (without a.indices xa ++ without b.indices xb) (L ++ Rr))
            (oL ++ oR) = true →
          c'.elem (Rr ++ L) (oR ++ oL)
            = sgnI (koszul ((L ++ Rr).map a.sym.parity)
                (some ((List.range Rr.length).map (L.length + ·) ++ List.range L.length)))
                (c.elem (L ++ Rr) (oL ++ oR)) :=
  RoutesP.tdotF_swap a b c xa xb hmul h hd hc

theorem swap_sign_value (sym : Sym) (L Rr : Sector) :
    koszul ((L ++ Rr).map sym.parity)
        (some ((List.range Rr.length).map (L.length + ·) ++ List.range L.length))
      = (-1 : Int) ^ ((L.filter sym.parity).length * (Rr.filter sym.parity).length) := by
  have := koszul_rot (L.map sym.parity) (Rr.map sym.parity)
  rw [List.length_map, List.length_map, oddIn_eq_filter, oddIn_eq_filter, ← List.map_append,
    KoszulP.sgn_eq_pow] at this
  exact this

/-- S5 at the level of the specification and of the labels -/
theorem gradedContract_swap [AddCommMonoid R] [Mul R] [Neg R] [SignRing R] (a b : Arr R)
    (xa xb : List Nat) (hmul : ∀ x y : R, x * y = y * x) (h : Adm a b xa xb) (L Rr : Sector)
    (hL : L.length = (freeAxes a.ndim xa).length) (oL oR : List Nat) :
    gradedContract b a xb xa (Rr ++ L) oR oL
      = sgnI ((-1 : Int) ^ (a.parity.toNat * b.parity.toNat
            + (L.filter a.sym.parity).length * (Rr.filter a.sym.parity).length))
          (gradedContract a b xa xb (L ++ Rr) oL oR) := by
  rw [← KoszulP.sgn_eq_pow]
  exact Assoc4P.gradedContract_swap_w a b xa xb hmul (.ofAdm h) L Rr hL oL oR

theorem mergeOddpos_swap (pa pb : Bool) (la lb : List (Int × Bool))
    (hd : (la ++ lb).Pairwise (fun x y => x.1 ≠ y.1)) :
    ∃ out sab sba, OddposP.mergeOddpos pa la lb = .ok (out, sab)
      ∧ OddposP.mergeOddpos pb lb la = .ok (out, sba)
      ∧ sba = sab * (-1 : Int) ^ (pa.toNat * lb.length + pb.toNat * la.length + la.length * lb.length) := by
  obtain ⟨out, sab, sba, h1, h2, h3⟩ := RoutesP.mergeOddpos_swap pa pb la lb hd
  exact ⟨out, sab, sba, h1, h2, by rw [h3, KoszulP.sgn_eq_pow]⟩

/-- **assoc_sign_identity** — the sign part of S7 for the middle operand `B` of a chain `A–B–C`:
    `par` the parities of a sector of `B` (`m` legs), `xb1` its legs bonded to `A`, `xb2` those
    bonded to `C`.  Route `(A·B)·C` first brings `B` to `(xb1, rest)` order, then re-lists the rest
    inside the intermediate result so that `xb2` comes last (`ρ₁`); route `A·(B·C)` first brings
    `B` to `(rest, xb2)` order, then re-lists the rest so that `xb1` comes first (`ρ₂`).  The two
    products of Koszul signs agree: both are the sign of bringing `B` to `(xb1, M, xb2)` order.
    (The signs of `A` and `C`, the reversal signs and the ket-bra signs are literally the same
    factors on the two routes; the labels agree by `oddpos_assoc`.) -/
theorem assoc_sign_identity (par : List Bool) (m : Nat) (hpar : par.length = m) (xb1 xb2 : List Nat)
    (hn : (xb1 ++ xb2).Nodup) (hlt : ∀ i ∈ xb1 ++ xb2, i < m) :
    koszul par (some (xb1 ++ freeAxes m xb1))
        * koszul (permuted par (freeAxes m xb1))
            (some (positions (freeAxes m xb1) (freeAxes m (xb1 ++ xb2) ++ xb2)))
      = koszul par (some (freeAxes m xb2 ++ xb2))
        * koszul (permuted par (freeAxes m xb2))
            (some (positions (freeAxes m xb2) (xb1 ++ freeAxes m (xb1 ++ xb2)))) := by
  obtain ⟨h1, h2⟩ := RoutesP.assoc_sign_identity par m hpar xb1 xb2 hn hlt
  rw [h1, h2]

example : ([3, 0] ++ [1] : List Nat).Nodup ∧ (∀ i ∈ ([3, 0] ++ [1] : List Nat), i < 5) := by decide
example : koszul [true, true, false, true, true] (some ([3, 0] ++ freeAxes 5 [3, 0])) = 1
    ∧ koszul (permuted [true, true, false, true, true] (freeAxes 5 [3, 0]))
        (some (positions (freeAxes 5 [3, 0]) (freeAxes 5 ([3, 0] ++ [1]) ++ [1]))) = -1
    ∧ koszul [true, true, false, true, true] (some (freeAxes 5 [1] ++ [1])) = 1
    ∧ koszul (permuted [true, true, false, true, true] (freeAxes 5 [1]))
        (some (positions (freeAxes 5 [1]) ([3, 0] ++ freeAxes 5 ([3, 0] ++ [1])))) = -1 := by decide

open SymmModel.C03 in
example : Adm gA gB [1, 2] [1, 0] ∧ Adm gA gB [1] [1] :=
  ⟨Adm.of (by decide +kernel) (by decide +kernel) rfl rfl (by decide +kernel),
   Adm.of (by decide +kernel) (by decide +kernel) rfl rfl (by decide +kernel)⟩

example : [1, 0].Perm (List.range [1, 2].length) := by decide

def blocksOf (r : Except Err (Arr Int)) : List (Sector × List Nat × List Int) :=
  match r with
  | .ok c => c.blocks.map (fun p => (p.1, p.2.shape, p.2.data.toList))
  | .error _ => []

def phasesOf (r : Except Err (Arr Int)) : List (Sector × Int) :=
  match r with
  | .ok c => c.phases
  | .error _ => []

def labelsOf (r : Except Err (Arr Int)) : List (Int × Bool) :=
  match r with
  | .ok c => c.oddpos
  | .error _ => []

def elemOf (r : Except Err (Arr Int)) (s : Sector) (o : List Nat) : Option Int :=
  match r with
  | .ok c => some (c.elem s o)
  | .error _ => none

def sectorsOf (r : Except Err (Arr Int)) : Option (List Sector) :=
  match r with
  | .ok c => some c.sectors
  | .error _ => none

open SymmModel.C03 in
/-- S4: the two listings `(k,l)·(k',l')` and `(l,k)·(l',k')` -/
example : permuted [1, 2] [1, 0] = [2, 1] ∧ permuted [1, 0] [1, 0] = [0, 1]
    ∧ blocksOf (gA.tensordotF gB (.pair [2, 1] [0, 1]) .blockwise)
      = blocksOf (gA.tensordotF gB (.pair [1, 2] [1, 0]) .blockwise)
    ∧ phasesOf (gA.tensordotF gB (.pair [2, 1] [0, 1]) .blockwise)
      = phasesOf (gA.tensordotF gB (.pair [1, 2] [1, 0]) .blockwise)
    ∧ labelsOf (gA.tensordotF gB (.pair [2, 1] [0, 1]) .blockwise) = [(1, false), (3, false)]
    ∧ (blocksOf (gA.tensordotF gB (.pair [1, 2] [1, 0]) .blockwise)).length = 2 := by decide +kernel

open SymmModel.C03 in
/-- S5: sector `(1,1)` picks up `(-1)^(1·1)`, sector `(0,0)` is transposed without sign; the
    blocks come in the other order, so the two results are not `ObsEq` up to `transposeF` -/
theorem swap_block_order_differs :
    sectorsOf (gB.tensordotF gA (.pair [1, 0] [1, 2]) .blockwise) = some [[(0,0),(0,0)], [(1,0),(1,0)]]
    ∧ sectorsOf (gA.tensordotF gB (.pair [1, 2] [1, 0]) .blockwise) = some [[(1,0),(1,0)], [(0,0),(0,0)]]
    ∧ elemOf (gA.tensordotF gB (.pair [1, 2] [1, 0]) .blockwise) [(1,0),(1,0)] [0,0] = some (-113)
    ∧ elemOf (gB.tensordotF gA (.pair [1, 0] [1, 2]) .blockwise) [(1,0),(1,0)] [0,0] = some 113
    ∧ elemOf (gA.tensordotF gB (.pair [1, 2] [1, 0]) .blockwise) [(0,0),(0,0)] [1,0] = some (-7)
    ∧ elemOf (gB.tensordotF gA (.pair [1, 0] [1, 2]) .blockwise) [(0,0),(0,0)] [0,1] = some (-7) := by
  decide +kernel

open SymmModel.C03 in
example : (gA.oddpos ++ gB.oddpos).Pairwise (fun x y => x.1 ≠ y.1) ∧ (∀ x y : Int, x * y = y * x) :=
  ⟨by decide, Int.mul_comm⟩

open SymmModel.C03 in
/-- S6 with a non-trivial induced permutation: `a` transposed by `[2,1,0]`, one contracted leg;
    `xa' = [1]`, `q = [1,0]`; the all-odd sector picks up `-1` -/
example : Arr.isPerm [2, 1, 0] gA.ndim = true
    ∧ positions [2, 1, 0] [1] = [1]
    ∧ positions (freeAxes 3 [1]) (permuted [2, 1, 0] (freeAxes 3 (positions [2, 1, 0] [1]))) = [1, 0]
    ∧ elemOf (gA.tensordotF gB (.pair [1] [1]) .blockwise) [(1,0),(1,0),(1,0),(1,0)] [0,1,1,0] = some 67
    ∧ elemOf ((gA.transposeF [2, 1, 0]).tensordotF gB (.pair [1] [1]) .blockwise)
        [(1,0),(1,0),(1,0),(1,0)] [1,0,1,0] = some (-67)
    ∧ elemOf (gA.tensordotF gB (.pair [1] [1]) .blockwise) [(1,0),(0,0),(1,0),(0,0)] [0,0,1,1] = some (-8)
    ∧ elemOf ((gA.transposeF [2, 1, 0]).tensordotF gB (.pair [1] [1]) .blockwise)
        [(0,0),(1,0),(1,0),(0,0)] [0,0,1,1] = some (-8) := by decide +kernel

end SymmModel.C04
