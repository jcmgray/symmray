/-
  Property C07, third part.

  (1) THE UNBOUNDED PLANNER THEOREM.  `calc_reshape_args` (model `calcReshapeArgs`,
      Model/ReshapePlan.lean) is verified for ALL shapes, targets and sub-sizes (any rank, any
      sizes), by induction along its four phases (Proofs/ReshapeRound, Reshape3a–g).  The loop invariant is
      a list of segments `Reshape3.Seg` ("o" axis kept, "u" axis unfused, "s" axis squeezed, "g"
      run of axes fused, "x" new size-one axis) from which the label list `term`, the dicts
      `unfuse_sizes` / `fuse_sizes`, the counters i, j, k and `axs_expand` are all read off
      (`Reshape3.MInv`); the unfuse phase replaces "u" by "o"s, the squeeze phase merges every "s"
      into a neighbouring group (`Reshape3.squeezePhase_eq`: it returns `Reshape3.absorbS`), the fuse
      phase multiplies the groups out (`Reshape3.fuseLoop_eq`: it returns the calls
      `Reshape3.callsOf`; `Reshape3.callsOf_exec`), the expand phase inserts the ones; put together,
      `Reshape3.planner_eq` is the planner in closed form given the segments of its first loop.
      `planner_wf_of_trailing`: if the planner returns a plan, the plan is certified (`Plan.wfB`, with
      resulting shape EXACTLY `newshape`) provided the dimensions the first loop leaves over on either
      side have size one; every branch of the planner is covered, including the unfuse
      ("fused-window matching") branch.  `planner_wf`, `planner_wf_unfused`: the same from hypotheses
      on the inputs only (positive sizes, equal products, `denseB`).
      The hypotheses are necessary — the code assumes but never checks that the left-over
      dimensions have size one:
        `planner_size_mismatch_counterexample`   (2,3) → (2,): plan fuses to (6,)   [prod differs]
        `planner_zero_size_counterexample`       (0,2,5) → (0,2): plan gives (0,10) [size zero]
        `planner_trailing_target_counterexample` (2,) → (2,3): plan gives (2,1)     [prod differs]
        `C07.reshape_self_id_fused_counterexample` (Props/C07.lean)                 [sparse fuse]
      How the two recorded findings of C07 are excluded:
        * reshape-empty-target: the planner raises, so the hypothesis `= .ok t` fails
          (`planner_empty_target_excluded`);
        * reshape-fused-window-match: a sparsely fused axis (size < product of its sub-sizes)
          violates `denseB`; for such inputs `planner_wf_of_trailing` still applies whenever the
          left-over dimensions have size one, and the finding's input (4,2) with sub-sizes (4,2)
          leaves the size-2 axis over (`window_match_excluded`).

  (2) CONTENT FOR FERMIONIC ARRAYS (Proofs/Reshape3h, Reshape3j).  `FermionicArray.fuse` /
      `.unfuse` and every certified plan executed by `reshape` keep the content UP TO SIGNS
      (`SameAbs`: every additive statistic of the stored entries that is even in the entry agrees;
      hence the squared norm and the multiset of magnitudes), the result is valid, has the
      requested number of axes and stays fermionic.  With (1) the certificate hypothesis of the
      array-level theorems disappears for arrays without sparsely fused axes.
      Not in this file: the element-exact statements.  One merged run, element by element with the
      explicit sign, and the exact round trip `reshape` ∘ `reshape` = id for one merged run are in
      Props/C07d.lean (from `C05.fuseF_elem` and `C05.unfuseF_fuseF`); the round trip on the value
      view for several groups and several fuse calls is in Props/C07e.lean.
-/
import SymmModel.Proofs.Reshape3j
import SymmModel.Props.C07b

namespace SymmModel.C07
open SymmModel SymmModel.Reshape SymmModel.Reshape3 ReshapeP

/-- **Unbounded planner theorem (general form).**  For every shape, target and sub-sizes: a plan
    returned by the planner is certified, provided the first loop leaves only size-one dimensions
    over (on both sides). -/
theorem planner_wf_of_trailing (shape newshape : List Nat) (subsizes : List (Option (List Nat)))
    (hlen : shape.length = subsizes.length)
    (t : List Nat × List (List (List Nat)) × List Nat)
    (h : calcReshapeArgs shape newshape subsizes = .ok t)
    (htrail : ∀ st, mainLoop shape newshape subsizes (shape.length + newshape.length) {} = .ok st →
      (∀ d ∈ shape.drop st.i, d = 1) ∧ (∀ d ∈ newshape.drop st.j, d = 1)) :
    (Plan.ofTriple t).wfB shape subsizes newshape = true :=
  Reshape3.planner_wf_of_trailing shape newshape subsizes hlen t h htrail

/-- **Unbounded planner theorem (input-level form).**  All sizes positive, equal dense sizes and no
    sparsely fused axis: whatever plan the planner returns is certified. -/
theorem planner_wf (shape newshape : List Nat) (subsizes : List (Option (List Nat)))
    (hlen : shape.length = subsizes.length) (hdense : denseB shape subsizes = true)
    (hpos : ∀ d ∈ shape, 0 < d) (hprod : prod shape = prod newshape)
    (t : List Nat × List (List (List Nat)) × List Nat)
    (h : calcReshapeArgs shape newshape subsizes = .ok t) :
    (Plan.ofTriple t).wfB shape subsizes newshape = true :=
  planner_wf_of_prod shape newshape subsizes hlen hdense hpos hprod t h

/-- … and what the certificate says: the plan executes symbolically and the shape it produces is
    exactly `newshape` -/
theorem planner_shape_exact (shape newshape : List Nat) (subsizes : List (Option (List Nat)))
    (hlen : shape.length = subsizes.length) (hdense : denseB shape subsizes = true)
    (hpos : ∀ d ∈ shape, 0 < d) (hprod : prod shape = prod newshape)
    (t : List Nat × List (List (List Nat)) × List Nat)
    (h : calcReshapeArgs shape newshape subsizes = .ok t) :
    ∃ r, (Plan.ofTriple t).exec (shape.zip subsizes) = some r ∧ r.length = newshape.length
      ∧ SymShape.sizes r = newshape :=
  (plan_certificate_sound (planner_wf shape newshape subsizes hlen hdense hpos hprod t h)).2

/-- no fused axes -/
theorem planner_wf_unfused (shape newshape : List Nat) (hpos : ∀ d ∈ shape, 0 < d)
    (hprod : prod shape = prod newshape) (t : List Nat × List (List (List Nat)) × List Nat)
    (h : calcReshapeArgs shape newshape (nones shape) = .ok t) :
    (Plan.ofTriple t).wfB shape (nones shape) newshape = true :=
  planner_wf shape newshape (nones shape) (nones_length shape).symm (denseB_nones shape) hpos hprod t h

-- squeeze on the left and in the middle, a fuse, two expansions
example : calcReshapeArgs [1, 2, 1, 3, 4] [6, 1, 4, 1] (nones [1, 2, 1, 3, 4])
    = .ok ([], [[[0, 1, 2, 3]]], [2, 1]) := by decide
example := planner_wf_unfused [1, 2, 1, 3, 4] [6, 1, 4, 1] (by decide) (by decide) _ rfl
-- an unfuse (the window-matching branch) followed by a fuse, rank and sizes outside the domain of `planner_finite_ok`
example : calcReshapeArgs [35, 7, 11] [5, 7, 77] [some [5, 7], none, none] = .ok ([0], [[[2, 3]]], []) := by
  decide
example := planner_wf [35, 7, 11] [5, 7, 77] [some [5, 7], none, none] rfl (by decide) (by decide)
  (by decide) _ rfl
example := planner_shape_exact [35, 7, 11] [5, 7, 77] [some [5, 7], none, none] rfl (by decide)
  (by decide) (by decide) _ rfl

/-- The sizes are never compared: the dimensions left over after the first
    loop are labelled "s" / expanded without a check.  `(2,3).reshape((2,))` is planned as
    `fuse((0,1))`, i.e. returns a one-axis array of size 6 instead of raising. -/
theorem planner_size_mismatch_counterexample :
    calcReshapeArgs [2, 3] [2] (nones [2, 3]) = .ok ([], [[[0, 1]]], [])
    ∧ (Plan.mk [] [[[0, 1]]] []).wfB [2, 3] (nones [2, 3]) [2] = false
    ∧ (Plan.mk [] [[[0, 1]]] []).exec ([2, 3].zip (nones [2, 3])) = some [(6, some [2, 3])] := by
  decide

/-- equal dense sizes are not enough when a size is zero -/
theorem planner_zero_size_counterexample :
    prod [0, 2, 5] = prod [0, 2]
    ∧ calcReshapeArgs [0, 2, 5] [0, 2] (nones [0, 2, 5]) = .ok ([], [[[1, 2]]], [])
    ∧ (Plan.mk [] [[[1, 2]]] []).wfB [0, 2, 5] (nones [0, 2, 5]) [0, 2] = false := by
  decide

/-- left-over target dimensions are expanded as if they were ones -/
theorem planner_trailing_target_counterexample :
    calcReshapeArgs [2] [2, 3] (nones [2]) = .ok ([], [], [1])
    ∧ (Plan.mk [] [] [1]).wfB [2] (nones [2]) [2, 3] = false := by
  decide

/-- known finding reshape-empty-target: the hypotheses on the sizes hold, the planner raises, so
    `planner_wf` says nothing about these inputs -/
theorem planner_empty_target_excluded (m : Nat) :
    prod (List.replicate (m + 1) 1) = prod []
    ∧ (∀ t, calcReshapeArgs (List.replicate (m + 1) 1) [] (nones (List.replicate (m + 1) 1)) ≠ .ok t) := by
  refine ⟨?_, fun t h => ?_⟩
  · induction m with
    | zero => rfl
    | succ m ih => rw [List.replicate_succ]; simp only [prod] at ih ⊢; omega
  · rw [planner_empty_target_raises m] at h; cases h

/-- known finding reshape-fused-window-match: its input has a sparsely fused axis (`denseB` fails)
    and the first loop leaves the size-2 axis over (the hypothesis of the general form fails) -/
theorem window_match_excluded :
    denseB [4, 2] [some [4, 2], none] = false
    ∧ ∃ st, mainLoop [4, 2] [4, 2] [some [4, 2], none] 4 {} = .ok st ∧ [4, 2].drop st.i = [2] := by
  refine ⟨by decide, _, rfl, by decide⟩

variable {R : Type}

/-- `SameAbs` ⇒ the same squared norm, for every even `nsq` with `nsq 0 = 0` -/
theorem sameAbs_normSq2 [Zero R] [Neg R] {a b : Arr R} (h : SameAbs a b) {S : Type} [AddCommMonoid S]
    (nsq : R → S) (h0 : nsq 0 = 0) (he : ∀ x, nsq (-x) = nsq x) :
    C12.normSq2 nsq a = C12.normSq2 nsq b := by
  rw [normSq2_eq_entrySum, normSq2_eq_entrySum]; exact h S nsq h0 he

/-- `SameAbs` ⇒ the same multiset of non-zero magnitudes, for every magnitude function `m` -/
theorem sameAbs_perm_magnitudes [Zero R] [Neg R] {S : Type} [Zero S] [DecidableEq S] (m : R → S)
    (h0 : m 0 = 0) (he : ∀ x, m (-x) = m x) {a b : Arr R} (h : SameAbs a b) :
    (magEntries m a).Perm (magEntries m b) := by
  rw [List.perm_iff_count]
  intro v
  -- the multiplicity of `v` is the statistic `Σ [m entry = v ≠ 0]`, which is even and vanishes at 0
  have key : ∀ x : Arr R, (magEntries m x).count v
      = entrySum (M := Nat) (fun r => if m r ≠ 0 ∧ m r = v then 1 else 0) x := by
    intro x
    simp only [magEntries, List.count_flatMap, entrySum, blkSum, Function.comp_def,
      count_filter_eq_sum, List.map_map]
  rw [key, key]
  exact h Nat _ (by simp [h0]) (by intro x; simp [he])

/-- **`FermionicArray.fuse`** (insert strategy, any admissible groups) keeps the content up to signs -/
theorem fuseF_content [Zero R] [Neg R] (a x : Arr R) (groups : List (List Nat)) (e : Bool)
    (hv : a.validB = true) (hf : a.fermi = true) (hg : C05.groupsOkB groups a.ndim = true)
    (h : Arr.fuseF a groups .insert e = .ok x) : SameAbs a x :=
  fuseF_sameAbs a x groups e hv hf hg h

/-- **`FermionicArray.unfuse`** keeps the content up to signs -/
theorem unfuseF_content [Zero R] [Neg R] (a y : Arr R) (axis : Nat) (hv : a.validB = true)
    (h : Arr.unfuseF a axis = .ok y) : SameAbs a y :=
  unfuseF_sameAbs a y axis hv h

/-- **applyPlan_contentF.**  Executing a certified plan on ANY valid array — abelian or fermionic,
    with Python's method dispatch — keeps the content up to signs, returns a valid array of the
    same kind with `ns.length` axes. -/
theorem applyPlan_contentF [Zero R] [Neg R] (a r : Arr R)
    (t : List Nat × List (List (List Nat)) × List Nat) (ns : List Nat) (hv : a.validB = true)
    (hwf : (Plan.ofTriple t).wfB a.shape a.subsizes ns = true) (h : applyPlan a t = .ok r) :
    SameAbs a r ∧ r.validB = true ∧ r.ndim = ns.length ∧ r.fermi = a.fermi :=
  applyPlan_abs a r t ns hv hwf h

/-- **reshape_contentF.**  `reshape(newshape)` of a valid array without sparsely fused or empty
    axes whose dense size matches the (resolved) target: the certificate is a theorem, so a
    successful reshape keeps the content up to signs, is valid, has the requested number of axes
    and stays abelian / fermionic. -/
theorem reshape_contentF [Zero R] [Neg R] (a r : Arr R) (ns full : List Int) (nsN : List Nat)
    (t : List Nat × List (List (List Nat)) × List Nat) (hv : a.validB = true)
    (hdense : denseB a.shape a.subsizes = true) (hpos : ∀ d ∈ a.shape, 0 < d)
    (hprod : prod a.shape = prod nsN)
    (h1 : findFullReshape ns a.size = .ok full)
    (h2 : full.mapM (fun (d : Int) => if d < 0 then (throw Err.notimpl : Except Err Nat) else pure d.toNat)
      = .ok nsN)
    (h3 : calcReshapeArgs a.shape nsN a.subsizes = .ok t)
    (h : reshapeArr a ns = .ok r) :
    SameAbs a r ∧ r.validB = true ∧ r.ndim = nsN.length ∧ r.fermi = a.fermi :=
  reshapeArr_abs a r ns full nsN t hv h1 h2 h3
    (reshape_plan_certified a nsN t hdense hpos hprod h3) h

/-- the abelian statement of C07b without its certificate hypothesis: exact content (not only up to
    signs), validity, number and sizes of the axes -/
theorem reshape_content_abelian [Zero R] [Neg R] (a r : Arr R) (ns full : List Int) (nsN : List Nat)
    (t : List Nat × List (List (List Nat)) × List Nat) (hv : a.validB = true) (hf : a.fermi = false)
    (hdense : denseB a.shape a.subsizes = true) (hpos : ∀ d ∈ a.shape, 0 < d)
    (hprod : prod a.shape = prod nsN)
    (h1 : findFullReshape ns a.size = .ok full)
    (h2 : full.mapM (fun (d : Int) => if d < 0 then (throw Err.notimpl : Except Err Nat) else pure d.toNat)
      = .ok nsN)
    (h3 : calcReshapeArgs a.shape nsN a.subsizes = .ok t)
    (h : reshapeArr a ns = .ok r) :
    SameContent a r ∧ r.validB = true ∧ r.ndim = nsN.length
      ∧ List.Forall₂ (fun (d' d : Nat) => d' ≤ d) r.shape nsN :=
  reshape_axes_count a r ns full nsN t hv hf h1 h2 h3
    (reshape_plan_certified a nsN t hdense hpos hprod h3) h

theorem dense_of_unfused (a : Arr R) (h : ∀ ix ∈ a.indices, ix.sub = none) :
    denseB a.shape a.subsizes = true := denseB_unfused a h

section Examples
open C05

def magOf (r : Except Err (Arr Int)) : Option (List Nat × Bool × List Nat) :=
  match r with
  | .ok x => some (x.shape, x.fermi, magEntries Int.natAbs x)
  | .error _ => none

example : exF.validB = true ∧ exF.fermi = true ∧ exF.shape = [3, 3, 2]
    ∧ denseB exF.shape exF.subsizes = true ∧ magEntries Int.natAbs exF = [1, 2, 3, 4, 5, 6] := by
  decide +kernel
-- the fermionic reshape (3,3,2) → (3,-1): signs change, magnitudes do not
example : magOf (reshapeArr exF [3, -1]) = some ([3, 3], true, [1, 3, 4, 2, 5, 6]) := by decide +kernel
-- with a pending sign on one sector (`exF'`): the stored entries of that sector are negated
example : nzEntries exF' = [1, 2, 3, 4, 5, 6]
    ∧ (match reshapeArr exF' [3, -1] with | .ok x => nzEntries x | .error _ => [])
      = [1, -3, -4, 2, -5, -6] := by decide +kernel
example := reshape_contentF (R := Int) exF' _ [3, -1] [3, 6] [3, 6] _ (by decide) (by decide) (by decide)
  (by decide) rfl rfl rfl rfl
example := reshape_contentF (R := Int) exF _ [3, -1] [3, 6] [3, 6] _ (by decide) (by decide) (by decide)
  (by decide) rfl rfl rfl rfl
example := fuseF_content (R := Int) exF _ [[0], [1, 2]] true (by decide) rfl (by decide) rfl
example := reshape_content_abelian (R := Int) exA _ [3, -1] [3, 6] [3, 6] _ (by decide) rfl (by decide)
  (by decide) (by decide) rfl rfl rfl rfl

end Examples

end SymmModel.C07
