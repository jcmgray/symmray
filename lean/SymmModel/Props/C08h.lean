/-
  Property C08, part h — scalar extraction and `allclose` versus the dense form.

  About the literal models of Model/Sparse.lean: `Arr.item` (BlockBase.item / FermionicArray.item),
  `Arr.toFloat`, `Arr.toComplex`, `Arr.toInt`, `Arr.toBool` (`float(x)`, `complex(x)`, `int(x)`, `bool(x)`)
  and `Arr.allclose`, the value view `Arr.elem` and the dense form `Arr.toDenseA` (Model/Arr.lean).

  * `item` succeeds exactly when one block is stored and it has exactly one entry; the only error is
    `ValueError`; the result is the value view (`Arr.elem`: stored number times the pending sign) at the single
    address — for every array in which only a fermionic array carries pending signs (a clause of `validB`).
  * the scalar conversions are `item` followed by the conversion of the scalar (`TypeError` on a complex dtype
    only after `item` succeeded).
  * for valid arrays of the same class over the same index tables `x.allclose(y)` holds IFF the dense forms
    are equal (the converse of C08.allclose_toDense); no side condition: when an index has an empty charge
    table both dense forms raise the same `ValueError`, neither array stores a block, and `allclose` is true.

  Scalars: arbitrary `R` with `[Zero R] [Neg R]`, `- - x = x`, `-0 = 0` (`Lazy.LawfulNeg R`) and for `allclose`
  a lawful `==`.  Instances: `Int`, `GRat`.
-/
import SymmModel.Props.C08
import SymmModel.Props.C08g
import SymmModel.Proofs.SmallSparse

namespace SymmModel.C08
open SymmModel SparseP SmallSparse

variable {R : Type}

section item
variable [Zero R] [Neg R] [Lazy.LawfulNeg R]

/-- **`item` = the element at the single address with the pending sign applied.**  For an array storing
    exactly one block `b` (sector `s`) with exactly one entry, `item` returns the value view at
    `(s, (0, …, 0))`.  `hab`: an abelian array has no sign table (clause of `validB`). -/
theorem item_eq_elem (a : Arr R) (hab : a.fermi = false → a.phases = []) (s : Sector) (b : Blk R)
    (hb : a.blocks = [(s, b)]) (hsz : b.data.size = 1) :
    a.item = .ok (a.elem s (List.replicate b.shape.length 0)) := by
  rw [item_eq_core]
  by_cases hc : (a.fermi && !a.phases.isEmpty) = true
  · rw [if_pos hc]
    have hb' : a.phaseSync.blocks = [(s, Lazy.syncBlk a s b)] := by
      rw [Lazy.phaseSync_blocks_eq, hb]; rfl
    have := itemCore_eq_elem a.phaseSync (Lazy.phaseSync_phases a) s _ hb'
      (by rw [Lazy.syncBlk_size]; exact hsz)
    rw [this, Lazy.syncBlk_shape, Lazy.phaseSync_elem]
  · rw [if_neg hc]
    have hp : a.phases = [] := by
      cases hf : a.fermi with
      | false => exact hab hf
      | true =>
        rw [hf] at hc
        simpa using hc
    exact itemCore_eq_elem a hp s b hb hsz

/-- … in terms of the stored datum: the single stored number, negated iff the block carries a pending
    sign (and the array is fermionic) -/
theorem item_eq_stored (a : Arr R) (hab : a.fermi = false → a.phases = []) (s : Sector) (b : Blk R)
    (v : R) (hb : a.blocks = [(s, b)]) (hv : b.data.toList = [v]) :
    a.item = .ok (if alookup a.phases s == some (-1) then -v else v) := by
  have hsz : b.data.size = 1 := by
    have := congrArg List.length hv
    simpa using this
  rw [item_eq_elem a hab s b hb hsz]
  unfold Arr.elem
  rw [hb]
  simp only [alookup, beq_self_eq_true, if_true, get_zeros_off b hv]

/-- **`item` succeeds exactly when one block is stored and that block has exactly one entry** (any rank,
    any class, pending signs or not) -/
theorem item_ok_iff (a : Arr R) :
    (∃ v, a.item = .ok v) ↔ ∃ s b, a.blocks = [(s, b)] ∧ b.data.size = 1 := by
  rw [item_eq_core, item_source_blocks]
  constructor
  · rintro ⟨v, hv⟩
    obtain ⟨s, b, h1, h2⟩ := (itemCore_ok_iff _ v).mp hv
    match hbl : a.blocks, h1 with
    | [(s', b')], h1 =>
      simp only [List.map_cons, List.map_nil, List.cons.injEq, Prod.mk.injEq, and_true] at h1
      refine ⟨s', b', rfl, ?_⟩
      have hsz : b.data.size = 1 := by simpa using congrArg List.length h2
      rw [← h1.2] at hsz
      split at hsz
      · rwa [Lazy.syncBlk_size] at hsz
      · exact hsz
  · rintro ⟨s, b, hb, hsz⟩
    rw [hb]
    simp only [List.map_cons, List.map_nil]
    have hsz' : (if (a.fermi && !a.phases.isEmpty) = true then Lazy.syncBlk a s b else b).data.size = 1 := by
      split
      · rw [Lazy.syncBlk_size]; exact hsz
      · exact hsz
    obtain ⟨v, hv⟩ := toList_singleton_of_size _ hsz'
    exact ⟨v, itemCore_single hv⟩

/-- the error cases exactly as modelled: anything else is a `ValueError`, and no other error occurs -/
theorem item_error_iff (a : Arr R) :
    a.item = .error Err.value ↔ ¬ ∃ s b, a.blocks = [(s, b)] ∧ b.data.size = 1 := by
  rw [← item_ok_iff]
  cases h : a.item with
  | ok v => simp
  | error e =>
    rw [item_eq_core] at h
    have := itemCore_error _ e h
    subst this
    simp

omit [Zero R] [Lazy.LawfulNeg R] in
theorem item_error_kind (a : Arr R) (e : Err) (h : a.item = .error e) : e = Err.value := by
  rw [item_eq_core] at h
  exact itemCore_error _ e h

omit [Lazy.LawfulNeg R] in
theorem item_phaseSync (a : Arr R) (hab : a.fermi = false → a.phases = []) :
    a.phaseSync.item = a.item := by
  rw [item_eq_core, item_eq_core, Lazy.phaseSync_phases]
  simp only [List.isEmpty_nil, Bool.not_true, Bool.and_false, Bool.false_eq_true, if_false]
  by_cases hc : (a.fermi && !a.phases.isEmpty) = true
  · rw [if_pos hc]
  · rw [if_neg hc]
    have hp : a.phases = [] := by
      cases hf : a.fermi with
      | false => exact hab hf
      | true => rw [hf] at hc; simpa using hc
    rw [Lazy.phaseSync_blocks_eq]
    have : a.blocks.map (fun p => (p.1, Lazy.syncBlk a p.1 p.2)) = a.blocks := by
      conv => rhs; rw [← List.map_id a.blocks]
      apply List.map_congr_left
      intro p _
      simp [Lazy.syncBlk, Lazy.phOf, hp]
    rw [this]

end item

section conv

theorem toComplex_eq_item (a : Arr GRat) : a.toComplex = a.item := rfl

/-- `float(x)` of a real array is the (real part of the) item; the errors are those of `item` -/
theorem toFloat_real (a : Arr GRat) : a.toFloat false = a.item.map (·.re) := by
  unfold Arr.toFloat
  cases a.item <;> rfl

/-- `float(x)` of a complex array: the `ValueError` of `item` first, otherwise a `TypeError` whatever the
    value -/
theorem toFloat_complex (a : Arr GRat) :
    a.toFloat true = match a.item with
      | .ok _ => .error Err.type
      | .error e => .error e := by
  unfold Arr.toFloat
  cases a.item <;> rfl

/-- `int(x)` of a real array: the item truncated towards zero -/
theorem toInt_real (a : Arr GRat) :
    a.toInt false = a.item.map (fun v => v.re.num.tdiv v.re.den) := by
  unfold Arr.toInt
  cases a.item <;> rfl

/-- … in particular an integer item is returned as it is -/
theorem toInt_of_int (a : Arr GRat) (n : Int) (im : Rat) (h : a.item = .ok ⟨(n : Rat), im⟩) :
    a.toInt false = .ok n := by
  rw [toInt_real, h]
  simp [Except.map]

theorem toInt_complex (a : Arr GRat) :
    a.toInt true = match a.item with
      | .ok _ => .error Err.type
      | .error e => .error e := by
  unfold Arr.toInt
  cases a.item <;> rfl

theorem toBool_eq_item (a : Arr GRat) : a.toBool = a.item.map (· != 0) := by
  unfold Arr.toBool
  cases a.item <;> rfl

/-- every conversion raises the `ValueError` of `item` when `item` raises -/
theorem conv_error_of_item (a : Arr GRat) (e : Err) (h : a.item = .error e) (cplx : Bool) :
    a.toFloat cplx = .error e ∧ a.toComplex = .error e ∧ a.toInt cplx = .error e
      ∧ a.toBool = .error e := by
  unfold Arr.toFloat Arr.toComplex Arr.toInt Arr.toBool
  rw [h]
  exact ⟨rfl, rfl, rfl, rfl⟩

/-- all of them through the value view: on a valid one-block one-entry array, with `v` the element at the
    single address (pending sign applied) -/
theorem conv_eq_elem (a : Arr GRat) (hab : a.fermi = false → a.phases = []) (s : Sector) (b : Blk GRat)
    (hb : a.blocks = [(s, b)]) (hsz : b.data.size = 1) :
    let v := a.elem s (List.replicate b.shape.length 0)
    a.toComplex = .ok v ∧ a.toFloat false = .ok v.re ∧ a.toInt false = .ok (v.re.num.tdiv v.re.den)
      ∧ a.toBool = .ok (v != 0) ∧ a.toFloat true = .error Err.type ∧ a.toInt true = .error Err.type := by
  have hi := item_eq_elem a hab s b hb hsz
  unfold Arr.toFloat Arr.toComplex Arr.toInt Arr.toBool
  rw [hi]
  exact ⟨rfl, rfl, rfl, rfl, rfl, rfl⟩

end conv

section close
variable [Zero R] [Neg R] [BEq R] [LawfulBEq R] [Lazy.LawfulNeg R]

/-- the dense form determines the whole value view: two valid arrays over the same index tables (none
    with an empty charge table) with the same dense form have the same element at every address -/
theorem elem_of_toDense (a b : Arr R) (ha : a.validB = true) (hb : b.validB = true)
    (hi : a.indices = b.indices) (hne : NoEmpty a) (hd : a.toDenseA = b.toDenseA) :
    ∀ s off, a.elem s off = b.elem s off := by
  have ga := Good.of_valid ha
  have gb := (Good.of_valid hb).shaped
  rw [← hi] at gb
  exact elem_eq_of_inBox ga.shaped gb (elem_inBox_of_toDense ga.keys hi hne hd)

/-- **`allclose` decides equality of the dense forms** (converse of `allclose_toDense` included) — valid
    arrays of the same class over the same index tables; no further hypothesis -/
theorem allclose_iff_toDense (a b : Arr R) (ha : a.validB = true) (hb : b.validB = true)
    (hi : a.indices = b.indices) (hf : a.fermi = b.fermi) :
    a.allclose b = true ↔ a.toDenseA = b.toDenseA := by
  constructor
  · exact allclose_toDense a b ha hb hi hf
  · intro hd
    rw [allclose_iff_elem a b ha hb hi hf]
    by_cases hne : a.indices.any (fun ix => ix.cm.isEmpty) = true
    · have h1 := blocks_nil_of_empty_cm (Good.of_valid ha) hne
      have h2 := blocks_nil_of_empty_cm (Good.of_valid hb) (hi ▸ hne)
      intro s off
      rw [Arr.elem_none (a := a) (by rw [h1]; rfl), Arr.elem_none (a := b) (by rw [h2]; rfl)]
    · exact elem_of_toDense a b ha hb hi (by simpa using hne) hd

/-- the three views of "the same tensor" coincide: `allclose`, the value view, the dense form -/
theorem elem_iff_toDense (a b : Arr R) (ha : a.validB = true) (hb : b.validB = true)
    (hi : a.indices = b.indices) (hf : a.fermi = b.fermi) :
    (∀ s off, a.elem s off = b.elem s off) ↔ a.toDenseA = b.toDenseA := by
  rw [← allclose_iff_elem a b ha hb hi hf, allclose_iff_toDense a b ha hb hi hf]

/-- an index with an empty charge table: a valid array stores nothing, `to_dense` raises and any two such
    arrays are close -/
theorem allclose_of_empty_table (a b : Arr R) (ha : a.validB = true) (hb : b.validB = true)
    (hi : a.indices = b.indices) (hf : a.fermi = b.fermi) (he : ¬ NoEmpty a) :
    a.blocks = [] ∧ b.blocks = [] ∧ a.toDenseA = .error Err.value ∧ a.allclose b = true := by
  have he' : a.indices.any (fun ix => ix.cm.isEmpty) = true := by simpa [NoEmpty] using he
  have h1 := blocks_nil_of_empty_cm (Good.of_valid ha) he'
  have h2 := blocks_nil_of_empty_cm (Good.of_valid hb) (hi ▸ he')
  refine ⟨h1, h2, Arr.toDenseA_error a false he', ?_⟩
  rw [allclose_iff_elem a b ha hb hi hf]
  intro s off
  rw [Arr.elem_none (a := a) (by rw [h1]; rfl), Arr.elem_none (a := b) (by rw [h2]; rfl)]

end close

/-! ## 4. the hypotheses are satisfiable; the model on concrete arrays -/

section Examples

/-- a fermionic Z2 array whose only block has one entry and carries a pending sign -/
def exItemF : Arr GRat :=
  { sym := .Z2, fermi := true, charge := (0, 0),
    indices := [Index.mk [((0, 0), 2), ((1, 0), 1)] false none,
                Index.mk [((0, 0), 1), ((1, 0), 1)] true none],
    blocks := [([(1, 0), (1, 0)], ⟨[1, 1], #[⟨3, 0⟩]⟩)],
    phases := [([(1, 0), (1, 0)], -1)] }

/-- the same without the sign, and with a 2-entry block -/
def exItemA : Arr GRat := { exItemF with fermi := false, phases := [] }
def exItemBig : Arr GRat :=
  { exItemA with blocks := [([(0, 0), (0, 0)], ⟨[2, 1], #[⟨3, 0⟩, ⟨1, 0⟩]⟩)] }

example : exItemF.validB = true ∧ exItemA.validB = true ∧ exItemBig.validB = true := by decide +kernel

example : exItemF.item = .ok ⟨-3, 0⟩ ∧ exItemA.item = .ok ⟨3, 0⟩ ∧ exItemBig.item = .error Err.value
    ∧ ({ exItemA with blocks := [] } : Arr GRat).item = .error Err.value
    ∧ exItemF.toInt false = .ok (-3) ∧ exItemF.toFloat true = .error Err.type
    ∧ exItemBig.toFloat true = .error Err.value ∧ exItemF.toBool = .ok true := by
  decide +kernel

/-- `item_eq_elem` / `item_eq_stored` instantiate on the fermionic one-entry array with a pending sign -/
example : exItemF.item = .ok (exItemF.elem [(1, 0), (1, 0)] [0, 0]) :=
  item_eq_elem exItemF (by decide) [(1, 0), (1, 0)] ⟨[1, 1], #[⟨3, 0⟩]⟩ rfl rfl

example : exItemF.item = .ok (-(⟨3, 0⟩ : GRat)) :=
  item_eq_stored exItemF (by decide) [(1, 0), (1, 0)] ⟨[1, 1], #[⟨3, 0⟩]⟩ ⟨3, 0⟩ rfl rfl

/-- `allclose_iff_toDense` on the arrays of part g: same dense form, different stored sectors -/
example : exSparse.allclose exZero = true ∧ exSparse.sectors ≠ exZero.sectors := by
  decide +kernel

example : exSparse.toDenseA = exZero.toDenseA :=
  (allclose_iff_toDense exSparse exZero (by decide) (by decide) rfl rfl).mp (by decide +kernel)

end Examples

end SymmModel.C08
