/-
  Property C07, tenth part: the forward clause for ABELIAN arrays as an element bijection, both fuse
  strategies, and the "only if" half of "fuse stores a sector iff some stored source sector combines
  to it".

  (1) THE FORWARD CLAUSE, ELEMENT BY ELEMENT, TOTAL (abelian; fused inputs allowed).  For a valid
      abelian array `a` and a plan of fuse calls (`CallsOk`), resp. `reshape(a, target)` for a merge /
      drop target, the plan succeeds with EITHER fuse strategy (`insert` — what `reshape` uses on numpy
      — and `concat`, any `expand_empty`) with the SAME result `y`, a valid abelian array, and
      `ElemBijA a calls y` holds (Proofs/ReshapeJb.lean).  `Stored`, `Pulled`, `ZeroAt` are those of
      C07i (the sign component `σ` of `Pulled`, the product of `fuseSignT`, plays no role for
      abelian arrays: the values are EQUAL):
        total   every stored address `(ns, i)` of `y`:  EITHER  it pulls back to a STORED address `(s, o)`
                of `a` and `y.elem ns i = a.elem s o`,  OR  `ZeroAt` and `y.elem ns i = 0`
        onto    every stored address `(s, o)` of `a` is the pull-back of a stored address of `y`
                (which then carries `a.elem s o`)
        inj     … of exactly one
        func    the pull-back `(s, o)` is determined by `(ns, i)`
        excl    the two cases of `total` exclude each other
        `reshape_forward_elem_abelian_calls` / `_items` / `_mergeDrop`
  (2) THE "ONLY IF" HALF ("fuse stores a sector only if some stored source sector combines to it"), in
      block form, for any number of calls and both strategies:
        blockFrom  every stored block `(ns, B)` of `y` contains a WHOLE stored block `(s, b)` of `a`:
                   every address `o` of `b` is the pull-back of an address `i` of `B`
        blockInto  every stored block `(s, b)` of `a` lies as a whole in ONE stored block of `y`
        `reshape_stored_sector_has_source_abelian`   (blockFrom for a plan of calls)
        `fuse_stored_sector_has_source_abelian`      one `fuse` call, either strategy
        `reshape_block_not_all_zero_filled_abelian`  hence: if the source blocks have no zero extent, every
                                                     stored block of `y` has an address that is NOT
                                                     zero-filled (first case of `total`)
      and for FERMIONIC arrays (values up to the sign `σ`, both strategies of `fuseF`):
        `reshape_stored_sector_has_source_fermionic`, `fuse_stored_sector_has_source_fermionic`,
        `reshape_block_not_all_zero_filled_fermionic`
-/
import SymmModel.Proofs.ReshapeJc
import SymmModel.Props.C07i

namespace SymmModel.C07
open SymmModel SymmModel.Reshape SymmModel.Reshape3 SymmModel.Reshape5 SymmModel.ReshapeH SymmModel.ReshapeI
open SymmModel.ReshapeJ ReshapeP FuseP

variable {R : Type} [Zero R] [Neg R] [Lazy.LawfulNeg R]

/-- **abelian plan of several fuse calls, element by element, TOTAL**: the plan succeeds — with either
    fuse strategy, same result —, the result is a valid abelian array and the pull-back of addresses
    is a value-exact bijection from the stored, not zero-filled addresses of the result onto the stored
    addresses of the input; the zero-filled addresses hold 0 -/
theorem reshape_forward_elem_abelian_calls (a : Arr R) (calls : List (List (List Nat)))
    (hv : a.validB = true) (hf : a.fermi = false) (hc : CallsOk calls 0 a.ndim) :
    ∃ y, applyPlan a ([], calls, []) = .ok y
      ∧ (∀ (m : FuseMode) (e : Bool), calls.foldlM (fun x G => fuseA x G m e) a = .ok y)
      ∧ y.validB = true ∧ y.fermi = false
      ∧ (∀ ns i, Stored y ns i →
          (∃ s o σ, Pulled a calls 0 y ns i s o σ ∧ Stored a s o ∧ y.elem ns i = a.elem s o)
          ∨ (ZeroAt a calls 0 y ns i ∧ y.elem ns i = 0))
      ∧ (∀ s o, Stored a s o →
          ∃ ns i σ, Stored y ns i ∧ Pulled a calls 0 y ns i s o σ ∧ y.elem ns i = a.elem s o)
      ∧ (∀ ns i ns' i' s o σ σ', Stored y ns i → Stored y ns' i' → Pulled a calls 0 y ns i s o σ →
          Pulled a calls 0 y ns' i' s o σ' → ns = ns' ∧ i = i')
      ∧ (∀ ns i s o σ s' o' σ', Pulled a calls 0 y ns i s o σ → Pulled a calls 0 y ns i s' o' σ' →
          s = s' ∧ o = o' ∧ σ = σ')
      ∧ (∀ ns i, ZeroAt a calls 0 y ns i → ∀ s o σ, Pulled a calls 0 y ns i s o σ → ¬ Stored a s o) := by
  obtain ⟨y, hy, hym, hvy, hfy, hb⟩ := elemBijA_calls a calls hv hf hc
  exact ⟨y, by rw [applyPlan_calls]; exact hy, hym, hvy, hfy, hb.total, hb.onto, hb.inj, hb.func, hb.excl⟩

/-- **abelian `reshape` to a merge / squeeze target, element by element, TOTAL** — any number of fuse
    calls, fused axes allowed, under the exact window condition; either strategy
    (`hpos` is not used by the proof) -/
theorem reshape_forward_elem_abelian_items (a : Arr R) (hv : a.validB = true)
    (hf : a.fermi = false) (items : List Item) (hshape : a.shape = shapeOf items) (hok : ItemsOk items)
    (hne : targetOf items ≠ []) (hpos : ∀ d ∈ a.shape, 0 < d)
    (hnw1 : noWinVisB a.shape (targetOf items) a.subsizes = true) :
    ∃ t y, calcReshapeArgs a.shape (targetOf items) a.subsizes = .ok t ∧ t.1 = [] ∧ t.2.2 = []
      ∧ reshapeArr a ((targetOf items).map Int.ofNat) = .ok y
      ∧ (∀ (m : FuseMode) (e : Bool), t.2.1.foldlM (fun x G => fuseA x G m e) a = .ok y)
      ∧ y.validB = true ∧ y.fermi = false ∧ ElemBijA a t.2.1 y := by
  obtain ⟨t, h3, hu, hexp, hc, hr⟩ := reshape_items_calls a items hshape hok hne hnw1
  obtain ⟨y, hy, hym, hvy, hfy, hb⟩ := elemBijA_calls a t.2.1 hv hf hc
  exact ⟨t, y, h3, hu, hexp, hr.trans hy, hym, hvy, hfy, hb⟩

/-- **the forward clause for abelian arrays**: `reshape(a, target)` for a target obtained by merging
    adjacent axes and/or dropping size-one axes has at every stored address either the value of
    exactly the source element that the fused index tables prescribe, or zero; every stored source
    element appears exactly once; every stored block of the result contains a whole stored source
    block (`ElemBijA`) -/
theorem reshape_forward_elem_abelian_mergeDrop (a : Arr R) (hv : a.validB = true) (hf : a.fermi = false)
    (segs : List MSeg) (hok : ∀ s ∈ segs, MSegOk s) (hshape : a.shape = shapeS segs)
    (hne : targetS segs ≠ []) (hnw1 : noWinVisB a.shape (targetS segs) a.subsizes = true) :
    ∃ t y, calcReshapeArgs a.shape (targetS segs) a.subsizes = .ok t ∧ t.1 = [] ∧ t.2.2 = []
      ∧ reshapeArr a ((targetS segs).map Int.ofNat) = .ok y
      ∧ (∀ (m : FuseMode) (e : Bool), t.2.1.foldlM (fun x G => fuseA x G m e) a = .ok y)
      ∧ y.validB = true ∧ y.fermi = false ∧ ElemBijA a t.2.1 y := by
  obtain ⟨items, h1, h2, h3⟩ := normalise segs hok
  rw [← h3] at hne hnw1 ⊢
  exact reshape_forward_elem_abelian_items a hv hf items (by rw [hshape, h2]) h1 hne
    (by rw [hshape]; exact shapeS_pos segs hok) hnw1

/-- **every stored sector of the result of a plan of fuse calls has a stored source sector**: the
    stored block `(ns, B)` contains the whole of a stored block `(s, b)` of the input — every address
    `o` of `b` is the pull-back of an address `i` of `B` (where `y` then holds `a.elem s o`) -/
theorem reshape_stored_sector_has_source_abelian (a : Arr R) (calls : List (List (List Nat)))
    (hv : a.validB = true) (hf : a.fermi = false) (hc : CallsOk calls 0 a.ndim) :
    ∃ y, applyPlan a ([], calls, []) = .ok y
      ∧ (∀ (m : FuseMode) (e : Bool), calls.foldlM (fun x G => fuseA x G m e) a = .ok y)
      ∧ ∀ ns B, alookup y.blocks ns = some B →
          ∃ s b, alookup a.blocks s = some b ∧ ∀ o, inBox b.shape o = true →
            ∃ i σ, inBox B.shape i = true ∧ Pulled a calls 0 y ns i s o σ ∧ y.elem ns i = a.elem s o := by
  obtain ⟨y, hy, hym, _, _, hb⟩ := elemBijA_calls a calls hv hf hc
  refine ⟨y, by rw [applyPlan_calls]; exact hy, hym, ?_⟩
  intro ns B hB
  obtain ⟨s, b, hsb, hall⟩ := hb.blockFrom ns B hB
  refine ⟨s, b, hsb, ?_⟩
  intro o ho
  obtain ⟨i, σ, hi, hp⟩ := hall o ho
  exact ⟨i, σ, hi, hp, pulled_value (V := fun _ x => x) hb.total ⟨B, hB, hi⟩ hp ⟨b, hsb, ho⟩⟩

/-- **one `fuse` call (either strategy, any `expand_empty`) stores a sector ONLY IF a stored source
    sector combines to it**, and then the whole source block lies in the fused block: every address of
    the source block is the split address (`splitAddr` on the fused axes `P, P+1, …`) of an address of
    the fused block -/
theorem fuse_stored_sector_has_source_abelian (a : Arr R) (G : List (List Nat)) (P : Nat) (m : FuseMode)
    (e : Bool) (hv : a.validB = true) (hf : a.fermi = false) (hc : CallOk G P 0 a.ndim) :
    ∃ y, fuseA a G m e = .ok y ∧ ∀ ns B, alookup y.blocks ns = some B →
      ∃ s b, alookup a.blocks s = some b ∧ ∀ offs, inBox b.shape offs = true →
        ∃ i, ∃ segs : List (Sector × List Nat), inBox B.shape i = true
          ∧ segs.length = G.length
          ∧ (∀ g gaxes, G[g]? = some gaxes →
              splitAddr (y.indices.getD (P + g) default) (ns.getD (P + g) (0, 0)) (i.getD (P + g) 0) = segs[g]?)
          ∧ s = ns.take P ++ (segs.map (·.1)).flatten ++ ns.drop (P + G.length)
          ∧ offs = i.take P ++ (segs.map (·.2)).flatten ++ i.drop (P + G.length)
          ∧ y.elem ns i = a.elem s offs := by
  obtain ⟨_, hall, _, _, _⟩ := fuse_call_A a G P 0 hv hf hc
  refine ⟨_, hall m e, ?_⟩
  intro ns B hB
  obtain ⟨s, b, hsb, hsrc⟩ := src_call_A a G P 0 hv hc ns B hB
  refine ⟨s, b, hsb, ?_⟩
  intro offs ho
  obtain ⟨i, segs, hi, hsl, hsp, hs, hoe⟩ := hsrc offs ho
  refine ⟨i, segs, hi, hsl, hsp, hs, hoe, ?_⟩
  obtain ⟨segs', hsl', hsp', _, _, hval, _⟩ := elem_call_A a G P 0 hv hf hc ns B hB i hi
  have : segs = segs' := splitAddr_segs_unique (f := fun g =>
    splitAddr ((fusedArrM a G).indices.getD (P + g) default) (ns.getD (P + g) (0, 0)) (i.getD (P + g) 0))
    hsl hsl' hsp hsp'
  subst this
  rw [hval, ← hs, ← hoe]

theorem inBox_zeroOffsets : ∀ (sh : List Nat), (∀ d ∈ sh, 0 < d) → inBox sh (sh.map (fun _ => 0)) = true
  | [], _ => rfl
  | d :: ds, h => by
    simp only [List.map_cons, inBox, Bool.and_eq_true, decide_eq_true_eq]
    exact ⟨h d (by simp), inBox_zeroOffsets ds (fun d' hd' => h d' (by simp [hd']))⟩

/-- a stored block of `y` that contains a whole source block without a zero extent has an address
    that is not zero-filled: the address of the all-zero offsets of the source block -/
theorem block_not_all_zero {V : Int → R → R} {a y : Arr R} {calls : List (List (List Nat))}
    (hsrc : ∀ ns B, alookup y.blocks ns = some B →
      ∃ s b, alookup a.blocks s = some b ∧ ∀ o, inBox b.shape o = true →
        ∃ i σ, inBox B.shape i = true ∧ Pulled a calls 0 y ns i s o σ ∧ y.elem ns i = V σ (a.elem s o))
    (hpos : ∀ sb ∈ a.blocks, ∀ d ∈ sb.2.shape, 0 < d) :
    ∀ ns B, alookup y.blocks ns = some B →
      ∃ i s o σ, Stored y ns i ∧ Pulled a calls 0 y ns i s o σ ∧ Stored a s o
        ∧ y.elem ns i = V σ (a.elem s o) ∧ ¬ ZeroAt a calls 0 y ns i := by
  intro ns B hB
  obtain ⟨s, b, hsb, hall⟩ := hsrc ns B hB
  have ho : inBox b.shape (b.shape.map (fun _ => 0)) = true :=
    inBox_zeroOffsets b.shape (hpos (s, b) (alookup_some_mem hsb))
  obtain ⟨i, σ, hi, hp, hval⟩ := hall _ ho
  exact ⟨i, s, _, σ, ⟨B, hB, hi⟩, hp, ⟨b, hsb, ho⟩, hval,
    fun hz => zeroAt_excl calls a y 0 ns i hz s _ σ hp ⟨b, hsb, ho⟩⟩

/-- **no stored block of the result is entirely zero-filled** (source blocks without a zero extent):
    every stored block of `y` has an address in the first case of `total` -/
theorem reshape_block_not_all_zero_filled_abelian (a : Arr R) (calls : List (List (List Nat)))
    (hv : a.validB = true) (hf : a.fermi = false) (hc : CallsOk calls 0 a.ndim)
    (hpos : ∀ sb ∈ a.blocks, ∀ d ∈ sb.2.shape, 0 < d) :
    ∃ y, applyPlan a ([], calls, []) = .ok y ∧ ∀ ns B, alookup y.blocks ns = some B →
      ∃ i s o σ, Stored y ns i ∧ Pulled a calls 0 y ns i s o σ ∧ Stored a s o ∧ y.elem ns i = a.elem s o
        ∧ ¬ ZeroAt a calls 0 y ns i := by
  obtain ⟨y, hy, _, hsrc⟩ := reshape_stored_sector_has_source_abelian a calls hv hf hc
  exact ⟨y, hy, block_not_all_zero (V := fun _ x => x) hsrc hpos⟩

/-- **fermionic: every stored sector of the result of a plan of fuse calls has a stored source sector**
    whose whole block lies in it (values up to the product `σ` of the fuse signs); the plan gives the
    same result with either strategy of the fermionic `fuse` -/
theorem reshape_stored_sector_has_source_fermionic (a : Arr R) (calls : List (List (List Nat)))
    (hv : a.validB = true) (hf : a.fermi = true) (hc : CallsOk calls 0 a.ndim) :
    ∃ y, applyPlan a ([], calls, []) = .ok y
      ∧ (∀ (m : FuseMode) (e : Bool), calls.foldlM (fun x G => Arr.fuseF x G m e) a = .ok y)
      ∧ ∀ ns B, alookup y.blocks ns = some B →
          ∃ s b, alookup a.blocks s = some b ∧ ∀ o, inBox b.shape o = true →
            ∃ i σ, inBox B.shape i = true ∧ Pulled a calls 0 y ns i s o σ
              ∧ y.elem ns i = Lazy.sgnI σ (a.elem s o) := by
  obtain ⟨y, hy, _, _, hb⟩ := elemBij_calls a calls hv hf hc
  obtain ⟨hm, hsrc⟩ := src_chain_F calls a 0 hv hf hc y hy
  refine ⟨y, by rw [applyPlan_calls]; exact hy, hm, ?_⟩
  intro ns B hB
  obtain ⟨s, b, hsb, hall⟩ := hsrc ns B hB
  refine ⟨s, b, hsb, ?_⟩
  intro o ho
  obtain ⟨i, σ, hi, hp⟩ := hall o ho
  exact ⟨i, σ, hi, hp, pulled_value hb.total ⟨B, hB, hi⟩ hp ⟨b, hsb, ho⟩⟩

/-- **one fermionic `fuse` call (either strategy, any `expand_empty`) stores a sector ONLY IF a stored
    source sector combines to it**; the whole source block lies in the fused block -/
theorem fuse_stored_sector_has_source_fermionic (a : Arr R) (G : List (List Nat)) (P : Nat) (m : FuseMode)
    (e : Bool) (hv : a.validB = true) (hf : a.fermi = true) (hc : CallOk G P 0 a.ndim) :
    ∃ y, Arr.fuseF a G m e = .ok y ∧ ∀ ns B, alookup y.blocks ns = some B →
      ∃ s b, alookup a.blocks s = some b ∧ ∀ offs, inBox b.shape offs = true →
        ∃ i, ∃ segs : List (Sector × List Nat), inBox B.shape i = true
          ∧ segs.length = G.length
          ∧ (∀ g gaxes, G[g]? = some gaxes →
              splitAddr (y.indices.getD (P + g) default) (ns.getD (P + g) (0, 0)) (i.getD (P + g) 0) = segs[g]?)
          ∧ s = ns.take P ++ (segs.map (·.1)).flatten ++ ns.drop (P + G.length)
          ∧ offs = i.take P ++ (segs.map (·.2)).flatten ++ i.drop (P + G.length)
          ∧ y.elem ns i = Lazy.sgnI (fuseSignT a G s) (a.elem s offs) := by
  obtain ⟨y, hy, hsrc⟩ := src_call_F a G P 0 hv hf hc
  obtain ⟨y', hy', hel⟩ := forward_elem_call_box a G P 0 hv hf hc
  rw [hy] at hy'; injection hy' with hy'; subst hy'
  refine ⟨y, fuseF_call_modes a G P 0 hv hf hc y hy m e, ?_⟩
  intro ns B hB
  obtain ⟨s, b, hsb, hall⟩ := hsrc ns B hB
  refine ⟨s, b, hsb, ?_⟩
  intro offs ho
  obtain ⟨i, segs, hi, hsl, hsp, hs, hoe⟩ := hall offs ho
  refine ⟨i, segs, hi, hsl, hsp, hs, hoe, ?_⟩
  obtain ⟨segs', hsl', hsp', _, _, hval, _⟩ := hel ns B hB i hi
  have : segs = segs' := splitAddr_segs_unique (f := fun g =>
    splitAddr (y.indices.getD (P + g) default) (ns.getD (P + g) (0, 0)) (i.getD (P + g) 0))
    hsl hsl' hsp hsp'
  subst this
  rw [hval, ← hs, ← hoe]

/-- **fermionic: no stored block of the result is entirely zero-filled** (source blocks without a zero
    extent) -/
theorem reshape_block_not_all_zero_filled_fermionic (a : Arr R) (calls : List (List (List Nat)))
    (hv : a.validB = true) (hf : a.fermi = true) (hc : CallsOk calls 0 a.ndim)
    (hpos : ∀ sb ∈ a.blocks, ∀ d ∈ sb.2.shape, 0 < d) :
    ∃ y, applyPlan a ([], calls, []) = .ok y ∧ ∀ ns B, alookup y.blocks ns = some B →
      ∃ i s o σ, Stored y ns i ∧ Pulled a calls 0 y ns i s o σ ∧ Stored a s o
        ∧ y.elem ns i = Lazy.sgnI σ (a.elem s o) ∧ ¬ ZeroAt a calls 0 y ns i := by
  obtain ⟨y, hy, _, hsrc⟩ := reshape_stored_sector_has_source_fermionic a calls hv hf hc
  exact ⟨y, hy, block_not_all_zero hsrc hpos⟩

section Examples
open C05

theorem exB_facts : exB.shape = [2, 2, 2, 2] ∧ exB.subsizes = [none, none, none, none] ∧ exB.ndim = 4
    ∧ exB.validB = true ∧ exB.fermi = false := by decide +kernel

-- two fuse calls on the sparse rank-4 `exB`: (2,2,2,2) → (4,2,2) → (4,4)
example :=
  have ⟨_, _, hn, hv, hf⟩ := exB_facts
  reshape_forward_elem_abelian_calls (R := Int) exB [[[0, 1]], [[1, 2]]] hv hf
    (callsOk_of_B _ _ _ (by rw [hn]; decide))
example :=
  have ⟨_, _, hn, hv, hf⟩ := exB_facts
  reshape_stored_sector_has_source_abelian (R := Int) exB [[[0, 1]], [[1, 2]]] hv hf
    (callsOk_of_B _ _ _ (by rw [hn]; decide))
example :=
  have ⟨_, _, hn, hv, hf⟩ := exB_facts
  reshape_block_not_all_zero_filled_abelian (R := Int) exB [[[0, 1]], [[1, 2]]] hv hf
    (callsOk_of_B _ _ _ (by rw [hn]; decide)) (by decide +kernel)
example :=
  have ⟨_, _, hn, hv, hf⟩ := exB_facts
  fuse_stored_sector_has_source_abelian (R := Int) exB [[0, 1], [2, 3]] 0 .concat false hv hf
    ⟨by decide, by decide, by decide, by decide, by rw [hn]; decide⟩
example :=
  have ⟨hs, hsub, _, hv, hf⟩ := exB_facts
  reshape_forward_elem_abelian_items (R := Int) exB hv hf [.M 2 [] 2, .M 2 [] 2] hs (by decide) (by decide)
    (by rw [hs]; decide) (by rw [hs, hsub]; decide)
example :=
  have ⟨hs, hsub, _, hv, hf⟩ := exB_facts
  reshape_forward_elem_abelian_mergeDrop (R := Int) exB hv hf [.run [2, 2], .run [2, 2]] (by decide) hs
    (by decide) (by rw [hs, hsub]; decide)
-- an abelian input that already carries a (sparsely) fused axis: (3, 3⟨3,2⟩) → (9)
example :=
  have ⟨hs, hsub, hv, hf⟩ := exAfused_facts
  reshape_forward_elem_abelian_mergeDrop (R := Int) exAfused hv hf [.run [3, 3]] (by decide) hs (by decide)
    (by rw [hs, hsub]; decide)

/-- the intermediate and the final array of `exB` (2,2,2,2) → (4,2,2) → (4,4); the result has ONE stored
    block, sector (1,1), shape (2,2), data [0, 7, 9, 0] -/
def exBy1 : Arr Int := match fuseDispatch exB [[0, 1]] with | .ok x => x | .error _ => exB
def exBy2 : Arr Int := match fuseDispatch exBy1 [[1, 2]] with | .ok x => x | .error _ => exB

/-- the two fuse calls succeed and return `exBy1`, `exBy2` (by `fuse_call_A`; nothing is evaluated) -/
theorem exB_call1 : CallOk [[0, 1]] 0 0 exB.ndim ∧ fuseDispatch exB [[0, 1]] = .ok exBy1
    ∧ exBy1.validB = true ∧ exBy1.fermi = false ∧ exBy1.ndim = 3 := by
  obtain ⟨_, _, hn, hv, hf⟩ := exB_facts
  have hc : CallOk [[0, 1]] 0 0 exB.ndim := ⟨by decide, by decide, by decide, by decide, by rw [hn]; decide⟩
  obtain ⟨hy1, _, hv1, hf1, hn1⟩ := fuse_call_A exB [[0, 1]] 0 0 hv hf hc
  have e : exBy1 = fusedArrM exB [[0, 1]] := by rw [exBy1, hy1]
  rw [e]
  exact ⟨hc, hy1, hv1, hf1, by rw [hn1, hn]; rfl⟩
theorem exB_call2 : CallOk [[1, 2]] 1 1 exBy1.ndim ∧ fuseDispatch exBy1 [[1, 2]] = .ok exBy2
    ∧ exBy2.ndim = 2 := by
  obtain ⟨_, _, hv, hf, hn⟩ := exB_call1
  have hc : CallOk [[1, 2]] 1 1 exBy1.ndim := ⟨by decide, by decide, by decide, by decide, by rw [hn]; decide⟩
  obtain ⟨hy2, _, _, _, hn2⟩ := fuse_call_A exBy1 [[1, 2]] 1 1 hv hf hc
  have e : exBy2 = fusedArrM exBy1 [[1, 2]] := by rw [exBy2, hy2]
  rw [e]
  exact ⟨hc, hy2, by rw [hn2, hn]; rfl⟩

example : C05.view (applyPlan exB ([], [[[0, 1]], [[1, 2]]], [])) = some [([(1, 0), (1, 0)], [2, 2], [0, 7, 9, 0])] := by
  decide +kernel
example : C05.view (.ok exBy2) = some [([(1, 0), (1, 0)], [2, 2], [0, 7, 9, 0])] := by decide +kernel

-- the FIRST case of `total` is inhabited: offset (0,1) of the block holds 7 = the element of `exB` in
-- sector (0,1,1,0)
example : Stored exBy2 [(1, 0), (1, 0)] [0, 1]
    ∧ exBy2.elem [(1, 0), (1, 0)] [0, 1] = exB.elem [(0, 0), (1, 0), (1, 0), (0, 0)] [0, 0, 0, 0]
    ∧ Stored exB [(0, 0), (1, 0), (1, 0), (0, 0)] [0, 0, 0, 0] :=
  ⟨⟨(alookup exBy2.blocks [(1, 0), (1, 0)]).getD default, some_of_isSome default (by decide +kernel),
      by decide +kernel⟩, by decide +kernel,
    ⟨(alookup exB.blocks [(0, 0), (1, 0), (1, 0), (0, 0)]).getD default, some_of_isSome default (by decide +kernel),
      by decide +kernel⟩⟩

-- the SECOND case of `total` is inhabited too: offset (0,0) of the same block pulls back (through both
-- calls, intermediate address stored) to the sector (0,1,0,1), which `exB` does not store
example : ZeroAt exB [[[0, 1]], [[1, 2]]] 0 exBy2 [(1, 0), (1, 0)] [0, 0]
    ∧ exBy2.elem [(1, 0), (1, 0)] [0, 0] = 0 := by
  -- what has to be computed, in one evaluation
  have ⟨e2, n0, b2, x2, p2, b1, x1, p1⟩ :
      exBy2.elem [(1, 0), (1, 0)] [0, 0] = 0
      ∧ alookup exB.blocks [(0, 0), (1, 0), (0, 0), (1, 0)] = none
      ∧ (alookup exBy2.blocks [(1, 0), (1, 0)]).isSome = true
      ∧ inBox ((alookup exBy2.blocks [(1, 0), (1, 0)]).getD default).shape [0, 0] = true
      ∧ splitAddr (exBy2.indices.getD 1 default) (1, 0) 0 = some ([(0, 0), (1, 0)], [0, 0])
      ∧ (alookup exBy1.blocks [(1, 0), (0, 0), (1, 0)]).isSome = true
      ∧ inBox ((alookup exBy1.blocks [(1, 0), (0, 0), (1, 0)]).getD default).shape [0, 0, 0] = true
      ∧ splitAddr (exBy1.indices.getD 0 default) (1, 0) 0 = some ([(0, 0), (1, 0)], [0, 0]) := by
    decide +kernel
  refine ⟨⟨0, exBy1, exB_call1.1, exB_call1.2.1,
    Or.inr ⟨[(0, 0), (1, 0), (0, 0), (1, 0)], [0, 0, 0, 0],
      1 * fuseSignT exBy1 [[1, 2]] [(1, 0), (0, 0), (1, 0)]
        * fuseSignT exB [[0, 1]] [(0, 0), (1, 0), (0, 0), (1, 0)], ?_, n0⟩⟩, e2⟩
  refine ⟨0, exBy1, [(1, 0), (0, 0), (1, 0)], [0, 0, 0], 1 * fuseSignT exBy1 [[1, 2]] [(1, 0), (0, 0), (1, 0)],
    (alookup exBy1.blocks [(1, 0), (0, 0), (1, 0)]).getD default, [([(0, 0), (1, 0)], [0, 0])],
    exB_call1.1, exB_call1.2.1, ?_, ?_⟩
  · refine ⟨1, exBy2, [(1, 0), (1, 0)], [0, 0], 1,
      (alookup exBy2.blocks [(1, 0), (1, 0)]).getD default, [([(0, 0), (1, 0)], [0, 0])],
      exB_call2.1, exB_call2.2.1, ⟨rfl, rfl, rfl⟩, ?_⟩
    refine ⟨some_of_isSome default b2, x2, rfl, ?_,
      by rw [exB_call1.2.2.2.2]; rfl, by rw [exB_call1.2.2.2.2]; rfl, rfl, rfl, rfl⟩
    intro g gaxes hg
    match g with
    | 0 => exact p2
    | g + 1 => simp at hg
  · refine ⟨some_of_isSome default b1, x1, rfl, ?_,
      by rw [exB_facts.2.2.1]; rfl, by rw [exB_facts.2.2.1]; rfl, rfl, rfl, rfl⟩
    intro g gaxes hg
    match g with
    | 0 => exact p1
    | g + 1 => simp at hg

-- fermionic: two fuse calls, (2,2,1,2,2) → (4,1,4)
example :=
  have ⟨_, _, hn, hv, hf⟩ := exG5_facts
  reshape_stored_sector_has_source_fermionic (R := Int) exG5 [[[0, 1]], [[2, 3]]] hv hf
    (callsOk_of_B _ _ _ (by rw [hn]; decide))
example :=
  have ⟨_, _, hn, hv, hf⟩ := exG5_facts
  reshape_block_not_all_zero_filled_fermionic (R := Int) exG5 [[[0, 1]], [[2, 3]]] hv hf
    (callsOk_of_B _ _ _ (by rw [hn]; decide)) (by decide +kernel)
example :=
  have ⟨_, _, _, hv, hf⟩ := exG5_facts
  fuse_stored_sector_has_source_fermionic (R := Int) exG5 [[0, 1]] 0 .concat false hv hf exG5_call1.1
-- both strategies give the stored blocks of the (4,4) result; `exB` stores 2 of its 6 sectors, so the
-- fused blocks have zero-filled parts
example : C05.view ([[[0, 1]], [[1, 2]]].foldlM (fun x G => fuseA x G .concat true) exB)
    = C05.view (applyPlan exB ([], [[[0, 1]], [[1, 2]]], [])) := by decide +kernel

end Examples

end SymmModel.C07
