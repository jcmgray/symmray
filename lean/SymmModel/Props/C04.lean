/-
  Property C04 — "A fermionic network's value does not depend on how it is contracted":
  the sign laws S1–S3 of DESIGN §5, for lists of ARBITRARY length.

  About the model definitions
    `koszul`, `swapsLoop`, `isOdd`, `permuted`                     (Model/Sym.lean, Model/Basic.lean)
    `oddLt` (= `FermionicOperator.__lt__`), `resolveScan`, `resolveCombinedOddpos`
                                                                   (Model/Fermi.lean)
  Vocabulary (defined in `SymmModel.Proofs.Koszul` / `SymmModel.Proofs.Oddpos`, namespaces
  `SymmModel.KoszulP` / `SymmModel.OddposP`):
    `compose p q = permuted p q`     composition with `transpose(transpose(x,p),q) = transpose(x, compose p q)`
    `oddCount par l`                 number of odd entries among the axes listed in `l`
    `oddR a b = oddLt b a`           "`a` before `b` is an inversion"
    `invR oddR l`                    number of inversions of `l` w.r.t. `oddLt`
                                     (`invR r (a :: l) = #(b ∈ l with r a b) + invR r l`)
    `mergeOddpos pa la lb`           the label part of `resolveCombinedOddpos` (`resolveCombinedOddpos_eq_merge`)
  "sorted" is `List.Pairwise (oddLt · · = true)`, "pairwise-distinct labels" is
  `List.Pairwise (fun a b => a.1 ≠ b.1)`.

  Here: S1 (`permuted_compose`, `compose_isPerm`, `koszul_cocycle`), S2 (`block_move_sign`,
  `reverse_block_sign`), S3 (`oddLt_*`, `resolveScan_sorted`, `resolveScan_sign`, `resolveScan_fuel`,
  `resolveScan_total`, `resolveCombinedOddpos_eq_merge`, `oddpos_assoc`, annihilation of an
  adjacent conjugate pair).  The clauses about `tensordotF` are in the files that follow: S4–S6 in
  Props/C04b, S7 (associativity) in C04c (chain), C04d (triangle), C04e (weak guard on all calls,
  four tensors), chains, trees and nets in C04f–C04l.  Conjugate pairs that are not adjacent when
  met: the algebra of the scan in Proofs/OddposScan.lean and Proofs/Oddpos.lean
  (`LabelAlg.routes_of_paired`: the label routes of fully paired lists), used in
  `LabelAlg.netLabelsB_of_distinct` (Proofs/NormNet10.lean), of which the label checks of C04g and C04i
  are cases.
-/
import SymmModel.Proofs.Oddpos

namespace SymmModel.C04
open SymmModel SymmModel.KoszulP SymmModel.OddposP

/-- `transpose(transpose(x, p), q)` re-indexes like `transpose(x, compose p q)` (any list `l`
    whose positions `p` mentions are valid) -/
theorem permuted_compose {α : Type} (l : List α) (p q : List Nat) (hp : ∀ i ∈ p, i < l.length) :
    permuted (permuted l p) q = permuted l (compose p q) :=
  permuted_permuted l p q hp

theorem compose_isPerm (p q : List Nat) (n : Nat) (hp : p.Perm (List.range n))
    (hq : q.Perm (List.range n)) : (compose p q).Perm (List.range n) :=
  compose_perm hp hq

/-- S1: `koszul par (p ∘ q) = koszul par p · koszul (par ∘ p) q` — a pair of odd entries is
    reversed by the composite iff it is reversed by exactly one factor -/
theorem koszul_cocycle (par : List Bool) (p q : List Nat) (n : Nat) (hpar : par.length = n)
    (hp : p.Perm (List.range n)) (hq : q.Perm (List.range n)) :
    koszul par (some (compose p q))
      = koszul par (some p) * koszul (permuted par p) (some q) :=
  koszul_cocycle' par p q n hpar hp hq

example : [2, 0, 1].Perm (List.range 3) ∧ [1, 2, 0].Perm (List.range 3) :=
  ⟨perm_of_isPerm (by decide), perm_of_isPerm (by decide)⟩
example : compose [2, 0, 1] [0, 2, 1] = [2, 1, 0]
    ∧ permuted (permuted ['a', 'b', 'c'] [2, 0, 1]) [0, 2, 1] = ['c', 'b', 'a'] := by decide
example : koszul [true, true, true] (some (compose [2, 0, 1] [0, 2, 1])) = -1
    ∧ koszul [true, true, true] (some [2, 0, 1]) = 1
    ∧ koszul (permuted [true, true, true] [2, 0, 1]) (some [0, 2, 1]) = -1 := by decide

/-- the length hypothesis is needed (a too short parity list is re-indexed with a shift) -/
theorem koszul_cocycle_needs_length :
    koszul [true, true] (some (compose [0, 2, 1] [1, 0, 2]))
      ≠ koszul [true, true] (some [0, 2, 1]) * koszul (permuted [true, true] [0, 2, 1]) (some [1, 0, 2]) := by
  decide

/-- moving a contiguous block with `a` odd entries past a contiguous block with `b` odd entries
    costs `(-1)^(a·b)` -/
theorem block_move_sign (par : List Bool) (xs A B ys : List Nat) (n : Nat)
    (h : (xs ++ A ++ B ++ ys).Perm (List.range n)) :
    koszul par (some (xs ++ B ++ A ++ ys))
      = koszul par (some (xs ++ A ++ B ++ ys)) * (-1 : Int) ^ (oddCount par A * oddCount par B) := by
  rw [← sgn_eq_pow]; exact koszul_block_move par xs A B ys n h

/-- reversing a contiguous block with `k` odd entries costs `(-1)^(k(k-1)/2)` -/
theorem reverse_block_sign (par : List Bool) (xs A ys : List Nat) (n : Nat)
    (h : (xs ++ A ++ ys).Perm (List.range n)) :
    koszul par (some (xs ++ A.reverse ++ ys))
      = koszul par (some (xs ++ A ++ ys))
        * (-1 : Int) ^ (oddCount par A * (oddCount par A - 1) / 2) := by
  rw [← sgn_eq_pow]; exact koszul_reverse_block par xs A ys n h

example : ([4] ++ [0, 2, 1] ++ [3, 5] ++ []).Perm (List.range 6) := perm_of_isPerm (by decide)
example : oddCount [true, true, true, true, false, true] [0, 2, 1] = 3
    ∧ oddCount [true, true, true, true, false, true] [3, 5] = 2
    ∧ koszul [true, true, true, true, false, true] (some ([4] ++ [3, 5] ++ [0, 2, 1] ++ [])) = -1
    ∧ koszul [true, true, true, true, false, true] (some ([4] ++ [0, 2, 1] ++ [3, 5] ++ [])) = -1
    ∧ koszul [true, true, true, true, false, true] (some ([4] ++ [0, 2, 1].reverse ++ [3, 5])) = 1 := by
  decide

/-- `FermionicOperator.__lt__` is a strict total order on `(label, dual)`: irreflexive,
    transitive, asymmetric, and total on distinct entries — in particular on entries with
    distinct labels -/
theorem oddLt_strict_total :
    (∀ a, oddLt a a = false)
    ∧ (∀ a b c, oddLt a b = true → oddLt b c = true → oddLt a c = true)
    ∧ (∀ a b, oddLt a b = true → oddLt b a = false)
    ∧ (∀ a b, a ≠ b → oddLt a b = true ∨ oddLt b a = true)
    ∧ (∀ a b : Int × Bool, a.1 ≠ b.1 → oddLt a b = true ∨ oddLt b a = true) :=
  ⟨oddLt_irrefl, fun _ _ _ => oddLt_trans, fun _ _ => oddLt_asymm, fun _ _ => oddLt_total,
   fun _ _ => oddLt_total_of_label⟩

example : oddLt (3, true) (1, true) = true ∧ oddLt (1, true) (1, false) = true
    ∧ oddLt (1, false) (3, false) = true := by decide

/-- partial correctness, any fuel: on pairwise-distinct labels, whenever the scan returns, it
    returns a permutation of its input that is sorted w.r.t. `oddLt` -/
theorem resolveScan_sorted (fuel : Nat) (l : List (Int × Bool)) (ph : Int)
    (out : List (Int × Bool)) (ph' : Int)
    (hd : l.Pairwise (fun a b => a.1 ≠ b.1))
    (h : resolveScan fuel [] l ph = .ok (out, ph')) :
    out.Perm l ∧ out.Pairwise (fun a b => oddLt a b = true) := by
  obtain ⟨o1, o2, _⟩ := resolveScan_spec fuel [] l ph out ph' (by simpa [LabelsDistinct] using hd)
    (LabelAlg.desc_start l) h
  exact ⟨by simpa using o1, o2⟩

/-- … and the returned sign is the input sign times `(-1)^(number of inversions w.r.t. oddLt)` -/
theorem resolveScan_sign (fuel : Nat) (l : List (Int × Bool)) (ph : Int)
    (out : List (Int × Bool)) (ph' : Int)
    (hd : l.Pairwise (fun a b => a.1 ≠ b.1))
    (h : resolveScan fuel [] l ph = .ok (out, ph')) :
    ph' = ph * (-1 : Int) ^ (invR oddR l) := by
  obtain ⟨_, _, o3⟩ := resolveScan_spec fuel [] l ph out ph' (by simpa [LabelsDistinct] using hd)
    (LabelAlg.desc_start l) h
  rw [← sgn_eq_pow]; simpa using o3

/-- the sorted permutation of a list is unique, so `resolveScan_sorted` determines the output -/
theorem sorted_unique (l m : List (Int × Bool)) (hl : l.Pairwise (fun a b => oddLt a b = true))
    (hm : m.Pairwise (fun a b => oddLt a b = true)) (p : l.Perm m) : l = m :=
  oddSorted_unique hl hm p

/-- the fuel `n*n + 2*n + 4` that `resolveCombinedOddpos` passes always suffices: the scan never
    reports out-of-fuel (`Err.other`), for EVERY input (conjugate pairs and clashes included) -/
theorem resolveScan_fuel (l : List (Int × Bool)) (ph : Int) :
    resolveScan (l.length * l.length + 2 * l.length + 4) [] l ph ≠ .error Err.other :=
  resolveScan_fuel_ok l ph

/-- total correctness on pairwise-distinct labels with that fuel -/
theorem resolveScan_total (l : List (Int × Bool)) (ph : Int)
    (hd : l.Pairwise (fun a b => a.1 ≠ b.1)) :
    ∃ out, out.Perm l ∧ out.Pairwise (fun a b => oddLt a b = true) ∧
      resolveScan (l.length * l.length + 2 * l.length + 4) [] l ph
        = .ok (out, ph * (-1 : Int) ^ (invR oddR l)) := by
  rw [← sgn_eq_pow]; exact OddposP.resolveScan_total l ph hd

example : [((5 : Int), false), (7, true), (2, true), (1, false)].Pairwise (fun a b => a.1 ≠ b.1) := by
  decide
example : resolveScan 28 [] [(5, false), (7, true), (2, true), (1, false)] 1
    = .ok ([(7, true), (2, true), (1, false), (5, false)], -1)
    ∧ invR oddR [(5, false), (7, true), (2, true), (1, false)] = 3 := by decide

/-- `resolveCombinedOddpos` = `mergeOddpos` on the operands' parity and labels, then the lazy
    global sign; `mergeOddpos pa la lb` is the scan of `la ++ lb` started with the sign
    `-1` iff `pa` and `|lb|` odd -/
theorem resolveCombinedOddpos_eq_merge {R : Type} (left right new : Arr R) :
    resolveCombinedOddpos left right new
      = (mergeOddpos left.parity left.oddpos right.oddpos).map (fun r =>
          { (if r.2 == -1 then new.phaseGlobal else new) with oddpos := r.1 })
    ∧ ∀ pa la lb, mergeOddpos pa la lb
        = resolveScan ((la ++ lb).length * (la ++ lb).length + 2 * (la ++ lb).length + 4) []
            (la ++ lb) (if pa && lb.length % 2 == 1 then -1 else 1) :=
  ⟨resolveCombinedOddpos_eq left right new, fun _ _ _ => rfl⟩

/-- for pairwise-distinct labels the merge succeeds, returns the sorted merge and the sign
    `(-1)^(pa·|lb| + inversions of la ++ lb)` -/
theorem oddpos_sign (pa : Bool) (la lb : List (Int × Bool))
    (hd : (la ++ lb).Pairwise (fun a b => a.1 ≠ b.1)) :
    ∃ out, out.Perm (la ++ lb) ∧ out.Pairwise (fun a b => oddLt a b = true) ∧
      mergeOddpos pa la lb
        = .ok (out, (-1 : Int) ^ (pa.toNat * lb.length + invR oddR (la ++ lb))) := by
  rw [← sgn_eq_pow]; exact mergeOddpos_spec pa la lb hd

/-- S3 associativity: three operands `A, B, C` with parities `pa, pb, _` and pairwise-distinct
    labels.  Merging `(A,B)` then `C` and merging `A` with `(B,C)` both succeed, give the same
    final label list and the same total sign (the intermediate results have parity `pa xor pb`
    resp. `pb xor pc`; only the left operand's parity enters a merge).  The hypotheses
    `|l| % 2 = parity` of valid arrays are not needed. -/
theorem oddpos_assoc (pa pb : Bool) (la lb lc : List (Int × Bool))
    (hd : (la ++ lb ++ lc).Pairwise (fun a b => a.1 ≠ b.1)) :
    ∃ lab sab lbc sbc out s1 s2,
      mergeOddpos pa la lb = .ok (lab, sab) ∧
      mergeOddpos (xor pa pb) lab lc = .ok (out, s1) ∧
      mergeOddpos pb lb lc = .ok (lbc, sbc) ∧
      mergeOddpos pa la lbc = .ok (out, s2) ∧
      sab * s1 = sbc * s2 :=
  OddposP.oddpos_assoc pa pb la lb lc hd

example : ([((4 : Int), false)] ++ [(1, false), (6, true)] ++ [(3, false)]).Pairwise
    (fun (a b : Int × Bool) => a.1 ≠ b.1) := by decide
example : mergeOddpos true [(4, false)] [(1, false), (6, true)]
      = .ok ([(6, true), (1, false), (4, false)], -1)
    ∧ mergeOddpos (xor true false) [(6, true), (1, false), (4, false)] [(3, false)]
      = .ok ([(6, true), (1, false), (3, false), (4, false)], 1)
    ∧ mergeOddpos false [(1, false), (6, true)] [(3, false)]
      = .ok ([(6, true), (1, false), (3, false)], -1)
    ∧ mergeOddpos true [(4, false)] [(6, true), (1, false), (3, false)]
      = .ok ([(6, true), (1, false), (3, false), (4, false)], 1) := by decide

/-! ### conjugate pairs (same label, opposite dualness) -/

/-- one step of the scan at an adjacent conjugate pair, anywhere in the list (zipper state
    `pre`, cursor on `a`): the pair is removed, the cursor steps back one entry, and the sign is
    multiplied by `-1` iff the pair meets as ket-then-bra (`b.dual`) -/
theorem resolveScan_annihilate_step (f : Nat) (pre : List (Int × Bool)) (a b : Int × Bool)
    (rest : List (Int × Bool)) (ph : Int) (h1 : a.1 = b.1) (h2 : a.2 ≠ b.2) :
    resolveScan (f + 1) pre (a :: b :: rest) ph
      = resolveScan f pre.tail (pre.head?.toList ++ rest) (if b.2 then -ph else ph) :=
  resolveScan_annihilate f pre a b rest ph (by simp [h1]) (by simpa using h2)

/-- a list `xs ++ a :: b :: ys` whose prefix up to `a` is sorted with distinct labels: the scan
    walks to the pair, annihilates it with sign `-1` iff `b.dual`, and carries on with
    `xs ++ ys` from one entry before the gap -/
theorem resolveScan_annihilate_adjacent (xs : List (Int × Bool)) (a b : Int × Bool)
    (ys : List (Int × Bool)) (f : Nat) (ph : Int)
    (hs : (xs ++ [a]).Pairwise (fun x y => oddLt x y = true))
    (hd : (xs ++ [a]).Pairwise (fun x y => x.1 ≠ y.1))
    (h1 : a.1 = b.1) (h2 : a.2 ≠ b.2) :
    resolveScan (f + 1 + xs.length) [] (xs ++ a :: b :: ys) ph
      = resolveScan f xs.reverse.tail (xs.reverse.head?.toList ++ ys)
          (if b.2 then -ph else ph) :=
  OddposP.resolveScan_annihilate_adjacent xs a b ys f ph hs hd h1 h2

/-- a lone conjugate pair: ket-then-bra gives `-1`, bra-then-ket `+1`, nothing remains -/
theorem resolveScan_pair (f : Nat) (a b : Int × Bool) (ph : Int) (h1 : a.1 = b.1) (h2 : a.2 ≠ b.2) :
    resolveScan (f + 2) [] [a, b] ph = .ok ([], if b.2 then -ph else ph) :=
  OddposP.resolveScan_pair f a b ph h1 h2

/-- equal label and equal dualness is the code's `ValueError` -/
theorem resolveScan_clash_step (f : Nat) (pre : List (Int × Bool)) (a b : Int × Bool)
    (rest : List (Int × Bool)) (ph : Int) (h1 : a.1 = b.1) (h2 : a.2 = b.2) :
    resolveScan (f + 1) pre (a :: b :: rest) ph = .error Err.value :=
  resolveScan_clash f pre a b rest ph (by simp [h1]) (by simp [h2])

example : resolveScan 40 [] [(9, true), (2, false), (2, true), (4, false)] 1
      = .ok ([(9, true), (4, false)], -1)
    ∧ resolveScan 40 [] [(9, true), (2, true), (2, false), (4, false)] 1
      = .ok ([(9, true), (4, false)], 1)
    ∧ resolveScan 40 [] [(2, true), (2, true)] 1 = .error Err.value := by decide

end SymmModel.C04
