/-
  SymmModel.Props.C14b — second part of property C14 ("operations never modify their operands unless
  asked to; every in-place form produces, in place, exactly the value of the out-of-place form").

  (1) `inplace_same_value` for the in-place forms with a SECOND operand (`Props/C14.lean` has the
      one-operand forms): `__iadd__/__isub__/__imul__/__itruediv__/__ipow__` with a block array or block vector
      (`Op.binaryA`, `Op.binaryF`) incl. `x += x`, and `drop_misaligned_sectors(inplace=True)`
      (`Op.alignAxes`, two targets); the other operand is untouched (`other_operand_untouched`).
  (2) the frame theorems for the public operations the `Op` table does not list (`Op2` of
      `Model/Heap2.lean`), and for programs of calls mixing both tables (`GCall`).
  (3) the exact aliasing of the internal-use entry points that keep the caller's dict.
-/
import SymmModel.Props.C14
import SymmModel.Proofs.Heap2Inplace
import SymmModel.Proofs.Heap2Lemmas
namespace SymmModel.C14
open SymmModel.Heap

/-- **`x ∘= y` for abelian arrays and block vectors** (`__iadd__`: `.outer`, `__isub__/__itruediv__/
    __ipow__`: `.strict`, `__imul__`: `.inner`).  `x` is any well-formed array object, `y` ANY array
    object with a block dict — another array, an array sharing dicts with `x`, or `x` itself.  The
    in-place call returns `x`, and `x` ends with exactly the content `c` of the object `r` the
    out-of-place call returns from the same heap; both create the same buffers; `c` is the explicit
    function `binPure` of `x`'s content and `y`'s block dict. -/
theorem inplace_same_value_binaryA (m : Missing) {h : Heap} {x y : ObjId} {a ay : ArrObj} {bd ob : Dict}
    {pd : Option Dict} (wx : WFArr h x a bd pd) (hy : h.arrOf y = some ay)
    (hyb : h.get? ay.blocks = some (.dict ob)) :
    ∃ r c, ((Op.binaryA m).run true h [x, y]).2 = [x] ∧ ((Op.binaryA m).run false h [x, y]).2 = [r] ∧
      content ((Op.binaryA m).run true h [x, y]).1 x = some c ∧
      content ((Op.binaryA m).run false h [x, y]).1 r = some c ∧
      ((Op.binaryA m).run true h [x, y]).1.bufs = ((Op.binaryA m).run false h [x, y]).1.bufs ∧
      (c, ((Op.binaryA m).run true h [x, y]).1.bufs) = binPure m (cont a bd pd, h.bufs) ob := by
  obtain ⟨hi, ho, r, q, c, ri, ro, ci, co, hb, hv⟩ := binaryA_runs m wx hy hyb
  rw [run_of_prog (operands := [x, y]) ri, run_of_prog (operands := [x, y]) ro]
  exact ⟨r, c, rfl, rfl, ci, co, hb, hv⟩

/-- the self-aliased case `x += x`, `x *= x`, … is an instance -/
theorem inplace_same_value_binaryA_self (m : Missing) {h : Heap} {x : ObjId} {a : ArrObj} {bd : Dict}
    {pd : Option Dict} (wx : WFArr h x a bd pd) :
    ∃ r c, ((Op.binaryA m).run true h [x, x]).2 = [x] ∧ ((Op.binaryA m).run false h [x, x]).2 = [r] ∧
      content ((Op.binaryA m).run true h [x, x]).1 x = some c ∧
      content ((Op.binaryA m).run false h [x, x]).1 r = some c ∧
      ((Op.binaryA m).run true h [x, x]).1.bufs = ((Op.binaryA m).run false h [x, x]).1.bufs := by
  obtain ⟨r, c, h1, h2, h3, h4, h5, _⟩ :=
    inplace_same_value_binaryA m wx (arrOf_eq_some.mpr wx.arr) wx.blk
  exact ⟨r, c, h1, h2, h3, h4, h5⟩

/-- **`x ∘= y` for fermionic arrays** (`FermionicArray._binary_blockwise_op`: pending signs of `x` are
    multiplied in first, `y` is replaced by a synchronised copy if it has pending signs), `y` sharing no
    object with `x` -/
theorem inplace_same_value_binaryF (m : Missing) {h : Heap} {x y : ObjId} {a ay : ArrObj} {bd bo : Dict}
    {pd po : Option Dict} (wx : WFArr h x a bd pd) (wy : WFArr h y ay bo po) (hne : y ≠ x)
    (hdis : ∀ d ∈ dictsOf h y, d ∉ dictsOf h x) :
    ∃ r c, ((Op.binaryF m).run true h [x, y]).2 = [x] ∧ ((Op.binaryF m).run false h [x, y]).2 = [r] ∧
      content ((Op.binaryF m).run true h [x, y]).1 x = some c ∧
      content ((Op.binaryF m).run false h [x, y]).1 r = some c ∧
      ((Op.binaryF m).run true h [x, y]).1.bufs = ((Op.binaryF m).run false h [x, y]).1.bufs ∧
      (c, ((Op.binaryF m).run true h [x, y]).1.bufs) = bodyFPure m (cont a bd pd) (cont ay bo po) h.bufs := by
  obtain ⟨hi, ho, r, e1, e2, c, ri, ro, ci, co, hb, hv⟩ := binaryF_runs m wx wy hne hdis
  rw [run_of_prog (operands := [x, y]) ri, run_of_prog (operands := [x, y]) ro]
  exact ⟨r, c, rfl, rfl, ci, co, hb, hv⟩

/-- **`x ∘= x` for a fermionic array without pending signs** -/
theorem inplace_same_value_binaryF_self (m : Missing) {h : Heap} {x : ObjId} {a : ArrObj} {bd : Dict}
    {pd : Option Dict} (wx : WFArr h x a bd pd) (hclean : pd.getD [] = []) :
    ∃ r c, ((Op.binaryF m).run true h [x, x]).2 = [x] ∧ ((Op.binaryF m).run false h [x, x]).2 = [r] ∧
      content ((Op.binaryF m).run true h [x, x]).1 x = some c ∧
      content ((Op.binaryF m).run false h [x, x]).1 r = some c ∧
      ((Op.binaryF m).run true h [x, x]).1.bufs = ((Op.binaryF m).run false h [x, x]).1.bufs := by
  obtain ⟨hi, ho, r, e1, e2, c, ri, ro, ci, co, hb, _⟩ := binaryF_runs_self m wx hclean
  rw [run_of_prog (operands := [x, x]) ri, run_of_prog (operands := [x, x]) ro]
  exact ⟨r, c, rfl, rfl, ci, co, hb⟩

/- `x ∘= x` for a fermionic array WITH pending signs: there the two runs do NOT create the same buffer
   table — out of place `x.copy().phase_sync()` and `x.phase_sync()` negate the same blocks twice, in place
   once (`binaryF_self_pending_bufs_differ` below) — so the conclusion `bufs = bufs` of
   `inplace_same_value` is false; what holds is equality of the contents with every buffer id replaced by
   its provenance tree (kernel tag applied to the trees of its arguments).  That is checked below on a
   concrete heap (`binaryF_self_pending_same_provenance`) and by the harness on the real code (`x += x`
   etc. with pending signs), and proved for all heaps, under every interpretation of the kernels, in
   `Props/C14c.lean` (`inplace_same_value_binaryF_self_sem`, `inplace_same_value_binaryF_self_prov`). -/

/-- provenance of a buffer, as the preorder listing of its tree: `[1, tag, arity, subtrees…]` for a
    kernel result, `[0, b]` for an id outside the table (a prefix-free code of the tree) -/
def bufTree (bufs : Bufs) : Nat → BufId → List Nat
  | 0, b => [0, b]
  | fuel + 1, b =>
    match bufs[b]? with
    | some (tag, args) => 1 :: tag :: args.length :: args.flatMap (bufTree bufs fuel)
    | none => [0, b]

/-- the content of an array with every buffer id replaced by its provenance -/
structure ProvContent where
  indices : Nat
  charge : Int
  blocks : List (Key × List Nat)
  phases : Option Dict
  oddpos : Nat
  deriving DecidableEq

def provContent (h : Heap) (x : ObjId) : Option ProvContent :=
  (content h x).map fun c =>
    ⟨c.indices, c.charge, c.blocks.map (fun e => (e.1, bufTree h.bufs h.bufs.length e.2.toNat)), c.phases, c.oddpos⟩

theorem binaryF_self_pending_bufs_differ :
    ((Op.binaryF .outer).run true h0 [2, 2]).1.bufs ≠ ((Op.binaryF .outer).run false h0 [2, 2]).1.bufs := by
  decide +kernel

def provSame (m : Missing) : Prop :=
  provContent ((Op.binaryF m).run true h0 [2, 2]).1 2 =
    provContent ((Op.binaryF m).run false h0 [2, 2]).1 (((Op.binaryF m).run false h0 [2, 2]).2.getD 0 0) ∧
  (provContent ((Op.binaryF m).run true h0 [2, 2]).1 2).isSome = true

/-- How the concrete heaps below are compared: the derived `DecidableEq ProvContent` casts along each
    field equation, which makes the kernel unify the two unevaluated runs, whereas equality of tuples is
    decided without casts. -/
theorem optProvContent_ext {p q : Option ProvContent}
    (h1 : p.map (fun c => (c.indices, c.charge, c.oddpos)) = q.map fun c => (c.indices, c.charge, c.oddpos))
    (h2 : p.map (fun c => (c.blocks, c.phases)) = q.map fun c => (c.blocks, c.phases)) : p = q := by
  match p, q with
  | none, none => rfl
  | some a, some b =>
    cases a
    cases b
    simp only [Option.map_some, Option.some.injEq, Prod.mk.injEq] at h1 h2
    simp only [h1, h2]
  | none, some _ => cases h1
  | some _, none => cases h1

theorem binaryF_self_pending_same_provenance : provSame .outer ∧ provSame .strict ∧ provSame .inner := by
  have check : ∀ m, _ → _ → _ → provSame m := fun m h1 h2 h3 => ⟨optProvContent_ext h1 h2, h3⟩
  exact ⟨check _ (by decide +kernel) (by decide +kernel) (by decide +kernel),
    check _ (by decide +kernel) (by decide +kernel) (by decide +kernel),
    check _ (by decide +kernel) (by decide +kernel) (by decide +kernel)⟩

/-! ### `drop_misaligned_sectors(a, b, axes_a, axes_b, inplace=True)` -/

/-- **both targets end with the values of the two out-of-place results** (`a`, `b` sharing no object) -/
theorem inplace_same_value_align (p : AlignP) {h : Heap} {x y : ObjId} {a ay : ArrObj} {bd bo : Dict}
    {pd po : Option Dict} (wx : WFArr h x a bd pd) (wy : WFArr h y ay bo po) (hne : y ≠ x)
    (hdis : ∀ d ∈ dictsOf h y, d ∉ dictsOf h x) :
    ∃ r1 r2 c1 c2, ((Op.alignAxes p).run true h [x, y]).2 = [x, y] ∧
      ((Op.alignAxes p).run false h [x, y]).2 = [r1, r2] ∧
      content ((Op.alignAxes p).run true h [x, y]).1 x = some c1 ∧
      content ((Op.alignAxes p).run true h [x, y]).1 y = some c2 ∧
      content ((Op.alignAxes p).run false h [x, y]).1 r1 = some c1 ∧
      content ((Op.alignAxes p).run false h [x, y]).1 r2 = some c2 ∧
      ((Op.alignAxes p).run true h [x, y]).1.bufs = ((Op.alignAxes p).run false h [x, y]).1.bufs := by
  obtain ⟨hi, ho, r1, r2, c1, c2, ri, ro, cx, cy, c1', c2', hb, _, _⟩ := align_runs p wx wy hne hdis
  rw [run_of_prog (operands := [x, y]) ri, run_of_prog (operands := [x, y]) ro]
  exact ⟨r1, r2, c1, c2, rfl, rfl, cx, cy, c1', c2', hb⟩

/-- **the self-aliased call** `drop_misaligned_sectors(a, a, axes_a, axes_b, inplace=True)`: the second
    `modify` overwrites the first, so the one object ends with the value of the SECOND out-of-place
    result (`a` filtered as the right operand); the first result's value is not produced.  (symmray
    never calls the in-place form itself; `align_axes` and `tensordot` use the out-of-place form.) -/
theorem align_inplace_self (p : AlignP) {h : Heap} {x : ObjId} {a : ArrObj} {bd : Dict} {pd : Option Dict}
    (wx : WFArr h x a bd pd) :
    ∃ r1 r2 c2, ((Op.alignAxes p).run true h [x, x]).2 = [x, x] ∧
      ((Op.alignAxes p).run false h [x, x]).2 = [r1, r2] ∧
      content ((Op.alignAxes p).run true h [x, x]).1 x = some c2 ∧
      content ((Op.alignAxes p).run false h [x, x]).1 r2 = some c2 ∧
      ((Op.alignAxes p).run true h [x, x]).1.bufs = ((Op.alignAxes p).run false h [x, x]).1.bufs := by
  obtain ⟨hi, ho, r1, r2, c2, ri, ro, cx, c2', hb⟩ := align_runs_self p wx
  rw [run_of_prog (operands := [x, x]) ri, run_of_prog (operands := [x, x]) ro]
  exact ⟨r1, r2, c2, rfl, rfl, cx, c2', hb⟩

/-- **frame of the in-place forms**: a well-formed array `y` none of whose objects (itself, its block
    dict, its sign dict) is reachable from the operands the call was asked to modify is, after the
    call, the same array object pointing to the same dict objects with the same ordered items -/
theorem other_operand_untouched (op : Op) (inplace : Bool) (h : Heap) (operands : List ObjId)
    (hn : op.arity ≤ operands.length) (htg : ∀ x ∈ targetObjs op inplace operands, x < h.size)
    {y : ObjId} {ay : ArrObj} {bo : Dict} {po : Option Dict} (wy : WFArr h y ay bo po)
    (hy : ∀ i ∈ reachable h [y], i ∉ reachable h (targetObjs op inplace operands)) :
    WFArr (op.run inplace h operands).1 y ay bo po := by
  have hu := op_frame_inplace op inplace h operands hn htg (reachable h [y]) hy
  have hr : reachable h [y] = y :: dictsOfArr ay := by
    simp [reachable, dictsOf_of_get? wy.arr]
  refine ⟨hu y (by simp [hr]) _ wy.arr, hu _ (by simp [hr, dictsOfArr]) _ wy.blk, ?_, wy.phn⟩
  intro p hp
  obtain ⟨d, e, hd, hne⟩ := wy.ph p hp
  exact ⟨d, e, hu p (by simp [hr, dictsOfArr, hp]) _ hd, hne⟩

/-- for `x ∘= y`, `y` not `x` and sharing no dict with it: `y` keeps its content -/
theorem binary_other_untouched (op : Op) (hop : (∃ m, op = .binaryA m) ∨ (∃ m, op = .binaryF m))
    {h : Heap} {x y : ObjId} {a ay : ArrObj} {bd bo : Dict} {pd po : Option Dict}
    (wx : WFArr h x a bd pd) (wy : WFArr h y ay bo po) (hne : y ≠ x)
    (hdis : ∀ d ∈ dictsOf h y, d ∉ dictsOf h x) :
    WFArr (op.run true h [x, y]).1 y ay bo po ∧ content (op.run true h [x, y]).1 y = content h y := by
  have htg : targetObjs op true [x, y] = [x] := by
    rcases hop with ⟨m, rfl⟩ | ⟨m, rfl⟩ <;>
      simp [targetObjs, Op.targets, Op.alwaysInplace, Op.neverInplace, envGet]
  have har : op.arity = 2 := by rcases hop with ⟨m, rfl⟩ | ⟨m, rfl⟩ <;> rfl
  have w := other_operand_untouched op true h [x, y] (by simp [har])
    (by rw [htg]; intro z hz; simp at hz; subst hz; exact get?_lt wx.arr) wy (by
      rw [htg]
      have hxk : dictsOf h x = dictsOfArr a := dictsOf_of_get? wx.arr
      have hyk : dictsOf h y = dictsOfArr ay := dictsOf_of_get? wy.arr
      intro i hi hi'
      simp only [reachable, List.flatMap_cons, List.flatMap_nil, List.append_nil, List.mem_cons] at hi hi'
      have kindA : ∀ z b q d, WFArr h z b q d → ∀ j ∈ dictsOf h z, ∀ c, h.get? j ≠ some (.arr c) := by
        intro z b q d wz j hj c hc
        rw [dictsOf_of_get? wz.arr] at hj
        simp only [dictsOfArr, List.mem_cons, Option.mem_toList] at hj
        rcases hj with rfl | e
        · rw [wz.blk] at hc; cases hc
        · obtain ⟨d', _, hd', _⟩ := wz.ph _ e
          rw [hd'] at hc; cases hc
      rcases hi with rfl | hi
      · rcases hi' with e | hi'
        · exact hne e
        · exact kindA x a bd pd wx _ hi' _ wy.arr
      · rcases hi' with e | hi'
        · subst e; exact kindA y ay bo po wy _ hi _ wx.arr
        · exact hdis i hi hi')
  exact ⟨w, by rw [w.content, wy.content]⟩

theorem op2_spec_ok (op : Op2) : op.spec.OK := op2_ok op

/-- **`op_frame` for the second table**: every object that existed before the call — in particular
    everything reachable from the operands, whatever they share — is identical after it -/
theorem op2_frame_all (op : Op2) (h : Heap) (operands : List ObjId) (hn : op.arity ≤ operands.length)
    (objs : List ObjId) : Unchanged h (op.run h operands).1 objs := by
  intro i _ o ho
  exact spec_frame_all op.spec (op2_ok op) h operands hn rfl i o ho

theorem op2_frame (op : Op2) (h : Heap) (operands : List ObjId) (hn : op.arity ≤ operands.length) :
    Unchanged h (op.run h operands).1 (reachable h operands) := op2_frame_all op h operands hn _

/-- **`no_shared_dict` for the second table**: every returned object (array, or the bare dict of
    `get_params`) and every dict a returned array points to was allocated by the call … -/
theorem op2_result_objects_new (op : Op2) (h : Heap) (operands : List ObjId) (hn : op.arity ≤ operands.length) :
    ∀ r ∈ (op.run h operands).2, h.size ≤ r ∧ ∀ d ∈ dictsOf (op.run h operands).1 r, h.size ≤ d :=
  spec_result_objects_new op.spec (op2_ok op) h operands hn rfl

/-- … hence shares no mutable object with the operands (or with anything else that existed) -/
theorem op2_no_shared_dict (op : Op2) (h : Heap) (operands : List ObjId) (hn : op.arity ≤ operands.length)
    (hvalid : ∀ d ∈ reachable h operands, d < h.size) :
    ∀ d, d ∈ reachable (op.run h operands).1 (op.run h operands).2 → d ∉ reachable h operands := by
  intro d hd hd'
  simp only [reachable, List.mem_flatMap, List.mem_cons] at hd
  obtain ⟨r, hr, hdr⟩ := hd
  have hnew := op2_result_objects_new op h operands hn r hr
  have h2 : d < h.size := hvalid d hd'
  rcases hdr with rfl | hdr
  · exact absurd h2 (Nat.not_lt.mpr hnew.1)
  · exact absurd h2 (Nat.not_lt.mpr (hnew.2 d hdr))

/-- **programs mixing both tables** (`prog_frame` + `result_mutation_safe` in one): any program of calls
    in which a call is only ever asked to modify results of earlier calls of the program — any
    length, any sharing of operands, the same object passed twice, results of either table abused in
    place — leaves every object that existed before it identical -/
theorem gprog_frame_all (cs : List GCall) (h : Heap) (env : Env)
    (hcs : GCallsOwned (List.replicate env.length false) cs) (objs : List ObjId) :
    Unchanged h (runG cs h env).1 objs := by
  intro i _ o ho
  exact gprog_frame cs h env hcs i o ho

/-- **`result_mutation_safe` for the second table** (and again for the first): run any operation out
    of place, then any program of calls of both tables that is only ever asked to modify the results.
    (The `2`: operations are given as `OpSpec`, which both tables are instances of;
    `result_mutation_safe` of C14 is the same statement for an `Op` of the first table.) -/
theorem result_mutation_safe2 (s : OpSpec) (ok : s.OK) (h : Heap) (operands : List ObjId)
    (hn : s.arity ≤ operands.length) (hout : s.targets = []) (cs : List GCall)
    (hcs : GCallsOwned (List.replicate operands.length false ++ List.replicate s.results.length true) cs)
    (objs : List ObjId) :
    Unchanged h (runG cs (s.run h operands).1 (operands ++ (s.run h operands).2)).1 objs := by
  intro i _ o ho
  exact g_result_mutation_safe s ok h operands hn hout cs hcs i o ho

/-- `x.copy_with(blocks=d)` with an EXISTING dict object `d`: nothing that existed changes, the new
    array's block dict IS `d`, its sign dict is new — and a later in-place effect on the result
    (`y.blocks[k] = …`, `y *= 2`, `del y.blocks[k]`) is a mutation of `d` -/
theorem copy_with_caller_blocks_aliases {h : Heap} {x : ObjId} {a : ArrObj} {bd : Dict} {pd : Option Dict}
    (wx : WFArr h x a bd pd) {d : DictId} {l : Dict} (hd : h.get? d = some (.dict l)) :
    let r := copyWithCallerBlocks h x d
    Ext h r.1 ∧ h.size ≤ r.2 ∧
    (∃ ar, r.1.arrOf r.2 = some ar ∧ ar.blocks = d ∧ ∀ p, ar.phases = some p → h.size ≤ p) ∧
    (∀ k, (runAct (.bPop k) r.1 r.2).get? d = some (.dict (l.pop k))) ∧
    (∀ k b, (runAct (.bPut k b) r.1 r.2).get? d = some (.dict (l.set k b))) := by
  intro r
  have hr : r = copyWithCallerBlocks h x d := rfl
  unfold copyWithCallerBlocks at hr
  rw [arrOf_eq_some.mpr wx.arr] at hr
  have s2 := phasesFor_spec h a none
  have e1 : Ext h r.1 := by rw [hr]; exact s2.1.ext.trans (alloc_ext _ _)
  have hid : r.2 = (phasesFor h a none).1.size := by rw [hr]; rfl
  have harr : r.1.arrOf r.2 = some { a with blocks := d, phases := (phasesFor h a none).2 } := by
    rw [arrOf_eq_some, hr]; exact alloc_get?_new _ _
  have hd1 : r.1.get? d = some (.dict l) := by rw [e1.get? (get?_lt hd)]; exact hd
  refine ⟨e1, by rw [hid]; exact s2.1.ext.size, ⟨_, harr, rfl, s2.2⟩, ?_, ?_⟩
  · intro k
    simp only [runAct, harr, dictPop]
    exact get?_updDict_self hd1 _
  · intro k b
    simp only [runAct, harr, dictSet]
    exact get?_updDict_self hd1 _

/-- `x.copy_with(phases=d)` with an existing dict object `d` (fermionic `x`): the new array's sign dict
    IS `d`; `phase_global / phase_sector / phase_sync (inplace=True)` on the result mutate `d` -/
theorem copy_with_caller_phases_aliases {h : Heap} {x : ObjId} {a : ArrObj} {bd pl : Dict}
    (wx : WFArr h x a bd (some pl)) {d : DictId} {l : Dict} (hd : h.get? d = some (.dict l)) :
    let r := copyWithCallerPhases h x d
    Ext h r.1 ∧ h.size ≤ r.2 ∧
    (∃ ar, r.1.arrOf r.2 = some ar ∧ ar.phases = some d ∧ h.size ≤ ar.blocks) ∧
    (∀ k, (runAct (.pPop k) r.1 r.2).get? d = some (.dict (l.pop k))) ∧
    (runAct .pPopItem r.1 r.2).get? d = some (.dict l.popItem) := by
  intro r
  have hr : r = copyWithCallerPhases h x d := rfl
  unfold copyWithCallerPhases at hr
  rw [arrOf_eq_some.mpr wx.arr] at hr
  obtain ⟨p, hp⟩ : ∃ p, a.phases = some p := by
    cases hq : a.phases with
    | none => have := wx.phn hq; cases this
    | some p => exact ⟨p, rfl⟩
  have s1 := blocksFor_spec h a none
  have e1 : Ext h r.1 := by rw [hr]; exact s1.1.ext.trans (alloc_ext _ _)
  have hid : r.2 = (blocksFor h a none).1.size := by rw [hr]; rfl
  have harr : r.1.arrOf r.2 =
      some { a with blocks := (blocksFor h a none).2, phases := a.phases.map fun _ => d } := by
    rw [arrOf_eq_some, hr]; exact alloc_get?_new _ _
  have hd1 : r.1.get? d = some (.dict l) := by rw [e1.get? (get?_lt hd)]; exact hd
  refine ⟨e1, by rw [hid]; exact s1.1.ext.size, ⟨_, harr, by simp [hp], s1.2.ge⟩, ?_, ?_⟩
  · intro k
    simp only [runAct, harr, onPhases, dictPop, hp, Option.map_some]
    exact get?_updDict_self hd1 _
  · simp only [runAct, harr, onPhases, dictPopItem, hp, Option.map_some]
    exact get?_updDict_self hd1 _

/-- two fermionic arrays `x = 2`, `y = 5`, each with two blocks and one pending sign, sharing nothing -/
def h2 : Heap :=
  { objs := [.dict [(0, 0), (1, 1)], .dict [(1, -1)],
             .arr { indices := 5, charge := 1, blocks := 0, phases := some 1, oddpos := 3 },
             .dict [(1, 2), (2, 3)], .dict [(2, -1)],
             .arr { indices := 5, charge := 1, blocks := 3, phases := some 4, oddpos := 0 }],
    bufs := [(0, []), (0, []), (0, []), (0, [])] }

theorem wfx2 : WFArr h2 2 { indices := 5, charge := 1, blocks := 0, phases := some 1, oddpos := 3 }
    [(0, 0), (1, 1)] (some [(1, -1)]) :=
  ⟨rfl, rfl, fun p hp => by cases hp; exact ⟨_, rfl, rfl, by decide⟩, fun hn => by cases hn⟩

theorem wfy2 : WFArr h2 5 { indices := 5, charge := 1, blocks := 3, phases := some 4, oddpos := 0 }
    [(1, 2), (2, 3)] (some [(2, -1)]) :=
  ⟨rfl, rfl, fun p hp => by cases hp; exact ⟨_, rfl, rfl, by decide⟩, fun hn => by cases hn⟩

-- the hypotheses of `inplace_same_value_binaryF` / `_align` / `binary_other_untouched` hold for (x, y):
example : (5 : ObjId) ≠ 2 ∧ ∀ d ∈ dictsOf h2 5, d ∉ dictsOf h2 2 := by decide
-- … and the calls really do something: `x += y` in place changes `x`, which ends with three blocks;
-- `y` is as before; the out-of-place call returns the new object 8 with the same content
example : content ((Op.binaryF .outer).run true h2 [2, 5]).1 2 ≠ content h2 2 ∧
    ((content ((Op.binaryF .outer).run true h2 [2, 5]).1 2).map fun c => c.blocks.keys) = some [0, 1, 2] ∧
    content ((Op.binaryF .outer).run true h2 [2, 5]).1 5 = content h2 5 ∧
    ((Op.binaryF .outer).run false h2 [2, 5]).2 = [8] ∧
    content ((Op.binaryF .outer).run false h2 [2, 5]).1 8 = content ((Op.binaryF .outer).run true h2 [2, 5]).1 2 := by
  decide +kernel
-- `x *= x` (abelian code path on the same object twice): the hypotheses of `inplace_same_value_binaryA`
example : h2.arrOf 2 = some { indices := 5, charge := 1, blocks := 0, phases := some 1, oddpos := 3 } := rfl
example : content ((Op.binaryA .inner).run true h2 [2, 2]).1 2 ≠ content h2 2 := by decide +kernel
-- the hypothesis of `inplace_same_value_binaryF_self` (no pending sign) holds for an array with an empty sign dict
example : (some ([] : Dict)).getD [] = [] := rfl

def alignP0 : AlignP := ⟨fun _ b k => b.has k, fun a _ k => a.has k, fun c _ => c.indices + 1, fun _ c => c.indices + 1⟩
-- in-place alignment drops the unmatched block of each operand
example : ((content ((Op.alignAxes alignP0).run true h2 [2, 5]).1 2).map fun c => c.blocks.keys) = some [1] ∧
    ((content ((Op.alignAxes alignP0).run true h2 [2, 5]).1 5).map fun c => c.blocks.keys) = some [1] := by
  decide +kernel

/-- `drop_misaligned_sectors(a, a, …, inplace=True)` with different keep rules for the two roles: the
    object ends with the SECOND result's value, which differs from the first result's -/
def alignP1 : AlignP := ⟨fun _ _ k => k == 0, fun _ _ k => k == 1, fun c _ => c.indices, fun _ c => c.indices⟩

theorem align_self_loses_first_result :
    let ri := (Op.alignAxes alignP1).run true h2 [2, 2]
    let ro := (Op.alignAxes alignP1).run false h2 [2, 2]
    content ri.1 2 = content ro.1 (ro.2.getD 1 0) ∧ content ri.1 2 ≠ content ro.1 (ro.2.getD 0 0) := by
  decide +kernel

-- second table: a fermionic `x @ y` (with `other.phase_flip(0)`), then abusing the result in place, is a
-- program whose calls are only asked to modify variable 2 = the result
def opM : Op2 := .matmulF (some fun k => k % 2 == 1)
  ⟨fun a b => (a.filter fun e => b.has e.1).map fun e => (e.1, [e.2.toNat, (b.getD e.1 0).toNat]),
   fun a b => a.indices + b.indices, fun a b => a.charge + b.charge⟩
  (fun a _ => a.oddpos % 2 == 1) (fun a b => a.oddpos + b.oddpos) false

example : opM.arity ≤ [2, 5].length ∧ ∀ d ∈ reachable h2 [2, 5], d < h2.size := by decide
example : (opM.run h2 [2, 5]).2 = [18] ∧ dictsOf (opM.run h2 [2, 5]).1 18 = [16, 17] ∧
    ((content (opM.run h2 [2, 5]).1 18).map fun c => c.blocks.keys) = some [1] ∧
    content (opM.run h2 [2, 5]).1 2 = content h2 2 ∧ content (opM.run h2 [2, 5]).1 5 = content h2 5 := by
  decide +kernel
example : GCallsOwned (List.replicate [2, 5].length false ++ List.replicate opM.spec.results.length true)
    [⟨(Op.phaseGlobal).spec true, [2]⟩, ⟨(Op.binaryF .outer).spec true, [2, 0]⟩,
     ⟨(Op2.clipF tFn).spec, [2]⟩, ⟨(Op.phaseSync).spec true, [3]⟩, ⟨Op2.getParams.spec, [0]⟩] := by
  refine ⟨op_spec_ok _ _, by decide, by decide, op_spec_ok _ _, by decide, by decide,
    op2_spec_ok _, by decide, by decide, op_spec_ok _ _, by decide, by decide, op2_spec_ok _, by decide, by decide, trivial⟩
-- `get_params` returns a new bare dict (object 6) holding `x`'s items
example : (Op2.getParams.run h2 [2]).2 = [6] ∧ (Op2.getParams.run h2 [2]).1.dictOf 6 = h2.dictOf 0 := by decide +kernel
-- `copy_with(blocks=d)` with `d` = the block dict of ANOTHER live array `y`: deleting a block of the
-- result deletes it from `y`
example : content (runAct (.bPop 1) (copyWithCallerBlocks h2 2 3).1 (copyWithCallerBlocks h2 2 3).2) 5 ≠ content h2 5 := by
  decide +kernel


end SymmModel.C14
