/-
  Property C10, norm clause — "contracting a fermionic array with its conjugate over all indices
  gives its squared norm whenever every index is ket-like or the dual-leg sign option is used,
  for even and odd parity, in either operand order".

  About the model definitions `Arr.conjF`, `Arr.tensordotF` (Model/Fermi.lean: transpositions,
  virtual reversal, ket-then-bra flips, synchronisation, abelian contraction,
  `resolveCombinedOddpos`), `tensordotA`/`tensordotBlockwise` (Model/Tdot.lean), for EVERY valid
  fermionic array `x` (`x.validB`, any rank `n`, any symmetry, any pending-sign table), contracted
  in blockwise mode over all `n` axes paired in order.

  Scalars: any `R` with `[AddMonoid R] [Mul R] [Neg R] [Conj R]` and the laws `Norm.NormLaws`
  (`- - x = x`, `-0 = 0`, `(-x)*y = -(x*y) = x*(-y)`, `-(x+y) = -x + -y`, `conj (-x) = - conj x`,
  `conj (conj x) = x`, `conj 0 = 0`); no commutativity or distributivity is used.  Instances:
  `Int` (trivial conjugation), `GRat` (`Norm.normLaws_GRat`, additive structure of `Props/C02`).

  Labels.  `validB` forces `|oddpos|` odd ⇔ odd parity.  The theorem holds for no label (even
  parity) and for ONE NON-DUAL label `(l, false)` (odd parity) — the label a freshly created odd
  array carries.  For one DUAL label `(l, true)` (e.g. `x = y.conj()`) the result is MINUS the
  squared norm in both operand orders (`norm_conj_dual_label`; known finding
  `norm-odd-dual-label`, consistent with `C10.conjF_conjF_general`: `conj ∘ conj = -1` on odd
  arrays for `phase_dual = True`).

  Proof structure (Proofs/NormLemmas.lean, Proofs/NormNetLabels.lean): (i) both transpositions are by the identity
  (`transposeF_id_obsEq`, `KoszulP.koszul_id'`) and, by the canonical-form theorem of C09, can be removed
  under the synchronisation; (ii) `tensordotF_full`: what remains is the abelian contraction of
  `prepL a` (ket-like legs flipped, synchronised) with `prepR b` (virtually reversed,
  synchronised), then the label resolution — sizes are equal, so the flips are on the left
  operand in both orders; (iii) `norm_sector_sign_left/right`: the sign on a sector pair `(s,s)`;
  (iv) `norm_abelian_left/right`: `C02.tensordot_scalar` on the diagonal pairing; (v) the labels:
  the scan of a conjugated list followed by the list annihilates every pair and leaves `-1` per dual
  label (`NormNet.resolveScan_nested`), whence `NormNet.norm_left_signed/right_signed`.
-/
import SymmModel.Proofs.NormNetLabels
import SymmModel.Props.C09

namespace SymmModel.C10
open SymmModel Lazy Norm

section signs
variable {S : Type} [Zero S] [Neg S] [Conj S]

/-- (iii) **norm_sector_sign**, order `(conj x, x)`: flips × conj's signs × virtual reversal is
    conj's global sign alone -/
theorem norm_sector_sign_left {x : Arr S} (pd : Bool)
    (hd : pd = true ∨ ∀ ix ∈ x.indices, ix.dual = false) {s : Sector} (hl : s.length = x.ndim) :
    flipSign (x.conjF true pd).sym (flipAxes (x.conjF true pd)) s
      * (conjTotSign x true pd s * koszul (x.parities s) (some (List.range x.ndim).reverse))
      = if conjGlob x true then -1 else 1 :=
  Norm.norm_sector_sign_left pd hd hl

/-- (iii) order `(x, conj x)`: the parity sign times conj's global sign -/
theorem norm_sector_sign_right {x : Arr S} (pd : Bool)
    (hd : pd = true ∨ ∀ ix ∈ x.indices, ix.dual = false) {s : Sector} (hl : s.length = x.ndim)
    (hv : x.isValidSector s = true) :
    flipSign x.sym (flipAxes x) s
      * (koszul ((x.conjF true pd).parities s) (some (List.range (x.conjF true pd).ndim).reverse)
          * conjTotSign x true pd s)
      = (if x.parity then -1 else 1) * (if conjGlob x true then -1 else 1) :=
  Norm.norm_sector_sign_right pd hd hl hv

end signs

variable {R : Type} [AddMonoid R] [Mul R] [Neg R] [Conj R]

/-- `Σ_{stored sectors s} Σ_{offsets o in the block of s} conj(v) · v` with `v = x.elem s o` (the
    value view: stored number times pending sign) -/
theorem normSq_eq (x : Arr R) :
    normSq x = (x.sectors.map (fun s =>
      ((allIdx (Arr.blockShapeD x.indices s)).map
        (fun o => Conj.conj (x.elem s o) * x.elem s o)).sum)).sum := rfl

theorem normSq'_def (x : Arr R) :
    normSq' x = (x.sectors.map (fun s =>
      ((allIdx (Arr.blockShapeD x.indices s)).map
        (fun o => x.elem s o * Conj.conj (x.elem s o))).sum)).sum := rfl

/-- all axes paired in order: `tensordot(·, ·, axes=([0,…,n-1], [0,…,n-1]))` -/
theorem allAxes_eq (n : Nat) :
    allAxes n = .pair ((List.range n).map Int.ofNat) ((List.range n).map Int.ofNat) := rfl

/-- (ii) a full contraction of two valid rank-`n` operands of equal size is the abelian blockwise
    contraction of the prepared operands followed by the label resolution -/
theorem tensordotF_full [NormLaws R] {a b : Arr R} (fa : Full a) (sa : ShapeLen a) (fb : Full b)
    (sb : ShapeLen b) (hn : b.ndim = a.ndim) (hsz : a.size ≤ b.size) :
    a.tensordotF b (allAxes a.ndim) .blockwise
      = resolveCombinedOddpos (prepL a) (prepR b)
          (tensordotBlockwise (prepL a) (prepR b) [] (List.range a.ndim) (List.range a.ndim) []) :=
  Norm.tensordotF_full fa sa fb sb hn hsz

/-- (iv) the abelian part, both orders -/
theorem norm_abelian [NormLaws R] {x : Arr R} (h : NormOk x) (pd : Bool)
    (hd : pd = true ∨ ∀ ix ∈ x.indices, ix.dual = false) :
    (tensordotBlockwise (prepL (x.conjF true pd)) (prepR x) [] (List.range x.ndim)
        (List.range x.ndim) []).elem [] []
      = sgnI (if conjGlob x true then -1 else 1) (normSq x)
    ∧ (tensordotBlockwise (prepL x) (prepR (x.conjF true pd)) [] (List.range x.ndim)
        (List.range x.ndim) []).elem [] []
      = sgnI ((if x.parity then -1 else 1) * (if conjGlob x true then -1 else 1)) (normSq' x) :=
  ⟨norm_abelian_left pd h.full h.shapes hd, norm_abelian_right pd h.full h.secValid h.shapes hd⟩

/-- **norm_conj.**  `x` valid fermionic; `phase_dual = True` or all indices ket-like; no label
    (even parity) or one non-dual label (odd parity).  Then `tensordot(x.conj(phase_dual=pd), x)`
    over all axes succeeds with a rank-0 result without labels whose value is the squared norm. -/
theorem norm_conj [NormLaws R] {x : Arr R} (hv : x.validB = true) (hf : x.fermi = true) (pd : Bool)
    (hd : pd = true ∨ ∀ ix ∈ x.indices, ix.dual = false)
    (hlab : x.oddpos = [] ∨ ∃ l, x.oddpos = [(l, false)]) :
    ∃ r, (x.conjF true pd).tensordotF x
          (.pair ((List.range x.ndim).map Int.ofNat) ((List.range x.ndim).map Int.ofNat)) .blockwise
        = .ok r
      ∧ r.ndim = 0 ∧ r.oddpos = [] ∧ r.elem [] [] = normSq x := by
  refine NormNet.norm_left_labels (NormOk.of_valid hv hf) pd hd ?_ ?_ ?_ <;>
    rcases hlab with ho | ⟨l, ho⟩ <;> simp [ho]

/-- **the other operand order**: `tensordot(x, x.conj(phase_dual=pd))` — the factors of each
    product appear in the other order (`normSq'`) -/
theorem norm_conj_swapped [NormLaws R] {x : Arr R} (hv : x.validB = true) (hf : x.fermi = true)
    (pd : Bool) (hd : pd = true ∨ ∀ ix ∈ x.indices, ix.dual = false)
    (hlab : x.oddpos = [] ∨ ∃ l, x.oddpos = [(l, false)]) :
    ∃ r, x.tensordotF (x.conjF true pd)
          (.pair ((List.range x.ndim).map Int.ofNat) ((List.range x.ndim).map Int.ofNat)) .blockwise
        = .ok r
      ∧ r.ndim = 0 ∧ r.oddpos = [] ∧ r.elem [] [] = normSq' x := by
  refine NormNet.norm_right_labels (NormOk.of_valid hv hf) pd hd ?_ ?_ ?_ <;>
    rcases hlab with ho | ⟨l, ho⟩ <;> simp [ho]

theorem norm_conj_orders_agree [NormLaws R] (hc : ∀ a b : R, a * b = b * a) {x : Arr R}
    (hv : x.validB = true) (hf : x.fermi = true) (pd : Bool)
    (hd : pd = true ∨ ∀ ix ∈ x.indices, ix.dual = false)
    (hlab : x.oddpos = [] ∨ ∃ l, x.oddpos = [(l, false)]) :
    ∃ r r', (x.conjF true pd).tensordotF x (allAxes x.ndim) .blockwise = .ok r
      ∧ x.tensordotF (x.conjF true pd) (allAxes x.ndim) .blockwise = .ok r'
      ∧ r.elem [] [] = normSq x ∧ r'.elem [] [] = normSq x := by
  obtain ⟨r, h1, _, _, h4⟩ := norm_conj hv hf pd hd hlab
  obtain ⟨r', g1, _, _, g4⟩ := norm_conj_swapped hv hf pd hd hlab
  exact ⟨r, r', h1, g1, h4, by rw [g4, normSq'_eq hc]⟩

/-- **norm_conj_dual_label.**  With one DUAL label (odd parity) both operand orders give MINUS
    the squared norm. -/
theorem norm_conj_dual_label [NormLaws R] {x : Arr R} (hv : x.validB = true) (hf : x.fermi = true)
    (pd : Bool) (hd : pd = true ∨ ∀ ix ∈ x.indices, ix.dual = false) (l : Int)
    (ho : x.oddpos = [(l, true)]) :
    (∃ r, (x.conjF true pd).tensordotF x (allAxes x.ndim) .blockwise = .ok r
      ∧ r.ndim = 0 ∧ r.oddpos = [] ∧ r.elem [] [] = - normSq x)
    ∧ (∃ r, x.tensordotF (x.conjF true pd) (allAxes x.ndim) .blockwise = .ok r
      ∧ r.ndim = 0 ∧ r.oddpos = [] ∧ r.elem [] [] = - normSq' x) := by
  have h := NormOk.of_valid hv hf
  have hp : x.parity = true := by rw [← h.labels, ho]; rfl
  have h1 := NormNet.norm_left_signed h pd hd (by simp [ho, Arr.oddposDag]) (by simp [ho])
  have h2 := NormNet.norm_right_signed h pd hd (by simp [ho]) (by simp [ho])
  -- one dual label: `nestSign = -1` on the left; on the right the parity sign alone is left
  rw [ho] at h1 h2
  rw [hp] at h2
  exact ⟨by simpa [NormNet.nestSign] using h1, by simpa [NormNet.nestSign, Arr.oddposDag] using h2⟩

/-! ## non-vacuity and exactness -/

open scoped SymmModel.Lazy

/-- `C09.exA`: Z2, rank 2, one ket-like and one bra-like leg, odd parity, label `(7, false)`,
    a pending sign; squared norm `3² + 1² + 2² + 4² + 5² = 55` -/
example : C09.exA.validB = true ∧ C09.exA.fermi = true ∧ C09.exA.oddpos = [(7, false)]
    ∧ normSq C09.exA = 55 ∧ normSq' C09.exA = 55 := by decide +kernel

example : ∃ r, (C09.exA.conjF true true).tensordotF C09.exA (.pair [0, 1] [0, 1]) .blockwise = .ok r
    ∧ r.ndim = 0 ∧ r.oddpos = [] ∧ r.elem [] [] = normSq C09.exA :=
  norm_conj (x := C09.exA) (by decide) rfl true (Or.inl rfl) (Or.inr ⟨7, rfl⟩)

/-- the same on the concrete value, both orders -/
example :
    (match (C09.exA.conjF true true).tensordotF C09.exA (.pair [0, 1] [0, 1]) .blockwise with
      | .ok r => r.elem [] [] | .error _ => 0) = 55
    ∧ (match C09.exA.tensordotF (C09.exA.conjF true true) (.pair [0, 1] [0, 1]) .blockwise with
      | .ok r => r.elem [] [] | .error _ => 0) = 55 := by decide +kernel

/-- all legs ket-like, `phase_dual = False` -/
def exK : Arr Int :=
  { C09.exA with indices := [Index.mk [((0, 0), 1), ((1, 0), 2)] false none,
                             Index.mk [((0, 0), 2), ((1, 0), 1)] false none] }

example : ∃ r, (exK.conjF true false).tensordotF exK (.pair [0, 1] [0, 1]) .blockwise = .ok r
    ∧ r.ndim = 0 ∧ r.oddpos = [] ∧ r.elem [] [] = normSq exK :=
  norm_conj (x := exK) (by decide) rfl false (Or.inr (by decide)) (Or.inr ⟨7, rfl⟩)

/-- even parity, no label, rank 3, mixed dualness -/
def exE : Arr Int :=
  { sym := .Z2, fermi := true, charge := (0, 0),
    indices := [Index.mk [((0, 0), 1), ((1, 0), 1)] false none,
                Index.mk [((0, 0), 1), ((1, 0), 2)] true none,
                Index.mk [((0, 0), 1), ((1, 0), 1)] true none],
    blocks := [([(1, 0), (1, 0), (0, 0)], ⟨[1, 2, 1], #[2, -3]⟩),
               ([(1, 0), (0, 0), (1, 0)], ⟨[1, 1, 1], #[5]⟩),
               ([(0, 0), (1, 0), (1, 0)], ⟨[1, 2, 1], #[1, 1]⟩)],
    phases := [([(1, 0), (1, 0), (0, 0)], -1)], oddpos := [] }

example : ∃ r, (exE.conjF true true).tensordotF exE (.pair [0, 1, 2] [0, 1, 2]) .blockwise = .ok r
    ∧ r.ndim = 0 ∧ r.oddpos = [] ∧ r.elem [] [] = normSq exE :=
  norm_conj (x := exE) (by decide) rfl true (Or.inl rfl) (Or.inl rfl)

example : normSq exE = 40 := by decide +kernel

/-- **the hypothesis "`phase_dual` or all ket-like" is needed**: `exA` has a bra-like leg; with
    `phase_dual = False` the contraction gives `37`, not the squared norm `55` -/
theorem norm_conj_needs_dual_option :
    (match (C09.exA.conjF true false).tensordotF C09.exA (.pair [0, 1] [0, 1]) .blockwise with
      | .ok r => r.elem [] [] | .error _ => 0) = 37
    ∧ (match C09.exA.tensordotF (C09.exA.conjF true false) (.pair [0, 1] [0, 1]) .blockwise with
      | .ok r => r.elem [] [] | .error _ => 0) = 37
    ∧ normSq C09.exA = 55 := by decide +kernel

/-- **the non-dual label is needed**: the same array with the dual label `(7, true)` gives `-55`
    in both orders (instance of `norm_conj_dual_label`) -/
theorem norm_conj_needs_ket_label :
    let y : Arr Int := { C09.exA with oddpos := [(7, true)] }
    y.validB = true
    ∧ (match (y.conjF true true).tensordotF y (.pair [0, 1] [0, 1]) .blockwise with
      | .ok r => r.elem [] [] | .error _ => 0) = -55
    ∧ (match y.tensordotF (y.conjF true true) (.pair [0, 1] [0, 1]) .blockwise with
      | .ok r => r.elem [] [] | .error _ => 0) = -55 := by decide +kernel

/-- the law class is inhabited by the driver's scalar type -/
example : @NormLaws GRat C02.addCommMonoidGRat.toAddMonoid GRat.instMul GRat.instNeg GRat.instConj :=
  normLaws_GRat

end SymmModel.C10
