/-
  C06 (second part) — the fused strategy of the contraction.

  Theorems about `SymmModel.tensordotViaFused` / `tensordotA` (`Model/Tdot.lean`; Python
  `symmray.abelian_core._tensordot_via_fused`, `tensordot_abelian`) for valid ABELIAN operands
  whose contracted legs match (`ValidP.contractibleB`: same charge table, opposite direction),
  every symmetry, every sparsity pattern, every scalar type `R` with `[AddCommMonoid R] [Mul R]
  [Neg R]` and `0 * x = 0 = x * 0`.

  1. `aligned_fused_tables_match` — for the exact call form (left / right group possibly
     empty): after `dropMisaligned` the two fused bond indices have equal chargemaps, equal
     extents in the same sorted order and opposite directions.
  2. `tensordotFused_obs_eq_blockwise` — stated for the left, the contracted and the right
     group all NON-EMPTY (any number of axes in each, so also free legs that get unfused, and
     free legs that were fused beforehand and stay fused): the fused strategy succeeds with a valid
     result of the same fields and rank, it stores every sector the blockwise result stores, and
     EVERY STORED ENTRY equals the blockwise result's element at that address; hence a stored
     sector that the blockwise result lacks is an all-zero block (such blocks do occur: two
     different sub-sectors with the same fused charge, or the other sub-sectors of an unfused
     charge).  The order of the blocks in the dictionary is NOT claimed to agree (it differs, see
     the last example).
     `tensordotFused_matrix_elem`: the same in table form for one free axis on each side
     (address = any charge pair of the aligned free tables, any offsets inside their sizes).
     The statements of this file carry the three non-emptiness hypotheses; without them (an
     operand contracted completely: vector / scalar results; `mode="fused"` with no axes):
     C06d `tensordotFused_obs_eq_blockwise_all`.
  3. `tensordotA_modes_agree` (auto = fused, and both agree with blockwise as in 2) and
     `tensordotFused_empty_alignment` (no aligned sector: fused returns the block-less array with
     the combined charge; blockwise has no block either).

  Vocabulary: namespace `SymmModel.TdotP`, files `Proofs/TdotFused1…7.lean`.
-/
import SymmModel.Props.C06
import SymmModel.Proofs.TdotFused7

namespace SymmModel.C06
open SymmModel SymmModel.TdotP

variable {R : Type}

/-- **aligned_fused_tables_match.**  For valid operands of the same symmetry with matching
    contracted legs (`contractibleB`) and a non-empty contraction: after `dropMisaligned`,
    `fuseA a' [left, xa]` and `fuseA b' [xb, right]` (exactly the calls of `tensordotViaFused`)
    succeed, and the fused bond indices (axis 1 of `af`, or 0 when there is no left group; axis 0
    of `bf`) have equal chargemaps and opposite directions; the matched sub-indices have equal
    chargemaps and opposite directions; for a multi-axis bond both indices carry THE SAME extents
    (sub-sectors, order, sizes), each strictly `sectorLt`-sorted. -/
theorem aligned_fused_tables_match [Zero R] (a b : Arr R) (xa xb : List Nat)
    (ha : a.validB = true) (hb : b.validB = true) (hsym : a.sym = b.sym)
    (hc : ValidP.contractibleB a b xa xb = true)
    (hnA : xa.Nodup) (hnB : xb.Nodup) (hA : ∀ x ∈ xa, x < a.ndim) (hB : ∀ x ∈ xb, x < b.ndim)
    (hneK : xa ≠ []) :
    ∃ af bf,
      fuseA (dropMisaligned a b xa xb).1 [freeAxes a.ndim xa, xa] .insert false = .ok af
      ∧ fuseA (dropMisaligned a b xa xb).2 [xb, freeAxes b.ndim xb] .insert false = .ok bf
      ∧ (af.indices.getD (if (freeAxes a.ndim xa).isEmpty then 0 else 1) default).cm
          = (bf.indices.getD 0 default).cm
      ∧ (af.indices.getD (if (freeAxes a.ndim xa).isEmpty then 0 else 1) default).dual
          = !(bf.indices.getD 0 default).dual
      ∧ (xa.map (fun ax => (dropMisaligned a b xa xb).1.indices.getD ax default)).map Index.cm
          = (xb.map (fun ax => (dropMisaligned a b xa xb).2.indices.getD ax default)).map Index.cm
      ∧ (xb.map (fun ax => (dropMisaligned a b xa xb).2.indices.getD ax default)).map Index.dual
          = (xa.map (fun ax => (dropMisaligned a b xa xb).1.indices.getD ax default)).map
              (fun ix => !ix.dual)
      ∧ (xa.length ≠ 1 → ∃ exts,
          (af.indices.getD (if (freeAxes a.ndim xa).isEmpty then 0 else 1) default).sub
            = some (xa.map (fun ax => (dropMisaligned a b xa xb).1.indices.getD ax default), exts)
          ∧ (bf.indices.getD 0 default).sub
            = some (xb.map (fun ax => (dropMisaligned a b xa xb).2.indices.getD ax default), exts)
          ∧ ∀ c e, alookup exts c = some e → isSortedStrict sectorLt (e.map (·.1)) = true) :=
  aligned_tables_full a b xa xb ha hb hsym hc hnA hnB hA hB hneK

/-- the generic statement behind it: two valid arrays of one symmetry, a multi-axis group on each
    whose sub-indices have equal charge tables and opposite directions and on which the arrays
    store the same SET of sub-sectors, get the same fused chargemap and the same extents, with
    opposite directions -/
theorem fused_tables_match_generic {A B : Arr R} {GA GB : List (List Nat)} {gA gB : Nat}
    {xa xb : List Nat} (hvA : A.validB = true) (hvB : B.validB = true) (hsym : A.sym = B.sym)
    (hokA : C05.groupsOkB GA A.ndim = true) (hokB : C05.groupsOkB GB B.ndim = true)
    (hgA : GA[gA]? = some xa) (hgB : GB[gB]? = some xb)
    (hlenA : xa.length ≠ 1) (hlen : xa.length = xb.length)
    (hcm : (xa.map (fun ax => A.indices.getD ax default)).map Index.cm
      = (xb.map (fun ax => B.indices.getD ax default)).map Index.cm)
    (hdual : (xb.map (fun ax => B.indices.getD ax default)).map Index.dual
      = (xa.map (fun ax => A.indices.getD ax default)).map (fun ix => !ix.dual))
    (hkeys : ∀ K, K ∈ A.blocks.map (fun sb => xa.map (fun ax => sb.1.getD ax (0, 0))) ↔
      K ∈ B.blocks.map (fun sb => xb.map (fun ax => sb.1.getD ax (0, 0)))) :
    (FuseP.ixM A GA gA).cm = (FuseP.ixM B GB gB).cm
    ∧ FuseP.extsM A GA gA = FuseP.extsM B GB gB
    ∧ (FuseP.ixM A GA gA).dual = !(FuseP.ixM B GB gB).dual :=
  fused_tables_match (FuseP.validArr_of_validB hvA) (FuseP.validArr_of_validB hvB) hsym
    (FuseP.groupsOk_iff.1 hokA) (FuseP.groupsOk_iff.1 hokB) hgA hgB hlenA hlen hcm hdual hkeys

example : ValidP.contractibleB exA exB [1, 2] [0, 1] = true ∧ exA.sym = exB.sym
    ∧ freeAxes exA.ndim [1, 2] = [0] ∧ freeAxes exB.ndim [0, 1] = [2] := by decide
-- sanity: the two fused bond indices of the aligned example operands
example :
    (match fuseA (dropMisaligned exA exB [1, 2] [0, 1]).1 [[0], [1, 2]] .insert false,
           fuseA (dropMisaligned exA exB [1, 2] [0, 1]).2 [[0, 1], [2]] .insert false with
     | .ok af, .ok bf =>
         (af.indices.getD 1 default).cm == (bf.indices.getD 0 default).cm
         && ((af.indices.getD 1 default).sub.map (·.2)) == ((bf.indices.getD 0 default).sub.map (·.2))
         && (af.indices.getD 1 default).dual != (bf.indices.getD 0 default).dual
         && (af.indices.getD 1 default).cm == [(c0, 6)]
     | _, _ => false) = true := by decide +kernel

/-- **tensordotFused_obs_eq_blockwise**, left, contracted and right group non-empty. -/
theorem tensordotFused_obs_eq_blockwise [AddCommMonoid R] [Mul R] [Neg R]
    (hz1 : ∀ x : R, 0 * x = 0) (hz2 : ∀ x : R, x * 0 = 0) (a b : Arr R) (xa xb : List Nat)
    (ha : a.validB = true) (hb : b.validB = true) (hfa : a.fermi = false) (hfb : b.fermi = false)
    (hsym : a.sym = b.sym) (hc : ValidP.contractibleB a b xa xb = true)
    (hnA : xa.Nodup) (hnB : xb.Nodup) (hA : ∀ x ∈ xa, x < a.ndim) (hB : ∀ x ∈ xb, x < b.ndim)
    (hneK : xa ≠ []) (hneL : freeAxes a.ndim xa ≠ []) (hneR : freeAxes b.ndim xb ≠ [])
    (hbl : ((dropMisaligned a b xa xb).1.blocks.isEmpty || (dropMisaligned a b xa xb).2.blocks.isEmpty) = false) :
    ∃ c, tensordotViaFused a b (freeAxes a.ndim xa) xa xb (freeAxes b.ndim xb) = .ok c
      ∧ c.validB = true
      ∧ c.sym = a.sym ∧ c.fermi = a.fermi ∧ c.charge = a.sym.combine [a.charge, b.charge]
      ∧ c.phases = a.phases ∧ c.oddpos = a.oddpos
      ∧ c.indices.length =
          (tensordotBlockwise a b (freeAxes a.ndim xa) xa xb (freeAxes b.ndim xb)).indices.length
      ∧ (∀ s ∈ (tensordotBlockwise a b (freeAxes a.ndim xa) xa xb (freeAxes b.ndim xb)).sectors,
          s ∈ c.sectors)
      ∧ (∀ K V, alookup c.blocks K = some V → ∀ J, inBox V.shape J = true →
          c.elem K J =
            (tensordotBlockwise a b (freeAxes a.ndim xa) xa xb (freeAxes b.ndim xb)).elem K J) := by
  obtain ⟨c, h0, K⟩ := abOk_all hz1 hz2 a b xa xb ha hb hfa hfb hsym hc hnA hnB hA hB hbl
  exact ⟨c, h0, K.valid, K.sym, K.fermi, K.charge, K.phases, K.oddpos, K.rank, K.sec, K.val⟩

/-- consequently a sector stored by the fused result but not by the blockwise result holds an
    all-zero block (on its box) -/
theorem tensordotFused_extra_blocks_zero [AddCommMonoid R] [Mul R] [Neg R]
    (hz1 : ∀ x : R, 0 * x = 0) (hz2 : ∀ x : R, x * 0 = 0) (a b : Arr R) (xa xb : List Nat)
    (ha : a.validB = true) (hb : b.validB = true) (hfa : a.fermi = false) (hfb : b.fermi = false)
    (hsym : a.sym = b.sym) (hc : ValidP.contractibleB a b xa xb = true)
    (hnA : xa.Nodup) (hnB : xb.Nodup) (hA : ∀ x ∈ xa, x < a.ndim) (hB : ∀ x ∈ xb, x < b.ndim)
    (hneK : xa ≠ []) (hneL : freeAxes a.ndim xa ≠ []) (hneR : freeAxes b.ndim xb ≠ [])
    (hbl : ((dropMisaligned a b xa xb).1.blocks.isEmpty || (dropMisaligned a b xa xb).2.blocks.isEmpty) = false)
    (c : Arr R) (hcok : tensordotViaFused a b (freeAxes a.ndim xa) xa xb (freeAxes b.ndim xb) = .ok c)
    (K : Sector) (V : Blk R) (hV : alookup c.blocks K = some V)
    (hK : K ∉ (tensordotBlockwise a b (freeAxes a.ndim xa) xa xb (freeAxes b.ndim xb)).sectors) :
    ∀ J, inBox V.shape J = true → V.get J = 0 := by
  obtain ⟨c', hc', _, _, _, _, hph, _, _, _, hval⟩ :=
    tensordotFused_obs_eq_blockwise hz1 hz2 a b xa xb ha hb hfa hfb hsym hc hnA hnB hA hB hneK hneL hneR hbl
  rw [hcok] at hc'
  cases hc'
  intro J hJ
  have h1 := hval K V hV J hJ
  rw [Arr.elem_of_phases_nil (hph.trans (Arr.phases_nil_of_validB ha hfa)), hV] at h1
  rw [show V.get J = _ from h1]
  exact Arr.elem_of_not_mem hK J

/-- **tensordotFused_matrix_elem.**  One free axis on each side: the value views agree at EVERY
    address of the aligned result tables (charge pair in the tables, offsets inside the sizes). -/
theorem tensordotFused_matrix_elem [AddCommMonoid R] [Mul R] [Neg R]
    (hz1 : ∀ x : R, 0 * x = 0) (hz2 : ∀ x : R, x * 0 = 0) (a b : Arr R) (xa xb : List Nat)
    (ha : a.validB = true) (hb : b.validB = true) (hfa : a.fermi = false) (hfb : b.fermi = false)
    (hsym : a.sym = b.sym) (hc : ValidP.contractibleB a b xa xb = true)
    (hnA : xa.Nodup) (hnB : xb.Nodup) (hA : ∀ x ∈ xa, x < a.ndim) (hB : ∀ x ∈ xb, x < b.ndim)
    (hneK : xa ≠ []) (hl1 : (freeAxes a.ndim xa).length = 1) (hr1 : (freeAxes b.ndim xb).length = 1)
    (hbl : ((dropMisaligned a b xa xb).1.blocks.isEmpty || (dropMisaligned a b xa xb).2.blocks.isEmpty) = false) :
    ∃ c, tensordotViaFused a b (freeAxes a.ndim xa) xa xb (freeAxes b.ndim xb) = .ok c
      ∧ c.sym = a.sym ∧ c.fermi = a.fermi ∧ c.charge = a.sym.combine [a.charge, b.charge]
      ∧ c.phases = a.phases ∧ c.oddpos = a.oddpos ∧ c.indices.length = 2
      ∧ (∀ s ∈ (tensordotBlockwise a b (freeAxes a.ndim xa) xa xb (freeAxes b.ndim xb)).sectors,
          s ∈ c.sectors)
      ∧ (∀ s o shp, Arr.blockShape? (without (dropMisaligned a b xa xb).1.indices xa ++
            without (dropMisaligned a b xa xb).2.indices xb) s = some shp → inBox shp o = true →
          c.elem s o =
            (tensordotBlockwise a b (freeAxes a.ndim xa) xa xb (freeAxes b.ndim xb)).elem s o) :=
  viaFused_matrix hz1 hz2 a b xa xb ha hb hfa hfb hsym hc hnA hnB hA hB hneK hl1 hr1 hbl

/-- the core of the argument, for two aligned operands (`FusedCtx`): the product of the two fused
    matrices at a position whose row decodes (through the fused index's own table, or trivially
    for a single-axis group) to `(Ls, oL)` and whose column decodes to `(Rs, oR)` is the blockwise
    contraction of the ORIGINAL operands at `(Ls ++ Rs, oL ++ oR)` -/
theorem fused_product_elem [AddCommMonoid R] [Mul R] [Neg R]
    (hz1 : ∀ x : R, 0 * x = 0) (hz2 : ∀ x : R, x * 0 = 0) {A B : Arr R} {xa xb : List Nat}
    (h : FusedCtx A B xa xb) {cL cR : Charge} {iL iR dL dR : Nat} {Ls Rs : Sector} {oL oR : List Nat}
    (hdL : decAx A [freeAxes A.ndim xa, xa] 0 cL iL = some (Ls, oL))
    (hdR : decAx B [xb, freeAxes B.ndim xb] 1 cR iR = some (Rs, oR))
    (hzL : (FuseP.ixM A [freeAxes A.ndim xa, xa] 0).sizeOf? cL = some dL) (hiL : iL < dL)
    (hzR : (FuseP.ixM B [xb, freeAxes B.ndim xb] 1).sizeOf? cR = some dR) (hiR : iR < dR) :
    (tensordotBlockwise (FuseP.fusedArrM A [freeAxes A.ndim xa, xa])
        (FuseP.fusedArrM B [xb, freeAxes B.ndim xb]) [0] [1] [0] [1]).elem [cL, cR] [iL, iR] =
      (tensordotBlockwise A B (freeAxes A.ndim xa) xa xb (freeAxes B.ndim xb)).elem (Ls ++ Rs) (oL ++ oR) :=
  fused_core hz1 hz2 h hdL hdR hzL hiL hzR hiR

/-- `g[k,m,n]` (Z2, charge 0): its first leg matches `exA`'s third -/
def exG : Arr Int :=
  { sym := .Z2, fermi := false, indices := [ixK.conj, ixM, ixM.conj], charge := c0,
    blocks := [([c0, c0, c0], mkB [2, 1, 1] 1), ([c1, c1, c0], mkB [2, 1, 1] 5),
               ([c1, c0, c1], mkB [2, 1, 1] (-2))] }

example : exG.validB = true ∧ ValidP.contractibleB exA exG [2] [0] = true
    ∧ freeAxes exA.ndim [2] = [0, 1] ∧ freeAxes exG.ndim [0] = [1, 2]
    ∧ ((dropMisaligned exA exG [2] [0]).1.blocks.isEmpty
        || (dropMisaligned exA exG [2] [0]).2.blocks.isEmpty) = false := by decide +kernel
-- sanity: multi-axis bond, one free axis each: identical blocks
example :
    (match tensordotViaFused exA exB [0] [1, 2] [0, 1] [2] with
     | .ok c => c.blocks.map (fun p => (p.1, p.2.shape, p.2.data))
     | .error _ => []) = [([c0, c0], [2, 1], #[19, 49])]
    ∧ (tensordotBlockwise exA exB [0] [1, 2] [0, 1] [2]).blocks.map (fun p => (p.1, p.2.shape, p.2.data))
        = [([c0, c0], [2, 1], #[19, 49])] := by decide +kernel
-- sanity: single-axis bond, two free axes each (both legs are fused and unfused again): the same
-- five blocks with the same values — in a DIFFERENT dictionary order
example :
    (match tensordotViaFused exA exG [0, 1] [2] [0] [1, 2] with
     | .ok c => c.blocks.map (fun p => (p.1, p.2.data))
     | .error _ => []) =
      [([c0, c0, c0, c0], #[5, 11]), ([c0, c1, c0, c1], #[8, 2, -4, -10]), ([c1, c0, c0, c1], #[-7]),
       ([c0, c1, c1, c0], #[-27, -5, 17, 39]), ([c1, c0, c1, c0], #[28])]
    ∧ (tensordotBlockwise exA exG [0, 1] [2] [0] [1, 2]).blocks.map (fun p => (p.1, p.2.data)) =
      [([c0, c0, c0, c0], #[5, 11]), ([c0, c1, c1, c0], #[-27, -5, 17, 39]),
       ([c0, c1, c0, c1], #[8, 2, -4, -10]), ([c1, c0, c1, c0], #[28]), ([c1, c0, c0, c1], #[-7])] := by
  decide +kernel

/-- **tensordotA_modes_agree.**  With parsed axes `(xa, xb)`, `xa ≠ []`: `mode="auto"` IS
    `mode="fused"`, `mode="blockwise"` succeeds, and (left and right group non-empty, at least one
    aligned block) the fused/auto result relates to the result `bw` of `mode="blockwise"` as in
    `tensordotFused_obs_eq_blockwise` (validity of `c` is not restated; that `bw` is
    `tensordotBlockwise` is `TdotP.tensordotA_blockwise_ok`). -/
theorem tensordotA_modes_agree [AddCommMonoid R] [Mul R] [Neg R]
    (hz1 : ∀ x : R, 0 * x = 0) (hz2 : ∀ x : R, x * 0 = 0) (a b : Arr R) (axes : AxesArg)
    (xa xb : List Nat) (hparse : parseAxes a.ndim b.ndim axes = .ok (xa, xb))
    (ha : a.validB = true) (hb : b.validB = true) (hfa : a.fermi = false) (hfb : b.fermi = false)
    (hsym : a.sym = b.sym) (hc : ValidP.contractibleB a b xa xb = true)
    (hnA : xa.Nodup) (hnB : xb.Nodup) (hA : ∀ x ∈ xa, x < a.ndim) (hB : ∀ x ∈ xb, x < b.ndim)
    (hneK : xa ≠ []) (hneL : freeAxes a.ndim xa ≠ []) (hneR : freeAxes b.ndim xb ≠ [])
    (hbl : ((dropMisaligned a b xa xb).1.blocks.isEmpty || (dropMisaligned a b xa xb).2.blocks.isEmpty) = false) :
    ∃ c bw, tensordotA a b axes .fused = .ok c ∧ tensordotA a b axes .auto = .ok c
      ∧ tensordotA a b axes .blockwise = .ok bw
      ∧ c.sym = bw.sym ∧ c.fermi = bw.fermi ∧ c.charge = bw.charge ∧ c.phases = bw.phases
      ∧ c.oddpos = bw.oddpos ∧ c.indices.length = bw.indices.length
      ∧ (∀ s ∈ bw.sectors, s ∈ c.sectors)
      ∧ (∀ K V, alookup c.blocks K = some V → ∀ J, inBox V.shape J = true → c.elem K J = bw.elem K J) := by
  obtain ⟨c, hcok, _, f1, f2, f3, f4, f5, hrank, hsec, hval⟩ :=
    tensordotFused_obs_eq_blockwise hz1 hz2 a b xa xb ha hb hfa hfb hsym hc hnA hnB hA hB hneK hneL hneR hbl
  refine ⟨c, _, (tensordotA_fused a b axes xa xb hparse).trans hcok,
    (tensordotA_auto_fused a b axes xa xb hparse hneK).trans hcok,
    tensordotA_blockwise_ok a b axes xa xb hparse, f1, f2, f3, f4, f5, hrank, hsec, hval⟩

/-- **tensordotFused_empty_alignment.**  No aligned sector: the fused strategy returns the
    block-less array with the combined charge and the symmetry of `a` (its other fields are in
    `TdotP.viaFused_empty`); the blockwise result has no block either, so both value views vanish
    identically. -/
theorem tensordotFused_empty_alignment [Zero R] [Add R] [Mul R] [Neg R] (a b : Arr R)
    (l xa xb r : List Nat)
    (hbl : ((dropMisaligned a b xa xb).1.blocks.isEmpty || (dropMisaligned a b xa xb).2.blocks.isEmpty) = true) :
    ∃ c, tensordotViaFused a b l xa xb r = .ok c ∧ c.blocks = []
      ∧ c.charge = a.sym.combine [a.charge, b.charge] ∧ c.sym = a.sym
      ∧ (tensordotBlockwise a b l xa xb r).blocks = []
      ∧ ∀ s o, c.elem s o = 0 ∧ (tensordotBlockwise a b l xa xb r).elem s o = 0 := by
  obtain ⟨h1, h2, h3⟩ := viaFused_empty a b l xa xb r hbl
  exact ⟨_, h1, rfl, rfl, rfl, h2, fun s o => ⟨rfl, h3 s o⟩⟩

end SymmModel.C06
