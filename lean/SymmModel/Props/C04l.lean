/-
  Property C04 (second clause) / C02 — ABELIAN two-step contraction IDENTIFIED WITH `einsumA`.
  Setting and vocabulary of Props/C04k.lean (`tsLhs`, `tsRhs`, `tsSurv`, `tsBox`).

  PARTIAL (`_partial`):
    `two_step_values_abelian_sorted_partial`  valid abelian `a`, `b`, the guards of `two_step_values`,
        `c = tensordotA a b (xa ~ xb)`, `c' = tensordotA a b (xa ++ ya ~ xb ++ yb)` (blockwise), and `ya`
        STRICTLY INCREASING: `einsumA c tsLhs tsRhs` SUCCEEDS with a result `e` that has
        the sector set of `c'`, the block shape of `c'` at every stored sector of `c'`, and the VALUE of `c'`
        at every key and every address of the un-pruned frame of the free legs (in particular at every
        stored address of `c'`).
    `einsum_form_sorted`  (auxiliary) the einsum data of the labels `tsLhs -> tsRhs` in their
        NON-canonical position: output permutation `tsRhs`, every traced label exactly twice, sector filter
        = equal charges at `tsPA` / `tsPB`, traced box = sizes of the legs `tsPA`.
  FULL STATEMENT (not proved): the same for EVERY order of `ya` (`einsumA` enumerates the traced labels in
      the order of their first positions `tsPA`, i.e. the traced box is the box of `ya` permuted by the
      sorting permutation of `ya`: needs re-indexing the box sum by that permutation; the generic lemmas of
      Proofs/TwoStepN1.lean are stated for `PA` increasing).
-/
import SymmModel.Props.C04k
import SymmModel.Proofs.TwoStepN2

namespace SymmModel.C04
open SymmModel SymmModel.GradedP SymmModel.TdotP SymmModel.AssocP SymmModel.TwoStepP
open SymmModel.Lazy (sgnI)

variable {R : Type}

theorem einsum_form_sorted (na nb : Nat) (xa xb ya yb : List Nat)
    (hnA : (xa ++ ya).Nodup) (hA : ∀ i ∈ xa ++ ya, i < na)
    (hnB : (xb ++ yb).Nodup) (hB : ∀ i ∈ xb ++ yb, i < nb) (hly : ya.length = yb.length)
    (hinc : ya.Pairwise (· < ·)) :
    einPerm? (tsLhs na nb xa xb ya yb) (tsRhs na nb xa xb ya yb) = .ok (tsRhs na nb xa xb ya yb)
    ∧ (einTracedPos (tsLhs na nb xa xb ya yb) (tsRhs na nb xa xb ya yb)).any (fun js => js.length != 2) = false
    ∧ (∀ s : Sector, s.length = tsN na nb xa xb →
        einKeep (tsLhs na nb xa xb ya yb) (tsRhs na nb xa xb ya yb) s
          = (permuted s (tsPA na xa ya) == permuted s (tsPB na nb xa xb yb)))
    ∧ (∀ shape : List Nat, shape.length = tsN na nb xa xb →
        (einTraced (tsLhs na nb xa xb ya yb) (tsRhs na nb xa xb ya yb)).map
            (einSize shape (tsLhs na nb xa xb ya yb)) = permuted shape (tsPA na xa ya)) := by
  have G := geo_ts hnA hA hnB hB hly
  have hK1 := tsPA_lt hnA hA
  have hK2 := tsPB_ge na nb xa xb yb
  have hP := tsPA_pairwise hnA hA hinc
  have hKN : (freeAxes na xa).length ≤ tsN na nb xa xb := by unfold tsN; omega
  exact ⟨einPerm?_g G hK1 hK2, einTracedPos_len2 G hK1 hK2 hP hKN,
    fun s hs => einKeep_g G hK1 hK2 hP hKN s hs, fun sh hs => einSize_traced G hK1 hK2 hP hKN sh hs⟩

/-- non-vacuity of `einsum_form_sorted`: ranks 3, 3, first `1 ~ 0`, then `2 ~ 1`; labels `[0, 4, 4, 3] -> [0, 3]`
    (the traced pair in the MIDDLE of the legs, not in front) -/
example : tsLhs 3 3 [1] [0] [2] [1] = [0, 4, 4, 3] ∧ tsRhs 3 3 [1] [0] [2] [1] = [0, 3]
    ∧ einPerm? (tsLhs 3 3 [1] [0] [2] [1]) (tsRhs 3 3 [1] [0] [2] [1]) = .ok (tsRhs 3 3 [1] [0] [2] [1]) :=
  ⟨by decide, by decide,
    (einsum_form_sorted 3 3 [1] [0] [2] [1] (by decide) (by decide) (by decide) (by decide) rfl (by simp)).1⟩

theorem tensordotBlockwise_validB [AddCommMonoid R] [Mul R] [Neg R] [SignRing R] {a b : Arr R}
    {xa xb : List Nat} (ha : a.validB = true) (hb : b.validB = true) (hfa : a.fermi = false)
    (W : AdmW (fz a) (fz b) xa xb) :
    (tensordotBlockwise a b (freeAxes a.ndim xa) xa xb (freeAxes b.ndim xb)).validB = true := by
  have := (ValidP.validB_iff _).mpr (ValidP.tensordotBlockwise_valid a b xa xb
    ((ValidP.validB_iff a).mp ha) ((ValidP.validB_iff b).mp hb) W.sym hfa
    (Assoc3P.opposite_of_commonB W.con) W.nA W.nB W.ltA W.ltB)
  rw [without_range, without_range] at this
  exact this

theorem tensordotBlockwise_shapeD [AddCommMonoid R] [Mul R] [Neg R] [SignRing R] {a b : Arr R}
    {xa xb : List Nat} (ha : a.validB = true) (hb : b.validB = true) (hfa : a.fermi = false)
    (W : AdmW (fz a) (fz b) xa xb) {s : Sector}
    (hs : s ∈ (tensordotBlockwise a b (freeAxes a.ndim xa) xa xb (freeAxes b.ndim xb)).sectors) :
    Arr.blockShapeD (tensordotBlockwise a b (freeAxes a.ndim xa) xa xb (freeAxes b.ndim xb)).indices s
      = Arr.blockShapeD (without a.indices xa ++ without b.indices xb) s := by
  obtain ⟨p, hp, rfl⟩ := List.mem_map.mp hs
  rw [Arr.blockShapeD, Arr.shapesOk_of_validB (tensordotBlockwise_validB ha hb hfa W) p hp,
    ← TdotP.tensordotBlockwise_block_shape (Arr.shapesOk_of_validB ha) (Arr.shapesOk_of_validB hb)
      (show (p.1, p.2) ∈ _ from hp)]
  rfl

/-- Abelian `tensordotA` over part of the bond followed by
    `einsumA` over the remaining pairs = `tensordotA` over all pairs: the einsum succeeds, same sector set,
    same value at every key and every address of the un-pruned frame of the free legs.
    (`_partial`: `ya` strictly increasing — see the header.) -/
theorem two_step_values_abelian_sorted_partial [AddCommMonoid R] [Mul R] [Neg R] [SignRing R]
    (a b c c' : Arr R) (xa xb ya yb : List Nat)
    (ha : a.validB = true) (hb : b.validB = true) (hfa : a.fermi = false) (hfb : b.fermi = false)
    (g1 : tdotAdmissibleCommonB a b xa xb = true)
    (g2 : tdotAdmissibleCommonB a b (xa ++ ya) (xb ++ yb) = true)
    (h1 : tensordotA a b (.pair (xa.map Int.ofNat) (xb.map Int.ofNat)) .blockwise = .ok c)
    (h3 : tensordotA a b (.pair ((xa ++ ya).map Int.ofNat) ((xb ++ yb).map Int.ofNat)) .blockwise = .ok c')
    (hinc : ya.Pairwise (· < ·)) :
    ∃ e, einsumA c (tsLhs a.ndim b.ndim xa xb ya yb) (tsRhs a.ndim b.ndim xa xb ya yb) = .ok e
      ∧ (∀ s, s ∈ e.sectors ↔ s ∈ c'.sectors)
      ∧ (∀ s ∈ c'.sectors, Arr.blockShapeD e.indices s = Arr.blockShapeD c'.indices s)
      ∧ ∀ (s' : Sector) (fL fR : List Nat), fL.length = (freeAxes a.ndim (xa ++ ya)).length →
          inBox (Arr.blockShapeD (without a.indices (xa ++ ya) ++ without b.indices (xb ++ yb)) s')
            (fL ++ fR) = true →
          e.elem s' (fL ++ fR) = c'.elem s' (fL ++ fR) := by
  have h1' := h1
  have h3' := h3
  obtain ⟨W1, W2, rfl, h3c⟩ := abelian_calls ha hb hfa hfb g1 g2 h1 h3
  have hsA := Arr.shapesOk_of_validB ha
  have hsB := Arr.shapesOk_of_validB hb
  have hA : Mid a.ndim xa ya := Mid.of W2.nA W2.ltA
  have hB : Mid b.ndim xb yb := Mid.of W2.nB W2.ltB
  have hly : ya.length = yb.length := by
    have := W2.len; rw [List.length_append, List.length_append] at this
    have := W1.len; omega
  have G := geo_ts (na := a.ndim) (nb := b.ndim) W2.nA W2.ltA W2.nB W2.ltB hly
  have hK1 := tsPA_lt (na := a.ndim) W2.nA W2.ltA
  have hK2 := tsPB_ge a.ndim b.ndim xa xb yb
  have hP := tsPA_pairwise (na := a.ndim) W2.nA W2.ltA hinc
  have hKN : (freeAxes a.ndim xa).length ≤ tsN a.ndim b.ndim xa xb := by unfold tsN; omega
  obtain ⟨hperm, h2, hkeep, hszT⟩ :=
    einsum_form_sorted a.ndim b.ndim xa xb ya yb W2.nA W2.ltA W2.nB W2.ltB hly hinc
  have hszR : ∀ shape : List Nat, shape.length = tsN a.ndim b.ndim xa xb →
      (tsRhs a.ndim b.ndim xa xb ya yb).map (einSize shape (tsLhs a.ndim b.ndim xa xb ya yb))
        = permuted shape (tsRhs a.ndim b.ndim xa xb ya yb) :=
    fun sh hs => einSize_rhs G hK1 hK2 sh hs
  have hc := C02.tensordotBlockwise_sectors a b (freeAxes a.ndim xa) xa xb (freeAxes b.ndim xb)
  have lA : ∀ sa ∈ a.sectors, sa.length = a.ndim := fun sa h => (shape_of_mem hsA h).choose_spec.2.2.2
  have lB : ∀ sb ∈ b.sectors, sb.length = b.ndim := fun sb h => (shape_of_mem hsB h).choose_spec.2.2.2
  have hv := tensordotBlockwise_validB ha hb hfa W1
  have hpc := Arr.phases_nil_of_validB hv (show a.fermi = false from hfa)
  have hdc := Arr.allDistinct_of_validB hv
  have hsc := Arr.shapesOk_of_validB hv
  have lC : ∀ s ∈ (tensordotBlockwise a b (freeAxes a.ndim xa) xa xb (freeAxes b.ndim xb)).sectors,
      s.length = tsN a.ndim b.ndim xa xb := by
    intro s hs
    obtain ⟨sa, hsa, sb, hsb, _, rfl⟩ := (hc s).mp hs
    rw [List.length_append, permuted_length _ _ (by rw [lA sa hsa]; exact hA.flt),
      permuted_length _ _ (by rw [lB sb hsb]; exact hB.flt)]
    rfl
  have shL : ∀ s ∈ (tensordotBlockwise a b (freeAxes a.ndim xa) xa xb (freeAxes b.ndim xb)).sectors,
      (Arr.blockShapeD (tensordotBlockwise a b (freeAxes a.ndim xa) xa xb (freeAxes b.ndim xb)).indices
        s).length = tsN a.ndim b.ndim xa xb := by
    intro s hs
    obtain ⟨shp, _, e2, e3, e4⟩ := shape_of_mem hsc hs
    rw [e2, e3, ← e4, lC s hs]
  have hE := einsumA_eq (tensordotBlockwise a b (freeAxes a.ndim xa) xa xb (freeAxes b.ndim xb))
    (tsLhs a.ndim b.ndim xa xb ya yb) (tsRhs a.ndim b.ndim xa xb ya yb) _ hperm h2
  refine ⟨_, hE, ?_, ?_, ?_⟩
  · intro s
    rw [two_step_sectors_abelian_partial a b _ c' xa xb ya yb ha hb hfa hfb g1 g2 h1' h3' s]
    show s ∈ akeys (accum (Blk.zipWith (· + ·)) (einTerms _ _ _ _)) ↔ _
    rw [einsumA_sectors, List.mem_eraseDups, List.mem_map]
    constructor
    · rintro ⟨s0, hs0, rfl⟩
      obtain ⟨m1, m2⟩ := List.mem_filter.mp hs0
      rw [hkeep s0 (lC s0 m1)] at m2
      exact ⟨s0, List.mem_filter.mpr ⟨m1, by rw [m2]; simp⟩⟩
    · rintro ⟨s0, hs0⟩
      obtain ⟨m1, m2⟩ := List.mem_filter.mp hs0
      simp only [Bool.and_eq_true, beq_iff_eq] at m2
      refine ⟨s0, List.mem_filter.mpr ⟨m1, ?_⟩, m2.2⟩
      rw [hkeep s0 (lC s0 m1), m2.1]; simp
  · intro s hs
    obtain ⟨s0, hs0⟩ := (two_step_sectors_abelian_partial a b _ c' xa xb ya yb ha hb hfa hfb g1 g2 h1' h3' s).mp hs
    obtain ⟨m1, m2⟩ := List.mem_filter.mp hs0
    simp only [Bool.and_eq_true, beq_iff_eq] at m2
    obtain ⟨shp, q1, q2, q3, q4⟩ := shape_of_mem hsc m1
    have hN : (tensordotBlockwise a b (freeAxes a.ndim xa) xa xb (freeAxes b.ndim xb)).indices.length
        = tsN a.ndim b.ndim xa xb := by
      have : (tensordotBlockwise a b (freeAxes a.ndim xa) xa xb (freeAxes b.ndim xb)).ndim
          = tsN a.ndim b.ndim xa xb := by rw [← q4, lC s0 m1]
      exact this
    have p1 := blockShape?_permuted q1 (tsRhs a.ndim b.ndim xa xb ya yb)
      (fun x hx => by rw [hN]; exact tsRhs_lt a.ndim b.ndim xa xb ya yb x hx)
    rw [m2.2] at p1
    have hL : Arr.blockShapeD (permuted (tensordotBlockwise a b (freeAxes a.ndim xa) xa xb
        (freeAxes b.ndim xb)).indices (tsRhs a.ndim b.ndim xa xb ya yb)) s
        = permuted shp (tsRhs a.ndim b.ndim xa xb ya yb) := by
      rw [Arr.blockShapeD, p1]; rfl
    show Arr.blockShapeD (permuted (tensordotBlockwise a b (freeAxes a.ndim xa) xa xb
        (freeAxes b.ndim xb)).indices (tsRhs a.ndim b.ndim xa xb ya yb)) s = _
    rw [hL, ← q2, tensordotBlockwise_shapeD ha hb hfa W1 m1]
    obtain ⟨sa, hsa, sb, hsb, halx, rfl⟩ := (hc s0).mp m1
    obtain ⟨shA, _, eA2, eA3, _⟩ := shape_of_mem hsA hsa
    obtain ⟨shB, _, eB2, eB3, _⟩ := shape_of_mem hsB hsb
    have hk := m2.2
    rw [permuted_tsRhs hA hB sa sb (lA sa hsa) (lB sb hsb)] at hk
    rw [free_shape hsA hsB hsa hsb, permuted_tsRhs hA hB _ _ (by rw [eA2, eA3]) (by rw [eB2, eB3]),
      ← free_shape hsA hsB hsa hsb (xa ++ ya) (xb ++ yb), hk]
    subst h3c
    exact (tensordotBlockwise_shapeD ha hb hfa W2 hs).symm
  · intro s' fL fR hfL hbox
    obtain ⟨e2, he2, _, _, hval⟩ := einsumA_elem'
      (tensordotBlockwise a b (freeAxes a.ndim xa) xa xb (freeAxes b.ndim xb))
      (tsLhs a.ndim b.ndim xa xb ya yb) (tsRhs a.ndim b.ndim xa xb ya yb) _ hperm h2 hpc hdc hsc s' (fL ++ fR)
      (by
        intro s hs _ hk
        rw [hszR _ (shL s hs), tensordotBlockwise_shapeD ha hb hfa W1 hs]
        obtain ⟨sa, hsa, sb, hsb, halx, rfl⟩ := (hc s).mp hs
        obtain ⟨shA, _, eA2, eA3, _⟩ := shape_of_mem hsA hsa
        obtain ⟨shB, _, eB2, eB3, _⟩ := shape_of_mem hsB hsb
        rw [free_shape hsA hsB hsa hsb,
          permuted_tsRhs hA hB _ _ (by rw [eA2, eA3]) (by rw [eB2, eB3])]
        have hk' : permuted (permuted sa (freeAxes a.ndim xa) ++ permuted sb (freeAxes b.ndim xb))
          (tsRhs a.ndim b.ndim xa xb ya yb) = s' := hk
        rw [permuted_tsRhs hA hB sa sb (lA sa hsa) (lB sb hsb)] at hk'
        subst hk'
        rw [free_shape hsA hsB hsa hsb (xa ++ ya) (xb ++ yb)] at hbox
        exact hbox)
    rw [hE] at he2
    cases he2
    rw [hval, ← two_step_values_abelian_partial a b _ c' xa xb ya yb ha hb hfa hfb g1 g2 h1' h3' s' fL fR
      hfL hbox]
    have hfil : (tensordotBlockwise a b (freeAxes a.ndim xa) xa xb (freeAxes b.ndim xb)).sectors.filter
        (fun s => einKeep (tsLhs a.ndim b.ndim xa xb ya yb) (tsRhs a.ndim b.ndim xa xb ya yb) s
          && permuted s (tsRhs a.ndim b.ndim xa xb ya yb) == s')
        = tsSurv (tensordotBlockwise a b (freeAxes a.ndim xa) xa xb (freeAxes b.ndim xb))
            a.ndim b.ndim xa xb ya yb s' := by
      unfold tsSurv
      apply List.filter_congr
      intro s hs
      rw [hkeep s (lC s hs)]
    rw [hfil]
    apply sum_map_congr
    intro s hs
    have hsC := (List.mem_filter.mp hs).1
    rw [hszT _ (shL s hsC), tensordotBlockwise_shapeD ha hb hfa W1 hsC]
    show ((allIdx (tsBox a b xa xb ya s)).map _).sum = _
    apply sum_map_congr
    intro t ht
    refine congrArg (Arr.elem _ s) ?_
    obtain ⟨sa, hsa, sb, hsb, halx, rfl⟩ := (hc s).mp hsC
    obtain ⟨hal, hk⟩ := (surv_mem (a := fz a) (b := fz b) W1 W2 hc s' hsa hsb halx.symm).mp hs
    have eB : tsBox a b xa xb ya (permuted sa (freeAxes a.ndim xa) ++ permuted sb (freeAxes b.ndim xb))
        = permuted (Arr.blockShapeD a.indices sa) ya := surv_box (a := fz a) (b := fz b) W2 hsa hsb
    rw [eB] at ht
    have hk' : permuted sa (freeAxes a.ndim (xa ++ ya)) ++ permuted sb (freeAxes b.ndim (xb ++ yb)) = s' := hk
    subst hk'
    rw [free_shape hsA hsB hsa hsb (xa ++ ya) (xb ++ yb)] at hbox
    obtain ⟨htl, hfR, _, _⟩ := asm_inBox (a := fz a) (b := fz b) W2 W1.len hly hsa hsb hal t fL fR
      (mem_allIdx.mp ht) hfL hbox
    exact einIdx_g G hK1 hK2 hP hKN _ _ _
      (by rw [List.length_append, asmSide_length, asmSide_length]; rfl)
      (permuted_asm_tsPA hA t fL _ htl)
      (permuted_asm_tsPB hB t fR _ (asmSide_length _ _ _ _ _) (by rw [htl, hly]))
      (permuted_asm_tsRhs hA hB t fL fR hfL hfR)

/-- non-vacuity: `exA`, `exB` of C02 (first `1 ~ 0`, then `2 ~ 1`; `ya = [2]` is increasing) satisfy the
    hypotheses; evaluation confirms that the einsum of the intermediate succeeds with the stored blocks of the
    one-step contraction (a non-zero value among them) -/
example :
    C02.exA.validB = true ∧ C02.exB.validB = true ∧ C02.exA.fermi = false ∧ C02.exB.fermi = false
    ∧ tdotAdmissibleCommonB C02.exA C02.exB [1] [0] = true
    ∧ tdotAdmissibleCommonB C02.exA C02.exB ([1] ++ [2]) ([0] ++ [1]) = true
    ∧ ([2] : List Nat).Pairwise (· < ·)
    ∧ (match tensordotA C02.exA C02.exB (.pair [1] [0]) .blockwise,
         tensordotA C02.exA C02.exB (.pair [1, 2] [0, 1]) .blockwise with
       | .ok c, .ok c' =>
         (match einsumA c (tsLhs 3 3 [1] [0] [2] [1]) (tsRhs 3 3 [1] [0] [2] [1]) with
          | .ok e => e.sectors == c'.sectors
              && e.blocks.map (fun p => (p.1, p.2.data)) == c'.blocks.map (fun p => (p.1, p.2.data))
              && c'.elem [C02.c0, C02.c0] [1, 0] != 0
          | .error _ => false)
       | _, _ => false) = true :=
  ⟨by decide +kernel, by decide +kernel, rfl, rfl, by decide +kernel, by decide +kernel, by simp,
    by decide +kernel⟩

example (c c' : Arr Int)
    (h1 : tensordotA C02.exA C02.exB (.pair ([1].map Int.ofNat) ([0].map Int.ofNat)) .blockwise = .ok c)
    (h3 : tensordotA C02.exA C02.exB (.pair (([1] ++ [2]).map Int.ofNat) (([0] ++ [1]).map Int.ofNat))
      .blockwise = .ok c') :
    ∃ e, einsumA c (tsLhs C02.exA.ndim C02.exB.ndim [1] [0] [2] [1])
        (tsRhs C02.exA.ndim C02.exB.ndim [1] [0] [2] [1]) = .ok e
      ∧ (∀ s, s ∈ e.sectors ↔ s ∈ c'.sectors)
      ∧ e.elem [C02.c0, C02.c0] ([1] ++ [0]) = c'.elem [C02.c0, C02.c0] ([1] ++ [0]) := by
  obtain ⟨e, q1, q2, _, q3⟩ := two_step_values_abelian_sorted_partial C02.exA C02.exB c c' [1] [0] [2] [1]
    (by decide +kernel) (by decide +kernel) rfl rfl (by decide +kernel) (by decide +kernel) h1 h3 (by simp)
  exact ⟨e, q1, q2, q3 [C02.c0, C02.c0] [1] [0] (by decide +kernel) (by decide +kernel)⟩

end SymmModel.C04
