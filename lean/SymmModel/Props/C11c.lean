/-
  Property C11 (third part) — fermionic reconstruction for arrays carrying SEVERAL odd-position
  labels, and for every `absorb` option of `svd_truncated`, with and without truncation.

  About `qrA`, `svdA`, `applyCounts`, `eighA`, `solveA` (Model/Linalg.lean), `Arr.matmulF`
  (`FermionicArray.__matmul__`), `multiplyDiagonal`, `Arr.daggerF`, `absorbA` (the absorb loop of
  `svd_truncated`, Proofs/LinalgMore4.lean): every symmetry, every valid fermionic matrix (any
  blocks, charge — even or odd —, index directions, pending signs), arbitrary scalars.

  Labels.  `Arr.validB` only forces "odd number of labels iff odd charge"; every array the library
  builds carries its labels sorted by `FermionicOperator.__lt__` with pairwise distinct names
  (`resolve_combined_oddpos` sorts and annihilates).  That is the hypothesis
  `SortedLabels x.oddpos` (`ReconP.SortedLabels`; dual labels allowed).  The hypothesis
  `x.oddpos.length ≤ 1` of Props/C11 is the special case `sortedLabels_of_short`.
  In `qr`/`svd` the LEFT factor inherits all labels of the input (`copy_with`), the right factor
  is built without labels; `q @ r` merges `labels(q) ++ []`: already sorted, no transposition, so
  sign `+1` and the same list (`ReconP.resolve_sorted_left`).  In `solve` the solution inherits
  the labels of the right-hand side.  In `eigh` both `ev` and `ev†` carry the labels (`ev†` the
  conjugated reversed list): they annihilate pairwise; for non-dual labels without a sign.

  Scalars: `NegLaws` (instances `Int`, `GRat`) for qr/svd, `SignLaws` for eigh, a commutative ring
  for the absorb/truncation theorems (as in C11b/C13).
-/
import SymmModel.Proofs.ReconTrunc
import SymmModel.Proofs.ReconSolve
import SymmModel.Proofs.ReconEigh
import SymmModel.Props.C11b

namespace SymmModel.C11
open SymmModel LinalgLemmas ReconP

variable {R : Type}

theorem sortedLabels_iff (o : List (Int × Bool)) :
    SortedLabels o ↔ (o.Pairwise (fun a b => oddLt a b = true) ∧ o.Pairwise (fun a b => a.1 ≠ b.1)) :=
  Iff.rfl

theorem sortedLabels_of_short {o : List (Int × Bool)} (h : o.length ≤ 1) : SortedLabels o :=
  ReconP.sortedLabels_of_short h

theorem label_merge_left (left right new : Arr R) (hr : right.oddpos = [])
    (hl : SortedLabels left.oddpos) :
    resolveCombinedOddpos left right new = .ok { new with oddpos := left.oddpos } :=
  resolve_sorted_left left right new hr hl

theorem svdProduct_def [Zero R] [Add R] [Mul R] [Neg R] (sqrtK : Blk R → Blk R) (u : Arr R)
    (s : BVec R) (vh : Arr R) :
    svdProduct none sqrtK u s vh = Arr.matmulF (multiplyDiagonal u s 1) vh
    ∧ ∀ m, svdProduct (some m) sqrtK u s vh
        = Arr.matmulF (absorbA m sqrtK u s vh).1 (absorbA m sqrtK u s vh).2 :=
  ⟨rfl, fun _ => rfl⟩

/-- **qr_reconstructs_fermionic_labels.**  `C11.qr_reconstructs_fermionic` for an input carrying
    any sorted list of labels. -/
theorem qr_reconstructs_fermionic_labels [Zero R] [Add R] [Mul R] [Neg R] [NegLaws R]
    (K : Kernels R) (hK : K.ShapeOk) (hC : K.QRContract) (x : Arr R) (hv : x.validB = true)
    (h2 : x.ndim = 2) (hf : x.fermi = true) (hlab : SortedLabels x.oddpos) :
    ∃ q r y, qrA K x = .ok (q, r) ∧ q.oddpos = x.oddpos ∧ r.oddpos = []
      ∧ Arr.matmulF q r = .ok y ∧ y.oddpos = x.oddpos ∧ y.phases = []
      ∧ ∀ s off, AddrOf x s off → y.elem s off = x.elem s off := by
  obtain ⟨y, h1, h2', h3, h4⟩ := qr_recon_fermi_labels hK hC hv h2 hf hlab
  exact ⟨_, _, y, qrA_eq K hv h2, rfl, rightF_fields.oddpos, h1, h2', h3, h4⟩

/-- **svd_reconstructs_fermionic_labels.**  Likewise `(U · diag s) @ VH = x`. -/
theorem svd_reconstructs_fermionic_labels [Zero R] [Add R] [Mul R] [Neg R] [NegLaws R]
    (K : Kernels R) (hK : K.ShapeOk) (hC : K.SVDContract) (x : Arr R) (hv : x.validB = true)
    (h2 : x.ndim = 2) (hf : x.fermi = true) (hlab : SortedLabels x.oddpos) :
    ∃ u s vh y, svdA K x = .ok (u, s, vh) ∧ u.oddpos = x.oddpos ∧ vh.oddpos = []
      ∧ Arr.matmulF (multiplyDiagonal u s 1) vh = .ok y
      ∧ y.oddpos = x.oddpos ∧ y.phases = []
      ∧ ∀ sec off, AddrOf x sec off → y.elem sec off = x.elem sec off := by
  obtain ⟨y, h1, h2', h3, h4⟩ := svd_recon_fermi_labels hK hC hv h2 hf hlab
  exact ⟨_, _, _, y, svdA_eq K hv h2, rfl, rightF_fields.oddpos, h1, h2', h3, h4⟩

/-- **solve_solves_fermionic_labels.**  `C11.solve_solves_fermionic` for a right-hand side
    carrying any sorted list of labels (the solution inherits it; `a` even without labels). -/
theorem solve_solves_fermionic_labels [Zero R] [Add R] [Mul R] [Neg R] (hn0 : -(0 : R) = 0)
    (K : Kernels R) (hK : K.ShapeOk) (a b x : Arr R) (hva : a.validB = true)
    (hvb : b.validB = true) (hfa : a.fermi = true) (hfb : b.fermi = true)
    (heven : a.parity = false) (hao : a.oddpos = []) (hbo : SortedLabels b.oddpos)
    (hS : K.SolvesOn a.phaseSync b.phaseSync) (h : solveA K a b = .ok x) :
    ∃ y, Arr.matmulF a x = .ok y ∧ y.oddpos = b.oddpos ∧
      ∀ s arr, (s, arr) ∈ a.blocks → [s.getD 0 (0, 0)] ∈ b.sectors →
        ∀ i, i < arr.shape.getD 0 0 →
          y.elem [s.getD 0 (0, 0)] [i] = b.elem [s.getD 0 (0, 0)] [i] :=
  solve_recon_fermi_labels hn0 hK hva hvb hfa hfb heven hao hbo hS h

/-- **eigh_reconstructs_fermionic_labels.**  `C11.eigh_reconstructs_fermionic` for an input
    carrying a sorted list of NON-DUAL labels (even in number, because the charge is zero):
    `ev` keeps them, `ev†` carries the conjugated reversed list, the product has none and `a`'s
    values.  (With dual labels among them each conjugate pair that meets as ket-then-bra
    contributes `-1`, see the example `exEdual` below: the product is then `-a`; same convention
    as known finding `norm-odd-dual-label`.) -/
theorem eigh_reconstructs_fermionic_labels [Zero R] [Add R] [Mul R] [Neg R] [Conj R] [SignLaws R]
    (hc0 : Conj.conj (0 : R) = 0) (K : Kernels R) (hK : K.ShapeOk) (a : Arr R)
    (hv : a.validB = true) (h2 : a.ndim = 2) (hch : a.charge = a.sym.zero)
    (hopp : (a.indices.getD 1 default).dual = !(a.indices.getD 0 default).dual)
    (hcm : (a.indices.getD 0 default).cm = (a.indices.getD 1 default).cm)
    (hf : a.fermi = true) (hlab : SortedLabels a.oddpos) (hket : ∀ l ∈ a.oddpos, l.2 = false)
    (hE : ∀ p ∈ a.phaseSync.blocks, K.EighBlock p.2) :
    ∃ w ev y, eighA K a = .ok (w, ev)
      ∧ Arr.matmulF (multiplyDiagonal ev w 1) ev.daggerF = .ok y ∧ y.oddpos = []
      ∧ ∀ s off, AddrOf a s off → y.elem s off = a.elem s off :=
  eigh_recon_fermi_labels hc0 hK ⟨hv, h2, hch, hopp, hcm⟩ hf hlab hket hE

theorem sqrtItems_svd [Zero R] [Mul R] {K : Kernels R} (hK : K.ShapeOk) {x : Arr R}
    (hv : x.validB = true) (h2 : x.ndim = 2) {sqrtK : Blk R → Blk R}
    (hsq : SqrtOn sqrtK ⟨x.blocks.map (fun p => (colOf p.1, (K.svd p.2).2.1))⟩) :
    SqrtItems sqrtK x.blocks (fun p => (K.svd p.2).2.1)
      (fun p => min (p.2.shape.getD 0 0) (p.2.shape.getD 1 0)) := by
  intro p hp
  have := hsq (colOf p.1, (K.svd p.2).2.1) (List.mem_map.mpr ⟨p, hp, rfl⟩)
  rw [(svd_itemShape hK hv h2 p hp).2.1] at this
  exact this

/-- **svd_absorb_reconstructs_fermionic.**  `u, s, vh = svd(x)`, `x` a valid fermionic matrix
    with sorted labels and any pending signs.  For every value of `absorb` (`none` = `None`,
    `some .left/.both/.right` = `-1/0/1`; for `0` the backend `sqrt` satisfies
    `sqrtK s * sqrtK s = s` on the stored singular values) the product the caller forms from what
    `svd_truncated` returns — `U.multiply_diagonal(s,1) @ VH`, resp. `U' @ VH'` — succeeds and IS
    `x`: same labels, no pending sign, same sectors, same element at every address. -/
theorem svd_absorb_reconstructs_fermionic [CommRing R] (K : Kernels R) (hK : K.ShapeOk)
    (hC : K.SVDContract) (x : Arr R) (hv : x.validB = true) (h2 : x.ndim = 2)
    (hf : x.fermi = true) (hlab : SortedLabels x.oddpos) (u : Arr R) (s : BVec R) (vh : Arr R)
    (hsvd : svdA K x = .ok (u, s, vh)) (sqrtK : Blk R → Blk R) (mode : Option Absorb)
    (hsq : mode = some .both → SqrtOn sqrtK s) :
    ∃ y, svdProduct mode sqrtK u s vh = .ok y
      ∧ y.oddpos = x.oddpos ∧ y.phases = [] ∧ y.sectors = x.sectors
      ∧ ∀ sec off, AddrOf x sec off → y.elem sec off = x.elem sec off := by
  obtain ⟨rfl, rfl, rfl⟩ := svd_factors_eq hv h2 hsvd
  exact svd_absorb_recon_fermi hK hC hv h2 hf hlab sqrtK mode
    (fun hm => sqrtItems_svd hK hv h2 (hsq hm))

/-- **svd_reconstructs_fermionic_right.**  Multiplying the singular values into `VH` instead:
    `U @ VH.multiply_diagonal(s, 0) = x`. -/
theorem svd_reconstructs_fermionic_right [CommRing R] (K : Kernels R) (hK : K.ShapeOk)
    (hC : K.SVDContract) (x : Arr R) (hv : x.validB = true) (h2 : x.ndim = 2)
    (hf : x.fermi = true) (hlab : SortedLabels x.oddpos) (u : Arr R) (s : BVec R) (vh : Arr R)
    (hsvd : svdA K x = .ok (u, s, vh)) :
    ∃ y, Arr.matmulF u (multiplyDiagonal vh s 0) = .ok y
      ∧ y.oddpos = x.oddpos ∧ y.phases = [] ∧ y.sectors = x.sectors
      ∧ ∀ sec off, AddrOf x sec off → y.elem sec off = x.elem sec off := by
  obtain ⟨rfl, rfl, rfl⟩ := svd_factors_eq hv h2 hsvd
  rw [matmulF_right_diag (aligned_svd (K := K) hv h2) id]
  exact svd_absorb_recon_fermi hK hC hv h2 hf hlab id (some .right) (fun h => by cases h)

/-- **absorb_products_agree_fermionic.**  No value contract on the svd kernel: any two values of
    `absorb` give fermionic products with the same sectors, pending signs, labels, index
    tables, charge, and the same element at every address of `x`. -/
theorem absorb_products_agree_fermionic [CommRing R] (K : Kernels R) (hK : K.ShapeOk) (x : Arr R)
    (hv : x.validB = true) (h2 : x.ndim = 2) (hf : x.fermi = true)
    (hlab : SortedLabels x.oddpos) (u : Arr R) (s : BVec R) (vh : Arr R)
    (hsvd : svdA K x = .ok (u, s, vh)) (sqrtK : Blk R → Blk R) (hsq : SqrtOn sqrtK s)
    (m1 m2 : Option Absorb) :
    ∃ y1 y2, svdProduct m1 sqrtK u s vh = .ok y1 ∧ svdProduct m2 sqrtK u s vh = .ok y2
      ∧ y1.sectors = y2.sectors ∧ y1.phases = y2.phases ∧ y1.oddpos = y2.oddpos
      ∧ y1.indices = y2.indices ∧ y1.charge = y2.charge
      ∧ ∀ sec off, AddrOf x sec off → y1.elem sec off = y2.elem sec off := by
  obtain ⟨rfl, rfl, rfl⟩ := svd_factors_eq hv h2 hsvd
  obtain ⟨y1, y2, a1, a2, a3, a4, a5, a6, a7, _, _, a8⟩ := svdProduct_agree hv h2
    (aligned_svd (K := K) hv h2) (fun p hp => List.mem_map.mpr ⟨p, hp, rfl⟩) rfl hlab
    (rightF_rightOf hv h2 hf _ _) sqrtK
    (fun p => (p.2.shape.getD 0 0, min (p.2.shape.getD 0 0) (p.2.shape.getD 1 0), p.2.shape.getD 1 0))
    (svd_itemShape hK hv h2) (sqrtItems_svd hK hv h2 hsq) m1 m2
  refine ⟨y1, y2, a1, a2, a3, a4, a5, a6, a7, fun sec off ha => a8 sec off (addrOf_items hv h2 ha)⟩

section trunc
variable [CommRing R]

theorem sqrtItems_trunc {K : Kernels R} {x : Arr R} {counts : List Nat} {sqrtK : Blk R → Blk R}
    (hsq : SqrtOn sqrtK (truncS x (fun b => (K.svd b).2.1) counts)) :
    SqrtItems sqrtK (kept x counts) (fun t => ((K.svd t.1.2).2.1).sliceK [0] [t.2]) (fun t => t.2) := by
  intro t ht
  have := hsq (colOf t.1.1, ((K.svd t.1.2).2.1).sliceK [0] [t.2]) (List.mem_map.mpr ⟨t, ht, rfl⟩)
  simpa using this

/-- the sign `x`'s pending-sign table gives to sector `sec` -/
def pend (x : Arr R) (sec : Sector) (v : R) : R :=
  if alookup x.phases sec == some (-1) then -v else v

theorem pend_eq (x : Arr R) (sec : Sector) (v : R) :
    pend x sec v = Lazy.sgnI (Lazy.phOf x.phases sec) v :=
  (sgnI_phOf x.phases sec v).symm

open Finset in
/-- **svd_truncated_product_fermionic.**  `u, s, vh = svd(x)` truncated with `counts` (aligned
    with the stored blocks).  For every value of `absorb`, the product the caller forms from the
    returned factors succeeds, carries `x`'s labels and no pending sign, stores exactly the sectors
    with a non-zero count, is zero on every other sector, and on a kept block `((sec, b), c)` has
    the entry `± Σ_{t < c} (u[i,t]·s[t])·vh[t,j]` of the kernel factors of `b` (`±` = `x`'s pending
    sign on `sec`). -/
theorem svd_truncated_product_fermionic (K : Kernels R) (hK : K.ShapeOk) (x : Arr R)
    (hv : x.validB = true) (h2 : x.ndim = 2) (hf : x.fermi = true)
    (hlab : SortedLabels x.oddpos) (u : Arr R) (s : BVec R) (vh : Arr R)
    (hsvd : svdA K x = .ok (u, s, vh)) (counts : List Nat)
    (hlen : counts.length = x.blocks.length) (sqrtK : Blk R → Blk R) (mode : Option Absorb)
    (hsq : mode = some .both → SqrtOn sqrtK (applyCounts u s vh counts).2.1) :
    ∃ y, svdProduct mode sqrtK (applyCounts u s vh counts).1 (applyCounts u s vh counts).2.1
        (applyCounts u s vh counts).2.2 = .ok y
      ∧ y.oddpos = x.oddpos ∧ y.phases = []
      ∧ y.sectors = ((x.blocks.zip counts).filter (fun t => t.2 != 0)).map (fun t => t.1.1)
      ∧ (∀ sec b c, ((sec, b), c) ∈ x.blocks.zip counts → c ≠ 0 →
          ∀ m n, b.shape = [m, n] → ∀ i j, i < m → j < n →
            y.elem sec [i, j] = pend x sec (∑ t ∈ range c,
              ((K.svd b).1.get [i, t] * (K.svd b).2.1.get [t]) * (K.svd b).2.2.get [t, j]))
      ∧ (∀ sec b, ((sec, b), 0) ∈ x.blocks.zip counts → ∀ off, y.elem sec off = 0)
      ∧ (∀ sec, sec ∉ x.sectors → ∀ off, y.elem sec off = 0) := by
  obtain ⟨rfl, rfl, rfl⟩ := svd_factors_eq hv h2 hsvd
  rw [applyCounts_eq (S := fun b => (K.svd b).2.1) hv h2 hlen] at hsq ⊢
  obtain ⟨y, hy, hyo, hyp, hys, he, hz⟩ := trunc_absorb_fermi hK hv h2 hf hlab hlen sqrtK mode
    (fun hm => sqrtItems_trunc (hsq hm))
  have hkeys : ((x.blocks.zip counts).map (fun t => t.1.1)).Nodup := by
    have e : (x.blocks.zip counts).map (fun t => t.1.1)
        = ((x.blocks.zip counts).map (·.1)).map (·.1) := by rw [List.map_map]; rfl
    rw [e, tri_map_fst hlen]; exact Arr.validB_nodup hv
  refine ⟨y, hy, hyo, hyp, hys, ?_, ?_, ?_⟩
  · intro sec b c hm hc0 m n hs i j hi hj
    have hk : ((sec, b), c) ∈ kept x counts := mem_kept_iff.mpr ⟨hm, hc0⟩
    exact (he sec b c hk m n hs i j hi hj).trans (pend_eq x sec _).symm
  · intro sec b hm off
    apply hz
    intro hmem
    obtain ⟨t, ht, e⟩ := List.mem_map.mp hmem
    have ht' := List.mem_filter.mp ht
    have := List.inj_on_of_nodup_map hkeys ht'.1 hm e
    rw [this] at ht'
    simp at ht'
  · intro sec hns off
    apply hz
    intro hmem
    obtain ⟨t, ht, e⟩ := List.mem_map.mp hmem
    exact hns (e ▸ List.mem_map.mpr ⟨t.1, (kept_mem hlen ht).1, rfl⟩)

open Finset in
/-- **svd_truncated_minus_discarded_fermionic.**  Under the svd value contract: on a kept block
    the input minus the product of the truncated factors (any `absorb`) is exactly the discarded
    part `± Σ_{c ≤ t < min m n} (u[i,t]·s[t])·vh[t,j]`. -/
theorem svd_truncated_minus_discarded_fermionic (K : Kernels R) (hK : K.ShapeOk)
    (hC : K.SVDContract) (x : Arr R) (hv : x.validB = true) (h2 : x.ndim = 2)
    (hf : x.fermi = true) (hlab : SortedLabels x.oddpos) (u : Arr R) (s : BVec R) (vh : Arr R)
    (hsvd : svdA K x = .ok (u, s, vh)) (counts : List Nat)
    (hlen : counts.length = x.blocks.length) (sqrtK : Blk R → Blk R) (mode : Option Absorb)
    (hsq : mode = some .both → SqrtOn sqrtK (applyCounts u s vh counts).2.1) :
    ∃ y, svdProduct mode sqrtK (applyCounts u s vh counts).1 (applyCounts u s vh counts).2.1
        (applyCounts u s vh counts).2.2 = .ok y
      ∧ ∀ sec b c, ((sec, b), c) ∈ x.blocks.zip counts → c ≠ 0 →
          ∀ m n, b.shape = [m, n] → c ≤ min m n → ∀ i j, i < m → j < n →
            x.elem sec [i, j] - y.elem sec [i, j] = pend x sec (∑ t ∈ Ico c (min m n),
              ((K.svd b).1.get [i, t] * (K.svd b).2.1.get [t]) * (K.svd b).2.2.get [t, j]) := by
  obtain ⟨y, hy, _, _, _, he, _⟩ := svd_truncated_product_fermionic K hK x hv h2 hf hlab u s vh
    hsvd counts hlen sqrtK mode hsq
  refine ⟨y, hy, ?_⟩
  intro sec b c hm hc0 m n hs hc i j hi hj
  have hk : ((sec, b), c) ∈ kept x counts := mem_kept_iff.mpr ⟨hm, hc0⟩
  rw [pend_eq]
  exact trunc_diff_fermi hC hv hlen hk hs hc hi hj
    ((he sec b c hm hc0 m n hs i j hi hj).trans (pend_eq x sec _))

open Finset in
/-- **truncation_error_fermionic.**  `C11.truncation_error` for the fermionic product and every
    `absorb` option: on a kept block with orthonormal kernel factors, the squared norm of
    `x − product` is the discarded squared weight `Σ_{c ≤ t < min m n} conj(s[t])·s[t]`. -/
theorem truncation_error_fermionic (conj : R →+* R) (K : Kernels R) (hK : K.ShapeOk)
    (hC : K.SVDContract) (x : Arr R) (hv : x.validB = true) (h2 : x.ndim = 2)
    (hf : x.fermi = true) (hlab : SortedLabels x.oddpos) (u : Arr R) (s : BVec R) (vh : Arr R)
    (hsvd : svdA K x = .ok (u, s, vh)) (counts : List Nat)
    (hlen : counts.length = x.blocks.length) (sqrtK : Blk R → Blk R) (mode : Option Absorb)
    (hsq : mode = some .both → SqrtOn sqrtK (applyCounts u s vh counts).2.1) :
    ∃ y, svdProduct mode sqrtK (applyCounts u s vh counts).1 (applyCounts u s vh counts).2.1
        (applyCounts u s vh counts).2.2 = .ok y
      ∧ ∀ sec b c, ((sec, b), c) ∈ x.blocks.zip counts → c ≠ 0 →
          ∀ m n, b.shape = [m, n] → K.OrthoBlock conj b → c ≤ min m n →
            ∑ i ∈ range m, ∑ j ∈ range n,
                conj (x.elem sec [i, j] - y.elem sec [i, j]) * (x.elem sec [i, j] - y.elem sec [i, j])
              = ∑ t ∈ Ico c (min m n), conj ((K.svd b).2.1.get [t]) * (K.svd b).2.1.get [t] := by
  obtain ⟨y, hy, _, _, _, he, _⟩ := svd_truncated_product_fermionic K hK x hv h2 hf hlab u s vh
    hsvd counts hlen sqrtK mode hsq
  refine ⟨y, hy, ?_⟩
  intro sec b c hm hc0 m n hs hO hc
  have hk : ((sec, b), c) ∈ kept x counts := mem_kept_iff.mpr ⟨hm, hc0⟩
  exact trunc_error_fermi conj hC hv hlen hk hs hO hc
    (fun i j hi hj => (he sec b c hm hc0 m n hs i j hi hj).trans (pend_eq x sec _))

/-- **absorb_products_agree_fermionic_truncated.**  After truncation any two values of `absorb`
    give fermionic products with the same structure and the same element at every address of `x`
    (no value contract on the svd kernel). -/
theorem absorb_products_agree_fermionic_truncated (K : Kernels R) (hK : K.ShapeOk) (x : Arr R)
    (hv : x.validB = true) (h2 : x.ndim = 2) (hf : x.fermi = true)
    (hlab : SortedLabels x.oddpos) (u : Arr R) (s : BVec R) (vh : Arr R)
    (hsvd : svdA K x = .ok (u, s, vh)) (counts : List Nat)
    (hlen : counts.length = x.blocks.length) (sqrtK : Blk R → Blk R)
    (hsq : SqrtOn sqrtK (applyCounts u s vh counts).2.1) (m1 m2 : Option Absorb) :
    ∃ y1 y2,
      svdProduct m1 sqrtK (applyCounts u s vh counts).1 (applyCounts u s vh counts).2.1
        (applyCounts u s vh counts).2.2 = .ok y1
      ∧ svdProduct m2 sqrtK (applyCounts u s vh counts).1 (applyCounts u s vh counts).2.1
        (applyCounts u s vh counts).2.2 = .ok y2
      ∧ y1.sectors = y2.sectors ∧ y1.phases = y2.phases ∧ y1.oddpos = y2.oddpos
      ∧ y1.indices = y2.indices ∧ y1.charge = y2.charge
      ∧ ∀ sec off, AddrOf x sec off → y1.elem sec off = y2.elem sec off := by
  obtain ⟨rfl, rfl, rfl⟩ := svd_factors_eq hv h2 hsvd
  rw [applyCounts_eq (S := fun b => (K.svd b).2.1) hv h2 hlen] at hsq ⊢
  obtain ⟨y1, y2, a1, a2, a3, a4, a5, a6, a7, _, _, a8⟩ := svdProduct_agree hv h2
    (aligned_trunc (K := K) hv h2 hlen)
    (fun t ht => List.mem_map.mpr ⟨t.1, (kept_mem hlen ht).1, rfl⟩) rfl hlab
    (truncV_rightOf hv h2 hf _ _ counts) sqrtK
    (fun t => (t.1.2.shape.getD 0 0, t.2, t.1.2.shape.getD 1 0))
    (trunc_itemShape hK hv h2 hlen) (sqrtItems_trunc hsq) m1 m2
  refine ⟨y1, y2, a1, a2, a3, a4, a5, a6, a7, fun sec off ha => a8 sec off (addrOf_kept hv h2 hlen ha)⟩

end trunc

open scoped SymmModel.Lazy   -- `Conj Int` (trivial conjugation)

/-- `C11.exF` (odd charge, row index incoming, column index outgoing, a pending sign) carrying
    THREE labels, one of them dual: sorted by `__lt__` (dual first), distinct names -/
def exF3 : Arr Int := { exF with oddpos := [(7, true), (2, false), (5, false)] }

theorem sortedLabels_ex : SortedLabels [((7 : Int), true), (2, false), (5, false)] := by
  unfold SortedLabels OddposP.OddSorted OddposP.LabelsDistinct; decide

example : exF3.validB = true ∧ exF3.ndim = 2 ∧ exF3.fermi = true ∧ exF3.parity = true
    ∧ SortedLabels exF3.oddpos := ⟨by decide, rfl, rfl, by decide, sortedLabels_ex⟩

/-- `q` inherits the three labels, `r` none but the pending sign on its odd diagonal sector;
    `q @ r` has `x`'s value view (pending sign multiplied in), no pending sign, the three labels -/
example : ((qrA Kernels.trivialFactor exF3).toOption.bind (fun p =>
      (Arr.matmulF p.1 p.2).toOption.map (fun y =>
        (p.1.oddpos, p.2.oddpos, p.2.phases,
         y.blocks.map (fun q => (q.1, q.2.shape, q.2.data.toList)), y.phases, y.oddpos)))
    == some ([(7, true), (2, false), (5, false)], [], [([(1, 0), (1, 0)], -1)],
        [([(0, 0), (1, 0)], [2, 1], [1, 2]), ([(1, 0), (2, 0)], [1, 3], [-3, -4, -5])], [],
        [(7, true), (2, false), (5, false)])) = true := by decide +kernel

/-- odd fermionic matrix with two `2 × 2` blocks, a pending sign on the second, three labels -/
def exT : Arr Int :=
  { sym := .U1, fermi := true, charge := (1, 0),
    indices := [Index.mk [((0, 0), 2), ((1, 0), 2)] true none,
                Index.mk [((1, 0), 2), ((2, 0), 2)] false none],
    blocks := [([(0, 0), (1, 0)], ⟨[2, 2], #[1, 2, 3, 4]⟩), ([(1, 0), (2, 0)], ⟨[2, 2], #[5, 6, 7, 8]⟩)],
    phases := [([(1, 0), (2, 0)], -1)],
    oddpos := [(7, true), (2, false), (5, false)] }

example : exT.validB = true ∧ exT.ndim = 2 ∧ exT.fermi = true ∧ exT.parity = true
    ∧ SortedLabels exT.oddpos := ⟨by decide, rfl, rfl, by decide, sortedLabels_ex⟩

/-- with `Kernels.trivialFactor` all singular values are `1`, so `sqrt = id` meets `SqrtOn`,
    before … -/
theorem sqrtOn_id_trivial (x : Arr Int) (hv : x.validB = true) (h2 : x.ndim = 2) (u : Arr Int)
    (s : BVec Int) (vh : Arr Int) (h : svdA Kernels.trivialFactor x = .ok (u, s, vh)) :
    SqrtOn id s := by
  obtain ⟨_, rfl, _⟩ := svd_factors_eq hv h2 h
  intro q hq
  obtain ⟨p, hp, rfl⟩ := List.mem_map.mp hq
  obtain ⟨i0, i1, hi⟩ := ndim_two h2
  obtain ⟨r, c, m, n, B⟩ := mat_block hv hi (s := p.1) (b := p.2) hp
  refine ⟨rfl, ?_⟩
  intro t ht
  simp only [id, trivialFactor_s p.2 B.hshape] at ht ⊢
  have ht' : t < min m n := ht
  rw [onesI_get ht']; rfl

/-- … and after truncation (counts within the bond sizes) -/
theorem sqrtOn_id_trivial_trunc (x : Arr Int) (hv : x.validB = true) (h2 : x.ndim = 2)
    (u : Arr Int) (s : BVec Int) (vh : Arr Int)
    (h : svdA Kernels.trivialFactor x = .ok (u, s, vh)) (counts : List Nat)
    (hlen : counts.length = x.blocks.length)
    (hle : ∀ t ∈ x.blocks.zip counts, t.2 ≤ min (t.1.2.shape.getD 0 0) (t.1.2.shape.getD 1 0)) :
    SqrtOn id (applyCounts u s vh counts).2.1 := by
  obtain ⟨rfl, rfl, rfl⟩ := svd_factors_eq hv h2 h
  rw [applyCounts_eq (S := fun b => (Kernels.trivialFactor.svd b).2.1) hv h2 hlen]
  intro q hq
  obtain ⟨t, ht, rfl⟩ := List.mem_map.mp hq
  obtain ⟨hb, _, hz⟩ := kept_mem hlen ht
  obtain ⟨i0, i1, hi⟩ := ndim_two h2
  obtain ⟨r, c, m, n, B⟩ := mat_block hv hi (s := t.1.1) (b := t.1.2) hb
  have hc := hle t hz
  simp only [B.hshape, List.getD_cons_zero, List.getD_cons_succ] at hc
  refine ⟨rfl, ?_⟩
  intro t' ht'
  have ht'' : t' < t.2 := ht'
  simp only [id, trivialFactor_s t.1.2 B.hshape, sliceK0_get _ ht'']
  rw [onesI_get (by omega)]; rfl

/-- every `absorb` option, no truncation: the product is `exT` (values `-5 … -8` = pending sign
    multiplied in), three labels, no pending sign -/
example : ((svdA Kernels.trivialFactor exT).toOption.map (fun p =>
      [none, some Absorb.left, some Absorb.both, some Absorb.right].map (fun mode =>
        (svdProduct mode id p.1 p.2.1 p.2.2).toOption.map (fun y =>
          (y.blocks.map (fun q => (q.1, q.2.data.toList)), y.phases, y.oddpos))))
    == some (List.replicate 4 (some
        ([([(0, 0), (1, 0)], [1, 2, 3, 4]), ([(1, 0), (2, 0)], [-5, -6, -7, -8])], [],
         [(7, true), (2, false), (5, false)])))) = true := by decide +kernel

/-- truncated with counts `[1, 2]`: the first block keeps one of its two unit singular values —
    the product has the first row of the block, the discarded part is the second row `[3, 4]` -/
example : ((svdA Kernels.trivialFactor exT).toOption.map (fun p =>
      let t := applyCounts p.1 p.2.1 p.2.2 [1, 2]
      [none, some Absorb.left, some Absorb.both, some Absorb.right].map (fun mode =>
        (svdProduct mode id t.1 t.2.1 t.2.2).toOption.map (fun y =>
          (y.blocks.map (fun q => (q.1, q.2.data.toList)), y.phases, y.oddpos))))
    == some (List.replicate 4 (some
        ([([(0, 0), (1, 0)], [1, 2, 0, 0]), ([(1, 0), (2, 0)], [-5, -6, -7, -8])], [],
         [(7, true), (2, false), (5, false)])))) = true := by decide +kernel

/-- truncated with counts `[0, 1]`: the first sector is dropped; the truncated `VH` still lists the
    dropped odd sector `(1, 1)` in its sign table (harmless: `ReconP.rightSync_blocks`); the odd
    kept block arrives with its pending sign -/
example : ((svdA Kernels.trivialFactor exT).toOption.map (fun p =>
      let t := applyCounts p.1 p.2.1 p.2.2 [0, 1]
      (t.2.2.sectors, t.2.2.phases,
       [none, some Absorb.left, some Absorb.both, some Absorb.right].map (fun mode =>
        (svdProduct mode id t.1 t.2.1 t.2.2).toOption.map (fun y =>
          (y.blocks.map (fun q => (q.1, q.2.data.toList)), y.phases, y.oddpos)))))
    == some ([[(2, 0), (2, 0)]], [([(1, 0), (1, 0)], -1)], List.replicate 4 (some
        ([([(1, 0), (2, 0)], [-5, -6, 0, 0])], [], [(7, true), (2, false), (5, false)])))) = true := by
  decide +kernel

/-- hypotheses of `truncation_error_fermionic` met together: `exT` with blocks that have
    orthonormal rows (signed permutations), `trivialFactor`, counts `[1, 2]` -/
def exO : Arr Int :=
  { exT with blocks := [([(0, 0), (1, 0)], ⟨[2, 2], #[0, 1, 1, 0]⟩),
                        ([(1, 0), (2, 0)], ⟨[2, 2], #[0, -1, 1, 0]⟩)] }

theorem ortho_22 (b : Blk Int) (hs : b.shape = [2, 2])
    (h : ∀ t t', t < 2 → t' < 2 →
      (List.range 2).foldl (fun acc i => acc + (Kernels.trivialFactor.svd b).1.get [i, t]
          * (Kernels.trivialFactor.svd b).1.get [i, t']) 0 = (if t = t' then 1 else 0)
      ∧ (List.range 2).foldl (fun acc j => acc + (Kernels.trivialFactor.svd b).2.2.get [t, j]
          * (Kernels.trivialFactor.svd b).2.2.get [t', j]) 0 = (if t = t' then 1 else 0)) :
    Kernels.trivialFactor.OrthoBlock (RingHom.id Int) b := by
  intro m n hs' t t' ht ht'
  rw [hs] at hs'
  have hm : m = 2 := (List.cons.inj hs').1.symm
  have hn : n = 2 := (List.cons.inj (List.cons.inj hs').2).1.symm
  subst hm hn
  exact h t t' ht ht'

example : Kernels.trivialFactor.ShapeOk ∧ Kernels.trivialFactor.SVDContract
    ∧ exO.validB = true ∧ exO.ndim = 2 ∧ exO.fermi = true ∧ SortedLabels exO.oddpos
    ∧ ([1, 2] : List Nat).length = exO.blocks.length
    ∧ (∀ p ∈ exO.blocks, Kernels.trivialFactor.OrthoBlock (RingHom.id Int) p.2)
    ∧ (∀ u s vh, svdA Kernels.trivialFactor exO = .ok (u, s, vh) →
        SqrtOn id (applyCounts u s vh [1, 2]).2.1) := by
  refine ⟨trivialFactor_shapeOk, trivialFactor_svd, by decide, rfl, rfl, sortedLabels_ex, rfl, ?_, ?_⟩
  · intro p hp
    simp only [exO, List.mem_cons, List.not_mem_nil, or_false] at hp
    rcases hp with rfl | rfl
    · apply ortho_22 _ rfl
      intro t t' ht ht'
      have h1 : t = 0 ∨ t = 1 := by omega
      have h2 : t' = 0 ∨ t' = 1 := by omega
      rcases h1 with rfl | rfl <;> rcases h2 with rfl | rfl <;> decide
    · apply ortho_22 _ rfl
      intro t t' ht ht'
      have h1 : t = 0 ∨ t = 1 := by omega
      have h2 : t' = 0 ∨ t' = 1 := by omega
      rcases h1 with rfl | rfl <;> rcases h2 with rfl | rfl <;> decide
  · intro u s vh h
    apply sqrtOn_id_trivial_trunc exO (by decide) rfl u s vh h [1, 2] rfl
    decide

/-- … and the squared error on the truncated block of `exO` is the one discarded unit weight -/
example : ((svdA Kernels.trivialFactor exO).toOption.bind (fun p =>
      let t := applyCounts p.1 p.2.1 p.2.2 [1, 2]
      (svdProduct (some .both) id t.1 t.2.1 t.2.2).toOption.map (fun y =>
        (Finset.range 2).sum (fun i => (Finset.range 2).sum (fun j =>
          (exO.elem [(0, 0), (1, 0)] [i, j] - y.elem [(0, 0), (1, 0)] [i, j]) ^ 2)))))
    = some 1 := by decide +kernel

/-- `eigh`: `C11.exEf` (charge zero, pending sign) with TWO non-dual labels -/
def exEf2 : Arr Int := { exEf with oddpos := [(2, false), (5, false)] }

example : exEf2.validB = true ∧ SortedLabels exEf2.oddpos ∧ (∀ l ∈ exEf2.oddpos, l.2 = false) := by
  refine ⟨by decide, ?_, by decide⟩
  unfold SortedLabels OddposP.OddSorted OddposP.LabelsDistinct; decide

/-- `ev` keeps the two labels, `ev†` carries `[5†, 2†]`, the product none; values of `exEf` -/
example : ((eighA Kernels.eighDiag exEf2).toOption.bind (fun p =>
      (Arr.matmulF (multiplyDiagonal p.2 p.1 1) p.2.daggerF).toOption.map (fun y =>
        (p.2.oddpos, p.2.daggerF.oddpos,
         y.blocks.map (fun q => (q.1, q.2.data.toList)), y.phases, y.oddpos)))
    == some ([(2, false), (5, false)], [(5, true), (2, true)],
        [([(0, 0), (0, 0)], [2, 0, 0, 3]), ([(1, 0), (1, 0)], [-5])], [], [])) = true := by
  decide +kernel

/-- the hypothesis "non-dual labels" of `eigh_reconstructs_fermionic_labels` cannot be dropped:
    with one dual and one non-dual label (a valid even array, sorted labels) the conjugate pair
    `2 2†` meets as ket-then-bra and the product is `-a` (a global pending sign) -/
def exEdual : Arr Int := { exEf with oddpos := [(5, true), (2, false)] }

example : exEdual.validB = true
    ∧ ((eighA Kernels.eighDiag exEdual).toOption.bind (fun p =>
      (Arr.matmulF (multiplyDiagonal p.2 p.1 1) p.2.daggerF).toOption.map (fun y =>
        (y.blocks.map (fun q => (q.1, q.2.data.toList)), y.phases, y.oddpos)))
    == some ([([(0, 0), (0, 0)], [2, 0, 0, 3]), ([(1, 0), (1, 0)], [-5])],
        [([(0, 0), (0, 0)], -1), ([(1, 0), (1, 0)], -1)], [])) = true := by
  decide +kernel

/-- `solve`: `C11.exSb` (odd, pending sign) with three labels; the solution and `a @ x` carry them -/
def exSb3 : Arr Int := { exSb with oddpos := [(7, true), (2, false), (5, false)] }

example : exSb3.validB = true ∧ SortedLabels exSb3.oddpos
    ∧ Kernels.solveCopy.SolvesOn exSa.phaseSync exSb3.phaseSync := by
  refine ⟨by decide +kernel, sortedLabels_ex, ?_⟩
  apply solveCopy_solvesOn
  intro s arr hm
  rw [phaseSync_blocks_nil _ rfl] at hm
  simp only [exSa, List.mem_cons, List.not_mem_nil, or_false, Prod.mk.injEq] at hm
  rcases hm with ⟨_, rfl⟩ | ⟨_, rfl⟩
  · exact ⟨1, rfl⟩
  · exact ⟨2, rfl⟩

example : ((solveA Kernels.solveCopy exSa exSb3).toOption.bind (fun x =>
      (Arr.matmulF exSa x).toOption.map (fun y =>
        (x.oddpos, x.phases, y.blocks.map (fun q => (q.1, q.2.data.toList)), y.phases, y.oddpos)))
    == some ([(7, true), (2, false), (5, false)], [([(1, 0)], -1)], [([(1, 0)], [-5, -6])], [],
        [(7, true), (2, false), (5, false)])) = true := by
  decide +kernel

end SymmModel.C11
