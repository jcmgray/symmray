/-
  Property C09, second part — "every operation gives equal results on an array and on its
  sign-synchronised copy": the operations not covered by Props/C09.lean.

  1. Reductions and unary maps (`_do_reduction`, `_do_unary_op`, `clip` synchronise first;
     /repo commit 9260944): `Lazy.sumF` (the driver's "sum" case), `Lazy.mapF f` (abs, sqrt, clip,
     …), `Lazy.reduceF g op e` (max, min, …).  Because the synchronisation comes first, the results
     are IDENTICAL on observationally equal arrays for ARBITRARY `f`, `g`, `op`; an elementwise map
     applied without synchronising is a congruence for odd `f` only
     (`C09.mapVals_congr_needs_odd`).  The block-data norm `C12.normSq2` is invariant as well.
  2. Decompositions: `eigh` and `solve` synchronise first (exact equalities); the singular values
     of `svd` are the same for every kernel whose singular values ignore the sign of the block
     (`SvdSignInvariant`); `q @ r` and `(u·s) @ vh` reconstruct the same value from an array and
     from its synchronised copy (under the kernel contracts of C11).
  3. `squeeze`, `expand_dims` (same error or observationally equal results) and `fuse` in all cases.
  4. `einsumF_refines_graded`: the element-level form of the single-array fermionic einsum.
  5. `Prog.lazy_unobservable_all`: programs over all these operations, with terminal
     observations.

  Hypotheses are clauses of `Arr.validB` (`Lazy.Full`, `a.fermi`, for `squeeze` also
  `Lazy.SecInTables`: the stored sectors have their charges in the index tables).  Nothing is
  assumed about the KEYS of the pending-sign table: `FermionicArray._map_blocks` re-keys only the
  sign entries of stored blocks (/repo commit 2f542e3; known finding
  "stale-sign-rekeyed-onto-live-block"), so an entry left behind by a dropped block is discarded
  by `squeeze` / `expand_dims` and cannot reach another block: `squeeze_congr_any_phases`,
  `squeeze_sync_any_phases`, `squeeze_elem_ignores_stale`, and `squeeze_ignores_stale_key` on the
  witness of that finding.  The forms with `Lazy.InTables` (= `validB` +
  `ValidP.phaseKeysInTablesB`) are implied by them.
-/
import SymmModel.Proofs.LazyMore
import SymmModel.Props.C09

namespace SymmModel.C09
open SymmModel Lazy
set_option linter.unusedSectionVars false

section one
variable {R : Type} [Zero R] [Neg R]

/-- the definitions, spelled out: `sumF` is the driver's "sum" -/
theorem sumF_def [Add R] (a : Arr R) :
    sumF a = (if a.fermi then a.phaseSync else a).blocks.foldl (fun acc (_, b) => acc + b.sumAll) 0 :=
  rfl

theorem mapF_def (f : R → R) (a : Arr R) :
    mapF f a = { (if a.fermi then a.phaseSync else a) with
      blocks := (if a.fermi then a.phaseSync else a).blocks.map (fun (k, b) => (k, b.map f)) } := rfl

theorem reduceF_def {S : Type} (g : Blk R → S) (op : S → S → S) (e : S) (a : Arr R) :
    reduceF g op e a
      = (if a.fermi then a.phaseSync else a).blocks.foldl (fun acc (_, b) => op acc (g b)) e := rfl

/-- on a fermionic array and its synchronised copy: identical, no hypothesis on the array -/
theorem reductions_sync [Add R] (a : Arr R) (hf : a.fermi = true) :
    sumF a.phaseSync = sumF a
    ∧ (∀ f : R → R, mapF f a.phaseSync = mapF f a)
    ∧ (∀ {S : Type} (g : Blk R → S) (op : S → S → S) (e : S),
        reduceF g op e a.phaseSync = reduceF g op e a) :=
  ⟨sumF_sync a hf, fun f => mapF_sync f a hf, fun g op e => reduceF_sync g op e a hf⟩

theorem sumF_congr [Add R] [LawfulNeg R] {a a' : Arr R} (h : ObsEq a a') (fa : Full a)
    (fa' : Full a') (hf : a.fermi = true) : sumF a = sumF a' := by
  unfold sumF; rw [syncF_congr h fa fa' hf]

/-- ARBITRARY `f` -/
theorem mapF_congr [LawfulNeg R] (f : R → R) {a a' : Arr R} (h : ObsEq a a') (fa : Full a)
    (fa' : Full a') (hf : a.fermi = true) : mapF f a = mapF f a' := by
  unfold mapF; rw [syncF_congr h fa fa' hf]

theorem reduceF_congr [LawfulNeg R] {S : Type} (g : Blk R → S) (op : S → S → S) (e : S)
    {a a' : Arr R} (h : ObsEq a a') (fa : Full a) (fa' : Full a') (hf : a.fermi = true) :
    reduceF g op e a = reduceF g op e a' := by
  unfold reduceF; rw [syncF_congr h fa fa' hf]

theorem syncFirst_congr [LawfulNeg R] {α : Type} (F : Arr R → α) {a a' : Arr R} (h : ObsEq a a')
    (fa : Full a) (fa' : Full a') (hf : a.fermi = true) : F (syncF a) = F (syncF a') :=
  Lazy.syncFirst_congr F h fa fa' hf

/-- the value view of the unary map: `f` of the value, for every `f` with `f 0 = 0` -/
theorem mapF_elem [LawfulNeg R] (f : R → R) (hf0 : f 0 = 0) (a : Arr R) (hf : a.fermi = true)
    (s : Sector) (off : List Nat) : (mapF f a).elem s off = f (a.elem s off) := by
  have e : mapF f a = mapVals f a.phaseSync := by unfold mapF syncF; rw [hf]; rfl
  rw [e, ← phaseSync_elem a s off, elem_eq, elem_eq]
  show (match alookup (a.phaseSync.blocks.map (fun p => (p.1, (fun _ b => Blk.map f b) p.1 p.2))) s with
      | none => 0
      | some b => sgnI (phOf [] s) (b.get off)) = _
  rw [alookup_map_val (fun _ b => Blk.map f b)]
  cases alookup a.phaseSync.blocks s with
  | none => exact hf0.symm
  | some b => simp [Blk.get_map f hf0, phOf, alookup, phaseSync_phases]

theorem sumF_dense {R : Type} [AddCommMonoid R] [Neg R] [LawfulNeg R] (a : Arr R)
    (hv : a.validB = true) (hf : a.fermi = true) (hne : C08.NoEmpty a) (d : Blk R)
    (hd : a.toDenseF = .ok d) : sumF a = d.sumAll := by
  have hv' := LinalgLemmas.phaseSync_valid a hv
  obtain ⟨h1, h2, _, _, _, _⟩ := SymmModel.validB_facts a.phaseSync hv'
  have : syncF a = a.phaseSync := by unfold syncF; rw [hf]; rfl
  unfold sumF; rw [this]
  exact C08.sum_toDense a.phaseSync rfl hne h1 h2 (DenseP.validB_wf hv') d hd

/-- `norm2` (sum of an even `nsq` over the stored data) does not see pending signs -/
theorem normSq2_congr {S : Type} [Zero S] [Add S] [LawfulNeg R] (nsq : R → S)
    (hneg : ∀ x, nsq (-x) = nsq x) {a a' : Arr R} (h : ObsEq a a') (fa : Full a) (fa' : Full a') :
    C12.normSq2 nsq a = C12.normSq2 nsq a' := by
  rw [← C12.norm_sq_phaseSync nsq hneg a, ← C12.norm_sq_phaseSync nsq hneg a', canon h fa fa']

end one

section two
variable {R : Type} [Zero R] [Neg R]

/-- **`eigh` synchronises first**: identical results on a fermionic array and its synchronised copy -/
theorem eighA_sync (K : Kernels R) (a : Arr R) (hf : a.fermi = true) :
    eighA K a = eighA K a.phaseSync := by
  have h1 := condSync_eq a hf
  have h2 := condSync_sync a.phaseSync.fermi a
  unfold eighA
  simp only [h1, h2]

theorem eighA_congr [LawfulNeg R] (K : Kernels R) {a a' : Arr R} (h : ObsEq a a') (fa : Full a)
    (fa' : Full a') (hf : a.fermi = true) : eighA K a = eighA K a' := by
  rw [eighA_sync K a hf, eighA_sync K a' (h.fermi ▸ hf), canon h fa fa']

/-- **`solve` synchronises both operands first** -/
theorem solveA_sync (K : Kernels R) (a b : Arr R) (hfa : a.fermi = true) (hfb : b.fermi = true) :
    solveA K a b = solveA K a.phaseSync b.phaseSync := by
  have h1 := condSync_eq a hfa
  have h2 := condSync_sync a.phaseSync.fermi a
  have h3 : (if a.phaseSync.fermi && !b.phases.isEmpty then b.phaseSync else b) = b.phaseSync := by
    show (if a.fermi && !b.phases.isEmpty then b.phaseSync else b) = b.phaseSync
    have := condSync_eq b hfb
    rw [hfb] at this; rw [hfa]; exact this
  have h4 := condSync_sync a.phaseSync.fermi b
  unfold solveA
  simp only [h1, h2, h3, h4]

theorem solveA_congr [LawfulNeg R] (K : Kernels R) {a a' b b' : Arr R} (ha : ObsEq a a')
    (hb : ObsEq b b') (fa : Full a) (fa' : Full a') (fb : Full b) (fb' : Full b')
    (hfa : a.fermi = true) (hfb : b.fermi = true) : solveA K a b = solveA K a' b' := by
  rw [solveA_sync K a b hfa hfb, solveA_sync K a' b' (ha.fermi ▸ hfa) (hb.fermi ▸ hfb),
    canon ha fa fa', canon hb fb fb']

/-- the singular values `svd` returns, for a kernel whose singular values ignore the sign of the
    block (`SvdSignInvariant K : ∀ b, (K.svd b.negK).2.1 = (K.svd b).2.1`): the same BVec on an
    array and on its synchronised copy — any rank-2 array, no validity needed -/
theorem svdVals_sync (K : Kernels R) (hK : SvdSignInvariant K) (x : Arr R) :
    (svdA K x.phaseSync).map (fun r => r.2.1) = (svdA K x).map (fun r => r.2.1) :=
  Lazy.svdVals_sync K hK x

theorem svdVals_congr [LawfulNeg R] (K : Kernels R) (hK : SvdSignInvariant K) {a a' : Arr R}
    (h : ObsEq a a') (fa : Full a) (fa' : Full a') :
    (svdA K a).map (fun r => r.2.1) = (svdA K a').map (fun r => r.2.1) :=
  Lazy.svdVals_congr K hK h fa fa'

/-- the shape-only kernel is sign invariant (non-vacuity of `SvdSignInvariant`) -/
example : SvdSignInvariant (Kernels.shapeOnly : Kernels R) := fun _ => rfl

end two

section two'
variable {R : Type} [Zero R] [Add R] [Mul R] [Neg R] [NegLaws R] [LawfulNeg R]

/-- QR of an array and of its synchronised copy reconstruct the same value (C11 contracts) -/
theorem qr_recon_sync (K : Kernels R) (hK : K.ShapeOk) (hC : K.QRContract) (x : Arr R)
    (hv : x.validB = true) (h2 : x.ndim = 2) (hf : x.fermi = true) (hodd : x.oddpos.length ≤ 1) :
    ∃ q r y q' r' y', qrA K x = .ok (q, r) ∧ Arr.matmulF q r = .ok y
      ∧ qrA K x.phaseSync = .ok (q', r') ∧ Arr.matmulF q' r' = .ok y'
      ∧ y.oddpos = y'.oddpos
      ∧ ∀ s off, LinalgLemmas.AddrOf x s off → y.elem s off = y'.elem s off := by
  obtain ⟨q, r, y, e1, e2, e3, e4⟩ := C11.qr_reconstructs_fermionic K hK hC x hv h2 hf hodd
  obtain ⟨q', r', y', g1, g2, g3, g4⟩ := C11.qr_reconstructs_fermionic K hK hC x.phaseSync
    (LinalgLemmas.phaseSync_valid x hv) h2 hf hodd
  refine ⟨q, r, y, q', r', y', e1, e2, g1, g2, e3.trans g3.symm, fun s off ha => ?_⟩
  rw [e4 s off ha, g4 s off (addrOf_sync ha), phaseSync_elem]

/-- likewise for `(U · diag s) @ VH` -/
theorem svd_recon_sync (K : Kernels R) (hK : K.ShapeOk) (hC : K.SVDContract) (x : Arr R)
    (hv : x.validB = true) (h2 : x.ndim = 2) (hf : x.fermi = true) (hodd : x.oddpos.length ≤ 1) :
    ∃ u s vh y u' s' vh' y', svdA K x = .ok (u, s, vh)
      ∧ Arr.matmulF (multiplyDiagonal u s 1) vh = .ok y
      ∧ svdA K x.phaseSync = .ok (u', s', vh')
      ∧ Arr.matmulF (multiplyDiagonal u' s' 1) vh' = .ok y'
      ∧ y.oddpos = y'.oddpos
      ∧ ∀ sec off, LinalgLemmas.AddrOf x sec off → y.elem sec off = y'.elem sec off := by
  obtain ⟨u, s, vh, y, e1, e2, e3, e4⟩ := C11.svd_reconstructs_fermionic K hK hC x hv h2 hf hodd
  obtain ⟨u', s', vh', y', g1, g2, g3, g4⟩ := C11.svd_reconstructs_fermionic K hK hC x.phaseSync
    (LinalgLemmas.phaseSync_valid x hv) h2 hf hodd
  refine ⟨u, s, vh, y, u', s', vh', y', e1, e2, g1, g2, e3.trans g3.symm, fun sec off ha => ?_⟩
  rw [e4 sec off ha, g4 sec off (addrOf_sync ha), phaseSync_elem]

end two'

section three
variable {R : Type} [Zero R] [Neg R] [LawfulNeg R]

/-- `ExceptRel r x y`: both errors of the same kind, or both values related by `r` -/
theorem exceptRel_iff {α : Type} (r : α → α → Prop) (x y : Except Err α) :
    ExceptRel r x y ↔ (∃ e, x = .error e ∧ y = .error e) ∨ (∃ u v, x = .ok u ∧ y = .ok v ∧ r u v) :=
  ExceptRel.iff

/-- **`squeeze` is a congruence for observational equality**: same error, or observationally
    equal results — with no hypothesis on the keys of the sign tables -/
theorem squeeze_congr_any_phases {a a' : Arr R} (h : ObsEq a a') (fa : Full a) (fa' : Full a')
    (hf : a.fermi = true) (hT : SecInTables a) (hT' : SecInTables a') (axis : Option (List Nat)) :
    ExceptRel ObsEq (a.squeeze axis) (a'.squeeze axis) :=
  Lazy.squeeze_congr_any_phases h fa fa' hf hT hT' axis

/-- `squeeze` of an array and of its synchronised copy, no hypothesis on the sign-table keys -/
theorem squeeze_sync_any_phases {a : Arr R} (fa : Full a) (hf : a.fermi = true)
    (hT : SecInTables a) (axis : Option (List Nat)) :
    ExceptRel ObsEq (a.squeeze axis) (a.phaseSync.squeeze axis) :=
  Lazy.squeeze_sync_any_phases fa hf hT axis

/-- `SecInTables` is a clause of `validB` (as `Full` is: `full_of_valid`) -/
theorem secInTables_of_valid {a : Arr R} (hv : a.validB = true) : SecInTables a :=
  SecInTables.of_valid hv

theorem squeeze_congr_of_valid {a a' : Arr R} (h : ObsEq a a') (hv : a.validB = true)
    (hv' : a'.validB = true) (hf : a.fermi = true) (axis : Option (List Nat)) :
    ExceptRel ObsEq (a.squeeze axis) (a'.squeeze axis) :=
  Lazy.squeeze_congr_any_phases h (Full.of_valid hv hf) (Full.of_valid hv' (h.fermi ▸ hf)) hf
    (SecInTables.of_valid hv) (SecInTables.of_valid hv') axis

theorem squeeze_sync_of_valid {a : Arr R} (hv : a.validB = true) (hf : a.fermi = true)
    (axis : Option (List Nat)) : ExceptRel ObsEq (a.squeeze axis) (a.phaseSync.squeeze axis) :=
  Lazy.squeeze_sync_any_phases (Full.of_valid hv hf) hf (SecInTables.of_valid hv) axis

/-- the forms with `InTables` (implied by the `_any_phases` forms) -/
theorem squeeze_congr {a a' : Arr R} (h : ObsEq a a') (fa : Full a) (fa' : Full a')
    (hf : a.fermi = true) (hT : InTables a) (hT' : InTables a') (axis : Option (List Nat)) :
    ExceptRel ObsEq (a.squeeze axis) (a'.squeeze axis) :=
  squeeze_congr_any_phases h fa fa' hf hT.1 hT'.1 axis

theorem squeeze_sync {a : Arr R} (fa : Full a) (hf : a.fermi = true) (hT : InTables a)
    (axis : Option (List Nat)) : ExceptRel ObsEq (a.squeeze axis) (a.phaseSync.squeeze axis) :=
  squeeze_sync_any_phases fa hf hT.1 axis

theorem inTables_of_valid {a : Arr R} (hv : a.validB = true)
    (hk : ValidP.phaseKeysInTablesB a = true) : InTables a := by
  refine ⟨SecInTables.of_valid hv, fun k hk' => ?_⟩
  obtain ⟨p, hp, rfl⟩ := List.mem_map.mp hk'
  unfold ValidP.phaseKeysInTablesB at hk
  exact List.all_eq_true.mp hk p hp

/-- **value view of `squeeze`, any sign table** (the statement behind known finding
    "stale-sign-rekeyed-onto-live-block", /repo commit 2f542e3).  For a valid array — whose sign table may hold entries
    for sectors without a block, left behind by `multiply_diagonal`, `align_axes`,
    `drop_missing_blocks` — the squeezed array holds, at the address obtained by dropping the
    removed coordinates, exactly the value the array held: pending sign of the block itself
    included, no sign from any other entry. -/
theorem squeeze_elem_ignores_stale (a : Arr R) (axis : Option (List Nat)) (a' : Arr R)
    (hv : a.validB = true) (h : a.squeeze axis = .ok a') :
    ∃ m, DenseP.squeezeMask a axis = .ok m ∧
      ∀ s shp off, Arr.blockShape? a.indices s = some shp → inBox shp off = true →
        a'.elem (DenseP.dropMask m s) (DenseP.dropMask m off) = a.elem s off := by
  obtain ⟨hsh, hnd, _, hab⟩ := C08.hypotheses_of_validB a hv
  cases hf : a.fermi with
  | false => exact C08.squeeze_elem a axis a' h (hab hf) hsh hnd
  | true =>
    obtain ⟨m, hm, rfl, _⟩ := C08.squeeze_mask_spec a axis a' h
    exact ⟨m, hm, fun s shp off hs ho =>
      squeezed_elem_any_phases hm hf (Full.of_valid hv hf) (SecInTables.of_valid hv) hsh s shp off hs ho⟩

theorem expandDims_congr {a a' : Arr R} (h : ObsEq a a') (fa : Full a) (fa' : Full a')
    (hf : a.fermi = true) (axis : Nat) (c : Option Charge) (dual : Option Bool) :
    ObsEq (a.expandDims axis c dual) (a'.expandDims axis c dual) :=
  Lazy.expandDims_congr h fa fa' hf axis c dual

/-- `fuse`, every case (all groups empty included: then the array itself or the `ValueError` of
    `expand_empty` is returned) -/
theorem fuseF_congr_all {a a' : Arr R} (h : ObsEq a a') (fa : Full a) (fa' : Full a')
    (groups : List (List Nat)) (mode : FuseMode) (expandEmpty : Bool)
    (hg : (groups.filter (fun g => !g.isEmpty)).isEmpty = false →
      Arr.isPerm (calcFuseGroupInfo (groups.filter (fun g => !g.isEmpty)) a.duals).perm a.ndim = true) :
    ExceptRel ObsEq (a.fuseF groups mode expandEmpty) (a'.fuseF groups mode expandEmpty) :=
  Lazy.fuseF_congr_all h fa fa' groups mode expandEmpty hg

end three

/-! ## 4. single-array fermionic einsum (also C03 `einsumF_refines_graded`) -/
section four
variable {R : Type}

/-- `FermionicArray.einsum` is: transpose to `einOrder` (traced pairs adjacent in front as
    (bra, ket)), synchronise, abelian einsum -/
theorem einsumF_eq [Zero R] [Neg R] [Add R] (a : Arr R) (lhs rhs : List Nat) :
    a.einsumF lhs rhs =
      if lhs.length != a.ndim then .error Err.index
      else einsumA ((a.transposeF (einOrder a lhs rhs)).phaseSync)
        (permuted lhs (einOrder a lhs rhs)) rhs :=
  Lazy.einsumF_eq a lhs rhs

/-- **einsumF_refines_graded**, element level: Koszul sign of `einOrder` on the sector's parities
    times the plain traces of the transposed value (`transposedElem`, which for an in-box offset is
    `a.elem s (srcIdx …)`: `transposedElem_inBox`) -/
theorem einsumF_refines_graded [AddMonoid R] [Neg R] [LawfulNeg R]
    (neg_add : ∀ x y : R, -(x + y) = -x + -y) (a : Arr R)
    (lhs rhs perm2 : List Nat) (hv : a.validB = true) (hf : a.fermi = true)
    (hlen : lhs.length = a.ndim)
    (hperm : TdotP.einPerm? (permuted lhs (einOrder a lhs rhs)) rhs = .ok perm2)
    (h2 : (TdotP.einTracedPos (permuted lhs (einOrder a lhs rhs)) rhs).any
      (fun js => js.length != 2) = false)
    (s' : Sector) (o' : List Nat)
    (ho : ∀ s ∈ (einOperand a lhs rhs).sectors,
      TdotP.einKeep (permuted lhs (einOrder a lhs rhs)) rhs s = true → permuted s perm2 = s' →
      inBox (rhs.map (TdotP.einSize (Arr.blockShapeD (einOperand a lhs rhs).indices s)
        (permuted lhs (einOrder a lhs rhs)))) o' = true) :
    ∃ c, a.einsumF lhs rhs = .ok c
      ∧ c.indices = permuted (permuted a.indices (einOrder a lhs rhs)) perm2
      ∧ c.elem s' o' =
        ((a.sectors.filter (fun s =>
            TdotP.einKeep (permuted lhs (einOrder a lhs rhs)) rhs (permuted s (einOrder a lhs rhs))
            && permuted (permuted s (einOrder a lhs rhs)) perm2 == s')).map (fun s =>
          sgnI (koszul (a.parities s) (some (einOrder a lhs rhs)))
            (((allIdx ((TdotP.einTraced (permuted lhs (einOrder a lhs rhs)) rhs).map
                (TdotP.einSize (Arr.blockShapeD (einOperand a lhs rhs).indices
                  (permuted s (einOrder a lhs rhs))) (permuted lhs (einOrder a lhs rhs))))).map
              (fun t => transposedElem a (einOrder a lhs rhs) s
                (TdotP.einIdx (permuted lhs (einOrder a lhs rhs)) rhs o' t))).sum))).sum :=
  Lazy.einsumF_elem neg_add a lhs rhs perm2 hv hf hlen hperm h2 s' o' ho

theorem transposedElem_inBox [Zero R] [Neg R] (a : Arr R) (axes : List Nat) (s : Sector) (b : Blk R)
    (hb : alookup a.blocks s = some b) (off : List Nat)
    (ho : inBox (permuted b.shape axes) off = true) :
    transposedElem a axes s off = a.elem s (srcIdx b.shape.length axes off) :=
  Lazy.transposedElem_inBox a axes s b hb off ho

end four

section five
variable {R : Type} [Zero R] [Add R] [Mul R] [Neg R] [Conj R] [LawfulNegConj R] [LawfulMulNeg R]

/-- every operation of the extended language gives the same error or observationally equal
    results on observationally equal valid inputs -/
theorem Op2.congr_obsEq (op : Op2 R) {a a' : Arr R} (h : ObsEq a a') (sa : StOk a) (sa' : StOk a')
    (ho : op.ok a) : ExceptRel ObsEq (op.apply a) (op.apply a') := op.apply_rel h sa sa' ho

/-- **Prog.lazy_unobservable_all.**  Programs over `SOp` (sign operations, neg, conj, dagger,
    transpose) and `squeeze`, `expand_dims`, `multiply_diagonal`, `fuse`, `unfuse`, `tensordot`
    with a fixed partner on either side.  If every state of the lazy run and of the eager run
    (`phase_sync()` after every step) satisfies the state invariant `StOk` (clauses of validity —
    property C01; nothing about the keys of the sign table) and the guards hold, then both runs end with the
    same error or with observationally equal arrays; and every terminal observation computed from
    the synchronised final array (`sum`, `max`, `abs`, `clip`, `to_dense`, `norm`, `eigh`,
    `solve`, …) is identical. -/
theorem Prog.lazy_unobservable_all (p : List (Op2 R)) (a : Arr R) (hl : runOkE p a)
    (he : runSyncOkE p a) :
    ExceptRel ObsEq (runE p a) (runSyncE p a)
    ∧ ∀ {α : Type} (F : Arr R → α),
        ExceptRel (fun r r' => F (syncF r) = F (syncF r')) (runE p a) (runSyncE p a) :=
  ⟨run_runSyncE p (Lazy.ObsEq.refl a) hl he, fun F => run_observe F p hl he⟩

end five

open scoped SymmModel.Lazy

/-- `exA` (pending sign on one sector): sum / abs / max agree on the lazy and the synchronised
    copy — `abs` gives `4`; applied without synchronising it gives `-4` on the lazy copy
    (`mapVals_congr_needs_odd`) -/
example : sumF exA = -1 ∧ sumF exA.phaseSync = -1
    ∧ (mapF (fun t : Int => Int.natAbs t) exA).elem [(1, 0), (0, 0)] [1, 0] = 4
    ∧ (mapF (fun t : Int => Int.natAbs t) exA.phaseSync).elem [(1, 0), (0, 0)] [1, 0] = 4
    ∧ reduceF (fun b : Blk Int => b.data.foldl max (-1000)) max (-1000) exA = 4
    ∧ reduceF (fun b : Blk Int => b.data.foldl max (-1000)) max (-1000) exA.phaseSync = 4 := by
  decide +kernel

/-- rank 3 with a size-one identity-charge axis and a pending sign -/
def exS : Arr Int :=
  { sym := .Z2, fermi := true, charge := (1, 0),
    indices := [Index.mk [((0, 0), 1), ((1, 0), 2)] false none,
                Index.mk [((0, 0), 1)] false none,
                Index.mk [((0, 0), 2), ((1, 0), 1)] true none],
    blocks := [([(0, 0), (0, 0), (1, 0)], ⟨[1, 1, 1], #[3]⟩),
               ([(1, 0), (0, 0), (0, 0)], ⟨[2, 1, 2], #[1, 2, -4, 5]⟩)],
    phases := [([(1, 0), (0, 0), (0, 0)], -1)],
    oddpos := [(7, false)] }

theorem exS_stOk : StOk exS := StOk.of_valid_any_phases (by decide) rfl

example : ExceptRel ObsEq (exS.squeeze none) (exS.phaseSync.squeeze none) :=
  squeeze_sync_any_phases exS_stOk.full rfl exS_stOk.tables none

/-- concretely: the sign stays pending on the squeezed lazy copy and the values agree -/
example :
    (match exS.squeeze none with
      | .ok r => (r.elem [(1, 0), (0, 0)] [1, 0], r.phases) | .error _ => (0, []))
      = (4, [([(1, 0), (0, 0)], -1)])
    ∧ (match exS.phaseSync.squeeze none with
      | .ok r => (r.elem [(1, 0), (0, 0)] [1, 0], r.phases) | .error _ => (0, []))
      = (4, []) := by decide +kernel

/-- the witness of known finding "stale-sign-rekeyed-onto-live-block": `exS` with its sign entry
    replaced by a STALE one — no block is stored for `[(1,0),(2,0),(0,0)]` and the charge on the
    removed axis is outside the index table; re-keying every table entry would move it onto the
    stored sector `[(1,0),(0,0)]` -/
def exStaleS : Arr Int := { exS with phases := [([(1, 0), (2, 0), (0, 0)], -1)] }

/-- **regression** for /repo commit 2f542e3: on that witness — valid, sign table key outside the
    tables — the squeezed lazy copy and the squeezed synchronised copy hold the same value (`-4`, the stored number: no sign is pending on that block), the stale
    entry is gone and the result is valid -/
theorem squeeze_ignores_stale_key :
    exStaleS.validB = true ∧ ValidP.phaseKeysInTablesB exStaleS = false
    ∧ exStaleS.elem [(1, 0), (0, 0), (0, 0)] [1, 0, 0] = -4
    ∧ (match exStaleS.squeeze none with
        | .ok r => (r.elem [(1, 0), (0, 0)] [1, 0], r.phases, r.validB) | .error _ => (0, [], false))
        = (-4, [], true)
    ∧ (match exStaleS.phaseSync.squeeze none with
        | .ok r => r.elem [(1, 0), (0, 0)] [1, 0] | .error _ => 0) = -4 := by decide +kernel

/-- the general theorems apply to the witness: its only hypothesis is validity -/
example : ExceptRel ObsEq (exStaleS.squeeze none) (exStaleS.phaseSync.squeeze none) :=
  squeeze_sync_of_valid (by decide) rfl none

example : ∀ r, exStaleS.squeeze none = .ok r →
    ∃ m, DenseP.squeezeMask exStaleS none = .ok m ∧
      ∀ s shp off, Arr.blockShape? exStaleS.indices s = some shp → inBox shp off = true →
        r.elem (DenseP.dropMask m s) (DenseP.dropMask m off) = exStaleS.elem s off :=
  fun r h => squeeze_elem_ignores_stale exStaleS none r (by decide) h

/-- a program over the extended language: expand, flip, multiply by a diagonal, conjugate -/
example :
    let v : BVec Int := ⟨[((0, 0), ⟨[2], #[10, 100]⟩), ((1, 0), ⟨[1], #[7]⟩)]⟩
    let p : List (Op2 Int) := [.expandDims 1 none none, .base (.flip [0]), .mdiag v 2]
    runOkE p exA ∧ runSyncOkE p exA := by
  intro v p
  refine ⟨⟨StOk.of_valid (by decide) rfl (by decide), trivial, fun r hr => ?_⟩,
          ⟨StOk.of_valid (by decide) rfl (by decide), fun r hr => ?_⟩⟩
  · cases hr
    refine ⟨StOk.of_valid (by decide +kernel) rfl (by decide +kernel), trivial, fun r hr => ?_⟩
    cases hr
    refine ⟨StOk.of_valid (by decide +kernel) rfl (by decide +kernel), trivial, fun r hr => ?_⟩
    cases hr
    exact StOk.of_valid (by decide +kernel) rfl (by decide +kernel)
  · cases hr
    refine ⟨StOk.of_valid (by decide +kernel) rfl (by decide +kernel), fun r hr => ?_⟩
    cases hr
    refine ⟨StOk.of_valid (by decide +kernel) rfl (by decide +kernel), fun r hr => ?_⟩
    cases hr
    exact StOk.of_valid (by decide +kernel) rfl (by decide +kernel)

/-- the einsum `ijk -> kij` on `exS`: the axis order and the hypotheses of
    `einsumF_refines_graded` -/
example : einOrder exS [0, 1, 2] [2, 0, 1] = [2, 0, 1]
    ∧ TdotP.einPerm? (permuted [0, 1, 2] (einOrder exS [0, 1, 2] [2, 0, 1])) [2, 0, 1] = .ok [0, 1, 2]
    ∧ (TdotP.einTracedPos (permuted [0, 1, 2] (einOrder exS [0, 1, 2] [2, 0, 1])) [2, 0, 1]).any
        (fun js => js.length != 2) = false := by decide +kernel

end SymmModel.C09
