/-
  Property C11 (seventh part).

  1. `eigh` and `solve` reconstruction through `tensordot` (EVERY contraction mode: blockwise /
     fused / auto) instead of `@`.  `matmulF_tensordotF_agree` is the transfer lemma: for valid
     fermionic operands of rank 1 or 2 with contractible inner legs, if `a @ b` succeeds then
     `tensordot_fermionic(a, b, ([-1],[0]), mode)` succeeds in every mode with the same labels and
     charge and the same element at every address of the table box of the result indices (both
     refine the graded contraction of C03; C06d for fused / auto).  The abelian versions
     (`tensordot_abelian`, adjoint `Arr.adjA`) come from `TdotP.tensordotA_every_mode`
     (Proofs/TdotEveryMode.lean, from C06d).
  2. The array-level isometry statement for FERMIONIC factors, exactly, through `dagger()` and
     both `@` and `tensordot` (every mode) — `qr_isometry_fermionic`, `svd_isometry_fermionic`:
       `q.dagger() · q` (and `u.dagger() · u`) carries no label and is, on the bond sector `(c, c)`
       of the stored block of `x` with sector `s = (r, c)`, the identity times
          `isometrySign x s = (−1)^(number of DUAL labels of x) · (−1 if x's ROW index is dual and
                               the row charge r is odd)`;
       `vh · vh.dagger()` is the identity times `−1` iff `x`'s COLUMN index is not dual and the bond
       charge `c` is odd (`+1` otherwise).
     (`r` and `c` differ by the charge of `x`, so for an even `x` "r odd" is "c odd", for an odd `x`
     it is "c even": the examples of C11f — `−1` on the odd bond charge of an odd `x` with dual row
     index and one dual label — are instances, see the examples at the end.)
     Hypothesis: the per-block kernel contract (`K.QIsoBlock`, `K.OrthoBlock`), valid fermionic
     matrix, sorted labels (any number, dual or not), any pending signs, any symmetry.
     `isometrySign_bond_charge`: the same sign in terms of the BOND charge (parity of `c` xor parity
     of `x`).  Abelian arrays, every mode of `tensordot_abelian`: `qr_isometry_array_all_modes`,
     `svd_isometry_array_all_modes` (C11f has the blockwise contraction only).
  3. Structure clauses for `svd_truncated`'s outputs (`applyCounts`): every kept singular value is
     the untruncated one at the same position (a prefix), so any order / sign property the kernel
     promises within each charge is inherited (`singular_values_inherit_truncated`); the
     array-level statement of 2. for `u'`, `vh'` is `svd_truncated_isometry_fermionic`
     (`DecompP.LeftLike` / `RightLike`: the isometry theorems are proved for any left- / right-
     factor-like array over a list of items of `x`).
  4. `eigh_reconstructs_fermionic_any_labels`: the fermionic `eigh` reconstruction WITHOUT the
     hypothesis "non-dual labels" of C11c, through `@` and `tensordot` (every mode): the product is
     `eighLabelSign a · a`, `-1` per non-dual (equivalently, per dual) label of `a`
     (`eighLabelSign_of_even`, `eighLabelSign_nondual`); C11c's example `exEdual` (`-a`) is an instance.
-/
import SymmModel.Proofs.DecompIso
import SymmModel.Proofs.DecompIsoA
import SymmModel.Proofs.DecompTrunc
import SymmModel.Proofs.DecompEigh

namespace SymmModel.C11
open SymmModel LinalgLemmas ReconP Recon2P Recon3P DecompP TdotP

variable {R : Type}

theorem nestSign_eq_pow (w : List (Int × Bool)) :
    NormNet.nestSign w = (-1) ^ (w.filter (fun l => l.2)).length := by
  induction w with
  | nil => rfl
  | cons a w ih =>
    rw [NormNet.nestSign_cons, ih, List.filter_cons]
    cases a.2
    · simp
    · simp [Int.pow_succ]


/-- the sign of `ev · diag(w) · ev†` relative to `a`: `-1` per NON-dual label of `a` -/
def eighLabelSign (a : Arr R) : Int := (-1) ^ (a.oddpos.filter (fun l => !l.2)).length

theorem neg_one_pow_mod (n : Nat) : (-1 : Int) ^ n = if n % 2 = 0 then 1 else -1 := by
  induction n with
  | zero => rfl
  | succ n ih =>
    rw [Int.pow_succ, ih]
    rcases Nat.mod_two_eq_zero_or_one n with h | h <;> simp [h, Nat.add_mod]

theorem dag_filter_length (o : List (Int × Bool)) :
    ((Arr.oddposDag o).filter (fun l => l.2)).length = (o.filter (fun l => !l.2)).length := by
  unfold Arr.oddposDag
  rw [List.filter_map, List.length_map, List.filter_reverse, List.length_reverse]
  rfl

theorem eighLabelSign_eq (a : Arr R) :
    eighLabelSign a = NormNet.nestSign (Arr.oddposDag a.oddpos) := by
  unfold eighLabelSign
  rw [nestSign_eq_pow, dag_filter_length]

/-- for an EVEN number of labels (every valid even array) the sign is also `-1` per DUAL label -/
theorem eighLabelSign_of_even (a : Arr R) (h : a.oddpos.length % 2 = 0) :
    eighLabelSign a = (-1) ^ (a.oddpos.filter (fun l => l.2)).length := by
  unfold eighLabelSign
  have hsum := List.length_eq_length_filter_add (l := a.oddpos) (fun l => l.2)
  have hiff : (a.oddpos.filter (fun l => !l.2)).length % 2 = 0
      ↔ (a.oddpos.filter (fun l => l.2)).length % 2 = 0 := by
    have e : (a.oddpos.filter (fun l => !l.2)).length
        = (a.oddpos.filter (fun x => !(fun l => l.2) x)).length := rfl
    omega
  rw [neg_one_pow_mod, neg_one_pow_mod]
  exact if_congr hiff rfl rfl

theorem eighLabelSign_nondual (a : Arr R) (hket : ∀ l ∈ a.oddpos, l.2 = false)
    (h : a.oddpos.length % 2 = 0) : eighLabelSign a = 1 := by
  rw [eighLabelSign_of_even a h]
  have : a.oddpos.filter (fun l => l.2) = [] := by
    rw [List.filter_eq_nil_iff]
    intro l hl
    simp [hket l hl]
  rw [this]; rfl

section tdot
variable [AddCommMonoid R] [Mul R] [Neg R] [GradedP.SignRing R]

/-- **matmulF_tensordotF_agree.**  `a @ b` → `tensordot_fermionic(a, b, ([ndim a − 1],[0]), mode)`,
    every mode: success, same labels, same charge, same element at every sector key and every
    address (`oL` = the free offsets of `a`, `oR` those of `b`) of the table box. -/
theorem matmulF_tensordotF_agree (hz1 : ∀ x : R, 0 * x = 0) (hz2 : ∀ x : R, x * 0 = 0)
    (a b y : Arr R) (ha : a.validB = true) (hb : b.validB = true) (hfa : a.fermi = true)
    (hfb : b.fermi = true) (hna : a.ndim = 1 ∨ a.ndim = 2) (hnb : b.ndim = 1 ∨ b.ndim = 2)
    (hadm : ValidP.tdotAdmissibleB a b [a.ndim - 1] [0] = true)
    (h : a.matmulF b = .ok y) (tm : TdotMode) :
    ∃ c, a.tensordotF b (.pair [Int.ofNat (a.ndim - 1)] [0]) tm = .ok c
      ∧ c.oddpos = y.oddpos ∧ c.charge = y.charge
      ∧ ∀ (s : Sector) (oL oR : List Nat), oL.length = (freeAxes a.ndim [a.ndim - 1]).length →
          inBox (Arr.blockShapeD (without a.indices [a.ndim - 1] ++ without b.indices [0]) s)
            (oL ++ oR) = true →
          c.elem s (oL ++ oR) = y.elem s (oL ++ oR) :=
  matmulF_to_tensordotF hz1 hz2 a b y ha hb hfa hfb hna hnb hadm h tm

/-- **eigh_reconstructs_tensordotF_all_modes** (fermionic).  Hypotheses of
    `eigh_reconstructs_fermionic_labels`.  In every mode
    `tensordot_fermionic(ev.multiply_diagonal(w, 1), ev.dagger(), ([1],[0]), mode)` succeeds, has no
    label, the charge `c_a − c_a`, and `a`'s element (pending signs included) at every address of
    `a`'s index tables. -/
theorem eigh_reconstructs_tensordotF_all_modes [Conj R]
    (hz1 : ∀ x : R, 0 * x = 0) (hz2 : ∀ x : R, x * 0 = 0) (hc0 : Conj.conj (0 : R) = 0)
    (K : Kernels R) (hK : K.ShapeOk) (a : Arr R)
    (hv : a.validB = true) (h2 : a.ndim = 2) (hch : a.charge = a.sym.zero)
    (hopp : (a.indices.getD 1 default).dual = !(a.indices.getD 0 default).dual)
    (hcm : (a.indices.getD 0 default).cm = (a.indices.getD 1 default).cm)
    (hf : a.fermi = true) (hlab : SortedLabels a.oddpos) (hket : ∀ l ∈ a.oddpos, l.2 = false)
    (hE : ∀ p ∈ a.phaseSync.blocks, K.EighBlock p.2) (tm : TdotMode) :
    ∃ w ev c, eighA K a = .ok (w, ev)
      ∧ (multiplyDiagonal ev w 1).tensordotF ev.daggerF (.pair [1] [0]) tm = .ok c
      ∧ c.oddpos = [] ∧ c.charge = a.sym.combine [a.charge, a.sym.sign a.charge true]
      ∧ ∀ s i j, inBox (Arr.blockShapeD a.indices s) [i, j] = true →
          c.elem s [i, j] = a.elem s [i, j] := by
  obtain ⟨w, ev, he, _, hT⟩ :=
    eigh_fermi_any_labels hz1 hz2 hc0 hK ⟨hv, h2, hch, hopp, hcm⟩ hf hlab hE
  obtain ⟨c, h1, h2', h3, h4⟩ := hT tm
  refine ⟨w, ev, c, he, h1, h2', h3, fun s i j hb => ?_⟩
  rw [h4 s i j hb, ← eighLabelSign_eq, eighLabelSign_nondual a hket (labels_even hv hf hch),
    Lazy.sgnI_one]

/-- **solve_solves_tensordotF_all_modes** (fermionic).  Hypotheses of
    `solve_solves_fermionic_labels` and of `solveA_valid` (same symmetry, `b`'s index has the
    direction of `a`'s row index).  In every mode `tensordot_fermionic(a, x, ([1],[0]), mode)`
    succeeds, carries `b`'s labels and has `b`'s element at every row of every sector of `b`
    paired with a block of `a`. -/
theorem solve_solves_tensordotF_all_modes (hz1 : ∀ x : R, 0 * x = 0) (hz2 : ∀ x : R, x * 0 = 0)
    (K : Kernels R) (hK : K.ShapeOk) (a b x : Arr R) (hva : a.validB = true)
    (hvb : b.validB = true) (hfa : a.fermi = true) (hfb : b.fermi = true) (hsym : a.sym = b.sym)
    (hdir : (b.indices.getD 0 default).dual = (a.indices.getD 0 default).dual)
    (heven : a.parity = false) (hao : a.oddpos = []) (hbo : SortedLabels b.oddpos)
    (hS : K.SolvesOn a.phaseSync b.phaseSync) (h : solveA K a b = .ok x) (tm : TdotMode) :
    ∃ c, a.tensordotF x (.pair [1] [0]) tm = .ok c ∧ c.oddpos = b.oddpos
      ∧ c.charge = a.sym.combine [a.charge, x.charge] ∧
      ∀ s arr, (s, arr) ∈ a.blocks → [s.getD 0 (0, 0)] ∈ b.sectors →
        ∀ i, i < arr.shape.getD 0 0 →
          c.elem [s.getD 0 (0, 0)] [i] = b.elem [s.getD 0 (0, 0)] [i] := by
  obtain ⟨y, hm, hyo, hel⟩ := solve_recon_fermi_labels GradedP.SignRing.neg_zero hK hva hvb hfa hfb
    heven hao hbo hS h
  obtain ⟨c, h1, h2, h3, h4⟩ := solve_transfer hz1 hz2 hK hva hvb hfa hfb hsym hdir heven h hm tm
  exact ⟨c, h1, h2.trans hyo, h3,
    fun s arr hmem hsb i hi => (h4 s arr hmem i hi).trans (hel s arr hmem hsb i hi)⟩

end tdot

section tdotA
variable [AddCommMonoid R] [Mul R] [Neg R]

/-- **eigh_reconstructs_tensordot_all_modes** (abelian).  Hypotheses of `eigh_reconstructs`.  In
    every mode `tensordot(ev.multiply_diagonal(w, 1), ev.H, ([1],[0]), mode)` succeeds and has `a`'s
    element at every address of `a`'s index tables (sectors `a` does not store: zero). -/
theorem eigh_reconstructs_tensordot_all_modes [Conj R]
    (hz1 : ∀ x : R, 0 * x = 0) (hz2 : ∀ x : R, x * 0 = 0) (hc0 : Conj.conj (0 : R) = 0)
    (K : Kernels R) (hK : K.ShapeOk) (a : Arr R)
    (hv : a.validB = true) (h2 : a.ndim = 2) (hch : a.charge = a.sym.zero)
    (hopp : (a.indices.getD 1 default).dual = !(a.indices.getD 0 default).dual)
    (hcm : (a.indices.getD 0 default).cm = (a.indices.getD 1 default).cm)
    (hf : a.fermi = false) (hE : ∀ p ∈ a.blocks, K.EighBlock p.2) (tm : TdotMode) :
    ∃ w ev c, eighA K a = .ok (w, ev)
      ∧ tensordotA (multiplyDiagonal ev w 1) ev.adjA (.pair [1] [0]) tm = .ok c
      ∧ ∀ s off, inBox (Arr.blockShapeD a.indices s) off = true → c.elem s off = a.elem s off := by
  have H : EighInput a := ⟨hv, h2, hch, hopp, hcm⟩
  obtain ⟨w, ev, he, hel⟩ := eigh_recon_abelian hc0 hK H hf hE
  obtain ⟨_, _, hvv, hvs, hvf, hvi, hvc, _, _, _, _, _⟩ := C11.eighA_valid K hK a H.hv w ev he
  obtain ⟨i0, i1, hi⟩ := ndim_two H.h2
  have hevf : ev.fermi = false := hvf.trans hf
  have hA : (multiplyDiagonal ev w 1).validB = true :=
    (ValidP.validB_iff _).mpr (ValidP.multiplyDiagonal_valid ev w 1 ((ValidP.validB_iff ev).mp hvv))
  obtain ⟨hB, hBi, _, _⟩ := adjA_valid2 hvv hevf (hvi.trans hi)
  have hAi : (multiplyDiagonal ev w 1).indices = [i0, i1] := hvi.trans hi
  obtain ⟨c, h1, h2⟩ := tensordotA_matrices_table hz1 hz2 hA hB hevf hevf rfl hAi hBi
    (Index.conj_cm i1).symm (by rw [Index.conj_dual, Bool.not_not]) tm
  refine ⟨w, ev, c, he, h1, ?_⟩
  intro s off hbox
  -- the table box of the result indices `[i0, i0.conj]` is that of `a`'s indices
  have hcm : i0.cm = i1.cm := by
    have := H.hcm; rw [hi] at this; exact this
  have hbox' : inBox (Arr.blockShapeD [i0, i0.conj] s) off = true := by
    rw [blockShapeD_congr_cm [i0, i0.conj] [i0, i1] s (by simp [hcm, Index.conj_cm]), ← hi]
    exact hbox
  rw [h2 s off hbox']
  exact hel s off (addrOf_of_table H.hv hbox)

/-- **solve_solves_tensordot_all_modes** (abelian).  Hypotheses of `solve_solves` and of
    `solveA_valid`.  In every mode `tensordot(a, x, ([1],[0]), mode)` succeeds and has `b`'s element
    at every row of every sector of `b` paired with a block of `a`. -/
theorem solve_solves_tensordot_all_modes (hz1 : ∀ x : R, 0 * x = 0) (hz2 : ∀ x : R, x * 0 = 0)
    (K : Kernels R) (hK : K.ShapeOk) (a b x : Arr R) (hva : a.validB = true)
    (hvb : b.validB = true) (hfa : a.fermi = false) (hfb : b.fermi = false) (hsym : a.sym = b.sym)
    (hdir : (b.indices.getD 0 default).dual = (a.indices.getD 0 default).dual)
    (hS : K.SolvesOn a b) (h : solveA K a b = .ok x) (tm : TdotMode) :
    ∃ c, tensordotA a x (.pair [1] [0]) tm = .ok c ∧
      ∀ s arr, (s, arr) ∈ a.blocks → [s.getD 0 (0, 0)] ∈ b.sectors →
        ∀ i, i < arr.shape.getD 0 0 →
          c.elem [s.getD 0 (0, 0)] [i] = b.elem [s.getD 0 (0, 0)] [i] := by
  obtain ⟨h2, _, hvx, _, hxi, hxs, hxf, _⟩ := C11.solveA_valid K hK a b hva hvb hsym
    (hfa.trans hfb.symm) hdir (fun h => by rw [hfa] at h; cases h) x h
  obtain ⟨i0, i1, hi⟩ := ndim_two h2
  have hxi' : x.indices = [i1.conj] := by rw [hxi, hi]; rfl
  have hxn : x.ndim = 1 := by simp [Arr.ndim, hxi']
  have hparse : parseAxes a.ndim x.ndim (.pair [1] [0]) = .ok ([1], [0]) := by rw [h2, hxn]; rfl
  obtain ⟨c, h1, _, _, h4⟩ := tensordotA_every_mode hz1 hz2 a x (.pair [1] [0]) [1] [0] hparse hva hvx
    hfa (hxf.trans hfb) (hsym.trans hxs.symm)
    (by
      unfold ValidP.contractibleB
      rw [hi, hxi']
      simp [Index.conj_cm, Index.conj_dual])
    (by decide) (by decide) (by intro y hy; simp at hy; subst hy; rw [h2]; decide)
    (by intro y hy; simp at hy; subst hy; rw [hxn]; decide) tm
  refine ⟨c, h1, ?_⟩
  intro s arr hmem hsb i hi'
  obtain ⟨r, c', m, n, B⟩ := mat_block hva hi hmem
  have hr : s.getD 0 (0, 0) = r := by rw [B.hs]; rfl
  have hidx : without a.indices [1] ++ without x.indices [0] = [i0] := by
    rw [hi, hxi']; rfl
  have hsh : Arr.blockShapeD [i0] [r] = [m] := by
    unfold Arr.blockShapeD
    rw [(blockShape?_single_iff i0 r [m]).mpr ⟨m, B.hr, rfl⟩]; rfl
  have hbox : inBox (Arr.blockShapeD (without a.indices [1] ++ without x.indices [0]) [r]) [i]
      = true := by
    rw [hidx, hsh]
    have : i < m := by simpa [B.hshape] using hi'
    simp [inBox, this]
  have hbp : b.phases = [] := Arr.phases_nil_of_validB hvb hfb
  obtain ⟨⟨s0, bb⟩, hbm, e⟩ := List.mem_map.mp hsb
  have e' : s0 = [s.getD 0 (0, 0)] := e
  subst e'
  have hl : alookup b.blocks [s.getD 0 (0, 0)] = some bb :=
    alookup_of_mem_nodup (Arr.validB_nodup hvb) hbm
  have := solve_recon hK hva hfa hbp hS h hmem hl hi'
  rw [hr] at this ⊢
  rw [h4 [r] [i] hbox, h2, hxn]
  exact this

end tdotA

/-- **eigh_reconstructs_fermionic_any_labels.**  `eigh_reconstructs_fermionic_labels` WITHOUT the
    hypothesis that the labels are non-dual: for a valid fermionic charge-zero matrix with any
    sorted labels (dual ones included) and any pending signs,
    `ev.multiply_diagonal(w, 1) @ ev.dagger()` and the same product through `tensordot_fermionic`
    in EVERY mode succeed, carry no label, and are `eighLabelSign a · a` at every address of `a`'s
    index tables: `-1` per non-dual label (= `-1` per dual label, their total being even). -/
theorem eigh_reconstructs_fermionic_any_labels [AddCommMonoid R] [Mul R] [Neg R]
    [GradedP.SignRing R] [Conj R]
    (hz1 : ∀ x : R, 0 * x = 0) (hz2 : ∀ x : R, x * 0 = 0) (hc0 : Conj.conj (0 : R) = 0)
    (K : Kernels R) (hK : K.ShapeOk) (a : Arr R)
    (hv : a.validB = true) (h2 : a.ndim = 2) (hch : a.charge = a.sym.zero)
    (hopp : (a.indices.getD 1 default).dual = !(a.indices.getD 0 default).dual)
    (hcm : (a.indices.getD 0 default).cm = (a.indices.getD 1 default).cm)
    (hf : a.fermi = true) (hlab : SortedLabels a.oddpos)
    (hE : ∀ p ∈ a.phaseSync.blocks, K.EighBlock p.2) :
    ∃ w ev, eighA K a = .ok (w, ev)
      ∧ (∃ y, (multiplyDiagonal ev w 1).matmulF ev.daggerF = .ok y ∧ y.oddpos = []
          ∧ ∀ s i j, inBox (Arr.blockShapeD a.indices s) [i, j] = true →
              y.elem s [i, j] = Lazy.sgnI (eighLabelSign a) (a.elem s [i, j]))
      ∧ ∀ tm, ∃ c, (multiplyDiagonal ev w 1).tensordotF ev.daggerF (.pair [1] [0]) tm = .ok c
          ∧ c.oddpos = []
          ∧ ∀ s i j, inBox (Arr.blockShapeD a.indices s) [i, j] = true →
              c.elem s [i, j] = Lazy.sgnI (eighLabelSign a) (a.elem s [i, j]) := by
  rw [eighLabelSign_eq]
  obtain ⟨w, ev, he, hy, hT⟩ :=
    eigh_fermi_any_labels hz1 hz2 hc0 hK ⟨hv, h2, hch, hopp, hcm⟩ hf hlab hE
  refine ⟨w, ev, he, hy, fun tm => ?_⟩
  obtain ⟨c, h1, h2', _, h4⟩ := hT tm
  exact ⟨c, h1, h2', h4⟩

/-- the sign of `q.dagger() · q` on the bond sector of the stored block with sector `s = (r, c)`:
    `-1` per DUAL label of `x`, and `-1` when `x`'s row index is dual and the row charge is odd -/
def isometrySign (x : Arr R) (s : Sector) : Int :=
  (-1) ^ (x.oddpos.filter (fun l => l.2)).length
    * (if (x.indices.getD 0 default).dual && x.sym.parity (s.getD 0 (0, 0)) then -1 else 1)

theorem isometrySign_eq (x : Arr R) (s : Sector) : isometrySign x s = isoSignL x s := by
  unfold isometrySign isoSignL
  rw [nestSign_eq_pow]
  rfl

theorem isometrySign_pm (x : Arr R) (s : Sector) : isometrySign x s = 1 ∨ isometrySign x s = -1 := by
  rw [isometrySign_eq]; exact isoSignL_pm x s


/-- on a stored sector `s = (r, c)` of a valid matrix the parity of the row charge is the parity of
    the bond charge `c` plus the parity of `x`: the sign in terms of the BOND charge -/
theorem isometrySign_bond_charge (x : Arr R) (hv : x.validB = true) (h2 : x.ndim = 2)
    (s : Sector) (b : Blk R) (hm : (s, b) ∈ x.blocks) :
    isometrySign x s = (-1) ^ (x.oddpos.filter (fun l => l.2)).length
      * (if (x.indices.getD 0 default).dual && xor (x.sym.parity (col s)) x.parity
          then -1 else 1) := by
  obtain ⟨i0, i1, hi⟩ := ndim_two h2
  obtain ⟨r, c, m, n, B⟩ := mat_block hv hi hm
  have h := congrArg x.sym.parity B.hcharge
  rw [Sym.parity_combine_pair, Sym.parity_sign, Sym.parity_sign] at h
  have hr : s.getD 0 (0, 0) = r := by rw [B.hs]; rfl
  have hc : col s = c := by rw [B.hs]; rfl
  unfold isometrySign
  rw [hr, hc]
  have : x.sym.parity r = xor (x.sym.parity c) x.parity := by
    show _ = xor _ (x.sym.parity x.charge)
    rw [← h]
    cases x.sym.parity r <;> cases x.sym.parity c <;> rfl
  rw [this]

section iso
variable [CommRing R] [Conj R]

/-- **qr_isometry_fermionic.**  `x` a valid fermionic matrix, sorted labels, any pending signs; the
    QR kernel returns orthonormal columns on every stored block.  Then `q.dagger() @ q` and
    `tensordot_fermionic(q.dagger(), q, ([1],[0]), mode)` in EVERY mode succeed, carry no label, and
    on the bond sector `(c, c)` of every stored block with sector `s = (r, c)` they are
    `isometrySign x s · 1`: entry `[t, t']` is `± 1` if `t = t'` and `0` otherwise. -/
theorem qr_isometry_fermionic (conj : R →+* R) (hcj : ∀ v : R, Conj.conj v = conj v)
    (K : Kernels R) (hK : K.ShapeOk) (x : Arr R) (hv : x.validB = true) (h2 : x.ndim = 2)
    (hf : x.fermi = true) (hlab : SortedLabels x.oddpos)
    (hO : ∀ p ∈ x.blocks, K.QIsoBlock conj p.2) :
    ∃ q r, qrA K x = .ok (q, r)
      ∧ (∃ y, q.daggerF.matmulF q = .ok y ∧ y.oddpos = []
          ∧ ∀ s b, (s, b) ∈ x.blocks → ∀ m n, b.shape = [m, n] → ∀ t t', t < min m n →
              t' < min m n →
              y.elem [col s, col s] [t, t'] = Lazy.sgnI (isometrySign x s) (if t = t' then 1 else 0))
      ∧ ∀ tm, ∃ c, q.daggerF.tensordotF q (.pair [1] [0]) tm = .ok c ∧ c.oddpos = []
          ∧ ∀ s b, (s, b) ∈ x.blocks → ∀ m n, b.shape = [m, n] → ∀ t t', t < min m n →
              t' < min m n →
              c.elem [col s, col s] [t, t'] = Lazy.sgnI (isometrySign x s) (if t = t' then 1 else 0) := by
  have hc0 : Conj.conj (0 : R) = 0 := by rw [hcj]; exact map_zero conj
  have : GradedP.SignRing R := signRing_of_ring
  refine ⟨_, _, qrA_eq K hv h2, both_imp (gram_left_fermi_items zero_mul mul_zero hc0 hv h2 hlab
    (leftLike_leftF (L := fun b => (K.qr b).1) (Rt := fun b => (K.qr b).2) hv h2 hf
      (facShape_qr hK)))
    (fun y h => ⟨h.1, fun s b hm m n hs t t' ht ht' => ?_⟩)⟩
  have := h.2 (s, b) hm t t'
  simp only [hs, List.getD_cons_zero, List.getD_cons_succ, hcj] at this
  rw [show [col s, col s] = diagOf s from rfl, this ht ht', isometrySign_eq,
    hO (s, b) hm m n hs t t' ht ht']

/-- **svd_isometry_fermionic.**  Likewise for `u, s, vh = svd(x)` under `K.OrthoBlock`:
    `u.dagger() · u` is `isometrySign x s · 1` and `vh · vh.dagger()` is `σ · 1` with `σ = -1` iff
    `x`'s column index is NOT dual and the bond charge is odd — through `@` and through
    `tensordot_fermionic` in every mode; no labels on either product. -/
theorem svd_isometry_fermionic (conj : R →+* R) (hcj : ∀ v : R, Conj.conj v = conj v)
    (K : Kernels R) (hK : K.ShapeOk) (x : Arr R) (hv : x.validB = true) (h2 : x.ndim = 2)
    (hf : x.fermi = true) (hlab : SortedLabels x.oddpos)
    (hO : ∀ p ∈ x.blocks, K.OrthoBlock conj p.2) :
    ∃ u s vh, svdA K x = .ok (u, s, vh)
      ∧ (∃ y, u.daggerF.matmulF u = .ok y ∧ y.oddpos = []
          ∧ ∀ sec b, (sec, b) ∈ x.blocks → ∀ m n, b.shape = [m, n] → ∀ t t', t < min m n →
              t' < min m n →
              y.elem [col sec, col sec] [t, t']
                = Lazy.sgnI (isometrySign x sec) (if t = t' then 1 else 0))
      ∧ (∀ tm, ∃ c, u.daggerF.tensordotF u (.pair [1] [0]) tm = .ok c ∧ c.oddpos = []
          ∧ ∀ sec b, (sec, b) ∈ x.blocks → ∀ m n, b.shape = [m, n] → ∀ t t', t < min m n →
              t' < min m n →
              c.elem [col sec, col sec] [t, t']
                = Lazy.sgnI (isometrySign x sec) (if t = t' then 1 else 0))
      ∧ (∃ y, vh.matmulF vh.daggerF = .ok y ∧ y.oddpos = []
          ∧ ∀ sec b, (sec, b) ∈ x.blocks → ∀ m n, b.shape = [m, n] → ∀ t t', t < min m n →
              t' < min m n →
              y.elem [col sec, col sec] [t, t']
                = Lazy.sgnI (if !(x.indices.getD 1 default).dual && x.sym.parity (col sec) then -1 else 1)
                    (if t = t' then 1 else 0))
      ∧ ∀ tm, ∃ c, vh.tensordotF vh.daggerF (.pair [1] [0]) tm = .ok c ∧ c.oddpos = []
          ∧ ∀ sec b, (sec, b) ∈ x.blocks → ∀ m n, b.shape = [m, n] → ∀ t t', t < min m n →
              t' < min m n →
              c.elem [col sec, col sec] [t, t']
                = Lazy.sgnI (if !(x.indices.getD 1 default).dual && x.sym.parity (col sec) then -1 else 1)
                    (if t = t' then 1 else 0) := by
  have hc0 : Conj.conj (0 : R) = 0 := by rw [hcj]; exact map_zero conj
  have : GradedP.SignRing R := signRing_of_ring
  refine ⟨_, _, _, svdA_eq K hv h2, and_assoc.mp ⟨?_, ?_⟩⟩
  · refine both_imp (gram_left_fermi_items zero_mul mul_zero hc0 hv h2 hlab
      (leftLike_leftF (L := fun b => (K.svd b).1) (Rt := fun b => (K.svd b).2.2) hv h2 hf
        (facShape_svd hK)))
      (fun y h => ⟨h.1, fun sec b hm m n hs t t' ht ht' => ?_⟩)
    have := h.2 (sec, b) hm t t'
    simp only [hs, List.getD_cons_zero, List.getD_cons_succ, hcj] at this
    rw [show [col sec, col sec] = diagOf sec from rfl, this ht ht', isometrySign_eq,
      (hO (sec, b) hm m n hs t t' ht ht').1]
  · refine both_imp (gram_right_fermi_items zero_mul mul_zero hc0 hv h2
      (rightLike_rightF (L := fun b => (K.svd b).1) (Rt := fun b => (K.svd b).2.2) hv h2 hf
        (facShape_svd hK)))
      (fun y h => ⟨h.1, fun sec b hm m n hs t t' ht ht' => ?_⟩)
    have := h.2 (sec, b) hm t t'
    simp only [hs, List.getD_cons_zero, List.getD_cons_succ] at this
    rw [show [col sec, col sec] = diagOf sec from rfl, this ht ht',
      ortho_rows_comm conj hcj hs (hO (sec, b) hm) ht ht']
    rfl

/-- **qr_isometry_array_all_modes** (abelian).  C11f's `qr_isometry_array` through
    `tensordot_abelian(q.H, q, ([1],[0]), mode)` in EVERY mode: success, and the identity on the bond
    sector of every stored block. -/
theorem qr_isometry_array_all_modes (conj : R →+* R) (hcj : ∀ v : R, Conj.conj v = conj v)
    (K : Kernels R) (hK : K.ShapeOk) (x : Arr R) (hv : x.validB = true) (h2 : x.ndim = 2)
    (hf : x.fermi = false) (hO : ∀ p ∈ x.blocks, K.QIsoBlock conj p.2) (tm : TdotMode) :
    ∃ q r c, qrA K x = .ok (q, r) ∧ tensordotA q.adjA q (.pair [1] [0]) tm = .ok c
      ∧ ∀ s b, (s, b) ∈ x.blocks → ∀ m n, b.shape = [m, n] → ∀ t t', t < min m n → t' < min m n →
          c.elem [col s, col s] [t, t'] = if t = t' then 1 else 0 := by
  obtain ⟨c, h1, h2'⟩ := gram_left_array_modes (L := fun b => (K.qr b).1)
    (Rt := fun b => (K.qr b).2) conj hcj hv h2 hf (facShape_qr hK) tm
  refine ⟨_, _, c, qrA_eq K hv h2, h1, ?_⟩
  intro s b hm m n hs t t' ht ht'
  rw [show [col s, col s] = diagOf s from rfl, h2' s b hm m n hs t t' ht ht']
  exact hO (s, b) hm m n hs t t' ht ht'

/-- **svd_isometry_array_all_modes** (abelian).  `U† · U = 1` and `VH · VH† = 1` on the bond
    index through `tensordot_abelian` in EVERY mode. -/
theorem svd_isometry_array_all_modes (conj : R →+* R) (hcj : ∀ v : R, Conj.conj v = conj v)
    (K : Kernels R) (hK : K.ShapeOk) (x : Arr R) (hv : x.validB = true) (h2 : x.ndim = 2)
    (hf : x.fermi = false) (hO : ∀ p ∈ x.blocks, K.OrthoBlock conj p.2) (tm : TdotMode) :
    ∃ u s vh c d, svdA K x = .ok (u, s, vh)
      ∧ tensordotA u.adjA u (.pair [1] [0]) tm = .ok c
      ∧ tensordotA vh vh.adjA (.pair [1] [0]) tm = .ok d
      ∧ ∀ sec b, (sec, b) ∈ x.blocks → ∀ m n, b.shape = [m, n] → ∀ t t', t < min m n →
          t' < min m n →
          c.elem [col sec, col sec] [t, t'] = (if t = t' then 1 else 0)
          ∧ d.elem [col sec, col sec] [t, t'] = (if t = t' then 1 else 0) := by
  obtain ⟨c, h1, h2'⟩ := gram_left_array_modes (L := fun b => (K.svd b).1)
    (Rt := fun b => (K.svd b).2.2) conj hcj hv h2 hf (facShape_svd hK) tm
  obtain ⟨d, k1, k2⟩ := gram_right_array_modes (L := fun b => (K.svd b).1)
    (Rt := fun b => (K.svd b).2.2) conj hcj hv h2 hf (facShape_svd hK) tm
  refine ⟨_, _, _, c, d, svdA_eq K hv h2, h1, k1, ?_⟩
  intro sec b hm m n hs t t' ht ht'
  have := hO (sec, b) hm m n hs
  refine ⟨?_, ?_⟩
  · rw [show [col sec, col sec] = diagOf sec from rfl, h2' sec b hm m n hs t t' ht ht']
    exact (this t t' ht ht').1
  · rw [show [col sec, col sec] = diagOf sec from rfl, k2 sec b hm m n hs t t' ht ht']
    rw [(this t' t ht' ht).2]
    exact if_congr eq_comm rfl rfl

end iso

section trunc
variable [Zero R]

/-- **svd_truncated_structure.**  `u, s, vh = svd(x)` truncated with `counts` (aligned with the
    stored blocks): the kept sectors are those with a non-zero count, in order; the two bond
    indices have opposite directions (`u'`'s that of `x`'s column index) and the SAME charge table,
    which lists exactly one charge per kept block — its column charge, with the kept count as size;
    the singular-value vector has one block per kept block, keyed by that charge, of length the
    kept count, and its entries are the first entries of the untruncated block. -/
theorem svd_truncated_structure (K : Kernels R) (x : Arr R) (hv : x.validB = true)
    (h2 : x.ndim = 2) (u : Arr R) (s : BVec R) (vh : Arr R) (hsvd : svdA K x = .ok (u, s, vh))
    (counts : List Nat) (hlen : counts.length = x.blocks.length) :
    let u' := (applyCounts u s vh counts).1
    let s' := (applyCounts u s vh counts).2.1
    let vh' := (applyCounts u s vh counts).2.2
    u'.sectors = ((x.blocks.zip counts).filter (fun t => t.2 != 0)).map (fun t => t.1.1)
    ∧ vh'.sectors = ((x.blocks.zip counts).filter (fun t => t.2 != 0)).map
        (fun t => [col t.1.1, col t.1.1])
    ∧ s'.blocks.map (·.1) = ((x.blocks.zip counts).filter (fun t => t.2 != 0)).map
        (fun t => col t.1.1)
    ∧ (u'.indices.getD 1 default).dual = (x.indices.getD 1 default).dual
    ∧ (vh'.indices.getD 0 default).dual = !(x.indices.getD 1 default).dual
    ∧ (u'.indices.getD 1 default).cm = (vh'.indices.getD 0 default).cm
    ∧ ((u'.indices.getD 1 default).cm).Perm
        (((x.blocks.zip counts).filter (fun t => t.2 != 0)).map (fun t => (col t.1.1, t.2)))
    ∧ (∀ sec b c, ((sec, b), c) ∈ x.blocks.zip counts → c ≠ 0 →
        alookup (u'.indices.getD 1 default).cm (col sec) = some c
        ∧ alookup s'.blocks (col sec) = some ((K.svd b).2.1.sliceK [0] [c])
        ∧ ∀ t, t < c → ((K.svd b).2.1.sliceK [0] [c]).get [t] = (K.svd b).2.1.get [t]) := by
  obtain ⟨rfl, rfl, rfl⟩ := svd_factors_eq hv h2 hsvd
  rw [applyCounts_eq (S := fun b => (K.svd b).2.1) hv h2 hlen]
  obtain ⟨i0, i1, hi⟩ := ndim_two h2
  obtain ⟨_, hlk, hperm⟩ := newCm_props (counts := counts) hv h2 hlen
  have hUi : (truncU x (fun b => (K.svd b).1) counts).indices.getD 1 default
      = Index.mk (Index.sortCm (Index.sortCm (keptCm x counts))) i1.dual none := by
    show (bondIx x (fun b => (K.svd b).1)).withCm (Index.sortCm (keptCm x counts)) = _
    rw [bondIx_eq hi]; rfl
  have hVi : (truncV x (fun b => (K.svd b).1) (fun b => (K.svd b).2.2) counts).indices.getD 0 default
      = Index.mk (Index.sortCm (Index.sortCm (keptCm x counts))) (!i1.dual) none := by
    show (bondIx x (fun b => (K.svd b).1)).conj.withCm (Index.sortCm (keptCm x counts)) = _
    rw [bondIx_eq hi]; rfl
  have hi1 : x.indices.getD 1 default = i1 := by rw [hi]; rfl
  simp only []
  rw [hUi, hVi, hi1]
  refine ⟨?_, ?_, ?_, rfl, rfl, rfl, ?_, ?_⟩
  · exact List.map_map
  · exact List.map_map
  · exact List.map_map
  · exact hperm
  · intro sec b c hm hc0
    have hk : ((sec, b), c) ∈ kept x counts := mem_kept_iff.mpr ⟨hm, hc0⟩
    refine ⟨?_, ?_, fun t ht => sliceK0_get _ ht⟩
    · show alookup (Index.sortCm (Index.sortCm (keptCm x counts))) (colOf sec) = some c
      rw [hlk]
      exact keptCm_lookup hv h2 hlen hk
    · apply alookup_of_mem_nodup
      · have := keptCm_keys_nodup (counts := counts) hv h2 hlen
        simpa [truncS, keptCm, List.map_map, Function.comp_def] using this
      · exact List.mem_map.mpr ⟨((sec, b), c), hk, rfl⟩

/-- **singular_values_inherit_truncated.**  Any property `P t t' s[t] s[t']` of pairs of entries of
    the singular values of a block (non-negative and non-increasing:
    `P t t' v v' := t ≤ t' → 0 ≤ v' ∧ v' ≤ v`) that the kernel promises for the untruncated block
    holds for the kept block of `svd_truncated`, which is keyed by the block's bond charge and has
    length the kept count. -/
theorem singular_values_inherit_truncated (K : Kernels R) (x : Arr R) (hv : x.validB = true)
    (h2 : x.ndim = 2) (u : Arr R) (s : BVec R) (vh : Arr R) (hsvd : svdA K x = .ok (u, s, vh))
    (counts : List Nat) (hlen : counts.length = x.blocks.length)
    (P : Nat → Nat → R → R → Prop)
    (hP : ∀ p ∈ x.blocks, ∀ m n, p.2.shape = [m, n] → ∀ t t', t < min m n → t' < min m n →
      P t t' ((K.svd p.2).2.1.get [t]) ((K.svd p.2).2.1.get [t'])) :
    ∀ sec b c, ((sec, b), c) ∈ x.blocks.zip counts → c ≠ 0 →
      ∃ sb, alookup (applyCounts u s vh counts).2.1.blocks (col sec) = some sb ∧ sb.shape = [c]
        ∧ ∀ m n, b.shape = [m, n] → c ≤ min m n → ∀ t t', t < c → t' < c →
            P t t' (sb.get [t]) (sb.get [t']) := by
  intro sec b c hm hc0
  obtain ⟨_, _, _, _, _, _, _, h8⟩ := svd_truncated_structure K x hv h2 u s vh hsvd counts hlen
  obtain ⟨_, hl, hg⟩ := h8 sec b c hm hc0
  refine ⟨_, hl, rfl, ?_⟩
  intro m n hs hc t t' ht ht'
  rw [hg t ht, hg t' ht']
  exact hP (sec, b) (tri_mem hlen hm) m n hs t t' (by omega) (by omega)

end trunc

/-- **u_vh_blocks_orthonormal_truncated.**  C11f's `u_vh_blocks_orthonormal` for the outputs of
    `svd_truncated`: on every KEPT block (count `c ≠ 0`, `c ≤ min m n`) the `c` kept columns of
    `u'` and the `c` kept rows of `vh'` are orthonormal — VALUE VIEW (pending signs of a fermionic
    `x` included), abelian and fermionic inputs alike. -/
theorem u_vh_blocks_orthonormal_truncated [CommRing R] (conj : R →+* R) (K : Kernels R)
    (hK : K.ShapeOk) (x : Arr R) (hv : x.validB = true) (h2 : x.ndim = 2)
    (u : Arr R) (s : BVec R) (vh : Arr R) (hsvd : svdA K x = .ok (u, s, vh))
    (counts : List Nat) (hlen : counts.length = x.blocks.length)
    (hO : ∀ p ∈ x.blocks, K.OrthoBlock conj p.2) :
    ∀ sec b c, ((sec, b), c) ∈ x.blocks.zip counts → c ≠ 0 →
      ∀ m n, b.shape = [m, n] → c ≤ min m n → ∀ t t', t < c → t' < c →
        (List.range m).foldl (fun acc i =>
            acc + conj ((applyCounts u s vh counts).1.elem sec [i, t])
              * (applyCounts u s vh counts).1.elem sec [i, t']) 0 = (if t = t' then 1 else 0)
        ∧ (List.range n).foldl (fun acc j =>
            acc + conj ((applyCounts u s vh counts).2.2.elem [col sec, col sec] [t, j])
              * (applyCounts u s vh counts).2.2.elem [col sec, col sec] [t', j]) 0
          = (if t = t' then 1 else 0) := by
  obtain ⟨rfl, rfl, rfl⟩ := svd_factors_eq hv h2 hsvd
  rw [applyCounts_eq (S := fun b => (K.svd b).2.1) hv h2 hlen]
  obtain ⟨i0, i1, hi⟩ := ndim_two h2
  intro sec b c hm hc0 m n hs hc t t' ht ht'
  have hk : ((sec, b), c) ∈ kept x counts := mem_kept_iff.mpr ⟨hm, hc0⟩
  have hmem : (sec, b) ∈ x.blocks := tri_mem hlen hm
  have hwf : b.wf = true := Arr.validB_block_wf hv hmem
  obtain ⟨l1, _, l3, _⟩ := facShape_svd hK b m n hs hwf
  have hOb := hO (sec, b) hmem m n hs t t' (by omega) (by omega)
  have hUnd := Arr.validB_nodup (truncU_valid (L := fun b => (K.svd b).1)
    (Rt := fun b => (K.svd b).2.2) hv h2 hi (facShape_svd hK) hlen)
  have hVnd := Arr.validB_nodup (truncV_valid (L := fun b => (K.svd b).1)
    (Rt := fun b => (K.svd b).2.2) hv h2 hi (facShape_svd hK) hlen)
  have hUm : (sec, ((K.svd b).1).sliceK [0, 0] [m, c])
      ∈ (truncU x (fun b => (K.svd b).1) counts).blocks := by
    refine List.mem_map.mpr ⟨((sec, b), c), hk, ?_⟩
    simp only [l1, List.getD_cons_zero]
  have hVm : ([col sec, col sec], ((K.svd b).2.2).sliceK [0, 0] [c, n])
      ∈ (truncV x (fun b => (K.svd b).1) (fun b => (K.svd b).2.2) counts).blocks := by
    refine List.mem_map.mpr ⟨((sec, b), c), hk, ?_⟩
    simp only [l3, List.getD_cons_zero, List.getD_cons_succ]
    rfl
  constructor
  · rw [gram_elem_cols conj hUnd hUm, ← hOb.1]
    apply foldl_ext'
    intro acc i hi'
    have hi'' := List.mem_range.mp hi'
    rw [sliceK00_get _ hi'' ht, sliceK00_get _ hi'' ht']
  · rw [gram_elem_rows conj hVnd hVm, ← hOb.2]
    apply foldl_ext'
    intro acc j hj'
    have hj'' := List.mem_range.mp hj'
    rw [sliceK00_get _ ht hj'', sliceK00_get _ ht' hj'']

/-- **svd_truncated_isometry_fermionic.**  `svd_isometry_fermionic` for the factors `u'`, `vh'`
    that `svd_truncated` returns (truncation with `counts`): on the bond sector of every KEPT block
    (count `c ≠ 0`, `c ≤ min m n`) `u'.dagger() · u'` is `isometrySign x s` times the `c × c`
    identity and `vh' · vh'.dagger()` is `σ` times it (`σ = -1` iff `x`'s column index is not dual
    and the bond charge is odd) — through `@` and through `tensordot_fermionic` in every mode. -/
theorem svd_truncated_isometry_fermionic [CommRing R] [Conj R] (conj : R →+* R)
    (hcj : ∀ v : R, Conj.conj v = conj v)
    (K : Kernels R) (hK : K.ShapeOk) (x : Arr R) (hv : x.validB = true) (h2 : x.ndim = 2)
    (hf : x.fermi = true) (hlab : SortedLabels x.oddpos)
    (u : Arr R) (s : BVec R) (vh : Arr R) (hsvd : svdA K x = .ok (u, s, vh))
    (counts : List Nat) (hlen : counts.length = x.blocks.length)
    (hO : ∀ p ∈ x.blocks, K.OrthoBlock conj p.2) :
    let u' := (applyCounts u s vh counts).1
    let vh' := (applyCounts u s vh counts).2.2
    (∃ y, u'.daggerF.matmulF u' = .ok y ∧ y.oddpos = []
        ∧ ∀ sec b c, ((sec, b), c) ∈ x.blocks.zip counts → c ≠ 0 → ∀ m n, b.shape = [m, n] →
            c ≤ min m n → ∀ t t', t < c → t' < c →
            y.elem [col sec, col sec] [t, t']
              = Lazy.sgnI (isometrySign x sec) (if t = t' then 1 else 0))
    ∧ (∀ tm, ∃ y, u'.daggerF.tensordotF u' (.pair [1] [0]) tm = .ok y ∧ y.oddpos = []
        ∧ ∀ sec b c, ((sec, b), c) ∈ x.blocks.zip counts → c ≠ 0 → ∀ m n, b.shape = [m, n] →
            c ≤ min m n → ∀ t t', t < c → t' < c →
            y.elem [col sec, col sec] [t, t']
              = Lazy.sgnI (isometrySign x sec) (if t = t' then 1 else 0))
    ∧ (∃ y, vh'.matmulF vh'.daggerF = .ok y ∧ y.oddpos = []
        ∧ ∀ sec b c, ((sec, b), c) ∈ x.blocks.zip counts → c ≠ 0 → ∀ m n, b.shape = [m, n] →
            c ≤ min m n → ∀ t t', t < c → t' < c →
            y.elem [col sec, col sec] [t, t']
              = Lazy.sgnI (if !(x.indices.getD 1 default).dual && x.sym.parity (col sec) then -1 else 1)
                  (if t = t' then 1 else 0))
    ∧ ∀ tm, ∃ y, vh'.tensordotF vh'.daggerF (.pair [1] [0]) tm = .ok y ∧ y.oddpos = []
        ∧ ∀ sec b c, ((sec, b), c) ∈ x.blocks.zip counts → c ≠ 0 → ∀ m n, b.shape = [m, n] →
            c ≤ min m n → ∀ t t', t < c → t' < c →
            y.elem [col sec, col sec] [t, t']
              = Lazy.sgnI (if !(x.indices.getD 1 default).dual && x.sym.parity (col sec) then -1 else 1)
                  (if t = t' then 1 else 0) := by
  obtain ⟨rfl, rfl, rfl⟩ := svd_factors_eq hv h2 hsvd
  rw [applyCounts_eq (S := fun b => (K.svd b).2.1) hv h2 hlen]
  simp only []
  have hc0 : Conj.conj (0 : R) = 0 := by rw [hcj]; exact map_zero conj
  have : GradedP.SignRing R := signRing_of_ring
  have hwf : ∀ sec b c, ((sec, b), c) ∈ x.blocks.zip counts → b.wf = true := fun sec b c hm =>
    Arr.validB_block_wf hv (tri_mem hlen hm)
  refine and_assoc.mp ⟨?_, ?_⟩
  · refine both_imp (gram_left_fermi_items zero_mul mul_zero hc0 hv h2 hlab
      (leftLike_truncU (L := fun b => (K.svd b).1) (Rt := fun b => (K.svd b).2.2)
        (counts := counts) hv h2 hf (facShape_svd hK) hlen))
      (fun y h => ⟨h.1, fun sec b c hm hc0' m n hs hc t t' ht ht' => ?_⟩)
    have hk : ((sec, b), c) ∈ kept x counts := mem_kept_iff.mpr ⟨hm, hc0'⟩
    rw [show [col sec, col sec] = diagOf sec from rfl, h.2 _ hk t t' ht ht', isometrySign_eq,
      trunc_cols_gram conj hcj hK hs (hwf sec b c hm) (hO (sec, b) (tri_mem hlen hm)) hc ht ht']
  · refine both_imp (gram_right_fermi_items zero_mul mul_zero hc0 hv h2
      (rightLike_truncV (L := fun b => (K.svd b).1) (Rt := fun b => (K.svd b).2.2)
        (counts := counts) hv h2 hf (facShape_svd hK) hlen))
      (fun y h => ⟨h.1, fun sec b c hm hc0' m n hs hc t t' ht ht' => ?_⟩)
    have hk : ((sec, b), c) ∈ kept x counts := mem_kept_iff.mpr ⟨hm, hc0'⟩
    rw [show [col sec, col sec] = diagOf sec from rfl, h.2 _ hk t t' ht ht',
      trunc_rows_gram conj hcj hK hs (hwf sec b c hm) (hO (sec, b) (tri_mem hlen hm)) hc ht ht']
    rfl

open scoped SymmModel.Lazy

/-- the kernel hypotheses of the isometry theorems on the examples: `trivialFactor` returns `q = 1`
    on the square blocks of `exT`, `u = vh = 1` on those of `exO` -/
theorem exT_qiso : ∀ p ∈ exT.blocks, Kernels.trivialFactor.QIsoBlock (RingHom.id Int) p.2 := by
  intro p hp
  simp only [exT, List.mem_cons, List.not_mem_nil, or_false] at hp
  rcases hp with rfl | rfl <;>
  · apply qiso_22 _ rfl
    intro t t' ht ht'
    have h1 : t = 0 ∨ t = 1 := by omega
    have h2 : t' = 0 ∨ t' = 1 := by omega
    rcases h1 with rfl | rfl <;> rcases h2 with rfl | rfl <;> decide

theorem exO_ortho : ∀ p ∈ exO.blocks, Kernels.trivialFactor.OrthoBlock (RingHom.id Int) p.2 := by
  intro p hp
  simp only [exO, List.mem_cons, List.not_mem_nil, or_false] at hp
  rcases hp with rfl | rfl <;>
  · apply ortho_22 _ rfl
    intro t t' ht ht'
    have h1 : t = 0 ∨ t = 1 := by omega
    have h2 : t' = 0 ∨ t' = 1 := by omega
    rcases h1 with rfl | rfl <;> rcases h2 with rfl | rfl <;> decide

/-- the blocks of `exEf` after `phase_sync` (and of `exEdual`, which differs in its labels only)
    are diagonal, so the diagonal kernel meets the `eigh` contract on them -/
theorem exEf_eighBlocks : ∀ p ∈ exEf.phaseSync.blocks, Kernels.eighDiag.EighBlock p.2 := by
  intro p hp
  obtain ⟨b0, hb0, hor⟩ := phaseSync_mem (s := p.1) (b' := p.2) hp
  have hd : IsDiag b0 := by
    simp only [exEf, List.mem_cons, List.not_mem_nil, or_false, Prod.mk.injEq] at hb0
    rcases hb0 with ⟨_, rfl⟩ | ⟨_, rfl⟩
    · exact isDiag_22 2 3
    · exact isDiag_11 5
  rcases hor with h | h
  · rw [h]; exact eighDiag_block _ hd
  · rw [h]; exact eighDiag_block _ (isDiag_negK hd)

example : (∀ x : Int, 0 * x = 0) ∧ (∀ x : Int, x * 0 = 0) ∧ Conj.conj (0 : Int) = 0
    ∧ (∀ v : Int, Conj.conj v = (RingHom.id Int) v) :=
  ⟨Int.zero_mul, Int.mul_zero, rfl, fun _ => rfl⟩

/-- the fermionic `eigh` theorem instantiates on `exEf` (C11b: dual row index, a pending sign on
    the odd block) with the diagonal kernel, every mode -/
example (tm : TdotMode) :=
  eigh_reconstructs_tensordotF_all_modes (R := Int) Int.zero_mul Int.mul_zero rfl Kernels.eighDiag
    eighDiag_shapeOk exEf (by decide) rfl (by decide) (by decide) (by decide) rfl
    (sortedLabels_of_short (by decide)) (fun l hl => by cases hl)
    exEf_eighBlocks tm

/-- … and computes: all three modes give `exEf`'s value view, no label, no pending sign -/
example : ((eighA Kernels.eighDiag exEf).toOption.map (fun p =>
      [TdotMode.blockwise, TdotMode.fused, TdotMode.auto].map (fun tm =>
        ((multiplyDiagonal p.2 p.1 1).tensordotF p.2.daggerF (.pair [1] [0]) tm).toOption.map
          (fun y => (y.blocks.map (fun q => (q.1, q.2.data.toList)), y.phases, y.oddpos))))
    == some (List.replicate 3 (some
        ([([(0, 0), (0, 0)], [2, 0, 0, 3]), ([(1, 0), (1, 0)], [-5])], [], [])))) = true := by
  decide +kernel

/-- `solve` through `tensordot`, three modes, on `exSa`, `exSb` (C11b): `b`'s values with its
    pending sign, `b`'s label -/
example : ((solveA Kernels.solveCopy exSa exSb).toOption.map (fun x =>
      [TdotMode.blockwise, TdotMode.fused, TdotMode.auto].map (fun tm =>
        (exSa.tensordotF x (.pair [1] [0]) tm).toOption.map
          (fun y => (y.blocks.map (fun q => (q.1, q.2.data.toList)), y.phases, y.oddpos))))
    == some (List.replicate 3 (some ([([(1, 0)], [-5, -6])], [], [(7, false)])))) = true := by
  decide +kernel

/-- hypotheses of `solve_solves_tensordotF_all_modes` beyond those of C11b's example -/
example : exSa.sym = exSb.sym
    ∧ (exSb.indices.getD 0 default).dual = (exSa.indices.getD 0 default).dual
    ∧ SortedLabels exSb.oddpos := ⟨rfl, rfl, sortedLabels_of_short (by decide)⟩

/-- hypotheses of `qr_isometry_fermionic` for `exT` (odd, dual row index, three labels one of them
    dual, a pending sign) and the kernel `trivialFactor` (`q = 1` on square blocks) -/
example : exT.validB = true ∧ exT.ndim = 2 ∧ exT.fermi = true ∧ SortedLabels exT.oddpos
    ∧ (∀ p ∈ exT.blocks, Kernels.trivialFactor.QIsoBlock (RingHom.id Int) p.2) := by
  exact ⟨by decide, rfl, rfl, sortedLabels_ex, exT_qiso⟩

/-- the sign formula on `exT` and on `exT` with one non-dual label: one dual label and a dual row
    index give `-1` on the block with even row charge `0` (bond charge `1`) and `+1` on the one with
    odd row charge `1` (bond charge `2`); without the dual label the signs are swapped -/
example : isometrySign exT [(0, 0), (1, 0)] = -1 ∧ isometrySign exT [(1, 0), (2, 0)] = 1
    ∧ isometrySign { exT with oddpos := [(3, false)] } [(0, 0), (1, 0)] = 1
    ∧ isometrySign { exT with oddpos := [(3, false)] } [(1, 0), (2, 0)] = -1 := by decide

/-- … which is what the model computes (value view = stored block times pending sign), through
    `@` and through `tensordot` in all three modes -/
example : ([exT, { exT with oddpos := [(3, false)] }].map (fun a =>
      (qrA Kernels.trivialFactor a).toOption.map (fun p =>
        ([p.1.daggerF.matmulF p.1, p.1.daggerF.tensordotF p.1 (.pair [1] [0]) .blockwise,
          p.1.daggerF.tensordotF p.1 (.pair [1] [0]) .fused,
          p.1.daggerF.tensordotF p.1 (.pair [1] [0]) .auto].map (fun r =>
            r.toOption.map (fun y =>
              ([y.elem [(1, 0), (1, 0)] [0, 0], y.elem [(1, 0), (1, 0)] [0, 1],
                y.elem [(2, 0), (2, 0)] [1, 1]], y.oddpos))))))
    == [some (List.replicate 4 (some ([-1, 0, 1], []))),
        some (List.replicate 4 (some ([1, 0, -1], [])))]) = true := by
  decide +kernel

/-- `vh · vh†` for `exO` (column index not dual): `-1` on the odd bond charge `1`, `+1` on `2` -/
example : ((svdA Kernels.trivialFactor exO).toOption.map (fun p =>
      [p.2.2.matmulF p.2.2.daggerF, p.2.2.tensordotF p.2.2.daggerF (.pair [1] [0]) .fused].map
        (fun r => r.toOption.map (fun y =>
          ([y.elem [(1, 0), (1, 0)] [0, 0], y.elem [(1, 0), (1, 0)] [1, 0],
            y.elem [(2, 0), (2, 0)] [1, 1]], y.oddpos))))
    == some (List.replicate 2 (some ([-1, 0, 1], [])))) = true := by
  decide +kernel

/-- truncation structure on `exO` with counts `[1, 2]`: both kept, bond table `{1 ↦ 1, 2 ↦ 2}` on
    both factors, opposite directions -/
example : ((svdA Kernels.trivialFactor exO).toOption.map (fun p =>
      let t := applyCounts p.1 p.2.1 p.2.2 [1, 2]
      ((t.1.indices.getD 1 default).cm, (t.2.2.indices.getD 0 default).cm,
       (t.1.indices.getD 1 default).dual, (t.2.2.indices.getD 0 default).dual,
       t.2.1.blocks.map (fun q => (q.1, q.2.shape))))
    == some ([((1, 0), 1), ((2, 0), 2)], [((1, 0), 1), ((2, 0), 2)], false, true,
        [((1, 0), [1]), ((2, 0), [2])])) = true := by
  decide +kernel

/-- `qr_isometry_fermionic` and `svd_isometry_fermionic` instantiate at `Int` (`CommRing Int`, the
    trivial conjugation) with the exact kernel `trivialFactor` on `exT` resp. `exO` -/
example :=
  qr_isometry_fermionic (R := Int) (RingHom.id Int) (fun _ => rfl) Kernels.trivialFactor
    trivialFactor_shapeOk exT (by decide) rfl rfl sortedLabels_ex exT_qiso

example :=
  svd_isometry_fermionic (R := Int) (RingHom.id Int) (fun _ => rfl) Kernels.trivialFactor
    trivialFactor_shapeOk exO (by decide) rfl rfl sortedLabels_ex exO_ortho

/-- `solve_solves_tensordotF_all_modes` instantiates on `exSa`, `exSb` (C11b) -/
example (x : Arr Int) (h : solveA Kernels.solveCopy exSa exSb = .ok x) (tm : TdotMode) :=
  solve_solves_tensordotF_all_modes (R := Int) Int.zero_mul Int.mul_zero Kernels.solveCopy
    solveCopy_shapeOk exSa exSb x (by decide +kernel) (by decide +kernel) rfl rfl rfl rfl
    (by decide) rfl (sortedLabels_of_short (by decide))
    (solveCopy_solvesOn _ _ fun s arr hm => exSa_eye s arr (by
      rw [phaseSync_blocks_nil _ rfl] at hm
      exact hm)) h tm

/-- the abelian `eigh` theorem instantiates on `exEa` (C11b), and the three modes compute `exEa` -/
example (tm : TdotMode) :=
  eigh_reconstructs_tensordot_all_modes (R := Int) Int.zero_mul Int.mul_zero rfl Kernels.eighDiag
    eighDiag_shapeOk exEa (by decide) rfl (by decide) (by decide) (by decide) rfl
    (fun p hp => by
      simp only [exEa, List.mem_cons, List.not_mem_nil, or_false] at hp
      rcases hp with rfl | rfl
      · exact eighDiag_block _ (isDiag_22 2 3)
      · exact eighDiag_block _ (isDiag_11 5)) tm

example : ((eighA Kernels.eighDiag exEa).toOption.map (fun p =>
      [TdotMode.blockwise, TdotMode.fused, TdotMode.auto].map (fun tm =>
        (tensordotA (multiplyDiagonal p.2 p.1 1) p.2.adjA (.pair [1] [0]) tm).toOption.map
          (fun y => y.blocks.map (fun q => (q.1, q.2.data.toList)))))
    == some (List.replicate 3 (some
        [([(0, 0), (0, 0)], [2, 0, 0, 3]), ([(1, 0), (1, 0)], [5])]))) = true := by
  decide +kernel

/-- the abelian `solve` theorem instantiates on the abelian copies of `exSa`, `exSb` -/
example (x : Arr Int)
    (h : solveA Kernels.solveCopy ({ exSa with fermi := false } : Arr Int)
      ({ exSb with fermi := false, phases := [], oddpos := [] } : Arr Int) = .ok x) (tm : TdotMode) :=
  solve_solves_tensordot_all_modes (R := Int) Int.zero_mul Int.mul_zero Kernels.solveCopy
    solveCopy_shapeOk ({ exSa with fermi := false } : Arr Int)
    ({ exSb with fermi := false, phases := [], oddpos := [] } : Arr Int) x
    (by decide +kernel) (by decide +kernel) rfl rfl rfl rfl
    (solveCopy_solvesOn _ _ exSa_eye) h tm

/-- the truncation theorems instantiate on `exO`, counts `[1, 2]` -/
example (u : Arr Int) (s : BVec Int) (vh : Arr Int)
    (h : svdA Kernels.trivialFactor exO = .ok (u, s, vh)) :=
  svd_truncated_structure Kernels.trivialFactor exO (by decide) rfl u s vh h [1, 2] rfl

/-- abelian: `Q†·Q` of `exUT` (C11f) in all three modes -/
example : ((qrA Kernels.trivialFactor exUT).toOption.map (fun p =>
      [TdotMode.blockwise, TdotMode.fused, TdotMode.auto].map (fun tm =>
        (tensordotA p.1.adjA p.1 (.pair [1] [0]) tm).toOption.map (fun y =>
          y.blocks.map (fun q => (q.1, q.2.data.toList)))))
    == some (List.replicate 3 (some
        [([(1, 0), (1, 0)], [1, 0, 0, 1]), ([(2, 0), (2, 0)], [1, 0, 0, 1])]))) = true := by
  decide +kernel

/-- the truncated isometry on `exO`, counts `[1, 2]`: `u'† @ u'` is `-1` (`1 × 1`) on bond charge
    `1` and `+1` (`2 × 2`) on bond charge `2`; `vh' @ vh'†` likewise `-1`, `+1` -/
example : ((svdA Kernels.trivialFactor exO).toOption.map (fun p =>
      let t := applyCounts p.1 p.2.1 p.2.2 [1, 2]
      [t.1.daggerF.matmulF t.1, t.1.daggerF.tensordotF t.1 (.pair [1] [0]) .fused,
       t.2.2.matmulF t.2.2.daggerF, t.2.2.tensordotF t.2.2.daggerF (.pair [1] [0]) .auto].map
        (fun r => r.toOption.map (fun y =>
          ([y.elem [(1, 0), (1, 0)] [0, 0], y.elem [(2, 0), (2, 0)] [0, 0],
            y.elem [(2, 0), (2, 0)] [0, 1], y.elem [(2, 0), (2, 0)] [1, 1]], y.oddpos))))
    == some (List.replicate 4 (some ([-1, 1, 0, 1], [])))) = true := by
  decide +kernel

/-- `eigh_reconstructs_fermionic_any_labels` on `exEdual` (C11c: one dual and one non-dual label):
    the hypotheses hold, the sign is `-1`, and `@` and the three `tensordot` modes all give `-a`
    in the value view (`a` has `2, 3` on the even and `-5` on the odd sector) -/
example :=
  eigh_reconstructs_fermionic_any_labels (R := Int) Int.zero_mul Int.mul_zero rfl Kernels.eighDiag
    eighDiag_shapeOk exEdual (by decide) rfl (by decide) (by decide) (by decide) rfl
    (by unfold SortedLabels OddposP.OddSorted OddposP.LabelsDistinct; decide)
    exEf_eighBlocks

example : eighLabelSign exEdual = -1 ∧ eighLabelSign exEf = 1 := by decide

example : ((eighA Kernels.eighDiag exEdual).toOption.map (fun p =>
      [(multiplyDiagonal p.2 p.1 1).matmulF p.2.daggerF,
       (multiplyDiagonal p.2 p.1 1).tensordotF p.2.daggerF (.pair [1] [0]) .blockwise,
       (multiplyDiagonal p.2 p.1 1).tensordotF p.2.daggerF (.pair [1] [0]) .fused,
       (multiplyDiagonal p.2 p.1 1).tensordotF p.2.daggerF (.pair [1] [0]) .auto].map
        (fun r => r.toOption.map (fun y =>
          ([y.elem [(0, 0), (0, 0)] [0, 0], y.elem [(0, 0), (0, 0)] [1, 1],
            y.elem [(0, 0), (0, 0)] [0, 1], y.elem [(1, 0), (1, 0)] [0, 0]], y.oddpos))))
    == some (List.replicate 4 (some ([-2, -3, 0, 5], [])))) = true := by
  decide +kernel

end SymmModel.C11
