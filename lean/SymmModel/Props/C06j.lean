/-
  C06 (tenth part) — FERMIONIC: free-leg groups fused on the RIGHT operand, and on BOTH operands,
  before the contraction (blockwise mode, weak guard `tdotAdmissibleCommonB`, pending phases and
  labels arbitrary, labels of the two operands pairwise distinct, commutative scalars — the
  hypotheses of C04 S5).

  Route: the one-sided theorem
  `tensordot_fuse_free_commute_fermionic` (leading free legs of the LEFT operand) is applied to the
  call with the operands exchanged, and C04 S5 (`tdotF_swap_weak`: exchanging the operands = value at
  the address with the two free parts exchanged times the Koszul sign of the rotation) carries the
  statement to the right operand and back.

  * `tensordot_fuse_free_commute_fermionic_right`: `bF = fuseF(b, [0 … k-1])` (the leading legs of
    `b` are free).  `fuseF(b)`, the exchanged call `c' = tensordotF(b, a)` (S5: labels, charge, kind
    of `c`, elements = Koszul sign × elements of `c` with the free parts exchanged — i.e. `c'` is the
    fermionic transpose of `c` that brings `b`'s free legs to the front), `fuseF(c', [0 … k-1])` and
    `cP = tensordotF(a, bF)` all succeed, and
      `cP[L ++ c0 :: restR] = koszul(exchange of (c0 :: restR) and L) · fuseF(c')[c2 :: restR ++ L]`
    whenever `c0` (table of `bF`) and `c2` (table of `fuseF(c')`) decode to the same `(S, O)`.
    All signs are included: the fuse signs of C05 (`signAdj`) on both sides, the Koszul / nesting /
    label-sort signs and pending phases of the three contractions.
  * `tensordot_fuse_free_commute_fermionic_two_sided`: `aF = fuseF(a, [0 … ka-1])`,
    `bF = fuseF(b, [0 … kb-1])`, `cPP = tensordotF(aF, bF)`.  Everything succeeds;
      (i)  `cPP[c0a :: restL ++ c0b :: restR] = fuseF(cP, [0 … ka-1])[c2a :: restL ++ c0b :: restR]`
           with `cP = tensordotF(a, bF)` (left group fused AFTER the contraction),
      (ii) `cP[Sa ++ restL ++ c0b :: restR] = koszul · fuseF(c', [0 … kb-1])[c2b :: restR ++ Sa ++ restL]`
           (right group fused AFTER the contraction, on the operand-exchanged result `c'`),
      (iii) the closed form: `cPP[…] =` fuse sign of the left group (`fuseSignT cP`) × Koszul sign of
           the exchange × fuse sign of the right group (`fuseSignT c'`) × Koszul sign of the exchange
           back × `c[Sa ++ restL ++ Sb ++ restR]` — the element of the PLAIN result
           `c = tensordotF(a, b)` at the decoded address.
  * `fuseF_leading_fields`: labels, symmetry, kind, charge, rank and index list of
    `fuseF(a, [0 … k-1])`; `fuseF_leading_admissible[_right]`: the pre-fused operand satisfies the
    weak guard again (contracted axes renumbered by `sh k`).

  Address hypotheses of the element statements: every one is a decidable "the address lies inside
  the tables" condition (of `cP` / `c'` via `blockShape?`, of the operands via `blockShapeD` as in
  S5) plus the lengths of the address parts.  They are jointly satisfiable: see the examples (all
  routes computed for `gA`, `jB`).

  * `tensordot_fuse_free_commute_fermionic_two_sided_any_mode`: the closed form (iii) with the
    plain contraction `cm = tensordotF(a, b)` in mode `m1` and the contraction of the two pre-fused
    operands in mode `m2` (each blockwise / fused / auto; padding transfer `TdotP.call_any`,
    `TdotP.pad_elem_big`); one more address hypothesis (inside the tables of the two fused operands).
    The decoders and the two fuse signs are still those of the BLOCKWISE intermediate results
    `cP`, `c'` (which exist).
  * `fuseSignT_leading_result`: the C05 fuse sign of the leading group `[0 … k-1]` of the left
    operand and of the contraction result (any mode) agree (the leading legs keep directions and
    charges); `tensordot_fuse_free_commute_fermionic_two_sided_signs`: the any-mode closed form
    with the two fuse signs those of the OPERANDS `a` (at `Sa`) and `b` (at `Sb`):
      `cPP[c0a :: restL ++ c0b :: restR] = fuseSign_a(Sa) · koszul(exchange) · fuseSign_b(Sb)
          · koszul(exchange back) · c[Sa ++ restL ++ Sb ++ restR]`.

  The four commute theorems are stated and proved in `Proofs/FuseCommuteJ1`–`J4` (namespace
  `SymmModel.C06`); this file holds the fields / admissibility of the pre-fused operand, the sign
  comparison and the examples.

  NOT proved here: (i)/(ii) with the intermediate calls `cP`, `c'` themselves in
  fused / auto mode;
  the post-fused side expressed with ONE call `fuseF(c, [[0 … ka-1], [nL … nL+kb-1]])` on the plain
  result (needs the fermionic fuse of a non-leading group = transposeF ∘ fuse of the leading group,
  C05/C07).
-/
import SymmModel.Props.C06e
import SymmModel.Props.C04g
import SymmModel.Proofs.FuseCommuteJ4

namespace SymmModel.C06
open SymmModel SymmModel.TdotP SymmModel.GradedP SymmModel.RoutesP SymmModel.AssocP
open SymmModel.Assoc3P SymmModel.Assoc4P
open SymmModel.Lazy (sgnI)

variable {R : Type}

theorem fuseF_leading_fields [AddCommMonoid R] [Mul R] [Neg R] [SignRing R] (a : Arr R) {k : Nat}
    (hv : a.validB = true) (hf : a.fermi = true) (h1 : 1 ≤ k) (h2 : k ≤ a.ndim) :
    (FuseP.fusedArrM (FuseP.signAdj a [List.range k]) [List.range k]).oddpos = a.oddpos
    ∧ (FuseP.fusedArrM (FuseP.signAdj a [List.range k]) [List.range k]).sym = a.sym
    ∧ (FuseP.fusedArrM (FuseP.signAdj a [List.range k]) [List.range k]).fermi = true
    ∧ (FuseP.fusedArrM (FuseP.signAdj a [List.range k]) [List.range k]).charge = a.charge
    ∧ (FuseP.fusedArrM (FuseP.signAdj a [List.range k]) [List.range k]).ndim = 1 + (a.ndim - k)
    ∧ (FuseP.fusedArrM (FuseP.signAdj a [List.range k]) [List.range k]).indices
        = FuseP.ixM (FuseP.signAdj a [List.range k]) [List.range k] 0 :: a.indices.drop k :=
  fuse_lead_fields a hv hf h1 h2

/-- **fuseF_leading_admissible**: the pre-fused LEFT operand passes the weak guard again. -/
theorem fuseF_leading_admissible [AddCommMonoid R] [Mul R] [Neg R] [SignRing R] (a b : Arr R)
    (xa xb : List Nat) (k : Nat)
    (ha : a.validB = true) (hb : b.validB = true) (hfa : a.fermi = true) (hfb : b.fermi = true)
    (hadm : tdotAdmissibleCommonB a b xa xb = true)
    (hk1 : 1 ≤ k) (hk : k ≤ a.ndim) (hxa : ∀ x ∈ xa, k ≤ x) :
    tdotAdmissibleCommonB (FuseP.fusedArrM (FuseP.signAdj a [List.range k]) [List.range k]) b
      (xa.map (sh k)) xb = true :=
  admB_of_admW (admW_fuse_lead (AdmW.of ha hb hfa hfb hadm) k false hk1 hk hxa)

/-- **fuseF_leading_admissible_right**: the pre-fused RIGHT operand passes the weak guard again. -/
theorem fuseF_leading_admissible_right [AddCommMonoid R] [Mul R] [Neg R] [SignRing R] (a b : Arr R)
    (xa xb : List Nat) (k : Nat)
    (ha : a.validB = true) (hb : b.validB = true) (hfa : a.fermi = true) (hfb : b.fermi = true)
    (hadm : tdotAdmissibleCommonB a b xa xb = true)
    (hk1 : 1 ≤ k) (hk : k ≤ b.ndim) (hxb : ∀ x ∈ xb, k ≤ x) :
    tdotAdmissibleCommonB a (FuseP.fusedArrM (FuseP.signAdj b [List.range k]) [List.range k])
      xa (xb.map (sh k)) = true :=
  admB_of_admW (admW_fuse_lead_right (AdmW.of ha hb hfa hfb hadm) k false hk1 hk hxb)

/-- **fuseSignT_leading_result**: operand and contraction result (any mode) carry the same fuse
    sign on the leading free legs of the left operand. -/
theorem fuseSignT_leading_result [AddCommMonoid R] [Mul R] [Neg R] [SignRing R]
    (hz1 : ∀ x : R, 0 * x = 0) (hz2 : ∀ x : R, x * 0 = 0) (a b c : Arr R) (xa xb : List Nat)
    (mode : TdotMode) (k : Nat)
    (ha : a.validB = true) (hb : b.validB = true) (hfa : a.fermi = true) (hfb : b.fermi = true)
    (hadm : tdotAdmissibleCommonB a b xa xb = true)
    (hk1 : 1 ≤ k) (hk : k ≤ a.ndim) (hxa : ∀ x ∈ xa, k ≤ x)
    (hc : a.tensordotF b (.pair (xa.map Int.ofNat) (xb.map Int.ofNat)) mode = .ok c)
    (T T' : Sector) (hT : T.take k = T'.take k) :
    FuseP.fuseSignT a [List.range k] T = FuseP.fuseSignT c [List.range k] T' :=
  (fuseSignT_lead_result hz1 hz2 (AdmW.of ha hb hfa hfb hadm) mode c k hk1 hk hxa hc).2 hT

open SymmModel.C03 in
/-- `b[i',k',l']`: the legs of `C03.gA` with the opposite directions; odd charge; label 7 (dual);
    pending sign on `(0,1,0)` -/
def jB : Arr Int :=
  { sym := .Z2, fermi := true, indices := [ixi true, ixk false, ixk true], charge := (1, 0),
    blocks := [([(1,0),(0,0),(0,0)], mkB [1,1,1] 3), ([(0,0),(1,0),(0,0)], mkB [2,2,1] (-1)),
               ([(0,0),(0,0),(1,0)], mkB [2,1,2] 2), ([(1,0),(1,0),(1,0)], mkB [1,2,2] (-5))],
    phases := [([(0,0),(1,0),(0,0)], -1)], oddpos := [(7, true)] }

-- the operand hypotheses of both theorems: `gA[i,k,l]` with `jB[i',k',l']` over `l, l'`; the two
-- leading legs of each operand are free
example : C03.gA.validB = true ∧ jB.validB = true ∧ C03.gA.fermi = true ∧ jB.fermi = true
    ∧ tdotAdmissibleCommonB C03.gA jB [2] [2] = true
    ∧ (2 : Nat) ≤ C03.gA.ndim ∧ (2 : Nat) ≤ jB.ndim ∧ (∀ x ∈ ([2] : List Nat), 2 ≤ x)
    ∧ ([2] : List Nat).map (sh 2) = [1]
    ∧ (C03.gA.tensordotF jB (.pair [2] [2]) .blockwise).toBool = true := by decide +kernel

example : (C03.gA.oddpos ++ jB.oddpos).Pairwise (fun x y => x.1 ≠ y.1) := by
  simp [C03.gA, jB]

example : ∀ x y : Int, x * y = y * x := Int.mul_comm

-- sanity: pre-fusing both operands gives exactly the stored values (pending phases applied) and
-- labels of fusing both groups of the plain result afterwards — in one `fuseF` call and in two
example :
    (match C03.gA.fuseF [[0, 1]] .insert false, jB.fuseF [[0, 1]] .insert false,
        C03.gA.tensordotF jB (.pair [2] [2]) .blockwise with
     | .ok af, .ok bf, .ok c =>
        match af.tensordotF bf (.pair [1] [1]) .blockwise, c.fuseF [[0, 1], [2, 3]] .insert false,
            c.fuseF [[0, 1]] .insert false with
        | .ok cpp, .ok cq, .ok d =>
          (match d.fuseF [[1, 2]] .insert false with
           | .ok cq2 =>
              cpp.phaseSync.blocks.all (fun p =>
                (alookup cq.phaseSync.blocks p.1).map (·.data) == some p.2.data
                && (alookup cq2.phaseSync.blocks p.1).map (·.data) == some p.2.data)
              && cpp.blocks.length == cq.blocks.length && cpp.blocks.length == cq2.blocks.length
              && cpp.blocks.length == 2 && cpp.oddpos == cq.oddpos && cpp.oddpos == cq2.oddpos
           | _ => false)
        | _, _, _ => false
     | _, _, _ => false) = true := by decide +kernel

-- sanity for the right operand alone: `tensordotF(a, fuseF(b))` = `fuseF(c, [[2, 3]])`
example :
    (match jB.fuseF [[0, 1]] .insert false, C03.gA.tensordotF jB (.pair [2] [2]) .blockwise with
     | .ok bf, .ok c =>
        match C03.gA.tensordotF bf (.pair [2] [1]) .blockwise, c.fuseF [[2, 3]] .insert false with
        | .ok cp, .ok cq =>
          cp.phaseSync.blocks.all (fun p => (alookup cq.phaseSync.blocks p.1).map (·.data) == some p.2.data)
          && cp.blocks.length == cq.blocks.length && cp.blocks.length != 0 && cp.oddpos == cq.oddpos
        | _, _ => false
     | _, _ => false) = true := by decide +kernel

-- the ADDRESS hypotheses of `tensordot_fuse_free_commute_fermionic_two_sided` (and of `…_right`) are
-- jointly satisfiable: `ka = kb = 2`, `restL = restR = []`, fused positions `((1,0), 1)` on the left
-- (decoding to `Sa = [(0,0),(1,0)]`, `Oa = [0,1]`) and `((1,0), 4)` on the right (`Sb = [(1,0),(0,0)]`,
-- `Ob = [0,0]`); the element of `cPP` there is not zero
open SymmModel.C03 in
example :
    (let A2 := FuseP.signAdj gA [List.range 2]
     let B2 := FuseP.signAdj jB [List.range 2]
     let aF := FuseP.fusedArrM A2 [List.range 2]
     let bF := FuseP.fusedArrM B2 [List.range 2]
     let Sa : Sector := [(0,0),(1,0)]
     let Sb : Sector := [(1,0),(0,0)]
     match jB.tensordotF gA (.pair [2] [2]) .blockwise, gA.tensordotF bF (.pair [2] [1]) .blockwise,
        aF.tensordotF bF (.pair [1] [1]) .blockwise with
     | .ok c', .ok cP, .ok cPP =>
        decide (decAx A2 [List.range 2] 0 (1,0) 1 = some (Sa, [0,1]))
        && decide ((FuseP.ixM A2 [List.range 2] 0).sizeOf? (1,0) = some 5)
        && decide (decAx (FuseP.signAdj cP [List.range 2]) [List.range 2] 0 (1,0) 1 = some (Sa, [0,1]))
        && decide ((FuseP.ixM (FuseP.signAdj cP [List.range 2]) [List.range 2] 0).sizeOf? (1,0) = some 5)
        && decide (decAx B2 [List.range 2] 0 (1,0) 4 = some (Sb, [0,0]))
        && decide ((FuseP.ixM B2 [List.range 2] 0).sizeOf? (1,0) = some 5)
        && decide (decAx (FuseP.signAdj c' [List.range 2]) [List.range 2] 0 (1,0) 4 = some (Sb, [0,0]))
        && decide ((FuseP.ixM (FuseP.signAdj c' [List.range 2]) [List.range 2] 0).sizeOf? (1,0) = some 5)
        && decide (Arr.blockShape? (cP.indices.drop 2) ([] ++ [(1,0)]) = some [5])
        && inBox [5] ([] ++ [4])
        && decide (Arr.blockShape? (c'.indices.drop 2) ([] ++ (Sa ++ [])) = some [2,2])
        && inBox [2,2] ([] ++ ([0,1] ++ []))
        && decide ((Sa ++ []).length = (freeAxes gA.ndim [2]).length)
        && decide (([] : Sector).length + 1 = (freeAxes (1 + (jB.ndim - 2)) (([2] : List Nat).map (sh 2))).length)
        && decide ((Sb ++ []).length = (freeAxes jB.ndim [2]).length)
        && inBox (Arr.blockShapeD (without bF.indices (([2] : List Nat).map (sh 2)) ++ without gA.indices [2])
              (((1,0) :: []) ++ (Sa ++ []))) ((4 :: []) ++ ([0,1] ++ []))
        && inBox (Arr.blockShapeD (without gA.indices [2] ++ without jB.indices [2])
              ((Sa ++ []) ++ (Sb ++ []))) (([0,1] ++ []) ++ ([0,0] ++ []))
        && cPP.elem [(1,0),(1,0)] [1,4] != 0
     | _, _, _ => false) = true := by decide +kernel

-- the additional address hypothesis of the any-mode theorem at the same address
open SymmModel.C03 in
example :
    inBox (Arr.blockShapeD
        (without (FuseP.fusedArrM (FuseP.signAdj gA [List.range 2]) [List.range 2]).indices
            (([2] : List Nat).map (sh 2))
          ++ without (FuseP.fusedArrM (FuseP.signAdj jB [List.range 2]) [List.range 2]).indices
            (([2] : List Nat).map (sh 2))) ((1,0) :: ([] ++ (1,0) :: [])))
      (1 :: ([] ++ 4 :: [])) = true := by decide +kernel

-- sanity, fused / auto mode: up to all-zero blocks both routes store the same values
example :
    (match C03.gA.fuseF [[0, 1]] .insert false, jB.fuseF [[0, 1]] .insert false,
        C03.gA.tensordotF jB (.pair [2] [2]) .fused with
     | .ok af, .ok bf, .ok c =>
        match af.tensordotF bf (.pair [1] [1]) .auto, c.fuseF [[0, 1], [2, 3]] .insert false with
        | .ok cf, .ok cq =>
          cq.phaseSync.blocks.all (fun p => p.2.data.all (· == 0)
            || (alookup cf.phaseSync.blocks p.1).map (·.data) == some p.2.data)
          && cf.phaseSync.blocks.all (fun p => p.2.data.all (· == 0)
            || (alookup cq.phaseSync.blocks p.1).map (·.data) == some p.2.data)
          && cf.blocks.length != 0
        | _, _ => false
     | _, _, _ => false) = true := by decide +kernel

end SymmModel.C06
