/-
  Property C05, part i — conjugating a fused fermionic array.

  * `conj_fuse_relation`: for a valid fermionic array `a` with plain indices and any admissible groups,
    `fuseF a groups`, then `conjF`, then `unfuse_all` succeeds; the result is valid, fermionic, has
    the indices / symmetry / charge / labels of `conjF (transposeF a perm)`, and on every box its
    value is the value of `conjF (transposeF a perm)` times the sector sign
        flipSign (mmAxes a groups) K  =  (−1)^#{ax ∈ mmAxes a groups : K[ax] odd}.
    `mmAxes a groups` (`FuseP.mmRec`) lists, for every multi-axis group, the legs whose direction
    differs from the direction of the fused index (= of the group's first leg, `mismatchLegs`), at
    their positions in the unfused array.
    Mechanism (`Proofs/Fuse9*.lean`): one `unfuseF` step against `conjF` on the value view
    (`conj_unfuse_step`: the step signs of an index and of its conjugate multiply to flip · reversal,
    `conj_step_sign`; the full-reversal signs of `conjF` before and after the step multiply to the
    same reversal, `koszul_collapse`; what remains is the flip over the mismatched legs); the
    relation "`z` is `conjF w` up to the flip over a list of axes" goes through a step on both arrays
    (`CRel.step`) and through the whole right-to-left run (`CRel.run`); `conjF` respects equality
    of value views (`conjF_veq`); `unfuse_all` on the conjugate is that run; `unfuseGroupsF_fuseF_veq`.
  * `conj_fuse_same_direction`: if the legs of every group share one direction, no axis contributes:
    `unfuseAllF (conjF (fuseF a groups))` and `conjF (transposeF a perm)` have equal value views —
    fusing before conjugating is then safe.
  * examples: `mmAxes` on the rank-3 / rank-4 examples, and the sign against stored numbers.

  Not proved: the analogous statement for `daggerF`.
-/
import SymmModel.Proofs.Fuse9Cor
import SymmModel.Props.C05All6

namespace SymmModel.C05
open SymmModel FuseP SymmModel.Lazy

variable {R : Type} [Zero R] [Neg R] [Conj R] [LawfulNegConj R]

/-- **conj of a fused fermionic array, unfused again** -/
theorem conj_fuse_relation (a : Arr R) (groups : List (List Nat)) (e : Bool) (hv : a.validB = true)
    (hf : a.fermi = true) (hg : groupsOkB groups a.ndim = true) (hplain : ∀ ix ∈ a.indices, ix.sub = none) :
    let T := a.transposeF (calcFuseGroupInfo groups a.duals).perm
    ∃ y z, Arr.fuseF a groups .insert e = .ok y ∧ Arr.unfuseAllF y.conjF = .ok z
      ∧ z.validB = true ∧ z.fermi = true
      ∧ z.indices = T.conjF.indices ∧ z.sym = T.conjF.sym ∧ z.charge = T.conjF.charge ∧ z.oddpos = T.conjF.oddpos
      ∧ ∀ K shp, Arr.blockShape? z.indices K = some shp → ∀ J, inBox shp J = true →
          z.elem K J = sgnI (Lazy.flipSign a.sym (mmAxes a groups) K) (T.conjF.elem K J) := by
  intro T
  have hok := groupsOk_iff.1 hg
  have hok4 := signAdj_groupsOk (a := a) hok
  obtain ⟨hn, hax⟩ := fuseF_fused_axes a groups hok hplain
  -- last group first, as value views
  obtain ⟨y, w, hy, hw, hwv, hwT⟩ := C05.unfuseGroupsF_fuseF_veq a groups e hv hf hg
  obtain ⟨hy0, hyV, hyf⟩ := fuseF_fusedArrM (a := a) e hv hf hok
  rw [hy0] at hy
  simp only [Except.ok.injEq] at hy
  subst hy
  set y := fusedArrM (signAdj a groups) (newGroupsF groups a.duals) with hydef
  have hfa := fusedArrM_fusedAtL hok4
  rw [signAdj_position hok, multiPL_newGroupsF] at hfa
  have hfused : ∀ g', g' < groups.length → multiB groups g' = true →
      ∃ ix subs exts, y.indices[(calcFuseGroupInfo groups a.duals).position + g']? = some ix
        ∧ ix.sub = some (subs, exts) ∧ 0 < subs.length := by
    intro g' hg' hm
    obtain ⟨hL, ix, subs, exts, h1, h2, h3⟩ := hfa ((calcFuseGroupInfo groups a.duals).position + g',
        (groups.getD g' []).length)
      (List.mem_map.2 ⟨g', List.mem_filter.2 ⟨List.mem_range.2 hg', hm⟩, rfl⟩)
    exact ⟨ix, subs, exts, by simpa using h1, h2, by rw [h3]; exact hL⟩
  -- the relation through the run
  obtain ⟨w', z, hw', hz, hrel⟩ := CRel.run y.indices groups (calcFuseGroupInfo groups a.duals).position
    groups.length y y.conjF [] (CRel.base y hyV hyf) (by simp) (fun _ _ => rfl) hfused
  rw [runR_eq] at hw' hz
  have hw'' : C05.unfuseGroupsF groups (calcFuseGroupInfo groups a.duals).position y = .ok w' := hw'
  rw [hw] at hw''
  simp only [Except.ok.injEq] at hw''
  subst hw''
  have hycv : y.conjF.validB = true := C01.conjF_valid y true false hyV hyf
  have hycf : y.conjF.fermi = true := by rw [(conjF_frame y true false).2.1]; exact hyf
  have hall : Arr.unfuseAllF y.conjF
      = C05.unfuseGroupsF groups (calcFuseGroupInfo groups a.duals).position y.conjF := by
    apply unfuseAllF_eq_groups groups _ _ hycv hycf
    · show _ ≤ y.conjF.indices.length
      rw [(conjF_frame y true false).2.2.1, List.length_map]
      exact hn
    · intro ax ix hix
      rw [(conjF_frame y true false).2.2.1, List.getElem?_map] at hix
      cases hq : y.indices[ax]? with
      | none => rw [hq] at hix; cases hix
      | some ix0 =>
        rw [hq] at hix
        simp only [Option.map_some, Option.some.injEq] at hix
        subst hix
        rw [conj_sub_isSome]
        exact hax ax ix0 hq
  have hT := conjF_veq hwT hwv (by
      have hisp := giM_isPerm (a := a) hok
      exact (ValidP.validB_iff _).2 (ValidP.transposeF_valid a _ true ((ValidP.validB_iff a).1 hv) hf hisp))
    hrel.wf
  refine ⟨y, z, hy0, by rw [hall]; exact hz, hrel.zv, hrel.zf, by rw [hrel.idx, hT.indices],
    by rw [hrel.sym, hT.sym], by rw [hrel.charge, hT.charge], by rw [hrel.oddpos, hT.oddpos], ?_⟩
  intro K shp hK J hJ
  rw [hrel.elem K shp hK J hJ, hT.elem]
  have hws : w.sym = a.sym := hwT.sym
  rw [hws]
  rfl

theorem conj_fuse_sign (sym : Sym) (axes : List Nat) (K : Sector) :
    Lazy.flipSign sym axes K
      = if (axes.filter (fun ax => sym.parity (K.getD ax (0, 0)))).length % 2 = 1 then -1 else 1 := by
  simp only [flipSign, flipOdd, List.getD_eq_getElem?_getD, beq_iff_eq, Int.reduceNeg]

/-- **all legs of each group share one direction ⇒ fusing before conjugating is safe** -/
theorem conj_fuse_same_direction (a : Arr R) (groups : List (List Nat)) (e : Bool) (hv : a.validB = true)
    (hf : a.fermi = true) (hg : groupsOkB groups a.ndim = true) (hplain : ∀ ix ∈ a.indices, ix.sub = none)
    (hdir : ∀ g ∈ groups, ∀ ax ∈ g, a.duals.getD ax false = a.duals.getD (g.headD 0) false) :
    ∃ y z, Arr.fuseF a groups .insert e = .ok y ∧ Arr.unfuseAllF y.conjF = .ok z ∧ z.validB = true
      ∧ VEq z (a.transposeF (calcFuseGroupInfo groups a.duals).perm).conjF := by
  obtain ⟨y, z, h1, h2, hzv, hzf, hi, hs, hc, ho, hel⟩ := conj_fuse_relation a groups e hv hf hg hplain
  have hok := groupsOk_iff.1 hg
  have hisp := giM_isPerm (a := a) hok
  have hTv : (a.transposeF (calcFuseGroupInfo groups a.duals).perm).validB = true :=
    (ValidP.validB_iff _).2 (ValidP.transposeF_valid a _ true ((ValidP.validB_iff a).1 hv) hf hisp)
  have hTcv := C01.conjF_valid (a.transposeF (calcFuseGroupInfo groups a.duals).perm) true false hTv hf
  refine ⟨y, z, h1, h2, hzv, ⟨hs, ?_, hi, hc, ho, ?_⟩⟩
  · rw [hzf, (conjF_frame _ true false).2.1]; exact hf.symm
  · apply elem_ext_of_inBox (validArr_of_validB hzv) (validArr_of_validB hTcv) hi
    intro K shp hK J hJ
    rw [hel K shp hK J hJ, mmAxes_nil a groups hok hdir, flipSign_nil, sgnI_one]

/-- the mismatched legs of the examples: `exF'` has directions (+,−,+), `exG` (+,+,+,+) -/
example : mmAxes exF' [[0], [1, 2]] = [2] ∧ mmAxes exF' [[0, 1], [2]] = [1] ∧ mmAxes exF' [[0, 1, 2]] = [1]
    ∧ mmAxes exF' [[1, 2], [0]] = [1] ∧ mmAxes exG [[0, 1], [2, 3]] = [] ∧ mmAxes exG [[3, 2], [1, 0]] = [] := by
  decide +kernel

/-- the sector sign of the theorem is the sign observed on the stored numbers (part g) -/
example : ∀ sb ∈ exF'.blocks,
    Lazy.flipSign exF'.sym (mmAxes exF' [[0], [1, 2]]) sb.1
      = (if mismatchOdd exF' [[0], [1, 2]] sb.1 % 2 = 1 then -1 else 1)
    ∧ conjFuseObs exF' [[0], [1, 2]] = true := by
  decide +kernel

end SymmModel.C05
