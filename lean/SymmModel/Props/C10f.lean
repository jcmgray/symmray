/-
  Property C10, network clause — the six bracketings B1, B2, S1–S4 of the norm network
  `{a, b, ā, b̄}` with EVERY contraction call in its own mode: `blockwise`, `fused` or `auto` (norms in
  practice run in the default `auto` → `fused` mode).

  `a`, `b` as in C10e: valid fermionic, bonded along `xa`/`xb` (`tdotAdmissibleB`), sorted distinct
  ket labels (the hypothesis `netLabelsB` of the statement is implied by the distinct labels,
  `LabelAlg.netLabelsB_of_distinct`, Proofs/NormNet10, and the proofs take it from there without using the
  hypothesis; `network_norm_bracketings_any_mode_oneKet` is stated without it).  `K` is the BLOCKWISE contraction `a·b` (the
  reference for `normSq`); `Km = a·b` in mode `mK`, `Kbm = ā·b̄` in mode `mKb`; the remaining ten
  calls run in the modes `md 0 … md 9`.  Scalars: `AddCommMonoid`, `NetLaws`, `AssocLaws`.

  `network_norm_bracketings_any_mode` (the full statement for these six bracketings in any modes):
    B1  (Kbm·Km)            = normSq K      B2  (Km·Kbm)            = normSq' K
    S1  ((Kbm·a)·b)         = normSq K      S2  ā·(b̄·Km)           = normSq K
    S3  ((Km·ā)·b̄)         = normSq' K     S4  a·(b·Kbm)           = normSq' K
  every call succeeds; every final result has rank 0, no labels, no stray sign.
  Proof: a call in any mode on zero-padded, differently pruned copies (`TdotP.Pad`) of the operands of a
  blockwise call is a padded copy of its result (`Net4P.pad_call`: one application per call), and a rank-0
  padded copy has the same scalar (`pad_elem_nil`).  The weak guards of the calls on padded operands come
  from the frames alone: `half_any_mode_guard` (a half of any mode against the single tensors) and
  `second_call_guard` (the second call of a triangle from the frame `InterW` of an intermediate of any
  mode — `TdotP.admW_left_tri_w/right_tri_w`) state them.

  NOT COVERED HERE, and where it is:
  * mixed operand orders of the halves (`(b̄·ā)·(a·b)`, `((ā·b̄)·b)·a`): C10g (blockwise), C10h (any mode);
  * bracketings that first contract a ket with a bra tensor: C10i–C10k; three-tensor chains: C10h.
-/
import SymmModel.Proofs.NormNet20
import SymmModel.Props.C10e
import SymmModel.Props.C06e

namespace SymmModel.C10
open SymmModel Lazy Norm NormNet TdotP

/-- a half `X` of any mode (valid; index tables `SizeLe`-prunings of the conjugated frame of `p·q`)
    satisfies the weak guard against `p` and against `q`, in both operand orders -/
theorem half_any_mode_guard {R : Type} (X p q : Arr R) (xp xq : List Nat)
    (hX : List.Forall₂ SizeLe X.indices ((without p.indices xp ++ without q.indices xq).map Index.conj))
    (hv : X.validB = true) (hp : p.validB = true) (hq : q.validB = true) :
    (AssocP.contractibleCommonB X p (List.range (freeAxes p.ndim xp).length) (freeAxes p.ndim xp) = true
      ∧ AssocP.contractibleCommonB p X (freeAxes p.ndim xp) (List.range (freeAxes p.ndim xp).length)
          = true)
    ∧ (AssocP.contractibleCommonB X q
          ((List.range (freeAxes q.ndim xq).length).map ((freeAxes p.ndim xp).length + ·))
          (freeAxes q.ndim xq) = true
      ∧ AssocP.contractibleCommonB q X (freeAxes q.ndim xq)
          ((List.range (freeAxes q.ndim xq).length).map ((freeAxes p.ndim xp).length + ·)) = true) :=
  ⟨commonS_Xp X p q xp xq hX (keys_nodup_of_validB hv) hp,
   commonS_Xq X p q xp xq hX (keys_nodup_of_validB hv) hq⟩

/-- the second calls of a triangle `A–B–C` under weak guards, from the frame (`InterW`) of an
    intermediate result of ANY mode -/
theorem second_call_guard {R : Type} [AddMonoid R] [Mul R] [Neg R] [GradedP.SignRing R]
    {A B C AB BC : Arr R} {xa1 xa3 xb1 xb2 xc2 xc3 : List Nat}
    (T : Assoc3P.TriW A B C xa1 xa3 xb1 xb2 xc2 xc3) :
    (InterW A B xa1 xb1 AB →
      AssocP.AdmW AB C (Assoc2P.axesAB A.ndim B.ndim xa1 xa3 xb1 xb2) (xc3 ++ xc2))
    ∧ (InterW B C xb2 xc2 BC →
      AssocP.AdmW A BC (xa1 ++ xa3) (Assoc2P.axesBC B.ndim C.ndim xb1 xb2 xc2 xc3)) :=
  ⟨fun I => admW_left_tri_w I T, fun I => admW_right_tri_w I T⟩

theorem pad_elem_nil {R : Type} [Zero R] [Neg R] {P Q : Arr R} (hp : Pad P Q) (hn : P.ndim = 0) :
    P.elem [] [] = Q.elem [] [] := Net4P.pad_elem_nil hp hn

section main
variable {R : Type} [AddCommMonoid R] [Mul R] [Neg R] [Conj R] [NetLaws R] [AssocP.AssocLaws R]

/-- **network_norm_bracketings_any_mode.**  All twelve calls of the six bracketings, each in its
    own mode, succeed; the six results are rank-0 arrays without labels with value `normSq K`
    (bra side left) resp. `normSq' K` (bra side right), `K` the blockwise `a·b`. -/
theorem network_norm_bracketings_any_mode (a b : Arr R) (xa xb : List Nat)
    (ha : a.validB = true) (hb : b.validB = true) (hfa : a.fermi = true) (hfb : b.fermi = true)
    (hadm : ValidP.tdotAdmissibleB a b xa xb = true)
    (hoA : KetLabels a.oddpos) (hoB : KetLabels b.oddpos)
    (hd : (a.oddpos ++ b.oddpos).Pairwise (fun x y => x.1 ≠ y.1))
    (hlab : netLabelsB a.parity b.parity a.oddpos b.oddpos = true)
    (mK mKb : TdotMode) (md : Nat → TdotMode) :
    ∃ K Km Kbm, a.tensordotF b (.pair (xa.map Int.ofNat) (xb.map Int.ofNat)) .blockwise = .ok K
      ∧ a.tensordotF b (.pair (xa.map Int.ofNat) (xb.map Int.ofNat)) mK = .ok Km
      ∧ (NormNet.braOf a xa).tensordotF (NormNet.braOf b xb)
          (.pair (xa.map Int.ofNat) (xb.map Int.ofNat)) mKb = .ok Kbm
      -- B1, B2
      ∧ (∃ r, Kbm.tensordotF Km (allAxes K.ndim) (md 0) = .ok r
          ∧ r.ndim = 0 ∧ r.oddpos = [] ∧ r.elem [] [] = normSq K)
      ∧ (∃ r, Km.tensordotF Kbm (allAxes K.ndim) (md 1) = .ok r
          ∧ r.ndim = 0 ∧ r.oddpos = [] ∧ r.elem [] [] = normSq' K)
      -- S1
      ∧ (∃ T c, Kbm.tensordotF a (.pair ((List.range (freeAxes a.ndim xa).length).map Int.ofNat)
            ((freeAxes a.ndim xa).map Int.ofNat)) (md 2) = .ok T
        ∧ T.tensordotF b (.pair ((axesTW a.ndim b.ndim xa xb).map Int.ofNat)
            ((freeAxes b.ndim xb ++ xb).map Int.ofNat)) (md 3) = .ok c
        ∧ c.ndim = 0 ∧ c.oddpos = [] ∧ c.elem [] [] = normSq K)
      -- S2
      ∧ (∃ T c, (NormNet.braOf b xb).tensordotF Km (.pair ((freeAxes b.ndim xb).map Int.ofNat)
            (((List.range (freeAxes b.ndim xb).length).map ((freeAxes a.ndim xa).length + ·)).map
              Int.ofNat)) (md 4) = .ok T
        ∧ (NormNet.braOf a xa).tensordotF T (.pair ((xa ++ freeAxes a.ndim xa).map Int.ofNat)
            ((axesTWr a.ndim b.ndim xa xb).map Int.ofNat)) (md 5) = .ok c
        ∧ c.ndim = 0 ∧ c.oddpos = [] ∧ c.elem [] [] = normSq K)
      -- S3
      ∧ (∃ T c, Km.tensordotF (NormNet.braOf a xa)
            (.pair ((List.range (freeAxes a.ndim xa).length).map Int.ofNat)
            ((freeAxes a.ndim xa).map Int.ofNat)) (md 6) = .ok T
        ∧ T.tensordotF (NormNet.braOf b xb) (.pair ((axesTW a.ndim b.ndim xa xb).map Int.ofNat)
            ((freeAxes b.ndim xb ++ xb).map Int.ofNat)) (md 7) = .ok c
        ∧ c.ndim = 0 ∧ c.oddpos = [] ∧ c.elem [] [] = normSq' K)
      -- S4
      ∧ (∃ T c, b.tensordotF Kbm (.pair ((freeAxes b.ndim xb).map Int.ofNat)
            (((List.range (freeAxes b.ndim xb).length).map ((freeAxes a.ndim xa).length + ·)).map
              Int.ofNat)) (md 8) = .ok T
        ∧ a.tensordotF T (.pair ((xa ++ freeAxes a.ndim xa).map Int.ofNat)
            ((axesTWr a.ndim b.ndim xa xb).map Int.ofNat)) (md 9) = .ok c
        ∧ c.ndim = 0 ∧ c.oddpos = [] ∧ c.elem [] [] = normSq' K) :=
  network_norm_bracketings6M a b xa xb ha hb hfa hfb hadm hoA hoB hd mK mKb md

/-- at most one ket label per tensor (the case of harness/props/c10.py): no label hypothesis;
    `Bracketings6M` abbreviates the conclusion of `network_norm_bracketings_any_mode` -/
theorem network_norm_bracketings_any_mode_oneKet (a b : Arr R) (xa xb : List Nat)
    (ha : a.validB = true) (hb : b.validB = true) (hfa : a.fermi = true) (hfb : b.fermi = true)
    (hadm : ValidP.tdotAdmissibleB a b xa xb = true)
    (hoA : OneKet a.oddpos) (hoB : OneKet b.oddpos)
    (hd : (a.oddpos ++ b.oddpos).Pairwise (fun x y => x.1 ≠ y.1))
    (mK mKb : TdotMode) (md : Nat → TdotMode) : Bracketings6M a b xa xb mK mKb md :=
  network_norm_bracketings6M a b xa xb ha hb hfa hfb hadm hoA.ketLabels hoB.ketLabels hd
    mK mKb md

/-- the default mode everywhere: all twelve calls in `mode = auto` -/
theorem network_norm_bracketings_auto (a b : Arr R) (xa xb : List Nat)
    (ha : a.validB = true) (hb : b.validB = true) (hfa : a.fermi = true) (hfb : b.fermi = true)
    (hadm : ValidP.tdotAdmissibleB a b xa xb = true)
    (hoA : OneKet a.oddpos) (hoB : OneKet b.oddpos)
    (hd : (a.oddpos ++ b.oddpos).Pairwise (fun x y => x.1 ≠ y.1)) :
    Bracketings6M a b xa xb .auto .auto (fun _ => .auto) :=
  network_norm_bracketings_any_mode_oneKet a b xa xb ha hb hfa hfb hadm hoA hoB hd _ _ _

/-- B1, B2 alone need no label check and no `AssocLaws` beyond `0·x = x·0 = 0` -/
theorem network_norm_halves_any_mode {R : Type} [AddCommMonoid R] [Mul R] [Neg R] [Conj R]
    [NetLaws R] (hz1 : ∀ x : R, 0 * x = 0) (hz2 : ∀ x : R, x * 0 = 0)
    (a b : Arr R) (xa xb : List Nat)
    (ha : a.validB = true) (hb : b.validB = true) (hfa : a.fermi = true) (hfb : b.fermi = true)
    (hadm : ValidP.tdotAdmissibleB a b xa xb = true)
    (hoA : KetLabels a.oddpos) (hoB : KetLabels b.oddpos)
    (hd : (a.oddpos ++ b.oddpos).Pairwise (fun x y => x.1 ≠ y.1)) (m1 m2 m3 m4 : TdotMode) :
    ∃ K Km Kbm r r', a.tensordotF b (.pair (xa.map Int.ofNat) (xb.map Int.ofNat)) .blockwise = .ok K
      ∧ a.tensordotF b (.pair (xa.map Int.ofNat) (xb.map Int.ofNat)) m1 = .ok Km
      ∧ (NormNet.braOf a xa).tensordotF (NormNet.braOf b xb)
          (.pair (xa.map Int.ofNat) (xb.map Int.ofNat)) m2 = .ok Kbm
      ∧ Km.ndim = K.ndim ∧ Kbm.ndim = K.ndim
      ∧ Kbm.tensordotF Km (allAxes K.ndim) m3 = .ok r
      ∧ r.ndim = 0 ∧ r.oddpos = [] ∧ r.elem [] [] = normSq K
      ∧ Km.tensordotF Kbm (allAxes K.ndim) m4 = .ok r'
      ∧ r'.ndim = 0 ∧ r'.oddpos = [] ∧ r'.elem [] [] = normSq' K :=
  NormNet.network_norm_halves_any_mode hz1 hz2 a b xa xb ha hb hfa hfb hadm hoA hoB hd m1 m2 m3 m4

end main

/-! ## non-vacuity -/

open scoped SymmModel.Lazy

/-- the pruned network `gAs`, `gB` of C10d in the default mode everywhere -/
example : Bracketings6M gAs C03.gB [2] [0] .auto .auto (fun _ => .auto) :=
  network_norm_bracketings_auto gAs C03.gB [2] [0] (by decide +kernel) (by decide +kernel) rfl rfl
    (by decide +kernel) (Or.inr ⟨1, rfl⟩) (Or.inr ⟨3, rfl⟩) (by decide)

/-- mixed modes: halves fused / blockwise, the other calls alternating -/
example : Bracketings6M C03.gA C03.gB [1, 2] [1, 0] .fused .blockwise
    (fun i => if i % 2 = 0 then .fused else .auto) :=
  network_norm_bracketings_any_mode_oneKet C03.gA C03.gB [1, 2] [1, 0] (by decide +kernel)
    (by decide +kernel) rfl rfl (by decide +kernel) (Or.inr ⟨1, rfl⟩) (Or.inr ⟨3, rfl⟩) (by decide)
    _ _ _

/-- the values of B1 and S1 of a concrete network with every call in mode `m`, and `normSq K` of the
    blockwise `K` -/
def modeVals (a b : Arr Int) (xa xb : List Nat) (m : TdotMode) : List Int :=
  let fA := freeAxes a.ndim xa
  let fB := freeAxes b.ndim xb
  let P (x y : List Nat) : AxesArg := .pair (x.map Int.ofNat) (y.map Int.ofNat)
  let val (r : Except Err (Arr Int)) : Int := match r with | .ok c => c.elem [] [] | .error _ => -1
  match a.tensordotF b (P xa xb) .blockwise, a.tensordotF b (P xa xb) m,
      (NormNet.braOf a xa).tensordotF (NormNet.braOf b xb) (P xa xb) m with
  | .ok K, .ok Km, .ok Kbm =>
    [ val (Kbm.tensordotF Km (P (List.range K.ndim) (List.range K.ndim)) m),
      val (do let T ← Kbm.tensordotF a (P (List.range fA.length) fA) m
              T.tensordotF b (P (axesTW a.ndim b.ndim xa xb) (fB ++ xb)) m),
      normSq K ]
  | _, _, _ => []

/-- with every call in mode `m`, `modeVals` is three times `normSq K` -/
theorem modeVals_eq {a b : Arr Int} {xa xb : List Nat} {m : TdotMode}
    (h : Bracketings6M a b xa xb m m (fun _ => m)) :
    (fun K => List.replicate 3 (normSq K))
        <$> a.tensordotF b (.pair (xa.map Int.ofNat) (xb.map Int.ofNat)) .blockwise
      = .ok (modeVals a b xa xb m) := by
  obtain ⟨K, Km, Kbm, eK, eKm, eKbm, ⟨r, e3, -, -, q3⟩, -, ⟨T, c, a1, a2, -, -, a5⟩, -⟩ := h
  unfold allAxes at e3
  simp only [modeVals, eK, eKm, eKbm, e3, a1, a2, q3, a5, bind, Except.bind]
  rfl

example : modeVals gAs C03.gB [2] [0] .fused = [2174, 2174, 2174] :=
  Except.ok.inj ((modeVals_eq (network_norm_bracketings_any_mode_oneKet gAs C03.gB [2] [0]
    (by decide +kernel) (by decide +kernel) rfl rfl (by decide +kernel) (Or.inr ⟨1, rfl⟩)
    (Or.inr ⟨3, rfl⟩) (by decide) _ _ _)).symm.trans
    (ok_map_comp (fun v => List.replicate 3 v) normSq_gAsB))

end SymmModel.C10
