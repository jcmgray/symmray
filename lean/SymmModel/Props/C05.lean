/-
  Property C05 — "Fusing is an exact, invertible re-indexing described by the fused index".

  The theorems are about the model definitions in `SymmModel.Model.Fuse`
  (`calcFuseGroupInfo`, `planSector`, `accumExtents`, `calcFuseBlockInfo`, `extentStart?`,
  `fuseInsert`, `fuseConcat`, `fuseCore`, `unfuseA`, `unfuseAllA`), for EVERY array (any rank,
  symmetry, sparsity, scalar type with a zero) that is valid (`a.validB = true`) and every list of
  axis groups accepted by the guard `groupsOkB groups a.ndim` (at least one group, groups non-empty,
  axes in range and pairwise distinct across all groups).

  Vocabulary (defined in `SymmModel.Proofs.Fuse*`, namespace `FuseP`):
    `groupsOkB`           the guard above (Bool)
    `fusedCharge`         signed combination of a sector's charges on a group of axes
    `splitOffset/joinOffset`, `splitAddr/joinAddr`   the address map read from an index's own table
    `AllZero b`           every stored entry of the block `b` is zero

  Here: the group plan, the per-sector plan, the table, the address map and its injectivity
  (`splitAddr_injective`); the round trip and the agreement of the two strategies are only checked on the
  example arrays.  The block-level round trip and the element map are proved for arbitrary lists of groups in
  part b (`Props/C05b.lean`), which also derives the one-group forms `…_partial`; the agreement of the two
  strategies for any groups is in part h (`Props/C05h.lean`).
-/
import SymmModel.Proofs.FuseLemmas

namespace SymmModel.C05
open SymmModel FuseP

/-- the guard of `fuse` (Bool): at least one group, all groups non-empty, axes `< ndim`, pairwise
    distinct across all groups -/
abbrev groupsOkB := FuseP.groupsOkB

/-- rank 3, U1, total charge 0, directions (+,−,+); valid sectors (0,0,0), (0,1,1), (1,1,0): the
    last one is missing -/
def exA : Arr Int :=
  { sym := .U1, fermi := false,
    indices := [Index.mk [((0, 0), 2), ((1, 0), 1)] false none,
                Index.mk [((0, 0), 1), ((1, 0), 2)] true none,
                Index.mk [((0, 0), 1), ((1, 0), 1)] false none],
    charge := (0, 0),
    blocks := [([(0, 0), (0, 0), (0, 0)], ⟨[2, 1, 1], #[1, 2]⟩),
               ([(0, 0), (1, 0), (1, 0)], ⟨[2, 2, 1], #[3, 4, 5, 6]⟩)] }

/-- rank 4, U1, total charge 2, two of the six valid sectors stored: fusing axes (0,1) and
    unfusing creates two extra (zero) blocks -/
def exB : Arr Int :=
  { sym := .U1, fermi := false,
    indices := List.replicate 4 (Index.mk [((0, 0), 1), ((1, 0), 1)] false none),
    charge := (2, 0),
    blocks := [([(0, 0), (1, 0), (1, 0), (0, 0)], ⟨[1, 1, 1, 1], #[7]⟩),
               ([(1, 0), (0, 0), (0, 0), (1, 0)], ⟨[1, 1, 1, 1], #[9]⟩)] }

/-- observable part of a result: sectors, shapes and data in dict order -/
def view (r : Except Err (Arr Int)) : Option (List (Sector × List Nat × List Int)) :=
  r.toOption.map (fun x => x.blocks.map (fun sb => (sb.1, sb.2.shape, sb.2.data.toList)))

/-- observable part of a plan: per stored sector (new sector, new shape, sub-sectors) -/
def viewPlan (r : Except Err FuseInfo) : List (Sector × List Nat × List Sector) :=
  match r with
  | .ok fi => fi.blockmap.map (fun sp => (sp.2.newSector, sp.2.newShape, sp.2.subsectors))
  | .error _ => []

/-- observable part of the new indices: chargemap, direction, extents -/
def viewIdx (r : Except Err FuseInfo) : List (List (Charge × Nat) × Bool × Extents) :=
  match r with
  | .ok fi => fi.newIndices.map (fun ix => (ix.cm, ix.dual, (ix.sub.map (·.2)).getD []))
  | .error _ => []

example : exA.validB = true ∧ exB.validB = true := by decide
example : groupsOkB [[2, 0]] exA.ndim = true ∧ groupsOkB [[0], [1, 2]] exA.ndim = true
    ∧ groupsOkB [[0, 1]] exB.ndim = true := by decide

/-- `gi.perm = before ++ grouped ++ after` is a permutation of `0 … ndim-1` (also in the Boolean
    form `Arr.isPerm` used as guard by `transpose`); `position` is the minimum grouped axis, so
    the axes in front are exactly `0 … position-1`; each group of `k` axes becomes one axis. -/
theorem calcFuseGroupInfo_perm (groups : List (List Nat)) (duals : List Bool)
    (h : groupsOkB groups duals.length = true) :
    let gi := calcFuseGroupInfo groups duals
    gi.perm = gi.axesBefore ++ groups.flatten ++ gi.axesAfter
    ∧ gi.perm.Perm (List.range duals.length)
    ∧ Arr.isPerm gi.perm duals.length = true
    ∧ gi.position ∈ groups.flatten ∧ (∀ ax ∈ groups.flatten, gi.position ≤ ax)
    ∧ gi.axesBefore = List.range gi.position
    ∧ (∀ ax, ax ∈ gi.axesAfter ↔ ax < duals.length ∧ gi.position ≤ ax ∧ ax ∉ groups.flatten)
    ∧ gi.newNdim + groups.flatten.length = duals.length + groups.length := by
  have hok := groupsOk_iff.1 h
  exact ⟨rfl, FuseP.calcFuseGroupInfo_perm hok.adm, perm_isPerm hok.adm, (position_spec hok).1,
    (position_spec hok).2, axesBefore_range _ _, fun _ => mem_axesAfter, newNdim_spec hok.adm⟩

example : (calcFuseGroupInfo [[2, 0]] exA.duals).perm = [2, 0, 1]
    ∧ (calcFuseGroupInfo [[2, 0]] exA.duals).position = 0
    ∧ (calcFuseGroupInfo [[0], [1, 2]] exA.duals).perm = [0, 1, 2]
    ∧ (calcFuseGroupInfo [[0], [1, 2]] exA.duals).newNdim = 2 := by decide

/-- with the guard satisfied (no empty group) the public `fuse` is `_fuse_core`, whatever
    `expand_empty` says -/
theorem fuseA_eq_fuseCore {R : Type} [Zero R] (a : Arr R) (groups : List (List Nat)) (mode : FuseMode)
    (expandEmpty : Bool) (n : Nat) (hg : groupsOkB groups n = true) :
    fuseA a groups mode expandEmpty = fuseCore a groups mode := by
  have hok := groupsOk_iff.1 hg
  rw [fuseA_of_nonempty a groups mode expandEmpty
    (List.all_eq_true.2 fun g hgm => by simpa using hok.gne g hgm)]
  cases groups with
  | nil => exact absurd rfl hok.ne
  | cons x xs => rfl

/-- For every stored sector `s` the plan exists (`planSector` succeeds and is what
    `calcFuseBlockInfo` records), and its new sector has
    * at a multi-axis group `g` the `sym.combine` of the group's charges, each signed by
      `sym.sign c (groupDual g != (indices[ax]).dual)` (`fusedCharge`),
    * at a single-axis group the original charge of that axis,
    * at the untouched axes in front / behind the original charges (new axis `k < position` is
      old axis `k`; new axis `position + #groups + k` is old axis `axesAfter[k]`),
    and its sub-sector for group `g` lists the group's charges in group order. -/
theorem fused_charge_spec {R : Type} (a : Arr R) (groups : List (List Nat))
    (hv : a.validB = true) (hg : groupsOkB groups a.ndim = true) :
    ∃ fi, calcFuseBlockInfo a groups = .ok fi ∧ fi.gi = calcFuseGroupInfo groups a.duals ∧
    ∀ s b, (s, b) ∈ a.blocks → ∃ p, alookup fi.blockmap s = some p
      ∧ planSector a.sym a.indices groups fi.gi s = .ok p
      ∧ (∀ g gaxes, groups[g]? = some gaxes →
          p.newSector.getD (fi.gi.position + g) (0, 0)
            = (if gaxes.length = 1 then s.getD (gaxes.headD 0) (0, 0)
               else a.sym.combine (gaxes.map (fun ax =>
                 a.sym.sign (s.getD ax (0, 0))
                   (fi.gi.groupDuals.getD g false != (a.indices.getD ax default).dual))))
          ∧ p.subsectors.getD g [] = gaxes.map (fun ax => s.getD ax (0, 0)))
      ∧ (∀ k, k < fi.gi.position → p.newSector.getD k (0, 0) = s.getD k (0, 0))
      ∧ (∀ k, k < fi.gi.axesAfter.length →
          p.newSector.getD (fi.gi.position + groups.length + k) (0, 0)
            = s.getD (fi.gi.axesAfter.getD k 0) (0, 0)) := by
  have hva := validArr_of_validB hv
  have hok := groupsOk_iff.1 hg
  refine ⟨fuseInfoOf a groups, calcFuseBlockInfo_eq hva (fun _ => hok.lt), rfl, ?_⟩
  have hgi : (fuseInfoOf a groups).gi = calcFuseGroupInfo groups a.duals := rfl
  simp only [hgi]
  intro s b hsb
  refine ⟨planOf a.sym a.indices groups (calcFuseGroupInfo groups a.duals) s b.shape, ?_, ?_, ?_, ?_, ?_⟩
  · exact alookup_blockmapOf hva hsb
  · exact planSector_stored hva hok.lt hsb
  · intro g gaxes hgg
    constructor
    · show (planOf _ _ _ _ _ _).newSector.getD _ _ = _
      rw [planOf_newSector_getD _ _ _ _ _ _ hgg]
      simp only [midOf, fusedCharge, beq_iff_eq]
      split <;> rfl
    · show (planOf _ _ _ _ _ _).subsectors.getD _ _ = _
      rw [planOf_subsectors_getD _ _ _ _ _ hgg, midOf_sub]
  · intro k hk
    exact planOf_newSector_before _ _ _ _ _ _ hk
  · intro k hk
    exact planOf_newSector_after _ _ _ _ _ _ hk

/-- the fused index of every group (single or multi-axis) has the direction of the group's FIRST
    axis -/
theorem fused_dual_spec {R : Type} (a : Arr R) (groups : List (List Nat))
    (hv : a.validB = true) (hg : groupsOkB groups a.ndim = true) :
    ∃ fi, calcFuseBlockInfo a groups = .ok fi ∧
    ∀ g gaxes, groups[g]? = some gaxes →
      (fi.newIndices.getD (fi.gi.position + g) default).dual = (a.indices.getD (gaxes.headD 0) default).dual
      ∧ fi.gi.groupDuals.getD g false = (a.indices.getD (gaxes.headD 0) default).dual := by
  have hva := validArr_of_validB hv
  have hok := groupsOk_iff.1 hg
  refine ⟨fuseInfoOf a groups, calcFuseBlockInfo_eq hva (fun _ => hok.lt), ?_⟩
  intro g gaxes hgg
  refine ⟨fused_dual hok.adm hgg, ?_⟩
  show (calcFuseGroupInfo groups a.duals).groupDuals.getD g false = _
  rw [groupDuals_getD _ _ _ _ hgg]
  simp only [Arr.duals, List.getD_eq_getElem?_getD, List.getElem?_map]
  cases a.indices[gaxes.headD 0]? <;> rfl

/-- the new block shape has, at a multi-axis group, the product of the sub sizes (at a single-axis
    group the size itself) -/
theorem fused_size_spec {R : Type} (a : Arr R) (groups : List (List Nat))
    (hv : a.validB = true) (hg : groupsOkB groups a.ndim = true) :
    ∃ fi, calcFuseBlockInfo a groups = .ok fi ∧
    ∀ s b, (s, b) ∈ a.blocks → ∃ p, alookup fi.blockmap s = some p ∧
      ∀ g gaxes, groups[g]? = some gaxes →
        p.newShape.getD (fi.gi.position + g) 0 = prod (gaxes.map (fun ax => b.shape.getD ax 0)) := by
  have hva := validArr_of_validB hv
  have hok := groupsOk_iff.1 hg
  refine ⟨fuseInfoOf a groups, calcFuseBlockInfo_eq hva (fun _ => hok.lt), ?_⟩
  have hgi : (fuseInfoOf a groups).gi = calcFuseGroupInfo groups a.duals := rfl
  simp only [hgi]
  intro s b hsb
  refine ⟨planOf a.sym a.indices groups (calcFuseGroupInfo groups a.duals) s b.shape, ?_, ?_⟩
  · exact alookup_blockmapOf hva hsb
  · intro g gaxes hgg
    show (planOf _ _ _ _ _ _).newShape.getD _ _ = _
    rw [planOf_newShape_getD _ _ _ _ _ _ hgg, midOf_size]

example : viewPlan (calcFuseBlockInfo exA [[2, 0]])
    = [([(0, 0), (0, 0)], [2, 1], [[(0, 0), (0, 0)]]), ([(1, 0), (1, 0)], [2, 2], [[(1, 0), (0, 0)]])] := by
  decide +kernel

/-- Every index of the fused array is well formed; in
    particular the index produced for a multi-axis group satisfies `Index.wfB`: chargemap strictly
    sorted with positive sizes and valid charges, every chargemap charge has an extent whose sizes
    sum to the chargemap size, sub-sectors distinct, each sub-sector's size is the product of its
    sub-index sizes and its signed combination (relative to the fused direction) is the fused
    charge (`extentOk`), sub-indices well formed. -/
theorem table_wf {R : Type} (a : Arr R) (groups : List (List Nat))
    (hv : a.validB = true) (hg : groupsOkB groups a.ndim = true) :
    ∃ fi, calcFuseBlockInfo a groups = .ok fi ∧ Index.wfListB a.sym fi.newIndices = true ∧
    ∀ g gaxes, groups[g]? = some gaxes → gaxes.length ≠ 1 →
      Index.wfB a.sym (fi.newIndices.getD (fi.gi.position + g) default) = true
      ∧ ∃ exts, (fi.newIndices.getD (fi.gi.position + g) default).sub
          = some (gaxes.map (fun ax => a.indices.getD ax default), exts) := by
  have hva := validArr_of_validB hv
  have hok := groupsOk_iff.1 hg
  refine ⟨fuseInfoOf a groups, calcFuseBlockInfo_eq hva (fun _ => hok.lt), wfListB_iff.2 (newIndices_wf hva (fun _ => hok.lt)), ?_⟩
  intro g gaxes hgg hlen
  refine ⟨fused_index_wf hva hok.adm g, ?_⟩
  show ∃ exts, ((fuseInfoOf a groups).newIndices.getD ((calcFuseGroupInfo groups a.duals).position + g) default).sub = _
  rw [fused_index_sub hok.adm hgg hlen]
  exact ⟨_, rfl⟩

/-- **canonical order.**  The extent of each fused charge lists its sub-sectors in strictly
    increasing `sectorLt` order (this is what makes the tables of two operands agree in C06). -/
theorem extents_sorted {R : Type} (a : Arr R) (groups : List (List Nat))
    (hv : a.validB = true) (hg : groupsOkB groups a.ndim = true) :
    ∃ fi, calcFuseBlockInfo a groups = .ok fi ∧
    ∀ g gaxes, groups[g]? = some gaxes → gaxes.length ≠ 1 →
      ∀ subs exts, (fi.newIndices.getD (fi.gi.position + g) default).sub = some (subs, exts) →
        ∀ c e, alookup exts c = some e → isSortedStrict sectorLt (e.map (·.1)) = true := by
  have hva := validArr_of_validB hv
  have hok := groupsOk_iff.1 hg
  refine ⟨fuseInfoOf a groups, calcFuseBlockInfo_eq hva (fun _ => hok.lt), ?_⟩
  intro g gaxes hgg hlen subs exts hsub c e he
  have hsub' : ((fuseInfoOf a groups).newIndices.getD ((calcFuseGroupInfo groups a.duals).position + g) default).sub
      = some (subs, exts) := hsub
  rw [fused_index_sub hok.adm hgg hlen] at hsub'
  simp only [fusedIndexOf, Index.sub, Option.some.injEq, Prod.mk.injEq] at hsub'
  obtain ⟨_, rfl⟩ := hsub'
  exact fusedIndexOf_sorted _ he

set_option synthInstance.maxSize 1024 in
example : viewIdx (calcFuseBlockInfo exA [[0], [1, 2]])
    = [([((0, 0), 2), ((1, 0), 1)], false, []),
       ([((0, 0), 3)], true, [((0, 0), [([(0, 0), (0, 0)], 1), ([(1, 0), (1, 0)], 2)])])] := by
  decide +kernel

/-- inside one extent with distinct sub-sectors, `splitOffset` (find the sub-sector whose
    cumulative range contains the offset) and `joinOffset` are mutually inverse, and every offset
    below the total size is covered -/
theorem splitOffset_joinOffset_inverse (ext : Extent) :
    (∀ o ss r, (ext.map (·.1)).Nodup → splitOffset ext o = some (ss, r) → joinOffset ext ss r = some o)
    ∧ (∀ o ss r, joinOffset ext ss r = some o → splitOffset ext o = some (ss, r))
    ∧ (∀ o, o < sumN (ext.map (·.2)) → ∃ ss r, splitOffset ext o = some (ss, r)) :=
  ⟨fun _ _ _ hnd h => joinOffset_splitOffset hnd h, fun _ _ _ h => FuseP.splitOffset_joinOffset h,
   fun _ h => splitOffset_some h⟩

/-- the model's `extentStart?` (used by the insert strategy) is the `startOf` of the address map -/
theorem extentStart?_spec (ix : Index) (subs : List Index) (exts : Extents) (c : Charge) (ext : Extent)
    (h1 : ix.sub = some (subs, exts)) (h2 : alookup exts c = some ext) (ss : Sector) (r : Nat) :
    joinOffset ext ss r = (match extentStart? ix c ss with
      | some (st, d) => if r < d then some (st + r) else none
      | none => none) := by
  rw [extentStart?_eq h1 h2]; rfl

/-- **splitAddr / joinAddr.**  For ANY well-formed index (however its table was produced) the maps
    between (fused charge, offset) and (sub-charges, sub-offsets), read only from the index's own
    table, are mutually inverse; the sub-offsets of a split lie in the box of the sub sizes, the
    sub-charges combine — signed relative to the fused direction — to the fused charge, and every
    offset below the size of a charge has an address. -/
theorem splitAddr_joinAddr_inverse (sym : Sym) (ix : Index) (hw : Index.wfB sym ix = true) (c : Charge) :
    (∀ o ss offs, splitAddr ix c o = some (ss, offs) →
        joinAddr ix c ss offs = some o
        ∧ ∃ subs exts shp, ix.sub = some (subs, exts) ∧ Arr.blockShape? subs ss = some shp
          ∧ inBox shp offs = true
          ∧ sym.combine (List.zipWith (fun c' (sub : Index) => sym.sign c' (ix.dual != sub.dual)) ss subs) = c)
    ∧ (∀ o ss offs, joinAddr ix c ss offs = some o → splitAddr ix c o = some (ss, offs))
    ∧ (∀ D o, ix.sub.isSome = true → ix.sizeOf? c = some D → o < D → ∃ ss offs, splitAddr ix c o = some (ss, offs)) := by
  refine ⟨fun o ss offs h => joinAddr_splitAddr hw h, fun o ss offs h => FuseP.splitAddr_joinAddr h, ?_⟩
  intro D o hs hc ho
  cases hsub : ix.sub with
  | none => rw [hsub] at hs; cases hs
  | some se => exact splitAddr_total hw (subs := se.1) (exts := se.2) hsub hc ho

/-- the fused index of `exA.fuse((1,2))` -/
def exIx : Index :=
  Index.mk [((0, 0), 3)] true
    (some ([Index.mk [((0, 0), 1), ((1, 0), 2)] true none, Index.mk [((0, 0), 1), ((1, 0), 1)] false none],
           [((0, 0), [([(0, 0), (0, 0)], 1), ([(1, 0), (1, 0)], 2)])]))

example : Index.wfB .U1 exIx = true := by decide
example : splitAddr exIx (0, 0) 2 = some ([(1, 0), (1, 0)], [1, 0])
    ∧ joinAddr exIx (0, 0) [(1, 0), (1, 0)] [1, 0] = some 2 := by decide

/-! ## unfusing restores the original exactly (block level): `unfuse_fuse_blocks` in part b; checks on the examples -/

theorem allZero_get {R : Type} [Zero R] (b : Blk R) (h : AllZero b) (i : List Nat) : b.get i = 0 :=
  get_of_allZero h i

example : (∀ ix ∈ exA.indices, ix.sub = none) ∧ (∀ ix ∈ exB.indices, ix.sub = none)
    ∧ exA.fermi = false ∧ [2, 0].length ≠ 1 := by decide
example : view (do let x ← fuseCore exA [[2, 0]] .insert; unfuseAllA x) = view (.ok (exA.transposeA [2, 0, 1])) := by
  decide +kernel
/-- two stored blocks restored, two extra blocks, both zero -/
example : view (do let x ← fuseCore exB [[0, 1]] .insert; unfuseAllA x)
    = some [([(0, 0), (1, 0), (1, 0), (0, 0)], [1, 1, 1, 1], [7]), ([(1, 0), (0, 0), (1, 0), (0, 0)], [1, 1, 1, 1], [0]),
            ([(0, 0), (1, 0), (0, 0), (1, 0)], [1, 1, 1, 1], [0]), ([(1, 0), (0, 0), (0, 0), (1, 0)], [1, 1, 1, 1], [9])] := by
  decide +kernel

/-! ## both strategies give identical results (`fuseInsert_eq_fuseConcat_partial` in part b, `…_multi` in part h): checks on the examples -/

set_option synthInstance.maxSize 1024 in
example : view (fuseCore exA [[2, 0]] .insert) = view (fuseCore exA [[2, 0]] .concat)
    ∧ view (fuseCore exA [[0], [1, 2]] .insert) = view (fuseCore exA [[0], [1, 2]] .concat)
    ∧ view (fuseCore exB [[0, 1]] .concat)
        = some [([(1, 0), (1, 0), (0, 0)], [2, 1, 1], [7, 0]), ([(1, 0), (0, 0), (1, 0)], [2, 1, 1], [0, 9])] := by
  decide +kernel

/-! ## the property proper: every element appears exactly once, where the table says
  (`fuse_elem`, `fuse_elem_onto` in part b; here the injectivity of the address map) -/

/-- the address map is injective: an address (sub-charges, sub-offsets) comes from at most one
    (fused charge, offset) — for ANY well-formed index -/
theorem splitAddr_injective (sym : Sym) (ix : Index) (hw : Index.wfB sym ix = true)
    (c c' : Charge) (o o' : Nat) (ss : Sector) (offs : List Nat)
    (h : splitAddr ix c o = some (ss, offs)) (h' : splitAddr ix c' o' = some (ss, offs)) :
    c = c' ∧ o = o' := by
  obtain ⟨hj, subs, exts, shp, hs, _, _, hc⟩ := joinAddr_splitAddr hw h
  obtain ⟨hj', subs', exts', shp', hs', _, _, hc'⟩ := joinAddr_splitAddr hw h'
  rw [hs] at hs'
  simp only [Option.some.injEq, Prod.mk.injEq] at hs'
  obtain ⟨rfl, rfl⟩ := hs'
  have hcc : c = c' := by rw [← hc, ← hc']
  subst hcc
  rw [hj] at hj'
  exact ⟨rfl, by simpa using hj'⟩

/-- element view of a result at an address -/
def elemAt (r : Except Err (Arr Int)) (ns : Sector) (i : List Nat) : Int :=
  match r with
  | .ok x => x.elem ns i
  | .error _ => 0

/-- `exA.fuse((1,2))`: the entry of the fused block at fused offset 2 is the entry of the original
    block of sector (0,1,1) at offsets (·,1,0) -/
example : elemAt (fuseCore exA [[0], [1, 2]] .insert) [(0, 0), (0, 0)] [1, 2] = exA.elem [(0, 0), (1, 0), (1, 0)] [1, 1, 0]
    ∧ elemAt (fuseCore exA [[0], [1, 2]] .concat) [(0, 0), (0, 0)] [1, 2] = 6 := by
  decide +kernel

end SymmModel.C05
