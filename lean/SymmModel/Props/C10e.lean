/-
  Property C10, network clause — the six bracketings B1, B2, S1–S4 of the four-tensor norm
  network `{a, b, ā, b̄}` WITHOUT any guard on the index tables.

  `a`, `b`: valid fermionic arrays of the model (any ranks, symmetries, sparsity, dualness patterns,
  pending signs, parities) bonded along `xa`/`xb` (`ValidP.tdotAdmissibleB`), each carrying a sorted
  list of non-dual labels (`NormNet.KetLabels`), all labels distinct.  The statements also carry the decidable
  label check `netLabelsB` (the `LabelRoutes` hypothesis of S7 for the four operand triples); it is no condition:
  it is implied by the distinct labels (`LabelAlg.netLabelsB_of_distinct`, Proofs/NormNet10;
  `netLabelsB_of_oneKet` is the case of harness/props/c10.py), and the proofs take it from there without
  using the hypothesis.  `ā = braOf a xa`, `b̄ = braOf b xb` (C10c);
  `K = a·b`, `K̄ = ā·b̄`; blockwise mode; scalars `AddCommMonoid`, `NetLaws`, `AssocLaws` (`Int`, `GRat`).

  `network_norm_bracketings` (no `_partial`: the full statement for these six bracketings):
    B1  (ā·b̄)·(a·b) = normSq K      B2  (a·b)·(ā·b̄) = normSq' K     (final leg pairs in any order)
    S1  ((ā·b̄)·a)·b = normSq K      S2  ā·(b̄·(a·b)) = normSq K
    S3  ((a·b)·ā)·b̄ = normSq' K     S4  a·(b·(ā·b̄)) = normSq' K
  every result of rank 0, without labels, no stray sign; `normSq K = Σ conj(v)·v`,
  `normSq' K = Σ v·conj(v)` over the stored entries of `K` (equal for commutative `*`:
  `network_norm_bracketings_comm`).  S1–S4 are S7 of C04 under the WEAK guard
  (`Assoc3P.tdotF_assoc_w` = `C04.tdotF_assoc_weak`) applied to the triangle half–tensor–tensor:
  the contracted half has PRUNED index tables, which agree with the tensors' tables on the charges
  they list (`half_weak_guard`).  `C10.tensorwise_pruned_witness`'s network (guard `netFullB` false)
  is a positive example of this statement.  `network_norm_bracketings_swapped`: the same for `{b, a, b̄, ā}`.

  NOT COVERED HERE, and where it is:
  * bracketings that first contract a ket tensor with a bra tensor (`(a·ā)·(b·b̄)`, `((ā·a)·b̄)·b`, …): C10i–C10k;
  * mixed operand orders (`(b̄·ā)·(a·b)`, `((ā·b̄)·b)·a`, …): C10g.  Proved here:
    `normSq_swap` (`normSq (b·a) = normSq (a·b)`, commutative `*`) and with it
    `network_norm_swapped_value`: the fully swapped network `(b̄·ā)·(b·a)` has the value `normSq (a·b)`;
  * three-tensor chains: C10h; `mode = fused`: C10f.
-/
import SymmModel.Proofs.NormNet16
import SymmModel.Props.C10d
import SymmModel.Props.C04e

namespace SymmModel.C10
open SymmModel Lazy Norm NormNet TdotP

theorem netLabelsB_def (pA pB : Bool) (oA oB : List (Int × Bool)) :
    netLabelsB pA pB oA oB
      = match OddposP.mergeOddpos pA oA oB with
        | .ok (out, _) =>
          C04.labelRoutesB (xor pA pB) pA out (Arr.oddposDag oA) (Arr.oddposDag oB)
          && C04.labelRoutesB pA pB oA oB (Arr.oddposDag out)
          && C04.labelRoutesB pA pB (Arr.oddposDag oA) (Arr.oddposDag oB) out
          && C04.labelRoutesB (xor pA pB) pA (Arr.oddposDag out) oA oB
        | .error _ => false := rfl

/-- at most one ket label per tensor passes the label check -/
theorem netLabelsB_of_oneKet {R : Type} {a b : Arr R} (ha : a.validB = true) (hb : b.validB = true)
    (hfa : a.fermi = true) (hfb : b.fermi = true) (hoA : OneKet a.oddpos) (hoB : OneKet b.oddpos)
    (hd : (a.oddpos ++ b.oddpos).Pairwise (fun x y => x.1 ≠ y.1)) :
    netLabelsB a.parity b.parity a.oddpos b.oddpos = true :=
  LabelAlg.netLabelsB_of_distinct _ _ _ _ hd

/-- the contracted half `X` (index tables: the `conj` of the frame of `p·q` pruned to some sector
    list) satisfies the weak guard of C04c/C04e against `p` and `q`, in both operand orders -/
theorem half_weak_guard {R : Type} (X p q : Arr R) (xp xq : List Nat) (S : List Sector)
    (hX : X.indices = (dropUnused (without p.indices xp ++ without q.indices xq) S).map Index.conj)
    (hp : p.validB = true) (hq : q.validB = true) :
    AssocP.contractibleCommonB X p (List.range (freeAxes p.ndim xp).length) (freeAxes p.ndim xp) = true
    ∧ AssocP.contractibleCommonB p X (freeAxes p.ndim xp) (List.range (freeAxes p.ndim xp).length) = true
    ∧ AssocP.contractibleCommonB X q
        ((List.range (freeAxes q.ndim xq).length).map ((freeAxes p.ndim xp).length + ·))
        (freeAxes q.ndim xq) = true
    ∧ AssocP.contractibleCommonB q X (freeAxes q.ndim xq)
        ((List.range (freeAxes q.ndim xq).length).map ((freeAxes p.ndim xp).length + ·)) = true :=
  ⟨(commonS_Xp X p q xp xq (frame_of_dropUnused hX) (frame_keys_nodup hp hq hX) hp).1,
   (commonS_Xp X p q xp xq (frame_of_dropUnused hX) (frame_keys_nodup hp hq hX) hp).2,
   commonS_Xq X p q xp xq (frame_of_dropUnused hX) (frame_keys_nodup hp hq hX) hq⟩

section main
variable {R : Type} [AddCommMonoid R] [Mul R] [Neg R] [Conj R] [NetLaws R] [AssocP.AssocLaws R]

/-- **network_norm_bracketings.**  Valid fermionic `a`, `b` with sorted, distinct ket labels passing
    `netLabelsB`: the six bracketings B1, B2 (final leg pairs in any order `π`), S1–S4 of the norm
    network all succeed and give `Σ |K|²` — `normSq K` with the bra side on the left, `normSq' K`
    with it on the right — as rank-0 arrays without labels. -/
theorem network_norm_bracketings (a b : Arr R) (xa xb : List Nat)
    (ha : a.validB = true) (hb : b.validB = true) (hfa : a.fermi = true) (hfb : b.fermi = true)
    (hadm : ValidP.tdotAdmissibleB a b xa xb = true)
    (hoA : KetLabels a.oddpos) (hoB : KetLabels b.oddpos)
    (hd : (a.oddpos ++ b.oddpos).Pairwise (fun x y => x.1 ≠ y.1))
    (hlab : netLabelsB a.parity b.parity a.oddpos b.oddpos = true) :
    ∃ K Kb, a.tensordotF b (.pair (xa.map Int.ofNat) (xb.map Int.ofNat)) .blockwise = .ok K
      ∧ (NormNet.braOf a xa).tensordotF (NormNet.braOf b xb) (.pair (xa.map Int.ofNat) (xb.map Int.ofNat)) .blockwise
          = .ok Kb
      -- B1, B2
      ∧ (∃ r r', r.ndim = 0 ∧ r.oddpos = [] ∧ r.elem [] [] = normSq K
          ∧ r'.ndim = 0 ∧ r'.oddpos = [] ∧ r'.elem [] [] = normSq' K
          ∧ ∀ π : List Nat, π.Perm (List.range K.ndim) →
              Kb.tensordotF K (.pair (π.map Int.ofNat) (π.map Int.ofNat)) .blockwise = .ok r
              ∧ K.tensordotF Kb (.pair (π.map Int.ofNat) (π.map Int.ofNat)) .blockwise = .ok r')
      -- S1  ((ā·b̄)·a)·b
      ∧ (∃ T c, Kb.tensordotF a (.pair ((List.range (freeAxes a.ndim xa).length).map Int.ofNat)
            ((freeAxes a.ndim xa).map Int.ofNat)) .blockwise = .ok T
        ∧ T.tensordotF b (.pair ((axesTW a.ndim b.ndim xa xb).map Int.ofNat)
            ((freeAxes b.ndim xb ++ xb).map Int.ofNat)) .blockwise = .ok c
        ∧ c.ndim = 0 ∧ c.oddpos = [] ∧ c.elem [] [] = normSq K)
      -- S2  ā·(b̄·(a·b))
      ∧ (∃ T c, (NormNet.braOf b xb).tensordotF K (.pair ((freeAxes b.ndim xb).map Int.ofNat)
            (((List.range (freeAxes b.ndim xb).length).map ((freeAxes a.ndim xa).length + ·)).map
              Int.ofNat)) .blockwise = .ok T
        ∧ (NormNet.braOf a xa).tensordotF T (.pair ((xa ++ freeAxes a.ndim xa).map Int.ofNat)
            ((axesTWr a.ndim b.ndim xa xb).map Int.ofNat)) .blockwise = .ok c
        ∧ c.ndim = 0 ∧ c.oddpos = [] ∧ c.elem [] [] = normSq K)
      -- S3  ((a·b)·ā)·b̄
      ∧ (∃ T c, K.tensordotF (NormNet.braOf a xa) (.pair ((List.range (freeAxes a.ndim xa).length).map Int.ofNat)
            ((freeAxes a.ndim xa).map Int.ofNat)) .blockwise = .ok T
        ∧ T.tensordotF (NormNet.braOf b xb) (.pair ((axesTW a.ndim b.ndim xa xb).map Int.ofNat)
            ((freeAxes b.ndim xb ++ xb).map Int.ofNat)) .blockwise = .ok c
        ∧ c.ndim = 0 ∧ c.oddpos = [] ∧ c.elem [] [] = normSq' K)
      -- S4  a·(b·(ā·b̄))
      ∧ (∃ T c, b.tensordotF Kb (.pair ((freeAxes b.ndim xb).map Int.ofNat)
            (((List.range (freeAxes b.ndim xb).length).map ((freeAxes a.ndim xa).length + ·)).map
              Int.ofNat)) .blockwise = .ok T
        ∧ a.tensordotF T (.pair ((xa ++ freeAxes a.ndim xa).map Int.ofNat)
            ((axesTWr a.ndim b.ndim xa xb).map Int.ofNat)) .blockwise = .ok c
        ∧ c.ndim = 0 ∧ c.oddpos = [] ∧ c.elem [] [] = normSq' K) :=
  network_norm_bracketings6 a b xa xb ha hb hfa hfb hadm hoA hoB hd

omit [NetLaws R] [AssocP.AssocLaws R] in
/-- `Bracketings6 a b xa xb` abbreviates the conclusion of `network_norm_bracketings` -/
theorem bracketings6_def (a b : Arr R) (xa xb : List Nat) :
    Bracketings6 a b xa xb ↔
    ∃ K Kb, a.tensordotF b (.pair (xa.map Int.ofNat) (xb.map Int.ofNat)) .blockwise = .ok K
      ∧ (NormNet.braOf a xa).tensordotF (NormNet.braOf b xb) (.pair (xa.map Int.ofNat) (xb.map Int.ofNat)) .blockwise
          = .ok Kb
      ∧ (∃ r r', r.ndim = 0 ∧ r.oddpos = [] ∧ r.elem [] [] = normSq K
          ∧ r'.ndim = 0 ∧ r'.oddpos = [] ∧ r'.elem [] [] = normSq' K
          ∧ ∀ π : List Nat, π.Perm (List.range K.ndim) →
              Kb.tensordotF K (.pair (π.map Int.ofNat) (π.map Int.ofNat)) .blockwise = .ok r
              ∧ K.tensordotF Kb (.pair (π.map Int.ofNat) (π.map Int.ofNat)) .blockwise = .ok r')
      ∧ (∃ T c, Kb.tensordotF a (.pair ((List.range (freeAxes a.ndim xa).length).map Int.ofNat)
            ((freeAxes a.ndim xa).map Int.ofNat)) .blockwise = .ok T
        ∧ T.tensordotF b (.pair ((axesTW a.ndim b.ndim xa xb).map Int.ofNat)
            ((freeAxes b.ndim xb ++ xb).map Int.ofNat)) .blockwise = .ok c
        ∧ c.ndim = 0 ∧ c.oddpos = [] ∧ c.elem [] [] = normSq K)
      ∧ (∃ T c, (NormNet.braOf b xb).tensordotF K (.pair ((freeAxes b.ndim xb).map Int.ofNat)
            (((List.range (freeAxes b.ndim xb).length).map ((freeAxes a.ndim xa).length + ·)).map
              Int.ofNat)) .blockwise = .ok T
        ∧ (NormNet.braOf a xa).tensordotF T (.pair ((xa ++ freeAxes a.ndim xa).map Int.ofNat)
            ((axesTWr a.ndim b.ndim xa xb).map Int.ofNat)) .blockwise = .ok c
        ∧ c.ndim = 0 ∧ c.oddpos = [] ∧ c.elem [] [] = normSq K)
      ∧ (∃ T c, K.tensordotF (NormNet.braOf a xa) (.pair ((List.range (freeAxes a.ndim xa).length).map Int.ofNat)
            ((freeAxes a.ndim xa).map Int.ofNat)) .blockwise = .ok T
        ∧ T.tensordotF (NormNet.braOf b xb) (.pair ((axesTW a.ndim b.ndim xa xb).map Int.ofNat)
            ((freeAxes b.ndim xb ++ xb).map Int.ofNat)) .blockwise = .ok c
        ∧ c.ndim = 0 ∧ c.oddpos = [] ∧ c.elem [] [] = normSq' K)
      ∧ (∃ T c, b.tensordotF Kb (.pair ((freeAxes b.ndim xb).map Int.ofNat)
            (((List.range (freeAxes b.ndim xb).length).map ((freeAxes a.ndim xa).length + ·)).map
              Int.ofNat)) .blockwise = .ok T
        ∧ a.tensordotF T (.pair ((xa ++ freeAxes a.ndim xa).map Int.ofNat)
            ((axesTWr a.ndim b.ndim xa xb).map Int.ofNat)) .blockwise = .ok c
        ∧ c.ndim = 0 ∧ c.oddpos = [] ∧ c.elem [] [] = normSq' K) := Iff.rfl

/-- the case of harness/props/c10.py: at most one ket label per tensor — no label hypothesis left -/
theorem network_norm_bracketings_oneKet (a b : Arr R) (xa xb : List Nat)
    (ha : a.validB = true) (hb : b.validB = true) (hfa : a.fermi = true) (hfb : b.fermi = true)
    (hadm : ValidP.tdotAdmissibleB a b xa xb = true)
    (hoA : OneKet a.oddpos) (hoB : OneKet b.oddpos)
    (hd : (a.oddpos ++ b.oddpos).Pairwise (fun x y => x.1 ≠ y.1)) :
    Bracketings6 a b xa xb :=
  network_norm_bracketings6 a b xa xb ha hb hfa hfb hadm hoA.ketLabels hoB.ketLabels hd

/-- the operand-swapped network `{b, a, b̄, ā}` (`K' = b·a`): the hypotheses are symmetric up to the
    label check -/
theorem network_norm_bracketings_swapped (a b : Arr R) (xa xb : List Nat)
    (ha : a.validB = true) (hb : b.validB = true) (hfa : a.fermi = true) (hfb : b.fermi = true)
    (hadm : ValidP.tdotAdmissibleB a b xa xb = true)
    (hoA : KetLabels a.oddpos) (hoB : KetLabels b.oddpos)
    (hd : (a.oddpos ++ b.oddpos).Pairwise (fun x y => x.1 ≠ y.1))
    (hlab : netLabelsB b.parity a.parity b.oddpos a.oddpos = true) :
    Bracketings6 b a xb xa :=
  network_norm_bracketings6 b a xb xa hb ha hfb hfa (admB_swap ha hb hfa hfb hadm) hoB hoA
    (labels_swap hd)

/-- for a commutative product all six bracketings give the same number `normSq K` -/
theorem network_norm_bracketings_comm (hc : ∀ x y : R, x * y = y * x) (a b : Arr R)
    (xa xb : List Nat)
    (ha : a.validB = true) (hb : b.validB = true) (hfa : a.fermi = true) (hfb : b.fermi = true)
    (hadm : ValidP.tdotAdmissibleB a b xa xb = true)
    (hoA : KetLabels a.oddpos) (hoB : KetLabels b.oddpos)
    (hd : (a.oddpos ++ b.oddpos).Pairwise (fun x y => x.1 ≠ y.1))
    (hlab : netLabelsB a.parity b.parity a.oddpos b.oddpos = true) :
    ∃ K Kb r1 r2 T1 c1 T2 c2 T3 c3 T4 c4,
      a.tensordotF b (.pair (xa.map Int.ofNat) (xb.map Int.ofNat)) .blockwise = .ok K
      ∧ (NormNet.braOf a xa).tensordotF (NormNet.braOf b xb) (.pair (xa.map Int.ofNat) (xb.map Int.ofNat)) .blockwise
          = .ok Kb
      ∧ Kb.tensordotF K (allAxes K.ndim) .blockwise = .ok r1
      ∧ K.tensordotF Kb (allAxes K.ndim) .blockwise = .ok r2
      ∧ Kb.tensordotF a (.pair ((List.range (freeAxes a.ndim xa).length).map Int.ofNat)
          ((freeAxes a.ndim xa).map Int.ofNat)) .blockwise = .ok T1
      ∧ T1.tensordotF b (.pair ((axesTW a.ndim b.ndim xa xb).map Int.ofNat)
          ((freeAxes b.ndim xb ++ xb).map Int.ofNat)) .blockwise = .ok c1
      ∧ (NormNet.braOf b xb).tensordotF K (.pair ((freeAxes b.ndim xb).map Int.ofNat)
          (((List.range (freeAxes b.ndim xb).length).map ((freeAxes a.ndim xa).length + ·)).map
            Int.ofNat)) .blockwise = .ok T2
      ∧ (NormNet.braOf a xa).tensordotF T2 (.pair ((xa ++ freeAxes a.ndim xa).map Int.ofNat)
          ((axesTWr a.ndim b.ndim xa xb).map Int.ofNat)) .blockwise = .ok c2
      ∧ K.tensordotF (NormNet.braOf a xa) (.pair ((List.range (freeAxes a.ndim xa).length).map Int.ofNat)
          ((freeAxes a.ndim xa).map Int.ofNat)) .blockwise = .ok T3
      ∧ T3.tensordotF (NormNet.braOf b xb) (.pair ((axesTW a.ndim b.ndim xa xb).map Int.ofNat)
          ((freeAxes b.ndim xb ++ xb).map Int.ofNat)) .blockwise = .ok c3
      ∧ b.tensordotF Kb (.pair ((freeAxes b.ndim xb).map Int.ofNat)
          (((List.range (freeAxes b.ndim xb).length).map ((freeAxes a.ndim xa).length + ·)).map
            Int.ofNat)) .blockwise = .ok T4
      ∧ a.tensordotF T4 (.pair ((xa ++ freeAxes a.ndim xa).map Int.ofNat)
          ((axesTWr a.ndim b.ndim xa xb).map Int.ofNat)) .blockwise = .ok c4
      ∧ [r1, r2, c1, c2, c3, c4].all (fun x => x.ndim == 0 && x.oddpos.isEmpty) = true
      ∧ [r1, r2, c1, c2, c3, c4].map (fun x => x.elem [] []) = List.replicate 6 (normSq K) := by
  obtain ⟨K, Kb, eK, eKb, ⟨r, r', h2, h3, h4, g2, g3, g4, hπ⟩, ⟨T1, c1, a1, a2, a3⟩, ⟨T2, c2, b1, b2, b3⟩,
    ⟨T3, c3, d1, d2, d3⟩, ⟨T4, c4, f1, f2, f3⟩⟩ :=
    network_norm_bracketings6 a b xa xb ha hb hfa hfb hadm hoA hoB hd
  have hid := hπ (List.range K.ndim) (List.Perm.refl _)
  rw [normSq'_eq hc] at g4 d3 f3
  exact ⟨K, Kb, r, r', T1, c1, T2, c2, T3, c3, T4, c4, eK, eKb, hid.1, hid.2, a1, a2, b1, b2, d1, d2,
    f1, f2, six_scalars ⟨h2, h3, h4⟩ ⟨g2, g3, g4⟩ a3 b3 d3 f3⟩

end main

/-- **normSq_swap.**  `normSq (b·a) = normSq (a·b)`: the squared norm of the contracted ket network
    does not depend on the operand order (commutative `*`; S5 `C04.tdotF_swap` plus the re-ordering
    of the double sum over the rotated sectors and offsets) -/
theorem normSq_swap {R : Type} [AddCommMonoid R] [Mul R] [Neg R] [Conj R] [NetLaws R]
    (hmul : ∀ x y : R, x * y = y * x) (a b K K' : Arr R) (xa xb : List Nat)
    (ha : a.validB = true) (hb : b.validB = true) (hfa : a.fermi = true) (hfb : b.fermi = true)
    (hadm : ValidP.tdotAdmissibleB a b xa xb = true)
    (hd : (a.oddpos ++ b.oddpos).Pairwise (fun x y => x.1 ≠ y.1))
    (eK : a.tensordotF b (.pair (xa.map Int.ofNat) (xb.map Int.ofNat)) .blockwise = .ok K)
    (eK' : b.tensordotF a (.pair (xb.map Int.ofNat) (xa.map Int.ofNat)) .blockwise = .ok K') :
    normSq K' = normSq K :=
  NormNet.normSq_swap hmul a b K K' xa xb (RoutesP.Adm.of ha hb hfa hfb hadm) hd eK eK'

/-- the swapped network has the same value: `(b̄·ā)·(b·a) = (b·a)·(b̄·ā) = normSq (a·b)` -/
theorem network_norm_swapped_value {R : Type} [AddCommMonoid R] [Mul R] [Neg R] [Conj R] [NetLaws R]
    (hmul : ∀ x y : R, x * y = y * x) (a b : Arr R) (xa xb : List Nat)
    (ha : a.validB = true) (hb : b.validB = true) (hfa : a.fermi = true) (hfb : b.fermi = true)
    (hadm : ValidP.tdotAdmissibleB a b xa xb = true)
    (hoA : KetLabels a.oddpos) (hoB : KetLabels b.oddpos)
    (hd : (a.oddpos ++ b.oddpos).Pairwise (fun x y => x.1 ≠ y.1)) :
    ∃ K K' Kb' r r', a.tensordotF b (.pair (xa.map Int.ofNat) (xb.map Int.ofNat)) .blockwise = .ok K
      ∧ b.tensordotF a (.pair (xb.map Int.ofNat) (xa.map Int.ofNat)) .blockwise = .ok K'
      ∧ (NormNet.braOf b xb).tensordotF (NormNet.braOf a xa) (.pair (xb.map Int.ofNat) (xa.map Int.ofNat)) .blockwise
          = .ok Kb'
      ∧ Kb'.tensordotF K' (allAxes K'.ndim) .blockwise = .ok r
      ∧ K'.tensordotF Kb' (allAxes K'.ndim) .blockwise = .ok r'
      ∧ r.ndim = 0 ∧ r.oddpos = [] ∧ r'.ndim = 0 ∧ r'.oddpos = []
      ∧ r.elem [] [] = normSq K ∧ r'.elem [] [] = normSq K := by
  obtain ⟨K, _, eK, _⟩ := NormNet.conj_tensordot a b xa xb ha hb hfa hfb hadm hoA hoB hd
  obtain ⟨K', Kb', r, r', e1, e2, -, -, -, -, -, -, h1, ⟨h2, h3, h4⟩, g1, ⟨g2, g3, g4⟩⟩ :=
    network_norm_halves b a xb xa hb ha hfb hfa (admB_swap ha hb hfa hfb hadm) hoB hoA (labels_swap hd)
  have hsw := NormNet.normSq_swap hmul a b K K' xa xb (RoutesP.Adm.of ha hb hfa hfb hadm) hd eK e1
  exact ⟨K, K', Kb', r, r', eK, e1, e2, h1, g1, h2, h3, g2, g3, by rw [h4, hsw],
    by rw [g4, normSq'_eq hmul, hsw]⟩

/-! ## non-vacuity -/

open scoped SymmModel.Lazy

/-- the pruned network of `C10.tensorwise_pruned_witness` (guard `netFullB` false, `K̄` not
    `tdotAdmissibleB` with `a`) satisfies the unguarded statement -/
example : Bracketings6 gAs C03.gB [2] [0] :=
  network_norm_bracketings_oneKet gAs C03.gB [2] [0] (by decide +kernel) (by decide +kernel) rfl rfl
    (by decide +kernel) (Or.inr ⟨1, rfl⟩) (Or.inr ⟨3, rfl⟩) (by decide)

example : netFullB gAs C03.gB [2] [0] = false
    ∧ seqVals gAs C03.gB [2] [0] = [[2174], [2174], [2174], [2174], [2174]] :=
  ⟨tensorwise_pruned_witness.2.2.1, tensorwise_pruned_witness.2.2.2.2⟩

example : Bracketings6 C03.gA C03.gB [1, 2] [1, 0] :=
  network_norm_bracketings_oneKet C03.gA C03.gB [1, 2] [1, 0] (by decide +kernel) (by decide +kernel)
    rfl rfl (by decide +kernel) (Or.inr ⟨1, rfl⟩) (Or.inr ⟨3, rfl⟩) (by decide)

/-- an operand with THREE ket labels (`NormNet.exO3`, labels 2, 5, 9) against `C03.gA` (label 1):
    the label check evaluates to `true` (as `LabelAlg.netLabelsB_of_distinct` says it must) -/
example : netLabelsB NormNet.exO3.parity C03.gA.parity NormNet.exO3.oddpos C03.gA.oddpos = true := by
  decide +kernel

example : Bracketings6 NormNet.exO3 C03.gA [1] [0] :=
  network_norm_bracketings NormNet.exO3 C03.gA [1] [0] (by decide +kernel) (by decide +kernel) rfl rfl
    (by decide +kernel) (by unfold KetLabels; decide) (OneKet.ketLabels (Or.inr ⟨1, rfl⟩))
    (by decide) (by decide +kernel)

example : seqVals NormNet.exO3 C03.gA [1] [0] = [[1726], [1726], [1726], [1726], [1726]] :=
  Except.ok.inj ((seqVals_eq (network_norm_bracketings NormNet.exO3 C03.gA [1] [0] (by decide +kernel)
    (by decide +kernel) rfl rfl (by decide +kernel) (by unfold KetLabels; decide)
    (OneKet.ketLabels (Or.inr ⟨1, rfl⟩)) (by decide) (by decide +kernel))).symm.trans
    (by decide +kernel))

example : (match C03.gB.tensordotF C03.gA (.pair [0] [2]) .blockwise,
      C03.gA.tensordotF C03.gB (.pair [2] [0]) .blockwise with
    | .ok K', .ok K => [normSq K', normSq K] | _, _ => []) = [16422, 16422] := by decide +kernel

/-- the label check on further sorted ket patterns (both operands with several labels) -/
example : netLabelsB true true [(2, false), (5, false), (9, false)] [(1, false), (4, false), (7, false)]
      = true
    ∧ netLabelsB false false [(2, false), (5, false)] [(1, false), (7, false)] = true
    ∧ netLabelsB true false [(3, false)] [(1, false), (7, false)] = true
    ∧ netLabelsB false true [(2, false), (5, false)] [(1, false)] = true := by decide +kernel

end SymmModel.C10
