/-
  C02 (second part) — Abelian contraction equals dense contraction: the dense-level statement,
  trace, single-operand einsum, block shapes, matrix product, outer product.

  Theorems about `tensordotBlockwise`, `traceA`, `einsumA`, `matmulA` (`Model/Tdot.lean`) and
  `Arr.toDenseA` (`Model/Arr.lean`), for ABELIAN arrays, every symmetry / rank / sparsity pattern
  and every scalar type `R` (`[AddMonoid R]` for value views that only rewrite the model's left
  folds as sums; `[AddCommMonoid R]` plus `0 * x = 0 = x * 0` where sums are re-indexed from
  stored sectors / dense positions to charge tuples and offsets).

  Vocabulary (namespace `SymmModel.TdotP`, `Proofs/TdotMore.lean`):
  `tensordotUnpruned a b xa xb` = `tensordotBlockwise a b (freeAxes …) xa xb (freeAxes …)` with the
  index tables `without a.indices xa ++ without b.indices xb` (the free indices as they are;
  `tensordotBlockwise` additionally drops the charges that no block uses, which changes the dense
  shape but no stored value: `tensordotUnpruned_elem`).  `Located idx p sec off` = pointwise form
  of `Arr.locateAll`.  `diagSum a s` = `Σ_{i < min(d0,d1)} a.elem s [i,i]`.
  `einTraced/einSize/einIdx/einKeep/einPerm?` = the pieces of `Blk.einsumK` / `einsumA`.
-/
import SymmModel.Props.C02
import SymmModel.Props.C01
import SymmModel.Proofs.TdotMore

namespace SymmModel.C02
open SymmModel SymmModel.TdotP

variable {R : Type}

/-- no index has an empty charge table (`to_dense` raises otherwise; same as `C08.NoEmpty`) -/
abbrev NoEmpty (a : Arr R) : Prop := a.indices.any (fun ix => ix.cm.isEmpty) = false

theorem tensordotUnpruned_same_elem [Zero R] [Add R] [Mul R] [Neg R] (a b : Arr R) (xa xb : List Nat)
    (s : Sector) (o : List Nat) :
    (tensordotUnpruned a b xa xb).elem s o =
      (tensordotBlockwise a b (freeAxes a.ndim xa) xa xb (freeAxes b.ndim xb)).elem s o := by
  unfold Arr.elem tensordotUnpruned
  rfl

/-- For valid abelian operands whose contracted indices match
    (`contractibleB`: same charge table, opposite direction), distinct in-range axes and no empty
    charge table: densifying the blockwise contraction (with the un-pruned result tables, i.e.
    "placed into the charge sectors of the uncontracted indices") gives exactly
    `np.tensordot(a.to_dense(), b.to_dense(), axes)`. -/
theorem tensordotBlockwise_toDense [AddCommMonoid R] [Mul R] [Neg R]
    (hz1 : ∀ x : R, 0 * x = 0) (hz2 : ∀ x : R, x * 0 = 0) (a b : Arr R) (xa xb : List Nat)
    (ha : a.validB = true) (hb : b.validB = true) (hfa : a.fermi = false) (hfb : b.fermi = false)
    (hc : ValidP.contractibleB a b xa xb = true)
    (hnA : allDistinct xa = true) (hnB : allDistinct xb = true)
    (hA : xa.all (fun i => decide (i < a.ndim)) = true)
    (hB : xb.all (fun i => decide (i < b.ndim)) = true)
    (hea : NoEmpty a) (heb : NoEmpty b) :
    ∃ dA dB, a.toDenseA = .ok dA ∧ b.toDenseA = .ok dB ∧ dA.shape = a.shape ∧ dB.shape = b.shape ∧
      (tensordotUnpruned a b xa xb).toDenseA = .ok (dA.tensordotK dB xa xb) := by
  have hxa' : ∀ x ∈ xa, x < a.ndim := by simpa using hA
  have hxb' : ∀ x ∈ xb, x < b.ndim := by simpa using hB
  obtain ⟨hlen, hcm⟩ := cm_eq_of_contractibleB hc hxa' hxb'
  exact tensordotUnpruned_toDense hz1 hz2 a b xa xb (Arr.phases_nil_of_validB ha hfa)
    (Arr.phases_nil_of_validB hb hfb) (Arr.allDistinct_of_validB ha) (Arr.allDistinct_of_validB hb)
    (Arr.shapesOk_of_validB ha) (Arr.shapesOk_of_validB hb) (keys_nodup_of_validB ha)
    (keys_nodup_of_validB hb) (allDistinct_iff_nodup.mp hnA) hxa' (allDistinct_iff_nodup.mp hnB) hxb'
    hlen hcm hea heb

/-- the same entry by entry: dense entry at `pL ++ pR` = `Σ_{pK} A[merge pK pL] · B[merge pK pR]`
    over the dense positions `pK` of the contracted indices -/
theorem tensordotBlockwise_dense_entry [AddCommMonoid R] [Mul R] [Neg R]
    (hz1 : ∀ x : R, 0 * x = 0) (hz2 : ∀ x : R, x * 0 = 0) (a b : Arr R) (xa xb : List Nat)
    (ha : a.validB = true) (hb : b.validB = true) (hfa : a.fermi = false) (hfb : b.fermi = false)
    (hc : ValidP.contractibleB a b xa xb = true)
    (hnA : allDistinct xa = true) (hnB : allDistinct xb = true)
    (hA : xa.all (fun i => decide (i < a.ndim)) = true)
    (hB : xb.all (fun i => decide (i < b.ndim)) = true)
    (hea : NoEmpty a) (heb : NoEmpty b) :
    ∃ dA dB dC, a.toDenseA = .ok dA ∧ b.toDenseA = .ok dB ∧
      (tensordotUnpruned a b xa xb).toDenseA = .ok dC ∧
      ∀ pL pR, inBox (permuted a.shape (freeAxes a.ndim xa)) pL = true →
        inBox (permuted b.shape (freeAxes b.ndim xb)) pR = true →
        dC.get (pL ++ pR) =
          ((allIdx (permuted a.shape xa)).map (fun pK =>
            dA.get (mergeIdx 0 a.ndim xa (freeAxes a.ndim xa) pK pL) *
            dB.get (mergeIdx 0 b.ndim xb (freeAxes b.ndim xb) pK pR))).sum := by
  obtain ⟨dA, dB, hAok, hBok, hAsh, hBsh, hCok⟩ :=
    tensordotBlockwise_toDense hz1 hz2 a b xa xb ha hb hfa hfb hc hnA hnB hA hB hea heb
  refine ⟨dA, dB, _, hAok, hBok, hCok, ?_⟩
  intro pL pR hpL hpR
  have easl := TdotP.Arr.shape_length a
  have ebsl := TdotP.Arr.shape_length b
  have hl : pL.length = (freeAxes dA.shape.length xa).length := by
    rw [inBox_length hpL, hAsh, easl, permuted_length _ _ (by rw [easl]; exact mem_freeAxes_lt)]
  rw [Blk.tensordotK_get dA dB xa xb hl (by
    rw [Blk.tensordotK_shape, hAsh, hBsh, easl, ebsl,
      inBox_append (by rw [inBox_length hpL]), hpL, hpR]; rfl)]
  simp only [Blk.tdTerm, hAsh, hBsh, easl, ebsl]

example : ValidP.contractibleB exA exB [1, 2] [0, 1] = true ∧ NoEmpty exA ∧ NoEmpty exB
    ∧ exA.fermi = false ∧ exB.fermi = false := by decide
-- sanity: dense shapes 3×3×4 and 3×4×2, result 3×2; both sides computed
example :
    (match exA.toDenseA, exB.toDenseA, (tensordotUnpruned exA exB [1, 2] [0, 1]).toDenseA with
     | .ok dA, .ok dB, .ok dC => dC.data == (dA.tensordotK dB [1, 2] [0, 1]).data
         && dC.shape == [3, 2] && dC.data == #[19, 0, 49, 0, 0, 38]
     | _, _, _ => false) = true := by decide +kernel

/-- the box in `tensordotBlockwise_elem` is the block's own box -/
theorem tensordotBlockwise_shapes_unpruned [Zero R] [Add R] [Mul R] (a b : Arr R) (xa xb : List Nat)
    (hsa : a.shapesOk) (hsb : b.shapesOk) (s : Sector) (blk : Blk R)
    (h : (s, blk) ∈ (tensordotBlockwise a b (freeAxes a.ndim xa) xa xb (freeAxes b.ndim xb)).blocks) :
    blk.shape = Arr.blockShapeD (without a.indices xa ++ without b.indices xb) s :=
  tensordotBlockwise_block_shape hsa hsb h

/-- For valid contractible operands every result block also has the
    shape that the result's own (pruned) index tables assign to its sector (from
    `C01.tensordotBlockwise_valid`), so pruned and un-pruned tables give the same box to every
    stored sector. -/
theorem tensordotBlockwise_shapes [Zero R] [Add R] [Mul R] (a b : Arr R) (xa xb : List Nat)
    (ha : a.validB = true) (hb : b.validB = true) (hsym : a.sym = b.sym) (hfa : a.fermi = false)
    (hc : ValidP.contractibleB a b xa xb = true)
    (hnA : allDistinct xa = true) (hnB : allDistinct xb = true)
    (hA : xa.all (fun i => decide (i < a.ndim)) = true)
    (hB : xb.all (fun i => decide (i < b.ndim)) = true) (s : Sector) (blk : Blk R)
    (h : (s, blk) ∈ (tensordotBlockwise a b (freeAxes a.ndim xa) xa xb (freeAxes b.ndim xb)).blocks) :
    Arr.blockShape? (tensordotBlockwise a b (freeAxes a.ndim xa) xa xb (freeAxes b.ndim xb)).indices s
        = some blk.shape ∧
    Arr.blockShapeD (tensordotBlockwise a b (freeAxes a.ndim xa) xa xb (freeAxes b.ndim xb)).indices s
        = Arr.blockShapeD (without a.indices xa ++ without b.indices xb) s := by
  have hv := C01.tensordotBlockwise_valid a b xa xb ha hb hsym hfa hc hnA hnB hA hB
  rw [without_range, without_range] at hv
  have h1 := Arr.shapesOk_of_validB hv (s, blk) h
  refine ⟨h1, ?_⟩
  rw [Arr.blockShapeD, h1,
    ← tensordotBlockwise_block_shape (Arr.shapesOk_of_validB ha) (Arr.shapesOk_of_validB hb) h]
  rfl

/-- `a.trace()` of a rank-2 abelian array with distinct sectors is the sum over
    the stored diagonal sectors `[c, c]` of `Σ_i a.elem [c,c] [i,i]`. -/
theorem traceA_elem [AddMonoid R] [Neg R] (a : Arr R) (h2 : a.ndim = 2) (hpa : a.phases = [])
    (hda : allDistinct a.sectors = true) (hsa : a.shapesOk) :
    traceA a = .ok (((a.sectors.filter (fun s => s[0]? == s[1]?)).map (diagSum a)).sum) :=
  traceA_elem' a h2 hpa hda hsa

/-- When the two indices have the same sorted charge table (for a valid array:
    the same `cm`), `a.trace() = np.trace(a.to_dense())`. -/
theorem traceA_toDense [AddCommMonoid R] [Neg R] (a : Arr R) (ix0 ix1 : Index)
    (hidx : a.indices = [ix0, ix1]) (hcm : Index.sortCm ix0.cm = Index.sortCm ix1.cm)
    (ha : a.validB = true) (hfa : a.fermi = false) (hea : NoEmpty a) :
    ∃ dA, a.toDenseA = .ok dA ∧ traceA a = .ok dA.traceK :=
  traceA_toDense' a ix0 ix1 hidx hcm (Arr.phases_nil_of_validB ha hfa) (Arr.allDistinct_of_validB ha)
    (Arr.shapesOk_of_validB ha) (keys_nodup_of_validB ha) hea

/-- a 3×3 matrix `m[i,j]` (Z2, charge 0): blocks (0,0) 2×2 and (1,1) 1×1 -/
def exM : Arr Int :=
  { sym := .Z2, fermi := false, indices := [ixI, ixI.conj], charge := c0,
    blocks := [([c0, c0], mkB [2, 2] 1), ([c1, c1], mkB [1, 1] 10)] }
/-- the same with the (1,1) block missing -/
def exM' : Arr Int := { exM with blocks := [([c0, c0], mkB [2, 2] 1)] }

example : exM.validB = true ∧ exM'.validB = true ∧ NoEmpty exM
    ∧ Index.sortCm ixI.cm = Index.sortCm ixI.conj.cm := by decide +kernel
example : traceA exM = .ok 15 ∧ traceA exM' = .ok 5
    ∧ ((exM.sectors.filter (fun s => s[0]? == s[1]?)).map (diagSum exM)).sum = 15
    ∧ (match exM.toDenseA, exM'.toDenseA with
       | .ok d, .ok d' => d.traceK == 15 && d'.traceK == 5
       | _, _ => false) = true := by decide +kernel

theorem einsumK_get [AddMonoid R] (b : Blk R) (lhs rhs : List Nat) (i : List Nat)
    (h : inBox (b.einsumK lhs rhs).shape i = true) :
    (b.einsumK lhs rhs).get i =
      ((allIdx ((einTraced lhs rhs).map (einSize b.shape lhs))).map
        (fun t => b.get (einIdx lhs rhs i t))).sum :=
  Blk.einsumK_get b lhs rhs h

/-- `a.einsum("lhs->rhs")` when every output label occurs in `lhs`
    (`einPerm? = ok perm`) and every traced label occurs exactly twice: the result has the
    permuted indices; its keys are the permuted kept parts of the stored sectors whose traced pairs
    carry equal charges (first-appearance order); and its element at `(s', o')` is the sum over
    those stored sectors `s` with kept part `s'` of the sum over the traced box of
    `a.elem s (offsets assembled from o' and the traced offsets)`. -/
theorem einsumA_elem [AddMonoid R] [Neg R] (a : Arr R) (lhs rhs perm : List Nat)
    (hperm : einPerm? lhs rhs = .ok perm)
    (h2 : (einTracedPos lhs rhs).any (fun js => js.length != 2) = false)
    (hpa : a.phases = []) (hda : allDistinct a.sectors = true) (hsa : a.shapesOk)
    (s' : Sector) (o' : List Nat)
    (ho : ∀ s ∈ a.sectors, einKeep lhs rhs s = true → permuted s perm = s' →
      inBox (rhs.map (einSize (Arr.blockShapeD a.indices s) lhs)) o' = true) :
    ∃ c, einsumA a lhs rhs = .ok c ∧ c.indices = permuted a.indices perm ∧
      c.sectors = ((a.sectors.filter (einKeep lhs rhs)).map (fun s => permuted s perm)).eraseDups ∧
      c.elem s' o' =
        ((a.sectors.filter (fun s => einKeep lhs rhs s && permuted s perm == s')).map (fun s =>
          ((allIdx ((einTraced lhs rhs).map (einSize (Arr.blockShapeD a.indices s) lhs))).map
            (fun t => a.elem s (einIdx lhs rhs o' t))).sum)).sum :=
  einsumA_elem' a lhs rhs perm hperm h2 hpa hda hsa s' o' ho

theorem einPerm_ok (lhs rhs : List Nat) (h : ∀ q ∈ rhs, q ∈ lhs) :
    einPerm? lhs rhs = .ok (rhs.map (fun q => (indexOf? lhs q).getD 0)) :=
  einPerm?_ok lhs rhs h

-- "ii->" on the matrix (two sectors accumulate into the key []), and "ijk->kij" on `exA`
example : einPerm? [0, 0] [] = .ok [] ∧ (einTracedPos [0, 0] []).any (fun js => js.length != 2) = false
    ∧ einPerm? [0, 1, 2] [2, 0, 1] = .ok [2, 0, 1]
    ∧ (einTracedPos [0, 1, 2] [2, 0, 1]).any (fun js => js.length != 2) = false := by decide
example :
    (match einsumA exM [0, 0] [] with
     | .ok c => c.sectors == [[]] && c.elem [] [] == 15
     | .error _ => false) = true
    ∧ ((exM.sectors.filter (fun s => einKeep [0, 0] [] s && permuted s [] == [])).map (fun s =>
        ((allIdx ((einTraced [0, 0] []).map (einSize (Arr.blockShapeD exM.indices s) [0, 0]))).map
          (fun t => exM.elem s (einIdx [0, 0] [] [] t))).sum)).sum = 15 := by decide +kernel
example :
    (match einsumA exA [0, 1, 2] [2, 0, 1] with
     | .ok c => c.sectors == [[c0, c0, c0], [c1, c0, c1], [c1, c1, c0]]
         && c.elem [c1, c0, c1] [1, 1, 0] == exA.elem [c0, c1, c1] [1, 0, 1]
     | .error _ => false) = true := by decide +kernel

/-- `a @ b` for two matrices: the flagship with axes `[1]`, `[0]`. -/
theorem matmulA_elem [AddMonoid R] [Mul R] [Neg R] (a b : Arr R) (h2a : a.ndim = 2) (h2b : b.ndim = 2)
    (hpa : a.phases = []) (hpb : b.phases = [])
    (hda : allDistinct a.sectors = true) (hdb : allDistinct b.sectors = true)
    (hsa : a.shapesOk) (hsb : b.shapesOk) :
    ∃ c, matmulA a b = .ok c ∧ ∀ (s : Sector) (o : List Nat),
      inBox (Arr.blockShapeD (without a.indices [1] ++ without b.indices [0]) s) o = true →
      c.elem s o =
        ((storedPairs a b (freeAxes a.ndim [1]) [1] [0] (freeAxes b.ndim [0]) s).map
          (contractPair a b [1] [0] (o.take (freeAxes a.ndim [1]).length)
            (o.drop (freeAxes a.ndim [1]).length))).sum :=
  ⟨_, matmulA_matrices a b h2a h2b, fun s o ho =>
    tensordotBlockwise_elem a b [1] [0] hpa hpb hda hdb hsa hsb s o ho⟩

/-- … and at dense level `(a @ b).to_dense() = np.tensordot(A, B, ([1],[0]))` (un-pruned tables) -/
theorem matmulA_toDense [AddCommMonoid R] [Mul R] [Neg R]
    (hz1 : ∀ x : R, 0 * x = 0) (hz2 : ∀ x : R, x * 0 = 0) (a b : Arr R)
    (h2a : a.ndim = 2) (h2b : b.ndim = 2)
    (ha : a.validB = true) (hb : b.validB = true) (hfa : a.fermi = false) (hfb : b.fermi = false)
    (hc : ValidP.contractibleB a b [1] [0] = true) (hea : NoEmpty a) (heb : NoEmpty b) :
    ∃ c dA dB, matmulA a b = .ok c ∧ a.toDenseA = .ok dA ∧ b.toDenseA = .ok dB ∧
      ({ c with indices := without a.indices [1] ++ without b.indices [0] } : Arr R).toDenseA =
        .ok (dA.tensordotK dB [1] [0]) := by
  obtain ⟨dA, dB, hAok, hBok, _, _, hC⟩ := tensordotBlockwise_toDense hz1 hz2 a b [1] [0] ha hb hfa hfb
    hc (by decide) (by decide) (by simp [h2a]) (by simp [h2b]) hea heb
  exact ⟨_, dA, dB, matmulA_matrices a b h2a h2b, hAok, hBok, hC⟩

/-- No contracted axes: the element at `(sa ++ sb, oa ++ ob)` is the product
    of the operands' elements (zero when either sector is absent). -/
theorem tensordot_outer [AddCommMonoid R] [Mul R] [Neg R]
    (hz1 : ∀ x : R, 0 * x = 0) (hz2 : ∀ x : R, x * 0 = 0) (a b : Arr R)
    (hpa : a.phases = []) (hpb : b.phases = [])
    (hda : allDistinct a.sectors = true) (hdb : allDistinct b.sectors = true)
    (hsa : a.shapesOk) (hsb : b.shapesOk) (sa sb : Sector) (oa ob : List Nat)
    (hsal : sa.length = a.ndim) (hsbl : sb.length = b.ndim)
    (hoal : oa.length = a.ndim) (hobl : ob.length = b.ndim)
    (ho : inBox (Arr.blockShapeD (a.indices ++ b.indices) (sa ++ sb)) (oa ++ ob) = true) :
    (tensordotBlockwise a b (freeAxes a.ndim []) [] [] (freeAxes b.ndim [])).elem (sa ++ sb) (oa ++ ob) =
      a.elem sa oa * b.elem sb ob :=
  tensordot_outer' hz1 hz2 a b hpa hpb hda hdb hsa hsb sa sb oa ob hsal hsbl hoal hobl ho

example : (tensordotBlockwise exM exM' (freeAxes 2 []) [] [] (freeAxes 2 [])).elem
      [c1, c1, c0, c0] [0, 0, 1, 0] = exM.elem [c1, c1] [0, 0] * exM'.elem [c0, c0] [1, 0]
    ∧ exM.elem [c1, c1] [0, 0] * exM'.elem [c0, c0] [1, 0] = 30
    ∧ (tensordotBlockwise exM exM' (freeAxes 2 []) [] [] (freeAxes 2 [])).elem
      [c0, c0, c1, c1] [0, 0, 0, 0] = 0 := by decide +kernel
example : (match matmulA exM exM' with
    | .ok c => c.sectors == [[c0, c0]] && c.elem [c0, c0] [1, 1] == 3 * 2 + 4 * 4
    | .error _ => false) = true := by decide +kernel

end SymmModel.C02
