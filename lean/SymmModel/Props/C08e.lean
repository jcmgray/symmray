/-
  Property C08, fifth part — the position map of `fuse_toDense` is a bijection between the
  positions of stored sectors of the original and their images in the fused dense box; reshape
  at position level for plans that consist of fuse calls (`calls_toDense`).
  (Parts one to four: Props/C08.lean … C08d.lean; umbrella: Props/C08All4.lean.  The dense form of
  the single-operand einsum with traced labels is stated under C02: Props/C02c.lean.)

  `Dense5.FuseRel a x groups s offs ns i` (Proofs/Dense3d.lean) is the relation of `fuse_toDense`
  between an address `(s, offs)` of the original and an address `(ns, i)` of the fused array
  (`splitAddr` on every multi-axis group axis, the entries themselves on single-axis group axes,
  the permuted lists in front / group / back form).
-/
import SymmModel.Proofs.Dense5f
import SymmModel.Props.C08All3
import SymmModel.Props.C07e

namespace SymmModel.C08
open SymmModel Arr Dense5 FuseP ReshapeP

variable {R : Type}

/-- the forward half of `fuse_toDense` in terms of `FuseRel`: every position of a stored sector
    has an image, related to it by `FuseRel`, holding the same entry -/
theorem fuse_forward_rel [Zero R] [Neg R] (a : Arr R) (groups : List (List Nat))
    (hv : a.validB = true) (hg : C05.groupsOkB groups a.ndim = true) (hnf : a.fermi = false)
    (hne : NoEmpty a) (x : Arr R) (hx : fuseCore a groups .insert = .ok x) (hnex : NoEmpty x) :
    ∃ dA dX, toDenseA a = .ok dA ∧ toDenseA x = .ok dX ∧
      ∀ p, inBox a.shape p = true → ∀ s offs, locateAll a.indices p = some (s, offs) →
        s ∈ a.sectors →
        ∃ P ns i, inBox x.shape P = true ∧ locateAll x.indices P = some (ns, i)
          ∧ FuseRel a x groups s offs ns i ∧ dX.get P = dA.get p := by
  obtain ⟨dA, dX, h1, h2, _, _, fwd, _⟩ := fuse_toDense a groups hv hg hnf hne x hx hnex
  refine ⟨dA, dX, h1, h2, fun p hp s offs hl hs => ?_⟩
  obtain ⟨P, ns, i, hP, hlP, _, r1, r2, r3, r4, hval⟩ := fwd p hp s offs hl hs
  exact ⟨P, ns, i, hP, hlP, ⟨r1, r2, r3, r4⟩, hval⟩

/-- **injective**: two positions of the original whose addresses are tied (`FuseRel`) to the same
    address of the fused array are the same position -/
theorem fuse_position_injective (a x : Arr R) (groups : List (List Nat))
    (hv : a.validB = true) (hg : C05.groupsOkB groups a.ndim = true)
    (p1 p2 : List Nat) (hp1 : inBox a.shape p1 = true) (hp2 : inBox a.shape p2 = true)
    (s1 s2 : Sector) (offs1 offs2 : List Nat)
    (hl1 : locateAll a.indices p1 = some (s1, offs1)) (hl2 : locateAll a.indices p2 = some (s2, offs2))
    (ns : Sector) (i : List Nat) (h1 : FuseRel a x groups s1 offs1 ns i)
    (h2 : FuseRel a x groups s2 offs2 ns i) : p1 = p2 := by
  have hok := groupsOk_iff.1 hg
  have hpl1 : p1.length = a.indices.length := by simpa [Arr.shape] using inBox_length hp1
  have hpl2 : p2.length = a.indices.length := by simpa [Arr.shape] using inBox_length hp2
  obtain ⟨a1, b1⟩ := locateAll_length hl1 hpl1
  obtain ⟨a2, b2⟩ := locateAll_length hl2 hpl2
  obtain ⟨e1, e2⟩ := fuseRel_injective a x groups hok a1 a2 b1 b2 h1 h2
  subst e1; subst e2
  exact locateAll_inj (validB_shapesOk hv).1 hpl1 hpl2 hl1 hl2

/-- **single-valued**: a position of the original has at most one image -/
theorem fuse_position_functional [Zero R] (a x : Arr R) (groups : List (List Nat))
    (hv : a.validB = true) (hg : C05.groupsOkB groups a.ndim = true) (hnf : a.fermi = false)
    (hx : fuseCore a groups .insert = .ok x)
    (s : Sector) (offs : List Nat)
    (P1 P2 : List Nat) (hP1 : inBox x.shape P1 = true) (hP2 : inBox x.shape P2 = true)
    (ns1 ns2 : Sector) (i1 i2 : List Nat)
    (hl1 : locateAll x.indices P1 = some (ns1, i1)) (hl2 : locateAll x.indices P2 = some (ns2, i2))
    (h1 : FuseRel a x groups s offs ns1 i1) (h2 : FuseRel a x groups s offs ns2 i2) : P1 = P2 := by
  have hva := validArr_of_validB hv
  have hok := groupsOk_iff.1 hg
  have hx' := fuseCore_multi_eq hva hok.adm
  rw [hx] at hx'
  injection hx' with hx'
  subst hx'
  have hadm := FuseP.admissible_of_groupsOk (FuseP.groupsOk_iff.1 hg)
  have hxv : (fusedArrM a groups).validB = true :=
    ValidP.fuseCore_insert_validB a _ groups hv hnf hadm hx
  have hxl : (fusedArrM a groups).indices.length = ndimM a groups := newIdxM_length hok.adm
  have hpl1 : P1.length = (fusedArrM a groups).indices.length := by
    simpa [Arr.shape] using inBox_length hP1
  have hpl2 : P2.length = (fusedArrM a groups).indices.length := by
    simpa [Arr.shape] using inBox_length hP2
  obtain ⟨a1, b1⟩ := locateAll_length hl1 hpl1
  obtain ⟨a2, b2⟩ := locateAll_length hl2 hpl2
  obtain ⟨e1, e2⟩ := fuseRel_functional a (fusedArrM a groups) groups a.sym
    (fun g gaxes hgg hlen => ixM_wf hva hok.adm _)
    (n := ndimM a groups)
    (by rw [a1, hxl]) (by rw [a2, hxl]) (by rw [b1, hxl]) (by rw [b2, hxl]) h1 h2
  subst e1; subst e2
  exact locateAll_inj (validB_shapesOk hxv).1 hpl1 hpl2 hl1 hl2

/-! ## reshape at position level: plans with several fuse calls

`PosRel a x groups p P` (Proofs/Dense5f.lean) is the position relation of ONE fuse call — the
relation of the backward half of `fuse_toDense`, which the forward half (`FuseRel`) implies;
`PlanRel calls a p P` composes it along the calls (with the intermediate arrays and positions
existentially quantified); `CallsOk calls a`: every call is admissible for the array it is applied
to and produces an array without empty charge table (`callsOkB`: the same, decided by running the
calls).  The row-major reshape is in the tables: on every fused axis `splitAddr` inverts
"start of the sub-sector + row-major `ravel` of the sub-offsets" (C05 `extentStart?_spec`). -/

/-- **dense form along the fuse calls of a plan**: every position of a stored sector of `a` has an
    image in the dense box of the result, related to it by the composed relation, with the same
    entry; every position of the result holds `0` or is such an image -/
theorem calls_toDense [Zero R] [Neg R] (calls : List (List (List Nat))) (a : Arr R)
    (hv : a.validB = true) (hf : a.fermi = false) (hne : NoEmpty a) (hok : CallsOk calls a)
    (y : Arr R) (hy : runCalls calls a = .ok y) :
    ∃ dA dY, toDenseA a = .ok dA ∧ toDenseA y = .ok dY ∧ dA.shape = a.shape ∧ dY.shape = y.shape
      ∧ (∀ p, inBox a.shape p = true → ∀ s offs, locateAll a.indices p = some (s, offs) →
          s ∈ a.sectors →
          ∃ P ns i, inBox y.shape P = true ∧ locateAll y.indices P = some (ns, i) ∧ ns ∈ y.sectors
            ∧ PlanRel calls a p P ∧ dY.get P = dA.get p)
      ∧ (∀ P, inBox y.shape P = true → dY.get P = 0 ∨
          ∃ p s offs, inBox a.shape p = true ∧ locateAll a.indices p = some (s, offs)
            ∧ s ∈ a.sectors ∧ PlanRel calls a p P ∧ dY.get P = dA.get p) := by
  induction calls generalizing a with
  | nil =>
    simp only [runCalls, List.foldlM_nil, pure, Except.pure, Except.ok.injEq] at hy
    subst hy
    obtain ⟨dA, hdA, hsA, -⟩ := Arr.toDenseA_get a hne
    refine ⟨dA, dA, hdA, hdA, hsA, hsA, ?_, ?_⟩
    · intro p hp s offs hl hs
      exact ⟨p, s, offs, hp, hl, hs, rfl, rfl⟩
    · intro P hP
      obtain ⟨s, offs, hl⟩ := locateAll_isSome (idx := a.indices) (p := P) hP
      by_cases hs : s ∈ a.sectors
      · exact Or.inr ⟨P, s, offs, hP, hl, hs, rfl, rfl⟩
      · exact Or.inl ((DenseOk.of_validB hv hf hne).get_eq_zero hdA hP hl hs)
  | cons g rest ih =>
    obtain ⟨hg, hrest⟩ := hok
    simp only [runCalls, List.foldlM_cons, bind, Except.bind] at hy
    cases hx : fuseCore a g .insert with
    | error e => rw [hx] at hy; cases hy
    | ok x =>
      rw [hx] at hy
      simp only at hy
      obtain ⟨hnex, hokx⟩ := hrest x hx
      obtain ⟨hxv, hxf⟩ := fuseCore_keeps hv hf hg hx
      obtain ⟨dA, dX, e1, e2, e3, e4, fwd, bwd⟩ := C08.fuse_toDense a g hv hg hf hne x hx hnex
      obtain ⟨dX', dY, f1, f2, f3, f4, fwd', bwd'⟩ := ih x hxv hxf hnex hokx hy
      rw [e2] at f1; injection f1 with f1; subst f1
      refine ⟨dA, dY, e1, f2, e3, f4, ?_, ?_⟩
      · intro p hp s offs hl hs
        obtain ⟨P1, ns1, i1, hP1, hlP1, hns1, r1, r2, r3, r4, hval1⟩ := fwd p hp s offs hl hs
        obtain ⟨P, ns, i, hP, hlP, hns, hrel, hval⟩ := fwd' P1 hP1 ns1 i1 hlP1 hns1
        refine ⟨P, ns, i, hP, hlP, hns, ⟨x, P1, hx, ?_, hrel⟩, by rw [hval, hval1]⟩
        exact posRel_of_fuseRel hl hs hlP1 hns1 ⟨r1, r2, r3, r4⟩
      · intro P hP
        rcases bwd' P hP with h0 | ⟨P1, ns1, i1, hP1, hlP1, hns1, hrel, hval⟩
        · exact Or.inl h0
        · rcases bwd P1 hP1 ns1 i1 hlP1 with h0 | ⟨p, s, offs, segs, hp, hl, hs, hnsx, q1, q2, q3, q4, hval1⟩
          · left; rw [hval, h0]
          · right
            refine ⟨p, s, offs, hp, hl, hs, ⟨x, P1, hx, ?_, hrel⟩, by rw [hval, hval1]⟩
            exact ⟨s, offs, ns1, i1, segs, hl, hs, hlP1, hnsx, q1, q2, q3, q4⟩

/-- **reshape_toDense, several calls**: when the planner returns `([], calls, [])` (no unfuse, no
    expand: the target merges runs of adjacent axes), `reshape` runs the calls and its dense form
    is described by `calls_toDense` -/
theorem reshape_toDense_calls [Zero R] [Neg R] (a : Arr R) (ns full : List Int) (nsN : List Nat)
    (calls : List (List (List Nat))) (hv : a.validB = true) (hf : a.fermi = false)
    (h1 : findFullReshape ns a.size = .ok full)
    (h2 : full.mapM (fun (d : Int) => if d < 0 then (throw Err.notimpl : Except Err Nat) else pure d.toNat)
      = .ok nsN)
    (h3 : calcReshapeArgs a.shape nsN a.subsizes = .ok ([], calls, []))
    (hok : CallsOk calls a) (hne : NoEmpty a) (y : Arr R) (hy : reshapeArr a ns = .ok y) :
    runCalls calls a = .ok y
    ∧ ∃ dA dY, toDenseA a = .ok dA ∧ toDenseA y = .ok dY ∧ dA.shape = a.shape ∧ dY.shape = y.shape
      ∧ (∀ p, inBox a.shape p = true → ∀ s offs, locateAll a.indices p = some (s, offs) →
          s ∈ a.sectors →
          ∃ P ns' i, inBox y.shape P = true ∧ locateAll y.indices P = some (ns', i) ∧ ns' ∈ y.sectors
            ∧ PlanRel calls a p P ∧ dY.get P = dA.get p)
      ∧ (∀ P, inBox y.shape P = true → dY.get P = 0 ∨
          ∃ p s offs, inBox a.shape p = true ∧ locateAll a.indices p = some (s, offs)
            ∧ s ∈ a.sectors ∧ PlanRel calls a p P ∧ dY.get P = dA.get p) := by
  have hrun : runCalls calls a = .ok y := by
    rw [← applyPlan_calls calls a hv hf hok, ← reshapeArr_eq a ns full nsN _ h1 h2 h3]; exact hy
  exact ⟨hrun, calls_toDense calls a hv hf hne hok y hrun⟩

/-- the same with the plan computed from the shapes alone (C07e `planner_forward_plan_runs`):
    `a.shape = runs.flatten`, unfused indices, target `runs.map prod` -/
theorem reshape_toDense_runs [Zero R] [Neg R] (a y : Arr R) (runs : List (List Nat))
    (hv : a.validB = true) (hf : a.fermi = false) (hnf : ∀ ix ∈ a.indices, ix.sub = none)
    (hshape : a.shape = runs.flatten) (hrk : ∀ r ∈ runs, Reshape5.RunOk r)
    (hok : CallsOk (Reshape5.callsR runs 0 []) a) (hne : NoEmpty a)
    (hy : reshapeArr a ((runs.map prod).map Int.ofNat) = .ok y) :
    runCalls (Reshape5.callsR runs 0 []) a = .ok y
    ∧ ∃ dA dY, toDenseA a = .ok dA ∧ toDenseA y = .ok dY ∧ dA.shape = a.shape ∧ dY.shape = y.shape
      ∧ (∀ p, inBox a.shape p = true → ∀ s offs, locateAll a.indices p = some (s, offs) →
          s ∈ a.sectors →
          ∃ P ns' i, inBox y.shape P = true ∧ locateAll y.indices P = some (ns', i) ∧ ns' ∈ y.sectors
            ∧ PlanRel (Reshape5.callsR runs 0 []) a p P ∧ dY.get P = dA.get p)
      ∧ (∀ P, inBox y.shape P = true → dY.get P = 0 ∨
          ∃ p s offs, inBox a.shape p = true ∧ locateAll a.indices p = some (s, offs)
            ∧ s ∈ a.sectors ∧ PlanRel (Reshape5.callsR runs 0 []) a p P ∧ dY.get P = dA.get p) :=
  reshape_toDense_calls a _ _ (runs.map prod) _ hv hf (findFullReshape_nat _ _) (mapM_toNat _)
    (by rw [subsizes_nones a hnf, hshape]; exact C07.planner_forward_plan_runs runs hrk) hok hne y hy

section Examples5
open C08.Ex C08.Ex4

-- position (2,1) of the matrix `x` and position 3 of the fused vector are related
example : FuseRel x xf [[0, 1]] [(1, 0), (1, 0)] [1, 0] [(0, 0)] [3] := by
  refine ⟨?_, ?_, ?_, ?_⟩
  · intro g gaxes hg hlen
    match g, hg with
    | 0, hg =>
      simp only [List.getElem?_cons_zero, Option.some.injEq] at hg
      subst hg
      decide +kernel
  · intro g gaxes hg hlen
    match g, hg with
    | 0, hg =>
      simp only [List.getElem?_cons_zero, Option.some.injEq] at hg
      subst hg
      simp at hlen
  · decide +kernel
  · decide +kernel
example := fuse_forward_rel (R := Int) x [[0, 1]] (by decide) (by decide) rfl (by decide) xf rfl
  (by decide +kernel)
example := fuse_position_injective (R := Int) x xf [[0, 1]] (by decide) (by decide)
example := fuse_position_functional (R := Int) x xf [[0, 1]] (by decide) (by decide) rfl rfl

-- a plan with TWO fuse calls: shape (2,2,2,2,2) → (4,2,4)
namespace Ex5
def i2 (d : Bool) : Index := .mk [((0, 0), 1), ((1, 0), 1)] d none
/-- a rank-5 Z2 array with 16 blocks, two of them removed -/
def w5 : Arr Int :=
  match fromFillFn .Z2 false [i2 false, i2 true, i2 false, i2 true, i2 false] none
      (fun s shp => Blk.ofFn shp (fun _ => (1 : Int) + (s.map (·.1)).foldl (fun acc c => 2 * acc + c) 0)) with
  | .ok b => { b with blocks := b.blocks.drop 2 }
  | .error _ => default
end Ex5
open Ex5

theorem w5_valid : w5.validB = true := by decide +kernel
theorem w5_callsOk : callsOkB [[[0, 1]], [[2, 3]]] w5 = true := by decide +kernel

example : w5.validB = true ∧ NoEmpty w5 ∧ w5.blocks.length = 14 :=
  ⟨w5_valid, by decide +kernel, by decide +kernel⟩
example : calcReshapeArgs w5.shape [4, 2, 4] w5.subsizes = .ok ([], [[[0, 1]], [[2, 3]]], [])
    ∧ Reshape5.callsR [[2, 2], [2], [2, 2]] 0 [] = [[[0, 1]], [[2, 3]]] := by decide +kernel
example : callsOkB [[[0, 1]], [[2, 3]]] w5 = true := w5_callsOk
example (y : Arr Int) (hy : reshapeArr w5 [4, 2, 4] = .ok y) :=
  reshape_toDense_runs (R := Int) w5 y [[2, 2], [2], [2, 2]] w5_valid rfl (by decide +kernel)
    (by decide +kernel) (by decide) (callsOk_of_B _ _ w5_callsOk) (by decide +kernel) hy
example : ∃ y, reshapeArr w5 [4, 2, 4] = .ok y ∧ y.shape = [4, 2, 4] := by
  -- one evaluation by the kernel of "the call succeeds and the result has this shape"
  have h : (match reshapeArr w5 [4, 2, 4] with
      | .ok y => decide (y.shape = [4, 2, 4])
      | .error _ => false) = true := by decide +kernel
  cases hr : reshapeArr w5 [4, 2, 4] with
  | error e => rw [hr] at h; cases h
  | ok y => rw [hr] at h; exact ⟨y, rfl, of_decide_eq_true h⟩

end Examples5

end SymmModel.C08
