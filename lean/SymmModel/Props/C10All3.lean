/- Property C10 — umbrella incl. C10d (sequential bracketings of the two-tensor network under the guard `netFullB`). -/
import SymmModel.Props.C10All2
import SymmModel.Props.C10d
