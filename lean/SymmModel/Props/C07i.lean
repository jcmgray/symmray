/-
  Property C07, ninth part: the forward clause as a total element bijection, and the planner's
  window test exactly.

  (1) THE FORWARD CLAUSE, ELEMENT BY ELEMENT, TOTAL (fermionic; fused inputs allowed).  For a valid
      fermionic array `a` and a plan of fuse calls (`CallsOk`), resp. `reshape(a, target)` for a merge /
      drop target, the result `y` is a valid fermionic array and `ElemBij a calls y` holds
      (Proofs/ReshapeIe.lean).  `Stored x s o`: the array `x` has a block for the sector `s` and the
      offsets `o` lie in its box.  `Pulled a calls 0 y ns i s o σ` (Proofs/ReshapeHd.lean): the address `(ns, i)` of
      `y` pulled back through all calls — split the fused axes of each call with the fused index
      tables (`splitAddr`), last call first, all intermediate addresses stored — is `(s, o)`, and `σ`
      is the product of the fuse signs `fuseSignT` of the calls.  `ZeroAt a calls 0 y ns i`: the
      pull-back reaches, after some calls, an array (the input or an intermediate one) that does NOT
      store the sector reached — a zero-filled part of a fused block.
        total   every stored address `(ns, i)` of `y`:  EITHER  it pulls back to a STORED address `(s, o)`
                of `a` and `y.elem ns i = sgnI σ (a.elem s o)`,  OR  `ZeroAt` and `y.elem ns i = 0`
        onto    every stored address `(s, o)` of `a` is the pull-back of a stored address of `y`
                (which then carries `sgnI σ (a.elem s o)`)
        inj     … of exactly one: two stored addresses of `y` with the same pull-back are equal
        func    the pull-back `(s, o, σ)` is determined by `(ns, i)`
        excl    the two cases of `total` exclude each other
      So the pull-back is a bijection from the stored addresses of `y` that are not zero-filled onto
      the stored addresses of `a`, values equal up to the explicit sign; all other stored addresses of
      `y` hold 0.
      The chain does not use "fuse stores a sector iff some source sector combining to it is stored" (the
      "only if" half is in C07j): where the source does not store the sector the one-call statement
      gives `a.elem s o = 0`; what the chain needs is that the split address lies in the box of the
      source block when the sector IS stored (`ReshapeI.fuseF_elem_box`), and, for `onto`, that fuse
      stores the image of every stored source block (`ReshapeI.block_into_F`).
        `reshape_forward_elem_fermionic_calls`      plans of fuse calls (stronger than `…_calls_partial`, C07h)
        `reshape_forward_elem_fermionic_items`      `reshape` to a merge / squeeze target in the planner's
                                                    reading (stronger than `…_items_partial`, C07h)
        `reshape_forward_elem_fermionic_mergeDrop`  `reshape` to a target obtained by merging adjacent
                                                    axes and/or dropping size-one axes (`MSeg`)
  (2) THE PLANNER'S WINDOW TEST, EXACTLY.  `visits shape newshape B fuel i j`: the pairs (input axis,
      target position) at which the first loop evaluates "do the sub-sizes of this axis equal the
      window of the requested shape starting here?".  An input axis is asked once per loop iteration
      it heads: the FIRST axis of a merge group, a kept or squeezed axis — never an inner axis of a
      merge group — at the target position its group maps to (again at the next position while a
      size-one target axis is inserted).
        `planner_visits_congr`    two tables that answer alike at the visited pairs give the same plan
        `noWinVisB`               no window match at a pair visited on `shape → newshape`
        `planner_window_exact`    whenever the planner returns a plan `t`:
                                  `t` has no unfuse step  ⇔  `noWinVisB`
        `planner_vis_unfused`     `noWinVisB` ⇒ the plan is the plan of the unfused shape
        `noWinVis_of_noWin`, `noWin_not_necessary`   `noWinB` ⇒ `noWinVisB`, not conversely
        `way_back_visits`         on the way back every axis of the intermediate array is asked exactly
                                  at the target position where its own expansion starts; hence an old
                                  fused axis that was kept is compared with the window of the ORIGINAL
                                  shape starting at that axis itself
        `noSelfWinB`              no fused axis' sub-sizes equal the window starting at that axis
                                  (`noWinB shape subsizes` ⇒ `noSelfWinB`; `noSelfWin_iff_selfWin`: this is
                                  `selfWin = false` of C07g)
  (3) THE ROUND TRIP UNDER THESE CONDITIONS: `noWinVisB a.shape target a.subsizes` (way out, exact) and
      `noSelfWinB a.shape a.subsizes` (way back; exact for the kept axes, the only ones visited):
        `reshape_roundtrip_fermionic_fused_general_exact` / `_abelian_…`
        `reshape_roundtrip_fermionic_fused_items_exact` / `_abelian_…`
        `reshape_mergeDrop_roundtrip_fermionic_fused_exact` / `_abelian_…`
      They imply the theorems of C07h (`noWinVis_of_noWin`, `noSelfWin_of_noWin`).  The counterexample
      of C07h stays excluded (`roundtrip_counterexample_excluded`).
      Not proved: the round trip with `noSelfWinB` restricted to the axes that the way out keeps (a
      fused axis that is merged on the way out is never asked on the way back).
-/
import SymmModel.Proofs.ReshapeIh
import SymmModel.Props.C07h

namespace SymmModel.C07
open SymmModel SymmModel.Reshape SymmModel.Reshape3 SymmModel.Reshape5 SymmModel.ReshapeH SymmModel.ReshapeI
open ReshapeP FuseP

/-- **the plan depends on the sub-sizes only through the window questions at the visited pairs** -/
theorem planner_visits_congr (shape newshape : List Nat) (A B : List (Option (List Nat)))
    (hlen : A.length = B.length)
    (h : ∀ p ∈ visits shape newshape B (shape.length + newshape.length) 0 0,
      unfuseMatch newshape p.2 (A.getD p.1 none) = unfuseMatch newshape p.2 (B.getD p.1 none)) :
    calcReshapeArgs shape newshape A = calcReshapeArgs shape newshape B := by
  unfold calcReshapeArgs
  rw [mainLoop_agree shape newshape A B hlen _ {} h]

/-- **no window match at a visited pair ⇒ the planner treats the input as unfused** -/
theorem planner_vis_unfused (shape newshape : List Nat) (subsizes : List (Option (List Nat)))
    (hlen : shape.length = subsizes.length) (h : noWinVisB shape newshape subsizes = true) :
    calcReshapeArgs shape newshape subsizes = calcReshapeArgs shape newshape (nones shape) :=
  planner_vis_nones shape newshape subsizes hlen h

/-- **the exact condition**: a plan returned by the planner has no unfuse step iff no visited pair
    has a window match -/
theorem planner_window_exact (shape newshape : List Nat) (subsizes : List (Option (List Nat)))
    (hlen : shape.length = subsizes.length) (t : List Nat × List (List (List Nat)) × List Nat)
    (h : calcReshapeArgs shape newshape subsizes = .ok t) :
    t.1 = [] ↔ noWinVisB shape newshape subsizes = true := by
  constructor
  · intro ht
    cases hw : noWinVisB shape newshape subsizes with
    | true => rfl
    | false => exact absurd ht (planner_vis_unfuses shape newshape subsizes hlen hw t h)
  · intro hw
    rw [planner_vis_nones shape newshape subsizes hlen hw] at h
    exact planner_no_unfuse shape newshape t h

/-- `noWinB` is sufficient … -/
theorem noWinVis_of_noWin (shape newshape : List Nat) (subsizes : List (Option (List Nat)))
    (hlen : shape.length = subsizes.length) (h : noWinB newshape subsizes = true) :
    noWinVisB shape newshape subsizes = true :=
  ReshapeI.noWinVis_of_noWin shape newshape subsizes hlen h

/-- … not necessary: (4⟨3,2⟩,2,3,2) → (8,3,2) — the sub-sizes (3,2) are a window of the target, but
    axis 0 is asked at target position 0 only; likewise on the diagonal: (4⟨2,3⟩,2,3) -/
theorem noWin_not_necessary :
    noWinB [8, 3, 2] [some [3, 2], none, none, none] = false
    ∧ noWinVisB [4, 2, 3, 2] [8, 3, 2] [some [3, 2], none, none, none] = true
    ∧ visits [4, 2, 3, 2] [8, 3, 2] (nones [4, 2, 3, 2]) 7 0 0 = [(0, 0), (2, 1), (3, 2)]
    ∧ noWinB [4, 2, 3] [some [2, 3], none, none] = false
    ∧ noSelfWinB [4, 2, 3] [some [2, 3], none, none] = true := by decide

/-- the diagonal condition follows from `noWinB` -/
theorem noSelfWin_of_noWin (shape : List Nat) (subsizes : List (Option (List Nat)))
    (hlen : shape.length = subsizes.length) (h : noWinB shape subsizes = true) :
    noSelfWinB shape subsizes = true :=
  ReshapeI.noSelfWin_of_noWin hlen h

/-- the diagonal condition is the condition `selfWin = false` of C07g (`reshape_self_plan_iff`:
    exactly when `reshape` to the current shape is the identity plan) -/
theorem noSelfWin_iff_selfWin (shape : List Nat) (subsizes : List (Option (List Nat)))
    (hlen : shape.length = subsizes.length) :
    noSelfWinB shape subsizes = true ↔ selfWin shape subsizes = false := by
  rw [selfWin_false_iff shape subsizes [] hlen]
  simp only [List.nil_append, List.length_nil, Nat.zero_add]
  constructor
  · intro h j sub hj
    exact noSelfWin_spec h hj
  · intro h
    simp only [noSelfWinB, List.all_eq_true, List.mem_range, Option.isNone_iff_eq_none]
    intro j hj
    exact h j _ (by rw [List.getD_eq_getElem?_getD, List.getElem?_eq_getElem hj]; rfl)

/-- **the pairs visited on the way back** (`st`: the intermediate symbolic shape, fused axes with their
    sub-sizes; target `tgt st`: every fused axis replaced by its sub-sizes): axis number `|pre'|` is
    asked at the target position where its own expansion starts -/
theorem way_back_visits (st : SymShape) (hok : FusedOk st) :
    ∀ p ∈ visits (SymShape.sizes st) (tgt st) (SymShape.subs st)
        ((SymShape.sizes st).length + (tgt st).length) 0 0,
      ∃ pre' e rest', st = pre' ++ e :: rest' ∧ p = (pre'.length, (tgt pre').length) :=
  visits_back st hok _

/-- the counterexample of C07h (`roundtrip_fused_window_counterexample`) is excluded by the diagonal
    condition, the way out satisfies the exact condition -/
theorem roundtrip_counterexample_excluded :
    noWinVisB [4, 2, 3] [4, 6] [some [4, 2], none, none] = true
    ∧ noSelfWinB [4, 2, 3] [some [4, 2], none, none] = false := by decide

variable {R : Type} [Zero R] [Neg R] [Lazy.LawfulNeg R]

/-- **fermionic plan of several fuse calls, element by element, TOTAL**: the plan succeeds, the result
    is a valid fermionic array and the pull-back of addresses is a sign-exact bijection from the
    stored, not zero-filled addresses of the result onto the stored addresses of the input; the
    zero-filled addresses hold 0 (`ElemBij`, spelled out in the header) -/
theorem reshape_forward_elem_fermionic_calls (a : Arr R) (calls : List (List (List Nat)))
    (hv : a.validB = true) (hf : a.fermi = true) (hc : CallsOk calls 0 a.ndim) :
    ∃ y, applyPlan a ([], calls, []) = .ok y ∧ y.validB = true ∧ y.fermi = true
      ∧ (∀ ns i, Stored y ns i →
          (∃ s o σ, Pulled a calls 0 y ns i s o σ ∧ Stored a s o ∧ y.elem ns i = Lazy.sgnI σ (a.elem s o))
          ∨ (ZeroAt a calls 0 y ns i ∧ y.elem ns i = 0))
      ∧ (∀ s o, Stored a s o →
          ∃ ns i σ, Stored y ns i ∧ Pulled a calls 0 y ns i s o σ ∧ y.elem ns i = Lazy.sgnI σ (a.elem s o))
      ∧ (∀ ns i ns' i' s o σ σ', Stored y ns i → Stored y ns' i' → Pulled a calls 0 y ns i s o σ →
          Pulled a calls 0 y ns' i' s o σ' → ns = ns' ∧ i = i')
      ∧ (∀ ns i s o σ s' o' σ', Pulled a calls 0 y ns i s o σ → Pulled a calls 0 y ns i s' o' σ' →
          s = s' ∧ o = o' ∧ σ = σ')
      ∧ (∀ ns i, ZeroAt a calls 0 y ns i → ∀ s o σ, Pulled a calls 0 y ns i s o σ → ¬ Stored a s o) := by
  obtain ⟨y, hy, hvy, hfy, hb⟩ := elemBij_calls a calls hv hf hc
  exact ⟨y, by rw [applyPlan_calls]; exact hy, hvy, hfy, hb.total, hb.onto, hb.inj, hb.func, hb.excl⟩

/-- **fermionic `reshape` to a merge / squeeze target, element by element, TOTAL** — any number of
    fuse calls, fused axes allowed, under the exact window condition
    (`hpos` is not used by the proof) -/
theorem reshape_forward_elem_fermionic_items (a : Arr R) (hv : a.validB = true)
    (hf : a.fermi = true) (items : List Item) (hshape : a.shape = shapeOf items) (hok : ItemsOk items)
    (hne : targetOf items ≠ []) (hpos : ∀ d ∈ a.shape, 0 < d)
    (hnw1 : noWinVisB a.shape (targetOf items) a.subsizes = true) :
    ∃ t y, calcReshapeArgs a.shape (targetOf items) a.subsizes = .ok t ∧ t.1 = [] ∧ t.2.2 = []
      ∧ reshapeArr a ((targetOf items).map Int.ofNat) = .ok y ∧ y.validB = true ∧ y.fermi = true
      ∧ ElemBij a t.2.1 y := by
  obtain ⟨t, h3, hu, hexp, hc, hr⟩ := reshape_items_calls a items hshape hok hne hnw1
  obtain ⟨y, hy, hvy, hfy, hb⟩ := elemBij_calls a t.2.1 hv hf hc
  exact ⟨t, y, h3, hu, hexp, hr.trans hy, hvy, hfy, hb⟩

/-- **the forward clause for fermionic arrays**: `reshape(a, target)` for a target obtained by merging
    adjacent axes and/or dropping size-one axes has at every stored address either the value of
    exactly the source element that the fused index tables prescribe, with the fuse sign, or zero;
    and every stored source element appears exactly once -/
theorem reshape_forward_elem_fermionic_mergeDrop (a : Arr R) (hv : a.validB = true) (hf : a.fermi = true)
    (segs : List MSeg) (hok : ∀ s ∈ segs, MSegOk s) (hshape : a.shape = shapeS segs)
    (hne : targetS segs ≠ []) (hnw1 : noWinVisB a.shape (targetS segs) a.subsizes = true) :
    ∃ t y, calcReshapeArgs a.shape (targetS segs) a.subsizes = .ok t ∧ t.1 = [] ∧ t.2.2 = []
      ∧ reshapeArr a ((targetS segs).map Int.ofNat) = .ok y ∧ y.validB = true ∧ y.fermi = true
      ∧ ElemBij a t.2.1 y := by
  obtain ⟨items, h1, h2, h3⟩ := normalise segs hok
  rw [← h3] at hne hnw1 ⊢
  exact reshape_forward_elem_fermionic_items a hv hf items (by rw [hshape, h2]) h1 hne
    (by rw [hshape]; exact shapeS_pos segs hok) hnw1

/-- **`reshape` there and back, fermionic, fused axes allowed, every plan without expansion**
    (`hpos`, `hprod` are not used by the proof) -/
theorem reshape_roundtrip_fermionic_fused_general_exact (a y : Arr R) (ns full : List Int) (nsN : List Nat)
    (t : List Nat × List (List (List Nat)) × List Nat)
    (hv : a.validB = true) (hf : a.fermi = true)
    (hpos : ∀ d ∈ a.shape, 0 < d) (hprod : prod a.shape = prod nsN)
    (hnw1 : noWinVisB a.shape nsN a.subsizes = true) (hnw2 : noSelfWinB a.shape a.subsizes = true)
    (h1 : findFullReshape ns a.size = .ok full)
    (h2 : full.mapM (fun (d : Int) => if d < 0 then (throw Err.notimpl : Except Err Nat) else pure d.toNat)
      = .ok nsN)
    (h3 : calcReshapeArgs a.shape nsN a.subsizes = .ok t) (hexp : t.2.2 = [])
    (hy : reshapeArr a ns = .ok y) :
    ∃ z, reshapeArr y (a.shape.map Int.ofNat) = .ok z ∧ z.validB = true ∧ z.fermi = true ∧ VEq z a := by
  obtain ⟨z, hz, g, hvz⟩ := reshape_roundtrip_vis_generic (kind_F (R := R)) a y ⟨hv, hf⟩ ns full nsN t
    hnw1 hnw2 h1 h2 h3 hexp hy
  exact ⟨z, hz, g.1, g.2, hvz⟩

/-- … abelian
    (`hpos`, `hprod` are not used by the proof) -/
theorem reshape_roundtrip_abelian_fused_general_exact (a y : Arr R) (ns full : List Int) (nsN : List Nat)
    (t : List Nat × List (List (List Nat)) × List Nat)
    (hv : a.validB = true) (hf : a.fermi = false)
    (hpos : ∀ d ∈ a.shape, 0 < d) (hprod : prod a.shape = prod nsN)
    (hnw1 : noWinVisB a.shape nsN a.subsizes = true) (hnw2 : noSelfWinB a.shape a.subsizes = true)
    (h1 : findFullReshape ns a.size = .ok full)
    (h2 : full.mapM (fun (d : Int) => if d < 0 then (throw Err.notimpl : Except Err Nat) else pure d.toNat)
      = .ok nsN)
    (h3 : calcReshapeArgs a.shape nsN a.subsizes = .ok t) (hexp : t.2.2 = [])
    (hy : reshapeArr a ns = .ok y) :
    ∃ z, reshapeArr y (a.shape.map Int.ofNat) = .ok z ∧ z.validB = true ∧ z.fermi = false ∧ VEq z a := by
  obtain ⟨z, hz, g, hvz⟩ := reshape_roundtrip_vis_generic (kind_A (R := R)) a y ⟨hv, hf⟩ ns full nsN t
    hnw1 hnw2 h1 h2 h3 hexp hy
  exact ⟨z, hz, g.1, g.2, hvz⟩

/-- **`reshape` there and back, fermionic, fused axes allowed** (merge / squeeze targets in the
    planner's reading): both reshapes succeed
    (`hpos` is not used by the proof) -/
theorem reshape_roundtrip_fermionic_fused_items_exact (a : Arr R) (hv : a.validB = true) (hf : a.fermi = true)
    (items : List Item) (hshape : a.shape = shapeOf items) (hok : ItemsOk items)
    (hne : targetOf items ≠ []) (hpos : ∀ d ∈ a.shape, 0 < d)
    (hnw1 : noWinVisB a.shape (targetOf items) a.subsizes = true)
    (hnw2 : noSelfWinB a.shape a.subsizes = true) :
    ∃ y z, reshapeArr a ((targetOf items).map Int.ofNat) = .ok y
      ∧ reshapeArr y (a.shape.map Int.ofNat) = .ok z ∧ z.validB = true ∧ z.fermi = true ∧ VEq z a := by
  obtain ⟨y, z, h1, h2, g, h3⟩ := reshape_roundtrip_items_vis_generic (kind_F (R := R)) a ⟨hv, hf⟩
    items hshape hok hne hnw1 hnw2
  exact ⟨y, z, h1, h2, g.1, g.2, h3⟩

/-- … abelian
    (`hpos` is not used by the proof) -/
theorem reshape_roundtrip_abelian_fused_items_exact (a : Arr R) (hv : a.validB = true) (hf : a.fermi = false)
    (items : List Item) (hshape : a.shape = shapeOf items) (hok : ItemsOk items)
    (hne : targetOf items ≠ []) (hpos : ∀ d ∈ a.shape, 0 < d)
    (hnw1 : noWinVisB a.shape (targetOf items) a.subsizes = true)
    (hnw2 : noSelfWinB a.shape a.subsizes = true) :
    ∃ y z, reshapeArr a ((targetOf items).map Int.ofNat) = .ok y
      ∧ reshapeArr y (a.shape.map Int.ofNat) = .ok z ∧ z.validB = true ∧ z.fermi = false ∧ VEq z a := by
  obtain ⟨y, z, h1, h2, g, h3⟩ := reshape_roundtrip_items_vis_generic (kind_A (R := R)) a ⟨hv, hf⟩
    items hshape hok hne hnw1 hnw2
  exact ⟨y, z, h1, h2, g.1, g.2, h3⟩

/-- **the round-trip clause, fermionic arrays with fused axes, exact window conditions** -/
theorem reshape_mergeDrop_roundtrip_fermionic_fused_exact (a : Arr R) (hv : a.validB = true)
    (hf : a.fermi = true) (segs : List MSeg) (hok : ∀ s ∈ segs, MSegOk s) (hshape : a.shape = shapeS segs)
    (hne : targetS segs ≠ [])
    (hnw1 : noWinVisB a.shape (targetS segs) a.subsizes = true)
    (hnw2 : noSelfWinB a.shape a.subsizes = true) :
    ∃ y z, reshapeArr a ((targetS segs).map Int.ofNat) = .ok y
      ∧ reshapeArr y (a.shape.map Int.ofNat) = .ok z ∧ z.validB = true ∧ z.fermi = true ∧ VEq z a := by
  obtain ⟨items, h1, h2, h3⟩ := normalise segs hok
  rw [← h3] at hne hnw1 ⊢
  exact reshape_roundtrip_fermionic_fused_items_exact a hv hf items (by rw [hshape, h2]) h1 hne
    (by rw [hshape]; exact shapeS_pos segs hok) hnw1 hnw2

/-- **the round-trip clause, abelian arrays with fused axes, exact window conditions** -/
theorem reshape_mergeDrop_roundtrip_abelian_fused_exact (a : Arr R) (hv : a.validB = true)
    (hf : a.fermi = false) (segs : List MSeg) (hok : ∀ s ∈ segs, MSegOk s) (hshape : a.shape = shapeS segs)
    (hne : targetS segs ≠ [])
    (hnw1 : noWinVisB a.shape (targetS segs) a.subsizes = true)
    (hnw2 : noSelfWinB a.shape a.subsizes = true) :
    ∃ y z, reshapeArr a ((targetS segs).map Int.ofNat) = .ok y
      ∧ reshapeArr y (a.shape.map Int.ofNat) = .ok z ∧ z.validB = true ∧ z.fermi = false ∧ VEq z a := by
  obtain ⟨items, h1, h2, h3⟩ := normalise segs hok
  rw [← h3] at hne hnw1 ⊢
  exact reshape_roundtrip_abelian_fused_items_exact a hv hf items (by rw [hshape, h2]) h1 hne
    (by rw [hshape]; exact shapeS_pos segs hok) hnw1 hnw2

section Examples
open C05

-- the planner theorems on the sparsely fused (3, 3⟨3,2⟩) → (9)
example := planner_window_exact [3, 3] [9] [none, some [3, 2]] rfl _ rfl
example : noWinVisB exAfused.shape [9] exAfused.subsizes = true
    ∧ noSelfWinB exAfused.shape exAfused.subsizes = true := by
  rw [exAfused_facts.1, exAfused_facts.2.1]; decide

-- the element bijection: two fuse calls, (2,2,1,2,2) → (4,1,4)
example :=
  have ⟨_, _, hn, hv, hf⟩ := exG5_facts
  reshape_forward_elem_fermionic_calls (R := Int) exG5 [[[0, 1]], [[2, 3]]] hv hf
    (callsOk_of_B _ _ _ (by rw [hn]; decide))
example :=
  have ⟨hs, hsub, _, hv, hf⟩ := exG5_facts
  reshape_forward_elem_fermionic_items (R := Int) exG5 hv hf [.M 2 [] 2, .K 1, .M 2 [] 2] hs (by decide)
    (by decide) (by rw [hs]; decide) (by rw [hs, hsub]; decide)
example :=
  have ⟨hs, hsub, _, hv, hf⟩ := exG5_facts
  reshape_forward_elem_fermionic_mergeDrop (R := Int) exG5 hv hf [.run [2, 2], .run [1], .run [2, 2]]
    (by decide) hs (by decide) (by rw [hs, hsub]; decide)
-- a fermionic input that already carries a (sparsely) fused axis: (3, 3⟨3,2⟩) → (9)
example :=
  have ⟨hs, hsub, hv, hf⟩ := exFfused_facts
  reshape_forward_elem_fermionic_mergeDrop (R := Int) exFfused hv hf [.run [3, 3]] (by decide) hs (by decide)
    (by rw [hs, hsub]; decide)
-- the FIRST case of `total` is inhabited: the stored address of C07h's `Pulled` example (value -9)
example : Stored exG5y2 [(1, 0), (0, 0), (1, 0)] [1, 0, 0] :=
  ⟨(alookup exG5y2.blocks [(1, 0), (0, 0), (1, 0)]).getD default,
    some_of_isSome default (by decide +kernel), by decide +kernel⟩

-- the SECOND case of `total` is inhabited too: in the same block of the result, offset (0,0,0) pulls
-- back (through both calls, intermediate address stored) to the sector (0,1,0,0,1) which `exG5` does
-- not store — a zero-filled address
example : ZeroAt exG5 [[[0, 1]], [[2, 3]]] 0 exG5y2 [(1, 0), (0, 0), (1, 0)] [0, 0, 0]
    ∧ exG5y2.elem [(1, 0), (0, 0), (1, 0)] [0, 0, 0] = 0 := by
  -- what has to be computed, in one evaluation (as for C07h's `Pulled` example)
  have ⟨e2, n0, b2, x2, p2, σ2, b1, x1, p1, σ1⟩ :
      exG5y2.elem [(1, 0), (0, 0), (1, 0)] [0, 0, 0] = 0
      ∧ alookup exG5.blocks [(0, 0), (1, 0), (0, 0), (0, 0), (1, 0)] = none
      ∧ (alookup exG5y2.blocks [(1, 0), (0, 0), (1, 0)]).isSome = true
      ∧ inBox ((alookup exG5y2.blocks [(1, 0), (0, 0), (1, 0)]).getD default).shape [0, 0, 0] = true
      ∧ splitAddr (exG5y2.indices.getD 2 default) (1, 0) 0 = some ([(0, 0), (1, 0)], [0, 0])
      ∧ fuseSignT exG5y1 [[2, 3]] [(1, 0), (0, 0), (0, 0), (1, 0)] = 1
      ∧ (alookup exG5y1.blocks [(1, 0), (0, 0), (0, 0), (1, 0)]).isSome = true
      ∧ inBox ((alookup exG5y1.blocks [(1, 0), (0, 0), (0, 0), (1, 0)]).getD default).shape [0, 0, 0, 0] = true
      ∧ splitAddr (exG5y1.indices.getD 0 default) (1, 0) 0 = some ([(0, 0), (1, 0)], [0, 0])
      ∧ fuseSignT exG5 [[0, 1]] [(0, 0), (1, 0), (0, 0), (0, 0), (1, 0)] = 1 := by decide +kernel
  refine ⟨⟨0, exG5y1, exG5_call1.1, exG5_call1.2.1,
    Or.inr ⟨[(0, 0), (1, 0), (0, 0), (0, 0), (1, 0)], [0, 0, 0, 0, 0], 1, ?_, n0⟩⟩, e2⟩
  refine ⟨0, exG5y1, [(1, 0), (0, 0), (0, 0), (1, 0)], [0, 0, 0, 0], 1,
    (alookup exG5y1.blocks [(1, 0), (0, 0), (0, 0), (1, 0)]).getD default, [([(0, 0), (1, 0)], [0, 0])],
    exG5_call1.1, exG5_call1.2.1, ?_, ?_⟩
  · refine ⟨2, exG5y2, [(1, 0), (0, 0), (1, 0)], [0, 0, 0], 1,
      (alookup exG5y2.blocks [(1, 0), (0, 0), (1, 0)]).getD default, [([(0, 0), (1, 0)], [0, 0])],
      exG5_call2.1, exG5_call2.2.1, ⟨rfl, rfl, rfl⟩, ?_⟩
    refine ⟨some_of_isSome default b2, x2, rfl, ?_,
      by rw [exG5_call1.2.2.2.2]; rfl, by rw [exG5_call1.2.2.2.2]; rfl, rfl, rfl, by rw [σ2]; rfl⟩
    intro g gaxes hg
    match g with
    | 0 => exact p2
    | g + 1 => simp at hg
  · refine ⟨some_of_isSome default b1, x1, rfl, ?_,
      by rw [exG5_facts.2.2.1]; rfl, by rw [exG5_facts.2.2.1]; rfl, rfl, rfl, by rw [σ1]; rfl⟩
    intro g gaxes hg
    match g with
    | 0 => exact p1
    | g + 1 => simp at hg

-- the round trips under the exact conditions
example :=
  have ⟨hs, hsub, hv, hf⟩ := exAfused_facts
  reshape_mergeDrop_roundtrip_abelian_fused_exact (R := Int) exAfused hv hf [.run [3, 3]] (by decide) hs
    (by decide) (by rw [hs, hsub]; decide) (by rw [hs, hsub]; decide)
example :=
  have ⟨hs, hsub, hv, hf⟩ := exFfused_facts
  reshape_mergeDrop_roundtrip_fermionic_fused_exact (R := Int) exFfused hv hf [.run [3, 3]] (by decide) hs
    (by decide) (by rw [hs, hsub]; decide) (by rw [hs, hsub]; decide)
example :=
  have ⟨hs, hsub, hv, hf⟩ := exAkept_facts
  reshape_roundtrip_abelian_fused_items_exact (R := Int) exAkept hv hf [.K 6, .K 2, .Sq] hs (by decide)
    (by decide) (by rw [hs]; decide) (by rw [hs, hsub]; decide) (by rw [hs, hsub]; decide)

end Examples

end SymmModel.C07
