/-
  Property C10, network clause — the concrete three-tensor chains `gA – gB – gC` and `gA7 – gB – gC` evaluated:
  the halves route with the bond leg of `b̄` towards `c` spared / flipped (`chainVals`), the right-nested
  route (`chainValsR`), the halves route with every call in one mode (`chainValsM`) and the nested routes
  that absorb the bra tensors one at a time (`chain3NestedVals`).  All of them are evaluated by one
  `decide +kernel` (`chain_vals`; the routes have `a·b`, `(a·b)·c` and its norm in common); the examples of C10h,
  `chain3_needs_sparing` and `chain3_nested_vals` (C10k) are its components.
-/
import SymmModel.Proofs.NetNormL1
import SymmModel.Props.C10g

namespace SymmModel.C10
open SymmModel Lazy Norm NormNet TdotP
open SymmModel.Assoc3P (tdF)
open scoped SymmModel.Lazy

open SymmModel.C03 in
/-- a third tensor `c[j', m]`: ket `j'`, bra `m`; odd; label 5; pending sign -/
def gC : Arr Int :=
  { sym := .Z2, fermi := true, indices := [ixi false, ixk true], charge := (1, 0),
    blocks := [([(1,0),(0,0)], mkB [1,1] 3), ([(0,0),(1,0)], mkB [2,2] (-2))],
    phases := [([(0,0),(1,0)], -1)], oddpos := [(5, false)] }

/-- `gA` with the label 7 (larger than `gB`'s label 3) -/
def gA7 : Arr Int := { C03.gA with oddpos := [(7, false)] }

/-- value of `((ā·b̄)·c̄)·((a·b)·c)` with `b̄ = braOf b (xb1 ++ xb2)` (`spare = true`) resp. `braOf b xb1`
    (`spare = false`: the bond leg towards `c` flipped as well), and `normSq ((a·b)·c)` -/
def chainVals (a b c : Arr Int) (xa xb1 xb2 xc : List Nat) (spare : Bool) : List Int :=
  let P (x y : List Nat) : AxesArg := .pair (x.map Int.ofNat) (y.map Int.ofNat)
  let x2 := AssocP.axesAB a.ndim b.ndim xa xb1 xb2
  match a.tensordotF b (P xa xb1) .blockwise,
      (NormNet.braOf a xa).tensordotF (NormNet.braOf b (if spare then xb1 ++ xb2 else xb1)) (P xa xb1)
        .blockwise with
  | .ok k2, .ok kb2 =>
    (match kb2.tensordotF (NormNet.braOf c xc) (P x2 xc) .blockwise,
        k2.tensordotF c (P x2 xc) .blockwise with
     | .ok kb3, .ok k3 =>
       (match kb3.tensordotF k3 (allAxes k3.ndim) .blockwise with
        | .ok r => [r.elem [] [], normSq k3, (r.ndim : Int), (r.oddpos.length : Int)]
        | .error _ => [])
     | _, _ => [])
  | _, _ => []

/-- the right-nested route `(ā·(b̄·c̄))·(a·(b·c))` of a concrete chain, and `normSq ((a·b)·c)` -/
def chainValsR (a b c : Arr Int) (xa xb1 xb2 xc : List Nat) : List Int :=
  let P (x y : List Nat) : AxesArg := .pair (x.map Int.ofNat) (y.map Int.ofNat)
  let x2 := AssocP.axesAB a.ndim b.ndim xa xb1 xb2
  let y2 := AssocP.axesBC b.ndim xb1 xb2
  match b.tensordotF c (P xb2 xc) .blockwise,
      (NormNet.braOf b (xb1 ++ xb2)).tensordotF (NormNet.braOf c xc) (P xb2 xc) .blockwise,
      a.tensordotF b (P xa xb1) .blockwise with
  | .ok bc, .ok bcb, .ok k2 =>
    (match a.tensordotF bc (P xa y2) .blockwise,
        (NormNet.braOf a xa).tensordotF bcb (P xa y2) .blockwise,
        k2.tensordotF c (P x2 xc) .blockwise with
     | .ok k3r, .ok kb3r, .ok k3 =>
       (match kb3r.tensordotF k3r (allAxes k3.ndim) .blockwise with
        | .ok r => [r.elem [] [], normSq k3, (r.ndim : Int), (r.oddpos.length : Int)]
        | .error _ => [])
     | _, _, _ => [])
  | _, _, _ => []

/-- `((ā·b̄)·c̄)·((a·b)·c)` of a concrete chain with every call in mode `m`, and `normSq` of the
    blockwise `(a·b)·c` -/
def chainValsM (a b c : Arr Int) (xa xb1 xb2 xc : List Nat) (m : TdotMode) : List Int :=
  let P (x y : List Nat) : AxesArg := .pair (x.map Int.ofNat) (y.map Int.ofNat)
  let x2 := AssocP.axesAB a.ndim b.ndim xa xb1 xb2
  match (do let k2 ← a.tensordotF b (P xa xb1) .blockwise; k2.tensordotF c (P x2 xc) .blockwise),
      (do let k2 ← a.tensordotF b (P xa xb1) m; k2.tensordotF c (P x2 xc) m),
      (do let kb2 ← (NormNet.braOf a xa).tensordotF (NormNet.braOf b (xb1 ++ xb2)) (P xa xb1) m
          kb2.tensordotF (NormNet.braOf c xc) (P x2 xc) m) with
  | .ok k3, .ok k3m, .ok kb3m =>
    (match kb3m.tensordotF k3m (allAxes k3.ndim) m with
     | .ok r => [r.elem [] [], normSq k3, (r.ndim : Int), (r.oddpos.length : Int)]
     | .error _ => [])
  | _, _, _ => []

/-- `c̄·(b̄·(ā·K3))` and `((K3·c̄)·b̄)·ā` for a chain `a – b – c` (bonds `xa`–`xb1`, `xb2`–`xc`), axes lists in
    closed form: `[normSq K3]`, then `[rank, labels…]` of `K3`, `ā·K3`, `b̄·(ā·K3)`, `[value, rank, #labels]`
    of `c̄·(b̄·(ā·K3))`, `[rank, labels…]` of `K3·c̄`, `(K3·c̄)·b̄`, `[value, rank, #labels]` of `((K3·c̄)·b̄)·ā` -/
def chain3NestedVals (a b c : Arr Int) (xa xb1 xb2 xc : List Nat) : List (List Int) :=
  let val (r : Except Err (Arr Int)) : List Int :=
    match r with
    | .ok c => [c.elem [] [], (c.ndim : Int), (c.oddpos.length : Int)]
    | .error _ => [-1]
  let lab (r : Except Err (Arr Int)) : List Int :=
    match r with
    | .ok c => (c.ndim : Int) :: c.oddpos.flatMap (fun p => [p.1, if p.2 then 1 else 0])
    | .error _ => [-1]
  let fA := freeAxes a.ndim xa
  let fB := freeAxes b.ndim (xb1 ++ xb2)
  let fC := freeAxes c.ndim xc
  let ab := NormNet.braOf a xa
  let bb := NormNet.braOf b (xb1 ++ xb2)
  let cb := NormNet.braOf c xc
  let K3 := do let k2 ← tdF a b xa xb1; tdF k2 c (AssocP.axesAB a.ndim b.ndim xa xb1 xb2) xc
  let nA := fA.length
  let nB := fB.length
  let nC := fC.length
  -- ā·K3 : legs [ā's bond legs, b's dangling legs, c's dangling legs]
  let T1 := do let k3 ← K3; tdF ab k3 fA (List.range nA)
  -- b̄·(ā·K3) : legs [b̄'s bond legs towards c̄, c's dangling legs]
  let T2 := do let t1 ← T1
               tdF bb t1 (xb1 ++ fB) (kbQ a.ndim xa ++ (List.range nB).map (xa.length + ·))
  let qb := RoutesP.positions (freeAxes b.ndim (xb1 ++ fB)) xb2
  let T3 := do let t2 ← T2; tdF cb t2 (xc ++ fC) (qb ++ (List.range nC).map (xb2.length + ·))
  -- K3·c̄ : legs [a's dangling, b's dangling, c̄'s bond legs]
  let S1 := do let k3 ← K3; tdF k3 cb ((List.range nC).map (nA + nB + ·)) fC
  let qc := RoutesP.positions (freeAxes c.ndim fC) xc
  -- (K3·c̄)·b̄ : legs [a's dangling, b̄'s bond legs towards ā]
  let S2 := do let s1 ← S1
               tdF s1 bb ((List.range nB).map (nA + ·) ++ qc.map (nA + nB + ·)) (fB ++ xb2)
  let qb1 := RoutesP.positions (freeAxes b.ndim (fB ++ xb2)) xb1
  let S3 := do let s2 ← S2; tdF s2 ab (List.range nA ++ qb1.map (nA + ·)) (fA ++ xa)
  [ (match K3 with | .ok k => [normSq k] | .error _ => [-1]),
    lab K3, lab T1, lab T2, val T3, lab S1, lab S2, val S3 ]

theorem chain_vals :
    (chainVals C03.gA C03.gB gC [2] [0] [2] [0] true = [117734, 117734, 0, 0]
    ∧ chainVals C03.gA C03.gB gC [2] [0] [2] [0] false = [-106582, 117734, 0, 0]
    ∧ chainValsR C03.gA C03.gB gC [2] [0] [2] [0] = [117734, 117734, 0, 0]
    ∧ chainValsM C03.gA C03.gB gC [2] [0] [2] [0] .fused = [117734, 117734, 0, 0])
    ∧ (chain3NestedVals C03.gA C03.gB gC [2] [0] [2] [0]
      = [[117734], [4, 1, 0, 3, 0, 5, 0], [3, 3, 0, 5, 0], [2, 5, 0], [117734, 0, 0],
          [4, 1, 0, 3, 0], [3, 1, 0], [117734, 0, 0]]
    ∧ chain3NestedVals gA7 C03.gB gC [2] [0] [2] [0]
      = [[117734], [4, 3, 0, 5, 0, 7, 0], [3, 7, 1, 3, 0, 5, 0, 7, 0], [2, 7, 1, 5, 0, 7, 0],
          [117734, 0, 0], [4, 3, 0, 7, 0], [3, 7, 0], [117734, 0, 0]]) := by
  decide +kernel

end SymmModel.C10
