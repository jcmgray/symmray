import SymmModel.Props.C07All6
import SymmModel.Props.C07h
