/-
  Property C08 (with clauses of C01 / C16 / C20), part g — sparsity management.

  Everything is about the literal models of Model/Sparse.lean:
    `Arr.fillMissing`  (AbelianArray.fill_missing_blocks),  `Arr.dropMissing` (drop_missing_blocks),
    `Arr.getSparsity`  (get_sparsity),  `Arr.allclose` (AbelianArray.allclose / FermionicArray.allclose),
    `Arr.getParams` / `Arr.setParams` (BlockBase.get_params / set_params),
  the value view `Arr.elem` and the dense form `Arr.toDenseA` (Model/Arr.lean), the validity predicate
  `Arr.validB` (Model/Valid.lean) and the sector enumeration `Arr.genValidSectors`, for EVERY array
  (all symmetries, ranks, sparsity patterns, abelian and fermionic with pending signs) over an arbitrary
  scalar type `R` with `[Zero R]`, a lawful `==` (`LawfulBEq R`) where zero tests occur, and `- - x = x`,
  `-0 = 0` (`Lazy.LawfulNeg R`) where pending signs occur.  Instances: `Int`, `GRat`.

  The only hypothesis on arrays is `a.validB = true` (and, for `allclose`, that the two operands have the
  same index tables and the same class); `fillMissing_elem`, `fillMissing_toDense`, `fillMissing_frame`,
  `fillMissing_idem`, `setParams_lookup`, `setParams_sectors` need no hypothesis at all.

  Tolerance: `allclose` is modelled on exact data (see the header of Model/Sparse.lean); the theorems say
  what the exact comparison decides.
-/
import SymmModel.Proofs.SparseLemmas
import SymmModel.Props.C17

namespace SymmModel.C08
open SymmModel Arr SparseP

variable {R : Type}

section fill
variable [Zero R]

/-- on a valid array the fill never raises (`get_block_shape` is only asked for enumerated sectors) -/
theorem fillMissing_ok (a : Arr R) (hv : a.validB = true) : ∃ a', a.fillMissing = .ok a' := by
  have g := Good.of_valid hv
  unfold Arr.fillMissing
  rw [fill_fold a.indices _ _ g.gen_nodup (fun s hs => g.gen_shape hs)]
  exact ⟨_, rfl⟩

/-- the resulting dict, order included: the stored blocks in their stored order (untouched), followed
    by a zero block of the prescribed shape for every missing valid sector, in enumeration order -/
theorem fillMissing_blocks (a : Arr R) (hv : a.validB = true) :
    a.fillMissing = .ok { a with blocks := (a.blocks ++
      (a.genValidSectors.filter (fun s => !a.sectors.contains s)).map
        (fun s => (s, Blk.zeros ((blockShape? a.indices s).getD [])))) } := by
  have g := Good.of_valid hv
  unfold Arr.fillMissing
  rw [fill_fold a.indices _ _ g.gen_nodup (fun s hs => g.gen_shape hs)]
  rfl

theorem fillMissing_frame (a a' : Arr R) (h : a.fillMissing = .ok a') :
    a'.sym = a.sym ∧ a'.fermi = a.fermi ∧ a'.indices = a.indices ∧ a'.charge = a.charge
      ∧ a'.phases = a.phases ∧ a'.oddpos = a.oddpos := by
  obtain ⟨bl, _, rfl⟩ := fillMissing_ok_iff.mp h
  exact ⟨rfl, rfl, rfl, rfl, rfl, rfl⟩

/-- the value view is unchanged at every address — every array, pending signs included -/
theorem fillMissing_elem [Neg R] [Lazy.LawfulNeg R] (a a' : Arr R) (h : a.fillMissing = .ok a')
    (s : Sector) (off : List Nat) : a'.elem s off = a.elem s off :=
  SparseP.fillMissing_elem h s off

/-- **the dense form is unchanged by the fill** — every array -/
theorem fillMissing_toDense [Neg R] [Lazy.LawfulNeg R] (a a' : Arr R) (h : a.fillMissing = .ok a') :
    a'.toDenseA = a.toDenseA :=
  toDenseA_congr_elem (fillMissing_frame a a' h).2.2.1 (SparseP.fillMissing_elem h)

theorem fillMissing_valid (a a' : Arr R) (hv : a.validB = true) (h : a.fillMissing = .ok a') :
    a'.validB = true := by
  have g := Good.of_valid hv
  rw [fillMissing_blocks a hv] at h
  cases h
  apply validB_with_blocks hv
  · have hk := newBlocks_keys (R := R) a.indices a.sectors a.genValidSectors
    simp only [newBlocks] at hk
    rw [List.map_append, hk]
    refine List.nodup_append.mpr ⟨g.nodup, g.gen_nodup.filter _, ?_⟩
    intro x hx y hy e
    subst e
    simp only [List.mem_filter, Bool.not_eq_true', List.contains_eq_mem, decide_eq_false_iff_not] at hy
    exact hy.2 hx
  · intro p hp
    rcases List.mem_append.mp hp with hp | hp
    · exact g.stored p hp
    · obtain ⟨h1, _, h3⟩ := newBlocks_zero (idx := a.indices) (keys := a.sectors) hp
      obtain ⟨hf, hval⟩ := (g.mem_gen p.1).mp h1
      obtain ⟨shp, hshp⟩ := Option.isSome_iff_exists.mp (g.gen_shape h1)
      refine ⟨?_, hval, ?_, ?_⟩
      · simpa [Arr.ndim] using hf.length_eq
      · rw [h3, hshp]; rfl
      · rw [h3]; exact wf_zeros _

/-- **after the fill exactly the valid sectors are stored** (none missing, none extra) -/
theorem fillMissing_sectors (a a' : Arr R) (hv : a.validB = true) (h : a.fillMissing = .ok a')
    (s : Sector) : s ∈ a'.sectors ↔ s ∈ a.genValidSectors := by
  have g := Good.of_valid hv
  rw [fillMissing_blocks a hv] at h
  cases h
  have hk := newBlocks_keys (R := R) a.indices a.sectors a.genValidSectors
  simp only [newBlocks, Arr.sectors] at hk
  simp only [Arr.sectors, List.map_append]
  rw [hk, List.mem_append]
  constructor
  · rintro (h1 | h1)
    · exact g.stored_mem_gen h1
    · exact (List.mem_filter.mp h1).1
  · intro h1
    by_cases hm : s ∈ a.blocks.map (·.1)
    · exact Or.inl hm
    · exact Or.inr (List.mem_filter.mpr ⟨h1, by simpa using hm⟩)

/-- … that is (C17.genValidSectors_exact): a sector is stored after the fill iff it has one charge per
    index, each charge available on its index, and it conserves the total charge -/
theorem fillMissing_sectors_exact (a a' : Arr R) (hv : a.validB = true) (h : a.fillMissing = .ok a')
    (s : Sector) :
    s ∈ a'.sectors ↔
      (s.length = a.ndim
        ∧ (∀ (i : Nat) (h₁ : i < s.length) (h₂ : i < a.indices.length), s[i] ∈ (a.indices[i]).charges)
        ∧ a.isValidSector s = true) := by
  have g := Good.of_valid hv
  rw [fillMissing_sectors a a' hv h s]
  exact C17.genValidSectors_exact a g.cvalid g.chvalid s

/-- "resulting in a sparsity of 1": afterwards as many blocks as valid sectors, and
    `get_sparsity` is `n / n` when `n ≠ 0` (for `n = 0` the model's `getSparsity` raises; not stated here) -/
theorem fillMissing_sparsity (a a' : Arr R) (hv : a.validB = true) (h : a.fillMissing = .ok a') :
    a'.blocks.length = a'.genValidSectors.length
      ∧ (a.genValidSectors ≠ [] →
          a'.getSparsity = .ok (a.genValidSectors.length, a.genValidSectors.length)) := by
  have g := Good.of_valid hv
  have hv' := fillMissing_valid a a' hv h
  have g' := Good.of_valid hv'
  have hgen : a'.genValidSectors = a.genValidSectors := by
    obtain ⟨bl, _, rfl⟩ := fillMissing_ok_iff.mp h
    rfl
  have hlen : a'.blocks.length = a.genValidSectors.length := by
    have hperm : a'.sectors.Perm a.genValidSectors :=
      (List.perm_ext_iff_of_nodup g'.nodup g.gen_nodup).mpr (fillMissing_sectors a a' hv h)
    have := hperm.length_eq
    simpa [Arr.sectors] using this
  refine ⟨by rw [hgen]; exact hlen, fun hne => ?_⟩
  unfold Arr.getSparsity
  rw [hgen, hlen]
  have : (a.genValidSectors.length == 0) = false := by
    simpa using hne
  simp [this]

theorem fillMissing_idem (a a' : Arr R) (h : a.fillMissing = .ok a') : a'.fillMissing = .ok a' := by
  obtain ⟨bl, hf, rfl⟩ := fillMissing_ok_iff.mp h
  exact fillMissing_ok_iff.mpr
    ⟨bl, fill_fold_noop a.indices _ bl (fill_fold_present a.indices _ _ _ hf).1, rfl⟩

end fill

section drop
variable [Zero R] [BEq R]

/-- the resulting dict, order included: exactly the all-zero blocks are deleted -/
theorem dropMissing_blocks (a : Arr R) (hv : a.validB = true) :
    a.dropMissing = { a with blocks := a.blocks.filter (fun p => !p.2.isZero) } :=
  dropMissing_eq (Good.of_valid hv).nodup

theorem dropMissing_noZero (a : Arr R) (hv : a.validB = true) :
    ∀ p ∈ a.dropMissing.blocks, p.2.isZero = false := by
  rw [dropMissing_blocks a hv]
  intro p hp
  have := (List.mem_filter.mp hp).2
  simpa using this

/-- the value view is unchanged at every address (pending signs included; the sign entry of a
    deleted block stays behind and is harmless) -/
theorem dropMissing_elem [LawfulBEq R] [Neg R] [Lazy.LawfulNeg R] (a : Arr R) (hv : a.validB = true)
    (s : Sector) (off : List Nat) : a.dropMissing.elem s off = a.elem s off :=
  SparseP.dropMissing_elem (Good.of_valid hv).nodup s off

/-- **the dense form is unchanged by the drop** -/
theorem dropMissing_toDense [LawfulBEq R] [Neg R] [Lazy.LawfulNeg R] (a : Arr R)
    (hv : a.validB = true) : a.dropMissing.toDenseA = a.toDenseA :=
  toDenseA_congr_elem rfl (SparseP.dropMissing_elem (Good.of_valid hv).nodup)

theorem dropMissing_valid (a : Arr R) (hv : a.validB = true) : a.dropMissing.validB = true := by
  have g := Good.of_valid hv
  rw [dropMissing_blocks a hv]
  exact validB_with_blocks hv _ (nodup_keys_filter g.nodup _)
    (fun p hp => g.stored p (List.mem_filter.mp hp).1)

theorem dropMissing_idem (a : Arr R) (hv : a.validB = true) :
    a.dropMissing.dropMissing = a.dropMissing := by
  rw [dropMissing_blocks _ (dropMissing_valid a hv), dropMissing_blocks a hv]
  simp only [List.filter_filter, Bool.and_self]

/-- **drop ∘ fill = drop**: the zero blocks the fill creates are exactly removed again (exact
    structural equality, dict order included) -/
theorem drop_fill [LawfulBEq R] (a a' : Arr R) (hv : a.validB = true) (h : a.fillMissing = .ok a') :
    a'.dropMissing = a.dropMissing := by
  rw [dropMissing_blocks a' (fillMissing_valid a a' hv h), dropMissing_blocks a hv]
  rw [fillMissing_blocks a hv] at h
  cases h
  simp only [List.filter_append]
  have : List.filter (fun (p : Sector × Blk R) => !p.2.isZero)
      ((a.genValidSectors.filter (fun s => !a.sectors.contains s)).map
        (fun s => (s, Blk.zeros ((blockShape? a.indices s).getD [])))) = [] := by
    rw [List.filter_eq_nil_iff]
    intro p hp
    obtain ⟨s, _, rfl⟩ := List.mem_map.mp hp
    simp [isZero_zeros]
  rw [this, List.append_nil]

/-- **fill ∘ drop versus fill**: the same value view, the same dense form, the same stored sector set
    (the dict orders may differ) -/
theorem fill_drop [LawfulBEq R] [Neg R] [Lazy.LawfulNeg R] (a c c' : Arr R) (hv : a.validB = true)
    (h1 : a.dropMissing.fillMissing = .ok c) (h2 : a.fillMissing = .ok c') :
    (∀ s off, c.elem s off = c'.elem s off) ∧ c.toDenseA = c'.toDenseA
      ∧ (∀ s, s ∈ c.sectors ↔ s ∈ c'.sectors) := by
  have he : ∀ s off, c.elem s off = c'.elem s off := fun s off => by
    rw [SparseP.fillMissing_elem h1, SparseP.fillMissing_elem h2, dropMissing_elem a hv]
  have hi : c.indices = c'.indices := by
    rw [(fillMissing_frame _ c h1).2.2.1, (fillMissing_frame _ c' h2).2.2.1, dropMissing_blocks a hv]
  refine ⟨he, toDenseA_congr_elem hi he, fun s => ?_⟩
  rw [fillMissing_sectors _ c (dropMissing_valid a hv) h1, fillMissing_sectors _ c' hv h2,
    dropMissing_blocks a hv]
  exact Iff.rfl

end drop

section close
variable [Zero R] [Neg R] [BEq R] [LawfulBEq R] [Lazy.LawfulNeg R]

/-- **`allclose` decides equality of the value views**: for two valid arrays of the same class over the
    same index tables, `x.allclose(y)` holds iff the stored number times the pending sign (zero for a
    sector that is not stored) agrees at every address -/
theorem allclose_iff_elem (a b : Arr R) (ha : a.validB = true) (hb : b.validB = true)
    (hi : a.indices = b.indices) (hf : a.fermi = b.fermi) :
    a.allclose b = true ↔ ∀ s off, a.elem s off = b.elem s off := by
  have ga := (Good.of_valid ha).shaped
  have gb := (Good.of_valid hb).shaped
  rw [← hi] at gb
  unfold Arr.allclose
  by_cases hfa : a.fermi = true
  · rw [if_pos hfa]
    exact allcloseF_iff_elem ga gb
  · have hfa' : a.fermi = false := by simpa using hfa
    rw [if_neg hfa]
    exact allcloseA_iff_elem (phases_nil_of_validB ha hfa')
      (phases_nil_of_validB hb (hf ▸ hfa')) ga gb

theorem allclose_refl (a : Arr R) (ha : a.validB = true) : a.allclose a = true :=
  (allclose_iff_elem a a ha ha rfl rfl).mpr (fun _ _ => rfl)

theorem allclose_symm (a b : Arr R) (ha : a.validB = true) (hb : b.validB = true)
    (hi : a.indices = b.indices) (hf : a.fermi = b.fermi) : a.allclose b = b.allclose a := by
  rw [Bool.eq_iff_iff, allclose_iff_elem a b ha hb hi hf, allclose_iff_elem b a hb ha hi.symm hf.symm]
  exact ⟨fun h s off => (h s off).symm, fun h s off => (h s off).symm⟩

theorem allclose_trans (a b c : Arr R) (ha : a.validB = true) (hb : b.validB = true)
    (hc : c.validB = true) (hab : a.indices = b.indices) (hbc : b.indices = c.indices)
    (fab : a.fermi = b.fermi) (fbc : b.fermi = c.fermi)
    (h1 : a.allclose b = true) (h2 : b.allclose c = true) : a.allclose c = true := by
  rw [allclose_iff_elem a b ha hb hab fab] at h1
  rw [allclose_iff_elem b c hb hc hbc fbc] at h2
  exact (allclose_iff_elem a c ha hc (hab.trans hbc) (fab.trans fbc)).mpr
    (fun s off => (h1 s off).trans (h2 s off))

theorem allclose_toDense (a b : Arr R) (ha : a.validB = true) (hb : b.validB = true)
    (hi : a.indices = b.indices) (hf : a.fermi = b.fermi) (h : a.allclose b = true) :
    a.toDenseA = b.toDenseA :=
  toDenseA_congr_elem hi ((allclose_iff_elem a b ha hb hi hf).mp h)

/-- observationally equal arrays (C09.ObsEq: same tables, same stored skeleton, same value view) are
    close; `allclose` is coarser only in that it does not look at which zero blocks are stored -/
theorem allclose_of_obsEq (a b : Arr R) (ha : a.validB = true) (hb : b.validB = true)
    (h : Lazy.ObsEq a b) : a.allclose b = true :=
  (allclose_iff_elem a b ha hb h.indices h.fermi).mpr h.elem

/-- the sparsity pattern is invisible to `allclose`: an array is close to its filled and to its
    dropped form -/
theorem allclose_fill_drop (a a' : Arr R) (ha : a.validB = true) (h : a.fillMissing = .ok a') :
    a.allclose a' = true ∧ a.allclose a.dropMissing = true := by
  constructor
  · have fr := fillMissing_frame a a' h
    exact (allclose_iff_elem a a' ha (fillMissing_valid a a' ha h) fr.2.2.1.symm fr.2.1.symm).mpr
      (fun s off => (SparseP.fillMissing_elem h s off).symm)
  · have hd := dropMissing_blocks a ha
    exact (allclose_iff_elem a a.dropMissing ha (dropMissing_valid a ha) (by rw [hd]) (by rw [hd])).mpr
      (fun s off => (dropMissing_elem a ha s off).symm)

end close

section params

/-- **`set_params(get_params())` is the identity** (stored sectors distinct) -/
theorem setParams_getParams (a : Arr R) (hv : a.validB = true) : a.setParams a.getParams = a := by
  have hnd := validB_nodup hv
  unfold Arr.setParams Arr.getParams
  rw [setParams_noop a.blocks a.blocks (fun p hp => alookup_of_mem_nodup hnd hp)]

/-- `dict.update`: afterwards a key has the LAST value given for it, any other key its old value -/
theorem setParams_lookup (a : Arr R) (ps : List (Sector × Blk R)) (k : Sector) :
    alookup (a.setParams ps).blocks k = (alookup ps.reverse k).or (alookup a.blocks k) :=
  SparseP.setParams_lookup ps a.blocks k

/-- … the existing keys keep their positions, new keys are appended; nothing else changes -/
theorem setParams_sectors (a : Arr R) (ps : List (Sector × Blk R)) :
    (∃ extra, (a.setParams ps).sectors = a.sectors ++ extra
      ∧ ∀ k ∈ extra, k ∈ ps.map (·.1) ∧ k ∉ a.sectors)
    ∧ (a.setParams ps).phases = a.phases ∧ (a.setParams ps).indices = a.indices
    ∧ (a.setParams ps).charge = a.charge :=
  ⟨SparseP.setParams_keys ps a.blocks, rfl, rfl, rfl⟩

end params

/-! ## 5. the hypotheses are satisfiable; the model on a concrete array -/

section Examples

/-- Z2, 3 × 3 with charges {0: 1, 1: 2} outgoing and {0: 2, 1: 1} incoming, total charge 0; only the
    sector (1, 1) is stored -/
def exSparse : Arr Int :=
  { sym := .Z2, fermi := false, charge := (0, 0),
    indices := [Index.mk [((0, 0), 1), ((1, 0), 2)] false none,
                Index.mk [((0, 0), 2), ((1, 0), 1)] true none],
    blocks := [([(1, 0), (1, 0)], ⟨[2, 1], #[3, -4]⟩)] }

/-- the same with an explicitly stored zero block first -/
def exZero : Arr Int :=
  { exSparse with blocks := [([(0, 0), (0, 0)], ⟨[1, 2], #[0, 0]⟩), ([(1, 0), (1, 0)], ⟨[2, 1], #[3, -4]⟩)] }

/-- a fermionic array with a pending sign on its only block -/
def exFermi : Arr Int :=
  { exSparse with fermi := true, phases := [([(1, 0), (1, 0)], -1)] }

example : exSparse.validB = true ∧ exZero.validB = true ∧ exFermi.validB = true := by decide

example : (exSparse.fillMissing.toOption.map Arr.sectors) = some [[(1, 0), (1, 0)], [(0, 0), (0, 0)]] := by
  decide

example : exZero.dropMissing.sectors = [[(1, 0), (1, 0)]] ∧ exSparse.getSparsity = .ok (1, 2) := by
  decide +kernel

example : exSparse.allclose exZero = true ∧ exZero.allclose exSparse = true
    ∧ exFermi.allclose exFermi = true ∧ exFermi.allclose { exFermi with phases := [] } = false := by
  decide +kernel

example : Lazy.LawfulNeg Int ∧ Lazy.LawfulNeg GRat := ⟨inferInstance, inferInstance⟩

end Examples

end SymmModel.C08
