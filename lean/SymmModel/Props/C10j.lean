/-
  Property C10, network clause — ALL bracketings of the two-tensor norm network `{a, b, ā, b̄}` that
  FIRST contract a ket tensor with its own bra tensor (bra operand on the left): the hub.

  `a`, `b` as in C10i: valid fermionic, bonded along `xa`/`xb` (`tdotAdmissibleB`), sorted distinct ket
  labels (`KetLabels`, all labels distinct); blockwise mode unless stated; commutative scalars (`hmul`), `AddCommMonoid`,
  `NetLaws`, `AssocLaws`.  `ā = braOf a xa`, `b̄ = braOf b xb`, `K = a·b`,
  `X = ā·a`, `Y = b̄·b` (each contracted over all dangling legs; both carry NO label and have even parity).
  `X` has the legs `[ā's bond legs, a's bond legs]` (each block in increasing order of the leg number in
  `a`); `kbQ a.ndim xa` lists the first block in the order of `xa`, `kbP a.ndim xa` both blocks.

  PROVED
  * `network_norm_ketbra_hub` — for EVERY pair of sorted distinct ket label lists (NO label check): the
    six routes
        `(b̄·X)·b`,  `(X·b̄)·b`,  `X·Y`,      `(ā·Y)·a`,  `(Y·ā)·a`,  `Y·X`
    all succeed and all give ONE scalar `v` (rank 0, no labels).  [S7 for the triangles `(X, b̄, b)` and
    `(Y, ā, a)` — their label routes need no check since the first piece has no label
    (`labelRoutes_ketbra_piece`) —, S5 + S6 for `b̄·X → X·b̄`, S5 for a full contraction at the root
    (`scalar_swap`), S4 for the block order of the axis pairs; the axes lists in closed form:
    `kbU_closed`, `NormNet.axesAB_Xbb`, `NormNet.axesBC_Xbb`.]
  * `network_norm_ketbra_all` — this scalar is `Σ|K|²` as soon as the checks `netLabelsB` (met whenever the labels
    are distinct) and `ketBraLabelsB` (a real condition on the label order) of C10i hold for `(a, b)` OR for
    `(b, a)`:  `KetBraAll a b xa xb`.
  * `network_norm_ketbra_pair` — the pairing `(ā·a)·(b̄·b) = Σ|K|²` (the bracketing C10i evaluates in `ketbra_vals_order`) under the
    hypotheses of `network_norm_ketbra_first`.
  * `network_norm_ketbra_all_oneKet` — at most one ket label per tensor, labels distinct: `KetBraAll a b xa xb`
    WITHOUT a disjunction and for BOTH label orders (the order `label a > label b`, for which the routes
    through `(b̄·ā)·a` end with different label lists, is reached through the hub from `(b, a)`).
  * `network_norm_ketbra_all_any_mode`, `network_norm_ketbra_all_any_mode_oneKet`,
    `network_norm_ketbra_all_auto_oneKet` (scalars additionally `0·x = x·0 = 0`) — the same with EVERY
    call in its own mode (`blockwise` / `fused` / `auto`): `KetBraAllM a b xa xb md` — the two pieces in
    the modes `md 0`, `md 1`, the five calls of the routes ending on `b` in `md 2 … md 6`, those ending on
    `a` in `md 7 … md 11`; all calls succeed, the pieces carry no label, every final result has rank 0, no
    labels, the value `Σ|K|²` of the BLOCKWISE `K = a·b`.  [`Net4P.pad_call`: a call in any mode on
    zero-padded copies of the blockwise operands is a zero-padded copy of the blockwise call; the weak
    guards of the later calls from the frames of the intermediates (`TdotP.admW_left_tri_w`,
    `admW_right_tri_w`, `admW_left_chain_w`).]
  * `ketBraAll_spec`, `ketBraAllM_spec`, `ketBraHub_spec`, `hubHalf_spec` write the conclusions out;
    `hubHalf_bx_listing`: the route `(b̄·(ā·a))·b` with exactly the axes lists of C10i's `KetBraFirst`;
    `ketbra_all_vals` evaluates the six routes with the axes lists of the theorem on the concrete
    networks `gA`/`gA7`, `gB` (both label orders; `ketbraAllVals` and the evaluation are in C10Vals).

  NOT COVERED HERE, and where it is:
  * the mirror images with the ket operand on the left in the first call (`a·ā`, `b·b̄` first): C10k (S5 for the
    pair `(a, ā)`, whose labels coincide, from `C10.tdotF_swap_eqv_merge`);
  * `label a > label b`: an `Eqv` of the intermediates `(b̄·ā)·a` and `b̄·(ā·a)` (not ket-bra-first; they carry
    different label lists, C10i `ketBraLabels_order`): open; the value of `((b̄·ā)·a)·b` is not open (C10g
    `network_norm_mixed_seq` with the roles `(b, a)`);
  * the VALUE `Σ|K|²` for more than one label per tensor without the decidable check `ketBraLabelsB`
    (`netLabelsB` holds for all lists with distinct labels, `LabelAlg.netLabelsB_of_distinct`; the agreement of the
    six routes, `network_norm_ketbra_hub`, needs no check).
-/
import SymmModel.Proofs.NetNormL4
import SymmModel.Props.C10i

namespace SymmModel.C10
open SymmModel Lazy Norm NormNet TdotP
open SymmModel.Assoc3P (tdF)
open SymmModel.Net4P (tdM)
set_option linter.unusedSectionVars false

theorem tdF_def {R : Type} [Zero R] [Add R] [Mul R] [Neg R] (X Y : Arr R) (xa xb : List Nat) :
    tdF X Y xa xb = X.tensordotF Y (.pair (xa.map Int.ofNat) (xb.map Int.ofNat)) .blockwise := rfl

theorem tdM_def {R : Type} [Zero R] [Add R] [Mul R] [Neg R] (m : TdotMode) (X Y : Arr R)
    (xa xb : List Nat) :
    tdM m X Y xa xb = X.tensordotF Y (.pair (xa.map Int.ofNat) (xb.map Int.ofNat)) m := rfl

theorem scal_def {R : Type} [Zero R] [Neg R] (c : Arr R) (v : R) :
    Scal c v ↔ (c.ndim = 0 ∧ c.oddpos = [] ∧ c.elem [] [] = v) := Iff.rfl

/-- the legs of `ā·a` bonded to `b̄` (positions of `xa` among the sorted bond legs) and all legs of `ā·a`
    (those bonded to `b̄`, then those bonded to `b`) -/
theorem kbQ_def (n : Nat) (xa : List Nat) :
    kbQ n xa = RoutesP.positions (freeAxes n (freeAxes n xa)) xa
    ∧ kbP n xa = kbQ n xa ++ (kbQ n xa).map (xa.length + ·) := ⟨rfl, rfl⟩

theorem kbQ_example : kbQ 5 [3, 1] = [1, 0] ∧ kbP 5 [3, 1] = [1, 0, 3, 2] ∧ kbQ 3 [2] = [0] := by
  decide

/-- `kbX` of C10i is `kbQ`; `kbU` of C10i in closed form -/
theorem kbU_closed {R : Type} (a b : Arr R) (xa xb : List Nat) :
    kbX a xa = kbQ a.ndim xa
    ∧ kbU a b xa xb = List.range (freeAxes b.ndim xb).length
        ++ (kbQ a.ndim xa).map ((freeAxes b.ndim xb).length + ·) :=
  ⟨kbX_eq a xa, kbU_eq a b xa xb⟩

section main
variable {R : Type} [AddCommMonoid R] [Mul R] [Neg R] [Conj R] [NetLaws R] [AssocP.AssocLaws R]

/-- the three routes through `X = ā·a` that end on `b`, with the common value `v` -/
theorem hubHalf_spec {a b : Arr R} {xa xb : List Nat} {X Y : Arr R} {v : R}
    (H : HubHalf a b xa xb X Y v) :
    -- (b̄·X)·b
    (∃ BX c, tdF (NormNet.braOf b xb) X xb (kbQ a.ndim xa) = .ok BX
      ∧ tdF BX b ((kbQ a.ndim xa).map ((freeAxes b.ndim xb).length + ·)
          ++ List.range (freeAxes b.ndim xb).length) (xb ++ freeAxes b.ndim xb) = .ok c ∧ Scal c v)
    -- (X·b̄)·b
    ∧ (∃ XB c, tdF X (NormNet.braOf b xb) (kbQ a.ndim xa) xb = .ok XB
      ∧ tdF XB b (kbQ a.ndim xa ++ (List.range (freeAxes b.ndim xb).length).map (xa.length + ·))
          (xb ++ freeAxes b.ndim xb) = .ok c ∧ Scal c v)
    -- X·Y
    ∧ (∃ c, tdF X Y (kbP a.ndim xa) (kbP b.ndim xb) = .ok c ∧ Scal c v) :=
  ⟨H.rBX, H.rXB, H.rXY⟩

/-- the route `(b̄·(ā·a))·b` with the axes lists of C10i's `KetBraFirst` (`kbX`, `kbU`, pairs listed as
    `fB ++ xb`): the same call by S4 -/
theorem hubHalf_bx_listing {a b : Arr R} {xa xb : List Nat} {X Y : Arr R} {v : R}
    (H : HubHalf a b xa xb X Y v) :
    ∃ BX c, (NormNet.braOf b xb).tensordotF X (.pair (xb.map Int.ofNat) ((kbX a xa).map Int.ofNat))
          .blockwise = .ok BX
      ∧ BX.tensordotF b (.pair ((kbU a b xa xb).map Int.ofNat)
          ((freeAxes b.ndim xb ++ xb).map Int.ofNat)) .blockwise = .ok c
      ∧ c.ndim = 0 ∧ c.oddpos = [] ∧ c.elem [] [] = v := by
  obtain ⟨BX, c, e1, e2, S⟩ := H.rBX
  have W := H.wBX BX e1
  have hl : ((kbQ a.ndim xa).map ((freeAxes b.ndim xb).length + ·)).length = xb.length := by
    have := W.len
    simp only [List.length_append, List.length_map, List.length_range] at this ⊢
    omega
  have hc := Net4P.tdotF_axes_comm_w BX b _ _ _ _ hl W
  refine ⟨BX, c, by rw [kbX_eq]; exact e1, ?_, S⟩
  rw [kbU_eq]
  exact hc.trans e2

theorem ketBraHub_spec {a b : Arr R} {xa xb : List Nat} {X Y : Arr R} {v : R}
    (H : KetBraHub a b xa xb X Y v) :
    tdF (NormNet.braOf a xa) a (freeAxes a.ndim xa) (freeAxes a.ndim xa) = .ok X
    ∧ X.oddpos = [] ∧ X.parity = false ∧ X.ndim = xa.length + xa.length
    ∧ tdF (NormNet.braOf b xb) b (freeAxes b.ndim xb) (freeAxes b.ndim xb) = .ok Y
    ∧ Y.oddpos = [] ∧ Y.parity = false ∧ Y.ndim = xb.length + xb.length
    ∧ HubHalf a b xa xb X Y v ∧ HubHalf b a xb xa Y X v :=
  ⟨H.1.call, H.1.odd, H.1.par, H.1.nd, H.2.1.call, H.2.1.odd, H.2.1.par, H.2.1.nd, H.2.2.1, H.2.2.2⟩

/-- `KetBraAll` written out: the six ket-bra-first routes give `Σ|K|²` -/
theorem ketBraAll_spec {a b : Arr R} {xa xb : List Nat} (H : KetBraAll a b xa xb) :
    ∃ K X Y, tdF a b xa xb = .ok K
      ∧ tdF (NormNet.braOf a xa) a (freeAxes a.ndim xa) (freeAxes a.ndim xa) = .ok X ∧ X.oddpos = []
      ∧ tdF (NormNet.braOf b xb) b (freeAxes b.ndim xb) (freeAxes b.ndim xb) = .ok Y ∧ Y.oddpos = []
      -- (b̄·X)·b
      ∧ (∃ BX c, tdF (NormNet.braOf b xb) X xb (kbQ a.ndim xa) = .ok BX
        ∧ tdF BX b ((kbQ a.ndim xa).map ((freeAxes b.ndim xb).length + ·)
            ++ List.range (freeAxes b.ndim xb).length) (xb ++ freeAxes b.ndim xb) = .ok c
        ∧ Scal c (normSq K))
      -- (X·b̄)·b
      ∧ (∃ XB c, tdF X (NormNet.braOf b xb) (kbQ a.ndim xa) xb = .ok XB
        ∧ tdF XB b (kbQ a.ndim xa ++ (List.range (freeAxes b.ndim xb).length).map (xa.length + ·))
            (xb ++ freeAxes b.ndim xb) = .ok c ∧ Scal c (normSq K))
      -- X·Y
      ∧ (∃ c, tdF X Y (kbP a.ndim xa) (kbP b.ndim xb) = .ok c ∧ Scal c (normSq K))
      -- (ā·Y)·a
      ∧ (∃ AY c, tdF (NormNet.braOf a xa) Y xa (kbQ b.ndim xb) = .ok AY
        ∧ tdF AY a ((kbQ b.ndim xb).map ((freeAxes a.ndim xa).length + ·)
            ++ List.range (freeAxes a.ndim xa).length) (xa ++ freeAxes a.ndim xa) = .ok c
        ∧ Scal c (normSq K))
      -- (Y·ā)·a
      ∧ (∃ YA c, tdF Y (NormNet.braOf a xa) (kbQ b.ndim xb) xa = .ok YA
        ∧ tdF YA a (kbQ b.ndim xb ++ (List.range (freeAxes a.ndim xa).length).map (xb.length + ·))
            (xa ++ freeAxes a.ndim xa) = .ok c ∧ Scal c (normSq K))
      -- Y·X
      ∧ (∃ c, tdF Y X (kbP b.ndim xb) (kbP a.ndim xa) = .ok c ∧ Scal c (normSq K)) := by
  obtain ⟨K, X, Y, eK, PX, PY, H1, H2⟩ := H
  exact ⟨K, X, Y, eK, PX.call, PX.odd, PY.call, PY.odd, H1.rBX, H1.rXB, H1.rXY, H2.rBX, H2.rXB, H2.rXY⟩

/-- **network_norm_ketbra_hub.**  For every pair of sorted distinct ket label lists the six ket-bra-first
    routes succeed and give ONE scalar (no label check). -/
theorem network_norm_ketbra_hub (hmul : ∀ x y : R, x * y = y * x) (a b : Arr R) (xa xb : List Nat)
    (ha : a.validB = true) (hb : b.validB = true) (hfa : a.fermi = true) (hfb : b.fermi = true)
    (hadm : ValidP.tdotAdmissibleB a b xa xb = true)
    (hoA : KetLabels a.oddpos) (hoB : KetLabels b.oddpos)
    (hdA : a.oddpos.Pairwise (fun x y => x.1 ≠ y.1))
    (hdB : b.oddpos.Pairwise (fun x y => x.1 ≠ y.1)) :
    ∃ X Y v, KetBraHub a b xa xb X Y v :=
  hub_all hmul a b xa xb (RoutesP.Adm.of ha hb hfa hfb hadm) hoA hoB hdA hdB

/-- **network_norm_ketbra_all.**  All six routes give `Σ|K|²` when the label checks of C10i hold for
    `(a, b)` or for `(b, a)`. -/
theorem network_norm_ketbra_all (hmul : ∀ x y : R, x * y = y * x) (a b : Arr R) (xa xb : List Nat)
    (ha : a.validB = true) (hb : b.validB = true) (hfa : a.fermi = true) (hfb : b.fermi = true)
    (hadm : ValidP.tdotAdmissibleB a b xa xb = true)
    (hoA : KetLabels a.oddpos) (hoB : KetLabels b.oddpos)
    (hd : (a.oddpos ++ b.oddpos).Pairwise (fun x y => x.1 ≠ y.1))
    (hlab : (netLabelsB a.parity b.parity a.oddpos b.oddpos = true
              ∧ ketBraLabelsB a.parity b.parity a.oddpos b.oddpos = true)
          ∨ (netLabelsB b.parity a.parity b.oddpos a.oddpos = true
              ∧ ketBraLabelsB b.parity a.parity b.oddpos a.oddpos = true)) :
    KetBraAll a b xa xb := by
  refine ketbra_all hmul a b xa xb ha hb hfa hfb hadm hoA hoB hd ?_
  rcases hlab with ⟨h1, h2⟩ | ⟨h1, h2⟩
  · exact Or.inl (ketbra_first hmul a b xa xb ha hb hfa hfb hadm hoA hoB hd h2)
  · exact Or.inr (ketbra_first hmul b a xb xa hb ha hfb hfa (admB_swap ha hb hfa hfb hadm) hoB hoA
      (labels_swap hd) h2)

/-- **network_norm_ketbra_pair.**  `(ā·a)·(b̄·b) = Σ|K|²` under the hypotheses of
    `network_norm_ketbra_first`. -/
theorem network_norm_ketbra_pair (hmul : ∀ x y : R, x * y = y * x) (a b : Arr R) (xa xb : List Nat)
    (ha : a.validB = true) (hb : b.validB = true) (hfa : a.fermi = true) (hfb : b.fermi = true)
    (hadm : ValidP.tdotAdmissibleB a b xa xb = true)
    (hoA : KetLabels a.oddpos) (hoB : KetLabels b.oddpos)
    (hd : (a.oddpos ++ b.oddpos).Pairwise (fun x y => x.1 ≠ y.1))
    (hlab : netLabelsB a.parity b.parity a.oddpos b.oddpos = true)
    (hlabK : ketBraLabelsB a.parity b.parity a.oddpos b.oddpos = true) :
    ∃ K X Y c, a.tensordotF b (.pair (xa.map Int.ofNat) (xb.map Int.ofNat)) .blockwise = .ok K
      ∧ (NormNet.braOf a xa).tensordotF a (.pair ((freeAxes a.ndim xa).map Int.ofNat)
            ((freeAxes a.ndim xa).map Int.ofNat)) .blockwise = .ok X ∧ X.oddpos = []
      ∧ (NormNet.braOf b xb).tensordotF b (.pair ((freeAxes b.ndim xb).map Int.ofNat)
            ((freeAxes b.ndim xb).map Int.ofNat)) .blockwise = .ok Y ∧ Y.oddpos = []
      ∧ X.tensordotF Y (.pair ((kbP a.ndim xa).map Int.ofNat) ((kbP b.ndim xb).map Int.ofNat))
            .blockwise = .ok c
      ∧ c.ndim = 0 ∧ c.oddpos = [] ∧ c.elem [] [] = normSq K := by
  obtain ⟨K, X, Y, eK, PX, PY, H1, _⟩ := network_norm_ketbra_all hmul a b xa xb ha hb hfa hfb hadm
    hoA hoB hd (Or.inl ⟨hlab, hlabK⟩)
  obtain ⟨c, ec, Sc⟩ := H1.rXY
  exact ⟨K, X, Y, c, eK, PX.call, PX.odd, PY.call, PY.odd, ec, Sc⟩

/-- **network_norm_ketbra_all_oneKet.**  At most one ket label per tensor, labels distinct: all six
    ket-bra-first routes give `Σ|K|²` — no disjunction, both label orders. -/
theorem network_norm_ketbra_all_oneKet (hmul : ∀ x y : R, x * y = y * x) (a b : Arr R)
    (xa xb : List Nat)
    (ha : a.validB = true) (hb : b.validB = true) (hfa : a.fermi = true) (hfb : b.fermi = true)
    (hadm : ValidP.tdotAdmissibleB a b xa xb = true)
    (hoA : OneKet a.oddpos) (hoB : OneKet b.oddpos)
    (hd : (a.oddpos ++ b.oddpos).Pairwise (fun x y => x.1 ≠ y.1)) :
    KetBraAll a b xa xb :=
  ketbra_all hmul a b xa xb ha hb hfa hfb hadm hoA.ketLabels hoB.ketLabels hd
    (network_norm_ketbra_first_oneKet hmul a b xa xb ha hb hfa hfb hadm hoA hoB hd)

/-- one label each, the two labels different (either order) -/
theorem network_norm_ketbra_all_ne (hmul : ∀ x y : R, x * y = y * x) (a b : Arr R)
    (xa xb : List Nat) (la lb : Int)
    (ha : a.validB = true) (hb : b.validB = true) (hfa : a.fermi = true) (hfb : b.fermi = true)
    (hadm : ValidP.tdotAdmissibleB a b xa xb = true)
    (hoA : a.oddpos = [(la, false)]) (hoB : b.oddpos = [(lb, false)]) (hne : la ≠ lb) :
    KetBraAll a b xa xb :=
  network_norm_ketbra_all_oneKet hmul a b xa xb ha hb hfa hfb hadm (Or.inr ⟨la, hoA⟩)
    (Or.inr ⟨lb, hoB⟩) (by rw [hoA, hoB]; simpa using hne)

/-- `KetBraAllM` written out: the two pieces in the modes `md 0`, `md 1`; the routes ending on `b` in the
    modes `md 2 … md 6`; the routes ending on `a` in the modes `md 7 … md 11`; `K` the BLOCKWISE `a·b` -/
theorem ketBraAllM_spec {a b : Arr R} {xa xb : List Nat} {md : Nat → TdotMode}
    (H : KetBraAllM a b xa xb md) :
    ∃ K X Y, tdF a b xa xb = .ok K
      ∧ tdM (md 0) (NormNet.braOf a xa) a (freeAxes a.ndim xa) (freeAxes a.ndim xa) = .ok X
      ∧ X.oddpos = []
      ∧ tdM (md 1) (NormNet.braOf b xb) b (freeAxes b.ndim xb) (freeAxes b.ndim xb) = .ok Y
      ∧ Y.oddpos = []
      -- (b̄·X)·b
      ∧ (∃ BX c, tdM (md 2) (NormNet.braOf b xb) X xb (kbQ a.ndim xa) = .ok BX
        ∧ tdM (md 3) BX b ((kbQ a.ndim xa).map ((freeAxes b.ndim xb).length + ·)
            ++ List.range (freeAxes b.ndim xb).length) (xb ++ freeAxes b.ndim xb) = .ok c
        ∧ Scal c (normSq K))
      -- (X·b̄)·b
      ∧ (∃ XB c, tdM (md 4) X (NormNet.braOf b xb) (kbQ a.ndim xa) xb = .ok XB
        ∧ tdM (md 5) XB b (kbQ a.ndim xa ++ (List.range (freeAxes b.ndim xb).length).map (xa.length + ·))
            (xb ++ freeAxes b.ndim xb) = .ok c ∧ Scal c (normSq K))
      -- X·Y
      ∧ (∃ c, tdM (md 6) X Y (kbP a.ndim xa) (kbP b.ndim xb) = .ok c ∧ Scal c (normSq K))
      -- (ā·Y)·a
      ∧ (∃ AY c, tdM (md 7) (NormNet.braOf a xa) Y xa (kbQ b.ndim xb) = .ok AY
        ∧ tdM (md 8) AY a ((kbQ b.ndim xb).map ((freeAxes a.ndim xa).length + ·)
            ++ List.range (freeAxes a.ndim xa).length) (xa ++ freeAxes a.ndim xa) = .ok c
        ∧ Scal c (normSq K))
      -- (Y·ā)·a
      ∧ (∃ YA c, tdM (md 9) Y (NormNet.braOf a xa) (kbQ b.ndim xb) xa = .ok YA
        ∧ tdM (md 10) YA a (kbQ b.ndim xb ++ (List.range (freeAxes a.ndim xa).length).map (xb.length + ·))
            (xa ++ freeAxes a.ndim xa) = .ok c ∧ Scal c (normSq K))
      -- Y·X
      ∧ (∃ c, tdM (md 11) Y X (kbP b.ndim xb) (kbP a.ndim xa) = .ok c ∧ Scal c (normSq K)) := by
  obtain ⟨K, X, Y, eK, eX, oX, eY, oY, H1, H2⟩ := H
  exact ⟨K, X, Y, eK, eX, oX, eY, oY, H1.rBX, H1.rXB, H1.rXY, H2.rBX, H2.rXB, H2.rXY⟩

/-- **network_norm_ketbra_all_any_mode.**  The six ket-bra-first routes with EVERY call in its own mode
    (blockwise / fused / auto): all calls succeed, the pieces carry no label, every final result has rank 0,
    no labels and the value `Σ|K|²` of the blockwise `K = a·b`. -/
theorem network_norm_ketbra_all_any_mode (hmul : ∀ x y : R, x * y = y * x) (hz1 : ∀ x : R, 0 * x = 0)
    (hz2 : ∀ x : R, x * 0 = 0) (a b : Arr R) (xa xb : List Nat)
    (ha : a.validB = true) (hb : b.validB = true) (hfa : a.fermi = true) (hfb : b.fermi = true)
    (hadm : ValidP.tdotAdmissibleB a b xa xb = true)
    (hoA : KetLabels a.oddpos) (hoB : KetLabels b.oddpos)
    (hd : (a.oddpos ++ b.oddpos).Pairwise (fun x y => x.1 ≠ y.1))
    (hlab : (netLabelsB a.parity b.parity a.oddpos b.oddpos = true
              ∧ ketBraLabelsB a.parity b.parity a.oddpos b.oddpos = true)
          ∨ (netLabelsB b.parity a.parity b.oddpos a.oddpos = true
              ∧ ketBraLabelsB b.parity a.parity b.oddpos a.oddpos = true))
    (md : Nat → TdotMode) : KetBraAllM a b xa xb md :=
  ketbra_all_any hz1 hz2 (RoutesP.Adm.of ha hb hfa hfb hadm)
    (network_norm_ketbra_all hmul a b xa xb ha hb hfa hfb hadm hoA hoB hd hlab) md

/-- at most one ket label per tensor: every call in its own mode, no disjunction, both label orders -/
theorem network_norm_ketbra_all_any_mode_oneKet (hmul : ∀ x y : R, x * y = y * x)
    (hz1 : ∀ x : R, 0 * x = 0) (hz2 : ∀ x : R, x * 0 = 0) (a b : Arr R) (xa xb : List Nat)
    (ha : a.validB = true) (hb : b.validB = true) (hfa : a.fermi = true) (hfb : b.fermi = true)
    (hadm : ValidP.tdotAdmissibleB a b xa xb = true)
    (hoA : OneKet a.oddpos) (hoB : OneKet b.oddpos)
    (hd : (a.oddpos ++ b.oddpos).Pairwise (fun x y => x.1 ≠ y.1))
    (md : Nat → TdotMode) : KetBraAllM a b xa xb md :=
  ketbra_all_any hz1 hz2 (RoutesP.Adm.of ha hb hfa hfb hadm)
    (network_norm_ketbra_all_oneKet hmul a b xa xb ha hb hfa hfb hadm hoA hoB hd) md

/-- all calls in the default mode `auto` -/
theorem network_norm_ketbra_all_auto_oneKet (hmul : ∀ x y : R, x * y = y * x)
    (hz1 : ∀ x : R, 0 * x = 0) (hz2 : ∀ x : R, x * 0 = 0) (a b : Arr R) (xa xb : List Nat)
    (ha : a.validB = true) (hb : b.validB = true) (hfa : a.fermi = true) (hfb : b.fermi = true)
    (hadm : ValidP.tdotAdmissibleB a b xa xb = true)
    (hoA : OneKet a.oddpos) (hoB : OneKet b.oddpos)
    (hd : (a.oddpos ++ b.oddpos).Pairwise (fun x y => x.1 ≠ y.1)) :
    KetBraAllM a b xa xb (fun _ => .auto) :=
  network_norm_ketbra_all_any_mode_oneKet hmul hz1 hz2 a b xa xb ha hb hfa hfb hadm hoA hoB hd _

end main

/-! ## non-vacuity -/

open scoped SymmModel.Lazy

/-- the network `gA`, `gB` of C10d (labels 1 < 3) -/
example : KetBraAll C03.gA C03.gB [2] [0] :=
  network_norm_ketbra_all_ne Int.mul_comm C03.gA C03.gB [2] [0] 1 3 gA_valid
    gB_valid rfl rfl gAB_adm rfl rfl (by decide)

/-- `gA7`, `gB`: `label a = 7 > label b = 3` — the order excluded in C10i -/
example : KetBraAll gA7 C03.gB [2] [0] :=
  network_norm_ketbra_all_ne Int.mul_comm gA7 C03.gB [2] [0] 7 3 gA7_valid
    gB_valid rfl rfl gA7B_adm rfl rfl (by decide)

example : ∃ X Y v, KetBraHub gA7 C03.gB [2] [0] X Y (v : Int) :=
  network_norm_ketbra_hub Int.mul_comm gA7 C03.gB [2] [0] gA7_valid gB_valid
    rfl rfl gA7B_adm (OneKet.ketLabels (Or.inr ⟨7, rfl⟩))
    (OneKet.ketLabels (Or.inr ⟨3, rfl⟩)) (by decide) (by decide)

example : ∃ K X Y c, C03.gA.tensordotF C03.gB (.pair [2] [0]) .blockwise = .ok K
    ∧ (NormNet.braOf C03.gA [2]).tensordotF C03.gA (.pair [0, 1] [0, 1]) .blockwise = .ok X
    ∧ X.oddpos = []
    ∧ (NormNet.braOf C03.gB [0]).tensordotF C03.gB (.pair [1, 2] [1, 2]) .blockwise = .ok Y
    ∧ Y.oddpos = []
    ∧ X.tensordotF Y (.pair [0, 1] [0, 1]) .blockwise = .ok c
    ∧ c.ndim = 0 ∧ c.oddpos = [] ∧ c.elem [] [] = normSq K :=
  network_norm_ketbra_pair Int.mul_comm C03.gA C03.gB [2] [0] gA_valid gB_valid
    rfl rfl gAB_adm (OneKet.ketLabels (Or.inr ⟨1, rfl⟩))
    (OneKet.ketLabels (Or.inr ⟨3, rfl⟩)) (by decide) (by decide +kernel) (by decide +kernel)

/-- every call in fused mode, `label a = 7 > label b = 3` -/
example : KetBraAllM gA7 C03.gB [2] [0] (fun _ => .fused) :=
  network_norm_ketbra_all_any_mode_oneKet Int.mul_comm Int.zero_mul Int.mul_zero gA7 C03.gB [2] [0]
    gA7_valid gB_valid rfl rfl gA7B_adm (Or.inr ⟨7, rfl⟩)
    (Or.inr ⟨3, rfl⟩) (by decide) _

example : KetBraAllM C03.gA C03.gB [2] [0]
    (fun k => if k % 3 == 0 then .fused else if k % 3 == 1 then .auto else .blockwise) :=
  network_norm_ketbra_all_any_mode_oneKet Int.mul_comm Int.zero_mul Int.mul_zero C03.gA C03.gB [2] [0]
    gA_valid gB_valid rfl rfl gAB_adm (Or.inr ⟨1, rfl⟩)
    (Or.inr ⟨3, rfl⟩) (by decide) _

theorem ketbra_all_vals :
    ketbraAllVals C03.gA C03.gB [2] [0]
      = [[16422], [16422, 0, 0], [16422, 0, 0], [16422, 0, 0], [16422, 0, 0], [16422, 0, 0],
          [16422, 0, 0]]
    ∧ ketbraAllVals gA7 C03.gB [2] [0]
      = [[16422], [16422, 0, 0], [16422, 0, 0], [16422, 0, 0], [16422, 0, 0], [16422, 0, 0],
          [16422, 0, 0]] :=
  gAB_routes_vals.2.1

end SymmModel.C10
