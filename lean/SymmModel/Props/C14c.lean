/-
  SymmModel.Props.C14c — third part of property C14.

  (1) `inplace_same_value` for the self-aliased fermionic `x ∘= x` WITH pending signs, at the level of
      VALUES: the buffer tables of the two runs differ (`C14.binaryF_self_pending_bufs_differ`), but under
      every interpretation of the kernels — in particular the free one, provenance trees — the in-place
      target and the out-of-place result denote the same array.  For all heaps.
  (2) the heap programs of the binary operators refine the VALUE model: the denotation of the target
      after `x ∘= y` is what `SymmModel.binaryBlockwise` computes from the denotations of the operands.
-/
import SymmModel.Props.C14All
import SymmModel.Proofs.Heap3Prov
import SymmModel.Proofs.Heap3Value

namespace SymmModel.C14
open SymmModel.Heap

/-- the denotation of an array's content: the block dict with every buffer id replaced by its value -/
structure SemContent (V : Type) where
  indices : Nat
  charge : Int
  blocks : SDict V
  phases : Option Dict
  oddpos : Nat

def semContent {V : Type} (I : Nat → List V → V) (d : V) (bufs : Bufs) (c : Content) : SemContent V :=
  ⟨c.indices, c.charge, semDict I d bufs c.blocks, c.phases, c.oddpos⟩

/-- provenance trees: the free interpretation of the kernels -/
inductive PTree
  | node (tag : Nat) (args : List PTree)
  | none

def provTree (bufs : Bufs) (c : Content) : SemContent PTree := semContent PTree.node PTree.none bufs c

/-- all buffers the array's block dict mentions exist -/
def BlocksOK (h : Heap) (bd : Dict) : Prop := DictOK h.bufs.length bd

/-- **`inplace_same_value` for `x ∘= x`, fermionic, pending signs or not, every heap** (`__iadd__`,
    `__isub__`, `__imul__` of a fermionic array with itself): the in-place call returns `x`, the
    out-of-place call a new object `r`, and under EVERY interpretation `I` of the kernels over EVERY value
    type the content of `x` afterwards denotes the same array (same keys in the same order, same values,
    same index tables, charge, pending signs, `oddpos`) as the content of `r`. -/
theorem inplace_same_value_binaryF_self_sem (m : Heap.Missing) {h : Heap} {x : ObjId} {a : ArrObj} {bd : Dict}
    {pd : Option Dict} (wx : WFArr h x a bd pd) (hok : BlocksOK h bd) :
    ∃ r ci co, ((Op.binaryF m).run true h [x, x]).2 = [x] ∧ ((Op.binaryF m).run false h [x, x]).2 = [r] ∧
      content ((Op.binaryF m).run true h [x, x]).1 x = some ci ∧
      content ((Op.binaryF m).run false h [x, x]).1 r = some co ∧
      ∀ (V : Type) (I : Nat → List V → V) (d : V),
        semContent I d ((Op.binaryF m).run true h [x, x]).1.bufs ci =
          semContent I d ((Op.binaryF m).run false h [x, x]).1.bufs co := by
  obtain ⟨hi, ho, r, e1, e2, ci, co, ri, ro, hci, hco, vi, vo⟩ := binaryF_self_runs m wx
  rw [run_of_prog (operands := [x, x]) ri, run_of_prog (operands := [x, x]) ro]
  refine ⟨r, ci, co, rfl, rfl, hci, hco, ?_⟩
  intro V I d
  obtain ⟨s1, s2, s3, s4, s5⟩ := bodyF_self_sem I d m (cont a bd pd) h.bufs hok
  rw [← vi, ← vo] at s1 s2 s3 s4 s5
  simp only at s1 s2 s3 s4 s5
  simp only [semContent, s1, s2, s3, s4, s5]

/-- … in particular the provenance trees agree: every block of the in-place target was computed by the
    same kernels from the same original buffers as the corresponding block of the out-of-place result -/
theorem inplace_same_value_binaryF_self_prov (m : Heap.Missing) {h : Heap} {x : ObjId} {a : ArrObj} {bd : Dict}
    {pd : Option Dict} (wx : WFArr h x a bd pd) (hok : BlocksOK h bd) :
    ∃ r ci co, ((Op.binaryF m).run true h [x, x]).2 = [x] ∧ ((Op.binaryF m).run false h [x, x]).2 = [r] ∧
      content ((Op.binaryF m).run true h [x, x]).1 x = some ci ∧
      content ((Op.binaryF m).run false h [x, x]).1 r = some co ∧
      provTree ((Op.binaryF m).run true h [x, x]).1.bufs ci =
        provTree ((Op.binaryF m).run false h [x, x]).1.bufs co := by
  obtain ⟨r, ci, co, h1, h2, h3, h4, h5⟩ := inplace_same_value_binaryF_self_sem m wx hok
  exact ⟨r, ci, co, h1, h2, h3, h4, h5 PTree PTree.node PTree.none⟩

-- non-vacuity: the array `x = 2` of `h0` (two blocks, one pending sign) meets the hypotheses
example : BlocksOK h0 [(0, 0), (1, 1)] := by unfold BlocksOK DictOK; decide


/-! ## (2) the heap programs of the binary operators refine the value model

    `R` = scalars, blocks are `Blk R`; `I` = any interpretation of the kernels in which the kernel `tFn`
    of the binary operator is `fn` (`operator.add`, `sub`, `mul`, `truediv`, `pow` on blocks); the abstract
    dict keys stand for sectors / charges.  `binaryBlockwise` is the value model of
    `_binary_blockwise_op` (`Model/Tdot.lean`, run against the real code by the harness). -/

section value
variable {R : Type} (fn : Blk R → Blk R → Blk R) (I : Nat → List (Blk R) → Blk R) (d : Blk R)

/-- **`x ∘= y`, abelian arrays and block vectors, end to end**: if the value model computes `res` from
    the VALUES of the two operands' block dicts, then the in-place call leaves `x` with a block dict
    whose value is `res`, and the out-of-place call returns an object whose block dict has value `res`
    (`y` may be `x` itself or share dicts with it) -/
theorem binaryA_value (hI : ∀ a b, I tFn [a, b] = fn a b) (m : Heap.Missing) {h : Heap} {x y : ObjId}
    {a ay : ArrObj} {bd ob : Dict} {pd : Option Dict} (wx : WFArr h x a bd pd) (hy : h.arrOf y = some ay)
    (hyb : h.get? ay.blocks = some (.dict ob)) (okx : BlocksOK h bd) (oky : BlocksOK h ob)
    (nx : (bd.map (·.1)).Nodup) (ny : (ob.map (·.1)).Nodup) {res : List (Key × Blk R)}
    (hres : binaryBlockwise fn m.val (semDict I d h.bufs bd) (semDict I d h.bufs ob) = .ok res) :
    ∃ r c, ((Op.binaryA m).run true h [x, y]).2 = [x] ∧ ((Op.binaryA m).run false h [x, y]).2 = [r] ∧
      content ((Op.binaryA m).run true h [x, y]).1 x = some c ∧
      content ((Op.binaryA m).run false h [x, y]).1 r = some c ∧
      semDict I d ((Op.binaryA m).run true h [x, y]).1.bufs c.blocks = res ∧
      semDict I d ((Op.binaryA m).run false h [x, y]).1.bufs c.blocks = res := by
  obtain ⟨r, c, h1, h2, h3, h4, h5, h6⟩ := inplace_same_value_binaryA m wx hy hyb
  obtain ⟨_, _, sem, _⟩ := binPure_abs I d m (cont a bd pd) h.bufs ob okx oky
  rw [← h6] at sem
  have hv := binSem_value fn I d hI m _ _ (by rw [keysOf_semDict]; exact nx) (by rw [keysOf_semDict]; exact ny) hres
  refine ⟨r, c, h1, h2, h3, h4, ?_, ?_⟩
  · exact sem.trans hv
  · rw [← h5]; exact sem.trans hv

/-- **`x ∘= y`, fermionic arrays sharing nothing, end to end**: the value model is applied to the
    SYNCHRONISED values of both operands (`psSem`: the block values with the pending signs multiplied in) -/
theorem binaryF_value (hI : ∀ a b, I tFn [a, b] = fn a b) (m : Heap.Missing) {h : Heap} {x y : ObjId}
    {a ay : ArrObj} {bd bo : Dict} {pd po : Option Dict} (wx : WFArr h x a bd pd) (wy : WFArr h y ay bo po)
    (hne : y ≠ x) (hdis : ∀ q ∈ dictsOf h y, q ∉ dictsOf h x) (okx : BlocksOK h bd) (oky : BlocksOK h bo)
    (nx : (bd.map (·.1)).Nodup) (ny : (bo.map (·.1)).Nodup) {res : List (Key × Blk R)}
    (hres : binaryBlockwise fn m.val (psSem I d h.bufs (cont a bd pd)) (psSem I d h.bufs (cont ay bo po)) = .ok res) :
    ∃ r c, ((Op.binaryF m).run true h [x, y]).2 = [x] ∧ ((Op.binaryF m).run false h [x, y]).2 = [r] ∧
      content ((Op.binaryF m).run true h [x, y]).1 x = some c ∧
      content ((Op.binaryF m).run false h [x, y]).1 r = some c ∧
      semDict I d ((Op.binaryF m).run true h [x, y]).1.bufs c.blocks = res ∧
      semDict I d ((Op.binaryF m).run false h [x, y]).1.bufs c.blocks = res := by
  obtain ⟨r, c, h1, h2, h3, h4, h5, h6⟩ := inplace_same_value_binaryF m wx wy hne hdis
  have sem := bodyF_value I d m (cont a bd pd) (cont ay bo po) h.bufs okx oky
  rw [← h6] at sem
  have hv := binSem_value fn I d hI m _ _ (by rw [keysOf_psSem]; exact nx) (by rw [keysOf_psSem]; exact ny) hres
  refine ⟨r, c, h1, h2, h3, h4, ?_, ?_⟩
  · exact sem.trans hv
  · rw [← h5]; exact sem.trans hv

/-- **`x ∘= x`, fermionic, pending signs or not, end to end** -/
theorem binaryF_self_value (hI : ∀ a b, I tFn [a, b] = fn a b) (m : Heap.Missing) {h : Heap} {x : ObjId}
    {a : ArrObj} {bd : Dict} {pd : Option Dict} (wx : WFArr h x a bd pd) (okx : BlocksOK h bd)
    (nx : (bd.map (·.1)).Nodup) {res : List (Key × Blk R)}
    (hres : binaryBlockwise fn m.val (psSem I d h.bufs (cont a bd pd)) (psSem I d h.bufs (cont a bd pd)) = .ok res) :
    ∃ r ci co, ((Op.binaryF m).run true h [x, x]).2 = [x] ∧ ((Op.binaryF m).run false h [x, x]).2 = [r] ∧
      content ((Op.binaryF m).run true h [x, x]).1 x = some ci ∧
      content ((Op.binaryF m).run false h [x, x]).1 r = some co ∧
      semDict I d ((Op.binaryF m).run true h [x, x]).1.bufs ci.blocks = res ∧
      semDict I d ((Op.binaryF m).run false h [x, x]).1.bufs co.blocks = res := by
  obtain ⟨hi, ho, r, e1, e2, ci, co, ri, ro, hci, hco, vi, vo⟩ := binaryF_self_runs m wx
  rw [run_of_prog (operands := [x, x]) ri, run_of_prog (operands := [x, x]) ro]
  have semO := bodyF_value I d m (cont a bd pd) (cont a bd pd) h.bufs okx okx
  have semI := (bodyF_self_sem I d m (cont a bd pd) h.bufs okx).1
  rw [← vi, ← vo] at semI
  rw [← vo] at semO
  have hv := binSem_value fn I d hI m _ _ (by rw [keysOf_psSem]; exact nx) (by rw [keysOf_psSem]; exact nx) hres
  exact ⟨r, ci, co, rfl, rfl, hci, hco, (semI.trans semO).trans hv, semO.trans hv⟩

end value

-- an interpretation meeting `hI` exists for every `fn`; `outer` / `inner` never raise in the value model
example {R : Type} (fn : Blk R → Blk R → Blk R) (d : Blk R) :
    ∃ I : Nat → List (Blk R) → Blk R, ∀ a b, I tFn [a, b] = fn a b :=
  ⟨fun _ args => match args with | [a, b] => fn a b | _ => d, fun _ _ => rfl⟩
example {R : Type} (fn : Blk R → Blk R → Blk R) (xs os : SDict (Blk R)) :
    ∃ res, binaryBlockwise fn Heap.Missing.outer.val xs os = .ok res ∧
      ∃ res', binaryBlockwise fn Heap.Missing.inner.val xs os = .ok res' := ⟨_, rfl, _, rfl⟩

-- non-vacuity of the hypotheses of the value theorems on `h2` (x = 2, y = 5): existing buffers, unique keys
example : BlocksOK h2 [(0, 0), (1, 1)] ∧ BlocksOK h2 [(1, 2), (2, 3)] ∧
    (([(0, 0), (1, 1)] : Dict).map (·.1)).Nodup ∧ (([(1, 2), (2, 3)] : Dict).map (·.1)).Nodup := by
  refine ⟨by unfold BlocksOK DictOK; decide, by unfold BlocksOK DictOK; decide, by decide, by decide⟩

end SymmModel.C14
