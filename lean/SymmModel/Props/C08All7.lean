/- C08h: item / scalar conversions, allclose ⇔ equal dense forms. -/
import SymmModel.Props.C08All6
import SymmModel.Props.C08h
