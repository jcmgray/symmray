import SymmModel.Props.C07All3
import SymmModel.Props.C07e
