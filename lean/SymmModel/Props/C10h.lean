/-
  Property C10, network clause: any mode for the mixed orders; chains.

  (1) the MIXED operand orders of the halves of the norm network `{a, b, ā, b̄}` with EVERY contraction
      call in its own mode (`blockwise`, `fused` or `auto`; norms in practice run in `auto` → `fused`).

  `a`, `b` as in C10g: valid fermionic, bonded along `xa`/`xb` (`tdotAdmissibleB`), sorted distinct
  ket labels (`KetLabels`, all labels distinct); commutative scalars (`hmul`), `0·x = 0` (`hz1`),
  `AddCommMonoid`, `NetLaws` (+ `AssocLaws` for the sequential bracketing).  `K` is the BLOCKWISE
  contraction `a·b` (the reference for `normSq`).

  PROVED
  * `cross_guard` — two halves of any mode contracted in opposite operand orders (table frames
    `U ++ V` and `V' ++ U'` with leg-wise opposite entries, both possibly pruned differently:
    `TdotP.SizeLe`) satisfy the weak guard with the crossed leg pairs `crossAx`.
  * `cross_call_any_mode` — a crossed full contraction transfers from the blockwise halves to the
    halves and the final call in any mode (`TdotP.pad_blockwise`, `TdotP.call_w`, `pad_elem_nil`).
  * `network_norm_mixed_any_mode` — the four mixed balanced bracketings
        `(b̄·ā)·(a·b)`, `(a·b)·(b̄·ā)`, `(ā·b̄)·(b·a)`, `(b·a)·(ā·b̄)`
    with the four halves in the modes `mK mKb mK' mKb'` and the four final calls in `md 0 … md 3`:
    every call succeeds; every result has rank 0, no labels, value `normSq K`.
    `network_norm_mixed_auto`: all eight calls in the default mode.
  * `network_norm_mixed_seq_any_mode` — `((ā·b̄)·b)·a` with its three calls in the modes `mKb m1 m2`
    (the hypothesis `netLabelsB` of the swapped roles, as in C10g, is implied by the distinct labels,
    `LabelAlg.netLabelsB_of_distinct`; `network_norm_mixed_seq_any_mode_oneKet` is stated without it); `tw_cross_any_mode` is the generic step
    `(Xm·q)·p` (half first against its SECOND factor) in any modes from the blockwise route.

  (2) THREE-TENSOR CHAINS `a – b – c` (bond 1: legs `xa` of `a` with `xb1` of `b`; bond 2: legs `xb2` of
      `b` with `xc` of `c`; every other leg dangling; legs of ANY direction; blockwise mode).
  The bra network is built TENSOR BY TENSOR: `ā = braOf a xa`, `b̄ = braOf b (xb1 ++ xb2)`, `c̄ = braOf c xc`
  (`braOf t X = t.conj()` followed by `phase_flip` of the legs of `t` outside `X` that are bra-like).
  Hypotheses are on the INPUT tensors only: valid fermionic, the WEAK contraction guard
  (`AssocP.tdotAdmissibleCommonB`: matched legs opposite, charge tables agreeing on common charges —
  implied by `tdotAdmissibleB`) on both bonds, `xb1`, `xb2` disjoint, sorted ket labels (`KetLabels`), all
  labels of the three tensors distinct.  Scalars: `AddMonoid`, `NetLaws`.

  PROVED
  * `conj_tensordot_spared` — `conj` of a contraction = contraction of conjugates when FURTHER BOND LEGS `y`
    of the second tensor are spared by its flip set (weak guard): `braOf a xa · braOf b (xb ++ y)` is
    observationally (`Lazy.ObsEq`: symmetry, index tables, charge, labels, stored sectors, every value)
    `braOf (a·b) y'`, `y' = AssocP.axesAB …` the images of `y` in `a·b`: the bra tensor of the composite
    in the remaining network.  [The sign identity `bra_pair_sign_spared` of one aligned sector pair counts the
    flipped legs of the result with `dangOdd_result`; `y = []`, strong guard: `conj_tensordot` of C10c via
    `conj_phase_dual_is_braOf`.]
  * `conj_phase_dual_is_braOf` — `K.conj(phase_dual=True)` is observationally `braOf K x` whenever the
    legs `x` are ket-like (in particular `x = []`).
  * `chain_second_guard` — the second call `(a·b)·c` satisfies the weak guard (from `InterW`).
  * `network_norm_chain3` — the HALVES ROUTE with left-nested halves, both operand orders of the
    final call: `K2 = a·b`, `K3 = K2·c`, `K̄2 = ā·b̄`, `K̄3 = K̄2·c̄` all succeed;
    `K̄2 ≈ braOf K2 x2`, `K̄3 ≈ K3.conj(phase_dual=True)` (the inductive use of `conj_tensordot_spared`);
    `K̄3·K3 = normSq K3 = Σ|K3|²`, `K3·K̄3 = normSq' K3`, rank 0, no labels, no stray sign; the labels of
    `K3` are a permutation of all labels.
  * `network_norm_chain3_strong` — the same under `tdotAdmissibleB` on both bonds.
  * `network_norm_chain3_routes` (scalars additionally `AddCommMonoid`, `AssocLaws`) — EIGHT ROUTES: the
    ket half as `(a·b)·c` or `a·(b·c)`, the bra half as `(ā·b̄)·c̄` or `ā·(b̄·c̄)`, the final call with the
    bra half left (`normSq K3`) or right (`normSq' K3`): all calls succeed, the right-nested halves are
    `Assoc3P.Eqv` (`C04.eqv_def`) to the left-nested ones (S7 for chains under the weak guard, `chain_both`), every final
    result has rank 0, no labels, the value `Σ|K3|²` (`full_congr`: congruence of the full contraction).
  * `network_norm_chain3_any_mode` (scalars `AddCommMonoid`, `0·x = x·0 = 0`) — the halves route with
    EVERY call in its own mode `md 0 … md 5` (`a·b`, `ā·b̄`, `(a·b)·c`, `(ā·b̄)·c̄`, the two final calls): all
    calls succeed, both final results are rank-0 arrays without labels with the value `normSq K3` resp.
    `normSq' K3` of the BLOCKWISE `K3 = (a·b)·c` [the chain of length three of
    `network_norm_chain_any_mode`];
    `network_norm_chain3_auto`: all six calls in the default mode.
  * CHAINS OF ANY LENGTH (`Assoc3P.Seg` = tensor with its left / right bond legs, `Assoc4P.LeafOK`,
    `Assoc4P.Link` = weak guard between neighbours, `Assoc4P.evalL` = left-nested contraction,
    `Assoc4P.STree` = bracketing tree; `braSeg S = ⟨braOf S.arr (S.l ++ S.r), S.l, S.r⟩`):
    `chain_conj` — the induction step/invariant: the left-nested contraction of the bra chain is
    observationally `braOf` (open bond spared) of the left-nested contraction of the ket chain;
    `network_norm_chain` — for a closed chain (first tensor without left bond, last without right bond):
    `(bra chain)·(ket chain) = Σ|K|²` in both operand orders, rank 0, no labels, `K`'s labels a permutation
    of all labels;
    `network_norm_chain_bracketings` (scalars `AddCommMonoid`, `AssocLaws`) — the same with the ket chain
    contracted along ANY bracketing tree `t` and the bra chain along ANY bracketing tree `tb`
    (`C04.chain_bracketing` + `full_congr`);
    `network_norm_chain_any_mode` (scalars `AddCommMonoid`, `0·x = x·0 = 0`) — the left-nested ket chain with
    its `k`-th call in mode `mk k`, the left-nested bra chain with its `k`-th call in mode `mb k`
    (`evalLM`, `compM`), the final calls in modes `m1`, `m2`: all calls succeed and give `normSq K` resp.
    `normSq' K` of the BLOCKWISE chain `K` [joint induction `chain_conj_any_mode` on the blockwise pieces and
    their zero-padded any-mode versions `NormNet.ModeInv`].
  * `chain3_needs_sparing` — negative control: flipping ALSO the bra-like bond leg of `b̄` towards `c`
    (`braOf b xb1` instead of `braOf b (xb1 ++ xb2)`) gives `-106582` instead of `Σ|K3|² = 117734` on a
    concrete chain.

  NOT COVERED HERE, and where it is:
  * further routes of the three-tensor network: the nested routes that absorb the bra tensors one at a time
    (`c̄·(b̄·(ā·K3))`): open; evaluated on a concrete chain in C10k (`chain3_nested_vals`); operand-swapped
    halves; fused / auto mode for bracketings other than the left-nested one;
  * bracketings of the two-tensor network that first contract a ket with a bra tensor
    (`(ā·a)·(b̄·b)`, `((ā·a)·b̄)·b`, `(a·ā)·(b·b̄)`): C10i–C10k;
  * the other sequential bracketings with mixed orders in any mode (same argument as `tw_cross_any_mode`
    with another triangle): not written out.
-/
import SymmModel.Proofs.NetNorm12
import SymmModel.Props.C10ChainVals

namespace SymmModel.C10
open SymmModel Lazy Norm NormNet TdotP
set_option linter.unusedSectionVars false

/-- leg-wise "can be contracted with": same charge table, opposite direction -/
theorem opp_def (i j : Index) : NormNet.Opp i j ↔ (j.cm = i.cm ∧ j.dual = !i.dual) := Iff.rfl

/-- **the weak guard with crossed leg pairs**, for halves of any mode -/
theorem cross_guard {R : Type} {Z X : Arr R} {U V U' V' : List Index}
    (hZ : List.Forall₂ SizeLe Z.indices (V' ++ U')) (hX : List.Forall₂ SizeLe X.indices (U ++ V))
    (hU : List.Forall₂ NormNet.Opp U U') (hV : List.Forall₂ NormNet.Opp V V')
    (hnZ : ∀ ix ∈ Z.indices, (ix.cm.map (·.1)).Nodup)
    (hnF : ∀ ix ∈ U ++ V, (ix.cm.map (·.1)).Nodup) :
    AssocP.contractibleCommonB Z X (crossAx U.length V.length) (List.range (U.length + V.length))
      = true :=
  NormNet.cross_common hZ hX hU hV hnZ hnF

/-- **a crossed full contraction in any mode** from the blockwise one -/
theorem cross_call_any_mode {R : Type} [AddCommMonoid R] [Mul R] [Neg R] [GradedP.SignRing R]
    (hz1 : ∀ x : R, 0 * x = 0) (hz2 : ∀ x : R, x * 0 = 0)
    {Z Zm X Xm : Arr R} {U V U' V' : List Index}
    (HZ : NormNet.Half Z Zm (V' ++ U')) (HX : NormNet.Half X Xm (U ++ V)) (hsym : Z.sym = X.sym)
    (hU : List.Forall₂ NormNet.Opp U U') (hV : List.Forall₂ NormNet.Opp V V')
    (hnF : ∀ ix ∈ U ++ V, (ix.cm.map (·.1)).Nodup) (r : Arr R)
    (hr : Z.tensordotF X (.pair ((crossAx U.length V.length).map Int.ofNat)
        ((List.range (U.length + V.length)).map Int.ofNat)) .blockwise = .ok r)
    (hrn : r.ndim = 0) (mode : TdotMode) :
    ∃ rm, Zm.tensordotF Xm (.pair ((crossAx U.length V.length).map Int.ofNat)
          ((List.range (U.length + V.length)).map Int.ofNat)) mode = .ok rm
      ∧ rm.ndim = 0 ∧ rm.oddpos = r.oddpos ∧ rm.elem [] [] = r.elem [] [] :=
  NormNet.cross_call_any hz1 hz2 HZ HX hsym hU hV hnF r hr hrn mode

section mixed
variable {R : Type} [AddCommMonoid R] [Mul R] [Neg R] [Conj R] [NetLaws R]

/-- **network_norm_mixed_any_mode.**  The four balanced bracketings with the halves in mixed
    operand orders, the four halves and the four final calls each in its own mode: all calls
    succeed; the results are rank-0 arrays without labels with value `normSq K`, `K` the blockwise
    `a·b`. -/
theorem network_norm_mixed_any_mode (hmul : ∀ x y : R, x * y = y * x) (hz1 : ∀ x : R, 0 * x = 0)
    (a b : Arr R) (xa xb : List Nat)
    (ha : a.validB = true) (hb : b.validB = true) (hfa : a.fermi = true) (hfb : b.fermi = true)
    (hadm : ValidP.tdotAdmissibleB a b xa xb = true)
    (hoA : KetLabels a.oddpos) (hoB : KetLabels b.oddpos)
    (hd : (a.oddpos ++ b.oddpos).Pairwise (fun x y => x.1 ≠ y.1))
    (mK mKb mK' mKb' : TdotMode) (md : Nat → TdotMode) :
    ∃ K Km Kbm Km' Kbm',
      a.tensordotF b (.pair (xa.map Int.ofNat) (xb.map Int.ofNat)) .blockwise = .ok K
      ∧ a.tensordotF b (.pair (xa.map Int.ofNat) (xb.map Int.ofNat)) mK = .ok Km
      ∧ (NormNet.braOf a xa).tensordotF (NormNet.braOf b xb)
          (.pair (xa.map Int.ofNat) (xb.map Int.ofNat)) mKb = .ok Kbm
      ∧ b.tensordotF a (.pair (xb.map Int.ofNat) (xa.map Int.ofNat)) mK' = .ok Km'
      ∧ (NormNet.braOf b xb).tensordotF (NormNet.braOf a xa)
          (.pair (xb.map Int.ofNat) (xa.map Int.ofNat)) mKb' = .ok Kbm'
      -- (b̄·ā)·(a·b)
      ∧ (∃ r, Kbm'.tensordotF Km (.pair
            ((crossAx (freeAxes a.ndim xa).length (freeAxes b.ndim xb).length).map Int.ofNat)
            ((List.range K.ndim).map Int.ofNat)) (md 0) = .ok r
          ∧ r.ndim = 0 ∧ r.oddpos = [] ∧ r.elem [] [] = normSq K)
      -- (a·b)·(b̄·ā)
      ∧ (∃ r, Km.tensordotF Kbm' (.pair
            ((crossAx (freeAxes b.ndim xb).length (freeAxes a.ndim xa).length).map Int.ofNat)
            ((List.range K.ndim).map Int.ofNat)) (md 1) = .ok r
          ∧ r.ndim = 0 ∧ r.oddpos = [] ∧ r.elem [] [] = normSq K)
      -- (ā·b̄)·(b·a)
      ∧ (∃ r, Kbm.tensordotF Km' (.pair
            ((crossAx (freeAxes b.ndim xb).length (freeAxes a.ndim xa).length).map Int.ofNat)
            ((List.range K.ndim).map Int.ofNat)) (md 2) = .ok r
          ∧ r.ndim = 0 ∧ r.oddpos = [] ∧ r.elem [] [] = normSq K)
      -- (b·a)·(ā·b̄)
      ∧ (∃ r, Km'.tensordotF Kbm (.pair
            ((crossAx (freeAxes a.ndim xa).length (freeAxes b.ndim xb).length).map Int.ofNat)
            ((List.range K.ndim).map Int.ofNat)) (md 3) = .ok r
          ∧ r.ndim = 0 ∧ r.oddpos = [] ∧ r.elem [] [] = normSq K) :=
  NormNet.network_norm_mixedM hmul hz1 a b xa xb ha hb hfa hfb hadm hoA hoB hd mK mKb mK' mKb' md

/-- the default mode everywhere: all eight calls in `mode = auto`
    (`MixedM` abbreviates the conclusion of `network_norm_mixed_any_mode`) -/
theorem network_norm_mixed_auto (hmul : ∀ x y : R, x * y = y * x) (hz1 : ∀ x : R, 0 * x = 0)
    (a b : Arr R) (xa xb : List Nat)
    (ha : a.validB = true) (hb : b.validB = true) (hfa : a.fermi = true) (hfb : b.fermi = true)
    (hadm : ValidP.tdotAdmissibleB a b xa xb = true)
    (hoA : KetLabels a.oddpos) (hoB : KetLabels b.oddpos)
    (hd : (a.oddpos ++ b.oddpos).Pairwise (fun x y => x.1 ≠ y.1)) :
    MixedM a b xa xb .auto .auto .auto .auto (fun _ => .auto) :=
  NormNet.network_norm_mixedM hmul hz1 a b xa xb ha hb hfa hfb hadm hoA hoB hd _ _ _ _ _

end mixed

section seq
variable {R : Type} [AddCommMonoid R] [Mul R] [Neg R]

/-- the generic step `(Xm·q)·p` in modes `m1`, `m2` from the blockwise `(X·q)·p`: the half `X`
    (frame: conjugated frame of `p·q`) meets first its SECOND factor `q`, then `p` -/
theorem tw_cross_any_mode [GradedP.SignRing R]
    (hz1 : ∀ x : R, 0 * x = 0) (hz2 : ∀ x : R, x * 0 = 0)
    (p q X Xm AB c : Arr R) (xp xq : List Nat)
    (hp : p.validB = true) (hq : q.validB = true) (hfp : p.fermi = true) (hfq : q.fermi = true)
    (hadm : ValidP.tdotAdmissibleB p q xp xq = true) (H : HalfPair X Xm p q xp xq)
    (e1 : X.tensordotF q (.pair
        (((List.range (freeAxes q.ndim xq).length).map ((freeAxes p.ndim xp).length + ·)).map
          Int.ofNat) ((freeAxes q.ndim xq).map Int.ofNat)) .blockwise = .ok AB)
    (e2 : AB.tensordotF p (.pair ((Assoc2P.axesAB
          ((freeAxes p.ndim xp).length + (freeAxes q.ndim xq).length) q.ndim
          ((List.range (freeAxes q.ndim xq).length).map ((freeAxes p.ndim xp).length + ·))
          (List.range (freeAxes p.ndim xp).length) (freeAxes q.ndim xq) xq).map Int.ofNat)
        ((freeAxes p.ndim xp ++ xp).map Int.ofNat)) .blockwise = .ok c)
    (hc : c.ndim = 0) (m1 m2 : TdotMode) :
    ∃ ABm cm, Xm.tensordotF q (.pair
          (((List.range (freeAxes q.ndim xq).length).map ((freeAxes p.ndim xp).length + ·)).map
            Int.ofNat) ((freeAxes q.ndim xq).map Int.ofNat)) m1 = .ok ABm
      ∧ ABm.tensordotF p (.pair ((Assoc2P.axesAB
            ((freeAxes p.ndim xp).length + (freeAxes q.ndim xq).length) q.ndim
            ((List.range (freeAxes q.ndim xq).length).map ((freeAxes p.ndim xp).length + ·))
            (List.range (freeAxes p.ndim xp).length) (freeAxes q.ndim xq) xq).map Int.ofNat)
          ((freeAxes p.ndim xp ++ xp).map Int.ofNat)) m2 = .ok cm
      ∧ cm.ndim = 0 ∧ cm.oddpos = c.oddpos ∧ cm.elem [] [] = c.elem [] [] :=
  NormNet.tw_cross_any hz1 hz2 p q X Xm AB c xp xq hp hq hfp hfq hadm H e1 e2 hc m1 m2

variable [Conj R] [NetLaws R] [AssocP.AssocLaws R]

/-- **network_norm_mixed_seq_any_mode.**  `((ā·b̄)·b)·a = normSq (a·b)` with the bra half in mode `mKb`
    and the two tensor-by-tensor calls in the modes `m1`, `m2` (the rank of the half is written out:
    `(freeAxes a.ndim xa).length + (freeAxes b.ndim xb).length`) -/
theorem network_norm_mixed_seq_any_mode (hmul : ∀ x y : R, x * y = y * x) (a b : Arr R)
    (xa xb : List Nat)
    (ha : a.validB = true) (hb : b.validB = true) (hfa : a.fermi = true) (hfb : b.fermi = true)
    (hadm : ValidP.tdotAdmissibleB a b xa xb = true)
    (hoA : KetLabels a.oddpos) (hoB : KetLabels b.oddpos)
    (hd : (a.oddpos ++ b.oddpos).Pairwise (fun x y => x.1 ≠ y.1))
    (hlab' : netLabelsB b.parity a.parity b.oddpos a.oddpos = true) (mKb m1 m2 : TdotMode) :
    ∃ K Kbm, a.tensordotF b (.pair (xa.map Int.ofNat) (xb.map Int.ofNat)) .blockwise = .ok K
      ∧ (NormNet.braOf a xa).tensordotF (NormNet.braOf b xb)
          (.pair (xa.map Int.ofNat) (xb.map Int.ofNat)) mKb = .ok Kbm
      ∧ ∃ T c, Kbm.tensordotF b (.pair
            (((List.range (freeAxes b.ndim xb).length).map ((freeAxes a.ndim xa).length + ·)).map
              Int.ofNat) ((freeAxes b.ndim xb).map Int.ofNat)) m1 = .ok T
        ∧ T.tensordotF a (.pair ((Assoc2P.axesAB
              ((freeAxes a.ndim xa).length + (freeAxes b.ndim xb).length) b.ndim
              ((List.range (freeAxes b.ndim xb).length).map ((freeAxes a.ndim xa).length + ·))
              (List.range (freeAxes a.ndim xa).length) (freeAxes b.ndim xb) xb).map Int.ofNat)
            ((freeAxes a.ndim xa ++ xa).map Int.ofNat)) m2 = .ok c
        ∧ c.ndim = 0 ∧ c.oddpos = [] ∧ c.elem [] [] = normSq K :=
  NormNet.network_norm_mixed_seqM hmul a b xa xb ha hb hfa hfb hadm hoA hoB hd mKb m1 m2

/-- at most one ket label per tensor: no label hypothesis -/
theorem network_norm_mixed_seq_any_mode_oneKet (hmul : ∀ x y : R, x * y = y * x) (a b : Arr R)
    (xa xb : List Nat)
    (ha : a.validB = true) (hb : b.validB = true) (hfa : a.fermi = true) (hfb : b.fermi = true)
    (hadm : ValidP.tdotAdmissibleB a b xa xb = true)
    (hoA : OneKet a.oddpos) (hoB : OneKet b.oddpos)
    (hd : (a.oddpos ++ b.oddpos).Pairwise (fun x y => x.1 ≠ y.1)) (mKb m1 m2 : TdotMode) :
    MixedSeqM a b xa xb mKb m1 m2 :=
  NormNet.network_norm_mixed_seqM hmul a b xa xb ha hb hfa hfb hadm hoA.ketLabels hoB.ketLabels hd
    mKb m1 m2

end seq

/-! ### non-vacuity of (1) -/

open scoped SymmModel.Lazy

theorem gA_valid : C03.gA.validB = true := by decide +kernel
theorem gB_valid : C03.gB.validB = true := by decide +kernel
theorem gAs_valid : gAs.validB = true := by decide +kernel
theorem gAB_adm : ValidP.tdotAdmissibleB C03.gA C03.gB [2] [0] = true := by decide +kernel
theorem gAsB_adm : ValidP.tdotAdmissibleB gAs C03.gB [2] [0] = true := by decide +kernel

/-- the pruned network `gAs`, `gB` of C10d, all eight calls in the default mode -/
example : MixedM gAs C03.gB [2] [0] .auto .auto .auto .auto (fun _ => .auto) :=
  network_norm_mixed_auto Int.mul_comm Int.zero_mul gAs C03.gB [2] [0] gAs_valid
    gB_valid rfl rfl gAsB_adm (OneKet.ketLabels (Or.inr ⟨1, rfl⟩))
    (OneKet.ketLabels (Or.inr ⟨3, rfl⟩)) (by decide)

example : MixedM C03.gA C03.gB [2] [0] .fused .blockwise .auto .fused
    (fun i => if i % 2 = 0 then .fused else .auto) :=
  NormNet.network_norm_mixedM Int.mul_comm Int.zero_mul C03.gA C03.gB [2] [0] gA_valid
    gB_valid rfl rfl gAB_adm (OneKet.ketLabels (Or.inr ⟨1, rfl⟩))
    (OneKet.ketLabels (Or.inr ⟨3, rfl⟩)) (by decide) _ _ _ _ _

example : MixedSeqM gAs C03.gB [2] [0] .auto .auto .auto :=
  network_norm_mixed_seq_any_mode_oneKet Int.mul_comm gAs C03.gB [2] [0] gAs_valid
    gB_valid rfl rfl gAsB_adm (Or.inr ⟨1, rfl⟩) (Or.inr ⟨3, rfl⟩) (by decide)
    _ _ _

/-- the values of `(b̄·ā)·(a·b)` and `((ā·b̄)·b)·a` of a concrete network with every call in mode `m`,
    and `normSq K` of the blockwise `K` -/
def mixedModeVals (a b : Arr Int) (xa xb : List Nat) (m : TdotMode) : List Int :=
  let fA := freeAxes a.ndim xa
  let fB := freeAxes b.ndim xb
  let sh := (List.range fB.length).map (fA.length + ·)
  let P (x y : List Nat) : AxesArg := .pair (x.map Int.ofNat) (y.map Int.ofNat)
  let val (r : Except Err (Arr Int)) : Int := match r with | .ok c => c.elem [] [] | .error _ => -1
  match a.tensordotF b (P xa xb) .blockwise, a.tensordotF b (P xa xb) m,
      (NormNet.braOf a xa).tensordotF (NormNet.braOf b xb) (P xa xb) m,
      (NormNet.braOf b xb).tensordotF (NormNet.braOf a xa) (P xb xa) m with
  | .ok K, .ok Km, .ok Kbm, .ok Kbm' =>
    [ val (Kbm'.tensordotF Km (P (crossAx fA.length fB.length) (List.range K.ndim)) m),
      val (do let T ← Kbm.tensordotF b (P sh fB) m
              T.tensordotF a (P (Assoc2P.axesAB (fA.length + fB.length) b.ndim sh
                (List.range fA.length) fB xb) (fA ++ xa)) m),
      normSq K ]
  | _, _, _, _ => []

example : mixedModeVals gAs C03.gB [2] [0] .fused = [2174, 2174, 2174] := by decide +kernel

section chain
variable {R : Type} [AddMonoid R] [Mul R] [Neg R] [Conj R] [NetLaws R]

/-- vocabulary: the bra tensor and its flip set; the images of further bond legs in a contraction -/
theorem braOf_def' (a : Arr R) (X : List Nat) :
    NormNet.braOf a X = (a.conjF).phaseFlip (NormNet.dangDual a X)
    ∧ NormNet.dangDual a X
        = (freeAxes a.ndim X).filter (fun ax => (a.indices.getD ax default).dual) := ⟨rfl, rfl⟩

theorem spared_images_def (nA nB : Nat) (xa xb y : List Nat) :
    AssocP.axesAB nA nB xa xb y
      = (RoutesP.positions (freeAxes nB xb) y).map ((freeAxes nA xa).length + ·) := rfl

/-- `K.conj(phase_dual=True)` is the bra tensor `braOf K x` when the legs `x` are ket-like -/
theorem conj_phase_dual_is_braOf (K : Arr R) (x : List Nat) (hv : K.validB = true)
    (hf : K.fermi = true) (hx : ∀ ax ∈ x, (K.indices.getD ax default).dual = false) :
    ObsEq (K.conjF true true) (NormNet.braOf K x) :=
  NormNet.conjF_obs_braOf K x (SignOk.of_valid hv hf) hx

/-- ket-like bond legs are never flipped -/
theorem braOf_spare_ket (a : Arr R) (x y : List Nat)
    (hy : ∀ ax ∈ y, (a.indices.getD ax default).dual = false) :
    NormNet.braOf a (x ++ y) = NormNet.braOf a x := NormNet.braOf_spare a x y hy

/-- **conj_tensordot_spared.**  `conj` of a contraction = contraction of the conjugates, with further
    bond legs `y` of `b` spared, under the weak guard. -/
theorem conj_tensordot_spared (a b : Arr R) (xa xb y : List Nat)
    (ha : a.validB = true) (hb : b.validB = true) (hfa : a.fermi = true) (hfb : b.fermi = true)
    (hadm : AssocP.tdotAdmissibleCommonB a b xa xb = true)
    (hny : (xb ++ y).Nodup) (hy : ∀ i ∈ y, i < b.ndim)
    (hoA : KetLabels a.oddpos) (hoB : KetLabels b.oddpos)
    (hd : (a.oddpos ++ b.oddpos).Pairwise (fun x y => x.1 ≠ y.1)) :
    ∃ K Kb, a.tensordotF b (.pair (xa.map Int.ofNat) (xb.map Int.ofNat)) .blockwise = .ok K
      ∧ (NormNet.braOf a xa).tensordotF (NormNet.braOf b (xb ++ y))
          (.pair (xa.map Int.ofNat) (xb.map Int.ofNat)) .blockwise = .ok Kb
      ∧ ObsEq Kb (NormNet.braOf K (AssocP.axesAB a.ndim b.ndim xa xb y))
      ∧ K.validB = true ∧ K.fermi = true ∧ Kb.validB = true ∧ Kb.fermi = true
      ∧ (∀ x ∈ K.oddpos, x.2 = false)
      ∧ K.oddpos.Pairwise (fun x y => oddLt x y = true)
      ∧ K.oddpos.Pairwise (fun x y => x.1 ≠ y.1)
      ∧ K.oddpos.Perm (a.oddpos ++ b.oddpos) := by
  have W := AssocP.AdmW.of ha hb hfa hfb hadm
  have hM : AssocP.Mid b.ndim xb y := AssocP.Mid.of hny (by
    intro i hi
    rcases List.mem_append.mp hi with h | h
    · exact W.ltB i h
    · exact hy i h)
  obtain ⟨K, Kb, h1, h2, h3, h4, h5, h6, h7, h8, h9, h10, _, h12⟩ :=
    NormNet.conj_tensordot_spared_w a b xa xb y W hM hoA hoB hd
  exact ⟨K, Kb, h1, h2, h3, h4, h5, h6, h7, h8, h9, h10, h12⟩

theorem chain_second_guard [GradedP.SignRing R] {a b c K2 : Arr R} {xa xb1 xb2 xc : List Nat}
    (I : InterW a b xa xb1 K2) (W1 : AssocP.AdmW a b xa xb1) (W2 : AssocP.AdmW b c xb2 xc)
    (hM : AssocP.Mid b.ndim xb1 xb2) :
    AssocP.AdmW K2 c (AssocP.axesAB a.ndim b.ndim xa xb1 xb2) xc :=
  TdotP.admW_left_chain_w I W1 W2 hM

/-- **network_norm_chain3.**  The three-tensor chain conjugated tensor by tensor, halves route:
    all four contractions succeed, the bra half is observationally `conj(phase_dual=True)` of the ket
    half, and the two full contractions give `Σ|K3|²` — rank 0, no labels, no stray sign. -/
theorem network_norm_chain3 (a b c : Arr R) (xa xb1 xb2 xc : List Nat)
    (ha : a.validB = true) (hb : b.validB = true) (hc : c.validB = true)
    (hfa : a.fermi = true) (hfb : b.fermi = true) (hfc : c.fermi = true)
    (hadm1 : AssocP.tdotAdmissibleCommonB a b xa xb1 = true)
    (hadm2 : AssocP.tdotAdmissibleCommonB b c xb2 xc = true)
    (hnd : (xb1 ++ xb2).Nodup)
    (hoA : KetLabels a.oddpos) (hoB : KetLabels b.oddpos) (hoC : KetLabels c.oddpos)
    (hd : ((a.oddpos ++ b.oddpos) ++ c.oddpos).Pairwise (fun x y => x.1 ≠ y.1)) :
    ∃ K2 Kb2 K3 Kb3,
      a.tensordotF b (.pair (xa.map Int.ofNat) (xb1.map Int.ofNat)) .blockwise = .ok K2
      ∧ (NormNet.braOf a xa).tensordotF (NormNet.braOf b (xb1 ++ xb2))
          (.pair (xa.map Int.ofNat) (xb1.map Int.ofNat)) .blockwise = .ok Kb2
      ∧ K2.tensordotF c (.pair ((AssocP.axesAB a.ndim b.ndim xa xb1 xb2).map Int.ofNat)
          (xc.map Int.ofNat)) .blockwise = .ok K3
      ∧ Kb2.tensordotF (NormNet.braOf c xc)
          (.pair ((AssocP.axesAB a.ndim b.ndim xa xb1 xb2).map Int.ofNat)
          (xc.map Int.ofNat)) .blockwise = .ok Kb3
      ∧ ObsEq Kb2 (NormNet.braOf K2 (AssocP.axesAB a.ndim b.ndim xa xb1 xb2))
      ∧ ObsEq Kb3 (K3.conjF true true)
      ∧ Kb3.ndim = K3.ndim
      ∧ K3.oddpos.Perm ((a.oddpos ++ b.oddpos) ++ c.oddpos)
      ∧ K3.validB = true ∧ K3.fermi = true ∧ Kb3.validB = true ∧ Kb3.fermi = true
      ∧ (∃ r, Kb3.tensordotF K3 (allAxes K3.ndim) .blockwise = .ok r
          ∧ r.ndim = 0 ∧ r.oddpos = [] ∧ r.elem [] [] = normSq K3)
      ∧ (∃ r, K3.tensordotF Kb3 (allAxes K3.ndim) .blockwise = .ok r
          ∧ r.ndim = 0 ∧ r.oddpos = [] ∧ r.elem [] [] = normSq' K3) :=
  NormNet.network_norm_chain3 a b c xa xb1 xb2 xc ha hb hc hfa hfb hfc hadm1 hadm2 hnd hoA hoB hoC hd

theorem admissible_weak {a b : Arr R} {xa xb : List Nat}
    (ha : a.validB = true) (hb : b.validB = true) (hfa : a.fermi = true) (hfb : b.fermi = true)
    (hadm : ValidP.tdotAdmissibleB a b xa xb = true) :
    AssocP.tdotAdmissibleCommonB a b xa xb = true := by
  have W := AssocP.AdmW.ofAdm (RoutesP.Adm.of ha hb hfa hfb hadm)
  unfold AssocP.tdotAdmissibleCommonB
  simp only [Bool.and_eq_true, decide_eq_true_eq, allDistinct_iff_nodup, List.all_eq_true]
  exact ⟨⟨⟨⟨⟨W.sym, W.con⟩, W.nA⟩, W.nB⟩, W.ltA⟩, W.ltB⟩

/-- `network_norm_chain3` under the guard `tdotAdmissibleB` of the implementation on both bonds
    (`Chain3` abbreviates the conclusion of `network_norm_chain3`) -/
theorem network_norm_chain3_strong (a b c : Arr R) (xa xb1 xb2 xc : List Nat)
    (ha : a.validB = true) (hb : b.validB = true) (hc : c.validB = true)
    (hfa : a.fermi = true) (hfb : b.fermi = true) (hfc : c.fermi = true)
    (hadm1 : ValidP.tdotAdmissibleB a b xa xb1 = true)
    (hadm2 : ValidP.tdotAdmissibleB b c xb2 xc = true)
    (hnd : (xb1 ++ xb2).Nodup)
    (hoA : KetLabels a.oddpos) (hoB : KetLabels b.oddpos) (hoC : KetLabels c.oddpos)
    (hd : ((a.oddpos ++ b.oddpos) ++ c.oddpos).Pairwise (fun x y => x.1 ≠ y.1)) :
    Chain3 a b c xa xb1 xb2 xc :=
  NormNet.network_norm_chain3 a b c xa xb1 xb2 xc ha hb hc hfa hfb hfc
    (admissible_weak ha hb hfa hfb hadm1) (admissible_weak hb hc hfb hfc hadm2) hnd hoA hoB hoC hd

end chain

/-! ### non-vacuity of (2) -/

theorem gC_valid : gC.validB = true := by decide +kernel
theorem gBC_adm : ValidP.tdotAdmissibleB C03.gB gC [2] [0] = true := by decide +kernel

/-- the chain `gA – gB – gC` (`gC` and the evaluated routes `chainVals*`: C10ChainVals): bond 1 = `gA`'s ket
    leg 2 with `gB`'s bra leg 0; bond 2 = `gB`'s BRA leg 2
    with `gC`'s ket leg 0 (so `b̄`'s flip set really has to spare a bra-like leg) -/
example : Chain3 C03.gA C03.gB gC [2] [0] [2] [0] :=
  network_norm_chain3_strong C03.gA C03.gB gC [2] [0] [2] [0] gA_valid gB_valid
    gC_valid rfl rfl rfl gAB_adm gBC_adm (by decide)
    (OneKet.ketLabels (Or.inr ⟨1, rfl⟩)) (OneKet.ketLabels (Or.inr ⟨3, rfl⟩))
    (OneKet.ketLabels (Or.inr ⟨5, rfl⟩)) (by decide)

section routes
variable {R : Type} [AddCommMonoid R] [Mul R] [Neg R] [Conj R] [NetLaws R] [AssocP.AssocLaws R]

/-- both bracketings of a chain under the weak guard (S7), with the validity of the right-nested
    result -/
theorem chain_both [GradedP.SignRing R] (A B C : Arr R) (xa xb1 xb2 xc : List Nat)
    (WAB : AssocP.AdmW A B xa xb1) (WBC : AssocP.AdmW B C xb2 xc) (hnB : (xb1 ++ xb2).Nodup)
    (hd : (A.oddpos ++ B.oddpos ++ C.oddpos).Pairwise (fun x y => x.1 ≠ y.1)) :
    ∃ AB BC c1 c2 : Arr R,
      A.tensordotF B (.pair (xa.map Int.ofNat) (xb1.map Int.ofNat)) .blockwise = .ok AB
      ∧ AB.tensordotF C (.pair ((AssocP.axesAB A.ndim B.ndim xa xb1 xb2).map Int.ofNat)
          (xc.map Int.ofNat)) .blockwise = .ok c1
      ∧ B.tensordotF C (.pair (xb2.map Int.ofNat) (xc.map Int.ofNat)) .blockwise = .ok BC
      ∧ A.tensordotF BC (.pair (xa.map Int.ofNat)
          ((AssocP.axesBC B.ndim xb1 xb2).map Int.ofNat)) .blockwise = .ok c2
      ∧ Assoc3P.Eqv c2 c1 ∧ c2.validB = true :=
  NormNet.chain_both A B C xa xb1 xb2 xc WAB WBC hnB hd

/-- the full contraction of `Eqv` copies of two halves -/
theorem full_congr [GradedP.SignRing R] {P Q X Y r : Arr R} (n : Nat)
    (A : AssocP.AdmW P Q (List.range n) (List.range n)) (E1 : Assoc3P.Eqv X P)
    (E2 : Assoc3P.Eqv Y Q) (vX : X.validB = true) (vY : Y.validB = true)
    (e : P.tensordotF Q (allAxes n) .blockwise = .ok r) (hn : r.ndim = 0) :
    ∃ r', X.tensordotF Y (allAxes n) .blockwise = .ok r'
      ∧ r'.ndim = 0 ∧ r'.oddpos = r.oddpos ∧ r'.elem [] [] = r.elem [] [] :=
  NormNet.full_congr n A E1 E2 vX vY e hn

/-- **network_norm_chain3_routes.**  Eight routes of the three-tensor norm network. -/
theorem network_norm_chain3_routes (a b c : Arr R) (xa xb1 xb2 xc : List Nat)
    (ha : a.validB = true) (hb : b.validB = true) (hc : c.validB = true)
    (hfa : a.fermi = true) (hfb : b.fermi = true) (hfc : c.fermi = true)
    (hadm1 : AssocP.tdotAdmissibleCommonB a b xa xb1 = true)
    (hadm2 : AssocP.tdotAdmissibleCommonB b c xb2 xc = true)
    (hnd : (xb1 ++ xb2).Nodup)
    (hoA : KetLabels a.oddpos) (hoB : KetLabels b.oddpos) (hoC : KetLabels c.oddpos)
    (hd : ((a.oddpos ++ b.oddpos) ++ c.oddpos).Pairwise (fun x y => x.1 ≠ y.1)) :
    ∃ K2 Kb2 K3 Kb3 BC BCb K3r Kb3r,
      a.tensordotF b (.pair (xa.map Int.ofNat) (xb1.map Int.ofNat)) .blockwise = .ok K2
      ∧ (NormNet.braOf a xa).tensordotF (NormNet.braOf b (xb1 ++ xb2))
          (.pair (xa.map Int.ofNat) (xb1.map Int.ofNat)) .blockwise = .ok Kb2
      ∧ K2.tensordotF c (.pair ((AssocP.axesAB a.ndim b.ndim xa xb1 xb2).map Int.ofNat)
          (xc.map Int.ofNat)) .blockwise = .ok K3
      ∧ Kb2.tensordotF (NormNet.braOf c xc)
          (.pair ((AssocP.axesAB a.ndim b.ndim xa xb1 xb2).map Int.ofNat)
          (xc.map Int.ofNat)) .blockwise = .ok Kb3
      -- the right-nested halves
      ∧ b.tensordotF c (.pair (xb2.map Int.ofNat) (xc.map Int.ofNat)) .blockwise = .ok BC
      ∧ a.tensordotF BC (.pair (xa.map Int.ofNat)
          ((AssocP.axesBC b.ndim xb1 xb2).map Int.ofNat)) .blockwise = .ok K3r
      ∧ (NormNet.braOf b (xb1 ++ xb2)).tensordotF (NormNet.braOf c xc)
          (.pair (xb2.map Int.ofNat) (xc.map Int.ofNat)) .blockwise = .ok BCb
      ∧ (NormNet.braOf a xa).tensordotF BCb (.pair (xa.map Int.ofNat)
          ((AssocP.axesBC b.ndim xb1 xb2).map Int.ofNat)) .blockwise = .ok Kb3r
      ∧ Assoc3P.Eqv K3r K3 ∧ Assoc3P.Eqv Kb3r Kb3
      -- the eight routes
      ∧ ∀ X Y : Arr R, (X = Kb3 ∨ X = Kb3r) → (Y = K3 ∨ Y = K3r) →
          (∃ r, X.tensordotF Y (allAxes K3.ndim) .blockwise = .ok r
            ∧ r.ndim = 0 ∧ r.oddpos = [] ∧ r.elem [] [] = normSq K3)
          ∧ (∃ r, Y.tensordotF X (allAxes K3.ndim) .blockwise = .ok r
            ∧ r.ndim = 0 ∧ r.oddpos = [] ∧ r.elem [] [] = normSq' K3) :=
  NormNet.network_norm_chain3_routes a b c xa xb1 xb2 xc ha hb hc hfa hfb hfc hadm1 hadm2 hnd
    hoA hoB hoC hd

end routes

/-- the eight routes of the concrete chain `gA – gB – gC`
    (`Chain3Routes` abbreviates the conclusion of `network_norm_chain3_routes`) -/
example : Chain3Routes C03.gA C03.gB gC [2] [0] [2] [0] :=
  network_norm_chain3_routes C03.gA C03.gB gC [2] [0] [2] [0] gA_valid gB_valid
    gC_valid rfl rfl rfl (admissible_weak gA_valid gB_valid rfl rfl gAB_adm)
    (admissible_weak gB_valid gC_valid rfl rfl gBC_adm)
    (by decide) (OneKet.ketLabels (Or.inr ⟨1, rfl⟩)) (OneKet.ketLabels (Or.inr ⟨3, rfl⟩))
    (OneKet.ketLabels (Or.inr ⟨5, rfl⟩)) (by decide)

/-- two arrays (of any mode) whose un-pruned table frames are leg-wise opposite satisfy the weak guard
    over all legs -/
theorem full_guard_frames {R : Type} {Z X : Arr R} {F G : List Index}
    (hZ : List.Forall₂ SizeLe Z.indices G) (hX : List.Forall₂ SizeLe X.indices F)
    (hFG : List.Forall₂ NormNet.Opp F G)
    (hnZ : ∀ ix ∈ Z.indices, (ix.cm.map (·.1)).Nodup)
    (hnF : ∀ ix ∈ F, (ix.cm.map (·.1)).Nodup) :
    AssocP.contractibleCommonB Z X (List.range F.length) (List.range F.length) = true := by
  -- the crossed guard with nothing to cross
  have hc : crossAx 0 F.length = List.range F.length := crossAx_eq_rotAx F.length 0
  have := NormNet.cross_common (U := []) (V := F) (U' := []) (V' := G)
    (by rw [List.append_nil]; exact hZ) hX .nil hFG hnZ hnF
  rwa [List.length_nil, hc, Nat.zero_add] at this

section chainM
variable {R : Type} [AddCommMonoid R] [Mul R] [Neg R] [Conj R] [NetLaws R]

/-- **network_norm_chain3_any_mode.**  The three-tensor chain conjugated tensor by tensor, halves
    route, each of the six contraction calls in its own mode. -/
theorem network_norm_chain3_any_mode (hz1 : ∀ x : R, 0 * x = 0) (hz2 : ∀ x : R, x * 0 = 0)
    (a b c : Arr R) (xa xb1 xb2 xc : List Nat)
    (ha : a.validB = true) (hb : b.validB = true) (hc : c.validB = true)
    (hfa : a.fermi = true) (hfb : b.fermi = true) (hfc : c.fermi = true)
    (hadm1 : AssocP.tdotAdmissibleCommonB a b xa xb1 = true)
    (hadm2 : AssocP.tdotAdmissibleCommonB b c xb2 xc = true)
    (hnd : (xb1 ++ xb2).Nodup)
    (hoA : KetLabels a.oddpos) (hoB : KetLabels b.oddpos) (hoC : KetLabels c.oddpos)
    (hd : ((a.oddpos ++ b.oddpos) ++ c.oddpos).Pairwise (fun x y => x.1 ≠ y.1))
    (md : Nat → TdotMode) :
    ∃ K2 K3 K2m Kb2m K3m Kb3m,
      a.tensordotF b (.pair (xa.map Int.ofNat) (xb1.map Int.ofNat)) .blockwise = .ok K2
      ∧ K2.tensordotF c (.pair ((AssocP.axesAB a.ndim b.ndim xa xb1 xb2).map Int.ofNat)
          (xc.map Int.ofNat)) .blockwise = .ok K3
      ∧ a.tensordotF b (.pair (xa.map Int.ofNat) (xb1.map Int.ofNat)) (md 0) = .ok K2m
      ∧ (NormNet.braOf a xa).tensordotF (NormNet.braOf b (xb1 ++ xb2))
          (.pair (xa.map Int.ofNat) (xb1.map Int.ofNat)) (md 1) = .ok Kb2m
      ∧ K2m.tensordotF c (.pair ((AssocP.axesAB a.ndim b.ndim xa xb1 xb2).map Int.ofNat)
          (xc.map Int.ofNat)) (md 2) = .ok K3m
      ∧ Kb2m.tensordotF (NormNet.braOf c xc)
          (.pair ((AssocP.axesAB a.ndim b.ndim xa xb1 xb2).map Int.ofNat)
          (xc.map Int.ofNat)) (md 3) = .ok Kb3m
      ∧ (∃ r, Kb3m.tensordotF K3m (allAxes K3.ndim) (md 4) = .ok r
          ∧ r.ndim = 0 ∧ r.oddpos = [] ∧ r.elem [] [] = normSq K3)
      ∧ (∃ r, K3m.tensordotF Kb3m (allAxes K3.ndim) (md 5) = .ok r
          ∧ r.ndim = 0 ∧ r.oddpos = [] ∧ r.elem [] [] = normSq' K3) := by
  have W1 := AssocP.AdmW.of ha hb hfa hfb hadm1
  have W2 := AssocP.AdmW.of hb hc hfb hfc hadm2
  -- the chain as segments
  have hA : Assoc4P.LeafOK (⟨a, [], xa⟩ : Assoc3P.Seg R) :=
    ⟨ha, hfa, W1.nA, (fun _ h => nomatch h), W1.ltA⟩
  have hB : Assoc4P.LeafOK (⟨b, xb1, xb2⟩ : Assoc3P.Seg R) := ⟨hb, hfb, hnd, W1.ltB, W2.ltA⟩
  have hC : Assoc4P.LeafOK (⟨c, xc, []⟩ : Assoc3P.Seg R) :=
    ⟨hc, hfc, by rw [List.append_nil]; exact W2.nB, W2.ltB, fun _ h => nomatch h⟩
  have hket : ∀ y ∈ [(⟨b, xb1, xb2⟩ : Assoc3P.Seg R), ⟨c, xc, []⟩], KetLabels y.arr.oddpos := by
    intro y hy
    rcases List.mem_cons.mp hy with rfl | hy
    · exact hoB
    · obtain rfl := List.mem_singleton.mp hy
      exact hoC
  obtain ⟨T, Tm, Tbm, e, em, ebm, r1, r2⟩ := network_norm_chainM hz1 hz2 (fun k => md (2 * k))
    (fun k => md (2 * k + 1)) (md 4) (md 5) ⟨a, [], xa⟩ [⟨b, xb1, xb2⟩, ⟨c, xc, []⟩] hA rfl
    ⟨⟨W1.sym, W1.con⟩, hB, ⟨W2.sym, W2.con⟩, hC, trivial⟩ rfl hoA hket (by
      show (a.oddpos ++ (b.oddpos ++ (c.oddpos ++ []))).Pairwise _
      rw [List.append_nil, ← List.append_assoc]; exact hd)
  obtain ⟨K2, eK2, e⟩ := evalL_cons_inv e
  obtain ⟨K3, eK3, e⟩ := evalL_cons_inv e
  obtain rfl := Except.ok.inj e
  obtain ⟨K2m, eK2m, em⟩ := evalLM_cons_inv em
  obtain ⟨K3m, eK3m, em⟩ := evalLM_cons_inv em
  obtain rfl := Except.ok.inj em
  obtain ⟨Kb2m, eKb2m, ebm⟩ := evalLM_cons_inv ebm
  obtain ⟨Kb3m, eKb3m, ebm⟩ := evalLM_cons_inv ebm
  obtain rfl := Except.ok.inj ebm
  simp only [braSeg, braOf_ndim, List.append_nil] at eKb3m
  exact ⟨K2, K3, K2m, Kb2m, K3m, Kb3m, eK2, eK3, eK2m, eKb2m, eK3m, eKb3m, r1, r2⟩

/-- the default mode everywhere (`Chain3M` abbreviates the conclusion of
    `network_norm_chain3_any_mode`) -/
theorem network_norm_chain3_auto (hz1 : ∀ x : R, 0 * x = 0) (hz2 : ∀ x : R, x * 0 = 0)
    (a b c : Arr R) (xa xb1 xb2 xc : List Nat)
    (ha : a.validB = true) (hb : b.validB = true) (hc : c.validB = true)
    (hfa : a.fermi = true) (hfb : b.fermi = true) (hfc : c.fermi = true)
    (hadm1 : AssocP.tdotAdmissibleCommonB a b xa xb1 = true)
    (hadm2 : AssocP.tdotAdmissibleCommonB b c xb2 xc = true)
    (hnd : (xb1 ++ xb2).Nodup)
    (hoA : KetLabels a.oddpos) (hoB : KetLabels b.oddpos) (hoC : KetLabels c.oddpos)
    (hd : ((a.oddpos ++ b.oddpos) ++ c.oddpos).Pairwise (fun x y => x.1 ≠ y.1)) :
    Chain3M a b c xa xb1 xb2 xc (fun _ => .auto) :=
  network_norm_chain3_any_mode hz1 hz2 a b c xa xb1 xb2 xc ha hb hc hfa hfb hfc hadm1 hadm2 hnd
    hoA hoB hoC hd (fun _ => .auto)

end chainM

example : Chain3M C03.gA C03.gB gC [2] [0] [2] [0] (fun _ => .auto) :=
  network_norm_chain3_auto Int.zero_mul Int.mul_zero C03.gA C03.gB gC [2] [0] [2] [0]
    gA_valid gB_valid gC_valid rfl rfl rfl (admissible_weak gA_valid gB_valid rfl rfl gAB_adm)
    (admissible_weak gB_valid gC_valid rfl rfl gBC_adm)
    (by decide) (OneKet.ketLabels (Or.inr ⟨1, rfl⟩)) (OneKet.ketLabels (Or.inr ⟨3, rfl⟩))
    (OneKet.ketLabels (Or.inr ⟨5, rfl⟩)) (by decide)

example : chainVals C03.gA C03.gB gC [2] [0] [2] [0] true = [117734, 117734, 0, 0] :=
  chain_vals.1.1

/-- **the flip set of the middle bra tensor has to spare its bond legs** -/
theorem chain3_needs_sparing :
    chainVals C03.gA C03.gB gC [2] [0] [2] [0] false = [-106582, 117734, 0, 0] :=
  chain_vals.1.2.1

example : chainValsR C03.gA C03.gB gC [2] [0] [2] [0] = [117734, 117734, 0, 0] :=
  chain_vals.1.2.2.1

example : chainValsM C03.gA C03.gB gC [2] [0] [2] [0] .fused = [117734, 117734, 0, 0] :=
  chain_vals.1.2.2.2

section nchain
open SymmModel.Assoc3P SymmModel.Assoc4P
variable {R : Type} [AddMonoid R] [Mul R] [Neg R] [Conj R] [NetLaws R]

theorem braSeg_def (S : Seg R) :
    NormNet.braSeg S = ⟨NormNet.braOf S.arr (S.l ++ S.r), S.l, S.r⟩ := rfl

/-- **chain_conj.**  The induction behind the chain theorems: if `Sb` is observationally the bra tensor
    of the ket piece `S` (open right bond spared), then contracting further tensors `ys` onto `S` and
    their bra tensors onto `Sb` keeps this relation. -/
theorem chain_conj (ys : List (Seg R)) (S Sb : Seg R) (H : NormNet.BraInv S Sb) (hlink : linked S ys)
    (hket : ∀ y ∈ ys, KetLabels y.arr.oddpos)
    (hd : (S.arr.oddpos ++ flatL ys).Pairwise (fun x y => x.1 ≠ y.1)) :
    ∃ T Tb, evalL S ys = .ok T ∧ evalL Sb (ys.map NormNet.braSeg) = .ok Tb ∧ NormNet.BraInv T Tb
      ∧ ((lastD S ys).r = [] → T.r = [])
      ∧ T.arr.oddpos.Perm (S.arr.oddpos ++ flatL ys) :=
  NormNet.chain_conj ys S Sb H hlink hket hd

/-- **network_norm_chain.**  A chain of any length conjugated tensor by tensor, left-nested halves. -/
theorem network_norm_chain (S : Seg R) (ys : List (Seg R)) (hS : LeafOK S) (hl : S.l = [])
    (hlink : linked S ys) (hlast : (lastD S ys).r = [])
    (hketS : KetLabels S.arr.oddpos) (hket : ∀ y ∈ ys, KetLabels y.arr.oddpos)
    (hd : (S.arr.oddpos ++ flatL ys).Pairwise (fun x y => x.1 ≠ y.1)) :
    ∃ T Tb, evalL S ys = .ok T ∧ evalL (NormNet.braSeg S) (ys.map NormNet.braSeg) = .ok Tb
      ∧ ObsEq Tb.arr (T.arr.conjF true true)
      ∧ T.arr.validB = true ∧ T.arr.fermi = true ∧ Tb.arr.validB = true ∧ Tb.arr.fermi = true
      ∧ T.arr.oddpos.Perm (S.arr.oddpos ++ flatL ys)
      ∧ Tb.arr.ndim = T.arr.ndim
      ∧ (∃ r, Tb.arr.tensordotF T.arr (allAxes T.arr.ndim) .blockwise = .ok r
          ∧ r.ndim = 0 ∧ r.oddpos = [] ∧ r.elem [] [] = normSq T.arr)
      ∧ (∃ r, T.arr.tensordotF Tb.arr (allAxes T.arr.ndim) .blockwise = .ok r
          ∧ r.ndim = 0 ∧ r.oddpos = [] ∧ r.elem [] [] = normSq' T.arr) :=
  NormNet.network_norm_chain S ys hS hl hlink hlast hketS hket hd

end nchain

section nchainB
open SymmModel.Assoc3P SymmModel.Assoc4P

/-- **network_norm_chain_bracketings.**  Any bracketing `t` of the ket chain and any bracketing `tb` of
    the bra chain. -/
theorem network_norm_chain_bracketings {R : Type} [AddCommMonoid R] [Mul R] [Neg R] [Conj R]
    [NetLaws R] [AssocP.AssocLaws R] (S : Seg R) (ys : List (Seg R)) (t tb : STree R)
    (ht1 : t.first = S) (ht2 : t.rest = ys)
    (hb1 : tb.first = NormNet.braSeg S) (hb2 : tb.rest = ys.map NormNet.braSeg)
    (hS : LeafOK S) (hl : S.l = [])
    (hlink : linked S ys) (hlast : (lastD S ys).r = [])
    (hketS : KetLabels S.arr.oddpos) (hket : ∀ y ∈ ys, KetLabels y.arr.oddpos)
    (hd : (S.arr.oddpos ++ flatL ys).Pairwise (fun x y => x.1 ≠ y.1)) :
    ∃ T Tb T' Tb', evalL S ys = .ok T ∧ evalL (NormNet.braSeg S) (ys.map NormNet.braSeg) = .ok Tb
      ∧ t.eval = .ok T' ∧ tb.eval = .ok Tb'
      ∧ Assoc3P.Eqv T'.arr T.arr ∧ Assoc3P.Eqv Tb'.arr Tb.arr
      ∧ ObsEq Tb.arr (T.arr.conjF true true)
      ∧ (∃ r, Tb'.arr.tensordotF T'.arr (allAxes T.arr.ndim) .blockwise = .ok r
          ∧ r.ndim = 0 ∧ r.oddpos = [] ∧ r.elem [] [] = normSq T.arr)
      ∧ (∃ r, T'.arr.tensordotF Tb'.arr (allAxes T.arr.ndim) .blockwise = .ok r
          ∧ r.ndim = 0 ∧ r.oddpos = [] ∧ r.elem [] [] = normSq' T.arr) :=
  NormNet.network_norm_chain_bracketings S ys t tb ht1 ht2 hb1 hb2 hS hl hlink hlast hketS hket hd

end nchainB

/-- the chain `gA – gB – gC` as segments; the ket chain bracketed `a·(b·c)`, the bra chain `(ā·b̄)·c̄` -/
def segA : Assoc3P.Seg Int := ⟨C03.gA, [], [2]⟩
def segB : Assoc3P.Seg Int := ⟨C03.gB, [0], [2]⟩
def segC : Assoc3P.Seg Int := ⟨gC, [0], []⟩
def ketTree : Assoc4P.STree Int := .node (.leaf segA) (.node (.leaf segB) (.leaf segC))
def braTree : Assoc4P.STree Int :=
  .node (.node (.leaf (NormNet.braSeg segA)) (.leaf (NormNet.braSeg segB)))
    (.leaf (NormNet.braSeg segC))

theorem segA_ok : Assoc4P.LeafOK segA := ⟨gA_valid, rfl, by decide, by decide, by decide⟩

theorem segBC_linked : Assoc4P.linked segA [segB, segC] :=
  ⟨⟨rfl, by decide +kernel⟩, ⟨gB_valid, rfl, by decide, by decide, by decide⟩,
    ⟨rfl, by decide +kernel⟩, ⟨gC_valid, rfl, by decide, by decide, by decide⟩, trivial⟩

theorem segBC_ket : ∀ y ∈ [segB, segC], KetLabels y.arr.oddpos := by
  intro y hy
  rcases List.mem_cons.mp hy with rfl | hy
  · exact OneKet.ketLabels (Or.inr ⟨3, rfl⟩)
  · rcases List.mem_cons.mp hy with rfl | hy
    · exact OneKet.ketLabels (Or.inr ⟨5, rfl⟩)
    · cases hy

example : ChainNormB segA [segB, segC] ketTree braTree :=
  network_norm_chain_bracketings segA [segB, segC] ketTree braTree rfl rfl rfl rfl
    segA_ok rfl segBC_linked rfl (OneKet.ketLabels (Or.inr ⟨1, rfl⟩)) segBC_ket (by decide)

section nchainM
open SymmModel.Assoc3P SymmModel.Assoc4P
variable {R : Type} [AddCommMonoid R] [Mul R] [Neg R] [Conj R] [NetLaws R]

/-- vocabulary: a composition with the call in mode `m`; the left-nested contraction whose `j`-th call
    runs in mode `md (k + j)` -/
theorem evalLM_def (md : Nat → TdotMode) (k : Nat) (S y : Seg R) (ys : List (Seg R)) (m : TdotMode) :
    NormNet.compM m S y
        = (S.arr.tensordotF y.arr (.pair (S.r.map Int.ofNat) (y.l.map Int.ofNat)) m).map (fun z =>
            ⟨z, RoutesP.positions (freeAxes S.arr.ndim S.r) S.l,
              AssocP.axesAB S.arr.ndim y.arr.ndim S.r y.l y.r⟩)
    ∧ NormNet.evalLM md k S [] = .ok S
    ∧ NormNet.evalLM md k S (y :: ys) = (match NormNet.compM (md k) S y with
        | .ok s => NormNet.evalLM md (k + 1) s ys
        | .error e => .error e) := ⟨rfl, rfl, rfl⟩

/-- `compM .blockwise` is `Seg.comp`: `evalLM` in blockwise mode is `evalL` -/
theorem evalLM_blockwise (ys : List (Seg R)) (k : Nat) (S : Seg R) :
    NormNet.evalLM (fun _ => .blockwise) k S ys = evalL S ys := by
  induction ys generalizing k S with
  | nil => rfl
  | cons y ys ih =>
    show (match NormNet.compM .blockwise S y with
      | .ok s => NormNet.evalLM (fun _ => .blockwise) (k + 1) s ys
      | .error e => .error e) = (match S.comp y with
      | .ok s => evalL s ys
      | .error e => .error e)
    have : NormNet.compM .blockwise S y = S.comp y := rfl
    rw [this]
    cases S.comp y with
    | error e => rfl
    | ok s => exact ih (k + 1) s

/-- **chain_conj_any_mode.**  The joint induction: blockwise pieces and their any-mode versions. -/
theorem chain_conj_any_mode (hz1 : ∀ x : R, 0 * x = 0) (hz2 : ∀ x : R, x * 0 = 0)
    (mk mb : Nat → TdotMode) (ys : List (Seg R)) (k : Nat) (S Sb Sm Sbm : Seg R) (F : List Index)
    (H : NormNet.BraInv S Sb) (HM : NormNet.ModeInv S Sm F)
    (HMb : NormNet.ModeInv Sb Sbm (F.map Index.conj))
    (hnF : ∀ ix ∈ F, (ix.cm.map (·.1)).Nodup)
    (h1 : linked S ys) (h2 : linked Sm ys) (h3 : linked Sb (ys.map NormNet.braSeg))
    (h4 : linked Sbm (ys.map NormNet.braSeg))
    (hket : ∀ y ∈ ys, KetLabels y.arr.oddpos)
    (hd : (S.arr.oddpos ++ flatL ys).Pairwise (fun x y => x.1 ≠ y.1)) :
    ∃ T Tb Tm Tbm F', evalL S ys = .ok T ∧ evalL Sb (ys.map NormNet.braSeg) = .ok Tb
      ∧ NormNet.evalLM mk k Sm ys = .ok Tm
      ∧ NormNet.evalLM mb k Sbm (ys.map NormNet.braSeg) = .ok Tbm
      ∧ NormNet.BraInv T Tb ∧ NormNet.ModeInv T Tm F'
      ∧ NormNet.ModeInv Tb Tbm (F'.map Index.conj)
      ∧ (∀ ix ∈ F', (ix.cm.map (·.1)).Nodup)
      ∧ ((lastD S ys).r = [] → T.r = []) :=
  NormNet.chain_conjM hz1 hz2 mk mb ys k S Sb Sm Sbm F H HM HMb hnF h1 h2 h3 h4 hket hd

/-- **network_norm_chain_any_mode.**  A chain of any length conjugated tensor by tensor, left-nested
    halves, every contraction call in its own mode. -/
theorem network_norm_chain_any_mode (hz1 : ∀ x : R, 0 * x = 0) (hz2 : ∀ x : R, x * 0 = 0)
    (mk mb : Nat → TdotMode) (m1 m2 : TdotMode)
    (S : Seg R) (ys : List (Seg R)) (hS : LeafOK S) (hl : S.l = [])
    (hlink : linked S ys) (hlast : (lastD S ys).r = [])
    (hketS : KetLabels S.arr.oddpos) (hket : ∀ y ∈ ys, KetLabels y.arr.oddpos)
    (hd : (S.arr.oddpos ++ flatL ys).Pairwise (fun x y => x.1 ≠ y.1)) :
    ∃ T Tm Tbm, evalL S ys = .ok T ∧ NormNet.evalLM mk 0 S ys = .ok Tm
      ∧ NormNet.evalLM mb 0 (NormNet.braSeg S) (ys.map NormNet.braSeg) = .ok Tbm
      ∧ (∃ r, Tbm.arr.tensordotF Tm.arr (allAxes T.arr.ndim) m1 = .ok r
          ∧ r.ndim = 0 ∧ r.oddpos = [] ∧ r.elem [] [] = normSq T.arr)
      ∧ (∃ r, Tm.arr.tensordotF Tbm.arr (allAxes T.arr.ndim) m2 = .ok r
          ∧ r.ndim = 0 ∧ r.oddpos = [] ∧ r.elem [] [] = normSq' T.arr) :=
  NormNet.network_norm_chainM hz1 hz2 mk mb m1 m2 S ys hS hl hlink hlast hketS hket hd

end nchainM

/-- the chain `gA – gB – gC` with all calls in the default mode
    (`ChainNormM` abbreviates the conclusion of `network_norm_chain_any_mode`) -/
example : ChainNormM segA [segB, segC] (fun _ => .auto) (fun _ => .auto) .auto .auto :=
  network_norm_chain_any_mode Int.zero_mul Int.mul_zero _ _ _ _ segA [segB, segC]
    segA_ok rfl segBC_linked rfl (OneKet.ketLabels (Or.inr ⟨1, rfl⟩)) segBC_ket (by decide)

end SymmModel.C10
