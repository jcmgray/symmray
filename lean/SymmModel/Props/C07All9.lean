import SymmModel.Props.C07All8
import SymmModel.Props.C07j
import SymmModel.Props.C07k
