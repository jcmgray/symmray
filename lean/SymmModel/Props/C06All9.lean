import SymmModel.Props.C06All8
import SymmModel.Props.C06j
