/-
  C02 — Abelian contraction equals dense contraction (blockwise core).

  Theorems about `SymmModel.tensordotBlockwise` / `tensordotA` / `parseAxes` (`Model/Tdot.lean`,
  the model of `symmray.abelian_core._tensordot_blockwise` and `tensordot_abelian`), for every
  symmetry, number of axes, sparsity pattern and every scalar type `R`:

  * `[AddMonoid R] [Mul R] [Neg R]` for the value theorems (only associativity of `+` and
    `0 + x = x = x + 0` are used: the model's left folds are rewritten as `List.sum`);
  * `[AddCommMonoid R]` and the two hypotheses `0 * x = 0`, `x * 0 = 0` for the dense form, where
    the sum over stored sector pairs is re-indexed by the charge tuples of the contracted indices.

  The value view is `Arr.elem` (DESIGN §3.4): the stored element at an address
  `(sector, offsets)`, zero when the sector is absent.  Arrays are ABELIAN here (`phases = []`).

  Vocabulary (namespace `SymmModel.TdotP`; `Proofs/BlkLemmas.lean`, `Proofs/TdotLemmas.lean`,
  `Proofs/TdotDense.lean`):
  `freeAxes n axes` = the axes `< n` not in `axes`, ascending (= `without (range n) axes`, lemma
  `without_range`); `mergeIdx d n axes free k f` = the length-`n` list with `k[j]` at position
  `axes[j]` and `f[j]` at position `free[j]` — exactly the operand index `Blk.tensordotK` builds
  (`permuted_mergeIdx_axes`, `permuted_mergeIdx_free`, `mergeIdx_permuted`: it is the bijection
  (contracted part, free part) ↔ multi-index; `inBox_mergeIdx`); `mergeSec` = `mergeIdx` on
  sectors; `storedPairs a b l xa xb r s` = the stored sector pairs `(sa, sb)` with equal
  contracted parts and `permuted sa l ++ permuted sb r = s` (`mem_storedPairs`);
  `contractPair a b xa xb oL oR (sa, sb)` = `Σ_{k ∈ box of sa's contracted sizes}
  a.elem sa (merge k oL) * b.elem sb (merge k oR)`; `Arr.shapesOk` = every stored block has the
  shape its index tables prescribe (a clause of `Arr.validB`).

  Outside this file: `mode = "fused"` (C05/C06), fermionic signs (C03); `trace`, `einsum` and the
  dense form (through `Arr.toDenseA_get`) are Props/C02b.lean, Props/C02c.lean.
-/
import SymmModel.Proofs.TdotDense
import SymmModel.Model.GRat

namespace SymmModel.C02
open SymmModel SymmModel.TdotP

variable {R : Type}

def c0 : Charge := (0, 0)
def c1 : Charge := (1, 0)
def ixI : Index := Index.plain [(c0, 2), (c1, 1)] false
def ixJ : Index := Index.plain [(c0, 1), (c1, 2)] false
def ixK : Index := Index.plain [(c0, 2), (c1, 2)] true
def ixM : Index := Index.plain [(c0, 1), (c1, 1)] true
/-- block with entries `c, c+1, c+2, …` in C order -/
def mkB (s : List Nat) (c : Int) : Blk Int := Blk.ofFn s (fun i => (ravel s i : Int) + c)

/-- `a[i,j,k]`, charge 0; the valid sector `(1,1,0)` is not stored -/
def exA : Arr Int :=
  { sym := .Z2, fermi := false, indices := [ixI, ixJ, ixK], charge := c0,
    blocks := [([c0, c0, c0], mkB [2, 1, 2] 1), ([c0, c1, c1], mkB [2, 2, 2] (-3)),
               ([c1, c0, c1], mkB [1, 1, 2] 2)] }
/-- `b[j,k,m]`, charge 0; the valid sector `(1,0,1)` is not stored -/
def exB : Arr Int :=
  { sym := .Z2, fermi := false, indices := [ixJ.conj, ixK.conj, ixM], charge := c0,
    blocks := [([c0, c0, c0], mkB [1, 2, 1] 5), ([c1, c1, c0], mkB [2, 2, 1] (-1)),
               ([c0, c1, c1], mkB [1, 2, 1] 7)] }

example : exA.validB = true ∧ exB.validB = true := by decide +kernel
theorem exA_shapesOk : exA.shapesOk := Arr.shapesOk_of_validB (by decide +kernel)
theorem exB_shapesOk : exB.shapesOk := Arr.shapesOk_of_validB (by decide +kernel)

theorem tensordotBlockwise_charge [Zero R] [Add R] [Mul R] (a b : Arr R) (l xa xb r : List Nat) :
    (tensordotBlockwise a b l xa xb r).charge = a.sym.combine [a.charge, b.charge] := rfl

/-- `s` is a key of the result iff it is made of the free parts
    of two stored sectors with equal contracted parts. -/
theorem tensordotBlockwise_sectors [Zero R] [Add R] [Mul R] (a b : Arr R) (l xa xb r : List Nat)
    (s : Sector) :
    s ∈ (tensordotBlockwise a b l xa xb r).sectors ↔
      ∃ sa ∈ a.sectors, ∃ sb ∈ b.sectors, permuted sa xa = permuted sb xb ∧
        s = permuted sa l ++ permuted sb r := by
  rw [tensordotBlockwise_sectors_eq, List.mem_eraseDups]; exact mem_tdKeys

theorem tensordotBlockwise_sectors_distinct [Zero R] [Add R] [Mul R] (a b : Arr R)
    (l xa xb r : List Nat) : allDistinct (tensordotBlockwise a b l xa xb r).sectors = true := by
  rw [tensordotBlockwise_sectors_eq, allDistinct_iff_nodup]; exact nodup_eraseDups _

/-- the keys appear in the order in which the loop (a's blocks outer, b's blocks inner) first meets
    them -/
theorem tensordotBlockwise_sectors_order [Zero R] [Add R] [Mul R] (a b : Arr R)
    (l xa xb r : List Nat) :
    (tensordotBlockwise a b l xa xb r).sectors =
      ((alignedPairs a b xa xb).map (fun p => permuted p.1 l ++ permuted p.2 r)).eraseDups := by
  rw [tensordotBlockwise_sectors_eq, tdKeys_eq_map_alignedPairs]

example : (tensordotBlockwise exA exB [0] [1, 2] [0, 1] [2]).sectors = [[c0, c0], [c1, c1]] := by
  decide +kernel

/-- **tensordotBlockwise_elem (flagship).**  Abelian operands with distinct sector keys and block
    shapes given by their index tables; `l`, `r` the free axes.  At every address `(s, o)` of
    the result — `o` in the box that the (un-pruned) result index tables give to `s` — the
    stored element is the sum over the stored sector pairs `(sa, sb)` with equal contracted
    parts and free parts making up `s`, of `Σ_{k ∈ contracted box} a.elem sa (merge k oL) *
    b.elem sb (merge k oR)`, where `oL`/`oR` are the first `l.length` / the remaining entries
    of `o` and `merge` is the index assembly of `Blk.tensordotK` (`mergeIdx`).
    When no pair contributes, both sides are 0 (the sector is absent). -/
theorem tensordotBlockwise_elem [AddMonoid R] [Mul R] [Neg R] (a b : Arr R) (xa xb : List Nat)
    (hpa : a.phases = []) (hpb : b.phases = [])
    (hda : allDistinct a.sectors = true) (hdb : allDistinct b.sectors = true)
    (hsa : a.shapesOk) (hsb : b.shapesOk) (s : Sector) (o : List Nat)
    (ho : inBox (Arr.blockShapeD (without a.indices xa ++ without b.indices xb) s) o = true) :
    (tensordotBlockwise a b (freeAxes a.ndim xa) xa xb (freeAxes b.ndim xb)).elem s o =
      ((storedPairs a b (freeAxes a.ndim xa) xa xb (freeAxes b.ndim xb) s).map
        (contractPair a b xa xb (o.take (freeAxes a.ndim xa).length)
          (o.drop (freeAxes a.ndim xa).length))).sum :=
  tensordotBlockwise_elem_pairs a b xa xb hpa hpb hda hdb hsa hsb s o ho

theorem tensordotBlockwise_elem_split [AddMonoid R] [Mul R] [Neg R] (a b : Arr R) (xa xb : List Nat)
    (hpa : a.phases = []) (hpb : b.phases = [])
    (hda : allDistinct a.sectors = true) (hdb : allDistinct b.sectors = true)
    (hsa : a.shapesOk) (hsb : b.shapesOk) (L Rr : Sector) (oL oR : List Nat)
    (hoL : oL.length = (freeAxes a.ndim xa).length)
    (ho : inBox (Arr.blockShapeD (without a.indices xa ++ without b.indices xb) (L ++ Rr))
      (oL ++ oR) = true) :
    (tensordotBlockwise a b (freeAxes a.ndim xa) xa xb (freeAxes b.ndim xb)).elem (L ++ Rr) (oL ++ oR) =
      ((storedPairs a b (freeAxes a.ndim xa) xa xb (freeAxes b.ndim xb) (L ++ Rr)).map
        (contractPair a b xa xb oL oR)).sum := by
  rw [tensordotBlockwise_elem a b xa xb hpa hpb hda hdb hsa hsb _ _ ho, ← hoL]
  simp

/-- **dense form.**  The same element is the sum over *all* charge tuples `K` of the contracted
    index tables of `a` (not only those for which both sectors are stored) of the contraction of
    the sector pair `(merge K L, merge K Rr)`: absent sectors are zero.  This is the dense
    contraction `Σ_{K, k} A[(L,oL),(K,k)] · B[(K,k),(Rr,oR)]` written over addresses. -/
theorem tensordotBlockwise_elem_dense [AddCommMonoid R] [Mul R] [Neg R]
    (hz1 : ∀ x : R, 0 * x = 0) (hz2 : ∀ x : R, x * 0 = 0) (a b : Arr R) (xa xb : List Nat)
    (hpa : a.phases = []) (hpb : b.phases = [])
    (hda : allDistinct a.sectors = true) (hdb : allDistinct b.sectors = true)
    (hsa : a.shapesOk) (hsb : b.shapesOk) (hca : ∀ ix ∈ a.indices, ix.charges.Nodup)
    (hxa : xa.Nodup) (hxa' : ∀ x ∈ xa, x < a.ndim) (hxb : xb.Nodup) (hxb' : ∀ x ∈ xb, x < b.ndim)
    (hlen : xa.length = xb.length)
    (L Rr : Sector) (hL : L.length = (freeAxes a.ndim xa).length)
    (hR : Rr.length = (freeAxes b.ndim xb).length) (oL oR : List Nat)
    (hoL : oL.length = (freeAxes a.ndim xa).length)
    (ho : inBox (Arr.blockShapeD (without a.indices xa ++ without b.indices xb) (L ++ Rr))
      (oL ++ oR) = true) :
    (tensordotBlockwise a b (freeAxes a.ndim xa) xa xb (freeAxes b.ndim xb)).elem (L ++ Rr) (oL ++ oR) =
      ((contractedTuples a xa).map (fun K =>
        contractPair a b xa xb oL oR (mergeSec a.ndim xa K L, mergeSec b.ndim xb K Rr))).sum := by
  rw [tensordotBlockwise_elem_dense' hz1 hz2 a b xa xb hpa hpb hda hdb hsa hsb hxa hxa' hxb hxb' hlen
    _ (contractedTuples_nodup a xa hca) (contractedTuples_length a xa hxa')
    (contractedTuples_cover hsa xa) L Rr hL hR _ ho, ← hoL]
  simp

-- sanity: both sides of the flagship and of the dense form on the example, at every address of
-- the two result blocks (shapes [2,1] and [1,1]); (0,0) accumulates two pairs
example : (tensordotBlockwise exA exB [0] [1, 2] [0, 1] [2]).blocks.map (fun p => (p.1, p.2.shape, p.2.data))
    = [([c0, c0], [2, 1], #[19, 49]), ([c1, c1], [1, 1], #[38])] := by decide +kernel
example : freeAxes exA.ndim [1, 2] = [0] ∧ freeAxes exB.ndim [0, 1] = [2] := by decide
example : storedPairs exA exB [0] [1, 2] [0, 1] [2] [c0, c0] =
    [([c0, c0, c0], [c0, c0, c0]), ([c0, c1, c1], [c1, c1, c0])] := by decide +kernel
example : ∀ so ∈ [([c0, c0], [0, 0]), ([c0, c0], [1, 0]), ([c1, c1], [0, 0]), ([c0, c1], [0, 0])],
    (tensordotBlockwise exA exB (freeAxes exA.ndim [1, 2]) [1, 2] [0, 1] (freeAxes exB.ndim [0, 1])).elem so.1 so.2 =
      ((storedPairs exA exB (freeAxes exA.ndim [1, 2]) [1, 2] [0, 1] (freeAxes exB.ndim [0, 1]) so.1).map
        (contractPair exA exB [1, 2] [0, 1] (so.2.take 1) (so.2.drop 1))).sum := by
  decide +kernel
example : contractedTuples exA [1, 2] = [[c0, c0], [c0, c1], [c1, c0], [c1, c1]] := by decide +kernel
example : ∀ so ∈ [(c0, c0, 0, 0, (19 : Int)), (c0, c0, 1, 0, 49), (c1, c1, 0, 0, 38), (c0, c1, 0, 0, 0)],
    (tensordotBlockwise exA exB [0] [1, 2] [0, 1] [2]).elem [so.1, so.2.1] [so.2.2.1, so.2.2.2.1] = so.2.2.2.2 ∧
    ((contractedTuples exA [1, 2]).map (fun K => contractPair exA exB [1, 2] [0, 1] [so.2.2.1] [so.2.2.2.1]
      (mergeSec 3 [1, 2] K [so.1], mergeSec 3 [0, 1] K [so.2.1]))).sum = so.2.2.2.2 := by
  decide +kernel
example : exA.phases = [] ∧ exB.phases = [] ∧ allDistinct exA.sectors = true ∧ allDistinct exB.sectors = true
    ∧ (∀ ix ∈ exA.indices, ix.charges.Nodup) ∧ [1, 2].Nodup ∧ (∀ x ∈ [1, 2], x < exA.ndim)
    ∧ [0, 1].Nodup ∧ (∀ x ∈ [0, 1], x < exB.ndim)
    ∧ inBox (Arr.blockShapeD (without exA.indices [1, 2] ++ without exB.indices [0, 1]) [c0, c0]) [1, 0] = true := by
  decide +kernel

/-- For a full contraction (no free axes on either side) the result has the
    single key `[]` — or no block at all when no stored sectors align — and its only element is
    the double sum over the aligned stored sector pairs and over the contracted box. -/
theorem tensordot_scalar [AddMonoid R] [Mul R] [Neg R] (a b : Arr R) (xa xb : List Nat)
    (hpa : a.phases = []) (hpb : b.phases = [])
    (hda : allDistinct a.sectors = true) (hdb : allDistinct b.sectors = true)
    (hsa : a.shapesOk) (hsb : b.shapesOk)
    (hfa : freeAxes a.ndim xa = []) (hfb : freeAxes b.ndim xb = []) :
    (tensordotBlockwise a b [] xa xb []).sectors =
        (if (alignedPairs a b xa xb).isEmpty then [] else [[]]) ∧
    (tensordotBlockwise a b [] xa xb []).elem [] [] =
        ((alignedPairs a b xa xb).map (contractPair a b xa xb [] [])).sum := by
  refine ⟨tensordotBlockwise_sectors_scalar a b xa xb, ?_⟩
  have ho : inBox (Arr.blockShapeD (without a.indices xa ++ without b.indices xb) []) [] = true := by
    rw [without_eq_permuted_freeAxes, without_eq_permuted_freeAxes]
    show inBox (Arr.blockShapeD (permuted a.indices (freeAxes a.ndim xa) ++
      permuted b.indices (freeAxes b.ndim xb)) []) [] = true
    rw [hfa, hfb]; rfl
  have := tensordotBlockwise_elem a b xa xb hpa hpb hda hdb hsa hsb [] [] ho
  rw [hfa, hfb, storedPairs_nil_nil] at this
  exact this

/-- `exA` against a conjugate-index operand with sectors (0,0,0), (0,1,1), (1,1,0): two pairs align -/
def exC : Arr Int :=
  { sym := .Z2, fermi := false, indices := [ixI.conj, ixJ.conj, ixK.conj], charge := c0,
    blocks := [([c0, c0, c0], mkB [2, 1, 2] 2), ([c0, c1, c1], mkB [2, 2, 2] 0),
               ([c1, c1, c0], mkB [1, 2, 2] 1)] }
/-- … and one whose only sector is the one `exA` lacks: nothing aligns -/
def exD : Arr Int :=
  { exC with blocks := [([c1, c1, c0], mkB [1, 2, 2] 1)] }

example : exC.validB = true ∧ exD.validB = true
    ∧ freeAxes exA.ndim [0, 1, 2] = [] ∧ freeAxes exC.ndim [0, 1, 2] = [] := by decide +kernel
example : (tensordotBlockwise exA exC [] [0, 1, 2] [0, 1, 2] []).sectors = [[]]
    ∧ (tensordotBlockwise exA exC [] [0, 1, 2] [0, 1, 2] []).elem [] [] = 96
    ∧ ((alignedPairs exA exC [0, 1, 2] [0, 1, 2]).map (contractPair exA exC [0, 1, 2] [0, 1, 2] [] [])).sum = 96
    ∧ (tensordotBlockwise exA exD [] [0, 1, 2] [0, 1, 2] []).sectors = []
    ∧ (tensordotBlockwise exA exD [] [0, 1, 2] [0, 1, 2] []).elem [] [] = 0 := by decide +kernel

/-- Blockwise mode parses (and normalises) the axes, takes the
    complements in increasing order as free axes and runs `tensordotBlockwise`. -/
theorem tensordotA_blockwise [Zero R] [Add R] [Mul R] (a b : Arr R) (axes : AxesArg) :
    tensordotA a b axes .blockwise =
      (parseAxes a.ndim b.ndim axes).map (fun x =>
        tensordotBlockwise a b (freeAxes a.ndim x.1) x.1 x.2 (freeAxes b.ndim x.2)) :=
  tensordotA_blockwise' a b axes

theorem freeAxes_eq_without (n : Nat) (axes : List Nat) : without (List.range n) axes = freeAxes n axes :=
  without_range n axes

/-- **parseAxes.**  A pair of axis lists of equal length (and no `x % 0`) is normalised entrywise
    by `x ↦ x % ndim`; … -/
theorem parseAxes_pair_ok {na nb : Nat} {xa xb : List Int} (hl : xa.length = xb.length)
    (ha : 0 < na ∨ xa = []) (hb : 0 < nb ∨ xb = []) :
    parseAxes na nb (.pair xa xb) = .ok (xa.map (normAxis na), xb.map (normAxis nb)) :=
  parseAxes_pair hl ha hb

/-- … the normalised axis is in range, is the axis itself when that is in range, and counts from
    the end when it is negative; … -/
theorem normAxis_spec {n : Nat} (hn : 0 < n) (x : Int) :
    normAxis n x < n ∧ (0 ≤ x → x < n → normAxis n x = x.toNat) ∧
      (x < 0 → -(n : Int) ≤ x → normAxis n x = (x + n).toNat) :=
  ⟨normAxis_lt hn x, normAxis_of_nonneg, normAxis_of_neg⟩

/-- … and an integer `n` means the last `n` axes of `a` against the first `n` of `b`. -/
theorem parseAxes_int_ok (na nb n : Nat) :
    parseAxes na nb (.int n) = .ok ((List.range na).drop (na - n), List.range n) := rfl

example : tensordotA exA exB (.pair [-2, -1] [0, -2]) .blockwise
    = .ok (tensordotBlockwise exA exB [0] [1, 2] [0, 1] [2]) := by
  rw [tensordotA_blockwise, parseAxes_pair_ok (xa := [-2, -1]) (xb := [0, -2]) rfl (Or.inl (by decide)) (Or.inl (by decide))]; rfl
example : tensordotA exA exB (.int 2) .blockwise
    = .ok (tensordotBlockwise exA exB [0] [1, 2] [0, 1] [2]) := by
  rw [tensordotA_blockwise]; rfl

/-- `a @ b` for two matrices is the blockwise contraction of axis 1 with axis 0 -/
theorem matmulA_matrices [Zero R] [Add R] [Mul R] (a b : Arr R) (ha : a.ndim = 2) (hb : b.ndim = 2) :
    matmulA a b = .ok (tensordotBlockwise a b (freeAxes a.ndim [1]) [1] [0] (freeAxes b.ndim [0])) := by
  unfold matmulA
  rw [ha, hb]
  rfl

/-! ## the driver's scalar type is covered -/

/-- additive laws of `GRat` (a `def`, not an instance: `Props/C18` registers a group instance) -/
@[reducible] def addCommMonoidGRat : AddCommMonoid GRat where
  add := (· + ·)
  zero := 0
  add_assoc a b c := by
    show GRat.mk _ _ = GRat.mk _ _
    congr 1 <;> exact Rat.add_assoc _ _ _
  zero_add a := by
    show GRat.mk _ _ = a
    cases a; congr 1 <;> exact Rat.zero_add _
  add_zero a := by
    show GRat.mk _ _ = a
    cases a; congr 1 <;> exact Rat.add_zero _
  add_comm a b := by
    show GRat.mk _ _ = GRat.mk _ _
    congr 1 <;> exact Rat.add_comm _ _
  nsmul := nsmulRec

theorem GRat_zero_mul (x : GRat) : (0 : GRat) * x = 0 := by
  show GRat.mk _ _ = GRat.mk 0 0
  have h0 : (0 : GRat).re = 0 := rfl
  have h1 : (0 : GRat).im = 0 := rfl
  rw [h0, h1]; simp only [Rat.zero_mul]; congr 1 <;> decide +kernel

theorem GRat_mul_zero (x : GRat) : x * (0 : GRat) = 0 := by
  show GRat.mk _ _ = GRat.mk 0 0
  have h0 : (0 : GRat).re = 0 := rfl
  have h1 : (0 : GRat).im = 0 := rfl
  rw [h0, h1]; simp only [Rat.mul_zero]; congr 1 <;> decide +kernel

/-- the flagship with exactly the instances the driver is compiled with -/
theorem tensordotBlockwise_elem_GRat (a b : Arr GRat) (xa xb : List Nat)
    (hpa : a.phases = []) (hpb : b.phases = [])
    (hda : allDistinct a.sectors = true) (hdb : allDistinct b.sectors = true)
    (hsa : a.shapesOk) (hsb : b.shapesOk) (s : Sector) (o : List Nat)
    (ho : inBox (Arr.blockShapeD (without a.indices xa ++ without b.indices xb) s) o = true) :
    @Arr.elem GRat GRat.instZero GRat.instNeg
      (@tensordotBlockwise GRat GRat.instZero GRat.instAdd GRat.instMul a b
        (freeAxes a.ndim xa) xa xb (freeAxes b.ndim xb)) s o =
      ((storedPairs a b (freeAxes a.ndim xa) xa xb (freeAxes b.ndim xb) s).map
        (@contractPair GRat addCommMonoidGRat.toAddMonoid GRat.instNeg GRat.instMul a b xa xb
          (o.take (freeAxes a.ndim xa).length) (o.drop (freeAxes a.ndim xa).length))).sum :=
  @tensordotBlockwise_elem GRat addCommMonoidGRat.toAddMonoid GRat.instMul GRat.instNeg a b xa xb
    hpa hpb hda hdb hsa hsb s o ho

end SymmModel.C02
