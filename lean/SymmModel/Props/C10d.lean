/-
  Property C10, network clause, sequential bracketings under the guard `netFullB` — "… the same holds for a whole network conjugated tensor by
  tensor once the dangling legs that were bra-like are sign-flipped, along every contraction
  route": the BRACKETINGS of the four-tensor norm network `{a, b, ā, b̄}` of two valid fermionic
  arrays `a`, `b` bonded along `xa`/`xb` (`ValidP.tdotAdmissibleB`), each with no label or one
  non-dual label (`NormNet.OneKet`), labels distinct; `ā = braOf a xa`, `b̄ = braOf b xb` as in C10c;
  `K = a·b`, `K̄ = ā·b̄`; blockwise mode; scalars: `AddCommMonoid`, `NormNet.NetLaws`,
  `AssocP.AssocLaws` (instances `Int`, `GRat`).  `normSq K = Σ conj(v)·v`, `normSq' K = Σ v·conj(v)`
  over the stored entries `v` of `K` (C10b); equal for commutative `*`.

  COVERED (`network_norm_bracketings_partial`; every result has rank 0, no labels, no stray sign):
    B1  (ā·b̄)·(a·b) = normSq K        B2  (a·b)·(ā·b̄) = normSq' K      [C10c; final leg pairs in any
                                                                      order; bond legs in any order]
    under the decidable guard `netFullB a b xa xb` (the index tables of `a·b` are not pruned: every
    charge of every dangling leg of `a`, `b` occurs in a sector key of `a·b`):
    S1  ((ā·b̄)·a)·b  = normSq K        S2  ā·(b̄·(a·b))  = normSq K
    S3  ((a·b)·ā)·b̄  = normSq' K       S4  a·(b·(ā·b̄))  = normSq' K
    — each by S7 of C04 for the triangle `half – tensor – tensor` with everything contracted
    (`assoc_scalar` is its form under the documented guard; the proof uses the weak-guard form, which
    does not need `netFullB`: C10e) from B1/B2; the label hypothesis `LabelRoutes` of S7 holds for the
    four operand triples (`labelRoutes_net`).
    The same six statements for the operand-swapped network `{b, a, b̄, ā}` (`K' = b·a`,
    `K̄' = b̄·ā`; `network_norm_bracketings_swapped_partial`): the hypotheses are symmetric.
    `network_norm_tensorwise` is S1 alone; `network_norm_bracketings_comm_partial`: for commutative
    `*` all six values are `normSq K`.

  NOT COVERED HERE, and where it is:
  * S1–S4 WITHOUT the guard `netFullB`: C10e.  When `a·b` has pruned index tables, `K̄` (and `K`) is
    not `contractibleB` with `a` (`ā`): the charge tables differ.  `C04.tdotF_assoc_labels` demands
    the documented guard `tdotAdmissibleB` for its two first-level calls (`K̄·a`, `a·b`), so it does
    not apply — `tensorwise_pruned_witness`: a valid network where `tdotAdmissibleB K̄ a` is `false`
    while the route S1 still evaluates to `normSq K`; S7 under the weak guard
    (`tdotAdmissibleCommonB`) also on the first-level calls is what covers it.
  * bracketings that first contract a ket tensor with a bra tensor (`(a·ā)·(b·b̄)`, `((ā·a)·b̄)·b`, …): C10i–C10k,
    through the label-free pieces `ā·a`, `a·ā`; the labels of other ket–bra intermediates contain conjugate
    pairs that do not annihilate at once (`C04.conjugate_pairs_labels_route_dependent`).
  * mixed operand orders, e.g. `(b̄·ā)·(a·b)` or `((ā·b̄)·b)·a`: C10g; `normSq (b·a) = normSq (a·b)`: C10e
    (`normSq_swap`).
  * operands with several labels in S1–S4: C10e; three-tensor chains: C10h; `fused`: C10f.
-/
import SymmModel.Proofs.NormNet15
import SymmModel.Props.C10c
import SymmModel.Props.C04d

namespace SymmModel.C10
open SymmModel Lazy Norm NormNet TdotP

theorem netFullB_def {R : Type} (a b : Arr R) (xa xb : List Nat) :
    netFullB a b xa xb
      = ((without a.indices xa ++ without b.indices xb).zipIdx.all (fun p =>
          p.1.charges.all (fun c =>
            ((tdKeys a.sectors b.sectors (freeAxes a.ndim xa) xa xb (freeAxes b.ndim xb)).filterMap
              (fun s => s[p.2]?)).contains c))) := rfl

/-- the guard gives: the index tables of `a·b` are the un-pruned frame -/
theorem netFull_indices {R : Type} [AddMonoid R] [Mul R] [Neg R] [GradedP.SignRing R]
    {a b K : Arr R} {xa xb : List Nat}
    (ha : a.validB = true) (hb : b.validB = true) (hfa : a.fermi = true) (hfb : b.fermi = true)
    (hadm : ValidP.tdotAdmissibleB a b xa xb = true)
    (eK : a.tensordotF b (.pair (xa.map Int.ofNat) (xb.map Int.ofNat)) .blockwise = .ok K)
    (hf : netFullB a b xa xb = true) :
    K.indices = without a.indices xa ++ without b.indices xb := by
  obtain ⟨hs, hi⟩ := tdot_sectors (RoutesP.Adm.of ha hb hfa hfb hadm) eK
  rw [hi, hs]
  apply dropUnused_of_noPrune
  rw [noPruneB_eraseDups]; exact hf

/-- the axes of the second calls of the sequential routes (`Assoc2P.axesAB/axesBC` of C04d) -/
theorem axesTW_def (np nq : Nat) (xp xq : List Nat) :
    axesTW np nq xp xq
      = Assoc2P.axesAB ((freeAxes np xp).length + (freeAxes nq xq).length) np
          (List.range (freeAxes np xp).length)
          ((List.range (freeAxes nq xq).length).map ((freeAxes np xp).length + ·))
          (freeAxes np xp) xp
    ∧ axesTWr np nq xp xq
      = Assoc2P.axesBC nq ((freeAxes np xp).length + (freeAxes nq xq).length) xq (freeAxes nq xq)
          ((List.range (freeAxes nq xq).length).map ((freeAxes np xp).length + ·))
          (List.range (freeAxes np xp).length) := ⟨rfl, rfl⟩

/-- S7 for a triangle whose legs are ALL contracted: both routes succeed with rank-0 results
    having the same labels and the same value -/
theorem assoc_scalar {R : Type} [AddCommMonoid R] [Mul R] [Neg R] [GradedP.SignRing R]
    [AssocP.AssocLaws R] (A B C : Arr R) (xa1 xa3 xb1 xb2 xc2 xc3 : List Nat)
    (hA : A.validB = true) (hB : B.validB = true) (hC : C.validB = true)
    (hfA : A.fermi = true) (hfB : B.fermi = true) (hfC : C.fermi = true)
    (h1 : ValidP.tdotAdmissibleB A B xa1 xb1 = true) (h2 : ValidP.tdotAdmissibleB B C xb2 xc2 = true)
    (h3 : ValidP.contractibleB A C xa3 xc3 = true)
    (hnA : (xa1 ++ xa3).Nodup) (hnB : (xb1 ++ xb2).Nodup) (hnC : (xc2 ++ xc3).Nodup)
    (hltA : ∀ i ∈ xa3, i < A.ndim) (hltC : ∀ i ∈ xc3, i < C.ndim)
    (hL : Assoc2P.LabelRoutes A.parity B.parity A.oddpos B.oddpos C.oddpos)
    (fA : freeAxes A.ndim (xa1 ++ xa3) = []) (fB : freeAxes B.ndim (xb1 ++ xb2) = [])
    (fC : freeAxes C.ndim (xc2 ++ xc3) = []) :
    ∃ AB BC c1 c2 : Arr R,
      A.tensordotF B (.pair (xa1.map Int.ofNat) (xb1.map Int.ofNat)) .blockwise = .ok AB
      ∧ AB.tensordotF C (.pair ((Assoc2P.axesAB A.ndim B.ndim xa1 xa3 xb1 xb2).map Int.ofNat)
          ((xc3 ++ xc2).map Int.ofNat)) .blockwise = .ok c1
      ∧ B.tensordotF C (.pair (xb2.map Int.ofNat) (xc2.map Int.ofNat)) .blockwise = .ok BC
      ∧ A.tensordotF BC (.pair ((xa1 ++ xa3).map Int.ofNat)
          ((Assoc2P.axesBC B.ndim C.ndim xb1 xb2 xc2 xc3).map Int.ofNat)) .blockwise = .ok c2
      ∧ c2.oddpos = c1.oddpos ∧ c2.indices = c1.indices ∧ c2.elem [] [] = c1.elem [] [] := by
  obtain ⟨AB, BC, c1, c2, e1, e2, e3, e4, r1, _, _, _, _, _, r7, _, r9⟩ :=
    Assoc2P.tdotF_assoc_tri A B C xa1 xa3 xb1 xb2 xc2 xc3 hA hB hC hfA hfB hfC h1 h2 h3 hnA hnB hnC
      hltA hltC hL
  refine ⟨AB, BC, c1, c2, e1, e2, e3, e4, r1, r7, ?_⟩
  -- no free legs: the only address of both results is the empty one
  have := r9 [] [] [] [] [] [] ⟨by rw [fA]; rfl, by rw [fB]; rfl, by rw [fA], by rw [fB],
    by rw [fC], by rw [fA]; rfl, by rw [fB]; rfl, by rw [fC]; rfl⟩
  simpa using this

/-- the label hypothesis of S7 for the four operand triples `(K, ā, b̄)`, `(a, b, K̄)`, `(ā, b̄, K)`,
    `(K̄, a, b)`, in terms of the labels `out` the model computes for `K = a·b` -/
theorem labelRoutes_net (oA oB out : List (Int × Bool)) (ph : Int) (hA : OneKet oA)
    (hB : OneKet oB) (hd : (oA ++ oB).Pairwise (fun x y => x.1 ≠ y.1))
    (hm : OddposP.mergeOddpos (oA.length % 2 == 1) oA oB = .ok (out, ph)) :
    Assoc2P.LabelRoutes (xor (oA.length % 2 == 1) (oB.length % 2 == 1)) (oA.length % 2 == 1)
        out (Arr.oddposDag oA) (Arr.oddposDag oB)
    ∧ Assoc2P.LabelRoutes (oA.length % 2 == 1) (oB.length % 2 == 1) oA oB (Arr.oddposDag out)
    ∧ Assoc2P.LabelRoutes (oA.length % 2 == 1) (oB.length % 2 == 1)
        (Arr.oddposDag oA) (Arr.oddposDag oB) out
    ∧ Assoc2P.LabelRoutes (xor (oA.length % 2 == 1) (oB.length % 2 == 1)) (oA.length % 2 == 1)
        (Arr.oddposDag out) oA oB :=
  netLabelsB_spec hm (LabelAlg.netLabelsB_of_distinct _ _ oA oB hd)

section main
variable {R : Type} [AddCommMonoid R] [Mul R] [Neg R] [Conj R] [NetLaws R] [AssocP.AssocLaws R]

/-- **network_norm_bracketings_partial.**  For valid fermionic `a`, `b` with ket labels: the
    balanced bracketings B1, B2 (final leg pairs in any order `π`) and, under `netFullB`, the
    sequential bracketings S1–S4 of the norm network give `Σ |K|²` — `normSq K` when the bra side
    is on the left, `normSq' K` when it is on the right — as rank-0 arrays without labels. -/
theorem network_norm_bracketings_partial (a b : Arr R) (xa xb : List Nat)
    (ha : a.validB = true) (hb : b.validB = true) (hfa : a.fermi = true) (hfb : b.fermi = true)
    (hadm : ValidP.tdotAdmissibleB a b xa xb = true)
    (hoA : OneKet a.oddpos) (hoB : OneKet b.oddpos)
    (hd : (a.oddpos ++ b.oddpos).Pairwise (fun x y => x.1 ≠ y.1)) :
    ∃ K Kb, a.tensordotF b (.pair (xa.map Int.ofNat) (xb.map Int.ofNat)) .blockwise = .ok K
      ∧ (braOf a xa).tensordotF (braOf b xb) (.pair (xa.map Int.ofNat) (xb.map Int.ofNat)) .blockwise
          = .ok Kb
      -- B1, B2
      ∧ (∃ r r', r.ndim = 0 ∧ r.oddpos = [] ∧ r.elem [] [] = normSq K
          ∧ r'.ndim = 0 ∧ r'.oddpos = [] ∧ r'.elem [] [] = normSq' K
          ∧ ∀ π : List Nat, π.Perm (List.range K.ndim) →
              Kb.tensordotF K (.pair (π.map Int.ofNat) (π.map Int.ofNat)) .blockwise = .ok r
              ∧ K.tensordotF Kb (.pair (π.map Int.ofNat) (π.map Int.ofNat)) .blockwise = .ok r')
      ∧ (netFullB a b xa xb = true →
        -- S1  ((ā·b̄)·a)·b
        (∃ T c, Kb.tensordotF a (.pair ((List.range (freeAxes a.ndim xa).length).map Int.ofNat)
              ((freeAxes a.ndim xa).map Int.ofNat)) .blockwise = .ok T
          ∧ T.tensordotF b (.pair ((axesTW a.ndim b.ndim xa xb).map Int.ofNat)
              ((freeAxes b.ndim xb ++ xb).map Int.ofNat)) .blockwise = .ok c
          ∧ c.ndim = 0 ∧ c.oddpos = [] ∧ c.elem [] [] = normSq K)
        -- S2  ā·(b̄·(a·b))
        ∧ (∃ T c, (braOf b xb).tensordotF K (.pair ((freeAxes b.ndim xb).map Int.ofNat)
              (((List.range (freeAxes b.ndim xb).length).map ((freeAxes a.ndim xa).length + ·)).map
                Int.ofNat)) .blockwise = .ok T
          ∧ (braOf a xa).tensordotF T (.pair ((xa ++ freeAxes a.ndim xa).map Int.ofNat)
              ((axesTWr a.ndim b.ndim xa xb).map Int.ofNat)) .blockwise = .ok c
          ∧ c.ndim = 0 ∧ c.oddpos = [] ∧ c.elem [] [] = normSq K)
        -- S3  ((a·b)·ā)·b̄
        ∧ (∃ T c, K.tensordotF (braOf a xa) (.pair ((List.range (freeAxes a.ndim xa).length).map Int.ofNat)
              ((freeAxes a.ndim xa).map Int.ofNat)) .blockwise = .ok T
          ∧ T.tensordotF (braOf b xb) (.pair ((axesTW a.ndim b.ndim xa xb).map Int.ofNat)
              ((freeAxes b.ndim xb ++ xb).map Int.ofNat)) .blockwise = .ok c
          ∧ c.ndim = 0 ∧ c.oddpos = [] ∧ c.elem [] [] = normSq' K)
        -- S4  a·(b·(ā·b̄))
        ∧ (∃ T c, b.tensordotF Kb (.pair ((freeAxes b.ndim xb).map Int.ofNat)
              (((List.range (freeAxes b.ndim xb).length).map ((freeAxes a.ndim xa).length + ·)).map
                Int.ofNat)) .blockwise = .ok T
          ∧ a.tensordotF T (.pair ((xa ++ freeAxes a.ndim xa).map Int.ofNat)
              ((axesTWr a.ndim b.ndim xa xb).map Int.ofNat)) .blockwise = .ok c
          ∧ c.ndim = 0 ∧ c.oddpos = [] ∧ c.elem [] [] = normSq' K)) :=
  network_norm_bracketings a b xa xb ha hb hfa hfb hadm hoA hoB hd

/-- **network_norm_tensorwise** (S1): contracting the ket tensors one at a time into the bra half,
    `((ā·b̄)·a)·b = normSq (a·b)` -/
theorem network_norm_tensorwise (a b : Arr R) (xa xb : List Nat)
    (ha : a.validB = true) (hb : b.validB = true) (hfa : a.fermi = true) (hfb : b.fermi = true)
    (hadm : ValidP.tdotAdmissibleB a b xa xb = true)
    (hoA : OneKet a.oddpos) (hoB : OneKet b.oddpos)
    (hd : (a.oddpos ++ b.oddpos).Pairwise (fun x y => x.1 ≠ y.1))
    (hf : netFullB a b xa xb = true) :
    ∃ K Kb T c, a.tensordotF b (.pair (xa.map Int.ofNat) (xb.map Int.ofNat)) .blockwise = .ok K
      ∧ (braOf a xa).tensordotF (braOf b xb) (.pair (xa.map Int.ofNat) (xb.map Int.ofNat)) .blockwise
          = .ok Kb
      ∧ Kb.tensordotF a (.pair ((List.range (freeAxes a.ndim xa).length).map Int.ofNat)
          ((freeAxes a.ndim xa).map Int.ofNat)) .blockwise = .ok T
      ∧ T.tensordotF b (.pair ((axesTW a.ndim b.ndim xa xb).map Int.ofNat)
          ((freeAxes b.ndim xb ++ xb).map Int.ofNat)) .blockwise = .ok c
      ∧ c.ndim = 0 ∧ c.oddpos = [] ∧ c.elem [] [] = normSq K := by
  obtain ⟨K, Kb, eK, eKb, _, hs⟩ := network_norm_bracketings a b xa xb ha hb hfa hfb hadm hoA hoB hd
  obtain ⟨⟨T, c, e1, e2, q⟩, _⟩ := hs hf
  exact ⟨K, Kb, T, c, eK, eKb, e1, e2, q⟩

omit [Mul R] [Conj R] [NetLaws R] [AssocP.AssocLaws R] in
/-- six rank-0 results without labels and with the same value, as the two list statements -/
theorem six_scalars {N : R} {r1 r2 c1 c2 c3 c4 : Arr R}
    (h1 : r1.ndim = 0 ∧ r1.oddpos = [] ∧ r1.elem [] [] = N)
    (h2 : r2.ndim = 0 ∧ r2.oddpos = [] ∧ r2.elem [] [] = N)
    (h3 : c1.ndim = 0 ∧ c1.oddpos = [] ∧ c1.elem [] [] = N)
    (h4 : c2.ndim = 0 ∧ c2.oddpos = [] ∧ c2.elem [] [] = N)
    (h5 : c3.ndim = 0 ∧ c3.oddpos = [] ∧ c3.elem [] [] = N)
    (h6 : c4.ndim = 0 ∧ c4.oddpos = [] ∧ c4.elem [] [] = N) :
    [r1, r2, c1, c2, c3, c4].all (fun x => x.ndim == 0 && x.oddpos.isEmpty) = true
      ∧ [r1, r2, c1, c2, c3, c4].map (fun x => x.elem [] []) = List.replicate 6 N := by
  constructor
  · simp only [List.all_cons, List.all_nil, h1.1, h1.2.1, h2.1, h2.2.1, h3.1, h3.2.1, h4.1, h4.2.1,
      h5.1, h5.2.1, h6.1, h6.2.1, beq_self_eq_true, List.isEmpty_nil, Bool.and_self]
  · simp only [List.map_cons, List.map_nil, h1.2.2, h2.2.2, h3.2.2, h4.2.2, h5.2.2, h6.2.2]
    rfl

/-- for a commutative product all six covered bracketings give the same number `normSq K` -/
theorem network_norm_bracketings_comm_partial (hc : ∀ x y : R, x * y = y * x) (a b : Arr R)
    (xa xb : List Nat)
    (ha : a.validB = true) (hb : b.validB = true) (hfa : a.fermi = true) (hfb : b.fermi = true)
    (hadm : ValidP.tdotAdmissibleB a b xa xb = true)
    (hoA : OneKet a.oddpos) (hoB : OneKet b.oddpos)
    (hd : (a.oddpos ++ b.oddpos).Pairwise (fun x y => x.1 ≠ y.1))
    (hf : netFullB a b xa xb = true) :
    ∃ K Kb r1 r2 T1 c1 T2 c2 T3 c3 T4 c4,
      a.tensordotF b (.pair (xa.map Int.ofNat) (xb.map Int.ofNat)) .blockwise = .ok K
      ∧ (braOf a xa).tensordotF (braOf b xb) (.pair (xa.map Int.ofNat) (xb.map Int.ofNat)) .blockwise
          = .ok Kb
      ∧ Kb.tensordotF K (allAxes K.ndim) .blockwise = .ok r1
      ∧ K.tensordotF Kb (allAxes K.ndim) .blockwise = .ok r2
      ∧ Kb.tensordotF a (.pair ((List.range (freeAxes a.ndim xa).length).map Int.ofNat)
          ((freeAxes a.ndim xa).map Int.ofNat)) .blockwise = .ok T1
      ∧ T1.tensordotF b (.pair ((axesTW a.ndim b.ndim xa xb).map Int.ofNat)
          ((freeAxes b.ndim xb ++ xb).map Int.ofNat)) .blockwise = .ok c1
      ∧ (braOf b xb).tensordotF K (.pair ((freeAxes b.ndim xb).map Int.ofNat)
          (((List.range (freeAxes b.ndim xb).length).map ((freeAxes a.ndim xa).length + ·)).map
            Int.ofNat)) .blockwise = .ok T2
      ∧ (braOf a xa).tensordotF T2 (.pair ((xa ++ freeAxes a.ndim xa).map Int.ofNat)
          ((axesTWr a.ndim b.ndim xa xb).map Int.ofNat)) .blockwise = .ok c2
      ∧ K.tensordotF (braOf a xa) (.pair ((List.range (freeAxes a.ndim xa).length).map Int.ofNat)
          ((freeAxes a.ndim xa).map Int.ofNat)) .blockwise = .ok T3
      ∧ T3.tensordotF (braOf b xb) (.pair ((axesTW a.ndim b.ndim xa xb).map Int.ofNat)
          ((freeAxes b.ndim xb ++ xb).map Int.ofNat)) .blockwise = .ok c3
      ∧ b.tensordotF Kb (.pair ((freeAxes b.ndim xb).map Int.ofNat)
          (((List.range (freeAxes b.ndim xb).length).map ((freeAxes a.ndim xa).length + ·)).map
            Int.ofNat)) .blockwise = .ok T4
      ∧ a.tensordotF T4 (.pair ((xa ++ freeAxes a.ndim xa).map Int.ofNat)
          ((axesTWr a.ndim b.ndim xa xb).map Int.ofNat)) .blockwise = .ok c4
      ∧ [r1, r2, c1, c2, c3, c4].all (fun x => x.ndim == 0 && x.oddpos.isEmpty) = true
      ∧ [r1, r2, c1, c2, c3, c4].map (fun x => x.elem [] []) = List.replicate 6 (normSq K) := by
  obtain ⟨K, Kb, eK, eKb, ⟨r, r', h2, h3, h4, g2, g3, g4, hπ⟩, hs⟩ :=
    network_norm_bracketings a b xa xb ha hb hfa hfb hadm hoA hoB hd
  obtain ⟨⟨T1, c1, a1, a2, a3⟩, ⟨T2, c2, b1, b2, b3⟩, ⟨T3, c3, d1, d2, d3⟩, ⟨T4, c4, f1, f2, f3⟩⟩ :=
    hs hf
  have hid := hπ (List.range K.ndim) (List.Perm.refl _)
  rw [normSq'_eq hc] at g4 d3 f3
  exact ⟨K, Kb, r, r', T1, c1, T2, c2, T3, c3, T4, c4, eK, eKb, hid.1, hid.2, a1, a2, b1, b2, d1, d2,
    f1, f2, six_scalars ⟨h2, h3, h4⟩ ⟨g2, g3, g4⟩ a3 b3 d3 f3⟩

/-- **the operand-swapped network** `{b, a, b̄, ā}`: the hypotheses are symmetric, so the whole
    statement `Bracketings` (= the conclusion of `network_norm_bracketings_partial`,
    `bracketings_def`) holds with the roles exchanged: `K' = b·a`, `K̄' = b̄·ā`, values
    `normSq (b·a)` / `normSq' (b·a)`, guard `netFullB b a xb xa` for the sequential routes -/
theorem network_norm_bracketings_swapped_partial (a b : Arr R) (xa xb : List Nat)
    (ha : a.validB = true) (hb : b.validB = true) (hfa : a.fermi = true) (hfb : b.fermi = true)
    (hadm : ValidP.tdotAdmissibleB a b xa xb = true)
    (hoA : OneKet a.oddpos) (hoB : OneKet b.oddpos)
    (hd : (a.oddpos ++ b.oddpos).Pairwise (fun x y => x.1 ≠ y.1)) :
    ValidP.tdotAdmissibleB b a xb xa = true
    ∧ (b.oddpos ++ a.oddpos).Pairwise (fun x y => x.1 ≠ y.1)
    ∧ Bracketings b a xb xa := by
  have hadm' := admB_swap ha hb hfa hfb hadm
  have hd' := labels_swap hd
  exact ⟨hadm', hd', network_norm_bracketings b a xb xa hb ha hfb hfa hadm' hoB hoA hd'⟩

omit [NetLaws R] [AssocP.AssocLaws R] in
/-- `Bracketings a b xa xb` is literally the conclusion of `network_norm_bracketings_partial` -/
theorem bracketings_def (a b : Arr R) (xa xb : List Nat) :
    Bracketings a b xa xb ↔
    ∃ K Kb, a.tensordotF b (.pair (xa.map Int.ofNat) (xb.map Int.ofNat)) .blockwise = .ok K
      ∧ (braOf a xa).tensordotF (braOf b xb) (.pair (xa.map Int.ofNat) (xb.map Int.ofNat)) .blockwise
          = .ok Kb
      ∧ (∃ r r', r.ndim = 0 ∧ r.oddpos = [] ∧ r.elem [] [] = normSq K
          ∧ r'.ndim = 0 ∧ r'.oddpos = [] ∧ r'.elem [] [] = normSq' K
          ∧ ∀ π : List Nat, π.Perm (List.range K.ndim) →
              Kb.tensordotF K (.pair (π.map Int.ofNat) (π.map Int.ofNat)) .blockwise = .ok r
              ∧ K.tensordotF Kb (.pair (π.map Int.ofNat) (π.map Int.ofNat)) .blockwise = .ok r')
      ∧ (netFullB a b xa xb = true →
        (∃ T c, Kb.tensordotF a (.pair ((List.range (freeAxes a.ndim xa).length).map Int.ofNat)
              ((freeAxes a.ndim xa).map Int.ofNat)) .blockwise = .ok T
          ∧ T.tensordotF b (.pair ((axesTW a.ndim b.ndim xa xb).map Int.ofNat)
              ((freeAxes b.ndim xb ++ xb).map Int.ofNat)) .blockwise = .ok c
          ∧ c.ndim = 0 ∧ c.oddpos = [] ∧ c.elem [] [] = normSq K)
        ∧ (∃ T c, (braOf b xb).tensordotF K (.pair ((freeAxes b.ndim xb).map Int.ofNat)
              (((List.range (freeAxes b.ndim xb).length).map ((freeAxes a.ndim xa).length + ·)).map
                Int.ofNat)) .blockwise = .ok T
          ∧ (braOf a xa).tensordotF T (.pair ((xa ++ freeAxes a.ndim xa).map Int.ofNat)
              ((axesTWr a.ndim b.ndim xa xb).map Int.ofNat)) .blockwise = .ok c
          ∧ c.ndim = 0 ∧ c.oddpos = [] ∧ c.elem [] [] = normSq K)
        ∧ (∃ T c, K.tensordotF (braOf a xa) (.pair ((List.range (freeAxes a.ndim xa).length).map Int.ofNat)
              ((freeAxes a.ndim xa).map Int.ofNat)) .blockwise = .ok T
          ∧ T.tensordotF (braOf b xb) (.pair ((axesTW a.ndim b.ndim xa xb).map Int.ofNat)
              ((freeAxes b.ndim xb ++ xb).map Int.ofNat)) .blockwise = .ok c
          ∧ c.ndim = 0 ∧ c.oddpos = [] ∧ c.elem [] [] = normSq' K)
        ∧ (∃ T c, b.tensordotF Kb (.pair ((freeAxes b.ndim xb).map Int.ofNat)
              (((List.range (freeAxes b.ndim xb).length).map ((freeAxes a.ndim xa).length + ·)).map
                Int.ofNat)) .blockwise = .ok T
          ∧ a.tensordotF T (.pair ((xa ++ freeAxes a.ndim xa).map Int.ofNat)
              ((axesTWr a.ndim b.ndim xa xb).map Int.ofNat)) .blockwise = .ok c
          ∧ c.ndim = 0 ∧ c.oddpos = [] ∧ c.elem [] [] = normSq' K)) := Iff.rfl

end main

/-! ## non-vacuity and exactness -/

open scoped SymmModel.Lazy

/-- `C03.gA`, `C03.gB` (both odd, labels 1 and 3, pending signs) bonded along `[2]/[0]`: the guard
    holds -/
example : netFullB C03.gA C03.gB [2] [0] = true ∧ netFullB C03.gA C03.gB [1, 2] [1, 0] = true := by
  decide +kernel

example : ∃ K Kb T c, C03.gA.tensordotF C03.gB (.pair [2] [0]) .blockwise = .ok K
    ∧ (braOf C03.gA [2]).tensordotF (braOf C03.gB [0]) (.pair [2] [0]) .blockwise = .ok Kb
    ∧ Kb.tensordotF C03.gA (.pair [0, 1] [0, 1]) .blockwise = .ok T
    ∧ T.tensordotF C03.gB (.pair ((axesTW 3 3 [2] [0]).map Int.ofNat) [1, 2, 0]) .blockwise = .ok c
    ∧ c.ndim = 0 ∧ c.oddpos = [] ∧ c.elem [] [] = normSq K :=
  network_norm_tensorwise C03.gA C03.gB [2] [0] (by decide +kernel) (by decide +kernel) rfl rfl
    (by decide +kernel) (Or.inr ⟨1, rfl⟩) (Or.inr ⟨3, rfl⟩) (by decide) (by decide +kernel)

example : axesTW 3 3 [2] [0] = [0, 1, 2] ∧ axesTWr 3 3 [2] [0] = [0, 1, 2] := by decide

/-- the values of the four sequential routes of a concrete network, `[S1, S2, S3, S4]`, with the
    labels left (flattened), and `normSq K` -/
def seqVals (a b : Arr Int) (xa xb : List Nat) : List (List Int) :=
  let fA := freeAxes a.ndim xa
  let fB := freeAxes b.ndim xb
  let sh := (List.range fB.length).map (fA.length + ·)
  let lab (o : List (Int × Bool)) : List Int := o.flatMap (fun p => [p.1, if p.2 then 1 else 0])
  let val (r : Except Err (Arr Int)) : List Int :=
    match r with | .ok c => [c.elem [] []] ++ lab c.oddpos | .error _ => [-1, -1]
  let P (x y : List Nat) : AxesArg := .pair (x.map Int.ofNat) (y.map Int.ofNat)
  match a.tensordotF b (P xa xb) .blockwise, (braOf a xa).tensordotF (braOf b xb) (P xa xb) .blockwise with
  | .ok K, .ok Kb =>
    [ val (do let T ← Kb.tensordotF a (P (List.range fA.length) fA) .blockwise
              T.tensordotF b (P (axesTW a.ndim b.ndim xa xb) (fB ++ xb)) .blockwise),
      val (do let T ← (braOf b xb).tensordotF K (P fB sh) .blockwise
              (braOf a xa).tensordotF T (P (xa ++ fA) (axesTWr a.ndim b.ndim xa xb)) .blockwise),
      val (do let T ← K.tensordotF (braOf a xa) (P (List.range fA.length) fA) .blockwise
              T.tensordotF (braOf b xb) (P (axesTW a.ndim b.ndim xa xb) (fB ++ xb)) .blockwise),
      val (do let T ← b.tensordotF Kb (P fB sh) .blockwise
              a.tensordotF T (P (xa ++ fA) (axesTWr a.ndim b.ndim xa xb)) .blockwise),
      [normSq K] ]
  | _, _ => []

/-- on a network whose sequential routes are covered, `seqVals` is five times `normSq K`: only the ket
    half has to be evaluated -/
theorem seqVals_eq {a b : Arr Int} {xa xb : List Nat} (h : Bracketings6 a b xa xb) :
    (fun K => List.replicate 5 [normSq K])
        <$> a.tensordotF b (.pair (xa.map Int.ofNat) (xb.map Int.ofNat)) .blockwise
      = .ok (seqVals a b xa xb) := by
  obtain ⟨K, Kb, eK, eKb, -, ⟨T1, c1, a1, a2, -, a4, a5⟩, ⟨T2, c2, b1, b2, -, b4, b5⟩,
    ⟨T3, c3, d1, d2, -, d4, d5⟩, ⟨T4, c4, f1, f2, -, f4, f5⟩⟩ := h
  rw [normSq'_eq Int.mul_comm] at d5 f5
  simp only [seqVals, eK, eKb, a1, a2, b1, b2, d1, d2, f1, f2, a4, a5, b4, b5, d4, d5, f4, f5, bind,
    Except.bind]
  rfl

example : seqVals C03.gA C03.gB [2] [0] = [[16422], [16422], [16422], [16422], [16422]] := by
  obtain ⟨K, Kb, eK, eKb, hB, hS⟩ := network_norm_bracketings_partial C03.gA C03.gB [2] [0]
    (by decide +kernel) (by decide +kernel) rfl rfl (by decide +kernel) (Or.inr ⟨1, rfl⟩)
    (Or.inr ⟨3, rfl⟩) (by decide)
  obtain ⟨s1, s2, s3, s4⟩ := hS (by decide +kernel)
  exact Except.ok.inj ((seqVals_eq ⟨K, Kb, eK, eKb, hB, s1, s2, s3, s4⟩).symm.trans
    (ok_map_comp (fun v => List.replicate 5 [v]) normSq_gAB))

/-- a sparse ket tensor (`C03.gA` without the sectors whose first leg is odd): valid, but the
    contraction result has a pruned table on that leg … -/
def gAs : Arr Int :=
  { C03.gA with blocks := C03.gA.blocks.filter (fun p => p.1.getD 0 (0, 0) == (0, 0)), phases := [] }

/-- `<ψ|ψ>` of the network `gAs –[2]/[0]– gB` -/
theorem normSq_gAsB :
    normSq <$> gAs.tensordotF C03.gB (.pair [2] [0]) .blockwise = .ok 2174 := by decide +kernel

/-- **the guard `netFullB` is not needed for the identity**: for `gAs`, `gB` the guard fails,
    `K̄` is not `tdotAdmissibleB` with `a` (so S7 under the documented guard, `C04.tdotF_assoc_labels`, does not
    apply to the triple `(K̄, a, b)`), and yet all four sequential routes evaluate to `normSq K = 2174` — an
    instance of the unguarded statement of C10e (S7 under the weak guard) -/
theorem tensorwise_pruned_witness :
    gAs.validB = true ∧ ValidP.tdotAdmissibleB gAs C03.gB [2] [0] = true
    ∧ netFullB gAs C03.gB [2] [0] = false
    ∧ (match (braOf gAs [2]).tensordotF (braOf C03.gB [0]) (.pair [2] [0]) .blockwise with
        | .ok Kb => ValidP.tdotAdmissibleB Kb gAs [0, 1] [0, 1] | .error _ => true) = false
    ∧ seqVals gAs C03.gB [2] [0] = [[2174], [2174], [2174], [2174], [2174]] :=
  ⟨by decide +kernel, by decide +kernel, by decide +kernel, by decide +kernel,
    Except.ok.inj ((seqVals_eq (network_norm_bracketings6 gAs C03.gB [2] [0] (by decide +kernel)
      (by decide +kernel) rfl rfl (by decide +kernel) (OneKet.ketLabels (Or.inr ⟨1, rfl⟩))
      (OneKet.ketLabels (Or.inr ⟨3, rfl⟩)) (by decide))).symm.trans
      (ok_map_comp (fun v => List.replicate 5 [v]) normSq_gAsB))⟩

/-- the scalar classes are inhabited by the driver's scalar type -/
example : @NetLaws GRat C02.addCommMonoidGRat.toAddMonoid GRat.instMul GRat.instNeg GRat.instConj
    ∧ @AssocP.AssocLaws GRat C02.addCommMonoidGRat GRat.instMul := ⟨netLaws_GRat, C04.assocLawsGRat⟩

end SymmModel.C10
