import SymmModel.Props.C08All2
import SymmModel.Props.C08d
