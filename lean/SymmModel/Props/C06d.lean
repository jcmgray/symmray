/-
  C06 (fourth part) — fused strategy = blockwise for EVERY admissible call, block shapes of the
  fused strategy's result, and the fused / auto-mode theorems of C06c WITHOUT the `OwnBox` side
  condition and without any restriction on the call shape.

  * `tensordotFused_obs_eq_blockwise_all`, `tensordotA_modes_agree_all`: the abelian theorems of
    C06b for EVERY call shape — empty left and/or right group (vector, scalar, rank-0 results) and
    an empty contraction in `mode = fused` included; plus: every block the fused result stores has
    exactly the shape that the operands' index tables give for its sector key.
  * `tensordotF_modes_agree_shapes`: `tensordotF_modes_agree` of C06c for every admissible call,
    plus the block shapes.  So the "box of the result's own block" of C06c IS the table box
    (`ownBox_of_tableBox`).
  * `tensordotF_to_blockwise'` and the transferred theorems
    `tensordotF_refines_graded_any_mode'` (C03), `tdotF_axes_perm_any_mode'` (C04 S4),
    `tdotF_pretranspose_any_mode'` (S6), `tdotF_swap_any_mode'` (S5): the statements of the
    blockwise theorems, for `mode = fused / auto`, at every sector key and every address of the
    table box — no condition on the result's own blocks, no condition on the call shape.
    In this file a prime marks the STRONGER theorem: the primed form has no `OwnBox` premise and no
    hypothesis on the call shape; the unprimed form of C06c follows from it by dropping both.

  Scope: every admissible call (`RoutesP.Adm` for the fermionic, `validB` + `contractibleB` for the
  abelian theorems): any number of contracted axis pairs, any ranks — operands contracted
  completely (vector / scalar results, e.g. norms and `<psi|psi>`), rank-0 operands, and
  `mode = fused` with nothing to contract (`mode = auto` is then `blockwise`).
  * `tensordotF_modes_agree_weak`, `tensordotF_refines_graded_any_mode_weak`: the same under the
    WEAK guard of C04c (`AssocP.AdmW` / `tdotAdmissibleCommonB`: matched legs have opposite
    directions and charge tables that agree on the charges both list).  This is the form that
    applies INSIDE a chain of contractions, where an operand is the (pruned) result of an earlier
    contraction — the first step towards S7 in fused / auto mode.
  * `tdotF_assoc_any_mode`: S7 (associativity, chains and triangles, the statement of
    `C04.tdotF_assoc_labels`) with ALL FOUR calls in fused / auto mode: success, same labels,
    charge, symmetry, kind, and the same value at every `FreeAddr` address.
    `tdotF_assoc_any_mode_stored`: the same in terms of the stored data — both results store every
    sector of the blockwise result with the blockwise values, every other stored block is zero.
  `tensordot_fuse_commute`: C06e.
-/
import SymmModel.Props.C06All2
import SymmModel.Proofs.TdotFusedS4
import SymmModel.Props.C04d

namespace SymmModel.C06
open SymmModel SymmModel.TdotP SymmModel.GradedP SymmModel.RoutesP SymmModel.AssocP
open SymmModel.Lazy (sgnI)

variable {R : Type}

/-- `tensordotF_modes_agree` of C06c for every admissible call (no condition on the call shape), plus:
    every block the fused / auto result stores has the shape the operands' free index tables give
    its key (`Arr.blockShape? (without a.indices xa ++ without b.indices xb) K`). -/
theorem tensordotF_modes_agree_shapes [AddCommMonoid R] [Mul R] [Neg R] [SignRing R]
    (hz1 : ∀ x : R, 0 * x = 0) (hz2 : ∀ x : R, x * 0 = 0) (a b : Arr R) (xa xb : List Nat)
    (h : Adm a b xa xb)
    (mode : TdotMode) (hmode : mode = .fused ∨ mode = .auto) :
    (∀ e, OddposP.mergeOddpos a.parity a.oddpos b.oddpos = .error e →
        a.tensordotF b (.pair (xa.map Int.ofNat) (xb.map Int.ofNat)) mode = .error e
        ∧ a.tensordotF b (.pair (xa.map Int.ofNat) (xb.map Int.ofNat)) .blockwise = .error e)
    ∧ (∀ r, OddposP.mergeOddpos a.parity a.oddpos b.oddpos = .ok r →
        ∃ rm rb, a.tensordotF b (.pair (xa.map Int.ofNat) (xb.map Int.ofNat)) mode = .ok rm
          ∧ a.tensordotF b (.pair (xa.map Int.ofNat) (xb.map Int.ofNat)) .blockwise = .ok rb
          ∧ rm.oddpos = rb.oddpos ∧ rm.charge = rb.charge ∧ rm.sym = rb.sym ∧ rm.fermi = rb.fermi
          ∧ rm.indices.length = rb.indices.length
          ∧ (∀ s ∈ rb.sectors, s ∈ rm.sectors)
          ∧ (∀ K V, alookup rm.blocks K = some V →
              Arr.blockShape? (without a.indices xa ++ without b.indices xb) K = some V.shape)
          ∧ (∀ K V, alookup rm.blocks K = some V → ∀ J, inBox V.shape J = true →
              rm.elem K J = rb.elem K J)) := by
  obtain ⟨he, hk⟩ := tensordotF_modes_all_w hz1 hz2 a b xa xb (AdmW.ofAdm h) mode hmode
  refine ⟨he, fun r hr => ?_⟩
  obtain ⟨rm, rb, h1, h2, f1, f2, f3, f4, f5, hsec, _, _, hshape, hel⟩ := hk r hr
  exact ⟨rm, rb, h1, h2, f1, f2, f3, f4, f5, hsec, hshape, hel⟩

/-- `OwnBox` of C06c follows from the table box -/
theorem ownBox_of_tableBox [AddCommMonoid R] [Mul R] [Neg R] [SignRing R]
    (hz1 : ∀ x : R, 0 * x = 0) (hz2 : ∀ x : R, x * 0 = 0) (a b rm : Arr R) (xa xb : List Nat)
    (h : Adm a b xa xb)
    (mode : TdotMode) (hmode : mode = .fused ∨ mode = .auto)
    (hm : a.tensordotF b (.pair (xa.map Int.ofNat) (xb.map Int.ofNat)) mode = .ok rm)
    (s : Sector) (o : List Nat)
    (ho : inBox (Arr.blockShapeD (without a.indices xa ++ without b.indices xb) s) o = true) :
    OwnBox rm s o := by
  obtain ⟨_, _, _, _, _, _, _, _, hshape, _⟩ :=
    tensordotF_to_blockwise_table hz1 hz2 a b rm xa xb (AdmW.ofAdm h) mode hmode hm
  exact ownBox_of_table hshape s o ho

/-- **transfer step, table box.**  Stronger than `tensordotF_to_blockwise` of C06c: the elements
    agree on the whole table box, no `OwnBox` premise.  It is `TdotP.tensordotF_to_blockwise_table`
    (Proofs/TdotFusedW2.lean) without the block-shape clause. -/
theorem tensordotF_to_blockwise' [AddCommMonoid R] [Mul R] [Neg R] [SignRing R]
    (hz1 : ∀ x : R, 0 * x = 0) (hz2 : ∀ x : R, x * 0 = 0) (a b rm : Arr R) (xa xb : List Nat)
    (W : AdmW a b xa xb)
    (mode : TdotMode) (hmode : mode = .fused ∨ mode = .auto)
    (hm : a.tensordotF b (.pair (xa.map Int.ofNat) (xb.map Int.ofNat)) mode = .ok rm) :
    ∃ rb, a.tensordotF b (.pair (xa.map Int.ofNat) (xb.map Int.ofNat)) .blockwise = .ok rb
      ∧ rm.oddpos = rb.oddpos ∧ rm.charge = rb.charge ∧ rm.sym = rb.sym ∧ rm.fermi = rb.fermi
      ∧ rm.indices.length = rb.indices.length
      ∧ (∀ s ∈ rb.sectors, s ∈ rm.sectors)
      ∧ ∀ s o, inBox (Arr.blockShapeD (without a.indices xa ++ without b.indices xb) s) o = true →
          rm.elem s o = rb.elem s o := by
  obtain ⟨rb, h1, f1, f2, f3, f4, f5, hsec, _, hel⟩ :=
    tensordotF_to_blockwise_table hz1 hz2 a b rm xa xb W mode hmode hm
  exact ⟨rb, h1, f1, f2, f3, f4, f5, hsec, hel⟩

/-- **C03 for fused / auto mode**, the statement of `C03.tensordotF_refines_graded_at`.  Stronger
    than the unprimed theorem of C06c: no `OwnBox` premise, any call shape. -/
theorem tensordotF_refines_graded_any_mode' [AddCommMonoid R] [Mul R] [Neg R] [SignRing R]
    (hz1 : ∀ x : R, 0 * x = 0) (hz2 : ∀ x : R, x * 0 = 0) (a b c : Arr R) (xa xb : List Nat)
    (h : Adm a b xa xb)
    (mode : TdotMode) (hmode : mode = .fused ∨ mode = .auto)
    (hm : a.tensordotF b (.pair (xa.map Int.ofNat) (xb.map Int.ofNat)) mode = .ok c) :
    ∃ out ph, OddposP.mergeOddpos a.parity a.oddpos b.oddpos = .ok (out, ph)
      ∧ c.oddpos = out
      ∧ c.charge = a.sym.combine [a.charge, b.charge]
      ∧ ∀ (s : Sector) (oL oR : List Nat), oL.length = (freeAxes a.ndim xa).length →
          inBox (Arr.blockShapeD (without a.indices xa ++ without b.indices xb) s) (oL ++ oR) = true →
          c.elem s (oL ++ oR) = sgnI ph (gradedContract a b xa xb s oL oR) := by
  obtain ⟨rb, hb, f1, f2, _, _, _, _, hel⟩ :=
    tensordotF_to_blockwise' hz1 hz2 a b c xa xb (AdmW.ofAdm h) mode hmode hm
  have hadm : ValidP.tdotAdmissibleB a b xa xb = true := by
    exact ValidP.tdotAdmissibleB_iff.mpr ⟨h.sym, h.con, h.nA, h.nB, h.ltA, h.ltB⟩
  obtain ⟨out, ph, g1, g2, g3, g4⟩ :=
    C03.tensordotF_refines_graded_at a b rb xa xb h.va h.vb h.fa h.fb hadm hb
  exact ⟨out, ph, g1, f1.trans g2, f2.trans g3, fun s oL oR hoL ho => by
    rw [hel s _ ho]; exact g4 s oL oR hoL ho⟩

/-- **C04 S4 for fused / auto mode.**  Listing the contracted axis pairs in another order: same
    labels, charge, symmetry, kind, rank, and the same element at every sector key and every
    address of the table box. -/
theorem tdotF_axes_perm_any_mode' [AddCommMonoid R] [Mul R] [Neg R] [SignRing R]
    (hz1 : ∀ x : R, 0 * x = 0) (hz2 : ∀ x : R, x * 0 = 0) (a b c1 c2 : Arr R) (xa xb π : List Nat)
    (h : Adm a b xa xb) (hπ : π.Perm (List.range xa.length))
   
    (mode : TdotMode) (hmode : mode = .fused ∨ mode = .auto)
    (h1 : a.tensordotF b (.pair ((permuted xa π).map Int.ofNat) ((permuted xb π).map Int.ofNat)) mode = .ok c1)
    (h2 : a.tensordotF b (.pair (xa.map Int.ofNat) (xb.map Int.ofNat)) mode = .ok c2) :
    c1.oddpos = c2.oddpos ∧ c1.charge = c2.charge ∧ c1.sym = c2.sym ∧ c1.fermi = c2.fermi
    ∧ c1.indices.length = c2.indices.length
    ∧ ∀ s o, inBox (Arr.blockShapeD (without a.indices xa ++ without b.indices xb) s) o = true →
        c1.elem s o = c2.elem s o := by
  have hπb : π.Perm (List.range xb.length) := h.len ▸ hπ
  obtain ⟨_, _, hlenπ, hfA⟩ := relist_ok h.nA h.ltA hπ
  obtain ⟨_, _, _, hfB⟩ := relist_ok h.nB h.ltB hπb
  have hwA : without a.indices (permuted xa π) = without a.indices xa := by
    rw [without_eq_permuted_freeAxes, without_eq_permuted_freeAxes]
    exact congrArg _ hfA
  have hwB : without b.indices (permuted xb π) = without b.indices xb := by
    rw [without_eq_permuted_freeAxes, without_eq_permuted_freeAxes]
    exact congrArg _ hfB
  obtain ⟨rb1, hb1, f1, f2, f3, f4, f5, _, hel1⟩ :=
    tensordotF_to_blockwise' hz1 hz2 a b c1 _ _ ((AdmW.ofAdm h).relist hπ) mode hmode h1
  obtain ⟨rb2, hb2, g1, g2, g3, g4, g5, _, hel2⟩ :=
    tensordotF_to_blockwise' hz1 hz2 a b c2 xa xb (AdmW.ofAdm h) mode hmode h2
  have := C04.tdotF_axes_perm a b xa xb π h hπ
  rw [hb1, hb2] at this
  cases this
  rw [hwA, hwB] at hel1
  exact ⟨f1.trans g1.symm, f2.trans g2.symm, f3.trans g3.symm, f4.trans g4.symm, f5.trans g5.symm,
    fun s o ho => (hel1 s o ho).trans (hel2 s o ho).symm⟩

/-- **C04 S6 for fused / auto mode**, the statement of `C04.tdotF_pretranspose` with both calls in
    the same mode `fused` or `auto`. -/
theorem tdotF_pretranspose_any_mode' [AddCommMonoid R] [Mul R] [Neg R] [SignRing R]
    (hz1 : ∀ x : R, 0 * x = 0) (hz2 : ∀ x : R, x * 0 = 0) (a b c c' : Arr R)
    (p xa xa' q xb : List Nat) (h : Adm a b xa xb) (hp : Arr.isPerm p a.ndim = true)
    (hT : PreT a.ndim p xa xa' q)
    (mode : TdotMode) (hmode : mode = .fused ∨ mode = .auto)
    (hc : a.tensordotF b (.pair (xa.map Int.ofNat) (xb.map Int.ofNat)) mode = .ok c)
    (hc' : (a.transposeF p).tensordotF b (.pair (xa'.map Int.ofNat) (xb.map Int.ofNat)) mode = .ok c') :
    c'.oddpos = c.oddpos ∧ c'.charge = c.charge ∧ c'.sym = c.sym ∧ c'.fermi = c.fermi
    ∧ ∀ (L Rr : Sector) (oL oR : List Nat), L.length = (freeAxes a.ndim xa).length →
        oL.length = (freeAxes a.ndim xa).length →
        inBox (Arr.blockShapeD (without a.indices xa ++ without b.indices xb) (L ++ Rr))
          (oL ++ oR) = true →
        c'.elem (permuted L q ++ Rr) (permuted oL q ++ oR)
          = sgnI (koszul (L.map a.sym.parity) (some q)) (c.elem (L ++ Rr) (oL ++ oR)) := by
  have h' := Assoc5P.admW_pre (AdmW.ofAdm h) hp hT
  have hnd : (a.transposeF p).ndim = a.ndim := hT.lenT a.indices rfl
  obtain ⟨rb, hb, f1, f2, f3, f4, _, _, hel⟩ :=
    tensordotF_to_blockwise' hz1 hz2 a b c xa xb (AdmW.ofAdm h) mode hmode hc
  obtain ⟨rb', hb', g1, g2, g3, g4, _, _, hel'⟩ :=
    tensordotF_to_blockwise' hz1 hz2 (a.transposeF p) b c' xa' xb h' mode hmode hc'
  obtain ⟨rb'', hb'', k1, k2, k3, k4, kel⟩ := C04.tdotF_pretranspose a b rb p xa xa' q xb h hp hT hb
  rw [hb'] at hb''
  cases hb''
  refine ⟨g1.trans (k1.trans f1.symm), g2.trans (k2.trans f2.symm), g3.trans (k3.trans f3.symm),
    g4.trans (k4.trans f4.symm), ?_⟩
  intro L Rr oL oR hLl hoL hbox
  have hbox' := box_pre a (a.transposeF p) b p xa xa' q xb hT rfl L Rr hLl oL oR hoL hbox
  rw [hel' _ _ hbox', hel _ _ hbox]
  exact kel L Rr oL oR hLl hoL hbox

/-- **C04 S5 for fused / auto mode**, the statement of `C04.tdotF_swap` with both calls in the same
    mode `fused` or `auto`. -/
theorem tdotF_swap_any_mode' [AddCommMonoid R] [Mul R] [Neg R] [SignRing R]
    (hz1 : ∀ x : R, 0 * x = 0) (hz2 : ∀ x : R, x * 0 = 0) (a b c c' : Arr R) (xa xb : List Nat)
    (hmul : ∀ x y : R, x * y = y * x) (h : Adm a b xa xb)
    (hd : (a.oddpos ++ b.oddpos).Pairwise (fun x y => x.1 ≠ y.1))
   
    (mode : TdotMode) (hmode : mode = .fused ∨ mode = .auto)
    (hc : a.tensordotF b (.pair (xa.map Int.ofNat) (xb.map Int.ofNat)) mode = .ok c)
    (hc' : b.tensordotF a (.pair (xb.map Int.ofNat) (xa.map Int.ofNat)) mode = .ok c') :
    c'.oddpos = c.oddpos ∧ c'.charge = c.charge ∧ c'.sym = c.sym ∧ c'.fermi = c.fermi
    ∧ ∀ (L Rr : Sector) (oL oR : List Nat), L.length = (freeAxes a.ndim xa).length →
        Rr.length = (freeAxes b.ndim xb).length → oL.length = (freeAxes a.ndim xa).length →
        oR.length = (freeAxes b.ndim xb).length →
        inBox (Arr.blockShapeD (without a.indices xa ++ without b.indices xb) (L ++ Rr))
          (oL ++ oR) = true →
        c'.elem (Rr ++ L) (oR ++ oL)
          = sgnI (koszul ((L ++ Rr).map a.sym.parity)
              (some ((List.range Rr.length).map (L.length + ·) ++ List.range L.length)))
              (c.elem (L ++ Rr) (oL ++ oR)) := by
  have h' := Assoc4P.admW_swap (AdmW.ofAdm h)
  obtain ⟨rb, hb, f1, f2, f3, f4, _, _, hel⟩ :=
    tensordotF_to_blockwise' hz1 hz2 a b c xa xb (AdmW.ofAdm h) mode hmode hc
  obtain ⟨rb', hb', g1, g2, g3, g4, _, _, hel'⟩ :=
    tensordotF_to_blockwise' hz1 hz2 b a c' xb xa h' mode hmode hc'
  obtain ⟨rb'', hb'', k1, k2, k3, k4, kel⟩ := C04.tdotF_swap a b rb xa xb hmul h hd hb
  rw [hb'] at hb''
  cases hb''
  refine ⟨g1.trans (k1.trans f1.symm), g2.trans (k2.trans f2.symm), g3.trans (k3.trans f3.symm),
    g4.trans (k4.trans f4.symm), ?_⟩
  intro L Rr oL oR hLl hRl hoL hoR hbox
  have hbox' := box_swap a b xa xb L Rr hLl hRl oL oR hoL hoR hbox
  rw [hel' _ _ hbox', hel _ _ hbox]
  exact kel L Rr oL oR hLl hRl hoL hoR hbox

/-- **tensordotFused_obs_eq_blockwise_all.**  `C06.tensordotFused_obs_eq_blockwise` without any
    condition on the groups: valid abelian operands with matching contracted legs and at least one
    aligned block — `tensordotViaFused` succeeds with a valid result that has the fields and the
    rank of the blockwise result, stores every sector the blockwise result stores, agrees with it
    on every stored entry (extra blocks are zero), and whose blocks have the table shapes.  Covers
    vector, scalar and rank-0 results and an empty contraction. -/
theorem tensordotFused_obs_eq_blockwise_all [AddCommMonoid R] [Mul R] [Neg R]
    (hz1 : ∀ x : R, 0 * x = 0) (hz2 : ∀ x : R, x * 0 = 0) (a b : Arr R) (xa xb : List Nat)
    (ha : a.validB = true) (hb : b.validB = true) (hfa : a.fermi = false) (hfb : b.fermi = false)
    (hsym : a.sym = b.sym) (hc : ValidP.contractibleB a b xa xb = true)
    (hnA : xa.Nodup) (hnB : xb.Nodup) (hA : ∀ x ∈ xa, x < a.ndim) (hB : ∀ x ∈ xb, x < b.ndim)
    (hbl : ((dropMisaligned a b xa xb).1.blocks.isEmpty || (dropMisaligned a b xa xb).2.blocks.isEmpty) = false) :
    ∃ c, tensordotViaFused a b (freeAxes a.ndim xa) xa xb (freeAxes b.ndim xb) = .ok c
      ∧ c.validB = true
      ∧ c.sym = a.sym ∧ c.fermi = a.fermi ∧ c.charge = a.sym.combine [a.charge, b.charge]
      ∧ c.phases = a.phases ∧ c.oddpos = a.oddpos
      ∧ c.indices.length =
          (tensordotBlockwise a b (freeAxes a.ndim xa) xa xb (freeAxes b.ndim xb)).indices.length
      ∧ (∀ s ∈ (tensordotBlockwise a b (freeAxes a.ndim xa) xa xb (freeAxes b.ndim xb)).sectors,
          s ∈ c.sectors)
      ∧ (∀ K V, alookup c.blocks K = some V → ∀ J, inBox V.shape J = true →
          c.elem K J =
            (tensordotBlockwise a b (freeAxes a.ndim xa) xa xb (freeAxes b.ndim xb)).elem K J)
      ∧ (∀ K V, alookup c.blocks K = some V →
          Arr.blockShape? (without a.indices xa ++ without b.indices xb) K = some V.shape) := by
  obtain ⟨c, h0, K⟩ := abOk_all hz1 hz2 a b xa xb ha hb hfa hfb hsym hc hnA hnB hA hB hbl
  exact ⟨c, h0, K.valid, K.sym, K.fermi, K.charge, K.phases, K.oddpos, K.rank, K.sec, K.val, K.shape⟩

/-- **tensordotA_modes_agree_all.**  `C06.tensordotA_modes_agree` for every admissible call (any
    groups, aligned blocks or not): with parsed axes `(xa, xb)`, `mode = fused` succeeds with a
    result `c`, `mode = blockwise` returns `bw`, `mode = auto` returns `c` when something is
    contracted and `bw` otherwise; `c` and `bw` have the same fields and rank, `c` stores every
    sector of `bw` (no key twice), agrees with `bw` on every stored entry, and its blocks have the
    table shapes. -/
theorem tensordotA_modes_agree_all [AddCommMonoid R] [Mul R] [Neg R]
    (hz1 : ∀ x : R, 0 * x = 0) (hz2 : ∀ x : R, x * 0 = 0) (a b : Arr R) (axes : AxesArg)
    (xa xb : List Nat) (hparse : parseAxes a.ndim b.ndim axes = .ok (xa, xb))
    (ha : a.validB = true) (hb : b.validB = true) (hfa : a.fermi = false) (hfb : b.fermi = false)
    (hsym : a.sym = b.sym) (hc : ValidP.contractibleB a b xa xb = true)
    (hnA : xa.Nodup) (hnB : xb.Nodup) (hA : ∀ x ∈ xa, x < a.ndim) (hB : ∀ x ∈ xb, x < b.ndim) :
    ∃ c bw, tensordotA a b axes .fused = .ok c ∧ tensordotA a b axes .blockwise = .ok bw
      ∧ (xa ≠ [] → tensordotA a b axes .auto = .ok c)
      ∧ (xa = [] → tensordotA a b axes .auto = .ok bw)
      ∧ c.sym = bw.sym ∧ c.fermi = bw.fermi ∧ c.charge = bw.charge ∧ c.phases = bw.phases
      ∧ c.oddpos = bw.oddpos ∧ c.indices.length = bw.indices.length
      ∧ (∀ s ∈ bw.sectors, s ∈ c.sectors) ∧ c.sectors.Nodup
      ∧ (∀ K V, alookup c.blocks K = some V → ∀ J, inBox V.shape J = true → c.elem K J = bw.elem K J)
      ∧ (∀ K V, alookup c.blocks K = some V →
          Arr.blockShape? (without a.indices xa ++ without b.indices xb) K = some V.shape) := by
  obtain ⟨c, hcok, hsv, hnd, _, hshape⟩ := kernelOk_all hz1 hz2 a b xa xb ((ValidP.validB_iff a).mp ha)
    ((ValidP.validB_iff b).mp hb) (Arr.phases_nil_of_validB ha hfa) (Arr.phases_nil_of_validB hb hfb)
    hsym hc hnA hnB hA hB
  refine ⟨c, _, (tensordotA_fused a b axes xa xb hparse).trans hcok,
    tensordotA_blockwise_ok a b axes xa xb hparse,
    fun hne => (tensordotA_auto_fused a b axes xa xb hparse hne).trans hcok, ?_,
    hsv.sym, hsv.fermi, hsv.charge, hsv.phases, hsv.oddpos, hsv.rank, hsv.sectors, hnd, hsv.elem, hshape⟩
  intro hxa
  subst hxa
  exact tensordotA_auto_outer a b axes xb hparse

/-- **tensordotF_modes_agree_weak.**  `tensordotF_modes_agree_shapes` under the weak guard `AdmW`
    (an operand may be the pruned result of an earlier contraction, as in `(A·B)·C`). -/
theorem tensordotF_modes_agree_weak [AddCommMonoid R] [Mul R] [Neg R] [SignRing R]
    (hz1 : ∀ x : R, 0 * x = 0) (hz2 : ∀ x : R, x * 0 = 0) (a b : Arr R) (xa xb : List Nat)
    (h : AdmW a b xa xb) (mode : TdotMode) (hmode : mode = .fused ∨ mode = .auto) :
    (∀ e, OddposP.mergeOddpos a.parity a.oddpos b.oddpos = .error e →
        a.tensordotF b (.pair (xa.map Int.ofNat) (xb.map Int.ofNat)) mode = .error e
        ∧ a.tensordotF b (.pair (xa.map Int.ofNat) (xb.map Int.ofNat)) .blockwise = .error e)
    ∧ (∀ r, OddposP.mergeOddpos a.parity a.oddpos b.oddpos = .ok r →
        ∃ rm rb, a.tensordotF b (.pair (xa.map Int.ofNat) (xb.map Int.ofNat)) mode = .ok rm
          ∧ a.tensordotF b (.pair (xa.map Int.ofNat) (xb.map Int.ofNat)) .blockwise = .ok rb
          ∧ rm.oddpos = rb.oddpos ∧ rm.charge = rb.charge ∧ rm.sym = rb.sym ∧ rm.fermi = rb.fermi
          ∧ rm.indices.length = rb.indices.length
          ∧ (∀ s ∈ rb.sectors, s ∈ rm.sectors)
          ∧ (∀ K V, alookup rm.blocks K = some V →
              Arr.blockShape? (without a.indices xa ++ without b.indices xb) K = some V.shape)
          ∧ (∀ K V, alookup rm.blocks K = some V → ∀ J, inBox V.shape J = true →
              rm.elem K J = rb.elem K J)) := by
  obtain ⟨he, hk⟩ := tensordotF_modes_all_w hz1 hz2 a b xa xb h mode hmode
  refine ⟨he, fun r hr => ?_⟩
  obtain ⟨rm, rb, h1, h2, f1, f2, f3, f4, f5, hsec, _, _, hshape, hel⟩ := hk r hr
  exact ⟨rm, rb, h1, h2, f1, f2, f3, f4, f5, hsec, hshape, hel⟩

/-- **C03 / C04c refinement for fused / auto mode under the weak guard**: the statement of
    `C04.tensordotF_refines_graded_common` for `mode = fused / auto`. -/
theorem tensordotF_refines_graded_any_mode_weak [AddCommMonoid R] [Mul R] [Neg R] [SignRing R]
    (hz1 : ∀ x : R, 0 * x = 0) (hz2 : ∀ x : R, x * 0 = 0) (a b c : Arr R) (xa xb : List Nat)
    (ha : a.validB = true) (hb : b.validB = true) (hfa : a.fermi = true) (hfb : b.fermi = true)
    (hadm : tdotAdmissibleCommonB a b xa xb = true)
    (mode : TdotMode) (hmode : mode = .fused ∨ mode = .auto)
    (hm : a.tensordotF b (.pair (xa.map Int.ofNat) (xb.map Int.ofNat)) mode = .ok c) :
    ∃ out ph, OddposP.mergeOddpos a.parity a.oddpos b.oddpos = .ok (out, ph)
      ∧ c.oddpos = out
      ∧ c.charge = a.sym.combine [a.charge, b.charge]
      ∧ ∀ (s : Sector) (oL oR : List Nat), oL.length = (freeAxes a.ndim xa).length →
          inBox (Arr.blockShapeD (without a.indices xa ++ without b.indices xb) s) (oL ++ oR) = true →
          c.elem s (oL ++ oR) = sgnI ph (gradedContract a b xa xb s oL oR) := by
  have W := AdmW.of ha hb hfa hfb hadm
  obtain ⟨he, hk⟩ := tensordotF_modes_all_w hz1 hz2 a b xa xb W mode hmode
  cases hmo : OddposP.mergeOddpos a.parity a.oddpos b.oddpos with
  | error e => rw [(he e hmo).1] at hm; cases hm
  | ok r =>
    obtain ⟨rm', rb, h1, h2, f1, f2, _, _, _, hsec, _, _, hshape, hel⟩ := hk r hmo
    rw [h1] at hm
    cases hm
    obtain ⟨out, ph, g1, g2, g3, g4⟩ :=
      C04.tensordotF_refines_graded_common a b rb xa xb ha hb hfa hfb hadm h2
    refine ⟨out, ph, hmo.symm.trans g1, f1.trans g2, f2.trans g3, fun s oL oR hoL ho => ?_⟩
    rw [elem_everywhere hsec hel s _ (ownBox_of_table hshape s _ ho)]
    exact g4 s oL oR hoL ho

/-- **S7 in terms of the stored data.**  With `c1b` the blockwise result of route 1 (whose sectors,
    index tables and values are characterised by `C04.tdotF_assoc_labels`), both fused / auto
    results store every sector of `c1b`, on the box of such a block `c2m = c1m = c1b`, and every
    other block either of them stores is identically zero.  `tdotF_assoc_any_mode` is the
    `FreeAddr` form of C04d. -/
theorem tdotF_assoc_any_mode_stored [AddCommMonoid R] [Mul R] [Neg R] [SignRing R] [AssocLaws R]
    (hz1 : ∀ x : R, 0 * x = 0) (hz2 : ∀ x : R, x * 0 = 0)
    (A B C : Arr R) (xa1 xa3 xb1 xb2 xc2 xc3 : List Nat)
    (hA : A.validB = true) (hB : B.validB = true) (hC : C.validB = true)
    (hfA : A.fermi = true) (hfB : B.fermi = true) (hfC : C.fermi = true)
    (h1 : ValidP.tdotAdmissibleB A B xa1 xb1 = true) (h2 : ValidP.tdotAdmissibleB B C xb2 xc2 = true)
    (h3 : ValidP.contractibleB A C xa3 xc3 = true)
    (hnA : (xa1 ++ xa3).Nodup) (hnB : (xb1 ++ xb2).Nodup) (hnC : (xc2 ++ xc3).Nodup)
    (hltA : ∀ i ∈ xa3, i < A.ndim) (hltC : ∀ i ∈ xc3, i < C.ndim)
    (hL : Assoc2P.LabelRoutes A.parity B.parity A.oddpos B.oddpos C.oddpos)
    (mode : TdotMode) (hmode : mode = .fused ∨ mode = .auto) :
    ∃ ABm BCm c1m c2m ABb c1b : Arr R,
      A.tensordotF B (.pair (xa1.map Int.ofNat) (xb1.map Int.ofNat)) mode = .ok ABm
      ∧ ABm.tensordotF C (.pair ((Assoc2P.axesAB A.ndim B.ndim xa1 xa3 xb1 xb2).map Int.ofNat)
          ((xc3 ++ xc2).map Int.ofNat)) mode = .ok c1m
      ∧ B.tensordotF C (.pair (xb2.map Int.ofNat) (xc2.map Int.ofNat)) mode = .ok BCm
      ∧ A.tensordotF BCm (.pair ((xa1 ++ xa3).map Int.ofNat)
          ((Assoc2P.axesBC B.ndim C.ndim xb1 xb2 xc2 xc3).map Int.ofNat)) mode = .ok c2m
      ∧ A.tensordotF B (.pair (xa1.map Int.ofNat) (xb1.map Int.ofNat)) .blockwise = .ok ABb
      ∧ ABb.tensordotF C (.pair ((Assoc2P.axesAB A.ndim B.ndim xa1 xa3 xb1 xb2).map Int.ofNat)
          ((xc3 ++ xc2).map Int.ofNat)) .blockwise = .ok c1b
      ∧ c2m.oddpos = c1m.oddpos ∧ c2m.charge = c1m.charge ∧ c2m.sym = c1m.sym ∧ c2m.fermi = c1m.fermi
      ∧ c1m.oddpos = c1b.oddpos ∧ c1m.charge = c1b.charge
      ∧ (∀ s ∈ c1b.sectors, s ∈ c1m.sectors ∧ s ∈ c2m.sectors)
      ∧ (∀ s ∈ c1b.sectors, ∀ o, inBox (Arr.blockShapeD c1b.indices s) o = true →
          c2m.elem s o = c1m.elem s o ∧ c1m.elem s o = c1b.elem s o)
      ∧ (∀ s, s ∉ c1b.sectors → ∀ o, OwnBox c1m s o → c1m.elem s o = 0)
      ∧ (∀ s, s ∉ c1b.sectors → ∀ o, OwnBox c2m s o → c2m.elem s o = 0) := by
  obtain ⟨ABm, BCm, c1m, c2m, ABb, c1b, K⟩ := assoc_core hz1 hz2 A B C xa1 xa3 xb1 xb2 xc2 xc3
    hA hB hC hfA hfB hfC h1 h2 h3 hnA hnB hnC hltA hltC hL mode hmode
  exact ⟨ABm, BCm, c1m, c2m, ABb, c1b, K.call1, K.call2, K.call3, K.call4, K.callb1, K.callb2,
    K.oddpos, K.charge, K.sym, K.fermi, K.oddb, K.chargeb, K.secs, K.stored, K.zero1, K.zero2⟩

/-- **S7 tdotF_assoc_any_mode** — the statement of `C04.tdotF_assoc_labels` (chains and
    triangles, any labels satisfying `LabelRoutes`, in particular pairwise-distinct labels) with
    ALL FOUR calls in `mode = fused` or `auto`: the calls succeed and `c1m = (A·B)·C`,
    `c2m = A·(B·C)` have the same labels, charge, symmetry, kind and the same value at every
    address `(LA ++ LM ++ LC, oA ++ oM ++ oC)` of the original operands' tables (`FreeAddr`).
    (The sector LISTS and pruned index tables of the two results are not claimed equal: fused-mode
    results may store additional all-zero blocks — `tdotF_assoc_any_mode_stored`.) -/
theorem tdotF_assoc_any_mode [AddCommMonoid R] [Mul R] [Neg R] [SignRing R] [AssocLaws R]
    (hz1 : ∀ x : R, 0 * x = 0) (hz2 : ∀ x : R, x * 0 = 0)
    (A B C : Arr R) (xa1 xa3 xb1 xb2 xc2 xc3 : List Nat)
    (hA : A.validB = true) (hB : B.validB = true) (hC : C.validB = true)
    (hfA : A.fermi = true) (hfB : B.fermi = true) (hfC : C.fermi = true)
    (h1 : ValidP.tdotAdmissibleB A B xa1 xb1 = true) (h2 : ValidP.tdotAdmissibleB B C xb2 xc2 = true)
    (h3 : ValidP.contractibleB A C xa3 xc3 = true)
    (hnA : (xa1 ++ xa3).Nodup) (hnB : (xb1 ++ xb2).Nodup) (hnC : (xc2 ++ xc3).Nodup)
    (hltA : ∀ i ∈ xa3, i < A.ndim) (hltC : ∀ i ∈ xc3, i < C.ndim)
    (hL : Assoc2P.LabelRoutes A.parity B.parity A.oddpos B.oddpos C.oddpos)
    (mode : TdotMode) (hmode : mode = .fused ∨ mode = .auto) :
    ∃ ABm BCm c1m c2m : Arr R,
      A.tensordotF B (.pair (xa1.map Int.ofNat) (xb1.map Int.ofNat)) mode = .ok ABm
      ∧ ABm.tensordotF C (.pair ((Assoc2P.axesAB A.ndim B.ndim xa1 xa3 xb1 xb2).map Int.ofNat)
          ((xc3 ++ xc2).map Int.ofNat)) mode = .ok c1m
      ∧ B.tensordotF C (.pair (xb2.map Int.ofNat) (xc2.map Int.ofNat)) mode = .ok BCm
      ∧ A.tensordotF BCm (.pair ((xa1 ++ xa3).map Int.ofNat)
          ((Assoc2P.axesBC B.ndim C.ndim xb1 xb2 xc2 xc3).map Int.ofNat)) mode = .ok c2m
      ∧ c2m.oddpos = c1m.oddpos ∧ c2m.charge = c1m.charge ∧ c2m.sym = c1m.sym ∧ c2m.fermi = c1m.fermi
      ∧ ∀ (LA LM LC : Sector) (oA oM oC : List Nat),
          Assoc2P.FreeAddr A B C xa1 xa3 xb1 xb2 xc2 xc3 LA LM LC oA oM oC →
          c2m.elem (LA ++ LM ++ LC) (oA ++ oM ++ oC) = c1m.elem (LA ++ LM ++ LC) (oA ++ oM ++ oC) := by
  obtain ⟨ABm, BCm, c1m, c2m, ABb, c1b, K⟩ := assoc_core hz1 hz2 A B C xa1 xa3 xb1 xb2 xc2 xc3
    hA hB hC hfA hfB hfC h1 h2 h3 hnA hnB hnC hltA hltC hL mode hmode
  refine ⟨ABm, BCm, c1m, c2m, K.call1, K.call2, K.call3, K.call4, K.oddpos, K.charge, K.sym, K.fermi, ?_⟩
  intro LA LM LC oA oM oC fa
  by_cases hs : (LA ++ LM ++ LC) ∈ c1b.sectors
  · obtain ⟨t, ht⟩ := (K.secb _).mp hs
    obtain ⟨shp, hshp⟩ := triple_shape (Arr.shapesOk_of_validB hA) (Arr.shapesOk_of_validB hB)
      (Arr.shapesOk_of_validB hC) ht
    have ho : inBox (Arr.blockShapeD c1b.indices (LA ++ LM ++ LC)) (oA ++ oM ++ oC) = true := by
      rw [K.idxb, Arr.blockShapeD, ValidP.dropUnused_blockShape _ _ _ hs, hshp]
      exact freeAddr_inBox fa hshp
    exact (K.stored _ hs _ ho).1
  · rw [K.zero1 _ hs _ (fun V hl => freeAddr_inBox fa (K.shape1 _ V hl)),
      K.zero2 _ hs _ (fun V hl => freeAddr_inBox fa (K.shape2 _ V hl))]

/-- **S7 for pairwise-distinct labels** (the scope of C04, statement of `C04.tdotF_assoc`) with
    all four calls in fused / auto mode -/
theorem tdotF_assoc_any_mode_distinct [AddCommMonoid R] [Mul R] [Neg R] [SignRing R] [AssocLaws R]
    (hz1 : ∀ x : R, 0 * x = 0) (hz2 : ∀ x : R, x * 0 = 0)
    (A B C : Arr R) (xa1 xa3 xb1 xb2 xc2 xc3 : List Nat)
    (hA : A.validB = true) (hB : B.validB = true) (hC : C.validB = true)
    (hfA : A.fermi = true) (hfB : B.fermi = true) (hfC : C.fermi = true)
    (h1 : ValidP.tdotAdmissibleB A B xa1 xb1 = true) (h2 : ValidP.tdotAdmissibleB B C xb2 xc2 = true)
    (h3 : ValidP.contractibleB A C xa3 xc3 = true)
    (hnA : (xa1 ++ xa3).Nodup) (hnB : (xb1 ++ xb2).Nodup) (hnC : (xc2 ++ xc3).Nodup)
    (hltA : ∀ i ∈ xa3, i < A.ndim) (hltC : ∀ i ∈ xc3, i < C.ndim)
    (hd : (A.oddpos ++ B.oddpos ++ C.oddpos).Pairwise (fun x y => x.1 ≠ y.1))
    (mode : TdotMode) (hmode : mode = .fused ∨ mode = .auto) :
    ∃ ABm BCm c1m c2m : Arr R,
      A.tensordotF B (.pair (xa1.map Int.ofNat) (xb1.map Int.ofNat)) mode = .ok ABm
      ∧ ABm.tensordotF C (.pair ((Assoc2P.axesAB A.ndim B.ndim xa1 xa3 xb1 xb2).map Int.ofNat)
          ((xc3 ++ xc2).map Int.ofNat)) mode = .ok c1m
      ∧ B.tensordotF C (.pair (xb2.map Int.ofNat) (xc2.map Int.ofNat)) mode = .ok BCm
      ∧ A.tensordotF BCm (.pair ((xa1 ++ xa3).map Int.ofNat)
          ((Assoc2P.axesBC B.ndim C.ndim xb1 xb2 xc2 xc3).map Int.ofNat)) mode = .ok c2m
      ∧ c2m.oddpos = c1m.oddpos ∧ c2m.charge = c1m.charge ∧ c2m.sym = c1m.sym ∧ c2m.fermi = c1m.fermi
      ∧ ∀ (LA LM LC : Sector) (oA oM oC : List Nat),
          Assoc2P.FreeAddr A B C xa1 xa3 xb1 xb2 xc2 xc3 LA LM LC oA oM oC →
          c2m.elem (LA ++ LM ++ LC) (oA ++ oM ++ oC) = c1m.elem (LA ++ LM ++ LC) (oA ++ oM ++ oC) :=
  tdotF_assoc_any_mode hz1 hz2 A B C xa1 xa3 xb1 xb2 xc2 xc3 hA hB hC hfA hfB hfC h1 h2 h3 hnA hnB hnC
    hltA hltC (C04.labelRoutes_of_distinct _ _ _ _ _ hd) mode hmode

open SymmModel.C03 in
example : Adm gA gB [1] [1] ∧ Adm gA gB [0, 1, 2] [2, 1, 0] ∧ Adm gA gB [] [] :=
  ⟨Adm.of (by decide +kernel) (by decide +kernel) rfl rfl (by decide +kernel),
   Adm.of (by decide +kernel) (by decide +kernel) rfl rfl (by decide +kernel),
   Adm.of (by decide +kernel) (by decide +kernel) rfl rfl (by decide +kernel)⟩

-- full contraction (scalar result, as in `<psi|psi>`): auto = fused = blockwise, one block `[]`
open SymmModel.C03 in
example :
    (match gA.tensordotF gB (.pair [0, 1, 2] [2, 1, 0]) .auto,
           gA.tensordotF gB (.pair [0, 1, 2] [2, 1, 0]) .fused,
           gA.tensordotF gB (.pair [0, 1, 2] [2, 1, 0]) .blockwise with
     | .ok c, .ok c', .ok d =>
         c.indices.length == 0 && d.sectors == [[]] && c.sectors == [[]] && c'.sectors == [[]]
         && c.elem [] [] == d.elem [] [] && c'.elem [] [] == d.elem [] [] && c.oddpos == d.oddpos
     | _, _, _ => false) = true := by decide +kernel

-- `mode = fused` with nothing to contract: same elements as the blockwise outer product
open SymmModel.C03 in
example :
    (match gA.tensordotF gB (.pair [] []) .fused, gA.tensordotF gB (.pair [] []) .blockwise with
     | .ok c, .ok d =>
         c.indices.length == 6 && d.blocks.length == 16
         && d.blocks.all (fun p => (alookup c.blocks p.1).map (·.data) == some p.2.data
              && alookup c.phases p.1 == alookup d.phases p.1)
         && c.oddpos == d.oddpos
     | _, _ => false) = true := by decide +kernel

/-- a matrix over `(j', k')` for `exA[i,j,k]`: contracting it completely leaves a vector -/
def exV : Arr Int :=
  { sym := .Z2, fermi := false, indices := [ixJ.conj, ixK.conj], charge := c0,
    blocks := [([c0, c0], mkB [1, 2] 3), ([c1, c1], mkB [2, 2] (-2))] }

-- matrix · vector and vector · matrix (abelian): one operand contracted completely
example : exV.validB = true ∧ ValidP.contractibleB exA exV [1, 2] [0, 1] = true
    ∧ freeAxes exV.ndim [0, 1] = [] ∧ ValidP.contractibleB exV exA [0, 1] [1, 2] = true
    ∧ (match tensordotViaFused exA exV [0] [1, 2] [0, 1] [] with
       | .ok c => c.blocks.map (fun p => (p.1, p.2.shape, p.2.data))
       | .error _ => [])
      = (tensordotBlockwise exA exV [0] [1, 2] [0, 1] []).blocks.map (fun p => (p.1, p.2.shape, p.2.data))
    ∧ (match tensordotViaFused exV exA [] [0, 1] [1, 2] [0] with
       | .ok c => c.blocks.map (fun p => (p.1, p.2.shape, p.2.data))
       | .error _ => [])
      = (tensordotBlockwise exV exA [] [0, 1] [1, 2] [0]).blocks.map (fun p => (p.1, p.2.shape, p.2.data))
    ∧ (tensordotBlockwise exA exV [0] [1, 2] [0, 1] []).blocks.length = 1 := by decide +kernel

-- the weak guard inside a chain (C04c's example): `B·C` has pruned tables, `(A, B·C)` is not
-- `contractibleB` but satisfies the weak guard; auto = fused = blockwise on it, and the two routes
-- of the chain agree when ALL four calls run in `mode = auto`
open SymmModel.C03 SymmModel.C04 in
example : AdmW gA exBC [2] [0] ∧ ValidP.contractibleB gA exBC [2] [0] = false :=
  ⟨AdmW.of (by decide +kernel) (by decide +kernel) rfl (by decide +kernel) (by decide +kernel),
   by decide +kernel⟩

open SymmModel.C03 SymmModel.C04 in
example :
    (match gA.tensordotF exBC (.pair [2] [0]) .auto, gA.tensordotF exBC (.pair [2] [0]) .fused,
           gA.tensordotF exBC (.pair [2] [0]) .blockwise with
     | .ok c, .ok c', .ok d =>
         c.oddpos == d.oddpos && d.blocks.all (fun p =>
           (alookup c.blocks p.1).map (·.data) == some p.2.data
           && (alookup c'.blocks p.1).map (·.data) == some p.2.data
           && alookup c.phases p.1 == alookup d.phases p.1)
     | _, _, _ => false) = true := by decide +kernel

open SymmModel.C03 SymmModel.C04 in
example :
    (match (resOf (gA.tensordotF cB (.pair [2] [0]) .auto)).tensordotF cC (.pair [3] [0]) .auto,
           gA.tensordotF (resOf (cB.tensordotF cC (.pair [2] [0]) .auto)) (.pair [2] [0]) .auto with
     | .ok c1, .ok c2 =>
         c1.oddpos == c2.oddpos && c1.charge == c2.charge
         && c1.elem [(0,0),(1,0),(0,0),(0,0)] [1,1,0,0] == c2.elem [(0,0),(1,0),(0,0),(0,0)] [1,1,0,0]
         && c1.elem [(1,0),(0,0),(0,0),(0,0)] [0,0,0,0] == c2.elem [(1,0),(0,0),(0,0),(0,0)] [0,0,0,0]
         && c1.elem [(0,0),(1,0),(0,0),(0,0)] [1,1,0,0] != 0
     | _, _ => false) = true := by decide +kernel

-- the hypotheses of `tdotF_assoc_any_mode_stored` hold for C04c's odd chain `gA – cB – cC`
open SymmModel.C03 SymmModel.C04 in
example : gA.validB = true ∧ cB.validB = true ∧ cC.validB = true
    ∧ ValidP.tdotAdmissibleB gA cB [2] [0] = true ∧ ValidP.tdotAdmissibleB cB cC [2] [0] = true
    ∧ ValidP.contractibleB gA cC [] [] = true
    ∧ ([2] ++ [] : List Nat).Nodup ∧ ([0] ++ [2] : List Nat).Nodup ∧ ([0] ++ [] : List Nat).Nodup
    ∧ Assoc2P.LabelRoutes gA.parity cB.parity gA.oddpos cB.oddpos cC.oddpos :=
  ⟨by decide +kernel, by decide +kernel, by decide +kernel, by decide +kernel, by decide +kernel,
   by decide +kernel, by decide, by decide, by decide,
   C04.labelRoutes_of_distinct _ _ _ _ _ (by decide +kernel)⟩

end SymmModel.C06
