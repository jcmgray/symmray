/-
  Property C07, fifth part — the exact round trip of `reshape` for forward plans with SEVERAL groups
  and SEVERAL fuse calls, abelian and fermionic.

  Setting: `a` valid, without fused axes.  The forward plan is `([], calls, [])` (no unfuse — a
  theorem for such `a`: `planner_no_unfuse` — and no expansion) and passes the decidable check
  `callsOkB calls 0 a.ndim`: every call fuses consecutive axes `P, P+1, …` in order (so the
  transposition of the fuse is the identity), every group has at least two axes (squeezed size-one
  axes are group members, as the planner represents them), and the calls go left to right, each
  starting at or after the end of the previous one.  Examples: (2,3,4,5)→(6,20) is one call with two
  groups, (2,3,7,4,5)→(6,7,20) two calls, (2,1,3,4,5)→(6,20) one call whose first group absorbs the
  size-one axis.
    `planner_back_plan_multi`     planner, way back, all shapes: ANY number of fused axes of any
                                  (also sparse) sizes; the plan unfuses them LEFT TO RIGHT.
    `reshape_back_plan`           … for arrays: `y.reshape(shape with fused axes expanded)`.
    `reshape_roundtrip_fermionic` / `reshape_roundtrip_abelian`
                                  `reshape` there, `reshape` back to `a.shape` succeeds and the
                                  result has EXACTLY the value view of `a` (`FuseP.VEq`: same
                                  symmetry, kind, indices, charge, odd-position labels, and equal
                                  values at every sector and offset, pending signs multiplied in),
                                  and is valid.  (The result stores the same sectors in another dict
                                  order plus zero blocks, so block-level equality is not claimed.)
    `applyPlan_roundtrip_*`       the same for the plan itself.
  Proof (Proofs/Reshape5a–f, ReshapeHb, ReshapeIg), generic in the kind of array (`ReshapeH.Kind`:
  the unfuse step `FuseP.StepOK` and the fuse call `Reshape5.FuseOK`, instantiated by
  `fuseF`/`unfuseF` and `fuseA`/`unfuseA`): invariant `ReshapeH.InvH` along the calls — the axes of
  the intermediate array carry marks, the marked ones are fused by the plan and have non-empty
  sub-index lists, replacing them by their sub-indices gives `a.indices`, everything right of the
  last call is unmarked, and unfusing all marked axes right to left gives the value view of `a`
  (one call: `C05.unfuseGroupsF_fuseF_veq` / `unfuse_fuse_blocks`; earlier calls:
  `Reshape5.chain_veq`, a chain of unfuse steps respects `VEq`); the way back plans the
  left-to-right chain over the marked axes (`ReshapeI.back_plan_marked`), which has the same value
  view (`FuseP.l2r_r2l`, i.e. `C05.unfuse_order_irrelevantF/A`).  The theorems here are the case of
  `ReshapeI.roundtrip_fused_generic` in which `a` has no fused axes, so that no window of the
  requested shape can match (`ReshapeI.roundtrip_generic`).
  How reshape-fused-window-match is excluded: as in C07d, `a` has no fused axes (`hnf`); on the way
  back every axis with sub-sizes is one the forward plan fused and its window is the intended one.

  THE PLAN FROM THE SHAPES (Proofs/Reshape5g.lean): `planner_forward_plan_runs` — the shape is a
  concatenation of runs, the target has one axis per run (its product), merged runs have all sizes
  ≥ 2 (`RunOk`): the planner returns `([], callsR runs 0 [], [])`, explicitly (adjacent merged runs
  in one call).  Hence `reshape_roundtrip_fermionic_runs` / `_abelian_runs`: NO hypothesis about what
  the planner returns, only the decidable check `callsOkB (callsR runs 0 []) 0 ndim` on the runs.
  Not covered by the `_runs` theorems (use the plan-hypothesis forms above): runs containing
  size-one axes (squeezes), where the scan of the first loop and the squeeze phase interact.
-/
import SymmModel.Proofs.ReshapeIg
import SymmModel.Props.C07d

namespace SymmModel.C07
open SymmModel SymmModel.Reshape SymmModel.Reshape5 ReshapeP FuseP

variable {R : Type}

/-- **planner, way back, any number of fused axes (all shapes).**  `st`: the old shape as a symbolic
    shape — kept axes `(d, none)`, fused axes `(D, some subs)` with `subs ≠ []`; target: every fused
    axis replaced by its sub-sizes.  The plan unfuses the fused axes left to right. -/
theorem planner_back_plan_multi (st : SymShape) (hok : FusedOk st) :
    calcReshapeArgs (SymShape.sizes st) (tgt st) (SymShape.subs st) = .ok (backAxes st 0, [], []) :=
  back_plan_multi st hok

example : calcReshapeArgs [6, 7, 10] [2, 3, 7, 4, 5] [some [2, 3], none, some [4, 5]] = .ok ([0, 3], [], []) :=
  planner_back_plan_multi [(6, some [2, 3]), (7, none), (10, some [4, 5])] (by
    intro e he subs hs
    simp only [List.mem_cons, List.not_mem_nil, or_false] at he
    rcases he with rfl | rfl | rfl <;> simp at hs <;> subst hs <;> simp)

/-- … for arrays: fused indices with at least one sub-index each; the target is the shape of the
    index list with every fused index replaced by its sub-indices -/
theorem reshape_back_plan (y : Arr R) (hd : Dep1 y.indices) :
    calcReshapeArgs y.shape ((expand1 y.indices).map Index.sizeTotal) y.subsizes
      = .ok (l2rAxes (fusedPL y.indices 0) 0, [], []) :=
  back_plan_arr_multi y hd

/-- without fused axes the planner never unfuses -/
theorem planner_no_unfuse (shape newshape : List Nat) (t : List Nat × List (List (List Nat)) × List Nat)
    (h : calcReshapeArgs shape newshape (nones shape) = .ok t) : t.1 = [] :=
  Reshape5.planner_no_unfuse shape newshape t h

variable [Zero R] [Neg R] [Lazy.LawfulNeg R]

/-- **fermionic round trip of a plan with several groups / several fuse calls** -/
theorem applyPlan_roundtrip_fermionic (a : Arr R) (hv : a.validB = true) (hf : a.fermi = true)
    (hnf : ∀ ix ∈ a.indices, ix.sub = none) (calls : List (List (List Nat)))
    (hc : callsOkB calls 0 a.ndim = true) :
    ∃ y z, applyPlan a ([], calls, []) = .ok y ∧ reshapeArr y (a.shape.map Int.ofNat) = .ok z
      ∧ z.validB = true ∧ z.fermi = true ∧ VEq z a := by
  obtain ⟨y, z, h1, h2, g, h3⟩ := ReshapeI.roundtrip_generic (ReshapeH.kind_F (R := R)) a ⟨hv, hf⟩ hnf calls
    (callsOk_of_B _ _ _ hc)
  exact ⟨y, z, h1, h2, g.1, g.2, h3⟩

/-- **abelian round trip of a plan with several groups / several fuse calls** -/
theorem applyPlan_roundtrip_abelian (a : Arr R) (hv : a.validB = true) (hf : a.fermi = false)
    (hnf : ∀ ix ∈ a.indices, ix.sub = none) (calls : List (List (List Nat)))
    (hc : callsOkB calls 0 a.ndim = true) :
    ∃ y z, applyPlan a ([], calls, []) = .ok y ∧ reshapeArr y (a.shape.map Int.ofNat) = .ok z
      ∧ z.validB = true ∧ z.fermi = false ∧ VEq z a := by
  obtain ⟨y, z, h1, h2, g, h3⟩ := ReshapeI.roundtrip_generic (ReshapeH.kind_A (R := R)) a ⟨hv, hf⟩ hnf calls
    (callsOk_of_B _ _ _ hc)
  exact ⟨y, z, h1, h2, g.1, g.2, h3⟩

/-- **`reshape` there and back, fermionic**: the plan the planner returns has no expansion and its
    fuse calls pass `callsOkB` (that it has no unfuse step is `planner_no_unfuse`) -/
theorem reshape_roundtrip_fermionic (a y : Arr R) (ns full : List Int) (nsN : List Nat)
    (t : List Nat × List (List (List Nat)) × List Nat)
    (hv : a.validB = true) (hf : a.fermi = true) (hnf : ∀ ix ∈ a.indices, ix.sub = none)
    (h1 : findFullReshape ns a.size = .ok full)
    (h2 : full.mapM (fun (d : Int) => if d < 0 then (throw Err.notimpl : Except Err Nat) else pure d.toNat)
      = .ok nsN)
    (h3 : calcReshapeArgs a.shape nsN a.subsizes = .ok t)
    (hexp : t.2.2 = []) (hc : callsOkB t.2.1 0 a.ndim = true) (hy : reshapeArr a ns = .ok y) :
    ∃ z, reshapeArr y (a.shape.map Int.ofNat) = .ok z ∧ z.validB = true ∧ z.fermi = true ∧ VEq z a := by
  rw [reshapeArr_eq_calls a ns full nsN t hnf h1 h2 h3 hexp] at hy
  obtain ⟨y', z, hy', hz⟩ := applyPlan_roundtrip_fermionic a hv hf hnf t.2.1 hc
  rw [hy] at hy'; injection hy' with hy'; subst hy'
  exact ⟨z, hz⟩

/-- **`reshape` there and back, abelian** -/
theorem reshape_roundtrip_abelian (a y : Arr R) (ns full : List Int) (nsN : List Nat)
    (t : List Nat × List (List (List Nat)) × List Nat)
    (hv : a.validB = true) (hf : a.fermi = false) (hnf : ∀ ix ∈ a.indices, ix.sub = none)
    (h1 : findFullReshape ns a.size = .ok full)
    (h2 : full.mapM (fun (d : Int) => if d < 0 then (throw Err.notimpl : Except Err Nat) else pure d.toNat)
      = .ok nsN)
    (h3 : calcReshapeArgs a.shape nsN a.subsizes = .ok t)
    (hexp : t.2.2 = []) (hc : callsOkB t.2.1 0 a.ndim = true) (hy : reshapeArr a ns = .ok y) :
    ∃ z, reshapeArr y (a.shape.map Int.ofNat) = .ok z ∧ z.validB = true ∧ z.fermi = false ∧ VEq z a := by
  rw [reshapeArr_eq_calls a ns full nsN t hnf h1 h2 h3 hexp] at hy
  obtain ⟨y', z, hy', hz⟩ := applyPlan_roundtrip_abelian a hv hf hnf t.2.1 hc
  rw [hy] at hy'; injection hy' with hy'; subst hy'
  exact ⟨z, hz⟩

omit [Zero R] [Neg R] [Lazy.LawfulNeg R] in
/-- **planner, forward, from the shapes alone**: `shape = runs.flatten`, one target axis per run -/
theorem planner_forward_plan_runs (runs : List (List Nat)) (hok : ∀ r ∈ runs, RunOk r) :
    calcReshapeArgs runs.flatten (runs.map prod) (nones runs.flatten) = .ok ([], callsR runs 0 [], []) :=
  planner_runs runs hok

example : calcReshapeArgs [2, 3, 7, 4, 5, 11, 6] [6, 7, 20, 11, 6] (nones [2, 3, 7, 4, 5, 11, 6])
    = .ok ([], [[[0, 1]], [[2, 3]]], []) :=
  planner_forward_plan_runs [[2, 3], [7], [4, 5], [11], [6]] (by decide)

/-- **`reshape` there and back, fermionic, hypotheses on the shapes only** -/
theorem reshape_roundtrip_fermionic_runs (a y : Arr R) (runs : List (List Nat))
    (hv : a.validB = true) (hf : a.fermi = true) (hnf : ∀ ix ∈ a.indices, ix.sub = none)
    (hshape : a.shape = runs.flatten) (hok : ∀ r ∈ runs, RunOk r)
    (hc : callsOkB (callsR runs 0 []) 0 a.ndim = true)
    (hy : reshapeArr a ((runs.map prod).map Int.ofNat) = .ok y) :
    ∃ z, reshapeArr y (a.shape.map Int.ofNat) = .ok z ∧ z.validB = true ∧ z.fermi = true ∧ VEq z a :=
  reshape_roundtrip_fermionic a y _ _ (runs.map prod) _ hv hf hnf
    (findFullReshape_nat _ _) (mapM_toNat _)
    (by rw [subsizes_nones a hnf, hshape]; exact planner_forward_plan_runs runs hok) rfl hc hy

/-- **`reshape` there and back, abelian, hypotheses on the shapes only** -/
theorem reshape_roundtrip_abelian_runs (a y : Arr R) (runs : List (List Nat))
    (hv : a.validB = true) (hf : a.fermi = false) (hnf : ∀ ix ∈ a.indices, ix.sub = none)
    (hshape : a.shape = runs.flatten) (hok : ∀ r ∈ runs, RunOk r)
    (hc : callsOkB (callsR runs 0 []) 0 a.ndim = true)
    (hy : reshapeArr a ((runs.map prod).map Int.ofNat) = .ok y) :
    ∃ z, reshapeArr y (a.shape.map Int.ofNat) = .ok z ∧ z.validB = true ∧ z.fermi = false ∧ VEq z a :=
  reshape_roundtrip_abelian a y _ _ (runs.map prod) _ hv hf hnf
    (findFullReshape_nat _ _) (mapM_toNat _)
    (by rw [subsizes_nones a hnf, hshape]; exact planner_forward_plan_runs runs hok) rfl hc hy

section Examples
open C05

-- plans of four targets, and their checks
example : calcReshapeArgs [2, 3, 4, 5] [6, 20] (nones [2, 3, 4, 5]) = .ok ([], [[[0, 1], [2, 3]]], [])
    ∧ callsOkB [[[0, 1], [2, 3]]] 0 4 = true := by decide
example : calcReshapeArgs [2, 3, 7, 4, 5] [6, 7, 20] (nones [2, 3, 7, 4, 5]) = .ok ([], [[[0, 1]], [[2, 3]]], [])
    ∧ callsOkB [[[0, 1]], [[2, 3]]] 0 5 = true := by decide
example : calcReshapeArgs [2, 1, 3, 4, 5] [6, 20] (nones [2, 1, 3, 4, 5]) = .ok ([], [[[0, 1, 2], [3, 4]]], [])
    ∧ callsOkB [[[0, 1, 2], [3, 4]]] 0 5 = true := by decide
-- a plan that nests (fuses an already fused axis) is rejected
example : callsOkB [[[0, 1]], [[0, 1]]] 0 4 = false := by decide

-- the rank-4 fermionic example with a pending sign, (2,2,2,2) → (4,4) → back: two fused axes
example : exG.validB = true ∧ exG.fermi = true ∧ exG.shape = [2, 2, 2, 2] ∧ exG.phases ≠ []
    ∧ calcReshapeArgs exG.shape [4, 4] exG.subsizes = .ok ([], [[[0, 1], [2, 3]]], []) := by decide +kernel
example := reshape_roundtrip_fermionic (R := Int) exG _ [4, 4] [4, 4] [4, 4] _ (by decide) rfl (by decide)
  rfl rfl rfl rfl (by decide) rfl
example := reshape_roundtrip_abelian (R := Int) exB _ [4, -1] [4, 4] [4, 4] _ (by decide) rfl (by decide)
  rfl rfl rfl rfl (by decide) rfl
example : valView (do let x ← reshapeArr exG [4, 4]; reshapeArr x [2, 2, 2, 2]) ≠ none := by decide +kernel
example := reshape_roundtrip_fermionic_runs (R := Int) exG _ [[2, 2], [2, 2]] (by decide) rfl (by decide)
  rfl (by decide) (by decide) rfl
example := reshape_roundtrip_abelian_runs (R := Int) exB _ [[2, 2], [2], [2]] (by decide) rfl (by decide)
  rfl (by decide) (by decide) rfl

end Examples

end SymmModel.C07
