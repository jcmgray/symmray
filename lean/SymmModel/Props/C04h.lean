/-
  Property C04 (route independence) — four-tensor networks that are NOT chains: the 4-cycle
  (square), the star, the triangle with a pendant tensor and the complete graph K4, all at once; and
  S4 (order in which the contracted axis pairs are listed) under the weak guard.
  MODEL: `Arr.tensordotF` (Model/Fermi.lean), `mode = blockwise`; valid fermionic tensors of any
  rank, symmetry, sparsity, parity, pending signs; scalars as in C04c–g (`AddCommMonoid`, `SignRing`,
  `AssocP.AssocLaws`; instances `Int`, `GRat`).

  SETTING.  Four tensors `A, B, C, D` and, for EVERY pair, a (possibly empty) list of bonded legs:
  `ab ~ ba` (legs of `A` bonded to legs of `B`, matched in order), `ac ~ ca`, `ad ~ da`, `bc ~ cb`,
  `bd ~ db`, `cd ~ dc`; the three lists of one tensor are disjoint, arbitrary positions, arbitrary
  dangling legs.  Every pair satisfies the weak guard `tdotAdmissibleCommonB` (for an empty bond
  this only says "same symmetry", `adm_nil`).  Special cases: square `ac = ca = bd = db = []`; star
  with centre `B`: only `ab, bc, bd`; triangle `A, B, C` with pendant `D`: `ad = bd = []`; chain.
  When two sub-networks meet, ALL bonds between them are contracted in that one call.

  FIRST PART.  `route1 … route5` are the five bracketings `((AB)C)D`, `(A(BC))D`, `(AB)(CD)`,
  `A((BC)D)`, `A(B(CD))`, each a program of three calls (`routeS_defs`); they all succeed and their
  results are pairwise `Eqv` (C04e: same labels, charge, index tables, sector set, values):
  `net4_bracketings`.  In the named special cases (`square4_bracketings`, `star4_bracketings`,
  `pendant4_bracketings`) the non-bonded pairs need no hypothesis: equal symmetry follows from the
  bonded ones.  OPERAND ORDER (`net4_flagged`, commutative scalars): each of the fifteen calls of the
  five routes carries a Boolean flag; a flagged call is made with the operands exchanged and followed
  by the `transposeF` that rotates the two free blocks back (`callS`, C04g `compS`).
  ORDERINGS (second part of the file).  `Net4`: four tensors `T 0 … T 3` and for every ordered pair
  `(i, j)` the legs `b i j` of `T i` bonded to `T j`; `Net4.OK` the symmetric hypotheses.
  `TEq T T'` ("`T'` is a fermionic transpose of `T`"): for some permutation `P` of the legs,
  `T.transposeF P` is `Eqv` to `T'` (`teq_def`; `transposeF` multiplies every sector by the Koszul
  sign of `P`, C01/C04b), hence `to_dense()`, labels and charge of `T.transposeF P` and `T'` agree
  (`teq_dense`).
  `tdotF_pretranspose_eqv` is S6 as an EQUIVALENCE under the weak guard:
  `(a.transposeF p)·b  Eqv  (a·b).transposeF (q ⊕ id)`; `exchange3` is the EXCHANGE of two neighbours:
  for three pieces `X, Y, Z` (a bond between every pair) `((X·Z)·Y).transposeF (exchP …)  Eqv  (X·Y)·Z`
  with the explicit permutation `exchP` (`exchP_def`).  `net4_every_route`: ANY ordering (24) × ANY of
  the five bracketings × ANY assignment of operand-order flags gives a fermionic transpose of the
  reference `((T₀·T₁)·T₂)·T₃`; `net4_routes_agree` is the symmetric form.
  The 24 orderings are connected by three moves (Proofs/Net4Moves): exchange of the last two
  tensors, exchange of the two halves of `(AB)(CD)`, and `(A(BC))D ↔ (AD)(BC)`; the last one
  needs that the legs of `A·B·C` bonded to `D` have the same positions in the layouts of `(A·B)·C`
  and `A·(B·C)` (`Net4P.axes_star`).
  NOT proved: in `net4_all_orders/net4_every_route` the permutation `P` is existentially
  quantified (it is the composite of the explicit permutations of the moves; it satisfies
  `permuted T.indices P = T0.indices`, which determines it when the open legs have different
  tables; for a fully contracted network it is `[]`) — a closed formula for `P` as the block
  permutation of the ordering is not proved.  Also not proved: `n > 4` tensors with arbitrary
  graphs (the induction of C04f over bracketing trees with multi-bond pieces).  The fused/auto
  mode versions of the theorems of this file and `LabelRoutes` for up to four labels per tensor
  are in C04i.
-/
import SymmModel.Proofs.Net4Orders
import SymmModel.Props.C04g

namespace SymmModel.C04
open SymmModel SymmModel.GradedP SymmModel.TdotP SymmModel.RoutesP SymmModel.AssocP SymmModel.Assoc3P
  SymmModel.Assoc5P SymmModel.Net4P

variable {R : Type}

/-- **S4 under the weak guard**, i.e. for intermediate results: re-listing the axis pairs along a
    permutation gives the IDENTICAL result (same `Except` value) -/
theorem tdotF_axes_perm_weak [AddCommMonoid R] [Mul R] [Neg R] [SignRing R] (a b : Arr R)
    (xa xb π : List Nat)
    (ha : a.validB = true) (hb : b.validB = true) (hfa : a.fermi = true) (hfb : b.fermi = true)
    (hadm : tdotAdmissibleCommonB a b xa xb = true) (hπ : π.Perm (List.range xa.length)) :
    tdF a b (permuted xa π) (permuted xb π) = tdF a b xa xb :=
  tdotF_axes_perm_eq_w a b xa xb π (AdmW.of ha hb hfa hfb hadm) hπ

/-- **S4, general form**: the same axis pairs in any order -/
theorem tdotF_axes_pairs_weak [AddCommMonoid R] [Mul R] [Neg R] [SignRing R] (a b : Arr R)
    (xa xb xa' xb' : List Nat)
    (ha : a.validB = true) (hb : b.validB = true) (hfa : a.fermi = true) (hfb : b.fermi = true)
    (hadm : tdotAdmissibleCommonB a b xa xb = true) (hl : xa'.length = xb'.length)
    (hp : (xa'.zip xb').Perm (xa.zip xb)) :
    tdF a b xa' xb' = tdF a b xa xb :=
  tdotF_axes_pairs_w a b xa xb xa' xb' (AdmW.of ha hb hfa hfb hadm) hl hp

example : ([2, 0].zip [1, 3]).Perm ([0, 2].zip [3, 1]) ∧ ([2, 0] : List Nat).length = [1, 3].length :=
  ⟨List.Perm.swap _ _ _, rfl⟩

theorem adm_nil (a b : Arr R) (h : a.sym = b.sym) : tdotAdmissibleCommonB a b [] [] = true := by
  unfold tdotAdmissibleCommonB contractibleCommonB
  simp [h, allDistinct]

theorem adm_sym {a b : Arr R} {xa xb : List Nat} (h : tdotAdmissibleCommonB a b xa xb = true) :
    a.sym = b.sym := by
  unfold tdotAdmissibleCommonB at h
  simp only [Bool.and_eq_true, decide_eq_true_eq] at h
  exact h.1.1.1.1.1

section routes
variable [Zero R] [Add R] [Mul R] [Neg R]
variable (A B C D : Arr R) (ab ac ad ba bc bd ca cb cd da db dc : List Nat)

/-- `((A·B)·C)·D` -/
def route1 : Except Err (Arr R) := routeS1 A B C D ab ac ad ba bc bd ca cb cd da db dc false false false
/-- `(A·(B·C))·D` -/
def route2 : Except Err (Arr R) := routeS2 A B C D ab ac ad ba bc bd ca cb cd da db dc false false false
/-- `(A·B)·(C·D)` -/
def route3 : Except Err (Arr R) := routeS3 A B C D ab ac ad ba bc bd ca cb cd da db dc false false false
/-- `A·((B·C)·D)` -/
def route4 : Except Err (Arr R) := routeS4 A B C D ab ac ad ba bc bd ca cb cd da db dc false false false
/-- `A·(B·(C·D))` -/
def route5 : Except Err (Arr R) := routeS5 A B C D ab ac ad ba bc bd ca cb cd da db dc false false false

theorem callS_def (X Y : Arr R) (xa xb : List Nat) :
    callS false X Y xa xb = tdF X Y xa xb
    ∧ callS true X Y xa xb = (tdF Y X xb xa).map (fun z =>
        z.transposeF (rotB (freeAxes Y.ndim xb).length (freeAxes X.ndim xa).length)) := ⟨rfl, rfl⟩

/-- the five routes as programs of three calls; the axis lists of the later calls are the images
    of the bonded legs in the intermediate results (`Assoc2P.axesAB/axesBC`, C04d) -/
theorem routeS_defs (f1 f2 f3 : Bool) :
    routeS1 A B C D ab ac ad ba bc bd ca cb cd da db dc f1 f2 f3
      = ((callS f1 A B ab ba).bind fun AB =>
        (callS f2 AB C (Assoc2P.axesAB A.ndim B.ndim ab ac ba bc) (ca ++ cb)).bind fun ABC =>
        callS f3 ABC D (axesABC_D A B C ab ac ad ba bc bd ca cb cd) ((da ++ db) ++ dc))
    ∧ routeS2 A B C D ab ac ad ba bc bd ca cb cd da db dc f1 f2 f3
      = ((callS f1 B C bc cb).bind fun BC =>
        (callS f2 A BC (ab ++ ac) (Assoc2P.axesBC B.ndim C.ndim ba bc cb ca)).bind fun ABC =>
        callS f3 ABC D (axesABC_D A B C ab ac ad ba bc bd ca cb cd) ((da ++ db) ++ dc))
    ∧ routeS3 A B C D ab ac ad ba bc bd ca cb cd da db dc f1 f2 f3
      = ((callS f1 A B ab ba).bind fun AB =>
        (callS f2 C D cd dc).bind fun CD =>
        callS f3 AB CD
          (Assoc2P.axesAB A.ndim B.ndim ab ac ba bc ++ Assoc2P.axesAB A.ndim B.ndim ab ad ba bd)
          (Assoc2P.axesBC C.ndim D.ndim (ca ++ cb) cd dc (da ++ db)))
    ∧ routeS4 A B C D ab ac ad ba bc bd ca cb cd da db dc f1 f2 f3
      = ((callS f1 B C bc cb).bind fun BC =>
        (callS f2 BC D (Assoc2P.axesAB B.ndim C.ndim bc bd cb cd) (db ++ dc)).bind fun BCD =>
        callS f3 A BCD (ab ++ (ac ++ ad)) (axesBCD_A B C D ba bc bd ca cb cd da db dc))
    ∧ routeS5 A B C D ab ac ad ba bc bd ca cb cd da db dc f1 f2 f3
      = ((callS f1 C D cd dc).bind fun CD =>
        (callS f2 B CD (bc ++ bd) (Assoc2P.axesBC C.ndim D.ndim cb cd dc db)).bind fun BCD =>
        callS f3 A BCD (ab ++ (ac ++ ad)) (axesBCD_A B C D ba bc bd ca cb cd da db dc)) :=
  ⟨rfl, rfl, rfl, rfl, rfl⟩

omit [Zero R] [Add R] [Mul R] [Neg R] in
theorem axes_defs :
    axesABC_D A B C ab ac ad ba bc bd ca cb cd
      = Assoc2P.axesAB ((freeAxes A.ndim ab).length + (freeAxes B.ndim ba).length) C.ndim
          (Assoc2P.axesAB A.ndim B.ndim ab ac ba bc) (Assoc2P.axesAB A.ndim B.ndim ab ad ba bd)
          (ca ++ cb) cd
    ∧ axesBCD_A B C D ba bc bd ca cb cd da db dc
      = Assoc2P.axesBC B.ndim ((freeAxes C.ndim cd).length + (freeAxes D.ndim dc).length) ba (bc ++ bd)
          (Assoc2P.axesBC C.ndim D.ndim cb cd dc db) (Assoc2P.axesBC C.ndim D.ndim ca cd dc da) :=
  ⟨rfl, rfl⟩

end routes

/-- Four valid fermionic tensors with pairwise-distinct labels, a bond
    (possibly empty) between every pair under the weak guard, the three bonds of each tensor
    disjoint: the five bracketings succeed and agree. -/
theorem net4_bracketings [AddCommMonoid R] [Mul R] [Neg R] [SignRing R] [AssocLaws R]
    (A B C D : Arr R) (ab ac ad ba bc bd ca cb cd da db dc : List Nat)
    (hA : A.validB = true) (hB : B.validB = true) (hC : C.validB = true) (hD : D.validB = true)
    (hfA : A.fermi = true) (hfB : B.fermi = true) (hfC : C.fermi = true) (hfD : D.fermi = true)
    (gAB : tdotAdmissibleCommonB A B ab ba = true) (gAC : tdotAdmissibleCommonB A C ac ca = true)
    (gAD : tdotAdmissibleCommonB A D ad da = true) (gBC : tdotAdmissibleCommonB B C bc cb = true)
    (gBD : tdotAdmissibleCommonB B D bd db = true) (gCD : tdotAdmissibleCommonB C D cd dc = true)
    (hnA : (ab ++ ac ++ ad).Nodup) (hnB : (ba ++ bc ++ bd).Nodup)
    (hnC : (ca ++ cb ++ cd).Nodup) (hnD : (da ++ db ++ dc).Nodup)
    (hd : (A.oddpos ++ B.oddpos ++ C.oddpos ++ D.oddpos).Pairwise (fun x y => x.1 ≠ y.1)) :
    ∃ T1 T2 T3 T4 T5 : Arr R,
      route1 A B C D ab ac ad ba bc bd ca cb cd da db dc = .ok T1
      ∧ route2 A B C D ab ac ad ba bc bd ca cb cd da db dc = .ok T2
      ∧ route3 A B C D ab ac ad ba bc bd ca cb cd da db dc = .ok T3
      ∧ route4 A B C D ab ac ad ba bc bd ca cb cd da db dc = .ok T4
      ∧ route5 A B C D ab ac ad ba bc bd ca cb cd da db dc = .ok T5
      ∧ Eqv T2 T1 ∧ Eqv T3 T1 ∧ Eqv T4 T1 ∧ Eqv T5 T1 ∧ T1.validB = true := by
  obtain ⟨AB, BC, CD, ABC1, ABC2, BCD1, BCD2, T1, T2, T3, T4, T5, K⟩ :=
    k4x ⟨AdmW.of hA hB hfA hfB gAB, AdmW.of hA hC hfA hfC gAC, AdmW.of hA hD hfA hfD gAD,
      AdmW.of hB hC hfB hfC gBC, AdmW.of hB hD hfB hfD gBD, AdmW.of hC hD hfC hfD gCD,
      hnA, hnB, hnC, hnD, hd⟩
  obtain ⟨r1, r2, r3, r4, r5⟩ := K.routes
  exact ⟨T1, T2, T3, T4, T5, r1, r2, r3, r4, r5, K.q2, K.q3, K.q4, K.q5, K.hv⟩

/-- For GIVEN results of the five routes: the same `to_dense()`, labels, charge,
    index tables. -/
theorem net4_dense [AddCommMonoid R] [Mul R] [Neg R] [SignRing R] [AssocLaws R]
    (A B C D T1 T2 T3 T4 T5 : Arr R) (ab ac ad ba bc bd ca cb cd da db dc : List Nat)
    (hA : A.validB = true) (hB : B.validB = true) (hC : C.validB = true) (hD : D.validB = true)
    (hfA : A.fermi = true) (hfB : B.fermi = true) (hfC : C.fermi = true) (hfD : D.fermi = true)
    (gAB : tdotAdmissibleCommonB A B ab ba = true) (gAC : tdotAdmissibleCommonB A C ac ca = true)
    (gAD : tdotAdmissibleCommonB A D ad da = true) (gBC : tdotAdmissibleCommonB B C bc cb = true)
    (gBD : tdotAdmissibleCommonB B D bd db = true) (gCD : tdotAdmissibleCommonB C D cd dc = true)
    (hnA : (ab ++ ac ++ ad).Nodup) (hnB : (ba ++ bc ++ bd).Nodup)
    (hnC : (ca ++ cb ++ cd).Nodup) (hnD : (da ++ db ++ dc).Nodup)
    (hd : (A.oddpos ++ B.oddpos ++ C.oddpos ++ D.oddpos).Pairwise (fun x y => x.1 ≠ y.1))
    (r1 : route1 A B C D ab ac ad ba bc bd ca cb cd da db dc = .ok T1)
    (r2 : route2 A B C D ab ac ad ba bc bd ca cb cd da db dc = .ok T2)
    (r3 : route3 A B C D ab ac ad ba bc bd ca cb cd da db dc = .ok T3)
    (r4 : route4 A B C D ab ac ad ba bc bd ca cb cd da db dc = .ok T4)
    (r5 : route5 A B C D ab ac ad ba bc bd ca cb cd da db dc = .ok T5) :
    (∀ T ∈ [T2, T3, T4, T5], T.toDenseF = T1.toDenseF ∧ T.oddpos = T1.oddpos ∧ T.charge = T1.charge
      ∧ T.indices = T1.indices) := by
  obtain ⟨U1, U2, U3, U4, U5, d1, d2, d3, d4, d5, q2, q3, q4, q5, hv⟩ :=
    net4_bracketings A B C D ab ac ad ba bc bd ca cb cd da db dc hA hB hC hD hfA hfB hfC hfD
      gAB gAC gAD gBC gBD gCD hnA hnB hnC hnD hd
  rw [r1] at d1; obtain rfl := Except.ok.inj d1
  rw [r2] at d2; obtain rfl := Except.ok.inj d2
  rw [r3] at d3; obtain rfl := Except.ok.inj d3
  rw [r4] at d4; obtain rfl := Except.ok.inj d4
  rw [r5] at d5; obtain rfl := Except.ok.inj d5
  have key : ∀ T : Arr R, Eqv T T1 → T.toDenseF = T1.toDenseF ∧ T.oddpos = T1.oddpos
      ∧ T.charge = T1.charge ∧ T.indices = T1.indices :=
    fun T q => ⟨(q.symm.toDenseF hv).symm, q.oddpos, q.charge, q.indices⟩
  intro T hT
  simp only [List.mem_cons, List.not_mem_nil, or_false] at hT
  rcases hT with rfl | rfl | rfl | rfl
  · exact key _ q2
  · exact key _ q3
  · exact key _ q4
  · exact key _ q5

/-- `net4_bracketings` with exactly the instances the driver is compiled with (outermost routes) -/
theorem net4_GRat (A B C D : Arr GRat) (ab ac ad ba bc bd ca cb cd da db dc : List Nat)
    (hA : A.validB = true) (hB : B.validB = true) (hC : C.validB = true) (hD : D.validB = true)
    (hfA : A.fermi = true) (hfB : B.fermi = true) (hfC : C.fermi = true) (hfD : D.fermi = true)
    (gAB : tdotAdmissibleCommonB A B ab ba = true) (gAC : tdotAdmissibleCommonB A C ac ca = true)
    (gAD : tdotAdmissibleCommonB A D ad da = true) (gBC : tdotAdmissibleCommonB B C bc cb = true)
    (gBD : tdotAdmissibleCommonB B D bd db = true) (gCD : tdotAdmissibleCommonB C D cd dc = true)
    (hnA : (ab ++ ac ++ ad).Nodup) (hnB : (ba ++ bc ++ bd).Nodup)
    (hnC : (ca ++ cb ++ cd).Nodup) (hnD : (da ++ db ++ dc).Nodup)
    (hd : (A.oddpos ++ B.oddpos ++ C.oddpos ++ D.oddpos).Pairwise (fun x y => x.1 ≠ y.1)) :
    ∃ T1 T3 T5 : Arr GRat,
      @route1 GRat GRat.instZero GRat.instAdd GRat.instMul GRat.instNeg A B C D
          ab ac ad ba bc bd ca cb cd da db dc = .ok T1
      ∧ @route3 GRat GRat.instZero GRat.instAdd GRat.instMul GRat.instNeg A B C D
          ab ac ad ba bc bd ca cb cd da db dc = .ok T3
      ∧ @route5 GRat GRat.instZero GRat.instAdd GRat.instMul GRat.instNeg A B C D
          ab ac ad ba bc bd ca cb cd da db dc = .ok T5
      ∧ @Eqv GRat GRat.instZero GRat.instNeg T3 T1 ∧ @Eqv GRat GRat.instZero GRat.instNeg T5 T1
      ∧ @Arr.toDenseF GRat GRat.instZero GRat.instNeg T5
          = @Arr.toDenseF GRat GRat.instZero GRat.instNeg T1 := by
  obtain ⟨T1, T2, T3, T4, T5, d1, d2, d3, d4, d5, q2, q3, q4, q5, hv⟩ :=
    @net4_bracketings GRat C02.addCommMonoidGRat GRat.instMul GRat.instNeg C03.signRingGRat
      assocLawsGRat A B C D ab ac ad ba bc bd ca cb cd da db dc hA hB hC hD hfA hfB hfC hfD
      gAB gAC gAD gBC gBD gCD hnA hnB hnC hnD hd
  exact ⟨T1, T3, T5, d1, d3, d5, q3, q5,
    (@Eqv.toDenseF GRat C02.addCommMonoidGRat GRat.instMul GRat.instNeg C03.signRingGRat _ _ q5.symm
      hv).symm⟩

/-- Commutative scalars.  Each of the fifteen calls of the five routes may be made
    with the operands exchanged and rotated back (`callS true`): for every assignment `f` of the
    flags all five routes succeed, give valid arrays, and are `Eqv` to the plain left-nested
    result `T1`. -/
theorem net4_flagged [AddCommMonoid R] [Mul R] [Neg R] [SignRing R] [AssocLaws R]
    (hmul : ∀ x y : R, x * y = y * x)
    (A B C D : Arr R) (ab ac ad ba bc bd ca cb cd da db dc : List Nat)
    (hA : A.validB = true) (hB : B.validB = true) (hC : C.validB = true) (hD : D.validB = true)
    (hfA : A.fermi = true) (hfB : B.fermi = true) (hfC : C.fermi = true) (hfD : D.fermi = true)
    (gAB : tdotAdmissibleCommonB A B ab ba = true) (gAC : tdotAdmissibleCommonB A C ac ca = true)
    (gAD : tdotAdmissibleCommonB A D ad da = true) (gBC : tdotAdmissibleCommonB B C bc cb = true)
    (gBD : tdotAdmissibleCommonB B D bd db = true) (gCD : tdotAdmissibleCommonB C D cd dc = true)
    (hnA : (ab ++ ac ++ ad).Nodup) (hnB : (ba ++ bc ++ bd).Nodup)
    (hnC : (ca ++ cb ++ cd).Nodup) (hnD : (da ++ db ++ dc).Nodup)
    (hd : (A.oddpos ++ B.oddpos ++ C.oddpos ++ D.oddpos).Pairwise (fun x y => x.1 ≠ y.1)) :
    ∃ T1 : Arr R, route1 A B C D ab ac ad ba bc bd ca cb cd da db dc = .ok T1 ∧ T1.validB = true
      ∧ ∀ f : Fin 15 → Bool, ∃ U1 U2 U3 U4 U5 : Arr R,
        routeS1 A B C D ab ac ad ba bc bd ca cb cd da db dc (f 0) (f 1) (f 2) = .ok U1
        ∧ routeS2 A B C D ab ac ad ba bc bd ca cb cd da db dc (f 3) (f 4) (f 5) = .ok U2
        ∧ routeS3 A B C D ab ac ad ba bc bd ca cb cd da db dc (f 6) (f 7) (f 8) = .ok U3
        ∧ routeS4 A B C D ab ac ad ba bc bd ca cb cd da db dc (f 9) (f 10) (f 11) = .ok U4
        ∧ routeS5 A B C D ab ac ad ba bc bd ca cb cd da db dc (f 12) (f 13) (f 14) = .ok U5
        ∧ Eqv U1 T1 ∧ Eqv U2 T1 ∧ Eqv U3 T1 ∧ Eqv U4 T1 ∧ Eqv U5 T1
        ∧ U1.validB = true ∧ U2.validB = true ∧ U3.validB = true ∧ U4.validB = true
        ∧ U5.validB = true :=
  k4_flagged hmul A B C D ab ac ad ba bc bd ca cb cd da db dc (AdmW.of hA hB hfA hfB gAB)
    (AdmW.of hA hC hfA hfC gAC) (AdmW.of hA hD hfA hfD gAD) (AdmW.of hB hC hfB hfC gBC)
    (AdmW.of hB hD hfB hfD gBD) (AdmW.of hC hD hfC hfD gCD) hnA hnB hnC hnD hd

/-- the conclusion of `net4_bracketings` for five given programs -/
def Agree5 [Zero R] [Neg R] (r1 r2 r3 r4 r5 : Except Err (Arr R)) : Prop :=
  ∃ T1 T2 T3 T4 T5 : Arr R, r1 = .ok T1 ∧ r2 = .ok T2 ∧ r3 = .ok T3 ∧ r4 = .ok T4 ∧ r5 = .ok T5
    ∧ Eqv T2 T1 ∧ Eqv T3 T1 ∧ Eqv T4 T1 ∧ Eqv T5 T1 ∧ T1.validB = true

theorem agree5_def [Zero R] [Neg R] (r1 r2 r3 r4 r5 : Except Err (Arr R)) :
    Agree5 r1 r2 r3 r4 r5 ↔ ∃ T1 T2 T3 T4 T5 : Arr R, r1 = .ok T1 ∧ r2 = .ok T2 ∧ r3 = .ok T3
      ∧ r4 = .ok T4 ∧ r5 = .ok T5 ∧ Eqv T2 T1 ∧ Eqv T3 T1 ∧ Eqv T4 T1 ∧ Eqv T5 T1
      ∧ T1.validB = true := Iff.rfl

/-- **the 4-cycle** `A–B–C–D–A` (no bonds `A–C`, `B–D`) -/
theorem square4_bracketings [AddCommMonoid R] [Mul R] [Neg R] [SignRing R] [AssocLaws R]
    (A B C D : Arr R) (ab ad ba bc cb cd da dc : List Nat)
    (hA : A.validB = true) (hB : B.validB = true) (hC : C.validB = true) (hD : D.validB = true)
    (hfA : A.fermi = true) (hfB : B.fermi = true) (hfC : C.fermi = true) (hfD : D.fermi = true)
    (gAB : tdotAdmissibleCommonB A B ab ba = true) (gBC : tdotAdmissibleCommonB B C bc cb = true)
    (gCD : tdotAdmissibleCommonB C D cd dc = true) (gAD : tdotAdmissibleCommonB A D ad da = true)
    (hnA : (ab ++ ad).Nodup) (hnB : (ba ++ bc).Nodup) (hnC : (cb ++ cd).Nodup) (hnD : (da ++ dc).Nodup)
    (hd : (A.oddpos ++ B.oddpos ++ C.oddpos ++ D.oddpos).Pairwise (fun x y => x.1 ≠ y.1)) :
    Agree5 (route1 A B C D ab [] ad ba bc [] [] cb cd da [] dc)
      (route2 A B C D ab [] ad ba bc [] [] cb cd da [] dc)
      (route3 A B C D ab [] ad ba bc [] [] cb cd da [] dc)
      (route4 A B C D ab [] ad ba bc [] [] cb cd da [] dc)
      (route5 A B C D ab [] ad ba bc [] [] cb cd da [] dc) :=
  net4_bracketings A B C D ab [] ad ba bc [] [] cb cd da [] dc hA hB hC hD hfA hfB hfC hfD gAB
    (adm_nil A C ((adm_sym gAB).trans (adm_sym gBC))) gAD gBC
    (adm_nil B D ((adm_sym gBC).trans (adm_sym gCD))) gCD
    (by simpa using hnA) (by simpa using hnB) (by simpa using hnC) (by simpa using hnD) hd

/-- **the star** with centre `B` (bonds `A–B`, `B–C`, `B–D` only): `(A·B)·C` contracts the centre
    with `A` first, `A·(B·C)` with `C` first; `C·D`, `A·(…)` may be outer products -/
theorem star4_bracketings [AddCommMonoid R] [Mul R] [Neg R] [SignRing R] [AssocLaws R]
    (A B C D : Arr R) (ab ba bc bd cb db : List Nat)
    (hA : A.validB = true) (hB : B.validB = true) (hC : C.validB = true) (hD : D.validB = true)
    (hfA : A.fermi = true) (hfB : B.fermi = true) (hfC : C.fermi = true) (hfD : D.fermi = true)
    (gAB : tdotAdmissibleCommonB A B ab ba = true) (gBC : tdotAdmissibleCommonB B C bc cb = true)
    (gBD : tdotAdmissibleCommonB B D bd db = true)
    (hnB : (ba ++ bc ++ bd).Nodup)
    (hd : (A.oddpos ++ B.oddpos ++ C.oddpos ++ D.oddpos).Pairwise (fun x y => x.1 ≠ y.1)) :
    Agree5 (route1 A B C D ab [] [] ba bc bd [] cb [] [] db [])
      (route2 A B C D ab [] [] ba bc bd [] cb [] [] db [])
      (route3 A B C D ab [] [] ba bc bd [] cb [] [] db [])
      (route4 A B C D ab [] [] ba bc bd [] cb [] [] db [])
      (route5 A B C D ab [] [] ba bc bd [] cb [] [] db []) := by
  have nA : ab.Nodup := by
    have := gAB; unfold tdotAdmissibleCommonB at this
    simp only [Bool.and_eq_true, allDistinct_iff_nodup] at this; exact this.1.1.1.2
  have nC : cb.Nodup := by
    have := gBC; unfold tdotAdmissibleCommonB at this
    simp only [Bool.and_eq_true, allDistinct_iff_nodup] at this; exact this.1.1.2
  have nD : db.Nodup := by
    have := gBD; unfold tdotAdmissibleCommonB at this
    simp only [Bool.and_eq_true, allDistinct_iff_nodup] at this; exact this.1.1.2
  exact net4_bracketings A B C D ab [] [] ba bc bd [] cb [] [] db [] hA hB hC hD hfA hfB hfC hfD gAB
    (adm_nil A C ((adm_sym gAB).trans (adm_sym gBC)))
    (adm_nil A D ((adm_sym gAB).trans (adm_sym gBD))) gBC gBD
    (adm_nil C D ((adm_sym gBC).symm.trans (adm_sym gBD)))
    (by simpa using nA) hnB (by simpa using nC) (by simpa using nD) hd

/-- **the triangle `A, B, C` with the pendant tensor `D` attached to `C`** -/
theorem pendant4_bracketings [AddCommMonoid R] [Mul R] [Neg R] [SignRing R] [AssocLaws R]
    (A B C D : Arr R) (ab ac ba bc ca cb cd dc : List Nat)
    (hA : A.validB = true) (hB : B.validB = true) (hC : C.validB = true) (hD : D.validB = true)
    (hfA : A.fermi = true) (hfB : B.fermi = true) (hfC : C.fermi = true) (hfD : D.fermi = true)
    (gAB : tdotAdmissibleCommonB A B ab ba = true) (gAC : tdotAdmissibleCommonB A C ac ca = true)
    (gBC : tdotAdmissibleCommonB B C bc cb = true) (gCD : tdotAdmissibleCommonB C D cd dc = true)
    (hnA : (ab ++ ac).Nodup) (hnB : (ba ++ bc).Nodup) (hnC : (ca ++ cb ++ cd).Nodup)
    (hd : (A.oddpos ++ B.oddpos ++ C.oddpos ++ D.oddpos).Pairwise (fun x y => x.1 ≠ y.1)) :
    Agree5 (route1 A B C D ab ac [] ba bc [] ca cb cd [] [] dc)
      (route2 A B C D ab ac [] ba bc [] ca cb cd [] [] dc)
      (route3 A B C D ab ac [] ba bc [] ca cb cd [] [] dc)
      (route4 A B C D ab ac [] ba bc [] ca cb cd [] [] dc)
      (route5 A B C D ab ac [] ba bc [] ca cb cd [] [] dc) := by
  have nD : dc.Nodup := by
    have := gCD; unfold tdotAdmissibleCommonB at this
    simp only [Bool.and_eq_true, allDistinct_iff_nodup] at this; exact this.1.1.2
  exact net4_bracketings A B C D ab ac [] ba bc [] ca cb cd [] [] dc hA hB hC hD hfA hfB hfC hfD gAB gAC
    (adm_nil A D ((adm_sym gAC).trans (adm_sym gCD))) gBC
    (adm_nil B D ((adm_sym gBC).trans (adm_sym gCD))) gCD
    (by simpa using hnA) (by simpa using hnB) hnC (by simpa using nD) hd

/-! ## non-vacuity: the SQUARE `gA – cB – cC – cD – gA`

The chain of C04e closed by the bond `gA.i ~ cD.n` (axis 0 of `gA`, axis 1 of `cD`): all four
tensors odd, pending signs, labels `1`, `3`, `5†`, `7`; the legs `k` of `gA` and `k'` of `cB` dangle. -/

open SymmModel.C03 in
example : gA.validB = true ∧ cB.validB = true ∧ cC.validB = true ∧ cD.validB = true
    ∧ gA.fermi = true ∧ cB.fermi = true ∧ cC.fermi = true ∧ cD.fermi = true
    ∧ tdotAdmissibleCommonB gA cB [2] [0] = true ∧ tdotAdmissibleCommonB cB cC [2] [0] = true
    ∧ tdotAdmissibleCommonB cC cD [1] [0] = true ∧ tdotAdmissibleCommonB gA cD [0] [1] = true
    ∧ tdotAdmissibleCommonB gA cC [] [] = true ∧ tdotAdmissibleCommonB cB cD [] [] = true
    ∧ ([2] ++ [0] : List Nat).Nodup ∧ ([0] ++ [2] : List Nat).Nodup ∧ ([0] ++ [1] : List Nat).Nodup
    ∧ ([1] ++ [0] : List Nat).Nodup
    ∧ (gA.oddpos ++ cB.oddpos ++ cC.oddpos ++ cD.oddpos).Pairwise (fun x y => x.1 ≠ y.1)
    ∧ (∀ x y : Int, x * y = y * x) := by
  refine ⟨by decide +kernel, by decide +kernel, by decide +kernel, by decide +kernel, by decide +kernel,
    by decide +kernel, by decide +kernel, by decide +kernel, by decide +kernel, by decide +kernel,
    by decide +kernel, by decide +kernel, by decide +kernel, by decide +kernel, by decide, by decide,
    by decide, by decide, by decide +kernel, Int.mul_comm⟩

/-- a flag assignment with eight of the fifteen calls exchanged -/
def exFlags : Fin 15 → Bool := fun i => i.val % 2 == 0

open SymmModel.C03 in
/-- sanity instance of the conclusions on the square: the five plain routes and the five flagged
    ones give the same labels, rank, number of sectors and value (legs `k`, `k'` open; the pending signs
    differ between the routes) -/
example :
    ([route1 gA cB cC cD [2] [] [0] [0] [2] [] [] [0] [1] [1] [] [0],
      route2 gA cB cC cD [2] [] [0] [0] [2] [] [] [0] [1] [1] [] [0],
      route3 gA cB cC cD [2] [] [0] [0] [2] [] [] [0] [1] [1] [] [0],
      route4 gA cB cC cD [2] [] [0] [0] [2] [] [] [0] [1] [1] [] [0],
      route5 gA cB cC cD [2] [] [0] [0] [2] [] [] [0] [1] [1] [] [0],
      routeS1 gA cB cC cD [2] [] [0] [0] [2] [] [] [0] [1] [1] [] [0] (exFlags 0) (exFlags 1) (exFlags 2),
      routeS2 gA cB cC cD [2] [] [0] [0] [2] [] [] [0] [1] [1] [] [0] (exFlags 3) (exFlags 4) (exFlags 5),
      routeS3 gA cB cC cD [2] [] [0] [0] [2] [] [] [0] [1] [1] [] [0] (exFlags 6) (exFlags 7) (exFlags 8),
      routeS4 gA cB cC cD [2] [] [0] [0] [2] [] [] [0] [1] [1] [] [0] (exFlags 9) (exFlags 10) (exFlags 11),
      routeS5 gA cB cC cD [2] [] [0] [0] [2] [] [] [0] [1] [1] [] [0] (exFlags 12) (exFlags 13) (exFlags 14)].map
      (fun (t : Except Err (Arr Int)) => (C04.labelsOf t, (resOf t).indices.length, (resOf t).sectors.length,
        elemOf t [(0,0),(0,0)] [0,0])))
      = List.replicate 10 ([(5, true), (1, false), (3, false), (7, false)], 2, 1,
          some (-140)) := by
  decide +kernel

theorem teq_def [AddCommMonoid R] [Neg R] (T T' : Arr R) :
    TEq T T' ↔ ∃ P, Arr.isPerm P T.ndim = true ∧ Eqv (T.transposeF P) T' := Iff.rfl

/-- what `TEq` means at `to_dense()` level -/
theorem teq_dense [AddCommMonoid R] [Mul R] [Neg R] [SignRing R] {T T' : Arr R} (h : TEq T T')
    (hv : T.validB = true) (hf : T.fermi = true) :
    ∃ P, Arr.isPerm P T.ndim = true ∧ (T.transposeF P).toDenseF = T'.toDenseF
      ∧ T'.oddpos = T.oddpos ∧ T'.charge = T.charge ∧ T'.indices = permuted T.indices P := by
  obtain ⟨P, hP, e⟩ := h
  have TT := transOf_transposeF T P hv hf hP
  exact ⟨P, hP, e.toDenseF (transposeF_validB T P hv hf hP), e.oddpos.symm, e.charge.symm,
    by rw [← e.indices, TT.indices]⟩

theorem teq_of_eqv [AddCommMonoid R] [Mul R] [Neg R] [SignRing R] {T T' : Arr R} (h : Eqv T T')
    (hv : T.validB = true) (hf : T.fermi = true) : TEq T T' := TEq.of_eqv h hv hf

theorem teq_trans [AddCommMonoid R] [Mul R] [Neg R] [SignRing R] {T1 T2 T3 : Arr R}
    (h12 : TEq T1 T2) (h23 : TEq T2 T3) (hv1 : T1.validB = true) (hf1 : T1.fermi = true)
    (hv2 : T2.validB = true) : TEq T1 T3 := TEq.trans h12 h23 hv1 hf1 hv2

theorem transposeF_congr_eqv [AddCommMonoid R] [Mul R] [Neg R] [SignRing R] {X X' : Arr R}
    {P : List Nat} (h : Eqv X X') (hv : X.validB = true) (hv' : X'.validB = true)
    (hf : X.fermi = true) (hP : Arr.isPerm P X.ndim = true) :
    Eqv (X.transposeF P) (X'.transposeF P) := transposeF_congr h hv hv' hf hP

theorem transposeF_comp_eqv [AddCommMonoid R] [Mul R] [Neg R] [SignRing R] (X : Arr R)
    (P Q : List Nat) (hv : X.validB = true) (hf : X.fermi = true)
    (hP : Arr.isPerm P X.ndim = true) (hQ : Arr.isPerm Q X.ndim = true) :
    Eqv (X.transposeF (KoszulP.compose P Q)) ((X.transposeF P).transposeF Q) :=
  transposeF_comp X P Q hv hf hP hQ

theorem blockP_def (q : List Nat) (nL nR : Nat) :
    blockP q nL nR = q ++ (List.range nR).map (nL + ·) := rfl

/-- **S6 as an equivalence** (weak guard, distinct labels): pre-transposing the left operand by
    `p` is transposing the free legs of the result by the induced `q` (`PreT`, C04b) -/
theorem tdotF_pretranspose_eqv [AddCommMonoid R] [Mul R] [Neg R] [SignRing R] [AssocLaws R]
    (a b c : Arr R) (p xa xa' q xb : List Nat)
    (ha : a.validB = true) (hb : b.validB = true) (hfa : a.fermi = true) (hfb : b.fermi = true)
    (hadm : tdotAdmissibleCommonB a b xa xb = true) (hp : Arr.isPerm p a.ndim = true)
    (hT : PreT a.ndim p xa xa' q)
    (hd : (a.oddpos ++ b.oddpos).Pairwise (fun x y => x.1 ≠ y.1))
    (hc : tdF a b xa xb = .ok c) :
    ∃ c', tdF (a.transposeF p) b xa' xb = .ok c' ∧ c'.validB = true ∧ c.validB = true
      ∧ Arr.isPerm (blockP q (freeAxes a.ndim xa).length (freeAxes b.ndim xb).length) c.ndim = true
      ∧ Eqv (c.transposeF (blockP q (freeAxes a.ndim xa).length (freeAxes b.ndim xb).length)) c' :=
  pre_eqv a b p xa xa' q xb (AdmW.of ha hb hfa hfb hadm) hp hT c hc

/-- the hypothesis `PreT` is satisfiable for every permutation (`C04.preT_canonical`) -/
example : PreT 3 [1, 2, 0] [2] (positions [1, 2, 0] [2])
    (positions (freeAxes 3 [2]) (permuted [1, 2, 0] (freeAxes 3 (positions [1, 2, 0] [2])))) :=
  preT_canonical 3 [1, 2, 0] [2] (perm_of_isPerm (by decide)) (by decide) (by decide)

theorem exchP_def (fX fZ nY' nZ' nXY : Nat) (xa xa' : List Nat) :
    exchP fX fZ nY' nZ' nXY xa xa'
      = KoszulP.compose
          (blockP (positions (freeAxes (fX + fZ) xa) (permuted (rotB fX fZ) (freeAxes (fX + fZ) xa')))
            (freeAxes (fX + fZ) xa).length nY')
          (rotB nZ' nXY) := rfl

/-- Three valid fermionic pieces `X, Y, Z`, bonds `xy ~ yx`, `xz ~ zx`, `yz ~ zy`
    (weak guards, possibly empty), distinct labels, commutative scalars:
    `(X·Z)·Y` transposed by `exchP …` is `Eqv` to `(X·Y)·Z` (from S5, S7, S6, S4). -/
theorem exchange3 [AddCommMonoid R] [Mul R] [Neg R] [SignRing R] [AssocLaws R]
    (hmul : ∀ x y : R, x * y = y * x) (X Y Z : Arr R) (xy xz yx yz zx zy : List Nat)
    (hX : X.validB = true) (hY : Y.validB = true) (hZ : Z.validB = true)
    (hfX : X.fermi = true) (hfY : Y.fermi = true) (hfZ : Z.fermi = true)
    (gXY : tdotAdmissibleCommonB X Y xy yx = true) (gXZ : tdotAdmissibleCommonB X Z xz zx = true)
    (gYZ : tdotAdmissibleCommonB Y Z yz zy = true)
    (hnX : (xy ++ xz).Nodup) (hnY : (yx ++ yz).Nodup) (hnZ : (zx ++ zy).Nodup)
    (hd : (X.oddpos ++ Y.oddpos ++ Z.oddpos).Pairwise (fun x y => x.1 ≠ y.1)) :
    ∃ XY XZ c1 c : Arr R,
      tdF X Y xy yx = .ok XY
      ∧ tdF XY Z (Assoc2P.axesAB X.ndim Y.ndim xy xz yx yz) (zx ++ zy) = .ok c1
      ∧ tdF X Z xz zx = .ok XZ
      ∧ tdF XZ Y (Assoc2P.axesAB X.ndim Z.ndim xz xy zx zy) (yx ++ yz) = .ok c
      ∧ c1.validB = true ∧ c.validB = true
      ∧ Arr.isPerm (exchP (freeAxes X.ndim xz).length (freeAxes Z.ndim zx).length
            (freeAxes Y.ndim (yz ++ yx)).length (freeAxes Z.ndim (zx ++ zy)).length
            (freeAxes XY.ndim (Assoc2P.axesAB X.ndim Y.ndim xy xz yx yz)).length
            ((positions (freeAxes Z.ndim zx) zy).map ((freeAxes X.ndim xz).length + ·)
              ++ positions (freeAxes X.ndim xz) xy)
            (Assoc2P.axesAB Z.ndim X.ndim zx zy xz xy)) c.ndim = true
      ∧ Eqv (c.transposeF (exchP (freeAxes X.ndim xz).length (freeAxes Z.ndim zx).length
            (freeAxes Y.ndim (yz ++ yx)).length (freeAxes Z.ndim (zx ++ zy)).length
            (freeAxes XY.ndim (Assoc2P.axesAB X.ndim Y.ndim xy xz yx yz)).length
            ((positions (freeAxes Z.ndim zx) zy).map ((freeAxes X.ndim xz).length + ·)
              ++ positions (freeAxes X.ndim xz) xy)
            (Assoc2P.axesAB Z.ndim X.ndim zx zy xz xy))) c1 := by
  have WXY := AdmW.of hX hY hfX hfY gXY
  have WXZ := AdmW.of hX hZ hfX hfZ gXZ
  have WYZ := AdmW.of hY hZ hfY hfZ gYZ
  have lt2 : ∀ {n : Nat} {p q : List Nat}, (∀ i ∈ p, i < n) → (∀ i ∈ q, i < n) →
      ∀ i ∈ p ++ q, i < n := by
    intro n p q hp hq i hi
    rcases List.mem_append.mp hi with h | h
    · exact hp i h
    · exact hq i h
  exact exchange hmul X Y Z xy xz yx yz zx zy WXY WXZ WYZ (Mid.of hnX (lt2 WXY.ltA WXZ.ltA))
    (Mid.of hnY (lt2 WXY.ltB WYZ.ltA)) (Mid.of hnZ (lt2 WXZ.ltB WYZ.ltB)) hd

/-! non-vacuity of `exchange3`: the chain `cD – gA – cB` (`X = gA`, `Y = cB`, `Z = cD`; no bond `Y–Z`) -/

open SymmModel.C03 in
example : gA.validB = true ∧ cB.validB = true ∧ cD.validB = true
    ∧ gA.fermi = true ∧ cB.fermi = true ∧ cD.fermi = true
    ∧ tdotAdmissibleCommonB gA cB [2] [0] = true ∧ tdotAdmissibleCommonB gA cD [0] [1] = true
    ∧ tdotAdmissibleCommonB cB cD [] [] = true
    ∧ ([2] ++ [0] : List Nat).Nodup ∧ ([0] ++ [] : List Nat).Nodup ∧ ([1] ++ [] : List Nat).Nodup
    ∧ (gA.oddpos ++ cB.oddpos ++ cD.oddpos).Pairwise (fun x y => x.1 ≠ y.1) := by
  refine ⟨by decide +kernel, by decide +kernel, by decide +kernel, by decide +kernel, by decide +kernel,
    by decide +kernel, by decide +kernel, by decide +kernel, by decide +kernel, by decide, by decide,
    by decide, by decide +kernel⟩

open SymmModel.C03 in
/-- `(gA·cB)·cD`, legs `k, k', j, m'` -/
def exXYZ : Arr Int :=
  resOf (tdF (resOf (tdF gA cB [2] [0])) cD (Assoc2P.axesAB 3 3 [2] [0] [0] []) ([1] ++ []))
open SymmModel.C03 in
/-- `(gA·cD)·cB`, legs `k, m', k', j` -/
def exXZY : Arr Int :=
  resOf (tdF (resOf (tdF gA cD [0] [1])) cB (Assoc2P.axesAB 3 2 [0] [2] [1] []) ([0] ++ []))

/-- on this instance the permutation of `exchange3` is the block move `[k, m', k', j] → [k, k', j, m']`;
    the two results have the same labels; their values differ by the Koszul sign in the two
    sectors where `m'` and `(k', j)` are both odd, and `transposeF` restores equality -/
example :
    exchP 2 1 2 1 3 [1] [2] = [0, 2, 3, 1] ∧ exXYZ.oddpos = exXZY.oddpos
    ∧ exXYZ.sectors.map (fun s => (exXYZ.elem s [0,0,0,0], (exXZY.transposeF [0,2,3,1]).elem s [0,0,0,0],
          exXZY.elem (permuted s [0,3,1,2]) [0,0,0,0]))
      = [(8, 8, 8), (20, 20, 20), (2, 2, -2), (5, 5, -5), (9, 9, 9), (38, 38, 38)] := by
  decide +kernel

theorem net4_defs [Zero R] [Add R] [Mul R] [Neg R] (N : Net4 R) (i j k l : Fin 4) :
    N.r1 i j k l = routeS1 (N.T i) (N.T j) (N.T k) (N.T l) (N.b i j) (N.b i k) (N.b i l) (N.b j i)
      (N.b j k) (N.b j l) (N.b k i) (N.b k j) (N.b k l) (N.b l i) (N.b l j) (N.b l k)
      false false false := rfl

theorem net4_ok_def [AddCommMonoid R] [Mul R] [Neg R] [SignRing R] (N : Net4 R) :
    N.OK ↔ ((∀ i, (N.T i).validB = true) ∧ (∀ i, (N.T i).fermi = true)
      ∧ (∀ i j, i ≠ j → tdotAdmissibleCommonB (N.T i) (N.T j) (N.b i j) (N.b j i) = true)
      ∧ (∀ i j k l : Fin 4, [i, j, k, l].Nodup → (N.b i j ++ N.b i k ++ N.b i l).Nodup)
      ∧ (∀ i j k l : Fin 4, [i, j, k, l].Nodup →
          ((N.T i).oddpos ++ (N.T j).oddpos ++ (N.T k).oddpos ++ (N.T l).oddpos).Pairwise
            (fun x y => x.1 ≠ y.1))) :=
  ⟨fun h => ⟨h.valid, h.fermi, h.adm, h.nodup, h.labels⟩, fun ⟨a, b, c, d, e⟩ => ⟨a, b, c, d, e⟩⟩

/-- Every ordering of the four tensors: the left-nested contraction is a
    fermionic transpose of the one in the order `0, 1, 2, 3`. -/
theorem net4_all_orders [AddCommMonoid R] [Mul R] [Neg R] [SignRing R] [AssocLaws R]
    (hmul : ∀ x y : R, x * y = y * x) (N : Net4 R) (hN : N.OK) (i j k l : Fin 4)
    (hn : [i, j, k, l].Nodup) :
    ∃ T T0 : Arr R, N.r1 i j k l = .ok T ∧ N.r1 0 1 2 3 = .ok T0 ∧ T.validB = true ∧ T.fermi = true
      ∧ T0.validB = true ∧ TEq T T0 :=
  all_orders hmul hN i j k l hn

/-- Any ordering, any of the five bracketings, any assignment of operand-order
    flags: a fermionic transpose of the reference contraction `((T₀·T₁)·T₂)·T₃` — in particular the
    three pairings `(AB)(CD)`, `(AC)(BD)`, `(AD)(BC)` and the twelve sequential orders. -/
theorem net4_every_route [AddCommMonoid R] [Mul R] [Neg R] [SignRing R] [AssocLaws R]
    (hmul : ∀ x y : R, x * y = y * x) (N : Net4 R) (hN : N.OK) (i j k l : Fin 4)
    (hn : [i, j, k, l].Nodup) (f : Fin 15 → Bool) :
    ∃ T0 U1 U2 U3 U4 U5 : Arr R, N.r1 0 1 2 3 = .ok T0
      ∧ routeS1 (N.T i) (N.T j) (N.T k) (N.T l) (N.b i j) (N.b i k) (N.b i l) (N.b j i) (N.b j k) (N.b j l)
          (N.b k i) (N.b k j) (N.b k l) (N.b l i) (N.b l j) (N.b l k) (f 0) (f 1) (f 2) = .ok U1
      ∧ routeS2 (N.T i) (N.T j) (N.T k) (N.T l) (N.b i j) (N.b i k) (N.b i l) (N.b j i) (N.b j k) (N.b j l)
          (N.b k i) (N.b k j) (N.b k l) (N.b l i) (N.b l j) (N.b l k) (f 3) (f 4) (f 5) = .ok U2
      ∧ routeS3 (N.T i) (N.T j) (N.T k) (N.T l) (N.b i j) (N.b i k) (N.b i l) (N.b j i) (N.b j k) (N.b j l)
          (N.b k i) (N.b k j) (N.b k l) (N.b l i) (N.b l j) (N.b l k) (f 6) (f 7) (f 8) = .ok U3
      ∧ routeS4 (N.T i) (N.T j) (N.T k) (N.T l) (N.b i j) (N.b i k) (N.b i l) (N.b j i) (N.b j k) (N.b j l)
          (N.b k i) (N.b k j) (N.b k l) (N.b l i) (N.b l j) (N.b l k) (f 9) (f 10) (f 11) = .ok U4
      ∧ routeS5 (N.T i) (N.T j) (N.T k) (N.T l) (N.b i j) (N.b i k) (N.b i l) (N.b j i) (N.b j k) (N.b j l)
          (N.b k i) (N.b k j) (N.b k l) (N.b l i) (N.b l j) (N.b l k) (f 12) (f 13) (f 14) = .ok U5
      ∧ TEq U1 T0 ∧ TEq U2 T0 ∧ TEq U3 T0 ∧ TEq U4 T0 ∧ TEq U5 T0 := by
  obtain ⟨T, T0, e, e0, v, fT, v0, t⟩ := all_orders hmul hN i j k l hn
  have H := hN.k4h hn
  obtain ⟨T1, e1, v1, hall⟩ := k4_flagged hmul (N.T i) (N.T j) (N.T k) (N.T l) (N.b i j) (N.b i k)
    (N.b i l) (N.b j i) (N.b j k) (N.b j l) (N.b k i) (N.b k j) (N.b k l) (N.b l i) (N.b l j) (N.b l k)
    H.WAB H.WAC H.WAD H.WBC H.WBD H.WCD H.hnA H.hnB H.hnC H.hnD H.hd
  have e' : N.r1 i j k l = .ok T1 := e1
  rw [e] at e'
  obtain rfl := Except.ok.inj e'
  obtain ⟨U1, U2, U3, U4, U5, a1, a2, a3, a4, a5, q1, q2, q3, q4, q5, w1, w2, w3, w4, w5⟩ := hall f
  have key : ∀ U : Arr R, Eqv U T → U.validB = true → TEq U T0 := fun U q w =>
    TEq.trans (TEq.of_eqv q w (by rw [q.fermi]; exact fT)) t w (by rw [q.fermi]; exact fT) v
  exact ⟨T0, U1, U2, U3, U4, U5, e0, a1, a2, a3, a4, a5, key U1 q1 w1, key U2 q2 w2, key U3 q3 w3,
    key U4 q4 w4, key U5 q5 w5⟩

/-- `U` is a valid fermionic array of which the reference contraction `((T₀·T₁)·T₂)·T₃` is a
    fermionic transpose -/
def Ref [AddCommMonoid R] [Mul R] [Neg R] (N : Net4 R) (U : Arr R) : Prop :=
  ∃ T0 : Arr R, N.r1 0 1 2 3 = .ok T0 ∧ U.validB = true ∧ U.fermi = true ∧ TEq U T0

theorem ref_def [AddCommMonoid R] [Mul R] [Neg R] (N : Net4 R) (U : Arr R) :
    Ref N U ↔ ∃ T0 : Arr R, N.r1 0 1 2 3 = .ok T0 ∧ U.validB = true ∧ U.fermi = true ∧ TEq U T0 :=
  Iff.rfl

/-- `net4_every_route` with validity: every result is a `Ref` -/
theorem net4_every_route_ref [AddCommMonoid R] [Mul R] [Neg R] [SignRing R] [AssocLaws R]
    (hmul : ∀ x y : R, x * y = y * x) (N : Net4 R) (hN : N.OK) (i j k l : Fin 4)
    (hn : [i, j, k, l].Nodup) (f : Fin 15 → Bool) :
    ∃ U1 U2 U3 U4 U5 : Arr R,
      routeS1 (N.T i) (N.T j) (N.T k) (N.T l) (N.b i j) (N.b i k) (N.b i l) (N.b j i) (N.b j k) (N.b j l)
          (N.b k i) (N.b k j) (N.b k l) (N.b l i) (N.b l j) (N.b l k) (f 0) (f 1) (f 2) = .ok U1
      ∧ routeS2 (N.T i) (N.T j) (N.T k) (N.T l) (N.b i j) (N.b i k) (N.b i l) (N.b j i) (N.b j k) (N.b j l)
          (N.b k i) (N.b k j) (N.b k l) (N.b l i) (N.b l j) (N.b l k) (f 3) (f 4) (f 5) = .ok U2
      ∧ routeS3 (N.T i) (N.T j) (N.T k) (N.T l) (N.b i j) (N.b i k) (N.b i l) (N.b j i) (N.b j k) (N.b j l)
          (N.b k i) (N.b k j) (N.b k l) (N.b l i) (N.b l j) (N.b l k) (f 6) (f 7) (f 8) = .ok U3
      ∧ routeS4 (N.T i) (N.T j) (N.T k) (N.T l) (N.b i j) (N.b i k) (N.b i l) (N.b j i) (N.b j k) (N.b j l)
          (N.b k i) (N.b k j) (N.b k l) (N.b l i) (N.b l j) (N.b l k) (f 9) (f 10) (f 11) = .ok U4
      ∧ routeS5 (N.T i) (N.T j) (N.T k) (N.T l) (N.b i j) (N.b i k) (N.b i l) (N.b j i) (N.b j k) (N.b j l)
          (N.b k i) (N.b k j) (N.b k l) (N.b l i) (N.b l j) (N.b l k) (f 12) (f 13) (f 14) = .ok U5
      ∧ Ref N U1 ∧ Ref N U2 ∧ Ref N U3 ∧ Ref N U4 ∧ Ref N U5 := by
  obtain ⟨T, T0, e, e0, v, fT, v0, t⟩ := all_orders hmul hN i j k l hn
  have H := hN.k4h hn
  obtain ⟨T1, e1, v1, hall⟩ := k4_flagged hmul (N.T i) (N.T j) (N.T k) (N.T l) (N.b i j) (N.b i k)
    (N.b i l) (N.b j i) (N.b j k) (N.b j l) (N.b k i) (N.b k j) (N.b k l) (N.b l i) (N.b l j) (N.b l k)
    H.WAB H.WAC H.WAD H.WBC H.WBD H.WCD H.hnA H.hnB H.hnC H.hnD H.hd
  have e' : N.r1 i j k l = .ok T1 := e1
  rw [e] at e'
  obtain rfl := Except.ok.inj e'
  obtain ⟨U1, U2, U3, U4, U5, a1, a2, a3, a4, a5, q1, q2, q3, q4, q5, w1, w2, w3, w4, w5⟩ := hall f
  have key : ∀ U : Arr R, Eqv U T → U.validB = true → Ref N U := fun U q w =>
    ⟨T0, e0, w, by rw [q.fermi]; exact fT,
      TEq.trans (TEq.of_eqv q w (by rw [q.fermi]; exact fT)) t w (by rw [q.fermi]; exact fT) v⟩
  exact ⟨U1, U2, U3, U4, U5, a1, a2, a3, a4, a5, key U1 q1 w1, key U2 q2 w2, key U3 q3 w3,
    key U4 q4 w4, key U5 q5 w5⟩

/-- Two results of ANY two routes (orderings, bracketings, operand orders)
    of the same network, each brought to the leg order of the reference contraction by a fermionic
    transpose, are equivalent: same `to_dense()`, labels, charge, index tables (this is the comparison
    the harness makes). -/
theorem net4_routes_agree [AddCommMonoid R] [Mul R] [Neg R] [SignRing R] (N : Net4 R) (U U' : Arr R)
    (h : Ref N U) (h' : Ref N U') :
    ∃ P P', Arr.isPerm P U.ndim = true ∧ Arr.isPerm P' U'.ndim = true
      ∧ Eqv (U.transposeF P) (U'.transposeF P')
      ∧ (U.transposeF P).toDenseF = (U'.transposeF P').toDenseF
      ∧ U.oddpos = U'.oddpos ∧ U.charge = U'.charge
      ∧ permuted U.indices P = permuted U'.indices P' := by
  obtain ⟨T0, e0, v, f, P, hP, q⟩ := h
  obtain ⟨T0', e0', v', f', P', hP', q'⟩ := h'
  rw [e0] at e0'
  obtain rfl := Except.ok.inj e0'
  have TT := transOf_transposeF U P v f hP
  have TT' := transOf_transposeF U' P' v' f' hP'
  have hE := q.trans q'.symm
  exact ⟨P, P', hP, hP', hE, hE.toDenseF (transposeF_validB U P v f hP),
    q.oddpos.trans q'.oddpos.symm, q.charge.trans q'.charge.symm,
    by rw [← TT.indices, ← TT'.indices]; exact hE.indices⟩

open SymmModel.C03 in
/-- the square `gA – cB – cC – cD – gA` -/
def exNet : Net4 Int where
  T := fun i => match i with
    | 0 => gA
    | 1 => cB
    | 2 => cC
    | 3 => cD
  b := fun i j => match i, j with
    | 0, 1 => [2]
    | 1, 0 => [0]
    | 1, 2 => [2]
    | 2, 1 => [0]
    | 2, 3 => [1]
    | 3, 2 => [0]
    | 0, 3 => [0]
    | 3, 0 => [1]
    | _, _ => []

theorem exNet_ok : exNet.OK ∧ (∀ x y : Int, x * y = y * x) := by
  have hl : ∀ i j k l : Fin 4, [i, j, k, l].Nodup →
      ((exNet.T i).oddpos ++ (exNet.T j).oddpos ++ (exNet.T k).oddpos ++ (exNet.T l).oddpos).Pairwise
        (fun x y => x.1 ≠ y.1) := by decide +kernel
  exact ⟨⟨by decide +kernel, by decide +kernel, by decide +kernel, by decide +kernel, hl⟩,
    Int.mul_comm⟩

/-- sanity instance: the left-nested contraction of the square in six different orders (same
    labels; rank 2; one sector; the value up to the sign of the transposition) -/
example :
    ([exNet.r1 0 1 2 3, exNet.r1 0 2 1 3, exNet.r1 3 2 1 0, exNet.r1 1 3 0 2, exNet.r1 2 0 3 1,
      exNet.r1 0 3 2 1].map
      (fun (t : Except Err (Arr Int)) => (C04.labelsOf t, (resOf t).indices.length,
        (resOf t).sectors.length, elemOf t [(0,0),(0,0)] [0,0])))
      = List.replicate 6 ([(5, true), (1, false), (3, false), (7, false)], 2, 1, some (-140)) := by
  decide +kernel

end SymmModel.C04
