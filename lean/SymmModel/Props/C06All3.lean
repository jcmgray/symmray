import SymmModel.Props.C06All2
import SymmModel.Props.C06d
