import SymmModel.Props.C08All4
import SymmModel.Props.C08f
