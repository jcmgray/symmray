/-
  Property C11 (eighth part) — the isometry statements of Props/C11g.lean at EVERY address, and the
  labelled `solve` through `tensordot`.

  1. The fermionic isometry products AS ARRAYS.  C11g states `q.dagger()·q`, `u.dagger()·u`, `vh·vh.dagger()`
     on the bond sector `(c, c)` of every stored (kept) block.  Here: EVERY in-box address of the table box of
     the product's two indices (`[J.conj, J]` resp. `[J, J.conj]`, `J` the bond index) is either on the bond
     sector of a stored (kept) block — where the product is `± δ(t, t')` with the sign of C11g — or the
     product is ZERO there (`DecompP.GramPair.gradedContract_miss`).  As the diagonal keys of the box are exactly
     the bond sectors and the ranges are the full ranges, the product IS `± identity` as an array — through `@`
     and through `tensordot_fermionic` in EVERY mode (whatever `y` either call returns):
       `qr_isometry_fermionic_everywhere`, `svd_isometry_fermionic_everywhere`,
       `svd_truncated_isometry_fermionic_everywhere`.
     (An address outside the table box belongs to no index table of the product; C01 — validity of the
     product — excludes a stored block there.)
  2. `solve_solves_tensordotF_labelled_all_modes`: `solve_solves_fermionic_labelled` (C11e: `a` carries labels
     of its own) through `tensordot_fermionic(a, x, ([1],[0]), mode)` in every mode, for an EVEN `a` (for an odd
     `a` the solution is not a valid array — known finding "solve-odd-matrix", C11 — and the transfer lemma
     `matmulF_tensordotF_agree` does not apply).
-/
import SymmModel.Props.C11g
import SymmModel.Props.C11e
import SymmModel.Proofs.SmallIso

namespace SymmModel.C11
open SymmModel LinalgLemmas ReconP Recon2P Recon3P DecompP TdotP

variable {R : Type}

section iso
variable [CommRing R] [Conj R]

/-- **qr_isometry_fermionic_everywhere.**  Hypotheses of `qr_isometry_fermionic`.  Whatever
    `q.dagger() @ q` or `tensordot_fermionic(q.dagger(), q, ([1],[0]), mode)` (any mode) returns carries no
    label and, at every in-box address `(s, [t, t'])` of the table box of its indices, is
    `isometrySign x s₀ · δ(t, t')` when `s` is the bond sector `(c, c)` of a stored block `s₀ = (r, c)` of
    `x`, and `0` on every other sector. -/
theorem qr_isometry_fermionic_everywhere (conj : R →+* R) (hcj : ∀ v : R, Conj.conj v = conj v)
    (K : Kernels R) (hK : K.ShapeOk) (x : Arr R) (hv : x.validB = true) (h2 : x.ndim = 2)
    (hf : x.fermi = true) (hlab : SortedLabels x.oddpos)
    (hO : ∀ p ∈ x.blocks, K.QIsoBlock conj p.2) :
    ∃ q r, qrA K x = .ok (q, r) ∧
      ∀ y, (q.daggerF.matmulF q = .ok y ∨ ∃ tm, q.daggerF.tensordotF q (.pair [1] [0]) tm = .ok y) →
        y.oddpos = [] ∧
        ∀ s t t', inBox (Arr.blockShapeD [(q.indices.getD 1 default).conj, q.indices.getD 1 default] s)
            [t, t'] = true →
          (∃ p ∈ x.blocks, s = [col p.1, col p.1]
            ∧ y.elem s [t, t'] = Lazy.sgnI (isometrySign x p.1) (if t = t' then 1 else 0))
          ∨ ((∀ p ∈ x.blocks, [col p.1, col p.1] ≠ s) ∧ y.elem s [t, t'] = 0) := by
  have hc0 : Conj.conj (0 : R) = 0 := by rw [hcj]; exact map_zero conj
  have : GradedP.SignRing R := signRing_of_ring
  obtain ⟨i0, i1, hi⟩ := ndim_two h2
  refine ⟨_, _, qrA_eq K hv h2, ?_⟩
  have hE := leftLike_everywhere zero_mul mul_zero hc0 hv h2 hlab
    (leftLike_leftF (L := fun b => (K.qr b).1) (Rt := fun b => (K.qr b).2) hv h2 hf (facShape_qr hK))
    (by
      intro p hp t t' ht ht'
      obtain ⟨r, c, m, n, B⟩ := mat_block hv hi (s := p.1) (b := p.2) hp
      simp only [B.hshape, List.getD_cons_zero, List.getD_cons_succ] at ht ht' ⊢
      simp only [hcj]
      exact hO p hp m n B.hshape t t' ht ht')
  intro y hy
  obtain ⟨h1, h3⟩ := hE y hy
  refine ⟨h1, fun s t t' hb => ?_⟩
  rcases h3 s t t' hb with ⟨p, hp, hs, he⟩ | h
  · exact Or.inl ⟨p, hp, hs, by rw [he, isometrySign_eq]⟩
  · exact Or.inr h

/-- **svd_isometry_fermionic_everywhere.**  Hypotheses of `svd_isometry_fermionic`.  `u.dagger()·u` and
    `vh·vh.dagger()` — through `@` or `tensordot_fermionic` in any mode — carry no label and, at every in-box
    address of their table boxes, are `sign · δ(t, t')` on the bond sector of a stored block of `x`
    (`isometrySign x s₀` resp. `−1` iff `x`'s column index is not dual and the bond charge is odd) and `0`
    on every other sector. -/
theorem svd_isometry_fermionic_everywhere (conj : R →+* R) (hcj : ∀ v : R, Conj.conj v = conj v)
    (K : Kernels R) (hK : K.ShapeOk) (x : Arr R) (hv : x.validB = true) (h2 : x.ndim = 2)
    (hf : x.fermi = true) (hlab : SortedLabels x.oddpos)
    (hO : ∀ p ∈ x.blocks, K.OrthoBlock conj p.2) :
    ∃ u s vh, svdA K x = .ok (u, s, vh)
      ∧ (∀ y, (u.daggerF.matmulF u = .ok y ∨ ∃ tm, u.daggerF.tensordotF u (.pair [1] [0]) tm = .ok y) →
          y.oddpos = [] ∧
          ∀ sec t t', inBox (Arr.blockShapeD [(u.indices.getD 1 default).conj, u.indices.getD 1 default]
              sec) [t, t'] = true →
            (∃ p ∈ x.blocks, sec = [col p.1, col p.1]
              ∧ y.elem sec [t, t'] = Lazy.sgnI (isometrySign x p.1) (if t = t' then 1 else 0))
            ∨ ((∀ p ∈ x.blocks, [col p.1, col p.1] ≠ sec) ∧ y.elem sec [t, t'] = 0))
      ∧ (∀ y, (vh.matmulF vh.daggerF = .ok y ∨ ∃ tm, vh.tensordotF vh.daggerF (.pair [1] [0]) tm = .ok y) →
          y.oddpos = [] ∧
          ∀ sec t t', inBox (Arr.blockShapeD [vh.indices.getD 0 default, (vh.indices.getD 0 default).conj]
              sec) [t, t'] = true →
            (∃ p ∈ x.blocks, sec = [col p.1, col p.1]
              ∧ y.elem sec [t, t']
                = Lazy.sgnI (if !(x.indices.getD 1 default).dual && x.sym.parity (col p.1) then -1 else 1)
                    (if t = t' then 1 else 0))
            ∨ ((∀ p ∈ x.blocks, [col p.1, col p.1] ≠ sec) ∧ y.elem sec [t, t'] = 0)) := by
  have hc0 : Conj.conj (0 : R) = 0 := by rw [hcj]; exact map_zero conj
  have : GradedP.SignRing R := signRing_of_ring
  obtain ⟨i0, i1, hi⟩ := ndim_two h2
  refine ⟨_, _, _, svdA_eq K hv h2, ?_, ?_⟩
  · have hE := leftLike_everywhere zero_mul mul_zero hc0 hv h2 hlab
      (leftLike_leftF (L := fun b => (K.svd b).1) (Rt := fun b => (K.svd b).2.2) hv h2 hf
        (facShape_svd hK))
      (by
        intro p hp t t' ht ht'
        obtain ⟨r, c, m, n, B⟩ := mat_block hv hi (s := p.1) (b := p.2) hp
        simp only [B.hshape, List.getD_cons_zero, List.getD_cons_succ] at ht ht' ⊢
        simp only [hcj]
        exact (hO p hp m n B.hshape t t' ht ht').1)
    intro y hy
    obtain ⟨h1, h3⟩ := hE y hy
    refine ⟨h1, fun s t t' hb => ?_⟩
    rcases h3 s t t' hb with ⟨p, hp, hs, he⟩ | h
    · exact Or.inl ⟨p, hp, hs, by rw [he, isometrySign_eq]⟩
    · exact Or.inr h
  · have hE := rightLike_everywhere zero_mul mul_zero hc0 hv h2
      (rightLike_rightF (L := fun b => (K.svd b).1) (Rt := fun b => (K.svd b).2.2) hv h2 hf
        (facShape_svd hK))
      (by
        intro p hp t t' ht ht'
        obtain ⟨r, c, m, n, B⟩ := mat_block hv hi (s := p.1) (b := p.2) hp
        simp only [B.hshape, List.getD_cons_zero, List.getD_cons_succ] at ht ht' ⊢
        exact ortho_rows_comm conj hcj B.hshape (hO p hp) ht ht')
    intro y hy
    obtain ⟨h1, h3⟩ := hE y hy
    refine ⟨h1, fun s t t' hb => ?_⟩
    rcases h3 s t t' hb with ⟨p, hp, hs, he⟩ | h
    · exact Or.inl ⟨p, hp, hs, by rw [he]; rfl⟩
    · exact Or.inr h

/-- **svd_truncated_isometry_fermionic_everywhere.**  The same for the factors `u'`, `vh'` that
    `svd_truncated` returns (truncation with `counts`, `c ≤ min m n` on every kept block): on the bond sector
    of a KEPT block `sign · δ(t, t')`, zero at every other in-box address of the table box — in particular
    on the bond sectors of the dropped blocks, which are not in the truncated table. -/
theorem svd_truncated_isometry_fermionic_everywhere (conj : R →+* R)
    (hcj : ∀ v : R, Conj.conj v = conj v)
    (K : Kernels R) (hK : K.ShapeOk) (x : Arr R) (hv : x.validB = true) (h2 : x.ndim = 2)
    (hf : x.fermi = true) (hlab : SortedLabels x.oddpos)
    (u : Arr R) (s : BVec R) (vh : Arr R) (hsvd : svdA K x = .ok (u, s, vh))
    (counts : List Nat) (hlen : counts.length = x.blocks.length)
    (hcnt : ∀ sec b c, ((sec, b), c) ∈ x.blocks.zip counts → ∀ m n, b.shape = [m, n] → c ≤ min m n)
    (hO : ∀ p ∈ x.blocks, K.OrthoBlock conj p.2) :
    let u' := (applyCounts u s vh counts).1
    let vh' := (applyCounts u s vh counts).2.2
    (∀ y, (u'.daggerF.matmulF u' = .ok y ∨ ∃ tm, u'.daggerF.tensordotF u' (.pair [1] [0]) tm = .ok y) →
        y.oddpos = [] ∧
        ∀ sec t t', inBox (Arr.blockShapeD [(u'.indices.getD 1 default).conj, u'.indices.getD 1 default]
            sec) [t, t'] = true →
          (∃ q ∈ x.blocks.zip counts, q.2 ≠ 0 ∧ sec = [col q.1.1, col q.1.1]
            ∧ y.elem sec [t, t'] = Lazy.sgnI (isometrySign x q.1.1) (if t = t' then 1 else 0))
          ∨ ((∀ q ∈ x.blocks.zip counts, q.2 ≠ 0 → [col q.1.1, col q.1.1] ≠ sec)
              ∧ y.elem sec [t, t'] = 0))
    ∧ (∀ y, (vh'.matmulF vh'.daggerF = .ok y
          ∨ ∃ tm, vh'.tensordotF vh'.daggerF (.pair [1] [0]) tm = .ok y) →
        y.oddpos = [] ∧
        ∀ sec t t', inBox (Arr.blockShapeD [vh'.indices.getD 0 default, (vh'.indices.getD 0 default).conj]
            sec) [t, t'] = true →
          (∃ q ∈ x.blocks.zip counts, q.2 ≠ 0 ∧ sec = [col q.1.1, col q.1.1]
            ∧ y.elem sec [t, t']
              = Lazy.sgnI (if !(x.indices.getD 1 default).dual && x.sym.parity (col q.1.1) then -1 else 1)
                  (if t = t' then 1 else 0))
          ∨ ((∀ q ∈ x.blocks.zip counts, q.2 ≠ 0 → [col q.1.1, col q.1.1] ≠ sec)
              ∧ y.elem sec [t, t'] = 0)) := by
  obtain ⟨rfl, rfl, rfl⟩ := svd_factors_eq hv h2 hsvd
  rw [applyCounts_eq (S := fun b => (K.svd b).2.1) hv h2 hlen]
  simp only []
  have hc0 : Conj.conj (0 : R) = 0 := by rw [hcj]; exact map_zero conj
  have : GradedP.SignRing R := signRing_of_ring
  have hkept : ∀ q, q ∈ kept x counts ↔ (q ∈ x.blocks.zip counts ∧ q.2 ≠ 0) := fun _ => mem_kept_iff
  constructor
  · have hE := leftLike_everywhere zero_mul mul_zero hc0 hv h2 hlab
      (leftLike_truncU (L := fun b => (K.svd b).1) (Rt := fun b => (K.svd b).2.2) (counts := counts)
        hv h2 hf (facShape_svd hK) hlen)
      (by
        intro q hq t t' ht ht'
        obtain ⟨⟨sec, b⟩, c⟩ := q
        obtain ⟨hm, _⟩ := (hkept _).mp hq
        have hmem : (sec, b) ∈ x.blocks := tri_mem hlen hm
        obtain ⟨i0, i1, hi⟩ := ndim_two h2
        obtain ⟨r, c', m, n, B⟩ := mat_block hv hi hmem
        exact trunc_cols_gram conj hcj hK B.hshape B.hwf (hO (sec, b) hmem)
          (hcnt sec b c hm m n B.hshape) ht ht')
    intro y hy
    obtain ⟨h1, h3⟩ := hE y hy
    refine ⟨h1, fun sec t t' hb => ?_⟩
    rcases h3 sec t t' hb with ⟨q, hq, hs, he⟩ | ⟨h, h0⟩
    · obtain ⟨hm, hne⟩ := (hkept q).mp hq
      exact Or.inl ⟨q, hm, hne, hs, by rw [he, isometrySign_eq]⟩
    · exact Or.inr ⟨fun q hm hne => h q ((hkept q).mpr ⟨hm, hne⟩), h0⟩
  · have hE := rightLike_everywhere zero_mul mul_zero hc0 hv h2
      (rightLike_truncV (L := fun b => (K.svd b).1) (Rt := fun b => (K.svd b).2.2) (counts := counts)
        hv h2 hf (facShape_svd hK) hlen)
      (by
        intro q hq t t' ht ht'
        obtain ⟨⟨sec, b⟩, c⟩ := q
        obtain ⟨hm, _⟩ := (hkept _).mp hq
        have hmem : (sec, b) ∈ x.blocks := tri_mem hlen hm
        obtain ⟨i0, i1, hi⟩ := ndim_two h2
        obtain ⟨r, c', m, n, B⟩ := mat_block hv hi hmem
        exact trunc_rows_gram conj hcj hK B.hshape B.hwf (hO (sec, b) hmem)
          (hcnt sec b c hm m n B.hshape) ht ht')
    intro y hy
    obtain ⟨h1, h3⟩ := hE y hy
    refine ⟨h1, fun sec t t' hb => ?_⟩
    rcases h3 sec t t' hb with ⟨q, hq, hs, he⟩ | ⟨h, h0⟩
    · obtain ⟨hm, hne⟩ := (hkept q).mp hq
      exact Or.inl ⟨q, hm, hne, hs, by rw [he]; rfl⟩
    · exact Or.inr ⟨fun q hm hne => h q ((hkept q).mpr ⟨hm, hne⟩), h0⟩

end iso

section solve
variable [AddCommMonoid R] [Mul R] [Neg R] [GradedP.SignRing R]

/-- **solve_solves_tensordotF_labelled_all_modes.**  `a` a valid EVEN fermionic matrix carrying labels of
    its own, `b` a valid fermionic vector over the same symmetry whose index has the direction of `a`'s row
    index, all label names distinct, pending signs anywhere.  In every mode
    `tensordot_fermionic(a, x, ([1],[0]), mode)` succeeds, carries the SORTED MERGE `out` of the labels of
    `a` and `b`, and has `ph · b`'s element at every row of every sector of `b` paired with a block of `a`,
    `(out, ph) = mergeOddpos …` the label sort with its sign — the same as `a @ x`
    (`solve_solves_fermionic_labelled`). -/
theorem solve_solves_tensordotF_labelled_all_modes (hz1 : ∀ x : R, 0 * x = 0) (hz2 : ∀ x : R, x * 0 = 0)
    (K : Kernels R) (hK : K.ShapeOk) (a b x : Arr R) (hva : a.validB = true)
    (hvb : b.validB = true) (hfa : a.fermi = true) (hfb : b.fermi = true) (hsym : a.sym = b.sym)
    (hdir : (b.indices.getD 0 default).dual = (a.indices.getD 0 default).dual)
    (heven : a.parity = false)
    (hd : (a.oddpos ++ b.oddpos).Pairwise (fun p q => p.1 ≠ q.1))
    (hS : K.SolvesOn a.phaseSync b.phaseSync) (h : solveA K a b = .ok x) (tm : TdotMode) :
    ∃ c out ph, a.tensordotF x (.pair [1] [0]) tm = .ok c
      ∧ OddposP.mergeOddpos a.parity a.oddpos b.oddpos = .ok (out, ph)
      ∧ c.oddpos = out ∧ out.Perm (a.oddpos ++ b.oddpos)
      ∧ out.Pairwise (fun p q => oddLt p q = true)
      ∧ c.charge = a.sym.combine [a.charge, x.charge] ∧
      ∀ s arr, (s, arr) ∈ a.blocks → [s.getD 0 (0, 0)] ∈ b.sectors →
        ∀ i, i < arr.shape.getD 0 0 →
          c.elem [s.getD 0 (0, 0)] [i] = Lazy.sgnI ph (b.elem [s.getD 0 (0, 0)] [i]) := by
  obtain ⟨y, out, ph, hm, hmerge, _, hyo, hperm, hsort, hel⟩ :=
    solve_solves_fermionic_labelled K hK a b x hva hvb hfa hfb hd hS h
  obtain ⟨c, h1, h2, h3, h4⟩ := solve_transfer hz1 hz2 hK hva hvb hfa hfb hsym hdir heven h hm tm
  exact ⟨c, out, ph, h1, hmerge, h2.trans hyo, hperm, hsort, h3,
    fun s arr hmem hsb i hi => (h4 s arr hmem i hi).trans (hel s arr hmem hsb i hi)⟩

end solve

open scoped SymmModel.Lazy

/-- `qr_isometry_fermionic_everywhere` and `svd_isometry_fermionic_everywhere` instantiate at `Int` with the
    exact kernel `trivialFactor` on `exT` resp. `exO` (the hypotheses are those of C11g's examples) -/
example :=
  qr_isometry_fermionic_everywhere (R := Int) (RingHom.id Int) (fun _ => rfl) Kernels.trivialFactor
    trivialFactor_shapeOk exT (by decide) rfl rfl sortedLabels_ex exT_qiso

example :=
  svd_isometry_fermionic_everywhere (R := Int) (RingHom.id Int) (fun _ => rfl) Kernels.trivialFactor
    trivialFactor_shapeOk exO (by decide) rfl rfl sortedLabels_ex exO_ortho

/-- … and the model computes it: `q†·q` of `exT` through `@` and the three `tensordot` modes is `∓1` on the two
    bond sectors and ZERO on the two off-diagonal keys of the table box (where no block is stored) -/
example : ((qrA Kernels.trivialFactor exT).toOption.map (fun p =>
      [p.1.daggerF.matmulF p.1, p.1.daggerF.tensordotF p.1 (.pair [1] [0]) .blockwise,
        p.1.daggerF.tensordotF p.1 (.pair [1] [0]) .fused,
        p.1.daggerF.tensordotF p.1 (.pair [1] [0]) .auto].map (fun r =>
          r.toOption.map (fun y =>
            ([y.elem [(1, 0), (1, 0)] [0, 0], y.elem [(2, 0), (2, 0)] [1, 1],
              y.elem [(1, 0), (2, 0)] [0, 0], y.elem [(1, 0), (2, 0)] [1, 1],
              y.elem [(2, 0), (1, 0)] [0, 1]], y.sectors))))
    == some (List.replicate 4 (some ([-1, 1, 0, 0, 0], [[(1, 0), (1, 0)], [(2, 0), (2, 0)]])))) = true := by
  decide +kernel

/-- the truncated theorem instantiates on `exO`, counts `[1, 2]` (both blocks `2 × 2`, so `c ≤ min m n`) -/
example (u : Arr Int) (s : BVec Int) (vh : Arr Int)
    (h : svdA Kernels.trivialFactor exO = .ok (u, s, vh)) :=
  svd_truncated_isometry_fermionic_everywhere (R := Int) (RingHom.id Int) (fun _ => rfl)
    Kernels.trivialFactor trivialFactor_shapeOk exO (by decide) rfl rfl sortedLabels_ex u s vh h [1, 2] rfl
    (by
      intro sec b c hm m n hs
      simp only [exO, List.zip_cons_cons, List.zip_nil_right, List.mem_cons, List.not_mem_nil, or_false,
        Prod.mk.injEq] at hm
      rcases hm with ⟨⟨_, rfl⟩, rfl⟩ | ⟨⟨_, rfl⟩, rfl⟩ <;>
      · obtain ⟨rfl, rfl⟩ : m = 2 ∧ n = 2 := by
          have := hs
          simp only [List.cons.injEq, and_true] at this
          exact ⟨this.1.symm, this.2.symm⟩
        decide)
    exO_ortho

/-- truncation `[1, 0]` drops the second block: its bond sector `((2,0),(2,0))` leaves the table, the product
    stores only the kept one -/
example : ((svdA Kernels.trivialFactor exO).toOption.map (fun p =>
      let t := applyCounts p.1 p.2.1 p.2.2 [1, 0]
      [t.1.daggerF.matmulF t.1, t.1.daggerF.tensordotF t.1 (.pair [1] [0]) .fused].map
        (fun r => r.toOption.map (fun y =>
          (y.sectors, y.elem [(1, 0), (1, 0)] [0, 0], y.elem [(2, 0), (2, 0)] [0, 0],
            (t.1.indices.getD 1 default).cm))))
    == some (List.replicate 2 (some ([[(1, 0), (1, 0)]], -1, 0, [((1, 0), 1)])))) = true := by
  decide +kernel

/-- `solve_solves_tensordotF_labelled_all_modes` instantiates on `exSaL` (even, two labels of its own),
    `exSb` (C11e) -/
example (x : Arr Int) (h : solveA Kernels.solveCopy exSaL exSb = .ok x) (tm : TdotMode) :=
  solve_solves_tensordotF_labelled_all_modes (R := Int) Int.zero_mul Int.mul_zero Kernels.solveCopy
    solveCopy_shapeOk exSaL exSb x (by decide +kernel) (by decide +kernel) rfl rfl rfl rfl (by decide)
    (by decide)
    (solveCopy_solvesOn _ _ fun s arr hm => exSa_eye s arr (by
      rw [phaseSync_blocks_nil _ rfl] at hm
      exact hm)) h tm

/-- … and computes: all three modes give `-b` (value view) with the three labels `5 7 9` -/
example : ((solveA Kernels.solveCopy exSaL exSb).toOption.map (fun x =>
      [TdotMode.blockwise, TdotMode.fused, TdotMode.auto].map (fun tm =>
        (exSaL.tensordotF x (.pair [1] [0]) tm).toOption.map
          (fun y => (y.elem [(1, 0)] [0], y.elem [(1, 0)] [1], y.oddpos))))
    == some (List.replicate 3 (some (5, 6, [(5, false), (7, false), (9, false)])))) = true := by
  decide +kernel

end SymmModel.C11
