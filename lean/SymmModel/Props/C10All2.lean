/- Property C10 — umbrella incl. C10c (network form of the norm for two tensors: halves first). -/
import SymmModel.Props.C10All
import SymmModel.Props.C10c
