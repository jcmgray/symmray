/-
  Property C08 — structural, elementwise and arithmetic operations commute with densification.

  Everything is about the model definitions `Arr.toDenseA`, `Arr.elem`, `Arr.locateAll`,
  `Arr.conjA`, `Arr.transposeA` (Model/Arr.lean), `binaryBlockwise`, `multiplyDiagonal`
  (Model/Tdot.lean) and the kernels of Model/Blk.lean, for ABELIAN arrays (`phases = []`), every
  rank, every symmetry, every sparsity pattern, and an arbitrary scalar type `R`; the few scalar
  laws a statement needs are explicit hypotheses (`-0 = 0`, `0 + v = v`, …) and are discharged
  for `Int` and for the driver's Gaussian rationals `GRat` in the `example`s.

  Scheme (DESIGN §3.4): `toDenseA_get` says that the dense array at a position `p` is the value
  view `Arr.elem` at the address `locateAll a.indices p`; each operation is characterised at the
  value-view level (`…_elem`) for EVERY sector and offset, and the dense statements
  (`…_toDense`) follow through `Arr.toDense_rel₂/₃` (same address in all arrays) or
  `Arr.toDense_reindex` (transpose) of Proofs/DenseLemmas.lean.

  The scalar operations `negA smulA sdivA addA subA mulA` are the expressions the correspondence
  driver executes (Driver/Ops.lean "neg" "smul" "sdiv" "add" "sub" "mul"), named in
  Proofs/DenseLemmas.lean.
-/
import SymmModel.Proofs.DenseLemmas

namespace SymmModel.C08
open SymmModel Arr

variable {R : Type}

/-- no index has an empty charge table (`to_dense` raises a `ValueError` otherwise) -/
abbrev NoEmpty (a : Arr R) : Prop := a.indices.any (fun ix => ix.cm.isEmpty) = false

/-- every position of the dense box has an address `(sector, offsets)` -/
theorem locateAll_total (indices : List Index) (p : List Nat)
    (hp : inBox (indices.map Index.sizeTotal) p = true) :
    ∃ sec off, locateAll indices p = some (sec, off)
      ∧ sec.length = indices.length ∧ off.length = indices.length := by
  obtain ⟨sec, off, h⟩ := locateAll_isSome hp
  exact ⟨sec, off, h, locateAll_length h (by simpa using inBox_length hp)⟩

/-- `to_dense` of an array without empty charge tables succeeds, has the array's shape, and its
    entry at every in-box position is the value view at that position's address
    (`Arr.toDenseA_get` of Proofs/DenseLemmas.lean under the name `NoEmpty`; a third lemma of this
    name, `LinalgLemmas.toDenseA_get`, takes the dense block as given and reads it by `match`) -/
theorem toDenseA_get [Zero R] [Neg R] (a : Arr R) (h : NoEmpty a) :
    ∃ d, toDenseA a = .ok d ∧ d.shape = a.shape ∧
      ∀ p, inBox a.shape p = true →
        ∃ sec off, locateAll a.indices p = some (sec, off) ∧ d.get p = a.elem sec off :=
  Arr.toDenseA_get a h

/-- … and it raises (a `ValueError`) exactly when some index has an empty charge table -/
theorem toDenseA_error_iff [Zero R] [Neg R] (a : Arr R) :
    (∃ e, toDenseA a = .error e) ↔ ¬ NoEmpty a := by
  by_cases h : a.indices.any (fun ix => ix.cm.isEmpty) = true
  · simp [NoEmpty, h, toDenseA_error a false h]
  · have h' : NoEmpty a := by simpa using h
    rw [toDenseA_eq a false h']
    exact ⟨fun ⟨e, he⟩ => (by cases he), fun hh => absurd h' hh⟩

theorem toDenseA_error_kind [Zero R] [Neg R] (a : Arr R) (e : Err) (h : toDenseA a = .error e) :
    e = Err.value := by
  by_cases hn : a.indices.any (fun ix => ix.cm.isEmpty) = true
  · rw [toDenseA_error a false hn] at h; exact (Except.error.inj h).symm
  · rw [toDenseA_eq a false (by simpa using hn)] at h; cases h

/-- the address of an in-box position lies inside the block its sector names (chargemaps with
    distinct charges) -/
theorem locateAll_inBox (indices : List Index) (hnd : ∀ ix ∈ indices, (ix.cm.map (·.1)).Nodup)
    (p : List Nat) (hp : inBox (indices.map Index.sizeTotal) p = true)
    (sec : Sector) (off shp : List Nat)
    (h : locateAll indices p = some (sec, off)) (hs : blockShape? indices sec = some shp) :
    inBox shp off = true :=
  Arr.locateAll_inBox hnd (by simpa using inBox_length hp) h hs

theorem neg_elem [Zero R] [Neg R] (h0 : -(0 : R) = 0) (a : Arr R) (hab : a.phases = [])
    (s : Sector) (off : List Nat) : (negA a).elem s off = - a.elem s off :=
  elem_mapVals a (negA a) Blk.negK (fun x => -x) h0 (fun b off => Blk.get_map _ h0 b off)
    hab hab rfl s off

theorem smul_elem [Zero R] [Neg R] [Mul R] (k : R) (h0 : (0 : R) * k = 0) (a : Arr R)
    (hab : a.phases = []) (s : Sector) (off : List Nat) :
    (smulA a k).elem s off = a.elem s off * k :=
  elem_mapVals a (smulA a k) (fun b => b.map (· * k)) (· * k) h0
    (fun b off => Blk.get_map _ h0 b off) hab hab rfl s off

theorem sdiv_elem [Zero R] [Neg R] [Div R] (k : R) (h0 : (0 : R) / k = 0) (a : Arr R)
    (hab : a.phases = []) (s : Sector) (off : List Nat) :
    (sdivA a k).elem s off = a.elem s off / k :=
  elem_mapVals a (sdivA a k) (fun b => b.map (· / k)) (· / k) h0
    (fun b off => Blk.get_map _ h0 b off) hab hab rfl s off

theorem conjA_elem [Zero R] [Neg R] [Conj R] (h0 : Conj.conj (0 : R) = 0) (a : Arr R)
    (hab : a.phases = []) (s : Sector) (off : List Nat) :
    (conjA a).elem s off = Conj.conj (a.elem s off) :=
  elem_mapVals a (conjA a) Blk.conjK Conj.conj h0 (fun b off => Blk.get_map _ h0 b off)
    hab hab rfl s off

/-- the binary operations return the left operand's metadata with new blocks -/
theorem addA_ok [Zero R] [Add R] (x y : Arr R) : ∃ bl, addA x y = .ok { x with blocks := bl } := by
  obtain ⟨bl, hbl, _⟩ := binaryBlockwise_outer (Blk.zipWith (· + · : R → R → R)) x.blocks y.blocks
  exact ⟨bl, by simp only [addA, binopA, hbl]⟩

theorem mulA_ok [Zero R] [Mul R] (x y : Arr R) : ∃ bl, mulA x y = .ok { x with blocks := bl } := by
  obtain ⟨bl, hbl, _⟩ := binaryBlockwise_inner (Blk.zipWith (· * · : R → R → R)) x.blocks y.blocks
  exact ⟨bl, by simp only [mulA, binopA, hbl]⟩

/-- addition keeps the blocks stored by either operand (`missing="outer"`): the value view of the
    sum is the sum of the value views, also where only one operand stores the sector -/
theorem add_outer_elem [Zero R] [Neg R] [Add R] (hl : ∀ v : R, 0 + v = v) (hr : ∀ v : R, v + 0 = v)
    (x y z : Arr R) (hz : addA x y = .ok z) (hx : x.phases = []) (hy : y.phases = [])
    (s : Sector) (off : List Nat)
    (hoff : ∀ bx, alookup x.blocks s = some bx → inBox bx.shape off = true) :
    z.elem s off = x.elem s off + y.elem s off := by
  obtain ⟨bl, hbl, hlk⟩ := binaryBlockwise_outer (Blk.zipWith (· + · : R → R → R)) x.blocks y.blocks
  simp only [addA, binopA, hbl] at hz
  injection hz with hz; subst hz
  rw [Arr.elem_of_phases_nil (a := ({ x with blocks := bl } : Arr R)) hx, Arr.elem_of_phases_nil hx, Arr.elem_of_phases_nil hy]
  simp only [hlk s]
  cases hxs : alookup x.blocks s with
  | none => cases alookup y.blocks s <;> simp [hl]
  | some bx =>
    cases alookup y.blocks s with
    | none => simp [hr]
    | some b => simp [Blk.get_zipWith _ _ _ (hoff bx hxs)]

/-- the elementwise product keeps only the sectors stored by both operands (`missing="inner"`):
    its value view is the product of the value views everywhere -/
theorem mul_inner_elem [Zero R] [Neg R] [Mul R] (hl : ∀ v : R, 0 * v = 0) (hr : ∀ v : R, v * 0 = 0)
    (x y z : Arr R) (hz : mulA x y = .ok z) (hx : x.phases = []) (hy : y.phases = [])
    (s : Sector) (off : List Nat)
    (hoff : ∀ bx, alookup x.blocks s = some bx → inBox bx.shape off = true) :
    z.elem s off = x.elem s off * y.elem s off := by
  obtain ⟨bl, hbl, hlk⟩ := binaryBlockwise_inner (Blk.zipWith (· * · : R → R → R)) x.blocks y.blocks
  simp only [mulA, binopA, hbl] at hz
  injection hz with hz; subst hz
  rw [Arr.elem_of_phases_nil (a := ({ x with blocks := bl } : Arr R)) hx, Arr.elem_of_phases_nil hx, Arr.elem_of_phases_nil hy]
  simp only [hlk s]
  cases hxs : alookup x.blocks s with
  | none => cases alookup y.blocks s <;> simp [hl]
  | some bx =>
    cases alookup y.blocks s with
    | none => simp [hr]
    | some b => simp [Blk.get_zipWith _ _ _ (hoff bx hxs)]

theorem mul_inner_sectors [Zero R] [Mul R] (x y z : Arr R) (hz : mulA x y = .ok z) (s : Sector) :
    s ∈ z.sectors ↔ s ∈ x.sectors ∧ s ∈ y.sectors := by
  obtain ⟨bl, hbl, hlk⟩ := binaryBlockwise_inner (Blk.zipWith (· * · : R → R → R)) x.blocks y.blocks
  simp only [mulA, binopA, hbl] at hz
  injection hz with hz; subst hz
  simp only [sectors, ← alookup_isSome_iff, hlk s]
  cases alookup x.blocks s <;> cases alookup y.blocks s <;> simp

theorem add_outer_sectors [Zero R] [Add R] (x y z : Arr R) (hz : addA x y = .ok z) (s : Sector) :
    s ∈ z.sectors ↔ s ∈ x.sectors ∨ s ∈ y.sectors := by
  obtain ⟨bl, hbl, hlk⟩ := binaryBlockwise_outer (Blk.zipWith (· + · : R → R → R)) x.blocks y.blocks
  simp only [addA, binopA, hbl] at hz
  injection hz with hz; subst hz
  simp only [sectors, ← alookup_isSome_iff, hlk s]
  cases alookup x.blocks s <;> cases alookup y.blocks s <;> simp

/-- subtraction is strict: it raises — a `ValueError`, nothing else — exactly when the operands
    do not store the same set of sectors; otherwise it returns the left operand's metadata -/
theorem sub_error_iff [Zero R] [Sub R] (x y : Arr R) :
    ((∃ e, subA x y = .error e) ↔ ¬ ∀ s, s ∈ x.sectors ↔ s ∈ y.sectors)
    ∧ (∀ e, subA x y = .error e → e = Err.value)
    ∧ ((∀ s, s ∈ x.sectors ↔ s ∈ y.sectors) → ∃ bl, subA x y = .ok { x with blocks := bl }) := by
  rcases binaryBlockwise_strict (Blk.zipWith (· - · : R → R → R)) x.blocks y.blocks with
    ⟨he, hk⟩ | ⟨bl, hbl, hk, _⟩
  · simp only [subA, binopA, he, sectors]
    exact ⟨⟨fun _ => hk, fun _ => ⟨_, rfl⟩⟩, fun e h => (Except.error.inj h).symm,
      fun h => absurd h hk⟩
  · simp only [subA, binopA, hbl, sectors]
    exact ⟨⟨fun ⟨e, h⟩ => (by cases h), fun h => absurd hk h⟩, fun e h => (by cases h),
      fun _ => ⟨bl, rfl⟩⟩

/-- … and when it does not raise, the value view of the result is the difference everywhere -/
theorem sub_strict_elem [Zero R] [Neg R] [Sub R] (h00 : (0 : R) - 0 = 0)
    (x y z : Arr R) (hz : subA x y = .ok z) (hx : x.phases = []) (hy : y.phases = [])
    (s : Sector) (off : List Nat)
    (hoff : ∀ bx, alookup x.blocks s = some bx → inBox bx.shape off = true) :
    z.elem s off = x.elem s off - y.elem s off := by
  rcases binaryBlockwise_strict (Blk.zipWith (· - · : R → R → R)) x.blocks y.blocks with
    ⟨he, _⟩ | ⟨bl, hbl, hsame, hlk⟩
  · simp only [subA, binopA, he] at hz; cases hz
  simp only [subA, binopA, hbl] at hz
  injection hz with hz; subst hz
  rw [Arr.elem_of_phases_nil (a := ({ x with blocks := bl } : Arr R)) hx, Arr.elem_of_phases_nil hx, Arr.elem_of_phases_nil hy]
  simp only [hlk s]
  have hs := hsame s
  simp only [← alookup_isSome_iff] at hs
  -- both operands store `s` or neither does
  cases hxs : alookup x.blocks s <;> cases hys : alookup y.blocks s <;> rw [hxs, hys] at hs
  · simp [h00]
  · simp at hs
  · simp at hs
  · simp [Blk.get_zipWith _ _ _ (hoff _ hxs)]

/-- the elementwise product is commutative at the value-view level when `R`'s product is: both
    orders store the same sectors and have the same value view -/
theorem mul_comm_obs [Zero R] [Neg R] [Mul R] (hl : ∀ v : R, 0 * v = 0) (hr : ∀ v : R, v * 0 = 0)
    (hc : ∀ u v : R, u * v = v * u)
    (x y z z' : Arr R) (hz : mulA x y = .ok z) (hz' : mulA y x = .ok z')
    (hx : x.phases = []) (hy : y.phases = []) (s : Sector) (off : List Nat)
    (hoffx : ∀ bx, alookup x.blocks s = some bx → inBox bx.shape off = true)
    (hoffy : ∀ b, alookup y.blocks s = some b → inBox b.shape off = true) :
    z.elem s off = z'.elem s off ∧ (s ∈ z.sectors ↔ s ∈ z'.sectors) := by
  rw [mul_inner_elem hl hr x y z hz hx hy s off hoffx,
    mul_inner_elem hl hr y x z' hz' hy hx s off hoffy, hc,
    mul_inner_sectors x y z hz, mul_inner_sectors y x z' hz']
  exact ⟨rfl, And.comm⟩

/-- `multiply_diagonal`: the value view is multiplied by the vector entry of the sector's charge
    on `axis`; where the vector has no block for that charge the sector is dropped, i.e. zero -/
theorem multiplyDiagonal_elem [Zero R] [Neg R] [Mul R] (hl : ∀ v : R, 0 * v = 0)
    (a : Arr R) (hab : a.phases = []) (v : BVec R) (axis : Nat) (s : Sector) (off : List Nat)
    (hoff : ∀ b, alookup a.blocks s = some b → inBox b.shape off = true) :
    (multiplyDiagonal a v axis).elem s off =
      match alookup v.blocks (s.getD axis (0, 0)) with
      | some vb => a.elem s off * vb.get [off.getD axis 0]
      | none => 0 := by
  rw [Arr.elem_of_phases_nil (a := multiplyDiagonal a v axis) hab, Arr.elem_of_phases_nil hab]
  simp only [multiplyDiagonal]
  rw [alookup_filterMap_key' a.blocks _ (fun s => alookup v.blocks (s.getD axis (0, 0)))
    (fun _ b vb => b.mulAxisK vb axis)
    (fun ⟨s, b⟩ => by dsimp only; cases alookup v.blocks (s.getD axis (0, 0)) <;> rfl)]
  cases hxs : alookup a.blocks s with
  | none => cases alookup v.blocks (s.getD axis (0, 0)) <;> simp [hl]
  | some b =>
    cases alookup v.blocks (s.getD axis (0, 0)) with
    | none => simp
    | some vb => simp [Blk.get_mulAxisK _ _ _ (hoff b hxs)]

/-! `ShapesOk a` (Proofs/DenseLemmas.lean): every index has distinct charges and every stored block has
the shape the index tables prescribe — two clauses of the validity predicate `Arr.validB`. -/

theorem neg_toDense [Zero R] [Neg R] (h0 : -(0 : R) = 0) (a : Arr R) (hab : a.phases = [])
    (hne : NoEmpty a) :
    ∃ d d', toDenseA a = .ok d ∧ toDenseA (negA a) = .ok d' ∧ d.shape = a.shape
      ∧ d'.shape = a.shape ∧ ∀ p, inBox a.shape p = true → d'.get p = - d.get p :=
  toDense_rel₂ a (negA a) rfl hne (fun _ u w => w = -u)
    (fun _ sec off _ _ => neg_elem h0 a hab sec off)

theorem smul_toDense [Zero R] [Neg R] [Mul R] (k : R) (h0 : (0 : R) * k = 0) (a : Arr R)
    (hab : a.phases = []) (hne : NoEmpty a) :
    ∃ d d', toDenseA a = .ok d ∧ toDenseA (smulA a k) = .ok d' ∧ d.shape = a.shape
      ∧ d'.shape = a.shape ∧ ∀ p, inBox a.shape p = true → d'.get p = d.get p * k :=
  toDense_rel₂ a (smulA a k) rfl hne (fun _ u w => w = u * k)
    (fun _ sec off _ _ => smul_elem k h0 a hab sec off)

theorem sdiv_toDense [Zero R] [Neg R] [Div R] (k : R) (h0 : (0 : R) / k = 0) (a : Arr R)
    (hab : a.phases = []) (hne : NoEmpty a) :
    ∃ d d', toDenseA a = .ok d ∧ toDenseA (sdivA a k) = .ok d' ∧ d.shape = a.shape
      ∧ d'.shape = a.shape ∧ ∀ p, inBox a.shape p = true → d'.get p = d.get p / k :=
  toDense_rel₂ a (sdivA a k) rfl hne (fun _ u w => w = u / k)
    (fun _ sec off _ _ => sdiv_elem k h0 a hab sec off)

/-- `conj` flips the index directions (and the charge) but not the charge tables, so positions
    keep their addresses and the dense array is conjugated entrywise -/
theorem conj_toDense [Zero R] [Neg R] [Conj R] (h0 : Conj.conj (0 : R) = 0) (a : Arr R)
    (hab : a.phases = []) (hne : NoEmpty a) :
    ∃ d d', toDenseA a = .ok d ∧ toDenseA (conjA a) = .ok d' ∧ d.shape = a.shape
      ∧ d'.shape = a.shape ∧ ∀ p, inBox a.shape p = true → d'.get p = Conj.conj (d.get p) :=
  toDense_rel₂ a (conjA a) (map_cm_conj a.indices) hne (fun _ u w => w = Conj.conj u)
    (fun _ sec off _ _ => conjA_elem h0 a hab sec off)

theorem conj_indices [Conj R] (a : Arr R) :
    (conjA a).indices = a.indices.map Index.conj ∧ (conjA a).charge = a.sym.sign a.charge true
    ∧ (conjA a).sectors = a.sectors := by
  refine ⟨rfl, rfl, ?_⟩
  simp [conjA, sectors, List.map_map, Function.comp_def]

theorem add_toDense [Zero R] [Neg R] [Add R] (hl : ∀ v : R, 0 + v = v) (hr : ∀ v : R, v + 0 = v)
    (x y : Arr R) (hx : x.phases = []) (hy : y.phases = []) (hidx : y.indices = x.indices)
    (hne : NoEmpty x) (hsx : ShapesOk x) :
    ∃ z dx dy dz, addA x y = .ok z ∧ toDenseA x = .ok dx ∧ toDenseA y = .ok dy
      ∧ toDenseA z = .ok dz ∧ dx.shape = x.shape ∧ dy.shape = x.shape ∧ dz.shape = x.shape
      ∧ ∀ p, inBox x.shape p = true → dz.get p = dx.get p + dy.get p := by
  obtain ⟨bl, hz⟩ := addA_ok x y
  obtain ⟨dx, dy, dz, h1, h2, h3, s1, s2, s3, h⟩ :=
    toDense_rel₃ x y { x with blocks := bl } (by rw [hidx]) rfl hne (fun _ u v w => w = u + v)
      (fun p sec off hp hloc => add_outer_elem hl hr x y _ hz hx hy sec off
        (fun _ hb => hsx.inBox hp hloc hb))
  exact ⟨_, dx, dy, dz, hz, h1, h2, h3, s1, s2, s3, h⟩

theorem mul_toDense [Zero R] [Neg R] [Mul R] (hl : ∀ v : R, 0 * v = 0) (hr : ∀ v : R, v * 0 = 0)
    (x y : Arr R) (hx : x.phases = []) (hy : y.phases = []) (hidx : y.indices = x.indices)
    (hne : NoEmpty x) (hsx : ShapesOk x) :
    ∃ z dx dy dz, mulA x y = .ok z ∧ toDenseA x = .ok dx ∧ toDenseA y = .ok dy
      ∧ toDenseA z = .ok dz ∧ dx.shape = x.shape ∧ dy.shape = x.shape ∧ dz.shape = x.shape
      ∧ ∀ p, inBox x.shape p = true → dz.get p = dx.get p * dy.get p := by
  obtain ⟨bl, hz⟩ := mulA_ok x y
  obtain ⟨dx, dy, dz, h1, h2, h3, s1, s2, s3, h⟩ :=
    toDense_rel₃ x y { x with blocks := bl } (by rw [hidx]) rfl hne (fun _ u v w => w = u * v)
      (fun p sec off hp hloc => mul_inner_elem hl hr x y _ hz hx hy sec off
        (fun _ hb => hsx.inBox hp hloc hb))
  exact ⟨_, dx, dy, dz, hz, h1, h2, h3, s1, s2, s3, h⟩

/-- subtraction either raises or returns the block form of the dense difference -/
theorem sub_toDense [Zero R] [Neg R] [Sub R] (h00 : (0 : R) - 0 = 0)
    (x y : Arr R) (hx : x.phases = []) (hy : y.phases = []) (hidx : y.indices = x.indices)
    (hne : NoEmpty x) (hsx : ShapesOk x) :
    subA x y = .error Err.value ∨
    ∃ z dx dy dz, subA x y = .ok z ∧ toDenseA x = .ok dx ∧ toDenseA y = .ok dy
      ∧ toDenseA z = .ok dz ∧ dx.shape = x.shape ∧ dy.shape = x.shape ∧ dz.shape = x.shape
      ∧ ∀ p, inBox x.shape p = true → dz.get p = dx.get p - dy.get p := by
  by_cases hs : ∀ s, s ∈ x.sectors ↔ s ∈ y.sectors
  · right
    obtain ⟨bl, hz⟩ := (sub_error_iff x y).2.2 hs
    obtain ⟨dx, dy, dz, h1, h2, h3, s1, s2, s3, h⟩ :=
      toDense_rel₃ x y { x with blocks := bl } (by rw [hidx]) rfl hne (fun _ u v w => w = u - v)
        (fun p sec off hp hloc => sub_strict_elem h00 x y _ hz hx hy sec off
          (fun _ hb => hsx.inBox hp hloc hb))
    exact ⟨_, dx, dy, dz, hz, h1, h2, h3, s1, s2, s3, h⟩
  · left
    obtain ⟨e, he⟩ := (sub_error_iff x y).1.mpr hs
    rw [he, (sub_error_iff x y).2.1 e he]

/-- `multiply_diagonal` along `axis` multiplies the dense array by the dense vector laid out
    along that index; charges the vector lacks contribute zeros -/
theorem multiplyDiagonal_toDense [Zero R] [Neg R] [Mul R] (hl : ∀ v : R, 0 * v = 0)
    (hr : ∀ v : R, v * 0 = 0) (a : Arr R) (hab : a.phases = []) (v : BVec R) (axis : Nat)
    (hax : axis < a.ndim) (hne : NoEmpty a) (hsa : ShapesOk a) :
    ∃ d d', toDenseA a = .ok d ∧ toDenseA (multiplyDiagonal a v axis) = .ok d'
      ∧ d.shape = a.shape ∧ d'.shape = a.shape
      ∧ ∀ p, inBox a.shape p = true →
          d'.get p = d.get p * v.denseAt (a.indices.getD axis default) (p.getD axis 0) := by
  refine toDense_rel₂ a (multiplyDiagonal a v axis) rfl hne
    (fun p u w => w = u * v.denseAt (a.indices.getD axis default) (p.getD axis 0))
    (fun p sec off hp hloc => ?_)
  rw [multiplyDiagonal_elem hl a hab v axis sec off (fun _ hb => hsa.inBox hp hloc hb)]
  have hax' := locateAll_axis hloc (by simpa [shape] using inBox_length hp) axis hax
  simp only [BVec.denseAt, hax', BVec.elem]
  cases alookup v.blocks (sec.getD axis (0, 0)) <;> simp [hr]

/-- value view of the transposed array at the permuted address (`axes` a permutation, distinct
    sector keys of full length, blocks of full rank) -/
theorem transposeA_elem [Zero R] [Neg R] (a : Arr R) (axes : List Nat)
    (hperm : isPerm axes a.ndim = true) (hab : a.phases = []) (hnd : a.sectors.Nodup)
    (hlen : ∀ s ∈ a.sectors, s.length = a.ndim)
    (hshape : ∀ s b, alookup a.blocks s = some b → b.shape.length = a.ndim)
    (s : Sector) (hs : s.length = a.ndim) (off : List Nat)
    (hoff : ∀ b, alookup a.blocks s = some b → inBox b.shape off = true) :
    (transposeA a axes).elem (permuted s axes) (permuted off axes) = a.elem s off :=
  Arr.transposeA_elem a axes hperm hab hnd hlen hshape s hs off hoff

/-- `transpose` commutes with densification: the dense array of the transposed array is the
    `np.transpose` of the dense array (its entry at the permuted position is the original entry
    and its shape is the permuted shape) -/
theorem transposeA_toDense [Zero R] [Neg R] (a : Arr R) (axes : List Nat)
    (hperm : isPerm axes a.ndim = true) (hab : a.phases = []) (hne : NoEmpty a)
    (hsa : ShapesOk a) (hnd : a.sectors.Nodup) (hlen : ∀ s ∈ a.sectors, s.length = a.ndim) :
    ∃ d d', toDenseA a = .ok d ∧ toDenseA (transposeA a axes) = .ok d' ∧ d.shape = a.shape
      ∧ d'.shape = permuted a.shape axes
      ∧ ∀ p, inBox a.shape p = true → d'.get (permuted p axes) = d.get p := by
  have hlt := isPerm_lt hperm
  have hsh : (transposeA a axes).shape = permuted a.shape axes := by
    simp only [shape, transposeA, permuted_map]
  rw [← hsh]
  refine toDense_reindex a _ hne ?_ (permuted · axes)
    (fun p hp => hsh ▸ inBox_permuted hp axes (by simpa [shape, ndim] using hlt))
    (fun p s off hp hl => ?_)
  · exact noEmpty_permuted hne axes
  · have hpl : p.length = a.indices.length := by simpa [shape] using inBox_length hp
    exact ⟨_, _, locateAll_permuted hl hpl axes,
      Arr.transposeA_elem a axes hperm hab hnd hlen
        (fun s b hb => by simpa [ndim] using blockShape?_shape_length (hsa.2 s b hb))
        s (locateAll_length hl hpl).1 off (fun _ hb => hsa.inBox hp hl hb)⟩

/-- every structural hypothesis used above follows from the validity predicate of C01 -/
theorem hypotheses_of_validB (a : Arr R) (h : a.validB = true) :
    ShapesOk a ∧ a.sectors.Nodup ∧ (∀ s ∈ a.sectors, s.length = a.ndim)
    ∧ (a.fermi = false → a.phases = []) := by
  exact ⟨validB_shapesOk h, validB_nodup h, validB_length h, phases_nil_of_validB h⟩

/-! ## the hypotheses are satisfiable: scalar laws for `GRat`/`Int`, concrete arrays over `Int` -/

section Examples

/-- the scalar laws used above hold in the driver's Gaussian rationals -/
theorem GRat_laws :
    (-(0 : GRat) = 0) ∧ (Conj.conj (0 : GRat) = 0) ∧ ((0 : GRat) - 0 = 0)
    ∧ (∀ v : GRat, 0 + v = v) ∧ (∀ v : GRat, v + 0 = v)
    ∧ (∀ v : GRat, 0 * v = 0) ∧ (∀ v : GRat, v * 0 = 0)
    ∧ (∀ u v : GRat, u * v = v * u) ∧ (∀ k : GRat, (0 : GRat) / k = 0) := by
  refine ⟨by decide, by decide, ?_, ?_, ?_, ?_, ?_, ?_, ?_⟩
  · show GRat.mk (0 - 0) (0 - 0) = GRat.mk 0 0
    rw [Rat.sub_self]
  · rintro ⟨a, b⟩; show GRat.mk (0 + a) (0 + b) = _; rw [Rat.zero_add, Rat.zero_add]
  · rintro ⟨a, b⟩; show GRat.mk (a + 0) (b + 0) = _; rw [Rat.add_zero, Rat.add_zero]
  · rintro ⟨a, b⟩; show GRat.mk (0 * a - 0 * b) (0 * b + 0 * a) = GRat.mk 0 0
    rw [Rat.zero_mul, Rat.zero_mul, Rat.sub_self, Rat.add_zero]
  · rintro ⟨a, b⟩; show GRat.mk (a * 0 - b * 0) (a * 0 + b * 0) = GRat.mk 0 0
    rw [Rat.mul_zero, Rat.mul_zero, Rat.sub_self, Rat.add_zero]
  · rintro ⟨a, b⟩ ⟨c, d⟩
    show GRat.mk (a * c - b * d) (a * d + b * c) = GRat.mk (c * a - d * b) (c * b + d * a)
    rw [Rat.mul_comm a c, Rat.mul_comm b d, Rat.mul_comm a d, Rat.mul_comm b c, Rat.add_comm]
  · rintro ⟨c, d⟩
    show GRat.mk ((0 * c + 0 * d) / _) ((0 * c - 0 * d) / _) = GRat.mk 0 0
    rw [Rat.zero_mul, Rat.zero_mul, Rat.add_zero, Rat.sub_self, Rat.div_def, Rat.zero_mul]

namespace Ex
/-- a U(1) index with charges 0 (size 1) and 1 (size 2) -/
def ix (d : Bool) : Index := .mk [((0, 0), 1), ((1, 0), 2)] d none
/-- a 3×3 U(1) matrix of charge 0 storing both of its sectors -/
def x : Arr Int :=
  { sym := .U1, fermi := false, indices := [ix false, ix true], charge := (0, 0),
    blocks := [([(0, 0), (0, 0)], ⟨[1, 1], #[5]⟩), ([(1, 0), (1, 0)], ⟨[2, 2], #[1, 2, 3, 4]⟩)] }
/-- the same structure storing only one sector (different sparsity) -/
def y : Arr Int := { x with blocks := [([(1, 0), (1, 0)], ⟨[2, 2], #[10, 20, 30, 40]⟩)] }
/-- a diagonal vector that lacks charge 0 -/
def v : BVec Int := ⟨[((1, 0), ⟨[2], #[2, 3]⟩)]⟩

def dataOf (r : Except Err (Blk Int)) : Option (List Nat × List Int) :=
  match r with | .ok b => some (b.shape, b.data.toList) | .error _ => none
def errOf {α : Type} (r : Except Err α) : Option Err :=
  match r with | .ok _ => none | .error e => some e
end Ex
open Ex

example : x.validB = true ∧ y.validB = true := by decide
example : NoEmpty x ∧ x.phases = [] ∧ y.phases = [] ∧ y.indices = x.indices :=
  ⟨by decide, rfl, rfl, rfl⟩
example : ShapesOk x ∧ x.sectors.Nodup ∧ (∀ s ∈ x.sectors, s.length = x.ndim) :=
  let h := hypotheses_of_validB x (by decide); ⟨h.1, h.2.1, h.2.2.1⟩
example : isPerm [1, 0] x.ndim = true := by decide
-- different stored sectors in the two operands
example : x.sectors ≠ y.sectors := by decide

-- the dense arrays, computed by the model
example : dataOf (toDenseA x) = some ([3, 3], [5, 0, 0, 0, 1, 2, 0, 3, 4]) := by decide
example : dataOf (toDenseA y) = some ([3, 3], [0, 0, 0, 0, 10, 20, 0, 30, 40]) := by decide
example : dataOf (addA x y >>= toDenseA) = some ([3, 3], [5, 0, 0, 0, 11, 22, 0, 33, 44]) := by decide
example : dataOf (mulA x y >>= toDenseA) = some ([3, 3], [0, 0, 0, 0, 10, 40, 0, 90, 160]) := by decide
example : dataOf (mulA y x >>= toDenseA) = some ([3, 3], [0, 0, 0, 0, 10, 40, 0, 90, 160]) := by decide
example : errOf (subA x y) = some Err.value ∧ errOf (subA x x) = none := by decide
example : dataOf (toDenseA (transposeA x [1, 0])) = some ([3, 3], [5, 0, 0, 0, 1, 3, 0, 2, 4]) := by
  decide
example : dataOf (toDenseA (multiplyDiagonal x v 1)) = some ([3, 3], [0, 0, 0, 0, 2, 6, 0, 6, 12]) := by
  decide
example : locateAll x.indices [2, 1] = some ([(1, 0), (1, 0)], [1, 0]) ∧ x.elem [(1, 0), (1, 0)] [1, 0] = 3 := by
  decide

-- the theorems instantiated on these values (all hypotheses discharged)
example := neg_toDense (R := Int) (by decide) x rfl (by decide)
example := smul_toDense (R := Int) 7 (by decide) x rfl (by decide)
example := sdiv_toDense (R := Int) 2 (by decide) x rfl (by decide)
example := add_toDense (R := Int) Int.zero_add Int.add_zero x y rfl rfl rfl (by decide)
  (validB_shapesOk (a := x) (by decide))
example := mul_toDense (R := Int) Int.zero_mul Int.mul_zero x y rfl rfl rfl (by decide)
  (validB_shapesOk (a := x) (by decide))
example := sub_toDense (R := Int) (by decide) x y rfl rfl rfl (by decide)
  (validB_shapesOk (a := x) (by decide))
example := multiplyDiagonal_toDense (R := Int) Int.zero_mul Int.mul_zero x rfl v 1 (by decide)
  (by decide) (validB_shapesOk (a := x) (by decide))
example := transposeA_toDense (R := Int) x [1, 0] (by decide) rfl (by decide)
  (validB_shapesOk (a := x) (by decide)) (validB_nodup (a := x) (by decide))
  (validB_length (a := x) (by decide))
example := conj_toDense (R := GRat) GRat_laws.2.1
example := mul_comm_obs (R := GRat) GRat_laws.2.2.2.2.2.1 GRat_laws.2.2.2.2.2.2.1 GRat_laws.2.2.2.2.2.2.2.1

end Examples

end SymmModel.C08
