/- Property C10 — umbrella incl. C10e (the six bracketings without guard on the index tables). -/
import SymmModel.Props.C10All3
import SymmModel.Props.C10e
