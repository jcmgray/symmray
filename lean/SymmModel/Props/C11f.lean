/-
  Property C11 (sixth part).

  1. `svd` / `svd_truncated` factors contracted with `tensordot_fermionic` (`Arr.tensordotF`,
     `Recon3P.svdTensordot`: `absorb=None` → `U.multiply_diagonal(s,1)`, `VH`; otherwise the absorbed
     `U'`, `VH'`) in EVERY contraction mode (blockwise / fused / auto) and for EVERY `absorb` option,
     with and without truncation.
     Statements are at every address of `x`'s index tables (`inBox (blockShapeD x.indices s) off`):
     no premise on the result's own blocks (C06d `tensordotF_to_blockwise'`).
     `qr_reconstructs_tensordotF_all_modes`, `svd_reconstructs_tensordotF_all_modes`: C11e's
     `*_any_mode` theorems without the own-box premise.
     Proof: `Recon3P.tdotF_pair_any_mode` — the contraction of any aligned pair of factors
     (`Recon3P.Pair`), blockwise by the graded semantics, fused / auto by C06d.
  2. The structure clauses "every block of Q and U has orthonormal columns, every block of V† has
     orthonormal rows, R blocks are upper triangular, singular values …" are per-block kernel
     contracts (`K.QIsoBlock`, `K.OrthoBlock`, `K.RUpperBlock`, any predicate on the singular-value
     blocks).  `q_blocks_orthonormal`, `u_vh_blocks_orthonormal`, `r_blocks_upper_triangular`,
     `singular_values_inherit`: they hold for the VALUE VIEW of the returned arrays (pending signs
     included), abelian and fermionic inputs alike.  Array level, abelian, through the library's
     adjoint and contraction: `qr_isometry_array` (`Q†·Q = 1` on the bond), `svd_isometry_array`
     (`U†·U = 1`, `VH·VH† = 1`).
     The array-level statement for FERMIONIC factors through `dagger()` and `@` (`q.dagger() @ q`)
     is not in this file: the product is `±1` per bond charge with a sign that depends on the
     direction of `x`'s row index, on `x`'s parity and on its labels (see the examples at the end:
     `-1` on odd bond charges when the row index is dual, a further global `-1` for an odd `x` with
     one non-dual label — the convention of known finding `norm-odd-dual-label`); C11g
     (`qr_isometry_fermionic`, `svd_isometry_fermionic`) states it with that sign.
-/
import SymmModel.Proofs.Recon3Iso
import SymmModel.Props.C11All3

namespace SymmModel.C11
open SymmModel LinalgLemmas ReconP Recon2P Recon3P

variable {R : Type}

section tdot
variable [CommRing R]

theorem svdTensordot_def (sqrtK : Blk R → Blk R) (u : Arr R) (s : BVec R) (vh : Arr R)
    (tm : TdotMode) :
    svdTensordot none tm sqrtK u s vh = (multiplyDiagonal u s 1).tensordotF vh (.pair [1] [0]) tm
    ∧ ∀ m, svdTensordot (some m) tm sqrtK u s vh
        = (absorbA m sqrtK u s vh).1.tensordotF (absorbA m sqrtK u s vh).2 (.pair [1] [0]) tm :=
  ⟨rfl, fun _ => rfl⟩

/-- **svd_absorb_tensordotF.**  `u, s, vh = svd(x)`, `x` a valid fermionic matrix (sorted labels,
    any pending signs).  For every `absorb` option and every contraction mode the `tensordot` of the
    returned factors succeeds, carries `x`'s labels, stores every sector of `x`, and has `x`'s
    element at every address of `x`'s index tables. -/
theorem svd_absorb_tensordotF (K : Kernels R) (hK : K.ShapeOk) (hC : K.SVDContract) (x : Arr R)
    (hv : x.validB = true) (h2 : x.ndim = 2) (hf : x.fermi = true)
    (hlab : SortedLabels x.oddpos) (u : Arr R) (s : BVec R) (vh : Arr R)
    (hsvd : svdA K x = .ok (u, s, vh)) (sqrtK : Blk R → Blk R) (am : Option Absorb)
    (tm : TdotMode) (hsq : am = some .both → SqrtOn sqrtK s) :
    ∃ y, svdTensordot am tm sqrtK u s vh = .ok y
      ∧ y.oddpos = x.oddpos ∧ (∀ sec ∈ x.sectors, sec ∈ y.sectors)
      ∧ (tm = .blockwise → y.phases = [] ∧ y.sectors = x.sectors)
      ∧ ∀ sec off, inBox (Arr.blockShapeD x.indices sec) off = true →
          y.elem sec off = x.elem sec off := by
  obtain ⟨rfl, rfl, rfl⟩ := svd_factors_eq hv h2 hsvd
  have : GradedP.SignRing R := signRing_of_ring
  rw [svdTensordot_eq (aligned_svd (K := K) hv h2) sqrtK am tm]
  obtain ⟨y, h1, h2', h3, h4, _, h5, h6⟩ := tdotF_pair_any_mode hv h2 hlab
    (svd_pair hK hv h2 hf (modeOf am) sqrtK) tm (Or.inr ⟨fun a => zero_mul a, fun a => mul_zero a⟩)
  refine ⟨y, h1, h2', h3, h4, fun s off hbox => ?_⟩
  apply recon_of_blocks hv h2 y _ s off (addrOf_of_table hv hbox) (fun hs => h6 s hs off hbox)
  intro s b hm m n hs i j hi hj
  have hwf : b.wf = true := Arr.validB_block_wf hv hm
  have hsh := svd_itemShape hK hv h2 (s, b) hm
  have hval := h5 (s, b) hm i j
  simp only [hs, List.getD_cons_zero, List.getD_cons_succ] at hsh hval
  rw [hval hi hj, absorbed_fold (modeOf am) sqrtK hsh
      (fun hmo => by
        have := sqrtItems_svd hK hv h2 (hsq (modeOf_both hmo)) (s, b) hm
        simp only [hs, List.getD_cons_zero, List.getD_cons_succ] at this
        exact this) hi hj,
    hC b m n hs hwf i j hi hj]

open Finset in
/-- **svd_truncated_tensordotF.**  After truncation with `counts`: for every `absorb` option and
    every contraction mode the `tensordot` of the returned factors succeeds, carries `x`'s labels,
    stores every sector with a non-zero count (in blockwise mode exactly those, no pending sign),
    has the entry `± Σ_{t<c} (u[i,t]·s[t])·vh[t,j]` on a kept block and `0` at every table address
    of every other sector. -/
theorem svd_truncated_tensordotF (K : Kernels R) (hK : K.ShapeOk) (x : Arr R)
    (hv : x.validB = true) (h2 : x.ndim = 2) (hf : x.fermi = true)
    (hlab : SortedLabels x.oddpos) (u : Arr R) (s : BVec R) (vh : Arr R)
    (hsvd : svdA K x = .ok (u, s, vh)) (counts : List Nat)
    (hlen : counts.length = x.blocks.length) (sqrtK : Blk R → Blk R) (am : Option Absorb)
    (tm : TdotMode) (hsq : am = some .both → SqrtOn sqrtK (applyCounts u s vh counts).2.1) :
    ∃ y, svdTensordot am tm sqrtK (applyCounts u s vh counts).1 (applyCounts u s vh counts).2.1
        (applyCounts u s vh counts).2.2 = .ok y
      ∧ y.oddpos = x.oddpos
      ∧ (∀ sec b c, ((sec, b), c) ∈ x.blocks.zip counts → c ≠ 0 → sec ∈ y.sectors)
      ∧ (tm = .blockwise → y.phases = []
          ∧ y.sectors = ((x.blocks.zip counts).filter (fun t => t.2 != 0)).map (fun t => t.1.1))
      ∧ (∀ sec b c, ((sec, b), c) ∈ x.blocks.zip counts → c ≠ 0 →
          ∀ m n, b.shape = [m, n] → ∀ i j, i < m → j < n →
            y.elem sec [i, j] = pend x sec (∑ t ∈ range c,
              ((K.svd b).1.get [i, t] * (K.svd b).2.1.get [t]) * (K.svd b).2.2.get [t, j]))
      ∧ (∀ sec b, ((sec, b), 0) ∈ x.blocks.zip counts → ∀ off,
          inBox (Arr.blockShapeD x.indices sec) off = true → y.elem sec off = 0)
      ∧ (∀ sec, sec ∉ x.sectors → ∀ off,
          inBox (Arr.blockShapeD x.indices sec) off = true → y.elem sec off = 0) := by
  obtain ⟨rfl, rfl, rfl⟩ := svd_factors_eq hv h2 hsvd
  rw [applyCounts_eq (S := fun b => (K.svd b).2.1) hv h2 hlen] at hsq ⊢
  have : GradedP.SignRing R := signRing_of_ring
  rw [svdTensordot_eq (aligned_trunc (K := K) hv h2 hlen) sqrtK am tm]
  obtain ⟨y, hy, hyo, hys, hbw, _, h5, hz⟩ := tdotF_pair_any_mode hv h2 hlab
    (trunc_pair hK hv h2 hf hlen (modeOf am) sqrtK) tm
    (Or.inr ⟨fun a => zero_mul a, fun a => mul_zero a⟩)
  have he : ∀ t ∈ kept x counts, ∀ m n, t.1.2.shape = [m, n] → ∀ i j, i < m → j < n →
      y.elem t.1.1 [i, j]
        = pend x t.1.1 (∑ t' ∈ range t.2,
            ((K.svd t.1.2).1.get [i, t'] * (K.svd t.1.2).2.1.get [t']) * (K.svd t.1.2).2.2.get [t', j]) := by
    intro t ht m n hs i j hi hj
    obtain ⟨hb, _, _⟩ := kept_mem hlen ht
    have hwf : t.1.2.wf = true := Arr.validB_block_wf hv hb
    have hi' : i < t.1.2.shape.getD 0 0 := by rw [hs]; exact hi
    have hj' : j < t.1.2.shape.getD 1 0 := by rw [hs]; exact hj
    obtain ⟨a1, _, _, _, a5, _⟩ := hK.svd t.1.2 m n hs hwf
    have hp := h5 t ht i j (by show i < (K.svd t.1.2).1.shape.getD 0 0; rw [a1]; exact hi)
      (by show j < (K.svd t.1.2).2.2.shape.getD 1 0; rw [a5]; exact hj)
    simp only at hp
    rw [hp, absorbed_fold (modeOf am) sqrtK (trunc_itemShape hK hv h2 hlen t ht)
        (fun hmo => sqrtItems_trunc (hsq (modeOf_both hmo)) t ht) hi' hj',
      sliced_fold_eq_sum hK hs hwf t.2 hi hj, pend_eq]
  have hkeys : ((x.blocks.zip counts).map (fun t => t.1.1)).Nodup := by
    have e : (x.blocks.zip counts).map (fun t => t.1.1)
        = ((x.blocks.zip counts).map (·.1)).map (·.1) := by rw [List.map_map]; rfl
    rw [e, tri_map_fst hlen]; exact Arr.validB_nodup hv
  refine ⟨y, hy, hyo, ?_, hbw, ?_, ?_, ?_⟩
  · intro sec b c hm hc0
    exact hys sec (List.mem_map.mpr ⟨((sec, b), c), List.mem_filter.mpr ⟨hm, by simpa using hc0⟩, rfl⟩)
  · intro sec b c hm hc0 m n hs i j hi hj
    have hk : ((sec, b), c) ∈ kept x counts := mem_kept_iff.mpr ⟨hm, hc0⟩
    exact he _ hk m n hs i j hi hj
  · intro sec b hm off hbox
    apply hz _ _ off hbox
    intro hmem
    obtain ⟨t, ht, e⟩ := List.mem_map.mp hmem
    have ht' := List.mem_filter.mp ht
    have := List.inj_on_of_nodup_map hkeys ht'.1 hm e
    rw [this] at ht'
    simp at ht'
  · intro sec hns off hbox
    apply hz _ _ off hbox
    intro hmem
    obtain ⟨t, ht, e⟩ := List.mem_map.mp hmem
    exact hns (e ▸ List.mem_map.mpr ⟨t.1, (kept_mem hlen ht).1, rfl⟩)

open Finset in
/-- **svd_truncated_tensordotF_minus_discarded.**  Under the svd value contract: on a kept block
    `x − tensordot(U', VH')` is exactly the discarded part, in every mode, for every `absorb`. -/
theorem svd_truncated_tensordotF_minus_discarded (K : Kernels R) (hK : K.ShapeOk)
    (hC : K.SVDContract) (x : Arr R) (hv : x.validB = true) (h2 : x.ndim = 2)
    (hf : x.fermi = true) (hlab : SortedLabels x.oddpos) (u : Arr R) (s : BVec R) (vh : Arr R)
    (hsvd : svdA K x = .ok (u, s, vh)) (counts : List Nat)
    (hlen : counts.length = x.blocks.length) (sqrtK : Blk R → Blk R) (am : Option Absorb)
    (tm : TdotMode) (hsq : am = some .both → SqrtOn sqrtK (applyCounts u s vh counts).2.1) :
    ∃ y, svdTensordot am tm sqrtK (applyCounts u s vh counts).1 (applyCounts u s vh counts).2.1
        (applyCounts u s vh counts).2.2 = .ok y
      ∧ ∀ sec b c, ((sec, b), c) ∈ x.blocks.zip counts → c ≠ 0 →
          ∀ m n, b.shape = [m, n] → c ≤ min m n → ∀ i j, i < m → j < n →
            x.elem sec [i, j] - y.elem sec [i, j] = pend x sec (∑ t ∈ Ico c (min m n),
              ((K.svd b).1.get [i, t] * (K.svd b).2.1.get [t]) * (K.svd b).2.2.get [t, j]) := by
  obtain ⟨y, hy, _, _, _, he, _⟩ := svd_truncated_tensordotF K hK x hv h2 hf hlab u s vh
    hsvd counts hlen sqrtK am tm hsq
  refine ⟨y, hy, ?_⟩
  intro sec b c hm hc0 m n hs hc i j hi hj
  have hk : ((sec, b), c) ∈ kept x counts := mem_kept_iff.mpr ⟨hm, hc0⟩
  rw [pend_eq]
  exact trunc_diff_fermi hC hv hlen hk hs hc hi hj
    ((he sec b c hm hc0 m n hs i j hi hj).trans (pend_eq x sec _))

open Finset in
theorem truncation_error_tensordotF (conj : R →+* R) (K : Kernels R) (hK : K.ShapeOk)
    (hC : K.SVDContract) (x : Arr R) (hv : x.validB = true) (h2 : x.ndim = 2)
    (hf : x.fermi = true) (hlab : SortedLabels x.oddpos) (u : Arr R) (s : BVec R) (vh : Arr R)
    (hsvd : svdA K x = .ok (u, s, vh)) (counts : List Nat)
    (hlen : counts.length = x.blocks.length) (sqrtK : Blk R → Blk R) (am : Option Absorb)
    (tm : TdotMode) (hsq : am = some .both → SqrtOn sqrtK (applyCounts u s vh counts).2.1) :
    ∃ y, svdTensordot am tm sqrtK (applyCounts u s vh counts).1 (applyCounts u s vh counts).2.1
        (applyCounts u s vh counts).2.2 = .ok y
      ∧ ∀ sec b c, ((sec, b), c) ∈ x.blocks.zip counts → c ≠ 0 →
          ∀ m n, b.shape = [m, n] → K.OrthoBlock conj b → c ≤ min m n →
            ∑ i ∈ range m, ∑ j ∈ range n,
                conj (x.elem sec [i, j] - y.elem sec [i, j]) * (x.elem sec [i, j] - y.elem sec [i, j])
              = ∑ t ∈ Ico c (min m n), conj ((K.svd b).2.1.get [t]) * (K.svd b).2.1.get [t] := by
  obtain ⟨y, hy, _, _, _, he, _⟩ := svd_truncated_tensordotF K hK x hv h2 hf hlab u s vh
    hsvd counts hlen sqrtK am tm hsq
  refine ⟨y, hy, ?_⟩
  intro sec b c hm hc0 m n hs hO hc
  have hk : ((sec, b), c) ∈ kept x counts := mem_kept_iff.mpr ⟨hm, hc0⟩
  exact trunc_error_fermi conj hC hv hlen hk hs hO hc
    (fun i j hi hj => (he sec b c hm hc0 m n hs i j hi hj).trans (pend_eq x sec _))

/-- **svd_reconstructs_tensordotF_all_modes.**  C11e's `svd_reconstructs_tensordotF_any_mode`
    without the own-box premise (the `absorb=None` case of `svd_absorb_tensordotF`). -/
theorem svd_reconstructs_tensordotF_all_modes (K : Kernels R) (hK : K.ShapeOk)
    (hC : K.SVDContract) (x : Arr R) (hv : x.validB = true) (h2 : x.ndim = 2)
    (hf : x.fermi = true) (hlab : SortedLabels x.oddpos) (tm : TdotMode) :
    ∃ u s vh c, svdA K x = .ok (u, s, vh)
      ∧ (multiplyDiagonal u s 1).tensordotF vh (.pair [1] [0]) tm = .ok c
      ∧ c.oddpos = x.oddpos ∧ (∀ sec ∈ x.sectors, sec ∈ c.sectors)
      ∧ ∀ sec off, inBox (Arr.blockShapeD x.indices sec) off = true →
          c.elem sec off = x.elem sec off := by
  obtain ⟨y, h1, h2', h3, _, h5⟩ := svd_absorb_tensordotF K hK hC x hv h2 hf hlab _ _ _
    (svdA_eq K hv h2) id none tm (fun h => by cases h)
  exact ⟨_, _, _, y, svdA_eq K hv h2, h1, h2', h3, h5⟩

end tdot

section qr
variable [AddCommMonoid R] [Mul R] [Neg R] [GradedP.SignRing R]

/-- **qr_reconstructs_tensordotF_all_modes.**  C11e's `qr_reconstructs_tensordotF_any_mode`
    without the own-box premise: `x`'s element at every address of `x`'s index tables. -/
theorem qr_reconstructs_tensordotF_all_modes (hz1 : ∀ x : R, 0 * x = 0) (hz2 : ∀ x : R, x * 0 = 0)
    (K : Kernels R) (hK : K.ShapeOk) (hC : K.QRContract) (x : Arr R)
    (hv : x.validB = true) (h2 : x.ndim = 2) (hf : x.fermi = true)
    (hlab : SortedLabels x.oddpos) (tm : TdotMode) :
    ∃ q r c, qrA K x = .ok (q, r) ∧ q.tensordotF r (.pair [1] [0]) tm = .ok c
      ∧ c.oddpos = x.oddpos ∧ (∀ s ∈ x.sectors, s ∈ c.sectors)
      ∧ ∀ s off, inBox (Arr.blockShapeD x.indices s) off = true → c.elem s off = x.elem s off := by
  obtain ⟨c, h1, h2', h3, _, h6⟩ := tdotF_recon_any_mode (L := fun b => (K.qr b).1)
    (Rt := fun b => (K.qr b).2) hz1 hz2 hv h2 hf hlab (facShape_qr hK) hC tm
  exact ⟨_, _, c, qrA_eq K hv h2, h1, h2', h3, h6⟩

end qr

section structure_
variable [CommRing R]

/-- **q_blocks_orthonormal.**  If the QR kernel returns orthonormal columns on every stored block,
    every block of `q` — VALUE VIEW, pending signs of a fermionic `x` included — has orthonormal
    columns.  Abelian and fermionic inputs. -/
theorem q_blocks_orthonormal (conj : R →+* R) (K : Kernels R) (x : Arr R) (hv : x.validB = true)
    (h2 : x.ndim = 2) (hO : ∀ p ∈ x.blocks, K.QIsoBlock conj p.2) :
    ∃ q r, qrA K x = .ok (q, r) ∧
      ∀ s b, (s, b) ∈ x.blocks → ∀ m n, b.shape = [m, n] → ∀ t t', t < min m n → t' < min m n →
        (List.range m).foldl (fun acc i => acc + conj (q.elem s [i, t]) * q.elem s [i, t']) 0
          = if t = t' then 1 else 0 := by
  refine ⟨_, _, qrA_eq K hv h2, ?_⟩
  intro s b hm m n hs t t' ht ht'
  rw [leftF_gram conj hv hm m t t']
  exact hO (s, b) hm m n hs t t' ht ht'

/-- **u_vh_blocks_orthonormal.**  Likewise every block of `u` has orthonormal columns and every
    block of `vh` (on the diagonal sector of the block's column charge; for a fermionic `x` it may
    carry a pending `-1`) orthonormal rows. -/
theorem u_vh_blocks_orthonormal (conj : R →+* R) (K : Kernels R) (x : Arr R)
    (hv : x.validB = true) (h2 : x.ndim = 2) (hO : ∀ p ∈ x.blocks, K.OrthoBlock conj p.2) :
    ∃ u s vh, svdA K x = .ok (u, s, vh) ∧
      ∀ sec b, (sec, b) ∈ x.blocks → ∀ m n, b.shape = [m, n] → ∀ t t', t < min m n → t' < min m n →
        (List.range m).foldl (fun acc i => acc + conj (u.elem sec [i, t]) * u.elem sec [i, t']) 0
          = (if t = t' then 1 else 0)
        ∧ (List.range n).foldl (fun acc j =>
            acc + conj (vh.elem [col sec, col sec] [t, j]) * vh.elem [col sec, col sec] [t', j]) 0
          = (if t = t' then 1 else 0) := by
  refine ⟨_, _, _, svdA_eq K hv h2, ?_⟩
  intro sec b hm m n hs t t' ht ht'
  have := hO (sec, b) hm m n hs t t' ht ht'
  exact ⟨by rw [leftF_gram conj hv hm m t t']; exact this.1,
    by rw [show [col sec, col sec] = diagOf sec from rfl, rightF_gram conj hv h2 hm n t t']
       exact this.2⟩

/-- **r_blocks_upper_triangular.**  If the QR kernel returns upper-triangular `R` blocks, every
    block of `r` is upper triangular in the value view. -/
theorem r_blocks_upper_triangular (K : Kernels R) (x : Arr R) (hv : x.validB = true)
    (h2 : x.ndim = 2) (hU : ∀ p ∈ x.blocks, K.RUpperBlock p.2) :
    ∃ q r, qrA K x = .ok (q, r) ∧
      ∀ s b, (s, b) ∈ x.blocks → ∀ m n, b.shape = [m, n] → ∀ t j, t < min m n → j < t →
        r.elem [col s, col s] [t, j] = 0 := by
  refine ⟨_, _, qrA_eq K hv h2, ?_⟩
  intro s b hm m n hs t j ht hjt
  exact rightF_zero hv h2 hm [t, j] (hU (s, b) hm m n hs t j ht hjt)

omit [CommRing R] in
/-- **singular_values_inherit.**  Any per-block property of the singular values the kernel promises
    (non-negative, non-increasing, …) holds for every block of the returned `BlockVector`, which
    has exactly one block per stored block of `x`, keyed by its column charge. -/
theorem singular_values_inherit (K : Kernels R) (x : Arr R) (hv : x.validB = true)
    (h2 : x.ndim = 2) (P : Blk R → Prop) (hP : ∀ p ∈ x.blocks, P (K.svd p.2).2.1) :
    ∃ u s vh, svdA K x = .ok (u, s, vh) ∧ s.blocks.map (·.1) = x.sectors.map col
      ∧ ∀ q ∈ s.blocks, P q.2 := by
  refine ⟨_, _, _, svdA_eq K hv h2, ?_, ?_⟩
  · simp [Arr.sectors, List.map_map, Function.comp_def, colOf]
  · intro q hq
    obtain ⟨p, hp, rfl⟩ := List.mem_map.mp hq
    exact hP p hp

variable [Conj R]

/-- **qr_isometry_array** (abelian).  `Q† · Q` — the library's adjoint (`conj` then reversed
    axes, `Arr.adjA`) and blockwise contraction — stores one block per bond charge `c`, on `(c, c)`,
    and it is the identity: entry `[t, t']` is `1` if `t = t'` else `0`. -/
theorem qr_isometry_array (conj : R →+* R) (hcj : ∀ v : R, Conj.conj v = conj v) (K : Kernels R)
    (hK : K.ShapeOk) (x : Arr R) (hv : x.validB = true) (h2 : x.ndim = 2) (hf : x.fermi = false)
    (hO : ∀ p ∈ x.blocks, K.QIsoBlock conj p.2) :
    ∃ q r, qrA K x = .ok (q, r)
      ∧ (tensordotBlockwise q.adjA q [0] [1] [0] [1]).sectors = x.sectors.map (fun s => [col s, col s])
      ∧ ∀ s b, (s, b) ∈ x.blocks → ∀ m n, b.shape = [m, n] → ∀ t t', t < min m n → t' < min m n →
          (tensordotBlockwise q.adjA q [0] [1] [0] [1]).elem [col s, col s] [t, t']
            = if t = t' then 1 else 0 := by
  obtain ⟨g1, _, g3⟩ := gram_left_array conj hcj hv h2 hf (facShape_qr hK)
  refine ⟨_, _, qrA_eq K hv h2, g1, ?_⟩
  intro s b hm m n hs t t' ht ht'
  rw [show [col s, col s] = diagOf s from rfl, g3 s b hm m n hs t t' ht ht']
  exact hO (s, b) hm m n hs t t' ht ht'

/-- **svd_isometry_array** (abelian).  `U† · U = 1` and `VH · VH† = 1` on the bond index. -/
theorem svd_isometry_array (conj : R →+* R) (hcj : ∀ v : R, Conj.conj v = conj v) (K : Kernels R)
    (hK : K.ShapeOk) (x : Arr R) (hv : x.validB = true) (h2 : x.ndim = 2) (hf : x.fermi = false)
    (hO : ∀ p ∈ x.blocks, K.OrthoBlock conj p.2) :
    ∃ u s vh, svdA K x = .ok (u, s, vh)
      ∧ (tensordotBlockwise u.adjA u [0] [1] [0] [1]).sectors = x.sectors.map (fun s => [col s, col s])
      ∧ (tensordotBlockwise vh vh.adjA [0] [1] [0] [1]).sectors = x.sectors.map (fun s => [col s, col s])
      ∧ ∀ sec b, (sec, b) ∈ x.blocks → ∀ m n, b.shape = [m, n] → ∀ t t', t < min m n → t' < min m n →
          (tensordotBlockwise u.adjA u [0] [1] [0] [1]).elem [col sec, col sec] [t, t']
            = (if t = t' then 1 else 0)
          ∧ (tensordotBlockwise vh vh.adjA [0] [1] [0] [1]).elem [col sec, col sec] [t, t']
            = (if t = t' then 1 else 0) := by
  obtain ⟨g1, _, g3⟩ := gram_left_array conj hcj hv h2 hf (facShape_svd hK)
  obtain ⟨k1, _, k3⟩ := gram_right_array conj hcj hv h2 hf (facShape_svd hK)
  refine ⟨_, _, _, svdA_eq K hv h2, g1, k1, ?_⟩
  intro sec b hm m n hs t t' ht ht'
  have := hO (sec, b) hm m n hs
  refine ⟨?_, ?_⟩
  · rw [show [col sec, col sec] = diagOf sec from rfl, g3 sec b hm m n hs t t' ht ht']
    exact (this t t' ht ht').1
  · rw [show [col sec, col sec] = diagOf sec from rfl, k3 sec b hm m n hs t t' ht ht']
    rw [(this t' t ht' ht).2]
    exact if_congr eq_comm rfl rfl

end structure_

open scoped SymmModel.Lazy

/-- `exT` (odd, three labels, a pending sign) truncated with counts `[1, 2]`: every `absorb` option
    × every contraction mode gives the same product — first row of the first block kept, the second
    block with its pending sign -/
example : ((svdA Kernels.trivialFactor exT).toOption.map (fun p =>
      let t := applyCounts p.1 p.2.1 p.2.2 [1, 2]
      ([none, some Absorb.left, some Absorb.both, some Absorb.right].flatMap (fun am =>
        [TdotMode.blockwise, TdotMode.fused, TdotMode.auto].map (fun tm =>
          (svdTensordot am tm id t.1 t.2.1 t.2.2).toOption.map (fun y =>
            (y.blocks.map (fun q => (q.1, q.2.data.toList)), y.phases, y.oddpos))))))
    == some (List.replicate 12 (some
        ([([(0, 0), (1, 0)], [1, 2, 0, 0]), ([(1, 0), (2, 0)], [-5, -6, -7, -8])], [],
         [(7, true), (2, false), (5, false)])))) = true := by decide +kernel

/-- hypotheses of the truncated theorems hold for `exO`, `trivialFactor`, counts `[1, 2]`
    (C11c) and the scalar laws at `Int` -/
example (am : Option Absorb) (tm : TdotMode) :=
  svd_truncated_tensordotF (R := Int) Kernels.trivialFactor trivialFactor_shapeOk exO (by decide) rfl
    rfl sortedLabels_ex _ _ _ (svdA_eq Kernels.trivialFactor (by decide) rfl) [1, 2] rfl id am tm
    (fun _ => sqrtOn_id_trivial_trunc exO (by decide) rfl _ _ _
      (svdA_eq Kernels.trivialFactor (by decide) rfl) [1, 2] rfl (by decide))

/-- abelian matrix with upper-triangular `2 × 2` blocks: `trivialFactor` gives `q = 1`, `r = b` -/
def exUT : Arr Int :=
  { sym := .U1, fermi := false, charge := (1, 0),
    indices := [Index.mk [((0, 0), 2), ((1, 0), 2)] true none,
                Index.mk [((1, 0), 2), ((2, 0), 2)] false none],
    blocks := [([(0, 0), (1, 0)], ⟨[2, 2], #[1, 2, 0, 3]⟩), ([(1, 0), (2, 0)], ⟨[2, 2], #[5, 6, 0, 7]⟩)] }

theorem qiso_22 (b : Blk Int) (hs : b.shape = [2, 2])
    (h : ∀ t t', t < 2 → t' < 2 →
      (List.range 2).foldl (fun acc i => acc + (Kernels.trivialFactor.qr b).1.get [i, t]
          * (Kernels.trivialFactor.qr b).1.get [i, t']) 0 = (if t = t' then 1 else 0)) :
    Kernels.trivialFactor.QIsoBlock (RingHom.id Int) b := by
  intro m n hs' t t' ht ht'
  rw [hs] at hs'
  have hm : m = 2 := (List.cons.inj hs').1.symm
  have hn : n = 2 := (List.cons.inj (List.cons.inj hs').2).1.symm
  subst hm hn
  exact h t t' ht ht'

theorem rupper_22 (b : Blk Int) (hs : b.shape = [2, 2])
    (h : (Kernels.trivialFactor.qr b).2.get [1, 0] = 0) : Kernels.trivialFactor.RUpperBlock b := by
  intro m n hs' t j ht hjt
  rw [hs] at hs'
  have hm : m = 2 := (List.cons.inj hs').1.symm
  have hn : n = 2 := (List.cons.inj (List.cons.inj hs').2).1.symm
  subst hm hn
  have : t = 1 ∧ j = 0 := by
    have : t < 2 := ht
    omega
  obtain ⟨rfl, rfl⟩ := this
  exact h

example : exUT.validB = true ∧ exUT.ndim = 2 ∧ exUT.fermi = false
    ∧ (∀ v : Int, Conj.conj v = (RingHom.id Int) v)
    ∧ (∀ p ∈ exUT.blocks, Kernels.trivialFactor.QIsoBlock (RingHom.id Int) p.2)
    ∧ (∀ p ∈ exUT.blocks, Kernels.trivialFactor.RUpperBlock p.2) := by
  refine ⟨by decide, rfl, rfl, fun _ => rfl, ?_, ?_⟩
  · intro p hp
    simp only [exUT, List.mem_cons, List.not_mem_nil, or_false] at hp
    rcases hp with rfl | rfl <;>
    · apply qiso_22 _ rfl
      intro t t' ht ht'
      have h1 : t = 0 ∨ t = 1 := by omega
      have h2 : t' = 0 ∨ t' = 1 := by omega
      rcases h1 with rfl | rfl <;> rcases h2 with rfl | rfl <;> decide
  · intro p hp
    simp only [exUT, List.mem_cons, List.not_mem_nil, or_false] at hp
    rcases hp with rfl | rfl <;> exact rupper_22 _ rfl (by decide)

/-- `Q†·Q` of `exUT` at array level: identity blocks on the two bond charges; `r`'s blocks are
    the upper-triangular input blocks -/
example : ((qrA Kernels.trivialFactor exUT).toOption.map (fun p =>
      ((tensordotBlockwise p.1.adjA p.1 [0] [1] [0] [1]).blocks.map (fun q => (q.1, q.2.data.toList)),
       p.2.blocks.map (fun q => (q.1, q.2.data.toList))))
    == some ([([(1, 0), (1, 0)], [1, 0, 0, 1]), ([(2, 0), (2, 0)], [1, 0, 0, 1])],
             [([(1, 0), (1, 0)], [1, 2, 0, 3]), ([(2, 0), (2, 0)], [5, 6, 0, 7])])) = true := by
  decide +kernel

/-- fermionic `q.dagger() @ q` (the theorem is C11g's `qr_isometry_fermionic`): for `exT` (row index dual, odd, three
    labels) it is `-1` on the odd bond charge `1` and `+1` on the even one, no labels; with ONE
    non-dual label instead there is a further global pending `-1` -/
example : ([exT, { exT with oddpos := [(3, false)] }].map (fun a =>
      (qrA Kernels.trivialFactor a).toOption.bind (fun p =>
        (Arr.matmulF p.1.daggerF p.1).toOption.map (fun y =>
          (y.blocks.map (fun q => (q.1, q.2.data.toList)), y.phases, y.oddpos))))
    == [some ([([(1, 0), (1, 0)], [-1, 0, 0, -1]), ([(2, 0), (2, 0)], [1, 0, 0, 1])], [], []),
        some ([([(1, 0), (1, 0)], [-1, 0, 0, -1]), ([(2, 0), (2, 0)], [1, 0, 0, 1])],
              [([(1, 0), (1, 0)], -1), ([(2, 0), (2, 0)], -1)], [])]) = true := by
  decide +kernel

end SymmModel.C11
