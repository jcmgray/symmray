/-
  Property C07, sixth part.

  (1) `callsOk_of_runs`: the calls `callsR runs 0 []` of a concatenation of `RunOk` runs always pass
      `callsOkB`, so the check in the `_runs` round-trip theorems of C07e can be discharged
      (`reshape_roundtrip_fermionic_shapes` / `_abelian_shapes`: hypotheses on the shapes only).
  (2) EVERY plan the planner returns for an input without fused axes has fuse calls of the form the
      round trip needs (`planner_calls_ok`: clusters of consecutive ranges, every group with at least
      two axes, calls left to right) — read off the closed form of the planner
      (`Reshape3.planner_eq`; Proofs/Reshape6c.lean), for all inputs; the certificate `hwf` in the
      statement is not used.  Hence
      `reshape_roundtrip_fermionic_general` / `_abelian_general`: for a valid array without fused
      or empty axes, ANY target of the same dense size for which the planner returns a plan without
      expansion — merged runs, squeezed size-one axes inside, before, after or between runs, however
      the planner groups them — `reshape` there and back restores the value view (`VEq`) exactly.
      The only hypotheses about the planner's answer: it is `.ok t` and `t.2.2 = []`.
  (2b) PLANNER TOTALITY for merge / squeeze targets (`planner_total_items`): the old shape read as
      the planner reads it — items `K d` (axis kept), `Sq` (size-one axis without counterpart; allowed
      where the next target dimension is not 1, and at the end), `M d0 mid dl` (run `d0, mid…, dl`
      merged into one axis, `d0, dl ≥ 2`, inner sizes ≥ 1 — size-one axes INSIDE runs) — the target
      has the kept sizes and the products and is not empty: the planner returns `.ok t` with no unfuse
      and no expansion.  (The first loop succeeds, Proofs/Reshape6e.lean; the later phases by the closed
      form `Reshape3.planner_eq`.)  Hence
      `reshape_roundtrip_fermionic_items` / `_abelian_items`: BOTH reshapes succeed and the value
      view is restored — no hypothesis about the planner at all.  Excluded, explicitly: the empty
      target (known finding reshape-empty-target, `targetOf items ≠ []`).
      The hypotheses `hpos` (positive sizes) and `hprod` (equal products) in the statements of (2) and
      (2b) are not used by the proofs.
  (3) Expansions: the clause is FALSE for targets that insert a size-one axis —
      `roundtrip_expansion_counterexample`: (3,3,2) → (3,3,2,1) → (3,3,2) returns an array whose
      last axis is a FUSED index (of the original axis and the inserted one): the way back squeezes
      by grouping, as the docstring of `reshape` says; the values are the same, the indices are not.
-/
import SymmModel.Proofs.ReshapeIh
import SymmModel.Props.C07e

namespace SymmModel.C07
open SymmModel SymmModel.Reshape SymmModel.Reshape5 ReshapeP FuseP

theorem callsOk_of_runs (runs : List (List Nat)) (hok : ∀ r ∈ runs, RunOk r) :
    callsOkB (callsR runs 0 []) 0 runs.flatten.length = true := by
  have := callsOk_callsR runs 0 [] 0 0 runs.flatten.length hok (by simp) (by simp [sumN])
    (Nat.le_refl _) (by simp)
  simpa [Reshape3.curL] using this

/-- **the fuse calls of every certified plan** of an input without fused axes
    (`hwf` is not used by the proof) -/
theorem planner_calls_ok (shape newshape : List Nat) (t : List Nat × List (List (List Nat)) × List Nat)
    (h : calcReshapeArgs shape newshape (nones shape) = .ok t)
    (hwf : (Plan.ofTriple t).wfB shape (nones shape) newshape = true) :
    CallsOk t.2.1 0 shape.length :=
  calls_of_planner shape newshape t h

variable {R : Type} [Zero R] [Neg R] [Lazy.LawfulNeg R]

/-- **`reshape` there and back, fermionic, every plan without expansion**
    (`hpos`, `hprod` are not used by the proof) -/
theorem reshape_roundtrip_fermionic_general (a y : Arr R) (ns full : List Int) (nsN : List Nat)
    (t : List Nat × List (List (List Nat)) × List Nat)
    (hv : a.validB = true) (hf : a.fermi = true) (hnf : ∀ ix ∈ a.indices, ix.sub = none)
    (hpos : ∀ d ∈ a.shape, 0 < d) (hprod : prod a.shape = prod nsN)
    (h1 : findFullReshape ns a.size = .ok full)
    (h2 : full.mapM (fun (d : Int) => if d < 0 then (throw Err.notimpl : Except Err Nat) else pure d.toNat)
      = .ok nsN)
    (h3 : calcReshapeArgs a.shape nsN a.subsizes = .ok t) (hexp : t.2.2 = [])
    (hy : reshapeArr a ns = .ok y) :
    ∃ z, reshapeArr y (a.shape.map Int.ofNat) = .ok z ∧ z.validB = true ∧ z.fermi = true ∧ VEq z a := by
  obtain ⟨z, hz, g, hvz⟩ := ReshapeI.reshape_roundtrip_vis_generic (ReshapeH.kind_F (R := R)) a y ⟨hv, hf⟩ ns full nsN t
    (ReshapeI.noWinVis_of_noWin _ _ _ (shape_subsizes_length a) (ReshapeH.noWin_unfused a hnf nsN))
    (ReshapeI.noSelfWin_of_noWin (shape_subsizes_length a) (ReshapeH.noWin_unfused a hnf a.shape))
    h1 h2 h3 hexp hy
  exact ⟨z, hz, g.1, g.2, hvz⟩

/-- **`reshape` there and back, abelian, every plan without expansion**
    (`hpos`, `hprod` are not used by the proof) -/
theorem reshape_roundtrip_abelian_general (a y : Arr R) (ns full : List Int) (nsN : List Nat)
    (t : List Nat × List (List (List Nat)) × List Nat)
    (hv : a.validB = true) (hf : a.fermi = false) (hnf : ∀ ix ∈ a.indices, ix.sub = none)
    (hpos : ∀ d ∈ a.shape, 0 < d) (hprod : prod a.shape = prod nsN)
    (h1 : findFullReshape ns a.size = .ok full)
    (h2 : full.mapM (fun (d : Int) => if d < 0 then (throw Err.notimpl : Except Err Nat) else pure d.toNat)
      = .ok nsN)
    (h3 : calcReshapeArgs a.shape nsN a.subsizes = .ok t) (hexp : t.2.2 = [])
    (hy : reshapeArr a ns = .ok y) :
    ∃ z, reshapeArr y (a.shape.map Int.ofNat) = .ok z ∧ z.validB = true ∧ z.fermi = false ∧ VEq z a := by
  obtain ⟨z, hz, g, hvz⟩ := ReshapeI.reshape_roundtrip_vis_generic (ReshapeH.kind_A (R := R)) a y ⟨hv, hf⟩ ns full nsN t
    (ReshapeI.noWinVis_of_noWin _ _ _ (shape_subsizes_length a) (ReshapeH.noWin_unfused a hnf nsN))
    (ReshapeI.noSelfWin_of_noWin (shape_subsizes_length a) (ReshapeH.noWin_unfused a hnf a.shape))
    h1 h2 h3 hexp hy
  exact ⟨z, hz, g.1, g.2, hvz⟩

/-- **hypotheses on the shapes only** (runs with all merged sizes ≥ 2), fermionic -/
theorem reshape_roundtrip_fermionic_shapes (a y : Arr R) (runs : List (List Nat))
    (hv : a.validB = true) (hf : a.fermi = true) (hnf : ∀ ix ∈ a.indices, ix.sub = none)
    (hshape : a.shape = runs.flatten) (hok : ∀ r ∈ runs, RunOk r)
    (hy : reshapeArr a ((runs.map prod).map Int.ofNat) = .ok y) :
    ∃ z, reshapeArr y (a.shape.map Int.ofNat) = .ok z ∧ z.validB = true ∧ z.fermi = true ∧ VEq z a :=
  reshape_roundtrip_fermionic_runs a y runs hv hf hnf hshape hok
    (by
      have : a.ndim = runs.flatten.length := by rw [← hshape]; simp [Arr.shape, Arr.ndim]
      rw [this]; exact callsOk_of_runs runs hok) hy

theorem reshape_roundtrip_abelian_shapes (a y : Arr R) (runs : List (List Nat))
    (hv : a.validB = true) (hf : a.fermi = false) (hnf : ∀ ix ∈ a.indices, ix.sub = none)
    (hshape : a.shape = runs.flatten) (hok : ∀ r ∈ runs, RunOk r)
    (hy : reshapeArr a ((runs.map prod).map Int.ofNat) = .ok y) :
    ∃ z, reshapeArr y (a.shape.map Int.ofNat) = .ok z ∧ z.validB = true ∧ z.fermi = false ∧ VEq z a :=
  reshape_roundtrip_abelian_runs a y runs hv hf hnf hshape hok
    (by
      have : a.ndim = runs.flatten.length := by rw [← hshape]; simp [Arr.shape, Arr.ndim]
      rw [this]; exact callsOk_of_runs runs hok) hy

omit [Zero R] [Neg R] [Lazy.LawfulNeg R] in
/-- **planner totality for merge / squeeze targets**: a plan, no unfuse step, no expansion -/
theorem planner_total_items (items : List Item) (hok : ItemsOk items) (hne : targetOf items ≠ []) :
    ∃ t, calcReshapeArgs (shapeOf items) (targetOf items) (nones (shapeOf items)) = .ok t
      ∧ t.1 = [] ∧ t.2.2 = [] :=
  planner_items_total items hok hne

-- size-one axes before, inside and after the merged runs, a kept axis in between
example : shapeOf [.Sq, .M 3 [1] 2, .Sq, .K 7, .M 2 [] 5, .Sq] = [1, 3, 1, 2, 1, 7, 2, 5, 1]
    ∧ targetOf [.Sq, .M 3 [1] 2, .Sq, .K 7, .M 2 [] 5, .Sq] = [6, 7, 10]
    ∧ ItemsOk [.Sq, .M 3 [1] 2, .Sq, .K 7, .M 2 [] 5, .Sq] := by decide
example := planner_total_items [.Sq, .M 3 [1] 2, .Sq, .K 7, .M 2 [] 5, .Sq] (by decide) (by decide)

/-- **`reshape` there and back, fermionic, unconditional** (merge / squeeze targets)
    (`hpos` is not used by the proof) -/
theorem reshape_roundtrip_fermionic_items (a : Arr R) (hv : a.validB = true) (hf : a.fermi = true)
    (hnf : ∀ ix ∈ a.indices, ix.sub = none) (items : List Item) (hshape : a.shape = shapeOf items)
    (hok : ItemsOk items) (hne : targetOf items ≠ []) (hpos : ∀ d ∈ a.shape, 0 < d) :
    ∃ y z, reshapeArr a ((targetOf items).map Int.ofNat) = .ok y
      ∧ reshapeArr y (a.shape.map Int.ofNat) = .ok z ∧ z.validB = true ∧ z.fermi = true ∧ VEq z a := by
  obtain ⟨y, z, h1, h2, g, h3⟩ := ReshapeI.reshape_roundtrip_items_vis_generic (ReshapeH.kind_F (R := R)) a ⟨hv, hf⟩
    items hshape hok hne
    (ReshapeI.noWinVis_of_noWin _ _ _ (shape_subsizes_length a) (ReshapeH.noWin_unfused a hnf _))
    (ReshapeI.noSelfWin_of_noWin (shape_subsizes_length a) (ReshapeH.noWin_unfused a hnf a.shape))
  exact ⟨y, z, h1, h2, g.1, g.2, h3⟩

/-- **`reshape` there and back, abelian, unconditional** (merge / squeeze targets)
    (`hpos` is not used by the proof) -/
theorem reshape_roundtrip_abelian_items (a : Arr R) (hv : a.validB = true) (hf : a.fermi = false)
    (hnf : ∀ ix ∈ a.indices, ix.sub = none) (items : List Item) (hshape : a.shape = shapeOf items)
    (hok : ItemsOk items) (hne : targetOf items ≠ []) (hpos : ∀ d ∈ a.shape, 0 < d) :
    ∃ y z, reshapeArr a ((targetOf items).map Int.ofNat) = .ok y
      ∧ reshapeArr y (a.shape.map Int.ofNat) = .ok z ∧ z.validB = true ∧ z.fermi = false ∧ VEq z a := by
  obtain ⟨y, z, h1, h2, g, h3⟩ := ReshapeI.reshape_roundtrip_items_vis_generic (ReshapeH.kind_A (R := R)) a ⟨hv, hf⟩
    items hshape hok hne
    (ReshapeI.noWinVis_of_noWin _ _ _ (shape_subsizes_length a) (ReshapeH.noWin_unfused a hnf _))
    (ReshapeI.noSelfWin_of_noWin (shape_subsizes_length a) (ReshapeH.noWin_unfused a hnf a.shape))
  exact ⟨y, z, h1, h2, g.1, g.2, h3⟩

section Examples
open C05

/-- **inserting a size-one axis and reshaping back does NOT restore the indices**: the way back
    groups the inserted axis with its left neighbour (`fuse((2,3))`), so the result's last axis is a
    fused index with sub-sizes (2,1) instead of the original plain index. -/
theorem roundtrip_expansion_counterexample :
    calcReshapeArgs exA.shape [3, 3, 2, 1] exA.subsizes = .ok ([], [], [3])
    ∧ ∃ x z, reshapeArr exA [3, 3, 2, 1] = .ok x ∧ calcReshapeArgs x.shape [3, 3, 2] x.subsizes = .ok ([], [[[2, 3]]], [])
      ∧ reshapeArr x [3, 3, 2] = .ok z ∧ z.shape = [3, 3, 2] ∧ z.subsizes = [none, none, some [2, 1]]
      ∧ z.indices ≠ exA.indices ∧ exA.subsizes = [none, none, none] := by
  refine ⟨by decide +kernel, _, _, rfl, by decide +kernel, rfl, by decide +kernel, by decide +kernel,
    ?_, by decide +kernel⟩
  intro h
  have h' := congrArg (fun idx : List Index => idx.map (fun ix => ix.sub.map (fun s => s.1.map Index.sizeTotal))) h
  revert h'
  show ¬ (Arr.subsizes _ = exA.subsizes)
  decide +kernel

-- squeezes before, inside, after: plans without expansion, covered by the general theorems
example : calcReshapeArgs [1, 1, 3, 1, 2, 1, 1] [3, 2] (nones [1, 1, 3, 1, 2, 1, 1])
    = .ok ([], [[[0, 1, 2, 3], [4, 5, 6]]], []) := by decide
example := reshape_roundtrip_fermionic_general (R := Int) exG _ [4, 4] [4, 4] [4, 4] _ (by decide) rfl
  (by decide) (by decide) (by decide) rfl rfl rfl rfl rfl
example := reshape_roundtrip_abelian_general (R := Int) exA _ [3, -1] [3, 6] [3, 6] _ (by decide) rfl
  (by decide) (by decide) (by decide) rfl rfl rfl rfl rfl
example := reshape_roundtrip_fermionic_shapes (R := Int) exG _ [[2, 2], [2, 2]] (by decide) rfl (by decide)
  rfl (by decide) rfl
example := reshape_roundtrip_fermionic_items (R := Int) exG (by decide) rfl (by decide)
  [.M 2 [] 2, .K 2, .K 2] (by decide) (by decide) (by decide) (by decide)
example := reshape_roundtrip_abelian_items (R := Int) exA (by decide) rfl (by decide)
  [.K 3, .M 3 [] 2] (by decide) (by decide) (by decide) (by decide)

end Examples

end SymmModel.C07
