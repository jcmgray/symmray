import SymmModel.Props.C14All2
import SymmModel.Props.C14d
