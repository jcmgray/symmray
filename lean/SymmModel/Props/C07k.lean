/-
  Property C07 — the planner `calc_reshape_args` there and back on the merge / drop targets, for
  ALL shapes of positive sizes (any number of axes, any sizes).

  `planner_mergeDrop_roundTrip`: for every non-empty target obtained from `shape` by dropping
  size-one axes and/or merging adjacent axes (`targets`), the planner returns a certified plan, and
  from the symbolic result — the merged axes carry the sizes they were merged from — it returns a
  certified plan back to `shape` that leaves no fused axis (`RoundTrip`, Model/ReshapePlan.lean).
  It rests on the planner theory of Proofs/Reshape3a–6e: such a target is a partition of the shape
  into runs (`targets_runs`), which the planner reads as an item list (`mergeDrop_normalise`); the
  plan for an item list is explicit (`Reshape5.planner_items_plan`, an instance of
  `Reshape3.planner_greedy`): the fuse calls of "o"/"g" segments over the old axes, which execute to
  the shape `Reshape3.fusedE` in which each fused axis remembers its part of `shape`
  (`Reshape3.callsOf_exec`, `Reshape5.fusedE_back`); the way back is `planner_back_plan_multi`:
  unfuse every fused axis, left to right (`Reshape5.back_plan_exec`).
  Excluded: the empty target of an all-singleton shape, on which the planner raises
  (`planner_empty_target_raises`, known finding reshape-empty-target), and zero-size axes.

  `planner_finite_ok` is the instance the harness compares with the real `calc_reshape_args`
  pair by pair: 1..5 axes of sizes in {1,2,3,4,6}, 3 905 shapes, 47 655 non-empty targets.
-/
import SymmModel.Proofs.C07Trip
import SymmModel.Props.C07g
namespace SymmModel.C07
open SymmModel SymmModel.Reshape SymmModel.Reshape5

/-- **the planner there and back, every shape of positive sizes, every non-empty merge / drop
    target** -/
theorem planner_mergeDrop_roundTrip (shape target : List Nat) (hpos : ∀ d ∈ shape, 0 < d)
    (ht : target ∈ targets shape) (hne : target ≠ []) : RoundTrip shape target := by
  -- the target as runs of adjacent axes, and the planner's reading of it
  obtain ⟨runs, hr, hfl, hpr⟩ := targets_runs shape target ht hne
  obtain ⟨items, hok, hsh, htg⟩ := mergeDrop_normalise (runs.map MSeg.run) (by
    intro s hs
    obtain ⟨r, hr', rfl⟩ := List.mem_map.mp hs
    exact ⟨hr r hr', fun d hd => hpos d (hfl ▸ List.mem_flatten.mpr ⟨r, hr', hd⟩)⟩)
  rw [shapeS_map_run, hfl] at hsh
  rw [targetS_map_run, hpr] at htg
  -- there: the fuse calls of "o"/"g" segments `S3` over the old axes; they execute to `fusedE S3`
  obtain ⟨S3, hO3, h23, hE3, hK3, hp⟩ := planner_items_plan items hok (by rw [htg]; exact hne)
  rw [hsh, htg] at hp
  rw [htg] at hK3
  rw [hsh] at hE3
  have hst : (Plan.ofTriple ([], Reshape3.callsOf 0 [] S3, [])).exec (shape.zip (nones shape))
      = some (Reshape3.fusedE S3) := by
    simp only [Plan.exec, Plan.ofTriple, foldOpt, zip_nones, ← hE3,
      Reshape3.callsOf_exec_all S3 hO3 fun k es hm => Nat.le_trans (by omega) (h23 k es hm)]
  have hsz : SymShape.sizes (Reshape3.fusedE S3) = target := (Reshape3.sizes_fusedE hO3).trans hK3
  have hwf := wfB_iff.mpr ⟨(nones_length shape).symm, _, hst, hsz⟩
  -- the fused axes of the result carry their parts of the old shape
  obtain ⟨hfo, htgt⟩ := fusedE_back hO3 h23 (by
    rw [hE3]; intro e he; obtain ⟨d, _, rfl⟩ := List.mem_map.mp he; rfl)
  rw [hE3, sizes_map_none] at htgt
  -- back: unfuse them, left to right
  have hq := planner_back_plan_multi _ hfo
  have hback := back_plan_exec _ hfo
  rw [htgt] at hq hback
  have hsizes : SymShape.sizes (shape.map fun d => (d, (none : Option (List Nat)))) = shape := by
    simp [SymShape.sizes, Function.comp_def]
  refine ⟨_, _, hp, hwf, hst, hsz, _, _, hq, ?_, hback, hsizes, ?_⟩
  · exact wfB_iff.mpr ⟨by rw [sizes_length, subs_length], _, by rw [zip_sizes_subs]; exact hback,
      hsizes⟩
  · intro x hx
    obtain ⟨_, _, rfl⟩ := List.mem_map.mp hx
    rfl

/-- The domain on which the harness compares the model of the planner with `calc_reshape_args`
    exhaustively: every shape with 1..5 axes of sizes in {1,2,3,4,6} and every non-empty target
    reachable by dropping size-one axes and/or merging adjacent axes; the planner succeeds forward
    and back with certified plans (`RoundTrip`, see `Model/ReshapePlan.lean`).  Of the hypotheses
    on the shape only the positivity of the sizes is used. -/
theorem planner_finite_ok (shape : List Nat) (h1 : 1 ≤ shape.length) (h5 : shape.length ≤ 5)
    (hs : ∀ d ∈ shape, d ∈ sizes5) (target : List Nat) (ht : target ∈ targets shape)
    (hne : target ≠ []) : RoundTrip shape target := by
  refine planner_mergeDrop_roundTrip shape target (fun d hd => ?_) ht hne
  have := hs d hd
  simp only [sizes5, List.mem_cons, List.not_mem_nil, or_false] at this
  omega

example : RoundTrip [2, 1, 3] [6] :=
  planner_finite_ok [2, 1, 3] (by decide) (by decide) (by decide) [6] (by decide) (by decide)

end SymmModel.C07
