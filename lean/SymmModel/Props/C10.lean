/-
  Property C10 — conjugation gives the bra: the involution / adjoint laws.

  (The norm clauses of C10 — `tensordot (conj x) x = Σ|x|²` and the network form — are in
  Props/C10b.lean (one array) and Props/C10c.lean … C10k.lean (networks).)

  All theorems are about the model definitions `Arr.conjA` (Model/Arr.lean), `Arr.conjF`,
  `Arr.daggerF`, `Arr.transposeF`, `Arr.oddposDag` (Model/Fermi.lean) and `Index.conj`
  (Model/Index.lean), for EVERY array over an arbitrary scalar type `R` with `[Zero R] [Neg R]
  [Conj R]` and the laws `- - x = x`, `-0 = 0`, `conj (-x) = - conj x`, `conj (conj x) = x`,
  `conj 0 = 0` (`Lazy.LawfulNegConj`; instances: `Int` with the trivial conjugation, `GRat`).

  Equality of fermionic arrays is observational equality `C09.ObsEq` (same symmetry, indices,
  charge, labels, stored sectors with block shapes, same value `elem s off` at every address):
  `conj` and `dagger` keep signs pending, so the stored data of `conj (conj x)` and `x` differ
  while all values agree.  Hypotheses on arrays are clauses of `Arr.validB` (`Lazy.SignOk`,
  `SecLen`, `SecValid`, `BlocksWf`, `ShapeLen`, valid total charge; `hyps_of_valid`).
-/
import SymmModel.Proofs.LazyLemmas
import SymmModel.Props.C09

namespace SymmModel.C10
open SymmModel Lazy

variable {R : Type} [Zero R] [Neg R] [Conj R]

/-- conjugating the odd-position labels (reverse, flip each direction) is an involution -/
theorem oddposDag_involutive (o : List (Int × Bool)) : Arr.oddposDag (Arr.oddposDag o) = o :=
  Lazy.oddposDag_involutive o

/-- `BlockIndex.conj` is an involution, recursively through all sub-index levels -/
theorem Index.conj_conj (i : Index) : i.conj.conj = i := Lazy.Index.conj_conj i

theorem Index.conjList_conjList (l : List Index) : Index.conjList (Index.conjList l) = l :=
  Lazy.Index.conjList_conjList l

theorem Index.map_conj_conj (l : List Index) : (l.map Index.conj).map Index.conj = l :=
  Lazy.Index.map_conj_conj l

theorem Index.conj_dual (i : Index) : i.conj.dual = !i.dual := SymmModel.Index.conj_dual i

/-- a doubly nested fused index -/
example : (Index.mk [((0, 0), 2)] true
    (some ([Index.mk [((0, 0), 1)] false none,
            Index.mk [((0, 0), 2)] true (some ([Index.mk [((0, 0), 2)] false none], []))], []))).conj.conj
    = Index.mk [((0, 0), 2)] true
    (some ([Index.mk [((0, 0), 1)] false none,
            Index.mk [((0, 0), 2)] true (some ([Index.mk [((0, 0), 2)] false none], []))], [])) :=
  Index.conj_conj _

omit [Conj R] in
/-- all hypotheses below follow from `validB` -/
theorem hyps_of_valid {a : Arr R} (h : a.validB = true) (hf : a.fermi = true) :
    SignOk a ∧ SecLen a ∧ SecValid a ∧ BlocksWf a ∧ ShapeLen a ∧ a.sym.valid a.charge = true :=
  ⟨SignOk.of_valid h hf, SecLen.of_valid h, SecValid.of_valid h, BlocksWf.of_valid h,
    ShapeLen.of_valid h, Arr.validB_charge h⟩

theorem conjA_conjA [LawfulNegConj R] (a : Arr R) (hv : a.sym.valid a.charge = true) :
    a.conjA.conjA = a := Lazy.conjA_conjA a hv

/-- the validity of the charge is needed: `Z4.sign(Z4.sign(5)) = 1` -/
theorem conjA_conjA_needs_valid :
    let a : Arr Int := { sym := .Z4, fermi := false, indices := [], charge := (5, 0), blocks := [] }
    a.conjA.conjA.charge ≠ a.charge := by decide

/-- **`conj ∘ conj = id` for the default options** (`phase_permutation=True`,
    `phase_dual=False`): the reversal sign and the odd-parity global sign each appear twice -/
theorem conjF_conjF [LawfulNegConj R] {a : Arr R} (h : SignOk a) (hl : SecLen a)
    (hv : SecValid a) (hc : a.sym.valid a.charge = true) :
    C09.ObsEq (a.conjF.conjF) a := by
  simpa using Lazy.conjF_conjF (a := a) true false h hl hv hc

/-- **the exact law for every setting of the options**: `conj ∘ conj` is the identity for
    `phase_dual=False`, and for `phase_dual=True` it multiplies by `(-1)^parity` — `-x` for an
    odd-parity `x`, `x` for an even one.  (The dual-leg signs of the two conjugations flip
    complementary sets of legs; together they flip every odd charge of the sector once, and the
    number of odd charges of a valid sector has the parity of the total charge.) -/
theorem conjF_conjF_general [LawfulNegConj R] {a : Arr R} (pp pd : Bool) (h : SignOk a)
    (hl : SecLen a) (hv : SecValid a) (hc : a.sym.valid a.charge = true) :
    C09.ObsEq ((a.conjF pp pd).conjF pp pd)
      (if pd && a.parity then ({ a with blocks := a.blocks.map (fun (k, b) => (k, b.negK)) } : Arr R)
       else a) :=
  Lazy.conjF_conjF pp pd h hl hv hc

theorem conjF_conjF_elem [LawfulNegConj R] {a : Arr R} (pp pd : Bool) (h : SignOk a) {s : Sector}
    (hl : s.length = a.ndim) (hv : a.isValidSector s = true) (off : List Nat) :
    ((a.conjF pp pd).conjF pp pd).elem s off
      = sgnI (if pd && a.parity then -1 else 1) (a.elem s off) :=
  Lazy.conjF_conjF_elem pp pd h hl hv off

/-- conjugate-transposing a (well-formed, rank-`n`) block by the full reversal twice is the
    identity -/
theorem conjT_conjT [LawfulNegConj R] (b : Blk R) {n : Nat} (hn : b.shape.length = n)
    (hw : b.wf = true) :
    (((b.conjK).transposeK (Arr.reversedAxes n)).conjK).transposeK (Arr.reversedAxes n) = b :=
  Lazy.conjT_conjT b hn hw

/-- the sign of the virtual reversal (`perm=None` in `calc_phase_permutation`) is the sign of
    the explicit reversal permutation -/
theorem koszul_none_eq_reverse (par : List Bool) :
    koszul par none = koszul par (some (List.range par.length).reverse) :=
  Lazy.koszul_none_eq_reverse par

/-- **the adjoint equals the conjugate followed by the fermionic reversal of the axes**, for
    both values of `phase_dual` -/
theorem dagger_eq_conj_rev [LawfulNegConj R] {a : Arr R} (pd : Bool) (h : SignOk a) (hl : SecLen a) :
    C09.ObsEq (a.daggerF pd) ((a.conjF true pd).transposeF (Arr.reversedAxes a.ndim)) :=
  Lazy.dagger_eq_conj_rev pd h hl

/-- **`dagger ∘ dagger = id` for the default option** -/
theorem daggerF_daggerF [LawfulNegConj R] {a : Arr R} (h : SignOk a) (hl : SecLen a)
    (hv : SecValid a) (hw : BlocksWf a) (hs : ShapeLen a) (hc : a.sym.valid a.charge = true) :
    C09.ObsEq (a.daggerF.daggerF) a := by
  simpa using Lazy.daggerF_daggerF (a := a) false h hl hv hw hs hc

/-- the exact law for both values of `phase_dual`: `(-1)^parity` for `phase_dual=True`.  The
    stored blocks of `dagger (dagger a)` are *equal* to those of `a` (`conjT_conjT`); only the
    pending-sign table differs. -/
theorem daggerF_daggerF_general [LawfulNegConj R] {a : Arr R} (pd : Bool) (h : SignOk a)
    (hl : SecLen a) (hv : SecValid a) (hw : BlocksWf a) (hs : ShapeLen a)
    (hc : a.sym.valid a.charge = true) :
    C09.ObsEq ((a.daggerF pd).daggerF pd)
      (if pd && a.parity then ({ a with blocks := a.blocks.map (fun (k, b) => (k, b.negK)) } : Arr R)
       else a) :=
  Lazy.daggerF_daggerF pd h hl hv hw hs hc

theorem daggerF_daggerF_blocks [LawfulNegConj R] {a : Arr R} (pd pd' : Bool) (hw : BlocksWf a)
    (hs : ShapeLen a) : ((a.daggerF pd).daggerF pd').blocks = a.blocks :=
  Lazy.daggerF_daggerF_blocks pd pd' hw hs

/-! ## non-vacuity: odd Z2 fermionic arrays over `Int` and `GRat` with pending signs -/

open scoped SymmModel.Lazy

example : C09.exA.validB = true ∧ C09.exA.parity = true ∧ C09.exA.phases ≠ [] := by decide

/-- `conj ∘ conj` on the odd array `exA` (pending sign on one sector): identity by default … -/
example : C09.ObsEq (C09.exA.conjF.conjF) C09.exA :=
  let h := hyps_of_valid (a := C09.exA) (by decide) rfl
  conjF_conjF h.1 h.2.1 h.2.2.1 h.2.2.2.2.2

/-- … and `-x` with the dual-leg option; concretely on the value view -/
example : ((C09.exA.conjF true true).conjF true true).elem [(1, 0), (0, 0)] [1, 0] = -4
    ∧ C09.exA.elem [(1, 0), (0, 0)] [1, 0] = 4
    ∧ (C09.exA.conjF.conjF).elem [(1, 0), (0, 0)] [1, 0] = 4
    ∧ ((C09.exA.conjF true true).conjF true true).phases ≠ C09.exA.phases := by decide +kernel

example : C09.ObsEq (C09.exA.daggerF.daggerF) C09.exA :=
  let h := hyps_of_valid (a := C09.exA) (by decide) rfl
  daggerF_daggerF h.1 h.2.1 h.2.2.1 h.2.2.2.1 h.2.2.2.2.1 h.2.2.2.2.2

example : (C09.exA.daggerF true).elem [(0, 0), (1, 0)] [0, 1]
      = ((C09.exA.conjF true true).transposeF [1, 0]).elem [(0, 0), (1, 0)] [0, 1]
    ∧ (C09.exA.daggerF true).elem [(0, 0), (1, 0)] [0, 1] = -4 := by decide +kernel

/-- a complex (Gaussian-rational) instance: the law class is inhabited by `GRat` -/
def exG : Arr GRat :=
  { sym := .Z2, fermi := true, charge := (1, 0),
    indices := [Index.mk [((0, 0), 1), ((1, 0), 1)] false none,
                Index.mk [((0, 0), 1), ((1, 0), 1)] true none],
    blocks := [([(0, 0), (1, 0)], ⟨[1, 1], #[⟨1, 2⟩]⟩), ([(1, 0), (0, 0)], ⟨[1, 1], #[⟨0, -3⟩]⟩)],
    phases := [([(0, 0), (1, 0)], -1)],
    oddpos := [(2, true)] }

example : C09.ObsEq ((exG.daggerF true).daggerF true)
    ({ exG with blocks := exG.blocks.map (fun (k, b) => (k, b.negK)) } : Arr GRat) := by
  have h := hyps_of_valid (a := exG) (by decide +kernel) rfl
  have := daggerF_daggerF_general (a := exG) true h.1 h.2.1 h.2.2.1 h.2.2.2.1 h.2.2.2.2.1 h.2.2.2.2.2
  have hp : (true && exG.parity) = true := by decide
  rwa [if_pos hp] at this


end SymmModel.C10
