/-
  Property C01, anchor "debug-mode audit" (properties.jsonl), continuing Props/C01c.lean: symmetry of
  `BlockIndex.matches` WITH sub-index information and of `check_with`, under the recursive dict invariant
  `SmallCheck.dictInvB` (distinct keys in every chargemap, extents table and extent, through all
  sub-indices — what being a Python dict means; it holds for every well-formed index, `dictInv_of_wfB`);
  `check_with` accepting (possibly NEGATIVE axes) ⇒ the model's weak contraction guard
  `AssocP.tdotAdmissibleCommonB` on the normalised axes ⇒ `tensordot` over those axes does not raise, in
  EVERY mode (for fermionic operands the one exception left is the odd-label clash of
  `resolve_combined_oddpos`).

  Remaining gap: `check_with` does not compare the number of axes nor their distinctness
  (`C01.checkWith_ignores_axes_length`); both are hypotheses here.  The two `*_no_raise` theorems also
  carry the range of the axes (`hra`, `hrb`) as hypotheses; `checkWith_ok_range` derives it from
  acceptance and `hlen`.
-/
import SymmModel.Props.C01c
import SymmModel.Proofs.SmallCheck
import SymmModel.Proofs.TdotFusedW2

namespace SymmModel.C01
open SymmModel SymmModel.Check SymmModel.ValidP SymmModel.CheckP SymmModel.SmallCheck

variable {R : Type}

/-- **`BlockIndex.matches` is symmetric**, sub-index information included: the same answer, and the same
    AttributeError when exactly one side is fused — for raw indices all of whose tables are dicts -/
theorem matchesE_symm (a b : RIndex) (ha : dictInvB a = true) (hb : dictInvB b = true) :
    RIndex.matchesE a b = RIndex.matchesE b a :=
  SmallCheck.matchesE_symm a b ha hb

theorem matchesAll_symm (l1 l2 : List RIndex) (h1 : dictInvListB l1 = true) (h2 : dictInvListB l2 = true) :
    RIndex.matchesAll l1 l2 = RIndex.matchesAll l2 l1 :=
  SmallCheck.matchesAll_symm l1 l2 h1 h2

theorem dictInv_of_wfB (sym : Sym) (ix : Index) (h : Index.wfB sym ix = true) :
    dictInvB (indexToRaw ix) = true :=
  SmallCheck.dictInv_of_wfB sym ix h

/-- symmetry of `matches` on well-formed indices (fused or not, any nesting depth) -/
theorem matchesE_symm_wf (sym : Sym) (ia ib : Index) (ha : Index.wfB sym ia = true)
    (hb : Index.wfB sym ib = true) :
    RIndex.matchesE (indexToRaw ia) (indexToRaw ib) = RIndex.matchesE (indexToRaw ib) (indexToRaw ia) :=
  matchesE_symm _ _ (dictInv_of_wfB sym ia ha) (dictInv_of_wfB sym ib hb)

theorem dictInv_of_validB (a : Arr R) (h : a.validB = true) :
    ∀ ix ∈ (arrToRaw a).indices, dictInvB ix = true := by
  intro rx hrx
  rw [arrToRaw_indices] at hrx
  obtain ⟨ix, hix, rfl⟩ := List.mem_map.mp hrx
  exact dictInv_of_wfB a.sym ix (((validB_iff a).mp h).idx ix hix)

example :
    let f := ckFusedWith [ckSub, ckSub] ckExts
    let g := ckFusedWith [ckSub, ckSub]
      [((0, 0), [([(0, 0), (0, 0)], 1)]),
       ((1, 0), [([(0, 0), (1, 0)], 2)]),
       ((2, 0), [([(1, 0), (1, 0)], 1)])]
    Index.wfB .U1 f = true ∧ dictInvB (indexToRaw f) = true
    ∧ RIndex.matchesE (indexToRaw f) (indexToRaw f.conj) = .ok true
    ∧ RIndex.matchesE (indexToRaw f.conj) (indexToRaw f) = .ok true
    ∧ RIndex.matchesE (indexToRaw f) (indexToRaw g.conj) = .ok false
    ∧ RIndex.matchesE (indexToRaw g.conj) (indexToRaw f) = .ok false := by decide

/-- without the dict invariant on an EXTENT the model's `matches` is not symmetric (such a state is not a
    Python dict; this is why the hypothesis is there) -/
example :
    let x : RIndex := .mk [((0, 0), 2)] false (some ([], [((0, 0), [([], 1), ([], 1)])]))
    let y : RIndex := .mk [((0, 0), 2)] true (some ([], [((0, 0), [([], 1), ([(0, 0)], 5)])]))
    RIndex.matchesE x y ≠ RIndex.matchesE y x := by decide

theorem forE_map {α β : Type} (f : β → Except Err Unit) (g : α → β) (l : List α) :
    forE f (l.map g) = forE (fun x => f (g x)) l := by
  induction l with
  | nil => rfl
  | cons x xs ih => simp only [List.map_cons, forE, ih]

theorem forE_congr {α : Type} (f g : α → Except Err Unit) (l : List α) (h : ∀ x ∈ l, f x = g x) :
    forE f l = forE g l := by
  induction l with
  | nil => rfl
  | cons x xs ih =>
    simp only [forE]
    rw [h x List.mem_cons_self, ih (fun y hy => h y (List.mem_cons_of_mem _ hy))]

theorem pyIdx_mem {α : Type} {l : List α} {i : Int} {x : α} (h : pyIdx l i = some x) : x ∈ l := by
  unfold pyIdx at h
  split at h
  · exact List.mem_of_getElem? h
  · split at h
    · exact List.mem_of_getElem? h
    · cases h

theorem pyIdx_some_range {α : Type} {l : List α} {i : Int} {x : α} (h : pyIdx l i = some x) :
    -(l.length : Int) ≤ i ∧ i < (l.length : Int) := by
  unfold pyIdx at h
  split at h
  · have := (List.getElem?_eq_some_iff.mp h).1
    omega
  · split at h
    · have := (List.getElem?_eq_some_iff.mp h).1
      omega
    · cases h

theorem zip_swap {α β : Type} (l1 : List α) (l2 : List β) :
    l2.zip l1 = (l1.zip l2).map (fun p => (p.2, p.1)) := by
  induction l1 generalizing l2 with
  | nil => cases l2 <;> rfl
  | cons x xs ih =>
    cases l2 with
    | nil => rfl
    | cons y ys => simp [List.zip_cons_cons, ih ys]

/-- **`check_with` is symmetric**: `a.check_with(b, axes_a, axes_b)` and `b.check_with(a, axes_b, axes_a)`
    accept together and raise the same class of exception together (raw arrays whose index tables are
    dicts; any axes, negative and out of range included) -/
theorem checkWith_symm (a b : RArr) (ha : ∀ ix ∈ a.indices, dictInvB ix = true)
    (hb : ∀ ix ∈ b.indices, dictInvB ix = true) (xa xb : List Int) :
    a.checkWith b xa xb = b.checkWith a xb xa := by
  unfold RArr.checkWith
  by_cases hs : a.sym = b.sym
  · have hs' : b.sym = a.sym := hs.symm
    rw [decide_eq_true hs, decide_eq_true hs']
    simp only [Bool.not_true, Bool.false_eq_true, if_false]
    rw [zip_swap xa xb, forE_map]
    apply forE_congr
    intro p _
    simp only
    cases h1 : pyIdx a.indices p.1 with
    | none => cases h2 : pyIdx b.indices p.2 <;> rfl
    | some ia =>
      cases h2 : pyIdx b.indices p.2 with
      | none => rfl
      | some ib =>
        simp only
        rw [matchesE_symm ia ib (ha ia (pyIdx_mem h1)) (hb ib (pyIdx_mem h2))]
  · have hs' : ¬ b.sym = a.sym := fun e => hs e.symm
    rw [decide_eq_false hs, decide_eq_false hs']
    rfl

/-- outside `[-ndim, ndim)` the `seq[i]` of `check_with` raises IndexError -/
theorem checkWith_ok_range (a b : Arr R) (xa xb : List Int) (hlen : xa.length = xb.length)
    (h : (arrToRaw a).checkWith (arrToRaw b) xa xb = .ok ()) :
    (∀ x ∈ xa, -(a.ndim : Int) ≤ x ∧ x < (a.ndim : Int))
    ∧ (∀ x ∈ xb, -(b.ndim : Int) ≤ x ∧ x < (b.ndim : Int)) := by
  unfold RArr.checkWith at h
  split at h
  · cases h
  · rw [forE_ok_iff] at h
    have hla : (arrToRaw a).indices.length = a.ndim := by simp [arrToRaw_indices, Arr.ndim]
    have hlb : (arrToRaw b).indices.length = b.ndim := by simp [arrToRaw_indices, Arr.ndim]
    have key : ∀ p ∈ xa.zip xb, (-(a.ndim : Int) ≤ p.1 ∧ p.1 < (a.ndim : Int))
        ∧ (-(b.ndim : Int) ≤ p.2 ∧ p.2 < (b.ndim : Int)) := by
      intro p hp
      have hh := h p hp
      cases h1 : pyIdx (arrToRaw a).indices p.1 with
      | none => rw [h1] at hh; cases hh
      | some ia =>
        cases h2 : pyIdx (arrToRaw b).indices p.2 with
        | none => rw [h1, h2] at hh; cases hh
        | some ib =>
          have r1 := pyIdx_some_range h1
          have r2 := pyIdx_some_range h2
          rw [hla] at r1; rw [hlb] at r2
          exact ⟨r1, r2⟩
    constructor
    · intro x hx
      obtain ⟨i, hi, rfl⟩ := List.getElem_of_mem hx
      have hz : i < (xa.zip xb).length := by rw [List.length_zip]; omega
      have hm := List.getElem_mem hz
      rw [List.getElem_zip] at hm
      exact (key _ hm).1
    · intro y hy
      obtain ⟨i, hi, rfl⟩ := List.getElem_of_mem hy
      have hz : i < (xa.zip xb).length := by rw [List.length_zip]; omega
      have hm := List.getElem_mem hz
      rw [List.getElem_zip] at hm
      exact (key _ hm).2

/-- `a.check_with(b, axes_a, axes_b)` accepting, for as many axes on both sides (the audit does not
    compare the numbers), implies equal symmetries and that the pair is contractible in the model's
    weak sense along the NORMALISED axes `x % ndim` (the axes `tensordot` really uses) -/
theorem checkWith_implies_contractibleCommon_int (a b : Arr R) (xa xb : List Int)
    (hlen : xa.length = xb.length)
    (h : (arrToRaw a).checkWith (arrToRaw b) xa xb = .ok ()) :
    a.sym = b.sym
    ∧ AssocP.contractibleCommonB a b (xa.map (TdotP.normAxis a.ndim)) (xb.map (TdotP.normAxis b.ndim))
        = true := by
  obtain ⟨hra, hrb⟩ := checkWith_ok_range a b xa xb hlen h
  unfold RArr.checkWith at h
  split at h
  · cases h
  · rename_i hsym
    have hs : a.sym = b.sym := by
      have h' := hsym
      simp [arrToRaw] at h'
      exact of_decide_eq_true h'
    rw [forE_ok_iff] at h
    refine ⟨hs, ?_⟩
    unfold AssocP.contractibleCommonB
    simp only [Bool.and_eq_true, beq_iff_eq, List.all_eq_true, List.length_map]
    refine ⟨hlen, ?_⟩
    intro p hp
    rw [List.zip_map] at hp
    obtain ⟨q, hq, rfl⟩ := List.mem_map.mp hp
    have hh := h q hq
    obtain ⟨hq1, hq2⟩ := List.of_mem_zip hq
    have hia := arrToRaw_indices a
    have hib := arrToRaw_indices b
    have hla : (a.indices.map indexToRaw).length = a.ndim := by simp [Arr.ndim]
    have hlb : (b.indices.map indexToRaw).length = b.ndim := by simp [Arr.ndim]
    rw [hia, hib, pyIdx_norm _ _ (by rw [hla]; exact (hra _ hq1).1) (by rw [hla]; exact (hra _ hq1).2),
      pyIdx_norm _ _ (by rw [hlb]; exact (hrb _ hq2).1) (by rw [hlb]; exact (hrb _ hq2).2),
      hla, hlb] at hh
    simp only [List.getElem?_map, Prod.map_fst, Prod.map_snd] at hh ⊢
    exact agree_of_checkAt hh

theorem normAxis_mem_lt {n : Nat} {xs : List Int} (hr : ∀ x ∈ xs, -(n : Int) ≤ x ∧ x < (n : Int)) :
    ∀ i ∈ xs.map (TdotP.normAxis n), i < n := by
  intro i hi
  obtain ⟨x, hx, rfl⟩ := List.mem_map.mp hi
  have := hr x hx
  exact TdotP.normAxis_lt (by omega) x

/-- **`check_with` accepting ⇒ the guard of a contraction call** (`AssocP.tdotAdmissibleCommonB`: same
    symmetry, matched legs of opposite direction whose tables agree on the common charges, axes distinct
    and in range) for the normalised axes.  The two hypotheses `hlen`, `hna`/`hnb` are exactly what
    `check_with` does not look at. -/
theorem checkWith_implies_tdotAdmissibleCommon (a b : Arr R) (xa xb : List Int)
    (hlen : xa.length = xb.length)
    (hna : (xa.map (TdotP.normAxis a.ndim)).Nodup) (hnb : (xb.map (TdotP.normAxis b.ndim)).Nodup)
    (h : (arrToRaw a).checkWith (arrToRaw b) xa xb = .ok ()) :
    AssocP.tdotAdmissibleCommonB a b (xa.map (TdotP.normAxis a.ndim)) (xb.map (TdotP.normAxis b.ndim))
      = true := by
  obtain ⟨hs, hc⟩ := checkWith_implies_contractibleCommon_int a b xa xb hlen h
  obtain ⟨hra, hrb⟩ := checkWith_ok_range a b xa xb hlen h
  unfold AssocP.tdotAdmissibleCommonB
  simp only [Bool.and_eq_true, decide_eq_true_eq, allDistinct_iff_nodup, List.all_eq_true]
  exact ⟨⟨⟨⟨⟨hs, hc⟩, hna⟩, hnb⟩, normAxis_mem_lt hra⟩, normAxis_mem_lt hrb⟩

theorem parseAxes_in_range (a b : Arr R) (xa xb : List Int) (hlen : xa.length = xb.length)
    (hra : ∀ x ∈ xa, -(a.ndim : Int) ≤ x ∧ x < (a.ndim : Int))
    (hrb : ∀ x ∈ xb, -(b.ndim : Int) ≤ x ∧ x < (b.ndim : Int)) :
    parseAxes a.ndim b.ndim (.pair xa xb)
      = .ok (xa.map (TdotP.normAxis a.ndim), xb.map (TdotP.normAxis b.ndim)) := by
  apply TdotP.parseAxes_pair hlen
  · cases xa with
    | nil => exact Or.inr rfl
    | cons x xs => have := hra x List.mem_cons_self; exact Or.inl (by omega)
  · cases xb with
    | nil => exact Or.inr rfl
    | cons x xs => have := hrb x List.mem_cons_self; exact Or.inl (by omega)

theorem tensordotF_congr_parse [Zero R] [Add R] [Mul R] [Neg R] (a b : Arr R) (ax1 ax2 : AxesArg)
    (h : parseAxes a.ndim b.ndim ax1 = parseAxes a.ndim b.ndim ax2) (mode : TdotMode) :
    a.tensordotF b ax1 mode = a.tensordotF b ax2 mode := by
  unfold Arr.tensordotF
  rw [h]

/-- **fermionic operands**: when `a.check_with(b, axes_a, axes_b)` accepts (axes in range, as many on
    both sides, distinct), `tensordot(a, b, (axes_a, axes_b))` of two valid fermionic arrays does not raise
    in any mode — unless the odd-position labels clash in `resolve_combined_oddpos`, and then exactly that
    error is raised.  (`0 * x = 0`, `x * 0 = 0` and the sign laws are the usual ring facts; `Int`, `GRat`.) -/
theorem checkWith_tensordotF_no_raise [AddCommMonoid R] [Mul R] [Neg R] [GradedP.SignRing R]
    (hz1 : ∀ x : R, 0 * x = 0) (hz2 : ∀ x : R, x * 0 = 0) (a b : Arr R) (xa xb : List Int)
    (ha : a.validB = true) (hb : b.validB = true) (hfa : a.fermi = true) (hfb : b.fermi = true)
    (hlen : xa.length = xb.length)
    (hra : ∀ x ∈ xa, -(a.ndim : Int) ≤ x ∧ x < (a.ndim : Int))
    (hrb : ∀ x ∈ xb, -(b.ndim : Int) ≤ x ∧ x < (b.ndim : Int))
    (hna : (xa.map (TdotP.normAxis a.ndim)).Nodup) (hnb : (xb.map (TdotP.normAxis b.ndim)).Nodup)
    (h : (arrToRaw a).checkWith (arrToRaw b) xa xb = .ok ()) (mode : TdotMode) :
    (∀ r, OddposP.mergeOddpos a.parity a.oddpos b.oddpos = .ok r →
        ∃ c, a.tensordotF b (.pair xa xb) mode = .ok c)
    ∧ (∀ e, OddposP.mergeOddpos a.parity a.oddpos b.oddpos = .error e →
        a.tensordotF b (.pair xa xb) mode = .error e) := by
  have hadm := checkWith_implies_tdotAdmissibleCommon a b xa xb hlen hna hnb h
  have W := AssocP.AdmW.of ha hb hfa hfb hadm
  have hp : parseAxes a.ndim b.ndim (.pair xa xb)
      = parseAxes a.ndim b.ndim (.pair ((xa.map (TdotP.normAxis a.ndim)).map Int.ofNat)
          ((xb.map (TdotP.normAxis b.ndim)).map Int.ofNat)) := by
    rw [parseAxes_in_range a b xa xb hlen hra hrb,
      ValidP.parseAxes_nat _ _ _ _ (by simpa using hlen) W.ltA W.ltB]
  rw [tensordotF_congr_parse a b _ _ hp mode]
  obtain ⟨he, hk⟩ := TdotP.tensordotF_modes_all_w hz1 hz2 a b _ _ W .fused (Or.inl rfl)
  obtain ⟨he', hk'⟩ := TdotP.tensordotF_modes_all_w hz1 hz2 a b _ _ W .auto (Or.inr rfl)
  cases mode with
  | fused =>
    exact ⟨fun r hr => by obtain ⟨rm, _, h1, _⟩ := hk r hr; exact ⟨rm, h1⟩, fun e hm => (he e hm).1⟩
  | auto =>
    exact ⟨fun r hr => by obtain ⟨rm, _, h1, _⟩ := hk' r hr; exact ⟨rm, h1⟩, fun e hm => (he' e hm).1⟩
  | blockwise =>
    exact ⟨fun r hr => by obtain ⟨_, rb, _, h2, _⟩ := hk r hr; exact ⟨rb, h2⟩, fun e hm => (he e hm).2⟩

/-- **operands without pending signs** (every valid abelian array; also synchronised fermionic ones at
    the level of `tensordot_abelian`): when `check_with` accepts, `tensordot_abelian` does not raise in
    any mode — the fused strategy's `fuse`/`unfuse` included -/
theorem checkWith_tensordotA_no_raise [AddCommMonoid R] [Mul R] [Neg R]
    (hz1 : ∀ x : R, 0 * x = 0) (hz2 : ∀ x : R, x * 0 = 0) (a b : Arr R) (xa xb : List Int)
    (ha : a.validB = true) (hb : b.validB = true) (hpa : a.phases = []) (hpb : b.phases = [])
    (hlen : xa.length = xb.length)
    (hra : ∀ x ∈ xa, -(a.ndim : Int) ≤ x ∧ x < (a.ndim : Int))
    (hrb : ∀ x ∈ xb, -(b.ndim : Int) ≤ x ∧ x < (b.ndim : Int))
    (hna : (xa.map (TdotP.normAxis a.ndim)).Nodup) (hnb : (xb.map (TdotP.normAxis b.ndim)).Nodup)
    (h : (arrToRaw a).checkWith (arrToRaw b) xa xb = .ok ()) (mode : TdotMode) :
    ∃ c, tensordotA a b (.pair xa xb) mode = .ok c := by
  obtain ⟨hs, hc⟩ := checkWith_implies_contractibleCommon_int a b xa xb hlen h
  have hp := parseAxes_in_range a b xa xb hlen hra hrb
  have K := TdotP.kernelOk_all_w hz1 hz2 a b _ _ ((validB_iff a).mp ha) ((validB_iff b).mp hb) hpa hpb
    hs hc hna hnb (normAxis_mem_lt hra) (normAxis_mem_lt hrb)
  obtain ⟨c, hcok, _⟩ := K
  cases mode with
  | blockwise => exact ⟨_, TdotP.tensordotA_blockwise_ok a b _ _ _ hp⟩
  | fused => exact ⟨c, by rw [TdotP.tensordotA_fused a b _ _ _ hp]; exact hcok⟩
  | auto =>
    by_cases hne : xa.map (TdotP.normAxis a.ndim) = []
    · rw [hne] at hp
      exact ⟨_, TdotP.tensordotA_auto_outer a b _ _ hp⟩
    · exact ⟨c, by rw [TdotP.tensordotA_auto_fused a b _ _ _ hp hne]; exact hcok⟩

/-- a valid fermionic vector and its (dual) partner; `check_with` accepts the pair along axis `-1` / `0` -/
def ckFermiDual : Arr Int :=
  { sym := .U1, fermi := true, indices := [.mk [((0, 0), 1), ((1, 0), 2)] true none], charge := (-1, 0),
    blocks := [([(1, 0)], ⟨[2], #[3, 4]⟩)], oddpos := [(4, true)] }

example : ckFermi.validB = true ∧ ckFermiDual.validB = true
    ∧ (arrToRaw ckFermi).checkWith (arrToRaw ckFermiDual) [-1] [0] = .ok ()
    ∧ (arrToRaw ckFermiDual).checkWith (arrToRaw ckFermi) [0] [-1] = .ok ()
    ∧ ([(-1 : Int)].map (TdotP.normAxis ckFermi.ndim)) = [0]
    ∧ (OddposP.mergeOddpos ckFermi.parity ckFermi.oddpos ckFermiDual.oddpos).toOption.isSome = true := by
  refine ⟨by decide, by decide, by decide, by decide, by decide, by decide +kernel⟩

/-- abelian: the pair of `C01.matches_not_contractibleB` (a table with a dropped charge) is accepted by
    `check_with`, is not `contractibleB`, and `tensordot` does not raise on it by the theorem above -/
example :
    let a : Arr Int := { sym := .U1, fermi := false, indices := [ckIx2], charge := (0, 0), blocks := [] }
    let b : Arr Int := { sym := .U1, fermi := false, indices := [.mk [((0, 0), 1)] true none],
                         charge := (0, 0), blocks := [] }
    ∀ mode, ∃ c, tensordotA a b (.pair [-1] [0]) mode = .ok c := by
  intro a b mode
  exact checkWith_tensordotA_no_raise (by intro x; exact Int.zero_mul x) (by intro x; exact Int.mul_zero x)
    a b [-1] [0] (by decide) (by decide) rfl rfl rfl (by decide) (by decide) (by decide) (by decide)
    (by decide) mode

end SymmModel.C01
