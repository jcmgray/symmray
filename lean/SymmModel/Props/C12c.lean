/-
  Property C12, part c — `solve_dense`: for abelian arrays the dense form of `x = solve(a, b)`
  solves the dense linear system, `dense(a) · dense(x) = dense(b)`.

  Composition of C11 `solve_solves` (blockwise `a · x = b` on the paired blocks) with C02
  `tensordotBlockwise_dense_entry` (the blockwise contraction densifies to `np.tensordot`) and the
  bridge `toDenseA_get` (C08).
-/
import SymmModel.Props.C11
import SymmModel.Props.C02b
import SymmModel.Props.C12
import SymmModel.Proofs.DenseMore

namespace SymmModel.C12
open SymmModel

variable {R : Type}

theorem dual_conj (ix : Index) : (Index.conj ix).dual = !ix.dual :=
  Index.conj_dual ix

/-- C12, `solve` clause (abelian).  `b`'s index carries `a`'s row table and direction, no charge
    table is empty, the solve kernel is correct on the block pairs the call forms
    (`K.SolvesOn a b`), and every stored sector of `b` is reached by a stored block of `a` (a block
    of `b` whose row charge no block of `a` has cannot be reproduced by any `x`; `solve` ignores
    it).  Then with `x = solve(a, b)`:
    all three dense forms exist and `Σ_k A[p, k] · X[k] = B[p]` for every row `p`. -/
theorem solve_dense [AddCommMonoid R] [Mul R] [Neg R]
    (hz1 : ∀ x : R, 0 * x = 0) (hz2 : ∀ x : R, x * 0 = 0) (K : Kernels R) (hK : K.ShapeOk)
    (a b x : Arr R) (hva : a.validB = true) (hvb : b.validB = true)
    (hfa : a.fermi = false) (hfb : b.fermi = false) (hsym : a.sym = b.sym)
    (hidx : b.indices.map Index.cm = [(a.indices.getD 0 default).cm])
    (hdir : (b.indices.getD 0 default).dual = (a.indices.getD 0 default).dual)
    (hea : a.indices.any (fun ix => ix.cm.isEmpty) = false)
    (hS : K.SolvesOn a b) (h : solveA K a b = .ok x)
    (hreach : ∀ c bb, alookup b.blocks [c] = some bb → ∃ s ∈ a.sectors, s.getD 0 (0, 0) = c) :
    ∃ dA dX dB, a.toDenseA = .ok dA ∧ x.toDenseA = .ok dX ∧ b.toDenseA = .ok dB
      ∧ dA.shape = a.shape ∧ dX.shape = [a.shape.getD 1 0] ∧ dB.shape = [a.shape.getD 0 0]
      ∧ ∀ p, p < a.shape.getD 0 0 →
          ((List.range (a.shape.getD 1 0)).map (fun k => dA.get [p, k] * dX.get [k])).sum
            = dB.get [p] := by
  obtain ⟨h2, h1, hvx, _, hxi, _, hxf, _⟩ := C11.solveA_valid K hK a b hva hvb hsym (by rw [hfa, hfb])
    hdir (fun hf => by rw [hfa] at hf; cases hf) x h
  obtain ⟨i0, i1, hai⟩ := LinalgLemmas.ndim_two h2
  have hxf' : x.fermi = false := by rw [hxf, hfb]
  have hxi' : x.indices = [i1.conj] := by rw [hxi, hai]; rfl
  have hbp : b.phases = [] := Arr.phases_nil_of_validB hvb hfb
  have hap : a.phases = [] := Arr.phases_nil_of_validB hva hfa
  have hcm0 : b.indices.map Index.cm = [i0.cm] := by rw [hidx, hai]; rfl
  simp only [hai, List.any_cons, List.any_nil, Bool.or_false, Bool.or_eq_false_iff] at hea
  have hashape : a.shape = [i0.sizeTotal, i1.sizeTotal] := by simp [Arr.shape, hai]
  have hxshape : x.shape = [i1.sizeTotal] := by
    simp [Arr.shape, hxi', Arr.sizeTotal_eq_of_cm (Arr.cm_conj i1)]
  have hc : ValidP.contractibleB a x [1] [0] = true := by
    simp [ValidP.contractibleB, hai, hxi', Index.conj_cm, Index.conj_dual]
  have hex : x.indices.any (fun ix => ix.cm.isEmpty) = false := by
    simp [hxi', hea.2, Index.conj_cm]
  have heb : b.indices.any (fun ix => ix.cm.isEmpty) = false := by
    have := Arr.noEmpty_congr (idx := [i0]) (idx' := b.indices) (by simpa using hcm0)
    rw [this]; simp [hea.1]
  obtain ⟨dA, dX, dC, hA, hX, hC, hentry⟩ := C02.tensordotBlockwise_dense_entry hz1 hz2 a x [1] [0]
    hva hvx hfa hxf' hc (by decide) (by decide) (by simp [h2]) (by simp [Arr.ndim, hxi'])
    (by simp [C02.NoEmpty, hai, hea.1, hea.2]) hex
  obtain ⟨dA', hA', hAs, _⟩ := Arr.toDenseA_get a (by simp [hai, hea.1, hea.2])
  rw [hA] at hA'; injection hA' with hA'; subst hA'
  obtain ⟨dX', hX', hXs, _⟩ := Arr.toDenseA_get x hex
  rw [hX] at hX'; injection hX' with hX'; subst hX'
  obtain ⟨dB, hB, hBs, hBg⟩ := Arr.toDenseA_get b heb
  have hbshape : b.shape = [i0.sizeTotal] := by
    have := Arr.shape_congr (idx := [i0]) (idx' := b.indices) (by simpa using hcm0)
    simpa [Arr.shape] using this
  refine ⟨dA, dX, dB, hA, hX, hB, hAs, by rw [hXs, hxshape, hashape]; rfl,
    by rw [hBs, hbshape, hashape]; rfl, ?_⟩
  intro p hp
  rw [hashape] at hp
  simp only [List.getD_cons_zero] at hp
  have hndx : x.ndim = 1 := by simp [Arr.ndim, hxi']
  have hsum : dC.get [p]
      = ((List.range (a.shape.getD 1 0)).map (fun k => dA.get [p, k] * dX.get [k])).sum := by
    have := hentry [p] [] (by
        rw [h2, hashape]
        show inBox [i0.sizeTotal] [p] = true
        simp [inBox, hp]) (by
        rw [hndx, hxshape]; rfl)
    rw [List.append_nil] at this
    rw [this, h2, hndx, hashape]
    show ((allIdx [i1.sizeTotal]).map _).sum = _
    rw [allIdx_single, List.map_map]
    rfl
  rw [← hsum]
  -- both sides through the value view at the address of position `p`
  have hci : (TdotP.tensordotUnpruned a x [1] [0]).indices = [i0] := by
    show without a.indices [1] ++ without x.indices [0] = [i0]
    rw [hai, hxi']; rfl
  obtain ⟨dC', hC', _, hCg⟩ := Arr.toDenseA_get (TdotP.tensordotUnpruned a x [1] [0])
    (by rw [hci]; simp [hea.1])
  rw [hC] at hC'; injection hC' with hC'; subst hC'
  have hpbox : inBox [i0.sizeTotal] [p] = true := by simp [inBox, hp]
  obtain ⟨sec, off, hloc, hcv⟩ := hCg [p] (by
    show inBox ((TdotP.tensordotUnpruned a x [1] [0]).indices.map Index.sizeTotal) [p] = true
    rw [hci]; exact hpbox)
  obtain ⟨sec', off', hloc', hbv⟩ := hBg [p] (by rw [hbshape]; exact hpbox)
  rw [hci] at hloc
  rw [Arr.locateAll_congr (idx := [i0]) (idx' := b.indices) (by simpa using hcm0), hloc] at hloc'
  simp only [Option.some.injEq, Prod.mk.injEq] at hloc'
  obtain ⟨rfl, rfl⟩ := hloc'
  rw [hcv, hbv]
  -- the address is `([r], [o])`
  rw [Arr.locateAll_cons] at hloc
  cases hro : Arr.locate (Index.sortCm i0.cm) p with
  | none => simp [hro] at hloc
  | some ro =>
    obtain ⟨r, o⟩ := ro
    simp only [hro, Arr.locateAll_nil_nil, Option.bind_some, Option.map_some, Option.some.injEq,
      Prod.mk.injEq] at hloc
    obtain ⟨rfl, rfl⟩ := hloc
    show (tensordotBlockwise a x (TdotP.freeAxes a.ndim [1]) [1] [0] (TdotP.freeAxes x.ndim [0])).elem [r] [o]
      = b.elem [r] [o]
    rw [h2, hndx]
    show (tensordotBlockwise a x [0] [1] [0] []).elem [r] [o] = b.elem [r] [o]
    cases hbl : alookup b.blocks [r] with
    | some bb =>
      obtain ⟨s, hs, hs0⟩ := hreach r bb hbl
      obtain ⟨⟨s', arr⟩, hm, rfl⟩ := List.mem_map.mp hs
      simp only at hs0
      obtain ⟨r', c, m, n, B⟩ := LinalgLemmas.mat_block hva hai hm
      have hr' : r' = r := by rw [B.hs] at hs0; simpa using hs0
      subst hr'
      have ho : o < arr.shape.getD 0 0 := by
        obtain ⟨d, hd, hod⟩ := Arr.locate_spec hro
        have hnd := (validB_facts a hva).1.1 i0 (by rw [hai]; simp)
        have := alookup_of_mem_nodup hnd (mem_sortCm.mp hd)
        rw [B.hr] at this
        rw [B.hshape]; simp only [List.getD_cons_zero]
        have := Option.some.inj this; omega
      have := C11.solve_solves K hK a b x hva hfa hbp hS h s' arr bb hm (by rw [hs0]; exact hbl) o ho
      rw [hs0] at this
      exact this
    | none =>
      obtain ⟨_, rfl⟩ := LinalgLemmas.solveA_abelian hva hfa h
      have hT := LinalgLemmas.solve_tdot_blocks (K := K) (b := b) hva h2
      have hnone : alookup (tensordotBlockwise a (LinalgLemmas.solveX K a b) [0] [1] [0] []).blocks [r] = none := by
        rw [alookup_eq_none_iff, hT]
        intro hk
        obtain ⟨q, hq, hqk⟩ := List.mem_map.mp hk
        obtain ⟨pb, _, hpb⟩ := List.mem_filterMap.mp hq
        cases hl : alookup b.blocks [pb.1.getD 0 (0, 0)] with
        | none => rw [hl] at hpb; cases hpb
        | some bb =>
          rw [hl] at hpb
          simp only [Option.map_some, Option.some.injEq] at hpb
          rw [← hpb] at hqk
          simp only [List.cons.injEq, and_true] at hqk
          rw [hqk, hbl] at hl; cases hl
      simp only [Arr.elem, hnone, hbl]

/-- a kernel whose `solve` copies the right-hand side into a vector of the right length: it meets
    the shape contract, and it is correct on identity blocks -/
def solveCopyK : Kernels Int :=
  { Kernels.shapeOnly with solve := fun a b => Blk.ofFn [a.shape.getD 1 0] (fun i => b.get i) }

/-- `solveCopyK` is `Kernels.solveCopy` (Proofs/LinalgMore6.lean) -/
theorem solveCopyK_shapeOk : solveCopyK.ShapeOk :=
  LinalgLemmas.solveCopy_shapeOk

theorem solveCopyK_solvesOn : solveCopyK.SolvesOn C11.exI C11.exIb :=
  C11.solvesOn_exI _ (fun bb => ofFn_get [1] _ (by decide))

example : ∃ x, solveA solveCopyK C11.exI C11.exIb = .ok x := ⟨_, rfl⟩

/-- the hypotheses of `solve_dense` are satisfiable: identity matrix on two charge sectors,
    right-hand side stored on one of them -/
example := solve_dense (R := Int) Int.zero_mul Int.mul_zero solveCopyK solveCopyK_shapeOk
  C11.exI C11.exIb _ (by decide) (by decide) rfl rfl rfl rfl rfl (by decide) solveCopyK_solvesOn rfl
  (by
    intro c bb hl
    have hc : c = (1, 0) := by
      by_contra hne
      have : alookup C11.exIb.blocks [c] = none := by
        simp only [C11.exIb, alookup]
        have : ([((1 : Int), (0 : Int))] == [c]) = false := by
          simpa using fun e => hne e.symm
        simp [this]
      rw [this] at hl; cases hl
    subst hc
    exact ⟨[(1, 0), (0, 0)], by decide, rfl⟩)

end SymmModel.C12
