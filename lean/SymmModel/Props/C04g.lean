/-
  Property C04 (route independence) — operand order at ANY node of a chain bracketing, S5/S6 under
  the weak guard, and the label check of the norm network for symbolic labels (≤ 2 per tensor).
  MODEL: `Arr.tensordotF`, `Arr.transposeF` (Model/Fermi.lean), `resolveScan` (label sort),
  `mode = blockwise`; scalars as in C04c–f, commutative `*` where operands are exchanged.

  Vocabulary (Proofs/Assoc5Swap.lean, Assoc5Tree.lean; namespace `SymmModel.Assoc5P`):
    `rotB nR nL`   the rotation that puts the second free block in front (`rotB_def`);
    `compS S1 S2`  the swapped call `S2·S1` followed by `transposeF` along `rotB` (`compS_def`);
                   `transposeF` multiplies every sector by the Koszul sign of the rotation, the sign
                   S5 prescribes, so that the result is `Eqv` to `S1·S2` (`tdotF_swap_eqv`);
    `FTree`        a bracketing tree of a chain with a Boolean flag at every node (`true` = operands
                   exchanged, evaluated by `compS`); `FTree.strip` forgets the flags.
  (1) contraction order AND operand order: for ANY assignment of flags the evaluation succeeds, is
  valid, and is `SegEqv` to the evaluation of the unflagged bracketing — hence (`chain_bracketing`,
  C04f) to the left-nested contraction.  The statement is "swap, rotate back with `transposeF`,
  continue", at every swapped node.
  (2) labels of the norm network: the label scan only compares labels, so it commutes with every
  relabelling that is an order embedding on the labels present (`resolveScan_order_type`), and the
  label check `NormNet.netLabelsB` transfers along order embeddings (`netLabelsB_order_type`);
  `netLabelsB_two`: sorted ket lists with at most two labels each, pairwise distinct, symbolic, all
  parities.
  `netLabelsB` for any number of labels per tensor (sorted ket lists, pairwise-distinct labels) is
  `LabelAlg.netLabelsB_of_distinct` (Proofs/NormNet10.lean), from the algebra of the label scan in
  Proofs/OddposScan.lean; `netLabelsB_two` here and `netLabelsB_four` (C04i) are instances.
-/
import SymmModel.Proofs.Assoc5Tree
import SymmModel.Proofs.Assoc5Two
import SymmModel.Props.C04f

namespace SymmModel.C04
open SymmModel SymmModel.GradedP SymmModel.TdotP SymmModel.RoutesP SymmModel.AssocP SymmModel.Assoc3P
  SymmModel.Assoc4P SymmModel.Assoc5P

variable {R : Type}

theorem rotB_def (nR nL : Nat) : rotB nR nL = (List.range nL).map (nR + ·) ++ List.range nR := rfl

theorem compS_def [Zero R] [Add R] [Mul R] [Neg R] (S1 S2 : Seg R) :
    compS S1 S2 = (tdF S2.arr S1.arr S2.l S1.r).map (fun z =>
      ⟨z.transposeF (rotB (freeAxes S2.arr.ndim S2.l).length (freeAxes S1.arr.ndim S1.r).length),
        positions (freeAxes S1.arr.ndim S1.r) S1.l,
        AssocP.axesAB S1.arr.ndim S2.arr.ndim S1.r S2.l S2.r⟩) := rfl

theorem ftree_defs [Zero R] [Add R] [Mul R] [Neg R] (S : Seg R) (sw : Bool) (a b : FTree R) :
    (FTree.leaf S).eval = .ok S
    ∧ (FTree.node sw a b).eval = (match a.eval, b.eval with
        | .ok s1, .ok s2 => if sw then compS s1 s2 else s1.comp s2
        | .error e, _ => .error e
        | .ok _, .error e => .error e)
    ∧ (FTree.leaf S).strip = .leaf S ∧ (FTree.node sw a b).strip = .node a.strip b.strip :=
  ⟨rfl, rfl, rfl, rfl⟩

/-- **S6 under the weak guard** -/
theorem tdotF_pretranspose_weak [AddMonoid R] [Mul R] [Neg R] [SignRing R] (a b c : Arr R)
    (p xa xa' q xb : List Nat)
    (ha : a.validB = true) (hb : b.validB = true) (hfa : a.fermi = true) (hfb : b.fermi = true)
    (hadm : tdotAdmissibleCommonB a b xa xb = true) (hp : Arr.isPerm p a.ndim = true)
    (hT : PreT a.ndim p xa xa' q)
    (hc : a.tensordotF b (.pair (xa.map Int.ofNat) (xb.map Int.ofNat)) .blockwise = .ok c) :
    ∃ c', (a.transposeF p).tensordotF b (.pair (xa'.map Int.ofNat) (xb.map Int.ofNat)) .blockwise = .ok c'
      ∧ c'.oddpos = c.oddpos ∧ c'.charge = c.charge ∧ c'.sym = c.sym ∧ c'.fermi = c.fermi
      ∧ ∀ (L Rr : Sector) (oL oR : List Nat), L.length = (freeAxes a.ndim xa).length →
          oL.length = (freeAxes a.ndim xa).length →
          inBox (Arr.blockShapeD (without a.indices xa ++ without b.indices xb) (L ++ Rr))
            (oL ++ oR) = true →
          c'.elem (permuted L q ++ Rr) (permuted oL q ++ oR)
            = Lazy.sgnI (koszul (L.map a.sym.parity) (some q)) (c.elem (L ++ Rr) (oL ++ oR)) :=
  tdotF_pretranspose_w a b c p xa xa' q xb (AdmW.of ha hb hfa hfb hadm) hp hT hc

/-- **S5 as an equivalence** (weak guard, commutative scalars, distinct labels) -/
theorem tdotF_swap_eqv [AddCommMonoid R] [Mul R] [Neg R] [SignRing R] [AssocLaws R]
    (hmul : ∀ x y : R, x * y = y * x) (a b c : Arr R) (xa xb : List Nat)
    (ha : a.validB = true) (hb : b.validB = true) (hfa : a.fermi = true) (hfb : b.fermi = true)
    (hadm : tdotAdmissibleCommonB a b xa xb = true)
    (hd : (a.oddpos ++ b.oddpos).Pairwise (fun x y => x.1 ≠ y.1))
    (hc : tdF a b xa xb = .ok c) :
    ∃ c', tdF b a xb xa = .ok c' ∧ c'.validB = true
      ∧ (c'.transposeF (rotB (freeAxes b.ndim xb).length (freeAxes a.ndim xa).length)).validB = true
      ∧ Eqv (c'.transposeF (rotB (freeAxes b.ndim xb).length (freeAxes a.ndim xa).length)) c :=
  swap_eqv hmul (AdmW.of ha hb hfa hfb hadm) hd c hc

/-- Any bracketing of a chain, any subset of its nodes evaluated
    with the operands exchanged (and rotated back): same result as the plain bracketing. -/
theorem chain_swapped_bracketing [AddCommMonoid R] [Mul R] [Neg R] [SignRing R] [AssocLaws R]
    (hmul : ∀ x y : R, x * y = y * x) (t : FTree R) (hok : t.strip.OK)
    (hd : t.strip.labels.Pairwise (fun x y => x.1 ≠ y.1)) :
    ∃ X T TL, t.eval = .ok X ∧ t.strip.eval = .ok T
      ∧ evalL t.strip.first t.strip.rest = .ok TL
      ∧ SegEqv X T ∧ SegEqv X TL ∧ X.arr.validB = true := by
  obtain ⟨X, T, e1, e2, h, v, _⟩ := ftree_eqv hmul t hok hd
  obtain ⟨T', TL, d1, _, d2, _, h'⟩ := tree_eqv_leftnested t.strip hok hd
  rw [e2] at d1
  obtain rfl := Except.ok.inj d1
  exact ⟨X, T, TL, e1, e2, d2, h, h.trans h', v⟩

/-- … at `to_dense()` level -/
theorem chain_swapped_dense [AddCommMonoid R] [Mul R] [Neg R] [SignRing R] [AssocLaws R]
    (hmul : ∀ x y : R, x * y = y * x) (t : FTree R) (X TL : Seg R) (hok : t.strip.OK)
    (hd : t.strip.labels.Pairwise (fun x y => x.1 ≠ y.1))
    (e : t.eval = .ok X) (eL : evalL t.strip.first t.strip.rest = .ok TL) :
    X.arr.toDenseF = TL.arr.toDenseF ∧ X.arr.oddpos = TL.arr.oddpos ∧ X.arr.charge = TL.arr.charge
      ∧ X.arr.indices = TL.arr.indices ∧ X.l = TL.l ∧ X.r = TL.r := by
  obtain ⟨X', T, TL', e1, _, e3, _, h, v⟩ := chain_swapped_bracketing hmul t hok hd
  rw [e] at e1
  obtain rfl := Except.ok.inj e1
  rw [eL] at e3
  obtain rfl := Except.ok.inj e3
  exact ⟨h.1.toDenseF v, h.1.oddpos, h.1.charge, h.1.indices, h.2.1, h.2.2⟩

theorem resolveScan_order_type {f : Int → Int} {P : Int → Prop} (hf : Emb f P) (fuel : Nat)
    (pre post : List (Int × Bool)) (ph : Int) (hP : ∀ a ∈ pre ++ post, P a.1) :
    resolveScan fuel (pre.map (relab f)) (post.map (relab f)) ph
      = (resolveScan fuel pre post ph).map (fun r => (r.1.map (relab f), r.2)) :=
  resolveScan_relab hf fuel pre post ph hP

theorem emb_def (f : Int → Int) (P : Int → Prop) :
    Emb f P ↔ ∀ x y, P x → P y → ((f x = f y ↔ x = y) ∧ (f x < f y ↔ x < y)) := Iff.rfl

theorem netLabelsB_order_type {f : Int → Int} {P : Int → Prop} (hf : Emb f P) (pA pB : Bool)
    (oA oB : List (Int × Bool)) (hP : ∀ a ∈ oA ++ oB, P a.1)
    (h : NormNet.netLabelsB pA pB oA oB = true) :
    NormNet.netLabelsB pA pB (oA.map (relab f)) (oB.map (relab f)) = true :=
  netLabelsB_relab hf pA pB oA oB hP h

/-- **the label check of the norm network for at most two sorted ket labels per tensor** -/
theorem netLabelsB_two (oA oB : List (Int × Bool)) (hA : NormNet.KetLabels oA)
    (hB : NormNet.KetLabels oB) (lA : oA.length ≤ 2) (lB : oB.length ≤ 2)
    (hd : (oA ++ oB).Pairwise (fun x y => x.1 ≠ y.1)) (pA pB : Bool) :
    NormNet.netLabelsB pA pB oA oB = true :=
  Assoc5P.netLabelsB_two oA oB hA hB lA lB hd pA pB

example : NormNet.KetLabels [((4 : Int), false), (9, false)] ∧ NormNet.KetLabels [((6 : Int), false), (11, false)]
    ∧ ([((4 : Int), false), (9, false)] ++ [(6, false), (11, false)]).Pairwise
        (fun (x y : Int × Bool) => x.1 ≠ y.1) := by
  refine ⟨⟨by decide, by decide⟩, ⟨by decide, by decide⟩, by decide⟩

/-- `(B·A)ᵗ · (C·D)` with the root swapped as well -/
def exFTree : FTree Int :=
  .node true (.node true (.leaf sA) (.leaf sB)) (.node false (.leaf sC) (.leaf sD))

example : exFTree.strip = exTree ∧ exFTree.strip.OK
    ∧ exFTree.strip.labels.Pairwise (fun x y => x.1 ≠ y.1) ∧ (∀ x y : Int, x * y = y * x) :=
  ⟨rfl, exTree_ok.1, exTree_ok.2.1, Int.mul_comm⟩

/-- sanity instance: the doubly swapped evaluation and the plain one give the same labels, open
    bonds and values -/
example :
    ([segOf exFTree.eval, segOf exTree.eval].map (fun s =>
      (s.arr.oddpos, s.l, s.r, s.arr.elem [(1,0),(0,0),(0,0),(1,0)] [0,0,0,0],
        s.arr.elem [(0,0),(1,0),(0,0),(1,0)] [1,1,0,0])))
      = List.replicate 2 ([(5, true), (1, false), (3, false), (7, false)], [], [], 140, 280) := by
  decide +kernel

end SymmModel.C04
