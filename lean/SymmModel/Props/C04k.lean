/-
  Property C04, second clause — "several indices contracted at once or one after another": REMAINING FORMS
  of `C04.two_step_values` (Props/C04j.lean).  Setting, vocabulary (`tsLhs`, `tsRhs`, …) and scalars as
  there; additionally `0 * x = 0 = x * 0` (C06 zero-padding reduction; instances `Int`, `GRat`).

  `two_step_values_onestep_any_mode`: the ONE-STEP call `c' = a ·_{xa++ya ~ xb++yb} b` in ANY contraction
  mode (`blockwise` / `fused` / `auto`): the two-step result `e` (blockwise `tensordotF` over `xa ~ xb`, then
  `einsumF` with the canonical labels) has the labels, charge, symmetry and kind of `c'`, every sector of `e`
  is stored in `c'`, and `e` and `c'` have the SAME VALUE at every key and every address of the un-pruned
  frame of the free legs (the statement of `two_step_values_at`; a fused-mode `c'` may store additional
  blocks: at their addresses too `e` — which does not store them — reads the value of `c'`).
  RENAMING: `a.einsumF (lhs.map f) (rhs.map f) = a.einsumF lhs rhs` (the same `Except` value: same error or
  the same array) for EVERY array, every equation and every strictly increasing renaming `f` of the letters
  (`einsumF_rename`; `einsumA_rename`: the abelian `einsumA`, every INJECTIVE `f`, for C02 readers); hence
  `two_step_values` / `two_step_values_at` with the einsum labels `tsLhs.map f -> tsRhs.map f`
  (`two_step_values_renamed`, `two_step_values_at_renamed`: shifted or spread labels, any order-preserving
  choice of letters).
  ABELIAN analogue (`tensordotA`, no signs; for C02/C06 readers), `_partial`, at element level, from the same
  Fubini core (`TwoStepP.two_step_core` with all signs `1`): `two_step_values_abelian_partial` (the explicit
  trace of the remaining pairs in `c` is `c'.elem`), `two_step_sectors_abelian_partial` (the sector-set half),
  `two_step_abelian_sum` (auxiliary: the value statement for ABSTRACT index sets).
      FULL STATEMENT (not proved): additionally `einsumA c tsLhs tsRhs = ok e` and the left-hand side replaced
      by `e.elem s' (fL ++ fR)`; same sector set and block shapes (the statement of `two_step_values`).
      MISSING in this file: the identification of the explicit trace on the left with
      `(einsumA c tsLhs tsRhs).elem` (`C02.einsumA_elem` for the NON-canonical position of the traced labels:
      `einKeep`, `einTraced` in first-appearance order — a permutation of the box of `ya` unless `ya` is
      increasing —, `einIdx`, `einSize` for `tsLhs`).  Props/C04l.lean proves it, and with it the full
      statement, for strictly increasing `ya` (`two_step_values_abelian_sorted_partial`); for the other
      orders of `ya` it stays open.
  NOT proved here: the FIRST call (the intermediate) in fused / auto mode — `einsumF` of a zero-padded
  intermediate needs "einsumF respects `TdotP.Pad`", which is not proved (`Net4P.pad_call` gives `Net4P.PadA`
  of the intermediate, `AssocP.Inter.sectors` is an equality that a padded intermediate violates);
  label choices that are NOT an increasing renaming of the canonical one (`einsumF` sorts the traced pairs BY
  LABEL, so such a renaming changes the transposition it performs; one expects equal values but not equal arrays —
  neither is proved).
-/
import SymmModel.Props.C04j
import SymmModel.Props.C06d
import SymmModel.Props.C02
import SymmModel.Proofs.TwoStepM1
import SymmModel.Proofs.TwoStepM2
import SymmModel.Proofs.TwoStepM3

namespace SymmModel.C04
open SymmModel SymmModel.GradedP SymmModel.TdotP SymmModel.AssocP SymmModel.TwoStepP
open SymmModel.Lazy (sgnI)

variable {R : Type}

theorem two_step_values_onestep_any_mode [AddCommMonoid R] [Mul R] [Neg R] [SignRing R]
    (hz1 : ∀ x : R, 0 * x = 0) (hz2 : ∀ x : R, x * 0 = 0)
    (a b c e c' : Arr R) (xa xb ya yb : List Nat) (mode : TdotMode)
    (ha : a.validB = true) (hb : b.validB = true) (hfa : a.fermi = true) (hfb : b.fermi = true)
    (g1 : tdotAdmissibleCommonB a b xa xb = true)
    (g2 : tdotAdmissibleCommonB a b (xa ++ ya) (xb ++ yb) = true)
    (h1 : a.tensordotF b (.pair (xa.map Int.ofNat) (xb.map Int.ofNat)) .blockwise = .ok c)
    (h2 : c.einsumF (tsLhs a.ndim b.ndim xa xb ya yb) (tsRhs a.ndim b.ndim xa xb ya yb) = .ok e)
    (h3 : a.tensordotF b (.pair ((xa ++ ya).map Int.ofNat) ((xb ++ yb).map Int.ofNat)) mode = .ok c') :
    e.oddpos = c'.oddpos ∧ e.charge = c'.charge ∧ e.sym = c'.sym ∧ e.fermi = c'.fermi
    ∧ (∀ s ∈ e.sectors, s ∈ c'.sectors)
    ∧ ∀ (s' : Sector) (fL fR : List Nat), fL.length = (freeAxes a.ndim (xa ++ ya)).length →
        inBox (Arr.blockShapeD (without a.indices (xa ++ ya) ++ without b.indices (xb ++ yb)) s')
          (fL ++ fR) = true →
        e.elem s' (fL ++ fR) = c'.elem s' (fL ++ fR) := by
  have hmode : mode = .blockwise ∨ (mode = .fused ∨ mode = .auto) := by
    cases mode <;> simp
  rcases hmode with rfl | hmode
  · obtain ⟨f1, f2, f3, f4, _, f6, _⟩ := two_step_values a b c e c' xa xb ya yb ha hb hfa hfb g1 g2 h1 h2 h3
    exact ⟨f1, f2, f3, f4, fun s hs => (f6 s).mp hs, fun s' fL fR hfL hbox =>
      two_step_values_at a b c e c' xa xb ya yb ha hb hfa hfb g1 g2 h1 h2 h3 s' fL fR hfL hbox⟩
  · obtain ⟨out, ph, m1, _, _, hel⟩ := C06.tensordotF_refines_graded_any_mode_weak hz1 hz2 a b c'
      (xa ++ ya) (xb ++ yb) ha hb hfa hfb g2 mode hmode h3
    obtain ⟨_, hk⟩ := C06.tensordotF_modes_agree_weak hz1 hz2 a b (xa ++ ya) (xb ++ yb)
      (AdmW.of ha hb hfa hfb g2) mode hmode
    obtain ⟨rm, rb, hm, hbw, k1, k2, k3, k4, _, hsec, _⟩ := hk (out, ph) m1
    rw [h3] at hm
    obtain rfl := Except.ok.inj hm
    obtain ⟨out2, ph2, m2, _, _, hel2⟩ :=
      tensordotF_refines_graded_common a b rb (xa ++ ya) (xb ++ yb) ha hb hfa hfb g2 hbw
    rw [m1] at m2
    obtain ⟨rfl, rfl⟩ := Prod.mk.inj (Except.ok.inj m2)
    obtain ⟨f1, f2, f3, f4, _, f6, _⟩ :=
      two_step_values a b c e rb xa xb ya yb ha hb hfa hfb g1 g2 h1 h2 hbw
    refine ⟨f1.trans k1.symm, f2.trans k2.symm, f3.trans k3.symm, f4.trans k4.symm,
      fun s hs => hsec s ((f6 s).mp hs), ?_⟩
    intro s' fL fR hfL hbox
    rw [two_step_values_at a b c e rb xa xb ya yb ha hb hfa hfb g1 g2 h1 h2 hbw s' fL fR hfL hbox,
      hel s' fL fR hfL hbox, hel2 s' fL fR hfL hbox]

/-- Abstract index sets.  Abelian operands (no pending signs, distinct sector keys, block
    shapes given by the index tables).  `S`: the sectors of the intermediate that survive the trace of the
    remaining pairs and land on `s'` (`hmem`); `T s`: the box of the remaining pairs (`hT`).  Every
    assembled address lies in the intermediate's table box (`hboxI`). -/
theorem two_step_abelian_sum [AddCommMonoid R] [Mul R] [Neg R] [SignRing R]
    (a b : Arr R) (xa xb ya yb : List Nat) (S : List Sector) (s' : Sector)
    (T : Sector → List Nat) (fL fR : List Nat)
    (hpa : a.phases = []) (hpb : b.phases = [])
    (hda : allDistinct a.sectors = true) (hdb : allDistinct b.sectors = true)
    (hsa : a.shapesOk) (hsb : b.shapesOk)
    (hS : S.Nodup)
    (hmem : ∀ sa ∈ a.sectors, ∀ sb ∈ b.sectors, permuted sb xb = permuted sa xa →
      ((permuted sa (freeAxes a.ndim xa) ++ permuted sb (freeAxes b.ndim xb)) ∈ S ↔
        (permuted sb (xb ++ yb) = permuted sa (xa ++ ya)
          ∧ permuted sa (freeAxes a.ndim (xa ++ ya)) ++ permuted sb (freeAxes b.ndim (xb ++ yb)) = s')))
    (hal : ∀ sa ∈ a.sectors, ∀ sb ∈ b.sectors, permuted sb (xb ++ yb) = permuted sa (xa ++ ya) →
      permuted sb xb = permuted sa xa)
    (hT : ∀ s ∈ S, ∀ p ∈ storedPairs a b (freeAxes a.ndim xa) xa xb (freeAxes b.ndim xb) s,
      T s = permuted (Arr.blockShapeD a.indices p.1) ya)
    (hxa : ∀ sa ∈ a.sectors, ∀ i ∈ xa, i < (Arr.blockShapeD a.indices sa).length)
    (hlx : xa.length = xb.length)
    (hboxI : ∀ s ∈ S, ∀ t ∈ allIdx (T s),
      inBox (Arr.blockShapeD (without a.indices xa ++ without b.indices xb) s)
        (asmSide (freeAxes a.ndim xa) ya (freeAxes a.ndim (xa ++ ya)) t fL
          ++ asmSide (freeAxes b.ndim xb) yb (freeAxes b.ndim (xb ++ yb)) t fR) = true)
    (hfL : fL.length = (freeAxes a.ndim (xa ++ ya)).length)
    (hbox : inBox (Arr.blockShapeD (without a.indices (xa ++ ya) ++ without b.indices (xb ++ yb)) s')
      (fL ++ fR) = true) :
    (S.map (fun s => ((allIdx (T s)).map (fun t =>
        (tensordotBlockwise a b (freeAxes a.ndim xa) xa xb (freeAxes b.ndim xb)).elem s
          (asmSide (freeAxes a.ndim xa) ya (freeAxes a.ndim (xa ++ ya)) t fL
            ++ asmSide (freeAxes b.ndim xb) yb (freeAxes b.ndim (xb ++ yb)) t fR))).sum)).sum
      = (tensordotBlockwise a b (freeAxes a.ndim (xa ++ ya)) (xa ++ ya) (xb ++ yb)
          (freeAxes b.ndim (xb ++ yb))).elem s' (fL ++ fR) := by
  have e0 := C02.tensordotBlockwise_elem_split a b (xa ++ ya) (xb ++ yb) hpa hpb hda hdb hsa hsb [] s' fL fR
    hfL hbox
  rw [List.nil_append] at e0
  -- the Fubini core with every sign equal to `1`
  have key := two_step_core a b xa xb ya yb S s' T (fun _ => 1) 1 (fun _ => 1) fL fR
    (fun _ => Or.inl rfl) (Or.inl rfl) (fun _ => Or.inl rfl) hS
    (allDistinct_iff_nodup.mp hda) (allDistinct_iff_nodup.mp hdb) hmem hal hT hxa hlx
  simp only [Lazy.sgnI_one, Int.mul_one] at key
  rw [e0, ← key]
  apply sum_map_congr
  intro s hs
  apply sum_map_congr
  intro t ht
  have e1 := C02.tensordotBlockwise_elem_split a b xa xb hpa hpb hda hdb hsa hsb [] s _ _
    (asmSide_length _ _ _ _ _) (hboxI _ hs t ht)
  rw [List.nil_append] at e1
  exact e1

/-- vocabulary of the abelian form: the surviving sectors and the box of the remaining pairs -/
theorem two_step_abelian_defs (a b c : Arr R) (na nb : Nat) (xa xb ya yb : List Nat) (s' s : Sector) :
    tsSurv c na nb xa xb ya yb s' = c.sectors.filter (fun s =>
        permuted s (tsPA na xa ya) == permuted s (tsPB na nb xa xb yb)
        && permuted s (tsRhs na nb xa xb ya yb) == s')
    ∧ tsBox a b xa xb ya s
        = permuted (Arr.blockShapeD (without a.indices xa ++ without b.indices xb) s) (tsPA a.ndim xa ya) :=
  ⟨rfl, rfl⟩

/-- the two abelian calls of the property, unfolded: the guards as the fermionic lemmas read them (through
    `fz`), and both results as `tensordotBlockwise` -/
theorem abelian_calls [AddCommMonoid R] [Mul R] [Neg R] [SignRing R]
    {a b c c' : Arr R} {xa xb ya yb : List Nat}
    (ha : a.validB = true) (hb : b.validB = true) (hfa : a.fermi = false) (hfb : b.fermi = false)
    (g1 : tdotAdmissibleCommonB a b xa xb = true)
    (g2 : tdotAdmissibleCommonB a b (xa ++ ya) (xb ++ yb) = true)
    (h1 : tensordotA a b (.pair (xa.map Int.ofNat) (xb.map Int.ofNat)) .blockwise = .ok c)
    (h3 : tensordotA a b (.pair ((xa ++ ya).map Int.ofNat) ((xb ++ yb).map Int.ofNat)) .blockwise = .ok c') :
    AdmW (fz a) (fz b) xa xb ∧ AdmW (fz a) (fz b) (xa ++ ya) (xb ++ yb)
    ∧ tensordotBlockwise a b (freeAxes a.ndim xa) xa xb (freeAxes b.ndim xb) = c
    ∧ tensordotBlockwise a b (freeAxes a.ndim (xa ++ ya)) (xa ++ ya) (xb ++ yb)
        (freeAxes b.ndim (xb ++ yb)) = c' := by
  have W1 : AdmW (fz a) (fz b) xa xb := AdmW.of (fz_valid ha hfa) (fz_valid hb hfb) rfl rfl g1
  have W2 : AdmW (fz a) (fz b) (xa ++ ya) (xb ++ yb) :=
    AdmW.of (fz_valid ha hfa) (fz_valid hb hfb) rfl rfl g2
  rw [C02.tensordotA_blockwise, ValidP.parseAxes_nat a.ndim b.ndim xa xb W1.len W1.ltA W1.ltB] at h1
  rw [C02.tensordotA_blockwise,
    ValidP.parseAxes_nat a.ndim b.ndim (xa ++ ya) (xb ++ yb) W2.len W2.ltA W2.ltB] at h3
  exact ⟨W1, W2, Except.ok.inj h1, Except.ok.inj h3⟩

/-- Valid ABELIAN `a`, `b` (`fermi = false`: no pending signs, no
    labels), the guards of `two_step_values`; `c = tensordotA a b (xa ~ xb)`,
    `c' = tensordotA a b (xa ++ ya ~ xb ++ yb)` (blockwise).  Tracing the remaining pairs in `c` — the sum,
    over the sectors `s` of `c` with equal charges at the positions `tsPA[i]`, `tsPB[i]` of every remaining
    pair and untraced part `s'`, and over the box of the remaining pairs, of `c`'s element at the address
    that puts `t[i]` on both legs of pair `i` and `fL ++ fR` on the untraced legs — gives the element of
    `c'` at `(s', fL ++ fR)`, at every key `s'` and every address of the un-pruned frame of the free legs.
    (`_partial`: the left-hand side is what `einsumA c tsLhs tsRhs` computes, `C02.einsumA_elem`, but that
    identification is proved only for strictly increasing `ya`, in Props/C04l.lean; see the header.) -/
theorem two_step_values_abelian_partial [AddCommMonoid R] [Mul R] [Neg R] [SignRing R]
    (a b c c' : Arr R) (xa xb ya yb : List Nat)
    (ha : a.validB = true) (hb : b.validB = true) (hfa : a.fermi = false) (hfb : b.fermi = false)
    (g1 : tdotAdmissibleCommonB a b xa xb = true)
    (g2 : tdotAdmissibleCommonB a b (xa ++ ya) (xb ++ yb) = true)
    (h1 : tensordotA a b (.pair (xa.map Int.ofNat) (xb.map Int.ofNat)) .blockwise = .ok c)
    (h3 : tensordotA a b (.pair ((xa ++ ya).map Int.ofNat) ((xb ++ yb).map Int.ofNat)) .blockwise = .ok c')
    (s' : Sector) (fL fR : List Nat)
    (hfL : fL.length = (freeAxes a.ndim (xa ++ ya)).length)
    (hbox : inBox (Arr.blockShapeD (without a.indices (xa ++ ya) ++ without b.indices (xb ++ yb)) s')
      (fL ++ fR) = true) :
    ((tsSurv c a.ndim b.ndim xa xb ya yb s').map (fun s => ((allIdx (tsBox a b xa xb ya s)).map (fun t =>
        c.elem s
          (asmSide (freeAxes a.ndim xa) ya (freeAxes a.ndim (xa ++ ya)) t fL
            ++ asmSide (freeAxes b.ndim xb) yb (freeAxes b.ndim (xb ++ yb)) t fR))).sum)).sum
      = c'.elem s' (fL ++ fR) := by
  obtain ⟨W1, W2, rfl, rfl⟩ := abelian_calls ha hb hfa hfb g1 g2 h1 h3
  have hsA := Arr.shapesOk_of_validB ha
  have hsB := Arr.shapesOk_of_validB hb
  have hc := C02.tensordotBlockwise_sectors a b (freeAxes a.ndim xa) xa xb (freeAxes b.ndim xb)
  have lA : ∀ sa ∈ a.sectors, sa.length = a.ndim := fun sa h => (shape_of_mem hsA h).choose_spec.2.2.2
  have lB : ∀ sb ∈ b.sectors, sb.length = b.ndim := fun sb h => (shape_of_mem hsB h).choose_spec.2.2.2
  refine two_step_abelian_sum a b xa xb ya yb _ s' (tsBox a b xa xb ya) fL fR
    (Arr.phases_nil_of_validB ha hfa) (Arr.phases_nil_of_validB hb hfb)
    (Arr.allDistinct_of_validB ha) (Arr.allDistinct_of_validB hb) hsA hsB
    (List.Nodup.filter _ (allDistinct_iff_nodup.mp
      (C02.tensordotBlockwise_sectors_distinct a b _ xa xb _)))
    (fun sa hsa sb hsb halx => surv_mem (a := fz a) (b := fz b) W1 W2 hc s' hsa hsb halx)
    (fun sa hsa sb hsb h => ((aligned_split sa sb xa ya xb yb (by rw [lA sa hsa]; exact W1.ltA)
      (by rw [lB sb hsb]; exact W1.ltB) W1.len).mp h).1)
    ?_ ?_ W1.len ?_ hfL hbox
  · intro s _ p hp
    obtain ⟨hsa, hsb, _, rfl⟩ := mem_storedPairs.mp hp
    exact surv_box (a := fz a) (b := fz b) W2 hsa hsb
  · intro sa hsa i hi
    obtain ⟨shp, _, e2, e3, _⟩ := shape_of_mem hsA hsa
    rw [e2, e3]; exact W1.ltA i hi
  · intro s hs t ht
    obtain ⟨sa, hsa, sb, hsb, halx, rfl⟩ := (hc s).mp (List.mem_filter.mp hs).1
    obtain ⟨hal, hk⟩ := (surv_mem (a := fz a) (b := fz b) W1 W2 hc s' hsa hsb halx.symm).mp hs
    have eB : tsBox a b xa xb ya (permuted sa (freeAxes a.ndim xa) ++ permuted sb (freeAxes b.ndim xb))
        = permuted (Arr.blockShapeD a.indices sa) ya := surv_box (a := fz a) (b := fz b) W2 hsa hsb
    rw [eB] at ht
    have hk' : permuted sa (freeAxes a.ndim (xa ++ ya)) ++ permuted sb (freeAxes b.ndim (xb ++ yb)) = s' := hk
    subst hk'
    exact surv_inBox (a := fz a) (b := fz b) W1 W2 hsa hsb hal t fL fR ht hfL hbox

/-- The sector set of the one-step abelian contraction is the set of
    untraced parts of the sectors of the intermediate that survive the trace of the remaining pairs (the key
    set `einsumA c tsLhs tsRhs` builds, `C02.einsumA_elem`; that identification is proved only for strictly
    increasing `ya`, in Props/C04l.lean). -/
theorem two_step_sectors_abelian_partial [AddCommMonoid R] [Mul R] [Neg R] [SignRing R]
    (a b c c' : Arr R) (xa xb ya yb : List Nat)
    (ha : a.validB = true) (hb : b.validB = true) (hfa : a.fermi = false) (hfb : b.fermi = false)
    (g1 : tdotAdmissibleCommonB a b xa xb = true)
    (g2 : tdotAdmissibleCommonB a b (xa ++ ya) (xb ++ yb) = true)
    (h1 : tensordotA a b (.pair (xa.map Int.ofNat) (xb.map Int.ofNat)) .blockwise = .ok c)
    (h3 : tensordotA a b (.pair ((xa ++ ya).map Int.ofNat) ((xb ++ yb).map Int.ofNat)) .blockwise = .ok c')
    (s' : Sector) :
    s' ∈ c'.sectors ↔ ∃ s, s ∈ tsSurv c a.ndim b.ndim xa xb ya yb s' := by
  obtain ⟨W1, W2, rfl, rfl⟩ := abelian_calls ha hb hfa hfb g1 g2 h1 h3
  have hsA := Arr.shapesOk_of_validB ha
  have hsB := Arr.shapesOk_of_validB hb
  have hc := C02.tensordotBlockwise_sectors a b (freeAxes a.ndim xa) xa xb (freeAxes b.ndim xb)
  have lA : ∀ sa ∈ a.sectors, sa.length = a.ndim := fun sa h => (shape_of_mem hsA h).choose_spec.2.2.2
  have lB : ∀ sb ∈ b.sectors, sb.length = b.ndim := fun sb h => (shape_of_mem hsB h).choose_spec.2.2.2
  rw [C02.tensordotBlockwise_sectors a b (freeAxes a.ndim (xa ++ ya)) (xa ++ ya) (xb ++ yb)
    (freeAxes b.ndim (xb ++ yb))]
  constructor
  · rintro ⟨sa, hsa, sb, hsb, hal, rfl⟩
    have halx := ((aligned_split sa sb xa ya xb yb (by rw [lA sa hsa]; exact W1.ltA)
      (by rw [lB sb hsb]; exact W1.ltB) W1.len).mp hal.symm).1
    exact ⟨_, (surv_mem (a := fz a) (b := fz b) W1 W2 hc _ hsa hsb halx).mpr ⟨hal.symm, rfl⟩⟩
  · rintro ⟨s, hs⟩
    obtain ⟨sa, hsa, sb, hsb, halx, rfl⟩ := (hc s).mp (List.mem_filter.mp hs).1
    obtain ⟨hal, hk⟩ := (surv_mem (a := fz a) (b := fz b) W1 W2 hc s' hsa hsb halx.symm).mp hs
    exact ⟨sa, hsa, sb, hsb, hal.symm, hk.symm⟩

/-- non-vacuity of `two_step_values_abelian_partial`: `exA`, `exB` of C02 satisfy the hypotheses (first
    `1 ~ 0`, then `2 ~ 1`), two intermediate sectors survive onto `(0,0)`, and the theorem applies -/
example :
    C02.exA.validB = true ∧ C02.exB.validB = true ∧ C02.exA.fermi = false ∧ C02.exB.fermi = false
    ∧ tdotAdmissibleCommonB C02.exA C02.exB [1] [0] = true
    ∧ tdotAdmissibleCommonB C02.exA C02.exB ([1] ++ [2]) ([0] ++ [1]) = true
    ∧ (match tensordotA C02.exA C02.exB (.pair [1] [0]) .blockwise with
       | .ok c => (tsSurv c 3 3 [1] [0] [2] [1] [C02.c0, C02.c0]).length == 2
           && (tsSurv c 3 3 [1] [0] [2] [1] [C02.c0, C02.c0]).map (tsBox C02.exA C02.exB [1] [0] [2])
               == [[2], [2]]
       | .error _ => false) = true := by
  decide +kernel

example (c c' : Arr Int)
    (h1 : tensordotA C02.exA C02.exB (.pair ([1].map Int.ofNat) ([0].map Int.ofNat)) .blockwise = .ok c)
    (h3 : tensordotA C02.exA C02.exB (.pair (([1] ++ [2]).map Int.ofNat) (([0] ++ [1]).map Int.ofNat))
      .blockwise = .ok c') :
    ((tsSurv c C02.exA.ndim C02.exB.ndim [1] [0] [2] [1] [C02.c0, C02.c0]).map (fun s =>
        ((allIdx (tsBox C02.exA C02.exB [1] [0] [2] s)).map (fun t =>
          c.elem s (asmSide (freeAxes C02.exA.ndim [1]) [2] (freeAxes C02.exA.ndim ([1] ++ [2])) t [1]
            ++ asmSide (freeAxes C02.exB.ndim [0]) [1] (freeAxes C02.exB.ndim ([0] ++ [1])) t [0]))).sum)).sum
      = c'.elem [C02.c0, C02.c0] ([1] ++ [0]) :=
  two_step_values_abelian_partial C02.exA C02.exB c c' [1] [0] [2] [1] (by decide +kernel) (by decide +kernel)
    rfl rfl (by decide +kernel) (by decide +kernel) h1 h3 [C02.c0, C02.c0] [1] [0] (by decide +kernel)
    (by decide +kernel)

/-- non-vacuity of `two_step_abelian_sum`: the abelian Z2 operands `exA[i,j,k]`, `exB[j,k,m]` of
    C02 (three stored blocks each, a valid sector missing), first `j` (`1 ~ 0`), then `k` (`2 ~ 1`); the
    intermediate has the legs `i k | k m`, traced positions `1 ~ 2`; output sector
    `(0,0)`, address `(1,0)`.  `S`: the intermediate sectors with equal charges at positions 1, 2 whose
    kept part is `(0,0)` (two of them: the sum really runs over several sectors), `T s`: the size of leg
    `1` of the block `s`.  All hypotheses hold, and both sides evaluate to the same number. -/
example :
    let S : List Sector := (tensordotBlockwise C02.exA C02.exB [0, 2] [1] [0] [1, 2]).sectors.filter
      (fun s => permuted s [1] == permuted s [2] && permuted s [0, 3] == [C02.c0, C02.c0])
    let T : Sector → List Nat := fun s =>
      permuted (Arr.blockShapeD (without C02.exA.indices [1] ++ without C02.exB.indices [0]) s) [1]
    freeAxes C02.exA.ndim [1] = [0, 2] ∧ freeAxes C02.exB.ndim [0] = [1, 2] ∧ S.length = 2
    ∧ C02.exA.phases = [] ∧ C02.exB.phases = []
    ∧ allDistinct C02.exA.sectors = true ∧ allDistinct C02.exB.sectors = true ∧ S.Nodup
    ∧ (∀ sa ∈ C02.exA.sectors, ∀ sb ∈ C02.exB.sectors, permuted sb [0] = permuted sa [1] →
      ((permuted sa (freeAxes C02.exA.ndim [1]) ++ permuted sb (freeAxes C02.exB.ndim [0])) ∈ S ↔
        (permuted sb ([0] ++ [1]) = permuted sa ([1] ++ [2])
          ∧ permuted sa (freeAxes C02.exA.ndim ([1] ++ [2])) ++ permuted sb (freeAxes C02.exB.ndim ([0] ++ [1]))
            = [C02.c0, C02.c0])))
    ∧ (∀ sa ∈ C02.exA.sectors, ∀ sb ∈ C02.exB.sectors,
        permuted sb ([0] ++ [1]) = permuted sa ([1] ++ [2]) → permuted sb [0] = permuted sa [1])
    ∧ (∀ s ∈ S, ∀ p ∈ storedPairs C02.exA C02.exB (freeAxes C02.exA.ndim [1]) [1] [0]
          (freeAxes C02.exB.ndim [0]) s, T s = permuted (Arr.blockShapeD C02.exA.indices p.1) [2])
    ∧ (∀ sa ∈ C02.exA.sectors, ∀ i ∈ [1], i < (Arr.blockShapeD C02.exA.indices sa).length)
    ∧ (∀ s ∈ S, ∀ t ∈ allIdx (T s),
      inBox (Arr.blockShapeD (without C02.exA.indices [1] ++ without C02.exB.indices [0]) s)
        (asmSide (freeAxes C02.exA.ndim [1]) [2] (freeAxes C02.exA.ndim ([1] ++ [2])) t [1]
          ++ asmSide (freeAxes C02.exB.ndim [0]) [1] (freeAxes C02.exB.ndim ([0] ++ [1])) t [0]) = true)
    ∧ inBox (Arr.blockShapeD (without C02.exA.indices ([1] ++ [2]) ++ without C02.exB.indices ([0] ++ [1]))
        [C02.c0, C02.c0]) ([1] ++ [0]) = true
    ∧ (S.map (fun s => ((allIdx (T s)).map (fun t =>
        (tensordotBlockwise C02.exA C02.exB [0, 2] [1] [0] [1, 2]).elem s
          (asmSide [0, 2] [2] [0] t [1] ++ asmSide [1, 2] [1] [2] t [0]))).sum)).sum
      = (tensordotBlockwise C02.exA C02.exB [0] [1, 2] [0, 1] [2]).elem [C02.c0, C02.c0] [1, 0]
    ∧ (tensordotBlockwise C02.exA C02.exB [0] [1, 2] [0, 1] [2]).elem [C02.c0, C02.c0] [1, 0] ≠ 0 := by
  decide +kernel

/-- The abelian einsum only compares labels for equality. -/
theorem einsumA_rename [Zero R] [Add R] (f : Nat → Nat) (hf : ∀ x y, f x = f y → x = y)
    (a : Arr R) (lhs rhs : List Nat) :
    einsumA a (lhs.map f) (rhs.map f) = einsumA a lhs rhs :=
  TwoStepP.einsumA_rename hf a lhs rhs

/-- The fermionic einsum sorts the axes by (output position, label, bra first): a
    strictly increasing renaming changes nothing. -/
theorem einsumF_rename [Zero R] [Add R] [Neg R] (f : Nat → Nat) (hm : ∀ x y, x < y → f x < f y)
    (a : Arr R) (lhs rhs : List Nat) :
    a.einsumF (lhs.map f) (rhs.map f) = a.einsumF lhs rhs :=
  TwoStepP.einsumF_rename hm a lhs rhs

theorem two_step_values_renamed [AddCommMonoid R] [Mul R] [Neg R] [SignRing R]
    (f : Nat → Nat) (hm : ∀ x y, x < y → f x < f y)
    (a b c e c' : Arr R) (xa xb ya yb : List Nat)
    (ha : a.validB = true) (hb : b.validB = true) (hfa : a.fermi = true) (hfb : b.fermi = true)
    (g1 : tdotAdmissibleCommonB a b xa xb = true)
    (g2 : tdotAdmissibleCommonB a b (xa ++ ya) (xb ++ yb) = true)
    (h1 : a.tensordotF b (.pair (xa.map Int.ofNat) (xb.map Int.ofNat)) .blockwise = .ok c)
    (h2 : c.einsumF ((tsLhs a.ndim b.ndim xa xb ya yb).map f) ((tsRhs a.ndim b.ndim xa xb ya yb).map f)
      = .ok e)
    (h3 : a.tensordotF b (.pair ((xa ++ ya).map Int.ofNat) ((xb ++ yb).map Int.ofNat)) .blockwise
      = .ok c') :
    e.oddpos = c'.oddpos ∧ e.charge = c'.charge ∧ e.sym = c'.sym ∧ e.fermi = c'.fermi
    ∧ e.ndim = c'.ndim
    ∧ (∀ s, s ∈ e.sectors ↔ s ∈ c'.sectors)
    ∧ (∀ s ∈ c'.sectors, Arr.blockShapeD e.indices s = Arr.blockShapeD c'.indices s)
    ∧ (∀ s ∈ c'.sectors, ∀ o, inBox (Arr.blockShapeD c'.indices s) o = true → e.elem s o = c'.elem s o)
    ∧ (∀ s, s ∉ c'.sectors → ∀ o, e.elem s o = 0 ∧ c'.elem s o = 0)
    ∧ (∀ j, j < c'.ndim → ∃ ix : Index,
        Pruned (e.indices.getD j default) ix ∧ Pruned (c'.indices.getD j default) ix) := by
  rw [TwoStepP.einsumF_rename hm] at h2
  exact two_step_values a b c e c' xa xb ya yb ha hb hfa hfb g1 g2 h1 h2 h3

theorem two_step_values_at_renamed [AddCommMonoid R] [Mul R] [Neg R] [SignRing R]
    (f : Nat → Nat) (hm : ∀ x y, x < y → f x < f y)
    (a b c e c' : Arr R) (xa xb ya yb : List Nat)
    (ha : a.validB = true) (hb : b.validB = true) (hfa : a.fermi = true) (hfb : b.fermi = true)
    (g1 : tdotAdmissibleCommonB a b xa xb = true)
    (g2 : tdotAdmissibleCommonB a b (xa ++ ya) (xb ++ yb) = true)
    (h1 : a.tensordotF b (.pair (xa.map Int.ofNat) (xb.map Int.ofNat)) .blockwise = .ok c)
    (h2 : c.einsumF ((tsLhs a.ndim b.ndim xa xb ya yb).map f) ((tsRhs a.ndim b.ndim xa xb ya yb).map f)
      = .ok e)
    (h3 : a.tensordotF b (.pair ((xa ++ ya).map Int.ofNat) ((xb ++ yb).map Int.ofNat)) .blockwise
      = .ok c')
    (s' : Sector) (fL fR : List Nat)
    (hfL : fL.length = (freeAxes a.ndim (xa ++ ya)).length)
    (hbox : inBox (Arr.blockShapeD (without a.indices (xa ++ ya) ++ without b.indices (xb ++ yb)) s')
      (fL ++ fR) = true) :
    e.elem s' (fL ++ fR) = c'.elem s' (fL ++ fR) := by
  rw [TwoStepP.einsumF_rename hm] at h2
  exact two_step_values_at a b c e c' xa xb ya yb ha hb hfa hfb g1 g2 h1 h2 h3 s' fL fR hfL hbox

/-- non-vacuity: `x ↦ 3 * x + 7` is strictly increasing; the canonical labels `abbc -> ac`
    (`[0,4,4,3] -> [0,3]`) become `[7,19,19,16] -> [7,16]`, and evaluation confirms that the einsum of the
    intermediate of `gA`, `gB` is the same array (labels, tables, pending signs, blocks) -/
example : (∀ x y : Nat, x < y → 3 * x + 7 < 3 * y + 7)
    ∧ (tsLhs 3 3 [1] [1] [2] [0]).map (fun x => 3 * x + 7) = [7, 19, 19, 16]
    ∧ (tsRhs 3 3 [1] [1] [2] [0]).map (fun x => 3 * x + 7) = [7, 16]
    ∧ (match C03.gA.tensordotF C03.gB (.pair [1] [1]) .blockwise with
       | .ok c => (match c.einsumF [7, 19, 19, 16] [7, 16], c.einsumF [0, 4, 4, 3] [0, 3] with
          | .ok e, .ok e' => e.oddpos == e'.oddpos && e.indices == e'.indices && e.phases == e'.phases
              && e.blocks.map (fun p => (p.1, p.2.data)) == e'.blocks.map (fun p => (p.1, p.2.data))
              && e.blocks.length == 2
          | _, _ => false)
       | .error _ => false) = true :=
  ⟨fun x y h => by omega, by decide, by decide, by decide +kernel⟩

open SymmModel.C03

/-- the hypotheses hold with the one-step call in fused and in auto mode, the calls succeed, and
    evaluation confirms labels, charge and that every block the blockwise result stores is stored with
    the same (synchronised) data -/
example :
    gA.validB = true ∧ gB.validB = true ∧ gA.fermi = true ∧ gB.fermi = true
    ∧ tdotAdmissibleCommonB gA gB [1] [1] = true
    ∧ tdotAdmissibleCommonB gA gB ([1] ++ [2]) ([1] ++ [0]) = true
    ∧ (∀ x : Int, 0 * x = 0) ∧ (∀ x : Int, x * 0 = 0)
    ∧ (match gA.tensordotF gB (.pair [1] [1]) .blockwise, gA.tensordotF gB (.pair [1, 2] [1, 0]) .fused,
         gA.tensordotF gB (.pair [1, 2] [1, 0]) .auto with
       | .ok c, .ok c', .ok c'' =>
         (match c.einsumF (tsLhs gA.ndim gB.ndim [1] [1] [2] [0]) (tsRhs gA.ndim gB.ndim [1] [1] [2] [0]) with
          | .ok e => e.oddpos == c'.oddpos && e.charge == c'.charge && e.oddpos == c''.oddpos
              && e.phaseSync.blocks.all (fun p =>
                  (alookup c'.phaseSync.blocks p.1).map (·.data) == some p.2.data
                  && (alookup c''.phaseSync.blocks p.1).map (·.data) == some p.2.data)
              && e.blocks.length == 2
          | .error _ => false)
       | _, _, _ => false) = true :=
  ⟨by decide +kernel, by decide +kernel, rfl, rfl, by decide +kernel, by decide +kernel,
    Int.zero_mul, Int.mul_zero, by decide +kernel⟩

example (c e c' : Arr Int)
    (h1 : gA.tensordotF gB (.pair ([1].map Int.ofNat) ([1].map Int.ofNat)) .blockwise = .ok c)
    (h2 : c.einsumF (tsLhs gA.ndim gB.ndim [1] [1] [2] [0]) (tsRhs gA.ndim gB.ndim [1] [1] [2] [0]) = .ok e)
    (h3 : gA.tensordotF gB (.pair (([1] ++ [2]).map Int.ofNat) (([1] ++ [0]).map Int.ofNat)) .fused
      = .ok c') :
    e.oddpos = c'.oddpos :=
  (two_step_values_onestep_any_mode Int.zero_mul Int.mul_zero gA gB c e c' [1] [1] [2] [0] .fused
    (by decide +kernel) (by decide +kernel) rfl rfl (by decide +kernel) (by decide +kernel) h1 h2 h3).1

end SymmModel.C04
