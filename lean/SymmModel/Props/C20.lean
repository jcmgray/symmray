/-
  Property C20 — element type and precision are preserved.

  The dtype content of symmray's operations is: every result block is produced from operand
  blocks by kernels that keep the dtype, by binary kernels that promote, by `zeros` created with
  the dtype of an example block of the same array, or by assignment into such a zero block.
  The theorems below say that on *uniform* inputs (all blocks of one dtype `d`) each of these
  yields `d` again (real part of `d` for spectra), that promotion is a join (so order of
  accumulation is irrelevant), and that assignment into a `zeros` block created with the example
  dtype never drops an imaginary part.  The correspondence check (harness/props/c20.py) ties
  `promote`/`realPart` to numpy exhaustively and checks the dtype of every block of every
  result of every operation on the real code.
-/
import SymmModel.Model.DType
namespace SymmModel.C20
open SymmModel DType

theorem promote_self (d : DType) : promote d d = d := by cases d <;> rfl
theorem promote_comm (a b : DType) : promote a b = promote b a := by cases a <;> cases b <;> rfl
theorem promote_assoc (a b c : DType) : promote (promote a b) c = promote a (promote b c) := by
  cases a <;> cases b <;> cases c <;> rfl
theorem realPart_real (d : DType) : (realPart d).isComplex = false := by cases d <;> rfl
theorem realPart_precision (d : DType) : (realPart d).isDouble = d.isDouble := by cases d <;> rfl
theorem realPart_idem (d : DType) : realPart (realPart d) = realPart d := by cases d <;> rfl

/-- the fold of symmray's accumulation of aligned block products and of its concatenation of
    sub-blocks -/
theorem fold_promote_uniform (d : DType) (l : List DType) (h : ∀ x ∈ l, x = d) :
    l.foldl promote d = d := by
  induction l with
  | nil => rfl
  | cons x xs ih =>
    have hx : x = d := h x (by simp)
    subst hx
    simp only [List.foldl_cons, promote_self]
    exact ih (fun y hy => h y (by simp [hy]))

/-- every kernel class preserves a uniform dtype (real part for spectra) -/
theorem dop_uniform (op : DOp) (d : DType) (args : List DType) (h : ∀ x ∈ args, x = d) :
    op.result d args = if op = DOp.real ∧ args ≠ [] then realPart d else d := by
  cases op <;> cases args with
  | nil => simp [DOp.result]
  | cons a rest =>
    have ha : a = d := h a (by simp)
    subst ha
    simp only [DOp.result]
    first
      | rfl
      | (simp; exact fold_promote_uniform a rest (fun y hy => h y (by simp [hy])))
      | simp

/-- a zero block created with the example dtype takes data of the same dtype without dropping an
    imaginary part -/
theorem insert_no_imag_loss (d : DType) : losesImag (DOp.zerosLike.result d []) d = false := by
  cases d <;> rfl

/-- whereas a default-dtype (`float64`) zero block would drop the imaginary part of complex data
    and widen single precision: this is the failure the property excludes -/
theorem default_zeros_loses_imag : losesImag zerosDefault c64 = true ∧ losesImag zerosDefault c128 = true
    ∧ castInto zerosDefault f32 ≠ f32 := by decide

example : (DOp.binary).result f32 [f32, f32, f32] = f32 := by decide
example : (DOp.real).result c64 [c64] = f32 := by decide

end SymmModel.C20
