import SymmModel.Props.C07All4
import SymmModel.Props.C07f
