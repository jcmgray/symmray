/-
  Property C16, second part — the dense form of `from_fill_fn` (zeros, constants, any fill
  function), and what `from_dense` does with the contents of non-conserving sectors.

  `from_dense(..., invalid_sectors=…)`: the model's `fromDense` (Model/Construct.lean) has no
  `invalid_sectors` parameter; it behaves as `"ignore"` (and as the default `"warn"`, which only
  emits a warning): entries whose labels do not conserve the charge never influence the result
  (`fromDense_ignores_invalid`, `fromDense_error_indep`).  The mode `"raise"` is not modelled;
  the condition under which it raises in abelian_core.py — some entry of a non-conserving sector
  is non-zero (there: `> 1e-12` in modulus) — is, with exact zero, exactly the condition under
  which dense → blocks → dense loses information (`fromDense_lossless_iff`).
-/
import SymmModel.Proofs.DenseMore
import SymmModel.Props.C16

namespace SymmModel.C16
open SymmModel Arr

variable {R : Type}

theorem forall₂_fill_lookup {fill : Sector → List Nat → Blk R} {indices : List Index}
    {secs : List Sector} {blocks : List (Sector × Blk R)}
    (h : List.Forall₂ (fun s (sb : Sector × Blk R) =>
        sb.1 = s ∧ ∃ shp, Arr.blockShape? indices s = some shp ∧ sb.2 = fill s shp) secs blocks) :
    blocks.map (·.1) = secs
    ∧ ∀ sb ∈ blocks, ∃ shp, Arr.blockShape? indices sb.1 = some shp ∧ sb.2 = fill sb.1 shp := by
  induction h with
  | nil => exact ⟨rfl, by simp⟩
  | cons hab _ ih =>
    obtain ⟨h1, shp, h2, h3⟩ := hab
    refine ⟨by simp [h1, ih.1], ?_⟩
    intro sb hsb
    rcases List.mem_cons.mp hsb with rfl | hsb
    · exact ⟨shp, by rw [h1]; exact h2, by rw [h1]; exact h3⟩
    · exact ih.2 sb hsb

/-- **dense form of `from_fill_fn`** (hence of `random`, which calls it), for index tables of
    valid, distinct charges, none empty, and a valid total charge: shape of the indices; at a
    position whose sector conserves the charge the entry of `fill sector block_shape` at the
    position's offsets; zero elsewhere -/
theorem fromFillFn_toDense [Zero R] [Neg R] (sym : Sym) (fermi : Bool) (indices : List Index)
    (charge : Option Charge) (fill : Sector → List Nat → Blk R) (oddpos : List (Int × Bool))
    (hvc : ∀ ix ∈ indices, ∀ c ∈ ix.charges, sym.valid c = true)
    (hch : sym.valid (charge.getD sym.zero) = true)
    (hnd : ∀ ix ∈ indices, (ix.cm.map (·.1)).Nodup)
    (hne : indices.any (fun ix => ix.cm.isEmpty) = false)
    (b : Arr R) (h : fromFillFn sym fermi indices charge fill oddpos = .ok b) :
    ∃ d, toDenseA b = .ok d ∧ d.shape = indices.map Index.sizeTotal ∧
      ∀ p, inBox (indices.map Index.sizeTotal) p = true →
        ∃ sec off shp, locateAll indices p = some (sec, off)
          ∧ blockShape? indices sec = some shp ∧ inBox shp off = true
          ∧ d.get p = if sectorCharge sym (indices.map Index.dual) sec = charge.getD sym.zero
                      then (fill sec shp).get off else 0 := by
  obtain ⟨h1, h2, h3, h4, h5, h6, h7, _⟩ :=
    fromFillFn_spec sym fermi indices charge fill oddpos b h
  obtain ⟨hkeys, hfill⟩ := forall₂_fill_lookup h7
  let a0 : Arr R :=
    { sym := sym, fermi := fermi, indices := indices, charge := charge.getD sym.zero,
      blocks := [], phases := [], oddpos := oddpos }
  have hgnd : (b.blocks.map (·.1)).Nodup := by
    rw [hkeys]
    exact Arr.genValidSectors_nodup_aux a0 (fun ix hix => hnd ix hix)
  obtain ⟨d, hd, hs, hg⟩ := Arr.toDenseA_get b (by rw [h3]; exact hne)
  refine ⟨d, hd, by rw [hs, Arr.shape, h3], fun p hp => ?_⟩
  obtain ⟨sec, off, hl, hv⟩ := hg p (by rw [Arr.shape, h3]; exact hp)
  rw [h3] at hl
  obtain ⟨shp, hshp, hbox⟩ := Arr.locateAll_blockShape hnd (by simpa using inBox_length hp) hl
  refine ⟨sec, off, shp, hl, hshp, hbox, ?_⟩
  rw [hv, Arr.elem_of_phases_nil h5]
  have hmem : sec ∈ b.blocks.map (·.1) ↔
      Arr.sectorCharge sym (indices.map Index.dual) sec = charge.getD sym.zero := by
    rw [hkeys, Arr.mem_genValidSectors a0 hvc hch sec]
    simp only [a0, Arr.isValidSector, Arr.duals, beq_iff_eq]
    exact ⟨fun h => h.2, fun h => ⟨Arr.forall₂_of_blockShape? hshp, h⟩⟩
  cases hb : alookup b.blocks sec with
  | none =>
    have : sec ∉ b.blocks.map (·.1) := alookup_eq_none_iff.mp hb
    rw [if_neg (fun hc => this (hmem.mpr hc))]
  | some blk =>
    have hm := alookup_some_mem hb
    have : sec ∈ b.blocks.map (·.1) := List.mem_map.mpr ⟨_, hm, rfl⟩
    rw [if_pos (hmem.mp this)]
    obtain ⟨shp', hs', hf⟩ := hfill (sec, blk) hm
    simp only at hs' hf
    rw [hshp] at hs'
    injection hs' with hs'
    subst hs'
    show blk.get off = _
    rw [hf]

theorem zeros_toDense [Zero R] [Neg R] (sym : Sym) (fermi : Bool) (indices : List Index)
    (charge : Option Charge) (oddpos : List (Int × Bool))
    (hvc : ∀ ix ∈ indices, ∀ c ∈ ix.charges, sym.valid c = true)
    (hch : sym.valid (charge.getD sym.zero) = true)
    (hnd : ∀ ix ∈ indices, (ix.cm.map (·.1)).Nodup)
    (hne : indices.any (fun ix => ix.cm.isEmpty) = false)
    (b : Arr R) (h : fromFillFn sym fermi indices charge (fun _ shp => Blk.zeros shp) oddpos = .ok b) :
    ∃ d, toDenseA b = .ok d ∧ d.shape = indices.map Index.sizeTotal ∧
      ∀ p, inBox (indices.map Index.sizeTotal) p = true → d.get p = 0 := by
  obtain ⟨d, hd, hs, hg⟩ := fromFillFn_toDense sym fermi indices charge _ oddpos hvc hch hnd hne b h
  refine ⟨d, hd, hs, fun p hp => ?_⟩
  obtain ⟨sec, off, shp, _, _, _, hv⟩ := hg p hp
  rw [hv, zeros_get]
  split <;> rfl

/-- a constant fill: the dense form is the indicator of the charge-conserving positions times the
    constant -/
theorem const_toDense [Zero R] [Neg R] (k : R) (sym : Sym) (fermi : Bool) (indices : List Index)
    (charge : Option Charge) (oddpos : List (Int × Bool))
    (hvc : ∀ ix ∈ indices, ∀ c ∈ ix.charges, sym.valid c = true)
    (hch : sym.valid (charge.getD sym.zero) = true)
    (hnd : ∀ ix ∈ indices, (ix.cm.map (·.1)).Nodup)
    (hne : indices.any (fun ix => ix.cm.isEmpty) = false)
    (b : Arr R)
    (h : fromFillFn sym fermi indices charge (fun _ shp => Blk.ofFn shp (fun _ => k)) oddpos = .ok b) :
    ∃ d, toDenseA b = .ok d ∧ d.shape = indices.map Index.sizeTotal ∧
      ∀ p, inBox (indices.map Index.sizeTotal) p = true →
        ∃ sec off, locateAll indices p = some (sec, off)
          ∧ d.get p = if sectorCharge sym (indices.map Index.dual) sec = charge.getD sym.zero
                      then k else 0 := by
  obtain ⟨d, hd, hs, hg⟩ := fromFillFn_toDense sym fermi indices charge _ oddpos hvc hch hnd hne b h
  refine ⟨d, hd, hs, fun p hp => ?_⟩
  obtain ⟨sec, off, shp, hl, _, hbox, hv⟩ := hg p hp
  refine ⟨sec, off, hl, ?_⟩
  rw [hv, ofFn_get _ _ hbox]

/-- whether `from_dense` raises does not depend on the entries of the dense array at all (in
    particular not on non-zero entries in non-conserving sectors): only on its shape -/
theorem fromDense_error_indep [Zero R] (sym : Sym) (fermi : Bool) (dense dense' : Blk R)
    (hshape : dense'.shape = dense.shape) (maps : List (List Charge)) (duals : List Bool)
    (charge : Option Charge) (oddpos : List (Int × Bool)) (e : Err) :
    fromDense sym fermi dense maps duals charge oddpos = .error e
      ↔ fromDense sym fermi dense' maps duals charge oddpos = .error e := by
  rw [fromDense_eq_construct, fromDense_eq_construct, hshape]
  split
  · rfl
  · split
    · rfl
    · rw [construct_spec, construct_spec]
      have : ∀ bl bl' : List (Sector × Blk R),
          resolvedCharge sym (fdIndices maps duals) (some (charge.getD sym.zero)) bl
            = resolvedCharge sym (fdIndices maps duals) (some (charge.getD sym.zero)) bl' :=
        fun _ _ => rfl
      rw [this _ (fdBlocks sym dense' maps duals (charge.getD sym.zero))]
      split
      · rfl
      · constructor <;> (intro h; cases h)

/-- **`invalid_sectors = "ignore"`**: two dense arrays that agree at every position whose labels
    conserve the charge give block arrays with the same dense form -/
theorem fromDense_ignores_invalid [Zero R] [Neg R] (sym : Sym) (fermi : Bool) (dense dense' : Blk R)
    (hshape : dense'.shape = dense.shape)
    (maps : List (List Charge)) (duals : List Bool) (charge : Option Charge)
    (oddpos : List (Int × Bool))
    (hm : maps.length = dense.shape.length) (hd : duals.length = dense.shape.length)
    (hl : (List.zipWith (fun (m : List Charge) d => m.length != d) maps dense.shape).any id = false)
    (hne : ∀ m ∈ maps, m ≠ [])
    (hagree : ∀ p, inBox dense.shape p = true →
      sectorCharge sym duals (labelsAt maps (origAll maps p)) = charge.getD sym.zero →
      dense'.get (origAll maps p) = dense.get (origAll maps p))
    (a a' : Arr R) (ha : fromDense sym fermi dense maps duals charge oddpos = .ok a)
    (ha' : fromDense sym fermi dense' maps duals charge oddpos = .ok a') :
    ∃ d d', toDenseA a = .ok d ∧ toDenseA a' = .ok d' ∧ d.shape = d'.shape
      ∧ ∀ p, inBox dense.shape p = true → d.get p = d'.get p := by
  obtain ⟨d, h1, s1, g1⟩ := toDense_fromDense sym fermi dense maps duals charge oddpos hm hd hl hne a ha
  obtain ⟨d', h2, s2, g2⟩ := toDense_fromDense sym fermi dense' maps duals charge oddpos
    (by rw [hshape]; exact hm) (by rw [hshape]; exact hd) (by rw [hshape]; exact hl) hne a' ha'
  refine ⟨d, d', h1, h2, by rw [s1, s2, hshape], fun p hp => ?_⟩
  rw [g1 p hp, g2 p (by rw [hshape]; exact hp)]
  split
  · rename_i hc
    exact (hagree p hp (by simpa using hc)).symm
  · rfl

/-- **when nothing is lost** (the condition `invalid_sectors = "raise"` tests, with exact zero):
    dense → blocks → dense returns the (charge-sorted) dense array itself iff every entry whose
    labels do not conserve the charge is zero -/
theorem fromDense_lossless_iff [Zero R] [Neg R] (sym : Sym) (fermi : Bool) (dense : Blk R)
    (maps : List (List Charge)) (duals : List Bool) (charge : Option Charge)
    (oddpos : List (Int × Bool))
    (hm : maps.length = dense.shape.length) (hd : duals.length = dense.shape.length)
    (hl : (List.zipWith (fun (m : List Charge) d => m.length != d) maps dense.shape).any id = false)
    (hne : ∀ m ∈ maps, m ≠ [])
    (a : Arr R) (ha : fromDense sym fermi dense maps duals charge oddpos = .ok a)
    (d' : Blk R) (hd' : toDenseA a = .ok d') :
    (∀ p, inBox dense.shape p = true → d'.get p = dense.get (origAll maps p))
      ↔ (∀ p, inBox dense.shape p = true →
          sectorCharge sym duals (labelsAt maps (origAll maps p)) ≠ charge.getD sym.zero →
          dense.get (origAll maps p) = 0) := by
  obtain ⟨d0, h1, _, g⟩ := toDense_fromDense sym fermi dense maps duals charge oddpos hm hd hl hne a ha
  rw [hd'] at h1; injection h1 with h1; subst h1
  constructor
  · intro hall p hp hnc
    have := g p hp
    rw [if_neg (by simpa using hnc), hall p hp] at this
    exact this
  · intro hz p hp
    rw [g p hp]
    split
    · rfl
    · rename_i hc
      exact (hz p hp (by simpa using hc)).symm

section Examples2
open Ex

/-- a dense 3×3 matrix (labels 1,0,1 on both axes) that is zero on the non-conserving positions -/
def Ex.clean : Blk Int := ⟨[3, 3], #[1, 0, 3, 0, 5, 0, 7, 0, 9]⟩

example : dataOf (fromFillFn .U1 false [ix false, ix true] none
    (fun _ shp => (Blk.zeros shp : Blk Int)) >>= toDenseA) = some ([3, 3], [0, 0, 0, 0, 0, 0, 0, 0, 0]) := by
  decide
example : dataOf (fromFillFn .U1 false [ix false, ix true] none
    (fun _ shp => (Blk.ofFn shp (fun _ => 1) : Blk Int)) >>= toDenseA)
    = some ([3, 3], [1, 0, 0, 0, 1, 1, 0, 1, 1]) := by decide
example : dataOf (fromFillFn .U1 false [ix false, ix true] (some (1, 0))
    (fun _ shp => (Blk.ofFn shp (fun _ => 1) : Blk Int)) >>= toDenseA)
    = some ([3, 3], [0, 0, 0, 1, 0, 0, 1, 0, 0]) := by decide
example : ∃ b, fromFillFn .U1 false [ix false, ix true] none
    (fun _ shp => (Blk.zeros shp : Blk Int)) = .ok b := ⟨_, rfl⟩
example := zeros_toDense (R := Int) .U1 false [ix false, ix true] none [] (by decide) (by decide)
  (by decide) (by decide)
example := const_toDense (R := Int) 7 .U1 false [ix false, ix true] none [] (by decide) (by decide)
  (by decide) (by decide)

-- `dense` has non-zero entries at non-conserving positions: they are dropped silently (no error),
-- and the round trip loses them; `clean` has none and survives
example : errOf (fromDense .U1 false dense maps [false, true] none) = none := by decide
example : dataOf (fromDense .U1 false dense maps [false, true] none >>= toDenseA)
    = some ([3, 3], [5, 0, 0, 0, 1, 3, 0, 7, 9])
    ∧ dataOf (fromDense .U1 false Ex.clean maps [false, true] none >>= toDenseA)
    = some ([3, 3], [5, 0, 0, 0, 1, 3, 0, 7, 9]) := by decide
example := fromDense_ignores_invalid (R := Int) .U1 false dense Ex.clean rfl maps [false, true] none []
  rfl rfl (by decide) (by decide)
example := fromDense_lossless_iff (R := Int) .U1 false Ex.clean maps [false, true] none [] rfl rfl
  (by decide) (by decide)
example := (fromDense_error_indep (R := Int) .U1 false dense Ex.clean rfl maps [false] none []
  Err.index).mp rfl

end Examples2

end SymmModel.C16
