/-
  Property C09 — lazily tracked fermionic signs are unobservable.

  All theorems are about the model definitions of Model/Fermi.lean (`phaseSync`, `phaseFlip`,
  `phaseTranspose`, `phaseGlobal`, `phaseSector`, `conjF`, `toDenseF`) and the value view
  `Arr.elem` of Model/Arr.lean, for EVERY array (all symmetries, ranks, block contents) over an
  arbitrary scalar type `R` with `[Zero R] [Neg R]` and the two laws `- - x = x`, `-0 = 0`
  (`Lazy.LawfulNeg`; for `conj` also `conj (-x) = - conj x`, `conj 0 = 0`, `conj (conj x) = x`:
  `Lazy.LawfulNegConj`).  Instances: `Int`, `GRat`.

  Hypotheses on the arrays are clauses of `Arr.validB` only (`full_of_valid`):
    `Lazy.SignOk a`  : stored sectors distinct; keys of the pending-sign table distinct, values `±1`;
    `Lazy.SecLen a`  : one charge per index in every stored sector (transposition laws);
    `Lazy.BlocksWf a`: every block has `prod shape` entries (canonical form);
    `Lazy.Full a`    : the three together;  `Lazy.Inv a` : the first two.
  `phaseSync_elem`, `phaseSync_idem`, `phaseSync_obsEq`, `toDense_sync`, `multiplyDiagonal_*`
  need no hypothesis at all.  Guards (where Python raises and the model is totalised) are stated
  as hypotheses: `Arr.isPerm axes ndim` for transpositions.  See the `…_needs_…` counterexamples
  for the exactness of the hypotheses.

  Signs are integers `±1` in the model and `R` has no integer action, so "σ * x" is written
  `sgnI σ x` (`-x` if `σ = -1`, else `x`).
-/
import SymmModel.Proofs.LazyLemmas

namespace SymmModel.C09
open SymmModel Lazy

variable {R : Type} [Zero R] [Neg R]

/-- two arrays are observationally equal when symmetry, kind, indices, total charge, odd-position
    labels, the stored sectors with their block shapes, and the value `elem s off` (stored number
    times pending sign; zero for a missing sector) at every address agree -/
abbrev ObsEq (a b : Arr R) : Prop := Lazy.ObsEq a b

theorem obsEq_iff (a b : Arr R) :
    ObsEq a b ↔ a.sym = b.sym ∧ a.fermi = b.fermi ∧ a.indices = b.indices ∧ a.charge = b.charge
      ∧ a.oddpos = b.oddpos
      ∧ a.blocks.map (fun p => (p.1, p.2.shape)) = b.blocks.map (fun p => (p.1, p.2.shape))
      ∧ ∀ s off, a.elem s off = b.elem s off :=
  ⟨fun h => ⟨h.sym, h.fermi, h.indices, h.charge, h.oddpos, h.skel, h.elem⟩,
   fun ⟨h1, h2, h3, h4, h5, h6, h7⟩ => ⟨h1, h2, h3, h4, h5, h6, h7⟩⟩

theorem obsEq_refl (a : Arr R) : ObsEq a a := Lazy.ObsEq.refl a
theorem obsEq_symm {a b : Arr R} (h : ObsEq a b) : ObsEq b a := h.symm
theorem obsEq_trans {a b c : Arr R} (h : ObsEq a b) (h' : ObsEq b c) : ObsEq a c := h.trans h'

theorem toDense_congr {a b : Arr R} (h : ObsEq a b) : a.toDenseA = b.toDenseA :=
  toDenseA_congr h

theorem full_of_valid {a : Arr R} (h : a.validB = true) (hf : a.fermi = true) : Full a :=
  Full.of_valid h hf

theorem signOk_of_valid {a : Arr R} (h : a.validB = true) (hf : a.fermi = true) : SignOk a :=
  SignOk.of_valid h hf

/-- synchronising leaves the value unchanged — for every array, no hypothesis -/
theorem phaseSync_elem [LawfulNeg R] (a : Arr R) (s : Sector) (off : List Nat) :
    a.phaseSync.elem s off = a.elem s off := Lazy.phaseSync_elem a s off

omit [Zero R] in
theorem phaseSync_phases (a : Arr R) : a.phaseSync.phases = [] := rfl

theorem phaseSync_idem (a : Arr R) : a.phaseSync.phaseSync = a.phaseSync := Lazy.phaseSync_idem a

theorem phaseSync_obsEq [LawfulNeg R] (a : Arr R) : ObsEq a.phaseSync a := Lazy.phaseSync_obsEq a

/-- synchronising leaves the dense value unchanged, and the fermionic `to_dense` (which
    synchronises first) is the dense form of the value view -/
theorem toDense_sync [LawfulNeg R] (a : Arr R) :
    a.phaseSync.toDenseA = a.toDenseA ∧ a.toDenseF = a.toDenseA :=
  ⟨toDenseA_congr (Lazy.phaseSync_obsEq a), toDenseF_eq a⟩

/-! ## 3. the sign operations on the value view: pending signs are applied exactly once -/

/-- `phase_flip(*axs)`: sector `s` is multiplied by `-1` iff an odd number of the listed axes
    carry an odd charge in `s` -/
theorem phaseFlip_elem [LawfulNeg R] (a : Arr R) (axs : List Nat) (h : SignOk a) (s : Sector)
    (off : List Nat) :
    (a.phaseFlip axs).elem s off
      = sgnI (if (axs.filter (fun ax => a.sym.parity (s.getD ax (0, 0)))).length % 2 == 1
              then -1 else 1) (a.elem s off) :=
  Lazy.phaseFlip_elem a axs h s off

/-- `phase_transpose(axes)`: sector `s` is multiplied by the Koszul sign of `axes` on its
    parities (`axes = none`: the virtual reversal) -/
theorem phaseTranspose_elem [LawfulNeg R] (a : Arr R) (axes : Option (List Nat)) (h : SignOk a)
    (s : Sector) (off : List Nat) :
    (a.phaseTranspose axes).elem s off = sgnI (koszul (a.parities s) axes) (a.elem s off) :=
  Lazy.phaseTranspose_elem a axes h s off

theorem phaseGlobal_elem [LawfulNeg R] (a : Arr R) (h : SignOk a) (s : Sector) (off : List Nat) :
    a.phaseGlobal.elem s off = - a.elem s off := Lazy.phaseGlobal_elem a h s off

theorem phaseSector_elem [LawfulNeg R] (a : Arr R) (s0 : Sector) (h : SignOk a) (s : Sector)
    (off : List Nat) :
    (a.phaseSector s0).elem s off = sgnI (if s0 = s then -1 else 1) (a.elem s off) :=
  Lazy.phaseSector_elem a s0 h s off

/-- `conj(phase_permutation, phase_dual)`: every element is conjugated and multiplied by the
    explicit sign `conjTotSign` (global odd-parity sign × dual-leg sign × reversal sign), which
    depends only on symmetry, indices, charge, labels and the sector -/
theorem conjF_elem [Conj R] [LawfulNegConj R] (a : Arr R) (pp pd : Bool) (h : SignOk a)
    (s : Sector) (off : List Nat) :
    (a.conjF pp pd).elem s off = sgnI (conjTotSign a pp pd s) (Conj.conj (a.elem s off)) :=
  Lazy.conjF_elem a pp pd h s off

/-- the effect of a sign operation does not depend on whether signs were pending -/
theorem signs_applied_once [LawfulNeg R] (a : Arr R) (h : SignOk a) :
    (∀ axs, ObsEq (a.phaseSync.phaseFlip axs) (a.phaseFlip axs))
    ∧ (∀ axes, ObsEq (a.phaseSync.phaseTranspose axes) (a.phaseTranspose axes))
    ∧ ObsEq a.phaseSync.phaseGlobal a.phaseGlobal
    ∧ (∀ s0, ObsEq (a.phaseSync.phaseSector s0) (a.phaseSector s0)) :=
  ⟨fun axs => phaseFlip_congr (Lazy.phaseSync_obsEq a) h.phaseSync h axs,
   fun axes => phaseTranspose_congr (Lazy.phaseSync_obsEq a) h.phaseSync h axes,
   phaseGlobal_congr (Lazy.phaseSync_obsEq a) h.phaseSync h,
   fun s0 => phaseSector_congr (Lazy.phaseSync_obsEq a) h.phaseSync h s0⟩

/-- `transpose(axes)`, block form: the element of the transposed sector is the element of the
    transposed stored block times the pending sign of the source sector times the Koszul sign -/
theorem transposeF_elem_block [LawfulNeg R] {a : Arr R} {axes : List Nat} (h : TrOk a axes)
    {s : Sector} {b : Blk R} (hb : alookup a.blocks s = some b) (off : List Nat) :
    (a.transposeF axes).elem (permuted s axes) off
      = sgnI (koszul (a.parities s) (some axes))
          (sgnI (a.getPhase s) ((b.transposeK axes).get off)) :=
  Lazy.transposeF_elem_block h hb off

/-- `transpose(axes)`, intrinsic form: Koszul sign times the value of `a` at the source address
    (`boxIdx`: canonical in-box multi-index; `srcIdx`: new axis `k` is old axis `axes[k]`) -/
theorem transposeF_elem [LawfulNeg R] {a : Arr R} {axes : List Nat} (h : TrOk a axes)
    (s : Sector) (hs : s.length = a.ndim) (off : List Nat) :
    (a.transposeF axes).elem (permuted s axes) off
      = sgnI (koszul (a.parities s) (some axes))
          (match alookup (a.blocks.map (fun p => (p.1, p.2.shape))) s with
           | none => 0
           | some shp => match boxIdx (permuted shp axes) off with
             | none => 0
             | some i => a.elem s (srcIdx shp.length axes i)) :=
  Lazy.transposeF_elem h s hs off

/-- `multiply_diagonal(v, axis)` (does not synchronise; pending signs stay pending) -/
theorem multiplyDiagonal_elem [Mul R] [LawfulMulNeg R] (a : Arr R) (v : BVec R) (axis : Nat)
    (s : Sector) (off : List Nat) :
    (multiplyDiagonal a v axis).elem s off
      = match alookup v.blocks (s.getD axis (0, 0)) with
        | none => 0
        | some vb => match alookup (a.blocks.map (fun p => (p.1, p.2.shape))) s with
          | none => 0
          | some shp => match boxIdx shp off with
            | none => 0
            | some i => a.elem s i * vb.get [i.getD axis 0] :=
  Lazy.multiplyDiagonal_elem a v axis s off

/-! ## 4. congruence: every operation gives equal results on observationally equal inputs
    (in particular on an array and on its synchronised copy) -/

theorem phaseFlip_congr [LawfulNeg R] {a a' : Arr R} (h : ObsEq a a') (ha : SignOk a)
    (ha' : SignOk a') (axs : List Nat) : ObsEq (a.phaseFlip axs) (a'.phaseFlip axs) :=
  Lazy.phaseFlip_congr h ha ha' axs

theorem phaseTranspose_congr [LawfulNeg R] {a a' : Arr R} (h : ObsEq a a') (ha : SignOk a)
    (ha' : SignOk a') (axes : Option (List Nat)) :
    ObsEq (a.phaseTranspose axes) (a'.phaseTranspose axes) :=
  Lazy.phaseTranspose_congr h ha ha' axes

theorem phaseGlobal_congr [LawfulNeg R] {a a' : Arr R} (h : ObsEq a a') (ha : SignOk a)
    (ha' : SignOk a') : ObsEq a.phaseGlobal a'.phaseGlobal := Lazy.phaseGlobal_congr h ha ha'

theorem phaseSector_congr [LawfulNeg R] {a a' : Arr R} (h : ObsEq a a') (ha : SignOk a)
    (ha' : SignOk a') (s0 : Sector) : ObsEq (a.phaseSector s0) (a'.phaseSector s0) :=
  Lazy.phaseSector_congr h ha ha' s0

theorem phaseSync_congr [LawfulNeg R] {a a' : Arr R} (h : ObsEq a a') :
    ObsEq a.phaseSync a'.phaseSync := Lazy.phaseSync_congr h

/-- `-x` (the driver's `neg`: negate every stored block) -/
theorem neg_congr [LawfulNeg R] {a a' : Arr R} (h : ObsEq a a') :
    ObsEq ({ a with blocks := a.blocks.map (fun (k, b) => (k, b.negK)) } : Arr R)
          ({ a' with blocks := a'.blocks.map (fun (k, b) => (k, b.negK)) } : Arr R) :=
  negA_congr h

/-- every elementwise map of the stored numbers that fixes `0` and commutes with negation:
    `x * c` (the driver's `smul`: `blocks.map (b.map (· * c))`), `x / c`, `conj x`, … -/
theorem mapVals_congr [LawfulNeg R] (f : R → R) (hf0 : f 0 = 0) (hfn : ∀ x, f (-x) = - f x)
    {a a' : Arr R} (h : ObsEq a a') :
    ObsEq ({ a with blocks := a.blocks.map (fun p => (p.1, p.2.map f)) } : Arr R)
          ({ a' with blocks := a'.blocks.map (fun p => (p.1, p.2.map f)) } : Arr R) :=
  Lazy.mapVals_congr f hf0 hfn h

theorem smul_congr [Mul R] [LawfulMulNeg R] (c : R) {a a' : Arr R} (h : ObsEq a a') :
    ObsEq ({ a with blocks := a.blocks.map (fun p => (p.1, p.2.map (· * c))) } : Arr R)
          ({ a' with blocks := a'.blocks.map (fun p => (p.1, p.2.map (· * c))) } : Arr R) :=
  Lazy.mapVals_congr (· * c) (LawfulMulNeg.zero_mul c) (fun x => LawfulMulNeg.neg_mul x c) h

theorem conjF_congr [Conj R] [LawfulNegConj R] {a a' : Arr R} (h : ObsEq a a') (ha : SignOk a)
    (ha' : SignOk a') (pp pd : Bool) : ObsEq (a.conjF pp pd) (a'.conjF pp pd) :=
  Lazy.conjF_congr h ha ha' pp pd

theorem daggerF_congr [Conj R] [LawfulNegConj R] {a a' : Arr R} (h : ObsEq a a') (ha : Inv a)
    (ha' : Inv a') (pd : Bool) : ObsEq (a.daggerF pd) (a'.daggerF pd) :=
  Lazy.daggerF_congr h ha.sign ha'.sign ha.len ha'.len pd

theorem transposeF_congr [LawfulNeg R] {a a' : Arr R} {axes : List Nat} (h : ObsEq a a')
    (ha : Inv a) (ha' : Inv a') (hp : Arr.isPerm axes a.ndim = true) :
    ObsEq (a.transposeF axes) (a'.transposeF axes) :=
  Lazy.transposeF_congr h ⟨ha.sign, ha.len, hp⟩ ⟨ha'.sign, ha'.len, by rw [← h.ndim]; exact hp⟩

theorem multiplyDiagonal_congr [Mul R] [LawfulMulNeg R] {a a' : Arr R} (h : ObsEq a a')
    (v : BVec R) (axis : Nat) : ObsEq (multiplyDiagonal a v axis) (multiplyDiagonal a' v axis) :=
  Lazy.multiplyDiagonal_congr h v axis

/-! ### canonical form, and the operations that synchronise first -/

/-- observationally equal arrays (distinct sectors, well-formed blocks) have *equal*
    synchronised copies -/
theorem phaseSync_canonical [LawfulNeg R] {a a' : Arr R} (h : ObsEq a a') (ha : Full a)
    (ha' : Full a') : a.phaseSync = a'.phaseSync := canon h ha ha'

/-- binary blockwise arithmetic of two arrays (`_binary_blockwise_op` synchronises both
    operands): identical results for every block function and missing-block policy -/
theorem binaryBlockwise_congr [LawfulNeg R] {a a' b b' : Arr R} (ha : ObsEq a a')
    (hb : ObsEq b b') (fa : Full a) (fa' : Full a') (fb : Full b) (fb' : Full b')
    (fn : Blk R → Blk R → Blk R) (m : Missing) :
    binaryBlockwise fn m a.phaseSync.blocks b.phaseSync.blocks
      = binaryBlockwise fn m a'.phaseSync.blocks b'.phaseSync.blocks
    ∧ a.phaseSync = a'.phaseSync := by
  rw [canon ha fa fa', canon hb fb fb']; exact ⟨rfl, rfl⟩

theorem tensordotF_congr [Add R] [Mul R] [LawfulNeg R] {a a' b b' : Arr R} (ha : ObsEq a a')
    (hb : ObsEq b b') (fa : Full a) (fa' : Full a') (fb : Full b) (fb' : Full b')
    (axes : AxesArg) (mode : TdotMode)
    (hg : ∀ axesA axesB, parseAxes a.ndim b.ndim axes = .ok (axesA, axesB) →
      Arr.isPerm (without (List.range a.ndim) axesA ++ axesA) a.ndim = true
      ∧ Arr.isPerm (axesB ++ without (List.range b.ndim) axesB) b.ndim = true) :
    a.tensordotF b axes mode = a'.tensordotF b' axes mode :=
  Lazy.tensordotF_congr ha hb fa fa' fb fb' axes mode hg

theorem matmulF_congr [Add R] [Mul R] [LawfulNeg R] {a a' b b' : Arr R} (ha : ObsEq a a')
    (hb : ObsEq b b') (fa : Full a) (fa' : Full a') (fb : Full b) (fb' : Full b') :
    a.matmulF b = a'.matmulF b' := by
  unfold Arr.matmulF
  rw [ha.ndim, hb.ndim, hb.indices, canon ha fa fa']
  cases b'.indices[0]? with
  | none => rfl
  | some ix =>
    have : (if ix.dual = true then b.phaseFlip [0] else b).phaseSync
        = (if ix.dual = true then b'.phaseFlip [0] else b').phaseSync := by
      split
      · exact canon (phaseFlip_congr hb fb.sign fb'.sign [0]) (fb.phaseFlip [0]) (fb'.phaseFlip [0])
      · exact canon hb fb fb'
    simp only [pure_bind, this]

theorem traceF_congr [Add R] [LawfulNeg R] {a a' : Arr R} (ha : ObsEq a a')
    (fa : Full a) (fa' : Full a') : a.traceF = a'.traceF := by
  unfold Arr.traceF
  rw [ha.indices, canon ha fa fa',
    canon (phaseFlip_congr ha fa.sign fa'.sign [0]) (fa.phaseFlip [0]) (fa'.phaseFlip [0])]

/-- **`einsum` of a fermionic array returns identical results on observationally equal inputs** -/
theorem einsumF_congr [Add R] [LawfulNeg R] {a a' : Arr R} (ha : ObsEq a a') (fa : Full a)
    (fa' : Full a') (lhs rhs : List Nat) : a.einsumF lhs rhs = a'.einsumF lhs rhs := by
  unfold Arr.einsumF
  rw [← ha.ndim, ← ha.indices]
  have key : ∀ lt : Nat → Nat → Bool,
      (a.transposeF (isort lt (List.range a.ndim))).phaseSync
        = (a'.transposeF (isort lt (List.range a.ndim))).phaseSync := by
    intro lt
    have hp := isPerm_isort lt a.ndim
    have hp' : Arr.isPerm (isort lt (List.range a.ndim)) a'.ndim = true := by rw [← ha.ndim]; exact hp
    exact canon (Lazy.transposeF_congr ha (fa.trOk hp) (fa'.trOk hp')) (fa.transposeF hp)
      (fa'.transposeF hp')
  simp only [key]

theorem fuseF_congr [LawfulNeg R] {a a' : Arr R} (ha : ObsEq a a') (fa : Full a) (fa' : Full a')
    (groups : List (List Nat)) (mode : FuseMode) (expandEmpty : Bool)
    (hne : (groups.filter (fun g => !g.isEmpty)).isEmpty = false)
    (hg : Arr.isPerm (calcFuseGroupInfo (groups.filter (fun g => !g.isEmpty)) a.duals).perm a.ndim = true) :
    a.fuseF groups mode expandEmpty = a'.fuseF groups mode expandEmpty :=
  Lazy.fuseF_congr ha fa fa' groups mode expandEmpty hne hg

theorem unfuseF_congr [LawfulNeg R] {a a' : Arr R} (ha : ObsEq a a')
    (fa : Full a) (fa' : Full a') (axis : Nat) : a.unfuseF axis = a'.unfuseF axis :=
  Lazy.unfuseF_congr ha fa fa' axis

theorem toDenseF_congr [LawfulNeg R] {a a' : Arr R} (ha : ObsEq a a') : a.toDenseF = a'.toDenseF := by
  rw [toDenseF_eq, toDenseF_eq]; exact toDenseA_congr ha

/-- each of these operations therefore gives the same result on an array and on its
    synchronised copy, e.g. -/
theorem tensordotF_sync [Add R] [Mul R] [LawfulNeg R] {a b : Arr R} (fa : Full a) (fb : Full b)
    (axes : AxesArg) (mode : TdotMode)
    (hg : ∀ axesA axesB, parseAxes a.ndim b.ndim axes = .ok (axesA, axesB) →
      Arr.isPerm (without (List.range a.ndim) axesA ++ axesA) a.ndim = true
      ∧ Arr.isPerm (axesB ++ without (List.range b.ndim) axesB) b.ndim = true) :
    a.phaseSync.tensordotF b.phaseSync axes mode = a.tensordotF b axes mode :=
  Lazy.tensordotF_congr (Lazy.phaseSync_obsEq a) (Lazy.phaseSync_obsEq b)
    ⟨fa.sign.phaseSync, fa.len.of_same (phaseSync_sectors a) rfl, fa.wf.phaseSync⟩ fa
    ⟨fb.sign.phaseSync, fb.len.of_same (phaseSync_sectors b) rfl, fb.wf.phaseSync⟩ fb axes mode hg

/-- every operation of the program language gives observationally equal results on
    observationally equal inputs -/
theorem SOp.congr_obsEq [Conj R] [LawfulNegConj R] (op : SOp) {a a' : Arr R} (h : ObsEq a a')
    (ha : Inv a) (ha' : Inv a') (ho : op.ok a) : ObsEq (op.apply a) (op.apply a') :=
  op.apply_congr h ha ha' ho

/-- **Lazy signs are unobservable**: running any program of sign operations (`phase_flip`,
    `phase_transpose`, `phase_global`, `phase_sector`, `phase_sync`), negations, conjugations,
    adjoints and transpositions on `a` as written, and running it with `phase_sync()` inserted
    after every step, give observationally equal results.  `runOk`: every `transpose` in the
    program gets a permutation of the axes. -/
theorem Prog.lazy_unobservable [Conj R] [LawfulNegConj R] (p : List SOp) (a : Arr R)
    (h : Inv a) (ho : runOk p a) : ObsEq (run p a) (runSync p a) :=
  run_runSync p (Lazy.ObsEq.refl a) h h ho

/-- … and on `a` and on its synchronised copy -/
theorem Prog.sync_first [Conj R] [LawfulNegConj R] (p : List SOp) (a : Arr R) (h : Inv a)
    (ho : runOk p a) : ObsEq (run p a) (run p a.phaseSync) :=
  run_congr p (Lazy.phaseSync_obsEq a).symm h h.phaseSync ho

theorem Prog.lazy_unobservable_dense [Conj R] [LawfulNegConj R] (p : List SOp) (a : Arr R)
    (h : Inv a) (ho : runOk p a) : (run p a).toDenseF = (runSync p a).toDenseF := by
  rw [toDenseF_eq, toDenseF_eq]
  exact toDenseA_congr (Prog.lazy_unobservable p a h ho)

/-! ## non-vacuity: a concrete Z2 fermionic array over `Int` with a pending sign -/

/-- Z2, rank 2, odd total charge, one label; sector `(1,0)` carries a pending `-1` -/
def exA : Arr Int :=
  { sym := .Z2, fermi := true, charge := (1, 0),
    indices := [Index.mk [((0, 0), 1), ((1, 0), 2)] false none,
                Index.mk [((0, 0), 2), ((1, 0), 1)] true none],
    blocks := [([(0, 0), (1, 0)], ⟨[1, 1], #[3]⟩), ([(1, 0), (0, 0)], ⟨[2, 2], #[1, 2, -4, 5]⟩)],
    phases := [([(1, 0), (0, 0)], -1)],
    oddpos := [(7, false)] }

example : exA.validB = true ∧ exA.fermi = true ∧ exA.phases ≠ [] := by decide

theorem exA_full : Full exA := full_of_valid (by decide) rfl
theorem exA_signOk : SignOk exA := exA_full.sign

/-- the value view sees the pending sign; the synchronised copy stores the negated block -/
example : exA.elem [(1, 0), (0, 0)] [1, 0] = 4 ∧ exA.phaseSync.elem [(1, 0), (0, 0)] [1, 0] = 4
    ∧ exA.phaseSync.blocks.map (fun p => (p.1, p.2.shape, p.2.data.toList))
        = [([(0, 0), (1, 0)], [1, 1], [3]), ([(1, 0), (0, 0)], [2, 2], [-1, -2, 4, -5])]
    ∧ exA.phaseSync.phases = [] := by decide +kernel

/-- `phase_flip(0)` negates the sector whose axis-0 charge is odd: the pending sign is consumed,
    on the lazy copy by clearing the table, on the synchronised copy by recording a new sign -/
example : (exA.phaseFlip [0]).phases = [] ∧ (exA.phaseSync.phaseFlip [0]).phases = [([(1, 0), (0, 0)], -1)]
    ∧ (exA.phaseFlip [0]).elem [(1, 0), (0, 0)] [1, 0] = -4
    ∧ (exA.phaseSync.phaseFlip [0]).elem [(1, 0), (0, 0)] [1, 0] = -4 := by decide +kernel

open scoped SymmModel.Lazy in
example : ObsEq
    (run [.transpose [1, 0], .flip [0], .conj true true, .global, .dagger true, .neg, .ptranspose none] exA)
    (runSync [.transpose [1, 0], .flip [0], .conj true true, .global, .dagger true, .neg, .ptranspose none] exA) :=
  Prog.lazy_unobservable _ exA exA_full.inv
    ⟨(by decide : Arr.isPerm [1, 0] exA.ndim = true), trivial, trivial, trivial, trivial, trivial, trivial,
      trivial⟩

/-- the guard of `tensordotF_congr` holds for a contraction of `exA` with itself over one axis -/
example : ∀ axesA axesB, parseAxes exA.ndim exA.ndim (.pair [1] [0]) = .ok (axesA, axesB) →
      Arr.isPerm (without (List.range exA.ndim) axesA ++ axesA) exA.ndim = true
      ∧ Arr.isPerm (axesB ++ without (List.range exA.ndim) axesB) exA.ndim = true := by
  intro axesA axesB h
  have : (axesA, axesB) = ([1], [0]) := by
    have h' : parseAxes exA.ndim exA.ndim (.pair [1] [0]) = .ok ([1], [0]) := by decide
    rw [h'] at h; cases h; rfl
  cases this; decide

/-- `transpose([1,0])`: the hypotheses hold, the pending sign travels with its sector, and the
    value at the transposed address is the value at the source address (no Koszul sign here:
    only one charge of the sector is odd) -/
example : TrOk exA [1, 0] := ⟨exA_signOk, exA_full.len, by decide⟩

example : (exA.transposeF [1, 0]).phases = [([(0, 0), (1, 0)], -1)]
    ∧ (exA.transposeF [1, 0]).elem [(0, 0), (1, 0)] [0, 1] = exA.elem [(1, 0), (0, 0)] [1, 0]
    ∧ koszul (exA.parities [(1, 0), (0, 0)]) (some [1, 0]) = 1 := by decide +kernel

/-- `multiply_diagonal` keeps the pending sign pending and drops the sector whose charge is
    missing from the vector -/
example :
    let v : BVec Int := ⟨[((0, 0), ⟨[2], #[10, 100]⟩)]⟩
    (multiplyDiagonal exA v 1).elem [(1, 0), (0, 0)] [1, 1] = -500
    ∧ (multiplyDiagonal exA v 1).sectors = [[(1, 0), (0, 0)]]
    ∧ (multiplyDiagonal exA v 1).phases = exA.phases := by decide +kernel

/-- the guards of `fuseF_congr` hold for fusing both axes of `exA` -/
example : (([[0, 1]] : List (List Nat)).filter (fun g => !g.isEmpty)).isEmpty = false
    ∧ Arr.isPerm (calcFuseGroupInfo (([[0, 1]] : List (List Nat)).filter (fun g => !g.isEmpty))
        exA.duals).perm exA.ndim = true := by decide

/-! ## exactness of the hypotheses -/

/-- values `±1` are needed: with a stored phase `5`, `phase_flip` records `-5`, which the value
    view (like the code) does not treat as a sign -/
theorem phaseFlip_elem_needs_pm :
    let a : Arr Int := { exA with phases := [([(1, 0), (0, 0)], 5)] }
    (a.phaseFlip [0]).elem [(1, 0), (0, 0)] [1, 0] = a.elem [(1, 0), (0, 0)] [1, 0] := by decide +kernel

/-- distinct sectors are needed: a sector stored twice is flipped twice -/
theorem phaseGlobal_elem_needs_distinct :
    let a : Arr Int := { exA with blocks := [([(1, 0), (0, 0)], ⟨[1, 1], #[3]⟩), ([(1, 0), (0, 0)], ⟨[1, 1], #[3]⟩)],
                                  phases := [] }
    a.phaseGlobal.elem [(1, 0), (0, 0)] [0, 0] = a.elem [(1, 0), (0, 0)] [0, 0] := by decide +kernel

/-- `f (-x) = - f x` is needed in `mapVals_congr`: an even map such as `abs` applied to the stored
    numbers sees the pending sign — the lazy and the synchronised copy give different values
    (the model-level form of the finding `lazy-reductions` of known_findings.json: unary maps read the
    stored blocks) -/
theorem mapVals_congr_needs_odd :
    let f : Int → Int := fun x => Int.natAbs x
    (mapVals f exA).elem [(1, 0), (0, 0)] [1, 0] = -4
    ∧ (mapVals f exA.phaseSync).elem [(1, 0), (0, 0)] [1, 0] = 4 := by decide +kernel

end SymmModel.C09
