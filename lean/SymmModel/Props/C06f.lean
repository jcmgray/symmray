/-
  C06 (sixth part) — more forms of "contraction commutes with fusing".

  * `tensordot_fuse_contracted_commute` — C06's FIRST clause as a statement about the public
    operations (abelian): align the operands (`drop_misaligned_sectors`), fuse the contracted legs
    `xa` of the left operand into ONE leg and the contracted legs `xb` of the right operand into
    ONE leg (public `fuse`, either strategy, free legs untouched; `_fuse_core` puts the fused leg at
    the smallest contracted axis, `bondPos`), contract the SINGLE fused pair with the public
    `tensordot` — all calls succeed, and at EVERY address of the free legs' table box (stored or
    not) the result holds the element of `tensordot(a, b, (xa, xb))` over the original pairs.
    The addresses on both sides are literally the same (the free legs keep their order).  Sparse
    operands whose present sectors differ, any number / order of contracted axes, an operand that
    is contracted completely (no free legs) included.
  * `fuse_contracted_aligned` — the same one level down, for any aligned pair (`TdotP.Ctx0`; the
    operands after `dropMisaligned` are such a pair: `aligned_ctx0`).
  * `fuse_group_elem` — the element map of the public `fuse` of ONE group of legs at an ARBITRARY
    position, legs in any order, WITHOUT a preliminary transposition, either strategy: the fused
    array at any address of its table box holds the original's element at the address whose group
    part is what the fused index's own table decodes the fused leg's `(charge, offset)` to and
    whose free part is copied.  (`fuse_elem_any_groups`: the same for any number of groups.)
  * concat strategy: `tensordot_fuse_commute_concat`, `tensordot_fuse_free_commute_concat`,
    `tensordot_fuse_free_commute_fermionic_concat` — C06e's fuse-commute theorems with every
    `fuse` call in `mode = concat` (transfer through `C05.fuseA_concat_eq_insert` /
    `C05.fuseF_concat_eq_insert`).
  * `fuse_contracted_aligned_any_mode` — the contraction of the pre-fused operands over the single
    fused pair in `mode = fused / auto`: succeeds, stores every blockwise sector, and every stored
    entry is the element of the contraction over the original pairs;
    `tensordot_fuse_contracted_commute_any_mode`: success and the stored entries, for the public
    route from `a`, `b`.
  In the later parts: the fermionic version of `tensordot_fuse_contracted_commute` (C06g: the
  fermionic fuse signs of the two bond groups matched with the Koszul signs of the two
  contractions); fusing a free-leg group at an arbitrary position / of the right operand BEFORE vs
  AFTER the contraction without the preliminary transposition (C06h, C06i; `fuse_group_elem` is
  what each side needs, `TdotP.shiftAxes` renumbers the contracted axes); the fermionic
  two-sided free-leg form (C06j).
-/
import SymmModel.Props.C06All4
import SymmModel.Proofs.FuseCommute4
import SymmModel.Proofs.TdotEveryMode

namespace SymmModel.C06
open SymmModel SymmModel.TdotP SymmModel.GradedP SymmModel.RoutesP SymmModel.AssocP
open SymmModel.Assoc3P SymmModel.Assoc4P

variable {R : Type}

/-- **fuse_elem_any_groups**: `fuse(X, G)` (any admissible groups, either strategy) at EVERY
    address `(ns, i)` of its table box. -/
theorem fuse_elem_any_groups [Zero R] [Neg R] (X : Arr R) (G : List (List Nat)) (m : FuseMode)
    (hv : X.validB = true) (hf : X.fermi = false) (hg : FuseP.groupsOkB G X.ndim = true) :
    fuseA X G m false = .ok (FuseP.fusedArrM X G)
    ∧ ∀ (ns : Sector) (i shp : List Nat) (s : Sector) (offs : List Nat),
        Arr.blockShape? (FuseP.fusedArrM X G).indices ns = some shp → inBox shp i = true →
        s.length = X.ndim → offs.length = X.ndim →
        (∀ g gaxes, G[g]? = some gaxes →
          decAx X G g (ns.getD ((FuseP.giM X G).position + g) (0, 0)) (i.getD ((FuseP.giM X G).position + g) 0)
            = some (permuted s gaxes, permuted offs gaxes)) →
        (∀ x, x < (FuseP.giM X G).position →
          ns.getD x (0, 0) = s.getD x (0, 0) ∧ i.getD x 0 = offs.getD x 0) →
        (∀ j, j < (FuseP.giM X G).axesAfter.length →
          ns.getD ((FuseP.giM X G).position + G.length + j) (0, 0)
              = s.getD ((FuseP.giM X G).axesAfter.getD j 0) (0, 0)
          ∧ i.getD ((FuseP.giM X G).position + G.length + j) 0
              = offs.getD ((FuseP.giM X G).axesAfter.getD j 0) 0) →
        (FuseP.fusedArrM X G).elem ns i = X.elem s offs := by
  have hok := FuseP.groupsOk_iff.1 hg
  refine ⟨fuseA_any_mode X G m hv hok, ?_⟩
  intro ns i shp s offs hshp hbox hs ho hdec hbef haft
  exact multi_elem (FuseP.validArr_of_validB hv) (Arr.phases_nil_of_validB hv hf) hok hshp hbox hs ho hdec
    hbef haft

/-- **fuse_group_elem** (one group `g` of legs anywhere, any order, no preliminary
    transposition).  `p = bondPos X g = min g` is where the fused leg sits; the other legs keep
    their order (`freeAxes`).  At every address `(ns, i)` of the fused array's table box: if the
    fused leg's `(charge, offset)` decodes — through the fused index's own table — to the
    `g`-part of `(s, offs)` and the other entries of `(ns, i)` are the free part of `(s, offs)`,
    the fused array holds `X`'s element at `(s, offs)`. -/
theorem fuse_group_elem [Zero R] [Neg R] (X : Arr R) (g : List Nat) (m : FuseMode)
    (hv : X.validB = true) (hf : X.fermi = false)
    (hne : g ≠ []) (hnd : g.Nodup) (hlt : ∀ x ∈ g, x < X.ndim) :
    fuseA X [g] m false = .ok (FuseP.fusedArrM X [g])
    ∧ bondPos X g ∈ g ∧ (∀ x ∈ g, bondPos X g ≤ x)
    ∧ (FuseP.fusedArrM X [g]).ndim = bondPos X g + 1 + ((freeAxes X.ndim g).length - bondPos X g)
    ∧ ∀ (ns : Sector) (i shp : List Nat) (s : Sector) (offs : List Nat),
        Arr.blockShape? (FuseP.fusedArrM X [g]).indices ns = some shp → inBox shp i = true →
        s.length = X.ndim → offs.length = X.ndim →
        decAx X [g] 0 (ns.getD (bondPos X g) (0, 0)) (i.getD (bondPos X g) 0)
          = some (permuted s g, permuted offs g) →
        permuted ns (freeAxes (FuseP.fusedArrM X [g]).ndim [bondPos X g]) = permuted s (freeAxes X.ndim g) →
        permuted i (freeAxes (FuseP.fusedArrM X [g]).ndim [bondPos X g]) = permuted offs (freeAxes X.ndim g) →
        (FuseP.fusedArrM X [g]).elem ns i = X.elem s offs := by
  have h : OneOk X g := ⟨hne, hnd, hlt⟩
  refine ⟨fuseA_any_mode X [g] m hv h.groupsOk, one_pos_mem h, one_pos_le h, ?_, ?_⟩
  · rw [one_ndim h, one_ndimM h, one_free h]
    simp [bondPos]
  · intro ns i shp s offs hshp hbox hs ho hdec hfS hfO
    rw [one_ndim h] at hfS hfO
    exact one_elem (FuseP.validArr_of_validB hv) (Arr.phases_nil_of_validB hv hf) h hshp hbox hs ho ⟨hdec, hfS, hfO⟩

/-- the operands after `dropMisaligned` form an aligned pair (no condition on the free legs) -/
theorem aligned_ctx0 (a b : Arr R) (xa xb : List Nat)
    (ha : a.validB = true) (hb : b.validB = true) (hfa : a.fermi = false) (hfb : b.fermi = false)
    (hsym : a.sym = b.sym) (hc : ValidP.contractibleB a b xa xb = true)
    (hnA : xa.Nodup) (hnB : xb.Nodup) (hA : ∀ x ∈ xa, x < a.ndim) (hB : ∀ x ∈ xb, x < b.ndim) :
    Ctx0 (dropMisaligned a b xa xb).1 (dropMisaligned a b xa xb).2 xa xb :=
  ctx0_of_dropMisaligned a b xa xb ha hb hfa hfb hsym hc hnA hnB hA hB

/-- **fuse_contracted_aligned**: for an aligned pair `A`, `B`: `fuse(A, xa)`, `fuse(B, xb)`
    (either strategy) succeed, the public `tensordot` over the single fused pair is the blockwise
    contraction of the fused operands, and at every address `(Ls ++ Rs, oL ++ oR)` of the free legs'
    table box it holds the element of the contraction of `A`, `B` over the original pairs. -/
theorem fuse_contracted_aligned [AddCommMonoid R] [Mul R] [Neg R]
    (hz1 : ∀ x : R, 0 * x = 0) (hz2 : ∀ x : R, x * 0 = 0) {A B : Arr R} {xa xb : List Nat}
    (h : Ctx0 A B xa xb) (hne : xa ≠ []) (m1 m2 : FuseMode) :
    fuseA A [xa] m1 false = .ok (FuseP.fusedArrM A [xa])
    ∧ fuseA B [xb] m2 false = .ok (FuseP.fusedArrM B [xb])
    ∧ (FuseP.fusedArrM A [xa]).validB = true ∧ (FuseP.fusedArrM B [xb]).validB = true
    ∧ bondPos A xa ∈ xa ∧ bondPos B xb ∈ xb
    ∧ tensordotA (FuseP.fusedArrM A [xa]) (FuseP.fusedArrM B [xb])
        (.pair [Int.ofNat (bondPos A xa)] [Int.ofNat (bondPos B xb)]) .blockwise
        = .ok (tensordotBlockwise (FuseP.fusedArrM A [xa]) (FuseP.fusedArrM B [xb])
            (freeAxes (FuseP.fusedArrM A [xa]).ndim [bondPos A xa]) [bondPos A xa] [bondPos B xb]
            (freeAxes (FuseP.fusedArrM B [xb]).ndim [bondPos B xb]))
    ∧ ∀ (Ls Rs : Sector) (oL oR shpL shpR : List Nat),
        Arr.blockShape? (permuted A.indices (freeAxes A.ndim xa)) Ls = some shpL → inBox shpL oL = true →
        Arr.blockShape? (permuted B.indices (freeAxes B.ndim xb)) Rs = some shpR → inBox shpR oR = true →
        (tensordotBlockwise (FuseP.fusedArrM A [xa]) (FuseP.fusedArrM B [xb])
            (freeAxes (FuseP.fusedArrM A [xa]).ndim [bondPos A xa]) [bondPos A xa] [bondPos B xb]
            (freeAxes (FuseP.fusedArrM B [xb]).ndim [bondPos B xb])).elem (Ls ++ Rs) (oL ++ oR)
          = (tensordotBlockwise A B (freeAxes A.ndim xa) xa xb (freeAxes B.ndim xb)).elem
              (Ls ++ Rs) (oL ++ oR) := by
  have oA := h.oneA hne
  have oB := h.oneB hne
  refine ⟨fuseA_any_mode A [xa] m1 h.vA oA.groupsOk, fuseA_any_mode B [xb] m2 h.vB oB.groupsOk,
    one_validB h.vA h.fA oA, one_validB h.vB h.fB oB, one_pos_mem oA, one_pos_mem oB, ?_, ?_⟩
  · apply tensordotA_blockwise_ok
    have := ValidP.parseAxes_nat (FuseP.fusedArrM A [xa]).ndim (FuseP.fusedArrM B [xb]).ndim
      [bondPos A xa] [bondPos B xb] rfl (one_bond_lt oA) (one_bond_lt oB)
    simpa using this
  · intro Ls Rs oL oR shpL shpR h1 h2 h3 h4
    exact bond_fuse_core hz1 hz2 h hne h1 h2 h3 h4

/-- **tensordot_fuse_contracted_commute** (C06, first clause; abelian; public operations).
    `a`, `b` valid abelian arrays of one symmetry, contracted legs `xa` / `xb` with matching charge
    tables and opposite directions, at least one pair.  With `(a', b') = drop_misaligned_sectors`:
    `fuse(a', xa)` and `fuse(b', xb)` succeed (strategy `m1` / `m2`), `tensordot` of the two fused
    arrays over the single fused pair `(bondPos a' xa, bondPos b' xb)` succeeds, `tensordot(a, b)`
    over the original pairs succeeds, and the two results agree at every address of the free
    legs' table box (tables of the aligned operands). -/
theorem tensordot_fuse_contracted_commute [AddCommMonoid R] [Mul R] [Neg R]
    (hz1 : ∀ x : R, 0 * x = 0) (hz2 : ∀ x : R, x * 0 = 0) (a b : Arr R) (xa xb : List Nat)
    (ha : a.validB = true) (hb : b.validB = true) (hfa : a.fermi = false) (hfb : b.fermi = false)
    (hsym : a.sym = b.sym) (hc : ValidP.contractibleB a b xa xb = true)
    (hnA : xa.Nodup) (hnB : xb.Nodup) (hA : ∀ x ∈ xa, x < a.ndim) (hB : ∀ x ∈ xb, x < b.ndim)
    (hne : xa ≠ []) (m1 m2 : FuseMode) :
    ∃ af bf cf c,
      fuseA (dropMisaligned a b xa xb).1 [xa] m1 false = .ok af
      ∧ fuseA (dropMisaligned a b xa xb).2 [xb] m2 false = .ok bf
      ∧ tensordotA af bf (.pair [Int.ofNat (bondPos (dropMisaligned a b xa xb).1 xa)]
            [Int.ofNat (bondPos (dropMisaligned a b xa xb).2 xb)]) .blockwise = .ok cf
      ∧ tensordotA a b (.pair (xa.map Int.ofNat) (xb.map Int.ofNat)) .blockwise = .ok c
      ∧ af.validB = true ∧ bf.validB = true
      ∧ af.ndim + xa.length = a.ndim + 1 ∧ bf.ndim + xb.length = b.ndim + 1
      ∧ ∀ (Ls Rs : Sector) (oL oR shpL shpR : List Nat),
          Arr.blockShape? (permuted (dropMisaligned a b xa xb).1.indices (freeAxes a.ndim xa)) Ls = some shpL →
          inBox shpL oL = true →
          Arr.blockShape? (permuted (dropMisaligned a b xa xb).2.indices (freeAxes b.ndim xb)) Rs = some shpR →
          inBox shpR oR = true →
          cf.elem (Ls ++ Rs) (oL ++ oR) = c.elem (Ls ++ Rs) (oL ++ oR) := by
  obtain ⟨n1, n2⟩ := dropMisaligned_ndim a b xa xb
  have h := aligned_ctx0 a b xa xb ha hb hfa hfb hsym hc hnA hnB hA hB
  obtain ⟨f1, f2, v1, v2, _, _, t1, hel⟩ := fuse_contracted_aligned hz1 hz2 h hne m1 m2
  have hlen : xa.length = xb.length := h.len
  have oA := h.oneA hne
  have oB := h.oneB hne
  refine ⟨_, _, _, _, f1, f2, t1,
    tensordotA_blockwise_ok a b _ xa xb (ValidP.parseAxes_nat a.ndim b.ndim xa xb hlen hA hB),
    v1, v2, ?_, ?_, ?_⟩
  · rw [one_ndim oA, one_ndimM oA, ← n1]
    have e1 : (freeAxes (dropMisaligned a b xa xb).1.ndim xa).length + xa.length
        = (dropMisaligned a b xa xb).1.ndim := by
      have := (ValidP.without_append_perm (n := (dropMisaligned a b xa xb).1.ndim) h.nA h.rA).length_eq
      rw [without_range] at this
      simpa [Nat.add_comm] using this
    have e2 := congrArg List.length (one_free oA)
    simp only [List.length_append, List.length_range] at e2
    omega
  · rw [one_ndim oB, one_ndimM oB, ← n2]
    have e1 : (freeAxes (dropMisaligned a b xa xb).2.ndim xb).length + xb.length
        = (dropMisaligned a b xa xb).2.ndim := by
      have := (ValidP.without_append_perm (n := (dropMisaligned a b xa xb).2.ndim) h.nB h.rB).length_eq
      rw [without_range] at this
      simpa [Nat.add_comm] using this
    have e2 := congrArg List.length (one_free oB)
    simp only [List.length_append, List.length_range] at e2
    omega
  · intro Ls Rs oL oR shpL shpR h1 h2 h3 h4
    rw [← n1] at h1
    rw [← n2] at h3
    rw [hel Ls Rs oL oR shpL shpR h1 h2 h3 h4, n1, n2]
    have hph : a.phases = [] := Arr.phases_nil_of_validB ha hfa
    rw [Arr.elem_of_phases_nil (show (tensordotBlockwise (dropMisaligned a b xa xb).1
          (dropMisaligned a b xa xb).2 (freeAxes a.ndim xa) xa xb (freeAxes b.ndim xb)).phases = [] from hph),
      Arr.elem_of_phases_nil (show (tensordotBlockwise a b (freeAxes a.ndim xa) xa xb
          (freeAxes b.ndim xb)).phases = [] from hph),
      tensordotBlockwise_blocks_dropMisaligned]

/-- for an aligned pair `A`, `B` the contraction of the two pre-fused operands over the single
    fused pair with the public `tensordot` in ANY mode succeeds; every sector of the blockwise
    result is stored; every stored block `(K, V)` of the result has the shape the free legs' tables
    of `A`, `B` give to `K`, and every stored entry equals the element of the (blockwise)
    contraction of `A`, `B` over the original pairs at that address. -/
theorem fuse_contracted_aligned_modes [AddCommMonoid R] [Mul R] [Neg R]
    (hz1 : ∀ x : R, 0 * x = 0) (hz2 : ∀ x : R, x * 0 = 0) {A B : Arr R} {xa xb : List Nat}
    (h : Ctx0 A B xa xb) (hne : xa ≠ []) (mode : TdotMode) :
    ∃ cm, tensordotA (FuseP.fusedArrM A [xa]) (FuseP.fusedArrM B [xb])
        (.pair [Int.ofNat (bondPos A xa)] [Int.ofNat (bondPos B xb)]) mode = .ok cm
      ∧ (∀ s ∈ (tensordotBlockwise (FuseP.fusedArrM A [xa]) (FuseP.fusedArrM B [xb])
            (freeAxes (FuseP.fusedArrM A [xa]).ndim [bondPos A xa]) [bondPos A xa] [bondPos B xb]
            (freeAxes (FuseP.fusedArrM B [xb]).ndim [bondPos B xb])).sectors, s ∈ cm.sectors)
      ∧ ∀ K V, alookup cm.blocks K = some V →
          Arr.blockShape? (permuted A.indices (freeAxes A.ndim xa) ++ permuted B.indices (freeAxes B.ndim xb)) K
            = some V.shape
          ∧ ∀ J, inBox V.shape J = true →
            cm.elem K J = (tensordotBlockwise A B (freeAxes A.ndim xa) xa xb (freeAxes B.ndim xb)).elem K J := by
  have oA := h.oneA hne
  have oB := h.oneB hne
  have gA0 : ([xa] : List (List Nat))[0]? = some xa := rfl
  have gB0 : ([xb] : List (List Nat))[0]? = some xb := rfl
  obtain ⟨_, _, v1, v2, _, _, _, hel⟩ := fuse_contracted_aligned hz1 hz2 h hne .insert .insert
  obtain ⟨bm1, _, bm3⟩ := h.bond_match oA.groupsOk oB.groupsOk gA0 gB0
  have hrA := one_bond_lt (R := R) oA
  have hrB := one_bond_lt (R := R) oB
  have hparse := ValidP.parseAxes_nat (FuseP.fusedArrM A [xa]).ndim (FuseP.fusedArrM B [xb]).ndim
      [bondPos A xa] [bondPos B xb] rfl hrA hrB
  have hc := bond_contractibleB (R := R) bm1 bm3
  obtain ⟨cm, t, hsec, hshape, hcm⟩ :=
    tensordotA_every_mode hz1 hz2 (FuseP.fusedArrM A [xa]) (FuseP.fusedArrM B [xb])
      (.pair ([bondPos A xa].map Int.ofNat) ([bondPos B xb].map Int.ofNat)) [bondPos A xa] [bondPos B xb] hparse
      v1 v2 h.fA h.fB h.sym hc (by simp) (by simp) hrA hrB mode
  -- an address whose key has a shape in the fused operands' free-leg tables splits
  have key : ∀ (K : Sector) (shp : List Nat),
      Arr.blockShape? (without (FuseP.fusedArrM A [xa]).indices [bondPos A xa]
          ++ without (FuseP.fusedArrM B [xb]).indices [bondPos B xb]) K = some shp →
      Arr.blockShape? (permuted A.indices (freeAxes A.ndim xa) ++ permuted B.indices (freeAxes B.ndim xb)) K
          = some shp
      ∧ ∀ J, inBox shp J = true →
          (tensordotBlockwise (FuseP.fusedArrM A [xa]) (FuseP.fusedArrM B [xb])
            (freeAxes (FuseP.fusedArrM A [xa]).ndim [bondPos A xa]) [bondPos A xa] [bondPos B xb]
            (freeAxes (FuseP.fusedArrM B [xb]).ndim [bondPos B xb])).elem K J
          = (tensordotBlockwise A B (freeAxes A.ndim xa) xa xb (freeAxes B.ndim xb)).elem K J := by
    intro K shp hs
    have eFA : (FuseP.fusedArrM A [xa]).indices.length = (FuseP.fusedArrM A [xa]).ndim := rfl
    have eFB : (FuseP.fusedArrM B [xb]).indices.length = (FuseP.fusedArrM B [xb]).ndim := rfl
    have ean : A.indices.length = A.ndim := rfl
    have ebn : B.indices.length = B.ndim := rfl
    have iA : permuted (FuseP.fusedArrM A [xa]).indices (freeAxes (FuseP.fusedArrM A [xa]).ndim [bondPos A xa])
        = permuted A.indices (freeAxes A.ndim xa) := by
      rw [one_ndim oA]; exact one_free_indices oA
    have iB : permuted (FuseP.fusedArrM B [xb]).indices (freeAxes (FuseP.fusedArrM B [xb]).ndim [bondPos B xb])
        = permuted B.indices (freeAxes B.ndim xb) := by
      rw [one_ndim oB]; exact one_free_indices oB
    rw [without_eq_permuted_freeAxes, without_eq_permuted_freeAxes, eFA, eFB, iA, iB] at hs
    refine ⟨hs, ?_⟩
    intro J hJ
    obtain ⟨Ls, Rs, oL, oR, p, q, rfl, rfl, hp, hbp, hq, hbq⟩ := address_split hs hJ
    exact hel _ _ _ _ _ _ hp hbp hq hbq
  refine ⟨cm, t, hsec, fun K V hK => ?_⟩
  obtain ⟨q1, q2⟩ := key K V.shape (hshape K V hK)
  exact ⟨q1, fun J hJ => (hcm K J (by rw [Arr.blockShapeD, hshape K V hK]; exact hJ)).trans (q2 J hJ)⟩

/-- **fuse_contracted_aligned_any_mode**: the contraction of the two pre-fused operands over the
    single fused pair with the public `tensordot` in `mode = fused` or `auto` succeeds; every sector
    of the blockwise result is stored, and EVERY STORED ENTRY equals the element of the contraction
    of `A`, `B` over the original pairs at that address (so a stored sector the plain result lacks
    is an all-zero block). -/
theorem fuse_contracted_aligned_any_mode [AddCommMonoid R] [Mul R] [Neg R]
    (hz1 : ∀ x : R, 0 * x = 0) (hz2 : ∀ x : R, x * 0 = 0) {A B : Arr R} {xa xb : List Nat}
    (h : Ctx0 A B xa xb) (hne : xa ≠ []) (mode : TdotMode) (hmode : mode = .fused ∨ mode = .auto) :
    ∃ cm, tensordotA (FuseP.fusedArrM A [xa]) (FuseP.fusedArrM B [xb])
        (.pair [Int.ofNat (bondPos A xa)] [Int.ofNat (bondPos B xb)]) mode = .ok cm
      ∧ (∀ s ∈ (tensordotBlockwise (FuseP.fusedArrM A [xa]) (FuseP.fusedArrM B [xb])
            (freeAxes (FuseP.fusedArrM A [xa]).ndim [bondPos A xa]) [bondPos A xa] [bondPos B xb]
            (freeAxes (FuseP.fusedArrM B [xb]).ndim [bondPos B xb])).sectors, s ∈ cm.sectors)
      ∧ ∀ K V, alookup cm.blocks K = some V → ∀ J, inBox V.shape J = true →
          cm.elem K J = (tensordotBlockwise A B (freeAxes A.ndim xa) xa xb (freeAxes B.ndim xb)).elem K J := by
  obtain ⟨cm, t, hsec, hel⟩ := fuse_contracted_aligned_modes hz1 hz2 h hne mode
  exact ⟨cm, t, hsec, fun K V hK J hJ => (hel K V hK).2 J hJ⟩

/-- **tensordot_fuse_contracted_commute_any_mode** (public operations): as
    `tensordot_fuse_contracted_commute`, with the contraction of the pre-fused operands in
    `mode = fused` or `auto` (the default): it succeeds and every stored entry of its result is the
    element of `tensordot(a, b)` over the original pairs (blockwise) at that address. -/
theorem tensordot_fuse_contracted_commute_any_mode [AddCommMonoid R] [Mul R] [Neg R]
    (hz1 : ∀ x : R, 0 * x = 0) (hz2 : ∀ x : R, x * 0 = 0) (a b : Arr R) (xa xb : List Nat)
    (ha : a.validB = true) (hb : b.validB = true) (hfa : a.fermi = false) (hfb : b.fermi = false)
    (hsym : a.sym = b.sym) (hc : ValidP.contractibleB a b xa xb = true)
    (hnA : xa.Nodup) (hnB : xb.Nodup) (hA : ∀ x ∈ xa, x < a.ndim) (hB : ∀ x ∈ xb, x < b.ndim)
    (hne : xa ≠ []) (m1 m2 : FuseMode) (mode : TdotMode) (hmode : mode = .fused ∨ mode = .auto) :
    ∃ af bf cm c,
      fuseA (dropMisaligned a b xa xb).1 [xa] m1 false = .ok af
      ∧ fuseA (dropMisaligned a b xa xb).2 [xb] m2 false = .ok bf
      ∧ tensordotA af bf (.pair [Int.ofNat (bondPos (dropMisaligned a b xa xb).1 xa)]
            [Int.ofNat (bondPos (dropMisaligned a b xa xb).2 xb)]) mode = .ok cm
      ∧ tensordotA a b (.pair (xa.map Int.ofNat) (xb.map Int.ofNat)) .blockwise = .ok c
      ∧ ∀ K V, alookup cm.blocks K = some V → ∀ J, inBox V.shape J = true → cm.elem K J = c.elem K J := by
  obtain ⟨n1, n2⟩ := dropMisaligned_ndim a b xa xb
  have h := aligned_ctx0 a b xa xb ha hb hfa hfb hsym hc hnA hnB hA hB
  obtain ⟨f1, f2, _⟩ := fuse_contracted_aligned hz1 hz2 h hne m1 m2
  obtain ⟨cm, t1, _, hel⟩ := fuse_contracted_aligned_any_mode hz1 hz2 h hne mode hmode
  refine ⟨_, _, cm, _, f1, f2, t1,
    tensordotA_blockwise_ok a b _ xa xb (ValidP.parseAxes_nat a.ndim b.ndim xa xb h.len hA hB), ?_⟩
  intro K V hK J hJ
  rw [hel K V hK J hJ, n1, n2]
  have hph : a.phases = [] := Arr.phases_nil_of_validB ha hfa
  rw [Arr.elem_of_phases_nil (show (tensordotBlockwise (dropMisaligned a b xa xb).1
        (dropMisaligned a b xa xb).2 (freeAxes a.ndim xa) xa xb (freeAxes b.ndim xb)).phases = [] from hph),
    Arr.elem_of_phases_nil (show (tensordotBlockwise a b (freeAxes a.ndim xa) xa xb
        (freeAxes b.ndim xb)).phases = [] from hph),
    tensordotBlockwise_blocks_dropMisaligned]

/-- **tensordot_fuse_commute_concat**: `tensordot_fuse_commute` (C06e) with all three `fuse`
    calls in `mode = concat`: they succeed with the SAME arrays as with `mode = insert`, so the
    element statement of `tensordot_fuse_commute` is about them verbatim. -/
theorem tensordot_fuse_commute_concat [AddCommMonoid R] [Mul R] [Neg R]
    (hz1 : ∀ x : R, 0 * x = 0) (hz2 : ∀ x : R, x * 0 = 0) {A B : Arr R} {xa xb : List Nat}
    (h : FusedCtx A B xa xb) :
    fuseA A [freeAxes A.ndim xa, xa] .concat false = fuseA A [freeAxes A.ndim xa, xa] .insert false
    ∧ fuseA B [xb, freeAxes B.ndim xb] .concat false = fuseA B [xb, freeAxes B.ndim xb] .insert false
    ∧ fuseA (cPlain A B xa xb) [resL A xa, resR A B xa xb] .concat false
        = fuseA (cPlain A B xa xb) [resL A xa, resR A B xa xb] .insert false
    ∧ fuseA A [freeAxes A.ndim xa, xa] .concat false = .ok (FuseP.fusedArrM A [freeAxes A.ndim xa, xa])
    ∧ fuseA B [xb, freeAxes B.ndim xb] .concat false = .ok (FuseP.fusedArrM B [xb, freeAxes B.ndim xb])
    ∧ fuseA (cPlain A B xa xb) [resL A xa, resR A B xa xb] .concat false
        = .ok (FuseP.fusedArrM (cPlain A B xa xb) [resL A xa, resR A B xa xb]) := by
  have k1 := fuseA_any_mode A _ .concat h.vA h.pairA.groupsOk
  have k2 := fuseA_any_mode B _ .concat h.vB h.pairB.groupsOk
  have k3 := fuseA_any_mode (cPlain A B xa xb) _ .concat h.cPlain_validB h.cPlain_pair.groupsOk
  obtain ⟨i1, i2, i3, _⟩ := tensordot_fuse_commute hz1 hz2 h
  exact ⟨k1.trans i1.symm, k2.trans i2.symm, k3.trans i3.symm, k1, k2, k3⟩

/-- **tensordot_fuse_free_commute_concat**: `tensordot_fuse_free_commute` (C06e; leading free legs
    of the left operand, operands not aligned) with both `fuse` calls in `mode = concat`. -/
theorem tensordot_fuse_free_commute_concat [AddCommMonoid R] [Mul R] [Neg R]
    (hz1 : ∀ x : R, 0 * x = 0) (hz2 : ∀ x : R, x * 0 = 0) (a b : Arr R) (xa xb : List Nat) (k : Nat)
    (ha : a.validB = true) (hb : b.validB = true) (hfa : a.fermi = false) (hfb : b.fermi = false)
    (hsym : a.sym = b.sym) (hopp : ValidP.oppositeDualsB a b xa xb = true)
    (hnA : xa.Nodup) (hnB : xb.Nodup) (hA : ∀ x ∈ xa, x < a.ndim) (hB : ∀ x ∈ xb, x < b.ndim)
    (hk1 : 1 ≤ k) (hk : k ≤ a.ndim) (hxa : ∀ x ∈ xa, k ≤ x) :
    fuseA a [List.range k] .concat false = .ok (FuseP.fusedArrM a [List.range k])
    ∧ fuseA (cPlain a b xa xb) [List.range k] .concat false
        = .ok (FuseP.fusedArrM (cPlain a b xa xb) [List.range k])
    ∧ ∀ (c0 c2 : Charge) (i0 d0 i2 d2 : Nat) (S rest : Sector) (O orest shp : List Nat),
        decAx a [List.range k] 0 c0 i0 = some (S, O) →
        (FuseP.ixM a [List.range k] 0).sizeOf? c0 = some d0 → i0 < d0 →
        decAx (cPlain a b xa xb) [List.range k] 0 c2 i2 = some (S, O) →
        (FuseP.ixM (cPlain a b xa xb) [List.range k] 0).sizeOf? c2 = some d2 → i2 < d2 →
        Arr.blockShape? ((cPlain a b xa xb).indices.drop k) rest = some shp → inBox shp orest = true →
        (tensordotBlockwise (FuseP.fusedArrM a [List.range k]) b
            (freeAxes (1 + (a.ndim - k)) (xa.map (sh k))) (xa.map (sh k)) xb (freeAxes b.ndim xb)).elem
            (c0 :: rest) (i0 :: orest)
          = (FuseP.fusedArrM (cPlain a b xa xb) [List.range k]).elem (c2 :: rest) (i2 :: orest) := by
  obtain ⟨hvc, hkc, _⟩ := lead_commute_result hz1 hz2 a b xa xb k ha hb hfa hfb hsym hopp hnA hnB hA hB
    hk1 hk hxa
  obtain ⟨_, _, hel⟩ := tensordot_fuse_free_commute hz1 hz2 a b xa xb k ha hb hfa hfb hsym hopp hnA hnB
    hA hB hk1 hk hxa
  refine ⟨fuseA_any_mode a _ .concat ha (lead_groupsOk hk1 hk),
    fuseA_any_mode _ _ .concat hvc (lead_groupsOk hk1 hkc), ?_⟩
  intro c0 c2 i0 d0 i2 d2 S rest O orest shp h1 h2 h3 h4 h5 h6 h7 h8
  exact (hel c0 c2 i0 d0 i2 d2 S rest O orest shp h1 h2 h3 h4 h5 h6 h7 h8).1

/-- **tensordot_fuse_free_commute_fermionic_concat**: in `tensordot_fuse_free_commute_fermionic`
    (and `…_any_mode`) the two fermionic `fuse` calls may use `mode = concat`: same results.
    (`hvc`, `hfc`: the contraction result is a valid fermionic array — a hypothesis here, what the
    validity theorems for `tensordotF` provide; see the example at the end.) -/
theorem tensordot_fuse_free_commute_fermionic_concat [AddCommMonoid R] [Mul R] [Neg R] [SignRing R]
    (hz1 : ∀ x : R, 0 * x = 0) (hz2 : ∀ x : R, x * 0 = 0) (a b cm : Arr R) (xa xb : List Nat) (k : Nat)
    (e : Bool) (m1 : TdotMode)
    (ha : a.validB = true) (hb : b.validB = true) (hfa : a.fermi = true) (hfb : b.fermi = true)
    (hadm : tdotAdmissibleCommonB a b xa xb = true)
    (hk1 : 1 ≤ k) (hk : k ≤ a.ndim) (hxa : ∀ x ∈ xa, k ≤ x)
    (hcm : a.tensordotF b (.pair (xa.map Int.ofNat) (xb.map Int.ofNat)) m1 = .ok cm)
    (hvc : cm.validB = true) (hfc : cm.fermi = true) :
    a.fuseF [List.range k] .concat e
        = .ok (FuseP.fusedArrM (FuseP.signAdj a [List.range k]) [List.range k])
    ∧ cm.fuseF [List.range k] .concat e
        = .ok (FuseP.fusedArrM (FuseP.signAdj cm [List.range k]) [List.range k]) := by
  obtain ⟨i1, i2, hkc, _⟩ := tensordot_fuse_free_commute_fermionic_any_mode hz1 hz2 a b cm xa xb k e m1 .blockwise
    ha hb hfa hfb hadm hk1 hk hxa hcm
  have hne : ([List.range k] : List (List Nat)) ≠ [] := by simp
  constructor
  · rw [C05.fuseF_concat_eq_insert a _ e ha hfa (FuseP.groupsOk_iff.2 (lead_groupsOk hk1 hk)) hne]
    exact i1
  · rw [C05.fuseF_concat_eq_insert cm _ e hvc hfc (FuseP.groupsOk_iff.2 (lead_groupsOk hk1 hkc)) hne]
    exact i2

-- `exA[i,j,k]`, `exB[j',k',m]` (C06): two contracted pairs, sparse operands whose present sectors
-- differ (each has a sector without partner)
example : exA.validB = true ∧ exB.validB = true ∧ exA.fermi = false ∧ exB.fermi = false
    ∧ exA.sym = exB.sym ∧ ValidP.contractibleB exA exB [1, 2] [0, 1] = true
    ∧ ([1, 2] : List Nat).Nodup ∧ ([0, 1] : List Nat).Nodup
    ∧ (∀ x ∈ ([1, 2] : List Nat), x < exA.ndim) ∧ (∀ x ∈ ([0, 1] : List Nat), x < exB.ndim)
    ∧ (dropMisaligned exA exB [1, 2] [0, 1]).1.blocks.length = 2
    ∧ bondPos (dropMisaligned exA exB [1, 2] [0, 1]).1 [1, 2] = 1
    ∧ bondPos (dropMisaligned exA exB [1, 2] [0, 1]).2 [0, 1] = 0 := by decide +kernel

example : Ctx0 (dropMisaligned exA exB [1, 2] [0, 1]).1 (dropMisaligned exA exB [1, 2] [0, 1]).2 [1, 2] [0, 1] :=
  aligned_ctx0 exA exB [1, 2] [0, 1] (by decide +kernel) (by decide +kernel) rfl rfl rfl (by decide +kernel)
    (by decide) (by decide) (by decide) (by decide)

-- sanity: the route align → fuse (one with insert, one with concat) → contract the single fused
-- pair gives exactly the blocks of the contraction over the two original pairs here
example :
    (match fuseA (dropMisaligned exA exB [1, 2] [0, 1]).1 [[1, 2]] .insert false,
           fuseA (dropMisaligned exA exB [1, 2] [0, 1]).2 [[0, 1]] .concat false with
     | .ok af, .ok bf =>
        match tensordotA af bf (.pair [1] [0]) .blockwise, tensordotA exA exB (.pair [1, 2] [0, 1]) .blockwise with
        | .ok cf, .ok c =>
          cf.blocks.all (fun p => (alookup c.blocks p.1).map (·.data) == some p.2.data)
          && c.blocks.all (fun p => (alookup cf.blocks p.1).map (·.data) == some p.2.data)
          && cf.blocks.length == c.blocks.length && cf.blocks.length != 0
          && af.ndim == 2 && bf.ndim == 2
        | _, _ => false
     | _, _ => false) = true := by decide +kernel

-- the same route with the contraction of the pre-fused operands in fused / auto mode: every stored
-- non-zero block is a block of the contraction over the original pairs and vice versa
example :
    (match fuseA (dropMisaligned exA exB [1, 2] [0, 1]).1 [[1, 2]] .concat false,
           fuseA (dropMisaligned exA exB [1, 2] [0, 1]).2 [[0, 1]] .insert false with
     | .ok af, .ok bf =>
        match tensordotA af bf (.pair [1] [0]) .fused, tensordotA af bf (.pair [1] [0]) .auto,
              tensordotA exA exB (.pair [1, 2] [0, 1]) .blockwise with
        | .ok cf, .ok ca, .ok c =>
          cf.blocks.all (fun p => p.2.data.all (· == 0) || (alookup c.blocks p.1).map (·.data) == some p.2.data)
          && ca.blocks.all (fun p => p.2.data.all (· == 0) || (alookup c.blocks p.1).map (·.data) == some p.2.data)
          && c.blocks.all (fun p => (alookup cf.blocks p.1).map (·.data) == some p.2.data)
          && c.blocks.length != 0
        | _, _, _ => false
     | _, _ => false) = true := by decide +kernel

-- one group in the middle / at the end, legs in reversed order: `fuse(exA, [2, 1])`
example : exA.validB = true ∧ exA.fermi = false ∧ ([2, 1] : List Nat).Nodup
    ∧ (∀ x ∈ ([2, 1] : List Nat), x < exA.ndim) ∧ bondPos exA [2, 1] = 1
    ∧ FuseP.groupsOkB [[2, 1]] exA.ndim = true := by decide +kernel

-- fermionic concat transfer: the hypotheses on the contraction result hold for C06e's example pair
example : (match C03.gA.tensordotF C04.cB (.pair [2] [0]) .blockwise with
    | .ok c => c.validB && c.fermi
    | _ => false) = true := by decide +kernel

end SymmModel.C06
