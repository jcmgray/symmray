/-
  Property C05, part g — the concat strategy for SEVERAL groups.

  Proved:
  * `fuseConcat_multi`: for a valid array and any admissible, non-empty list of groups,
    `fuseCore a groups .concat` succeeds and is the explicit array `fusedArrCM`: the reshaped blocks
    grouped by (new sector, sub-sectors) — `groupedM`, a dict of dicts in insertion order — and, per
    new sector, the NESTED CONCATENATION `nest` over the levels of the groups (`lvFrom`): a
    single-axis group contributes its charge to the key, a multi-axis group concatenates along its
    axis over the extent of the fused charge, in extent order; a missing sub-block is a block of
    zeros of shape `zsM` (the `except KeyError` branch of `_get_subblock`, evaluated: `zeroShape_ok`).
  * `concat_sectors_eq_insert`: both strategies store exactly the same sectors, each once.
  * `nest_get` (get-characterisation of the nested concatenation, abstract levels): when the leaves
    have the piece shapes, the result has the full shape and its entry at every in-box address `i` is
    the entry of the leaf chosen by `i` (`decQ`: on every multi level the extent entry whose range
    contains the coordinate) at the address with the in-piece offsets (`decOff`).
  * `pieceShape_explicit`: the piece shape of a list of choices is the fused shape with the chosen
    sub-sector sizes on the multi-axis group axes.

  The block-by-block equality with the insert strategy for several groups is part h.  The examples
  compare both strategies on two and three groups, dict order included.

  Last section (examples only): `conj` of a fused FERMIONIC array, the per-sector sign of part i's
  `conj_fuse_relation` written out (`mismatchOdd`) and checked on stored numbers (`conjFuseObs`).
-/
import SymmModel.Proofs.Fuse7Concat
import SymmModel.Props.C05All4

namespace SymmModel.C05
open SymmModel FuseP

variable {R : Type} [Zero R]

/-- the fused array of the concat strategy -/
def fusedArrCM (a : Arr R) (groups : List (List Nat)) : Arr R :=
  { a with indices := newIdxM a groups, blocks := concatBlocksM a groups }

/-- **the concat strategy, several groups**: succeeds, explicit result -/
theorem fuseConcat_multi (a : Arr R) (groups : List (List Nat)) (hv : a.validB = true)
    (hg : groupsOkB groups a.ndim = true) (hne : groups ≠ []) :
    fuseCore a groups .concat = .ok (fusedArrCM a groups)
    ∧ (fusedArrCM a groups).indices = (fusedArrM a groups).indices
    ∧ (fusedArrCM a groups).blocks
        = (groupedM a groups).map (fun p =>
            (p.1, nest (leafM p.2 (zsM a groups p.1)) (lvFrom a groups p.1 0 groups.length) [])) := by
  have hva := validArr_of_validB hv
  have hok := groupsOk_iff.1 hg
  refine ⟨?_, rfl, rfl⟩
  unfold fuseCore
  rw [calcFuseBlockInfo_eq hva (fun _ => hok.lt)]
  simp only [bind, Except.bind, fuseConcat_multi_eq hva hok.adm hne, pure, Except.pure]
  rfl

/-- both strategies store the same sectors, each once -/
theorem concat_sectors_eq_insert (a : Arr R) (groups : List (List Nat)) (hv : a.validB = true)
    (hg : groupsOkB groups a.ndim = true) :
    (∀ ns, ns ∈ (fusedArrCM a groups).sectors ↔ ns ∈ (fusedArrM a groups).sectors)
    ∧ (fusedArrCM a groups).sectors.Nodup ∧ (fusedArrM a groups).sectors.Nodup := by
  have hva := validArr_of_validB hv
  have hok := groupsOk_iff.1 hg
  have hG := groupedM_inv hva hok.adm
  have hI := fusedBlocksM_inv hva hok.adm
  have hkeys : (fusedArrCM a groups).sectors = (groupedM a groups).map (·.1) := by
    simp only [Arr.sectors, fusedArrCM, concatBlocksM, List.map_map, List.map_inj_left, Function.comp,
      implies_true]
  refine ⟨fun ns => ?_, by rw [hkeys]; exact hG.nodup, hI.nodup⟩
  rw [hkeys, hG.keys]
  show _ ↔ ns ∈ (fusedBlocksM a groups).map (·.1)
  rw [hI.keys]
  simp only [List.map_map]
  rfl

/-- **entries of a nested concatenation** (abstract levels) -/
theorem nest_get (leaf : List Sector → Blk R) (lv : List Lvl) (key : List Sector) (base : List Nat)
    (hok : LvOk lv base)
    (hleaf : ∀ qs, Choice lv qs → (leaf (key ++ qs.map (·.1))).shape = pieceShape lv base qs) :
    (nest leaf lv key).shape = base
    ∧ ∀ i, inBox base i = true →
        Choice lv (decQ lv i) ∧ inBox (pieceShape lv base (decQ lv i)) (decOff lv i) = true
        ∧ (nest leaf lv key).get i = (leaf (key ++ (decQ lv i).map (·.1))).get (decOff lv i) :=
  nest_spec leaf lv key base hok hleaf

theorem pieceShape_explicit (a : Arr R) (groups : List (List Nat)) (ns : Sector) (b : List Nat)
    (qs : List (Sector × Nat)) (hb : b.length = ndimM a groups) (hq : qs.length = groups.length) :
    pieceShape (lvFrom a groups ns 0 groups.length) b qs
      = (List.range (ndimM a groups)).map (fun ax =>
          if axMulti a groups ax then (qs.getD (ax - (giM a groups).position) ([], 0)).2 else b.getD ax 0) :=
  pieceShape_full ns b qs hb hq

set_option synthInstance.maxSize 1024 in
/-- two multi-axis groups (rank 4, two of six sectors stored — the sub-blocks missing in the fused
    block are zeros): both strategies give the same dict, in the same order -/
example : view (fuseCore exB [[1, 0], [3, 2]] .concat) = view (fuseCore exB [[1, 0], [3, 2]] .insert)
    ∧ view (fuseCore exB [[0, 1], [2, 3]] .concat) = view (fuseCore exB [[0, 1], [2, 3]] .insert)
    ∧ (view (fuseCore exB [[0, 1], [2, 3]] .concat)).isSome = true := by
  decide +kernel

set_option synthInstance.maxSize 1024 in
/-- a single-axis group between two multi-axis groups, and a group of three axes -/
example : view (fuseCore exB [[0, 1], [2], [3]] .concat) = view (fuseCore exB [[0, 1], [2], [3]] .insert)
    ∧ view (fuseCore exB [[3], [0, 1, 2]] .concat) = view (fuseCore exB [[3], [0, 1, 2]] .insert)
    ∧ view (fuseCore exA [[2, 0], [1]] .concat) = view (fuseCore exA [[2, 0], [1]] .insert) := by
  decide +kernel

/-! ## conj of a fused fermionic array — the relation of part i (`conj_fuse_relation`) on stored numbers

  The relation (the reversal factors of `fuseF`, of `conjF` on the fused array and of `unfuseF` on the
  conjugate cancel in pairs, the flip factors do not):
      unfuseAllF (conjF (fuseF a groups)) = ± conjF (transposeF a perm)   per sector `s`, with
      sign = (-1)^#{ legs `ax` of a group with odd charge `s[ax]` whose direction differs from the
                     direction of the group's first leg }
  In particular the two agree when every group consists of legs of one direction, or has no odd leg
  among those that differ from its first leg.  The examples check the formula on stored numbers
  (pending signs multiplied in) for identity permutations. -/

/-- number of odd legs whose direction differs from their group's -/
def mismatchOdd (a : Arr Int) (groups : List (List Nat)) (s : Sector) : Nat :=
  ((groups.map (fun g => g.filter (fun ax =>
    (a.duals.getD ax false != a.duals.getD (g.headD 0) false) && a.sym.parity (s.getD ax (0, 0))))).flatten).length

/-- observed = predicted, sector by sector -/
def conjFuseObs (a : Arr Int) (groups : List (List Nat)) : Bool :=
  match (do let y ← Arr.fuseF a groups .insert true; Arr.unfuseAllF y.conjF) with
  | .ok z => a.conjF.phaseSync.blocks.all (fun sb =>
      match alookup z.phaseSync.blocks sb.1 with
      | some b => b.data.toList == (if mismatchOdd a groups sb.1 % 2 == 1 then sb.2.data.toList.map (fun x => -x)
                                     else sb.2.data.toList)
      | none => false)
  | .error _ => false

example : conjFuseObs exF' [[0], [1, 2]] = true ∧ conjFuseObs exF' [[0, 1], [2]] = true
    ∧ conjFuseObs exF' [[0, 1, 2]] = true ∧ conjFuseObs exG [[0, 1], [2, 3]] = true
    ∧ conjFuseObs exG [[0, 1, 2, 3]] = true
    ∧ mismatchOdd exF' [[0], [1, 2]] [(0, 0), (1, 0), (1, 0)] = 1 ∧ mismatchOdd exG [[0, 1], [2, 3]] [(1, 0), (0, 0), (0, 0), (1, 0)] = 0 := by
  decide +kernel

end SymmModel.C05
