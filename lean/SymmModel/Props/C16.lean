/-
  Property C16 — all ways of building an array agree, and dense conversion round-trips.

  About the model definitions `classSymmetry`, `construct`, `fromBlocks`, `fromDense`,
  `chargeGroups`, `fromFillFn` (Model/Construct.lean), `Arr.toDenseA`, `Arr.elem`,
  `Arr.locateAll` (Model/Arr.lean) and `Index.sortCm/plain` (Model/Index.lean); every symmetry,
  abelian and fermionic classes, arbitrary scalar type `R`, arbitrary block lists.

  The specification-level helpers used in the statements (`resolvedCharge`, `inferIndices`,
  `SizesAgree`) are defined in Proofs/DenseLemmas.lean; `resolvedCharge` and `inferIndices` are
  characterised here (`construct_charge_default`, `fromBlocks_indices`).
-/
import SymmModel.Proofs.DenseLemmas

namespace SymmModel.C16
open SymmModel Arr

variable {R : Type}

/-- `get_class_symmetry`: a fixed-symmetry class (`static = some s`) accepts no argument or its
    own symmetry and raises (`ValueError`) for any other; a generic class (`static = none`)
    raises when no symmetry is given -/
theorem classSymmetry_spec (static arg : Option Sym) :
    classSymmetry static arg =
      match static, arg with
      | some s, none => .ok s
      | some s, some t => if s = t then .ok s else .error Err.value
      | none, none => .error Err.value
      | none, some t => .ok t := by
  cases static <;> cases arg <;> simp only [classSymmetry] <;> try rfl
  rename_i s t
  by_cases h : s = t <;> simp [h] <;> rfl

theorem classSymmetry_static_none (s : Sym) : classSymmetry (some s) none = .ok s := rfl
theorem classSymmetry_static_same (s : Sym) : classSymmetry (some s) (some s) = .ok s := by
  simp [classSymmetry]; rfl
theorem classSymmetry_static_other (s t : Sym) (h : s ≠ t) :
    classSymmetry (some s) (some t) = .error Err.value := by
  simp [classSymmetry, h]; rfl
theorem classSymmetry_generic_none : classSymmetry none none = .error Err.value := rfl
theorem classSymmetry_generic_some (t : Sym) : classSymmetry none (some t) = .ok t := rfl

/-- a fixed-symmetry class and the generic class given that symmetry resolve alike -/
theorem classSymmetry_static_eq_generic (s : Sym) :
    classSymmetry (some s) none = classSymmetry none (some s)
    ∧ classSymmetry (some s) (some s) = classSymmetry none (some s) :=
  ⟨rfl, by rw [classSymmetry_static_same]; rfl⟩

/-- `__init__` computed in one step: it raises (`ValueError`) exactly when the array is
    fermionic, its resolved charge is odd and no odd-position label was given -/
theorem construct_spec (sym : Sym) (fermi : Bool) (indices : List Index) (charge : Option Charge)
    (blocks : List (Sector × Blk R)) (oddpos : List (Int × Bool)) :
    construct sym fermi indices charge blocks oddpos =
      if (fermi && sym.parity (resolvedCharge sym indices charge blocks) && oddpos.isEmpty) = true
      then .error Err.value
      else .ok { sym := sym, fermi := fermi, indices := indices,
                 charge := resolvedCharge sym indices charge blocks,
                 blocks := adict blocks, phases := [], oddpos := oddpos } :=
  construct_eq sym fermi indices charge blocks oddpos

/-- the resolved charge: the given one, else the signed combination of the first block's sector
    with respect to the index directions, else (no blocks) the identity -/
theorem construct_charge_default (sym : Sym) (indices : List Index) (blocks : List (Sector × Blk R)) :
    (∀ c, resolvedCharge sym indices (some c) blocks = c)
    ∧ (blocks = [] → resolvedCharge sym indices none blocks = sym.zero)
    ∧ (∀ s b rest, blocks = (s, b) :: rest →
        resolvedCharge sym indices none blocks = sectorCharge sym (indices.map Index.dual) s) := by
  refine ⟨fun _ => rfl, ?_, ?_⟩
  · rintro rfl; rfl
  · rintro s b rest rfl; rfl

theorem construct_charge (sym : Sym) (fermi : Bool) (indices : List Index) (charge : Option Charge)
    (blocks : List (Sector × Blk R)) (oddpos : List (Int × Bool)) (a : Arr R)
    (h : construct sym fermi indices charge blocks oddpos = .ok a) :
    a.charge = (match charge, blocks with
      | some c, _ => c
      | none, (s, _) :: _ => sectorCharge sym (indices.map Index.dual) s
      | none, [] => sym.zero)
    ∧ a.sym = sym ∧ a.fermi = fermi ∧ a.indices = indices ∧ a.blocks = adict blocks
    ∧ a.phases = [] ∧ a.oddpos = oddpos := by
  rw [construct_spec] at h
  split at h
  · cases h
  · injection h with h; subst h
    refine ⟨?_, rfl, rfl, rfl, rfl, rfl, rfl⟩
    cases charge with
    | some c => rfl
    | none => cases blocks with
      | nil => rfl
      | cons p ps => obtain ⟨s, b⟩ := p; rfl

/-- the first stored sector of the result is the first sector given, so the default charge is
    also the signed combination of the result's own first stored sector -/
theorem construct_first_sector (blocks : List (Sector × Blk R)) :
    ((adict blocks).head?).map (·.1) = (blocks.head?).map (·.1) := adict_head_key blocks

theorem construct_error_iff (sym : Sym) (fermi : Bool) (indices : List Index)
    (charge : Option Charge) (blocks : List (Sector × Blk R)) (oddpos : List (Int × Bool)) :
    ((∃ e, construct sym fermi indices charge blocks oddpos = .error e) ↔
      (fermi = true ∧ sym.parity (resolvedCharge sym indices charge blocks) = true ∧ oddpos = []))
    ∧ ∀ e, construct sym fermi indices charge blocks oddpos = .error e → e = Err.value := by
  rw [construct_spec]
  split
  · rename_i h
    simp only [Bool.and_eq_true, List.isEmpty_iff] at h
    exact ⟨⟨fun _ => ⟨h.1.1, h.1.2, h.2⟩, fun _ => ⟨_, rfl⟩⟩, fun e he => (Except.error.inj he).symm⟩
  · rename_i h
    simp only [Bool.and_eq_true, List.isEmpty_iff] at h
    exact ⟨⟨fun ⟨e, he⟩ => (by cases he), fun ⟨h1, h2, h3⟩ => absurd ⟨⟨h1, h2⟩, h3⟩ h⟩,
      fun e he => by cases he⟩

/-- `from_blocks` is the direct constructor applied to the inferred indices, with the charge
    defaulted to the identity (NOT to the first sector's charge, unlike `__init__`) -/
theorem fromBlocks_eq_construct (sym : Sym) (fermi : Bool) (blocks : List (Sector × Blk R))
    (duals : List Bool) (charge : Option Charge) (oddpos : List (Int × Bool)) :
    fromBlocks sym fermi blocks duals charge oddpos =
      match inferIndices blocks duals with
      | .error e => .error e
      | .ok indices => construct sym fermi indices (some (charge.getD sym.zero)) blocks oddpos := by
  cases blocks with
  | nil => rfl
  | cons sb rest =>
    obtain ⟨s0, b0⟩ := sb
    unfold fromBlocks inferIndices
    simp only [bind, Except.bind, pure, Except.pure]
    rw [forIn_except_eq_foldlM _ _ _
      (fun maps (sb : Sector × Blk R) => (sb.1.zip sb.2.shape).zipIdx.foldlM inferStep maps)]
    · rw [inferEntries, foldlM_flatMap_except]
      cases List.foldlM (fun maps (sb : Sector × Blk R) =>
          (sb.1.zip sb.2.shape).zipIdx.foldlM inferStep maps) (List.replicate s0.length [])
          ((s0, b0) :: rest) with
      | error e => rfl
      | ok maps =>
        dsimp only
        split <;> rfl
    · intro sb maps
      rw [forIn_except_eq_foldlM _ _ _ inferStep]
      · cases List.foldlM inferStep maps (sb.1.zip sb.2.shape).zipIdx <;> rfl
      · intro e m
        simp only [inferStep]
        cases alookup (m.getD e.2 []) e.1.1 with
        | none => rfl
        | some d0 =>
          dsimp only
          split <;> rfl

/-- with no blocks `from_blocks` raises (`StopIteration` in Python) -/
theorem fromBlocks_nil (sym : Sym) (fermi : Bool) (duals : List Bool) (charge : Option Charge)
    (oddpos : List (Int × Bool)) :
    fromBlocks sym fermi ([] : List (Sector × Blk R)) duals charge oddpos = .error Err.other := rfl

/-- the inferred indices: `ValueError` iff two blocks disagree on the size of a charge on an
    axis (`¬ SizesAgree`) or `duals` has not one entry per axis; otherwise index `i` is a plain
    index of direction `duals[i]` whose chargemap is the strictly sorted list of exactly the
    `(charge, size)` pairs found at position `i` of the block keys / block shapes -/
theorem fromBlocks_indices (s0 : Sector) (b0 : Blk R) (rest : List (Sector × Blk R))
    (duals : List Bool) :
    let blocks := (s0, b0) :: rest
    (¬ SizesAgree blocks s0.length ∧ inferIndices blocks duals = .error Err.value)
    ∨ (SizesAgree blocks s0.length ∧ duals.length ≠ s0.length
        ∧ inferIndices blocks duals = .error Err.value)
    ∨ (SizesAgree blocks s0.length ∧ duals.length = s0.length ∧
        ∃ idx, inferIndices blocks duals = .ok idx ∧ idx.length = s0.length ∧
          ∀ i, i < s0.length → ∃ ix, idx[i]? = some ix ∧ some ix.dual = duals[i]? ∧ ix.sub = none
            ∧ (∀ c d, (c, d) ∈ ix.cm ↔ ∃ sb ∈ blocks, sb.1[i]? = some c ∧ sb.2.shape[i]? = some d)
            ∧ (ix.cm.map (·.1)).Pairwise (fun a b => Charge.lt a b = true)) :=
  inferIndices_spec s0 b0 rest duals

theorem fromBlocks_error_iff (sym : Sym) (fermi : Bool) (s0 : Sector) (b0 : Blk R)
    (rest : List (Sector × Blk R)) (duals : List Bool) (charge : Option Charge)
    (oddpos : List (Int × Bool)) :
    let blocks := (s0, b0) :: rest
    ((∃ e, fromBlocks sym fermi blocks duals charge oddpos = .error e) ↔
      (¬ SizesAgree blocks s0.length ∨ duals.length ≠ s0.length
        ∨ (fermi = true ∧ sym.parity (charge.getD sym.zero) = true ∧ oddpos = [])))
    ∧ ∀ e, fromBlocks sym fermi blocks duals charge oddpos = .error e → e = Err.value := by
  intro blocks
  rw [fromBlocks_eq_construct]
  rcases inferIndices_spec s0 b0 rest duals with ⟨h1, he⟩ | ⟨h1, h2, he⟩ | ⟨h1, h2, idx, hok, _⟩
  · simp only [blocks, he]
    exact ⟨⟨fun _ => Or.inl h1, fun _ => ⟨_, rfl⟩⟩, fun e h => (Except.error.inj h).symm⟩
  · simp only [blocks, he]
    exact ⟨⟨fun _ => Or.inr (Or.inl h2), fun _ => ⟨_, rfl⟩⟩, fun e h => (Except.error.inj h).symm⟩
  · simp only [blocks, hok]
    have := construct_error_iff sym fermi idx (some (charge.getD sym.zero)) ((s0, b0) :: rest) oddpos
    refine ⟨this.1.trans ⟨fun h => Or.inr (Or.inr h), ?_⟩, this.2⟩
    rintro (h | h | h)
    · exact absurd h1 h
    · exact absurd h2 h
    · exact h

/-- constructors agree: `from_blocks` and the direct constructor given the inferred indices and
    the identity-defaulted charge return the same array or the same error -/
theorem fromBlocks_agrees_with_construct (sym : Sym) (fermi : Bool) (blocks : List (Sector × Blk R))
    (duals : List Bool) (charge : Option Charge) (oddpos : List (Int × Bool)) (indices : List Index)
    (h : inferIndices blocks duals = .ok indices) :
    fromBlocks sym fermi blocks duals charge oddpos
      = construct sym fermi indices (some (charge.getD sym.zero)) blocks oddpos := by
  rw [fromBlocks_eq_construct, h]

/-- constructors agree on the same tensor: for an array with at least one block and plain,
    strictly sorted index tables all of whose charges are used, whose blocks have the prescribed
    shapes and full-length keys, `from_blocks(blocks, duals, charge)` infers the array's own
    indices and equals the direct constructor on them (same result or same error) -/
theorem fromBlocks_of_array (a : Arr R) (hne : a.blocks ≠ [])
    (hlen : ∀ sb ∈ a.blocks, sb.1.length = a.ndim)
    (hshape : ∀ sb ∈ a.blocks, blockShape? a.indices sb.1 = some sb.2.shape)
    (hs : ∀ ix ∈ a.indices, (ix.cm.map (·.1)).Pairwise (fun a b => Charge.lt a b = true))
    (hplain : ∀ ix ∈ a.indices, ix.sub = none)
    (hused : ∀ i, i < a.ndim →
      ∀ cd ∈ (a.indices.getD i default).cm, ∃ sb ∈ a.blocks, sb.1[i]? = some cd.1) :
    inferIndices a.blocks a.duals = .ok a.indices
    ∧ fromBlocks a.sym a.fermi a.blocks a.duals (some a.charge) a.oddpos
        = construct a.sym a.fermi a.indices (some a.charge) a.blocks a.oddpos := by
  have hused' : ∀ (i : Nat) (ix : Index), a.indices[i]? = some ix →
      ∀ cd ∈ ix.cm, ∃ sb ∈ a.blocks, sb.1[i]? = some cd.1 := by
    intro i ix hix cd hcd
    have hi : i < a.ndim := by
      by_contra hn; rw [List.getElem?_eq_none (by simpa [ndim] using hn)] at hix; cases hix
    refine hused i hi cd ?_
    rw [List.getD_eq_getElem?_getD, hix]; exact hcd
  have h := inferIndices_of_array a hne hlen hshape hs hplain hused'
  exact ⟨h, by rw [fromBlocks_eq_construct, h]; rfl⟩

/-- `from_fill_fn`, when it returns: given indices, identity-defaulted charge, one block
    `fill sector shape` per valid sector in `gen_valid_sectors` order (when it raises is not
    stated) -/
theorem fromFillFn_blocks (sym : Sym) (fermi : Bool) (indices : List Index) (charge : Option Charge)
    (fill : Sector → List Nat → Blk R) (oddpos : List (Int × Bool)) (b : Arr R)
    (h : fromFillFn sym fermi indices charge fill oddpos = .ok b) :
    b.sym = sym ∧ b.fermi = fermi ∧ b.indices = indices ∧ b.charge = charge.getD sym.zero
    ∧ b.phases = [] ∧ b.oddpos = oddpos
    ∧ List.Forall₂ (fun s (sb : Sector × Blk R) =>
        sb.1 = s ∧ ∃ shp, blockShape? indices s = some shp ∧ sb.2 = fill s shp)
        (genValidSectors
          ({ sym := sym, fermi := fermi, indices := indices, charge := charge.getD sym.zero,
             blocks := [], phases := [], oddpos := oddpos } : Arr R))
        b.blocks := by
  obtain ⟨h1, h2, h3, h4, h5, h6, h7, _⟩ := fromFillFn_spec sym fermi indices charge fill oddpos b h
  exact ⟨h1, h2, h3, h4, h5, h6, h7⟩

/-- … and the direct constructor given those blocks returns the same array, provided the generated
    sectors are distinct (`hnd`: the constructor passes the blocks through `dict`) -/
theorem fromFillFn_agrees_with_construct (sym : Sym) (fermi : Bool) (indices : List Index)
    (charge : Option Charge) (fill : Sector → List Nat → Blk R) (oddpos : List (Int × Bool))
    (b : Arr R) (h : fromFillFn sym fermi indices charge fill oddpos = .ok b)
    (hnd : b.sectors.Nodup) :
    construct sym fermi indices (some (charge.getD sym.zero)) b.blocks oddpos = .ok b := by
  obtain ⟨h1, h2, h3, h4, h5, h6, _, h8⟩ := fromFillFn_spec sym fermi indices charge fill oddpos b h
  rw [construct_eq, if_neg (by simpa [resolvedCharge] using h8), adict_of_nodup _ hnd]
  cases b
  simp only at h1 h2 h3 h4 h5 h6
  subst h1 h2 h3 h4 h5 h6
  rfl

/-- `from_dense` raises `IndexError` when `index_maps`/`duals` do not have one entry per axis,
    `KeyError` when some axis has not one label per position; otherwise it is the direct
    constructor applied to the index tables `fdIndices` (= `Index.plain` of the group sizes, i.e.
    `sortCm` of them) and the blocks `fdBlocks`, with the charge defaulted to the identity -/
theorem fromDense_eq_construct [Zero R] (sym : Sym) (fermi : Bool) (dense : Blk R)
    (maps : List (List Charge)) (duals : List Bool) (charge : Option Charge)
    (oddpos : List (Int × Bool)) :
    fromDense sym fermi dense maps duals charge oddpos =
      if maps.length ≠ dense.shape.length ∨ duals.length ≠ dense.shape.length then .error Err.index
      else if (List.zipWith (fun (m : List Charge) d => m.length != d) maps dense.shape).any id = true
      then .error Err.key
      else construct sym fermi (fdIndices maps duals) (some (charge.getD sym.zero))
        (fdBlocks sym dense maps duals (charge.getD sym.zero)) oddpos := by
  by_cases h1 : maps.length ≠ dense.shape.length ∨ duals.length ≠ dense.shape.length
  · rw [if_pos h1, fromDense_error_index _ _ _ _ _ _ _ h1]
  · rw [if_neg h1]
    have h1' : maps.length = dense.shape.length ∧ duals.length = dense.shape.length := by
      constructor <;> (by_contra h; exact h1 (by simp [h]))
    by_cases h2 : (List.zipWith (fun (m : List Charge) d => m.length != d) maps dense.shape).any id = true
    · rw [if_pos h2, fromDense_error_key _ _ _ _ _ _ _ h1'.1 h1'.2 h2]
    · rw [if_neg h2, fromDense_eq _ _ _ _ _ _ _ h1'.1 h1'.2 (by simpa using h2)]

/-- the index tables: axis `i` is the plain index of direction `duals[i]` whose chargemap is the
    charge-sorted list of (charge, number of positions labelled with it) -/
theorem fromDense_indices (maps : List (List Charge)) (duals : List Bool) :
    fdIndices maps duals = List.zipWith (fun m d => Index.mk (Index.sortCm (gsizes m)) d none) maps duals
    ∧ ∀ m c d, (c, d) ∈ gsizes m ↔ ∃ l, alookup (chargeGroups m) c = some l ∧ l.length = d :=
  ⟨rfl, fun _ _ _ => mem_gsizes⟩

theorem chargeGroups_spec (labels : List Charge) :
    ((chargeGroups labels).map (·.1)).Nodup
    ∧ (∀ c l, alookup (chargeGroups labels) c = some l →
        l.Pairwise (· < ·) ∧ l ≠ [] ∧ ∀ i, i ∈ l ↔ labels[i]? = some c)
    ∧ sumN ((chargeGroups labels).map (fun cl => cl.2.length)) = labels.length := by
  have inv := chargeGroups_inv labels
  refine ⟨inv.nodup, fun c l hl => ⟨inv.sorted c l hl, inv.nonempty c l hl, fun i => ⟨fun hi =>
    (inv.label c l hl i hi).1, fun hi => ?_⟩⟩, inv.total⟩
  have hlt : i < labels.length := by
    by_contra hn; rw [List.getElem?_eq_none (by omega)] at hi; cases hi
  obtain ⟨l', hl', hm⟩ := inv.cover i c hlt hi
  rw [hl] at hl'; injection hl' with hl'; subst hl'; exact hm

/-- the stored blocks: exactly the charge-conserving combinations of the charges present on the
    axes (every dropped combination is non-conserving), in `itertools.product` order, each block
    being the sub-array of the dense array at the positions of its charges -/
theorem fromDense_blocks [Zero R] (sym : Sym) (dense : Blk R) (maps : List (List Charge))
    (duals : List Bool) (c : Charge) :
    (fdBlocks sym dense maps duals c).map (·.1)
        = (fdSectors maps).filter (fun s => sectorCharge sym duals s == c)
    ∧ ((fdBlocks sym dense maps duals c).map (·.1)).Nodup
    ∧ (∀ s b, (s, b) ∈ fdBlocks sym dense maps duals c → b = fdBlock dense maps s)
    ∧ (∀ s, s ∈ fdSectors maps ↔
        List.Forall₂ (fun x (m : List Charge) => x ∈ (chargeGroups m).map (·.1)) s maps)
    ∧ ∀ s i, inBox ((fdPos maps s).map List.length) i = true →
        (fdBlock dense maps s).get i
          = dense.get (List.zipWith (fun (p : List Nat) k => p.getD k 0) (fdPos maps s) i) := by
  refine ⟨fdBlocks_keys sym dense maps duals c, fdBlocks_nodup sym dense maps duals c, ?_, ?_, ?_⟩
  · intro s b hm
    simp only [fdBlocks, List.mem_filterMap] at hm
    obtain ⟨s', _, hs'⟩ := hm
    split at hs'
    · simp only [Option.some.injEq, Prod.mk.injEq] at hs'
      obtain ⟨rfl, rfl⟩ := hs'; rfl
    · cases hs'
  · intro s
    simp only [fdSectors, mem_cartesian, List.map_map, List.forall₂_map_right_iff, Function.comp]
  · intro s i hi
    exact ofFn_get _ _ hi

/-- **dense → blocks → dense.**  For a dense array `dense` with no axis of size 0 (`hne`),
    per-axis charge labels `maps` (any order, interleaved), directions `duals` and total charge
    `charge`, whenever `from_dense` returns: `to_dense(from_dense(…))`
    has the shape of `dense`, and its entry at position `p` is the entry of `dense` at the
    ORIGINAL position `origAll maps p` if the labels there conserve the charge, and zero
    otherwise — the projection onto the charge-conserving sectors, axes reordered by charge. -/
theorem toDense_fromDense [Zero R] [Neg R] (sym : Sym) (fermi : Bool) (dense : Blk R)
    (maps : List (List Charge)) (duals : List Bool) (charge : Option Charge)
    (oddpos : List (Int × Bool))
    (hm : maps.length = dense.shape.length) (hd : duals.length = dense.shape.length)
    (hl : (List.zipWith (fun (m : List Charge) d => m.length != d) maps dense.shape).any id = false)
    (hne : ∀ m ∈ maps, m ≠ [])
    (a : Arr R) (ha : fromDense sym fermi dense maps duals charge oddpos = .ok a) :
    ∃ d', toDenseA a = .ok d' ∧ d'.shape = dense.shape ∧
      ∀ p, inBox dense.shape p = true →
        d'.get p =
          if sectorCharge sym duals (labelsAt maps (origAll maps p)) == charge.getD sym.zero
          then dense.get (origAll maps p) else 0 := by
  rw [fromDense_eq sym fermi dense maps duals charge oddpos hm hd hl, construct_eq] at ha
  split at ha
  · cases ha
  injection ha with ha
  have hidx : a.indices = fdIndices maps duals := by rw [← ha]
  have hph : a.phases = [] := by rw [← ha]
  have hbl : a.blocks = fdBlocks sym dense maps duals (charge.getD sym.zero) := by
    rw [← ha]; exact adict_of_nodup _ (fdBlocks_nodup sym dense maps duals _)
  have hdm : duals.length = maps.length := by omega
  have hshape : a.shape = dense.shape := by
    rw [Arr.shape, hidx, shape_fdIndices maps duals hdm, labels_length_of_guard hm hl]
  obtain ⟨d', hd', hs', hg'⟩ := Arr.toDenseA_get a (by rw [hidx]; exact noEmpty_fdIndices maps duals hne)
  refine ⟨d', hd', hs'.trans hshape, fun p hp => ?_⟩
  obtain ⟨sec, off, hloc, hget⟩ := hg' p (by rw [hshape]; exact hp)
  rw [hidx] at hloc
  obtain ⟨h1, h2, h3, h4⟩ := fd_locateAll maps duals p sec off hdm
    (by rw [inBox_length hp]; omega) hloc
  rw [hget, Arr.elem_of_phases_nil hph, hbl, fdBlocks,
    alookup_filterMap_keys (fdSectors maps)
      (fun s => Arr.sectorCharge sym duals s == charge.getD sym.zero)
      (fun s => fdBlock dense maps s) sec (show sec ∈ fdSectors maps from mem_cartesian.mpr h2), ← h1]
  by_cases hc : (Arr.sectorCharge sym duals sec == charge.getD sym.zero) = true
  · simp only [hc, if_true]
    rw [fdBlock, ofFn_get _ _ h3, h4]
  · simp only [hc, Bool.false_eq_true, if_false]

/-- the reordering `origPos labels` of one axis is the stable sort by charge: it permutes the
    positions `0 … n-1` (into range, injective), the labels read through it are non-decreasing,
    and positions with equal labels keep their original relative order -/
theorem origPos_stable_sort (labels : List Charge) :
    (∀ q, q < labels.length → origPos labels q < labels.length)
    ∧ (∀ q q', q < labels.length → q' < labels.length → origPos labels q = origPos labels q' → q = q')
    ∧ ∀ q q', q < q' → q' < labels.length →
        Charge.lt (labels.getD (origPos labels q) (0, 0)) (labels.getD (origPos labels q') (0, 0)) = true
        ∨ (labels.getD (origPos labels q) (0, 0) = labels.getD (origPos labels q') (0, 0)
            ∧ origPos labels q < origPos labels q') :=
  ⟨fun _ hq => origPos_lt labels hq, fun _ _ hq hq' h => origPos_injective labels hq hq' h,
    fun _ _ hq hq' => origPos_sorted_stable labels hq hq'⟩

theorem origAll_eq (maps : List (List Charge)) (p : List Nat) :
    origAll maps p = List.zipWith origPos maps p
    ∧ labelsAt maps (origAll maps p)
        = List.zipWith (fun (m : List Charge) q => m.getD (origPos m q) (0, 0)) maps p := by
  refine ⟨rfl, ?_⟩
  induction maps generalizing p with
  | nil => rfl
  | cons m maps ih =>
    cases p with
    | nil => rfl
    | cons q p => simp only [origAll, labelsAt, List.zipWith_cons_cons, List.cons.injEq, true_and] at ih ⊢; exact ih p

/-- **blocks → dense → blocks.**  Take an array without pending signs whose index tables are
    strictly sorted with positive sizes and non-empty, and whose stored sectors conserve the charge.
    Converting it to dense and back with the labels of the sorted layout (`labelsOfIdx`: charge
    `c` repeated `size c` times, charges ascending), the same directions and the same charge gives
    an array with the same charge tables, directions, charge and class data whose value view
    agrees with the original on every sector of the index tables and every offset of the block
    box.  (The result stores every conserving sector, i.e. it also materialises the zero blocks
    the original leaves out; so equality is of value views, not of block lists.) -/
theorem fromDense_toDense [Zero R] [Neg R] (a : Arr R) (hph : a.phases = [])
    (hs : ∀ ix ∈ a.indices, (ix.cm.map (·.1)).Pairwise (fun a b => Charge.lt a b = true))
    (hpos : ∀ ix ∈ a.indices, ∀ cd ∈ ix.cm, 0 < cd.2)
    (hne : a.indices.any (fun ix => ix.cm.isEmpty) = false)
    (hvalid : ∀ s ∈ a.sectors, a.isValidSector s = true)
    (d : Blk R) (hd : toDenseA a = .ok d) (b : Arr R)
    (hb : fromDense a.sym a.fermi d (labelsOfIdx a.indices) a.duals (some a.charge) a.oddpos = .ok b) :
    b.indices = a.indices.map (fun ix => Index.mk ix.cm ix.dual none)
    ∧ b.charge = a.charge ∧ b.sym = a.sym ∧ b.fermi = a.fermi ∧ b.phases = [] ∧ b.oddpos = a.oddpos
    ∧ (∀ s, s ∈ b.sectors ↔ (s ∈ fdSectors (labelsOfIdx a.indices) ∧ a.isValidSector s = true))
    ∧ ∀ s shp off, blockShape? a.indices s = some shp → inBox shp off = true →
        b.elem s off = a.elem s off := by
  have hsh0 := toDenseA_shape hd
  have hlenlab : (labelsOfIdx a.indices).map List.length = d.shape := by
    rw [hsh0, Arr.shape, labelsOfIdx, List.map_map]
    apply List.map_congr_left
    intro ix _
    simp [Function.comp, length_labelsOf, Index.sizeTotal]
  have hm : (labelsOfIdx a.indices).length = d.shape.length := by
    rw [← hlenlab]; simp
  have hdl : a.duals.length = d.shape.length := by
    rw [hsh0]; simp [Arr.duals, Arr.shape]
  have hguard : (List.zipWith (fun (m : List Charge) d => m.length != d) (labelsOfIdx a.indices)
      d.shape).any id = false := by
    rw [← hlenlab, List.any_eq_false]
    intro x hx
    simp only [List.zipWith_map_right, List.zipWith_self, List.mem_map] at hx
    obtain ⟨m, _, rfl⟩ := hx
    simp
  rw [fromDense_eq a.sym a.fermi d _ a.duals (some a.charge) a.oddpos hm hdl hguard,
    construct_eq] at hb
  split at hb
  · cases hb
  injection hb with hb
  have hbl : b.blocks = fdBlocks a.sym d (labelsOfIdx a.indices) a.duals a.charge := by
    rw [← hb]; exact adict_of_nodup _ (fdBlocks_nodup a.sym d _ a.duals _)
  have hbph : b.phases = [] := by rw [← hb]
  have hidx : fdIndices (labelsOfIdx a.indices) a.duals
      = a.indices.map (fun ix => Index.mk ix.cm ix.dual none) := by
    simp only [fdIndices, labelsOfIdx, Arr.duals, List.zipWith_map_left, List.zipWith_map_right,
      List.zipWith_self]
    apply List.map_congr_left
    intro ix hix
    simp only [Index.plain, sortCm_gsizes_labelsOf (hs ix hix) (hpos ix hix)]
  refine ⟨by rw [← hb]; exact hidx, by rw [← hb]; rfl, by rw [← hb], by rw [← hb], hbph,
    by rw [← hb], fun s => ?_, fun s shp off hshp hoff => ?_⟩
  · rw [Arr.sectors, hbl, fdBlocks_keys, List.mem_filter]; rfl
  · obtain ⟨h1, h2, h3, h4⟩ := fd_roundtrip_locate a.indices hs hpos s shp off hshp hoff
    rw [Arr.elem_of_phases_nil hbph, hbl, fdBlocks,
      alookup_filterMap_keys (fdSectors (labelsOfIdx a.indices))
        (fun s => Arr.sectorCharge a.sym a.duals s == a.charge)
        (fun s => fdBlock d (labelsOfIdx a.indices) s) s h1]
    by_cases hc : (Arr.sectorCharge a.sym a.duals s == a.charge) = true
    · simp only [hc, if_true]
      rw [fdBlock, ofFn_get _ _ (by rw [h2]; exact hoff)]
      exact toDenseA_val hd h3 h4
    · simp only [hc, Bool.false_eq_true, if_false]
      rw [Arr.elem_of_phases_nil hph]
      cases hbs : alookup a.blocks s with
      | none => rfl
      | some blk =>
        have := hvalid s (alookup_isSome_iff.mp (by rw [hbs]; rfl))
        exact absurd this hc

/-- the same (indices, charge, value view) for a valid (`Arr.validB`, property C01) abelian array
    with non-empty index tables -/
theorem fromDense_toDense_of_valid [Zero R] [Neg R] (a : Arr R) (hv : a.validB = true)
    (hab : a.fermi = false) (hne : a.indices.any (fun ix => ix.cm.isEmpty) = false)
    (d : Blk R) (hd : toDenseA a = .ok d) (b : Arr R)
    (hb : fromDense a.sym a.fermi d (labelsOfIdx a.indices) a.duals (some a.charge) a.oddpos = .ok b) :
    b.indices = a.indices.map (fun ix => Index.mk ix.cm ix.dual none) ∧ b.charge = a.charge
    ∧ ∀ s shp off, blockShape? a.indices s = some shp → inBox shp off = true →
        b.elem s off = a.elem s off := by
  obtain ⟨r1, r2, _, _, _, _, _, r8⟩ :=
    fromDense_toDense a (phases_nil_of_validB hv hab) (validB_keys_sorted hv) (validB_pos a hv) hne
      (validB_isValidSector hv) d hd b hb
  exact ⟨r1, r2, r8⟩

theorem labelsOf_spec (cm : List (Charge × Nat)) (q : Nat) :
    (labelsOf cm)[q]? = (locate cm q).map (·.1) ∧ (labelsOf cm).length = sumN (cm.map (·.2)) :=
  ⟨labelsOf_getElem? cm q, length_labelsOf cm⟩

/-! ## the hypotheses are satisfiable: concrete values over `Int` -/

section Examples
namespace Ex
def ix (d : Bool) : Index := .mk [((0, 0), 1), ((1, 0), 2)] d none
def blocks : List (Sector × Blk Int) :=
  [([(1, 0), (1, 0)], ⟨[2, 2], #[1, 2, 3, 4]⟩), ([(0, 0), (0, 0)], ⟨[1, 1], #[5]⟩)]
/-- two blocks that disagree on the size of charge 1 on axis 0 -/
def badBlocks : List (Sector × Blk Int) :=
  [([(1, 0), (1, 0)], ⟨[2, 2], #[1, 2, 3, 4]⟩), ([(1, 0), (0, 0)], ⟨[3, 1], #[5, 6, 7]⟩)]
/-- a dense 3×3 matrix with interleaved labels 1,0,1 on both axes -/
def dense : Blk Int := ⟨[3, 3], #[1, 2, 3, 4, 5, 6, 7, 8, 9]⟩
def maps : List (List Charge) := [[(1, 0), (0, 0), (1, 0)], [(1, 0), (0, 0), (1, 0)]]

def cms (r : Except Err (List Index)) : Option (List (List (Charge × Nat) × Bool)) :=
  match r with | .ok l => some (l.map (fun i => (i.cm, i.dual))) | .error _ => none
def errOf {α : Type} (r : Except Err α) : Option Err :=
  match r with | .ok _ => none | .error e => some e
def dataOf (r : Except Err (Blk Int)) : Option (List Nat × List Int) :=
  match r with | .ok b => some (b.shape, b.data.toList) | .error _ => none
def chargeOf (r : Except Err (Arr Int)) : Option Charge :=
  match r with | .ok a => some a.charge | .error _ => none
end Ex
open Ex

example : errOf (classSymmetry (some .Z2) (some .U1)) = some Err.value
    ∧ errOf (classSymmetry none none) = some Err.value
    ∧ errOf (classSymmetry (some .Z2) none) = none := by decide

-- charge default: first sector's signed charge / identity; fermionic odd without and with label
example : chargeOf (construct .U1 false [ix false, ix false] none blocks) = some (2, 0) := by decide
example : chargeOf (construct .U1 false [ix false, ix true] none blocks) = some (0, 0) := by decide
example : chargeOf (construct .U1 false [ix false, ix true] none ([] : List (Sector × Blk Int)))
    = some (0, 0) := by decide
example : errOf (construct .U1 true [ix false] none [([(1, 0)], (⟨[2], #[1, 2]⟩ : Blk Int))])
    = some Err.value := by decide
example : errOf (construct .U1 true [ix false] none [([(1, 0)], (⟨[2], #[1, 2]⟩ : Blk Int))]
    [(0, false)]) = none := by decide

-- inferred indices are sorted although the blocks list charge 1 first
example : cms (inferIndices blocks [false, true])
    = some [([((0, 0), 1), ((1, 0), 2)], false), ([((0, 0), 1), ((1, 0), 2)], true)] := by decide
example : errOf (inferIndices badBlocks [false, true]) = some Err.value := by decide
example : errOf (inferIndices blocks [false]) = some Err.value := by decide
example : errOf (fromBlocks .U1 false ([] : List (Sector × Blk Int)) [] none) = some Err.other := by
  decide
-- `from_blocks` defaults the charge to the identity, the constructor to the first sector's
example : chargeOf (fromBlocks .U1 false blocks [false, false] none) = some (0, 0)
    ∧ chargeOf (construct .U1 false [ix false, ix false] none blocks) = some (2, 0) := by decide

-- dense → blocks → dense: rows/columns reordered to (1,0,2), non-conserving entries zeroed
example : origAll maps [0, 0] = [1, 1] ∧ origAll maps [1, 2] = [0, 2] ∧ origAll maps [2, 1] = [2, 0] := by
  decide
example : dataOf (fromDense .U1 false dense maps [false, true] none >>= toDenseA)
    = some ([3, 3], [5, 0, 0, 0, 1, 3, 0, 7, 9]) := by decide
example : dataOf (fromDense .U1 false dense maps [false, true] (some (1, 0)) >>= toDenseA)
    = some ([3, 3], [0, 0, 0, 2, 0, 0, 8, 0, 0]) := by decide
example : errOf (fromDense .U1 false dense maps [false] none) = some Err.index
    ∧ errOf (fromDense .U1 false dense [[(1, 0)], [(0, 0)]] [false, true] none) = some Err.key := by
  decide
example : ∃ a, fromDense .U1 false dense maps [false, true] none = .ok a :=
  ⟨_, rfl⟩
example := toDense_fromDense (R := Int) .U1 false dense maps [false, true] none [] rfl rfl
  (by decide) (by decide)

-- blocks → dense → blocks on a valid array with a sector left out
namespace Ex
def x : Arr Int :=
  { sym := .U1, fermi := false, indices := [ix false, ix true], charge := (0, 0),
    blocks := [([(1, 0), (1, 0)], ⟨[2, 2], #[1, 2, 3, 4]⟩)] }
def secs (r : Except Err (Arr Int)) : Option (List Sector) :=
  match r with | .ok a => some a.sectors | .error _ => none
end Ex
example : x.validB = true ∧ labelsOfIdx x.indices = [[(0, 0), (1, 0), (1, 0)], [(0, 0), (1, 0), (1, 0)]] := by
  decide
example : dataOf (toDenseA x) = some ([3, 3], [0, 0, 0, 0, 1, 2, 0, 3, 4]) := by decide
example : secs (toDenseA x >>= fun d => fromDense x.sym x.fermi d (labelsOfIdx x.indices) x.duals
    (some x.charge) x.oddpos) = some [[(0, 0), (0, 0)], [(1, 0), (1, 0)]] := by decide
example := fromDense_toDense_of_valid (R := Int) x (by decide) rfl (by decide)

-- constructors agree on an array using all its charges
example := fromBlocks_of_array (R := Int) { x with blocks := blocks } (by decide) (by decide)
  (by decide) (validB_keys_sorted (a := x) (by decide)) (by decide) (by decide)
example : ∃ b, fromFillFn .U1 false [ix false, ix true] none
    (fun _ shp => (Blk.ofFn shp (fun i => (ravel shp i : Int)))) = .ok b ∧ b.sectors.Nodup :=
  ⟨_, rfl, by decide⟩

end Examples

end SymmModel.C16
