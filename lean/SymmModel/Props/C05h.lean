/-
  Property C05, part h — BOTH STRATEGIES AGREE, any number of groups.

  * `fuseInsert_eq_fuseConcat_multi`: for a valid array and any admissible non-empty list of groups,
    `fuseCore a groups .concat = fuseCore a groups .insert` — both succeed and return the SAME array:
    same indices, same dict (same sectors in the same order — first appearance of the new sector —,
    equal blocks).  `insert_eq_concat_blocks` is the block-by-block form (for every sector both
    look-ups are `none`, or both `some` with equal blocks).
    Route (`Proofs/Fuse8*.lean`): `nest_get` instantiated for the levels of the groups (`lvOk_of`,
    leaf shapes from `pieceShape_getD` / `zeroShape_ok`); an address of the fused block chooses the
    sub-sectors of a stored sector exactly when it lies in the region the insert strategy writes that
    sector to, and the in-piece address is the address relative to the region (`region_link`, from
    `locatePiece_splitOffset`, `splitOffset_startOf`, `startOf_splitOffset`); `InsInv.hit` / `miss`,
    `blk_ext`; the dict orders agree (`insFold_keys`, `grpFold_keys`).
    `groups ≠ []` is needed: with no groups the concat recursion starts with no fuel and raises,
    the insert strategy returns the array with its blocks rebuilt (`fuseA` never calls it so).
  * consequences: `fuseA_concat_eq_insert` (the public abelian `fuse`, empty groups and
    `expand_empty` included), `fuseF_concat_eq_insert` (the fermionic `fuse`), and every statement of
    parts a–g about `mode = insert` holds verbatim for `mode = concat`: `fuse_elem_concat` says that
    `fuseCore a groups .concat` returns the array `x` that the insert strategy returns, which is the
    `x` of `fuse_elem` (part b); it does not restate the element map.
-/
import SymmModel.Proofs.Fuse8Order
import SymmModel.Props.C05All5

namespace SymmModel.C05
open SymmModel FuseP

variable {R : Type} [Zero R]

/-- block by block: for every sector both look-ups fail, or both succeed with equal blocks -/
theorem insert_eq_concat_blocks (a : Arr R) (groups : List (List Nat)) (hv : a.validB = true)
    (hg : groupsOkB groups a.ndim = true) (ns : Sector) :
    (alookup (fusedArrM a groups).blocks ns = none ∧ alookup (fusedArrCM a groups).blocks ns = none)
    ∨ ∃ B C, alookup (fusedArrM a groups).blocks ns = some B ∧ alookup (fusedArrCM a groups).blocks ns = some C
        ∧ B = C :=
  insert_eq_concat_multi (validArr_of_validB hv) (groupsOk_iff.1 hg).adm ns

/-- **both strategies agree** (any number of groups): the same array, dict order included -/
theorem fuseInsert_eq_fuseConcat_multi (a : Arr R) (groups : List (List Nat)) (hv : a.validB = true)
    (hg : groupsOkB groups a.ndim = true) (hne : groups ≠ []) :
    fuseCore a groups .concat = fuseCore a groups .insert
    ∧ fuseCore a groups .insert = .ok (fusedArrM a groups) ∧ fusedArrCM a groups = fusedArrM a groups := by
  have hva := validArr_of_validB hv
  have hok := groupsOk_iff.1 hg
  have heq : fusedArrCM a groups = fusedArrM a groups := by
    unfold fusedArrCM fusedArrM
    rw [concatBlocksM_eq hva hok.adm]
  refine ⟨?_, fuseCore_multi_eq hva hok.adm, heq⟩
  rw [(fuseConcat_multi a groups hv hg hne).1, fuseCore_multi_eq hva hok.adm, heq]

/-- the public abelian `fuse`: the mode does not matter (empty groups, `expand_empty` included) -/
theorem fuseA_concat_eq_insert (a : Arr R) (groups : List (List Nat)) (e : Bool) (hv : a.validB = true)
    (hg : groupsOkB (groups.filter (fun g => !g.isEmpty)) a.ndim = true) :
    fuseA a groups .concat e = fuseA a groups .insert e := by
  unfold fuseA
  by_cases hemp : (groups.filter (fun g => !g.isEmpty)).isEmpty = true
  · simp only [hemp, if_true]
  · have hne : groups.filter (fun g => !g.isEmpty) ≠ [] := by
      intro h; rw [h] at hemp; exact hemp rfl
    simp only [hemp, Bool.false_eq_true, if_false]
    rw [(fuseInsert_eq_fuseConcat_multi a _ hv hg hne).1]

/-- the fermionic `fuse`: the mode does not matter -/
theorem fuseF_concat_eq_insert [Neg R] (a : Arr R) (groups : List (List Nat)) (e : Bool)
    (hv : a.validB = true) (hf : a.fermi = true) (hg : groupsOkB groups a.ndim = true) (hne : groups ≠ []) :
    Arr.fuseF a groups .concat e = Arr.fuseF a groups .insert e := by
  obtain ⟨h1, hv4, _, _, hg4, _, _⟩ := fuseF_struct a groups .concat e hv hf hg
  obtain ⟨h2, _⟩ := fuseF_struct a groups .insert e hv hf hg
  rw [h1, h2]
  have hne4 : newGroupsF groups a.duals ≠ [] := by
    intro h
    have := congrArg List.length h
    rw [newGroupsF_length] at this
    exact hne (List.eq_nil_of_length_eq_zero this)
  exact (fuseInsert_eq_fuseConcat_multi _ _ hv4 hg4 hne4).1

/-- the result of `fuseCore a groups .concat` is the result of the insert strategy, the array
    `fuse_elem` (part b) speaks about; the element map itself is not restated -/
theorem fuse_elem_concat (a : Arr R) (groups : List (List Nat)) (hv : a.validB = true)
    (hg : groupsOkB groups a.ndim = true) (hne : groups ≠ []) :
    ∃ x, fuseCore a groups .concat = .ok x ∧ fuseCore a groups .insert = .ok x := by
  obtain ⟨h1, h2, _⟩ := fuseInsert_eq_fuseConcat_multi a groups hv hg hne
  exact ⟨_, h1.trans h2, h2⟩

set_option synthInstance.maxSize 1024 in
/-- the mode does not matter: abelian, with an empty group and `expand_empty`; fermionic, with a
    pending sign and non-ascending groups -/
example : view (fuseA exB [[1, 0], [], [3, 2]] .concat true) = view (fuseA exB [[1, 0], [], [3, 2]] .insert true)
    ∧ (view (fuseA exB [[1, 0], [], [3, 2]] .concat true)).isSome = true
    ∧ view (Arr.fuseF exG [[3, 2], [1, 0]] .concat true) = view (Arr.fuseF exG [[3, 2], [1, 0]] .insert true)
    ∧ viewPh (Arr.fuseF exG [[3, 2], [1, 0]] .concat true) = viewPh (Arr.fuseF exG [[3, 2], [1, 0]] .insert true) := by
  decide +kernel

end SymmModel.C05
