import SymmModel.Props.C08All3
import SymmModel.Props.C08e
