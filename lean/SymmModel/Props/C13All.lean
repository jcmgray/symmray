/-
  Umbrella for property C13: the selection logic is in Props/C13; the array-level clauses are
  proved with the decomposition lemmas in Props/C11b (`C11.absorb_products_agree`,
  `C11.truncation_error`).
-/
import SymmModel.Props.C13
import SymmModel.Props.C11b
