/-
  Property C18, action clause — "Applying the resulting array to a state tensor by contraction
  acts as the operator does on Fock space up to one fixed sign convention shared by all operators
  on the same bases … applying two operator arrays in succession equals applying the array of the
  product operator".

  Definitions on top of the model (they live in Proofs/, not in Model/):
    `SymmModel.buildArray terms bases sym indexMaps`  (Proofs/FermiAction1.lean)
        = `build_local_fermionic_array`: `fromDense sym true (buildDense terms bases)
          (indexMaps ++ indexMaps) ([false]*n ++ [true]*n) none` — Model `buildDense`, `fromDense`.
    vocabulary (namespace `FermiActP`): `opArray` (the record the builder returns), `SectorOf`,
    `fdOrig` (original basis multi-index of an address), `opEntry` (specified element masked by
    charge conservation), `rankIn m j` (offset of basis state `j` inside its charge block),
    `posIn`, `ranksOf` (the offsets of a basis multi-index),
    `ChargeMaps` (index maps = charges of the basis states), `revSign` (sign of reversing the odd
    charges of a sector), `ParityFaithful` (labels have the fermion parity of their basis states),
    `actMatrix = D·H·D`, `CompleteKets`, `mulTerms` (term list of the operator product).
  About: `Arr.tensordotF` (Model/Fermi.lean) through `GradedP.tensordotF_graded` (the statement
  behind `C03.tensordotF_refines_graded`),
  `fromDense` through C16, `buildElements` through `C18.elements_eq_vev`.

  No statement is restricted to a bounded case: every clause holds for any number of sites, every symmetry, states
  of any rank / charge / sparsity / pending signs / labels, any ring of scalars (`GRat` included);
  the hypotheses are `ChargeMaps`, `ParityFaithful`, `SitesDisjoint` (`action_eq`) and, in addition,
  `CompleteKets` with all labels in `M` (`product_law`).
  Contraction mode: blockwise (C05/C06 reduce `fused` to it, as for C03).  Not covered: the
  numerical spectrum clause (a Hermitian matrix similar by the diagonal ±1 matrix `D` has the
  spectrum of `H`; stated in DESIGN as cited, not formalised).
-/
import SymmModel.Proofs.FermiAction7
import SymmModel.Props.C18
import Mathlib.Algebra.Ring.MinimalAxioms

namespace SymmModel.C18
open SymmModel SymmModel.FermiOpsP SymmModel.FermiActP
open SymmModel.Lazy (sgnI)

section array
variable {α : Type} [AddCommGroup α] [DecidableEq α]

/-- `build_local_fermionic_array` returns `opArray` (fermionic, charge 0, no label, no pending
    sign, index tables and blocks of `from_dense` on the dense operator, kets then bras) when
    there is one index map per site labelling every basis state; without sites it raises. -/
theorem buildArray_spec (terms : List (α × Word)) (bases : List (List Word)) (sym : Sym)
    (maps : List (List Charge)) :
    (bases = [] → buildArray terms bases sym maps = .error Err.value)
    ∧ (bases ≠ [] → maps.map List.length = bases.map List.length →
        buildArray terms bases sym maps = .ok (opArray terms bases sym maps)) := by
  refine ⟨?_, fun hne hm => buildArray_eq terms bases sym maps hne hm⟩
  rintro rfl; rfl

/-- **buildArray_elem**: the value view of the built array.  At a sector made of occurring
    charges and an offset inside its block it is `specAt terms bases idx` for the basis
    multi-index `idx = fdOrig …` the address denotes (the `k`-th position carrying the charge,
    per axis) when the sector conserves the charge, else `0`; at any other key it is `0`. -/
theorem buildArray_elem (terms : List (α × Word)) (bases : List (List Word)) (sym : Sym)
    (maps : List (List Charge)) (hne : bases ≠ [])
    (hmaps : maps.map List.length = bases.map List.length) (G : Arr α)
    (hG : buildArray terms bases sym maps = .ok G) (s : Sector) (off : List Nat) :
    (SectorOf (maps ++ maps) s → inBox ((fdPos (maps ++ maps) s).map List.length) off = true →
      G.elem s off
        = (if Arr.sectorCharge sym (opDuals bases.length) s == sym.zero
           then specAt terms bases (fdOrig (maps ++ maps) s off) else 0)
      ∧ inBox (bases.map List.length ++ bases.map List.length) (fdOrig (maps ++ maps) s off) = true
      ∧ labelsAt (maps ++ maps) (fdOrig (maps ++ maps) s off) = s)
    ∧ (¬ SectorOf (maps ++ maps) s → G.elem s off = 0) := by
  rw [buildArray_eq terms bases sym maps hne hmaps] at hG
  injection hG with hG; subst hG
  refine ⟨fun hs ho => ⟨(opArray_elem terms bases sym maps hmaps s off).1 hs ho, ?_, ?_⟩,
    (opArray_elem terms bases sym maps hmaps s off).2⟩
  · have := (fdOrig_inv (maps ++ maps) s off hs ho).1
    simpa [hmaps] using this
  · exact (fdOrig_inv (maps ++ maps) s off hs ho).2.1

/-- the built array satisfies the validity predicate of C01 (labels valid charges) -/
theorem buildArray_valid (terms : List (α × Word)) (bases : List (List Word)) (sym : Sym)
    (maps : List (List Charge)) (hne : bases ≠ [])
    (hmaps : maps.map List.length = bases.map List.length)
    (hv : ∀ m ∈ maps, ∀ c ∈ m, sym.valid c = true) (G : Arr α)
    (hG : buildArray terms bases sym maps = .ok G) :
    G.validB = true ∧ G.fermi = true ∧ G.charge = sym.zero ∧ G.oddpos = [] ∧ G.phases = []
    ∧ G.duals = opDuals bases.length := by
  rw [buildArray_eq terms bases sym maps hne hmaps] at hG
  injection hG with hG; subst hG
  have hlen : maps.length = bases.length := by
    have := congrArg List.length hmaps; simpa using this
  exact ⟨opArray_valid terms bases sym maps hmaps hv, rfl, rfl, rfl, rfl,
    fdIndices_duals _ _ (by simp [opDuals, hlen])⟩

end array

section nd
variable {α : Type} [Ring α] [DecidableEq α]

/-- **nothing discarded**: if the index maps are the charge maps of a charge assignment
    `(q₁, q₂)` of the modes (`ChargeMaps`) for which every term is neutral, the conservation mask
    is vacuous: `opEntry = specAt` at every multi-index (any number of sites, every symmetry). -/
theorem buildArray_nothing_discarded (terms : List (α × Word)) (bases : List (List Word))
    (sym : Sym) (maps : List (List Charge)) (q1 q2 : Int → Int)
    (hcm : ChargeMaps sym q1 q2 bases maps)
    (hn1 : ∀ ct ∈ terms, wordCharge q1 ct.2 = 0) (hn2 : ∀ ct ∈ terms, wordCharge q2 ct.2 = 0)
    (idx : List Nat) :
    opEntry terms bases sym maps idx = specAt terms bases idx :=
  opEntry_eq_specAt terms bases sym maps q1 q2 hcm hn1 hn2 idx

end nd

section conv
variable {α : Type} [AddCommGroup α]

/-- dense form = `D·H`: the specified element is `τ(i)` times the proper Fock matrix element
    `⟨i|O|j⟩` (`|j⟩ = ket j|0⟩`, `⟨i| = |i⟩†`), `τ = siteSign`, on site-disjoint bases -/
theorem dense_eq_DH (terms : List (α × Word)) (bases : List (List Word)) (hd : SitesDisjoint bases)
    (is js : List Nat) (hi : is.length = bases.length)
    (hbox : inBox (bases.map List.length ++ bases.map List.length) (is ++ js) = true) :
    specAt terms bases (is ++ js)
      = scaleInt (siteSign bases is) (fockMatrixAt terms bases is js) :=
  specAt_eq_DH terms bases hd is js hi hbox

/-- **hermitian_action**: for a term set closed under dagger with conjugated coefficients the Fock
    matrix `H` and the action matrix `actMatrix = D·H·D` are Hermitian (any number of sites) -/
theorem hermitian_action (cj : α → α) (hcj : ∀ a b, cj (a + b) = cj a + cj b)
    (terms : List (α × Word)) (bases : List (List Word))
    (hclosed : (terms.map (fun ct => (cj ct.1, dagWord ct.2))).Perm terms) (is js : List Nat) :
    fockMatrixAt terms bases is js = cj (fockMatrixAt terms bases js is)
    ∧ actMatrix terms bases is js = cj (actMatrix terms bases js is)
    ∧ actMatrix terms bases is js
        = scaleInt (siteSign bases is * siteSign bases js) (fockMatrixAt terms bases is js) :=
  ⟨fockMatrixAt_hermitian cj hcj terms bases hclosed is js,
   actMatrix_hermitian cj hcj terms bases hclosed is js, rfl⟩

/-- `D·H·D` is similar to `H` by the diagonal sign matrix `D` (`D² = 1`):
    `H[i,j] = τ(i)τ(j) · (D·H·D)[i,j]`; hence (cited, not formalised) the same spectrum -/
theorem action_matrix_similar (terms : List (α × Word)) (bases : List (List Word))
    (is js : List Nat) :
    fockMatrixAt terms bases is js
      = scaleInt (siteSign bases is * siteSign bases js) (actMatrix terms bases is js) := by
  unfold actMatrix
  rw [scaleInt_scaleInt _ (Lazy.mul_pm (siteSign_cases bases is) (siteSign_cases bases js))]

end conv

section action
variable {R : Type} [Ring R] [DecidableEq R]

/-- **action_eq (one site)**.  `G = build_local_fermionic_array(terms, [b], sym, [m])`, `ψ` a valid
    fermionic state tensor whose first leg matches `G`'s bra leg, `c = tensordot(G, ψ, ([1],[0]))`
    (blockwise).  Then `c` carries the labels of `ψ` (label sign `ph`, `= 1` for at most one
    label), and at the address of basis state `i` (charge `m[i]`, offset `rankIn m i`) and any
    address `(Rr, oR)` of the other legs
        `c⟨i, Rr, oR⟩ = ph · Σ_{j < |b|} G⟨i,j⟩ · ψ⟨j, Rr, oR⟩`,
    `G⟨i,j⟩ = opEntry` (the specified element, masked by charge conservation).  No further sign:
    for one site `D = 1`. -/
theorem action_eq_one (terms : List (R × Word)) (b : List Word) (sym : Sym) (m : List Charge)
    (hm : m.length = b.length) (hv : ∀ c ∈ m, sym.valid c = true)
    (G ψ c : Arr R) (hG : buildArray terms [b] sym [m] = .ok G)
    (hψ : ψ.validB = true) (hfψ : ψ.fermi = true)
    (hadm : ValidP.tdotAdmissibleB G ψ [1] [0] = true)
    (h : G.tensordotF ψ (.pair ([1].map Int.ofNat) ([0].map Int.ofNat)) .blockwise = .ok c) :
    ∃ out ph, OddposP.mergeOddpos false [] ψ.oddpos = .ok (out, ph) ∧ c.oddpos = out
      ∧ c.charge = sym.combine [sym.zero, ψ.charge]
      ∧ (ψ.oddpos.length ≤ 1 → ph = 1)
      ∧ ∀ (i : Nat) (Rr : Sector) (oR shpR : List Nat), i < b.length →
          Arr.blockShape? (ψ.indices.drop 1) Rr = some shpR → inBox shpR oR = true →
          c.elem (m.getD i (0, 0) :: Rr) (rankIn m i :: oR) = sgnI ph
            (((List.range b.length).map (fun j =>
                opEntry terms [b] sym [m] [i, j]
                  * ψ.elem (m.getD j (0, 0) :: Rr) (rankIn m j :: oR))).sum) := by
  obtain rfl := buildArray_ok hG (by simp [hm])
  obtain ⟨out, ph, h1, h2, h3, h4⟩ := action_one terms b sym m hm hv ψ c hψ hfψ hadm h
  refine ⟨out, ph, h1, h2, h3, ?_, h4⟩
  intro hl
  match hψo : ψ.oddpos, hl with
  | [], _ =>
    rw [hψo] at h1
    have : OddposP.mergeOddpos false [] [] = .ok ([], 1) := rfl
    rw [this] at h1
    simp only [Except.ok.injEq, Prod.mk.injEq] at h1
    exact h1.2.symm
  | [x], _ =>
    rw [hψo] at h1
    have : OddposP.mergeOddpos false [] [x] = .ok ([x], 1) := rfl
    rw [this] at h1
    simp only [Except.ok.injEq, Prod.mk.injEq] at h1
    exact h1.2.symm

/-- with charge maps and neutral terms the entries are the Fock matrix `⟨i|O|j⟩ = (D·H·D)[i,j]` -/
theorem action_entry_one (terms : List (R × Word)) (b : List Word) (sym : Sym) (m : List Charge)
    (q1 q2 : Int → Int) (hcm : ChargeMaps sym q1 q2 [b] [m])
    (hn1 : ∀ ct ∈ terms, wordCharge q1 ct.2 = 0) (hn2 : ∀ ct ∈ terms, wordCharge q2 ct.2 = 0)
    (i j : Nat) (hi : i < b.length) (hj : j < b.length) :
    opEntry terms [b] sym [m] [i, j] = fockMatrixAt terms [b] [i] [j]
    ∧ actMatrix terms [b] [i] [j] = fockMatrixAt terms [b] [i] [j] :=
  ⟨opEntry_one_eq_fock terms b sym m q1 q2 hcm hn1 hn2 i j hi hj, actMatrix_one terms b i j⟩


/-- **action_entries** (no hypothesis on the index maps beyond validity): the contraction of the
    bra legs `n … 2n-1` of the built array with the first `n` legs of `ψ` is, at the address of
    the basis multi-index `is` (`labelsAt`/`ranksOf`) and any address of the other legs,
    `ph · Σ_{js ∈ all basis multi-indices} ρ(js) · G⟨is,js⟩ · ψ⟨js, …⟩`, `ρ = revSign` of the
    charges labelling `js` (the nesting sign of `gradedSign`), `G⟨is,js⟩ = opEntry`. -/
theorem action_entries (terms : List (R × Word)) (bases : List (List Word)) (sym : Sym)
    (maps : List (List Charge)) (hmaps : maps.map List.length = bases.map List.length)
    (hv : ∀ m ∈ maps, ∀ c ∈ m, sym.valid c = true)
    (G ψ c : Arr R) (hG : buildArray terms bases sym maps = .ok G)
    (hψ : ψ.validB = true) (hfψ : ψ.fermi = true)
    (hadm : ValidP.tdotAdmissibleB G ψ
      ((List.range (2 * bases.length)).drop bases.length) (List.range bases.length) = true)
    (h : G.tensordotF ψ
        (.pair (((List.range (2 * bases.length)).drop bases.length).map Int.ofNat)
          ((List.range bases.length).map Int.ofNat)) .blockwise = .ok c) :
    ∃ out ph, OddposP.mergeOddpos false [] ψ.oddpos = .ok (out, ph) ∧ c.oddpos = out
      ∧ c.charge = sym.combine [sym.zero, ψ.charge]
      ∧ ∀ (is : List Nat) (Rr : Sector) (oR shpR : List Nat),
          inBox (bases.map List.length) is = true →
          Arr.blockShape? (ψ.indices.drop bases.length) Rr = some shpR → inBox shpR oR = true →
          c.elem (labelsAt maps is ++ Rr) (ranksOf maps is ++ oR) = sgnI ph
            (((allIdx (bases.map List.length)).map (fun js =>
                sgnI (revSign sym (labelsAt maps js))
                  (opEntry terms bases sym maps (is ++ js)
                    * ψ.elem (labelsAt maps js ++ Rr) (ranksOf maps js ++ oR)))).sum) := by
  obtain rfl := buildArray_ok hG hmaps
  exact FermiActP.action_entries terms bases sym maps hmaps hv ψ c hψ hfψ hadm h

/-- **action_eq** (any number of sites): the built array acts on state tensors as `D·H·D`,
    `H[is,js] = ⟨is|O|js⟩` the proper Fock matrix of the second-quantised operator
    (`fockMatrixAt`), `D = diag τ`, `τ(i) = siteSign = (-1)^{Σ_{s<t}|i_s||i_t|}` — one fixed sign
    convention shared by all operators on the same bases.  Hypotheses: index maps = charge maps
    of a charge assignment with neutral terms (`ChargeMaps`; then nothing is discarded), labels of
    the right fermion parity (`ParityFaithful`), sites acting on different modes. -/
theorem action_eq (terms : List (R × Word)) (bases : List (List Word)) (sym : Sym)
    (maps : List (List Charge)) (hmaps : maps.map List.length = bases.map List.length)
    (hv : ∀ m ∈ maps, ∀ c ∈ m, sym.valid c = true) (hd : SitesDisjoint bases)
    (q1 q2 : Int → Int) (hcm : ChargeMaps sym q1 q2 bases maps)
    (hn1 : ∀ ct ∈ terms, wordCharge q1 ct.2 = 0) (hn2 : ∀ ct ∈ terms, wordCharge q2 ct.2 = 0)
    (hpf : ParityFaithful sym bases maps)
    (G ψ c : Arr R) (hG : buildArray terms bases sym maps = .ok G)
    (hψ : ψ.validB = true) (hfψ : ψ.fermi = true)
    (hadm : ValidP.tdotAdmissibleB G ψ
      ((List.range (2 * bases.length)).drop bases.length) (List.range bases.length) = true)
    (h : G.tensordotF ψ
        (.pair (((List.range (2 * bases.length)).drop bases.length).map Int.ofNat)
          ((List.range bases.length).map Int.ofNat)) .blockwise = .ok c) :
    ∃ out ph, OddposP.mergeOddpos false [] ψ.oddpos = .ok (out, ph) ∧ c.oddpos = out
      ∧ c.charge = sym.combine [sym.zero, ψ.charge]
      ∧ ∀ (is : List Nat) (Rr : Sector) (oR shpR : List Nat),
          inBox (bases.map List.length) is = true →
          Arr.blockShape? (ψ.indices.drop bases.length) Rr = some shpR → inBox shpR oR = true →
          c.elem (labelsAt maps is ++ Rr) (ranksOf maps is ++ oR) = sgnI ph
            (((allIdx (bases.map List.length)).map (fun js =>
                actMatrix terms bases is js
                  * ψ.elem (labelsAt maps js ++ Rr) (ranksOf maps js ++ oR))).sum) := by
  obtain rfl := buildArray_ok hG hmaps
  exact action_DHD terms bases sym maps hmaps hv hd q1 q2 hcm hn1 hn2
    (revSign_eq_siteSign hpf) ψ c hψ hfψ hadm h

/-- the address used above determines the basis multi-index and conversely -/
theorem address_bijection (maps : List (List Charge)) :
    (∀ js, inBox (maps.map List.length) js = true →
      SectorOf maps (labelsAt maps js)
      ∧ inBox ((fdPos maps (labelsAt maps js)).map List.length) (ranksOf maps js) = true
      ∧ fdOrig maps (labelsAt maps js) (ranksOf maps js) = js)
    ∧ (∀ J k, SectorOf maps J → inBox ((fdPos maps J).map List.length) k = true →
      inBox (maps.map List.length) (fdOrig maps J k) = true
      ∧ labelsAt maps (fdOrig maps J k) = J ∧ ranksOf maps (fdOrig maps J k) = k) :=
  ⟨fdOrig_of_index maps, fdOrig_inv maps⟩

theorem revSign_eq_tau {sym : Sym} {bases : List (List Word)} {maps : List (List Charge)}
    (h : ParityFaithful sym bases maps) (js : List Nat)
    (hjs : inBox (maps.map List.length) js = true) :
    revSign sym (labelsAt maps js) = siteSign bases js := revSign_eq_siteSign h js hjs

theorem resolution_of_identity (M : List Int) (kets : List Word) (hc : CompleteKets M kets)
    (u v : Word) (hv : ∀ o ∈ v, o.label ∈ M) :
    ∃ k0, ∃ _ : k0 < kets.length,
      (∀ k, ∀ _ : k < kets.length, k ≠ k0 → vev (dagWord kets[k] ++ v) = 0)
      ∧ vev (u ++ kets[k0]) * vev (dagWord kets[k0] ++ v) = vev (u ++ v) :=
  resolution M kets hc u v hv

theorem fock_product (M : List Int) (bases : List (List Word)) (ks : List (List Nat))
    (hc : CompleteKets M (ks.map (ketOf bases)))
    (t2 t1 : List (R × Word)) (ht1 : ∀ ct ∈ t1, ∀ o ∈ ct.2, o.label ∈ M)
    (is js : List Nat) (hj : ∀ o ∈ ketOf bases js, o.label ∈ M) :
    fockMatrixAt (mulTerms t2 t1) bases is js
      = (ks.map (fun k => fockMatrixAt t2 bases is k * fockMatrixAt t1 bases k js)).sum :=
  fock_mul M bases ks hc t2 t1 ht1 is js hj

/-- **product_law (one site)**: `tensordot(G₂, G₁, ([1],[0]))` of two built arrays on a complete
    basis equals, address by address, the built array of the product operator; no label, no
    sign, charge `0 + 0`. -/
theorem product_law_one' (t2 t1 : List (R × Word)) (b : List Word) (sym : Sym) (m : List Charge)
    (hm : m.length = b.length) (hv : ∀ c ∈ m, sym.valid c = true)
    (q1 q2 : Int → Int) (hcm : ChargeMaps sym q1 q2 [b] [m])
    (hn1 : ∀ ct ∈ t1, wordCharge q1 ct.2 = 0 ∧ wordCharge q2 ct.2 = 0)
    (hn2 : ∀ ct ∈ t2, wordCharge q1 ct.2 = 0 ∧ wordCharge q2 ct.2 = 0)
    (M : List Int) (hc : CompleteKets M ((List.range b.length).map (fun k => ketOf [b] [k])))
    (ht1 : ∀ ct ∈ t1, ∀ o ∈ ct.2, o.label ∈ M) (hb : ∀ w ∈ b, ∀ o ∈ w, o.label ∈ M)
    (G2 G1 G21 c : Arr R)
    (hG2 : buildArray t2 [b] sym [m] = .ok G2) (hG1 : buildArray t1 [b] sym [m] = .ok G1)
    (hG21 : buildArray (mulTerms t2 t1) [b] sym [m] = .ok G21)
    (h : G2.tensordotF G1 (.pair ([1].map Int.ofNat) ([0].map Int.ofNat)) .blockwise = .ok c) :
    c.oddpos = [] ∧ c.charge = sym.combine [sym.zero, sym.zero]
    ∧ ∀ i j, i < b.length → j < b.length →
        c.elem [m.getD i (0, 0), m.getD j (0, 0)] [rankIn m i, rankIn m j]
          = G21.elem [m.getD i (0, 0), m.getD j (0, 0)] [rankIn m i, rankIn m j] := by
  obtain rfl := buildArray_ok hG2 (by simp [hm])
  obtain rfl := buildArray_ok hG1 (by simp [hm])
  obtain rfl := buildArray_ok hG21 (by simp [hm])
  have hc' : CompleteKets M ((allIdx ([b].map List.length)).map (ketOf [b])) := by
    rw [show allIdx ([b].map List.length) = (List.range b.length).map (fun k => [k])
      from allIdx_single _, List.map_map]
    exact hc
  -- one site: the reversal sign and the site sign are both `1`
  have hrev : ∀ js, inBox ([m].map List.length) js = true →
      revSign sym (labelsAt [m] js) = siteSign [b] js := by
    intro js hjs
    match js, hjs with
    | [], h => simp [inBox] at h
    | [j], _ => exact (revSign_singleton sym _).trans (siteSign_one b j).symm
    | _ :: _ :: _, h => simp [inBox] at h
  obtain ⟨h1, h2, h3⟩ := product_law_n t2 t1 [b] sym [m] (by simp [hm])
    (fun m' hm' => by rw [List.mem_singleton.mp hm']; exact hv) (sitesDisjoint_one b) q1 q2 hcm
    hn1 hn2 hrev M hc' ht1 (fun b' hb' => by rw [List.mem_singleton.mp hb']; exact hb) c h
  exact ⟨h1, h2, fun i j hi hj => h3 [i] [j] (by simp [inBox, hi]) (by simp [inBox, hj])⟩

/-- **product_law** (any number of sites, complete bases): `tensordot(G₂, G₁)` over the bra legs
    of `G₂` and the ket legs of `G₁` equals, address by address, the built array of the product
    operator `O₂·O₁`; the two signs `D` of the inner legs cancel.  No label, no sign. -/
theorem product_law (t2 t1 : List (R × Word)) (bases : List (List Word)) (sym : Sym)
    (maps : List (List Charge)) (hmaps : maps.map List.length = bases.map List.length)
    (hv : ∀ m ∈ maps, ∀ c ∈ m, sym.valid c = true) (hd : SitesDisjoint bases)
    (q1 q2 : Int → Int) (hcm : ChargeMaps sym q1 q2 bases maps)
    (hn1 : ∀ ct ∈ t1, wordCharge q1 ct.2 = 0 ∧ wordCharge q2 ct.2 = 0)
    (hn2 : ∀ ct ∈ t2, wordCharge q1 ct.2 = 0 ∧ wordCharge q2 ct.2 = 0)
    (hpf : ParityFaithful sym bases maps)
    (M : List Int)
    (hc : CompleteKets M ((allIdx (bases.map List.length)).map (ketOf bases)))
    (ht1 : ∀ ct ∈ t1, ∀ o ∈ ct.2, o.label ∈ M)
    (hb : ∀ b ∈ bases, ∀ w ∈ b, ∀ o ∈ w, o.label ∈ M)
    (G2 G1 G21 c : Arr R)
    (hG2 : buildArray t2 bases sym maps = .ok G2) (hG1 : buildArray t1 bases sym maps = .ok G1)
    (hG21 : buildArray (mulTerms t2 t1) bases sym maps = .ok G21)
    (h : G2.tensordotF G1
        (.pair (((List.range (2 * bases.length)).drop bases.length).map Int.ofNat)
          ((List.range bases.length).map Int.ofNat)) .blockwise = .ok c) :
    c.oddpos = [] ∧ c.charge = sym.combine [sym.zero, sym.zero]
    ∧ ∀ is js, inBox (bases.map List.length) is = true → inBox (bases.map List.length) js = true →
        c.elem (labelsAt maps is ++ labelsAt maps js) (ranksOf maps is ++ ranksOf maps js)
          = G21.elem (labelsAt maps is ++ labelsAt maps js) (ranksOf maps is ++ ranksOf maps js) := by
  obtain rfl := buildArray_ok hG2 hmaps
  obtain rfl := buildArray_ok hG1 hmaps
  obtain rfl := buildArray_ok hG21 hmaps
  exact product_law_n t2 t1 bases sym maps hmaps hv hd q1 q2 hcm hn1 hn2 (revSign_eq_siteSign hpf)
    M hc ht1 hb c h

theorem completeKets_of_states (M : List Int) (kets : List Word) (Ss : List (List Int))
    (hstates : kets.map (fun K => (applyWord K []).map (·.2)) = Ss.map some)
    (hnd : Ss.Nodup) (hall : ∀ S, Sorted S → (∀ z ∈ S, z ∈ M) → S ∈ Ss) :
    CompleteKets M kets := by
  intro S hS hSM
  have hlen : kets.length = Ss.length := by
    have := congrArg List.length hstates; simpa using this
  obtain ⟨k0, hk0, e0⟩ := List.mem_iff_getElem.mp (hall S hS hSM)
  have hget : ∀ k (hk : k < kets.length), (applyWord kets[k] []).map (·.2) = some (Ss[k]'(hlen ▸ hk)) := by
    intro k hk
    have := congrArg (fun l => l[k]?) hstates
    simp only [List.getElem?_map, List.getElem?_eq_getElem hk,
      List.getElem?_eq_getElem (hlen ▸ hk), Option.map_some] at this
    exact Option.some.inj this
  refine ⟨k0, hlen ▸ hk0, ?_, ?_⟩
  · have := hget k0 (hlen ▸ hk0)
    rw [e0] at this
    cases hst : applyWord kets[k0] [] with
    | none => rw [hst] at this; cases this
    | some p =>
      rw [hst] at this
      simp only [Option.map_some, Option.some.injEq] at this
      exact ⟨p.1, by rw [← this]⟩
  · intro k hk hne σ' hst
    have := hget k hk
    rw [hst] at this
    simp only [Option.map_some, Option.some.injEq] at this
    apply hne
    exact (List.Nodup.getElem_inj_iff hnd).mp (this.symm.trans e0.symm)

end action

/-! ## the hypotheses are satisfiable: two spinless sites, hopping + on-site term, over `Int` -/

namespace Ex
def b2 : List (List Word) := [spinlessBasis opA, spinlessBasis opB]
def m2 : List (List Charge) := [[(0, 0), (1, 0)], [(0, 0), (1, 0)]]
def hop : List (Int × Word) := [(-2, [opA.dag, opB]), (-2, [opB.dag, opA]), (5, [opA.dag, opA])]
def num : List (Int × Word) := [(3, [opB.dag, opB])]
def ix2 (d : Bool) : Index := Index.mk [((0, 0), 1), ((1, 0), 1)] d none
/-- `ψ[a, b, bond]`: two physical kets and one bra bond leg, odd total charge, label 7 -/
def psi2 : Arr Int :=
  { sym := .U1, fermi := true, indices := [ix2 false, ix2 false, ix2 true], charge := (1, 0),
    blocks := [([(1, 0), (0, 0), (0, 0)], ⟨[1, 1, 1], #[3]⟩),
               ([(0, 0), (1, 0), (0, 0)], ⟨[1, 1, 1], #[4]⟩),
               ([(1, 0), (1, 0), (1, 0)], ⟨[1, 1, 1], #[7]⟩)],
    phases := [], oddpos := [(7, false)] }
def qZero : Int → Int := fun _ => 0
end Ex
open Ex

example : b2 ≠ [] ∧ m2.map List.length = b2.map List.length
    ∧ (∀ m ∈ m2, ∀ c ∈ m, Sym.U1.valid c = true) := by decide

example : SitesDisjoint b2 := by
  unfold SitesDisjoint b2
  rw [List.pairwise_cons]
  refine ⟨?_, by simp⟩
  intro b' hb' w hw w' hw' x hx y hy
  simp only [List.mem_singleton] at hb'
  subst hb'
  simp only [spinlessBasis, List.mem_cons, List.not_mem_nil, or_false] at hw hw'
  rcases hw with rfl | rfl <;> rcases hw' with rfl | rfl <;>
    simp_all [opA, opB, FOp.dag]

example : ChargeMaps .U1 qNumber qZero b2 m2 := by unfold ChargeMaps; decide
example : (∀ ct ∈ hop, wordCharge qNumber ct.2 = 0) ∧ (∀ ct ∈ hop, wordCharge qZero ct.2 = 0)
    ∧ (∀ ct ∈ num, wordCharge qNumber ct.2 = 0 ∧ wordCharge qZero ct.2 = 0) := by decide

example : ParityFaithful .U1 b2 m2 := by
  unfold ParityFaithful b2 m2 spinlessBasis
  refine List.Forall₂.cons ?_ (List.Forall₂.cons ?_ List.Forall₂.nil) <;>
    exact List.Forall₂.cons (by decide) (List.Forall₂.cons (by decide) List.Forall₂.nil)

example : ∃ G, buildArray hop b2 .U1 m2 = .ok G := ⟨_, buildArray_eq hop b2 .U1 m2 (by decide) (by decide)⟩
set_option maxRecDepth 100000 in
example : psi2.validB = true ∧ psi2.fermi = true
    ∧ ValidP.tdotAdmissibleB (opArray hop b2 .U1 m2) psi2
        ((List.range (2 * b2.length)).drop b2.length) (List.range b2.length) = true := by
  decide +kernel
/-- the contraction gives `H ψ`: `(5·3 − 2·4, −2·3, 5·7)` on `|10⟩, |01⟩, |11⟩` (here `D·H·D = H` entrywise) -/
example : (match (opArray hop b2 .U1 m2).tensordotF psi2
      (.pair (((List.range (2 * b2.length)).drop b2.length).map Int.ofNat)
        ((List.range b2.length).map Int.ofNat)) .blockwise with
    | .ok c => (c.oddpos, c.charge, c.elem [(1,0),(0,0),(0,0)] [0,0,0],
        c.elem [(0,0),(1,0),(0,0)] [0,0,0], c.elem [(1,0),(1,0),(1,0)] [0,0,0])
    | .error _ => ([], (9, 9), 0, 0, 0)) = ([(7, false)], (1, 0), 7, -6, 35) := by decide +kernel
/-- the sign matrix is not trivial on these bases: `τ(|11⟩) = −1` -/
example : siteSign b2 [1, 1] = -1 ∧ siteSign b2 [1, 0] = 1
    ∧ actMatrix hop b2 [1, 1] [1, 1] = 5 ∧ fockMatrixAt hop b2 [1, 0] [0, 1] = -2 := by decide

example : CompleteKets [0, 1] ((allIdx (b2.map List.length)).map (ketOf b2)) := by
  apply completeKets_of_states [0, 1] _ [[], [1], [0], [0, 1]] (by decide) (by decide)
  intro S hS hSM
  unfold Sorted at hS
  match S, hS, hSM with
  | [], _, _ => simp
  | [x], _, h =>
    have := h x (by simp); simp only [List.mem_cons, List.not_mem_nil, or_false] at this
    rcases this with rfl | rfl <;> simp
  | [x, y], hs, h =>
    have hx := h x (by simp); have hy := h y (by simp)
    simp only [List.mem_cons, List.not_mem_nil, or_false] at hx hy
    have hlt : x < y := by simpa using (List.pairwise_cons.mp hs).1 y (by simp)
    rcases hx with rfl | rfl <;> rcases hy with rfl | rfl <;> simp_all
  | x :: y :: z :: _, hs, h =>
    exfalso
    have hx := h x (by simp); have hy := h y (by simp); have hz := h z (by simp)
    simp only [List.mem_cons, List.not_mem_nil, or_false] at hx hy hz
    have h1 : x < y := (List.pairwise_cons.mp hs).1 y (by simp)
    have h2 : y < z := (List.pairwise_cons.mp (List.pairwise_cons.mp hs).2).1 z (by simp)
    omega

example : (∀ ct ∈ num, ∀ o ∈ ct.2, o.label ∈ [0, 1]) ∧ (∀ b ∈ b2, ∀ w ∈ b, ∀ o ∈ w, o.label ∈ [0, 1]) := by
  decide

/-- product law, evaluated: the array of `hop·num` from the contraction of the two arrays -/
example : (match (opArray hop b2 .U1 m2).tensordotF (opArray num b2 .U1 m2)
      (.pair (((List.range (2 * b2.length)).drop b2.length).map Int.ofNat)
        ((List.range b2.length).map Int.ofNat)) .blockwise with
    | .ok c => (c.oddpos, c.elem [(1,0),(0,0),(0,0),(1,0)] [0,0,0,0],
        (opArray (mulTerms hop num) b2 .U1 m2).elem [(1,0),(0,0),(0,0),(1,0)] [0,0,0,0])
    | .error _ => ([], 0, 1)) = ([], -6, -6) := by decide +kernel

/-- a Hermitian term set (`2·a†b + 2·b†a` with trivial conjugation) -/
example : (([((2 : Int), [opA.dag, opB]), (2, [opB.dag, opA])] : List (Int × Word)).map
    (fun ct => (id ct.1, dagWord ct.2))).Perm [(2, [opA.dag, opB]), (2, [opB.dag, opA])] :=
  List.Perm.swap _ _ _

/-- `GRat` (Gaussian rationals, the scalars of the compiled driver) is a ring with exactly the
    operations the driver is compiled with -/
@[reducible] def ringGRat : Ring GRat :=
  @Ring.ofMinimalAxioms GRat GRat.instAdd GRat.instMul GRat.instNeg GRat.instZero GRat.instOne
    (fun a b c => Lazy.GRat.ext' (by show a.re + b.re + c.re = a.re + (b.re + c.re); ring)
      (by show a.im + b.im + c.im = a.im + (b.im + c.im); ring))
    (fun a => Lazy.GRat.ext' (by show 0 + a.re = a.re; ring) (by show 0 + a.im = a.im; ring))
    (fun a => Lazy.GRat.ext' (by show -a.re + a.re = 0; ring) (by show -a.im + a.im = 0; ring))
    (fun a b c => Lazy.GRat.ext'
      (by show (a.re * b.re - a.im * b.im) * c.re - (a.re * b.im + a.im * b.re) * c.im
            = a.re * (b.re * c.re - b.im * c.im) - a.im * (b.re * c.im + b.im * c.re); ring)
      (by show (a.re * b.re - a.im * b.im) * c.im + (a.re * b.im + a.im * b.re) * c.re
            = a.re * (b.re * c.im + b.im * c.re) + a.im * (b.re * c.re - b.im * c.im); ring))
    (fun a => Lazy.GRat.ext' (by show 1 * a.re - 0 * a.im = a.re; ring)
      (by show 1 * a.im + 0 * a.re = a.im; ring))
    (fun a => Lazy.GRat.ext' (by show a.re * 1 - a.im * 0 = a.re; ring)
      (by show a.re * 0 + a.im * 1 = a.im; ring))
    (fun a b c => Lazy.GRat.ext'
      (by show a.re * (b.re + c.re) - a.im * (b.im + c.im)
            = a.re * b.re - a.im * b.im + (a.re * c.re - a.im * c.im); ring)
      (by show a.re * (b.im + c.im) + a.im * (b.re + c.re)
            = a.re * b.im + a.im * b.re + (a.re * c.im + a.im * c.re); ring))
    (fun a b c => Lazy.GRat.ext'
      (by show (a.re + b.re) * c.re - (a.im + b.im) * c.im
            = a.re * c.re - a.im * c.im + (b.re * c.re - b.im * c.im); ring)
      (by show (a.re + b.re) * c.im + (a.im + b.im) * c.re
            = a.re * c.im + a.im * c.re + (b.re * c.im + b.im * c.re); ring))

/-- `action_eq` with exactly the instances the driver is compiled with on the implementation
    side (builder, contraction, value view); the specification side uses the ring `ringGRat` -/
theorem action_eq_GRat (terms : List (GRat × Word)) (bases : List (List Word)) (sym : Sym)
    (maps : List (List Charge)) (hmaps : maps.map List.length = bases.map List.length)
    (hv : ∀ m ∈ maps, ∀ c ∈ m, sym.valid c = true) (hd : SitesDisjoint bases)
    (q1 q2 : Int → Int) (hcm : ChargeMaps sym q1 q2 bases maps)
    (hn1 : ∀ ct ∈ terms, wordCharge q1 ct.2 = 0) (hn2 : ∀ ct ∈ terms, wordCharge q2 ct.2 = 0)
    (hpf : ParityFaithful sym bases maps)
    (G ψ c : Arr GRat)
    (hG : @buildArray GRat GRat.instZero GRat.instAdd GRat.instNeg instDecidableEqGRat
      terms bases sym maps = .ok G)
    (hψ : ψ.validB = true) (hfψ : ψ.fermi = true)
    (hadm : ValidP.tdotAdmissibleB G ψ
      ((List.range (2 * bases.length)).drop bases.length) (List.range bases.length) = true)
    (h : @Arr.tensordotF GRat GRat.instZero GRat.instAdd GRat.instMul GRat.instNeg G ψ
        (.pair (((List.range (2 * bases.length)).drop bases.length).map Int.ofNat)
          ((List.range bases.length).map Int.ofNat)) .blockwise = .ok c) :
    ∃ out ph, OddposP.mergeOddpos false [] ψ.oddpos = .ok (out, ph) ∧ c.oddpos = out
      ∧ c.charge = sym.combine [sym.zero, ψ.charge]
      ∧ ∀ (is : List Nat) (Rr : Sector) (oR shpR : List Nat),
          inBox (bases.map List.length) is = true →
          Arr.blockShape? (ψ.indices.drop bases.length) Rr = some shpR → inBox shpR oR = true →
          @Arr.elem GRat GRat.instZero GRat.instNeg c (labelsAt maps is ++ Rr) (ranksOf maps is ++ oR)
            = sgnI ph
              (@List.sum GRat GRat.instAdd GRat.instZero ((allIdx (bases.map List.length)).map (fun js =>
                @HMul.hMul GRat GRat GRat (@instHMul GRat GRat.instMul)
                  (@actMatrix GRat ringGRat.toAddCommGroup terms bases is js)
                  (@Arr.elem GRat GRat.instZero GRat.instNeg ψ
                    (labelsAt maps js ++ Rr) (ranksOf maps js ++ oR))))) :=
  @action_eq GRat ringGRat instDecidableEqGRat terms bases sym maps hmaps hv hd q1 q2 hcm hn1 hn2 hpf
    G ψ c hG hψ hfψ hadm h

end SymmModel.C18
