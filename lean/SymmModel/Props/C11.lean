/-
  Property C11 — decompositions reconstruct the input from properly structured factors.

  Theorems about `qrA`, `svdA`, `applyCounts`, `eighA`, `solveA` (Model/Linalg.lean), for every
  symmetry, every valid matrix (any number of blocks, block shapes, charge, directions, pending
  signs) and an arbitrary scalar type `R`.  The per-block factorisations are the PARAMETER
  `K : Kernels R`; nothing is assumed about them except the explicit hypotheses

    `K.ShapeOk`      (Proofs/LinalgFactors.lean)  reduced LAPACK shapes, well-formed blocks
    `K.QRContract`   (Proofs/LinalgRecon.lean)    Σ_t q[i,t]·r[t,j] = b[i,j]
    `K.SVDContract`  (Proofs/LinalgRecon.lean)    Σ_t (u[i,t]·s[t])·vh[t,j] = b[i,j]

  which are satisfiable: `Kernels.shapeOnly` (any `R` with a zero) meets `ShapeOk`,
  `Kernels.trivialFactor` over `Int` meets all three (examples at the end).  The numeric clauses
  of LAPACK's contract that are not used here (orthonormal columns/rows, triangular `R`, sorted
  non-negative singular values) are inherited blockwise through
  `factor_blocks_are_kernel_outputs`; validating them on real outputs is the harness's part.

  Structure (no value contract):  `bond_index_spec_qr/svd`, `factor_blocks_are_kernel_outputs`,
  `qrA_valid`, `svdA_valid`, `eighA_valid`, `solveA_valid` (+ the counterexample
  `solve_odd_matrix_invalid`), `applyCounts_valid`.
  Values (under the value contract):  `qr_reconstructs`, `svd_reconstructs` for abelian arrays
  with the library's blockwise contraction; `qr_reconstructs_fermionic`,
  `svd_reconstructs_fermionic` for fermionic arrays with `q @ r` (`FermionicArray.__matmul__`,
  model `Arr.matmulF`), arbitrary pending signs on the input, at most one odd-position label.

  `solve_solves` (abelian): `a · solve(a, b) = b` on the paired blocks under the per-call
  value contract `K.SolvesOn a b` (Proofs/LinalgSolveRecon.lean).

  Continued in Props/C11b (`eigh_reconstructs`, `solve_solves` for fermionic arrays), Props/C11c
  (inputs carrying more than one odd-position label), Props/C11d–f (reconstruction through
  `tensordot` in every contraction mode) and Props/C11g–h (isometry of the factors as arrays).
-/
import SymmModel.Proofs.LinalgFactors
import SymmModel.Proofs.LinalgSolve
import SymmModel.Proofs.LinalgTrunc
import SymmModel.Proofs.LinalgRecon
import SymmModel.Proofs.LinalgFermi
import SymmModel.Proofs.LinalgSolveRecon
import SymmModel.Proofs.ReconTrunc

namespace SymmModel.C11
open SymmModel LinalgLemmas

variable {R : Type}

/-- column charge of a matrix sector -/
abbrev col (s : Sector) : Charge := s.getD 1 (0, 0)

/-- what `qr` / `svd` promise about the new bond index `bond` and the two factors `q` (left:
    `Q`, `U`) and `r` (right: `R`, `VH`) of the matrix `x` -/
structure BondSpec (x q r : Arr R) (bond : Index) : Prop where
  /-- one entry per input block: its column charge with size `min m n`, sorted by charge -/
  cm : bond.cm = Index.sortCm
        (x.blocks.map (fun p => (col p.1, min (p.2.shape.getD 0 0) (p.2.shape.getD 1 0))))
  sorted : isSortedStrict Charge.lt (bond.cm.map (·.1)) = true
  charges : bond.charges.Perm (x.sectors.map col)
  one_per_block : (x.sectors.map col).Nodup
  /-- direction of the input's column index on the left factor, opposite on the right -/
  dual : bond.dual = (x.indices.getD 1 default).dual
  plain : bond.sub = none
  left_indices : q.indices = [x.indices.getD 0 default, bond]
  right_indices : r.indices = [bond.conj, x.indices.getD 1 default]
  opposite : bond.conj.dual = !bond.dual ∧ bond.conj.cm = bond.cm
  /-- the right factor has identity charge and only diagonal sectors -/
  right_charge : r.charge = x.sym.zero
  right_sectors : r.sectors = x.sectors.map (fun s => [col s, col s])
  right_rest : r.sym = x.sym ∧ r.fermi = x.fermi ∧ r.oddpos = []
  /-- pending signs of the right factor: only for a fermionic input whose column index is not
      dual (the right factor's bond index is then dual): `-1` on the odd diagonal sectors -/
  right_phases : r.phases =
    if x.fermi && !(x.indices.getD 1 default).dual then
      ((x.sectors.map (fun s => [col s, col s])).filter
        (fun s => x.sym.parity (s.getD 0 (0, 0)))).map (fun s => (s, (-1 : Int)))
    else []
  /-- the left factor keeps the input's sectors, charge, pending signs and labels -/
  left_keeps : q.sectors = x.sectors ∧ q.charge = x.charge ∧ q.phases = x.phases
    ∧ q.oddpos = x.oddpos ∧ q.sym = x.sym ∧ q.fermi = x.fermi

theorem bondSpec_factors {x : Arr R} {L Rt : Blk R → Blk R} (hv : x.validB = true)
    (h2 : x.ndim = 2) (hL : FacShape L Rt) :
    BondSpec x (leftF x L) (rightF x L Rt) (bondIx x L) := by
  obtain ⟨i0, i1, hi⟩ := ndim_two h2
  have hcm : (bondIx x L).cm = Index.sortCm (bondCm x L) := by rw [bondIx_eq hi]; rfl
  have hnd := bondCm_keys_nodup (L := L) hv h2
  have hkeys : (bondCm x L).map (·.1) = x.sectors.map col := by
    simp [bondCm, Arr.sectors, List.map_map, Function.comp_def, colOf]
  obtain ⟨f1, f2, f3, f4, f5, f6⟩ := rightF_fields (x := x) (L := L) (Rt := Rt)
  have hi1 : x.indices.getD 1 default = i1 := by simp [hi]
  refine ⟨by rw [hcm, bondCm_eq hv hi hL], by rw [hcm]; exact LinalgLemmas.sortCm_sorted hnd, ?_,
    by rw [← hkeys]; exact hnd, by rw [bondIx_eq hi, hi1]; rfl, by rw [bondIx_eq hi]; rfl, rfl, f3,
    ⟨Index.conj_dual _, Index.conj_cm _⟩, f4, ?_, ⟨f1, f2, f6⟩, ?_, ?_⟩
  · rw [← hkeys]; unfold Index.charges; rw [hcm]; exact (sortCm_perm _).map _
  · simp [Arr.sectors, f5, List.map_map, Function.comp_def, colOf]
  · rw [rightF_phases hv h2 hi, hi1]; rfl
  · exact ⟨by simp [leftF, Arr.sectors, List.map_map, Function.comp_def], rfl, rfl, rfl, rfl, rfl⟩

theorem facShape_qr {K : Kernels R} (hK : K.ShapeOk) :
    FacShape (fun b => (K.qr b).1) (fun b => (K.qr b).2) :=
  fun b m n h1 h2 => hK.qr b m n h1 h2

theorem facShape_svd {K : Kernels R} (hK : K.ShapeOk) :
    FacShape (fun b => (K.svd b).1) (fun b => (K.svd b).2.2) :=
  fun b m n h1 h2 => by
    obtain ⟨a1, a2, _, _, a5, a6⟩ := hK.svd b m n h1 h2
    exact ⟨a1, a2, a5, a6⟩

/-- **bond_index_spec (qr).**  For every valid matrix and shape-correct kernel `qr` succeeds and
    its factors and bond index meet `BondSpec`. -/
theorem bond_index_spec_qr (K : Kernels R) (hK : K.ShapeOk) (x : Arr R) (hv : x.validB = true)
    (h2 : x.ndim = 2) :
    ∃ q r bond, qrA K x = .ok (q, r) ∧ BondSpec x q r bond :=
  ⟨_, _, _, qrA_eq K hv h2, bondSpec_factors hv h2 (facShape_qr hK)⟩

/-- **qrA_valid.**  Both factors of a valid matrix are valid arrays (abelian and fermionic,
    including the pending signs `qr_fermionic` puts on `r`). -/
theorem qrA_valid (K : Kernels R) (hK : K.ShapeOk) (x : Arr R) (hv : x.validB = true)
    (h2 : x.ndim = 2) :
    ∃ q r, qrA K x = .ok (q, r) ∧ q.validB = true ∧ r.validB = true := by
  obtain ⟨i0, i1, hi⟩ := ndim_two h2
  exact ⟨_, _, qrA_eq K hv h2, leftF_valid hv h2 hi (facShape_qr hK),
    rightF_valid hv h2 hi (facShape_qr hK)⟩

/-- **bond_index_spec (svd)**, with the singular-value vector: one 1-D block per input block,
    keyed by the block's column charge, of length `min m n` -/
theorem bond_index_spec_svd (K : Kernels R) (hK : K.ShapeOk) (x : Arr R) (hv : x.validB = true)
    (h2 : x.ndim = 2) :
    ∃ u s vh bond, svdA K x = .ok (u, s, vh) ∧ BondSpec x u vh bond
      ∧ s.blocks.map (·.1) = x.sectors.map col
      ∧ (∀ c sb, (c, sb) ∈ s.blocks → alookup bond.cm c = some (sb.shape.getD 0 0)
            ∧ sb.shape.length = 1 ∧ sb.wf = true) := by
  obtain ⟨i0, i1, hi⟩ := ndim_two h2
  refine ⟨_, _, _, _, svdA_eq K hv h2, bondSpec_factors hv h2 (facShape_svd hK), ?_, ?_⟩
  · simp [Arr.sectors, List.map_map, Function.comp_def, colOf]
  · intro c sb hm
    simp only [List.mem_map] at hm
    obtain ⟨⟨s0, b⟩, hmem, e⟩ := hm
    cases e
    obtain ⟨r, c, m, n, B⟩ := mat_block hv hi hmem
    obtain ⟨_, _, a3, a4, _, _⟩ := hK.svd b m n B.hshape B.hwf
    have hl := bondCm_lookup hv h2 (facShape_svd hK) hmem B
    have hc : colOf s0 = c := B.col
    rw [hc, a3, bondIx_eq hi]
    exact ⟨hl, rfl, a4⟩

/-- **svdA_valid.**  Both array factors of `svd` of a valid matrix are valid arrays. -/
theorem svdA_valid (K : Kernels R) (hK : K.ShapeOk) (x : Arr R) (hv : x.validB = true)
    (h2 : x.ndim = 2) :
    ∃ u s vh, svdA K x = .ok (u, s, vh) ∧ u.validB = true ∧ vh.validB = true := by
  obtain ⟨i0, i1, hi⟩ := ndim_two h2
  exact ⟨_, _, _, svdA_eq K hv h2, leftF_valid hv h2 hi (facShape_svd hK),
    rightF_valid hv h2 hi (facShape_svd hK)⟩

/-- the factors a successful `svd` of a valid matrix returns -/
theorem svd_factors_eq {K : Kernels R} {x : Arr R} (hv : x.validB = true) (h2 : x.ndim = 2)
    {u : Arr R} {s : BVec R} {vh : Arr R} (hsvd : svdA K x = .ok (u, s, vh)) :
    u = leftF x (fun b => (K.svd b).1)
    ∧ s = ⟨x.blocks.map (fun p => (colOf p.1, (K.svd p.2).2.1))⟩
    ∧ vh = rightF x (fun b => (K.svd b).1) (fun b => (K.svd b).2.2) := by
  have h' := Except.ok.inj ((svdA_eq K hv h2).symm.trans hsvd)
  exact ⟨(Prod.mk.inj h').1.symm, (Prod.mk.inj (Prod.mk.inj h').2).1.symm,
    (Prod.mk.inj (Prod.mk.inj h').2).2.symm⟩

/-- **factor_blocks_are_kernel_outputs.**  Each block of `Q`/`R` (`U`/`s`/`VH`) is literally the
    kernel's output for the corresponding input block, so per-block properties promised by the
    kernel contract (orthonormal columns, triangular, sorted non-negative values) are inherited. -/
theorem factor_blocks_are_kernel_outputs (K : Kernels R) (x : Arr R) (hv : x.validB = true)
    (h2 : x.ndim = 2) :
    (∃ q r, qrA K x = .ok (q, r)
      ∧ q.blocks = x.blocks.map (fun p => (p.1, (K.qr p.2).1))
      ∧ r.blocks = x.blocks.map (fun p => ([col p.1, col p.1], (K.qr p.2).2)))
    ∧ (∃ u s vh, svdA K x = .ok (u, s, vh)
      ∧ u.blocks = x.blocks.map (fun p => (p.1, (K.svd p.2).1))
      ∧ s.blocks = x.blocks.map (fun p => (col p.1, (K.svd p.2).2.1))
      ∧ vh.blocks = x.blocks.map (fun p => ([col p.1, col p.1], (K.svd p.2).2.2))) :=
  ⟨⟨_, _, qrA_eq K hv h2, rfl, rightF_fields.blocks⟩,
   ⟨_, _, _, svdA_eq K hv h2, rfl, rfl, rightF_fields.blocks⟩⟩

/-- **eighA_valid.**  A successful `eigh` (the model raises unless the matrix has rank 2, charge
    zero and square blocks) returns a valid eigenvector array with the input's indices, charge,
    sectors and labels and no pending signs, and one eigenvalue block per stored block, keyed by
    the block's column charge and of that charge's size. -/
theorem eighA_valid [Neg R] (K : Kernels R) (hK : K.ShapeOk) (a : Arr R) (hv : a.validB = true)
    (w : BVec R) (v : Arr R) (h : eighA K a = .ok (w, v)) :
    a.ndim = 2 ∧ a.charge = a.sym.zero
    ∧ v.validB = true
    ∧ v.sym = a.sym ∧ v.fermi = a.fermi ∧ v.indices = a.indices ∧ v.charge = a.charge
    ∧ v.sectors = a.sectors ∧ v.oddpos = a.oddpos ∧ v.phases = []
    ∧ w.blocks.map (·.1) = a.sectors.map col
    ∧ (∀ c wb, (c, wb) ∈ w.blocks →
        ∃ m, alookup (a.indices.getD 1 default).cm c = some m ∧ wb.shape = [m] ∧ wb.wf = true) :=
  eighA_spec hK hv h

/-- **solveA_valid.**  `a` a valid matrix, `b` a valid vector over the same symmetry and of the
    same kind whose index has the direction of `a`'s row index; for fermionic arrays `a` even.
    A successful `solve` returns a valid vector on the conjugate of `a`'s column index with
    charge `c_b − c_A`. -/
theorem solveA_valid [Neg R] (K : Kernels R) (hK : K.ShapeOk) (a b : Arr R)
    (hva : a.validB = true) (hvb : b.validB = true)
    (hsym : a.sym = b.sym) (hfer : a.fermi = b.fermi)
    (hdir : (b.indices.getD 0 default).dual = (a.indices.getD 0 default).dual)
    (heven : a.fermi = true → a.parity = false)
    (x : Arr R) (h : solveA K a b = .ok x) :
    a.ndim = 2 ∧ b.ndim = 1 ∧ x.validB = true
    ∧ x.charge = a.sym.combine [b.charge, a.sym.sign a.charge true]
    ∧ x.indices = [(a.indices.getD 1 default).conj]
    ∧ x.sym = b.sym ∧ x.fermi = b.fermi ∧ x.oddpos = b.oddpos := by
  obtain ⟨h2, h1, hx⟩ := solveA_ok_eq hva h
  obtain ⟨f1, f2, f3, f4, f5, f6⟩ := syncIf_fields a
  obtain ⟨g1, g2, g3, g4, g5⟩ := syncB_fields (syncIf a) b
  have hva' := syncIf_valid a hva
  have hvb' := syncB_valid (syncIf a) b hvb
  have hBph := syncB_phases (syncIf a) b hvb (by rw [f2]; exact hfer)
  have hX := solveX_valid hK hva' hvb' (by rw [syncIf_ndim]; exact h2)
    (by simpa [Arr.ndim, g3] using h1) (by rw [f1, g1]; exact hsym)
    (by rw [f2, g2]; exact hfer) (by rw [f3, g3]; exact hdir)
    (by intro hf; rw [f2] at hf; simpa [Arr.parity, f1, f4] using heven hf) hBph
  obtain ⟨p1, p2, p3, p4, p5, p6⟩ := phaseFlip_fields (solveX K (syncIf a) (syncB (syncIf a) b)) [0]
  have hflds : x.charge = a.sym.combine [b.charge, a.sym.sign a.charge true]
      ∧ x.indices = [(a.indices.getD 1 default).conj]
      ∧ x.sym = b.sym ∧ x.fermi = b.fermi ∧ x.oddpos = b.oddpos := by
    rw [hx]
    split
    · rw [p4, p3, p1, p2, p6]
      simp only [solveX, f1, f3, f4, g1, g2, g4, g5, and_self]
    · simp only [solveX, f1, f3, f4, g1, g2, g4, g5, and_self]
  refine ⟨h2, h1, ?_, hflds⟩
  rw [hx]
  split
  next hc =>
    simp only [Bool.and_eq_true] at hc
    exact phaseFlip0_valid hX
      (by show (syncB (syncIf a) b).fermi = true; rw [g2, ← hfer, ← f2]; exact hc.1) hBph
  next => exact hX

/-! known finding "solve-odd-matrix": for a fermionic ODD matrix the result keeps `b`'s labels
    while its charge changes parity, so it is not a valid array. -/

def oddA : Arr Int :=
  { sym := .Z2, fermi := true, charge := (1, 0),
    indices := [Index.mk [((0, 0), 1), ((1, 0), 1)] false none,
                Index.mk [((0, 0), 1), ((1, 0), 1)] true none],
    blocks := [([(0, 0), (1, 0)], ⟨[1, 1], #[2]⟩), ([(1, 0), (0, 0)], ⟨[1, 1], #[3]⟩)],
    oddpos := [(0, false)] }

def evenB : Arr Int :=
  { sym := .Z2, fermi := true, charge := (0, 0),
    indices := [Index.mk [((0, 0), 1), ((1, 0), 1)] false none],
    blocks := [([(0, 0)], ⟨[1], #[5]⟩)] }

/-- all hypotheses of `solveA_valid` except evenness of `a` hold, the call succeeds, and the
    result is invalid (the clause that fails is the label-parity clause) -/
theorem solve_odd_matrix_invalid :
    oddA.validB = true ∧ evenB.validB = true ∧ oddA.sym = evenB.sym ∧ oddA.fermi = evenB.fermi
    ∧ (evenB.indices.getD 0 default).dual = (oddA.indices.getD 0 default).dual
    ∧ oddA.parity = true
    ∧ (solveA Kernels.shapeOnly oddA evenB).toOption.map Arr.validB = some false
    ∧ (solveA Kernels.shapeOnly oddA evenB).toOption.map Arr.invalidReason = some "oddpos-parity" := by
  decide +kernel

/-! ## truncation step of `svd_truncated` -/

theorem zip_map_filter {α β γ : Type} (l : List α) (f : α → β) (c : List Nat)
    (G : β × Nat → γ) :
    (((l.map f).zip c).filter (fun p => p.2 != 0)).map G
      = ((l.zip c).filter (fun p => p.2 != 0)).map (fun t => G (f t.1, t.2)) := by
  rw [List.zip_map_left, List.filter_map, List.map_map]
  rfl

/-- **applyCounts_valid.**  `u, s, vh` the factors `svdA` returns for a valid matrix `x`;
    `counts` aligned with `u.sectors`.  (`_hle`, each count at most the bond size of its sector, is
    the guard under which numpy's `[:n]` is the model's `sliceK`; the proof does not use it.)
    Then both truncated factors are valid,
    both carry the same new bond table — sorted, and a permutation of
    `{column charge ↦ count}` restricted to the non-zero counts — and the kept blocks are the
    old blocks sliced to the counts (sectors with count 0 are dropped), on `u`, `s` and `vh`. -/
theorem applyCounts_valid [Zero R] (K : Kernels R) (hK : K.ShapeOk) (x : Arr R)
    (hv : x.validB = true) (h2 : x.ndim = 2) (u : Arr R) (s : BVec R) (vh : Arr R)
    (hsvd : svdA K x = .ok (u, s, vh)) (counts : List Nat)
    (hlen : counts.length = u.sectors.length)
    (_hle : ∀ p ∈ u.blocks.zip counts, p.2 ≤ p.1.2.shape.getD 1 0) :
    ∃ u' s' vh' T, applyCounts u s vh counts = (u', s', vh')
      ∧ u'.validB = true ∧ vh'.validB = true
      ∧ (u'.indices.getD 1 default).cm = T ∧ (vh'.indices.getD 0 default).cm = T
      ∧ isSortedStrict Charge.lt (T.map (·.1)) = true
      ∧ T.Perm (((u.sectors.map col).zip counts).filter (fun p => p.2 != 0))
      ∧ u'.blocks = ((u.blocks.zip counts).filter (fun p => p.2 != 0)).map
          (fun t => (t.1.1, t.1.2.sliceK [0, 0] [t.1.2.shape.getD 0 0, t.2]))
      ∧ s'.blocks = ((s.blocks.zip counts).filter (fun p => p.2 != 0)).map
          (fun t => (t.1.1, t.1.2.sliceK [0] [t.2]))
      ∧ vh'.blocks = ((vh.blocks.zip counts).filter (fun p => p.2 != 0)).map
          (fun t => (t.1.1, t.1.2.sliceK [0, 0] [t.2, t.1.2.shape.getD 1 0])) := by
  obtain ⟨i0, i1, hi⟩ := ndim_two h2
  obtain ⟨rfl, rfl, rfl⟩ := svd_factors_eq hv h2 hsvd
  have hlen' : counts.length = x.blocks.length := by
    rw [hlen, leftF_sectors]; simp [Arr.sectors]
  obtain ⟨hsorted, _, hperm⟩ := newCm_props (counts := counts) hv h2 hlen'
  refine ⟨_, _, _, _, applyCounts_eq (S := fun b => (K.svd b).2.1) hv h2 hlen', truncU_valid hv h2 hi (facShape_svd hK) hlen',
    truncV_valid hv h2 hi (facShape_svd hK) hlen', ?_, ?_, hsorted, ?_, ?_, ?_, ?_⟩
  · simp [truncU, bondIx_eq hi, withCm_mk]
  · simp [truncV, bondIx_eq hi, withCm_mk, Index.conj]
  · refine hperm.trans (List.Perm.of_eq ?_)
    rw [leftF_sectors, Arr.sectors, List.map_map, List.zip_map_left, List.filter_map]
    rfl
  · simp only [leftF, truncU]
    rw [zip_map_filter]; rfl
  · simp only [truncS]
    rw [zip_map_filter]; rfl
  · simp only [truncV]
    rw [rightF_fields.blocks, zip_map_filter]; rfl

/-- **qr_reconstructs.**  Under the shape and value contracts of the QR kernel, for a valid
    ABELIAN matrix `x` the library's own contraction of the two factors over the bond
    (`_tensordot_blockwise`, axes `(1, 0)`) has the same element as `x` at every address: every
    offset inside the box of a stored block, and (both zero) every offset of a sector `x` does
    not store.  No ring law is used: each result sector receives exactly one aligned pair
    (C12 `matrix_sector_injective`), so nothing is accumulated across blocks. -/
theorem qr_reconstructs [Zero R] [Add R] [Mul R] [Neg R] (K : Kernels R) (hK : K.ShapeOk)
    (hC : K.QRContract) (x : Arr R) (hv : x.validB = true) (h2 : x.ndim = 2)
    (hf : x.fermi = false) :
    ∃ q r, qrA K x = .ok (q, r) ∧
      ∀ s off, AddrOf x s off →
        (tensordotBlockwise q r [0] [1] [0] [1]).elem s off = x.elem s off :=
  ⟨_, _, qrA_eq K hv h2, fun s off ha => qr_recon hK hC hv h2 hf s off ha⟩

/-- **svd_reconstructs.**  Likewise `(U · diag s) · VH = x` with `multiply_diagonal` on the bond
    axis of `U`. -/
theorem svd_reconstructs [Zero R] [Add R] [Mul R] [Neg R] (K : Kernels R) (hK : K.ShapeOk)
    (hC : K.SVDContract) (x : Arr R) (hv : x.validB = true) (h2 : x.ndim = 2)
    (hf : x.fermi = false) :
    ∃ u s vh, svdA K x = .ok (u, s, vh) ∧
      ∀ sec off, AddrOf x sec off →
        (tensordotBlockwise (multiplyDiagonal u s 1) vh [0] [1] [0] [1]).elem sec off
          = x.elem sec off :=
  ⟨_, _, _, svdA_eq K hv h2, fun s off ha => svd_recon hK hC hv h2 hf s off ha⟩

/-- **solve_solves** (abelian).  `a` a valid abelian matrix, `b` without pending signs, the solve
    kernel correct on the block pairs the call forms (`K.SolvesOn a b`).  Then the blockwise
    contraction `a · x` of the matrix with the returned solution has `b`'s element at every row
    of every block of `b` that is paired with a block of `a` (blocks of `b` whose row charge does
    not occur in `a` cannot be reproduced by any `x`; `solve` ignores them). -/
theorem solve_solves [Zero R] [Add R] [Mul R] [Neg R] (K : Kernels R) (hK : K.ShapeOk)
    (a b x : Arr R) (hva : a.validB = true) (hfa : a.fermi = false) (hbp : b.phases = [])
    (hS : K.SolvesOn a b) (h : solveA K a b = .ok x)
    (s : Sector) (arr bb : Blk R) (hm : (s, arr) ∈ a.blocks)
    (hl : alookup b.blocks [s.getD 0 (0, 0)] = some bb) (i : Nat) (hi : i < arr.shape.getD 0 0) :
    (tensordotBlockwise a x [0] [1] [0] []).elem [s.getD 0 (0, 0)] [i]
      = b.elem [s.getD 0 (0, 0)] [i] :=
  solve_recon hK hva hfa hbp hS h hm hl hi

/-- **qr_reconstructs_fermionic.**  Fermionic valid matrix `x` with ARBITRARY pending signs and
    at most one odd-position label, scalars with the three sign laws `NegLaws` (instances: `Int`,
    `GRat`).  Then `q @ r` (`FermionicArray.__matmul__`: flip of the right operand's first axis
    when it is dual, `phase_sync` of both, blockwise contraction, label resolution) succeeds,
    carries `x`'s label and has `x`'s elements (pending signs of `x` included) at every address.
    The inner-index flip `qr_fermionic` stores on `r` is exactly cancelled by the flip
    `__matmul__` applies (`ReconP.rightSync_blocks`). -/
theorem qr_reconstructs_fermionic [Zero R] [Add R] [Mul R] [Neg R] [NegLaws R] (K : Kernels R)
    (hK : K.ShapeOk) (hC : K.QRContract) (x : Arr R) (hv : x.validB = true) (h2 : x.ndim = 2)
    (hf : x.fermi = true) (hodd : x.oddpos.length ≤ 1) :
    ∃ q r y, qrA K x = .ok (q, r) ∧ Arr.matmulF q r = .ok y ∧ y.oddpos = x.oddpos
      ∧ ∀ s off, AddrOf x s off → y.elem s off = x.elem s off := by
  obtain ⟨y, hy, ho, _, he⟩ :=
    ReconP.qr_recon_fermi_labels hK hC hv h2 hf (ReconP.sortedLabels_of_short hodd)
  exact ⟨_, _, y, qrA_eq K hv h2, hy, ho, he⟩

/-- **svd_reconstructs_fermionic.**  Likewise `(U · diag s) @ VH = x`. -/
theorem svd_reconstructs_fermionic [Zero R] [Add R] [Mul R] [Neg R] [NegLaws R] (K : Kernels R)
    (hK : K.ShapeOk) (hC : K.SVDContract) (x : Arr R) (hv : x.validB = true) (h2 : x.ndim = 2)
    (hf : x.fermi = true) (hodd : x.oddpos.length ≤ 1) :
    ∃ u s vh y, svdA K x = .ok (u, s, vh) ∧ Arr.matmulF (multiplyDiagonal u s 1) vh = .ok y
      ∧ y.oddpos = x.oddpos
      ∧ ∀ sec off, AddrOf x sec off → y.elem sec off = x.elem sec off := by
  obtain ⟨y, hy, ho, _, he⟩ :=
    ReconP.svd_recon_fermi_labels hK hC hv h2 hf (ReconP.sortedLabels_of_short hodd)
  exact ⟨_, _, _, y, svdA_eq K hv h2, hy, ho, he⟩

/-! ## examples: the hypotheses are satisfiable, the statements say something on concrete data -/

/-- `Kernels.shapeOnly` (the kernel of the structure correspondence) meets the shape contract -/
example [Zero R] : (Kernels.shapeOnly : Kernels R).ShapeOk := shapeOnly_shapeOk

/-- abelian U1 matrix, total charge 1, row index outgoing, column index incoming, two blocks
    (2×1 and 1×3) -/
def exM : Arr Int :=
  { sym := .U1, fermi := false, charge := (1, 0),
    indices := [Index.mk [((0, 0), 2), ((1, 0), 1)] false none,
                Index.mk [((-1, 0), 1), ((0, 0), 3)] true none],
    blocks := [([(0, 0), (-1, 0)], ⟨[2, 1], #[1, 2]⟩), ([(1, 0), (0, 0)], ⟨[1, 3], #[3, 4, 5]⟩)] }

/-- fermionic U1 matrix, odd (charge 1), row index incoming, column index outgoing (so the right
    factor's bond index is dual and gets the flip), a pending sign on the second block -/
def exF : Arr Int :=
  { sym := .U1, fermi := true, charge := (1, 0),
    indices := [Index.mk [((0, 0), 2), ((1, 0), 1)] true none,
                Index.mk [((1, 0), 1), ((2, 0), 3)] false none],
    blocks := [([(0, 0), (1, 0)], ⟨[2, 1], #[1, 2]⟩), ([(1, 0), (2, 0)], ⟨[1, 3], #[3, 4, 5]⟩)],
    phases := [([(1, 0), (2, 0)], -1)],
    oddpos := [(3, false)] }

example : exM.validB = true ∧ exM.ndim = 2 ∧ exM.fermi = false := by decide
example : exF.validB = true ∧ exF.ndim = 2 ∧ exF.fermi = true ∧ exF.oddpos.length ≤ 1 := by decide

/-- qr of `exM`: both factors valid, bond `{-1 ↦ 1, 0 ↦ 1}` with the column index's direction on
    `q` and the opposite one on `r`, `r` has charge 0, diagonal sectors and no pending signs -/
example : ((qrA Kernels.shapeOnly exM).toOption.map (fun p =>
      (p.1.validB, p.2.validB, (p.1.indices.getD 1 default).cm, (p.1.indices.getD 1 default).dual,
       (p.2.indices.getD 0 default).dual, p.2.sectors, p.2.charge, p.2.phases))
    == some (true, true, [((-1, 0), 1), ((0, 0), 1)], true, false,
        [[(-1, 0), (-1, 0)], [(0, 0), (0, 0)]], (0, 0), [])) = true := by decide +kernel

/-- qr of the fermionic `exF`: the right factor's bond index is dual, so its odd diagonal sector
    `(1, 1)` carries the pending sign `-1` -/
example : ((qrA Kernels.shapeOnly exF).toOption.map (fun p =>
      (p.1.validB, p.2.validB, (p.1.indices.getD 1 default).cm, (p.1.indices.getD 1 default).dual,
       (p.2.indices.getD 0 default).dual, p.2.sectors, p.2.charge, p.2.phases, p.1.phases))
    == some (true, true, [((1, 0), 1), ((2, 0), 1)], false, true,
        [[(1, 0), (1, 0)], [(2, 0), (2, 0)]], (0, 0), [([(1, 0), (1, 0)], -1)],
        [([(1, 0), (2, 0)], -1)])) = true := by decide +kernel

/-- svd of `exF` truncated with counts `[1, 0]`: the second sector disappears from `u`, `s`, `vh`
    and from the bond table; both factors stay valid -/
example : ((svdA Kernels.shapeOnly exF).toOption.map (fun p =>
      let t := applyCounts p.1 p.2.1 p.2.2 [1, 0]
      (t.1.validB, t.2.2.validB, (t.1.indices.getD 1 default).cm, (t.2.2.indices.getD 0 default).cm,
       t.1.sectors, t.2.2.sectors, t.2.1.blocks.map (·.1)))
    == some (true, true, [((1, 0), 1)], [((1, 0), 1)], [[(0, 0), (1, 0)]], [[(1, 0), (1, 0)]],
        [(1, 0)])) = true := by decide +kernel

/-- the value contracts are satisfiable: `Kernels.trivialFactor` over `Int` (`b = I·b` for wide
    blocks, `b = b·I` for tall ones) -/
example : (Kernels.trivialFactor).ShapeOk ∧ (Kernels.trivialFactor).QRContract
    ∧ (Kernels.trivialFactor).SVDContract :=
  ⟨trivialFactor_shapeOk, trivialFactor_qr, trivialFactor_svd⟩

/-- `q @ r` on the fermionic example with that kernel: the pending sign of `x` arrives in the
    data (`-3, -4, -5`), no pending sign and `x`'s label on the product -/
example : ((qrA Kernels.trivialFactor exF).toOption.bind (fun p =>
      (Arr.matmulF p.1 p.2).toOption.map (fun y =>
        (y.blocks.map (fun q => (q.1, q.2.shape, q.2.data.toList)), y.phases, y.oddpos)))
    == some ([([(0, 0), (1, 0)], [2, 1], [1, 2]), ([(1, 0), (2, 0)], [1, 3], [-3, -4, -5])],
        [], [(3, false)])) = true := by decide +kernel

/-- charge-zero matrix with square blocks for `eigh` -/
def exE : Arr Int :=
  { sym := .U1, fermi := false, charge := (0, 0),
    indices := [Index.mk [((0, 0), 2), ((1, 0), 1)] false none,
                Index.mk [((0, 0), 2), ((1, 0), 1)] true none],
    blocks := [([(0, 0), (0, 0)], ⟨[2, 2], #[1, 2, 2, 1]⟩), ([(1, 0), (1, 0)], ⟨[1, 1], #[7]⟩)] }

example : exE.validB = true
    ∧ (eighA Kernels.shapeOnly exE).toOption.map
        (fun p => (p.2.validB, p.1.blocks.map (fun q => (q.1, q.2.shape))))
      = some (true, [((0, 0), [2]), ((1, 0), [1])]) := by decide +kernel

/-- `solve` with a charged matrix (charge 1) and a charged right-hand side (charge 1): the
    solution has charge 0 and lives on the conjugate of the column index -/
def exA : Arr Int :=
  { sym := .U1, fermi := false, charge := (1, 0),
    indices := [Index.mk [((1, 0), 2), ((2, 0), 1)] false none,
                Index.mk [((0, 0), 2), ((1, 0), 1)] true none],
    blocks := [([(1, 0), (0, 0)], ⟨[2, 2], #[1, 2, 3, 4]⟩), ([(2, 0), (1, 0)], ⟨[1, 1], #[7]⟩)] }

def exB : Arr Int :=
  { sym := .U1, fermi := false, charge := (1, 0),
    indices := [Index.mk [((1, 0), 2), ((2, 0), 1)] false none],
    blocks := [([(1, 0)], ⟨[2], #[5, 6]⟩)] }

example : exA.validB = true ∧ exB.validB = true ∧ exA.sym = exB.sym ∧ exA.fermi = exB.fermi
    ∧ (exB.indices.getD 0 default).dual = (exA.indices.getD 0 default).dual
    ∧ (exA.fermi = true → exA.parity = false)
    ∧ ((solveA Kernels.shapeOnly exA exB).toOption.map
        (fun x => (x.validB, x.charge, x.sectors, (x.indices.getD 0 default).dual))
      == some (true, (0, 0), [[(0, 0)]], false)) = true := by decide +kernel

/-- a kernel whose `solve` returns the right-hand side: correct on identity blocks -/
def solveIdK : Kernels Int := { Kernels.shapeOnly with solve := fun _ b => b }

def exI : Arr Int :=
  { sym := .U1, fermi := false, charge := (1, 0),
    indices := [Index.mk [((1, 0), 1), ((2, 0), 1)] false none,
                Index.mk [((0, 0), 1), ((1, 0), 1)] true none],
    blocks := [([(1, 0), (0, 0)], ⟨[1, 1], #[1]⟩), ([(2, 0), (1, 0)], ⟨[1, 1], #[1]⟩)] }

def exIb : Arr Int :=
  { sym := .U1, fermi := false, charge := (1, 0),
    indices := [Index.mk [((1, 0), 1), ((2, 0), 1)] false none],
    blocks := [([(1, 0)], ⟨[1], #[5]⟩)] }

/-- on `exI`, `exIb` (identity blocks) a kernel solves as soon as it returns the first entry of
    the right-hand side -/
theorem solvesOn_exI (K : Kernels Int)
    (hK : ∀ bb : Blk Int, (K.solve ⟨[1, 1], #[1]⟩ bb).get [0] = bb.get [0]) :
    K.SolvesOn exI exIb := by
  intro s arr bb hm hl i hi
  simp only [exI, List.mem_cons, List.not_mem_nil, or_false, Prod.mk.injEq] at hm
  rcases hm with ⟨rfl, rfl⟩ | ⟨rfl, rfl⟩
  · have hi0 : i = 0 := by
      have : i < 1 := hi
      omega
    subst hi0
    show (0 : Int) + 1 * (K.solve _ bb).get [0] = bb.get [0]
    rw [hK, Int.zero_add, Int.one_mul]
  · -- `b` has no block on the row charge of the second block
    have h0 : alookup exIb.blocks [(2, 0)] = none := by decide
    have : alookup exIb.blocks [(2, 0)] = some bb := hl
    rw [h0] at this
    cases this

/-- the hypotheses of `solve_solves` are satisfiable -/
example : exI.validB = true ∧ exI.fermi = false ∧ exIb.phases = [] ∧ solveIdK.SolvesOn exI exIb
    ∧ (solveA solveIdK exI exIb).toOption.isSome = true :=
  ⟨by decide, rfl, rfl, solvesOn_exI _ (fun _ => rfl), by decide +kernel⟩

end SymmModel.C11
