/-
  Property C05, part c — the fermionic fuse (`FermionicArray.fuse`, model `Arr.fuseF`).

  `fuseF a groups` is `_fuse_core` applied to the sign-adjusted operand
      signAdj a groups = phaseSync (phaseTranspose? vperm (phaseFlip axesFlip (transposeF a perm)))
  over the positions `newGroupsF` the groups have after the transposition (consecutive runs, so the
  inner permutation is the identity).  Vocabulary (namespace `FuseP`, `Proofs/FuseFermi*.lean`):
    `dualGroupsF a groups`   the (transposed) groups whose first axis is dual
    `axesFlipF a groups`     the non-dual legs of the dual groups
    `vpermF a groups`        the virtual permutation reversing every dual group
    `fuseSignT a groups S`   sign applied to sector `S` of the transposed array
                             = flipSign(axesFlip)(S) · koszul(parities S)(vperm)
    `fuseSignF a groups s`   total sign for the ORIGINAL sector `s`
                             = fuseSignT (permuted s perm) · koszul(parities s)(perm)
    `Lazy.sgnI σ x`          `x` or `-x` according to the sign `σ = ±1`

  The theorems hold for arbitrary lists of groups, insert strategy.  `unfuseF_elem` has certificate
  form: for ANY valid fermionic array with a fused axis, the value of `unfuseF` is the value at the
  joined address times `unfuseSign`, which has the same two sources as the sign of `fuseF` (flip of
  the non-dual new legs, virtual reversal of the new legs when the fused index is dual).
  The factorisation of `koszul(parities S)(vperm)` into one reversal sign `(-1)^(k(k-1)/2)` per dual group
  (`koszul_vperm_groups`, `fuseSign_groups`) and the round trip `unfuseF_fuseF` are in part d
  (`Props/C05d.lean`).
-/
import SymmModel.Proofs.FuseFermi7
import SymmModel.Props.C05b

namespace SymmModel.C05
open SymmModel FuseP SymmModel.Lazy

variable {R : Type} [Zero R] [Neg R]

/-- the rank-3 example of part a as a fermionic array (charge 0: no odd-position label), and a
    variant with a pending sign -/
def exF : Arr Int := { exA with fermi := true }
def exF' : Arr Int := { exA with fermi := true, phases := [([(0, 0), (1, 0), (1, 0)], -1)] }

example : exF.validB = true ∧ exF.fermi = true ∧ exF'.validB = true
    ∧ groupsOkB [[2, 1]] exF.ndim = true ∧ groupsOkB [[0], [1, 2]] exF.ndim = true := by decide
/-- the dual group (1,2) (first axis dual), sector with odd charges on both legs: flip of the
    non-dual leg 2 gives −1, reversal of two odd charges gives −1, the transposition is trivial:
    total sign +1.  Grouping (2,1) instead (first axis not dual, no flip / reversal) leaves only
    the Koszul sign −1 of exchanging the two odd legs. -/
example : view (Arr.fuseF exF [[0], [1, 2]] .insert true)
    = some [([(0, 0), (0, 0)], [2, 3], [1, 3, 4, 2, 5, 6])]
    ∧ (dualGroupsF exF [[0], [1, 2]] = [[1, 2]]) ∧ axesFlipF exF [[0], [1, 2]] = [2]
    ∧ vpermF exF [[0], [1, 2]] = [0, 2, 1]
    ∧ fuseSignF exF [[0], [1, 2]] [(0, 0), (1, 0), (1, 0)] = 1
    ∧ fuseSignF exF [[2, 1]] [(0, 0), (1, 0), (1, 0)] = -1 := by
  decide +kernel

/-- **structure of the fermionic fuse**: under the guard it is the abelian `_fuse_core` of the
    sign-adjusted, synchronised (no pending signs), valid operand, over consecutive groups at the
    same position, with the identity as inner permutation -/
theorem fuseF_struct (a : Arr R) (groups : List (List Nat)) (mode : FuseMode) (e : Bool)
    (hv : a.validB = true) (hf : a.fermi = true) (hg : groupsOkB groups a.ndim = true) :
    Arr.fuseF a groups mode e = fuseCore (signAdj a groups) (newGroupsF groups a.duals) mode
    ∧ (signAdj a groups).validB = true ∧ (signAdj a groups).phases = []
    ∧ (signAdj a groups).indices = permuted a.indices (calcFuseGroupInfo groups a.duals).perm
    ∧ groupsOkB (newGroupsF groups a.duals) (signAdj a groups).ndim = true
    ∧ (calcFuseGroupInfo (newGroupsF groups a.duals) (signAdj a groups).duals).position
        = (calcFuseGroupInfo groups a.duals).position
    ∧ (calcFuseGroupInfo (newGroupsF groups a.duals) (signAdj a groups).duals).perm = List.range a.ndim := by
  have hok := groupsOk_iff.1 hg
  have hfld := signAdj_fields a groups
  have hnd4 := signAdj_ndim (a := a) hok
  have hpos := signAdj_position (a := a) hok
  have hperm := signAdj_perm (a := a) hok
  refine ⟨fuseF_eq a groups mode e hok, (ValidP.validB_iff _).2 (signAdj_valid a groups hv hf hok), hfld.1,
    hfld.2.1, ?_, hpos, by rw [hperm, duals_length]⟩
  rw [groupsOk_iff, hnd4, ← duals_length]
  exact newGroupsF_ok (hokD hok)

/-- **the sign-adjusted operand on the value view**: the transposed value times the flip of the
    non-dual legs of the dual groups times the Koszul sign of the virtual reversal of the dual
    groups -/
theorem signAdj_elem [LawfulNeg R] (a : Arr R) (groups : List (List Nat)) (S : Sector) (J : List Nat) :
    (signAdj a groups).elem S J
      = sgnI (flipSign a.sym (axesFlipF a groups) S
              * (if (dualGroupsF a groups).isEmpty then 1
                 else koszul (S.map a.sym.parity) (some (vpermF a groups))))
          ((a.transposeF (calcFuseGroupInfo groups a.duals).perm).elem S J) :=
  FuseP.signAdj_elem a groups S J

/-- the sign per original sector: Koszul sign of the permutation, one flip factor per dual group
    (`-1` iff an odd number of the group's non-dual legs carry an odd charge), Koszul sign of the
    virtual reversal of the dual groups -/
theorem fuseSign_formula (a : Arr R) (groups : List (List Nat)) (s : Sector) :
    fuseSignF a groups s
      = ((dualGroupsF a groups).map (fun g => flipSign a.sym (g.filter (fun ax =>
            !((a.transposeF (calcFuseGroupInfo groups a.duals).perm).indices.getD ax default).dual))
            (permuted s (calcFuseGroupInfo groups a.duals).perm))).foldr (· * ·) 1
        * (if (dualGroupsF a groups).isEmpty then 1
           else koszul ((permuted s (calcFuseGroupInfo groups a.duals).perm).map a.sym.parity)
             (some (vpermF a groups)))
        * koszul (a.parities s) (some (calcFuseGroupInfo groups a.duals).perm) := by
  unfold fuseSignF fuseSignT
  rw [fuseSignT_flip]

/-- **fuseF_elem.**  Every element of the fermionic fused array is the element of the original at
    the address given by `splitAddr` on every fused axis and un-permuting — as in the abelian
    `fuse_elem`, read from the fused array's own tables — times the explicit sign `fuseSignF` of
    the original sector. -/
theorem fuseF_elem [LawfulNeg R] (a : Arr R) (groups : List (List Nat)) (e : Bool)
    (hv : a.validB = true) (hf : a.fermi = true) (hg : groupsOkB groups a.ndim = true) :
    let gi := calcFuseGroupInfo groups a.duals
    ∃ x, Arr.fuseF a groups .insert e = .ok x ∧
      ∀ ns B, alookup x.blocks ns = some B → ∀ i, inBox B.shape i = true →
        ∃ segs : List (Sector × List Nat), segs.length = groups.length
          ∧ (∀ g gaxes, groups[g]? = some gaxes →
              (gaxes.length = 1 → segs[g]? = some ([ns.getD (gi.position + g) (0, 0)], [i.getD (gi.position + g) 0]))
              ∧ (gaxes.length ≠ 1 →
                  splitAddr (x.indices.getD (gi.position + g) default) (ns.getD (gi.position + g) (0, 0))
                    (i.getD (gi.position + g) 0) = segs[g]?))
          ∧ ∀ s offs, s.length = a.ndim → offs.length = a.ndim →
              permuted s gi.perm = ns.take gi.position ++ (segs.map (·.1)).flatten
                ++ ns.drop (gi.position + groups.length) →
              permuted offs gi.perm = i.take gi.position ++ (segs.map (·.2)).flatten
                ++ i.drop (gi.position + groups.length) →
              x.elem ns i = sgnI (fuseSignF a groups s) (a.elem s offs) := by
  have hok := groupsOk_iff.1 hg
  obtain ⟨h0, hM⟩ := fuseF_elemM a groups e hv hf hok
  obtain ⟨_, hT⟩ := fuseF_elemT a groups e hv hf hok
  have hpos := signAdj_position (a := a) hok
  have hlen : (newGroupsF groups a.duals).length = groups.length := newGroupsF_length _ _
  refine ⟨_, h0, ?_⟩
  intro ns B hB i hi
  obtain ⟨h1, _, _, _, _⟩ := hT ns B hB i hi
  refine ⟨(List.range groups.length).map (segM (signAdj a groups) (newGroupsF groups a.duals) ns i), by simp, ?_, ?_⟩
  · intro g gaxes hgg
    have hgl := getElem?_lt hgg
    have hseg : ((List.range groups.length).map (segM (signAdj a groups) (newGroupsF groups a.duals) ns i))[g]?
        = some (segM (signAdj a groups) (newGroupsF groups a.duals) ns i g) := by
      simp [List.getElem?_map, List.getElem?_range hgl]
    constructor
    · intro hl1
      have hm : multiB (newGroupsF groups a.duals) g = false := by
        rw [multiB_newGroupsF]; simp [multiB, hgg, hl1]
      rw [hseg]; simp only [segM, hm, Bool.false_eq_true, if_false]
      show some ([ns.getD ((giM (signAdj a groups) (newGroupsF groups a.duals)).position + g) (0, 0)],
        [i.getD ((giM (signAdj a groups) (newGroupsF groups a.duals)).position + g) 0]) = _
      rw [hpos]
    · intro hl1
      have hm : multiB groups g = true := multiB_iff.2 ⟨_, hgg, hl1⟩
      rw [hseg]
      have := h1 g hgl hm
      show splitAddr ((newIdxM (signAdj a groups) (newGroupsF groups a.duals)).getD _ default) _ _ = _
      have hix : (newIdxM (signAdj a groups) (newGroupsF groups a.duals)).getD
          ((calcFuseGroupInfo groups a.duals).position + g) default
          = ixM (signAdj a groups) (newGroupsF groups a.duals) g := by
        simp only [ixM]; rw [hpos]
      rw [hix]; exact this
  · intro s offs hs ho hK hJ
    apply hM ns B hB i hi s offs hs ho
    · rw [hK]
      simp only [expandK, hpos, hlen, List.map_map]
      rfl
    · rw [hJ]
      simp only [expandJ, hpos, hlen, List.map_map]
      rfl

/-- **unfuseF_elem (certificate form).**  For any valid fermionic array whose index at `axis` is a
    fused index: `unfuseF` succeeds, replaces the index by its sub-indices, and its value at the
    sector `ns` with `ns[axis]` expanded into the sub-sector `ss` of the extent of `ns[axis]` is the
    value of the input at the joined offset (`st + ravel subshape (sub-offsets)` = `joinAddr`)
    times `unfuseSign`: `+1` for a non-dual fused index, otherwise
    `flipSign(non-dual new legs) · koszul(parities)(reversal of the new legs)`.  All other sectors
    of the result have value zero. -/
theorem unfuseF_elem [LawfulNeg R] (a : Arr R) (axis : Nat) (ix : Index) (subs : List Index)
    (exts : Extents) (hv : a.validB = true) (hix : a.indices[axis]? = some ix)
    (hsub : ix.sub = some (subs, exts)) :
    ∃ y, Arr.unfuseF a axis = .ok y ∧ y.indices = replaceWithSeq a.indices axis subs
      ∧ (∀ ns B, (ns, B) ∈ a.blocks → ∀ e ss st d, alookup exts (ns.getD axis (0, 0)) = some e →
          startOf e ss = some (st, d) →
          ∃ subshape, Arr.blockShape? subs ss = some subshape ∧ prod subshape = d
            ∧ ∀ J, inBox (replaceWithSeq B.shape axis subshape) J = true →
                y.elem (replaceWithSeq ns axis ss) J
                  = sgnI (unfuseSign a ix subs axis (replaceWithSeq ns axis ss))
                      (a.elem ns (J.take axis ++ [st + ravel subshape ((J.drop axis).take subshape.length)]
                        ++ J.drop (axis + subshape.length))))
      ∧ (∀ K, (∀ ns B e ss st d, (ns, B) ∈ a.blocks → alookup exts (ns.getD axis (0, 0)) = some e →
            startOf e ss = some (st, d) → K ≠ replaceWithSeq ns axis ss) → ∀ J, y.elem K J = 0) :=
  unfuseF_elemM a axis ix subs exts hv hix hsub

theorem unfuseSign_def (a : Arr R) (ix : Index) (subs : List Index) (axis : Nat) (K : Sector) :
    unfuseSign a ix subs axis K
      = if ix.dual then
          flipSign a.sym ((subs.zipIdx.filter (fun p => !p.1.dual)).map (fun p => axis + p.2)) K
            * koszul (K.map a.sym.parity) (some ((List.range (a.ndim + subs.length - 1)).map (fun ax =>
                if axis ≤ ax && ax < axis + subs.length then axis + subs.length - (ax - axis) - 1 else ax)))
        else 1 := rfl

/-- fermionic round trip on the example: fuse (1,2) then unfuse axis 1 gives back the array -/
example : view (do let x ← Arr.fuseF exF' [[0], [1, 2]] .insert true; Arr.unfuseF x 1)
    = some [([(0, 0), (0, 0), (0, 0)], [2, 1, 1], [1, 2]), ([(0, 0), (1, 0), (1, 0)], [2, 2, 1], [-3, -4, -5, -6])] := by
  decide +kernel

end SymmModel.C05
