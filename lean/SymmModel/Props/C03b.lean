/-
  Property C03 (main theorem) — "Fermionic operations follow graded tensor semantics":
  `tensordotF_refines_graded`.

  About the model definition `Arr.tensordotF` (Model/Fermi.lean; = symmray
  `tensordot_fermionic`: transpose both operands, virtual reversal of `b`'s contracted axes,
  ket-bra flip on ONE operand chosen by `a.size ≤ b.size`, `phase_sync`, abelian contraction,
  `resolve_combined_oddpos`) in `mode = blockwise`, for valid fermionic operands of ANY rank,
  symmetry, sparsity pattern, total charge (even or odd), pending signs, labels, and any
  admissible choice of contracted axes (`tdotAdmissibleB`: same symmetry, `contractibleB`,
  distinct in-range axes), over any scalar type `R` with the laws `GradedP.SignRing`
  (instances: `Int`, `GRat`).

  The SPECIFICATION does not mention the sign table (`phases`) nor any of the sign operations
  (vocabulary: `Proofs/Graded.lean`, namespace `SymmModel.GradedP`; `Proofs/TdotLemmas.lean`,
  namespace `SymmModel.TdotP`):
    `storedPairs a b left xa xb right s`  stored sector pairs `(sa, sb)` with equal contracted
                                          parts whose free parts make up `s`            (C02)
    `contractPair a b xa xb oL oR (sa,sb)` `Σ_k a.elem sa (merge k oL) * b.elem sb (merge k oR)`
                                          over the contracted box (value view `Arr.elem`) (C02)
    `gradedSign a b xa xb sa sb`  = koszul (parities sa) (left ++ xa)
                                  · koszul (parities sb) (xb ++ right)
                                  · (-1)^(k(k-1)/2),  k = number of odd contracted charges
                                  · (-1)^(number of odd contracted charges on a KET leg of `a`)
    `gradedContract a b xa xb s oL oR` = Σ_{(sa,sb) ∈ storedPairs} gradedSign · contractPair
    `OddposP.mergeOddpos pa la lb`  the label sort of `resolve_combined_oddpos` (C04), giving the
                                    merged labels and the global label sign `ph`.
  `sgnI σ x` is `σ · x` for a sign `σ = ±1` kept as an integer (`-x` if `σ = -1`, else `x`).

  Corollaries: `matmulF_refines_graded` (`a @ b`, ranks 1 and 2) and `traceF_refines_graded`.
  Elsewhere: `mode = fused / auto` return the blockwise result (`C06.tensordotF_modes_agree_weak`,
  `tensordotF_every_mode` in Proofs/FuseCommuteF8.lean); `einsumF` is in Props/C09b.lean.
-/
import SymmModel.Proofs.Graded
import SymmModel.Props.C02

namespace SymmModel.C03
open SymmModel SymmModel.GradedP SymmModel.TdotP
open SymmModel.Lazy (sgnI)

variable {R : Type}

theorem gradedSign_def (a b : Arr R) (xa xb : List Nat) (sa sb : Sector) :
    gradedSign a b xa xb sa sb
      = koszul (a.parities sa) (some (freeAxes a.ndim xa ++ xa))
        * koszul (b.parities sb) (some (xb ++ freeAxes b.ndim xb))
        * (-1) ^ (oddContracted a xa sa * (oddContracted a xa sa - 1) / 2)
        * (-1) ^ ketOdd a xa sa
    ∧ oddContracted a xa sa = ((permuted sa xa).filter a.sym.parity).length
    ∧ ketOdd a xa sa = ((xa.filter (fun ax => !(a.indices.getD ax default).dual)).filter
        (fun ax => a.sym.parity (sa.getD ax (0, 0)))).length :=
  ⟨rfl, rfl, rfl⟩

theorem gradedContract_def [AddMonoid R] [Mul R] [Neg R] (a b : Arr R) (xa xb : List Nat)
    (s : Sector) (oL oR : List Nat) :
    gradedContract a b xa xb s oL oR
      = ((storedPairs a b (freeAxes a.ndim xa) xa xb (freeAxes b.ndim xb) s).map (fun p =>
          sgnI (gradedSign a b xa xb p.1 p.2) (contractPair a b xa xb oL oR p))).sum := rfl

theorem freeAxes_eq (n : Nat) (axes : List Nat) : without (List.range n) axes = freeAxes n axes :=
  without_range n axes

/-- Valid fermionic operands, admissible contracted axes, blockwise
    mode.  If the model's `tensordot_fermionic` returns `c`, then the label sort succeeds with
    merged labels `out` and sign `ph`, `c` carries `out` and the combined charge, and at every
    address `(L ++ Rr, oL ++ oR)` of the result — `oL` as long as `a`'s free axes, the offsets in
    the box the index tables give to the sector — the value of `c` (stored number times pending
    sign, the global label sign included) is `ph` times the graded contraction of the VALUES of
    `a` and `b` (their own pending signs included). -/
theorem tensordotF_refines_graded [AddMonoid R] [Mul R] [Neg R] [SignRing R] (a b c : Arr R)
    (xa xb : List Nat)
    (ha : a.validB = true) (hb : b.validB = true) (hfa : a.fermi = true) (hfb : b.fermi = true)
    (hadm : ValidP.tdotAdmissibleB a b xa xb = true)
    (h : a.tensordotF b (.pair (xa.map Int.ofNat) (xb.map Int.ofNat)) .blockwise = .ok c) :
    ∃ out ph, OddposP.mergeOddpos a.parity a.oddpos b.oddpos = .ok (out, ph)
      ∧ c.oddpos = out
      ∧ c.charge = a.sym.combine [a.charge, b.charge]
      ∧ ∀ (L Rr : Sector) (oL oR : List Nat), oL.length = (freeAxes a.ndim xa).length →
          inBox (Arr.blockShapeD (without a.indices xa ++ without b.indices xb) (L ++ Rr))
            (oL ++ oR) = true →
          c.elem (L ++ Rr) (oL ++ oR) = sgnI ph (gradedContract a b xa xb (L ++ Rr) oL oR) := by
  obtain ⟨out, ph, h1, h2, h3, h4⟩ := tensordotF_graded a b c xa xb ha hb hfa hfb hadm h
  exact ⟨out, ph, h1, h2, h3, fun L Rr oL oR hoL ho => h4 (L ++ Rr) oL oR hoL ho⟩

/-- the same with the sector key `s` not split into its two free parts (for keys that are not made
    of two stored free parts both sides are `0`) -/
theorem tensordotF_refines_graded_at [AddMonoid R] [Mul R] [Neg R] [SignRing R] (a b c : Arr R)
    (xa xb : List Nat)
    (ha : a.validB = true) (hb : b.validB = true) (hfa : a.fermi = true) (hfb : b.fermi = true)
    (hadm : ValidP.tdotAdmissibleB a b xa xb = true)
    (h : a.tensordotF b (.pair (xa.map Int.ofNat) (xb.map Int.ofNat)) .blockwise = .ok c) :
    ∃ out ph, OddposP.mergeOddpos a.parity a.oddpos b.oddpos = .ok (out, ph)
      ∧ c.oddpos = out
      ∧ c.charge = a.sym.combine [a.charge, b.charge]
      ∧ ∀ (s : Sector) (oL oR : List Nat), oL.length = (freeAxes a.ndim xa).length →
          inBox (Arr.blockShapeD (without a.indices xa ++ without b.indices xb) s) (oL ++ oR) = true →
          c.elem s (oL ++ oR) = sgnI ph (gradedContract a b xa xb s oL oR) :=
  tensordotF_graded a b c xa xb ha hb hfa hfb hadm h

/-- with pairwise-distinct labels on the two operands the label sort cannot fail and its sign is
    explicit: `(-1)^([a odd]·|labels of b| + inversions of (labels a ++ labels b) w.r.t. oddLt)` (C04) -/
theorem tensordotF_refines_graded_distinct_labels [AddMonoid R] [Mul R] [Neg R] [SignRing R]
    (a b c : Arr R) (xa xb : List Nat)
    (ha : a.validB = true) (hb : b.validB = true) (hfa : a.fermi = true) (hfb : b.fermi = true)
    (hadm : ValidP.tdotAdmissibleB a b xa xb = true)
    (hd : (a.oddpos ++ b.oddpos).Pairwise (fun x y => x.1 ≠ y.1))
    (h : a.tensordotF b (.pair (xa.map Int.ofNat) (xb.map Int.ofNat)) .blockwise = .ok c) :
    c.oddpos.Perm (a.oddpos ++ b.oddpos) ∧ c.oddpos.Pairwise (fun x y => oddLt x y = true)
      ∧ ∀ (L Rr : Sector) (oL oR : List Nat), oL.length = (freeAxes a.ndim xa).length →
          inBox (Arr.blockShapeD (without a.indices xa ++ without b.indices xb) (L ++ Rr))
            (oL ++ oR) = true →
          c.elem (L ++ Rr) (oL ++ oR)
            = sgnI ((-1 : Int) ^ (a.parity.toNat * b.oddpos.length
                + KoszulP.invR OddposP.oddR (a.oddpos ++ b.oddpos)))
                (gradedContract a b xa xb (L ++ Rr) oL oR) := by
  obtain ⟨out, ph, h1, h2, _, h4⟩ := tensordotF_refines_graded a b c xa xb ha hb hfa hfb hadm h
  obtain ⟨out', p1, p2, p3⟩ := OddposP.mergeOddpos_spec a.parity a.oddpos b.oddpos hd
  rw [p3] at h1
  simp only [Except.ok.injEq, Prod.mk.injEq] at h1
  obtain ⟨rfl, rfl⟩ := h1
  rw [h2]
  refine ⟨p1, p2, ?_⟩
  intro L Rr oL oR hoL ho
  rw [h4 L Rr oL oR hoL ho, KoszulP.sgn_eq_pow]

/-- (i) the ket-bra flip gives the same sign whichever operand receives it: flipping the odd
    charges on `a`'s non-dual contracted legs (branch `a.size ≤ b.size`) equals flipping the odd
    charges on `b`'s dual contracted legs (other branch), because matched legs have opposite
    directions and, in an aligned sector pair, equal charges -/
theorem ketbra_flip_branch_independent (a b : Arr R) (xa xb : List Nat) (hsym : a.sym = b.sym)
    (hc : ValidP.contractibleB a b xa xb = true)
    (hnA : xa.Nodup) (hA : ∀ i ∈ xa, i < a.ndim) (hnB : xb.Nodup) (hB : ∀ i ∈ xb, i < b.ndim)
    (sa sb : Sector) (hsa : sa.length = a.ndim) (hsb : sb.length = b.ndim)
    (hal : permuted sb xb = permuted sa xa) :
    Lazy.flipSign a.sym
        (((List.range a.ndim).drop (a.ndim - xa.length)).filter (fun ax =>
          !((permuted a.indices (freeAxes a.ndim xa ++ xa)).getD ax default).dual))
        (permuted sa (freeAxes a.ndim xa ++ xa))
      = Lazy.flipSign b.sym
        ((List.range xa.length).filter (fun ax =>
          ((permuted b.indices (xb ++ freeAxes b.ndim xb)).getD ax default).dual))
        (permuted sb (xb ++ freeAxes b.ndim xb)) := by
  rw [ket_sign_left a xa hnA hA sa hsa, ket_sign_right a b xa xb hsym (contractible_len hc)
      (fun j hj => (contractible_at hc j hj).2) hA hnB hB sa sb hsa hsb hal]

/-- (ii) the operands handed to the abelian kernel are re-indexed copies of `a`, `b` (free axes
    first resp. last, no pending signs) whose values carry sector signs `τA`, `τB` multiplying,
    on every aligned sector pair, to the sign of the specification — in both branches -/
theorem prepared_operands [AddMonoid R] [Mul R] [Neg R] [SignRing R] (a b : Arr R) (xa xb : List Nat)
    (ha : a.validB = true) (hb : b.validB = true) (hfa : a.fermi = true) (hfb : b.fermi = true)
    (hsym : a.sym = b.sym) (hc : ValidP.contractibleB a b xa xb = true)
    (hnA : xa.Nodup) (hA : ∀ i ∈ xa, i < a.ndim) (hnB : xb.Nodup) (hB : ∀ i ∈ xb, i < b.ndim) :
    ∃ τA τB, Prepared a (ValidP.tdF34 a b xa xb).1.phaseSync (freeAxes a.ndim xa ++ xa) τA
      ∧ Prepared b (ValidP.tdF34 a b xa xb).2.phaseSync (xb ++ freeAxes b.ndim xb) τB
      ∧ ∀ sa ∈ a.sectors, ∀ sb ∈ b.sectors, permuted sb xb = permuted sa xa →
          τA sa * τB sb = gradedSign a b xa xb sa sb :=
  prepared_pair a b xa xb ha hb hfa hfb hsym hc hnA hA hnB hB

def ixk (d : Bool) : Index := Index.mk [((0, 0), 1), ((1, 0), 2)] d none
def ixi (d : Bool) : Index := Index.mk [((0, 0), 2), ((1, 0), 1)] d none
def mkB (s : List Nat) (c : Int) : Blk Int := Blk.ofFn s (fun i => (ravel s i : Int) + c)

/-- `a[i,k,l]`: ket `i`, bra `k`, ket `l`; odd charge; label 1; pending sign on `(1,1,1)` -/
def gA : Arr Int :=
  { sym := .Z2, fermi := true, indices := [ixi false, ixk true, ixk false], charge := (1, 0),
    blocks := [([(1,0),(0,0),(0,0)], mkB [1,1,1] 2), ([(0,0),(1,0),(0,0)], mkB [2,2,1] 1),
               ([(0,0),(0,0),(1,0)], mkB [2,1,2] (-3)), ([(1,0),(1,0),(1,0)], mkB [1,2,2] 4)],
    phases := [([(1,0),(1,0),(1,0)], -1)], oddpos := [(1, false)] }
/-- `b[l',k',j]`: bra `l'`, ket `k'`, bra `j`; odd charge; label 3; pending sign on `(0,1,0)` -/
def gB : Arr Int :=
  { sym := .Z2, fermi := true, indices := [ixk true, ixk false, ixi true], charge := (1, 0),
    blocks := [([(1,0),(0,0),(0,0)], mkB [2,1,2] 1), ([(0,0),(1,0),(0,0)], mkB [1,2,2] (-2)),
               ([(0,0),(0,0),(1,0)], mkB [1,1,1] 5), ([(1,0),(1,0),(1,0)], mkB [2,2,1] 3)],
    phases := [([(0,0),(1,0),(0,0)], -1)], oddpos := [(3, false)] }

/-- the hypotheses hold: `a`'s axes `(k,l) = (1,2)` against `b`'s `(k',l') = (1,0)` -/
example : gA.validB = true ∧ gB.validB = true ∧ gA.fermi = true ∧ gB.fermi = true
    ∧ ValidP.tdotAdmissibleB gA gB [1, 2] [1, 0] = true
    ∧ (gA.oddpos ++ gB.oddpos).Pairwise (fun x y => x.1 ≠ y.1) := by decide +kernel

/-- … the call succeeds; result sectors `(1,1)` and `(0,0)`, labels merged, even charge, and the
    global label sign `-1` stored as a pending sign -/
example : (match gA.tensordotF gB (.pair [1, 2] [1, 0]) .blockwise with
    | .ok c => (c.sectors, c.oddpos, c.charge, c.phases.length,
        c.elem [(1,0),(1,0)] [0,0], c.elem [(0,0),(0,0)] [1,1], c.elem [(0,0),(0,0)] [0,1])
    | .error _ => ([], [], (9, 9), 0, 0, 0, 0))
    = ([[(1,0),(1,0)], [(0,0),(0,0)]], [(1, false), (3, false)], (0, 0), 2, -113, -1, -13) := by
  decide +kernel

/-- … and the specification evaluates to the same numbers: label sign `-1`, pair signs `±1` -/
example : OddposP.mergeOddpos gA.parity gA.oddpos gB.oddpos = .ok ([(1, false), (3, false)], -1)
    ∧ gradedContract gA gB [1, 2] [1, 0] [(1,0),(1,0)] [0] [0] = 113
    ∧ gradedContract gA gB [1, 2] [1, 0] [(0,0),(0,0)] [1] [1] = 1
    ∧ gradedContract gA gB [1, 2] [1, 0] [(0,0),(0,0)] [0] [1] = 13
    ∧ (storedPairs gA gB [0] [1, 2] [1, 0] [2] [(0,0),(0,0)]).map
        (fun p => gradedSign gA gB [1, 2] [1, 0] p.1 p.2) = [1, -1]
    ∧ (storedPairs gA gB [0] [1, 2] [1, 0] [2] [(1,0),(1,0)]).map
        (fun p => gradedSign gA gB [1, 2] [1, 0] p.1 p.2) = [1, -1] := by decide +kernel

/-- `FermionicArray.__matmul__` for valid fermionic operands of rank
    1 or 2 (vector·vector, vector·matrix, matrix·vector, matrix·matrix) whose last resp. first
    legs are contractible: the graded contraction of `a`'s last with `b`'s first axis; labels,
    label sign and charge as for `tensordot`. -/
theorem matmulF_refines_graded [AddMonoid R] [Mul R] [Neg R] [SignRing R] (a b c : Arr R)
    (ha : a.validB = true) (hb : b.validB = true) (hfa : a.fermi = true) (hfb : b.fermi = true)
    (hna : a.ndim = 1 ∨ a.ndim = 2) (hnb : b.ndim = 1 ∨ b.ndim = 2)
    (hadm : ValidP.tdotAdmissibleB a b [a.ndim - 1] [0] = true)
    (h : a.matmulF b = .ok c) :
    ∃ out ph, OddposP.mergeOddpos a.parity a.oddpos b.oddpos = .ok (out, ph)
      ∧ c.oddpos = out ∧ c.charge = a.sym.combine [a.charge, b.charge]
      ∧ ∀ (s : Sector) (oL oR : List Nat), oL.length = (freeAxes a.ndim [a.ndim - 1]).length →
          inBox (Arr.blockShapeD (without a.indices [a.ndim - 1] ++ without b.indices [0]) s)
            (oL ++ oR) = true →
          c.elem s (oL ++ oR) = sgnI ph (gradedContract a b [a.ndim - 1] [0] s oL oR) := by
  obtain ⟨hsym, hc, hnA, hnB, hA, hB⟩ := ValidP.tdotAdmissibleB_iff.mp hadm
  have hA' : ∀ i ∈ [a.ndim - 1], i < a.ndim := fun i hi => by simpa using hA i hi
  have hB' : ∀ i ∈ [0], i < b.ndim := fun i hi => by simpa using hB i hi
  have fa := Lazy.Full.of_valid ha hfa
  have fb := Lazy.Full.of_valid hb hfb
  have hva := (ValidP.validB_iff a).mp ha
  have hvb := (ValidP.validB_iff b).mp hb
  have hsa := Arr.shapesOk_of_validB ha
  have hsb := Arr.shapesOk_of_validB hb
  have hpA : freeAxes a.ndim [a.ndim - 1] ++ [a.ndim - 1] = List.range a.ndim := by
    rcases hna with e | e <;> rw [e] <;> decide
  have hpB : [0] ++ freeAxes b.ndim [0] = List.range b.ndim := by
    rcases hnb with e | e <;> rw [e] <;> decide
  have hmm : ∀ X Y : Arr R, X.ndim = a.ndim → Y.ndim = b.ndim →
      matmulA X Y = .ok (tensordotBlockwise X Y
        (freeAxes X.ndim ((List.range a.ndim).drop (a.ndim - [a.ndim - 1].length)))
        ((List.range a.ndim).drop (a.ndim - [a.ndim - 1].length)) (List.range [a.ndim - 1].length)
        (freeAxes Y.ndim (List.range [a.ndim - 1].length))) := by
    intro X Y hX hY
    unfold matmulA
    rw [hX, hY]
    rcases hna with e | e <;> rcases hnb with e' | e' <;> rw [e, e'] <;> rfl
  obtain ⟨ix, hix⟩ : ∃ ix, b.indices[0]? = some ix := by
    have : 0 < b.indices.length := by
      show 0 < b.ndim
      rcases hnb with e | e <;> omega
    exact ⟨b.indices[0], List.getElem?_eq_getElem this⟩
  have hix0 : b.indices.getD 0 default = ix := by
    rw [List.getD_eq_getElem?_getD, hix]; rfl
  have hix0' : b.indices[0]?.getD default = ix := by rw [hix]; rfl
  unfold Arr.matmulF at h
  have hguard : (a.ndim > 2 || b.ndim > 2) = false := by
    rcases hna with e | e <;> rcases hnb with e' | e' <;> rw [e, e'] <;> decide
  rw [hix] at h
  simp only [hguard, Bool.false_eq_true, if_false, bind, Except.bind, pure, Except.pure] at h
  have TA : Twist a a (fun _ => 1) := Twist.refl fa.sign
  obtain ⟨b1, φB, hb1, TB, hvb1, hφ⟩ : ∃ (b1 : Arr R) (φB : Sector → Int),
      b1 = (if ix.dual = true then b.phaseFlip [0] else b) ∧ Twist b b1 φB ∧ ValidP.Valid b1
      ∧ ∀ sb, φB sb = Lazy.flipSign b.sym
          ((List.range 1).filter (fun ax => (b.indices.getD ax default).dual)) sb := by
    cases hd : ix.dual
    · refine ⟨b, fun _ => 1, by simp, Twist.refl fb.sign, hvb, ?_⟩
      intro sb
      have : (List.range 1).filter (fun ax => (b.indices.getD ax default).dual) = [] := by
        simp [List.range_succ, hix0', hd]
      rw [this]; rfl
    · refine ⟨b.phaseFlip [0], _, by simp, (Twist.refl fb.sign).phaseFlip [0],
        ValidP.phaseFlip_valid b [0] hvb hfb, ?_⟩
      intro sb
      have : (List.range 1).filter (fun ax => (b.indices.getD ax default).dual) = [0] := by
        simp [List.range_succ, hix0', hd]
      rw [this, Int.mul_one]
  rw [← hb1] at h
  have PX := prepared_of_twist_id a a _ _ fa hsa hpA TA
    (Arr.shapesOk_of_validB ((ValidP.validB_iff _).mpr (ValidP.phaseSync_valid _ hva)))
  have PY := prepared_of_twist_id b b1 _ _ fb hsb hpB TB
    (Arr.shapesOk_of_validB ((ValidP.validB_iff _).mpr (ValidP.phaseSync_valid _ hvb1)))
  have hXn : a.phaseSync.ndim = a.ndim := rfl
  have hYn : b1.phaseSync.ndim = b.ndim := by
    show b1.indices.length = _
    rw [TB.indices]; rfl
  rw [hmm a.phaseSync b1.phaseSync hXn hYn] at h
  simp only [] at h
  have hb1o : b1.oddpos = b.oddpos ∧ b1.charge = b.charge := by
    rw [hb1]; split
    · exact ⟨(ValidP.phaseFlip_fields b [0]).2.2.2.1, (ValidP.phaseFlip_fields b [0]).2.2.1⟩
    · exact ⟨rfl, rfl⟩
  refine graded_of_prepared a b a.phaseSync b1.phaseSync c [a.ndim - 1] [0] (fun _ => 1) φB hsa hsb
    hnA hA' hnB hB' rfl (shapes_match hsa hsb hc hA' hB') PX PY ?_ rfl rfl hb1o.1
    (show a.sym.combine [a.charge, b1.charge] = _ by rw [hb1o.2]) h
  -- the flip of `b`'s first leg is the ket-bra sign; all other signs of the specification are `1`
  intro sa m1 sb m2 m3
  have hk := ket_sign_right a b [a.ndim - 1] [0] hsym rfl (fun j hj => (contractible_at hc j hj).2)
    hA' hnB hB' sa sb
    (Arr.sector_length hsa m1) (Arr.sector_length hsb m2) m3
  have hbi : permuted b.indices (List.range b.ndim) = b.indices := permuted_range b.indices
  rw [hpB, hbi] at hk
  have hsbp : permuted sb (List.range b.ndim) = sb := by
    have := permuted_range sb
    rwa [Arr.sector_length hsb m2] at this
  rw [hsbp] at hk
  show 1 * φB sb = _
  rw [hφ sb, Int.one_mul]
  have hk' : Lazy.flipSign b.sym ((List.range 1).filter (fun ax => (b.indices.getD ax default).dual)) sb
      = (-1 : Int) ^ ketOdd a [a.ndim - 1] sa := hk
  rw [hk']
  unfold gradedSign
  rw [hpA, hpB, KoszulP.koszul_id', KoszulP.koszul_id', oddContracted_single]
  simp

/-- the specification of the trace, spelled out: over the stored diagonal sectors `(c, c)`, the
    plain trace of the value view, times `-1` when the pair is ket-then-bra (leg 0 not dual) and
    the charge is odd -/
theorem gradedTrace_def [AddMonoid R] [Mul R] [Neg R] (a : Arr R) :
    gradedTrace a
      = ((a.sectors.filter (fun s => s[0]? == s[1]?)).map (fun s =>
          sgnI (if !(a.indices.getD 0 default).dual && a.sym.parity (s.getD 0 (0, 0)) then -1 else 1)
            (((List.range (min ((Arr.blockShapeD a.indices s).getD 0 0)
                ((Arr.blockShapeD a.indices s).getD 1 0))).map (fun i => a.elem s [i, i])).sum))).sum :=
  rfl

/-- `FermionicArray.trace` of a valid fermionic matrix with one bra and
    one ket leg is the graded trace of its value view (pending signs included). -/
theorem traceF_refines_graded [AddMonoid R] [Mul R] [Neg R] [SignRing R] (a : Arr R) (l r : Index)
    (ha : a.validB = true) (hfa : a.fermi = true) (hidx : a.indices = [l, r])
    (hlr : l.dual = !r.dual) : a.traceF = .ok (gradedTrace a) := by
  have fa := Lazy.Full.of_valid ha hfa
  have hva := (ValidP.validB_iff a).mp ha
  have hn : a.ndim = 2 := by show a.indices.length = 2; rw [hidx]; rfl
  have hl0 : (a.indices.getD 0 default).dual = l.dual := by rw [hidx]; rfl
  unfold Arr.traceF
  rw [hidx]
  simp only []
  cases hl : l.dual
  · -- ket-bra: flip the odd charges on leg 0
    have hr : r.dual = true := by rw [hl] at hlr; revert hlr; cases r.dual <;> simp
    simp only [hr, Bool.not_false, Bool.and_self, Bool.not_true, Bool.false_eq_true, if_false,
      if_true]
    rw [traceA_of_twist ((Twist.refl fa.sign).phaseFlip [0]) hn (Arr.shapesOk_of_validB
      ((ValidP.validB_iff _).mpr (ValidP.phaseSync_valid _ (ValidP.phaseFlip_valid a [0] hva hfa))))]
    refine congrArg Except.ok (congrArg List.sum (List.map_congr_left fun s _ => ?_))
    rw [hl0, hl]
    congr 1
    unfold Lazy.flipSign Lazy.flipOdd
    rw [show s.getD 0 (0, 0) = s[0]?.getD (0, 0) from List.getD_eq_getElem?_getD ..]
    cases hpar : a.sym.parity (s[0]?.getD (0, 0)) <;> simp [hpar]
  · -- bra-ket: as it stands
    have hr : r.dual = false := by rw [hl] at hlr; revert hlr; cases r.dual <;> simp
    simp only [hr, Bool.not_false, Bool.and_self, if_true]
    rw [traceA_of_twist (Twist.refl fa.sign) hn (Arr.shapesOk_of_validB
      ((ValidP.validB_iff _).mpr (ValidP.phaseSync_valid _ hva)))]
    refine congrArg Except.ok (congrArg List.sum (List.map_congr_left fun s _ => ?_))
    rw [hl0, hl]
    rfl

/-- `a[i,k]` (bra, ket), `b[k',j]` (bra, ket): the contracted pair is ket-then-bra; both odd -/
def mA : Arr Int :=
  { sym := .Z2, fermi := true, indices := [ixi true, ixk false], charge := (1, 0),
    blocks := [([(1,0),(0,0)], mkB [1,1] 2), ([(0,0),(1,0)], mkB [2,2] 1)],
    phases := [([(0,0),(1,0)], -1)], oddpos := [(1, false)] }
def mB : Arr Int :=
  { sym := .Z2, fermi := true, indices := [ixk true, ixi false], charge := (1, 0),
    blocks := [([(1,0),(0,0)], mkB [2,2] (-1)), ([(0,0),(1,0)], mkB [1,1] 5)],
    phases := [], oddpos := [(3, false)] }
/-- a ket-bra matrix with a pending sign on the odd sector -/
def tA : Arr Int :=
  { sym := .Z2, fermi := true, indices := [ixk false, ixk true], charge := (0, 0),
    blocks := [([(0,0),(0,0)], mkB [1,1] 7), ([(1,0),(1,0)], mkB [2,2] 1)],
    phases := [([(1,0),(1,0)], -1)], oddpos := [] }

example : mA.validB = true ∧ mB.validB = true ∧ mA.fermi = true ∧ mB.fermi = true
    ∧ (mA.ndim = 1 ∨ mA.ndim = 2) ∧ (mB.ndim = 1 ∨ mB.ndim = 2)
    ∧ ValidP.tdotAdmissibleB mA mB [mA.ndim - 1] [0] = true := by decide +kernel

example : (match mA.matmulF mB with
    | .ok c => (c.sectors, c.oddpos, c.charge,
        c.elem [(0,0),(0,0)] [0,1], c.elem [(0,0),(0,0)] [1,0], c.elem [(1,0),(1,0)] [0,0])
    | .error _ => ([], [], (9, 9), 0, 0, 0))
    = ([[(1,0),(1,0)], [(0,0),(0,0)]], [(1, false), (3, false)], (0, 0), -4, -1, -10)
    ∧ OddposP.mergeOddpos mA.parity mA.oddpos mB.oddpos = .ok ([(1, false), (3, false)], -1)
    ∧ gradedContract mA mB [1] [0] [(0,0),(0,0)] [0] [1] = 4
    ∧ gradedContract mA mB [1] [0] [(0,0),(0,0)] [1] [0] = 1
    ∧ gradedContract mA mB [1] [0] [(1,0),(1,0)] [0] [0] = 10 := by decide +kernel

example : tA.validB = true ∧ tA.fermi = true ∧ tA.indices = [ixk false, ixk true]
    ∧ (ixk false).dual = !(ixk true).dual := ⟨by decide +kernel, rfl, rfl, rfl⟩
/-- `7 + (-1)·(-(1 + 4)) = 12`: pending sign and ket-bra sign both act on the odd sector -/
example : tA.traceF = .ok 12 ∧ gradedTrace tA = 12 := by decide +kernel

/-! ## the driver's scalar type is covered -/

attribute [local instance] C02.addCommMonoidGRat in
instance signRingGRat : @SignRing GRat C02.addCommMonoidGRat.toAddMonoid _ _ where
  neg_neg x := Lazy.GRat.ext' (Rat.neg_neg x.re) (Rat.neg_neg x.im)
  neg_zero := by decide +kernel
  neg_add x y := Lazy.GRat.ext' (by show -(x.re + y.re) = -x.re + -y.re; ring)
    (by show -(x.im + y.im) = -x.im + -y.im; ring)
  neg_mul x y := Lazy.GRat.ext'
    (by show (-x.re) * y.re - (-x.im) * y.im = -(x.re * y.re - x.im * y.im); ring)
    (by show (-x.re) * y.im + (-x.im) * y.re = -(x.re * y.im + x.im * y.re); ring)
  mul_neg x y := Lazy.GRat.ext'
    (by show x.re * (-y.re) - x.im * (-y.im) = -(x.re * y.re - x.im * y.im); ring)
    (by show x.re * (-y.im) + x.im * (-y.re) = -(x.re * y.im + x.im * y.re); ring)

/-- the main theorem with exactly the instances the driver is compiled with -/
theorem tensordotF_refines_graded_GRat (a b c : Arr GRat) (xa xb : List Nat)
    (ha : a.validB = true) (hb : b.validB = true) (hfa : a.fermi = true) (hfb : b.fermi = true)
    (hadm : ValidP.tdotAdmissibleB a b xa xb = true)
    (h : @Arr.tensordotF GRat GRat.instZero GRat.instAdd GRat.instMul GRat.instNeg a b
      (.pair (xa.map Int.ofNat) (xb.map Int.ofNat)) .blockwise = .ok c) :
    ∃ out ph, OddposP.mergeOddpos a.parity a.oddpos b.oddpos = .ok (out, ph)
      ∧ c.oddpos = out
      ∧ c.charge = a.sym.combine [a.charge, b.charge]
      ∧ ∀ (L Rr : Sector) (oL oR : List Nat), oL.length = (freeAxes a.ndim xa).length →
          inBox (Arr.blockShapeD (without a.indices xa ++ without b.indices xb) (L ++ Rr))
            (oL ++ oR) = true →
          @Arr.elem GRat GRat.instZero GRat.instNeg c (L ++ Rr) (oL ++ oR)
            = sgnI ph (@gradedContract GRat C02.addCommMonoidGRat.toAddMonoid GRat.instMul GRat.instNeg
                a b xa xb (L ++ Rr) oL oR) :=
  @tensordotF_refines_graded GRat C02.addCommMonoidGRat.toAddMonoid GRat.instMul GRat.instNeg
    signRingGRat a b c xa xb ha hb hfa hfb hadm h

end SymmModel.C03
