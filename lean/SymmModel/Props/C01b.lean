/-
  Property C01, second part — the remaining public operations, so that
  `Prog.preserves_valid_all` covers every public operation named in the property's quantifier:
  construct (all constructors), fuse in `mode="concat"`, einsum, reshape, solve,
  svd_truncated, align_axes.

  Same conventions as Props/C01.lean: every theorem is about the model's decidable predicate
  `Arr.validB`, for all symmetries, ranks, tables, sparsity patterns and any scalar type `R`;
  form "`validB` operands ∧ call admissible → `validB` result"; admissibility hypotheses are
  decidable Booleans except the kernel SHAPE contract (`Kernels.ShapeOk`, satisfied by
  `Kernels.shapeOnly`) and the contract of a user fill function (`FillOk`).

  Proofs: Proofs/ValidMore2Construct.lean, ValidMore2Concat.lean, ValidMore2Einsum.lean,
  ValidMore2Reshape.lean, ValidMore2Cert.lean, ValidMore2Linalg.lean (wrapping
  Props/C11.lean's `solveA_valid`, `applyCounts_valid`), ValidMore2Prog.lean.

  Hypotheses that go beyond "operands valid", each with a machine-checked counterexample in
  the cited file:
    * constructors: the sign labels must match the parity of the charge (`oddposOkB`): the
      model, like `oddpos_parse`, only rejects "odd, no label"
      (`construct_odd_even_labels_invalid`, … in ValidMore2Construct.lean);
    * einsum: an output label must occur once in the input (`exDiag` in ValidMore2Einsum.lean:
      a "diagonal" `aa->a` returns a sector that is not charge-conserving);
    * solve: fermionic matrices must be even (`C11.solve_odd_matrix_invalid`, known finding);
    * reshape: the `fuse` calls of the plan must get distinct in-range axes
      (`reshapeAdmissibleB`, evaluated along the model's execution); this follows from the
      plan certificate `Plan.wfB` that the harness's plan monitor evaluates
      (`reshapeArr_valid_of_certificate`).  The planner's plan is certified for every input
      without sparsely fused or zero-size axes (`ReshapeP.reshape_plan_certified`, from the
      planner theorem of C07c); an unconditional statement would need it for all inputs.
-/
import SymmModel.Props.C01
import SymmModel.Proofs.ValidMore2Prog

namespace SymmModel.C01
open SymmModel SymmModel.ValidP

variable {R : Type}

/-- `AbelianArray.__init__` / `FermionicArray.__init__`: well-formed indices, valid charge, every
    given block charge-conserving (for the given or the inferred charge) with the shape its tables
    give, labels matching the parity (`constructOkB`) -/
theorem construct_valid {sym : Sym} {fermi : Bool} {indices : List Index} {charge : Option Charge}
    {blocks : List (Sector × Blk R)} {oddpos : List (Int × Bool)} {a : Arr R}
    (hok : constructOkB sym fermi indices charge blocks oddpos = true)
    (h : construct sym fermi indices charge blocks oddpos = .ok a) : a.validB = true :=
  ValidP.construct_valid hok h

example : constructOkB exA.sym false exA.indices (some (0, 0)) exA.blocks [] = true
    ∧ constructOkB exF.sym true exF.indices none exF.blocks exF.oddpos = true := by decide

/-- `from_blocks`: index tables are inferred from the blocks (`fromBlocksOkB`: charges valid,
    positive sizes, blocks well formed, every sector conserves the charge, labels match) -/
theorem fromBlocks_valid {sym : Sym} {fermi : Bool} {blocks : List (Sector × Blk R)}
    {duals : List Bool} {charge : Option Charge} {oddpos : List (Int × Bool)} {a : Arr R}
    (hok : fromBlocksOkB sym fermi blocks duals charge oddpos = true)
    (h : fromBlocks sym fermi blocks duals charge oddpos = .ok a) : a.validB = true :=
  ValidP.fromBlocks_valid hok h

example : fromBlocksOkB .Z2 true exF.blocks [false, true, false] (some (1, 0)) [(7, false)] = true := by
  decide

/-- `from_dense`: always valid for valid charge labels (`dense` need not even be well formed) -/
theorem fromDense_valid [Zero R] {sym : Sym} {fermi : Bool} {dense : Blk R}
    {maps : List (List Charge)} {duals : List Bool} {charge : Option Charge}
    {oddpos : List (Int × Bool)} {a : Arr R}
    (hok : fromDenseOkB sym fermi maps charge oddpos = true)
    (h : fromDense sym fermi dense maps duals charge oddpos = .ok a) : a.validB = true :=
  ValidP.fromDense_valid hok h

/-- `from_fill_fn` (and the random constructors built on it) -/
theorem fromFillFn_valid {sym : Sym} {fermi : Bool} {indices : List Index} {charge : Option Charge}
    {fill : Sector → List Nat → Blk R} {oddpos : List (Int × Bool)} {a : Arr R}
    (hok : fromFillFnOkB sym fermi indices charge oddpos = true) (hfill : FillOk indices fill)
    (h : fromFillFn sym fermi indices charge fill oddpos = .ok a) : a.validB = true :=
  ValidP.fromFillFn_valid hok hfill h

/-- `AbelianArray.reshape` / `FermionicArray.reshape`: unfuse, fuse and expand_dims steps -/
theorem reshapeArr_valid [Zero R] [Neg R] (a r : Arr R) (newshape : List Int)
    (hv : a.validB = true) (hadm : reshapeAdmissibleB a newshape = true)
    (h : reshapeArr a newshape = .ok r) : r.validB = true :=
  (validB_iff _).mpr (ValidP.reshapeArr_valid a r newshape ((validB_iff a).mp hv) hadm h)

/-- … in particular whenever the planner's plan passes the certificate `Plan.wfB` -/
theorem reshapeArr_valid_of_certificate [Zero R] [Neg R] (a r : Arr R) (newshape : List Int)
    (hv : a.validB = true) (hcert : reshapeCertifiedB a newshape = true)
    (h : reshapeArr a newshape = .ok r) : r.validB = true :=
  (validB_iff r).mpr (ValidP.reshapeArr_valid_of_certificate a r newshape ((validB_iff a).mp hv) hcert h)

theorem reshapeAdmissible_of_certified [Zero R] [Neg R] (a : Arr R) (newshape : List Int)
    (hcert : reshapeCertifiedB a newshape = true) : reshapeAdmissibleB a newshape = true :=
  ValidP.reshapeAdmissible_of_certified a newshape hcert

theorem applyPlan_valid [Zero R] [Neg R] (a r : Arr R)
    (plan : List Nat × List (List (List Nat)) × List Nat) (hv : a.validB = true)
    (hadm : planAdmissibleB a plan = true) (h : applyPlan a plan = .ok r) : r.validB = true :=
  (validB_iff _).mpr (ValidP.applyPlan_valid a r plan ((validB_iff a).mp hv) hadm h)

example : reshapeCertifiedB exA [3, 2, 3] = true ∧ reshapeAdmissibleB exA [3, 2, 3] = true
    ∧ reshapeCertifiedB exF [6, -1] = true := by decide +kernel

/-- `AbelianArray.einsum` (traces and permutations).  `einsumAdmissibleB`: one label per axis,
    output labels distinct and occurring once in the input, every other label occurs exactly
    twice, on two indices of opposite direction with the same charge table -/
theorem einsumA_valid [Zero R] [Add R] (a r : Arr R) (lhs rhs : List Nat) (hv : a.validB = true)
    (hf : a.fermi = false) (hadm : einsumAdmissibleB a lhs rhs = true)
    (h : einsumA a lhs rhs = .ok r) : r.validB = true :=
  (validB_iff r).mpr (ValidP.einsumA_valid a r lhs rhs ((validB_iff a).mp hv) hf hadm h)

/-- `FermionicArray.einsum`: sort of the axes, transpose, `phase_sync`, the abelian kernel -/
theorem einsumF_valid [Zero R] [Add R] [Neg R] (a r : Arr R) (lhs rhs : List Nat)
    (hv : a.validB = true) (hf : a.fermi = true) (hadm : einsumAdmissibleB a lhs rhs = true)
    (h : Arr.einsumF a lhs rhs = .ok r) : r.validB = true :=
  (validB_iff r).mpr (ValidP.einsumF_valid a r lhs rhs ((validB_iff a).mp hv) hf hadm h)

/-- fermionic Z2 rank-3 array whose first two indices can be traced -/
def exH : Arr Int :=
  { sym := .Z2, fermi := true,
    indices := [.mk [((0, 0), 1), ((1, 0), 2)] false none,
                .mk [((0, 0), 1), ((1, 0), 2)] true none,
                .mk [((0, 0), 1), ((1, 0), 1)] false none],
    charge := (1, 0),
    blocks := [([(0, 0), (0, 0), (1, 0)], ⟨[1, 1, 1], #[1]⟩),
               ([(1, 0), (1, 0), (1, 0)], ⟨[2, 2, 1], #[2, 3, 4, 5]⟩),
               ([(1, 0), (0, 0), (0, 0)], ⟨[2, 1, 1], #[6, 7]⟩)],
    phases := [([(1, 0), (1, 0), (1, 0)], -1)],
    oddpos := [(5, false)] }

example : exH.validB = true ∧ einsumAdmissibleB exH [0, 0, 1] [1] = true
    ∧ einsumAdmissibleB exA [4, 7] [7, 4] = true := by decide

theorem fuseCore_concat_valid [Zero R] (a r : Arr R) (groups : List (List Nat))
    (hv : a.validB = true) (hf : a.fermi = false) (hadm : fuseAdmissibleB groups a.ndim = true)
    (h : fuseCore a groups .concat = .ok r) : r.validB = true :=
  (validB_iff r).mpr (ValidP.fuseCore_concat_valid a r groups ((validB_iff a).mp hv) hf hadm h)

/-- `AbelianArray.fuse(…, mode="concat")`, empty groups included: blocks built by
    `_fuse_blocks_via_concat` (zero blocks for missing sub-sectors) have the shapes of the fused
    tables and distinct keys -/
theorem fuseA_concat_valid [Zero R] (a r : Arr R) (groups : List (List Nat)) (expandEmpty : Bool)
    (hv : a.validB = true) (hf : a.fermi = false) (hadm : fuseAdmissibleB groups a.ndim = true)
    (h : fuseA a groups .concat expandEmpty = .ok r) : r.validB = true :=
  (validB_iff r).mpr (ValidP.fuseA_concat_valid a r groups expandEmpty ((validB_iff a).mp hv) hf hadm h)

theorem fuseF_concat_valid [Zero R] [Neg R] (a r : Arr R) (groups : List (List Nat))
    (expandEmpty : Bool) (hv : a.validB = true) (hf : a.fermi = true)
    (hadm : fuseAdmissibleB groups a.ndim = true)
    (h : Arr.fuseF a groups .concat expandEmpty = .ok r) : r.validB = true :=
  (validB_iff r).mpr (ValidP.fuseF_concat_valid a r groups expandEmpty ((validB_iff a).mp hv) hf hadm h)

example : fuseAdmissibleB [[2, 0], [], [1]] exH.ndim = true := by decide

/-- `solve(a, b)` (abelian, and fermionic with an even matrix), wrapping `C11.solveA_valid` -/
theorem solveA_valid [Neg R] (K : Kernels R) (hK : K.ShapeOk) (a b x : Arr R)
    (hv : a.validB = true) (hadm : solveAdmissibleB a b = true) (h : solveA K a b = .ok x) :
    x.validB = true :=
  ValidP.solve_valid K hK a b x hv hadm h

/-- `svd_truncated` = `svd` followed by the truncation step with ANY counts aligned with the
    sectors and at most the bond sizes (e.g. those `truncCounts` of Model/Trunc.lean selects):
    both truncated factors are valid; wrapping `C11.applyCounts_valid` -/
theorem svdTruncated_valid [Zero R] (K : Kernels R) (hK : K.ShapeOk) (x u vh : Arr R) (s : BVec R)
    (counts : List Nat) (hv : x.validB = true) (hadm : svdTruncAdmissibleB K x counts = true)
    (h : svdA K x = .ok (u, s, vh)) :
    (applyCounts u s vh counts).1.validB = true ∧ (applyCounts u s vh counts).2.2.validB = true :=
  ValidP.svdTrunc_valid K hK x u vh s counts hv hadm h

example : (Kernels.shapeOnly : Kernels Int).ShapeOk := LinalgLemmas.shapeOnly_shapeOk

example : svdTruncAdmissibleB Kernels.shapeOnly exA [1, 2] = true
    ∧ svdTruncAdmissibleB Kernels.shapeOnly exA [0, 1] = true := by decide +kernel

/-- `align_axes(a, b, axes)` is `drop_misaligned_sectors`: both returned arrays are valid -/
theorem alignAxes_valid (a b : Arr R) (axesA axesB : List Nat) (ha : a.validB = true)
    (hb : b.validB = true) :
    (dropMisaligned a b axesA axesB).1.validB = true ∧ (dropMisaligned a b axesA axesB).2.validB = true :=
  dropMisaligned_valid a b axesA axesB ha hb

/-- one step of the extended operation set (`OpAll`: every `Op` of Props/C01.lean, plus reshape,
    einsum, fuse in concat mode, solve, the two factors of svd_truncated, both components of
    align_axes) -/
theorem OpAll.preserves_valid [Zero R] [Add R] [Mul R] [Neg R] [Conj R] (op : OpAll R) (a r : Arr R)
    (hv : a.validB = true) (hK : op.KernelOk) (hadm : op.admissible a = true)
    (h : op.apply a = .ok r) : r.validB = true :=
  (validB_iff _).mpr (ValidP.OpAll.apply_valid op a r ((validB_iff a).mp hv) hK hadm h)

theorem Prog.preserves_valid_ops [Zero R] [Add R] [Mul R] [Neg R] [Conj R] (ops : List (OpAll R))
    (a r : Arr R) (hv : a.validB = true) (hK : ∀ op ∈ ops, op.KernelOk)
    (h : runOps ops a = .ok r) : r.validB = true :=
  (validB_iff _).mpr (ValidP.runOps_valid ops a r ((validB_iff a).mp hv) hK h)

/-- **all of C01**: a program is a constructor call (`Ctor`: a given valid array, `__init__`,
    `from_blocks`, `from_dense`, `from_fill_fn`) followed by any finite sequence of operations;
    whatever it returns is a valid array.  `ProgAll.run` stops with an error at the first
    inadmissible call or model error. -/
theorem Prog.preserves_valid_all [Zero R] [Add R] [Mul R] [Neg R] [Conj R] (p : ProgAll R)
    (r : Arr R) (hfill : p.ctor.FillOk) (hK : ∀ op ∈ p.ops, op.KernelOk)
    (h : p.run = .ok r) : r.validB = true :=
  (validB_iff _).mpr (ValidP.ProgAll.run_valid p r hfill hK h)

/-- abelian: `__init__`, unfuse, fuse (concat), reshape (unfuses again), einsum (a permutation),
    align_axes, fuse (insert), truncated svd -/
def progAllA : ProgAll Int :=
  { ctor := .construct .U1 false exA.indices (some (0, 0)) exA.blocks [],
    ops := [.base (.unfuse 1), .fuseConcat [[1, 2]] true, .reshape [3, 2, 3],
            .einsum [0, 1, 2] [2, 0, 1], .alignL exA [0] [0], .base (.fuse [[1, 2]] true),
            .svdTruncU Kernels.shapeOnly [1, 1]] }

/-- fermionic: `from_blocks`, a phase operation, fuse (concat, with an empty group), unfuse_all,
    einsum with a trace -/
def progAllF : ProgAll Int :=
  { ctor := .fromBlocks .Z2 true exH.blocks [false, true, false] (some (1, 0)) [(5, false)],
    ops := [.base (.phaseFlip [0]), .fuseConcat [[2, 1], []] true, .base .unfuseAll,
            .einsum [0, 1, 0, 2] [1, 2], .base (.expandDims 0 none none)] }

/-- `from_dense` then `solve` against a fixed vector -/
def progAllS : ProgAll Int :=
  { ctor := .fromDense .U1 false ⟨[2, 2], #[2, 0, 0, 3]⟩ [[(0, 0), (1, 0)], [(0, 0), (1, 0)]]
      [false, true] none [],
    ops := [.solve Kernels.shapeOnly
      { sym := .U1, fermi := false, indices := [.mk [((0, 0), 1), ((1, 0), 1)] false none],
        charge := (0, 0), blocks := [([(0, 0)], ⟨[1], #[4]⟩)] }] }

example : progAllA.ctor.FillOk ∧ progAllF.ctor.FillOk ∧ progAllS.ctor.FillOk :=
  ⟨trivial, trivial, trivial⟩

example : (∀ op ∈ progAllA.ops, op.KernelOk) ∧ (∀ op ∈ progAllF.ops, op.KernelOk)
    ∧ (∀ op ∈ progAllS.ops, op.KernelOk) := by
  refine ⟨fun op h => ?_, fun op h => ?_, fun op h => ?_⟩
  · simp only [progAllA, List.mem_cons, List.not_mem_nil, or_false] at h
    rcases h with rfl | rfl | rfl | rfl | rfl | rfl | rfl <;>
      first | trivial | exact LinalgLemmas.shapeOnly_shapeOk
  · simp only [progAllF, List.mem_cons, List.not_mem_nil, or_false] at h
    rcases h with rfl | rfl | rfl | rfl | rfl <;> trivial
  · simp only [progAllS, List.mem_cons, List.not_mem_nil, or_false] at h
    subst h; exact LinalgLemmas.shapeOnly_shapeOk

example :
    (match progAllA.run with
     | .ok r => r.validB && decide (2 ≤ r.blocks.length)
     | .error _ => false) = true
    ∧ (match progAllF.run with
       | .ok r => r.validB && r.fermi && decide (1 ≤ r.blocks.length)
       | .error _ => false) = true
    ∧ (match progAllS.run with
       | .ok r => r.validB && decide (1 ≤ r.blocks.length)
       | .error _ => false) = true := by
  decide +kernel

end SymmModel.C01
