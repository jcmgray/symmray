/-
  Property C07, second part — "reshaping never changes an array's content": array-level content
  preservation of unfuse / fuse / expand_dims / squeeze and of every certified reshape plan, for
  ABELIAN arrays; reshape to the current shape; number and sizes of the axes of the result.

  Vocabulary (Proofs/ReshapeMore.lean, namespace `ReshapeP`):
    `entrySum g a`     Σ of `g` over all stored entries of `a`
    `SameContent a b`  every additive statistic `Σ g(entry)` with `g 0 = 0` agrees — equivalently
                       (`content_perm_nonzero`) the multisets of NON-ZERO stored entries agree, and
                       (`content_normSq2`) so does the squared norm `C12.normSq2`.  Stored zeros may
                       be added (fusing materialises zero blocks) or dropped.
    `nzEntries a`      the non-zero stored entries, block after block
    `Sim x st`         the array `x` is described by the symbolic shape `st` of `C07.Plan.exec`

  The fuse statements hold for ARBITRARY admissible groupings (through the general element map of
  C05b); `applyPlan_content` assumes the plan certificate `Plan.wfB` (which makes every fuse call
  group consecutive axes).
-/
import SymmModel.Proofs.ReshapeMore

namespace SymmModel.C07
open SymmModel ReshapeP

variable {R : Type}

theorem content_perm_nonzero [Zero R] [DecidableEq R] {a b : Arr R} (h : SameContent a b) :
    (nzEntries a).Perm (nzEntries b) := h.perm_nonzero

/-- same content ⇒ the same squared norm (`C12.normSq2`, the driver's "norm2"), for every `nsq`
    with `nsq 0 = 0` into a commutative monoid -/
theorem content_normSq2 [Zero R] {a b : Arr R} (h : SameContent a b) {S : Type} [AddCommMonoid S]
    (nsq : R → S) (h0 : nsq 0 = 0) : C12.normSq2 nsq a = C12.normSq2 nsq b := h.normSq2 nsq h0

/-- **fuseCore_multiset.**  Fusing (insert strategy, ANY admissible list of groups — one or several
    multi-axis groups, any position, any order of the axes inside a group) keeps the content: the
    fused array stores every original entry exactly once, plus zeros. -/
theorem fuseCore_multiset [Zero R] [DecidableEq R] (a x : Arr R) (groups : List (List Nat))
    (hv : a.validB = true) (hf : a.fermi = false) (hg : C05.groupsOkB groups a.ndim = true)
    (h : fuseCore a groups .insert = .ok x) :
    SameContent a x ∧ (nzEntries a).Perm (nzEntries x)
      ∧ ∀ (S : Type) [AddCommMonoid S] (nsq : R → S), nsq 0 = 0 → C12.normSq2 nsq a = C12.normSq2 nsq x :=
  let hc := fuseCore_sameContent a x groups hv hf hg h
  ⟨hc, hc.perm_nonzero, fun _ _ nsq h0 => hc.normSq2 nsq h0⟩

/-- `fuseCore_multiset`, first part: any grouping `groupsOkB` accepts -/
theorem fuseCore_multiset_general [Zero R] (a x : Arr R) (groups : List (List Nat))
    (hv : a.validB = true) (hf : a.fermi = false) (hg : C05.groupsOkB groups a.ndim = true)
    (h : fuseCore a groups .insert = .ok x) : SameContent a x :=
  fuseCore_sameContent a x groups hv hf hg h

/-- the concat strategy, for one multi-axis group (through `C05.fuseInsert_eq_fuseConcat_partial`) -/
theorem fuseCore_concat_multiset [Zero R] (a y : Arr R) (gaxes : List Nat) (hv : a.validB = true)
    (hf : a.fermi = false) (hg : C05.groupsOkB [gaxes] a.ndim = true) (hlen : gaxes.length ≠ 1)
    (h : fuseCore a [gaxes] .concat = .ok y) : SameContent a y := by
  obtain ⟨x, y', hx, hy', _, hndx, hndy, hsame⟩ := C05.fuseInsert_eq_fuseConcat_partial a gaxes hv hg hlen
  rw [h] at hy'; injection hy' with hy'; subst hy'
  refine (fuseCore_sameContent a x [gaxes] hv hf hg hx).trans ?_
  intro M _ g _
  rw [entrySum_eq_sectors g x hndx, entrySum_eq_sectors g y hndy]
  have hperm : x.sectors.Perm y.sectors := by
    show (x.blocks.map (·.1)).Perm (y.blocks.map (·.1))
    rw [List.perm_ext_iff_of_nodup hndx hndy]
    intro s
    simp only [← alookup_isSome_iff]
    rcases hsame s with ⟨h1, h2⟩ | ⟨B, C, h1, h2, _⟩
    · simp [h1, h2]
    · simp [h1, h2]
  rw [← (hperm.map _).sum_eq]
  apply sum_map_congr
  intro s _
  rcases hsame s with ⟨h1, h2⟩ | ⟨B, C, h1, h2, _, _, hBC⟩
  · simp [h1, h2]
  · simp [h1, h2, hBC]

/-- the public `fuse` (non-empty admissible groups, either value of `expand_empty`) -/
theorem fuseA_multiset [Zero R] (a x : Arr R) (groups : List (List Nat)) (expandEmpty : Bool)
    (hv : a.validB = true) (hf : a.fermi = false) (hg : C05.groupsOkB groups a.ndim = true)
    (h : fuseA a groups .insert expandEmpty = .ok x) : SameContent a x :=
  fuseA_sameContent a x groups expandEmpty hv hf hg h

/-- **unfuseA_multiset.**  Unfusing any fused axis of any valid array keeps the content: the slices
    partition every block, the reshape of a slice does not touch its data. -/
theorem unfuseA_multiset [Zero R] [DecidableEq R] (x y : Arr R) (axis : Nat) (hv : x.validB = true)
    (h : unfuseA x axis = .ok y) :
    SameContent x y ∧ (nzEntries x).Perm (nzEntries y) :=
  let hc := unfuseA_sameContent x y axis hv h
  ⟨hc, hc.perm_nonzero⟩

/-- `expand_dims` (any charge) keeps the list of stored data, hence the content -/
theorem expandDims_multiset [Zero R] (a : Arr R) (axis : Nat) (c : Option Charge) (dual : Option Bool)
    (hnd : a.sectors.Nodup) : SameContent a (a.expandDims axis c dual) :=
  expandDims_sameContent a axis c dual hnd

/-- `squeeze` keeps the list of stored data, hence the content -/
theorem squeeze_multiset [Zero R] (a a' : Arr R) (axis : Option (List Nat)) (hsh : Arr.ShapesOk a)
    (hnd : a.sectors.Nodup) (h : a.squeeze axis = .ok a') : SameContent a a' := by
  rw [DenseP.squeeze_eq] at h
  cases hm : DenseP.squeezeMask a axis with
  | error e => rw [hm] at h; cases h
  | ok m =>
    rw [hm] at h
    injection h with h
    obtain ⟨hl, hspec⟩ := DenseP.squeezeMask_ok hm
    have hmask : ∀ (i : Nat) (ix : Index), a.indices[i]? = some ix → m[i]? = some true →
        ∃ d, ix.cm = [(a.sym.zero, d)] ∧ d ≤ 1 := fun i ix hix hi => ((hspec i ix hix).1 hi).2
    have hstored : ∀ t ∈ a.sectors, ∃ sh, Arr.blockShape? a.indices t = some sh := by
      intro t ht
      obtain ⟨b, hb⟩ := Option.isSome_iff_exists.mp (alookup_isSome_iff.mpr ht)
      exact ⟨_, hsh.2 t b hb⟩
    have hkeys : (a.blocks.map (fun sb => permuted sb.1 (DenseP.keptAxes m 0))).Nodup := by
      have : a.blocks.map (fun sb => permuted sb.1 (DenseP.keptAxes m 0))
          = a.sectors.map (fun t => permuted t (DenseP.keptAxes m 0)) := by
        simp [Arr.sectors, List.map_map, Function.comp_def]
      rw [this]
      refine List.Nodup.map_on (fun x hx y hy hxy => ?_) hnd
      obtain ⟨shx, hx'⟩ := hstored x hx
      obtain ⟨shy, hy'⟩ := hstored y hy
      rw [DenseP.permuted_keptAxes_zero m x (by rw [(blockShape?_length hx').1, hl]),
        DenseP.permuted_keptAxes_zero m y (by rw [(blockShape?_length hy').1, hl])] at hxy
      refine DenseP.dropMask_inj (by rw [(blockShape?_length hx').1, hl]) (by rw [(blockShape?_length hy').1, hl])
        (fun i hi => ?_) hxy
      obtain ⟨_, _, h1, _⟩ := DenseP.masked_facts hl hmask hx' i hi
      obtain ⟨_, _, h2, _⟩ := DenseP.masked_facts hl hmask hy' i hi
      rw [h1, h2]
    have hdata := C07.mapBlocks_data a (fun s => permuted s (DenseP.keptAxes m 0))
      (fun b => b.squeezeK (DenseP.keptAxes m 0)) (fun _ => rfl) (allDistinct_iff_nodup.2 hkeys)
    rw [← h]
    exact (sameContent_of_storedData (a := DenseP.squeezed a (DenseP.keptAxes m 0)) (b := a) hdata).symm

/-- a fused index is at most as large as the product of its sub-indices (sparse fusing) -/
theorem fused_size_le (sym : Sym) (ix : Index) (hw : Index.wfB sym ix = true) (subs : List Index)
    (exts : Extents) (hs : ix.sub = some (subs, exts)) :
    ix.sizeTotal ≤ prod (subs.map Index.sizeTotal) :=
  sizeTotal_le_prod_subs hw hs

/-- **applyPlan_content.**  Executing a certified plan (`Plan.wfB`: all axes in range, only fused
    axes unfused, every fuse call groups consecutive axes) on a valid abelian array keeps the
    content — by induction over the unfuse, fuse and expand steps. -/
theorem applyPlan_content [Zero R] [Neg R] (a r : Arr R)
    (t : List Nat × List (List (List Nat)) × List Nat) (newshape : List Nat)
    (hv : a.validB = true) (hf : a.fermi = false)
    (hwf : (Plan.ofTriple t).wfB a.shape a.subsizes newshape = true) (h : applyPlan a t = .ok r) :
    SameContent a r ∧ r.validB = true := by
  obtain ⟨st, hs, _, hc⟩ := applyPlan_sim a r t newshape hv hf hwf h
  exact ⟨hc, hs.valid⟩

/-- **the number and sizes of the axes.**  The result of a certified plan has exactly `newshape.length` axes, and
    axis `i` has total size at most `newshape[i]` (equal unless a fuse was sparse). -/
theorem applyPlan_axes_count [Zero R] [Neg R] (a r : Arr R)
    (t : List Nat × List (List (List Nat)) × List Nat) (newshape : List Nat)
    (hv : a.validB = true) (hf : a.fermi = false)
    (hwf : (Plan.ofTriple t).wfB a.shape a.subsizes newshape = true) (h : applyPlan a t = .ok r) :
    r.ndim = newshape.length ∧ List.Forall₂ (fun (d' d : Nat) => d' ≤ d) r.shape newshape := by
  obtain ⟨st, hs, hsz, _⟩ := applyPlan_sim a r t newshape hv hf hwf h
  obtain ⟨h1, h2⟩ := hs.axes_le
  rw [hsz] at h2
  refine ⟨by rw [h1, ← hsz]; simp [SymShape.sizes], ?_⟩
  simp only [Arr.shape]
  rw [List.forall₂_map_left_iff]
  exact h2

/-- the same for `AbelianArray.reshape` itself: when the plan the planner returns is certified, a
    successful `reshape(newshape)` keeps the content and returns the requested number of axes
    with sizes at most the requested ones -/
theorem reshape_axes_count [Zero R] [Neg R] (a r : Arr R) (ns full : List Int) (nsN : List Nat)
    (t : List Nat × List (List (List Nat)) × List Nat)
    (hv : a.validB = true) (hf : a.fermi = false)
    (h1 : findFullReshape ns a.size = .ok full)
    (h2 : full.mapM (fun (d : Int) => if d < 0 then (throw Err.notimpl : Except Err Nat) else pure d.toNat)
      = .ok nsN)
    (h3 : calcReshapeArgs a.shape nsN a.subsizes = .ok t)
    (hwf : (Plan.ofTriple t).wfB a.shape a.subsizes nsN = true)
    (h : reshapeArr a ns = .ok r) :
    SameContent a r ∧ r.validB = true ∧ r.ndim = nsN.length
      ∧ List.Forall₂ (fun (d' d : Nat) => d' ≤ d) r.shape nsN := by
  rw [reshapeArr_eq a ns full nsN t h1 h2 h3] at h
  obtain ⟨c1, c2⟩ := applyPlan_content a r t nsN hv hf hwf h
  obtain ⟨c3, c4⟩ := applyPlan_axes_count a r t nsN hv hf hwf h
  exact ⟨c1, c2, c3, c4⟩

/-- **reshape_self_identity.**  For an array without fused axes `reshape(shape)` returns the array
    itself — exact equality (the planner returns the empty plan, `reshape_self_id`). -/
theorem reshape_self_identity [Zero R] [Neg R] (a : Arr R) (h : ∀ ix ∈ a.indices, ix.sub = none) :
    reshapeArr a (a.shape.map Int.ofNat) = .ok a := by
  unfold reshapeArr
  simp only [bind, Except.bind, findFullReshape_nat, mapM_toNat, subsizes_nones a h,
    C07.reshape_self_id a.shape]
  rfl

section Examples
open C05

def nzOf (r : Except Err (Arr Int)) : Option (List Nat × List Int) :=
  match r with | .ok x => some (x.shape, nzEntries x) | .error _ => none

example : exA.validB = true ∧ exA.fermi = false ∧ exA.shape = [3, 3, 2] ∧ nzEntries exA = [1, 2, 3, 4, 5, 6] := by
  decide +kernel
-- `reshape(3, -1)`: the fused axis has size 3 < 6 requested (sparse fuse); same non-zero entries
example : nzOf (reshapeArr exA [3, -1]) = some ([3, 3], [1, 3, 4, 2, 5, 6]) := by decide +kernel
example : groupsOkB [[1, 2]] exA.ndim = true ∧ groupsOkB [[2, 0]] exA.ndim = true := by decide
example : nzOf (fuseCore exA [[2, 0]] .insert) = some ([4, 3], [1, 2, 3, 4, 5, 6]) := by decide +kernel
example : reshapeArr exA [3, 3, 2] = .ok exA := reshape_self_identity exA (by decide)

example := fuseCore_multiset (R := Int) exA _ [[2, 0]] (by decide) rfl (by decide) rfl
example : ∃ t, calcReshapeArgs exA.shape [3, 6] exA.subsizes = .ok t
    ∧ (Plan.ofTriple t).wfB exA.shape exA.subsizes [3, 6] = true := ⟨_, rfl, by decide⟩
example := reshape_axes_count (R := Int) exA _ [3, -1] [3, 6] [3, 6] _ (by decide) rfl rfl rfl rfl
  (by decide) rfl

end Examples

end SymmModel.C07
