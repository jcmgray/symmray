import SymmModel.Props.C06All4
import SymmModel.Props.C06f
