/-
  Property C08, second part — reductions, adjoint, squeeze / expand_dims, block vectors.
  (First part: Props/C08.lean; both are imported by Props/C08All.lean.)

  Same conventions: abelian arrays (`phases = []`) unless said otherwise, every rank and
  symmetry, arbitrary scalar type with the laws needed as explicit hypotheses / Mathlib's
  `AddCommMonoid` for the commutative sums.
-/
import SymmModel.Proofs.DenseMore
import SymmModel.Props.C08
import SymmModel.Props.C12

namespace SymmModel.C08
open SymmModel Arr DenseP

variable {R S : Type}

/-- **reindexing lemma.**  Summing a function of the located address over all positions of the
    dense box = summing it over all sectors of the product of the (sorted) charge tables and all
    offsets of each sector's block box: `locateAll` is a bijection box ↔ addresses. -/
theorem sum_locateAll_reindex {M : Type} [AddCommMonoid M] (indices : List Index)
    (G : Option (Sector × List Nat) → M) :
    ((allIdx (indices.map Index.sizeTotal)).map (fun p => G (locateAll indices p))).sum
      = ((cartesian (tables indices)).map (fun e =>
          ((allIdx (e.map (·.2))).map (fun off => G (some (e.map (·.1), off)))).sum)).sum :=
  sum_locateAll indices G

/-- `sum` (Driver/Ops.lean "sum" on an abelian array; block_core.py `_do_reduction("sum")`): the
    sum of the block sums equals the sum of all entries of the dense array -/
theorem sum_toDense [AddCommMonoid R] [Neg R] (a : Arr R) (hab : a.phases = []) (hne : NoEmpty a)
    (hsh : ShapesOk a) (hnd : a.sectors.Nodup) (hwf : ∀ p ∈ a.blocks, p.2.wf = true)
    (d : Blk R) (hd : toDenseA a = .ok d) :
    a.blocks.foldl (fun acc (_, b) => acc + b.sumAll) 0 = d.sumAll := by
  have h := sum_map_toDense (M := R) id rfl a hsh hnd hwf
    (fun s b off hb => by simp only [id, Arr.elem_of_phases_nil hab, hb]) d hd
  simp only [List.map_id] at h
  show a.blocks.foldl (fun acc x => acc + x.2.sumAll) 0 = _
  rw [foldl_add_eq_sum, zero_add]
  simp only [Blk.sumAll, ← Array.foldl_toList, ← List.sum_eq_foldl]
  exact h.symm

theorem sum_toDense_of_valid [AddCommMonoid R] [Neg R] (a : Arr R) (hv : a.validB = true)
    (hab : a.fermi = false) (hne : NoEmpty a) (d : Blk R) (hd : toDenseA a = .ok d) :
    a.blocks.foldl (fun acc (_, b) => acc + b.sumAll) 0 = d.sumAll := by
  exact sum_toDense a (phases_nil_of_validB hv hab) hne (validB_shapesOk hv) (validB_nodup hv)
    (validB_wf hv) d hd

/-- **norm_sq_eq_dense** (the norm clause of C12).  For `nsq` even with `nsq 0 = 0`
    (e.g. `|·|²`), the block-data sum `C12.normSq2` (the driver's "norm2") equals the sum of `nsq`
    over all entries of the dense array — pending signs allowed, since `nsq` does not see them. -/
theorem norm_sq_eq_dense [Zero R] [Neg R] [AddCommMonoid S] (nsq : R → S) (hn0 : nsq 0 = 0)
    (hneg : ∀ x, nsq (-x) = nsq x) (a : Arr R) (hne : NoEmpty a)
    (hsh : ShapesOk a) (hnd : a.sectors.Nodup) (hwf : ∀ p ∈ a.blocks, p.2.wf = true)
    (d : Blk R) (hd : toDenseA a = .ok d) :
    C12.normSq2 nsq a = (d.map nsq).sumAll := by
  have h := sum_map_toDense nsq hn0 a hsh hnd hwf
    (fun s b off hb => by
      simp only [elem, hb]
      split
      · exact hneg _
      · rfl) d hd
  show a.blocks.foldl (fun acc x => acc + (x.2.map nsq).sumAll) 0 = _
  rw [foldl_add_eq_sum, zero_add]
  simp only [Blk.sumAll, Blk.map, ← Array.foldl_toList, ← List.sum_eq_foldl, Array.toList_map]
  exact h.symm

theorem norm_sq_eq_dense_of_valid [Zero R] [Neg R] [AddCommMonoid S] (nsq : R → S)
    (hn0 : nsq 0 = 0) (hneg : ∀ x, nsq (-x) = nsq x) (a : Arr R) (hv : a.validB = true)
    (hne : NoEmpty a) (d : Blk R) (hd : toDenseA a = .ok d) :
    C12.normSq2 nsq a = (d.map nsq).sumAll := by
  exact norm_sq_eq_dense nsq hn0 hneg a hne (validB_shapesOk hv) (validB_nodup hv) (validB_wf hv) d hd

/-- the abelian adjoint as the driver's "dagger" computes it: conjugate, then reverse the axes -/
def daggerA [Zero R] [Conj R] (a : Arr R) : Arr R := a.conjA.transposeA (reversedAxes a.ndim)

/-- the dense form of the adjoint is the conjugate transpose of the dense form: reversed shape,
    and the entry at the reversed position is the conjugate of the original entry -/
theorem dagger_toDense [Zero R] [Neg R] [Conj R] (h0 : Conj.conj (0 : R) = 0) (a : Arr R)
    (hab : a.phases = []) (hne : NoEmpty a) (hsa : ShapesOk a) (hnd : a.sectors.Nodup)
    (hlen : ∀ s ∈ a.sectors, s.length = a.ndim) :
    ∃ d d', toDenseA a = .ok d ∧ toDenseA (daggerA a) = .ok d' ∧ d.shape = a.shape
      ∧ d'.shape = a.shape.reverse
      ∧ ∀ p, inBox a.shape p = true → d'.get p.reverse = Conj.conj (d.get p) := by
  obtain ⟨d, dc, h1, h2, s1, s2, hc⟩ := conj_toDense h0 a hab hne
  have hnd' : (conjA a).sectors = a.sectors := (conj_indices a).2.2
  have hndim : (conjA a).ndim = a.ndim := by simp [ndim, conjA]
  have hshape : (conjA a).shape = a.shape := shape_congr (map_cm_conj a.indices)
  obtain ⟨dc', d', h3, h4, _, s4, ht⟩ := transposeA_toDense (conjA a) (reversedAxes a.ndim)
    (by rw [hndim]; exact Arr.isPerm_reversedAxes _) hab
    (by rw [NoEmpty, show (conjA a).indices = a.indices.map Index.conj from rfl,
      noEmpty_congr (map_cm_conj a.indices)]; exact hne)
    (shapesOk_conjA hsa) (by rw [hnd']; exact hnd) (by rw [hnd', hndim]; exact hlen)
  rw [h2] at h3; injection h3 with h3; subst h3
  have hrev : ∀ {α : Type} (l : List α), l.length = a.ndim →
      permuted l (reversedAxes a.ndim) = l.reverse :=
    fun l hl => hl ▸ permuted_reversedAxes l
  refine ⟨d, d', h1, h4, s1, ?_, fun p hp => ?_⟩
  · rw [s4, hshape, hrev _ (by simp [shape, ndim])]
  · have := ht p (by rw [hshape]; exact hp)
    rw [hrev p (by rw [inBox_length hp]; simp [shape, ndim])] at this
    rw [this, hc p hp]

/-! ## 3. squeeze and expand_dims

`dropMask m l` (Proofs/DenseMore.lean) drops the entries of `l` whose bit in `m` is set;
`ins axis x l` inserts `x` before position `axis`.  `squeezeMask a axis` is the removal mask
`squeeze` computes (one bit per axis) or the error it raises; `squeezed a keep` is the array
`squeeze` returns once the kept axes are known. -/

theorem squeeze_eq_mask (a : Arr R) (axis : Option (List Nat)) :
    a.squeeze axis =
      match squeezeMask a axis with
      | .error e => .error e
      | .ok m => .ok (squeezed a (keptAxes m 0)) :=
  squeeze_eq a axis

/-- `squeeze` raises — a `ValueError`, nothing else — exactly when some selected axis (all
    size-one axes for `axis = None`, the listed ones otherwise) is larger than one (possible only
    for a listed axis) or does not carry exactly the identity charge -/
theorem squeeze_error_iff (a : Arr R) (axis : Option (List Nat)) :
    ((∃ e, a.squeeze axis = .error e) ↔
      ∃ (i : Nat) (ix : Index), a.indices[i]? = some ix ∧ sqSelected axis ix i = true
        ∧ ((axis.isSome = true ∧ ix.sizeTotal > 1) ∨ ∀ d, ix.cm ≠ [(a.sym.zero, d)]))
    ∧ ∀ e, a.squeeze axis = .error e → e = Err.value := by
  rw [squeeze_eq]
  cases hm : squeezeMask a axis with
  | error e =>
    obtain ⟨x, hx, hfx⟩ := mapM_except_error hm
    obtain ⟨ix, i⟩ := x
    have hix : a.indices[i]? = some ix := by
      have := List.mem_zipIdx_iff_getElem?.mp hx; simpa using this
    rcases sqRemove_cases a.sym.zero axis ix i with ⟨h1, h2, h3⟩ | ⟨b, h1, _⟩
    · rw [h1] at hfx; injection hfx with hfx; subst hfx
      exact ⟨⟨fun _ => ⟨i, ix, hix, h2, h3⟩, fun _ => ⟨_, rfl⟩⟩, fun e he => (Except.error.inj he).symm⟩
    · rw [h1] at hfx; cases hfx
  | ok m =>
    refine ⟨⟨fun ⟨e, he⟩ => (by cases he), ?_⟩, fun e he => (by cases he)⟩
    rintro ⟨i, ix, hix, h2, h3⟩
    have hx : (ix, i) ∈ a.indices.zipIdx := List.mem_zipIdx_iff_getElem?.mpr (by simpa using hix)
    obtain ⟨b, hb⟩ : ∃ b, sqRemove a.sym.zero axis ix i = .ok b := by
      have hf := mapM_ok_forall₂ _ _ _ hm
      obtain ⟨k, hk⟩ := List.mem_iff_getElem.mp hx
      obtain ⟨hk1, hk2⟩ := hk
      have := List.Forall₂.get hf (i := k) hk1 (by have := hf.length_eq; omega)
      simp only [List.get_eq_getElem, hk2] at this
      exact ⟨_, this⟩
    rcases sqRemove_cases a.sym.zero axis ix i with ⟨h1, _, _⟩ | ⟨b', _, hn⟩
    · rw [h1] at hb; cases hb
    · exact absurd ⟨h2, h3⟩ hn

/-- the mask of a successful `squeeze`: a set bit ⇔ the axis was selected; selected axes carry
    exactly the identity charge with size ≤ 1 -/
theorem squeeze_mask_spec (a : Arr R) (axis : Option (List Nat)) (a' : Arr R)
    (h : a.squeeze axis = .ok a') :
    ∃ m, squeezeMask a axis = .ok m ∧ a' = squeezed a (keptAxes m 0) ∧ m.length = a.ndim
      ∧ a'.indices = dropMask m a.indices ∧ a'.charge = a.charge
      ∧ ∀ (i : Nat) (ix : Index), a.indices[i]? = some ix →
          (m[i]? = some true → sqSelected axis ix i = true ∧ ∃ d, ix.cm = [(a.sym.zero, d)] ∧ d ≤ 1)
          ∧ (m[i]? = some false → sqSelected axis ix i = false) := by
  rw [squeeze_eq_mask] at h
  cases hm : squeezeMask a axis with
  | error e => rw [hm] at h; cases h
  | ok m =>
    rw [hm] at h
    injection h with h
    obtain ⟨hl, hspec⟩ := squeezeMask_ok hm
    refine ⟨m, rfl, h.symm, hl, ?_, by rw [← h]; rfl, hspec⟩
    rw [← h]
    exact permuted_keptAxes_zero m a.indices hl.symm

/-- **squeeze, value view**: for every sector of the index tables and every offset of its block
    box, dropping the removed coordinates gives an address of the result with the same value -/
theorem squeeze_elem [Zero R] [Neg R] (a : Arr R) (axis : Option (List Nat)) (a' : Arr R)
    (h : a.squeeze axis = .ok a') (hab : a.phases = []) (hsh : ShapesOk a) (hnd : a.sectors.Nodup) :
    ∃ m, squeezeMask a axis = .ok m ∧
      ∀ s shp off, blockShape? a.indices s = some shp → inBox shp off = true →
        a'.elem (dropMask m s) (dropMask m off) = a.elem s off := by
  obtain ⟨m, hm, rfl, hl, _, _, hspec⟩ := squeeze_mask_spec a axis a' h
  exact ⟨m, hm, fun s shp off hs ho =>
    squeezed_elem a m hl (fun i ix hix hi => ((hspec i ix hix).1 hi).2) hab hsh hnd s shp off hs ho⟩

/-- **squeeze, dense form**: the dense array of the result is the dense array with the removed
    (size-one) axes dropped: shape with the masked entries dropped, same entries -/
theorem squeeze_toDense [Zero R] [Neg R] (a : Arr R) (axis : Option (List Nat)) (a' : Arr R)
    (h : a.squeeze axis = .ok a') (hab : a.phases = []) (hsh : ShapesOk a) (hnd : a.sectors.Nodup)
    (hne : NoEmpty a) :
    ∃ m d d', squeezeMask a axis = .ok m ∧ toDenseA a = .ok d ∧ toDenseA a' = .ok d'
      ∧ d.shape = a.shape ∧ d'.shape = dropMask m a.shape
      ∧ ∀ p, inBox a.shape p = true → d'.get (dropMask m p) = d.get p := by
  obtain ⟨m, hm, rfl, hl, _, _, hspec⟩ := squeeze_mask_spec a axis a' h
  obtain ⟨d, d', h1, h2, h3, h4, h5⟩ := squeezed_toDense a m hl
    (fun i ix hix hi => ((hspec i ix hix).1 hi).2) hab hsh hnd hne
  exact ⟨m, d, d', hm, h1, h2, h3, h4, h5⟩

/-- `expand_dims(axis)` with the default charge: the new index carries the identity charge with
    size one, the charge of the array is unchanged -/
theorem expandDims_indices (a : Arr R) (axis : Nat) (dual : Option Bool) :
    (a.expandDims axis none dual).indices
        = ins axis (Index.mk [(a.sym.zero, 1)] (expandDual a axis dual) none) a.indices
    ∧ (a.expandDims axis none dual).charge = a.charge :=
  ⟨(expandDims_frame a axis none dual).1, rfl⟩

/-- **expand_dims, value view**: inserting the identity charge into a sector and offset 0 into
    the offsets gives an address of the result holding the same value -/
theorem expandDims_elem [Zero R] [Neg R] (a : Arr R) (axis : Nat) (dual : Option Bool)
    (ha : axis ≤ a.ndim) (hab : a.phases = []) (hnd : a.sectors.Nodup)
    (hlen : ∀ t ∈ a.sectors, t.length = a.ndim)
    (hshape : ∀ t b, alookup a.blocks t = some b → b.shape.length = a.ndim)
    (s : Sector) (hs : s.length = a.ndim) (off : List Nat) (ho : off.length = a.ndim) :
    (a.expandDims axis none dual).elem (ins axis a.sym.zero s) (ins axis 0 off) = a.elem s off :=
  expandDims_elem_any a axis none dual ha hab hnd hlen hshape s hs off ho

/-- **expand_dims, dense form**: the dense array of the result is the dense array with a
    size-one axis inserted -/
theorem expandDims_toDense [Zero R] [Neg R] (a : Arr R) (axis : Nat) (dual : Option Bool)
    (ha : axis ≤ a.ndim) (hab : a.phases = []) (hsh : ShapesOk a) (hnd : a.sectors.Nodup)
    (hlen : ∀ t ∈ a.sectors, t.length = a.ndim) (hne : NoEmpty a) :
    ∃ d d', toDenseA a = .ok d ∧ toDenseA (a.expandDims axis none dual) = .ok d'
      ∧ d.shape = a.shape ∧ d'.shape = ins axis 1 a.shape
      ∧ ∀ p, inBox a.shape p = true → d'.get (ins axis 0 p) = d.get p :=
  expandDims_toDense_any a axis none dual ha hab hsh hnd hlen hne

/-! ## 4. block vectors

`mapV`, `binopV`, `toDenseV`, `reduceV` (Proofs/DenseMore.lean) are `BlockVector`'s
`apply_to_arrays`/`_do_unary_op`/scalar arithmetic, `_binary_blockwise_op` (through the model's
`binaryBlockwise`), `to_dense` (concatenation in sorted key order) and `_do_reduction`, written as
symmray/block_core.py performs them.  `VecOk v`: every block is a well-formed 1-D array. -/

/-- data view of `to_dense`: total length, and the blocks' data concatenated in sorted key order -/
theorem toDenseV_spec [Zero R] (v : BVec R) (hok : VecOk v) (hne : v.blocks ≠ []) :
    (toDenseV v).shape = [sumN ((sortedV v).map (fun p => p.2.shape.getD 0 0))]
    ∧ (toDenseV v).data.toList = (sortedV v).flatMap (fun p => p.2.data.toList)
    ∧ (sortedV v).Perm v.blocks :=
  ⟨(toDenseV_data v hok hne).1, (toDenseV_data v hok hne).2, isort_perm _ _⟩

/-- every elementwise function (`abs`, `sqrt`, `log`, `clip`, …) and every scalar operation
    (`v * s`, `v / s`, `s - v`, `v ** s`, `-v`, …) commutes with densification — for ANY `f`,
    since a block vector has no implicit zeros -/
theorem mapV_toDense [Zero R] (f : R → R) (v : BVec R) (hok : VecOk v) (hne : v.blocks ≠ []) :
    toDenseV (mapV f v) = (toDenseV v).map f := by
  have hok' : VecOk (mapV f v) := by
    intro p hp
    simp only [mapV, List.mem_map] at hp
    obtain ⟨⟨k, b⟩, hb, rfl⟩ := hp
    obtain ⟨hw, n, hn⟩ := hok (k, b) hb
    exact ⟨by simpa [Blk.wf, Blk.map] using hw, n, hn⟩
  have hne' : (mapV f v).blocks ≠ [] := by simpa [mapV] using hne
  obtain ⟨s1, d1⟩ := toDenseV_data v hok hne
  obtain ⟨s2, d2⟩ := toDenseV_data (mapV f v) hok' hne'
  have hshape : (toDenseV (mapV f v)).shape = ((toDenseV v).map f).shape := by
    rw [s2, Blk.shape_map, s1, sortedV_mapV, List.map_map]; rfl
  refine Dense6.blk_eq_of_data hshape ?_
  rw [d2, sortedV_mapV, List.flatMap_map]
  simp only [Blk.map, Array.toList_map, d1, List.map_flatMap]

/-- binary operations on vectors with the same key set: every mode succeeds and combines the
    blocks key by key -/
theorem binopV_ok [Zero R] (f : R → R → R) (mode : Missing) (x y : BVec R)
    (hk : ∀ k, k ∈ x.blocks.map (·.1) ↔ k ∈ y.blocks.map (·.1)) :
    binopV f mode x y = .ok ⟨x.blocks.map (binBlock f y)⟩ := by
  have hx : ∀ p ∈ x.blocks, ¬ alookup y.blocks p.1 = none := by
    intro p hp
    rw [alookup_eq_none_iff]
    exact fun h => h ((hk p.1).mp (List.mem_map.mpr ⟨p, hp, rfl⟩))
  have hy : ∀ p ∈ y.blocks, ¬ alookup x.blocks p.1 = none := by
    intro p hp
    rw [alookup_eq_none_iff]
    exact fun h => h ((hk p.1).mpr (List.mem_map.mpr ⟨p, hp, rfl⟩))
  have hmap : x.blocks.map (fun (kb : Charge × Blk R) =>
      match kb with
      | (k, bx) => match alookup y.blocks k with
        | some b => (k, Blk.zipWith f bx b)
        | none => (k, bx)) = x.blocks.map (binBlock f y) := by
    apply List.map_congr_left
    rintro ⟨k, bx⟩ _
    simp only [binBlock]
    cases alookup y.blocks k <;> rfl
  unfold binopV
  cases mode with
  | strict =>
    simp only [binaryBlockwise]
    rw [if_neg (by
      rw [Bool.not_eq_true, List.any_eq_false]
      rintro ⟨k, b⟩ hp
      simpa using hx (k, b) hp), if_neg (by
      rw [Bool.not_eq_true, List.any_eq_false]
      rintro ⟨k, b⟩ hp
      simpa using hy (k, b) hp)]
    simp only [pure, Except.pure]
    exact congrArg (fun l => Except.ok (BVec.mk l)) hmap
  | outer =>
    simp only [binaryBlockwise, pure, Except.pure]
    have hfil : y.blocks.filter (fun (kb : Charge × Blk R) =>
        match kb with | (k, _) => (alookup x.blocks k).isNone) = [] := by
      rw [List.filter_eq_nil_iff]
      rintro ⟨k, b⟩ hp
      simpa using hy (k, b) hp
    rw [hfil, List.append_nil]
    exact congrArg (fun l => Except.ok (BVec.mk l)) hmap
  | inner =>
    simp only [binaryBlockwise, pure, Except.pure]
    have hfm : x.blocks.filterMap (fun (kb : Charge × Blk R) =>
        match kb with
        | (k, bx) => match alookup y.blocks k with
          | some b => some (k, Blk.zipWith f bx b)
          | none => none) = x.blocks.map (binBlock f y) := by
      rw [← List.filterMap_eq_map]
      apply List.filterMap_congr
      rintro ⟨k, bx⟩ hp
      have := hx (k, bx) hp
      simp only [binBlock, Function.comp]
      cases h : alookup y.blocks k with
      | none => exact absurd h this
      | some b => rfl
    exact congrArg (fun l => Except.ok (BVec.mk l)) hfm

/-- … and the dense form of the result is the elementwise combination of the dense forms -/
theorem binopV_toDense [Zero R] (f : R → R → R) (mode : Missing) (x y : BVec R)
    (hokx : VecOk x) (hoky : VecOk y) (hne : x.blocks ≠ [])
    (hndx : (x.blocks.map (·.1)).Nodup) (hndy : (y.blocks.map (·.1)).Nodup)
    (hk : ∀ k, k ∈ x.blocks.map (·.1) ↔ k ∈ y.blocks.map (·.1))
    (hshape : ∀ k bx b, alookup x.blocks k = some bx → alookup y.blocks k = some b → bx.shape = b.shape) :
    ∃ z, binopV f mode x y = .ok z
      ∧ (toDenseV z).shape = (toDenseV x).shape
      ∧ (toDenseV z).data.toList
          = List.zipWith f (toDenseV x).data.toList (toDenseV y).data.toList := by
  refine ⟨_, binopV_ok f mode x y hk, ?_⟩
  have hney : y.blocks ≠ [] := by
    intro h
    cases hx : x.blocks with
    | nil => exact hne hx
    | cons p l =>
      have := (hk p.1).mp (by rw [hx]; simp)
      rw [h] at this; simp at this
  have hzok : VecOk (⟨x.blocks.map (binBlock f y)⟩ : BVec R) := by
    intro p hp
    simp only [List.mem_map] at hp
    obtain ⟨q, hq, rfl⟩ := hp
    obtain ⟨hw, n, hn⟩ := hokx q hq
    simp only [binBlock]
    cases alookup y.blocks q.1 with
    | none => exact ⟨hw, n, hn⟩
    | some b => exact ⟨ofFn_wf _ _, n, hn⟩
  have hzne : (⟨x.blocks.map (binBlock f y)⟩ : BVec R).blocks ≠ [] := by simpa using hne
  have hsz : sortedV (⟨x.blocks.map (binBlock f y)⟩ : BVec R) = (sortedV x).map (binBlock f y) :=
    isort_map_key (binBlock f y) (fun _ => rfl) x.blocks
  obtain ⟨sx, dx⟩ := toDenseV_data x hokx hne
  obtain ⟨_, dy⟩ := toDenseV_data y hoky hney
  obtain ⟨sz, dz⟩ := toDenseV_data _ hzok hzne
  have hpx : (sortedV x).Perm x.blocks := isort_perm _ _
  have hpy : (sortedV y).Perm y.blocks := isort_perm _ _
  have hshp : ∀ p ∈ sortedV x, (binBlock f y p).2.shape = p.2.shape := by
    intro p _
    simp only [binBlock]
    cases alookup y.blocks p.1 <;> rfl
  constructor
  · rw [sz, sx, hsz, List.map_map]
    congr 1
    apply congrArg
    apply List.map_congr_left
    intro p hp
    simp only [Function.comp, hshp p hp]
  · have hkeys : (sortedV x).map (·.1) = (sortedV y).map (·.1) := by
      refine sorted_ext (r := fun a b : Charge => Charge.lt a b = true)
        (fun a b h h' => by rw [Charge.lt_asymm h] at h'; cases h')
        (sortedV_keys_strict x hndx) (sortedV_keys_strict y hndy) (fun k => ?_)
      rw [(hpx.map _).mem_iff, (hpy.map _).mem_iff]
      exact hk k
    have hrel : List.Forall₂ (fun (p q : Charge × Blk R) => p.1 = q.1) (sortedV x) (sortedV y) := by
      have : List.Forall₂ Eq ((sortedV x).map (·.1)) ((sortedV y).map (·.1)) := by
        rw [hkeys]; exact List.forall₂_refl _
      rwa [List.forall₂_map_left_iff, List.forall₂_map_right_iff] at this
    rw [dz, dx, dy, hsz, List.flatMap_map]
    symm
    apply zipWith_flatMap_forall₂ f _ _ _ _ hrel
    intro p q hpq hp hq
    have hpm : p ∈ x.blocks := hpx.mem_iff.mp hp
    have hqm : q ∈ y.blocks := hpy.mem_iff.mp hq
    have hlx : alookup x.blocks p.1 = some p.2 := alookup_of_mem_nodup hndx hpm
    have hly : alookup y.blocks p.1 = some q.2 := by
      rw [hpq]; exact alookup_of_mem_nodup hndy hqm
    obtain ⟨hwp, n, hnp⟩ := hokx p hpm
    obtain ⟨hwq, _, _⟩ := hoky q hqm
    have hnq : q.2.shape = [n] := by rw [← hshape p.1 p.2 q.2 hlx hly, hnp]
    have hlen : p.2.data.toList.length = q.2.data.toList.length := by
      have h1 : p.2.data.size = prod p.2.shape := by simpa [Blk.wf] using hwp
      have h2 : q.2.data.size = prod q.2.shape := by simpa [Blk.wf] using hwq
      simp only [Array.length_toList, h1, h2, hnp, hnq]
    refine ⟨hlen, ?_⟩
    simp only [binBlock, hly]
    exact (data_zipWith1 f p.2 q.2 hwp hwq hnp hnq).symm

/-- strict mode (`-`, `/`, `**` between vectors) raises a `ValueError` exactly when the key sets
    differ (the model's `binaryBlockwise`, for vectors) -/
theorem binopV_strict_error_iff [Zero R] (f : R → R → R) (x y : BVec R) :
    (∃ e, binopV f .strict x y = .error e) ↔ ¬ ∀ k, k ∈ x.blocks.map (·.1) ↔ k ∈ y.blocks.map (·.1) := by
  rcases binaryBlockwise_strict (Blk.zipWith f) x.blocks y.blocks with ⟨he, hk⟩ | ⟨bl, hbl, hk, _⟩
  · simp only [binopV, he]
    exact ⟨fun _ => hk, fun _ => ⟨_, rfl⟩⟩
  · simp only [binopV, hbl]
    exact ⟨fun ⟨e, h⟩ => (by cases h), fun h => absurd hk h⟩

/-- reductions: for an associative, commutative operation with identity, reducing the per-block
    reductions (`_do_reduction`) gives the reduction of the dense vector -/
theorem reduceV_toDense [Zero R] (op : R → R → R) (e : R)
    (hassoc : ∀ a b c, op (op a b) c = op a (op b c)) (hcomm : ∀ a b, op a b = op b a)
    (hid : ∀ a, op a e = a) (v : BVec R) (hok : VecOk v) (hne : v.blocks ≠ []) :
    reduceV op e v = reduceBlk op e (toDenseV v) := by
  obtain ⟨_, d1⟩ := toDenseV_data v hok hne
  simp only [reduceV, reduceBlk]
  rw [← Array.foldl_toList, d1, foldl_op_flatMap op e hassoc hid]
  have hperm : ((sortedV v).map (fun p => p.2.data.toList.foldl op e)).Perm
      (v.blocks.map (fun p => p.2.data.foldl op e)) := by
    have := (isort_perm (fun a b : Charge × Blk R => Charge.lt a.1 b.1) v.blocks).map
      (fun p => p.2.data.foldl op e)
    simpa [sortedV, Array.foldl_toList] using this
  have : RightCommutative op := ⟨fun a b c => by rw [hassoc, hcomm b c, ← hassoc]⟩
  exact (hperm.foldl_eq e).symm

/-! ## the hypotheses are satisfiable -/

section Examples
namespace Ex2
def ix (d : Bool) : Index := .mk [((0, 0), 1), ((1, 0), 2)] d none
def one (d : Bool) : Index := .mk [((0, 0), 1)] d none
/-- a 3×1×3 U(1) array with a squeezable middle axis -/
def w : Arr Int :=
  { sym := .U1, fermi := false, indices := [ix false, one false, ix true], charge := (0, 0),
    blocks := [([(0, 0), (0, 0), (0, 0)], ⟨[1, 1, 1], #[5]⟩),
               ([(1, 0), (0, 0), (1, 0)], ⟨[2, 1, 2], #[1, 2, 3, 4]⟩)] }
def vx : BVec Int := ⟨[((1, 0), ⟨[2], #[1, 2]⟩), ((0, 0), ⟨[1], #[5]⟩)]⟩
def vy : BVec Int := ⟨[((0, 0), ⟨[1], #[7]⟩), ((1, 0), ⟨[2], #[10, 20]⟩)]⟩
def dataOf (r : Except Err (Blk Int)) : Option (List Nat × List Int) :=
  match r with | .ok b => some (b.shape, b.data.toList) | .error _ => none
def errOf {α : Type} (r : Except Err α) : Option Err :=
  match r with | .ok _ => none | .error e => some e
def vdata (r : Except Err (BVec Int)) : Option (List Nat × List Int) :=
  match r with | .ok v => some ((toDenseV v).shape, (toDenseV v).data.toList) | .error _ => none
end Ex2
open Ex2

example : w.validB = true ∧ NoEmpty w := by decide
example : squeezeMask w none = .ok [false, true, false] ∧ squeezeMask w (some [1]) = .ok [false, true, false] :=
  ⟨rfl, rfl⟩
example : errOf (w.squeeze (some [0])) = some Err.value := by decide
example : dataOf (toDenseA w) = some ([3, 1, 3], [5, 0, 0, 0, 1, 2, 0, 3, 4]) := by decide
example : dataOf (w.squeeze none >>= toDenseA) = some ([3, 3], [5, 0, 0, 0, 1, 2, 0, 3, 4]) := by decide
example : dataOf (toDenseA (C08.Ex.x.expandDims 1 none none))
    = some ([3, 1, 3], [5, 0, 0, 0, 1, 2, 0, 3, 4]) := by decide
local instance : Conj Int := ⟨id⟩
example : dataOf (toDenseA (daggerA C08.Ex.x)) = some ([3, 3], [5, 0, 0, 0, 1, 3, 0, 2, 4]) := by
  decide +kernel
example : w.blocks.foldl (fun acc (_, b) => acc + b.sumAll) 0 = 15 := by decide
example : VecOk vx ∧ VecOk vy := ⟨vecOk_of_all (by decide), vecOk_of_all (by decide)⟩
example : ((toDenseV vx).shape, (toDenseV vx).data.toList) = ([3], [5, 1, 2]) := by decide
example : vdata (binopV (· + ·) .outer vx vy) = some ([3], [12, 11, 22]) := by decide
example : vdata (binopV (· - ·) .strict vx vy) = some ([3], [-2, -9, -18]) := by decide
example : ((toDenseV (mapV (fun t => t * t + 1) vx)).data.toList) = [26, 2, 5] := by decide +kernel
example : reduceV (· + ·) 0 vx = 8 ∧ reduceBlk (· + ·) 0 (toDenseV vx) = 8 := by decide

example := sum_toDense_of_valid (R := Int) w (by decide) rfl (by decide)
example := norm_sq_eq_dense_of_valid (R := Int) (S := Int) (fun t => t * t) rfl
  (fun t => Int.neg_mul_neg t t) w (by decide) (by decide)
example : C12.normSq2 (fun t : Int => t * t) w = 55 := by decide +kernel
example := squeeze_toDense (R := Int) w none _ rfl rfl (validB_shapesOk (a := w) (by decide))
  (validB_nodup (a := w) (by decide)) (by decide)
example := expandDims_toDense (R := Int) C08.Ex.x 1 none (by decide) rfl
  (validB_shapesOk (a := C08.Ex.x) (by decide)) (validB_nodup (a := C08.Ex.x) (by decide))
  (validB_length (a := C08.Ex.x) (by decide)) (by decide)
example := reduceV_toDense (R := Int) (· + ·) 0 Int.add_assoc Int.add_comm Int.add_zero vx
  (vecOk_of_all (by decide)) (by decide)
example := mapV_toDense (R := Int) (fun t => t * t + 1) vx (vecOk_of_all (by decide)) (by decide)
example := binopV_toDense (R := Int) (· - ·) .strict vx vy (vecOk_of_all (by decide))
  (vecOk_of_all (by decide)) (by decide) (by decide) (by decide) (sameKeys_of_all (by decide))
  (sameShapes_of_all (by decide))
example := dagger_toDense (R := Int) rfl C08.Ex.x rfl (by decide)
  (validB_shapesOk (a := C08.Ex.x) (by decide)) (validB_nodup (a := C08.Ex.x) (by decide))
  (validB_length (a := C08.Ex.x) (by decide))

end Examples

end SymmModel.C08
