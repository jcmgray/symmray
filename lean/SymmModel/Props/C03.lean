/-
  Property C03 — "Fermionic operations follow graded tensor semantics": the SIGN theorems.

  All theorems are about the model definitions
    `isOdd`, `crossed`, `swapsLoop`, `koszulNeg`, `koszul`      (Model/Sym.lean,  = symmray
                                                                 `calc_phase_permutation`)
    `Arr.parities`, `Arr.getPhase`, `Arr.setPhase`, `Arr.transposeF`, `Arr.phaseFlip`,
    `Arr.phaseTranspose`, `Arr.phaseGlobal`, `Arr.elem`         (Model/Fermi.lean, Model/Arr.lean)
  for parity lists, permutations and sector tables of ARBITRARY length.

  Specification vocabulary (defined in `SymmModel.Proofs.Koszul`, namespace `SymmModel.KoszulP`):
    `invOdd par perm`   number of pairs of odd entries whose order `perm` reverses
                        (head `ax` odd: count the later entries `o < ax` that are odd; recurse)
    `oddCount par l`    number of odd entries among the axes listed in `l`
    `flipSign a axs s`      `-1` iff an odd number of the axes `axs` carries an odd charge in `s`
    `applySign σ x`     `-x` if `σ = -1`, else `x`
  "`perm` is a permutation of `range n`" is `perm.Perm (List.range n)`; the model's guard
  `Arr.isPerm perm n = true` implies it (`perm_of_isPerm`) and is implied by it.

  The element-level statement is `transposeF_koszul` ("transposing multiplies each element by the
  sign of the permutation restricted to its odd indices").  `tensordotF_refines_graded` and its
  corollaries for `traceF` and `matmulF` are in Props/C03b.lean, the one for `einsumF` in
  Props/C09b.lean.
-/
import SymmModel.Proofs.Koszul

namespace SymmModel.C03
open SymmModel SymmModel.KoszulP

theorem isPerm_iff_perm (axes : List Nat) (n : Nat) :
    Arr.isPerm axes n = true ↔ axes.Perm (List.range n) :=
  ⟨perm_of_isPerm, isPerm_of_perm⟩

/-- for every parity list and every permutation of `range n`, the code's double loop with its
    `moved` set counts exactly the pairs of odd entries put in reversed order; hence the sign is
    `(-1)^invOdd` -/
theorem koszul_eq_invOdd (par : List Bool) (perm : List Nat) (n : Nat)
    (hperm : perm.Perm (List.range n)) :
    swapsLoop par perm [] = invOdd par perm
      ∧ koszul par (some perm) = (-1 : Int) ^ (invOdd par perm) := by
  refine ⟨swapsLoop_eq_invOdd par perm n hperm, ?_⟩
  rw [koszul_some, swapsLoop_eq_invOdd par perm n hperm, sgn_eq_pow]

example : Arr.isPerm [3, 0, 2, 1] 4 = true := by decide
example : [3, 0, 2, 1].Perm (List.range 4) := perm_of_isPerm (by decide)
example : swapsLoop [true, true, false, true] [3, 0, 2, 1] [] = 2
    ∧ invOdd [true, true, false, true] [3, 0, 2, 1] = 2 := by decide
example : koszul [true, true, false, true] [1, 0, 2, 3] = -1 := by decide

/-- the hypothesis is needed: on a list with a repeated axis the loop and the inversion count
    differ -/
theorem koszul_eq_invOdd_needs_perm :
    swapsLoop [true, true] [1, 1] [] ≠ invOdd [true, true] [1, 1] := by decide

/-- `calc_phase_permutation(parities, None)` (`sum // 2 % 2`) equals the general loop on the full
    reversal `(n-1, …, 0)`: `k` odd entries have `k(k-1)/2` inversions under reversal, whose
    parity is that of `k div 2` -/
theorem koszul_none_eq_reverse (par : List Bool) (n : Nat) (h : par.length = n) :
    koszul par none = koszul par (some (List.range n).reverse) := by
  subst h; exact koszul_none_eq_reverse' par

theorem koszul_none_eq_pow (par : List Bool) :
    koszul par none = (-1 : Int) ^ ((par.filter id).length * ((par.filter id).length - 1) / 2) := by
  rw [koszul_none, ← sgn_eq_pow, ← tri_eq, sgn_tri]

example : koszul [true, false, true, true] none = -1
    ∧ koszul [true, false, true, true] (some [3, 2, 1, 0]) = -1 := by decide

theorem koszul_id (par : List Bool) (n : Nat) : koszul par (some (List.range n)) = 1 :=
  koszul_id' par n

theorem koszul_sq (par : List Bool) (perm : Option (List Nat)) :
    (koszul par perm = 1 ∨ koszul par perm = -1) ∧ koszul par perm * koszul par perm = 1 := by
  unfold koszul; split <;> simp

theorem koszul_swap_adjacent (par : List Bool) (xs : List Nat) (a b : Nat) (ys : List Nat) (n : Nat)
    (h : (xs ++ a :: b :: ys).Perm (List.range n)) :
    koszul par (some (xs ++ b :: a :: ys))
      = koszul par (some (xs ++ a :: b :: ys)) * (if isOdd par a && isOdd par b then -1 else 1) :=
  koszul_swap_adjacent' par xs a b ys n h

example : ([2] ++ 0 :: 3 :: [1]).Perm (List.range 4) := perm_of_isPerm (by decide)
example : koszul [true, true, false, true] (some ([2] ++ 3 :: 0 :: [1])) = 1
    ∧ koszul [true, true, false, true] (some ([2] ++ 0 :: 3 :: [1])) = -1 := by decide

/-- `FermionicArray.transpose(axes)`: the new table gives the permuted sector the old pending
    sign times the Koszul sign of `axes` restricted to the sector's odd entries -/
theorem transposeF_phase {R : Type} [Zero R] (a : Arr R) (axes : List Nat)
    (hlen : ∀ s ∈ a.sectors, s.length = a.ndim) (hax : Arr.isPerm axes a.ndim = true)
    (s : Sector) (hmem : s ∈ a.sectors) (hpm : a.getPhase s = 1 ∨ a.getPhase s = -1) :
    (a.transposeF axes).getPhase (permuted s axes)
      = a.getPhase s * koszul (a.parities s) (some axes) :=
  transposeF_getPhase a axes hlen hax s hmem hpm

/-- `phase_flip(*axs)`: every stored sector's pending sign is multiplied by `-1` iff an odd number
    of the listed axes is odd in that sector; keys that are not stored sectors are untouched -/
theorem phaseFlip_phase {R : Type} (a : Arr R) (axs : List Nat)
    (hs : allDistinct a.sectors = true) (hph : allDistinct (a.phases.map (·.1)) = true)
    (s : Sector) :
    (a.phaseFlip axs).getPhase s
      = if s ∈ a.sectors then a.getPhase s * flipSign a axs s else a.getPhase s :=
  (phaseFlip_resigns a axs (allDistinct_iff_nodup.mp hs) (allDistinct_iff_nodup.mp hph)).get s

/-- `phase_transpose(axes)` (`axes = none`: virtual full reversal): every stored sector's pending
    sign is multiplied by the Koszul sign of its parities -/
theorem phaseTranspose_phase {R : Type} (a : Arr R) (axes : Option (List Nat))
    (hs : allDistinct a.sectors = true) (hph : allDistinct (a.phases.map (·.1)) = true)
    (s : Sector) :
    (a.phaseTranspose axes).getPhase s
      = if s ∈ a.sectors then a.getPhase s * koszul (a.parities s) axes else a.getPhase s :=
  (phaseTranspose_resigns a axes (allDistinct_iff_nodup.mp hs) (allDistinct_iff_nodup.mp hph)).get s

/-- `phase_global()`: every stored sector's pending sign `±1` is negated -/
theorem phaseGlobal_phase {R : Type} (a : Arr R)
    (hs : allDistinct a.sectors = true) (hph : allDistinct (a.phases.map (·.1)) = true)
    (s : Sector) (hmem : s ∈ a.sectors) (hpm : a.getPhase s = 1 ∨ a.getPhase s = -1) :
    a.phaseGlobal.getPhase s = - a.getPhase s := by
  rw [(phaseGlobal_resigns a (allDistinct_iff_nodup.mp hs) (allDistinct_iff_nodup.mp hph)).get s,
    if_pos hmem]
  rcases hpm with h | h <;> simp [h]

/-- value view: the three table-only operations multiply every stored element of a stored sector
    by the stated sign (`R` any scalar type with an involutive negation) -/
theorem phase_ops_elem {R : Type} [Zero R] [Neg R] (hneg : ∀ x : R, - -x = x) (a : Arr R)
    (hs : allDistinct a.sectors = true) (hph : allDistinct (a.phases.map (·.1)) = true)
    (s : Sector) (hmem : s ∈ a.sectors) (hpm : a.getPhase s = 1 ∨ a.getPhase s = -1)
    (off : List Nat) :
    (∀ axes, (a.phaseTranspose axes).elem s off
        = applySign (koszul (a.parities s) axes) (a.elem s off))
    ∧ (∀ axs, (a.phaseFlip axs).elem s off = applySign (flipSign a axs s) (a.elem s off))
    ∧ a.phaseGlobal.elem s off = applySign (-1) (a.elem s off) := by
  refine ⟨fun axes => ?_, fun axs => ?_, ?_⟩
  · apply elem_of_getPhase_mul hneg a (a.phaseTranspose axes) rfl s hmem _ (koszul_sq _ _).1 hpm
    rw [phaseTranspose_phase a axes hs hph s, if_pos hmem]
  · apply elem_of_getPhase_mul hneg a (a.phaseFlip axs) _ s hmem _ (flipSign_cases a axs s) hpm
    · rw [phaseFlip_phase a axs hs hph s, if_pos hmem]
    · unfold Arr.phaseFlip; split <;> rfl
  · apply elem_of_getPhase_mul hneg a a.phaseGlobal rfl s hmem _ (Or.inr rfl) hpm
    rw [phaseGlobal_phase a hs hph s hmem hpm]; omega

/-- **value view of `FermionicArray.transpose`**: for a stored sector `s` with block `b` and a
    multi-index `off` inside the block, the element of the transposed array at the permuted
    address is the old element times the Koszul sign of `axes` restricted to the sector's odd
    indices — whatever signs were pending before (`R`: any scalar type with involutive negation) -/
theorem transposeF_koszul {R : Type} [Zero R] [Neg R] (hneg : ∀ x : R, - -x = x) (a : Arr R)
    (axes : List Nat) (hs : allDistinct a.sectors = true)
    (hlen : ∀ s ∈ a.sectors, s.length = a.ndim) (hax : Arr.isPerm axes a.ndim = true)
    (s : Sector) (b : Blk R) (hb : alookup a.blocks s = some b) (hbs : b.shape.length = a.ndim)
    (hpm : a.getPhase s = 1 ∨ a.getPhase s = -1)
    (off : List Nat) (hoff : inBox b.shape off = true) :
    (a.transposeF axes).elem (permuted s axes) (permuted off axes)
      = applySign (koszul (a.parities s) (some axes)) (a.elem s off) :=
  transposeF_elem hneg a axes hs hlen hax s b hb hbs hpm off hoff

/-- the hypotheses of the sign-table theorems above are clauses of the validity predicate
    `Arr.validB` (property C01) for fermionic arrays -/
theorem valid_gives_hyps {R : Type} (a : Arr R) (hv : a.validB = true) (hf : a.fermi = true) :
    allDistinct a.sectors = true ∧ allDistinct (a.phases.map (·.1)) = true
      ∧ (∀ s ∈ a.sectors, s.length = a.ndim)
      ∧ (∀ s, a.getPhase s = 1 ∨ a.getPhase s = -1) :=
  valid_sign_hyps a hv hf

/-- even total charge, legs ket/bra/ket, all four sectors, pending sign `-1` on `(1,1,0)` -/
def exA : Arr Int :=
  let ix (d : Bool) : Index := Index.mk [((0, 0), 1), ((1, 0), 1)] d none
  { sym := .Z2, fermi := true,
    indices := [ix false, ix true, ix false],
    charge := (0, 0),
    blocks := [([(0, 0), (0, 0), (0, 0)], ⟨[1, 1, 1], #[5]⟩),
               ([(1, 0), (1, 0), (0, 0)], ⟨[1, 1, 1], #[7]⟩),
               ([(0, 0), (1, 0), (1, 0)], ⟨[1, 1, 1], #[9]⟩),
               ([(1, 0), (0, 0), (1, 0)], ⟨[1, 1, 1], #[11]⟩)],
    phases := [([(1, 0), (1, 0), (0, 0)], -1)] }

example : exA.validB = true ∧ exA.fermi = true := by decide

example : allDistinct exA.sectors = true ∧ allDistinct (exA.phases.map (·.1)) = true
    ∧ Arr.isPerm [2, 0, 1] exA.ndim = true ∧ (∀ s ∈ exA.sectors, s.length = exA.ndim)
    ∧ [(1, 0), (1, 0), (0, 0)] ∈ exA.sectors
    ∧ (∀ s ∈ exA.sectors, exA.getPhase s = 1 ∨ exA.getPhase s = -1) := by decide

/-- the conclusions are non-trivial on it: pending `-1` meets Koszul `-1` on `(1,1,0)` under
    `[1,0,2]`; `[2,0,1]` moves an odd leg over one resp. two odd legs -/
example : (exA.transposeF [1, 0, 2]).getPhase [(1, 0), (1, 0), (0, 0)] = 1
    ∧ (exA.transposeF [2, 0, 1]).getPhase (permuted [(1, 0), (1, 0), (0, 0)] [2, 0, 1]) = -1
    ∧ (exA.transposeF [2, 0, 1]).getPhase (permuted [(0, 0), (1, 0), (1, 0)] [2, 0, 1]) = -1
    ∧ (exA.phaseFlip [1, 2]).getPhase [(1, 0), (1, 0), (0, 0)] = 1
    ∧ (exA.phaseFlip [1, 2]).getPhase [(1, 0), (0, 0), (1, 0)] = -1
    ∧ (exA.phaseTranspose none).getPhase [(0, 0), (1, 0), (1, 0)] = -1
    ∧ (exA.phaseTranspose (some [1, 0, 2])).getPhase [(1, 0), (1, 0), (0, 0)] = 1
    ∧ exA.phaseGlobal.getPhase [(0, 0), (0, 0), (0, 0)] = -1
    ∧ exA.phaseGlobal.getPhase [(1, 0), (1, 0), (0, 0)] = 1 := by decide

example : ∀ x : Int, - -x = x := Int.neg_neg

example : alookup exA.blocks [(0, 0), (1, 0), (1, 0)] = some ⟨[1, 1, 1], #[9]⟩
    ∧ inBox [1, 1, 1] [0, 0, 0] = true ∧ ([1, 1, 1] : List Nat).length = exA.ndim :=
  ⟨rfl, by decide, by decide⟩

/-- value view on it: `9` in sector `(0,1,1)` reads `-9` at `(1,0,1)` after `[2,0,1]`; the stored
    `7` with pending `-1` reads `-7` before and after `[2,0,1]`, and `+7` after `[1,0,2]` -/
example : exA.elem [(0, 0), (1, 0), (1, 0)] [0, 0, 0] = 9
    ∧ (exA.transposeF [2, 0, 1]).elem [(1, 0), (0, 0), (1, 0)] [0, 0, 0] = -9
    ∧ exA.elem [(1, 0), (1, 0), (0, 0)] [0, 0, 0] = -7
    ∧ (exA.transposeF [2, 0, 1]).elem [(0, 0), (1, 0), (1, 0)] [0, 0, 0] = -7
    ∧ (exA.transposeF [1, 0, 2]).elem [(1, 0), (1, 0), (0, 0)] [0, 0, 0] = 7 := by decide

/-- the `±1` hypothesis of `phaseGlobal_phase` is needed: a stored `5` is erased, not negated -/
theorem phaseGlobal_phase_needs_pm :
    ({ exA with phases := [([(1, 0), (1, 0), (0, 0)], 5)] } : Arr Int).phaseGlobal.getPhase
        [(1, 0), (1, 0), (0, 0)] ≠ -5 := by decide

/-- distinct table keys are needed: with a duplicated key `pop` exposes the shadowed entry -/
theorem phaseTranspose_phase_needs_distinct_keys :
    (({ exA with phases := [([(1, 0), (1, 0), (0, 0)], -1), ([(1, 0), (1, 0), (0, 0)], -1)] }
        : Arr Int).phaseTranspose (some [1, 0, 2])).getPhase [(1, 0), (1, 0), (0, 0)] ≠ 1 := by
  decide

/-- sectors of the right length are needed for `transposeF_phase`: a too long key collides with
    `(1,1,0)`, whose pending `-1` times Koszul `-1` should give `+1` -/
theorem transposeF_phase_needs_length :
    (({ exA with blocks := [([(1, 0), (1, 0), (0, 0)], ⟨[1, 1, 1], #[7]⟩),
                            ([(1, 0), (1, 0), (0, 0), (1, 0)], ⟨[1, 1, 1], #[7]⟩)] }
        : Arr Int).transposeF [1, 0, 2]).getPhase (permuted [(1, 0), (1, 0), (0, 0)] [1, 0, 2])
      ≠ exA.getPhase [(1, 0), (1, 0), (0, 0)] * koszul [true, true, false] (some [1, 0, 2]) := by
  decide

end SymmModel.C03
