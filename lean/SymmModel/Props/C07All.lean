import SymmModel.Props.C07
import SymmModel.Props.C07b
