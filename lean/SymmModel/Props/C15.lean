/-
  SymmModel.Props.C15 — results do not depend on call history, caches or threads.

  Model: SymmModel/Model/Cache.lean (the fuse-information cache of
  `cached_fuse_block_info` as a sequential function and as a thread machine over its atomic
  dict operations; the default-contraction-mode global and its context manager; the hash-key
  trees).  Helper lemmas: SymmModel/Proofs/C15.lean.

  The statements about *results* are proved for every `Policy` (move-to-end on a hit or not,
  evict oldest or newest, guarded or unguarded pop): replacing LRU by FIFO, or evicting the
  newest entry, changes hit rates only.  `Policy.code` is the code of /repo from commit 039ae71
  on (`popitem` guarded); `Policy.unrepaired` is the code of the commits before it.
-/
import SymmModel.Proofs.C15
namespace SymmModel.C15
open SymmModel FuseCache

section generic
variable {α κ β : Type} [BEq κ] [LawfulBEq κ]

/-- For every cache size (any integer: 0 = disabled, 1, negative, …), every policy and every
    finite history of calls starting from the empty cache, every call returns `compute` of
    its own argument — provided the key determines the computed value. -/
theorem cache_coherent_all_histories (P : Policy) (S : CacheSpec α κ β)
    (hK : ∀ x y, S.keyOf x = S.keyOf y → S.compute x = S.compute y)
    (maxsize : Int) (xs : List α) :
    (runCallsP P S (FuseCache.empty maxsize) xs).1 = xs.map (fun x => some (S.compute x)) :=
  (runCallsP_spec P S hK xs (FuseCache.empty maxsize) (coherent_nil S)).1

/-- The same from any warm cache whose entries are all of the form `(keyOf x, compute x)`,
    and that form is kept (this is the invariant). -/
theorem cache_coherent_from_warm (P : Policy) (S : CacheSpec α κ β)
    (hK : ∀ x y, S.keyOf x = S.keyOf y → S.compute x = S.compute y)
    (c : FuseCache κ β) (hc : Coherent S c.entries) (xs : List α) :
    (runCallsP P S c xs).1 = xs.map (fun x => some (S.compute x)) ∧
    Coherent S (runCallsP P S c xs).2.entries :=
  ⟨(runCallsP_spec P S hK xs c hc).1, (runCallsP_spec P S hK xs c hc).2.1⟩

/-- Sequential histories never leave more than `maxsize` entries behind (for a negative
    `maxsize`: none). -/
theorem cache_size_bounded (P : Policy) (S : CacheSpec α κ β)
    (hK : ∀ x y, S.keyOf x = S.keyOf y → S.compute x = S.compute y)
    (maxsize : Int) (xs : List α) :
    (runCallsP P S (FuseCache.empty maxsize) xs).2.entries.length ≤ maxsize.toNat := by
  have h := (runCallsP_spec P S hK xs (FuseCache.empty maxsize) (coherent_nil S)).2.2.2
  exact h (by simp [FuseCache.empty])

/-- the step form of `cache_size_bounded` -/
theorem cache_size_bounded_step (P : Policy) (S : CacheSpec α κ β)
    (hK : ∀ x y, S.keyOf x = S.keyOf y → S.compute x = S.compute y)
    (c : FuseCache κ β) (hc : Coherent S c.entries) (x : α)
    (hle : c.entries.length ≤ c.maxsize.toNat) :
    (callP P S c x).cache.entries.length ≤ c.maxsize.toNat :=
  (callP_spec P S hK c x hc).2.2.2 hle

/-- A memoised pure function returns what the function returns, after any history of other
    calls and for any cache size (the `functools.lru_cache` analogue: key = the argument). -/
theorem memo_pure {α β : Type} [BEq α] [LawfulBEq α] (P : Policy) (f : α → β) (maxsize : Int)
    (xs : List α) :
    (runCallsP P ({ keyOf := id, compute := f } : CacheSpec α α β) (FuseCache.empty maxsize) xs).1
      = xs.map (fun x => some (f x)) :=
  cache_coherent_all_histories P _ (fun x y h => by simp only [id] at h; rw [h]) maxsize xs

/-- Thread machine: for every number of threads, every program per thread, every schedule,
    every policy and every cache size, starting from any coherent cache: every call that has
    completed returned `compute` of its own argument, in program order. -/
theorem interleaving_results_correct (P : Policy) (S : CacheSpec α κ β)
    (hK : ∀ x y, S.keyOf x = S.keyOf y → S.compute x = S.compute y)
    (c : FuseCache κ β) (hc : Coherent S c.entries) (progs : List (List α)) (sched : List Nat) :
    let m := runSched P S ⟨c, spawn progs⟩ sched
    (∀ t ∈ m.threads, ∀ p ∈ t.out, p.2 = S.compute p.1) ∧
    m.threads.map (fun t => t.out.map Prod.fst ++ t.todo) = progs ∧
    Coherent S m.cache.entries := by
  obtain ⟨h1, h2, h3⟩ := runSched_local (P := P) (fun c => Coherent S c.entries) (ThreadOK S) progOf
    (fun _ _ _ _ hs => hs.spec hK) sched ⟨c, spawn progs⟩ hc
    (fun t ht => by obtain ⟨p, rfl⟩ := mem_spawn ht; exact threadOK_fresh S p)
  exact ⟨fun t ht => (h2 t ht).1, h3.trans (map_progOf_spawn progs), h1⟩

omit [LawfulBEq κ] in
/-- The code as it is (guarded `popitem`): in no schedule of any number of threads does any
    call raise.  No hypothesis on the key is needed. -/
theorem interleaving_no_raise (S : CacheSpec α κ β) (touch popLast : Bool)
    (c : FuseCache κ β) (progs : List (List α)) (sched : List Nat) :
    (runSched { touch := touch, popLast := popLast, guarded := true } S ⟨c, spawn progs⟩ sched).anyRaised
      = false := by
  obtain ⟨_, h, _⟩ := runSched_local (P := { touch := touch, popLast := popLast, guarded := true }) (S := S)
    (fun _ => True) (fun t => t.raised = false) (fun _ => ())
    (fun _ _ _ _ hs _ hr => ⟨trivial, (hs.raised_guarded rfl).trans hr, rfl⟩) sched ⟨c, spawn progs⟩ trivial
    (fun t ht => by obtain ⟨p, rfl⟩ := mem_spawn ht; rfl)
  simp only [Machine.anyRaised, List.any_eq_false]
  intro t ht
  simp [h t ht]

omit [LawfulBEq κ] in
/-- The unrepaired code (unguarded `popitem`) cannot raise either while the number of threads
    is at most `maxsize + 1`  (for `maxsize = 1`: two threads). -/
theorem interleaving_no_raise_unrepaired_partial (S : CacheSpec α κ β) (touch popLast : Bool)
    (c : FuseCache κ β) (progs : List (List α)) (sched : List Nat)
    (hT : (progs.length : Int) ≤ c.maxsize + 1) :
    (runSched { touch := touch, popLast := popLast, guarded := false } S ⟨c, spawn progs⟩ sched).anyRaised
      = false := by
  have h := runSched_induct (P := { touch := touch, popLast := popLast, guarded := false }) (S := S) CntInvT
    (fun _ _ _ _ _ hI hti hs => cntInvT_step hI hti hs) sched ⟨c, spawn progs⟩
    ⟨by simpa [spawn] using hT, cntInv_spawn c progs⟩
  simp only [Machine.anyRaised, List.any_eq_false]
  intro t ht
  simp [h.2.1 t ht]

end generic

def natSpec : CacheSpec Nat Nat Nat := { keyOf := id, compute := id }

/-- threads 0,1,2 call with keys 0,1,1 on an empty cache of `maxsize = 1`:
    all look up (miss), all insert (2 entries), all pass `len > 1`, then pop in turn. -/
def raceSchedule : List Nat := [0, 1, 2, 0, 1, 2, 0, 1, 2, 0, 1, 2]

/-- `interleaving_no_raise` is FALSE of the code before 039ae71: the third pop raises. -/
theorem interleaving_no_raise_unrepaired_false :
    (runSched Policy.unrepaired natSpec ⟨FuseCache.empty 1, spawn [[0], [1], [1]]⟩ raceSchedule).anyRaised
      = true := by decide

/-- which thread dies, and that the other two returned the right values -/
example :
    ((runSched Policy.unrepaired natSpec ⟨FuseCache.empty 1, spawn [[0], [1], [1]]⟩ raceSchedule).threads.map
      (fun t => (t.out, t.raised))) = [([(0, 0)], false), ([(1, 1)], false), ([], true)] := by decide

/-- the same schedule on the repaired code: nobody raises, everybody is right, cache empty -/
example :
    let m := runSched Policy.code natSpec ⟨FuseCache.empty 1, spawn [[0], [1], [1]]⟩ raceSchedule
    (m.threads.map (fun t => (t.out, t.raised)), m.cache.entries)
      = ([([(0, 0)], false), ([(1, 1)], false), ([(1, 1)], false)], []) := by decide

/-- the bound of `interleaving_no_raise_unrepaired_partial` is tight also for `maxsize = 2` (four
    threads raise).  For `maxsize = -1` the theorem covers no thread at all (`T ≤ 0`) and two threads
    raise; there the bound is not tight: one thread alone does not raise (third example: three calls,
    run to the end). -/
example :
    (runSched Policy.unrepaired natSpec ⟨FuseCache.empty 2, spawn [[0], [1], [2], [2]]⟩
      [0, 1, 2, 3, 0, 1, 2, 3, 0, 1, 2, 3, 0, 1, 2, 3]).anyRaised = true := by decide
example :
    (runSched Policy.unrepaired natSpec ⟨FuseCache.empty (-1), spawn [[0], [0]]⟩
      [0, 1, 0, 1, 0, 1, 0, 1]).anyRaised = true := by decide
example :
    (runSched Policy.unrepaired natSpec ⟨FuseCache.empty (-1), spawn [[0, 1, 0]]⟩
      (List.replicate 16 0)).anyRaised = false := by decide

/-- the hypothesis of the partial theorem is satisfiable (two threads, `maxsize = 1`) -/
example : ((([[0], [1]] : List (List Nat)).length : Int) ≤ (FuseCache.empty 1 : FuseCache Nat Nat).maxsize + 1) := by
  decide

/-- Running one thread alone for five steps (the longest path through a call) gives exactly
    what the sequential function `callP` gives: result and cache. -/
theorem call_eq_single_thread {α κ β : Type} [BEq κ] [LawfulBEq κ] (P : Policy)
    (S : CacheSpec α κ β) (c : FuseCache κ β) (x : α) :
    let m := runSched P S ⟨c, spawn [[x]]⟩ [0, 0, 0, 0, 0]
    m.cache.entries = (callP P S c x).cache.entries ∧
    m.threads.map (fun t => (t.out.map Prod.snd, t.raised)) =
      [match (callP P S c x).res with | some v => ([v], false) | none => ([], true)] := by
  rw [callP_eq]
  simp only [runSched, List.foldl_cons, List.foldl_nil, spawn, List.map_cons, List.map_nil]
  by_cases h0 : c.maxsize = 0
  · simp [stepAt, stepThread, h0, Thread.finish]
  by_cases hb : S.bypass x = true
  · simp [stepAt, stepThread, h0, hb, Thread.finish]
  cases hl : alookup c.entries (S.keyOf x) with
  | some v =>
    by_cases ht : P.touch = true
    · simp [stepAt, stepThread, h0, hb, hl, ht, Thread.finish, moveToEnd_isSome hl]
    · simp [stepAt, stepThread, h0, hb, hl, ht, Thread.finish]
  | none =>
    simp only [missBranch]
    by_cases hr : S.raises (S.compute x) = true
    · simp [stepAt, stepThread, h0, hb, hl, hr, Thread.finish]
    by_cases hlen : ((ainsert c.entries (S.keyOf x) (S.compute x)).length : Int) > c.maxsize
    · obtain ⟨es2, h2⟩ := popitem_isSome (β := β) P.popLast (ainsert_ne_nil c.entries (S.keyOf x) (S.compute x))
      simp [stepAt, stepThread, h0, hb, hl, hr, hlen, h2, Thread.finish]
    · simp [stepAt, stepThread, h0, hb, hl, hr, hlen, Thread.finish]

/-- The key contains everything the plan reads: equal keys ⇒ equal plans (as values of
    `Except Err FuseInfo`, propositional equality — indices, extents, block map, errors). -/
theorem key_complete {R R' : Type} (a : Arr R) (a' : Arr R') (g g' : List (List Nat))
    (h : keyOfArr a g = keyOfArr a' g') : calcFuseBlockInfo a g = calcFuseBlockInfo a' g' := by
  obtain ⟨h1, h2, h3, h4⟩ := keyOfArr_inj a a' g g' h
  rw [calcFuseBlockInfo_reads, calcFuseBlockInfo_reads, h1, h2, h3, h4]

/-- …and nothing else: the key is exactly (indices with all their sub-structure, the ordered
    sector tuple, the symmetry, the groups).  One dualness, one block size, one charge label,
    one missing sector, the sub-index structure, the symmetry or the groups changed ⇒ another key. -/
theorem key_exact {R R' : Type} (a : Arr R) (a' : Arr R') (g g' : List (List Nat)) :
    keyOfArr a g = keyOfArr a' g' ↔
      (a.indices = a'.indices ∧ a.sectors = a'.sectors ∧ a.sym = a'.sym ∧ g = g') := by
  constructor
  · exact keyOfArr_inj a a' g g'
  · intro ⟨h1, h2, h3, h4⟩
    simp only [keyOfArr, h1, h2, h3, h4]

/-- the hypothesis of the generic theorems holds for the real cache -/
theorem fuseSpec_keyDetermines (R : Type) (maxsectors : Nat) :
    ∀ x y, (fuseSpec R maxsectors).keyOf x = (fuseSpec R maxsectors).keyOf y →
      (fuseSpec R maxsectors).compute x = (fuseSpec R maxsectors).compute y :=
  fun x y h => key_complete x.1 y.1 x.2 y.2 h

/-- C15 for `cached_fuse_block_info`, sequentially: whatever was called before (arrays that
    differ in one attribute included), with whatever cache size and sector limit, each call
    returns the plan `calc_fuse_block_info` computes for its own arguments. -/
theorem fuse_cache_history_independent (R : Type) (P : Policy) (maxsize : Int) (maxsectors : Nat)
    (calls : List (Arr R × List (List Nat))) :
    (runCallsP P (fuseSpec R maxsectors) (FuseCache.empty maxsize) calls).1
      = calls.map (fun x => some (calcFuseBlockInfo x.1 x.2)) :=
  cache_coherent_all_histories P (fuseSpec R maxsectors) (fuseSpec_keyDetermines R maxsectors) maxsize calls

/-- …and concurrently: every completed call of every thread in every schedule. -/
theorem fuse_cache_schedule_independent (R : Type) (P : Policy) (maxsize : Int) (maxsectors : Nat)
    (progs : List (List (Arr R × List (List Nat)))) (sched : List Nat) :
    ∀ t ∈ (runSched P (fuseSpec R maxsectors) ⟨FuseCache.empty maxsize, spawn progs⟩ sched).threads,
      ∀ p ∈ t.out, p.2 = calcFuseBlockInfo p.1.1 p.1.2 :=
  (interleaving_results_correct P (fuseSpec R maxsectors) (fuseSpec_keyDetermines R maxsectors)
    (FuseCache.empty maxsize) (coherent_nil _) progs sched).1

open ModeCtx

/-- `with default_tensordot_mode(mode): body` — whatever the body does (sets the mode, nests
    further blocks, raises), the mode after the block is the mode before it. -/
theorem mode_ctx_restores {μ : Type} (mode : Option μ) (body : List (Act μ)) (s : State μ) :
    (exec (.withMode mode body) s).state = s := rfl

/-- the exception of a raising body still propagates out of the block -/
theorem mode_ctx_propagates {μ : Type} (mode : Option μ) (body : List (Act μ)) (s : State μ) :
    (exec (.withMode mode body) s).raised = (execList body mode).raised := rfl

/-- a whole program whose only direct `set` calls are inside `with` blocks (at any depth of
    `with`, arbitrarily nested with `try`) leaves the mode as it found it -/
theorem mode_ctx_restores_nested {μ : Type} (prog : List (Act μ)) (s : State μ)
    (h : noBareSetList prog = true) : (execList prog s).state = s :=
  execList_noBareSet prog s h

/-- `set_default_tensordot_mode(None)` is a no-op; any other value is stored -/
theorem mode_set_none_noop {μ : Type} (s : State μ) : ModeCtx.set none s = s := rfl
theorem mode_set_some {μ : Type} (m : μ) (s : State μ) : ModeCtx.get (ModeCtx.set (some m) s) = some m := rfl

/-- satisfiable, with a raising nested body that also sets the mode -/
example : noBareSetList
    [Act.withMode (some "fused") [Act.set (some "blockwise"), Act.withMode none [Act.get, Act.raise], Act.get],
     Act.tryExcept [Act.get]] = true := by decide
example : (execList
    [Act.tryExcept [Act.withMode (some "fused") [Act.set (some "blockwise"),
                      Act.withMode none [Act.get, Act.raise], Act.get]], Act.get] (some "auto")).trace
    = [none, some "auto"] := by decide

end SymmModel.C15
