import SymmModel.Props.C14All
import SymmModel.Props.C14c
