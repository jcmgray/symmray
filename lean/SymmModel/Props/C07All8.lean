import SymmModel.Props.C07All7
import SymmModel.Props.C07i
