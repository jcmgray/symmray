/-
  Property C12 — spectra and solutions equal those of the dense matrix: the STRUCTURE part that
  makes "spectrum of the matrix = union of the block spectra" and "norm = dense norm" true, for
  every symmetry, all valid rank-2 arrays and arbitrary scalars.  Row charge ↔ column charge is
  one-to-one on stored sectors (group cancellation, C17 laws); non-zero elements / dense entries
  lie only inside the stored blocks, so the dense form is block "diagonal" up to that pairing; the
  driver's "norm2" fold (Driver/Ops.lean) is Σ over stored addresses of `nsq (elem)`, independent
  of pending signs.

  Elsewhere: singular values / eigenvalues of the dense form are the union of those of the blocks
  (Props/C12b.lean); the dense-level sum `norm_sq_eq_dense` (Σ over the positions of `to_dense`,
  Props/C08b.lean); `solve_dense` (Props/C12c.lean).
-/
import SymmModel.Proofs.LinalgDense
import SymmModel.Proofs.LinalgFactors
import SymmModel.Proofs.LinalgSolve
import SymmModel.Model.GRat

namespace SymmModel.C12
open SymmModel LinalgLemmas

variable {R S : Type}

/-- C12, structure: in a valid rank-2 array `sector ↦ row charge` and `sector ↦ column charge`
    are injective on the stored sectors. -/
theorem matrix_sector_injective (a : Arr R) (hv : a.validB = true) (h2 : a.ndim = 2) :
    (∀ s ∈ a.sectors, ∃ r c, s = [r, c])
    ∧ (∀ r c c', [r, c] ∈ a.sectors → [r, c'] ∈ a.sectors → c = c')
    ∧ (∀ r r' c, [r, c] ∈ a.sectors → [r', c] ∈ a.sectors → r = r')
    ∧ (a.sectors.map (fun s => s.getD 0 (0, 0))).Nodup
    ∧ (a.sectors.map (fun s => s.getD 1 (0, 0))).Nodup := by
  refine ⟨?_, ?_, ?_, rowCharges_nodup hv h2, colCharges_nodup hv h2⟩
  · intro s hs
    obtain ⟨i0, i1, hi⟩ := ndim_two h2
    obtain ⟨⟨_, b⟩, hm, rfl⟩ := List.mem_map.mp hs
    obtain ⟨r, c, m, n, B⟩ := mat_block hv hi hm
    exact ⟨r, c, B.hs⟩
  · intro r c c' h h'
    have := (sector_inj hv h2 h h').1 rfl
    exact (List.cons.inj (List.cons.inj this).2).1
  · intro r r' c h h'
    have := (sector_inj hv h2 h h').2 rfl
    exact (List.cons.inj this).1

/-- the dictionaries `qr`/`svd`/`eigh` (symmray/linalg.py) build keyed by the column charge `c`
    or by the diagonal sector `(c, c)` never overwrite an entry: they have exactly one entry per
    stored block, in block order -/
theorem column_keyed_tables_never_overwrite (a : Arr R) (hv : a.validB = true) (h2 : a.ndim = 2)
    {β : Type} (f : Sector × Blk R → β) :
    adict (a.blocks.map (fun p => (p.1.getD 1 (0, 0), f p)))
      = a.blocks.map (fun p => (p.1.getD 1 (0, 0), f p))
    ∧ adict (a.blocks.map (fun p => ([p.1.getD 1 (0, 0), p.1.getD 1 (0, 0)], f p)))
      = a.blocks.map (fun p => ([p.1.getD 1 (0, 0), p.1.getD 1 (0, 0)], f p)) := by
  have hc := colCharges_nodup hv h2
  constructor
  · apply adict_of_nodup
    simpa [Arr.sectors, List.map_map, Function.comp_def] using hc
  · apply adict_of_nodup
    have h' := nodup_map_of_inj _ (fun c : Charge => [c, c]) hc (fun a _ b _ e => (List.cons.inj e).1)
    simpa [Arr.sectors, List.map_map, Function.comp_def] using h'

/-- the singular values returned by `svd` are exactly one kernel output per stored block, keyed
    by that block's column charge (none dropped, none merged, none under a wrong charge) -/
theorem svd_values_one_per_block (K : Kernels R) (x : Arr R) (hv : x.validB = true)
    (h2 : x.ndim = 2) :
    ∃ u s vh, svdA K x = .ok (u, s, vh)
      ∧ s.blocks = x.blocks.map (fun p => (p.1.getD 1 (0, 0), (K.svd p.2).2.1))
      ∧ (s.blocks.map (·.1)).Nodup :=
  ⟨_, _, _, svdA_eq K hv h2, rfl, by
    have := colCharges_nodup hv h2
    simpa [Arr.sectors, List.map_map, Function.comp_def, colOf] using this⟩

/-- the eigenvalues returned by a successful `eigh` are one 1-D block per stored block of the
    input, keyed by that block's column charge, in block order, each of the size that charge has
    on the column index (for a fermionic input with a non-dual column index the blocks of odd
    charges are negated: same keys, same shapes) -/
theorem eigh_values_one_per_block [Neg R] (K : Kernels R) (hK : K.ShapeOk) (a : Arr R)
    (hv : a.validB = true) (w : BVec R) (v : Arr R) (h : eighA K a = .ok (w, v)) :
    w.blocks.map (·.1) = a.sectors.map (fun s => s.getD 1 (0, 0))
    ∧ (w.blocks.map (·.1)).Nodup
    ∧ (∀ c wb, (c, wb) ∈ w.blocks →
        ∃ m, alookup (a.indices.getD 1 default).cm c = some m ∧ wb.shape = [m] ∧ wb.wf = true) := by
  obtain ⟨h2, _, _, _, _, _, _, _, _, _, hk, hb⟩ := eighA_spec hK hv h
  exact ⟨hk, by rw [hk]; exact colCharges_nodup hv h2, hb⟩

/-- C12, the dense form is a direct sum (value view): a non-zero element lies in a stored sector,
    and for every row charge there is at most one column charge carrying non-zero elements, and
    conversely. -/
theorem toDense_is_direct_sum [Zero R] [Neg R] (a : Arr R) (hv : a.validB = true)
    (h2 : a.ndim = 2) :
    (∀ s off, a.elem s off ≠ 0 → s ∈ a.sectors)
    ∧ (∀ r c c' off off', a.elem [r, c] off ≠ 0 → a.elem [r, c'] off' ≠ 0 → c = c')
    ∧ (∀ r r' c off off', a.elem [r, c] off ≠ 0 → a.elem [r', c] off' ≠ 0 → r = r') := by
  obtain ⟨_, hc, hr, _, _⟩ := matrix_sector_injective a hv h2
  exact ⟨fun s off h => elem_ne_zero_mem h,
    fun r c c' off off' h h' => hc r c c' (elem_ne_zero_mem h) (elem_ne_zero_mem h'),
    fun r r' c off off' h h' => hr r r' c (elem_ne_zero_mem h) (elem_ne_zero_mem h')⟩

/-- the same at the level of `to_dense` (any rank): the entry at a position `p` of the box is the
    element at the address `locateAll` gives to `p` in the sorted charge tables; so a non-zero
    entry sits in a stored sector, i.e. inside one of the direct summands -/
theorem toDense_entry [Zero R] [Neg R] (a : Arr R) (d : Blk R) (h : a.toDenseA = .ok d)
    (p : List Nat) (hp : inBox a.shape p = true) :
    d.get p = (match Arr.locateAll a.indices p with
               | some (sec, off) => a.elem sec off
               | none => 0)
    ∧ (d.get p ≠ 0 → ∃ sec off, Arr.locateAll a.indices p = some (sec, off) ∧ sec ∈ a.sectors
          ∧ d.get p = a.elem sec off) := by
  have hg := (toDenseA_get h hp).2
  refine ⟨hg, fun hne => ?_⟩
  rw [hg] at hne ⊢
  cases hl : Arr.locateAll a.indices p with
  | none => rw [hl] at hne; exact absurd rfl hne
  | some q =>
    obtain ⟨sec, off⟩ := q
    rw [hl] at hne
    exact ⟨sec, off, rfl, elem_ne_zero_mem hne, rfl⟩

/-- the model's `norm2` (Driver/Ops.lean, "norm2" with `nsq x = ⟨x.normSq, 0⟩`) -/
def normSq2 [Zero S] [Add S] (nsq : R → S) (a : Arr R) : S :=
  a.blocks.foldl (fun acc (_, b) => acc + (b.map nsq).sumAll) 0

/-- sum of `nsq (elem)` over all stored addresses (sector, offset in the block's box) -/
def addrNormSq [Zero R] [Neg R] [Zero S] [Add S] (nsq : R → S) (a : Arr R) : S :=
  a.blocks.foldl (fun acc (s, b) =>
    acc + ((allIdx b.shape).map (fun off => nsq (a.elem s off))).foldl (· + ·) 0) 0

/-- C12, norm: for `nsq` even (`nsq (-x) = nsq x`) the block-data sum equals the sum over stored
    addresses of `nsq` of the element (pending signs included). -/
theorem norm_sq_blocks [Zero R] [Neg R] [Zero S] [Add S] (nsq : R → S)
    (hneg : ∀ x, nsq (-x) = nsq x) (a : Arr R) (hnd : a.sectors.Nodup)
    (hwf : ∀ p ∈ a.blocks, p.2.wf = true) :
    normSq2 nsq a = addrNormSq nsq a := by
  unfold normSq2 addrNormSq
  apply foldl_ext'
  intro acc p hp
  obtain ⟨s, b⟩ := p
  simp only
  rw [block_normSq nsq hneg hnd hp (hwf _ hp)]

theorem norm_sq_blocks_valid [Zero R] [Neg R] [Zero S] [Add S] (nsq : R → S)
    (hneg : ∀ x, nsq (-x) = nsq x) (a : Arr R) (hv : a.validB = true) :
    normSq2 nsq a = addrNormSq nsq a :=
  norm_sq_blocks nsq hneg a (Arr.validB_nodup hv)
    (fun _ hp => Arr.validB_block_wf hv hp)

/-- sign-gauge invariance: the address sum does not depend on the pending-sign table -/
theorem norm_sq_gauge [Zero R] [Neg R] [Zero S] [Add S] (nsq : R → S)
    (hneg : ∀ x, nsq (-x) = nsq x) (a : Arr R) (hv : a.validB = true)
    (ph : List (Sector × Int)) :
    addrNormSq nsq { a with phases := ph } = addrNormSq nsq a := by
  have h1 := norm_sq_blocks_valid nsq hneg a hv
  have h2 := norm_sq_blocks nsq hneg { a with phases := ph }
    (Arr.validB_nodup (a := a) hv)
    (fun _ hp => Arr.validB_block_wf hv hp)
  exact h2.symm.trans h1

/-- the block-data sum is unchanged by `phase_sync` (which multiplies the signs into the data) -/
theorem norm_sq_phaseSync [Neg R] [Zero S] [Add S] (nsq : R → S)
    (hneg : ∀ x, nsq (-x) = nsq x) (a : Arr R) :
    normSq2 nsq a.phaseSync = normSq2 nsq a := by
  unfold normSq2 Arr.phaseSync
  simp only [List.foldl_map]
  apply foldl_ext'
  intro acc p _
  obtain ⟨s, b⟩ := p
  simp only
  split
  · simp only [negK_map nsq hneg]
  · rfl

/-- U1 matrix of total charge 1 with mixed directions and two blocks over the Gaussian
    rationals; the second block carries a pending sign -/
def exG : Arr GRat :=
  { sym := .U1, fermi := true, charge := (1, 0),
    indices := [Index.mk [((0, 0), 2), ((1, 0), 1)] false none,
                Index.mk [((-1, 0), 1), ((0, 0), 2)] true none],
    blocks := [([(0, 0), (-1, 0)], ⟨[2, 1], #[⟨1, 2⟩, ⟨0, 3⟩]⟩),
               ([(1, 0), (0, 0)], ⟨[1, 2], #[⟨-2, 0⟩, ⟨1, -1⟩]⟩)],
    phases := [([(1, 0), (0, 0)], -1)],
    oddpos := [(0, false)] }

example : exG.validB = true ∧ exG.ndim = 2 := by decide +kernel

/-- `|1+2i|² + |3i|² + |-2|² + |1-i|² = 5 + 9 + 4 + 2`, by blocks, by addresses (where the
    second block's elements carry the sign `-1`), and after `phase_sync` -/
example : normSq2 GRat.normSq exG = 20 ∧ addrNormSq GRat.normSq exG = 20
    ∧ normSq2 GRat.normSq exG.phaseSync = 20 := by decide +kernel

example : ∀ x : GRat, GRat.normSq (-x) = GRat.normSq x := by
  intro x
  show (-x.re) * (-x.re) + (-x.im) * (-x.im) = x.re * x.re + x.im * x.im
  rw [Rat.neg_mul, Rat.mul_neg, Rat.neg_neg, Rat.neg_mul, Rat.mul_neg, Rat.neg_neg]

/-- the element view: stored value with the pending sign, zero off the stored sectors -/
example : exG.elem [(1, 0), (0, 0)] [0, 1] = ⟨-1, 1⟩ ∧ exG.elem [(0, 0), (-1, 0)] [1, 0] = ⟨0, 3⟩
    ∧ exG.elem [(0, 0), (0, 0)] [0, 0] = 0 := by decide +kernel

end SymmModel.C12
