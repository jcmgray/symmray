/-
  Property C07, fourth part — "… and then back to the original shape, restores the original array
  exactly", as theorems about `reshapeArr` (`AbelianArray.reshape` / `FermionicArray.reshape`).

  Scope (hence the suffix `_partial`): the forward plan the planner returns is ONE fuse call with ONE
  group, `([], [[g]], [])` — the target merges one run of adjacent axes, size-one axes of the run
  (squeezed axes) included.  For a certified plan `g` is then the run `p, …, p+|g|-1`, the
  transposition of the fuse is the identity, `reshape` back plans exactly `unfuse(p)`
  (`planner_back_plan`, for all shapes, ANY — also sparse — size of the fused axis), and
  `C05.unfuseF_fuseF` / `C05.unfuse_fuse_blocks` give the cancellation.
    `reshape_roundtrip_fermionic_partial`   fermionic: the result is valid, fermionic, has the
        indices, symmetry, charge and odd-position labels of the original; every stored sector is
        stored again with the same block shape and — pending signs multiplied in — the same values
        (`Restored`); every additional stored block (the fuse materialises zero blocks) has value 0.
        `roundtrip_restores_view`: hence the two value views agree inside the box of every block
        the result stores and on every sector it does not store.
    `reshape_roundtrip_abelian_partial`     abelian: additionally every stored block comes back as
        the SAME block (shape and data), every additional block is all-zero.
    `reshape_roundtrip_fermionic_sizes_partial`  the certificate discharged by `C07.planner_wf`.
    `reshape_forward_elem_fermionic_partial` element-exact forward statement: each stored element
        of the reshaped array is the input's element at the split address times the fuse sign
        `fuseSignT` (flip of the non-dual legs and reversal sign if the run starts with a dual axis;
        no transposition sign).
  How the known finding reshape-fused-window-match is excluded: the input has no fused axis
  (`hnf`), so on the way back the only axis with sub-sizes is the one just fused and its sub-sizes
  are the original sizes at that very position — the window match is the intended one.  (For inputs
  with fused axes the way back can unfuse a kept axis instead: `C07.reshape_self_id_fused_counterexample`.)

  Not covered here: several groups in one fuse call and several fuse calls.  `reshape` back unfuses
  the fused axes left to right, `C05.unfuseF_fuseF` / `unfuse_fuse_blocks` unfuse the last group
  first, and the intermediate arrays differ by stored zero blocks, so the block-level `Restored`
  is not what comes out; Props/C07e.lean proves that round trip on the value view (`FuseP.VEq`),
  from the facts that unfuse steps on different axes commute on the value view and that an unfuse
  step respects equality of value views.  Inputs with (densely) fused axes: excluded, see above.
-/
import SymmModel.Proofs.Reshape4d
import SymmModel.Props.C07c

namespace SymmModel.C07
open SymmModel SymmModel.Reshape SymmModel.Reshape3 SymmModel.Reshape4 ReshapeP

variable {R : Type}

/-- **planner, way back (all shapes)**: one fused axis of any size `D` carrying the sub-sizes `mid`,
    target = the shape with that axis replaced by `mid`: the plan is `unfuse` of that axis. -/
theorem planner_back_plan (pre mid post : List Nat) (D : Nat) (hmid : mid ≠ []) :
    calcReshapeArgs (pre ++ D :: post) (pre ++ mid ++ post) (nones pre ++ some mid :: nones post)
      = .ok ([pre.length], [], []) := by
  have h := Reshape5.back_plan_multi
    (pre.map (fun d => (d, none)) ++ (D, some mid) :: post.map (fun d => (d, none))) (by
      intro e he subs hs
      simp only [List.mem_append, List.mem_map, List.mem_cons] at he
      rcases he with ⟨d, _, rfl⟩ | rfl | ⟨d, _, rfl⟩
      · cases hs
      · cases hs; exact hmid
      · cases hs)
  have hplain : ∀ l : List Nat, Reshape5.tgt (l.map (fun d => (d, none))) = l := by
    intro l
    induction l with
    | nil => rfl
    | cons d l ih => simp [Reshape5.tgt1, ih]
  have hb : Reshape5.backAxes (post.map (fun d => (d, none))) (pre.length + mid.length) = [] := by
    have := Reshape5.backAxes_plain_append post [] (pre.length + mid.length)
    rwa [List.append_nil] at this
  simpa [SymShape.sizes, SymShape.subs, nones, List.map_map, Function.comp_def, hplain, Reshape5.tgt1,
    Reshape5.backAxes_plain_append, Reshape5.backAxes, hb] using h

example : calcReshapeArgs [7, 3, 5] [7, 2, 1, 3, 5] [none, some [2, 1, 3], none] = .ok ([1], [], []) :=
  planner_back_plan [7] [2, 1, 3] [5] 3 (by simp)

/-- `y.reshape(a.shape)` IS `y.unfuse(p)` when `y`'s axis `p` is fused from the indices that `a`
    (no fused axes) has in its place -/
theorem reshape_back_is_unfuse [Zero R] [Neg R] (y a : Arr R) (p : Nat) (ix : Index) (subs : List Index)
    (exts : Extents) (hix : y.indices[p]? = some ix) (hsub : ix.sub = some (subs, exts))
    (hsn : subs ≠ []) (hidx : a.indices = replaceWithSeq y.indices p subs)
    (hnf : ∀ ix ∈ a.indices, ix.sub = none) :
    reshapeArr y (a.shape.map Int.ofNat) = unfuseDispatch y p :=
  reshape_back_eq y a p ix subs exts hix hsub hsn hidx hnf

/-- `Restored a z` ⇒ the value views agree wherever `z` stores a block (inside its box) and on
    every sector `z` does not store -/
theorem roundtrip_restores_view [Zero R] [Neg R] {a z : Arr R} (h : Restored a z) (K : Sector)
    (J : List Nat) (hJ : ∀ V, alookup z.blocks K = some V → inBox V.shape J = true) :
    z.elem K J = a.elem K J := h.elem_eq K J hJ

/-- **fermionic round trip (one merged run).** -/
theorem reshape_roundtrip_fermionic_partial [Zero R] [Neg R] [Lazy.LawfulNeg R] (a y : Arr R)
    (ns full : List Int) (nsN : List Nat) (g : List Nat)
    (hv : a.validB = true) (hf : a.fermi = true) (hnf : ∀ ix ∈ a.indices, ix.sub = none)
    (h1 : findFullReshape ns a.size = .ok full)
    (h2 : full.mapM (fun (d : Int) => if d < 0 then (throw Err.notimpl : Except Err Nat) else pure d.toNat)
      = .ok nsN)
    (h3 : calcReshapeArgs a.shape nsN a.subsizes = .ok ([], [[g]], []))
    (hwf : (Plan.ofTriple (([], [[g]], []) : List Nat × List (List (List Nat)) × List Nat)).wfB
      a.shape a.subsizes nsN = true)
    (hg2 : 2 ≤ g.length) (hy : reshapeArr a ns = .ok y) :
    ∃ z, reshapeArr y (a.shape.map Int.ofNat) = .ok z ∧ Restored a z := by
  obtain ⟨p, hg, hle⟩ := single_group_of_wfB a g nsN hwf
  rw [reshapeArr_eq a ns full nsN _ h1 h2 h3, hg] at hy
  obtain ⟨y', z, hy', hz, hres⟩ := roundtrip_fermionic_single a p g.length hv hf hnf hg2 hle
  rw [hy] at hy'; injection hy' with hy'; subst hy'
  exact ⟨z, hz, hres⟩

/-- the same with the certificate from the unbounded planner theorem -/
theorem reshape_roundtrip_fermionic_sizes_partial [Zero R] [Neg R] [Lazy.LawfulNeg R] (a y : Arr R)
    (ns full : List Int) (nsN : List Nat) (g : List Nat)
    (hv : a.validB = true) (hf : a.fermi = true) (hnf : ∀ ix ∈ a.indices, ix.sub = none)
    (hpos : ∀ d ∈ a.shape, 0 < d) (hprod : prod a.shape = prod nsN)
    (h1 : findFullReshape ns a.size = .ok full)
    (h2 : full.mapM (fun (d : Int) => if d < 0 then (throw Err.notimpl : Except Err Nat) else pure d.toNat)
      = .ok nsN)
    (h3 : calcReshapeArgs a.shape nsN a.subsizes = .ok ([], [[g]], []))
    (hg2 : 2 ≤ g.length) (hy : reshapeArr a ns = .ok y) :
    ∃ z, reshapeArr y (a.shape.map Int.ofNat) = .ok z ∧ Restored a z :=
  reshape_roundtrip_fermionic_partial a y ns full nsN g hv hf hnf h1 h2 h3
    (reshape_plan_certified a nsN _ (denseB_unfused a hnf) hpos hprod h3) hg2 hy

/-- **abelian round trip (one merged run)**: block-exact. -/
theorem reshape_roundtrip_abelian_partial [Zero R] [Neg R] (a y : Arr R)
    (ns full : List Int) (nsN : List Nat) (g : List Nat)
    (hv : a.validB = true) (hf : a.fermi = false) (hnf : ∀ ix ∈ a.indices, ix.sub = none)
    (h1 : findFullReshape ns a.size = .ok full)
    (h2 : full.mapM (fun (d : Int) => if d < 0 then (throw Err.notimpl : Except Err Nat) else pure d.toNat)
      = .ok nsN)
    (h3 : calcReshapeArgs a.shape nsN a.subsizes = .ok ([], [[g]], []))
    (hwf : (Plan.ofTriple (([], [[g]], []) : List Nat × List (List (List Nat)) × List Nat)).wfB
      a.shape a.subsizes nsN = true)
    (hg2 : 2 ≤ g.length) (hy : reshapeArr a ns = .ok y) :
    ∃ z, reshapeArr y (a.shape.map Int.ofNat) = .ok z ∧ Restored a z
      ∧ (∀ s b, (s, b) ∈ a.blocks → alookup z.blocks s = some b)
      ∧ (∀ K V, alookup z.blocks K = some V → (∃ b, (K, b) ∈ a.blocks) ∨ FuseP.AllZero V) := by
  obtain ⟨p, hg, hle⟩ := single_group_of_wfB a g nsN hwf
  rw [reshapeArr_eq a ns full nsN _ h1 h2 h3, hg] at hy
  obtain ⟨y', z, hy', hz, hres⟩ := roundtrip_abelian_single a p g.length hv hf hnf hg2 hle
  rw [hy] at hy'; injection hy' with hy'; subst hy'
  exact ⟨z, hz, hres⟩

/-- **fermionic `reshape`, one merged run, element by element**, stated for `applyPlan` with the
    one-group plan `([], [[p, …, p+n-1]], [])` (what `reshapeArr` executes in the scope of this file). -/
theorem reshape_forward_elem_fermionic_partial [Zero R] [Neg R] [Lazy.LawfulNeg R] (a : Arr R) (p n : Nat)
    (hv : a.validB = true) (hf : a.fermi = true) (hn : 2 ≤ n) (hle : p + n ≤ a.ndim) :
    ∃ y, applyPlan a ([], [[List.range' p n]], []) = .ok y ∧
      ∀ ns B, alookup y.blocks ns = some B → ∀ i, inBox B.shape i = true →
        ∃ ss so, FuseP.splitAddr (y.indices.getD p default) (ns.getD p (0, 0)) (i.getD p 0) = some (ss, so)
          ∧ ∀ s offs, s.length = a.ndim → offs.length = a.ndim →
              s = ns.take p ++ ss ++ ns.drop (p + 1) → offs = i.take p ++ so ++ i.drop (p + 1) →
              y.elem ns i = Lazy.sgnI (FuseP.fuseSignT a [List.range' p n] s) (a.elem s offs) :=
  forward_elem_fermionic_single a p n hv hf hn hle

section Examples
open C05

/-- value view with the pending signs multiplied in -/
def valView (r : Except Err (Arr Int)) : Option (List (Sector × List Nat × List Int)) :=
  r.toOption.map (fun x => x.phaseSync.blocks.map (fun sb => (sb.1, sb.2.shape, sb.2.data.toList)))

-- `exF'` (3,3,2) with a pending sign → (3,6) → back: the pending sign has been applied to the data
example : calcReshapeArgs exF'.shape [3, 6] exF'.subsizes = .ok ([], [[[1, 2]]], []) := by decide +kernel
example : valView (do let x ← reshapeArr exF' [3, -1]; reshapeArr x [3, 3, 2]) = valView (.ok exF')
    ∧ exF'.phases ≠ [] := by decide +kernel
example := reshape_roundtrip_fermionic_partial (R := Int) exF' _ [3, -1] [3, 6] [3, 6] [1, 2]
  (by decide) rfl (by decide) rfl rfl (by decide +kernel) (by decide +kernel) (by decide) rfl
example := reshape_roundtrip_abelian_partial (R := Int) exA _ [3, -1] [3, 6] [3, 6] [1, 2]
  (by decide) rfl (by decide) rfl rfl (by decide +kernel) (by decide +kernel) (by decide) rfl
example := reshape_forward_elem_fermionic_partial (R := Int) exF' 1 2 (by decide) rfl (by decide) (by decide)

end Examples

end SymmModel.C07
