import SymmModel.Props.C07All5
import SymmModel.Props.C07g
