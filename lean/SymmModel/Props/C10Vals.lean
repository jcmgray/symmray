/-
  Property C10, network clause — the concrete two-tensor networks `gA`, `gB` (labels 1 < 3) and `gA7`, `gB`
  (labels 7 > 3) evaluated along the routes of C10i (`ketbraVals`), C10j (`ketbraAllVals`) and C10k
  (`mirrorVals`, `mirrorTriVals`).  All of them are evaluated by one `decide +kernel` (`gAB_routes_vals`; the routes
  have `a·b`, `ā·a`, `b̄·b`, `a·ā`, `b·b̄` in common); `ketbra_vals_order`, `ketbra_all_vals`, `mirror_vals`,
  `mirror_tri_vals` are its components.
-/
import SymmModel.Proofs.NetNormM2
import SymmModel.Props.C10h

namespace SymmModel.C10
open SymmModel Lazy Norm NormNet TdotP
open SymmModel.Assoc3P (tdF)
open scoped SymmModel.Lazy

/-- values of `(b̄·(ā·a))·b`, `((ā·a)·b̄)·b`, `(ā·a)·(b̄·b)` and `normSq (a·b)` of a concrete network with one
    bond leg, and the label lists of `(b̄·ā)·a` and `b̄·(ā·a)` -/
def ketbraVals (a b : Arr Int) (xa xb : List Nat) : List (List Int) :=
  let fA := freeAxes a.ndim xa
  let fB := freeAxes b.ndim xb
  let P (x y : List Nat) : AxesArg := .pair (x.map Int.ofNat) (y.map Int.ofNat)
  let lab (o : List (Int × Bool)) : List Int := o.flatMap (fun p => [p.1, if p.2 then 1 else 0])
  let val (r : Except Err (Arr Int)) : List Int :=
    match r with | .ok c => [c.elem [] [], (c.ndim : Int)] ++ lab c.oddpos | .error _ => [-1]
  let labs (r : Except Err (Arr Int)) : List Int :=
    match r with | .ok c => lab c.oddpos | .error _ => [-1]
  let ab := NormNet.braOf a xa
  let bb := NormNet.braOf b xb
  let X := ab.tensordotF a (P fA fA) .blockwise
  let Y := bb.tensordotF b (P fB fB) .blockwise
  let BX := do let x ← X; bb.tensordotF x (P xb (kbX a xa)) .blockwise
  let XB := do let x ← X; x.tensordotF bb (P (kbX a xa) xb) .blockwise
  let KbA := do let k ← bb.tensordotF ab (P xb xa) .blockwise
                k.tensordotF a (P ((List.range fA.length).map (fB.length + ·)) fA) .blockwise
  [ (match a.tensordotF b (P xa xb) .blockwise with | .ok k => [normSq k] | .error _ => [-1]),
    val (do let t ← BX; t.tensordotF b (P (kbU a b xa xb) (fB ++ xb)) .blockwise),
    val (do let t ← XB
            t.tensordotF b (P (RoutesP.positions (kbRot a b xa xb) (kbU a b xa xb)) (fB ++ xb))
              .blockwise),
    val (do let x ← X; let y ← Y; x.tensordotF y (P [0, 1] [0, 1]) .blockwise),
    labs KbA, labs BX ]

/-- the six routes of `ketBraAll_spec` with exactly its axes lists, evaluated: value and rank of each, preceded
    by `normSq (a·b)` -/
def ketbraAllVals (a b : Arr Int) (xa xb : List Nat) : List (List Int) :=
  let fA := freeAxes a.ndim xa
  let fB := freeAxes b.ndim xb
  let val (r : Except Err (Arr Int)) : List Int :=
    match r with
    | .ok c => [c.elem [] [], (c.ndim : Int), (c.oddpos.length : Int)]
    | .error _ => [-1]
  let half (a b : Arr Int) (xa xb : List Nat) (X Y : Except Err (Arr Int)) : List (List Int) :=
    let fA := freeAxes a.ndim xa
    let fB := freeAxes b.ndim xb
    let _ := fA
    [ val (do let x ← X; let t ← tdF (NormNet.braOf b xb) x xb (kbQ a.ndim xa)
              tdF t b ((kbQ a.ndim xa).map (fB.length + ·) ++ List.range fB.length) (xb ++ fB)),
      val (do let x ← X; let t ← tdF x (NormNet.braOf b xb) (kbQ a.ndim xa) xb
              tdF t b (kbQ a.ndim xa ++ (List.range fB.length).map (xa.length + ·)) (xb ++ fB)),
      val (do let x ← X; let y ← Y; tdF x y (kbP a.ndim xa) (kbP b.ndim xb)) ]
  let X := tdF (NormNet.braOf a xa) a fA fA
  let Y := tdF (NormNet.braOf b xb) b fB fB
  [ (match tdF a b xa xb with | .ok k => [normSq k] | .error _ => [-1]) ]
    ++ half a b xa xb X Y ++ half b a xb xa Y X

/-- the mirror routes of `mirrorAll_spec` with exactly its axes lists, evaluated: `[value, rank, number of
    labels]` of each, preceded by `normSq (a·b)` -/
def mirrorVals (a b : Arr Int) (xa xb : List Nat) : List (List Int) :=
  let fA := freeAxes a.ndim xa
  let fB := freeAxes b.ndim xb
  let val (r : Except Err (Arr Int)) : List Int :=
    match r with
    | .ok c => [c.elem [] [], (c.ndim : Int), (c.oddpos.length : Int)]
    | .error _ => [-1]
  let X := tdF (NormNet.braOf a xa) a fA fA
  let Y := tdF (NormNet.braOf b xb) b fB fB
  let X' := tdF a (NormNet.braOf a xa) fA fA
  let Y' := tdF b (NormNet.braOf b xb) fB fB
  [ (match tdF a b xa xb with | .ok k => [normSq k] | .error _ => [-1]),
    val (do let x ← X'; let y ← Y; tdF x y (kbM a.ndim xa) (kbP b.ndim xb)),
    val (do let x ← X'; let y ← Y; tdF y x (kbP b.ndim xb) (kbM a.ndim xa)),
    val (do let x ← X'; let y ← Y'; tdF y x (kbM b.ndim xb) (kbM a.ndim xa)),
    val (do let x ← X'; let y ← Y'; tdF x y (kbM a.ndim xa) (kbM b.ndim xb)),
    val (do let x ← X'; let y ← Y'; tdF x y (kbP a.ndim xa) (kbP b.ndim xb)),
    val (do let x ← X; let y ← Y'; tdF y x (kbM b.ndim xb) (kbP a.ndim xa)),
    val (do let x ← X; let y ← Y'; tdF x y (kbP a.ndim xa) (kbM b.ndim xb)),
    val X' ]

/-- the routes of `mirrorTri_spec` with exactly its axes lists, evaluated -/
def mirrorTriVals (a b : Arr Int) (xa xb : List Nat) : List (List Int) :=
  let fA := freeAxes a.ndim xa
  let fB := freeAxes b.ndim xb
  let val (r : Except Err (Arr Int)) : List Int :=
    match r with
    | .ok c => [c.elem [] [], (c.ndim : Int), (c.oddpos.length : Int)]
    | .error _ => [-1]
  let half (a b : Arr Int) (xa xb : List Nat) : List (List Int) :=
    let fA := freeAxes a.ndim xa
    let fB := freeAxes b.ndim xb
    let X' := tdF a (NormNet.braOf a xa) fA fA
    [ val (do let x ← X'; let t ← tdF x (NormNet.braOf b xb) ((kbQ a.ndim xa).map (xa.length + ·)) xb
              tdF t b (kbQ a.ndim xa ++ (List.range fB.length).map (xa.length + ·)) (xb ++ fB)),
      val (do let x ← X'; let t ← tdF (NormNet.braOf b xb) x xb ((kbQ a.ndim xa).map (xa.length + ·))
              tdF t b ((kbQ a.ndim xa).map (fB.length + ·) ++ List.range fB.length) (xb ++ fB)) ]
  let _ := fA
  let _ := fB
  [ (match tdF a b xa xb with | .ok k => [normSq k] | .error _ => [-1]) ]
    ++ half a b xa xb ++ half b a xb xa

theorem gAB_routes_vals :
    (ketbraVals C03.gA C03.gB [2] [0]
      = [[16422], [16422, 0], [16422, 0], [16422, 0], [3, 1], [3, 1]]
    ∧ ketbraVals gA7 C03.gB [2] [0]
      = [[16422], [16422, 0], [16422, 0], [16422, 0], [7, 1, 3, 1, 7, 0], [3, 1]])
    ∧ (ketbraAllVals C03.gA C03.gB [2] [0]
      = [[16422], [16422, 0, 0], [16422, 0, 0], [16422, 0, 0], [16422, 0, 0], [16422, 0, 0],
          [16422, 0, 0]]
    ∧ ketbraAllVals gA7 C03.gB [2] [0]
      = [[16422], [16422, 0, 0], [16422, 0, 0], [16422, 0, 0], [16422, 0, 0], [16422, 0, 0],
          [16422, 0, 0]])
    ∧ (mirrorVals C03.gA C03.gB [2] [0]
      = [[16422], [16422, 0, 0], [16422, 0, 0], [16422, 0, 0], [16422, 0, 0], [16422, 0, 0],
          [16422, 0, 0], [16422, 0, 0], [0, 2, 0]]
    ∧ mirrorVals gA7 C03.gB [2] [0]
      = [[16422], [16422, 0, 0], [16422, 0, 0], [16422, 0, 0], [16422, 0, 0], [16422, 0, 0],
          [16422, 0, 0], [16422, 0, 0], [0, 2, 0]])
    ∧ (mirrorTriVals C03.gA C03.gB [2] [0]
      = [[16422], [16422, 0, 0], [16422, 0, 0], [16422, 0, 0], [16422, 0, 0]]
    ∧ mirrorTriVals gA7 C03.gB [2] [0]
      = [[16422], [16422, 0, 0], [16422, 0, 0], [16422, 0, 0], [16422, 0, 0]]) := by
  decide +kernel

end SymmModel.C10
