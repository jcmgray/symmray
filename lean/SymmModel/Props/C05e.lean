/-
  Property C05, part e.

  * `conj` commutes with `fuse` and with `unfuse`, EXACTLY (same dict, same order, same
    numbers, same index tables), at any depth of previously fused indices: `fuse_conj_comm`,
    `unfuse_conj_comm`, and `conj_sub_table` (the sub-index table of a conjugated fused index: the
    SAME extents, every sub-index conjugated, recursively — the "documented direction flip").
    `fuse_conj_comm_depth2` composes them over two fuses: the mechanism behind the seeded bugs
    "stale sub-index info on conj of a twice-fused array" (an implementation that flips only the
    outer direction violates `conj_sub_table`, and then `unfuse_conj_comm` fails at the inner unfuse).
    Abelian `conjA` only.  For the fermionic `conjF` the two sides differ by sector-dependent signs
    (`fuseF` transposes and flips according to the direction of each group, and all group directions
    change under `conjF`): part i.
  * value views — `VEq` (equal value views), `unfuseF_respects_veq`, `unfuseF_value`:
    the value view of `unfuseF a p` is the explicit function `unfVal … a.elem` of the value view of
    `a`; hence `unfuseF` maps arrays with equal value views to arrays with equal value views.
  * the plan cache — `fuse_cache_irrelevant`, `fuse_cache_irrelevant_concurrent`: the model's `fuseCore`
    has no cache parameter, it calls `calcFuseBlockInfo`; `fuseCoreWithPlan` is `fuseCore` with the
    plan handed in.  With the plan answered by the cache of C15 after ANY history / in ANY schedule
    the result is `fuseCore`'s.

  * `unfuse_all` after `fuseF` (in `section Val`) — `unfuseAllF_eq_unfuseGroupsF`,
    `unfuseAllF_fuseF`: for an array with plain indices the scan of `unfuse_all` after `fuseF`
    performs exactly the `unfuseF` steps of `unfuseGroupsF` (an unfuse step at axis `ax` changes no
    index before `ax`, and the fused axes of `fuseF a groups` are exactly the multi-axis groups), so
    the whole conclusion of `unfuseF_fuseF` holds for `unfuseAllF (fuseF a groups)`.
-/
import SymmModel.Proofs.Fuse5Cache
import SymmModel.Proofs.Fuse5Veq
import SymmModel.Proofs.Fuse5Conj3
import SymmModel.Proofs.Fuse5All2
import SymmModel.Proofs.Fuse6Inst
import SymmModel.Props.C05All2
import SymmModel.Props.C01

namespace SymmModel.C05
open SymmModel FuseP SymmModel.Lazy

section Conj
variable {R : Type} [Zero R] [Neg R] [Conj R] [LawfulNegConj R]

/-- **fuse ∘ conj = conj ∘ fuse** (insert strategy, any groups, any depth of fused indices):
    both succeed, and the fused conjugate IS the conjugated fused array — blocks, order, index
    tables and all. -/
theorem fuse_conj_comm (a : Arr R) (groups : List (List Nat)) (hv : a.validB = true) (hf : a.fermi = false)
    (hg : groupsOkB groups a.ndim = true) :
    ∃ x, fuseCore a groups .insert = .ok x ∧ fuseCore a.conjA groups .insert = .ok x.conjA
      ∧ x.conjA.indices = x.indices.map Index.conj
      ∧ x.conjA.blocks = x.blocks.map (fun sb => (sb.1, sb.2.conjK)) := by
  have hok := groupsOk_iff.1 hg
  have hokc : GroupsOk groups a.conjA.ndim := by rw [(conjA_fields a).2.2.2.2]; exact hok
  have hvc := validArr_of_validB (C01.conjA_valid a hv hf)
  refine ⟨_, fuseCore_multi_eq (validArr_of_validB hv) hok.adm, ?_, rfl, (conjA_fields _).2.2.1⟩
  rw [fuseCore_multi_eq hvc hokc.adm, fusedArrM_conjA hok]

/-- the sub-index table under `conj`: the direction of the index flips, the extents table is the
    SAME, and every sub-index is conjugated (recursively — `Index.conj` goes through `sub`) -/
theorem conj_sub_table (ix : Index) (subs : List Index) (exts : Extents) (h : ix.sub = some (subs, exts)) :
    ix.conj.dual = (!ix.dual) ∧ ix.conj.cm = ix.cm ∧ ix.conj.sub = some (subs.map Index.conj, exts) :=
  ⟨Index.conj_dual ix, Index.conj_cm ix, conj_sub ix h⟩

/-- **unfuse ∘ conj = conj ∘ unfuse** at a fused axis -/
theorem unfuse_conj_comm (x : Arr R) (p : Nat) (ix : Index) (subs : List Index) (exts : Extents)
    (hv : x.validB = true) (hix : x.indices[p]? = some ix) (hsub : ix.sub = some (subs, exts)) :
    unfuseA x.conjA p = (unfuseA x p).map Arr.conjA := by
  have hvx := validArr_of_validB hv
  have h3 : ∀ sb ∈ x.blocks, ∃ ext, alookup exts (sb.1.getD p (0, 0)) = some ext
      ∧ ∀ q ∈ ext, ∃ shp, Arr.blockShape? subs q.1 = some shp := by
    intro sb hsb
    obtain ⟨_, _, _, e, he, hok⟩ := block_at_axis hvx hix hsub hsb
    refine ⟨e, he, ?_⟩
    intro q hq
    obtain ⟨_, ⟨shp, hshp, _⟩, _⟩ := hok.entry q.1 q.2 hq
    exact ⟨shp, hshp⟩
  have hfl := conjA_fields x
  have hixc : x.conjA.indices[p]? = some ix.conj := by
    rw [hfl.2.1, List.getElem?_map, hix]; rfl
  have h3c : ∀ sb ∈ x.conjA.blocks, ∃ ext, alookup exts (sb.1.getD p (0, 0)) = some ext
      ∧ ∀ q ∈ ext, ∃ shp, Arr.blockShape? (subs.map Index.conj) q.1 = some shp := by
    intro sb hsb
    rw [hfl.2.2.1] at hsb
    obtain ⟨sb0, hsb0, rfl⟩ := List.mem_map.1 hsb
    obtain ⟨e, he, hq⟩ := h3 sb0 hsb0
    refine ⟨e, he, fun q hqm => ?_⟩
    rw [← Index.conjList_eq_map, LinalgLemmas.blockShape?_conjList]
    exact hq q hqm
  rw [unfuseA_eq x p ix subs exts hix hsub h3,
    unfuseA_eq x.conjA p ix.conj (subs.map Index.conj) exts hixc (conj_sub ix hsub) h3c]
  simp only [Except.map]
  congr 1
  have hb : adict (x.conjA.blocks.flatMap (piecesOf (subs.map Index.conj) exts p))
      = (adict (x.blocks.flatMap (piecesOf subs exts p))).map cjBlk := by
    rw [← adict_cj, hfl.2.2.1, List.flatMap_map, List.map_flatMap]
    congr 1
    apply List.flatMap_congr
    intro sb _
    exact piecesOf_cj subs exts p sb
  rw [hb, hfl.2.1, replaceWithSeq_map]
  rfl

/-- depth 2: fuse twice; conjugating first or last is the same array, and the twice-fused conjugate
    unfuses (at any fused axis) to the conjugate of the unfused array -/
theorem fuse_conj_comm_depth2 (a : Arr R) (g1 g2 : List (List Nat)) (hv : a.validB = true) (hf : a.fermi = false)
    (h1 : groupsOkB g1 a.ndim = true) :
    ∃ x, fuseCore a g1 .insert = .ok x ∧ fuseCore a.conjA g1 .insert = .ok x.conjA ∧
      (groupsOkB g2 x.ndim = true →
        ∃ x2, fuseCore x g2 .insert = .ok x2 ∧ fuseCore x.conjA g2 .insert = .ok x2.conjA
          ∧ x2.conjA.indices = x2.indices.map Index.conj
          ∧ ∀ p ix subs exts, x2.indices[p]? = some ix → ix.sub = some (subs, exts) →
              unfuseA x2.conjA p = (unfuseA x2 p).map Arr.conjA) := by
  obtain ⟨x, hx, hxc, _, _⟩ := fuse_conj_comm a g1 hv hf h1
  have hok := groupsOk_iff.1 h1
  have hxv := C01.fuseCore_valid a x g1 hv hf (admissible_of_groupsOk hok) hx
  have hxf : x.fermi = false := by
    have := fuseCore_multi_eq (validArr_of_validB hv) hok.adm
    rw [hx] at this
    simp only [Except.ok.injEq] at this
    rw [this]; exact hf
  refine ⟨x, hx, hxc, fun h2 => ?_⟩
  obtain ⟨x2, hx2, hx2c, hi, _⟩ := fuse_conj_comm x g2 hxv hxf h2
  have hx2v := C01.fuseCore_valid x x2 g2 hxv hxf (admissible_of_groupsOk (groupsOk_iff.1 h2)) hx2
  exact ⟨x2, hx2, hx2c, hi, fun p ix subs exts hix hsub => unfuse_conj_comm x2 p ix subs exts hx2v hix hsub⟩

end Conj

/-- index tables down to depth 2, in three flat views: (chargemap, direction, extents) of every
    index; the same of every sub-index; the directions at depth 0 / 1 / 2 -/
def viewIx0 (x : Arr Int) : List (List (Charge × Nat) × Bool × Extents) :=
  x.indices.map (fun ix => (ix.cm, ix.dual, (ix.sub.map (·.2)).getD []))
def viewIx1 (x : Arr Int) : List (List (Charge × Nat) × Bool × Extents) :=
  x.indices.flatMap (fun ix => ((ix.sub.map (·.1)).getD []).map (fun s => (s.cm, s.dual, (s.sub.map (·.2)).getD [])))
def viewDirs (x : Arr Int) : List (Bool × List (Bool × List Bool)) :=
  x.indices.map (fun ix => (ix.dual, ((ix.sub.map (·.1)).getD []).map (fun s =>
    (s.dual, ((s.sub.map (·.1)).getD []).map (·.dual)))))
def sameIx2 (r r' : Except Err (Arr Int)) : Prop :=
  r.toOption.map viewIx0 = r'.toOption.map viewIx0 ∧ r.toOption.map viewIx1 = r'.toOption.map viewIx1
  ∧ r.toOption.map viewDirs = r'.toOption.map viewDirs ∧ r.toOption.map (·.charge) = r'.toOption.map (·.charge)
set_option synthInstance.maxSize 4096 in
instance (r r' : Except Err (Arr Int)) : Decidable (sameIx2 r r') := by unfold sameIx2; infer_instance

def twice (a : Arr Int) : Except Err (Arr Int) := do
  let x ← fuseCore a [[0, 1]] .insert
  fuseCore x [[0, 1]] .insert
def twiceBack (a : Arr Int) : Except Err (Arr Int) := do
  let x ← twice a
  let y ← unfuseA x 0
  unfuseA y 0

/-- the rank-4 example, fused twice: conj before = conj after (blocks, tables to depth 2, charge) -/
example : view (twice exB.conjA) = view ((twice exB).map Arr.conjA) := by decide +kernel
example : sameIx2 (twice exB.conjA) ((twice exB).map Arr.conjA) := by decide +kernel
/-- the inner table of the conjugate has its directions flipped, too -/
example : (twice exB).toOption.map viewDirs
      = some [(false, [(false, [false, false]), (false, [])]), (false, [])]
    ∧ (twice exB.conjA).toOption.map viewDirs
      = some [(true, [(true, [true, true]), (true, [])]), (true, [])] := by
  decide +kernel
/-- unfusing the conjugate twice = the conjugate of unfusing twice -/
example : view (twiceBack exB.conjA) = view ((twiceBack exB).map Arr.conjA) := by decide +kernel
example : sameIx2 (twiceBack exB.conjA) ((twiceBack exB).map Arr.conjA) := by decide +kernel

section Val
variable {R : Type} [Zero R] [Neg R] [LawfulNeg R]

theorem veq_of_obsEq {a b : Arr R} (h : ObsEq a b) : VEq a b := ObsEq.toVEq h

/-- **value view of `unfuseF`** as a function of the value view of the input (on the boxes of the
    result; outside the boxes every value is `0`) -/
theorem unfuseF_value (a : Arr R) (p : Nat) (ix : Index) (subs : List Index) (exts : Extents)
    (hv : a.validB = true) (hix : a.indices[p]? = some ix) (hsub : ix.sub = some (subs, exts)) :
    ∃ y, Arr.unfuseF a p = .ok y ∧ y.indices = replaceWithSeq a.indices p subs
      ∧ ∀ K shpK, Arr.blockShape? y.indices K = some shpK → ∀ J, inBox shpK J = true →
          y.elem K J = unfVal a.sym ix subs exts p (unfuseSign a ix subs p) a.elem K J :=
  unfuseF_val a p ix subs exts hv hix hsub

/-- **`unfuseF` respects equality of value views**: arrays with the same frame and the same values
    (whatever they store: extra zero blocks, pending signs pushed or not) unfuse to arrays with the
    same frame and the same values -/
theorem unfuseF_respects_veq {a b : Arr R} (h : VEq a b) (hva : a.validB = true) (hvb : b.validB = true)
    (hfa : a.fermi = true) {p : Nat} {ix : Index} {subs : List Index} {exts : Extents}
    (hix : a.indices[p]? = some ix) (hsub : ix.sub = some (subs, exts)) :
    ∃ y y', Arr.unfuseF a p = .ok y ∧ Arr.unfuseF b p = .ok y' ∧ VEq y y' := by
  obtain ⟨y, y', hy, hy', _, _, hveq⟩ :=
    step_veq (stepOK_F (R := R)) h ⟨hva, hfa⟩ ⟨hvb, by rw [← h.fermi]; exact hfa⟩ hix hsub
  exact ⟨y, y', hy, hy', hveq⟩

/-- `unfuse_all` on a fermionic array whose fused axes are exactly the multi-axis groups at
    `pos + g` is the list of `unfuseF` steps, last group first -/
theorem unfuseAllF_eq_unfuseGroupsF (groups : List (List Nat)) (pos : Nat) (y : Arr R)
    (hv : y.validB = true) (hf : y.fermi = true) (hn : pos + groups.length ≤ y.ndim)
    (hidx : ∀ ax ix, y.indices[ax]? = some ix →
      ix.sub.isSome = (decide (pos ≤ ax) && multiB groups (ax - pos))) :
    Arr.unfuseAllF y = unfuseGroupsF groups pos y :=
  unfuseAllF_eq_groups groups pos y hv hf hn hidx

/-- **`unfuseAllF ∘ fuseF`** for arrays with plain indices: the conclusion of `unfuseF_fuseF` with
    `unfuse_all` in place of the explicit list of unfuse steps -/
theorem unfuseAllF_fuseF (a : Arr R) (groups : List (List Nat)) (e : Bool)
    (hv : a.validB = true) (hf : a.fermi = true) (hg : groupsOkB groups a.ndim = true)
    (hplain : ∀ ix ∈ a.indices, ix.sub = none) :
    let gi := calcFuseGroupInfo groups a.duals
    ∃ y z, Arr.fuseF a groups .insert e = .ok y ∧ Arr.unfuseAllF y = .ok z
      ∧ Arr.unfuseAllF y = unfuseGroupsF groups gi.position y
      ∧ z.validB = true ∧ z.fermi = true
      ∧ z.indices = (a.transposeF gi.perm).indices ∧ z.sym = a.sym ∧ z.charge = a.charge ∧ z.oddpos = a.oddpos
      ∧ (∀ s b, (s, b) ∈ a.blocks → ∃ V, alookup z.blocks (permuted s gi.perm) = some V
          ∧ V.shape = permuted b.shape gi.perm
          ∧ ∀ J, inBox V.shape J = true →
              z.elem (permuted s gi.perm) J = (a.transposeF gi.perm).elem (permuted s gi.perm) J)
      ∧ (∀ K V, alookup z.blocks K = some V → (∀ s b, (s, b) ∈ a.blocks → K ≠ permuted s gi.perm) →
          ∀ J, inBox V.shape J = true → z.elem K J = 0 ∧ (a.transposeF gi.perm).elem K J = 0) := by
  intro gi
  obtain ⟨y, z, h1, h2, rest⟩ := unfuseF_fuseF a groups e hv hf hg
  obtain ⟨y', h1', h⟩ := unfuseAllF_fuseF_eq a groups e hv hf (groupsOk_iff.1 hg) hplain
  rw [h1] at h1'
  simp only [Except.ok.injEq] at h1'
  subst h1'
  exact ⟨y, z, h1, h.trans h2, h, rest⟩

end Val

example : ∀ ix ∈ exF'.indices, ix.sub = none := by decide
/-- the fermionic example with a pending sign: `unfuse_all` after `fuseF` = the explicit round trip -/
example : view (do let x ← Arr.fuseF exF' [[2, 1], [0]] .insert true; Arr.unfuseAllF x) = view fermiTrip
    ∧ viewPh (do let x ← Arr.fuseF exF' [[2, 1], [0]] .insert true; Arr.unfuseAllF x) = viewPh fermiTrip := by
  decide +kernel

section Cache
open FuseCache
variable {R : Type} [Zero R]

/-- **sequential**: whatever was asked of the cache before (any history, eviction policy, size,
    sector limit), fusing with the plan the cache answers is fusing with the plan recomputed.
    (The model's `fuseCore` recomputes; `fuseCoreWithPlan` is the same code with the plan handed in:
    `fuseCore_eq_withPlan` is `rfl`.) -/
theorem fuse_cache_irrelevant (P : Policy) (maxsize : Int) (maxsectors : Nat)
    (history : List (Arr R × List (List Nat))) (a : Arr R) (groups : List (List Nat)) (mode : FuseMode)
    (plan : Except Err FuseInfo)
    (h : lastAnswer (runCallsP P (fuseSpec R maxsectors) (FuseCache.empty maxsize) (history ++ [(a, groups)])).1
          = some plan) :
    fuseCoreWithPlan plan a mode = fuseCore a groups mode := by
  rw [cached_plan_eq] at h
  simp only [Option.some.injEq] at h
  rw [← h, fuseCore_eq_withPlan]

/-- **concurrent**: every completed cache call of every thread in every schedule -/
theorem fuse_cache_irrelevant_concurrent (P : Policy) (maxsize : Int) (maxsectors : Nat)
    (progs : List (List (Arr R × List (List Nat)))) (sched : List Nat) (mode : FuseMode) :
    ∀ t ∈ (runSched P (fuseSpec R maxsectors) ⟨FuseCache.empty maxsize, spawn progs⟩ sched).threads,
      ∀ p ∈ t.out, fuseCoreWithPlan p.2 p.1.1 mode = fuseCore p.1.1 p.1.2 mode := by
  intro t ht p hp
  rw [C15.fuse_cache_schedule_independent R P maxsize maxsectors progs sched t ht p hp, fuseCore_eq_withPlan]

/-- the plan function of `fuseCore` is the function whose memoisation key C15 proves complete:
    equal keys, equal fuse results on the same array -/
theorem fuse_key_complete (a : Arr R) (a' : Arr R) (g g' : List (List Nat)) (mode : FuseMode)
    (h : keyOfArr a g = keyOfArr a' g') :
    fuseCore a g mode = fuseCoreWithPlan (calcFuseBlockInfo a' g') a mode := by
  rw [fuseCore_eq_withPlan, C15.key_complete a a' g g' h]

end Cache

end SymmModel.C05
