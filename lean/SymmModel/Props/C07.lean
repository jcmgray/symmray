/-
  SymmModel.Props.C07 — "Reshape only regroups axes and is undone by reshaping back".

  Definitions used below live in `Model/ReshapePlan.lean` (planner `calcReshapeArgs`, symbolic
  executor `Plan.exec`, certificate `Plan.wfB`), `Model/Reshape.lean` (executor `reshapeArr`) and
  `Proofs/C07.lean` (helper lemmas).

  Here, for ALL inputs: what the certificate `Plan.wfB` guarantees (`plan_certificate_sound`,
  `plan_certificate_size`); reshaping to the current shape is the empty plan for an array without
  fused axes (`reshape_self_id`) and FALSE of the planner when an axis is fused and its sub-sizes
  prefix-match the shape (`reshape_self_id_fused_counterexample`; finding, replayed on the real
  code by the harness); `x.reshape(())` of an all-singleton array raises `IndexError` (finding #19,
  `planner_empty_target_raises`); the block kernels used by reshape share the flat data of every
  stored block, so the list of stored data (hence the multiset of stored entries, the norm, the
  magnitudes) is unchanged (`…_data`).
  The planner there and back on every merge / drop target (`planner_mergeDrop_roundTrip`, and its
  instance `planner_finite_ok` on the domain the harness sweeps) needs the planner theory of the
  later parts and is in `Props/C07k.lean`.
-/
import SymmModel.Proofs.C07
namespace SymmModel.C07
open SymmModel SymmModel.Reshape

/-- `Plan.wfB` ⇒ the plan executes symbolically (every axis in range, only fused axes are
    unfused, each fuse call groups consecutive axes in order, expansions inside the array) and
    the result has exactly the requested axes. -/
theorem plan_certificate_sound {shape : List Nat} {subsizes : List (Option (List Nat))}
    {newshape : List Nat} {plan : Plan} (h : plan.wfB shape subsizes newshape = true) :
    shape.length = subsizes.length ∧
    ∃ r, plan.exec (shape.zip subsizes) = some r ∧
      r.length = newshape.length ∧ SymShape.sizes r = newshape := by
  obtain ⟨hl, r, hr, hs⟩ := wfB_iff.mp h
  exact ⟨hl, r, hr, by rw [← hs, sizes_length], hs⟩

example : (Plan.mk [] [[[0, 1], [2]]] [2]).wfB [2, 3, 4] [none, none, none] [6, 4, 1] = true := by
  decide

/-- a certified plan that does not unfuse keeps the dense size `prod shape` -/
theorem plan_certificate_size {shape : List Nat} {subsizes : List (Option (List Nat))}
    {newshape : List Nat} {plan : Plan} (hu : plan.unfuse = [])
    (h : plan.wfB shape subsizes newshape = true) : prod newshape = prod shape := by
  obtain ⟨hl, r, hr, hs⟩ := wfB_iff.mp h
  unfold Plan.exec at hr
  rw [hu] at hr
  simp only [foldOpt] at hr
  split at hr
  · cases hr
  · rename_i s2 h2
    -- every fuse call and every expansion keeps the product of the sizes
    have e2 := foldOpt_inv symFuse (fun s => prod (SymShape.sizes s) = prod (SymShape.sizes (shape.zip subsizes)))
      (fun b a b' hb hp => (symFuse_prod hb).trans hp) _ _ _ h2 rfl
    have e3 := foldOpt_inv symExpand (fun s => prod (SymShape.sizes s) = prod (SymShape.sizes (shape.zip subsizes)))
      (fun b a b' hb hp => (symExpand_prod hb).trans hp) _ _ _ hr e2
    rw [hs, sizes_zip shape subsizes hl] at e3
    exact e3

/-- the empty target of an all-singleton shape, any number of axes — the one merge / drop target
    on which the planner fails: it raises `IndexError` (finding #19) -/
theorem planner_empty_target_raises (m : Nat) :
    calcReshapeArgs (List.replicate (m + 1) 1) [] (nones (List.replicate (m + 1) 1))
      = .error Err.index := by
  unfold calcReshapeArgs
  have h0 : mainLoop (List.replicate (m + 1) 1) [] (nones (List.replicate (m + 1) 1))
      ((List.replicate (m + 1) 1).length + ([] : List Nat).length) {} = .ok {} :=
    mainLoop_stop _ _ _ _ _ (Or.inr (Nat.le_refl _))
  rw [h0]
  -- the label list is all "s": the squeeze phase looks for a neighbour to group with and runs off
  simp [unfusePhase, squeezePhase_all_s, pure, Except.pure, throw, throwThe, MonadExceptOf.throw]

example : [] ∈ targets [1, 1] := by decide

/-- without fused axes, reshaping to the current shape is the empty plan — all shapes -/
theorem reshape_self_id (shape : List Nat) :
    calcReshapeArgs shape shape (nones shape) = .ok ([], [], []) :=
  planner_keeps shape (nones shape) (nones_length shape) fun j sub hj => by
    have : sub = none := by
      simp only [nones, List.getElem?_map] at hj
      cases hd : shape[j]? <;> simp [hd] at hj; exact hj.symm
    rw [this]; rfl

/-- the full statement "reshaping to the current shape is the identity" is FALSE of the
    planner for fused axes: a fused axis of size 4 with sub-sizes (4, 2) (sparse fuse) followed
    by an axis of size 2 is unfused and re-fused differently, although shape = newshape.
    The symbolic result is (4, 4[2·2]) ≠ (4, 2): the certificate rejects this plan. -/
theorem reshape_self_id_fused_counterexample :
    calcReshapeArgs [4, 2] [4, 2] [some [4, 2], none] = .ok ([0], [[[1, 2]]], []) ∧
    (Plan.mk [0] [[[1, 2]]] []).wfB [4, 2] [some [4, 2], none] [4, 2] = false := by
  constructor
  · rfl
  · decide

/-- `reshape_self_id` with the table as a variable.  The statement under the hypothesis that
    excludes the counterexample (no fused axis whose sub-sizes equal the window of the shape starting
    at that axis) is `Reshape5.selfshape_plan_empty`, Proofs/Reshape7b.lean. -/
theorem reshape_self_id_partial (shape : List Nat) (subsizes : List (Option (List Nat)))
    (h : subsizes = nones shape) : calcReshapeArgs shape shape subsizes = .ok ([], [], []) := by
  subst h; exact reshape_self_id shape

variable {R : Type}

theorem reshapeK_data (b : Blk R) (s : List Nat) : (b.reshapeK s).data = b.data := rfl
theorem squeezeK_data (b : Blk R) (keep : List Nat) : (b.squeezeK keep).data = b.data := rfl
theorem expandK_data (b : Blk R) (axis : Nat) : (b.expandK axis).data = b.data := rfl

/-- `_map_blocks` with a data-preserving block function keeps the list of stored data as long
    as no two stored sectors are mapped to the same key -/
theorem mapBlocks_data (a : Arr R) (fs : Sector → Sector) (fb : Blk R → Blk R)
    (hfb : ∀ b, (fb b).data = b.data)
    (hd : allDistinct (a.blocks.map (fun sb => fs sb.1)) = true) :
    storedData (a.mapBlocks fs fb) = storedData a := by
  unfold storedData Arr.mapBlocks
  simp only
  rw [adict_distinct]
  · simp [List.map_map, Function.comp_def, hfb]
  · simpa [List.map_map, Function.comp_def] using hd

/-- `expand_dims` keeps the stored data of every block (sector keys distinct, as in a dict) -/
theorem expandDims_data (a : Arr R) (axis : Nat) (c : Option Charge) (dual : Option Bool)
    (hd : allDistinct a.sectors = true) :
    storedData (a.expandDims axis c dual) = storedData a := by
  obtain ⟨c', hb⟩ := expandDims_blocks a axis c dual
  have h1 : storedData (a.expandDims axis c dual)
      = storedData (a.mapBlocks (fun s => s.take axis ++ [c'] ++ s.drop axis) (fun b => b.expandK axis)) := by
    unfold storedData; rw [hb]
  rw [h1]
  apply mapBlocks_data
  · intro b; rfl
  · have := allDistinct_map_of_injective (fun s : Sector => s.take axis ++ [c'] ++ s.drop axis)
      (fun x y e => insertAt_injective axis c' x y e) a.sectors hd
    simpa [Arr.sectors, List.map_map, Function.comp_def] using this

example : allDistinct ([[(0, 0), (1, 0)], [(1, 0), (0, 0)]] : List Sector) = true := by decide

/-- `squeeze` keeps the stored data of every block, provided the stored sectors stay distinct
    after the removed (single-charge) axes are dropped -/
theorem squeeze_data (a : Arr R) (axis : Option (List Nat)) (b : Arr R)
    (h : a.squeeze axis = .ok b) :
    ∃ keep, b.blocks = (a.mapBlocks (fun s => permuted s keep) (fun b => b.squeezeK keep)).blocks ∧
      (allDistinct (a.blocks.map (fun sb => permuted sb.1 keep)) = true →
        storedData b = storedData a) := by
  obtain ⟨keep, hk⟩ := squeeze_blocks a axis b h
  refine ⟨keep, hk, fun hd => ?_⟩
  have : storedData b = storedData (a.mapBlocks (fun s => permuted s keep) (fun b => b.squeezeK keep)) := by
    unfold storedData; rw [hk]
  rw [this]
  exact mapBlocks_data a _ _ (fun _ => rfl) hd

end SymmModel.C07
