/-
  Property C04 (route independence) — chains of `n` tensors: EVERY bracketing gives the same
  result as the left-nested contraction.
  MODEL: `Arr.tensordotF` (Model/Fermi.lean), `mode = blockwise`; valid fermionic tensors of any
  rank, symmetry, sparsity, parity, pending signs; scalars as in C04c–e (`AddCommMonoid`,
  `SignRing`, `AssocP.AssocLaws`; instances `Int`, `GRat`).

  Vocabulary (Proofs/Assoc3Seg.lean, Assoc4*.lean; namespaces `Assoc3P`, `Assoc4P`):
    `Seg`            a tensor (or a contracted piece of the chain) with the positions `l`, `r` of the
                     legs of its bond to the previous resp. next piece (`[]` at the chain ends);
    `Seg.comp`       contract the right bond of one piece with the left bond of the next (C04e);
    `STree`          a bracketing: binary tree with the tensors at the leaves, in chain order;
    `STree.eval`     contract along the bracketing; `evalL S ys` the left-nested contraction
                     `(((S·y₁)·y₂)·…)`; `t.first :: t.rest` the leaf sequence of `t`;
    `STree.OK`       every leaf valid, fermionic, its two bonds disjoint and in range (`LeafOK`);
                     consecutive leaves have the same symmetry and satisfy the weak guard
                     `contractibleCommonB` on their bond (`Link`) — a condition on the leaf
                     sequence only (`ok_iff_leaves`);
    `SegEqv`         `Eqv` of the arrays (C04e) and EQUAL open-bond positions;
    `Good F La labs T`  the invariants of a contracted piece `T` from tensor `F` to tensor `La`:
                     `LeafOK T`, labels a permutation of `labs`, open legs = pruned copies of the
                     end tensors' legs (so the guard towards the neighbours holds again).

  Operand order (`tdotF_swap_weak`: S5 under the weak guard; `chain_root_swap`) is treated at the ROOT
  only: S5 is address-wise (the swapped result has its legs
  rotated, so `Seg`-positions of the open bonds change and the blocks come in another order); a
  swap at an inner node has to be followed by that `transposeF` to re-enter the induction, which
  needs "`transposeF` preserves `Eqv`" and S6 under the weak guard — C04g.
  `LabelRoutes` for fully paired label lists is `LabelAlg.routes_of_paired` (Proofs/Oddpos.lean); the
  label check of the doubled network, `NormNet.netLabelsB` (C04g, C04i), holds for sorted ket lists
  with pairwise-distinct labels of any length (`LabelAlg.netLabelsB_of_distinct`,
  Proofs/NormNet10.lean).
-/
import SymmModel.Proofs.Assoc4Swap
import SymmModel.Props.C04e

namespace SymmModel.C04
open SymmModel SymmModel.GradedP SymmModel.TdotP SymmModel.AssocP SymmModel.Assoc3P SymmModel.Assoc4P

variable {R : Type}

theorem leafOK_def (S : Seg R) : LeafOK S ↔ (S.arr.validB = true ∧ S.arr.fermi = true
    ∧ (S.l ++ S.r).Nodup ∧ (∀ i ∈ S.l, i < S.arr.ndim) ∧ (∀ i ∈ S.r, i < S.arr.ndim)) :=
  ⟨fun h => ⟨h.valid, h.fermi, h.nd, h.ltl, h.ltr⟩, fun ⟨a, b, c, d, e⟩ => ⟨a, b, c, d, e⟩⟩

theorem link_def (S S' : Seg R) : Link S S' ↔ (S.arr.sym = S'.arr.sym
    ∧ contractibleCommonB S.arr S'.arr S.r S'.l = true) :=
  ⟨fun h => ⟨h.sym, h.con⟩, fun ⟨a, b⟩ => ⟨a, b⟩⟩

theorem tree_defs [Zero R] [Add R] [Mul R] [Neg R] (S y : Seg R) (a b : STree R) (ys : List (Seg R)) :
    (STree.leaf S).eval = .ok S
    ∧ (STree.node a b).eval = (match a.eval, b.eval with
        | .ok s1, .ok s2 => s1.comp s2
        | .error e, _ => .error e
        | .ok _, .error e => .error e)
    ∧ evalL S [] = .ok S
    ∧ evalL S (y :: ys) = (match S.comp y with
        | .ok s => evalL s ys
        | .error e => .error e)
    ∧ (STree.leaf S).first = S ∧ (STree.node a b).first = a.first
    ∧ (STree.leaf S).rest = [] ∧ (STree.node a b).rest = a.rest ++ b.first :: b.rest
    ∧ (STree.leaf S).labels = S.arr.oddpos ∧ (STree.node a b).labels = a.labels ++ b.labels
    ∧ ((STree.leaf S).OK ↔ LeafOK S)
    ∧ ((STree.node a b).OK ↔ a.OK ∧ b.OK ∧ Link a.last b.first) :=
  ⟨rfl, rfl, rfl, rfl, rfl, rfl, rfl, rfl, rfl, rfl, Iff.rfl, Iff.rfl⟩

/-- `OK` only depends on the leaf sequence: all leaves `LeafOK`, consecutive leaves linked -/
theorem ok_iff_leaves (t : STree R) :
    t.OK ↔ LeafOK t.first ∧ linked t.first t.rest := by
  induction t with
  | leaf S => exact ⟨fun h => ⟨h, trivial⟩, fun h => h.1⟩
  | node a b iha ihb =>
    constructor
    · intro h
      exact ⟨STree.ok_first (t := STree.node a b) h, STree.linked_rest (t := STree.node a b) h⟩
    · rintro ⟨h1, h2⟩
      have key : ∀ (S y : Seg R) (xs ys : List (Seg R)), linked S (xs ++ y :: ys) →
          linked S xs ∧ Link (lastD S xs) y ∧ LeafOK y ∧ linked y ys := by
        intro S y xs ys
        induction xs generalizing S with
        | nil => exact fun h => ⟨trivial, h.1, h.2.1, h.2.2⟩
        | cons x xs ih =>
          intro h
          obtain ⟨q1, q2, q3, q4⟩ := ih x h.2.2
          exact ⟨⟨h.1, h.2.1, q1⟩, q2, q3, q4⟩
      obtain ⟨q1, q2, q3, q4⟩ := key a.first b.first a.rest b.rest h2
      rw [STree.lastD_rest] at q2
      exact ⟨iha.mpr ⟨h1, q1⟩, ihb.mpr ⟨q3, q4⟩, q2⟩

/-! ## the three steps of the induction over bracketings (`Assoc4P.tree_eqv_leftnested`) -/

theorem comp_keeps_invariants [AddCommMonoid R] [Mul R] [Neg R] [SignRing R] [AssocLaws R]
    {F1 L1 F2 L2 T1 T2 : Seg R} {labs1 labs2 : List (Int × Bool)}
    (g1 : Good F1 L1 labs1 T1) (g2 : Good F2 L2 labs2 T2) (lk : Link L1 F2)
    (hd : (labs1 ++ labs2).Pairwise (fun x y => x.1 ≠ y.1)) :
    ∃ T, T1.comp T2 = .ok T ∧ Good F1 L2 (labs1 ++ labs2) T := comp_good g1 g2 lk hd

theorem comp_congruence [AddCommMonoid R] [Mul R] [Neg R] [SignRing R] [AssocLaws R]
    {F1 L1 F2 L2 T1 T2 T1' T2' T : Seg R} {labs1 labs2 : List (Int × Bool)}
    (g1 : Good F1 L1 labs1 T1) (g2 : Good F2 L2 labs2 T2) (lk : Link L1 F2)
    (e1 : SegEqv T1 T1') (e2 : SegEqv T2 T2') (v1 : T1'.arr.validB = true) (v2 : T2'.arr.validB = true)
    (h : T1.comp T2 = .ok T) : ∃ T', T1'.comp T2' = .ok T' ∧ SegEqv T T' :=
  comp_congr g1 g2 lk e1 e2 v1 v2 h

theorem comp_assoc [AddCommMonoid R] [Mul R] [Neg R] [SignRing R] [AssocLaws R]
    {F1 L1 F2 L2 F3 L3 T1 T2 T3 : Seg R} {labs1 labs2 labs3 : List (Int × Bool)}
    (g1 : Good F1 L1 labs1 T1) (g2 : Good F2 L2 labs2 T2) (g3 : Good F3 L3 labs3 T3)
    (lk12 : Link L1 F2) (lk23 : Link L2 F3)
    (hd : (labs1 ++ labs2 ++ labs3).Pairwise (fun x y => x.1 ≠ y.1)) :
    ∃ S12 S23 L Rr : Seg R, T1.comp T2 = .ok S12 ∧ S12.comp T3 = .ok L
      ∧ T2.comp T3 = .ok S23 ∧ T1.comp S23 = .ok Rr ∧ SegEqv Rr L :=
  assoc_good g1 g2 g3 lk12 lk23 hd

/-- A chain of `n` valid fermionic tensors (consecutive ones linked under the
    weak guard, each tensor's two bonds disjoint, labels pairwise distinct), any bracketing `t`:
    contracting along `t` succeeds, the left-nested contraction of the leaf sequence succeeds, and
    the two results are equivalent (`Eqv` arrays, equal open-bond positions); both are valid,
    carry a permutation of all labels, and their open legs are pruned copies of the end tensors'. -/
theorem chain_bracketing [AddCommMonoid R] [Mul R] [Neg R] [SignRing R] [AssocLaws R]
    (t : STree R) (hok : t.OK) (hd : t.labels.Pairwise (fun x y => x.1 ≠ y.1)) :
    ∃ T TL, t.eval = .ok T ∧ evalL t.first t.rest = .ok TL ∧ SegEqv T TL
      ∧ Good t.first t.last t.labels T ∧ Good t.first t.last t.labels TL := by
  obtain ⟨T, TL, e1, g1, e2, g2, h⟩ := tree_eqv_leftnested t hok hd
  exact ⟨T, TL, e1, e2, h, g1, g2⟩

/-- two bracketings of the same leaf sequence give `SegEqv` results, both valid -/
theorem chain_bracketings_agree [AddCommMonoid R] [Mul R] [Neg R] [SignRing R] [AssocLaws R]
    (t t' : STree R) (hok : t.OK) (hd : t.labels.Pairwise (fun x y => x.1 ≠ y.1))
    (h1 : t'.first = t.first) (h2 : t'.rest = t.rest) :
    ∃ T T', t.eval = .ok T ∧ t'.eval = .ok T' ∧ SegEqv T' T ∧ T.arr.validB = true
      ∧ T'.arr.validB = true := by
  have hok' : t'.OK := by
    rw [ok_iff_leaves, h1, h2]; exact (ok_iff_leaves t).mp hok
  have hd' : OddposP.LabelsDistinct t'.labels := by
    rw [STree.labels_eq, h1, h2, ← STree.labels_eq]; exact hd
  obtain ⟨T, TL, e1, g1, e2, _, h⟩ := tree_eqv_leftnested t hok hd
  obtain ⟨T', TL', e1', g1', e2', _, h'⟩ := tree_eqv_leftnested t' hok' hd'
  rw [h1, h2, e2] at e2'
  obtain rfl := Except.ok.inj e2'
  exact ⟨T, T', e1, e1', h'.trans h.symm, g1.ok.valid, g1'.ok.valid⟩

/-- … hence the same dense array, labels, charge and index tables -/
theorem chain_dense [AddCommMonoid R] [Mul R] [Neg R] [SignRing R] [AssocLaws R]
    (t t' : STree R) (T T' : Seg R) (hok : t.OK) (hd : t.labels.Pairwise (fun x y => x.1 ≠ y.1))
    (h1 : t'.first = t.first) (h2 : t'.rest = t.rest)
    (e : t.eval = .ok T) (e' : t'.eval = .ok T') :
    T'.arr.toDenseF = T.arr.toDenseF ∧ T'.arr.oddpos = T.arr.oddpos ∧ T'.arr.charge = T.arr.charge
      ∧ T'.arr.indices = T.arr.indices ∧ T'.l = T.l ∧ T'.r = T.r := by
  obtain ⟨U, U', d, d', h, _, v'⟩ := chain_bracketings_agree t t' hok hd h1 h2
  rw [e] at d
  obtain rfl := Except.ok.inj d
  rw [e'] at d'
  obtain rfl := Except.ok.inj d'
  exact ⟨h.1.toDenseF v', h.1.oddpos, h.1.charge, h.1.indices, h.2.1, h.2.2⟩

/-- `chain_bracketing` with exactly the instances the driver is compiled with -/
theorem chain_bracketing_GRat (t : STree GRat) (hok : t.OK)
    (hd : t.labels.Pairwise (fun x y => x.1 ≠ y.1)) :
    ∃ T TL, @STree.eval GRat GRat.instZero GRat.instAdd GRat.instMul GRat.instNeg t = .ok T
      ∧ @evalL GRat GRat.instZero GRat.instAdd GRat.instMul GRat.instNeg t.first t.rest = .ok TL
      ∧ @SegEqv GRat GRat.instZero GRat.instNeg T TL
      ∧ @Arr.toDenseF GRat GRat.instZero GRat.instNeg T.arr
          = @Arr.toDenseF GRat GRat.instZero GRat.instNeg TL.arr := by
  obtain ⟨T, TL, e1, g1, e2, _, h⟩ :=
    @tree_eqv_leftnested GRat C02.addCommMonoidGRat GRat.instMul GRat.instNeg C03.signRingGRat
      assocLawsGRat t hok hd
  exact ⟨T, TL, e1, e2, h,
    @Eqv.toDenseF GRat C02.addCommMonoidGRat GRat.instMul GRat.instNeg C03.signRingGRat _ _ h.1
      g1.ok.valid⟩

/-- **S5 under the weak guard** (same statement as `C04.tdotF_swap`, `contractibleCommonB` instead of
    `contractibleB`) -/
theorem tdotF_swap_weak [AddCommMonoid R] [Mul R] [Neg R] [SignRing R] (a b c : Arr R)
    (xa xb : List Nat) (hmul : ∀ x y : R, x * y = y * x)
    (ha : a.validB = true) (hb : b.validB = true) (hfa : a.fermi = true) (hfb : b.fermi = true)
    (hadm : tdotAdmissibleCommonB a b xa xb = true)
    (hd : (a.oddpos ++ b.oddpos).Pairwise (fun x y => x.1 ≠ y.1))
    (hc : tdF a b xa xb = .ok c) :
    ∃ c', tdF b a xb xa = .ok c'
      ∧ c'.oddpos = c.oddpos ∧ c'.charge = c.charge ∧ c'.sym = c.sym ∧ c'.fermi = c.fermi
      ∧ ∀ (L Rr : Sector) (oL oR : List Nat), L.length = (freeAxes a.ndim xa).length →
          Rr.length = (freeAxes b.ndim xb).length → oL.length = (freeAxes a.ndim xa).length →
          oR.length = (freeAxes b.ndim xb).length →
          inBox (Arr.blockShapeD (without a.indices xa ++ without b.indices xb) (L ++ Rr))
            (oL ++ oR) = true →
          c'.elem (Rr ++ L) (oR ++ oL)
            = Lazy.sgnI (koszul ((L ++ Rr).map a.sym.parity)
                (some ((List.range Rr.length).map (L.length + ·) ++ List.range L.length)))
                (c.elem (L ++ Rr) (oL ++ oR)) :=
  tdotF_swap_w a b c xa xb hmul (AdmW.of ha hb hfa hfb hadm) hd hc

/-- OPERAND ORDER at the ROOT of a bracketing (commutative scalars): with `Ta`, `Tb` the results of
    the two subtrees, `Tb·Ta` succeeds, has the labels and charge of `(node a b).eval = Ta∘Tb`, and
    at the address with the two free parts exchanged its value is the Koszul sign of the rotation
    times the value of `Ta∘Tb` (= value of `transposeF _ rot`). -/
theorem chain_root_swap [AddCommMonoid R] [Mul R] [Neg R] [SignRing R] [AssocLaws R]
    (hmul : ∀ x y : R, x * y = y * x) (a b : STree R)
    (hok : (STree.node a b).OK) (hd : (a.labels ++ b.labels).Pairwise (fun x y => x.1 ≠ y.1)) :
    ∃ Ta Tb T c', a.eval = .ok Ta ∧ b.eval = .ok Tb ∧ (STree.node a b).eval = .ok T
      ∧ tdF Ta.arr Tb.arr Ta.r Tb.l = .ok T.arr
      ∧ tdF Tb.arr Ta.arr Tb.l Ta.r = .ok c'
      ∧ c'.oddpos = T.arr.oddpos ∧ c'.charge = T.arr.charge ∧ c'.sym = T.arr.sym
      ∧ ∀ (L Rr : Sector) (oL oR : List Nat), L.length = (freeAxes Ta.arr.ndim Ta.r).length →
          Rr.length = (freeAxes Tb.arr.ndim Tb.l).length →
          oL.length = (freeAxes Ta.arr.ndim Ta.r).length →
          oR.length = (freeAxes Tb.arr.ndim Tb.l).length →
          inBox (Arr.blockShapeD (without Ta.arr.indices Ta.r ++ without Tb.arr.indices Tb.l) (L ++ Rr))
            (oL ++ oR) = true →
          c'.elem (Rr ++ L) (oR ++ oL)
            = Lazy.sgnI (koszul ((L ++ Rr).map Ta.arr.sym.parity)
                (some ((List.range Rr.length).map (L.length + ·) ++ List.range L.length)))
                (T.arr.elem (L ++ Rr) (oL ++ oR)) :=
  root_swap hmul a b hok hd

/-! ## non-vacuity: the odd chain `gA – cB – cC – cD` of C04e as segments -/

open SymmModel.C03 in
def sA : Seg Int := ⟨gA, [], [2]⟩
def sB : Seg Int := ⟨cB, [0], [2]⟩
def sC : Seg Int := ⟨cC, [0], [1]⟩
def sD : Seg Int := ⟨cD, [0], []⟩

/-- the bracketing `(A·B)·(C·D)` -/
def exTree : STree Int := .node (.node (.leaf sA) (.leaf sB)) (.node (.leaf sC) (.leaf sD))
/-- the bracketing `A·((B·C)·D)` -/
def exTree' : STree Int := .node (.leaf sA) (.node (.node (.leaf sB) (.leaf sC)) (.leaf sD))

theorem exTree_ok : exTree.OK ∧ exTree.labels.Pairwise (fun x y => x.1 ≠ y.1)
    ∧ exTree'.first = exTree.first ∧ exTree'.rest = exTree.rest := by
  refine ⟨⟨⟨⟨by decide +kernel, by decide +kernel, by decide, by decide, by decide⟩,
      ⟨by decide +kernel, by decide +kernel, by decide, by decide, by decide⟩,
      ⟨by decide, by decide +kernel⟩⟩,
    ⟨⟨by decide +kernel, by decide +kernel, by decide, by decide, by decide⟩,
      ⟨by decide +kernel, by decide +kernel, by decide, by decide, by decide⟩,
      ⟨by decide, by decide +kernel⟩⟩,
    ⟨by decide, by decide +kernel⟩⟩, by decide, rfl, rfl⟩

def segOf (r : Except Err (Seg Int)) : Seg Int :=
  match r with
  | .ok s => s
  | .error _ => ⟨default, [], []⟩

/-- a sanity instance of the conclusion: the two bracketings and the left-nested contraction give
    the same labels, open bonds and values -/
example :
    ([segOf exTree.eval, segOf exTree'.eval, segOf (evalL exTree.first exTree.rest)].map (fun s =>
      (s.arr.oddpos, s.l, s.r, s.arr.elem [(1,0),(0,0),(0,0),(1,0)] [0,0,0,0],
        s.arr.elem [(0,0),(1,0),(0,0),(1,0)] [1,1,0,0])))
      = List.replicate 3 ([(5, true), (1, false), (3, false), (7, false)], [], [], 140, 280) := by
  decide +kernel

example : ∀ x y : Int, x * y = y * x := Int.mul_comm

end SymmModel.C04
