/-
  Property C20 (second part) — the dtype-flow model: which block of which operand determines the
  dtype of which result block, for every operation, on arbitrary (also mixed-dtype) inputs.

  Model: SymmModel/Model/DTypeFlow.lean (`DArr` = block structure with one `DType` per stored block
  in dict order; one transfer function per symmray routine; `evalOp`/`runProg` = protocol steps and
  programs).  It is tied to the real code on arrays with MIXED per-block dtypes and shuffled dict
  orders by harness/props/c20.py (kind "dflow").

  Theorems, all for arbitrary structures (any rank, sectors, sparsity, fused indices):
    * uniform in ⇒ uniform out for every operation and hence every program (`step_preserves_dtype`,
      `prog_preserves_dtype`), with `realPart d` exactly for singular values / eigenvalues
      (`svd_dtypes`, `eigh_dtypes`), and no loss flag (`losesImag`, `narrows`) is ever raised;
    * on mixed inputs: the dtype of every block fused in insert mode is that of the FIRST stored
      block (`fuse_insert_dtype_is_first_block`), so a real first block and a complex later block
      lose the imaginary part (`fuse_insert_hazard`, witness `fuse_insert_hazard_witness`); a
      block of a blockwise contraction has the promote-fold of exactly its contributing pairs
      (`tdot_block_dtype_fold`); zero blocks of `fill_missing_blocks` have the dtype of the first
      stored block (`fill_missing_dtype`).
-/
import SymmModel.Proofs.DTypeFlowEval
import SymmModel.Proofs.Accum
namespace SymmModel.C20b
open SymmModel DType DFlow

/-- every step: operands of dtype `d` (vectors / scalars: `d` or its real part), parameters
    compatible with `d`, no zeros created without an example block ⇒ results of dtype `d`
    (vectors / scalars / dense vectors: `d` or its real part) and no lossy cast -/
theorem step_preserves_dtype (d : DType) (op : Op) (ins outs : List DVal) (fl : Flags)
    (hadm : op.admissible d = true) (hins : ValsOK d ins) (h : evalOp op ins = .ok (outs, fl))
    (hdef : fl.defaulted = false) :
    ValsOK d outs ∧ fl.losesImag = false ∧ fl.narrows = false :=
  evalOp_preserves hadm hins h hdef

theorem prog_preserves_dtype (d : DType) (env env' : Env) (steps : List Step) (fl : Flags)
    (hadm : ∀ s ∈ steps, s.op.admissible d = true) (he : EnvOK d env)
    (h : runProg env steps = .ok (env', fl)) (hdef : fl.defaulted = false) :
    EnvOK d env' ∧ fl.losesImag = false ∧ fl.narrows = false := by
  obtain ⟨h1, h2, h3, _⟩ :=
    foldlM_runStep_preserves steps (env, Flags.none) (env', fl) hadm he ⟨rfl, rfl⟩ h hdef
  exact ⟨h1, h2, h3⟩

/-- `fuse`: both classes, both strategies, empty groups expanded -/
theorem fuse_uniform (d : DType) (a : DArr) (groups : List (List Nat)) (mode : FuseMode) (ee : Bool)
    (r : DArr × Flags) (h : Uni d a.blocks) (hr : a.fuseD groups mode ee = .ok r) :
    Uni d r.1.blocks ∧ r.2 = Flags.none := fuseD_uni h hr

theorem unfuse_uniform (d : DType) (a r : DArr) (axis : Nat) (h : Uni d a.blocks)
    (hr : a.unfuseD axis = .ok r) : Uni d r.blocks := unfuseD_uni h hr

theorem reshape_uniform (d : DType) (a : DArr) (ns : List Int) (r : DArr × Flags) (h : Uni d a.blocks)
    (hr : a.reshapeD ns = .ok r) : Uni d r.1.blocks ∧ r.2 = Flags.none := reshapeD_uni h hr

/-- contraction through either path, abelian or fermionic -/
theorem tensordot_uniform (d : DType) (a b : DArr) (axes : AxesArg) (mode : TdotMode) (r : DArr × Flags)
    (ha : Uni d a.blocks) (hb : Uni d b.blocks) (h : tensordotD a b axes mode = .ok r) :
    Uni d r.1.blocks ∧ r.2 = Flags.none := tensordotD_uni ha hb h

/-- densification of a uniform array with at least one block: the dense array, including every
    zero block created for a missing sector, has dtype `d` -/
theorem to_dense_uniform (d : DType) (a : DArr) (r : DType × Flags) (h : Uni d a.blocks)
    (hne : a.blocks ≠ []) (hr : a.toDenseD = .ok r) : r.1 = d ∧ r.2 = Flags.none := by
  have hdef : r.2.defaulted = false := by
    unfold DArr.toDenseD at hr
    obtain ⟨e, _, h2⟩ := bind_ok_iff.mp hr
    rw [← pure_ok h2]
    cases hb : a.blocks with
    | nil => exact absurd hb hne
    | cons p ps => simp [DArr.exFlags, hb]
  obtain ⟨h1, h2, h3⟩ := toDenseD_uni h hr hdef
  refine ⟨h1, ?_⟩
  cases hf : r.2 with
  | mk x y z => rw [hf] at h2 h3 hdef; simp at h2 h3 hdef; subst h2 h3 hdef; rfl

/-- `fill_missing_blocks`, any input: every stored block keeps its dtype and every created zero
    block has the dtype of the first stored block -/
theorem fill_missing_dtype (a : DArr) (p : Sector × DType) (hp : p ∈ a.fillMissingD.1.blocks) :
    p ∈ a.blocks ∨ p.2 = a.ex :=
  foldl_inv (fun (acc : DBlocks) => ∀ p ∈ acc, p ∈ a.blocks ∨ p.2 = a.ex) _ _ a.blocks (fun _ => Or.inl)
    (fun _ _ _ hb q hq => (DFlow.mem_ainsert hq).elim (hb q) Or.inr) p hp

theorem fill_missing_uniform (d : DType) (a : DArr) (h : Uni d a.blocks) (hne : a.blocks ≠ []) :
    Uni d a.fillMissingD.1.blocks := by
  intro p hp
  rcases fill_missing_dtype a p hp with h' | h'
  · exact h p h'
  · rw [h', ex_of_uni h hne]

theorem svd_dtypes (d : DType) (x : DArr) (r : DArr × DVec × DArr) (h : Uni d x.blocks)
    (hr : svdD x = .ok r) :
    Uni d r.1.blocks ∧ Uni d.realPart r.2.1.blocks ∧ Uni d r.2.2.blocks := svdD_uni h hr

theorem eigh_dtypes (d : DType) (a : DArr) (r : DVec × DArr) (h : Uni d a.blocks) (hr : eighD a = .ok r) :
    Uni d.realPart r.1.blocks ∧ Uni d r.2.blocks := eighD_uni h hr

theorem qr_dtypes (d : DType) (x : DArr) (r : DArr × DArr) (h : Uni d x.blocks) (hr : qrD x = .ok r) :
    Uni d r.1.blocks ∧ Uni d r.2.blocks := qrD_uni h hr

theorem svd_truncated_dtypes (d : DType) (x : DArr) (counts : List Nat) (ab : Absorb)
    (r : DArr × Option DVec × DArr) (h : Uni d x.blocks) (hr : svdTruncatedD x counts ab = .ok r) :
    Uni d r.1.blocks ∧ (∀ s, r.2.1 = some s → Uni d.realPart s.blocks) ∧ Uni d r.2.2.blocks :=
  svdTruncatedD_uni h hr

theorem solve_uniform (d : DType) (a b r : DArr) (ha : Uni d a.blocks) (hb : Uni d b.blocks)
    (hr : solveD a b = .ok r) : Uni d r.blocks := solveD_uni ha hb hr

/-- `a + b`, `a - b`, `a * b` incl. sectors stored on one side only -/
theorem binop_uniform (d : DType) (m : Missing) (a b r : DArr) (ha : Uni d a.blocks) (hb : Uni d b.blocks)
    (h : binopD m a b = .ok r) : Uni d r.blocks := binopD_uni ha hb h

/-- `multiply_diagonal` with a vector of dtype `d` or of its real part (singular values) -/
theorem multiply_diagonal_uniform (d : DType) (a : DArr) (v : DVec) (axis : Nat) (ha : Uni d a.blocks)
    (hv : UniW d v.blocks) : Uni d (multiplyDiagonalD a v axis).blocks := multiplyDiagonalD_uni ha hv axis

/-- `random` (and `from_fill_fn`, which is `randomD` at `some d`): every block has the requested dtype;
    `random` without `dtype=` gives float64 -/
theorem ctor_dtypes (sym : Sym) (fermi : Bool) (indices : List Index) (charge : Option Charge)
    (dt : Option DType) (oddpos : List (Int × Bool)) (r : DArr)
    (h : randomD sym fermi indices charge dt oddpos = .ok r) : Uni (dt.getD f64) r.blocks :=
  fromFillD_uni h

theorem from_dense_dtype (sym : Sym) (fermi : Bool) (shape : List Nat) (d : DType) (maps : List (List Charge))
    (duals : List Bool) (charge : Option Charge) (oddpos : List (Int × Bool)) (r : DArr)
    (h : fromDenseD sym fermi shape d maps duals charge oddpos = .ok r) : Uni d r.blocks :=
  fromDenseD_uni h

/-- **insert mode, any input.**  Every block `_fuse_core` returns has the dtype of the first
    stored block of the operand (`get_any_array()`), whatever the other blocks are; an imaginary
    part is lost exactly when some block is complex and the first one is real, precision exactly
    when some block is double and the first one is single. -/
theorem fuse_insert_dtype_is_first_block (a : DArr) (groups : List (List Nat)) (r : DArr × Flags)
    (h : a.fuseCoreD groups .insert = .ok r) :
    Uni a.ex r.1.blocks
    ∧ r.2.losesImag = a.blocks.any (fun sb => sb.2.isComplex && !a.ex.isComplex)
    ∧ r.2.narrows = a.blocks.any (fun sb => sb.2.isDouble && !a.ex.isDouble) := by
  unfold DArr.fuseCoreD at h
  obtain ⟨fi, _, h2⟩ := bind_ok_iff.mp h
  obtain ⟨b, hb, h3⟩ := bind_ok_iff.mp h2
  rw [← pure_ok h3]
  obtain ⟨h4, h5⟩ := fuseInsertD_spec hb
  exact ⟨h4, by rw [h5]; exact insertFlags_losesImag _ _, by rw [h5]; exact insertFlags_narrows _ _⟩

/-- **hazard.**  A (non-uniform) array whose first stored block is real while some stored block
    is complex: `_fuse_core` in insert mode returns only real blocks — the imaginary parts are
    gone (`fuse` itself on the witness below). -/
theorem fuse_insert_hazard (a : DArr) (groups : List (List Nat)) (r : DArr × Flags)
    (hfirst : a.ex.isComplex = false) (hlater : ∃ sb ∈ a.blocks, sb.2.isComplex = true)
    (h : a.fuseCoreD groups .insert = .ok r) :
    r.2.losesImag = true ∧ ∀ p ∈ r.1.blocks, p.2.isComplex = false := by
  obtain ⟨h1, h2, _⟩ := fuse_insert_dtype_is_first_block a groups r h
  refine ⟨?_, fun p hp => by rw [h1 p hp]; exact hfirst⟩
  rw [h2]
  obtain ⟨sb, hsb, hc⟩ := hlater
  exact List.any_eq_true.mpr ⟨sb, hsb, by simp [hc, hfirst]⟩

/-- the witness replayed on the real code by the harness: the Z2 matrix with blocks
    `(0,0) ↦ float64`, `(1,1) ↦ complex128` (in this dict order), both legs fused -/
def hazardArr : DArr :=
  { sym := .Z2, fermi := false,
    indices := [Index.mk [((0, 0), 1), ((1, 0), 1)] false none, Index.mk [((0, 0), 1), ((1, 0), 1)] true none],
    charge := (0, 0),
    blocks := [([(0, 0), (0, 0)], f64), ([(1, 0), (1, 0)], c128)] }

def hazardCheck (mode : FuseMode) : Option (List DType × Bool) :=
  match hazardArr.fuseD [[0, 1]] mode with
  | .ok r => some (r.1.blocks.map (·.2), r.2.losesImag)
  | .error _ => none

theorem fuse_insert_hazard_witness :
    hazardCheck .insert = some ([f64], true) ∧ hazardCheck .concat = some ([c128], false) := by
  constructor <;> decide +kernel

example : hazardArr.ex.isComplex = false ∧ ∃ sb ∈ hazardArr.blocks, sb.2.isComplex = true :=
  ⟨rfl, ⟨([(1, 0), (1, 0)], c128), by simp [hazardArr], rfl⟩⟩

theorem accumPromote_eq (ps : List (Sector × DType)) : accumPromote ps = TdotP.accum promote ps := by
  unfold accumPromote TdotP.accum
  congr 1
  funext acc p
  unfold TdotP.accStep
  cases alookup acc p.1 <;> rfl

/-- **blockwise contraction, any input.**  The dtype of the result block of sector `s` is the
    left fold of `promote` over exactly the aligned block pairs contributing to `s`, in the order
    the code accumulates them. -/
theorem tdot_block_dtype_fold (a b : DArr) (l xa xb r : List Nat) (s : Sector) (v : DType) (vs : List DType)
    (hc : ((tdotPairs a b l xa xb r).filter (fun p => p.1 == s)).map (·.2) = v :: vs) :
    alookup (tensordotBlockwiseD a b l xa xb r).blocks s = some (vs.foldl promote v) := by
  have h := TdotP.alookup_accum promote (tdotPairs a b l xa xb r) s
  rw [hc] at h
  rw [← accumPromote_eq] at h
  exact h

theorem tdot_block_absent (a b : DArr) (l xa xb r : List Nat) (s : Sector)
    (hc : ((tdotPairs a b l xa xb r).filter (fun p => p.1 == s)).map (·.2) = []) :
    alookup (tensordotBlockwiseD a b l xa xb r).blocks s = none := by
  have h := TdotP.alookup_accum promote (tdotPairs a b l xa xb r) s
  rw [hc] at h
  rw [← accumPromote_eq] at h
  exact h

theorem tdot_pair_dtype (a b : DArr) (l xa xb r : List Nat) (p : Sector × DType)
    (hp : p ∈ tdotPairs a b l xa xb r) :
    ∃ pa ∈ a.blocks, ∃ pb ∈ b.blocks, permuted pb.1 xb = permuted pa.1 xa
      ∧ p = (permuted pa.1 l ++ permuted pb.1 r, promote pa.2 pb.2) := by
  unfold tdotPairs at hp
  obtain ⟨pa, hpa, hp2⟩ := List.mem_flatMap.mp hp
  obtain ⟨pb, hpb, rfl⟩ := List.mem_map.mp hp2
  obtain ⟨hpb1, hpb2⟩ := List.mem_filter.mp hpb
  exact ⟨pa, hpa, pb, hpb1, by simpa using hpb2, rfl⟩

/-! ### the hypotheses are satisfiable -/

def exArr (d : DType) : DArr := { hazardArr with blocks := [([(0, 0), (0, 0)], d), ([(1, 0), (1, 0)], d)] }

example : Uni c64 (exArr c64).blocks := by
  intro p hp
  simp only [exArr, List.mem_cons, List.not_mem_nil, or_false] at hp
  rcases hp with rfl | rfl <;> rfl

example : (Op.scalarOp .pyfloat).admissible f32 = true := rfl
example : (Op.fuse [[0, 1]] .insert true).admissible c64 = true := rfl

/-- a two-step program (fuse, densify) on a uniform complex64 array runs and raises no flag -/
example : (match runProg [("x", DVal.arr (exArr c64))]
      [⟨.fuse [[0, 1]] .insert true, ["x"], ["f"]⟩, ⟨.toDense, ["f"], ["y"]⟩] with
    | .ok r => some (r.2.defaulted, r.2.losesImag)
    | .error _ => none) = some (false, false) := by decide +kernel

end SymmModel.C20b
