/- Property C10 — umbrella incl. C10g (mixed operand orders of the halves). -/
import SymmModel.Props.C10All5
import SymmModel.Props.C10g
