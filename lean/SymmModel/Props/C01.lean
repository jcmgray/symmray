/-
  Property C01 — every result is a valid symmetric array (charge conservation is closed).

  All theorems are about the model's decidable validity predicate `Arr.validB`
  (Model/Valid.lean: index tables `Index.wfB` incl. the fused-index bookkeeping `extentOk`,
  distinct block keys, every stored sector charge-conserving with the shape its tables give,
  for fermionic arrays the pending-sign table and the odd-position parity) and the model
  operations in Model/Arr.lean, Fermi.lean, Tdot.lean, Linalg.lean.  They hold for every
  symmetry (`Sym`: Z2, Z4, U1, Z2Z2, U1U1), every rank, index table, sparsity pattern and any
  scalar type `R` (only the type classes the model functions themselves need).

  Form: `validB operands = true ∧ call admissible → validB result = true`.
  Admissibility hypotheses are decidable (`Arr.isPerm`, `contractibleB`, …) except the SHAPE
  contract of the LAPACK kernels (`QrShapeContract`, `SvdShapeContract`, `EighShapeContract`:
  q : m×k, r : k×n, k = min m n), which `Kernels.shapeOnly` satisfies, and `ShapePreserving` of the
  function applied block by block in arithmetic.  `example`s after the theorems show that their
  hypotheses hold for concrete non-trivial arrays.

  Proofs: Proofs/ValidBase.lean (the clauses of `validB` read once), ValidLemmas.lean (lists,
  tables, `ValidP.Valid` = `validB` clause by clause), ValidOps.lean, ValidTdot.lean,
  ValidMore.lean, ValidTdotF.lean, ValidLinalg.lean, ValidFuse.lean, ValidFuse2.lean,
  ValidFuseF.lean, ValidTdotFused.lean, ValidMisc.lean, ValidProg.lean.

  Fuse in `mode="concat"`, einsum, solve, svd_truncated (`applyCounts`), reshape, align_axes and
  the constructors are in Props/C01b.lean.

  One statement is deliberately NOT of the naive form, with a machine-checked counterexample
  below:
    * `expandDims_some_valid` needs `a.fermi = false ∨ parity c = false`
      (`expandDims_odd_charge_invalid`: known finding "expand-dims-odd-charge").
  `squeeze` needs no hypothesis on the sign table (`squeeze_valid_any_phases`), because
  `FermionicArray._map_blocks` re-keys only the sign entries of stored blocks
  (`squeeze_phase_keys_stored`).  `validB` allows a sign-table key whose block was dropped and
  whose removed charge is non-zero; re-keying such an entry would give a key that does not
  conserve the charge (known_findings.json "stale-phase-key-squeeze", status fixed):
  `squeeze_drops_stale_phase_keys` evaluates `squeeze` on that witness.
-/
import SymmModel.Proofs.ValidProg

namespace SymmModel.C01
open SymmModel SymmModel.ValidP

variable {R : Type}

instance : Conj Int := ⟨id⟩

def subS1 : Index := .mk [((0, 0), 1), ((1, 0), 1)] true none
def subS2 : Index := .mk [((0, 0), 2), ((1, 0), 1)] false none

/-- U1 index of direction `true` fused from `subS1 ⊗ subS2` (mixed directions inside) -/
def fusedF : Index :=
  .mk [((-1, 0), 1), ((0, 0), 3), ((1, 0), 2)] true
    (some ([subS1, subS2],
      [((-1, 0), [([(0, 0), (1, 0)], 1)]),
       ((0, 0), [([(0, 0), (0, 0)], 2), ([(1, 0), (1, 0)], 1)]),
       ((1, 0), [([(1, 0), (0, 0)], 2)])]))

/-- abelian U1 matrix, mixed directions, second index fused, two blocks -/
def exA : Arr Int :=
  { sym := .U1, fermi := false,
    indices := [.mk [((0, 0), 1), ((1, 0), 2)] false none, fusedF],
    charge := (0, 0),
    blocks := [([(0, 0), (0, 0)], ⟨[1, 3], #[1, 2, 3]⟩), ([(1, 0), (1, 0)], ⟨[2, 2], #[4, 5, 6, 7]⟩)] }

/-- abelian U1 matrix whose first index matches `fusedF` with the opposite direction -/
def exB : Arr Int :=
  { sym := .U1, fermi := false,
    indices := [fusedF.conj, .mk [((0, 0), 2), ((1, 0), 1)] true none],
    charge := (0, 0),
    blocks := [([(0, 0), (0, 0)], ⟨[3, 2], #[1, 2, 3, 4, 5, 6]⟩), ([(1, 0), (1, 0)], ⟨[2, 1], #[7, 8]⟩)] }

/-- fermionic Z2 rank-3 array of odd parity: mixed directions, three blocks, one pending sign,
    one odd-position label -/
def exF : Arr Int :=
  { sym := .Z2, fermi := true,
    indices := [.mk [((0, 0), 1), ((1, 0), 2)] false none,
                .mk [((0, 0), 2), ((1, 0), 1)] true none,
                .mk [((0, 0), 1), ((1, 0), 1)] false none],
    charge := (1, 0),
    blocks := [([(1, 0), (0, 0), (0, 0)], ⟨[2, 2, 1], #[1, 2, 3, 4]⟩),
               ([(0, 0), (1, 0), (0, 0)], ⟨[1, 1, 1], #[5]⟩),
               ([(1, 0), (1, 0), (1, 0)], ⟨[2, 1, 1], #[6, 7]⟩)],
    phases := [([(0, 0), (1, 0), (0, 0)], -1)],
    oddpos := [(7, false)] }

/-- fermionic Z2 matrix of odd parity whose first index matches the last one of `exF` -/
def exG : Arr Int :=
  { sym := .Z2, fermi := true,
    indices := [.mk [((0, 0), 1), ((1, 0), 1)] true none,
                .mk [((0, 0), 2), ((1, 0), 3)] false none],
    charge := (1, 0),
    blocks := [([(0, 0), (1, 0)], ⟨[1, 3], #[1, 2, 3]⟩), ([(1, 0), (0, 0)], ⟨[1, 2], #[4, 5]⟩)],
    phases := [([(1, 0), (0, 0)], -1)],
    oddpos := [(3, true)] }

example : exA.validB = true ∧ exB.validB = true ∧ exF.validB = true ∧ exG.validB = true := by
  decide

theorem transposeA_valid [Zero R] (a : Arr R) (axes : List Nat) (hv : a.validB = true)
    (hf : a.fermi = false) (hp : Arr.isPerm axes a.ndim = true) :
    (a.transposeA axes).validB = true :=
  (validB_iff _).mpr (ValidP.transposeA_valid a axes ((validB_iff a).mp hv) hf hp)

example : exA.validB = true ∧ exA.fermi = false ∧ Arr.isPerm [1, 0] exA.ndim = true := by decide

theorem transposeF_valid [Zero R] (a : Arr R) (axes : List Nat) (phase : Bool)
    (hv : a.validB = true) (hf : a.fermi = true) (hp : Arr.isPerm axes a.ndim = true) :
    (a.transposeF axes phase).validB = true :=
  (validB_iff _).mpr (ValidP.transposeF_valid a axes phase ((validB_iff a).mp hv) hf hp)

example : exF.validB = true ∧ exF.fermi = true ∧ Arr.isPerm [2, 0, 1] exF.ndim = true := by decide

theorem conjA_valid [Conj R] (a : Arr R) (hv : a.validB = true) (hf : a.fermi = false) :
    a.conjA.validB = true :=
  (validB_iff _).mpr (ValidP.conjA_valid a ((validB_iff a).mp hv) hf)

/-- all four option combinations of `FermionicArray.conj` -/
theorem conjF_valid [Conj R] (a : Arr R) (phasePerm phaseDual : Bool) (hv : a.validB = true)
    (hf : a.fermi = true) : (a.conjF phasePerm phaseDual).validB = true :=
  (validB_iff _).mpr (ValidP.conjF_valid a phasePerm phaseDual ((validB_iff a).mp hv) hf)

theorem daggerF_valid [Zero R] [Conj R] (a : Arr R) (phaseDual : Bool) (hv : a.validB = true)
    (hf : a.fermi = true) : (a.daggerF phaseDual).validB = true :=
  (validB_iff _).mpr (ValidP.daggerF_valid a phaseDual ((validB_iff a).mp hv) hf)

theorem sectorCharge_conj (sym : Sym) (idx : List Index) (s : Sector) (h : s.length = idx.length) :
    Arr.sectorCharge sym ((idx.map Index.conj).map Index.dual) s
      = sym.sign (Arr.sectorCharge sym (idx.map Index.dual) s) true :=
  (secOk_conj (sym := sym) (idx := idx) (ch := Arr.sectorCharge sym (idx.map Index.dual) s)
    ⟨h, rfl⟩).2

/-- `BlockIndex.conj` keeps an index well formed (incl. the fused-index bookkeeping) -/
theorem conj_wfB (sym : Sym) (i : Index) (h : Index.wfB sym i = true) :
    Index.wfB sym i.conj = true := ValidP.conj_wfB sym i h

example : Index.wfB .U1 fusedF = true ∧ Index.wfB .U1 fusedF.conj = true := by decide

theorem phaseFlip_valid (a : Arr R) (axs : List Nat) (hv : a.validB = true) (hf : a.fermi = true) :
    (a.phaseFlip axs).validB = true :=
  (validB_iff _).mpr (ValidP.phaseFlip_valid a axs ((validB_iff a).mp hv) hf)

theorem phaseTranspose_valid (a : Arr R) (axes : Option (List Nat)) (hv : a.validB = true)
    (hf : a.fermi = true) : (a.phaseTranspose axes).validB = true :=
  (validB_iff _).mpr (ValidP.phaseTranspose_valid a axes ((validB_iff a).mp hv) hf)

theorem phaseSector_valid (a : Arr R) (sector : Sector) (hv : a.validB = true) (hf : a.fermi = true)
    (hl : sector.length = a.ndim) (hs : a.isValidSector sector = true) :
    (a.phaseSector sector).validB = true :=
  (validB_iff _).mpr (ValidP.phaseSector_valid a sector ((validB_iff a).mp hv) hf
    ⟨hl, by simpa [Arr.isValidSector, Arr.duals] using hs⟩)

example : exF.isValidSector [(0, 0), (0, 0), (1, 0)] = true := by decide

theorem phaseGlobal_valid (a : Arr R) (hv : a.validB = true) (hf : a.fermi = true) :
    a.phaseGlobal.validB = true :=
  (validB_iff _).mpr (ValidP.phaseGlobal_valid a ((validB_iff a).mp hv) hf)

theorem phaseSync_valid [Neg R] (a : Arr R) (hv : a.validB = true) : a.phaseSync.validB = true :=
  (validB_iff _).mpr (ValidP.phaseSync_valid a ((validB_iff a).mp hv))

theorem expandDims_none_valid (a : Arr R) (axis : Nat) (dual : Option Bool) (hv : a.validB = true) :
    (a.expandDims axis none dual).validB = true :=
  (validB_iff _).mpr (ValidP.expandDims_none_valid a axis dual ((validB_iff a).mp hv))

theorem expandDims_some_valid (a : Arr R) (axis : Nat) (c : Charge) (dual : Option Bool)
    (hv : a.validB = true) (hc : a.sym.valid c = true)
    (hpar : a.fermi = false ∨ a.sym.parity c = false) :
    (a.expandDims axis (some c) dual).validB = true :=
  (validB_iff _).mpr (ValidP.expandDims_some_valid a axis c dual ((validB_iff a).mp hv) hc hpar)

example : exA.sym.valid (3, 0) = true ∧ exA.fermi = false := by decide

/-- known finding "expand-dims-odd-charge": on a fermionic array an odd extra charge makes the
    total charge odd without adding an odd-position label -/
theorem expandDims_odd_charge_invalid :
    exF.validB = true ∧ exF.sym.valid (1, 0) = true
    ∧ (exF.expandDims 1 (some (1, 0)) none).validB = false
    ∧ (exF.expandDims 1 (some (1, 0)) none).invalidReason = "oddpos-parity" := by
  decide

/-- **`squeeze` preserves validity**, whatever the pending-sign table holds (entries whose block
    was dropped earlier — by `multiply_diagonal`, `align_axes`, `drop_missing_blocks` — are
    discarded by `_map_blocks`) -/
theorem squeeze_valid_any_phases (a : Arr R) (axis : Option (List Nat)) (r : Arr R)
    (hv : a.validB = true) (h : a.squeeze axis = .ok r) : r.validB = true :=
  (validB_iff _).mpr (ValidP.squeeze_valid_any_phases a axis r ((validB_iff a).mp hv) h)

/-- the same with the hypothesis that every sign-table key lies in the index tables (not needed:
    this is `squeeze_valid_any_phases`) -/
theorem squeeze_valid (a : Arr R) (axis : Option (List Nat)) (r : Arr R) (hv : a.validB = true)
    (_hph : phaseKeysInTablesB a = true) (h : a.squeeze axis = .ok r) : r.validB = true :=
  squeeze_valid_any_phases a axis r hv h

example : phaseKeysInTablesB exF = true ∧ phaseKeysInTablesB exA = true := by decide

/-- after `squeeze` (of any array, valid or not) every key of the pending-sign table of a
    fermionic result is a stored sector: nothing stale survives -/
theorem squeeze_phase_keys_stored (a : Arr R) (axis : Option (List Nat)) (r : Arr R)
    (hf : a.fermi = true) (h : a.squeeze axis = .ok r) :
    ∀ k ∈ r.phases.map (·.1), k ∈ r.sectors :=
  ValidP.squeeze_phase_keys_stored a axis r hf h

/-- a valid fermionic array with a stale sign-table key (no block is stored for it and charge `1`
    is not in the table of the second index): the witness of "stale-phase-key-squeeze"
    (known_findings.json, status fixed) -/
def exStale : Arr Int :=
  { sym := .U1, fermi := true,
    indices := [.mk [((0, 0), 1), ((1, 0), 1)] false none, .mk [((0, 0), 1)] true none],
    charge := (0, 0),
    blocks := [([(0, 0), (0, 0)], ⟨[1, 1], #[5]⟩)],
    phases := [([(1, 0), (1, 0)], -1)],
    oddpos := [] }

/-- on that witness — valid, with a sign-table key outside the index tables — `squeeze` drops the
    stale entry and returns a valid array holding the same number -/
theorem squeeze_drops_stale_phase_keys :
    exStale.validB = true ∧ phaseKeysInTablesB exStale = false
    ∧ (match exStale.squeeze none with
       | .ok r => r.validB && r.phases == [] && r.elem [(0, 0)] [0] == 5
       | .error _ => false) = true := by
  decide

example : ∀ r, exStale.squeeze none = .ok r → r.validB = true :=
  fun r h => squeeze_valid_any_phases exStale none r (by decide) h

/-- the block-wise contraction of abelian arrays with matching contracted indices
    (`contractibleB`: same charge table, opposite direction) is valid.  `leftAxes/rightAxes` are
    the complements exactly as `tensordot_abelian` computes them. -/
theorem tensordotBlockwise_valid [Zero R] [Add R] [Mul R] (a b : Arr R) (axesA axesB : List Nat)
    (ha : a.validB = true) (hb : b.validB = true) (hsym : a.sym = b.sym) (hfa : a.fermi = false)
    (hc : contractibleB a b axesA axesB = true)
    (hnA : allDistinct axesA = true) (hnB : allDistinct axesB = true)
    (hA : axesA.all (fun i => decide (i < a.ndim)) = true)
    (hB : axesB.all (fun i => decide (i < b.ndim)) = true) :
    (tensordotBlockwise a b (without (List.range a.ndim) axesA) axesA axesB
      (without (List.range b.ndim) axesB)).validB = true :=
  (validB_iff _).mpr (ValidP.tensordotBlockwise_valid a b axesA axesB ((validB_iff a).mp ha)
    ((validB_iff b).mp hb) hsym hfa (contractible_opposite hc)
    (allDistinct_iff_nodup.mp hnA) (allDistinct_iff_nodup.mp hnB)
    (by simpa using hA) (by simpa using hB))

example : exA.sym = exB.sym ∧ contractibleB exA exB [1] [0] = true
    ∧ tdotAdmissibleB exA exB [1] [0] = true := by decide

/-- for ANY kind of operands (also fermionic ones with pending signs): the result satisfies
    every clause of `validB` that does not speak about signs, i.e. it is valid as an abelian
    array; `resolve_combined_oddpos` then repairs the odd-position clause, see
    `tensordotF_valid` -/
theorem tensordotBlockwise_valid_abelian_part [Zero R] [Add R] [Mul R] (a b : Arr R)
    (axesA axesB : List Nat)
    (ha : a.validB = true) (hb : b.validB = true) (hsym : a.sym = b.sym)
    (hc : contractibleB a b axesA axesB = true)
    (hnA : allDistinct axesA = true) (hnB : allDistinct axesB = true)
    (hA : axesA.all (fun i => decide (i < a.ndim)) = true)
    (hB : axesB.all (fun i => decide (i < b.ndim)) = true) :
    ({ (tensordotBlockwise a b (without (List.range a.ndim) axesA) axesA axesB
          (without (List.range b.ndim) axesB)) with
        fermi := false, phases := [], oddpos := [] } : Arr R).validB = true := by
  have hcore := ValidP.tensordotBlockwise_core a b axesA axesB ((validB_iff a).mp ha).core
    ((validB_iff b).mp hb).core hsym (contractible_opposite hc)
    (allDistinct_iff_nodup.mp hnA) (allDistinct_iff_nodup.mp hnB)
    (by simpa using hA) (by simpa using hB)
  exact (validB_iff _).mpr ⟨hcore.idx, hcore.chg, hcore.nodup, hcore.blk, 
    signsOk_abelian.mpr ⟨rfl, rfl⟩⟩

/-- the public entry `tensordot_abelian(a, b, axes, mode)` in EVERY mode: `blockwise`, `fused`
    (drop misaligned sectors, fuse both operands to matrices, contract, unfuse) and `auto` -/
theorem tensordotA_valid [Zero R] [Add R] [Mul R] (mode : TdotMode) (a b r : Arr R)
    (axesA axesB : List Nat)
    (ha : a.validB = true) (hb : b.validB = true) (hfa : a.fermi = false)
    (hadm : tdotAdmissibleB a b axesA axesB = true)
    (h : tensordotA a b (.pair (axesA.map Int.ofNat) (axesB.map Int.ofNat)) mode = .ok r) :
    r.validB = true :=
  (validB_iff _).mpr (tensordotA_valid_all mode a b r axesA axesB ((validB_iff a).mp ha)
    ((validB_iff b).mp hb) hfa hadm h)

/-- the public entry `tensordot_fermionic(a, b, axes, mode)` in every mode: transposes, phase
    bookkeeping, the abelian kernel and `resolve_combined_oddpos` — the result is valid
    including the odd-position parity clause -/
theorem tensordotF_valid [Zero R] [Add R] [Mul R] [Neg R] (mode : TdotMode) (a b r : Arr R)
    (axesA axesB : List Nat)
    (ha : a.validB = true) (hb : b.validB = true) (hfa : a.fermi = true) (hfb : b.fermi = true)
    (hadm : tdotAdmissibleB a b axesA axesB = true)
    (h : Arr.tensordotF a b (.pair (axesA.map Int.ofNat) (axesB.map Int.ofNat)) mode = .ok r) :
    r.validB = true :=
  (validB_iff _).mpr (tensordotF_valid_all mode a b r axesA axesB ((validB_iff a).mp ha)
    ((validB_iff b).mp hb) hfa hfb hadm h)

/-- `a @ b` for ranks 1 and 2, abelian -/
theorem matmulA_valid [Zero R] [Add R] [Mul R] (a b c : Arr R) (ha : a.validB = true)
    (hb : b.validB = true) (hfa : a.fermi = false) (hadm : matmulAdmissibleB a b = true)
    (h : matmulA a b = .ok c) : c.validB = true :=
  (validB_iff _).mpr (ValidP.matmulA_valid a b c ((validB_iff a).mp ha) ((validB_iff b).mp hb)
    hfa hadm h)

/-- `a @ b`, fermionic -/
theorem matmulF_valid [Zero R] [Add R] [Mul R] [Neg R] (a b c : Arr R) (ha : a.validB = true)
    (hb : b.validB = true) (hfa : a.fermi = true) (hfb : b.fermi = true)
    (hadm : matmulAdmissibleB a b = true) (h : Arr.matmulF a b = .ok c) : c.validB = true :=
  (validB_iff _).mpr (ValidP.matmulF_valid a b c ((validB_iff a).mp ha) ((validB_iff b).mp hb)
    hfa hfb hadm h)

example : matmulAdmissibleB exA exB = true := by decide

example : tdotAdmissibleB exF exG [2] [0] = true := by decide

example :
    (match tensordotA exA exB (.pair [1] [0]) .blockwise with
     | .ok r => r.validB && r.blocks.length == 2
     | .error _ => false) = true
    ∧ (match tensordotA exA exB (.pair [1] [0]) .fused with
       | .ok r => r.validB && r.blocks.length == 2
       | .error _ => false) = true
    ∧ (match Arr.tensordotF exF exG (.pair [2] [0]) .blockwise with
       | .ok r => r.validB && decide (2 ≤ r.blocks.length)
       | .error _ => false) = true
    ∧ (match Arr.tensordotF exF exG (.pair [2] [0]) .auto with
       | .ok r => r.validB && decide (2 ≤ r.blocks.length)
       | .error _ => false) = true := by
  decide +kernel

theorem dropMisaligned_valid (a b : Arr R) (axesA axesB : List Nat) (ha : a.validB = true)
    (hb : b.validB = true) :
    (dropMisaligned a b axesA axesB).1.validB = true ∧ (dropMisaligned a b axesA axesB).2.validB = true :=
  let h := ValidP.dropMisaligned_valid a b axesA axesB ((validB_iff a).mp ha) ((validB_iff b).mp hb)
  ⟨(validB_iff _).mpr h.1, (validB_iff _).mpr h.2⟩

theorem syncCharges_valid (a : Arr R) (hv : a.validB = true) : a.syncCharges.validB = true :=
  (validB_iff _).mpr (ValidP.syncCharges_valid a ((validB_iff a).mp hv))

/-- no hypothesis on the vector is needed: sectors whose charge the vector lacks are dropped and
    `mulAxisK` keeps the block shape -/
theorem multiplyDiagonal_valid [Zero R] [Mul R] (a : Arr R) (v : BVec R) (axis : Nat)
    (hv : a.validB = true) : (multiplyDiagonal a v axis).validB = true :=
  (validB_iff _).mpr (ValidP.multiplyDiagonal_valid a v axis ((validB_iff a).mp hv))

/-- `_binary_blockwise_op` for all three `missing` modes, with a shape-preserving kernel
    (`Blk.zipWith f` is one: `zipWith_shapePreserving`): both operands valid with the same tables
    and charge -/
theorem binaryBlockwise_valid (fn : Blk R → Blk R → Blk R) (hfn : ShapePreserving fn)
    (missing : Missing) (x y : Arr R) (r : List (Sector × Blk R))
    (hx : x.validB = true) (hy : y.validB = true) (hsym : y.sym = x.sym)
    (hidx : y.indices = x.indices) (hch : y.charge = x.charge)
    (h : binaryBlockwise fn missing x.blocks y.blocks = .ok r) :
    ({ x with blocks := r } : Arr R).validB = true :=
  (validB_iff _).mpr (ValidP.binaryBlockwise_valid fn hfn missing x y r ((validB_iff x).mp hx)
    ((validB_iff y).mp hy) hsym hidx hch h)

example : ShapePreserving (Blk.zipWith (fun x y : Int => x + y)) := zipWith_shapePreserving _

/-- weaker, decidable precondition: the second operand's blocks fit the first one's tables -/
theorem binaryBlockwise_valid_fits [Zero R] (f : R → R → R) (missing : Missing) (x y : Arr R)
    (r : List (Sector × Blk R)) (hx : x.validB = true) (hy : fitsB x y = true)
    (h : binaryBlockwise (Blk.zipWith f) missing x.blocks y.blocks = .ok r) :
    ({ x with blocks := r } : Arr R).validB = true :=
  (validB_iff _).mpr (ValidP.binaryBlockwise_valid_of_blocks _ (zipWith_shapePreserving f) missing x y.blocks r
    ((validB_iff x).mp hx) (fitsB_blockOk hy).1 (fitsB_blockOk hy).2 h)

example : fitsB exA exA = true := by decide

/-- both factors of `qr` are valid, abelian and fermionic, under the kernel shape contract;
    in particular the new bond index is well formed (sorted, positive sizes) because distinct
    sectors of a valid matrix have distinct column charges (`matrix_sector_injective`) -/
theorem qrA_valid (K : Kernels R) (x q r : Arr R) (hv : x.validB = true) (hK : QrShapeContract K)
    (h : qrA K x = .ok (q, r)) : q.validB = true ∧ r.validB = true := by
  obtain ⟨h1, h2⟩ := ValidP.qrA_valid K x q r ((validB_iff x).mp hv) hK h
  exact ⟨(validB_iff q).mpr h1, (validB_iff r).mpr h2⟩

theorem svdA_valid (K : Kernels R) (x u v : Arr R) (s : BVec R) (hv : x.validB = true)
    (hK : SvdShapeContract K) (h : svdA K x = .ok (u, s, v)) :
    u.validB = true ∧ v.validB = true := by
  obtain ⟨h1, h2, _⟩ := ValidP.svdA_valid K x u v s ((validB_iff x).mp hv) hK h
  exact ⟨(validB_iff u).mpr h1, (validB_iff v).mpr h2⟩

/-- the eigenvector array of `eigh` (abelian and fermionic) under the kernel shape contract
    (eigenvectors of a square block: same shape) -/
theorem eighA_valid [Neg R] (K : Kernels R) (a v : Arr R) (w : BVec R) (hv : a.validB = true)
    (hK : EighShapeContract K) (h : eighA K a = .ok (w, v)) : v.validB = true :=
  (validB_iff _).mpr (ValidP.eighA_valid K a v w ((validB_iff a).mp hv) hK h)

example : EighShapeContract (Kernels.shapeOnly : Kernels Int) := shapeOnly_eighContract

theorem matrix_sector_injective {x : Arr R} (hv : x.validB = true) {i0 i1 : Index}
    (hi : x.indices = [i0, i1]) {c0 c0' c1 : Charge}
    (h1 : [c0, c1] ∈ x.sectors) (h2 : [c0', c1] ∈ x.sectors) : c0 = c0' :=
  (List.cons.inj (ValidP.matrix_sector_injective ((validB_iff x).mp hv) hi h1 h2 rfl)).1

example : QrShapeContract (Kernels.shapeOnly : Kernels Int)
    ∧ SvdShapeContract (Kernels.shapeOnly : Kernels Int) :=
  ⟨shapeOnly_qrContract, shapeOnly_svdContract⟩

example : ∃ q r, qrA Kernels.shapeOnly exA = .ok (q, r) ∧ q.validB = true ∧ r.validB = true :=
  ⟨_, _, rfl, by decide +kernel, by decide +kernel⟩

/-- the index tables `calc_fuse_block_info` produces are well formed, including the
    sub-index bookkeeping (`extentOk`) of every newly fused index; no hypothesis on `groups` -/
theorem calcFuseBlockInfo_wf (a : Arr R) (groups : List (List Nat)) (fi : FuseInfo)
    (hv : a.validB = true) (h : calcFuseBlockInfo a groups = .ok fi) :
    Index.wfListB a.sym fi.newIndices = true :=
  Index.wfListB_iff.mpr (ValidP.calcFuseBlockInfo_wf a groups fi ((validB_iff a).mp hv).core h)

/-- `_fuse_core(mode="insert")`; `fuseAdmissibleB`: grouped axes distinct and in range -/
theorem fuseCore_valid [Zero R] (a r : Arr R) (groups : List (List Nat)) (hv : a.validB = true)
    (hf : a.fermi = false) (hadm : fuseAdmissibleB groups a.ndim = true)
    (h : fuseCore a groups .insert = .ok r) : r.validB = true :=
  ValidP.fuseCore_insert_validB a r groups hv hf hadm h

/-- `AbelianArray.fuse(*groups, expand_empty, mode="insert")`, empty groups included -/
theorem fuseA_valid [Zero R] (a r : Arr R) (groups : List (List Nat)) (expandEmpty : Bool)
    (hv : a.validB = true) (hf : a.fermi = false) (hadm : fuseAdmissibleB groups a.ndim = true)
    (h : fuseA a groups .insert expandEmpty = .ok r) : r.validB = true :=
  (validB_iff _).mpr (ValidP.fuseA_valid a r groups expandEmpty ((validB_iff a).mp hv) hf hadm h)

/-- `FermionicArray.fuse(*groups, expand_empty, mode="insert")`: transpose, the three phase
    operations, `_fuse_core`, `expand_dims` -/
theorem fuseF_valid [Zero R] [Neg R] (a r : Arr R) (groups : List (List Nat)) (expandEmpty : Bool)
    (hv : a.validB = true) (hf : a.fermi = true) (hadm : fuseAdmissibleB groups a.ndim = true)
    (h : Arr.fuseF a groups .insert expandEmpty = .ok r) : r.validB = true :=
  (validB_iff _).mpr (ValidP.fuseF_valid a r groups expandEmpty ((validB_iff a).mp hv) hf hadm h)

example : fuseAdmissibleB [[2, 0], [], [1]] exF.ndim = true := by decide

theorem unfuseA_valid [Zero R] (a r : Arr R) (axis : Nat) (hv : a.validB = true)
    (hf : a.fermi = false) (h : unfuseA a axis = .ok r) : r.validB = true :=
  ValidP.unfuseA_validB a r axis hv hf h

theorem unfuseF_valid [Zero R] [Neg R] (a r : Arr R) (axis : Nat) (hv : a.validB = true)
    (hf : a.fermi = true) (h : Arr.unfuseF a axis = .ok r) : r.validB = true :=
  (validB_iff _).mpr (ValidP.unfuseF_valid a r axis ((validB_iff a).mp hv) hf h)

theorem unfuseAllA_valid [Zero R] (a r : Arr R) (hv : a.validB = true) (hf : a.fermi = false)
    (h : unfuseAllA a = .ok r) : r.validB = true :=
  (validB_iff _).mpr (ValidP.unfuseAllA_valid a r ((validB_iff a).mp hv) hf h)

theorem unfuseAllF_valid [Zero R] [Neg R] (a r : Arr R) (hv : a.validB = true)
    (hf : a.fermi = true) (h : Arr.unfuseAllF a = .ok r) : r.validB = true :=
  (validB_iff _).mpr (ValidP.unfuseAllF_valid a r ((validB_iff a).mp hv) hf h)

example :
    (match unfuseA exA 1 with
     | .ok r => r.validB && r.blocks.length == 3 && r.ndim == 3
     | .error _ => false) = true
    ∧ (match Arr.fuseF exF [[2, 0], [], [1]] .insert true with
       | .ok r => r.validB && r.ndim == 3 && decide (2 ≤ r.blocks.length)
       | .error _ => false) = true := by
  decide +kernel

/-- every finite sequence of operations (`Op`: transpose, conj, dagger, the five phase
    operations, expand_dims, squeeze, sync_charges, multiply_diagonal, drop_misaligned,
    tensordot in every mode and matmul (abelian and fermionic, second operand as parameter),
    blockwise arithmetic, qr / svd / eigh factors, fuse, unfuse, unfuse_all) maps a valid array to a
    valid array.  `Prog.run` stops with an error at the first inadmissible call (`Op.admissible`,
    decidable) or model error. -/
theorem Prog.preserves_valid [Zero R] [Add R] [Mul R] [Neg R] [Conj R] (p : Prog R) (a r : Arr R)
    (hv : a.validB = true) (hK : ∀ op ∈ p, op.KernelOk) (h : p.run a = .ok r) :
    r.validB = true :=
  (validB_iff _).mpr (ValidP.Prog.run_valid p a r ((validB_iff a).mp hv) hK h)

theorem Op.preserves_valid [Zero R] [Add R] [Mul R] [Neg R] [Conj R] (op : Op R) (a r : Arr R)
    (hv : a.validB = true) (hK : op.KernelOk) (hadm : op.admissible a = true)
    (h : op.apply a = .ok r) : r.validB = true :=
  (validB_iff _).mpr (ValidP.Op.apply_valid op a r ((validB_iff a).mp hv) hK hadm h)

/-- a program of length 12 over the abelian example (re-keying, contraction with a fused index,
    arithmetic, decomposition) … -/
def progA : Prog Int :=
  [.transpose [1, 0] true, .conj true false, .transpose [1, 0] true, .conj true false,
   .tensordot exB [1] [0] .auto, .expandDims 1 none (some true), .squeeze (some [1]),
   .syncCharges, .qrQ Kernels.shapeOnly, .fuse [[1, 0]] true, .unfuse 0,
   .expandDims 0 (some (2, 0)) none]

/-- … and one of length 10 over the fermionic example -/
def progF : Prog Int :=
  [.fuse [[1, 2]] true, .unfuse 1,
   .transpose [2, 0, 1] true, .phaseFlip [0, 2], .conj true true, .dagger true,
   .phaseTranspose none, .phaseGlobal, .tensordot exG [2] [0] .fused, .phaseSync]

example : (∀ op ∈ progA, op.KernelOk) ∧ (∀ op ∈ progF, op.KernelOk) := by
  refine ⟨fun op h => ?_, fun op h => ?_⟩
  · simp only [progA, List.mem_cons, List.not_mem_nil, or_false] at h
    rcases h with rfl | rfl | rfl | rfl | rfl | rfl | rfl | rfl | rfl | rfl | rfl | rfl <;>
      first | trivial | exact shapeOnly_qrContract
  · simp only [progF, List.mem_cons, List.not_mem_nil, or_false] at h
    rcases h with rfl | rfl | rfl | rfl | rfl | rfl | rfl | rfl | rfl | rfl <;> trivial

example :
    (match progA.run exA with
     | .ok r => r.validB && decide (2 ≤ r.blocks.length)
     | .error _ => false) = true
    ∧ (match progF.run exF with
       | .ok r => r.validB && decide (2 ≤ r.blocks.length)
       | .error _ => false) = true := by
  decide +kernel

end SymmModel.C01
