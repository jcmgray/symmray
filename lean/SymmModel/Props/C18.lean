/-
  SymmModel.Props.C18 — "Local fermionic operator arrays reproduce the second-quantised operator".

  The theorems are about `SymmModel.Model.FermiOps`:
    faithful model   `buildElements` (= symmray.build_local_fermionic_elements, loop for loop),
                     `bubbleFrom` / `sortLoop` / `phasedSort`, `groupsOf` / `groupOk` / `nonvanishing`
    specification    Fock space: `applyOp` / `bindOp` (Jordan–Wigner sign on strictly increasing
                     occupation lists), `vev`, `specAt terms bases idx = Σ coeff · vev (bra ++ term ++ ket)`.
  Statement vocabulary defined in `SymmModel.Proofs.FermiOps` (namespace `FermiOpsP`):
    `Sorted s` (strictly increasing), `StSorted st`, `negSt` (−|ψ⟩), `LabelSorted w`
    (labels non-decreasing), `restrictTo l w` (operators of `w` on mode `l`), `SitesDisjoint bases`
    (different sites act on different modes), `siteSign bases i = (−1)^{Σ_{s<t} |i_s||i_t|}`.
  Every statement is proved as it stands (none is restricted to a bounded case).  Coefficients: any additive
  commutative group with decidable equality (`GRat`, the driver's scalars, is an instance).
-/
import SymmModel.Proofs.FermiOps
import SymmModel.Model.GRat
namespace SymmModel.C18
open SymmModel SymmModel.FermiOpsP

theorem applyOp_anticomm (x y : FOp) (hxy : x.label ≠ y.label) (st : FState) (hst : StSorted st) :
    bindOp x (bindOp y st) = negSt (bindOp y (bindOp x st)) :=
  bindOp_anticomm x y hxy st hst

example : StSorted (some (1, [2, 5])) := by
  show List.Pairwise (· < ·) [2, 5]; decide

/-- CAR on one mode `l`: `a a = 0 = a† a†`, and `a a† + a† a = 1` (on a basis state exactly
    one of the two orders vanishes, the other is the identity) -/
theorem applyOp_car (l : Int) :
    (∀ (d : Bool) (st : FState), StSorted st → bindOp ⟨l, d⟩ (bindOp ⟨l, d⟩ st) = none)
    ∧ (∀ (amp : Int) (s : List Int), Sorted s →
        (bindOp ⟨l, false⟩ (bindOp ⟨l, true⟩ (some (amp, s))) = some (amp, s)
          ∧ bindOp ⟨l, true⟩ (bindOp ⟨l, false⟩ (some (amp, s))) = none)
        ∨ (bindOp ⟨l, false⟩ (bindOp ⟨l, true⟩ (some (amp, s))) = none
          ∧ bindOp ⟨l, true⟩ (bindOp ⟨l, false⟩ (some (amp, s))) = some (amp, s))) :=
  ⟨fun d st h => bindOp_sq ⟨l, d⟩ st h, fun amp s hs => bindOp_car l amp s hs⟩

theorem applyWord_sorted (w : Word) : StSorted (applyWord w []) := FermiOpsP.applyWord_sorted w

theorem vev_dagger (w : Word) : (vev w = 0 ∨ vev w = 1 ∨ vev w = -1) ∧ vev (dagWord w) = vev w :=
  ⟨vev_cases w, vev_dagWord w⟩

theorem adjacent_swap_flips_vev (u v : Word) (x y : FOp) (h : x.label ≠ y.label) :
    vev (u ++ x :: y :: v) = - vev (u ++ y :: x :: v) := vev_swap u v x y h

/-- one sweep of the code's sort (any prefix `u` in front), and the whole `while` loop:
    `phase · vev(sorted word) = vev(word)` with `phase = ±1` -/
theorem bubble_preserves_vev :
    (∀ (cur : FOp) (rest : List FOp) (ph : Int) (mv : Bool) (u : Word),
      (bubbleFrom cur rest ph mv).2.1 * vev (u ++ (bubbleFrom cur rest ph mv).1)
        = ph * vev (u ++ cur :: rest)
      ∧ ((bubbleFrom cur rest ph mv).2.1 = ph ∨ (bubbleFrom cur rest ph mv).2.1 = -ph))
    ∧ (∀ el : List FOp,
      (phasedSort el).2 * vev (phasedSort el).1 = vev el
      ∧ ((phasedSort el).2 = 1 ∨ (phasedSort el).2 = -1)) :=
  ⟨fun cur rest ph mv u => bubbleFrom_vev rest cur ph mv u,
   fun el => ⟨(phasedSort_spec el).2.1, (phasedSort_spec el).2.2⟩⟩

/-- the fuel `inversions + 1` always suffices: the result is sorted by label -/
theorem sortLoop_sorted (el : List FOp) :
    LabelSorted (phasedSort el).1
    ∧ (∀ fuel ph, inversions el < fuel → LabelSorted (sortLoop fuel el ph).1) :=
  ⟨(phasedSort_spec el).1, fun fuel ph h => (sortLoop_spec fuel el ph h).1⟩

/-- the code's test `nonvanishing` (every label group has even length, annihilators at the even
    and creators at the odd positions) holds iff the vev is non-zero — for every word; on a
    label-sorted word the vev is then exactly 1, else 0. -/
theorem pattern_iff_vev (w : Word) :
    (nonvanishing w = true ↔ vev w ≠ 0)
    ∧ (nonvanishing w = true ↔ ∀ l, groupOk (restrictTo l w) = true)
    ∧ (LabelSorted w → vev w = if nonvanishing w then 1 else 0) :=
  ⟨nonvanishing_iff_vev w, nonvanishing_iff w, vev_sorted_eq w⟩

example : LabelSorted [⟨0, false⟩, ⟨0, true⟩, ⟨3, false⟩, ⟨3, true⟩] := by
  unfold LabelSorted; decide

section main
variable {α : Type} [AddCommGroup α] [DecidableEq α]

/-- **elements_eq_vev**: for all terms and bases the dict returned by the code, looked up at any
    multi-index (0 where absent), is `Σ coeff · ⟨0| bra(idx) · term · ket(idx) |0⟩` with the
    documented bra convention (per-site dagger, sites not reversed); the only failure of the
    code is the `ValueError` without sites. -/
theorem elements_eq_vev (terms : List (α × Word)) (bases : List (List Word)) :
    (buildElements terms bases = none ↔ bases = [])
    ∧ (∀ es, buildElements terms bases = some es →
        ∀ idx, elemAt es idx = specAt terms bases idx) := by
  constructor
  · unfold buildElements
    cases bases <;> simp
  · intro es h idx
    unfold buildElements at h
    split at h
    · cases h
    · simp only [Option.some.injEq] at h
      rw [← h]; exact elemAt_buildElementsCore terms bases idx

/-- `build_local_fermionic_dense` holds the specified element at every position -/
theorem dense_eq_spec (terms : List (α × Word)) (bases : List (List Word))
    (shape : List Nat) (data : List α) (h : buildDense terms bases = some (shape, data)) :
    shape = bases.map List.length ++ bases.map List.length
    ∧ data = (allIdx shape).map (fun idx => specAt terms bases idx) := by
  unfold buildDense at h
  match hb : buildElements terms bases with
  | none => rw [hb] at h; cases h
  | some es =>
    rw [hb] at h
    simp only [Option.some.injEq, Prod.mk.injEq] at h
    obtain ⟨rfl, rfl⟩ := h
    refine ⟨rfl, ?_⟩
    apply List.map_congr_left
    intro idx _
    exact (elements_eq_vev terms bases).2 es hb idx

/-- **elements_hermitian**: a term set closed under dagger with conjugated coefficients (`cj` any
    additive map, e.g. complex conjugation) on site-disjoint bases gives
    `M[i,j] = τ(i) τ(j) · conj M[j,i]`, `τ = siteSign` the fixed diagonal sign of the bra
    convention (`scaleInt (±1) x = ±x`). -/
theorem elements_hermitian (cj : α → α) (hcj : ∀ a b, cj (a + b) = cj a + cj b)
    (terms : List (α × Word)) (bases : List (List Word)) (hd : SitesDisjoint bases)
    (hclosed : (terms.map (fun ct => (cj ct.1, dagWord ct.2))).Perm terms)
    (es : List (List Nat × α)) (hes : buildElements terms bases = some es)
    (is js : List Nat) (hi : is.length = bases.length) (hj : js.length = bases.length) :
    elemAt es (is ++ js)
      = scaleInt (siteSign bases is * siteSign bases js) (cj (elemAt es (js ++ is))) := by
  rw [(elements_eq_vev terms bases).2 es hes, (elements_eq_vev terms bases).2 es hes]
  exact specAt_hermitian cj hcj terms bases hd hclosed is js hi hj

/-- **chargemap_conserved** (general form): if every term is neutral for a charge assignment
    `q` of the modes, a non-zero element connects basis states of equal `q`-charge.  With index
    maps `k ↦ charge of basis state k` this puts every non-zero element in a charge-conserving
    sector of the array with duals `(False…, True…)`; that `from_dense` then discards nothing is
    `buildArray_nothing_discarded` (C18b). -/
theorem chargemap_conserved (q : Int → Int) (terms : List (α × Word)) (bases : List (List Word))
    (hneutral : ∀ ct ∈ terms, wordCharge q ct.2 = 0)
    (es : List (List Nat × α)) (hes : buildElements terms bases = some es)
    (idx : List Nat) (h : elemAt es idx ≠ 0) :
    wordCharge q (ketOf bases (idx.take bases.length))
      = wordCharge q (ketOf bases (idx.drop bases.length)) := by
  rw [(elements_eq_vev terms bases).2 es hes] at h
  exact specAt_charge q terms bases hneutral idx h

end main

/-- the hypothesis `SitesDisjoint` of `elements_hermitian` is satisfiable:
    the two-site spinful bases are site-disjoint -/
example : SitesDisjoint [spinfulBasis opAu opAd, spinfulBasis opBu opBd] := by
  unfold SitesDisjoint
  rw [List.pairwise_cons]
  refine ⟨?_, by simp⟩
  intro b' hb' w hw w' hw' x hx y hy
  simp only [List.mem_singleton] at hb'
  subst hb'
  simp only [spinfulBasis, List.mem_cons, List.not_mem_nil, or_false] at hw hw'
  rcases hw with rfl | rfl | rfl | rfl <;> rcases hw' with rfl | rfl | rfl | rfl <;>
    simp_all [opAu, opAd, opBu, opBd, FOp.dag] <;>
    (rcases hx with rfl | rfl <;> rcases hy with rfl | rfl <;> decide)

/-- … and a term set closed under dagger with conjugated coefficients exists
    (`2·a†b + 2·b†a` over `ℤ` with trivial conjugation) -/
example : (([((2 : Int), [opA.dag, opB]), (2, [opB.dag, opA])] : List (Int × Word)).map
    (fun ct => (id ct.1, dagWord ct.2))).Perm [(2, [opA.dag, opB]), (2, [opB.dag, opA])] :=
  List.Perm.swap _ _ _

def qUp : Int → Int := qSpecies [opAu.label, opBu.label]
def qDown : Int → Int := qSpecies [opAd.label, opBd.label]

/-- every term of the five built-in operators is neutral for the particle number and for the
    number of each spin species, whatever the coefficients -/
theorem builtin_terms_neutral {α : Type} [Neg α] (t uA uB muA muB V one half : α) :
    (∀ q ∈ [qNumber, qUp, qDown],
      (∀ ct ∈ hubbardTerms t uA uB muA muB, wordCharge q ct.2 = 0)
      ∧ (∀ ct ∈ numberSpinfulTerms one, wordCharge q ct.2 = 0)
      ∧ (∀ ct ∈ spinTerms half, wordCharge q ct.2 = 0))
    ∧ (∀ ct ∈ spinlessHubbardTerms t V muA muB, wordCharge qNumber ct.2 = 0)
    ∧ (∀ ct ∈ numberSpinlessTerms one, wordCharge qNumber ct.2 = 0) := by
  refine ⟨?_, ?_, ?_⟩
  · intro q hq
    simp only [List.mem_cons, List.not_mem_nil, or_false] at hq
    refine ⟨?_, ?_, ?_⟩ <;> intro ct hct <;>
      simp only [hubbardTerms, numberSpinfulTerms, spinTerms, List.mem_cons, List.not_mem_nil,
        or_false] at hct <;>
      rcases hq with rfl | rfl | rfl <;>
      (repeat' rcases hct with rfl | hct) <;> (dsimp only; decide)
  · intro ct hct
    simp only [spinlessHubbardTerms, List.mem_cons, List.not_mem_nil, or_false] at hct
    (repeat' rcases hct with rfl | hct) <;> (dsimp only; decide)
  · intro ct hct
    simp only [numberSpinlessTerms, List.mem_cons, List.not_mem_nil, or_false] at hct
    subst hct; dsimp only; decide

/-- the spinless / spinful index maps are exactly the charges of the built-in basis states
    (particle number for U1 / Z2, (n↑, n↓) for U1U1 / Z2Z2, modulo 2 for the Z2 groups) -/
theorem indexmap_is_charge :
    (∀ a ∈ [opA, opB],
      spinlessIndexMap .U1 = some ((spinlessBasis a).map (fun w => (wordCharge qNumber w, 0)))
      ∧ spinlessIndexMap .Z2 = some ((spinlessBasis a).map (fun w => (wordCharge qNumber w % 2, 0))))
    ∧ spinlessIndexMap .Z2Z2 = none ∧ spinlessIndexMap .U1U1 = none
    ∧ (∀ ud ∈ [(opAu, opAd), (opBu, opBd)],
      spinfulIndexMap .U1 = (spinfulBasis ud.1 ud.2).map (fun w => (wordCharge qNumber w, 0))
      ∧ spinfulIndexMap .Z2 = (spinfulBasis ud.1 ud.2).map (fun w => (wordCharge qNumber w % 2, 0))
      ∧ spinfulIndexMap .U1U1
          = (spinfulBasis ud.1 ud.2).map (fun w => (wordCharge qUp w, wordCharge qDown w))
      ∧ spinfulIndexMap .Z2Z2
          = (spinfulBasis ud.1 ud.2).map (fun w => (wordCharge qUp w % 2, wordCharge qDown w % 2))) := by
  decide

instance instAddCommGroupGRat : AddCommGroup GRat where
  add := (· + ·)
  zero := 0
  neg := Neg.neg
  add_assoc a b c := by
    show GRat.mk _ _ = GRat.mk _ _
    congr 1 <;> exact Rat.add_assoc _ _ _
  zero_add a := by
    show GRat.mk _ _ = a
    cases a; congr 1 <;> exact Rat.zero_add _
  add_zero a := by
    show GRat.mk _ _ = a
    cases a; congr 1 <;> exact Rat.add_zero _
  add_comm a b := by
    show GRat.mk _ _ = GRat.mk _ _
    congr 1 <;> exact Rat.add_comm _ _
  neg_add_cancel a := by
    show GRat.mk _ _ = GRat.mk 0 0
    congr 1 <;> exact Rat.neg_add_cancel _
  sub_eq_add_neg a b := by
    show GRat.mk _ _ = GRat.mk _ _
    congr 1 <;> exact Rat.sub_eq_add_neg _ _
  nsmul := nsmulRec
  zsmul := zsmulRec

/-- the main theorem at the scalar type of the compiled driver, with exactly the instances the
    driver is compiled with (`GRat.instZero`, `GRat.instAdd`, `GRat.instNeg`) -/
theorem elements_eq_vev_GRat (terms : List (GRat × Word)) (bases : List (List Word))
    (es : List (List Nat × GRat))
    (h : @buildElements GRat GRat.instZero GRat.instAdd GRat.instNeg instDecidableEqGRat terms bases
          = some es) (idx : List Nat) :
    @elemAt GRat GRat.instZero es idx
      = @specAt GRat GRat.instZero GRat.instAdd GRat.instNeg terms bases idx :=
  (elements_eq_vev terms bases).2 es h idx

end SymmModel.C18
