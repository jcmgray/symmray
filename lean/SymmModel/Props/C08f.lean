/-
  Property C08, sixth part — (A) the structural operations as equalities of dense BLOCKS and
  finite programs of them; (B) reshape at position level for EVERY plan (unfuse calls, fuse calls,
  expand calls) and the dense round trip.
  (Parts one to five: Props/C08.lean … C08e.lean; umbrella: Props/C08All5.lean.)

  Vocabulary (namespace `SymmModel.Dense6`, Proofs/Dense6a-d.lean):
    `SOp`                 transpose / conj / squeeze / expand_dims
    `SOp.step op a`       the model call behind its decidable guard (`SOp.admissible`: a permutation
                          of the axes; insertion position ≤ ndim and a charge of the symmetry)
    `SOp.dense op d`      numpy's call on the dense array `d` — a function of `d` alone:
                          `np.transpose`, `np.conj`, `np.squeeze` (mask `npMask` of the dense shape),
                          `d[..., None, ...]` (kernels of Model/Blk.lean)
    `SProg.run`, `SProg.denseRun`   a list of steps on the block array / on the dense array
    `Good a`              valid, abelian, no empty charge table
    `Img a y Rel`         the dense form of `y` is the `Rel`-image of the dense form of `a`: every
                          NON-ZERO entry of `dense a` has a `Rel`-image in `dense y` with the same
                          entry, and every entry of `dense y` is `0` or such an image
    `PStep`, `stepsOf t`  the steps of a reshape plan `(unfuse axes, fuse calls, expand axes)`
    `runSteps`, `StepsOk` / `stepsOkB`, `stepsRel`   running them, their admissibility (every
                          intermediate array without empty charge table; decided by running), and
                          the composed position relation: per step `UPosRel` (unfuse: `splitAddr`
                          of the fused coordinate), `Dense5.PosRel` (fuse), `P = ins ax 0 p` (expand)
-/
import SymmModel.Proofs.Dense6d
import SymmModel.Props.C08All4

namespace SymmModel.C08
open SymmModel Arr DenseP Dense5 Dense6 FuseP ReshapeP

variable {R : Type}

/-- `to_dense(transpose(a, axes)) = np.transpose(to_dense(a), axes)` -/
theorem transpose_dense_block [Zero R] [Neg R] (a : Arr R) (axes : List Nat)
    (hperm : isPerm axes a.ndim = true) (hv : a.validB = true) (hf : a.fermi = false)
    (hne : NoEmpty a) (d : Blk R) (hd : toDenseA a = .ok d) :
    toDenseA (transposeA a axes) = .ok (d.transposeK axes) :=
  transposeA_dense a axes hperm hv hf hne d hd

/-- `to_dense(conj(a)) = np.conj(to_dense(a))` -/
theorem conj_dense_block [Zero R] [Neg R] [Conj R] (h0 : Conj.conj (0 : R) = 0) (a : Arr R)
    (hv : a.validB = true) (hf : a.fermi = false) (hne : NoEmpty a) (d : Blk R)
    (hd : toDenseA a = .ok d) : toDenseA (conjA a) = .ok d.conjK :=
  conjA_dense h0 a hv hf hne d hd

/-- `to_dense(expand_dims(a, axis, c)) = to_dense(a)[..., None, ...]` (same flat data) -/
theorem expandDims_dense_block [Zero R] [Neg R] (a : Arr R) (axis : Nat) (c : Option Charge)
    (dual : Option Bool) (ha : axis ≤ a.ndim) (hv : a.validB = true) (hf : a.fermi = false)
    (hne : NoEmpty a) (d : Blk R) (hd : toDenseA a = .ok d) :
    toDenseA (a.expandDims axis c dual) = .ok (d.expandK axis) :=
  expandDims_dense a axis c dual ha hv hf hne d hd

/-- `to_dense(squeeze(a, axis)) = np.squeeze(to_dense(a), axis)` (same flat data; the mask of the
    block `squeeze` is numpy's mask of the dense shape) -/
theorem squeeze_dense_block [Zero R] [Neg R] (a : Arr R) (axis : Option (List Nat)) (a' : Arr R)
    (h : a.squeeze axis = .ok a') (hv : a.validB = true) (hf : a.fermi = false) (hne : NoEmpty a)
    (d : Blk R) (hd : toDenseA a = .ok d) :
    squeezeMask a axis = .ok (npMask axis d.shape)
    ∧ toDenseA a' = .ok (d.squeezeK (keptAxes (npMask axis d.shape) 0)) := by
  obtain ⟨m, hm, hdense⟩ := squeeze_dense a axis a' h hv hf hne d hd
  have hds : d.shape = a.shape := toDenseA_shape hd
  have := squeezeMask_eq_npMask a axis m hm
  rw [hds, ← this]
  exact ⟨hm, hdense⟩

/-- one structural step: the invariant is kept and the dense form of the result is numpy's call on
    the dense form of the argument -/
theorem SOp_step_toDense [Zero R] [Neg R] [Conj R] (h0 : Conj.conj (0 : R) = 0) (op : SOp)
    (a b : Arr R) (hg : Good a) (hb : op.step a = .ok b) (d : Blk R) (hd : toDenseA a = .ok d) :
    Good b ∧ toDenseA b = .ok (op.dense d) :=
  SOp.step_dense h0 op a b hg hb d hd

/-- **SProg_toDense_commutes**: any finite program of structural operations (transpose, conj,
    squeeze, expand_dims in any order and number) commutes with densification:
    `to_dense(run prog a) = run_numpy prog (to_dense a)`, and the result is again valid, abelian
    and without empty charge table -/
theorem SProg_toDense_commutes [Zero R] [Neg R] [Conj R] (h0 : Conj.conj (0 : R) = 0)
    (prog : List SOp) (a b : Arr R) (hg : Good a) (hb : SProg.run prog a = .ok b) (d : Blk R)
    (hd : toDenseA a = .ok d) :
    Good b ∧ toDenseA b = .ok (SProg.denseRun prog d) := by
  induction prog generalizing a d with
  | nil =>
    simp only [SProg.run, pure, Except.pure, Except.ok.injEq] at hb
    subst hb
    exact ⟨hg, hd⟩
  | cons op rest ih =>
    simp only [SProg.run, bind, Except.bind] at hb
    cases hs : op.step a with
    | error e => rw [hs] at hb; cases hb
    | ok a' =>
      rw [hs] at hb
      obtain ⟨hg', hd'⟩ := SOp.step_dense h0 op a a' hg hs d hd
      exact ih a' hg' hb (op.dense d) hd'

/-- running a program: its first step, then the rest on the result (so a program fails exactly
    where a step does: a guard that fails or a `squeeze` that raises) -/
theorem SProg_run_cons [Zero R] [Conj R] (op : SOp) (rest : List SOp) (a : Arr R) :
    SProg.run (op :: rest) a = (match op.step a with
      | .ok a' => SProg.run rest a'
      | .error e => .error e) := by
  simp only [SProg.run, bind, Except.bind]
  cases op.step a <;> rfl

theorem toDenseA_of_VEq [Zero R] [Neg R] [Lazy.LawfulNeg R] {a b : Arr R} (h : VEq a b) :
    toDenseA a = toDenseA b :=
  toDenseA_congr_elem h.indices h.elem

/-- **dense round trip**: for an unfused valid abelian array and a merge / drop target (C07g),
    `to_dense(reshape(reshape(a, target), a.shape)) = to_dense(a)` -/
theorem reshape_mergeDrop_roundtrip_dense [Zero R] [Neg R] [Lazy.LawfulNeg R] (a : Arr R)
    (hv : a.validB = true) (hf : a.fermi = false) (hnf : ∀ ix ∈ a.indices, ix.sub = none)
    (segs : List Reshape5.MSeg) (hok : ∀ s ∈ segs, Reshape5.MSegOk s)
    (hshape : a.shape = Reshape5.shapeS segs) (hne : Reshape5.targetS segs ≠ []) :
    ∃ y z, reshapeArr a ((Reshape5.targetS segs).map Int.ofNat) = .ok y
      ∧ reshapeArr y (a.shape.map Int.ofNat) = .ok z ∧ toDenseA z = toDenseA a := by
  obtain ⟨y, z, h1, h2, _, _, h3⟩ :=
    C07.reshape_mergeDrop_roundtrip_abelian a hv hf hnf segs hok hshape hne
  exact ⟨y, z, h1, h2, toDenseA_of_VEq h3⟩

/-- the same for merge targets given by runs (C07f) -/
theorem reshape_runs_roundtrip_dense [Zero R] [Neg R] [Lazy.LawfulNeg R] (a y : Arr R)
    (runs : List (List Nat)) (hv : a.validB = true) (hf : a.fermi = false)
    (hnf : ∀ ix ∈ a.indices, ix.sub = none) (hshape : a.shape = runs.flatten)
    (hok : ∀ r ∈ runs, Reshape5.RunOk r)
    (hy : reshapeArr a ((runs.map prod).map Int.ofNat) = .ok y) :
    ∃ z, reshapeArr y (a.shape.map Int.ofNat) = .ok z ∧ toDenseA z = toDenseA a := by
  obtain ⟨z, h1, _, _, h2⟩ := C07.reshape_roundtrip_abelian_shapes a y runs hv hf hnf hshape hok hy
  exact ⟨z, h1, toDenseA_of_VEq h2⟩

theorem fuse_img [Zero R] [Neg R] (a x : Arr R) (g : List (List Nat)) (hv : a.validB = true)
    (hf : a.fermi = false) (hne : NoEmpty a) (hg : C05.groupsOkB g a.ndim = true)
    (hx : fuseCore a g .insert = .ok x) (hnex : NoEmpty x) : Img a x (PosRel a x g) :=
  img_fuse a x g hv hf hne hg hx hnex

theorem unfuse_img [Zero R] [Neg R] (x y : Arr R) (axis : Nat) (ix : Index) (subs : List Index)
    (exts : Extents) (hv : x.validB = true) (hf : x.fermi = false)
    (hix : x.indices[axis]? = some ix) (hsub : ix.sub = some (subs, exts)) (hnex : NoEmpty x)
    (hy : unfuseA x axis = .ok y) (hney : NoEmpty y) : Img x y (UPosRel x y axis) :=
  img_unfuse x y axis ix subs exts hv hf hix hsub hnex hy hney

theorem expand_img [Zero R] [Neg R] (a : Arr R) (axis : Nat) (c : Option Charge)
    (dual : Option Bool) (ha : axis ≤ a.ndim) (hv : a.validB = true) (hf : a.fermi = false)
    (hne : NoEmpty a) : Img a (a.expandDims axis c dual) (fun p P => P = ins axis 0 p) :=
  img_expand a axis c dual ha hv hf hne

theorem img_comp [Zero R] [Neg R] {a x y : Arr R} {R1 R2 : List Nat → List Nat → Prop}
    (h1 : Img a x R1) (h2 : Img x y R2) : Img a y (fun p P => ∃ P1, R1 p P1 ∧ R2 P1 P) :=
  h1.comp h2

/-- **reshape_toDense, every plan**: whatever plan `(unfuse axes, fuse calls, expand axes)` the
    planner returns — merges, the way back of a merge (unfuse calls), inserted size-one axes, and
    their combinations — `reshape` runs its steps, the result is valid and abelian, and its dense
    form is the image of the dense form of `a` under the composed position relation of the steps -/
theorem reshape_toDense_plan [Zero R] [Neg R] (a : Arr R) (ns full : List Int) (nsN : List Nat)
    (t : List Nat × List (List (List Nat)) × List Nat) (hv : a.validB = true) (hf : a.fermi = false)
    (h1 : findFullReshape ns a.size = .ok full)
    (h2 : full.mapM (fun (d : Int) => if d < 0 then (throw Err.notimpl : Except Err Nat) else pure d.toNat)
      = .ok nsN)
    (h3 : calcReshapeArgs a.shape nsN a.subsizes = .ok t)
    (hok : StepsOk (stepsOf t) a) (hne : NoEmpty a) (y : Arr R) (hy : reshapeArr a ns = .ok y) :
    runSteps (stepsOf t) a = .ok y ∧ y.validB = true ∧ y.fermi = false
      ∧ Img a y (stepsRel (stepsOf t) a) := by
  have hrun : runSteps (stepsOf t) a = .ok y := by
    rw [← dispatch_eq_run (stepsOf t) a hv hf hok, ← applyPlan_eq_dispatch,
      ← reshapeArr_eq a ns full nsN t h1 h2 h3]
    exact hy
  exact ⟨hrun, steps_img (stepsOf t) a hv hf hne hok y hrun⟩

section Examples6
open C08.Ex C08.Ex4

local instance : Conj Int := ⟨id⟩

-- A. a program: transpose, insert an axis, conjugate, transpose, squeeze it again, insert an axis
-- with charge 2
def exProg : List SOp :=
  [.transpose [1, 0], .expandDims 1 none none, .conj, .transpose [2, 0, 1], .squeeze none,
   .expandDims 0 (some (2, 0)) (some true)]

example : Good x := ⟨by decide, rfl, by decide⟩
example : (match SProg.run exProg x with | .ok b => b.validB && b.ndim == 3 | .error _ => false) = true := by
  decide +kernel
example : Ex.dataOf (SProg.run exProg x >>= toDenseA)
    = (Ex.dataOf (toDenseA x)).map (fun sd =>
        ((SProg.denseRun exProg ⟨sd.1, sd.2.toArray⟩).shape, (SProg.denseRun exProg ⟨sd.1, sd.2.toArray⟩).data.toList)) := by
  decide +kernel
example (b : Arr Int) (hb : SProg.run exProg x = .ok b) (d : Blk Int) (hd : toDenseA x = .ok d) :=
  SProg_toDense_commutes (R := Int) rfl exProg x b ⟨by decide, rfl, by decide⟩ hb d hd
example : npMask none [3, 1, 3] = [false, true, false] ∧ npMask (some [1]) [3, 1, 3] = [false, true, false] := by
  decide

-- B. the way back of a merge: `xf` (the fused vector) reshaped to (3,3) is one unfuse call
example : calcReshapeArgs xf.shape [3, 3] xf.subsizes = .ok ([0], [], []) := by decide +kernel
example : stepsOkB (stepsOf ([0], [], [])) xf = true := by decide +kernel
example (y : Arr Int) (hy : reshapeArr xf [3, 3] = .ok y) :=
  reshape_toDense_plan (R := Int) xf [3, 3] [3, 3] [3, 3] ([0], [], []) (by decide +kernel) rfl
    (by decide +kernel) (by decide +kernel) (by decide +kernel)
    (stepsOk_of_B _ _ (by decide +kernel)) (by decide +kernel) y hy
-- an inserted size-one axis: (3,3) → (3,1,3) is one expand call
example : calcReshapeArgs x.shape [3, 1, 3] x.subsizes = .ok ([], [], [1]) := by decide +kernel
example (y : Arr Int) (hy : reshapeArr x [3, 1, 3] = .ok y) :=
  reshape_toDense_plan (R := Int) x [3, 1, 3] [3, 1, 3] [3, 1, 3] ([], [], [1]) (by decide) rfl
    (by decide +kernel) (by decide +kernel) (by decide +kernel)
    (stepsOk_of_B _ _ (by decide +kernel)) (by decide) y hy
-- the dense round trip (3,3) → (9,) → (3,3)
example : Ex.dataOf (reshapeArr x [9] >>= fun y => reshapeArr y [3, 3] >>= toDenseA) = Ex.dataOf (toDenseA x) := by
  decide +kernel

end Examples6

end SymmModel.C08
