/-
  C06 (fifth part) — contraction commutes with fusing, and chains of `n` tensors in fused / auto
  mode.

  * `tensordot_fuse_commute` (C06's third clause, abelian): for aligned operands `A`, `B`
    (`TdotP.FusedCtx`; `fuse_commute_aligned`: the operands after `dropMisaligned` are such a pair
    and their plain contraction has the blocks of the contraction of the originals), fusing before
    or after the contraction gives the same elements at decoded addresses.
  * `chain_bracketing_any_mode`: `C04.chain_bracketing` with EVERY contraction of the bracketing in
    `mode = fused / auto` (`TdotP.evalM`).
  * `chain_bracketings_agree_any_mode`: two bracketings of the same leaf sequence, each in its own
    mode (fused / auto), give results with the same labels, charge, open bonds and the same values
    on every block of the blockwise result; all other blocks of either are zero.
  Scalars / guards as in C04f (`STree.OK`: valid fermionic leaves, weak guard between consecutive
  leaves, pairwise-distinct labels).
  * `tensordot_fuse_free_commute` (abelian, operands NOT aligned, contracted legs left alone):
    fusing the LEADING free legs `0 … k-1` of the left operand before the contraction versus fusing
    the first `k` legs of the result afterwards — same elements at decoded addresses.  (Any group of
    free legs can be brought to the front by an abelian transposition, which does not change
    values; the statement is for that normal form.)
  * `tensordot_fuse_free_commute_fermionic` (FERMIONIC, blockwise mode, weak guard, operands with
    arbitrary pending phases and labels): the same statement for `fuseF` / `tensordotF`.  The
    fermionic fuse signs of C05 (`FuseP.signAdj`: the `-1` per odd non-dual leg of a dual group and
    the reversal sign of the group) are part of both sides; they coincide because the leading legs
    of operand and result have the same directions and carry the same charges, and the Koszul /
    nesting signs of the contraction (`gradedSign`) do not see the leading block, which stays in
    place (`TdotP.lead_commute_graded`, `TdotP.gradedSign_lead`).
  * `tensordot_fuse_free_commute_fermionic_any_mode`: the same with the plain contraction in mode
    `m1` and the contraction of the pre-fused operand in mode `m2` (each blockwise / fused / auto):
    results of fused / auto calls are paddings (`TdotP.Pad`) of the blockwise results, whose
    elements agree at every address inside the operands' tables (`TdotP.pad_elem_big`).
  * `fuseF_leading_elem`: `fuseF(Z, [0 … k-1])` of any valid fermionic array at decoded addresses:
    the C05 fuse sign times the element of `Z`.
  In the later parts: fusing the CONTRACTED legs, abelian (C06f) and fermionic (C06g); a group of
  free legs at an arbitrary position without the preliminary transposition and free legs of the
  RIGHT operand alone, abelian (C06h, C06i); leading free legs of the right operand and of both
  operands, fermionic (C06j).
  NOT proved: a group of free legs of FERMIONIC operands at an arbitrary position without the
  preliminary transposition (the transposition contributes its Koszul sign on both sides);
  equality of `to_dense()` for fused-mode chain results (false in general: fused-mode results keep
  the charges of all-zero blocks in their index tables, so the dense shapes differ).
-/
import SymmModel.Props.C06All3
import SymmModel.Props.C04f
import SymmModel.Proofs.TdotChain2
import SymmModel.Proofs.TdotFuseC3
import SymmModel.Proofs.TdotFuseC6
import SymmModel.Proofs.TdotFuseC7

namespace SymmModel.C06
open SymmModel SymmModel.TdotP SymmModel.GradedP SymmModel.RoutesP SymmModel.AssocP
open SymmModel.Assoc3P SymmModel.Assoc4P

variable {R : Type}

/-- the operands after `dropMisaligned` form an aligned pair; their plain contraction has the
    blocks of the contraction of the original operands -/
theorem fuse_commute_aligned [Zero R] [Add R] [Mul R] (a b : Arr R) (xa xb : List Nat)
    (ha : a.validB = true) (hb : b.validB = true) (hfa : a.fermi = false) (hfb : b.fermi = false)
    (hsym : a.sym = b.sym) (hc : ValidP.contractibleB a b xa xb = true)
    (hnA : xa.Nodup) (hnB : xb.Nodup) (hA : ∀ x ∈ xa, x < a.ndim) (hB : ∀ x ∈ xb, x < b.ndim)
    (hneK : xa ≠ []) (hneL : freeAxes a.ndim xa ≠ []) (hneR : freeAxes b.ndim xb ≠ []) :
    FusedCtx (dropMisaligned a b xa xb).1 (dropMisaligned a b xa xb).2 xa xb
    ∧ (cPlain (dropMisaligned a b xa xb).1 (dropMisaligned a b xa xb).2 xa xb).blocks
        = (tensordotBlockwise a b (freeAxes a.ndim xa) xa xb (freeAxes b.ndim xb)).blocks := by
  obtain ⟨n1, n2⟩ := dropMisaligned_ndim a b xa xb
  refine ⟨ctx_of_dropMisaligned a b xa xb ha hb hfa hfb hsym hc hnA hnB hA hB hneK hneL hneR, ?_⟩
  unfold cPlain
  rw [n1, n2]
  exact tensordotBlockwise_blocks_dropMisaligned a b _ xa xb _

/-- **tensordot_fuse_commute** (C06's third clause, abelian).  For aligned operands `A`, `B`: fuse the
    free legs of each operand and the contracted legs BEFORE the contraction
    (`fuse(A, [left, contracted])`, `fuse(B, [contracted, right])`, contract the one bond) — or
    contract first and fuse the corresponding legs of the result AFTERWARDS
    (`fuse(C, [left legs, right legs])`).  All three `fuse` calls succeed, and whenever a position
    of the first matrix and a position of the second decode — each through the index tables of
    its own array only — to the same sub-charges and sub-offsets, both hold the element of the
    plain result `C` there.  (The two fused index tables are built from different stored sets, so
    the positions themselves differ in general; equality is at decoded addresses.) -/
theorem tensordot_fuse_commute [AddCommMonoid R] [Mul R] [Neg R]
    (hz1 : ∀ x : R, 0 * x = 0) (hz2 : ∀ x : R, x * 0 = 0) {A B : Arr R} {xa xb : List Nat}
    (h : FusedCtx A B xa xb) :
    fuseA A [freeAxes A.ndim xa, xa] .insert false = .ok (FuseP.fusedArrM A [freeAxes A.ndim xa, xa])
    ∧ fuseA B [xb, freeAxes B.ndim xb] .insert false = .ok (FuseP.fusedArrM B [xb, freeAxes B.ndim xb])
    ∧ fuseA (cPlain A B xa xb) [resL A xa, resR A B xa xb] .insert false
        = .ok (FuseP.fusedArrM (cPlain A B xa xb) [resL A xa, resR A B xa xb])
    ∧ (cPlain A B xa xb).validB = true
    ∧ ∀ (cL cR c1 c2 : Charge) (iL iR dL dR i1 i2 d1 d2 : Nat) (Ls Rs : Sector) (oL oR : List Nat),
        decAx A [freeAxes A.ndim xa, xa] 0 cL iL = some (Ls, oL) →
        decAx B [xb, freeAxes B.ndim xb] 1 cR iR = some (Rs, oR) →
        (FuseP.ixM A [freeAxes A.ndim xa, xa] 0).sizeOf? cL = some dL → iL < dL →
        (FuseP.ixM B [xb, freeAxes B.ndim xb] 1).sizeOf? cR = some dR → iR < dR →
        decAx (cPlain A B xa xb) [resL A xa, resR A B xa xb] 0 c1 i1 = some (Ls, oL) →
        decAx (cPlain A B xa xb) [resL A xa, resR A B xa xb] 1 c2 i2 = some (Rs, oR) →
        (FuseP.ixM (cPlain A B xa xb) [resL A xa, resR A B xa xb] 0).sizeOf? c1 = some d1 → i1 < d1 →
        (FuseP.ixM (cPlain A B xa xb) [resL A xa, resR A B xa xb] 1).sizeOf? c2 = some d2 → i2 < d2 →
        (tensordotBlockwise (FuseP.fusedArrM A [freeAxes A.ndim xa, xa])
            (FuseP.fusedArrM B [xb, freeAxes B.ndim xb]) [0] [1] [0] [1]).elem [cL, cR] [iL, iR]
          = (FuseP.fusedArrM (cPlain A B xa xb) [resL A xa, resR A B xa xb]).elem [c1, c2] [i1, i2]
        ∧ (FuseP.fusedArrM (cPlain A B xa xb) [resL A xa, resR A B xa xb]).elem [c1, c2] [i1, i2]
          = (cPlain A B xa xb).elem (Ls ++ Rs) (oL ++ oR) := by
  have key : ∀ (X : Arr R) (g1 g2 : List Nat), X.validB = true → PairOk X g1 g2 →
      fuseA X [g1, g2] .insert false = .ok (FuseP.fusedArrM X [g1, g2]) := by
    intro X g1 g2 hv hp
    rw [C05.fuseA_noexpand]
    have hf : [g1, g2].filter (fun g => !g.isEmpty) = [g1, g2] := by
      have := hp.ne1; have := hp.ne2
      cases g1 <;> cases g2 <;> simp_all
    rw [hf]
    simp only [List.isEmpty_cons, Bool.false_eq_true, if_false]
    exact FuseP.fuseCore_multi_eq (FuseP.validArr_of_validB hv) hp.groupsOk.adm
  refine ⟨key A _ _ h.vA h.pairA, key B _ _ h.vB h.pairB, key _ _ _ h.cPlain_validB h.cPlain_pair,
    h.cPlain_validB, ?_⟩
  intro cL cR c1 c2 iL iR dL dR i1 i2 d1 d2 Ls Rs oL oR hdL hdR hzL hiL hzR hiR hd1 hd2 hz1' hi1 hz2' hi2
  obtain ⟨e1, e2⟩ := h.fuse_commute hz1 hz2 hdL hdR hzL hiL hzR hiR hd1 hd2 hz1' hi1 hz2' hi2
  exact ⟨e1.trans e2.symm, e2⟩

/-- **tensordot_fuse_free_commute** (abelian, operands NOT aligned, contracted legs untouched).
    The axes `0 … k-1` of `a` are free (every contracted axis of `a` is `≥ k`).  Fusing them into
    one leg BEFORE the contraction (`fuse(a, [0 … k-1])`, contracted axes renumbered by `sh k`), or
    fusing the first `k` legs of the contraction result AFTERWARDS: both `fuse` calls succeed, and
    at positions `(c0, i0)` / `(c2, i2)` of the two fused legs that decode — each through its own
    fused index table — to the same `(S, O)`, with the same remaining sector `rest` and offsets
    `orest` (inside the result's tables), both arrays hold the plain result's element at
    `(S ++ rest, O ++ orest)`. -/
theorem tensordot_fuse_free_commute [AddCommMonoid R] [Mul R] [Neg R]
    (hz1 : ∀ x : R, 0 * x = 0) (hz2 : ∀ x : R, x * 0 = 0) (a b : Arr R) (xa xb : List Nat) (k : Nat)
    (ha : a.validB = true) (hb : b.validB = true) (hfa : a.fermi = false) (hfb : b.fermi = false)
    (hsym : a.sym = b.sym) (hopp : ValidP.oppositeDualsB a b xa xb = true)
    (hnA : xa.Nodup) (hnB : xb.Nodup) (hA : ∀ x ∈ xa, x < a.ndim) (hB : ∀ x ∈ xb, x < b.ndim)
    (hk1 : 1 ≤ k) (hk : k ≤ a.ndim) (hxa : ∀ x ∈ xa, k ≤ x) :
    fuseA a [List.range k] .insert false = .ok (FuseP.fusedArrM a [List.range k])
    ∧ fuseA (cPlain a b xa xb) [List.range k] .insert false
        = .ok (FuseP.fusedArrM (cPlain a b xa xb) [List.range k])
    ∧ ∀ (c0 c2 : Charge) (i0 d0 i2 d2 : Nat) (S rest : Sector) (O orest shp : List Nat),
        decAx a [List.range k] 0 c0 i0 = some (S, O) →
        (FuseP.ixM a [List.range k] 0).sizeOf? c0 = some d0 → i0 < d0 →
        decAx (cPlain a b xa xb) [List.range k] 0 c2 i2 = some (S, O) →
        (FuseP.ixM (cPlain a b xa xb) [List.range k] 0).sizeOf? c2 = some d2 → i2 < d2 →
        Arr.blockShape? ((cPlain a b xa xb).indices.drop k) rest = some shp → inBox shp orest = true →
        (tensordotBlockwise (FuseP.fusedArrM a [List.range k]) b
            (freeAxes (1 + (a.ndim - k)) (xa.map (sh k))) (xa.map (sh k)) xb (freeAxes b.ndim xb)).elem
            (c0 :: rest) (i0 :: orest)
          = (FuseP.fusedArrM (cPlain a b xa xb) [List.range k]).elem (c2 :: rest) (i2 :: orest)
        ∧ (FuseP.fusedArrM (cPlain a b xa xb) [List.range k]).elem (c2 :: rest) (i2 :: orest)
          = (cPlain a b xa xb).elem (S ++ rest) (O ++ orest) := by
  obtain ⟨hvc, hkc, hel⟩ := lead_commute_result hz1 hz2 a b xa xb k ha hb hfa hfb hsym hopp hnA hnB hA hB
    hk1 hk hxa
  have key : ∀ (X : Arr R), X.validB = true → k ≤ X.ndim →
      fuseA X [List.range k] .insert false = .ok (FuseP.fusedArrM X [List.range k]) := by
    intro X hv hkX
    rw [C05.fuseA_noexpand]
    have hne : List.range k ≠ [] := by
      intro e; have := congrArg List.length e; simp at this; omega
    have hf : [List.range k].filter (fun g => !g.isEmpty) = [List.range k] := by
      simp [List.isEmpty_iff, hne]
    rw [hf]
    simp only [List.isEmpty_cons, Bool.false_eq_true, if_false]
    exact FuseP.fuseCore_multi_eq (FuseP.validArr_of_validB hv) (lead_groupsOk hk1 hkX).adm
  refine ⟨key a ha hk, key _ hvc hkc, ?_⟩
  intro c0 c2 i0 d0 i2 d2 S rest O orest shp h1 h2 h3 h4 h5 h6 h7 h8
  obtain ⟨e1, e2⟩ := hel c0 c2 i0 d0 i2 d2 S rest O orest shp h1 h2 h3 h4 h5 h6 h7 h8
  exact ⟨e1.trans e2.symm, e2⟩

/-- **tensordot_fuse_free_commute_fermionic** (fermionic arrays, blockwise mode, weak guard
    `tdotAdmissibleCommonB`; pending phases and labels arbitrary).  The axes `0 … k-1` of `a` are
    free.  `fuseF(a, [0 … k-1])` and `fuseF(c, [0 … k-1])` of the result `c = tensordotF(a, b)`
    both succeed (their values: the `_fuse_core` of the sign-adjusted operand `signAdj`, C05), the
    contraction of the pre-fused operand with `b` (contracted axes renumbered by `sh k`) succeeds,
    and at positions `(c0, i0)` / `(c2, i2)` of the two fused legs that decode — each through its
    own fused index table — to the same `(S, O)`, with the same remaining sector `rest` and
    offsets `orest` inside the result's tables, the two arrays hold the same element
    (all signs included: fuse signs, Koszul and nesting signs of the contraction, label-sort sign,
    pending phases). -/
theorem tensordot_fuse_free_commute_fermionic [AddCommMonoid R] [Mul R] [Neg R] [SignRing R]
    (hz1 : ∀ x : R, 0 * x = 0) (hz2 : ∀ x : R, x * 0 = 0) (a b c : Arr R) (xa xb : List Nat) (k : Nat)
    (e : Bool)
    (ha : a.validB = true) (hb : b.validB = true) (hfa : a.fermi = true) (hfb : b.fermi = true)
    (hadm : tdotAdmissibleCommonB a b xa xb = true)
    (hk1 : 1 ≤ k) (hk : k ≤ a.ndim) (hxa : ∀ x ∈ xa, k ≤ x)
    (hc : a.tensordotF b (.pair (xa.map Int.ofNat) (xb.map Int.ofNat)) .blockwise = .ok c) :
    a.fuseF [List.range k] .insert e
        = .ok (FuseP.fusedArrM (FuseP.signAdj a [List.range k]) [List.range k])
    ∧ c.fuseF [List.range k] .insert e
        = .ok (FuseP.fusedArrM (FuseP.signAdj c [List.range k]) [List.range k])
    ∧ k ≤ c.ndim
    ∧ ∃ cP, (FuseP.fusedArrM (FuseP.signAdj a [List.range k]) [List.range k]).tensordotF b
          (.pair ((xa.map (sh k)).map Int.ofNat) (xb.map Int.ofNat)) .blockwise = .ok cP
      ∧ ∀ (c0 c2 : Charge) (i0 d0 i2 d2 : Nat) (S rest : Sector) (O orest shp : List Nat),
        decAx (FuseP.signAdj a [List.range k]) [List.range k] 0 c0 i0 = some (S, O) →
        (FuseP.ixM (FuseP.signAdj a [List.range k]) [List.range k] 0).sizeOf? c0 = some d0 → i0 < d0 →
        decAx (FuseP.signAdj c [List.range k]) [List.range k] 0 c2 i2 = some (S, O) →
        (FuseP.ixM (FuseP.signAdj c [List.range k]) [List.range k] 0).sizeOf? c2 = some d2 → i2 < d2 →
        Arr.blockShape? (c.indices.drop k) rest = some shp → inBox shp orest = true →
        cP.elem (c0 :: rest) (i0 :: orest)
          = (FuseP.fusedArrM (FuseP.signAdj c [List.range k]) [List.range k]).elem
              (c2 :: rest) (i2 :: orest) :=
  lead_commute_fermi hz1 hz2 a b c xa xb k e ha hb hfa hfb hadm hk1 hk hxa hc

/-- **tensordot_fuse_free_commute_fermionic_any_mode**: `tensordot_fuse_free_commute_fermionic`
    with the plain contraction in mode `m1` and the contraction of the pre-fused operand in mode
    `m2` (each of blockwise / fused / auto); `cm` is the result of the plain contraction in mode
    `m1`, the decoders and the tail tables are those of `cm`. -/
theorem tensordot_fuse_free_commute_fermionic_any_mode [AddCommMonoid R] [Mul R] [Neg R] [SignRing R]
    (hz1 : ∀ x : R, 0 * x = 0) (hz2 : ∀ x : R, x * 0 = 0) (a b cm : Arr R) (xa xb : List Nat) (k : Nat)
    (e : Bool) (m1 m2 : TdotMode)
    (ha : a.validB = true) (hb : b.validB = true) (hfa : a.fermi = true) (hfb : b.fermi = true)
    (hadm : tdotAdmissibleCommonB a b xa xb = true)
    (hk1 : 1 ≤ k) (hk : k ≤ a.ndim) (hxa : ∀ x ∈ xa, k ≤ x)
    (hcm : a.tensordotF b (.pair (xa.map Int.ofNat) (xb.map Int.ofNat)) m1 = .ok cm) :
    a.fuseF [List.range k] .insert e
        = .ok (FuseP.fusedArrM (FuseP.signAdj a [List.range k]) [List.range k])
    ∧ cm.fuseF [List.range k] .insert e
        = .ok (FuseP.fusedArrM (FuseP.signAdj cm [List.range k]) [List.range k])
    ∧ k ≤ cm.ndim
    ∧ ∃ cPm, (FuseP.fusedArrM (FuseP.signAdj a [List.range k]) [List.range k]).tensordotF b
          (.pair ((xa.map (sh k)).map Int.ofNat) (xb.map Int.ofNat)) m2 = .ok cPm
      ∧ ∀ (c0 c2 : Charge) (i0 d0 i2 d2 : Nat) (S rest : Sector) (O orest shp : List Nat),
        decAx (FuseP.signAdj a [List.range k]) [List.range k] 0 c0 i0 = some (S, O) →
        (FuseP.ixM (FuseP.signAdj a [List.range k]) [List.range k] 0).sizeOf? c0 = some d0 → i0 < d0 →
        decAx (FuseP.signAdj cm [List.range k]) [List.range k] 0 c2 i2 = some (S, O) →
        (FuseP.ixM (FuseP.signAdj cm [List.range k]) [List.range k] 0).sizeOf? c2 = some d2 → i2 < d2 →
        Arr.blockShape? (cm.indices.drop k) rest = some shp → inBox shp orest = true →
        cPm.elem (c0 :: rest) (i0 :: orest)
          = (FuseP.fusedArrM (FuseP.signAdj cm [List.range k]) [List.range k]).elem
              (c2 :: rest) (i2 :: orest) :=
  lead_commute_fermi_modes hz1 hz2 a b cm xa xb k e m1 m2 ha hb hfa hfb hadm hk1 hk hxa hcm

/-- **fuseF_leading_elem**: the fermionic fuse of the leading legs `0 … k-1` of any valid fermionic
    array `Z` (pending phases arbitrary) succeeds, is valid, and at a position `(c2, i2)` of the
    fused leg that its own table decodes to `(S, O)` — the rest of the address inside `Z`'s tables —
    holds the C05 fuse sign `fuseSignT` times `Z`'s element at `(S ++ rest, O ++ orest)`. -/
theorem fuseF_leading_elem [AddCommMonoid R] [Mul R] [Neg R] [SignRing R] (Z : Arr R) (k : Nat) (e : Bool)
    (hv : Z.validB = true) (hf : Z.fermi = true) (hk1 : 1 ≤ k) (hk : k ≤ Z.ndim) :
    Z.fuseF [List.range k] .insert e
        = .ok (FuseP.fusedArrM (FuseP.signAdj Z [List.range k]) [List.range k])
    ∧ (FuseP.fusedArrM (FuseP.signAdj Z [List.range k]) [List.range k]).validB = true
    ∧ ∀ (c2 : Charge) (i2 d2 : Nat) (S rest : Sector) (O orest shp : List Nat),
        decAx (FuseP.signAdj Z [List.range k]) [List.range k] 0 c2 i2 = some (S, O) →
        (FuseP.ixM (FuseP.signAdj Z [List.range k]) [List.range k] 0).sizeOf? c2 = some d2 → i2 < d2 →
        Arr.blockShape? (Z.indices.drop k) rest = some shp → inBox shp orest = true →
        (FuseP.fusedArrM (FuseP.signAdj Z [List.range k]) [List.range k]).elem (c2 :: rest) (i2 :: orest)
          = Lazy.sgnI (FuseP.fuseSignT Z [List.range k] (S ++ rest)) (Z.elem (S ++ rest) (O ++ orest)) :=
  fuseF_lead Z k e hv hf hk1 hk

/-- the sign-adjusted operand of the fermionic fuse of the leading group is `a` itself with every
    sector multiplied by the C05 fuse sign `fuseSignT` (same index tables, same stored sectors, no
    pending phases) — this is what the decoders of `tensordot_fuse_free_commute_fermionic` read -/
theorem signAdj_leading [AddCommMonoid R] [Mul R] [Neg R] [SignRing R] (a : Arr R) {k : Nat}
    (hv : a.validB = true) (hf : a.fermi = true) (h1 : 1 ≤ k) (h2 : k ≤ a.ndim) :
    (FuseP.signAdj a [List.range k]).indices = a.indices
    ∧ (FuseP.signAdj a [List.range k]).sectors = a.sectors
    ∧ (FuseP.signAdj a [List.range k]).phases = []
    ∧ ∀ S J, (FuseP.signAdj a [List.range k]).elem S J
        = Lazy.sgnI (FuseP.fuseSignT a [List.range k] S) (a.elem S J) := by
  obtain ⟨h1', _, h3, h4, _, _, _, _, h9⟩ := signAdj_lead a hv hf h1 h2
  exact ⟨h1', h3, h4, h9⟩

/-- `C04.chain_bracketing` in `mode = fused / auto`: the contraction along any bracketing `t` with
    every call in that mode (`evalM`) succeeds, is valid, has the open-bond positions, labels, charge,
    symmetry and rank of the blockwise contraction along `t`, stores every sector of the blockwise
    result with the blockwise values, and every other stored block is zero. -/
theorem chain_bracketing_any_mode [AddCommMonoid R] [Mul R] [Neg R] [SignRing R] [AssocLaws R]
    (hz1 : ∀ x : R, 0 * x = 0) (hz2 : ∀ x : R, x * 0 = 0)
    (t : STree R) (hok : t.OK) (hd : t.labels.Pairwise (fun x y => x.1 ≠ y.1))
    (mode : TdotMode) (hmode : mode = .fused ∨ mode = .auto) :
    ∃ Tm T, evalM mode t = .ok Tm ∧ t.eval = .ok T
      ∧ Tm.l = T.l ∧ Tm.r = T.r ∧ Tm.arr.validB = true ∧ T.arr.validB = true
      ∧ Tm.arr.oddpos = T.arr.oddpos ∧ Tm.arr.charge = T.arr.charge ∧ Tm.arr.sym = T.arr.sym
      ∧ Tm.arr.ndim = T.arr.ndim
      ∧ (∀ s ∈ T.arr.sectors, s ∈ Tm.arr.sectors)
      ∧ (∀ s ∈ T.arr.sectors, ∀ o, inBox (Arr.blockShapeD T.arr.indices s) o = true →
          Tm.arr.elem s o = T.arr.elem s o)
      ∧ (∀ s, s ∉ T.arr.sectors → ∀ o, inBox (Arr.blockShapeD Tm.arr.indices s) o = true →
          Tm.arr.elem s o = 0) := by
  obtain ⟨Tm, T, e1, e2, g, p⟩ := tree_pad hz1 hz2 t hok hd mode
  refine ⟨Tm, T, e1, e2, p.l, p.r, p.valid, g.ok.valid, p.oddpos, p.charge, p.pad.sym, p.pad.ndim,
    p.pad.sub, ?_, ?_⟩
  · intro s hs o ho
    exact p.pad.elem s (p.pad.sub s hs) o (by rw [p.pad.shape s hs]; exact ho)
  · intro s hs o ho
    by_cases hm : s ∈ Tm.arr.sectors
    · rw [p.pad.elem s hm o ho, Arr.elem_of_not_mem hs]
    · exact Arr.elem_of_not_mem hm o

/-- **chain_bracketings_agree_any_mode.**  Two bracketings of the same leaf sequence, each with
    its own mode. -/
theorem chain_bracketings_agree_any_mode [AddCommMonoid R] [Mul R] [Neg R] [SignRing R] [AssocLaws R]
    (hz1 : ∀ x : R, 0 * x = 0) (hz2 : ∀ x : R, x * 0 = 0)
    (t t' : STree R) (hok : t.OK) (hd : t.labels.Pairwise (fun x y => x.1 ≠ y.1))
    (h1 : t'.first = t.first) (h2 : t'.rest = t.rest)
    (mode mode' : TdotMode) (hmode : mode = .fused ∨ mode = .auto) (hmode' : mode' = .fused ∨ mode' = .auto) :
    ∃ Tm Tm' T, evalM mode t = .ok Tm ∧ evalM mode' t' = .ok Tm' ∧ t.eval = .ok T
      ∧ Tm'.l = Tm.l ∧ Tm'.r = Tm.r ∧ Tm'.arr.oddpos = Tm.arr.oddpos ∧ Tm'.arr.charge = Tm.arr.charge
      ∧ (∀ s ∈ T.arr.sectors, s ∈ Tm.arr.sectors ∧ s ∈ Tm'.arr.sectors)
      ∧ (∀ s ∈ T.arr.sectors, ∀ o, inBox (Arr.blockShapeD T.arr.indices s) o = true →
          Tm'.arr.elem s o = Tm.arr.elem s o ∧ Tm.arr.elem s o = T.arr.elem s o)
      ∧ (∀ s, s ∉ T.arr.sectors → ∀ o, inBox (Arr.blockShapeD Tm.arr.indices s) o = true →
          Tm.arr.elem s o = 0)
      ∧ (∀ s, s ∉ T.arr.sectors → ∀ o, inBox (Arr.blockShapeD Tm'.arr.indices s) o = true →
          Tm'.arr.elem s o = 0) := by
  have hok' : t'.OK := by
    rw [C04.ok_iff_leaves, h1, h2]; exact (C04.ok_iff_leaves t).mp hok
  have hd' : t'.labels.Pairwise (fun x y => x.1 ≠ y.1) := by
    rw [STree.labels_eq, h1, h2, ← STree.labels_eq]; exact hd
  obtain ⟨Tm, T, e1, e2, a1, a2, _, _, a5, a6, _, _, a9, a10, a11⟩ :=
    chain_bracketing_any_mode hz1 hz2 t hok hd mode hmode
  obtain ⟨Tm', T', e1', e2', b1, b2, _, _, b5, b6, _, _, b9, b10, b11⟩ :=
    chain_bracketing_any_mode hz1 hz2 t' hok' hd' mode' hmode'
  obtain ⟨U, U', d, d', hE, _, _⟩ := C04.chain_bracketings_agree t t' hok hd h1 h2
  rw [e2] at d
  obtain rfl := Except.ok.inj d
  rw [e2'] at d'
  obtain rfl := Except.ok.inj d'
  -- `hE : SegEqv T' T`
  have hsec : ∀ s, s ∈ T'.arr.sectors ↔ s ∈ T.arr.sectors := hE.1.sectors
  refine ⟨Tm, Tm', T, e1, e1', e2, by rw [b1, a1, hE.2.1], by rw [b2, a2, hE.2.2],
    by rw [b5, a5, hE.1.oddpos], by rw [b6, a6, hE.1.charge],
    fun s hs => ⟨a9 s hs, b9 s ((hsec s).mpr hs)⟩, ?_, a11, ?_⟩
  · intro s hs o ho
    have hs' := (hsec s).mpr hs
    have ho' : inBox (Arr.blockShapeD T'.arr.indices s) o = true := by rw [hE.1.indices]; exact ho
    refine ⟨?_, a10 s hs o ho⟩
    rw [b10 s hs' o ho', a10 s hs o ho]
    exact hE.1.elem s o (fun _ => ho')
  · intro s hs o ho
    exact b11 s (fun h => hs ((hsec s).mp h)) o ho

-- the chain `gA – cB – cC – cD` of C04f: both bracketings in auto AND in fused mode give the labels,
-- open bonds and values of the blockwise contraction
example :
    ([C04.segOf (evalM .auto C04.exTree), C04.segOf (evalM .fused C04.exTree'),
      C04.segOf (evalM .auto C04.exTree'), C04.segOf C04.exTree.eval].map (fun s =>
      (s.arr.oddpos, s.l, s.r, s.arr.elem [(1,0),(0,0),(0,0),(1,0)] [0,0,0,0],
        s.arr.elem [(0,0),(1,0),(0,0),(1,0)] [1,1,0,0])))
      = List.replicate 4 ([(5, true), (1, false), (3, false), (7, false)], [], [], 140, 280) := by
  decide +kernel

example : C04.exTree.OK ∧ C04.exTree.labels.Pairwise (fun x y => x.1 ≠ y.1) :=
  ⟨C04.exTree_ok.1, C04.exTree_ok.2.1⟩

-- fuse-commute: an aligned pair (C06b's `exA`, `exG`: two free legs on each side)
example : FusedCtx (dropMisaligned exA exG [2] [0]).1 (dropMisaligned exA exG [2] [0]).2 [2] [0] :=
  (fuse_commute_aligned exA exG [2] [0] (by decide +kernel) (by decide +kernel) rfl rfl rfl
    (by decide +kernel) (by decide) (by decide) (by decide) (by decide) (by decide) (by decide +kernel)
    (by decide +kernel)).1

-- fuse-free-commute: `exA[i,j,k]` with `exG[k',m,n]` over `k`: the two leading legs `i, j` are free
example : exA.validB = true ∧ exG.validB = true ∧ exA.sym = exG.sym
    ∧ ValidP.oppositeDualsB exA exG [2] [0] = true ∧ (2 : Nat) ≤ exA.ndim ∧ (∀ x ∈ ([2] : List Nat), 2 ≤ x)
    ∧ ([2] : List Nat).map (sh 2) = [1] := by decide +kernel

-- sanity: contracting the pre-fused `exA` gives exactly the blocks of the post-fused result here
example :
    (match fuseA exA [[0, 1]] .insert false, fuseA (cPlain exA exG [2] [0]) [[0, 1]] .insert false with
     | .ok af, .ok cq =>
        let cf := tensordotBlockwise af exG [0] [1] [0] [1, 2]
        cf.blocks.all (fun p => (alookup cq.blocks p.1).map (·.data) == some p.2.data)
        && cq.blocks.all (fun p => (alookup cf.blocks p.1).map (·.data) == some p.2.data)
        && cf.blocks.length == cq.blocks.length && cf.blocks.length != 0
     | _, _ => false) = true := by decide +kernel

-- fermionic fuse-free-commute: `gA[i,j,l]` (C03) with `cB[l',…]` (C04) over `l`; `i, j` are free
example : C03.gA.validB = true ∧ C04.cB.validB = true ∧ C03.gA.fermi = true ∧ C04.cB.fermi = true
    ∧ tdotAdmissibleCommonB C03.gA C04.cB [2] [0] = true ∧ (2 : Nat) ≤ C03.gA.ndim
    ∧ (∀ x ∈ ([2] : List Nat), 2 ≤ x) ∧ ([2] : List Nat).map (sh 2) = [1]
    ∧ (C03.gA.tensordotF C04.cB (.pair [2] [0]) .blockwise).toBool = true := by decide +kernel

-- sanity: here the two routes give exactly the same stored values (pending phases applied)
example :
    (match C03.gA.fuseF [[0, 1]] .insert false, C03.gA.tensordotF C04.cB (.pair [2] [0]) .blockwise with
     | .ok af, .ok c =>
        match af.tensordotF C04.cB (.pair [1] [0]) .blockwise, c.fuseF [[0, 1]] .insert false with
        | .ok cf, .ok cq =>
          cf.phaseSync.blocks.all (fun p => (alookup cq.phaseSync.blocks p.1).map (·.data) == some p.2.data)
          && cf.blocks.length == cq.blocks.length && cf.blocks.length == 3
        | _, _ => false
     | _, _ => false) = true := by decide +kernel

-- the same in fused / auto mode
example :
    (match C03.gA.fuseF [[0, 1]] .insert false, C03.gA.tensordotF C04.cB (.pair [2] [0]) .fused with
     | .ok af, .ok c =>
        match af.tensordotF C04.cB (.pair [1] [0]) .auto, c.fuseF [[0, 1]] .insert false with
        | .ok cf, .ok cq =>
          cq.phaseSync.blocks.all (fun p => p.2.data.all (· == 0)
            || (alookup cf.phaseSync.blocks p.1).map (·.data) == some p.2.data)
          && cf.phaseSync.blocks.all (fun p => p.2.data.all (· == 0)
            || (alookup cq.phaseSync.blocks p.1).map (·.data) == some p.2.data)
        | _, _ => false
     | _, _ => false) = true := by decide +kernel

end SymmModel.C06
