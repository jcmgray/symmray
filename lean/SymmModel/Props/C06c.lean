/-
  C06 (third part) — the contraction strategies agree for operands of ANY kind, and the
  fermionic contraction `tensordot_fermionic` in `mode = fused` / `auto`.

  * `tensordotA_kind_blind`: the abelian kernel `tensordotA` (every mode) does not look at the kind
    flag and the labels of its operands.
  * `tensordotA_synced_modes`: fused = blockwise (`TdotP.SameView`) for valid operands of any kind
    whose pending signs are synced (`phases = []`) — what `tensordot_fermionic` hands to the kernel
    after `phase_sync`.  Aligned blocks or not.
  * `tensordotF_modes_agree`: `Arr.tensordotF` with `mode = fused` or `auto` against
    `mode = blockwise`.
  * transfer of the blockwise-only theorems to `mode = fused / auto`:
    `tensordotF_to_blockwise` (the general transfer step), `tensordotF_refines_graded_any_mode`
    (C03), `tdotF_axes_perm_any_mode` (C04 S4), `tdotF_pretranspose_any_mode` (S6),
    `tdotF_swap_any_mode` (S5).  They hold at every address that lies in the operands' table box
    (as in the blockwise theorems) AND in the box of the fused-mode result's own block for that
    sector (condition `OwnBox`; vacuous for sectors the result does not store).  The two boxes
    coincide (C06d `ownBox_of_tableBox`); C06d states the same theorems without `OwnBox`.

  Scope: `tensordotA_synced_modes`, `tensordotF_modes_agree` and the four `…_any_mode` theorems
  carry the hypotheses of `C06.tensordotFused_obs_eq_blockwise` (C06b): a non-empty contraction in
  which each operand keeps at least one free axis.  `tensordotA_kind_blind` (any axes argument,
  any mode) and `tensordotF_to_blockwise` (any pair admissible in the sense of `AssocP.AdmW`)
  carry no such hypothesis.  Every call shape and S7 in fused / auto mode: C06d;
  `tensordot_fuse_commute`: C06e.
-/
import SymmModel.Props.C06All
import SymmModel.Props.C04c
import SymmModel.Proofs.TdotFusedW2

namespace SymmModel.C06
open SymmModel SymmModel.TdotP SymmModel.GradedP SymmModel.RoutesP
open SymmModel.Lazy (sgnI)

variable {R : Type}

/-- The abelian kernel `tensordotA` (every mode) is the kernel on the operands with kind flag and
    labels erased (`TdotP.ab`), with the left operand's flag and labels put back on the result. -/
theorem tensordotA_kind_blind [Zero R] [Add R] [Mul R] (a b : Arr R) (axes : AxesArg) (mode : TdotMode) :
    tensordotA (ab a) (ab b) axes mode = (tensordotA a b axes mode).map ab
    ∧ tensordotA a b axes mode = (tensordotA (ab a) (ab b) axes mode).map (relab a.fermi a.oddpos)
    ∧ ∀ c, tensordotA a b axes mode = .ok c → c.fermi = a.fermi ∧ c.oddpos = a.oddpos :=
  ⟨tensordotA_ab a b axes mode, tensordotA_via_ab a b axes mode, fun _ h => tensordotA_fields h⟩

/-- **tensordotA_synced_modes.**  Valid operands of any kind with synced signs, matching contracted
    legs, non-empty contraction, a free axis left on each side: the fused strategy succeeds and its
    result has the value view of the blockwise result. -/
theorem tensordotA_synced_modes [AddCommMonoid R] [Mul R] [Neg R]
    (hz1 : ∀ x : R, 0 * x = 0) (hz2 : ∀ x : R, x * 0 = 0) (X Y : Arr R) (xa xb : List Nat)
    (hvX : X.validB = true) (hvY : Y.validB = true) (hpX : X.phases = []) (hpY : Y.phases = [])
    (hsym : X.sym = Y.sym) (hc : ValidP.contractibleB X Y xa xb = true)
    (hnA : xa.Nodup) (hnB : xb.Nodup) (hA : ∀ x ∈ xa, x < X.ndim) (hB : ∀ x ∈ xb, x < Y.ndim)
    (hneK : xa ≠ []) (hneL : freeAxes X.ndim xa ≠ []) (hneR : freeAxes Y.ndim xb ≠ []) :
    ∃ c, tensordotViaFused X Y (freeAxes X.ndim xa) xa xb (freeAxes Y.ndim xb) = .ok c
      ∧ SameView c (tensordotBlockwise X Y (freeAxes X.ndim xa) xa xb (freeAxes Y.ndim xb))
      ∧ c.sectors.Nodup := by
  obtain ⟨c, h1, h2, h3, _⟩ := kernelOk_all hz1 hz2 X Y xa xb ((ValidP.validB_iff X).mp hvX)
    ((ValidP.validB_iff Y).mp hvY) hpX hpY hsym hc hnA hnB hA hB
  exact ⟨c, h1, h2, h3⟩

/-- `Arr.tensordotF` with `mode = fused` or `auto` succeeds exactly when `mode = blockwise` does (with
    the same label error otherwise); same labels, charge, symmetry, kind, rank; every blockwise
    sector stored; every stored entry (pending sign included) equal to the blockwise element; hence
    extra blocks zero.  (The pending-sign TABLES are not claimed equal: an extra all-zero block
    also gets an entry when the global label sign is `-1`.) -/
theorem tensordotF_modes_agree [AddCommMonoid R] [Mul R] [Neg R] [SignRing R]
    (hz1 : ∀ x : R, 0 * x = 0) (hz2 : ∀ x : R, x * 0 = 0) (a b : Arr R) (xa xb : List Nat)
    (h : Adm a b xa xb) (hne : xa ≠ []) (hL : xa.length < a.ndim) (hR : xb.length < b.ndim)
    (mode : TdotMode) (hmode : mode = .fused ∨ mode = .auto) :
    (∀ e, OddposP.mergeOddpos a.parity a.oddpos b.oddpos = .error e →
        a.tensordotF b (.pair (xa.map Int.ofNat) (xb.map Int.ofNat)) mode = .error e
        ∧ a.tensordotF b (.pair (xa.map Int.ofNat) (xb.map Int.ofNat)) .blockwise = .error e)
    ∧ (∀ r, OddposP.mergeOddpos a.parity a.oddpos b.oddpos = .ok r →
        ∃ rm rb, a.tensordotF b (.pair (xa.map Int.ofNat) (xb.map Int.ofNat)) mode = .ok rm
          ∧ a.tensordotF b (.pair (xa.map Int.ofNat) (xb.map Int.ofNat)) .blockwise = .ok rb
          ∧ rm.oddpos = rb.oddpos ∧ rm.charge = rb.charge ∧ rm.sym = rb.sym ∧ rm.fermi = rb.fermi
          ∧ rm.indices.length = rb.indices.length
          ∧ (∀ s ∈ rb.sectors, s ∈ rm.sectors)
          ∧ (∀ K V, alookup rm.blocks K = some V → ∀ J, inBox V.shape J = true →
              rm.elem K J = rb.elem K J)) := by
  obtain ⟨he, hk⟩ := tensordotF_modes_all_w hz1 hz2 a b xa xb (AssocP.AdmW.ofAdm h) mode hmode
  refine ⟨he, fun r hr => ?_⟩
  obtain ⟨rm, rb, h1, h2, f1, f2, f3, f4, f5, hsec, _, _, _, hel⟩ := hk r hr
  exact ⟨rm, rb, h1, h2, f1, f2, f3, f4, f5, hsec, hel⟩

/-- `o` lies in the box of `c`'s own block for the sector `s` (no condition if `s` is not stored) -/
def OwnBox (c : Arr R) (s : Sector) (o : List Nat) : Prop :=
  ∀ V, alookup c.blocks s = some V → inBox V.shape o = true

/-- **transfer step.**  A successful fused / auto call comes with a successful blockwise call whose
    result has the same labels, charge, symmetry, kind and rank and the same element at every
    address inside the fused-mode result's own boxes. -/
theorem tensordotF_to_blockwise [AddCommMonoid R] [Mul R] [Neg R] [SignRing R]
    (hz1 : ∀ x : R, 0 * x = 0) (hz2 : ∀ x : R, x * 0 = 0) (a b rm : Arr R) (xa xb : List Nat)
    (W : AssocP.AdmW a b xa xb)
    (mode : TdotMode) (hmode : mode = .fused ∨ mode = .auto)
    (hm : a.tensordotF b (.pair (xa.map Int.ofNat) (xb.map Int.ofNat)) mode = .ok rm) :
    ∃ rb, a.tensordotF b (.pair (xa.map Int.ofNat) (xb.map Int.ofNat)) .blockwise = .ok rb
      ∧ rm.oddpos = rb.oddpos ∧ rm.charge = rb.charge ∧ rm.sym = rb.sym ∧ rm.fermi = rb.fermi
      ∧ rm.indices.length = rb.indices.length
      ∧ (∀ s ∈ rb.sectors, s ∈ rm.sectors)
      ∧ ∀ s o, OwnBox rm s o → rm.elem s o = rb.elem s o := by
  obtain ⟨he, hk⟩ := tensordotF_modes_all_w hz1 hz2 a b xa xb W mode hmode
  cases hmo : OddposP.mergeOddpos a.parity a.oddpos b.oddpos with
  | error e => rw [(he e hmo).1] at hm; cases hm
  | ok r =>
    obtain ⟨rm', rb, h1, h2, f1, f2, f3, f4, f5, hsec, _, _, _, hel⟩ := hk r hmo
    rw [h1] at hm
    cases hm
    exact ⟨rb, h2, f1, f2, f3, f4, f5, hsec, fun s o hb => elem_everywhere hsec hel s o hb⟩

/-- **C03 for fused / auto mode: tensordotF_refines_graded_any_mode.** -/
theorem tensordotF_refines_graded_any_mode [AddCommMonoid R] [Mul R] [Neg R] [SignRing R]
    (hz1 : ∀ x : R, 0 * x = 0) (hz2 : ∀ x : R, x * 0 = 0) (a b c : Arr R) (xa xb : List Nat)
    (h : Adm a b xa xb) (hne : xa ≠ []) (hL : xa.length < a.ndim) (hR : xb.length < b.ndim)
    (mode : TdotMode) (hmode : mode = .fused ∨ mode = .auto)
    (hm : a.tensordotF b (.pair (xa.map Int.ofNat) (xb.map Int.ofNat)) mode = .ok c) :
    ∃ out ph, OddposP.mergeOddpos a.parity a.oddpos b.oddpos = .ok (out, ph)
      ∧ c.oddpos = out
      ∧ c.charge = a.sym.combine [a.charge, b.charge]
      ∧ ∀ (s : Sector) (oL oR : List Nat), oL.length = (freeAxes a.ndim xa).length →
          inBox (Arr.blockShapeD (without a.indices xa ++ without b.indices xb) s) (oL ++ oR) = true →
          OwnBox c s (oL ++ oR) →
          c.elem s (oL ++ oR) = sgnI ph (gradedContract a b xa xb s oL oR) := by
  obtain ⟨rb, hb, f1, f2, _, _, _, _, hel⟩ :=
    tensordotF_to_blockwise hz1 hz2 a b c xa xb (AssocP.AdmW.ofAdm h) mode hmode hm
  have hadm : ValidP.tdotAdmissibleB a b xa xb = true := by
    exact ValidP.tdotAdmissibleB_iff.mpr ⟨h.sym, h.con, h.nA, h.nB, h.ltA, h.ltB⟩
  obtain ⟨out, ph, g1, g2, g3, g4⟩ :=
    C03.tensordotF_refines_graded_at a b rb xa xb h.va h.vb h.fa h.fb hadm hb
  exact ⟨out, ph, g1, f1.trans g2, f2.trans g3, fun s oL oR hoL ho hown => by
    rw [hel s _ hown]; exact g4 s oL oR hoL ho⟩

/-- **C04 S4 for fused / auto mode.**  Listing the contracted axis pairs in another order gives a
    result with the same labels, charge, symmetry, kind and rank and the same value at every address
    inside both results' own boxes (`OwnBox`). -/
theorem tdotF_axes_perm_any_mode [AddCommMonoid R] [Mul R] [Neg R] [SignRing R]
    (hz1 : ∀ x : R, 0 * x = 0) (hz2 : ∀ x : R, x * 0 = 0) (a b c1 c2 : Arr R) (xa xb π : List Nat)
    (h : Adm a b xa xb) (hπ : π.Perm (List.range xa.length))
    (hne : xa ≠ []) (hL : xa.length < a.ndim) (hR : xb.length < b.ndim)
    (mode : TdotMode) (hmode : mode = .fused ∨ mode = .auto)
    (h1 : a.tensordotF b (.pair ((permuted xa π).map Int.ofNat) ((permuted xb π).map Int.ofNat)) mode = .ok c1)
    (h2 : a.tensordotF b (.pair (xa.map Int.ofNat) (xb.map Int.ofNat)) mode = .ok c2) :
    c1.oddpos = c2.oddpos ∧ c1.charge = c2.charge ∧ c1.sym = c2.sym ∧ c1.fermi = c2.fermi
    ∧ c1.indices.length = c2.indices.length
    ∧ ∀ s o, OwnBox c1 s o → OwnBox c2 s o → c1.elem s o = c2.elem s o := by
  obtain ⟨rb1, hb1, f1, f2, f3, f4, f5, _, hel1⟩ :=
    tensordotF_to_blockwise hz1 hz2 a b c1 _ _ ((AssocP.AdmW.ofAdm h).relist hπ) mode hmode h1
  obtain ⟨rb2, hb2, g1, g2, g3, g4, g5, _, hel2⟩ :=
    tensordotF_to_blockwise hz1 hz2 a b c2 xa xb (AssocP.AdmW.ofAdm h) mode hmode h2
  have := C04.tdotF_axes_perm a b xa xb π h hπ
  rw [hb1, hb2] at this
  cases this
  exact ⟨f1.trans g1.symm, f2.trans g2.symm, f3.trans g3.symm, f4.trans g4.symm, f5.trans g5.symm,
    fun s o o1 o2 => (hel1 s o o1).trans (hel2 s o o2).symm⟩

/-! ### non-vacuity and sanity: the odd Z2 operands `C03.gA`, `C03.gB` (pending signs, labels) -/

open SymmModel.C03 in
example : Adm gA gB [1] [1] ∧ ([1] : List Nat) ≠ [] ∧ [1].length < gA.ndim ∧ [1].length < gB.ndim
    ∧ (∀ x : Int, 0 * x = 0) ∧ (∀ x : Int, x * 0 = 0) :=
  ⟨Adm.of (by decide +kernel) (by decide +kernel) rfl rfl (by decide +kernel), by decide, by decide,
    by decide, Int.zero_mul, Int.mul_zero⟩

-- both modes: same labels, and every block of the auto/fused result is the blockwise block of that
-- sector (the dictionary ORDER differs)
open SymmModel.C03 in
example :
    (match gA.tensordotF gB (.pair [1] [1]) .auto, gA.tensordotF gB (.pair [1] [1]) .fused,
           gA.tensordotF gB (.pair [1] [1]) .blockwise with
     | .ok c, .ok c', .ok d =>
         c.oddpos == d.oddpos && c.blocks.length == 8 && d.blocks.length == 8
         && c.blocks.all (fun p => (alookup d.blocks p.1).map (·.data) == some p.2.data
              && alookup c.phases p.1 == alookup d.phases p.1)
         && c'.blocks.map (fun p => (p.1, p.2.data)) == c.blocks.map (fun p => (p.1, p.2.data))
         && (c.blocks.map (·.1) != d.blocks.map (·.1))
     | _, _, _ => false) = true := by decide +kernel

/-- **C04 S6 for fused / auto mode.**  Pre-transposing the left operand: the value at the
    address with the left free part re-listed along `q` is the Koszul sign of `q` times the
    original value (both calls in the same mode `fused` or `auto`; addresses in the operands' table
    box and in both results' own boxes, `OwnBox`). -/
theorem tdotF_pretranspose_any_mode [AddCommMonoid R] [Mul R] [Neg R] [SignRing R]
    (hz1 : ∀ x : R, 0 * x = 0) (hz2 : ∀ x : R, x * 0 = 0) (a b c c' : Arr R)
    (p xa xa' q xb : List Nat) (h : Adm a b xa xb) (hp : Arr.isPerm p a.ndim = true)
    (hT : PreT a.ndim p xa xa' q) (h' : Adm (a.transposeF p) b xa' xb)
    (hne : xa ≠ []) (hL : xa.length < a.ndim) (hR : xb.length < b.ndim)
    (hne' : xa' ≠ []) (hL' : xa'.length < (a.transposeF p).ndim)
    (mode : TdotMode) (hmode : mode = .fused ∨ mode = .auto)
    (hc : a.tensordotF b (.pair (xa.map Int.ofNat) (xb.map Int.ofNat)) mode = .ok c)
    (hc' : (a.transposeF p).tensordotF b (.pair (xa'.map Int.ofNat) (xb.map Int.ofNat)) mode = .ok c') :
    c'.oddpos = c.oddpos ∧ c'.charge = c.charge ∧ c'.sym = c.sym ∧ c'.fermi = c.fermi
    ∧ ∀ (L Rr : Sector) (oL oR : List Nat), L.length = (freeAxes a.ndim xa).length →
        oL.length = (freeAxes a.ndim xa).length →
        inBox (Arr.blockShapeD (without a.indices xa ++ without b.indices xb) (L ++ Rr))
          (oL ++ oR) = true →
        OwnBox c (L ++ Rr) (oL ++ oR) → OwnBox c' (permuted L q ++ Rr) (permuted oL q ++ oR) →
        c'.elem (permuted L q ++ Rr) (permuted oL q ++ oR)
          = sgnI (koszul (L.map a.sym.parity) (some q)) (c.elem (L ++ Rr) (oL ++ oR)) := by
  obtain ⟨rb, hb, f1, f2, f3, f4, _, _, hel⟩ :=
    tensordotF_to_blockwise hz1 hz2 a b c xa xb (AssocP.AdmW.ofAdm h) mode hmode hc
  obtain ⟨rb', hb', g1, g2, g3, g4, _, _, hel'⟩ :=
    tensordotF_to_blockwise hz1 hz2 (a.transposeF p) b c' xa' xb (AssocP.AdmW.ofAdm h') mode hmode hc'
  obtain ⟨rb'', hb'', k1, k2, k3, k4, kel⟩ := C04.tdotF_pretranspose a b rb p xa xa' q xb h hp hT hb
  rw [hb'] at hb''
  cases hb''
  refine ⟨g1.trans (k1.trans f1.symm), g2.trans (k2.trans f2.symm), g3.trans (k3.trans f3.symm),
    g4.trans (k4.trans f4.symm), ?_⟩
  intro L Rr oL oR hLl hoL hbox ho ho'
  rw [hel' _ _ ho', hel _ _ ho]
  exact kel L Rr oL oR hLl hoL hbox

/-- **C04 S5 for fused / auto mode.**  Exchanging the operands: the value at the address with the
    two free parts exchanged is the Koszul sign of the rotation times the original value (addresses
    in the operands' table box and in both results' own boxes, `OwnBox`). -/
theorem tdotF_swap_any_mode [AddCommMonoid R] [Mul R] [Neg R] [SignRing R]
    (hz1 : ∀ x : R, 0 * x = 0) (hz2 : ∀ x : R, x * 0 = 0) (a b c c' : Arr R) (xa xb : List Nat)
    (hmul : ∀ x y : R, x * y = y * x) (h : Adm a b xa xb) (h' : Adm b a xb xa)
    (hd : (a.oddpos ++ b.oddpos).Pairwise (fun x y => x.1 ≠ y.1))
    (hne : xa ≠ []) (hL : xa.length < a.ndim) (hR : xb.length < b.ndim)
    (mode : TdotMode) (hmode : mode = .fused ∨ mode = .auto)
    (hc : a.tensordotF b (.pair (xa.map Int.ofNat) (xb.map Int.ofNat)) mode = .ok c)
    (hc' : b.tensordotF a (.pair (xb.map Int.ofNat) (xa.map Int.ofNat)) mode = .ok c') :
    c'.oddpos = c.oddpos ∧ c'.charge = c.charge ∧ c'.sym = c.sym ∧ c'.fermi = c.fermi
    ∧ ∀ (L Rr : Sector) (oL oR : List Nat), L.length = (freeAxes a.ndim xa).length →
        Rr.length = (freeAxes b.ndim xb).length → oL.length = (freeAxes a.ndim xa).length →
        oR.length = (freeAxes b.ndim xb).length →
        inBox (Arr.blockShapeD (without a.indices xa ++ without b.indices xb) (L ++ Rr))
          (oL ++ oR) = true →
        OwnBox c (L ++ Rr) (oL ++ oR) → OwnBox c' (Rr ++ L) (oR ++ oL) →
        c'.elem (Rr ++ L) (oR ++ oL)
          = sgnI (koszul ((L ++ Rr).map a.sym.parity)
              (some ((List.range Rr.length).map (L.length + ·) ++ List.range L.length)))
              (c.elem (L ++ Rr) (oL ++ oR)) := by
  obtain ⟨rb, hb, f1, f2, f3, f4, _, _, hel⟩ :=
    tensordotF_to_blockwise hz1 hz2 a b c xa xb (AssocP.AdmW.ofAdm h) mode hmode hc
  obtain ⟨rb', hb', g1, g2, g3, g4, _, _, hel'⟩ :=
    tensordotF_to_blockwise hz1 hz2 b a c' xb xa (AssocP.AdmW.ofAdm h') mode hmode hc'
  obtain ⟨rb'', hb'', k1, k2, k3, k4, kel⟩ := C04.tdotF_swap a b rb xa xb hmul h hd hb
  rw [hb'] at hb''
  cases hb''
  refine ⟨g1.trans (k1.trans f1.symm), g2.trans (k2.trans f2.symm), g3.trans (k3.trans f3.symm),
    g4.trans (k4.trans f4.symm), ?_⟩
  intro L Rr oL oR hLl hRl hoL hoR hbox ho ho'
  rw [hel' _ _ ho', hel _ _ ho]
  exact kel L Rr oL oR hLl hRl hoL hoR hbox

end SymmModel.C06
