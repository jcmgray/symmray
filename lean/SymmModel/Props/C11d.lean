/-
  Property C11 (fourth part) — reconstruction with the library's DEFAULT contraction mode.

  `qr_reconstructs_fused` (abelian): `tensordot(q, r, axes=([1],[0]))` in `mode="fused"` and in
  `mode="auto"` (which is fused whenever something is contracted) reconstructs `x`; corollary of
  `C11.qr_reconstructs` (blockwise) and `tdotA_factors_modes` (any shape-correct factor pair:
  `C06.tensordotA_modes_agree`, fused = blockwise on the value view).  Both factors keep a
  block under `drop_misaligned_sectors` (`factors_aligned_nonempty`), so the fused strategy never
  takes its empty-alignment shortcut when `x` stores a block.

  The fermionic version through `tensordot_fermionic(…, mode)` is in Props/C11e.lean and
  Props/C11f.lean (`*_tensordotF_any_mode`, `*_all_modes`): it needs fused = blockwise for fermionic
  operands (C06d) and a blockwise evaluation that does not depend on which operand receives the bond
  flip (`tensordot_fermionic` flips the smaller one, `@` always the right one).
-/
import SymmModel.Props.C11c
import SymmModel.Props.C06b

namespace SymmModel.C11
open SymmModel LinalgLemmas ReconP

variable {R : Type}

theorem factors_aligned_nonempty {x : Arr R} (hv : x.validB = true) (h2 : x.ndim = 2)
    (hne : x.blocks ≠ []) (L Rt : Blk R → Blk R) :
    ((dropMisaligned (leftF x L) (rightF x L Rt) [1] [0]).1.blocks.isEmpty
      || (dropMisaligned (leftF x L) (rightF x L Rt) [1] [0]).2.blocks.isEmpty) = false := by
  obtain ⟨i0, i1, hi⟩ := ndim_two h2
  obtain ⟨p, hp⟩ := List.exists_mem_of_ne_nil _ hne
  obtain ⟨r, c, m, n, B⟩ := mat_block hv hi (s := p.1) (b := p.2) hp
  have hrb : (rightF x L Rt).blocks = x.blocks.map (fun p => ([colOf p.1, colOf p.1], Rt p.2)) :=
    rightF_fields.blocks
  have hcol : colOf p.1 = c := B.col
  have hsubA : [c] ∈ (leftF x L).sectors.map (fun s => permuted s [1]) := by
    rw [leftF_sectors]
    refine List.mem_map.mpr ⟨p.1, List.mem_map.mpr ⟨p, hp, rfl⟩, ?_⟩
    rw [B.hs]; rfl
  have hsubB : [c] ∈ (rightF x L Rt).sectors.map (fun s => permuted s [0]) := by
    refine List.mem_map.mpr ⟨[c, c], ?_, rfl⟩
    simp only [Arr.sectors, hrb, List.map_map]
    exact List.mem_map.mpr ⟨p, hp, by simp [hcol]⟩
  have hall : [c] ∈ ((leftF x L).sectors.map (fun s => permuted s [1])).filter
      (fun k => ((rightF x L Rt).sectors.map (fun s => permuted s [0])).contains k) :=
    List.mem_filter.mpr ⟨hsubA, by simpa using hsubB⟩
  have h1 : (p.1, L p.2) ∈ (dropMisaligned (leftF x L) (rightF x L Rt) [1] [0]).1.blocks := by
    simp only [dropMisaligned]
    refine List.mem_filter.mpr ⟨List.mem_map.mpr ⟨p, hp, rfl⟩, ?_⟩
    have : permuted p.1 [1] = [c] := by rw [B.hs]; rfl
    simp only [this]
    simpa using hall
  have h2' : ([c, c], Rt p.2) ∈ (dropMisaligned (leftF x L) (rightF x L Rt) [1] [0]).2.blocks := by
    simp only [dropMisaligned]
    refine List.mem_filter.mpr ⟨by rw [hrb]; exact List.mem_map.mpr ⟨p, hp, by simp [hcol]⟩, ?_⟩
    have : permuted [c, c] [0] = [c] := rfl
    simp only [this]
    simpa using hall
  rw [List.isEmpty_eq_false_iff_exists_mem.mpr ⟨_, h1⟩,
    List.isEmpty_eq_false_iff_exists_mem.mpr ⟨_, h2'⟩]
  rfl

theorem tdotA_factors_modes [AddCommMonoid R] [Mul R] [Neg R] {x : Arr R} {L Rt : Blk R → Blk R}
    (hz1 : ∀ x : R, 0 * x = 0) (hz2 : ∀ x : R, x * 0 = 0)
    (hv : x.validB = true) (h2 : x.ndim = 2) (hf : x.fermi = false) (hne : x.blocks ≠ [])
    (hL : FacShape L Rt) :
    ∃ c, tensordotA (leftF x L) (rightF x L Rt) (.pair [1] [0]) .fused = .ok c
      ∧ tensordotA (leftF x L) (rightF x L Rt) (.pair [1] [0]) .auto = .ok c
      ∧ (∀ s ∈ x.sectors, s ∈ c.sectors)
      ∧ ∀ s V, alookup c.blocks s = some V → ∀ off, inBox V.shape off = true →
          c.elem s off = (tensordotBlockwise (leftF x L) (rightF x L Rt) [0] [1] [0] [1]).elem s off := by
  obtain ⟨i0, i1, hi⟩ := ndim_two h2
  have hS := bondSpec_factors hv h2 hL
  have hqn : (leftF x L).ndim = 2 := rfl
  have hrn : (rightF x L Rt).ndim = 2 := by simp [Arr.ndim, hS.right_indices]
  have hparse : parseAxes (leftF x L).ndim (rightF x L Rt).ndim (.pair [1] [0])
      = .ok ([1], [0]) := by rw [hqn, hrn]; rfl
  obtain ⟨c, bw, e1, e2, e3, _, _, _, _, _, _, hsec, hval⟩ := C06.tensordotA_modes_agree hz1 hz2
    (leftF x L) (rightF x L Rt) (.pair [1] [0]) [1] [0] hparse
    (leftF_valid hv h2 hi hL) (rightF_valid hv h2 hi hL)
    hf (hS.right_rest.2.1.trans hf) hS.right_rest.1.symm
    (by
      unfold ValidP.contractibleB
      rw [hS.left_indices, hS.right_indices]
      simp [hS.opposite.1, hS.opposite.2])
    (by decide) (by decide) (by intro a ha; simp at ha; subst ha; rw [hqn]; decide)
    (by intro a ha; simp at ha; subst ha; rw [hrn]; decide)
    (by decide) (by rw [hqn]; decide) (by rw [hrn]; decide)
    (factors_aligned_nonempty hv h2 hne _ _)
  have hbw : bw = tensordotBlockwise (leftF x L) (rightF x L Rt) [0] [1] [0] [1] := by
    have := TdotP.tensordotA_blockwise_ok (leftF x L) (rightF x L Rt) (.pair [1] [0]) [1] [0] hparse
    rw [e3] at this
    have h' := Except.ok.inj this
    rw [h', hqn, hrn]
    rfl
  subst hbw
  have hbs : (tensordotBlockwise (leftF x L) (rightF x L Rt) [0] [1] [0] [1]).sectors = x.sectors := by
    have := tdot_blocks_aligned hv h2 (fun p => L p.2) (fun p => Rt p.2)
      (leftF x L) (rightF x L Rt) rfl rightF_fields.blocks
    simp [Arr.sectors, this, List.map_map, Function.comp_def]
  exact ⟨c, e1, e2, fun s hs => hsec s (by rw [hbs]; exact hs), hval⟩

/-- **qr_reconstructs_fused** (abelian).  `C11.qr_reconstructs` with the library's DEFAULT
    contraction: `tensordot(q, r, axes=([1],[0]))` in `mode="fused"` and `mode="auto"` (the same
    result) succeeds for a valid abelian matrix with at least one block; it stores every sector of
    `x`, and at every address of `x` inside a stored block of the result it has `x`'s element. -/
theorem qr_reconstructs_fused [AddCommMonoid R] [Mul R] [Neg R]
    (hz1 : ∀ x : R, 0 * x = 0) (hz2 : ∀ x : R, x * 0 = 0) (K : Kernels R) (hK : K.ShapeOk)
    (hC : K.QRContract) (x : Arr R) (hv : x.validB = true) (h2 : x.ndim = 2)
    (hf : x.fermi = false) (hne : x.blocks ≠ []) :
    ∃ q r c, qrA K x = .ok (q, r)
      ∧ tensordotA q r (.pair [1] [0]) .fused = .ok c ∧ tensordotA q r (.pair [1] [0]) .auto = .ok c
      ∧ (∀ s ∈ x.sectors, s ∈ c.sectors)
      ∧ ∀ s V, alookup c.blocks s = some V → ∀ off, inBox V.shape off = true → AddrOf x s off →
          c.elem s off = x.elem s off := by
  obtain ⟨c, e1, e2, hsec, hval⟩ := tdotA_factors_modes (L := fun b => (K.qr b).1)
    (Rt := fun b => (K.qr b).2) hz1 hz2 hv h2 hf hne (facShape_qr hK)
  exact ⟨_, _, c, qrA_eq K hv h2, e1, e2, hsec, fun s V hl off hbox ha =>
    (hval s V hl off hbox).trans (qr_recon hK hC hv h2 hf s off ha)⟩

example : (∀ x : Int, 0 * x = 0) ∧ (∀ x : Int, x * 0 = 0) ∧ Kernels.trivialFactor.ShapeOk
    ∧ Kernels.trivialFactor.QRContract ∧ exM.validB = true ∧ exM.ndim = 2 ∧ exM.fermi = false
    ∧ exM.blocks ≠ [] :=
  ⟨Int.zero_mul, Int.mul_zero, trivialFactor_shapeOk, trivialFactor_qr, by decide, rfl, rfl,
    by decide⟩

/-- fused, auto and blockwise contraction of the qr factors of `exM` all give `exM`'s blocks -/
example : ((qrA Kernels.trivialFactor exM).toOption.map (fun p =>
      [TdotMode.fused, TdotMode.auto, TdotMode.blockwise].map (fun mode =>
        (tensordotA p.1 p.2 (.pair [1] [0]) mode).toOption.map (fun c =>
          c.blocks.map (fun q => (q.1, q.2.shape, q.2.data.toList)))))
    == some (List.replicate 3 (some
        [([(0, 0), (-1, 0)], [2, 1], [1, 2]), ([(1, 0), (0, 0)], [1, 3], [3, 4, 5])]))) = true := by
  decide +kernel

end SymmModel.C11
