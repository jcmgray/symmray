/-
  C02 (third part) — single-operand einsum with traced labels at dense level:
  `to_dense(einsum(eq, a)) = np.einsum(eq, to_dense(a))` for equations with any number of traced
  pairs (the matrix trace is `traceA_toDense`, permutation equations are
  `C08.einsum_perm_toDense`).

  Lifted from `einsumA_elem` (second part) by re-indexing the dense traced box into
  (charge, offset) pairs — `DenseP.sum_locateAll` on the indices of the traced labels — and
  matching the stored contributing sectors with the assembled sectors.

  Vocabulary (namespace `SymmModel.Dense5`, Proofs/Dense5b-e.lean):
    `eqOkB lhs rhs`   output labels distinct, all present on the left, each exactly once there
    `tabOkB a lhs`    axes carrying the same label have the same sorted charge table (for a traced
                      pair this is what makes `np.einsum` on the dense array meaningful: equal
                      sizes AND equal charge layout)
  together with `einTracedPos … length = 2` (every other label occurs exactly twice: the guard of
  `einsumA`).  `Blk.einsumK` is numpy's single-operand einsum kernel (Model/Blk.lean).
-/
import SymmModel.Proofs.Dense5e
import SymmModel.Props.C02b

namespace SymmModel.C02
open SymmModel SymmModel.TdotP Dense5

variable {R : Type}

/-- For a valid abelian array and an admissible equation: `einsumA`
    succeeds, its result has the permuted kept indices, and its dense form has the shape and, at
    every position, the entry of `np.einsum` applied to the dense form of the operand. -/
theorem einsumA_toDense [AddCommMonoid R] [Neg R] (a : Arr R) (lhs rhs : List Nat)
    (hl : lhs.length = a.ndim) (hok : eqOkB lhs rhs = true) (htab : tabOkB a lhs = true)
    (h2 : (einTracedPos lhs rhs).any (fun js => js.length != 2) = false)
    (hv : a.validB = true) (hf : a.fermi = false) (hne : NoEmpty a) :
    ∃ c dA dC, einsumA a lhs rhs = .ok c
      ∧ c.indices = permuted a.indices (Dense4.einPermOf lhs rhs)
      ∧ a.toDenseA = .ok dA ∧ c.toDenseA = .ok dC
      ∧ dC.shape = (dA.einsumK lhs rhs).shape
      ∧ ∀ q, inBox dC.shape q = true → dC.get q = (dA.einsumK lhs rhs).get q :=
  einsum_dense_main a lhs rhs hl (eqOk_of_B hok) (tabOk_of_B htab) h2 hv hf hne

/-- … as an equality of dense arrays: `to_dense(einsum(a)) = np.einsum(to_dense(a))` -/
theorem einsumA_toDense_eq [AddCommMonoid R] [Neg R] (a : Arr R) (lhs rhs : List Nat)
    (hl : lhs.length = a.ndim) (hok : eqOkB lhs rhs = true) (htab : tabOkB a lhs = true)
    (h2 : (einTracedPos lhs rhs).any (fun js => js.length != 2) = false)
    (hv : a.validB = true) (hf : a.fermi = false) (hne : NoEmpty a) :
    ∃ c dA, einsumA a lhs rhs = .ok c ∧ a.toDenseA = .ok dA
      ∧ c.toDenseA = .ok (dA.einsumK lhs rhs) := by
  obtain ⟨c, dA, dC, h1, _, h3, h4, h5, h6⟩ := einsumA_toDense a lhs rhs hl hok htab h2 hv hf hne
  refine ⟨c, dA, h1, h3, ?_⟩
  rw [h4]
  congr 1
  refine blk_ext (Arr.toDenseA_wf h4) ?_ h5 h6
  unfold Blk.einsumK
  exact ofFn_wf _ _

section Examples3

/-- a rank-4 Z2 array `t[i,j,k,l]`, charge 0, index tables (I, J, I*, J*), filled with distinct
    integers on every charge-conserving sector -/
def exT : Arr Int :=
  match fromFillFn .Z2 false [ixI, ixJ, ixI.conj, ixJ.conj] none
      (fun s shp => Blk.ofFn shp (fun i => (ravel shp i : Int) + 1 + 10 * (s.map (·.1)).foldl (· + ·) 0)) with
  | .ok b => b
  | .error _ => default
/-- the same with two of its blocks removed (sparse operand) -/
def exT' : Arr Int := { exT with blocks := exT.blocks.drop 2 }

def densOf (r : Except Err (Blk Int)) : Option (List Nat × List Int) :=
  match r with | .ok b => some (b.shape, b.data.toList) | .error _ => none

example : exT.validB = true ∧ exT'.validB = true ∧ exT.blocks.length = 8 ∧ NoEmpty exT := by
  decide +kernel
-- "ijij->" (two traced pairs) and "ijil->jl" (one traced pair, two kept axes, l before j: "->lj")
example : eqOkB [0, 1, 0, 1] [] = true ∧ tabOkB exT [0, 1, 0, 1] = true
    ∧ (einTracedPos [0, 1, 0, 1] []).any (fun js => js.length != 2) = false
    ∧ eqOkB [0, 1, 0, 3] [3, 1] = true ∧ tabOkB exT [0, 1, 0, 3] = true
    ∧ (einTracedPos [0, 1, 0, 3] [3, 1]).any (fun js => js.length != 2) = false := by decide +kernel
example :
    densOf (einsumA exT [0, 1, 0, 1] [] >>= Arr.toDenseA)
      = densOf (exT.toDenseA.map (fun d => d.einsumK [0, 1, 0, 1] []))
    ∧ densOf (einsumA exT' [0, 1, 0, 3] [3, 1] >>= Arr.toDenseA)
      = densOf (exT'.toDenseA.map (fun d => d.einsumK [0, 1, 0, 3] [3, 1])) := by decide +kernel
example := einsumA_toDense_eq (R := Int) exT [0, 1, 0, 1] [] (by decide +kernel) (by decide)
  (by decide +kernel) (by decide) (by decide +kernel) (by decide +kernel) (by decide +kernel)
example := einsumA_toDense (R := Int) exT' [0, 1, 0, 3] [3, 1] (by decide +kernel) (by decide)
  (by decide +kernel) (by decide) (by decide +kernel) (by decide +kernel) (by decide +kernel)
-- the table hypothesis is needed: "ijkl" labelled "ijji" pairs axes with different tables
example : tabOkB exT [0, 1, 1, 0] = false := by decide +kernel

end Examples3

end SymmModel.C02
