/-
  Property C16 (part c) / C01 "construct" / C20 — the public random constructors of
  symmray/utils.py (Model/Rand.lean) return well-formed indices and valid arrays.

  Every draw from the numpy Generator is a universally quantified parameter, restricted only by
  the decidable predicate (`RandP.drawOkB`, `RandP.drawsOkB`) saying that numpy can return it.
-/
import SymmModel.Proofs.RandLemmas

namespace SymmModel.C16
open SymmModel Rand RandP

/-- what a generated index has to satisfy: well formed for the symmetry (strictly sorted charges,
    POSITIVE sizes, valid charges), total size `d`, the requested direction, no sub-structure -/
def IxOk (sym : Sym) (d : Nat) (dual : Bool) (ix : Index) : Prop :=
  Index.wfB sym ix = true ∧ ix.sizeTotal = d ∧ ix.dual = dual ∧ ix.sub = none

theorem mkIndex_ok {sym : Sym} {cs : List Charge} {ss : List Nat} {d : Nat} (dual : Bool)
    (hnd : cs.Nodup) (hv : ∀ c ∈ cs, sym.valid c = true) (hp : ∀ s ∈ ss, 0 < s)
    (hl : ss.length ≤ cs.length) (hs : sumN ss = d) : IxOk sym d dual (mkIndex cs ss dual) := by
  obtain ⟨a, b, c, e⟩ := mkIndex_wf (sym := sym) dual hnd hv hp hl
  exact ⟨a, b.trans hs, c, e⟩

theorem randZ2Index_wf {d : Nat} (dual : Option Bool) {ss : Subsizes} {dr : Draws}
    (hd : 0 < d) (hm : modeOkB .Z2 d ss dr = true) :
    ∃ ix, randZ2Index (.size d) dual ss dr = .ok ix ∧ IxOk .Z2 d (dual.getD dr.dual) ix := by
  by_cases h1 : d = 1
  · subst h1
    have key : ∀ c : Nat, c ≤ 1 →
        IxOk .Z2 1 (dual.getD dr.dual) (mkIndex [((c : Int), 0)] [1] (dual.getD dr.dual)) := by
      intro c hc
      apply mkIndex_ok _ (by simp) _ (by simp) (by simp) (by simp [sumN])
      intro x hx'
      simp only [List.mem_cons, List.not_mem_nil, or_false] at hx'
      subst hx'
      have : c = 0 ∨ c = 1 := by omega
      rcases this with h | h <;> rw [h] <;> rfl
    cases ss with
    | explicit _ => simp [modeOkB] at hm
    | random =>
      simp only [modeOkB, drawsOkB, beq_self_eq_true, if_true, decide_eq_true_eq] at hm
      exact ⟨_, rfl, key _ hm⟩
    | equal => exact ⟨_, rfl, key 0 (by omega)⟩
    | maximal => exact ⟨_, rfl, key 0 (by omega)⟩
    | minimal => exact ⟨_, rfl, key 0 (by omega)⟩
  · have hne : (d == 1) = false := by simpa using h1
    have key : ∀ d0 d1 : Nat, 0 < d0 → 0 < d1 → d0 + d1 = d →
        IxOk .Z2 d (dual.getD dr.dual) (mkIndex [(0, 0), (1, 0)] [d0, d1] (dual.getD dr.dual)) := by
      intro d0 d1 h0 h1' hs
      apply mkIndex_ok _ (by decide) (by decide) _ (by simp) (by simp only [sumN]; omega)
      intro s hs'
      simp only [List.mem_cons, List.not_mem_nil, or_false] at hs'
      rcases hs' with rfl | rfl <;> assumption
    have hun : ∀ p, z2Sizes d ss dr = .ok p → randZ2Index (.size d) dual ss dr
        = .ok (z2Index d (dual.getD dr.dual) p) := by
      intro p hp
      simp only [randZ2Index, hne, Bool.false_eq_true, if_false, hp]
      rfl
    cases ss with
    | explicit _ => simp [modeOkB] at hm
    | random =>
      simp only [modeOkB, drawsOkB, hne, Bool.false_eq_true, if_false, Bool.and_eq_true,
        decide_eq_true_eq] at hm
      exact ⟨_, hun (some (dr.d0, d - dr.d0)) rfl, key _ _ (by omega) (by omega) (by omega)⟩
    | equal => exact ⟨_, hun (some (d / 2, d - d / 2)) rfl, key _ _ (by omega) (by omega) (by omega)⟩
    | maximal => exact ⟨_, hun (some (d / 2, d - d / 2)) rfl, key _ _ (by omega) (by omega) (by omega)⟩
    | minimal =>
      refine ⟨_, hun none rfl, mkIndex_ok _ (by simp) (by decide) ?_ (by simp) (by simp [sumN])⟩
      intro s hs; simp at hs; omega

/-- (finding `rand-z2-index-minimal-zero-size`) "minimal" mode on Z2 returns exactly
    the single-charge table `{0: d}` — no entry for the odd charge — and it is well formed, for
    every `d ≥ 1` -/
theorem randZ2Index_minimal_single_charge (d : Nat) (hd : 1 ≤ d) (dual : Option Bool) (dr : Draws) :
    ∃ ix, randZ2Index (.size d) dual .minimal dr = .ok ix
      ∧ ix.cm = [((0, 0), d)] ∧ IxOk .Z2 d (dual.getD dr.dual) ix := by
  obtain ⟨ix, h1, h2⟩ := randZ2Index_wf (d := d) (ss := .minimal) (dr := dr) dual hd rfl
  refine ⟨ix, h1, ?_, h2⟩
  by_cases hd1 : d = 1
  · subst hd1
    cases h1
    rfl
  · have hne : (d == 1) = false := by simpa using hd1
    have : randZ2Index (.size d) dual .minimal dr
        = .ok (mkIndex [(0, 0)] [d] (dual.getD dr.dual)) := by
      simp only [randZ2Index, hne, Bool.false_eq_true, if_false, z2Sizes]; rfl
    rw [this] at h1
    cases h1
    rfl

theorem possibleZ2Z2_take_ok (k : Nat) :
    (possibleZ2Z2.take k).Nodup ∧ ∀ c ∈ possibleZ2Z2.take k, Sym.valid .Z2Z2 c = true := by
  refine ⟨(by decide : possibleZ2Z2.Nodup).sublist (List.take_sublist _ _), ?_⟩
  intro c hc
  have hc' := List.mem_of_mem_take hc
  clear hc
  revert c
  decide

theorem randZ2Z2Index_wf {d : Nat} (dual : Option Bool) {ss : Subsizes} {dr : Draws}
    (hd : 0 < d) (hm : modeOkB .Z2Z2 d ss dr = true) :
    ∃ ix, randZ2Z2Index (.size d) dual ss dr = .ok ix ∧ IxOk .Z2Z2 d (dual.getD dr.dual) ix := by
  have hequal : IxOk .Z2Z2 d (dual.getD dr.dual) (Index.plain (z2z2EqualCm d) (dual.getD dr.dual)) := by
    unfold z2z2EqualCm
    simp only []
    rw [zipIdx_map_eq_zip (possibleZ2Z2.take (min d 4)) (fun i => d / 4 + (if i < d % 4 then 1 else 0))]
    have hlen : (possibleZ2Z2.take (min d 4)).length = min d 4 := by
      rw [List.length_take]; simp [possibleZ2Z2]
    rw [hlen]
    obtain ⟨hnd, hv⟩ := possibleZ2Z2_take_ok (min d 4)
    apply mkIndex_ok (dual.getD dr.dual) hnd hv
    · intro s hs
      simp only [List.mem_map, List.mem_range] at hs
      obtain ⟨i, hi, rfl⟩ := hs
      by_cases h4 : 4 ≤ d
      · have : 0 < d / 4 := Nat.div_pos h4 (by omega)
        omega
      · have h1 : d % 4 = d := Nat.mod_eq_of_lt (by omega)
        have h2 : i < d := by omega
        rw [h1, if_pos h2]; omega
    · simp [hlen]
    · rw [sumN_range_step]
      by_cases h4 : 4 ≤ d
      · have h1 : d % 4 < 4 := Nat.mod_lt _ (by omega)
        rw [Nat.min_eq_right h4, Nat.min_eq_right (by omega)]
        have := Nat.div_add_mod d 4
        omega
      · have h1 : d % 4 = d := Nat.mod_eq_of_lt (by omega)
        have h2 : d / 4 = 0 := Nat.div_eq_of_lt (by omega)
        rw [h1, h2, Nat.min_eq_left (by omega : d ≤ 4)]
        simp
  cases ss with
  | explicit _ => simp [modeOkB] at hm
  | equal => exact ⟨_, rfl, hequal⟩
  | maximal => exact ⟨_, rfl, hequal⟩
  | minimal =>
    refine ⟨_, rfl, mkIndex_ok _ (by simp) (by decide) ?_ (by simp) (by simp [sumN])⟩
    intro s hs; simp at hs; omega
  | random =>
    simp only [modeOkB, drawsOkB] at hm
    by_cases h4 : d < 4
    · simp only [h4, if_true, Bool.and_eq_true, beq_iff_eq, List.all_eq_true] at hm
      obtain ⟨⟨hl, hdist⟩, hmem⟩ := hm
      refine ⟨Index.plain (adict (dr.charges.map (fun c => (c, 1)))) (dual.getD dr.dual),
        by simp only [randZ2Z2Index, h4, if_true], ?_⟩
      rw [map_pair_eq_zip]
      apply mkIndex_ok (dual.getD dr.dual) (allDistinct_iff_nodup.mp hdist)
      · intro c hc
        have := hmem c hc
        simp only [List.contains_eq_mem, decide_eq_true_eq] at this
        clear hc
        revert c
        decide
      · intro s hs; rw [(List.mem_replicate.mp hs).2]; exact Nat.one_pos
      · simp
      · rw [sumN_replicate, hl]; omega
    · simp only [h4, if_false, Bool.or_eq_true, beq_iff_eq] at hm
      obtain ⟨parts, p1, p2, p3, p4⟩ := randPartition_spec (d := d) (n := 4) (draw := dr.splits)
        (by omega) (by omega) hm
      refine ⟨mkIndex possibleZ2Z2 parts (dual.getD dr.dual), ?_, ?_⟩
      · simp only [randZ2Z2Index, h4, if_false, p1]; rfl
      · exact mkIndex_ok _ (by decide) (by decide) p3 (by rw [p2]; rfl) p4

theorem modeOk_chargeSizes {sym : Sym} (hs : sym = .U1 ∨ sym = .U1U1) {d : Nat} {ss : Subsizes}
    {dr : Draws} (hm : modeOkB sym d ss dr = true) : SizesOk d ss dr := by
  cases ss with
  | equal => trivial
  | maximal => trivial
  | minimal => trivial
  | explicit _ => simp [modeOkB] at hm
  | random =>
    rcases hs with rfl | rfl <;>
    · simp only [modeOkB, drawsOkB, Bool.and_eq_true, decide_eq_true_eq, Bool.or_eq_true,
        beq_iff_eq] at hm
      exact ⟨hm.1.1, hm.1.2, hm.2⟩

theorem randU1Index_wf {d : Nat} (dual : Option Bool) {ss : Subsizes} {dr : Draws}
    (hd : 0 < d) (hm : modeOkB .U1 d ss dr = true) :
    ∃ ix, randU1Index (.size d) dual ss dr = .ok ix ∧ IxOk .U1 d (dual.getD dr.dual) ix := by
  obtain ⟨nc, sizes, h1, h2, h3, h4⟩ :=
    chargeSizes_spec (nequal := 3) (by omega) hd (modeOk_chargeSizes (Or.inl rfl) hm)
  obtain ⟨c1, c2, c3⟩ := u1Charges_spec nc
  refine ⟨mkIndex ((u1Charges nc).map (fun c => (c, 0))) sizes (dual.getD dr.dual),
    by simp only [randU1Index, h1, Except.map], ?_⟩
  exact mkIndex_ok _ c2 c3 h3 (by rw [c1, h2]) h4

theorem randU1U1Index_wf {d : Nat} (dual : Option Bool) {ss : Subsizes} {dr : Draws}
    (hd : 0 < d) (hm : modeOkB .U1U1 d ss dr = true) :
    ∃ ix, randU1U1Index (.size d) dual ss dr = .ok ix ∧ IxOk .U1U1 d (dual.getD dr.dual) ix := by
  obtain ⟨nc, sizes, h1, h2, h3, h4⟩ :=
    chargeSizes_spec (nequal := 9) (by omega) hd (modeOk_chargeSizes (Or.inr rfl) hm)
  refine ⟨mkIndex (u1u1Charges nc) sizes (dual.getD dr.dual),
    by simp only [randU1U1Index, h1, Except.map], ?_⟩
  exact mkIndex_ok _ (u1u1Charges_nodup nc) (fun _ _ => rfl) h3
    (by rw [u1u1Charges_length, h2]) h4

/-- for every supported symmetry, `d ≥ 1`, direction and mode in {"equal", "maximal", "minimal"}
    (and `None` with draws numpy can return), `rand_index(symmetry, d, dual, subsizes)` returns an
    index that is well formed (strictly sorted valid charges, POSITIVE sizes), of total size `d`,
    of the requested direction, without sub-structure -/
theorem randIndex_wf {sym : Sym} {d : Nat} (dual : Option Bool) {ss : Subsizes} {dr : Draws}
    (hs : sym ≠ .Z4) (hd : 0 < d) (hm : modeOkB sym d ss dr = true) :
    ∃ ix, randIndex sym (.size d) dual ss dr = .ok ix ∧ IxOk sym d (dual.getD dr.dual) ix := by
  cases sym with
  | Z4 => exact absurd rfl hs
  | Z2 => exact randZ2Index_wf dual hd hm
  | Z2Z2 => exact randZ2Z2Index_wf dual hd hm
  | U1 => exact randU1Index_wf dual hd hm
  | U1U1 => exact randU1U1Index_wf dual hd hm

/-- an unsupported symmetry is a `ValueError` -/
theorem randIndex_unsupported (d : DArg) (dual : Option Bool) (ss : Subsizes) (dr : Draws) :
    randIndex .Z4 d dual ss dr = .error Err.value := rfl

/-- the explicit sizes the generators can honour: positive, summing to `d`; Z2 needs exactly two
    (and `d ≠ 1`, see `randZ2Index_explicit_d1_ignored`), Z2Z2 at most four -/
def explicitOkB (sym : Sym) (d : Nat) (sizes : List Nat) : Bool :=
  sizes.all (fun s => decide (0 < s)) && sumN sizes == d
  && (match sym with
      | .Z2 => d != 1 && sizes.length == 2
      | .Z2Z2 => decide (sizes.length ≤ 4)
      | .U1 => true
      | .U1U1 => true
      | .Z4 => false)

theorem randIndex_explicit_wf {sym : Sym} {d : Nat} (dual : Option Bool) {sizes : List Nat} {dr : Draws}
    (hm : explicitOkB sym d sizes = true) :
    ∃ ix, randIndex sym (.size d) dual (.explicit sizes) dr = .ok ix ∧ IxOk sym d (dual.getD dr.dual) ix := by
  simp only [explicitOkB, Bool.and_eq_true, List.all_eq_true, decide_eq_true_eq, beq_iff_eq] at hm
  obtain ⟨⟨hp, hsum⟩, hsym⟩ := hm
  cases sym with
  | Z4 => exact absurd hsym (by simp)
  | U1 =>
    obtain ⟨c1, c2, c3⟩ := u1Charges_spec sizes.length
    exact ⟨_, rfl, mkIndex_ok _ c2 c3 hp (by rw [c1]) hsum⟩
  | U1U1 =>
    exact ⟨_, rfl, mkIndex_ok _ (u1u1Charges_nodup _) (fun _ _ => rfl) hp
      (by rw [u1u1Charges_length]) hsum⟩
  | Z2Z2 =>
    simp only [decide_eq_true_eq] at hsym
    exact ⟨_, rfl, mkIndex_ok _ (by decide) (by decide) hp hsym hsum⟩
  | Z2 =>
    simp only [Bool.and_eq_true, bne_iff_ne, ne_eq, beq_iff_eq] at hsym
    obtain ⟨h1, h2⟩ := hsym
    have hne : (d == 1) = false := by simpa using h1
    match sizes, h2 with
    | [a, b], _ =>
      refine ⟨mkIndex [(0, 0), (1, 0)] [a, b] (dual.getD dr.dual), ?_, ?_⟩
      · simp only [randIndex, randZ2Index, hne, Bool.false_eq_true, if_false, z2Sizes]; rfl
      · exact mkIndex_ok _ (by decide) (by decide) hp (by simp) hsum

/-- FINDING: zeros in an explicit sequence are stored as they are, for every symmetry -/
theorem randIndex_explicit_zero_counterexample :
    (∃ ix, randIndex .U1 (.size 3) (some false) (.explicit [1, 0, 2]) default = .ok ix
        ∧ ix.cm = [((-1, 0), 2), ((0, 0), 1), ((1, 0), 0)] ∧ Index.wfB .U1 ix = false)
    ∧ (∃ ix, randIndex .Z2 (.size 3) (some false) (.explicit [0, 3]) default = .ok ix
        ∧ ix.cm = [((0, 0), 0), ((1, 0), 3)] ∧ Index.wfB .Z2 ix = false)
    ∧ (∃ ix, randIndex .Z2Z2 (.size 3) (some false) (.explicit [1, 0, 2]) default = .ok ix
        ∧ Index.wfB .Z2Z2 ix = false)
    ∧ (∃ ix, randIndex .U1U1 (.size 3) (some false) (.explicit [1, 0, 2]) default = .ok ix
        ∧ Index.wfB .U1U1 ix = false) :=
  ⟨⟨_, rfl, by decide, by decide⟩, ⟨_, rfl, by decide, by decide⟩, ⟨_, rfl, by decide⟩,
    ⟨_, rfl, by decide +kernel⟩⟩

/-- FINDING: for `d == 1` `rand_z2_index` ignores an explicit sequence: asking for the single
    state to carry charge 1 (`subsizes=(0, 1)`) returns `{0: 1}` -/
theorem randZ2Index_explicit_d1_ignored (sizes : List Nat) (dual : Option Bool) (dr : Draws) :
    randZ2Index (.size 1) dual (.explicit sizes) dr = .ok (mkIndex [(0, 0)] [1] (dual.getD dr.dual)) := rfl

/-- FINDING: Z2Z2 silently drops every explicit size after the fourth (total 4, not 5) -/
theorem randZ2Z2Index_explicit_truncates :
    ∃ ix, randZ2Z2Index (.size 5) (some false) (.explicit [1, 1, 1, 1, 1]) default = .ok ix
      ∧ ix.sizeTotal = 4 := ⟨_, rfl, by decide⟩

/-- an explicit sequence of the wrong length is a `ValueError` for Z2 (`d0, d1 = subsizes`) -/
theorem randZ2Index_explicit_unpack (d : Nat) (hd : d ≠ 1) (sizes : List Nat) (hl : sizes.length ≠ 2)
    (dual : Option Bool) (dr : Draws) :
    randZ2Index (.size d) dual (.explicit sizes) dr = .error Err.value := by
  have hne : (d == 1) = false := by simpa using hd
  simp only [randZ2Index, hne, Bool.false_eq_true, if_false, z2Sizes]
  match sizes, hl with
  | [], _ => rfl
  | [_], _ => rfl
  | [_, _], h => exact absurd rfl h
  | _ :: _ :: _ :: _, _ => rfl

/-- FINDING: `rand_index("Z2Z2", d)` does not accept the documented dict form of `d`: `TypeError`
    for `subsizes` `None`, "equal" and "maximal" -/
theorem randZ2Z2Index_dict_type_error (cm : List (Charge × Nat)) (dual : Option Bool) (dr : Draws) :
    randZ2Z2Index (.dict cm) dual .random dr = .error Err.type
    ∧ randZ2Z2Index (.dict cm) dual .equal dr = .error Err.type
    ∧ randZ2Z2Index (.dict cm) dual .maximal dr = .error Err.type :=
  ⟨rfl, rfl, rfl⟩

/-- `rand_partition(d, n)` for `1 ≤ n ≤ d` returns `n` POSITIVE parts summing to `d`, for every
    draw numpy can return (`n - 1` distinct values of `range(1, d - 1)`; none needed if `d = n`) -/
theorem randPartition_parts {d n : Nat} {draw : List Nat} (hn : 0 < n) (hnd : n ≤ d)
    (hok : d = n ∨ drawOkB d n draw = true) :
    ∃ parts, randPartition d n draw = .ok parts ∧ parts.length = n ∧ (∀ p ∈ parts, 0 < p)
      ∧ sumN parts = d :=
  randPartition_spec hn hnd hok

/-- FINDING (bias, not a validity defect): the split points come from `range(1, d - 1)`, which
    omits `d - 1`, so whenever `d ≠ n` the LAST part is at least 2 — compositions ending in 1 are
    never produced -/
theorem randPartition_last_ge_two {d n : Nat} {draw : List Nat} (hd : 0 < d) (hdn : d ≠ n) (hn : 0 < n)
    (hok : drawOkB d n draw = true) :
    ∃ parts, randPartition d n draw = .ok parts ∧ 2 ≤ parts.getLast?.getD 0 := by
  obtain ⟨parts, h1, _, _, _, h5⟩ := randPartition_general hd hdn hn hok
  exact ⟨parts, h1, h5⟩

/-- more parts than `d`, or none, is a `ValueError` (numpy refuses the sample) -/
theorem randPartition_error {d n : Nat} (draw : List Nat) (h : (0 < d ∧ d < n) ∨ (n = 0 ∧ d ≠ 0)) :
    randPartition d n draw = .error Err.value := by
  unfold randPartition
  rcases h with ⟨h0, h⟩ | ⟨h1, h2⟩
  · have h1 : (d == n) = false := by simpa using (by omega : d ≠ n)
    simp only [h1, Bool.false_eq_true, if_false]
    split
    · rfl
    · rw [if_pos (by omega)]; rfl
  · subst h1
    have h1 : (d == 0) = false := by simpa using h2
    simp only [h1, Bool.false_eq_true, if_false, beq_self_eq_true, if_true]
    rfl

/-- `get_u1_charges(n)` / `get_u1u1_charges(n)`: exactly `n` pairwise distinct charges -/
theorem chargeSequences_spec (n : Nat) :
    (u1Charges n).length = n ∧ (u1Charges n).Nodup
    ∧ (u1u1Charges n).length = n ∧ (u1u1Charges n).Nodup :=
  ⟨u1Charges_length n, u1Charges_nodup n, u1u1Charges_length n, u1u1Charges_nodup n⟩

/-- `choose_duals`: one entry per dimension in every accepted form; the only error is a sequence
    of the wrong length (`ValueError`); "equal" makes the first `ndim // 2` entries False -/
theorem chooseDuals_spec (a : DualsArg) (ndim : Nat) :
    (∀ l, chooseDuals a ndim = .ok l → l.length = ndim)
    ∧ ((∃ e, chooseDuals a ndim = .error e) ↔ ∃ s, a = .seq s ∧ s.length ≠ ndim)
    ∧ (∀ e, chooseDuals a ndim = .error e → e = Err.value)
    ∧ (a = .equal → chooseDuals a ndim
        = .ok ((List.range ndim).map (fun i => some (decide (ndim / 2 ≤ i))))) := by
  cases a with
  | equal =>
    refine ⟨?_, ⟨?_, ?_⟩, ?_, fun _ => rfl⟩
    · intro l h; cases h; simp
    · rintro ⟨e, h⟩; cases h
    · rintro ⟨s, h, _⟩; cases h
    · intro e h; cases h
  | none =>
    refine ⟨?_, ⟨?_, ?_⟩, ?_, ?_⟩
    · intro l h; cases h; simp
    · rintro ⟨e, h⟩; cases h
    · rintro ⟨s, h, _⟩; cases h
    · intro e h; cases h
    · intro h; cases h
  | all b =>
    refine ⟨?_, ⟨?_, ?_⟩, ?_, ?_⟩
    · intro l h; cases h; simp
    · rintro ⟨e, h⟩; cases h
    · rintro ⟨s, h, _⟩; cases h
    · intro e h; cases h
    · intro h; cases h
  | seq s =>
    by_cases hl : s.length = ndim
    · have hk : chooseDuals (.seq s) ndim = .ok s := by simp [chooseDuals, hl]; rfl
      refine ⟨?_, ⟨?_, ?_⟩, ?_, ?_⟩
      · intro l h; rw [hk] at h; cases h; exact hl
      · rintro ⟨e, h⟩; rw [hk] at h; cases h
      · rintro ⟨s', h, h'⟩; cases h; exact absurd hl h'
      · intro e h; rw [hk] at h; cases h
      · intro h; cases h
    · have hk : chooseDuals (.seq s) ndim = .error Err.value := by simp [chooseDuals, hl]; rfl
      refine ⟨?_, ⟨?_, ?_⟩, ?_, ?_⟩
      · intro l h; rw [hk] at h; cases h
      · intro _; exact ⟨s, rfl, hl⟩
      · intro _; exact ⟨_, hk⟩
      · intro e h; rw [hk] at h; cases h; rfl
      · intro h; cases h

/-- C20 anchor utils.py:50-61: the blocks produced by `get_random_fill_fn(dtype=…)` have exactly
    the requested dtype; the final `astype` runs for every dtype other than float64 / complex128 -/
theorem fillDtype_eq (dtype : DType) :
    fillDtype dtype = dtype
    ∧ (fillCasts dtype = true ↔ (dtype = .f32 ∨ dtype = .c64)) := by
  cases dtype <;> exact ⟨rfl, by decide⟩

/-- `get_rand_blockvector(size, block_size)`: positive block sizes summing to `size`, whatever the
    Poisson draw -/
theorem randBlockSizes_spec (size bs0 : Nat) :
    (∀ b ∈ randBlockSizes size bs0, 0 < b) ∧ sumN (randBlockSizes size bs0) = size := by
  have := blockLoop_spec size size 0 bs0 (Nat.zero_le _) (by omega)
  exact ⟨this.1, by rw [randBlockSizes, this.2]; omega⟩

/-- one entry of `shape` is acceptable with the draws `dr`: a size `d ≥ 1` in a mode covered by
    `randIndex_wf` (every deterministic mode; `None` with admissible draws), a dict or a ready index
    that is well formed -/
def entryOkB (sym : Sym) (ss : Subsizes) (e : ShapeEntry) (dr : Draws) : Bool :=
  match e with
  | .size d => decide (0 < d) && modeOkB sym d ss dr
  | .dict cm => Index.wfB sym (dictIndex cm false) && Index.wfB sym (dictIndex cm true)
  | .index ix => Index.wfB sym ix

theorem entryIndex_wf {sym : Sym} {ss : Subsizes} {e : ShapeEntry} {f : Option Bool} {dr : Draws}
    (hs : sym ≠ .Z4) (h : entryOkB sym ss e dr = true) {ix : Index}
    (hix : entryIndex sym ss e f dr = .ok ix) : Index.wfB sym ix = true := by
  cases e with
  | index ix' => cases hix; exact h
  | dict cm =>
    cases hix
    simp only [entryOkB, Bool.and_eq_true] at h
    cases hf : f.getD false
    · exact h.1
    · exact h.2
  | size d =>
    simp only [entryOkB, Bool.and_eq_true, decide_eq_true_eq] at h
    obtain ⟨hd, hm⟩ := h
    obtain ⟨ix', h1, h2⟩ := randIndex_wf (sym := sym) f hs hd hm
    have : entryIndex sym ss (.size d) f dr = randIndex sym (.size d) f ss dr := rfl
    rw [this, h1] at hix
    cases hix
    exact h2.1

/-- **`get_rand` returns a valid array** (`Arr.validB`): for a supported symmetry, acceptable
    `shape` entries (with every draw that can be used), a valid total charge, consistent
    odd-position labels and a fill function honouring the requested shapes — whatever `duals`
    form and whatever is drawn for the directions.  Reuses `from_fill_fn`'s validity theorem. -/
theorem getRand_valid {R : Type} {sym : Sym} {shape : List ShapeEntry} {duals : DualsArg}
    {charge : Option Charge} {fermi : Bool} {ss : Subsizes} {draws : List Draws}
    {fill : Sector → List Nat → Blk R} {oddpos : List (Int × Bool)} {a : Arr R}
    (hs : sym ≠ .Z4)
    (hshape : ∀ e ∈ shape, ∀ dr, (dr = default ∨ dr ∈ draws) → entryOkB sym ss e dr = true)
    (hc : sym.valid (charge.getD sym.zero) = true)
    (hodd : ValidP.oddposOkB sym fermi (charge.getD sym.zero) oddpos = true)
    (hfill : ∀ indices, ValidP.FillOk indices fill)
    (h : getRand sym shape duals charge fermi ss draws fill oddpos = .ok a) : a.validB = true := by
  unfold getRand at h
  have hz : (sym == Sym.Z4) = false := by simpa using hs
  simp only [hz, Bool.false_eq_true, if_false] at h
  obtain ⟨dl, _, h⟩ := bind_ok h
  obtain ⟨indices, hidx, h⟩ := bind_ok h
  have hF := mapM_ok_forall₂ _ _ _ hidx
  have hwf : ∀ i ∈ indices, Index.wfB sym i = true := by
    intro ix hix
    obtain ⟨⟨⟨e, f⟩, i⟩, hmem, hok⟩ := forall₂_mem_right hF hix
    simp only at hok
    have hef : (e, f) ∈ shape.zip dl := by
      have := List.mem_zipIdx hmem
      simp only [Nat.zero_le, Nat.zero_add, Nat.sub_zero, true_and] at this
      rw [this.2]; exact List.getElem_mem _
    have he : e ∈ shape := (List.of_mem_zip hef).1
    refine entryIndex_wf hs (hshape _ he _ ?_) hok
    rw [List.getD_eq_getElem?_getD]
    cases hg : draws[i]? with
    | none => exact Or.inl rfl
    | some dr => exact Or.inr (List.mem_of_getElem? hg)
  refine ValidP.fromFillFn_valid (indices := indices) ?_ (hfill indices) h
  simp only [ValidP.fromFillFnOkB, Bool.and_eq_true]
  exact ⟨⟨Index.wfListB_iff.mpr hwf, hc⟩, hodd⟩

/-! ## examples: the hypotheses are satisfiable, the model computes what the code returns -/

section Examples
open ValidP

example : modeOkB .U1 7 .equal default = true ∧ modeOkB .Z2 2 .minimal default = true := by decide
example : drawOkB 9 4 [7, 2, 1] = true ∧ randPartition 9 4 [7, 2, 1] = .ok [1, 1, 5, 2] := by decide
example : drawsOkB .U1 9 { ncharge := 4, splits := [7, 2, 1] } = true := by decide
example : drawsOkB .Z2Z2 3 { charges := [(1, 1), (1, 0), (0, 0)] } = true := by decide
example : explicitOkB .U1 3 [1, 2] = true ∧ explicitOkB .Z2 3 [1, 2] = true := by decide
example : u1Charges 5 = [0, 1, -1, 2, -2] := by decide
example : u1u1Charges 6 = [(0, 0), (0, 1), (1, 0), (-1, 0), (0, -1), (1, 1)] := by decide +kernel
example : (randIndex .U1 (.size 10) (some false) .equal default).toOption.map Index.cm
    = some [((-1, 0), 3), ((0, 0), 4), ((1, 0), 3)] := by decide
example : (randIndex .Z2 (.size 5) (some true) .minimal default).toOption.map Index.cm
    = some [((0, 0), 5)] := by decide
example : entryOkB .U1 .maximal (.size 3) default = true
    ∧ entryOkB .Z2 .minimal (.size 3) default = true
    ∧ entryOkB .Z2 .minimal (.size 0) default = false := by decide
example : randBlockSizes 10 3 = [3, 3, 3, 1] := by decide
example (a : Arr Int)
    (h : getRand .U1 [.size 3, .size 4] .equal none false .maximal [] ValidP.exFill [] = .ok a) :
    a.validB = true :=
  getRand_valid (by decide) (by
    intro e he dr _
    simp only [List.mem_cons, List.not_mem_nil, or_false] at he
    rcases he with rfl | rfl <;> simp [entryOkB, modeOkB]) (by decide) (by decide)
    (fun idx => ValidP.fillOk_ofFn idx _) h

end Examples

end SymmModel.C16
