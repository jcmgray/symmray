/-
  Property C10, network clause — bracketings of the two-tensor norm network `{a, b, ā, b̄}` that
  FIRST contract a ket tensor with its bra tensor.

  `a`, `b` as in C10g: valid fermionic, bonded along `xa`/`xb` (`tdotAdmissibleB`), sorted distinct ket
  labels (`KetLabels`, all labels distinct; the hypothesis `netLabelsB` of C10e/f in the statements is implied
  by the distinct labels, `LabelAlg.netLabelsB_of_distinct`); blockwise mode;
  commutative scalars (`hmul`), `AddCommMonoid`, `NetLaws`, `AssocLaws`.  `ā = braOf a xa`,
  `b̄ = braOf b xb`, `K = a·b`, `X = ā·a` (contracted over all dangling legs of `a`).

  PROVED
  * `network_norm_ketbra_first` (`KetBraFirst a b xa xb`, written out in `ketBraFirst_def`): the calls of
        `((b̄·ā)·a)·b`,   `(b̄·(ā·a))·b`,   `((ā·a)·b̄)·b`
    all succeed; `ā·a` carries NO label (`X.oddpos = []`: the nested conjugate pairs annihilate,
    `merge_nested`); the three final results have rank 0, no labels and the value `normSq K = Σ|K|²` —
    no stray sign.  Additional hypothesis: the decidable label check `ketBraLabelsB` (= `LabelRoutes` of
    the triangle `(b̄, ā, a)`).
    Derivation: `((b̄·ā)·a)·b` is `network_norm_mixed_seq` (C10g) for `(b, a)`; S7 under the weak guard
    for `(b̄, ā, a)` + congruence of the full contraction (`scalar_congr`) give `(b̄·(ā·a))·b`; since `ā·a` has
    no label, S5 as an equivalence (`C04.tdotF_swap_eqv`) applies to `b̄·(ā·a)` / `(ā·a)·b̄`, and S6 for a
    full contraction (`scalar_pre`) + congruence give `((ā·a)·b̄)·b`.  The axes of the last call are the
    positions `positions (kbRot …) (kbU …)` of the legs under the rotation of the two blocks
    (`kbAxes_example` evaluates them).
  * `network_norm_ketbra_first_oneKet`: at most one ket label per tensor — the statement holds for
    `(a, b)` or with the roles of the two tensors exchanged (`KetBraFirst b a xb xa`: first `b̄·b`).
  * `network_norm_ketbra_first_lt`: one label each, `label a < label b`: `KetBraFirst a b xa xb`.
  * FINDING-LIKE FACT `ketBraLabels_order`: with `label a > label b` the two routes `(b̄·ā)·a` and
    `b̄·(ā·a)` end with DIFFERENT label lists (`[(la,†),(lb,†),(la, )]` against `[(lb,†)]`: the label scan
    of `resolve_combined_oddpos` does not bring the conjugate pair together), so the intermediates are not
    `Eqv` although all final values agree (`ketbra_vals_order`: `Σ|K|²` on all routes for both label
    orders) — this is why the check `ketBraLabelsB` is needed and why the one-label corollary is a
    disjunction.

  NOT COVERED HERE, and where it is:
  * `(ā·a)·(b̄·b)` itself and the routes `((ā·a)·b̄)·b` with their axes lists in closed form: C10j (the hub);
    `ketbra_vals_order` evaluates this bracketing on a concrete network;
  * the case `label a > label b`: the VALUE of the one route through `(b̄·ā)·a`, `((b̄·ā)·a)·b`, is there for all
    sorted distinct ket label lists (it is `network_norm_mixed_seq` of C10g with the roles `(b, a)`), and the
    other two routes are hub routes (C10j, both orders); open is only the `Eqv` of the INTERMEDIATES
    `(b̄·ā)·a` and `b̄·(ā·a)`, which carry different label lists (needs a form of S7 up to the label lists);
  * fused / auto mode: C10j; the mirror images `a·ā` first: C10k; nested routes of the three-tensor chain
    (`c̄·(b̄·(ā·K3))`): open, evaluated in C10k.
-/
import SymmModel.Proofs.NetNormK3
import SymmModel.Props.C10Vals

namespace SymmModel.C10
open SymmModel Lazy Norm NormNet TdotP
set_option linter.unusedSectionVars false

theorem ketBraLabelsB_def (pA pB : Bool) (oA oB : List (Int × Bool)) :
    ketBraLabelsB pA pB oA oB
      = C04.labelRoutesB pB pA (Arr.oddposDag oB) (Arr.oddposDag oA) oA := rfl

theorem kbAxes_def {R : Type} (a b : Arr R) (xa xb : List Nat) :
    kbU a b xa xb
      = Assoc2P.axesAB ((freeAxes b.ndim xb).length + (freeAxes a.ndim xa).length) a.ndim
          ((List.range (freeAxes a.ndim xa).length).map ((freeAxes b.ndim xb).length + ·))
          (List.range (freeAxes b.ndim xb).length) (freeAxes a.ndim xa) xa
    ∧ kbX a xa = Assoc2P.axesBC a.ndim a.ndim xa (freeAxes a.ndim xa) (freeAxes a.ndim xa) []
    ∧ kbRot a b xa xb
      = Assoc5P.rotB (freeAxes b.ndim xb).length (freeAxes ((freeAxes a.ndim (freeAxes a.ndim xa)).length
          + (freeAxes a.ndim (freeAxes a.ndim xa)).length) (kbX a xa)).length := ⟨rfl, rfl, rfl⟩

/-- on a concrete shape (`a` of rank 3 bonded by leg 2, `b` of rank 3 bonded by leg 0): `b̄·(ā·a)` has the
    legs `[b̄'s two dangling legs, a's bond leg]`, all contracted with `b` (`fB ++ xb = [1, 2, 0]`);
    `ā·a` is bonded to `b̄` by its leg 0; `(ā·a)·b̄` has the legs `[a's bond leg, b̄'s dangling legs]` -/
theorem kbAxes_example :
    kbU C03.gA C03.gB [2] [0] = [0, 1, 2] ∧ kbX C03.gA [2] = [0]
    ∧ kbRot C03.gA C03.gB [2] [0] = [2, 0, 1]
    ∧ RoutesP.positions (kbRot C03.gA C03.gB [2] [0]) (kbU C03.gA C03.gB [2] [0]) = [1, 2, 0] := by
  decide +kernel

theorem ketBraFirst_def {R : Type} [AddCommMonoid R] [Mul R] [Neg R] [Conj R] [NetLaws R]
    [AssocP.AssocLaws R] (a b : Arr R) (xa xb : List Nat) :
    KetBraFirst a b xa xb ↔
    ∃ K Kb' T X BX XB,
      a.tensordotF b (.pair (xa.map Int.ofNat) (xb.map Int.ofNat)) .blockwise = .ok K
      -- ((b̄·ā)·a)·b
      ∧ (NormNet.braOf b xb).tensordotF (NormNet.braOf a xa)
          (.pair (xb.map Int.ofNat) (xa.map Int.ofNat)) .blockwise = .ok Kb'
      ∧ Kb'.tensordotF a (.pair
            (((List.range (freeAxes a.ndim xa).length).map ((freeAxes b.ndim xb).length + ·)).map
              Int.ofNat) ((freeAxes a.ndim xa).map Int.ofNat)) .blockwise = .ok T
      ∧ (∃ c, T.tensordotF b (.pair ((kbU a b xa xb).map Int.ofNat)
            ((freeAxes b.ndim xb ++ xb).map Int.ofNat)) .blockwise = .ok c
          ∧ c.ndim = 0 ∧ c.oddpos = [] ∧ c.elem [] [] = normSq K)
      -- ā·a : no label left
      ∧ (NormNet.braOf a xa).tensordotF a (.pair ((freeAxes a.ndim xa).map Int.ofNat)
            ((freeAxes a.ndim xa).map Int.ofNat)) .blockwise = .ok X
      ∧ X.oddpos = []
      -- (b̄·(ā·a))·b
      ∧ (NormNet.braOf b xb).tensordotF X (.pair (xb.map Int.ofNat) ((kbX a xa).map Int.ofNat))
          .blockwise = .ok BX
      ∧ (∃ c, BX.tensordotF b (.pair ((kbU a b xa xb).map Int.ofNat)
            ((freeAxes b.ndim xb ++ xb).map Int.ofNat)) .blockwise = .ok c
          ∧ c.ndim = 0 ∧ c.oddpos = [] ∧ c.elem [] [] = normSq K)
      -- ((ā·a)·b̄)·b
      ∧ X.tensordotF (NormNet.braOf b xb) (.pair ((kbX a xa).map Int.ofNat) (xb.map Int.ofNat))
          .blockwise = .ok XB
      ∧ (∃ c, XB.tensordotF b (.pair
            ((RoutesP.positions (kbRot a b xa xb) (kbU a b xa xb)).map Int.ofNat)
            ((freeAxes b.ndim xb ++ xb).map Int.ofNat)) .blockwise = .ok c
          ∧ c.ndim = 0 ∧ c.oddpos = [] ∧ c.elem [] [] = normSq K) := Iff.rfl

/-! ## generic steps (full contractions under the weak guard) -/

section gen
variable {R : Type} [AddCommMonoid R] [Mul R] [Neg R] [GradedP.SignRing R] [AssocP.AssocLaws R]

theorem scalar_congr {X X' Y r : Arr R} {u v : List Nat} (W : AssocP.AdmW X Y u v)
    (hE : Assoc3P.Eqv X X') (hv' : X'.validB = true)
    (e : X.tensordotF Y (.pair (u.map Int.ofNat) (v.map Int.ofNat)) .blockwise = .ok r)
    (hn : r.ndim = 0) :
    ∃ r', X'.tensordotF Y (.pair (u.map Int.ofNat) (v.map Int.ofNat)) .blockwise = .ok r'
      ∧ r'.ndim = 0 ∧ r'.oddpos = r.oddpos ∧ r'.elem [] [] = r.elem [] [] :=
  NormNet.scalar_congr W hE hv' e hn

/-- S6 for a full contraction: pre-transposing the left operand and re-listing its axes along the
    permutation leaves labels and value unchanged -/
theorem scalar_pre {P Y r : Arr R} {u u' v p : List Nat} (W : AssocP.AdmW P Y u v)
    (hp : p.Perm (List.range P.ndim)) (hu : freeAxes P.ndim u = []) (hv : freeAxes Y.ndim v = [])
    (hn' : u'.Nodup) (hlt' : ∀ i ∈ u', i < P.ndim) (hx : permuted p u' = u)
    (hu' : freeAxes P.ndim u' = [])
    (e : P.tensordotF Y (.pair (u.map Int.ofNat) (v.map Int.ofNat)) .blockwise = .ok r) :
    ∃ c', (P.transposeF p).tensordotF Y (.pair (u'.map Int.ofNat) (v.map Int.ofNat)) .blockwise
          = .ok c'
      ∧ AssocP.AdmW (P.transposeF p) Y u' v
      ∧ c'.ndim = 0 ∧ c'.oddpos = r.oddpos ∧ c'.elem [] [] = r.elem [] [] :=
  NormNet.scalar_pre W hp hu hv hn' hlt' hx hu' e

end gen

/-- nested conjugate pairs annihilate: `ā·a` carries no label -/
theorem merge_nested (p : Bool) (w : List (Int × Bool)) (hk : KetLabels w)
    (hd : w.Pairwise (fun x y => x.1 ≠ y.1)) :
    ∃ s, OddposP.mergeOddpos p (Arr.oddposDag w) w = .ok ([], s) ∧ (s = 1 ∨ s = -1) :=
  NormNet.merge_nested p w hk hd

/-- the label routes of the triangle `(ā·a, b̄, b)`, any sorted ket list -/
theorem labelRoutes_ketbra_piece (pb : Bool) (oB : List (Int × Bool)) (hk : KetLabels oB)
    (hd : oB.Pairwise (fun x y => x.1 ≠ y.1)) :
    Assoc2P.LabelRoutes false pb [] (Arr.oddposDag oB) oB := NormNet.labelRoutes_X pb oB hk hd

/-- at most one ket label per tensor: the check holds for `(a, b)` or for `(b, a)` -/
theorem ketBraLabelsB_oneKet (oA oB : List (Int × Bool)) (hA : OneKet oA) (hB : OneKet oB)
    (hd : (oA ++ oB).Pairwise (fun x y => x.1 ≠ y.1)) :
    ketBraLabelsB (oA.length % 2 == 1) (oB.length % 2 == 1) oA oB = true
    ∨ ketBraLabelsB (oB.length % 2 == 1) (oA.length % 2 == 1) oB oA = true :=
  NormNet.ketBraLabelsB_oneKet oA oB hA hB hd

/-- the order of the labels matters for the routes through `(b̄·ā)·a` -/
theorem ketBraLabels_order :
    ketBraLabelsB true true [(1, false)] [(3, false)] = true
    ∧ ketBraLabelsB true true [(3, false)] [(1, false)] = false
    -- the two label routes of `(b̄, ā, a)` with `label a = 3 > label b = 1`
    ∧ (OddposP.mergeOddpos true [(1, true)] [(3, true)] = .ok ([(3, true), (1, true)], 1)
      ∧ OddposP.mergeOddpos false [(3, true), (1, true)] [(3, false)]
          = .ok ([(3, true), (1, true), (3, false)], 1)
      ∧ OddposP.mergeOddpos true [(3, true)] [(3, false)] = .ok ([], -1)
      ∧ OddposP.mergeOddpos true [(1, true)] [] = .ok ([(1, true)], 1)) := by decide

section main
variable {R : Type} [AddCommMonoid R] [Mul R] [Neg R] [Conj R] [NetLaws R] [AssocP.AssocLaws R]

/-- **network_norm_ketbra_first.**  The routes `((b̄·ā)·a)·b`, `(b̄·(ā·a))·b`, `((ā·a)·b̄)·b` of the norm
    network succeed and give `Σ|K|²`, rank 0, no labels, no stray sign; `ā·a` carries no label. -/
theorem network_norm_ketbra_first (hmul : ∀ x y : R, x * y = y * x) (a b : Arr R) (xa xb : List Nat)
    (ha : a.validB = true) (hb : b.validB = true) (hfa : a.fermi = true) (hfb : b.fermi = true)
    (hadm : ValidP.tdotAdmissibleB a b xa xb = true)
    (hoA : KetLabels a.oddpos) (hoB : KetLabels b.oddpos)
    (hd : (a.oddpos ++ b.oddpos).Pairwise (fun x y => x.1 ≠ y.1))
    (hlab : netLabelsB a.parity b.parity a.oddpos b.oddpos = true)
    (hlabK : ketBraLabelsB a.parity b.parity a.oddpos b.oddpos = true) :
    KetBraFirst a b xa xb :=
  ketbra_first hmul a b xa xb ha hb hfa hfb hadm hoA hoB hd hlabK

/-- at most one ket label per tensor: for `(a, b)` or with the roles of the tensors exchanged -/
theorem network_norm_ketbra_first_oneKet (hmul : ∀ x y : R, x * y = y * x) (a b : Arr R)
    (xa xb : List Nat)
    (ha : a.validB = true) (hb : b.validB = true) (hfa : a.fermi = true) (hfb : b.fermi = true)
    (hadm : ValidP.tdotAdmissibleB a b xa xb = true)
    (hoA : OneKet a.oddpos) (hoB : OneKet b.oddpos)
    (hd : (a.oddpos ++ b.oddpos).Pairwise (fun x y => x.1 ≠ y.1)) :
    KetBraFirst a b xa xb ∨ KetBraFirst b a xb xa := by
  have hpa := (NormOk.of_valid ha hfa).labels
  have hpb := (NormOk.of_valid hb hfb).labels
  rcases NormNet.ketBraLabelsB_oneKet a.oddpos b.oddpos hoA hoB hd with hK | hK
  · left
    rw [hpa, hpb] at hK
    exact ketbra_first hmul a b xa xb ha hb hfa hfb hadm hoA.ketLabels hoB.ketLabels hd hK
  · right
    rw [hpa, hpb] at hK
    exact ketbra_first hmul b a xb xa hb ha hfb hfa (admB_swap ha hb hfa hfb hadm) hoB.ketLabels
      hoA.ketLabels (labels_swap hd) hK

/-- one label each, the smaller one on `a` -/
theorem network_norm_ketbra_first_lt (hmul : ∀ x y : R, x * y = y * x) (a b : Arr R)
    (xa xb : List Nat) (la lb : Int)
    (ha : a.validB = true) (hb : b.validB = true) (hfa : a.fermi = true) (hfb : b.fermi = true)
    (hadm : ValidP.tdotAdmissibleB a b xa xb = true)
    (hoA : a.oddpos = [(la, false)]) (hoB : b.oddpos = [(lb, false)]) (hlt : la < lb) :
    KetBraFirst a b xa xb := by
  have hA : OneKet a.oddpos := Or.inr ⟨la, hoA⟩
  have hB : OneKet b.oddpos := Or.inr ⟨lb, hoB⟩
  have hd : (a.oddpos ++ b.oddpos).Pairwise (fun x y => x.1 ≠ y.1) := by
    rw [hoA, hoB]; simp; omega
  have hpa := (NormOk.of_valid ha hfa).labels
  have hpb := (NormOk.of_valid hb hfb).labels
  have hK : ketBraLabelsB a.parity b.parity a.oddpos b.oddpos = true := by
    rw [← hpa, ← hpb, hoA, hoB]
    exact ketBraLabelsB_lt hlt
  exact ketbra_first hmul a b xa xb ha hb hfa hfb hadm hA.ketLabels hB.ketLabels hd hK

end main

/-! ## non-vacuity -/

open scoped SymmModel.Lazy

/-- the network `gA`, `gB` of C10d (labels 1 and 3; both odd; pending signs) -/
example : KetBraFirst C03.gA C03.gB [2] [0] :=
  network_norm_ketbra_first Int.mul_comm C03.gA C03.gB [2] [0] gA_valid gB_valid
    rfl rfl gAB_adm (OneKet.ketLabels (Or.inr ⟨1, rfl⟩))
    (OneKet.ketLabels (Or.inr ⟨3, rfl⟩)) (by decide) (by decide +kernel) (by decide +kernel)

/-- the pruned network `gAs`, `gB` -/
example : KetBraFirst gAs C03.gB [2] [0] :=
  network_norm_ketbra_first_lt Int.mul_comm gAs C03.gB [2] [0] 1 3 gAs_valid
    gB_valid rfl rfl gAsB_adm rfl rfl (by decide)

theorem gA7_valid : gA7.validB = true := by decide +kernel
theorem gA7B_adm : ValidP.tdotAdmissibleB gA7 C03.gB [2] [0] = true := by decide +kernel

/-- all routes give `Σ|K|²` for both label orders; with `label a = 7 > label b = 3` the intermediates
    `(b̄·ā)·a` and `b̄·(ā·a)` carry different label lists (`ketbraVals`, `gA7` and the evaluation: C10Vals) -/
theorem ketbra_vals_order :
    ketbraVals C03.gA C03.gB [2] [0]
      = [[16422], [16422, 0], [16422, 0], [16422, 0], [3, 1], [3, 1]]
    ∧ ketbraVals gA7 C03.gB [2] [0]
      = [[16422], [16422, 0], [16422, 0], [16422, 0], [7, 1, 3, 1, 7, 0], [3, 1]] :=
  gAB_routes_vals.1

end SymmModel.C10
