/-
  C06 (ninth part) — "fusing uncontracted indices before or after contraction is likewise
  equivalent": the mirror image of C06h for ONE group `g` of FREE legs of the RIGHT operand
  (arbitrary position, any order, no preliminary transposition); both forms with the contractions
  in ANY mode (blockwise / fused / auto); the address layouts of the two results.  Abelian, operands
  not aligned.

  * `tensordot_fuse_group_pre_right` — `fuse(b, [g])` succeeds (either strategy), the public
    `tensordot(a, fuse(b,[g]))` over `(xa, xb.map (shiftAxes b g))` succeeds (blockwise), and at the
    result address `(Ls ++ free part of (MR', MO'))` — `(Ls, oL)` any address of `a`'s free legs,
    `(MR', MO')` any full address of the fused operand's table box — it holds the element of
    `tensordot(a, b, (xa, xb))` at `(Ls ++ free part of (MR, MO))`, where `(MR, MO)` is the full
    address of `b` that `(MR', MO')` decodes to.  The result legs that come from `b` are offset by
    the number of `a`'s free legs: `result_group_part_right`.
  * `tensordot_fuse_group_commute_right` — before = after (blockwise): with `c = tensordot(a, b)`
    and any group `g'` of legs of `c`, `fuse(c, [g'])` succeeds and holds the same element at every
    address that decodes (through ITS table) to the same address of `c`.
  * `tensordotA_any_mode_tableBox` — for every admissible abelian call and EVERY mode the result
    holds the blockwise result's element at every address of the (un-pruned) result table box,
    stored sector or not.
  * `tensordot_fuse_group_commute_any_mode`, `tensordot_fuse_group_commute_right_any_mode` — the
    contraction of the pre-fused operand in any mode `md`, the plain contraction in any mode `md'`:
    both succeed and at the addresses above hold the element that `fuse(c, [g'])` holds, `c` the
    BLOCKWISE plain result.
  The precondition is the documented `contractibleB` (equal charge tables, opposite directions on
  the contracted pairs), stronger than C06h's `oppositeDualsB`: the mirror image needs `b`'s contracted
  tables to give the same sizes as `a`'s, the fused route needs it anyway.
  NOT proved here: `fuse` applied to the result of the FUSED-mode plain contraction (its index
  tables may be pruned, so its fused leg has a different table and the decoder differs; the
  statement would have to relate the two decoders); the layout theorems (below) in the other
  contraction modes.  The fermionic two-sided free-leg form is C06j.
  Address layouts: the literal coincidence of the two results is FALSE: see the example `lyA`,
  `lyB` — the fused leg's table lists the sub-sectors STORED by the array being fused, which differ
  between `a` and the contraction result.  What is true and proved
  (`tensordot_fuse_group_commute_layout`, left operand's group,
  `tensordot_fuse_group_commute_right_layout`, right operand's group; blockwise): the fused leg sits
  at the same position `resPos` in both results, every other leg coincides literally (same charges,
  offsets, order — `shiftAxes_strictMono`, `shiftAxes_sides`), and only the entry on the fused leg has
  to be compared through the two fused tables.
-/
import SymmModel.Props.C06h
import SymmModel.Proofs.FuseCommuteI5

namespace SymmModel.C06
open SymmModel SymmModel.TdotP SymmModel.GradedP SymmModel.RoutesP SymmModel.AssocP
open SymmModel.Assoc3P SymmModel.Assoc4P

variable {R : Type}

theorem tensordot_fuse_group_pre_right [AddCommMonoid R] [Mul R] [Neg R]
    (hz1 : ∀ x : R, 0 * x = 0) (hz2 : ∀ x : R, x * 0 = 0) (a b : Arr R) (xa xb g : List Nat) (m : FuseMode)
    (ha : a.validB = true) (hb : b.validB = true) (hfa : a.fermi = false) (hfb : b.fermi = false)
    (hc : ValidP.contractibleB a b xa xb = true)
    (hnA : xa.Nodup) (hnB : xb.Nodup) (hA : ∀ x ∈ xa, x < a.ndim) (hB : ∀ x ∈ xb, x < b.ndim)
    (hne : g ≠ []) (hnd : g.Nodup) (hlt : ∀ x ∈ g, x < b.ndim) (hdisj : ∀ x ∈ xb, x ∉ g) :
    fuseA b [g] m false = .ok (FuseP.fusedArrM b [g])
    ∧ tensordotA a (FuseP.fusedArrM b [g])
        (.pair (xa.map Int.ofNat) ((xb.map (shiftAxes b g)).map Int.ofNat)) .blockwise
        = .ok (tensordotBlockwise a (FuseP.fusedArrM b [g]) (freeAxes a.ndim xa) xa (xb.map (shiftAxes b g))
            (freeAxes (FuseP.fusedArrM b [g]).ndim (xb.map (shiftAxes b g))))
    ∧ ∀ (MR' MR : Sector) (MO' MO shp' shpB : List Nat) (Ls : Sector) (oL shpL : List Nat),
        Arr.blockShape? (FuseP.fusedArrM b [g]).indices MR' = some shp' → inBox shp' MO' = true →
        Arr.blockShape? b.indices MR = some shpB → inBox shpB MO = true →
        decAx b [g] 0 (MR'.getD (bondPos b g) (0, 0)) (MO'.getD (bondPos b g) 0)
          = some (permuted MR g, permuted MO g) →
        permuted MR' (freeAxes (FuseP.fusedArrM b [g]).ndim [bondPos b g]) = permuted MR (freeAxes b.ndim g) →
        permuted MO' (freeAxes (FuseP.fusedArrM b [g]).ndim [bondPos b g]) = permuted MO (freeAxes b.ndim g) →
        Arr.blockShape? (permuted a.indices (freeAxes a.ndim xa)) Ls = some shpL → inBox shpL oL = true →
        (tensordotBlockwise a (FuseP.fusedArrM b [g]) (freeAxes a.ndim xa) xa (xb.map (shiftAxes b g))
            (freeAxes (FuseP.fusedArrM b [g]).ndim (xb.map (shiftAxes b g)))).elem
            (Ls ++ permuted MR' (freeAxes (FuseP.fusedArrM b [g]).ndim (xb.map (shiftAxes b g))))
            (oL ++ permuted MO' (freeAxes (FuseP.fusedArrM b [g]).ndim (xb.map (shiftAxes b g))))
          = (cPlain a b xa xb).elem
              (Ls ++ permuted MR (freeAxes b.ndim xb)) (oL ++ permuted MO (freeAxes b.ndim xb)) := by
  have h : OneOk b g := ⟨hne, hnd, hlt⟩
  have hlen : xa.length = xb.length := (cm_eq_of_contractibleB hc hA hB).1
  have hB' : ∀ x ∈ xb.map (shiftAxes b g), x < (FuseP.fusedArrM b [g]).ndim := by
    rw [one_ndim h]; exact shiftAxes_map_lt h (fun x hx => ⟨hB x hx, hdisj x hx⟩)
  refine ⟨fuseA_any_mode b [g] m hb h.groupsOk, ?_, ?_⟩
  · exact tensordotA_blockwise_ok a (FuseP.fusedArrM b [g]) _ xa (xb.map (shiftAxes b g))
      (ValidP.parseAxes_nat _ _ xa _ (by rw [List.length_map]; exact hlen) hA hB')
  · intro MR' MR MO' MO shp' shpB Ls oL shpL h1 h2 h3 h4 h5 h6 h7 h8 h9
    exact group_commute_right hz1 hz2 a b xa xb g ha hb (Arr.phases_nil_of_validB ha hfa) hfb h hdisj hc
      hnA hnB hA hB h1 h2 h3 h4 h5 h6 h7 h8 h9

/-- the group part of a result address, right operand: for the legs of the result that correspond to
    the group `g` of `b` (number of `a`'s free legs + position of the axis among `b`'s free legs),
    the group part of the result address `(Ls ++ permuted MR (free b))` is the group part of `MR` -/
theorem result_group_part_right {α : Type} (n : Nat) (xb g : List Nat) (Ls MR : List α) (hMR : MR.length = n)
    (hlt : ∀ x ∈ g, x < n) (hdisj : ∀ x ∈ g, x ∉ xb) :
    permuted (Ls ++ permuted MR (freeAxes n xb)) (g.map (fun x => Ls.length + (freeAxes n xb).idxOf x))
      = permuted MR g := by
  have hl : (permuted MR (freeAxes n xb)).length = (freeAxes n xb).length :=
    permuted_length _ _ (by intro x hx; rw [hMR]; exact (mem_freeAxes.mp hx).1)
  unfold permuted
  rw [List.filterMap_map]
  apply List.filterMap_congr
  intro x hx
  have hm : x ∈ freeAxes n xb := mem_freeAxes.mpr ⟨hlt x hx, hdisj x hx⟩
  have hi : (freeAxes n xb).idxOf x < (freeAxes n xb).length := List.idxOf_lt_length_of_mem hm
  simp only [Function.comp]
  show (Ls ++ permuted MR (freeAxes n xb))[Ls.length + (freeAxes n xb).idxOf x]? = MR[x]?
  rw [List.getElem?_append_right (by omega), Nat.add_sub_cancel_left,
    permuted_getElem? MR (freeAxes n xb) (by intro y hy; rw [hMR]; exact (mem_freeAxes.mp hy).1),
    List.getElem?_eq_getElem hi, List.getElem_idxOf hi]
  rfl

/-- **tensordot_fuse_group_commute_right** (abelian; RIGHT operand; group anywhere, any order; no
    preliminary transposition; blockwise contraction; either fuse strategy). -/
theorem tensordot_fuse_group_commute_right [AddCommMonoid R] [Mul R] [Neg R]
    (hz1 : ∀ x : R, 0 * x = 0) (hz2 : ∀ x : R, x * 0 = 0) (a b : Arr R) (xa xb g g' : List Nat)
    (m m' : FuseMode)
    (ha : a.validB = true) (hb : b.validB = true) (hfa : a.fermi = false) (hfb : b.fermi = false)
    (hsym : a.sym = b.sym) (hc : ValidP.contractibleB a b xa xb = true)
    (hnA : xa.Nodup) (hnB : xb.Nodup) (hA : ∀ x ∈ xa, x < a.ndim) (hB : ∀ x ∈ xb, x < b.ndim)
    (hne : g ≠ []) (hnd : g.Nodup) (hlt : ∀ x ∈ g, x < b.ndim) (hdisj : ∀ x ∈ xb, x ∉ g)
    (hne' : g' ≠ []) (hnd' : g'.Nodup) (hlt' : ∀ x ∈ g', x < (cPlain a b xa xb).ndim) :
    fuseA b [g] m false = .ok (FuseP.fusedArrM b [g])
    ∧ tensordotA a b (.pair (xa.map Int.ofNat) (xb.map Int.ofNat)) .blockwise = .ok (cPlain a b xa xb)
    ∧ fuseA (cPlain a b xa xb) [g'] m' false = .ok (FuseP.fusedArrM (cPlain a b xa xb) [g'])
    ∧ ∃ cf, tensordotA a (FuseP.fusedArrM b [g])
          (.pair (xa.map Int.ofNat) ((xb.map (shiftAxes b g)).map Int.ofNat)) .blockwise = .ok cf
      ∧ ∀ (MR' MR : Sector) (MO' MO shp' shpB : List Nat) (Ls : Sector) (oL shpL : List Nat)
          (ns2 : Sector) (i2 shp2 : List Nat),
        Arr.blockShape? (FuseP.fusedArrM b [g]).indices MR' = some shp' → inBox shp' MO' = true →
        Arr.blockShape? b.indices MR = some shpB → inBox shpB MO = true →
        decAx b [g] 0 (MR'.getD (bondPos b g) (0, 0)) (MO'.getD (bondPos b g) 0)
          = some (permuted MR g, permuted MO g) →
        permuted MR' (freeAxes (FuseP.fusedArrM b [g]).ndim [bondPos b g]) = permuted MR (freeAxes b.ndim g) →
        permuted MO' (freeAxes (FuseP.fusedArrM b [g]).ndim [bondPos b g]) = permuted MO (freeAxes b.ndim g) →
        Arr.blockShape? (permuted a.indices (freeAxes a.ndim xa)) Ls = some shpL → inBox shpL oL = true →
        Arr.blockShape? (FuseP.fusedArrM (cPlain a b xa xb) [g']).indices ns2 = some shp2 → inBox shp2 i2 = true →
        decAx (cPlain a b xa xb) [g'] 0 (ns2.getD (bondPos (cPlain a b xa xb) g') (0, 0))
            (i2.getD (bondPos (cPlain a b xa xb) g') 0)
          = some (permuted (Ls ++ permuted MR (freeAxes b.ndim xb)) g',
                  permuted (oL ++ permuted MO (freeAxes b.ndim xb)) g') →
        permuted ns2 (freeAxes (FuseP.fusedArrM (cPlain a b xa xb) [g']).ndim [bondPos (cPlain a b xa xb) g'])
          = permuted (Ls ++ permuted MR (freeAxes b.ndim xb)) (freeAxes (cPlain a b xa xb).ndim g') →
        permuted i2 (freeAxes (FuseP.fusedArrM (cPlain a b xa xb) [g']).ndim [bondPos (cPlain a b xa xb) g'])
          = permuted (oL ++ permuted MO (freeAxes b.ndim xb)) (freeAxes (cPlain a b xa xb).ndim g') →
        cf.elem (Ls ++ permuted MR' (freeAxes (FuseP.fusedArrM b [g]).ndim (xb.map (shiftAxes b g))))
            (oL ++ permuted MO' (freeAxes (FuseP.fusedArrM b [g]).ndim (xb.map (shiftAxes b g))))
          = (FuseP.fusedArrM (cPlain a b xa xb) [g']).elem ns2 i2
        ∧ (FuseP.fusedArrM (cPlain a b xa xb) [g']).elem ns2 i2
          = (cPlain a b xa xb).elem
              (Ls ++ permuted MR (freeAxes b.ndim xb)) (oL ++ permuted MO (freeAxes b.ndim xb)) := by
  have hopp := ValidP.contractible_opposite hc
  have hlen : xa.length = xb.length := (cm_eq_of_contractibleB hc hA hB).1
  have hvc : (cPlain a b xa xb).validB = true := by
    have := ValidP.tensordotBlockwise_valid a b xa xb ((ValidP.validB_iff _).mp ha)
      ((ValidP.validB_iff _).mp hb) hsym hfa hopp hnA hnB hA hB
    rw [without_range, without_range] at this
    exact (ValidP.validB_iff _).mpr this
  have hfc : (cPlain a b xa xb).fermi = false := (tensordotBlockwise_fields a b _ xa xb _).2.1.trans hfa
  have hcn : (cPlain a b xa xb).ndim = (freeAxes a.ndim xa).length + (freeAxes b.ndim xb).length :=
    tensordotBlockwise_rank a b xa xb
  obtain ⟨f1, t1, hpre⟩ := tensordot_fuse_group_pre_right hz1 hz2 a b xa xb g m ha hb hfa hfb hc hnA hnB hA hB
    hne hnd hlt hdisj
  obtain ⟨f2, _, _, _, hpost⟩ := fuse_group_elem (cPlain a b xa xb) g' m' hvc hfc hne' hnd' hlt'
  refine ⟨f1, tensordotA_blockwise_ok a b _ xa xb (ValidP.parseAxes_nat a.ndim b.ndim xa xb hlen hA hB),
    f2, _, t1, ?_⟩
  intro MR' MR MO' MO shp' shpB Ls oL shpL ns2 i2 shp2 h1 h2 h3 h4 h5 h6 h7 h8 h9 k1 k2 k3 k4 k5
  have ean : a.indices.length = a.ndim := rfl
  have hMRl : MR.length = b.ndim := (blockShape?_length h3).1
  have hMOl : MO.length = b.ndim := by rw [inBox_length h4, (blockShape?_length h3).2]; rfl
  have hLl : Ls.length = (freeAxes a.ndim xa).length := by
    rw [(blockShape?_length h8).1, permuted_length _ _ (by simpa [ean] using mem_freeAxes_lt)]
  have hoLl : oL.length = (freeAxes a.ndim xa).length := by
    rw [inBox_length h9, (blockShape?_length h8).2, permuted_length _ _ (by simpa [ean] using mem_freeAxes_lt)]
  have e1 := hpre MR' MR MO' MO shp' shpB Ls oL shpL h1 h2 h3 h4 h5 h6 h7 h8 h9
  have e2 := hpost ns2 i2 shp2 (Ls ++ permuted MR (freeAxes b.ndim xb)) (oL ++ permuted MO (freeAxes b.ndim xb))
    k1 k2
    (by rw [List.length_append, permuted_length _ _ (by intro x hx; rw [hMRl]; exact (mem_freeAxes.mp hx).1),
          hLl, hcn])
    (by rw [List.length_append, permuted_length _ _ (by intro x hx; rw [hMOl]; exact (mem_freeAxes.mp hx).1),
          hoLl, hcn])
    k3 k4 k5
  exact ⟨e1.trans e2.symm, e2⟩

/-- **tensordotA_any_mode_tableBox.**  Every admissible abelian call, every `mode`: `tensordot`
    succeeds and at every address `(K, J)` of the un-pruned result table box (stored sector or not)
    its result holds the element of the blockwise result. -/
theorem tensordotA_any_mode_tableBox [AddCommMonoid R] [Mul R] [Neg R]
    (hz1 : ∀ x : R, 0 * x = 0) (hz2 : ∀ x : R, x * 0 = 0) (a b : Arr R) (axes : AxesArg)
    (xa xb : List Nat) (hparse : parseAxes a.ndim b.ndim axes = .ok (xa, xb))
    (ha : a.validB = true) (hb : b.validB = true) (hfa : a.fermi = false) (hfb : b.fermi = false)
    (hsym : a.sym = b.sym) (hc : ValidP.contractibleB a b xa xb = true)
    (hnA : xa.Nodup) (hnB : xb.Nodup) (hA : ∀ x ∈ xa, x < a.ndim) (hB : ∀ x ∈ xb, x < b.ndim)
    (mode : TdotMode) :
    ∃ cm, tensordotA a b axes mode = .ok cm
      ∧ ∀ (K : Sector) (J shp : List Nat),
          Arr.blockShape? (without a.indices xa ++ without b.indices xb) K = some shp → inBox shp J = true →
          cm.elem K J = (cPlain a b xa xb).elem K J := by
  obtain ⟨c, hc', _, _, hel⟩ := tensordotA_every_mode hz1 hz2 a b axes xa xb hparse ha hb hfa hfb hsym hc hnA hnB
    hA hB mode
  exact ⟨c, hc', fun K J shp hs hJ => hel K J (by rw [Arr.blockShapeD, hs]; exact hJ)⟩

/-- **tensordot_fuse_group_commute_any_mode** (LEFT operand's group; contraction of the pre-fused
    operand in mode `md`, plain contraction in mode `md'`; `fuse` afterwards applied to the blockwise
    plain result `c`). -/
theorem tensordot_fuse_group_commute_any_mode [AddCommMonoid R] [Mul R] [Neg R]
    (hz1 : ∀ x : R, 0 * x = 0) (hz2 : ∀ x : R, x * 0 = 0) (a b : Arr R) (xa xb g g' : List Nat)
    (m m' : FuseMode) (md md' : TdotMode)
    (ha : a.validB = true) (hb : b.validB = true) (hfa : a.fermi = false) (hfb : b.fermi = false)
    (hsym : a.sym = b.sym) (hc : ValidP.contractibleB a b xa xb = true)
    (hnA : xa.Nodup) (hnB : xb.Nodup) (hA : ∀ x ∈ xa, x < a.ndim) (hB : ∀ x ∈ xb, x < b.ndim)
    (hne : g ≠ []) (hnd : g.Nodup) (hlt : ∀ x ∈ g, x < a.ndim) (hdisj : ∀ x ∈ xa, x ∉ g)
    (hne' : g' ≠ []) (hnd' : g'.Nodup) (hlt' : ∀ x ∈ g', x < (cPlain a b xa xb).ndim) :
    fuseA a [g] m false = .ok (FuseP.fusedArrM a [g])
    ∧ fuseA (cPlain a b xa xb) [g'] m' false = .ok (FuseP.fusedArrM (cPlain a b xa xb) [g'])
    ∧ ∃ cf cm, tensordotA (FuseP.fusedArrM a [g]) b
          (.pair ((xa.map (shiftAxes a g)).map Int.ofNat) (xb.map Int.ofNat)) md = .ok cf
      ∧ tensordotA a b (.pair (xa.map Int.ofNat) (xb.map Int.ofNat)) md' = .ok cm
      ∧ ∀ (ML' ML : Sector) (MO' MO shp' shpA : List Nat) (Rs : Sector) (oR shpR : List Nat)
          (ns2 : Sector) (i2 shp2 : List Nat),
        Arr.blockShape? (FuseP.fusedArrM a [g]).indices ML' = some shp' → inBox shp' MO' = true →
        Arr.blockShape? a.indices ML = some shpA → inBox shpA MO = true →
        decAx a [g] 0 (ML'.getD (bondPos a g) (0, 0)) (MO'.getD (bondPos a g) 0)
          = some (permuted ML g, permuted MO g) →
        permuted ML' (freeAxes (FuseP.fusedArrM a [g]).ndim [bondPos a g]) = permuted ML (freeAxes a.ndim g) →
        permuted MO' (freeAxes (FuseP.fusedArrM a [g]).ndim [bondPos a g]) = permuted MO (freeAxes a.ndim g) →
        Arr.blockShape? (permuted b.indices (freeAxes b.ndim xb)) Rs = some shpR → inBox shpR oR = true →
        Arr.blockShape? (FuseP.fusedArrM (cPlain a b xa xb) [g']).indices ns2 = some shp2 → inBox shp2 i2 = true →
        decAx (cPlain a b xa xb) [g'] 0 (ns2.getD (bondPos (cPlain a b xa xb) g') (0, 0))
            (i2.getD (bondPos (cPlain a b xa xb) g') 0)
          = some (permuted (permuted ML (freeAxes a.ndim xa) ++ Rs) g',
                  permuted (permuted MO (freeAxes a.ndim xa) ++ oR) g') →
        permuted ns2 (freeAxes (FuseP.fusedArrM (cPlain a b xa xb) [g']).ndim [bondPos (cPlain a b xa xb) g'])
          = permuted (permuted ML (freeAxes a.ndim xa) ++ Rs) (freeAxes (cPlain a b xa xb).ndim g') →
        permuted i2 (freeAxes (FuseP.fusedArrM (cPlain a b xa xb) [g']).ndim [bondPos (cPlain a b xa xb) g'])
          = permuted (permuted MO (freeAxes a.ndim xa) ++ oR) (freeAxes (cPlain a b xa xb).ndim g') →
        cf.elem (permuted ML' (freeAxes (FuseP.fusedArrM a [g]).ndim (xa.map (shiftAxes a g))) ++ Rs)
            (permuted MO' (freeAxes (FuseP.fusedArrM a [g]).ndim (xa.map (shiftAxes a g))) ++ oR)
          = (FuseP.fusedArrM (cPlain a b xa xb) [g']).elem ns2 i2
        ∧ cm.elem (permuted ML (freeAxes a.ndim xa) ++ Rs) (permuted MO (freeAxes a.ndim xa) ++ oR)
          = (FuseP.fusedArrM (cPlain a b xa xb) [g']).elem ns2 i2 := by
  have h : OneOk a g := ⟨hne, hnd, hlt⟩
  have hopp := ValidP.contractible_opposite hc
  have hlen : xa.length = xb.length := (cm_eq_of_contractibleB hc hA hB).1
  have hxaF : ∀ x ∈ xa, x < a.ndim ∧ x ∉ g := fun x hx => ⟨hA x hx, hdisj x hx⟩
  have hnA' := shiftAxes_map_nodup h hxaF hnA
  have hA' : ∀ x ∈ xa.map (shiftAxes a g), x < (FuseP.fusedArrM a [g]).ndim := by
    rw [one_ndim h]; exact shiftAxes_map_lt h hxaF
  have hparse' := ValidP.parseAxes_nat (FuseP.fusedArrM a [g]).ndim b.ndim (xa.map (shiftAxes a g)) xb
    (by rw [List.length_map]; exact hlen) hA' hB
  have hparse := ValidP.parseAxes_nat a.ndim b.ndim xa xb hlen hA hB
  obtain ⟨f1, _, f2, cfb, tb, hel⟩ := tensordot_fuse_group_commute hz1 hz2 a b xa xb g g' m m' ha hb hfa hfb
    hsym hopp hnA hnB hA hB hne hnd hlt hdisj hne' hnd' hlt'
  rw [tensordotA_blockwise_ok _ _ _ _ _ hparse'] at tb
  obtain rfl := Except.ok.inj tb
  obtain ⟨cf, hcf, kf⟩ := tensordotA_any_mode_tableBox hz1 hz2 (FuseP.fusedArrM a [g]) b _ _ xb hparse'
    (one_validB ha hfa h) hb hfa hfb hsym (contractibleB_shift_left h hxaF hc) hnA' hnB hA' hB md
  obtain ⟨cm, hcm, km⟩ := tensordotA_any_mode_tableBox hz1 hz2 a b _ xa xb hparse ha hb hfa hfb hsym hc hnA hnB hA hB md'
  refine ⟨f1, f2, cf, cm, hcf, hcm, ?_⟩
  intro ML' ML MO' MO shp' shpA Rs oR shpR ns2 i2 shp2 h1 h2 h3 h4 h5 h6 h7 h8 h9 k1 k2 k3 k4 k5
  obtain ⟨e1, e2⟩ := hel ML' ML MO' MO shp' shpA Rs oR shpR ns2 i2 shp2 h1 h2 h3 h4 h5 h6 h7 h8 h9 k1 k2 k3 k4 k5
  obtain ⟨s, hs, hbx⟩ := tableBox_left (X := FuseP.fusedArrM a [g]) (Y := b) (xx := xa.map (shiftAxes a g))
    (xy := xb) h1 h2 h8 h9
  obtain ⟨s', hs', hbx'⟩ := tableBox_left (X := a) (Y := b) (xx := xa) (xy := xb) h3 h4 h8 h9
  exact ⟨(kf _ _ _ hs hbx).trans e1, (km _ _ _ hs' hbx').trans e2.symm⟩

/-- **tensordot_fuse_group_commute_right_any_mode** (RIGHT operand's group; contraction of the
    pre-fused operand in mode `md`, plain contraction in mode `md'`; `fuse` afterwards applied to the
    blockwise plain result `c`). -/
theorem tensordot_fuse_group_commute_right_any_mode [AddCommMonoid R] [Mul R] [Neg R]
    (hz1 : ∀ x : R, 0 * x = 0) (hz2 : ∀ x : R, x * 0 = 0) (a b : Arr R) (xa xb g g' : List Nat)
    (m m' : FuseMode) (md md' : TdotMode)
    (ha : a.validB = true) (hb : b.validB = true) (hfa : a.fermi = false) (hfb : b.fermi = false)
    (hsym : a.sym = b.sym) (hc : ValidP.contractibleB a b xa xb = true)
    (hnA : xa.Nodup) (hnB : xb.Nodup) (hA : ∀ x ∈ xa, x < a.ndim) (hB : ∀ x ∈ xb, x < b.ndim)
    (hne : g ≠ []) (hnd : g.Nodup) (hlt : ∀ x ∈ g, x < b.ndim) (hdisj : ∀ x ∈ xb, x ∉ g)
    (hne' : g' ≠ []) (hnd' : g'.Nodup) (hlt' : ∀ x ∈ g', x < (cPlain a b xa xb).ndim) :
    fuseA b [g] m false = .ok (FuseP.fusedArrM b [g])
    ∧ fuseA (cPlain a b xa xb) [g'] m' false = .ok (FuseP.fusedArrM (cPlain a b xa xb) [g'])
    ∧ ∃ cf cm, tensordotA a (FuseP.fusedArrM b [g])
          (.pair (xa.map Int.ofNat) ((xb.map (shiftAxes b g)).map Int.ofNat)) md = .ok cf
      ∧ tensordotA a b (.pair (xa.map Int.ofNat) (xb.map Int.ofNat)) md' = .ok cm
      ∧ ∀ (MR' MR : Sector) (MO' MO shp' shpB : List Nat) (Ls : Sector) (oL shpL : List Nat)
          (ns2 : Sector) (i2 shp2 : List Nat),
        Arr.blockShape? (FuseP.fusedArrM b [g]).indices MR' = some shp' → inBox shp' MO' = true →
        Arr.blockShape? b.indices MR = some shpB → inBox shpB MO = true →
        decAx b [g] 0 (MR'.getD (bondPos b g) (0, 0)) (MO'.getD (bondPos b g) 0)
          = some (permuted MR g, permuted MO g) →
        permuted MR' (freeAxes (FuseP.fusedArrM b [g]).ndim [bondPos b g]) = permuted MR (freeAxes b.ndim g) →
        permuted MO' (freeAxes (FuseP.fusedArrM b [g]).ndim [bondPos b g]) = permuted MO (freeAxes b.ndim g) →
        Arr.blockShape? (permuted a.indices (freeAxes a.ndim xa)) Ls = some shpL → inBox shpL oL = true →
        Arr.blockShape? (FuseP.fusedArrM (cPlain a b xa xb) [g']).indices ns2 = some shp2 → inBox shp2 i2 = true →
        decAx (cPlain a b xa xb) [g'] 0 (ns2.getD (bondPos (cPlain a b xa xb) g') (0, 0))
            (i2.getD (bondPos (cPlain a b xa xb) g') 0)
          = some (permuted (Ls ++ permuted MR (freeAxes b.ndim xb)) g',
                  permuted (oL ++ permuted MO (freeAxes b.ndim xb)) g') →
        permuted ns2 (freeAxes (FuseP.fusedArrM (cPlain a b xa xb) [g']).ndim [bondPos (cPlain a b xa xb) g'])
          = permuted (Ls ++ permuted MR (freeAxes b.ndim xb)) (freeAxes (cPlain a b xa xb).ndim g') →
        permuted i2 (freeAxes (FuseP.fusedArrM (cPlain a b xa xb) [g']).ndim [bondPos (cPlain a b xa xb) g'])
          = permuted (oL ++ permuted MO (freeAxes b.ndim xb)) (freeAxes (cPlain a b xa xb).ndim g') →
        cf.elem (Ls ++ permuted MR' (freeAxes (FuseP.fusedArrM b [g]).ndim (xb.map (shiftAxes b g))))
            (oL ++ permuted MO' (freeAxes (FuseP.fusedArrM b [g]).ndim (xb.map (shiftAxes b g))))
          = (FuseP.fusedArrM (cPlain a b xa xb) [g']).elem ns2 i2
        ∧ cm.elem (Ls ++ permuted MR (freeAxes b.ndim xb)) (oL ++ permuted MO (freeAxes b.ndim xb))
          = (FuseP.fusedArrM (cPlain a b xa xb) [g']).elem ns2 i2 := by
  have h : OneOk b g := ⟨hne, hnd, hlt⟩
  have hlen : xa.length = xb.length := (cm_eq_of_contractibleB hc hA hB).1
  have hxbF : ∀ x ∈ xb, x < b.ndim ∧ x ∉ g := fun x hx => ⟨hB x hx, hdisj x hx⟩
  have hnB' := shiftAxes_map_nodup h hxbF hnB
  have hB' : ∀ x ∈ xb.map (shiftAxes b g), x < (FuseP.fusedArrM b [g]).ndim := by
    rw [one_ndim h]; exact shiftAxes_map_lt h hxbF
  have hparse' := ValidP.parseAxes_nat a.ndim (FuseP.fusedArrM b [g]).ndim xa (xb.map (shiftAxes b g))
    (by rw [List.length_map]; exact hlen) hA hB'
  have hparse := ValidP.parseAxes_nat a.ndim b.ndim xa xb hlen hA hB
  obtain ⟨f1, _, f2, cfb, tb, hel⟩ := tensordot_fuse_group_commute_right hz1 hz2 a b xa xb g g' m m' ha hb hfa hfb
    hsym hc hnA hnB hA hB hne hnd hlt hdisj hne' hnd' hlt'
  rw [tensordotA_blockwise_ok _ _ _ _ _ hparse'] at tb
  obtain rfl := Except.ok.inj tb
  obtain ⟨cf, hcf, kf⟩ := tensordotA_any_mode_tableBox hz1 hz2 a (FuseP.fusedArrM b [g]) _ xa _ hparse'
    ha (one_validB hb hfb h) hfa hfb hsym (contractibleB_shift_right h hxbF hc) hnA hnB' hA hB' md
  obtain ⟨cm, hcm, km⟩ := tensordotA_any_mode_tableBox hz1 hz2 a b _ xa xb hparse ha hb hfa hfb hsym hc hnA hnB hA hB md'
  refine ⟨f1, f2, cf, cm, hcf, hcm, ?_⟩
  intro MR' MR MO' MO shp' shpB Ls oL shpL ns2 i2 shp2 h1 h2 h3 h4 h5 h6 h7 h8 h9 k1 k2 k3 k4 k5
  obtain ⟨e1, e2⟩ := hel MR' MR MO' MO shp' shpB Ls oL shpL ns2 i2 shp2 h1 h2 h3 h4 h5 h6 h7 h8 h9 k1 k2 k3 k4 k5
  obtain ⟨s, hs, hbx⟩ := tableBox_right (X := a) (Y := FuseP.fusedArrM b [g]) (xx := xa)
    (xy := xb.map (shiftAxes b g)) h8 h9 h1 h2
  obtain ⟨s', hs', hbx'⟩ := tableBox_right (X := a) (Y := b) (xx := xa) (xy := xb) h8 h9 h3 h4
  exact ⟨(kf _ _ _ hs hbx).trans e1, (km _ _ _ hs' hbx').trans e2.symm⟩

/-- **shiftAxes_strictMono**: the legs outside the fused group keep their order. -/
theorem shiftAxes_strictMono (X : Arr R) {g : List Nat} (hne : g ≠ []) (hnd : g.Nodup)
    (hlt : ∀ x ∈ g, x < X.ndim) {x y : Nat} (hx : x < X.ndim ∧ x ∉ g) (hy : y < X.ndim ∧ y ∉ g)
    (hxy : x < y) : shiftAxes X g x < shiftAxes X g y :=
  TdotP.shiftAxes_strictMono ⟨hne, hnd, hlt⟩ hx hy hxy

/-- **shiftAxes_sides**: a leg below the fused position `bondPos X g = min g` keeps its number, a leg
    above it (outside the group) lands above the fused position. -/
theorem shiftAxes_sides (X : Arr R) {g : List Nat} (hne : g ≠ []) (hnd : g.Nodup)
    (hlt : ∀ x ∈ g, x < X.ndim) (x : Nat) :
    (x < bondPos X g → shiftAxes X g x = x)
    ∧ (x < X.ndim → x ∉ g → bondPos X g < x → bondPos X g < shiftAxes X g x) :=
  ⟨fun hx => shiftAxes_of_lt_pos ⟨hne, hnd, hlt⟩ hx,
    fun h1 h2 h3 => shiftAxes_of_pos_lt ⟨hne, hnd, hlt⟩ ⟨h1, h2⟩ h3⟩

/-! ### the two results are NOT literally the same array

  The address layouts of the two results do not coincide literally, so the statement is not an
  equality of value views (in the model and, through the correspondence harness, in the library):
  the table of a fused leg lists only the sub-sectors that the array being fused STORES.  `fuse(a, [g])` builds it from `a`'s stored sectors, `fuse(c, [g'])`
  from the stored sectors of the contraction result `c`; a sub-sector of `a` whose contraction
  partner `b` does not store is present in the first table and absent from the second.  The legs
  other than the fused one do coincide (same order: `shiftAxes_strictMono`); on the fused leg only the
  DECODED addresses coincide, which is what the theorems above state.  Example: `lyA[i,j,k1,k2]`
  stores `(1,0,1,0)` and `(0,1,0,1)`, `lyB[k1',k2',m]` stores `(1,0,1)` only; fusing `(i,j)` before
  the contraction gives a fused leg `1 ↦ 2` with the value at offset 1 (`#[0, 21]`), fusing after it a
  fused leg `1 ↦ 1` with the value at offset 0 (`#[21]`). -/

def lyI (d : Bool) : Index := Index.mk [((0, 0), 1), ((1, 0), 1)] d none
def lyA : Arr Int :=
  { sym := .Z2, fermi := false, indices := [lyI false, lyI false, lyI false, lyI false], charge := (0, 0),
    blocks := [([(1, 0), (0, 0), (1, 0), (0, 0)], ⟨[1, 1, 1, 1], #[3]⟩),
               ([(0, 0), (1, 0), (0, 0), (1, 0)], ⟨[1, 1, 1, 1], #[5]⟩)] }
def lyB : Arr Int :=
  { sym := .Z2, fermi := false, indices := [lyI true, lyI true, lyI false], charge := (0, 0),
    blocks := [([(1, 0), (0, 0), (1, 0)], ⟨[1, 1, 1], #[7]⟩)] }

example : lyA.validB = true ∧ lyB.validB = true ∧ ValidP.contractibleB lyA lyB [2, 3] [0, 1] = true
    ∧ ([2, 3] : List Nat).map (shiftAxes lyA [0, 1]) = [1, 2]
    ∧ (match fuseA lyA [[0, 1]] .insert false, tensordotA lyA lyB (.pair [2, 3] [0, 1]) .blockwise with
       | .ok af, .ok c =>
          match tensordotA af lyB (.pair [1, 2] [0, 1]) .blockwise, fuseA c [[0, 1]] .insert false with
          | .ok cf, .ok cq =>
            cf.indices.map Index.cm == [[((1, 0), 2)], [((1, 0), 1)]]
            && cq.indices.map Index.cm == [[((1, 0), 1)], [((1, 0), 1)]]
            && cf.blocks.map (fun p => (p.1, p.2.shape, p.2.data)) == [([(1, 0), (1, 0)], [2, 1], #[0, 21])]
            && cq.blocks.map (fun p => (p.1, p.2.shape, p.2.data)) == [([(1, 0), (1, 0)], [1, 1], #[21])]
          | _, _ => false
       | _, _ => false) = true := by decide +kernel


/-- the legs of the contraction result that correspond to the group `g` of the left operand -/
def resGroup (a : Arr R) (xa g : List Nat) : List Nat := g.map (fun x => (freeAxes a.ndim xa).idxOf x)

/-- where the fused leg sits in the contraction of the pre-fused left operand with `b` -/
def resPos [Zero R] (a : Arr R) (xa g : List Nat) : Nat :=
  (freeAxes (FuseP.fusedArrM a [g]).ndim (xa.map (shiftAxes a g))).idxOf (bondPos a g)

/-- **tensordot_fuse_group_commute_layout** (LEFT operand's group, blockwise).  With
    `c = tensordot(a, b)`, `g' = resGroup a xa g` the legs of `c` that correspond to `g` and
    `P = resPos a xa g`: `g'` is an admissible group of `c`, the fused leg of `fuse(c, [g'])` sits at
    `P` — the position of the fused leg in `cf = tensordot(fuse(a,[g]), b)` — and whenever an address
    `(ns2, i2)` of the table box of `fuse(c, [g'])` and the address `(A', O')` of `cf` read off
    `(ML', MO')`
      * agree on EVERY leg other than `P` (literally: same charges, same offsets, same order), and
      * on leg `P` decode — `(ns2, i2)` through the fused table of `fuse(c, [g'])`, `(A', O')` through
        the fused table of `fuse(a, [g])` — to the same group address,
    the two arrays hold the same element.  (The two fused tables themselves may differ: `lyA`, `lyB`.) -/
theorem tensordot_fuse_group_commute_layout [AddCommMonoid R] [Mul R] [Neg R]
    (hz1 : ∀ x : R, 0 * x = 0) (hz2 : ∀ x : R, x * 0 = 0) (a b : Arr R) (xa xb g : List Nat)
    (m m' : FuseMode)
    (ha : a.validB = true) (hb : b.validB = true) (hfa : a.fermi = false) (hfb : b.fermi = false)
    (hsym : a.sym = b.sym) (hopp : ValidP.oppositeDualsB a b xa xb = true)
    (hnA : xa.Nodup) (hnB : xb.Nodup) (hA : ∀ x ∈ xa, x < a.ndim) (hB : ∀ x ∈ xb, x < b.ndim)
    (hne : g ≠ []) (hnd : g.Nodup) (hlt : ∀ x ∈ g, x < a.ndim) (hdisj : ∀ x ∈ xa, x ∉ g) :
    (resGroup a xa g ≠ [] ∧ (resGroup a xa g).Nodup ∧ ∀ x ∈ resGroup a xa g, x < (cPlain a b xa xb).ndim)
    ∧ bondPos (cPlain a b xa xb) (resGroup a xa g) = resPos a xa g
    ∧ fuseA a [g] m false = .ok (FuseP.fusedArrM a [g])
    ∧ fuseA (cPlain a b xa xb) [resGroup a xa g] m' false
        = .ok (FuseP.fusedArrM (cPlain a b xa xb) [resGroup a xa g])
    ∧ ∃ cf, tensordotA (FuseP.fusedArrM a [g]) b
          (.pair ((xa.map (shiftAxes a g)).map Int.ofNat) (xb.map Int.ofNat)) .blockwise = .ok cf
      ∧ ∀ (ML' ML : Sector) (MO' MO shp' shpA : List Nat) (Rs : Sector) (oR shpR : List Nat)
          (ns2 : Sector) (i2 shp2 : List Nat),
        Arr.blockShape? (FuseP.fusedArrM a [g]).indices ML' = some shp' → inBox shp' MO' = true →
        Arr.blockShape? a.indices ML = some shpA → inBox shpA MO = true →
        decAx a [g] 0 (ML'.getD (bondPos a g) (0, 0)) (MO'.getD (bondPos a g) 0)
          = some (permuted ML g, permuted MO g) →
        permuted ML' (freeAxes (FuseP.fusedArrM a [g]).ndim [bondPos a g]) = permuted ML (freeAxes a.ndim g) →
        permuted MO' (freeAxes (FuseP.fusedArrM a [g]).ndim [bondPos a g]) = permuted MO (freeAxes a.ndim g) →
        Arr.blockShape? (permuted b.indices (freeAxes b.ndim xb)) Rs = some shpR → inBox shpR oR = true →
        Arr.blockShape? (FuseP.fusedArrM (cPlain a b xa xb) [resGroup a xa g]).indices ns2 = some shp2 →
        inBox shp2 i2 = true →
        decAx (cPlain a b xa xb) [resGroup a xa g] 0 (ns2.getD (resPos a xa g) (0, 0)) (i2.getD (resPos a xa g) 0)
          = some (permuted ML g, permuted MO g) →
        permuted ns2 (freeAxes (FuseP.fusedArrM (cPlain a b xa xb) [resGroup a xa g]).ndim [resPos a xa g])
          = permuted (permuted ML' (freeAxes (FuseP.fusedArrM a [g]).ndim (xa.map (shiftAxes a g))) ++ Rs)
              (freeAxes cf.ndim [resPos a xa g]) →
        permuted i2 (freeAxes (FuseP.fusedArrM (cPlain a b xa xb) [resGroup a xa g]).ndim [resPos a xa g])
          = permuted (permuted MO' (freeAxes (FuseP.fusedArrM a [g]).ndim (xa.map (shiftAxes a g))) ++ oR)
              (freeAxes cf.ndim [resPos a xa g]) →
        (permuted ML' (freeAxes (FuseP.fusedArrM a [g]).ndim (xa.map (shiftAxes a g))) ++ Rs).getD
            (resPos a xa g) (0, 0) = ML'.getD (bondPos a g) (0, 0)
        ∧ (permuted MO' (freeAxes (FuseP.fusedArrM a [g]).ndim (xa.map (shiftAxes a g))) ++ oR).getD
            (resPos a xa g) 0 = MO'.getD (bondPos a g) 0
        ∧ cf.elem (permuted ML' (freeAxes (FuseP.fusedArrM a [g]).ndim (xa.map (shiftAxes a g))) ++ Rs)
            (permuted MO' (freeAxes (FuseP.fusedArrM a [g]).ndim (xa.map (shiftAxes a g))) ++ oR)
          = (FuseP.fusedArrM (cPlain a b xa xb) [resGroup a xa g]).elem ns2 i2 := by
  have h : OneOk a g := ⟨hne, hnd, hlt⟩
  have hxaF : ∀ x ∈ xa, x < a.ndim ∧ x ∉ g := fun x hx => ⟨hA x hx, hdisj x hx⟩
  have hdisj' : ∀ x ∈ g, x ∉ xa := fun x hx hm => hdisj x hm hx
  have hlen : xa.length = xb.length := by
    exact (ValidP.oppositeDualsB_iff.mp hopp).1
  have hcn : (cPlain a b xa xb).ndim = (freeAxes a.ndim xa).length + (freeAxes b.ndim xb).length :=
    tensordotBlockwise_rank a b xa xb
  obtain ⟨hO', hpos⟩ := bondPos_map_idxOf (C := cPlain a b xa xb) (xa := xa) h hdisj' (by rw [hcn]; omega)
  have nF := one_ndim (R := R) h
  have hposE : bondPos (cPlain a b xa xb) (resGroup a xa g) = resPos a xa g := by
    unfold bondPos resGroup resPos
    rw [hpos, nF]
    exact (idxOf_pos_eq h hxaF).symm
  have hA' : ∀ x ∈ xa.map (shiftAxes a g), x < (FuseP.fusedArrM a [g]).ndim := by
    rw [nF]; exact shiftAxes_map_lt h hxaF
  have hparse' := ValidP.parseAxes_nat (FuseP.fusedArrM a [g]).ndim b.ndim (xa.map (shiftAxes a g)) xb
    (by rw [List.length_map]; exact hlen) hA' hB
  obtain ⟨f1, _, f2, cfb, tb, hel⟩ := tensordot_fuse_group_commute hz1 hz2 a b xa xb g (resGroup a xa g) m m'
    ha hb hfa hfb hsym hopp hnA hnB hA hB hne hnd hlt hdisj hO'.ne hO'.nd hO'.lt
  rw [tensordotA_blockwise_ok _ _ _ _ _ hparse'] at tb
  obtain rfl := Except.ok.inj tb
  have hcfn : (tensordotBlockwise (FuseP.fusedArrM a [g]) b
      (freeAxes (FuseP.fusedArrM a [g]).ndim (xa.map (shiftAxes a g))) (xa.map (shiftAxes a g)) xb
      (freeAxes b.ndim xb)).ndim
      = (freeAxes (FuseP.fusedArrM a [g]).ndim (xa.map (shiftAxes a g))).length + (freeAxes b.ndim xb).length :=
    tensordotBlockwise_rank _ b _ xb
  refine ⟨⟨hO'.ne, hO'.nd, hO'.lt⟩, hposE, f1, f2, _, tensordotA_blockwise_ok _ _ _ _ _ hparse', ?_⟩
  intro ML' ML MO' MO shp' shpA Rs oR shpR ns2 i2 shp2 h1 h2 h3 h4 h5 h6 h7 h8 h9 k1 k2 k3 k4 k5
  have ebn : b.indices.length = b.ndim := rfl
  have eFn : (FuseP.fusedArrM a [g]).indices.length = FuseP.ndimM a [g] := nF
  have hMLl' : ML'.length = FuseP.ndimM a [g] := (blockShape?_length h1).1.trans eFn
  have hMOl' : MO'.length = FuseP.ndimM a [g] := by
    rw [inBox_length h2, (blockShape?_length h1).2]; exact eFn
  have hMLl : ML.length = a.ndim := (blockShape?_length h3).1
  have hMOl : MO.length = a.ndim := by rw [inBox_length h4, (blockShape?_length h3).2]; rfl
  have hRl : Rs.length = (freeAxes b.ndim xb).length := by
    rw [(blockShape?_length h8).1, permuted_length _ _ (by simpa [ebn] using mem_freeAxes_lt)]
  have hoRl : oR.length = (freeAxes b.ndim xb).length := by
    rw [inBox_length h9, (blockShape?_length h8).2, permuted_length _ _ (by simpa [ebn] using mem_freeAxes_lt)]
  have h6' := h6
  have h7' := h7
  rw [nF] at h6' h7'
  unfold bondPos at h6' h7'
  have L1 := layout_left h hxaF Rs hMLl' hMLl h6'
  have L2 := layout_left h hxaF oR hMOl' hMOl h7'
  have P1 := layout_left_pos ((0, 0) : Charge) h hxaF Rs hMLl'
  have P2 := layout_left_pos (0 : Nat) h hxaF oR hMOl'
  rw [hRl, ← hcn] at L1
  rw [hoRl, ← hcn] at L2
  rw [← nF] at L1 L2 P1 P2
  rw [← hcfn] at L1 L2
  refine ⟨P1, P2, ?_⟩
  refine (hel ML' ML MO' MO shp' shpA Rs oR shpR ns2 i2 shp2 h1 h2 h3 h4 h5 h6 h7 h8 h9 k1 k2 ?_ ?_ ?_).1
  · rw [hposE]
    show _ = some (permuted _ (resGroup a xa g), permuted _ (resGroup a xa g))
    unfold resGroup
    rw [result_group_part a.ndim xa g ML Rs hMLl hlt hdisj', result_group_part a.ndim xa g MO oR hMOl hlt hdisj']
    exact k3
  · rw [hposE]; exact k4.trans L1
  · rw [hposE]; exact k5.trans L2

/-- the legs of the contraction result that correspond to the group `g` of the RIGHT operand (offset
    by the number of the left operand's free legs) -/
def resGroupR (a b : Arr R) (xa xb g : List Nat) : List Nat :=
  g.map (fun x => (freeAxes a.ndim xa).length + (freeAxes b.ndim xb).idxOf x)

/-- where the fused leg sits in the contraction of `a` with the pre-fused right operand -/
def resPosR [Zero R] (a b : Arr R) (xa xb g : List Nat) : Nat :=
  (freeAxes a.ndim xa).length
    + (freeAxes (FuseP.fusedArrM b [g]).ndim (xb.map (shiftAxes b g))).idxOf (bondPos b g)

/-- **tensordot_fuse_group_commute_right_layout** (RIGHT operand's group, blockwise): mirror image of
    `tensordot_fuse_group_commute_layout`. -/
theorem tensordot_fuse_group_commute_right_layout [AddCommMonoid R] [Mul R] [Neg R]
    (hz1 : ∀ x : R, 0 * x = 0) (hz2 : ∀ x : R, x * 0 = 0) (a b : Arr R) (xa xb g : List Nat)
    (m m' : FuseMode)
    (ha : a.validB = true) (hb : b.validB = true) (hfa : a.fermi = false) (hfb : b.fermi = false)
    (hsym : a.sym = b.sym) (hc : ValidP.contractibleB a b xa xb = true)
    (hnA : xa.Nodup) (hnB : xb.Nodup) (hA : ∀ x ∈ xa, x < a.ndim) (hB : ∀ x ∈ xb, x < b.ndim)
    (hne : g ≠ []) (hnd : g.Nodup) (hlt : ∀ x ∈ g, x < b.ndim) (hdisj : ∀ x ∈ xb, x ∉ g) :
    (resGroupR a b xa xb g ≠ [] ∧ (resGroupR a b xa xb g).Nodup
      ∧ ∀ x ∈ resGroupR a b xa xb g, x < (cPlain a b xa xb).ndim)
    ∧ bondPos (cPlain a b xa xb) (resGroupR a b xa xb g) = resPosR a b xa xb g
    ∧ fuseA b [g] m false = .ok (FuseP.fusedArrM b [g])
    ∧ fuseA (cPlain a b xa xb) [resGroupR a b xa xb g] m' false
        = .ok (FuseP.fusedArrM (cPlain a b xa xb) [resGroupR a b xa xb g])
    ∧ ∃ cf, tensordotA a (FuseP.fusedArrM b [g])
          (.pair (xa.map Int.ofNat) ((xb.map (shiftAxes b g)).map Int.ofNat)) .blockwise = .ok cf
      ∧ ∀ (MR' MR : Sector) (MO' MO shp' shpB : List Nat) (Ls : Sector) (oL shpL : List Nat)
          (ns2 : Sector) (i2 shp2 : List Nat),
        Arr.blockShape? (FuseP.fusedArrM b [g]).indices MR' = some shp' → inBox shp' MO' = true →
        Arr.blockShape? b.indices MR = some shpB → inBox shpB MO = true →
        decAx b [g] 0 (MR'.getD (bondPos b g) (0, 0)) (MO'.getD (bondPos b g) 0)
          = some (permuted MR g, permuted MO g) →
        permuted MR' (freeAxes (FuseP.fusedArrM b [g]).ndim [bondPos b g]) = permuted MR (freeAxes b.ndim g) →
        permuted MO' (freeAxes (FuseP.fusedArrM b [g]).ndim [bondPos b g]) = permuted MO (freeAxes b.ndim g) →
        Arr.blockShape? (permuted a.indices (freeAxes a.ndim xa)) Ls = some shpL → inBox shpL oL = true →
        Arr.blockShape? (FuseP.fusedArrM (cPlain a b xa xb) [resGroupR a b xa xb g]).indices ns2 = some shp2 →
        inBox shp2 i2 = true →
        decAx (cPlain a b xa xb) [resGroupR a b xa xb g] 0 (ns2.getD (resPosR a b xa xb g) (0, 0))
            (i2.getD (resPosR a b xa xb g) 0)
          = some (permuted MR g, permuted MO g) →
        permuted ns2 (freeAxes (FuseP.fusedArrM (cPlain a b xa xb) [resGroupR a b xa xb g]).ndim
            [resPosR a b xa xb g])
          = permuted (Ls ++ permuted MR' (freeAxes (FuseP.fusedArrM b [g]).ndim (xb.map (shiftAxes b g))))
              (freeAxes cf.ndim [resPosR a b xa xb g]) →
        permuted i2 (freeAxes (FuseP.fusedArrM (cPlain a b xa xb) [resGroupR a b xa xb g]).ndim
            [resPosR a b xa xb g])
          = permuted (oL ++ permuted MO' (freeAxes (FuseP.fusedArrM b [g]).ndim (xb.map (shiftAxes b g))))
              (freeAxes cf.ndim [resPosR a b xa xb g]) →
        (Ls ++ permuted MR' (freeAxes (FuseP.fusedArrM b [g]).ndim (xb.map (shiftAxes b g)))).getD
            (resPosR a b xa xb g) (0, 0) = MR'.getD (bondPos b g) (0, 0)
        ∧ (oL ++ permuted MO' (freeAxes (FuseP.fusedArrM b [g]).ndim (xb.map (shiftAxes b g)))).getD
            (resPosR a b xa xb g) 0 = MO'.getD (bondPos b g) 0
        ∧ cf.elem (Ls ++ permuted MR' (freeAxes (FuseP.fusedArrM b [g]).ndim (xb.map (shiftAxes b g))))
            (oL ++ permuted MO' (freeAxes (FuseP.fusedArrM b [g]).ndim (xb.map (shiftAxes b g))))
          = (FuseP.fusedArrM (cPlain a b xa xb) [resGroupR a b xa xb g]).elem ns2 i2 := by
  have h : OneOk b g := ⟨hne, hnd, hlt⟩
  have hxbF : ∀ x ∈ xb, x < b.ndim ∧ x ∉ g := fun x hx => ⟨hB x hx, hdisj x hx⟩
  have hdisj' : ∀ x ∈ g, x ∉ xb := fun x hx hm => hdisj x hm hx
  have hlen : xa.length = xb.length := (cm_eq_of_contractibleB hc hA hB).1
  have hcn : (cPlain a b xa xb).ndim = (freeAxes a.ndim xa).length + (freeAxes b.ndim xb).length :=
    tensordotBlockwise_rank a b xa xb
  obtain ⟨hO', hpos⟩ := bondPos_map_idxOf_off (C := cPlain a b xa xb) (xa := xb) (freeAxes a.ndim xa).length
    h hdisj' (by rw [hcn])
  have nF := one_ndim (R := R) h
  have hposE : bondPos (cPlain a b xa xb) (resGroupR a b xa xb g) = resPosR a b xa xb g := by
    unfold bondPos resGroupR resPosR
    rw [hpos, nF]
    exact congrArg _ (idxOf_pos_eq h hxbF).symm
  have hB' : ∀ x ∈ xb.map (shiftAxes b g), x < (FuseP.fusedArrM b [g]).ndim := by
    rw [nF]; exact shiftAxes_map_lt h hxbF
  have hparse' := ValidP.parseAxes_nat a.ndim (FuseP.fusedArrM b [g]).ndim xa (xb.map (shiftAxes b g))
    (by rw [List.length_map]; exact hlen) hA hB'
  obtain ⟨f1, _, f2, cfb, tb, hel⟩ := tensordot_fuse_group_commute_right hz1 hz2 a b xa xb g
    (resGroupR a b xa xb g) m m' ha hb hfa hfb hsym hc hnA hnB hA hB hne hnd hlt hdisj hO'.ne hO'.nd hO'.lt
  rw [tensordotA_blockwise_ok _ _ _ _ _ hparse'] at tb
  obtain rfl := Except.ok.inj tb
  have hcfn : (tensordotBlockwise a (FuseP.fusedArrM b [g]) (freeAxes a.ndim xa) xa (xb.map (shiftAxes b g))
      (freeAxes (FuseP.fusedArrM b [g]).ndim (xb.map (shiftAxes b g)))).ndim
      = (freeAxes a.ndim xa).length + (freeAxes (FuseP.fusedArrM b [g]).ndim (xb.map (shiftAxes b g))).length :=
    tensordotBlockwise_rank a _ xa _
  refine ⟨⟨hO'.ne, hO'.nd, hO'.lt⟩, hposE, f1, f2, _, tensordotA_blockwise_ok _ _ _ _ _ hparse', ?_⟩
  intro MR' MR MO' MO shp' shpB Ls oL shpL ns2 i2 shp2 h1 h2 h3 h4 h5 h6 h7 h8 h9 k1 k2 k3 k4 k5
  have ean : a.indices.length = a.ndim := rfl
  have eFn : (FuseP.fusedArrM b [g]).indices.length = FuseP.ndimM b [g] := nF
  have hMRl' : MR'.length = FuseP.ndimM b [g] := (blockShape?_length h1).1.trans eFn
  have hMOl' : MO'.length = FuseP.ndimM b [g] := by
    rw [inBox_length h2, (blockShape?_length h1).2]; exact eFn
  have hMRl : MR.length = b.ndim := (blockShape?_length h3).1
  have hMOl : MO.length = b.ndim := by rw [inBox_length h4, (blockShape?_length h3).2]; rfl
  have hLl : Ls.length = (freeAxes a.ndim xa).length := by
    rw [(blockShape?_length h8).1, permuted_length _ _ (by simpa [ean] using mem_freeAxes_lt)]
  have hoLl : oL.length = (freeAxes a.ndim xa).length := by
    rw [inBox_length h9, (blockShape?_length h8).2, permuted_length _ _ (by simpa [ean] using mem_freeAxes_lt)]
  have h6' := h6
  have h7' := h7
  rw [nF] at h6' h7'
  unfold bondPos at h6' h7'
  have L1 := layout_right h hxbF Ls hMRl' hMRl h6'
  have L2 := layout_right h hxbF oL hMOl' hMOl h7'
  have P1 := layout_right_pos ((0, 0) : Charge) h hxbF Ls hMRl'
  have P2 := layout_right_pos (0 : Nat) h hxbF oL hMOl'
  have G1 := result_group_part_right b.ndim xb g Ls MR hMRl hlt hdisj'
  have G2 := result_group_part_right b.ndim xb g oL MO hMOl hlt hdisj'
  rw [hLl, ← hcn] at L1
  rw [hoLl, ← hcn] at L2
  rw [hLl] at P1 G1
  rw [hoLl] at P2 G2
  rw [← nF] at L1 L2 P1 P2
  rw [← hcfn] at L1 L2
  refine ⟨P1, P2, ?_⟩
  refine (hel MR' MR MO' MO shp' shpB Ls oL shpL ns2 i2 shp2 h1 h2 h3 h4 h5 h6 h7 h8 h9 k1 k2 ?_ ?_ ?_).1
  · rw [hposE]
    show _ = some (permuted _ (resGroupR a b xa xb g), permuted _ (resGroupR a b xa xb g))
    unfold resGroupR
    rw [G1, G2]
    exact k3
  · rw [hposE]; exact k4.trans L1
  · rw [hposE]; exact k5.trans L2

-- `exA[i,j,k]` with `exG[k',m,n]` over `k` (axis 2 of `exA`, axis 0 of `exG`), result `c[i,j,m,n]`.
-- RIGHT: the group `g = [2, 1]` of free legs of `exG` (reversed order, behind the contracted axis): the
-- fused leg sits at position 1, the contracted axis stays at 0; the corresponding legs of `c` are
-- `g' = [3, 2]` (offset by the two free legs of `exA`).
-- LEFT: the group `g = [1, 0]` of `exA`: fused leg at 0, the contracted axis 2 moves to 1; `g' = [1, 0]`.
example : exA.validB = true ∧ exG.validB = true ∧ exA.fermi = false ∧ exG.fermi = false
    ∧ exA.sym = exG.sym ∧ ValidP.contractibleB exA exG [2] [0] = true
    ∧ ([2, 1] : List Nat).Nodup ∧ (∀ x ∈ ([2, 1] : List Nat), x < exG.ndim) ∧ (∀ x ∈ ([0] : List Nat), x ∉ ([2, 1] : List Nat))
    ∧ bondPos exG [2, 1] = 1 ∧ ([0] : List Nat).map (shiftAxes exG [2, 1]) = [0]
    ∧ ([2, 1] : List Nat).map (fun x => (freeAxes exA.ndim [2]).length + (freeAxes exG.ndim [0]).idxOf x) = [3, 2]
    ∧ (∀ x ∈ ([3, 2] : List Nat), x < (cPlain exA exG [2] [0]).ndim)
    ∧ (∀ x ∈ ([1, 0] : List Nat), x < exA.ndim) ∧ (∀ x ∈ ([2] : List Nat), x ∉ ([1, 0] : List Nat))
    ∧ bondPos exA [1, 0] = 0 ∧ ([2] : List Nat).map (shiftAxes exA [1, 0]) = [1]
    ∧ resGroup exA [2] [1, 0] = [1, 0] ∧ resPos exA [2] [1, 0] = 0
    ∧ resGroup lyA [2, 3] [0, 1] = [0, 1] ∧ resPos lyA [2, 3] [0, 1] = 0
    ∧ resGroupR exA exG [2] [0] [2, 1] = [3, 2] ∧ resPosR exA exG [2] [0] [2, 1] = 2
    ∧ (cPlain exA exG [2] [0]).blocks.length ≠ 0 := by decide +kernel

-- sanity: the two routes (right operand's group) store the same non-zero data, the contraction of
-- the pre-fused operand in every mode
example :
    (match fuseA exG [[2, 1]] .insert false, tensordotA exA exG (.pair [2] [0]) .blockwise with
     | .ok bf, .ok c =>
        match fuseA c [[3, 2]] .concat false with
        | .ok cq =>
          [TdotMode.blockwise, TdotMode.fused, TdotMode.auto].all (fun md =>
            match tensordotA exA bf (.pair [2] [0]) md with
            | .ok cf =>
              cf.blocks.all (fun p => (alookup cq.blocks p.1).map (·.data) == some p.2.data)
              && cq.blocks.all (fun p => (alookup cf.blocks p.1).map (·.data) == some p.2.data)
              && cf.blocks.length != 0
            | _ => false)
        | _ => false
     | _, _ => false) = true := by decide +kernel

-- the address hypotheses of `tensordot_fuse_group_commute_layout` at the entry `21` of the `lyA`, `lyB`
-- example: offset 1 on the fused leg of `cf`, offset 0 on the fused leg of `fuse(c, [g'])`, both
-- decoding to the sub-sector `(1, 0)`, offsets `(0, 0)`
example :
    let F := FuseP.fusedArrM lyA [[0, 1]]
    let c := cPlain lyA lyB [2, 3] [0, 1]
    let ML' : Sector := [(1, 0), (1, 0), (0, 0)]
    let MO' : List Nat := [1, 0, 0]
    let ML : Sector := [(1, 0), (0, 0), (1, 0), (0, 0)]
    let MO : List Nat := [0, 0, 0, 0]
    let ns2 : Sector := [(1, 0), (1, 0)]
    let i2 : List Nat := [0, 0]
    ValidP.oppositeDualsB lyA lyB [2, 3] [0, 1] = true
    ∧ Arr.blockShape? F.indices ML' = some [2, 1, 1] ∧ inBox [2, 1, 1] MO' = true
    ∧ Arr.blockShape? lyA.indices ML = some [1, 1, 1, 1] ∧ inBox [1, 1, 1, 1] MO = true
    ∧ decAx lyA [[0, 1]] 0 (ML'.getD (bondPos lyA [0, 1]) (0, 0)) (MO'.getD (bondPos lyA [0, 1]) 0)
        = some (permuted ML [0, 1], permuted MO [0, 1])
    ∧ permuted ML' (freeAxes F.ndim [bondPos lyA [0, 1]]) = permuted ML (freeAxes lyA.ndim [0, 1])
    ∧ permuted MO' (freeAxes F.ndim [bondPos lyA [0, 1]]) = permuted MO (freeAxes lyA.ndim [0, 1])
    ∧ Arr.blockShape? (permuted lyB.indices (freeAxes lyB.ndim [0, 1])) [(1, 0)] = some [1] ∧ inBox [1] [0] = true
    ∧ Arr.blockShape? (FuseP.fusedArrM c [[0, 1]]).indices ns2 = some [1, 1] ∧ inBox [1, 1] i2 = true
    ∧ decAx c [[0, 1]] 0 (ns2.getD 0 (0, 0)) (i2.getD 0 0) = some (permuted ML [0, 1], permuted MO [0, 1])
    ∧ permuted ns2 (freeAxes (FuseP.fusedArrM c [[0, 1]]).ndim [0])
        = permuted (permuted ML' (freeAxes F.ndim [1, 2]) ++ [(1, 0)]) (freeAxes 2 [0])
    ∧ permuted i2 (freeAxes (FuseP.fusedArrM c [[0, 1]]).ndim [0])
        = permuted (permuted MO' (freeAxes F.ndim [1, 2]) ++ [0]) (freeAxes 2 [0])
    ∧ (tensordotBlockwise F lyB (freeAxes F.ndim [1, 2]) [1, 2] [0, 1] (freeAxes lyB.ndim [0, 1])).elem
        (permuted ML' (freeAxes F.ndim [1, 2]) ++ [(1, 0)]) (permuted MO' (freeAxes F.ndim [1, 2]) ++ [0]) = 21
    ∧ (FuseP.fusedArrM c [[0, 1]]).elem ns2 i2 = 21 := by decide +kernel

end SymmModel.C06
