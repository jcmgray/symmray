/-
  Property C05, part f.

  * two unfuse steps on different axes commute at value level:
      `unfuseF_steps_commute`, `unfuseA_steps_commute`
    (`unfuse q` then `unfuse p` vs `unfuse p` then `unfuse (q - 1 + #subs p)`, `p < q`: both succeed,
    both results valid, equal value views `VEq`).  Mechanism (`Proofs/Fuse6*.lean`): the value view of
    a step is `unfVal` of the value view of its input; on addresses cut in five parts the two
    compositions read the same entry of the input (`unfVal_comm`); the sign of an `unfuseF` step only
    depends on the segment of the sector at its own axis (`unfuseSign_seg`); the address a step reads
    lies in a box of its input (`collapse_box`).
    Consequence, for any number of fused axes: unfusing LEFT TO RIGHT (axis numbers shifted by what
    was expanded before — the order `reshape` back uses) = unfusing last axis first:
      `unfuse_order_irrelevantF`, `unfuse_order_irrelevantA`.
  * `unfuseLeftToRight_fuse` (next to `unfuseF_fuseF`): fermionic array, ANY admissible groups, no
    restriction on the indices: `fuseF`, then `unfuseF` on the fused axes left to right restores the
    value view of `transposeF a perm` exactly (valid, fermionic, `VEq`).  For contiguous in-order
    groups `perm` is the identity.  `unfuseGroupsF_fuseF_veq` is the same for last-group-first, as a
    `VEq` statement.
    `unfuseLeftToRight_fuseA`: abelian array: same value view as `unfuseGroups` (last group first),
    whose result `unfuse_fuse_blocks` describes block by block.
-/
import SymmModel.Proofs.Fuse6Fuse2
import SymmModel.Props.C05All3

namespace SymmModel.C05
open SymmModel FuseP SymmModel.Lazy

variable {R : Type} [Zero R] [Neg R] [LawfulNeg R]

/-- **two `unfuseF` steps on different axes commute** (value views) -/
theorem unfuseF_steps_commute (a : Arr R) (hv : a.validB = true) (hf : a.fermi = true) {p q : Nat} (hpq : p < q)
    {ixP ixQ : Index} {subsP subsQ : List Index} {extsP extsQ : Extents}
    (hixP : a.indices[p]? = some ixP) (hsubP : ixP.sub = some (subsP, extsP))
    (hixQ : a.indices[q]? = some ixQ) (hsubQ : ixQ.sub = some (subsQ, extsQ)) :
    ∃ y1 z1 y2 z2, Arr.unfuseF a q = .ok y1 ∧ Arr.unfuseF y1 p = .ok z1 ∧ Arr.unfuseF a p = .ok y2
      ∧ Arr.unfuseF y2 (q - 1 + subsP.length) = .ok z2
      ∧ z1.validB = true ∧ z2.validB = true ∧ z1.fermi = true ∧ VEq z1 z2 := by
  obtain ⟨y1, z1, y2, z2, h1, h2, h3, h4, _, g1, _, g2, _, _, hv12⟩ :=
    step_comm (stepOK_F (R := R)) a ⟨hv, hf⟩ hpq hixP hsubP hixQ hsubQ
  exact ⟨y1, z1, y2, z2, h1, h2, h3, h4, g1.1, g2.1, g1.2, hv12⟩

/-- **two `unfuse` steps on different axes commute** (abelian arrays, value views) -/
theorem unfuseA_steps_commute (a : Arr R) (hv : a.validB = true) (hf : a.fermi = false) {p q : Nat} (hpq : p < q)
    {ixP ixQ : Index} {subsP subsQ : List Index} {extsP extsQ : Extents}
    (hixP : a.indices[p]? = some ixP) (hsubP : ixP.sub = some (subsP, extsP))
    (hixQ : a.indices[q]? = some ixQ) (hsubQ : ixQ.sub = some (subsQ, extsQ)) :
    ∃ y1 z1 y2 z2, unfuseA a q = .ok y1 ∧ unfuseA y1 p = .ok z1 ∧ unfuseA a p = .ok y2
      ∧ unfuseA y2 (q - 1 + subsP.length) = .ok z2
      ∧ z1.validB = true ∧ z2.validB = true ∧ z1.fermi = false ∧ VEq z1 z2 := by
  obtain ⟨y1, z1, y2, z2, h1, h2, h3, h4, _, g1, _, g2, _, _, hv12⟩ :=
    step_comm (stepOK_A (R := R)) a ⟨hv, hf⟩ hpq hixP hsubP hixQ hsubQ
  exact ⟨y1, z1, y2, z2, h1, h2, h3, h4, g1.1, g2.1, g1.2, hv12⟩

/-- `pls` lists (axis, number of sub-indices) of fused axes of `x`, left to right.  Unfusing them
    left to right — at the axis numbers `l2rAxes pls 0`, each shifted by what was expanded before —
    and unfusing them last axis first both succeed and give equal value views. -/
theorem unfuse_order_irrelevantF (x : Arr R) (hv : x.validB = true) (hf : x.fermi = true)
    (pls : List (Nat × Nat)) (hs : (pls.map (·.1)).Pairwise (· < ·))
    (hfused : ∀ pl ∈ pls, 0 < pl.2 ∧ FusedAtL x pl.1 pl.2) :
    ∃ z z', (l2rAxes pls 0).foldlM Arr.unfuseF x = .ok z ∧ (pls.map (·.1)).reverse.foldlM Arr.unfuseF x = .ok z'
      ∧ z.validB = true ∧ z'.validB = true ∧ z.fermi = true ∧ VEq z z' := by
  obtain ⟨z, z', h1, h2, g1, g2, hveq⟩ := l2r_r2l (stepOK_F (R := R)) pls 0 x ⟨hv, hf⟩ hs hfused
  exact ⟨z, z', h1, h2, g1.1, g2.1, g1.2, hveq⟩

theorem unfuse_order_irrelevantA (x : Arr R) (hv : x.validB = true) (hf : x.fermi = false)
    (pls : List (Nat × Nat)) (hs : (pls.map (·.1)).Pairwise (· < ·))
    (hfused : ∀ pl ∈ pls, 0 < pl.2 ∧ FusedAtL x pl.1 pl.2) :
    ∃ z z', (l2rAxes pls 0).foldlM unfuseA x = .ok z ∧ (pls.map (·.1)).reverse.foldlM unfuseA x = .ok z'
      ∧ z.validB = true ∧ z'.validB = true ∧ z.fermi = false ∧ VEq z z' := by
  obtain ⟨z, z', h1, h2, g1, g2, hveq⟩ := l2r_r2l (stepOK_A (R := R)) pls 0 x ⟨hv, hf⟩ hs hfused
  exact ⟨z, z', h1, h2, g1.1, g2.1, g1.2, hveq⟩

/-- three groups of sizes 2, 1, 3 fused at axis 0: the fused axes are 0 and 2; left to right they
    are unfused at axes 0 and 3 (= 2 + (2 - 1)) -/
example : multiPL [[0, 1], [2], [3, 4, 5]] 0 = [(0, 2), (2, 3)]
    ∧ l2rAxes (multiPL [[0, 1], [2], [3, 4, 5]] 0) 0 = [0, 3] := by decide

/-- unfuse the axes that `fuseF(*groups)` created at `position`, LEFT TO RIGHT -/
def unfuseLeftToRightF (groups : List (List Nat)) (position : Nat) (x : Arr R) : Except Err (Arr R) :=
  (l2rAxes (multiPL groups position) 0).foldlM Arr.unfuseF x

def unfuseLeftToRight (groups : List (List Nat)) (position : Nat) (x : Arr R) : Except Err (Arr R) :=
  (l2rAxes (multiPL groups position) 0).foldlM unfuseA x

/-- `unfuseF_fuseF` as an equality of value views -/
theorem unfuseGroupsF_fuseF_veq (a : Arr R) (groups : List (List Nat)) (e : Bool)
    (hv : a.validB = true) (hf : a.fermi = true) (hg : groupsOkB groups a.ndim = true) :
    let gi := calcFuseGroupInfo groups a.duals
    ∃ y z, Arr.fuseF a groups .insert e = .ok y ∧ unfuseGroupsF groups gi.position y = .ok z
      ∧ z.validB = true ∧ VEq z (a.transposeF gi.perm) := by
  intro gi
  obtain ⟨y, z, h1, h2, hzv, hzf, hzi, hzs, hzc, hzo, hst, hex⟩ := unfuseF_fuseF a groups e hv hf hg
  have hok := groupsOk_iff.1 hg
  have hisp := giM_isPerm (a := a) hok
  have hTV := ValidP.transposeF_valid a gi.perm true ((ValidP.validB_iff a).1 hv) hf hisp
  have hfull := Full.of_valid hv hf
  have htr := hfull.trOk hisp
  have hsec := transposeF_sectors htr
  have hzva := validArr_of_validB hzv
  refine ⟨y, z, h1, h2, hzv, ⟨?_, ?_, hzi, ?_, ?_, ?_⟩⟩
  · rw [hzs]; rfl
  · rw [hzf]; exact hf.symm
  · rw [hzc]; rfl
  · rw [hzo]; rfl
  apply elem_ext_of_inBox hzva (validArr_of_core hTV.core) hzi
  intro K shp hK J hJ
  cases hl : alookup z.blocks K with
  | some V =>
    have hVs : V.shape = shp := by
      have := (hzva.blk _ (alookup_some_mem hl)).2.1
      rw [hK] at this; simpa using this.symm
    by_cases hmem : ∃ s b, (s, b) ∈ a.blocks ∧ K = permuted s gi.perm
    · obtain ⟨s, b, hsb, rfl⟩ := hmem
      obtain ⟨V', hV', _, hval⟩ := hst s b hsb
      rw [hl] at hV'; simp only [Option.some.injEq] at hV'; subst hV'
      exact hval J (by rw [hVs]; exact hJ)
    · have := hex K V hl (fun s b hsb hK' => hmem ⟨s, b, hsb, hK'⟩) J (by rw [hVs]; exact hJ)
      rw [this.1, this.2]
  | none =>
    rw [elem_eq, hl]
    simp only
    have hnot : K ∉ (a.transposeF gi.perm).blocks.map (·.1) := by
      intro hKm
      have : K ∈ (a.transposeF gi.perm).sectors := hKm
      rw [hsec] at this
      obtain ⟨s, hs, rfl⟩ := List.mem_map.1 this
      obtain ⟨sb, hsb, rfl⟩ := List.mem_map.1 hs
      obtain ⟨V', hV', _⟩ := hst sb.1 sb.2 hsb
      rw [hl] at hV'; cases hV'
    rw [elem_eq, alookup_eq_none_iff.2 hnot]

/-- **fuse, then unfuse LEFT TO RIGHT** (the order `reshape` back uses): for a valid fermionic array
    and any admissible groups, `fuseF` succeeds, unfusing the fused axes left to right with `unfuseF`
    succeeds, the result is valid and fermionic and has exactly the value view of `transposeF a perm`
    (for contiguous in-order groups `perm` is the identity); it also has the value view of the
    last-group-first result of `unfuseF_fuseF`. -/
theorem unfuseLeftToRight_fuse (a : Arr R) (groups : List (List Nat)) (e : Bool)
    (hv : a.validB = true) (hf : a.fermi = true) (hg : groupsOkB groups a.ndim = true) :
    let gi := calcFuseGroupInfo groups a.duals
    ∃ y z z', Arr.fuseF a groups .insert e = .ok y ∧ unfuseLeftToRightF groups gi.position y = .ok z
      ∧ unfuseGroupsF groups gi.position y = .ok z'
      ∧ z.validB = true ∧ z.fermi = true ∧ VEq z z' ∧ VEq z (a.transposeF gi.perm) := by
  intro gi
  have hok := groupsOk_iff.1 hg
  obtain ⟨h1, hyV, hyf⟩ := fuseF_fusedArrM (a := a) e hv hf hok
  -- the fused axes of the result, unfused in both orders
  have hfa := fusedArrM_fusedAtL (signAdj_groupsOk (a := a) hok)
  rw [signAdj_position hok, multiPL_newGroupsF] at hfa
  obtain ⟨z, z', h2, h3, hgz, _, hveq⟩ := l2r_r2l (stepOK_F (R := R))
    (multiPL groups gi.position) 0 _ ⟨hyV, hyf⟩ (multiPL_sorted _ _) hfa
  rw [r2l_multiPL] at h3
  have h3 : unfuseGroupsF groups gi.position _ = .ok z' := h3
  -- last group first gives the transposed array
  obtain ⟨y', z'', h1', h3', _, hvT⟩ := unfuseGroupsF_fuseF_veq a groups e hv hf hg
  rw [h1] at h1'
  simp only [Except.ok.injEq] at h1'
  subst h1'
  have h3'' : unfuseGroupsF groups gi.position _ = .ok z'' := h3'
  rw [h3] at h3''
  simp only [Except.ok.injEq] at h3''
  subst h3''
  exact ⟨_, z, z', h1, h2, h3, hgz.1, hgz.2, hveq, hveq.trans hvT⟩

/-- abelian arrays: fuse, then unfuse left to right = unfuse last group first (whose result
    `unfuse_fuse_blocks` describes block by block), as value views -/
theorem unfuseLeftToRight_fuseA (a : Arr R) (groups : List (List Nat))
    (hv : a.validB = true) (hf : a.fermi = false) (hg : groupsOkB groups a.ndim = true) :
    let gi := calcFuseGroupInfo groups a.duals
    ∃ x z z', fuseCore a groups .insert = .ok x ∧ unfuseLeftToRight groups gi.position x = .ok z
      ∧ unfuseGroups groups gi.position x = .ok z'
      ∧ z.validB = true ∧ z.fermi = false ∧ VEq z z' := by
  intro gi
  have hok := groupsOk_iff.1 hg
  have hx := fuseCore_multi_eq (validArr_of_validB hv) hok.adm
  have hxv := C01.fuseCore_valid a _ groups hv hf (admissible_of_groupsOk hok) hx
  obtain ⟨z, z', hz, hz', hgz, _, hveq⟩ := l2r_r2l (stepOK_A (R := R))
    (multiPL groups (giM a groups).position) 0 _ ⟨hxv, hf⟩ (multiPL_sorted _ _) (fusedArrM_fusedAtL (a := a) hok)
  rw [r2l_multiPL] at hz'
  exact ⟨_, z, z', hx, hz, hz', hgz.1, hgz.2, hveq⟩

/-- the rank-4 example as a fermionic array (odd charges on two legs of each stored sector), with a
    pending sign on one sector -/
def exG : Arr Int := { exB with fermi := true, phases := [([(1, 0), (0, 0), (0, 0), (1, 0)], -1)] }
example : exG.validB = true ∧ groupsOkB [[1, 0], [3, 2]] exG.ndim = true := by decide

/-- two fused axes, both directions of unfusing (the left-to-right run unfuses at axes 0 and 2):
    the dict orders differ and both store two additional zero blocks, the values agree with each
    other and with `transposeF` at every sector -/
example : l2rAxes (multiPL [[1, 0], [3, 2]] 0) 0 = [0, 2]
    ∧ ∀ K ∈ [[((0 : Int), (0 : Int)), (1, 0), (0, 0), (1, 0)], [(0, 0), (1, 0), (1, 0), (0, 0)],
             [(1, 0), (0, 0), (0, 0), (1, 0)], [(1, 0), (0, 0), (1, 0), (0, 0)], [(0, 0), (0, 0), (1, 0), (1, 0)]],
        elemAt (do let y ← Arr.fuseF exG [[1, 0], [3, 2]] .insert true; unfuseLeftToRightF [[1, 0], [3, 2]] 0 y)
            K [0, 0, 0, 0]
          = elemAt (do let y ← Arr.fuseF exG [[1, 0], [3, 2]] .insert true; unfuseGroupsF [[1, 0], [3, 2]] 0 y)
            K [0, 0, 0, 0]
        ∧ elemAt (do let y ← Arr.fuseF exG [[1, 0], [3, 2]] .insert true; unfuseLeftToRightF [[1, 0], [3, 2]] 0 y)
            K [0, 0, 0, 0]
          = (exG.transposeF [1, 0, 3, 2]).elem K [0, 0, 0, 0] := by
  decide +kernel

end SymmModel.C05
