/-
  Umbrella for property C12.  Props/C08b is part of it for the dense-norm theorem
  `C08.norm_sq_eq_dense`, which sits next to the C08 densification lemmas it uses.
-/
import SymmModel.Props.C12
import SymmModel.Props.C08b
import SymmModel.Props.C12b
import SymmModel.Props.C12c
