/-
  Property C10, network clause — the MIXED operand orders of the halves of the norm
  network `{a, b, ā, b̄}`: one half contracted as `a·b` / `ā·b̄`, the other as `b̄·ā` / `b·a`.

  `a`, `b`: valid fermionic, bonded along `xa`/`xb` (`tdotAdmissibleB`), sorted distinct ket labels
  (`KetLabels`, all labels distinct); blockwise mode; commutative scalars (`hmul`; S5 of C04 needs
  it), `AddCommMonoid`, `NetLaws`.  `K = a·b`, `K̄ = ā·b̄`, `K' = b·a`, `K̄' = b̄·ā`;
  `crossAx m k` lists, for each leg of `p·q` in order, its position in `q·p` (`crossAx_def`).

  PROVED
  * `swap_eqv` — S5 as an equivalence of arrays: `q·p` and `(p·q).transposeF rot` have the same
    symmetry, charge, labels, index tables, sector set and values (`C04.eqv_def`; the proof is
    `Assoc5P.swap_eqv` read from `q·p`), `rot` the rotation moving `p`'s dangling legs behind `q`'s.
    `dropUnused_rot`: pruning commutes with that rotation.
  * `mixed_full` — a swapped half against the opposite half: if `P = p·q`, `P' = q·p` and `P·Y = r`
    is a full contraction over all legs, then `P'·Y` with the crossed leg
    pairs succeeds and is a scalar with the labels and the value of `r`
    [`swap_eqv`, congruence `C04.tdotF_congr_eqv`, S6 `C04.tdotF_pretranspose`].
  * `network_norm_mixed` — the four mixed balanced bracketings
      `(b̄·ā)·(a·b)`, `(a·b)·(b̄·ā)`, `(ā·b̄)·(b·a)`, `(b·a)·(ā·b̄)`
    succeed and give `normSq (a·b)`, rank 0, no labels (with `normSq (b·a) = normSq (a·b)`,
    `C10.normSq_swap`).  Together with C10e/C10f: every balanced bracketing `(half)·(half)` of the
    four tensors, in every operand order of the halves and of the final call.

  * `network_norm_mixed_seq` — the sequential bracketing with mixed orders `((ā·b̄)·b)·a = normSq (a·b)`:
    `= K̄·(b·a)` by S7 under the weak guard for the triangle `(K̄, b, a)` (`Assoc3P.tdotF_assoc_w`;
    the hypothesis `netLabelsB` of the swapped roles is implied by the distinct labels,
    `LabelAlg.netLabelsB_of_distinct`; `network_norm_mixed_seq_oneKet` is stated without it), then the third bracketing above (`crossAx k m = rotAx m k`).

  NOT COVERED HERE, and where it is:
  * the other sequential bracketings with mixed orders (`((a·b)·b̄)·ā`, `b̄·(ā·(a·b))`, …): each is the
    same argument with another triangle — not written out;
  * the mixed orders in fused / auto mode: C10h (`network_norm_mixed_any_mode`,
    `network_norm_mixed_seq_any_mode`);
  * three-tensor chains `a–b–c` and longer: C10h.
-/
import SymmModel.Proofs.NormNet24
import SymmModel.Props.C10f

namespace SymmModel.C10
open SymmModel Lazy Norm NormNet TdotP

theorem crossAx_def (m k : Nat) :
    crossAx m k = RoutesP.positions (rotAx m k) (List.range (m + k))
    ∧ rotAx m k = (List.range k).map (m + ·) ++ List.range m
    ∧ (crossAx m k).Perm (List.range (m + k)) := ⟨rfl, rfl, crossAx_perm m k⟩

example : crossAx 2 3 = [3, 4, 0, 1, 2] ∧ rotAx 2 3 = [2, 3, 4, 0, 1] := by decide

theorem dropUnused_rot (W : List Index) (S S' : List Sector) (m : Nat) (hm : m ≤ W.length)
    (hS : ∀ s ∈ S, s.length = W.length)
    (hmem : ∀ s', s' ∈ S' ↔ ∃ s ∈ S, rotL m s = s') :
    dropUnused (rotL m W) S' = rotL m (dropUnused W S) :=
  NormNet.dropUnused_rot W S S' m hm hS hmem

section main
variable {R : Type} [AddCommMonoid R] [Mul R] [Neg R] [GradedP.SignRing R]

/-- **S5 as an equivalence of arrays** -/
theorem swap_eqv (hmul : ∀ x y : R, x * y = y * x) (p q P P' : Arr R) (xp xq : List Nat)
    (hp : p.validB = true) (hq : q.validB = true) (hfp : p.fermi = true) (hfq : q.fermi = true)
    (hadm : ValidP.tdotAdmissibleB p q xp xq = true)
    (hd : (p.oddpos ++ q.oddpos).Pairwise (fun x y => x.1 ≠ y.1))
    (eP : p.tensordotF q (.pair (xp.map Int.ofNat) (xq.map Int.ofNat)) .blockwise = .ok P)
    (eP' : q.tensordotF p (.pair (xq.map Int.ofNat) (xp.map Int.ofNat)) .blockwise = .ok P') :
    Assoc3P.Eqv P' (P.transposeF (rotAx (freeAxes p.ndim xp).length (freeAxes q.ndim xq).length)) := by
  exact NormNet.swap_eqv hmul p q P P' xp xq (RoutesP.Adm.of hp hq hfp hfq hadm) hd eP eP'

/-- **a swapped half against the opposite half** -/
theorem mixed_full (hmul : ∀ x y : R, x * y = y * x) (p q P P' Y r : Arr R) (xp xq : List Nat)
    (h : RoutesP.Adm p q xp xq) (hd : (p.oddpos ++ q.oddpos).Pairwise (fun x y => x.1 ≠ y.1))
    (eP : p.tensordotF q (.pair (xp.map Int.ofNat) (xq.map Int.ofNat)) .blockwise = .ok P)
    (eP' : q.tensordotF p (.pair (xq.map Int.ofNat) (xp.map Int.ofNat)) .blockwise = .ok P')
    (hPv : P.validB = true) (hPf : P.fermi = true) (hP'v : P'.validB = true)
    (hA : RoutesP.Adm P Y (List.range P.ndim) (List.range P.ndim)) (hYn : Y.ndim = P.ndim)
    (hr : P.tensordotF Y (allAxes P.ndim) .blockwise = .ok r) :
    ∃ r', P'.tensordotF Y (.pair
          ((crossAx (freeAxes p.ndim xp).length (freeAxes q.ndim xq).length).map Int.ofNat)
          ((List.range P.ndim).map Int.ofNat)) .blockwise = .ok r'
      ∧ r'.ndim = 0 ∧ r'.oddpos = r.oddpos ∧ r'.elem [] [] = r.elem [] [] :=
  NormNet.mixed_full hmul p q P P' Y r xp xq h hd eP eP' hP'v (.ofAdm hA) hYn hr

end main

/-- **network_norm_mixed.**  The four balanced bracketings with the halves in mixed operand
    orders give `normSq (a·b)`. -/
theorem network_norm_mixed {R : Type} [AddCommMonoid R] [Mul R] [Neg R] [Conj R] [NetLaws R]
    (hmul : ∀ x y : R, x * y = y * x) (a b : Arr R) (xa xb : List Nat)
    (ha : a.validB = true) (hb : b.validB = true) (hfa : a.fermi = true) (hfb : b.fermi = true)
    (hadm : ValidP.tdotAdmissibleB a b xa xb = true)
    (hoA : KetLabels a.oddpos) (hoB : KetLabels b.oddpos)
    (hd : (a.oddpos ++ b.oddpos).Pairwise (fun x y => x.1 ≠ y.1)) :
    ∃ K Kb K' Kb',
      a.tensordotF b (.pair (xa.map Int.ofNat) (xb.map Int.ofNat)) .blockwise = .ok K
      ∧ (NormNet.braOf a xa).tensordotF (NormNet.braOf b xb)
          (.pair (xa.map Int.ofNat) (xb.map Int.ofNat)) .blockwise = .ok Kb
      ∧ b.tensordotF a (.pair (xb.map Int.ofNat) (xa.map Int.ofNat)) .blockwise = .ok K'
      ∧ (NormNet.braOf b xb).tensordotF (NormNet.braOf a xa)
          (.pair (xb.map Int.ofNat) (xa.map Int.ofNat)) .blockwise = .ok Kb'
      ∧ normSq K' = normSq K
      -- (b̄·ā)·(a·b)
      ∧ (∃ r, Kb'.tensordotF K (.pair
            ((crossAx (freeAxes a.ndim xa).length (freeAxes b.ndim xb).length).map Int.ofNat)
            ((List.range K.ndim).map Int.ofNat)) .blockwise = .ok r
          ∧ r.ndim = 0 ∧ r.oddpos = [] ∧ r.elem [] [] = normSq K)
      -- (a·b)·(b̄·ā)
      ∧ (∃ r, K.tensordotF Kb' (.pair
            ((crossAx (freeAxes b.ndim xb).length (freeAxes a.ndim xa).length).map Int.ofNat)
            ((List.range K.ndim).map Int.ofNat)) .blockwise = .ok r
          ∧ r.ndim = 0 ∧ r.oddpos = [] ∧ r.elem [] [] = normSq K)
      -- (ā·b̄)·(b·a)
      ∧ (∃ r, Kb.tensordotF K' (.pair
            ((crossAx (freeAxes b.ndim xb).length (freeAxes a.ndim xa).length).map Int.ofNat)
            ((List.range K.ndim).map Int.ofNat)) .blockwise = .ok r
          ∧ r.ndim = 0 ∧ r.oddpos = [] ∧ r.elem [] [] = normSq K)
      -- (b·a)·(ā·b̄)
      ∧ (∃ r, K'.tensordotF Kb (.pair
            ((crossAx (freeAxes a.ndim xa).length (freeAxes b.ndim xb).length).map Int.ofNat)
            ((List.range K.ndim).map Int.ofNat)) .blockwise = .ok r
          ∧ r.ndim = 0 ∧ r.oddpos = [] ∧ r.elem [] [] = normSq K) := by
  obtain ⟨K, Kb, K', Kb', T, m1, m2, m3, m4⟩ :=
    NormNet.network_norm_mixed hmul a b xa xb ha hb hfa hfb hadm hoA hoB hd
  exact ⟨K, Kb, K', Kb', T.eK, T.eKb, T.eK', T.eKb', T.val, m1, m2, m3, m4⟩

/-- **network_norm_mixed_seq.**  `((ā·b̄)·b)·a = normSq (a·b)`: the bra half contracted as `ā·b̄`, then
    the ket tensors one at a time in the order `b`, `a` -/
theorem network_norm_mixed_seq {R : Type} [AddCommMonoid R] [Mul R] [Neg R] [Conj R] [NetLaws R]
    [AssocP.AssocLaws R] (hmul : ∀ x y : R, x * y = y * x) (a b : Arr R) (xa xb : List Nat)
    (ha : a.validB = true) (hb : b.validB = true) (hfa : a.fermi = true) (hfb : b.fermi = true)
    (hadm : ValidP.tdotAdmissibleB a b xa xb = true)
    (hoA : KetLabels a.oddpos) (hoB : KetLabels b.oddpos)
    (hd : (a.oddpos ++ b.oddpos).Pairwise (fun x y => x.1 ≠ y.1))
    (hlab' : netLabelsB b.parity a.parity b.oddpos a.oddpos = true) :
    ∃ K Kb, a.tensordotF b (.pair (xa.map Int.ofNat) (xb.map Int.ofNat)) .blockwise = .ok K
      ∧ (NormNet.braOf a xa).tensordotF (NormNet.braOf b xb)
          (.pair (xa.map Int.ofNat) (xb.map Int.ofNat)) .blockwise = .ok Kb
      ∧ ∃ T c, Kb.tensordotF b (.pair
            (((List.range (freeAxes b.ndim xb).length).map ((freeAxes a.ndim xa).length + ·)).map
              Int.ofNat) ((freeAxes b.ndim xb).map Int.ofNat)) .blockwise = .ok T
        ∧ T.tensordotF a (.pair ((Assoc2P.axesAB Kb.ndim b.ndim
              ((List.range (freeAxes b.ndim xb).length).map ((freeAxes a.ndim xa).length + ·))
              (List.range (freeAxes a.ndim xa).length) (freeAxes b.ndim xb) xb).map Int.ofNat)
            ((freeAxes a.ndim xa ++ xa).map Int.ofNat)) .blockwise = .ok c
        ∧ c.ndim = 0 ∧ c.oddpos = [] ∧ c.elem [] [] = normSq K :=
  NormNet.network_norm_mixed_seq hmul a b xa xb ha hb hfa hfb hadm hoA hoB hd hlab'

/-- at most one ket label per tensor: no label hypothesis -/
theorem network_norm_mixed_seq_oneKet {R : Type} [AddCommMonoid R] [Mul R] [Neg R] [Conj R]
    [NetLaws R] [AssocP.AssocLaws R] (hmul : ∀ x y : R, x * y = y * x) (a b : Arr R)
    (xa xb : List Nat)
    (ha : a.validB = true) (hb : b.validB = true) (hfa : a.fermi = true) (hfb : b.fermi = true)
    (hadm : ValidP.tdotAdmissibleB a b xa xb = true)
    (hoA : OneKet a.oddpos) (hoB : OneKet b.oddpos)
    (hd : (a.oddpos ++ b.oddpos).Pairwise (fun x y => x.1 ≠ y.1)) :
    ∃ K Kb, a.tensordotF b (.pair (xa.map Int.ofNat) (xb.map Int.ofNat)) .blockwise = .ok K
      ∧ (NormNet.braOf a xa).tensordotF (NormNet.braOf b xb)
          (.pair (xa.map Int.ofNat) (xb.map Int.ofNat)) .blockwise = .ok Kb
      ∧ ∃ T c, Kb.tensordotF b (.pair
            (((List.range (freeAxes b.ndim xb).length).map ((freeAxes a.ndim xa).length + ·)).map
              Int.ofNat) ((freeAxes b.ndim xb).map Int.ofNat)) .blockwise = .ok T
        ∧ T.tensordotF a (.pair ((Assoc2P.axesAB Kb.ndim b.ndim
              ((List.range (freeAxes b.ndim xb).length).map ((freeAxes a.ndim xa).length + ·))
              (List.range (freeAxes a.ndim xa).length) (freeAxes b.ndim xb) xb).map Int.ofNat)
            ((freeAxes a.ndim xa ++ xa).map Int.ofNat)) .blockwise = .ok c
        ∧ c.ndim = 0 ∧ c.oddpos = [] ∧ c.elem [] [] = normSq K :=
  NormNet.network_norm_mixed_seq hmul a b xa xb ha hb hfa hfb hadm hoA.ketLabels hoB.ketLabels hd
    (netLabelsB_of_oneKet hb ha hfb hfa hoB hoA (labels_swap hd))

theorem crossAx_eq_rotAx (m k : Nat) : crossAx k m = rotAx m k := NormNet.crossAx_eq_rotAx m k

/-! ## non-vacuity -/

open scoped SymmModel.Lazy

/-- the four mixed norms of a concrete network, and `normSq K` -/
def mixedVals (a b : Arr Int) (xa xb : List Nat) : List (List Int) :=
  let mA := (freeAxes a.ndim xa).length
  let mB := (freeAxes b.ndim xb).length
  let P (x y : List Nat) : AxesArg := .pair (x.map Int.ofNat) (y.map Int.ofNat)
  let lab (o : List (Int × Bool)) : List Int := o.flatMap (fun p => [p.1, if p.2 then 1 else 0])
  let val (r : Except Err (Arr Int)) : List Int :=
    match r with | .ok c => [c.elem [] []] ++ lab c.oddpos | .error _ => [-1, -1]
  match a.tensordotF b (P xa xb) .blockwise,
      (NormNet.braOf a xa).tensordotF (NormNet.braOf b xb) (P xa xb) .blockwise,
      b.tensordotF a (P xb xa) .blockwise,
      (NormNet.braOf b xb).tensordotF (NormNet.braOf a xa) (P xb xa) .blockwise with
  | .ok K, .ok Kb, .ok K', .ok Kb' =>
    [ val (Kb'.tensordotF K (P (crossAx mA mB) (List.range K.ndim)) .blockwise),
      val (K.tensordotF Kb' (P (crossAx mB mA) (List.range K.ndim)) .blockwise),
      val (Kb.tensordotF K' (P (crossAx mB mA) (List.range K.ndim)) .blockwise),
      val (K'.tensordotF Kb (P (crossAx mA mB) (List.range K.ndim)) .blockwise),
      [normSq K] ]
  | _, _, _, _ => []

/-- by `network_norm_mixed`, `mixedVals` is five times `normSq K` -/
theorem mixedVals_eq {a b : Arr Int} {xa xb : List Nat}
    (ha : a.validB = true) (hb : b.validB = true) (hfa : a.fermi = true) (hfb : b.fermi = true)
    (hadm : ValidP.tdotAdmissibleB a b xa xb = true)
    (hoA : KetLabels a.oddpos) (hoB : KetLabels b.oddpos)
    (hd : (a.oddpos ++ b.oddpos).Pairwise (fun x y => x.1 ≠ y.1)) :
    (fun K => List.replicate 5 [normSq K])
        <$> a.tensordotF b (.pair (xa.map Int.ofNat) (xb.map Int.ofNat)) .blockwise
      = .ok (mixedVals a b xa xb) := by
  obtain ⟨K, Kb, K', Kb', e1, e2, e3, e4, -, ⟨r1, a1, -, a3, a4⟩, ⟨r2, b1, -, b3, b4⟩,
    ⟨r3, c1, -, c3, c4⟩, ⟨r4, d1, -, d3, d4⟩⟩ :=
    network_norm_mixed Int.mul_comm a b xa xb ha hb hfa hfb hadm hoA hoB hd
  simp only [mixedVals, e1, e2, e3, e4, a1, b1, c1, d1, a3, a4, b3, b4, c3, c4, d3, d4]
  rfl

example : mixedVals C03.gA C03.gB [2] [0] = [[16422], [16422], [16422], [16422], [16422]] :=
  Except.ok.inj ((mixedVals_eq (by decide +kernel) (by decide +kernel) rfl rfl (by decide +kernel)
    (OneKet.ketLabels (Or.inr ⟨1, rfl⟩)) (OneKet.ketLabels (Or.inr ⟨3, rfl⟩)) (by decide)).symm.trans
    (ok_map_comp (fun v => List.replicate 5 [v]) normSq_gAB))

example : mixedVals gAs C03.gB [2] [0] = [[2174], [2174], [2174], [2174], [2174]] :=
  Except.ok.inj ((mixedVals_eq (by decide +kernel) (by decide +kernel) rfl rfl (by decide +kernel)
    (OneKet.ketLabels (Or.inr ⟨1, rfl⟩)) (OneKet.ketLabels (Or.inr ⟨3, rfl⟩)) (by decide)).symm.trans
    (ok_map_comp (fun v => List.replicate 5 [v]) normSq_gAsB))

/-- `((ā·b̄)·b)·a` of a concrete network: the axes of the second call, the value, `normSq K` -/
def mixedSeqVals (a b : Arr Int) (xa xb : List Nat) : List (List Int) :=
  let fA := freeAxes a.ndim xa
  let fB := freeAxes b.ndim xb
  let sh := (List.range fB.length).map (fA.length + ·)
  let P (x y : List Nat) : AxesArg := .pair (x.map Int.ofNat) (y.map Int.ofNat)
  match a.tensordotF b (P xa xb) .blockwise,
      (NormNet.braOf a xa).tensordotF (NormNet.braOf b xb) (P xa xb) .blockwise with
  | .ok K, .ok Kb =>
    let ax := Assoc2P.axesAB Kb.ndim b.ndim sh (List.range fA.length) fB xb
    match Kb.tensordotF b (P sh fB) .blockwise with
    | .ok T => (match T.tensordotF a (P ax (fA ++ xa)) .blockwise with
      | .ok c => [ax.map Int.ofNat, [c.elem [] []], [normSq K]] | .error _ => [])
    | .error _ => []
  | _, _ => []

/-- by `network_norm_mixed_seq_oneKet`, the value in `mixedSeqVals` is `normSq K`; the axes of the
    second call depend on the halves only through the rank of `K̄` -/
theorem mixedSeqVals_eq {a b : Arr Int} {xa xb : List Nat}
    (ha : a.validB = true) (hb : b.validB = true) (hfa : a.fermi = true) (hfb : b.fermi = true)
    (hadm : ValidP.tdotAdmissibleB a b xa xb = true)
    (hoA : OneKet a.oddpos) (hoB : OneKet b.oddpos)
    (hd : (a.oddpos ++ b.oddpos).Pairwise (fun x y => x.1 ≠ y.1)) :
    (fun K Kb : Arr Int => [(Assoc2P.axesAB Kb.ndim b.ndim
          ((List.range (freeAxes b.ndim xb).length).map ((freeAxes a.ndim xa).length + ·))
          (List.range (freeAxes a.ndim xa).length) (freeAxes b.ndim xb) xb).map Int.ofNat,
        [normSq K], [normSq K]])
      <$> a.tensordotF b (.pair (xa.map Int.ofNat) (xb.map Int.ofNat)) .blockwise
      <*> (NormNet.braOf a xa).tensordotF (NormNet.braOf b xb)
        (.pair (xa.map Int.ofNat) (xb.map Int.ofNat)) .blockwise
      = .ok (mixedSeqVals a b xa xb) := by
  obtain ⟨K, Kb, eK, eKb, T, c, e1, e2, -, -, q⟩ :=
    network_norm_mixed_seq_oneKet Int.mul_comm a b xa xb ha hb hfa hfb hadm hoA hoB hd
  simp only [mixedSeqVals, eK, eKb, e1, e2, q]
  rfl

example : mixedSeqVals C03.gA C03.gB [2] [0] = [[0, 1, 2], [16422], [16422]]
    ∧ mixedSeqVals gAs C03.gB [2] [0] = [[0, 1, 2], [2174], [2174]] :=
  ⟨Except.ok.inj ((mixedSeqVals_eq (by decide +kernel) (by decide +kernel) rfl rfl
      (by decide +kernel) (Or.inr ⟨1, rfl⟩) (Or.inr ⟨3, rfl⟩) (by decide)).symm.trans
      (by decide +kernel)),
    Except.ok.inj ((mixedSeqVals_eq (by decide +kernel) (by decide +kernel) rfl rfl
      (by decide +kernel) (Or.inr ⟨1, rfl⟩) (Or.inr ⟨3, rfl⟩) (by decide)).symm.trans
      (by decide +kernel))⟩

example : ∃ K Kb K' Kb', C03.gA.tensordotF C03.gB (.pair [2] [0]) .blockwise = .ok K
    ∧ (NormNet.braOf C03.gA [2]).tensordotF (NormNet.braOf C03.gB [0]) (.pair [2] [0]) .blockwise = .ok Kb
    ∧ C03.gB.tensordotF C03.gA (.pair [0] [2]) .blockwise = .ok K'
    ∧ (NormNet.braOf C03.gB [0]).tensordotF (NormNet.braOf C03.gA [2]) (.pair [0] [2]) .blockwise = .ok Kb'
    ∧ normSq K' = normSq K
    ∧ (∃ r, Kb'.tensordotF K (.pair ((crossAx 2 2).map Int.ofNat)
          ((List.range K.ndim).map Int.ofNat)) .blockwise = .ok r
        ∧ r.ndim = 0 ∧ r.oddpos = [] ∧ r.elem [] [] = normSq K) := by
  obtain ⟨K, Kb, K', Kb', e1, e2, e3, e4, e5, m1, _⟩ :=
    network_norm_mixed Int.mul_comm C03.gA C03.gB [2] [0] (by decide +kernel) (by decide +kernel)
      rfl rfl (by decide +kernel) (OneKet.ketLabels (Or.inr ⟨1, rfl⟩))
      (OneKet.ketLabels (Or.inr ⟨3, rfl⟩)) (by decide)
  exact ⟨K, Kb, K', Kb', e1, e2, e3, e4, e5, m1⟩

end SymmModel.C10
