/-
  Property C01, anchor "debug-mode audit" (properties.jsonl): how symmray's OWN audit
  (`BlockIndex.check`, `AbelianArray.check` = `FermionicArray.check`, `check_with`, `matches`;
  literal model in Model/Check.lean) relates to the validity predicate `Arr.validB`.

  `validB` is the audit plus the decidable predicate `unauditedB` (`validB_iff_check_and_unaudited`),
  so a debug-mode run never rejects a valid array.  The `audit_misses_*` theorems are
  accepted-but-invalid witnesses for the unaudited clauses (none for the dict invariants — distinct
  keys —, the data size of a block, and an abelian array carrying signs);
  `audit_looks_at_finiteness`, `valid_not_aligned`, `vec_check_empty_and_rank2` show what the audit
  looks at and `validB` does not.  `check_with` accepting gives only the WEAK contraction guard
  (`checkWith_implies_contractibleCommon`, `matches_not_contractibleB`).

  Symmetry of `matches` is proved here for indices WITHOUT sub-index information
  (`matchesE_symm_plain`); the full statement, under the recursive dict invariant `dictInvB`
  (distinct keys in every chargemap, extents table and extent), is `C01.matchesE_symm` in
  Props/C01d.lean.  The harness stream exercises `matches` in both argument orders on fused
  indices.
-/
import SymmModel.Proofs.CheckLemmas
import SymmModel.Proofs.AssocWeak
import SymmModel.Proofs.ValidTdot

namespace SymmModel.C01
open SymmModel SymmModel.Check SymmModel.ValidP SymmModel.CheckP

variable {R : Type}

theorem checkSizes_ok_iff (cm : List (Charge × Int)) :
    checkSizes cm = .ok () ↔ ∀ p ∈ cm, 0 < p.2 := by
  unfold checkSizes
  rw [forE_ok_iff]
  simp only [guardE_ok_iff, decide_eq_true_eq]

/-- `BlockIndex.check` accepts exactly: positive sizes, keys in sorted order, and (fused index)
    the grand total of the extents equals the total size.  Nothing about the sub-indices. -/
theorem rindex_check_ok_iff (cm : List (Charge × Int)) (d : Bool) (sub : Option (List RIndex × RExtents)) :
    (RIndex.mk cm d sub).check = .ok () ↔
      (∀ p ∈ cm, 0 < p.2) ∧ isort Charge.lt (cm.map (·.1)) = cm.map (·.1)
      ∧ (∀ subs exts, sub = some (subs, exts) → sumZ (cm.map (·.2)) = extentsTotal exts) := by
  unfold RIndex.check
  dsimp only
  split
  · rename_i e hcs
    have : ¬ (∀ p ∈ cm, 0 < p.2) := by
      intro h; rw [(checkSizes_ok_iff cm).mpr h] at hcs; cases hcs
    constructor
    · intro h; cases h
    · intro h; exact absurd h.1 this
  · rename_i u hcs
    cases u
    have h1 := (checkSizes_ok_iff cm).mp hcs
    by_cases hs : isort Charge.lt (cm.map (·.1)) = cm.map (·.1)
    · have hb : (isort Charge.lt (cm.map (·.1)) == cm.map (·.1)) = true := by rw [hs]; simp
      rw [hb]
      simp only [Bool.not_true, Bool.false_eq_true, if_false]
      cases sub with
      | none => exact ⟨fun _ => ⟨h1, hs, fun _ _ he => by cases he⟩, fun _ => rfl⟩
      | some se =>
        obtain ⟨subs, exts⟩ := se
        simp only [guardE_ok_iff, beq_iff_eq]
        constructor
        · intro h; exact ⟨h1, hs, fun _ _ he => by cases he; exact h⟩
        · intro h; exact h.2.2 subs exts rfl
    · have hb : (isort Charge.lt (cm.map (·.1)) == cm.map (·.1)) = false := by
        cases hh : (isort Charge.lt (cm.map (·.1)) == cm.map (·.1)) with
        | false => rfl
        | true => exact absurd (eq_of_beq hh) hs
      rw [hb]
      simp only [Bool.not_false, if_true]
      constructor
      · intro h; cases h
      · intro h; exact absurd h.2.1 hs

theorem checkBlock_ok_iff (a : RArr) (sb : Sector × RBlock) :
    a.checkBlock sb = .ok () ↔
      a.isValidSector sb.1 = true
      ∧ ∃ exp, blockShapeE a.indices sb.1 = .ok exp ∧ shapesAgree sb.2.shape exp = true
        ∧ sb.2.finite = true := by
  unfold RArr.checkBlock
  cases hv : a.isValidSector sb.1 with
  | false => simp
  | true =>
    cases hb : blockShapeE a.indices sb.1 with
    | error e => simp
    | ok exp =>
      cases hs : shapesAgree sb.2.shape exp with
      | false => simp [hs]
      | true => cases hf : sb.2.finite <;> simp [hs]

theorem rarr_check_ok_iff (a : RArr) :
    a.check = .ok () ↔ (∀ ix ∈ a.indices, ix.check = .ok ()) ∧ ∀ sb ∈ a.blocks, a.checkBlock sb = .ok () := by
  unfold RArr.check
  split
  · rename_i e h
    have : ¬ (∀ ix ∈ a.indices, ix.check = .ok ()) := by
      intro hh; rw [(forE_ok_iff _ _).mpr hh] at h; cases h
    constructor
    · intro hh; cases hh
    · intro hh; exact absurd hh.1 this
  · rename_i u h
    cases u
    rw [forE_ok_iff] at h
    rw [forE_ok_iff]
    exact ⟨fun hb => ⟨h, hb⟩, fun hh => hh.2⟩

/-- the clauses of `Index.wfB` the audit never evaluates: distinct table keys (a dict invariant),
    charges valid for the symmetry, and the whole sub-index bookkeeping except its grand total
    (sub-indices well-formed, distinct extents keys, every charge has an extent that partitions
    its size with the right sub-sector lengths / sizes / charges, no extra extents key) -/
def unauditedIdxB (sym : Sym) : Index → Bool
  | .mk cm dual sub =>
    allDistinct (cm.map (·.1)) && cm.all (fun p => sym.valid p.1)
    && (match sub with
        | none => true
        | some (subs, exts) =>
          Index.wfListB sym subs && allDistinct (exts.map (·.1))
          && cm.all (fun p => match alookup exts p.1 with
                | some ext => extentOk sym dual subs p.1 p.2 ext
                | none => false)
          && exts.all (fun e => (alookup cm e.1).isSome))

/-- the clauses of `Arr.validB` the audit never evaluates: `unauditedIdxB` of every index, the
    total charge being a charge of the symmetry, distinct sectors (a dict invariant), sector
    length and block rank equal to the number of indices, the data size of a block (a numpy
    invariant), and everything fermionic: the sign table and the odd-position labels -/
def unauditedB (a : Arr R) : Bool :=
  a.indices.all (unauditedIdxB a.sym)
  && a.sym.valid a.charge
  && allDistinct a.sectors
  && a.blocks.all (fun sb => sb.1.length == a.ndim && sb.2.shape.length == a.ndim && sb.2.wf)
  && (if a.fermi then
        allDistinct (a.phases.map (·.1))
        && a.phases.all (fun (s, p) => s.length == a.ndim && a.isValidSector s && (p == 1 || p == -1))
        && (a.oddpos.length % 2 == 1) == a.parity
      else a.phases.isEmpty && a.oddpos.isEmpty)

theorem cmToRaw_pos_iff (cm : List (Charge × Nat)) :
    (∀ p ∈ cmToRaw cm, (0 : Int) < p.2) ↔ ∀ p ∈ cm, 0 < p.2 := by
  unfold cmToRaw
  constructor
  · intro h p hp
    have := h (p.1, (p.2 : Int)) (List.mem_map.mpr ⟨p, hp, rfl⟩)
    simpa using this
  · intro h q hq
    obtain ⟨p, hp, rfl⟩ := List.mem_map.mp hq
    have := h p hp
    simpa using this

theorem wfB_iff_check_and_unaudited (sym : Sym) (ix : Index) :
    Index.wfB sym ix = true ↔ ((indexToRaw ix).check = .ok () ∧ unauditedIdxB sym ix = true) := by
  obtain ⟨cm, d, sub⟩ := ix
  cases sub with
  | none =>
    rw [wfB_none, indexToRaw.eq_1, rindex_check_ok_iff, cmToRaw_pos_iff, cmToRaw_keys]
    unfold unauditedIdxB CmOk
    simp only [Bool.and_true, Bool.and_eq_true, allDistinct_iff_nodup, List.all_eq_true]
    constructor
    · rintro ⟨hs, hp⟩
      exact ⟨⟨fun p hp' => (hp p hp').1, isort_of_sorted hs, by simp⟩,
        sortedCharges_nodup hs, fun p hp' => (hp p hp').2⟩
    · rintro ⟨⟨hpos, hfix, _⟩, hnd, hval⟩
      exact ⟨sorted_of_isort_fix hfix hnd, fun p hp' => ⟨hpos p hp', hval p hp'⟩⟩
  | some se =>
    obtain ⟨subs, exts⟩ := se
    rw [wfB_some, indexToRaw.eq_2, rindex_check_ok_iff, cmToRaw_pos_iff, cmToRaw_keys]
    unfold unauditedIdxB CmOk
    simp only [Bool.and_eq_true, allDistinct_iff_nodup, List.all_eq_true]
    constructor
    · rintro ⟨⟨hs, hp⟩, hsub, hnd, hext, hkeys⟩
      refine ⟨⟨fun p hp' => (hp p hp').1, isort_of_sorted hs, ?_⟩,
        ⟨⟨sortedCharges_nodup hs, fun p hp' => (hp p hp').2⟩, ⟨⟨hsub, hnd⟩, ?_⟩, hkeys⟩⟩
      · intro subs' exts' he
        cases he
        rw [cm_sizes_raw, extentsTotal_raw]
        congr 1
        apply cm_total_eq cm exts (sortedCharges_nodup hs) hnd _ hkeys
        intro p hp'
        obtain ⟨ext, he, hok⟩ := hext p hp'
        refine ⟨ext, he, ?_⟩
        unfold extentOk at hok
        simp only [Bool.and_eq_true, beq_iff_eq] at hok
        exact hok.1.1
      · intro p hp'
        obtain ⟨ext, he, hok⟩ := hext p hp'
        rw [he]; exact hok
    · rintro ⟨⟨hpos, hfix, _⟩, ⟨hnd, hval⟩, ⟨⟨hsub, hnde⟩, hext⟩, hkeys⟩
      refine ⟨⟨sorted_of_isort_fix hfix hnd, fun p hp' => ⟨hpos p hp', hval p hp'⟩⟩, hsub, hnde, ?_, hkeys⟩
      intro p hp'
      have := hext p hp'
      split at this
      · rename_i ext he; exact ⟨ext, he, this⟩
      · cases this

/-- block level, given the two rank clauses the audit does not evaluate -/
theorem blockOk_iff_checkBlock (a : Arr R) (sb : Sector × Blk R)
    (hs : sb.1.length = a.ndim) (hr : sb.2.shape.length = a.ndim) :
    (a.isValidSector sb.1 = true ∧ Arr.blockShape? a.indices sb.1 = some sb.2.shape)
      ↔ (arrToRaw a).checkBlock (sb.1, { shape := sb.2.shape, finite := true }) = .ok () := by
  rw [checkBlock_ok_iff, arrToRaw_isValidSector]
  constructor
  · rintro ⟨hv, hshape⟩
    exact ⟨hv, _, blockShapeE_of_blockShape? hshape, shapesAgree_cast _, rfl⟩
  · rintro ⟨hv, exp, he, ha, _⟩
    refine ⟨hv, blockShape?_of_blockShapeE hs hr ?_ ha⟩
    rw [← indexListToRaw_eq_map]; exact he

/-- EXACTLY what the library's audit does not look at: an array is valid iff `check()` accepts
    it and the clauses of `unauditedB` hold -/
theorem validB_iff_check_and_unaudited (a : Arr R) :
    a.validB = true ↔ (checkArr a = .ok () ∧ unauditedB a = true) := by
  unfold checkArr
  rw [rarr_check_ok_iff]
  unfold Arr.validB unauditedB
  simp only [Bool.and_eq_true, Index.wfListB_iff, List.all_eq_true]
  have hidx := arrToRaw_indices a
  have hblk : (arrToRaw a).blocks = a.blocks.map (fun sb => (sb.1, { shape := sb.2.shape, finite := true })) := rfl
  rw [hidx, hblk]
  simp only [List.mem_map, forall_exists_index, and_imp, forall_apply_eq_imp_iff₂]
  constructor
  · rintro ⟨⟨⟨⟨hi, hc⟩, hd⟩, hb⟩, hf⟩
    refine ⟨⟨fun ix hix => ((wfB_iff_check_and_unaudited a.sym ix).mp (hi ix hix)).1, ?_⟩,
      ⟨⟨⟨fun ix hix => ((wfB_iff_check_and_unaudited a.sym ix).mp (hi ix hix)).2, hc⟩, hd⟩, ?_⟩, hf⟩
    · intro sb hsb
      have := hb sb hsb
      simp only [Bool.and_eq_true, beq_iff_eq] at this
      obtain ⟨⟨⟨hl, hv⟩, hshape⟩, _⟩ := this
      have hr := (blockShape?_length hshape).2
      exact (blockOk_iff_checkBlock a sb hl (by rw [hr]; rfl)).mp ⟨hv, hshape⟩
    · intro sb hsb
      have := hb sb hsb
      simp only [Bool.and_eq_true, beq_iff_eq] at this ⊢
      obtain ⟨⟨⟨hl, _⟩, hshape⟩, hwf⟩ := this
      exact ⟨⟨hl, by rw [(blockShape?_length hshape).2]; rfl⟩, hwf⟩
  · rintro ⟨⟨hic, hbc⟩, ⟨⟨⟨hiu, hc⟩, hd⟩, hbu⟩, hf⟩
    refine ⟨⟨⟨⟨fun ix hix => (wfB_iff_check_and_unaudited a.sym ix).mpr ⟨hic ix hix, hiu ix hix⟩, hc⟩, hd⟩, ?_⟩, hf⟩
    intro sb hsb
    have hu := hbu sb hsb
    simp only [Bool.and_eq_true, beq_iff_eq] at hu ⊢
    obtain ⟨⟨hl, hr⟩, hwf⟩ := hu
    have := (blockOk_iff_checkBlock a sb hl hr).mpr (hbc sb hsb)
    exact ⟨⟨⟨hl, this.1⟩, this.2⟩, hwf⟩

/-- every array satisfying `Arr.validB` passes the library's audit: a debug-mode run never
    rejects a valid result -/
theorem validB_implies_check_ok (a : Arr R) (h : a.validB = true) : checkArr a = .ok () :=
  ((validB_iff_check_and_unaudited a).mp h).1

theorem check_ok_and_unaudited_implies_validB (a : Arr R) (h : checkArr a = .ok ())
    (hu : unauditedB a = true) : a.validB = true :=
  (validB_iff_check_and_unaudited a).mpr ⟨h, hu⟩

/-- the converse for the clauses the audit does look at; the shape clause needs the two rank
    clauses (sector length and block rank equal `ndim`), which the audit does not evaluate -/
theorem check_ok_implies_audited (a : Arr R) (h : checkArr a = .ok ()) :
    (∀ ix ∈ a.indices,
        (∀ p ∈ ix.cm, 0 < p.2)
        ∧ isort Charge.lt (ix.cm.map (·.1)) = ix.cm.map (·.1)
        ∧ (∀ subs exts, ix.sub = some (subs, exts) → sumN (ix.cm.map (·.2)) = totalN exts))
    ∧ (∀ sb ∈ a.blocks,
        a.isValidSector sb.1 = true
        ∧ (sb.1.length = a.ndim → sb.2.shape.length = a.ndim →
            Arr.blockShape? a.indices sb.1 = some sb.2.shape)) := by
  unfold checkArr at h
  rw [rarr_check_ok_iff] at h
  obtain ⟨hi, hb⟩ := h
  constructor
  · intro ix hix
    have := hi (indexToRaw ix) (by
      simp only [arrToRaw, indexListToRaw_eq_map]; exact List.mem_map.mpr ⟨ix, hix, rfl⟩)
    obtain ⟨cm, d, sub⟩ := ix
    cases sub with
    | none =>
      rw [indexToRaw.eq_1, rindex_check_ok_iff, cmToRaw_pos_iff, cmToRaw_keys] at this
      exact ⟨this.1, this.2.1, fun _ _ he => by cases he⟩
    | some se =>
      obtain ⟨subs, exts⟩ := se
      rw [indexToRaw.eq_2, rindex_check_ok_iff, cmToRaw_pos_iff, cmToRaw_keys] at this
      refine ⟨this.1, this.2.1, ?_⟩
      intro subs' exts' he
      cases he
      have h3 := this.2.2 _ _ rfl
      rw [cm_sizes_raw, extentsTotal_raw] at h3
      exact_mod_cast h3
  · intro sb hsb
    have := hb (sb.1, { shape := sb.2.shape, finite := true }) (by
      show _ ∈ a.blocks.map _
      exact List.mem_map.mpr ⟨sb, hsb, rfl⟩)
    refine ⟨?_, fun hl hr => ((blockOk_iff_checkBlock a sb hl hr).mpr this).2⟩
    rw [checkBlock_ok_iff, arrToRaw_isValidSector] at this
    exact this.1

def ckIx1 : Index := .mk [((0, 0), 1)] false none
def ckIx2 : Index := .mk [((0, 0), 1), ((1, 0), 2)] false none
def ckSub : Index := .mk [((0, 0), 1), ((1, 0), 1)] false none

/-- U1 index with the charge table of `ckSub ⊗ ckSub` and the given sub-index information -/
def ckFusedWith (subs : List Index) (exts : Extents) : Index :=
  .mk [((0, 0), 1), ((1, 0), 2), ((2, 0), 1)] false (some (subs, exts))

def ckExts : Extents :=
  [((0, 0), [([(0, 0), (0, 0)], 1)]),
   ((1, 0), [([(0, 0), (1, 0)], 1), ([(1, 0), (0, 0)], 1)]),
   ((2, 0), [([(1, 0), (1, 0)], 1)])]

def ckArrWith (ix : Index) : Arr Int :=
  { sym := .U1, fermi := false, indices := [ix], charge := (1, 0),
    blocks := [([(1, 0)], ⟨[2], #[1, 2]⟩)] }

/-- the hypotheses of the theorems above are satisfiable: a valid array with a fused index,
    accepted by the audit, and a valid fermionic array with a pending sign and a label -/
def ckFermi : Arr Int :=
  { sym := .U1, fermi := true, indices := [ckIx2], charge := (1, 0),
    blocks := [([(1, 0)], ⟨[2], #[1, 2]⟩)], phases := [([(1, 0)], -1)], oddpos := [(3, false)] }

example : (ckArrWith (ckFusedWith [ckSub, ckSub] ckExts)).validB = true
    ∧ checkArr (ckArrWith (ckFusedWith [ckSub, ckSub] ckExts)) = .ok ()
    ∧ unauditedB (ckArrWith (ckFusedWith [ckSub, ckSub] ckExts)) = true
    ∧ ckFermi.validB = true ∧ checkArr ckFermi = .ok () ∧ unauditedB ckFermi = true := by decide

/-- a table charge that is not a charge of the symmetry (Z2 table listing charge 3) -/
theorem audit_misses_invalid_table_charge :
    let w : Arr Int := { sym := .Z2, fermi := false, indices := [.mk [((3, 0), 1)] false none],
                         charge := (1, 0), blocks := [([(3, 0)], ⟨[1], #[5]⟩)] }
    checkArr w = .ok () ∧ w.validB = false ∧ w.invalidReason = "index-table" := by decide

/-- a total charge that is not a charge of the symmetry (no stored block) -/
theorem audit_misses_invalid_total_charge :
    let w : Arr Int := { sym := .Z2, fermi := false, indices := [ckIx1], charge := (7, 0), blocks := [] }
    checkArr w = .ok () ∧ w.validB = false ∧ w.invalidReason = "charge-invalid" := by decide

/-- a sector LONGER than the number of indices (`zip` drops the extra charge, here 5 ≠ 0) -/
theorem audit_misses_sector_too_long :
    let w : Arr Int := { sym := .U1, fermi := false, indices := [ckIx1], charge := (0, 0),
                         blocks := [([(0, 0), (5, 0)], ⟨[1], #[1]⟩)] }
    checkArr w = .ok () ∧ w.validB = false ∧ w.invalidReason = "sector-charge" := by decide

/-- a sector SHORTER than the number of indices -/
theorem audit_misses_sector_too_short :
    let w : Arr Int := { sym := .U1, fermi := false, indices := [ckIx1, ckIx1], charge := (0, 0),
                         blocks := [([(0, 0)], ⟨[1], #[1]⟩)] }
    checkArr w = .ok () ∧ w.validB = false ∧ w.invalidReason = "sector-charge" := by decide

/-- a block of too small rank (`zip(ar.shape(array), expected)` truncates) -/
theorem audit_misses_block_rank_too_small :
    let w : Arr Int := { sym := .U1, fermi := false, indices := [ckIx2, ckIx2], charge := (2, 0),
                         blocks := [([(1, 0), (1, 0)], ⟨[2], #[1, 2]⟩)] }
    checkArr w = .ok () ∧ w.validB = false ∧ w.invalidReason = "block-shape" := by decide

/-- a block of too large rank -/
theorem audit_misses_block_rank_too_large :
    let w : Arr Int := { sym := .U1, fermi := false, indices := [ckIx1], charge := (0, 0),
                         blocks := [([(0, 0)], ⟨[1, 3], #[1, 2, 3]⟩)] }
    checkArr w = .ok () ∧ w.validB = false ∧ w.invalidReason = "block-shape" := by decide

/-- a sub-index table with a zero size and keys out of order (sub-indices are never visited) -/
theorem audit_misses_sub_index_table :
    let w := ckArrWith (ckFusedWith [.mk [((1, 0), 1), ((0, 0), 0)] false none, ckSub] ckExts)
    checkArr w = .ok () ∧ w.validB = false ∧ w.invalidReason = "index-table" := by decide

/-- sub-index extents with the right grand total (4) but a wrong partition: charge 0 is given
    2 = its size 1 + one unit taken from charge 1 (size 2, extent total 1) -/
theorem audit_misses_extents_partition :
    let w := ckArrWith (ckFusedWith [ckSub, ckSub]
      [((0, 0), [([(0, 0), (0, 0)], 2)]),
       ((1, 0), [([(0, 0), (1, 0)], 1)]),
       ((2, 0), [([(1, 0), (1, 0)], 1)])])
    checkArr w = .ok () ∧ w.validB = false ∧ w.invalidReason = "index-table" := by decide

/-- an extents key that is not a charge of the fused index (and charge 2 without an extent) -/
theorem audit_misses_extents_key :
    let w := ckArrWith (ckFusedWith [ckSub, ckSub]
      [((0, 0), [([(0, 0), (0, 0)], 1)]),
       ((1, 0), [([(0, 0), (1, 0)], 1), ([(1, 0), (0, 0)], 1)]),
       ((7, 0), [([(1, 0), (1, 0)], 1)])])
    checkArr w = .ok () ∧ w.validB = false ∧ w.invalidReason = "index-table" := by decide

/-- a sub-sector that does not combine to its fused charge / has the wrong length / whose size
    is not the product of the sub-index sizes -/
theorem audit_misses_extents_subsector :
    let w1 := ckArrWith (ckFusedWith [ckSub, ckSub]
      [((0, 0), [([(1, 0), (1, 0)], 1)]),
       ((1, 0), [([(0, 0), (1, 0)], 1), ([(1, 0), (0, 0)], 1)]),
       ((2, 0), [([(0, 0), (0, 0)], 1)])])
    let w2 := ckArrWith (ckFusedWith [ckSub, ckSub]
      [((0, 0), [([(0, 0)], 1)]),
       ((1, 0), [([(0, 0), (1, 0)], 1), ([(1, 0), (0, 0)], 1)]),
       ((2, 0), [([(1, 0), (1, 0)], 1)])])
    let w3 := ckArrWith (ckFusedWith [ckSub, ckSub]
      [((0, 0), [([(0, 0), (0, 0)], 1)]),
       ((1, 0), [([(0, 0), (1, 0)], 2), ([(1, 0), (0, 0)], 0)]),
       ((2, 0), [([(1, 0), (1, 0)], 1)])])
    checkArr w1 = .ok () ∧ w1.validB = false ∧ checkArr w2 = .ok () ∧ w2.validB = false
    ∧ checkArr w3 = .ok () ∧ w3.validB = false := by decide

/-- a stale key of the pending-sign table (a sector that is not stored and does not conserve the
    charge), and a sign that is not ±1 -/
theorem audit_misses_phase_table :
    let w1 : Arr Int := { ckFermi with phases := [([(0, 0)], -1)] }
    let w2 : Arr Int := { ckFermi with phases := [([(1, 0)], 2)] }
    checkArr w1 = .ok () ∧ w1.validB = false ∧ w1.invalidReason = "phase-table"
    ∧ checkArr w2 = .ok () ∧ w2.validB = false ∧ w2.invalidReason = "phase-table" := by decide

/-- an odd-charge fermionic array without an odd-position label -/
theorem audit_misses_label_parity :
    let w : Arr Int := { ckFermi with oddpos := [] }
    checkArr w = .ok () ∧ w.validB = false ∧ w.invalidReason = "oddpos-parity" := by decide

/-- `FermionicArray` has no `check` of its own: the kind, the pending-sign table and the labels
    never reach the audit -/
theorem audit_reads_nothing_fermionic (a : Arr R) (f : Bool) (p : List (Sector × Int))
    (o : List (Int × Bool)) :
    checkArr { a with fermi := f, phases := p, oddpos := o } = checkArr a := rfl

/-- finiteness of the data: the same raw state is accepted with finite data and rejected
    (ValueError) with a NaN / inf entry; the model's scalars are exact, `validB` has no such
    clause -/
theorem audit_looks_at_finiteness :
    let x : RArr := { sym := .U1, indices := [indexToRaw ckIx1], charge := (0, 0),
                      blocks := [([(0, 0)], { shape := [1], finite := false })] }
    x.check = .error Err.value
    ∧ ({ x with blocks := [([(0, 0)], { shape := [1], finite := true })] } : RArr).check = .ok () := by
  decide

/-- `check_chargemaps_aligned` (run on every contraction result in debug mode) is NOT implied by
    validity: a valid array whose table lists a charge that no stored block uses is rejected -/
theorem valid_not_aligned :
    let w : Arr Int := { sym := .U1, fermi := false, indices := [ckIx2], charge := (0, 0),
                         blocks := [([(0, 0)], ⟨[1], #[1]⟩)] }
    w.validB = true ∧ checkArr w = .ok () ∧ (arrToRaw w).checkAligned = .error Err.value
    ∧ (arrToRaw (w.syncCharges)).checkAligned = .ok () := by decide

/-- `BlockVector.check` rejects the EMPTY vector (ValueError) and accepts a vector of rank-2
    blocks -/
theorem vec_check_empty_and_rank2 :
    (RVec.mk []).check = .error Err.value
    ∧ (RVec.mk [((0, 0), { shape := [2, 1] }), ((1, 0), { shape := [1, 1] })]).check = .ok ()
    ∧ (RVec.mk [((0, 0), { shape := [2] }), ((1, 0), { shape := [1, 1] })]).check = .error Err.value := by
  decide

theorem dictsDontConflict_symm {da db : List (Charge × Int)}
    (ha : (da.map (·.1)).Nodup) (hb : (db.map (·.1)).Nodup) :
    dictsDontConflict (fun (x y : Int) => x != y) da db
      = dictsDontConflict (fun (x y : Int) => x != y) db da := by
  exact ddc_symm_gen _ ha hb (fun _ _ _ _ _ => bne_comm)

/-- without the dict invariant the model's `dicts_dont_conflict` is not symmetric (such a state
    is not a Python dict; this is why the hypothesis is there) -/
example : dictsDontConflict (fun (x y : Int) => x != y) [((0, 0), 1), ((0, 0), 2)] [((0, 0), 1)] = false
    ∧ dictsDontConflict (fun (x y : Int) => x != y) [((0, 0), 1)] [((0, 0), 1), ((0, 0), 2)] = true := by
  decide

theorem matchesE_plain (cm1 cm2 : List (Charge × Int)) (d1 d2 : Bool) :
    RIndex.matchesE (.mk cm1 d1 none) (.mk cm2 d2 none)
      = .ok (dictsDontConflict (fun (x y : Int) => x != y) cm1 cm2 && (d1 != d2)) := by
  rw [RIndex.matchesE]
  cases dictsDontConflict (fun (x y : Int) => x != y) cm1 cm2 <;> cases (d1 != d2) <;> rfl

theorem matchesE_symm_plain (cm1 cm2 : List (Charge × Int)) (d1 d2 : Bool)
    (h1 : (cm1.map (·.1)).Nodup) (h2 : (cm2.map (·.1)).Nodup) :
    RIndex.matchesE (.mk cm1 d1 none) (.mk cm2 d2 none)
      = RIndex.matchesE (.mk cm2 d2 none) (.mk cm1 d1 none) := by
  rw [matchesE_plain, matchesE_plain, dictsDontConflict_symm h1 h2]
  cases d1 <;> cases d2 <;> rfl

example : ((cmToRaw ckIx2.cm).map (·.1)).Nodup := by decide

theorem matchesE_true_implies (cm1 cm2 : List (Charge × Int)) (d1 d2 : Bool)
    (s1 s2 : Option (List RIndex × RExtents))
    (h : RIndex.matchesE (.mk cm1 d1 s1) (.mk cm2 d2 s2) = .ok true) :
    dictsDontConflict (fun (x y : Int) => x != y) cm1 cm2 = true ∧ (d1 != d2) = true := by
  rw [RIndex.matchesE.eq_def] at h
  dsimp only at h
  cases hc : dictsDontConflict (fun (x y : Int) => x != y) cm1 cm2 with
  | false => rw [hc] at h; simp at h
  | true =>
    cases hd : (d1 != d2) with
    | false => rw [hc, hd] at h; simp at h
    | true => exact ⟨rfl, rfl⟩

theorem ddc_raw_eq_cmAgree (c1 c2 : List (Charge × Nat)) :
    dictsDontConflict (fun (x y : Int) => x != y) (cmToRaw c1) (cmToRaw c2) = AssocP.cmAgree c1 c2 := by
  unfold dictsDontConflict AssocP.cmAgree cmToRaw
  rw [List.all_map]
  congr 1
  funext p
  simp only [Function.comp_def]
  have := alookup_cmToRaw c2 p.1
  unfold cmToRaw at this
  rw [this]
  cases alookup c2 p.1 with
  | none => rfl
  | some d =>
    simp only [Option.map_some]
    by_cases hd : d = p.2
    · subst hd; simp
    · have hne : (p.2 : Int) ≠ (d : Int) := by intro hh; apply hd; exact_mod_cast hh.symm
      have h1 : ((p.2 : Int) != (d : Int)) = true := by simpa [bne_iff_ne] using hne
      have h2 : (d == p.2) = false := by simpa using hd
      rw [h1, h2]; rfl

/-- `ia.matches(ib)` implies contractibility of the pair of legs in the model's WEAK sense
    (`contractibleCommonB`: opposite directions, equal sizes on the charges both tables list) -/
theorem matches_implies_agree (ia ib : Index)
    (h : RIndex.matchesE (indexToRaw ia) (indexToRaw ib) = .ok true) :
    AssocP.cmAgree ia.cm ib.cm = true ∧ (ia.dual != ib.dual) = true := by
  have key : ∀ (x y : RIndex), RIndex.matchesE x y = .ok true →
      dictsDontConflict (fun (x y : Int) => x != y) x.cm y.cm = true ∧ (x.dual != y.dual) = true := by
    intro x y hxy
    obtain ⟨c1, e1, s1⟩ := x
    obtain ⟨c2, e2, s2⟩ := y
    exact matchesE_true_implies c1 c2 e1 e2 s1 s2 hxy
  have := key _ _ h
  rw [indexToRaw_cm, indexToRaw_cm, indexToRaw_dual, indexToRaw_dual, ddc_raw_eq_cmAgree] at this
  exact this

theorem pyIdx_nat {α : Type} (l : List α) (n : Nat) : pyIdx l (n : Int) = l[n]? := by
  unfold pyIdx; simp

/-- one step of the loop of `check_with` (the hypothesis is its body, as `simp` leaves it) -/
theorem agree_of_checkAt {ia ib : List Index} {i j : Nat}
    (hh : (match Option.map indexToRaw ia[i]? with
      | none => Except.error Err.index
      | some x =>
        match Option.map indexToRaw ib[j]? with
        | none => Except.error Err.index
        | some y =>
          match x.matchesE y with
          | Except.error e => Except.error e
          | Except.ok true => Except.ok ()
          | Except.ok false => Except.error Err.assertion) = Except.ok ()) :
    AssocP.cmAgree (ia.getD i default).cm (ib.getD j default).cm = true
      ∧ ((ia.getD i default).dual != (ib.getD j default).dual) = true := by
  cases h1 : ia[i]? with
  | none => rw [h1] at hh; simp at hh
  | some x =>
    cases h2 : ib[j]? with
    | none => rw [h1, h2] at hh; simp at hh
    | some y =>
      rw [h1, h2] at hh
      simp only [Option.map_some] at hh
      have hm : RIndex.matchesE (indexToRaw x) (indexToRaw y) = .ok true := by
        cases hme : RIndex.matchesE (indexToRaw x) (indexToRaw y) with
        | error e => rw [hme] at hh; cases hh
        | ok v => cases v with
          | true => rfl
          | false => rw [hme] at hh; cases hh
      rw [List.getD_eq_getElem?_getD, List.getD_eq_getElem?_getD, h1, h2]
      exact matches_implies_agree x y hm

/-- `a.check_with(b, axes_a, axes_b)` accepting (non-negative axes, as many on both sides — the
    audit does not compare the two lengths) implies that the pair is contractible in the model's
    weak sense `contractibleCommonB` -/
theorem checkWith_implies_contractibleCommon (a b : Arr R) (xa xb : List Nat)
    (hlen : xa.length = xb.length)
    (h : (arrToRaw a).checkWith (arrToRaw b) (xa.map (fun (n : Nat) => (n : Int)))
          (xb.map (fun (n : Nat) => (n : Int))) = .ok ()) :
    AssocP.contractibleCommonB a b xa xb = true := by
  unfold RArr.checkWith at h
  split at h
  · cases h
  · rw [forE_ok_iff] at h
    unfold AssocP.contractibleCommonB
    simp only [Bool.and_eq_true, beq_iff_eq, List.all_eq_true]
    refine ⟨hlen, ?_⟩
    intro p hp
    have hp' : (((p.1 : Nat) : Int), ((p.2 : Nat) : Int)) ∈
        (xa.map (fun (n : Nat) => (n : Int))).zip (xb.map (fun (n : Nat) => (n : Int))) := by
      rw [List.zip_map]; exact List.mem_map.mpr ⟨p, hp, rfl⟩
    have hh := h _ hp'
    simp only [pyIdx_nat, arrToRaw_indices, List.getElem?_map] at hh
    exact agree_of_checkAt hh

example :
    let a : Arr Int := { sym := .U1, fermi := false, indices := [ckIx2], charge := (0, 0), blocks := [] }
    let b : Arr Int := { sym := .U1, fermi := false, indices := [ckIx2.conj], charge := (0, 0), blocks := [] }
    (arrToRaw a).checkWith (arrToRaw b) [((0 : Nat) : Int)] [((0 : Nat) : Int)] = .ok () := by decide

/-- … but NOT in the strong sense `contractibleB` (equal tables) used as the documented
    precondition of a contraction: `matches` accepts a table with a dropped charge -/
theorem matches_not_contractibleB :
    let a : Arr Int := { sym := .U1, fermi := false, indices := [ckIx2], charge := (0, 0), blocks := [] }
    let b : Arr Int := { sym := .U1, fermi := false, indices := [.mk [((0, 0), 1)] true none],
                         charge := (0, 0), blocks := [] }
    a.validB = true ∧ b.validB = true
    ∧ (arrToRaw a).checkWith (arrToRaw b) [0] [0] = .ok ()
    ∧ (arrToRaw b).checkWith (arrToRaw a) [0] [0] = .ok ()
    ∧ contractibleB a b [0] [0] = false
    ∧ AssocP.contractibleCommonB a b [0] [0] = true := by decide

/-- `check_with` does not compare the NUMBER of axes (`zip` truncates), and the AttributeError:
    a fused leg against a plain one raises, in either order, instead of answering -/
theorem checkWith_ignores_axes_length :
    let a : Arr Int := { sym := .U1, fermi := false, indices := [ckIx2], charge := (0, 0), blocks := [] }
    (arrToRaw a).checkWith (arrToRaw a) [0] [] = .ok ()
    ∧ AssocP.contractibleCommonB a a [0] [] = false
    ∧ RIndex.matchesE (indexToRaw (ckFusedWith [ckSub, ckSub] ckExts))
        (indexToRaw (Index.mk [((0, 0), 1), ((1, 0), 2), ((2, 0), 1)] true none)) = .error Err.attr
    ∧ RIndex.matchesE (indexToRaw (Index.mk [((0, 0), 1), ((1, 0), 2), ((2, 0), 1)] true none))
        (indexToRaw (ckFusedWith [ckSub, ckSub] ckExts)) = .error Err.attr := by decide

end SymmModel.C01
