/-
  Property C19 — edge-wise Hamiltonians add up to the lattice Hamiltonian, each term once.
  Theorems about SymmModel/Model/Ham.lean, for edge lists of any size: `coordination_eq_degree`,
  `onsite_total` for every edge list; the sums (`ham_sum_*`, `onsite_total_*`, `ham_keys`) for edge
  lists without repetition (`Nodup`); every `*_once` and `siteinfo_spec` for simple graphs (`simpleB`).
-/
import SymmModel.Proofs.HamLemmas
namespace SymmModel.C19
open SymmModel SymmModel.HamLemmas

/-- `coordinations[v]` is the number of edge ends at `v`; it is absent exactly when no edge
    mentions `v` (so every site mentioned has coordination ≥ 1). -/
theorem coordination_eq_degree (edges : List Edge) (v : Site) :
    coordination edges v = if degree edges v = 0 then none else some (degree edges v) :=
  coordination_eq edges v

theorem coordination_pos (edges : List Edge) (e : Edge) (he : e ∈ edges) :
    (∃ n, coordination edges e.1 = some n ∧ 1 ≤ n) ∧ (∃ n, coordination edges e.2 = some n ∧ 1 ≤ n) := by
  have h1 : degree edges e.1 ≠ 0 := (degree_ne_zero_iff edges e.1).mpr ⟨e, he, Or.inl rfl⟩
  have h2 : degree edges e.2 ≠ 0 := (degree_ne_zero_iff edges e.2).mpr ⟨e, he, Or.inr rfl⟩
  constructor
  · exact ⟨degree edges e.1, by simp [coordination_eq, h1], by omega⟩
  · exact ⟨degree edges e.2, by simp [coordination_eq, h2], by omega⟩

/-- **onsite_total** (arithmetic form).  For every edge list and every site `v` that occurs in
    it, adding `c / coordination v` once for every edge end at `v` gives `c`. -/
theorem onsite_total (edges : List Edge) (v : Site) (n : Nat) (c : Rat)
    (hn : coordination edges v = some n) :
    (edges.map (fun e => (if e.1 = v then c / (n : Rat) else 0)
        + (if e.2 = v then c / (n : Rat) else 0))).sum = c := by
  obtain ⟨hn1, hn2⟩ := coord_some edges v n hn
  subst hn1
  rw [sum_ends]
  have : (degree edges v : Rat) ≠ 0 := by exact_mod_cast hn2
  field_simp

example : coordination [(0, 1), (2, 1)] 1 = some 2 := by decide

/-- **ham_sum_eq_lattice** (spinful Fermi–Hubbard).  If the builder returns, then as formal
    operator polynomials (coefficient of every monomial `(kind, sites)`) the sum of all returned
    two-site terms is  Σ_bonds −t (hopping both ways, both spins) + Σ_sites (U n↑n↓ − mu n↑ − mu n↓),
    every bond once and every site once. -/
theorem ham_sum_eq_lattice (edges : List Edge) (t : EdgeCoef) (U mu : NodeCoef)
    (H : List (Edge × LocalArgs × List Term)) (hnd : edges.Nodup)
    (hH : hamHubbard edges t U mu = some H) (k : Kind) (s : List Site) :
    coefAt (allTerms H) k s
      = coefAt (latticeHubbard edges (fun a b => (t.get a b).getD 0)
          (fun v => (U.get v).getD 0) (fun v => (mu.get v).getD 0)) k s := by
  apply edgewise_eq_lattice (hubbardArgs edges t U mu) hubbardLocalTerms
    (fun e => hubBondTerms ((t.get e.1 e.2).getD 0) e.1 e.2)
    (fun v => hubSiteTerms ((U.get v).getD 0) ((mu.get v).getD 0) v) edges H hnd hH k s
  · intro v hv; exact hubSite_support _ _ v k s hv
  · intro e _ g hg
    obtain ⟨h1, h2, h3, h4, h5, h6, h7⟩ := hubbardArgs_some edges t U mu e g hg
    rw [hubbard_local_decomp, h1, h2, h3, h4, h5, (coord_some _ _ _ h6).1, (coord_some _ _ _ h7).1]
    simp only [Option.getD_some]


/-- **ham_sum_eq_lattice**, spinless t–V model:  Σ_bonds (−t hopping both ways + V n n) − Σ_sites mu n. -/
theorem ham_sum_eq_lattice_spinless (edges : List Edge) (t V : EdgeCoef) (mu : NodeCoef)
    (H : List (Edge × LocalArgs × List Term)) (hnd : edges.Nodup)
    (hH : hamSpinless edges t V mu = some H) (k : Kind) (s : List Site) :
    coefAt (allTerms H) k s
      = coefAt (latticeSpinless edges (fun a b => (t.get a b).getD 0)
          (fun a b => (V.get a b).getD 0) (fun v => (mu.get v).getD 0)) k s := by
  apply edgewise_eq_lattice (spinlessArgs edges t V mu) spinlessLocalTerms
    (fun e => slBondTerms ((t.get e.1 e.2).getD 0) ((V.get e.1 e.2).getD 0) e.1 e.2)
    (fun v => slSiteTerms ((mu.get v).getD 0) v) edges H hnd hH k s
  · intro v hv; exact slSite_support _ v k s hv
  · intro e _ g hg
    obtain ⟨h1, h2, h3, h4, h5, h6⟩ := spinlessArgs_some edges t V mu e g hg
    rw [spinless_local_decomp, h1, h2, h3, h4, (coord_some _ _ _ h5).1, (coord_some _ _ _ h6).1]
    simp only [Option.getD_some]

/-- **ham_sum_eq_lattice**, transverse-field Ising:  Σ_bonds jx X X + Σ_sites hz Z. -/
theorem ham_sum_eq_lattice_tfim (edges : List Edge) (jx : EdgeCoef) (hz : NodeCoef)
    (H : List (Edge × LocalArgs × List Term)) (hnd : edges.Nodup)
    (hH : hamTfim edges jx hz = some H) (k : Kind) (s : List Site) :
    coefAt (allTerms H) k s
      = coefAt (latticeTfim edges (fun a b => (jx.get a b).getD 0) (fun v => (hz.get v).getD 0)) k s := by
  apply edgewise_eq_lattice (tfimArgs edges jx hz) tfimLocalTerms
    (fun e => tfBondTerms ((jx.get e.1 e.2).getD 0) e.1 e.2)
    (fun v => tfSiteTerms ((hz.get v).getD 0) v) edges H hnd hH k s
  · intro v hv; exact tfSite_support _ v k s hv
  · intro e _ g hg
    obtain ⟨h1, h2, h3, h4, h5⟩ := tfimArgs_some edges jx hz e g hg
    rw [tfim_local_decomp, h1, h2, h3, (coord_some _ _ _ h4).1, (coord_some _ _ _ h5).1]
    simp only [Option.getD_some]

example : simpleB [(0, 1), (2, 1), (0, 2)] = true ∧ [(0, 1), (2, 1), (0, 2)].Nodup := by decide
example : (hamHubbard [(0, 1), (2, 1)] (.dict [((1, 0), 60), ((2, 1), 120)]) (.scalar 60)
    (.fn (fun v => 60 * v))).isSome = true := by decide

/-- **onsite_total**, spinful: over all edges touching a site `v` of the graph, the
    double-occupancy coefficients total exactly `U(v)`, and the number-operator coefficients of
    either spin total exactly `−mu(v)` — whatever the degree of `v`. -/
theorem onsite_total_hubbard (edges : List Edge) (t : EdgeCoef) (U mu : NodeCoef)
    (H : List (Edge × LocalArgs × List Term)) (hnd : edges.Nodup)
    (hH : hamHubbard edges t U mu = some H) (v : Site) (hv : v ∈ sitesOf edges) :
    ∃ u m, U.get v = some u ∧ mu.get v = some m
      ∧ coefAt (allTerms H) .dbl [v] = u
      ∧ coefAt (allTerms H) (.num .up) [v] = -m
      ∧ coefAt (allTerms H) (.num .dn) [v] = -m := by
  obtain ⟨e, g, hg, hev⟩ := site_args _ _ edges H hnd hH hv
  obtain ⟨_, h2, h3, h4, h5, _, _⟩ := hubbardArgs_some edges t U mu e g hg
  obtain ⟨u, hu, m, hm⟩ : ∃ u, U.get v = some u ∧ ∃ m, mu.get v = some m := by
    rcases hev with rfl | rfl
    exacts [⟨_, h2, _, h4⟩, ⟨_, h3, _, h5⟩]
  refine ⟨u, m, hu, hm, ?_, ?_, ?_⟩
  all_goals
    rw [ham_sum_eq_lattice edges t U mu H hnd hH]
    refine (lattice_onsite (fun e => hubBondTerms ((t.get e.1 e.2).getD 0) e.1 e.2)
      (fun v => hubSiteTerms ((U.get v).getD 0) ((mu.get v).getD 0) v) edges _ hv
      (by intro e; simp [coefAt, hubBondTerms]) (fun u' => hubSite_support _ _ u' _ _)).trans ?_
    simp [coefAt, hubSiteTerms, hu, hm]


/-- **onsite_total**, spinless: the number-operator coefficients at `v` total exactly `−mu(v)`. -/
theorem onsite_total_spinless (edges : List Edge) (t V : EdgeCoef) (mu : NodeCoef)
    (H : List (Edge × LocalArgs × List Term)) (hnd : edges.Nodup)
    (hH : hamSpinless edges t V mu = some H) (v : Site) (hv : v ∈ sitesOf edges) :
    ∃ m, mu.get v = some m ∧ coefAt (allTerms H) (.num .none) [v] = -m := by
  obtain ⟨e, g, hg, hev⟩ := site_args _ _ edges H hnd hH hv
  obtain ⟨_, _, h3, h4, _, _⟩ := spinlessArgs_some edges t V mu e g hg
  obtain ⟨m, hm⟩ : ∃ m, mu.get v = some m := by
    rcases hev with rfl | rfl
    exacts [⟨_, h3⟩, ⟨_, h4⟩]
  refine ⟨m, hm, ?_⟩
  rw [ham_sum_eq_lattice_spinless edges t V mu H hnd hH]
  refine (lattice_onsite
    (fun e => slBondTerms ((t.get e.1 e.2).getD 0) ((V.get e.1 e.2).getD 0) e.1 e.2)
    (fun v => slSiteTerms ((mu.get v).getD 0) v) edges _ hv
    (by intro e; simp [coefAt, slBondTerms]) (fun u' => slSite_support _ u' _ _)).trans ?_
  simp [coefAt, slSiteTerms, hm]

/-- **onsite_total**, TFIM: the field coefficients at `v` total exactly `hz(v)`. -/
theorem onsite_total_tfim (edges : List Edge) (jx : EdgeCoef) (hz : NodeCoef)
    (H : List (Edge × LocalArgs × List Term)) (hnd : edges.Nodup)
    (hH : hamTfim edges jx hz = some H) (v : Site) (hv : v ∈ sitesOf edges) :
    ∃ h, hz.get v = some h ∧ coefAt (allTerms H) .zf [v] = h := by
  obtain ⟨e, g, hg, hev⟩ := site_args _ _ edges H hnd hH hv
  obtain ⟨_, h2, h3, _, _⟩ := tfimArgs_some edges jx hz e g hg
  obtain ⟨m, hm⟩ : ∃ m, hz.get v = some m := by
    rcases hev with rfl | rfl
    exacts [⟨_, h2⟩, ⟨_, h3⟩]
  refine ⟨m, hm, ?_⟩
  rw [ham_sum_eq_lattice_tfim edges jx hz H hnd hH]
  refine (lattice_onsite (fun e => tfBondTerms ((jx.get e.1 e.2).getD 0) e.1 e.2)
    (fun v => tfSiteTerms ((hz.get v).getD 0) v) edges _ hv
    (by intro e; simp [coefAt, tfBondTerms]) (fun u' => tfSite_support _ u' _ _)).trans ?_
  simp [coefAt, tfSiteTerms, hm]

/-- the value `c` is what a dict specifies for the bond {a, b}: at least one of the two keys
    is present and every present key carries `c` -/
def BondSpec (d : List (Edge × Rat)) (a b : Site) (c : Rat) : Prop :=
  (alookup d (a, b) = some c ∧ (alookup d (b, a) = some c ∨ alookup d (b, a) = none))
  ∨ (alookup d (a, b) = none ∧ alookup d (b, a) = some c)

/-- **edge_coef_either_orientation**: a dict coefficient is found whichever way round the key
    was written, and whichever way round the edge is given. -/
theorem edge_coef_either_orientation (d : List (Edge × Rat)) (a b : Site) (c : Rat)
    (h : BondSpec d a b c) :
    (EdgeCoef.dict d).get a b = some c ∧ (EdgeCoef.dict d).get b a = some c := by
  rcases h with ⟨h1, h2 | h2⟩ | ⟨h1, h2⟩ <;> simp [EdgeCoef.get, h1, h2]

example : BondSpec [((1, 0), 60)] 0 1 60 := by
  right; decide

theorem edge_coef_scalar (c : Rat) (a b : Site) : (EdgeCoef.scalar c).get a b = some c := rfl
theorem edge_coef_fn (f : Site → Site → Rat) (a b : Site) : (EdgeCoef.fn f).get a b = some (f a b) := rfl
theorem node_coef_dict (d : List (Site × Rat)) (v : Site) : (NodeCoef.dict d).get v = alookup d v := rfl
theorem node_coef_scalar (c : Rat) (v : Site) : (NodeCoef.scalar c).get v = some c := rfl
theorem node_coef_fn (f : Site → Rat) (v : Site) : (NodeCoef.fn f).get v = some (f v) := rfl

/-- **hopping_once** (spinful).  On a simple graph, for every edge (a,b) as given and each spin,
    among *all* returned terms there is exactly one hopping term a←b and exactly one b←a, and
    both carry −t where t is what the hopping specification yields for this edge. -/
theorem hopping_once (edges : List Edge) (t : EdgeCoef) (U mu : NodeCoef)
    (H : List (Edge × LocalArgs × List Term)) (hs : simpleB edges = true)
    (hH : hamHubbard edges t U mu = some H) (a b : Site) (hab : (a, b) ∈ edges)
    (σ : Spin) (hσ : σ ≠ .none) :
    ∃ c, t.get a b = some c
      ∧ (allTerms H).filter (fun x => decide (x.kind = .hop σ ∧ x.sites = [a, b]))
          = [⟨-c, .hop σ, [a, b]⟩]
      ∧ (allTerms H).filter (fun x => decide (x.kind = .hop σ ∧ x.sites = [b, a]))
          = [⟨-c, .hop σ, [b, a]⟩] := by
  have hne : a ≠ b := simple_noloop edges hs (a, b) hab
  have hne' : ¬ b = a := fun h => hne h.symm
  obtain ⟨g, hg, h1⟩ := bond_filter_kind (hubbardArgs edges t U mu) hubbardLocalTerms edges H hs hH
    a b hab (.hop σ) (fun s => s = [a, b]) (fun p q g x hx hk => hub_two_site p q g x hx σ hk)
    (fun _ h => Or.inl h)
  obtain ⟨g', hg', h2⟩ := bond_filter_kind (hubbardArgs edges t U mu) hubbardLocalTerms edges H hs hH
    a b hab (.hop σ) (fun s => s = [b, a]) (fun p q g x hx hk => hub_two_site p q g x hx σ hk)
    (fun _ h => Or.inr h)
  have : g' = g := by rw [hg] at hg'; exact (Option.some.inj hg').symm
  subst this
  obtain ⟨ht, _⟩ := hubbardArgs_some edges t U mu (a, b) g' hg
  refine ⟨g'.t, ht, ?_, ?_⟩
  · rw [h1]
    cases σ <;> simp [hubbardLocalTerms, List.filter, hne, hne'] at hσ ⊢
  · rw [h2]
    cases σ <;> simp [hubbardLocalTerms, List.filter, hne, hne'] at hσ ⊢


/-- **hopping_once** (spinless). -/
theorem hopping_once_spinless (edges : List Edge) (t V : EdgeCoef) (mu : NodeCoef)
    (H : List (Edge × LocalArgs × List Term)) (hs : simpleB edges = true)
    (hH : hamSpinless edges t V mu = some H) (a b : Site) (hab : (a, b) ∈ edges) :
    ∃ c, t.get a b = some c
      ∧ (allTerms H).filter (fun x => decide (x.kind = .hop .none ∧ x.sites = [a, b]))
          = [⟨-c, .hop .none, [a, b]⟩]
      ∧ (allTerms H).filter (fun x => decide (x.kind = .hop .none ∧ x.sites = [b, a]))
          = [⟨-c, .hop .none, [b, a]⟩] := by
  have hne : a ≠ b := simple_noloop edges hs (a, b) hab
  have hne' : ¬ b = a := fun h => hne h.symm
  obtain ⟨g, hg, h1⟩ := bond_filter_kind (spinlessArgs edges t V mu) spinlessLocalTerms edges H hs hH
    a b hab (.hop .none) (fun s => s = [a, b])
    (fun p q g x hx hk => sl_two_site p q g x hx (Or.inl ⟨_, hk⟩)) (fun _ h => Or.inl h)
  obtain ⟨g', hg', h2⟩ := bond_filter_kind (spinlessArgs edges t V mu) spinlessLocalTerms edges H hs hH
    a b hab (.hop .none) (fun s => s = [b, a])
    (fun p q g x hx hk => sl_two_site p q g x hx (Or.inl ⟨_, hk⟩)) (fun _ h => Or.inr h)
  have : g' = g := by rw [hg] at hg'; exact (Option.some.inj hg').symm
  subst this
  obtain ⟨ht, _⟩ := spinlessArgs_some edges t V mu (a, b) g' hg
  refine ⟨g'.t, ht, ?_, ?_⟩
  · rw [h1]; simp [spinlessLocalTerms, List.filter, hne, hne']
  · rw [h2]; simp [spinlessLocalTerms, List.filter, hne, hne']

/-- **interaction_once** (spinless).  On a simple graph the nearest-neighbour interaction of the
    bond {a,b} occurs exactly once among all returned terms (under either order of the two
    sites), with the coefficient V that the specification yields for this edge — not divided
    by anything and not doubled. -/
theorem interaction_once (edges : List Edge) (t V : EdgeCoef) (mu : NodeCoef)
    (H : List (Edge × LocalArgs × List Term)) (hs : simpleB edges = true)
    (hH : hamSpinless edges t V mu = some H) (a b : Site) (hab : (a, b) ∈ edges) :
    ∃ c, V.get a b = some c
      ∧ (allTerms H).filter (fun x => decide (x.kind = .nn ∧ (x.sites = [a, b] ∨ x.sites = [b, a])))
          = [⟨c, .nn, [a, b]⟩] := by
  have hne : a ≠ b := simple_noloop edges hs (a, b) hab
  obtain ⟨g, hg, h1⟩ := bond_filter_kind (spinlessArgs edges t V mu) spinlessLocalTerms edges H hs hH
    a b hab .nn (fun s => s = [a, b] ∨ s = [b, a])
    (fun p q g x hx hk => sl_two_site p q g x hx (Or.inr hk)) (fun _ h => h)
  obtain ⟨_, hv, _⟩ := spinlessArgs_some edges t V mu (a, b) g hg
  refine ⟨g.v, hv, ?_⟩
  rw [h1]; simp [spinlessLocalTerms, List.filter]

/-- **hopping_once** with a dict specification: whichever way round the key of the bond {a,b} was
    written in the dict, the single hopping term a←b (and b←a) carries exactly −(that value). -/
theorem hopping_once_dict (edges : List Edge) (d : List (Edge × Rat)) (U mu : NodeCoef)
    (H : List (Edge × LocalArgs × List Term)) (hs : simpleB edges = true)
    (hH : hamHubbard edges (.dict d) U mu = some H) (a b : Site) (hab : (a, b) ∈ edges)
    (c : Rat) (hc : BondSpec d a b c) (σ : Spin) (hσ : σ ≠ .none) :
    (allTerms H).filter (fun x => decide (x.kind = .hop σ ∧ x.sites = [a, b])) = [⟨-c, .hop σ, [a, b]⟩]
      ∧ (allTerms H).filter (fun x => decide (x.kind = .hop σ ∧ x.sites = [b, a])) = [⟨-c, .hop σ, [b, a]⟩] := by
  obtain ⟨c', hc', h1, h2⟩ := hopping_once edges (.dict d) U mu H hs hH a b hab σ hσ
  have : c' = c := by
    have := (edge_coef_either_orientation d a b c hc).1
    rw [hc'] at this
    exact Option.some.inj this
  subst this
  exact ⟨h1, h2⟩

/-- **interaction_once** with a dict specification in either orientation. -/
theorem interaction_once_dict (edges : List Edge) (t : EdgeCoef) (d : List (Edge × Rat)) (mu : NodeCoef)
    (H : List (Edge × LocalArgs × List Term)) (hs : simpleB edges = true)
    (hH : hamSpinless edges t (.dict d) mu = some H) (a b : Site) (hab : (a, b) ∈ edges)
    (c : Rat) (hc : BondSpec d a b c) :
    (allTerms H).filter (fun x => decide (x.kind = .nn ∧ (x.sites = [a, b] ∨ x.sites = [b, a])))
      = [⟨c, .nn, [a, b]⟩] := by
  obtain ⟨c', hc', h1⟩ := interaction_once edges t (.dict d) mu H hs hH a b hab
  have : c' = c := by
    have := (edge_coef_either_orientation d a b c hc).1
    rw [hc'] at this
    exact Option.some.inj this
  subst this
  exact h1

/-- **coupling_once** (TFIM): the X X coupling of each bond occurs exactly once with its jx. -/
theorem coupling_once (edges : List Edge) (jx : EdgeCoef) (hz : NodeCoef)
    (H : List (Edge × LocalArgs × List Term)) (hs : simpleB edges = true)
    (hH : hamTfim edges jx hz = some H) (a b : Site) (hab : (a, b) ∈ edges) :
    ∃ c, jx.get a b = some c
      ∧ (allTerms H).filter (fun x => decide (x.kind = .xx ∧ (x.sites = [a, b] ∨ x.sites = [b, a])))
          = [⟨c, .xx, [a, b]⟩] := by
  obtain ⟨g, hg, h1⟩ := bond_filter_kind (tfimArgs edges jx hz) tfimLocalTerms edges H hs hH
    a b hab .xx (fun s => s = [a, b] ∨ s = [b, a]) tf_two_site (fun _ h => h)
  obtain ⟨hv, _⟩ := tfimArgs_some edges jx hz (a, b) g hg
  refine ⟨g.t, hv, ?_⟩
  rw [h1]; simp [tfimLocalTerms, List.filter]

/-- the returned dict has exactly the given edges as keys, in the given order, when no edge is
    repeated -/
theorem ham_keys (args : Edge → Option LocalArgs) (terms : Site → Site → LocalArgs → List Term)
    (edges : List Edge) (H : List (Edge × LocalArgs × List Term)) (hnd : edges.Nodup)
    (hH : edgeDict args terms edges = some H) : H.map (·.1) = edges := by
  obtain ⟨hcl, _⟩ := edgeDict_closed args terms edges H hnd hH
  rw [hcl, List.map_map]; simp [Function.comp_def]


theorem siteinfo_keys (edges : List Edge) (D : Nat) (phys : Option Nat) (v : Site) :
    ((alookup (parseEdges edges D phys) v).isSome = true ↔ v ∈ sitesOf edges)
      ∧ ((parseEdges edges D phys).map (·.1)).Nodup := by
  constructor
  · rw [parseEdges_lookup, Option.isSome_map, parseBonds, parseFold_keys, mem_sitesOf]
    simp only [alookup, Option.isSome_none, Bool.false_eq_true, false_or]
    constructor
    · rintro ⟨e, he, h⟩; exact ⟨e, (isort_perm edgeLt edges).mem_iff.mp he, h⟩
    · rintro ⟨e, he, h⟩; exact ⟨e, (isort_perm edgeLt edges).mem_iff.mpr he, h⟩
  · have : (parseEdges edges D phys).map (·.1) = (parseBonds D edges).map (·.1) := by
      unfold parseEdges
      rw [List.map_map]
      rfl
    rw [this]
    exact parseFold_nodup D _ [] (by simp)

/-- **siteinfo_legs**: the exact leg list of every described site — the bonds of the incident
    edges in the order of `sorted(edges)`, each named after its ends in increasing order, with
    direction 0 at the smaller end and 1 at the larger end and dimension `bond_dim`; then, if a
    physical dimension is given, the physical index last, with direction 0.  The coordination
    entry is the degree and the tag is the site. -/
theorem siteinfo_legs (edges : List Edge) (D : Nat) (phys : Option Nat) (v : Site) (i : SiteInfo)
    (h : alookup (parseEdges edges D phys) v = some i) :
    i.legs = (isort edgeLt edges).flatMap (bondContrib D v)
        ++ physLegs phys v
      ∧ i.coordination = degree edges v ∧ i.tag = v := by
  rw [parseEdges_lookup] at h
  cases hb : alookup (parseBonds D edges) v with
  | none => simp [hb] at h
  | some legs =>
    simp only [hb, Option.map_some, Option.some.injEq] at h
    have hl : legs = (isort edgeLt edges).flatMap (bondContrib D v) := by
      have := parseFold_legs D (isort edgeLt edges) [] v
      simp only [legsOf, alookup, Option.getD_none, List.nil_append] at this
      unfold parseBonds at hb
      rw [hb] at this
      simpa using this
    subst h
    refine ⟨?_, ?_, rfl⟩
    · simp [hl]
    · simp only
      rw [hl, contrib_length, degree_perm _ _ (isort_perm edgeLt edges)]

/-- **siteinfo_count** (any edge list, also multigraphs): at site `v` the number of legs that are
    named after the bond (x,y) and have direction δ is the multiplicity of the bond {x,y} in the
    edge list if (δ = 0 and v = x) or (δ = 1 and v = y), and 0 otherwise. -/
theorem siteinfo_count (edges : List Edge) (D : Nat) (phys : Option Nat) (v x y δ : Nat) :
    (legsAt (parseEdges edges D phys) v).countP (fun l => l.name == .bond x y && l.dual == δ)
      = if v ∈ sitesOf edges ∧ ((δ = 0 ∧ v = x) ∨ (δ = 1 ∧ v = y)) then bondMult edges x y else 0 := by
  unfold legsAt
  cases hi : alookup (parseEdges edges D phys) v with
  | none =>
    have : v ∉ sitesOf edges := by
      intro hm
      have := ((siteinfo_keys edges D phys v).1).mpr hm
      simp [hi] at this
    simp [this]
  | some i =>
    have hm : v ∈ sitesOf edges := ((siteinfo_keys edges D phys v).1).mp (by simp [hi])
    obtain ⟨hl, _, _⟩ := siteinfo_legs edges D phys v i hi
    simp only [hl, List.countP_append, hm, true_and]
    have hp : (physLegs phys v).countP
        (fun (l : Leg) => l.name == IndName.bond x y && l.dual == δ) = 0 := by
      cases phys <;> simp [physLegs]
    rw [hp, Nat.add_zero]
    have hperm := (isort_perm edgeLt edges)
    rw [(hperm.flatMap_right (bondContrib D v)).countP_eq, contrib_count]

/-- **siteinfo_spec**.  For a simple graph and any of its edges (a,b), with lo/hi the smaller/larger
    of a and b:  both ends are described; the bond's index name `bond lo hi` occurs exactly once
    at `lo` with direction 0, exactly once at `hi` with direction 1, and nowhere else in any
    direction (so the two ends share one name with opposite directions, the larger end being the
    dual one); each site's coordination entry equals its degree; and the physical index, when
    requested, is the last leg, non-dual. -/
theorem siteinfo_spec (edges : List Edge) (hs : simpleB edges = true) (D : Nat) (phys : Option Nat)
    (e : Edge) (he : e ∈ edges) :
    let lo := (normEdge e).1
    let hi := (normEdge e).2
    let info := parseEdges edges D phys
    (lo < hi)
    ∧ (legsAt info lo).countP (fun l => l.name == .bond lo hi && l.dual == 0) = 1
    ∧ (legsAt info hi).countP (fun l => l.name == .bond lo hi && l.dual == 1) = 1
    ∧ (∀ v δ, ¬ ((δ = 0 ∧ v = lo) ∨ (δ = 1 ∧ v = hi)) →
        (legsAt info v).countP (fun l => l.name == .bond lo hi && l.dual == δ) = 0)
    ∧ (∀ v i, alookup info v = some i →
        i.coordination = degree edges v ∧ 1 ≤ i.coordination
        ∧ i.legs.length = degree edges v + (if phys.isSome then 1 else 0)
        ∧ (∀ d, phys = some d → i.legs.getLast? = some ⟨.phys v, 0, d⟩)) := by
  intro lo hi info
  have hne : e.1 ≠ e.2 := simple_noloop edges hs e he
  have hlohi : lo < hi := by
    simp only [lo, hi, normEdge]
    by_cases h : e.1 > e.2
    · simp only [h, if_true]
    · simp only [h, if_false]; exact Nat.lt_of_le_of_ne (Nat.le_of_not_gt h) hne
  have hlo : lo ∈ sitesOf edges := by
    rw [mem_sitesOf]; refine ⟨e, he, ?_⟩
    simp only [lo, normEdge]; by_cases h : e.1 > e.2 <;> simp [h]
  have hhi : hi ∈ sitesOf edges := by
    rw [mem_sitesOf]; refine ⟨e, he, ?_⟩
    simp only [hi, normEdge]; by_cases h : e.1 > e.2 <;> simp [h]
  have hm := bondMult_simple edges hs e he
  refine ⟨hlohi, ?_, ?_, ?_, ?_⟩
  · rw [siteinfo_count]; simp [hlo, hm, lo, hi]
  · rw [siteinfo_count]; simp [hhi, hm, lo, hi]
  · intro v δ hn
    rw [siteinfo_count]; simp [hn]
  · intro v i hi'
    obtain ⟨hl, hc, _⟩ := siteinfo_legs edges D phys v i hi'
    have hv : v ∈ sitesOf edges := ((siteinfo_keys edges D phys v).1).mp (by simp [info] at hi'; simp [hi'])
    have hd : degree edges v ≠ 0 := (degree_ne_zero_iff_mem edges v).mpr hv
    refine ⟨hc, by omega, ?_, ?_⟩
    · rw [hl, List.length_append, contrib_length, degree_perm _ _ (isort_perm edgeLt edges)]
      cases phys <;> simp [physLegs]
    · intro d hd'
      subst hd'
      rw [hl]; simp [physLegs]

example : simpleB [(2, 1), (0, 2), (1, 0)] = true := by decide


/-- the hypothesis `edges.Nodup` of the sum theorems cannot be dropped: a repeated edge is counted
    twice in the coordinations but occupies one dict key, so half of U is lost (witness; the
    property is stated for simple graphs only) -/
theorem nodup_needed :
    (hamHubbard [(0, 1), (0, 1)] (.scalar 1) (.scalar 8) (.scalar 0)).map
      (fun H => coefAt (allTerms H) .dbl [0]) = some 4 := by
  decide +kernel

end SymmModel.C19
