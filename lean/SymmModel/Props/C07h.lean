/-
  Property C07, eighth part: inputs that ALREADY carry fused axes (densely or sparsely fused).

  The planner reads the sub-size table of the input through one question only — "do the sub-sizes
  of this fused axis equal the window of the requested shape that starts at the current target
  position?" (`Reshape.unfuseMatch`).  `noWinB newshape subsizes`: no fused axis' sub-sizes equal ANY
  window of the requested shape — the decidable hypothesis that excludes the known finding
  reshape-fused-window-match (its input (4,2) with sub-sizes (4,2): `noWinB = false`,
  `window_match_not_noWin`).

  (0) `planner_subs_congr`      two sub-size tables that answer all window questions alike give the
                                same plan (all shapes, all targets).
      `planner_nowin_unfused`   `noWinB` ⇒ the plan is the plan of the same shape without fused axes.
  (1) THE ROUND-TRIP CLAUSE for arrays with fused axes — valid array, ANY fused axes (nested, dense or
      sparse), `noWinB target a.subsizes` (way out) and `noWinB a.shape a.subsizes`
      (way back: the fused axes that are kept must not be taken for merged ones):
        `reshape_mergeDrop_roundtrip_fermionic_fused` / `_abelian_fused`
              merge adjacent axes and/or drop size-one axes (`MSeg`, as in C07g): BOTH reshapes
              succeed, the result is valid and has exactly the value view of the original (`VEq`:
              symmetry, kind, indices WITH their fused structure, charge, labels, every value).
        `reshape_roundtrip_fermionic_fused_items` / `_abelian_fused_items`   the planner's reading.
        `reshape_roundtrip_fermionic_fused_general` / `_abelian_fused_general`
              every target for which the planner returns a plan without expansion.
      The fuse calls of the way out may group fused axes (nested fusion); the way back unfuses
      exactly the axes the way out created (marked invariant, Proofs/ReshapeHb.lean).
      These theorems are the special case `noWinB` of the round trips under the planner-exact window
      conditions of C07i (Proofs/ReshapeIe.lean).
      `noWinB a.shape a.subsizes` is needed: `roundtrip_fused_window_counterexample`.
      The hypotheses `hpos` (positive sizes) and `hprod` (equal products) in these statements are not
      used by the proofs.
  (2) THE FIRST CLAUSE for fused inputs without the density hypothesis of C07c:
        `planner_wf_nowin`              `noWinB`, positive sizes, equal products ⇒ whatever plan the
                                        planner returns is certified (`Plan.wfB`), has no unfuse step
        `reshape_content_fused`         abelian or fermionic: content up to signs (norm, multiset of
                                        magnitudes), valid, requested number of axes, same kind
        `reshape_content_abelian_fused` abelian: exact content, every axis ≤ requested
      (densely fused inputs WITH window matches are covered by `reshape_contentF` of C07c).
  (3) ELEMENT BY ELEMENT, SEVERAL FUSE CALLS (fermionic; fused inputs allowed):
        `reshape_forward_elem_fermionic_calls_partial` / `reshape_forward_elem_fermionic_items_partial`
      the plan succeeds, every intermediate array is a valid fermionic array and every call satisfies
      the one-call statement of C07g with respect to the array it is applied to (`ElemChain`); and
      end to end: `y.elem ns i = sgnI σ (a.elem s o)` whenever `(s, o, σ)` is the address of `(ns, i)`
      pulled back through all calls (`Pulled`: split the fused axes of each call, last call first;
      `σ` = product of the fuse signs `fuseSignT` of the source sectors) — along intermediate
      addresses that lie in STORED blocks.
      `_partial`: only along stored intermediate addresses.  An intermediate address may fall into a
      sector the intermediate array does not store (a fused block is zero-filled where the source has
      no block); there the value is 0 on both sides.  The statement for EVERY stored element of the
      result is `reshape_forward_elem_fermionic_calls` (C07i); "fuse stores a sector only if some
      stored source sector combines to it" is `fuse_stored_sector_has_source_fermionic` (C07j).
-/
import SymmModel.Proofs.ReshapeIh
import SymmModel.Props.C07g

namespace SymmModel.C07
open SymmModel SymmModel.Reshape SymmModel.Reshape3 SymmModel.Reshape5 SymmModel.ReshapeH ReshapeP FuseP

/-- **the plan depends on the sub-sizes only through the window questions** -/
theorem planner_subs_congr (shape newshape : List Nat) (A B : List (Option (List Nat)))
    (hlen : A.length = B.length)
    (h : ∀ (i : Nat) (sa sb : Option (List Nat)), A[i]? = some sa → B[i]? = some sb →
      ∀ j, j < newshape.length → unfuseMatch newshape j sa = unfuseMatch newshape j sb) :
    calcReshapeArgs shape newshape A = calcReshapeArgs shape newshape B := by
  unfold calcReshapeArgs
  rw [ReshapeI.mainLoop_agree shape newshape A B hlen _ {}]
  intro p hp
  have hj := (ReshapeI.visits_bounds _ _ _ _ _ _ p hp).2
  rcases getElem?_both hlen p.1 with ⟨hA, hB⟩ | ⟨sa, sb, hA, hB⟩
  · simp [List.getD_eq_getElem?_getD, hA, hB]
  · simpa [List.getD_eq_getElem?_getD, hA, hB] using h p.1 sa sb hA hB p.2 hj

/-- **no window match ⇒ the planner treats the input as unfused** -/
theorem planner_nowin_unfused (shape newshape : List Nat) (subsizes : List (Option (List Nat)))
    (hlen : shape.length = subsizes.length) (h : noWinB newshape subsizes = true) :
    calcReshapeArgs shape newshape subsizes = calcReshapeArgs shape newshape (nones shape) :=
  ReshapeI.planner_vis_nones shape newshape subsizes hlen
    (ReshapeI.noWinVis_of_noWin shape newshape subsizes hlen h)

/-- the known finding's input is excluded by `noWinB`; densely and sparsely fused axes whose
    sub-sizes do not occur in the requested shape are not -/
theorem window_match_not_noWin :
    noWinB [4, 2] [some [4, 2], none] = false
    ∧ noWinB [8, 2] [some [4, 2], none] = true ∧ noWinB [16] [some [4, 2], none] = true
    ∧ noWinB [3, 3] [none, some [3, 2]] = true ∧ noWinB [9] [none, some [3, 2]] = true := by decide

variable {R : Type} [Zero R] [Neg R] [Lazy.LawfulNeg R]

/-- **`reshape` there and back, fermionic, fused axes allowed, every plan without expansion**
    (`hpos`, `hprod` are not used by the proof) -/
theorem reshape_roundtrip_fermionic_fused_general (a y : Arr R) (ns full : List Int) (nsN : List Nat)
    (t : List Nat × List (List (List Nat)) × List Nat)
    (hv : a.validB = true) (hf : a.fermi = true)
    (hpos : ∀ d ∈ a.shape, 0 < d) (hprod : prod a.shape = prod nsN)
    (hnw1 : noWinB nsN a.subsizes = true) (hnw2 : noWinB a.shape a.subsizes = true)
    (h1 : findFullReshape ns a.size = .ok full)
    (h2 : full.mapM (fun (d : Int) => if d < 0 then (throw Err.notimpl : Except Err Nat) else pure d.toNat)
      = .ok nsN)
    (h3 : calcReshapeArgs a.shape nsN a.subsizes = .ok t) (hexp : t.2.2 = [])
    (hy : reshapeArr a ns = .ok y) :
    ∃ z, reshapeArr y (a.shape.map Int.ofNat) = .ok z ∧ z.validB = true ∧ z.fermi = true ∧ VEq z a := by
  obtain ⟨z, hz, g, hvz⟩ := ReshapeI.reshape_roundtrip_vis_generic (kind_F (R := R)) a y ⟨hv, hf⟩ ns full nsN t
    (ReshapeI.noWinVis_of_noWin _ _ _ (shape_subsizes_length a) hnw1)
    (ReshapeI.noSelfWin_of_noWin (shape_subsizes_length a) hnw2) h1 h2 h3 hexp hy
  exact ⟨z, hz, g.1, g.2, hvz⟩

/-- … abelian
    (`hpos`, `hprod` are not used by the proof) -/
theorem reshape_roundtrip_abelian_fused_general (a y : Arr R) (ns full : List Int) (nsN : List Nat)
    (t : List Nat × List (List (List Nat)) × List Nat)
    (hv : a.validB = true) (hf : a.fermi = false)
    (hpos : ∀ d ∈ a.shape, 0 < d) (hprod : prod a.shape = prod nsN)
    (hnw1 : noWinB nsN a.subsizes = true) (hnw2 : noWinB a.shape a.subsizes = true)
    (h1 : findFullReshape ns a.size = .ok full)
    (h2 : full.mapM (fun (d : Int) => if d < 0 then (throw Err.notimpl : Except Err Nat) else pure d.toNat)
      = .ok nsN)
    (h3 : calcReshapeArgs a.shape nsN a.subsizes = .ok t) (hexp : t.2.2 = [])
    (hy : reshapeArr a ns = .ok y) :
    ∃ z, reshapeArr y (a.shape.map Int.ofNat) = .ok z ∧ z.validB = true ∧ z.fermi = false ∧ VEq z a := by
  obtain ⟨z, hz, g, hvz⟩ := ReshapeI.reshape_roundtrip_vis_generic (kind_A (R := R)) a y ⟨hv, hf⟩ ns full nsN t
    (ReshapeI.noWinVis_of_noWin _ _ _ (shape_subsizes_length a) hnw1)
    (ReshapeI.noSelfWin_of_noWin (shape_subsizes_length a) hnw2) h1 h2 h3 hexp hy
  exact ⟨z, hz, g.1, g.2, hvz⟩

/-- **`reshape` there and back, fermionic, fused axes allowed, unconditional** (merge / squeeze
    targets in the planner's reading): both reshapes succeed
    (`hpos` is not used by the proof) -/
theorem reshape_roundtrip_fermionic_fused_items (a : Arr R) (hv : a.validB = true) (hf : a.fermi = true)
    (items : List Item) (hshape : a.shape = shapeOf items) (hok : ItemsOk items)
    (hne : targetOf items ≠ []) (hpos : ∀ d ∈ a.shape, 0 < d)
    (hnw1 : noWinB (targetOf items) a.subsizes = true) (hnw2 : noWinB a.shape a.subsizes = true) :
    ∃ y z, reshapeArr a ((targetOf items).map Int.ofNat) = .ok y
      ∧ reshapeArr y (a.shape.map Int.ofNat) = .ok z ∧ z.validB = true ∧ z.fermi = true ∧ VEq z a := by
  obtain ⟨y, z, h1, h2, g, h3⟩ := ReshapeI.reshape_roundtrip_items_vis_generic (kind_F (R := R)) a ⟨hv, hf⟩
    items hshape hok hne
    (ReshapeI.noWinVis_of_noWin _ _ _ (shape_subsizes_length a) hnw1)
    (ReshapeI.noSelfWin_of_noWin (shape_subsizes_length a) hnw2)
  exact ⟨y, z, h1, h2, g.1, g.2, h3⟩

/-- … abelian
    (`hpos` is not used by the proof) -/
theorem reshape_roundtrip_abelian_fused_items (a : Arr R) (hv : a.validB = true) (hf : a.fermi = false)
    (items : List Item) (hshape : a.shape = shapeOf items) (hok : ItemsOk items)
    (hne : targetOf items ≠ []) (hpos : ∀ d ∈ a.shape, 0 < d)
    (hnw1 : noWinB (targetOf items) a.subsizes = true) (hnw2 : noWinB a.shape a.subsizes = true) :
    ∃ y z, reshapeArr a ((targetOf items).map Int.ofNat) = .ok y
      ∧ reshapeArr y (a.shape.map Int.ofNat) = .ok z ∧ z.validB = true ∧ z.fermi = false ∧ VEq z a := by
  obtain ⟨y, z, h1, h2, g, h3⟩ := ReshapeI.reshape_roundtrip_items_vis_generic (kind_A (R := R)) a ⟨hv, hf⟩
    items hshape hok hne
    (ReshapeI.noWinVis_of_noWin _ _ _ (shape_subsizes_length a) hnw1)
    (ReshapeI.noSelfWin_of_noWin (shape_subsizes_length a) hnw2)
  exact ⟨y, z, h1, h2, g.1, g.2, h3⟩

/-- **the round-trip clause, fermionic arrays with fused axes**: merging adjacent axes and/or
    dropping size-one axes, and back -/
theorem reshape_mergeDrop_roundtrip_fermionic_fused (a : Arr R) (hv : a.validB = true) (hf : a.fermi = true)
    (segs : List MSeg) (hok : ∀ s ∈ segs, MSegOk s) (hshape : a.shape = shapeS segs)
    (hne : targetS segs ≠ [])
    (hnw1 : noWinB (targetS segs) a.subsizes = true) (hnw2 : noWinB a.shape a.subsizes = true) :
    ∃ y z, reshapeArr a ((targetS segs).map Int.ofNat) = .ok y
      ∧ reshapeArr y (a.shape.map Int.ofNat) = .ok z ∧ z.validB = true ∧ z.fermi = true ∧ VEq z a := by
  obtain ⟨items, h1, h2, h3⟩ := normalise segs hok
  rw [← h3] at hne hnw1 ⊢
  exact reshape_roundtrip_fermionic_fused_items a hv hf items (by rw [hshape, h2]) h1 hne
    (by rw [hshape]; exact shapeS_pos segs hok) hnw1 hnw2

/-- **the round-trip clause, abelian arrays with fused axes** -/
theorem reshape_mergeDrop_roundtrip_abelian_fused (a : Arr R) (hv : a.validB = true) (hf : a.fermi = false)
    (segs : List MSeg) (hok : ∀ s ∈ segs, MSegOk s) (hshape : a.shape = shapeS segs)
    (hne : targetS segs ≠ [])
    (hnw1 : noWinB (targetS segs) a.subsizes = true) (hnw2 : noWinB a.shape a.subsizes = true) :
    ∃ y z, reshapeArr a ((targetS segs).map Int.ofNat) = .ok y
      ∧ reshapeArr y (a.shape.map Int.ofNat) = .ok z ∧ z.validB = true ∧ z.fermi = false ∧ VEq z a := by
  obtain ⟨items, h1, h2, h3⟩ := normalise segs hok
  rw [← h3] at hne hnw1 ⊢
  exact reshape_roundtrip_abelian_fused_items a hv hf items (by rw [hshape, h2]) h1 hne
    (by rw [hshape]; exact shapeS_pos segs hok) hnw1 hnw2

omit [Zero R] [Neg R] [Lazy.LawfulNeg R] in
/-- **the hypothesis on the way back is needed** (known finding reshape-fused-window-match): shape
    (4,2,3) whose first axis is sparsely fused from sizes (4,2).  The way out to (4,6) has no window
    match and merges axes (1,2); on the way back the planner takes the OLD fused axis for a merged
    one (its sub-sizes (4,2) are a window of (4,2,3)) and raises. -/
theorem roundtrip_fused_window_counterexample :
    noWinB [4, 6] [some [4, 2], none, none] = true ∧ noWinB [4, 2, 3] [some [4, 2], none, none] = false
    ∧ calcReshapeArgs [4, 2, 3] [4, 6] [some [4, 2], none, none] = .ok ([], [[[1, 2]]], [])
    ∧ calcReshapeArgs [4, 6] [4, 2, 3] [some [4, 2], some [2, 3]] = .error Err.value := by decide

omit [Zero R] [Neg R] [Lazy.LawfulNeg R] in
/-- **the planner's plan is certified** for every fused input without a window match: positive
    sizes and equal products suffice (no `denseB`); the plan has no unfuse step and is the plan of
    the unfused shape -/
theorem planner_wf_nowin (shape newshape : List Nat) (subsizes : List (Option (List Nat)))
    (hlen : shape.length = subsizes.length) (hnw : noWinB newshape subsizes = true)
    (hpos : ∀ d ∈ shape, 0 < d) (hprod : prod shape = prod newshape)
    (t : List Nat × List (List (List Nat)) × List Nat)
    (h : calcReshapeArgs shape newshape subsizes = .ok t) :
    (Plan.ofTriple t).wfB shape subsizes newshape = true ∧ t.1 = []
      ∧ calcReshapeArgs shape newshape (nones shape) = .ok t := by
  rw [planner_nowin_unfused shape newshape subsizes hlen hnw] at h
  have hu := planner_no_unfuse shape newshape t h
  have hwf := planner_wf_of_prod shape newshape (nones shape) (nones_length shape).symm (denseB_nones shape)
    hpos hprod t h
  exact ⟨wfB_subs_irrelevant shape newshape _ _ (nones_length shape).symm hlen t hu hwf, hu, h⟩

omit [Lazy.LawfulNeg R] in
/-- **the first clause, any valid array with fused axes** (abelian or fermionic, dense or sparse):
    content up to signs, valid, requested number of axes, same kind -/
theorem reshape_content_fused (a r : Arr R) (ns full : List Int) (nsN : List Nat)
    (t : List Nat × List (List (List Nat)) × List Nat) (hv : a.validB = true)
    (hnw : noWinB nsN a.subsizes = true) (hpos : ∀ d ∈ a.shape, 0 < d)
    (hprod : prod a.shape = prod nsN)
    (h1 : findFullReshape ns a.size = .ok full)
    (h2 : full.mapM (fun (d : Int) => if d < 0 then (throw Err.notimpl : Except Err Nat) else pure d.toNat)
      = .ok nsN)
    (h3 : calcReshapeArgs a.shape nsN a.subsizes = .ok t)
    (h : reshapeArr a ns = .ok r) :
    SameAbs a r ∧ r.validB = true ∧ r.ndim = nsN.length ∧ r.fermi = a.fermi :=
  reshapeArr_abs a r ns full nsN t hv h1 h2 h3
    (planner_wf_nowin a.shape nsN a.subsizes (shape_subsizes_length a) hnw hpos hprod t h3).1 h

omit [Lazy.LawfulNeg R] in
/-- **the first clause, abelian arrays with fused axes**: exact content, valid, requested number of
    axes, no axis larger than requested -/
theorem reshape_content_abelian_fused (a r : Arr R) (ns full : List Int) (nsN : List Nat)
    (t : List Nat × List (List (List Nat)) × List Nat) (hv : a.validB = true) (hf : a.fermi = false)
    (hnw : noWinB nsN a.subsizes = true) (hpos : ∀ d ∈ a.shape, 0 < d)
    (hprod : prod a.shape = prod nsN)
    (h1 : findFullReshape ns a.size = .ok full)
    (h2 : full.mapM (fun (d : Int) => if d < 0 then (throw Err.notimpl : Except Err Nat) else pure d.toNat)
      = .ok nsN)
    (h3 : calcReshapeArgs a.shape nsN a.subsizes = .ok t)
    (h : reshapeArr a ns = .ok r) :
    SameContent a r ∧ r.validB = true ∧ r.ndim = nsN.length
      ∧ List.Forall₂ (fun (d' d : Nat) => d' ≤ d) r.shape nsN :=
  reshape_axes_count a r ns full nsN t hv hf h1 h2 h3
    (planner_wf_nowin a.shape nsN a.subsizes (shape_subsizes_length a) hnw hpos hprod t h3).1 h

/-- **fermionic plan of several fuse calls, element by element** (`_partial`: along stored
    intermediate addresses, see the header).
    For every stored block `ns` of `y` and every `i` in its box:
    `reshape_forward_elem_fermionic_calls` (C07i). -/
theorem reshape_forward_elem_fermionic_calls_partial (a : Arr R) (calls : List (List (List Nat)))
    (hv : a.validB = true) (hf : a.fermi = true) (hc : CallsOk calls 0 a.ndim) :
    ∃ y, applyPlan a ([], calls, []) = .ok y ∧ y.validB = true ∧ y.fermi = true
      ∧ ElemChain a calls 0 y
      ∧ ∀ ns i s o σ, Pulled a calls 0 y ns i s o σ → y.elem ns i = Lazy.sgnI σ (a.elem s o) := by
  obtain ⟨y, hy, hvy, hfy, hch⟩ := elem_chain calls a 0 hv hf hc
  exact ⟨y, by rw [ReshapeI.applyPlan_calls]; exact hy, hvy, hfy, hch, elemChain_value calls a y 0 hch⟩

/-- **fermionic `reshape` to a merge / squeeze target, element by element** — any number of fuse
    calls, fused axes allowed (`_partial` as above)
    (`hpos` is not used by the proof) -/
theorem reshape_forward_elem_fermionic_items_partial (a : Arr R) (hv : a.validB = true)
    (hf : a.fermi = true) (items : List Item) (hshape : a.shape = shapeOf items) (hok : ItemsOk items)
    (hne : targetOf items ≠ []) (hpos : ∀ d ∈ a.shape, 0 < d)
    (hnw1 : noWinB (targetOf items) a.subsizes = true) :
    ∃ t y, calcReshapeArgs a.shape (targetOf items) a.subsizes = .ok t ∧ t.1 = [] ∧ t.2.2 = []
      ∧ reshapeArr a ((targetOf items).map Int.ofNat) = .ok y ∧ y.validB = true ∧ y.fermi = true
      ∧ ElemChain a t.2.1 0 y
      ∧ ∀ ns i s o σ, Pulled a t.2.1 0 y ns i s o σ → y.elem ns i = Lazy.sgnI σ (a.elem s o) := by
  obtain ⟨t, h3, hu, hexp, hc, hr⟩ := ReshapeI.reshape_items_calls a items hshape hok hne
    (ReshapeI.noWinVis_of_noWin _ _ _ (shape_subsizes_length a) hnw1)
  obtain ⟨y, hy, hvy, hfy, hch⟩ := elem_chain t.2.1 a 0 hv hf hc
  exact ⟨t, y, h3, hu, hexp, hr.trans hy, hvy, hfy, hch, elemChain_value t.2.1 a y 0 hch⟩

section Examples
open C05

/-- `exA` (3,3,2) with axes (1,2) fused SPARSELY: shape (3,3), sub-sizes (3,2) -/
def exAfused : Arr Int := match fuseA exA [[1, 2]] with
  | .ok x => x
  | .error _ => exA

/-- the fermionic `exF` (3,3,2) with axes (1,2) fused sparsely -/
def exFfused : Arr Int := match Arr.fuseF exF [[1, 2]] .insert true with
  | .ok x => x
  | .error _ => exF

/-- `exA` with axes (0,1) fused and a size-one axis appended: (d,2,1), the fused axis is KEPT by the
    reshape to (d,2) -/
def exAkept : Arr Int := match fuseA exA [[0, 1]] with
  | .ok x => x.expandDims 2 none none
  | .error _ => exA

/-- shape, sub-sizes, validity and kind of the fused inputs, evaluated once for the examples below -/
theorem exAfused_facts : exAfused.shape = [3, 3] ∧ exAfused.subsizes = [none, some [3, 2]]
    ∧ exAfused.validB = true ∧ exAfused.fermi = false := by decide +kernel
theorem exFfused_facts : exFfused.shape = [3, 3] ∧ exFfused.subsizes = [none, some [3, 2]]
    ∧ exFfused.validB = true ∧ exFfused.fermi = true := by decide +kernel
theorem exAkept_facts : exAkept.shape = [6, 2, 1] ∧ exAkept.subsizes = [some [3, 3], none, none]
    ∧ exAkept.validB = true ∧ exAkept.fermi = false := by decide +kernel

example : exAfused.shape = [3, 3] ∧ exAfused.subsizes = [none, some [3, 2]] ∧ exAfused.validB = true
    ∧ exAfused.fermi = false := exAfused_facts
example : exFfused.shape = [3, 3] ∧ exFfused.subsizes = [none, some [3, 2]] ∧ exFfused.validB = true
    ∧ exFfused.fermi = true := exFfused_facts

-- (3, 3⟨3,2⟩) → (9) → (3, 3⟨3,2⟩): the fused axis is merged (nested fusion) and comes back fused
example :=
  have ⟨hs, hsub, hv, hf⟩ := exAfused_facts
  reshape_mergeDrop_roundtrip_abelian_fused (R := Int) exAfused hv hf [.run [3, 3]] (by decide) hs (by decide)
    (by rw [hsub]; decide) (by rw [hs, hsub]; decide)
example :=
  have ⟨hs, hsub, hv, hf⟩ := exFfused_facts
  reshape_mergeDrop_roundtrip_fermionic_fused (R := Int) exFfused hv hf [.run [3, 3]] (by decide) hs (by decide)
    (by rw [hsub]; decide) (by rw [hs, hsub]; decide)

-- (6⟨3,3⟩, 2, 1) → (6⟨3,3⟩, 2) → back: the sparsely fused axis is KEPT on both ways
example : exAkept.shape = [6, 2, 1] ∧ exAkept.subsizes = [some [3, 3], none, none]
    ∧ shapeOf [.K 6, .K 2, .Sq] = [6, 2, 1] ∧ targetOf [.K 6, .K 2, .Sq] = [6, 2] :=
  ⟨exAkept_facts.1, exAkept_facts.2.1, by decide, by decide⟩
example :=
  have ⟨hs, hsub, hv, hf⟩ := exAkept_facts
  reshape_roundtrip_abelian_fused_items (R := Int) exAkept hv hf [.K 6, .K 2, .Sq] hs (by decide) (by decide)
    (by rw [hs]; decide) (by rw [hsub]; decide) (by rw [hs, hsub]; decide)
-- the first clause on a sparsely fused input (`denseB` fails, `noWinB` holds)
example : denseB exAfused.shape exAfused.subsizes = false := by
  rw [exAfused_facts.1, exAfused_facts.2.1]; decide
example :=
  have ⟨hs, hsub, hv, hf⟩ := exAfused_facts
  reshape_content_abelian_fused (R := Int) exAfused _ [9] [9] [9] _ hv hf (by rw [hsub]; decide)
    (by rw [hs]; decide) (by rw [hs]; decide) rfl rfl rfl rfl
example :=
  have ⟨hs, hsub, hv, _⟩ := exFfused_facts
  reshape_content_fused (R := Int) exFfused _ [-1] [9] [9] _ hv (by rw [hsub]; decide)
    (by rw [hs]; decide) (by rw [hs]; decide) (by decide +kernel) (by decide +kernel) rfl rfl
example := planner_wf_nowin [6, 2, 1] [6, 2] [some [3, 3], none, none] rfl (by decide) (by decide)
  (by decide) _ rfl

/-- `exG` (2,2,2,2) with a size-one axis in the middle: (2,2,1,2,2) → (4,1,4) needs TWO fuse calls -/
def exG5 : Arr Int := exG.expandDims 2 none none

theorem exG5_facts : exG5.shape = [2, 2, 1, 2, 2] ∧ exG5.subsizes = [none, none, none, none, none]
    ∧ exG5.ndim = 5 ∧ exG5.validB = true ∧ exG5.fermi = true := by decide +kernel

example : exG5.shape = [2, 2, 1, 2, 2] ∧ exG5.validB = true ∧ exG5.fermi = true
    ∧ calcReshapeArgs exG5.shape [4, 1, 4] exG5.subsizes = .ok ([], [[[0, 1]], [[2, 3]]], []) := by
  obtain ⟨hs, hsub, _, hv, hf⟩ := exG5_facts
  exact ⟨hs, hv, hf, by rw [hs, hsub]; decide⟩
example :=
  have ⟨hs, hsub, _, hv, hf⟩ := exG5_facts
  reshape_forward_elem_fermionic_items_partial (R := Int) exG5 hv hf [.M 2 [] 2, .K 1, .M 2 [] 2] hs (by decide)
    (by decide) (by rw [hs]; decide) (by rw [hsub]; decide)
example :=
  have ⟨_, _, hn, hv, hf⟩ := exG5_facts
  reshape_forward_elem_fermionic_calls_partial (R := Int) exG5 [[[0, 1]], [[2, 3]]] hv hf
    (callsOk_of_B _ _ _ (by rw [hn]; decide))

theorem ok_of_isOk {α : Type} {e : Except Err α} (d : α)
    (h : (match e with | .ok _ => true | .error _ => false) = true) :
    e = .ok (match e with | .ok x => x | .error _ => d) := by
  cases e with
  | ok x => rfl
  | error _ => cases h

theorem some_of_isSome {α : Type} {o : Option α} (d : α) (h : o.isSome = true) : o = some (o.getD d) := by
  cases o with
  | some x => rfl
  | none => cases h

def exG5y1 : Arr Int := match fuseDispatch exG5 [[0, 1]] with | .ok x => x | .error _ => exG5
def exG5y2 : Arr Int := match fuseDispatch exG5y1 [[2, 3]] with | .ok x => x | .error _ => exG5

/-- the two fuse calls of (2,2,1,2,2) → (4,1,4) succeed and return `exG5y1`, `exG5y2`, valid fermionic
    arrays (by `elem_step`; nothing is evaluated) -/
theorem exG5_call1 : CallOk [[0, 1]] 0 0 exG5.ndim ∧ fuseDispatch exG5 [[0, 1]] = .ok exG5y1
    ∧ exG5y1.validB = true ∧ exG5y1.fermi = true ∧ exG5y1.ndim = 4 := by
  obtain ⟨_, _, hn, hv, hf⟩ := exG5_facts
  have hc : CallOk [[0, 1]] 0 0 exG5.ndim := ⟨by decide, by decide, by decide, by decide, by rw [hn]; decide⟩
  obtain ⟨y1, hy1, hv1, hf1, hn1, _⟩ := elem_step exG5 [[0, 1]] 0 0 hv hf hc
  have e : exG5y1 = y1 := by rw [exG5y1, hy1]
  rw [e]
  exact ⟨hc, hy1, hv1, hf1, by rw [hn1, hn]; rfl⟩
theorem exG5_call2 : CallOk [[2, 3]] 2 1 exG5y1.ndim ∧ fuseDispatch exG5y1 [[2, 3]] = .ok exG5y2
    ∧ exG5y2.ndim = 3 := by
  obtain ⟨_, _, hv, hf, hn⟩ := exG5_call1
  have hc : CallOk [[2, 3]] 2 1 exG5y1.ndim := ⟨by decide, by decide, by decide, by decide, by rw [hn]; decide⟩
  obtain ⟨y2, hy2, _, _, hn2, _⟩ := elem_step exG5y1 [[2, 3]] 2 1 hv hf hc
  have e : exG5y2 = y2 := by rw [exG5y2, hy2]
  rw [e]
  exact ⟨hc, hy2, by rw [hn2, hn]; rfl⟩

-- a pulled-back address through BOTH calls (the `Pulled` hypothesis is satisfiable): the element of
-- the result at sector (1,0,1), offset (1,0,0) is the element of `exG5` at sector (1,0,0,0,1),
-- offset 0, sign +1; both are -9
example : Pulled exG5 [[[0, 1]], [[2, 3]]] 0 exG5y2 [(1, 0), (0, 0), (1, 0)] [1, 0, 0]
      [(1, 0), (0, 0), (0, 0), (0, 0), (1, 0)] [0, 0, 0, 0, 0] 1
    ∧ exG5y2.elem [(1, 0), (0, 0), (1, 0)] [1, 0, 0] = -9
    ∧ exG5.elem [(1, 0), (0, 0), (0, 0), (0, 0), (1, 0)] [0, 0, 0, 0, 0] = -9 := by
  -- what has to be computed, in one evaluation: the two values; per call the block, the box, the split
  -- of the fused coordinate and the fuse sign
  have ⟨e2, e0, b2, x2, p2, σ2, b1, x1, p1, σ1⟩ :
      exG5y2.elem [(1, 0), (0, 0), (1, 0)] [1, 0, 0] = -9
      ∧ exG5.elem [(1, 0), (0, 0), (0, 0), (0, 0), (1, 0)] [0, 0, 0, 0, 0] = -9
      ∧ (alookup exG5y2.blocks [(1, 0), (0, 0), (1, 0)]).isSome = true
      ∧ inBox ((alookup exG5y2.blocks [(1, 0), (0, 0), (1, 0)]).getD default).shape [1, 0, 0] = true
      ∧ splitAddr (exG5y2.indices.getD 2 default) (1, 0) 0 = some ([(0, 0), (1, 0)], [0, 0])
      ∧ fuseSignT exG5y1 [[2, 3]] [(1, 0), (0, 0), (0, 0), (1, 0)] = 1
      ∧ (alookup exG5y1.blocks [(1, 0), (0, 0), (0, 0), (1, 0)]).isSome = true
      ∧ inBox ((alookup exG5y1.blocks [(1, 0), (0, 0), (0, 0), (1, 0)]).getD default).shape [1, 0, 0, 0] = true
      ∧ splitAddr (exG5y1.indices.getD 0 default) (1, 0) 1 = some ([(1, 0), (0, 0)], [0, 0])
      ∧ fuseSignT exG5 [[0, 1]] [(1, 0), (0, 0), (0, 0), (0, 0), (1, 0)] = 1 := by decide +kernel
  refine ⟨?_, e2, e0⟩
  refine ⟨0, exG5y1, [(1, 0), (0, 0), (0, 0), (1, 0)], [1, 0, 0, 0], 1,
    (alookup exG5y1.blocks [(1, 0), (0, 0), (0, 0), (1, 0)]).getD default, [([(1, 0), (0, 0)], [0, 0])],
    exG5_call1.1, exG5_call1.2.1, ?_, ?_⟩
  · refine ⟨2, exG5y2, [(1, 0), (0, 0), (1, 0)], [1, 0, 0], 1,
      (alookup exG5y2.blocks [(1, 0), (0, 0), (1, 0)]).getD default, [([(0, 0), (1, 0)], [0, 0])],
      exG5_call2.1, exG5_call2.2.1, ⟨rfl, rfl, rfl⟩, ?_⟩
    refine ⟨some_of_isSome default b2, x2, rfl, ?_,
      by rw [exG5_call1.2.2.2.2]; rfl, by rw [exG5_call1.2.2.2.2]; rfl, rfl, rfl, by rw [σ2]; rfl⟩
    intro g gaxes hg
    match g with
    | 0 => exact p2
    | g + 1 => simp at hg
  · refine ⟨some_of_isSome default b1, x1, rfl, ?_,
      by rw [exG5_facts.2.2.1]; rfl, by rw [exG5_facts.2.2.1]; rfl, rfl, rfl, by rw [σ1]; rfl⟩
    intro g gaxes hg
    match g with
    | 0 => exact p1
    | g + 1 => simp at hg

end Examples

end SymmModel.C07
