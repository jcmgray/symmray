/-
  Property C11 (fifth part) — reconstruction through `tensordot` in EVERY contraction mode, and
  `solve` with a labelled matrix.

  1. Fermionic arrays, `Arr.tensordotF` = `tensordot_fermionic(q, r, axes=([1],[0]), mode=…)`
     (what `sr.tensordot(q, r, 1)` does; C11/C11c go through `q @ r` = `Arr.matmulF`).
     `tensordot_fermionic` puts the bond flip on the SMALLER operand (`a.size <= b.size`), `@` always
     on the right one; the theorems hold for both branches because they are proved from the value
     semantics of the contraction (C03, collected for every mode in `DecompP.tensordotF_all_modes`): the
     graded sign of the single aligned sector pair is `-1` exactly on the sectors where
     `qr_fermionic` / `svd_fermionic` stored a pending `-1` on the right factor
     (`Recon2P.gradedSign_matrices`, `Recon3P.Pair.elemB`).
     In blockwise mode the result IS `x` (`*_tensordotF`); in any mode (`*_tensordotF_any_mode`;
     fused, auto by C06d) it has `x`'s element at every address of `x` that lies in the result's
     own block (C11f's `*_all_modes` theorems drop that premise).
     Any valid fermionic matrix, any pending signs, any sorted label list (`SortedLabels`), every
     symmetry; scalars `[AddCommMonoid R] [Mul R] [Neg R] [SignRing R]` (+ `0·x = x·0 = 0` for
     fused/auto); instances `Int`, `GRat` (`C03.signRingGRat`).
  2. Abelian arrays, fused / auto mode: `svd_reconstructs_fused` (the qr case is C11d), from
     `C11.tdotA_factors_modes` (Props/C11d.lean; any shape-correct factor pair; `U·diag(s)` is one).
  3. `solve` with a matrix that carries labels itself: `solve_fermionic` gives the solution the
     labels of `b` ONLY (`b.copy_with`), so `a @ x` carries the sorted merge of `a`'s and `b`'s
     labels and the label-sort sign.  `solve_solves_fermionic_labelled`: the values are `± b`
     (`±` = the sign `mergeOddpos` returns) — all that can be said; `solve_labelled_matrix_not_b`:
     a valid even `a` with two labels for which `a @ solve(a,b)` has three labels and the value
     view `-b`.  So "`a @ solve(a, b) = b`" needs `a.oddpos = []` (C11b/C11c), as stated there.
-/
import SymmModel.Proofs.Recon2Modes
import SymmModel.Proofs.ReconSolve

namespace SymmModel.C11
open SymmModel LinalgLemmas ReconP Recon2P

variable {R : Type}

section fermi
variable [AddCommMonoid R] [Mul R] [Neg R] [GradedP.SignRing R]

/-- **qr_reconstructs_tensordotF.**  `tensordot_fermionic(q, r, ([1],[0]), mode="blockwise")` of
    the qr factors of a valid fermionic matrix `x` (sorted labels, any pending signs) succeeds and
    is `x`: labels, no pending sign, the same sectors in the same order, the block shapes `x`'s
    index tables give, and `x`'s element at every address. -/
theorem qr_reconstructs_tensordotF (K : Kernels R) (hK : K.ShapeOk) (hC : K.QRContract) (x : Arr R)
    (hv : x.validB = true) (h2 : x.ndim = 2) (hf : x.fermi = true)
    (hlab : SortedLabels x.oddpos) :
    ∃ q r c, qrA K x = .ok (q, r) ∧ q.tensordotF r (.pair [1] [0]) .blockwise = .ok c
      ∧ c.oddpos = x.oddpos ∧ c.phases = [] ∧ c.sectors = x.sectors
      ∧ (∀ p ∈ c.blocks, p.2.shape = Arr.blockShapeD x.indices p.1)
      ∧ ∀ s off, AddrOf x s off → c.elem s off = x.elem s off := by
  obtain ⟨c, h⟩ := tdotF_recon_blockwise (L := fun b => (K.qr b).1) (Rt := fun b => (K.qr b).2)
    hv h2 hf hlab (facShape_qr hK) hC
  exact ⟨_, _, c, qrA_eq K hv h2, h⟩

omit [Neg R] [GradedP.SignRing R] in
theorem svd_fold (K : Kernels R) (hK : K.ShapeOk) (hC : K.SVDContract) :
    ∀ b m n, b.shape = [m, n] → b.wf = true → ∀ i j, i < m → j < n →
      (List.range (min m n)).foldl
        (fun acc t => acc + (usOf K b).get [i, t] * (K.svd b).2.2.get [t, j]) 0 = b.get [i, j] := by
  exact svd_reproduces hK hC

/-- **svd_reconstructs_tensordotF.**  Likewise
    `tensordot_fermionic(U.multiply_diagonal(s, 1), VH, ([1],[0]), mode="blockwise")` is `x`. -/
theorem svd_reconstructs_tensordotF (K : Kernels R) (hK : K.ShapeOk) (hC : K.SVDContract)
    (x : Arr R) (hv : x.validB = true) (h2 : x.ndim = 2) (hf : x.fermi = true)
    (hlab : SortedLabels x.oddpos) :
    ∃ u s vh c, svdA K x = .ok (u, s, vh)
      ∧ (multiplyDiagonal u s 1).tensordotF vh (.pair [1] [0]) .blockwise = .ok c
      ∧ c.oddpos = x.oddpos ∧ c.phases = [] ∧ c.sectors = x.sectors
      ∧ (∀ p ∈ c.blocks, p.2.shape = Arr.blockShapeD x.indices p.1)
      ∧ ∀ sec off, AddrOf x sec off → c.elem sec off = x.elem sec off := by
  obtain ⟨c, h⟩ := tdotF_recon_blockwise (L := usOf K) (Rt := fun b => (K.svd b).2.2)
    hv h2 hf hlab (facShape_us hK) (svd_fold K hK hC)
  refine ⟨_, _, _, c, svdA_eq K hv h2, ?_⟩
  rw [multiplyDiagonal_us K hv h2, ← rightF_us K x]
  exact h

/-- **qr_reconstructs_tensordotF_any_mode.**  For `mode ∈ {blockwise, fused, auto}`:
    `tensordot_fermionic(q, r, ([1],[0]), mode)` succeeds, carries `x`'s labels, stores every sector
    of `x`, and has `x`'s element (pending signs on both sides included) at every address of `x`
    inside a stored block of the result. -/
theorem qr_reconstructs_tensordotF_any_mode (hz1 : ∀ x : R, 0 * x = 0) (hz2 : ∀ x : R, x * 0 = 0)
    (K : Kernels R) (hK : K.ShapeOk) (hC : K.QRContract) (x : Arr R)
    (hv : x.validB = true) (h2 : x.ndim = 2) (hf : x.fermi = true)
    (hlab : SortedLabels x.oddpos) (mode : TdotMode) :
    ∃ q r c, qrA K x = .ok (q, r) ∧ q.tensordotF r (.pair [1] [0]) mode = .ok c
      ∧ c.oddpos = x.oddpos ∧ (∀ s ∈ x.sectors, s ∈ c.sectors)
      ∧ ∀ s V, alookup c.blocks s = some V → ∀ off, inBox V.shape off = true → AddrOf x s off →
          c.elem s off = x.elem s off := by
  obtain ⟨c, h1, h2', h3, h4, h5⟩ := tdotF_recon_any_mode (L := fun b => (K.qr b).1)
    (Rt := fun b => (K.qr b).2) hz1 hz2 hv h2 hf hlab (facShape_qr hK) hC mode
  exact ⟨_, _, c, qrA_eq K hv h2, h1, h2', h3,
    fun s V hl off hbox _ => h5 s off (by rw [← h4 s V hl]; exact hbox)⟩

theorem svd_reconstructs_tensordotF_any_mode (hz1 : ∀ x : R, 0 * x = 0) (hz2 : ∀ x : R, x * 0 = 0)
    (K : Kernels R) (hK : K.ShapeOk) (hC : K.SVDContract) (x : Arr R)
    (hv : x.validB = true) (h2 : x.ndim = 2) (hf : x.fermi = true)
    (hlab : SortedLabels x.oddpos) (mode : TdotMode) :
    ∃ u s vh c, svdA K x = .ok (u, s, vh)
      ∧ (multiplyDiagonal u s 1).tensordotF vh (.pair [1] [0]) mode = .ok c
      ∧ c.oddpos = x.oddpos ∧ (∀ sec ∈ x.sectors, sec ∈ c.sectors)
      ∧ ∀ sec V, alookup c.blocks sec = some V → ∀ off, inBox V.shape off = true →
          AddrOf x sec off → c.elem sec off = x.elem sec off := by
  obtain ⟨c, h1, h2', h3, h4, h5⟩ := tdotF_recon_any_mode (L := usOf K)
    (Rt := fun b => (K.svd b).2.2) hz1 hz2 hv h2 hf hlab (facShape_us hK) (svd_fold K hK hC) mode
  refine ⟨_, _, _, c, svdA_eq K hv h2, ?_, h2', h3,
    fun s V hl off hbox _ => h5 s off (by rw [← h4 s V hl]; exact hbox)⟩
  rw [multiplyDiagonal_us K hv h2, ← rightF_us K x]
  exact h1

end fermi

/-- **svd_reconstructs_fused** (abelian).  `tensordot(U.multiply_diagonal(s,1), VH, ([1],[0]))` in
    `mode="fused"` and `mode="auto"` (the same result) succeeds for a valid abelian matrix with at
    least one block, stores every sector of `x`, and at every address of `x` inside a stored block
    of the result has `x`'s element. -/
theorem svd_reconstructs_fused [AddCommMonoid R] [Mul R] [Neg R]
    (hz1 : ∀ x : R, 0 * x = 0) (hz2 : ∀ x : R, x * 0 = 0) (K : Kernels R) (hK : K.ShapeOk)
    (hC : K.SVDContract) (x : Arr R) (hv : x.validB = true) (h2 : x.ndim = 2)
    (hf : x.fermi = false) (hne : x.blocks ≠ []) :
    ∃ u s vh c, svdA K x = .ok (u, s, vh)
      ∧ tensordotA (multiplyDiagonal u s 1) vh (.pair [1] [0]) .fused = .ok c
      ∧ tensordotA (multiplyDiagonal u s 1) vh (.pair [1] [0]) .auto = .ok c
      ∧ (∀ sec ∈ x.sectors, sec ∈ c.sectors)
      ∧ ∀ sec V, alookup c.blocks sec = some V → ∀ off, inBox V.shape off = true →
          AddrOf x sec off → c.elem sec off = x.elem sec off := by
  obtain ⟨c, e1, e2, hsec, hval⟩ := tdotA_factors_modes (L := usOf K)
    (Rt := fun b => (K.svd b).2.2) hz1 hz2 hv h2 hf hne (facShape_us hK)
  refine ⟨_, _, _, c, svdA_eq K hv h2, ?_, ?_, hsec, ?_⟩
  · rw [multiplyDiagonal_us K hv h2, ← rightF_us K x]; exact e1
  · rw [multiplyDiagonal_us K hv h2, ← rightF_us K x]; exact e2
  · intro sec V hl off hbox ha
    rw [hval sec V hl off hbox]
    have := svd_recon hK hC hv h2 hf sec off ha
    rw [multiplyDiagonal_us K hv h2, ← rightF_us K x] at this
    exact this

/-- **solve_solves_fermionic_labelled.**  `a` a valid fermionic matrix carrying labels of its own
    (even or odd), `b` a valid fermionic vector, all label names distinct, pending signs anywhere.
    The solution `x` inherits `b`'s labels only, so `a @ x` succeeds with the SORTED MERGE `out` of
    the labels of `a` and `b` (a permutation of `a.oddpos ++ b.oddpos`; never `b.oddpos` unless
    `a.oddpos = []`), and its values are `ph · b` where `(out, ph) = mergeOddpos …` is the label
    sort with its sign (`-1` per transposition, and `(-1)^|labels b|` for odd `a`). -/
theorem solve_solves_fermionic_labelled [Zero R] [Add R] [Mul R] [Neg R] [Lazy.LawfulNeg R]
    (K : Kernels R) (hK : K.ShapeOk) (a b x : Arr R) (hva : a.validB = true)
    (hvb : b.validB = true) (hfa : a.fermi = true) (hfb : b.fermi = true)
    (hd : (a.oddpos ++ b.oddpos).Pairwise (fun p q => p.1 ≠ q.1))
    (hS : K.SolvesOn a.phaseSync b.phaseSync) (h : solveA K a b = .ok x) :
    ∃ y out ph, Arr.matmulF a x = .ok y
      ∧ OddposP.mergeOddpos a.parity a.oddpos b.oddpos = .ok (out, ph)
      ∧ x.oddpos = b.oddpos ∧ y.oddpos = out ∧ out.Perm (a.oddpos ++ b.oddpos)
      ∧ out.Pairwise (fun p q => oddLt p q = true) ∧
      ∀ s arr, (s, arr) ∈ a.blocks → [s.getD 0 (0, 0)] ∈ b.sectors →
        ∀ i, i < arr.shape.getD 0 0 →
          y.elem [s.getD 0 (0, 0)] [i] = Lazy.sgnI ph (b.elem [s.getD 0 (0, 0)] [i]) := by
  obtain ⟨T, hm, hTph, hTnd, hTval⟩ :=
    solve_matmulF Lazy.LawfulNeg.neg_zero hK hva hvb hfa hfb hS h
  obtain ⟨out, hperm, hsorted, hmg⟩ := OddposP.mergeOddpos_spec a.parity a.oddpos b.oddpos hd
  rw [hmg] at hm
  have hxo : x.oddpos = b.oddpos := by
    obtain ⟨_, _, hx⟩ := solveA_ok_eq hva h
    rw [hx]
    split
    · rw [(phaseFlip_fields _ [0]).oddpos]; exact (syncB_fields (syncIf a) b).2.2.2.2
    · exact (syncB_fields (syncIf a) b).2.2.2.2
  refine ⟨_, out, _, hm, hmg, hxo, rfl, hperm, hsorted, ?_⟩
  intro s arr hmem hbs i hi
  -- a label-sort sign `-1` is applied to `T` as a global pending sign
  generalize KoszulP.sgn (a.parity.toNat * b.oddpos.length
    + KoszulP.invR OddposP.oddR (a.oddpos ++ b.oddpos)) = ph
  show (if ph == -1 then T.phaseGlobal else T).elem _ _ = _
  by_cases hph : ph = -1
  · subst hph
    rw [if_pos (by decide), Lazy.phaseGlobal_elem T ⟨hTnd, by rw [hTph]; exact Lazy.PhOk.nil⟩,
      hTval s arr hmem hbs i hi, Lazy.sgnI_neg_one]
  · rw [if_neg (by simpa using hph), hTval s arr hmem hbs i hi]
    unfold Lazy.sgnI
    rw [if_neg hph]

open scoped SymmModel.Lazy

example : (∀ x : Int, 0 * x = 0) ∧ (∀ x : Int, x * 0 = 0) ∧ Kernels.trivialFactor.ShapeOk
    ∧ Kernels.trivialFactor.QRContract ∧ Kernels.trivialFactor.SVDContract
    ∧ exF3.validB = true ∧ exF3.ndim = 2 ∧ exF3.fermi = true ∧ SortedLabels exF3.oddpos :=
  ⟨Int.zero_mul, Int.mul_zero, trivialFactor_shapeOk, trivialFactor_qr, trivialFactor_svd,
    by decide, rfl, rfl, sortedLabels_ex⟩

/-- the theorems instantiate at `Int` with the exact kernel `trivialFactor` (class instances
    `AddCommMonoid Int`, `SignRing Int` resolve) -/
example (mode : TdotMode) :=
  qr_reconstructs_tensordotF_any_mode (R := Int) Int.zero_mul Int.mul_zero
    Kernels.trivialFactor trivialFactor_shapeOk trivialFactor_qr exF3 (by decide) rfl rfl
    sortedLabels_ex mode

/-- `exF3` (odd, three labels, a pending sign; `q` is the smaller operand, so `tensordot_fermionic`
    flips `q`): all three modes return `exF3`'s value view, no pending sign, the three labels -/
example : ((qrA Kernels.trivialFactor exF3).toOption.map (fun p =>
      (decide (p.1.size ≤ p.2.size),
       [TdotMode.blockwise, TdotMode.fused, TdotMode.auto].map (fun mode =>
        (p.1.tensordotF p.2 (.pair [1] [0]) mode).toOption.map (fun y =>
          (y.blocks.map (fun q => (q.1, q.2.shape, q.2.data.toList)), y.phases, y.oddpos)))))
    == some (true, List.replicate 3 (some
        ([([(0, 0), (1, 0)], [2, 1], [1, 2]), ([(1, 0), (2, 0)], [1, 3], [-3, -4, -5])], [],
         [(7, true), (2, false), (5, false)])))) = true := by decide +kernel

/-- a TALL odd matrix (blocks `3 × 1`, `2 × 1`): `q` is the larger operand, `tensordot_fermionic`
    flips `r` — the other branch -/
def exTall : Arr Int :=
  { sym := .U1, fermi := true, charge := (1, 0),
    indices := [Index.mk [((0, 0), 3), ((1, 0), 2)] true none,
                Index.mk [((1, 0), 1), ((2, 0), 1)] false none],
    blocks := [([(0, 0), (1, 0)], ⟨[3, 1], #[1, 2, 3]⟩), ([(1, 0), (2, 0)], ⟨[2, 1], #[4, 5]⟩)],
    phases := [([(0, 0), (1, 0)], -1)],
    oddpos := [(7, true), (2, false), (5, false)] }

example : exTall.validB = true ∧ SortedLabels exTall.oddpos := ⟨by decide, sortedLabels_ex⟩

example : ((qrA Kernels.trivialFactor exTall).toOption.map (fun p =>
      (decide (p.1.size ≤ p.2.size),
       [TdotMode.blockwise, TdotMode.fused, TdotMode.auto].map (fun mode =>
        (p.1.tensordotF p.2 (.pair [1] [0]) mode).toOption.map (fun y =>
          (y.blocks.map (fun q => (q.1, q.2.shape, q.2.data.toList)), y.phases, y.oddpos)))))
    == some (false, List.replicate 3 (some
        ([([(0, 0), (1, 0)], [3, 1], [-1, -2, -3]), ([(1, 0), (2, 0)], [2, 1], [4, 5])], [],
         [(7, true), (2, false), (5, false)])))) = true := by decide +kernel

/-- svd of `exT` through `tensordot_fermionic`, three modes -/
example : ((svdA Kernels.trivialFactor exT).toOption.map (fun p =>
      [TdotMode.blockwise, TdotMode.fused, TdotMode.auto].map (fun mode =>
        ((multiplyDiagonal p.1 p.2.1 1).tensordotF p.2.2 (.pair [1] [0]) mode).toOption.map (fun y =>
          (y.blocks.map (fun q => (q.1, q.2.data.toList)), y.phases, y.oddpos))))
    == some (List.replicate 3 (some
        ([([(0, 0), (1, 0)], [1, 2, 3, 4]), ([(1, 0), (2, 0)], [-5, -6, -7, -8])], [],
         [(7, true), (2, false), (5, false)])))) = true := by decide +kernel

/-- abelian svd of `exM`, fused / auto / blockwise -/
example : ((svdA Kernels.trivialFactor exM).toOption.map (fun p =>
      [TdotMode.fused, TdotMode.auto, TdotMode.blockwise].map (fun mode =>
        (tensordotA (multiplyDiagonal p.1 p.2.1 1) p.2.2 (.pair [1] [0]) mode).toOption.map (fun c =>
          c.blocks.map (fun q => (q.1, q.2.shape, q.2.data.toList)))))
    == some (List.replicate 3 (some
        [([(0, 0), (-1, 0)], [2, 1], [1, 2]), ([(1, 0), (0, 0)], [1, 3], [3, 4, 5])]))) = true := by
  decide +kernel

/-- `C11.exSa` (even, identity blocks) carrying two labels of its own -/
def exSaL : Arr Int := { exSa with oddpos := [(5, false), (9, false)] }

/-- **solve_labelled_matrix_not_b.**  Every hypothesis of `solve_solves_fermionic` /
    `_labels` except `a.oddpos = []` holds for `exSaL`, `exSb` (label `7`): `solve` succeeds with a
    valid solution carrying `b`'s label, `a @ x` is a valid array with the THREE labels `5 7 9`
    (not `b`'s one) and, the sort `5 9 7 → 5 7 9` being one transposition, a global pending sign:
    its value view is `-b` (`b` has values `-5, -6`; the product stores `-5, -6` with a pending
    `-1`). -/
theorem solve_labelled_matrix_not_b :
    exSaL.validB = true ∧ exSb.validB = true ∧ exSaL.fermi = true ∧ exSb.fermi = true
    ∧ exSaL.parity = false ∧ SortedLabels exSaL.oddpos ∧ SortedLabels exSb.oddpos
    ∧ (exSaL.oddpos ++ exSb.oddpos).Pairwise (fun p q => p.1 ≠ q.1)
    ∧ ((solveA Kernels.solveCopy exSaL exSb).toOption.bind (fun x =>
        (Arr.matmulF exSaL x).toOption.map (fun y =>
          (x.validB, x.oddpos, y.validB, y.blocks.map (fun q => (q.1, q.2.data.toList)), y.phases,
           y.oddpos, exSb.oddpos, y.elem [(1, 0)] [0], exSb.elem [(1, 0)] [0])))
      == some (true, [(7, false)], true, [([(1, 0)], [-5, -6])], [([(1, 0)], -1)],
          [(5, false), (7, false), (9, false)], [(7, false)], 5, -5)) = true := by
  refine ⟨by decide +kernel, by decide +kernel, rfl, rfl, by decide, ?_, ?_, by decide,
    by decide +kernel⟩
  · unfold SortedLabels OddposP.OddSorted OddposP.LabelsDistinct; decide
  · exact sortedLabels_of_short (by decide)

/-- the blocks of `exSa` (and of `exSaL`, which differs in its labels only) are identities: the
    premise of `solveCopy_solvesOn` -/
theorem exSa_eye : ∀ s arr, (s, arr) ∈ exSa.blocks → ∃ n, arr = eyeI n := by
  intro s arr hm
  simp only [exSa, List.mem_cons, List.not_mem_nil, or_false, Prod.mk.injEq] at hm
  rcases hm with ⟨_, rfl⟩ | ⟨_, rfl⟩
  · exact ⟨1, rfl⟩
  · exact ⟨2, rfl⟩

/-- the kernel hypothesis of `solve_solves_fermionic_labelled` holds for that pair too -/
example : Kernels.solveCopy.SolvesOn exSaL.phaseSync exSb.phaseSync := by
  apply solveCopy_solvesOn
  intro s arr hm
  rw [phaseSync_blocks_nil _ rfl] at hm
  exact exSa_eye s arr hm

end SymmModel.C11
