/-
  Property C04 (route independence) — S7 under the WEAK guard on every call, congruence of the
  contraction, and chains of four tensors: all five bracketings agree.
  MODEL: `Arr.tensordotF` (Model/Fermi.lean), `mode = blockwise`; valid fermionic operands of any
  rank, symmetry, sparsity, parity, pending signs; scalars as in C04c/C04d.

  WHY.  C04c/C04d prove S7 for three operands whose bonds satisfy the documented guard
  `contractibleB` (equal charge tables).  An intermediate result has PRUNED tables, so that S7 does not
  apply to it.  Here the first-level guards are weakened to `contractibleCommonB` (C04c:
  opposite directions, equal sizes on the charges both tables list), which intermediate results
  satisfy (`guard_after_left/right`), and validity of a result is proved under that guard
  (`tdotF_valid_common`; only the directions matter).

  Vocabulary (Proofs/Assoc3*.lean, namespace `SymmModel.Assoc3P`):
    `Eqv X X'`   same symmetry, kind, charge, labels, index tables, same SET of stored sectors, and
                 equal values at every offset of every stored block — equality up to block order
                 and up to the split between stored numbers and pending signs (`eqv_def`);
                 an equivalence relation (`eqv_equivalence`) implying equal `to_dense()`
                 (`eqv_toDenseF`);
    `tdF X Y xa xb`  = `X.tensordotF Y (.pair xa xb) .blockwise`.

  `tdotF_assoc_weak` has the conclusion of `C04.tdotF_assoc_labels`.  In `chain4_bracketings` the axis
  lists of `(A(BC))D` and `A((BC)D)` are those of `((AB)C)D` resp. `A(B(CD))`: equivalent
  intermediates have IDENTICAL index tables, hence the same leg positions.
  TOWARDS `n` TENSORS (`segment_assoc`): a chain segment is an array with the positions of the
  legs of its two open bonds (`Seg`); `Seg.comp` contracts the right bond of one segment with the
  left bond of the next and computes the open bonds of the result.  Composition is associative:
  `(S1∘S2)∘S3` and `S1∘(S2∘S3)` both succeed, their arrays are `Eqv`, and their open-bond positions
  are EQUAL lists.
  The statement for arbitrary bracketing trees over a list of `n` tensors is in Props/C04f
  (`chain_bracketing`, `chain_bracketings_agree`, `chain_dense`; induction over trees:
  `Assoc4P.tree_eqv_leftnested`); it uses from here the invariants of a composed segment: validity
  and label permutation (`call_pack`), the guard towards the neighbouring segment
  (`guard_after_left/right`: its open legs are pruned copies of the end tensors' legs), and
  disjointness/range of the two open-bond position lists.
-/
import SymmModel.Proofs.Assoc3Seg
import SymmModel.Props.C04d

namespace SymmModel.C04
open SymmModel SymmModel.GradedP SymmModel.TdotP SymmModel.RoutesP SymmModel.AssocP SymmModel.Assoc3P
open SymmModel.Lazy (sgnI)

variable {R : Type}

theorem eqv_def [Zero R] [Neg R] (X X' : Arr R) :
    Eqv X X' ↔ (X.sym = X'.sym ∧ X.fermi = X'.fermi ∧ X.charge = X'.charge ∧ X.oddpos = X'.oddpos
      ∧ X.indices = X'.indices ∧ (∀ s, s ∈ X.sectors ↔ s ∈ X'.sectors)
      ∧ ∀ (s : Sector) (o : List Nat),
          (s ∈ X.sectors → inBox (Arr.blockShapeD X.indices s) o = true) → X.elem s o = X'.elem s o) :=
  ⟨fun h => ⟨h.sym, h.fermi, h.charge, h.oddpos, h.indices, h.sectors, h.elem⟩,
   fun ⟨a, b, c, d, e, f, g⟩ => ⟨a, b, c, d, e, f, g⟩⟩

theorem eqv_equivalence [Zero R] [Neg R] :
    (∀ X : Arr R, Eqv X X) ∧ (∀ X Y : Arr R, Eqv X Y → Eqv Y X)
      ∧ (∀ X Y Z : Arr R, Eqv X Y → Eqv Y Z → Eqv X Z) :=
  ⟨Eqv.refl, fun _ _ => Eqv.symm, fun _ _ _ => Eqv.trans⟩

theorem eqv_toDenseF [AddCommMonoid R] [Mul R] [Neg R] [SignRing R] {X X' : Arr R} (h : Eqv X X')
    (hv : X.validB = true) : X.toDenseF = X'.toDenseF := h.toDenseF hv

theorem tdotF_valid_common [AddMonoid R] [Mul R] [Neg R] [SignRing R] (a b c : Arr R)
    (xa xb : List Nat)
    (ha : a.validB = true) (hb : b.validB = true) (hfa : a.fermi = true) (hfb : b.fermi = true)
    (hadm : tdotAdmissibleCommonB a b xa xb = true)
    (h : tdF a b xa xb = .ok c) : c.validB = true ∧ c.fermi = true := by
  obtain ⟨_, _, C⟩ := Call.of_ok (AdmW.of ha hb hfa hfb hadm) h
  exact ⟨C.valid, C.fermi⟩

/-- the guard of `(A·B, C)` in a chain: from weak guards of `(A, B)` and `(B, C)` -/
theorem guard_after_left [AddCommMonoid R] [Mul R] [Neg R] [SignRing R] [AssocLaws R] (A B C AB : Arr R)
    (xa xb1 xb2 xc : List Nat)
    (hA : A.validB = true) (hB : B.validB = true) (hC : C.validB = true)
    (hfA : A.fermi = true) (hfB : B.fermi = true) (hfC : C.fermi = true)
    (h1 : tdotAdmissibleCommonB A B xa xb1 = true) (h2 : tdotAdmissibleCommonB B C xb2 xc = true)
    (hn : (xb1 ++ xb2).Nodup)
    (hd : (A.oddpos ++ B.oddpos).Pairwise (fun x y => x.1 ≠ y.1))
    (e : tdF A B xa xb1 = .ok AB) :
    tdotAdmissibleCommonB AB C (AssocP.axesAB A.ndim B.ndim xa xb1 xb2) xc = true := by
  have WAB := AdmW.of hA hB hfA hfB h1
  have WBC := AdmW.of hB hC hfB hfC h2
  obtain ⟨Z, ph, eZ, I, _⟩ := call_pack A B xa xb1 WAB hd
  unfold tdF at e
  rw [eZ] at e
  obtain rfl := Except.ok.inj e
  exact admW_toB (TdotP.admW_left_chain_w I.toW WAB WBC (Mid.of hn (by
    intro i hi
    rcases List.mem_append.mp hi with h | h
    · exact WAB.ltB i h
    · exact WBC.ltA i h)))

/-- the guard of `(A, B·C)` in a chain -/
theorem guard_after_right [AddCommMonoid R] [Mul R] [Neg R] [SignRing R] [AssocLaws R] (A B C BC : Arr R)
    (xa xb1 xb2 xc : List Nat)
    (hA : A.validB = true) (hB : B.validB = true) (hC : C.validB = true)
    (hfA : A.fermi = true) (hfB : B.fermi = true) (hfC : C.fermi = true)
    (h1 : tdotAdmissibleCommonB A B xa xb1 = true) (h2 : tdotAdmissibleCommonB B C xb2 xc = true)
    (hn : (xb1 ++ xb2).Nodup)
    (hd : (B.oddpos ++ C.oddpos).Pairwise (fun x y => x.1 ≠ y.1))
    (e : tdF B C xb2 xc = .ok BC) :
    tdotAdmissibleCommonB A BC xa (AssocP.axesBC B.ndim xb1 xb2) = true := by
  have WAB := AdmW.of hA hB hfA hfB h1
  have WBC := AdmW.of hB hC hfB hfC h2
  obtain ⟨Z, ph, eZ, I, _⟩ := call_pack B C xb2 xc WBC hd
  unfold tdF at e
  rw [eZ] at e
  obtain rfl := Except.ok.inj e
  exact admW_toB (TdotP.admW_right_chain_w I.toW WAB (Mid.of hn (by
    intro i hi
    rcases List.mem_append.mp hi with h | h
    · exact WAB.ltB i h
    · exact WBC.ltA i h)))

/-- **S7 in full with the weak guard on all three bonds** (applicable to intermediate results) -/
theorem tdotF_assoc_weak [AddCommMonoid R] [Mul R] [Neg R] [SignRing R] [AssocLaws R]
    (A B C : Arr R) (xa1 xa3 xb1 xb2 xc2 xc3 : List Nat)
    (hA : A.validB = true) (hB : B.validB = true) (hC : C.validB = true)
    (hfA : A.fermi = true) (hfB : B.fermi = true) (hfC : C.fermi = true)
    (h1 : tdotAdmissibleCommonB A B xa1 xb1 = true) (h2 : tdotAdmissibleCommonB B C xb2 xc2 = true)
    (h3 : contractibleCommonB A C xa3 xc3 = true)
    (hnA : (xa1 ++ xa3).Nodup) (hnB : (xb1 ++ xb2).Nodup) (hnC : (xc2 ++ xc3).Nodup)
    (hltA : ∀ i ∈ xa3, i < A.ndim) (hltC : ∀ i ∈ xc3, i < C.ndim)
    (hL : Assoc2P.LabelRoutes A.parity B.parity A.oddpos B.oddpos C.oddpos) :
    ∃ AB BC c1 c2 : Arr R,
      tdF A B xa1 xb1 = .ok AB
      ∧ tdF AB C (Assoc2P.axesAB A.ndim B.ndim xa1 xa3 xb1 xb2) (xc3 ++ xc2) = .ok c1
      ∧ tdF B C xb2 xc2 = .ok BC
      ∧ tdF A BC (xa1 ++ xa3) (Assoc2P.axesBC B.ndim C.ndim xb1 xb2 xc2 xc3) = .ok c2
      ∧ c2.oddpos = c1.oddpos ∧ c2.charge = c1.charge ∧ c2.sym = c1.sym ∧ c2.fermi = c1.fermi
      ∧ (∀ s, s ∈ c1.sectors ↔ ∃ t, Assoc2P.IsTriple A B C xa1 xa3 xb1 xb2 xc2 xc3 s t)
      ∧ (∀ s, s ∈ c2.sectors ↔ s ∈ c1.sectors)
      ∧ c2.indices = c1.indices
      ∧ c1.indices = dropUnused (permuted A.indices (freeAxes A.ndim (xa1 ++ xa3))
          ++ (permuted B.indices (freeAxes B.ndim (xb1 ++ xb2))
            ++ permuted C.indices (freeAxes C.ndim (xc2 ++ xc3)))) c1.sectors
      ∧ ∀ (LA LM LC : Sector) (oA oM oC : List Nat),
          Assoc2P.FreeAddr A B C xa1 xa3 xb1 xb2 xc2 xc3 LA LM LC oA oM oC →
          c2.elem (LA ++ LM ++ LC) (oA ++ oM ++ oC) = c1.elem (LA ++ LM ++ LC) (oA ++ oM ++ oC) :=
  tdotF_assoc_w A B C xa1 xa3 xb1 xb2 xc2 xc3 hA hB hC hfA hfB hfC h1 h2 h3 hnA hnB hnC hltA hltC hL

/-- … as an equivalence of the two results -/
theorem tdotF_assoc_weak_eqv [AddCommMonoid R] [Mul R] [Neg R] [SignRing R] [AssocLaws R]
    (A B C : Arr R) (xa1 xa3 xb1 xb2 xc2 xc3 : List Nat)
    (hA : A.validB = true) (hB : B.validB = true) (hC : C.validB = true)
    (hfA : A.fermi = true) (hfB : B.fermi = true) (hfC : C.fermi = true)
    (h1 : tdotAdmissibleCommonB A B xa1 xb1 = true) (h2 : tdotAdmissibleCommonB B C xb2 xc2 = true)
    (h3 : contractibleCommonB A C xa3 xc3 = true)
    (hnA : (xa1 ++ xa3).Nodup) (hnB : (xb1 ++ xb2).Nodup) (hnC : (xc2 ++ xc3).Nodup)
    (hltA : ∀ i ∈ xa3, i < A.ndim) (hltC : ∀ i ∈ xc3, i < C.ndim)
    (hL : Assoc2P.LabelRoutes A.parity B.parity A.oddpos B.oddpos C.oddpos) :
    ∃ AB BC c1 c2 : Arr R,
      tdF A B xa1 xb1 = .ok AB
      ∧ tdF AB C (Assoc2P.axesAB A.ndim B.ndim xa1 xa3 xb1 xb2) (xc3 ++ xc2) = .ok c1
      ∧ tdF B C xb2 xc2 = .ok BC
      ∧ tdF A BC (xa1 ++ xa3) (Assoc2P.axesBC B.ndim C.ndim xb1 xb2 xc2 xc3) = .ok c2
      ∧ Eqv c2 c1 :=
  assoc_eqv A B C xa1 xa3 xb1 xb2 xc2 xc3 (AdmW.of hA hB hfA hfB h1) (AdmW.of hB hC hfB hfC h2) h3
    hnA hnB hnC hltA hltC hL

/-- **congruence of `tensordotF`**: replacing the operands by equivalent valid arrays gives an
    equivalent result; the call with the replaced operands succeeds. -/
theorem tdotF_congr_eqv [AddCommMonoid R] [Mul R] [Neg R] [SignRing R] (X X' Y Y' Z : Arr R)
    (xa xb : List Nat)
    (hX : X.validB = true) (hY : Y.validB = true) (hfX : X.fermi = true) (hfY : Y.fermi = true)
    (hadm : tdotAdmissibleCommonB X Y xa xb = true)
    (eX : Eqv X X') (eY : Eqv Y Y') (hX' : X'.validB = true) (hY' : Y'.validB = true)
    (e : tdF X Y xa xb = .ok Z) :
    ∃ Z', tdF X' Y' xa xb = .ok Z' ∧ Eqv Z Z' :=
  tdotF_congr (AdmW.of hX hY hfX hfY hadm) eX eY hX' hY' Z e

/-- Composition of chain segments (array + positions of the two open bonds)
    is associative: both bracketings succeed, the arrays are equivalent and the open-bond
    positions coincide. -/
theorem segment_assoc [AddCommMonoid R] [Mul R] [Neg R] [SignRing R] [AssocLaws R] (S1 S2 S3 : Seg R)
    (h1 : S1.arr.validB = true) (h2 : S2.arr.validB = true) (h3 : S3.arr.validB = true)
    (f1 : S1.arr.fermi = true) (f2 : S2.arr.fermi = true) (f3 : S3.arr.fermi = true)
    (g12 : tdotAdmissibleCommonB S1.arr S2.arr S1.r S2.l = true)
    (g23 : tdotAdmissibleCommonB S2.arr S3.arr S2.r S3.l = true)
    (hn1 : (S1.l ++ S1.r).Nodup) (hl1 : ∀ i ∈ S1.l, i < S1.arr.ndim)
    (hn2 : (S2.l ++ S2.r).Nodup)
    (hn3 : (S3.l ++ S3.r).Nodup) (hr3 : ∀ i ∈ S3.r, i < S3.arr.ndim)
    (hd : (S1.arr.oddpos ++ S2.arr.oddpos ++ S3.arr.oddpos).Pairwise (fun x y => x.1 ≠ y.1)) :
    ∃ S12 S23 L Rr : Seg R, S1.comp S2 = .ok S12 ∧ S12.comp S3 = .ok L
      ∧ S2.comp S3 = .ok S23 ∧ S1.comp S23 = .ok Rr
      ∧ Eqv Rr.arr L.arr ∧ Rr.l = L.l ∧ Rr.r = L.r :=
  seg_assoc S1 S2 S3 (AdmW.of h1 h2 f1 f2 g12) (AdmW.of h2 h3 f2 f3 g23) hn1 hl1 hn2 hn3 hr3 hd

theorem seg_comp_def [Zero R] [Add R] [Mul R] [Neg R] (S1 S2 : Seg R) :
    S1.comp S2 = (tdF S1.arr S2.arr S1.r S2.l).map (fun z =>
      ⟨z, positions (freeAxes S1.arr.ndim S1.r) S1.l,
        AssocP.axesAB S1.arr.ndim S2.arr.ndim S1.r S2.l S2.r⟩) := rfl

open SymmModel.C03 in
/-- non-vacuity: the segments `(gA, [], [2])`, `(cB, [0], [2])`, `(cC, [0], [1])` of the chain below -/
example : (([] : List Nat) ++ [2]).Nodup ∧ ([0] ++ [2] : List Nat).Nodup ∧ ([0] ++ [1] : List Nat).Nodup
    ∧ (∀ i ∈ ([] : List Nat), i < gA.ndim) ∧ (∀ i ∈ [1], i < cC.ndim)
    ∧ (gA.oddpos ++ cB.oddpos ++ cC.oddpos).Pairwise (fun x y => x.1 ≠ y.1) := by decide +kernel

/-- Valid fermionic `A, B, C, D` with pairwise-distinct labels, bonds
    `A–B` (`xa ~ xb1`), `B–C` (`xb2 ~ xc1`), `C–D` (`xc2 ~ xd`) under the weak guard, the two bonds
    of `B` and of `C` disjoint.  All calls of the five bracketings succeed and the five results
    `T1 = ((AB)C)D`, `T2 = (A(BC))D`, `T3 = (AB)(CD)`, `T4 = A((BC)D)`, `T5 = A(B(CD))` are
    equivalent (`Eqv`); `T1` is valid. -/
theorem chain4_bracketings [AddCommMonoid R] [Mul R] [Neg R] [SignRing R] [AssocLaws R]
    (A B C D : Arr R) (xa xb1 xb2 xc1 xc2 xd : List Nat)
    (hA : A.validB = true) (hB : B.validB = true) (hC : C.validB = true) (hD : D.validB = true)
    (hfA : A.fermi = true) (hfB : B.fermi = true) (hfC : C.fermi = true) (hfD : D.fermi = true)
    (h1 : tdotAdmissibleCommonB A B xa xb1 = true) (h2 : tdotAdmissibleCommonB B C xb2 xc1 = true)
    (h3 : tdotAdmissibleCommonB C D xc2 xd = true)
    (hnB : (xb1 ++ xb2).Nodup) (hnC : (xc1 ++ xc2).Nodup)
    (hd : (A.oddpos ++ B.oddpos ++ C.oddpos ++ D.oddpos).Pairwise (fun x y => x.1 ≠ y.1)) :
    ∃ AB BC CD ABC1 ABC2 BCD1 BCD2 T1 T2 T3 T4 T5 : Arr R,
      tdF A B xa xb1 = .ok AB ∧ tdF B C xb2 xc1 = .ok BC ∧ tdF C D xc2 xd = .ok CD
      ∧ tdF AB C (AssocP.axesAB A.ndim B.ndim xa xb1 xb2) xc1 = .ok ABC1
      ∧ tdF A BC xa (AssocP.axesBC B.ndim xb1 xb2) = .ok ABC2
      ∧ tdF BC D (AssocP.axesAB B.ndim C.ndim xb2 xc1 xc2) xd = .ok BCD1
      ∧ tdF B CD xb2 (AssocP.axesBC C.ndim xc1 xc2) = .ok BCD2
      ∧ tdF ABC1 D (AssocP.axesAB AB.ndim C.ndim (AssocP.axesAB A.ndim B.ndim xa xb1 xb2) xc1 xc2) xd
          = .ok T1
      ∧ tdF ABC2 D (AssocP.axesAB AB.ndim C.ndim (AssocP.axesAB A.ndim B.ndim xa xb1 xb2) xc1 xc2) xd
          = .ok T2
      ∧ tdF AB CD (AssocP.axesAB A.ndim B.ndim xa xb1 xb2) (AssocP.axesBC C.ndim xc1 xc2) = .ok T3
      ∧ tdF A BCD1 xa (AssocP.axesBC B.ndim xb1 xb2) = .ok T4
      ∧ tdF A BCD2 xa (AssocP.axesBC B.ndim xb1 xb2) = .ok T5
      ∧ Eqv T2 T1 ∧ Eqv T3 T1 ∧ Eqv T4 T1 ∧ Eqv T5 T1 ∧ T1.validB = true :=
  chain4 A B C D xa xb1 xb2 xc1 xc2 xd (AdmW.of hA hB hfA hfB h1) (AdmW.of hB hC hfB hfC h2)
    (AdmW.of hC hD hfC hfD h3) hnB hnC hd

/-- For GIVEN results of the five bracketings: the same `to_dense()`. -/
theorem chain4_dense [AddCommMonoid R] [Mul R] [Neg R] [SignRing R] [AssocLaws R]
    (A B C D AB BC CD ABC1 ABC2 BCD1 BCD2 T1 T2 T3 T4 T5 : Arr R) (xa xb1 xb2 xc1 xc2 xd : List Nat)
    (hA : A.validB = true) (hB : B.validB = true) (hC : C.validB = true) (hD : D.validB = true)
    (hfA : A.fermi = true) (hfB : B.fermi = true) (hfC : C.fermi = true) (hfD : D.fermi = true)
    (h1 : tdotAdmissibleCommonB A B xa xb1 = true) (h2 : tdotAdmissibleCommonB B C xb2 xc1 = true)
    (h3 : tdotAdmissibleCommonB C D xc2 xd = true)
    (hnB : (xb1 ++ xb2).Nodup) (hnC : (xc1 ++ xc2).Nodup)
    (hd : (A.oddpos ++ B.oddpos ++ C.oddpos ++ D.oddpos).Pairwise (fun x y => x.1 ≠ y.1))
    (e1 : tdF A B xa xb1 = .ok AB) (e2 : tdF B C xb2 xc1 = .ok BC) (e3 : tdF C D xc2 xd = .ok CD)
    (e4 : tdF AB C (AssocP.axesAB A.ndim B.ndim xa xb1 xb2) xc1 = .ok ABC1)
    (e5 : tdF A BC xa (AssocP.axesBC B.ndim xb1 xb2) = .ok ABC2)
    (e6 : tdF BC D (AssocP.axesAB B.ndim C.ndim xb2 xc1 xc2) xd = .ok BCD1)
    (e7 : tdF B CD xb2 (AssocP.axesBC C.ndim xc1 xc2) = .ok BCD2)
    (e8 : tdF ABC1 D (AssocP.axesAB AB.ndim C.ndim (AssocP.axesAB A.ndim B.ndim xa xb1 xb2) xc1 xc2) xd
      = .ok T1)
    (e9 : tdF ABC2 D (AssocP.axesAB AB.ndim C.ndim (AssocP.axesAB A.ndim B.ndim xa xb1 xb2) xc1 xc2) xd
      = .ok T2)
    (e10 : tdF AB CD (AssocP.axesAB A.ndim B.ndim xa xb1 xb2) (AssocP.axesBC C.ndim xc1 xc2) = .ok T3)
    (e11 : tdF A BCD1 xa (AssocP.axesBC B.ndim xb1 xb2) = .ok T4)
    (e12 : tdF A BCD2 xa (AssocP.axesBC B.ndim xb1 xb2) = .ok T5) :
    T2.toDenseF = T1.toDenseF ∧ T3.toDenseF = T1.toDenseF ∧ T4.toDenseF = T1.toDenseF
      ∧ T5.toDenseF = T1.toDenseF ∧ T1.oddpos = T5.oddpos ∧ T1.charge = T5.charge
      ∧ T1.indices = T5.indices := by
  obtain ⟨AB', BC', CD', ABC1', ABC2', BCD1', BCD2', T1', T2', T3', T4', T5', d1, d2, d3, d4, d5, d6, d7,
    d8, d9, d10, d11, d12, q2, q3, q4, q5, hv⟩ :=
    chain4_bracketings A B C D xa xb1 xb2 xc1 xc2 xd hA hB hC hD hfA hfB hfC hfD h1 h2 h3 hnB hnC hd
  rw [e1] at d1; obtain rfl := Except.ok.inj d1
  rw [e2] at d2; obtain rfl := Except.ok.inj d2
  rw [e3] at d3; obtain rfl := Except.ok.inj d3
  rw [e4] at d4; obtain rfl := Except.ok.inj d4
  rw [e5] at d5; obtain rfl := Except.ok.inj d5
  rw [e6] at d6; obtain rfl := Except.ok.inj d6
  rw [e7] at d7; obtain rfl := Except.ok.inj d7
  rw [e8] at d8; obtain rfl := Except.ok.inj d8
  rw [e9] at d9; obtain rfl := Except.ok.inj d9
  rw [e10] at d10; obtain rfl := Except.ok.inj d10
  rw [e11] at d11; obtain rfl := Except.ok.inj d11
  rw [e12] at d12; obtain rfl := Except.ok.inj d12
  exact ⟨(q2.symm.toDenseF hv).symm, (q3.symm.toDenseF hv).symm, (q4.symm.toDenseF hv).symm,
    (q5.symm.toDenseF hv).symm, q5.oddpos.symm, q5.charge.symm, q5.indices.symm⟩

/-- `chain4_bracketings` with exactly the instances the driver is compiled with (equivalence of the
    two outermost bracketings and of their dense forms) -/
theorem chain4_GRat (A B C D : Arr GRat) (xa xb1 xb2 xc1 xc2 xd : List Nat)
    (hA : A.validB = true) (hB : B.validB = true) (hC : C.validB = true) (hD : D.validB = true)
    (hfA : A.fermi = true) (hfB : B.fermi = true) (hfC : C.fermi = true) (hfD : D.fermi = true)
    (h1 : tdotAdmissibleCommonB A B xa xb1 = true) (h2 : tdotAdmissibleCommonB B C xb2 xc1 = true)
    (h3 : tdotAdmissibleCommonB C D xc2 xd = true)
    (hnB : (xb1 ++ xb2).Nodup) (hnC : (xc1 ++ xc2).Nodup)
    (hd : (A.oddpos ++ B.oddpos ++ C.oddpos ++ D.oddpos).Pairwise (fun x y => x.1 ≠ y.1)) :
    ∃ AB ABC1 CD BCD2 T1 T5 : Arr GRat,
      @tdF GRat GRat.instZero GRat.instAdd GRat.instMul GRat.instNeg A B xa xb1 = .ok AB
      ∧ @tdF GRat GRat.instZero GRat.instAdd GRat.instMul GRat.instNeg AB C
          (AssocP.axesAB A.ndim B.ndim xa xb1 xb2) xc1 = .ok ABC1
      ∧ @tdF GRat GRat.instZero GRat.instAdd GRat.instMul GRat.instNeg ABC1 D
          (AssocP.axesAB AB.ndim C.ndim (AssocP.axesAB A.ndim B.ndim xa xb1 xb2) xc1 xc2) xd = .ok T1
      ∧ @tdF GRat GRat.instZero GRat.instAdd GRat.instMul GRat.instNeg C D xc2 xd = .ok CD
      ∧ @tdF GRat GRat.instZero GRat.instAdd GRat.instMul GRat.instNeg B CD xb2
          (AssocP.axesBC C.ndim xc1 xc2) = .ok BCD2
      ∧ @tdF GRat GRat.instZero GRat.instAdd GRat.instMul GRat.instNeg A BCD2 xa
          (AssocP.axesBC B.ndim xb1 xb2) = .ok T5
      ∧ @Eqv GRat GRat.instZero GRat.instNeg T5 T1
      ∧ @Arr.toDenseF GRat GRat.instZero GRat.instNeg T5
          = @Arr.toDenseF GRat GRat.instZero GRat.instNeg T1 := by
  obtain ⟨AB, BC, CD, ABC1, ABC2, BCD1, BCD2, T1, T2, T3, T4, T5, d1, d2, d3, d4, d5, d6, d7,
    d8, d9, d10, d11, d12, q2, q3, q4, q5, hv⟩ :=
    @chain4_bracketings GRat C02.addCommMonoidGRat GRat.instMul GRat.instNeg C03.signRingGRat
      assocLawsGRat A B C D xa xb1 xb2 xc1 xc2 xd hA hB hC hD hfA hfB hfC hfD h1 h2 h3 hnB hnC hd
  exact ⟨AB, ABC1, CD, BCD2, T1, T5, d1, d4, d8, d3, d7, d12, q5,
    (@Eqv.toDenseF GRat C02.addCommMonoidGRat GRat.instMul GRat.instNeg C03.signRingGRat _ _ q5.symm
      hv).symm⟩

/-! ## non-vacuity: an odd chain of four with pruned intermediates

`C03.gA[i,k,l]`, `cB[l',k',j]`, `cC[j',m]` (C04c: `B·C` has pruned tables) and `cD[m',n]`: all odd,
pending signs, labels `1`, `3`, `5†`, `7`. -/

open SymmModel.C03 in
def cD : Arr Int :=
  { sym := .Z2, fermi := true, indices := [ixk false, ixi true], charge := (1, 0),
    blocks := [([(0,0),(1,0)], mkB [1,1] 2), ([(1,0),(0,0)], mkB [2,2] (-1))],
    phases := [([(0,0),(1,0)], -1)], oddpos := [(7, false)] }

open SymmModel.C03 in
example : gA.validB = true ∧ cB.validB = true ∧ cC.validB = true ∧ cD.validB = true
    ∧ gA.fermi = true ∧ cB.fermi = true ∧ cC.fermi = true ∧ cD.fermi = true
    ∧ tdotAdmissibleCommonB gA cB [2] [0] = true ∧ tdotAdmissibleCommonB cB cC [2] [0] = true
    ∧ tdotAdmissibleCommonB cC cD [1] [0] = true
    ∧ ([0] ++ [2] : List Nat).Nodup ∧ ([0] ++ [1] : List Nat).Nodup
    ∧ (gA.oddpos ++ cB.oddpos ++ cC.oddpos ++ cD.oddpos).Pairwise (fun x y => x.1 ≠ y.1) := by
  decide +kernel

open SymmModel.C03 in
/-- the intermediate `B·C` does not satisfy the documented guard with `A`, but the weak one -/
example : ValidP.tdotAdmissibleB gA exBC [2] [0] = false
    ∧ tdotAdmissibleCommonB gA exBC [2] [0] = true := by decide +kernel

def exCD : Arr Int := resOf (tdF cC cD [1] [0])
def exABC1 : Arr Int := resOf (tdF exAB cC [3] [0])
open SymmModel.C03 in
def exABC2 : Arr Int := resOf (tdF gA exBC [2] [0])
def exBCD1 : Arr Int := resOf (tdF exBC cD [2] [0])
def exBCD2 : Arr Int := resOf (tdF cB exCD [2] [0])

open SymmModel.C03 in
/-- the axis lists of the statement on this instance, and a sanity instance of the conclusion:
    the five bracketings have the same labels and values (and not all the same stored signs) -/
example :
    AssocP.axesAB gA.ndim cB.ndim [2] [0] [2] = [3] ∧ AssocP.axesBC cB.ndim [0] [2] = [0]
    ∧ AssocP.axesAB cB.ndim cC.ndim [2] [0] [1] = [2] ∧ AssocP.axesBC cC.ndim [0] [1] = [0]
    ∧ AssocP.axesAB exAB.ndim cC.ndim [3] [0] [1] = [3]
    ∧ ([tdF exABC1 cD [3] [0], tdF exABC2 cD [3] [0], tdF exAB exCD [3] [0], tdF gA exBCD1 [2] [0],
        tdF gA exBCD2 [2] [0]].map (fun t =>
          (labelsOf t, elemOf t [(1,0),(0,0),(0,0),(1,0)] [0,0,0,0],
            elemOf t [(0,0),(1,0),(0,0),(1,0)] [1,1,0,0])))
      = List.replicate 5 ([(5, true), (1, false), (3, false), (7, false)], some 140, some 280)
    ∧ (phasesOf (tdF exABC1 cD [3] [0])).length = 2
    ∧ (phasesOf (tdF gA exBCD2 [2] [0])).length = 0 := by decide +kernel

end SymmModel.C04
