import SymmModel.Props.C06All7
import SymmModel.Props.C06i
