/-
  SymmModel.Props.C14d — fourth part of property C14: the heap model tied to the VALUE model on `Arr`.

  (1) the frame theorems at the level users observe: an out-of-place call of ANY operation of both
      tables (and any program of such calls) leaves the DENOTATION of every pre-existing array unchanged.
  (2) `psSem` (heap-side `phase_sync` on block values) is `Arr.phaseSync`; hence the fermionic in-place
      binary operators end at exactly what `Driver/Ops.lean` evaluates for `add / sub / mul` of fermionic
      arrays: `binaryBlockwise fn m a.phaseSync.blocks b.phaseSync.blocks`.
  (3) two more in-place operations end to end: `phase_sync(inplace=True)` denotes `Arr.phaseSync`,
      `multiply_diagonal(v, axis, inplace=True)` denotes `multiplyDiagonal`.
  (4) `_map_blocks` (hence `squeeze`, `expand_dims`), in place and out of place, end to end: block dict
      AND sign dict afterwards represent `Arr.mapBlocks` — the sign entries of stored blocks re-keyed, the
      stale ones discarded (symmray from commit 2f542e3 on) — with no hypothesis on the sign table beyond
      the injective encoding of its sectors.
-/
import SymmModel.Props.C14All2
import SymmModel.Proofs.Heap4Frame
import SymmModel.Proofs.Heap4Sync
import SymmModel.Proofs.Heap4MulDiag
namespace SymmModel.C14
open SymmModel.Heap

theorem frame_denotation_of_same {h h' : Heap} (hs : ∀ i o, h.get? i = some o → h'.get? i = some o)
    (he : BufExt h h') {y : ObjId} {ay : ArrObj} {bo : Dict} {po : Option Dict} (wy : WFArr h y ay bo po)
    (hok : BlocksOK h bo) :
    content h' y = content h y ∧
    ∀ (V : Type) (I : Nat → List V → V) (d : V),
      semContent I d h'.bufs (cont ay bo po) = semContent I d h.bufs (cont ay bo po) := by
  refine ⟨by rw [(wf_of_same hs wy).content, wy.content], ?_⟩
  intro V I d
  simp only [semContent, cont]
  rw [semDict_bufext I d he hok]

/-- **frame, denotation level, any operation given as an `OpSpec`**: a well-formed array `y` that
    existed before an out-of-place call is afterwards the same object with the same content, and — the
    buffer table being append-only — its content has the same denotation under every interpretation -/
theorem spec_frame_denotation (s : OpSpec) (ok : s.OK) (hout : s.targets = []) (h : Heap)
    (operands : List ObjId) (hn : s.arity ≤ operands.length) {y : ObjId} {ay : ArrObj} {bo : Dict}
    {po : Option Dict} (wy : WFArr h y ay bo po) (hok : BlocksOK h bo) :
    content (s.run h operands).1 y = content h y ∧
    ∀ (V : Type) (I : Nat → List V → V) (d : V),
      semContent I d (s.run h operands).1.bufs (cont ay bo po) = semContent I d h.bufs (cont ay bo po) :=
  frame_denotation_of_same (spec_frame_all s ok h operands hn hout) (spec_bufext s h operands) wy hok

/-- … for the first operation table (every operand, every other live array; `inplace` may even be
    `true` for operations that have no in-place form) -/
theorem op_frame_denotation (op : Op) (inplace : Bool) (hout : op.targets inplace = []) (h : Heap)
    (operands : List ObjId) (hn : op.arity ≤ operands.length) {y : ObjId} {ay : ArrObj} {bo : Dict}
    {po : Option Dict} (wy : WFArr h y ay bo po) (hok : BlocksOK h bo) :
    content (op.run inplace h operands).1 y = content h y ∧
    ∀ (V : Type) (I : Nat → List V → V) (d : V),
      semContent I d (op.run inplace h operands).1.bufs (cont ay bo po) =
        semContent I d h.bufs (cont ay bo po) :=
  spec_frame_denotation (op.spec inplace) (op_spec_ok op inplace) hout h operands hn wy hok

/-- … for the second operation table -/
theorem op2_frame_denotation (op : Op2) (h : Heap) (operands : List ObjId) (hn : op.arity ≤ operands.length)
    {y : ObjId} {ay : ArrObj} {bo : Dict} {po : Option Dict} (wy : WFArr h y ay bo po) (hok : BlocksOK h bo) :
    content (op.run h operands).1 y = content h y ∧
    ∀ (V : Type) (I : Nat → List V → V) (d : V),
      semContent I d (op.run h operands).1.bufs (cont ay bo po) = semContent I d h.bufs (cont ay bo po) :=
  spec_frame_denotation op.spec (op2_spec_ok op) rfl h operands hn wy hok

/-- … and for every program of calls of both tables that is only ever asked to modify results of its
    own earlier calls (any length, any sharing, results abused in place) -/
theorem gprog_frame_denotation (cs : List GCall) (h : Heap) (env : Env)
    (hcs : GCallsOwned (List.replicate env.length false) cs) {y : ObjId} {ay : ArrObj} {bo : Dict}
    {po : Option Dict} (wy : WFArr h y ay bo po) (hok : BlocksOK h bo) :
    content (runG cs h env).1 y = content h y ∧
    ∀ (V : Type) (I : Nat → List V → V) (d : V),
      semContent I d (runG cs h env).1.bufs (cont ay bo po) = semContent I d h.bufs (cont ay bo po) :=
  frame_denotation_of_same (gprog_frame cs h env hcs) (runG_bufext cs h env) wy hok

section value
variable {R : Type} [Neg R] (fn : Blk R → Blk R → Blk R) (enc : Sector → Key)
  (I : Nat → List (Blk R) → Blk R) (d : Blk R)

/-- **`x ∘= y`, fermionic, end to end on `Arr`.**  `x`, `y` represent the value-model arrays `A`, `Bv`
    (`Rep`: block dict denotes the blocks, sign dict is the sign table, sectors encoded injectively as
    keys).  If the value model's fermionic binary operation — `binaryBlockwise fn m` on the
    SYNCHRONISED operands, exactly `Driver/Ops.lean`'s `binop` — yields the blocks `bl`, then after the
    in-place call `x`'s block dict denotes `bl`, and so does the block dict of the out-of-place result.
    (The prime: `binaryF_value` of C14c is this statement one level down, on dicts of block values.) -/
theorem binaryF_value' (hI : ∀ a b, I tFn [a, b] = fn a b) (hneg : ∀ v, I tNeg [v] = Blk.negK v)
    (m : Heap.Missing) {h : Heap} {x y : ObjId}
    {a ay : ArrObj} {bd bo : Dict} {pd po : Option Dict} (wx : WFArr h x a bd pd) (wy : WFArr h y ay bo po)
    (hne : y ≠ x) (hdis : ∀ q ∈ dictsOf h y, q ∉ dictsOf h x) (okx : BlocksOK h bd) (oky : BlocksOK h bo)
    (nx : (bd.map (·.1)).Nodup) (ny : (bo.map (·.1)).Nodup)
    {A Bv : Arr R} (rx : Rep enc I d h.bufs (cont a bd pd) A) (ry : Rep enc I d h.bufs (cont ay bo po) Bv)
    {Ss : List Sector} (hinj : InjOn enc Ss)
    (hA : ∀ e ∈ A.blocks, e.1 ∈ Ss) (hAp : ∀ e ∈ A.phases, e.1 ∈ Ss) (hApn : (A.phases.map (·.1)).Nodup)
    (hB : ∀ e ∈ Bv.blocks, e.1 ∈ Ss) (hBp : ∀ e ∈ Bv.phases, e.1 ∈ Ss) (hBpn : (Bv.phases.map (·.1)).Nodup)
    {bl : List (Sector × Blk R)}
    (hres : binaryBlockwise fn m.val A.phaseSync.blocks Bv.phaseSync.blocks = .ok bl) :
    ∃ r c, ((Op.binaryF m).run true h [x, y]).2 = [x] ∧ ((Op.binaryF m).run false h [x, y]).2 = [r] ∧
      content ((Op.binaryF m).run true h [x, y]).1 x = some c ∧
      content ((Op.binaryF m).run false h [x, y]).1 r = some c ∧
      semDict I d ((Op.binaryF m).run true h [x, y]).1.bufs c.blocks = encB enc bl ∧
      semDict I d ((Op.binaryF m).run false h [x, y]).1.bufs c.blocks = encB enc bl := by
  refine binaryF_value fn I d hI m wx wy hne hdis okx oky nx ny ?_
  rw [psSem_rep enc I d hneg rx nx hinj hA hAp hApn, psSem_rep enc I d hneg ry ny hinj hB hBp hBpn,
    binaryBlockwise_enc enc fn m.val hinj _ _ (phaseSync_blocks_keys A hA) (phaseSync_blocks_keys Bv hB), hres]
  rfl

/-- **`x ∘= x`, fermionic, pending signs or not, end to end on `Arr`** (the prime: `binaryF_self_value`
    of C14c is this statement on dicts of block values) -/
theorem binaryF_self_value' (hI : ∀ a b, I tFn [a, b] = fn a b) (hneg : ∀ v, I tNeg [v] = Blk.negK v)
    (m : Heap.Missing) {h : Heap} {x : ObjId} {a : ArrObj} {bd : Dict} {pd : Option Dict}
    (wx : WFArr h x a bd pd) (okx : BlocksOK h bd) (nx : (bd.map (·.1)).Nodup)
    {A : Arr R} (rx : Rep enc I d h.bufs (cont a bd pd) A) {Ss : List Sector} (hinj : InjOn enc Ss)
    (hA : ∀ e ∈ A.blocks, e.1 ∈ Ss) (hAp : ∀ e ∈ A.phases, e.1 ∈ Ss) (hApn : (A.phases.map (·.1)).Nodup)
    {bl : List (Sector × Blk R)}
    (hres : binaryBlockwise fn m.val A.phaseSync.blocks A.phaseSync.blocks = .ok bl) :
    ∃ r ci co, ((Op.binaryF m).run true h [x, x]).2 = [x] ∧ ((Op.binaryF m).run false h [x, x]).2 = [r] ∧
      content ((Op.binaryF m).run true h [x, x]).1 x = some ci ∧
      content ((Op.binaryF m).run false h [x, x]).1 r = some co ∧
      semDict I d ((Op.binaryF m).run true h [x, x]).1.bufs ci.blocks = encB enc bl ∧
      semDict I d ((Op.binaryF m).run false h [x, x]).1.bufs co.blocks = encB enc bl := by
  refine binaryF_self_value fn I d hI m wx okx nx ?_
  rw [psSem_rep enc I d hneg rx nx hinj hA hAp hApn,
    binaryBlockwise_enc enc fn m.val hinj _ _ (phaseSync_blocks_keys A hA) (phaseSync_blocks_keys A hA), hres]
  rfl

/-- **`phase_sync`, in place and out of place, end to end on `Arr`**: afterwards `x` (resp. the new
    object `r`) REPRESENTS `A.phaseSync`: block dict denoting the negated blocks, no pending sign -/
theorem phase_sync_value (hneg : ∀ v, I tNeg [v] = Blk.negK v) {h : Heap} {x : ObjId} {a : ArrObj}
    {bd : Dict} {pd : Option Dict} (wx : WFArr h x a bd pd) (okx : BlocksOK h bd)
    (nx : (bd.map (·.1)).Nodup) {A : Arr R} (rx : Rep enc I d h.bufs (cont a bd pd) A) {Ss : List Sector}
    (hinj : InjOn enc Ss) (hA : ∀ e ∈ A.blocks, e.1 ∈ Ss) (hAp : ∀ e ∈ A.phases, e.1 ∈ Ss)
    (hApn : (A.phases.map (·.1)).Nodup) :
    ∃ r c, (Op.phaseSync.run true h [x]).2 = [x] ∧ (Op.phaseSync.run false h [x]).2 = [r] ∧
      content (Op.phaseSync.run true h [x]).1 x = some c ∧
      content (Op.phaseSync.run false h [x]).1 r = some c ∧
      Rep enc I d (Op.phaseSync.run true h [x]).1.bufs c A.phaseSync ∧
      Rep enc I d (Op.phaseSync.run false h [x]).1.bufs c A.phaseSync ∧
      c.indices = a.indices ∧ c.charge = a.charge ∧ c.oddpos = a.oddpos := by
  obtain ⟨r, c, h1, h2, h3, h4, h5, e'⟩ := inplace_value Op.phaseSync rfl S.phaseSync (fun _ => rfl) wx
  obtain ⟨_, _, sem, hi, hch, hodd, hph⟩ := phaseSync_abs I d h.bufs (cont a bd pd) [] okx
  simp only [List.append_nil] at sem hi hch hodd hph
  rw [← e'] at sem hi hch hodd hph
  have rep : Rep enc I d (Op.phaseSync.run true h [x]).1.bufs c A.phaseSync := by
    refine ⟨?_, ?_⟩
    · rw [sem]; exact psSem_rep enc I d hneg rx nx hinj hA hAp hApn
    · have := psActs_ph (cont a bd pd)
      rw [← hph] at this
      rw [this]; rfl
  exact ⟨r, c, h1, h2, h3, h4, rep, by rw [← h5]; exact rep, hi, hch, hodd⟩

end value

section muldiag
variable {R : Type} [Zero R] [Mul R] (enc : Sector → Key) (encC : Charge → Key)
  (I : Nat → List (Blk R) → Blk R) (d : Blk R)

/-- **`multiply_diagonal`, in place and out of place, end to end on `Arr`**: `x`'s block dict denotes
    the blocks of `A`, the vector `v`'s block dict those of the value-model vector `vv`; `chargeOf` is the
    code's `sector[axis]` on encoded keys; `I tMul` is the broadcast product.  Afterwards the block dict
    of `x` (resp. of the new object `r`) denotes the blocks of `multiplyDiagonal A vv axis`; index table,
    charge, pending signs and `oddpos` are untouched. -/
theorem multiply_diagonal_value (chargeOf : Key → Key) (axis : Nat)
    (hmul : ∀ b w, I tMul [b, w] = b.mulAxisK w axis) {h : Heap} {x v : ObjId} {a av : ArrObj}
    {bd bv : Dict} {pd pv : Option Dict} (wx : WFArr h x a bd pd) (wv : WFArr h v av bv pv) (hne : v ≠ x)
    (hb : av.blocks ∉ dictsOf h x) (hp : ∀ p, av.phases = some p → p ∉ dictsOf h x)
    (okx : BlocksOK h bd) (okv : BlocksOK h bv) (nx : (bd.map (·.1)).Nodup)
    {A : Arr R} {vv : BVec R} (rx : semDict I d h.bufs bd = encB enc A.blocks)
    (rv : semDict I d h.bufs bv = encV encC vv.blocks)
    (hch : ∀ e ∈ A.blocks, chargeOf (enc e.1) = encC (e.1.getD axis (0, 0)))
    {Sc : List Charge} (hinj : InjOnC encC Sc) (hvk : ∀ e ∈ vv.blocks, e.1 ∈ Sc)
    (hlook : ∀ e ∈ A.blocks, e.1.getD axis (0, 0) ∈ Sc) :
    ∃ r c, ((Op.multiplyDiagonal chargeOf).run true h [x, v]).2 = [x] ∧
      ((Op.multiplyDiagonal chargeOf).run false h [x, v]).2 = [r] ∧
      content ((Op.multiplyDiagonal chargeOf).run true h [x, v]).1 x = some c ∧
      content ((Op.multiplyDiagonal chargeOf).run false h [x, v]).1 r = some c ∧
      semDict I d ((Op.multiplyDiagonal chargeOf).run true h [x, v]).1.bufs c.blocks =
        encB enc (multiplyDiagonal A vv axis).blocks ∧
      semDict I d ((Op.multiplyDiagonal chargeOf).run false h [x, v]).1.bufs c.blocks =
        encB enc (multiplyDiagonal A vv axis).blocks ∧
      c.indices = a.indices ∧ c.charge = a.charge ∧ c.phases = pd ∧ c.oddpos = a.oddpos := by
  obtain ⟨r, c, h1, h2, h3, h4, h5, ei⟩ := inplace_value_multiply_diagonal chargeOf wx wv hne hb hp
  rw [multiplyDiagonal_pureV] at ei
  obtain ⟨_, _, sem, hi', hch', hodd, hph⟩ := multiplyDiagonal_abs I d chargeOf (cont a bd pd) h.bufs bv okx okv nx
  have hvb' : ((([Seen.arr (cont av bv pv)] : View).getD 0 Seen.none).toContent.blocks) = bv := rfl
  rw [hvb'] at ei
  rw [← ei] at sem hi' hch' hodd hph
  have semv : semDict I d ((Op.multiplyDiagonal chargeOf).run true h [x, v]).1.bufs c.blocks =
      encB enc (multiplyDiagonal A vv axis).blocks := by
    refine sem.trans ?_
    show mdSem I chargeOf (semDict I d h.bufs bd) (semDict I d h.bufs bv) = _
    rw [rx, rv]
    exact mdSem_enc enc encC I chargeOf axis hmul A vv hch hinj hvk hlook
  exact ⟨r, c, h1, h2, h3, h4, semv, by rw [← h5]; exact semv, hi', hch', hph, hodd⟩

end muldiag

section mapvalue
variable {R : Type} (enc : Sector → Key) (I : Nat → List (Blk R) → Blk R) (d : Blk R)

/-- **`_map_blocks` (always in place), end to end on `Arr`**: `x` represents `A`; the kernel denotes
    `fb`; `fk` is `fs` on the encoded sectors of the stored blocks.  Afterwards `x` REPRESENTS
    `A.mapBlocks fs fb`: new block dict under the re-keyed sectors and — for a fermionic array — the
    sign dict holding exactly the re-keyed entries of the stored blocks (stale entries are discarded,
    as symmray does from commit 2f542e3 on); index table, charge and `oddpos` untouched. -/
theorem map_blocks_value (fs : Sector → Sector) (fb : Blk R → Blk R) (fk : Key → Key) (tag : Nat)
    (hI : ∀ b, I tag [b] = fb b) {h : Heap} {x : ObjId} {a : ArrObj} {bd : Dict} {pd : Option Dict}
    (wx : WFArr h x a bd pd) (okx : BlocksOK h bd) {A : Arr R} (rx : Rep enc I d h.bufs (cont a bd pd) A)
    (hf : A.fermi = pd.isSome) {Ss : List Sector} (hinj : InjOn enc Ss) (hA : ∀ e ∈ A.blocks, e.1 ∈ Ss)
    (hAs : ∀ e ∈ A.blocks, fs e.1 ∈ Ss) (hAk : ∀ e ∈ A.blocks, fk (enc e.1) = enc (fs e.1))
    (hAp : ∀ e ∈ A.phases, e.1 ∈ Ss) :
    ∃ c, ((Op.mapBlocks fk tag).run true h [x]).2 = [x] ∧
      content ((Op.mapBlocks fk tag).run true h [x]).1 x = some c ∧
      Rep enc I d ((Op.mapBlocks fk tag).run true h [x]).1.bufs c (A.mapBlocks fs fb) ∧
      c.indices = a.indices ∧ c.charge = a.charge ∧ c.oddpos = a.oddpos := by
  obtain ⟨c, hr, hc, e'⟩ := script_run_pure (S.mapBlocks fk tag) 0 (env := [x]) (by simp)
    (by simpa [envGet] using wx)
  have hrun : (Op.mapBlocks fk tag).run true h [x] =
      ((((S.mapBlocks fk tag).prog 0 [] .done).run h [x]).1,
        [envGet (((S.mapBlocks fk tag).prog 0 [] .done).run h [x]).2 0]) := rfl
  rw [hrun, hr]
  have rep := mapBlocks_rep enc I d fs fb fk tag hI rx okx hf hinj hA hAs hAk hAp
  rw [← e'] at rep
  have e1 := congrArg Prod.fst e'
  rw [mapBlocks_pure] at e1
  simp only [cont] at e1
  exact ⟨c, rfl, hc, rep, congrArg Content.indices e1, congrArg Content.charge e1,
    congrArg Content.oddpos e1⟩

/-- **`squeeze`, in place and out of place, end to end on `Arr`**: afterwards `x` (resp. the new object
    `r`) REPRESENTS `A.mapBlocks fs fb` — which is what `Arr.squeeze` makes of blocks and sign table —
    under the index table `fi a.indices`; in particular a stale sign entry is never re-keyed onto a
    stored sector.  No hypothesis on the sign table beyond the injective encoding of its sectors. -/
theorem squeeze_value (fs : Sector → Sector) (fb : Blk R → Blk R) (fk : Key → Key) (fi : Nat → Nat)
    (hI : ∀ b, I tSlice [b] = fb b) {h : Heap} {x : ObjId} {a : ArrObj} {bd : Dict} {pd : Option Dict}
    (wx : WFArr h x a bd pd) (okx : BlocksOK h bd) {A : Arr R} (rx : Rep enc I d h.bufs (cont a bd pd) A)
    (hf : A.fermi = pd.isSome) {Ss : List Sector} (hinj : InjOn enc Ss) (hA : ∀ e ∈ A.blocks, e.1 ∈ Ss)
    (hAs : ∀ e ∈ A.blocks, fs e.1 ∈ Ss) (hAk : ∀ e ∈ A.blocks, fk (enc e.1) = enc (fs e.1))
    (hAp : ∀ e ∈ A.phases, e.1 ∈ Ss) :
    ∃ r c, ((Op.squeeze fk fi).run true h [x]).2 = [x] ∧ ((Op.squeeze fk fi).run false h [x]).2 = [r] ∧
      content ((Op.squeeze fk fi).run true h [x]).1 x = some c ∧
      content ((Op.squeeze fk fi).run false h [x]).1 r = some c ∧
      Rep enc I d ((Op.squeeze fk fi).run true h [x]).1.bufs c (A.mapBlocks fs fb) ∧
      Rep enc I d ((Op.squeeze fk fi).run false h [x]).1.bufs c (A.mapBlocks fs fb) ∧
      c.indices = fi a.indices ∧ c.charge = a.charge ∧ c.oddpos = a.oddpos := by
  obtain ⟨r, c, h1, h2, h3, h4, h5, e'⟩ := inplace_value (Op.squeeze fk fi) rfl (S.squeeze fk fi) (fun _ => rfl) wx
  have rep0 := mapBlocks_rep enc I d fs fb fk tSlice hI rx okx hf hinj hA hAs hAk hAp
  rw [squeeze_pure] at e'
  have e1 := congrArg Prod.fst e'
  have e2 := congrArg Prod.snd e'
  simp only at e1 e2
  have rep : Rep enc I d ((Op.squeeze fk fi).run true h [x]).1.bufs c (A.mapBlocks fs fb) := by
    rw [e1, e2]
    exact ⟨rep0.blocks, rep0.phases⟩
  have e3 := e1
  rw [mapBlocks_pure] at e3
  simp only [cont] at e3
  exact ⟨r, c, h1, h2, h3, h4, rep, by rw [← h5]; exact rep, congrArg Content.indices e3,
    congrArg Content.charge e3, congrArg Content.oddpos e3⟩

/-- **`expand_dims`, in place and out of place, end to end on `Arr`** (as `squeeze_value`; the charge
    becomes `fc a.charge`) -/
theorem expand_dims_value (fs : Sector → Sector) (fb : Blk R → Blk R) (e : ExpandP)
    (hI : ∀ b, I tSlice [b] = fb b) {h : Heap} {x : ObjId} {a : ArrObj} {bd : Dict} {pd : Option Dict}
    (wx : WFArr h x a bd pd) (okx : BlocksOK h bd) {A : Arr R} (rx : Rep enc I d h.bufs (cont a bd pd) A)
    (hf : A.fermi = pd.isSome) {Ss : List Sector} (hinj : InjOn enc Ss) (hA : ∀ e ∈ A.blocks, e.1 ∈ Ss)
    (hAs : ∀ e ∈ A.blocks, fs e.1 ∈ Ss) (hAk : ∀ q ∈ A.blocks, e.fk (enc q.1) = enc (fs q.1))
    (hAp : ∀ e ∈ A.phases, e.1 ∈ Ss) :
    ∃ r c, ((Op.expandDims e).run true h [x]).2 = [x] ∧ ((Op.expandDims e).run false h [x]).2 = [r] ∧
      content ((Op.expandDims e).run true h [x]).1 x = some c ∧
      content ((Op.expandDims e).run false h [x]).1 r = some c ∧
      Rep enc I d ((Op.expandDims e).run true h [x]).1.bufs c (A.mapBlocks fs fb) ∧
      Rep enc I d ((Op.expandDims e).run false h [x]).1.bufs c (A.mapBlocks fs fb) ∧
      c.indices = e.fi a.indices ∧ c.charge = e.fc a.charge ∧ c.oddpos = a.oddpos := by
  obtain ⟨r, c, h1, h2, h3, h4, h5, e'⟩ := inplace_value (Op.expandDims e) rfl (S.expandDims e.fk e.fi e.fc) (fun _ => rfl) wx
  have rep0 := mapBlocks_rep enc I d fs fb e.fk tSlice hI rx okx hf hinj hA hAs hAk hAp
  rw [expandDims_pure] at e'
  have e1 := congrArg Prod.fst e'
  have e2 := congrArg Prod.snd e'
  simp only at e1 e2
  have rep : Rep enc I d ((Op.expandDims e).run true h [x]).1.bufs c (A.mapBlocks fs fb) := by
    rw [e1, e2]
    exact ⟨rep0.blocks, rep0.phases⟩
  have e3 := e1
  rw [mapBlocks_pure] at e3
  simp only [cont] at e3
  exact ⟨r, c, h1, h2, h3, h4, rep, by rw [← h5]; exact rep, congrArg Content.indices e3,
    congrArg Content.charge e3, congrArg Content.oddpos e3⟩

end mapvalue

/-- an encoding of the two sectors `[(0,0)]`, `[(1,0)]` as the keys 0, 1 -/
def encEx : Sector → Key := fun s => if s == [(0, 0)] then 0 else 1

example : InjOn encEx [[(0, 0)], [(1, 0)]] := by unfold InjOn; decide

-- one interpretation meets all kernel hypotheses at once (`tNeg`, `tFn`, `tMul`)
example {R : Type} [Zero R] [Mul R] [Neg R] (fn : Blk R → Blk R → Blk R) (axis : Nat) (d : Blk R) :
    ∃ I : Nat → List (Blk R) → Blk R, (∀ v, I tNeg [v] = Blk.negK v) ∧ (∀ a b, I tFn [a, b] = fn a b) ∧
      (∀ b w, I tMul [b, w] = b.mulAxisK w axis) :=
  ⟨fun tag args => match tag, args with
    | 6, [v] => Blk.negK v
    | 8, [a, b] => fn a b
    | 7, [b, w] => b.mulAxisK w axis
    | _, _ => d, fun _ => rfl, fun _ _ => rfl, fun _ _ => rfl⟩

-- the array `x = 2` of `h0` (two blocks, the second with a pending sign) represents a value-model array
example {R : Type} (I : Nat → List (Blk R) → Blk R) (d : Blk R) :
    Rep encEx I d h0.bufs (cont { indices := 5, charge := 1, blocks := 0, phases := some 1, oddpos := 3 }
        [(0, 0), (1, 1)] (some [(1, -1)]))
      { (default : Arr R) with blocks := [([(0, 0)], look I d h0.bufs 0), ([(1, 0)], look I d h0.bufs 1)],
                               phases := [([(1, 0)], -1)] } :=
  ⟨rfl, rfl⟩

-- and the side conditions of `binaryF_self_value'` / `phase_sync_value` hold for it
example : BlocksOK h0 [(0, 0), (1, 1)] ∧ (([(0, 0), (1, 1)] : Dict).map (·.1)).Nodup ∧
    (([([(1, 0)], -1)] : List (Sector × Int)).map (·.1)).Nodup := by
  refine ⟨by unfold BlocksOK DictOK; decide, by decide, by decide⟩

-- `_map_blocks` / `squeeze`: a STALE sign entry (key 1, no block) is discarded, not re-keyed onto the
-- stored sector 0 (`fk` maps every key to 0): symmray before commit 2f542e3 flipped that block's sign
def h1 : Heap :=
  { objs := [.dict [(0, 0)], .dict [(1, -1)],
             .arr { indices := 5, charge := 1, blocks := 0, phases := some 1, oddpos := 3 }],
    bufs := [(0, [])] }

example : (content ((Op.mapBlocks (fun _ => 0) tSlice).run true h1 [2]).1 2).map (·.phases) = some (some []) := by
  decide
example : (content ((Op.squeeze (fun _ => 0) id).run true h1 [2]).1 2).map (·.phases) = some (some []) ∧
    ((Op.squeeze (fun _ => 0) id).run false h1 [2]).2 = [5] ∧
    (content ((Op.squeeze (fun _ => 0) id).run false h1 [2]).1 5).map (·.phases) = some (some []) := by
  decide
-- … while the entry of a stored block is re-keyed with its block
example : (content ((Op.mapBlocks (fun k => k + 7) tSlice).run true h0 [2]).1 2).map
    (fun c => (c.blocks.map (·.1), c.phases)) = some ([7, 8], some [(8, -1)]) := by
  decide

-- the hypotheses of `map_blocks_value` / `squeeze_value` hold for `h1`'s array with a stale entry in
-- the value model's sign table as well
example {R : Type} (I : Nat → List (Blk R) → Blk R) (d : Blk R) :
    Rep encEx I d h1.bufs (cont { indices := 5, charge := 1, blocks := 0, phases := some 1, oddpos := 3 }
        [(0, 0)] (some [(1, -1)]))
      { (default : Arr R) with fermi := true, blocks := [([(0, 0)], look I d h1.bufs 0)],
                               phases := [([(1, 0)], -1)] } :=
  ⟨rfl, rfl⟩

end SymmModel.C14
