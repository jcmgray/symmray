/-
  Property C10, network clause — "the same holds for a whole network conjugated tensor by tensor
  once the dangling legs that were bra-like are sign-flipped (none when all dangling legs are
  ket-like), along every contraction route".

  About the model definitions `Arr.conjF` (default options `phase_permutation=True`,
  `phase_dual=False`), `Arr.phaseFlip`, `Arr.tensordotF` (blockwise mode) of Model/Fermi.lean, for
  a network of TWO valid fermionic arrays `a`, `b` (any ranks, symmetries, sparsity patterns,
  dualness patterns of bond and dangling legs, pending signs, even or odd total charges) sharing
  the bond `xa`/`xb` (`ValidP.tdotAdmissibleB`: same symmetry, contractible, distinct in-range
  axes), each carrying a sorted list of non-dual labels (`NormNet.KetLabels`; e.g. no label or one
  non-dual label, `NormNet.OneKet`, what a freshly created array carries; products of such arrays
  carry several; `validB` forces "odd number of labels iff odd charge"), all labels distinct.

  The bra tensor of a network tensor is what harness/props/c10.py builds:
    `braOf a xa = (a.conj()).phase_flip(*[dangling legs of a that are bra-like])`,
  dangling = not in the bond list `xa`, in increasing order (`braOf_def`).

  Scalars: any `R` with `[AddMonoid R] [Mul R] [Neg R] [Conj R]` and the laws `NormNet.NetLaws`
  (= `Norm.NormLaws` plus `conj (x+y) = conj x + conj y`, `conj (x*y) = conj x * conj y`); no
  commutativity or distributivity.  Instances: `Int` (trivial conjugation), `GRat`
  (`netLaws_GRat`).  `network_norm_halves_any_order_partial` and `halves_bond_order` use `AddCommMonoid` (S4 of C04).

  PROVED
  * `conj_tensordot` — conjugation is a homomorphism of the fermionic contraction: `K = a·b` and
    `Kb = braOf a · braOf b` (same operand order, same axes) both succeed and `Kb` is
    OBSERVATIONALLY EQUAL (symmetry, index tables, charge, labels, stored sectors with block
    shapes, every value) to `K.conj(phase_dual=True)`.  [`bra_pair_sign`: per aligned sector pair,
    label sign × graded sign × the two bra-tensor signs = the `conj(phase_dual=True)` sign of the
    result sector × label sign × graded sign; proof: both calls read off `AssocP.Call`, and a parity
    computation.]
  * `network_norm_halves_partial` — contracting the four tensors along the routes
    `(ā·b̄)·(a·b)` [bra half left] and `(a·b)·(ā·b̄)` [ket half left] gives a rank-0 array without
    labels whose value is `normSq K` resp. `normSq' K` (`Σ conj(v)·v` resp. `Σ v·conj(v)` over the
    stored entries `v` of `K = a·b`; C10b's `normSq`): positive, no stray sign, for every mix of
    parities of `a` and `b`.
  * `network_norm_halves_any_order_partial` — the same with the leg pairs of the final contraction
    listed in any order.
  * `halves_bond_order` — the bond legs may be listed in any order, independently in the two halves.
  * `network_norm_routes_agree_partial` — for commutative `*` both routes give `normSq K`.
  * `norm_conj_labels`, `norm_conj_swapped_labels` — C10b's `norm_conj` for an array carrying any
    sorted list of distinct non-dual labels (`K` above carries two when `a` and `b` are odd).

  NOT COVERED HERE, and where it is:
  * routes that are not "halves first": the tensor-by-tensor routes `((ā·b̄)·a)·b`, `((a·b)·ā)·b̄`, … in C10d
    (under the guard `netFullB`) and C10e (no guard on the index tables: S7 under the weak guard that the
    pruned tables of an intermediate result satisfy); the routes that first contract a ket tensor with its
    own bra tensor (`(ā·a)·(b̄·b)`, `(a·ā)·(b·b̄)`, …) in C10i–C10k;
  * the halves contracted in the OTHER operand order (`b·a` or `b̄·ā`): C10g (S5 as an equivalence of arrays:
    same values, other block order, so C10g works with `Eqv` where this file uses `ObsEq`/`tensordotF_congr`);
  * three tensors in a chain, chains of any length: C10h (`conj_tensordot_spared`: a flip set that spares the
    legs bonding to the next tensor);
  * `mode = fused` / `auto`: C10f, C10h, C10j;
  * operands carrying a dual label: open (for one dual label the single-array norm is already `-Σ|x|²`:
    `C10.norm_conj_dual_label`, known finding `norm-odd-dual-label`).
-/
import SymmModel.Proofs.NormNet6
import SymmModel.Props.C10b
import SymmModel.Props.C03b

namespace SymmModel.C10
open SymmModel Lazy Norm NormNet

section defs
variable {R : Type} [Zero R] [Neg R] [Conj R]

omit [Zero R] [Neg R] in
/-- the bra tensor: `conj()` with the default options, then `phase_flip` of the dangling legs
    (not in the bond list `xa`) that are bra-like on `a`, in increasing order -/
theorem braOf_def (a : Arr R) (xa : List Nat) :
    braOf a xa = (a.conjF).phaseFlip
      ((TdotP.freeAxes a.ndim xa).filter (fun ax => (a.indices.getD ax default).dual)) := rfl

/-- the dangling legs are the complement of the bond list, as the model's `tensordot` computes it -/
theorem dangling_eq (n : Nat) (xa : List Nat) :
    TdotP.freeAxes n xa = without (List.range n) xa := (C03.freeAxes_eq n xa).symm

theorem oneKet_iff (o : List (Int × Bool)) : OneKet o ↔ (o = [] ∨ ∃ l, o = [(l, false)]) := Iff.rfl

theorem ketLabels_iff (o : List (Int × Bool)) :
    KetLabels o ↔ ((∀ x ∈ o, x.2 = false) ∧ o.Pairwise (fun x y => oddLt x y = true)) := Iff.rfl

theorem ketLabels_of_oneKet {o : List (Int × Bool)} (h : OneKet o) : KetLabels o := h.ketLabels

/-- the value view of the bra tensor: conjugate times `braSign` (dangling-leg flips × reversal
    sign × odd-parity global sign) -/
theorem braOf_elem [LawfulNegConj R] (a : Arr R) (xa : List Nat) (h : SignOk a) (s : Sector)
    (off : List Nat) :
    (braOf a xa).elem s off = sgnI (braSign a xa s) (Conj.conj (a.elem s off)) :=
  NormNet.braOf_elem a xa h s off

end defs

variable {R : Type} [AddMonoid R] [Mul R] [Neg R] [Conj R]

/-- per aligned stored sector pair `(sa, sb)`: the label sign `ph'` of the bra contraction, the
    graded sign of the bra pair and the signs of the two bra tensors multiply to the
    `conj(phase_dual=True)` sign of the result sector times the label sign `ph` and graded sign
    of the ket pair (`K`: any array with the symmetry, index directions, parity and label count of
    the ket result) -/
theorem bra_pair_sign {a b K : Arr R} {xa xb : List Nat} (h : RoutesP.Adm a b xa xb)
    (S : List Sector) (hKs : K.sym = a.sym)
    (hKi : K.indices = dropUnused (without a.indices xa ++ without b.indices xb) S)
    (hKp : K.parity = xor a.parity b.parity)
    (hKl : (K.oddpos.length % 2 == 1) = K.parity)
    {sa sb : Sector} (hsa : sa ∈ a.sectors) (hsb : sb ∈ b.sectors)
    (hal : permuted sb xb = permuted sa xa)
    (ph ph' : Int) (hph' : ph' = ph * (if a.parity && b.parity then -1 else 1)) :
    ph' * (GradedP.gradedSign (braOf a xa) (braOf b xb) xa xb sa sb
        * (braSign a xa sa * braSign b xb sb))
      = conjTotSign K true true
          (permuted sa (TdotP.freeAxes a.ndim xa) ++ permuted sb (TdotP.freeAxes b.ndim xb))
          * (ph * GradedP.gradedSign a b xa xb sa sb) :=
  NormNet.bra_pair_sign h S hKs hKi hKp hKl hsa hsb hal ph ph' hph'

/-- **conj_tensordot.**  `K = a·b` and `Kb = braOf a · braOf b` succeed, and `Kb` is observationally
    equal to `K.conj(phase_dual=True)`; `K` is valid with sorted distinct non-dual labels. -/
theorem conj_tensordot [NetLaws R] (a b : Arr R) (xa xb : List Nat)
    (ha : a.validB = true) (hb : b.validB = true) (hfa : a.fermi = true) (hfb : b.fermi = true)
    (hadm : ValidP.tdotAdmissibleB a b xa xb = true)
    (hoA : KetLabels a.oddpos) (hoB : KetLabels b.oddpos)
    (hd : (a.oddpos ++ b.oddpos).Pairwise (fun x y => x.1 ≠ y.1)) :
    ∃ K Kb, a.tensordotF b (.pair (xa.map Int.ofNat) (xb.map Int.ofNat)) .blockwise = .ok K
      ∧ (braOf a xa).tensordotF (braOf b xb) (.pair (xa.map Int.ofNat) (xb.map Int.ofNat)) .blockwise
          = .ok Kb
      ∧ C09.ObsEq Kb (K.conjF true true)
      ∧ K.validB = true ∧ K.fermi = true ∧ Kb.validB = true ∧ Kb.fermi = true
      ∧ (∀ x ∈ K.oddpos, x.2 = false)
      ∧ K.oddpos.Pairwise (fun x y => oddLt x y = true)
      ∧ K.oddpos.Pairwise (fun x y => x.1 ≠ y.1) :=
  NormNet.conj_tensordot a b xa xb ha hb hfa hfb hadm hoA hoB hd

/-- `norm_conj` (C10b) for any sorted list of distinct non-dual labels -/
theorem norm_conj_labels [NormLaws R] {x : Arr R} (hv : x.validB = true) (hf : x.fermi = true)
    (pd : Bool) (hd : pd = true ∨ ∀ ix ∈ x.indices, ix.dual = false)
    (hk : ∀ a ∈ x.oddpos, a.2 = false)
    (hs : x.oddpos.Pairwise (fun a b => oddLt a b = true))
    (hdl : x.oddpos.Pairwise (fun a b => a.1 ≠ b.1)) :
    ∃ r, (x.conjF true pd).tensordotF x (allAxes x.ndim) .blockwise = .ok r ∧ r.ndim = 0
      ∧ r.oddpos = [] ∧ r.elem [] [] = normSq x :=
  norm_left_labels (NormOk.of_valid hv hf) pd hd hk hs hdl

theorem norm_conj_swapped_labels [NormLaws R] {x : Arr R} (hv : x.validB = true)
    (hf : x.fermi = true) (pd : Bool) (hd : pd = true ∨ ∀ ix ∈ x.indices, ix.dual = false)
    (hk : ∀ a ∈ x.oddpos, a.2 = false)
    (hs : x.oddpos.Pairwise (fun a b => oddLt a b = true))
    (hdl : x.oddpos.Pairwise (fun a b => a.1 ≠ b.1)) :
    ∃ r, x.tensordotF (x.conjF true pd) (allAxes x.ndim) .blockwise = .ok r ∧ r.ndim = 0
      ∧ r.oddpos = [] ∧ r.elem [] [] = normSq' x :=
  norm_right_labels (NormOk.of_valid hv hf) pd hd hk hs hdl

/-- nested conjugate label pairs `[l̄ₙ,…,l̄₁,l₁,…,lₙ]` annihilate; the sign is `-1` per pair that
    meets as ket-then-bra -/
theorem resolveScan_nested (w : List (Int × Bool))
    (hs : (Arr.oddposDag w).Pairwise (fun a b => oddLt a b = true))
    (hd : w.Pairwise (fun a b => a.1 ≠ b.1)) (ph : Int) (N : Nat) (hN : 2 * w.length + 2 ≤ N) :
    resolveScan N [] (Arr.oddposDag w ++ w) ph = .ok ([], ph * nestSign w) :=
  NormNet.resolveScan_nested w hs hd ph N hN

/-- **network_norm_halves_partial.**  Two-tensor network, routes "halves first":
    `(ā·b̄)·(a·b) = normSq (a·b)` and `(a·b)·(ā·b̄) = normSq' (a·b)`, rank 0, no labels. -/
theorem network_norm_halves_partial [NetLaws R] (a b : Arr R) (xa xb : List Nat)
    (ha : a.validB = true) (hb : b.validB = true) (hfa : a.fermi = true) (hfb : b.fermi = true)
    (hadm : ValidP.tdotAdmissibleB a b xa xb = true)
    (hoA : KetLabels a.oddpos) (hoB : KetLabels b.oddpos)
    (hd : (a.oddpos ++ b.oddpos).Pairwise (fun x y => x.1 ≠ y.1)) :
    ∃ K Kb r r', a.tensordotF b (.pair (xa.map Int.ofNat) (xb.map Int.ofNat)) .blockwise = .ok K
      ∧ (braOf a xa).tensordotF (braOf b xb) (.pair (xa.map Int.ofNat) (xb.map Int.ofNat)) .blockwise
          = .ok Kb
      ∧ Kb.ndim = K.ndim
      ∧ Kb.tensordotF K (.pair ((List.range K.ndim).map Int.ofNat) ((List.range K.ndim).map Int.ofNat))
          .blockwise = .ok r
      ∧ r.ndim = 0 ∧ r.oddpos = [] ∧ r.elem [] [] = normSq K
      ∧ K.tensordotF Kb (.pair ((List.range K.ndim).map Int.ofNat) ((List.range K.ndim).map Int.ofNat))
          .blockwise = .ok r'
      ∧ r'.ndim = 0 ∧ r'.oddpos = [] ∧ r'.elem [] [] = normSq' K := by
  obtain ⟨K, Kb, r, r', H⟩ := network_norm_halves a b xa xb ha hb hfa hfb hadm hoA hoB hd
  exact ⟨K, Kb, r, r', H.eK, H.eKb, H.nd, H.hr, H.r0.1, H.r0.2.1, H.r0.2.2, H.hr', H.r0'.1,
    H.r0'.2.1, H.r0'.2.2⟩

end SymmModel.C10

namespace SymmModel.C10
open SymmModel Lazy Norm NormNet

/-- the final contraction with its leg pairs listed in any order `π` (S4 of C04) -/
theorem network_norm_halves_any_order_partial {R : Type} [AddCommMonoid R] [Mul R] [Neg R] [Conj R]
    [NetLaws R] (a b : Arr R) (xa xb : List Nat)
    (ha : a.validB = true) (hb : b.validB = true) (hfa : a.fermi = true) (hfb : b.fermi = true)
    (hadm : ValidP.tdotAdmissibleB a b xa xb = true)
    (hoA : KetLabels a.oddpos) (hoB : KetLabels b.oddpos)
    (hd : (a.oddpos ++ b.oddpos).Pairwise (fun x y => x.1 ≠ y.1)) :
    ∃ K Kb r r', a.tensordotF b (.pair (xa.map Int.ofNat) (xb.map Int.ofNat)) .blockwise = .ok K
      ∧ (braOf a xa).tensordotF (braOf b xb) (.pair (xa.map Int.ofNat) (xb.map Int.ofNat)) .blockwise
          = .ok Kb
      ∧ r.ndim = 0 ∧ r.oddpos = [] ∧ r.elem [] [] = normSq K
      ∧ r'.ndim = 0 ∧ r'.oddpos = [] ∧ r'.elem [] [] = normSq' K
      ∧ ∀ π : List Nat, π.Perm (List.range K.ndim) →
          Kb.tensordotF K (.pair (π.map Int.ofNat) (π.map Int.ofNat)) .blockwise = .ok r
          ∧ K.tensordotF Kb (.pair (π.map Int.ofNat) (π.map Int.ofNat)) .blockwise = .ok r' :=
  network_norm_halves_any_order a b xa xb ha hb hfa hfb hadm hoA hoB hd

/-- the bond legs may be listed in any order, independently for the ket and the bra half: the half
    contractions return the identical arrays and the bra tensors do not depend on the order -/
theorem halves_bond_order {R : Type} [AddCommMonoid R] [Mul R] [Neg R] [Conj R] [NetLaws R]
    (a b : Arr R) (xa xb : List Nat)
    (ha : a.validB = true) (hb : b.validB = true) (hfa : a.fermi = true) (hfb : b.fermi = true)
    (hadm : ValidP.tdotAdmissibleB a b xa xb = true) (π : List Nat)
    (hπ : π.Perm (List.range xa.length)) :
    a.tensordotF b (.pair ((permuted xa π).map Int.ofNat) ((permuted xb π).map Int.ofNat)) .blockwise
        = a.tensordotF b (.pair (xa.map Int.ofNat) (xb.map Int.ofNat)) .blockwise
      ∧ (braOf a xa).tensordotF (braOf b xb)
          (.pair ((permuted xa π).map Int.ofNat) ((permuted xb π).map Int.ofNat)) .blockwise
        = (braOf a xa).tensordotF (braOf b xb) (.pair (xa.map Int.ofNat) (xb.map Int.ofNat)) .blockwise
      ∧ braOf a (permuted xa π) = braOf a xa ∧ braOf b (permuted xb π) = braOf b xb := by
  have h := RoutesP.Adm.of ha hb hfa hfb hadm
  have hπb : π.Perm (List.range xb.length) := h.len ▸ hπ
  refine ⟨AssocP.tdotF_axes_perm_eq_w a b xa xb π (.ofAdm h) hπ,
    AssocP.tdotF_axes_perm_eq_w _ _ xa xb π (.ofAdm (braOf_adm h)) hπ, ?_, ?_⟩
  -- `braOf` sees the bond legs only through the set of dangling legs
  · unfold braOf; rw [dangDual_congr a fun x => (RoutesP.permuted_perm xa π hπ).mem_iff]
  · unfold braOf; rw [dangDual_congr b fun x => (RoutesP.permuted_perm xb π hπb).mem_iff]

theorem network_norm_routes_agree_partial {R : Type} [AddMonoid R] [Mul R] [Neg R] [Conj R]
    [NetLaws R] (hc : ∀ x y : R, x * y = y * x) (a b : Arr R) (xa xb : List Nat)
    (ha : a.validB = true) (hb : b.validB = true) (hfa : a.fermi = true) (hfb : b.fermi = true)
    (hadm : ValidP.tdotAdmissibleB a b xa xb = true)
    (hoA : KetLabels a.oddpos) (hoB : KetLabels b.oddpos)
    (hd : (a.oddpos ++ b.oddpos).Pairwise (fun x y => x.1 ≠ y.1)) :
    ∃ K Kb r r', a.tensordotF b (.pair (xa.map Int.ofNat) (xb.map Int.ofNat)) .blockwise = .ok K
      ∧ (braOf a xa).tensordotF (braOf b xb) (.pair (xa.map Int.ofNat) (xb.map Int.ofNat)) .blockwise
          = .ok Kb
      ∧ Kb.tensordotF K (allAxes K.ndim) .blockwise = .ok r
      ∧ K.tensordotF Kb (allAxes K.ndim) .blockwise = .ok r'
      ∧ r.elem [] [] = normSq K ∧ r'.elem [] [] = normSq K := by
  obtain ⟨K, Kb, r, r', H⟩ := network_norm_halves a b xa xb ha hb hfa hfb hadm hoA hoB hd
  exact ⟨K, Kb, r, r', H.eK, H.eKb, H.hr, H.hr', H.r0.2.2, by rw [H.r0'.2.2, normSq'_eq hc]⟩

/-! ## non-vacuity: two odd operands, two charges per leg, pending signs -/

open scoped SymmModel.Lazy

/-- `C03.gA[i,k,l]` (ket, bra, ket; odd; label 1; pending sign) and `C03.gB[l',k',j]` (bra, ket,
    bra; odd; label 3; pending sign) bonded along `l–l'`: two dangling legs each, one bra-like -/
example : C03.gA.validB = true ∧ C03.gB.validB = true ∧ C03.gA.fermi = true ∧ C03.gB.fermi = true
    ∧ ValidP.tdotAdmissibleB C03.gA C03.gB [2] [0] = true
    ∧ C03.gA.parity = true ∧ C03.gB.parity = true
    ∧ C03.gA.phases ≠ [] ∧ C03.gB.phases ≠ []
    ∧ (C03.gA.oddpos ++ C03.gB.oddpos).Pairwise (fun x y => x.1 ≠ y.1) := by decide +kernel

example : OneKet C03.gA.oddpos ∧ OneKet C03.gB.oddpos := ⟨Or.inr ⟨1, rfl⟩, Or.inr ⟨3, rfl⟩⟩
example : KetLabels [(2, false), (5, false), (9, false)] := by unfold KetLabels; decide

/-- the bra tensors flip one dangling leg each -/
example : NormNet.dangDual C03.gA [2] = [1] ∧ NormNet.dangDual C03.gB [0] = [2] := by decide +kernel

example : ∃ K Kb r r', C03.gA.tensordotF C03.gB (.pair [2] [0]) .blockwise = .ok K
    ∧ (braOf C03.gA [2]).tensordotF (braOf C03.gB [0]) (.pair [2] [0]) .blockwise = .ok Kb
    ∧ Kb.tensordotF K (allAxes K.ndim) .blockwise = .ok r
    ∧ K.tensordotF Kb (allAxes K.ndim) .blockwise = .ok r'
    ∧ r.elem [] [] = normSq K ∧ r'.elem [] [] = normSq K :=
  network_norm_routes_agree_partial Int.mul_comm C03.gA C03.gB [2] [0] (by decide +kernel)
    (by decide +kernel) rfl rfl (by decide +kernel) (OneKet.ketLabels (Or.inr ⟨1, rfl⟩)) (OneKet.ketLabels (Or.inr ⟨3, rfl⟩)) (by decide)

theorem ok_map_comp {ε α β γ : Type} {x : Except ε α} {g : α → β} {v : β} (f : β → γ)
    (h : g <$> x = .ok v) : (fun a => f (g a)) <$> x = .ok (f v) := by
  cases x with
  | error e => cases h
  | ok a => exact congrArg (fun w => Except.ok (f w)) (Except.ok.inj h)

/-- `<ψ|ψ>` of the network `gA –[2]/[0]– gB` -/
theorem normSq_gAB :
    normSq <$> C03.gA.tensordotF C03.gB (.pair [2] [0]) .blockwise = .ok 16422 := by decide +kernel

/-- the quantities of a concrete two-tensor network norm: rank, number of sectors and labels of
    `K`, labels of `Kb`, `normSq K`, and value and labels of `Kb·K` and `K·Kb`; a label `(l, dual)` is printed `l, 1/0` (final leg pairs
    listed in the order `π`) -/
def netVals (a b : Arr Int) (xa xb π : List Nat) : List (List Int) :=
  let lab (o : List (Int × Bool)) : List Int := o.flatMap (fun p => [p.1, if p.2 then 1 else 0])
  match a.tensordotF b (.pair (xa.map Int.ofNat) (xb.map Int.ofNat)) .blockwise,
      (braOf a xa).tensordotF (braOf b xb) (.pair (xa.map Int.ofNat) (xb.map Int.ofNat)) .blockwise with
  | .ok K, .ok Kb =>
    match Kb.tensordotF K (.pair ((List.range K.ndim).map Int.ofNat) ((List.range K.ndim).map Int.ofNat))
        .blockwise,
      K.tensordotF Kb (.pair (π.map Int.ofNat) (π.map Int.ofNat)) .blockwise with
    | .ok r, .ok r' =>
      [[K.ndim, K.sectors.length], lab K.oddpos, lab Kb.oddpos, [normSq K], [r.elem [] []],
        lab r.oddpos, [r'.elem [] []], lab r'.oddpos]
    | _, _ => []
  | _, _ => []

/-- on a network covered by `network_norm_halves_any_order_partial`, `netVals` is determined by the
    two halves: only `normSq K` and the frames of `K`, `K̄` have to be evaluated -/
theorem netVals_eq {a b : Arr Int} {xa xb π : List Nat}
    (ha : a.validB = true) (hb : b.validB = true) (hfa : a.fermi = true) (hfb : b.fermi = true)
    (hadm : ValidP.tdotAdmissibleB a b xa xb = true)
    (hoA : KetLabels a.oddpos) (hoB : KetLabels b.oddpos)
    (hd : (a.oddpos ++ b.oddpos).Pairwise (fun x y => x.1 ≠ y.1))
    (hπ : (fun K : Arr Int => decide (π.Perm (List.range K.ndim)))
      <$> a.tensordotF b (.pair (xa.map Int.ofNat) (xb.map Int.ofNat)) .blockwise = .ok true) :
    (fun K Kb : Arr Int =>
        let lab (o : List (Int × Bool)) : List Int := o.flatMap (fun p => [p.1, if p.2 then 1 else 0])
        ([[K.ndim, K.sectors.length], lab K.oddpos, lab Kb.oddpos, [normSq K], [normSq K], [],
          [normSq K], []] : List (List Int)))
      <$> a.tensordotF b (.pair (xa.map Int.ofNat) (xb.map Int.ofNat)) .blockwise
      <*> (braOf a xa).tensordotF (braOf b xb) (.pair (xa.map Int.ofNat) (xb.map Int.ofNat)) .blockwise
      = .ok (netVals a b xa xb π) := by
  obtain ⟨K, Kb, r, r', eK, eKb, -, h3, h4, -, g3, g4, hall⟩ :=
    network_norm_halves_any_order a b xa xb ha hb hfa hfb hadm hoA hoB hd
  rw [eK] at hπ
  have hp : π.Perm (List.range K.ndim) := of_decide_eq_true (Except.ok.inj hπ)
  rw [normSq'_eq Int.mul_comm] at g4
  simp only [netVals, eK, eKb, (hall _ (List.Perm.refl _)).1, (hall π hp).2, h3, h4, g3, g4]
  rfl

/-- the same on the concrete values: `K` has rank 4, 8 sectors, labels `[1, 3]`, and
    `<ψ|ψ> = 16422` along both routes -/
example : netVals C03.gA C03.gB [2] [0] [3, 1, 0, 2]
    = [[4, 8], [1, 0, 3, 0], [3, 1, 1, 1], [16422], [16422], [], [16422], []] :=
  Except.ok.inj ((netVals_eq (by decide +kernel) (by decide +kernel) rfl rfl (by decide +kernel)
    (OneKet.ketLabels (Or.inr ⟨1, rfl⟩)) (OneKet.ketLabels (Or.inr ⟨3, rfl⟩)) (by decide)
    (by decide +kernel)).symm.trans (by decide +kernel))

/-- without the dangling-leg flips the bra half is NOT the conjugate of the ket half: the network
    "norm" comes out wrong (`braOf` replaced by plain `conj()`) -/
theorem network_norm_needs_flips :
    (match C03.gA.tensordotF C03.gB (.pair [2] [0]) .blockwise,
        (C03.gA.conjF).tensordotF (C03.gB.conjF) (.pair [2] [0]) .blockwise with
      | .ok K, .ok Kb =>
        (match Kb.tensordotF K (.pair [0, 1, 2, 3] [0, 1, 2, 3]) .blockwise with
          | .ok r => some (r.elem [] [], normSq K) | .error _ => none)
      | _, _ => none) = some ((6990 : Int), (16422 : Int)) := by decide +kernel

/-- two bond legs, one dangling leg each (the contraction of `C03b`) -/
example : ∃ K Kb r r', C03.gA.tensordotF C03.gB (.pair [1, 2] [1, 0]) .blockwise = .ok K
    ∧ (braOf C03.gA [1, 2]).tensordotF (braOf C03.gB [1, 0]) (.pair [1, 2] [1, 0]) .blockwise = .ok Kb
    ∧ Kb.tensordotF K (allAxes K.ndim) .blockwise = .ok r
    ∧ K.tensordotF Kb (allAxes K.ndim) .blockwise = .ok r'
    ∧ r.elem [] [] = normSq K ∧ r'.elem [] [] = normSq K :=
  network_norm_routes_agree_partial Int.mul_comm C03.gA C03.gB [1, 2] [1, 0] (by decide +kernel)
    (by decide +kernel) rfl rfl (by decide +kernel) (OneKet.ketLabels (Or.inr ⟨1, rfl⟩)) (OneKet.ketLabels (Or.inr ⟨3, rfl⟩)) (by decide)

/-- an operand with THREE labels (`NormNet.exO3`: odd, labels 2, 5, 9, pending sign) against `C03.gA`
    (odd, label 1): `K` carries the four labels `[1, 2, 5, 9]`, `Kb` their conjugates -/
example : ∃ K Kb r r', NormNet.exO3.tensordotF C03.gA (.pair [1] [0]) .blockwise = .ok K
    ∧ (braOf NormNet.exO3 [1]).tensordotF (braOf C03.gA [0]) (.pair [1] [0]) .blockwise = .ok Kb
    ∧ Kb.tensordotF K (allAxes K.ndim) .blockwise = .ok r
    ∧ K.tensordotF Kb (allAxes K.ndim) .blockwise = .ok r'
    ∧ r.elem [] [] = normSq K ∧ r'.elem [] [] = normSq K :=
  network_norm_routes_agree_partial Int.mul_comm NormNet.exO3 C03.gA [1] [0] (by decide +kernel)
    (by decide +kernel) rfl rfl (by decide +kernel) (by unfold KetLabels; decide)
    (OneKet.ketLabels (Or.inr ⟨1, rfl⟩)) (by decide)

example : netVals NormNet.exO3 C03.gA [1] [0] [2, 0, 1]
    = [[3, 4], [1, 0, 2, 0, 5, 0, 9, 0], [9, 1, 5, 1, 2, 1, 1, 1], [1726], [1726], [], [1726], []] :=
  Except.ok.inj ((netVals_eq (by decide +kernel) (by decide +kernel) rfl rfl (by decide +kernel)
    (by unfold KetLabels; decide) (OneKet.ketLabels (Or.inr ⟨1, rfl⟩)) (by decide)
    (by decide +kernel)).symm.trans (by decide +kernel))

/-- the law class is inhabited by the driver's scalar type -/
example : @NetLaws GRat C02.addCommMonoidGRat.toAddMonoid GRat.instMul GRat.instNeg GRat.instConj :=
  netLaws_GRat

end SymmModel.C10
