/- C08g: sparsity management (fill_missing_blocks, drop_missing_blocks, allclose, set_params). -/
import SymmModel.Props.C08All5
import SymmModel.Props.C08g
