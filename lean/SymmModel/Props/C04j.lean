/-
  Property C04, second clause — "several indices contracted at once or one after another": VALUES.
  MODEL: `Arr.tensordotF` (Model/Fermi.lean, `tensordot_fermionic`, blockwise mode) and the single-array
  `Arr.einsumF` (`FermionicArray.einsum`: sort the axes by (output position | traced, label, bra before
  ket), transpose with Koszul signs, synchronise, abelian einsum).  Scalars: `AddCommMonoid`,
  `GradedP.SignRing` (instances `Int`, `GRat`).

  SETTING.  Valid fermionic `a`, `b`; the bond is split as `xa ++ ya ~ xb ++ yb` (weak guard
  `tdotAdmissibleCommonB` on `xa ~ xb` and on the whole bond: same symmetry, opposite directions and
  agreeing sizes on common charges, distinct in-range axes).  `c = a ·_{xa~xb} b`; its legs are the free
  legs of `a` (w.r.t. `xa`) followed by those of `b`.  The remaining pairs `ya[i] ~ yb[i]` sit in `c` at the
  positions `tsPA[i]`, `tsPB[i]`; the canonical einsum labels `tsLhs -> tsRhs` give both legs of pair `i`
  the label `N + i` (`N = rank c`) and every other leg its own position (`two_step_labels_def`).
  `e = c.einsum(tsLhs -> tsRhs)`; `c' = a ·_{xa++ya ~ xb++yb} b`.

  For ANY number of remaining pairs, any positions and order of the axes, any symmetry, sparsity,
  charges, pending signs, labels: the einsum of the intermediate succeeds (`two_step_einsum_succeeds`),
  the axis order `einsumF` transposes the intermediate to is `tsOrder` (`two_step_einsum_order`: traced
  pairs adjacent in front, bra first, then the untraced legs), and `e` agrees with `c'`
  (`two_step_values`, `two_step_values_at`).
  How: `Proofs/TwoStep*.lean` — `einsumF` at element level (`Lazy.einsumF_elem`, the lemma behind C09
  `einsumF_refines_graded`) and `tensordotF` at element level (`AssocP.Call.of_ok` / `AssocP.Inter.elem`,
  behind C04c `tensordotF_refines_graded_common`) reduce both sides to signed sums over stored sector
  pairs and offsets; Fubini and regrouping of the sector pairs (`TwoStepP.two_step_core`), the assembled
  addresses (`mergeIdx_asm`, `asm_ord`), the sign identity (`TwoStepP.two_step_sign`: `koszul_pl` counts
  the odd inversions of the pair block in front of `tsOrder`, the rest is the Koszul block calculus of S7:
  `koszul_two_cross`, `Mid.koszul_right`, `koszul_RR`, `koszul_block_move`), and the characterisation of
  `einOrder` (`einOrder_eq_tsOrder`).
  NOT claimed: equality of the index TABLES of `e` and `c'` — `einsumF` permutes the tables of the
  intermediate (pruned to the sectors of `c`), `tensordotF` prunes to the sectors of `c'`; both are
  prunings of the operands' tables (last clause of `two_step_values`), so `to_dense()` of `e` may be
  larger by all-zero rows; every stored block and every value agrees.  NOT proved: `e.validB` (C01's
  `einsumF_valid` asks for EQUAL charge tables on the traced legs, which pruned tables need not have).
  NOT proved in this file, see Props/C04k.lean and Props/C04l.lean for what is and what stays open: other
  einsum labels than the canonical ones (there: every strictly increasing renaming); fused / auto mode for
  the `tensordotF` calls (there: the one-step call in any mode; the first call stays open); the abelian
  (non-fermionic) analogue (there: as an explicit trace sum, and identified with `einsumA` for strictly
  increasing `ya`).
-/
import SymmModel.Proofs.TwoStepAll
import SymmModel.Props.C03b

namespace SymmModel.C04
open SymmModel SymmModel.GradedP SymmModel.TdotP SymmModel.AssocP SymmModel.TwoStepP

variable {R : Type}

/-- the canonical labels that trace the remaining pairs in the intermediate -/
theorem two_step_labels_def (na nb : Nat) (xa xb ya yb : List Nat) :
    tsN na nb xa xb = (freeAxes na xa).length + (freeAxes nb xb).length
    ∧ tsPA na xa ya = ya.map (fun ax => (indexOf? (freeAxes na xa) ax).getD 0)
    ∧ tsPB na nb xa xb yb
        = yb.map (fun ax => (freeAxes na xa).length + (indexOf? (freeAxes nb xb) ax).getD 0)
    ∧ tsLhs na nb xa xb ya yb = (List.range (tsN na nb xa xb)).map (fun p =>
        match indexOf? (tsPA na xa ya) p with
        | some i => tsN na nb xa xb + i
        | none => match indexOf? (tsPB na nb xa xb yb) p with
          | some i => tsN na nb xa xb + i
          | none => p)
    ∧ tsRhs na nb xa xb ya yb = (List.range (tsN na nb xa xb)).filter (fun p =>
        !(tsPA na xa ya).contains p && !(tsPB na nb xa xb yb).contains p) :=
  ⟨rfl, rfl, rfl, rfl, rfl⟩

/-- the axis order: traced pairs in front, the dual (bra) leg of each pair first, then the rest -/
theorem tsOrder_def (a : Arr R) (nb : Nat) (xa xb ya yb : List Nat) :
    tsOrder a nb xa xb ya yb
      = ((List.range ya.length).flatMap (fun i =>
          if (a.indices.getD (ya.getD i 0) default).dual
          then [(tsPA a.ndim xa ya).getD i 0, (tsPB a.ndim nb xa xb yb).getD i 0]
          else [(tsPB a.ndim nb xa xb yb).getD i 0, (tsPA a.ndim xa ya).getD i 0]))
        ++ tsRhs a.ndim nb xa xb ya yb := rfl

/-- `ix'` is `ix` with some charges dropped from its table -/
theorem pruned_def (ix' ix : Index) :
    Pruned ix' ix ↔ (ix'.dual = ix.dual ∧ ∃ f : Charge → Bool, ix'.cm = ix.cm.filter (fun p => f p.1)) :=
  Iff.rfl

theorem two_step_einsum_succeeds [AddCommMonoid R] [Mul R] [Neg R] [SignRing R]
    (a b c c' : Arr R) (xa xb ya yb : List Nat)
    (ha : a.validB = true) (hb : b.validB = true) (hfa : a.fermi = true) (hfb : b.fermi = true)
    (g1 : tdotAdmissibleCommonB a b xa xb = true)
    (g2 : tdotAdmissibleCommonB a b (xa ++ ya) (xb ++ yb) = true)
    (h1 : a.tensordotF b (.pair (xa.map Int.ofNat) (xb.map Int.ofNat)) .blockwise = .ok c)
    (h3 : a.tensordotF b (.pair ((xa ++ ya).map Int.ofNat) ((xb ++ yb).map Int.ofNat)) .blockwise
      = .ok c') :
    ∃ e, c.einsumF (tsLhs a.ndim b.ndim xa xb ya yb) (tsRhs a.ndim b.ndim xa xb ya yb) = .ok e := by
  obtain ⟨_, _, _, _, C⟩ := two_step_ctx_first ha hb hfa hfb g1 g2 h1
  exact two_step_einsum_ok C

/-- Contracting `xa ~ xb` with `tensordotF` and then tracing the remaining pairs with the single-array
    `einsumF` = contracting `xa ++ ya ~ xb ++ yb` at once: `e` and `c'` have the same labels, charge,
    symmetry, kind, rank, the SAME SECTOR SET, the same block shape on every sector and the SAME VALUE
    at every address of every block; values at keys that are not sectors are `0` on both; leg `j` of
    `e` and leg `j` of `c'` are prunings of the same operand leg (same direction; every charge kept has
    the operand's size). -/
theorem two_step_values [AddCommMonoid R] [Mul R] [Neg R] [SignRing R]
    (a b c e c' : Arr R) (xa xb ya yb : List Nat)
    (ha : a.validB = true) (hb : b.validB = true) (hfa : a.fermi = true) (hfb : b.fermi = true)
    (g1 : tdotAdmissibleCommonB a b xa xb = true)
    (g2 : tdotAdmissibleCommonB a b (xa ++ ya) (xb ++ yb) = true)
    (h1 : a.tensordotF b (.pair (xa.map Int.ofNat) (xb.map Int.ofNat)) .blockwise = .ok c)
    (h2 : c.einsumF (tsLhs a.ndim b.ndim xa xb ya yb) (tsRhs a.ndim b.ndim xa xb ya yb) = .ok e)
    (h3 : a.tensordotF b (.pair ((xa ++ ya).map Int.ofNat) ((xb ++ yb).map Int.ofNat)) .blockwise
      = .ok c') :
    e.oddpos = c'.oddpos ∧ e.charge = c'.charge ∧ e.sym = c'.sym ∧ e.fermi = c'.fermi
    ∧ e.ndim = c'.ndim
    ∧ (∀ s, s ∈ e.sectors ↔ s ∈ c'.sectors)
    ∧ (∀ s ∈ c'.sectors, Arr.blockShapeD e.indices s = Arr.blockShapeD c'.indices s)
    ∧ (∀ s ∈ c'.sectors, ∀ o, inBox (Arr.blockShapeD c'.indices s) o = true → e.elem s o = c'.elem s o)
    ∧ (∀ s, s ∉ c'.sectors → ∀ o, e.elem s o = 0 ∧ c'.elem s o = 0)
    ∧ (∀ j, j < c'.ndim → ∃ ix : Index,
        Pruned (e.indices.getD j default) ix ∧ Pruned (c'.indices.getD j default) ix) := by
  obtain ⟨ph, C, I', ho⟩ := two_step_ctx ha hb hfa hfb g1 g2 h1 h3
  obtain ⟨f1, f2, f3, f4⟩ := einsumF_frame' h2
  refine ⟨f1.trans ho, by rw [f2, C.I.charge, I'.charge], by rw [f3, C.I.sym, I'.sym],
    by rw [f4, C.I.fermi, I'.fermi], two_step_ndim C I' h2, two_step_sectors C I' h2,
    fun s hs => (two_step_shape C I' h2 s hs).1, ?_, ?_, two_step_legs C I' h2⟩
  · -- an address of a stored block, split into the parts on `a`'s and on `b`'s free legs
    intro s hs o ho'
    obtain ⟨shp, _, e2, e3, _⟩ := shape_of_mem (Arr.shapesOk_of_validB I'.valid) hs
    have hn : (freeAxes a.ndim (xa ++ ya)).length ≤ o.length := by
      rw [inBox_length ho', e2, e3, I'.ndim]; omega
    have := two_step_elem C I' h2 s
      (o.take (freeAxes a.ndim (xa ++ ya)).length) (o.drop (freeAxes a.ndim (xa ++ ya)).length)
      (by rw [List.length_take]; omega)
      (by rw [List.take_append_drop, ← (two_step_shape C I' h2 s hs).2]; exact ho')
    rwa [List.take_append_drop] at this
  · intro s hs o
    exact ⟨Arr.elem_of_not_mem (fun h => hs ((two_step_sectors C I' h2 s).mp h)) o,
      Arr.elem_of_not_mem hs o⟩

/-- The value statement in the un-pruned frame of the free legs: at EVERY key
    `s'` and every offset `fL ++ fR` (`fL` on `a`'s free legs) inside the box the operands' index tables
    give to `s'`. -/
theorem two_step_values_at [AddCommMonoid R] [Mul R] [Neg R] [SignRing R]
    (a b c e c' : Arr R) (xa xb ya yb : List Nat)
    (ha : a.validB = true) (hb : b.validB = true) (hfa : a.fermi = true) (hfb : b.fermi = true)
    (g1 : tdotAdmissibleCommonB a b xa xb = true)
    (g2 : tdotAdmissibleCommonB a b (xa ++ ya) (xb ++ yb) = true)
    (h1 : a.tensordotF b (.pair (xa.map Int.ofNat) (xb.map Int.ofNat)) .blockwise = .ok c)
    (h2 : c.einsumF (tsLhs a.ndim b.ndim xa xb ya yb) (tsRhs a.ndim b.ndim xa xb ya yb) = .ok e)
    (h3 : a.tensordotF b (.pair ((xa ++ ya).map Int.ofNat) ((xb ++ yb).map Int.ofNat)) .blockwise
      = .ok c')
    (s' : Sector) (fL fR : List Nat)
    (hfL : fL.length = (freeAxes a.ndim (xa ++ ya)).length)
    (hbox : inBox (Arr.blockShapeD (without a.indices (xa ++ ya) ++ without b.indices (xb ++ yb)) s')
      (fL ++ fR) = true) :
    e.elem s' (fL ++ fR) = c'.elem s' (fL ++ fR) := by
  obtain ⟨_, C, I', _⟩ := two_step_ctx ha hb hfa hfb g1 g2 h1 h3
  exact two_step_elem C I' h2 s' fL fR hfL hbox

/-- Moving the traced pairs adjacent (Koszul sign of `tsOrder` on the
    parities of the intermediate sector) costs exactly the sign the one-step contraction pays. -/
theorem two_step_sign_identity (a b : Arr R) (xa xb ya yb : List Nat) (sa sb : Sector)
    (hsym : a.sym = b.sym)
    (hnA : (xa ++ ya).Nodup) (hA : ∀ i ∈ xa ++ ya, i < a.ndim)
    (hnB : (xb ++ yb).Nodup) (hB : ∀ i ∈ xb ++ yb, i < b.ndim)
    (hlx : xa.length = xb.length) (hly : ya.length = yb.length)
    (hsa : sa.length = a.ndim) (hsb : sb.length = b.ndim)
    (hal : permuted sb (xb ++ yb) = permuted sa (xa ++ ya)) :
    koszul ((permuted sa (freeAxes a.ndim xa) ++ permuted sb (freeAxes b.ndim xb)).map a.sym.parity)
        (some (tsOrder a b.ndim xa xb ya yb))
      * gradedSign a b xa xb sa sb
    = gradedSign a b (xa ++ ya) (xb ++ yb) sa sb :=
  two_step_sign a b xa xb ya yb sa sb hsym hnA hA hnB hB hlx hly hsa hsb hal

theorem two_step_einsum_order [AddCommMonoid R] [Mul R] [Neg R] [SignRing R]
    (a b c c' : Arr R) (xa xb ya yb : List Nat)
    (ha : a.validB = true) (hb : b.validB = true) (hfa : a.fermi = true) (hfb : b.fermi = true)
    (g1 : tdotAdmissibleCommonB a b xa xb = true)
    (g2 : tdotAdmissibleCommonB a b (xa ++ ya) (xb ++ yb) = true)
    (h1 : a.tensordotF b (.pair (xa.map Int.ofNat) (xb.map Int.ofNat)) .blockwise = .ok c)
    (h3 : a.tensordotF b (.pair ((xa ++ ya).map Int.ofNat) ((xb ++ yb).map Int.ofNat)) .blockwise
      = .ok c') :
    Lazy.einOrder c (tsLhs a.ndim b.ndim xa xb ya yb) (tsRhs a.ndim b.ndim xa xb ya yb)
      = tsOrder a b.ndim xa xb ya yb := by
  obtain ⟨_, _, _, _, C⟩ := two_step_ctx_first ha hb hfa hfb g1 g2 h1
  exact C.ordEq

open SymmModel.C03

/-- one pair first (`1 ~ 1`), one remaining pair (`2 ~ 0`): the hypotheses hold, the canonical labels
    are `abbc -> ac`, and evaluation confirms labels, charge, tables (equal in this instance) and all
    stored values -/
example :
    gA.validB = true ∧ gB.validB = true ∧ gA.fermi = true ∧ gB.fermi = true
    ∧ tdotAdmissibleCommonB gA gB [1] [1] = true
    ∧ tdotAdmissibleCommonB gA gB ([1] ++ [2]) ([1] ++ [0]) = true
    ∧ tsLhs gA.ndim gB.ndim [1] [1] [2] [0] = [0, 4, 4, 3] ∧ tsRhs gA.ndim gB.ndim [1] [1] [2] [0] = [0, 3]
    ∧ (match gA.tensordotF gB (.pair [1] [1]) .blockwise, gA.tensordotF gB (.pair [1, 2] [1, 0]) .blockwise with
       | .ok c, .ok c' =>
         (match c.einsumF (tsLhs gA.ndim gB.ndim [1] [1] [2] [0]) (tsRhs gA.ndim gB.ndim [1] [1] [2] [0]) with
          | .ok e => e.oddpos == c'.oddpos && e.charge == c'.charge && e.indices == c'.indices
              && e.phaseSync.blocks.map (fun p => (p.1, p.2.data))
                  == c'.phaseSync.blocks.map (fun p => (p.1, p.2.data))
              && c'.blocks.length == 2
          | .error _ => false)
       | _, _ => false) = true := by
  decide +kernel

/-- no pair first (outer product), TWO remaining pairs `2 ~ 0`, `1 ~ 1`, listed against the axis order:
    the einsum order is `[3, 2, 1, 4, 0, 5]`, both aligned sector pairs with sign `-1` occur, and
    evaluation confirms the values -/
example :
    tdotAdmissibleCommonB gA gB [] [] = true
    ∧ tdotAdmissibleCommonB gA gB ([] ++ [2, 1]) ([] ++ [0, 1]) = true
    ∧ tsLhs gA.ndim gB.ndim [] [] [2, 1] [0, 1] = [0, 7, 6, 6, 7, 5]
    ∧ tsRhs gA.ndim gB.ndim [] [] [2, 1] [0, 1] = [0, 5]
    ∧ tsOrder gA gB.ndim [] [] [2, 1] [0, 1] = [3, 2, 1, 4, 0, 5]
    ∧ (alignedPairs gA gB [2, 1] [0, 1]).map (fun p => gradedSign gA gB [2, 1] [0, 1] p.1 p.2)
        = [1, 1, -1, -1]
    ∧ (match gA.tensordotF gB (.pair [] []) .blockwise, gA.tensordotF gB (.pair [2, 1] [0, 1]) .blockwise with
       | .ok c, .ok c' =>
         (match c.einsumF (tsLhs gA.ndim gB.ndim [] [] [2, 1] [0, 1]) (tsRhs gA.ndim gB.ndim [] [] [2, 1] [0, 1]) with
          | .ok e => e.oddpos == c'.oddpos && e.charge == c'.charge
              && e.phaseSync.blocks.map (fun p => (p.1, p.2.data))
                  == c'.phaseSync.blocks.map (fun p => (p.1, p.2.data))
              && c'.blocks.length == 2
          | .error _ => false)
       | _, _ => false) = true := by
  decide +kernel

example (c e c' : Arr Int)
    (h1 : gA.tensordotF gB (.pair ([1].map Int.ofNat) ([1].map Int.ofNat)) .blockwise = .ok c)
    (h2 : c.einsumF (tsLhs gA.ndim gB.ndim [1] [1] [2] [0]) (tsRhs gA.ndim gB.ndim [1] [1] [2] [0]) = .ok e)
    (h3 : gA.tensordotF gB (.pair (([1] ++ [2]).map Int.ofNat) (([1] ++ [0]).map Int.ofNat)) .blockwise
      = .ok c') :
    ∀ s ∈ c'.sectors, ∀ o, inBox (Arr.blockShapeD c'.indices s) o = true → e.elem s o = c'.elem s o :=
  (two_step_values gA gB c e c' [1] [1] [2] [0] (by decide +kernel) (by decide +kernel) rfl rfl
    (by decide +kernel) (by decide +kernel) h1 h2 h3).2.2.2.2.2.2.2.1

end SymmModel.C04
