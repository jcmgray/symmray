/- Property C10 — umbrella incl. C10f (the six bracketings with every call in any mode). -/
import SymmModel.Props.C10All4
import SymmModel.Props.C10f
