/-
  Property C04 (route independence) — four-tensor networks of ARBITRARY graph with every one of the
  three calls of a route in ITS OWN contraction mode (`fused` / `blockwise` / `auto`).
  MODEL: `Arr.tensordotF` (Model/Fermi.lean) with its `mode` argument; scalars as in C04h/C06e
  (`AddCommMonoid`, `SignRing`, `AssocP.AssocLaws`, `0 * x = 0 = x * 0`; instances `Int`, `GRat`).

  SETTING as in C04h: tensors `A, B, C, D`, a (possibly empty) list of bonded legs for every pair,
  weak guard `tdotAdmissibleCommonB` on every pair, the three bond lists of a tensor disjoint,
  pairwise-distinct labels.  `routeM1 … routeM5 m1 m2 m3` are the five bracketings `((AB)C)D`,
  `(A(BC))D`, `(AB)(CD)`, `A((BC)D)`, `A(B(CD))` as programs of three calls, call `i` in mode `mi`
  (`routeM_defs`; with all modes `blockwise` they are `route1 … route5` of C04h, `routeM_blockwise`).

  `ZeroPad U T` (`zeroPad_def`): `U` is valid and fermionic, has the labels, charge, symmetry, rank and
  leg directions of `T`, stores every sector of `T` with the same block shape and the same values,
  and every other block of `U` is zero.  (Equality of `to_dense()` is NOT claimed and is false in
  general: fused-mode results keep the charges of all-zero blocks in their index tables, C06e.)

  FIRST PART.  For EVERY assignment of modes to the fifteen calls of the five bracketings all
  succeed, and every result is a `ZeroPad` of the blockwise left-nested result `T1`
  (`net4_bracketings_modes`); ANY ordering (24) × ANY bracketing (5) × ANY mode assignment gives a
  `ZeroPad` of the blockwise left-nested contraction of that ordering, which is a fermionic transpose
  (`TEq`, C04h) of the reference `((T₀·T₁)·T₂)·T₃` (`net4_every_route_modes`); the same with, at every
  call, BOTH an operand-order flag (C04h `callS`) and a mode (`callSM`, `routeSM1 … routeSM5`;
  `net4_every_route_flagged_modes`: this is `net4_every_route` of C04h with a mode per call).  Zero
  padding commutes with the fermionic transpose (`zeroPad_transposeF`), so every such result,
  transposed by a suitable `P`, is a `ZeroPad` of the reference contraction ITSELF
  (`refM_to_reference`), and the results of ANY two routes, brought to the reference leg order, store
  every sector of `T0` with the same block shape and the SAME VALUES, all their other blocks being
  zero (`net4_routes_agree_modes_at`).
  How: call by call.  A call in fused / auto mode is a zero-padded copy of the blockwise call on the
  same operands (`TdotP.call_w`, C06d `tensordotF_modes_agree_weak`), the blockwise call on padded
  operands is a padded copy of the blockwise call on the plain ones (`TdotP.pad_blockwise`, C06e);
  the guard of each later call on the PADDED intermediates follows from the leaf guards because the
  legs of an intermediate of any mode are prunings of leaf legs (`TdotP.InterW`,
  `TdotP.admW_left_tri_w / admW_right_tri_w`), for routes 2 and 4 with the star identity
  `Net4P.axes_star` (the legs of `A·B·C` bonded to `D` sit at the same positions in both layouts).
  SECOND PART — "several indices at once or one after another" (FRAME ONLY, `_partial`):
    `two_step_frame_partial`   contracting the pairs `xa ~ xb` with `tensordotF` and the remaining
                               pairs with the single-array `einsumF` gives the labels, total charge,
                               symmetry and kind of contracting `xa ++ ya ~ xb ++ yb` at once.
    The VALUES of the two-step and the one-step contraction are compared in Props/C04j
    (`C04.two_step_values`: same stored sectors, block shapes and values); this file has the frame
    only.  Index tables are not claimed equal: `einsumF` permutes the tables of the intermediate,
    it does not prune them again.
  THIRD PART — `LabelRoutes` for fully paired label lists, more than two labels per tensor:
    `netLabelsB_four`, `labelRoutes_four`   the label check of the doubled network
                               (`NormNet.netLabelsB`, hence the four `LabelRoutes` conditions of
                               C04f/C10's norm network) for ALL sorted ket label lists `oA`, `oB` with
                               at most FOUR labels per tensor and pairwise-distinct labels — symbolic
                               labels, every interleaving, every parity assignment (C04g: <= 2);
    `netLabelsB_pattern4`, `labelRoutes_pattern4`  the pattern form: for every interleaving pattern
                               `(ca, cb)` (`allPats4`, 251 patterns) and every strictly increasing `G`.
    How: both are cases of `LabelAlg.netLabelsB_of_distinct` (Proofs/NormNet10): the check holds for
    ALL label lists with pairwise-distinct labels, of any length.  `resolveScan` is a strategy of
    reduction of signed words (swap neighbours with different labels, drop a neighbouring conjugate
    pair); `sign · (-1)^inversions` is invariant; and a sorted result whose letters all come in
    conjugate pairs is empty, because the bra and the ket of the least label would be neighbours
    (Proofs/Oddpos, `LabelAlg.routes_of_paired`).  A pattern of `allPats4` has no rank twice and
    all ranks below the total length (`Assoc5P.allPats4_ranks`).
    `LabelRoutes` for three ARBITRARY operands is not a consequence of distinctness of the
    (label, kind) pairs alone: `oddLt` puts every bra before every ket, so a conjugate pair
    annihilates only if the scan makes it adjacent (`C04.conjugate_pairs_labels_route_dependent`:
    `[3†], [3], [2]`, where the label `2` has no partner); in the four operand triples of the
    doubled network every letter has its partner.
  NOT proved: `n > 4` tensors of arbitrary graph; a closed formula for the permutation `P` (as in
  C04h it is existentially quantified; it satisfies `ZeroPad (U.transposeF P) T0`).
-/
import SymmModel.Proofs.Net4M9
import SymmModel.Proofs.Net4M5
import SymmModel.Proofs.Net4M6
import SymmModel.Props.C04h

namespace SymmModel.C04
open SymmModel SymmModel.GradedP SymmModel.TdotP SymmModel.RoutesP SymmModel.AssocP SymmModel.Assoc3P
  SymmModel.Assoc5P SymmModel.Net4P

variable {R : Type}

theorem zeroPad_def [Zero R] [Neg R] (U T : Arr R) :
    ZeroPad U T ↔ (U.validB = true ∧ U.fermi = true ∧ U.oddpos = T.oddpos ∧ U.charge = T.charge
      ∧ U.sym = T.sym ∧ U.ndim = T.ndim
      ∧ (∀ i, (U.indices.getD i default).dual = (T.indices.getD i default).dual)
      ∧ (∀ s ∈ T.sectors, s ∈ U.sectors)
      ∧ (∀ s ∈ T.sectors, Arr.blockShapeD U.indices s = Arr.blockShapeD T.indices s)
      ∧ (∀ s ∈ T.sectors, ∀ o, inBox (Arr.blockShapeD T.indices s) o = true → U.elem s o = T.elem s o)
      ∧ (∀ s, s ∉ T.sectors → ∀ o, inBox (Arr.blockShapeD U.indices s) o = true → U.elem s o = 0)) :=
  ⟨fun h => ⟨h.valid, h.fermi, h.oddpos, h.charge, h.sym, h.ndim, h.dual, h.sub, h.shape, h.elem, h.zero⟩,
    fun ⟨a, b, c, d, e, f, g, h, i, j, k⟩ => ⟨a, b, c, d, e, f, g, h, i, j, k⟩⟩

theorem tdM_def [Zero R] [Add R] [Mul R] [Neg R] (m : TdotMode) (X Y : Arr R) (xa xb : List Nat) :
    tdM m X Y xa xb = X.tensordotF Y (.pair (xa.map Int.ofNat) (xb.map Int.ofNat)) m := rfl

section routes
variable [Zero R] [Add R] [Mul R] [Neg R]
variable (A B C D : Arr R) (ab ac ad ba bc bd ca cb cd da db dc : List Nat)

/-- the five routes with a mode per call, as programs of three calls (axis lists as in C04h) -/
theorem routeM_defs (m1 m2 m3 : TdotMode) :
    routeM1 A B C D ab ac ad ba bc bd ca cb cd da db dc m1 m2 m3
      = ((tdM m1 A B ab ba).bind fun AB =>
        (tdM m2 AB C (Assoc2P.axesAB A.ndim B.ndim ab ac ba bc) (ca ++ cb)).bind fun ABC =>
        tdM m3 ABC D (axesABC_D A B C ab ac ad ba bc bd ca cb cd) ((da ++ db) ++ dc))
    ∧ routeM2 A B C D ab ac ad ba bc bd ca cb cd da db dc m1 m2 m3
      = ((tdM m1 B C bc cb).bind fun BC =>
        (tdM m2 A BC (ab ++ ac) (Assoc2P.axesBC B.ndim C.ndim ba bc cb ca)).bind fun ABC =>
        tdM m3 ABC D (axesABC_D A B C ab ac ad ba bc bd ca cb cd) ((da ++ db) ++ dc))
    ∧ routeM3 A B C D ab ac ad ba bc bd ca cb cd da db dc m1 m2 m3
      = ((tdM m1 A B ab ba).bind fun AB =>
        (tdM m2 C D cd dc).bind fun CD =>
        tdM m3 AB CD
          (Assoc2P.axesAB A.ndim B.ndim ab ac ba bc ++ Assoc2P.axesAB A.ndim B.ndim ab ad ba bd)
          (Assoc2P.axesBC C.ndim D.ndim (ca ++ cb) cd dc (da ++ db)))
    ∧ routeM4 A B C D ab ac ad ba bc bd ca cb cd da db dc m1 m2 m3
      = ((tdM m1 B C bc cb).bind fun BC =>
        (tdM m2 BC D (Assoc2P.axesAB B.ndim C.ndim bc bd cb cd) (db ++ dc)).bind fun BCD =>
        tdM m3 A BCD (ab ++ (ac ++ ad)) (axesBCD_A B C D ba bc bd ca cb cd da db dc))
    ∧ routeM5 A B C D ab ac ad ba bc bd ca cb cd da db dc m1 m2 m3
      = ((tdM m1 C D cd dc).bind fun CD =>
        (tdM m2 B CD (bc ++ bd) (Assoc2P.axesBC C.ndim D.ndim cb cd dc db)).bind fun BCD =>
        tdM m3 A BCD (ab ++ (ac ++ ad)) (axesBCD_A B C D ba bc bd ca cb cd da db dc)) :=
  ⟨rfl, rfl, rfl, rfl, rfl⟩

theorem routeM_blockwise :
    routeM1 A B C D ab ac ad ba bc bd ca cb cd da db dc .blockwise .blockwise .blockwise
      = route1 A B C D ab ac ad ba bc bd ca cb cd da db dc
    ∧ routeM2 A B C D ab ac ad ba bc bd ca cb cd da db dc .blockwise .blockwise .blockwise
      = route2 A B C D ab ac ad ba bc bd ca cb cd da db dc
    ∧ routeM3 A B C D ab ac ad ba bc bd ca cb cd da db dc .blockwise .blockwise .blockwise
      = route3 A B C D ab ac ad ba bc bd ca cb cd da db dc
    ∧ routeM4 A B C D ab ac ad ba bc bd ca cb cd da db dc .blockwise .blockwise .blockwise
      = route4 A B C D ab ac ad ba bc bd ca cb cd da db dc
    ∧ routeM5 A B C D ab ac ad ba bc bd ca cb cd da db dc .blockwise .blockwise .blockwise
      = route5 A B C D ab ac ad ba bc bd ca cb cd da db dc :=
  ⟨rfl, rfl, rfl, rfl, rfl⟩

end routes

/-- the equivalence of C04e (between valid fermionic arrays) is a case of `ZeroPad` -/
theorem zeroPad_blockwise_eqv [Zero R] [Neg R] {U T : Arr R} (h : Eqv U T) (hv : U.validB = true)
    (hf : U.fermi = true) : ZeroPad U T :=
  zeroPad_of (PadA.refl hv) hv hf h

/-- Hypotheses of `net4_bracketings` (C04h); `m` assigns a mode to each
    of the fifteen calls of the five bracketings.  All five succeed and are zero-padded copies of
    the blockwise left-nested result. -/
theorem net4_bracketings_modes [AddCommMonoid R] [Mul R] [Neg R] [SignRing R] [AssocLaws R]
    (hz1 : ∀ x : R, 0 * x = 0) (hz2 : ∀ x : R, x * 0 = 0)
    (A B C D : Arr R) (ab ac ad ba bc bd ca cb cd da db dc : List Nat)
    (hA : A.validB = true) (hB : B.validB = true) (hC : C.validB = true) (hD : D.validB = true)
    (hfA : A.fermi = true) (hfB : B.fermi = true) (hfC : C.fermi = true) (hfD : D.fermi = true)
    (gAB : tdotAdmissibleCommonB A B ab ba = true) (gAC : tdotAdmissibleCommonB A C ac ca = true)
    (gAD : tdotAdmissibleCommonB A D ad da = true) (gBC : tdotAdmissibleCommonB B C bc cb = true)
    (gBD : tdotAdmissibleCommonB B D bd db = true) (gCD : tdotAdmissibleCommonB C D cd dc = true)
    (hnA : (ab ++ ac ++ ad).Nodup) (hnB : (ba ++ bc ++ bd).Nodup)
    (hnC : (ca ++ cb ++ cd).Nodup) (hnD : (da ++ db ++ dc).Nodup)
    (hd : (A.oddpos ++ B.oddpos ++ C.oddpos ++ D.oddpos).Pairwise (fun x y => x.1 ≠ y.1))
    (m : Fin 15 → TdotMode) :
    ∃ T1 U1 U2 U3 U4 U5 : Arr R,
      route1 A B C D ab ac ad ba bc bd ca cb cd da db dc = .ok T1 ∧ T1.validB = true
      ∧ routeM1 A B C D ab ac ad ba bc bd ca cb cd da db dc (m 0) (m 1) (m 2) = .ok U1
      ∧ routeM2 A B C D ab ac ad ba bc bd ca cb cd da db dc (m 3) (m 4) (m 5) = .ok U2
      ∧ routeM3 A B C D ab ac ad ba bc bd ca cb cd da db dc (m 6) (m 7) (m 8) = .ok U3
      ∧ routeM4 A B C D ab ac ad ba bc bd ca cb cd da db dc (m 9) (m 10) (m 11) = .ok U4
      ∧ routeM5 A B C D ab ac ad ba bc bd ca cb cd da db dc (m 12) (m 13) (m 14) = .ok U5
      ∧ ZeroPad U1 T1 ∧ ZeroPad U2 T1 ∧ ZeroPad U3 T1 ∧ ZeroPad U4 T1 ∧ ZeroPad U5 T1 := by
  have H : K4H A B C D ab ac ad ba bc bd ca cb cd da db dc :=
    ⟨AdmW.of hA hB hfA hfB gAB, AdmW.of hA hC hfA hfC gAC, AdmW.of hA hD hfA hfD gAD,
      AdmW.of hB hC hfB hfC gBC, AdmW.of hB hD hfB hfD gBD, AdmW.of hC hD hfC hfD gCD,
      hnA, hnB, hnC, hnD, hd⟩
  obtain ⟨T1, T2, T3, T4, T5, d1, d2, d3, d4, d5, q2, q3, q4, q5, hv⟩ :=
    net4_bracketings A B C D ab ac ad ba bc bd ca cb cd da db dc hA hB hC hD hfA hfB hfC hfD
      gAB gAC gAD gBC gBD gCD hnA hnB hnC hnD hd
  obtain ⟨T1', T2', T3', T4', T5', U1, U2, U3, U4, U5, a1, a2, a3, a4, a5, b1, b2, b3, b4, b5,
    p1, p2, p3, p4, p5, hvf⟩ := k4_modes hz1 hz2 H m
  obtain rfl : T1' = T1 := Except.ok.inj (a1.symm.trans d1)
  obtain rfl : T2' = T2 := Except.ok.inj (a2.symm.trans d2)
  obtain rfl : T3' = T3 := Except.ok.inj (a3.symm.trans d3)
  obtain rfl : T4' = T4 := Except.ok.inj (a4.symm.trans d4)
  obtain rfl : T5' = T5 := Except.ok.inj (a5.symm.trans d5)
  have hU : ∀ U ∈ [U1, U2, U3, U4, U5], U.validB = true ∧ U.fermi = true := hvf
  simp only [List.mem_cons, List.not_mem_nil, or_false, forall_eq_or_imp, forall_eq] at hU
  obtain ⟨⟨v1, f1⟩, ⟨v2, f2⟩, ⟨v3, f3⟩, ⟨v4, f4⟩, v5, f5⟩ := hU
  exact ⟨T1', U1, U2, U3, U4, U5, d1, hv, b1, b2, b3, b4, b5, zeroPad_of p1 v1 f1 (Eqv.refl _),
    zeroPad_of p2 v2 f2 q2, zeroPad_of p3 v3 f3 q3, zeroPad_of p4 v4 f4 q4, zeroPad_of p5 v5 f5 q5⟩

/-- `U` is a zero-padded copy of a valid fermionic array of which the reference contraction
    `((T₀·T₁)·T₂)·T₃` (blockwise) is a fermionic transpose -/
def RefM [AddCommMonoid R] [Mul R] [Neg R] (N : Net4 R) (U : Arr R) : Prop :=
  ∃ T : Arr R, Ref N T ∧ ZeroPad U T

theorem refM_def [AddCommMonoid R] [Mul R] [Neg R] (N : Net4 R) (U : Arr R) :
    RefM N U ↔ ∃ T : Arr R, Ref N T ∧ ZeroPad U T := Iff.rfl

/-- Any ordering `i, j, k, l`, any of the five bracketings, any mode
    for each call: the result is a zero-padded copy of the blockwise left-nested contraction `T` of
    that ordering; `T` is valid, fermionic and a fermionic transpose of the reference `T0`. -/
theorem net4_every_route_modes [AddCommMonoid R] [Mul R] [Neg R] [SignRing R] [AssocLaws R]
    (hmul : ∀ x y : R, x * y = y * x) (hz1 : ∀ x : R, 0 * x = 0) (hz2 : ∀ x : R, x * 0 = 0)
    (N : Net4 R) (hN : N.OK) (i j k l : Fin 4) (hn : [i, j, k, l].Nodup) (m : Fin 15 → TdotMode) :
    ∃ T0 T U1 U2 U3 U4 U5 : Arr R, N.r1 0 1 2 3 = .ok T0 ∧ N.r1 i j k l = .ok T
      ∧ T.validB = true ∧ T.fermi = true ∧ TEq T T0
      ∧ routeM1 (N.T i) (N.T j) (N.T k) (N.T l) (N.b i j) (N.b i k) (N.b i l) (N.b j i) (N.b j k) (N.b j l)
          (N.b k i) (N.b k j) (N.b k l) (N.b l i) (N.b l j) (N.b l k) (m 0) (m 1) (m 2) = .ok U1
      ∧ routeM2 (N.T i) (N.T j) (N.T k) (N.T l) (N.b i j) (N.b i k) (N.b i l) (N.b j i) (N.b j k) (N.b j l)
          (N.b k i) (N.b k j) (N.b k l) (N.b l i) (N.b l j) (N.b l k) (m 3) (m 4) (m 5) = .ok U2
      ∧ routeM3 (N.T i) (N.T j) (N.T k) (N.T l) (N.b i j) (N.b i k) (N.b i l) (N.b j i) (N.b j k) (N.b j l)
          (N.b k i) (N.b k j) (N.b k l) (N.b l i) (N.b l j) (N.b l k) (m 6) (m 7) (m 8) = .ok U3
      ∧ routeM4 (N.T i) (N.T j) (N.T k) (N.T l) (N.b i j) (N.b i k) (N.b i l) (N.b j i) (N.b j k) (N.b j l)
          (N.b k i) (N.b k j) (N.b k l) (N.b l i) (N.b l j) (N.b l k) (m 9) (m 10) (m 11) = .ok U4
      ∧ routeM5 (N.T i) (N.T j) (N.T k) (N.T l) (N.b i j) (N.b i k) (N.b i l) (N.b j i) (N.b j k) (N.b j l)
          (N.b k i) (N.b k j) (N.b k l) (N.b l i) (N.b l j) (N.b l k) (m 12) (m 13) (m 14) = .ok U5
      ∧ ZeroPad U1 T ∧ ZeroPad U2 T ∧ ZeroPad U3 T ∧ ZeroPad U4 T ∧ ZeroPad U5 T := by
  obtain ⟨T, T0, e, e0, v, fT, v0, t⟩ := all_orders hmul hN i j k l hn
  have H := hN.k4h hn
  obtain ⟨T1, T2, T3, T4, T5, U1, U2, U3, U4, U5, a1, a2, a3, a4, a5, b1, b2, b3, b4, b5,
    p1, p2, p3, p4, p5, hvf⟩ := k4_modes hz1 hz2 H m
  obtain ⟨AB, BC, CD, ABC1, ABC2, BCD1, BCD2, S1, S2, S3, S4, S5, K⟩ := k4x H
  obtain ⟨r1, r2, r3, r4, r5⟩ := K.routes
  obtain rfl : T1 = S1 := Except.ok.inj (a1.symm.trans r1)
  obtain rfl : T2 = S2 := Except.ok.inj (a2.symm.trans r2)
  obtain rfl : T3 = S3 := Except.ok.inj (a3.symm.trans r3)
  obtain rfl : T4 = S4 := Except.ok.inj (a4.symm.trans r4)
  obtain rfl : T5 = S5 := Except.ok.inj (a5.symm.trans r5)
  obtain rfl : T = T1 := Except.ok.inj (e.symm.trans a1)
  have hU : ∀ U ∈ [U1, U2, U3, U4, U5], U.validB = true ∧ U.fermi = true := hvf
  simp only [List.mem_cons, List.not_mem_nil, or_false, forall_eq_or_imp, forall_eq] at hU
  obtain ⟨⟨v1, f1⟩, ⟨v2, f2⟩, ⟨v3, f3⟩, ⟨v4, f4⟩, v5, f5⟩ := hU
  exact ⟨T0, T, U1, U2, U3, U4, U5, e0, e, v, fT, t, b1, b2, b3, b4, b5,
    zeroPad_of p1 v1 f1 (Eqv.refl _), zeroPad_of p2 v2 f2 K.q2, zeroPad_of p3 v3 f3 K.q3,
    zeroPad_of p4 v4 f4 K.q4, zeroPad_of p5 v5 f5 K.q5⟩

/-- `net4_every_route_modes` in terms of `RefM` -/
theorem net4_every_route_modes_ref [AddCommMonoid R] [Mul R] [Neg R] [SignRing R] [AssocLaws R]
    (hmul : ∀ x y : R, x * y = y * x) (hz1 : ∀ x : R, 0 * x = 0) (hz2 : ∀ x : R, x * 0 = 0)
    (N : Net4 R) (hN : N.OK) (i j k l : Fin 4) (hn : [i, j, k, l].Nodup) (m : Fin 15 → TdotMode) :
    ∃ U1 U2 U3 U4 U5 : Arr R,
      routeM1 (N.T i) (N.T j) (N.T k) (N.T l) (N.b i j) (N.b i k) (N.b i l) (N.b j i) (N.b j k) (N.b j l)
          (N.b k i) (N.b k j) (N.b k l) (N.b l i) (N.b l j) (N.b l k) (m 0) (m 1) (m 2) = .ok U1
      ∧ routeM2 (N.T i) (N.T j) (N.T k) (N.T l) (N.b i j) (N.b i k) (N.b i l) (N.b j i) (N.b j k) (N.b j l)
          (N.b k i) (N.b k j) (N.b k l) (N.b l i) (N.b l j) (N.b l k) (m 3) (m 4) (m 5) = .ok U2
      ∧ routeM3 (N.T i) (N.T j) (N.T k) (N.T l) (N.b i j) (N.b i k) (N.b i l) (N.b j i) (N.b j k) (N.b j l)
          (N.b k i) (N.b k j) (N.b k l) (N.b l i) (N.b l j) (N.b l k) (m 6) (m 7) (m 8) = .ok U3
      ∧ routeM4 (N.T i) (N.T j) (N.T k) (N.T l) (N.b i j) (N.b i k) (N.b i l) (N.b j i) (N.b j k) (N.b j l)
          (N.b k i) (N.b k j) (N.b k l) (N.b l i) (N.b l j) (N.b l k) (m 9) (m 10) (m 11) = .ok U4
      ∧ routeM5 (N.T i) (N.T j) (N.T k) (N.T l) (N.b i j) (N.b i k) (N.b i l) (N.b j i) (N.b j k) (N.b j l)
          (N.b k i) (N.b k j) (N.b k l) (N.b l i) (N.b l j) (N.b l k) (m 12) (m 13) (m 14) = .ok U5
      ∧ RefM N U1 ∧ RefM N U2 ∧ RefM N U3 ∧ RefM N U4 ∧ RefM N U5 := by
  obtain ⟨T0, T, U1, U2, U3, U4, U5, e0, e, v, fT, t, b1, b2, b3, b4, b5, z1, z2, z3, z4, z5⟩ :=
    net4_every_route_modes hmul hz1 hz2 N hN i j k l hn m
  have hR : Ref N T := ⟨T0, e0, v, fT, t⟩
  exact ⟨U1, U2, U3, U4, U5, b1, b2, b3, b4, b5, ⟨T, hR, z1⟩, ⟨T, hR, z2⟩, ⟨T, hR, z3⟩, ⟨T, hR, z4⟩,
    ⟨T, hR, z5⟩⟩

/-- The results `U`, `U'` of ANY two routes of the same network
    (orderings, bracketings, a mode per call) are zero-padded copies of arrays `T`, `T'` that agree
    after fermionic transposes to the reference leg order; `U`, `U'` have the same labels, charge and
    rank. -/
theorem net4_routes_agree_modes [AddCommMonoid R] [Mul R] [Neg R] [SignRing R] (N : Net4 R)
    (U U' : Arr R) (h : RefM N U) (h' : RefM N U') :
    ∃ T T' P P', ZeroPad U T ∧ ZeroPad U' T'
      ∧ Arr.isPerm P T.ndim = true ∧ Arr.isPerm P' T'.ndim = true
      ∧ Eqv (T.transposeF P) (T'.transposeF P')
      ∧ (T.transposeF P).toDenseF = (T'.transposeF P').toDenseF
      ∧ permuted T.indices P = permuted T'.indices P'
      ∧ U.oddpos = U'.oddpos ∧ U.charge = U'.charge ∧ U.ndim = U'.ndim := by
  obtain ⟨T, hT, z⟩ := h
  obtain ⟨T', hT', z'⟩ := h'
  obtain ⟨P, P', hP, hP', hE, hD, ho, hc, hi⟩ := net4_routes_agree N T T' hT hT'
  refine ⟨T, T', P, P', z, z', hP, hP', hE, hD, hi, by rw [z.oddpos, z'.oddpos, ho],
    by rw [z.charge, z'.charge, hc], ?_⟩
  rw [z.ndim, z'.ndim]
  have := congrArg List.length hi
  obtain ⟨T0, _, v, f, _⟩ := hT
  obtain ⟨T0', _, v', f', _⟩ := hT'
  rw [permuted_length_perm _ _ (perm_of_isPerm hP),
    permuted_length_perm _ _ (perm_of_isPerm hP')] at this
  exact this

theorem callSM_def [Zero R] [Add R] [Mul R] [Neg R] (m : TdotMode) (X Y : Arr R) (xa xb : List Nat) :
    callSM m false X Y xa xb = tdM m X Y xa xb
    ∧ callSM m true X Y xa xb = (tdM m Y X xb xa).map (fun z =>
        z.transposeF (rotB (freeAxes Y.ndim xb).length (freeAxes X.ndim xa).length))
    ∧ (∀ sw, callSM .blockwise sw X Y xa xb = callS sw X Y xa xb) :=
  ⟨rfl, rfl, fun sw => callSM_blockwise sw X Y xa xb⟩

section routesSM
variable [Zero R] [Add R] [Mul R] [Neg R]
variable (A B C D : Arr R) (ab ac ad ba bc bd ca cb cd da db dc : List Nat)

/-- the five routes with a flag and a mode per call -/
theorem routeSM_defs (f1 f2 f3 : Bool) (m1 m2 m3 : TdotMode) :
    routeSM1 A B C D ab ac ad ba bc bd ca cb cd da db dc f1 f2 f3 m1 m2 m3
      = ((callSM m1 f1 A B ab ba).bind fun AB =>
        (callSM m2 f2 AB C (Assoc2P.axesAB A.ndim B.ndim ab ac ba bc) (ca ++ cb)).bind fun ABC =>
        callSM m3 f3 ABC D (axesABC_D A B C ab ac ad ba bc bd ca cb cd) ((da ++ db) ++ dc))
    ∧ routeSM2 A B C D ab ac ad ba bc bd ca cb cd da db dc f1 f2 f3 m1 m2 m3
      = ((callSM m1 f1 B C bc cb).bind fun BC =>
        (callSM m2 f2 A BC (ab ++ ac) (Assoc2P.axesBC B.ndim C.ndim ba bc cb ca)).bind fun ABC =>
        callSM m3 f3 ABC D (axesABC_D A B C ab ac ad ba bc bd ca cb cd) ((da ++ db) ++ dc))
    ∧ routeSM3 A B C D ab ac ad ba bc bd ca cb cd da db dc f1 f2 f3 m1 m2 m3
      = ((callSM m1 f1 A B ab ba).bind fun AB =>
        (callSM m2 f2 C D cd dc).bind fun CD =>
        callSM m3 f3 AB CD
          (Assoc2P.axesAB A.ndim B.ndim ab ac ba bc ++ Assoc2P.axesAB A.ndim B.ndim ab ad ba bd)
          (Assoc2P.axesBC C.ndim D.ndim (ca ++ cb) cd dc (da ++ db)))
    ∧ routeSM4 A B C D ab ac ad ba bc bd ca cb cd da db dc f1 f2 f3 m1 m2 m3
      = ((callSM m1 f1 B C bc cb).bind fun BC =>
        (callSM m2 f2 BC D (Assoc2P.axesAB B.ndim C.ndim bc bd cb cd) (db ++ dc)).bind fun BCD =>
        callSM m3 f3 A BCD (ab ++ (ac ++ ad)) (axesBCD_A B C D ba bc bd ca cb cd da db dc))
    ∧ routeSM5 A B C D ab ac ad ba bc bd ca cb cd da db dc f1 f2 f3 m1 m2 m3
      = ((callSM m1 f1 C D cd dc).bind fun CD =>
        (callSM m2 f2 B CD (bc ++ bd) (Assoc2P.axesBC C.ndim D.ndim cb cd dc db)).bind fun BCD =>
        callSM m3 f3 A BCD (ab ++ (ac ++ ad)) (axesBCD_A B C D ba bc bd ca cb cd da db dc))
    ∧ routeSM1 A B C D ab ac ad ba bc bd ca cb cd da db dc false false false m1 m2 m3
      = routeM1 A B C D ab ac ad ba bc bd ca cb cd da db dc m1 m2 m3 :=
  ⟨rfl, rfl, rfl, rfl, rfl, rfl⟩

end routesSM

/-- Hypotheses of `net4_flagged` (C04h) and of the mode theorems: every
    assignment of flags and modes to the fifteen calls. -/
theorem net4_flagged_modes [AddCommMonoid R] [Mul R] [Neg R] [SignRing R] [AssocLaws R]
    (hmul : ∀ x y : R, x * y = y * x) (hz1 : ∀ x : R, 0 * x = 0) (hz2 : ∀ x : R, x * 0 = 0)
    (A B C D : Arr R) (ab ac ad ba bc bd ca cb cd da db dc : List Nat)
    (hA : A.validB = true) (hB : B.validB = true) (hC : C.validB = true) (hD : D.validB = true)
    (hfA : A.fermi = true) (hfB : B.fermi = true) (hfC : C.fermi = true) (hfD : D.fermi = true)
    (gAB : tdotAdmissibleCommonB A B ab ba = true) (gAC : tdotAdmissibleCommonB A C ac ca = true)
    (gAD : tdotAdmissibleCommonB A D ad da = true) (gBC : tdotAdmissibleCommonB B C bc cb = true)
    (gBD : tdotAdmissibleCommonB B D bd db = true) (gCD : tdotAdmissibleCommonB C D cd dc = true)
    (hnA : (ab ++ ac ++ ad).Nodup) (hnB : (ba ++ bc ++ bd).Nodup)
    (hnC : (ca ++ cb ++ cd).Nodup) (hnD : (da ++ db ++ dc).Nodup)
    (hd : (A.oddpos ++ B.oddpos ++ C.oddpos ++ D.oddpos).Pairwise (fun x y => x.1 ≠ y.1))
    (f : Fin 15 → Bool) (m : Fin 15 → TdotMode) :
    ∃ T1 U1 U2 U3 U4 U5 : Arr R,
      route1 A B C D ab ac ad ba bc bd ca cb cd da db dc = .ok T1
      ∧ routeSM1 A B C D ab ac ad ba bc bd ca cb cd da db dc (f 0) (f 1) (f 2) (m 0) (m 1) (m 2) = .ok U1
      ∧ routeSM2 A B C D ab ac ad ba bc bd ca cb cd da db dc (f 3) (f 4) (f 5) (m 3) (m 4) (m 5) = .ok U2
      ∧ routeSM3 A B C D ab ac ad ba bc bd ca cb cd da db dc (f 6) (f 7) (f 8) (m 6) (m 7) (m 8) = .ok U3
      ∧ routeSM4 A B C D ab ac ad ba bc bd ca cb cd da db dc (f 9) (f 10) (f 11) (m 9) (m 10) (m 11)
          = .ok U4
      ∧ routeSM5 A B C D ab ac ad ba bc bd ca cb cd da db dc (f 12) (f 13) (f 14) (m 12) (m 13) (m 14)
          = .ok U5
      ∧ ZeroPad U1 T1 ∧ ZeroPad U2 T1 ∧ ZeroPad U3 T1 ∧ ZeroPad U4 T1 ∧ ZeroPad U5 T1 :=
  k4_flagged_modes hmul hz1 hz2
    ⟨AdmW.of hA hB hfA hfB gAB, AdmW.of hA hC hfA hfC gAC, AdmW.of hA hD hfA hfD gAD,
      AdmW.of hB hC hfB hfC gBC, AdmW.of hB hD hfB hfD gBD, AdmW.of hC hD hfC hfD gCD,
      hnA, hnB, hnC, hnD, hd⟩ f m

/-- `net4_every_route` (C04h) with a mode per call: any
    ordering, any bracketing, any flags, any modes. -/
theorem net4_every_route_flagged_modes [AddCommMonoid R] [Mul R] [Neg R] [SignRing R] [AssocLaws R]
    (hmul : ∀ x y : R, x * y = y * x) (hz1 : ∀ x : R, 0 * x = 0) (hz2 : ∀ x : R, x * 0 = 0)
    (N : Net4 R) (hN : N.OK) (i j k l : Fin 4) (hn : [i, j, k, l].Nodup)
    (f : Fin 15 → Bool) (m : Fin 15 → TdotMode) :
    ∃ T0 T U1 U2 U3 U4 U5 : Arr R, N.r1 0 1 2 3 = .ok T0 ∧ N.r1 i j k l = .ok T
      ∧ T.validB = true ∧ T.fermi = true ∧ TEq T T0
      ∧ routeSM1 (N.T i) (N.T j) (N.T k) (N.T l) (N.b i j) (N.b i k) (N.b i l) (N.b j i) (N.b j k) (N.b j l)
          (N.b k i) (N.b k j) (N.b k l) (N.b l i) (N.b l j) (N.b l k) (f 0) (f 1) (f 2) (m 0) (m 1) (m 2)
          = .ok U1
      ∧ routeSM2 (N.T i) (N.T j) (N.T k) (N.T l) (N.b i j) (N.b i k) (N.b i l) (N.b j i) (N.b j k) (N.b j l)
          (N.b k i) (N.b k j) (N.b k l) (N.b l i) (N.b l j) (N.b l k) (f 3) (f 4) (f 5) (m 3) (m 4) (m 5)
          = .ok U2
      ∧ routeSM3 (N.T i) (N.T j) (N.T k) (N.T l) (N.b i j) (N.b i k) (N.b i l) (N.b j i) (N.b j k) (N.b j l)
          (N.b k i) (N.b k j) (N.b k l) (N.b l i) (N.b l j) (N.b l k) (f 6) (f 7) (f 8) (m 6) (m 7) (m 8)
          = .ok U3
      ∧ routeSM4 (N.T i) (N.T j) (N.T k) (N.T l) (N.b i j) (N.b i k) (N.b i l) (N.b j i) (N.b j k) (N.b j l)
          (N.b k i) (N.b k j) (N.b k l) (N.b l i) (N.b l j) (N.b l k) (f 9) (f 10) (f 11) (m 9) (m 10) (m 11)
          = .ok U4
      ∧ routeSM5 (N.T i) (N.T j) (N.T k) (N.T l) (N.b i j) (N.b i k) (N.b i l) (N.b j i) (N.b j k) (N.b j l)
          (N.b k i) (N.b k j) (N.b k l) (N.b l i) (N.b l j) (N.b l k) (f 12) (f 13) (f 14) (m 12) (m 13) (m 14)
          = .ok U5
      ∧ RefM N U1 ∧ RefM N U2 ∧ RefM N U3 ∧ RefM N U4 ∧ RefM N U5
      ∧ ZeroPad U1 T ∧ ZeroPad U2 T ∧ ZeroPad U3 T ∧ ZeroPad U4 T ∧ ZeroPad U5 T := by
  obtain ⟨T, T0, e, e0, v, fT, v0, t⟩ := all_orders hmul hN i j k l hn
  obtain ⟨T1, U1, U2, U3, U4, U5, r1, c1, c2, c3, c4, c5, z1, z2, z3, z4, z5⟩ :=
    k4_flagged_modes hmul hz1 hz2 (hN.k4h hn) f m
  obtain rfl : T = T1 := Except.ok.inj (e.symm.trans r1)
  have hR : Ref N T := ⟨T0, e0, v, fT, t⟩
  exact ⟨T0, T, U1, U2, U3, U4, U5, e0, e, v, fT, t, c1, c2, c3, c4, c5, ⟨T, hR, z1⟩, ⟨T, hR, z2⟩,
    ⟨T, hR, z3⟩, ⟨T, hR, z4⟩, ⟨T, hR, z5⟩, z1, z2, z3, z4, z5⟩

/-- **zero padding commutes with the fermionic transpose** -/
theorem zeroPad_transposeF [AddCommMonoid R] [Mul R] [Neg R] [SignRing R] {U T : Arr R}
    (z : ZeroPad U T) (vT : T.validB = true) (fT : T.fermi = true) (P : List Nat)
    (hP : Arr.isPerm P U.ndim = true) : ZeroPad (U.transposeF P) (T.transposeF P) :=
  zeroPad_of (padA_transposeF (padA_of_zeroPad z vT) z.valid z.fermi vT fT P hP)
    (transposeF_validB U P z.valid z.fermi hP) z.fermi (Eqv.refl _)

/-- Every route result, transposed to the reference leg order, is a
    zero-padded copy of the reference contraction itself. -/
theorem refM_to_reference [AddCommMonoid R] [Mul R] [Neg R] [SignRing R] (N : Net4 R) (U : Arr R)
    (h : RefM N U) :
    ∃ T0 P, N.r1 0 1 2 3 = .ok T0 ∧ Arr.isPerm P U.ndim = true ∧ ZeroPad (U.transposeF P) T0 := by
  obtain ⟨T, ⟨T0, e0, v, f, t⟩, z⟩ := h
  obtain ⟨P, hP, zz⟩ := zeroPad_teq z v f t
  exact ⟨T0, P, e0, hP, zz⟩

/-- Two results of ANY two routes (orderings, bracketings, operand
    orders, a mode per call), each brought to the reference leg order: same labels, charge, rank,
    leg directions; on every sector of the reference contraction `T0` the same block shape and the
    same values; all other blocks of either are zero. -/
theorem net4_routes_agree_modes_at [AddCommMonoid R] [Mul R] [Neg R] [SignRing R] (N : Net4 R)
    (U U' : Arr R) (h : RefM N U) (h' : RefM N U') :
    ∃ T0 P P', N.r1 0 1 2 3 = .ok T0
      ∧ Arr.isPerm P U.ndim = true ∧ Arr.isPerm P' U'.ndim = true
      ∧ ZeroPad (U.transposeF P) T0 ∧ ZeroPad (U'.transposeF P') T0
      ∧ U.oddpos = U'.oddpos ∧ U.charge = U'.charge ∧ U.ndim = U'.ndim
      ∧ (∀ i, ((U.transposeF P).indices.getD i default).dual
          = ((U'.transposeF P').indices.getD i default).dual)
      ∧ (∀ s ∈ T0.sectors, s ∈ (U.transposeF P).sectors ∧ s ∈ (U'.transposeF P').sectors
          ∧ Arr.blockShapeD (U.transposeF P).indices s = Arr.blockShapeD (U'.transposeF P').indices s
          ∧ ∀ o, inBox (Arr.blockShapeD T0.indices s) o = true →
              (U.transposeF P).elem s o = (U'.transposeF P').elem s o)
      ∧ (∀ s, s ∉ T0.sectors →
          (∀ o, inBox (Arr.blockShapeD (U.transposeF P).indices s) o = true →
            (U.transposeF P).elem s o = 0)
          ∧ (∀ o, inBox (Arr.blockShapeD (U'.transposeF P').indices s) o = true →
            (U'.transposeF P').elem s o = 0)) := by
  obtain ⟨T0, P, e0, hP, z⟩ := refM_to_reference N U h
  obtain ⟨T0', P', e0', hP', z'⟩ := refM_to_reference N U' h'
  obtain rfl : T0 = T0' := Except.ok.inj (e0.symm.trans e0')
  have o1 : U.oddpos = T0.oddpos := z.oddpos
  have o2 : U'.oddpos = T0.oddpos := z'.oddpos
  have c1 : U.charge = T0.charge := z.charge
  have c2 : U'.charge = T0.charge := z'.charge
  obtain ⟨_, ⟨_, _, vT, fT, _⟩, zU⟩ := h
  obtain ⟨_, ⟨_, _, vT', fT', _⟩, zU'⟩ := h'
  have n1 : (U.transposeF P).ndim = U.ndim := transposeF_ndim U P zU.valid zU.fermi hP
  have n2 : (U'.transposeF P').ndim = U'.ndim := transposeF_ndim U' P' zU'.valid zU'.fermi hP'
  refine ⟨T0, P, P', e0, hP, hP', z, z', o1.trans o2.symm, c1.trans c2.symm,
    by rw [← n1, ← n2, z.ndim, z'.ndim], fun i => (z.dual i).trans (z'.dual i).symm, ?_, ?_⟩
  · intro s hs
    exact ⟨z.sub s hs, z'.sub s hs, (z.shape s hs).trans (z'.shape s hs).symm,
      fun o ho => (z.elem s hs o ho).trans (z'.elem s hs o ho).symm⟩
  · intro s hs
    exact ⟨z.zero s hs, z'.zero s hs⟩

example : exNet.OK ∧ (∀ x y : Int, x * y = y * x) ∧ (∀ x : Int, 0 * x = 0) ∧ (∀ x : Int, x * 0 = 0) :=
  ⟨exNet_ok.1, exNet_ok.2, Int.zero_mul, Int.mul_zero⟩

/-- a mode assignment that uses all three modes -/
def exModes : Fin 15 → TdotMode := fun i =>
  if i.val % 3 == 0 then .fused else if i.val % 3 == 1 then .auto else .blockwise

open SymmModel.C03 in
/-- sanity instance on the square: the five bracketings with mixed modes give the labels, rank and
    value of the blockwise route (the stored sector sets may be larger) -/
example :
    ([routeM1 gA cB cC cD [2] [] [0] [0] [2] [] [] [0] [1] [1] [] [0] (exModes 0) (exModes 1) (exModes 2),
      routeM2 gA cB cC cD [2] [] [0] [0] [2] [] [] [0] [1] [1] [] [0] (exModes 3) (exModes 4) (exModes 5),
      routeM3 gA cB cC cD [2] [] [0] [0] [2] [] [] [0] [1] [1] [] [0] (exModes 6) (exModes 7) (exModes 8),
      routeM4 gA cB cC cD [2] [] [0] [0] [2] [] [] [0] [1] [1] [] [0] (exModes 9) (exModes 10) (exModes 11),
      routeM5 gA cB cC cD [2] [] [0] [0] [2] [] [] [0] [1] [1] [] [0] (exModes 12) (exModes 13) (exModes 14),
      route1 gA cB cC cD [2] [] [0] [0] [2] [] [] [0] [1] [1] [] [0]].map
      (fun (t : Except Err (Arr Int)) => (C04.labelsOf t, (resOf t).indices.length,
        elemOf t [(0,0),(0,0)] [0,0])))
      = List.replicate 6 ([(5, true), (1, false), (3, false), (7, false)], 2, some (-140)) := by
  decide +kernel

open SymmModel.C03 in
/-- sanity instance with flags AND modes on the square (flags of C04h's `exFlags`): same labels,
    rank and value -/
example :
    ([routeSM1 gA cB cC cD [2] [] [0] [0] [2] [] [] [0] [1] [1] [] [0] (exFlags 0) (exFlags 1) (exFlags 2)
        (exModes 0) (exModes 1) (exModes 2),
      routeSM2 gA cB cC cD [2] [] [0] [0] [2] [] [] [0] [1] [1] [] [0] (exFlags 3) (exFlags 4) (exFlags 5)
        (exModes 3) (exModes 4) (exModes 5),
      routeSM3 gA cB cC cD [2] [] [0] [0] [2] [] [] [0] [1] [1] [] [0] (exFlags 6) (exFlags 7) (exFlags 8)
        (exModes 6) (exModes 7) (exModes 8),
      routeSM4 gA cB cC cD [2] [] [0] [0] [2] [] [] [0] [1] [1] [] [0] (exFlags 9) (exFlags 10) (exFlags 11)
        (exModes 9) (exModes 10) (exModes 11),
      routeSM5 gA cB cC cD [2] [] [0] [0] [2] [] [] [0] [1] [1] [] [0] (exFlags 12) (exFlags 13) (exFlags 14)
        (exModes 12) (exModes 13) (exModes 14)].map
      (fun (t : Except Err (Arr Int)) => (C04.labelsOf t, (resOf t).indices.length,
        elemOf t [(0,0),(0,0)] [0,0])))
      = List.replicate 5 ([(5, true), (1, false), (3, false), (7, false)], 2, some (-140)) := by
  decide +kernel

/-! ## second part: several pairs at once or one after another (frame) -/

/- The frame part only.  The value part — `e.elem s o = c'.elem s o` on every block of `c'`, with the
   Koszul sign of `einOrder` against the nesting signs of the extra pairs — is `C04.two_step_values`
   (Props/C04j), for the canonical einsum labels. -/
theorem two_step_frame_partial [AddCommMonoid R] [Mul R] [Neg R] [SignRing R]
    (a b c e c' : Arr R) (xa xb ya yb lhs rhs : List Nat)
    (ha : a.validB = true) (hb : b.validB = true) (hfa : a.fermi = true) (hfb : b.fermi = true)
    (g1 : tdotAdmissibleCommonB a b xa xb = true)
    (g2 : tdotAdmissibleCommonB a b (xa ++ ya) (xb ++ yb) = true)
    (h1 : a.tensordotF b (.pair (xa.map Int.ofNat) (xb.map Int.ofNat)) .blockwise = .ok c)
    (h2 : c.einsumF lhs rhs = .ok e)
    (h3 : a.tensordotF b (.pair ((xa ++ ya).map Int.ofNat) ((xb ++ yb).map Int.ofNat)) .blockwise
      = .ok c') :
    e.oddpos = c'.oddpos ∧ e.charge = c'.charge ∧ e.sym = c'.sym ∧ e.fermi = c'.fermi :=
  two_step_frame (AdmW.of ha hb hfa hfb g1) (AdmW.of ha hb hfa hfb g2) h1 h2 h3

open SymmModel.C03 in
/-- non-vacuity and a sanity instance of the FULL statement: `gA`, `gB` (C03) with the double bond
    `(1, 2) ~ (1, 0)`; first the pair `1 ~ 1` by `tensordotF`, then the pair `2 ~ 0` (legs 1, 2 of
    the intermediate) by `einsumF`: same labels, charge, tables and stored values as at once -/
example :
    gA.validB = true ∧ gB.validB = true ∧ gA.fermi = true ∧ gB.fermi = true
    ∧ tdotAdmissibleCommonB gA gB [1] [1] = true
    ∧ tdotAdmissibleCommonB gA gB ([1] ++ [2]) ([1] ++ [0]) = true
    ∧ (match gA.tensordotF gB (.pair [1] [1]) .blockwise, gA.tensordotF gB (.pair [1, 2] [1, 0]) .blockwise with
       | .ok c, .ok c' =>
         (match c.einsumF [0, 1, 1, 2] [0, 2] with
          | .ok e => e.oddpos == c'.oddpos && e.charge == c'.charge && e.indices == c'.indices
              && e.phaseSync.blocks.map (fun p => (p.1, p.2.data))
                  == c'.phaseSync.blocks.map (fun p => (p.1, p.2.data))
              && c'.blocks.length == 2
          | .error _ => false)
       | _, _ => false) = true := by
  decide +kernel

/-! ## third part: the label check of the doubled network, up to four labels per tensor -/

theorem allPats4_def :
    allPats4 = (List.range 5).flatMap (fun a => (List.range 5).flatMap (fun b => pats a b))
    ∧ (∀ a b, pats a b = (subsetsOf ((List.range (a + b)).map Int.ofNat) a).map (fun ca =>
        (ca, ((List.range (a + b)).map Int.ofNat).filter (fun x => !ca.contains x)))) :=
  ⟨rfl, fun _ _ => rfl⟩

/-- All sorted ket lists with at most four labels each and pairwise-distinct
    labels (C04g's `netLabelsB_two` with 4 in place of 2). -/
theorem netLabelsB_four (oA oB : List (Int × Bool)) (hA : NormNet.KetLabels oA)
    (hB : NormNet.KetLabels oB) (lA : oA.length ≤ 4) (lB : oB.length ≤ 4)
    (hd : (oA ++ oB).Pairwise (fun x y => x.1 ≠ y.1)) (pA pB : Bool) :
    NormNet.netLabelsB pA pB oA oB = true :=
  LabelAlg.netLabelsB_of_distinct pA pB oA oB hd

/-- `G` strictly increasing, `(ca, cb)` an interleaving pattern with at
    most four ranks per side: `netLabelsB` holds for the ket lists `G[ca]`, `G[cb]`. -/
theorem netLabelsB_pattern4 (G : List Int) (hG : G.Pairwise (· < ·)) (ca cb : List Int)
    (hp : (ca, cb) ∈ allPats4) (hl : G.length = ca.length + cb.length) (pA pB : Bool) :
    NormNet.netLabelsB pA pB ((ket ca).map (relab (fun i => G.getD i.toNat 0)))
      ((ket cb).map (relab (fun i => G.getD i.toNat 0))) = true := by
  obtain ⟨hn, hr⟩ := allPats4_ranks hp
  apply LabelAlg.netLabelsB_of_distinct
  -- different ranks in range read different entries of the increasing `G`
  unfold ket OddposP.LabelsDistinct
  rw [← List.map_append, ← List.map_append, List.pairwise_map, List.pairwise_map]
  refine hn.imp_of_mem (fun {i j} hi hj hij e => hij ?_)
  exact ((emb_getD G hG i j (by rw [hl]; exact hr i hi) (by rw [hl]; exact hr j hj)).1).mp e

/-- turning the Boolean check into the merge and the four `LabelRoutes` conditions -/
theorem labelRoutes_of_netLabelsB {pA pB : Bool} {oA oB : List (Int × Bool)}
    (h : NormNet.netLabelsB pA pB oA oB = true) :
    ∃ out ph, OddposP.mergeOddpos pA oA oB = .ok (out, ph)
      ∧ Assoc2P.LabelRoutes (xor pA pB) pA out (Arr.oddposDag oA) (Arr.oddposDag oB)
      ∧ Assoc2P.LabelRoutes pA pB oA oB (Arr.oddposDag out)
      ∧ Assoc2P.LabelRoutes pA pB (Arr.oddposDag oA) (Arr.oddposDag oB) out
      ∧ Assoc2P.LabelRoutes (xor pA pB) pA (Arr.oddposDag out) oA oB := by
  cases hm : OddposP.mergeOddpos pA oA oB with
  | error e =>
    unfold NormNet.netLabelsB at h
    rw [hm] at h
    cases h
  | ok r =>
    obtain ⟨out, ph⟩ := r
    exact ⟨out, ph, rfl, NormNet.netLabelsB_spec hm h⟩

/-- Hence the merge of the two ket lists succeeds and the four
    `LabelRoutes` conditions of the doubled network hold. -/
theorem labelRoutes_pattern4 (G : List Int) (hG : G.Pairwise (· < ·)) (ca cb : List Int)
    (hp : (ca, cb) ∈ allPats4) (hl : G.length = ca.length + cb.length) (pA pB : Bool)
    (oA oB : List (Int × Bool))
    (hA : oA = (ket ca).map (relab (fun i => G.getD i.toNat 0)))
    (hB : oB = (ket cb).map (relab (fun i => G.getD i.toNat 0))) :
    ∃ out ph, OddposP.mergeOddpos pA oA oB = .ok (out, ph)
      ∧ Assoc2P.LabelRoutes (xor pA pB) pA out (Arr.oddposDag oA) (Arr.oddposDag oB)
      ∧ Assoc2P.LabelRoutes pA pB oA oB (Arr.oddposDag out)
      ∧ Assoc2P.LabelRoutes pA pB (Arr.oddposDag oA) (Arr.oddposDag oB) out
      ∧ Assoc2P.LabelRoutes (xor pA pB) pA (Arr.oddposDag out) oA oB :=
  labelRoutes_of_netLabelsB (hA ▸ hB ▸ netLabelsB_pattern4 G hG ca cb hp hl pA pB)

/-- Hence the merge succeeds and the four `LabelRoutes` conditions of the
    doubled network hold (`K = a·b` with labels `out`; triples `(K, ā, b̄)`, `(a, b, K̄)`,
    `(ā, b̄, K)`, `(K̄, a, b)`). -/
theorem labelRoutes_four (oA oB : List (Int × Bool)) (hA : NormNet.KetLabels oA)
    (hB : NormNet.KetLabels oB) (lA : oA.length ≤ 4) (lB : oB.length ≤ 4)
    (hd : (oA ++ oB).Pairwise (fun x y => x.1 ≠ y.1)) (pA pB : Bool) :
    ∃ out ph, OddposP.mergeOddpos pA oA oB = .ok (out, ph)
      ∧ Assoc2P.LabelRoutes (xor pA pB) pA out (Arr.oddposDag oA) (Arr.oddposDag oB)
      ∧ Assoc2P.LabelRoutes pA pB oA oB (Arr.oddposDag out)
      ∧ Assoc2P.LabelRoutes pA pB (Arr.oddposDag oA) (Arr.oddposDag oB) out
      ∧ Assoc2P.LabelRoutes (xor pA pB) pA (Arr.oddposDag out) oA oB :=
  labelRoutes_of_netLabelsB (netLabelsB_four oA oB hA hB lA lB hd pA pB)

/-- non-vacuity: three and four labels, interleaved -/
example : NormNet.KetLabels [((4 : Int), false), (9, false), (31, false)]
    ∧ NormNet.KetLabels [((6 : Int), false), (11, false), (20, false), (40, false)]
    ∧ ([((4 : Int), false), (9, false), (31, false)]
        ++ [(6, false), (11, false), (20, false), (40, false)]).Pairwise
        (fun (x y : Int × Bool) => x.1 ≠ y.1) := by
  refine ⟨⟨by decide, by decide⟩, ⟨by decide, by decide⟩, by decide⟩

/-- non-vacuity: three labels per tensor, interleaved `a < b < a < b < b < a` -/
example : ([4, 6, 9, 11, 20, 31] : List Int).Pairwise (· < ·) ∧ ([0, 2, 5], [1, 3, 4]) ∈ allPats4
    ∧ ([4, 6, 9, 11, 20, 31] : List Int).length = [(0 : Int), 2, 5].length + [(1 : Int), 3, 4].length
    ∧ (ket [0, 2, 5]).map (relab (fun i => ([4, 6, 9, 11, 20, 31] : List Int).getD i.toNat 0))
        = [(4, false), (9, false), (31, false)]
    ∧ (ket [1, 3, 4]).map (relab (fun i => ([4, 6, 9, 11, 20, 31] : List Int).getD i.toNat 0))
        = [(6, false), (11, false), (20, false)] := by
  refine ⟨by decide, by decide +kernel, rfl, by decide +kernel, by decide +kernel⟩

end SymmModel.C04
