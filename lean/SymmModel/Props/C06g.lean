/-
  C06 (seventh part) — the FIRST clause of the property for FERMIONIC operands (general: contracted
  legs at any positions, in any order, no preliminary transposition), and the abelian first clause
  with both contractions in any mode.

  Abelian:
  * `tensordot_fuse_contracted_commute_both_modes` — C06f's `tensordot_fuse_contracted_commute`
    with the contraction of the two pre-fused operands in mode `mode1` AND `tensordot(a, b)` over
    the original pairs in mode `mode2` (each of blockwise / fused / auto): every stored entry of the
    first result is the element of the second at that address.
    (`fuse_contracted_aligned_every_mode`: the aligned-pair level, with the stored blocks' shapes.)

  Fermionic (`tensordot_fermionic`, `FermionicArray.fuse`; even and odd parity, pending signs,
  labels, any directions; weak guard `tdotAdmissibleCommonB`):
  * `tensordot_fuse_contracted_commute_fermionic` — the public route from `a`, `b`: align
    (`drop_misaligned_sectors`), `fuse` (either strategy, any `expand_empty`) the contracted legs
    `xa` / `xb` of each operand (ARBITRARY distinct axes, any order; `fuse` transposes by
    `before ++ group ++ after` itself), `tensordot_fermionic` over the single fused pair
    `(min xa, min xb)` — against `tensordot_fermionic(a, b, (xa, xb))` (blockwise): same (label)
    error, or both succeed with the same labels, charge, symmetry, kind, rank and the SAME ELEMENT at
    every address of the free legs' table box (tables of the aligned operands).
  * `tensordot_fuse_contracted_commute_fermionic_any_mode` — the same with the contraction over the
    original pairs in mode `m1` and the contraction of the fused operands in mode `m2` (each of
    blockwise / fused / auto): every stored entry of the fused-route result is the element of the
    plain result at that address.
  * `fuse_contracted_aligned_fermionic` — the same one level down, for an aligned fermionic pair
    (`TdotP.FCtxG`, spelled out by `fctxG_iff`; the operands after `dropMisaligned` are such a
    pair: `aligned_fctxG`).
  * `fuse_signs_contraction_compatible` — THE SIGN IDENTITY ("fermionic fuse signs chosen to be
    contraction-compatible"; `FermionicArray.fuse`, fermionic_core.py:627-711): for every pair of
    sectors with equal contracted charges, the graded sign of the contraction over the original pairs (two Koszul
    signs, nesting sign `(-1)^(m(m-1)/2)`, `-1` per odd ket-then-bra pair; `gradedSign`, C03) is
    the graded sign of the contraction over the SINGLE fused pair (`bondSign`; it depends only on
    the free charges, the direction of the fused leg and the parity of the fused charge:
    `gradedSign_single_pair`) times the two fermionic fuse signs (C05's `fuseSignF`, the
    transposition sign of the fuse included: `fuseF_group_sign`).  Arbitrary groups: the
    transposition sign of each fuse cancels against the Koszul sign of the contraction
    (`KoszulP.koszul_block_move`).
  * `fuseF_group_operand` — the operand of `_fuse_core` inside the fermionic fuse of one arbitrary
    group: layout `before ++ group ++ after`, every sector multiplied by `fuseSignF`, no pending
    signs; the fused leg sits at the consecutive positions `newG`.
  * the special case of contracted legs ADJACENT AND IN ORDER (`TdotP.AdjOk`, `adjacent_consecutive`,
    `adjOk_iff`): the fuse does not transpose, `fuseF_adjacent_operand`, `fuseF_adjacent_sign`,
    `fuse_signs_contraction_compatible_adjacent`, `fuse_contracted_aligned_fermionic_adjacent`.
  How: `gradedContract` of the fused operands = `bondSign` · (abelian contraction of the fused
  operands) [the graded sign is constant on the pairs of one result sector, by charge conservation]
  = `bondSign` · (abelian contraction of the two `_fuse_core` operands over the new positions)
  [C06f's abelian theorem `bond_fuse_core`] = pair sum over the original operands twisted by the two
  fuse signs [`GradedP.contract_transport` at the layout `TdotP.lay_one` of `_fuse_core`]
  = `gradedContract` of the originals [sign identity]; `tensordot_fermionic` refines `gradedContract`
  (C03), aligning does not change it (`TdotP.gradedContract_dropMisaligned`).
  `fuse_contracted_aligned_fermionic` is stated and proved in `Proofs/FuseCommuteG4` (namespace
  `SymmModel.C06`).
  NOT proved here: equality of the results' pruned index tables (false in general: the fused-route
  result may store an additional all-zero sector, as in the abelian case); the concat/insert
  strategies and the `expand_empty` flag are covered, empty contracted lists (`xa = []`) are not
  (nothing to fuse).
-/
import SymmModel.Props.C06All5
import SymmModel.Proofs.FuseCommuteF8
import SymmModel.Proofs.FuseCommuteG5

namespace SymmModel.C06
open SymmModel SymmModel.TdotP SymmModel.GradedP SymmModel.RoutesP SymmModel.AssocP SymmModel.KoszulP
open SymmModel.Assoc3P SymmModel.Assoc4P

variable {R : Type}

/-- **fuse_contracted_aligned_every_mode** (aligned abelian pair): the contraction of the two
    pre-fused operands over the single fused pair in ANY mode succeeds; every stored block
    `(K, V)` has the shape the free legs' tables give to `K`, and every stored entry is the element
    of the blockwise contraction of `A`, `B` over the original pairs. -/
theorem fuse_contracted_aligned_every_mode [AddCommMonoid R] [Mul R] [Neg R]
    (hz1 : ∀ x : R, 0 * x = 0) (hz2 : ∀ x : R, x * 0 = 0) {A B : Arr R} {xa xb : List Nat}
    (h : Ctx0 A B xa xb) (hne : xa ≠ []) (mode : TdotMode) :
    ∃ cm, tensordotA (FuseP.fusedArrM A [xa]) (FuseP.fusedArrM B [xb])
        (.pair [Int.ofNat (bondPos A xa)] [Int.ofNat (bondPos B xb)]) mode = .ok cm
      ∧ ∀ K V, alookup cm.blocks K = some V →
          Arr.blockShape? (permuted A.indices (freeAxes A.ndim xa) ++ permuted B.indices (freeAxes B.ndim xb)) K
            = some V.shape
          ∧ ∀ J, inBox V.shape J = true →
            cm.elem K J = (tensordotBlockwise A B (freeAxes A.ndim xa) xa xb (freeAxes B.ndim xb)).elem K J := by
  obtain ⟨cm, t, _, hel⟩ := fuse_contracted_aligned_modes hz1 hz2 h hne mode
  exact ⟨cm, t, hel⟩

/-- **tensordot_fuse_contracted_commute_both_modes** (abelian, public operations): align, fuse
    the contracted legs of each operand into one (strategy `m1` / `m2`), contract the single fused
    pair in mode `mode1` — against `tensordot(a, b)` over the original pairs in mode `mode2`:
    all calls succeed and every stored entry of the first result is the element of the second at
    that address. -/
theorem tensordot_fuse_contracted_commute_both_modes [AddCommMonoid R] [Mul R] [Neg R]
    (hz1 : ∀ x : R, 0 * x = 0) (hz2 : ∀ x : R, x * 0 = 0) (a b : Arr R) (xa xb : List Nat)
    (ha : a.validB = true) (hb : b.validB = true) (hfa : a.fermi = false) (hfb : b.fermi = false)
    (hsym : a.sym = b.sym) (hc : ValidP.contractibleB a b xa xb = true)
    (hnA : xa.Nodup) (hnB : xb.Nodup) (hA : ∀ x ∈ xa, x < a.ndim) (hB : ∀ x ∈ xb, x < b.ndim)
    (hne : xa ≠ []) (m1 m2 : FuseMode) (mode1 mode2 : TdotMode) :
    ∃ af bf cm c,
      fuseA (dropMisaligned a b xa xb).1 [xa] m1 false = .ok af
      ∧ fuseA (dropMisaligned a b xa xb).2 [xb] m2 false = .ok bf
      ∧ tensordotA af bf (.pair [Int.ofNat (bondPos (dropMisaligned a b xa xb).1 xa)]
            [Int.ofNat (bondPos (dropMisaligned a b xa xb).2 xb)]) mode1 = .ok cm
      ∧ tensordotA a b (.pair (xa.map Int.ofNat) (xb.map Int.ofNat)) mode2 = .ok c
      ∧ ∀ K V, alookup cm.blocks K = some V → ∀ J, inBox V.shape J = true → cm.elem K J = c.elem K J := by
  obtain ⟨n1, n2⟩ := dropMisaligned_ndim a b xa xb
  have h := aligned_ctx0 a b xa xb ha hb hfa hfb hsym hc hnA hnB hA hB
  obtain ⟨f1, f2, _⟩ := fuse_contracted_aligned hz1 hz2 h hne m1 m2
  obtain ⟨cm, t1, _, hcm⟩ := fuse_contracted_aligned_modes hz1 hz2 h hne mode1
  obtain ⟨c, t2, _, _, hel⟩ := tensordotA_every_mode hz1 hz2 a b _ xa xb
    (ValidP.parseAxes_nat a.ndim b.ndim xa xb h.len hA hB) ha hb hfa hfb hsym hc hnA hnB hA hB mode2
  have hph : a.phases = [] := Arr.phases_nil_of_validB ha hfa
  refine ⟨_, _, cm, c, f1, f2, t1, t2, fun K V hK J hJ => ?_⟩
  -- the shape of a stored block in the ORIGINAL free-leg tables
  have h0 := (hcm K V hK).1
  rw [n1, n2] at h0
  have hshp : Arr.blockShape? (without a.indices xa ++ without b.indices xb) K = some V.shape := by
    rw [without_eq_permuted_freeAxes, without_eq_permuted_freeAxes]
    exact blockShape?_weaken
      (forall₂_append (forall₂_permuted (dropUnused_sizeLe a.indices _) _)
        (forall₂_permuted (dropUnused_sizeLe b.indices _) _)) K V.shape h0
  rw [hel K J (by rw [Arr.blockShapeD, hshp]; exact hJ), (hcm K V hK).2 J hJ, n1, n2,
    Arr.elem_of_phases_nil (show (tensordotBlockwise (dropMisaligned a b xa xb).1
        (dropMisaligned a b xa xb).2 (freeAxes a.ndim xa) xa xb (freeAxes b.ndim xb)).phases = [] from hph),
    Arr.elem_of_phases_nil (show (tensordotBlockwise a b (freeAxes a.ndim xa) xa xb
        (freeAxes b.ndim xb)).phases = [] from hph),
    tensordotBlockwise_blocks_dropMisaligned]

/-- the consecutive positions of the group after the fuse's transposition -/
theorem newG_def (X : Arr R) (g : List Nat) :
    newG X g = (List.range g.length).map (fun t => bondPos X g + t) := rfl

/-- **fuseF_group_sign**: the sign the fermionic fuse of ONE arbitrary group `g` applies to the
    sector `s` of the original array (C05's `fuseSignF`): for a dual group (first leg dual)
    `(-1)^(odd non-dual legs of g) · (-1)^(m(m-1)/2)`, `m` the number of odd charges of the group,
    `+1` for a non-dual group — times the Koszul sign of the transposition `before ++ g ++ after`. -/
theorem fuseF_group_sign [Zero R] [Neg R] {X : Arr R} {g : List Nat}
    (hne : g ≠ []) (hnd : g.Nodup) (hlt : ∀ x ∈ g, x < X.ndim) (s : Sector) (hs : s.length = X.ndim) :
    FuseP.fuseSignF X [g] s
      = (if (X.indices.getD (g.headD 0) default).dual
          then sgn (ketOdd X g s) * sgn (oddContracted X g s * (oddContracted X g s - 1) / 2)
          else 1)
        * koszul (X.parities s) (some (calcFuseGroupInfo [g] X.duals).perm) :=
  one_fuseSignF ⟨hne, hnd, hlt⟩ s hs

/-- **fuseF_group_operand**: `fuseF(a, [g])` for one arbitrary group: it is `_fuse_core` of the
    operand `signAdj a [g]` over the consecutive positions `newG a g`; that operand has no pending
    signs, the index tables / stored sectors of `a` re-listed along `perm = before ++ g ++ after`,
    and at every stored address the value of `a` times `fuseSignF`. -/
theorem fuseF_group_operand [AddMonoid R] [Mul R] [Neg R] [SignRing R] (a : Arr R) {g : List Nat}
    (hv : a.validB = true) (hf : a.fermi = true)
    (hne : g ≠ []) (hnd : g.Nodup) (hlt : ∀ x ∈ g, x < a.ndim) (e : Bool) :
    a.fuseF [g] .insert e = .ok (FuseP.fusedArrM (FuseP.signAdj a [g]) [newG a g])
    ∧ (FuseP.signAdj a [g]).phases = []
    ∧ (FuseP.signAdj a [g]).validB = true
    ∧ (FuseP.signAdj a [g]).indices = permuted a.indices (calcFuseGroupInfo [g] a.duals).perm
    ∧ (FuseP.signAdj a [g]).sectors = a.sectors.map (fun s => permuted s (calcFuseGroupInfo [g] a.duals).perm)
    ∧ ∀ s ∈ a.sectors, ∀ off, inBox (Arr.blockShapeD a.indices s) off = true →
        (FuseP.signAdj a [g]).elem (permuted s (calcFuseGroupInfo [g] a.duals).perm)
            (permuted off (calcFuseGroupInfo [g] a.duals).perm)
          = Lazy.sgnI (FuseP.fuseSignF a [g] s) (a.elem s off) := by
  have h : OneOk a g := ⟨hne, hnd, hlt⟩
  have P := prepared_signAdj a hv hf h
  have hfuse := (FuseP.fuseF_elemT a [g] e hv hf h.groupsOk).1
  rw [one_newGroupsF h] at hfuse
  exact ⟨hfuse, P.phases, (ValidP.validB_iff _).mpr (FuseP.signAdj_valid a [g] hv hf h.groupsOk),
    P.indices, P.sectors, P.elem⟩

/-- the graded sign of a contraction over one pair of legs at positions `pA`, `pB` -/
theorem bondSign_def (sym : Sym) (dualA : Bool) (pA pB : Nat) (Ls Rs : Sector) (m : Nat) :
    bondSign sym dualA pA pB Ls Rs m
      = sgn (m * oddIn sym (Ls.drop pA)) * sgn (oddIn sym (Rs.take pB) * m) * (if dualA then 1 else sgn m) :=
  rfl

/-- **gradedSign_single_pair**: the graded sign (C03) of a contraction over a SINGLE pair of legs
    (`pA` of `AF`, `pB` of `BF`) is `bondSign` of the free charges, the direction of the left leg
    and any `m` with the parity of the contracted charge. -/
theorem gradedSign_single_pair (AF BF : Arr R) (pA mA pB mB : Nat) (hnA : AF.ndim = pA + 1 + mA)
    (hnB : BF.ndim = pB + 1 + mB) (hsym : AF.sym = BF.sym) (sa' sb' : Sector)
    (hla : sa'.length = AF.ndim) (hlb : sb'.length = BF.ndim)
    (hK : permuted sb' [pB] = permuted sa' [pA]) (m : Nat)
    (hm : oddIn AF.sym (permuted sa' [pA]) % 2 = m % 2) :
    gradedSign AF BF [pA] [pB] sa' sb'
      = bondSign AF.sym (AF.indices.getD pA default).dual pA pB
          (permuted sa' (freeAxes AF.ndim [pA])) (permuted sb' (freeAxes BF.ndim [pB])) m :=
  gradedSign_fusedpair AF BF pA mA pB mB hnA hnB hsym sa' sb' hla hlb hK m hm

/-- **fuse_signs_contraction_compatible.**  `A`, `B` any arrays of one symmetry, contracted groups
    `xa`, `xb` (ARBITRARY non-empty lists of distinct axes) with opposite directions; `sa`, `sb`
    sectors of full length with equal contracted charges.  Then
      gradedSign(A, B; xa, xb)(sa, sb)
        = bondSign(free charges of sa, sb; number of odd contracted charges)
          · fuseSignF(A, xa)(sa) · fuseSignF(B, xb)(sb). -/
theorem fuse_signs_contraction_compatible [Zero R] [Neg R] (A B : Arr R) {xa xb : List Nat}
    (hneA : xa ≠ []) (hndA : xa.Nodup) (hltA : ∀ x ∈ xa, x < A.ndim)
    (hndB : xb.Nodup) (hltB : ∀ x ∈ xb, x < B.ndim)
    (hsym : A.sym = B.sym) (hlen : xa.length = xb.length)
    (hdual : (xb.map (fun ax => B.indices.getD ax default)).map Index.dual
      = (xa.map (fun ax => A.indices.getD ax default)).map (fun ix => !ix.dual))
    (sa sb : Sector) (hla : sa.length = A.ndim) (hlb : sb.length = B.ndim)
    (hK : permuted sb xb = permuted sa xa) :
    gradedSign A B xa xb sa sb
      = bondSign A.sym (A.indices.getD (xa.headD 0) default).dual (bondPos A xa) (bondPos B xb)
          (permuted sa (freeAxes A.ndim xa)) (permuted sb (freeAxes B.ndim xb)) (oddContracted A xa sa)
        * FuseP.fuseSignF A [xa] sa * FuseP.fuseSignF B [xb] sb :=
  fuse_signs_compatible A B ⟨hneA, hndA, hltA⟩
    ⟨by intro e; rw [e] at hlen; exact hneA (List.eq_nil_of_length_eq_zero hlen), hndB, hltB⟩
    hsym hlen hdual sa sb hla hlb hK

/-- consecutive legs `p, p+1, …, p+k-1` (any position) are a group of adjacent legs in order -/
theorem adjacent_consecutive (X : Arr R) (p k : Nat) (hk : 1 ≤ k) (hpk : p + k ≤ X.ndim) :
    AdjOk X ((List.range k).map (fun j => p + j)) :=
  adjOk_consecutive X p k hk hpk

/-- what `AdjOk` says: a non-empty group of distinct legs whose `_fuse_core` permutation
    `before ++ group ++ after` is the identity -/
theorem adjOk_iff (X : Arr R) (g : List Nat) :
    AdjOk X g ↔ (g ≠ [] ∧ g.Nodup ∧ (∀ x ∈ g, x < X.ndim))
      ∧ (calcFuseGroupInfo [g] X.duals).perm = List.range X.ndim :=
  ⟨fun h => ⟨⟨h.one.ne, h.one.nd, h.one.lt⟩, h.idp⟩, fun h => ⟨⟨h.1.1, h.1.2.1, h.1.2.2⟩, h.2⟩⟩

/-- **fuseF_adjacent_operand**: the operand of `_fuse_core` inside the fermionic fuse of a group
    of adjacent legs in order is the array itself (same tables, same stored sectors, no pending
    signs) with every sector multiplied by the fuse sign `fuseSignT` (C05). -/
theorem fuseF_adjacent_operand [Zero R] [Neg R] [Lazy.LawfulNeg R] (a : Arr R) {g : List Nat}
    (hv : a.validB = true) (hf : a.fermi = true) (h : AdjOk a g) (e : Bool) :
    a.fuseF [g] .insert e = .ok (FuseP.fusedArrM (FuseP.signAdj a [g]) [g])
    ∧ (FuseP.signAdj a [g]).indices = a.indices
    ∧ (FuseP.signAdj a [g]).sectors = a.sectors
    ∧ (FuseP.signAdj a [g]).phases = []
    ∧ (FuseP.signAdj a [g]).validB = true
    ∧ ∀ S J, (FuseP.signAdj a [g]).elem S J = Lazy.sgnI (FuseP.fuseSignT a [g] S) (a.elem S J) := by
  obtain ⟨h1, _, h3, h4, h5, _, _, _, h9⟩ := signAdj_adj a hv hf h
  have hfuse := (FuseP.fuseF_elemT a [g] e hv hf h.one.groupsOk).1
  rw [adj_newGroupsF h] at hfuse
  exact ⟨hfuse, h1, h3, h4, h5, h9⟩

/-- **fuseF_adjacent_sign**: the fermionic fuse sign of a group of adjacent legs in order. -/
theorem fuseF_adjacent_sign [Zero R] [Neg R] {X : Arr R} {g : List Nat} (h : AdjOk X g) (S : Sector) :
    FuseP.fuseSignT X [g] S
      = if (X.indices.getD (g.headD 0) default).dual
        then sgn (ketOdd X g S)
          * sgn (oddCount (S.map X.sym.parity) g * (oddCount (S.map X.sym.parity) g - 1) / 2)
        else 1 :=
  adj_fuseSignT h S

/-- the sign identity for groups of adjacent legs in order (no transposition signs) -/
theorem fuse_signs_contraction_compatible_adjacent [Zero R] [Neg R] (A B : Arr R) {xa xb : List Nat}
    (hA : AdjOk A xa) (hB : AdjOk B xb) (hsym : A.sym = B.sym) (hlen : xa.length = xb.length)
    (hdual : (xb.map (fun ax => B.indices.getD ax default)).map Index.dual
      = (xa.map (fun ax => A.indices.getD ax default)).map (fun ix => !ix.dual))
    (sa sb : Sector) (hla : sa.length = A.ndim) (hlb : sb.length = B.ndim)
    (hK : permuted sb xb = permuted sa xa) :
    gradedSign A B xa xb sa sb
      = bondSign A.sym (A.indices.getD (xa.headD 0) default).dual (bondPos A xa) (bondPos B xb)
          (permuted sa (freeAxes A.ndim xa)) (permuted sb (freeAxes B.ndim xb)) (oddContracted A xa sa)
        * FuseP.fuseSignT A [xa] sa * FuseP.fuseSignT B [xb] sb := by
  have := fuse_signs_compatible A B hA.one hB.one hsym hlen hdual sa sb hla hlb hK
  rw [adj_fuseSignF hA sa hla, adj_fuseSignF hB sb hlb] at this
  exact this

/-- aligned fermionic pair, contracted legs adjacent and in order: the fused operands are
    `_fuse_core` of the sign-adjusted operands over the ORIGINAL axes (see
    `fuse_contracted_aligned_fermionic` for the statement) -/
theorem fuse_contracted_aligned_fermionic_adjacent [AddCommMonoid R] [Mul R] [Neg R] [SignRing R]
    (hz1 : ∀ x : R, 0 * x = 0) (hz2 : ∀ x : R, x * 0 = 0) {A B : Arr R} {xa xb : List Nat}
    (h : FCtx A B xa xb) (e1 e2 : Bool) :
    A.fuseF [xa] .insert e1 = .ok (FuseP.fusedArrM (FuseP.signAdj A [xa]) [xa])
    ∧ B.fuseF [xb] .insert e2 = .ok (FuseP.fusedArrM (FuseP.signAdj B [xb]) [xb])
    ∧ ∀ c, A.tensordotF B (.pair (xa.map Int.ofNat) (xb.map Int.ofNat)) .blockwise = .ok c →
      ∃ cf, (FuseP.fusedArrM (FuseP.signAdj A [xa]) [xa]).tensordotF
            (FuseP.fusedArrM (FuseP.signAdj B [xb]) [xb])
            (.pair [Int.ofNat (bondPos A xa)] [Int.ofNat (bondPos B xb)]) .blockwise = .ok cf
        ∧ cf.oddpos = c.oddpos ∧ cf.charge = c.charge
        ∧ ∀ (Ls Rs : Sector) (oL oR shpL shpR : List Nat),
            Arr.blockShape? (permuted A.indices (freeAxes A.ndim xa)) Ls = some shpL → inBox shpL oL = true →
            Arr.blockShape? (permuted B.indices (freeAxes B.ndim xb)) Rs = some shpR → inBox shpR oR = true →
            cf.elem (Ls ++ Rs) (oL ++ oR) = c.elem (Ls ++ Rs) (oL ++ oR) := by
  obtain ⟨f1, f2, _, _, _, _, hok⟩ :=
    fuse_contracted_aligned_fermionic hz1 hz2 ⟨h.W, h.adjA.one.ne, h.cm, h.dual, h.keys⟩ e1 e2
  rw [adj_newG h.adjA] at f1 hok
  rw [adj_newG h.adjB] at f2 hok
  refine ⟨f1, f2, ?_⟩
  intro c hc
  obtain ⟨cf, k1, k2, k3, _, _, _, kE⟩ := hok c hc
  exact ⟨cf, k1, k2, k3, kE⟩

/-- what an aligned fermionic pair is -/
theorem fctxG_iff [AddCommMonoid R] [Mul R] [Neg R] [SignRing R] (A B : Arr R) (xa xb : List Nat) :
    FCtxG A B xa xb ↔
      (A.validB = true ∧ B.validB = true ∧ A.fermi = true ∧ B.fermi = true ∧ A.sym = B.sym
        ∧ contractibleCommonB A B xa xb = true ∧ xa.Nodup ∧ xb.Nodup
        ∧ (∀ i ∈ xa, i < A.ndim) ∧ (∀ i ∈ xb, i < B.ndim))
      ∧ xa ≠ []
      ∧ (xa.map (fun ax => A.indices.getD ax default)).map Index.cm
          = (xb.map (fun ax => B.indices.getD ax default)).map Index.cm
      ∧ (xb.map (fun ax => B.indices.getD ax default)).map Index.dual
          = (xa.map (fun ax => A.indices.getD ax default)).map (fun ix => !ix.dual)
      ∧ ∀ K, K ∈ A.blocks.map (fun sb => xa.map (fun ax => sb.1.getD ax (0, 0))) ↔
          K ∈ B.blocks.map (fun sb => xb.map (fun ax => sb.1.getD ax (0, 0))) :=
  ⟨fun h => ⟨⟨h.W.va, h.W.vb, h.W.fa, h.W.fb, h.W.sym, h.W.con, h.W.nA, h.W.nB, h.W.ltA, h.W.ltB⟩,
      h.ne, h.cm, h.dual, h.keys⟩,
   fun h => ⟨⟨h.1.1, h.1.2.1, h.1.2.2.1, h.1.2.2.2.1, h.1.2.2.2.2.1, h.1.2.2.2.2.2.1, h.1.2.2.2.2.2.2.1,
      h.1.2.2.2.2.2.2.2.1, h.1.2.2.2.2.2.2.2.2.1, h.1.2.2.2.2.2.2.2.2.2⟩, h.2.1, h.2.2.1, h.2.2.2.1, h.2.2.2.2⟩⟩

/-- the operands after `dropMisaligned` of a fermionic pair satisfying the weak guard form an
    aligned fermionic pair -/
theorem aligned_fctxG [AddCommMonoid R] [Mul R] [Neg R] [SignRing R] (a b : Arr R) (xa xb : List Nat)
    (ha : a.validB = true) (hb : b.validB = true) (hfa : a.fermi = true) (hfb : b.fermi = true)
    (hadm : tdotAdmissibleCommonB a b xa xb = true) (hne : xa ≠ []) :
    FCtxG (dropMisaligned a b xa xb).1 (dropMisaligned a b xa xb).2 xa xb :=
  fctxG_of_dropMisaligned a b xa xb (AdmW.of ha hb hfa hfb hadm) hne

/-- the strategy of the fermionic fuse does not matter for the aligned operands -/
theorem fuseF_mode_aligned [AddCommMonoid R] [Mul R] [Neg R] [SignRing R] {A B : Arr R} {xa xb : List Nat}
    (h : FCtxG A B xa xb) (fm : FuseMode) (e : Bool) :
    A.fuseF [xa] fm e = A.fuseF [xa] .insert e ∧ B.fuseF [xb] fm e = B.fuseF [xb] .insert e := by
  cases fm
  · exact ⟨rfl, rfl⟩
  · exact ⟨C05.fuseF_concat_eq_insert A _ e h.W.va h.W.fa (FuseP.groupsOk_iff.2 h.oneA.groupsOk) (by simp),
      C05.fuseF_concat_eq_insert B _ e h.W.vb h.W.fb (FuseP.groupsOk_iff.2 h.oneB.groupsOk) (by simp)⟩

/-- **tensordot_fuse_contracted_commute_fermionic** (C06, first clause, FERMIONIC, public
    operations, blockwise).  `a`, `b` valid fermionic arrays (any parity, pending signs, labels)
    satisfying the weak guard; `xa`, `xb` ARBITRARY (non-empty) lists of distinct contracted axes.
    With `(a', b') = drop_misaligned_sectors(a, b)`: `fuse(a', xa)` and `fuse(b', xb)` (strategies
    `fm1`, `fm2`, any `expand_empty`) succeed, are valid fermionic arrays with one leg (at
    `bondPos = min`) for the contracted group; `tensordot_fermionic` of the fused operands over the
    single fused pair fails with the error of `tensordot_fermionic(a, b, (xa, xb))` (clashing
    labels) when that fails, and otherwise succeeds with the same labels, charge, symmetry, kind and
    rank and the same element at every address of the free legs' table box (tables of the aligned
    operands). -/
theorem tensordot_fuse_contracted_commute_fermionic [AddCommMonoid R] [Mul R] [Neg R] [SignRing R]
    (hz1 : ∀ x : R, 0 * x = 0) (hz2 : ∀ x : R, x * 0 = 0) (a b : Arr R) (xa xb : List Nat)
    (ha : a.validB = true) (hb : b.validB = true) (hfa : a.fermi = true) (hfb : b.fermi = true)
    (hadm : tdotAdmissibleCommonB a b xa xb = true) (hne : xa ≠ [])
    (fm1 fm2 : FuseMode) (e1 e2 : Bool) :
    ∃ af bf, (dropMisaligned a b xa xb).1.fuseF [xa] fm1 e1 = .ok af
      ∧ (dropMisaligned a b xa xb).2.fuseF [xb] fm2 e2 = .ok bf
      ∧ af.validB = true ∧ bf.validB = true ∧ af.fermi = true ∧ bf.fermi = true
      ∧ af.ndim + xa.length = a.ndim + 1 ∧ bf.ndim + xb.length = b.ndim + 1
      ∧ (∀ e, a.tensordotF b (.pair (xa.map Int.ofNat) (xb.map Int.ofNat)) .blockwise = .error e →
          af.tensordotF bf (.pair [Int.ofNat (bondPos a xa)] [Int.ofNat (bondPos b xb)]) .blockwise = .error e)
      ∧ ∀ c, a.tensordotF b (.pair (xa.map Int.ofNat) (xb.map Int.ofNat)) .blockwise = .ok c →
        ∃ cf, af.tensordotF bf (.pair [Int.ofNat (bondPos a xa)] [Int.ofNat (bondPos b xb)]) .blockwise = .ok cf
          ∧ cf.oddpos = c.oddpos ∧ cf.charge = c.charge ∧ cf.sym = c.sym ∧ cf.fermi = c.fermi
          ∧ cf.ndim = c.ndim
          ∧ ∀ (Ls Rs : Sector) (oL oR shpL shpR : List Nat),
              Arr.blockShape? (permuted (dropMisaligned a b xa xb).1.indices (freeAxes a.ndim xa)) Ls = some shpL →
              inBox shpL oL = true →
              Arr.blockShape? (permuted (dropMisaligned a b xa xb).2.indices (freeAxes b.ndim xb)) Rs = some shpR →
              inBox shpR oR = true →
              cf.elem (Ls ++ Rs) (oL ++ oR) = c.elem (Ls ++ Rs) (oL ++ oR) := by
  have W := AdmW.of ha hb hfa hfb hadm
  have h := fctxG_of_dropMisaligned a b xa xb W hne
  obtain ⟨af, bf, f1, f2, W', n1, n2, herr, hok⟩ := fuse_contracted_fermi hz1 hz2 a b xa xb W hne e1 e2
  refine ⟨af, bf, ?_, ?_, W'.va, W'.vb, W'.fa, W'.fb, n1, n2, herr, hok⟩
  · rw [(fuseF_mode_aligned h fm1 e1).1]; exact f1
  · rw [(fuseF_mode_aligned h fm2 e2).2]; exact f2

/-- **tensordot_fuse_contracted_commute_fermionic_any_mode**: as
    `tensordot_fuse_contracted_commute_fermionic`, with `tensordot_fermionic(a, b, (xa, xb))` in mode
    `m1` and the contraction of the fused operands over the single fused pair in mode `m2` (each of
    blockwise / fused / auto): same error, or both succeed with the same labels, charge, symmetry,
    kind and rank, and EVERY STORED ENTRY of the fused-route result is the element of the plain
    result at that address (a stored sector the plain result lacks is an all-zero block). -/
theorem tensordot_fuse_contracted_commute_fermionic_any_mode
    [AddCommMonoid R] [Mul R] [Neg R] [SignRing R]
    (hz1 : ∀ x : R, 0 * x = 0) (hz2 : ∀ x : R, x * 0 = 0) (a b : Arr R) (xa xb : List Nat)
    (ha : a.validB = true) (hb : b.validB = true) (hfa : a.fermi = true) (hfb : b.fermi = true)
    (hadm : tdotAdmissibleCommonB a b xa xb = true) (hne : xa ≠ [])
    (fm1 fm2 : FuseMode) (e1 e2 : Bool) (m1 m2 : TdotMode) :
    ∃ af bf, (dropMisaligned a b xa xb).1.fuseF [xa] fm1 e1 = .ok af
      ∧ (dropMisaligned a b xa xb).2.fuseF [xb] fm2 e2 = .ok bf
      ∧ (∀ e, a.tensordotF b (.pair (xa.map Int.ofNat) (xb.map Int.ofNat)) m1 = .error e →
          af.tensordotF bf (.pair [Int.ofNat (bondPos a xa)] [Int.ofNat (bondPos b xb)]) m2 = .error e)
      ∧ ∀ c, a.tensordotF b (.pair (xa.map Int.ofNat) (xb.map Int.ofNat)) m1 = .ok c →
        ∃ cf, af.tensordotF bf (.pair [Int.ofNat (bondPos a xa)] [Int.ofNat (bondPos b xb)]) m2 = .ok cf
          ∧ cf.oddpos = c.oddpos ∧ cf.charge = c.charge ∧ cf.sym = c.sym ∧ cf.fermi = c.fermi
          ∧ cf.ndim = c.ndim
          ∧ ∀ K V, alookup cf.blocks K = some V → ∀ J, inBox V.shape J = true → cf.elem K J = c.elem K J := by
  have W := AdmW.of ha hb hfa hfb hadm
  have h := fctxG_of_dropMisaligned a b xa xb W hne
  obtain ⟨af, bf, f1, f2, rest⟩ := fuse_contracted_fermi_gen_modes hz1 hz2 a b xa xb W hne e1 e2 m1 m2
  refine ⟨af, bf, ?_, ?_, rest⟩
  · rw [(fuseF_mode_aligned h fm1 e1).1]; exact f1
  · rw [(fuseF_mode_aligned h fm2 e2).2]; exact f2

/-- the fused leg sits at the smallest contracted axis -/
theorem bondPos_spec (X : Arr R) (g : List Nat) (hne : g ≠ []) (hnd : g.Nodup) (hlt : ∀ x ∈ g, x < X.ndim) :
    bondPos X g ∈ g ∧ ∀ x ∈ g, bondPos X g ≤ x :=
  ⟨one_pos_mem ⟨hne, hnd, hlt⟩, one_pos_le ⟨hne, hnd, hlt⟩⟩

/-- `c[k',l',j]` (partner of C03's `gA[i,k,l]` over `(k,l)`): ket `k'`, bra `l'`, bra `j`; odd
    charge; label 3; a pending sign; sparse: `gA`'s sector `(1,1,1)` has no partner -/
def fC : Arr Int :=
  { sym := .Z2, fermi := true, indices := [C03.ixk false, C03.ixk true, C03.ixi true], charge := (1, 0),
    blocks := [([(0,0),(1,0),(0,0)], C03.mkB [1,2,2] 1), ([(1,0),(0,0),(0,0)], C03.mkB [2,1,2] (-2)),
               ([(0,0),(0,0),(1,0)], C03.mkB [1,1,1] 5)],
    phases := [([(1,0),(0,0),(0,0)], -1)], oddpos := [(3, false)] }

-- hypotheses of the fermionic theorems: odd operands with pending signs and labels.
-- (i) two contracted legs at positions (1,2) of `gA` (a DUAL group) and (0,1) of `fC` (adjacent, in order);
-- (ii) legs (0,2) of `gA` (NOT adjacent) against (2,1) of `fC` (reversed order);
-- (iii) C03's pair: legs (1,2) of `gA` against (1,0) of `gB` (reversed order)
example : C03.gA.validB = true ∧ fC.validB = true ∧ C03.gB.validB = true
    ∧ C03.gA.fermi = true ∧ fC.fermi = true ∧ C03.gB.fermi = true
    ∧ tdotAdmissibleCommonB C03.gA fC [1, 2] [0, 1] = true
    ∧ tdotAdmissibleCommonB C03.gA fC [0, 2] [2, 1] = true
    ∧ tdotAdmissibleCommonB C03.gA C03.gB [1, 2] [1, 0] = true
    ∧ (dropMisaligned C03.gA fC [1, 2] [0, 1]).1.blocks.length = 3
    ∧ bondPos C03.gA [1, 2] = 1 ∧ bondPos fC [0, 1] = 0 ∧ bondPos C03.gA [0, 2] = 0 ∧ bondPos fC [2, 1] = 1
    ∧ newG C03.gA [0, 2] = [0, 1] ∧ newG fC [2, 1] = [1, 2]
    ∧ (C03.gA.indices.getD 1 default).dual = true := by decide +kernel

example : AdjOk C03.gA [1, 2] := adjacent_consecutive C03.gA 1 2 (by decide) (by decide)
example : AdjOk fC [0, 1] := adjacent_consecutive fC 0 2 (by decide) (by decide)

example : FCtx (dropMisaligned C03.gA fC [1, 2] [0, 1]).1 (dropMisaligned C03.gA fC [1, 2] [0, 1]).2 [1, 2] [0, 1] :=
  fctx_of_dropMisaligned C03.gA fC [1, 2] [0, 1]
    (AdmW.of (by decide +kernel) (by decide +kernel) rfl rfl (by decide +kernel))
    (adjacent_consecutive C03.gA 1 2 (by decide) (by decide)) (adjacent_consecutive fC 0 2 (by decide) (by decide))

example : FCtxG (dropMisaligned C03.gA fC [0, 2] [2, 1]).1 (dropMisaligned C03.gA fC [0, 2] [2, 1]).2 [0, 2] [2, 1] :=
  aligned_fctxG C03.gA fC [0, 2] [2, 1] (by decide +kernel) (by decide +kernel) rfl rfl (by decide +kernel)
    (by decide)

/-- the route align → fermionic fuse → tensordot_fermionic over the single fused pair against
    tensordot_fermionic over the original pairs, on concrete operands: same synchronised blocks
    (up to all-zero blocks in fused / auto mode), same labels, same charge -/
def routeAgrees (a b : Arr Int) (xa xb : List Nat) (fm1 fm2 : FuseMode) (m1 m2 : TdotMode) : Bool :=
  match (dropMisaligned a b xa xb).1.fuseF [xa] fm1 false, (dropMisaligned a b xa xb).2.fuseF [xb] fm2 true with
  | .ok af, .ok bf =>
    match af.tensordotF bf (.pair [Int.ofNat (bondPos a xa)] [Int.ofNat (bondPos b xb)]) m2,
          a.tensordotF b (.pair (xa.map Int.ofNat) (xb.map Int.ofNat)) m1 with
    | .ok cf, .ok c =>
      cf.phaseSync.blocks.all (fun p => p.2.data.all (· == 0)
        || (alookup c.phaseSync.blocks p.1).map (·.data) == some p.2.data)
      && c.phaseSync.blocks.all (fun p => p.2.data.all (· == 0)
        || (alookup cf.phaseSync.blocks p.1).map (·.data) == some p.2.data)
      && cf.oddpos == c.oddpos && cf.charge == c.charge && c.blocks.length != 0
      && af.ndim + xa.length == a.ndim + 1 && bf.ndim + xb.length == b.ndim + 1
    | _, _ => false
  | _, _ => false

-- sanity (i): adjacent groups; (ii) non-adjacent / reversed groups; (iii) reversed group on the right;
-- insert / concat, blockwise / fused / auto
example : routeAgrees C03.gA fC [1, 2] [0, 1] .insert .concat .blockwise .blockwise = true
    ∧ routeAgrees C03.gA fC [1, 2] [0, 1] .concat .insert .fused .auto = true
    ∧ routeAgrees C03.gA fC [0, 2] [2, 1] .insert .insert .blockwise .blockwise = true
    ∧ routeAgrees C03.gA fC [0, 2] [2, 1] .concat .concat .auto .fused = true
    ∧ routeAgrees C03.gA C03.gB [1, 2] [1, 0] .insert .concat .blockwise .blockwise = true
    ∧ routeAgrees C03.gA C03.gB [2, 1] [0, 1] .insert .insert .blockwise .auto = true := by
  decide +kernel

-- the sign identity on the examples: all aligned sector pairs of (ii)
example :
    ([([(1,0),(0,0),(0,0)], [(0,0),(0,0),(1,0)]), ([(0,0),(1,0),(0,0)], [(1,0),(0,0),(0,0)]),
      ([(0,0),(0,0),(1,0)], [(0,0),(1,0),(0,0)])] : List (Sector × Sector)).all (fun p =>
      gradedSign C03.gA fC [0, 2] [2, 1] p.1 p.2
        == bondSign .Z2 false 0 1 (permuted p.1 [1]) (permuted p.2 [0]) (oddContracted C03.gA [0, 2] p.1)
            * FuseP.fuseSignF C03.gA [[0, 2]] p.1 * FuseP.fuseSignF fC [[2, 1]] p.2) = true := by
  decide +kernel

end SymmModel.C06

namespace SymmModel.TdotP
open SymmModel SymmModel.C06 SymmModel.TdotP SymmModel.GradedP SymmModel.RoutesP SymmModel.AssocP
variable {R : Type}

-- the hypotheses are satisfiable: `exA[i,j,k]`, `exB[j',k',m]` (C06), two contracted pairs, sparse
-- operands whose present sectors differ (each has a sector without partner)
example : exA.validB = true ∧ exB.validB = true ∧ exA.fermi = false ∧ exB.fermi = false
    ∧ exA.sym = exB.sym ∧ ValidP.contractibleB exA exB [1, 2] [0, 1] = true
    ∧ ([1, 2] : List Nat).Nodup ∧ ([0, 1] : List Nat).Nodup
    ∧ (∀ x ∈ ([1, 2] : List Nat), x < exA.ndim) ∧ (∀ x ∈ ([0, 1] : List Nat), x < exB.ndim)
    ∧ ([1, 2] : List Nat) ≠ []
    ∧ (dropMisaligned exA exB [1, 2] [0, 1]).1.blocks.length = 2
    ∧ bondPos (dropMisaligned exA exB [1, 2] [0, 1]).1 [1, 2] = 1
    ∧ bondPos (dropMisaligned exA exB [1, 2] [0, 1]).2 [0, 1] = 0 := by decide +kernel

-- the theorem instantiated at that pair, every strategy / mode
example (m1 m2 : FuseMode) (mode1 mode2 : TdotMode) :
    ∃ af bf cm c,
      fuseA (dropMisaligned exA exB [1, 2] [0, 1]).1 [[1, 2]] m1 false = .ok af
      ∧ fuseA (dropMisaligned exA exB [1, 2] [0, 1]).2 [[0, 1]] m2 false = .ok bf
      ∧ tensordotA af bf (.pair [Int.ofNat (bondPos (dropMisaligned exA exB [1, 2] [0, 1]).1 [1, 2])]
            [Int.ofNat (bondPos (dropMisaligned exA exB [1, 2] [0, 1]).2 [0, 1])]) mode1 = .ok cm
      ∧ tensordotA exA exB (.pair [1, 2] [0, 1]) mode2 = .ok c
      ∧ ∀ K V, alookup cm.blocks K = some V → ∀ J, inBox V.shape J = true → cm.elem K J = c.elem K J :=
  tensordot_fuse_contracted_commute_both_modes (by intro x; simp) (by intro x; simp) exA exB [1, 2] [0, 1]
    (by decide +kernel) (by decide +kernel) rfl rfl rfl (by decide +kernel)
    (by decide) (by decide) (by decide) (by decide) (by simp) m1 m2 mode1 mode2

end SymmModel.TdotP
