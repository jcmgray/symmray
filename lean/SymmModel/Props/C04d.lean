/-
  Property C04 (route independence, clause S7 — associativity, FULL statement: chains AND
  triangles) for the MODEL's `Arr.tensordotF` (Model/Fermi.lean), `mode = blockwise`, valid
  fermionic operands of any rank, symmetry, sparsity, charge parity, pending signs, legs in ANY
  position (no canonical pre-transposition assumed), scalars as in C04c (`AddCommMonoid`,
  `SignRing`, `AssocP.AssocLaws`; instances `Int`, `GRat`).

  Three operands with bonds `A–B` (`xa1 ~ xb1`), `B–C` (`xb2 ~ xc2`) and `A–C` (`xa3 ~ xc3`, may be
  empty: then this is C04c's chain).  Route 1: `AB = A·B` on `(xa1, xb1)`, then `AB·C` on
  `(axesAB …, xc3 ++ xc2)`; route 2: `BC = B·C` on `(xb2, xc2)`, then `A·BC` on
  `(xa1 ++ xa3, axesBC …)`.  By S4 (`C04.tdotF_axes_perm`) the listing order of the pairs in the
  second calls is immaterial.

  Vocabulary (Proofs/Assoc2*.lean, namespace `SymmModel.Assoc2P`):
    `axesAB nA nB xa1 xa3 xb1 xb2`  images in `A·B` of `A`'s legs `xa3`, then of `B`'s legs `xb2`
    `axesBC nB nC xb1 xb2 xc2 xc3`  images in `B·C` of `B`'s legs `xb1`, then of `C`'s legs `xc3`
    `IsTriple …  s t`   `t = (sa,sb,sc)` stored sectors aligned on all three bonds, free parts `s`
    `FreeAddr … LA LM LC oA oM oC`  an address of the result in terms of the operands' tables
    `S3`, `W3`          sign and plain value of a triple in the three-operand graded contraction;
                        `S3` contains the cross term `(-1)^(#odd A–C charges · #odd free charges of B)`
    `LabelRoutes pa pb la lb lc`    the two label routes (`C04.oddpos_assoc`'s four merges) succeed
                        with the same final list and the same total sign;
    `labelRoutesB`      the same as a Boolean (`labelRoutes_iff`): decidable for concrete labels.

  `tdotF_assoc` is S7 in full for pairwise-distinct labels (the scope of C04), `tdotF_assoc_labels`
  for ANY labels satisfying `LabelRoutes`.
  LABELS WITH CONJUGATE PAIRS — under the weaker label hypothesis "each label at most once per
  operand, at most twice overall, then as a conjugate pair" the labels clause is FALSE:
  `conjugate_pairs_labels_route_dependent`: `la = [3†]`, `lb = [3]`, `lc = [2]` give the final
  labels `[2]` on route 1 and `[3†, 2, 3]` on route 2 (a conjugate pair only annihilates when the
  scan makes it adjacent; the two lists denote the same operator product, `conjugate_pairs_same_
  value`, but are different data).  What IS true and proved: S7 holds whenever `LabelRoutes` holds
  (`tdotF_assoc_labels`), which is a decidable check on the three label lists and two parities;
  for the label pattern of the norm network `ā·b̄·a·b` with one ket label per tensor it holds
  (`labelRoutes_norm_one`, all cases and both label orders): with `A := K̄ = ā·b̄`, `B := a`,
  `C := b` (a triangle: `K̄–a` on `a`'s dangling legs, `a–b` the bond, `K̄–b` on `b`'s dangling legs)
  `tdotF_assoc_labels` then gives `(K̄·a)·b = K̄·(a·b)`, and `K̄·(a·b) = normSq K` is C10c's
  `network_norm_halves_partial`.
  That corollary as ONE statement about `normSq` is `C10.network_norm_bracketings_partial`
  (Props/C10d), under the extra guard `netFullB`: when `a·b` has pruned tables the documented guard
  fails for `K̄·a` and `tdotF_assoc_labels` does not apply (`C10.tensorwise_pruned_witness`);
  without that guard: `C10.network_norm_bracketings` (Props/C10e), through S7 under the weak guard
  (Props/C04e).  `LabelRoutes` for label lists of any length without repeated entry in which every
  entry has its conjugate: `LabelAlg.routes_of_paired` (Proofs/Oddpos.lean); the doubled network
  with sorted ket lists of pairwise-distinct labels is a case of it
  (`LabelAlg.netLabelsB_of_distinct`, Proofs/NormNet10.lean).  Four-tensor chains `A·B·C·D` need S7
  with the WEAK guard also on the first-level calls, because an intermediate result has pruned
  tables: Props/C04e.  Other modes: `C06.tdotF_assoc_any_mode` (Props/C06d).
-/
import SymmModel.Proofs.Assoc2Main
import SymmModel.Props.C04c

namespace SymmModel.C04
open SymmModel SymmModel.GradedP SymmModel.TdotP SymmModel.RoutesP SymmModel.AssocP
open SymmModel.Lazy (sgnI)

variable {R : Type}

/-- Boolean form of `LabelRoutes` -/
def labelRoutesB (pa pb : Bool) (la lb lc : List (Int × Bool)) : Bool :=
  match OddposP.mergeOddpos pa la lb, OddposP.mergeOddpos pb lb lc with
  | .ok (lab, sab), .ok (lbc, sbc) =>
    (match OddposP.mergeOddpos (xor pa pb) lab lc, OddposP.mergeOddpos pa la lbc with
     | .ok (o1, s1), .ok (o2, s2) =>
       o1 == o2 && sab * s1 == sbc * s2 && (sab == 1 || sab == -1) && (s1 == 1 || s1 == -1)
         && (sbc == 1 || sbc == -1) && (s2 == 1 || s2 == -1)
     | _, _ => false)
  | _, _ => false

theorem labelRoutes_iff (pa pb : Bool) (la lb lc : List (Int × Bool)) :
    Assoc2P.LabelRoutes pa pb la lb lc ↔ labelRoutesB pa pb la lb lc = true := by
  unfold Assoc2P.LabelRoutes labelRoutesB
  constructor
  · rintro ⟨lab, sab, lbc, sbc, out, s1, s2, m1, m2, m3, m4, hs, q1, q2, q3, q4⟩
    rw [m1, m3]
    simp only [m2, m4]
    simp only [Bool.and_eq_true, Bool.or_eq_true, beq_iff_eq]
    exact ⟨⟨⟨⟨⟨trivial, hs⟩, q1⟩, q2⟩, q3⟩, q4⟩
  · intro h
    cases m1 : OddposP.mergeOddpos pa la lb with
    | error e => simp [m1] at h
    | ok r1 =>
      cases m3 : OddposP.mergeOddpos pb lb lc with
      | error e => simp [m1, m3] at h
      | ok r3 =>
        obtain ⟨lab, sab⟩ := r1
        obtain ⟨lbc, sbc⟩ := r3
        simp only [m1, m3] at h
        cases m2 : OddposP.mergeOddpos (xor pa pb) lab lc with
        | error e => simp [m2] at h
        | ok r2 =>
          cases m4 : OddposP.mergeOddpos pa la lbc with
          | error e => simp [m2, m4] at h
          | ok r4 =>
            obtain ⟨o1, s1⟩ := r2
            obtain ⟨o2, s2⟩ := r4
            simp only [m2, m4, Bool.and_eq_true, Bool.or_eq_true, beq_iff_eq] at h
            obtain ⟨⟨⟨⟨⟨rfl, hs⟩, q1⟩, q2⟩, q3⟩, q4⟩ := h
            exact ⟨lab, sab, lbc, sbc, o1, s1, s2, rfl, m2, rfl, m4, hs, q1, q2, q3, q4⟩

/-- pairwise-distinct labels (the scope of C04) satisfy `LabelRoutes` -/
theorem labelRoutes_of_distinct (pa pb : Bool) (la lb lc : List (Int × Bool))
    (hd : (la ++ lb ++ lc).Pairwise (fun x y => x.1 ≠ y.1)) : Assoc2P.LabelRoutes pa pb la lb lc :=
  Assoc2P.labelRoutes_of_distinct pa pb la lb lc hd

/-- **conjugate pairs: the remaining labels DO depend on the route.**  `[3†]`, `[3]`, `[2]`:
    route `(A·B)·C` annihilates the pair at once and ends with `[2]`; on route `A·(B·C)` the pair
    is separated by `2` in the sorted list and stays: `[3†, 2, 3]`. -/
theorem conjugate_pairs_labels_route_dependent :
    OddposP.mergeOddpos true [(3, true)] [(3, false)] = .ok ([], -1)
    ∧ OddposP.mergeOddpos false [] [(2, false)] = .ok ([(2, false)], 1)
    ∧ OddposP.mergeOddpos true [(3, false)] [(2, false)] = .ok ([(2, false), (3, false)], 1)
    ∧ OddposP.mergeOddpos true [(3, true)] [(2, false), (3, false)]
        = .ok ([(3, true), (2, false), (3, false)], 1)
    ∧ labelRoutesB true true [(3, true)] [(3, false)] [(2, false)] = false := by decide

/-- … but the two lists denote the same value: contracting further with an operand carrying `[2†]`
    both routes end without labels and with the same total sign (`-1·1·1 = 1·1·(-1)`) -/
theorem conjugate_pairs_same_value :
    OddposP.mergeOddpos true [(2, false)] [(2, true)] = .ok ([], 1)
    ∧ OddposP.mergeOddpos true [(3, true), (2, false), (3, false)] [(2, true)] = .ok ([], -1)
    ∧ (-1 : Int) * 1 * 1 = 1 * 1 * (-1) := by decide

set_option linter.unusedSimpArgs false in
/-- **the label pattern of the norm network with one ket label per tensor satisfies
    `LabelRoutes`.**  Operands `(K̄, a, b)` of the tensor-by-tensor route `(K̄·a)·b` vs `K̄·(a·b)`,
    `K = a·b`, `K̄` carrying the conjugated labels of `K` in reversed order; `a` carries no label or
    the ket label `x`, `b` none or `y ≠ x` (parities as validity forces them).  All four cases, both
    orders of `x`, `y`. -/
theorem labelRoutes_norm_one (x y : Int) (hxy : x ≠ y) :
    labelRoutesB false false [] [] [] = true
    ∧ labelRoutesB true true [(x, true)] [(x, false)] [] = true
    ∧ labelRoutesB true false [(y, true)] [] [(y, false)] = true
    ∧ labelRoutesB false true (if x < y then [(y, true), (x, true)] else [(x, true), (y, true)])
        [(x, false)] [(y, false)] = true := by
  refine ⟨by decide, ?_, ?_, ?_⟩
  · simp [labelRoutesB, OddposP.mergeOddpos, resolveScan, oddLt, pure, Except.pure]
  · simp [labelRoutesB, OddposP.mergeOddpos, resolveScan, oddLt, pure, Except.pure]
  · have h1 : ¬ y = x := fun e => hxy e.symm
    have h2 : ¬ x = y := hxy
    by_cases h : x < y
    · have h3 : ¬ y < x := by omega
      simp [labelRoutesB, OddposP.mergeOddpos, resolveScan, oddLt, pure, Except.pure, h1, h2, h, h3]
    · have h3 : y < x := by omega
      simp [labelRoutesB, OddposP.mergeOddpos, resolveScan, oddLt, pure, Except.pure, h1, h2, h, h3]

/-- the conjugated label list of `K = a·b` in the fourth case above is what the model computes -/
example : Arr.oddposDag [((1 : Int), false), (3, false)] = [(3, true), (1, true)]
    ∧ OddposP.mergeOddpos true [(1, false)] [(3, false)] = .ok ([(1, false), (3, false)], -1) := by
  decide

/-- **S7 tdotF_assoc_labels.**  Three valid fermionic operands, bonds `A–B`, `B–C` contractible
    (`tdotAdmissibleB`), bond `A–C` contractible (`contractibleB`, may be empty), the three bonds
    of each operand pairwise disjoint and in range, labels satisfying `LabelRoutes`.  Then all four
    calls succeed and `c1 = (A·B)·C`, `c2 = A·(B·C)` have the same labels, charge, symmetry, kind,
    sector set (the free parts of the stored aligned sector triples), index tables (the un-pruned
    frame of the free legs of `A`, `B`, `C` pruned to the final sectors) and the same value at
    every address. -/
theorem tdotF_assoc_labels [AddCommMonoid R] [Mul R] [Neg R] [SignRing R] [AssocLaws R]
    (A B C : Arr R) (xa1 xa3 xb1 xb2 xc2 xc3 : List Nat)
    (hA : A.validB = true) (hB : B.validB = true) (hC : C.validB = true)
    (hfA : A.fermi = true) (hfB : B.fermi = true) (hfC : C.fermi = true)
    (h1 : ValidP.tdotAdmissibleB A B xa1 xb1 = true) (h2 : ValidP.tdotAdmissibleB B C xb2 xc2 = true)
    (h3 : ValidP.contractibleB A C xa3 xc3 = true)
    (hnA : (xa1 ++ xa3).Nodup) (hnB : (xb1 ++ xb2).Nodup) (hnC : (xc2 ++ xc3).Nodup)
    (hltA : ∀ i ∈ xa3, i < A.ndim) (hltC : ∀ i ∈ xc3, i < C.ndim)
    (hL : Assoc2P.LabelRoutes A.parity B.parity A.oddpos B.oddpos C.oddpos) :
    ∃ AB BC c1 c2 : Arr R,
      A.tensordotF B (.pair (xa1.map Int.ofNat) (xb1.map Int.ofNat)) .blockwise = .ok AB
      ∧ AB.tensordotF C (.pair ((Assoc2P.axesAB A.ndim B.ndim xa1 xa3 xb1 xb2).map Int.ofNat)
          ((xc3 ++ xc2).map Int.ofNat)) .blockwise = .ok c1
      ∧ B.tensordotF C (.pair (xb2.map Int.ofNat) (xc2.map Int.ofNat)) .blockwise = .ok BC
      ∧ A.tensordotF BC (.pair ((xa1 ++ xa3).map Int.ofNat)
          ((Assoc2P.axesBC B.ndim C.ndim xb1 xb2 xc2 xc3).map Int.ofNat)) .blockwise = .ok c2
      ∧ c2.oddpos = c1.oddpos ∧ c2.charge = c1.charge ∧ c2.sym = c1.sym ∧ c2.fermi = c1.fermi
      ∧ (∀ s, s ∈ c1.sectors ↔ ∃ t, Assoc2P.IsTriple A B C xa1 xa3 xb1 xb2 xc2 xc3 s t)
      ∧ (∀ s, s ∈ c2.sectors ↔ s ∈ c1.sectors)
      ∧ c2.indices = c1.indices
      ∧ c1.indices = dropUnused (permuted A.indices (freeAxes A.ndim (xa1 ++ xa3))
          ++ (permuted B.indices (freeAxes B.ndim (xb1 ++ xb2))
            ++ permuted C.indices (freeAxes C.ndim (xc2 ++ xc3)))) c1.sectors
      ∧ ∀ (LA LM LC : Sector) (oA oM oC : List Nat),
          Assoc2P.FreeAddr A B C xa1 xa3 xb1 xb2 xc2 xc3 LA LM LC oA oM oC →
          c2.elem (LA ++ LM ++ LC) (oA ++ oM ++ oC) = c1.elem (LA ++ LM ++ LC) (oA ++ oM ++ oC) :=
  Assoc2P.tdotF_assoc_tri A B C xa1 xa3 xb1 xb2 xc2 xc3 hA hB hC hfA hfB hfC h1 h2 h3 hnA hnB hnC
    hltA hltC hL

/-- **S7 tdotF_assoc** — the full statement for pairwise-distinct labels -/
theorem tdotF_assoc [AddCommMonoid R] [Mul R] [Neg R] [SignRing R] [AssocLaws R]
    (A B C : Arr R) (xa1 xa3 xb1 xb2 xc2 xc3 : List Nat)
    (hA : A.validB = true) (hB : B.validB = true) (hC : C.validB = true)
    (hfA : A.fermi = true) (hfB : B.fermi = true) (hfC : C.fermi = true)
    (h1 : ValidP.tdotAdmissibleB A B xa1 xb1 = true) (h2 : ValidP.tdotAdmissibleB B C xb2 xc2 = true)
    (h3 : ValidP.contractibleB A C xa3 xc3 = true)
    (hnA : (xa1 ++ xa3).Nodup) (hnB : (xb1 ++ xb2).Nodup) (hnC : (xc2 ++ xc3).Nodup)
    (hltA : ∀ i ∈ xa3, i < A.ndim) (hltC : ∀ i ∈ xc3, i < C.ndim)
    (hd : (A.oddpos ++ B.oddpos ++ C.oddpos).Pairwise (fun x y => x.1 ≠ y.1)) :
    ∃ AB BC c1 c2 : Arr R,
      A.tensordotF B (.pair (xa1.map Int.ofNat) (xb1.map Int.ofNat)) .blockwise = .ok AB
      ∧ AB.tensordotF C (.pair ((Assoc2P.axesAB A.ndim B.ndim xa1 xa3 xb1 xb2).map Int.ofNat)
          ((xc3 ++ xc2).map Int.ofNat)) .blockwise = .ok c1
      ∧ B.tensordotF C (.pair (xb2.map Int.ofNat) (xc2.map Int.ofNat)) .blockwise = .ok BC
      ∧ A.tensordotF BC (.pair ((xa1 ++ xa3).map Int.ofNat)
          ((Assoc2P.axesBC B.ndim C.ndim xb1 xb2 xc2 xc3).map Int.ofNat)) .blockwise = .ok c2
      ∧ c2.oddpos = c1.oddpos ∧ c2.charge = c1.charge ∧ c2.sym = c1.sym ∧ c2.fermi = c1.fermi
      ∧ (∀ s, s ∈ c1.sectors ↔ ∃ t, Assoc2P.IsTriple A B C xa1 xa3 xb1 xb2 xc2 xc3 s t)
      ∧ (∀ s, s ∈ c2.sectors ↔ s ∈ c1.sectors)
      ∧ c2.indices = c1.indices
      ∧ c1.indices = dropUnused (permuted A.indices (freeAxes A.ndim (xa1 ++ xa3))
          ++ (permuted B.indices (freeAxes B.ndim (xb1 ++ xb2))
            ++ permuted C.indices (freeAxes C.ndim (xc2 ++ xc3)))) c1.sectors
      ∧ ∀ (LA LM LC : Sector) (oA oM oC : List Nat),
          Assoc2P.FreeAddr A B C xa1 xa3 xb1 xb2 xc2 xc3 LA LM LC oA oM oC →
          c2.elem (LA ++ LM ++ LC) (oA ++ oM ++ oC) = c1.elem (LA ++ LM ++ LC) (oA ++ oM ++ oC) :=
  tdotF_assoc_labels A B C xa1 xa3 xb1 xb2 xc2 xc3 hA hB hC hfA hfB hfC h1 h2 h3 hnA hnB hnC
    hltA hltC (labelRoutes_of_distinct _ _ _ _ _ hd)

/-- **S7, sector and dense form** for GIVEN results of the four calls: equal labels, charge, index
    tables, sector sets; equal values at every key and every offset inside the stored block
    (`0 = 0` at keys that are not sectors); equal `to_dense()`. -/
theorem tdotF_assoc_at [AddCommMonoid R] [Mul R] [Neg R] [SignRing R] [AssocLaws R]
    (A B C AB BC c1 c2 : Arr R) (xa1 xa3 xb1 xb2 xc2 xc3 : List Nat)
    (hA : A.validB = true) (hB : B.validB = true) (hC : C.validB = true)
    (hfA : A.fermi = true) (hfB : B.fermi = true) (hfC : C.fermi = true)
    (h1 : ValidP.tdotAdmissibleB A B xa1 xb1 = true) (h2 : ValidP.tdotAdmissibleB B C xb2 xc2 = true)
    (h3 : ValidP.contractibleB A C xa3 xc3 = true)
    (hnA : (xa1 ++ xa3).Nodup) (hnB : (xb1 ++ xb2).Nodup) (hnC : (xc2 ++ xc3).Nodup)
    (hltA : ∀ i ∈ xa3, i < A.ndim) (hltC : ∀ i ∈ xc3, i < C.ndim)
    (hL : Assoc2P.LabelRoutes A.parity B.parity A.oddpos B.oddpos C.oddpos)
    (e1 : A.tensordotF B (.pair (xa1.map Int.ofNat) (xb1.map Int.ofNat)) .blockwise = .ok AB)
    (e2 : AB.tensordotF C (.pair ((Assoc2P.axesAB A.ndim B.ndim xa1 xa3 xb1 xb2).map Int.ofNat)
        ((xc3 ++ xc2).map Int.ofNat)) .blockwise = .ok c1)
    (e3 : B.tensordotF C (.pair (xb2.map Int.ofNat) (xc2.map Int.ofNat)) .blockwise = .ok BC)
    (e4 : A.tensordotF BC (.pair ((xa1 ++ xa3).map Int.ofNat)
        ((Assoc2P.axesBC B.ndim C.ndim xb1 xb2 xc2 xc3).map Int.ofNat)) .blockwise = .ok c2) :
    c2.oddpos = c1.oddpos ∧ c2.charge = c1.charge ∧ c2.indices = c1.indices
      ∧ (∀ s, s ∈ c2.sectors ↔ s ∈ c1.sectors)
      ∧ (∀ (s : Sector) (o : List Nat),
          (s ∈ c1.sectors → inBox (Arr.blockShapeD c1.indices s) o = true) →
          c2.elem s o = c1.elem s o)
      ∧ c2.toDenseF = c1.toDenseF := by
  obtain ⟨AB', BC', c1', c2', d1, d2, d3, d4, r1, r2, _, _, r5, r6, r7, r8, r9⟩ :=
    Assoc2P.tdotF_assoc_tri A B C xa1 xa3 xb1 xb2 xc2 xc3 hA hB hC hfA hfB hfC h1 h2 h3 hnA hnB hnC
      hltA hltC hL
  rw [e1] at d1
  obtain rfl := Except.ok.inj d1
  rw [e3] at d3
  obtain rfl := Except.ok.inj d3
  rw [e2] at d2
  obtain rfl := Except.ok.inj d2
  rw [e4] at d4
  obtain rfl := Except.ok.inj d4
  have hel := Assoc2P.elem_eq_of_sector A B C c1 c2 xa1 xa3 xb1 xb2 xc2 xc3
    (Arr.shapesOk_of_validB hA) (Arr.shapesOk_of_validB hB) (Arr.shapesOk_of_validB hC) r8 r5 r6 r9
  refine ⟨r1, r2, r7, r6, hel, ?_⟩
  have hAB := adm_of_admissible hA hB hfA hfB h1
  have hBC := adm_of_admissible hB hC hfB hfC h2
  apply toDenseF_eq_of c1 c2 r7 ?_ hel
  intro ix hix
  rw [r8] at hix
  refine ValidP.sortedCharges_nodup (ValidP.wfB_cmOk (ValidP.dropUnused_wf (sym := A.sym) _ ?_ ix hix)).1
  intro i hi
  rcases List.mem_append.mp hi with h | h
  · exact ((ValidP.validB_iff A).mp hA).idx i (mem_permuted h)
  · rcases List.mem_append.mp h with h | h
    · rw [hAB.sym]; exact ((ValidP.validB_iff B).mp hB).idx i (mem_permuted h)
    · rw [hAB.sym, hBC.sym]; exact ((ValidP.validB_iff C).mp hC).idx i (mem_permuted h)

/-- S7 in full with exactly the instances the driver is compiled with -/
theorem tdotF_assoc_GRat (A B C : Arr GRat) (xa1 xa3 xb1 xb2 xc2 xc3 : List Nat)
    (hA : A.validB = true) (hB : B.validB = true) (hC : C.validB = true)
    (hfA : A.fermi = true) (hfB : B.fermi = true) (hfC : C.fermi = true)
    (h1 : ValidP.tdotAdmissibleB A B xa1 xb1 = true) (h2 : ValidP.tdotAdmissibleB B C xb2 xc2 = true)
    (h3 : ValidP.contractibleB A C xa3 xc3 = true)
    (hnA : (xa1 ++ xa3).Nodup) (hnB : (xb1 ++ xb2).Nodup) (hnC : (xc2 ++ xc3).Nodup)
    (hltA : ∀ i ∈ xa3, i < A.ndim) (hltC : ∀ i ∈ xc3, i < C.ndim)
    (hL : labelRoutesB A.parity B.parity A.oddpos B.oddpos C.oddpos = true) :
    ∃ AB BC c1 c2 : Arr GRat,
      @Arr.tensordotF GRat GRat.instZero GRat.instAdd GRat.instMul GRat.instNeg A B
          (.pair (xa1.map Int.ofNat) (xb1.map Int.ofNat)) .blockwise = .ok AB
      ∧ @Arr.tensordotF GRat GRat.instZero GRat.instAdd GRat.instMul GRat.instNeg AB C
          (.pair ((Assoc2P.axesAB A.ndim B.ndim xa1 xa3 xb1 xb2).map Int.ofNat)
            ((xc3 ++ xc2).map Int.ofNat)) .blockwise = .ok c1
      ∧ @Arr.tensordotF GRat GRat.instZero GRat.instAdd GRat.instMul GRat.instNeg B C
          (.pair (xb2.map Int.ofNat) (xc2.map Int.ofNat)) .blockwise = .ok BC
      ∧ @Arr.tensordotF GRat GRat.instZero GRat.instAdd GRat.instMul GRat.instNeg A BC
          (.pair ((xa1 ++ xa3).map Int.ofNat)
            ((Assoc2P.axesBC B.ndim C.ndim xb1 xb2 xc2 xc3).map Int.ofNat)) .blockwise = .ok c2
      ∧ c2.oddpos = c1.oddpos ∧ c2.charge = c1.charge
      ∧ (∀ s, s ∈ c2.sectors ↔ s ∈ c1.sectors) ∧ c2.indices = c1.indices
      ∧ ∀ (LA LM LC : Sector) (oA oM oC : List Nat),
          Assoc2P.FreeAddr A B C xa1 xa3 xb1 xb2 xc2 xc3 LA LM LC oA oM oC →
          @Arr.elem GRat GRat.instZero GRat.instNeg c2 (LA ++ LM ++ LC) (oA ++ oM ++ oC)
            = @Arr.elem GRat GRat.instZero GRat.instNeg c1 (LA ++ LM ++ LC) (oA ++ oM ++ oC) := by
  obtain ⟨AB, BC, c1, c2, e1, e2, e3, e4, e5, e6, _, _, _, e10, e12, _, e11⟩ :=
    @Assoc2P.tdotF_assoc_tri GRat C02.addCommMonoidGRat GRat.instMul GRat.instNeg C03.signRingGRat
      assocLawsGRat A B C xa1 xa3 xb1 xb2 xc2 xc3 hA hB hC hfA hfB hfC h1 h2 h3 hnA hnB hnC hltA hltC
      ((labelRoutes_iff _ _ _ _ _).mpr hL)
  exact ⟨AB, BC, c1, c2, e1, e2, e3, e4, e5, e6, e10, e12, e11⟩

/-! ## non-vacuity: an odd triangle

`C03.gA[i,k,l]`, `cB[l',k',j]` (C04c), `tC[j',i']`: bonds `l~l'`, `j~j'`, `i~i'`; all three odd,
pending signs, labels `1`, `3`, `5†`. -/

open SymmModel.C03 in
def tC : Arr Int :=
  { sym := .Z2, fermi := true, indices := [ixi false, ixi true], charge := (1, 0),
    blocks := [([(1,0),(0,0)], mkB [1,2] 3), ([(0,0),(1,0)], mkB [2,1] (-4))],
    phases := [([(0,0),(1,0)], -1)], oddpos := [(5, true)] }

open SymmModel.C03 in
example : gA.validB = true ∧ cB.validB = true ∧ tC.validB = true
    ∧ gA.fermi = true ∧ cB.fermi = true ∧ tC.fermi = true
    ∧ ValidP.tdotAdmissibleB gA cB [2] [0] = true ∧ ValidP.tdotAdmissibleB cB tC [2] [0] = true
    ∧ ValidP.contractibleB gA tC [0] [1] = true
    ∧ ([2] ++ [0] : List Nat).Nodup ∧ ([0] ++ [2] : List Nat).Nodup ∧ ([0] ++ [1] : List Nat).Nodup
    ∧ (∀ i ∈ [0], i < gA.ndim) ∧ (∀ i ∈ [1], i < tC.ndim)
    ∧ (gA.oddpos ++ cB.oddpos ++ tC.oddpos).Pairwise (fun x y => x.1 ≠ y.1)
    ∧ labelRoutesB gA.parity cB.parity gA.oddpos cB.oddpos tC.oddpos = true := by decide +kernel

open SymmModel.C03 in
def exBC2 : Arr Int := resOf (cB.tensordotF tC (.pair [2] [0]) .blockwise)

open SymmModel.C03 in
/-- the axes of the second calls and a sanity instance of the conclusion: both routes give the
    same labels, sectors `(k,k')` and values -/
example :
    Assoc2P.axesAB gA.ndim cB.ndim [2] [0] [0] [2] = [0, 3]
    ∧ Assoc2P.axesBC cB.ndim tC.ndim [0] [2] [0] [1] = [0, 2]
    ∧ labelsOf (exAB.tensordotF tC (.pair [0, 3] [1, 0]) .blockwise)
        = labelsOf (gA.tensordotF exBC2 (.pair [2, 0] [0, 2]) .blockwise)
    ∧ labelsOf (exAB.tensordotF tC (.pair [0, 3] [1, 0]) .blockwise) ≠ []
    ∧ sectorsOf (exAB.tensordotF tC (.pair [0, 3] [1, 0]) .blockwise)
        = sectorsOf (gA.tensordotF exBC2 (.pair [2, 0] [0, 2]) .blockwise)
    ∧ sectorsOf (exAB.tensordotF tC (.pair [0, 3] [1, 0]) .blockwise) ≠ some []
    ∧ elemOf (exAB.tensordotF tC (.pair [0, 3] [1, 0]) .blockwise) [(0,0),(1,0)] [0,1]
        = elemOf (gA.tensordotF exBC2 (.pair [2, 0] [0, 2]) .blockwise) [(0,0),(1,0)] [0,1]
    ∧ elemOf (exAB.tensordotF tC (.pair [0, 3] [1, 0]) .blockwise) [(1,0),(0,0)] [1,0]
        = elemOf (gA.tensordotF exBC2 (.pair [2, 0] [0, 2]) .blockwise) [(1,0),(0,0)] [1,0] := by
  decide +kernel

theorem assoc2_vocabulary (A B C : Arr R) (xa1 xa3 xb1 xb2 xc2 xc3 : List Nat) (s : Sector)
    (t : Sector × Sector × Sector) (pa pb : Bool) (la lb lc : List (Int × Bool)) :
    Assoc2P.axesAB A.ndim B.ndim xa1 xa3 xb1 xb2
        = positions (freeAxes A.ndim xa1) xa3
          ++ (positions (freeAxes B.ndim xb1) xb2).map ((freeAxes A.ndim xa1).length + ·)
    ∧ Assoc2P.axesBC B.ndim C.ndim xb1 xb2 xc2 xc3
        = positions (freeAxes B.ndim xb2) xb1
          ++ (positions (freeAxes C.ndim xc2) xc3).map ((freeAxes B.ndim xb2).length + ·)
    ∧ (Assoc2P.IsTriple A B C xa1 xa3 xb1 xb2 xc2 xc3 s t ↔
        t.1 ∈ A.sectors ∧ t.2.1 ∈ B.sectors ∧ t.2.2 ∈ C.sectors
        ∧ permuted t.2.1 xb1 = permuted t.1 xa1 ∧ permuted t.2.2 xc2 = permuted t.2.1 xb2
        ∧ permuted t.2.2 xc3 = permuted t.1 xa3
        ∧ permuted t.1 (freeAxes A.ndim (xa1 ++ xa3)) ++ permuted t.2.1 (freeAxes B.ndim (xb1 ++ xb2))
            ++ permuted t.2.2 (freeAxes C.ndim (xc2 ++ xc3)) = s)
    ∧ (Assoc2P.LabelRoutes pa pb la lb lc ↔
        ∃ lab sab lbc sbc out s1 s2,
          OddposP.mergeOddpos pa la lb = .ok (lab, sab) ∧
          OddposP.mergeOddpos (xor pa pb) lab lc = .ok (out, s1) ∧
          OddposP.mergeOddpos pb lb lc = .ok (lbc, sbc) ∧
          OddposP.mergeOddpos pa la lbc = .ok (out, s2) ∧
          sab * s1 = sbc * s2 ∧
          (sab = 1 ∨ sab = -1) ∧ (s1 = 1 ∨ s1 = -1) ∧ (sbc = 1 ∨ sbc = -1) ∧ (s2 = 1 ∨ s2 = -1)) :=
  ⟨rfl, rfl, Iff.rfl, Iff.rfl⟩

end SymmModel.C04
