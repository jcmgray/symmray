/-
  Property C05, part b — the element map and the block-level round trip in the GENERAL case: an
  arbitrary list of groups (single- and multi-axis groups mixed, any position, other axes present or not — in particular
  the two groups covering all axes that `tensordotViaFused` fuses), insert strategy.

  Vocabulary (namespace `FuseP`, files `Proofs/FuseMulti*.lean`):
    `multiB groups g`        group number `g` exists and has ≠ 1 axes (gets a new fused index)
    `splitAddr` / `joinAddr` the address map read from an index's own table (Props/C05.lean)
    `pieceU`                 one slice-and-reshape piece of `unfuse`

  Proved here for ALL lists of groups accepted by `groupsOkB`:
    `fuse_elem`, `fuse_elem_onto`   (element map through `splitAddr` on every fused axis; bijection
                                     on stored addresses together with `C05.splitAddr_injective`)
    `unfuse_elem`                   (certificate form: for ANY valid array with a fused axis)
    `unfuse_fuse_blocks`            (round trip: every stored block restored exactly as the transposed
                                     block, every other block zero; `unfuseGroups` unfuses every fused
                                     axis from the last group to the first, `unfuseGroups_two` is the
                                     pattern of `tensordotViaFused`)
    `fuseA_noexpand`, `groupsOkB_filter`   (the call form of `tensordotViaFused`: empty groups dropped)
    `…_partial`                     (the same for ONE multi-axis group, stated with `replaceWithSeq` at the
                                     fused axis; `fuseInsert_eq_fuseConcat_partial`, and `fuse_elem_partial`
                                     for both strategies, from `FuseP.fuseCore_concat_multi_eq`)
  The agreement of the two strategies for several groups is stated in part h (`Props/C05h.lean`); its proof
  (`Proofs/Fuse7*.lean`, `Proofs/Fuse8Link … Fuse8Order`) needs nothing beyond `Proofs/FuseMultiAll`.
-/
import SymmModel.Proofs.FuseMultiAll
import SymmModel.Proofs.Fuse8Order
import SymmModel.Props.C05

namespace SymmModel.C05
open SymmModel FuseP

/-- `fuse(*groups, expand_empty=False)`: empty groups are dropped, nothing else happens -/
theorem fuseA_noexpand {R : Type} [Zero R] (a : Arr R) (groups : List (List Nat)) (mode : FuseMode) :
    fuseA a groups mode false
      = (if (groups.filter (fun g => !g.isEmpty)).isEmpty then .ok a
         else fuseCore a (groups.filter (fun g => !g.isEmpty)) mode) :=
  fuseA_false a groups mode

theorem flatten_filter_nonempty (groups : List (List Nat)) :
    (groups.filter (fun g => !g.isEmpty)).flatten = groups.flatten := by
  induction groups with
  | nil => rfl
  | cons g gs ih =>
    cases g with
    | nil => simpa using ih
    | cons x xs => simp [ih]

/-- admissible axes (in range, pairwise distinct) with at least one non-empty group: after
    dropping the empty groups the guard `groupsOkB` holds -/
theorem groupsOkB_filter (groups : List (List Nat)) (n : Nat)
    (hlt : groups.flatten.all (fun ax => decide (ax < n)) = true) (hd : allDistinct groups.flatten = true)
    (hne : (groups.filter (fun g => !g.isEmpty)).isEmpty = false) :
    groupsOkB (groups.filter (fun g => !g.isEmpty)) n = true := by
  rw [groupsOk_iff]
  refine ⟨by simpa using hne, ?_, ?_, ?_⟩
  · intro g hg
    simp only [List.mem_filter, Bool.not_eq_true', List.isEmpty_eq_false_iff] at hg
    exact hg.2
  · rw [flatten_filter_nonempty]
    simp only [List.all_eq_true, decide_eq_true_eq] at hlt
    exact hlt
  · rw [flatten_filter_nonempty]; exact allDistinct_iff_nodup.1 hd

example : groupsOkB ([[0, 2], [], [1]].filter (fun g => !g.isEmpty)) 3 = true := by decide

/-- **fuse_elem, arbitrary groups.**  For every block `(ns, B)` of the fused array and every
    offset vector `i` in its box there are per-group segments `segs[g] = (sub-charges, sub-offsets)`:
    for a single-axis group the charge and offset themselves, for a multi-axis group the result of
    `splitAddr` read ONLY from the fused index's own table.  For every original address `(s, offs)`
    whose `(permuted s perm, permuted offs perm)` is `(ns, i)` with every group position expanded into
    its segment, the element stored at `(ns, i)` is the original's element at `(s, offs)`. -/
theorem fuse_elem {R : Type} [Zero R] [Neg R] (a : Arr R) (groups : List (List Nat))
    (hv : a.validB = true) (hg : groupsOkB groups a.ndim = true) (hnf : a.fermi = false) :
    let gi := calcFuseGroupInfo groups a.duals
    ∃ x, fuseCore a groups .insert = .ok x ∧
      ∀ ns B, alookup x.blocks ns = some B → ∀ i, inBox B.shape i = true →
        ∃ segs : List (Sector × List Nat), segs.length = groups.length
          ∧ (∀ g gaxes, groups[g]? = some gaxes →
              (gaxes.length = 1 → segs[g]? = some ([ns.getD (gi.position + g) (0, 0)], [i.getD (gi.position + g) 0]))
              ∧ (gaxes.length ≠ 1 →
                  splitAddr (x.indices.getD (gi.position + g) default) (ns.getD (gi.position + g) (0, 0))
                    (i.getD (gi.position + g) 0) = segs[g]?))
          ∧ ∀ s offs, s.length = a.ndim → offs.length = a.ndim →
              permuted s gi.perm = ns.take gi.position ++ (segs.map (·.1)).flatten
                ++ ns.drop (gi.position + groups.length) →
              permuted offs gi.perm = i.take gi.position ++ (segs.map (·.2)).flatten
                ++ i.drop (gi.position + groups.length) →
              x.elem ns i = a.elem s offs := by
  have hva := validArr_of_validB hv
  have hok := groupsOk_iff.1 hg
  have hph : a.phases = [] := (Arr.validB_abelian hv hnf).1
  refine ⟨_, fuseCore_multi_eq hva hok.adm, ?_⟩
  intro ns B hB i hi
  have hB' : alookup (fusedBlocksM a groups) ns = some B := hB
  obtain ⟨h1, h2⟩ := fused_getM hva hok hB' hi
  refine ⟨(List.range groups.length).map (segM a groups ns i), by simp, ?_, ?_⟩
  · intro g gaxes hgg
    have hgl := getElem?_lt hgg
    have hseg : ((List.range groups.length).map (segM a groups ns i))[g]? = some (segM a groups ns i g) := by
      simp [List.getElem?_map, List.getElem?_range hgl]
    constructor
    · intro hlen
      have hm : multiB groups g = false := multiB_single hgg hlen
      rw [hseg]; simp [segM, hm]
    · intro hlen
      have hm : multiB groups g = true := multiB_iff.2 ⟨_, hgg, hlen⟩
      rw [hseg]
      exact h1 g hgl hm
  · intro s offs hs ho hK hJ
    have e1 : ((List.range groups.length).map (segM a groups ns i)).map (·.1)
        = (List.range groups.length).map (fun g => (segM a groups ns i g).1) := by simp [List.map_map]
    have e2 : ((List.range groups.length).map (segM a groups ns i)).map (·.2)
        = (List.range groups.length).map (fun g => (segM a groups ns i g).2) := by simp [List.map_map]
    rw [e1] at hK
    rw [e2] at hJ
    have hget := (h2 s offs hs ho hK hJ).1
    have he : a.elem s offs = B.get i := by
      rw [hget]
      simp only [Arr.elem, hph, alookup]
      cases alookup a.blocks s <;> simp
    rw [he]
    show (fusedArrM a groups).elem ns i = _
    simp only [Arr.elem, fusedArrM, hB', hph, alookup]
    simp

/-- **onto, arbitrary groups.**  Every stored address `(s, offs)` of the original is the image of an
    address `(ns, i)` of the fused array whose per-group segments are the original's charges and
    offsets on the group's axes. -/
theorem fuse_elem_onto {R : Type} [Zero R] (a : Arr R) (groups : List (List Nat))
    (hv : a.validB = true) (hg : groupsOkB groups a.ndim = true) :
    let gi := calcFuseGroupInfo groups a.duals
    ∃ x, fuseCore a groups .insert = .ok x ∧
      ∀ s b, (s, b) ∈ a.blocks → ∀ offs, inBox b.shape offs = true →
        ∃ ns B i, alookup x.blocks ns = some B ∧ inBox B.shape i = true
          ∧ (∀ g gaxes, groups[g]? = some gaxes → gaxes.length ≠ 1 →
              splitAddr (x.indices.getD (gi.position + g) default) (ns.getD (gi.position + g) (0, 0))
                (i.getD (gi.position + g) 0)
                = some (gaxes.map (fun ax => s.getD ax (0, 0)), gaxes.map (fun ax => offs.getD ax 0)))
          ∧ (∀ g gaxes, groups[g]? = some gaxes → gaxes.length = 1 →
              [ns.getD (gi.position + g) (0, 0)] = gaxes.map (fun ax => s.getD ax (0, 0))
              ∧ [i.getD (gi.position + g) 0] = gaxes.map (fun ax => offs.getD ax 0))
          ∧ permuted s gi.perm = ns.take gi.position
              ++ (groups.map (fun gaxes => gaxes.map (fun ax => s.getD ax (0, 0)))).flatten
              ++ ns.drop (gi.position + groups.length)
          ∧ permuted offs gi.perm = i.take gi.position
              ++ (groups.map (fun gaxes => gaxes.map (fun ax => offs.getD ax 0))).flatten
              ++ i.drop (gi.position + groups.length) := by
  have hva := validArr_of_validB hv
  have hok := groupsOk_iff.1 hg
  refine ⟨_, fuseCore_multi_eq hva hok.adm, ?_⟩
  intro s b hsb offs ho
  obtain ⟨B, h1, h2, h3, h4, h5⟩ := fused_ontoM hva hok hsb ho
  have hsegs1 : (List.range groups.length).map (fun g => (segM a groups (planM a groups (s, b)).newSector
      (joinI a groups (s, b) offs) g).1) = groups.map (fun gaxes => gaxes.map (fun ax => s.getD ax (0, 0))) := by
    rw [map_eq_range_map groups [] (fun gaxes => gaxes.map (fun ax => s.getD ax (0, 0)))]
    apply List.map_congr_left
    intro g hgm
    rw [h3 g (List.mem_range.1 hgm)]
  have hsegs2 : (List.range groups.length).map (fun g => (segM a groups (planM a groups (s, b)).newSector
      (joinI a groups (s, b) offs) g).2) = groups.map (fun gaxes => gaxes.map (fun ax => offs.getD ax 0)) := by
    rw [map_eq_range_map groups [] (fun gaxes => gaxes.map (fun ax => offs.getD ax 0))]
    apply List.map_congr_left
    intro g hgm
    rw [h3 g (List.mem_range.1 hgm)]
  refine ⟨_, B, _, h1, h2, ?_, ?_, ?_, ?_⟩
  · intro g gaxes hgg hlen
    have hgl := getElem?_lt hgg
    have hm : multiB groups g = true := multiB_iff.2 ⟨_, hgg, hlen⟩
    have hseg := h3 g hgl
    simp only [segM, hm, if_true] at hseg
    have hgd : groups.getD g [] = gaxes := by simp [List.getD_eq_getElem?_getD, hgg]
    rw [hgd] at hseg
    obtain ⟨hs1, _⟩ := fused_getM hva hok h1 h2
    have := hs1 g hgl hm
    show splitAddr (ixM a groups g) _ _ = _
    rw [this, h3 g hgl, hgd]
  · intro g gaxes hgg hlen
    have hgl := getElem?_lt hgg
    have hm : multiB groups g = false := multiB_single hgg hlen
    have hseg := h3 g hgl
    simp only [segM, hm, Bool.false_eq_true, if_false] at hseg
    have hgd : groups.getD g [] = gaxes := by simp [List.getD_eq_getElem?_getD, hgg]
    rw [hgd] at hseg
    simp only [Prod.mk.injEq] at hseg
    exact hseg
  · rw [h4]; simp only [expandK]; rw [hsegs1]
  · rw [h5]; simp only [expandJ]; rw [hsegs2]

/-- For ANY valid array (of `validB` only `FuseP.ValidArr` is used: well-formed indices, distinct
    sectors, blocks of the right shapes) whose index at `axis` is a fused index (`sub = (subs, exts)`): `unfuseA` succeeds, the
    index is replaced by its sub-indices, and
    * every block `(ns, B)` and every sub-sector `ss` of the extent of `ns[axis]` (start `st`, size
      `d`) gives the block `pieceU B axis st d subshape` under the sector `ns` with `ns[axis]`
      replaced by `ss`; its entry at `J` is `B`'s entry at `J` with the sub-offsets joined
      (`st + ravel subshape (sub-offsets)`, i.e. `joinAddr`);
    * the result has no other blocks. -/
theorem unfuse_elem {R : Type} [Zero R] (x : Arr R) (axis : Nat) (ix : Index) (subs : List Index)
    (exts : Extents) (hv : x.validB = true) (hix : x.indices[axis]? = some ix)
    (hsub : ix.sub = some (subs, exts)) :
    ∃ y, unfuseA x axis = .ok y ∧ y.indices = replaceWithSeq x.indices axis subs
      ∧ (∀ ns B, (ns, B) ∈ x.blocks → ∀ e ss st d, alookup exts (ns.getD axis (0, 0)) = some e →
          startOf e ss = some (st, d) →
          ∃ subshape, Arr.blockShape? subs ss = some subshape ∧ prod subshape = d
            ∧ alookup y.blocks (replaceWithSeq ns axis ss) = some (pieceU B axis st d subshape)
            ∧ (pieceU B axis st d subshape).shape = replaceWithSeq B.shape axis subshape
            ∧ ∀ J, inBox (replaceWithSeq B.shape axis subshape) J = true →
                joinAddr ix (ns.getD axis (0, 0)) ss ((J.drop axis).take subshape.length)
                  = some (st + ravel subshape ((J.drop axis).take subshape.length))
                ∧ (pieceU B axis st d subshape).get J
                  = B.get (J.take axis ++ [st + ravel subshape ((J.drop axis).take subshape.length)]
                      ++ J.drop (axis + subshape.length)))
      ∧ (∀ K V, alookup y.blocks K = some V →
          ∃ ns B e ss st d, (ns, B) ∈ x.blocks ∧ alookup exts (ns.getD axis (0, 0)) = some e
            ∧ startOf e ss = some (st, d) ∧ K = replaceWithSeq ns axis ss
            ∧ V = pieceU B axis st d ((Arr.blockShape? subs ss).getD [])) := by
  have hva := validArr_of_validB hv
  obtain ⟨y, h1, U⟩ := unfuseU hva hix hsub
  refine ⟨y, h1, U.indices, ?_, ?_⟩
  · intro ns B hm e ss st d he hst
    obtain ⟨subshape, e1, e2, e3, e4⟩ := U.piece (ns, B) hm e ss st d he hst
    refine ⟨subshape, e1, e2, e3, rfl, ?_⟩
    intro J hJ
    refine ⟨?_, e4 J hJ⟩
    -- the joined offset is `joinAddr`
    have hpB : axis < B.shape.length := by
      rw [(block_at_axis hva hix hsub hm).2.2.1]; exact getElem?_lt hix
    have hseg : inBox subshape ((J.drop axis).take subshape.length) = true :=
      (inBox_replace_parts hpB hJ).2.2.1
    have hr := ravel_lt hseg
    rw [e2] at hr
    simp only [joinAddr, hsub, he, e1, hseg, if_true, joinOffset, hst, hr]
  · intro K V hl
    obtain ⟨nsB, hm, e, ss, st, d, h3, h4, h5, h6⟩ := U.only K V hl
    exact ⟨nsB.1, nsB.2, e, ss, st, d, hm, h3, h4, h5, h6⟩

/-- unfuse every axis that `fuse(*groups)` created, from the last group to the first
    (`position` = axis of the first group; single-axis groups created no fused axis) -/
def unfuseGroups {R : Type} [Zero R] (groups : List (List Nat)) (position : Nat) (x : Arr R) :
    Except Err (Arr R) :=
  (List.range groups.length).reverse.foldlM
    (fun x g => if multiB groups g then unfuseA x (position + g) else pure x) x

/-- **unfuse ∘ fuse, arbitrary groups.**  `fuseCore a groups .insert` succeeds, unfusing every
    fused axis succeeds, the result has the indices of `transpose a perm`, every stored block
    `(s, b)` reappears as EXACTLY `b.transposeK perm` (equal as blocks) under the sector
    `permuted s perm`, and every other block of the result is identically zero. -/
theorem unfuse_fuse_blocks {R : Type} [Zero R] (a : Arr R) (groups : List (List Nat))
    (hv : a.validB = true) (hg : groupsOkB groups a.ndim = true) :
    let gi := calcFuseGroupInfo groups a.duals
    ∃ x y, fuseCore a groups .insert = .ok x ∧ unfuseGroups groups gi.position x = .ok y
      ∧ y.indices = permuted a.indices gi.perm
      ∧ (∀ s b, (s, b) ∈ a.blocks → alookup y.blocks (permuted s gi.perm) = some (b.transposeK gi.perm))
      ∧ (∀ K V, alookup y.blocks K = some V →
          (∃ s b, (s, b) ∈ a.blocks ∧ K = permuted s gi.perm) ∨ AllZero V) := by
  have hc : ValidP.Core a := ((ValidP.validB_iff a).1 hv).core
  have hva := validArr_of_validB hv
  have hok := groupsOk_iff.1 hg
  obtain ⟨Y, h1, h2, h3, h4⟩ := round_tripM hc hok
  refine ⟨_, Y, fuseCore_multi_eq hva hok.adm, ?_, h2, fun s b hsb => h3 (s, b) hsb,
    fun K V hl => (h4 K V hl).imp (fun ⟨sb, hsb, he⟩ => ⟨sb.1, sb.2, hsb, he⟩) id⟩
  rw [← h1, unfuseFrom_eq_foldlM]
  rfl

/-- the unfusing pattern of `tensordotViaFused` for two groups at position 0 -/
theorem unfuseGroups_two {R : Type} [Zero R] (g1 g2 : List Nat) (x : Arr R) :
    unfuseGroups [g1, g2] 0 x
      = (do let x ← (if g2.length != 1 then unfuseA x 1 else pure x)
            if g1.length != 1 then unfuseA x 0 else pure x) := by
  simp only [unfuseGroups, List.length_cons, List.length_nil, List.range_succ, List.range_zero, List.nil_append,
    List.reverse_append, List.reverse_cons, List.reverse_nil, multiB]
  simp only [List.getElem?_cons_succ, List.getElem?_cons_zero, Nat.zero_add, List.cons_append, List.nil_append,
    List.foldlM_cons, List.foldlM_nil]
  cases (if (g2.length != 1) = true then unfuseA x 1 else pure x) with
  | error e => rfl
  | ok y =>
    simp only [bind, Except.bind, pure, Except.pure]
    cases (if (g1.length != 1) = true then unfuseA y 0 else Except.ok y) <;> rfl

theorem unfuseGroups_one {R : Type} [Zero R] (gaxes : List Nat) (hlen : gaxes.length ≠ 1) (p : Nat) (x : Arr R) :
    unfuseGroups [gaxes] p x = unfuseA x p := by
  have hm : multiB [gaxes] 0 = true := multiB_iff.2 ⟨gaxes, rfl, hlen⟩
  simp only [unfuseGroups, List.length_singleton, List.range_one, List.reverse_singleton, List.foldlM_cons,
    List.foldlM_nil, hm, if_true, Nat.add_zero]
  cases unfuseA x p <;> rfl

/-- **unfuse ∘ fuse, one group** (the instance `groups = [gaxes]` of `unfuse_fuse_blocks`).  `fuseCore a [gaxes] .insert` succeeds, `unfuseA` on the fused
    axis succeeds, the result has the indices of `transpose a perm`, every stored block `(s, b)`
    reappears as EXACTLY `b.transposeK perm` (equal as blocks: shape and all data) under the
    sector `permuted s perm`, and every other block of the result is identically zero. -/
theorem unfuse_fuse_blocks_partial {R : Type} [Zero R] (a : Arr R) (gaxes : List Nat)
    (hv : a.validB = true) (hg : groupsOkB [gaxes] a.ndim = true) (hlen : gaxes.length ≠ 1) :
    let gi := calcFuseGroupInfo [gaxes] a.duals
    ∃ x y, fuseCore a [gaxes] .insert = .ok x ∧ unfuseA x gi.position = .ok y
      ∧ y.indices = permuted a.indices gi.perm
      ∧ (∀ s b, (s, b) ∈ a.blocks → alookup y.blocks (permuted s gi.perm) = some (b.transposeK gi.perm))
      ∧ (∀ k B', alookup y.blocks k = some B' →
          (∃ s b, (s, b) ∈ a.blocks ∧ k = permuted s gi.perm) ∨ AllZero B') := by
  obtain ⟨x, y, hx, hy, h⟩ := unfuse_fuse_blocks a [gaxes] hv hg
  exact ⟨x, y, hx, by rw [← unfuseGroups_one gaxes hlen]; exact hy, h⟩

/-- when `a` had no previously fused axes, `unfuseAllA` performs exactly that one `unfuseA` -/
theorem unfuseAll_fuse_blocks_partial {R : Type} [Zero R] (a : Arr R) (gaxes : List Nat)
    (hv : a.validB = true) (hg : groupsOkB [gaxes] a.ndim = true) (hlen : gaxes.length ≠ 1)
    (hplain : ∀ ix ∈ a.indices, ix.sub = none) :
    let gi := calcFuseGroupInfo [gaxes] a.duals
    ∃ x y, fuseCore a [gaxes] .insert = .ok x ∧ unfuseAllA x = .ok y ∧ unfuseA x gi.position = .ok y
      ∧ y.indices = permuted a.indices gi.perm
      ∧ (∀ s b, (s, b) ∈ a.blocks → alookup y.blocks (permuted s gi.perm) = some (b.transposeK gi.perm))
      ∧ (∀ k B', alookup y.blocks k = some B' →
          (∃ s b, (s, b) ∈ a.blocks ∧ k = permuted s gi.perm) ∨ AllZero B') := by
  have hva := validArr_of_validB hv
  have hok := groupsOk_iff.1 hg
  obtain ⟨x, y, hx, hy, hidx, h⟩ := unfuse_fuse_blocks a [gaxes] hv hg
  rw [unfuseGroups_one gaxes hlen] at hy
  refine ⟨x, y, hx, ?_, hy, hidx, h⟩
  -- the fused array has its one fused index at `position`, between indices of `a`
  rw [fuseCore_multi_eq hva hok.adm] at hx
  cases hx
  have hpos : (permuted a.indices (calcFuseGroupInfo [gaxes] a.duals).axesBefore).length
      = (calcFuseGroupInfo [gaxes] a.duals).position := permuted_before_length hok.adm
  have hmid : (newMidOf a [gaxes]).length = 1 := newMidOf_length a [gaxes]
  have hsplit : (fusedArrM a [gaxes]).indices = permuted a.indices (calcFuseGroupInfo [gaxes] a.duals).axesBefore
      ++ newMidOf a [gaxes] ++ permuted a.indices (calcFuseGroupInfo [gaxes] a.duals).axesAfter := rfl
  have hlt : (calcFuseGroupInfo [gaxes] a.duals).position < (fusedArrM a [gaxes]).indices.length := by
    rw [hsplit]; simp only [List.length_append, hpos, hmid]; omega
  refine unfuseAll_single (ix := ixM a [gaxes] 0) ?_ (by rw [ixM_sub hok.adm rfl hlen]; rfl) ?_ hy ?_
  · rw [getElem?_of_getD _ default hlt]; rfl
  · intro ax ix' hne hax
    apply hplain
    rw [hsplit] at hax
    by_cases h1 : ax < (calcFuseGroupInfo [gaxes] a.duals).position
    · rw [List.append_assoc, List.getElem?_append_left (by rw [hpos]; exact h1)] at hax
      exact mem_permuted (getElem?_mem' hax)
    · rw [List.getElem?_append_right (by simp only [List.length_append, hpos, hmid]; omega)] at hax
      exact mem_permuted (getElem?_mem' hax)
  · intro ix' hm
    rw [hidx] at hm
    exact hplain ix' (mem_permuted hm)

/-- **insert = concat, one group** (`_partial` = for ONE multi-axis group; the instance `groups = [gaxes]` of
    `fuseInsert_eq_fuseConcat_multi`).  Both strategies succeed, produce the same indices and the same set of
    (distinct) sectors, and for every sector equal blocks; the proof shows more: both return the one array
    `fusedArrM a [gaxes]`, dict order included. -/
theorem fuseInsert_eq_fuseConcat_partial {R : Type} [Zero R] (a : Arr R) (gaxes : List Nat)
    (hv : a.validB = true) (hg : groupsOkB [gaxes] a.ndim = true) (hlen : gaxes.length ≠ 1) :
    ∃ x y, fuseCore a [gaxes] .insert = .ok x ∧ fuseCore a [gaxes] .concat = .ok y
      ∧ x.indices = y.indices
      ∧ (x.blocks.map (·.1)).Nodup ∧ (y.blocks.map (·.1)).Nodup
      ∧ ∀ ns, (alookup x.blocks ns = none ∧ alookup y.blocks ns = none)
          ∨ ∃ B C, alookup x.blocks ns = some B ∧ alookup y.blocks ns = some C
              ∧ B.shape = C.shape ∧ (∀ i, inBox B.shape i = true → B.get i = C.get i) ∧ B = C := by
  have hva := validArr_of_validB hv
  have hok := groupsOk_iff.1 hg
  have hnd := (fusedBlocksM_inv hva hok.adm).nodup
  refine ⟨_, _, fuseCore_multi_eq hva hok.adm, fuseCore_concat_multi_eq hva hok.adm (by simp), rfl, hnd, hnd, fun ns => ?_⟩
  cases h : alookup (fusedArrM a [gaxes]).blocks ns with
  | none => exact Or.inl ⟨rfl, rfl⟩
  | some B => exact Or.inr ⟨B, B, rfl, rfl, rfl, fun _ _ => rfl, rfl⟩

/-- **fuse_elem, one group** (the instance `groups = [gaxes]` of `fuse_elem`).  For every block `(ns, B)` of the fused array and every offset
    vector `i` in its box, `splitAddr` — read ONLY from the fused index's own table — turns the
    fused charge and offset into sub-charges `ss` and sub-offsets; the element stored there is the
    element of the original at the address `(s, offs)` obtained by expanding the fused axis
    (`replaceWithSeq`) and un-permuting (`permuted · perm` is the inverse direction).  Both
    strategies; non-fermionic arrays (`fuseCore` is the abelian layer: it does not re-key pending
    signs). -/
theorem fuse_elem_partial {R : Type} [Zero R] [Neg R] (a : Arr R) (gaxes : List Nat) (mode : FuseMode)
    (hv : a.validB = true) (hg : groupsOkB [gaxes] a.ndim = true) (hlen : gaxes.length ≠ 1)
    (hnf : a.fermi = false) :
    let gi := calcFuseGroupInfo [gaxes] a.duals
    ∃ x, fuseCore a [gaxes] mode = .ok x ∧
      ∀ ns B, alookup x.blocks ns = some B → ∀ i, inBox B.shape i = true →
        ∃ ss suboffs,
          splitAddr (x.indices.getD gi.position default) (ns.getD gi.position (0, 0)) (i.getD gi.position 0)
            = some (ss, suboffs)
          ∧ ∀ s offs, s.length = a.ndim → offs.length = a.ndim →
              permuted s gi.perm = replaceWithSeq ns gi.position ss →
              permuted offs gi.perm = replaceWithSeq i gi.position suboffs →
              x.elem ns i = a.elem s offs := by
  intro gi
  obtain ⟨x, hx, hins⟩ := fuse_elem a [gaxes] hv hg hnf
  -- `fuse_elem` for the one group: the list of segments is the one pair `splitAddr` returns
  have hone : ∀ ns B, alookup x.blocks ns = some B → ∀ i, inBox B.shape i = true →
      ∃ ss suboffs,
        splitAddr (x.indices.getD gi.position default) (ns.getD gi.position (0, 0)) (i.getD gi.position 0)
          = some (ss, suboffs)
        ∧ ∀ s offs, s.length = a.ndim → offs.length = a.ndim →
            permuted s gi.perm = replaceWithSeq ns gi.position ss →
            permuted offs gi.perm = replaceWithSeq i gi.position suboffs →
            x.elem ns i = a.elem s offs := by
    intro ns B hB i hi
    obtain ⟨segs, hl, hseg, hel⟩ := hins ns B hB i hi
    match segs, hl with
    | [seg], _ =>
      refine ⟨seg.1, seg.2, (hseg 0 gaxes rfl).2 hlen, fun s offs hs ho hK hJ => hel s offs hs ho ?_ ?_⟩
      · simpa [replaceWithSeq] using hK
      · simpa [replaceWithSeq] using hJ
  cases mode with
  | insert => exact ⟨x, hx, hone⟩
  | concat =>
    rw [fuseCore_multi_eq (validArr_of_validB hv) (groupsOk_iff.1 hg).adm] at hx
    cases hx
    exact ⟨_, fuseCore_concat_multi_eq (validArr_of_validB hv) (groupsOk_iff.1 hg).adm (by simp), hone⟩

/-- **onto**, one group (the instance `groups = [gaxes]` of `fuse_elem_onto`): every stored address `(s, offs)`
    of the original is the image of an address of the fused array (so, with `fuse_elem_partial` and `splitAddr_injective`, the map is a bijection
    between stored addresses and the original's stored addresses are all present, once). -/
theorem fuse_elem_onto_partial {R : Type} [Zero R] (a : Arr R) (gaxes : List Nat)
    (hv : a.validB = true) (hg : groupsOkB [gaxes] a.ndim = true) (hlen : gaxes.length ≠ 1) :
    let gi := calcFuseGroupInfo [gaxes] a.duals
    ∃ x, fuseCore a [gaxes] .insert = .ok x ∧
      ∀ s b, (s, b) ∈ a.blocks → ∀ offs, inBox b.shape offs = true →
        ∃ ns B i ss suboffs, alookup x.blocks ns = some B ∧ inBox B.shape i = true
          ∧ splitAddr (x.indices.getD gi.position default) (ns.getD gi.position (0, 0)) (i.getD gi.position 0)
              = some (ss, suboffs)
          ∧ permuted s gi.perm = replaceWithSeq ns gi.position ss
          ∧ permuted offs gi.perm = replaceWithSeq i gi.position suboffs := by
  obtain ⟨x, hx, h⟩ := fuse_elem_onto a [gaxes] hv hg
  refine ⟨x, hx, fun s b hsb offs ho => ?_⟩
  obtain ⟨ns, B, i, hB, hi, hsplit, _, hK, hJ⟩ := h s b hsb offs ho
  exact ⟨ns, B, i, _, _, hB, hi, hsplit 0 gaxes rfl hlen, by simpa [replaceWithSeq] using hK,
    by simpa [replaceWithSeq] using hJ⟩

example : view (do let x ← fuseCore exA [[0], [1, 2]] .insert; unfuseGroups [[0], [1, 2]] 0 x)
    = view (.ok exA) := by decide +kernel
example : view (do let x ← fuseCore exB [[1, 0], [3, 2]] .insert; unfuseGroups [[1, 0], [3, 2]] 0 x)
    = some [([(0, 0), (1, 0), (0, 0), (1, 0)], [1, 1, 1, 1], [0]), ([(1, 0), (0, 0), (0, 0), (1, 0)], [1, 1, 1, 1], [7]),
            ([(0, 0), (1, 0), (1, 0), (0, 0)], [1, 1, 1, 1], [9]), ([(1, 0), (0, 0), (1, 0), (0, 0)], [1, 1, 1, 1], [0])] := by
  decide +kernel

end SymmModel.C05
