/-
  Property C05, part d.

  * the sign of the fermionic fuse, factorised over the groups: `fuseSign_groups`,
    `koszul_vperm_groups`, `unfuseSign_reversal`.
      revSign par g        = (-1)^(k(k-1)/2), k = number of odd entries of `par` on the axes `g`
      groupSign a groups S g = flipSign(non-dual legs of g)(S) · revSign(parities S)(g)
      fuseSignF a groups s = Π_{g dual} groupSign (permuted s perm) g · koszul(parities s)(perm)
    (`g` ranges over the groups in their transposed, consecutive positions `newGroupsF`, "dual" =
    first axis dual; single-axis groups contribute 1.)
  * the fermionic round trip `unfuseF_fuseF`: ONE composed theorem; unfusing every group of `fuseF a groups` with
    `unfuseF` (last group first, `unfuseGroupsF`) gives an array that is valid, has the indices /
    charge / labels of `transposeF a perm`, stores every transposed sector with the transposed shape
    and has, in the value view (pending signs included), exactly the values of `transposeF a perm`;
    every additional block has value zero.  The fuse signs cancel exactly.
  * depth 2: the general theorems of part b do not assume plain indices; the
    explicit compositions `fuse_elem_depth2`, `unfuse_fuse_blocks_depth2`.

  `conj` commuting with `fuse` (any depth of fused indices) is in part e (`fuse_conj_comm`,
  `fuse_conj_comm_depth2`), the agreement of the two strategies for several groups in part h
  (`fuseInsert_eq_fuseConcat_multi`).
-/
import SymmModel.Proofs.Fuse4Round6
import SymmModel.Props.C05All
import SymmModel.Props.C01

namespace SymmModel.C05
open SymmModel FuseP SymmModel.Lazy SymmModel.KoszulP

variable {R : Type} [Zero R] [Neg R]

/-- the Koszul sign of the virtual reversal of `fuseF` is the product of the reversal signs of the
    dual groups (for every parity list) -/
theorem koszul_vperm_groups (a : Arr R) (groups : List (List Nat)) (hg : groupsOkB groups a.ndim = true)
    (par : List Bool) :
    koszul par (some (vpermF a groups))
      = (((newGroupsF groups a.duals).filter (dualSel a groups)).map (revSign par)).foldr (· * ·) 1 := by
  rw [koszul_vpermF a groups (groupsOk_iff.1 hg), revProd_eq_foldr]

/-- **fuse sign per group**: transposition sign times, for every dual group, the flip of its
    non-dual legs and the reversal sign of its odd charges -/
theorem fuseSign_groups (a : Arr R) (groups : List (List Nat)) (hg : groupsOkB groups a.ndim = true)
    (s : Sector) :
    fuseSignF a groups s
      = (((newGroupsF groups a.duals).filter (dualSel a groups)).map (fun g =>
            flipSign a.sym (g.filter (fun ax =>
              !((a.transposeF (calcFuseGroupInfo groups a.duals).perm).indices.getD ax default).dual))
              (permuted s (calcFuseGroupInfo groups a.duals).perm)
            * revSign ((permuted s (calcFuseGroupInfo groups a.duals).perm).map a.sym.parity) g)).foldr (· * ·) 1
        * koszul (a.parities s) (some (calcFuseGroupInfo groups a.duals).perm) := by
  rw [fuseSignF_groups a groups (groupsOk_iff.1 hg), dualGroupsF_eq]
  rfl

/-- the new groups are consecutive runs: group `g` occupies `position + (sizes of earlier groups)`
    onwards, in the order of the group's axes -/
theorem newGroups_consecutive (groups : List (List Nat)) (duals : List Bool)
    (hg : groupsOkB groups duals.length = true) :
    (newGroupsF groups duals).flatten
      = (List.range groups.flatten.length).map (fun t => (calcFuseGroupInfo groups duals).position + t)
    ∧ (newGroupsF groups duals).map List.length = groups.map List.length := by
  refine ⟨newGroupsF_flatten (groupsOk_iff.1 hg), ?_⟩
  simp [newGroupsF, List.map_map, Function.comp]

/-- the Koszul sign of the virtual reversal of `unfuseF` (new legs `axis … axis+n-1`) is the
    reversal sign of those legs -/
theorem unfuseSign_reversal (par : List Bool) (ndim nnew axis : Nat) (h1 : axis < ndim) (h2 : 0 < nnew) :
    koszul par (some ((List.range (ndim + nnew - 1)).map (fun ax =>
        if axis ≤ ax && ax < axis + nnew then axis + nnew - (ax - axis) - 1 else ax)))
      = revSign par ((List.range nnew).map (fun t => axis + t)) :=
  koszul_unfuseVperm par ndim nnew axis h1 h2

example : revSign [true, false, true, true] [0, 2, 3] = -1 ∧ revSign [true, false, true, true] [0, 2] = -1
    ∧ revSign [true, false, true, true] [1, 2] = 1 := by decide

/-- unfuse every axis that `fuseF(*groups)` created with `unfuseF`, last group first -/
def unfuseGroupsF (groups : List (List Nat)) (position : Nat) (x : Arr R) : Except Err (Arr R) :=
  (List.range groups.length).reverse.foldlM
    (fun x g => if multiB groups g then Arr.unfuseF x (position + g) else pure x) x

/-- **unfuseF ∘ fuseF.**  For a valid fermionic array and any admissible groups: `fuseF` succeeds,
    unfusing all its groups with `unfuseF` succeeds, the result is valid, fermionic, has the indices
    of `transposeF a perm` and the charge / odd-position labels of `a`; every stored sector `s` of `a`
    is stored under `permuted s perm` with the transposed block shape and — pending signs included —
    the values of `transposeF a perm` on the whole box; every other stored block has value zero. -/
theorem unfuseF_fuseF [LawfulNeg R] (a : Arr R) (groups : List (List Nat)) (e : Bool)
    (hv : a.validB = true) (hf : a.fermi = true) (hg : groupsOkB groups a.ndim = true) :
    let gi := calcFuseGroupInfo groups a.duals
    ∃ y z, Arr.fuseF a groups .insert e = .ok y ∧ unfuseGroupsF groups gi.position y = .ok z
      ∧ z.validB = true ∧ z.fermi = true
      ∧ z.indices = (a.transposeF gi.perm).indices ∧ z.sym = a.sym ∧ z.charge = a.charge ∧ z.oddpos = a.oddpos
      ∧ (∀ s b, (s, b) ∈ a.blocks → ∃ V, alookup z.blocks (permuted s gi.perm) = some V
          ∧ V.shape = permuted b.shape gi.perm
          ∧ ∀ J, inBox V.shape J = true →
              z.elem (permuted s gi.perm) J = (a.transposeF gi.perm).elem (permuted s gi.perm) J)
      ∧ (∀ K V, alookup z.blocks K = some V → (∀ s b, (s, b) ∈ a.blocks → K ≠ permuted s gi.perm) →
          ∀ J, inBox V.shape J = true → z.elem K J = 0 ∧ (a.transposeF gi.perm).elem K J = 0) := by
  have hok := groupsOk_iff.1 hg
  obtain ⟨y, z, h1, h2, h3, h4, h5, h6, h7, h8, h9, h10⟩ := unfuseF_fuseF_M (a := a) (groups := groups) e hv hf hok
  have hfull := Full.of_valid hv hf
  have hisp := giM_isPerm (a := a) hok
  have htr := hfull.trOk hisp
  have hsec : (signAdj a groups).sectors = a.sectors.map (fun s => permuted s (calcFuseGroupInfo groups a.duals).perm) := by
    have key : ∀ x : Arr R, x.blocks = (a.transposeF (calcFuseGroupInfo groups a.duals).perm).blocks →
        x.phaseSync.sectors = a.sectors.map (fun s => permuted s (calcFuseGroupInfo groups a.duals).perm) := by
      intro x hx
      rw [phaseSync_sectors]
      unfold Arr.sectors
      rw [hx]
      exact transposeF_sectors htr
    unfold signAdj
    split
    · exact key _ (phaseFlip_blocks _ _)
    · exact key _ (phaseFlip_blocks _ _)
  refine ⟨y, z, h1, ?_, h3, h4, h5, h6, h7, h8, ?_, ?_⟩
  · rw [← h2, unfuseFromF_eq_foldlM]; rfl
  · intro s b hsb
    have hb : alookup a.blocks s = some b := alookup_of_mem_nodup (validArr_of_validB hv).nodup hsb
    obtain ⟨b4, hb4, hsh⟩ := signAdj_block (groups := groups) htr hb
    obtain ⟨V, hV, hVs, hVe⟩ := h9 (_, b4) (alookup_some_mem hb4)
    exact ⟨V, hV, by rw [hVs]; exact hsh, fun J hJ => hVe J (by rw [← hVs]; exact hJ)⟩
  · intro K V hl hK J hJ
    have hKn : ∀ sb4 ∈ (signAdj a groups).blocks, K ≠ sb4.1 := by
      intro sb4 hsb4 he
      have : sb4.1 ∈ (signAdj a groups).sectors := List.mem_map.2 ⟨sb4, hsb4, rfl⟩
      rw [hsec] at this
      obtain ⟨s, hs, hse⟩ := List.mem_map.1 this
      obtain ⟨sb, hsb, rfl⟩ := List.mem_map.1 hs
      exact hK sb.1 sb.2 hsb (by rw [he, ← hse])
    refine ⟨h10 K V hl hKn J hJ, ?_⟩
    apply Arr.elem_of_not_mem
    rw [transposeF_sectors htr]
    intro hm
    obtain ⟨s, hs, hse⟩ := List.mem_map.1 hm
    obtain ⟨sb, hsb, rfl⟩ := List.mem_map.1 hs
    exact hK sb.1 sb.2 hsb hse.symm

def viewPh (r : Except Err (Arr Int)) : Option (List (Sector × Int)) := r.toOption.map (·.phases)

def fermiTrip : Except Err (Arr Int) := do
  let x ← Arr.fuseF exF' [[2, 1], [0]] .insert true
  unfuseGroupsF [[2, 1], [0]] 0 x

/-- fermionic round trip on the example with a pending sign: stored numbers and pending signs of the
    result are those of the transposed array -/
example : view fermiTrip = view (.ok (exF'.transposeF [2, 1, 0]))
    ∧ viewPh fermiTrip = viewPh (.ok (exF'.transposeF [2, 1, 0])) := by decide +kernel

omit [Neg R] in
/-- fusing an array whose indices are themselves fused (depth 2): the element map of the second
    fuse reads the OUTER tables; the inner tables travel as sub-indices of the outer table, and
    `unfuse_elem` / `splitAddr` on them compose.  (The general theorems do not assume plain indices;
    this is the explicit composition, with validity of the intermediate array from C01.) -/
theorem unfuse_fuse_blocks_depth2 (a : Arr R) (g1 g2 : List (List Nat))
    (hv : a.validB = true) (hf : a.fermi = false) (h1 : groupsOkB g1 a.ndim = true) :
    ∃ x, fuseCore a g1 .insert = .ok x ∧ x.validB = true ∧
      (groupsOkB g2 x.ndim = true →
        let gi := calcFuseGroupInfo g2 x.duals
        ∃ x2 y, fuseCore x g2 .insert = .ok x2 ∧ unfuseGroups g2 gi.position x2 = .ok y
          ∧ y.indices = permuted x.indices gi.perm
          ∧ (∀ s b, (s, b) ∈ x.blocks → alookup y.blocks (permuted s gi.perm) = some (b.transposeK gi.perm))
          ∧ (∀ K V, alookup y.blocks K = some V →
              (∃ s b, (s, b) ∈ x.blocks ∧ K = permuted s gi.perm) ∨ AllZero V)) := by
  have hok := groupsOk_iff.1 h1
  have hx := fuseCore_multi_eq (validArr_of_validB hv) hok.adm
  have hxv := C01.fuseCore_valid a _ g1 hv hf (admissible_of_groupsOk hok) hx
  exact ⟨_, hx, hxv, fun h2 => unfuse_fuse_blocks _ g2 hxv h2⟩

/-- depth-2 element map: `fuse_elem` for the second fuse, over the fused array of the first -/
theorem fuse_elem_depth2 (a : Arr R) (g1 g2 : List (List Nat))
    (hv : a.validB = true) (hf : a.fermi = false) (h1 : groupsOkB g1 a.ndim = true) :
    ∃ x, fuseCore a g1 .insert = .ok x ∧ x.validB = true ∧ x.fermi = false ∧
      (groupsOkB g2 x.ndim = true →
        let gi := calcFuseGroupInfo g2 x.duals
        ∃ x2, fuseCore x g2 .insert = .ok x2 ∧
          ∀ ns B, alookup x2.blocks ns = some B → ∀ i, inBox B.shape i = true →
            ∃ segs : List (Sector × List Nat), segs.length = g2.length
              ∧ (∀ g gaxes, g2[g]? = some gaxes →
                  (gaxes.length = 1 → segs[g]? = some ([ns.getD (gi.position + g) (0, 0)], [i.getD (gi.position + g) 0]))
                  ∧ (gaxes.length ≠ 1 →
                      splitAddr (x2.indices.getD (gi.position + g) default) (ns.getD (gi.position + g) (0, 0))
                        (i.getD (gi.position + g) 0) = segs[g]?))
              ∧ ∀ s offs, s.length = x.ndim → offs.length = x.ndim →
                  permuted s gi.perm = ns.take gi.position ++ (segs.map (·.1)).flatten
                    ++ ns.drop (gi.position + g2.length) →
                  permuted offs gi.perm = i.take gi.position ++ (segs.map (·.2)).flatten
                    ++ i.drop (gi.position + g2.length) →
                  x2.elem ns i = x.elem s offs) := by
  have hok := groupsOk_iff.1 h1
  have hx := fuseCore_multi_eq (validArr_of_validB hv) hok.adm
  have hxv := C01.fuseCore_valid a _ g1 hv hf (admissible_of_groupsOk hok) hx
  have hxf : (fusedArrM a g1).fermi = false := hf
  exact ⟨_, hx, hxv, hxf, fun h2 => fuse_elem _ g2 hxv h2 hxf⟩

/-- depth-2 round trip on the rank-4 example: fuse (0,1), fuse the fused axis with the next one,
    unfuse twice -/
def depth2Trip : Except Err (Arr Int) := do
  let x ← fuseCore exB [[0, 1]] .insert
  let x2 ← fuseCore x [[0, 1]] .insert
  let y ← unfuseGroups [[0, 1]] 0 x2
  unfuseGroups [[0, 1]] 0 y
def depth1Trip : Except Err (Arr Int) := do
  let x ← fuseCore exB [[0, 1]] .insert
  unfuseGroups [[0, 1]] 0 x
example : view depth2Trip = view depth1Trip := by decide +kernel

end SymmModel.C05
