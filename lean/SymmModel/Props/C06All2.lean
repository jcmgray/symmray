import SymmModel.Props.C06All
import SymmModel.Props.C06c
