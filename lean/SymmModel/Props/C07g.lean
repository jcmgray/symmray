/-
  Property C07, seventh part.

  (1) THE ROUND-TRIP CLAUSE OF THE PROPERTY, VERBATIM.  "Reshaping to any shape obtained by merging
      adjacent axes and/or dropping size-one axes, and then back to the original shape, restores the
      original array."  The relation on shapes, independent of the planner: a list of segments
      `MSeg` — `run r` (`r ≠ []`: the adjacent axes `r` become one axis of size `prod r`; a run of one
      axis is an axis kept) or `drop` (a size-one axis disappears); old shape `shapeS segs`, target
      `targetS segs`; all sizes positive (`MSegOk`).
        `mergeDrop_normalise`   every such description can be rewritten as an `ItemsOk` item list —
                                the planner's own reading of the SAME pair of shapes: a size-one axis
                                facing a target dimension 1 is kept and a later one is the dropped
                                one (`pushSq`), ones at the ends of a run are squeezed axes, the run
                                proper starts and ends with sizes ≥ 2.
        `reshape_mergeDrop_roundtrip_fermionic` / `_abelian`
                                for a valid array without fused axes whose shape is `shapeS segs`:
                                `reshape(targetS segs)` succeeds, `reshape` back to the original
                                shape succeeds, and the result has exactly the value view of the
                                original (`VEq`: symmetry, kind, indices, charge, labels, every value
                                with pending signs multiplied in) and is valid.
      Excluded, exactly: the empty target (`targetS segs ≠ []`, known finding reshape-empty-target:
      the planner raises).  Arrays with fused axes are outside (known finding
      reshape-fused-window-match), see (2).
  (2) RESHAPE TO THE CURRENT SHAPE, fused axes allowed.  `selfWin shape subsizes`: some fused axis
      carries sub-sizes equal to the window of the shape that starts at its own position.
        `reshape_self_plan_iff`        the planner returns the empty plan  ⇔  `selfWin = false`
        `reshape_self_identity_fused`  `selfWin x.shape x.subsizes = false` ⇒ `x.reshape(x.shape)` IS
                                       `x` (equality of arrays) — for ANY array, abelian or
                                       fermionic, densely or sparsely fused
        `reshape_self_unfuses`         `selfWin = true` ⇒ every plan the planner returns contains an
                                       unfuse step
      The known finding's input (4,2) with sub-sizes (4,2) has `selfWin = true`
      (`window_match_is_selfWin`); a densely fused (8,2) with sub-sizes (4,2) has not.
      Not proved: the converse on arrays (that with a self-window the RESULT differs from `x`); the
      planner-level equivalence and `C07.reshape_self_id_fused_counterexample` stand for it.
  (3) `reshape_forward_elem_fermionic_call`: element-exact forward statement for one fuse call with
      several groups: `y.elem ns i = sgnI (fuseSignT a G s) (a.elem s offs)` with `s`, `offs` obtained
      by splitting every fused axis (`splitAddr`); `C05.fuseSign_groups` writes the sign as a product
      over the dual groups (flip of the non-dual legs · reversal sign); the transposition sign is 1.
      Several fuse calls: `reshape_forward_elem_fermionic_calls_partial` (C07h, call by call) and
      `reshape_forward_elem_fermionic_calls` (C07i, every stored element).
-/
import SymmModel.Proofs.Reshape7c
import SymmModel.Props.C07f

namespace SymmModel.C07
open SymmModel SymmModel.Reshape SymmModel.Reshape5 ReshapeP FuseP

/-- **normalisation**: the planner's reading of a merge / drop description -/
theorem mergeDrop_normalise (segs : List MSeg) (hok : ∀ s ∈ segs, MSegOk s) :
    ∃ items, ItemsOk items ∧ shapeOf items = shapeS segs ∧ targetOf items = targetS segs :=
  normalise segs hok

theorem shapeS_pos (segs : List MSeg) (hok : ∀ s ∈ segs, MSegOk s) : ∀ d ∈ shapeS segs, 0 < d := by
  intro d hd
  simp only [shapeS, List.mem_flatMap] at hd
  obtain ⟨s, hs, hds⟩ := hd
  have := hok s hs
  cases s with
  | run r => exact this.2 d hds
  | drop => simp [MSeg.shape] at hds; omega

variable {R : Type} [Zero R] [Neg R] [Lazy.LawfulNeg R]

/-- **the round-trip clause, fermionic arrays** -/
theorem reshape_mergeDrop_roundtrip_fermionic (a : Arr R) (hv : a.validB = true) (hf : a.fermi = true)
    (hnf : ∀ ix ∈ a.indices, ix.sub = none) (segs : List MSeg) (hok : ∀ s ∈ segs, MSegOk s)
    (hshape : a.shape = shapeS segs) (hne : targetS segs ≠ []) :
    ∃ y z, reshapeArr a ((targetS segs).map Int.ofNat) = .ok y
      ∧ reshapeArr y (a.shape.map Int.ofNat) = .ok z ∧ z.validB = true ∧ z.fermi = true ∧ VEq z a := by
  obtain ⟨items, h1, h2, h3⟩ := normalise segs hok
  rw [← h3] at hne ⊢
  exact reshape_roundtrip_fermionic_items a hv hf hnf items (by rw [hshape, h2]) h1 hne
    (by rw [hshape]; exact shapeS_pos segs hok)

/-- **the round-trip clause, abelian arrays** -/
theorem reshape_mergeDrop_roundtrip_abelian (a : Arr R) (hv : a.validB = true) (hf : a.fermi = false)
    (hnf : ∀ ix ∈ a.indices, ix.sub = none) (segs : List MSeg) (hok : ∀ s ∈ segs, MSegOk s)
    (hshape : a.shape = shapeS segs) (hne : targetS segs ≠ []) :
    ∃ y z, reshapeArr a ((targetS segs).map Int.ofNat) = .ok y
      ∧ reshapeArr y (a.shape.map Int.ofNat) = .ok z ∧ z.validB = true ∧ z.fermi = false ∧ VEq z a := by
  obtain ⟨items, h1, h2, h3⟩ := normalise segs hok
  rw [← h3] at hne ⊢
  exact reshape_roundtrip_abelian_items a hv hf hnf items (by rw [hshape, h2]) h1 hne
    (by rw [hshape]; exact shapeS_pos segs hok)

-- the reading: (1,1,3,1) → (1,3) as "drop, keep 1, keep 3, drop" becomes "keep 1, squeeze, keep 3, squeeze"
example : shapeS [.drop, .run [1], .run [3], .drop] = [1, 1, 3, 1]
    ∧ targetS [.drop, .run [1], .run [3], .drop] = [1, 3]
    ∧ pushSq [.K 1, .K 3, .Sq] = [.K 1, .Sq, .K 3, .Sq] := by decide

omit [Zero R] [Neg R] [Lazy.LawfulNeg R] in
/-- the planner returns the empty plan for `shape → shape` iff there is no self-window -/
theorem reshape_self_plan_iff (shape : List Nat) (subsizes : List (Option (List Nat)))
    (hlen : shape.length = subsizes.length) :
    calcReshapeArgs shape shape subsizes = .ok ([], [], []) ↔ selfWin shape subsizes = false := by
  constructor
  · intro h
    cases hw : selfWin shape subsizes with
    | false => rfl
    | true => exact absurd rfl (selfshape_plan_unfuses shape subsizes hw _ h)
  · exact selfshape_plan_empty shape subsizes hlen

omit [Zero R] [Neg R] [Lazy.LawfulNeg R] in
/-- with a self-window every plan contains an unfuse step -/
theorem reshape_self_unfuses (shape : List Nat) (subsizes : List (Option (List Nat)))
    (hw : selfWin shape subsizes = true) (t : List Nat × List (List (List Nat)) × List Nat)
    (h : calcReshapeArgs shape shape subsizes = .ok t) : t.1 ≠ [] :=
  selfshape_plan_unfuses shape subsizes hw t h

omit [Lazy.LawfulNeg R] in
/-- **reshape to the current shape is the identity**, fused axes allowed, when no fused axis carries
    sub-sizes equal to the window of the shape at its own position -/
theorem reshape_self_identity_fused (x : Arr R) (hw : selfWin x.shape x.subsizes = false) :
    reshapeArr x (x.shape.map Int.ofNat) = .ok x := by
  rw [reshapeArr_eq x _ _ x.shape ([], [], []) (findFullReshape_nat _ _) (mapM_toNat _)
    (selfshape_plan_empty x.shape x.subsizes (shape_subsizes_length x) hw)]
  rfl

/-- the known finding's input has a self-window; a densely fused axis of the full size has not -/
theorem window_match_is_selfWin :
    selfWin [4, 2] [some [4, 2], none] = true ∧ selfWin [8, 2] [some [4, 2], none] = false
    ∧ selfWin [8, 4, 2] [some [4, 2], none, none] = false := by decide

/-- **fermionic `reshape`, one fuse call with several groups, element by element** (stated for
    `applyPlan a ([], [G], [])`) -/
theorem reshape_forward_elem_fermionic_call (a : Arr R) (G : List (List Nat)) (P : Nat)
    (hv : a.validB = true) (hf : a.fermi = true) (hc : CallOk G P 0 a.ndim) :
    ∃ y, applyPlan a ([], [G], []) = .ok y ∧
      ∀ ns B, alookup y.blocks ns = some B → ∀ i, inBox B.shape i = true →
        ∃ segs : List (Sector × List Nat), segs.length = G.length
          ∧ (∀ g gaxes, G[g]? = some gaxes →
              splitAddr (y.indices.getD (P + g) default) (ns.getD (P + g) (0, 0)) (i.getD (P + g) 0) = segs[g]?)
          ∧ ∀ s offs, s.length = a.ndim → offs.length = a.ndim →
              s = ns.take P ++ (segs.map (·.1)).flatten ++ ns.drop (P + G.length) →
              offs = i.take P ++ (segs.map (·.2)).flatten ++ i.drop (P + G.length) →
              y.elem ns i = Lazy.sgnI (fuseSignT a G s) (a.elem s offs) := by
  obtain ⟨y, hy, hel⟩ := ReshapeI.forward_elem_call_box a G P 0 hv hf hc
  refine ⟨y, by rw [ReshapeI.applyPlan_calls, List.foldlM_cons, hy]; rfl, ?_⟩
  intro ns B hB i hi
  obtain ⟨segs, hsl, hsp, _, _, hval, _⟩ := hel ns B hB i hi
  exact ⟨segs, hsl, hsp, fun s offs _ _ hs ho => by rw [hs, ho]; exact hval⟩

section Examples
open C05

example := reshape_mergeDrop_roundtrip_fermionic (R := Int) exG (by decide) rfl (by decide)
  [.run [2, 2], .run [2], .run [2]] (by decide) (by decide) (by decide)
example := reshape_mergeDrop_roundtrip_abelian (R := Int) exA (by decide) rfl (by decide)
  [.run [3], .run [3, 2]] (by decide) (by decide) (by decide)
example := reshape_forward_elem_fermionic_call (R := Int) exG [[0, 1], [2, 3]] 0 (by decide) rfl
  ⟨by decide, by decide, by decide, by decide, by decide⟩
-- a fused array reshaped to its own shape: fuse (1,2) of `exA`, sparse size 3 ≠ 3·2 window
example : (match fuseA exA [[1, 2]] with
    | .ok x => selfWin x.shape x.subsizes == false && (reshapeArr x (x.shape.map Int.ofNat) matches .ok _)
    | .error _ => false) = true := by decide +kernel

end Examples

end SymmModel.C07
