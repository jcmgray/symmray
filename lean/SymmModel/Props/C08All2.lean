import SymmModel.Props.C08All
import SymmModel.Props.C08c
