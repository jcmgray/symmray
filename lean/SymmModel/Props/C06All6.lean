import SymmModel.Props.C06All5
import SymmModel.Props.C06g
