import SymmModel.Props.C06
import SymmModel.Props.C06b
