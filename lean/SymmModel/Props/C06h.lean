/-
  C06 (eighth part) — "fusing uncontracted indices before or after contraction is likewise
  equivalent": ONE group `g` of FREE legs of the LEFT operand at an ARBITRARY position,
  legs in ANY order, fused BEFORE the contraction WITHOUT a preliminary transposition — versus
  contracting first and fusing legs of the result AFTERWARDS.  Abelian, operands not aligned,
  blockwise contraction, either fuse strategy.

  * `shiftAxes a g x` (`TdotP.shiftAxes`): where the axis `x ∉ g` of `a` sits in `fuse(a, [g])`
    (`_fuse_core` puts the fused leg at `bondPos a g = min g`, the other legs keep their order):
    `shiftAxes_def` / `shiftAxes_mem_range` / `shiftAxes_injective` characterise it.
  * `tensordot_fuse_group_pre` — the renumbered contraction: `fuse(a, [g])` succeeds (strategy `m`),
    the public `tensordot` of the fused operand with `b` over `(xa.map (shiftAxes a g), xb)`
    succeeds, and at the result address read off ANY full address `(ML', MO')` of the fused operand's
    table box (free part `permuted · (freeAxes _ xa')`, followed by any address `(Rs, oR)` of `b`'s
    free legs) it holds the element of `tensordot(a, b, (xa, xb))` at the address read off the full
    address `(ML, MO)` of `a` that `(ML', MO')` decodes to (fused leg: through the fused index's own
    table, `decAx`; other legs copied).
  * `tensordot_fuse_group_commute` — before = after: with `c = tensordot(a, b, (xa, xb))` and ANY
    group `g'` of legs of `c`: `fuse(c, [g'])` succeeds, and whenever an address `(ns2, i2)` of its
    table box decodes (through ITS own table) to the same address of `c` as above — for the
    corresponding legs `g' = g.map (position among a's free legs)` the group part of that address
    is `(permuted ML g, permuted MO g)`: `result_group_part` — the two arrays hold the same
    element, the element of `c` there.
  In the later parts: a group of legs of the RIGHT operand (mirror image of `TdotP.group_commute`),
  the transfer to fused / auto contraction modes, and the literal coincidence of the two address
  layouts outside the fused leg (C06i); the fermionic two-sided free-leg form (C06j).  Here the
  statement is at decoded addresses, each side through its own table, as in C06e's
  `tensordot_fuse_free_commute`.
-/
import SymmModel.Props.C06g
import SymmModel.Proofs.FuseCommuteH2

namespace SymmModel.C06
open SymmModel SymmModel.TdotP SymmModel.GradedP SymmModel.RoutesP SymmModel.AssocP
open SymmModel.Assoc3P SymmModel.Assoc4P

variable {R : Type}

/-- what `shiftAxes` is: the `j`-th axis outside the group goes to the `j`-th position other than
    the fused one -/
theorem shiftAxes_def [Zero R] (X : Arr R) {g : List Nat} (hne : g ≠ []) (hnd : g.Nodup)
    (hlt : ∀ x ∈ g, x < X.ndim) (x : Nat) :
    shiftAxes X g x
      = (freeAxes (FuseP.fusedArrM X [g]).ndim [bondPos X g]).getD ((freeAxes X.ndim g).idxOf x) 0 := by
  rw [one_ndim ⟨hne, hnd, hlt⟩]; rfl

theorem shiftAxes_mem_range [Zero R] (X : Arr R) {g : List Nat} (hne : g ≠ []) (hnd : g.Nodup)
    (hlt : ∀ x ∈ g, x < X.ndim) {x : Nat} (hx : x < X.ndim) (hxg : x ∉ g) :
    shiftAxes X g x < (FuseP.fusedArrM X [g]).ndim ∧ shiftAxes X g x ≠ bondPos X g :=
  ⟨by rw [one_ndim ⟨hne, hnd, hlt⟩]; exact shiftAxes_lt ⟨hne, hnd, hlt⟩ ⟨hx, hxg⟩,
    shiftAxes_ne_pos ⟨hne, hnd, hlt⟩ ⟨hx, hxg⟩⟩

theorem shiftAxes_injective (X : Arr R) {g : List Nat} (hne : g ≠ []) (hnd : g.Nodup)
    (hlt : ∀ x ∈ g, x < X.ndim) {x y : Nat} (hx : x < X.ndim ∧ x ∉ g) (hy : y < X.ndim ∧ y ∉ g)
    (e : shiftAxes X g x = shiftAxes X g y) : x = y :=
  shiftAxes_inj ⟨hne, hnd, hlt⟩ hx hy e

/-- the renumbering transports every per-axis datum: reading a list `V'` of the fused array through
    the renumbered axes is reading the original's `V` through the original axes, whenever the
    untouched parts of `V'` and `V` agree (index tables: `one_free_indices`) -/
theorem shiftAxes_read [Zero R] {α : Type} (X : Arr R) {g : List Nat} (hne : g ≠ []) (hnd : g.Nodup)
    (hlt : ∀ x ∈ g, x < X.ndim) (d : α) {V' V : List α}
    (hV' : V'.length = (FuseP.fusedArrM X [g]).ndim) (hV : V.length = X.ndim)
    (hf : permuted V' (freeAxes (FuseP.fusedArrM X [g]).ndim [bondPos X g]) = permuted V (freeAxes X.ndim g))
    (l : List Nat) (hl : ∀ x ∈ l, x < X.ndim ∧ x ∉ g) :
    permuted V' (l.map (shiftAxes X g)) = permuted V l := by
  rw [one_ndim ⟨hne, hnd, hlt⟩] at hV' hf
  exact permuted_shift ⟨hne, hnd, hlt⟩ d hV' hV hf l hl

theorem shiftAxes_indices [Zero R] (X : Arr R) {g : List Nat} (hne : g ≠ []) (hnd : g.Nodup)
    (hlt : ∀ x ∈ g, x < X.ndim) (l : List Nat) (hl : ∀ x ∈ l, x < X.ndim ∧ x ∉ g) :
    permuted (FuseP.fusedArrM X [g]).indices (l.map (shiftAxes X g)) = permuted X.indices l :=
  permuted_shift ⟨hne, hnd, hlt⟩ default (FuseP.newIdxM_length (OneOk.groupsOk ⟨hne, hnd, hlt⟩).adm) rfl
    (one_free_indices ⟨hne, hnd, hlt⟩) l hl

theorem tensordot_fuse_group_pre [AddCommMonoid R] [Mul R] [Neg R]
    (hz1 : ∀ x : R, 0 * x = 0) (hz2 : ∀ x : R, x * 0 = 0) (a b : Arr R) (xa xb g : List Nat) (m : FuseMode)
    (ha : a.validB = true) (hb : b.validB = true) (hfa : a.fermi = false) (hfb : b.fermi = false)
    (hnA : xa.Nodup) (hnB : xb.Nodup) (hA : ∀ x ∈ xa, x < a.ndim) (hB : ∀ x ∈ xb, x < b.ndim)
    (hlen : xa.length = xb.length)
    (hne : g ≠ []) (hnd : g.Nodup) (hlt : ∀ x ∈ g, x < a.ndim) (hdisj : ∀ x ∈ xa, x ∉ g) :
    fuseA a [g] m false = .ok (FuseP.fusedArrM a [g])
    ∧ tensordotA (FuseP.fusedArrM a [g]) b
        (.pair ((xa.map (shiftAxes a g)).map Int.ofNat) (xb.map Int.ofNat)) .blockwise
        = .ok (tensordotBlockwise (FuseP.fusedArrM a [g]) b
            (freeAxes (FuseP.fusedArrM a [g]).ndim (xa.map (shiftAxes a g))) (xa.map (shiftAxes a g)) xb
            (freeAxes b.ndim xb))
    ∧ ∀ (ML' ML : Sector) (MO' MO shp' shpA : List Nat) (Rs : Sector) (oR shpR : List Nat),
        Arr.blockShape? (FuseP.fusedArrM a [g]).indices ML' = some shp' → inBox shp' MO' = true →
        Arr.blockShape? a.indices ML = some shpA → inBox shpA MO = true →
        decAx a [g] 0 (ML'.getD (bondPos a g) (0, 0)) (MO'.getD (bondPos a g) 0)
          = some (permuted ML g, permuted MO g) →
        permuted ML' (freeAxes (FuseP.fusedArrM a [g]).ndim [bondPos a g]) = permuted ML (freeAxes a.ndim g) →
        permuted MO' (freeAxes (FuseP.fusedArrM a [g]).ndim [bondPos a g]) = permuted MO (freeAxes a.ndim g) →
        Arr.blockShape? (permuted b.indices (freeAxes b.ndim xb)) Rs = some shpR → inBox shpR oR = true →
        (tensordotBlockwise (FuseP.fusedArrM a [g]) b
            (freeAxes (FuseP.fusedArrM a [g]).ndim (xa.map (shiftAxes a g))) (xa.map (shiftAxes a g)) xb
            (freeAxes b.ndim xb)).elem
            (permuted ML' (freeAxes (FuseP.fusedArrM a [g]).ndim (xa.map (shiftAxes a g))) ++ Rs)
            (permuted MO' (freeAxes (FuseP.fusedArrM a [g]).ndim (xa.map (shiftAxes a g))) ++ oR)
          = (cPlain a b xa xb).elem
              (permuted ML (freeAxes a.ndim xa) ++ Rs) (permuted MO (freeAxes a.ndim xa) ++ oR) := by
  have h : OneOk a g := ⟨hne, hnd, hlt⟩
  have hA' : ∀ x ∈ xa.map (shiftAxes a g), x < (FuseP.fusedArrM a [g]).ndim := by
    rw [one_ndim h]; exact shiftAxes_map_lt h (fun x hx => ⟨hA x hx, hdisj x hx⟩)
  refine ⟨fuseA_any_mode a [g] m ha h.groupsOk, ?_, ?_⟩
  · exact tensordotA_blockwise_ok (FuseP.fusedArrM a [g]) b _ (xa.map (shiftAxes a g)) xb
      (ValidP.parseAxes_nat _ _ _ xb (by rw [List.length_map]; exact hlen) hA' hB)
  · intro ML' ML MO' MO shp' shpA Rs oR shpR h1 h2 h3 h4 h5 h6 h7 h8 h9
    exact group_commute hz1 hz2 a b xa xb g ha hb hfa (Arr.phases_nil_of_validB hb hfb) h hdisj hnA hnB hA hB hlen
      h1 h2 h3 h4 h5 h6 h7 h8 h9

/-- the group part of a result address: for the legs of the result that correspond to the group
    `g` of `a` (positions of `g`'s axes among `a`'s free legs), the group part of the result address
    `(permuted ML (free a) ++ Rs)` is the group part of `ML` -/
theorem result_group_part {α : Type} (n : Nat) (xa g : List Nat) (ML Rs : List α) (hML : ML.length = n)
    (hlt : ∀ x ∈ g, x < n) (hdisj : ∀ x ∈ g, x ∉ xa) :
    permuted (permuted ML (freeAxes n xa) ++ Rs) (g.map (fun x => (freeAxes n xa).idxOf x)) = permuted ML g := by
  have hl : (permuted ML (freeAxes n xa)).length = (freeAxes n xa).length :=
    permuted_length _ _ (by intro x hx; rw [hML]; exact (mem_freeAxes.mp hx).1)
  unfold permuted
  rw [List.filterMap_map]
  apply List.filterMap_congr
  intro x hx
  have hm : x ∈ freeAxes n xa := mem_freeAxes.mpr ⟨hlt x hx, hdisj x hx⟩
  have hi : (freeAxes n xa).idxOf x < (freeAxes n xa).length := List.idxOf_lt_length_of_mem hm
  simp only [Function.comp]
  show (permuted ML (freeAxes n xa) ++ Rs)[(freeAxes n xa).idxOf x]? = ML[x]?
  rw [List.getElem?_append_left (by rw [hl]; exact hi),
    permuted_getElem? ML (freeAxes n xa) (by intro y hy; rw [hML]; exact (mem_freeAxes.mp hy).1),
    List.getElem?_eq_getElem hi, List.getElem_idxOf hi]
  rfl

/-- **tensordot_fuse_group_commute** (abelian; left operand; group anywhere, any order; no
    preliminary transposition). -/
theorem tensordot_fuse_group_commute [AddCommMonoid R] [Mul R] [Neg R]
    (hz1 : ∀ x : R, 0 * x = 0) (hz2 : ∀ x : R, x * 0 = 0) (a b : Arr R) (xa xb g g' : List Nat)
    (m m' : FuseMode)
    (ha : a.validB = true) (hb : b.validB = true) (hfa : a.fermi = false) (hfb : b.fermi = false)
    (hsym : a.sym = b.sym) (hopp : ValidP.oppositeDualsB a b xa xb = true)
    (hnA : xa.Nodup) (hnB : xb.Nodup) (hA : ∀ x ∈ xa, x < a.ndim) (hB : ∀ x ∈ xb, x < b.ndim)
    (hne : g ≠ []) (hnd : g.Nodup) (hlt : ∀ x ∈ g, x < a.ndim) (hdisj : ∀ x ∈ xa, x ∉ g)
    (hne' : g' ≠ []) (hnd' : g'.Nodup) (hlt' : ∀ x ∈ g', x < (cPlain a b xa xb).ndim) :
    fuseA a [g] m false = .ok (FuseP.fusedArrM a [g])
    ∧ tensordotA a b (.pair (xa.map Int.ofNat) (xb.map Int.ofNat)) .blockwise = .ok (cPlain a b xa xb)
    ∧ fuseA (cPlain a b xa xb) [g'] m' false = .ok (FuseP.fusedArrM (cPlain a b xa xb) [g'])
    ∧ ∃ cf, tensordotA (FuseP.fusedArrM a [g]) b
          (.pair ((xa.map (shiftAxes a g)).map Int.ofNat) (xb.map Int.ofNat)) .blockwise = .ok cf
      ∧ ∀ (ML' ML : Sector) (MO' MO shp' shpA : List Nat) (Rs : Sector) (oR shpR : List Nat)
          (ns2 : Sector) (i2 shp2 : List Nat),
        Arr.blockShape? (FuseP.fusedArrM a [g]).indices ML' = some shp' → inBox shp' MO' = true →
        Arr.blockShape? a.indices ML = some shpA → inBox shpA MO = true →
        decAx a [g] 0 (ML'.getD (bondPos a g) (0, 0)) (MO'.getD (bondPos a g) 0)
          = some (permuted ML g, permuted MO g) →
        permuted ML' (freeAxes (FuseP.fusedArrM a [g]).ndim [bondPos a g]) = permuted ML (freeAxes a.ndim g) →
        permuted MO' (freeAxes (FuseP.fusedArrM a [g]).ndim [bondPos a g]) = permuted MO (freeAxes a.ndim g) →
        Arr.blockShape? (permuted b.indices (freeAxes b.ndim xb)) Rs = some shpR → inBox shpR oR = true →
        Arr.blockShape? (FuseP.fusedArrM (cPlain a b xa xb) [g']).indices ns2 = some shp2 → inBox shp2 i2 = true →
        decAx (cPlain a b xa xb) [g'] 0 (ns2.getD (bondPos (cPlain a b xa xb) g') (0, 0))
            (i2.getD (bondPos (cPlain a b xa xb) g') 0)
          = some (permuted (permuted ML (freeAxes a.ndim xa) ++ Rs) g',
                  permuted (permuted MO (freeAxes a.ndim xa) ++ oR) g') →
        permuted ns2 (freeAxes (FuseP.fusedArrM (cPlain a b xa xb) [g']).ndim [bondPos (cPlain a b xa xb) g'])
          = permuted (permuted ML (freeAxes a.ndim xa) ++ Rs) (freeAxes (cPlain a b xa xb).ndim g') →
        permuted i2 (freeAxes (FuseP.fusedArrM (cPlain a b xa xb) [g']).ndim [bondPos (cPlain a b xa xb) g'])
          = permuted (permuted MO (freeAxes a.ndim xa) ++ oR) (freeAxes (cPlain a b xa xb).ndim g') →
        cf.elem (permuted ML' (freeAxes (FuseP.fusedArrM a [g]).ndim (xa.map (shiftAxes a g))) ++ Rs)
            (permuted MO' (freeAxes (FuseP.fusedArrM a [g]).ndim (xa.map (shiftAxes a g))) ++ oR)
          = (FuseP.fusedArrM (cPlain a b xa xb) [g']).elem ns2 i2
        ∧ (FuseP.fusedArrM (cPlain a b xa xb) [g']).elem ns2 i2
          = (cPlain a b xa xb).elem
              (permuted ML (freeAxes a.ndim xa) ++ Rs) (permuted MO (freeAxes a.ndim xa) ++ oR) := by
  have hlen : xa.length = xb.length := by
    exact (ValidP.oppositeDualsB_iff.mp hopp).1
  have hvc : (cPlain a b xa xb).validB = true := by
    have := ValidP.tensordotBlockwise_valid a b xa xb ((ValidP.validB_iff _).mp ha)
      ((ValidP.validB_iff _).mp hb) hsym hfa hopp hnA hnB hA hB
    rw [without_range, without_range] at this
    exact (ValidP.validB_iff _).mpr this
  have hfc : (cPlain a b xa xb).fermi = false := (tensordotBlockwise_fields a b _ xa xb _).2.1.trans hfa
  have hcn : (cPlain a b xa xb).ndim = (freeAxes a.ndim xa).length + (freeAxes b.ndim xb).length :=
    tensordotBlockwise_rank a b xa xb
  obtain ⟨f1, t1, hpre⟩ := tensordot_fuse_group_pre hz1 hz2 a b xa xb g m ha hb hfa hfb hnA hnB hA hB hlen
    hne hnd hlt hdisj
  obtain ⟨f2, _, _, _, hpost⟩ := fuse_group_elem (cPlain a b xa xb) g' m' hvc hfc hne' hnd' hlt'
  refine ⟨f1, tensordotA_blockwise_ok a b _ xa xb (ValidP.parseAxes_nat a.ndim b.ndim xa xb hlen hA hB),
    f2, _, t1, ?_⟩
  intro ML' ML MO' MO shp' shpA Rs oR shpR ns2 i2 shp2 h1 h2 h3 h4 h5 h6 h7 h8 h9 k1 k2 k3 k4 k5
  have ebn : b.indices.length = b.ndim := rfl
  have hMLl : ML.length = a.ndim := (blockShape?_length h3).1
  have hMOl : MO.length = a.ndim := by rw [inBox_length h4, (blockShape?_length h3).2]; rfl
  have hRl : Rs.length = (freeAxes b.ndim xb).length := by
    rw [(blockShape?_length h8).1, permuted_length _ _ (by simpa [ebn] using mem_freeAxes_lt)]
  have hoRl : oR.length = (freeAxes b.ndim xb).length := by
    rw [inBox_length h9, (blockShape?_length h8).2, permuted_length _ _ (by simpa [ebn] using mem_freeAxes_lt)]
  have e1 := hpre ML' ML MO' MO shp' shpA Rs oR shpR h1 h2 h3 h4 h5 h6 h7 h8 h9
  have e2 := hpost ns2 i2 shp2 (permuted ML (freeAxes a.ndim xa) ++ Rs) (permuted MO (freeAxes a.ndim xa) ++ oR)
    k1 k2
    (by rw [List.length_append, permuted_length _ _ (by intro x hx; rw [hMLl]; exact (mem_freeAxes.mp hx).1),
          hRl, hcn])
    (by rw [List.length_append, permuted_length _ _ (by intro x hx; rw [hMOl]; exact (mem_freeAxes.mp hx).1),
          hoRl, hcn])
    k3 k4 k5
  exact ⟨e1.trans e2.symm, e2⟩

-- `exA[i,j,k]` with `exG[l,j',n]` over `j` (axis 1 of each): the group `g = [2, 0]` of free legs of
-- `exA` is NOT adjacent (it straddles the contracted axis) and listed in reversed order; the fused
-- leg sits at position 0, the contracted axis stays at position 1; the corresponding legs of the
-- result `c[i,k,l,n]` are `g' = [1, 0]`
example : exA.validB = true ∧ exG.validB = true ∧ exA.fermi = false ∧ exG.fermi = false
    ∧ exA.sym = exG.sym ∧ ValidP.oppositeDualsB exA exG [1] [1] = true
    ∧ ([2, 0] : List Nat).Nodup ∧ (∀ x ∈ ([2, 0] : List Nat), x < exA.ndim) ∧ (∀ x ∈ ([1] : List Nat), x ∉ ([2, 0] : List Nat))
    ∧ bondPos exA [2, 0] = 0 ∧ ([1] : List Nat).map (shiftAxes exA [2, 0]) = [1]
    ∧ shiftAxes exA [1, 0] 2 = 1 ∧ shiftAxes exA [2, 1] 0 = 0
    ∧ ([2, 0] : List Nat).map (fun x => (freeAxes exA.ndim [1]).idxOf x) = [1, 0]
    ∧ (∀ x ∈ ([1, 0] : List Nat), x < (cPlain exA exG [1] [1]).ndim)
    ∧ (cPlain exA exG [1] [1]).blocks.length ≠ 0 := by decide +kernel

-- sanity: the two routes on this example store the same non-zero data
example :
    (match fuseA exA [[2, 0]] .insert false, tensordotA exA exG (.pair [1] [1]) .blockwise with
     | .ok af, .ok c =>
        match tensordotA af exG (.pair [1] [1]) .blockwise, fuseA c [[1, 0]] .concat false with
        | .ok cf, .ok cq =>
          cf.blocks.all (fun p => (alookup cq.blocks p.1).map (·.data) == some p.2.data)
          && cq.blocks.all (fun p => (alookup cf.blocks p.1).map (·.data) == some p.2.data)
          && cf.blocks.length != 0
        | _, _ => false
     | _, _ => false) = true := by decide +kernel

end SymmModel.C06
