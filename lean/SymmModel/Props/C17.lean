/-
  Property C17 — charges form an abelian group with parity; sector enumeration is exact.

  All theorems are about the model definitions `Sym.valid/combine/sign/parity/zero`
  (Model/Sym.lean) and `Arr.genValidSectors/isValidSector/sectorCharge` (Model/Arr.lean), for
  EVERY `s : Sym` and all charges (U1: all of ℤ, U1U1: all of ℤ², no bound).  A validity
  hypothesis appears only where the statement is false without it (an invalid charge is not
  reduced: `combine [zero, c] = c` fails for `c = 3` in Z2); the `…_needs_…` counterexamples
  below show it.  Two exceptions ask more than needed: `combine_assoc` takes
  `valid a`, `valid c` and uses neither (`Sym.combine_assoc` has no hypothesis), and the enumeration
  theorems ask every charge of EVERY index to be valid, and use it for the last index only.
-/
import SymmModel.Proofs.SymLemmas

namespace SymmModel.C17
open SymmModel Sym

theorem combine_nil (s : Sym) :
    s.combine [] = s.zero ∧ s.zero = (0, 0) ∧ s.valid s.zero = true :=
  ⟨rfl, Sym.zero_eq s, Sym.zero_valid s⟩

theorem combine_singleton (s : Sym) (c : Charge) (h : s.valid c = true) : s.combine [c] = c :=
  Sym.combine_singleton s c h

example : Sym.valid .Z4 (3, 0) = true ∧ Sym.valid .U1 (-7, 0) = true
    ∧ Sym.valid .Z2Z2 (1, 1) = true ∧ Sym.valid .U1U1 (5, -9) = true ∧ Sym.valid .Z2 (1, 0) = true := by
  decide

theorem combine_singleton_needs_valid : Sym.combine .Z2 [(3, 0)] ≠ (3, 0) := by decide

/-- n-ary associativity (no validity needed: partial results are always reduced) -/
theorem combine_append (s : Sym) (xs ys : List Charge) :
    s.combine (xs ++ ys) = s.combine [s.combine xs, s.combine ys] :=
  Sym.combine_append s xs ys

/-- n-ary commutativity -/
theorem combine_perm (s : Sym) {xs ys : List Charge} (h : xs.Perm ys) :
    s.combine xs = s.combine ys :=
  Sym.combine_perm s h

example : [(1, 0), (2, 0), (3, 0)].Perm [(3, 0), (1, 0), ((2 : Int), (0 : Int))] := by decide

/-- closure (the arguments need not be valid) -/
theorem combine_valid (s : Sym) (cs : List Charge) : s.valid (s.combine cs) = true :=
  Sym.combine_valid s cs

/-- negation (`sign c true`) and the identity (`sign c false`) map valid charges to valid ones -/
theorem sign_valid (s : Sym) (c : Charge) (d : Bool) (h : s.valid c = true) :
    s.valid (s.sign c d) = true :=
  Sym.sign_valid s c d h

/-- the negated charge is the inverse (holds for every charge) -/
theorem combine_sign_cancel (s : Sym) (c : Charge) :
    s.combine [c, s.sign c true] = s.zero :=
  Sym.combine_sign_cancel s c

theorem sign_sign (s : Sym) (c : Charge) (d : Bool) (h : s.valid c = true) :
    s.sign (s.sign c d) d = c :=
  Sym.sign_sign s c d h

theorem sign_sign_needs_valid : Sym.sign .Z4 (Sym.sign .Z4 (5, 0) true) true ≠ (5, 0) := by decide

theorem sign_false (s : Sym) (c : Charge) : s.sign c false = c :=
  Sym.sign_false s c

theorem combine_comm (s : Sym) (a b : Charge) : s.combine [a, b] = s.combine [b, a] :=
  Sym.combine_comm s a b

theorem combine_zero_left (s : Sym) (c : Charge) (h : s.valid c = true) :
    s.combine [s.zero, c] = c :=
  Sym.combine_zero_left s c h

theorem combine_zero_right (s : Sym) (c : Charge) (h : s.valid c = true) :
    s.combine [c, s.zero] = c :=
  Sym.combine_zero_right s c h

theorem combine_assoc (s : Sym) (a b c : Charge) (ha : s.valid a = true) (hc : s.valid c = true) :
    s.combine [s.combine [a, b], c] = s.combine [a, s.combine [b, c]] :=
  Sym.combine_assoc s a b c

/-- parity is a homomorphism to (Bool, xor), for every argument list -/
theorem parity_combine (s : Sym) (cs : List Charge) :
    s.parity (s.combine cs) = cs.foldr (fun c acc => xor (s.parity c) acc) false :=
  Sym.parity_combine s cs

theorem parity_combine_pair (s : Sym) (a b : Charge) :
    s.parity (s.combine [a, b]) = xor (s.parity a) (s.parity b) :=
  Sym.parity_combine_pair s a b

theorem parity_zero (s : Sym) : s.parity s.zero = false :=
  Sym.parity_zero s

theorem parity_sign (s : Sym) (c : Charge) (d : Bool) : s.parity (s.sign c d) = s.parity c :=
  Sym.parity_sign s c d

example : Sym.parity .U1U1 (Sym.combine .U1U1 [(1, 2), (-4, 7), (0, 1)]) = true := by decide

variable {R : Type}

theorem isValidSector_iff (a : Arr R) (s : Sector) :
    a.isValidSector s = true ↔ Arr.sectorCharge a.sym a.duals s = a.charge := by
  simp [Arr.isValidSector]

/-- `gen_valid_sectors` enumerates exactly the tuples of available charges whose signed
    combination is the total charge (relational form) -/
theorem genValidSectors_exact_forall₂ (a : Arr R)
    (hidx : ∀ ix ∈ a.indices, ∀ c ∈ ix.charges, a.sym.valid c = true)
    (hch : a.sym.valid a.charge = true) (s : Sector) :
    s ∈ a.genValidSectors ↔
      List.Forall₂ (fun c (ix : Index) => c ∈ ix.charges) s a.indices
        ∧ a.isValidSector s = true :=
  Arr.mem_genValidSectors a hidx hch s

/-- none missing, none extra: a sector is generated iff it has one charge per index, each
    charge is available on its index, and it satisfies the charge constraint -/
theorem genValidSectors_exact (a : Arr R)
    (hidx : ∀ ix ∈ a.indices, ∀ c ∈ ix.charges, a.sym.valid c = true)
    (hch : a.sym.valid a.charge = true) (s : Sector) :
    s ∈ a.genValidSectors ↔
      (s.length = a.ndim
        ∧ (∀ (i : Nat) (h₁ : i < s.length) (h₂ : i < a.indices.length),
              s[i] ∈ (a.indices[i]).charges)
        ∧ a.isValidSector s = true) := by
  rw [Arr.mem_genValidSectors a hidx hch s, List.forall₂_iff_get]
  simp only [List.get_eq_getElem, Arr.ndim, and_assoc]

/-- none repeated.  Hypothesis: each index's charge list has no duplicates (Python: the keys
    of a dict). -/
theorem genValidSectors_nodup (a : Arr R) (h : ∀ ix ∈ a.indices, ix.charges.Nodup) :
    a.genValidSectors.Nodup :=
  Arr.genValidSectors_nodup_aux a h

/-! ### non-vacuity and exactness of the hypotheses -/

def exZ4 : Arr Int :=
  { sym := .Z4, fermi := false, charge := (1, 0), blocks := [],
    indices := [Index.mk [((0, 0), 1), ((1, 0), 1), ((3, 0), 2)] false none,
                Index.mk [((0, 0), 1), ((2, 0), 1), ((3, 0), 1)] true none] }

example : (∀ ix ∈ exZ4.indices, ∀ c ∈ ix.charges, exZ4.sym.valid c = true)
    ∧ exZ4.sym.valid exZ4.charge = true ∧ (∀ ix ∈ exZ4.indices, ix.charges.Nodup) := by decide

example : exZ4.genValidSectors = [[(0, 0), (3, 0)], [(1, 0), (0, 0)], [(3, 0), (2, 0)]] := by decide

/-- U1U1 rank-3 with mixed directions -/
def exU1U1 : Arr Int :=
  { sym := .U1U1, fermi := false, charge := (1, -1), blocks := [],
    indices := [Index.mk [((-1, 0), 1), ((0, 1), 1)] false none,
                Index.mk [((0, 0), 1), ((1, 1), 1)] true none,
                Index.mk [((2, -1), 1), ((1, -1), 1), ((1, -2), 1)] false none] }

example : exU1U1.genValidSectors
    = [[(-1, 0), (0, 0), (2, -1)], [(0, 1), (0, 0), (1, -2)], [(0, 1), (1, 1), (2, -1)]] := by decide

/-- rank 0: only the empty sector, only for the zero charge -/
example : ({ sym := .U1, fermi := false, charge := (0, 0), blocks := [], indices := [] } : Arr Int).genValidSectors = [[]]
    ∧ ({ sym := .U1, fermi := false, charge := (1, 0), blocks := [], indices := [] } : Arr Int).genValidSectors = [] := by
  decide

/-- the total-charge hypothesis is needed: with the invalid Z2 total charge 2 the enumeration
    yields the sector `(0,)`, which `is_valid_sector` rejects ("none extra" fails) -/
theorem genValidSectors_exact_needs_valid_charge :
    let a : Arr Int := { sym := .Z2, fermi := false, charge := (2, 0), blocks := [],
                         indices := [Index.mk [((0, 0), 1)] false none] }
    [(0, 0)] ∈ a.genValidSectors ∧ a.isValidSector [(0, 0)] = false := by decide

/-- the index-charge hypothesis is needed: the invalid Z2 index charge 2 satisfies the
    constraint of total charge 0 but is never produced ("none missing" fails) -/
theorem genValidSectors_exact_needs_valid_index_charges :
    let a : Arr Int := { sym := .Z2, fermi := false, charge := (0, 0), blocks := [],
                         indices := [Index.mk [((2, 0), 1)] false none] }
    a.genValidSectors = [] ∧ a.isValidSector [(2, 0)] = true := by decide

/-- the no-duplicates hypothesis is needed (for all but the last index) -/
theorem genValidSectors_nodup_needs_nodup :
    let a : Arr Int := { sym := .Z2, fermi := false, charge := (0, 0), blocks := [],
                         indices := [Index.mk [((1, 0), 1), ((1, 0), 1)] false none,
                                     Index.mk [((1, 0), 1)] false none] }
    a.genValidSectors = [[(1, 0), (1, 0)], [(1, 0), (1, 0)]] := by decide

end SymmModel.C17
