/-
  Property C08, third part — `expand_dims` with an explicit charge, the elementwise functions and
  the order-type reductions of ARRAYS versus the dense array, trace; the forward half of
  `fuse_toDense` and fuse / unfuse / reshape at CONTENT level (same multiset of non-zero entries).
  (Parts one and two: Props/C08.lean, Props/C08b.lean; umbrella of all three: Props/C08All2.lean.)

  Same conventions: abelian arrays (`phases = []`), every rank / symmetry / sparsity pattern,
  arbitrary scalar type `R`; scalar laws are explicit hypotheses.

  Vocabulary (Proofs/Dense3a.lean, Proofs/Dense3b.lean; namespace `SymmModel.Dense3`):
    `expandCharge a c`        the charge `expand_dims(axis, c)` inserts (`c`, identity for `None`)
    `expandNewCharge a axis c dual`   the total charge of the result
    `mapA f a`                `_do_unary_op(fn)` (block_core.py): `f` on every STORED block
                              (`abs sqrt log log2 log10 isfinite clip`)
    `reduceA op a`            `_do_reduction(fn)` = `fn(stack(map(fn, blocks)))` for a reduction
                              folding `op` (`max min all any`); `none` where numpy raises
    `reduce1 op l`            the same reduction of a flat list (`none` on the empty list)
    `StoredEntry a x`         `x` is an entry of a stored block
    `HasMissing a`            some position of the dense box lies in a sector that is not stored
    `FullyStored a`           the contrary
    `SemiLat op`              `op` associative, commutative, idempotent
    `IsLub op S r`            `r` is the least upper bound of `S` for `x ≤ y :⇔ op x y = y`

  `mapA`, `reduceA` are NOT driver operations (the driver executes "neg", "smul", "sum", "norm2"
  only); they are specification-level definitions written as symmray/block_core.py performs
  them, like `mapV`/`reduceV` of part two; no check of the harness runs the real code on the inputs
  of the counterexamples below.
-/
import SymmModel.Proofs.Dense3a
import SymmModel.Proofs.Dense3b
import SymmModel.Props.C08All
import SymmModel.Props.C01
import SymmModel.Props.C02b
import SymmModel.Proofs.Dense3d
import SymmModel.Props.C07b

namespace SymmModel.C08
open SymmModel Arr DenseP Dense3 ReshapeP FuseP

variable {R : Type}

/-! ## 1. `expand_dims(axis, c, dual)` with an explicit charge -/

/-- the result: the new index carries exactly the charge `c` with size one and the direction
    `expandDual` (given, or inherited from the left / right neighbour); the total charge becomes
    `combine(charge, sign(c, dual))` (abelian_core.py `expand_dims`); class data unchanged -/
theorem expandDims_charge_indices (a : Arr R) (axis : Nat) (c : Charge) (dual : Option Bool) :
    (a.expandDims axis (some c) dual).indices
        = ins axis (Index.mk [(c, 1)] (expandDual a axis dual) none) a.indices
    ∧ (a.expandDims axis (some c) dual).charge
        = a.sym.combine [a.charge, a.sym.sign c (expandDual a axis dual)]
    ∧ (a.expandDims axis (some c) dual).sym = a.sym
    ∧ (a.expandDims axis (some c) dual).fermi = a.fermi
    ∧ (a.expandDims axis (some c) dual).oddpos = a.oddpos :=
  let h := expandDims_fields a axis (some c) dual
  ⟨h.1, h.2.1, h.2.2.1, h.2.2.2.1, h.2.2.2.2.1⟩

/-- the stored sectors get `c` inserted at `axis` (for full-length distinct keys: same number of
    blocks, no collisions) -/
theorem expandDims_charge_sectors (a : Arr R) (axis : Nat) (c : Charge) (dual : Option Bool)
    (ha : axis ≤ a.ndim) (hnd : a.sectors.Nodup) (hlen : ∀ t ∈ a.sectors, t.length = a.ndim) :
    (a.expandDims axis (some c) dual).sectors = a.sectors.map (ins axis c) := by
  have hbl := (expandDims_fields a axis (some c) dual).2.2.2.2.2.1
  have hkeys : ((a.blocks.map (fun (sb : Sector × Blk R) =>
      (ins axis c sb.1, sb.2.expandK axis))).map (·.1)).Nodup := by
    rw [List.map_map]
    have : ((fun x : Sector × Blk R => x.1) ∘ fun sb : Sector × Blk R =>
        (ins axis c sb.1, sb.2.expandK axis)) = (fun t => ins axis c t) ∘ (·.1) := rfl
    rw [this, ← List.map_map]
    refine List.Nodup.map_on (fun x hx y hy hxy => ?_) hnd
    exact ins_inj (by rw [hlen x hx]; exact ha) (by rw [hlen x hx, hlen y hy]) hxy
  rw [Arr.sectors, hbl]
  show ((adict (a.blocks.map (fun (sb : Sector × Blk R) =>
      (ins axis c sb.1, sb.2.expandK axis)))).map (·.1)) = _
  rw [adict_of_nodup _ hkeys, List.map_map, Arr.sectors, List.map_map]
  rfl

/-- **value view**: inserting `c` into a sector and offset 0 into the offsets gives an address of
    the result holding the same value -/
theorem expandDims_charge_elem [Zero R] [Neg R] (a : Arr R) (axis : Nat) (c : Charge)
    (dual : Option Bool) (ha : axis ≤ a.ndim) (hab : a.phases = []) (hnd : a.sectors.Nodup)
    (hlen : ∀ t ∈ a.sectors, t.length = a.ndim)
    (hshape : ∀ t b, alookup a.blocks t = some b → b.shape.length = a.ndim)
    (s : Sector) (hs : s.length = a.ndim) (off : List Nat) (ho : off.length = a.ndim) :
    (a.expandDims axis (some c) dual).elem (ins axis c s) (ins axis 0 off) = a.elem s off :=
  expandDims_elem_any a axis (some c) dual ha hab hnd hlen hshape s hs off ho

/-- **dense form**: the dense array of the result is the dense array of the input with a size-one
    axis inserted — the same for every `c` (and the same as for `c = None`) -/
theorem expandDims_charge_toDense [Zero R] [Neg R] (a : Arr R) (axis : Nat) (c : Charge)
    (dual : Option Bool) (ha : axis ≤ a.ndim) (hab : a.phases = []) (hsh : ShapesOk a)
    (hnd : a.sectors.Nodup) (hlen : ∀ t ∈ a.sectors, t.length = a.ndim) (hne : NoEmpty a) :
    ∃ d d', toDenseA a = .ok d ∧ toDenseA (a.expandDims axis (some c) dual) = .ok d'
      ∧ d.shape = a.shape ∧ d'.shape = ins axis 1 a.shape
      ∧ (∀ p, inBox a.shape p = true → d'.get (ins axis 0 p) = d.get p)
      ∧ ∀ q, inBox d'.shape q = true → ∃ p, inBox a.shape p = true ∧ q = ins axis 0 p := by
  obtain ⟨d, d', h1, h2, h3, h4, h5⟩ :=
    expandDims_toDense_any a axis (some c) dual ha hab hsh hnd hlen hne
  refine ⟨d, d', h1, h2, h3, h4, h5, fun q hq => ?_⟩
  rw [h4] at hq
  exact inBox_ins_surj axis (by simpa [Arr.shape, Arr.ndim] using ha) hq

/-- the dense forms for two different inserted charges (or none) are the same array -/
theorem expandDims_toDense_indep [Zero R] [Neg R] (a : Arr R) (axis : Nat) (c c' : Option Charge)
    (dual : Option Bool) (ha : axis ≤ a.ndim) (hab : a.phases = []) (hsh : ShapesOk a)
    (hnd : a.sectors.Nodup) (hlen : ∀ t ∈ a.sectors, t.length = a.ndim) (hne : NoEmpty a) :
    ∃ d1 d2, toDenseA (a.expandDims axis c dual) = .ok d1
      ∧ toDenseA (a.expandDims axis c' dual) = .ok d2 ∧ d1.shape = d2.shape
      ∧ ∀ q, inBox d1.shape q = true → d1.get q = d2.get q := by
  obtain ⟨d, d1, h0, h1, _, s1, g1⟩ := expandDims_toDense_any a axis c dual ha hab hsh hnd hlen hne
  obtain ⟨d0, d2, h0', h2, _, s2, g2⟩ := expandDims_toDense_any a axis c' dual ha hab hsh hnd hlen hne
  rw [h0] at h0'; injection h0' with h0'; subst h0'
  refine ⟨d1, d2, h1, h2, by rw [s1, s2], fun q hq => ?_⟩
  rw [s1] at hq
  obtain ⟨p, hp, rfl⟩ := inBox_ins_surj axis (by simpa [Arr.shape, Arr.ndim] using ha) hq
  rw [g1 p hp, g2 p hp]

/-- **validity**: for a valid array the result is valid exactly under the guard of
    `C01.expandDims_some_valid` — `c` a charge of the symmetry and, for a fermionic array, even.
    (The "if" direction IS `C01.expandDims_some_valid`; the failing fermionic case is the known
    finding "expand-dims-odd-charge".) -/
theorem expandDims_charge_valid_iff (a : Arr R) (axis : Nat) (c : Charge) (dual : Option Bool)
    (hv : a.validB = true) :
    (a.expandDims axis (some c) dual).validB = true
      ↔ (a.sym.valid c = true ∧ (a.fermi = false ∨ a.sym.parity c = false)) := by
  constructor
  · intro h
    have hV := (ValidP.validB_iff _).mp h
    have hVa := (ValidP.validB_iff a).mp hv
    obtain ⟨hidx, hch, hsym, hfer, hodd, _, _⟩ := expandDims_fields a axis (some c) dual
    constructor
    · have := hV.idx (Index.mk [(c, 1)] (expandDual a axis dual) none) (by
        rw [hidx]; simp [ins, expandCharge])
      rw [hsym, ValidP.wfB_none] at this
      have h2 := this.2 (c, 1) (by simp)
      exact h2.2
    · by_cases hf : a.fermi = false
      · exact Or.inl hf
      · right
        have hf' : a.fermi = true := by simpa using hf
        have s1 := hV.sgn
        have s2 := hVa.sgn
        unfold ValidP.SignsOk at s1 s2
        rw [hfer] at s1
        simp only [hf', if_true] at s1 s2
        have e1 := s1.2
        have e2 := s2.2
        rw [hodd, hsym, hch] at e1
        simp only [expandNewCharge] at e1
        rw [Sym.parity_combine_pair, Sym.parity_sign, ← e2] at e1
        cases hp : a.sym.parity c
        · rfl
        · rw [hp] at e1
          cases hq : (a.oddpos.length % 2 == 1) <;> rw [hq] at e1 <;> simp at e1
  · rintro ⟨hc, hpar⟩
    exact (ValidP.validB_iff _).mpr
      (ValidP.expandDims_some_valid a axis c dual ((ValidP.validB_iff a).mp hv) hc hpar)

theorem expandDims_charge_valid (a : Arr R) (axis : Nat) (c : Charge) (dual : Option Bool)
    (hv : a.validB = true) (hc : a.sym.valid c = true) (hab : a.fermi = false) :
    (a.expandDims axis (some c) dual).validB = true :=
  C01.expandDims_some_valid a axis c dual hv hc (Or.inl hab)

/-! ## 2. elementwise functions of arrays (`abs sqrt log log2 log10 isfinite clip`) -/

/-- value view of `mapA f a` at an address inside the box of a stored block, or of a sector that
    is not stored: mapped in the first case, still `0` in the second — for EVERY `f` -/
theorem mapA_elem_exact [Zero R] [Neg R] (f : R → R) (a : Arr R) (hab : a.phases = [])
    (s : Sector) (off : List Nat)
    (hoff : ∀ b, alookup a.blocks s = some b → b.wf = true ∧ inBox b.shape off = true) :
    (mapA f a).elem s off = if s ∈ a.sectors then f (a.elem s off) else 0 :=
  Dense3.mapA_elem_exact f a hab s off hoff

/-- **exact dense form** of an elementwise function, for every `f` -/
theorem mapA_toDense_exact [Zero R] [Neg R] (f : R → R) (a : Arr R) (hab : a.phases = [])
    (hne : NoEmpty a) (hsh : ShapesOk a) (hwf : ∀ p ∈ a.blocks, p.2.wf = true) :
    ∃ d d', toDenseA a = .ok d ∧ toDenseA (mapA f a) = .ok d' ∧ d.shape = a.shape
      ∧ d'.shape = a.shape
      ∧ ∀ p, inBox a.shape p = true → ∃ sec off, locateAll a.indices p = some (sec, off)
          ∧ d.get p = a.elem sec off
          ∧ d'.get p = if sec ∈ a.sectors then f (d.get p) else 0 := by
  obtain ⟨d, d', h1, h2, s1, s2, h⟩ := Arr.toDense_rel₂ a (mapA f a) rfl hne
    (fun p u w => ∀ sec off, Arr.locateAll a.indices p = some (sec, off) →
      u = a.elem sec off ∧ w = if sec ∈ a.sectors then f u else 0)
    (fun p sec off hp hl sec' off' hl' => by
      rw [hl] at hl'
      simp only [Option.some.injEq, Prod.mk.injEq] at hl'
      obtain ⟨rfl, rfl⟩ := hl'
      exact ⟨rfl, mapA_elem_exact f a hab sec off (fun b hb =>
        ⟨hwf (sec, b) (alookup_some_mem hb), hsh.inBox hp hl hb⟩)⟩)
  refine ⟨d, d', h1, h2, s1, s2, fun p hp => ?_⟩
  obtain ⟨sec, off, hl⟩ := Arr.locateAll_isSome (idx := a.indices) (p := p) hp
  exact ⟨sec, off, hl, (h p hp sec off hl).1, (h p hp sec off hl).2⟩

/-- an elementwise function with `f 0 = 0` (`abs`, `sqrt`, `conj`, `x * s`, …) commutes with
    densification (no shape hypotheses needed) -/
theorem mapA_toDense [Zero R] [Neg R] (f : R → R) (h0 : f 0 = 0) (a : Arr R)
    (hab : a.phases = []) (hne : NoEmpty a) :
    ∃ d d', toDenseA a = .ok d ∧ toDenseA (mapA f a) = .ok d' ∧ d.shape = a.shape
      ∧ d'.shape = a.shape ∧ ∀ p, inBox a.shape p = true → d'.get p = f (d.get p) :=
  Arr.toDense_rel₂ a (mapA f a) rfl hne (fun _ u w => w = f u)
    (fun _ sec off _ _ => mapA_elem f h0 a hab sec off)

/-- **the exact condition**: `mapA f` commutes with densification iff `f 0 = 0` or every position
    of the dense box lies in a stored sector -/
theorem mapA_toDense_iff [Zero R] [Neg R] (f : R → R) (a : Arr R) (hab : a.phases = [])
    (hne : NoEmpty a) (hsh : ShapesOk a) (hwf : ∀ p ∈ a.blocks, p.2.wf = true) (d d' : Blk R)
    (hd : toDenseA a = .ok d) (hd' : toDenseA (mapA f a) = .ok d') :
    (∀ p, inBox a.shape p = true → d'.get p = f (d.get p)) ↔ (f 0 = 0 ∨ FullyStored a) := by
  obtain ⟨d0, d0', h1, h2, _, _, h⟩ := mapA_toDense_exact f a hab hne hsh hwf
  rw [hd] at h1; rw [hd'] at h2
  injection h1 with h1; injection h2 with h2
  subst h1; subst h2
  constructor
  · intro hall
    by_cases h0 : f 0 = 0
    · exact Or.inl h0
    · right
      intro p hp sec off hl
      obtain ⟨sec', off', hl', hx, hx'⟩ := h p hp
      rw [hl] at hl'
      simp only [Option.some.injEq, Prod.mk.injEq] at hl'
      obtain ⟨rfl, rfl⟩ := hl'
      by_contra hs
      have hz : d.get p = 0 := by
        rw [hx, Arr.elem_of_phases_nil hab]
        have : alookup a.blocks sec = none := alookup_eq_none_iff.mpr hs
        rw [this]
      rw [if_neg hs, hall p hp, hz] at hx'
      exact h0 hx'
  · rintro (h0 | hfull) p hp
    · obtain ⟨sec, off, hl, hx, hx'⟩ := h p hp
      rw [hx']
      split
      · rfl
      · rename_i hs
        have : alookup a.blocks sec = none := alookup_eq_none_iff.mpr hs
        rw [hx, Arr.elem_of_phases_nil hab, this, h0]
    · obtain ⟨sec, off, hl, hx, hx'⟩ := h p hp
      rw [hx', if_pos (hfull p hp sec off hl)]

/-- the driver's "neg"/"smul"/"sdiv" are instances of `mapA` (`conj` also maps the indices) -/
theorem negA_eq_mapA [Neg R] (a : Arr R) : negA a = mapA (fun x => -x) a := rfl
theorem smulA_eq_mapA [Mul R] (a : Arr R) (k : R) : smulA a k = mapA (· * k) a := rfl
theorem sdivA_eq_mapA [Div R] (a : Arr R) (k : R) : sdivA a k = mapA (· / k) a := rfl

/-! ## 3. order-type reductions of arrays (`max min all any`) -/

/-- the entries of the dense array: the stored entries, and `0` iff some position lies in a
    sector that is not stored -/
theorem toDense_entries [Zero R] [Neg R] (a : Arr R) (hab : a.phases = []) (hne : NoEmpty a)
    (hsh : ShapesOk a) (hnd : a.sectors.Nodup) (hwf : ∀ p ∈ a.blocks, p.2.wf = true)
    (d : Blk R) (hd : toDenseA a = .ok d) (x : R) :
    x ∈ d.data.toList ↔ (StoredEntry a x ∨ (x = 0 ∧ HasMissing a)) := by
  have hwfd : d.wf = true := toDenseA_wf hd
  have hsd := toDenseA_shape hd
  constructor
  · intro hx
    rw [← allIdx_map_get d hwfd, List.mem_map] at hx
    obtain ⟨p, hp, rfl⟩ := hx
    rw [mem_allIdx, hsd] at hp
    obtain ⟨sec, off, hl⟩ := locateAll_isSome (idx := a.indices) (p := p) hp
    rw [toDenseA_val hd hp hl, Arr.elem_of_phases_nil hab]
    cases hb : alookup a.blocks sec with
    | none =>
      right
      exact ⟨rfl, p, hp, sec, off, hl, alookup_eq_none_iff.mp hb⟩
    | some b =>
      left
      exact ⟨(sec, b), alookup_some_mem hb,
        get_mem_data b (hwf (sec, b) (alookup_some_mem hb)) (hsh.inBox hp hl hb)⟩
  · rintro (⟨⟨s, b⟩, hsb, hx⟩ | ⟨rfl, p, hp, sec, off, hl, hs⟩)
    · have hwb := hwf (s, b) hsb
      rw [← allIdx_map_get b hwb, List.mem_map] at hx
      obtain ⟨off, ho, rfl⟩ := hx
      rw [mem_allIdx] at ho
      have hlk : alookup a.blocks s = some b := alookup_of_mem_nodup hnd hsb
      obtain ⟨p, hp, hl⟩ := locateAll_surj hsh.1 (hsh.2 s b hlk) ho
      have : d.get p = b.get off := by rw [toDenseA_val hd hp hl, Arr.elem_of_phases_nil hab, hlk]
      rw [← this]
      exact get_mem_data d hwfd (by rw [hsd]; exact hp)
    · have : d.get p = 0 := by
        rw [toDenseA_val hd hp hl, Arr.elem_of_phases_nil hab, alookup_eq_none_iff.mpr hs]
      rw [← this]
      exact get_mem_data d hwfd (by rw [hsd]; exact hp)

/-- every stored address is the address of a position of the dense box -/
theorem locateAll_onto (indices : List Index) (hnd : ∀ ix ∈ indices, (ix.cm.map (·.1)).Nodup)
    (s : Sector) (shp off : List Nat) (hs : blockShape? indices s = some shp)
    (ho : inBox shp off = true) :
    ∃ p, inBox (indices.map Index.sizeTotal) p = true ∧ locateAll indices p = some (s, off) :=
  locateAll_surj hnd hs ho

/-- `_do_reduction` returns the least upper bound of the STORED entries; it is defined when there
    is a block and no block is empty -/
theorem reduceA_spec (op : R → R → R) (hop : SemiLat op) (a : Arr R) :
    (∀ r, reduceA op a = some r → IsLub op (StoredEntry a) r)
    ∧ (a.blocks ≠ [] → (∀ sb ∈ a.blocks, sb.2.data.toList ≠ []) → ∃ r, reduceA op a = some r) :=
  ⟨fun _ h => reduceA_isLub hop a h, reduceA_isSome op a⟩

/-- least upper bounds are unique, so `reduceA_spec` determines the value -/
theorem isLub_unique (op : R → R → R) (hop : SemiLat op) (S : R → Prop) (r1 r2 : R)
    (h1 : IsLub op S r1) (h2 : IsLub op S r2) : r1 = r2 := h1.unique hop h2

/-- **reductions versus the dense array**: the same reduction of the dense array equals the block
    reduction `r` when every position is stored, and `op r 0` when some position lies in a
    missing sector — e.g. `max(dense) = max(r, 0)`, `min(dense) = min(r, 0)`, `all(dense) = False` -/
theorem reduce_toDense [Zero R] [Neg R] (op : R → R → R) (hop : SemiLat op) (a : Arr R)
    (hab : a.phases = []) (hne : NoEmpty a) (hsh : ShapesOk a) (hnd : a.sectors.Nodup)
    (hwf : ∀ p ∈ a.blocks, p.2.wf = true) (d : Blk R) (hd : toDenseA a = .ok d) (r r' : R)
    (hr : reduceA op a = some r) (hr' : reduce1 op d.data.toList = some r') :
    (HasMissing a → r' = op r 0) ∧ (¬ HasMissing a → r' = r) := by
  have h1 := reduceA_isLub hop a hr
  have h2 := reduce1_isLub hop hr'
  have hmem := toDense_entries a hab hne hsh hnd hwf d hd
  constructor
  · intro hm
    refine IsLub.unique hop h2 ((h1.insert hop 0).congr (fun x => ?_))
    rw [hmem x]
    constructor
    · rintro (h | h)
      · exact Or.inl h
      · exact Or.inr ⟨h, hm⟩
    · rintro (h | ⟨h, _⟩)
      · exact Or.inl h
      · exact Or.inr h
  · intro hm
    refine IsLub.unique hop h2 (h1.congr (fun x => ?_))
    rw [hmem x]
    constructor
    · exact Or.inl
    · rintro (h | ⟨_, h⟩)
      · exact h
      · exact absurd h hm

/-- in particular they agree whenever `0` is below the block reduction (`op 0 r = r`), e.g. `max`
    of an array with a non-negative stored entry, `any` -/
theorem reduce_toDense_of_zero_le [Zero R] [Neg R] (op : R → R → R) (hop : SemiLat op) (a : Arr R)
    (hab : a.phases = []) (hne : NoEmpty a) (hsh : ShapesOk a) (hnd : a.sectors.Nodup)
    (hwf : ∀ p ∈ a.blocks, p.2.wf = true) (d : Blk R) (hd : toDenseA a = .ok d) (r r' : R)
    (hr : reduceA op a = some r) (hr' : reduce1 op d.data.toList = some r')
    (h0 : op 0 r = r) : r' = r := by
  classical
  obtain ⟨h1, h2⟩ := reduce_toDense op hop a hab hne hsh hnd hwf d hd r r' hr hr'
  by_cases hm : HasMissing a
  · rw [h1 hm, hop.comm, h0]
  · exact h2 hm

theorem hasMissing_iff (a : Arr R) : HasMissing a ↔ ¬ FullyStored a := by
  constructor
  · rintro ⟨p, hp, sec, off, hl, hs⟩ hf
    exact hs (hf p hp sec off hl)
  · intro h
    by_contra hm
    apply h
    intro p hp sec off hl
    by_contra hs
    exact hm ⟨p, hp, sec, off, hl, hs⟩

/-! ## 4. trace (connection to C02) -/

/-- `a.trace() = np.trace(a.to_dense())` for a valid abelian matrix whose two indices have the
    same charge table (C02.traceA_toDense, restated with this property's vocabulary) -/
theorem trace_toDense [AddCommMonoid R] [Neg R] (a : Arr R) (ix0 ix1 : Index)
    (hidx : a.indices = [ix0, ix1]) (hcm : Index.sortCm ix0.cm = Index.sortCm ix1.cm)
    (hv : a.validB = true) (hfa : a.fermi = false) (hne : NoEmpty a) :
    ∃ d, toDenseA a = .ok d ∧ traceA a = .ok d.traceK :=
  C02.traceA_toDense a ix0 ix1 hidx hcm hv hfa hne

/-! ## 5. fuse, unfuse, reshape

The dense form of a fused array is the dense form of the original, transposed by `perm`, with each
group of axes reshaped row-major into one axis and that axis permuted by the fused index's sorted
tables.  Here: (a) `fuse_toDense_partial` — every position `p` of a stored sector of the original
is sent to a position `P` of the fused dense array holding the same entry, where `P`'s address
`(ns, i)` is tied to `p`'s address `(s, offs)` by the fused indices' own tables (`splitAddr`),
exactly as in `C05.fuse_elem_onto`; (b) `fuse_toDense_content` — the two dense arrays have the same
additive statistics `Σ g(entry)` for every `g` with `g 0 = 0`, i.e. the same multiset of non-zero
entries.  The converse of (a) — every other position of the fused dense box holds `0` — is
`C08.fuse_toDense` (Props/C08d.lean); that `p ↦ P` is injective and single-valued is
`C08.fuse_position_injective` / `fuse_position_functional` (Props/C08e.lean). -/

/-- (a) the stored part of the dense form of a fused array -/
theorem fuse_toDense_partial [Zero R] [Neg R] (a : Arr R) (groups : List (List Nat))
    (hv : a.validB = true) (hg : C05.groupsOkB groups a.ndim = true) (hnf : a.fermi = false)
    (hne : NoEmpty a) (x : Arr R) (hx : fuseCore a groups .insert = .ok x) (hnex : NoEmpty x) :
    let gi := calcFuseGroupInfo groups a.duals
    ∃ dA dX, toDenseA a = .ok dA ∧ toDenseA x = .ok dX ∧ dA.shape = a.shape
      ∧ dX.shape = x.shape ∧
      ∀ p, inBox a.shape p = true → ∀ s offs, locateAll a.indices p = some (s, offs) →
        s ∈ a.sectors →
        ∃ P ns i, inBox x.shape P = true ∧ locateAll x.indices P = some (ns, i)
          ∧ ns ∈ x.sectors
          ∧ (∀ g gaxes, groups[g]? = some gaxes → gaxes.length ≠ 1 →
              splitAddr (x.indices.getD (gi.position + g) default) (ns.getD (gi.position + g) (0, 0))
                (i.getD (gi.position + g) 0)
                = some (gaxes.map (fun ax => s.getD ax (0, 0)), gaxes.map (fun ax => offs.getD ax 0)))
          ∧ (∀ g gaxes, groups[g]? = some gaxes → gaxes.length = 1 →
              [ns.getD (gi.position + g) (0, 0)] = gaxes.map (fun ax => s.getD ax (0, 0))
              ∧ [i.getD (gi.position + g) 0] = gaxes.map (fun ax => offs.getD ax 0))
          ∧ permuted s gi.perm = ns.take gi.position
              ++ (groups.map (fun gaxes => gaxes.map (fun ax => s.getD ax (0, 0)))).flatten
              ++ ns.drop (gi.position + groups.length)
          ∧ permuted offs gi.perm = i.take gi.position
              ++ (groups.map (fun gaxes => gaxes.map (fun ax => offs.getD ax 0))).flatten
              ++ i.drop (gi.position + groups.length)
          ∧ dX.get P = dA.get p := by
  intro gi
  obtain ⟨rfl, hva, hok, ha, hX⟩ := fuse_setup hv hg hnf hne hx hnex
  obtain ⟨dA, hdA, hsA, -⟩ := Arr.toDenseA_get a hne
  obtain ⟨dX, hdX, hsX, -⟩ := Arr.toDenseA_get (fusedArrM a groups) hnex
  refine ⟨dA, dX, hdA, hdX, hsA, hsX, fun p hp s offs hl hs => ?_⟩
  obtain ⟨P, ns, i, hP, hlP, hns, ⟨r1, r2, r3, r4⟩, hval⟩ :=
    dense_relocate_stored ha hX hdA hdX (Dense5.FuseRel a (fusedArrM a groups) groups) hp hl hs
      (fuse_addr_fwd hva hok ha hX)
  exact ⟨P, ns, i, hP, hlP, hns, r1, r2, r3, r4, hval⟩

/-- **content bridge**: two valid abelian arrays with the same stored content (C07 `SameContent`:
    all additive statistics of the stored entries agree) have dense forms with the same additive
    statistics — the same multiset of non-zero dense entries -/
theorem toDense_sameContent [Zero R] [Neg R] (a b : Arr R) (hc : SameContent a b)
    (hva : a.validB = true) (hvb : b.validB = true) (hfa : a.fermi = false) (hfb : b.fermi = false)
    (hna : NoEmpty a) (hnb : NoEmpty b) (da db : Blk R) (hda : toDenseA a = .ok da)
    (hdb : toDenseA b = .ok db) (M : Type) [AddCommMonoid M] (g : R → M) (h0 : g 0 = 0) :
    (da.data.toList.map g).sum = (db.data.toList.map g).sum := by
  rw [sum_map_toDense g h0 a (validB_shapesOk hva) (validB_nodup hva) (validB_wf hva)
      (fun s blk off hb => by rw [Arr.elem_of_phases_nil (phases_nil_of_validB hva hfa), hb]) da hda,
    sum_map_toDense g h0 b (validB_shapesOk hvb) (validB_nodup hvb) (validB_wf hvb)
      (fun s blk off hb => by rw [Arr.elem_of_phases_nil (phases_nil_of_validB hvb hfb), hb]) db hdb]
  exact hc M g h0

/-- (b) fusing keeps the multiset of non-zero dense entries -/
theorem fuse_toDense_content [Zero R] [Neg R] (a x : Arr R) (groups : List (List Nat))
    (hv : a.validB = true) (hf : a.fermi = false) (hg : C05.groupsOkB groups a.ndim = true)
    (hx : fuseCore a groups .insert = .ok x) (hna : NoEmpty a) (hnx : NoEmpty x)
    (da dx : Blk R) (hda : toDenseA a = .ok da) (hdx : toDenseA x = .ok dx)
    (M : Type) [AddCommMonoid M] (g : R → M) (h0 : g 0 = 0) :
    (da.data.toList.map g).sum = (dx.data.toList.map g).sum := by
  have hadm := FuseP.admissible_of_groupsOk (FuseP.groupsOk_iff.1 hg)
  have hxv := C01.fuseCore_valid a x groups hv hf hadm hx
  have hxf : x.fermi = false := by
    have hx' := FuseP.fuseCore_multi_eq (FuseP.validArr_of_validB hv) (FuseP.groupsOk_iff.1 hg).adm
    rw [hx] at hx'; injection hx' with hx'; subst hx'; exact hf
  exact toDense_sameContent a x (C07.fuseCore_multiset_general a x groups hv hf hg hx) hv hxv hf hxf
    hna hnx da dx hda hdx M g h0

/-- unfusing keeps the multiset of non-zero dense entries -/
theorem unfuse_toDense_content [Zero R] [Neg R] (x y : Arr R) (axis : Nat) (hv : x.validB = true)
    (hyv : y.validB = true) (hfx : x.fermi = false) (hfy : y.fermi = false)
    (h : unfuseA x axis = .ok y) (hnx : NoEmpty x) (hny : NoEmpty y)
    (dx dy : Blk R) (hdx : toDenseA x = .ok dx) (hdy : toDenseA y = .ok dy)
    (M : Type) [AddCommMonoid M] (g : R → M) (h0 : g 0 = 0) :
    (dx.data.toList.map g).sum = (dy.data.toList.map g).sum :=
  toDense_sameContent x y (unfuseA_sameContent x y axis hv h) hv hyv hfx hfy hnx hny dx dy hdx hdy
    M g h0

/-- `reshape` (a certified plan of unfuse / fuse / expand steps, C07 `applyPlan_content`) keeps the
    multiset of non-zero dense entries -/
theorem reshape_toDense_content [Zero R] [Neg R] (a r : Arr R)
    (t : List Nat × List (List (List Nat)) × List Nat) (newshape : List Nat)
    (hv : a.validB = true) (hf : a.fermi = false) (hfr : r.fermi = false)
    (hwf : (C07.Plan.ofTriple t).wfB a.shape a.subsizes newshape = true) (h : applyPlan a t = .ok r)
    (hna : NoEmpty a) (hnr : NoEmpty r) (da dr : Blk R) (hda : toDenseA a = .ok da)
    (hdr : toDenseA r = .ok dr) (M : Type) [AddCommMonoid M] (g : R → M) (h0 : g 0 = 0) :
    (da.data.toList.map g).sum = (dr.data.toList.map g).sum := by
  obtain ⟨hc, hrv⟩ := C07.applyPlan_content a r t newshape hv hf hwf h
  exact toDense_sameContent a r hc hv hrv hf hfr hna hnr da dr hda hdr M g h0

/-! ## the hypotheses are satisfiable; counterexamples -/

section Examples3
namespace Ex3
/-- `C08.Ex.x` with only its (1,1) sector stored, all entries negative -/
def z : Arr Int :=
  { C08.Ex.x with blocks := [([(1, 0), (1, 0)], ⟨[2, 2], #[-1, -2, -3, -4]⟩)] }
def dataOf (r : Except Err (Blk Int)) : Option (List Nat × List Int) :=
  match r with | .ok b => some (b.shape, b.data.toList) | .error _ => none
def red (op : Int → Int → Int) (r : Except Err (Blk Int)) : Option Int :=
  match r with | .ok b => reduce1 op b.data.toList | .error _ => none
theorem maxLat : SemiLat (max : Int → Int → Int) := ⟨Int.max_assoc, Int.max_comm, Int.max_self⟩
theorem minLat : SemiLat (min : Int → Int → Int) := ⟨Int.min_assoc, Int.min_comm, Int.min_self⟩
end Ex3
open Ex3 C08.Ex

-- 1. expand_dims with charge 2: same dense form, charge 0 + 2 (direction inherited: not dual),
--    charge 0 − 2 for an explicitly dual new index; valid
example : Ex3.dataOf (toDenseA (x.expandDims 1 (some (2, 0)) none))
    = some ([3, 1, 3], [5, 0, 0, 0, 1, 2, 0, 3, 4]) := by decide
example : (x.expandDims 1 (some (2, 0)) none).charge = (2, 0)
    ∧ (x.expandDims 1 (some (2, 0)) (some true)).charge = (-2, 0)
    ∧ (x.expandDims 1 (some (2, 0)) none).sectors
        = [[(0, 0), (2, 0), (0, 0)], [(1, 0), (2, 0), (1, 0)]]
    ∧ (x.expandDims 1 (some (2, 0)) none).validB = true := by decide
example := expandDims_charge_toDense (R := Int) x 1 (2, 0) none (by decide) rfl
  (validB_shapesOk (a := x) (by decide)) (validB_nodup (a := x) (by decide))
  (validB_length (a := x) (by decide)) (by decide)
example := (expandDims_charge_valid_iff (R := Int) x 1 (2, 0) none (by decide)).mpr (by decide)
-- the guard fails for a charge outside the symmetry (Z2 charge 3) …
example : ¬ (({ x with sym := .Z2 } : Arr Int).expandDims 1 (some (3, 0)) none).validB = true := by
  decide
-- … and for an odd charge on a fermionic array (C01.expandDims_odd_charge_invalid)
example : ¬ (C01.exF.expandDims 1 (some (1, 0)) none).validB = true :=
  fun h => by
    have := (expandDims_charge_valid_iff C01.exF 1 (1, 0) none (by decide)).mp h
    revert this; decide

-- 2. elementwise functions.  `x` stores both its charge-conserving sectors, yet the positions of
--    the non-conserving sectors are "missing": `HasMissing x`
theorem x_hasMissing : HasMissing x :=
  ⟨[0, 1], by decide, [(0, 0), (1, 0)], [0, 0], by decide, by decide⟩

/-- **counterexample**: `t ↦ t + 1` (any `f` with `f 0 ≠ 0`: `log`, `isfinite`, `clip` to a
    positive interval, `cos`, `exp`) does NOT commute with densification: the dense form of the
    mapped array keeps `0` where the dense array mapped entrywise has `f 0` -/
theorem mapA_succ_counterexample :
    Ex3.dataOf (toDenseA (mapA (· + 1) x)) = some ([3, 3], [6, 0, 0, 0, 2, 3, 0, 4, 5])
    ∧ (Ex3.dataOf (toDenseA x)).map (fun sd => (sd.1, sd.2.map (· + 1)))
        = some ([3, 3], [6, 1, 1, 1, 2, 3, 1, 4, 5]) := by decide +kernel

example : Ex3.dataOf (toDenseA (mapA (fun t => (t.natAbs : Int)) z)) = some ([3, 3], [0, 0, 0, 0, 1, 2, 0, 3, 4]) := by
  decide +kernel
example := mapA_toDense (R := Int) (fun t => t * t) rfl x rfl (by decide)
example := mapA_toDense_exact (R := Int) (· + 1) x rfl (by decide)
  (validB_shapesOk (a := x) (by decide)) (DenseP.validB_wf (by decide))
example : ¬ ((fun t : Int => t + 1) 0 = 0 ∨ FullyStored x) := by
  rintro (h | h)
  · revert h; decide
  · exact (hasMissing_iff x).mp x_hasMissing h

-- 3. reductions.  `max` over the blocks of `z` is −1, `max` of its dense array is 0;
--    `min` over the blocks of `x` is 1, `min` of its dense array is 0
theorem max_counterexample :
    reduceA max z = some (-1) ∧ Ex3.red max (toDenseA z) = some 0
    ∧ reduceA min x = some 1 ∧ Ex3.red min (toDenseA x) = some 0 := by decide

example : z.validB = true ∧ NoEmpty z := by decide
example : HasMissing z := ⟨[0, 0], by decide, [(0, 0), (0, 0)], [0, 0], by decide, by decide⟩
example := reduce_toDense (R := Int) max Ex3.maxLat z rfl (by decide)
  (validB_shapesOk (a := z) (by decide)) (validB_nodup (a := z) (by decide))
  (DenseP.validB_wf (by decide))
example := reduceA_spec (R := Int) min Ex3.minLat x
-- `max` agrees as soon as a stored entry is non-negative
example : reduceA max x = some 5 ∧ Ex3.red max (toDenseA x) = some 5 := by decide

example : traceA x = .ok 10 := by decide
example := trace_toDense (R := Int) x (C08.Ex.ix false) (C08.Ex.ix true) rfl (by decide) (by decide)
  rfl (by decide)

-- 5. fuse: the 3×3 matrix `x` fused into a vector of length 5 (charge-0 fused sector: 1 + 4)
example : C05.groupsOkB [[0, 1]] x.ndim = true := by decide
example : Ex3.dataOf (fuseCore x [[0, 1]] .insert >>= toDenseA) = some ([5], [5, 1, 2, 3, 4]) := by
  decide +kernel
example := fuse_toDense_partial (R := Int) x [[0, 1]] (by decide) (by decide) rfl (by decide)
example (y : Arr Int) (hy : fuseCore x [[0, 1]] .insert = .ok y) (hn : NoEmpty y) :=
  fuse_toDense_partial (R := Int) x [[0, 1]] (by decide) (by decide) rfl (by decide) y hy hn

end Examples3

end SymmModel.C08
