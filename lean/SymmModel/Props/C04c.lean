/-
  Property C04 (route independence, clause S7 — associativity) — "A fermionic network's value does
  not depend on how it is contracted", for the MODEL's `Arr.tensordotF` (Model/Fermi.lean) in
  `mode = blockwise`, on valid fermionic operands of any rank, symmetry, sparsity, charge parity,
  pending signs, over any scalar type with commutative addition, the sign laws `GradedP.SignRing`
  and the multiplication laws `AssocP.AssocLaws` (associative, distributive, `0` absorbing —
  instances: `Int`, `GRat`).  Built on C03 (`tensordotF_refines_graded`, here generalised),
  `C04.oddpos_assoc`, `RoutesP.koszul_relist_fst/snd` (re-listing one block of a
  permutation of the axes; the two halves of `C04.assoc_sign_identity`).

  THE OBSTACLE AND HOW IT IS REMOVED.  The intermediate result of a contraction has PRUNED index
  tables (`dropUnused`), so `(A·B, C)` resp. `(A, B·C)` is in general not `contractibleB`
  (example `pruned_not_contractible` below) and C03 cannot be re-applied.
  `tensordotF_refines_graded_common` generalises the refinement theorem to the weaker decidable
  guard `contractibleCommonB`: matched legs have opposite directions and their charge tables
  give the same size to every charge that BOTH list (`commonB_of_contractibleB`: implied by the
  documented guard).  Pruning keeps this guard (`AssocP.commonB_prune_left/right`).

  Vocabulary (Proofs/Assoc*.lean, namespace `SymmModel.AssocP`):
    `axesAB nA nB xa xb1 xb2`  the axes of `A·B` that carry `B`'s legs `xb2`
                               (`|free A| + positions (free B w.r.t. xb1) xb2`)
    `axesBC nB xb1 xb2`        the axes of `B·C` that carry `B`'s legs `xb1`
    `IsTriple A B C … s t`     `t = (sa, sb, sc)`: stored sectors, `sa`–`sb` aligned on
                               `xa`/`xb1`, `sb`–`sc` aligned on `xb2`/`xc`, free parts make up `s`
    `FreeAddr A B C … LA LM LC oA oM oC`  the address `(LA ++ LM ++ LC, oA ++ oM ++ oC)`: lengths
                               of the `A`- and `B`-parts and offsets inside the boxes that the
                               ORIGINAL operands' index tables give to `LA`, `LM`, `LC`
    `S3`, `W3`                 sign and plain value of a triple in the three-operand graded
                               contraction (`koszul` of `B`'s sector w.r.t. `(xb1, rest, xb2)`).
  Addresses are `(sector, offsets)` in the value view `Arr.elem` (stored number × pending sign).

  FULL STATEMENT S7 (`C04.tdotF_assoc`, Props/C04d.lean):
    for valid fermionic `A`, `B`, `C` with pairwise-distinct labels and disjoint axis sets
    `A–B` (`xa1 ~ xb1`), `B–C` (`xb2 ~ xc2`) and OPTIONALLY `A–C` (`xa3 ~ xc3`), all pairs
    `contractibleB`: the four calls succeed, and `(A·B)·C` [second call contracts the images of
    `xa3 ++ xb2` with `xc3 ++ xc2`] and `A·(B·C)` [second call contracts `xa1 ++ xa3` with the
    images of `xb1 ++ xc3`] have equal labels, charge, symmetry, kind, sector sets, index
    tables, and equal values at every address.
  THIS FILE: `tdotF_assoc_partial` = the full statement with the extra hypothesis
    "no `A–C` legs" (`xa3 = xc3 = []`: a chain, `B` in the middle), in the chain's own vocabulary;
    it is the triangle statement at an empty third bond (`Assoc2P.tdotF_assoc_tri`, read through
    `AssocP.axesAB_chain`, `isTriple_chain`, `freeAddr_chain`).  It includes: the four calls
    succeed; equal labels, charge, symmetry, kind; equal sector SETS (characterised by
    `IsTriple`); EQUAL (pruned) index tables, both being `dropUnused` of the un-pruned frame
    `free legs of A ++ free legs of B ++ free legs of C` w.r.t. the final sectors (pruning twice
    is pruning once); equal values at every address.  Corollaries for GIVEN results of the four
    calls: `tdotF_assoc_partial_at` (every key, every offset inside the stored block) and
    `tdotF_assoc_partial_dense` (`c2.toDenseF = c1.toDenseF`).
  Block ORDER may differ between the routes (as for S5), so `ObsEq` (list equality of block
  dictionaries) is not claimed; values are compared address by address.
-/
import SymmModel.Proofs.AssocMain
import SymmModel.Props.C04b

namespace SymmModel.C04
open SymmModel SymmModel.GradedP SymmModel.TdotP SymmModel.RoutesP SymmModel.AssocP
open SymmModel.Lazy (sgnI)

variable {R : Type}

theorem contractibleCommonB_def (a b : Arr R) (xa xb : List Nat) :
    contractibleCommonB a b xa xb
      = (xa.length == xb.length
        && (xa.zip xb).all (fun p =>
          cmAgree (a.indices.getD p.1 default).cm (b.indices.getD p.2 default).cm
          && ((a.indices.getD p.1 default).dual != (b.indices.getD p.2 default).dual)))
    ∧ ∀ c1 c2, cmAgree c1 c2 = c1.all (fun p => match alookup c2 p.1 with
        | some d => d == p.2
        | none => true) :=
  ⟨rfl, fun _ _ => rfl⟩

theorem commonB_of_contractibleB {a b : Arr R} {xa xb : List Nat} (ha : a.validB = true)
    (hA : ∀ i ∈ xa, i < a.ndim) (hc : ValidP.contractibleB a b xa xb = true) :
    contractibleCommonB a b xa xb = true :=
  AssocP.commonB_of_contractibleB ha hA hc

/-- **C03's refinement theorem under the weak guard** (`tdotAdmissibleCommonB`: same symmetry,
    `contractibleCommonB`, distinct in-range axes): same conclusion as
    `C03.tensordotF_refines_graded_at`. -/
theorem tensordotF_refines_graded_common [AddMonoid R] [Mul R] [Neg R] [SignRing R] (a b c : Arr R)
    (xa xb : List Nat)
    (ha : a.validB = true) (hb : b.validB = true) (hfa : a.fermi = true) (hfb : b.fermi = true)
    (hadm : tdotAdmissibleCommonB a b xa xb = true)
    (h : a.tensordotF b (.pair (xa.map Int.ofNat) (xb.map Int.ofNat)) .blockwise = .ok c) :
    ∃ out ph, OddposP.mergeOddpos a.parity a.oddpos b.oddpos = .ok (out, ph)
      ∧ c.oddpos = out
      ∧ c.charge = a.sym.combine [a.charge, b.charge]
      ∧ ∀ (s : Sector) (oL oR : List Nat), oL.length = (freeAxes a.ndim xa).length →
          inBox (Arr.blockShapeD (without a.indices xa ++ without b.indices xb) s) (oL ++ oR) = true →
          c.elem s (oL ++ oR) = sgnI ph (gradedContract a b xa xb s oL oR) := by
  obtain ⟨out, ph, C⟩ := Call.of_ok (AdmW.of ha hb hfa hfb hadm) h
  exact ⟨out, ph, C.merge, C.oddpos, C.charge, C.elem⟩

/-- **S7 tdotF_assoc_partial** (chain `A–B–C`, no `A–C` legs).  Valid fermionic `A`, `B`, `C`
    with pairwise-distinct labels; `A`'s axes `xa` contractible with `B`'s `xb1`, `B`'s `xb2` with
    `C`'s `xc`, `xb1` and `xb2` disjoint.  Then all four calls succeed (blockwise mode) and the
    two routes `c1 = (A·B)·C`, `c2 = A·(B·C)` have the same labels, charge, symmetry and kind, the
    same sector set — exactly the keys `s` made of the free parts of a stored aligned sector
    triple —, the same index tables (the un-pruned frame of the three operands' free legs, pruned
    to the final sectors) and the same value at every address `(LA ++ LM ++ LC, oA ++ oM ++ oC)` (free legs of
    `A`, then of `B`, then of `C`; offsets inside the boxes of the operands' index tables). -/
theorem tdotF_assoc_partial [AddCommMonoid R] [Mul R] [Neg R] [SignRing R] [AssocLaws R]
    (A B C : Arr R) (xa xb1 xb2 xc : List Nat)
    (hA : A.validB = true) (hB : B.validB = true) (hC : C.validB = true)
    (hfA : A.fermi = true) (hfB : B.fermi = true) (hfC : C.fermi = true)
    (h1 : ValidP.tdotAdmissibleB A B xa xb1 = true) (h2 : ValidP.tdotAdmissibleB B C xb2 xc = true)
    (hn : (xb1 ++ xb2).Nodup)
    (hd : (A.oddpos ++ B.oddpos ++ C.oddpos).Pairwise (fun x y => x.1 ≠ y.1)) :
    ∃ AB BC c1 c2 : Arr R,
      A.tensordotF B (.pair (xa.map Int.ofNat) (xb1.map Int.ofNat)) .blockwise = .ok AB
      ∧ AB.tensordotF C (.pair ((axesAB A.ndim B.ndim xa xb1 xb2).map Int.ofNat) (xc.map Int.ofNat))
          .blockwise = .ok c1
      ∧ B.tensordotF C (.pair (xb2.map Int.ofNat) (xc.map Int.ofNat)) .blockwise = .ok BC
      ∧ A.tensordotF BC (.pair (xa.map Int.ofNat) ((axesBC B.ndim xb1 xb2).map Int.ofNat))
          .blockwise = .ok c2
      ∧ c2.oddpos = c1.oddpos ∧ c2.charge = c1.charge ∧ c2.sym = c1.sym ∧ c2.fermi = c1.fermi
      ∧ (∀ s, s ∈ c1.sectors ↔ ∃ t, IsTriple A B C xa xb1 xb2 xc s t)
      ∧ (∀ s, s ∈ c2.sectors ↔ s ∈ c1.sectors)
      ∧ c2.indices = c1.indices
      ∧ c1.indices = dropUnused (without A.indices xa
          ++ (permuted B.indices (freeAxes B.ndim (xb1 ++ xb2)) ++ without C.indices xc)) c1.sectors
      ∧ ∀ (LA LM LC : Sector) (oA oM oC : List Nat),
          FreeAddr A B C xa xb1 xb2 xc LA LM LC oA oM oC →
          c2.elem (LA ++ LM ++ LC) (oA ++ oM ++ oC) = c1.elem (LA ++ LM ++ LC) (oA ++ oM ++ oC) := by
  have hBC := Adm.of hB hC hfB hfC h2
  obtain ⟨AB, BC, c1, c2, d1, d2, d3, d4, r1, r2, r3, r4, r5, r6, r7, r8, r9⟩ :=
    Assoc2P.tdotF_assoc_tri A B C xa [] xb1 xb2 xc [] hA hB hC hfA hfB hfC h1 h2 rfl
      (by rw [List.append_nil]; exact (Adm.of hA hB hfA hfB h1).nA) hn
      (by rw [List.append_nil]; exact hBC.nB) (fun _ h => nomatch h) (fun _ h => nomatch h)
      (Assoc2P.labelRoutes_of_distinct _ _ _ _ _ hd)
  rw [axesAB_chain] at d2
  rw [axesBC_chain, List.append_nil] at d4
  have wA : without A.indices xa = permuted A.indices (freeAxes A.ndim xa) :=
    without_eq_permuted_freeAxes _ _
  have wC : without C.indices xc = permuted C.indices (freeAxes C.ndim xc) :=
    without_eq_permuted_freeAxes _ _
  rw [List.append_nil, List.append_nil, ← wA, ← wC] at r8
  exact ⟨AB, BC, c1, c2, d1, d2, d3, d4, r1, r2, r3, r4,
    fun s => (r5 s).trans (exists_congr fun t => isTriple_chain A B C xa xb1 xb2 xc s t), r6, r7, r8,
    fun LA LM LC oA oM oC fa => r9 LA LM LC oA oM oC ((freeAddr_chain ..).mpr fa)⟩

/-- **S7, sector form.**  The same for GIVEN results of the four calls: equal labels, charge, index
    tables and sector sets, and for every key `s` and offsets `o` — inside the block of `s` when
    `s` is a stored sector of `c1`, arbitrary otherwise — equal values. -/
theorem tdotF_assoc_partial_at [AddCommMonoid R] [Mul R] [Neg R] [SignRing R] [AssocLaws R]
    (A B C AB BC c1 c2 : Arr R) (xa xb1 xb2 xc : List Nat)
    (hA : A.validB = true) (hB : B.validB = true) (hC : C.validB = true)
    (hfA : A.fermi = true) (hfB : B.fermi = true) (hfC : C.fermi = true)
    (h1 : ValidP.tdotAdmissibleB A B xa xb1 = true) (h2 : ValidP.tdotAdmissibleB B C xb2 xc = true)
    (hn : (xb1 ++ xb2).Nodup)
    (hd : (A.oddpos ++ B.oddpos ++ C.oddpos).Pairwise (fun x y => x.1 ≠ y.1))
    (e1 : A.tensordotF B (.pair (xa.map Int.ofNat) (xb1.map Int.ofNat)) .blockwise = .ok AB)
    (e2 : AB.tensordotF C (.pair ((axesAB A.ndim B.ndim xa xb1 xb2).map Int.ofNat) (xc.map Int.ofNat))
        .blockwise = .ok c1)
    (e3 : B.tensordotF C (.pair (xb2.map Int.ofNat) (xc.map Int.ofNat)) .blockwise = .ok BC)
    (e4 : A.tensordotF BC (.pair (xa.map Int.ofNat) ((axesBC B.ndim xb1 xb2).map Int.ofNat))
        .blockwise = .ok c2) :
    c2.oddpos = c1.oddpos ∧ c2.charge = c1.charge ∧ c2.indices = c1.indices
      ∧ (∀ s, s ∈ c2.sectors ↔ s ∈ c1.sectors)
      ∧ ∀ (s : Sector) (o : List Nat),
          (s ∈ c1.sectors → inBox (Arr.blockShapeD c1.indices s) o = true) →
          c2.elem s o = c1.elem s o := by
  obtain ⟨AB', BC', c1', c2', d1, d2, d3, d4, r1, r2, _, _, r5, r6, r7, r8, r9⟩ :=
    tdotF_assoc_partial A B C xa xb1 xb2 xc hA hB hC hfA hfB hfC h1 h2 hn hd
  rw [e1] at d1
  obtain rfl := Except.ok.inj d1
  rw [e3] at d3
  obtain rfl := Except.ok.inj d3
  rw [e2] at d2
  obtain rfl := Except.ok.inj d2
  rw [e4] at d4
  obtain rfl := Except.ok.inj d4
  exact ⟨r1, r2, r7, r6, elem_eq_of_sector A B C c1 c2 xa xb1 xb2 xc (Arr.shapesOk_of_validB hA)
    (Arr.shapesOk_of_validB hB) (Arr.shapesOk_of_validB hC) r8 r5 r6 r9⟩

/-- **S7, dense form.**  The two routes give the same `to_dense()` (same `Except` value: the
    same dense array, or both raise because an index table of the result is empty). -/
theorem tdotF_assoc_partial_dense [AddCommMonoid R] [Mul R] [Neg R] [SignRing R] [AssocLaws R]
    (A B C AB BC c1 c2 : Arr R) (xa xb1 xb2 xc : List Nat)
    (hA : A.validB = true) (hB : B.validB = true) (hC : C.validB = true)
    (hfA : A.fermi = true) (hfB : B.fermi = true) (hfC : C.fermi = true)
    (h1 : ValidP.tdotAdmissibleB A B xa xb1 = true) (h2 : ValidP.tdotAdmissibleB B C xb2 xc = true)
    (hn : (xb1 ++ xb2).Nodup)
    (hd : (A.oddpos ++ B.oddpos ++ C.oddpos).Pairwise (fun x y => x.1 ≠ y.1))
    (e1 : A.tensordotF B (.pair (xa.map Int.ofNat) (xb1.map Int.ofNat)) .blockwise = .ok AB)
    (e2 : AB.tensordotF C (.pair ((axesAB A.ndim B.ndim xa xb1 xb2).map Int.ofNat) (xc.map Int.ofNat))
        .blockwise = .ok c1)
    (e3 : B.tensordotF C (.pair (xb2.map Int.ofNat) (xc.map Int.ofNat)) .blockwise = .ok BC)
    (e4 : A.tensordotF BC (.pair (xa.map Int.ofNat) ((axesBC B.ndim xb1 xb2).map Int.ofNat))
        .blockwise = .ok c2) :
    c2.toDenseF = c1.toDenseF := by
  obtain ⟨_, _, r3, _, r5⟩ := tdotF_assoc_partial_at A B C AB BC c1 c2 xa xb1 xb2 xc hA hB hC hfA hfB
    hfC h1 h2 hn hd e1 e2 e3 e4
  obtain ⟨AB', BC', c1', c2', d1, d2, _, _, _, _, _, _, _, _, _, r8, _⟩ :=
    tdotF_assoc_partial A B C xa xb1 xb2 xc hA hB hC hfA hfB hfC h1 h2 hn hd
  rw [e1] at d1
  obtain rfl := Except.ok.inj d1
  rw [e2] at d2
  obtain rfl := Except.ok.inj d2
  have hAB := adm_of_admissible hA hB hfA hfB h1
  have hBC := adm_of_admissible hB hC hfB hfC h2
  apply toDenseF_eq_of c1 c2 r3 ?_ r5
  intro ix hix
  rw [r8] at hix
  refine ValidP.sortedCharges_nodup (ValidP.wfB_cmOk (ValidP.dropUnused_wf (sym := A.sym) _ ?_ ix hix)).1
  intro i hi
  rcases List.mem_append.mp hi with h | h
  · exact ((ValidP.validB_iff A).mp hA).idx i (ValidP.mem_without h)
  · rcases List.mem_append.mp h with h | h
    · rw [hAB.sym]; exact ((ValidP.validB_iff B).mp hB).idx i (mem_permuted h)
    · rw [hAB.sym, hBC.sym]; exact ((ValidP.validB_iff C).mp hC).idx i (ValidP.mem_without h)

theorem assoc_vocabulary (A B C : Arr R) (xa xb1 xb2 xc : List Nat) (s : Sector)
    (t : Sector × Sector × Sector) :
    axesAB A.ndim B.ndim xa xb1 xb2
        = (positions (freeAxes B.ndim xb1) xb2).map ((freeAxes A.ndim xa).length + ·)
    ∧ axesBC B.ndim xb1 xb2 = positions (freeAxes B.ndim xb2) xb1
    ∧ (IsTriple A B C xa xb1 xb2 xc s t ↔
        t.1 ∈ A.sectors ∧ t.2.1 ∈ B.sectors ∧ t.2.2 ∈ C.sectors
        ∧ permuted t.2.1 xb1 = permuted t.1 xa ∧ permuted t.2.2 xc = permuted t.2.1 xb2
        ∧ permuted t.1 (freeAxes A.ndim xa) ++ permuted t.2.1 (freeAxes B.ndim (xb1 ++ xb2))
            ++ permuted t.2.2 (freeAxes C.ndim xc) = s) :=
  ⟨rfl, rfl, Iff.rfl⟩

/-- the left route as a three-operand graded contraction: the specification of the second call
    `(A·B)·C` at a free address is the label sign `ph` of the first call times the signed sum over
    the stored sector triples of the plain triple contractions (`S3`: Koszul signs of `A` to
    `(free, xa)`, of `B` to `(xb1, free, xb2)`, of `C` to `(xc, free)`, the two reversal signs and
    the two ket-bra signs) -/
theorem route_left_value [AddCommMonoid R] [Mul R] [Neg R] [SignRing R] [AssocLaws R]
    {A B C AB : Arr R} {xa xb1 xb2 xc : List Nat} {ph : Int}
    (I : Inter A B xa xb1 AB ph) (hAB : Adm A B xa xb1) (hn : (xb1 ++ xb2).Nodup)
    (hlt : ∀ i ∈ xb2, i < B.ndim)
    {LA LM LC : Sector} {oA oM oC : List Nat} (fa : FreeAddr A B C xa xb1 xb2 xc LA LM LC oA oM oC) :
    gradedContract AB C (axesAB A.ndim B.ndim xa xb1 xb2) xc (LA ++ LM ++ LC) (oA ++ oM) oC
      = sgnI ph (((triplesL A B C AB xa xb1 xb2 xc (LA ++ LM ++ LC)).map
          (fun t => sgnI (S3 A B C xa xb1 xb2 xc t) (W3 A B C xa xb1 xb2 xc oA oM oC t))).sum) :=
  route_left I hAB (Mid.of hn (by
    intro i hi
    rcases List.mem_append.mp hi with h | h
    · exact hAB.ltB i h
    · exact hlt i h)) fa

/-! ## the driver's scalar type is covered -/

attribute [local instance] C02.addCommMonoidGRat in
instance assocLawsGRat : @AssocLaws GRat C02.addCommMonoidGRat _ where
  mul_assoc x y z := Lazy.GRat.ext'
    (by show (x.re * y.re - x.im * y.im) * z.re - (x.re * y.im + x.im * y.re) * z.im
          = x.re * (y.re * z.re - y.im * z.im) - x.im * (y.re * z.im + y.im * z.re); ring)
    (by show (x.re * y.re - x.im * y.im) * z.im + (x.re * y.im + x.im * y.re) * z.re
          = x.re * (y.re * z.im + y.im * z.re) + x.im * (y.re * z.re - y.im * z.im); ring)
  left_distrib x y z := Lazy.GRat.ext'
    (by show x.re * (y.re + z.re) - x.im * (y.im + z.im)
          = (x.re * y.re - x.im * y.im) + (x.re * z.re - x.im * z.im); ring)
    (by show x.re * (y.im + z.im) + x.im * (y.re + z.re)
          = (x.re * y.im + x.im * y.re) + (x.re * z.im + x.im * z.re); ring)
  right_distrib x y z := Lazy.GRat.ext'
    (by show (x.re + y.re) * z.re - (x.im + y.im) * z.im
          = (x.re * z.re - x.im * z.im) + (y.re * z.re - y.im * z.im); ring)
    (by show (x.re + y.re) * z.im + (x.im + y.im) * z.re
          = (x.re * z.im + x.im * z.re) + (y.re * z.im + y.im * z.re); ring)
  zero_mul x := Lazy.GRat.ext'
    (by show (0 : Rat) * x.re - 0 * x.im = 0; ring) (by show (0 : Rat) * x.im + 0 * x.re = 0; ring)
  mul_zero x := Lazy.GRat.ext'
    (by show x.re * (0 : Rat) - x.im * 0 = 0; ring) (by show x.re * (0 : Rat) + x.im * 0 = 0; ring)

/-- S7 for a chain with exactly the instances the driver is compiled with -/
theorem tdotF_assoc_partial_GRat (A B C : Arr GRat) (xa xb1 xb2 xc : List Nat)
    (hA : A.validB = true) (hB : B.validB = true) (hC : C.validB = true)
    (hfA : A.fermi = true) (hfB : B.fermi = true) (hfC : C.fermi = true)
    (h1 : ValidP.tdotAdmissibleB A B xa xb1 = true) (h2 : ValidP.tdotAdmissibleB B C xb2 xc = true)
    (hn : (xb1 ++ xb2).Nodup)
    (hd : (A.oddpos ++ B.oddpos ++ C.oddpos).Pairwise (fun x y => x.1 ≠ y.1)) :
    ∃ AB BC c1 c2 : Arr GRat,
      @Arr.tensordotF GRat GRat.instZero GRat.instAdd GRat.instMul GRat.instNeg A B
          (.pair (xa.map Int.ofNat) (xb1.map Int.ofNat)) .blockwise = .ok AB
      ∧ @Arr.tensordotF GRat GRat.instZero GRat.instAdd GRat.instMul GRat.instNeg AB C
          (.pair ((axesAB A.ndim B.ndim xa xb1 xb2).map Int.ofNat) (xc.map Int.ofNat)) .blockwise = .ok c1
      ∧ @Arr.tensordotF GRat GRat.instZero GRat.instAdd GRat.instMul GRat.instNeg B C
          (.pair (xb2.map Int.ofNat) (xc.map Int.ofNat)) .blockwise = .ok BC
      ∧ @Arr.tensordotF GRat GRat.instZero GRat.instAdd GRat.instMul GRat.instNeg A BC
          (.pair (xa.map Int.ofNat) ((axesBC B.ndim xb1 xb2).map Int.ofNat)) .blockwise = .ok c2
      ∧ c2.oddpos = c1.oddpos ∧ c2.charge = c1.charge
      ∧ (∀ s, s ∈ c2.sectors ↔ s ∈ c1.sectors) ∧ c2.indices = c1.indices
      ∧ ∀ (LA LM LC : Sector) (oA oM oC : List Nat),
          FreeAddr A B C xa xb1 xb2 xc LA LM LC oA oM oC →
          @Arr.elem GRat GRat.instZero GRat.instNeg c2 (LA ++ LM ++ LC) (oA ++ oM ++ oC)
            = @Arr.elem GRat GRat.instZero GRat.instNeg c1 (LA ++ LM ++ LC) (oA ++ oM ++ oC) := by
  obtain ⟨AB, BC, c1, c2, e1, e2, e3, e4, e5, e6, _, _, _, e10, e12, _, e11⟩ :=
    @tdotF_assoc_partial GRat C02.addCommMonoidGRat GRat.instMul GRat.instNeg C03.signRingGRat
      assocLawsGRat A B C xa xb1 xb2 xc hA hB hC hfA hfB hfC h1 h2 hn hd
  exact ⟨AB, BC, c1, c2, e1, e2, e3, e4, e5, e6, e10, e12, e11⟩

/-! ## non-vacuity: an odd chain in which the second route really meets pruned tables

`C03.gA[i,k,l]` (odd, label 1, pending sign), `cB[l',k',j]` = three of the four sectors of
`C03.gB` (odd, label 3, pending sign), `cC[j',m]` with the single sector `j' = 1` (odd, label 5,
pending sign).  `B·C` only stores `l' = 0`, so its `l'` table is pruned and `(gA, B·C)` is NOT
`contractibleB` — but `contractibleCommonB`. -/

open SymmModel.C03 in
def cB : Arr Int :=
  { sym := .Z2, fermi := true, indices := [ixk true, ixk false, ixi true], charge := (1, 0),
    blocks := [([(1,0),(0,0),(0,0)], mkB [2,1,2] 1), ([(0,0),(1,0),(0,0)], mkB [1,2,2] (-2)),
               ([(0,0),(0,0),(1,0)], mkB [1,1,1] 5)],
    phases := [([(0,0),(1,0),(0,0)], -1)], oddpos := [(3, false)] }

open SymmModel.C03 in
def cC : Arr Int :=
  { sym := .Z2, fermi := true, indices := [ixi false, ixk true], charge := (1, 0),
    blocks := [([(1,0),(0,0)], mkB [1,1] 7)],
    phases := [([(1,0),(0,0)], -1)], oddpos := [(5, true)] }

open SymmModel.C03 in
/-- the hypotheses of `tdotF_assoc_partial`: `A`'s `l` (axis 2) with `B`'s `l'` (axis 0), `B`'s `j`
    (axis 2) with `C`'s `j'` (axis 0) -/
example : gA.validB = true ∧ cB.validB = true ∧ cC.validB = true
    ∧ gA.fermi = true ∧ cB.fermi = true ∧ cC.fermi = true
    ∧ ValidP.tdotAdmissibleB gA cB [2] [0] = true ∧ ValidP.tdotAdmissibleB cB cC [2] [0] = true
    ∧ ([0] ++ [2] : List Nat).Nodup
    ∧ (gA.oddpos ++ cB.oddpos ++ cC.oddpos).Pairwise (fun x y => x.1 ≠ y.1)
    ∧ gA.parity = true ∧ cB.parity = true ∧ cC.parity = true := by decide +kernel

example : AssocLaws Int ∧ SignRing Int := ⟨inferInstance, inferInstance⟩

def resOf (r : Except Err (Arr Int)) : Arr Int :=
  match r with
  | .ok c => c
  | .error _ => default

open SymmModel.C03 in
def exAB : Arr Int := resOf (gA.tensordotF cB (.pair [2] [0]) .blockwise)
def exBC : Arr Int := resOf (cB.tensordotF cC (.pair [2] [0]) .blockwise)

open SymmModel.C03 in
/-- the axes of the second calls, and the pruning: `B·C` lost the charge `1` of `l'` (and of
    `k'`), so the documented guard fails for `(A, B·C)` while the weak one holds -/
theorem pruned_not_contractible :
    axesAB gA.ndim cB.ndim [2] [0] [2] = [3] ∧ axesBC cB.ndim [0] [2] = [0]
    ∧ exBC.indices.map Index.charges = [[(0,0)], [(0,0)], [(0,0)]]
    ∧ ValidP.contractibleB gA exBC [2] [0] = false
    ∧ contractibleCommonB gA exBC [2] [0] = true
    ∧ ValidP.contractibleB exAB cC [3] [0] = true := by decide +kernel

open SymmModel.C03 in
/-- a sanity instance of the conclusion: both routes succeed, give the labels `[(5,†), 1, 3]`,
    odd charge, the sectors `(i,k,k',m) = (1,0,0,0), (0,1,0,0)`, and equal non-zero values -/
example :
    labelsOf (exAB.tensordotF cC (.pair [3] [0]) .blockwise) = [(5, true), (1, false), (3, false)]
    ∧ labelsOf (gA.tensordotF exBC (.pair [2] [0]) .blockwise) = [(5, true), (1, false), (3, false)]
    ∧ sectorsOf (exAB.tensordotF cC (.pair [3] [0]) .blockwise)
        = some [[(1,0),(0,0),(0,0),(0,0)], [(0,0),(1,0),(0,0),(0,0)]]
    ∧ sectorsOf (gA.tensordotF exBC (.pair [2] [0]) .blockwise)
        = some [[(1,0),(0,0),(0,0),(0,0)], [(0,0),(1,0),(0,0),(0,0)]]
    ∧ elemOf (exAB.tensordotF cC (.pair [3] [0]) .blockwise) [(1,0),(0,0),(0,0),(0,0)] [0,0,0,0]
        = elemOf (gA.tensordotF exBC (.pair [2] [0]) .blockwise) [(1,0),(0,0),(0,0),(0,0)] [0,0,0,0]
    ∧ elemOf (exAB.tensordotF cC (.pair [3] [0]) .blockwise) [(0,0),(1,0),(0,0),(0,0)] [1,1,0,0]
        = elemOf (gA.tensordotF exBC (.pair [2] [0]) .blockwise) [(0,0),(1,0),(0,0),(0,0)] [1,1,0,0]
    ∧ elemOf (exAB.tensordotF cC (.pair [3] [0]) .blockwise) [(0,0),(1,0),(0,0),(0,0)] [1,1,0,0]
        ≠ some 0 := by decide +kernel

open SymmModel.C03 in
/-- an address meeting `FreeAddr`: sector `(i,k | k' | m) = (0,1 | 0 | 0)`, offsets `(1,1 | 0 | 0)` -/
example : FreeAddr gA cB cC [2] [0] [2] [0] [(0,0),(1,0)] [(0,0)] [(0,0)] [1,1] [0] [0] :=
  ⟨by decide, by decide, by decide, by decide, by decide, by decide +kernel, by decide +kernel,
   by decide +kernel⟩

end SymmModel.C04
