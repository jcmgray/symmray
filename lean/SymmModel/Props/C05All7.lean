import SymmModel.Proofs.FuseOne
import SymmModel.Props.C05All6
import SymmModel.Props.C05i
