/-
  C06 — Contraction commutes with fusing, and all contraction strategies agree:
  the ALIGNMENT part (`drop_misaligned_sectors`, the first step of the fused strategy).

  Theorems about `SymmModel.dropMisaligned` and `SymmModel.tensordotBlockwise`
  (`Model/Tdot.lean`; Python `symmray.abelian_core.drop_misaligned_sectors` and
  `_tensordot_blockwise`), for every symmetry, scalar type, axes and sparsity pattern.

  * `dropMisaligned` keeps exactly the blocks whose contracted part occurs on the other operand,
    leaves block values untouched and is idempotent (as a map on pairs of arrays, index tables
    included).
  * Aligning first does not change the blockwise contraction: the list of aligned block pairs is
    literally the same list, hence same keys in the same order, same block values, same charge;
    and the result index tables are *equal* (both are the un-pruned tables `without … ++ without …`
    pruned to the same stored key set; pruning to the aligned operands' sectors first is absorbed,
    `dropTo_dropTo`).  For the index tables the free axes must be the complements
    (`freeAxes`) and stored sectors must have one charge per axis (a clause of `Arr.validB`).

  In the later parts: `aligned_fused_tables_match` (C06b), `tensordotFused_obs_eq_blockwise` and the
  fermionic fused / auto = blockwise theorems (C06c, C06d), `tensordot_fuse_commute` and the other
  "contraction commutes with fusing" theorems, abelian and fermionic (C06e–C06j).
-/
import SymmModel.Proofs.TdotLemmas

namespace SymmModel.C06
open SymmModel SymmModel.TdotP

variable {R : Type}

def c0 : Charge := (0, 0)
def c1 : Charge := (1, 0)
def ixI : Index := Index.plain [(c0, 2), (c1, 1)] false
def ixJ : Index := Index.plain [(c0, 1), (c1, 2)] false
def ixK : Index := Index.plain [(c0, 2), (c1, 2)] true
def ixM : Index := Index.plain [(c0, 1), (c1, 1)] true
def mkB (s : List Nat) (c : Int) : Blk Int := Blk.ofFn s (fun i => (ravel s i : Int) + c)

/-- `a[i,j,k]`, charge 0, sectors (0,0,0), (0,1,1), (1,0,1); (1,1,0) missing -/
def exA : Arr Int :=
  { sym := .Z2, fermi := false, indices := [ixI, ixJ, ixK], charge := c0,
    blocks := [([c0, c0, c0], mkB [2, 1, 2] 1), ([c0, c1, c1], mkB [2, 2, 2] (-3)),
               ([c1, c0, c1], mkB [1, 1, 2] 2)] }
/-- `b[j,k,m]`, charge 0, sectors (0,0,0), (1,1,0), (1,0,1); (0,1,1) missing.  Over `(j,k)`,
    `a`'s (1,0,1) and `b`'s (1,0,1) have no partner. -/
def exB : Arr Int :=
  { sym := .Z2, fermi := false, indices := [ixJ.conj, ixK.conj, ixM], charge := c0,
    blocks := [([c0, c0, c0], mkB [1, 2, 1] 5), ([c1, c1, c0], mkB [2, 2, 1] (-1)),
               ([c1, c0, c1], mkB [2, 2, 1] 7)] }

example : exA.validB = true ∧ exB.validB = true := by decide +kernel
theorem exA_len : ∀ s ∈ exA.sectors, s.length = exA.ndim := by decide
theorem exB_len : ∀ s ∈ exB.sectors, s.length = exB.ndim := by decide

/-- **dropMisaligned_sectors (blocks of `a`).**  The kept blocks of `a` are exactly those whose
    contracted part occurs among the contracted parts of `b`'s stored sectors — same order, same
    block values. -/
theorem dropMisaligned_blocks_fst (a b : Arr R) (xa xb : List Nat) :
    (dropMisaligned a b xa xb).1.blocks =
      a.blocks.filter (fun p => (b.sectors.map (fun s => permuted s xb)).contains (permuted p.1 xa)) :=
  dropMisaligned_fst_blocks a b xa xb

/-- **dropMisaligned_sectors (blocks of `b`).** -/
theorem dropMisaligned_blocks_snd (a b : Arr R) (xa xb : List Nat) :
    (dropMisaligned a b xa xb).2.blocks =
      b.blocks.filter (fun p => (a.sectors.map (fun s => permuted s xa)).contains (permuted p.1 xb)) :=
  dropMisaligned_snd_blocks a b xa xb

/-- **dropMisaligned_sectors.**  At the level of sector keys. -/
theorem dropMisaligned_sectors (a b : Arr R) (xa xb : List Nat) :
    (dropMisaligned a b xa xb).1.sectors =
        a.sectors.filter (fun s => (b.sectors.map (fun t => permuted t xb)).contains (permuted s xa)) ∧
    (dropMisaligned a b xa xb).2.sectors =
        b.sectors.filter (fun t => (a.sectors.map (fun s => permuted s xa)).contains (permuted t xb)) := by
  constructor
  · show List.map _ (dropMisaligned a b xa xb).1.blocks = List.filter _ (a.blocks.map (·.1))
    rw [dropMisaligned_fst_blocks, List.filter_map]; rfl
  · show List.map _ (dropMisaligned a b xa xb).2.blocks = List.filter _ (b.blocks.map (·.1))
    rw [dropMisaligned_snd_blocks, List.filter_map]; rfl

/-- everything but blocks and index tables is untouched; the index tables are the operand's
    tables pruned (`dropUnused`) to the kept sectors -/
theorem dropMisaligned_rest (a b : Arr R) (xa xb : List Nat) :
    let a' := (dropMisaligned a b xa xb).1
    let b' := (dropMisaligned a b xa xb).2
    a'.sym = a.sym ∧ a'.charge = a.charge ∧ a'.fermi = a.fermi ∧ a'.phases = a.phases ∧
    a'.oddpos = a.oddpos ∧ a'.indices = dropUnused a.indices a'.sectors ∧ a'.ndim = a.ndim ∧
    b'.sym = b.sym ∧ b'.charge = b.charge ∧ b'.fermi = b.fermi ∧ b'.phases = b.phases ∧
    b'.oddpos = b.oddpos ∧ b'.indices = dropUnused b.indices b'.sectors ∧ b'.ndim = b.ndim :=
  ⟨rfl, rfl, rfl, rfl, rfl, rfl, (dropMisaligned_ndim a b xa xb).1,
   rfl, rfl, rfl, rfl, rfl, rfl, (dropMisaligned_ndim a b xa xb).2⟩

/-- **dropMisaligned is idempotent**: aligning aligned operands changes nothing (blocks, index
    tables and all other fields). -/
theorem dropMisaligned_idempotent (a b : Arr R) (xa xb : List Nat) :
    dropMisaligned (dropMisaligned a b xa xb).1 (dropMisaligned a b xa xb).2 xa xb =
      dropMisaligned a b xa xb :=
  dropMisaligned_idem a b xa xb

example : (dropMisaligned exA exB [1, 2] [0, 1]).1.sectors = [[c0, c0, c0], [c0, c1, c1]]
    ∧ (dropMisaligned exA exB [1, 2] [0, 1]).2.sectors = [[c0, c0, c0], [c1, c1, c0]]
    ∧ (dropMisaligned exA exB [1, 2] [0, 1]).1.indices.map Index.cm =
        [[(c0, 2)], [(c0, 1), (c1, 2)], [(c0, 2), (c1, 2)]] := by decide +kernel

/-- **align_irrelevant (blocks, charge; no hypotheses).**  Same keys in the same order with the
    same block values, same charge and all other non-index fields, for any `l`, `r`:
    dropped sectors pair with nothing, so the visited list of aligned pairs is the same list. -/
theorem align_irrelevant_blocks [Zero R] [Add R] [Mul R] (a b : Arr R) (l xa xb r : List Nat) :
    let c' := tensordotBlockwise (dropMisaligned a b xa xb).1 (dropMisaligned a b xa xb).2 l xa xb r
    let c := tensordotBlockwise a b l xa xb r
    c'.blocks = c.blocks ∧ c'.sectors = c.sectors ∧ c'.charge = c.charge ∧ c'.sym = c.sym ∧
    c'.fermi = c.fermi ∧ c'.phases = c.phases ∧ c'.oddpos = c.oddpos ∧
    c'.indices = dropUnused (without (dropMisaligned a b xa xb).1.indices xa ++
                              without (dropMisaligned a b xa xb).2.indices xb) c.sectors ∧
    c.indices = dropUnused (without a.indices xa ++ without b.indices xb) c.sectors := by
  have h := tensordotBlockwise_blocks_dropMisaligned a b l xa xb r
  refine ⟨h, by rw [Arr.sectors, h]; rfl, rfl, rfl, rfl, rfl, rfl, ?_, rfl⟩
  rw [tensordotBlockwise_indices, Arr.sectors, h]; rfl

/-- **align_irrelevant.**  With `l`, `r` the free axes (complements of the contracted axes) and
    stored sectors having one charge per axis, the two results are equal as arrays — index
    tables included. -/
theorem align_irrelevant [Zero R] [Add R] [Mul R] (a b : Arr R) (xa xb : List Nat)
    (hla : ∀ s ∈ a.sectors, s.length = a.ndim) (hlb : ∀ s ∈ b.sectors, s.length = b.ndim) :
    tensordotBlockwise (dropMisaligned a b xa xb).1 (dropMisaligned a b xa xb).2
        (freeAxes a.ndim xa) xa xb (freeAxes b.ndim xb) =
      tensordotBlockwise a b (freeAxes a.ndim xa) xa xb (freeAxes b.ndim xb) :=
  tensordotBlockwise_dropMisaligned a b xa xb hla hlb

/-- the same for `tensordot(a, b, axes, mode="blockwise")` with any axes argument (`parseAxes`
    only sees the numbers of axes, which aligning does not change) -/
theorem align_irrelevant_tensordotA [Zero R] [Add R] [Mul R] (a b : Arr R) (axes : AxesArg)
    (hla : ∀ s ∈ a.sectors, s.length = a.ndim) (hlb : ∀ s ∈ b.sectors, s.length = b.ndim) :
    (parseAxes a.ndim b.ndim axes).bind (fun x =>
        tensordotA (dropMisaligned a b x.1 x.2).1 (dropMisaligned a b x.1 x.2).2 axes .blockwise) =
      tensordotA a b axes .blockwise :=
  tensordotA_blockwise_dropMisaligned a b axes hla hlb

/-- the aligned operands still satisfy the sector-length hypothesis (so the theorems compose) -/
theorem dropMisaligned_keeps_sector_length {a b : Arr R} {xa xb : List Nat}
    (hla : ∀ s ∈ a.sectors, s.length = a.ndim) (hlb : ∀ s ∈ b.sectors, s.length = b.ndim) :
    (∀ s ∈ (dropMisaligned a b xa xb).1.sectors, s.length = (dropMisaligned a b xa xb).1.ndim) ∧
    (∀ s ∈ (dropMisaligned a b xa xb).2.sectors, s.length = (dropMisaligned a b xa xb).2.ndim) :=
  dropMisaligned_sectors_length hla hlb

-- sanity on the example: aligned and unaligned contraction agree in blocks and index tables
example : freeAxes exA.ndim [1, 2] = [0] ∧ freeAxes exB.ndim [0, 1] = [2] := by decide
example :
    let c' := tensordotBlockwise (dropMisaligned exA exB [1, 2] [0, 1]).1
      (dropMisaligned exA exB [1, 2] [0, 1]).2 [0] [1, 2] [0, 1] [2]
    let c := tensordotBlockwise exA exB [0] [1, 2] [0, 1] [2]
    c.blocks.map (fun p => (p.1, p.2.shape, p.2.data)) = [([c0, c0], [2, 1], #[19, 49])]
    ∧ c'.blocks.map (fun p => (p.1, p.2.shape, p.2.data)) = [([c0, c0], [2, 1], #[19, 49])]
    ∧ c.indices.map Index.cm = [[(c0, 2)], [(c0, 1)]]
    ∧ c'.indices.map Index.cm = [[(c0, 2)], [(c0, 1)]] := by decide +kernel

end SymmModel.C06
