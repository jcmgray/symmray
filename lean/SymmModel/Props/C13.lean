/-
  C13 — Truncated SVD keeps exactly what its cutoff and bond limit prescribe.

  Theorems about `SymmModel.keepCountsG` / `keepCounts` / `calcSubMaxBonds`
  (`Model/Trunc.lean`, the selection logic of `symmray.linalg.svd_truncated`), for every
  number of sectors and all rational values.

  `keepCountsG fix` is the model with (`fix = true`, /repo from commit 4bfec24 on) or without
  (`fix = false`, the commits before it) the repair of the `sall[-0]` wrap-around; `keepCounts` is
  `keepCountsG wrapFixed` and `wrapFixed = true`.  Statements that hold for both are stated
  for `keepCountsG fix`.

  Outside the theorems (validated numerically by harness/props/c13.py): float rounding in
  `sort`/`cumsum`/comparisons and in `int(frac * sz)`; orthonormality of LAPACK's factors
  (a hypothesis of `C11.truncation_error`, Props/C11b.lean); that the per-block singular values
  arrive non-increasing (`SortedDesc`).
-/
import SymmModel.Proofs.TruncLemmas
import Mathlib.Algebra.Ring.Defs

namespace SymmModel.C13
open SymmModel SymmModel.TruncLemmas

/-- With singular values arriving non-increasing in every sector, the count `n` of a sector is
    at most its length, its first `n` values (the ones symmray/linalg.py:337 keeps, `s[:n]`) are
    exactly the values `≥ abs_cutoff`, and the rest are exactly the values below. -/
theorem keep_is_prefix (fix : Bool) (s : List (Charge × List Rat)) (cutoff : Rat) (mode : Nat)
    (mb : Int) (t : Rat) (ht : threshold fix s cutoff mode mb = .ok t)
    (hs : ∀ p ∈ s, SortedDesc p.2) :
    List.Forall₂
      (fun p n => n ≤ p.2.length ∧ p.2.take n = p.2.filter (fun v => leRat t v) ∧
        p.2.drop n = p.2.filter (fun v => !leRat t v))
      s (keepCountsG fix s cutoff mode mb) := by
  rw [keepCountsG_eq ht, List.forall₂_map_right_iff, List.forall₂_same]
  intro p hp
  exact ⟨countGe_le_length t p.2, take_countGe (hs p hp) t⟩

example : ∀ p ∈ [(((0, 0) : Charge), ([3, 2, 2, 0] : List Rat)), ((1, 0), [5, 1])], SortedDesc p.2 := by
  unfold SortedDesc; decide +kernel
example : threshold true [((0, 0), [3, 2, 2, 0]), ((1, 0), [5, 1])] 2 1 (-1) = .ok 2 := by
  decide +kernel

/-- all the no-cutoff branch needs for "keeping the largest values within each charge", for any
    count `n` -/
theorem prefix_is_largest (l : List Rat) (hs : SortedDesc l) (n : Nat) :
    ∀ x ∈ l.take n, ∀ y ∈ l.drop n, y ≤ x := by
  intro x hx y hy
  obtain ⟨i, hi, rfl⟩ := List.mem_take_iff_getElem.mp hx
  obtain ⟨j, hj, rfl⟩ := List.mem_iff_getElem.mp hy
  rw [List.getElem_drop]
  simp only [List.length_drop] at hj
  exact List.pairwise_iff_getElem.mp hs i (n + j) (by omega) (by omega) (by omega)

/-- Every kept value, of whatever sector, is at least the threshold and every discarded one is
    strictly below it; hence kept > discarded across all sectors. -/
theorem keep_ge_discarded (fix : Bool) (s : List (Charge × List Rat)) (cutoff : Rat) (mode : Nat)
    (mb : Int) (t : Rat) (ht : threshold fix s cutoff mode mb = .ok t)
    (hs : ∀ p ∈ s, SortedDesc p.2) :
    (∀ a ∈ (keptValues s (keepCountsG fix s cutoff mode mb)).flatten, t ≤ a) ∧
    (∀ b ∈ (droppedValues s (keepCountsG fix s cutoff mode mb)).flatten, b < t) ∧
    (∀ a ∈ (keptValues s (keepCountsG fix s cutoff mode mb)).flatten,
      ∀ b ∈ (droppedValues s (keepCountsG fix s cutoff mode mb)).flatten, b < a) := by
  rw [keepCountsG_eq ht, keptValues_map, droppedValues_map]
  have hk : ∀ a ∈ (s.map (fun p => p.2.take (countGe t p.2))).flatten, t ≤ a := by
    intro a ha
    obtain ⟨l, hl, hal⟩ := List.mem_flatten.mp ha
    obtain ⟨p, hp, rfl⟩ := List.mem_map.mp hl
    exact le_of_mem_take_countGe (hs p hp) hal
  have hd : ∀ b ∈ (s.map (fun p => p.2.drop (countGe t p.2))).flatten, b < t := by
    intro b hb
    obtain ⟨l, hl, hbl⟩ := List.mem_flatten.mp hb
    obtain ⟨p, hp, rfl⟩ := List.mem_map.mp hl
    exact lt_of_mem_drop_countGe (hs p hp) hbl
  exact ⟨hk, hd, fun a ha b hb => lt_of_lt_of_le (hd b hb) (hk a ha)⟩

/-- keep_rule_exact, part (a): position `j` of a sector is kept (`j < n`) iff its value is
    `≥` the threshold. -/
theorem keep_rule_exact (fix : Bool) (s : List (Charge × List Rat)) (cutoff : Rat) (mode : Nat)
    (mb : Int) (t : Rat) (ht : threshold fix s cutoff mode mb = .ok t)
    (hs : ∀ p ∈ s, SortedDesc p.2) :
    List.Forall₂ (fun p n => ∀ j (hj : j < p.2.length), j < n ↔ t ≤ p.2[j])
      s (keepCountsG fix s cutoff mode mb) := by
  rw [keepCountsG_eq ht, List.forall₂_map_right_iff, List.forall₂_same]
  intro p hp j hj
  constructor
  · intro hjn
    exact le_of_mem_take_countGe (hs p hp) (List.mem_take_iff_getElem.mpr ⟨j, by omega, rfl⟩)
  · intro hle
    by_contra hc
    have hm : p.2[j] ∈ p.2.drop (countGe t p.2) := by
      rw [List.mem_iff_getElem]
      refine ⟨j - countGe t p.2, by simp; omega, ?_⟩
      rw [List.getElem_drop]
      congr 1; omega
    exact absurd hle (not_le.mpr (lt_of_mem_drop_countGe (hs p hp) hm))

/-- keep_rule_exact, part (b): the threshold is the larger of the rule's and the bond limit's
    `sall[-mb]` when `0 < mb < len(sall)`, and the rule's otherwise. -/
theorem threshold_eq (fix : Bool) (s : List (Charge × List Rat)) (cutoff : Rat) (mode : Nat)
    (mb : Int) (t : Rat) (ht : threshold fix s cutoff mode mb = .ok t) :
    ∃ tr, ruleThreshold fix (sall s) cutoff mode = .ok tr ∧
      ((0 < mb ∧ mb < ((sall s).length : Int)) →
        ∃ h : (sall s).length - mb.toNat < (sall s).length,
          t = max tr ((sall s)[(sall s).length - mb.toNat])) ∧
      (¬ (0 < mb ∧ mb < ((sall s).length : Int)) → t = tr) := by
  obtain ⟨tr, hr, ht⟩ := threshold_inv ht
  refine ⟨tr, hr, ?_, ?_⟩
  · intro hb
    have h0 : 1 ≤ mb.toNat := by omega
    have h1 : mb.toNat ≤ (sall s).length := by omega
    refine ⟨by omega, ?_⟩
    unfold bondClamp at ht
    simp only [hb, and_self, if_true] at ht
    rw [negIndex_eq (sall s) mb.toNat h0 h1] at ht
    simp only at ht
    rw [← ht]
    split
    · rename_i h; exact (max_eq_right (le_of_lt h)).symm
    · rename_i h; exact (max_eq_left (not_lt.mp h)).symm
  · intro hb
    unfold bondClamp at ht
    simp only [hb, if_false] at ht
    exact ht.symm

/-- the bond-limit threshold `sall[-mb]` is the `mb`-th largest of all singular values: at least
    `mb` values are `≥` it and fewer than `mb` are `>` it -/
theorem bond_threshold_char (s : List (Charge × List Rat)) (mb : Nat) (h0 : 0 < mb)
    (h1 : mb < (sall s).length) :
    mb ≤ countGe ((sall s)[(sall s).length - mb]'(by omega)) (s.flatMap (·.2)) ∧
    (s.flatMap (·.2)).countP (fun v => decide ((sall s)[(sall s).length - mb]'(by omega) < v)) < mb := by
  have hsorted := sall_sorted s
  have hk : (sall s).length - mb < (sall s).length := by omega
  constructor
  · have := countGe_getElem_ge (sall s) hsorted _ hk
    unfold countGe at this ⊢
    rw [← (sall_perm s).countP_eq]
    omega
  · rw [← (sall_perm s).countP_eq]
    set a := sall s with ha
    set k := a.length - mb with hkdef
    have e : a.countP (fun v => decide (a[k] < v))
        = (a.take (k + 1)).countP (fun v => decide (a[k] < v))
          + (a.drop (k + 1)).countP (fun v => decide (a[k] < v)) := by
      rw [← List.countP_append, List.take_append_drop]
    have z : (a.take (k + 1)).countP (fun v => decide (a[k] < v)) = 0 := by
      rw [List.countP_eq_zero]
      intro x hx
      simp only [decide_eq_true_eq, not_lt]
      obtain ⟨j, hj, rfl⟩ := List.mem_take_iff_getElem.mp hx
      exact ascending_getElem_le hsorted (by omega) hk
    have le : (a.drop (k + 1)).countP (fun v => decide (a[k] < v)) ≤ (a.drop (k + 1)).length :=
      List.countP_le_length
    rw [e, z]
    simp only [List.length_drop] at le
    omega

theorem rule_threshold_abs (fix : Bool) (sa : List Rat) (cutoff : Rat) :
    ruleThreshold fix sa cutoff 1 = .ok cutoff := by
  simp [ruleThreshold]

/-- mode 2: the rule threshold is `cutoff` times the largest of all singular values -/
theorem rule_threshold_rel (fix : Bool) (s : List (Charge × List Rat)) (cutoff tr : Rat)
    (h : ruleThreshold fix (sall s) cutoff 2 = .ok tr) :
    ∃ top, top ∈ s.flatMap (·.2) ∧ (∀ v ∈ s.flatMap (·.2), v ≤ top) ∧ tr = top * cutoff := by
  simp only [ruleThreshold] at h
  cases htop : negIndex (sall s) 1 with
  | error e => rw [htop] at h; simp at h
  | ok top =>
    rw [htop] at h
    simp only [Nat.reduceEqDiff, if_false, if_true, Except.ok.injEq] at h
    refine ⟨top, (sall_perm s).mem_iff.mp (negIndex_mem htop), ?_, h.symm⟩
    intro v hv
    have hv' : v ∈ sall s := (sall_perm s).mem_iff.mpr hv
    have hlen : 1 ≤ (sall s).length := List.length_pos_of_mem hv'
    rw [negIndex_eq (sall s) 1 (le_refl _) hlen] at htop
    simp only [Except.ok.injEq] at htop
    obtain ⟨j, hj, rfl⟩ := List.mem_iff_getElem.mp hv'
    rw [← htop]
    exact ascending_getElem_le (sall_sorted s) (by omega) (by omega)

/-- the weight budget of the cumulative modes: `cutoff` (3, 5) or `cutoff * total weight` (4, 6) -/
def budget (mode : Nat) (sa : List Rat) (cutoff : Rat) : Rat :=
  if mode = 4 ∨ mode = 6 then cutoff * (weights mode sa).sum else cutoff

/-- modes 3–6 (cumulative weight, `w = s²` for 3, 4 and `w = s` for 5, 6, relative to the total
    weight for 4, 6): with `sa` all values ascending, `n` values are kept by the rule where the
    discarded prefix `sa[:len-n]` is the longest whose cumulative weights all stay below the
    budget; the threshold is the first value after it.  If even the total weight is below the
    budget (`n = 0`), the code with the repair (`fix = true`) keeps the largest value (threshold =
    maximum) and the code without it (`fix = false`) wraps to the minimum. -/
theorem rule_threshold_cumulative (fix : Bool) (sa : List Rat) (cutoff tr : Rat) (mode : Nat)
    (hm : mode = 3 ∨ mode = 4 ∨ mode = 5 ∨ mode = 6) (hnn : NonNeg sa)
    (h : ruleThreshold fix sa cutoff mode = .ok tr) :
    ∃ n, nChiAll mode sa cutoff = .ok n ∧ n ≤ sa.length ∧
      (∀ j, j < sa.length - n → ((weights mode sa).take (j + 1)).sum < budget mode sa cutoff) ∧
      (∀ j, sa.length - n ≤ j → j < sa.length →
        budget mode sa cutoff ≤ ((weights mode sa).take (j + 1)).sum) ∧
      (1 ≤ n → ∃ hk : sa.length - n < sa.length, tr = sa[sa.length - n]) ∧
      (n = 0 → ∃ hk : 0 < sa.length,
        tr = if fix then sa[sa.length - 1] else sa[0]) := by
  obtain ⟨rhs, hr, hn⟩ := ruleThreshold_cum_inv hm h
  have hwl : (weights mode sa).length = sa.length := weights_length mode sa
  have hcl : (cumsum (weights mode sa)).length = sa.length := by rw [cumsum_length, hwl]
  have hpos : 0 < sa.length := List.length_pos_of_mem (negIndex_mem hn)
  have hwn : NonNeg (weights mode sa) := weights_nonneg mode sa hnn
  have hrhs : rhs = budget mode sa cutoff := by
    unfold budget
    rcases condRhs_inv hr with ⟨hm46, tot, htot, rfl⟩ | ⟨hm46, rfl⟩
    · rw [cumsum_last _ (by omega)] at htot
      simp only [Except.ok.injEq] at htot
      simp only [hm46, if_true, htot]
    · simp only [hm46, if_false]
  have hnle : countGe rhs (cumsum (weights mode sa)) ≤ sa.length := by
    rw [← hcl]; exact countGe_le_length _ _
  obtain ⟨s1, s2⟩ := cum_split (weights mode sa) hwn rhs
  rw [hwl] at s1 s2
  refine ⟨countGe rhs (cumsum (weights mode sa)), ?_, hnle, ?_, ?_, ?_, ?_⟩
  · unfold nChiAll; simp only [hr]
  · rw [← hrhs]; exact s1
  · rw [← hrhs]; exact s2
  · intro h1
    have e : nChiAdjust fix (countGe rhs (cumsum (weights mode sa)))
        = countGe rhs (cumsum (weights mode sa)) := by unfold nChiAdjust; split <;> omega
    rw [e, negIndex_eq sa _ h1 hnle] at hn
    simp only [Except.ok.injEq] at hn
    exact ⟨by omega, hn.symm⟩
  · intro h0
    refine ⟨hpos, ?_⟩
    rw [h0] at hn
    cases fix with
    | true =>
      have e : nChiAdjust true 0 = 1 := by unfold nChiAdjust; simp
      rw [e, negIndex_eq sa 1 (le_refl _) hpos] at hn
      simp only [Except.ok.injEq] at hn
      simp [hn.symm]
    | false =>
      have e : nChiAdjust false 0 = 0 := by unfold nChiAdjust; simp
      rw [e, negIndex_zero sa hpos] at hn
      simp only [Except.ok.injEq] at hn
      simp [hn.symm]

example : NonNeg [1, 2] := by unfold NonNeg; decide +kernel

/-- general form: a larger cutoff never keeps more in any sector, provided the larger cutoff does
    not hit the `n_chi_all = 0` wrap-around (automatic when `fix = true`). -/
theorem keep_antitone_cutoff_partial (fix : Bool) (s : List (Charge × List Rat)) (c1 c2 : Rat)
    (mode : Nat) (mb : Int) (hc : c1 ≤ c2) (hnn : ∀ p ∈ s, NonNeg p.2)
    (hnowrap : ∀ n, nChiAll mode (sall s) c2 = .ok n → 1 ≤ nChiAdjust fix n) :
    List.Forall₂ (· ≤ ·) (keepCountsG fix s c2 mode mb) (keepCountsG fix s c1 mode mb) := by
  unfold keepCountsG threshold
  cases h1 : ruleThreshold fix (sall s) c1 mode with
  | error e =>
    rw [ruleThreshold_error_indep (c2 := c2) h1]
    exact List.Forall₂.nil
  | ok t1 =>
    cases h2 : ruleThreshold fix (sall s) c2 mode with
    | error e =>
      have := ruleThreshold_error_indep (c2 := c1) h2
      rw [h1] at this; cases this
    | ok t2 =>
      have ht : t1 ≤ t2 := ruleThreshold_mono (sall_sorted s) (nonNeg_sall hnn) hc h1 h2 hnowrap
      exact forall2_counts s (bondClamp_mono (sall s) ht mb)

/-- for `fix = true` (wrap-around repaired): for every mode, every bond limit and all cutoffs
    `c1 ≤ c2`, no sector keeps more at `c2` than at `c1`. -/
theorem keep_antitone_cutoff (s : List (Charge × List Rat)) (c1 c2 : Rat) (mode : Nat) (mb : Int)
    (hc : c1 ≤ c2) (hnn : ∀ p ∈ s, NonNeg p.2) :
    List.Forall₂ (· ≤ ·) (keepCounts s c2 mode mb) (keepCounts s c1 mode mb) := by
  unfold keepCounts wrapFixed
  exact keep_antitone_cutoff_partial true s c1 c2 mode mb hc hnn (fun n _ => nChiAdjust_true_pos n)

example : ∀ p ∈ [(((0, 0) : Charge), ([2, 1] : List Rat))], NonNeg p.2 := by
  unfold NonNeg; decide +kernel

/-- witness for `fix = false` (finding #9, the code of the commits before 4bfec24): in mode 3 on
    the single sector `[2, 1]`, cutoff 4 keeps one value and the larger cutoff 6 keeps both. -/
theorem keep_antitone_cutoff_old_counterexample :
    keepCountsG false [((0, 0), [2, 1])] 4 3 (-1) = [1] ∧
    keepCountsG false [((0, 0), [2, 1])] 6 3 (-1) = [2] ∧
    ¬ List.Forall₂ (· ≤ ·) (keepCountsG false [((0, 0), [2, 1])] 6 3 (-1))
        (keepCountsG false [((0, 0), [2, 1])] 4 3 (-1)) := by
  have h1 : keepCountsG false [((0, 0), [2, 1])] 4 3 (-1) = [1] := by decide +kernel
  have h2 : keepCountsG false [((0, 0), [2, 1])] 6 3 (-1) = [2] := by decide +kernel
  refine ⟨h1, h2, ?_⟩
  rw [h1, h2]
  intro h
  cases h with
  | cons hab _ => omega

/-- the same input on the repaired code -/
theorem keep_antitone_cutoff_witness_fixed :
    keepCounts [((0, 0), [2, 1])] 4 3 (-1) = [1] ∧ keepCounts [((0, 0), [2, 1])] 6 3 (-1) = [1] := by
  constructor <;> decide +kernel

/-- the wrap-around cannot happen when the cutoff does not exceed the total weight
    (absolute modes 3, 5) / does not exceed 1 (relative modes 4, 6) -/
theorem nowrap_of_cutoff_le_total (sa : List Rat) (cutoff : Rat) (mode : Nat) (hnn : NonNeg sa)
    (hne : 0 < sa.length)
    (hle : if mode = 4 ∨ mode = 6 then cutoff ≤ 1 else cutoff ≤ (weights mode sa).sum) :
    ∀ n, nChiAll mode sa cutoff = .ok n → 1 ≤ n := by
  intro n hn
  unfold nChiAll at hn
  simp only at hn
  have hwl : (weights mode sa).length = sa.length := weights_length mode sa
  have hcl : (cumsum (weights mode sa)).length = sa.length := by rw [cumsum_length, hwl]
  have hwn := weights_nonneg mode sa hnn
  have hlast : negIndex (cumsum (weights mode sa)) 1 = .ok (weights mode sa).sum :=
    cumsum_last _ (by omega)
  have htot_nonneg : 0 ≤ (weights mode sa).sum := by
    have := cumsumFrom_ge 0 (weights mode sa) hwn _ (negIndex_mem hlast)
    exact this
  cases hc : condRhs mode (cumsum (weights mode sa)) cutoff with
  | error e => rw [hc] at hn; cases hn
  | ok rhs =>
    rw [hc] at hn
    simp only [Except.ok.injEq] at hn
    subst hn
    have hrhs : rhs ≤ (weights mode sa).sum := by
      rcases condRhs_inv hc with ⟨hm46, tot, htot, rfl⟩ | ⟨hm46, rfl⟩
      · rw [hlast] at htot
        simp only [Except.ok.injEq] at htot
        subst htot
        simp only [hm46, if_true] at hle
        calc cutoff * (weights mode sa).sum ≤ 1 * (weights mode sa).sum :=
              mul_le_mul_of_nonneg_right hle htot_nonneg
          _ = _ := one_mul _
      · simp only [hm46, if_false] at hle
        exact hle
    unfold countGe
    apply List.countP_pos_iff.mpr
    exact ⟨_, negIndex_mem hlast, by simpa [leRat] using hrhs⟩

/-- "no tie at the bond-limit threshold": the `mb`-th largest value is strictly larger than the
    `(mb+1)`-th largest -/
def NoTieAtBond (s : List (Charge × List Rat)) (mb : Nat) : Prop :=
  (sall s).getD ((sall s).length - mb - 1) 0 < (sall s).getD ((sall s).length - mb) 0

instance (s : List (Charge × List Rat)) (mb : Nat) : Decidable (NoTieAtBond s mb) := by
  unfold NoTieAtBond; infer_instance

/-- With a bond limit `mb ≥ 1` and no tie at its threshold, the total number of kept values is at
    most `mb`. -/
theorem keep_le_maxBond (fix : Bool) (s : List (Charge × List Rat)) (cutoff : Rat) (mode : Nat)
    (mb : Nat) (h0 : 0 < mb) (hnt : mb < (sall s).length → NoTieAtBond s mb) :
    sumNat (keepCountsG fix s cutoff mode (mb : Int)) ≤ mb := by
  unfold keepCountsG
  cases ht : threshold fix s cutoff mode (mb : Int) with
  | error e => simp [sumNat]
  | ok t =>
    simp only
    rw [sumNat_map_countGe_sall]
    rcases Nat.lt_or_ge mb (sall s).length with hlt | hge
    · have hk : (sall s).length - mb < (sall s).length := by omega
      have hb : (sall s)[(sall s).length - mb] ≤ t := by
        obtain ⟨tr, _, rfl⟩ := threshold_inv ht
        exact bondClamp_ge_bond (sall s) tr mb h0 hlt
      have hstep : ∀ j (hj : j < (sall s).length - mb),
          (sall s)[j]'(by omega) < (sall s)[(sall s).length - mb] := by
        intro j hj
        have hnt' := hnt hlt
        unfold NoTieAtBond at hnt'
        rw [← List.getElem_eq_getD (h := by omega) 0, ← List.getElem_eq_getD (h := hk) 0] at hnt'
        exact lt_of_le_of_lt (ascending_getElem_le (sall_sorted s) (by omega) (by omega)) hnt'
      have := countGe_getElem_eq (sall s) (sall_sorted s) _ hk hstep
      have h2 := countGe_anti hb (sall s)
      omega
    · exact le_trans (countGe_le_length t _) hge

example : NoTieAtBond [((0, 0), [3, 1]), ((1, 0), [2])] 2 := by decide +kernel

/-- **finding #14 (known, not repaired).**  Two equal one-value blocks with `max_bond = 1`: both
    are kept (the threshold is the tied value and `>=` keeps every copy of it). -/
theorem keep_le_maxBond_tie_counterexample :
    keepCountsG true [((0, 0), [1]), ((1, 0), [1])] (1 / 2) 1 1 = [1, 1] ∧
    keepCountsG false [((0, 0), [1]), ((1, 0), [1])] (1 / 2) 1 1 = [1, 1] ∧
    ¬ sumNat (keepCounts [((0, 0), [1]), ((1, 0), [1])] (1 / 2) 1 1) ≤ 1 ∧
    ¬ NoTieAtBond [((0, 0), [1]), ((1, 0), [1])] 1 := by
  refine ⟨by decide +kernel, by decide +kernel, by decide +kernel, by decide +kernel⟩

/-- No-cutoff branch (`calc_sub_max_bonds`): with `0 ≤ max_bond < total number of values` the
    proportional split hands out exactly `max_bond`. -/
theorem nocutoff_total_eq_limit (sizes : List Nat) (mb : Nat) (h : mb < sumNat sizes) :
    sumNat (calcSubMaxBonds sizes (mb : Int)) = mb := by
  rw [calcSubMaxBonds_eq sizes mb h]
  obtain ⟨a1, a2⟩ := split_facts sizes mb h
  have hperm := argsortNat_perm (baseSplit sizes mb)
  have hlen : (argsortNat (baseSplit sizes mb)).length = sizes.length := by
    rw [hperm.length_eq, List.length_range, baseSplit_length]
  rw [sumNat_foldl_bump]
  · rw [List.length_take, hlen]
    omega
  · intro i hi
    have := hperm.mem_iff.mp (List.mem_of_mem_take hi)
    exact List.mem_range.mp this

example : (4 : Nat) < sumNat [3, 2, 5] := by decide

theorem nocutoff_unlimited (sizes : List Nat) (mb : Int) (h : mb < 0 ∨ (sumNat sizes : Int) ≤ mb) :
    calcSubMaxBonds sizes mb = sizes := by
  unfold calcSubMaxBonds
  rcases h with h | h
  · simp [h]
  · by_cases h' : mb < 0
    · simp [h']
    · have : sumNat sizes ≤ mb.toNat := by omega
      simp [h', this]

/-- No sector is asked to keep more values than it has (sectors are non-empty, as every stored
    block has a positive dimension). -/
theorem nocutoff_each_le_size (sizes : List Nat) (mb : Int) (hpos : ∀ sz ∈ sizes, 1 ≤ sz) :
    List.Forall₂ (· ≤ ·) (calcSubMaxBonds sizes mb) sizes := by
  by_cases hr : mb < 0 ∨ (sumNat sizes : Int) ≤ mb
  · rw [nocutoff_unlimited sizes mb hr]
    exact List.forall₂_same.mpr (fun _ _ => le_refl _)
  · have hmb : mb = ((mb.toNat : Nat) : Int) := by omega
    have hlt : mb.toNat < sumNat sizes := by omega
    rw [hmb, calcSubMaxBonds_eq sizes mb.toNat hlt]
    set m := mb.toNat
    have hperm := argsortNat_perm (baseSplit sizes m)
    have hnd : ((argsortNat (baseSplit sizes m)).take (m - sumNat (baseSplit sizes m))).Nodup :=
      ((hperm.nodup_iff).mpr List.nodup_range).sublist (List.take_sublist _ _)
    rw [List.forall₂_iff_get]
    refine ⟨by rw [length_foldl_bump, baseSplit_length], ?_⟩
    intro i h1 h2
    have hget := getElem?_foldl_bump _ (baseSplit sizes m) hnd i
    have hbase : (baseSplit sizes m)[i]? = some (m * sizes[i] / sumNat sizes) := by
      unfold baseSplit
      rw [List.getElem?_map, List.getElem?_eq_getElem h2]
      rfl
    rw [hbase, List.getElem?_eq_getElem h1] at hget
    simp only [Option.map_some, Option.some.injEq] at hget
    simp only [List.get_eq_getElem]
    rw [hget]
    have hsz : 1 ≤ sizes[i] := hpos _ (List.getElem_mem h2)
    have hT : 0 < sumNat sizes := by omega
    have hlt' : m * sizes[i] / sumNat sizes < sizes[i] := by
      rw [Nat.div_lt_iff_lt_mul hT, Nat.mul_comm m]
      exact Nat.mul_lt_mul_of_pos_left hlt (by omega)
    split <;> omega

example : ∀ sz ∈ [3, 2, 5], 1 ≤ sz := by decide

/-- Entry-wise, in any commutative ring: splitting `s = r * r` over both
    factors (`absorb = 0`), putting `s` on the left (`-1`) or on the right (`1`) gives the same
    term `u_ik * s_k * v_kj` of the product. -/
theorem absorb_same_product {R : Type} [CommRing R] (u r s v : R) (h : r * r = s) :
    (u * r) * (r * v) = (u * s) * v ∧ (u * s) * v = u * (s * v) := by
  subst h
  constructor <;> ring

/-- the same for whole rows/columns: the `(i, j)` entry `Σ_k u_k * s_k * v_k` -/
theorem absorb_same_product_sum {R : Type} [CommRing R] (usv : List (R × R × R × R))
    (h : ∀ q ∈ usv, q.2.1 * q.2.1 = q.2.2.1) :
    (usv.map (fun q => (q.1 * q.2.1) * (q.2.1 * q.2.2.2))).sum
      = (usv.map (fun q => (q.1 * q.2.2.1) * q.2.2.2)).sum ∧
    (usv.map (fun q => (q.1 * q.2.2.1) * q.2.2.2)).sum
      = (usv.map (fun q => q.1 * (q.2.2.1 * q.2.2.2))).sum := by
  constructor
  · congr 1
    apply List.map_congr_left
    intro q hq
    exact (absorb_same_product q.1 q.2.1 q.2.2.1 q.2.2.2 (h q hq)).1
  · congr 1
    apply List.map_congr_left
    intro q _
    ring

/-- the new bond chargemap (`new_inner_chargemap`) lists exactly the sectors with a non-zero count,
    with that count -/
theorem bondChargemap_perm (s : List (Charge × List Rat)) (counts : List Nat) :
    (bondChargemap s counts).Perm (((s.map (·.1)).zip counts).filter (fun p => p.2 != 0)) :=
  isort_perm _ _

end SymmModel.C13
