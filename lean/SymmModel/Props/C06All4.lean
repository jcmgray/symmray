import SymmModel.Props.C06All3
import SymmModel.Props.C06e
