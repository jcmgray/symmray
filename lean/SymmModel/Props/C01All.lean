/-
  Property C01 — umbrella: Props/C01.lean (structural operations, contraction, decompositions,
  fuse/unfuse in insert mode, `Prog.preserves_valid`) and Props/C01b.lean (constructors, fuse in
  concat mode, einsum, reshape, solve, svd_truncated, align_axes, `Prog.preserves_valid_all`);
  Props/C01c.lean and Props/C01d.lean (how symmray's own audit `check` / `check_with` / `matches`
  relates to `validB` and to the guard of `tensordot`).
-/
import SymmModel.Props.C01
import SymmModel.Props.C01b
import SymmModel.Props.C01c
import SymmModel.Props.C01d
