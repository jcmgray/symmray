import SymmModel.Props.C07All
import SymmModel.Props.C07c
