import SymmModel.Props.C08
import SymmModel.Props.C08b
