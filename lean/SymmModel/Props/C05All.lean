/-
  Property C05 — umbrella of parts a–c: part a (`Props/C05.lean`: group plan, per-sector plan, tables, address
  map), part b (`Props/C05b.lean`: element map and round trip for arbitrary lists of groups, with their
  one-group instances `…_partial`) and part c (`Props/C05c.lean`: the fermionic fuse).
-/
import SymmModel.Props.C05
import SymmModel.Props.C05b
import SymmModel.Props.C05c
