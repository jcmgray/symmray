import SymmModel.Props.C14
import SymmModel.Props.C14b
