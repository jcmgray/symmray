/-
  Property C08, fourth part — fuse / unfuse / single-call reshape at the level of dense POSITIONS,
  and the single-operand einsum for permutation equations.
  (Parts one to three: Props/C08.lean, C08b.lean, C08c.lean; umbrella: Props/C08All3.lean.)

  Conventions as before: valid abelian arrays, every rank / symmetry / sparsity pattern, arbitrary
  scalar type `R` with `Zero`, `Neg`.

  How the statements read.  Fusing is SPARSE: the table of a fused index lists only the
  sub-sectors that occur in stored blocks (Model/Fuse.lean `calcFuseBlockInfo`), so the dense box
  of the fused array is in general smaller than the row-major reshape of the transposed dense box
  of the original; the positions that are dropped all lie in sectors the original does not store
  (they hold `0`).  The exact relation is therefore stated through ADDRESSES: a position `P` of the
  fused dense array has the address `(ns, i) = locateAll x.indices P`; on every multi-axis group
  axis the fused index's own table (`FuseP.splitAddr`, the inverse of `joinAddr`, i.e. of
  "start of the sub-sector inside the fused charge + row-major `ravel` of the sub-offsets", see
  `C05.extentStart?_spec` / `C05.splitAddr_joinAddr_inverse`) splits `(ns[ax], i[ax])` into the
  sub-charges and sub-offsets of the group; the expanded lists are `(permuted s perm,
  permuted offs perm)` for the address `(s, offs) = locateAll a.indices p` of the original
  position `p`.  This is "row-major reshape of the transposed dense form composed with the
  permutation of fused positions that the fused index's sorted table describes".
-/
import SymmModel.Proofs.Dense4b
import SymmModel.Proofs.Dense4c
import SymmModel.Props.C08All2

namespace SymmModel.C08
open SymmModel Arr Dense3 Dense4 ReshapeP FuseP

variable {R : Type}

/-- **fuse_toDense.**  `x = fuse(a, *groups)`.
    (→) every position `p` of a stored sector of `a` has an image `P` in the fused dense box whose
        address splits — by the fused indices' own tables — into the permuted address of `p`, and
        `dX[P] = dA[p]`;
    (←) every position `P` of the fused dense box either holds `0` or is such an image.
    Hence: the entries of `dX` at images are the entries of `dA`, every other entry of `dX` is `0`,
    and every entry of `dA` that has no image is `0` (it lies in a sector `a` does not store). -/
theorem fuse_toDense [Zero R] [Neg R] (a : Arr R) (groups : List (List Nat))
    (hv : a.validB = true) (hg : C05.groupsOkB groups a.ndim = true) (hnf : a.fermi = false)
    (hne : NoEmpty a) (x : Arr R) (hx : fuseCore a groups .insert = .ok x) (hnex : NoEmpty x) :
    let gi := calcFuseGroupInfo groups a.duals
    ∃ dA dX, toDenseA a = .ok dA ∧ toDenseA x = .ok dX ∧ dA.shape = a.shape
      ∧ dX.shape = x.shape
      ∧ (∀ p, inBox a.shape p = true → ∀ s offs, locateAll a.indices p = some (s, offs) →
          s ∈ a.sectors →
          ∃ P ns i, inBox x.shape P = true ∧ locateAll x.indices P = some (ns, i)
            ∧ ns ∈ x.sectors
            ∧ (∀ g gaxes, groups[g]? = some gaxes → gaxes.length ≠ 1 →
                splitAddr (x.indices.getD (gi.position + g) default) (ns.getD (gi.position + g) (0, 0))
                  (i.getD (gi.position + g) 0)
                  = some (gaxes.map (fun ax => s.getD ax (0, 0)), gaxes.map (fun ax => offs.getD ax 0)))
            ∧ (∀ g gaxes, groups[g]? = some gaxes → gaxes.length = 1 →
                [ns.getD (gi.position + g) (0, 0)] = gaxes.map (fun ax => s.getD ax (0, 0))
                ∧ [i.getD (gi.position + g) 0] = gaxes.map (fun ax => offs.getD ax 0))
            ∧ permuted s gi.perm = ns.take gi.position
                ++ (groups.map (fun gaxes => gaxes.map (fun ax => s.getD ax (0, 0)))).flatten
                ++ ns.drop (gi.position + groups.length)
            ∧ permuted offs gi.perm = i.take gi.position
                ++ (groups.map (fun gaxes => gaxes.map (fun ax => offs.getD ax 0))).flatten
                ++ i.drop (gi.position + groups.length)
            ∧ dX.get P = dA.get p)
      ∧ (∀ P, inBox x.shape P = true → ∀ ns i, locateAll x.indices P = some (ns, i) →
          dX.get P = 0 ∨
          ∃ p s offs, ∃ segs : List (Sector × List Nat), inBox a.shape p = true
            ∧ locateAll a.indices p = some (s, offs) ∧ s ∈ a.sectors ∧ ns ∈ x.sectors
            ∧ segs.length = groups.length
            ∧ (∀ g gaxes, groups[g]? = some gaxes →
                (gaxes.length = 1 →
                  segs[g]? = some ([ns.getD (gi.position + g) (0, 0)], [i.getD (gi.position + g) 0]))
                ∧ (gaxes.length ≠ 1 →
                    splitAddr (x.indices.getD (gi.position + g) default)
                      (ns.getD (gi.position + g) (0, 0)) (i.getD (gi.position + g) 0) = segs[g]?))
            ∧ permuted s gi.perm = ns.take gi.position ++ (segs.map (·.1)).flatten
                ++ ns.drop (gi.position + groups.length)
            ∧ permuted offs gi.perm = i.take gi.position ++ (segs.map (·.2)).flatten
                ++ i.drop (gi.position + groups.length)
            ∧ dX.get P = dA.get p) := by
  intro gi
  obtain ⟨dA, dX, h1, h2, s1, s2, fwd⟩ := fuse_toDense_partial a groups hv hg hnf hne x hx hnex
  refine ⟨dA, dX, h1, h2, s1, s2, fwd, fun P hP ns i hlP => ?_⟩
  obtain ⟨rfl, hva, hok, ha, hX⟩ := fuse_setup hv hg hnf hne hx hnex
  have hnl : ns.length = ndimM a groups := by
    rw [(Arr.locateAll_length hlP (by simpa [Arr.shape] using inBox_length hP)).1]
    exact newIdxM_length hok.adm
  rcases dense_relocate hX ha h2 h1
      (fun ns i s offs => FuseRelB a (fusedArrM a groups) groups s offs ns i) hP hlP
      (fuse_addr_bwd hva hok ha hX hnl)
    with h0 | ⟨p, s, offs, hp, hlp, hns, hs, ⟨segs, q1, q2, q3, q4⟩, hval⟩
  · exact Or.inl h0
  · exact Or.inr ⟨p, s, offs, segs, hp, hlp, hs, hns, q1, q2, q3, q4, hval.symm⟩

/-- the public `fuse` (no empty group) is `_fuse_core`, so `fuse_toDense` is about `fuseA` too -/
theorem fuseA_eq_fuseCore [Zero R] (a : Arr R) (groups : List (List Nat)) (expandEmpty : Bool)
    (hg : C05.groupsOkB groups a.ndim = true) :
    fuseA a groups .insert expandEmpty = fuseCore a groups .insert :=
  C05.fuseA_eq_fuseCore a groups .insert expandEmpty a.ndim hg

/-- **unfuse_toDense.**  `y = unfuse(x, axis)` for a valid abelian `x` whose index at `axis` is a
    fused index: `y`'s indices are `x`'s with that index replaced by its sub-indices;
    (→) every position `P` of a stored sector of `x`, address `(ns, i)`, has an image `q` in the
        dense box of `y` with address `(ns, i)` where position `axis` is replaced by the
        sub-charges / sub-offsets `splitAddr` reads from the fused index, and `dY[q] = dX[P]`;
    (←) every position of `y` either holds `0` or is such an image.
    (The dense box of `y` is in general LARGER than that of `x`: sub-sectors that the fused
    index's table does not list are positions of `y` holding `0`.) -/
theorem unfuse_toDense [Zero R] [Neg R] (x : Arr R) (axis : Nat) (ix : Index) (subs : List Index)
    (exts : Extents) (hv : x.validB = true) (hf : x.fermi = false)
    (hix : x.indices[axis]? = some ix) (hsub : ix.sub = some (subs, exts)) (hnex : NoEmpty x)
    (y : Arr R) (hy : unfuseA x axis = .ok y) (hney : NoEmpty y) :
    ∃ dX dY, toDenseA x = .ok dX ∧ toDenseA y = .ok dY ∧ dX.shape = x.shape
      ∧ dY.shape = y.shape ∧ y.indices = replaceWithSeq x.indices axis subs
      ∧ (∀ P, inBox x.shape P = true → ∀ ns i, locateAll x.indices P = some (ns, i) →
          ns ∈ x.sectors →
          ∃ q ss so, inBox y.shape q = true
            ∧ splitAddr ix (ns.getD axis (0, 0)) (i.getD axis 0) = some (ss, so)
            ∧ locateAll y.indices q = some (replaceWithSeq ns axis ss, replaceWithSeq i axis so)
            ∧ dY.get q = dX.get P)
      ∧ (∀ q, inBox y.shape q = true → ∀ K J, locateAll y.indices q = some (K, J) →
          dY.get q = 0 ∨
          ∃ P ns i ss so, inBox x.shape P = true ∧ locateAll x.indices P = some (ns, i)
            ∧ ns ∈ x.sectors
            ∧ splitAddr ix (ns.getD axis (0, 0)) (i.getD axis 0) = some (ss, so)
            ∧ K = replaceWithSeq ns axis ss ∧ J = replaceWithSeq i axis so
            ∧ dY.get q = dX.get P) := by
  have hva := validArr_of_validB hv
  obtain ⟨y', hy', U⟩ := unfuseU hva hix hsub
  rw [hy] at hy'; injection hy' with hy'; subst hy'
  have hX : DenseOk x := .of_validB hv hf hnex
  have hY : DenseOk y := .unfuseA hv hf hix hsub hy hney
  obtain ⟨dX, hdX, hsX, -⟩ := Arr.toDenseA_get x hnex
  obtain ⟨dY, hdY, hsY, -⟩ := Arr.toDenseA_get y hney
  refine ⟨dX, dY, hdX, hdY, hsX, hsY, U.indices, fun P hP ns i hlP hns => ?_, fun q hq K J hlq => ?_⟩
  · obtain ⟨q, _, _, hq, hlq, _, ⟨ss, so, hsp, rfl, rfl⟩, hval⟩ :=
      dense_relocate_stored hX hY hdX hdY (URel ix axis) hP hlP hns
        (unfuse_addr_fwd hva hix hsub hX hY hy)
    exact ⟨q, ss, so, hq, hsp, hlq, hval⟩
  · rcases dense_relocate hY hX hdY hdX (fun K J ns i => URel ix axis ns i K J) hq hlq
        (fun hst => Or.inr (unfuse_addr_bwd hva hix hsub hX hY (validB_nodup hv) hy hst))
      with h0 | ⟨P, ns, i, hP, hlP, _, hns, ⟨ss, so, hsp, hK, hJ⟩, hval⟩
    · exact Or.inl h0
    · exact Or.inr ⟨P, ns, i, ss, so, hP, hlP, hns, hsp, hK, hJ, hval.symm⟩

/-- a reshape whose plan is ONE fuse call (`calcReshapeArgs` returned `([], [grouping], [])`: the
    target merges runs of adjacent axes that the planner puts into one call, C07e
    `planner_forward_plan_runs`) IS that fuse: `fuse_toDense` describes its dense form -/
theorem reshape_one_fuse_call [Zero R] [Neg R] (a : Arr R) (ns full : List Int) (nsN : List Nat)
    (grouping : List (List Nat)) (hf : a.fermi = false)
    (h1 : findFullReshape ns a.size = .ok full)
    (h2 : full.mapM (fun (d : Int) => if d < 0 then (throw Err.notimpl : Except Err Nat) else pure d.toNat)
      = .ok nsN)
    (h3 : calcReshapeArgs a.shape nsN a.subsizes = .ok ([], [grouping], []))
    (hg : C05.groupsOkB grouping a.ndim = true) :
    reshapeArr a ns = fuseCore a grouping .insert := by
  rw [reshapeArr_eq a ns full nsN _ h1 h2 h3]
  simp only [applyPlan, List.foldlM_nil, List.foldlM_cons, bind, Except.bind, pure, Except.pure,
    fuseDispatch, hf, Bool.false_eq_true, if_false]
  rw [C05.fuseA_eq_fuseCore a grouping .insert true a.ndim hg]
  cases fuseCore a grouping .insert <;> rfl

/-- a reshape whose plan is ONE unfuse call IS that unfuse: `unfuse_toDense` describes it -/
theorem reshape_one_unfuse_call [Zero R] [Neg R] (a : Arr R) (ns full : List Int) (nsN : List Nat)
    (ax : Nat) (hf : a.fermi = false)
    (h1 : findFullReshape ns a.size = .ok full)
    (h2 : full.mapM (fun (d : Int) => if d < 0 then (throw Err.notimpl : Except Err Nat) else pure d.toNat)
      = .ok nsN)
    (h3 : calcReshapeArgs a.shape nsN a.subsizes = .ok ([ax], [], [])) :
    reshapeArr a ns = unfuseA a ax := by
  rw [reshapeArr_eq a ns full nsN _ h1 h2 h3]
  simp only [applyPlan, List.foldlM_nil, List.foldlM_cons, bind, Except.bind, pure, Except.pure,
    unfuseDispatch, hf, Bool.false_eq_true, if_false]
  cases unfuseA a ax <;> rfl

/-- **reshape_toDense, one fuse call**: the dense form of `reshape(a, newshape)` when the plan is a
    single fuse call — both directions of `fuse_toDense` -/
theorem reshape_toDense_one_call [Zero R] [Neg R] (a : Arr R) (ns full : List Int) (nsN : List Nat)
    (grouping : List (List Nat)) (hv : a.validB = true) (hf : a.fermi = false)
    (h1 : findFullReshape ns a.size = .ok full)
    (h2 : full.mapM (fun (d : Int) => if d < 0 then (throw Err.notimpl : Except Err Nat) else pure d.toNat)
      = .ok nsN)
    (h3 : calcReshapeArgs a.shape nsN a.subsizes = .ok ([], [grouping], []))
    (hg : C05.groupsOkB grouping a.ndim = true) (hne : NoEmpty a)
    (x : Arr R) (hx : reshapeArr a ns = .ok x) (hnex : NoEmpty x) :
    fuseCore a grouping .insert = .ok x
    ∧ ∃ dA dX, toDenseA a = .ok dA ∧ toDenseA x = .ok dX ∧ dA.shape = a.shape ∧ dX.shape = x.shape
      ∧ (∀ p, inBox a.shape p = true → ∀ s offs, locateAll a.indices p = some (s, offs) →
          s ∈ a.sectors → ∃ P, inBox x.shape P = true ∧ dX.get P = dA.get p)
      ∧ (∀ P, inBox x.shape P = true →
          dX.get P = 0 ∨ ∃ p, inBox a.shape p = true ∧ dX.get P = dA.get p) := by
  have hx' : fuseCore a grouping .insert = .ok x := by
    rw [← reshape_one_fuse_call a ns full nsN grouping hf h1 h2 h3 hg]; exact hx
  refine ⟨hx', ?_⟩
  obtain ⟨dA, dX, e1, e2, e3, e4, fwd, bwd⟩ := fuse_toDense a grouping hv hg hf hne x hx' hnex
  refine ⟨dA, dX, e1, e2, e3, e4, ?_, ?_⟩
  · intro p hp s offs hl hs
    obtain ⟨P, _, _, hP, _, _, _, _, _, _, hval⟩ := fwd p hp s offs hl hs
    exact ⟨P, hP, hval⟩
  · intro P hP
    obtain ⟨ns', i', hl⟩ := locateAll_isSome (idx := x.indices) (p := P) hP
    rcases bwd P hP ns' i' hl with h | ⟨p, _, _, _, hp, _, _, _, _, _, _, _, hval⟩
    · exact Or.inl h
    · exact Or.inr ⟨p, hp, hval⟩

/-- **einsum, permutation equations** (`"ijk->kij"`: no repeated label, every label kept): the
    dense form of `einsum` is `np.einsum` of the dense form, i.e. the transposed dense array with
    `perm[k]` = position in `lhs` of the `k`-th output label.  Lifted from `C02.einsumA_elem`. -/
theorem einsum_perm_toDense [AddMonoid R] [Neg R] (a : Arr R) (lhs rhs : List Nat)
    (hnd : lhs.Nodup) (hndr : rhs.Nodup) (h1 : ∀ q ∈ lhs, q ∈ rhs) (h2 : ∀ q ∈ rhs, q ∈ lhs)
    (hl : lhs.length = a.ndim) (hv : a.validB = true) (hf : a.fermi = false) (hne : NoEmpty a) :
    ∃ c dA dC, einsumA a lhs rhs = .ok c ∧ c.indices = permuted a.indices (einPermOf lhs rhs)
      ∧ toDenseA a = .ok dA ∧ toDenseA c = .ok dC ∧ dA.shape = a.shape
      ∧ dC.shape = permuted a.shape (einPermOf lhs rhs)
      ∧ ∀ p, inBox a.shape p = true → dC.get (permuted p (einPermOf lhs rhs)) = dA.get p := by
  open TdotP in
  · have hperm : einPerm? lhs rhs = .ok (einPermOf lhs rhs) := einPerm?_ok lhs rhs h2
    have hany : (einTracedPos lhs rhs).any (fun js => js.length != 2) = false := by
      rw [einTracedPos_nil h1]; rfl
    have hsh := Arr.validB_shapesOk hv
    have hnds := Arr.validB_nodup hv
    have hlens := Arr.validB_length hv
    have hpa : a.phases = [] := Arr.phases_nil_of_validB hv hf
    have hda : allDistinct a.sectors = true := Arr.validB_sectors hv
    have hsa : a.shapesOk := Arr.shapesOk_of_validB hv
    have hisp := einPermOf_isPerm hnd hndr h1 h2
    rw [hl] at hisp
    have hlt : ∀ q ∈ einPermOf lhs rhs, q < a.indices.length := by
      intro q hq; have := einPermOf_lt h2 q hq; rw [hl] at this; exact this
    obtain ⟨C, hc0, hCi⟩ : ∃ C : Arr R, einsumA a lhs rhs = .ok C
        ∧ C.indices = permuted a.indices (einPermOf lhs rhs) :=
      ⟨_, TdotP.einsumA_eq a lhs rhs (einPermOf lhs rhs) hperm hany, rfl⟩
    have hCne : C.indices.any (fun ix => ix.cm.isEmpty) = false := hCi ▸ noEmpty_permuted hne _
    have hCsh : C.shape = permuted a.shape (einPermOf lhs rhs) := by
      simp only [Arr.shape, hCi, permuted_map]
    obtain ⟨dA, hdA, hsA, -⟩ := Arr.toDenseA_get a hne
    obtain ⟨dC, hdC, hsC, -⟩ := Arr.toDenseA_get C hCne
    refine ⟨C, dA, dC, hc0, hCi, hdA, hdC, hsA, hsC.trans hCsh, fun p hp => ?_⟩
    have hpl : p.length = a.indices.length := by simpa [Arr.shape] using inBox_length hp
    obtain ⟨s, off, hlp⟩ := Arr.locateAll_isSome (idx := a.indices) (p := p) hp
    obtain ⟨hsl, hol⟩ := Arr.locateAll_length hlp hpl
    have hlq := Arr.locateAll_permuted hlp hpl (einPermOf lhs rhs)
    rw [Arr.toDenseA_val hdC
        (by rw [hCsh]; exact inBox_permuted hp _ (by simpa [Arr.shape] using hlt)) (hCi ▸ hlq),
      Arr.toDenseA_val hdA hp hlp]
    -- the value view from C02
    have hkeep : ∀ t : Sector, einKeep lhs rhs t = true := by
      intro t; simp [einKeep, einTracedPos_nil h1]
    have hinj : ∀ t ∈ a.sectors, permuted t (einPermOf lhs rhs) = permuted s (einPermOf lhs rhs) → t = s :=
      fun t ht h => permuted_inj hisp (hlens t ht) (by rw [hsl]; rfl) h
    obtain ⟨c, hc, _, _, hval⟩ := einsumA_elem' a lhs rhs (einPermOf lhs rhs) hperm hany hpa hda hsa
      (permuted s (einPermOf lhs rhs)) (permuted off (einPermOf lhs rhs)) (by
        intro t ht _ hpt
        have hts := hinj t ht hpt
        subst hts
        obtain ⟨b, hb⟩ := Option.isSome_iff_exists.mp (alookup_isSome_iff.mpr ht)
        have hbs := hsh.2 t b hb
        have hbox : inBox b.shape off = true := hsh.inBox hp hlp hb
        have hbl : b.shape.length = a.indices.length := Arr.blockShape?_shape_length hbs
        have hmap : rhs.map (einSize (Arr.blockShapeD a.indices t) lhs)
            = permuted b.shape (einPermOf lhs rhs) := by
          rw [FuseP.permuted_eq_map b.shape 0 _ (by rw [hbl]; exact hlt)]
          simp only [einPermOf, List.map_map]
          apply List.map_congr_left
          intro q hq
          obtain ⟨k, hk1, _⟩ := indexOf?_of_mem (h2 q hq)
          simp [einSize, Arr.blockShapeD, hbs, hk1]
        rw [hmap]
        exact inBox_permuted hbox _ (by rw [hbl]; exact hlt))
    rw [hc0] at hc; injection hc with hc; subst hc
    rw [hval]
    have hinner : ∀ t : Sector,
        ((allIdx ((einTraced lhs rhs).map (einSize (Arr.blockShapeD a.indices t) lhs))).map
          (fun u => a.elem t (einIdx lhs rhs (permuted off (einPermOf lhs rhs)) u))).sum
          = a.elem t off := by
      intro t
      rw [einTraced_nil h1]
      simp only [List.map_nil, allIdx, List.map_cons, List.sum_cons, List.sum_nil, add_zero]
      rw [einIdx_permuted hnd h1 h2 off (by rw [hol, hl]; rfl)]
    simp only [hinner]
    rw [sum_filter_unique a.sectors hnds _ s (fun t ht => by
      simp only [hkeep t, Bool.true_and, beq_iff_eq]
      exact ⟨hinj t ht, fun h => by rw [h]⟩)]
    split
    · rfl
    · rename_i hns
      rw [Arr.elem_of_phases_nil hpa, alookup_eq_none_iff.mpr hns]

/-- … and `np.einsum` on the dense array computes exactly that (`Blk.einsumK`, via
    `C02.einsumK_get`: no traced label, so the sum has the single term at the assembled index) -/
theorem einsum_perm_dense_kernel [AddMonoid R] (d : Blk R) (lhs rhs : List Nat)
    (h1 : ∀ q ∈ lhs, q ∈ rhs) (i : List Nat) (hi : inBox (d.einsumK lhs rhs).shape i = true) :
    (d.einsumK lhs rhs).get i = d.get (TdotP.einIdx lhs rhs i []) := by
  rw [C02.einsumK_get d lhs rhs i hi, einTraced_nil h1]
  simp [allIdx]

/-
  Beyond this part: `reshape` for every plan the planner returns (several fuse calls, unfuse calls
  followed by fuse calls, inserted axes) is `C08.reshape_toDense_plan` (Props/C08f.lean; plans of
  fuse calls alone: `C08.reshape_toDense_calls`, Props/C08e.lean) — the position relations of
  `fuse_toDense` / `unfuse_toDense` composed along the plan; at CONTENT level (same multiset of
  non-zero dense entries) `reshape_toDense_content` (part 3).  Single-operand `einsum` with
  traced labels (each traced label on exactly two axes with equal charge tables) at dense level is
  `C02.einsumA_toDense` (Props/C02c.lean).
-/

section Examples4
open C08.Ex

namespace Ex4
/-- `C08.Ex.x` fused into a vector (only the fused charge 0 occurs: length 1 + 4 = 5 < 9) -/
def xf : Arr Int := match fuseCore x [[0, 1]] .insert with | .ok r => r | .error _ => x
/-- `C08.Ex.y` (only the (1,1) sector stored) fused: the sub-sector (0,0) is not even in the table -/
def yf : Arr Int := match fuseCore y [[0, 1]] .insert with | .ok r => r | .error _ => y
end Ex4
open Ex4

example : fuseCore x [[0, 1]] .insert = .ok xf ∧ fuseCore y [[0, 1]] .insert = .ok yf := ⟨rfl, rfl⟩
example : dataOf (toDenseA xf) = some ([5], [5, 1, 2, 3, 4])
    ∧ dataOf (toDenseA yf) = some ([4], [10, 20, 30, 40]) := by decide +kernel
example : NoEmpty xf ∧ NoEmpty yf ∧ xf.validB = true := by decide +kernel
-- position 3 of the fused vector has address (charge 0, offset 3); the table splits it into the
-- sub-charges (1,1) and sub-offsets (1,0): position (2,1) of the matrix
example : locateAll xf.indices [3] = some ([(0, 0)], [3])
    ∧ splitAddr (xf.indices.getD 0 default) (0, 0) 3 = some ([(1, 0), (1, 0)], [1, 0])
    ∧ locateAll x.indices [2, 1] = some ([(1, 0), (1, 0)], [1, 0]) := by decide +kernel
example := fuse_toDense (R := Int) x [[0, 1]] (by decide) (by decide) rfl (by decide) xf rfl
  (by decide +kernel)
example := fuse_toDense (R := Int) y [[0, 1]] (by decide) (by decide) rfl (by decide) yf rfl
  (by decide +kernel)
-- unfusing gives the matrix back (the sub-indices keep all their charges: the unfused box is 3×3
-- for `yf` too, the positions of the unlisted sub-sector (0,0) hold 0)
example : dataOf (unfuseA xf 0 >>= toDenseA) = some ([3, 3], [5, 0, 0, 0, 1, 2, 0, 3, 4])
    ∧ dataOf (unfuseA yf 0 >>= toDenseA) = some ([3, 3], [0, 0, 0, 0, 10, 20, 0, 30, 40]) := by
  decide +kernel
example (ix : Index) (subs : List Index) (exts : Extents) (h1 : xf.indices[0]? = some ix)
    (h2 : ix.sub = some (subs, exts)) (y' : Arr Int) (hy : unfuseA xf 0 = .ok y') (hn : NoEmpty y') :=
  unfuse_toDense (R := Int) xf 0 ix subs exts (by decide +kernel) rfl h1 h2 (by decide +kernel) y' hy hn
-- einsum "ij->ji"
example : einPermOf [0, 1] [1, 0] = [1, 0] := by decide
example : dataOf (einsumA x [0, 1] [1, 0] >>= toDenseA) = some ([3, 3], [5, 0, 0, 0, 1, 3, 0, 2, 4]) := by
  decide +kernel
example := einsum_perm_toDense (R := Int) x [0, 1] [1, 0] (by decide) (by decide) (by decide)
  (by decide) rfl (by decide) rfl (by decide)
-- reshape (3,3) → (9,) is that fuse call
example : calcReshapeArgs x.shape [9] x.subsizes = .ok ([], [[[0, 1]]], []) := by decide +kernel
example : dataOf (reshapeArr x [9] >>= toDenseA) = some ([5], [5, 1, 2, 3, 4]) := by decide +kernel

end Examples4

end SymmModel.C08
