/-
  Property C12 (second part) — the spectrum of the dense form is the union of the block spectra.

  Pure linear algebra (commutative ring `R`; eigenvalue multisets over a domain) is cited from
  Mathlib: `Matrix.BlockTriangular.charpoly`, `Matrix.blockTriangular_blockDiagonal'`,
  `Matrix.charpoly_reindex`, `Matrix.charpoly_zero`, `Matrix.charpoly_monic`,
  `Polynomial.roots_prod`, `Polynomial.roots_list_prod`.
  The `eigh` clause is about Hermitian-structured matrices (valid, rank 2, charge zero, the two
  indices with opposite directions and equal charge tables), whose dense form is block diagonal
  in the common charge table.
  The singular-value clause is about ANY valid matrix (any charge, rectangular blocks): the Gram
  matrix `Dᴴ D` of the dense form is block diagonal w.r.t. the column charges, with Gram block
  `Sᴴ S` for the stored sector of a column charge and zero where none is stored.

  The matrix view of the model's dense form is `Blk.toMatrix d N N` (`d.get [i, j]`), positions
  are labelled by the charge `locate` assigns them (`Spectrum.chargeAt`), sector matrices are
  `Arr.sectorMatrix a r c m n` (`a.elem [r, c] [i, j]`, pending sign included, zero matrix for a
  missing sector).  `conj` in the Gram matrix is any map with `conj 0 = 0`.

  Outside: that the roots of the characteristic polynomial of a Hermitian matrix (resp. of
  `Dᴴ D`) are what LAPACK's `eigh` (resp. the squares of what `svd`) returns — numeric, validated
  by the harness.
-/
import SymmModel.Proofs.SpectrumMore
import SymmModel.Proofs.SpectrumBlock
import SymmModel.Props.C12

namespace SymmModel.C12
open SymmModel Spectrum LinalgLemmas Matrix Polynomial

theorem charpoly_blockDiagonal' {R : Type} [CommRing R] {o : Type} [Fintype o] [LinearOrder o]
    {n' : o → Type} [∀ i, Fintype (n' i)] [∀ i, DecidableEq (n' i)]
    (M : ∀ i, Matrix (n' i) (n' i) R) :
    (Matrix.blockDiagonal' M).charpoly = ∏ k, (M k).charpoly := by
  rw [(blockTriangular_blockDiagonal' M).charpoly]
  have hblk : ∀ k, ((blockDiagonal' M).toSquareBlock Sigma.fst k).charpoly = (M k).charpoly := by
    intro k
    rw [← toSquareBlock_blockDiagonal' M k, Matrix.charpoly_reindex]
  simp only [hblk]
  -- a label that does not occur has an empty fibre, whose block has characteristic polynomial 1
  apply Finset.prod_subset (Finset.subset_univ _)
  intro k _ hk
  have : IsEmpty (n' k) :=
    ⟨fun x => hk (Finset.mem_image.mpr ⟨⟨k, x⟩, Finset.mem_univ _, rfl⟩)⟩
  exact charpoly_isEmpty

theorem charpoly_reindex {R : Type} [CommRing R] {n m : Type} [Fintype n] [DecidableEq n]
    [Fintype m] [DecidableEq m] (e : n ≃ m) (M : Matrix n n R) :
    (Matrix.reindex e e M).charpoly = M.charpoly :=
  Matrix.charpoly_reindex e M

theorem eigenvalues_blockDiagonal' {R : Type} [CommRing R] [IsDomain R] {o : Type} [Fintype o]
    [LinearOrder o] {n' : o → Type} [∀ i, Fintype (n' i)] [∀ i, DecidableEq (n' i)]
    (M : ∀ i, Matrix (n' i) (n' i) R) :
    (Matrix.blockDiagonal' M).charpoly.roots
      = (Finset.univ : Finset o).val.bind (fun k => (M k).charpoly.roots) := by
  rw [charpoly_blockDiagonal']
  apply roots_prod
  rw [Finset.prod_ne_zero_iff]
  exact fun k _ => (charpoly_monic (M k)).ne_zero

theorem charpoly_of_blockDiag {R : Type} [CommRing R] {n α : Type} [Fintype n] [DecidableEq n]
    [LinearOrder α] (M : Matrix n n R) (b : n → α) (h : ∀ i j, b i ≠ b j → M i j = 0) :
    M.charpoly = ∏ a ∈ Finset.image b Finset.univ, (M.toSquareBlock b a).charpoly :=
  Spectrum.charpoly_of_blockDiag M b h

variable {R : Type} [CommRing R]

/-- C12, `eigh` clause (Hermitian-structured matrices): every entry of the dense form is the
    element at the address its row and column are located at in the common charge table, and it
    vanishes unless row and column lie in the same charge. -/
theorem toDense_block_entries (a : Arr R) (hv : a.validB = true) (h2 : a.ndim = 2)
    (hch : a.charge = a.sym.zero)
    (hopp : (a.indices.getD 1 default).dual = !(a.indices.getD 0 default).dual)
    (hcm : (a.indices.getD 0 default).cm = (a.indices.getD 1 default).cm)
    (i0 i1 : Index) (hi : a.indices = [i0, i1]) (d : Blk R) (hd : a.toDenseA = .ok d)
    (p q : Nat) (hp : p < total (Index.sortCm i0.cm)) (hq : q < total (Index.sortCm i0.cm)) :
    d.get [p, q]
      = a.elem [ofLex (chargeAt (Index.sortCm i0.cm) p), ofLex (chargeAt (Index.sortCm i0.cm) q)]
          [offsetAt (Index.sortCm i0.cm) p, offsetAt (Index.sortCm i0.cm) q]
    ∧ (chargeAt (Index.sortCm i0.cm) p ≠ chargeAt (Index.sortCm i0.cm) q → d.get [p, q] = 0) :=
  ⟨herm_entry ⟨hv, h2, hch, hopp, hcm⟩ hi hd hp hq,
   herm_blockDiag ⟨hv, h2, hch, hopp, hcm⟩ hi hd hp hq⟩

/-- Renaming positions as (piece of the charge table, offset) —
    `Spectrum.blockEquiv`, the pieces being contiguous and in the same order on both axes — the
    dense form IS `Matrix.blockDiagonal'` of the sector matrices `(c, c)`. -/
theorem toDense_eq_blockDiagonal (a : Arr R) (hv : a.validB = true) (h2 : a.ndim = 2)
    (hch : a.charge = a.sym.zero)
    (hopp : (a.indices.getD 1 default).dual = !(a.indices.getD 0 default).dual)
    (hcm : (a.indices.getD 0 default).cm = (a.indices.getD 1 default).cm)
    (i0 i1 : Index) (hi : a.indices = [i0, i1]) (d : Blk R) (hd : a.toDenseA = .ok d) :
    Matrix.reindex (blockEquiv (Index.sortCm i0.cm)) (blockEquiv (Index.sortCm i0.cm))
      (d.toMatrix (total (Index.sortCm i0.cm)) (total (Index.sortCm i0.cm)))
      = Matrix.blockDiagonal' (fun k : Fin (Index.sortCm i0.cm).length =>
          a.sectorMatrix (Index.sortCm i0.cm)[k.1].1 (Index.sortCm i0.cm)[k.1].1
            (Index.sortCm i0.cm)[k.1].2 (Index.sortCm i0.cm)[k.1].2) := by
  have H : EighInput a := ⟨hv, h2, hch, hopp, hcm⟩
  ext ⟨k, o⟩ ⟨k', o'⟩
  have hp := startOf_add_lt _ k.1 k.2 o.1 o.2
  have hq := startOf_add_lt _ k'.1 k'.2 o'.1 o'.2
  have hent : Matrix.reindex (blockEquiv (Index.sortCm i0.cm)) (blockEquiv (Index.sortCm i0.cm))
      (d.toMatrix (total (Index.sortCm i0.cm)) (total (Index.sortCm i0.cm))) ⟨k, o⟩ ⟨k', o'⟩
      = d.get [Spectrum.startOf (Index.sortCm i0.cm) k.1 + o.1,
          Spectrum.startOf (Index.sortCm i0.cm) k'.1 + o'.1] := by
    simp only [reindex_apply, submatrix_apply, Blk.toMatrix, blockEquiv_symm_val]
  rw [hent]
  by_cases hkk : k = k'
  · subst hkk
    rw [blockDiagonal'_apply_eq, herm_entry H hi hd hp hq, chargeAt_startOf _ k.1 k.2 o.1 o.2,
      chargeAt_startOf _ k.1 k.2 o'.1 o'.2, offsetAt_startOf _ k.1 k.2 o.1 o.2,
      offsetAt_startOf _ k.1 k.2 o'.1 o'.2]
    rfl
  · rw [blockDiagonal'_apply_ne _ _ _ hkk]
    apply herm_blockDiag H hi hd hp hq
    rw [chargeAt_startOf _ k.1 k.2 o.1 o.2, chargeAt_startOf _ k'.1 k'.2 o'.1 o'.2]
    -- distinct pieces of the table carry distinct charges
    intro e
    have hnd := (sortCm_table (indices_wf hv hi).1).1
    have e' : ((Index.sortCm i0.cm).map (·.1))[k.1]'(by simp)
        = ((Index.sortCm i0.cm).map (·.1))[k'.1]'(by simp) := by
      simpa using toLex.injective e
    exact hkk (Fin.ext ((hnd.getElem_inj_iff).mp e'))

/-- C12, `eigh` clause: `charpoly (dense a) = ∏_c charpoly (sector matrix (c, c))`, the product
    over the charge table of the (common) index. -/
theorem eigh_charpoly (a : Arr R) (hv : a.validB = true) (h2 : a.ndim = 2)
    (hch : a.charge = a.sym.zero)
    (hopp : (a.indices.getD 1 default).dual = !(a.indices.getD 0 default).dual)
    (hcm : (a.indices.getD 0 default).cm = (a.indices.getD 1 default).cm)
    (i0 i1 : Index) (hi : a.indices = [i0, i1]) (d : Blk R) (hd : a.toDenseA = .ok d) :
    (d.toMatrix (total (Index.sortCm i0.cm)) (total (Index.sortCm i0.cm))).charpoly
      = ((Index.sortCm i0.cm).map (fun cd => (a.sectorMatrix cd.1 cd.1 cd.2 cd.2).charpoly)).prod := by
  have H : EighInput a := ⟨hv, h2, hch, hopp, hcm⟩
  obtain ⟨hnd, hpos⟩ := sortCm_table (indices_wf hv hi).1
  apply charpoly_of_table _ hnd hpos _ (fun c n => a.sectorMatrix c c n n)
  · exact fun p q hne => herm_blockDiag H hi hd p.2 q.2 hne
  · intro c n hm P P'
    show d.get [P.1.1, P'.1.1] = _
    rw [herm_entry H hi hd P.1.2 P'.1.2, P.2, P'.2]
    rfl

/-- the same as a product over `Fin`, through `toDense_eq_blockDiagonal` -/
theorem eigh_charpoly_fin (a : Arr R) (hv : a.validB = true) (h2 : a.ndim = 2)
    (hch : a.charge = a.sym.zero)
    (hopp : (a.indices.getD 1 default).dual = !(a.indices.getD 0 default).dual)
    (hcm : (a.indices.getD 0 default).cm = (a.indices.getD 1 default).cm)
    (i0 i1 : Index) (hi : a.indices = [i0, i1]) (d : Blk R) (hd : a.toDenseA = .ok d) :
    (d.toMatrix (total (Index.sortCm i0.cm)) (total (Index.sortCm i0.cm))).charpoly
      = ∏ k : Fin (Index.sortCm i0.cm).length,
          (a.sectorMatrix (Index.sortCm i0.cm)[k.1].1 (Index.sortCm i0.cm)[k.1].1
            (Index.sortCm i0.cm)[k.1].2 (Index.sortCm i0.cm)[k.1].2).charpoly := by
  rw [← charpoly_reindex (blockEquiv (Index.sortCm i0.cm)),
    toDense_eq_blockDiagonal a hv h2 hch hopp hcm i0 i1 hi d hd, charpoly_blockDiagonal']

/-- C12, `eigh` clause, over a domain: the eigenvalues of the dense form (roots of its
    characteristic polynomial, with multiplicity) are, as a multiset, the union over the charge
    table of the eigenvalues of the sector matrices. -/
theorem eigh_eigenvalues [IsDomain R] (a : Arr R) (hv : a.validB = true) (h2 : a.ndim = 2)
    (hch : a.charge = a.sym.zero)
    (hopp : (a.indices.getD 1 default).dual = !(a.indices.getD 0 default).dual)
    (hcm : (a.indices.getD 0 default).cm = (a.indices.getD 1 default).cm)
    (i0 i1 : Index) (hi : a.indices = [i0, i1]) (d : Blk R) (hd : a.toDenseA = .ok d) :
    (d.toMatrix (total (Index.sortCm i0.cm)) (total (Index.sortCm i0.cm))).charpoly.roots
      = (((Index.sortCm i0.cm).map
          (fun cd => (a.sectorMatrix cd.1 cd.1 cd.2 cd.2).charpoly) : List R[X]) : Multiset R[X]).bind
          Polynomial.roots := by
  rw [eigh_charpoly a hv h2 hch hopp hcm i0 i1 hi d hd]
  apply roots_list_prod_charpoly
  intro p hp
  obtain ⟨cd, _, rfl⟩ := List.mem_map.mp hp
  exact charpoly_monic _

/-- a charge whose sector is not stored contributes the zero block: `X ^ n`, i.e. the eigenvalue
    0 with multiplicity `n` ("on the stored sectors" in the property's text) -/
theorem sector_missing (a : Arr R) (c : Charge) (n : Nat) (h : [c, c] ∉ a.sectors) :
    a.sectorMatrix c c n n = 0 ∧ (a.sectorMatrix c c n n).charpoly = X ^ n := by
  have h0 : a.sectorMatrix c c n n = 0 := by
    ext i j
    by_contra hne
    exact h (elem_ne_zero_mem hne)
  exact ⟨h0, by rw [h0, Matrix.charpoly_zero, Fintype.card_fin]⟩

theorem sector_stored (a : Arr R) (hph : a.phases = []) (hnd : a.sectors.Nodup) (r c : Charge)
    (b : Blk R) (hm : ([r, c], b) ∈ a.blocks) (m n : Nat) :
    a.sectorMatrix r c m n = b.toMatrix m n := by
  ext i j
  simp only [Arr.sectorMatrix, Blk.toMatrix, Arr.elem_of_mem hnd hm, hph, alookup]
  rfl

/-- C12, singular-value clause (any valid matrix): entry `(j, j')` of `Dᴴ D` vanishes when the
    columns `j`, `j'` lie in different column charges (each row charge pairs with one column
    charge — `matrix_sector_injective`). -/
theorem gram_blockDiagonal (conj : R → R) (hc0 : conj 0 = 0) (a : Arr R) (hv : a.validB = true)
    (h2 : a.ndim = 2) (i0 i1 : Index) (hi : a.indices = [i0, i1]) (d : Blk R)
    (hd : a.toDenseA = .ok d) (j j' : Fin (total (Index.sortCm i1.cm)))
    (hne : chargeAt (Index.sortCm i1.cm) j.1 ≠ chargeAt (Index.sortCm i1.cm) j'.1) :
    gram conj (d.toMatrix (total (Index.sortCm i0.cm)) (total (Index.sortCm i1.cm))) j j' = 0 := by
  unfold gram
  apply Finset.sum_eq_zero
  intro i _
  rcases row_disjoint hv h2 hi hd i j j' hne with h | h
  · simp only [Blk.toMatrix, h, hc0, zero_mul]
  · simp only [Blk.toMatrix, h, mul_zero]

theorem gram_charpoly (conj : R → R) (hc0 : conj 0 = 0) (a : Arr R) (hv : a.validB = true)
    (h2 : a.ndim = 2) (i0 i1 : Index) (hi : a.indices = [i0, i1]) (d : Blk R)
    (hd : a.toDenseA = .ok d) :
    (gram conj (d.toMatrix (total (Index.sortCm i0.cm)) (total (Index.sortCm i1.cm)))).charpoly
      = ((Index.sortCm i1.cm).map
          (fun cd => (a.colGram conj (Index.sortCm i0.cm) cd.1 cd.2).charpoly)).prod := by
  obtain ⟨hnd, hpos⟩ := sortCm_table (indices_wf hv hi).2
  exact charpoly_of_table _ hnd hpos _ (fun c n => a.colGram conj (Index.sortCm i0.cm) c n)
    (gram_blockDiagonal conj hc0 a hv h2 i0 i1 hi d hd)
    (fun c n hm P P' => gram_block_entry conj hi hd hnd c n hm P P')

/-- the Gram block of a column charge `c` whose sector `[r, c]` is stored is `Sᴴ S`, `S` the
    `m × n` sector matrix of `[r, c]` -/
theorem gram_block_stored (conj : R → R) (a : Arr R) (hv : a.validB = true) (h2 : a.ndim = 2)
    (i0 i1 : Index) (hi : a.indices = [i0, i1]) (r c : Charge) (hs : [r, c] ∈ a.sectors)
    (m : Nat) (hr : (r, m) ∈ Index.sortCm i0.cm) (n : Nat) :
    a.colGram conj (Index.sortCm i0.cm) c n
      = fun o o' => ∑ u : Fin m, conj (a.sectorMatrix r c m n u o) * a.sectorMatrix r c m n u o' := by
  have hnd0 := (sortCm_table (indices_wf hv hi).1).1
  ext o o'
  unfold Arr.colGram
  -- of the row charges only `r` pairs with the column charge `c`
  rw [sum_map_single (Index.sortCm i0.cm) _ (r, m) hr (hnd0.of_map _)]
  · simp only [Arr.sectorMatrix]
    exact (Fin.sum_univ_eq_sum_range
      (fun u => conj (a.elem [r, c] [u, o.1]) * a.elem [r, c] [u, o'.1]) m).symm
  · intro y hy hne
    have hry : y.1 ≠ r := fun e => hne (List.inj_on_of_nodup_map hnd0 hy hr e)
    apply Finset.sum_eq_zero
    intro u _
    have : a.elem [y.1, c] [u, o'.1] = 0 := by
      by_contra hnz
      have := (sector_inj hv h2 (elem_ne_zero_mem hnz) hs).2 rfl
      exact hry (List.cons.inj this).1
    rw [this, mul_zero]

/-- … and zero (singular value 0 with the multiplicity of the charge) when no stored sector has
    that column charge -/
theorem gram_block_missing (conj : R → R) (a : Arr R) (rows : List (Charge × Nat)) (c : Charge)
    (n : Nat) (h : ∀ r, [r, c] ∉ a.sectors) :
    a.colGram conj rows c n = 0 ∧ (a.colGram conj rows c n).charpoly = X ^ n := by
  have h0 : a.colGram conj rows c n = 0 := by
    ext o o'
    unfold Arr.colGram
    apply List.sum_eq_zero
    intro v hv
    obtain ⟨y, _, rfl⟩ := List.mem_map.mp hv
    apply Finset.sum_eq_zero
    intro u _
    have : a.elem [y.1, c] [u, o'.1] = 0 := by
      by_contra hnz
      exact h y.1 (elem_ne_zero_mem hnz)
    rw [this, mul_zero]
  exact ⟨h0, by rw [h0, Matrix.charpoly_zero, Fintype.card_fin]⟩

/-- C12, singular-value clause, over a domain: the eigenvalues of `Dᴴ D` (the squared singular
    values of the dense form), as a multiset, are the union over the column charge table of the
    eigenvalues of the per-charge Gram blocks. -/
theorem squared_singular_values [IsDomain R] (conj : R → R) (hc0 : conj 0 = 0) (a : Arr R)
    (hv : a.validB = true) (h2 : a.ndim = 2) (i0 i1 : Index) (hi : a.indices = [i0, i1])
    (d : Blk R) (hd : a.toDenseA = .ok d) :
    (gram conj (d.toMatrix (total (Index.sortCm i0.cm)) (total (Index.sortCm i1.cm)))).charpoly.roots
      = (((Index.sortCm i1.cm).map
          (fun cd => (a.colGram conj (Index.sortCm i0.cm) cd.1 cd.2).charpoly) : List R[X])
            : Multiset R[X]).bind Polynomial.roots := by
  rw [gram_charpoly conj hc0 a hv h2 i0 i1 hi d hd]
  apply roots_list_prod_charpoly
  intro p hp
  obtain ⟨cd, _, rfl⟩ := List.mem_map.mp hp
  exact charpoly_monic _

/-- Hermitian-structured U1 matrix: charge 0, row index outgoing, column index incoming, equal
    tables `{0 ↦ 2, 1 ↦ 1}`; the sector `(0, 0)` is stored, the sector `(1, 1)` is missing -/
def exH : Arr Int :=
  { sym := .U1, fermi := false, charge := (0, 0),
    indices := [Index.mk [((0, 0), 2), ((1, 0), 1)] false none,
                Index.mk [((0, 0), 2), ((1, 0), 1)] true none],
    blocks := [([(0, 0), (0, 0)], ⟨[2, 2], #[2, 1, 1, 2]⟩)] }

/-- the hypotheses of `eigh_charpoly` hold for `exH`, its dense form exists, is `3 × 3` and block
    diagonal with the stored block and a zero block -/
example : exH.validB = true ∧ exH.ndim = 2 ∧ exH.charge = exH.sym.zero
    ∧ (exH.indices.getD 1 default).dual = !(exH.indices.getD 0 default).dual
    ∧ (exH.indices.getD 0 default).cm = (exH.indices.getD 1 default).cm
    ∧ exH.indices = [Index.mk [((0, 0), 2), ((1, 0), 1)] false none,
                     Index.mk [((0, 0), 2), ((1, 0), 1)] true none]
    ∧ total (Index.sortCm [((0, 0), 2), ((1, 0), 1)]) = 3
    ∧ [(1, 0), (1, 0)] ∉ exH.sectors
    ∧ (exH.toDenseA.toOption.map (fun d => (d.shape, d.data.toList))
        == some ([3, 3], [2, 1, 0, 1, 2, 0, 0, 0, 0])) = true := by
  refine ⟨by decide, rfl, by decide, by decide, by decide, rfl, by decide, by decide,
    by decide +kernel⟩

/-- `Int` is a domain, so `eigh_eigenvalues` and `squared_singular_values` apply to it -/
example : IsDomain Int := inferInstance

/-- a charged rectangular matrix (charge 1, blocks `2 × 1` and `1 × 3`): dense form `3 × 4`
    `[[1,0,0,0],[2,0,0,0],[0,3,4,5]]` -/
def exR : Arr Int :=
  { sym := .U1, fermi := false, charge := (1, 0),
    indices := [Index.mk [((0, 0), 2), ((1, 0), 1)] false none,
                Index.mk [((-1, 0), 1), ((0, 0), 3)] true none],
    blocks := [([(0, 0), (-1, 0)], ⟨[2, 1], #[1, 2]⟩), ([(1, 0), (0, 0)], ⟨[1, 3], #[3, 4, 5]⟩)] }

example : exR.validB = true ∧ exR.ndim = 2
    ∧ total (Index.sortCm [((0, 0), 2), ((1, 0), 1)]) = 3
    ∧ total (Index.sortCm [((-1, 0), 1), ((0, 0), 3)]) = 4
    ∧ (exR.toDenseA.toOption.map (fun d => (d.shape, d.data.toList))
        == some ([3, 4], [1, 0, 0, 0, 2, 0, 0, 0, 0, 3, 4, 5])) = true := by
  refine ⟨by decide, rfl, by decide, by decide, by decide +kernel⟩

/-- its Gram matrix `Dᵀ D`: the `1 × 1` block `[5]` of column charge `-1` and the `3 × 3` block
    `[3,4,5]ᵀ [3,4,5]` of column charge `0`, zeros in between -/
example : ∀ d : Blk Int, exR.toDenseA = .ok d →
    (List.ofFn (fun j : Fin 4 => List.ofFn (fun j' : Fin 4 => gram id (d.toMatrix 3 4) j j')))
      = [[5, 0, 0, 0], [0, 9, 12, 15], [0, 12, 16, 20], [0, 15, 20, 25]] := by
  intro d hd
  have : d = Blk.ofFn [3, 4] (fun p =>
      match Arr.locateAll exR.indices p with
      | some (sec, off) => if false then ({ exR with phases := [] } : Arr Int).elem sec off
                           else exR.elem sec off
      | none => 0) := by
    have h := hd
    unfold Arr.toDenseA at h
    simp only [show (exR.indices.any fun ix => ix.cm.isEmpty) = false by decide,
      Bool.false_eq_true, if_false] at h
    exact (Except.ok.inj h).symm
  subst this
  simp only [gram, Fin.sum_univ_three]
  decide +kernel

end SymmModel.C12
