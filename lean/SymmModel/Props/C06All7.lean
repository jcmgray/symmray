import SymmModel.Props.C06All6
import SymmModel.Props.C06h
