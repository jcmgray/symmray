/-
  SymmModel.Gen.TieSym — the translation tie for property C17.

  `SymmModel.Gen.Z2.valid … U1U1.parity`, `sign_scalar`, `sign_tuple` (Gen/Src.lean) are REGENERATED from
  symmray/symmetries.py by harness/translate.py on every run.  This file (hand-written, fixed) proves

   1. `…_eq` : each generated definition equals the model function (`Sym.valid/combine/sign/parity`,
      Model/Sym.lean) for ALL inputs — scalar symmetries through the embedding `c ↦ (c, 0)`, the
      parity through `p ↦ (p == 1)`.  Only `Z2Z2.combine` / `Z2Z2.parity` need the hypothesis that
      the charges are valid (Python `^` on ints outside {0,1} is not addition mod 2:
      `Z2Z2_parity_eq_needs_valid`).
   2. `Tied g s emb` : the four equalities packaged, one instance per symmetry (`tied_Z2` …).
   3. `Laws g` : the C17 group laws (identity, closure, n-ary associativity and commutativity, inverse,
      involution, parity homomorphism) stated ONLY about the generated functions, and
      `laws_of_tied`, which transfers them from the model theorems `SymmModel.C17.*`;
      `Z2_laws … U1U1_laws` are the five instances.

  Not imported by SymmModel.lean: a change of symmray's source that breaks this file must not break
  the main build.  Build with `lake build SymmModel.Gen.Tie`.
-/
import SymmModel.Gen.PyLemmas
import SymmModel.Props.C17

namespace SymmModel.Gen
open SymmModel SymmModel.Sym

/-- scalar charges `c` are the model charges `(c, 0)` -/
def emb1 (c : Int) : Charge := (c, 0)
/-- pair charges are the model charges -/
def emb2 (c : Int × Int) : Charge := c

theorem emb1_inj (a b : Int) (h : emb1 a = emb1 b) : a = b := by
  simpa [emb1] using h

theorem emb2_inj (a b : Int × Int) (h : emb2 a = emb2 b) : a = b := h

/-! ### built-ins -/

theorem pySum_eq_sum1 (cs : List Int) : pySum cs = Sym.sum1 (cs.map emb1) := by
  simp [pySum, Sym.sum1, emb1, List.foldl_map]

theorem pyXor_bit (a b : Int) (ha : a = 0 ∨ a = 1) (hb : b = 0 ∨ b = 1) :
    pyXor a b = (a + b) % 2 := by
  rcases ha with rfl | rfl <;> rcases hb with rfl | rfl <;> decide

theorem foldl_pair {α β γ : Type} (f : α → γ → α) (g : β → γ → β) (l : List γ) (a : α) (b : β) :
    l.foldl (fun (st : α × β) it => (f st.1 it, g st.2 it)) (a, b) = (l.foldl f a, l.foldl g b) := by
  induction l generalizing a b with
  | nil => rfl
  | cons x xs ih => simp only [List.foldl_cons, ih]

/-- a loop of `^=` over bits `p c` is the sum mod 2 -/
theorem foldl_xor {α : Type} (p : α → Int) (cs : List α) (a : Int) (ha : a = 0 ∨ a = 1)
    (h : ∀ c ∈ cs, p c = 0 ∨ p c = 1) :
    cs.foldl (fun acc c => pyXor acc (p c)) a = (a + pySum (cs.map p)) % 2 := by
  induction cs generalizing a with
  | nil => rcases ha with rfl | rfl <;> rfl
  | cons c cs ih =>
    have hc := h c (List.mem_cons_self ..)
    rw [List.foldl_cons, pyXor_bit a (p c) ha hc, ih _ (by omega) (fun x hx => h x (List.mem_cons_of_mem _ hx)),
      List.map_cons, pySum_cons]
    omega

/-! ## 1. generated definition = model function -/

/-- `rfl` when the generated text is the model's expression; otherwise unfold and decide the linear
    integer arithmetic (so that e.g. `-charge % 4` for `(4 - charge) % 4` keeps the tie) -/
syntax "tie_arith" "[" Lean.Parser.Tactic.simpLemma,* "]" : tactic
macro_rules
  | `(tactic| tie_arith [$ls,*]) =>
    `(tactic| first
      | rfl
      | (simp only [$ls,*, emb1, emb2, Sym.sign, Sym.parity, Prod.mk.injEq, and_true, true_and, if_true, if_false,
          Bool.false_eq_true, beq_iff_eq, ite_true, ite_false, beq_eq_beq] <;> omega))

theorem sign_scalar_eq (c : Int) (d : Bool) : sign_scalar c d = if d then -c else c := by
  cases d <;> rfl

theorem sign_tuple_eq (c : Int × Int) (d : Bool) :
    sign_tuple c d = if d then (-c.1, -c.2) else c := by
  cases d <;> rfl

/-- a call that omits `dual` negates: every default is `dual=True` (the model's `Sym.sign c true`) -/
theorem sign_defaults :
    sign_scalar.default_dual = true ∧ sign_tuple.default_dual = true ∧ Z2.sign.default_dual = true
      ∧ Z4.sign.default_dual = true ∧ U1.sign.default_dual = true ∧ Z2Z2.sign.default_dual = true
      ∧ U1U1.sign.default_dual = true := by decide

/-! ### Z2 -/

theorem Z2_valid_eq (cs : List Int) : Z2.valid cs = cs.all (fun c => Sym.valid .Z2 (emb1 c)) := by
  unfold Z2.valid; congr 1; funext c; simp [Sym.valid, pyIn, emb1]; rfl

theorem Z2_combine_eq (cs : List Int) : emb1 (Z2.combine cs) = Sym.combine .Z2 (cs.map emb1) := by
  simp [Z2.combine, combine_Z2, pySum_eq_sum1, emb1]

theorem Z2_sign_eq (c : Int) (d : Bool) : emb1 (Z2.sign c d) = Sym.sign .Z2 (emb1 c) d := rfl

theorem Z2_parity_eq (c : Int) : (Z2.parity c == 1) = Sym.parity .Z2 (emb1 c) := rfl

/-! ### Z4 -/

theorem Z4_valid_eq (cs : List Int) : Z4.valid cs = cs.all (fun c => Sym.valid .Z4 (emb1 c)) := by
  unfold Z4.valid; congr 1; funext c; simp [Sym.valid, pyIn, emb1, Bool.or_assoc]; rfl

theorem Z4_combine_eq (cs : List Int) : emb1 (Z4.combine cs) = Sym.combine .Z4 (cs.map emb1) := by
  simp [Z4.combine, combine_Z4, pySum_eq_sum1, emb1]

theorem Z4_sign_eq (c : Int) (d : Bool) : emb1 (Z4.sign c d) = Sym.sign .Z4 (emb1 c) d := by
  cases d <;> tie_arith [Z4.sign]

theorem Z4_parity_eq (c : Int) : (Z4.parity c == 1) = Sym.parity .Z4 (emb1 c) := by
  tie_arith [Z4.parity]

/-! ### U1 -/

theorem U1_valid_eq (cs : List Int) : U1.valid cs = cs.all (fun c => Sym.valid .U1 (emb1 c)) := by
  simp [U1.valid, Sym.valid, emb1]

theorem U1_combine_eq (cs : List Int) : emb1 (U1.combine cs) = Sym.combine .U1 (cs.map emb1) := by
  simp [U1.combine, combine_U1, pySum_eq_sum1, emb1]

theorem U1_sign_eq (c : Int) (d : Bool) : emb1 (U1.sign c d) = Sym.sign .U1 (emb1 c) d := by
  cases d <;> tie_arith [U1.sign, sign_scalar]

theorem U1_parity_eq (c : Int) : (U1.parity c == 1) = Sym.parity .U1 (emb1 c) := rfl

/-! ### Z2Z2 -/

theorem Z2Z2_valid_eq (cs : List (Int × Int)) :
    Z2Z2.valid cs = cs.all (fun c => Sym.valid .Z2Z2 (emb2 c)) := by
  unfold Z2Z2.valid; congr 1; funext c; simp [Sym.valid, pyIn, emb2]; rfl

theorem Z2Z2_valid_mem {cs : List (Int × Int)} (h : Z2Z2.valid cs = true) :
    ∀ c ∈ cs, (c.1 = 0 ∨ c.1 = 1) ∧ (c.2 = 0 ∨ c.2 = 1) := by
  intro c hc
  have := (List.all_eq_true.mp h) c hc
  simpa [pyIn] using this

theorem Z2Z2_combine_unfold (cs : List (Int × Int)) :
    Z2Z2.combine cs
      = (cs.foldl (fun acc c => pyXor acc c.1) 0, cs.foldl (fun acc c => pyXor acc c.2) 0) := by
  rw [← foldl_pair]; rfl

theorem Z2Z2_combine_eq (cs : List (Int × Int)) (h : Z2Z2.valid cs = true) :
    emb2 (Z2Z2.combine cs) = Sym.combine .Z2Z2 (cs.map emb2) := by
  have hm := Z2Z2_valid_mem h
  have e : cs.map emb2 = cs := by unfold emb2; simp
  rw [e, Z2Z2_combine_unfold, combine_Z2Z2,
    foldl_xor (·.1) cs 0 (Or.inl rfl) (fun c hc => (hm c hc).1),
    foldl_xor (·.2) cs 0 (Or.inl rfl) (fun c hc => (hm c hc).2), Int.zero_add, Int.zero_add]
  rfl

theorem Z2Z2_sign_eq (c : Int × Int) (d : Bool) : emb2 (Z2Z2.sign c d) = Sym.sign .Z2Z2 (emb2 c) d :=
  rfl

theorem Z2Z2_parity_eq (c : Int × Int) (h : Z2Z2.valid [c] = true) :
    (Z2Z2.parity c == 1) = Sym.parity .Z2Z2 (emb2 c) := by
  have hm := Z2Z2_valid_mem h c (List.mem_singleton.mpr rfl)
  rw [Z2Z2.parity, pyXor_bit _ _ hm.1 hm.2]
  rfl

/-- the hypothesis is needed: `(2, 1)` has `2 ^ 1 = 3`, which is not `1`, while `(2 + 1) % 2 = 1` -/
theorem Z2Z2_parity_eq_needs_valid :
    (Z2Z2.parity (2, 1) == 1) ≠ Sym.parity .Z2Z2 (emb2 (2, 1)) := by decide

/-! ### U1U1 -/

theorem U1U1_valid_eq (cs : List (Int × Int)) :
    U1U1.valid cs = cs.all (fun c => Sym.valid .U1U1 (emb2 c)) := by
  simp [U1U1.valid, Sym.valid]

theorem U1U1_combine_unfold (cs : List (Int × Int)) : U1U1.combine cs = (sum1 cs, sum2 cs) := by
  rw [sum1, sum2, List.foldl_map, List.foldl_map, ← foldl_pair]; rfl

theorem U1U1_combine_eq (cs : List (Int × Int)) :
    emb2 (U1U1.combine cs) = Sym.combine .U1U1 (cs.map emb2) := by
  have e : cs.map emb2 = cs := by unfold emb2; simp
  rw [e, U1U1_combine_unfold, combine_U1U1]
  rfl

theorem U1U1_sign_eq (c : Int × Int) (d : Bool) : emb2 (U1U1.sign c d) = Sym.sign .U1U1 (emb2 c) d := by
  cases d <;> tie_arith [U1U1.sign, sign_tuple, sign_scalar]

theorem U1U1_parity_eq (c : Int × Int) : (U1U1.parity c == 1) = Sym.parity .U1U1 (emb2 c) := rfl

/-! ## 2. the packaged tie -/

/-- the four functions of one symmetry class, as generated -/
structure GSym (α : Type) where
  valid : List α → Bool
  combine : List α → α
  sign : α → Bool → α
  parity : α → Int

@[reducible] def gZ2 : GSym Int := ⟨Z2.valid, Z2.combine, Z2.sign, Z2.parity⟩
@[reducible] def gZ4 : GSym Int := ⟨Z4.valid, Z4.combine, Z4.sign, Z4.parity⟩
@[reducible] def gU1 : GSym Int := ⟨U1.valid, U1.combine, U1.sign, U1.parity⟩
@[reducible] def gZ2Z2 : GSym (Int × Int) := ⟨Z2Z2.valid, Z2Z2.combine, Z2Z2.sign, Z2Z2.parity⟩
@[reducible] def gU1U1 : GSym (Int × Int) := ⟨U1U1.valid, U1U1.combine, U1U1.sign, U1U1.parity⟩

/-- `g` is the model symmetry `s` seen through the injective embedding `emb` (on valid charges) -/
structure Tied {α : Type} (g : GSym α) (s : Sym) (emb : α → Charge) : Prop where
  inj : ∀ a b, emb a = emb b → a = b
  valid_eq : ∀ cs, g.valid cs = cs.all (fun c => s.valid (emb c))
  combine_eq : ∀ cs, g.valid cs = true → emb (g.combine cs) = s.combine (cs.map emb)
  sign_eq : ∀ c d, g.valid [c] = true → emb (g.sign c d) = s.sign (emb c) d
  parity_eq : ∀ c, g.valid [c] = true → (g.parity c == 1) = s.parity (emb c)
  parity_bit : ∀ c, g.valid [c] = true → g.parity c = 0 ∨ g.parity c = 1

theorem tied_Z2 : Tied gZ2 .Z2 emb1 :=
  ⟨emb1_inj, Z2_valid_eq, fun cs _ => Z2_combine_eq cs, fun c d _ => Z2_sign_eq c d,
    fun c _ => Z2_parity_eq c, fun c _ => by simp only [Z2.parity]; omega⟩

theorem tied_Z4 : Tied gZ4 .Z4 emb1 :=
  ⟨emb1_inj, Z4_valid_eq, fun cs _ => Z4_combine_eq cs, fun c d _ => Z4_sign_eq c d,
    fun c _ => Z4_parity_eq c, fun c _ => by simp only [Z4.parity]; omega⟩

theorem tied_U1 : Tied gU1 .U1 emb1 :=
  ⟨emb1_inj, U1_valid_eq, fun cs _ => U1_combine_eq cs, fun c d _ => U1_sign_eq c d,
    fun c _ => U1_parity_eq c, fun c _ => by simp only [U1.parity]; omega⟩

theorem tied_Z2Z2 : Tied gZ2Z2 .Z2Z2 emb2 :=
  ⟨emb2_inj, Z2Z2_valid_eq, Z2Z2_combine_eq, fun c d _ => Z2Z2_sign_eq c d, Z2Z2_parity_eq,
    fun c h => by
      have hm := Z2Z2_valid_mem h c (List.mem_singleton.mpr rfl)
      rw [show gZ2Z2.parity c = pyXor c.1 c.2 from rfl, pyXor_bit _ _ hm.1 hm.2]
      omega⟩

theorem tied_U1U1 : Tied gU1U1 .U1U1 emb2 :=
  ⟨emb2_inj, U1U1_valid_eq, fun cs _ => U1U1_combine_eq cs, fun c d _ => U1U1_sign_eq c d,
    fun c _ => U1U1_parity_eq c, fun c _ => by simp only [U1U1.parity]; omega⟩

/-! ## 3. the C17 laws, stated about the generated functions only -/

/-- the group-with-parity laws of C17 for the generated functions `g` -/
structure Laws {α : Type} (g : GSym α) : Prop where
  /-- `valid(*cs)` checks the charges one by one -/
  valid_nil : g.valid [] = true
  valid_append : ∀ xs ys, g.valid (xs ++ ys) = (g.valid xs && g.valid ys)
  valid_perm : ∀ xs ys, xs.Perm ys → g.valid xs = g.valid ys
  /-- identity: the empty combination is a valid charge and neutral -/
  zero_valid : g.valid [g.combine []] = true
  combine_zero_left : ∀ c, g.valid [c] = true → g.combine [g.combine [], c] = c
  combine_zero_right : ∀ c, g.valid [c] = true → g.combine [c, g.combine []] = c
  combine_singleton : ∀ c, g.valid [c] = true → g.combine [c] = c
  /-- closure -/
  combine_valid : ∀ cs, g.valid cs = true → g.valid [g.combine cs] = true
  /-- n-ary associativity -/
  combine_append : ∀ xs ys, g.valid xs = true → g.valid ys = true →
    g.combine (xs ++ ys) = g.combine [g.combine xs, g.combine ys]
  combine_assoc : ∀ a b c, g.valid [a, b, c] = true →
    g.combine [g.combine [a, b], c] = g.combine [a, g.combine [b, c]]
  /-- n-ary commutativity -/
  combine_perm : ∀ xs ys, xs.Perm ys → g.valid xs = true → g.combine xs = g.combine ys
  combine_comm : ∀ a b, g.valid [a, b] = true → g.combine [a, b] = g.combine [b, a]
  /-- inverse -/
  sign_valid : ∀ c d, g.valid [c] = true → g.valid [g.sign c d] = true
  combine_sign_cancel : ∀ c, g.valid [c] = true → g.combine [c, g.sign c true] = g.combine []
  sign_sign : ∀ c d, g.valid [c] = true → g.sign (g.sign c d) d = c
  sign_false : ∀ c, g.valid [c] = true → g.sign c false = c
  /-- parity is a homomorphism to Z2 with values 0/1 -/
  parity_bit : ∀ c, g.valid [c] = true → g.parity c = 0 ∨ g.parity c = 1
  parity_zero : g.parity (g.combine []) = 0
  parity_combine_pair : ∀ a b, g.valid [a, b] = true →
    g.parity (g.combine [a, b]) = (g.parity a + g.parity b) % 2
  parity_sign : ∀ c d, g.valid [c] = true → g.parity (g.sign c d) = g.parity c

section transfer
variable {α : Type} {g : GSym α} {s : Sym} {emb : α → Charge}

theorem Tied.valid_one (h : Tied g s emb) (c : α) : g.valid [c] = s.valid (emb c) := by
  rw [h.valid_eq]; simp

theorem Tied.valid_two (h : Tied g s emb) (a b : α) :
    g.valid [a, b] = (g.valid [a] && g.valid [b]) := by
  simp [h.valid_eq]

theorem bit_eq_of_beq_one {x y : Int} (hx : x = 0 ∨ x = 1) (hy : y = 0 ∨ y = 1) (h : (x == 1) = (y == 1)) :
    x = y := by
  rcases hx with rfl | rfl <;> rcases hy with rfl | rfl <;> first | rfl | exact absurd h (by decide)

theorem Tied.parity_int (h : Tied g s emb) (x y : α) (hx : g.valid [x] = true) (hy : g.valid [y] = true)
    (hxy : s.parity (emb x) = s.parity (emb y)) : g.parity x = g.parity y :=
  bit_eq_of_beq_one (h.parity_bit x hx) (h.parity_bit y hy) (by rw [h.parity_eq x hx, h.parity_eq y hy, hxy])

theorem laws_of_tied (h : Tied g s emb) : Laws g := by
  have v1 := h.valid_one
  have hzero : g.valid [g.combine []] = true := by
    rw [v1, h.combine_eq [] (by rw [h.valid_eq]; rfl)]
    exact (C17.combine_nil s).1 ▸ (C17.combine_nil s).2.2
  have hnil : g.valid [] = true := by rw [h.valid_eq]; rfl
  have hcv : ∀ cs, g.valid cs = true → g.valid [g.combine cs] = true := by
    intro cs hcs; rw [v1, h.combine_eq cs hcs]; exact C17.combine_valid s _
  have hvapp : ∀ xs ys, g.valid (xs ++ ys) = (g.valid xs && g.valid ys) := by
    intro xs ys; simp only [h.valid_eq, List.all_append]
  have hcons : ∀ a (l : List α), g.valid (a :: l) = true ↔ g.valid [a] = true ∧ g.valid l = true := fun a l => by
    rw [← Bool.and_eq_true, ← hvapp [a] l]; rfl
  have hsingle : ∀ c, g.valid [c] = true → g.combine [c] = c := by
    intro c hc
    apply h.inj
    rw [h.combine_eq [c] hc]
    exact C17.combine_singleton s (emb c) (by rw [← v1]; exact hc)
  have happ : ∀ xs ys, g.valid xs = true → g.valid ys = true →
      g.combine (xs ++ ys) = g.combine [g.combine xs, g.combine ys] := by
    intro xs ys hx hy
    apply h.inj
    have hv2 : g.valid [g.combine xs, g.combine ys] = true := (hcons _ _).2 ⟨hcv xs hx, hcv ys hy⟩
    rw [h.combine_eq _ (by rw [hvapp, hx, hy]; rfl), h.combine_eq _ hv2, List.map_append,
      C17.combine_append]
    simp only [List.map_cons, List.map_nil, h.combine_eq xs hx, h.combine_eq ys hy]
  have hperm : ∀ xs ys, xs.Perm ys → g.valid xs = true → g.combine xs = g.combine ys := by
    intro xs ys p hx
    have hy : g.valid ys = true := by rw [h.valid_eq] at hx ⊢; rw [← p.all_eq]; exact hx
    apply h.inj
    rw [h.combine_eq xs hx, h.combine_eq ys hy]
    exact C17.combine_perm s (p.map emb)
  have hsv : ∀ c d, g.valid [c] = true → g.valid [g.sign c d] = true := by
    intro c d hc
    rw [v1, h.sign_eq c d hc]
    exact C17.sign_valid s (emb c) d (by rw [← v1]; exact hc)
  have hzl : ∀ c, g.valid [c] = true → g.combine [g.combine [], c] = c := by
    intro c hc
    have := happ [] [c] hnil hc
    rw [List.nil_append, hsingle c hc] at this
    exact this.symm
  have hcomm : ∀ a b, g.valid [a, b] = true → g.combine [a, b] = g.combine [b, a] := fun a b hab =>
    hperm _ _ (List.Perm.swap b a []) hab
  refine
    { valid_nil := hnil, valid_append := hvapp, zero_valid := hzero, combine_singleton := hsingle,
      combine_valid := hcv, combine_append := happ, combine_perm := hperm, combine_comm := hcomm,
      sign_valid := hsv, combine_zero_left := hzl, parity_bit := h.parity_bit,
      valid_perm := ?_, combine_zero_right := ?_, combine_assoc := ?_, combine_sign_cancel := ?_,
      sign_sign := ?_, sign_false := ?_, parity_zero := ?_, parity_combine_pair := ?_,
      parity_sign := ?_ }
  · -- valid_perm
    intro xs ys p; rw [h.valid_eq, h.valid_eq, p.all_eq]
  · -- combine_zero_right
    intro c hc
    have hv : g.valid [c, g.combine []] = true := (hcons _ _).2 ⟨hc, hzero⟩
    rw [hcomm _ _ hv, hzl c hc]
  · -- combine_assoc
    intro a b c habc
    obtain ⟨ha, hbc⟩ := (hcons _ _).1 habc
    obtain ⟨hb, hc⟩ := (hcons _ _).1 hbc
    have hab : g.valid [a, b] = true := (hcons _ _).2 ⟨ha, hb⟩
    have h1 := happ [a, b] [c] hab hc
    have h2 := happ [a] [b, c] ha hbc
    rw [hsingle c hc] at h1
    rw [hsingle a ha] at h2
    exact h1.symm.trans h2
  · -- combine_sign_cancel
    intro c hc
    have hv : g.valid [c, g.sign c true] = true := (hcons _ _).2 ⟨hc, hsv c true hc⟩
    apply h.inj
    rw [h.combine_eq _ hv, h.combine_eq [] hnil]
    simp only [List.map_cons, List.map_nil, h.sign_eq c true hc]
    rw [C17.combine_sign_cancel, (C17.combine_nil s).1]
  · -- sign_sign
    intro c d hc
    apply h.inj
    rw [h.sign_eq _ d (hsv c d hc), h.sign_eq c d hc]
    exact C17.sign_sign s (emb c) d (by rw [← v1]; exact hc)
  · -- sign_false
    intro c hc
    apply h.inj
    rw [h.sign_eq c false hc, C17.sign_false]
  · -- parity_zero
    have e := h.parity_eq _ hzero
    rw [h.combine_eq [] hnil] at e
    have pz : s.parity (s.combine (List.map emb [])) = false := by
      have := C17.parity_zero s
      rwa [← (C17.combine_nil s).1] at this
    rw [pz] at e
    exact bit_eq_of_beq_one (h.parity_bit _ hzero) (Or.inl rfl) e
  · -- parity_combine_pair
    intro a b hab
    obtain ⟨ha, hb⟩ := (hcons _ _).1 hab
    have e := h.parity_eq _ (hcv _ hab)
    rw [h.combine_eq _ hab] at e
    simp only [List.map_cons, List.map_nil] at e
    rw [C17.parity_combine_pair, ← h.parity_eq a ha, ← h.parity_eq b hb] at e
    apply bit_eq_of_beq_one (h.parity_bit _ (hcv _ hab)) (by omega)
    rw [e]
    rcases h.parity_bit a ha with y | y <;> rcases h.parity_bit b hb with z | z <;> rw [y, z] <;> rfl
  · -- parity_sign
    intro c d hc
    apply h.parity_int _ _ (hsv c d hc) hc
    rw [h.sign_eq c d hc, C17.parity_sign]

end transfer

/-- the C17 laws hold of the literal translation of each of symmray's five symmetry classes -/
theorem Z2_laws : Laws gZ2 := laws_of_tied tied_Z2
theorem Z4_laws : Laws gZ4 := laws_of_tied tied_Z4
theorem U1_laws : Laws gU1 := laws_of_tied tied_U1
theorem Z2Z2_laws : Laws gZ2Z2 := laws_of_tied tied_Z2Z2
theorem U1U1_laws : Laws gU1U1 := laws_of_tied tied_U1U1

/-! ### the laws spelled out on two of the generated functions (readable instances) -/

theorem Z4_combine_append (xs ys : List Int) (hx : Z4.valid xs = true) (hy : Z4.valid ys = true) :
    Z4.combine (xs ++ ys) = Z4.combine [Z4.combine xs, Z4.combine ys] :=
  Z4_laws.combine_append xs ys hx hy

theorem Z4_combine_sign_cancel (c : Int) (h : Z4.valid [c] = true) :
    Z4.combine [c, Z4.sign c true] = Z4.combine [] :=
  Z4_laws.combine_sign_cancel c h

theorem Z2Z2_parity_combine_pair (a b : Int × Int) (h : Z2Z2.valid [a, b] = true) :
    Z2Z2.parity (Z2Z2.combine [a, b]) = (Z2Z2.parity a + Z2Z2.parity b) % 2 :=
  Z2Z2_laws.parity_combine_pair a b h

theorem U1U1_combine_perm (xs ys : List (Int × Int)) (p : xs.Perm ys) :
    U1U1.combine xs = U1U1.combine ys :=
  U1U1_laws.combine_perm xs ys p (by simp [U1U1.valid])

/-- the hypotheses are satisfiable -/
example : Z4.valid [3, 1, 2] = true ∧ Z2Z2.valid [(1, 0), (1, 1)] = true ∧ U1.valid [-7, 5] = true
    ∧ U1U1.valid [(5, -9)] = true ∧ Z2.valid [1, 0] = true := by decide

end SymmModel.Gen
