/-
  SymmModel.Gen.Prelude — the fixed meaning of the Python built-ins that the translator
  (harness/translate.py) may emit.  Hand-written, core Lean only, and TRUSTED together with the
  translator: the tie theorems are about `Gen/Src.lean`, which calls these.  Every definition here is the
  documented CPython meaning of the construct on the types the translator allows
  (`int` = unbounded `Int`, `bool` = `Bool`, tuples/lists = `List`, 2-tuples of ints = `Int × Int`,
  sets = duplicate-free lists, dicts = association lists in insertion order).

  Partiality convention (recorded by the translator as an assumption): constructs that RAISE in
  Python are total here — `seq[i]` out of range yields `default`, `x % 0` is `Int.fmod x 0 = x`,
  `x // 0` is `Int.fdiv x 0 = 0`.  The Tie theorems only use these on in-range arguments or state
  the hypothesis that excludes them.
-/
namespace SymmModel.Gen

/-- Python `a ^ b` on ints: two's-complement xor of unbounded integers.  (The code only xors
    values in {0,1}; this is nevertheless the full CPython meaning.) -/
def pyXor : Int → Int → Int
  | .ofNat a, .ofNat b => .ofNat (a ^^^ b)
  | .ofNat a, .negSucc b => .negSucc (a ^^^ b)
  | .negSucc a, .ofNat b => .negSucc (a ^^^ b)
  | .negSucc a, .negSucc b => .ofNat (a ^^^ b)

/-- `sum(xs)` for a tuple/list of ints: left fold from `0` -/
def pySum (xs : List Int) : Int := xs.foldl (· + ·) 0

/-- `x in {a, b, …}` / `x in seq` for ints -/
def pyIn (x : Int) (s : List Int) : Bool := s.contains x

/-- `range(n)` (empty for `n ≤ 0`) -/
def pyRange (n : Int) : List Int := (List.range n.toNat).map Int.ofNat

/-- `len(seq)` -/
def pyLen {α : Type} (l : List α) : Int := Int.ofNat l.length

/-- `seq[i]` with Python's negative-index wrap-around; `default` where Python raises IndexError -/
def pyGet {α : Type} [Inhabited α] (l : List α) (i : Int) : α :=
  if 0 ≤ i then l.getD i.toNat default
  else if 0 ≤ i + Int.ofNat l.length then l.getD (i + Int.ofNat l.length).toNat default
  else default

/-- `s.add(x)` on a set of ints kept as a duplicate-free list (only `in`, `not in` and `add` are
    translated for sets, so the order of the list is unobservable) -/
def pySetAdd (s : List Int) (x : Int) : List Int := if s.contains x then s else x :: s

/-- `enumerate(seq)` -/
def pyEnumerate {α : Type} (l : List α) : List (Int × α) :=
  l.zipIdx.map (fun p => (Int.ofNat p.2, p.1))

/-- insertion before the first element whose key is not smaller.  `pySortedBy` inserts `a` into the sorted
    suffix to its RIGHT, so going in front of the equal keys is what keeps the sort stable. -/
def pyInsertBy {α : Type} (key : α → Int) (a : α) : List α → List α
  | [] => [a]
  | b :: bs => if key b < key a then b :: pyInsertBy key a bs else a :: b :: bs

/-- `sorted(seq, key=key)` with integer keys: a STABLE sort (elements with equal keys keep their
    order), here as right-to-left insertion sort -/
def pySortedBy {α : Type} (key : α → Int) : List α → List α
  | [] => []
  | a :: as => pyInsertBy key a (pySortedBy key as)

/-! ### dicts, early return, slices, `min`/`max`, lexicographic sort keys -/

/-- `range(a, b)` (empty for `b ≤ a`) -/
def pyRange2 (a b : Int) : List Int := (List.range (b - a).toNat).map (fun (i : Nat) => a + Int.ofNat i)

/-- `min(xs)` of a non-empty iterable of ints; `0` where Python raises ValueError (empty) -/
def pyMin : List Int → Int
  | [] => 0
  | a :: as => as.foldl min a

/-- `max(xs)` of a non-empty iterable of ints; `0` where Python raises ValueError (empty) -/
def pyMax : List Int → Int
  | [] => 0
  | a :: as => as.foldl max a

/-- the clamping of one slice bound `i` against a length `n` (CPython `PySlice_AdjustIndices`, step 1) -/
def pyClamp (n : Nat) (i : Int) : Nat :=
  if i < 0 then (i + Int.ofNat n).toNat else min i.toNat n

/-- `l[a:b]`, `l[:b]`, `l[a:]` (no step): both bounds clamped, empty when `b ≤ a` -/
def pySlice {α : Type} (l : List α) (a b : Option Int) : List α :=
  let lo := match a with | none => 0 | some a => pyClamp l.length a
  let hi := match b with | none => l.length | some b => pyClamp l.length b
  (l.take hi).drop lo

/-- a dict is an association list with distinct keys in insertion order.  `d.get(k, None)`:
    the value of the first (only) entry with key `k` -/
def pyDictGet {κ β : Type} [BEq κ] : List (κ × β) → κ → Option β
  | [], _ => none
  | (k, v) :: rest, k0 => if k == k0 then some v else pyDictGet rest k0

/-- `d[k]`; `default` where Python raises KeyError -/
def pyDictGetItem {κ β : Type} [BEq κ] [Inhabited β] (d : List (κ × β)) (k : κ) : β :=
  (pyDictGet d k).getD default

/-- `d[k] = v`: overwrite in place (the key keeps its position) or append at the end -/
def pyDictSet {κ β : Type} [BEq κ] : List (κ × β) → κ → β → List (κ × β)
  | [], k0, v0 => [(k0, v0)]
  | (k, v) :: rest, k0, v0 => if k == k0 then (k, v0) :: rest else (k, v) :: pyDictSet rest k0 v0

/-- `d.setdefault(k, v)`: (the dict afterwards, the value returned) -/
def pyDictSetdefault {κ β : Type} [BEq κ] (d : List (κ × β)) (k : κ) (v : β) : List (κ × β) × β :=
  match pyDictGet d k with
  | some x => (d, x)
  | none => (pyDictSet d k v, v)

/-- `{k: v for …}` / `dict(pairs)`: the pairs are stored from left to right -/
def pyDictOfList {κ β : Type} [BEq κ] (ps : List (κ × β)) : List (κ × β) :=
  ps.foldl (fun d p => pyDictSet d p.1 p.2) []

/-- `for x in xs: body` where the body may `return v`: the state is threaded through the iterations until
    one returns; `.error v` is the early `return v`, `.ok st` the state when the loop ran to its end -/
def pyForReturn {α σ ρ : Type} (xs : List α) (init : σ) (body : σ → α → Except ρ σ) : Except ρ σ :=
  match xs with
  | [] => .ok init
  | x :: rest =>
    match body init x with
    | .error r => .error r
    | .ok st => pyForReturn rest st body

/-- tuple comparison `(a1, a2) < (b1, b2)` of int pairs -/
def pyLexLt (a b : Int × Int) : Bool := decide (a.1 < b.1) || (a.1 == b.1 && decide (a.2 < b.2))

/-- stable insertion for `pySortedByLex` -/
def pyInsertByLex {α : Type} (key : α → Int × Int) (a : α) : List α → List α
  | [] => [a]
  | b :: bs => if pyLexLt (key b) (key a) then b :: pyInsertByLex key a bs else a :: b :: bs

/-- `sorted(seq, key=key)` / `seq.sort(key=key)` with a pair of ints as key: STABLE, lexicographic -/
def pySortedByLex {α : Type} (key : α → Int × Int) : List α → List α
  | [] => []
  | a :: as => pyInsertByLex key a (pySortedByLex key as)

/-! ### list stores, `pop`, `[x] * n`, `itertools.product`, the declared integer square root,
    sum-typed parameters, error points, `while` with explicit fuel -/

/-- `l[i] = v` on a list (also the store of `l[i] += v`), with Python's negative-index wrap-around; the list is
    unchanged where Python raises IndexError -/
def pyListSet {α : Type} (l : List α) (i : Int) (v : α) : List α :=
  if 0 ≤ i then l.set i.toNat v
  else if 0 ≤ i + Int.ofNat l.length then l.set (i + Int.ofNat l.length).toNat v
  else l

/-- `l.pop(i)` used as a statement (the popped value is discarded), negative-index wrap-around; the list is
    unchanged where Python raises IndexError -/
def pyListPop {α : Type} (l : List α) (i : Int) : List α :=
  if 0 ≤ i then l.eraseIdx i.toNat
  else if 0 ≤ i + Int.ofNat l.length then l.eraseIdx (i + Int.ofNat l.length).toNat
  else l

/-- `[x] * n`: `n` copies of `x`, none for `n ≤ 0` -/
def pyRepeat {α : Type} (x : α) (n : Int) : List α := List.replicate n.toNat x

/-- `itertools.product(xs, repeat=2)`: all pairs, the first component varying slowest -/
def pyProduct2 {α : Type} (xs : List α) : List (α × α) := xs.flatMap (fun a => xs.map (fun b => (a, b)))

/-- `int(n ** 0.5)` for an int `n`: DECLARED to be the floor of the exact square root.  CPython computes the
    double `pow(float(n), 0.5)` and truncates; the two agree while `n < 2^52` (ASSUMPTION of the translation, recorded
    by the translator; not proved — IEEE arithmetic is outside the model).  `0` for negative `n` (Python: a
    complex number, `int(...)` raises TypeError). -/
def pyIsqrtFloat (n : Int) : Int := Int.ofNat (Nat.sqrt n.toNat)

/-- a parameter of SUM type `None | bool | str | sequence` (declared per function in translate.py, never inferred) -/
inductive PyArg (α : Type) where
  | none
  | bool (b : Bool)
  | str (s : String)
  | seq (l : List α)
  deriving Repr, Inhabited

/-- `x == "lit"`: true exactly for the str alternative with that text (a str never equals None, a bool or a list) -/
def PyArg.isStr {α : Type} (x : PyArg α) (lit : String) : Bool :=
  match x with | .str s => s == lit | _ => false

/-- `x is None` -/
def PyArg.isNone {α : Type} (x : PyArg α) : Bool := match x with | .none => true | _ => false

/-- `x is True` / `x is False` -/
def PyArg.isBool {α : Type} (x : PyArg α) (b : Bool) : Bool := match x with | .bool c => c == b | _ => false

/-- the value of the `None | bool` alternatives as an Optional bool (`none` for the other alternatives, where the
    translated code never reads it: the read is guarded by `x is None or x is False or x is True`) -/
def PyArg.scalar {α : Type} (x : PyArg α) : Option Bool := match x with | .bool b => some b | _ => Option.none

/-- the sequence alternative (`[]` for the other alternatives; a `str` that reaches `len(x)` / `return x` is outside
    the typed subset — recorded assumption: a str argument is one of the literals the function compares with) -/
def PyArg.asSeq {α : Type} (x : PyArg α) : List α := match x with | .seq l => l | _ => []

/-- error points: `raise Cls(…)` (the message is not translated), and a `while` loop that ran out of fuel -/
inductive PyExc where
  | raised (cls : String)
  | outOfFuel
  deriving Repr, DecidableEq, Inhabited

/-- `while cond: body` with explicit fuel: every evaluation of the loop test consumes one unit (also the last,
    failing one); `.error .outOfFuel` when none is left; the body may `raise` -/
def pyWhile {σ : Type} (fuel : Nat) (st : σ) (cond : σ → Bool) (body : σ → Except PyExc σ) : Except PyExc σ :=
  match fuel with
  | 0 => .error .outOfFuel
  | f + 1 =>
    if cond st then
      match body st with
      | .error e => .error e
      | .ok st' => pyWhile f st' cond body
    else .ok st

/-! ### symmray/networks.py: format templates, formatted names, the declared record of a site -/

/-- non-overlapping occurrences of `sub` in `s`, scanning from the left (fuel = length of `s`) -/
def pyCountChars (sub : List Char) : Nat → List Char → Nat
  | 0, _ => 0
  | _, [] => 0
  | fuel + 1, c :: cs =>
    if sub.isPrefixOf (c :: cs) then 1 + pyCountChars sub fuel ((c :: cs).drop sub.length)
    else pyCountChars sub fuel cs

/-- `s.count(sub)` on strings (`len(s) + 1` for the empty `sub`, as in CPython) -/
def pyStrCount (s sub : String) : Int :=
  if sub.toList.isEmpty then Int.ofNat (s.toList.length + 1)
  else Int.ofNat (pyCountChars sub.toList s.toList.length s.toList)

/-- a formatted string.  `template.format(a, b, …)` and `template.format(*a)` are DECLARED opaque constructors: the
    translation never looks inside the produced text; two names are equal iff template and arguments are
    (recorded assumption — `str.format` itself is outside the subset; for an int `a`, `format(*a)` raises TypeError) -/
inductive PyName where
  | fmt (template : String) (args : List Int)
  | fmtStar (template : String) (arg : Int)
  deriving DecidableEq, Repr, Inhabited

/-- the heterogeneous dict `{"inds": […], "duals": […], "shape": […], "coordination": n, "tags": (t,)}` of
    `parse_edges_to_site_info` as a DECLARED record (translate.py RECORDS): a key is absent (`none`) until it is
    stored; the order of the keys inside this inner dict is not represented -/
structure PySiteRec where
  inds : Option (List PyName) := none
  duals : Option (List Int) := none
  shape : Option (List Int) := none
  coordination : Option Int := none
  tags : Option (List PyName) := none
  deriving DecidableEq, Repr, Inhabited

end SymmModel.Gen
