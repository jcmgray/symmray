/-
  SymmModel.Gen.TieUtil — the translation tie for the small integer helpers
  (`linalg.argsort`, used by `calc_sub_max_bonds` of C13; `abelian_core.permuted`, `without`,
  `accum_for_split`).  The generated definitions (Gen/Src.lean, regenerated from the source on every
  run) equal the model functions `argsortNat` (Model/Trunc.lean), `permuted`, `without`, `offsets`
  (Model/Basic.lean) for ALL lists of naturals (positions / sizes are naturals in the model); only `permuted`
  needs its positions in range (Python raises IndexError there, the model drops the position).

  `accum_for_split_eq`: the generated loop returns `[(a₀, a₀+d₀), (a₀+d₀, a₀+d₀+d₁), …]` from `a₀ = 0`
  (`accFrom`), whose starts are the model's `offsets` (`accum_for_split_starts`).

  `calc_sub_max_bonds` itself is NOT translated: it computes `max_bond / sum(sizes)` and
  `int(frac * sz)` in floating point (see the report of harness/translate.py).

  Not imported by SymmModel.lean; build with `lake build SymmModel.Gen.Tie`.
-/
import SymmModel.Gen.PyLemmas
import SymmModel.Model.Trunc

namespace SymmModel.Gen
open SymmModel

/-! ### `argsort` -/

/-- `argsort(seq)` (stable, by value) as generated = the model's `argsortNat` -/
theorem argsort_eq (l : List Nat) :
    argsort (l.map Int.ofNat) = (argsortNat l).map Int.ofNat := by
  unfold argsort argsortNat
  have hl : pyLen (l.map Int.ofNat) = Int.ofNat l.length := by simp [pyLen]
  rw [hl, pyRange_ofNat, pySortedBy_eq]
  apply isort_map
  intro i j
  rw [pyGet_ofNat, pyGet_ofNat]
  show decide ((l.map Int.ofNat).getD i 0 < (l.map Int.ofNat).getD j 0) = _
  rw [getD_map_ofNat, getD_map_ofNat]
  simp

example : argsort [3, 1, 2, 1] = [1, 3, 2, 0] := by decide

/-! ### `permuted`, `without` -/

/-- `permuted(it, perm)` for in-range positions (Python raises IndexError otherwise; the model drops) -/
theorem permuted_eq {α : Type} [Inhabited α] (l : List α) (perm : List Nat)
    (h : ∀ p ∈ perm, p < l.length) :
    Gen.permuted l (perm.map Int.ofNat) = SymmModel.permuted l perm := by
  unfold Gen.permuted SymmModel.permuted
  induction perm with
  | nil => rfl
  | cons p ps ih =>
    have hp : p < l.length := h p (List.mem_cons_self ..)
    rw [List.map_cons, List.map_cons, ih (fun q hq => h q (List.mem_cons_of_mem _ hq)),
      List.filterMap_cons, pyGet_ofNat]
    simp [List.getD_eq_getElem?_getD, List.getElem?_eq_getElem hp]

example : ∀ p ∈ [3, 1, 0, 2], p < ([10, 20, 30, 40] : List Int).length := by decide

/-- `without(it, remove)` -/
theorem without_eq {α : Type} [Inhabited α] (l : List α) (remove : List Nat) :
    Gen.without l (remove.map Int.ofNat) = SymmModel.without l remove := by
  unfold Gen.without SymmModel.without pyEnumerate
  rw [List.filter_map, List.map_map]
  have e1 : ((fun (x : Int × α) => match x with | (i, el) => !(remove.map Int.ofNat).contains i)
      ∘ fun (p : α × Nat) => (Int.ofNat p.2, p.1)) = fun p => !remove.contains p.2 := by
    funext p
    simp only [Function.comp]
    rw [contains_map_ofNat]
  have e2 : ((fun (x : Int × α) => match x with | (i, el) => el)
      ∘ fun (p : α × Nat) => (Int.ofNat p.2, p.1)) = fun p => p.1 := by
    funext p; rfl
  rw [e1, e2]

/-! ### `accum_for_split` (slices as pairs `(start, stop)`) -/

theorem pyGet_neg {α : Type} [Inhabited α] (l : List α) (k : Nat) (h1 : 0 < k) (h2 : k ≤ l.length) :
    pyGet l (-(Int.ofNat k)) = l.getD (l.length - k) default := by
  unfold pyGet
  simp only [Int.ofNat_eq_natCast]
  rw [if_neg (by omega), if_pos (by omega)]
  congr 1; omega

theorem pyGet_last (xs : List Int) (a : Int) : pyGet (xs ++ [a]) (-1) = a := by
  rw [show (-1 : Int) = -(Int.ofNat 1) from rfl, pyGet_neg _ 1 (by omega) (by simp)]; simp

theorem pyGet_last2 (xs : List Int) (a b : Int) : pyGet (xs ++ [a] ++ [b]) (-2) = a := by
  rw [show (-2 : Int) = -(Int.ofNat 2) from rfl, pyGet_neg _ 2 (by omega) (by simp)]; simp

def accFrom (a : Int) : List Int → List (Int × Int)
  | [] => []
  | d :: ds => (a, a + d) :: accFrom (a + d) ds

def stepA (st : List Int × List (Int × Int)) (size : Int) : List Int × List (Int × Int) :=
  (st.1 ++ [pyGet st.1 (-1) + size],
   st.2 ++ [(pyGet (st.1 ++ [pyGet st.1 (-1) + size]) (-2), pyGet (st.1 ++ [pyGet st.1 (-1) + size]) (-1))])

theorem accum_unfold (sizes : List Int) : accum_for_split sizes = (sizes.foldl stepA ([0], [])).2 := rfl

theorem fold_stepA (l : List Int) (xs : List Int) (a : Int) (s : List (Int × Int)) :
    (l.foldl stepA (xs ++ [a], s)).2 = s ++ accFrom a l := by
  induction l generalizing xs a s with
  | nil => simp [accFrom]
  | cons d ds ih =>
    rw [List.foldl_cons]
    have hs : stepA (xs ++ [a], s) d = ((xs ++ [a]) ++ [a + d], s ++ [(a, a + d)]) := by
      unfold stepA
      simp only [pyGet_last, pyGet_last2]
    rw [hs, ih, accFrom]
    simp

theorem accum_for_split_eq (sizes : List Int) : accum_for_split sizes = accFrom 0 sizes := by
  rw [accum_unfold, show ([0] : List Int) = [] ++ [0] from rfl, fold_stepA]; simp

theorem accFrom_fst (a : Int) (l : List Nat) :
    (accFrom a (l.map Int.ofNat)).map (·.1) = (offsets l).map (fun o => Int.ofNat o + a) := by
  induction l generalizing a with
  | nil => rfl
  | cons d ds ih =>
    rw [List.map_cons, accFrom, List.map_cons, ih, offsets, List.map_cons, List.map_map]
    congr 1
    · simp
    · apply List.map_congr_left; intro o _; simp only [Function.comp, Int.ofNat_eq_natCast]; omega

theorem accum_for_split_starts (sizes : List Nat) :
    (accum_for_split (sizes.map Int.ofNat)).map (·.1) = (offsets sizes).map Int.ofNat := by
  rw [accum_for_split_eq, accFrom_fst]; simp

example : accum_for_split [2, 3, 4] = [(0, 2), (2, 5), (5, 9)] := by decide

end SymmModel.Gen
