/-
  SymmModel.Gen.TieNet — translation tie for `networks.parse_edges_to_site_info`.
  The generated function is two loops over a dict of site records.  Bond loop: the eight interleaved statements of one
  pass are regrouped per end into two `addLeg`s (`bondCore_eq`, by dict extensionality `dict_ext`), which are the model's
  `parseStep` on the cast table (`bondBody_cast`).  Site loop: every key is visited once, in dict order, and the body
  touches only the record of its own key (`physBody_eq`, `site_loop`).
  Not looked into by the translation, hence not by the tie: `str.format` (formatted names are the DECLARED opaque
  constructors `PyName`, equal iff template and arguments are) and the key order of the inner heterogeneous dict (the
  DECLARED record `PySiteRec`), both in Gen/Prelude.lean.  Site templates with more than one `{}` (the `format(*site)`
  branch, for tuple-valued sites) are translated, but the model's sites are naturals: the tie assumes at most one `{}`.
  Not imported by SymmModel.lean; build with `lake build SymmModel.Gen.Tie`.
-/
import SymmModel.Gen.TieDict
import SymmModel.Model.Ham

namespace SymmModel.Gen
open SymmModel

/-! ### dicts with integer keys: keys, lookups, extensionality -/

abbrev keysOf {β : Type} (d : List (Int × β)) : List Int := d.map (·.1)

theorem mem_keys_iff {β : Type} (d : List (Int × β)) (k : Int) : k ∈ keysOf d ↔ (pyDictGet d k).isSome = true := by
  induction d with
  | nil => simp [pyDictGet]
  | cons p r ih =>
    obtain ⟨a, b⟩ := p
    by_cases e : a = k
    · simp [pyDictGet, e]
    · simp [pyDictGet, e, Ne.symm e, ih]

theorem get_none_of_not_mem {β : Type} (d : List (Int × β)) (k : Int) (h : k ∉ keysOf d) : pyDictGet d k = none := by
  rw [mem_keys_iff] at h
  simpa using h

theorem keys_set {β : Type} (d : List (Int × β)) (k : Int) (v : β) :
    keysOf (pyDictSet d k v) = if k ∈ keysOf d then keysOf d else keysOf d ++ [k] := by
  induction d with
  | nil => simp [pyDictSet, keysOf]
  | cons p r ih =>
    obtain ⟨a, b⟩ := p
    by_cases e : a = k
    · subst e; simp [pyDictSet, keysOf]
    · have e' : (a == k) = false := beq_false_of_ne e
      simp only [pyDictSet, e', Bool.false_eq_true, if_false, keysOf, List.map_cons, List.mem_cons, Ne.symm e,
        false_or] at ih ⊢
      rw [ih]
      split <;> simp

theorem nodup_set {β : Type} (d : List (Int × β)) (k : Int) (v : β) (h : (keysOf d).Nodup) :
    (keysOf (pyDictSet d k v)).Nodup := by
  rw [keys_set]
  split
  · exact h
  · rename_i m
    rw [List.nodup_append]
    refine ⟨h, by simp, ?_⟩
    intro x hx y hy
    rw [List.mem_singleton.mp hy]
    exact fun e => m (e ▸ hx)

theorem sd_eq {β : Type} (d : List (Int × β)) (k : Int) (v : β) :
    (pyDictSetdefault d k v).1 = if k ∈ keysOf d then d else pyDictSet d k v := by
  unfold pyDictSetdefault
  by_cases m : k ∈ keysOf d
  · obtain ⟨x, hx⟩ := Option.isSome_iff_exists.mp ((mem_keys_iff d k).1 m)
    rw [if_pos m, hx]
  · rw [if_neg m, get_none_of_not_mem d k m]

theorem dict_ext {β : Type} : ∀ (d1 d2 : List (Int × β)), keysOf d1 = keysOf d2 → (keysOf d1).Nodup →
    (∀ k, pyDictGet d1 k = pyDictGet d2 k) → d1 = d2
  | [], [], _, _, _ => rfl
  | [], _ :: _, h, _, _ => by simp [keysOf] at h
  | _ :: _, [], h, _, _ => by simp [keysOf] at h
  | (a, b) :: r, (a', b') :: r', hk, hn, hg => by
    simp only [keysOf, List.map_cons, List.cons.injEq] at hk
    obtain ⟨ha, hr⟩ := hk
    subst ha
    simp only [keysOf, List.map_cons, List.nodup_cons] at hn
    have h0 := hg a
    simp only [pyDictGet, beq_self_eq_true, if_true, Option.some.injEq] at h0
    subst h0
    congr 1
    apply dict_ext r r' hr hn.2
    intro k
    by_cases e : a = k
    · subst e
      rw [get_none_of_not_mem r a hn.1, get_none_of_not_mem r' a (by rw [keysOf, ← hr]; exact hn.1)]
    · have := hg k
      simpa only [pyDictGet, beq_false_of_ne e, Bool.false_eq_true, if_false] using this

/-! ### the bond loop -/

abbrev GD := List (Int × PySiteRec)

/-- `inds`, `duals`, `shape` each get one more entry (`setdefault(key, []).append(…)`, three times) -/
def appendLeg (r : PySiteRec) (n : PyName) (d s : Int) : PySiteRec :=
  { r with inds := some (r.inds.getD [] ++ [n]), duals := some (r.duals.getD [] ++ [d]),
           shape := some (r.shape.getD [] ++ [s]) }

/-- one end of a bond: the record of site `k` (created empty when absent) gets one more leg -/
def addLeg (G : GD) (k : Int) (n : PyName) (d s : Int) : GD :=
  pyDictSet G k (appendLeg ((pyDictGet G k).getD {}) n d s)

/-- the body of the generated bond loop (`for sitea, siteb in sorted(edges): …`), verbatim -/
def bondBody (bond_dim : Int) (bond_ind_id : String) (st0 : GD) (it0 : Int × Int) : GD :=
      let sites : (List (Int × PySiteRec)) := st0
      let (sitea, siteb) : (Int × Int) := it0
      let (sitea, siteb) : (Int × Int) :=
        if (decide (sitea > siteb)) then
          (let (sitea, siteb) : (Int × Int) := (siteb, sitea)
           (sitea, siteb))
        else
          ((sitea, siteb))
      let ind : PyName := (PyName.fmt bond_ind_id [sitea, siteb])
      let sites : (List (Int × PySiteRec)) := (pyDictSetdefault sites sitea ({} : PySiteRec)).1
      let sites : (List (Int × PySiteRec)) := (pyDictSetdefault sites siteb ({} : PySiteRec)).1
      let sites : (List (Int × PySiteRec)) := pyDictSet sites sitea (let r := pyDictGetItem sites sitea; { r with inds := some ((r.inds.getD []) ++ [ind]) })
      let sites : (List (Int × PySiteRec)) := pyDictSet sites siteb (let r := pyDictGetItem sites siteb; { r with inds := some ((r.inds.getD []) ++ [ind]) })
      let sites : (List (Int × PySiteRec)) := pyDictSet sites sitea (let r := pyDictGetItem sites sitea; { r with duals := some ((r.duals.getD []) ++ [(0 : Int)]) })
      let sites : (List (Int × PySiteRec)) := pyDictSet sites siteb (let r := pyDictGetItem sites siteb; { r with duals := some ((r.duals.getD []) ++ [(1 : Int)]) })
      let sites : (List (Int × PySiteRec)) := pyDictSet sites sitea (let r := pyDictGetItem sites sitea; { r with shape := some ((r.shape.getD []) ++ [bond_dim]) })
      let sites : (List (Int × PySiteRec)) := pyDictSet sites siteb (let r := pyDictGetItem sites siteb; { r with shape := some ((r.shape.getD []) ++ [bond_dim]) })
      sites

/-- the eight statements on the two (possibly equal) ends `A`, `B` -/
def bondCore (bond_dim : Int) (ind : PyName) (G : GD) (A B : Int) : GD :=
  let s1 := (pyDictSetdefault G A ({} : PySiteRec)).1
  let s2 := (pyDictSetdefault s1 B ({} : PySiteRec)).1
  let s3 := pyDictSet s2 A (let r := pyDictGetItem s2 A; { r with inds := some ((r.inds.getD []) ++ [ind]) })
  let s4 := pyDictSet s3 B (let r := pyDictGetItem s3 B; { r with inds := some ((r.inds.getD []) ++ [ind]) })
  let s5 := pyDictSet s4 A (let r := pyDictGetItem s4 A; { r with duals := some ((r.duals.getD []) ++ [(0 : Int)]) })
  let s6 := pyDictSet s5 B (let r := pyDictGetItem s5 B; { r with duals := some ((r.duals.getD []) ++ [(1 : Int)]) })
  let s7 := pyDictSet s6 A (let r := pyDictGetItem s6 A; { r with shape := some ((r.shape.getD []) ++ [bond_dim]) })
  pyDictSet s7 B (let r := pyDictGetItem s7 B; { r with shape := some ((r.shape.getD []) ++ [bond_dim]) })

theorem bondBody_core (bd : Int) (bid : String) (G : GD) (x y : Int) :
    bondBody bd bid G (x, y)
      = bondCore bd (PyName.fmt bid [if x > y then y else x, if x > y then x else y]) G
          (if x > y then y else x) (if x > y then x else y) := by
  unfold bondBody bondCore
  by_cases h : x > y <;> simp [h]

theorem default_rec : (default : PySiteRec) = {} := rfl

/-- `d[k] = f(d[k])` -/
def upd (d : GD) (k : Int) (f : PySiteRec → PySiteRec) : GD := pyDictSet d k (f (pyDictGetItem d k))

theorem keys_upd (d : GD) (k : Int) (f : PySiteRec → PySiteRec) :
    keysOf (upd d k f) = if k ∈ keysOf d then keysOf d else keysOf d ++ [k] := keys_set _ _ _

theorem get_upd (d : GD) (k k' : Int) (f : PySiteRec → PySiteRec) :
    pyDictGet (upd d k f) k' = if k = k' then some (f ((pyDictGet d k).getD {})) else pyDictGet d k' := by
  unfold upd; rw [pyDictGet_set]; simp only [beq_iff_eq]; rfl

theorem keys_sd (d : GD) (k : Int) (v : PySiteRec) :
    keysOf (pyDictSetdefault d k v).1 = if k ∈ keysOf d then keysOf d else keysOf d ++ [k] := by
  rw [sd_eq]
  split
  · rfl
  · rw [keys_set, if_neg ‹_›]

theorem mem_keys_sd (d : GD) (k k' : Int) (v : PySiteRec) :
    k' ∈ keysOf (pyDictSetdefault d k v).1 ↔ (k' = k ∨ k' ∈ keysOf d) := by
  rw [keys_sd]
  split
  · exact ⟨Or.inr, fun h => h.elim (fun e => e ▸ ‹k ∈ keysOf d›) id⟩
  · simp [or_comm]

theorem nodup_sd (d : GD) (k : Int) (v : PySiteRec) (h : (keysOf d).Nodup) : (keysOf (pyDictSetdefault d k v).1).Nodup := by
  rw [keys_sd, ← keys_set d k v]
  exact nodup_set d k v h

theorem get_sd (d : GD) (k k' : Int) (v : PySiteRec) :
    pyDictGet (pyDictSetdefault d k v).1 k' = if k = k' ∧ k ∉ keysOf d then some v else pyDictGet d k' := by
  rw [sd_eq]
  by_cases m : k ∈ keysOf d
  · rw [if_pos m, if_neg (fun h => h.2 m)]
  · rw [if_neg m, pyDictGet_set]
    simp [m]

def fInds (ind : PyName) (r : PySiteRec) : PySiteRec := { r with inds := some ((r.inds.getD []) ++ [ind]) }
def fDuals (d : Int) (r : PySiteRec) : PySiteRec := { r with duals := some ((r.duals.getD []) ++ [d]) }
def fShape (s : Int) (r : PySiteRec) : PySiteRec := { r with shape := some ((r.shape.getD []) ++ [s]) }

/-- the six in-place statements after the two `setdefault`s, on a dict that has both keys -/
theorem chain_eq (bd : Int) (ind : PyName) (H : GD) (A B : Int) (hA : A ∈ keysOf H) (hB : B ∈ keysOf H)
    (hn : (keysOf H).Nodup) :
    upd (upd (upd (upd (upd (upd H A (fInds ind)) B (fInds ind)) A (fDuals 0)) B (fDuals 1)) A (fShape bd)) B (fShape bd)
      = upd (upd H A (fun r => appendLeg r ind 0 bd)) B (fun r => appendLeg r ind 1 bd) := by
  apply dict_ext
  · simp only [keys_upd, hA, hB, if_true]
  · simp only [keys_upd, hA, hB, if_true]; exact hn
  · -- the record found at `k` on both sides: `k` is `A`, `B`, both (a self-loop) or neither
    intro k
    simp only [get_upd]
    by_cases hAB : A = B
    · subst hAB
      by_cases hk : A = k
      · simp only [hk, if_true, Option.getD_some]; rfl
      · simp only [hk, if_false]
    · have hBA : ¬ B = A := fun e => hAB e.symm
      by_cases hk : A = k
      · subst hk
        simp only [hBA, hAB, if_true, if_false, Option.getD_some]; rfl
      · by_cases hk2 : B = k
        · subst hk2
          simp only [hBA, hAB, if_true, if_false, Option.getD_some]; rfl
        · simp only [hk, hk2, if_false]

theorem addLeg_eq (G : GD) (k : Int) (n : PyName) (d s : Int) :
    addLeg G k n d s = upd (pyDictSetdefault G k ({} : PySiteRec)).1 k (fun r => appendLeg r n d s) := by
  unfold addLeg upd pyDictGetItem
  rw [sd_eq]
  by_cases m : k ∈ keysOf G
  · rw [if_pos m]; rfl
  · rw [if_neg m, pyDictGet_set, pyDictSet_set, get_none_of_not_mem G k m]
    simp only [beq_self_eq_true, if_true]; rfl

theorem sd_upd_comm (d : GD) (A B : Int) (f : PySiteRec → PySiteRec) (hA : A ∈ keysOf d) (hn : (keysOf d).Nodup) :
    (pyDictSetdefault (upd d A f) B ({} : PySiteRec)).1 = upd (pyDictSetdefault d B ({} : PySiteRec)).1 A f := by
  have hA' : A ∈ keysOf (pyDictSetdefault d B ({} : PySiteRec)).1 := (mem_keys_sd d B A {}).2 (Or.inr hA)
  apply dict_ext
  · rw [keys_upd _ A, if_pos hA']
    simp only [keys_sd, keys_upd, hA, if_true]
  · apply nodup_sd
    simp only [keys_upd, hA, if_true]; exact hn
  · intro k
    simp only [get_sd, get_upd, keys_upd, hA, if_true]
    by_cases e1 : A = k
    · subst e1
      by_cases e2 : B = A
      · subst e2; simp [hA]
      · simp [e2]
    · simp [e1]

theorem bondCore_chain (bd : Int) (ind : PyName) (G : GD) (A B : Int) :
    bondCore bd ind G A B
      = upd (upd (upd (upd (upd (upd (pyDictSetdefault (pyDictSetdefault G A ({} : PySiteRec)).1 B ({} : PySiteRec)).1
          A (fInds ind)) B (fInds ind)) A (fDuals 0)) B (fDuals 1)) A (fShape bd)) B (fShape bd) := rfl

/-- eight interleaved statements = one leg at `A`, then one leg at `B` (also when `A = B`: a self-loop) -/
theorem bondCore_eq (bd : Int) (ind : PyName) (G : GD) (A B : Int) (hn : (keysOf G).Nodup) :
    bondCore bd ind G A B = addLeg (addLeg G A ind 0 bd) B ind 1 bd := by
  have hA1 : A ∈ keysOf (pyDictSetdefault G A ({} : PySiteRec)).1 := (mem_keys_sd G A A {}).2 (Or.inl rfl)
  have hn1 := nodup_sd G A {} hn
  have hA2 : A ∈ keysOf (pyDictSetdefault (pyDictSetdefault G A ({} : PySiteRec)).1 B ({} : PySiteRec)).1 :=
    (mem_keys_sd _ B A {}).2 (Or.inr hA1)
  have hB2 : B ∈ keysOf (pyDictSetdefault (pyDictSetdefault G A ({} : PySiteRec)).1 B ({} : PySiteRec)).1 :=
    (mem_keys_sd _ B B {}).2 (Or.inl rfl)
  have hn2 := nodup_sd _ B {} hn1
  rw [bondCore_chain, chain_eq bd ind _ A B hA2 hB2 hn2, addLeg_eq, addLeg_eq, sd_upd_comm _ A B _ hA1 hn1]

theorem nodup_addLeg (G : GD) (k : Int) (n : PyName) (d s : Int) (h : (keysOf G).Nodup) :
    (keysOf (addLeg G k n d s)).Nodup := nodup_set _ _ _ h

/-! ### the model's bond table in the vocabulary of the translation -/

def legName (bid sid : String) : IndName → PyName
  | .bond a b => .fmt bid [Int.ofNat a, Int.ofNat b]
  | .phys v => .fmt sid [Int.ofNat v]

def recOfLegs (bid sid : String) (legs : List Leg) : PySiteRec :=
  { inds := some (legs.map (fun l => legName bid sid l.name)),
    duals := some (legs.map (fun l => Int.ofNat l.dual)),
    shape := some (legs.map (fun l => Int.ofNat l.dim)) }

def castBonds (bid sid : String) (acc : List (Site × List Leg)) : GD :=
  acc.map (fun p => (Int.ofNat p.1, recOfLegs bid sid p.2))

theorem addLeg_cast (bid sid : String) (acc : List (Site × List Leg)) (a : Site) (l : Leg) :
    addLeg (castBonds bid sid acc) (Int.ofNat a) (legName bid sid l.name) (Int.ofNat l.dual) (Int.ofNat l.dim)
      = castBonds bid sid (ainsert acc a ((alookup acc a).getD [] ++ [l])) := by
  have e : appendLeg (((pyDictGet acc a).map (recOfLegs bid sid)).getD {}) (legName bid sid l.name) (Int.ofNat l.dual)
      (Int.ofNat l.dim) = recOfLegs bid sid ((pyDictGet acc a).getD [] ++ [l]) := by
    cases pyDictGet acc a <;> simp [appendLeg, recOfLegs]
  unfold addLeg castBonds
  rw [pyDictGet_map Int.ofNat (recOfLegs bid sid) beq_ofNat, e, pyDictSet_map Int.ofNat (recOfLegs bid sid) beq_ofNat,
    pyDictSet_eq_ainsert, pyDictGet_eq_alookup]

theorem ite_gt_ofNat (x y a b : Nat) :
    (if Int.ofNat x > Int.ofNat y then Int.ofNat a else Int.ofNat b) = Int.ofNat (if x > y then a else b) := by
  simp only [gt_iff_lt, Int.ofNat_eq_natCast, Int.ofNat_lt]
  split <;> rfl

/-- one pass of the generated bond loop on the model's table = the model's `parseStep` -/
theorem bondBody_cast (bid sid : String) (bd : Nat) (acc : List (Site × List Leg)) (x y : Nat)
    (hn : (keysOf (castBonds bid sid acc)).Nodup) :
    bondBody (Int.ofNat bd) bid (castBonds bid sid acc) (Int.ofNat x, Int.ofNat y)
      = castBonds bid sid (parseStep bd acc (x, y)) := by
  rw [bondBody_core, bondCore_eq _ _ _ _ _ hn, ite_gt_ofNat, ite_gt_ofNat]
  simp only [parseStep]
  generalize (if x > y then y else x) = a
  generalize (if x > y then x else y) = b
  have e1 := addLeg_cast bid sid acc a ⟨.bond a b, 0, bd⟩
  have e2 := addLeg_cast bid sid (ainsert acc a ((alookup acc a).getD [] ++ [⟨.bond a b, 0, bd⟩])) b ⟨.bond a b, 1, bd⟩
  simp only [legName] at e1 e2
  show addLeg (addLeg _ _ _ (Int.ofNat 0) _) _ _ (Int.ofNat 1) _ = _
  rw [e1, e2]

theorem bond_fold (bid sid : String) (bd : Nat) (es : List Edge) (acc : List (Site × List Leg))
    (hn : (keysOf (castBonds bid sid acc)).Nodup) :
    (es.map (fun (e : Edge) => (Int.ofNat e.1, Int.ofNat e.2))).foldl (bondBody (Int.ofNat bd) bid) (castBonds bid sid acc)
      = castBonds bid sid (es.foldl (parseStep bd) acc)
    ∧ (keysOf (castBonds bid sid (es.foldl (parseStep bd) acc))).Nodup := by
  induction es generalizing acc with
  | nil => exact ⟨rfl, hn⟩
  | cons e es ih =>
    obtain ⟨x, y⟩ := e
    rw [List.map_cons, List.foldl_cons, List.foldl_cons, bondBody_cast bid sid bd acc x y hn]
    apply ih
    rw [← bondBody_cast bid sid bd acc x y hn, bondBody_core, bondCore_eq _ _ _ _ _ hn]
    exact nodup_addLeg _ _ _ _ _ (nodup_addLeg _ _ _ _ _ hn)

/-! ### `sorted(edges)` -/

def castEdge (e : Edge) : Int × Int := (Int.ofNat e.1, Int.ofNat e.2)

theorem edge_key (x y : Edge) : pyLexLt (castEdge x) (castEdge y) = edgeLt x y :=
  pyLexLt_ofNat x.1 x.2 y.1 y.2

theorem sorted_edges (edges : List Edge) :
    pySortedByLex (fun (x : Int × Int) => x) (edges.map castEdge) = (isort edgeLt edges).map castEdge := by
  rw [pySortedByLex_eq _ (fun x y => pyLexLt x y) (fun _ _ => rfl)]
  exact isort_map castEdge edgeLt _ edge_key edges

/-! ### the loop over the sites -/

/-- the body of the generated loop `for site in sites:`, verbatim (the two `starmap` flags as parameters) -/
def physBody (phys_dim : Option Int) (site_ind_id site_tag_id : String) (starmap_ind starmap_tag : Bool)
    (st1 : GD) (it1 : Int) : GD :=
      let sites : (List (Int × PySiteRec)) := st1
      let site : Int := it1
      let sites : (List (Int × PySiteRec)) := pyDictSet sites site (let r := pyDictGetItem sites site; { r with coordination := some ((pyLen ((pyDictGetItem sites site).inds.getD default))) })
      let site_tag : PyName :=
        if starmap_tag then
          (let site_tag : PyName := (PyName.fmtStar site_tag_id site)
           site_tag)
        else
          (let site_tag : PyName := (PyName.fmt site_tag_id [site])
           site_tag)
      let sites : (List (Int × PySiteRec)) := pyDictSet sites site (let r := pyDictGetItem sites site; { r with tags := some ([site_tag]) })
      let sites : (List (Int × PySiteRec)) :=
        match phys_dim with
        | none => sites
        | some phys_dim =>
          (let site_ind : PyName :=
             if starmap_ind then
               (let site_ind : PyName := (PyName.fmtStar site_ind_id site)
                site_ind)
             else
               (let site_ind : PyName := (PyName.fmt site_ind_id [site])
                site_ind)
           let sites : (List (Int × PySiteRec)) := pyDictSet sites site (let r := pyDictGetItem sites site; { r with inds := some ((r.inds.getD default) ++ [site_ind]) })
           let sites : (List (Int × PySiteRec)) := pyDictSet sites site (let r := pyDictGetItem sites site; { r with duals := some ((r.duals.getD default) ++ [(0 : Int)]) })
           let sites : (List (Int × PySiteRec)) := pyDictSet sites site (let r := pyDictGetItem sites site; { r with shape := some ((r.shape.getD default) ++ [phys_dim]) })
           sites)
      sites

/-- what the loop over the sites does to the record of `site` -/
def finish (phys_dim : Option Int) (sid tid : String) (si st : Bool) (site : Int) (r : PySiteRec) : PySiteRec :=
  let r1 : PySiteRec := { r with coordination := some (pyLen (r.inds.getD default)) }
  let r2 : PySiteRec := { r1 with tags := some [if st then PyName.fmtStar tid site else PyName.fmt tid [site]] }
  match phys_dim with
  | none => r2
  | some p =>
    { r2 with inds := some ((r2.inds.getD default) ++ [if si then PyName.fmtStar sid site else PyName.fmt sid [site]]),
              duals := some ((r2.duals.getD default) ++ [(0 : Int)]),
              shape := some ((r2.shape.getD default) ++ [p]) }

theorem getItem_set (d : GD) (k : Int) (v : PySiteRec) : pyDictGetItem (pyDictSet d k v) k = v := by
  simp [pyDictGetItem, pyDictGet_set]

/-- the statements of the body all store at `site`: they act on its record alone -/
theorem physBody_eq (pd : Option Int) (sid tid : String) (si st : Bool) (d : GD) (k : Int) :
    physBody pd sid tid si st d k = upd d k (finish pd sid tid si st k) := by
  cases pd <;> simp only [physBody, upd, getItem_set, pyDictSet_set] <;> cases st <;> cases si <;> rfl

theorem upd_mid (pre rs : GD) (k : Int) (r : PySiteRec) (f : PySiteRec → PySiteRec) (h : k ∉ keysOf pre) :
    upd (pre ++ (k, r) :: rs) k f = pre ++ (k, f r) :: rs := by
  unfold upd
  induction pre with
  | nil => simp [pyDictSet, pyDictGetItem, pyDictGet]
  | cons p ps ih =>
    obtain ⟨a, b⟩ := p
    simp only [keysOf, List.map_cons, List.mem_cons, not_or] at h
    have e : (a == k) = false := beq_false_of_ne (Ne.symm h.1)
    have ih' := ih h.2
    simp only [List.cons_append, pyDictSet, e, Bool.false_eq_true, if_false, pyDictGetItem, pyDictGet] at ih' ⊢
    rw [ih']

/-- updating every key once, in dict order (`pre`: the entries already visited) -/
theorem site_fold (F : Int → PySiteRec → PySiteRec) : ∀ (rest pre : GD),
    (∀ k ∈ keysOf rest, k ∉ keysOf pre) → (keysOf rest).Nodup →
    (keysOf rest).foldl (fun d k => upd d k (F k)) (pre ++ rest) = pre ++ rest.map (fun p => (p.1, F p.1 p.2))
  | [], pre, _, _ => by simp [keysOf]
  | (k, r) :: rs, pre, hd, hn => by
    simp only [keysOf, List.map_cons, List.foldl_cons]
    rw [upd_mid pre rs k r (F k) (hd k (by simp [keysOf]))]
    simp only [keysOf, List.map_cons, List.nodup_cons] at hn
    have := site_fold F rs (pre ++ [(k, F k r)]) (by
      intro k' hk'
      simp only [keysOf, List.map_append, List.map_cons, List.map_nil, List.mem_append, List.mem_singleton, not_or]
      exact ⟨hd k' (List.mem_cons_of_mem _ hk'), fun e => hn.1 (e ▸ hk')⟩) hn.2
    simp only [List.append_assoc, List.cons_append, List.nil_append] at this
    exact this

theorem site_loop (pd : Option Int) (sid tid : String) (si st : Bool) (d : GD) (hn : (keysOf d).Nodup) :
    (d.map (fun p => p.1)).foldl (physBody pd sid tid si st) d
      = d.map (fun p => (p.1, finish pd sid tid si st p.1 p.2)) := by
  have h := site_fold (finish pd sid tid si st) d [] (by simp [keysOf]) hn
  simp only [List.nil_append] at h
  rw [← h]
  congr 1
  funext d k
  exact physBody_eq pd sid tid si st d k

/-! ### the whole function -/

/-- the generated function IS: the two flags, the bond loop over `sorted(edges)`, the loop over the sites -/
theorem parse_unfold (edges : List (Int × Int)) (bd : Int) (pd : Option Int) (sid bid tid : String) :
    parse_edges_to_site_info edges bd pd sid bid tid
      = let G := (pySortedByLex (fun (x : Int × Int) => x) edges).foldl (bondBody bd bid) []
        (G.map (fun p => p.1)).foldl
          (physBody pd sid tid (decide (pyStrCount sid "{}" > 1)) (decide (pyStrCount tid "{}" > 1))) G := rfl

/-- the model's site record in the vocabulary of the translation -/
def recOfInfo (bid sid tid : String) (i : SiteInfo) : PySiteRec :=
  { inds := some (i.legs.map (fun l => legName bid sid l.name)),
    duals := some (i.legs.map (fun l => Int.ofNat l.dual)),
    shape := some (i.legs.map (fun l => Int.ofNat l.dim)),
    coordination := some (Int.ofNat i.coordination),
    tags := some [PyName.fmt tid [Int.ofNat i.tag]] }

theorem finish_rec (pd : Option Nat) (bid sid tid : String) (v : Site) (legs : List Leg) :
    finish (pd.map Int.ofNat) sid tid false false (Int.ofNat v) (recOfLegs bid sid legs)
      = recOfInfo bid sid tid { legs := legs ++ physLegs pd v, coordination := legs.length, tag := v } := by
  cases pd with
  | none => simp [finish, recOfLegs, recOfInfo, physLegs, pyLen]
  | some p => simp [finish, recOfLegs, recOfInfo, physLegs, pyLen, legName]

/-- THE TIE: `parse_edges_to_site_info(edges, bond_dim, phys_dim, site_ind_id, bond_ind_id, site_tag_id)` as generated =
    the model's `parseEdges`, for all edge lists over natural-number sites (self-loops and repeated edges included), every
    bond dimension, `phys_dim` an int or None, and all templates with at most one `{}` in the site templates (the
    defaults "k{}", "I{}": `example`s below); sites in dict order, the three parallel lists, coordination, tag -/
theorem parse_edges_to_site_info_eq (edges : List Edge) (bd : Nat) (pd : Option Nat) (sid bid tid : String)
    (h1 : ¬ pyStrCount sid "{}" > 1) (h2 : ¬ pyStrCount tid "{}" > 1) :
    parse_edges_to_site_info (edges.map castEdge) (Int.ofNat bd) (pd.map Int.ofNat) sid bid tid
      = (parseEdges edges bd pd).map (fun p => (Int.ofNat p.1, recOfInfo bid sid tid p.2)) := by
  rw [parse_unfold]
  have d1 : decide (pyStrCount sid "{}" > 1) = false := by simpa using h1
  have d2 : decide (pyStrCount tid "{}" > 1) = false := by simpa using h2
  simp only [d1, d2]
  rw [sorted_edges]
  have hb := bond_fold bid sid bd (isort edgeLt edges) [] (by simp [castBonds, keysOf])
  have hb1 : ((isort edgeLt edges).map castEdge).foldl (bondBody (Int.ofNat bd) bid) []
      = castBonds bid sid (parseBonds bd edges) := hb.1
  have hn : (keysOf (castBonds bid sid (parseBonds bd edges))).Nodup := hb.2
  simp only [hb1]
  rw [site_loop _ _ _ _ _ _ hn]
  unfold parseEdges castBonds
  simp only [List.map_map]
  apply List.map_congr_left
  intro p _
  simp only [Function.comp, finish_rec]

example : ¬ pyStrCount parse_edges_to_site_info.default_site_ind_id "{}" > 1 := by decide
example : ¬ pyStrCount parse_edges_to_site_info.default_site_tag_id "{}" > 1 := by decide

end SymmModel.Gen
