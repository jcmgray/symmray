/-
  SymmModel.Gen.PyLemmas — facts about the built-ins of Gen/Prelude.lean that several Tie files share:
  natural-number arguments, dicts, and the two stable sorts as the model's `isort`.  Hand-written.
-/
import SymmModel.Gen.Src
import SymmModel.Model.Basic

namespace SymmModel.Gen
open SymmModel

/-! ### natural numbers as Python ints -/

theorem beq_ofNat (a b : Nat) : (Int.ofNat a == Int.ofNat b) = (a == b) := by
  rw [Bool.eq_iff_iff, beq_iff_eq, beq_iff_eq]
  exact Int.ofNat_inj

theorem pyGet_ofNat {α : Type} [Inhabited α] (l : List α) (i : Nat) :
    pyGet l (Int.ofNat i) = l.getD i default := by
  simp [pyGet]

theorem pyListSet_ofNat {α : Type} (l : List α) (i : Nat) (v : α) : pyListSet l (Int.ofNat i) v = l.set i v :=
  if_pos (Int.natCast_nonneg i)

theorem pyListPop_ofNat {α : Type} (l : List α) (i : Nat) : pyListPop l (Int.ofNat i) = l.eraseIdx i :=
  if_pos (Int.natCast_nonneg i)

theorem pyRange_ofNat (a : Nat) : pyRange (Int.ofNat a) = (List.range a).map Int.ofNat := by
  simp [pyRange]

theorem getD_map_ofNat (l : List Nat) (i : Nat) :
    (l.map Int.ofNat).getD i 0 = Int.ofNat (l.getD i 0) := by
  simp only [List.getD_eq_getElem?_getD, List.getElem?_map]
  cases l[i]? <;> rfl

theorem contains_map_ofNat (l : List Nat) (o : Nat) :
    (l.map Int.ofNat).contains (Int.ofNat o) = l.contains o := by
  induction l with
  | nil => rfl
  | cons a as ih => rw [List.map_cons, List.contains_cons, List.contains_cons, ih, beq_ofNat]

theorem pyClamp_ofNat (n i : Nat) : pyClamp n (Int.ofNat i) = min i n := by
  have : ¬ (Int.ofNat i < 0) := by simp
  rw [pyClamp, if_neg this]; rfl

theorem pySlice_take_ofNat {α : Type} (l : List α) (r : Nat) : pySlice l none (some (Int.ofNat r)) = l.take r := by
  show (l.take (pyClamp l.length (Int.ofNat r))).drop 0 = _
  rw [pyClamp_ofNat, List.drop_zero, ← List.take_eq_take_min]

theorem pySlice_drop_ofNat {α : Type} (l : List α) (r : Nat) : pySlice l (some (Int.ofNat r)) none = l.drop r := by
  show (l.take l.length).drop (pyClamp l.length (Int.ofNat r)) = _
  rw [pyClamp_ofNat, List.take_length]
  by_cases h : r ≤ l.length
  · rw [Nat.min_eq_left h]
  · rw [Nat.min_eq_right (by omega), List.drop_length, List.drop_of_length_le (by omega)]

theorem pyLexLt_ofNat (a b c d : Nat) :
    pyLexLt (Int.ofNat a, Int.ofNat b) (Int.ofNat c, Int.ofNat d)
      = (decide (a < c) || (a == c && decide (b < d))) := by
  unfold pyLexLt
  rw [beq_ofNat]
  simp only [Int.ofNat_eq_natCast, Int.ofNat_lt]

/-! ### `sum`, and loops that append -/

theorem foldl_add_init (l : List Int) (a : Int) : l.foldl (· + ·) a = a + pySum l := by
  unfold pySum
  induction l generalizing a with
  | nil => simp
  | cons x xs ih => rw [List.foldl_cons, List.foldl_cons, ih, ih (0 + x)]; omega

theorem pySum_cons (x : Int) (l : List Int) : pySum (x :: l) = x + pySum l := by
  rw [pySum, List.foldl_cons, foldl_add_init]; omega

theorem foldl_append_item {α : Type} (f : List α → α → List α) (hf : ∀ st x, f st x = st ++ [x]) (l init : List α) :
    l.foldl f init = init ++ l := by
  induction l generalizing init with
  | nil => simp
  | cons a as ih => rw [List.foldl_cons, hf, ih]; simp

/-! ### dicts -/

theorem pyDictGet_set {κ β : Type} [BEq κ] [LawfulBEq κ] (d : List (κ × β)) (k k' : κ) (v : β) :
    pyDictGet (pyDictSet d k v) k' = if k == k' then some v else pyDictGet d k' := by
  induction d with
  | nil => rfl
  | cons p rest ih =>
    obtain ⟨a, b⟩ := p
    by_cases h : a = k
    · subst h
      simp only [pyDictSet, pyDictGet, beq_self_eq_true, if_true]
      split <;> rfl
    · have h' : (a == k) = false := beq_false_of_ne h
      simp only [pyDictSet, h', Bool.false_eq_true, if_false, pyDictGet, ih]
      by_cases h2 : a = k'
      · subst h2; simp [Ne.symm h]
      · simp [h2]

theorem pyDictSet_set {κ β : Type} [BEq κ] [LawfulBEq κ] (d : List (κ × β)) (k : κ) (v w : β) :
    pyDictSet (pyDictSet d k v) k w = pyDictSet d k w := by
  induction d with
  | nil => simp [pyDictSet]
  | cons p rest ih =>
    obtain ⟨a, b⟩ := p
    by_cases e : (a == k) = true
    · simp [pyDictSet, e]
    · simp [pyDictSet, e, ih]

theorem pyDictGet_map {κ κ' β β' : Type} [BEq κ] [BEq κ'] (c : κ → κ') (f : β → β')
    (hc : ∀ a b, (c a == c b) = (a == b)) (d : List (κ × β)) (k : κ) :
    pyDictGet (d.map (fun p => (c p.1, f p.2))) (c k) = (pyDictGet d k).map f := by
  induction d with
  | nil => rfl
  | cons p r ih =>
    simp only [List.map_cons, pyDictGet, hc, ih]
    split <;> rfl

theorem pyDictSet_map {κ κ' β β' : Type} [BEq κ] [BEq κ'] (c : κ → κ') (f : β → β')
    (hc : ∀ a b, (c a == c b) = (a == b)) (d : List (κ × β)) (k : κ) (v : β) :
    pyDictSet (d.map (fun p => (c p.1, f p.2))) (c k) (f v) = (pyDictSet d k v).map (fun p => (c p.1, f p.2)) := by
  induction d with
  | nil => rfl
  | cons p r ih =>
    simp only [List.map_cons, pyDictSet, hc, ih]
    split <;> rfl

/-! ### `sorted` is the model's stable insertion sort -/

theorem insertSorted_map {α β : Type} (f : α → β) (lt : α → α → Bool) (lt' : β → β → Bool)
    (h : ∀ i j, lt' (f i) (f j) = lt i j) (a : α) (l : List α) :
    insertSorted lt' (f a) (l.map f) = (insertSorted lt a l).map f := by
  induction l with
  | nil => rfl
  | cons b bs ih =>
    rw [List.map_cons, insertSorted, insertSorted, h b a, ih]
    split <;> rfl

theorem isort_map {α β : Type} (f : α → β) (lt : α → α → Bool) (lt' : β → β → Bool)
    (h : ∀ i j, lt' (f i) (f j) = lt i j) (l : List α) :
    isort lt' (l.map f) = (isort lt l).map f := by
  induction l with
  | nil => rfl
  | cons a as ih => rw [List.map_cons, isort, ih, insertSorted_map f lt lt' h, isort]

theorem pySortedBy_eq {α : Type} (key : α → Int) (l : List α) :
    pySortedBy key l = isort (fun x y => decide (key x < key y)) l := by
  induction l with
  | nil => rfl
  | cons a as ih =>
    rw [pySortedBy, isort, ih]
    generalize isort _ as = s
    induction s with
    | nil => rfl
    | cons b bs ihb => simp only [pyInsertBy, insertSorted, ihb, decide_eq_true_eq]

theorem pySortedByLex_eq {α : Type} (key : α → Int × Int) (lt : α → α → Bool)
    (hk : ∀ x y, pyLexLt (key x) (key y) = lt x y) (l : List α) :
    pySortedByLex key l = isort lt l := by
  induction l with
  | nil => rfl
  | cons a as ih =>
    rw [pySortedByLex, isort, ih]
    generalize isort _ as = s
    induction s with
    | nil => rfl
    | cons b bs ihb => rw [pyInsertByLex, insertSorted, hk, ihb]

end SymmModel.Gen
