/-
  SymmModel.Gen.TieTrunc — translation tie for the INTEGER TAIL of `linalg.calc_sub_max_bonds`:

      rem = max_bond - sum(sub_max_bonds)
      for i in argsort(sub_max_bonds)[:rem]:
          sub_max_bonds[i] += 1
      return tuple(sub_max_bonds)

  translated as the fragment `calc_sub_max_bonds.tail (max_bond) (sub_max_bonds)` — the local list `sub_max_bonds`
  as it is AFTER the float step `[int(frac * sz) for sz in sizes]` is a parameter.  The float head (`max_bond /
  sum(sizes)`, `frac >= 1.0`, `int(frac * sz)`) stays OUTSIDE the translation tie: `calc_sub_max_bonds` as a whole
  is reported untranslatable (float division); the model's `baseSplit` is tied to it only behaviourally (C13
  compares the two exhaustively for `sum(sizes) ≤ 24`).

  `calc_sub_max_bonds_tail_eq`: for EVERY list of naturals `base` and every `mb` with `sum base ≤ mb` (Python's
  `[:rem]` with a negative `rem` would drop from the end — excluded; the model's split satisfies it, `split_facts`)
  the generated tail is the model's `((argsortNat base).take (mb - sum base)).foldl bump base`.
  `calcSubMaxBonds_eq_tail`: the model's `calcSubMaxBonds` on its truncating branch is the generated tail applied
  to the model's `baseSplit`.
  Not imported by SymmModel.lean; build with `lake build SymmModel.Gen.Tie`.
-/
import SymmModel.Gen.TieUtil
import SymmModel.Proofs.TruncLemmas

namespace SymmModel.Gen
open SymmModel SymmModel.TruncLemmas

theorem pySum_map_ofNat (l : List Nat) : pySum (l.map Int.ofNat) = Int.ofNat (sumNat l) := by
  induction l with
  | nil => rfl
  | cons a as ih => rw [List.map_cons, pySum_cons, ih]; rfl

/-- `l[i] += 1` on a list of naturals = the model's `bump` (also out of range: both leave the list alone) -/
theorem pyListSet_bump (b : List Nat) (i : Nat) :
    pyListSet (b.map Int.ofNat) (Int.ofNat i) (pyGet (b.map Int.ofNat) (Int.ofNat i) + 1)
      = (bump b i).map Int.ofNat := by
  rw [pyGet_ofNat, pyListSet_ofNat]
  unfold bump
  induction b generalizing i with
  | nil => simp
  | cons x xs ih =>
    cases i with
    | zero => simp
    | succ j =>
      have := ih j
      simp only [List.map_cons, List.set_cons_succ, List.getD_cons_succ, List.modify_succ_cons] at this ⊢
      rw [this]

theorem tail_fold (idx b : List Nat) :
    (idx.map Int.ofNat).foldl (fun (st : List Int) (it : Int) => pyListSet st it (pyGet st it + 1)) (b.map Int.ofNat)
      = (idx.foldl bump b).map Int.ofNat := by
  induction idx generalizing b with
  | nil => rfl
  | cons i is ih => rw [List.map_cons, List.foldl_cons, List.foldl_cons, pyListSet_bump, ih]

/-- the generated integer tail of `calc_sub_max_bonds` = the model's distribution of the remainder, for all inputs
    with `sum base ≤ mb` -/
theorem calc_sub_max_bonds_tail_eq (base : List Nat) (mb : Nat) (h : sumNat base ≤ mb) :
    calc_sub_max_bonds.tail (Int.ofNat mb) (base.map Int.ofNat)
      = (((argsortNat base).take (mb - sumNat base)).foldl bump base).map Int.ofNat := by
  unfold calc_sub_max_bonds.tail
  rw [pySum_map_ofNat, argsort_eq]
  have hr : Int.ofNat mb - Int.ofNat (sumNat base) = Int.ofNat (mb - sumNat base) := by
    simp only [Int.ofNat_eq_natCast]; omega
  simp only [hr]
  rw [pySlice_take_ofNat, ← List.map_take]
  exact tail_fold _ _

example : sumNat [1, 0, 2] ≤ 5 := by decide
example : calc_sub_max_bonds.tail 5 [1, 0, 2] = [2, 1, 2] := by decide

/-- the model's `calc_sub_max_bonds` on its truncating branch (`0 ≤ max_bond < sum(sizes)`) is the generated tail
    applied to the model's float-free `baseSplit` (the part that is NOT translated) -/
theorem calcSubMaxBonds_eq_tail (sizes : List Nat) (mb : Nat) (h : mb < sumNat sizes) :
    (calcSubMaxBonds sizes (mb : Int)).map Int.ofNat
      = calc_sub_max_bonds.tail (Int.ofNat mb) ((baseSplit sizes mb).map Int.ofNat) := by
  rw [calc_sub_max_bonds_tail_eq _ _ (split_facts sizes mb h).1, calcSubMaxBonds_eq sizes mb h]

example : (2 : Nat) < sumNat [2, 3] := by decide

end SymmModel.Gen
