/-
  SymmModel.Gen.Tie — all translation ties (build target: `lake build SymmModel.Gen.Tie`).

    Gen/Prelude.lean    fixed meaning of the Python built-ins (hand-written, core Lean; TRUSTED)
    Gen/Src.lean        GENERATED from symmray's current source by harness/translate.py (the translator is TRUSTED)
    Gen/PyLemmas.lean   facts about the built-ins that several Tie files share (dicts, sorts, naturals as ints)
    Gen/TieSym.lean     C17: generated symmetry classes = `Sym.valid/combine/sign/parity`; the group laws
    Gen/TieKoszul.lean  C03: generated `calc_phase_permutation` = `koszul`; the inversion-parity theorem
    Gen/TieUtil.lean    C13 & helpers: `argsort`, `permuted`, `without`, `accum_for_split`
    Gen/TieDict.lean    C01/C06/C19: `dicts_dont_conflict` = `dictsDontConflict` (= `cmAgree`), `replace_with_seq`,
                        `AbelianArray.is_valid_sector` = `isValidSector`, the coordination counting of
                        `ham_*_from_edges` = `coordTable`
    Gen/TieFuse.lean    C05: `calc_fuse_group_info` = the fuse plan `calcFuseGroupInfo`
    Gen/TieRand.lean    C16: `get_u1_charges` = `u1Charges`, `get_u1u1_charges` = `u1u1Charges`, `choose_duals` = `chooseDuals`
    Gen/TieFermi.lean   C04: `oddpos_dag` = `oddposDag`; the label scan of `resolve_combined_oddpos` (a `while` loop with
                        explicit fuel) = `resolveScan` / `mergeOddpos`
    Gen/TieTrunc.lean   C13: the integer tail of `calc_sub_max_bonds` = the model's distribution of the remainder
    Gen/TieNet.lean     C19: `parse_edges_to_site_info` = `parseEdges` (format templates / formatted names as declared opaque
                        constructors, the heterogeneous inner dict as a declared record, aliases of records stored in a dict)

  None of these is imported by SymmModel.lean (the main build must not depend on symmray's source text).
-/
import SymmModel.Gen.TieSym
import SymmModel.Gen.TieKoszul
import SymmModel.Gen.TieUtil
import SymmModel.Gen.TieDict
import SymmModel.Gen.TieFuse
import SymmModel.Gen.TieRand
import SymmModel.Gen.TieFermi
import SymmModel.Gen.TieTrunc
import SymmModel.Gen.TieNet
