/-
  SymmModel.Gen.TieKoszul — the translation tie for property C03 (the Koszul sign).

  `SymmModel.Gen.calc_phase_permutation` (Gen/Src.lean) is REGENERATED from
  symmray/symmetries.py by harness/translate.py on every run.  This file (hand-written, fixed) proves

   * `calc_phase_permutation_some_eq` : on every input on which the Python function does not raise
     (`parities ≠ [] ∨ perm = []`; otherwise `ax % 0` raises ZeroDivisionError), for ARBITRARY integer
     parities (truthiness `≠ 0`) and ARBITRARY integer axes (negative axes wrap as in the code),
        calc_phase_permutation parities (some perm)
          = koszul (parities.map (· != 0)) (some (perm.map (normAx parities.length)))
     i.e. the generated double loop with its `moved` set is the model's `swapsLoop`;
   * `calc_phase_permutation_none_eq` : the `perm is None` shortcut equals the model's, for parities in {0,1};
   * the C03 theorems restated about the generated function:
     `calc_phase_permutation_eq_invOdd` (the loop = parity of the number of reversed pairs of odd
     entries, for every permutation of `range n`), `calc_phase_permutation_none_eq_reverse`
     (the shortcut = the loop on the full reversal), `calc_phase_permutation_id`,
     `calc_phase_permutation_negative_axes`.

  Not imported by SymmModel.lean; build with `lake build SymmModel.Gen.Tie`.
-/
import SymmModel.Gen.PyLemmas
import SymmModel.Props.C03

namespace SymmModel.Gen
open SymmModel SymmModel.KoszulP

/-- truthiness of the parity entries -/
def parB (parities : List Int) : List Bool := parities.map (· != 0)

/-- `ax % ndim` as a position (Python floor-mod; for `ndim > 0` it lies in `range(ndim)`) -/
def normAx (n : Nat) (ax : Int) : Nat := (Int.fmod ax n).toNat

/-! ### the generated loop in readable form -/

/-- the inner loop `for other_ax in range(ax): if other_ax not in moved and parities[other_ax]: swaps += 1` -/
def innerG (parities moved : List Int) (swaps ax : Int) : Int :=
  (pyRange ax).foldl
    (fun sw o => if (!(moved.contains o)) && (pyGet parities o != 0) then sw + 1 else sw) swaps

/-- one round of the outer loop on the state `(swaps, moved)` -/
def stepG (parities : List Int) (st : Int × List Int) (ax : Int) : Int × List Int :=
  ((if pyGet parities ax != 0 then innerG parities st.2 st.1 ax else st.1), pySetAdd st.2 ax)

theorem cpp_some_unfold (parities perm : List Int) :
    calc_phase_permutation parities (some perm)
      = if ((perm.map (fun ax => Int.fmod ax (pyLen parities))).foldl (stepG parities) (0, [])).1 % 2 != 0
        then -1 else 1 := by
  rfl

/-! ### the two loops against the model's `crossed` and `swapsLoop` -/

theorem parB_getD (parities : List Int) (i : Nat) :
    (pyGet parities (Int.ofNat i) != 0) = isOdd (parB parities) i := by
  rw [pyGet_ofNat]
  simp only [isOdd, parB, List.getD_eq_getElem?_getD, List.getElem?_map]
  cases parities[i]? <;> simp

theorem foldl_count {α : Type} (p : α → Bool) (l : List α) (sw : Int) :
    l.foldl (fun sw o => if p o then sw + 1 else sw) sw = sw + ((l.filter p).length : Nat) := by
  induction l generalizing sw with
  | nil => simp
  | cons x xs ih =>
    rw [List.foldl_cons, ih, List.filter_cons]
    cases p x
    · simp
    · simp; omega

/-- the `moved` set (a list of ints) and the model's `moved` list (of naturals) have the same members -/
def SameMoved (mvG : List Int) (mvM : List Nat) : Prop :=
  ∀ o : Nat, mvG.contains (Int.ofNat o) = mvM.contains o

theorem sameMoved_nil : SameMoved [] [] := fun _ => rfl

theorem sameMoved_add {mvG : List Int} {mvM : List Nat} (h : SameMoved mvG mvM) (a : Nat) :
    SameMoved (pySetAdd mvG (Int.ofNat a)) (a :: mvM) := by
  intro o
  unfold pySetAdd
  rw [List.contains_cons]
  split
  · -- `a` was there already: adding it to the model's list changes no membership
    rename_i hc
    rw [h o]
    by_cases ho : o = a
    · subst ho; rw [← h o, hc]; simp
    · simp [ho]
  · rw [List.contains_cons, h o, beq_ofNat]

theorem innerG_eq (parities mvG : List Int) (mvM : List Nat) (h : SameMoved mvG mvM) (sw : Int)
    (a : Nat) :
    innerG parities mvG sw (Int.ofNat a) = sw + (crossed (parB parities) mvM a : Nat) := by
  unfold innerG crossed
  rw [pyRange_ofNat, List.foldl_map]
  rw [foldl_count (fun o : Nat => (!(mvG.contains (Int.ofNat o))) && (pyGet parities (Int.ofNat o) != 0))]
  have e : (fun o : Nat => (!(mvG.contains (Int.ofNat o))) && (pyGet parities (Int.ofNat o) != 0))
      = (fun o => !mvM.contains o && isOdd (parB parities) o) := by
    funext o
    rw [h o, parB_getD]
  rw [e]

/-- the generated outer loop is the model's `swapsLoop` -/
theorem fold_stepG (parities : List Int) (l : List Nat) (sw : Int) (mvG : List Int) (mvM : List Nat)
    (h : SameMoved mvG mvM) :
    ((l.map Int.ofNat).foldl (stepG parities) (sw, mvG)).1
      = sw + (swapsLoop (parB parities) l mvM : Nat) := by
  induction l generalizing sw mvG mvM with
  | nil => simp [swapsLoop]
  | cons a rest ih =>
    rw [List.map_cons, List.foldl_cons]
    have hstep : stepG parities (sw, mvG) (Int.ofNat a)
        = ((if pyGet parities (Int.ofNat a) != 0 then innerG parities mvG sw (Int.ofNat a) else sw),
            pySetAdd mvG (Int.ofNat a)) := rfl
    rw [hstep, ih _ _ (a :: mvM) (sameMoved_add h a), parB_getD, swapsLoop]
    by_cases ho : isOdd (parB parities) a = true
    · rw [if_pos ho, if_pos ho, innerG_eq parities mvG mvM h]
      push_cast; omega
    · rw [if_neg ho, if_neg ho]
      push_cast; omega

theorem fmod_pos_eq (ax : Int) (n : Nat) (hn : 0 < n) :
    Int.fmod ax n = Int.ofNat (normAx n ax) := by
  unfold normAx
  have h0 : (0 : Int) ≤ n := by omega
  rw [Int.fmod_eq_emod_of_nonneg ax h0]
  have : 0 ≤ ax % (n : Int) := Int.emod_nonneg ax (by omega)
  simp only [Int.ofNat_eq_natCast]
  omega

/-- the code's test `k % 2` (truthiness of an int) against the model's `k % 2 == 1` -/
theorem odd_sign (k : Nat) :
    (if ((k : Int) % 2 != 0) then (-1 : Int) else 1) = if (k % 2 == 1) = true then -1 else 1 := by
  simp only [bne_iff_ne, ne_eq, beq_iff_eq]
  by_cases hk : k % 2 = 1
  · rw [if_pos (by omega), if_pos hk]
  · rw [if_neg (by omega), if_neg hk]

/-! ## generated `calc_phase_permutation` = model `koszul` -/

/-- the general branch, for arbitrary integer parities and arbitrary (also negative) integer axes, on
    the whole domain on which the Python function does not raise -/
theorem calc_phase_permutation_some_eq (parities perm : List Int) (h : parities ≠ [] ∨ perm = []) :
    calc_phase_permutation parities (some perm)
      = koszul (parB parities) (some (perm.map (normAx parities.length))) := by
  rcases h with h | h
  · have hn : 0 < parities.length := List.length_pos_iff.mpr h
    have e : perm.map (fun ax => Int.fmod ax (pyLen parities))
        = (perm.map (normAx parities.length)).map Int.ofNat := by
      rw [List.map_map]
      apply List.map_congr_left
      intro ax _
      exact fmod_pos_eq ax parities.length hn
    rw [cpp_some_unfold, e, fold_stepG parities _ 0 [] [] sameMoved_nil, Int.zero_add]
    exact odd_sign _
  · subst h; rfl

example : ([1, 0, 1] : List Int) ≠ [] ∨ ([2, -3, 1] : List Int) = [] := Or.inl (by decide)

/-- a call that omits `perm` takes the `perm is None` branch -/
theorem calc_phase_permutation_default : calc_phase_permutation.default_perm = none := rfl

theorem pySum_bits (parities : List Int) (h : ∀ p ∈ parities, p = 0 ∨ p = 1) :
    pySum parities = (((parB parities).filter id).length : Nat) := by
  induction parities with
  | nil => rfl
  | cons p ps ih =>
    rw [pySum_cons, ih (fun q hq => h q (List.mem_cons_of_mem _ hq))]
    rcases h p (List.mem_cons_self ..) with rfl | rfl
    · simp [parB]
    · simp [parB]; omega

/-- the `perm is None` shortcut `sum(parities) // 2 % 2`, for parities in {0,1} -/
theorem calc_phase_permutation_none_eq (parities : List Int) (h : ∀ p ∈ parities, p = 0 ∨ p = 1) :
    calc_phase_permutation parities none = koszul (parB parities) none := by
  show (if ((Int.fdiv (pySum parities) 2) % 2 != 0) then (-1 : Int) else 1) = _
  rw [pySum_bits parities h, Int.fdiv_eq_ediv_of_nonneg _ (by decide : (0 : Int) ≤ 2)]
  exact odd_sign (((parB parities).filter id).length / 2)

/-- the hypothesis of `calc_phase_permutation_none_eq` is needed: parities `(2,)` (truthy, one odd
    entry for the loop) make the shortcut `-1` -/
theorem calc_phase_permutation_none_eq_needs_bits :
    calc_phase_permutation [2] none ≠ koszul (parB [2]) none := by decide

/-! ## the C03 theorems about the generated function -/

theorem normAx_lt (ax : Int) {n : Nat} (hn : 0 < n) : normAx n ax < n := by
  have h := fmod_pos_eq ax n hn
  have := Int.emod_lt_of_pos ax (by omega : (0 : Int) < n)
  rw [Int.fmod_eq_emod_of_nonneg _ (by omega : (0 : Int) ≤ n)] at h
  simp only [Int.ofNat_eq_natCast] at h
  omega

theorem normAx_ofNat {n a : Nat} (h : a < n) : normAx n (Int.ofNat a) = a := by
  unfold normAx
  rw [Int.fmod_eq_emod_of_nonneg _ (by omega : (0 : Int) ≤ n)]
  simp only [Int.ofNat_eq_natCast]
  rw [Int.emod_eq_of_lt (by omega) (by omega)]
  simp

/-- on a permutation of the axes (as naturals) the function does not raise and no axis wraps -/
theorem calc_phase_permutation_perm (parities : List Int) (perm : List Nat)
    (hp : perm.Perm (List.range parities.length)) :
    calc_phase_permutation parities (some (perm.map Int.ofNat)) = koszul (parB parities) (some perm) := by
  have hd : parities ≠ [] ∨ perm.map Int.ofNat = [] := by
    cases parities with
    | nil => right; simpa using hp
    | cons p ps => left; simp
  rw [calc_phase_permutation_some_eq parities _ hd, List.map_map]
  congr 2
  conv => rhs; rw [← List.map_id perm]
  apply List.map_congr_left
  intro a ha
  exact normAx_ofNat (by simpa using hp.mem_iff.mp ha)

/-- C03 (`koszul_eq_invOdd`) for the literal translation: for every parity tuple and every permutation of
    its axes, the code's double loop with the `moved` set yields `(-1)^(number of pairs of odd entries
    whose order the permutation reverses)` -/
theorem calc_phase_permutation_eq_invOdd (parities : List Int) (perm : List Nat)
    (hperm : perm.Perm (List.range parities.length)) :
    calc_phase_permutation parities (some (perm.map Int.ofNat))
      = (-1 : Int) ^ (invOdd (parB parities) perm) := by
  rw [calc_phase_permutation_perm parities perm hperm]
  exact (C03.koszul_eq_invOdd (parB parities) perm parities.length hperm).2

example : [3, 0, 2, 1].Perm (List.range ([1, 1, 0, 1] : List Int).length) := perm_of_isPerm (by decide)
example : calc_phase_permutation [1, 1, 0, 1] (some [1, 0, 2, 3]) = -1 := by decide

/-- C03 (`koszul_none_eq_reverse`) for the literal translation: the `perm is None` shortcut is the general
    loop applied to the full reversal -/
theorem calc_phase_permutation_none_eq_reverse (parities : List Int)
    (h : ∀ p ∈ parities, p = 0 ∨ p = 1) :
    calc_phase_permutation parities none
      = calc_phase_permutation parities (some ((List.range parities.length).reverse.map Int.ofNat)) := by
  rw [calc_phase_permutation_none_eq parities h, calc_phase_permutation_perm parities _ (List.reverse_perm _)]
  exact C03.koszul_none_eq_reverse (parB parities) parities.length (by simp [parB])

example : ∀ p ∈ ([1, 0, 1, 1] : List Int), p = 0 ∨ p = 1 := by decide

theorem calc_phase_permutation_id (parities : List Int) :
    calc_phase_permutation parities (some ((List.range parities.length).map Int.ofNat)) = 1 := by
  rw [calc_phase_permutation_perm parities _ (List.Perm.refl _)]
  exact C03.koszul_id _ _

/-- negative axes: only `ax % ndim` matters, the function itself normalises.  (The finding
    `transpose-negative-axes` of known_findings.json, repaired in repo commit 86f2819, is about its callers
    `transpose` / `phase_transpose`.) -/
theorem calc_phase_permutation_negative_axes (parities perm : List Int) (h : parities ≠ []) :
    calc_phase_permutation parities (some perm)
      = calc_phase_permutation parities
          (some (perm.map (fun ax => Int.ofNat (normAx parities.length ax)))) := by
  rw [calc_phase_permutation_some_eq parities perm (Or.inl h),
    calc_phase_permutation_some_eq parities _ (Or.inl h), List.map_map]
  congr 2
  apply List.map_congr_left
  intro ax _
  exact (normAx_ofNat (normAx_lt ax (List.length_pos_iff.mpr h))).symm

end SymmModel.Gen
