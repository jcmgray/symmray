/-
  SymmModel.Gen.TieFuse — translation tie for `abelian_core.calc_fuse_group_info(axes_groups, duals)`:
  the generated definition (Gen/Src.lean: the literal loops over the dicts `ax2group` / `new_axes`, regenerated
  from the source on every run) computes the model's fuse plan `calcFuseGroupInfo` (Model/Fuse.lean) —
  number of groups, singlet groups, new rank, permutation, insertion position, kept axes before / after and
  the dualness of every group — for ALL axis groups of natural numbers in which no group is empty
  (Python raises `ValueError: min() arg is an empty sequence` / IndexError otherwise; it also raises when there is
  no group at all, a case the theorem covers with the totalised `min` of nothing, 0).  No hypothesis that the
  axes are distinct or in range is needed.  The dict `ax2group` is characterised by its `None` entries
  (`ax2group[ax] is None` iff the axis is in no group); the dict `new_axes` has no counterpart in the model
  and is not tied.
  Not imported by SymmModel.lean; build with `lake build SymmModel.Gen.Tie`.
-/
import SymmModel.Gen.TieDict
import SymmModel.Model.Fuse

namespace SymmModel.Gen
open SymmModel

abbrev AxDict := List (Int × Option Int)

/-! ### dict facts -/

/-- `ax2group[k] is None` (a missing key counts as `None`: the totalised KeyError) -/
def isNoneAt (d : AxDict) (k : Int) : Bool := Option.isNone (pyDictGetItem d k)

theorem isNoneAt_nil (k : Int) : isNoneAt [] k = true := rfl

theorem isNoneAt_set (d : AxDict) (ax k g : Int) :
    isNoneAt (pyDictSet d ax (some g)) k = (!(ax == k) && isNoneAt d k) := by
  unfold isNoneAt pyDictGetItem
  rw [pyDictGet_set]
  by_cases h : (ax == k) = true
  · simp [h]
  · simp [h]

theorem isNoneAt_setdefault (d : AxDict) (i k : Int) :
    isNoneAt (pyDictSetdefault d i none).1 k = isNoneAt d k := by
  unfold pyDictSetdefault
  cases h : pyDictGet d i with
  | some x => rfl
  | none =>
    -- `None` is stored under a missing key, and a missing key already counts as `None`
    show ((pyDictGet (pyDictSet d i none) k).getD default).isNone = ((pyDictGet d k).getD default).isNone
    rw [pyDictGet_set]
    split
    · rename_i e
      rw [← eq_of_beq e, h]; rfl
    · rfl

/-! ### the loops of the generated definition -/

/-- `for ax in gaxes: ax2group[ax] = g` -/
def setGroup (g : Int) (d : AxDict) (gaxes : List Int) : AxDict :=
  gaxes.foldl (fun d ax => pyDictSet d ax (some g)) d

/-- body of the first loop on the state `(group_duals, ax2group, group_singlets)` -/
def step1 (duals : List Bool) (st : List Bool × AxDict × List Int) (it : Int × List Int) :
    List Bool × AxDict × List Int :=
  (st.1 ++ [pyGet duals (pyGet it.2 0)], setGroup it.1 st.2.1 it.2,
   if (pyLen it.2 == (1 : Int)) then st.2.2 ++ [it.1] else st.2.2)

/-- the generated definition, with the loop bodies named (definitional) -/
def cfgiClean (G : List (List Int)) (duals : List Bool) :
    (Int × (List Int) × Int × (List Int) × Int × (List Int) × (List Int) × AxDict × (List Bool) × (List (Int × Int))) :=
  let ndim := pyLen duals
  let s1 := (pyEnumerate G).foldl (step1 duals) ([], [], [])
  let ax2group := (pyRange ndim).foldl (fun (d : AxDict) (i : Int) => (pyDictSetdefault d i none).1) s1.2.1
  let position := pyMin (G.map pyMin)
  let before := (pyRange position).filter (fun ax => isNoneAt ax2group ax)
  let after := (pyRange2 position ndim).filter (fun ax => isNoneAt ax2group ax)
  let perm := before ++ G.flatMap (fun g => g) ++ after
  let num := pyLen G
  let na0 : List (Int × Int) := pyDictOfList (before.map (fun ax => (ax, ax)))
  let na1 := (pyEnumerate G).foldl (fun (d : List (Int × Int)) (it : Int × List Int) =>
      it.2.foldl (fun d ax => pyDictSet d ax (position + it.1)) d) na0
  let na2 := (pyEnumerate after).foldl (fun (d : List (Int × Int)) (it : Int × Int) =>
      pyDictSet d it.2 ((position + num) + it.1)) na1
  (num, s1.2.2, (pyLen before + num) + pyLen after, perm, position, before, after, ax2group, s1.1, na2)

theorem cfgi_unfold (G : List (List Int)) (duals : List Bool) :
    calc_fuse_group_info G duals = cfgiClean G duals := rfl

/-- the dict after the first loop, enumeration starting at `k` -/
def dict1 : AxDict → List (List Int) → Nat → AxDict
  | d, [], _ => d
  | d, g :: gs, k => dict1 (setGroup (Int.ofNat k) d g) gs (k + 1)

theorem loop1 (duals : List Bool) (l : List (List Int)) (k : Nat) (gd : List Bool) (d : AxDict) (gs : List Int) :
    ((l.zipIdx k).map (fun p => (Int.ofNat p.2, p.1))).foldl (step1 duals) (gd, d, gs)
      = (gd ++ l.map (fun g => pyGet duals (pyGet g 0)), dict1 d l k,
         gs ++ ((l.zipIdx k).filter (fun p => pyLen p.1 == (1 : Int))).map (fun p => Int.ofNat p.2)) := by
  induction l generalizing k gd d gs with
  | nil => simp [dict1]
  | cons g rest ih =>
    rw [List.zipIdx_cons, List.map_cons, List.foldl_cons]
    simp only [step1]
    by_cases h : (pyLen g == (1 : Int)) = true
    · rw [if_pos h, ih, dict1, List.filter_cons, if_pos h]; simp
    · rw [if_neg h, ih, dict1, List.filter_cons, if_neg h]; simp

theorem isNoneAt_setGroup (g : Int) (d : AxDict) (gaxes : List Int) (k : Int) :
    isNoneAt (setGroup g d gaxes) k = (!(gaxes.contains k) && isNoneAt d k) := by
  unfold setGroup
  induction gaxes generalizing d with
  | nil => simp
  | cons a as ih =>
    rw [List.foldl_cons, ih, isNoneAt_set, List.contains_cons, show (a == k) = (k == a) from BEq.comm]
    cases (k == a) <;> cases (as.contains k) <;> cases (isNoneAt d k) <;> rfl

theorem isNoneAt_dict1 (d : AxDict) (l : List (List Int)) (k0 : Nat) (k : Int) :
    isNoneAt (dict1 d l k0) k = (!(l.flatten.contains k) && isNoneAt d k) := by
  induction l generalizing d k0 with
  | nil => simp [dict1]
  | cons g rest ih =>
    rw [dict1, ih, isNoneAt_setGroup, List.flatten_cons, List.contains_append]
    cases (g.contains k) <;> cases (rest.flatten.contains k) <;> simp

theorem isNoneAt_loop2 (l : List Int) (d : AxDict) (k : Int) :
    isNoneAt (l.foldl (fun (d : AxDict) (i : Int) => (pyDictSetdefault d i none).1) d) k = isNoneAt d k := by
  induction l generalizing d with
  | nil => rfl
  | cons i is ih => rw [List.foldl_cons, ih, isNoneAt_setdefault]

/-! ### `min` -/

theorem fm_min (a b : Int) (l : List Int) : l.foldl min (min a b) = min a (l.foldl min b) := by
  induction l generalizing b with
  | nil => rfl
  | cons x xs ih => rw [List.foldl_cons, List.foldl_cons, Int.min_assoc, ih]

theorem fm_flatten (a : Int) (gs : List (List Int)) (h : ∀ g ∈ gs, g ≠ []) :
    gs.flatten.foldl min a = (gs.map pyMin).foldl min a := by
  induction gs generalizing a with
  | nil => rfl
  | cons g rest ih =>
    have hr : ∀ g ∈ rest, g ≠ [] := fun x hx => h x (List.mem_cons_of_mem _ hx)
    cases g with
    | nil => exact absurd rfl (h [] (List.mem_cons_self ..))
    | cons y ys =>
      rw [List.flatten_cons, List.foldl_append, ih _ hr, List.map_cons, List.foldl_cons, List.foldl_cons, fm_min]
      rfl

/-- `min((min(g) for g in groups))` is the minimum of all grouped axes when no group is empty -/
theorem pyMin_groups (gs : List (List Int)) (h : ∀ g ∈ gs, g ≠ []) :
    pyMin (gs.map pyMin) = pyMin gs.flatten := by
  cases gs with
  | nil => rfl
  | cons g rest =>
    have hr : ∀ g ∈ rest, g ≠ [] := fun x hx => h x (List.mem_cons_of_mem _ hx)
    cases g with
    | nil => exact absurd rfl (h [] (List.mem_cons_self ..))
    | cons y ys =>
      show (rest.map pyMin).foldl min (ys.foldl min y) = (ys ++ rest.flatten).foldl min y
      rw [List.foldl_append, fm_flatten _ _ hr]

theorem foldl_min_ofNat (a : Nat) (l : List Nat) :
    (l.map Int.ofNat).foldl min (Int.ofNat a) = Int.ofNat (l.foldl min a) := by
  induction l generalizing a with
  | nil => rfl
  | cons x xs ih =>
    rw [List.map_cons, List.foldl_cons, List.foldl_cons, ← ih]
    congr 1
    simp only [Int.ofNat_eq_natCast]
    omega

theorem pyMin_ofNat (l : List Nat) : pyMin (l.map Int.ofNat) = Int.ofNat (l.foldl min (l.headD 0)) := by
  cases l with
  | nil => rfl
  | cons a as =>
    show (as.map Int.ofNat).foldl min (Int.ofNat a) = Int.ofNat (as.foldl min (min a a))
    rw [Nat.min_self, foldl_min_ofNat]

/-! ### ranges -/

theorem range_filter_le (p n : Nat) :
    (List.range n).filter (fun ax => decide (p ≤ ax)) = (List.range (n - p)).map (fun i => p + i) := by
  induction n with
  | zero => simp
  | succ n ih =>
    rw [List.range_succ, List.filter_append, ih]
    by_cases h : p ≤ n
    · have e : n + 1 - p = (n - p) + 1 := by omega
      rw [e, List.range_succ, List.map_append]
      simp only [List.filter_cons, List.filter_nil, decide_eq_true_eq, h, if_true, List.map_cons, List.map_nil]
      congr 2; omega
    · have e : n + 1 - p = n - p := by omega
      rw [e]
      simp [h]

theorem pyRange2_ofNat (p n : Nat) :
    pyRange2 (Int.ofNat p) (Int.ofNat n) = ((List.range n).filter (fun ax => decide (p ≤ ax))).map Int.ofNat := by
  unfold pyRange2
  rw [range_filter_le, List.map_map]
  have e : (Int.ofNat n - Int.ofNat p).toNat = n - p := by simp only [Int.ofNat_eq_natCast]; omega
  rw [e]
  apply List.map_congr_left
  intro i _
  simp only [Function.comp, Int.ofNat_eq_natCast]; omega

/-! ### the tie -/

theorem flatten_map_ofNat (groups : List (List Nat)) :
    (groups.map (·.map Int.ofNat)).flatten = groups.flatten.map Int.ofNat := by
  rw [List.map_flatten]

theorem filter_isNone_ofNat (groups : List (List Nat)) (d : AxDict)
    (hd : ∀ k, isNoneAt d k = !((groups.map (·.map Int.ofNat)).flatten.contains k)) (l : List Nat) :
    (l.map Int.ofNat).filter (fun ax => isNoneAt d ax)
      = (l.filter (fun ax => !groups.flatten.contains ax)).map Int.ofNat := by
  rw [List.filter_map]
  congr 1
  apply List.filter_congr
  intro ax _
  simp only [Function.comp, hd, flatten_map_ofNat, contains_map_ofNat]

/-- **`calc_fuse_group_info` (generated from the source) computes the model's fuse plan.**  For all groups of
    natural axes without an empty group and all `duals`: the eight components the model has are equal, and
    `ax2group[k] is None` exactly for the axes that are in no group. -/
theorem calc_fuse_group_info_eq (groups : List (List Nat)) (duals : List Bool) (hg : ∀ g ∈ groups, g ≠ []) :
    let r := calc_fuse_group_info (groups.map (·.map Int.ofNat)) duals
    let m := calcFuseGroupInfo groups duals
    r.1 = Int.ofNat m.numGroups
    ∧ r.2.1 = m.singlets.map Int.ofNat
    ∧ r.2.2.1 = Int.ofNat m.newNdim
    ∧ r.2.2.2.1 = m.perm.map Int.ofNat
    ∧ r.2.2.2.2.1 = Int.ofNat m.position
    ∧ r.2.2.2.2.2.1 = m.axesBefore.map Int.ofNat
    ∧ r.2.2.2.2.2.2.1 = m.axesAfter.map Int.ofNat
    ∧ r.2.2.2.2.2.2.2.2.1 = m.groupDuals
    ∧ (∀ k : Int, Option.isNone (pyDictGetItem r.2.2.2.2.2.2.2.1 k)
          = !((groups.flatten.map Int.ofNat).contains k)) := by
  intro r m
  have hr : r = cfgiClean (groups.map (·.map Int.ofNat)) duals := cfgi_unfold _ _
  set G := groups.map (·.map Int.ofNat) with hG
  have hGne : ∀ g ∈ G, g ≠ [] := by simpa [hG] using hg
  have hs1 : (pyEnumerate G).foldl (step1 duals) ([], [], [])
      = (G.map (fun g => pyGet duals (pyGet g 0)), dict1 [] G 0,
         ((G.zipIdx 0).filter (fun p => pyLen p.1 == (1 : Int))).map (fun p => Int.ofNat p.2)) := by
    have := loop1 duals G 0 [] [] []
    simpa [pyEnumerate] using this
  have hdict : ∀ (l : List Int) k, isNoneAt (l.foldl
      (fun (d : AxDict) (i : Int) => (pyDictSetdefault d i none).1) (dict1 [] G 0)) k = !(G.flatten.contains k) := by
    intro l k
    rw [isNoneAt_loop2, isNoneAt_dict1, isNoneAt_nil, Bool.and_true]
  have hpos : pyMin (G.map pyMin) = Int.ofNat (groups.flatten.foldl min (groups.flatten.headD 0)) := by
    rw [pyMin_groups G hGne, hG, flatten_map_ofNat, pyMin_ofNat]
  have hbefore := fun l => filter_isNone_ofNat groups _ (hdict l)
  have hlen : pyLen duals = Int.ofNat duals.length := rfl
  have hm : m = calcFuseGroupInfo groups duals := rfl
  rw [hr]
  unfold cfgiClean
  simp only [hs1, hpos, hlen, pyRange_ofNat, pyRange2_ofNat, hbefore]
  rw [hm]
  unfold calcFuseGroupInfo
  simp only []
  refine ⟨?_, ?_, ?_, ?_, trivial, trivial, trivial, ?_, ?_⟩
  · simp [pyLen, hG]
  · rw [hG, List.zipIdx_map, List.filter_map, List.map_map, List.map_map]
    congr 1
    apply List.filter_congr
    intro p _
    simp only [Function.comp, Prod.map, pyLen, List.length_map, id]
    exact beq_ofNat p.1.length 1
  · simp only [pyLen, List.length_map, hG, Int.ofNat_eq_natCast]
    omega
  · rw [List.map_append, List.map_append, hG]
    congr 2
    rw [List.flatMap_id', flatten_map_ofNat]
  · rw [hG, List.map_map]
    apply List.map_congr_left
    intro g _
    simp only [Function.comp]
    have e0 : pyGet (g.map Int.ofNat) 0 = Int.ofNat (g.headD 0) := by
      cases g <;> rfl
    rw [e0, pyGet_ofNat]
    rfl
  · intro k
    have := hdict ((List.range duals.length).map Int.ofNat) k
    rw [hG, flatten_map_ofNat] at this
    exact this

example : ∀ g ∈ ([[2, 1], [4]] : List (List Nat)), g ≠ [] := by decide

example : calc_fuse_group_info [[2, 1], [4]] [true, false, false, true, true, false]
    = (2, [1], 5, [0, 2, 1, 4, 3, 5], 1, [0], [3, 5],
       [(2, some 0), (1, some 0), (4, some 1), (0, none), (3, none), (5, none)], [false, true],
       [(0, 0), (2, 1), (1, 1), (4, 2), (3, 3), (5, 4)]) := by rfl

/-- how a fact about the model's plan transfers to the generated code, on the one component that needs no
    further hypothesis (the new rank).  The C05 theorems (Props/C05: the permutation is a permutation of the
    axes when the grouped axes are distinct and in range) transfer through `calc_fuse_group_info_eq` likewise. -/
theorem calc_fuse_group_info_new_ndim (groups : List (List Nat)) (duals : List Bool) (hg : ∀ g ∈ groups, g ≠ []) :
    (calc_fuse_group_info (groups.map (·.map Int.ofNat)) duals).2.2.1
      = Int.ofNat ((calcFuseGroupInfo groups duals).axesBefore.length + groups.length
          + (calcFuseGroupInfo groups duals).axesAfter.length) :=
  (calc_fuse_group_info_eq groups duals hg).2.2.1

end SymmModel.Gen
