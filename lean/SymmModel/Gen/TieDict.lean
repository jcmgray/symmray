/-
  SymmModel.Gen.TieDict — translation tie for the dict / tuple helpers:
    `abelian_core.dicts_dont_conflict`  = `dictsDontConflict` (Model/Check.lean)  (= `AssocP.cmAgree` on charge maps)
    `abelian_core.replace_with_seq`     = `replaceWithSeq`   (Model/Basic.lean)
    `AbelianArray.is_valid_sector`      = `Arr.isValidSector` / `RArr.isValidSector` (as a function of the
                                          symmetry's `sign` / `combine`, the indices' dualness and the charge)
    the coordination counting of `hamiltonians.ham_*_from_edges` = `coordTable` (Model/Ham.lean)
  The generated definitions are in Gen/Src.lean (regenerated from the source on every run).
  Not imported by SymmModel.lean; build with `lake build SymmModel.Gen.Tie`.
-/
import SymmModel.Gen.PyLemmas
import SymmModel.Model.Check
import SymmModel.Model.Ham
import SymmModel.Props.C01c

namespace SymmModel.Gen
open SymmModel SymmModel.Check SymmModel.CheckP

/-! ### the dict built-ins of the Prelude are the model's association-list functions -/

theorem pyDictGet_eq_alookup {κ β : Type} [BEq κ] (d : List (κ × β)) (k : κ) :
    pyDictGet d k = alookup d k := by
  induction d with
  | nil => rfl
  | cons p rest ih => obtain ⟨a, b⟩ := p; simp only [pyDictGet, alookup, ih]

theorem pyDictSet_eq_ainsert {κ β : Type} [BEq κ] (d : List (κ × β)) (k : κ) (v : β) :
    pyDictSet d k v = ainsert d k v := by
  induction d with
  | nil => rfl
  | cons p rest ih => obtain ⟨a, b⟩ := p; simp only [pyDictSet, ainsert, ih]

theorem pyDictOfList_eq_adict {κ β : Type} [BEq κ] (ps : List (κ × β)) : pyDictOfList ps = adict ps := by
  unfold pyDictOfList adict
  congr 1
  funext d p
  exact pyDictSet_eq_ainsert d p.1 p.2

/-! ### `dicts_dont_conflict` -/

/-- the generated loop with early `return False` = the model's `dictsDontConflict` (for ALL association
    lists; no key-distinctness needed) -/
theorem dicts_dont_conflict_eq {κ β : Type} [BEq κ] [BEq β] (da db : List (κ × β)) :
    dicts_dont_conflict da db = dictsDontConflict (fun (x y : β) => x != y) da db := by
  unfold dicts_dont_conflict dictsDontConflict
  induction da with
  | nil => rfl
  | cons p rest ih =>
    obtain ⟨k, va⟩ := p
    rw [List.all_cons, ← ih, pyForReturn]
    simp only [pyDictGet_eq_alookup]
    cases alookup db k with
    | none => simp
    | some vb => cases h : (va != vb) <;> simp [h]

/-- on charge maps `dicts_dont_conflict` is the model's `cmAgree` (the hypothesis of the contraction theorems) -/
theorem dicts_dont_conflict_eq_cmAgree (c1 c2 : List (Charge × Nat)) :
    dicts_dont_conflict (cmToRaw c1) (cmToRaw c2) = AssocP.cmAgree c1 c2 := by
  rw [dicts_dont_conflict_eq]; exact C01.ddc_raw_eq_cmAgree c1 c2

/-- symmetric on dicts (distinct keys), transferred from C01c -/
theorem dicts_dont_conflict_symm {da db : List (Charge × Int)}
    (ha : (da.map (·.1)).Nodup) (hb : (db.map (·.1)).Nodup) :
    dicts_dont_conflict da db = dicts_dont_conflict db da := by
  rw [dicts_dont_conflict_eq, dicts_dont_conflict_eq]; exact C01.dictsDontConflict_symm ha hb

example : (([((0, 0), 1), ((1, 0), 2)] : List (Charge × Int)).map (·.1)).Nodup := by decide

example : dicts_dont_conflict [((1 : Int), (2 : Int)), (3, 4)] [(3, 4), (5, 6)] = true
    ∧ dicts_dont_conflict [((1 : Int), (2 : Int)), (3, 4)] [(3, 5)] = false := by decide

/-! ### `replace_with_seq` -/

/-- `replace_with_seq(it, index, seq)` for every natural `index` (also beyond the end) -/
theorem replace_with_seq_eq {α : Type} [Inhabited α] (l : List α) (i : Nat) (seq : List α) :
    replace_with_seq l (Int.ofNat i) seq = replaceWithSeq l i seq := by
  unfold replace_with_seq replaceWithSeq
  rw [pySlice_take_ofNat, show (Int.ofNat i + 1) = Int.ofNat (i + 1) from rfl, pySlice_drop_ofNat]

example : replace_with_seq [10, 20, 30] 1 [7, 8] = [10, 7, 8, 30] := by decide

/-- Python's negative `index` is NOT the model's: `replace_with_seq(it, -1, seq)` keeps the whole of `it`
    after `seq` (`it[0:]`), documented here so that the natural-number hypothesis above is visible -/
example : replace_with_seq [10, 20, 30] (-1) [7] = [10, 20, 7, 10, 20, 30] := by decide

/-! ### `AbelianArray.is_valid_sector` -/

theorem zip_map_eq_zipWith {α β γ δ : Type} (f : α → δ → γ) (g : β → δ) (xs : List α) (ys : List β) :
    (List.zip xs ys).map (fun (p : α × β) => f p.1 (g p.2)) = List.zipWith f xs (ys.map g) := by
  rw [List.zipWith_map_right, List.zip_eq_zipWith, List.map_zipWith]

/-- the generated method, as a function of the symmetry's `sign`/`combine`, the indices (through `.dual`) and
    the charge, is `sectorCharge … == charge` for ANY sign / combine -/
theorem is_valid_sector_generic {κ ι : Type} [BEq κ] (sign : κ → Bool → κ) (combine : List κ → κ)
    (indices : List ι) (charge : κ) (dual : ι → Bool) (sector : List κ) :
    AbelianArray.is_valid_sector sign combine indices charge dual sector
      = (combine (List.zipWith sign sector (indices.map dual)) == charge) :=
  congrArg (fun l => combine l == charge) (zip_map_eq_zipWith sign dual sector indices)

/-- `is_valid_sector` of the value model -/
theorem is_valid_sector_eq {R : Type} (a : Arr R) (sector : Sector) :
    AbelianArray.is_valid_sector (fun c d => a.sym.sign c d) (fun cs => a.sym.combine cs) a.indices a.charge
      Index.dual sector = a.isValidSector sector := by
  rw [is_valid_sector_generic]; rfl

/-- `is_valid_sector` of the raw audit model (Model/Check.lean) -/
theorem is_valid_sector_eq_raw (a : RArr) (sector : Sector) :
    AbelianArray.is_valid_sector (fun c d => a.sym.sign c d) (fun cs => a.sym.combine cs) a.indices a.charge
      RIndex.dual sector = a.isValidSector sector := by
  rw [is_valid_sector_generic]; rfl

/-! ### coordination counting of `ham_tfim_from_edges`, `ham_fermi_hubbard_from_edges`,
    `ham_fermi_hubbard_spinless_from_edges` -/

def castTable (t : List (Site × Nat)) : List (Site × Int) := t.map (fun p => (p.1, Int.ofNat p.2))

theorem alookup_castTable (t : List (Site × Nat)) (k : Site) :
    alookup (castTable t) k = (alookup t k).map Int.ofNat := by
  rw [← pyDictGet_eq_alookup, ← pyDictGet_eq_alookup]
  exact pyDictGet_map id Int.ofNat (fun _ _ => rfl) t k

theorem ainsert_castTable (t : List (Site × Nat)) (k : Site) (v : Nat) :
    ainsert (castTable t) k (Int.ofNat v) = castTable (ainsert t k v) := by
  rw [← pyDictSet_eq_ainsert, ← pyDictSet_eq_ainsert]
  exact pyDictSet_map id Int.ofNat (fun _ _ => rfl) t k v

/-- `coordinations[c] = coordinations.setdefault(c, 0) + 1` -/
def bumpCount {κ : Type} [BEq κ] (d : List (κ × Int)) (c : κ) : List (κ × Int) :=
  pyDictSet (pyDictSetdefault d c 0).1 c ((pyDictSetdefault d c 0).2 + 1)

theorem bumpCount_castTable (t : List (Site × Nat)) (k : Site) :
    bumpCount (castTable t) k = castTable (ainsert t k ((alookup t k).getD 0 + 1)) := by
  unfold bumpCount pyDictSetdefault
  rw [pyDictGet_eq_alookup, alookup_castTable, ← ainsert_castTable, ← pyDictSet_eq_ainsert]
  cases alookup t k with
  | none => exact pyDictSet_set _ k 0 _
  | some x => rfl

theorem coord_fold (edges : List Edge) (t : List (Site × Nat)) :
    edges.foldl (fun st e => bumpCount (bumpCount st e.1) e.2) (castTable t)
      = castTable (edges.foldl coordStep t) := by
  induction edges generalizing t with
  | nil => rfl
  | cons e es ih =>
    rw [List.foldl_cons, List.foldl_cons, bumpCount_castTable, bumpCount_castTable]
    exact ih _

/-- the generated coordination table (a dict site ↦ count, in order of first appearance) = the model's
    `coordTable`, for all edge lists -/
theorem tfim_coordinations_eq (edges : List Edge) :
    ham_tfim_from_edges.coordinations edges = castTable (coordTable edges) := by
  unfold coordTable
  rw [← coord_fold]; rfl

theorem fermi_hubbard_coordinations_eq (edges : List Edge) :
    ham_fermi_hubbard_from_edges.coordinations edges = castTable (coordTable edges) :=
  tfim_coordinations_eq edges

theorem fermi_hubbard_spinless_coordinations_eq (edges : List Edge) :
    ham_fermi_hubbard_spinless_from_edges.coordinations edges = castTable (coordTable edges) :=
  tfim_coordinations_eq edges

/-- hence `coordinations[v]` of the code is the model's `coordination` (C19's degree theorems transfer) -/
theorem tfim_coordination_lookup (edges : List Edge) (v : Site) :
    pyDictGet (ham_tfim_from_edges.coordinations edges) v = (coordination edges v).map Int.ofNat := by
  rw [tfim_coordinations_eq, pyDictGet_eq_alookup, alookup_castTable]; rfl

example : ham_tfim_from_edges.coordinations [((0 : Nat), (1 : Nat)), (1, 2), (0, 2), (2, 2)]
    = [(0, 2), (1, 2), (2, 4)] := by decide

end SymmModel.Gen
