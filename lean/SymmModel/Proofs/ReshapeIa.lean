/-
  SymmModel.Proofs.ReshapeIa — the TOTAL element statement of the fermionic `reshape` along a plan
  with several fuse calls.  Every stored address `(ns, i)` of the result either
    * pulls back through all calls to a STORED address `(s, o)` of the input (`Pulled`, all
      intermediate addresses stored) and carries `± a.elem s o` (product of the fuse signs), or
    * lies in a zero-filled part of a fused block: the pull-back through the last calls reaches an
      array (the input or an intermediate one) that does not store the sector reached (`ZeroAt`);
      then the value is 0.
-/
import SymmModel.Proofs.ReshapeHd
namespace SymmModel.ReshapeI
open SymmModel SymmModel.Reshape SymmModel.C07 SymmModel.Reshape5 SymmModel.ReshapeH ReshapeP FuseP
open SymmModel.Lazy
set_option linter.unusedSectionVars false

variable {R : Type} [Zero R] [Neg R] [LawfulNeg R]

def Stored (a : Arr R) (s : Sector) (o : List Nat) : Prop :=
  ∃ b, alookup a.blocks s = some b ∧ inBox b.shape o = true

/-- the address `(ns, i)` of `y` lies in a zero-filled part: pulled back through the calls `rest'` of
    some split `calls = done ++ G :: rest'` (all intermediate addresses stored) and then through
    `G`, it reaches a sector that the array `G` was applied to does not store -/
def ZeroAt : Arr R → List (List (List Nat)) → Nat → Arr R → Sector → List Nat → Prop
  | _, [], _, _, _, _ => False
  | a, G :: rest, lb, y, ns, i => ∃ P y1, CallOk G P lb a.ndim ∧ fuseDispatch a G = .ok y1
      ∧ (ZeroAt y1 rest (P + G.length) y ns i
          ∨ ∃ s o σ, Pulled a (G :: rest) lb y ns i s o σ ∧ alookup a.blocks s = none)

/-- how a sign acts on a value: `sgnI` for fermionic arrays, nothing for abelian ones -/
structure SignAct (V : Int → R → R) : Prop where
  one : ∀ x, V 1 x = x
  mul : ∀ {σ τ : Int}, (σ = 1 ∨ σ = -1) → (τ = 1 ∨ τ = -1) → ∀ x, V (σ * τ) x = V σ (V τ x)
  zero : ∀ σ, V σ 0 = 0

theorem signAct_sgnI : SignAct (R := R) sgnI := ⟨sgnI_one, sgnI_mul, sgnI_zero⟩

theorem signAct_id : SignAct (R := R) (fun _ x => x) := ⟨fun _ => rfl, fun _ _ _ => rfl, fun _ => rfl⟩

theorem total_chain {V : Int → R → R} (hV : SignAct V) {Good : Arr R → Prop}
    (hstep : ∀ x G P lb y1, Good x → CallOk G P lb x.ndim → fuseDispatch x G = .ok y1 →
      Good y1 ∧ y1.ndim = x.ndim - G.flatten.length + G.length)
    (helem : ∀ x G P lb y1, Good x → CallOk G P lb x.ndim → fuseDispatch x G = .ok y1 → ElemStepV V x y1 G P) :
    ∀ (calls : List (List (List Nat))) (a : Arr R) (lb : Nat), Good a → CallsOk calls lb a.ndim →
    ∀ y, calls.foldlM fuseDispatch a = .ok y → ∀ ns i, Stored y ns i →
    (∃ s o σ, Pulled a calls lb y ns i s o σ ∧ Stored a s o ∧ y.elem ns i = V σ (a.elem s o))
    ∨ (ZeroAt a calls lb y ns i ∧ y.elem ns i = 0) := by
  intro calls
  induction calls with
  | nil =>
    intro a lb _ _ y hy ns i hst
    simp only [List.foldlM_nil, pure, Except.pure] at hy
    injection hy with hy; subst hy
    exact Or.inl ⟨ns, i, 1, ⟨rfl, rfl, rfl⟩, hst, (hV.one _).symm⟩
  | cons G rest ih =>
    intro a lb hg hc y hy ns i hst
    obtain ⟨P, hc, hc2⟩ := hc
    rw [List.foldlM_cons] at hy
    cases hy1 : fuseDispatch a G with
    | error e => rw [hy1] at hy; cases hy
    | ok y1 =>
    rw [hy1] at hy
    obtain ⟨hg1, hnd⟩ := hstep a G P lb y1 hg hc hy1
    rw [← hnd] at hc2
    rcases ih y1 (P + G.length) hg1 hc2 y hy ns i hst with ⟨s1, o1, σ1, hpr, ⟨B1, hB1, hin⟩, hval1⟩ | ⟨hz, h0⟩
    · obtain ⟨segs, hsl, hsp, hKl, hJl, hval, hbox⟩ := helem a G P lb y1 hg hc hy1 s1 B1 hB1 o1 hin
      have hP : Pulled a (G :: rest) lb y ns i
          (s1.take P ++ (segs.map (·.1)).flatten ++ s1.drop (P + G.length))
          (o1.take P ++ (segs.map (·.2)).flatten ++ o1.drop (P + G.length))
          (σ1 * fuseSignT a G (s1.take P ++ (segs.map (·.1)).flatten ++ s1.drop (P + G.length))) :=
        ⟨P, y1, s1, o1, σ1, B1, segs, hc, hy1, hpr, hB1, hin, hsl, hsp, hKl, hJl, rfl, rfl, rfl⟩
      have hv : y.elem ns i = V (σ1 * fuseSignT a G
            (s1.take P ++ (segs.map (·.1)).flatten ++ s1.drop (P + G.length)))
          (a.elem (s1.take P ++ (segs.map (·.1)).flatten ++ s1.drop (P + G.length))
            (o1.take P ++ (segs.map (·.2)).flatten ++ o1.drop (P + G.length))) := by
        rw [hval1, hval, hV.mul (pulled_pm rest y1 y _ ns i s1 o1 σ1 hpr) (fuseSignT_pm a G _)]
      cases hb : alookup a.blocks (s1.take P ++ (segs.map (·.1)).flatten ++ s1.drop (P + G.length)) with
      | some b => exact Or.inl ⟨_, _, _, hP, ⟨b, hb, hbox b hb⟩, hv⟩
      | none =>
        refine Or.inr ⟨⟨P, y1, hc, hy1, Or.inr ⟨_, _, _, hP, hb⟩⟩, ?_⟩
        rw [hv, Arr.elem_none hb, hV.zero]
    · exact Or.inr ⟨⟨P, y1, hc, hy1, Or.inl hz⟩, h0⟩

end SymmModel.ReshapeI
