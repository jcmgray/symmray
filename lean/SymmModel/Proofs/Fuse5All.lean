/-
  SymmModel.Proofs.Fuse5All — `unfuseAllF` on an array whose fused axes are exactly the multi-axis
  groups at `pos + g` is `unfuseGroupsF`: the scan of `unfuse_all` (last axis first, looking at the
  CURRENT index at every axis) takes the same decisions as the group list, because an unfuse step at
  axis `ax` changes no index before `ax`.
-/
import SymmModel.Proofs.Fuse5Veq
import SymmModel.Props.C05d
namespace SymmModel
namespace FuseP
set_option linter.unusedSectionVars false
open SymmModel.Lazy

variable {R : Type} [Zero R] [Neg R] [LawfulNeg R]

/-- one step of the scan of `unfuse_all` -/
def stepAllF (x : Arr R) (ax : Nat) : Except Err (Arr R) :=
  match x.indices[ax]? with
  | some ix => if ix.sub.isSome then Arr.unfuseF x ax else pure x
  | none => pure x

theorem unfuseAllF_eq (a : Arr R) : Arr.unfuseAllF a = (List.range a.ndim).reverse.foldlM stepAllF a := rfl

theorem foldlM_pure {ε α β : Type} (f : β → α → Except ε β) (l : List α)
    (h : ∀ ax ∈ l, ∀ x, f x ax = .ok x) (x : β) : l.foldlM f x = .ok x :=
  foldlM_skip f l x (fun ax hax => h ax hax x)

theorem scan_eq_dec (dec : Nat → Bool) (axs : List Nat) (hsorted : axs.Pairwise (· > ·)) (x : Arr R)
    (hv : x.validB = true) (hf : x.fermi = true)
    (hdec : ∀ ax ∈ axs, ∃ ix, x.indices[ax]? = some ix ∧ ix.sub.isSome = dec ax) :
    axs.foldlM stepAllF x = axs.foldlM (fun x ax => if dec ax then Arr.unfuseF x ax else pure x) x := by
  induction axs generalizing x with
  | nil => rfl
  | cons ax rest ih =>
    obtain ⟨hlt, hrest⟩ := List.pairwise_cons.1 hsorted
    obtain ⟨ix, hix, hd⟩ := hdec ax (by simp)
    rw [List.foldlM_cons, List.foldlM_cons]
    have hstep : stepAllF x ax = (if dec ax then Arr.unfuseF x ax else pure x) := by
      simp only [stepAllF, hix, hd]
    rw [hstep]
    cases hda : dec ax with
    | false =>
      simp only [Bool.false_eq_true, if_false]
      exact ih hrest x hv hf (fun ax' hax' => hdec ax' (List.mem_cons_of_mem _ hax'))
    | true =>
      simp only [if_true]
      rw [hda] at hd
      obtain ⟨q, hq⟩ := Option.isSome_iff_exists.1 hd
      obtain ⟨subs, exts⟩ := q
      obtain ⟨y, hy, hyi, _⟩ := unfuseF_val x ax ix subs exts hv hix hq
      obtain ⟨hVy, hfy⟩ := ValidP.unfuseF_valid' x y ax ((ValidP.validB_iff x).1 hv) hf hy
      rw [hy]
      show rest.foldlM stepAllF y = rest.foldlM _ y
      apply ih hrest y ((ValidP.validB_iff y).2 hVy) hfy
      intro ax' hax'
      obtain ⟨ix', hix', hd'⟩ := hdec ax' (List.mem_cons_of_mem _ hax')
      refine ⟨ix', ?_, hd'⟩
      have hl : ax' < ax := hlt ax' hax'
      have hp : ax < x.indices.length := getElem?_lt hix
      rw [hyi, replaceWithSeq_split, List.append_assoc,
        List.getElem?_append_left (by rw [List.length_take]; omega), List.getElem?_take_of_lt hl]
      exact hix'

theorem unfuseAllF_eq_groups (groups : List (List Nat)) (pos : Nat) (y : Arr R)
    (hv : y.validB = true) (hf : y.fermi = true) (hn : pos + groups.length ≤ y.ndim)
    (hidx : ∀ ax ix, y.indices[ax]? = some ix →
      ix.sub.isSome = (decide (pos ≤ ax) && multiB groups (ax - pos))) :
    Arr.unfuseAllF y = C05.unfuseGroupsF groups pos y := by
  rw [unfuseAllF_eq]
  have hsorted : (List.range y.ndim).reverse.Pairwise (· > ·) := by
    rw [List.pairwise_reverse]; exact List.pairwise_lt_range
  rw [scan_eq_dec (fun ax => decide (pos ≤ ax) && multiB groups (ax - pos)) _ hsorted y hv hf]
  · obtain ⟨k, hk⟩ : ∃ k, y.ndim = pos + (groups.length + k) := ⟨y.ndim - pos - groups.length, by omega⟩
    rw [hk, List.range_add, List.reverse_append, List.foldlM_append, List.range_add, List.map_append,
      List.reverse_append, List.foldlM_append]
    rw [foldlM_pure _ (((List.range k).map (fun x => groups.length + x)).map (fun x => pos + x)).reverse]
    · simp only [bind, Except.bind]
      have hfront : ∀ z : Arr R, (List.range pos).reverse.foldlM
          (fun x ax => if (decide (pos ≤ ax) && multiB groups (ax - pos)) = true then Arr.unfuseF x ax else pure x) z
          = .ok z := by
        intro z
        apply foldlM_pure
        intro ax hax x
        simp only [List.mem_reverse, List.mem_range] at hax
        have : decide (pos ≤ ax) = false := by simp; omega
        simp [this]; rfl
      simp only [hfront]
      have hmid : ((List.range groups.length).map (fun x => pos + x)).reverse.foldlM
          (fun x ax => if (decide (pos ≤ ax) && multiB groups (ax - pos)) = true then Arr.unfuseF x ax else pure x) y
          = C05.unfuseGroupsF groups pos y := by
        unfold C05.unfuseGroupsF
        rw [← List.map_reverse, List.foldlM_map]
        congr 1
        funext x g
        simp
      rw [hmid]
      cases C05.unfuseGroupsF groups pos y <;> rfl
    · intro ax hax x
      simp only [List.mem_reverse, List.mem_map, List.mem_range] at hax
      obtain ⟨_, ⟨j, _, rfl⟩, rfl⟩ := hax
      have : multiB groups (groups.length + j) = false := by
        simp only [multiB]
        rw [List.getElem?_eq_none (by omega)]
      simp [this]; rfl
  · intro ax hax
    simp only [List.mem_reverse, List.mem_range] at hax
    have hlt : ax < y.indices.length := hax
    exact ⟨y.indices[ax], List.getElem?_eq_getElem hlt, hidx ax _ (List.getElem?_eq_getElem hlt)⟩

end FuseP
end SymmModel
