/-
  SymmModel.Proofs.Reshape3c — the planner `calc_reshape_args` for all shapes, targets and sub-sizes (C07), part c: the inner loops of the
  squeeze phase on flat label lists (`bump`, `absorb`, `skipS`, `markLeft`), each as one equation: on a
  list in which the run of "s" labels is written out the loop returns the closed form of its result,
  `fuse_sizes` changing by `List.modify`.  Success, the result and the effect on `fuse_sizes` are read
  off the same line.
-/
import SymmModel.Proofs.Reshape3b
namespace SymmModel.Reshape3
open SymmModel SymmModel.Reshape SymmModel.C07

theorem bump_eq : ∀ (fs : List Nat) (k : Nat), k < fs.length → bump fs k = .ok (fs.modify k (· + 1)) := by
  intro fs
  induction fs with
  | nil => intro k h; simp at h
  | cons x xs ih =>
    intro k h
    cases k with
    | zero => rfl
    | succ k => simp only [bump, ih k (by simpa using h)]; rfl

theorem modify_add (fs : List Nat) (k a b : Nat) :
    (fs.modify k (· + a)).modify k (· + b) = fs.modify k (· + (a + b)) := by
  apply List.ext_getElem?
  intro j
  simp only [List.getElem?_modify]
  cases fs[j]? with
  | none => rfl
  | some v => by_cases h : k = j <;> simp [h, Nat.add_assoc]

theorem modify_add_zero (fs : List Nat) (k : Nat) : fs.modify k (· + 0) = fs := by
  apply List.ext_getElem?
  intro j
  simp only [List.getElem?_modify]
  cases fs[j]? <;> simp

theorem set_append_cons {α : Type} (T1 : List α) (a b : α) (T2 : List α) :
    (T1 ++ a :: T2).set T1.length b = T1 ++ b :: T2 := by
  induction T1 with
  | nil => rfl
  | cons x T1 ih => simp [ih]

theorem getElem?_append_cons {α : Type} (T1 : List α) (a : α) (T2 : List α) :
    (T1 ++ a :: T2)[T1.length]? = some a := by
  simp

theorem absorb_eq (gk : Nat) : ∀ (m fuel : Nat) (T1 T2 : List Lbl) (fs : List Nat),
    (∀ l T2', T2 = l :: T2' → l.isS = false) → gk < fs.length → m + 1 ≤ fuel →
    absorb (some gk) fuel T1.length (T1 ++ List.replicate (m + 1) Lbl.s ++ T2) fs
      = .ok (T1.length + (m + 1), T1 ++ List.replicate (m + 1) (Lbl.g gk) ++ T2,
             fs.modify gk (· + (m + 1))) := by
  intro m
  induction m with
  | zero =>
    intro fuel T1 T2 fs hT2 hk hf
    obtain ⟨f, rfl⟩ : ∃ f, fuel = f + 1 := ⟨fuel - 1, by omega⟩
    have e0 : T1 ++ List.replicate (0 + 1) Lbl.s ++ T2 = T1 ++ Lbl.s :: T2 := by simp
    have hnext : (T1 ++ Lbl.g gk :: T2)[T1.length + 1]? = T2[0]? := by
      rw [List.getElem?_append_right (by omega)]; simp
    rw [e0]
    simp only [absorb, useG, pure, Except.pure, set_append_cons, bump_eq fs gk hk, hnext]
    cases T2 with
    | nil => simp
    | cons l T2' => simp [hT2 l T2' rfl]
  | succ m ih =>
    intro fuel T1 T2 fs hT2 hk hf
    obtain ⟨f, rfl⟩ : ∃ f, fuel = f + 1 := ⟨fuel - 1, by omega⟩
    have e0 : T1 ++ List.replicate (m + 1 + 1) Lbl.s ++ T2
        = T1 ++ Lbl.s :: (List.replicate (m + 1) Lbl.s ++ T2) := by simp [List.replicate_succ]
    have hnext : (T1 ++ Lbl.g gk :: (List.replicate (m + 1) Lbl.s ++ T2))[T1.length + 1]? = some Lbl.s := by
      rw [List.getElem?_append_right (by omega)]; simp [List.replicate_succ]
    have e : T1 ++ Lbl.g gk :: (List.replicate (m + 1) Lbl.s ++ T2)
        = (T1 ++ [Lbl.g gk]) ++ List.replicate (m + 1) Lbl.s ++ T2 := by simp
    have e2 : T1.length + 1 = (T1 ++ [Lbl.g gk]).length := by simp
    rw [e0]
    simp only [absorb, useG, pure, Except.pure, set_append_cons, bump_eq fs gk hk, hnext, Lbl.isS, if_true]
    rw [e, e2, ih f (T1 ++ [Lbl.g gk]) T2 _ hT2 (by simpa using hk) (by omega), modify_add]
    simp [List.replicate_succ, Nat.add_comm, Nat.add_left_comm]

theorem skipS_eq : ∀ (n fuel : Nat) (T1 : List Lbl) (l : Lbl) (T2 : List Lbl), l.isS = false →
    n + 1 ≤ fuel →
    skipS (T1 ++ List.replicate (n + 1) Lbl.s ++ l :: T2) fuel T1.length = .ok (T1.length + (n + 1), l) := by
  intro n
  induction n with
  | zero =>
    intro fuel T1 l T2 hl hf
    obtain ⟨f, rfl⟩ : ∃ f, fuel = f + 1 := ⟨fuel - 1, by omega⟩
    have hnext : (T1 ++ List.replicate (0 + 1) Lbl.s ++ l :: T2)[T1.length + 1]? = some l := by
      rw [List.getElem?_append_right (by simp)]; simp
    simp only [skipS, hnext, hl, Bool.false_eq_true, if_false, pure, Except.pure]
  | succ n ih =>
    intro fuel T1 l T2 hl hf
    obtain ⟨f, rfl⟩ : ∃ f, fuel = f + 1 := ⟨fuel - 1, by omega⟩
    have hnext : (T1 ++ List.replicate (n + 1 + 1) Lbl.s ++ l :: T2)[T1.length + 1]? = some Lbl.s := by
      rw [List.append_assoc, List.getElem?_append_right (by omega)]
      simp [List.replicate_succ]
    have e : T1 ++ List.replicate (n + 1 + 1) Lbl.s ++ l :: T2
        = (T1 ++ [Lbl.s]) ++ List.replicate (n + 1) Lbl.s ++ l :: T2 := by simp [List.replicate_succ]
    have e2 : T1.length + 1 = (T1 ++ [Lbl.s]).length := by simp
    simp only [skipS, hnext, Lbl.isS, if_true]
    rw [e, e2, ih f (T1 ++ [Lbl.s]) l T2 hl (by omega)]
    simp; omega

theorem markLeft_eq (gk : Nat) : ∀ (L T0 T3 : List Lbl) (fs : List Nat), gk < fs.length →
    markLeft gk L.length T0.length (T0 ++ L ++ T3) fs
      = .ok (T0 ++ List.replicate L.length (Lbl.g gk) ++ T3, fs.modify gk (· + L.length)) := by
  intro L
  induction L with
  | nil =>
    intro T0 T3 fs _
    simp only [List.length_nil, markLeft, pure, Except.pure, modify_add_zero]
    simp
  | cons a L ih =>
    intro T0 T3 fs hk
    have e : (T0 ++ a :: L ++ T3).set T0.length (Lbl.g gk) = (T0 ++ [Lbl.g gk]) ++ L ++ T3 := by
      rw [List.append_assoc, List.cons_append, set_append_cons]; simp
    have e2 : T0.length + 1 = (T0 ++ [Lbl.g gk]).length := by simp
    simp only [List.length_cons, markLeft, bump_eq fs gk hk]
    rw [e, e2, ih (T0 ++ [Lbl.g gk]) T3 _ (by simpa using hk), modify_add]
    simp [List.replicate_succ, Nat.add_comm]

theorem sqLoop_end {term : List Lbl} {i : Nat} (h : term.length ≤ i) (fuel : Nat) (fs : List Nat)
    (g : Option Nat) : sqLoop (fuel + 1) i term fs g = .ok (term, fs) := by
  simp only [sqLoop, List.getElem?_eq_none h]; rfl

theorem sqLoop_next {term : List Lbl} {i : Nat} {l : Lbl} (h : term[i]? = some l) (hl : l.isS = false)
    (fuel : Nat) (fs : List Nat) (g : Option Nat) :
    sqLoop (fuel + 1) i term fs g = sqLoop fuel (i + 1) term fs g := by
  simp only [sqLoop, h, hl, Bool.false_eq_true, if_false]

/-- `sqLoop` at the first of `m+1` "s" labels whose left neighbour is a group label: the run joins that
    group, the loop goes on behind the label that follows the run -/
theorem sqLoop_run_g (k m fuel : Nat) (T1 T2 : List Lbl) (fs : List Nat) (g : Option Nat)
    (hleft : T1[T1.length - 1]? = some (Lbl.g k)) (hT2 : ∀ l T2', T2 = l :: T2' → l.isS = false)
    (hk : k < fs.length) :
    sqLoop (fuel + 1) T1.length (T1 ++ List.replicate (m + 1) Lbl.s ++ T2) fs g
      = sqLoop fuel (T1.length + (m + 1) + 1) (T1 ++ List.replicate (m + 1) (Lbl.g k) ++ T2)
          (fs.modify k (· + (m + 1))) (some k) := by
  have hT1 : T1.length - 1 < T1.length := (List.getElem?_eq_some_iff.mp hleft).1
  have hcur : (T1 ++ List.replicate (m + 1) Lbl.s ++ T2)[T1.length]? = some Lbl.s := by
    rw [List.append_assoc, List.getElem?_append_right (Nat.le_refl _)]; simp [List.replicate_succ]
  have hl : (T1 ++ List.replicate (m + 1) Lbl.s ++ T2)[T1.length - 1]? = some (Lbl.g k) := by
    rw [List.append_assoc, List.getElem?_append_left hT1]; exact hleft
  simp only [sqLoop, hcur, Lbl.isS, if_true, hl]
  rw [absorb_eq k m _ T1 T2 fs hT2 hk (by simp; omega)]

/-- the same with an "o" label as left neighbour: it opens the new group `g{fs.length}` -/
theorem sqLoop_run_o (m fuel : Nat) (T0 T2 : List Lbl) (fs : List Nat) (g : Option Nat)
    (hT2 : ∀ l T2', T2 = l :: T2' → l.isS = false) :
    sqLoop (fuel + 1) (T0.length + 1) (T0 ++ Lbl.o :: (List.replicate (m + 1) Lbl.s ++ T2)) fs g
      = sqLoop fuel (T0.length + 1 + (m + 1) + 1)
          (T0 ++ Lbl.g fs.length :: (List.replicate (m + 1) (Lbl.g fs.length) ++ T2))
          ((fs ++ [1]).modify fs.length (· + (m + 1))) (some fs.length) := by
  have hcur : (T0 ++ Lbl.o :: (List.replicate (m + 1) Lbl.s ++ T2))[T0.length + 1]? = some Lbl.s := by
    rw [List.getElem?_append_right (by omega)]; simp [List.replicate_succ]
  have hl : (T0 ++ Lbl.o :: (List.replicate (m + 1) Lbl.s ++ T2))[T0.length]? = some Lbl.o := by simp
  have e : T0 ++ Lbl.g fs.length :: (List.replicate (m + 1) Lbl.s ++ T2)
      = (T0 ++ [Lbl.g fs.length]) ++ List.replicate (m + 1) Lbl.s ++ T2 := by simp
  have e2 : T0.length + 1 = (T0 ++ [Lbl.g fs.length]).length := by simp
  simp only [sqLoop, hcur, Lbl.isS, if_true, Nat.add_sub_cancel, hl, set_append_cons]
  rw [e, e2, absorb_eq fs.length m _ _ T2 (fs ++ [1]) hT2 (by simp) (by simp; omega)]
  simp

theorem squeezePhase_start {l : Lbl} (hl : l.isS = false) (T : List Lbl) (fs : List Nat) :
    squeezePhase (l :: T) fs = sqLoop ((l :: T).length + 1) 1 (l :: T) fs none := by
  simp only [squeezePhase, List.getElem?_cons_zero, hl, Bool.false_eq_true, if_false]

/-- `n+1` leading "s" labels followed by a group label join that group -/
theorem squeezePhase_lead_g (k n : Nat) (T2 : List Lbl) (fs : List Nat) (hk : k < fs.length) :
    squeezePhase (List.replicate (n + 1) Lbl.s ++ Lbl.g k :: T2) fs
      = sqLoop ((List.replicate (n + 1) (Lbl.g k) ++ Lbl.g k :: T2).length + 1) (n + 1 + 1)
          (List.replicate (n + 1) (Lbl.g k) ++ Lbl.g k :: T2) (fs.modify k (· + (n + 1))) (some k) := by
  have hs := skipS_eq n ((List.replicate (n + 1) Lbl.s ++ Lbl.g k :: T2).length + 1) [] (Lbl.g k) T2 rfl
    (by simp; omega)
  have hm := markLeft_eq k (List.replicate (n + 1) Lbl.s) [] (Lbl.g k :: T2) fs hk
  simp only [List.nil_append, List.length_nil, Nat.zero_add, List.length_replicate] at hs hm
  simp only [squeezePhase, List.replicate_succ, List.cons_append, List.getElem?_cons_zero, Lbl.isS, if_true]
  simp only [← List.replicate_succ, ← List.cons_append, hs, useG, pure, Except.pure, hm]

/-- followed by an "o" label they join the new group `g{fs.length}` it opens -/
theorem squeezePhase_lead_o (n : Nat) (T2 : List Lbl) (fs : List Nat) :
    squeezePhase (List.replicate (n + 1) Lbl.s ++ Lbl.o :: T2) fs
      = sqLoop ((List.replicate (n + 1) (Lbl.g fs.length) ++ Lbl.g fs.length :: T2).length + 1) (n + 1 + 1)
          (List.replicate (n + 1) (Lbl.g fs.length) ++ Lbl.g fs.length :: T2)
          ((fs ++ [1]).modify fs.length (· + (n + 1))) (some fs.length) := by
  have hs := skipS_eq n ((List.replicate (n + 1) Lbl.s ++ Lbl.o :: T2).length + 1) [] Lbl.o T2 rfl
    (by simp; omega)
  have hm := markLeft_eq fs.length (List.replicate (n + 1) Lbl.s) [] (Lbl.g fs.length :: T2) (fs ++ [1])
    (by simp)
  have hset := set_append_cons (List.replicate (n + 1) Lbl.s) Lbl.o (Lbl.g fs.length) T2
  simp only [List.nil_append, List.length_nil, Nat.zero_add, List.length_replicate] at hs hm hset
  simp only [squeezePhase, List.replicate_succ, List.cons_append, List.getElem?_cons_zero, Lbl.isS, if_true]
  simp only [← List.replicate_succ, ← List.cons_append, hs, useG, pure, Except.pure, hset, hm]

end SymmModel.Reshape3
