/-
  SymmModel.Proofs.ReconEigh — `ev.multiply_diagonal(w, 1) @ ev.dagger()` for a fermionic
  charge-zero matrix that carries a (necessarily even) sorted list of non-dual labels: the labels
  of `ev` and of `ev†` annihilate pairwise (`NormNet.resolve_nested`) without a sign.
-/
import SymmModel.Proofs.ReconLabels
import SymmModel.Proofs.NormNetLabels

namespace SymmModel
namespace ReconP
open LinalgLemmas OddposP

variable {R : Type}

/-- `FermionicArray.dagger()` of an array without pending signs whose conjugate charge is even
    (any labels) -/
theorem daggerF_even [Zero R] [Conj R] (e : Arr R) (hp : e.phases = [])
    (hpar : e.sym.parity (e.sym.sign e.charge true) = false) :
    (e.daggerF).blocks = e.blocks.map (fun p =>
        (p.1.reverse, (p.2.conjK).transposeK (Arr.reversedAxes e.ndim)))
    ∧ (e.daggerF).phases = [] ∧ (e.daggerF).oddpos = Arr.oddposDag e.oddpos
    ∧ (e.daggerF).indices = e.indices.reverse.map Index.conj
    ∧ (e.daggerF).sym = e.sym := by
  have hph : e.blocks.filterMap (fun (p : Sector × Blk R) =>
      if e.getPhase p.1 == -1 then some (p.1.reverse, (-1 : Int)) else none) = [] := by
    rw [List.filterMap_eq_nil_iff]
    intro p _
    simp [Arr.getPhase, hp, alookup]
  unfold Arr.daggerF
  simp only [Arr.parity, hpar, Bool.false_and, Bool.false_eq_true, if_false]
  exact ⟨trivial, hph, trivial, trivial, trivial⟩

/-- the outputs of `eigh` on a fermionic charge-zero matrix: `ev` is the synchronised input with
    the eigenvector blocks, and `ev.multiply_diagonal(w, 1)` has the blocks `v · diag(± w)`, `±` the
    sign `eigh_fermionic` puts on the eigenvalues of the odd sectors of a non-dual column index -/
theorem eigh_pieces [Zero R] [Mul R] [Neg R] (K : Kernels R) {a : Arr R} (H : EighInput a)
    (hf : a.fermi = true) {i0 i1 : Index} (hi : (syncIf a).indices = [i0, i1]) :
    ∃ W EV, eighA K a = .ok (W, EV)
      ∧ EV = { syncIf a with blocks := (syncIf a).blocks.map (fun p => (p.1, (K.eigh p.2).2)) }
      ∧ (multiplyDiagonal EV W 1).blocks = (syncIf a).blocks.map (fun p => (p.1,
          (K.eigh p.2).2.mulAxisK (if (!i1.dual && (syncIf a).sym.parity (colOf p.1))
            then (K.eigh p.2).1.negK else (K.eigh p.2).1) 1)) := by
  have HA := eighInput_syncIf H
  have hi1 : (syncIf a).indices.getD 1 default = i1 := by rw [hi]; rfl
  have hfA : (syncIf a).fermi = true := (syncIf_fields a).2.1.trans hf
  have hcore := eighCore_eq K HA
  generalize hW : (⟨let ev := (syncIf a).blocks.map (fun p => (colOf p.1, (K.eigh p.2).1))
        if (syncIf a).fermi && !((syncIf a).indices.getD 1 default).dual then
          ev.map (fun q => if (syncIf a).sym.parity q.1 then (q.1, q.2.negK) else (q.1, q.2))
        else ev⟩ : BVec R) = W at hcore
  have hWb : W.blocks = (syncIf a).blocks.map (fun p => (colOf p.1,
      if (!i1.dual && (syncIf a).sym.parity (colOf p.1)) then (K.eigh p.2).1.negK
      else (K.eigh p.2).1)) := by
    rw [← hW]
    simp only [hfA, hi1, Bool.true_and]
    by_cases hd : i1.dual = true
    · simp [hd]
    · simp only [hd, Bool.not_false, Bool.true_and, if_true, List.map_map, Function.comp_def]
      apply List.map_congr_left
      intro p _
      split <;> rfl
  exact ⟨W, _, by rw [eighA_eq_core]; exact hcore, rfl,
    multiplyDiagonal_aligned HA.hv HA.h2 (fun p => (K.eigh p.2).2)
      (fun p => if (!i1.dual && (syncIf a).sym.parity (colOf p.1)) then (K.eigh p.2).1.negK
        else (K.eigh p.2).1) _ W rfl hWb⟩

theorem labels_even {a : Arr R} (hv : a.validB = true) (hf : a.fermi = true)
    (hc : a.charge = a.sym.zero) : a.oddpos.length % 2 = 0 := by
  have hp : a.parity = false := by
    show a.sym.parity a.charge = false
    rw [hc]; exact Sym.parity_zero _
  have := Arr.validB_labels hv hf
  rw [hp] at this
  rcases Nat.mod_two_eq_zero_or_one a.oddpos.length with e | e
  · exact e
  · rw [e] at this; simp at this

theorem eigh_recon_fermi_labels [Zero R] [Add R] [Mul R] [Neg R] [Conj R] [SignLaws R]
    (hc0 : Conj.conj (0 : R) = 0) {K : Kernels R} (hK : K.ShapeOk) {a : Arr R} (H : EighInput a)
    (hf : a.fermi = true) (hlab : SortedLabels a.oddpos) (hket : ∀ l ∈ a.oddpos, l.2 = false)
    (hE : ∀ p ∈ a.phaseSync.blocks, K.EighBlock p.2) :
    ∃ w ev y, eighA K a = .ok (w, ev) ∧ Arr.matmulF (multiplyDiagonal ev w 1) ev.daggerF = .ok y
      ∧ y.oddpos = [] ∧ ∀ s off, AddrOf a s off → y.elem s off = a.elem s off := by
  have HA := eighInput_syncIf H
  obtain ⟨f1, f2, f3, f4, f5, f6⟩ := syncIf_fields a
  obtain ⟨i0, i1, hi⟩ := ndim_two HA.h2
  have hAph : (syncIf a).phases = [] := syncIf_phases a H.hv
  have hAo : (syncIf a).oddpos = a.oddpos := f5
  obtain ⟨W, EV, he, hEV, hLb⟩ := eigh_pieces K H hf hi
  have hEVb : EV.blocks = (syncIf a).blocks.map (fun p => (p.1, (K.eigh p.2).2)) := by rw [hEV]
  have hEVp : EV.phases = [] := by rw [hEV]; exact hAph
  have hEVo : EV.oddpos = a.oddpos := by rw [hEV]; exact hAo
  have hEVi : EV.indices = [i0, i1] := by rw [hEV]; exact hi
  have hEVn : EV.ndim = 2 := by simp [Arr.ndim, hEVi]
  have hLp : (multiplyDiagonal EV W 1).phases = [] := hEVp
  have hLo : (multiplyDiagonal EV W 1).oddpos = a.oddpos := hEVo
  have hLn : (multiplyDiagonal EV W 1).ndim = 2 := hEVn
  have hEVc : EV.sym.parity (EV.sym.sign EV.charge true) = false := by
    rw [hEV]
    show (syncIf a).sym.parity ((syncIf a).sym.sign (syncIf a).charge true) = false
    rw [HA.hc, Sym.sign_zero]
    exact Sym.parity_zero _
  obtain ⟨hDb, hDp, hDo, hDi, hDs⟩ := daggerF_even EV hEVp hEVc
  have hDi' : EV.daggerF.indices = [i1.conj, i0.conj] := by rw [hDi, hEVi]; rfl
  have hDb' : EV.daggerF.blocks = (syncIf a).blocks.map (fun p =>
      ([colOf p.1, colOf p.1], ((K.eigh p.2).2.conjK).transposeK [1, 0])) := by
    rw [hDb, hEVb, List.map_map, hEVn]
    apply List.map_congr_left
    intro p hp
    obtain ⟨c, m, hs, _⟩ := eigh_block HA (s := p.1) (b := p.2) hp
    simp only [Function.comp, hs]
    rfl
  have hDnd : EV.daggerF.sectors.Nodup := by
    show (EV.daggerF.blocks.map (·.1)).Nodup
    rw [hDb', List.map_map]
    exact nodup_map_diag (blocks_cols_nodup HA.hv HA.h2)
  have hB2b : (if i1.conj.dual then EV.daggerF.phaseFlip [0] else EV.daggerF).phaseSync.blocks
      = (syncIf a).blocks.map (fun p => ([colOf p.1, colOf p.1],
          if (!i1.dual && (syncIf a).sym.parity (colOf p.1))
          then (((K.eigh p.2).2.conjK).transposeK [1, 0]).negK
          else ((K.eigh p.2).2.conjK).transposeK [1, 0])) := by
    by_cases hd : i1.conj.dual = true
    · rw [if_pos hd]
      have hfb : (EV.daggerF.phaseFlip [0]).blocks = (syncIf a).blocks.map (fun p =>
          ([colOf p.1, colOf p.1], ((K.eigh p.2).2.conjK).transposeK [1, 0])) := by
        rw [(phaseFlip_fields _ [0]).blocks, hDb']
      rw [phaseSync_blocks_map _ (syncIf a).blocks (fun p => [colOf p.1, colOf p.1])
        (fun p => ((K.eigh p.2).2.conjK).transposeK [1, 0]) hfb]
      apply List.map_congr_left
      intro p hp
      rw [phaseFlip0_phases _ hDp hDnd, alookup_flagged]
      have hmem : [colOf p.1, colOf p.1] ∈ EV.daggerF.sectors := by
        simp only [Arr.sectors, hDb', List.map_map, List.mem_map, Function.comp]
        exact ⟨p, hp, rfl⟩
      have hd' : i1.dual = false := by
        rw [Index.conj_dual] at hd; simpa using hd
      have hsym : EV.daggerF.sym = (syncIf a).sym := by
        rw [hDs, hEV]
      simp only [hmem, decide_true, Bool.true_and, List.getD_cons_zero, hd', Bool.not_false, hsym]
    · rw [if_neg hd, phaseSync_blocks_nil _ hDp, hDb']
      have hd' : i1.dual = true := by
        rw [Index.conj_dual] at hd; simpa using hd
      simp [hd']
  have hB2o : (if i1.conj.dual then EV.daggerF.phaseFlip [0] else EV.daggerF).phaseSync.oddpos
      = Arr.oddposDag a.oddpos := by
    show (if i1.conj.dual then EV.daggerF.phaseFlip [0] else EV.daggerF).oddpos = _
    split
    · rw [(phaseFlip_fields _ [0]).oddpos, hDo, hEVo]
    · rw [hDo, hEVo]
  have hA2b := (phaseSync_blocks_nil _ hLp).trans hLb
  have hcb := tdot_blocks_aligned HA.hv HA.h2
    (fun p => (K.eigh p.2).2.mulAxisK
      (if (!i1.dual && (syncIf a).sym.parity (colOf p.1)) then (K.eigh p.2).1.negK
       else (K.eigh p.2).1) 1)
    (fun p => if (!i1.dual && (syncIf a).sym.parity (colOf p.1))
      then (((K.eigh p.2).2.conjK).transposeK [1, 0]).negK
      else ((K.eigh p.2).2.conjK).transposeK [1, 0]) _ _ hA2b hB2b
  have hm : Arr.matmulF (multiplyDiagonal EV W 1) EV.daggerF = .ok
      { tensordotBlockwise (multiplyDiagonal EV W 1).phaseSync
          (if i1.conj.dual then EV.daggerF.phaseFlip [0] else EV.daggerF).phaseSync [0] [1] [0] [1]
        with oddpos := [] } := by
    have hLpar : (multiplyDiagonal EV W 1).phaseSync.parity = false := by
      show EV.sym.parity EV.charge = false
      rw [hEV]
      show (syncIf a).sym.parity (syncIf a).charge = false
      rw [HA.hc]
      exact Sym.parity_zero _
    have heven := labels_even H.hv hf H.hc
    have hns : NormNet.nestSign (Arr.oddposDag a.oddpos) = 1 := by
      rw [NormNet.nestSign_dual _ (NormNet.oddposDag_all_dual _ hket), Lazy.oddposDag_length, heven]
      rfl
    rw [matmulF_eq_22 _ _ hLn _ _ hDi',
      NormNet.resolve_nested _ _ _ (Arr.oddposDag a.oddpos)
        (by show (multiplyDiagonal EV W 1).oddpos = _; rw [hLo, Lazy.oddposDag_involutive]) hB2o
        (by rw [Lazy.oddposDag_involutive]; exact hlab.1)
        (NormNet.oddposDag_distinct _ hlab.2),
      hLpar, hns]
    rfl
  refine ⟨W, EV, _, he, hm, rfl, ?_⟩
  · intro s off ha
    rw [← syncIf_elem SignLaws.neg_zero a s off]
    apply elem_of_blocks_map HA.hv HA.h2 _ _ hcb rfl hAph _ s off (addrOf_syncIf H.hv ha)
    intro p hp i j hi' hj'
    obtain ⟨c, m, hs, hsh, hwf, _⟩ := eigh_block HA (s := p.1) (b := p.2) hp
    simp only [hsh, List.getD_cons_zero, List.getD_cons_succ] at hi' hj'
    obtain ⟨a1, _, a3, _⟩ := hK.eigh p.2 m hsh hwf
    have hEp : K.EighBlock p.2 := hE p (by rw [← syncIf_blocks_fermi a hf]; exact hp)
    rw [tensordotK_matmul_get _ _ (by rw [mulAxisK_shape]; exact a3)
      (show (if (!i1.dual && (syncIf a).sym.parity (colOf p.1)) = true
          then (((K.eigh p.2).2.conjK).transposeK [1, 0]).negK
          else ((K.eigh p.2).2.conjK).transposeK [1, 0]).shape = [m, m] by
        split
        · rw [negK_shape]; exact transposeK10_shape _ (by rw [conjK_shape]; exact a3)
        · exact transposeK10_shape _ (by rw [conjK_shape]; exact a3)) hi' hj',
      ← hEp m hsh i j hi' hj']
    apply foldl_ext'
    intro acc t ht
    have ht' := List.mem_range.mp ht
    rw [mulAxisK_get _ _ a3 hi' ht']
    have hWt : (if (!i1.dual && (syncIf a).sym.parity (colOf p.1)) = true then (K.eigh p.2).1.negK
        else (K.eigh p.2).1).get [t]
        = if (!i1.dual && (syncIf a).sym.parity (colOf p.1)) then - (K.eigh p.2).1.get [t]
          else (K.eigh p.2).1.get [t] := by
      split
      · rw [negK_get SignLaws.neg_zero]
      · rfl
    have hCt : (if (!i1.dual && (syncIf a).sym.parity (colOf p.1)) = true
          then (((K.eigh p.2).2.conjK).transposeK [1, 0]).negK
          else ((K.eigh p.2).2.conjK).transposeK [1, 0]).get [t, j]
        = if (!i1.dual && (syncIf a).sym.parity (colOf p.1))
          then - Conj.conj ((K.eigh p.2).2.get [j, t]) else Conj.conj ((K.eigh p.2).2.get [j, t]) := by
      split
      · rw [negK_get SignLaws.neg_zero, transposeK10_get _ (by rw [conjK_shape]; exact a3) ht' hj',
          conjK_get hc0]
      · rw [transposeK10_get _ (by rw [conjK_shape]; exact a3) ht' hj', conjK_get hc0]
    rw [hWt, hCt, signed_term]

end ReconP
end SymmModel
