/-
  SymmModel.Proofs.ReshapeRound — the first loop of `calc_reshape_args` (symmray/abelian_core.py,
  `while i < ndim_old and j < ndim_new`; model: `Reshape.mainLoop`), one iteration at a time.

  An iteration reads `di = shape[i]`, `dj = newshape[j]`, `subsizes[i]` and decides among five branches
  (unfuse / output dimension already / squeezed / expansion / need to fuse) or raises.  `roundF` is that
  decision as a function of what was read; `mainLoop_succ` states the loop in terms of it and is the only place
  where `mainLoop` is unfolded.  `Round` lists the iterations that do not raise, branch by branch, with the
  inner `while di < dj` of the fuse branch in closed form (`ScanAt`).  Statements about runs that end well
  use `mainLoop_round` (forwards) and `mainLoop_ok` / `mainLoop_induct` (backwards); statements that compare
  two runs, errors included, use `mainLoop_succ`.
-/
import SymmModel.Model.Reshape
import SymmModel.Proofs.BaseBox
namespace SymmModel.C07
open SymmModel

theorem beqNats_iff {a b : List Nat} : beqNats a b = true ↔ a = b := by
  induction a generalizing b with
  | nil => cases b <;> simp [beqNats]
  | cons x xs ih =>
    cases b with
    | nil => simp [beqNats]
    | cons y ys => simp [beqNats, ih]

theorem beqNats_refl (a : List Nat) : beqNats a a = true := beqNats_iff.mpr rfl

end SymmModel.C07

namespace SymmModel.Reshape
open SymmModel SymmModel.C07

/-- the inner loop of the fuse branch, `while di < dj: di *= shape[i]; i += 1`, entered with product `di` at
    position `i`, stops after exactly `n` further axes: the running product first reaches `dj` there -/
structure ScanAt (shape : List Nat) (dj di i n : Nat) : Prop where
  le : i + n ≤ shape.length
  below : ∀ m, m < n → di * prod ((shape.drop i).take m) < dj
  reach : dj ≤ di * prod ((shape.drop i).take n)

theorem prod_take_succ {shape : List Nat} {i d : Nat} (h : shape[i]? = some d) (m : Nat) :
    prod ((shape.drop i).take (m + 1)) = d * prod ((shape.drop (i + 1)).take m) := by
  obtain ⟨hi, hv⟩ := List.getElem?_eq_some_iff.mp h
  rw [List.drop_eq_getElem_cons hi, hv, List.take_succ_cons]; rfl

theorem fuseScan_iff (shape : List Nat) (dj : Nat) (lbl : Lbl) :
    ∀ (fuel di i s : Nat) (term : List Lbl) (r : Nat × Nat × Nat × List Lbl), i ≤ shape.length →
    (fuseScan shape dj lbl fuel di i s term = .ok r ↔
      ∃ n, n < fuel ∧ ScanAt shape dj di i n ∧
        r = (di * prod ((shape.drop i).take n), i + n, s + n, term ++ List.replicate n lbl)) := by
  intro fuel
  induction fuel with
  | zero =>
    intro di i s term r _
    simp [fuseScan, throw, throwThe, MonadExceptOf.throw]
  | succ fuel ih =>
    intro di i s term r hile
    simp only [fuseScan]
    by_cases hb : Nat.blt di dj = true
    · have hlt : di < dj := by simp [Nat.blt] at hb; omega
      rw [if_pos hb]
      cases hd : shape[i]? with
      | none =>
        have hi : shape.length ≤ i := List.getElem?_eq_none_iff.mp hd
        refine ⟨fun h => (by cases h), ?_⟩
        rintro ⟨n, _, hs, _⟩
        cases n with
        | zero => have := hs.reach; simp [prod] at this; omega
        | succ n => have := hs.le; omega
      | some d =>
        have hi : i < shape.length := (List.getElem?_eq_some_iff.mp hd).1
        simp only []
        rw [ih _ _ _ _ _ (by omega)]
        constructor
        · rintro ⟨n, hn, hs, rfl⟩
          refine ⟨n + 1, by omega, ⟨by have := hs.le; omega, ?_, ?_⟩, ?_⟩
          · intro m hm
            cases m with
            | zero => simpa [prod] using hlt
            | succ m => rw [prod_take_succ hd, ← Nat.mul_assoc]; exact hs.below m (by omega)
          · rw [prod_take_succ hd, ← Nat.mul_assoc]; exact hs.reach
          · rw [prod_take_succ hd, ← Nat.mul_assoc, List.replicate_succ]
            simp only [Prod.mk.injEq, List.append_assoc, List.singleton_append, and_true, true_and]
            omega
        · rintro ⟨n, hn, hs, rfl⟩
          cases n with
          | zero => have := hs.reach; simp [prod] at this; omega
          | succ n =>
            refine ⟨n, by omega, ⟨by have := hs.le; omega, ?_, ?_⟩, ?_⟩
            · intro m hm
              have := hs.below (m + 1) (by omega)
              rwa [prod_take_succ hd, ← Nat.mul_assoc] at this
            · have := hs.reach
              rwa [prod_take_succ hd, ← Nat.mul_assoc] at this
            · rw [prod_take_succ hd, ← Nat.mul_assoc, List.replicate_succ]
              simp only [Prod.mk.injEq, List.append_assoc, List.singleton_append, and_true, true_and]
              omega
    · have hge : dj ≤ di := by simp [Nat.blt] at hb; omega
      rw [if_neg hb]
      simp only [pure, Except.pure, Except.ok.injEq]
      constructor
      · rintro rfl
        exact ⟨0, by omega, ⟨by omega, fun m hm => by omega, by simpa [prod] using hge⟩, by simp [prod]⟩
      · rintro ⟨n, _, hs, rfl⟩
        cases n with
        | zero => simp [prod]
        | succ n => have := hs.below 0 (by omega); simp [prod] at this; omega

theorem prod_suffix_ge2 {m : List Nat} {dl : Nat} (hm : ∀ d ∈ m, 1 ≤ d) (hd : 2 ≤ dl) :
    2 ≤ prod (m ++ [dl]) := by
  rw [prod_append]
  have h1 : 1 ≤ prod m := prod_pos hm
  simp only [prod, Nat.mul_one]
  exact Nat.le_trans (by omega) (Nat.mul_le_mul h1 hd)

theorem scanAt_run {shape : List Nat} {i di : Nat} (mid : List Nat) (dl : Nat)
    (hmid : ∀ d ∈ mid, 1 ≤ d) (hdl : 2 ≤ dl) (hdi : 1 ≤ di)
    (hw : (shape.drop i).take (mid.length + 1) = mid ++ [dl]) :
    ScanAt shape (di * prod (mid ++ [dl])) di i (mid.length + 1) where
  le := by
    have := congrArg List.length hw
    simp only [List.length_take, List.length_drop, List.length_append, List.length_cons,
      List.length_nil] at this
    omega
  reach := by rw [hw]; exact Nat.le_refl _
  below := by
    intro m hm
    have e : (shape.drop i).take m = mid.take m := by
      have : (shape.drop i).take m = ((shape.drop i).take (mid.length + 1)).take m := by
        rw [List.take_take, Nat.min_eq_left (by omega)]
      rw [this, hw, List.take_append_of_le_length (by omega)]
    have hsplit : mid ++ [dl] = mid.take m ++ (mid.drop m ++ [dl]) := by
      rw [← List.append_assoc, List.take_append_drop]
    rw [e, hsplit, prod_append]
    have h1 : 1 ≤ prod (mid.take m) := prod_pos fun d hd => hmid d (List.mem_of_mem_take hd)
    have h2 : 2 ≤ prod (mid.drop m ++ [dl]) :=
      prod_suffix_ge2 (fun d hd => hmid d (List.mem_of_mem_drop hd)) hdl
    have h3 : 1 ≤ di * prod (mid.take m) := Nat.mul_le_mul hdi h1
    calc di * prod (mid.take m) = di * prod (mid.take m) * 1 := by omega
      _ < di * prod (mid.take m) * prod (mid.drop m ++ [dl]) := Nat.mul_lt_mul_of_pos_left (by omega) (by omega)
      _ = di * (prod (mid.take m) * prod (mid.drop m ++ [dl])) := Nat.mul_assoc _ _ _

/-- `for ds in subsizes[i]: if ds != newshape[j]: raise` cannot raise once the window test has passed -/
theorem unfuseCheck_iff (ns : List Nat) : ∀ (l : List Nat) (s j k : Nat) (r : Nat × Nat × Nat),
    (ns.drop j).take l.length = l →
    (unfuseCheck ns l s j k = .ok r ↔ r = (s + l.length, j + l.length, k + l.length)) := by
  intro l
  induction l with
  | nil => intro s j k r _; simp [unfuseCheck, pure, Except.pure, eq_comm]
  | cons d l ih =>
    intro s j k r h
    have hj : j < ns.length := by
      rcases Nat.lt_or_ge j ns.length with hc | hc
      · exact hc
      · rw [List.drop_eq_nil_of_le hc] at h; simp at h
    rw [List.drop_eq_getElem_cons hj] at h
    simp only [List.length_cons, List.take_succ_cons, List.cons.injEq] at h
    have hget : ns[j]? = some d := by rw [List.getElem?_eq_getElem hj, h.1]
    simp only [unfuseCheck, hget, Nat.beq_refl, Bool.not_true, Bool.false_eq_true, if_false]
    rw [ih (s + 1) (j + 1) (k + 1) r h.2]
    simp only [List.length_cons, Nat.add_assoc, Nat.add_comm 1]

theorem unfuseMatch_eq_some {ns : List Nat} {j : Nat} {sub : Option (List Nat)} {subs : List Nat} :
    unfuseMatch ns j sub = some subs ↔ sub = some subs ∧ (ns.drop j).take subs.length = subs := by
  cases sub with
  | none => simp [unfuseMatch]
  | some l =>
    simp only [unfuseMatch, Option.some.injEq]
    by_cases hb : beqNats l ((ns.drop j).take l.length) = true
    · rw [if_pos hb]
      have := beqNats_iff.mp hb
      constructor
      · rintro h; injection h with h; subst h; exact ⟨rfl, this.symm⟩
      · rintro ⟨rfl, _⟩; rfl
    · rw [if_neg hb]
      refine ⟨fun h => (by cases h), ?_⟩
      rintro ⟨rfl, h⟩
      exact absurd (beqNats_iff.mpr h.symm) hb

/-- the body of one iteration of the first loop, given what it has read: `di = shape[i]`, `dj = newshape[j]` and
    `w`, the answer to `subsizes[i] is not None and subsizes[i] == newshape[j : j + len(subsizes[i])]`
    (`Reshape.unfuseMatch`); the branches and their order are those of the `if`/`elif` chain -/
def roundF (shape newshape : List Nat) (w : Option (List Nat)) (di dj : Nat) (st : RState) :
    Except Err RState :=
  match w with
  | some subs =>
    match unfuseCheck newshape subs 0 st.j st.k with
    | .error e => throw e
    | .ok (s, j, k) =>
      pure { st with term := st.term ++ [Lbl.u st.unfuseSizes.length],
                     unfuseSizes := st.unfuseSizes ++ [s], i := st.i + 1, j := j, k := k }
  | none =>
    if Nat.beq di dj then
      pure { st with term := st.term ++ [Lbl.o], i := st.i + 1, j := st.j + 1, k := st.k + 1 }
    else if Nat.beq di 1 then
      pure { st with term := st.term ++ [Lbl.s], axsSqueeze := st.axsSqueeze ++ [st.i],
                     anySingleton := true, i := st.i + 1 }
    else if Nat.beq dj 1 then
      pure { st with axsExpand := st.axsExpand ++ [st.k], j := st.j + 1 }
    else if Nat.blt di dj then
      let lbl := Lbl.g st.fuseSizes.length
      match fuseScan shape dj lbl (shape.length + 1) di (st.i + 1) 1 (st.term ++ [lbl]) with
      | .error e => throw e
      | .ok (di', i', s, term') =>
        if !Nat.beq di' dj then throw Err.value
        else pure { st with term := term', fuseSizes := st.fuseSizes ++ [s], anyFused := true,
                            i := i', j := st.j + 1, k := st.k + 1 }
    else throw Err.value

theorem mainLoop_succ (shape newshape : List Nat) (subsizes : List (Option (List Nat))) (fuel : Nat)
    (st : RState) :
    mainLoop shape newshape subsizes (fuel + 1) st =
      match shape[st.i]?, newshape[st.j]? with
      | some di, some dj =>
        match subsizes[st.i]? with
        | none => throw Err.index
        | some sub =>
          match roundF shape newshape (unfuseMatch newshape st.j sub) di dj st with
          | .error e => throw e
          | .ok st1 => mainLoop shape newshape subsizes fuel st1
      | _, _ => pure st := by
  rw [mainLoop]
  cases shape[st.i]? with
  | none => rfl
  | some di =>
    cases newshape[st.j]? with
    | none => rfl
    | some dj =>
      cases subsizes[st.i]? with
      | none => rfl
      | some sub =>
        simp only [roundF]
        cases unfuseMatch newshape st.j sub with
        | some subs =>
          simp only []
          cases unfuseCheck newshape subs 0 st.j st.k <;> rfl
        | none =>
          simp only []
          by_cases c1 : Nat.beq di dj = true
          · simp only [if_pos c1]; rfl
          · simp only [if_neg c1]
            by_cases c2 : Nat.beq di 1 = true
            · simp only [if_pos c2]; rfl
            · simp only [if_neg c2]
              by_cases c3 : Nat.beq dj 1 = true
              · simp only [if_pos c3]; rfl
              · simp only [if_neg c3]
                by_cases c4 : Nat.blt di dj = true
                · simp only [if_pos c4]
                  cases fuseScan shape dj (Lbl.g st.fuseSizes.length) (shape.length + 1) di (st.i + 1) 1
                      (st.term ++ [Lbl.g st.fuseSizes.length]) with
                  | error e => rfl
                  | ok r =>
                    simp only []
                    by_cases c5 : (!Nat.beq r.1 dj) = true
                    · simp only [if_pos c5]; rfl
                    · simp only [if_neg c5]; rfl
                · simp only [if_neg c4]; rfl

/-- the model's fuel (Python's `while` has none): running out of it is an error unless the loop is over -/
theorem mainLoop_zero (shape newshape : List Nat) (subsizes : List (Option (List Nat))) (st : RState) :
    mainLoop shape newshape subsizes 0 st =
      if st.i < shape.length && st.j < newshape.length then throw Err.other else pure st := rfl

theorem mainLoop_zero_table (shape newshape : List Nat) (A B : List (Option (List Nat))) :
    mainLoop shape newshape A 0 = mainLoop shape newshape B 0 := rfl

theorem getElem?_both {α β : Type} {A : List α} {B : List β} (hlen : A.length = B.length) (i : Nat) :
    (A[i]? = none ∧ B[i]? = none) ∨ (∃ a b, A[i]? = some a ∧ B[i]? = some b) := by
  by_cases h : i < A.length
  · exact Or.inr ⟨_, _, List.getElem?_eq_getElem h, List.getElem?_eq_getElem (by omega)⟩
  · exact Or.inl ⟨List.getElem?_eq_none (by omega), List.getElem?_eq_none (by omega)⟩

theorem mainLoop_stop (shape newshape : List Nat) (subsizes : List (Option (List Nat))) (fuel : Nat)
    (st : RState) (h : shape.length ≤ st.i ∨ newshape.length ≤ st.j) :
    mainLoop shape newshape subsizes fuel st = .ok st := by
  cases fuel with
  | zero =>
    have : ¬ (st.i < shape.length ∧ st.j < newshape.length) := by omega
    simp [mainLoop_zero, this, pure, Except.pure]
  | succ f =>
    rw [mainLoop_succ]
    rcases h with h | h
    · rw [List.getElem?_eq_none h]; rfl
    · rw [List.getElem?_eq_none h]
      cases shape[st.i]? <;> rfl

/-- the iterations that do not raise, one constructor per branch of the `if`/`elif` chain (`unfuse`: "unfuse,
    check first"; `keep`: "output dimension already"; `squeeze`: `di == 1`; `expand`: `dj == 1`; `fuse`: "need to
    fuse", with `n` the number of axes the inner `while di < dj` adds) and the state each continues with -/
inductive Round (shape newshape : List Nat) (di dj : Nat) (st : RState) :
    Option (List Nat) → RState → Prop
  | unfuse (subs : List Nat) (hwin : (newshape.drop st.j).take subs.length = subs) :
      Round shape newshape di dj st (some subs)
        { st with term := st.term ++ [Lbl.u st.unfuseSizes.length],
                  unfuseSizes := st.unfuseSizes ++ [subs.length],
                  i := st.i + 1, j := st.j + subs.length, k := st.k + subs.length }
  | keep (h : di = dj) :
      Round shape newshape di dj st none
        { st with term := st.term ++ [Lbl.o], i := st.i + 1, j := st.j + 1, k := st.k + 1 }
  | squeeze (h : di ≠ dj) (h1 : di = 1) :
      Round shape newshape di dj st none
        { st with term := st.term ++ [Lbl.s], axsSqueeze := st.axsSqueeze ++ [st.i],
                  anySingleton := true, i := st.i + 1 }
  | expand (h : di ≠ dj) (h1 : di ≠ 1) (h2 : dj = 1) :
      Round shape newshape di dj st none { st with axsExpand := st.axsExpand ++ [st.k], j := st.j + 1 }
  | fuse (h1 : di ≠ 1) (h2 : dj ≠ 1) (hlt : di < dj) (n : Nat)
      (hscan : ScanAt shape dj di (st.i + 1) n)
      (hprod : di * prod ((shape.drop (st.i + 1)).take n) = dj) :
      Round shape newshape di dj st none
        { st with term := st.term ++ List.replicate (n + 1) (Lbl.g st.fuseSizes.length),
                  fuseSizes := st.fuseSizes ++ [n + 1], anyFused := true,
                  i := st.i + 1 + n, j := st.j + 1, k := st.k + 1 }

/-- the three reads at the head of an iteration: `shape[i]`, `newshape[j]`, `subsizes[i]` -/
structure Reads (shape newshape : List Nat) (subsizes : List (Option (List Nat))) (st : RState)
    (di dj : Nat) (sub : Option (List Nat)) : Prop where
  i : shape[st.i]? = some di
  j : newshape[st.j]? = some dj
  sub : subsizes[st.i]? = some sub

theorem Reads.i_lt {shape newshape subsizes st di dj sub}
    (h : Reads shape newshape subsizes st di dj sub) : st.i < shape.length :=
  (List.getElem?_eq_some_iff.mp h.i).1

theorem Reads.j_lt {shape newshape subsizes st di dj sub}
    (h : Reads shape newshape subsizes st di dj sub) : st.j < newshape.length :=
  (List.getElem?_eq_some_iff.mp h.j).1

theorem roundF_ok_iff {shape newshape : List Nat} {di dj : Nat} {st st1 : RState} {sub : Option (List Nat)}
    (hi : st.i < shape.length) :
    roundF shape newshape (unfuseMatch newshape st.j sub) di dj st = .ok st1 ↔
      Round shape newshape di dj st (unfuseMatch newshape st.j sub) st1 := by
  cases hm : unfuseMatch newshape st.j sub with
  | some subs =>
    have hwin := (unfuseMatch_eq_some.mp hm).2
    simp only [roundF, (unfuseCheck_iff newshape subs 0 st.j st.k _ hwin).mpr rfl, Nat.zero_add, pure,
      Except.pure, Except.ok.injEq]
    constructor
    · rintro rfl; exact .unfuse subs hwin
    · intro h; cases h; rfl
  | none =>
    simp only [roundF]
    constructor
    · intro h
      by_cases c1 : di = dj
      · rw [if_pos (by simpa using c1)] at h
        injection h with h; subst h; exact .keep c1
      · rw [if_neg (by simpa using c1)] at h
        by_cases c2 : di = 1
        · rw [if_pos (by simpa using c2)] at h
          injection h with h; subst h; exact .squeeze c1 c2
        · rw [if_neg (by simpa using c2)] at h
          by_cases c3 : dj = 1
          · rw [if_pos (by simpa using c3)] at h
            injection h with h; subst h; exact .expand c1 c2 c3
          · rw [if_neg (by simpa using c3)] at h
            by_cases c4 : di < dj
            · rw [if_pos (by simp [Nat.blt]; omega)] at h
              split at h
              · cases h
              · rename_i di' i' s term' hscan
                obtain ⟨n, _, hs, hr⟩ := (fuseScan_iff _ _ _ _ _ _ _ _ _ (by omega)).mp hscan
                simp only [Prod.mk.injEq] at hr
                obtain ⟨rfl, rfl, rfl, rfl⟩ := hr
                split at h
                · cases h
                · rename_i hb
                  have hprod : di * prod ((shape.drop (st.i + 1)).take n) = dj := by simpa using hb
                  injection h with h; subst h
                  have := Round.fuse (newshape := newshape) (st := st) c2 c3 c4 n hs hprod
                  simpa only [List.replicate_succ, List.append_assoc, List.singleton_append,
                    Nat.add_comm 1 n] using this
            · rw [if_neg (by simp [Nat.blt]; omega)] at h; cases h
    · intro h
      cases h with
      | keep h => subst h; simp only [Nat.beq_refl, if_true]; rfl
      | squeeze h h1 =>
        subst h1
        rw [if_neg (by simpa using h), if_pos (Nat.beq_refl 1)]; rfl
      | expand h h1 h2 =>
        subst h2
        rw [if_neg (by simpa using h), if_neg (by simpa using h1), if_pos (Nat.beq_refl 1)]; rfl
      | fuse h1 h2 hlt n hscan hprod =>
        rw [if_neg (by simp; omega), if_neg (by simpa using h1), if_neg (by simpa using h2),
          if_pos (by simp [Nat.blt]; omega)]
        have hle := hscan.le
        rw [(fuseScan_iff shape dj _ _ di (st.i + 1) 1 _ _ (by omega)).mpr ⟨n, by omega, hscan, rfl⟩]
        simp only [hprod, Nat.beq_refl, Bool.not_true, Bool.false_eq_true, if_false,
          List.replicate_succ, List.append_assoc, List.singleton_append, Nat.add_comm 1 n]
        rfl

theorem mainLoop_round {shape newshape : List Nat} {subsizes : List (Option (List Nat))} {st st1 : RState}
    {di dj : Nat} {sub : Option (List Nat)} (hr : Reads shape newshape subsizes st di dj sub)
    (h : Round shape newshape di dj st (unfuseMatch newshape st.j sub) st1) (fuel : Nat) :
    mainLoop shape newshape subsizes (fuel + 1) st = mainLoop shape newshape subsizes fuel st1 := by
  rw [mainLoop_succ]
  simp only [hr.i, hr.j, hr.sub, (roundF_ok_iff hr.i_lt).mpr h]

theorem mainLoop_ok {shape newshape : List Nat} {subsizes : List (Option (List Nat))} {fuel : Nat}
    {st st' : RState} (h : mainLoop shape newshape subsizes fuel st = .ok st') :
    (st' = st ∧ (shape.length ≤ st.i ∨ newshape.length ≤ st.j)) ∨
    ∃ f di dj sub st1, fuel = f + 1 ∧ Reads shape newshape subsizes st di dj sub ∧
      Round shape newshape di dj st (unfuseMatch newshape st.j sub) st1 ∧
      mainLoop shape newshape subsizes f st1 = .ok st' := by
  by_cases hrun : st.i < shape.length ∧ st.j < newshape.length
  · right
    obtain ⟨hi, hj⟩ := hrun
    cases fuel with
    | zero => simp [mainLoop_zero, hi, hj, throw, throwThe, MonadExceptOf.throw] at h
    | succ f =>
      have hdi := List.getElem?_eq_getElem hi
      have hdj := List.getElem?_eq_getElem hj
      rw [mainLoop_succ] at h
      cases hsub : subsizes[st.i]? with
      | none => simp only [hdi, hdj, hsub] at h; cases h
      | some sub =>
        simp only [hdi, hdj, hsub] at h
        cases hR : roundF shape newshape (unfuseMatch newshape st.j sub) shape[st.i] newshape[st.j] st with
        | error e => rw [hR] at h; cases h
        | ok st1 =>
          rw [hR] at h
          exact ⟨f, _, _, sub, st1, rfl, ⟨hdi, hdj, hsub⟩, (roundF_ok_iff hi).mp hR, h⟩
  · left
    have hs : shape.length ≤ st.i ∨ newshape.length ≤ st.j := by omega
    rw [mainLoop_stop _ _ _ _ _ hs] at h
    injection h with h
    exact ⟨h.symm, hs⟩

theorem mainLoop_induct {shape newshape : List Nat} {subsizes : List (Option (List Nat))}
    {P : RState → Prop}
    (hstep : ∀ st st1 di dj sub, Reads shape newshape subsizes st di dj sub →
      Round shape newshape di dj st (unfuseMatch newshape st.j sub) st1 → P st → P st1) :
    ∀ (fuel : Nat) (st st' : RState), P st → mainLoop shape newshape subsizes fuel st = .ok st' →
      P st' ∧ (shape.length ≤ st'.i ∨ newshape.length ≤ st'.j) := by
  intro fuel
  induction fuel with
  | zero =>
    intro st st' hP h
    rcases mainLoop_ok h with ⟨rfl, hs⟩ | ⟨f, _, _, _, _, hf, _⟩
    · exact ⟨hP, hs⟩
    · cases hf
  | succ fuel ih =>
    intro st st' hP h
    rcases mainLoop_ok h with ⟨rfl, hs⟩ | ⟨f, di, dj, sub, st1, hf, hr, hround, h1⟩
    · exact ⟨hP, hs⟩
    · cases hf
      exact ih st1 st' (hstep st st1 di dj sub hr hround hP) h1

theorem Round.sizes {shape newshape : List Nat} {di dj : Nat} {st st1 : RState} {w : Option (List Nat)}
    (h : Round shape newshape di dj st w st1) :
    (st1.unfuseSizes = st.unfuseSizes ∨ ∃ s, st1.unfuseSizes = st.unfuseSizes ++ [s])
      ∧ (st1.fuseSizes = st.fuseSizes ∨ ∃ s, 2 ≤ s ∧ st1.fuseSizes = st.fuseSizes ++ [s]) := by
  cases h with
  | unfuse subs _ => exact ⟨Or.inr ⟨_, rfl⟩, Or.inl rfl⟩
  | keep _ => exact ⟨Or.inl rfl, Or.inl rfl⟩
  | squeeze _ _ => exact ⟨Or.inl rfl, Or.inl rfl⟩
  | expand _ _ _ => exact ⟨Or.inl rfl, Or.inl rfl⟩
  | fuse _ _ hlt n hscan hprod =>
    refine ⟨Or.inl rfl, Or.inr ⟨n + 1, ?_, rfl⟩⟩
    cases n with
    | zero => simp [prod] at hprod; omega
    | succ n => omega

end SymmModel.Reshape
