/-
  SymmModel.Proofs.Reshape4d — the exact round trip of `reshape` for one merged run of adjacent axes,
  abelian arrays: every stored block comes back as the SAME block; additional blocks are zero.
  Then: a certified forward plan that is one fuse call with one group fuses a run of consecutive axes;
  the element-exact forward statement of the fermionic `reshape` for one merged run (every stored
  element of the result is the element of the input at the split address, `splitAddr`, times the sign
  of the fuse rule; the transposition is the identity, so only the flip / reversal sign of a dual group
  remains); what `Restored` says about the whole value view (`Restored.elem_eq`).
-/
import SymmModel.Proofs.Reshape4c

namespace SymmModel
namespace Reshape4
open C07 ReshapeP

variable {R : Type}

theorem elem_no_phases [Zero R] [Neg R] (z : Arr R) (hp : z.phases = []) (s : Sector) (J : List Nat) :
    z.elem s J = match alookup z.blocks s with
      | none => 0
      | some b => b.get J := by
  unfold Arr.elem
  rw [hp]
  cases alookup z.blocks s <;> rfl

theorem roundtrip_abelian_single [Zero R] [Neg R] (a : Arr R) (p n : Nat)
    (hv : a.validB = true) (hf : a.fermi = false) (hnf : ∀ ix ∈ a.indices, ix.sub = none)
    (hn : 2 ≤ n) (hle : p + n ≤ a.ndim) :
    ∃ y z, applyPlan a ([], [[List.range' p n]], []) = .ok y
      ∧ reshapeArr y (a.shape.map Int.ofNat) = .ok z ∧ Restored a z
      ∧ (∀ s b, (s, b) ∈ a.blocks → alookup z.blocks s = some b)
      ∧ (∀ K V, alookup z.blocks K = some V → (∃ b, (K, b) ∈ a.blocks) ∨ FuseP.AllZero V) := by
  have hgok := groupsOk_single p n a.ndim (by omega) hle
  have hva := FuseP.validArr_of_validB hv
  have hsg : a.phases = [] ∧ a.oddpos = [] := by
    have := ((ValidP.validB_iff a).1 hv).sgn
    simpa [ValidP.SignsOk, hf] using this
  obtain ⟨y, z, hy, hzu, hzi, hst, hex⟩ :=
    C05.unfuse_fuse_blocks_partial a (List.range' p n) hv hgok (by simp; omega)
  obtain ⟨hpos, hperm⟩ := groupInfo_single a p n (by omega) hle
  rw [hpos] at hzu
  rw [hperm] at hzi hst hex
  have hyd : fuseDispatch a [List.range' p n] = .ok y := by
    simp only [fuseDispatch, hf, Bool.false_eq_true, if_false]
    rw [C05.fuseA_eq_fuseCore a _ .insert true a.ndim hgok]; exact hy
  obtain ⟨ix, subIdx, exts, hix, hsub, hzidx⟩ := ValidP.unfuseA_indices hzu
  have hzia : z.indices = a.indices := by
    rw [hzi]; exact permuted_range a.indices
  obtain ⟨hyf, hback⟩ := reshape_back_single a y p n hn hle hnf hyd hix hsub (by rw [← hzia, hzidx])
  have hyeq : y = FuseP.fusedArrM a [List.range' p n] := by
    have := FuseP.fuseCore_multi_eq hva (FuseP.groupsOk_iff.1 hgok).adm
    rw [hy] at this; exact Except.ok.inj this
  have hyv : y.validB = true :=
    C01.fuseCore_valid a y _ hv hf (fuseAdmissible_of_groupsOk hgok) hy
  have hyfld : y.sym = a.sym ∧ y.charge = a.charge ∧ y.phases = a.phases ∧ y.oddpos = a.oddpos := by
    rw [hyeq]; exact ⟨rfl, rfl, rfl, rfl⟩
  obtain ⟨f1, f2, f3, f4, f5⟩ := ValidP.unfuseA_fields hzu
  have hzv : z.validB = true := C01.unfuseA_valid y z p hyv (by rw [hyf, hf]) hzu
  have hzph : z.phases = [] := by rw [f4, hyfld.2.2.1]; exact hsg.1
  have hblk : ∀ s b, (s, b) ∈ a.blocks → alookup z.blocks s = some b := by
    intro s b hsb
    have hbk := hva.blk (s, b) hsb
    have hbl : b.shape.length = a.ndim := by rw [Arr.blockShape?_shape_length hbk.2.1]; rfl
    have := hst s b hsb
    rw [permuted_range_of_length hbk.1, Norm.transposeK_id b hbl hbk.2.2] at this
    exact this
  have hoth : ∀ K V, alookup z.blocks K = some V → (∃ b, (K, b) ∈ a.blocks) ∨ FuseP.AllZero V := by
    intro K V hl
    rcases hex K V hl with ⟨s, b, hsb, rfl⟩ | hz0
    · left
      rw [permuted_range_of_length (hva.blk (s, b) hsb).1]; exact ⟨b, hsb⟩
    · exact Or.inr hz0
  refine ⟨y, z, by rw [applyPlan_single_fuse, hyd], ?_, ⟨hzv, by rw [f2, hyf], hzia, by rw [f1, hyfld.1],
    by rw [f3, hyfld.2.1], by rw [f5, hyfld.2.2.2], ?_, ?_⟩, hblk, hoth⟩
  · rw [hback]
    simp only [unfuseDispatch, hyf, hf, Bool.false_eq_true, if_false]
    exact hzu
  · intro s b hsb
    refine ⟨b, hblk s b hsb, rfl, fun J _ => ?_⟩
    rw [elem_no_phases z hzph, hblk s b hsb, elem_no_phases a hsg.1,
      alookup_of_mem_nodup hva.nodup hsb]
  · intro K V hl hK J _
    rw [elem_no_phases z hzph, hl]
    rcases hoth K V hl with ⟨b, hb⟩ | hz0
    · exact absurd rfl (hK K b hb)
    · exact FuseP.get_of_allZero hz0 J

theorem single_group_of_wfB (a : Arr R) (g : List Nat) (nsN : List Nat)
    (hwf : (Plan.ofTriple (([], [[g]], []) : List Nat × List (List (List Nat)) × List Nat)).wfB
      a.shape a.subsizes nsN = true) :
    ∃ p, g = List.range' p g.length ∧ p + g.length ≤ a.ndim := by
  obtain ⟨hl, r, hr, _⟩ := wfB_iff.mp hwf
  simp only [Plan.exec, Plan.ofTriple, foldOpt] at hr
  cases h2 : symFuse (a.shape.zip a.subsizes) [g] with
  | none => rw [h2] at hr; simp at hr
  | some s2 =>
    obtain ⟨p, hflat, _, _, hle, _⟩ := symFuse_spec h2
    simp only [List.flatten_cons, List.flatten_nil, List.append_nil] at hflat hle
    refine ⟨p, hflat, ?_⟩
    have : (a.shape.zip a.subsizes).length = a.ndim := by
      rw [← ValidP.Sim.ndim_eq (ValidP.sim_init a)]
    rw [this] at hle; exact hle

section
open FuseP SymmModel.Lazy

variable {R : Type}

theorem forward_elem_fermionic_single [Zero R] [Neg R] [LawfulNeg R] (a : Arr R) (p n : Nat)
    (hv : a.validB = true) (hf : a.fermi = true) (hn : 2 ≤ n) (hle : p + n ≤ a.ndim) :
    ∃ y, applyPlan a ([], [[List.range' p n]], []) = .ok y ∧
      ∀ ns B, alookup y.blocks ns = some B → ∀ i, inBox B.shape i = true →
        ∃ ss so, splitAddr (y.indices.getD p default) (ns.getD p (0, 0)) (i.getD p 0) = some (ss, so)
          ∧ ∀ s offs, s.length = a.ndim → offs.length = a.ndim →
              s = ns.take p ++ ss ++ ns.drop (p + 1) → offs = i.take p ++ so ++ i.drop (p + 1) →
              y.elem ns i = sgnI (fuseSignT a [List.range' p n] s) (a.elem s offs) := by
  have hgok := groupsOk_single p n a.ndim (by omega) hle
  obtain ⟨hpos, hperm⟩ := groupInfo_single a p n (by omega) hle
  obtain ⟨y, hy, hel⟩ := C05.fuseF_elem a [List.range' p n] true hv hf hgok
  rw [hpos, hperm] at hel
  refine ⟨y, ?_, ?_⟩
  · rw [applyPlan_single_fuse]
    simp only [fuseDispatch, hf, if_true]
    exact hy
  · intro ns B hB i hi
    obtain ⟨segs, hsl, hseg, hval⟩ := hel ns B hB i hi
    obtain ⟨sg, rfl⟩ : ∃ sg, segs = [sg] := by
      cases segs with
      | nil => simp at hsl
      | cons x r =>
        cases r with
        | nil => exact ⟨x, rfl⟩
        | cons _ _ => simp at hsl
    have h0 := (hseg 0 (List.range' p n) rfl).2 (by simp; omega)
    simp only [Nat.add_zero, List.getElem?_cons_zero] at h0
    refine ⟨sg.1, sg.2, h0, ?_⟩
    intro s offs hs ho hse hoe
    have e1 := permuted_range_of_length hs
    have e2 := permuted_range_of_length ho
    -- the transposition is the identity, so the Koszul factor of `fuseSignF` is 1
    have hsign : fuseSignF a [List.range' p n] s = fuseSignT a [List.range' p n] s := by
      unfold fuseSignF
      rw [hperm, e1, KoszulP.koszul_id', Int.mul_one]
    rw [hval s offs hs ho (by rw [e1, hse]; simp) (by rw [e2, hoe]; simp), hsign]

end

/-- by cases: a sector `a` stores, an additional (zero) block, a sector neither stores -/
theorem Restored.elem_eq [Zero R] [Neg R] {a z : Arr R} (h : Restored a z) (K : Sector) (J : List Nat)
    (hJ : ∀ V, alookup z.blocks K = some V → inBox V.shape J = true) :
    z.elem K J = a.elem K J := by
  classical
  by_cases hs : ∃ b, (K, b) ∈ a.blocks
  · obtain ⟨b, hb⟩ := hs
    obtain ⟨V, hV, _, hel⟩ := h.stored K b hb
    exact hel J (hJ V hV)
  · have ha : alookup a.blocks K = none := by
      cases hl : alookup a.blocks K with
      | none => rfl
      | some b => exact absurd ⟨b, alookup_some_mem hl⟩ hs
    have hae : a.elem K J = 0 := by unfold Arr.elem; rw [ha]
    rw [hae]
    cases hz : alookup z.blocks K with
    | none => unfold Arr.elem; rw [hz]
    | some V =>
      exact h.extra K V hz (fun s b hsb he => hs ⟨b, he ▸ hsb⟩) J (hJ V hz)

end Reshape4
end SymmModel
