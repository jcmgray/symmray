/-
  SymmModel.Proofs.ReconTrunc — the fermionic product of the factors of `svd` / `svd_truncated`
  for every absorb option: reconstruction (no truncation) and truncation error (C11/C13, fermionic
  arrays with a sorted label list).
-/
import SymmModel.Proofs.ReconSvd

namespace SymmModel
namespace ReconP
open LinalgLemmas OddposP Finset
open Lazy (sgnI phOf)

variable {R : Type}

/-- the hypothesis on the backend's `sqrt` used for `absorb = 0` ("both"), on the blocks `sb p` -/
def SqrtItems [Zero R] [Mul R] {α : Type} (sqrtK : Blk R → Blk R) (l : List α) (sb : α → Blk R)
    (k : α → Nat) : Prop :=
  ∀ p ∈ l, (sqrtK (sb p)).shape = [k p]
    ∧ ∀ t, t < k p → (sqrtK (sb p)).get [t] * (sqrtK (sb p)).get [t] = (sb p).get [t]

/-- the product a caller forms from the return value of `svd_truncated(…, absorb=…)`:
    `none` (`absorb=None`, returns `U, s, VH`): `U.multiply_diagonal(s, 1) @ VH`;
    `some m` (`absorb ∈ {-1, 0, 1}`, returns `U', None, VH'`): `U' @ VH'` -/
def svdProduct [Zero R] [Add R] [Mul R] [Neg R] (mode : Option Absorb) (sqrtK : Blk R → Blk R)
    (u : Arr R) (sv : BVec R) (vh : Arr R) : Except Err (Arr R) :=
  match mode with
  | none => Arr.matmulF (multiplyDiagonal u sv 1) vh
  | some m => Arr.matmulF (absorbA m sqrtK u sv vh).1 (absorbA m sqrtK u sv vh).2

/-- `absorb=None` followed by `multiply_diagonal` is the same product as `absorb=-1` -/
theorem svdProduct_none [Zero R] [Add R] [Mul R] [Neg R] {α : Type} {l : List α} {sec : α → Sector}
    {ub sb vb : α → Blk R} {u : Arr R} {sv : BVec R} {vh : Arr R}
    (A : Aligned l sec ub sb vb u sv vh) (sqrtK : Blk R → Blk R) :
    svdProduct none sqrtK u sv vh = svdProduct (some .left) sqrtK u sv vh := by
  simp only [svdProduct]
  rw [absorb_left_eq A sqrtK]

/-- … and multiplying `s` into `VH` instead is the same product as `absorb=1` -/
theorem matmulF_right_diag [Zero R] [Add R] [Mul R] [Neg R] {α : Type} {l : List α}
    {sec : α → Sector} {ub sb vb : α → Blk R} {u : Arr R} {sv : BVec R} {vh : Arr R}
    (A : Aligned l sec ub sb vb u sv vh) (sqrtK : Blk R → Blk R) :
    Arr.matmulF u (multiplyDiagonal vh sv 0) = svdProduct (some .right) sqrtK u sv vh := by
  simp only [svdProduct]
  rw [absorb_right_eq A sqrtK]

/-- the mode a value of `absorb` is reduced to -/
def modeOf : Option Absorb → Absorb
  | none => .left
  | some m => m

theorem modeOf_both {mode : Option Absorb} (h : modeOf mode = .both) : mode = some .both := by
  cases mode with
  | none => cases h
  | some m => exact congrArg some h

theorem svdProduct_eq [Zero R] [Add R] [Mul R] [Neg R] {α : Type} {l : List α} {sec : α → Sector}
    {ub sb vb : α → Blk R} {u : Arr R} {sv : BVec R} {vh : Arr R}
    (A : Aligned l sec ub sb vb u sv vh) (sqrtK : Blk R → Blk R) (mode : Option Absorb) :
    svdProduct mode sqrtK u sv vh
      = Arr.matmulF (absorbA (modeOf mode) sqrtK u sv vh).1 (absorbA (modeOf mode) sqrtK u sv vh).2 := by
  cases mode with
  | none => rw [svdProduct_none A sqrtK]; rfl
  | some m => rfl

/-- `svdProduct` for every value of `absorb`, on aligned factors (see `absorb_matmulF`) -/
theorem svdProduct_spec [CommRing R] {x : Arr R} (hv : x.validB = true) (h2 : x.ndim = 2)
    {α : Type} {l : List α} {sec : α → Sector} {ub sb vb : α → Blk R} {u : Arr R} {sv : BVec R}
    {vh : Arr R} (A : Aligned l sec ub sb vb u sv vh) (hin : ∀ p ∈ l, sec p ∈ x.sectors)
    (hu2 : u.ndim = 2) (hlab : SortedLabels u.oddpos) (RO : RightOf x vh)
    (sqrtK : Blk R → Blk R) (dims : α → Nat × Nat × Nat)
    (hsh : ∀ p ∈ l, ItemShape (ub p) (sb p) (vb p) (dims p).1 (dims p).2.1 (dims p).2.2)
    (mode : Option Absorb)
    (hsq : mode = some .both → SqrtItems sqrtK l sb (fun p => (dims p).2.1)) :
    ∃ y, svdProduct mode sqrtK u sv vh = .ok y
      ∧ ItemProduct l sec dims u vh y (fun p i j => (List.range (dims p).2.1).foldl
          (fun acc t => acc + ((ub p).get [i, t] * (sb p).get [t]) * (vb p).get [t, j]) 0) := by
  rw [svdProduct_eq A sqrtK mode]
  apply absorb_matmulF hv h2 A hin hu2 hlab RO sqrtK dims hsh (modeOf mode)
  exact fun hm => hsq (modeOf_both hm)

/-- two values of `absorb` give products with the same structure and the same value view -/
theorem svdProduct_agree [CommRing R] {x : Arr R} (hv : x.validB = true) (h2 : x.ndim = 2)
    {α : Type} {l : List α} {sec : α → Sector} {ub sb vb : α → Blk R} {u : Arr R} {sv : BVec R}
    {vh : Arr R} (A : Aligned l sec ub sb vb u sv vh) (hin : ∀ p ∈ l, sec p ∈ x.sectors)
    (hu2 : u.ndim = 2) (hlab : SortedLabels u.oddpos) (RO : RightOf x vh)
    (sqrtK : Blk R → Blk R) (dims : α → Nat × Nat × Nat)
    (hsh : ∀ p ∈ l, ItemShape (ub p) (sb p) (vb p) (dims p).1 (dims p).2.1 (dims p).2.2)
    (hsq : SqrtItems sqrtK l sb (fun p => (dims p).2.1)) (m1 m2 : Option Absorb) :
    ∃ y1 y2, svdProduct m1 sqrtK u sv vh = .ok y1 ∧ svdProduct m2 sqrtK u sv vh = .ok y2
      ∧ y1.sectors = y2.sectors ∧ y1.phases = y2.phases ∧ y1.oddpos = y2.oddpos
      ∧ y1.indices = y2.indices ∧ y1.charge = y2.charge ∧ y1.sym = y2.sym ∧ y1.fermi = y2.fermi
      ∧ ∀ s off, (s ∉ l.map sec ∨ ∃ p ∈ l, s = sec p ∧ inBox [(dims p).1, (dims p).2.2] off = true) →
          y1.elem s off = y2.elem s off := by
  obtain ⟨y1, e1, P1⟩ := svdProduct_spec hv h2 A hin hu2 hlab RO sqrtK dims hsh m1 (fun _ => hsq)
  obtain ⟨y2, e2, P2⟩ := svdProduct_spec hv h2 A hin hu2 hlab RO sqrtK dims hsh m2 (fun _ => hsq)
  refine ⟨y1, y2, e1, e2, P1.sectors.trans P2.sectors.symm, P1.phases.trans P2.phases.symm,
    P1.oddpos.trans P2.oddpos.symm, P1.indices.trans P2.indices.symm,
    P1.charge.trans P2.charge.symm, P1.sym.trans P2.sym.symm, P1.fermi.trans P2.fermi.symm, ?_⟩
  intro s off h
  rcases h with h | ⟨p, hp, rfl, hbox⟩
  · rw [P1.zero s h off, P2.zero s h off]
  · obtain ⟨i, j, rfl, hij⟩ := inBox_pair_elim hbox
    rw [P1.elem p hp i j hij.1 hij.2, P2.elem p hp i j hij.1 hij.2]

theorem svd_recon_fermi_labels [Zero R] [Add R] [Mul R] [Neg R] [NegLaws R] {K : Kernels R}
    (hK : K.ShapeOk) (hC : K.SVDContract) {x : Arr R} (hv : x.validB = true) (h2 : x.ndim = 2)
    (hf : x.fermi = true) (hlab : SortedLabels x.oddpos) :
    ∃ y, Arr.matmulF
        (multiplyDiagonal (leftF x (fun b => (K.svd b).1))
          ⟨x.blocks.map (fun p => (colOf p.1, (K.svd p.2).2.1))⟩ 1)
        (rightF x (fun b => (K.svd b).1) (fun b => (K.svd b).2.2)) = .ok y
      ∧ y.oddpos = x.oddpos ∧ y.phases = []
      ∧ ∀ s off, AddrOf x s off → y.elem s off = x.elem s off := by
  rw [Recon2P.multiplyDiagonal_us K hv h2, ← Recon2P.rightF_us K x]
  exact factors_recon_fermi_labels (Recon2P.facShape_us hK) (svd_reproduces hK hC) hv h2 hf hlab

/-- **all absorb options, no truncation.**  `U, s, VH` the svd factors of the fermionic matrix `x`
    (sorted labels, any pending signs): for every value of `absorb` (`none`: the caller multiplies
    `s` in, see `svdProduct`) the product of the returned factors succeeds, carries `x`'s labels, no pending sign, `x`'s sectors, and
    `x`'s element at every address. -/
theorem svd_absorb_recon_fermi [CommRing R] {K : Kernels R} (hK : K.ShapeOk) (hC : K.SVDContract)
    {x : Arr R} (hv : x.validB = true) (h2 : x.ndim = 2) (hf : x.fermi = true)
    (hlab : SortedLabels x.oddpos) (sqrtK : Blk R → Blk R) (mode : Option Absorb)
    (hsq : mode = some .both → SqrtItems sqrtK x.blocks (fun p => (K.svd p.2).2.1)
      (fun p => min (p.2.shape.getD 0 0) (p.2.shape.getD 1 0))) :
    let U := leftF x (fun b => (K.svd b).1)
    let S : BVec R := ⟨x.blocks.map (fun p => (colOf p.1, (K.svd p.2).2.1))⟩
    let V := rightF x (fun b => (K.svd b).1) (fun b => (K.svd b).2.2)
    ∃ y, svdProduct mode sqrtK U S V = .ok y
      ∧ y.oddpos = x.oddpos ∧ y.phases = [] ∧ y.sectors = x.sectors
      ∧ ∀ s off, AddrOf x s off → y.elem s off = x.elem s off := by
  intro U S V
  obtain ⟨i0, i1, hi⟩ := ndim_two h2
  obtain ⟨y, hy, P⟩ := svdProduct_spec hv h2
    (aligned_svd (K := K) hv h2) (fun p hp => List.mem_map.mpr ⟨p, hp, rfl⟩) rfl hlab
    (rightF_rightOf hv h2 hf _ _) sqrtK
    (fun p => (p.2.shape.getD 0 0, min (p.2.shape.getD 0 0) (p.2.shape.getD 1 0), p.2.shape.getD 1 0))
    (svd_itemShape hK hv h2) mode hsq
  refine ⟨y, hy, P.oddpos, P.phases, P.sectors, fun s off ha => ?_⟩
  rcases ha with hns | ⟨b, hm, hbox⟩
  · rw [P.zero s hns off]
    have h1 : alookup x.blocks s = none := alookup_eq_none_iff.mpr hns
    simp [Arr.elem, h1]
  · obtain ⟨r, c, m, n, B⟩ := mat_block hv hi hm
    rw [B.hshape] at hbox
    obtain ⟨i, j, rfl, hij⟩ := inBox_pair_elim hbox
    have := P.elem (s, b) hm i j (by simpa [B.hshape] using hij.1) (by simpa [B.hshape] using hij.2)
    simp only [B.hshape, List.getD_cons_zero, List.getD_cons_succ] at this
    rw [this, hC b m n B.hshape B.hwf i j hij.1 hij.2, elem_sgn (Arr.validB_nodup hv) hm]
    rfl

section trunc
variable [CommRing R] {K : Kernels R} {x : Arr R} {counts : List Nat}

/-- the three truncated factors of `svd_truncated` before absorbing -/
abbrev tU (K : Kernels R) (x : Arr R) (counts : List Nat) : Arr R :=
  truncU x (fun b => (K.svd b).1) counts
abbrev tS (K : Kernels R) (x : Arr R) (counts : List Nat) : BVec R :=
  truncS x (fun b => (K.svd b).2.1) counts
abbrev tV (K : Kernels R) (x : Arr R) (counts : List Nat) : Arr R :=
  truncV x (fun b => (K.svd b).1) (fun b => (K.svd b).2.2) counts

/-- **all absorb options, after truncation.**  The product `U' @ VH'` of the truncated and absorbed
    factors succeeds, carries `x`'s labels, no pending sign, exactly the kept sectors, and on a
    kept block `((sec, b), c)` the entry `± Σ_{t < c} (u[i,t] · s[t]) · vh[t,j]` of the UNSLICED
    kernel factors of `b` (sign = `x`'s pending sign on `sec`); zero on every other sector. -/
theorem trunc_absorb_fermi (hK : K.ShapeOk) (hv : x.validB = true) (h2 : x.ndim = 2)
    (hf : x.fermi = true) (hlab : SortedLabels x.oddpos)
    (hlen : counts.length = x.blocks.length) (sqrtK : Blk R → Blk R) (mode : Option Absorb)
    (hsq : mode = some .both → SqrtItems sqrtK (kept x counts)
      (fun t => ((K.svd t.1.2).2.1).sliceK [0] [t.2]) (fun t => t.2)) :
    ∃ y, svdProduct mode sqrtK (tU K x counts) (tS K x counts) (tV K x counts) = .ok y
      ∧ y.oddpos = x.oddpos ∧ y.phases = []
      ∧ y.sectors = (kept x counts).map (fun t => t.1.1)
      ∧ (∀ sec b c, ((sec, b), c) ∈ kept x counts → ∀ m n, b.shape = [m, n] →
          ∀ i j, i < m → j < n →
            y.elem sec [i, j] = sgnI (phOf x.phases sec) (∑ t ∈ range c,
              ((K.svd b).1.get [i, t] * (K.svd b).2.1.get [t]) * (K.svd b).2.2.get [t, j]))
      ∧ (∀ s, s ∉ (kept x counts).map (fun t => t.1.1) → ∀ off, y.elem s off = 0) := by
  obtain ⟨y, hy, P⟩ := svdProduct_spec hv h2
    (aligned_trunc (K := K) hv h2 hlen)
    (fun t ht => List.mem_map.mpr ⟨t.1, (kept_mem hlen ht).1, rfl⟩) rfl hlab
    (truncV_rightOf hv h2 hf _ _ counts) sqrtK
    (fun t => (t.1.2.shape.getD 0 0, t.2, t.1.2.shape.getD 1 0))
    (trunc_itemShape hK hv h2 hlen) mode hsq
  refine ⟨y, hy, P.oddpos, P.phases, P.sectors, ?_, P.zero⟩
  intro sec b c ht m n hs i j hi hj
  have hwf : b.wf = true := Arr.validB_block_wf hv (kept_mem hlen ht).1
  have hp := P.elem _ ht i j (by simpa [hs] using hi) (by simpa [hs] using hj)
  simp only at hp
  rw [hp, sliced_fold_eq_sum hK hs hwf c hi hj]
  rfl

/-- **value level: input minus the discarded part.**  Under the svd value contract, on a kept
    block the difference `x − U'@VH'` is exactly `± Σ_{c ≤ t < min m n} (u[i,t]·s[t])·vh[t,j]`. -/
theorem trunc_diff_fermi (hC : K.SVDContract) (hv : x.validB = true)
    (hlen : counts.length = x.blocks.length) {y : Arr R} {sec : Sector} {b : Blk R} {c : Nat}
    (ht : ((sec, b), c) ∈ kept x counts) {m n : Nat} (hs : b.shape = [m, n])
    (hc : c ≤ min m n) {i j : Nat} (hi : i < m) (hj : j < n)
    (hy : y.elem sec [i, j] = sgnI (phOf x.phases sec) (∑ t ∈ range c,
      ((K.svd b).1.get [i, t] * (K.svd b).2.1.get [t]) * (K.svd b).2.2.get [t, j])) :
    x.elem sec [i, j] - y.elem sec [i, j]
      = sgnI (phOf x.phases sec) (∑ t ∈ Ico c (min m n),
          ((K.svd b).1.get [i, t] * (K.svd b).2.1.get [t]) * (K.svd b).2.2.get [t, j]) := by
  have hb := (kept_mem hlen ht).1
  have hfull := hC b m n hs (Arr.validB_block_wf hv hb) i j hi hj
  rw [foldl_eq_sum] at hfull
  rw [hy, elem_sgn (Arr.validB_nodup hv) hb, ← hfull, sum_Ico_eq_sub _ hc, sgnI_sub]

/-- **truncation error, fermionic product.**  On a kept block whose kernel factors are
    orthonormal, the squared norm of `x − U'@VH'` is the discarded squared weight. -/
theorem trunc_error_fermi (conj : R →+* R) (hC : K.SVDContract) (hv : x.validB = true)
    (hlen : counts.length = x.blocks.length) {y : Arr R} {sec : Sector} {b : Blk R} {c : Nat}
    (ht : ((sec, b), c) ∈ kept x counts) {m n : Nat} (hs : b.shape = [m, n])
    (hO : K.OrthoBlock conj b) (hc : c ≤ min m n)
    (hy : ∀ i j, i < m → j < n → y.elem sec [i, j] = sgnI (phOf x.phases sec) (∑ t ∈ range c,
      ((K.svd b).1.get [i, t] * (K.svd b).2.1.get [t]) * (K.svd b).2.2.get [t, j])) :
    ∑ i ∈ range m, ∑ j ∈ range n,
        conj (x.elem sec [i, j] - y.elem sec [i, j]) * (x.elem sec [i, j] - y.elem sec [i, j])
      = ∑ t ∈ Ico c (min m n), conj ((K.svd b).2.1.get [t]) * (K.svd b).2.1.get [t] := by
  have hb := (kept_mem hlen ht).1
  have hkey := truncation_error_block conj hC hs (Arr.validB_block_wf hv hb) hO hc
    (fun i j => ∑ t ∈ range c,
      ((K.svd b).1.get [i, t] * (K.svd b).2.1.get [t]) * (K.svd b).2.2.get [t, j])
    (fun i j _ _ => rfl)
  rw [← hkey]
  apply sum_congr rfl
  intro i hi
  apply sum_congr rfl
  intro j hj
  rw [hy i j (mem_range.mp hi) (mem_range.mp hj), elem_sgn (Arr.validB_nodup hv) hb, sgnI_sub]
  unfold sgnI
  split
  · rw [map_neg]; ring
  · rfl

end trunc

end ReconP
end SymmModel
