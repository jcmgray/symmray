/-
  SymmModel.Proofs.NetNorm2 — network form of the norm (property C10):
  the four balanced bracketings with the halves in MIXED operand orders
  `(b̄·ā)·(a·b)`, `(a·b)·(b̄·ā)`, `(ā·b̄)·(b·a)`, `(b·a)·(ā·b̄)` with EVERY call in its own mode
  (`blockwise`, `fused`, `auto`).
-/
import SymmModel.Proofs.NetNorm1
namespace SymmModel.NormNet
open SymmModel SymmModel.Lazy SymmModel.Norm SymmModel.TdotP SymmModel.GradedP SymmModel.RoutesP
open SymmModel.AssocP SymmModel.Assoc3P

section util
variable {R : Type}

theorem without_length (a : Arr R) (xa : List Nat) :
    (without a.indices xa).length = (freeAxes a.ndim xa).length := by
  rw [without_eq_permuted_freeAxes]
  exact permuted_length _ _ (fun x hx => (mem_freeAxes.mp hx).1)

end util

section mixedM
variable {R : Type} [AddCommMonoid R] [Mul R] [Neg R] [Conj R] [NetLaws R]

/-- the conclusion of `network_norm_mixed_any_mode`: `K` the blockwise `a·b` (reference for
    `normSq`), the four halves in the modes `mK mKb mK' mKb'`, the four final calls in `md 0 … md 3` -/
def MixedM (a b : Arr R) (xa xb : List Nat) (mK mKb mK' mKb' : TdotMode) (md : Nat → TdotMode) :
    Prop :=
  ∃ K Km Kbm Km' Kbm',
    a.tensordotF b (.pair (xa.map Int.ofNat) (xb.map Int.ofNat)) .blockwise = .ok K
    ∧ a.tensordotF b (.pair (xa.map Int.ofNat) (xb.map Int.ofNat)) mK = .ok Km
    ∧ (braOf a xa).tensordotF (braOf b xb) (.pair (xa.map Int.ofNat) (xb.map Int.ofNat)) mKb = .ok Kbm
    ∧ b.tensordotF a (.pair (xb.map Int.ofNat) (xa.map Int.ofNat)) mK' = .ok Km'
    ∧ (braOf b xb).tensordotF (braOf a xa) (.pair (xb.map Int.ofNat) (xa.map Int.ofNat)) mKb'
        = .ok Kbm'
    -- (b̄·ā)·(a·b)
    ∧ (∃ r, Kbm'.tensordotF Km (.pair
          ((crossAx (freeAxes a.ndim xa).length (freeAxes b.ndim xb).length).map Int.ofNat)
          ((List.range K.ndim).map Int.ofNat)) (md 0) = .ok r
        ∧ r.ndim = 0 ∧ r.oddpos = [] ∧ r.elem [] [] = normSq K)
    -- (a·b)·(b̄·ā)
    ∧ (∃ r, Km.tensordotF Kbm' (.pair
          ((crossAx (freeAxes b.ndim xb).length (freeAxes a.ndim xa).length).map Int.ofNat)
          ((List.range K.ndim).map Int.ofNat)) (md 1) = .ok r
        ∧ r.ndim = 0 ∧ r.oddpos = [] ∧ r.elem [] [] = normSq K)
    -- (ā·b̄)·(b·a)
    ∧ (∃ r, Kbm.tensordotF Km' (.pair
          ((crossAx (freeAxes b.ndim xb).length (freeAxes a.ndim xa).length).map Int.ofNat)
          ((List.range K.ndim).map Int.ofNat)) (md 2) = .ok r
        ∧ r.ndim = 0 ∧ r.oddpos = [] ∧ r.elem [] [] = normSq K)
    -- (b·a)·(ā·b̄)
    ∧ (∃ r, Km'.tensordotF Kbm (.pair
          ((crossAx (freeAxes a.ndim xa).length (freeAxes b.ndim xb).length).map Int.ofNat)
          ((List.range K.ndim).map Int.ofNat)) (md 3) = .ok r
        ∧ r.ndim = 0 ∧ r.oddpos = [] ∧ r.elem [] [] = normSq K)

theorem network_norm_mixedM (hmul : ∀ x y : R, x * y = y * x) (hz1 : ∀ x : R, 0 * x = 0)
    (a b : Arr R) (xa xb : List Nat)
    (ha : a.validB = true) (hb : b.validB = true) (hfa : a.fermi = true) (hfb : b.fermi = true)
    (hadm : ValidP.tdotAdmissibleB a b xa xb = true)
    (hoA : KetLabels a.oddpos) (hoB : KetLabels b.oddpos)
    (hd : (a.oddpos ++ b.oddpos).Pairwise (fun x y => x.1 ≠ y.1))
    (mK mKb mK' mKb' : TdotMode) (md : Nat → TdotMode) :
    MixedM a b xa xb mK mKb mK' mKb' md := by
  have hz2 : ∀ x : R, x * 0 = 0 := fun x => by rw [hmul, hz1]
  have h := Adm.of ha hb hfa hfb hadm
  have hB := braOf_adm h
  have hadm' := admB_swap ha hb hfa hfb hadm
  have h' := Adm.of hb ha hfb hfa hadm'
  have hB' := braOf_adm h'
  obtain ⟨K, Kb, K', Kb', TN, ⟨r1, e1, n1, o1, v1⟩, ⟨r2, e2, n2, o2, v2⟩, ⟨r3, e3, n3, o3, v3⟩,
    ⟨r4, e4, n4, o4, v4⟩⟩ := network_norm_mixed hmul a b xa xb ha hb hfa hfb hadm hoA hoB hd
  obtain ⟨Km, eKm, HK, sK⟩ := half_of_call hz1 hz2 a b xa xb (AdmW.ofAdm h) mK K TN.eK
  obtain ⟨Kbm, eKbm, HKb, sKb⟩ :=
    half_of_call hz1 hz2 (braOf a xa) (braOf b xb) xa xb (AdmW.ofAdm hB) mKb Kb TN.eKb
  obtain ⟨Km', eKm', HK', sK'⟩ := half_of_call hz1 hz2 b a xb xa (AdmW.ofAdm h') mK' K' TN.eK'
  obtain ⟨Kbm', eKbm', HKb', sKb'⟩ :=
    half_of_call hz1 hz2 (braOf b xb) (braOf a xa) xb xa (AdmW.ofAdm hB') mKb' Kb' TN.eKb'
  have hwi : without (braOf a xa).indices xa ++ without (braOf b xb).indices xb
      = (without a.indices xa).map Index.conj ++ (without b.indices xb).map Index.conj := by
    rw [braOf_indices a xa, braOf_indices b xb, without_map, without_map]
  have hwi' : without (braOf b xb).indices xb ++ without (braOf a xa).indices xa
      = (without b.indices xb).map Index.conj ++ (without a.indices xa).map Index.conj := by
    rw [braOf_indices a xa, braOf_indices b xb, without_map, without_map]
  rw [hwi] at HKb
  rw [hwi'] at HKb'
  rw [braOf_sym a xa] at sKb
  rw [braOf_sym b xb] at sKb'
  have lA := without_length a xa
  have lB := without_length b xb
  have hn : K.ndim = (freeAxes a.ndim xa).length + (freeAxes b.ndim xb).length := by
    have := HK.frY.length_eq
    rw [List.length_append, lA, lB] at this
    exact this
  have hn' : K.ndim = (freeAxes b.ndim xb).length + (freeAxes a.ndim xa).length := by omega
  have nF := nodup_keys_frame ha hb xa xb
  have nF' := nodup_keys_frame hb ha xb xa
  have nFc : ∀ ix ∈ (without a.indices xa).map Index.conj ++ (without b.indices xb).map Index.conj,
      (ix.cm.map (·.1)).Nodup := by
    rw [← List.map_append]; exact nodup_keys_conj nF
  have nFc' : ∀ ix ∈ (without b.indices xb).map Index.conj ++ (without a.indices xa).map Index.conj,
      (ix.cm.map (·.1)).Nodup := by
    rw [← List.map_append]; exact nodup_keys_conj nF'
  refine ⟨K, Km, Kbm, Km', Kbm', TN.eK, eKm, eKbm, eKm', eKbm', ?_, ?_, ?_, ?_⟩
  · -- (b̄·ā)·(a·b): Z = Kb', X = K
    rw [hn, ← lA, ← lB] at e1 ⊢
    obtain ⟨rm, e, n, o, v⟩ := cross_call_any hz1 hz2 HKb' HK (by rw [sKb', sK, h.sym])
      (forall₂_opp_conj _) (forall₂_opp_conj _) nF r1 e1 n1 (md 0)
    exact ⟨rm, e, n, o.trans o1, v.trans v1⟩
  · -- (a·b)·(b̄·ā): Z = K, X = Kb'
    rw [hn', ← lA, ← lB, ← List.length_map (f := Index.conj) (as := without b.indices xb),
      ← List.length_map (f := Index.conj) (as := without a.indices xa)] at e2 ⊢
    obtain ⟨rm, e, n, o, v⟩ := cross_call_any hz1 hz2 HK HKb' (by rw [sKb', sK, h.sym])
      (forall₂_opp_conj' _) (forall₂_opp_conj' _) nFc' r2 e2 n2 (md 1)
    exact ⟨rm, e, n, o.trans o2, v.trans v2⟩
  · -- (ā·b̄)·(b·a): Z = Kb, X = K'
    rw [hn', ← lA, ← lB] at e3 ⊢
    obtain ⟨rm, e, n, o, v⟩ := cross_call_any hz1 hz2 HKb HK' (by rw [sKb, sK', h.sym])
      (forall₂_opp_conj _) (forall₂_opp_conj _) nF' r3 e3 n3 (md 2)
    exact ⟨rm, e, n, o.trans o3, v.trans v3⟩
  · -- (b·a)·(ā·b̄): Z = K', X = Kb
    rw [hn, ← lA, ← lB, ← List.length_map (f := Index.conj) (as := without b.indices xb),
      ← List.length_map (f := Index.conj) (as := without a.indices xa)] at e4 ⊢
    obtain ⟨rm, e, n, o, v⟩ := cross_call_any hz1 hz2 HK' HKb (by rw [sKb, sK', h.sym])
      (forall₂_opp_conj' _) (forall₂_opp_conj' _) nFc r4 e4 n4 (md 3)
    exact ⟨rm, e, n, o.trans o4, v.trans v4⟩

end mixedM

end SymmModel.NormNet
