/-
  SymmModel.Proofs.TdotFused5 — the operands as `tensordotViaFused` fuses them, the free group
  possibly empty: the fused bond tables of the two operands match (C06b
  `aligned_fused_tables_match`); the element map, groups, positions and indices of each fused
  operand; and the core of the strategy for any free groups (`Ctx0.core`): the product of the two
  fused operands at a decoded position is the blockwise contraction of the originals there.
  With nothing contracted each operand is fused into one group or left alone: `outer_side`, the
  record `OuterSide`.  Namespace `SymmModel.TdotP`.
-/
import SymmModel.Proofs.TdotFused4

namespace SymmModel
namespace TdotP
variable {R : Type}

theorem cover_of_pair {A : Arr R} {g1 g2 : List Nat} (hperm : (g1 ++ g2).Perm (List.range A.ndim))
    (hne : g1 ≠ [] ∨ g2 ≠ []) : Cover A ([g1, g2].filter (fun g => !g.isEmpty)) := by
  refine Cover.of_perm ?_ ?_ (by rw [C05.flatten_filter_nonempty]; simpa using hperm)
  · cases g1 <;> cases g2 <;> simp_all
  · intro g hg
    simp only [List.mem_filter, Bool.not_eq_true', List.isEmpty_eq_false_iff] at hg
    exact hg.2

/-- C06 `aligned_fused_tables_match` (Props/C06b), exact call form of `tensordotViaFused`.  After
    `dropMisaligned`, `fuseA a' [left, xa]` and `fuseA b' [xb, right]` (insert strategy, no
    expansion of empty groups) succeed, and the two fused bond indices — axis 1 of `af` (axis 0 if
    there is no left group) and axis 0 of `bf` — have equal chargemaps and opposite directions;
    for a multi-axis bond they carry the same extents (same sub-sectors, same order, same sizes),
    each extent strictly `sectorLt`-sorted, over sub-indices with equal chargemaps and opposite
    directions. -/
theorem aligned_tables_full [Zero R] (a b : Arr R) (xa xb : List Nat)
    (ha : a.validB = true) (hb : b.validB = true) (hsym : a.sym = b.sym)
    (hc : ValidP.contractibleB a b xa xb = true)
    (hnA : xa.Nodup) (hnB : xb.Nodup) (hA : ∀ x ∈ xa, x < a.ndim) (hB : ∀ x ∈ xb, x < b.ndim)
    (hneK : xa ≠ []) :
    ∃ af bf,
      fuseA (dropMisaligned a b xa xb).1 [freeAxes a.ndim xa, xa] .insert false = .ok af
      ∧ fuseA (dropMisaligned a b xa xb).2 [xb, freeAxes b.ndim xb] .insert false = .ok bf
      ∧ (af.indices.getD (if (freeAxes a.ndim xa).isEmpty then 0 else 1) default).cm
          = (bf.indices.getD 0 default).cm
      ∧ (af.indices.getD (if (freeAxes a.ndim xa).isEmpty then 0 else 1) default).dual
          = !(bf.indices.getD 0 default).dual
      ∧ (xa.map (fun ax => (dropMisaligned a b xa xb).1.indices.getD ax default)).map Index.cm
          = (xb.map (fun ax => (dropMisaligned a b xa xb).2.indices.getD ax default)).map Index.cm
      ∧ (xb.map (fun ax => (dropMisaligned a b xa xb).2.indices.getD ax default)).map Index.dual
          = (xa.map (fun ax => (dropMisaligned a b xa xb).1.indices.getD ax default)).map
              (fun ix => !ix.dual)
      ∧ (xa.length ≠ 1 → ∃ exts,
          (af.indices.getD (if (freeAxes a.ndim xa).isEmpty then 0 else 1) default).sub
            = some (xa.map (fun ax => (dropMisaligned a b xa xb).1.indices.getD ax default), exts)
          ∧ (bf.indices.getD 0 default).sub
            = some (xb.map (fun ax => (dropMisaligned a b xa xb).2.indices.getD ax default), exts)
          ∧ ∀ c e, alookup exts c = some e → isSortedStrict sectorLt (e.map (·.1)) = true) := by
  obtain ⟨n1, n2⟩ := dropMisaligned_ndim a b xa xb
  obtain ⟨v1, v2⟩ := ValidP.dropMisaligned_valid a b xa xb ((ValidP.validB_iff a).mp ha)
    ((ValidP.validB_iff b).mp hb)
  have hvA := FuseP.validArr_of_validB ((ValidP.validB_iff _).mpr v1)
  have hvB := FuseP.validArr_of_validB ((ValidP.validB_iff _).mpr v2)
  obtain ⟨hcm, hdual⟩ := aligned_cm_dual a b xa xb ha hb hA hB hc
  have hlen : xa.length = xb.length := by
    unfold ValidP.contractibleB at hc
    simp only [Bool.and_eq_true, beq_iff_eq] at hc
    exact hc.1
  have hneKb : xb ≠ [] := by
    intro e; rw [e] at hlen; exact hneK (List.eq_nil_of_length_eq_zero hlen)
  have hkeys := aligned_block_keys a b xa xb ha hb hA hB
  have hpA : (freeAxes a.ndim xa ++ xa).Perm (List.range (dropMisaligned a b xa xb).1.ndim) := by
    rw [n1]; have := ValidP.without_append_perm hnA hA; rwa [without_range] at this
  have hpB : (xb ++ freeAxes b.ndim xb).Perm (List.range (dropMisaligned a b xa xb).2.ndim) := by
    rw [n2]; have := ValidP.without_append_perm hnB hB
    rw [without_range] at this; exact List.perm_append_comm.trans this
  have hcA := cover_of_pair hpA (Or.inr hneK)
  have hcB := cover_of_pair hpB (Or.inl hneKb)
  have hokA := hcA.ok
  have hokB := hcB.ok
  have hposA := cover_position hcA
  have hposB := cover_position hcB
  have hgA : ([freeAxes a.ndim xa, xa].filter (fun g => !g.isEmpty))[if (freeAxes a.ndim xa).isEmpty then 0 else 1]?
      = some xa := by
    cases hl : freeAxes a.ndim xa with
    | nil => cases xa with
      | nil => exact absurd rfl hneK
      | cons x xs => simp
    | cons y ys => cases xa with
      | nil => exact absurd rfl hneK
      | cons x xs => simp
  have hgB : ([xb, freeAxes b.ndim xb].filter (fun g => !g.isEmpty))[0]? = some xb := by
    cases xb with
    | nil => exact absurd rfl hneKb
    | cons x xs => simp
  have hneGA : ([freeAxes a.ndim xa, xa].filter (fun g => !g.isEmpty)).isEmpty = false := by
    simpa using hokA.ne
  have hneGB : ([xb, freeAxes b.ndim xb].filter (fun g => !g.isEmpty)).isEmpty = false := by
    simpa using hokB.ne
  refine ⟨FuseP.fusedArrM (dropMisaligned a b xa xb).1 ([freeAxes a.ndim xa, xa].filter (fun g => !g.isEmpty)),
    FuseP.fusedArrM (dropMisaligned a b xa xb).2 ([xb, freeAxes b.ndim xb].filter (fun g => !g.isEmpty)),
    ?_, ?_, ?_⟩
  · rw [C05.fuseA_noexpand, hneGA]; exact FuseP.fuseCore_multi_eq hvA hokA.adm
  · rw [C05.fuseA_noexpand, hneGB]; exact FuseP.fuseCore_multi_eq hvB hokB.adm
  -- the bond indices are `ixM`
  have eIA : (FuseP.fusedArrM (dropMisaligned a b xa xb).1 ([freeAxes a.ndim xa, xa].filter (fun g => !g.isEmpty))).indices.getD
      (if (freeAxes a.ndim xa).isEmpty then 0 else 1) default
      = FuseP.ixM (dropMisaligned a b xa xb).1 ([freeAxes a.ndim xa, xa].filter (fun g => !g.isEmpty))
          (if (freeAxes a.ndim xa).isEmpty then 0 else 1) := by
    show (FuseP.newIdxM _ _).getD _ default = _
    simp only [FuseP.ixM, hposA, Nat.zero_add]
  have eIB : (FuseP.fusedArrM (dropMisaligned a b xa xb).2 ([xb, freeAxes b.ndim xb].filter (fun g => !g.isEmpty))).indices.getD
      0 default
      = FuseP.ixM (dropMisaligned a b xa xb).2 ([xb, freeAxes b.ndim xb].filter (fun g => !g.isEmpty)) 0 := by
    show (FuseP.newIdxM _ _).getD _ default = _
    simp only [FuseP.ixM, hposB, Nat.zero_add]
  rw [eIA, eIB]
  obtain ⟨h1, h2, h3⟩ := bond_match_of hvA hvB hsym hlen hcm hdual hkeys hokA hokB hgA hgB
  refine ⟨h1, h3, hcm, hdual, fun hl1 => ⟨FuseP.extsM _ _ _, FuseP.ixM_sub hokA.adm hgA hl1, ?_, ?_⟩⟩
  · rw [h2 hl1]; exact FuseP.ixM_sub hokB.adm hgB (by rw [← hlen]; exact hl1)
  · intro c e he
    simp only [FuseP.extsM] at he
    rw [FuseP.ixM_multi hokA.adm hgA hl1] at he
    exact FuseP.fusedIndexOf_sorted _ he

theorem ndim_zero_of_free_nil {n : Nat} (h : freeAxes n [] = []) : n = 0 := by
  rw [freeAxes_nil] at h
  simpa using congrArg List.length h

theorem cover_left {A : Arr R} {xa : List Nat} (hn : xa.Nodup) (hr : ∀ x ∈ xa, x < A.ndim)
    (hne : xa ≠ []) : Cover A ([freeAxes A.ndim xa, xa].filter (fun g => !g.isEmpty)) :=
  cover_of_pair (by have := ValidP.without_append_perm hn hr; rwa [without_range] at this) (Or.inr hne)

theorem cover_right {B : Arr R} {xb : List Nat} (hn : xb.Nodup) (hr : ∀ x ∈ xb, x < B.ndim)
    (hne : xb ≠ []) : Cover B ([xb, freeAxes B.ndim xb].filter (fun g => !g.isEmpty)) :=
  cover_of_pair (by
    have := ValidP.without_append_perm hn hr
    rw [without_range] at this
    exact List.perm_append_comm.trans this) (Or.inl hne)

theorem cover_all {A : Arr R} (hne : freeAxes A.ndim [] ≠ []) : Cover A [freeAxes A.ndim []] := by
  simpa [isEmpty_false hne] using
    cover_of_pair (A := A) (g1 := freeAxes A.ndim []) (g2 := []) (by rw [freeAxes_nil]; simp) (Or.inl hne)

theorem merged_parts {n : Nat} {xa : List Nat} (hn : xa.Nodup) (hr : ∀ x ∈ xa, x < n)
    {K F : Sector} {ok oF : List Nat} (hK : K.length = xa.length) (hok : ok.length = xa.length) :
    (permuted (mergeSec n xa K F) xa = K ∧ permuted (mergeIdx 0 n xa (freeAxes n xa) ok oF) xa = ok)
    ∧ (F.length = (freeAxes n xa).length → oF.length = (freeAxes n xa).length →
        permuted (mergeSec n xa K F) (freeAxes n xa) = F
        ∧ permuted (mergeIdx 0 n xa (freeAxes n xa) ok oF) (freeAxes n xa) = oF) :=
  ⟨⟨permuted_mergeSec_axes hn hr hK, permuted_mergeIdx_axes _ hn hr hok⟩, fun hF hoF =>
    ⟨permuted_mergeSec_free hF, permuted_mergeIdx_free _ (freeAxes_nodup _ _) mem_freeAxes_lt
      (fun _ hx => (mem_freeAxes.mp hx).2) hoF⟩⟩

/-- the hypothesis `HL` of `core_generic` for the left operand as the pipeline fuses it (free group
    possibly empty, bond group last) -/
theorem left_elem [Zero R] [Neg R] {A : Arr R} {xa : List Nat} (hv : FuseP.ValidArr A)
    (hph : A.phases = []) (hn : xa.Nodup) (hr : ∀ x ∈ xa, x < A.ndim) (hne : xa ≠ [])
    {G : List (List Nat)} (hG : G = [freeAxes A.ndim xa, xa].filter (fun g => !g.isEmpty))
    {cL : Sector} {iL : List Nat} {Ls : Sector} {oL : List Nat}
    (hL : LegDec A G (freeAxes A.ndim xa) 0 cL iL Ls oL)
    {c : Charge} {k D : Nat} {K : Sector} {ok : List Nat}
    (hdec : decAx A G (G.length - 1) c k = some (K, ok))
    (hsz : (FuseP.ixM A G (G.length - 1)).sizeOf? c = some D) (hk : k < D) :
    (FuseP.fusedArrM A G).elem (cL ++ [c]) (iL ++ [k]) =
      A.elem (mergeSec A.ndim xa K Ls) (mergeIdx 0 A.ndim xa (freeAxes A.ndim xa) ok oL) := by
  have hxaE := isEmpty_false hne
  have hc : Cover A G := by rw [hG]; exact cover_left hn hr hne
  by_cases hL0 : freeAxes A.ndim xa = []
  · -- no free axis: one group
    have hG1 : G = [xa] := by rw [hG, hL0]; simp [hxaE]
    subst hG1
    obtain ⟨rfl, rfl, rfl, rfl⟩ := hL.of_nil hL0
    obtain ⟨hKlen, hoklen⟩ := decAx_lengths hv hc.ok (g := 0) rfl hdec hsz hk
    obtain ⟨⟨e1, e2⟩, _⟩ := merged_parts (n := A.ndim) (F := []) (oF := []) hn hr hKlen hoklen
    refine cover_elem hv hph hc rfl rfl (mergeSec_length _ _ _ _) (mergeIdx_length _ _ _ _ _ _) ?_ ?_
    · intro g gaxes hg
      match g, hg with
      | 0, hg => cases hg; rw [e1, e2]; exact hdec
    · intro g hg
      match g, hg with
      | 0, _ => exact ⟨D, hsz, hk⟩
  · -- a free group: two groups
    have hG2 : G = [freeAxes A.ndim xa, xa] := by rw [hG]; simp [hxaE, isEmpty_false hL0]
    subst hG2
    obtain ⟨c0, i0, d0, rfl, rfl, hdL, hzL, hiL⟩ := hL.of_ne hL0
    obtain ⟨hKlen, hoklen⟩ := decAx_lengths hv hc.ok (g := 1) rfl hdec hsz hk
    obtain ⟨hFlen, hoFlen⟩ := decAx_lengths hv hc.ok (g := 0) rfl hdL hzL hiL
    obtain ⟨⟨e1, e2⟩, hfree⟩ := merged_parts (n := A.ndim) (F := Ls) (oF := oL) hn hr hKlen hoklen
    obtain ⟨e3, e4⟩ := hfree hFlen hoFlen
    refine cover_elem hv hph hc rfl rfl (mergeSec_length _ _ _ _) (mergeIdx_length _ _ _ _ _ _) ?_ ?_
    · intro g gaxes hg
      match g, hg with
      | 1, hg => cases hg; rw [e1, e2]; exact hdec
      | 0, hg => cases hg; rw [e3, e4]; exact hdL
    · intro g hg
      match g, hg with
      | 1, _ => exact ⟨D, hsz, hk⟩
      | 0, _ => exact ⟨d0, hzL, hiL⟩

/-- mirror image of `left_elem`: the right operand, bond group first, free group possibly empty -/
theorem right_elem [Zero R] [Neg R] {B : Arr R} {xb : List Nat} (hv : FuseP.ValidArr B)
    (hph : B.phases = []) (hn : xb.Nodup) (hr : ∀ x ∈ xb, x < B.ndim) (hne : xb ≠ [])
    {G : List (List Nat)} (hG : G = [xb, freeAxes B.ndim xb].filter (fun g => !g.isEmpty))
    {cR : Sector} {iR : List Nat} {Rs : Sector} {oR : List Nat}
    (hR : LegDec B G (freeAxes B.ndim xb) 1 cR iR Rs oR)
    {c : Charge} {k D : Nat} {K : Sector} {ok : List Nat}
    (hdec : decAx B G 0 c k = some (K, ok))
    (hsz : (FuseP.ixM B G 0).sizeOf? c = some D) (hk : k < D) :
    (FuseP.fusedArrM B G).elem (c :: cR) (k :: iR) =
      B.elem (mergeSec B.ndim xb K Rs) (mergeIdx 0 B.ndim xb (freeAxes B.ndim xb) ok oR) := by
  have hxbE := isEmpty_false hne
  have hc : Cover B G := by rw [hG]; exact cover_right hn hr hne
  by_cases hR0 : freeAxes B.ndim xb = []
  · -- no free axis: one group
    have hG1 : G = [xb] := by rw [hG, hR0]; simp [hxbE]
    subst hG1
    obtain ⟨rfl, rfl, rfl, rfl⟩ := hR.of_nil hR0
    obtain ⟨hKlen, hoklen⟩ := decAx_lengths hv hc.ok (g := 0) rfl hdec hsz hk
    obtain ⟨⟨e1, e2⟩, _⟩ := merged_parts (n := B.ndim) (F := []) (oF := []) hn hr hKlen hoklen
    refine cover_elem hv hph hc rfl rfl (mergeSec_length _ _ _ _) (mergeIdx_length _ _ _ _ _ _) ?_ ?_
    · intro g gaxes hg
      match g, hg with
      | 0, hg => cases hg; rw [e1, e2]; exact hdec
    · intro g hg
      match g, hg with
      | 0, _ => exact ⟨D, hsz, hk⟩
  · -- a free group: two groups
    have hG2 : G = [xb, freeAxes B.ndim xb] := by rw [hG]; simp [hxbE, isEmpty_false hR0]
    subst hG2
    obtain ⟨c0, i0, d0, rfl, rfl, hdR, hzR, hiR⟩ := hR.of_ne hR0
    obtain ⟨hKlen, hoklen⟩ := decAx_lengths hv hc.ok (g := 0) rfl hdec hsz hk
    obtain ⟨hFlen, hoFlen⟩ := decAx_lengths hv hc.ok (g := 1) rfl hdR hzR hiR
    obtain ⟨⟨e1, e2⟩, hfree⟩ := merged_parts (n := B.ndim) (F := Rs) (oF := oR) hn hr hKlen hoklen
    obtain ⟨e3, e4⟩ := hfree hFlen hoFlen
    refine cover_elem hv hph hc rfl rfl (mergeSec_length _ _ _ _) (mergeIdx_length _ _ _ _ _ _) ?_ ?_
    · intro g gaxes hg
      match g, hg with
      | 0, hg => cases hg; rw [e1, e2]; exact hdec
      | 1, hg => cases hg; rw [e3, e4]; exact hdR
    · intro g hg
      match g, hg with
      | 0, _ => exact ⟨D, hsz, hk⟩
      | 1, _ => exact ⟨d0, hzR, hiR⟩

theorem LegDec.box {A : Arr R} {G : List (List Nat)} {g : List Nat} {p : Nat}
    {cs : Sector} {is : List Nat} {S : Sector} {O : List Nat} (h : LegDec A G g p cs is S O) :
    ∃ shp, Arr.blockShape? (if g = [] then [] else [FuseP.ixM A G p]) cs = some shp ∧ inBox shp is = true := by
  by_cases hg0 : g = []
  · obtain ⟨rfl, rfl, rfl, rfl⟩ := h.of_nil hg0
    subst hg0
    exact ⟨[], rfl, rfl⟩
  · obtain ⟨c, i, d, rfl, rfl, hd, hz, hi⟩ := h.of_ne hg0
    refine ⟨[d], ?_, by simp [inBox, hi]⟩
    simp [hg0, Arr.blockShape?_cons, Arr.blockShape?_nil_nil, hz]

theorem LegDec.facts {A : Arr R} {G : List (List Nat)} (hv : FuseP.ValidArr A)
    (hok : FuseP.GroupsOk G A.ndim) {g : List Nat} {p : Nat} (hg : g ≠ [] → G[p]? = some g)
    {cs : Sector} {is : List Nat} {S : Sector} {O : List Nat} (h : LegDec A G g p cs is S O) :
    ∃ shp, Arr.blockShape? (permuted A.indices g) S = some shp ∧ inBox shp O = true := by
  by_cases hg0 : g = []
  · obtain ⟨rfl, rfl, rfl, rfl⟩ := h.of_nil hg0
    subst hg0
    exact ⟨[], rfl, rfl⟩
  · obtain ⟨c, i, d, rfl, rfl, hd, hz, hi⟩ := h.of_ne hg0
    exact decAx_facts hv hok (hg hg0) hd hz hi

theorem left_side {A : Arr R} {xa : List Nat} (hn : xa.Nodup) (hr : ∀ x ∈ xa, x < A.ndim) (hne : xa ≠ [])
    {G : List (List Nat)} (hG : G = [freeAxes A.ndim xa, xa].filter (fun g => !g.isEmpty)) :
    Cover A G ∧ G[G.length - 1]? = some xa ∧ (freeAxes A.ndim xa ≠ [] → G[0]? = some (freeAxes A.ndim xa))
    ∧ FuseP.newIdxM A G = (if freeAxes A.ndim xa = [] then [] else [FuseP.ixM A G 0])
        ++ [FuseP.ixM A G (G.length - 1)] := by
  have hxaE := isEmpty_false hne
  have hc : Cover A G := by rw [hG]; exact cover_left hn hr hne
  by_cases hL0 : freeAxes A.ndim xa = []
  · have hG1 : G = [xa] := by rw [hG, hL0]; simp [hxaE]
    subst hG1
    exact ⟨hc, rfl, fun h => absurd hL0 h, by rw [cover_newIdx hc]; simp [hL0]⟩
  · have hG2 : G = [freeAxes A.ndim xa, xa] := by rw [hG]; simp [hxaE, isEmpty_false hL0]
    subst hG2
    exact ⟨hc, rfl, fun _ => rfl, by rw [cover_newIdx hc]; simp [hL0, List.range_succ]⟩

theorem right_side {B : Arr R} {xb : List Nat} (hn : xb.Nodup) (hr : ∀ x ∈ xb, x < B.ndim) (hne : xb ≠ [])
    {G : List (List Nat)} (hG : G = [xb, freeAxes B.ndim xb].filter (fun g => !g.isEmpty)) :
    Cover B G ∧ G[0]? = some xb ∧ (freeAxes B.ndim xb ≠ [] → G[1]? = some (freeAxes B.ndim xb))
    ∧ FuseP.newIdxM B G = FuseP.ixM B G 0 ::
        (if freeAxes B.ndim xb = [] then [] else [FuseP.ixM B G 1]) := by
  have hxbE := isEmpty_false hne
  have hc : Cover B G := by rw [hG]; exact cover_right hn hr hne
  by_cases hR0 : freeAxes B.ndim xb = []
  · have hG1 : G = [xb] := by rw [hG, hR0]; simp [hxbE]
    subst hG1
    exact ⟨hc, rfl, fun h => absurd hR0 h, by rw [cover_newIdx hc]; simp [hR0]⟩
  · have hG2 : G = [xb, freeAxes B.ndim xb] := by rw [hG]; simp [hxbE, isEmpty_false hR0]
    subst hG2
    exact ⟨hc, rfl, fun _ => rfl, by rw [cover_newIdx hc]; simp [hR0, List.range_succ]⟩

/-- **core of the fused strategy, any free groups.**  The product of the two fused operands at a
    position whose left / right part decodes (`LegDec`: no axis for an empty free group) to
    `(Ls, oL)` / `(Rs, oR)` is the blockwise contraction of the original operands at
    `(Ls ++ Rs, oL ++ oR)`. -/
theorem Ctx0.core [AddCommMonoid R] [Mul R] [Neg R]
    (hz1 : ∀ x : R, 0 * x = 0) (hz2 : ∀ x : R, x * 0 = 0) {A B : Arr R} {xa xb : List Nat}
    (h : Ctx0 A B xa xb) (hne : xa ≠ []) {GA GB : List (List Nat)}
    (hGA : GA = [freeAxes A.ndim xa, xa].filter (fun g => !g.isEmpty))
    (hGB : GB = [xb, freeAxes B.ndim xb].filter (fun g => !g.isEmpty))
    {cL cR : Sector} {iL iR : List Nat} {Ls Rs : Sector} {oL oR : List Nat}
    (hdL : LegDec A GA (freeAxes A.ndim xa) 0 cL iL Ls oL)
    (hdR : LegDec B GB (freeAxes B.ndim xb) 1 cR iR Rs oR) :
    (tensordotBlockwise (FuseP.fusedArrM A GA) (FuseP.fusedArrM B GB)
        (freeAxes (FuseP.fusedArrM A GA).ndim [GA.length - 1]) [GA.length - 1] [0]
        (freeAxes (FuseP.fusedArrM B GB).ndim [0])).elem (cL ++ cR) (iL ++ iR) =
      (tensordotBlockwise A B (freeAxes A.ndim xa) xa xb (freeAxes B.ndim xb)).elem (Ls ++ Rs) (oL ++ oR) := by
  have hneb := h.neB hne
  obtain ⟨hcA, hgKA, hgLA, hiA⟩ := left_side h.nA h.rA hne hGA
  obtain ⟨hcB, hgKB, hgRB, hiB⟩ := right_side h.nB h.rB hneb hGB
  have hvaf := fused_cover_validB h.vA h.fA hcA
  have hvbf := fused_cover_validB h.vB h.fB hcB
  obtain ⟨shpL, hL, hiL⟩ := hdL.box
  obtain ⟨shpL', hshpL, hboxL⟩ := hdL.facts h.vaA hcA.ok hgLA
  obtain ⟨shpR, hR, hiR⟩ := hdR.box
  obtain ⟨shpR', hshpR, hboxR⟩ := hdR.facts h.vaB hcB.ok hgRB
  have hpl : (if freeAxes A.ndim xa = [] then ([] : List Index) else [FuseP.ixM A GA 0]).length
      = GA.length - 1 := by
    have := congrArg List.length hiA
    rw [FuseP.newIdxM_length hcA.ok.adm, cover_ndimM hcA] at this
    simp only [List.length_append, List.length_cons, List.length_nil] at this
    omega
  have hb := bond_elem hz1 hz2 (FuseP.fusedArrM A GA) (FuseP.fusedArrM B GB) _ _ _ _ hiA hiB h.phA h.phB
    (Arr.allDistinct_of_validB hvaf) (Arr.allDistinct_of_validB hvbf)
    (Arr.shapesOk_of_validB hvaf) (Arr.shapesOk_of_validB hvbf)
    (cm_keys_nodup (ixM_wfB h.vaA hcA.ok hgKA)) hL hiL hR hiR
  rw [hpl] at hb
  rw [hb]
  exact core_generic hz1 hz2 h hcA.ok hcB.ok hgKA hgKB hshpL hboxL hshpR hboxR
    (fun c k => (FuseP.fusedArrM A GA).elem (cL ++ [c]) (iL ++ [k]))
    (fun c k => (FuseP.fusedArrM B GB).elem (c :: cR) (k :: iR))
    (fun c D k K ok hsz hk hdec => left_elem h.vaA h.phA h.nA h.rA hne hGA hdL hdec hsz hk)
    (fun c D k K ok hsz hk hdec => right_elem h.vaB h.phB h.nB h.rB hneb hGB hdR hdec hsz hk)

theorem all_elem [Zero R] [Neg R] {A : Arr R} (hv : FuseP.ValidArr A) (hph : A.phases = [])
    (hne : freeAxes A.ndim [] ≠ []) {c : Charge} {i d : Nat} {S : Sector} {O : List Nat}
    (h1 : decAx A [freeAxes A.ndim []] 0 c i = some (S, O))
    (hz : (FuseP.ixM A [freeAxes A.ndim []] 0).sizeOf? c = some d) (hi : i < d) :
    (FuseP.fusedArrM A [freeAxes A.ndim []]).elem [c] [i] = A.elem S O
    ∧ ∃ shp, Arr.blockShape? A.indices S = some shp ∧ inBox shp O = true := by
  have hc := cover_all hne
  obtain ⟨shp, hshp, hbox⟩ := decAx_facts hv hc.ok (g := 0) rfl h1 hz hi
  have ean : A.indices.length = A.ndim := rfl
  have hpi : permuted A.indices (freeAxes A.ndim []) = A.indices := by
    rw [freeAxes_nil, ← ean, permuted_range]
  rw [hpi] at hshp
  have hSl : S.length = A.ndim := (blockShape?_length hshp).1
  have hOl : O.length = A.ndim := (inBox_length hbox).trans (blockShape?_length hshp).2
  have e1 : permuted S (freeAxes A.ndim []) = S := by rw [freeAxes_nil, ← hSl, permuted_range]
  have e2 : permuted O (freeAxes A.ndim []) = O := by rw [freeAxes_nil, ← hOl, permuted_range]
  refine ⟨cover_elem hv hph hc rfl rfl hSl hOl ?_ ?_, shp, hshp, hbox⟩
  · intro g gaxes hg
    match g, hg with
    | 0, hg => cases hg; rw [e1, e2]; exact h1
  · intro g hg
    match g, hg with
    | 0, _ => exact ⟨d, hz, hi⟩

/-- `AF` is the operand `A` as the pipeline hands it to the product when nothing is contracted:
    all axes fused into the one group of `G`, or `A` itself when it has rank 0 and `G = []` -/
structure OuterSide [Zero R] [Neg R] (A : Arr R) (G : List (List Nat)) (AF : Arr R) : Prop where
  valid : AF.validB = true
  sym : AF.sym = A.sym
  fermi : AF.fermi = A.fermi
  charge : AF.charge = A.charge
  phases : AF.phases = A.phases
  oddpos : AF.oddpos = A.oddpos
  indices : AF.indices = (if freeAxes A.ndim [] = [] then [] else [FuseP.ixM A G 0])
  groups : freeAxes A.ndim [] ≠ [] → FuseP.GroupsOk G A.ndim ∧ G[0]? = some (freeAxes A.ndim [])
  elem : ∀ {cs : Sector} {is : List Nat} {S : Sector} {O : List Nat},
    LegDec A G (freeAxes A.ndim []) 0 cs is S O →
    AF.elem cs is = A.elem S O ∧ cs.length = AF.ndim ∧ is.length = AF.ndim
    ∧ S.length = A.ndim ∧ O.length = A.ndim
    ∧ ∃ shp, Arr.blockShape? A.indices S = some shp ∧ inBox shp O = true
  stored : ∀ sb ∈ A.blocks, legKey A G (freeAxes A.ndim []) 0 sb ∈ AF.sectors

theorem outer_side [Zero R] [Neg R] {A : Arr R} (hv : A.validB = true) (hf : A.fermi = false)
    {G : List (List Nat)} (hG : G = if freeAxes A.ndim [] = [] then [] else [freeAxes A.ndim []]) :
    ∃ AF, (if G.isEmpty then .ok A else fuseCore A G .insert) = .ok AF ∧ OuterSide A G AF := by
  have hva := FuseP.validArr_of_validB hv
  have hph : A.phases = [] := Arr.phases_nil_of_validB hv hf
  by_cases h0 : freeAxes A.ndim [] = []
  · have hA0 : A.ndim = 0 := ndim_zero_of_free_nil h0
    have hAi : A.indices = [] := List.eq_nil_of_length_eq_zero hA0
    rw [if_pos h0] at hG
    subst hG
    refine ⟨A, rfl, hv, rfl, rfl, rfl, rfl, rfl, by rw [hAi, if_pos h0], fun h => absurd h0 h, ?_, ?_⟩
    · intro cs is S O hd
      obtain ⟨rfl, rfl, rfl, rfl⟩ := hd.of_nil h0
      exact ⟨rfl, hA0.symm, hA0.symm, hA0.symm, hA0.symm, [], by rw [hAi]; rfl, rfl⟩
    · intro sb hsb
      have : sb.1 = [] := List.eq_nil_of_length_eq_zero (((hva.blk sb hsb).1).trans hA0)
      simp only [legKey, h0, if_true]
      rw [← this]; exact List.mem_map.mpr ⟨sb, hsb, rfl⟩
  · rw [if_neg h0] at hG
    subst hG
    have hc := cover_all h0
    refine ⟨FuseP.fusedArrM A [freeAxes A.ndim []], ?_, fused_cover_validB hv hf hc, rfl, rfl, rfl, rfl, rfl,
      by rw [if_neg h0]; exact (cover_newIdx hc).trans (by simp), fun _ => ⟨hc.ok, rfl⟩, ?_, ?_⟩
    · simpa using FuseP.fuseCore_multi_eq hva hc.ok.adm
    · intro cs is S O hd
      obtain ⟨c, i, d, rfl, rfl, hdec, hz, hi⟩ := hd.of_ne h0
      obtain ⟨he, shp, hshp, hbox⟩ := all_elem hva hph h0 hdec hz hi
      have hn1 : (FuseP.fusedArrM A [freeAxes A.ndim []]).ndim = 1 :=
        (FuseP.newIdxM_length hc.ok.adm).trans (cover_ndimM hc)
      exact ⟨he, hn1.symm, hn1.symm, (blockShape?_length hshp).1,
        (inBox_length hbox).trans (blockShape?_length hshp).2, shp, hshp, hbox⟩
    · intro sb hsb
      obtain ⟨Bx, hBx, _⟩ := FuseP.fusedBlockM_exists hva hc.ok.adm hsb
      rw [cover_newSector hc] at hBx
      simp only [legKey, h0, if_false]
      exact List.mem_map.mpr ⟨_, alookup_some_mem hBx, by simp⟩

end TdotP
end SymmModel
