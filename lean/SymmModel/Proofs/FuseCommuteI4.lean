/-
  SymmModel.Proofs.FuseCommuteI4 — the address layouts of "fuse a free-leg group, then contract" and
  "contract, then fuse the corresponding legs" coincide OUTSIDE the fused leg, and the fused leg sits
  at the same position.  The layouts are lists with positions removed (`without`): removing in two
  steps removes the union (`without_without`), the union does not depend on the order
  (`without_congr`), hence `layout_abstract` for any two lists that agree outside a group / one
  position; `layout_core`, `layout_left` read it for the fused array (`layout_right`: FuseCommuteI5).
  Namespace `SymmModel.TdotP`.
-/
import SymmModel.Proofs.FuseCommuteI3

namespace SymmModel
namespace TdotP
open AssocP RoutesP
variable {R : Type}

theorem getD_idxOf {L : List Nat} {x : Nat} (hx : x ∈ L) (d : Nat) : L.getD (L.idxOf x) d = x := by
  have hi := List.idxOf_lt_length_of_mem hx
  rw [List.getD_eq_getElem?_getD, List.getElem?_eq_getElem hi, List.getElem_idxOf hi]; rfl

theorem idxOf_inj_of_mem {L : List Nat} {y z : Nat} (hy : y ∈ L) (hz : z ∈ L)
    (e : L.idxOf y = L.idxOf z) : y = z := by
  rw [← getD_idxOf hy 0, e, getD_idxOf hz]

theorem idxOf_eq_count_lt {L : List Nat} (hs : L.Pairwise (· < ·)) {v : Nat} (hv : v ∈ L) :
    L.idxOf v = (L.filter (fun y => decide (y < v))).length := by
  induction L with
  | nil => simp at hv
  | cons y ys ih =>
    have hp := List.pairwise_cons.mp hs
    by_cases hyv : y = v
    · subst hyv
      have : (y :: ys).filter (fun z => decide (z < y)) = [] := by
        rw [List.filter_eq_nil_iff]
        intro z hz
        rcases List.mem_cons.mp hz with rfl | hz'
        · simp
        · have := hp.1 z hz'; simp; omega
      rw [this]; simp
    · have hv' : v ∈ ys := by
        rcases List.mem_cons.mp hv with h | h
        · exact absurd h.symm hyv
        · exact h
      have hlt : y < v := hp.1 v hv'
      rw [List.idxOf_cons_ne _ hyv, ih hp.2 hv', List.filter_cons_of_pos (by simpa using hlt)]
      rfl

theorem freeAxes_two_step (n : Nat) (S T : List Nat) :
    permuted (freeAxes n S) (freeAxes (freeAxes n S).length T)
      = freeAxes n (S ++ T.map (fun j => (freeAxes n S).getD j n)) := by
  have hq : ∀ i ∈ freeAxes (freeAxes n S).length T, i < (freeAxes n S).length :=
    fun i hi => (mem_freeAxes.mp hi).1
  have hgd : ∀ i (hi : i < (freeAxes n S).length), (freeAxes n S).getD i n = (freeAxes n S)[i] := by
    intro i hi; rw [List.getD_eq_getElem?_getD, List.getElem?_eq_getElem hi]; rfl
  rw [permuted_eq_map _ _ hq n]
  apply List.Pairwise.eq_of_mem_iff (r := (· < ·))
  · rw [List.pairwise_map]
    refine (freeAxes_pairwise _ _).imp_of_mem ?_
    intro i j hi hj hij
    rw [hgd i (hq i hi), hgd j (hq j hj)]
    exact List.pairwise_iff_getElem.mp (freeAxes_pairwise n S) _ _ (hq i hi) (hq j hj) hij
  · exact freeAxes_pairwise _ _
  · intro z
    simp only [List.mem_map, mem_freeAxes, List.mem_append, not_or]
    constructor
    · rintro ⟨i, ⟨hil, hiT⟩, rfl⟩
      rw [hgd i hil]
      have hm := mem_freeAxes.mp (List.getElem_mem hil)
      refine ⟨hm.1, hm.2, ?_⟩
      rintro ⟨j, hjT, e⟩
      by_cases hjl : j < (freeAxes n S).length
      · rw [hgd j hjl] at e
        have := (List.Nodup.getElem_inj_iff (freeAxes_nodup n S)).mp e
        exact hiT (this ▸ hjT)
      · rw [List.getD_eq_getElem?_getD, List.getElem?_eq_none (by omega)] at e
        simp at e; omega
    · rintro ⟨hz, hzS, hzT⟩
      have hzm : z ∈ freeAxes n S := mem_freeAxes.mpr ⟨hz, hzS⟩
      obtain ⟨i, hi, rfl⟩ := List.mem_iff_getElem.mp hzm
      exact ⟨i, ⟨hi, fun hiT => hzT ⟨i, hiT, hgd i hi⟩⟩, hgd i hi⟩

theorem without_without {α : Type} (l : List α) (S T : List Nat) :
    without (without l S) T
      = without l (S ++ T.map (fun j => (freeAxes l.length S).getD j l.length)) := by
  rw [without_eq_permuted_freeAxes (without l S), without_length, without_eq_permuted_freeAxes l S,
    without_eq_permuted_freeAxes l, ← freeAxes_two_step,
    RoutesP.permuted_permuted_ax l _ _ (fun i hi => mem_freeAxes_lt i hi)]

theorem without_congr {α : Type} (l : List α) {S S' : List Nat} (h : ∀ x, x ∈ S ↔ x ∈ S') :
    without l S = without l S' := by
  unfold without
  congr 1
  apply List.filter_congr
  intro p _
  have : S.contains p.2 = S'.contains p.2 := by
    rw [Bool.eq_iff_iff]; simpa using h p.2
  rw [this]

/-- `V'` is `V` with the positions `g` replaced by ONE position `pos` (`hf`); `sh` renumbers the positions
    outside `g`. -/
theorem layout_abstract {α : Type} (V V' : List α) (g xa : List Nat) (pos : Nat)
    (hpos : pos < V'.length) (hg : ∀ x ∈ g, x < V.length)
    (hxa : ∀ x ∈ xa, x < V.length ∧ x ∉ g)
    (hlen : (freeAxes V'.length [pos]).length = (freeAxes V.length g).length)
    (hf : without V' [pos] = without V g) :
    let sh := fun x => (freeAxes V'.length [pos]).getD ((freeAxes V.length g).idxOf x) V'.length
    without (without V' (xa.map sh)) [(freeAxes V'.length (xa.map sh)).idxOf pos]
      = without (without V xa) (g.map (fun x => (freeAxes V.length xa).idxOf x)) := by
  intro sh
  have hxF : ∀ x ∈ xa, x ∈ freeAxes V.length g := fun x hx => mem_freeAxes.mpr (hxa x hx)
  have hshF : ∀ x ∈ xa, sh x ∈ freeAxes V'.length [pos] := by
    intro x hx
    have hi : (freeAxes V.length g).idxOf x < (freeAxes V'.length [pos]).length := by
      rw [hlen]; exact List.idxOf_lt_length_of_mem (hxF x hx)
    show (freeAxes V'.length [pos]).getD _ _ ∈ _
    rw [List.getD_eq_getElem?_getD, List.getElem?_eq_getElem hi]; exact List.getElem_mem hi
  have hposF : pos ∈ freeAxes V'.length (xa.map sh) := by
    refine mem_freeAxes.mpr ⟨hpos, ?_⟩
    rintro hm
    obtain ⟨x, hx, e⟩ := List.mem_map.mp hm
    have := (mem_freeAxes.mp (hshF x hx)).2
    rw [e] at this; simp at this
  have hgF : ∀ x ∈ g, x ∈ freeAxes V.length xa :=
    fun x hx => mem_freeAxes.mpr ⟨hg x hx, fun hm => (hxa x hm).2 hx⟩
  -- both sides remove a union at once
  rw [without_without, without_without]
  simp only [List.map_cons, List.map_nil, List.map_map, Function.comp_def]
  rw [getD_idxOf hposF,
    show g.map (fun x => (freeAxes V.length xa).getD ((freeAxes V.length xa).idxOf x) V.length) = g from by
      conv_rhs => rw [← List.map_id g]
      exact List.map_congr_left fun x hx => getD_idxOf (hgF x hx) _]
  -- remove the group / the fused position FIRST instead
  rw [without_congr V' (S' := [pos] ++ xa.map sh) (by intro x; simp [or_comm]),
    without_congr V (S' := g ++ xa) (by intro x; simp [or_comm])]
  have e1 : xa.map sh = (xa.map (fun x => (freeAxes V.length g).idxOf x)).map
      (fun j => (freeAxes V'.length [pos]).getD j V'.length) := by
    rw [List.map_map]; rfl
  have e2 : xa = (xa.map (fun x => (freeAxes V.length g).idxOf x)).map
      (fun j => (freeAxes V.length g).getD j V.length) := by
    rw [List.map_map]
    conv_lhs => rw [← List.map_id xa]
    exact List.map_congr_left fun x hx => (getD_idxOf (hxF x hx) _).symm
  conv_lhs => rw [e1]
  conv_rhs => rw [e2]
  rw [← without_without, ← without_without, hf]

section Layout
variable {X : Arr R} {g xa : List Nat}

theorem free_below_pos (h : OneOk X g) (hxaF : ∀ x ∈ xa, x < X.ndim ∧ x ∉ g) :
    (freeAxes X.ndim xa).filter (fun y => decide (y < (FuseP.giM X [g]).position))
      = (freeAxes (FuseP.ndimM X [g]) (xa.map (shiftAxes X g))).filter
          (fun y => decide (y < (FuseP.giM X [g]).position)) := by
  have hp := one_pos_lt h
  have hpF := one_pos_lt_ndimM h
  have hpg := one_pos_mem h
  apply List.Pairwise.eq_of_mem_iff (r := (· < ·))
  · exact (freeAxes_pairwise _ _).filter _
  · exact (freeAxes_pairwise _ _).filter _
  · intro z
    simp only [List.mem_filter, mem_freeAxes, decide_eq_true_eq, List.mem_map, not_exists, not_and]
    constructor
    · rintro ⟨⟨_, hz2⟩, hz3⟩
      refine ⟨⟨by omega, ?_⟩, hz3⟩
      intro x hx e
      have hxF := hxaF x hx
      rcases Nat.lt_trichotomy x (FuseP.giM X [g]).position with hlt | heq | hgt
      · rw [shiftAxes_of_lt_pos h hlt] at e; exact hz2 (e ▸ hx)
      · exact hxF.2 (heq ▸ hpg)
      · have := shiftAxes_of_pos_lt h hxF hgt; omega
    · rintro ⟨⟨_, hz2⟩, hz3⟩
      refine ⟨⟨by omega, ?_⟩, hz3⟩
      intro hx
      exact hz2 z hx (shiftAxes_of_lt_pos h hz3)

theorem idxOf_pos_eq (h : OneOk X g) (hxaF : ∀ x ∈ xa, x < X.ndim ∧ x ∉ g) :
    (freeAxes (FuseP.ndimM X [g]) (xa.map (shiftAxes X g))).idxOf (FuseP.giM X [g]).position
      = (freeAxes X.ndim xa).idxOf (FuseP.giM X [g]).position := by
  have hpg := one_pos_mem h
  have m1 : (FuseP.giM X [g]).position ∈ freeAxes X.ndim xa :=
    mem_freeAxes.mpr ⟨one_pos_lt h, fun hm => (hxaF _ hm).2 hpg⟩
  have m2 : (FuseP.giM X [g]).position ∈ freeAxes (FuseP.ndimM X [g]) (xa.map (shiftAxes X g)) := by
    refine mem_freeAxes.mpr ⟨one_pos_lt_ndimM h, ?_⟩
    intro hm
    obtain ⟨x, hx, e⟩ := List.mem_map.mp hm
    exact shiftAxes_ne_pos h (hxaF x hx) e
  rw [idxOf_eq_count_lt (freeAxes_pairwise _ _) m1, idxOf_eq_count_lt (freeAxes_pairwise _ _) m2,
    free_below_pos h hxaF]

/-- `off`: where the operand's free legs start in the result -/
theorem bondPos_map_idxOf_off {C : Arr R} (off : Nat) (h : OneOk X g) (hdisj : ∀ x ∈ g, x ∉ xa)
    (hC : off + (freeAxes X.ndim xa).length ≤ C.ndim) :
    ∃ _ : OneOk C (g.map (fun x => off + (freeAxes X.ndim xa).idxOf x)),
      (FuseP.giM C [g.map (fun x => off + (freeAxes X.ndim xa).idxOf x)]).position
        = off + (freeAxes X.ndim xa).idxOf (FuseP.giM X [g]).position := by
  have hmem : ∀ x ∈ g, x ∈ freeAxes X.ndim xa := fun x hx => mem_freeAxes.mpr ⟨h.lt x hx, hdisj x hx⟩
  have h' : OneOk C (g.map (fun x => off + (freeAxes X.ndim xa).idxOf x)) := by
    refine ⟨by simpa using h.ne, ?_, ?_⟩
    · exact h.nd.map_on (fun x hx y hy e =>
        idxOf_inj_of_mem (hmem x hx) (hmem y hy) (Nat.add_left_cancel e))
    · intro i hi
      obtain ⟨x, hx, rfl⟩ := List.mem_map.mp hi
      have := List.idxOf_lt_length_of_mem (hmem x hx)
      omega
  refine ⟨h', ?_⟩
  have m1 := one_pos_mem h'
  have m2 := one_pos_le h'
  have hpg := one_pos_mem h
  obtain ⟨y, hy, e⟩ := List.mem_map.mp m1
  have hle : (FuseP.giM X [g]).position ≤ y := one_pos_le h y hy
  have a1 : (FuseP.giM C [g.map (fun x => off + (freeAxes X.ndim xa).idxOf x)]).position
      ≤ off + (freeAxes X.ndim xa).idxOf (FuseP.giM X [g]).position :=
    m2 _ (List.mem_map.mpr ⟨_, hpg, rfl⟩)
  have a2 : off + (freeAxes X.ndim xa).idxOf (FuseP.giM X [g]).position
      ≤ (FuseP.giM C [g.map (fun x => off + (freeAxes X.ndim xa).idxOf x)]).position := by
    rw [← e]
    rcases Nat.lt_or_eq_of_le hle with hlt | heq
    · have := idxOf_lt_of_lt (freeAxes_pairwise _ _) (hmem _ hpg) (hmem y hy) hlt
      omega
    · rw [heq]
  omega

theorem bondPos_map_idxOf {C : Arr R} (h : OneOk X g) (hdisj : ∀ x ∈ g, x ∉ xa)
    (hC : (freeAxes X.ndim xa).length ≤ C.ndim) :
    ∃ _ : OneOk C (g.map (fun x => (freeAxes X.ndim xa).idxOf x)),
      (FuseP.giM C [g.map (fun x => (freeAxes X.ndim xa).idxOf x)]).position
        = (freeAxes X.ndim xa).idxOf (FuseP.giM X [g]).position := by
  obtain ⟨h', e⟩ := bondPos_map_idxOf_off (C := C) 0 h hdisj (by omega)
  simp only [Nat.zero_add] at h' e
  exact ⟨h', e⟩

theorem layout_core {α : Type} (h : OneOk X g) (hxaF : ∀ x ∈ xa, x < X.ndim ∧ x ∉ g)
    {V' V : List α} (hV' : V'.length = FuseP.ndimM X [g]) (hV : V.length = X.ndim)
    (hf : permuted V' (freeAxes (FuseP.ndimM X [g]) [(FuseP.giM X [g]).position])
      = permuted V (freeAxes X.ndim g)) :
    permuted (permuted V' (freeAxes (FuseP.ndimM X [g]) (xa.map (shiftAxes X g))))
        (freeAxes (freeAxes (FuseP.ndimM X [g]) (xa.map (shiftAxes X g))).length
          [(freeAxes (FuseP.ndimM X [g]) (xa.map (shiftAxes X g))).idxOf (FuseP.giM X [g]).position])
      = permuted (permuted V (freeAxes X.ndim xa))
          (freeAxes (freeAxes X.ndim xa).length (g.map (fun x => (freeAxes X.ndim xa).idxOf x))) := by
  have hi : ∀ x ∈ xa, (freeAxes X.ndim g).idxOf x
      < (freeAxes (FuseP.ndimM X [g]) [(FuseP.giM X [g]).position]).length := by
    intro x hx
    rw [one_free_length h]
    exact List.idxOf_lt_length_of_mem (mem_freeAxes.mpr (hxaF x hx))
  have e : xa.map (fun x => (freeAxes V'.length [(FuseP.giM X [g]).position]).getD
      ((freeAxes V.length g).idxOf x) V'.length) = xa.map (shiftAxes X g) := by
    apply List.map_congr_left
    intro x hx
    unfold shiftAxes
    rw [hV', hV, List.getD_eq_getElem?_getD, List.getD_eq_getElem?_getD, List.getElem?_eq_getElem (hi x hx)]
    rfl
  have := layout_abstract V V' g xa (FuseP.giM X [g]).position (by rw [hV']; exact one_pos_lt_ndimM h)
    (by rw [hV]; exact h.lt) (by rw [hV]; exact hxaF) (by rw [hV', hV]; exact one_free_length h)
    (by rw [without_eq_permuted_freeAxes, without_eq_permuted_freeAxes, hV', hV]; exact hf)
  simp only at this
  rw [e, without_eq_permuted_freeAxes (without V' _), without_length, without_eq_permuted_freeAxes V',
    without_eq_permuted_freeAxes (without V _), without_length, without_eq_permuted_freeAxes V, hV', hV] at this
  exact this

/-- `layout_core` with the other operand's free part `Rs` behind -/
theorem layout_left {α : Type} (h : OneOk X g) (hxaF : ∀ x ∈ xa, x < X.ndim ∧ x ∉ g)
    {V' V : List α} (Rs : List α) (hV' : V'.length = FuseP.ndimM X [g]) (hV : V.length = X.ndim)
    (hf : permuted V' (freeAxes (FuseP.ndimM X [g]) [(FuseP.giM X [g]).position])
      = permuted V (freeAxes X.ndim g)) :
    permuted (permuted V' (freeAxes (FuseP.ndimM X [g]) (xa.map (shiftAxes X g))) ++ Rs)
        (freeAxes ((freeAxes (FuseP.ndimM X [g]) (xa.map (shiftAxes X g))).length + Rs.length)
          [(freeAxes (FuseP.ndimM X [g]) (xa.map (shiftAxes X g))).idxOf (FuseP.giM X [g]).position])
      = permuted (permuted V (freeAxes X.ndim xa) ++ Rs)
          (freeAxes ((freeAxes X.ndim xa).length + Rs.length)
            (g.map (fun x => (freeAxes X.ndim xa).idxOf x))) := by
  have hmem : ∀ x ∈ g, x ∈ freeAxes X.ndim xa :=
    fun x hx => mem_freeAxes.mpr ⟨h.lt x hx, fun hm => (hxaF x hm).2 hx⟩
  have m2 : (FuseP.giM X [g]).position ∈ freeAxes (FuseP.ndimM X [g]) (xa.map (shiftAxes X g)) := by
    refine mem_freeAxes.mpr ⟨one_pos_lt_ndimM h, ?_⟩
    intro hm
    obtain ⟨x, hx, e⟩ := List.mem_map.mp hm
    exact shiftAxes_ne_pos h (hxaF x hx) e
  have lU' := permuted_length V' (freeAxes (FuseP.ndimM X [g]) (xa.map (shiftAxes X g)))
    (fun i hi => by rw [hV']; exact (mem_freeAxes.mp hi).1)
  have lU := permuted_length V (freeAxes X.ndim xa) (fun i hi => by rw [hV]; exact (mem_freeAxes.mp hi).1)
  have q1 : ∀ i ∈ ([(freeAxes (FuseP.ndimM X [g]) (xa.map (shiftAxes X g))).idxOf (FuseP.giM X [g]).position]
      : List Nat), i < (freeAxes (FuseP.ndimM X [g]) (xa.map (shiftAxes X g))).length := by
    intro i hi
    simp only [List.mem_cons, List.not_mem_nil, or_false] at hi
    rw [hi]; exact List.idxOf_lt_length_of_mem m2
  have q2 : ∀ i ∈ g.map (fun x => (freeAxes X.ndim xa).idxOf x), i < (freeAxes X.ndim xa).length := by
    intro i hi
    obtain ⟨x, hx, rfl⟩ := List.mem_map.mp hi
    exact List.idxOf_lt_length_of_mem (hmem x hx)
  rw [freeAxes_low _ _ _ q1, freeAxes_low _ _ _ q2]
  have e1 := permuted_append_low_id (permuted V' (freeAxes (FuseP.ndimM X [g]) (xa.map (shiftAxes X g)))) Rs
    (freeAxes (freeAxes (FuseP.ndimM X [g]) (xa.map (shiftAxes X g))).length
      [(freeAxes (FuseP.ndimM X [g]) (xa.map (shiftAxes X g))).idxOf (FuseP.giM X [g]).position])
    (by intro i hi; rw [lU']; exact (mem_freeAxes.mp hi).1)
  have e2 := permuted_append_low_id (permuted V (freeAxes X.ndim xa)) Rs
    (freeAxes (freeAxes X.ndim xa).length (g.map (fun x => (freeAxes X.ndim xa).idxOf x)))
    (by intro i hi; rw [lU]; exact (mem_freeAxes.mp hi).1)
  rw [lU'] at e1
  rw [lU] at e2
  rw [e1, e2, layout_core h hxaF hV' hV hf]

theorem layout_left_pos {α : Type} (d : α) (h : OneOk X g) (hxaF : ∀ x ∈ xa, x < X.ndim ∧ x ∉ g)
    {V' : List α} (Rs : List α) (hV' : V'.length = FuseP.ndimM X [g]) :
    (permuted V' (freeAxes (FuseP.ndimM X [g]) (xa.map (shiftAxes X g))) ++ Rs).getD
        ((freeAxes (FuseP.ndimM X [g]) (xa.map (shiftAxes X g))).idxOf (FuseP.giM X [g]).position) d
      = V'.getD (FuseP.giM X [g]).position d := by
  have m2 : (FuseP.giM X [g]).position ∈ freeAxes (FuseP.ndimM X [g]) (xa.map (shiftAxes X g)) := by
    refine mem_freeAxes.mpr ⟨one_pos_lt_ndimM h, ?_⟩
    intro hm
    obtain ⟨x, hx, e⟩ := List.mem_map.mp hm
    exact shiftAxes_ne_pos h (hxaF x hx) e
  have hFFlt : ∀ i ∈ freeAxes (FuseP.ndimM X [g]) (xa.map (shiftAxes X g)), i < V'.length := by
    intro i hi; rw [hV']; exact (mem_freeAxes.mp hi).1
  have hi := List.idxOf_lt_length_of_mem m2
  rw [List.getD_eq_getElem?_getD, List.getElem?_append_left (by rw [permuted_length _ _ hFFlt]; exact hi),
    permuted_getElem? V' _ hFFlt, List.getElem?_eq_getElem hi, List.getElem_idxOf hi,
    List.getD_eq_getElem?_getD]
  rfl

end Layout

end TdotP
end SymmModel
