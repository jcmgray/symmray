/-
  SymmModel.Proofs.FuseMultiAll — entry point of the lemma development for the general case of
  property C05 (arbitrary lists of groups; the vocabulary is explained at the head of FuseMulti1).
  One import chain: FuseMulti1–5 (the plan axis by axis, the fused blocks and the closed form
  `fuseCore_multi_eq`, list plumbing), FuseMulti6–7 (the element map of `fuse`, and that it is onto),
  FuseMultiU (`unfuse` in certificate form), FuseMultiR1–R5 (the round trip, one unfused group per stage).
-/
import SymmModel.Proofs.FuseMultiR5
