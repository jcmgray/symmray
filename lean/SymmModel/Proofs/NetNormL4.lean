/-
  SymmModel.Proofs.NetNormL4 — network form of the norm (property C10), ket-bra-first bracketings,
  part 7: the hub with EVERY call in its own contraction mode (blockwise / fused / auto).  The pieces
  `Xm = ā·a`, `Ym = b̄·b` of any mode are zero-padded copies of the blockwise pieces (`piece_any`); the later
  calls on them (`hub_half_any`) are transferred with `Net4P.pad_call`, their weak guards come from the
  frames of the intermediates (`InterW`: `piece_guards`, `hub_guards`).
-/
import SymmModel.Proofs.NetNormL3

namespace SymmModel.NormNet
open SymmModel SymmModel.Lazy SymmModel.Norm SymmModel.TdotP SymmModel.GradedP SymmModel.RoutesP
open SymmModel.AssocP SymmModel.Assoc3P SymmModel.Assoc4P SymmModel.Assoc5P SymmModel.Net4P
set_option linter.unusedSectionVars false

section main
variable {R : Type} [AddCommMonoid R] [Mul R] [Neg R] [Conj R] [NetLaws R] [AssocLaws R]

theorem piece_any (hz1 : ∀ x : R, 0 * x = 0) (hz2 : ∀ x : R, x * 0 = 0) {a : Arr R} {xa : List Nat}
    {X : Arr R} (PX : Piece a xa X) (m : TdotMode) :
    ∃ Xm, tdM m (braOf a xa) a (freeAxes a.ndim xa) (freeAxes a.ndim xa) = .ok Xm ∧ PadA Xm X
      ∧ InterW (braOf a xa) a (freeAxes a.ndim xa) (freeAxes a.ndim xa) Xm :=
  pad_call hz1 hz2 (PadA.refl PX.adm.va) (PadA.refl PX.adm.vb) PX.adm PX.adm X PX.call m

/-- the three routes through `Xm = ā·a` that end on `b`, every call in its own mode: the routes of
    `HubHalf` (NetNormL2) over `tdM m`.  `HubHalf` is this record at `.blockwise` (`tdM .blockwise` is
    `tdF` by `rfl`) plus the blockwise guards `wXY wBX wXB` of the later calls, which `hub_half_any`
    needs beside the guards of the padded operands to lift each call with `Net4P.pad_call`. -/
structure HubHalfM (a b : Arr R) (xa xb : List Nat) (Xm Ym : Arr R) (v : R)
    (m1 m2 m3 m4 m5 : TdotMode) : Prop where
  /-- `(b̄·X)·b` -/
  rBX : ∃ BX c, tdM m1 (braOf b xb) Xm xb (kbQ a.ndim xa) = .ok BX
    ∧ tdM m2 BX b ((kbQ a.ndim xa).map ((freeAxes b.ndim xb).length + ·)
        ++ List.range (freeAxes b.ndim xb).length) (xb ++ freeAxes b.ndim xb) = .ok c ∧ Scal c v
  /-- `(X·b̄)·b` -/
  rXB : ∃ XB c, tdM m3 Xm (braOf b xb) (kbQ a.ndim xa) xb = .ok XB
    ∧ tdM m4 XB b (kbQ a.ndim xa ++ (List.range (freeAxes b.ndim xb).length).map (xa.length + ·))
        (xb ++ freeAxes b.ndim xb) = .ok c ∧ Scal c v
  /-- `X·Y` -/
  rXY : ∃ c, tdM m5 Xm Ym (kbP a.ndim xa) (kbP b.ndim xb) = .ok c ∧ Scal c v

theorem hub_half_any (hz1 : ∀ x : R, 0 * x = 0) (hz2 : ∀ x : R, x * 0 = 0) {a b : Arr R}
    {xa xb : List Nat} {X Y Xm Ym : Arr R} {v : R} (h : Adm a b xa xb)
    (PX : Piece a xa X) (PY : Piece b xb Y) (H : HubHalf a b xa xb X Y v)
    (pX : PadA Xm X) (IXm : InterW (braOf a xa) a (freeAxes a.ndim xa) (freeAxes a.ndim xa) Xm)
    (pY : PadA Ym Y) (IYm : InterW (braOf b xb) b (freeAxes b.ndim xb) (freeAxes b.ndim xb) Ym)
    (m1 m2 m3 m4 m5 : TdotMode) : HubHalfM a b xa xb Xm Ym v m1 m2 m3 m4 m5 := by
  obtain ⟨sX, IX⟩ := PX.inter
  obtain ⟨WbX, _⟩ := piece_guards (xb := xb) h IX.toW
  obtain ⟨WbXm, _⟩ := piece_guards (xb := xb) h IXm
  obtain ⟨gBX, gXB, gXY⟩ := hub_guards h IXm PY.adm
  obtain ⟨BX, r1, eBX, er1, S1⟩ := H.rBX
  obtain ⟨BXm, eBXm, pBXm, IBXm⟩ := pad_call hz1 hz2 (PadA.refl WbX.va) pX WbXm WbX BX eBX m1
  obtain ⟨r1m, er1m, pr1m, _⟩ := pad_call hz1 hz2 pBXm (PadA.refl h.vb) (gBX BXm IBXm)
    (H.wBX BX eBX) r1 er1 m2
  obtain ⟨XB, r3, eXB, er3, S3⟩ := H.rXB
  obtain ⟨XBm, eXBm, pXBm, IXBm⟩ := pad_call hz1 hz2 pX (PadA.refl WbX.va) (admW_swap WbXm)
    (admW_swap WbX) XB eXB m3
  obtain ⟨r3m, er3m, pr3m, _⟩ := pad_call hz1 hz2 pXBm (PadA.refl h.vb) (gXB XBm IXBm)
    (H.wXB XB eXB) r3 er3 m4
  obtain ⟨c, ec, Sc⟩ := H.rXY
  obtain ⟨cm, ecm, pcm, _⟩ := pad_call hz1 hz2 pX pY (gXY Ym IYm) H.wXY c ec m5
  exact ⟨⟨BXm, r1m, eBXm, er1m, Scal.of_pad pr1m S1⟩, ⟨XBm, r3m, eXBm, er3m, Scal.of_pad pr3m S3⟩,
    ⟨cm, ecm, Scal.of_pad pcm Sc⟩⟩

/-- all six ket-bra-first routes with every call in its own mode: the two pieces in the modes `md 0`,
    `md 1`, the routes ending on `b` in `md 2 … md 6`, those ending on `a` in `md 7 … md 11` -/
def KetBraAllM (a b : Arr R) (xa xb : List Nat) (md : Nat → TdotMode) : Prop :=
  ∃ K Xm Ym, a.tensordotF b (.pair (xa.map Int.ofNat) (xb.map Int.ofNat)) .blockwise = .ok K
    ∧ tdM (md 0) (braOf a xa) a (freeAxes a.ndim xa) (freeAxes a.ndim xa) = .ok Xm
    ∧ Xm.oddpos = []
    ∧ tdM (md 1) (braOf b xb) b (freeAxes b.ndim xb) (freeAxes b.ndim xb) = .ok Ym
    ∧ Ym.oddpos = []
    ∧ HubHalfM a b xa xb Xm Ym (normSq K) (md 2) (md 3) (md 4) (md 5) (md 6)
    ∧ HubHalfM b a xb xa Ym Xm (normSq K) (md 7) (md 8) (md 9) (md 10) (md 11)

theorem ketbra_all_any (hz1 : ∀ x : R, 0 * x = 0) (hz2 : ∀ x : R, x * 0 = 0) {a b : Arr R}
    {xa xb : List Nat} (h : Adm a b xa xb) (H : KetBraAll a b xa xb) (md : Nat → TdotMode) :
    KetBraAllM a b xa xb md := by
  obtain ⟨K, X, Y, eK, PX, PY, H1, H2⟩ := H
  obtain ⟨Xm, eXm, pX, IXm⟩ := piece_any hz1 hz2 PX (md 0)
  obtain ⟨Ym, eYm, pY, IYm⟩ := piece_any hz1 hz2 PY (md 1)
  exact ⟨K, Xm, Ym, eK, eXm, pX.oddpos.trans PX.odd, eYm, pY.oddpos.trans PY.odd,
    hub_half_any hz1 hz2 h PX PY H1 pX IXm pY IYm _ _ _ _ _,
    hub_half_any hz1 hz2 (adm_swap h) PY PX H2 pY IYm pX IXm _ _ _ _ _⟩

end main

end SymmModel.NormNet
