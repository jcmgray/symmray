/-
  SymmModel.Proofs.FuseAssoc — insertion-ordered dictionaries (`alookup`/`ainsert`/`adict`, `ainsertAll`), the
  stable insertion sort `isort`, the orders `Charge.lt` / `sectorLt`, `isSortedStrict` as `Pairwise`.
  Core Lean only.
-/
import SymmModel.Proofs.FuseBase
import SymmModel.Proofs.BaseAlist
namespace SymmModel
namespace FuseP
set_option linter.unusedSectionVars false

variable {κ β : Type} [BEq κ] [LawfulBEq κ]


theorem alookup_ainsert_self (l : List (κ × β)) (k : κ) (v : β) :
    alookup (ainsert l k v) k = some v := by simp [alookup_ainsert]

theorem alookup_ainsert_ne (l : List (κ × β)) {k k' : κ} (v : β) (h : k ≠ k') :
    alookup (ainsert l k v) k' = alookup l k' := by
  rw [alookup_ainsert]; simp [h]

theorem alookup_append (l1 l2 : List (κ × β)) (k : κ) :
    alookup (l1 ++ l2) k = match alookup l1 k with
      | some v => some v
      | none => alookup l2 k := by
  induction l1 with
  | nil => simp [alookup]
  | cons p l ih =>
    obtain ⟨a, b⟩ := p
    simp only [List.cons_append, alookup_cons]
    split
    · rfl
    · exact ih


def ainsertAll (acc ps : List (κ × β)) : List (κ × β) :=
  ps.foldl (fun acc p => ainsert acc p.1 p.2) acc

theorem adict_eq (ps : List (κ × β)) : adict ps = ainsertAll [] ps := rfl

theorem ainsertAll_of_nodup {acc ps : List (κ × β)} (h : ((acc ++ ps).map (·.1)).Nodup) :
    ainsertAll acc ps = acc ++ ps :=
  foldl_ainsert_of_nodup acc ps h

theorem adict_of_nodup {ps : List (κ × β)} (h : (ps.map (·.1)).Nodup) : adict ps = ps := by
  rw [adict_eq, ainsertAll_of_nodup (by simpa using h)]; simp

theorem alookup_ainsertAll (acc ps : List (κ × β)) (k : κ) :
    alookup (ainsertAll acc ps) k = match alookup ps.reverse k with
      | some v => some v
      | none => alookup acc k := by
  induction ps generalizing acc with
  | nil => simp [ainsertAll, alookup]
  | cons q ps ih =>
    show alookup (ainsertAll (ainsert acc q.1 q.2) ps) k = _
    rw [ih, List.reverse_cons, alookup_append]
    cases alookup ps.reverse k with
    | some v => rfl
    | none =>
      simp only [alookup_ainsert]
      obtain ⟨a, b⟩ := q
      simp only [alookup]
      split <;> rfl


theorem contains_iff_mem {α : Type} [BEq α] [LawfulBEq α] (l : List α) (a : α) :
    l.contains a = true ↔ a ∈ l := by simp

theorem isSortedStrict_of_pairwise {α : Type} {lt : α → α → Bool} {l : List α}
    (h : l.Pairwise (fun a b => lt a b = true)) : isSortedStrict lt l = true := by
  induction l with
  | nil => rfl
  | cons a l ih =>
    cases l with
    | nil => rfl
    | cons b l =>
      simp only [isSortedStrict, Bool.and_eq_true]
      rw [List.pairwise_cons] at h
      exact ⟨h.1 b (by simp), ih h.2⟩

theorem pairwise_of_isSortedStrict {α : Type} {lt : α → α → Bool}
    (htrans : ∀ a b c, lt a b = true → lt b c = true → lt a c = true) {l : List α}
    (h : isSortedStrict lt l = true) : l.Pairwise (fun a b => lt a b = true) := by
  induction l with
  | nil => exact List.Pairwise.nil
  | cons a l ih =>
    cases l with
    | nil => simp
    | cons b l =>
      simp only [isSortedStrict, Bool.and_eq_true] at h
      have hp := ih h.2
      rw [List.pairwise_cons] at hp ⊢
      refine ⟨?_, List.pairwise_cons.2 hp⟩
      intro c hc
      rcases List.mem_cons.1 hc with rfl | hc
      · exact h.1
      · exact htrans _ _ _ h.1 (hp.1 c hc)


theorem chargeLt_irrefl (a : Charge) : Charge.lt a a = false := by
  simp [Charge.lt]

theorem chargeLt_trans (a b c : Charge) (h1 : Charge.lt a b = true) (h2 : Charge.lt b c = true) :
    Charge.lt a c = true := by
  simp only [Charge.lt, Bool.or_eq_true, decide_eq_true_eq, Bool.and_eq_true, beq_iff_eq] at *
  omega

theorem chargeLt_tri (a b : Charge) : Charge.lt a b = true ∨ a = b ∨ Charge.lt b a = true := by
  obtain ⟨a1, a2⟩ := a
  obtain ⟨b1, b2⟩ := b
  simp only [Charge.lt, Bool.or_eq_true, decide_eq_true_eq, Bool.and_eq_true, beq_iff_eq,
    Prod.mk.injEq]
  omega

theorem sectorLt_irrefl (a : List Charge) : sectorLt a a = false := by
  induction a with
  | nil => rfl
  | cons x xs ih => simp [sectorLt, chargeLt_irrefl, ih]

theorem sectorLt_trans (a b c : List Charge) (h1 : sectorLt a b = true) (h2 : sectorLt b c = true) :
    sectorLt a c = true := by
  induction a generalizing b c with
  | nil =>
    cases b with
    | nil => simp [sectorLt] at h1
    | cons y ys => cases c <;> simp_all [sectorLt]
  | cons x xs ih =>
    cases b with
    | nil => simp [sectorLt] at h1
    | cons y ys =>
      cases c with
      | nil => simp [sectorLt] at h2
      | cons z zs =>
        simp only [sectorLt, Bool.or_eq_true, Bool.and_eq_true, beq_iff_eq] at h1 h2 ⊢
        rcases h1 with h1 | ⟨rfl, h1⟩
        · rcases h2 with h2 | ⟨rfl, h2⟩
          · exact Or.inl (chargeLt_trans _ _ _ h1 h2)
          · exact Or.inl h1
        · rcases h2 with h2 | ⟨rfl, h2⟩
          · exact Or.inl h2
          · exact Or.inr ⟨rfl, ih _ _ h1 h2⟩

theorem sectorLt_tri (a b : List Charge) : sectorLt a b = true ∨ a = b ∨ sectorLt b a = true := by
  induction a generalizing b with
  | nil => cases b <;> simp [sectorLt]
  | cons x xs ih =>
    cases b with
    | nil => simp [sectorLt]
    | cons y ys =>
      simp only [sectorLt, Bool.or_eq_true, Bool.and_eq_true, beq_iff_eq, List.cons.injEq]
      rcases chargeLt_tri x y with h | rfl | h
      · exact Or.inl (Or.inl h)
      · rcases ih ys with h | rfl | h
        · exact Or.inl (Or.inr ⟨rfl, h⟩)
        · exact Or.inr (Or.inl ⟨rfl, rfl⟩)
        · exact Or.inr (Or.inr (Or.inr ⟨rfl, h⟩))
      · exact Or.inr (Or.inr (Or.inl h))


section SortSec
variable {α γ : Type} (key : α → γ) (L : γ → γ → Bool)

theorem insertSorted_pairwise
    (htrans : ∀ a b c, L a b = true → L b c = true → L a c = true)
    (htri : ∀ a b, L a b = true ∨ a = b ∨ L b a = true)
    (a : α) (l : List α) (hl : l.Pairwise (fun x y => L (key x) (key y) = true))
    (hne : ∀ b ∈ l, key b ≠ key a) :
    (insertSorted (fun x y => L (key x) (key y)) a l).Pairwise (fun x y => L (key x) (key y) = true) := by
  induction l with
  | nil => simp [insertSorted]
  | cons b bs ih =>
    rw [List.pairwise_cons] at hl
    simp only [insertSorted]
    split
    · rename_i hba
      rw [List.pairwise_cons]
      refine ⟨?_, ih hl.2 (fun x hx => hne x (List.mem_cons_of_mem _ hx))⟩
      intro x hx
      rcases mem_insertSorted.1 hx with rfl | hx
      · exact hba
      · exact hl.1 x hx
    · rename_i hba
      have hab : L (key a) (key b) = true := by
        rcases htri (key a) (key b) with h | h | h
        · exact h
        · exact absurd h.symm (hne b (by simp))
        · exact absurd h hba
      rw [List.pairwise_cons]
      refine ⟨?_, List.pairwise_cons.2 hl⟩
      intro x hx
      rcases List.mem_cons.1 hx with rfl | hx
      · exact hab
      · exact htrans _ _ _ hab (hl.1 x hx)

theorem isort_pairwise
    (htrans : ∀ a b c, L a b = true → L b c = true → L a c = true)
    (htri : ∀ a b, L a b = true ∨ a = b ∨ L b a = true)
    (l : List α) (hnd : (l.map key).Nodup) :
    (isort (fun x y => L (key x) (key y)) l).Pairwise (fun x y => L (key x) (key y) = true) := by
  induction l with
  | nil => simp [isort]
  | cons a l ih =>
    simp only [List.map_cons, List.nodup_cons] at hnd
    simp only [isort]
    apply insertSorted_pairwise key L htrans htri a _ (ih hnd.2)
    intro b hb hk
    exact hnd.1 (List.mem_map.2 ⟨b, mem_isort.1 hb, hk⟩)

end SortSec

theorem pairwise_lt_nodup {γ : Type} {L : γ → γ → Bool} (hirr : ∀ a, L a a = false) {l : List γ}
    (h : l.Pairwise (fun a b => L a b = true)) : l.Nodup := by
  induction l with
  | nil => simp
  | cons a l ih =>
    rw [List.pairwise_cons] at h
    rw [List.nodup_cons]
    refine ⟨fun hm => ?_, ih h.2⟩
    have := h.1 a hm
    rw [hirr] at this; cases this

end FuseP
end SymmModel
