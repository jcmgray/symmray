/-
  SymmModel.Proofs.Fuse4Round3 — one step of the fermionic unfuse against the abelian unfuse of a
  sign-free array with the same sectors: values agree up to the explicit sign of the step.
-/
import SymmModel.Proofs.Fuse4Round2
namespace SymmModel
namespace FuseP
set_option linter.unusedSectionVars false
open SymmModel.KoszulP SymmModel.Lazy

variable {R : Type} [Zero R] [Neg R] [LawfulNeg R]

/-- `Z` (fermionic, valid) carries, up to signs, the values of the sign-free array `X` -/
structure FRel (Z X : Arr R) : Prop where
  zvalid : Z.validB = true
  zfermi : Z.fermi = true
  xcore : ValidP.Core X
  xph : X.phases = []
  shape : ShapeEq Z X
  zero : ∀ K V, alookup X.blocks K = some V → ∀ J, inBox V.shape J = true → X.elem K J = 0 → Z.elem K J = 0

theorem shapeEq_phaseSync (Z : Arr R) : ShapeEq Z.phaseSync Z := by
  refine ⟨rfl, fun K => ?_⟩
  rw [phaseSync_blocks_eq, alookup_map_val (syncBlk Z)]
  cases alookup Z.blocks K with
  | none => rfl
  | some b =>
    simp only [Option.map_some, Option.some.injEq, syncBlk]
    split <;> rfl

theorem ShapeEq.trans {A B C : Arr R} (h1 : ShapeEq A B) (h2 : ShapeEq B C) : ShapeEq A C :=
  ⟨h1.1.trans h2.1, fun K => (h1.2 K).trans (h2.2 K)⟩

theorem unfuseF_frame (a : Arr R) (p : Nat) {ix : Index} {subs : List Index} {exts : Extents}
    (hv : a.validB = true) (hix : a.indices[p]? = some ix) (hsub : ix.sub = some (subs, exts)) {y : Arr R}
    (hy : Arr.unfuseF a p = .ok y) : y.sym = a.sym ∧ y.charge = a.charge ∧ y.oddpos = a.oddpos := by
  have hVs := ValidP.phaseSync_valid a ((ValidP.validB_iff a).1 hv)
  have hvs : ValidArr a.phaseSync := validArr_of_core hVs.core
  have hixs : a.phaseSync.indices[p]? = some ix := hix
  obtain ⟨new, hnew, U⟩ := unfuseU hvs hixs hsub
  have hyeq := unfuseF_eq a p hix hsub hnew
  rw [hy] at hyeq
  simp only [Except.ok.injEq] at hyeq
  rw [hyeq]
  split
  · refine ⟨?_, ?_, ?_⟩
    · show (new.phaseFlip _).sym = _
      rw [(ValidP.phaseFlip_fields _ _).2.1]; exact U.sym
    · show (new.phaseFlip _).charge = _
      rw [(ValidP.phaseFlip_fields _ _).2.2.1]; exact U.charge
    · show (new.phaseFlip _).oddpos = _
      rw [(ValidP.phaseFlip_fields _ _).2.2.2.1]; exact U.oddpos
  · exact ⟨U.sym, U.charge, U.oddpos⟩

theorem stepF {Z X X' : Arr R} (h : FRel Z X) {p : Nat} {ix : Index} {subs : List Index} {exts : Extents}
    (hix : X.indices[p]? = some ix) (hsub : ix.sub = some (subs, exts)) (hX : unfuseA X p = .ok X') :
    ∃ Z', Arr.unfuseF Z p = .ok Z' ∧ FRel Z' X' ∧ Z'.sym = Z.sym
      ∧ (Z'.charge = Z.charge ∧ Z'.oddpos = Z.oddpos)
      ∧ ∀ ns B, alookup X.blocks ns = some B → ∀ e ss st d, alookup exts (ns.getD p (0, 0)) = some e →
          startOf e ss = some (st, d) → ∀ σ : Int, (σ = 1 ∨ σ = -1) →
          (∀ J, inBox B.shape J = true → Z.elem ns J = sgnI σ (X.elem ns J)) →
          ∃ subshape, Arr.blockShape? subs ss = some subshape
            ∧ ∀ J, inBox (replaceWithSeq B.shape p subshape) J = true →
                Z'.elem (replaceWithSeq ns p ss) J
                  = sgnI (unfuseSign Z ix subs p (replaceWithSeq ns p ss) * σ)
                      (X'.elem (replaceWithSeq ns p ss) J) := by
  have hvX : ValidArr X := validArr_of_core h.xcore
  have hixZ : Z.indices[p]? = some ix := by rw [h.shape.1]; exact hix
  obtain ⟨y, hy, hyidx, hA, hB'⟩ := unfuseF_elemM Z p ix subs exts h.zvalid hixZ hsub
  obtain ⟨x, hx, Ux⟩ := unfuseU hvX hix hsub
  rw [hX] at hx; simp only [Except.ok.injEq] at hx; subst hx
  have hxph' : X'.phases = [] := by rw [Ux.phases]; exact h.xph
  have hVZ := (ValidP.validB_iff Z).1 h.zvalid
  have hVs := ValidP.phaseSync_valid Z hVZ
  have hvs : ValidArr Z.phaseSync := validArr_of_core hVs.core
  have hixs : Z.phaseSync.indices[p]? = some ix := hixZ
  obtain ⟨new, hnew, _⟩ := unfuseU hvs hixs hsub
  have hyeq := unfuseF_eq Z p hixZ hsub hnew
  rw [hy] at hyeq
  simp only [Except.ok.injEq] at hyeq
  have hSnew : ShapeEq new X' :=
    shapeEq_unfuse ((shapeEq_phaseSync Z).trans h.shape) hvs hvX hix hsub hnew hX
  have hSy : ShapeEq y X' := by
    rw [hyeq]
    split
    · refine ⟨?_, ?_⟩
      · show ((new.phaseFlip _).phaseTranspose _).indices = _
        rw [← hSnew.1]; exact (ValidP.phaseFlip_fields _ _).1
      · intro K
        show (alookup (new.phaseFlip _).blocks K).map _ = _
        rw [phaseFlip_blocks]; exact hSnew.2 K
    · exact hSnew
  obtain ⟨hysym, hyc, hyo⟩ := unfuseF_frame Z p h.zvalid hixZ hsub hy
  obtain ⟨hVy, hfy⟩ := ValidP.unfuseF_valid' Z y p hVZ h.zfermi hy
  -- a piece of a stored block: the collapsed address lies in the block, and the values of `X'` and
  -- of the fermionic result there are those of `X` and (up to the sign of the step) of `Z`
  have hpiece : ∀ ns B, alookup X.blocks ns = some B → ∀ e ss st d, alookup exts (ns.getD p (0, 0)) = some e →
      startOf e ss = some (st, d) →
      ∃ subshape, Arr.blockShape? subs ss = some subshape
        ∧ alookup X'.blocks (replaceWithSeq ns p ss) = some (pieceU B p st d subshape)
        ∧ ∀ J, inBox (replaceWithSeq B.shape p subshape) J = true →
            inBox B.shape (J.take p ++ [st + ravel subshape ((J.drop p).take subshape.length)]
              ++ J.drop (p + subshape.length)) = true
            ∧ X'.elem (replaceWithSeq ns p ss) J
              = X.elem ns (J.take p ++ [st + ravel subshape ((J.drop p).take subshape.length)]
                  ++ J.drop (p + subshape.length))
            ∧ y.elem (replaceWithSeq ns p ss) J
              = sgnI (unfuseSign Z ix subs p (replaceWithSeq ns p ss))
                  (Z.elem ns (J.take p ++ [st + ravel subshape ((J.drop p).take subshape.length)]
                    ++ J.drop (p + subshape.length))) := by
    intro ns B hl e ss st d he hst
    have hm : (ns, B) ∈ X.blocks := alookup_some_mem hl
    obtain ⟨subshape, h1, h2, h3, h4⟩ := Ux.piece (ns, B) hm e ss st d he hst
    refine ⟨subshape, h1, h3, fun J hJ => ?_⟩
    have hs := h.shape.2 ns
    rw [hl] at hs
    cases hz : alookup Z.blocks ns with
    | none => rw [hz] at hs; simp at hs
    | some bz =>
      rw [hz] at hs
      simp only [Option.map_some, Option.some.injEq] at hs
      obtain ⟨subshape2, g1, _, g3⟩ := hA ns bz (alookup_some_mem hz) e ss st d he hst
      rw [h1] at g1; simp only [Option.some.injEq] at g1; subst g1
      obtain ⟨_, _, _, e', he', hext⟩ := block_at_axis hvX hix hsub hm
      rw [he] at he'; simp only [Option.some.injEq] at he'; subst he'
      have hpB : p < B.shape.length := by
        have := block_at_axis hvX hix hsub hm
        simp only at this
        omega
      have hbound : st + d ≤ B.shape.getD p 0 := by
        have := startOf_bound hst; rw [hext.total] at this; exact this
      refine ⟨(collapse_inBox hpB h2 hbound hJ).1, ?_, g3 J (by rw [hs]; exact hJ)⟩
      rw [Arr.elem_of_phases_nil hxph', h3, Arr.elem_of_phases_nil h.xph, hl]
      exact h4 J hJ
  refine ⟨y, hy, ⟨(ValidP.validB_iff y).2 hVy, hfy, ValidP.unfuseA_core X X' p h.xcore hX, hxph', hSy, ?_⟩,
    hysym, ⟨hyc, hyo⟩, ?_⟩
  · -- zeros stay zeros
    intro K' V' hl' J hJ h0
    obtain ⟨nsB, hm, e, ss, st, d, he, hst, hK, hV⟩ := Ux.only K' V' hl'
    have hlk : alookup X.blocks nsB.1 = some nsB.2 := alookup_of_mem_nodup hvX.nodup hm
    obtain ⟨subshape, h1, _, h4⟩ := hpiece nsB.1 nsB.2 hlk e ss st d he hst
    have hsub' : (Arr.blockShape? subs ss).getD [] = subshape := by rw [h1]; rfl
    rw [hsub'] at hV
    subst hV
    obtain ⟨hcbox, hx, hz⟩ := h4 J hJ
    rw [hK, hx] at h0
    rw [hK, hz, h.zero nsB.1 nsB.2 hlk _ hcbox h0]
    exact sgnI_zero _
  · -- signs multiply
    intro ns B hl e ss st d he hst σ hσ hrel
    obtain ⟨subshape, h1, _, h4⟩ := hpiece ns B hl e ss st d he hst
    refine ⟨subshape, h1, fun J hJ => ?_⟩
    obtain ⟨hcbox, hx, hz⟩ := h4 J hJ
    rw [hz, hx, hrel _ hcbox, sgnI_mul (unfuseSign_pm _ _ _ _ _) hσ]

end FuseP
end SymmModel
