/-
  SymmModel.Proofs.TdotFused3 — the core of "fused strategy = blockwise" (`tensordotViaFused`).
  The blockwise product of two arrays along one bond, entry by entry, is a double sum over the
  charges and the positions of the bond index (`bond_elem`, any ranks).  After `dropMisaligned`
  (`Ctx0`) the two fused bond indices have one common table, so decoding a bond position gives the
  same sub-sector and sub-offsets on both operands, and the double sum over the fused bond is the
  blockwise double sum of the original operands (`core_generic`).
-/
import SymmModel.Proofs.TdotFused2

namespace SymmModel
namespace TdotP
variable {R : Type}

theorem freeAxes_last (n : Nat) : freeAxes (n + 1) [n] = List.range n := by
  rw [freeAxes, List.range_succ, List.filter_append]
  have : (List.range n).filter (fun ax => !([n] : List Nat).contains ax) = List.range n := by
    rw [List.filter_eq_self]
    intro a ha
    have := List.mem_range.mp ha
    simp; omega
  rw [this]; simp

theorem freeAxes_first (m : Nat) : freeAxes (m + 1) [0] = (List.range m).map (· + 1) := by
  rw [freeAxes, List.range_succ_eq_map, List.filter_cons]
  simp only [List.contains_cons, List.contains_nil, Bool.or_false, beq_self_eq_true, Bool.not_true,
    Bool.false_eq_true, if_false]
  rw [List.filter_eq_self]
  intro a ha
  obtain ⟨b, _, rfl⟩ := List.mem_map.mp ha
  simp

theorem permuted_snoc_last {α : Type} (L : List α) (c : α) : permuted (L ++ [c]) [L.length] = [c] := by
  simp [permuted]

theorem permuted_snoc_init {α : Type} (L : List α) (c : α) :
    permuted (L ++ [c]) (List.range L.length) = L := by
  conv_rhs => rw [← permuted_range L]
  unfold permuted
  apply List.filterMap_congr
  intro p hp
  rw [List.getElem?_append_left (List.mem_range.mp hp)]

theorem permuted_cons_tail {α : Type} (c : α) (Rr : List α) :
    permuted (c :: Rr) ((List.range Rr.length).map (· + 1)) = Rr := by
  conv_rhs => rw [← permuted_range Rr]
  unfold permuted
  rw [List.filterMap_map]
  rfl

theorem mergeIdx_snoc {α : Type} (d : α) (L : List α) (c : α) :
    mergeIdx d (L.length + 1) [L.length] (freeAxes (L.length + 1) [L.length]) [c] L = L ++ [c] := by
  have := mergeIdx_permuted d (axes := [L.length]) (free := freeAxes (L.length + 1) [L.length])
    (x := L ++ [c]) (by simp) (by simp) mem_freeAxes_lt
    (fun y hy => by
      by_cases h : y = L.length
      · exact Or.inl (by simp [h])
      · exact Or.inr (mem_freeAxes.mpr ⟨hy, by simpa using h⟩))
  rwa [permuted_snoc_last, freeAxes_last, permuted_snoc_init, ← freeAxes_last] at this

theorem mergeIdx_cons {α : Type} (d : α) (c : α) (Rr : List α) :
    mergeIdx d (Rr.length + 1) [0] (freeAxes (Rr.length + 1) [0]) [c] Rr = c :: Rr := by
  have := mergeIdx_permuted d (axes := [0]) (free := freeAxes (Rr.length + 1) [0])
    (x := c :: Rr) (by simp) (by simp) mem_freeAxes_lt
    (fun y hy => by
      by_cases h : y = 0
      · exact Or.inl (by simp [h])
      · exact Or.inr (mem_freeAxes.mpr ⟨hy, by simpa using h⟩))
  rw [freeAxes_first, permuted_cons_tail, ← freeAxes_first] at this
  exact this

/-- **blockwise product along one bond, entry by entry.**  `X`'s last index and `Y`'s first index
    are the bond; any number of free indices `pre` / `post`.  The element at `(cL ++ cR, iL ++ iR)`
    is the sum over the charges `c` of the bond and the positions `k` inside `c` of
    `X[(cL, c), (iL, k)] · Y[(c, cR), (k, iR)]` (absent sectors contribute zero). -/
theorem bond_elem [AddCommMonoid R] [Mul R] [Neg R]
    (hz1 : ∀ x : R, 0 * x = 0) (hz2 : ∀ x : R, x * 0 = 0) (X Y : Arr R) (pre post : List Index)
    (xK yK : Index) (hXi : X.indices = pre ++ [xK]) (hYi : Y.indices = yK :: post)
    (hpX : X.phases = []) (hpY : Y.phases = [])
    (hdX : allDistinct X.sectors = true) (hdY : allDistinct Y.sectors = true)
    (hsX : X.shapesOk) (hsY : Y.shapesOk) (hndK : (xK.cm.map (·.1)).Nodup)
    {cL cR : Sector} {iL iR shpL shpR : List Nat}
    (hL : Arr.blockShape? pre cL = some shpL) (hiL : inBox shpL iL = true)
    (hR : Arr.blockShape? post cR = some shpR) (hiR : inBox shpR iR = true) :
    (tensordotBlockwise X Y (freeAxes X.ndim [pre.length]) [pre.length] [0] (freeAxes Y.ndim [0])).elem
        (cL ++ cR) (iL ++ iR) =
      (xK.cm.map (fun cd => ((List.range cd.2).map (fun k =>
        X.elem (cL ++ [cd.1]) (iL ++ [k]) * Y.elem (cd.1 :: cR) (k :: iR))).sum)).sum := by
  have hXn : X.ndim = pre.length + 1 := by simp [Arr.ndim, hXi]
  have hYn : Y.ndim = post.length + 1 := by simp [Arr.ndim, hYi]
  obtain ⟨hcLl, hsLl⟩ := FuseP.blockShape?_length hL
  obtain ⟨hcRl, hsRl⟩ := FuseP.blockShape?_length hR
  have hiLl : iL.length = pre.length := by rw [inBox_length hiL, hsLl, hcLl]
  have hiRl : iR.length = post.length := by rw [inBox_length hiR, hsRl, hcRl]
  have hcover : ∀ sa ∈ X.sectors, permuted sa [pre.length] ∈ xK.cm.map (fun cd => [cd.1]) := by
    intro sa hsa
    obtain ⟨p, hp, rfl⟩ := List.mem_map.mp hsa
    have hsh := hsX p hp
    rw [hXi] at hsh
    obtain ⟨ix, c, h1, h2, h3, _, _⟩ := FuseP.blockShape?_get hsh (ax := pre.length) (by simp)
    rw [List.getElem?_append_right (Nat.le_refl _)] at h1
    simp only [Nat.sub_self, List.getElem?_cons_zero, Option.some.injEq] at h1
    subst h1
    exact List.mem_map.mpr ⟨(c, _), alookup_some_mem h3, by simp [permuted, h2]⟩
  have e1 : without X.indices [pre.length] = pre := by
    rw [without_eq_permuted_freeAxes, hXi]
    simp only [List.length_append, List.length_cons, List.length_nil, Nat.zero_add]
    rw [freeAxes_last, permuted_snoc_init]
  have e2 : without Y.indices [0] = post := by
    rw [without_eq_permuted_freeAxes, hYi]
    simp only [List.length_cons]
    rw [freeAxes_first, permuted_cons_tail]
  have hbox : inBox (Arr.blockShapeD (without X.indices [pre.length] ++ without Y.indices [0]) (cL ++ cR))
      (iL ++ iR) = true := by
    rw [e1, e2, Arr.blockShapeD, blockShape?_append hL hR]
    simp only [Option.getD_some]
    rw [inBox_append (inBox_length hiL), hiL, hiR]; rfl
  have h := tensordotBlockwise_elem_dense' hz1 hz2 X Y [pre.length] [0] hpX hpY hdX hdY hsX hsY
    (by simp) (by simp [hXn]) (by simp) (by simp [hYn]) rfl
    (xK.cm.map (fun cd => [cd.1]))
    (by
      have : xK.cm.map (fun cd => [cd.1]) = (xK.cm.map (·.1)).map (fun c => [c]) := by
        rw [List.map_map]; rfl
      rw [this]; exact hndK.map (fun x y h => by simpa using h))
    (by intro K hK; obtain ⟨cd, _, rfl⟩ := List.mem_map.mp hK; rfl)
    hcover cL cR (by rw [hXn, freeAxes_last]; simp [hcLl]) (by rw [hYn, freeAxes_first]; simp [hcRl])
    (iL ++ iR) hbox
  rw [h, List.map_map]
  have etake : (iL ++ iR).take (freeAxes X.ndim [pre.length]).length = iL := by
    rw [hXn, freeAxes_last, List.length_range, ← hiLl]; simp
  have edrop : (iL ++ iR).drop (freeAxes X.ndim [pre.length]).length = iR := by
    rw [hXn, freeAxes_last, List.length_range, ← hiLl]; simp
  rw [etake, edrop]
  apply sum_map_congr
  rintro ⟨c, D⟩ hcd
  have hzK : xK.sizeOf? c = some D := alookup_of_mem_nodup hndK hcd
  have m1 : mergeSec X.ndim [pre.length] [c] cL = cL ++ [c] := by
    rw [hXn, hcLl]; exact mergeIdx_snoc _ cL c
  have m2 : mergeSec Y.ndim [0] [c] cR = c :: cR := by
    rw [hYn, hcRl]; exact mergeIdx_cons _ c cR
  have hshape : Arr.blockShapeD X.indices (cL ++ [c]) = shpL ++ [D] := by
    rw [hXi, Arr.blockShapeD, blockShape?_append hL (shp' := [D]) (by
      simp only [Arr.blockShape?_cons, Arr.blockShape?_nil_nil, hzK, Option.bind_some, Option.map_some])]
    rfl
  simp only [Function.comp, contractPair, m1, m2, hshape]
  have e3 : permuted (shpL ++ [D]) [pre.length] = [D] := by
    rw [hcLl, ← hsLl]; exact permuted_snoc_last shpL D
  rw [e3, allIdx_single, List.map_map]
  apply sum_map_congr
  intro k _
  simp only [Function.comp, contractTerm]
  have m3 : mergeIdx 0 X.ndim [pre.length] (freeAxes X.ndim [pre.length]) [k] iL = iL ++ [k] := by
    rw [hXn, ← hiLl]; exact mergeIdx_snoc _ iL k
  have m4 : mergeIdx 0 Y.ndim [0] (freeAxes Y.ndim [0]) [k] iR = k :: iR := by
    rw [hYn, ← hiRl]; exact mergeIdx_cons _ k iR
  rw [m3, m4]

theorem bond_indices [Zero R] [Add R] [Mul R] (X Y : Arr R) (pre post : List Index) (xK yK : Index)
    (hXi : X.indices = pre ++ [xK]) (hYi : Y.indices = yK :: post) (l r : List Nat) :
    (tensordotBlockwise X Y l [pre.length] [0] r).indices =
      dropUnused (pre ++ post) (tensordotBlockwise X Y l [pre.length] [0] r).sectors := by
  have e1 : without X.indices [pre.length] = pre := by
    rw [without_eq_permuted_freeAxes, hXi]
    simp only [List.length_append, List.length_cons, List.length_nil, Nat.zero_add]
    rw [freeAxes_last, permuted_snoc_init]
  have e2 : without Y.indices [0] = post := by
    rw [without_eq_permuted_freeAxes, hYi]
    simp only [List.length_cons]
    rw [freeAxes_first, permuted_cons_tail]
  rw [tensordotBlockwise_indices, e1, e2]

theorem bond_validB [Zero R] [Add R] [Mul R] (X Y : Arr R) (pre post : List Index) (xK yK : Index)
    (hXi : X.indices = pre ++ [xK]) (hYi : Y.indices = yK :: post)
    (hX : X.validB = true) (hY : Y.validB = true) (hsym : X.sym = Y.sym) (hf : X.fermi = false)
    (hd : xK.dual = !yK.dual) :
    (tensordotBlockwise X Y (freeAxes X.ndim [pre.length]) [pre.length] [0] (freeAxes Y.ndim [0])).validB
      = true := by
  have hXn : X.ndim = pre.length + 1 := by simp [Arr.ndim, hXi]
  have hYn : Y.ndim = post.length + 1 := by simp [Arr.ndim, hYi]
  have := ValidP.tensordotBlockwise_valid X Y [pre.length] [0]
    ((ValidP.validB_iff _).mp hX) ((ValidP.validB_iff _).mp hY) hsym hf
    (by
      unfold ValidP.oppositeDualsB
      simp only [List.length_cons, List.length_nil, BEq.rfl, List.zip_cons_cons, List.zip_nil_right,
        List.all_cons, List.all_nil, Bool.and_true, Bool.true_and, bne_iff_ne, ne_eq]
      rw [hXi, hYi]
      simp [List.getD_eq_getElem?_getD, hd])
    (by simp) (by simp) (by simp [hXn]) (by simp [hYn])
  rw [without_range, without_range] at this
  exact (ValidP.validB_iff _).mpr this

theorem decAx_total {A : Arr R} {G : List (List Nat)} (hv : FuseP.ValidArr A)
    (hok : FuseP.GroupsOk G A.ndim) {g : Nat} {gaxes : List Nat} (hg : G[g]? = some gaxes)
    {c : Charge} {D k : Nat} (hsz : (FuseP.ixM A G g).sizeOf? c = some D) (hk : k < D) :
    ∃ K ok, decAx A G g c k = some (K, ok) := by
  by_cases hlen : gaxes.length = 1
  · have hm : FuseP.multiB G g = false := FuseP.multiB_single hg hlen
    exact ⟨[c], [k], by simp [decAx, hm]⟩
  · have hm : FuseP.multiB G g = true := FuseP.multiB_iff.2 ⟨_, hg, hlen⟩
    obtain ⟨K, ok, hs⟩ := FuseP.splitAddr_total (FuseP.ixM_wf hv hok.adm _)
      (FuseP.ixM_sub hok.adm hg hlen) hsz hk
    exact ⟨K, ok, by simp [decAx, hm, hs]⟩

/-- **the two fused bond indices match**: two valid arrays of the same symmetry whose matched
    legs have equal charge tables and opposite directions and which store the same set of
    contracted sub-sectors; bond groups at arbitrary positions of arbitrary admissible group lists.
    Equal charge tables, for a multi-axis bond equal extents, opposite directions. -/
theorem bond_match_of {A B : Arr R} {xa xb : List Nat} (hvA : FuseP.ValidArr A) (hvB : FuseP.ValidArr B)
    (hsym : A.sym = B.sym) (hlen : xa.length = xb.length)
    (hcm : (xa.map (fun ax => A.indices.getD ax default)).map Index.cm
      = (xb.map (fun ax => B.indices.getD ax default)).map Index.cm)
    (hdual : (xb.map (fun ax => B.indices.getD ax default)).map Index.dual
      = (xa.map (fun ax => A.indices.getD ax default)).map (fun ix => !ix.dual))
    (hkeys : ∀ K, K ∈ A.blocks.map (fun sb => xa.map (fun ax => sb.1.getD ax (0, 0))) ↔
      K ∈ B.blocks.map (fun sb => xb.map (fun ax => sb.1.getD ax (0, 0))))
    {GA GB : List (List Nat)} {pA pB : Nat}
    (hokA : FuseP.GroupsOk GA A.ndim) (hokB : FuseP.GroupsOk GB B.ndim)
    (gA : GA[pA]? = some xa) (gB : GB[pB]? = some xb) :
    (FuseP.ixM A GA pA).cm = (FuseP.ixM B GB pB).cm
    ∧ (xa.length ≠ 1 → FuseP.extsM A GA pA = FuseP.extsM B GB pB)
    ∧ (FuseP.ixM A GA pA).dual = !(FuseP.ixM B GB pB).dual := by
  by_cases hl1 : xa.length = 1
  · have hl1B : xb.length = 1 := by rw [← hlen]; exact hl1
    rw [FuseP.ixM_single hokA.adm gA hl1, FuseP.ixM_single hokB.adm gB hl1B]
    match xa, xb, hl1, hl1B, hcm, hdual with
    | [i], [j], _, _, hcm, hdual =>
      simp only [List.map_cons, List.map_nil, List.cons.injEq, and_true] at hcm hdual
      refine ⟨hcm, fun hne => absurd rfl hne, ?_⟩
      simp only [List.headD_cons]
      rw [hdual]; simp
  · obtain ⟨h1, h2, h3⟩ := fused_tables_match hvA hvB hsym hokA hokB gA gB hl1 hlen hcm hdual hkeys
    exact ⟨h1, fun _ => h2, h3⟩

/-- the situation after `dropMisaligned` (no condition on the free groups, nor on `xa`) -/
structure Ctx0 (A B : Arr R) (xa xb : List Nat) : Prop where
  vA : A.validB = true
  vB : B.validB = true
  fA : A.fermi = false
  fB : B.fermi = false
  sym : A.sym = B.sym
  nA : xa.Nodup
  nB : xb.Nodup
  rA : ∀ x ∈ xa, x < A.ndim
  rB : ∀ x ∈ xb, x < B.ndim
  len : xa.length = xb.length
  cm : (xa.map (fun ax => A.indices.getD ax default)).map Index.cm
      = (xb.map (fun ax => B.indices.getD ax default)).map Index.cm
  dual : (xb.map (fun ax => B.indices.getD ax default)).map Index.dual
      = (xa.map (fun ax => A.indices.getD ax default)).map (fun ix => !ix.dual)
  keys : ∀ K, K ∈ A.blocks.map (fun sb => xa.map (fun ax => sb.1.getD ax (0, 0))) ↔
      K ∈ B.blocks.map (fun sb => xb.map (fun ax => sb.1.getD ax (0, 0)))

theorem ixM_wfB {A : Arr R} {G : List (List Nat)} (hv : FuseP.ValidArr A)
    (hok : FuseP.GroupsOk G A.ndim) {g : Nat} {gaxes : List Nat} (hg : G[g]? = some gaxes) :
    Index.wfB A.sym (FuseP.ixM A G g) = true := by
  by_cases hlen : gaxes.length = 1
  · rw [FuseP.ixM_single hok.adm hg hlen]
    have hlt : ∀ x ∈ gaxes, x < A.indices.length := FuseP.groupM_lt hok.adm hg
    match gaxes, hlen, hlt with
    | [ax], _, hlt => exact index_getD_wf hv (hlt ax (by simp))
  · exact FuseP.ixM_wf hv hok.adm _

namespace Ctx0
variable {A B : Arr R} {xa xb : List Nat} (h : Ctx0 A B xa xb)
include h

theorem vaA : FuseP.ValidArr A := FuseP.validArr_of_validB h.vA
theorem vaB : FuseP.ValidArr B := FuseP.validArr_of_validB h.vB
theorem phA : A.phases = [] := Arr.phases_nil_of_validB h.vA h.fA
theorem phB : B.phases = [] := Arr.phases_nil_of_validB h.vB h.fB

theorem neB (hne : xa ≠ []) : xb ≠ [] := by
  intro e; have := h.len; rw [e] at this; exact hne (List.eq_nil_of_length_eq_zero this)

variable {GA GB : List (List Nat)} {pA pB : Nat}

theorem bond_match (hokA : FuseP.GroupsOk GA A.ndim) (hokB : FuseP.GroupsOk GB B.ndim)
    (gA : GA[pA]? = some xa) (gB : GB[pB]? = some xb) :
    (FuseP.ixM A GA pA).cm = (FuseP.ixM B GB pB).cm
    ∧ (xa.length ≠ 1 → FuseP.extsM A GA pA = FuseP.extsM B GB pB)
    ∧ (FuseP.ixM A GA pA).dual = !(FuseP.ixM B GB pB).dual :=
  bond_match_of h.vaA h.vaB h.sym h.len h.cm h.dual h.keys hokA hokB gA gB

theorem decAx_bond (hokA : FuseP.GroupsOk GA A.ndim) (hokB : FuseP.GroupsOk GB B.ndim)
    (gA : GA[pA]? = some xa) (gB : GB[pB]? = some xb) (c : Charge) (k : Nat) :
    decAx B GB pB c k = decAx A GA pA c k := by
  by_cases hlen : xa.length = 1
  · have hlenB : xb.length = 1 := by rw [← h.len]; exact hlen
    have hmA : FuseP.multiB GA pA = false := FuseP.multiB_single gA hlen
    have hmB : FuseP.multiB GB pB = false := FuseP.multiB_single gB hlenB
    simp [decAx, hmA, hmB]
  · have hlenB : xb.length ≠ 1 := by rw [← h.len]; exact hlen
    have hmA : FuseP.multiB GA pA = true := FuseP.multiB_iff.2 ⟨_, gA, hlen⟩
    have hmB : FuseP.multiB GB pB = true := FuseP.multiB_iff.2 ⟨_, gB, hlenB⟩
    have hsA := FuseP.ixM_sub (a := A) hokA.adm gA hlen
    have hsB := FuseP.ixM_sub (a := B) hokB.adm gB hlenB
    have hex := (h.bond_match hokA hokB gA gB).2.1 hlen
    simp only [decAx, hmA, hmB, if_true, FuseP.splitAddr, hsA, hsB, hex]
    cases alookup (FuseP.extsM B GB pB) c with
    | none => rfl
    | some ext =>
      simp only []
      cases FuseP.splitOffset ext k with
      | none => rfl
      | some q =>
        simp only []
        rw [blockShape?_congr h.cm q.1]

end Ctx0

/-- the situation after `dropMisaligned`: two valid abelian arrays of the same symmetry whose
    contracted legs have equal charge tables and opposite directions and which store the same set
    of contracted sub-sectors; contracted, left and right groups non-empty -/
structure FusedCtx (A B : Arr R) (xa xb : List Nat) : Prop where
  vA : A.validB = true
  vB : B.validB = true
  fA : A.fermi = false
  fB : B.fermi = false
  sym : A.sym = B.sym
  nA : xa.Nodup
  nB : xb.Nodup
  rA : ∀ x ∈ xa, x < A.ndim
  rB : ∀ x ∈ xb, x < B.ndim
  len : xa.length = xb.length
  neK : xa ≠ []
  neL : freeAxes A.ndim xa ≠ []
  neR : freeAxes B.ndim xb ≠ []
  cm : (xa.map (fun ax => A.indices.getD ax default)).map Index.cm
      = (xb.map (fun ax => B.indices.getD ax default)).map Index.cm
  dual : (xb.map (fun ax => B.indices.getD ax default)).map Index.dual
      = (xa.map (fun ax => A.indices.getD ax default)).map (fun ix => !ix.dual)
  keys : ∀ K, K ∈ A.blocks.map (fun sb => xa.map (fun ax => sb.1.getD ax (0, 0))) ↔
      K ∈ B.blocks.map (fun sb => xb.map (fun ax => sb.1.getD ax (0, 0)))

namespace FusedCtx
variable {A B : Arr R} {xa xb : List Nat} (h : FusedCtx A B xa xb)
include h

/-- `FusedCtx` is `Ctx0` with the three groups non-empty -/
theorem toCtx0 : Ctx0 A B xa xb :=
  ⟨h.vA, h.vB, h.fA, h.fB, h.sym, h.nA, h.nB, h.rA, h.rB, h.len, h.cm, h.dual, h.keys⟩

theorem neKb : xb ≠ [] := h.toCtx0.neB h.neK
theorem vaA : FuseP.ValidArr A := h.toCtx0.vaA
theorem vaB : FuseP.ValidArr B := h.toCtx0.vaB
theorem phA : A.phases = [] := h.toCtx0.phA
theorem phB : B.phases = [] := h.toCtx0.phB

theorem pairA : PairOk A (freeAxes A.ndim xa) xa :=
  ⟨h.neL, h.neK, by
    have := ValidP.without_append_perm h.nA h.rA
    rwa [without_range] at this⟩

theorem pairB : PairOk B xb (freeAxes B.ndim xb) :=
  ⟨h.neKb, h.neR, by
    have := ValidP.without_append_perm h.nB h.rB
    rw [without_range] at this
    exact List.perm_append_comm.trans this⟩

end FusedCtx

theorem contracted_box {A : Arr R} {xa : List Nat} (hxa : xa.Nodup) (hxa' : ∀ x ∈ xa, x < A.ndim)
    {K L : Sector} {shpK shpL : List Nat}
    (hK : Arr.blockShape? (permuted A.indices xa) K = some shpK)
    (hL : Arr.blockShape? (permuted A.indices (freeAxes A.ndim xa)) L = some shpL) :
    permuted (Arr.blockShapeD A.indices (mergeSec A.ndim xa K L)) xa = shpK := by
  have ean : A.indices.length = A.ndim := rfl
  have hKlen : K.length = xa.length := by
    rw [(blockShape?_length hK).1, permuted_length _ _ (by simpa [ean] using hxa')]
  have hLlen : L.length = (freeAxes A.ndim xa).length := by
    rw [(blockShape?_length hL).1, permuted_length _ _ (by simpa [ean] using mem_freeAxes_lt)]
  have hSch : List.Forall₂ (fun c (ix : Index) => c ∈ ix.charges) (mergeSec A.ndim xa K L) A.indices := by
    apply forall₂_of_parts (n := A.ndim) (xa := xa) (l := freeAxes A.ndim xa)
      (mergeSec_length _ _ _ _) ean hxa' mem_freeAxes_lt
    · intro y hy
      by_cases hm : y ∈ xa
      · exact Or.inl hm
      · exact Or.inr (mem_freeAxes.mpr ⟨hy, hm⟩)
    · rw [permuted_mergeSec_axes hxa hxa' hKlen]; exact charges_of_blockShape? hK
    · rw [permuted_mergeSec_free hLlen]; exact charges_of_blockShape? hL
  obtain ⟨shpS, hshpS⟩ := blockShape?_of_charges hSch
  have := blockShape?_permuted hshpS xa (by simpa [ean] using hxa')
  rw [permuted_mergeSec_axes hxa hxa' hKlen, hK] at this
  rw [Arr.blockShapeD, hshpS]
  exact (Option.some.inj this).symm

theorem bondKs_shape {A : Arr R} {G : List (List Nat)} (hv : FuseP.ValidArr A)
    (hok : FuseP.GroupsOk G A.ndim) {g : Nat} {gaxes : List Nat} (hg : G[g]? = some gaxes)
    {K : Sector} (hK : K ∈ bondKs A G g) :
    ∃ shp, Arr.blockShape? (permuted A.indices gaxes) K = some shp := by
  have hlt : ∀ x ∈ gaxes, x < A.indices.length := FuseP.groupM_lt hok.adm hg
  by_cases hlen : gaxes.length = 1
  · have hm : FuseP.multiB G g = false := FuseP.multiB_single hg hlen
    have hix := FuseP.ixM_single (a := A) hok.adm hg hlen
    simp only [bondKs, hm, Bool.false_eq_true, if_false, List.mem_map] at hK
    obtain ⟨⟨c, D⟩, hcd, rfl⟩ := hK
    match gaxes, hlen, hlt, hix with
    | [ax], _, hlt, hix =>
      have h0 : ax < A.indices.length := hlt ax (by simp)
      simp only [List.headD_cons] at hix
      rw [hix] at hcd
      have hsz : (A.indices.getD ax default).sizeOf? c = some D :=
        alookup_of_mem_nodup (cm_keys_nodup (index_getD_wf hv h0)) hcd
      rw [List.getD_eq_getElem?_getD, List.getElem?_eq_getElem h0] at hsz
      simp only [Option.getD_some] at hsz
      refine ⟨[D], ?_⟩
      simp only [permuted, List.filterMap_cons, List.getElem?_eq_getElem h0, List.filterMap_nil,
        Arr.blockShape?_cons, Arr.blockShape?_nil_nil, hsz]
      rfl
  · have hm : FuseP.multiB G g = true := FuseP.multiB_iff.2 ⟨_, hg, hlen⟩
    have hsub := FuseP.ixM_sub (a := A) hok.adm hg hlen
    have hw := FuseP.ixM_wf hv hok.adm g
    simp only [bondKs, hm, if_true, List.mem_flatMap, List.mem_map] at hK
    obtain ⟨⟨c, D⟩, hcd, ⟨ss, d⟩, hsd, rfl⟩ := hK
    obtain ⟨ext, he, hext⟩ := cm_extent hw hsub hcd
    have heo : extOf (FuseP.ixM A G g) c = ext := by simp [extOf, hsub, he]
    rw [heo] at hsd
    obtain ⟨_, ⟨shp, hshp, _⟩, _⟩ := hext.entry ss d hsd
    exact ⟨shp, by rw [permuted_eq_map _ _ hlt default]; exact hshp⟩

/-- **core of the fused strategy, generic form.**  `FA c k` / `FB c k`: the entries of the two
    fused operands as functions of the bond (charge, position), known to be the original operands'
    elements at the decoded addresses with fixed free parts `(Ls, oL)` / `(Rs, oR)`.  Then the
    double sum over the fused bond is the blockwise contraction at `(Ls ++ Rs, oL ++ oR)`. -/
theorem core_generic [AddCommMonoid R] [Mul R] [Neg R]
    (hz1 : ∀ x : R, 0 * x = 0) (hz2 : ∀ x : R, x * 0 = 0) {A B : Arr R} {xa xb : List Nat}
    (h : Ctx0 A B xa xb) {GA GB : List (List Nat)} {pA pB : Nat}
    (hokA : FuseP.GroupsOk GA A.ndim) (hokB : FuseP.GroupsOk GB B.ndim)
    (gA : GA[pA]? = some xa) (gB : GB[pB]? = some xb)
    {Ls Rs : Sector} {oL oR shpL shpR : List Nat}
    (hshpL : Arr.blockShape? (permuted A.indices (freeAxes A.ndim xa)) Ls = some shpL)
    (hboxL : inBox shpL oL = true)
    (hshpR : Arr.blockShape? (permuted B.indices (freeAxes B.ndim xb)) Rs = some shpR)
    (hboxR : inBox shpR oR = true)
    (FA FB : Charge → Nat → R)
    (HL : ∀ c D k K ok, (FuseP.ixM A GA pA).sizeOf? c = some D → k < D →
      decAx A GA pA c k = some (K, ok) →
      FA c k = A.elem (mergeSec A.ndim xa K Ls) (mergeIdx 0 A.ndim xa (freeAxes A.ndim xa) ok oL))
    (HR : ∀ c D k K ok, (FuseP.ixM B GB pB).sizeOf? c = some D → k < D →
      decAx B GB pB c k = some (K, ok) →
      FB c k = B.elem (mergeSec B.ndim xb K Rs) (mergeIdx 0 B.ndim xb (freeAxes B.ndim xb) ok oR)) :
    ((FuseP.ixM A GA pA).cm.map (fun cd => ((List.range cd.2).map (fun k =>
        FA cd.1 k * FB cd.1 k)).sum)).sum =
      (tensordotBlockwise A B (freeAxes A.ndim xa) xa xb (freeAxes B.ndim xb)).elem (Ls ++ Rs) (oL ++ oR) := by
  have hvA := h.vaA
  have hvB := h.vaB
  have ean : A.indices.length = A.ndim := rfl
  have ebn : B.indices.length = B.ndim := rfl
  have hndK := cm_keys_nodup (ixM_wfB hvA hokA gA)
  have hLlen : Ls.length = (freeAxes A.ndim xa).length := by
    rw [(blockShape?_length hshpL).1, permuted_length _ _ (by simpa [ean] using mem_freeAxes_lt)]
  have hRlen : Rs.length = (freeAxes B.ndim xb).length := by
    rw [(blockShape?_length hshpR).1, permuted_length _ _ (by simpa [ebn] using mem_freeAxes_lt)]
  have hoLlen : oL.length = (freeAxes A.ndim xa).length := by
    rw [inBox_length hboxL, (blockShape?_length hshpL).2,
      permuted_length _ _ (by simpa [ean] using mem_freeAxes_lt)]
  let H : Sector → List Nat → R := fun K ok =>
    A.elem (mergeSec A.ndim xa K Ls) (mergeIdx 0 A.ndim xa (freeAxes A.ndim xa) ok oL) *
    B.elem (mergeSec B.ndim xb K Rs) (mergeIdx 0 B.ndim xb (freeAxes B.ndim xb) ok oR)
  have hterm : ∀ cd ∈ (FuseP.ixM A GA pA).cm, ∀ k ∈ List.range cd.2,
      FA cd.1 k * FB cd.1 k =
      (match decAx A GA pA cd.1 k with
        | some (K, ok) => H K ok
        | none => 0) := by
    rintro ⟨c, D⟩ hcd k hk
    have hkD : k < D := List.mem_range.mp hk
    have hszA : (FuseP.ixM A GA pA).sizeOf? c = some D := alookup_of_mem_nodup hndK hcd
    have hszB : (FuseP.ixM B GB pB).sizeOf? c = some D := by
      rw [Index.sizeOf?, ← (h.bond_match hokA hokB gA gB).1]; exact hszA
    obtain ⟨K, ok, hdec⟩ := decAx_total hvA hokA gA hszA hkD
    have hdecB : decAx B GB pB c k = some (K, ok) := by
      rw [h.decAx_bond hokA hokB gA gB]; exact hdec
    simp only [hdec]
    rw [HL c D k K ok hszA hkD hdec, HR c D k K ok hszB hkD hdecB]
  rw [sum_map_congr (fun cd hcd => sum_map_congr (hterm cd hcd))]
  refine Eq.trans (Eq.trans (by rfl) (sum_decAx hvA hokA gA H)) ?_
  have hboxC : inBox (Arr.blockShapeD (without A.indices xa ++ without B.indices xb) (Ls ++ Rs))
      (oL ++ oR) = true := by
    rw [without_eq_permuted_freeAxes, without_eq_permuted_freeAxes, Arr.blockShapeD, ean, ebn,
      blockShape?_append hshpL hshpR]
    simp only [Option.getD_some]
    rw [inBox_append (inBox_length hboxL), hboxL, hboxR]; rfl
  rw [tensordotBlockwise_elem_dense' hz1 hz2 A B xa xb h.phA h.phB (Arr.allDistinct_of_validB h.vA)
    (Arr.allDistinct_of_validB h.vB) (Arr.shapesOk_of_validB h.vA) (Arr.shapesOk_of_validB h.vB)
    h.nA h.rA h.nB h.rB h.len (bondKs A GA pA) (bondKs_nodup hvA hokA gA)
    (bondKs_length hvA hokA gA)
    (fun sa hsa => by
      obtain ⟨p, hp, rfl⟩ := List.mem_map.mp hsa
      exact bondKs_cover hvA hokA gA p hp)
    Ls Rs hLlen hRlen (oL ++ oR) hboxC]
  have etake : (oL ++ oR).take (freeAxes A.ndim xa).length = oL := by rw [← hoLlen]; simp
  have edrop : (oL ++ oR).drop (freeAxes A.ndim xa).length = oR := by rw [← hoLlen]; simp
  rw [etake, edrop]
  apply sum_map_congr
  intro K hK
  obtain ⟨shpK, hshpK⟩ := bondKs_shape hvA hokA gA hK
  simp only [contractPair, contractTerm, H]
  rw [contracted_box h.nA h.rA hshpK hshpL, Arr.blockShapeD, hshpK]
  rfl

end TdotP
end SymmModel
