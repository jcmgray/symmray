/-
  SymmModel.Proofs.LinalgSolveRecon — `a · solve(a, b) = b` for abelian arrays under the value
  contract of the solve kernel on the paired blocks (C11 `solve_solves`).
-/
import SymmModel.Proofs.LinalgRecon
import SymmModel.Proofs.LinalgSolve

namespace SymmModel

variable {R : Type}

/-- VALUE contract of the solve kernel on the block pairs `solve(a, b)` forms: for every stored
    block `arr` of `a` whose row charge has a block `bb` in `b`, `arr · K.solve arr bb = bb`
    entrywise (sum over the inner index as `tensordotK` computes it).  It is a hypothesis on the
    call, not on `K` alone, because no kernel can solve singular blocks. -/
def Kernels.SolvesOn [Zero R] [Add R] [Mul R] (K : Kernels R) (a b : Arr R) : Prop :=
  ∀ s arr bb, (s, arr) ∈ a.blocks → alookup b.blocks [s.getD 0 (0, 0)] = some bb →
    ∀ i, i < arr.shape.getD 0 0 →
      (List.range (arr.shape.getD 1 0)).foldl
        (fun acc t => acc + arr.get [i, t] * (K.solve arr bb).get [t]) 0 = bb.get [i]

namespace LinalgLemmas

theorem tensordotK_matvec_get [Zero R] [Add R] [Mul R] (a b : Blk R) {m k : Nat}
    (ha : a.shape = [m, k]) (hb : b.shape = [k]) {i : Nat} (hi : i < m) :
    (a.tensordotK b [1] [0]).get [i]
      = (List.range k).foldl (fun acc t => acc + a.get [i, t] * b.get [t]) 0 := by
  unfold Blk.tensordotK
  simp only [ha, hb]
  have h1 : (List.range [m, k].length).filter (fun ax => ![1].contains ax) = [0] := rfl
  have h2 : (List.range [k].length).filter (fun ax => ![0].contains ax) = [] := rfl
  rw [h1, h2]
  have h3 : permuted [m, k] [0] ++ permuted [k] [] = [m] := rfl
  have h4 : permuted [m, k] [1] = [k] := rfl
  rw [h3, h4, ofFn_get _ _ ((inBox_single m i).mpr hi)]
  rw [allIdx_single, List.foldl_map]
  rfl

theorem flatMap_toList_eq_filterMap {α β : Type} (l : List α) (g : α → List β) (f : α → Option β)
    (hg : ∀ p ∈ l, g p = (f p).toList) : l.flatMap g = l.filterMap f := by
  induction l with
  | nil => rfl
  | cons a l ih =>
    rw [List.flatMap_cons, List.filterMap_cons, hg a List.mem_cons_self,
      ih (fun p hp => hg p (List.mem_cons_of_mem _ hp))]
    cases f a <;> rfl

theorem solveA_abelian [Neg R] {K : Kernels R} {a b x : Arr R} (hva : a.validB = true)
    (hfa : a.fermi = false) (h : solveA K a b = .ok x) :
    a.ndim = 2 ∧ x = solveX K a b := by
  obtain ⟨h2, _, hx⟩ := solveA_ok_eq hva h
  have ha : syncIf a = a := by unfold syncIf; simp [hfa]
  have hb : syncB a b = b := by unfold syncB; simp [hfa]
  rw [ha, hb] at hx
  simp only [hfa, Bool.false_and, Bool.false_eq_true, if_false] at hx
  exact ⟨h2, hx⟩

theorem solve_tdot_blocks [Zero R] [Add R] [Mul R] {K : Kernels R} {a b : Arr R}
    (hva : a.validB = true) (h2 : a.ndim = 2) :
    (tensordotBlockwise a (solveX K a b) [0] [1] [0] []).blocks
      = a.blocks.filterMap (fun p => (alookup b.blocks [p.1.getD 0 (0, 0)]).map (fun bb =>
          ([p.1.getD 0 (0, 0)], p.2.tensordotK (K.solve p.2 bb) [1] [0]))) := by
  obtain ⟨i0, i1, hi⟩ := ndim_two h2
  have hcols := colCharges_nodup hva h2
  have hxk := solveBlocks_keys_nodup (K := K) (b := b) hva h2
  have hpairs : (a.blocks.flatMap (fun (sa, ba) =>
      let ka := permuted sa [1]
      ((solveX K a b).blocks.filter (fun (sb, _) => permuted sb [0] == ka)).map (fun (sb, bb) =>
        (permuted sa [0] ++ permuted sb [], ba, bb))))
      = a.blocks.filterMap (fun p => (alookup b.blocks [p.1.getD 0 (0, 0)]).map (fun bb =>
          ([p.1.getD 0 (0, 0)], p.2, K.solve p.2 bb))) := by
    apply flatMap_toList_eq_filterMap
    intro p hp
    obtain ⟨s, arr⟩ := p
    obtain ⟨r, c, m, n, B⟩ := mat_block hva hi hp
    have hs := B.hs
    subst hs
    show (((solveBlocks K a b).filter (fun q => permuted q.1 [0] == permuted [r, c] [1])).map
      (fun q => (permuted [r, c] [0] ++ permuted q.1 [], arr, q.2))) = _
    simp only [List.getD_cons_zero]
    cases hl : alookup b.blocks [r] with
    | none =>
      have : (solveBlocks K a b).filter (fun q => permuted q.1 [0] == permuted [r, c] [1]) = [] := by
        rw [List.filter_eq_nil_iff]
        intro q hq hP
        obtain ⟨s', arr', bb', hm', hlk', hq1, _⟩ := solveBlocks_mem (s' := q.1) (xb := q.2) hq
        rw [hq1] at hP
        have hc : s'.getD 1 (0, 0) = c := by
          have : ([s'.getD 1 (0, 0)] == [c]) = true := hP
          simpa using this
        have hsec := (sector_inj hva h2 (List.mem_map.mpr ⟨(s', arr'), hm', rfl⟩)
          (List.mem_map.mpr ⟨([r, c], arr), hp, rfl⟩)).2 (by simpa using hc)
        simp only at hsec
        subst hsec
        simp only [List.getD_cons_zero] at hlk'
        rw [hl] at hlk'
        cases hlk'
      rw [this]; rfl
    | some bb =>
      have hmem : ([c], K.solve arr bb) ∈ solveBlocks K a b := by
        unfold solveBlocks
        rw [List.mem_filterMap]
        refine ⟨([r, c], arr), hp, ?_⟩
        simp only [List.getD_cons_zero, hl, List.getD_cons_succ]
      have : (solveBlocks K a b).filter (fun q => permuted q.1 [0] == permuted [r, c] [1])
          = [([c], K.solve arr bb)] := by
        apply filter_key_eq_singleton _ (·.1) hxk hmem
        intro q hq
        obtain ⟨s', arr', bb', _, _, hq1, _⟩ := solveBlocks_mem (s' := q.1) (xb := q.2) hq
        rw [hq1]
        show ([s'.getD 1 (0, 0)] == [c]) = true ↔ _
        simp
      rw [this]; rfl
  unfold tensordotBlockwise
  simp only []
  rw [hpairs]
  have hkeys := rowKeyed_nodup hva h2 b (fun p bb => (p.2, K.solve p.2 bb))
  have := accum_fold (R := R) [1] [0]
    (a.blocks.filterMap (fun p => (alookup b.blocks [p.1.getD 0 (0, 0)]).map (fun bb =>
      ([p.1.getD 0 (0, 0)], p.2, K.solve p.2 bb)))) []
    (by rw [List.map_nil, List.nil_append]; exact hkeys)
  simp only [List.nil_append] at this
  refine this.trans ?_
  rw [List.map_filterMap]
  apply List.filterMap_congr
  intro p _
  cases alookup b.blocks [p.1.getD 0 (0, 0)] <;> rfl

theorem solve_recon [Zero R] [Add R] [Mul R] [Neg R] {K : Kernels R} (hK : K.ShapeOk)
    {a b x : Arr R} (hva : a.validB = true) (hfa : a.fermi = false) (hbp : b.phases = [])
    (hS : K.SolvesOn a b) (h : solveA K a b = .ok x)
    {s : Sector} {arr bb : Blk R} (hm : (s, arr) ∈ a.blocks)
    (hl : alookup b.blocks [s.getD 0 (0, 0)] = some bb) {i : Nat} (hi : i < arr.shape.getD 0 0) :
    (tensordotBlockwise a x [0] [1] [0] []).elem [s.getD 0 (0, 0)] [i]
      = b.elem [s.getD 0 (0, 0)] [i] := by
  obtain ⟨h2, rfl⟩ := solveA_abelian hva hfa h
  obtain ⟨i0, i1, hidx⟩ := ndim_two h2
  obtain ⟨r, c, m, n, B⟩ := mat_block hva hidx hm
  have hrow : s.getD 0 (0, 0) = r := by simp [B.hs]
  have hblocks := solve_tdot_blocks (K := K) (b := b) hva h2
  have hkeys : ((tensordotBlockwise a (solveX K a b) [0] [1] [0] []).blocks.map (·.1)).Nodup := by
    rw [hblocks]
    exact rowKeyed_nodup hva h2 b (fun p bb => p.2.tensordotK (K.solve p.2 bb) [1] [0])
  have hlook : alookup (tensordotBlockwise a (solveX K a b) [0] [1] [0] []).blocks [s.getD 0 (0, 0)]
      = some (arr.tensordotK (K.solve arr bb) [1] [0]) := by
    apply alookup_of_mem_nodup hkeys
    rw [hblocks, List.mem_filterMap]
    exact ⟨(s, arr), hm, by simp only [hl, Option.map_some]⟩
  have hph : (tensordotBlockwise a (solveX K a b) [0] [1] [0] []).phases = [] :=
    Arr.phases_nil_of_validB (a := a) hva hfa
  have hsol := hK.solve arr bb m n B.hshape B.hwf
  have hi' : i < m := by simpa [B.hshape] using hi
  have hval := hS s arr bb hm hl i hi
  simp only [B.hshape, List.getD_cons_succ, List.getD_cons_zero] at hval
  simp only [Arr.elem, hlook, hph, hl, hbp, alookup]
  rw [← hval]
  simpa using tensordotK_matvec_get arr (K.solve arr bb) B.hshape hsol.1 hi'

end LinalgLemmas
end SymmModel
