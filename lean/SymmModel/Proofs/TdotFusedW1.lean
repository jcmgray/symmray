/-
  SymmModel.Proofs.TdotFusedW1 — the aligned operands under the WEAK guard
  `AssocP.contractibleCommonB` (matched legs: opposite directions, charge tables that agree on the
  charges both list — what holds for the pruned tables of an intermediate contraction result):
  after `dropMisaligned` the matched legs have EQUAL charge tables, so the aligned operands
  satisfy `Ctx0`.  Namespace `SymmModel.TdotP`.
-/
import SymmModel.Proofs.TdotFused10
import SymmModel.Proofs.AssocFrame

namespace SymmModel
namespace TdotP
variable {R : Type}

theorem aligned_cm_dual_w (a b : Arr R) (xa xb : List Nat)
    (ha : a.validB = true) (hb : b.validB = true)
    (hxa' : ∀ x ∈ xa, x < a.ndim) (hxb' : ∀ x ∈ xb, x < b.ndim)
    (hc : AssocP.contractibleCommonB a b xa xb = true) :
    (xa.map (fun ax => (dropMisaligned a b xa xb).1.indices.getD ax default)).map Index.cm
      = (xb.map (fun ax => (dropMisaligned a b xa xb).2.indices.getD ax default)).map Index.cm
    ∧ (xb.map (fun ax => (dropMisaligned a b xa xb).2.indices.getD ax default)).map Index.dual
      = (xa.map (fun ax => (dropMisaligned a b xa xb).1.indices.getD ax default)).map
          (fun ix => !ix.dual) := by
  unfold AssocP.contractibleCommonB at hc
  simp only [Bool.and_eq_true, beq_iff_eq, List.all_eq_true, bne_iff_ne, ne_eq] at hc
  exact aligned_cm_dual_of a b xa xb ha hb hxa' hxb' hc.1 (fun p hp =>
    ⟨fun _ _ _ h1 h2 => AssocP.cmAgree_lookup (hc.2 p hp).1 h1 h2, (hc.2 p hp).2⟩)

theorem ctx0_of_dropMisaligned_w (a b : Arr R) (xa xb : List Nat)
    (ha : a.validB = true) (hb : b.validB = true) (hfa : a.fermi = false) (hfb : b.fermi = false)
    (hsym : a.sym = b.sym) (hc : AssocP.contractibleCommonB a b xa xb = true)
    (hnA : xa.Nodup) (hnB : xb.Nodup) (hA : ∀ x ∈ xa, x < a.ndim) (hB : ∀ x ∈ xb, x < b.ndim) :
    Ctx0 (dropMisaligned a b xa xb).1 (dropMisaligned a b xa xb).2 xa xb := by
  obtain ⟨hcm, hdual⟩ := aligned_cm_dual_w a b xa xb ha hb hA hB hc
  exact ctx0_of_aligned a b xa xb ha hb hfa hfb hsym hnA hnB hA hB (AssocP.commonB_len hc) hcm hdual

end TdotP
end SymmModel
