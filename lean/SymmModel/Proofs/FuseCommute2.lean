/-
  SymmModel.Proofs.FuseCommute2 — ONE group `g` of axes at arbitrary positions, in any order:
  geometry of `_fuse_core(g)` (the fused axis sits at `p = min g`, the other axes keep their order)
  and the element map in "free part / group part" form.  Namespace `SymmModel.TdotP`.
-/
import SymmModel.Proofs.TdotFuseC2

namespace SymmModel
namespace TdotP
variable {R : Type}

theorem freeAxes_succ_mid (p m : Nat) :
    freeAxes (p + 1 + m) [p] = List.range p ++ (List.range m).map (fun j => p + 1 + j) := by
  unfold freeAxes
  rw [List.range_add, List.range_add, List.filter_append, List.filter_append]
  have h1 : (List.range p).filter (fun ax => !([p] : List Nat).contains ax) = List.range p := by
    rw [List.filter_eq_self]
    intro a ha
    have := List.mem_range.mp ha
    simp; omega
  have h2 : ((List.range 1).map (p + ·)).filter (fun ax => !([p] : List Nat).contains ax) = [] := by
    simp [List.range_succ]
  have h3 : ((List.range m).map (p + 1 + ·)).filter (fun ax => !([p] : List Nat).contains ax)
      = (List.range m).map (fun j => p + 1 + j) := by
    rw [List.filter_eq_self]
    intro a ha
    obtain ⟨j, _, rfl⟩ := List.mem_map.mp ha
    simp; omega
  rw [h1, h2, h3, List.append_nil]

section One
variable {X : Arr R} {g : List Nat}

theorem one_pos_mem (h : OneOk X g) : (FuseP.giM X [g]).position ∈ g := by
  have := (FuseP.position_spec (FuseP.hokD h.groupsOk)).1
  simpa using this

theorem one_pos_le (h : OneOk X g) : ∀ x ∈ g, (FuseP.giM X [g]).position ≤ x := by
  intro x hx
  exact (FuseP.position_spec (FuseP.hokD h.groupsOk)).2 x (by simpa using hx)

theorem one_pos_lt (h : OneOk X g) : (FuseP.giM X [g]).position < X.ndim := h.lt _ (one_pos_mem h)

theorem one_free (h : OneOk X g) :
    freeAxes X.ndim g = List.range (FuseP.giM X [g]).position ++ (FuseP.giM X [g]).axesAfter := by
  have hp := one_pos_lt h
  have hle := one_pos_le h
  have hb := FuseP.axesBefore_range [g] X.duals
  have hd := FuseP.duals_length X
  generalize hP : (FuseP.giM X [g]).position = p at hp hle hb ⊢
  have hpos : (calcFuseGroupInfo [g] X.duals).position = p := hP
  have hafter : (FuseP.giM X [g]).axesAfter
      = ((List.range X.ndim).filter (fun ax => decide (p ≤ ax))).filter (fun ax => !g.contains ax) := by
    show (calcFuseGroupInfo [g] X.duals).axesAfter = _
    have : (calcFuseGroupInfo [g] X.duals).axesAfter
        = ((List.range X.duals.length).filter (fun ax => decide ((calcFuseGroupInfo [g] X.duals).position ≤ ax))).filter
            (fun ax => !([g] : List (List Nat)).flatten.contains ax) := rfl
    rw [this, hpos, hd]
    simp
  rw [hafter]
  have hn : X.ndim = p + (X.ndim - p) := by omega
  unfold freeAxes
  conv_lhs => rw [hn, List.range_add, List.filter_append]
  conv_rhs => rw [hn, List.range_add, List.filter_append]
  have h1 : (List.range p).filter (fun ax => !g.contains ax) = List.range p := by
    rw [List.filter_eq_self]
    intro a ha
    have ha' := List.mem_range.mp ha
    simp only [Bool.not_eq_true', List.contains_eq_mem, decide_eq_false_iff_not]
    intro hm; have := hle a hm; omega
  have h2 : (List.range p).filter (fun ax => decide (p ≤ ax)) = [] := by
    rw [List.filter_eq_nil_iff]
    intro a ha
    have := List.mem_range.mp ha
    simp; omega
  have h3 : ((List.range (X.ndim - p)).map (p + ·)).filter (fun ax => decide (p ≤ ax))
      = (List.range (X.ndim - p)).map (p + ·) := by
    rw [List.filter_eq_self]
    intro a ha
    obtain ⟨j, _, rfl⟩ := List.mem_map.mp ha
    simp
  rw [h1, h2, h3, List.nil_append]

theorem one_ndimM (_h : OneOk X g) :
    FuseP.ndimM X [g] = (FuseP.giM X [g]).position + 1 + (FuseP.giM X [g]).axesAfter.length := rfl

theorem one_free_indices (h : OneOk X g) :
    permuted (FuseP.newIdxM X [g]) (freeAxes (FuseP.ndimM X [g]) [(FuseP.giM X [g]).position])
      = permuted X.indices (freeAxes X.ndim g) := by
  have hok := h.groupsOk
  have hl := FuseP.newIdxM_length hok.adm
  rw [one_ndimM h, freeAxes_succ_mid, one_free h, permuted_append, permuted_append]
  have ean : X.indices.length = X.ndim := rfl
  refine congrArg₂ (· ++ ·) ?_ ?_
  · rw [permuted_eq_map _ _ (by intro x hx; rw [hl, one_ndimM h]; have := List.mem_range.mp hx; omega) default,
      permuted_eq_map _ _ (by intro x hx; rw [ean]; have := List.mem_range.mp hx; have := one_pos_lt h; omega)
        default]
    apply List.map_congr_left
    intro x hx
    exact FuseP.newIdxM_before hok.adm (List.mem_range.mp hx)
  · rw [permuted_eq_map _ _ (by
        intro x hx
        obtain ⟨j, hj, rfl⟩ := List.mem_map.mp hx
        rw [hl, one_ndimM h]; have := List.mem_range.mp hj; omega) default,
      permuted_eq_map _ _ FuseP.afterM_lt default, List.map_map,
      FuseP.map_eq_range_map (FuseP.giM X [g]).axesAfter 0]
    apply List.map_congr_left
    intro j hj
    have := FuseP.newIdxM_after hok.adm (List.mem_range.mp hj)
    simp only [List.length_cons, List.length_nil, Nat.zero_add] at this
    exact this

theorem one_free_parts {α : Type} (h : OneOk X g) (d : α) {ns s : List α}
    (hnl : ns.length = FuseP.ndimM X [g]) (hs : s.length = X.ndim)
    (hfree : permuted ns (freeAxes (FuseP.ndimM X [g]) [(FuseP.giM X [g]).position])
      = permuted s (freeAxes X.ndim g)) :
    (∀ x, x < (FuseP.giM X [g]).position → ns.getD x d = s.getD x d)
    ∧ (∀ j, j < (FuseP.giM X [g]).axesAfter.length →
        ns.getD ((FuseP.giM X [g]).position + 1 + j) d = s.getD ((FuseP.giM X [g]).axesAfter.getD j 0) d) := by
  have ean : X.indices.length = X.ndim := rfl
  rw [one_ndimM h, freeAxes_succ_mid, one_free h, permuted_append, permuted_append] at hfree
  have hb1 : ∀ x ∈ List.range (FuseP.giM X [g]).position, x < ns.length := by
    intro x hx; rw [hnl, one_ndimM h]; have := List.mem_range.mp hx; omega
  have hb2 : ∀ x ∈ List.range (FuseP.giM X [g]).position, x < s.length := by
    intro x hx; rw [hs]; have := List.mem_range.mp hx; have := one_pos_lt h; omega
  have ha1 : ∀ x ∈ (List.range (FuseP.giM X [g]).axesAfter.length).map
      (fun j => (FuseP.giM X [g]).position + 1 + j), x < ns.length := by
    intro x hx
    obtain ⟨j, hj, rfl⟩ := List.mem_map.mp hx
    rw [hnl, one_ndimM h]; have := List.mem_range.mp hj; omega
  have ha2 : ∀ x ∈ (FuseP.giM X [g]).axesAfter, x < s.length := by
    intro x hx; rw [hs, ← ean]; exact FuseP.afterM_lt x hx
  obtain ⟨e1, e2⟩ := List.append_inj hfree (by rw [permuted_length _ _ hb1, permuted_length _ _ hb2])
  rw [permuted_eq_map _ _ hb1 d, permuted_eq_map _ _ hb2 d] at e1
  rw [permuted_eq_map _ _ ha1 d, permuted_eq_map _ _ ha2 d, List.map_map,
    FuseP.map_eq_range_map (FuseP.giM X [g]).axesAfter 0] at e2
  exact ⟨FuseP.range_map_inj e1, FuseP.range_map_inj e2⟩

/-- the address `(ns, i)` of `fuse(X, [g])` DECODES to the address `(s, offs)` of `X`: the entry on
    the fused axis decodes (through the fused index's own table) to the group part of `(s, offs)`,
    the other entries are the free part of `(s, offs)` -/
structure Decodes (X : Arr R) (g : List Nat) (ns s : Sector) (i offs : List Nat) : Prop where
  dec : decAx X [g] 0 (ns.getD (FuseP.giM X [g]).position (0, 0)) (i.getD (FuseP.giM X [g]).position 0)
    = some (permuted s g, permuted offs g)
  sec : permuted ns (freeAxes (FuseP.ndimM X [g]) [(FuseP.giM X [g]).position])
    = permuted s (freeAxes X.ndim g)
  off : permuted i (freeAxes (FuseP.ndimM X [g]) [(FuseP.giM X [g]).position])
    = permuted offs (freeAxes X.ndim g)

/-- the address `(ns, i)` ranges over the fused array's whole table box: the equation holds whether or
    not a block is stored there -/
theorem one_elem [Zero R] [Neg R] (hv : FuseP.ValidArr X) (hph : X.phases = []) (h : OneOk X g)
    {ns : Sector} {i shp : List Nat}
    (hshp : Arr.blockShape? (FuseP.newIdxM X [g]) ns = some shp) (hbox : inBox shp i = true)
    {s : Sector} {offs : List Nat} (hs : s.length = X.ndim) (ho : offs.length = X.ndim)
    (hD : Decodes X g ns s i offs) :
    (FuseP.fusedArrM X [g]).elem ns i = X.elem s offs := by
  have hok := h.groupsOk
  have hnl : ns.length = FuseP.ndimM X [g] := by
    rw [(blockShape?_length hshp).1, FuseP.newIdxM_length hok.adm]
  have hil : i.length = FuseP.ndimM X [g] := by
    rw [inBox_length hbox, (blockShape?_length hshp).2, FuseP.newIdxM_length hok.adm]
  obtain ⟨s1, s2⟩ := one_free_parts h ((0, 0) : Charge) hnl hs hD.sec
  obtain ⟨o1, o2⟩ := one_free_parts h (0 : Nat) hil ho hD.off
  refine multi_elem hv hph hok hshp hbox hs ho ?_ (fun x hx => ⟨s1 x hx, o1 x hx⟩)
    (fun j hj => ⟨s2 j hj, o2 j hj⟩)
  intro g' gaxes hg'
  have hg0 : g' = 0 := by
    have := FuseP.getElem?_lt hg'
    simp at this; exact this
  subst hg0
  simp only [List.getElem?_cons_zero, Option.some.injEq] at hg'
  subst hg'
  exact hD.dec

end One

end TdotP
end SymmModel
