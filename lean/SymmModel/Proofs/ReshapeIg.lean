/-
  SymmModel.Proofs.ReshapeIg — the way back under the diagonal window condition.  On the way back the
  planner visits an old (kept) fused axis exactly once, at the target position of that axis itself
  (`visits_back`); so instead of `noWinB a.shape a.subsizes` (no sub-sizes equal to ANY window) it
  suffices that no fused axis' sub-sizes equal the window of the shape that starts AT THAT AXIS
  (`noSelfWinB`, the condition `selfWin = false` of C07g).  Hence the round trip of a forward plan of
  fuse calls for inputs with fused axes (`roundtrip_fused_generic`) and, as the case without any
  (`roundtrip_generic`), the one behind Props/C07e.
-/
import SymmModel.Proofs.ReshapeId
namespace SymmModel.ReshapeI
open SymmModel SymmModel.Reshape SymmModel.C07 SymmModel.Reshape3 SymmModel.Reshape5 SymmModel.ReshapeH
open ReshapeP FuseP

/-- no fused axis carries sub-sizes equal to the window of the shape starting at that axis -/
def noSelfWinB (shape : List Nat) (subsizes : List (Option (List Nat))) : Bool :=
  (List.range subsizes.length).all (fun j => (unfuseMatch shape j (subsizes.getD j none)).isNone)

theorem noSelfWin_spec {shape : List Nat} {subsizes : List (Option (List Nat))}
    (h : noSelfWinB shape subsizes = true) {j : Nat} {sub : Option (List Nat)} (hj : subsizes[j]? = some sub) :
    unfuseMatch shape j sub = none := by
  simp only [noSelfWinB, List.all_eq_true, List.mem_range, Option.isNone_iff_eq_none] at h
  have := h j (List.getElem?_eq_some_iff.mp hj).1
  rwa [List.getD_eq_getElem?_getD, hj] at this

theorem noSelfWin_of_noWin {shape : List Nat} {subsizes : List (Option (List Nat))}
    (hlen : shape.length = subsizes.length) (h : noWinB shape subsizes = true) :
    noSelfWinB shape subsizes = true := by
  simp only [noSelfWinB, List.all_eq_true, List.mem_range, Option.isNone_iff_eq_none]
  intro j hj
  have hm : subsizes.getD j none ∈ subsizes := by
    rw [List.getD_eq_getElem?_getD, List.getElem?_eq_getElem hj]
    exact List.getElem_mem hj
  exact noWin_spec h hm (by omega)

theorem visits_back (st : SymShape) (hok : FusedOk st) (fuel : Nat) :
    ∀ p ∈ visits (SymShape.sizes st) (tgt st) (SymShape.subs st) fuel 0 0,
      ∃ pre' e rest', st = pre' ++ e :: rest' ∧ p = (pre'.length, (tgt pre').length) := by
  intro p hp
  have hnx : ∀ a ∈ segsBack 0 st, a.isX = false := fun a ha => (greedy_noX (greedy_segsBack st 0 hok) a ha).1
  obtain ⟨P, a, R, hS, rfl⟩ := mem_visits_run (segsBack 0 st) {} fuel (run_back st hok)
    (by rw [(foldl_after_pos _ _ hnx).1, flatE_segsBack]; simp [SymShape.sizes]) p hp
  obtain ⟨pre', e, rest', rfl, hE, hA⟩ := segsBack_split st 0 P a R hS
  have hP := foldl_after_pos P {} fun b hb => hnx b (by rw [hS]; simp [hb])
  exact ⟨pre', e, rest', rfl, by rw [hP.1, hP.2, hE, hA]; simp⟩

variable {R : Type}

theorem back_plan_marked (y a : Arr R) (segs : List (Index × Bool)) (hidx : y.indices = segs.map (·.1))
    (hexp : segs.flatMap expM = a.indices) (hok : ∀ s ∈ segs, SegOk s)
    (hnw : noSelfWinB a.shape a.subsizes = true) :
    calcReshapeArgs y.shape a.shape y.subsizes = .ok (l2rAxes (newPL segs 0) 0, [], []) := by
  have h1 := back_plan_multi (symH segs) (fusedOk_symH segs hok)
  have hsz : SymShape.sizes (symH segs) = y.shape := by rw [sizes_symH, ← hidx]; rfl
  have htg : tgt (symH segs) = a.shape := by rw [tgt_symH segs hok, hexp]; rfl
  have hba := backAxes_symH segs 0 0 hok
  simp only [Nat.add_zero] at hba
  rw [hsz, htg, hba] at h1
  rw [← h1]
  have e1 : y.subsizes = segs.map (fun s => s.1.sub.map (fun se => se.1.map Index.sizeTotal)) := by
    simp only [Arr.subsizes, hidx, List.map_map]; rfl
  have e2 : SymShape.subs (symH segs)
      = segs.map (fun s => if s.2 then s.1.sub.map (fun se => se.1.map Index.sizeTotal) else none) := by
    simp only [SymShape.subs, symH, List.map_map]; rfl
  unfold calcReshapeArgs
  rw [mainLoop_agree y.shape a.shape y.subsizes (SymShape.subs (symH segs)) (by rw [e1, e2]; simp) _ {}]
  intro p hp
  rw [← hsz, ← htg] at hp
  have hp' : p ∈ visits (SymShape.sizes (symH segs)) (tgt (symH segs)) (SymShape.subs (symH segs))
      ((SymShape.sizes (symH segs)).length + (tgt (symH segs)).length) ([] : SymShape).length
      (tgt ([] : SymShape)).length := hp
  -- a visited pair is (|pre'|, |tgt pre'|) for a split `symH segs = pre' ++ e :: rest'`: the axis `e`
  -- of `y` is asked at the position where its own expansion starts in `a.shape`
  obtain ⟨pre', e, rest', hst, rfl⟩ := visits_back (symH segs) (fusedOk_symH segs hok) _ p hp'
  unfold symH at hst
  obtain ⟨l1, l2, hsegs, hl1, hl2⟩ := List.map_eq_append_iff.mp hst
  obtain ⟨s, l3, rfl, hs, hl3⟩ := List.map_eq_cons_iff.mp hl2
  have hpl : pre'.length = l1.length := by rw [← hl1]; simp
  have hpre : pre' = symH l1 := hl1.symm
  simp only []
  rw [e1, e2, hpl, hsegs]
  simp only [List.getD_eq_getElem?_getD, List.map_append, List.map_cons]
  rw [show l1.length = (l1.map (fun s : Index × Bool =>
      s.1.sub.map (fun se => se.1.map Index.sizeTotal))).length by simp, Reshape3.getElem?_append_cons]
  rw [show (l1.map (fun s : Index × Bool =>
      s.1.sub.map (fun se => se.1.map Index.sizeTotal))).length = (l1.map (fun s : Index × Bool =>
      if s.2 then s.1.sub.map (fun se => se.1.map Index.sizeTotal) else none)).length by simp, Reshape3.getElem?_append_cons]
  simp only [Option.getD_some]
  obtain ⟨ix, m⟩ := s
  cases m with
  | true => rfl
  | false =>
    -- a kept axis: that position is its own position in `a.shape`, where `noSelfWinB` answers
    simp only [Bool.false_eq_true, if_false]
    have hok1 : ∀ s ∈ l1, SegOk s := fun s hs => hok s (by rw [hsegs]; simp [hs])
    have hj : (tgt pre').length = (l1.flatMap expM).length := by
      rw [hpre, tgt_symH l1 hok1]; simp
    have hai : a.indices = l1.flatMap expM ++ ix :: l3.flatMap expM := by
      rw [← hexp, hsegs]
      simp [expM]
    have hsub : a.subsizes[(tgt pre').length]?
        = some (ix.sub.map (fun se => se.1.map Index.sizeTotal)) := by
      rw [hj]
      simp only [Arr.subsizes, hai, List.map_append, List.map_cons]
      rw [show (l1.flatMap expM).length = ((l1.flatMap expM).map (fun ix : Index =>
        ix.sub.map (fun s => s.1.map Index.sizeTotal))).length by simp, Reshape3.getElem?_append_cons]
    rw [noSelfWin_spec hnw hsub]
    rfl

variable [Zero R] [Neg R] [Lazy.LawfulNeg R]
variable {fuse : Arr R → List (List Nat) → Except Err (Arr R)}
  {unf : Arr R → Nat → Except Err (Arr R)} {Good : Arr R → Prop}
  {sg : Sym → Index → List Index → Sector → Int}

theorem back_of_invH (K : Kind fuse unf Good sg)
    {a y : Arr R} {lb : Nat} {segs : List (Index × Bool)} (hI : InvH unf Good a y lb segs)
    (hnw : noSelfWinB a.shape a.subsizes = true) :
    ∃ z, reshapeArr y (a.shape.map Int.ofNat) = .ok z ∧ Good z ∧ VEq z a := by
  obtain ⟨zr, hzr, _, hvzr⟩ := hI.chain
  obtain ⟨zl, zr', hl, hr, gzl, _, hv⟩ := l2r_r2l K.stepOK (newPL segs 0) 0 y hI.good
    (newPL_sorted _ _) (by simpa using newPL_fusedAtL y segs hI.idx hI.ok)
  simp only [Nat.add_zero] at hr
  rw [hzr] at hr; injection hr with hr; subst hr
  refine ⟨zl, ?_, gzl, hv.trans hvzr⟩
  rw [reshapeArr_eq y _ _ a.shape _ (findFullReshape_nat a.shape y.size) (mapM_toNat a.shape)
    (back_plan_marked y a segs hI.idx hI.exp hI.ok hnw)]
  simp only [applyPlan, List.foldlM_nil, bind, Except.bind, pure, Except.pure]
  have key : ∀ (ps : List Nat) (x : Arr R), Good x → ps.foldlM unfuseDispatch x = ps.foldlM unf x := by
    intro ps
    induction ps with
    | nil => intro x _; rfl
    | cons p ps ih =>
      intro x hx
      rw [List.foldlM_cons, List.foldlM_cons, K.disp x p hx]
      cases hu : unf x p with
      | error e => rfl
      | ok x1 =>
        obtain ⟨ix, subs, exts, hix, hsub⟩ := K.ind x p x1 hu
        obtain ⟨x2, h2, g2, _⟩ := K.stepOK.step x p ix subs exts hx hix hsub
        rw [hu] at h2; injection h2 with h2; subst h2
        exact ih x1 g2
  rw [key _ y hI.good, hl]

theorem roundtrip_fused_generic (K : Kind fuse unf Good sg)
    (a : Arr R) (hg : Good a) (hnw : noSelfWinB a.shape a.subsizes = true)
    (calls : List (List (List Nat))) (hc : CallsOk calls 0 a.ndim) :
    ∃ y z, applyPlan a ([], calls, []) = .ok y ∧ reshapeArr y (a.shape.map Int.ofNat) = .ok z
      ∧ Good z ∧ VEq z a := by
  obtain ⟨y, lb, segs, hy, hI⟩ := invH_calls K a calls a 0 _ (invH_init a hg) hc
  obtain ⟨z, hz, gz, hv⟩ := back_of_invH K hI hnw
  refine ⟨y, z, ?_, hz, gz, hv⟩
  simp only [applyPlan, List.foldlM_nil, bind, Except.bind, pure, Except.pure]
  rw [hy]

theorem roundtrip_generic (K : Kind fuse unf Good sg)
    (a : Arr R) (hg : Good a) (hnf : ∀ ix ∈ a.indices, ix.sub = none)
    (calls : List (List (List Nat))) (hc : CallsOk calls 0 a.ndim) :
    ∃ y z, applyPlan a ([], calls, []) = .ok y ∧ reshapeArr y (a.shape.map Int.ofNat) = .ok z
      ∧ Good z ∧ VEq z a :=
  roundtrip_fused_generic K a hg
    (noSelfWin_of_noWin (by simp [Arr.shape, Arr.subsizes]) (noWin_unfused a hnf a.shape)) calls hc

end SymmModel.ReshapeI
