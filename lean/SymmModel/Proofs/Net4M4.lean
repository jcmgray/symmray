/-
  SymmModel.Proofs.Net4M4 — the observable form of "zero-padded copy" (`ZeroPad`) and how it follows
  from the padding relation carried along a route (`zeroPad_of`).
-/
import SymmModel.Proofs.Net4M2

namespace SymmModel
namespace Net4P
open TdotP GradedP RoutesP KoszulP AssocP Assoc2P Assoc3P Assoc5P

variable {R : Type}

/-- `U` (a result of calls in fused / auto / blockwise mode) is a zero-padded copy of the blockwise
    result `T`: `U` stores every sector of `T` with the same block shape and the same values; every
    other block of `U` is zero -/
structure ZeroPad [Zero R] [Neg R] (U T : Arr R) : Prop where
  valid : U.validB = true
  fermi : U.fermi = true
  oddpos : U.oddpos = T.oddpos
  charge : U.charge = T.charge
  sym : U.sym = T.sym
  ndim : U.ndim = T.ndim
  dual : ∀ i, (U.indices.getD i default).dual = (T.indices.getD i default).dual
  sub : ∀ s ∈ T.sectors, s ∈ U.sectors
  shape : ∀ s ∈ T.sectors, Arr.blockShapeD U.indices s = Arr.blockShapeD T.indices s
  elem : ∀ s ∈ T.sectors, ∀ o, inBox (Arr.blockShapeD T.indices s) o = true → U.elem s o = T.elem s o
  zero : ∀ s, s ∉ T.sectors → ∀ o, inBox (Arr.blockShapeD U.indices s) o = true → U.elem s o = 0

theorem zeroPad_of [Zero R] [Neg R] {U T' T : Arr R} (p : PadA U T') (hv : U.validB = true)
    (hf : U.fermi = true) (e : Eqv T' T) : ZeroPad U T := by
  refine ⟨hv, hf, p.oddpos.trans e.oddpos, p.charge.trans e.charge, p.pad.sym.trans e.sym,
    p.pad.ndim.trans (by show T'.indices.length = T.indices.length; rw [e.indices]), ?_, ?_, ?_, ?_, ?_⟩
  · intro i; rw [p.pad.dual i, e.indices]
  · intro s hs; exact p.pad.sub s ((e.sectors s).mpr hs)
  · intro s hs; rw [p.pad.shape s ((e.sectors s).mpr hs), e.indices]
  · intro s hs o ho
    have hs' := (e.sectors s).mpr hs
    have ho' : inBox (Arr.blockShapeD T'.indices s) o = true := by rw [e.indices]; exact ho
    rw [p.pad.elem s (p.pad.sub s hs') o (by rw [p.pad.shape s hs']; exact ho')]
    exact e.elem s o (fun _ => ho')
  · intro s hs o hb
    have hs' : s ∉ T'.sectors := fun h => hs ((e.sectors s).mp h)
    by_cases hm : s ∈ U.sectors
    · rw [p.pad.elem s hm o hb, Arr.elem_of_not_mem hs']
    · exact Arr.elem_of_not_mem hm o

end Net4P
end SymmModel
