/-
  SymmModel.Proofs.TdotFusedW2 — fused strategy = blockwise under the WEAK guard
  (`AssocP.contractibleCommonB` / `AssocP.AdmW`: what holds between an intermediate contraction
  result, whose tables are pruned, and the next operand): the kernel call,
  `tensordot_fermionic` in fused / auto mode (agreement with blockwise mode, block shapes of the
  result), and the transfer step to the blockwise result.  Namespace `SymmModel.TdotP`.
-/
import SymmModel.Proofs.TdotFusedW1

namespace SymmModel
namespace TdotP
variable {R : Type}

/-- **fused = blockwise for every call under the weak guard** (operands of any kind, synced
    signs) -/
theorem kernelOk_all_w [AddCommMonoid R] [Mul R] [Neg R]
    (hz1 : ∀ x : R, 0 * x = 0) (hz2 : ∀ x : R, x * 0 = 0) (X Y : Arr R) (xa xb : List Nat)
    (hvX : ValidP.Valid X) (hvY : ValidP.Valid Y) (hpX : X.phases = []) (hpY : Y.phases = [])
    (hsym : X.sym = Y.sym) (hc : AssocP.contractibleCommonB X Y xa xb = true)
    (hnA : xa.Nodup) (hnB : xb.Nodup) (hA : ∀ x ∈ xa, x < X.ndim) (hB : ∀ x ∈ xb, x < Y.ndim) :
    KernelOk X Y xa xb :=
  kernelOk_of_abOk X Y xa xb (fun hbl =>
    abOk_all_ctx hz1 hz2 (ab X) (ab Y) xa xb (ab_validB hvX hpX) rfl
      (ctx0_of_dropMisaligned_w (ab X) (ab Y) xa xb (ab_validB hvX hpX) (ab_validB hvY hpY) rfl rfl
        hsym hc hnA hnB hA hB) hbl)

open AssocP in
/-- `X`, `Y` are the operands `a`, `b` as `tensordot_fermionic` hands them to the abelian kernel:
    valid, synced, and still satisfying the weak guard along the last `k` / first `k` axes; their
    free legs are the free legs of `a`, `b`, their parity and labels those of `a`, `b` -/
structure PreparedPair (a b : Arr R) (xa xb : List Nat) (X Y : Arr R) : Prop where
  validX : ValidP.Valid X
  validY : ValidP.Valid Y
  phasesX : X.phases = []
  phasesY : Y.phases = []
  sym : X.sym = Y.sym
  ndimX : X.ndim = a.ndim
  ndimY : Y.ndim = b.ndim
  con : contractibleCommonB X Y ((List.range a.ndim).drop (a.ndim - xa.length)) (List.range xa.length) = true
  freeX : without X.indices ((List.range a.ndim).drop (a.ndim - xa.length)) = without a.indices xa
  freeY : without Y.indices (List.range xa.length) = without b.indices xb
  parity : X.parity = a.parity
  oddposX : X.oddpos = a.oddpos
  oddposY : Y.oddpos = b.oddpos

open GradedP RoutesP AssocP in
theorem prepared_ok [AddMonoid R] [Mul R] [Neg R] [SignRing R] (a b : Arr R) (xa xb : List Nat)
    (h : AdmW a b xa xb) :
    PreparedPair a b xa xb (ValidP.tdF34 a b xa xb).1.phaseSync (ValidP.tdF34 a b xa xb).2.phaseSync := by
  obtain ⟨ha, hb, hfa, hfb, hsym, hc, hnA, hnB, hA, hB⟩ := h
  have hlen := commonB_len hc
  have props := ValidP.tdF34_props a b xa xb ((ValidP.validB_iff a).mp ha) ((ValidP.validB_iff b).mp hb)
    hfa hfb hnA hnB hA hB
  -- from here on `props` is all that is known of the transposed operands `A`, `B`
  generalize ValidP.tdF34 a b xa xb = P at props ⊢
  obtain ⟨A, B⟩ := P
  have hXi : A.phaseSync.indices = permuted a.indices (freeAxes a.ndim xa ++ xa) := by
    show A.indices = _
    rw [props.ia, without_range]
  have hYi : B.phaseSync.indices = permuted b.indices (xb ++ freeAxes b.ndim xb) := by
    show B.indices = _
    rw [props.ib, without_range]
  have hXn : A.phaseSync.indices.length = a.ndim := by
    rw [hXi]; exact left_lengths hnA hA a.indices rfl
  have hYn : B.phaseSync.indices.length = b.ndim := by
    rw [hYi]; exact right_lengths hnB hB b.indices rfl
  have hk : xa.length ≤ a.ndim := by have := freeAxes_length hnA hA; omega
  have hk' : xb.length ≤ b.ndim := by have := freeAxes_length hnB hB; omega
  refine ⟨ValidP.phaseSync_valid _ props.va, ValidP.phaseSync_valid _ props.vb, rfl, rfl, ?_, hXn, hYn,
    ?_, ?_, ?_, ?_, props.oa, props.ob⟩
  · show A.sym = B.sym
    rw [props.sa, props.sb]; exact hsym
  · rw [commonB_iff]
    have hl1 : ((List.range a.ndim).drop (a.ndim - xa.length)).length = xa.length := by simp; omega
    refine ⟨by rw [hl1]; simp, ?_⟩
    intro j hj
    rw [hl1] at hj
    have hltA : ∀ i ∈ (List.range a.ndim).drop (a.ndim - xa.length), i < A.phaseSync.indices.length := by
      intro i hi; rw [hXn]; exact List.mem_range.mp (List.mem_of_mem_drop hi)
    have hltB : ∀ i ∈ List.range xa.length, i < B.phaseSync.indices.length := by
      intro i hi; rw [hYn]; have := List.mem_range.mp hi; omega
    have eA := getD_permuted_ax A.phaseSync.indices _ hltA j (by rw [hl1]; exact hj) default
    have eB := getD_permuted_ax B.phaseSync.indices _ hltB j (by simpa using hj) default
    rw [hXi, left_newA hnA hA a.indices rfl, getD_permuted_ax a.indices xa (fun i hi => hA i hi) j hj default] at eA
    have hjb : j < xb.length := by omega
    rw [hYi, hlen, right_newB hnB hB b.indices rfl,
      getD_permuted_ax b.indices xb (fun i hi => hB i hi) j hjb default] at eB
    rw [← hlen] at eB
    rw [hXi, hYi, ← eA, ← eB]
    exact commonB_at hc j hj
  · rw [without_eq_permuted_freeAxes, without_eq_permuted_freeAxes, hXn, hXi]
    exact left_free hnA hA a.indices rfl
  · rw [without_eq_permuted_freeAxes, without_eq_permuted_freeAxes, hYn, hYi, hlen]
    exact right_free hnB hB b.indices rfl
  · show Sym.parity A.sym A.charge = _
    rw [props.sa, props.ca]; rfl

open GradedP RoutesP in
theorem tensordotF_auto_nil [Zero R] [Add R] [Mul R] [Neg R] (a b : Arr R) :
    a.tensordotF b (.pair (([] : List Nat).map Int.ofNat) (([] : List Nat).map Int.ofNat)) .auto
      = a.tensordotF b (.pair (([] : List Nat).map Int.ofNat) (([] : List Nat).map Int.ofNat)) .blockwise := by
  rw [ValidP.tensordotF_eq_nat a b [] [] .auto rfl (by simp) (by simp),
    ValidP.tensordotF_eq_nat a b [] [] .blockwise rfl (by simp) (by simp)]
  have hparse : ∀ X Y : Arr R, parseAxes X.ndim Y.ndim
      (.pair (((List.range a.ndim).drop (a.ndim - ([] : List Nat).length)).map Int.ofNat)
        ((List.range ([] : List Nat).length).map Int.ofNat)) = .ok ([], []) := by
    intro X Y
    have : (List.range a.ndim).drop (a.ndim - ([] : List Nat).length) = [] := by simp
    rw [this]
    exact ValidP.parseAxes_nat X.ndim Y.ndim [] [] rfl (by simp) (by simp)
  rw [tensordotA_auto_outer _ _ _ [] (hparse _ _), tensordotA_blockwise_ok _ _ _ [] [] (hparse _ _)]

open GradedP RoutesP in
theorem coreFrame_block_shape [AddMonoid R] [Mul R] [Neg R] [SignRing R] {a b : Arr R} {xa xb : List Nat} {T : Arr R}
    (F : CoreFrame a b xa xb T) (hsa : a.shapesOk) (hsb : b.shapesOk) (K : Sector) (V : Blk R)
    (hl : alookup T.blocks K = some V) :
    Arr.blockShape? (without a.indices xa ++ without b.indices xb) K = some V.shape := by
  have hm : (K, V) ∈ T.blocks := alookup_some_mem hl
  have hK : K ∈ T.sectors := List.mem_map.mpr ⟨_, hm, rfl⟩
  rw [F.sectors, List.mem_eraseDups] at hK
  obtain ⟨x, hx, y, hy, _, rfl⟩ := mem_tdKeys.mp hK
  obtain ⟨shpA, hA1, _, hA3, _⟩ := shape_of_mem hsa hx
  obtain ⟨shpB, hB1, _, hB3, _⟩ := shape_of_mem hsb hy
  have hleftlt : ∀ z ∈ freeAxes a.ndim xa, z < a.ndim := fun z hz => (mem_freeAxes.mp hz).1
  have hrightlt : ∀ z ∈ freeAxes b.ndim xb, z < b.ndim := fun z hz => (mem_freeAxes.mp hz).1
  have ea : a.indices.length = a.ndim := rfl
  have eb : b.indices.length = b.ndim := rfl
  have hsh := F.shape _ hm
  simp only at hsh
  have key : Arr.blockShape? (without a.indices xa ++ without b.indices xb)
      (permuted x (freeAxes a.ndim xa) ++ permuted y (freeAxes b.ndim xb))
      = some (permuted shpA (freeAxes a.ndim xa) ++ permuted shpB (freeAxes b.ndim xb)) := by
    rw [without_eq_permuted_freeAxes, without_eq_permuted_freeAxes, ea, eb]
    exact blockShape?_append (blockShape?_permuted hA1 _ hleftlt) (blockShape?_permuted hB1 _ hrightlt)
  rw [hsh, Arr.blockShapeD, key]
  rfl

open GradedP RoutesP AssocP in
/-- **fused / auto = blockwise for `tensordot_fermionic` under the weak guard** (`AdmW`), block
    shapes of the result included.  This is the form that applies to a chain of contractions: the
    left or right operand may be the (pruned) result of an earlier contraction. -/
theorem tensordotF_modes_all_w [AddCommMonoid R] [Mul R] [Neg R] [SignRing R]
    (hz1 : ∀ x : R, 0 * x = 0) (hz2 : ∀ x : R, x * 0 = 0) (a b : Arr R) (xa xb : List Nat)
    (h : AdmW a b xa xb) (mode : TdotMode) (hmode : mode = .fused ∨ mode = .auto) :
    (∀ e, OddposP.mergeOddpos a.parity a.oddpos b.oddpos = .error e →
        a.tensordotF b (.pair (xa.map Int.ofNat) (xb.map Int.ofNat)) mode = .error e
        ∧ a.tensordotF b (.pair (xa.map Int.ofNat) (xb.map Int.ofNat)) .blockwise = .error e)
    ∧ (∀ r, OddposP.mergeOddpos a.parity a.oddpos b.oddpos = .ok r →
        ∃ rm rb, a.tensordotF b (.pair (xa.map Int.ofNat) (xb.map Int.ofNat)) mode = .ok rm
          ∧ a.tensordotF b (.pair (xa.map Int.ofNat) (xb.map Int.ofNat)) .blockwise = .ok rb
          ∧ rm.oddpos = rb.oddpos ∧ rm.charge = rb.charge ∧ rm.sym = rb.sym ∧ rm.fermi = rb.fermi
          ∧ rm.indices.length = rb.indices.length
          ∧ (∀ s ∈ rb.sectors, s ∈ rm.sectors)
          ∧ rm.sectors.Nodup
          ∧ List.Forall₂ SizeLe rm.indices (without a.indices xa ++ without b.indices xb)
          ∧ (∀ K V, alookup rm.blocks K = some V →
              Arr.blockShape? (without a.indices xa ++ without b.indices xb) K = some V.shape)
          ∧ (∀ K V, alookup rm.blocks K = some V → ∀ J, inBox V.shape J = true →
              rm.elem K J = rb.elem K J)) := by
  have hbw := tensordotF_eq_core_w a b xa xb h
  have F := coreT_frame_w a b xa xb h
  by_cases hcase : mode = .auto ∧ xa = []
  · obtain ⟨rfl, rfl⟩ := hcase
    have hxb : xb = [] := List.eq_nil_of_length_eq_zero h.len.symm
    subst hxb
    rw [tensordotF_auto_nil]
    rw [hbw]
    constructor
    · intro e he; rw [he]; exact ⟨rfl, rfl⟩
    · intro r hr
      rw [hr]
      obtain ⟨_, _, _, k4, k5, _⟩ := AssocP.finish_fields (coreT a b [] []) r
      refine ⟨_, _, rfl, rfl, rfl, rfl, rfl, rfl, rfl, fun _ hs => hs, ?_, ?_, ?_, fun _ _ _ _ _ => rfl⟩
      · rw [k5, F.sectors]; exact nodup_eraseDups _
      · rw [k4, F.indices]; exact dropUnused_sizeLe _ _
      intro K V hl
      rw [AssocP.finish_blocks] at hl
      exact coreFrame_block_shape F (Arr.shapesOk_of_validB h.va) (Arr.shapesOk_of_validB h.vb) K V hl
  · have hm' : mode = .fused ∨ (mode = .auto ∧ xa ≠ []) := by
      rcases hmode with hm | hm
      · exact Or.inl hm
      · exact Or.inr ⟨hm, fun e => hcase ⟨hm, e⟩⟩
    have P := prepared_ok a b xa xb h
    have hlen := h.len
    have hk : xa.length ≤ a.ndim := by have := freeAxes_length h.nA h.ltA; omega
    have hk' : xb.length ≤ b.ndim := by have := freeAxes_length h.nB h.ltB; omega
    have hcT : coreT a b xa xb = tensordotBlockwise (ValidP.tdF34 a b xa xb).1.phaseSync
        (ValidP.tdF34 a b xa xb).2.phaseSync
        (freeAxes (ValidP.tdF34 a b xa xb).1.phaseSync.ndim ((List.range a.ndim).drop (a.ndim - xa.length)))
        ((List.range a.ndim).drop (a.ndim - xa.length)) (List.range xa.length)
        (freeAxes (ValidP.tdF34 a b xa xb).2.phaseSync.ndim (List.range xa.length)) := rfl
    have hcall0 := ValidP.tensordotF_eq_nat a b xa xb mode hlen h.ltA h.ltB
    generalize (ValidP.tdF34 a b xa xb).1.phaseSync = X at *
    generalize (ValidP.tdF34 a b xa xb).2.phaseSync = Y at *
    have hnA' : ((List.range a.ndim).drop (a.ndim - xa.length)).Nodup :=
      (List.drop_sublist _ _).nodup List.nodup_range
    have hA' : ∀ i ∈ (List.range a.ndim).drop (a.ndim - xa.length), i < X.ndim := by
      intro i hi; rw [P.ndimX]; exact List.mem_range.mp (List.mem_of_mem_drop hi)
    have hB' : ∀ i ∈ List.range xa.length, i < Y.ndim := by
      intro i hi; rw [P.ndimY]; have := List.mem_range.mp hi; omega
    obtain ⟨cm, hcm, hsv, hnd, hframe, hshape⟩ := kernelOk_all_w hz1 hz2 X Y _ _ P.validX P.validY
      P.phasesX P.phasesY P.sym P.con hnA' List.nodup_range hA' hB'
    have hparse := ValidP.parseAxes_nat X.ndim Y.ndim ((List.range a.ndim).drop (a.ndim - xa.length))
      (List.range xa.length) (by simp; omega) hA' hB'
    have hcall : tensordotA X Y (.pair (((List.range a.ndim).drop (a.ndim - xa.length)).map Int.ofNat)
        ((List.range xa.length).map Int.ofNat)) mode = .ok cm := by
      rcases hm' with rfl | ⟨rfl, hne⟩
      · rw [tensordotA_fused X Y _ _ _ hparse]; exact hcm
      · have hneK : (List.range a.ndim).drop (a.ndim - xa.length) ≠ [] := by
          intro e
          have := congrArg List.length e
          have hxl := List.length_pos_iff.mpr hne
          simp at this; omega
        rw [tensordotA_auto_fused X Y _ _ _ hparse hneK]; exact hcm
    have hmodeq : a.tensordotF b (.pair (xa.map Int.ofNat) (xb.map Int.ofNat)) mode
        = (OddposP.mergeOddpos a.parity a.oddpos b.oddpos).map (finish cm) := by
      rw [hcall0, hcall]
      simp only [bind, Except.bind]
      rw [OddposP.resolveCombinedOddpos_eq, P.parity, P.oddposX, P.oddposY]
      rfl
    have hsv' : SameView cm (coreT a b xa xb) := by rw [hcT]; exact hsv
    rw [hmodeq, hbw]
    constructor
    · intro e he; rw [he]; exact ⟨rfl, rfl⟩
    · intro r hr
      rw [hr]
      refine ⟨finish cm r, finish (coreT a b xa xb) r, rfl, rfl, ?_⟩
      obtain ⟨g1, g2, g3, g4, g5, g6⟩ := AssocP.finish_fields cm r
      obtain ⟨k1, k2, k3, k4, k5, k6⟩ := AssocP.finish_fields (coreT a b xa xb) r
      have hSm : Lazy.SignOk cm := ⟨hnd, by rw [hsv'.phases, F.phases]; exact Lazy.PhOk.nil⟩
      have hSb : Lazy.SignOk (coreT a b xa xb) := AssocP.coreFrame_signOk F
      refine ⟨by rw [g6, k6], by rw [g1, k1, hsv'.charge], by rw [g2, k2, hsv'.sym],
        by rw [g3, k3, hsv'.fermi], by rw [g4, k4, hsv'.rank], ?_, by rw [g5]; exact hnd,
        by rw [g4]; rwa [P.freeX, P.freeY] at hframe, ?_, ?_⟩
      · intro s hs; rw [k5] at hs; rw [g5]; exact hsv'.sectors s hs
      · intro K V hl
        rw [AssocP.finish_blocks] at hl
        have := hshape K V hl
        rwa [P.freeX, P.freeY] at this
      · intro K V hl J hJ
        rw [AssocP.finish_blocks] at hl
        rw [AssocP.finish_elem cm r hSm, AssocP.finish_elem _ r hSb, hsv'.elem K V hl J hJ]

open GradedP RoutesP in
/-- transfer step: `tensordotF_modes_all_w` read from a successful fused / auto call, with the same
    element at EVERY sector key and every address of the box the operands' index tables give for
    that key -/
theorem tensordotF_to_blockwise_table [AddCommMonoid R] [Mul R] [Neg R] [SignRing R]
    (hz1 : ∀ x : R, 0 * x = 0) (hz2 : ∀ x : R, x * 0 = 0) (a b rm : Arr R) (xa xb : List Nat)
    (W : AssocP.AdmW a b xa xb) (mode : TdotMode) (hmode : mode = .fused ∨ mode = .auto)
    (hm : a.tensordotF b (.pair (xa.map Int.ofNat) (xb.map Int.ofNat)) mode = .ok rm) :
    ∃ rb, a.tensordotF b (.pair (xa.map Int.ofNat) (xb.map Int.ofNat)) .blockwise = .ok rb
      ∧ rm.oddpos = rb.oddpos ∧ rm.charge = rb.charge ∧ rm.sym = rb.sym ∧ rm.fermi = rb.fermi
      ∧ rm.indices.length = rb.indices.length
      ∧ (∀ s ∈ rb.sectors, s ∈ rm.sectors)
      ∧ (∀ K V, alookup rm.blocks K = some V →
          Arr.blockShape? (without a.indices xa ++ without b.indices xb) K = some V.shape)
      ∧ ∀ s o, inBox (Arr.blockShapeD (without a.indices xa ++ without b.indices xb) s) o = true →
          rm.elem s o = rb.elem s o := by
  obtain ⟨he, hk⟩ := tensordotF_modes_all_w hz1 hz2 a b xa xb W mode hmode
  cases hmo : OddposP.mergeOddpos a.parity a.oddpos b.oddpos with
  | error e => rw [(he e hmo).1] at hm; cases hm
  | ok r =>
    obtain ⟨rm', rb, h1, h2, f1, f2, f3, f4, f5, hsec, _, _, hshape, hel⟩ := hk r hmo
    rw [h1] at hm
    cases hm
    exact ⟨rb, h2, f1, f2, f3, f4, f5, hsec, hshape, fun s o hb =>
      elem_everywhere hsec hel s o (ownBox_of_table hshape s o hb)⟩

end TdotP
end SymmModel
