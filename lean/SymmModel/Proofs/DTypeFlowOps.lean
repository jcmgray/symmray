/-
  SymmModel.Proofs.DTypeFlowOps — the structural operations, fuse / unfuse / reshape, the contractions
  and blockwise arithmetic of the dtype-flow model map uniform operands to uniform results (C20b);
  the other operations are in Proofs/DTypeFlowProg.lean.
-/
import SymmModel.Proofs.DTypeFlowFuse
namespace SymmModel.DFlow
open SymmModel DType

theorem mapSectors_uni {d : DType} {a : DArr} (h : Uni d a.blocks) (f : Sector → Sector) :
    Uni d (a.mapSectors f) :=
  uni_adict (uni_map_key (fun p => f p.1) h)

theorem transposeD_uni {d : DType} {a : DArr} (h : Uni d a.blocks) (axes : List Nat) :
    Uni d (a.transposeD axes).blocks := by
  exact mapSectors_uni h (fun s => permuted s axes)

theorem conjD_uni {d : DType} {a : DArr} (h : Uni d a.blocks) : Uni d a.conjD.blocks := h

theorem daggerD_uni {d : DType} {a : DArr} (h : Uni d a.blocks) : Uni d a.daggerD.blocks := by
  unfold DArr.daggerD
  split
  · exact uni_map_key (fun p => p.1.reverse) h
  · exact transposeD_uni (conjD_uni h) _

theorem squeezeD_uni {d : DType} {a r : DArr} {axis : Option (List Nat)} (h : Uni d a.blocks)
    (hr : a.squeezeD axis = .ok r) : Uni d r.blocks := by
  unfold DArr.squeezeD at hr
  obtain ⟨keep, _, h2⟩ := bind_ok_iff.mp hr
  rw [← pure_ok h2]
  exact mapSectors_uni h (fun s => permuted s keep)

theorem expandDimsD_uni {d : DType} {a : DArr} (h : Uni d a.blocks) (axis : Nat) (c : Option Charge)
    (dual : Option Bool) : Uni d (a.expandDimsD axis c dual).blocks := by
  exact mapSectors_uni h (fun s => s.take axis ++ [c.getD a.sym.zero] ++ s.drop axis)

theorem syncChargesD_uni {d : DType} {a : DArr} (h : Uni d a.blocks) : Uni d a.syncChargesD.blocks := h

theorem fuseCoreD_uni {d : DType} {a : DArr} {groups : List (List Nat)} {mode : FuseMode}
    {r : DArr × Flags} (h : Uni d a.blocks) (hr : a.fuseCoreD groups mode = .ok r) :
    Uni d r.1.blocks ∧ r.2 = Flags.none := by
  unfold DArr.fuseCoreD at hr
  obtain ⟨fi, _, h2⟩ := bind_ok_iff.mp hr
  obtain ⟨b, hb, h3⟩ := bind_ok_iff.mp h2
  rw [← pure_ok h3]
  by_cases hne : a.blocks = []
  · -- no blocks: both strategies return no blocks
    rw [hne] at hb
    cases mode with
    | insert =>
      simp only [fuseBlocksD, fuseInsertD, List.foldlM_nil] at hb
      rw [← pure_ok hb]; exact ⟨uni_nil d, rfl⟩
    | concat =>
      simp only [fuseBlocksD, fuseConcatD, concatGroup, List.foldlM_nil] at hb
      obtain ⟨x, hx, h4⟩ := bind_ok_iff.mp hb
      obtain ⟨g, hg, h5⟩ := bind_ok_iff.mp hx
      rw [← pure_ok hg] at h5
      simp only [List.mapM_nil] at h5
      rw [← pure_ok h4, ← pure_ok h5]; exact ⟨uni_nil d, rfl⟩
  · rw [ex_of_uni h hne] at hb
    exact fuseBlocksD_uni h hb

theorem expandEmptyD_uni {d : DType} {x r : DArr} {expand axes : List Nat} (h : Uni d x.blocks)
    (hr : DArr.expandEmptyD x expand axes = .ok r) : Uni d r.blocks := by
  unfold DArr.expandEmptyD at hr
  split at hr
  · cases hr
  · rw [← pure_ok hr]
    exact foldl_inv (fun (y : DArr) => Uni d y.blocks) _ expand x h (fun _ _ _ hb => expandDimsD_uni hb _ _ _)

theorem expandTailD_uni {d : DType} {xf r : DArr × Flags} {b : Bool} {expand axes : List Nat}
    (hx : Uni d xf.1.blocks ∧ xf.2 = Flags.none) (h2 : DArr.expandTailD xf b expand axes = .ok r) :
    Uni d r.1.blocks ∧ r.2 = Flags.none := by
  unfold DArr.expandTailD at h2
  split at h2
  · obtain ⟨y, hy, h3⟩ := bind_ok_iff.mp h2
    rw [← pure_ok h3]
    exact ⟨expandEmptyD_uni hx.1 hy, hx.2⟩
  · rw [← pure_ok h2]; exact hx

theorem fuseAD_uni {d : DType} {a : DArr} {groups : List (List Nat)} {mode : FuseMode} {ee : Bool}
    {r : DArr × Flags} (h : Uni d a.blocks) (hr : a.fuseAD groups mode ee = .ok r) :
    Uni d r.1.blocks ∧ r.2 = Flags.none := by
  unfold DArr.fuseAD at hr
  obtain ⟨xf, hxf, h2⟩ := bind_ok_iff.mp hr
  have hx : Uni d xf.1.blocks ∧ xf.2 = Flags.none := by
    split at hxf
    · rw [← pure_ok hxf]; exact ⟨h, rfl⟩
    · exact fuseCoreD_uni h hxf
  exact expandTailD_uni hx h2

theorem fuseFD_uni {d : DType} {a : DArr} {groups : List (List Nat)} {mode : FuseMode} {ee : Bool}
    {r : DArr × Flags} (h : Uni d a.blocks) (hr : a.fuseFD groups mode ee = .ok r) :
    Uni d r.1.blocks ∧ r.2 = Flags.none := by
  unfold DArr.fuseFD at hr
  obtain ⟨ng, _, h1⟩ := bind_ok_iff.mp hr
  obtain ⟨xf, hxf, h2⟩ := bind_ok_iff.mp h1
  have hx : Uni d xf.1.blocks ∧ xf.2 = Flags.none := by
    split at hxf
    · rw [← pure_ok hxf]; exact ⟨h, rfl⟩
    · exact fuseCoreD_uni (transposeD_uni h _) hxf
  exact expandTailD_uni hx h2

theorem fuseD_uni {d : DType} {a : DArr} {groups : List (List Nat)} {mode : FuseMode} {ee : Bool}
    {r : DArr × Flags} (h : Uni d a.blocks) (hr : a.fuseD groups mode ee = .ok r) :
    Uni d r.1.blocks ∧ r.2 = Flags.none := by
  unfold DArr.fuseD at hr
  split at hr
  · exact fuseFD_uni h hr
  · exact fuseAD_uni h hr

theorem unfusePieces_uni {subIdx : List Index} {exts : Extents} {axis : Nat} {sb : Sector × DType}
    {pieces : List (Sector × DType)} (h : DArr.unfusePieces subIdx exts axis sb = .ok pieces) :
    Uni sb.2 pieces := by
  unfold DArr.unfusePieces at h
  obtain ⟨ext, _, h2⟩ := bind_ok_iff.mp h
  intro p hp
  obtain ⟨q, _, hq⟩ := mapM_ok_mem _ _ _ h2 p hp
  split at hq
  · rw [← pure_ok hq]
  · cases hq

theorem unfuseD_uni {d : DType} {a r : DArr} {axis : Nat} (h : Uni d a.blocks)
    (hr : a.unfuseD axis = .ok r) : Uni d r.blocks := by
  unfold DArr.unfuseD at hr
  obtain ⟨ix, _, h1⟩ := bind_ok_iff.mp hr
  obtain ⟨sub, _, h2⟩ := bind_ok_iff.mp h1
  obtain ⟨nb, hnb, h3⟩ := bind_ok_iff.mp h2
  rw [← pure_ok h3]
  refine foldlM_ok_inv (fun acc => Uni d acc) _ a.blocks [] nb (uni_nil d) ?_ hnb
  intro acc sb acc' hsb hacc hstep
  obtain ⟨pieces, hp, h4⟩ := bind_ok_iff.mp hstep
  rw [← pure_ok h4]
  have hpu := unfusePieces_uni hp
  rw [h sb hsb] at hpu
  exact uni_foldl_ainsert pieces acc hacc hpu

theorem unfuseAllD_uni {d : DType} {a r : DArr} (h : Uni d a.blocks)
    (hr : a.unfuseAllD = .ok r) : Uni d r.blocks := by
  unfold DArr.unfuseAllD at hr
  refine foldlM_ok_inv (fun (x : DArr) => Uni d x.blocks) _ _ a r h ?_ hr
  intro x ax x' _ hx hstep
  split at hstep
  · split at hstep
    · exact unfuseD_uni hx hstep
    · rw [← pure_ok hstep]; exact hx
  · rw [← pure_ok hstep]; exact hx

theorem reshapeD_uni {d : DType} {a : DArr} {ns : List Int} {r : DArr × Flags} (h : Uni d a.blocks)
    (hr : a.reshapeD ns = .ok r) : Uni d r.1.blocks ∧ r.2 = Flags.none := by
  unfold DArr.reshapeD at hr
  obtain ⟨full, _, h1⟩ := bind_ok_iff.mp hr
  obtain ⟨ns', _, h2⟩ := bind_ok_iff.mp h1
  obtain ⟨plan, _, h3⟩ := bind_ok_iff.mp h2
  obtain ⟨x, hx, h4⟩ := bind_ok_iff.mp h3
  obtain ⟨xf, hxf, h5⟩ := bind_ok_iff.mp h4
  obtain ⟨y, hy, h6⟩ := bind_ok_iff.mp h5
  rw [← pure_ok h6]
  have hxu : Uni d x.blocks :=
    foldlM_ok_inv (fun (x : DArr) => Uni d x.blocks) _ _ a x h
      (fun b ax b' _ hb hs => unfuseD_uni hb hs) hx
  have hxfu : Uni d xf.1.blocks ∧ xf.2 = Flags.none := by
    refine foldlM_ok_inv (fun (x : DArr × Flags) => Uni d x.1.blocks ∧ x.2 = Flags.none) _ _ (x, Flags.none) xf
      ⟨hxu, rfl⟩ ?_ hxf
    intro b g b' _ hb hs
    obtain ⟨q, hq, h7⟩ := bind_ok_iff.mp hs
    rw [← pure_ok h7]
    obtain ⟨hq1, hq2⟩ := fuseD_uni hb.1 hq
    exact ⟨hq1, by rw [hb.2, hq2]; rfl⟩
  refine ⟨?_, hxfu.2⟩
  refine foldlM_ok_inv (fun (x : DArr) => Uni d x.blocks) _ _ xf.1 y hxfu.1 ?_ hy
  intro b ax b' _ hb hs
  unfold DArr.expandDispatchD at hs
  split at hs
  · cases hs
  · rw [← pure_ok hs]; exact expandDimsD_uni hb _ _ _

theorem accumPromote_uni {d : DType} {pairs : List (Sector × DType)} (h : Uni d pairs) :
    Uni d (accumPromote pairs) := by
  refine foldl_inv (Uni d) _ pairs [] (uni_nil d) (fun acc p hp ha => ?_)
  split
  · exact uni_append ha (fun q hq => by rw [List.mem_singleton.mp hq]; exact h p hp)
  · rename_i cur hl
    exact uni_ainsert ha (eq_closed d _ _ (uni_alookup ha hl) (h p hp))

theorem tdotPairs_uni {d : DType} {a b : DArr} (ha : Uni d a.blocks) (hb : Uni d b.blocks)
    (l xa xb r : List Nat) : Uni d (tdotPairs a b l xa xb r) := by
  intro p hp
  unfold tdotPairs at hp
  obtain ⟨pa, hpa, hp2⟩ := List.mem_flatMap.mp hp
  obtain ⟨pb, hpb, rfl⟩ := List.mem_map.mp hp2
  have hpb' := (List.mem_filter.mp hpb).1
  simp only [ha pa hpa, hb pb hpb', C20.promote_self]

theorem tensordotBlockwiseD_uni {d : DType} {a b : DArr} (ha : Uni d a.blocks) (hb : Uni d b.blocks)
    (l xa xb r : List Nat) : Uni d (tensordotBlockwiseD a b l xa xb r).blocks :=
  accumPromote_uni (tdotPairs_uni ha hb l xa xb r)

theorem dropMisalignedD_uni {d : DType} {a b : DArr} (ha : Uni d a.blocks) (hb : Uni d b.blocks)
    (xa xb : List Nat) :
    Uni d (dropMisalignedD a b xa xb).1.blocks ∧ Uni d (dropMisalignedD a b xa xb).2.blocks :=
  ⟨uni_filter _ ha, uni_filter _ hb⟩

theorem tensordotViaFusedD_uni {d : DType} {a b : DArr} {l xa xb r : List Nat} {res : DArr × Flags}
    (ha : Uni d a.blocks) (hb : Uni d b.blocks) (h : tensordotViaFusedD a b l xa xb r = .ok res) :
    Uni d res.1.blocks ∧ res.2 = Flags.none := by
  unfold tensordotViaFusedD at h
  obtain ⟨ha', hb'⟩ := dropMisalignedD_uni ha hb xa xb
  generalize dropMisalignedD a b xa xb = ab at h ha' hb'
  simp only at h
  split at h
  · rw [← pure_ok h]; exact ⟨uni_nil d, rfl⟩
  · obtain ⟨af, haf, h1⟩ := bind_ok_iff.mp h
    obtain ⟨bf, hbf, h2⟩ := bind_ok_iff.mp h1
    obtain ⟨hau, haf2⟩ := fuseAD_uni ha' haf
    obtain ⟨hbu, hbf2⟩ := fuseAD_uni hb' hbf
    obtain ⟨c1, hc1, h3⟩ := bind_ok_iff.mp h2
    obtain ⟨c2, hc2, h4⟩ := bind_ok_iff.mp h3
    rw [← pure_ok h4, haf2, hbf2]
    refine ⟨?_, rfl⟩
    have hc1u : Uni d c1.blocks := by
      split at hc1
      · exact unfuseD_uni (tensordotBlockwiseD_uni hau hbu _ _ _ _) hc1
      · rw [← pure_ok hc1]; exact tensordotBlockwiseD_uni hau hbu _ _ _ _
    split at hc2
    · exact unfuseD_uni hc1u hc2
    · rw [← pure_ok hc2]; exact hc1u

theorem tensordotAD_uni {d : DType} {a b : DArr} {axes : AxesArg} {mode : TdotMode} {res : DArr × Flags}
    (ha : Uni d a.blocks) (hb : Uni d b.blocks) (h : tensordotAD a b axes mode = .ok res) :
    Uni d res.1.blocks ∧ res.2 = Flags.none := by
  unfold tensordotAD at h
  obtain ⟨ax, _, h1⟩ := bind_ok_iff.mp h
  simp only at h1
  split at h1
  · exact tensordotViaFusedD_uni ha hb h1
  · rw [← pure_ok h1]; exact ⟨tensordotBlockwiseD_uni ha hb _ _ _ _, rfl⟩

theorem tensordotD_uni {d : DType} {a b : DArr} {axes : AxesArg} {mode : TdotMode} {res : DArr × Flags}
    (ha : Uni d a.blocks) (hb : Uni d b.blocks) (h : tensordotD a b axes mode = .ok res) :
    Uni d res.1.blocks ∧ res.2 = Flags.none := by
  unfold tensordotD at h
  split at h
  · unfold tensordotFD at h
    obtain ⟨ax, _, h1⟩ := bind_ok_iff.mp h
    exact tensordotAD_uni (transposeD_uni ha _) (transposeD_uni hb _) h1
  · exact tensordotAD_uni ha hb h

theorem matmulD_uni {d : DType} {a b r : DArr} (ha : Uni d a.blocks) (hb : Uni d b.blocks)
    (h : matmulD a b = .ok r) : Uni d r.blocks := by
  unfold matmulD at h
  split at h
  · rw [← pure_ok h]; exact tensordotBlockwiseD_uni ha hb _ _ _ _
  · rw [← pure_ok h]; exact tensordotBlockwiseD_uni ha hb _ _ _ _
  · rw [← pure_ok h]; exact tensordotBlockwiseD_uni ha hb _ _ _ _
  · rw [← pure_ok h]; exact tensordotBlockwiseD_uni ha hb _ _ _ _
  · split at h <;> cases h

theorem multiplyDiagonalD_uni {d : DType} {a : DArr} {v : DVec} (ha : Uni d a.blocks)
    (hv : UniW d v.blocks) (axis : Nat) : Uni d (multiplyDiagonalD a v axis).blocks := by
  intro p hp
  unfold multiplyDiagonalD at hp
  obtain ⟨q, hq, hfq⟩ := List.mem_filterMap.mp hp
  split at hfq
  · rename_i vd hl
    injection hfq with hfq
    rw [← hfq]
    simp only [ha q hq]
    exact promote_within_right (uniW_alookup hv hl)
  · cases hfq

theorem einsumBlocks_uni {d : DType} {blocks : DBlocks} (h : Uni d blocks) (traced : List (List Nat))
    (perm : List Nat) : Uni d (einsumBlocks blocks traced perm) := by
  refine foldl_inv (Uni d) _ blocks [] (uni_nil d) (fun acc sb hsb ha => ?_)
  split
  · dsimp only
    split
    · rename_i cur hl
      exact uni_ainsert ha (eq_closed d _ _ (uni_alookup ha hl) (h sb hsb))
    · exact uni_append ha (fun q hq => by rw [List.mem_singleton.mp hq]; exact h sb hsb)
  · exact ha

theorem einsumAD_uni {d : DType} {a r : DArr} {lhs rhs : List Nat} (ha : Uni d a.blocks)
    (h : einsumAD a lhs rhs = .ok r) : Uni d r.blocks := by
  unfold einsumAD at h
  obtain ⟨perm, _, h1⟩ := bind_ok_iff.mp h
  split at h1
  · cases h1
  · rw [← pure_ok h1]; exact einsumBlocks_uni ha _ _

theorem einsumD_uni {d : DType} {a r : DArr} {lhs rhs : List Nat} (ha : Uni d a.blocks)
    (h : einsumD a lhs rhs = .ok r) : Uni d r.blocks := by
  unfold einsumD at h
  split at h
  · unfold einsumFD at h
    split at h
    · cases h
    · exact einsumAD_uni (transposeD_uni ha _) h
  · exact einsumAD_uni ha h

/-- every block of the result is a block of an operand or the promotion of one block of each: any
    property of dtypes that `promote` preserves passes from the operands to the result -/
theorem binaryD_forall {κ : Type} [BEq κ] {P : DType → Prop} (hP : ∀ a b, P a → P b → P (promote a b))
    {m : Missing} {x y r : List (κ × DType)} (hx : ∀ p ∈ x, P p.2) (hy : ∀ p ∈ y, P p.2)
    (h : binaryD m x y = .ok r) : ∀ p ∈ r, P p.2 := by
  have hlook : ∀ {k e}, alookup y k = some e → P e := fun hl => by
    obtain ⟨k', hk⟩ := alookup_mem hl
    exact hy _ hk
  have hmap : ∀ p ∈ x.map (fun p => match alookup y p.1 with
      | some e => (p.1, promote p.2 e)
      | none => p), P p.2 := by
    intro p hp
    obtain ⟨q, hq, rfl⟩ := List.mem_map.mp hp
    split
    · rename_i e hl; exact hP _ _ (hx q hq) (hlook hl)
    · exact hx q hq
  unfold binaryD at h
  cases m with
  | strict =>
    simp only at h
    split at h
    · cases h
    · split at h
      · cases h
      · rw [← pure_ok h]; exact hmap
  | outer =>
    simp only at h
    rw [← pure_ok h]
    intro p hp
    rcases List.mem_append.mp hp with hp | hp
    · exact hmap p hp
    · exact hy p (List.mem_filter.mp hp).1
  | inner =>
    simp only at h
    rw [← pure_ok h]
    intro p hp
    obtain ⟨q, hq, hfq⟩ := List.mem_filterMap.mp hp
    split at hfq
    · rename_i e hl
      injection hfq with hfq
      rw [← hfq]; exact hP _ _ (hx q hq) (hlook hl)
    · cases hfq

theorem binaryD_uniW {κ : Type} [BEq κ] {d : DType} {m : Missing} {x y r : List (κ × DType)}
    (hx : UniW d x) (hy : UniW d y) (h : binaryD m x y = .ok r) : UniW d r :=
  binaryD_forall (P := Within d) (fun _ _ => within_promote) hx hy h

theorem binaryD_uni {κ : Type} [BEq κ] {d : DType} {m : Missing} {x y r : List (κ × DType)}
    (hx : Uni d x) (hy : Uni d y) (h : binaryD m x y = .ok r) : Uni d r :=
  binaryD_forall (eq_closed d) hx hy h

theorem binopD_uni {d : DType} {m : Missing} {a b r : DArr} (ha : Uni d a.blocks) (hb : Uni d b.blocks)
    (h : binopD m a b = .ok r) : Uni d r.blocks := by
  unfold binopD at h
  obtain ⟨bl, hbl, h1⟩ := bind_ok_iff.mp h
  rw [← pure_ok h1]; exact binaryD_uni ha hb hbl

end SymmModel.DFlow
