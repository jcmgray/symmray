/-
  SymmModel.Proofs.NormNet7 — network form of the norm (property C10), part 7:
  geometry of the tensor-by-tensor routes: the axes lists of the calls.
-/
import SymmModel.Proofs.NormNet6
import SymmModel.Proofs.Assoc2Main
namespace SymmModel.NormNet
open SymmModel SymmModel.TdotP SymmModel.GradedP SymmModel.RoutesP
set_option linter.unusedSectionVars false

section geom

theorem freeAxes_prefix (m k : Nat) : freeAxes (m + k) (List.range m) = (List.range k).map (m + ·) := by
  rw [freeAxes_range (m + k) m (Nat.le_add_right _ _), drop_range_eq_map (m + k) m (Nat.le_add_right _ _),
    Nat.add_sub_cancel_left]

theorem freeAxes_all (n : Nat) (l : List Nat) (h : ∀ i, i < n → i ∈ l) : freeAxes n l = [] := by
  apply List.eq_nil_iff_forall_not_mem.mpr
  intro x hx
  obtain ⟨h1, h2⟩ := mem_freeAxes.mp hx
  exact h2 (h x h1)

theorem perm_range_lt {u : List Nat} {n : Nat} (h : u.Perm (List.range n)) : ∀ i ∈ u, i < n :=
  fun _ hi => List.mem_range.mp (h.mem_iff.mp hi)

theorem perm_range_nodup {u : List Nat} {n : Nat} (h : u.Perm (List.range n)) : u.Nodup :=
  h.nodup_iff.mpr List.nodup_range

theorem freeAxes_of_perm {u : List Nat} {n : Nat} (h : u.Perm (List.range n)) : freeAxes n u = [] :=
  freeAxes_all n u (fun _ hi => h.mem_iff.mpr (List.mem_range.mpr hi))

theorem range_split (m k : Nat) : List.range m ++ (List.range k).map (m + ·) = List.range (m + k) :=
  List.range_add.symm

/-- with `B`'s legs split as (dangling `fA`, bond `xa`) and `C`'s as (bond `xb`, dangling `fB`), the
    axes of `B·C` that meet the contracted other half are all axes, in order -/
theorem axesBC_all (nB nC : Nat) (xa xb : List Nat) :
    Assoc2P.axesBC nB nC (freeAxes nB xa) xa xb (freeAxes nC xb)
      = List.range ((freeAxes nB xa).length + (freeAxes nC xb).length) := by
  unfold Assoc2P.axesBC
  rw [positions_self _ (freeAxes_nodup nB xa), positions_self _ (freeAxes_nodup nC xb), range_split]

end geom

end SymmModel.NormNet
