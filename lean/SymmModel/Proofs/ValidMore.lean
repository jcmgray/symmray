/-
  SymmModel.Proofs.ValidMore — property C01 for `sync_charges`, `drop_misaligned_sectors`,
  `multiply_diagonal`, blockwise arithmetic (`_binary_blockwise_op`) and the two operations that
  re-key sectors through `_map_blocks`, `expand_dims` and `squeeze`.  The fermionic `_map_blocks`
  discards the sign entries that have no stored block, so `squeeze` needs nothing of the sign
  table beyond validity (`squeeze_valid_any_phases`); on a fermionic array `expand_dims` with an
  explicit charge needs that charge to have even parity (`expandDims_some_valid`).
-/
import SymmModel.Proofs.ValidTdot
import SymmModel.Proofs.SpecMulDiag

namespace SymmModel
namespace ValidP
open Sym

variable {R : Type}

theorem signsOk_dropUnused {sym : Sym} {fermi : Bool} {idx : List Index} {ch : Charge}
    {ph : List (Sector × Int)} {op : List (Int × Bool)} (secs : List Sector)
    (h : SignsOk sym fermi idx ch ph op) : SignsOk sym fermi (dropUnused idx secs) ch ph op := by
  cases fermi
  · exact signsOk_abelian.mpr (signsOk_abelian.mp h)
  · have h := signsOk_fermi.mp h
    exact signsOk_fermi.mpr ⟨phasesOk_retarget h.1 (fun s hs => secOk_dropUnused secs hs), h.2⟩

/-- the common shape of `sync_charges` (`p` constantly true) and of each half of
    `drop_misaligned_sectors`, on the sign-free clauses -/
theorem core_filter_drop (a : Arr R) (hv : Core a) (p : Sector × Blk R → Bool) :
    Core { a with blocks := a.blocks.filter p,
                  indices := dropUnused a.indices ((a.blocks.filter p).map (·.1)) } := by
  refine ⟨dropUnused_wf _ hv.idx, hv.chg, ?_, ?_⟩
  · exact List.Nodup.sublist (List.Sublist.map _ List.filter_sublist) hv.nodup
  · intro sb hsb
    obtain ⟨h1, h2, h3⟩ := hv.blk sb (List.mem_filter.mp hsb).1
    refine ⟨secOk_dropUnused _ h1, ?_, h3⟩
    show Arr.blockShape? (dropUnused a.indices _) sb.1 = some sb.2.shape
    rw [dropUnused_blockShape _ _ _ (List.mem_map.mpr ⟨sb, hsb, rfl⟩)]
    exact h2

theorem valid_filter_drop (a : Arr R) (hv : Valid a) (p : Sector × Blk R → Bool) :
    Valid { a with blocks := a.blocks.filter p,
                   indices := dropUnused a.indices ((a.blocks.filter p).map (·.1)) } :=
  Valid.of (core_filter_drop a hv.core p) (signsOk_dropUnused _ hv.sgn)

theorem syncCharges_eq (a : Arr R) :
    a.syncCharges = { a with indices := dropUnused a.indices a.sectors } := rfl

theorem syncCharges_valid (a : Arr R) (hv : Valid a) : Valid a.syncCharges := by
  rw [syncCharges_eq]
  have := valid_filter_drop a hv (fun _ => true)
  simp only [List.filter_true] at this
  exact this

theorem dropMisaligned_valid (a b : Arr R) (axesA axesB : List Nat) (ha : Valid a) (hb : Valid b) :
    Valid (dropMisaligned a b axesA axesB).1 ∧ Valid (dropMisaligned a b axesA axesB).2 := by
  unfold dropMisaligned
  exact ⟨valid_filter_drop a ha _, valid_filter_drop b hb _⟩

theorem filterMap_keys_sublist {β γ : Type} (f : Sector × β → Option (Sector × γ))
    (hf : ∀ x y, f x = some y → y.1 = x.1) (l : List (Sector × β)) :
    ((l.filterMap f).map (·.1)).Sublist (l.map (·.1)) := by
  induction l with
  | nil => simp
  | cons x l ih =>
    rw [List.filterMap_cons]
    cases hx : f x with
    | none => simp only [List.map_cons]; exact ih.cons _
    | some y =>
      simp only [List.map_cons]
      rw [hf x y hx]
      exact ih.cons₂ _

theorem multiplyDiagonal_valid [Zero R] [Mul R] (a : Arr R) (v : BVec R) (axis : Nat)
    (hv : Valid a) : Valid (multiplyDiagonal a v axis) := by
  have hb := multiplyDiagonal_blocks a v axis
  refine ⟨hv.idx, hv.chg, ?_, ?_, hv.sgn⟩
  · rw [hb]
    refine List.Nodup.sublist (filterMap_keys_sublist _ ?_ a.blocks) hv.nodup
    intro x y hy
    cases hl : alookup v.blocks (x.1.getD axis (0, 0)) <;> rw [hl] at hy <;> cases hy
    rfl
  · intro sb hsb
    rw [hb] at hsb
    obtain ⟨x, h0, h1⟩ := List.mem_filterMap.mp hsb
    cases hl : alookup v.blocks (x.1.getD axis (0, 0)) <;> rw [hl] at h1 <;> cases h1
    obtain ⟨a1, a2, _⟩ := hv.blk x h0
    exact ⟨a1, a2, ofFn_wf _ _⟩

/-- the kernel of a blockwise binary operation keeps the common shape (numpy `a op b`) -/
def ShapePreserving (fn : Blk R → Blk R → Blk R) : Prop :=
  ∀ x y : Blk R, x.shape = y.shape → x.wf = true → y.wf = true →
    (fn x y).shape = x.shape ∧ (fn x y).wf = true

theorem zipWith_shapePreserving [Zero R] (f : R → R → R) : ShapePreserving (Blk.zipWith f) :=
  fun _ _ _ _ _ => ⟨rfl, ofFn_wf _ _⟩

/-- blockwise arithmetic: the second operand only has to fit the first one's tables -/
theorem binaryBlockwise_valid_of_blocks (fn : Blk R → Blk R → Blk R) (hfn : ShapePreserving fn)
    (missing : Missing) (x : Arr R) (yblocks r : List (Sector × Blk R))
    (hx : Valid x) (hynodup : (yblocks.map (·.1)).Nodup)
    (hyblk : ∀ sb ∈ yblocks, BlockOk x.sym x.indices x.charge sb)
    (h : binaryBlockwise fn missing x.blocks yblocks = .ok r) :
    Valid { x with blocks := r } := by
  have hone : ∀ (k : Sector) (bx : Blk R), (k, bx) ∈ x.blocks →
      BlockOk x.sym x.indices x.charge
        (match alookup yblocks k with
          | some b => (k, fn bx b)
          | none => (k, bx)) := by
    intro k bx hk
    obtain ⟨a1, a2, a3⟩ := hx.blk (k, bx) hk
    split
    · rename_i b hb
      obtain ⟨b1, b2, b3⟩ := hyblk (k, b) (alookup_some_mem hb)
      have hsh : bx.shape = b.shape := by
        have := a2.symm.trans b2
        simpa using this
      obtain ⟨c1, c2⟩ := hfn bx b hsh a3 b3
      exact ⟨a1, by simp only [c1]; exact a2, c2⟩
    · exact ⟨a1, a2, a3⟩
  cases missing with
  | strict =>
    simp only [binaryBlockwise] at h
    split at h
    · cases h
    · split at h
      · cases h
      · simp only [pure, Except.pure, Except.ok.injEq] at h
        subst h
        refine ⟨hx.idx, hx.chg, ?_, ?_, hx.sgn⟩
        · show (List.map (fun p : Sector × Blk R => p.1) (x.blocks.map _)).Nodup
          rw [keys_map_of _ _ (by rintro ⟨k, bx⟩ _; simp only; split <;> rfl)]; exact hx.nodup
        · intro sb hsb
          obtain ⟨⟨k, bx⟩, h0, rfl⟩ := List.mem_map.mp hsb
          exact hone k bx h0
  | outer =>
    simp only [binaryBlockwise, pure, Except.pure, Except.ok.injEq] at h
    subst h
    refine ⟨hx.idx, hx.chg, ?_, ?_, hx.sgn⟩
    · show (List.map (fun p : Sector × Blk R => p.1) (x.blocks.map _ ++ yblocks.filter _)).Nodup
      rw [List.map_append, keys_map_of _ _ (by rintro ⟨k, bx⟩ _; simp only; split <;> rfl)]
      refine List.nodup_append.mpr ⟨hx.nodup, ?_, ?_⟩
      · exact List.Nodup.sublist (List.Sublist.map _ List.filter_sublist) hynodup
      · intro k hk k' hk' hkk
        subst hkk
        obtain ⟨⟨k2, b2⟩, hm, rfl⟩ := List.mem_map.mp hk'
        have hnone := (List.mem_filter.mp hm).2
        simp only [Option.isNone_iff_eq_none] at hnone
        exact (alookup_eq_none_iff.mp hnone) hk
    · intro sb hsb
      rcases List.mem_append.mp hsb with h1 | h1
      · obtain ⟨⟨k, bx⟩, h0, rfl⟩ := List.mem_map.mp h1
        exact hone k bx h0
      · exact hyblk sb (List.mem_filter.mp h1).1
  | inner =>
    simp only [binaryBlockwise, pure, Except.pure, Except.ok.injEq] at h
    subst h
    refine ⟨hx.idx, hx.chg, ?_, ?_, hx.sgn⟩
    · refine List.Nodup.sublist (filterMap_keys_sublist _ ?_ x.blocks) hx.nodup
      rintro ⟨k, bx⟩ z hz
      simp only at hz
      split at hz
      · cases hz; rfl
      · cases hz
    · intro sb hsb
      obtain ⟨⟨k, bx⟩, h0, h1⟩ := List.mem_filterMap.mp hsb
      simp only at h1
      split at h1
      · rename_i b hb
        cases h1
        have := hone k bx h0
        rw [hb] at this
        exact this
      · cases h1

theorem binaryBlockwise_valid (fn : Blk R → Blk R → Blk R) (hfn : ShapePreserving fn)
    (missing : Missing) (x y : Arr R) (r : List (Sector × Blk R))
    (hx : Valid x) (hy : Valid y) (hsym : y.sym = x.sym) (hidx : y.indices = x.indices)
    (hch : y.charge = x.charge)
    (h : binaryBlockwise fn missing x.blocks y.blocks = .ok r) :
    Valid { x with blocks := r } := by
  apply binaryBlockwise_valid_of_blocks fn hfn missing x y.blocks r hx hy.nodup _ h
  intro sb hsb
  have := hy.blk sb hsb
  rw [hsym, hidx, hch] at this
  exact this

/-- the direction `expand_dims` picks (copy of the model text) -/
def expandDual (a : Arr R) (axis : Nat) (dual : Option Bool) : Bool :=
  match dual with
  | some d => d
  | none =>
    if axis > 0 then (a.indices.getD (axis - 1) default).dual
    else if axis < a.ndim then (a.indices.getD axis default).dual
    else false

/-- `_map_blocks` keeps only the sign entries of stored blocks -/
theorem phasesOk_filter {sym : Sym} {idx : List Index} {ch : Charge} {ph : List (Sector × Int)}
    (p : Sector × Int → Bool) (h : PhasesOk sym idx ch ph) : PhasesOk sym idx ch (ph.filter p) :=
  ⟨List.Nodup.sublist (List.Sublist.map _ List.filter_sublist) h.1,
   fun sp hsp => h.2 sp (List.mem_filter.mp hsp).1⟩

/-- `expand_dims` with the inserted charge, direction and new total charge made explicit -/
def expandWith (a : Arr R) (axis : Nat) (c : Charge) (d : Bool) (newCharge : Charge) : Arr R :=
  let a' := a.mapBlocks (fun s => s.take axis ++ [c] ++ s.drop axis) (fun b => b.expandK axis)
  { a' with indices := a.indices.take axis ++ [Index.mk [(c, 1)] d none] ++ a.indices.drop axis,
            charge := newCharge }

theorem expandDims_none (a : Arr R) (axis : Nat) (dual : Option Bool) :
    a.expandDims axis none dual = expandWith a axis a.sym.zero (expandDual a axis dual) a.charge := rfl

theorem expandDims_some (a : Arr R) (axis : Nat) (c : Charge) (dual : Option Bool) :
    a.expandDims axis (some c) dual = expandWith a axis c (expandDual a axis dual)
      (a.sym.combine [a.charge, a.sym.sign c (expandDual a axis dual)]) := rfl

theorem expandWith_valid (a : Arr R) (axis : Nat) (c : Charge) (d : Bool) (newCharge : Charge)
    (hv : Valid a) (hc : a.sym.valid c = true)
    (hnew : newCharge = a.sym.combine [a.charge, a.sym.sign c d])
    (hpar : a.fermi = false ∨ a.sym.parity newCharge = a.sym.parity a.charge) :
    Valid (expandWith a axis c d newCharge) := by
  have hsec : ∀ s, SecOk a.sym a.indices a.charge s →
      SecOk a.sym (a.indices.take axis ++ [Index.mk [(c, 1)] d none] ++ a.indices.drop axis)
        newCharge (s.take axis ++ [c] ++ s.drop axis) := by
    intro s hs
    rw [hnew]
    exact secOk_insert axis (Index.mk [(c, 1)] d none) c hs
  unfold expandWith Arr.mapBlocks
  refine ⟨?_, ?_, adict_keys_nodup _, ?_, ?_⟩
  · intro i hi
    simp only [List.append_assoc, List.mem_append, List.mem_cons, List.not_mem_nil, or_false] at hi
    rcases hi with hi | rfl | hi
    · exact hv.idx i (List.mem_of_mem_take hi)
    · refine (wfB_none _ _ _).mpr ⟨by simp [isSortedStrict], ?_⟩
      intro p hp
      simp only [List.mem_singleton] at hp
      subst hp
      exact ⟨Nat.one_pos, hc⟩
    · exact hv.idx i (List.mem_of_mem_drop hi)
  · show a.sym.valid newCharge = true
    rw [hnew]; exact Sym.combine_valid _ _
  · intro sb hsb
    obtain ⟨⟨s, b⟩, h0, rfl⟩ := List.mem_map.mp (mem_adict hsb)
    obtain ⟨a1, a2, a3⟩ := hv.blk (s, b) h0
    refine ⟨hsec s a1, ?_, expandK_wf b axis a3⟩
    exact blockShape?_insert axis (Index.mk [(c, 1)] d none) c 1
      (by simp [Index.sizeOf?, Index.cm, alookup]) a2
  · have hs := hv.sgn
    unfold SignsOk at hs ⊢
    show if a.fermi = true then _ else _
    split
    · rename_i hf
      simp only [hf, if_true] at hs ⊢
      refine ⟨?_, ?_⟩
      · have := phasesOk_adict_map (fun s => s.take axis ++ [c] ++ s.drop axis)
          (phasesOk_filter (fun sp => (alookup a.blocks sp.1).isSome) hs.1) hsec
        exact this
      · show ((a.oddpos.length % 2 == 1) = a.sym.parity newCharge)
        rcases hpar with h | h
        · rw [hf] at h; cases h
        · rw [h]; exact hs.2
    · rename_i hf
      simp only [hf, if_false] at hs ⊢
      exact hs

theorem expandDims_none_valid (a : Arr R) (axis : Nat) (dual : Option Bool) (hv : Valid a) :
    Valid (a.expandDims axis none dual) := by
  rw [expandDims_none]
  apply expandWith_valid a axis _ _ _ hv (zero_valid _)
  · rw [sign_zero, Sym.combine_zero_right _ _ hv.chg]
  · exact Or.inr rfl

theorem expandDims_some_valid (a : Arr R) (axis : Nat) (c : Charge) (dual : Option Bool)
    (hv : Valid a) (hc : a.sym.valid c = true)
    (hpar : a.fermi = false ∨ a.sym.parity c = false) :
    Valid (a.expandDims axis (some c) dual) := by
  rw [expandDims_some]
  apply expandWith_valid a axis _ _ _ hv hc rfl
  rcases hpar with h | h
  · exact Or.inl h
  · right
    rw [Sym.parity_combine_pair, Sym.parity_sign, h]
    simp

/-- a `for` loop over `l` whose body never breaks, in the `Except` monad: an invariant `I pre b` of the
    elements already visited and the state, kept by every step on a member of `l`, holds at the
    end for the whole list -/
theorem forIn_yield_inv_mem {α β ε : Type} (f : α → β → Except ε (ForInStep β))
    (I : List α → β → Prop) (l : List α)
    (hstep : ∀ pre x b r, x ∈ l → I pre b → f x b = .ok r → ∃ b', r = .yield b' ∧ I (pre ++ [x]) b') :
    ∀ (pre : List α) (b r : β), I pre b → forIn l b f = .ok r → I (pre ++ l) r := by
  suffices H : ∀ (l' : List α), (∀ x ∈ l', x ∈ l) → ∀ (pre : List α) (b r : β), I pre b →
      forIn l' b f = .ok r → I (pre ++ l') r from H l (fun _ h => h)
  intro l'
  induction l' with
  | nil =>
    intro _ pre b r hI h
    simp only [List.forIn_nil, pure, Except.pure, Except.ok.injEq] at h
    subst h; simpa using hI
  | cons x xs ih =>
    intro hsub pre b r hI h
    rw [List.forIn_cons] at h
    cases hfx : f x b with
    | error e => rw [hfx] at h; cases h
    | ok st =>
      rw [hfx] at h
      obtain ⟨b', rfl, hI'⟩ := hstep pre x b st (hsub x (by simp)) hI hfx
      have := ih (fun y hy => hsub y (by simp [hy])) (pre ++ [x]) b' r hI' h
      simpa using this

theorem forIn_yield_inv {α β ε : Type} (f : α → β → Except ε (ForInStep β))
    (I : List α → β → Prop)
    (hstep : ∀ pre x b r, I pre b → f x b = .ok r → ∃ b', r = .yield b' ∧ I (pre ++ [x]) b')
    (l pre : List α) (b r : β) : I pre b → forIn l b f = .ok r → I (pre ++ l) r :=
  forIn_yield_inv_mem f I l (fun pre x b r _ => hstep pre x b r) pre b r

/-- the `remove` flag of the loop of `Arr.squeeze`, its error exits aside -/
def sqRemove (axis : Option (List Nat)) (p : Index × Nat) : Bool :=
  match axis with
  | none => p.1.sizeTotal == 1
  | some axs => axs.contains p.2

/-- invariant of the loop of `Arr.squeeze` after the indices `pre`: `keep` lists the positions not
    removed; a removed index holds the zero charge only, with size at most one -/
def SqInv (sym : Sym) (axis : Option (List Nat)) (pre : List (Index × Nat)) (keep : List Nat) : Prop :=
  keep = (pre.filter (fun p => !sqRemove axis p)).map (·.2)
  ∧ ∀ p ∈ pre, sqRemove axis p = true → ∃ d, p.1.cm = [(sym.zero, d)] ∧ d ≤ 1

theorem squeeze_inv (a : Arr R) (axis : Option (List Nat)) (r : Arr R)
    (h : a.squeeze axis = .ok r) :
    ∃ keep, SqInv a.sym axis a.indices.zipIdx keep
      ∧ r = { (a.mapBlocks (fun s => permuted s keep) (fun b => b.squeezeK keep)) with
              indices := permuted a.indices keep } := by
  unfold Arr.squeeze at h
  simp only [bind, Except.bind] at h
  split at h
  · cases h
  · rename_i keep hloop
    simp only [pure, Except.pure, Except.ok.injEq] at h
    refine ⟨keep, ?_, h.symm⟩
    have := forIn_yield_inv _ (SqInv a.sym axis) ?_ a.indices.zipIdx [] [] keep
      ⟨by simp, by simp⟩ hloop
    · simpa using this
    · rintro pre ⟨ix, ax⟩ b st ⟨hb1, hb2⟩ hst
      simp only at hst
      -- the join point, for a decided `remove`
      have hjp : ∀ remove : Bool, remove = sqRemove axis (ix, ax) →
          (remove = true → ix.sizeTotal ≤ 1) →
          (if remove = true then
              match ix.cm with
              | [(c, _)] =>
                if (c != a.sym.zero) = true then do
                  (throw Err.value : Except Err PUnit)
                  pure (ForInStep.yield b)
                else pure (ForInStep.yield b)
              | _ => do
                (throw Err.value : Except Err PUnit)
                pure (ForInStep.yield b)
            else pure (ForInStep.yield (b ++ [ax]))) = Except.ok st →
          ∃ b', st = ForInStep.yield b' ∧ SqInv a.sym axis (pre ++ [(ix, ax)]) b' := by
        intro remove hrem hsz hres
        split at hres
        · rename_i hr
          have hr' : sqRemove axis (ix, ax) = true := by rw [← hrem]; exact hr
          split at hres
          · rename_i c d hcm
            split at hres
            · cases hres
            · rename_i hne
              simp only [pure, Except.pure, Except.ok.injEq] at hres
              refine ⟨b, hres.symm, ?_, ?_⟩
              · rw [List.filter_append, List.map_append, ← hb1]
                simp [hr']
              · intro p hp hpr
                rcases List.mem_append.mp hp with hp | hp
                · exact hb2 p hp hpr
                · simp only [List.mem_singleton] at hp
                  subst hp
                  have : c = a.sym.zero := by simpa using hne
                  subst this
                  refine ⟨d, hcm, ?_⟩
                  have := hsz hr
                  simpa [Index.sizeTotal, hcm, sumN] using this
          · cases hres
        · rename_i hr
          have hr' : sqRemove axis (ix, ax) = false := by
            rw [← hrem]; simpa using hr
          simp only [pure, Except.pure, Except.ok.injEq] at hres
          refine ⟨b ++ [ax], hres.symm, ?_, ?_⟩
          · rw [List.filter_append, List.map_append, ← hb1]
            simp [hr']
          · intro p hp hpr
            rcases List.mem_append.mp hp with hp | hp
            · exact hb2 p hp hpr
            · simp only [List.mem_singleton] at hp
              subst hp
              rw [hr'] at hpr; cases hpr
      cases axis with
      | none =>
        exact hjp (ix.sizeTotal == 1) rfl (fun h => by simp only [beq_iff_eq] at h; omega) hst
      | some axs =>
        simp only at hst
        split at hst
        · rename_i hcont
          split at hst
          · cases hst
          · rename_i hsz
            exact hjp true (by simp only [sqRemove]; exact hcont.symm) (fun _ => by omega) hst
        · rename_i hcont
          exact hjp false (by simp only [sqRemove]; exact (Bool.eq_false_iff.mpr hcont).symm)
            (fun h => by cases h) hst

theorem permuted_zipIdx_filter {α : Type} (l : List α) (q : α × Nat → Bool) :
    permuted l ((l.zipIdx.filter q).map (·.2)) = (l.zipIdx.filter q).map (·.1) := by
  unfold permuted
  rw [List.filterMap_map, ← List.filterMap_eq_map]
  apply List.filterMap_congr
  rintro ⟨x, i⟩ hp
  obtain ⟨_, h2, h3⟩ := List.mem_zipIdx (List.mem_filter.mp hp).1
  simp only [Function.comp, Nat.zero_add, Nat.sub_zero] at h2 h3 ⊢
  rw [List.getElem?_eq_getElem h2, h3]

theorem combine_filter_zero {α : Type} (sym : Sym) (g : α → Charge) (q : α × Nat → Bool) :
    ∀ (l : List α) (k : Nat), (∀ p ∈ l.zipIdx k, q p = false → g p.1 = sym.zero) →
      sym.combine (((l.zipIdx k).filter q).map (fun p => g p.1)) = sym.combine (l.map g)
  | [], _, _ => rfl
  | x :: l, k, h => by
    have ih := combine_filter_zero sym g q l (k + 1) (fun p hp => h p (by simp [List.zipIdx_cons, hp]))
    rw [List.zipIdx_cons, List.map_cons, combine_cons sym (g x)]
    cases hq : q (x, k) with
    | true =>
      rw [List.filter_cons_of_pos (by simpa using hq), List.map_cons, combine_cons, ih]
    | false =>
      rw [List.filter_cons_of_neg (by simp [hq]), ih, h (x, k) (by simp [List.zipIdx_cons]) hq,
        Sym.combine_zero_combine]

theorem prod_filter_one {α : Type} (g : α → Nat) (q : α × Nat → Bool) :
    ∀ (l : List α) (k : Nat), (∀ p ∈ l.zipIdx k, q p = false → g p.1 = 1) →
      prod (((l.zipIdx k).filter q).map (fun p => g p.1)) = prod (l.map g)
  | [], _, _ => rfl
  | x :: l, k, h => by
    have ih := prod_filter_one g q l (k + 1) (fun p hp => h p (by simp [List.zipIdx_cons, hp]))
    rw [List.zipIdx_cons, List.map_cons]
    cases hq : q (x, k) with
    | true =>
      rw [List.filter_cons_of_pos (by simpa using hq), List.map_cons]
      simp only [prod, ih]
    | false =>
      rw [List.filter_cons_of_neg (by simp [hq]), ih]
      simp only [prod, h (x, k) (by simp [List.zipIdx_cons]) hq, Nat.one_mul]

/-- re-keying by `squeeze`; `hshp` (the charges of the sector are in the tables) is what forces the
    zero charge and size one on the removed axes -/
theorem squeeze_rekey {sym : Sym} {idx : List Index} {ch : Charge} {axis : Option (List Nat)}
    {keep : List Nat} (hwf : ∀ i ∈ idx, Index.wfB sym i = true)
    (hinv : SqInv sym axis idx.zipIdx keep) {s : Sector} {shp : List Nat}
    (hs : SecOk sym idx ch s) (hshp : Arr.blockShape? idx s = some shp) :
    SecOk sym (permuted idx keep) ch (permuted s keep) ∧ prod (permuted shp keep) = prod shp := by
  obtain ⟨T, hT, rfl, rfl, rfl⟩ := blockShape?_iff.mp hshp
  obtain ⟨hk, hrem⟩ := hinv
  let q : Trip × Nat → Bool := fun p => !sqRemove axis (p.1.1, p.2)
  have hkeep : keep = ((T.zipIdx).filter q).map (·.2) := by
    rw [hk, List.zipIdx_map, List.filter_map, List.map_map]
    rfl
  have hperm : permuted T keep = (T.zipIdx.filter q).map (·.1) := by
    rw [hkeep]; exact permuted_zipIdx_filter T q
  have hdrop : ∀ p ∈ T.zipIdx, q p = false → p.1.2.1 = sym.zero ∧ p.1.2.2 = 1 := by
    rintro ⟨⟨ix, c, n⟩, i⟩ hp hq
    have hmem : (ix, i) ∈ (T.map (·.1)).zipIdx := by
      rw [List.zipIdx_map]
      exact List.mem_map.mpr ⟨((ix, c, n), i), hp, rfl⟩
    have hr : sqRemove axis (ix, i) = true := by simpa [q] using hq
    obtain ⟨d, hcm, hd⟩ := hrem (ix, i) hmem hr
    simp only at hcm hd ⊢
    have hTm : (ix, c, n) ∈ T := by
      obtain ⟨_, h2, h3⟩ := List.mem_zipIdx hp
      rw [h3]; exact List.getElem_mem _
    have hsz := hT _ hTm
    simp only [Index.sizeOf?, hcm, alookup] at hsz
    split at hsz
    · rename_i hc
      have hc' : sym.zero = c := by simpa using hc
      have hn : d = n := by simpa using hsz
      have hpos := (wfB_sizeOf (hwf ix (List.mem_map.mpr ⟨_, hTm, rfl⟩))
        (c := c) (n := n) (by simp only [Index.sizeOf?, hcm, alookup, hc, if_true, hn])).1
      exact ⟨hc'.symm, by omega⟩
    · cases hsz
  refine ⟨?_, ?_⟩
  · obtain ⟨_, hcharge⟩ := hs
    refine secOk_iff.mpr ⟨(permuted T keep).map (fun t => (t.1, t.2.1)), ?_, ?_, ?_⟩
    · rw [List.map_map, ← permuted_map]; rfl
    · rw [List.map_map, ← permuted_map]; rfl
    · have h1 : sym.combine (sgn sym (T.map (fun t => (t.1, t.2.1)))) = ch := by
        rw [← sectorCharge_joint]
        simpa [List.map_map, Function.comp_def] using hcharge
      rw [← h1, hperm]
      unfold sgn
      simp only [List.map_map, Function.comp_def]
      apply combine_filter_zero sym (fun t : Trip => sym.sign t.2.1 t.1.dual) q T 0
      intro p hp hq
      rw [(hdrop p hp hq).1, sign_zero]
  · rw [permuted_map, hperm, List.map_map]
    apply prod_filter_one (fun t : Trip => t.2.2) q T 0
    intro p hp hq
    exact (hdrop p hp hq).2

/-- every key of the pending-sign table has its charges in the index tables.  Not a clause of
    `Arr.validB`: it holds whenever the keys are stored sectors, and fails for a key without a
    block that names a charge absent from a table (`C01.exStale`).  A hypothesis of
    `squeeze_valid`, `C01.squeeze_valid`, `Lazy.StOk.of_valid` and, as the second half of
    `Lazy.InTables`, of `C09.squeeze_congr` and `C09.squeeze_sync` (Props/C09b; their forms
    `squeeze_congr_any_phases`, `squeeze_sync_any_phases` do without it); none of these proofs uses it,
    because `_map_blocks` re-keys only the sign entries of stored blocks. -/
def phaseKeysInTablesB (a : Arr R) : Bool :=
  a.phases.all (fun sp => (Arr.blockShape? a.indices sp.1).isSome)

/-- **`squeeze` preserves validity, whatever the sign table holds**: entries of the sign table
    whose sector has no block (left behind by an operation that dropped blocks) are discarded by
    `_map_blocks`, the others are re-keyed together with their block. -/
theorem squeeze_valid_any_phases (a : Arr R) (axis : Option (List Nat)) (r : Arr R) (hv : Valid a)
    (h : a.squeeze axis = .ok r) : Valid r := by
  obtain ⟨keep, hinv, rfl⟩ := squeeze_inv a axis r h
  unfold Arr.mapBlocks
  refine ⟨fun i hi => hv.idx i (mem_permuted hi), hv.chg, adict_keys_nodup _, ?_, ?_⟩
  · intro sb hsb
    obtain ⟨⟨s, b⟩, h0, rfl⟩ := List.mem_map.mp (mem_adict hsb)
    obtain ⟨a1, a2, a3⟩ := hv.blk (s, b) h0
    obtain ⟨h1, h2⟩ := squeeze_rekey hv.idx hinv a1 a2
    refine ⟨h1, blockShape?_natT (natT_permuted keep) a2, ?_⟩
    simp only [Blk.wf, Blk.squeezeK, beq_iff_eq] at a3 ⊢
    rw [h2]; exact a3
  · have hs := hv.sgn
    unfold SignsOk at hs ⊢
    show if a.fermi = true then _ else _
    split
    · rename_i hf
      simp only [hf, if_true] at hs ⊢
      refine ⟨⟨adict_keys_nodup _, ?_⟩, hs.2⟩
      intro sp hsp
      obtain ⟨⟨s, p⟩, h0, rfl⟩ := List.mem_map.mp (mem_adict hsp)
      obtain ⟨h0, hstored⟩ := List.mem_filter.mp h0
      -- the entry belongs to a stored block, whose sector has a shape in the tables
      obtain ⟨b, hb⟩ := Option.isSome_iff_exists.mp hstored
      obtain ⟨_, hshp, _⟩ := hv.blk (s, b) (alookup_some_mem hb)
      exact ⟨(squeeze_rekey hv.idx hinv (hs.1.2 (s, p) h0).1 hshp).1, (hs.1.2 (s, p) h0).2⟩
    · rename_i hf
      simp only [hf] at hs ⊢
      exact hs

theorem mapBlocks_phase_keys_stored (a : Arr R) (fs : Sector → Sector) (fb : Blk R → Blk R)
    (hf : a.fermi = true) :
    ∀ k ∈ (a.mapBlocks fs fb).phases.map (·.1), k ∈ (a.mapBlocks fs fb).blocks.map (·.1) := by
  intro k hk
  simp only [Arr.mapBlocks, hf, if_true] at hk ⊢
  obtain ⟨⟨k', p⟩, hkp, rfl⟩ := List.mem_map.mp hk
  obtain ⟨⟨s, p'⟩, h0, he⟩ := List.mem_map.mp (mem_adict hkp)
  obtain ⟨_, hstored⟩ := List.mem_filter.mp h0
  obtain ⟨b, hb⟩ := Option.isSome_iff_exists.mp hstored
  have hk' : k' = fs s := (congrArg Prod.fst he).symm
  subst hk'
  apply mem_keys_adict.mpr
  exact List.mem_map.mpr ⟨(fs s, fb b), List.mem_map.mpr ⟨(s, b), alookup_some_mem hb, rfl⟩, rfl⟩

theorem squeeze_phase_keys_stored (a : Arr R) (axis : Option (List Nat)) (r : Arr R)
    (hf : a.fermi = true) (h : a.squeeze axis = .ok r) :
    ∀ k ∈ r.phases.map (·.1), k ∈ r.sectors := by
  obtain ⟨keep, _, rfl⟩ := squeeze_inv a axis r h
  exact mapBlocks_phase_keys_stored a (fun s => permuted s keep) (fun b => b.squeezeK keep) hf

/-- `squeeze_valid_any_phases` with the hypothesis `phaseKeysInTablesB`, which the proof ignores -/
theorem squeeze_valid (a : Arr R) (axis : Option (List Nat)) (r : Arr R) (hv : Valid a)
    (_hph : phaseKeysInTablesB a = true) (h : a.squeeze axis = .ok r) : Valid r :=
  squeeze_valid_any_phases a axis r hv h

end ValidP
end SymmModel
