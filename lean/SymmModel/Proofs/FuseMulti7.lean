/-
  SymmModel.Proofs.FuseMulti7 — arbitrary groups: every stored address of the original has a
  fused address that the per-axis `splitAddr` maps back to it (onto).
-/
import SymmModel.Proofs.FuseMulti6
namespace SymmModel
namespace FuseP
set_option linter.unusedSectionVars false

variable {R : Type}

theorem ravel_single (d x : Nat) : ravel [d] [x] = x := by simp [ravel, prod]

theorem inBox_map_getD {shp offs : List Nat} (h : inBox shp offs = true) (axes : List Nat)
    (hax : ∀ ax ∈ axes, ax < shp.length) :
    inBox (axes.map (fun ax => shp.getD ax 0)) (axes.map (fun ax => offs.getD ax 0)) = true := by
  induction axes with
  | nil => rfl
  | cons x xs ih =>
    simp only [List.map_cons, inBox_cons]
    exact ⟨(inBox_iff.1 h).2 x (hax x (by simp)), ih (fun y hy => hax y (List.mem_cons_of_mem _ hy))⟩

section Multi
variable {a : Arr R} {groups : List (List Nat)} [Zero R]

variable (a groups) in
/-- the fused offsets of an original offset vector inside the block of `sb` -/
def joinI (sb : Sector × Blk R) (offs : List Nat) : List Nat :=
  (List.range (giM a groups).position).map (fun x => offs.getD x 0)
    ++ (List.range groups.length).map (fun g => stM a groups sb g
        + ravel ((groups.getD g []).map (fun ax => sb.2.shape.getD ax 0))
            ((groups.getD g []).map (fun ax => offs.getD ax 0)))
    ++ (List.range (giM a groups).axesAfter.length).map
        (fun j => offs.getD ((giM a groups).axesAfter.getD j 0) 0)

theorem joinI_length (sb : Sector × Blk R) (offs : List Nat) :
    (joinI a groups sb offs).length = ndimM a groups := by simp [joinI, ndimM]; omega

theorem joinI_before (sb : Sector × Blk R) (offs : List Nat) {x : Nat} (hx : x < (giM a groups).position) :
    (joinI a groups sb offs).getD x 0 = offs.getD x 0 := by
  simp only [joinI]
  rw [List.append_assoc, getD_before _ _ _ _ (by simpa using hx), getD_range_map _ _ _ _ hx]

theorem joinI_mid (sb : Sector × Blk R) (offs : List Nat) {g : Nat} (hg : g < groups.length) :
    (joinI a groups sb offs).getD ((giM a groups).position + g) 0
      = stM a groups sb g + ravel ((groups.getD g []).map (fun ax => sb.2.shape.getD ax 0))
          ((groups.getD g []).map (fun ax => offs.getD ax 0)) := by
  simp only [joinI]
  have hl : ((List.range (giM a groups).position).map (fun x => offs.getD x 0)).length
      = (giM a groups).position := by simp
  have := getD_mid ((List.range (giM a groups).position).map (fun x => offs.getD x 0))
    ((List.range groups.length).map (fun g => stM a groups sb g
        + ravel ((groups.getD g []).map (fun ax => sb.2.shape.getD ax 0))
            ((groups.getD g []).map (fun ax => offs.getD ax 0))))
    ((List.range (giM a groups).axesAfter.length).map
        (fun j => offs.getD ((giM a groups).axesAfter.getD j 0) 0)) g 0 (by simpa using hg)
  rw [hl] at this
  rw [this, getD_range_map _ _ _ _ hg]

theorem joinI_after (sb : Sector × Blk R) (offs : List Nat) {j : Nat} (hj : j < (giM a groups).axesAfter.length) :
    (joinI a groups sb offs).getD ((giM a groups).position + groups.length + j) 0
      = offs.getD ((giM a groups).axesAfter.getD j 0) 0 := by
  simp only [joinI]
  have hl : ((List.range (giM a groups).position).map (fun x => offs.getD x 0)
      ++ (List.range groups.length).map (fun g => stM a groups sb g
        + ravel ((groups.getD g []).map (fun ax => sb.2.shape.getD ax 0))
            ((groups.getD g []).map (fun ax => offs.getD ax 0)))).length
      = (giM a groups).position + groups.length := by simp
  rw [← hl, getD_after, getD_range_map _ _ _ _ hj]

theorem fused_ontoM (hv : ValidArr a) (hok : GroupsOk groups a.ndim) {sb : Sector × Blk R}
    (hsb : sb ∈ a.blocks) {offs : List Nat} (ho : inBox sb.2.shape offs = true) :
    ∃ B, alookup (fusedBlocksM a groups) (planM a groups sb).newSector = some B
      ∧ inBox B.shape (joinI a groups sb offs) = true
      ∧ (∀ g, g < groups.length → segM a groups (planM a groups sb).newSector (joinI a groups sb offs) g
          = ((groups.getD g []).map (fun ax => sb.1.getD ax (0, 0)),
             (groups.getD g []).map (fun ax => offs.getD ax 0)))
      ∧ permuted sb.1 (giM a groups).perm = expandK a groups (planM a groups sb).newSector (joinI a groups sb offs)
      ∧ permuted offs (giM a groups).perm = expandJ a groups (planM a groups sb).newSector (joinI a groups sb offs) := by
  /- Plan.  The fused block `B` of `sb`'s new sector exists with shape `BshM sb` (`fusedBlockM_exists`); the
     candidate address is `joinI sb offs`: the original offset on the front and back axes, and on the axis of
     group `g` the start of `sb` there plus the ravelled offsets of the group's axes.
     `hgrp`: the offsets of a group's axes lie in the box of the group's sizes, so the ravelled offset is below
     their product.  `hseg` (the heart): on every group axis `splitAddr` undoes that join — for a multi-axis group
     through `joinAddr` read from the table of a stored sector (`stored_tableM`) and `splitAddr_joinAddr`, for a
     single axis by `singleM`.  The last three claims then go axis by axis (`axis_cases`: front / group / back):
     the address is in `B`'s box (`startOf_bound` on a group axis), and the expanded key and offsets are the
     permuted originals (`expandK_of_stored`, `expandJ_parts` with `hseg`). -/
  obtain ⟨B, hB, hBs⟩ := fusedBlockM_exists hv hok.adm hsb
  have hshl := hv.shape_length hsb
  have hol : offs.length = a.ndim := by rw [inBox_length ho, hshl]
  have hob := inBox_iff.1 ho
  have hgrp : ∀ g, g < groups.length →
      inBox ((groups.getD g []).map (fun ax => sb.2.shape.getD ax 0))
        ((groups.getD g []).map (fun ax => offs.getD ax 0)) = true := by
    intro g hg
    have hgg : groups[g]? = some groups[g] := List.getElem?_eq_getElem hg
    have hgd : groups.getD g [] = groups[g] := by simp [List.getD_eq_getElem?_getD, hgg]
    rw [hgd]
    apply inBox_map_getD ho
    intro ax hax
    rw [hshl]; exact groupM_lt hok.adm hgg ax hax
  have hseg : ∀ g, g < groups.length → segM a groups (planM a groups sb).newSector (joinI a groups sb offs) g
      = ((groups.getD g []).map (fun ax => sb.1.getD ax (0, 0)),
         (groups.getD g []).map (fun ax => offs.getD ax 0)) := by
    intro g hg
    have hgg : groups[g]? = some groups[g] := List.getElem?_eq_getElem hg
    have hgd : groups.getD g [] = groups[g] := by simp [List.getD_eq_getElem?_getD, hgg]
    simp only [segM]
    rw [joinI_mid sb offs hg]
    by_cases hm : multiB groups g = true
    · obtain ⟨gaxes, hgg', hlen⟩ := multiB_iff.1 hm
      have hgd' : groups.getD g [] = gaxes := by simp [List.getD_eq_getElem?_getD, hgg']
      obtain ⟨e, D, t1, t2, _, _, _⟩ := stored_tableM hv hok.adm hgg' hlen hsb
      simp only [hm, if_true]
      have hc : (planM a groups sb).newSector.getD ((giM a groups).position + g) (0, 0)
          = cM (a := a) (groups := groups) sb g := rfl
      rw [hc]
      have hbs : Arr.blockShape? (gaxes.map (fun ax => a.indices.getD ax default))
          (gaxes.map (fun ax => sb.1.getD ax (0, 0))) = some (gaxes.map (fun ax => sb.2.shape.getD ax 0)) :=
        blockShape?_map (hv.blk sb hsb).2.1 gaxes (groupM_lt hok.adm hgg')
      have hmid := hgrp g hg
      rw [hgd'] at hmid ⊢
      have hrv := ravel_lt hmid
      have hd := dM_eq (a := a) hok.adm hgg' sb
      rw [ssM_eq hgg'] at t2
      have hj : joinAddr (ixM a groups g) (cM (a := a) (groups := groups) sb g)
          (gaxes.map (fun ax => sb.1.getD ax (0, 0))) (gaxes.map (fun ax => offs.getD ax 0))
          = some (stM a groups sb g + ravel (gaxes.map (fun ax => sb.2.shape.getD ax 0))
              (gaxes.map (fun ax => offs.getD ax 0))) := by
        simp only [joinAddr, ixM_sub (a := a) hok.adm hgg' hlen, t1, hbs, hmid, if_true, joinOffset, t2, hd, hrv]
      rw [splitAddr_joinAddr hj]; rfl
    · have hm' : multiB groups g = false := by simpa using hm
      obtain ⟨ax, _, hgd1, hc, _, hs0, _⟩ := singleM (a := a) hok.adm hg hm'
      have hc' : (planM a groups sb).newSector.getD ((giM a groups).position + g) (0, 0)
          = cM (a := a) (groups := groups) sb g := rfl
      simp only [hm', Bool.false_eq_true, if_false, hs0 sb, Nat.zero_add, hgd1, hc', hc sb, List.map_cons,
        List.map_nil, ravel_single]
  refine ⟨B, hB, ?_, hseg, ?_, ?_⟩
  ·
    rw [hBs, inBox_iff]
    refine ⟨by rw [joinI_length, BshM_length], ?_⟩
    intro ax hax
    rw [BshM_length] at hax
    rw [BshM_getD sb hax]
    rcases axis_cases ax hax with h | ⟨g, hg, rfl⟩ | ⟨j, hj, rfl⟩
    · rw [joinI_before sb offs h, axMulti_before h]
      simp only [Bool.false_eq_true, if_false, planM]
      rw [planOf_newShape_before _ _ _ _ h]
      have hlt : ax < a.ndim := by
        have := position_lt (hokD hok); rw [duals_length] at this; exact Nat.lt_trans h this
      exact hob.2 ax (by rw [hshl]; exact hlt)
    · rw [joinI_mid sb offs hg, axMulti_mid hg, Nat.add_sub_cancel_left]
      have hgg : groups[g]? = some groups[g] := List.getElem?_eq_getElem hg
      have hgd : groups.getD g [] = groups[g] := by simp [List.getD_eq_getElem?_getD, hgg]
      have hrv := ravel_lt (hgrp g hg)
      have hd := dM_eq (a := a) hok.adm hgg sb
      rw [hgd] at hrv ⊢
      by_cases hm : multiB groups g = true
      · obtain ⟨gaxes, hgg', hlen⟩ := multiB_iff.1 hm
        obtain ⟨e, D, t1, t2, _, t4, t5⟩ := stored_tableM hv hok.adm hgg' hlen hsb
        simp only [hm, if_true, t5]
        have := startOf_bound t2
        rw [t4] at this
        omega
      · have hm' : multiB groups g = false := by simpa using hm
        obtain ⟨_, _, _, _, _, hs0, _⟩ := singleM (a := a) hok.adm hg hm'
        simp only [hm', Bool.false_eq_true, if_false, hs0 sb, Nat.zero_add]
        have hd' : (planM a groups sb).newShape.getD ((giM a groups).position + g) 0
            = dM (a := a) (groups := groups) sb g := rfl
        rw [hd', hd]; exact hrv
    · rw [joinI_after sb offs hj, axMulti_after]
      simp only [Bool.false_eq_true, if_false, planM]
      rw [planOf_newShape_after _ _ _ _ hj]
      exact hob.2 _ (by rw [hshl]; exact afterM_lt _ (afterM_getD_mem hj))
  · exact expandK_of_stored hok (hv.blk sb hsb).1 rfl (fun g hg => by rw [hseg g hg])
  · rw [permutedM_eq hok.adm offs 0 hol, expandJ_parts _ _ (joinI_length sb offs),
      range_map_congr (fun x hx => joinI_before sb offs hx), range_map_congr (fun j hj => joinI_after sb offs hj),
      range_map_congr (fun g hg => congrArg Prod.snd (hseg g hg))]

end Multi

end FuseP
end SymmModel
