/-
  SymmModel.Proofs.FuseCommuteG4 — C06, first clause, FERMIONIC, ARBITRARY contracted legs (any
  positions, any order, no preliminary transposition): `C06.fuse_contracted_aligned_fermionic`
  (aligned operands, `namespace SymmModel.C06`) and the public route `TdotP.fuse_contracted_fermi`
  (align, fermionic fuse of the contracted legs of each operand, `tensordot_fermionic` over the single
  fused pair = `tensordot_fermionic` over the original pairs; blockwise).
-/
import SymmModel.Proofs.FuseCommuteG3

namespace SymmModel
namespace TdotP
open SymmModel.KoszulP SymmModel.Lazy SymmModel.GradedP SymmModel.RoutesP SymmModel.AssocP
variable {R : Type}

theorem admW_fused_ab [AddCommMonoid R] [Mul R] [Neg R] [SignRing R] {X Y : Arr R} {g h : List Nat}
    (H0 : Ctx0 (ab X) (ab Y) g h) (oX : OneOk X g) (oY : OneOk Y h)
    (hvAF : (FuseP.fusedArrM X [g]).validB = true) (hvBF : (FuseP.fusedArrM Y [h]).validB = true)
    (fX : X.fermi = true) (fY : Y.fermi = true) :
    AdmW (FuseP.fusedArrM X [g]) (FuseP.fusedArrM Y [h]) [bondPos X g] [bondPos Y h] := by
  have gA0 : ([g] : List (List Nat))[0]? = some g := rfl
  have gB0 : ([h] : List (List Nat))[0]? = some h := rfl
  have hrA := one_bond_lt (R := R) oX
  have hrB := one_bond_lt (R := R) oY
  obtain ⟨bm1, _, bm3⟩ := H0.bond_match (show OneOk (ab X) g from ⟨oX.ne, oX.nd, oX.lt⟩).groupsOk
    (show OneOk (ab Y) h from ⟨oY.ne, oY.nd, oY.lt⟩).groupsOk gA0 gB0
  have bm1' : (FuseP.ixM X [g] 0).cm = (FuseP.ixM Y [h] 0).cm := bm1
  have bm3' : (FuseP.ixM X [g] 0).dual = !(FuseP.ixM Y [h] 0).dual := bm3
  have hcB := bond_contractibleB (R := R) bm1' bm3'
  exact ⟨hvAF, hvBF, fX, fY, H0.sym, commonB_of_contractibleB hvAF hrA hcB, by simp, by simp, hrA, hrB⟩

end TdotP
end SymmModel

namespace SymmModel.C06
open SymmModel SymmModel.TdotP SymmModel.GradedP SymmModel.RoutesP SymmModel.AssocP SymmModel.KoszulP
open SymmModel.Assoc3P

variable {R : Type}

/-- **fuse_contracted_aligned_fermionic**: for an aligned fermionic pair `A`, `B` (ARBITRARY
    contracted legs): `fuseF(A, xa)`, `fuseF(B, xb)` (insert strategy) succeed, the fused operands
    satisfy the weak guard for the single pair `(bondPos A xa, bondPos B xb)` and have one leg for the
    contracted group, and `tensordot_fermionic` over that pair (blockwise) fails with the error of the
    contraction over the original pairs or succeeds with the same labels, charge, symmetry, kind,
    rank and the same element at every address `(Ls ++ Rs, oL ++ oR)` of the free legs' table box. -/
theorem fuse_contracted_aligned_fermionic [AddCommMonoid R] [Mul R] [Neg R] [SignRing R]
    (hz1 : ∀ x : R, 0 * x = 0) (hz2 : ∀ x : R, x * 0 = 0) {A B : Arr R} {xa xb : List Nat}
    (h : FCtxG A B xa xb) (e1 e2 : Bool) :
    A.fuseF [xa] .insert e1 = .ok (FuseP.fusedArrM (FuseP.signAdj A [xa]) [newG A xa])
    ∧ B.fuseF [xb] .insert e2 = .ok (FuseP.fusedArrM (FuseP.signAdj B [xb]) [newG B xb])
    ∧ AdmW (FuseP.fusedArrM (FuseP.signAdj A [xa]) [newG A xa])
        (FuseP.fusedArrM (FuseP.signAdj B [xb]) [newG B xb]) [bondPos A xa] [bondPos B xb]
    ∧ (FuseP.fusedArrM (FuseP.signAdj A [xa]) [newG A xa]).ndim + xa.length = A.ndim + 1
    ∧ (FuseP.fusedArrM (FuseP.signAdj B [xb]) [newG B xb]).ndim + xb.length = B.ndim + 1
    ∧ (∀ e, A.tensordotF B (.pair (xa.map Int.ofNat) (xb.map Int.ofNat)) .blockwise = .error e →
        (FuseP.fusedArrM (FuseP.signAdj A [xa]) [newG A xa]).tensordotF
          (FuseP.fusedArrM (FuseP.signAdj B [xb]) [newG B xb])
          (.pair [Int.ofNat (bondPos A xa)] [Int.ofNat (bondPos B xb)]) .blockwise = .error e)
    ∧ ∀ c, A.tensordotF B (.pair (xa.map Int.ofNat) (xb.map Int.ofNat)) .blockwise = .ok c →
      ∃ cf, (FuseP.fusedArrM (FuseP.signAdj A [xa]) [newG A xa]).tensordotF
            (FuseP.fusedArrM (FuseP.signAdj B [xb]) [newG B xb])
            (.pair [Int.ofNat (bondPos A xa)] [Int.ofNat (bondPos B xb)]) .blockwise = .ok cf
        ∧ cf.oddpos = c.oddpos ∧ cf.charge = c.charge ∧ cf.sym = c.sym ∧ cf.fermi = c.fermi
        ∧ cf.ndim = c.ndim
        ∧ ∀ (Ls Rs : Sector) (oL oR shpL shpR : List Nat),
            Arr.blockShape? (permuted A.indices (freeAxes A.ndim xa)) Ls = some shpL → inBox shpL oL = true →
            Arr.blockShape? (permuted B.indices (freeAxes B.ndim xb)) Rs = some shpR → inBox shpR oR = true →
            cf.elem (Ls ++ Rs) (oL ++ oR) = c.elem (Ls ++ Rs) (oL ++ oR) := by
  have W := h.W
  have oA := h.oneA
  have oB := h.oneB
  have hfuseA := (FuseP.fuseF_elemT A [xa] e1 W.va W.fa oA.groupsOk).1
  rw [one_newGroupsF oA] at hfuseA
  have hfuseB := (FuseP.fuseF_elemT B [xb] e2 W.vb W.fb oB.groupsOk).1
  rw [one_newGroupsF oB] at hfuseB
  have hadmA := FuseP.admissible_of_groupsOk oA.groupsOk
  have hadmB := FuseP.admissible_of_groupsOk oB.groupsOk
  have hvAF : (FuseP.fusedArrM (FuseP.signAdj A [xa]) [newG A xa]).validB = true :=
    (ValidP.validB_iff _).mpr
      (ValidP.fuseF_valid A _ _ e1 ((ValidP.validB_iff A).mp W.va) W.fa hadmA hfuseA)
  have hvBF : (FuseP.fusedArrM (FuseP.signAdj B [xb]) [newG B xb]).validB = true :=
    (ValidP.validB_iff _).mpr
      (ValidP.fuseF_valid B _ _ e2 ((ValidP.validB_iff B).mp W.vb) W.fb hadmB hfuseB)
  have hX := FuseOp.of_signAdj A W.va W.fa oA
  have hY := FuseOp.of_signAdj B W.vb W.fb oB
  refine ⟨hfuseA, hfuseB, ?_⟩
  clear hfuseA hfuseB
  generalize FuseP.signAdj A [xa] = X at *
  generalize FuseP.signAdj B [xb] = Y at *
  have oAX := hX.oneX
  have oBX := hY.oneX
  have hbA := hX.bondPos_eq
  have hbB := hY.bondPos_eq
  have H0 : Ctx0 (ab X) (ab Y) (newG A xa) (newG B xb) := ctx0_of_fctxG h hX hY
  have W' := admW_fused_ab H0 oAX oBX hvAF hvBF (hX.fermi.trans W.fa) (hY.fermi.trans W.fb)
  rw [← hbA, ← hbB]
  refine ⟨W', hX.fused_rank, hY.fused_rank, ?_⟩
  have hPpar := hX.fused_parity
  have hmerge : OddposP.mergeOddpos (FuseP.fusedArrM X [newG A xa]).parity
      (FuseP.fusedArrM X [newG A xa]).oddpos (FuseP.fusedArrM Y [newG B xb]).oddpos
      = OddposP.mergeOddpos A.parity A.oddpos B.oddpos := by
    rw [hPpar]
    show OddposP.mergeOddpos A.parity X.oddpos Y.oddpos = _
    rw [hX.oddpos, hY.oddpos]
  constructor
  · intro e he
    refine (Call.error_iff W' e).mpr ?_
    rw [hmerge]
    exact (Call.error_iff W e).mp he
  · intro c hc
    obtain ⟨out, ph, C⟩ := Call.of_ok W hc
    obtain ⟨cf, hcf, C'⟩ := Call.of_merge W' (out := out) (ph := ph) (hmerge.trans C.merge)
    refine ⟨cf, hcf, C'.oddpos.trans C.oddpos.symm, ?_, ?_, ?_, ?_, ?_⟩
    · rw [C'.charge, C.charge]
      show X.sym.combine [X.charge, Y.charge] = _
      rw [hX.sym, hX.charge, hY.charge]
    · rw [C'.sym, C.sym]; exact hX.sym
    · rw [C'.fermi, C.fermi]
    · rw [C'.toInter.ndim, C.toInter.ndim, hX.free_length, hY.free_length]
    · intro Ls Rs oL oR shpL shpR hshpL hboxL hshpR hboxR
      have hLF := hX.free_shape hshpL
      have hRF := hY.free_shape hshpR
      have key := gradedContract_bond_fuse hz1 hz2 h hX hY hvAF hvBF hshpL hboxL hshpR hboxR
      rw [← hbA, ← hbB] at key
      rw [C'.elem _ _ _ (freeOffs_length hLF hboxL) (freeBox_append hLF hboxL hRF hboxR), key,
        C.elem _ _ _ (freeOffs_length hshpL hboxL) (freeBox_append hshpL hboxL hshpR hboxR)]

end SymmModel.C06

namespace SymmModel
namespace TdotP
open SymmModel.KoszulP SymmModel.Lazy SymmModel.GradedP SymmModel.RoutesP SymmModel.AssocP
variable {R : Type}

theorem fctxG_of_dropMisaligned [AddCommMonoid R] [Mul R] [Neg R] [SignRing R] (a b : Arr R) (xa xb : List Nat)
    (W : AdmW a b xa xb) (hne : xa ≠ []) :
    FCtxG (dropMisaligned a b xa xb).1 (dropMisaligned a b xa xb).2 xa xb := by
  obtain ⟨n1, n2⟩ := dropMisaligned_ndim a b xa xb
  obtain ⟨v1, v2⟩ := ValidP.dropMisaligned_valid a b xa xb ((ValidP.validB_iff a).mp W.va)
    ((ValidP.validB_iff b).mp W.vb)
  have v1' := (ValidP.validB_iff _).mpr v1
  have v2' := (ValidP.validB_iff _).mpr v2
  obtain ⟨hcm, hdual⟩ := aligned_cm_dual_w a b xa xb W.va W.vb W.ltA W.ltB W.con
  have hlen : xa.length = xb.length := commonB_len W.con
  have hcon : contractibleCommonB (dropMisaligned a b xa xb).1 (dropMisaligned a b xa xb).2 xa xb = true := by
    unfold contractibleCommonB
    simp only [Bool.and_eq_true, beq_iff_eq, List.all_eq_true, bne_iff_ne, ne_eq]
    refine ⟨hlen, ?_⟩
    intro p hp
    obtain ⟨t, ht1, ht2⟩ := mem_zip_getElem? hp
    have h1 := congrArg (fun l => l[t]?) hcm
    have h2 := congrArg (fun l => l[t]?) hdual
    simp only [List.getElem?_map, ht1, ht2, Option.map_some, Option.some.injEq] at h1 h2
    have hi : p.1 < (dropMisaligned a b xa xb).1.indices.length := by
      show p.1 < (dropMisaligned a b xa xb).1.ndim
      rw [n1]; exact W.ltA _ (List.mem_of_getElem? ht1)
    constructor
    · rw [← h1]
      apply cmAgree_self
      apply keys_nodup_of_validB v1'
      rw [List.getD_eq_getElem?_getD, List.getElem?_eq_getElem hi]
      exact List.getElem_mem hi
    · rw [h2]
      cases ((dropMisaligned a b xa xb).1.indices.getD p.1 default).dual <;> simp
  exact ⟨⟨v1', v2', W.fa, W.fb, W.sym, hcon, W.nA, W.nB, by rw [n1]; exact W.ltA, by rw [n2]; exact W.ltB⟩,
    hne, hcm, hdual, aligned_block_keys a b xa xb W.va W.vb W.ltA W.ltB⟩

theorem fctx_of_dropMisaligned [AddCommMonoid R] [Mul R] [Neg R] [SignRing R] (a b : Arr R) (xa xb : List Nat)
    (W : AdmW a b xa xb) (hadjA : AdjOk a xa) (hadjB : AdjOk b xb) :
    FCtx (dropMisaligned a b xa xb).1 (dropMisaligned a b xa xb).2 xa xb := by
  obtain ⟨n1, n2⟩ := dropMisaligned_ndim a b xa xb
  have G := fctxG_of_dropMisaligned a b xa xb W hadjA.one.ne
  exact ⟨G.W, G.cm, G.dual, G.keys, adjOk_of_ndim n1 hadjA, adjOk_of_ndim n2 hadjB⟩

/-- **C06, first clause, fermionic, public route (blockwise), ARBITRARY contracted legs.** -/
theorem fuse_contracted_fermi [AddCommMonoid R] [Mul R] [Neg R] [SignRing R]
    (hz1 : ∀ x : R, 0 * x = 0) (hz2 : ∀ x : R, x * 0 = 0) (a b : Arr R) (xa xb : List Nat)
    (W : AdmW a b xa xb) (hne : xa ≠ []) (e1 e2 : Bool) :
    ∃ af bf, (dropMisaligned a b xa xb).1.fuseF [xa] .insert e1 = .ok af
      ∧ (dropMisaligned a b xa xb).2.fuseF [xb] .insert e2 = .ok bf
      ∧ AdmW af bf [bondPos a xa] [bondPos b xb]
      ∧ af.ndim + xa.length = a.ndim + 1 ∧ bf.ndim + xb.length = b.ndim + 1
      ∧ (∀ e, a.tensordotF b (.pair (xa.map Int.ofNat) (xb.map Int.ofNat)) .blockwise = .error e →
          af.tensordotF bf (.pair [Int.ofNat (bondPos a xa)] [Int.ofNat (bondPos b xb)]) .blockwise = .error e)
      ∧ ∀ c, a.tensordotF b (.pair (xa.map Int.ofNat) (xb.map Int.ofNat)) .blockwise = .ok c →
        ∃ cf, af.tensordotF bf (.pair [Int.ofNat (bondPos a xa)] [Int.ofNat (bondPos b xb)]) .blockwise = .ok cf
          ∧ cf.oddpos = c.oddpos ∧ cf.charge = c.charge ∧ cf.sym = c.sym ∧ cf.fermi = c.fermi
          ∧ cf.ndim = c.ndim
          ∧ ∀ (Ls Rs : Sector) (oL oR shpL shpR : List Nat),
              Arr.blockShape? (permuted (dropMisaligned a b xa xb).1.indices (freeAxes a.ndim xa)) Ls = some shpL →
              inBox shpL oL = true →
              Arr.blockShape? (permuted (dropMisaligned a b xa xb).2.indices (freeAxes b.ndim xb)) Rs = some shpR →
              inBox shpR oR = true →
              cf.elem (Ls ++ Rs) (oL ++ oR) = c.elem (Ls ++ Rs) (oL ++ oR) := by
  obtain ⟨n1, n2⟩ := dropMisaligned_ndim a b xa xb
  have h := fctxG_of_dropMisaligned a b xa xb W hne
  obtain ⟨f1, f2, W', nd1, nd2, herr, hok⟩ := C06.fuse_contracted_aligned_fermionic hz1 hz2 h e1 e2
  have hbA : bondPos (dropMisaligned a b xa xb).1 xa = bondPos a xa := rfl
  have hbB : bondPos (dropMisaligned a b xa xb).2 xb = bondPos b xb := rfl
  rw [hbA, hbB] at W' herr hok
  rw [n1] at nd1
  rw [n2] at nd2
  have W0 := h.W
  refine ⟨_, _, f1, f2, W', nd1, nd2, ?_, ?_⟩
  · intro e he
    exact herr e ((Call.error_iff W0 e).mpr ((Call.error_iff W e).mp he))
  · intro c hc
    obtain ⟨out, ph, C⟩ := Call.of_ok W hc
    obtain ⟨c0, hc0, C0⟩ := Call.of_merge W0 (out := out) (ph := ph) C.merge
    obtain ⟨cf, k1, k2, k3, k4, k5, k6, kE⟩ := hok c0 hc0
    refine ⟨cf, k1, ?_, ?_, ?_, ?_, ?_, ?_⟩
    · rw [k2, C0.oddpos, C.oddpos]
    · rw [k3, C0.charge, C.charge]; rfl
    · rw [k4, C0.sym, C.sym]; rfl
    · rw [k5, C0.fermi, C.fermi]
    · rw [k6, C0.toInter.ndim, C.toInter.ndim, n1, n2]
    · intro Ls Rs oL oR shpL shpR hshpL hboxL hshpR hboxR
      rw [← n1] at hshpL
      rw [← n2] at hshpR
      rw [kE Ls Rs oL oR shpL shpR hshpL hboxL hshpR hboxR]
      have bA := freeBox_append hshpL hboxL hshpR hboxR
      have lA := freeOffs_length hshpL hboxL
      have hfr : List.Forall₂ SizeLe
          (without (dropMisaligned a b xa xb).1.indices xa ++ without (dropMisaligned a b xa xb).2.indices xb)
          (without a.indices xa ++ without b.indices xb) := by
        rw [without_eq_permuted_freeAxes, without_eq_permuted_freeAxes, without_eq_permuted_freeAxes,
          without_eq_permuted_freeAxes]
        have e1 : (dropMisaligned a b xa xb).1.indices.length = a.indices.length := n1
        have e2 : (dropMisaligned a b xa xb).2.indices.length = b.indices.length := n2
        rw [e1, e2]
        exact forall₂_append (forall₂_permuted (dropUnused_sizeLe _ _) _)
          (forall₂_permuted (dropUnused_sizeLe _ _) _)
      have ean : (dropMisaligned a b xa xb).1.indices.length = (dropMisaligned a b xa xb).1.ndim := rfl
      have ebn : (dropMisaligned a b xa xb).2.indices.length = (dropMisaligned a b xa xb).2.ndim := rfl
      have hsh : Arr.blockShape? (without (dropMisaligned a b xa xb).1.indices xa
          ++ without (dropMisaligned a b xa xb).2.indices xb) (Ls ++ Rs) = some (shpL ++ shpR) := by
        rw [without_eq_permuted_freeAxes, without_eq_permuted_freeAxes, ean, ebn]
        exact blockShape?_append hshpL hshpR
      have hsh' := blockShape?_weaken hfr _ _ hsh
      have bA' : inBox (Arr.blockShapeD (without a.indices xa ++ without b.indices xb) (Ls ++ Rs)) (oL ++ oR) = true := by
        unfold Arr.blockShapeD at bA ⊢
        rw [hsh] at bA; rw [hsh']; exact bA
      rw [n1] at lA
      rw [C0.elem _ _ _ (by rw [n1]; exact lA) bA, gradedContract_dropMisaligned a b xa xb W.va W.vb,
        C.elem _ _ _ lA bA']

end TdotP
end SymmModel
