/-
  SymmModel.Proofs.ReshapeJb — the element BIJECTION of the abelian `reshape` along a plan of fuse calls
  (`ElemBijA`: total, onto, injective, functional, the two cases exclusive; values EQUAL, no sign), for
  both fuse strategies, and the "only if" half: every stored block of the result contains a whole
  stored block of the input (`from_chain`).  `Pulled` / `ZeroAt` / `Stored` are those of the fermionic
  development (ReshapeHd / ReshapeIa); the sign component `σ` of `Pulled` plays no role here.
-/
import SymmModel.Proofs.ReshapeJa
namespace SymmModel.ReshapeJ
open SymmModel SymmModel.Reshape SymmModel.C07 SymmModel.Reshape5 SymmModel.ReshapeH SymmModel.ReshapeI
open ReshapeP FuseP SymmModel.Lazy

variable {R : Type} [Zero R] [Neg R] [LawfulNeg R]

theorem plan_A : ∀ (calls : List (List (List Nat))) (a : Arr R) (lb : Nat), a.validB = true →
    a.fermi = false → CallsOk calls lb a.ndim →
    ∃ y, calls.foldlM fuseDispatch a = .ok y
      ∧ (∀ (m : FuseMode) (e : Bool), calls.foldlM (fun x G => fuseA x G m e) a = .ok y)
      ∧ y.validB = true ∧ y.fermi = false := by
  intro calls
  induction calls with
  | nil => intro a lb hv hf _; exact ⟨a, rfl, fun _ _ => rfl, hv, hf⟩
  | cons G rest ih =>
    intro a lb hv hf hc
    obtain ⟨P, hc1, hc2⟩ := hc
    obtain ⟨hy1, hall, hv1, hf1, hnd⟩ := fuse_call_A a G P lb hv hf hc1
    rw [← hnd] at hc2
    obtain ⟨y, hy, hym, hvy, hfy⟩ := ih (fusedArrM a G) (P + G.length) hv1 hf1 hc2
    refine ⟨y, by rw [List.foldlM_cons, hy1]; exact hy, ?_, hvy, hfy⟩
    intro m e
    rw [List.foldlM_cons, hall m e]
    exact hym m e

/-- the element bijection of a plan of fuse calls on an abelian array -/
structure ElemBijA (a : Arr R) (calls : List (List (List Nat))) (y : Arr R) : Prop where
  /-- every stored address of the result: the value of exactly one stored source element, or a
      zero-filled address with value 0 -/
  total : ∀ ns i, Stored y ns i →
    (∃ s o σ, Pulled a calls 0 y ns i s o σ ∧ Stored a s o ∧ y.elem ns i = a.elem s o)
    ∨ (ZeroAt a calls 0 y ns i ∧ y.elem ns i = 0)
  /-- every stored source element appears -/
  onto : ∀ s o, Stored a s o →
    ∃ ns i σ, Stored y ns i ∧ Pulled a calls 0 y ns i s o σ ∧ y.elem ns i = a.elem s o
  /-- … exactly once -/
  inj : ∀ ns i ns' i' s o σ σ', Stored y ns i → Stored y ns' i' → Pulled a calls 0 y ns i s o σ →
    Pulled a calls 0 y ns' i' s o σ' → ns = ns' ∧ i = i'
  /-- the pulled-back address is determined by the address of the result -/
  func : ∀ ns i s o σ s' o' σ', Pulled a calls 0 y ns i s o σ → Pulled a calls 0 y ns i s' o' σ' →
    s = s' ∧ o = o' ∧ σ = σ'
  /-- a zero-filled address has no stored source element -/
  excl : ∀ ns i, ZeroAt a calls 0 y ns i → ∀ s o σ, Pulled a calls 0 y ns i s o σ → ¬ Stored a s o
  /-- every stored block of the input lies, as a whole, in one stored block of the result -/
  blockInto : ∀ s b, alookup a.blocks s = some b →
    ∃ ns B, alookup y.blocks ns = some B ∧ ∀ o, inBox b.shape o = true →
      ∃ i σ, inBox B.shape i = true ∧ Pulled a calls 0 y ns i s o σ
  /-- every stored block of the result contains a whole stored block of the input -/
  blockFrom : ∀ ns B, alookup y.blocks ns = some B →
    ∃ s b, alookup a.blocks s = some b ∧ ∀ o, inBox b.shape o = true →
      ∃ i σ, inBox B.shape i = true ∧ Pulled a calls 0 y ns i s o σ

theorem elemBijA_calls (a : Arr R) (calls : List (List (List Nat))) (hv : a.validB = true)
    (hf : a.fermi = false) (hc : CallsOk calls 0 a.ndim) :
    ∃ y, calls.foldlM fuseDispatch a = .ok y
      ∧ (∀ (m : FuseMode) (e : Bool), calls.foldlM (fun x G => fuseA x G m e) a = .ok y)
      ∧ y.validB = true ∧ y.fermi = false ∧ ElemBijA a calls y := by
  obtain ⟨y, hy, hym, hvy, hfy⟩ := plan_A calls a 0 hv hf hc
  have htot := total_chain signAct_id fuse_good_A elem_call_A_of_dispatch calls a 0 ⟨hv, hf⟩ hc y hy
  have hinto := into_chain (fun _ h => h.1) fuse_good_A into_call_A calls a 0 ⟨hv, hf⟩ hc y hy
  exact ⟨y, hy, hym, hvy, hfy, htot, onto_of_total (V := fun _ x => x) htot hinto,
    pulled_inj (fun _ h => h.1) fuse_good_A calls a y 0 ⟨hv, hf⟩, pulled_unique calls a y 0,
    zeroAt_excl calls a y 0, hinto,
    from_chain (fun _ h => h.1) fuse_good_A from_call_A calls a 0 ⟨hv, hf⟩ hc y hy⟩

end SymmModel.ReshapeJ
