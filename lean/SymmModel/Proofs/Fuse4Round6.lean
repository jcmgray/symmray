/-
  SymmModel.Proofs.Fuse4Round6 — **unfuseF ∘ fuseF**, the composed theorem (`unfuseF_fuseF_M`):
  unfusing every group of the fermionic fused array with `unfuseF` (last group first) gives, in the
  value view, the transposed array: the fuse signs cancel exactly.
-/
import SymmModel.Proofs.Fuse4Round5
namespace SymmModel
namespace FuseP
set_option linter.unusedSectionVars false
open SymmModel.KoszulP SymmModel.Lazy

variable {R : Type} [Zero R] [Neg R] [LawfulNeg R]

section Run
variable {a : Arr R} {groups : List (List Nat)}

variable (a groups) in
/-- unfuse the groups `g-1, …, 0` with `unfuseF` (each only if it is a multi-axis group) -/
def unfuseFromF : Nat → Arr R → Except Err (Arr R)
  | 0, x => pure x
  | g + 1, x => do
    let x' ← stageStepF a groups x g
    unfuseFromF g x'

theorem unfuseFromF_eq_foldlM (g : Nat) (x : Arr R) :
    unfuseFromF a groups g x = (List.range g).reverse.foldlM (stageStepF a groups) x := by
  induction g generalizing x with
  | zero => rfl
  | succ g ih =>
    rw [List.range_succ, List.reverse_append]
    simp only [List.reverse_cons, List.reverse_nil, List.nil_append, List.singleton_append, List.foldlM_cons,
      unfuseFromF]
    cases stageStepF a groups x g with
    | error e => rfl
    | ok x' => exact ih x'

theorem finv_iter (hv : a.validB = true) (hf : a.fermi = true) (hok : GroupsOk groups a.ndim) (n j : Nat)
    (hjn : j + n = groups.length) {Z X : Arr R} (h : FInv a groups j Z X) :
    ∃ Z' X', unfuseFromF a groups n Z = .ok Z' ∧ FInv a groups groups.length Z' X' := by
  induction n generalizing j Z X with
  | zero =>
    have : j = groups.length := by omega
    subst this
    exact ⟨Z, X, rfl, h⟩
  | succ n ih =>
    have hj : j < groups.length := by omega
    obtain ⟨Z1, X1, h1, h2⟩ := finv_step hv hf hok hj h
    have hg : groups.length - (j + 1) = n := by omega
    rw [hg] at h1
    obtain ⟨Z2, X2, h3, h4⟩ := ih (j + 1) (by omega) h2
    exact ⟨Z2, X2, by simp only [unfuseFromF, h1, bind, Except.bind]; exact h3, h4⟩

/-- the accumulated sign is the fuse sign -/
theorem tauF_drop (a : Arr R) (groups : List (List Nat)) (S : Sector) (j : Nat) (hj : j ≤ groups.length) :
    tauF a groups S j
      = ((((newGroupsF groups a.duals).drop (groups.length - j)).filter (dualSel a groups)).map
          (groupSign a groups S)).foldr (· * ·) 1 := by
  have hlen : (newGroupsF groups a.duals).length = groups.length := newGroupsF_length _ _
  induction j with
  | zero =>
    simp only [tauF, Nat.sub_zero]
    rw [← hlen, List.drop_length]; rfl
  | succ j ih =>
    have hlt : groups.length - (j + 1) < (newGroupsF groups a.duals).length := by omega
    have hd : (newGroupsF groups a.duals).drop (groups.length - (j + 1))
        = (newGroupsF groups a.duals)[groups.length - (j + 1)]
          :: (newGroupsF groups a.duals).drop (groups.length - j) := by
      rw [List.drop_eq_getElem_cons hlt]
      congr 2; omega
    have hgd : (newGroupsF groups a.duals).getD (groups.length - (j + 1)) []
        = (newGroupsF groups a.duals)[groups.length - (j + 1)] := by
      simp only [List.getD_eq_getElem?_getD, List.getElem?_eq_getElem hlt, Option.getD_some]
    simp only [tauF]
    rw [ih (by omega), hd, hgd, List.filter_cons, groupFactor]
    split <;> simp

theorem tauF_full (hok : GroupsOk groups a.ndim) (S : Sector) :
    tauF a groups S groups.length = fuseSignT a groups S := by
  rw [tauF_drop a groups S groups.length (Nat.le_refl _), fuseSignT_groups a groups hok, dualGroupsF_eq]
  simp only [tsub_self, List.drop_zero]

end Run

section Full
variable {b : Arr R} {gs : List (List Nat)}

/-- the end of the round trip for an operand `b` whose groups `gs` stand in place (`hperm`: the
    permutation of `_fuse_core` is the identity) -/
theorem finvG_full (hc : ValidP.Core b) (hph : b.phases = []) (hok : GroupsOk gs b.ndim)
    (hperm : (giM b gs).perm = List.range b.ndim) {σ : Sector → Int} {Z X : Arr R}
    (hF : FInvG b gs σ gs.length Z X) :
    Z.indices = b.indices
      ∧ (∀ sb ∈ b.blocks, ∃ V, alookup Z.blocks sb.1 = some V ∧ V.shape = sb.2.shape
          ∧ ∀ J, inBox sb.2.shape J = true → Z.elem sb.1 J = sgnI (σ sb.1) (b.elem sb.1 J))
      ∧ (∀ K V, alookup Z.blocks K = some V → (∀ sb ∈ b.blocks, K ≠ sb.1) →
          ∀ J, inBox V.shape J = true → Z.elem K J = 0) := by
  have hva := validArr_of_core hc
  have hSk := hF.stage
  have hid : ∀ {α : Type} (l : List α), l.length = b.ndim → permuted l (giM b gs).perm = l := by
    intro α l hl
    rw [hperm, ← hl]; exact permuted_range _
  have hKM : ∀ sb ∈ b.blocks, KM b gs sb gs.length = sb.1 := by
    intro sb hsb
    rw [KM_full hok (hva.blk sb hsb).1]
    exact hid _ (hva.blk sb hsb).1
  refine ⟨?_, ?_, ?_⟩
  · rw [hF.rel.shape.1, hF.stage.idx, idxStage_full hok]
    exact hid _ rfl
  · intro sb hsb
    have hshl : sb.2.shape.length = b.ndim := by
      rw [(blockShape?_length (hva.blk sb hsb).2.1).2]; exact (hva.blk sb hsb).1
    have hSM : SM b gs sb gs.length = sb.2.shape := by
      rw [SM_full hok sb hshl]
      exact hid _ hshl
    obtain ⟨V, hV, hVs, hVg⟩ := hSk.here sb hsb
    rw [hKM sb hsb] at hV
    rw [hSM] at hVs
    have hs := hF.rel.shape.2 sb.1
    rw [hV] at hs
    cases hzb : alookup Z.blocks sb.1 with
    | none => rw [hzb] at hs; simp at hs
    | some Vz =>
      rw [hzb] at hs
      simp only [Option.map_some, Option.some.injEq] at hs
      refine ⟨Vz, rfl, by rw [hs, hVs], ?_⟩
      intro J hJ
      have hJl : J.length = b.ndim := by rw [inBox_length hJ, hshl]
      have hIM : IM b gs sb J gs.length = J := by
        rw [IM_full hok sb (offs := J) hJl]
        exact hid _ hJl
      have h1 := hF.sign sb hsb J (by rw [hSM]; exact hJ)
      rw [hKM sb hsb] at h1
      have h2 := hVg J hJ
      rw [hIM] at h2
      have h3 : X.elem sb.1 J = b.elem sb.1 J := by
        rw [Arr.elem_of_phases_nil hF.rel.xph, hV, Arr.elem_of_phases_nil hph,
          alookup_of_mem_nodup hva.nodup hsb]
        exact h2
      rw [h1, h3]
  · intro K V hl hK J hJ
    have hs := hF.rel.shape.2 K
    rw [hl] at hs
    cases hx : alookup X.blocks K with
    | none => rw [hx] at hs; simp at hs
    | some Vx =>
      rw [hx] at hs
      simp only [Option.map_some, Option.some.injEq] at hs
      apply hF.rel.zero K Vx hx J (by rw [← hs]; exact hJ)
      rcases hSk.only K Vx hx J (by rw [← hs]; exact hJ) with ⟨sb, hsb, offs, _, hKeq, _⟩ | h0
      · exfalso
        exact hK sb hsb (by rw [hKeq, hKM sb hsb])
      · rw [Arr.elem_of_phases_nil hF.rel.xph, hx]; exact h0

end Full

section Final
variable {a : Arr R} {groups : List (List Nat)}

/-- **unfuseF ∘ fuseF** (block form over the sign-adjusted, transposed operand) -/
theorem unfuseF_fuseF_M (e : Bool) (hv : a.validB = true) (hf : a.fermi = true) (hok : GroupsOk groups a.ndim) :
    ∃ y z, Arr.fuseF a groups .insert e = .ok y ∧ unfuseFromF a groups groups.length y = .ok z
      ∧ z.validB = true ∧ z.fermi = true
      ∧ z.indices = permuted a.indices (calcFuseGroupInfo groups a.duals).perm
      ∧ z.sym = a.sym ∧ z.charge = a.charge ∧ z.oddpos = a.oddpos
      ∧ (∀ sb4 ∈ (signAdj a groups).blocks, ∃ V, alookup z.blocks sb4.1 = some V ∧ V.shape = sb4.2.shape
          ∧ ∀ J, inBox sb4.2.shape J = true →
              z.elem sb4.1 J = (a.transposeF (calcFuseGroupInfo groups a.duals).perm).elem sb4.1 J)
      ∧ (∀ K V, alookup z.blocks K = some V → (∀ sb4 ∈ (signAdj a groups).blocks, K ≠ sb4.1) →
          ∀ J, inBox V.shape J = true → z.elem K J = 0) := by
  have hfld := signAdj_fields a groups
  have hc4 : ValidP.Core (signAdj a groups) := (signAdj_valid a groups hv hf hok).core
  have hd4 := signAdj_duals_length (a := a) hok
  have hok4 := signAdj_groupsOk (a := a) hok
  have hperm := signAdj_perm (a := a) hok
  have hlen : (newGroupsF groups a.duals).length = groups.length := newGroupsF_length _ _
  obtain ⟨hy, hyV, hyf⟩ := fuseF_fusedArrM (a := a) e hv hf hok
  have hS0 := stage_zero hc4 hok4
  have h0 : FInv a groups 0 (fusedArrM (signAdj a groups) (newGroupsF groups a.duals))
      (fusedArrM (signAdj a groups) (newGroupsF groups a.duals)) :=
    ⟨⟨⟨hyV, hyf, hS0.core, hfld.1, ShapeEq.refl _, fun _ _ _ _ _ h => h⟩, hS0,
        fun sb4 _ J _ => by simp [tauF]⟩,
      hfld.2.2.1, ⟨hfld.2.2.2.2.1, hfld.2.2.2.2.2⟩⟩
  obtain ⟨z, X, hz, hF⟩ := finv_iter hv hf hok groups.length 0 (by omega) h0
  -- the groups `newGroupsF` stand in place: their permutation is the identity
  obtain ⟨hidx, hst, hzero⟩ := finvG_full hc4 hfld.1 hok4
    (show (calcFuseGroupInfo (newGroupsF groups a.duals) (signAdj a groups).duals).perm = _ by
      rw [hperm, ← hd4, duals_length])
    (hlen ▸ hF.toFInvG)
  refine ⟨_, z, hy, hz, hF.rel.zvalid, hF.rel.zfermi, hidx.trans hfld.2.1, hF.sym, hF.lab.1, hF.lab.2,
    fun sb4 hsb4 => ?_, hzero⟩
  obtain ⟨V, hV, hVs, hel⟩ := hst sb4 hsb4
  refine ⟨V, hV, hVs, fun J hJ => ?_⟩
  rw [hel J hJ, FuseP.signAdj_elem, hlen, tauF_full hok, sgnI_sgnI]

end Final

end FuseP
end SymmModel
