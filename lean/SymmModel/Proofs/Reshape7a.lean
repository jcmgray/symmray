/-
  SymmModel.Proofs.Reshape7a — the normalisation lemma.  `MSeg`: the planner-independent description
  of a target obtained by merging adjacent axes and/or dropping size-one axes — a list of segments,
  each a run of ≥ 1 axes mapped to their product, or a size-one axis dropped.  Every such description
  (positive sizes) can be rewritten as an `ItemsOk` item list — the planner's own reading — with the
  same old shape and the same target.
  The reading chosen (the planner's): a size-one axis facing a target dimension 1 is KEPT, the
  dropped one is a later one (`pushSq`); leading and trailing ones of a run are squeezed axes
  (`Sq`), the run proper starts and ends with sizes ≥ 2.
-/
import SymmModel.Proofs.Reshape6e
namespace SymmModel.Reshape5
open SymmModel SymmModel.Reshape SymmModel.C07

/-- one segment of a merge / drop description -/
inductive MSeg where
  | run (r : List Nat)     -- `r ≠ []`: the axes `r` become one axis of size `prod r`
  | drop                   -- a size-one axis is dropped
  deriving Repr, DecidableEq

def MSeg.shape : MSeg → List Nat
  | .run r => r
  | .drop => [1]

def MSeg.target : MSeg → List Nat
  | .run r => [prod r]
  | .drop => []

def shapeS (segs : List MSeg) : List Nat := segs.flatMap MSeg.shape
def targetS (segs : List MSeg) : List Nat := segs.flatMap MSeg.target

@[simp] theorem shapeS_cons (s : MSeg) (r : List MSeg) : shapeS (s :: r) = s.shape ++ shapeS r := by
  simp [shapeS]
@[simp] theorem targetS_cons (s : MSeg) (r : List MSeg) : targetS (s :: r) = s.target ++ targetS r := by
  simp [targetS]

def MSegOk : MSeg → Prop
  | .run r => r ≠ [] ∧ ∀ d ∈ r, 1 ≤ d
  | .drop => True

instance : DecidablePred MSegOk := fun s => by cases s <;> (unfold MSegOk; infer_instance)

/-- a size-one axis in front of `T`, in the planner's reading: it is kept if the next target
    dimension is 1 (then a later one is the dropped one) -/
def pushSq : List Item → List Item
  | .K 1 :: T => .K 1 :: pushSq T
  | T => .Sq :: T

def pushN : Nat → List Item → List Item
  | 0, T => T
  | n + 1, T => pushSq (pushN n T)

theorem head_target_ne_one : ∀ (T : List Item), ItemsOk T → (∀ T', T ≠ Item.K 1 :: T') →
    (targetOf T).head? ≠ some 1 := by
  intro T hok hne
  cases T with
  | nil => simp
  | cons a T' =>
    cases a with
    | K d =>
      have : d ≠ 1 := fun h => hne T' (by rw [h])
      simp [Item.target]; exact this
    | Sq => simpa [Item.target] using hok.1
    | M d0 mid dl =>
      obtain ⟨h0, hl, hm, _⟩ := hok
      have := prod_suffix_ge2 hm hl
      simp only [targetOf_cons, Item.target, List.singleton_append, List.head?_cons, ne_eq,
        Option.some.injEq, prod]
      intro hc
      have : 2 * 2 ≤ d0 * prod (mid ++ [dl]) := Nat.mul_le_mul h0 this
      omega

theorem pushSq_spec : ∀ (T : List Item), ItemsOk T →
    ItemsOk (pushSq T) ∧ shapeOf (pushSq T) = 1 :: shapeOf T ∧ targetOf (pushSq T) = targetOf T := by
  intro T
  induction T with
  | nil => intro _; exact ⟨⟨by simp, trivial⟩, rfl, rfl⟩
  | cons a T ih =>
    intro hok
    by_cases h1 : a = Item.K 1
    · subst h1
      obtain ⟨i1, i2, i3⟩ := ih hok
      refine ⟨i1, ?_, ?_⟩
      · simp only [pushSq, shapeOf_cons, Item.shape, i2]; rfl
      · simp only [pushSq, targetOf_cons, Item.target, i3]
    · have hp : pushSq (a :: T) = Item.Sq :: a :: T := by
        cases a with
        | K d =>
          have : d ≠ 1 := fun h => h1 (by rw [h])
          unfold pushSq
          split
          · rename_i heq; injection heq with h _; injection h with h; exact (this h).elim
          · rfl
        | Sq => rfl
        | M _ _ _ => rfl
      rw [hp]
      refine ⟨⟨head_target_ne_one (a :: T) hok (fun T' h => by injection h with h _; exact h1 h), hok⟩, ?_, ?_⟩
      · simp [Item.shape]
      · simp [Item.target]

theorem pushN_spec : ∀ (n : Nat) (T : List Item), ItemsOk T →
    ItemsOk (pushN n T) ∧ shapeOf (pushN n T) = List.replicate n 1 ++ shapeOf T
      ∧ targetOf (pushN n T) = targetOf T := by
  intro n
  induction n with
  | zero => intro T h; exact ⟨h, by simp [pushN], rfl⟩
  | succ n ih =>
    intro T h
    obtain ⟨i1, i2, i3⟩ := ih T h
    obtain ⟨j1, j2, j3⟩ := pushSq_spec _ i1
    exact ⟨j1, by simp only [pushN, j2, i2, List.replicate_succ, List.cons_append], by simp only [pushN, j3, i3]⟩

theorem sq_front : ∀ (a : Nat) (X : List Item), ItemsOk X → (targetOf X).head? ≠ some 1 →
    ItemsOk (List.replicate a Item.Sq ++ X)
      ∧ shapeOf (List.replicate a Item.Sq ++ X) = List.replicate a 1 ++ shapeOf X
      ∧ targetOf (List.replicate a Item.Sq ++ X) = targetOf X := by
  intro a
  induction a with
  | zero => intro X h _; exact ⟨h, by simp, by simp⟩
  | succ a ih =>
    intro X h hh
    obtain ⟨i1, i2, i3⟩ := ih X h hh
    have e : List.replicate (a + 1) Item.Sq ++ X = Item.Sq :: (List.replicate a Item.Sq ++ X) := by
      simp [List.replicate_succ]
    rw [e]
    exact ⟨⟨by rw [i3]; exact hh, i1⟩, by rw [shapeOf_cons, i2]; simp [Item.shape, List.replicate_succ],
      by rw [targetOf_cons, i3]; simp [Item.target]⟩

theorem split_run : ∀ (r : List Nat), r ≠ [] → (∀ d ∈ r, 1 ≤ d) →
    (∀ d ∈ r, d = 1)
    ∨ (∃ a d0 b, 2 ≤ d0 ∧ r = List.replicate a 1 ++ d0 :: List.replicate b 1)
    ∨ (∃ a d0 mid dl b, 2 ≤ d0 ∧ 2 ≤ dl ∧ (∀ d ∈ mid, 1 ≤ d)
        ∧ r = List.replicate a 1 ++ d0 :: (mid ++ [dl]) ++ List.replicate b 1) := by
  intro r
  induction r with
  | nil => intro h; exact (h rfl).elim
  | cons d r ih =>
    intro _ hpos
    have hd := hpos d (by simp)
    have hposr : ∀ d' ∈ r, 1 ≤ d' := fun d' h => hpos d' (by simp [h])
    by_cases hr : r = []
    · subst hr
      by_cases h1 : d = 1
      · left; intro d' hd'; simp at hd'; rw [hd', h1]
      · right; left; exact ⟨0, d, 0, by omega, by simp⟩
    · rcases ih hr hposr with hall | ⟨a, d0, b, h0, rfl⟩ | ⟨a, d0, mid, dl, b, h0, hl, hm, rfl⟩
      · by_cases h1 : d = 1
        · left; intro d' hd'
          rcases List.mem_cons.mp hd' with rfl | h
          · exact h1
          · exact hall d' h
        · right; left
          refine ⟨0, d, r.length, by omega, ?_⟩
          have : r = List.replicate r.length 1 := List.eq_replicate_iff.mpr ⟨rfl, hall⟩
          conv => lhs; rw [this]
          simp
      · by_cases h1 : d = 1
        · right; left; exact ⟨a + 1, d0, b, h0, by rw [h1]; simp [List.replicate_succ]⟩
        · right; right
          exact ⟨0, d, List.replicate a 1, d0, b, by omega, h0,
            fun d' hd' => by rw [(List.mem_replicate.mp hd').2], by simp⟩
      · by_cases h1 : d = 1
        · right; right
          exact ⟨a + 1, d0, mid, dl, b, h0, hl, hm, by rw [h1]; simp [List.replicate_succ]⟩
        · right; right
          refine ⟨0, d, List.replicate a 1 ++ d0 :: mid, dl, b, by omega, hl, ?_, by simp⟩
          intro d' hd'
          rcases List.mem_append.mp hd' with h | h
          · rw [(List.mem_replicate.mp h).2]
          · rcases List.mem_cons.mp h with rfl | h
            · omega
            · exact hm d' h

theorem prod_replicate_one (n : Nat) : prod (List.replicate n 1) = 1 := by
  induction n with
  | zero => rfl
  | succ n ih => simp [List.replicate_succ, prod, ih]

theorem normalise : ∀ (segs : List MSeg), (∀ s ∈ segs, MSegOk s) →
    ∃ items, ItemsOk items ∧ shapeOf items = shapeS segs ∧ targetOf items = targetS segs := by
  intro segs
  induction segs with
  | nil => intro _; exact ⟨[], trivial, rfl, rfl⟩
  | cons s segs ih =>
    intro hok
    obtain ⟨T, hT, hsT, htT⟩ := ih (fun s' hs' => hok s' (by simp [hs']))
    have hs := hok s (by simp)
    cases s with
    | drop =>
      obtain ⟨j1, j2, j3⟩ := pushSq_spec T hT
      exact ⟨pushSq T, j1, by rw [shapeS_cons, j2, hsT]; rfl, by rw [targetS_cons, j3, htT]; rfl⟩
    | run r =>
      obtain ⟨hne, hpos⟩ := hs
      have hS : shapeS (MSeg.run r :: segs) = r ++ shapeOf T := by rw [shapeS_cons, hsT]; rfl
      have hTt : targetS (MSeg.run r :: segs) = prod r :: targetOf T := by rw [targetS_cons, htT]; rfl
      rw [hS, hTt]
      rcases split_run r hne hpos with hall | ⟨a, d0, b, h0, rfl⟩ | ⟨a, d0, mid, dl, b, h0, hl, hm, rfl⟩
      · -- a run of ones: the first is kept
        have hr : r = List.replicate r.length 1 := List.eq_replicate_iff.mpr ⟨rfl, hall⟩
        obtain ⟨n, hn⟩ : ∃ n, r.length = n + 1 := ⟨r.length - 1, by
          have := List.length_pos_iff.mpr hne; omega⟩
        obtain ⟨j1, j2, j3⟩ := pushN_spec n T hT
        refine ⟨Item.K 1 :: pushN n T, j1, ?_, ?_⟩
        · rw [shapeOf_cons, j2, hr, hn]; simp [Item.shape, List.replicate_succ]
        · rw [targetOf_cons, j3, hr, prod_replicate_one]; rfl
      · obtain ⟨j1, j2, j3⟩ := pushN_spec b T hT
        have hX : ItemsOk (Item.K d0 :: pushN b T) := j1
        obtain ⟨k1, k2, k3⟩ := sq_front a (Item.K d0 :: pushN b T) hX (by
          simp [Item.target]; omega)
        refine ⟨_, k1, ?_, ?_⟩
        · rw [k2, shapeOf_cons, j2]; simp [Item.shape]
        · rw [k3, targetOf_cons, j3]
          simp [Item.target, prod_append, prod, prod_replicate_one]
      · obtain ⟨j1, j2, j3⟩ := pushN_spec b T hT
        have hX : ItemsOk (Item.M d0 mid dl :: pushN b T) := ⟨h0, hl, hm, j1⟩
        have h4 : 2 * 2 ≤ d0 * prod (mid ++ [dl]) := Nat.mul_le_mul h0 (prod_suffix_ge2 hm hl)
        obtain ⟨k1, k2, k3⟩ := sq_front a (Item.M d0 mid dl :: pushN b T) hX (by
          simp only [targetOf_cons, Item.target, List.singleton_append, List.head?_cons, ne_eq,
            Option.some.injEq, prod]
          omega)
        refine ⟨_, k1, ?_, ?_⟩
        · rw [k2, shapeOf_cons, j2]; simp [Item.shape]
        · rw [k3, targetOf_cons, j3]
          simp only [Item.target, List.singleton_append, List.cons.injEq, and_true]
          simp [prod_append, prod, prod_replicate_one]

end SymmModel.Reshape5
