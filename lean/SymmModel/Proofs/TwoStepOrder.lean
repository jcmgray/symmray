/-
  SymmModel.Proofs.TwoStepOrder — the axis order of the fermionic einsum that traces the remaining
  pairs in the intermediate of a two-step contraction (C04): `einOrder` sorts the axes by (output
  position | traced, label, bra first), and for the labels `tsLhs -> tsRhs` the sorted order is `tsOrder`.
  Proved generically in the traced positions (`Geo`, `lab`, `gLhs`, `gRhs`, `gFront`), then read for
  `tsPA` / `tsPB`; last, the abelian einsum data of the canonical labels `dblFront N m ++ rhs` that the
  transposition to `tsOrder` produces.  Namespace `SymmModel.TwoStepP`.
-/
import SymmModel.Proofs.TwoStepDefs
import SymmModel.Proofs.FuseAssoc

namespace SymmModel
namespace TwoStepP
open TdotP GradedP Lazy

/-- the traced positions: two lists of the same length `m`, jointly duplicate free, below `N` -/
structure Geo (N m : Nat) (PA PB : List Nat) : Prop where
  lenA : PA.length = m
  lenB : PB.length = m
  nd : (PA ++ PB).Nodup
  lt : ∀ x ∈ PA ++ PB, x < N

theorem posIn_lt_get {l : List Nat} {ax : Nat} (h : ax ∈ l) :
    posIn l ax < l.length ∧ l[posIn l ax]? = some ax := by
  obtain ⟨k, hk, hk'⟩ := indexOf?_of_mem h
  have : posIn l ax = k := by unfold posIn; rw [hk]; rfl
  rw [this]
  refine ⟨?_, hk'⟩
  by_contra hlt
  rw [List.getElem?_eq_none (by omega)] at hk'
  cases hk'

theorem posIn_inj {l : List Nat} {x y : Nat} (hx : x ∈ l) (hy : y ∈ l) (h : posIn l x = posIn l y) :
    x = y := by
  have h1 := (posIn_lt_get hx).2
  have h2 := (posIn_lt_get hy).2
  rw [h, h2] at h1
  exact (Option.some.inj h1).symm

theorem mem_free_of {n : Nat} {x y : List Nat} (hn : (x ++ y).Nodup) (hlt : ∀ i ∈ x ++ y, i < n)
    {ax : Nat} (h : ax ∈ y) : ax ∈ freeAxes n x := by
  rw [mem_freeAxes]
  refine ⟨hlt ax (List.mem_append_right _ h), fun hx => ?_⟩
  exact (List.disjoint_of_nodup_append hn) hx h

theorem getD_mem {α : Type} (l : List α) (i : Nat) (d : α) (h : i < l.length) : l.getD i d ∈ l := by
  rw [List.getD_eq_getElem?_getD, List.getElem?_eq_getElem h]; exact List.getElem_mem h

theorem tsPA_lt {na : Nat} {xa ya : List Nat} (hn : (xa ++ ya).Nodup) (hlt : ∀ i ∈ xa ++ ya, i < na) :
    ∀ p ∈ tsPA na xa ya, p < (freeAxes na xa).length := by
  intro p hp
  obtain ⟨ax, hax, rfl⟩ := List.mem_map.1 hp
  exact (posIn_lt_get (mem_free_of hn hlt hax)).1

theorem tsPB_ge (na nb : Nat) (xa xb yb : List Nat) :
    ∀ q ∈ tsPB na nb xa xb yb, (freeAxes na xa).length ≤ q := by
  intro p hp
  obtain ⟨ax, hax, rfl⟩ := List.mem_map.1 hp
  omega

theorem geo_ts {na nb : Nat} {xa xb ya yb : List Nat}
    (hnA : (xa ++ ya).Nodup) (hA : ∀ i ∈ xa ++ ya, i < na)
    (hnB : (xb ++ yb).Nodup) (hB : ∀ i ∈ xb ++ yb, i < nb) (hly : ya.length = yb.length) :
    Geo (tsN na nb xa xb) ya.length (tsPA na xa ya) (tsPB na nb xa xb yb) := by
  have hPB : ∀ p ∈ tsPB na nb xa xb yb, p < tsN na nb xa xb := by
    intro p hp
    obtain ⟨ax, hax, rfl⟩ := List.mem_map.1 hp
    have := (posIn_lt_get (mem_free_of hnB hB hax)).1
    unfold tsN
    omega
  refine ⟨by simp [tsPA], by simp [tsPB, hly], ?_, ?_⟩
  · rw [List.nodup_append]
    refine ⟨?_, ?_, ?_⟩
    · refine List.Nodup.map_on ?_ (List.Nodup.of_append_right hnA)
      intro x hx y hy h
      exact posIn_inj (mem_free_of hnA hA hx) (mem_free_of hnA hA hy) h
    · refine List.Nodup.map_on ?_ (List.Nodup.of_append_right hnB)
      intro x hx y hy h
      exact posIn_inj (mem_free_of hnB hB hx) (mem_free_of hnB hB hy) (by omega)
    · intro p hp q hq e
      have := tsPA_lt hnA hA p hp
      have := tsPB_ge na nb xa xb yb q hq
      omega
  · intro x hx
    rcases List.mem_append.1 hx with h | h
    · have := tsPA_lt hnA hA x h
      unfold tsN
      omega
    · exact hPB x h

/-- the label of position `p`: `N + i` on both legs of the `i`-th pair, `p` itself elsewhere -/
def lab (N : Nat) (PA PB : List Nat) (p : Nat) : Nat :=
  match indexOf? PA p with
  | some i => N + i
  | none => match indexOf? PB p with
    | some i => N + i
    | none => p

def gLhs (N : Nat) (PA PB : List Nat) : List Nat := (List.range N).map (lab N PA PB)

def gRhs (N : Nat) (PA PB : List Nat) : List Nat :=
  (List.range N).filter (fun p => !PA.contains p && !PB.contains p)

def gFront (d : Nat → Bool) (PA PB : List Nat) (m : Nat) : List Nat :=
  (List.range m).flatMap (fun i =>
    if d i then [PA.getD i 0, PB.getD i 0] else [PB.getD i 0, PA.getD i 0])

theorem tsLhs_eq_gLhs (na nb : Nat) (xa xb ya yb : List Nat) :
    tsLhs na nb xa xb ya yb = gLhs (tsN na nb xa xb) (tsPA na xa ya) (tsPB na nb xa xb yb) := rfl

theorem tsRhs_eq_gRhs (na nb : Nat) (xa xb ya yb : List Nat) :
    tsRhs na nb xa xb ya yb = gRhs (tsN na nb xa xb) (tsPA na xa ya) (tsPB na nb xa xb yb) := rfl

theorem tsOrder_eq_gOrder {R : Type} (a : Arr R) (nb : Nat) (xa xb ya yb : List Nat) :
    tsOrder a nb xa xb ya yb =
      gFront (fun i => (a.indices.getD (ya.getD i 0) default).dual) (tsPA a.ndim xa ya)
        (tsPB a.ndim nb xa xb yb) ya.length
      ++ gRhs (tsN a.ndim nb xa xb) (tsPA a.ndim xa ya) (tsPB a.ndim nb xa xb yb) := rfl

theorem mem_gRhs {N : Nat} {PA PB : List Nat} {p : Nat} :
    p ∈ gRhs N PA PB ↔ p < N ∧ p ∉ PA ∧ p ∉ PB := by
  simp [gRhs, List.mem_filter]

theorem gRhs_nodup (N : Nat) (PA PB : List Nat) : (gRhs N PA PB).Nodup :=
  List.Nodup.sublist List.filter_sublist List.nodup_range

theorem gLhs_length (N : Nat) (PA PB : List Nat) : (gLhs N PA PB).length = N := by
  simp [gLhs]

theorem gLhs_eq_lab (N : Nat) (PA PB : List Nat) : gLhs N PA PB = (List.range N).map (lab N PA PB) := rfl

theorem gLhs_getElem? (N : Nat) (PA PB : List Nat) {p : Nat} (hp : p < N) :
    (gLhs N PA PB)[p]? = some (lab N PA PB p) := by
  rw [gLhs_eq_lab, List.getElem?_map, List.getElem?_range hp]; rfl

theorem gLhs_getD {N : Nat} (PA PB : List Nat) {p : Nat} (hp : p < N) :
    (gLhs N PA PB).getD p 0 = lab N PA PB p := by
  rw [List.getD_eq_getElem?_getD, gLhs_getElem? N PA PB hp]; rfl

section geo
variable {N m : Nat} {PA PB : List Nat} (g : Geo N m PA PB)
include g

theorem Geo.ndA : PA.Nodup := List.Nodup.of_append_left g.nd
theorem Geo.ndB : PB.Nodup := List.Nodup.of_append_right g.nd

theorem Geo.getA {i : Nat} (hi : i < m) :
    PA.getD i 0 ∈ PA ∧ indexOf? PA (PA.getD i 0) = some i := by
  have h : i < PA.length := by rw [g.lenA]; exact hi
  have e : PA.getD i 0 = PA[i] := by simp [List.getD_eq_getElem?_getD, h]
  rw [e]
  exact ⟨List.getElem_mem h, indexOf?_getElem g.ndA h⟩

theorem Geo.getB {i : Nat} (hi : i < m) :
    PB.getD i 0 ∈ PB ∧ indexOf? PB (PB.getD i 0) = some i := by
  have h : i < PB.length := by rw [g.lenB]; exact hi
  have e : PB.getD i 0 = PB[i] := by simp [List.getD_eq_getElem?_getD, h]
  rw [e]
  exact ⟨List.getElem_mem h, indexOf?_getElem g.ndB h⟩

theorem Geo.ltA {p : Nat} (h : p ∈ PA) : p < N := g.lt p (List.mem_append_left _ h)
theorem Geo.ltB {p : Nat} (h : p ∈ PB) : p < N := g.lt p (List.mem_append_right _ h)

theorem labA {i : Nat} (hi : i < m) : lab N PA PB (PA.getD i 0) = N + i := by
  unfold lab; rw [(g.getA hi).2]

theorem labB {i : Nat} (hi : i < m) : lab N PA PB (PB.getD i 0) = N + i := by
  have hn : indexOf? PA (PB.getD i 0) = none :=
    indexOf?_eq_none_iff.2 (fun h => (List.disjoint_of_nodup_append g.nd) h (g.getB hi).1)
  unfold lab; rw [hn, (g.getB hi).2]

omit g in
theorem labR {p : Nat} (h : p ∈ gRhs N PA PB) : lab N PA PB p = p := by
  obtain ⟨_, h2, h3⟩ := mem_gRhs.1 h
  unfold lab; rw [indexOf?_eq_none_iff.2 h2, indexOf?_eq_none_iff.2 h3]

theorem Geo.lhsA {i : Nat} (hi : i < m) : (gLhs N PA PB).getD (PA.getD i 0) 0 = N + i := by
  rw [gLhs_getD PA PB (g.ltA (g.getA hi).1), labA g hi]

theorem Geo.lhsB {i : Nat} (hi : i < m) : (gLhs N PA PB).getD (PB.getD i 0) 0 = N + i := by
  rw [gLhs_getD PA PB (g.ltB (g.getB hi).1), labB g hi]

omit g in
theorem lhsR {p : Nat} (h : p ∈ gRhs N PA PB) : (gLhs N PA PB).getD p 0 = p := by
  rw [gLhs_getD PA PB (mem_gRhs.1 h).1, labR h]

end geo

def klt (x y : Int × Nat × Bool) : Bool :=
  x.1 < y.1 || (x.1 == y.1 && (x.2.1 < y.2.1 || (x.2.1 == y.2.1 && (!x.2.2 && y.2.2))))

/-- the sort key order is the lexicographic one; the last component (bra before ket) is compared through
    `Bool.toNat`, so that `omega` can decide statements about the order -/
theorem klt_iff (x y : Int × Nat × Bool) : klt x y = true ↔
    x.1 < y.1 ∨ (x.1 = y.1 ∧ (x.2.1 < y.2.1 ∨ (x.2.1 = y.2.1 ∧ x.2.2.toNat < y.2.2.toNat))) := by
  have : (x.2.2 = false ∧ y.2.2 = true) ↔ x.2.2.toNat < y.2.2.toNat := by
    cases x.2.2 <;> cases y.2.2 <;> simp
  simp [klt, this]

theorem klt_trans (a b c : Int × Nat × Bool) (h1 : klt a b = true) (h2 : klt b c = true) :
    klt a c = true := by
  rw [klt_iff] at *
  omega

theorem klt_tri (a b : Int × Nat × Bool) : klt a b = true ∨ a = b ∨ klt b a = true := by
  have h3 : a.2.2.toNat = b.2.2.toNat → a.2.2 = b.2.2 := by
    cases a.2.2 <;> cases b.2.2 <;> simp
  rw [klt_iff, klt_iff]
  by_cases h : a.1 = b.1 ∧ a.2.1 = b.2.1 ∧ a.2.2.toNat = b.2.2.toNat
  · exact Or.inr (Or.inl (Prod.ext h.1 (Prod.ext h.2.1 (h3 h.2.2))))
  · omega

theorem klt_irrefl (a : Int × Nat × Bool) : klt a a = false := by
  cases h : klt a a with
  | false => rfl
  | true => rw [klt_iff] at h; omega

section key
variable {R : Type}

def ekey (D : Nat → Bool) (lhs rhs : List Nat) (i : Nat) : Int × Nat × Bool :=
  let q := lhs.getD i 0
  ((match indexOf? rhs q with | some j => (j : Int) | none => -1), q,
    !(D i))

theorem einOrder_eq_isort [Zero R] [Neg R] (c : Arr R) (lhs rhs : List Nat) :
    einOrder c lhs rhs =
      isort (fun i j => klt (ekey (fun i => (c.indices.getD i default).dual) lhs rhs i)
        (ekey (fun i => (c.indices.getD i default).dual) lhs rhs j)) (List.range c.ndim) := rfl

variable {N m : Nat} {PA PB : List Nat} (g : Geo N m PA PB) (D : Nat → Bool) (d : Nat → Bool)
  (hdA : ∀ i, i < m → D (PA.getD i 0) = d i)
  (hdB : ∀ i, i < m → D (PB.getD i 0) = !d i)

theorem not_mem_gRhs_ge {N : Nat} {PA PB : List Nat} {q : Nat} (h : N ≤ q) : q ∉ gRhs N PA PB := by
  intro hq
  have := (mem_gRhs.1 hq).1
  omega

include g hdA in
theorem keyA {i : Nat} (hi : i < m) :
    ekey D (gLhs N PA PB) (gRhs N PA PB) (PA.getD i 0) = (-1, N + i, !d i) := by
  unfold ekey
  simp only
  rw [g.lhsA hi, hdA i hi, indexOf?_eq_none_iff.2 (not_mem_gRhs_ge (Nat.le_add_right _ _))]

include g hdB in
theorem keyB {i : Nat} (hi : i < m) :
    ekey D (gLhs N PA PB) (gRhs N PA PB) (PB.getD i 0) = (-1, N + i, d i) := by
  unfold ekey
  simp only
  rw [g.lhsB hi, hdB i hi, indexOf?_eq_none_iff.2 (not_mem_gRhs_ge (Nat.le_add_right _ _)),
    Bool.not_not]

theorem keyR {j : Nat} (hj : j < (gRhs N PA PB).length) :
    ekey D (gLhs N PA PB) (gRhs N PA PB) (gRhs N PA PB)[j] =
      ((j : Int), (gRhs N PA PB)[j], !(D (gRhs N PA PB)[j])) := by
  unfold ekey
  simp only
  rw [lhsR (List.getElem_mem hj), indexOf?_getElem (gRhs_nodup N PA PB) hj]

theorem mem_swap_pair {c : Prop} [Decidable c] {u v x : Nat} :
    x ∈ (if c then [u, v] else [v, u]) ↔ x = u ∨ x = v := by
  split <;> simp only [List.mem_cons, List.not_mem_nil, or_false]
  exact or_comm

theorem mem_gFront {d : Nat → Bool} {PA PB : List Nat} {m x : Nat} :
    x ∈ gFront d PA PB m ↔ ∃ i, i < m ∧ (x = PA.getD i 0 ∨ x = PB.getD i 0) := by
  unfold gFront
  simp only [List.mem_flatMap, List.mem_range, mem_swap_pair]

def ordS (D : Nat → Bool) (N : Nat) (PA PB : List Nat) (x y : Nat) : Prop :=
  klt (ekey D (gLhs N PA PB) (gRhs N PA PB) x) (ekey D (gLhs N PA PB) (gRhs N PA PB) y) = true

include g hdA hdB in
theorem gOrder_pairwise :
    (gFront d PA PB m ++ gRhs N PA PB).Pairwise (ordS D N PA PB) := by
  have kA := fun {i} (hi : i < m) => keyA g D d hdA hi
  have kB := fun {i} (hi : i < m) => keyB g D d hdB hi
  rw [List.pairwise_append]
  refine ⟨?_, ?_, ?_⟩
  · unfold gFront
    rw [List.pairwise_flatMap]
    refine ⟨?_, ?_⟩
    · intro i hi
      have hi := List.mem_range.1 hi
      -- inside a block the keys differ in the last component only, and the bra's is `false`
      cases hd : d i
      · rw [if_neg Bool.false_ne_true, List.pairwise_pair]
        unfold ordS
        rw [kA hi, kB hi, klt_iff]
        simp [hd]
      · rw [if_pos rfl, List.pairwise_pair]
        unfold ordS
        rw [kA hi, kB hi, klt_iff]
        simp [hd]
    · refine List.Pairwise.imp_of_mem ?_ (List.pairwise_lt_range (n := m))
      intro i j hi hj hij x hx y hy
      have hi := List.mem_range.1 hi
      have hj := List.mem_range.1 hj
      -- both entries of the `i`-th block carry the label `N + i`
      obtain ⟨bx, ex⟩ : ∃ b, ekey D (gLhs N PA PB) (gRhs N PA PB) x = (-1, N + i, b) := by
        rcases mem_swap_pair.1 hx with rfl | rfl
        · exact ⟨_, kA hi⟩
        · exact ⟨_, kB hi⟩
      obtain ⟨by', ey⟩ : ∃ b, ekey D (gLhs N PA PB) (gRhs N PA PB) y = (-1, N + j, b) := by
        rcases mem_swap_pair.1 hy with rfl | rfl
        · exact ⟨_, kA hj⟩
        · exact ⟨_, kB hj⟩
      unfold ordS
      rw [ex, ey, klt_iff]
      right
      exact ⟨rfl, Or.inl (by simp only; omega)⟩
  · rw [List.pairwise_iff_getElem]
    intro i j hi hj hij
    unfold ordS
    rw [keyR D hi, keyR D hj, klt_iff]
    left
    simp only
    omega
  · intro x hx y hy
    obtain ⟨i, hi, hx⟩ := mem_gFront.1 hx
    obtain ⟨j, hj, rfl⟩ := List.getElem_of_mem hy
    unfold ordS
    rw [keyR D hj, klt_iff]
    left
    rcases hx with rfl | rfl
    · rw [kA hi]; simp only; omega
    · rw [kB hi]; simp only; omega

include g hdA hdB in
theorem gOrder_perm : (gFront d PA PB m ++ gRhs N PA PB).Perm (List.range N) := by
  have hp := gOrder_pairwise g D d hdA hdB
  have hnd : (gFront d PA PB m ++ gRhs N PA PB).Nodup := by
    refine List.Pairwise.imp ?_ hp
    intro x y h e
    subst e
    unfold ordS at h
    rw [klt_irrefl] at h
    cases h
  rw [List.perm_ext_iff_of_nodup hnd List.nodup_range]
  intro x
  rw [List.mem_append, mem_gFront, mem_gRhs, List.mem_range]
  constructor
  · rintro (⟨i, hi, rfl | rfl⟩ | h)
    · exact g.ltA (g.getA hi).1
    · exact g.ltB (g.getB hi).1
    · exact h.1
  · intro hx
    by_cases hA : x ∈ PA
    · obtain ⟨i, hi, rfl⟩ := List.getElem_of_mem hA
      left
      refine ⟨i, by rw [← g.lenA]; exact hi, Or.inl ?_⟩
      simp [List.getD_eq_getElem?_getD, hi]
    · by_cases hB : x ∈ PB
      · obtain ⟨i, hi, rfl⟩ := List.getElem_of_mem hB
        left
        refine ⟨i, by rw [← g.lenB]; exact hi, Or.inr ?_⟩
        simp [List.getD_eq_getElem?_getD, hi]
      · exact Or.inr ⟨hx, hA, hB⟩

include g hdA hdB in
theorem einOrder_eq_gOrder [Zero R] [Neg R] (c : Arr R) (hn : c.ndim = N)
    (hD : D = fun i => (c.indices.getD i default).dual) :
    einOrder c (gLhs N PA PB) (gRhs N PA PB) = gFront d PA PB m ++ gRhs N PA PB := by
  have hp := gOrder_pairwise g D d hdA hdB
  have hperm := gOrder_perm g D d hdA hdB
  have hkn : ((List.range N).map (ekey D (gLhs N PA PB) (gRhs N PA PB))).Nodup := by
    rw [← (hperm.map _).nodup_iff]
    have : ((gFront d PA PB m ++ gRhs N PA PB).map
        (ekey D (gLhs N PA PB) (gRhs N PA PB))).Pairwise (fun a b => klt a b = true) :=
      List.pairwise_map.2 hp
    refine List.Pairwise.imp ?_ this
    intro x y h e
    subst e
    rw [klt_irrefl] at h
    cases h
  have hs := FuseP.isort_pairwise (ekey D (gLhs N PA PB) (gRhs N PA PB)) klt klt_trans klt_tri
    (List.range N) hkn
  rw [einOrder_eq_isort, hn, ← hD]
  refine List.Perm.eq_of_pairwise (le := ordS D N PA PB) ?_ hs hp
    ((isort_perm _ _).trans hperm.symm)
  intro x y _ _ h1 h2
  unfold ordS at h1 h2
  have := klt_trans _ _ _ h1 h2
  rw [klt_irrefl] at this
  cases this

theorem gFront_length (d : Nat → Bool) (PA PB : List Nat) (m : Nat) :
    (gFront d PA PB m).length = 2 * m := by
  unfold gFront
  rw [KoszulP.length_flatMap_uniform _ 2 (fun j => by split <;> rfl) m, Nat.mul_comm]

include g in
theorem permuted_gLhs_gOrder :
    permuted (gLhs N PA PB) (gFront d PA PB m ++ gRhs N PA PB) =
      (List.range m).flatMap (fun i => [N + i, N + i]) ++ gRhs N PA PB := by
  have hlt : ∀ x ∈ gFront d PA PB m ++ gRhs N PA PB, x < (gLhs N PA PB).length := by
    intro x hx
    rw [gLhs_length]
    rcases List.mem_append.1 hx with h | h
    · obtain ⟨i, hi, rfl | rfl⟩ := mem_gFront.1 h
      · exact g.ltA (g.getA hi).1
      · exact g.ltB (g.getB hi).1
    · exact (mem_gRhs.1 h).1
  rw [permuted_eq_map _ _ hlt 0, List.map_append]
  congr 1
  · unfold gFront
    rw [List.map_flatMap]
    apply List.flatMap_congr
    intro i hi
    have hi := List.mem_range.1 hi
    split <;> simp only [List.map_cons, List.map_nil, g.lhsA hi, g.lhsB hi]
  · conv => rhs; rw [← List.map_id (gRhs N PA PB)]
    apply List.map_congr_left
    intro p hp
    exact lhsR hp

end key

/-- the permutation property needs no array: some assignment of duals is always consistent -/
theorem gOrder_perm' {N m : Nat} {PA PB : List Nat} (g : Geo N m PA PB) (d : Nat → Bool) :
    (gFront d PA PB m ++ gRhs N PA PB).Perm (List.range N) := by
  refine gOrder_perm g
    (fun p => match indexOf? PA p with
      | some i => d i
      | none => !d ((indexOf? PB p).getD 0)) d ?_ ?_
  · intro i hi
    simp only [(g.getA hi).2]
  · intro i hi
    have hn : indexOf? PA (PB.getD i 0) = none :=
      indexOf?_eq_none_iff.2 (fun h => (List.disjoint_of_nodup_append g.nd) h (g.getB hi).1)
    simp only [hn, (g.getB hi).2, Option.getD_some]

section main
variable {R : Type}

theorem tsOrder_perm (a : Arr R) (nb : Nat) (xa xb ya yb : List Nat)
    (hnA : (xa ++ ya).Nodup) (hA : ∀ i ∈ xa ++ ya, i < a.ndim)
    (hnB : (xb ++ yb).Nodup) (hB : ∀ i ∈ xb ++ yb, i < nb) (hly : ya.length = yb.length) :
    (tsOrder a nb xa xb ya yb).Perm (List.range (tsN a.ndim nb xa xb)) := by
  rw [tsOrder_eq_gOrder]
  exact gOrder_perm' (geo_ts hnA hA hnB hB hly) _

theorem tsOrder_drop (a : Arr R) (nb : Nat) (xa xb ya yb : List Nat) :
    (tsOrder a nb xa xb ya yb).drop (2 * ya.length) = tsRhs a.ndim nb xa xb ya yb := by
  rw [tsOrder_eq_gOrder, tsRhs_eq_gRhs]
  exact List.drop_left' (gFront_length _ _ _ _)

theorem tsOrder_take (a : Arr R) (nb : Nat) (xa xb ya yb : List Nat) :
    (tsOrder a nb xa xb ya yb).take (2 * ya.length) =
      (List.range ya.length).flatMap (fun i =>
        if (a.indices.getD (ya.getD i 0) default).dual
        then [(tsPA a.ndim xa ya).getD i 0, (tsPB a.ndim nb xa xb yb).getD i 0]
        else [(tsPB a.ndim nb xa xb yb).getD i 0, (tsPA a.ndim xa ya).getD i 0]) := by
  rw [tsOrder_eq_gOrder]
  exact List.take_left' (gFront_length _ _ _ _)

theorem einOrder_eq_tsOrder [Zero R] [Neg R] (a c : Arr R) (nb : Nat) (xa xb ya yb : List Nat)
    (hnA : (xa ++ ya).Nodup) (hA : ∀ i ∈ xa ++ ya, i < a.ndim)
    (hnB : (xb ++ yb).Nodup) (hB : ∀ i ∈ xb ++ yb, i < nb) (hly : ya.length = yb.length)
    (hn : c.ndim = tsN a.ndim nb xa xb)
    (hdA : ∀ i, i < ya.length →
      (c.indices.getD ((tsPA a.ndim xa ya).getD i 0) default).dual
        = (a.indices.getD (ya.getD i 0) default).dual)
    (hdB : ∀ i, i < ya.length →
      (c.indices.getD ((tsPB a.ndim nb xa xb yb).getD i 0) default).dual
        = !(a.indices.getD (ya.getD i 0) default).dual) :
    einOrder c (tsLhs a.ndim nb xa xb ya yb) (tsRhs a.ndim nb xa xb ya yb)
      = tsOrder a nb xa xb ya yb := by
  rw [tsOrder_eq_gOrder, tsLhs_eq_gLhs, tsRhs_eq_gRhs]
  exact einOrder_eq_gOrder (geo_ts hnA hA hnB hB hly) _ _ hdA hdB c hn rfl

theorem permuted_tsLhs_tsOrder (a : Arr R) (nb : Nat) (xa xb ya yb : List Nat)
    (hnA : (xa ++ ya).Nodup) (hA : ∀ i ∈ xa ++ ya, i < a.ndim)
    (hnB : (xb ++ yb).Nodup) (hB : ∀ i ∈ xb ++ yb, i < nb) (hly : ya.length = yb.length) :
    permuted (tsLhs a.ndim nb xa xb ya yb) (tsOrder a nb xa xb ya yb) =
      (List.range ya.length).flatMap
          (fun i => [tsN a.ndim nb xa xb + i, tsN a.ndim nb xa xb + i])
        ++ tsRhs a.ndim nb xa xb ya yb := by
  rw [tsOrder_eq_gOrder, tsLhs_eq_gLhs, tsRhs_eq_gRhs]
  exact permuted_gLhs_gOrder (geo_ts hnA hA hnB hB hly) _

theorem tsRhs_lt (na nb : Nat) (xa xb ya yb : List Nat) :
    ∀ p ∈ tsRhs na nb xa xb ya yb, p < tsN na nb xa xb := by
  intro p hp
  rw [tsRhs_eq_gRhs] at hp
  exact (mem_gRhs.1 hp).1

theorem tsRhs_nodup (na nb : Nat) (xa xb ya yb : List Nat) : (tsRhs na nb xa xb ya yb).Nodup :=
  gRhs_nodup _ _ _

end main

theorem tsRhs_length {R : Type} (a : Arr R) (nb : Nat) (xa xb ya yb : List Nat)
    (hnA : (xa ++ ya).Nodup) (hA : ∀ i ∈ xa ++ ya, i < a.ndim)
    (hnB : (xb ++ yb).Nodup) (hB : ∀ i ∈ xb ++ yb, i < nb) (hly : ya.length = yb.length) :
    2 * ya.length + (tsRhs a.ndim nb xa xb ya yb).length = tsN a.ndim nb xa xb := by
  have h := (tsOrder_perm a nb xa xb ya yb hnA hA hnB hB hly).length_eq
  rw [tsOrder_eq_gOrder, List.length_append, gFront_length, List.length_range] at h
  exact h

/-- the traced labels in front: `N+0, N+0, N+1, N+1, …` -/
def dblFront (N m : Nat) : List Nat := (List.range m).flatMap (fun i => [N + i, N + i])

theorem dblFront_succ (N m : Nat) : dblFront N (m + 1) = dblFront N m ++ [N + m, N + m] := by
  unfold dblFront
  rw [List.range_succ, List.flatMap_append]
  rfl

theorem dblFront_length (N m : Nat) : (dblFront N m).length = 2 * m := by
  unfold dblFront
  rw [KoszulP.length_flatMap_uniform _ 2 (fun _ => rfl) m, Nat.mul_comm]

theorem mem_dblFront {N m x : Nat} : x ∈ dblFront N m ↔ ∃ i, i < m ∧ x = N + i := by
  unfold dblFront
  simp only [List.mem_flatMap, List.mem_range, List.mem_cons, List.not_mem_nil, or_false, or_self]

theorem nodup_range_add (N m : Nat) : ((List.range m).map (N + ·)).Nodup :=
  List.Nodup.map_on (fun x _ y _ h => by omega) List.nodup_range

theorem indexOf?_range_add (N : Nat) {m i : Nat} (hi : i < m) :
    indexOf? ((List.range m).map (N + ·)) (N + i) = some i := by
  have := indexOf?_getElem (nodup_range_add N m) (show i < ((List.range m).map (N + ·)).length by simpa using hi)
  simpa using this

theorem eraseDups_dbl {ks : List Nat} (h : ks.Nodup) :
    (ks.flatMap (fun k => [k, k])).eraseDups = ks := by
  induction ks with
  | nil => simp
  | cons k ks ih =>
    rw [List.nodup_cons] at h
    have hf : (ks.flatMap (fun k => [k, k])).filter (fun b => !b == k) =
        ks.flatMap (fun k => [k, k]) := by
      rw [List.filter_eq_self]
      intro x hx
      obtain ⟨y, hy, hxy⟩ := List.mem_flatMap.1 hx
      simp only [List.mem_cons, List.not_mem_nil, or_false, or_self] at hxy
      subst hxy
      have : x ≠ k := fun e => h.1 (e ▸ hy)
      simp [this]
    simp only [List.flatMap_cons, List.cons_append, List.nil_append]
    rw [List.eraseDups_cons, List.filter_cons]
    simp only [beq_self_eq_true, Bool.not_true, Bool.false_eq_true, if_false]
    rw [hf, ih h.2]

section canon
variable {N m : Nat} {rhs : List Nat} (hlt : ∀ q ∈ rhs, q < N)
include hlt

theorem dblFront_not_mem_rhs {x : Nat} (hx : x ∈ dblFront N m) : x ∉ rhs := by
  obtain ⟨i, _, rfl⟩ := mem_dblFront.1 hx
  intro h
  have := hlt _ h
  omega

theorem rhs_not_mem_dblFront {x : Nat} (hx : x ∈ rhs) : x ∉ dblFront N m :=
  fun h => dblFront_not_mem_rhs hlt h hx

theorem einTraced_canon :
    einTraced (dblFront N m ++ rhs) rhs = (List.range m).map (N + ·) := by
  unfold einTraced
  rw [List.filter_append]
  have h1 : (dblFront N m).filter (fun q => !rhs.contains q) = dblFront N m := by
    rw [List.filter_eq_self]
    intro x hx
    simp [dblFront_not_mem_rhs hlt hx]
  have h2 : rhs.filter (fun q => !rhs.contains q) = [] := by
    rw [List.filter_eq_nil_iff]
    intro x hx
    simp [hx]
  rw [h1, h2, List.append_nil]
  have : dblFront N m = ((List.range m).map (N + ·)).flatMap (fun k => [k, k]) := by
    rw [List.flatMap_map]; rfl
  rw [this]
  exact eraseDups_dbl (nodup_range_add N m)

omit hlt in
/-- positions (counted from `k`) of the label `q` in `l` -/
theorem posOf_append (l1 l2 : List Nat) (k q : Nat) :
    (((l1 ++ l2).zipIdx k).filter (fun p => p.1 == q)).map (·.2) =
      ((l1.zipIdx k).filter (fun p => p.1 == q)).map (·.2) ++
        ((l2.zipIdx (k + l1.length)).filter (fun p => p.1 == q)).map (·.2) := by
  rw [List.zipIdx_append, List.filter_append, List.map_append]

omit hlt in
theorem posOf_not_mem {l : List Nat} {q : Nat} (h : q ∉ l) (k : Nat) :
    ((l.zipIdx k).filter (fun p => p.1 == q)).map (·.2) = [] := by
  induction l generalizing k with
  | nil => rfl
  | cons x xs ih =>
    have hx : ¬ (x == q) = true := by
      intro e; exact h (by rw [beq_iff_eq.mp e]; simp)
    rw [List.zipIdx_cons, List.filter_cons]
    simp only [hx]
    exact ih (fun hq => h (List.mem_cons_of_mem _ hq)) _

omit hlt in
theorem posOf_dblFront (tail : List Nat) {i : Nat} (hi : i < m) (ht : N + i ∉ tail) :
    (((dblFront N m ++ tail).zipIdx 0).filter (fun p => p.1 == N + i)).map (·.2)
      = [2 * i, 2 * i + 1] := by
  induction m generalizing tail with
  | zero => omega
  | succ m ih =>
    rw [dblFront_succ, List.append_assoc]
    by_cases him : i < m
    · apply ih _ him
      intro h
      rcases List.mem_append.1 h with h | h
      · simp only [List.mem_cons, List.not_mem_nil, or_false, or_self] at h
        omega
      · exact ht h
    · have e : i = m := by omega
      subst e
      have hnf : N + i ∉ dblFront N i := by
        intro h
        obtain ⟨j, hj, e⟩ := mem_dblFront.1 h
        omega
      rw [posOf_append, posOf_not_mem hnf, List.nil_append, dblFront_length, Nat.zero_add]
      rw [posOf_append, posOf_not_mem ht, List.append_nil]
      simp [List.zipIdx_cons]

theorem einTracedPos_canon :
    einTracedPos (dblFront N m ++ rhs) rhs = (List.range m).map (fun i => [2 * i, 2 * i + 1]) := by
  unfold einTracedPos
  rw [einTraced_canon hlt, List.map_map]
  apply List.map_congr_left
  intro i hi
  have hi := List.mem_range.1 hi
  simp only [Function.comp]
  apply posOf_dblFront rhs hi
  intro h
  have := hlt _ h
  omega

theorem einPerm?_canon (hnd : rhs.Nodup) :
    einPerm? (dblFront N m ++ rhs) rhs = .ok ((List.range rhs.length).map (2 * m + ·)) := by
  unfold einPerm?
  rw [mapM_ok_of_forall _ (fun q => 2 * m + (indexOf? rhs q).getD 0)]
  · congr 1
    apply List.ext_getElem
    · simp
    · intro n h1 h2
      have hn : n < rhs.length := by simpa using h1
      simp only [List.getElem_map, List.getElem_range, indexOf?_getElem hnd hn, Option.getD_some]
  · intro q hq
    obtain ⟨k, hk, _⟩ := indexOf?_of_mem hq
    rw [indexOf?_append_right _ _ _ (rhs_not_mem_dblFront hlt hq), hk, dblFront_length]
    rfl

theorem einIdx_canon (hnd : rhs.Nodup) (o t : List Nat) (ho : o.length = rhs.length) :
    einIdx (dblFront N m ++ rhs) rhs o t =
      (List.range m).flatMap (fun i => [t.getD i 0, t.getD i 0]) ++ o := by
  unfold einIdx
  rw [einTraced_canon hlt, List.map_append]
  congr 1
  · unfold dblFront
    rw [List.map_flatMap]
    apply List.flatMap_congr
    intro i hi
    have hi := List.mem_range.1 hi
    have h1 : indexOf? rhs (N + i) = none :=
      indexOf?_eq_none_iff.2 (fun h => by have := hlt _ h; omega)
    simp only [List.map_cons, List.map_nil, h1, indexOf?_range_add N hi]
  · apply List.ext_getElem
    · simp [ho]
    · intro n h1 h2
      have hn : n < rhs.length := by simpa using h1
      simp only [List.getElem_map, indexOf?_getElem hnd hn]
      simp [List.getD_eq_getElem?_getD, h2]

end canon

/-! ### the canonical labels written out -/

theorem dblFront_eq (N m : Nat) :
    dblFront N m = (List.range m).flatMap (fun i => [N + i, N + i]) := rfl

theorem einTraced_canon' {N m : Nat} {rhs : List Nat} (hlt : ∀ q ∈ rhs, q < N) :
    einTraced ((List.range m).flatMap (fun i => [N + i, N + i]) ++ rhs) rhs
      = (List.range m).map (N + ·) := einTraced_canon hlt

theorem einTracedPos_canon' {N m : Nat} {rhs : List Nat} (hlt : ∀ q ∈ rhs, q < N) :
    einTracedPos ((List.range m).flatMap (fun i => [N + i, N + i]) ++ rhs) rhs
      = (List.range m).map (fun i => [2 * i, 2 * i + 1]) := einTracedPos_canon hlt

theorem einPerm?_canon' {N m : Nat} {rhs : List Nat} (hlt : ∀ q ∈ rhs, q < N) (hnd : rhs.Nodup) :
    einPerm? ((List.range m).flatMap (fun i => [N + i, N + i]) ++ rhs) rhs
      = .ok ((List.range rhs.length).map (2 * m + ·)) := einPerm?_canon hlt hnd

theorem einIdx_canon' {N m : Nat} {rhs : List Nat} (hlt : ∀ q ∈ rhs, q < N) (hnd : rhs.Nodup)
    (o t : List Nat) (ho : o.length = rhs.length) :
    einIdx ((List.range m).flatMap (fun i => [N + i, N + i]) ++ rhs) rhs o t
      = (List.range m).flatMap (fun i => [t.getD i 0, t.getD i 0]) ++ o :=
  einIdx_canon hlt hnd o t ho

end TwoStepP
end SymmModel
