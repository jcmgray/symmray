/-
  SymmModel.Proofs.NormNet3 — network form of the norm (property C10), part 3:
  the sign identity of one aligned sector pair in terms of the model's signs — (label sign of the bra
  contraction) × (graded sign of the bra pair) × (signs of the two bra tensors) = (sign of the bra tensor of
  the ket result, images of the spared legs `y` spared) × (label sign) × (graded sign of the ket pair):
  `bra_pair_sign_spared`; `bra_pair_sign` is `y = []` — and the labels of the bra contraction.
-/
import SymmModel.Proofs.NormNet2
import SymmModel.Proofs.NormNetLabels
namespace SymmModel.NormNet
open SymmModel SymmModel.Lazy SymmModel.Norm SymmModel.TdotP SymmModel.GradedP SymmModel.RoutesP
open SymmModel.KoszulP (sgn tri sgn_add sgn_congr sgn_cases sgn_eq_pow tri_eq)
set_option linter.unusedSectionVars false

section pairsign
open SymmModel.AssocP
variable {R : Type} [AddMonoid R] [Mul R] [Neg R] [Conj R]

/-- **the sign identity of one aligned stored sector pair, bond legs `y` spared.**  `S` is any list of sectors:
    of `dropUnused … S` only the directions of the index tables enter, which pruning keeps. -/
theorem bra_pair_sign_spared {a b K : Arr R} {xa xb y : List Nat} (h : AdmW a b xa xb)
    (hM : Mid b.ndim xb y) (S : List Sector)
    (hKs : K.sym = a.sym)
    (hKi : K.indices = dropUnused (without a.indices xa ++ without b.indices xb) S)
    (hKp : K.parity = xor a.parity b.parity)
    (hKl : (K.oddpos.length % 2 == 1) = K.parity)
    {sa sb : Sector} (hsa : sa ∈ a.sectors) (hsb : sb ∈ b.sectors)
    (hal : permuted sb xb = permuted sa xa)
    (ph ph' : Int) (hph' : ph' = ph * sgB (a.parity && b.parity)) :
    ph' * (gradedSign (braOf a xa) (braOf b (xb ++ y)) xa xb sa sb
        * (braSign a xa sa * braSign b (xb ++ y) sb))
      = braSign K (AssocP.axesAB a.ndim b.ndim xa xb y)
            (permuted sa (freeAxes a.ndim xa) ++ permuted sb (freeAxes b.ndim xb))
          * (ph * gradedSign a b xa xb sa sb) := by
  obtain ⟨ha, hb, hfa, hfb, hsym, hc, hnA, hnB, hA, hB⟩ := h
  have hla : sa.length = a.ndim := SecLen.of_valid ha sa hsa
  have hlb : sb.length = b.ndim := SecLen.of_valid hb sb hsb
  have hva := SecValid.of_valid ha sa hsa
  have hvb := SecValid.of_valid hb sb hsb
  have hlabA := (NormOk.of_valid ha hfa).labels
  have hlabB := (NormOk.of_valid hb hfb).labels
  have hkB : oddN b.sym (permuted sb xb) = oddN a.sym (permuted sa xa) := by rw [hal, hsym]
  have hpA : ((oddN a.sym (permuted sa (freeAxes a.ndim xa)) + oddN a.sym (permuted sa xa)) % 2 == 1)
      = a.parity := by
    rw [← oddN_split a.sym sa hla hnA hA, ← oddN_parities]
    exact odd_count_sector hla hva
  have hpB : ((oddN a.sym (permuted sb (freeAxes b.ndim xb)) + oddN a.sym (permuted sa xa)) % 2 == 1)
      = b.parity := by
    rw [← hkB, hsym, ← oddN_split b.sym sb hlb hnB hB, ← oddN_parities]
    exact odd_count_sector hlb hvb
  have e_g := gradedSign_sgn a b xa xb sa sb
  have e_gb : gradedSign (braOf a xa) (braOf b (xb ++ y)) xa xb sa sb
      = koszul (a.parities sa) (some (freeAxes a.ndim xa ++ xa))
        * koszul (b.parities sb) (some (xb ++ freeAxes b.ndim xb))
        * sgn (tri (oddContracted a xa sa)) * sgn (ketOdd (braOf a xa) xa sa) := by
    rw [gradedSign_sgn, braOf_parities, braOf_parities, braOf_ndim, braOf_ndim]
    have : oddContracted (braOf a xa) xa sa = oddContracted a xa sa := by
      unfold oddContracted; rw [braOf_sym a xa]
    rw [this]
  have e_a := braSign_eq a xa sa hlabA
  have e_b := braSign_eq b (xb ++ y) sb hlabB
  rw [oddN_split a.sym sa hla hnA hA] at e_a
  rw [oddN_split b.sym sb hlb hnB hB, hkB, ← hsym] at e_b
  have e_K : braSign K (AssocP.axesAB a.ndim b.ndim xa xb y)
        (permuted sa (freeAxes a.ndim xa) ++ permuted sb (freeAxes b.ndim xb))
      = sgB (xor a.parity b.parity) * (sgn (dangOdd a xa sa + dangOdd b (xb ++ y) sb)
          * sgn (tri (oddN a.sym (permuted sa (freeAxes a.ndim xa))
              + oddN a.sym (permuted sb (freeAxes b.ndim xb))))) := by
    rw [braSign_eq K _ _ hKl, hKp, dangOdd_result a b K xa xb y S hKs hsym hKi hM sa sb hla hlb,
      hKs, oddN_append]
    exact Int.mul_left_comm _ _ _
  rw [e_gb, e_g, e_a, e_b, e_K]
  exact sign_algebra _ _ _ _ _ _ _ _ _ _ _ _ _ hpA hpB (ketOdd_bra' a xa xa sa hA hla) hph'

theorem mid_nil {a b : Arr R} {xa xb : List Nat} (h : AdmW a b xa xb) : Mid b.ndim xb [] :=
  ⟨h.nB, List.nodup_nil, fun _ _ h => absurd h List.not_mem_nil, h.ltB,
    fun _ h => absurd h List.not_mem_nil⟩

/-- nothing spared, strong guard: the target sign is that of `conj(phase_dual=True)` -/
theorem bra_pair_sign {a b K : Arr R} {xa xb : List Nat} (h : Adm a b xa xb) (S : List Sector)
    (hKs : K.sym = a.sym)
    (hKi : K.indices = dropUnused (without a.indices xa ++ without b.indices xb) S)
    (hKp : K.parity = xor a.parity b.parity)
    (hKl : (K.oddpos.length % 2 == 1) = K.parity)
    {sa sb : Sector} (hsa : sa ∈ a.sectors) (hsb : sb ∈ b.sectors)
    (hal : permuted sb xb = permuted sa xa)
    (ph ph' : Int) (hph' : ph' = ph * sgB (a.parity && b.parity)) :
    ph' * (gradedSign (braOf a xa) (braOf b xb) xa xb sa sb * (braSign a xa sa * braSign b xb sb))
      = conjTotSign K true true (permuted sa (freeAxes a.ndim xa) ++ permuted sb (freeAxes b.ndim xb))
          * (ph * gradedSign a b xa xb sa sb) := by
  have W := AdmW.ofAdm h
  have := bra_pair_sign_spared W (mid_nil W) S hKs hKi hKp hKl hsa hsb hal ph ph' hph'
  rwa [List.append_nil, show AssocP.axesAB a.ndim b.ndim xa xb [] = [] from rfl, braSign_nil] at this

end pairsign

section labels

/-- no label, or one non-dual label (what a freshly created array carries) -/
def OneKet (o : List (Int × Bool)) : Prop := o = [] ∨ ∃ l, o = [(l, false)]

section general
open SymmModel.KoszulP (crossR invR invR_append crossR_perm_left crossR_perm_right crossR_add_swap
  crossR_cons_right)
open SymmModel.OddposP (oddR oddR_ex invR_oddR_sorted mergeOddpos_spec oddSorted_unique OddSorted
  LabelsDistinct)

/-- a sorted list of non-dual labels (what a product of freshly created odd arrays carries) -/
def KetLabels (o : List (Int × Bool)) : Prop :=
  (∀ x ∈ o, x.2 = false) ∧ o.Pairwise (fun x y => oddLt x y = true)

theorem OneKet.ketLabels {o : List (Int × Bool)} (h : OneKet o) : KetLabels o := by
  rcases h with rfl | ⟨l, rfl⟩
  · exact ⟨by simp, List.Pairwise.nil⟩
  · exact ⟨by simp, List.pairwise_singleton _ _⟩

theorem crossR_map {α β : Type} (r : β → β → Bool) (f : α → β) (l m : List α) :
    crossR r (l.map f) (m.map f) = crossR (fun a b => r (f a) (f b)) l m := by
  induction l with
  | nil => rfl
  | cons a l ih =>
    simp only [List.map_cons, crossR, ih, List.filter_map, List.length_map]
    rfl

theorem crossR_congr {α : Type} (r r' : α → α → Bool) (l m : List α)
    (h : ∀ a ∈ l, ∀ b ∈ m, r a b = r' a b) : crossR r l m = crossR r' l m := by
  induction l with
  | nil => rfl
  | cons a l ih =>
    simp only [crossR]
    rw [ih (fun x hx => h x (List.mem_cons_of_mem _ hx)),
      List.filter_congr (fun b hb => h a List.mem_cons_self b hb)]

theorem crossR_flip {α : Type} (r : α → α → Bool) (l m : List α) :
    crossR (fun a b => r b a) l m = crossR r m l := by
  induction l with
  | nil => simp
  | cons a l ih => rw [crossR_cons_right, ← ih]; rfl

theorem oddposDag_append (x y : List (Int × Bool)) :
    Arr.oddposDag (x ++ y) = Arr.oddposDag y ++ Arr.oddposDag x := by
  simp [oddposDag_eq_bar, List.reverse_append]

theorem crossR_dag (oA oB : List (Int × Bool)) (hA : ∀ x ∈ oA, x.2 = false)
    (hB : ∀ x ∈ oB, x.2 = false) :
    crossR oddR (Arr.oddposDag oA) (Arr.oddposDag oB) = crossR oddR oB oA := by
  rw [crossR_perm_left oddR (oddposDag_perm_map oA), crossR_perm_right oddR _ (oddposDag_perm_map oB),
    crossR_map, ← crossR_flip]
  apply crossR_congr
  intro a ha b hb
  have e1 : a.2 = false := hB _ ha
  have e2 : b.2 = false := hA _ hb
  obtain ⟨a1, a2⟩ := a
  obtain ⟨b1, b2⟩ := b
  simp only at e1 e2
  subst e1 e2
  simp [oddR, oddLt, bar]

/-- the labels of the bra contraction are the conjugated labels of the ket contraction; the two
    label signs differ by `-1` exactly when both operands carry an odd number of labels -/
theorem merge_bra_gen (pA : Bool) (oA oB : List (Int × Bool)) (hA : KetLabels oA) (hB : KetLabels oB)
    (hd : (oA ++ oB).Pairwise (fun x y => x.1 ≠ y.1)) (hpA : (oA.length % 2 == 1) = pA) :
    ∃ out ph, OddposP.mergeOddpos pA oA oB = .ok (out, ph)
      ∧ OddposP.mergeOddpos pA (Arr.oddposDag oA) (Arr.oddposDag oB)
          = .ok (Arr.oddposDag out, ph * sgB (pA && (oB.length % 2 == 1)))
      ∧ (ph = 1 ∨ ph = -1)
      ∧ (∀ x ∈ out, x.2 = false)
      ∧ out.Pairwise (fun x y => oddLt x y = true)
      ∧ out.Pairwise (fun x y => x.1 ≠ y.1) := by
  obtain ⟨out, p1, s1, m1⟩ := mergeOddpos_spec pA oA oB hd
  have hnd : ∀ x ∈ out, x.2 = false := by
    intro x hx
    rcases List.mem_append.mp (p1.mem_iff.mp hx) with h | h
    · exact hA.1 x h
    · exact hB.1 x h
  have hd' : LabelsDistinct (Arr.oddposDag oA ++ Arr.oddposDag oB) := by
    rw [← oddposDag_append]
    apply oddposDag_distinct
    have : (oB ++ oA).Perm (oA ++ oB) := List.perm_append_comm
    exact (LabelsDistinct.perm (l := oA ++ oB) hd this.symm)
  obtain ⟨out', p1', s1', m1'⟩ := mergeOddpos_spec pA (Arr.oddposDag oA) (Arr.oddposDag oB) hd'
  have hout : out' = Arr.oddposDag out := by
    apply oddSorted_unique s1' (oddposDag_sorted_of_nondual out hnd s1)
    refine p1'.trans ?_
    rw [← oddposDag_append]
    refine (oddposDag_perm_map _).trans (List.Perm.trans ?_ (oddposDag_perm_map out).symm)
    exact ((List.perm_append_comm).trans p1.symm).map bar
  have hsum : invR oddR (oA ++ oB) + invR oddR (Arr.oddposDag oA ++ Arr.oddposDag oB)
      = oA.length * oB.length := by
    rw [invR_append, invR_append, invR_oddR_sorted _ hA.2, invR_oddR_sorted _ hB.2,
      invR_oddR_sorted _ (oddposDag_sorted_of_nondual oA hA.1 hA.2),
      invR_oddR_sorted _ (oddposDag_sorted_of_nondual oB hB.1 hB.2), crossR_dag oA oB hA.1 hB.1]
    simp only [Nat.zero_add]
    apply crossR_add_swap
    intro a ha b hb
    apply oddR_ex
    intro hab
    have := (List.pairwise_append.mp hd).2.2 a ha b hb
    exact this (by rw [hab])
  refine ⟨out, _, m1, ?_, sgn_cases _, hnd, s1, LabelsDistinct.perm (l := oA ++ oB) hd p1.symm⟩
  rw [m1', hout, ValidP.oddposDag_length]
  congr 2
  have hpar : oA.length % 2 = pA.toNat := (toNat_of_beq hpA).symm
  have hs : sgB (pA && (oB.length % 2 == 1)) = sgn (oA.length * oB.length) := by
    unfold sgn sgB
    rw [mul_mod_two, hpar]
    rcases Nat.mod_two_eq_zero_or_one oB.length with h | h <;> cases pA <;> simp [h]
  rw [hs, ← sgn_add]
  apply sgn_congr
  generalize oA.length * oB.length = P at hsum
  omega

end general

end labels

end SymmModel.NormNet
