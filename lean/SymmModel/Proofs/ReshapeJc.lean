/-
  SymmModel.Proofs.ReshapeJc — the "only if" half for FERMIONIC arrays: every stored block of the result
  of a fermionic fuse call of a `reshape` plan contains a whole stored block of the input
  (`src_call_F`), composed over the calls of a plan (`src_chain_F`, by `from_chain`); both strategies
  (`fuseF_call_modes`).  The sign-adjusted operand `signAdj a G` stores exactly the (transposed)
  sectors of `a` (`signAdj_keys`).
-/
import SymmModel.Proofs.ReshapeJb
namespace SymmModel.ReshapeJ
open SymmModel SymmModel.Reshape SymmModel.C07 SymmModel.Reshape5 SymmModel.ReshapeH SymmModel.ReshapeI
open ReshapeP FuseP SymmModel.Lazy
set_option linter.unusedSectionVars false

variable {R : Type} [Zero R] [Neg R] [LawfulNeg R]

theorem signAdj_keys {a : Arr R} {groups : List (List Nat)} (h : TrOk a (calcFuseGroupInfo groups a.duals).perm) :
    (signAdj a groups).blocks.map (·.1)
      = a.blocks.map (fun p => permuted p.1 (calcFuseGroupInfo groups a.duals).perm) := by
  have key : ∀ y : Arr R, y.blocks = (a.transposeF (calcFuseGroupInfo groups a.duals).perm).blocks →
      y.phaseSync.blocks.map (·.1)
        = a.blocks.map (fun p => permuted p.1 (calcFuseGroupInfo groups a.duals).perm) := by
    intro y hy
    rw [phaseSync_blocks_eq, hy, transposeF_blocks h]
    simp only [List.map_map]
    rfl
  unfold signAdj
  split
  · exact key _ (phaseFlip_blocks _ _)
  · exact key _ (phaseFlip_blocks _ _)

theorem fuseF_call_modes (a : Arr R) (G : List (List Nat)) (P lb : Nat) (hv : a.validB = true)
    (hf : a.fermi = true) (hc : CallOk G P lb a.ndim) (y1 : Arr R) (hy1 : fuseDispatch a G = .ok y1) :
    ∀ (m : FuseMode) (e : Bool), Arr.fuseF a G m e = .ok y1 := by
  have hok := groupsOk_of_call hc.ne hc.two hc.flat hc.le
  have hgok : C05.groupsOkB G a.ndim = true := groupsOk_iff.2 hok
  obtain ⟨h0, _⟩ := fuseF_elemT a G true hv hf hok
  have hy : y1 = fusedArrM (signAdj a G) (newGroupsF G a.duals) := by
    simp only [fuseDispatch, hf, if_true] at hy1
    rw [h0] at hy1; injection hy1 with hy1; exact hy1.symm
  intro m e
  have hins : Arr.fuseF a G .insert e = .ok y1 := by
    rw [hy]; exact (fuseF_elemT a G e hv hf hok).1
  cases m with
  | insert => exact hins
  | concat => rw [C05.fuseF_concat_eq_insert a G e hv hf hgok hc.ne]; exact hins

theorem src_call_F (a : Arr R) (G : List (List Nat)) (P lb : Nat)
    (hv : a.validB = true) (hf : a.fermi = true) (hc : CallOk G P lb a.ndim) :
    ∃ y, fuseDispatch a G = .ok y ∧ FromStep a y G P := by
  obtain ⟨hok, _, hperm⟩ := call_plan a G P lb hc
  have hva := validArr_of_validB hv
  obtain ⟨hva4, htr⟩ := signAdj_frame a G hv hf hok
  have hok4 := signAdj_groupsOk (a := a) hok
  refine ⟨_, by simp only [fuseDispatch, hf, if_true]; exact (fuseF_elemT a G true hv hf hok).1, ?_⟩
  intro ns B hB
  have hB' : alookup (fusedBlocksM (signAdj a G) (newGroupsF G a.duals)) ns = some B := hB
  obtain ⟨sb4, hsb4, hns0, _⟩ := fusedBlockM_info hva4 hok4.adm hB'
  -- the stored sector of the sign-adjusted operand is a stored sector of `a`
  have hk : sb4.1 ∈ (signAdj a G).blocks.map (·.1) := List.mem_map.2 ⟨sb4, hsb4, rfl⟩
  rw [signAdj_keys htr, hperm] at hk
  obtain ⟨⟨s, b⟩, hsb, hs4⟩ := List.mem_map.1 hk
  have hbs : alookup a.blocks s = some b := alookup_of_mem_nodup hva.nodup hsb
  have hsl : s.length = a.ndim := (hva.blk (s, b) hsb).1
  have e1 : permuted s (List.range a.ndim) = s := Reshape4.permuted_range_of_length hsl
  simp only [e1] at hs4
  obtain ⟨_, b4, B1, hmem, hB1, hall⟩ := block_into_F a G P lb hv hf hc s b hbs
  have hsb4' : sb4 = (s, b4) := by
    obtain ⟨s4, b4'⟩ := sb4
    simp only at hs4; subst hs4
    have h1 := alookup_of_mem_nodup hva4.nodup hsb4
    rw [alookup_of_mem_nodup hva4.nodup hmem] at h1
    injection h1 with h1; rw [h1]
  subst hsb4'
  subst hns0
  have hBB : B1 = B := by rw [hB] at hB1; injection hB1 with hB1; exact hB1.symm
  subst hBB
  exact ⟨s, b, hbs, hall⟩

theorem from_call_F (x : Arr R) (G : List (List Nat)) (P lb : Nat) (y1 : Arr R)
    (hx : x.validB = true ∧ x.fermi = true) (hc : CallOk G P lb x.ndim) (hy : fuseDispatch x G = .ok y1) :
    FromStep x y1 G P := by
  obtain ⟨y, hy', h⟩ := src_call_F x G P lb hx.1 hx.2 hc
  rw [hy] at hy'; injection hy' with hy'; subst hy'
  exact h

theorem modes_chain_F : ∀ (calls : List (List (List Nat))) (a : Arr R) (lb : Nat), a.validB = true →
    a.fermi = true → CallsOk calls lb a.ndim → ∀ y, calls.foldlM fuseDispatch a = .ok y →
    ∀ (m : FuseMode) (e : Bool), calls.foldlM (fun x G => Arr.fuseF x G m e) a = .ok y := by
  intro calls
  induction calls with
  | nil => intro a lb _ _ _ y hy m e; exact hy
  | cons G rest ih =>
    intro a lb hv hf hc y hy m e
    obtain ⟨P, hc1, hc2⟩ := hc
    obtain ⟨y1, hy1, hv1, hf1, hnd, _⟩ := elem_step a G P lb hv hf hc1
    rw [← hnd] at hc2
    rw [List.foldlM_cons, hy1] at hy
    rw [List.foldlM_cons, fuseF_call_modes a G P lb hv hf hc1 y1 hy1 m e]
    exact ih y1 (P + G.length) hv1 hf1 hc2 y hy m e

theorem src_chain_F (calls : List (List (List Nat))) (a : Arr R) (lb : Nat) (hv : a.validB = true)
    (hf : a.fermi = true) (hc : CallsOk calls lb a.ndim) (y : Arr R) (hy : calls.foldlM fuseDispatch a = .ok y) :
    (∀ (m : FuseMode) (e : Bool), calls.foldlM (fun x G => Arr.fuseF x G m e) a = .ok y)
    ∧ ∀ ns B, alookup y.blocks ns = some B →
      ∃ s b, alookup a.blocks s = some b ∧ ∀ o, inBox b.shape o = true →
        ∃ i σ, inBox B.shape i = true ∧ Pulled a calls lb y ns i s o σ :=
  ⟨modes_chain_F calls a lb hv hf hc y hy,
    from_chain (fun _ h => h.1) fuse_good_F from_call_F calls a lb ⟨hv, hf⟩ hc y hy⟩

end SymmModel.ReshapeJ
