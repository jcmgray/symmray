/-
  SymmModel.Proofs.ReshapeHc — a plan without unfuse steps is certified for one sub-size table iff it
  is for any other (the certificate compares sizes only).
-/
import SymmModel.Proofs.ReshapeHb
namespace SymmModel.ReshapeH
open SymmModel SymmModel.Reshape SymmModel.C07 SymmModel.Reshape3 SymmModel.Reshape5 ReshapeP FuseP

theorem getD_fst (st : SymShape) (ax : Nat) : (st.getD ax (0, none)).1 = (SymShape.sizes st).getD ax 0 := by
  simp only [SymShape.sizes, List.getD_eq_getElem?_getD, List.getElem?_map]
  cases st[ax]? <;> rfl

theorem symGroup_fst {st st' : SymShape} (h : SymShape.sizes st = SymShape.sizes st') (g : List Nat) :
    (symGroup st g).1 = (symGroup st' g).1 := by
  have hm : g.map (fun ax => (st.getD ax (0, none)).1) = g.map (fun ax => (st'.getD ax (0, none)).1) := by
    apply List.map_congr_left
    intro ax _
    rw [getD_fst, getD_fst, h]
  match g with
  | [] => simp [symGroup]
  | [ax] => simp only [symGroup]; rw [getD_fst, getD_fst, h]
  | a :: b :: r => simp only [symGroup]; rw [hm]

theorem symFuse_sizes {st st' : SymShape} (h : SymShape.sizes st = SymShape.sizes st') (G : List (List Nat))
    (r : SymShape) (hr : symFuse st G = some r) :
    ∃ r', symFuse st' G = some r' ∧ SymShape.sizes r = SymShape.sizes r' := by
  have hlen : st.length = st'.length := by
    have := congrArg List.length h
    simpa [SymShape.sizes] using this
  unfold symFuse at hr ⊢
  cases hf : G.flatten with
  | nil => rw [hf] at hr; cases hr
  | cons p rest =>
    rw [hf] at hr
    simp only [] at hr ⊢
    rw [← hlen]
    split at hr
    · rename_i hc
      rw [if_pos hc]
      injection hr with hr
      refine ⟨_, rfl, ?_⟩
      rw [← hr]
      simp only [SymShape.sizes, List.map_append, List.map_take, List.map_drop, List.map_map] at h ⊢
      rw [h]
      congr 2
      apply List.map_congr_left
      intro g _
      exact symGroup_fst (by simpa [SymShape.sizes] using h) g
    · cases hr

theorem foldFuse_sizes : ∀ (calls : List (List (List Nat))) (st st' r : SymShape),
    SymShape.sizes st = SymShape.sizes st' → foldOpt symFuse calls st = some r →
    ∃ r', foldOpt symFuse calls st' = some r' ∧ SymShape.sizes r = SymShape.sizes r' := by
  intro calls
  induction calls with
  | nil =>
    intro st st' r h hr
    simp only [foldOpt, Option.some.injEq] at hr
    subst hr
    exact ⟨st', rfl, h⟩
  | cons G rest ih =>
    intro st st' r h hr
    simp only [foldOpt] at hr ⊢
    cases h1 : symFuse st G with
    | none => rw [h1] at hr; cases hr
    | some s1 =>
      rw [h1] at hr
      obtain ⟨s1', h1', hs⟩ := symFuse_sizes h G s1 h1
      rw [h1']
      exact ih s1 s1' r hs hr

theorem foldExpand_sizes : ∀ (axs : List Nat) (st st' r : SymShape),
    SymShape.sizes st = SymShape.sizes st' → foldOpt symExpand axs st = some r →
    ∃ r', foldOpt symExpand axs st' = some r' ∧ SymShape.sizes r = SymShape.sizes r' := by
  intro axs
  induction axs with
  | nil =>
    intro st st' r h hr
    simp only [foldOpt, Option.some.injEq] at hr
    subst hr
    exact ⟨st', rfl, h⟩
  | cons ax rest ih =>
    intro st st' r h hr
    have hlen : st.length = st'.length := by
      have := congrArg List.length h
      simpa [SymShape.sizes] using this
    simp only [foldOpt, symExpand] at hr ⊢
    rw [← hlen]
    cases hb : Nat.ble ax st.length with
    | false => rw [hb] at hr; simp at hr
    | true =>
      rw [hb] at hr
      simp only [if_true] at hr ⊢
      refine ih _ _ r ?_ hr
      simp only [SymShape.sizes, List.map_append, List.map_take, List.map_drop] at h ⊢
      rw [h]

theorem wfB_subs_irrelevant (shape newshape : List Nat) (A B : List (Option (List Nat)))
    (hA : shape.length = A.length) (hB : shape.length = B.length)
    (t : List Nat × List (List (List Nat)) × List Nat) (hu : t.1 = [])
    (h : (Plan.ofTriple t).wfB shape A newshape = true) : (Plan.ofTriple t).wfB shape B newshape = true := by
  obtain ⟨_, r, hr, hsz⟩ := wfB_iff.mp h
  refine wfB_iff.mpr ⟨hB, ?_⟩
  simp only [Plan.exec, Plan.ofTriple, hu, foldOpt] at hr ⊢
  have h0 : SymShape.sizes (shape.zip A) = SymShape.sizes (shape.zip B) := by
    simp only [SymShape.sizes]
    rw [List.map_fst_zip (by omega), List.map_fst_zip (by omega)]
  cases h2 : foldOpt symFuse t.2.1 (shape.zip A) with
  | none => rw [h2] at hr; cases hr
  | some s2 =>
    rw [h2] at hr
    obtain ⟨s2', h2', hs2⟩ := foldFuse_sizes t.2.1 _ _ s2 h0 h2
    rw [h2']
    obtain ⟨r', hr', hs⟩ := foldExpand_sizes t.2.2 s2 s2' r hs2 hr
    exact ⟨r', hr', by rw [← hs, hsz]⟩

end SymmModel.ReshapeH
