/-
  SymmModel.Proofs.Assoc2Main — S7 of property C04 in full (chains and triangles) under the
  documented guard `contractibleB` on all three bonds: for label lists on which the two label
  routes agree (`LabelRoutes`) the two results agree.  The documented guard implies the weak one
  (`AssocP.commonB_of_contractibleB`), so this is `Assoc3P.tdotF_assoc_w`.
-/
import SymmModel.Proofs.Assoc3Main

namespace SymmModel
namespace Assoc2P
open TdotP GradedP RoutesP AssocP
open Lazy (sgnI)

variable {R : Type} [AddCommMonoid R] [Mul R] [Neg R] [SignRing R] [AssocLaws R]

/-- **associativity of `tensordotF`** for three operands with bonds `A–B`, `B–C` and (optionally)
    `A–C` (see `Props/C04d.lean`): the documented guard implies the weak one on every bond -/
theorem tdotF_assoc_tri (A B C : Arr R) (xa1 xa3 xb1 xb2 xc2 xc3 : List Nat)
    (hA : A.validB = true) (hB : B.validB = true) (hC : C.validB = true)
    (hfA : A.fermi = true) (hfB : B.fermi = true) (hfC : C.fermi = true)
    (h1 : ValidP.tdotAdmissibleB A B xa1 xb1 = true) (h2 : ValidP.tdotAdmissibleB B C xb2 xc2 = true)
    (h3 : ValidP.contractibleB A C xa3 xc3 = true)
    (hnA : (xa1 ++ xa3).Nodup) (hnB : (xb1 ++ xb2).Nodup) (hnC : (xc2 ++ xc3).Nodup)
    (hltA : ∀ i ∈ xa3, i < A.ndim) (hltC : ∀ i ∈ xc3, i < C.ndim)
    (hL : LabelRoutes A.parity B.parity A.oddpos B.oddpos C.oddpos) :
    ∃ AB BC c1 c2 : Arr R,
      A.tensordotF B (.pair (xa1.map Int.ofNat) (xb1.map Int.ofNat)) .blockwise = .ok AB
      ∧ AB.tensordotF C (.pair ((axesAB A.ndim B.ndim xa1 xa3 xb1 xb2).map Int.ofNat) ((xc3 ++ xc2).map Int.ofNat)) .blockwise = .ok c1
      ∧ B.tensordotF C (.pair (xb2.map Int.ofNat) (xc2.map Int.ofNat)) .blockwise = .ok BC
      ∧ A.tensordotF BC (.pair ((xa1 ++ xa3).map Int.ofNat) ((axesBC B.ndim C.ndim xb1 xb2 xc2 xc3).map Int.ofNat)) .blockwise = .ok c2
      ∧ c2.oddpos = c1.oddpos ∧ c2.charge = c1.charge ∧ c2.sym = c1.sym ∧ c2.fermi = c1.fermi
      ∧ (∀ s, s ∈ c1.sectors ↔ ∃ t, IsTriple A B C xa1 xa3 xb1 xb2 xc2 xc3 s t)
      ∧ (∀ s, s ∈ c2.sectors ↔ s ∈ c1.sectors)
      ∧ c2.indices = c1.indices
      ∧ c1.indices = dropUnused (permuted A.indices (freeAxes A.ndim (xa1 ++ xa3)) ++ (permuted B.indices (freeAxes B.ndim (xb1 ++ xb2)) ++ permuted C.indices (freeAxes C.ndim (xc2 ++ xc3)))) c1.sectors
      ∧ ∀ (LA LM LC : Sector) (oA oM oC : List Nat),
          FreeAddr A B C xa1 xa3 xb1 xb2 xc2 xc3 LA LM LC oA oM oC →
          c2.elem (LA ++ LM ++ LC) (oA ++ oM ++ oC) = c1.elem (LA ++ LM ++ LC) (oA ++ oM ++ oC) :=
  Assoc3P.tdotF_assoc_w A B C xa1 xa3 xb1 xb2 xc2 xc3 hA hB hC hfA hfB hfC
    (Assoc3P.admW_toB (AdmW.ofAdm (Adm.of hA hB hfA hfB h1)))
    (Assoc3P.admW_toB (AdmW.ofAdm (Adm.of hB hC hfB hfC h2)))
    (commonB_of_contractibleB hA hltA h3) hnA hnB hnC hltA hltC hL

end Assoc2P
end SymmModel
