/-
  SymmModel.Proofs.LinalgRecon — contraction of the factors of `qrA` / `svdA` (C11 reconstruction
  under the VALUE contract of the kernels).  `tdot_blocks_uvw`: the stored blocks of the product of
  two block matrices with one sector pair per result key.  `Reproduces L Rt`: a pair of block maps
  whose block products give back every block; `factors_recon` is the abelian reconstruction for any
  such pair, qr is one, `(u·diag s, vh)` (`Recon2P.usOf`) another.
-/
import SymmModel.Proofs.LinalgFactors
import SymmModel.Proofs.LinalgDense
import SymmModel.Proofs.SpecMulDiag

namespace SymmModel
namespace LinalgLemmas

variable {R : Type}

theorem filter_key_eq_singleton {α κ : Type} (l : List α) (key : α → κ)
    (hnd : (l.map key).Nodup) {p : α} (hp : p ∈ l) (P : α → Bool)
    (hP : ∀ q ∈ l, P q = true ↔ key q = key p) : l.filter P = [p] := by
  induction l with
  | nil => cases hp
  | cons a l ih =>
    rw [List.map_cons, List.nodup_cons] at hnd
    rw [List.filter_cons]
    rcases List.mem_cons.mp hp with rfl | hp'
    · have : P p = true := (hP p List.mem_cons_self).mpr rfl
      rw [if_pos this]
      congr 1
      rw [List.filter_eq_nil_iff]
      intro q hq hPq
      have := (hP q (List.mem_cons_of_mem _ hq)).mp hPq
      exact hnd.1 (this ▸ List.mem_map.mpr ⟨q, hq, rfl⟩)
    · have hne : ¬ P a = true := by
        intro hPa
        have := (hP a List.mem_cons_self).mp hPa
        exact hnd.1 (this ▸ List.mem_map.mpr ⟨p, hp', rfl⟩)
      rw [if_neg hne]
      exact ih hnd.2 hp' (fun q hq => hP q (List.mem_cons_of_mem _ hq))

theorem tensordotK_matmul_get [Zero R] [Add R] [Mul R] (a b : Blk R) {m k n : Nat}
    (ha : a.shape = [m, k]) (hb : b.shape = [k, n]) {i j : Nat} (hi : i < m) (hj : j < n) :
    (a.tensordotK b [1] [0]).get [i, j]
      = (List.range k).foldl (fun acc t => acc + a.get [i, t] * b.get [t, j]) 0 := by
  unfold Blk.tensordotK
  simp only [ha, hb]
  have h1 : (List.range [m, k].length).filter (fun ax => ![1].contains ax) = [0] := rfl
  have h2 : (List.range [k, n].length).filter (fun ax => ![0].contains ax) = [1] := rfl
  rw [h1, h2]
  have h3 : permuted [m, k] [0] ++ permuted [k, n] [1] = [m, n] := rfl
  have h4 : permuted [m, k] [1] = [k] := rfl
  rw [h3, h4, ofFn_get _ _ ((inBox_pair m n i j).mpr ⟨hi, hj⟩)]
  rw [allIdx_single, List.foldl_map]
  rfl

theorem tensordotK_matmul_shape [Zero R] [Add R] [Mul R] (a b : Blk R) {m k n : Nat}
    (ha : a.shape = [m, k]) (hb : b.shape = [k, n]) : (a.tensordotK b [1] [0]).shape = [m, n] := by
  unfold Blk.tensordotK
  simp only [ha, hb]
  rfl

theorem mulAxisK_get [Zero R] [Mul R] (b v : Blk R) {m k : Nat} (hb : b.shape = [m, k])
    {i t : Nat} (hi : i < m) (ht : t < k) :
    (b.mulAxisK v 1).get [i, t] = b.get [i, t] * v.get [t] := by
  unfold Blk.mulAxisK
  rw [hb, ofFn_get _ _ ((inBox_pair m k i t).mpr ⟨hi, ht⟩)]
  rfl

@[simp] theorem mulAxisK_shape [Zero R] [Mul R] (b v : Blk R) (ax : Nat) :
    (b.mulAxisK v ax).shape = b.shape := rfl

theorem accum_fold [Zero R] [Add R] [Mul R] (axesA axesB : List Nat)
    (pairs : List (Sector × Blk R × Blk R)) (acc : List (Sector × Blk R))
    (hnd : (acc.map (·.1) ++ pairs.map (·.1)).Nodup) :
    pairs.foldl (fun acc (x : Sector × Blk R × Blk R) =>
      match alookup acc x.1 with
      | none => acc ++ [(x.1, x.2.1.tensordotK x.2.2 axesA axesB)]
      | some cur => ainsert acc x.1 (Blk.zipWith (· + ·) cur (x.2.1.tensordotK x.2.2 axesA axesB))) acc
    = acc ++ pairs.map (fun p => (p.1, p.2.1.tensordotK p.2.2 axesA axesB)) := by
  induction pairs generalizing acc with
  | nil => simp
  | cons p ps ih =>
    have hp : p.1 ∉ acc.map (·.1) := by
      intro hm
      exact (List.nodup_append.mp hnd).2.2 _ hm _ (by simp) rfl
    simp only [List.foldl_cons]
    rw [alookup_eq_none_iff.mpr hp]
    simp only
    rw [ih _ (by simpa using hnd)]
    simp

/-- **blocks of the product of two block matrices** (`tensordotBlockwise`, axes `(1, 0)`): `a`
    stores `fA p` at `[u p, v p]`, `b` stores `fB p` at `[v p, w p]`; the contracted charge and the
    result key each determine the item.  Needs no law of the scalars. -/
theorem tdot_blocks_uvw [Zero R] [Add R] [Mul R] {α : Type} (l : List α) (u v w : α → Charge)
    (hv : (l.map v).Nodup) (hk : (l.map (fun p => ([u p, w p] : Sector))).Nodup)
    (fA fB : α → Blk R) (a b : Arr R)
    (ha : a.blocks = l.map (fun p => ([u p, v p], fA p)))
    (hb : b.blocks = l.map (fun p => ([v p, w p], fB p))) :
    (tensordotBlockwise a b [0] [1] [0] [1]).blocks
      = l.map (fun p => ([u p, w p], (fA p).tensordotK (fB p) [1] [0])) := by
  have hpairs : (a.blocks.flatMap (fun (sa, ba) =>
      let ka := permuted sa [1]
      (b.blocks.filter (fun (sb, _) => permuted sb [0] == ka)).map (fun (sb, bb) =>
        (permuted sa [0] ++ permuted sb [1], ba, bb))))
      = l.map (fun p => ([u p, w p], fA p, fB p)) := by
    rw [ha, hb, List.flatMap_map]
    apply flatMap_eq_map
    intro p hp
    simp only [List.filter_map]
    have hf : l.filter ((fun (q : Sector × Blk R) => permuted q.1 [0] == permuted [u p, v p] [1])
        ∘ fun p => ([v p, w p], fB p)) = [p] := by
      apply filter_key_eq_singleton l v hv hp
      intro q _
      simp only [Function.comp]
      show ([v q] == [v p]) = true ↔ _
      simp
    rw [hf]
    rfl
  unfold tensordotBlockwise
  simp only []
  rw [hpairs]
  have := accum_fold (R := R) [1] [0] (l.map (fun p => ([u p, w p], fA p, fB p))) []
    (by simpa [List.map_map, Function.comp_def] using hk)
  simp only [List.nil_append, List.map_map, Function.comp_def] at this
  exact this

theorem tdot_blocks_items [Zero R] [Add R] [Mul R] {α : Type} (l : List α) (sec : α → Sector)
    (hlen : ∀ p ∈ l, (sec p).length = 2) (hsec : (l.map sec).Nodup)
    (hcol : (l.map (fun p => colOf (sec p))).Nodup) (fA fB : α → Blk R) (a b : Arr R)
    (ha : a.blocks = l.map (fun p => (sec p, fA p)))
    (hb : b.blocks = l.map (fun p => ([colOf (sec p), colOf (sec p)], fB p))) :
    (tensordotBlockwise a b [0] [1] [0] [1]).blocks
      = l.map (fun p => (sec p, (fA p).tensordotK (fB p) [1] [0])) := by
  have hrc : ∀ p ∈ l, sec p = [rowOf (sec p), colOf (sec p)] := fun p hp => by
    obtain ⟨r, c, hs⟩ := length_two (hlen p hp)
    rw [hs]; rfl
  have e : ∀ (g : α → Blk R), l.map (fun p => (sec p, g p))
      = l.map (fun p => ([rowOf (sec p), colOf (sec p)], g p)) := fun g =>
    List.map_congr_left fun p hp => by rw [← hrc p hp]
  rw [e]
  exact tdot_blocks_uvw l (fun p => rowOf (sec p)) (fun p => colOf (sec p)) (fun p => colOf (sec p))
    hcol (by rw [← List.map_congr_left hrc]; exact hsec) fA fB a b (by rw [ha, e]) hb

theorem tdot_blocks_aligned [Zero R] [Add R] [Mul R] {x : Arr R} (hv : x.validB = true)
    (h2 : x.ndim = 2) (fA fB : Sector × Blk R → Blk R) (a b : Arr R)
    (ha : a.blocks = x.blocks.map (fun p => (p.1, fA p)))
    (hb : b.blocks = x.blocks.map (fun p => ([colOf p.1, colOf p.1], fB p))) :
    (tensordotBlockwise a b [0] [1] [0] [1]).blocks
      = x.blocks.map (fun p => (p.1, (fA p).tensordotK (fB p) [1] [0])) := by
  refine tdot_blocks_items x.blocks (·.1) ?_ (Arr.validB_nodup hv) ?_ fA fB a b ha hb
  · exact fun p hp => (Arr.validB_block_len hv hp).trans h2
  · exact blocks_cols_nodup hv h2

end LinalgLemmas

/-- VALUE contract of the QR kernel: `q · r = b` entrywise, the sum over the inner index written
    as the left fold `tensordotK` computes -/
def Kernels.QRContract [Zero R] [Add R] [Mul R] (K : Kernels R) : Prop :=
  ∀ b m n, b.shape = [m, n] → b.wf = true → ∀ i j, i < m → j < n →
    (List.range (min m n)).foldl
      (fun acc t => acc + (K.qr b).1.get [i, t] * (K.qr b).2.get [t, j]) 0 = b.get [i, j]

/-- VALUE contract of the SVD kernel: `(u · diag s) · vh = b` entrywise -/
def Kernels.SVDContract [Zero R] [Add R] [Mul R] (K : Kernels R) : Prop :=
  ∀ b m n, b.shape = [m, n] → b.wf = true → ∀ i j, i < m → j < n →
    (List.range (min m n)).foldl
      (fun acc t => acc + ((K.svd b).1.get [i, t] * (K.svd b).2.1.get [t]) * (K.svd b).2.2.get [t, j]) 0
      = b.get [i, j]

namespace LinalgLemmas

/-- addresses at which two arrays are compared: an offset inside the box of a stored block of
    `x`, or any offset of a sector `x` does not store -/
def AddrOf (x : Arr R) (s : Sector) (off : List Nat) : Prop :=
  s ∉ x.sectors ∨ ∃ b, (s, b) ∈ x.blocks ∧ inBox b.shape off = true

theorem addrOf_items {x : Arr R} (hv : x.validB = true) (h2 : x.ndim = 2) {s : Sector}
    {off : List Nat} (ha : AddrOf x s off) :
    s ∉ x.blocks.map (fun p => p.1) ∨ ∃ p ∈ x.blocks, s = p.1
      ∧ inBox [p.2.shape.getD 0 0, p.2.shape.getD 1 0] off = true := by
  rcases ha with h | ⟨b, hm, hbox⟩
  · exact Or.inl h
  · refine Or.inr ⟨(s, b), hm, rfl, ?_⟩
    obtain ⟨i0, i1, hi⟩ := ndim_two h2
    obtain ⟨r, c, m, n, B⟩ := mat_block hv hi hm
    simpa [B.hshape] using hbox

theorem inBox_pair_elim {m n : Nat} {off : List Nat} (h : inBox [m, n] off = true) :
    ∃ i j, off = [i, j] ∧ i < m ∧ j < n := by
  match off, h with
  | [i, j], h => exact ⟨i, j, rfl, (inBox_pair m n i j).mp h⟩
  | [], h => simp [inBox] at h
  | [_], h => simp [inBox] at h
  | _ :: _ :: _ :: _, h => simp [inBox] at h

theorem elem_of_blocks_map_signed [Zero R] [Neg R] {x : Arr R} (hv : x.validB = true)
    (h2 : x.ndim = 2) (y : Arr R) (T : Sector × Blk R → Blk R)
    (hy : y.blocks = x.blocks.map (fun p => (p.1, T p))) (hph : y.phases = [])
    (hT : ∀ p ∈ x.blocks, ∀ i j, i < p.2.shape.getD 0 0 → j < p.2.shape.getD 1 0 →
      (T p).get [i, j]
        = if alookup x.phases p.1 == some (-1) then - p.2.get [i, j] else p.2.get [i, j])
    (s : Sector) (off : List Nat) (ha : AddrOf x s off) : y.elem s off = x.elem s off := by
  obtain ⟨i0, i1, hi⟩ := ndim_two h2
  have hnd := Arr.validB_nodup hv
  have hndy : (y.blocks.map (·.1)).Nodup := by
    rw [hy]; simpa [Arr.sectors, List.map_map, Function.comp_def] using hnd
  rcases ha with hns | ⟨b, hm, hbox⟩
  · have h1 : alookup x.blocks s = none := alookup_eq_none_iff.mpr hns
    have h2' : alookup y.blocks s = none := by
      rw [alookup_eq_none_iff, hy]
      simpa [Arr.sectors, List.map_map, Function.comp_def] using hns
    simp [Arr.elem, h1, h2']
  · obtain ⟨r, c, m, n, B⟩ := mat_block hv hi hm
    have hy' : alookup y.blocks s = some (T (s, b)) := by
      apply alookup_of_mem_nodup hndy
      rw [hy]; exact List.mem_map.mpr ⟨(s, b), hm, rfl⟩
    have hx' : alookup x.blocks s = some b := alookup_of_mem_nodup hnd hm
    rw [B.hshape] at hbox
    obtain ⟨i, j, rfl, hij⟩ := inBox_pair_elim hbox
    have := hT (s, b) hm i j (by simpa [B.hshape] using hij.1) (by simpa [B.hshape] using hij.2)
    simp only [Arr.elem, hy', hx', hph, alookup]
    simpa using this

theorem elem_of_blocks_map [Zero R] [Neg R] {x : Arr R} (hv : x.validB = true) (h2 : x.ndim = 2)
    (y : Arr R) (T : Sector × Blk R → Blk R) (hy : y.blocks = x.blocks.map (fun p => (p.1, T p)))
    (hph : y.phases = []) (hxph : x.phases = [])
    (hT : ∀ p ∈ x.blocks, ∀ i j, i < p.2.shape.getD 0 0 → j < p.2.shape.getD 1 0 →
      (T p).get [i, j] = p.2.get [i, j])
    (s : Sector) (off : List Nat) (ha : AddrOf x s off) : y.elem s off = x.elem s off := by
  apply elem_of_blocks_map_signed hv h2 y T hy hph _ s off ha
  intro p hp i j hi hj
  rw [hxph, hT p hp i j hi hj]
  rfl

/-- the pair of block maps `(L, Rt)` reproduces every matrix block:
    `Σ_t L(b)[i,t]·Rt(b)[t,j] = b[i,j]`.  `QRContract` says it of the qr kernels, `SVDContract` of
    `(u·diag s, vh)` (`svd_reproduces`). -/
def Reproduces [Zero R] [Add R] [Mul R] (L Rt : Blk R → Blk R) : Prop :=
  ∀ b m n, b.shape = [m, n] → b.wf = true → ∀ i j, i < m → j < n →
    (List.range (min m n)).foldl (fun acc t => acc + (L b).get [i, t] * (Rt b).get [t, j]) 0
      = b.get [i, j]

theorem factors_recon [Zero R] [Add R] [Mul R] [Neg R] {L Rt : Blk R → Blk R} (hL : FacShape L Rt)
    (hC : Reproduces L Rt) {x : Arr R} (hv : x.validB = true) (h2 : x.ndim = 2)
    (hf : x.fermi = false) (s : Sector) (off : List Nat) (ha : AddrOf x s off) :
    (tensordotBlockwise (leftF x L) (rightF x L Rt) [0] [1] [0] [1]).elem s off = x.elem s off := by
  obtain ⟨i0, i1, hi⟩ := ndim_two h2
  have hxph := Arr.phases_nil_of_validB hv hf
  apply elem_of_blocks_map hv h2 _ (fun p => (L p.2).tensordotK (Rt p.2) [1] [0])
    (tdot_blocks_aligned hv h2 (fun p => L p.2) (fun p => Rt p.2) (leftF x L) (rightF x L Rt) rfl
      rightF_fields.blocks) hxph hxph _ s off ha
  intro p hp i j hi' hj'
  obtain ⟨s0, b⟩ := p
  obtain ⟨r, c, m, n, B⟩ := mat_block hv hi hp
  obtain ⟨a1, _, a3, _⟩ := hL b m n B.hshape B.hwf
  simp only [B.hshape, List.getD_cons_zero, List.getD_cons_succ] at hi' hj'
  rw [tensordotK_matmul_get _ _ a1 a3 hi' hj']
  exact hC b m n B.hshape B.hwf i j hi' hj'

theorem qr_recon [Zero R] [Add R] [Mul R] [Neg R] {K : Kernels R} (hK : K.ShapeOk)
    (hC : K.QRContract) {x : Arr R} (hv : x.validB = true) (h2 : x.ndim = 2)
    (hf : x.fermi = false) (s : Sector) (off : List Nat) (ha : AddrOf x s off) :
    (tensordotBlockwise (leftF x (fun b => (K.qr b).1))
        (rightF x (fun b => (K.qr b).1) (fun b => (K.qr b).2)) [0] [1] [0] [1]).elem s off
      = x.elem s off :=
  factors_recon (fun b m n h1 h2 => hK.qr b m n h1 h2) hC hv h2 hf s off ha

theorem multiplyDiagonal_aligned [Zero R] [Mul R] {x : Arr R} (hv : x.validB = true)
    (h2 : x.ndim = 2) (fU fS : Sector × Blk R → Blk R) (u : Arr R) (sv : BVec R)
    (hu : u.blocks = x.blocks.map (fun p => (p.1, fU p)))
    (hs : sv.blocks = x.blocks.map (fun p => (colOf p.1, fS p))) :
    (multiplyDiagonal u sv 1).blocks
      = x.blocks.map (fun p => (p.1, (fU p).mulAxisK (fS p) 1)) :=
  multiplyDiagonal_items Prod.fst fU fS 1 u sv hu hs (blocks_cols_nodup hv h2)

theorem multiplyDiagonal_blocks [Zero R] [Mul R] {x : Arr R} (hv : x.validB = true)
    (h2 : x.ndim = 2) (fU fS : Blk R → Blk R) (u : Arr R) (sv : BVec R)
    (hu : u.blocks = x.blocks.map (fun p => (p.1, fU p.2)))
    (hs : sv.blocks = x.blocks.map (fun p => (colOf p.1, fS p.2))) :
    (multiplyDiagonal u sv 1).blocks
      = x.blocks.map (fun p => (p.1, (fU p.2).mulAxisK (fS p.2) 1)) :=
  multiplyDiagonal_aligned hv h2 (fun p => fU p.2) (fun p => fS p.2) u sv hu hs

end LinalgLemmas

namespace Recon2P
open LinalgLemmas

/-- the left svd factor with the singular values multiplied in -/
abbrev usOf (K : Kernels R) [Zero R] [Mul R] (b : Blk R) : Blk R :=
  (K.svd b).1.mulAxisK (K.svd b).2.1 1

theorem facShape_us [Zero R] [Mul R] {K : Kernels R} (hK : K.ShapeOk) :
    FacShape (usOf K) (fun b => (K.svd b).2.2) := by
  intro b m n h1 h2
  obtain ⟨a1, _, _, _, a5, a6⟩ := hK.svd b m n h1 h2
  exact ⟨by rw [mulAxisK_shape]; exact a1, ofFn_wf _ _, a5, a6⟩

theorem bondIx_us [Zero R] [Mul R] (K : Kernels R) (x : Arr R) :
    bondIx x (usOf K) = bondIx x (fun b => (K.svd b).1) := rfl

theorem rightF_us [Zero R] [Mul R] (K : Kernels R) (x : Arr R) :
    rightF x (usOf K) (fun b => (K.svd b).2.2)
      = rightF x (fun b => (K.svd b).1) (fun b => (K.svd b).2.2) := rfl

theorem multiplyDiagonal_us [Zero R] [Mul R] (K : Kernels R) {x : Arr R} (hv : x.validB = true)
    (h2 : x.ndim = 2) :
    multiplyDiagonal (leftF x (fun b => (K.svd b).1))
        ⟨x.blocks.map (fun p => (colOf p.1, (K.svd p.2).2.1))⟩ 1
      = leftF x (usOf K) := by
  have hmd := LinalgLemmas.multiplyDiagonal_blocks hv h2 (fun b => (K.svd b).1) (fun b => (K.svd b).2.1)
    (leftF x (fun b => (K.svd b).1)) ⟨x.blocks.map (fun p => (colOf p.1, (K.svd p.2).2.1))⟩ rfl rfl
  have e : multiplyDiagonal (leftF x (fun b => (K.svd b).1))
        ⟨x.blocks.map (fun p => (colOf p.1, (K.svd p.2).2.1))⟩ 1
      = { leftF x (fun b => (K.svd b).1) with
          blocks := (multiplyDiagonal (leftF x (fun b => (K.svd b).1))
            ⟨x.blocks.map (fun p => (colOf p.1, (K.svd p.2).2.1))⟩ 1).blocks } := rfl
  rw [e, hmd]
  rfl

end Recon2P

namespace LinalgLemmas
open Recon2P

theorem svd_reproduces [Zero R] [Add R] [Mul R] {K : Kernels R} (hK : K.ShapeOk)
    (hC : K.SVDContract) : Reproduces (usOf K) (fun b => (K.svd b).2.2) := by
  intro b m n hs hwf i j hi hj
  obtain ⟨a1, _, _, _, _, _⟩ := hK.svd b m n hs hwf
  rw [← hC b m n hs hwf i j hi hj]
  apply foldl_ext'
  intro acc t ht
  rw [mulAxisK_get _ _ a1 hi (List.mem_range.mp ht)]

theorem svd_recon [Zero R] [Add R] [Mul R] [Neg R] {K : Kernels R} (hK : K.ShapeOk)
    (hC : K.SVDContract) {x : Arr R} (hv : x.validB = true) (h2 : x.ndim = 2)
    (hf : x.fermi = false) (s : Sector) (off : List Nat) (ha : AddrOf x s off) :
    (tensordotBlockwise
        (multiplyDiagonal (leftF x (fun b => (K.svd b).1))
          ⟨x.blocks.map (fun p => (colOf p.1, (K.svd p.2).2.1))⟩ 1)
        (rightF x (fun b => (K.svd b).1) (fun b => (K.svd b).2.2)) [0] [1] [0] [1]).elem s off
      = x.elem s off := by
  rw [multiplyDiagonal_us K hv h2, ← rightF_us K x]
  exact factors_recon (facShape_us hK) (svd_reproduces hK hC) hv h2 hf s off ha

/-! ### a kernel instance over `Int` that meets the shape and value contracts (non-vacuity)

`b = I · b` for wide blocks and `b = b · I` for tall ones: exact, of the reduced shapes, but of
course without the orthonormality clauses, which the theorems here do not use. -/

def eyeI (n : Nat) : Blk Int := Blk.ofFn [n, n] (fun i => if i.getD 0 0 = i.getD 1 0 then 1 else 0)
def onesI (n : Nat) : Blk Int := Blk.ofFn [n] (fun _ => 1)

end LinalgLemmas

def Kernels.trivialFactor : Kernels Int where
  qr b := let m := b.shape.getD 0 0; let n := b.shape.getD 1 0
          if m ≤ n then (LinalgLemmas.eyeI m, b) else (b, LinalgLemmas.eyeI n)
  svd b := let m := b.shape.getD 0 0; let n := b.shape.getD 1 0
           if m ≤ n then (LinalgLemmas.eyeI m, LinalgLemmas.onesI m, b)
           else (b, LinalgLemmas.onesI n, LinalgLemmas.eyeI n)
  eigh b := let m := b.shape.getD 0 0; (Blk.zeros [m], Blk.zeros [m, m])
  solve a _ := Blk.zeros [a.shape.getD 1 0]

namespace LinalgLemmas

theorem eyeI_get {n i j : Nat} (hi : i < n) (hj : j < n) :
    (eyeI n).get [i, j] = if i = j then 1 else 0 := by
  unfold eyeI
  rw [ofFn_get _ _ ((inBox_pair n n i j).mpr ⟨hi, hj⟩)]
  rfl

theorem onesI_get {n t : Nat} (ht : t < n) : (onesI n).get [t] = 1 := by
  unfold onesI
  rw [ofFn_get _ _ ((inBox_single n t).mpr ht)]

theorem sum_delta (f g : Nat → Int) (i k : Nat) (a : Int)
    (hg : ∀ t, t < k → g t = if i = t then f t else 0) :
    (List.range k).foldl (fun acc t => acc + g t) a = a + (if i < k then f i else 0) := by
  induction k generalizing a with
  | zero => simp
  | succ k ih =>
    rw [List.range_succ, List.foldl_append, ih a (fun t ht => hg t (by omega))]
    simp only [List.foldl_cons, List.foldl_nil]
    rw [hg k (by omega)]
    by_cases h1 : i = k
    · subst h1; simp
    · by_cases h2 : i < k
      · have : i < k + 1 := by omega
        simp [h1, h2, this]
      · have : ¬ i < k + 1 := by omega
        simp [h1, h2, this]

theorem trivialFactor_shapeOk : Kernels.trivialFactor.ShapeOk where
  qr b m n hs hwf := by
    simp only [Kernels.trivialFactor, hs, List.getD_cons_zero, List.getD_cons_succ]
    split
    next h => rw [Nat.min_eq_left h]; exact ⟨rfl, ofFn_wf _ _, hs, hwf⟩
    next h => rw [Nat.min_eq_right (by omega)]; exact ⟨hs, hwf, rfl, ofFn_wf _ _⟩
  svd b m n hs hwf := by
    simp only [Kernels.trivialFactor, hs, List.getD_cons_zero, List.getD_cons_succ]
    split
    next h =>
      rw [Nat.min_eq_left h]; exact ⟨rfl, ofFn_wf _ _, rfl, ofFn_wf _ _, hs, hwf⟩
    next h =>
      rw [Nat.min_eq_right (by omega)]; exact ⟨hs, hwf, rfl, ofFn_wf _ _, rfl, ofFn_wf _ _⟩
  eigh b m hs _ := by
    simp only [Kernels.trivialFactor, hs, List.getD_cons_zero, zeros_shape, zeros_wf, and_self]
  solve a b m n hs _ := by
    simp only [Kernels.trivialFactor, hs, List.getD_cons_zero, List.getD_cons_succ, zeros_shape,
      zeros_wf, and_self]

theorem trivialFactor_qr : Kernels.trivialFactor.QRContract := by
  intro b m n hs _ i j hi hj
  simp only [Kernels.trivialFactor, hs, List.getD_cons_zero, List.getD_cons_succ]
  split
  next h =>
    rw [Nat.min_eq_left h]
    have := sum_delta (fun t => b.get [t, j]) (fun t => (eyeI m).get [i, t] * b.get [t, j]) i m 0
      (fun t ht => by rw [eyeI_get hi ht]; split <;> simp)
    simpa [hi] using this
  next h =>
    rw [Nat.min_eq_right (by omega)]
    have := sum_delta (fun t => b.get [i, t]) (fun t => b.get [i, t] * (eyeI n).get [t, j]) j n 0
      (fun t ht => by
        rw [eyeI_get ht hj]
        by_cases e : t = j
        · subst e; simp
        · have : ¬ j = t := fun e' => e e'.symm
          simp [e, this])
    simpa [hj] using this

theorem trivialFactor_svd : Kernels.trivialFactor.SVDContract := by
  intro b m n hs _ i j hi hj
  simp only [Kernels.trivialFactor, hs, List.getD_cons_zero, List.getD_cons_succ]
  split
  next h =>
    rw [Nat.min_eq_left h]
    have := sum_delta (fun t => b.get [t, j])
      (fun t => ((eyeI m).get [i, t] * (onesI m).get [t]) * b.get [t, j]) i m 0
      (fun t ht => by rw [eyeI_get hi ht, onesI_get ht]; split <;> simp)
    simpa [hi] using this
  next h =>
    rw [Nat.min_eq_right (by omega)]
    have := sum_delta (fun t => b.get [i, t])
      (fun t => (b.get [i, t] * (onesI n).get [t]) * (eyeI n).get [t, j]) j n 0
      (fun t ht => by
        rw [eyeI_get ht hj, onesI_get ht]
        by_cases e : t = j
        · subst e; simp
        · have : ¬ j = t := fun e' => e e'.symm
          simp [e, this])
    simpa [hj] using this

end LinalgLemmas
end SymmModel
