/-
  SymmModel.Proofs.TdotFuseC1 — contraction commutes with fusing (abelian): fusing the free legs
  of each operand (and the contracted legs into one bond) BEFORE the contraction, versus fusing the
  corresponding legs of the contraction result AFTERWARDS.  Both fused matrices hold, at positions
  that decode (each through its own fused index tables) to the same address of the plain
  contraction result, the element of that result.
-/
import SymmModel.Proofs.TdotFusedS4

namespace SymmModel
namespace TdotP
variable {R : Type}

/-- the plain (blockwise) contraction of the aligned operands -/
def cPlain [Zero R] [Add R] [Mul R] (A B : Arr R) (xa xb : List Nat) : Arr R :=
  tensordotBlockwise A B (freeAxes A.ndim xa) xa xb (freeAxes B.ndim xb)

/-- the legs of the result that come from the left operand -/
def resL (A : Arr R) (xa : List Nat) : List Nat := List.range (freeAxes A.ndim xa).length
/-- the legs of the result that come from the right operand -/
def resR (A B : Arr R) (xa xb : List Nat) : List Nat :=
  (List.range ((freeAxes A.ndim xa).length + (freeAxes B.ndim xb).length)).drop (freeAxes A.ndim xa).length

namespace FusedCtx
variable {A B : Arr R} {xa xb : List Nat}

theorem cPlain_validB [Zero R] [Add R] [Mul R] (h : FusedCtx A B xa xb) : (cPlain A B xa xb).validB = true := by
  have hd : ValidP.oppositeDualsB A B xa xb = true := by
    refine ValidP.oppositeDualsB_iff.mpr ⟨h.len, ?_⟩
    intro p hp
    obtain ⟨t, ht1, ht2⟩ := mem_zip_getElem? hp
    have c2 := congrArg (fun l => l[t]?) h.dual
    simp only [List.getElem?_map, ht1, ht2, Option.map_some, Option.some.injEq] at c2
    simp only [bne_iff_ne, ne_eq]
    rw [c2]; cases (A.indices.getD p.1 default).dual <;> simp
  have := ValidP.tensordotBlockwise_valid A B xa xb ((ValidP.validB_iff _).mp h.vA)
    ((ValidP.validB_iff _).mp h.vB) h.sym h.fA hd h.nA h.nB h.rA h.rB
  rw [without_range, without_range] at this
  exact (ValidP.validB_iff _).mpr this

theorem cPlain_ndim [Zero R] [Add R] [Mul R] (_h : FusedCtx A B xa xb) :
    (cPlain A B xa xb).ndim = (freeAxes A.ndim xa).length + (freeAxes B.ndim xb).length :=
  tensordotBlockwise_rank A B xa xb

theorem cPlain_pair [Zero R] [Add R] [Mul R] (h : FusedCtx A B xa xb) :
    PairOk (cPlain A B xa xb) (resL A xa) (resR A B xa xb) := by
  have hl := List.length_pos_iff.mpr h.neL
  have hr := List.length_pos_iff.mpr h.neR
  refine ⟨?_, ?_, ?_⟩
  · intro e; have := congrArg List.length e; simp only [resL, List.length_range, List.length_nil] at this; omega
  · intro e; have := congrArg List.length e
    simp only [resR, List.length_drop, List.length_range, List.length_nil] at this; omega
  · rw [h.cPlain_ndim]
    unfold resL resR
    have : List.range (freeAxes A.ndim xa).length
        = (List.range ((freeAxes A.ndim xa).length + (freeAxes B.ndim xb).length)).take (freeAxes A.ndim xa).length := by
      rw [List.take_range]; congr 1; omega
    rw [this, List.take_append_drop]

/-- **contraction commutes with fusing** (aligned abelian operands; left, contracted and right
    group non-empty, any number of axes each).  `P` = product of the operands fused BEFORE the
    contraction (`fuse(a, [left, contracted])`, `fuse(b, [contracted, right])`, one bond);
    `Q` = the contraction result fused AFTERWARDS (`fuse(c, [left legs, right legs])`).  If a
    position `(cL, iL | cR, iR)` of `P` and a position `(c1, i1 | c2, i2)` of `Q` decode — each
    through the index tables of its own array — to the same sub-charges and sub-offsets
    `(Ls, oL | Rs, oR)`, then both hold the element of the plain result at `(Ls ++ Rs, oL ++ oR)`. -/
theorem fuse_commute [AddCommMonoid R] [Mul R] [Neg R]
    (hz1 : ∀ x : R, 0 * x = 0) (hz2 : ∀ x : R, x * 0 = 0) (h : FusedCtx A B xa xb)
    {cL cR c1 c2 : Charge} {iL iR dL dR i1 i2 d1 d2 : Nat} {Ls Rs : Sector} {oL oR : List Nat}
    (hdL : decAx A [freeAxes A.ndim xa, xa] 0 cL iL = some (Ls, oL))
    (hdR : decAx B [xb, freeAxes B.ndim xb] 1 cR iR = some (Rs, oR))
    (hzL : (FuseP.ixM A [freeAxes A.ndim xa, xa] 0).sizeOf? cL = some dL) (hiL : iL < dL)
    (hzR : (FuseP.ixM B [xb, freeAxes B.ndim xb] 1).sizeOf? cR = some dR) (hiR : iR < dR)
    (hd1 : decAx (cPlain A B xa xb) [resL A xa, resR A B xa xb] 0 c1 i1 = some (Ls, oL))
    (hd2 : decAx (cPlain A B xa xb) [resL A xa, resR A B xa xb] 1 c2 i2 = some (Rs, oR))
    (hz1' : (FuseP.ixM (cPlain A B xa xb) [resL A xa, resR A B xa xb] 0).sizeOf? c1 = some d1) (hi1 : i1 < d1)
    (hz2' : (FuseP.ixM (cPlain A B xa xb) [resL A xa, resR A B xa xb] 1).sizeOf? c2 = some d2) (hi2 : i2 < d2) :
    (tensordotBlockwise (FuseP.fusedArrM A [freeAxes A.ndim xa, xa])
        (FuseP.fusedArrM B [xb, freeAxes B.ndim xb]) [0] [1] [0] [1]).elem [cL, cR] [iL, iR]
      = (cPlain A B xa xb).elem (Ls ++ Rs) (oL ++ oR)
    ∧ (FuseP.fusedArrM (cPlain A B xa xb) [resL A xa, resR A B xa xb]).elem [c1, c2] [i1, i2]
      = (cPlain A B xa xb).elem (Ls ++ Rs) (oL ++ oR) := by
  refine ⟨fused_core hz1 hz2 h hdL hdR hzL hiL hzR hiR, ?_⟩
  have hvc := h.cPlain_validB
  have hva := FuseP.validArr_of_validB hvc
  have hfc : (cPlain A B xa xb).fermi = false :=
    (tensordotBlockwise_fields A B _ xa xb _).2.1.trans h.fA
  have hph : (cPlain A B xa xb).phases = [] := Arr.phases_nil_of_validB hvc hfc
  have hp := h.cPlain_pair
  have ean : A.indices.length = A.ndim := rfl
  have ebn : B.indices.length = B.ndim := rfl
  have gA0 : ([freeAxes A.ndim xa, xa] : List (List Nat))[0]? = some (freeAxes A.ndim xa) := rfl
  have gB1 : ([xb, freeAxes B.ndim xb] : List (List Nat))[1]? = some (freeAxes B.ndim xb) := rfl
  obtain ⟨shpL, hshpL, hboxL⟩ := decAx_facts h.vaA h.pairA.groupsOk gA0 hdL hzL hiL
  obtain ⟨shpR, hshpR, hboxR⟩ := decAx_facts h.vaB h.pairB.groupsOk gB1 hdR hzR hiR
  have hLlen : Ls.length = (freeAxes A.ndim xa).length := by
    rw [(blockShape?_length hshpL).1, permuted_length _ _ (by simpa [ean] using mem_freeAxes_lt)]
  have hRlen : Rs.length = (freeAxes B.ndim xb).length := by
    rw [(blockShape?_length hshpR).1, permuted_length _ _ (by simpa [ebn] using mem_freeAxes_lt)]
  have hoLlen : oL.length = (freeAxes A.ndim xa).length := by
    rw [inBox_length hboxL, (blockShape?_length hshpL).2,
      permuted_length _ _ (by simpa [ean] using mem_freeAxes_lt)]
  have hoRlen : oR.length = (freeAxes B.ndim xb).length := by
    rw [inBox_length hboxR, (blockShape?_length hshpR).2,
      permuted_length _ _ (by simpa [ebn] using mem_freeAxes_lt)]
  have hsl : (Ls ++ Rs).length = (freeAxes A.ndim xa).length + (freeAxes B.ndim xb).length := by
    rw [List.length_append, hLlen, hRlen]
  have hol : (oL ++ oR).length = (freeAxes A.ndim xa).length + (freeAxes B.ndim xb).length := by
    rw [List.length_append, hoLlen, hoRlen]
  refine pair_elem hva hph hp hd1 hd2 hz1' hi1 hz2' hi2 (s := Ls ++ Rs) (offs := oL ++ oR)
    (by rw [h.cPlain_ndim]; exact hsl) (by rw [h.cPlain_ndim]; exact hol) ?_ ?_ ?_ ?_
  · unfold resL; rw [ValidP.permuted_range_take, ← hLlen]; simp
  · unfold resR; rw [← hsl, ValidP.permuted_range_drop, ← hLlen]; simp
  · unfold resL; rw [ValidP.permuted_range_take, ← hoLlen]; simp
  · unfold resR; rw [← hol, ValidP.permuted_range_drop, ← hoLlen]; simp

end FusedCtx

end TdotP
end SymmModel
