/-
  SymmModel.Proofs.NetNormM2 — network form of the norm (property C10), mirror images of the
  ket-bra-first bracketings, part 2: the KET-first pieces `X' = a·ā`, `Y' = b·b̄` (contracted over all
  dangling legs).  `X'` carries no label and is the block transpose of `X = ā·a` with NO extra sign
  (`MPiece`, `mpiece_of`: S5 for the pair `(a, ā)`, whose labels coincide — `Assoc5P.swap_eqv_gen`); hence
        `X'·Y`,  `X'·Y'`,  `Y·X'`,  `Y'·X'`
  are the scalar of the hub (`mirror_half`): S6 on the left operand + congruence, S5 for a full
  contraction to reach the right operand.
-/
import SymmModel.Proofs.NetNormM1

namespace SymmModel.NormNet
open SymmModel SymmModel.Norm SymmModel.TdotP SymmModel.RoutesP
open SymmModel.AssocP SymmModel.Assoc3P SymmModel.Assoc4P SymmModel.Assoc5P SymmModel.Net4P
open SymmModel.OddposP (mergeOddpos)
open SymmModel.KoszulP (sgn)
set_option linter.unusedSectionVars false

/-- the legs of `a·ā` in the order "bonded to `b̄`, bonded to `b`": `ā`'s bond legs are the SECOND block -/
def kbM (n : Nat) (xa : List Nat) : List Nat := (kbQ n xa).map (xa.length + ·) ++ kbQ n xa

theorem kbM_perm {n : Nat} {xa : List Nat} (hn : xa.Nodup) (hlt : ∀ i ∈ xa, i < n) :
    (kbM n xa).Perm (List.range (xa.length + xa.length)) :=
  List.perm_append_comm.trans (kbP_perm hn hlt)

theorem kbM_free {n : Nat} {xa : List Nat} (hn : xa.Nodup) (hlt : ∀ i ∈ xa, i < n) :
    freeAxes (xa.length + xa.length) (kbM n xa) = [] :=
  freeAxes_of_perm (kbM_perm hn hlt)

theorem permuted_rot_low (k : Nat) (q : List Nat) (hq : ∀ i ∈ q, i < k) :
    permuted (rotB k k) q = q.map (k + ·) := by
  have h1 := permuted_rotB_axes k k q [] hq (by simp)
  simpa using h1

theorem permuted_rot_high (k : Nat) (q : List Nat) (hq : ∀ i ∈ q, i < k) :
    permuted (rotB k k) (q.map (k + ·)) = q := by
  have h2 := permuted_rotB_axes k k [] q (by simp) hq
  simpa using h2

theorem permuted_rot_mirror (k : Nat) (q : List Nat) (hq : ∀ i ∈ q, i < k) :
    permuted (rotB k k) (q.map (k + ·) ++ q) = q ++ q.map (k + ·) := by
  rw [permuted_append, permuted_rot_high k q hq, permuted_rot_low k q hq]

theorem kbM_rot {n : Nat} {xa : List Nat} (hn : xa.Nodup) (hlt : ∀ i ∈ xa, i < n) :
    permuted (rotB xa.length xa.length) (kbM n xa) = kbP n xa :=
  permuted_rot_mirror _ _ (kbQ_lt hn hlt)

section main
variable {R : Type} [AddCommMonoid R] [Mul R] [Neg R] [Conj R] [NetLaws R] [AssocLaws R]

/-- `X' = a·ā`: the call, no label, rank `2·|xa|`, valid, and the block transpose of `X = ā·a` -/
structure MPiece (a : Arr R) (xa : List Nat) (X' : Arr R) : Prop where
  call : tdF a (braOf a xa) (freeAxes a.ndim xa) (freeAxes a.ndim xa) = .ok X'
  odd : X'.oddpos = []
  nd : X'.ndim = xa.length + xa.length
  valid : X'.validB = true
  eqv : ∀ X, Piece a xa X → Eqv (X.transposeF (rotB xa.length xa.length)) X'

theorem mpiece_of (hmul : ∀ x y : R, x * y = y * x) (a : Arr R) (xa : List Nat)
    (ha : a.validB = true) (hfa : a.fermi = true)
    (hn : xa.Nodup) (hlt : ∀ i ∈ xa, i < a.ndim) (hoA : KetLabels a.oddpos)
    (hdA : a.oddpos.Pairwise (fun x y => x.1 ≠ y.1)) : ∃ X', MPiece a xa X' := by
  have WAa := admW_bra_self a xa ha hfa
  have W := admW_swap WAa
  have hob : (braOf a xa).oddpos = Arr.oddposDag a.oddpos := braOf_oddpos a xa
  have m1 : mergeOddpos a.parity a.oddpos (braOf a xa).oddpos
      = .ok ([], ph0 a.parity a.oddpos.length * (if a.oddpos.length % 2 = 1 then -1 else 1)) := by
    rw [hob]; exact merge_ket_bra _ _ hoA hdA
  have m2 : mergeOddpos (braOf a xa).parity (braOf a xa).oddpos a.oddpos
      = .ok ([], ph0 a.parity a.oddpos.length) := by
    rw [hob, braOf_parity]; exact merge_bra_ket _ _ hoA hdA
  have m3 : ph0 a.parity a.oddpos.length
      = ph0 a.parity a.oddpos.length * (if a.oddpos.length % 2 = 1 then -1 else 1)
        * sgn (a.parity.toNat * (braOf a xa).parity.toNat) := by
    rw [braOf_parity]
    exact merge_mirror_sign _ _ (oddpos_parity ha hfa)
  obtain ⟨X', eX', IX'⟩ := Call.of_merge W m1
  have oX' := IX'.oddpos
  obtain ⟨c', ec', _, _, hE⟩ := swap_eqv_gen hmul W [] _ _ m1 m2 m3 X' eX'
  have hk : (freeAxes a.ndim (freeAxes a.ndim xa)).length = xa.length := sorted_len hn hlt
  rw [braOf_ndim, hk] at hE
  refine ⟨X', eX', oX', ?_, IX'.valid, ?_⟩
  · have := IX'.ndim
    rw [braOf_ndim, hk] at this
    exact this
  · intro X PX
    obtain rfl : X = c' := by
      have := PX.call
      unfold tdF at ec'
      rw [this] at ec'
      exact Except.ok.inj ec'
    exact hE

/-- the routes through the ket-first pieces, with the value `v` of the hub — the RESULT of `mirror_half`.
    Unlike `HubHalf` it records no guards of the calls (`mirror_half` proves them on the way), so it does not
    carry what a lift to other modes by `Net4P.pad_call` would need -/
structure MirrorHalf (a b : Arr R) (xa xb : List Nat) (X' Y Y' : Arr R) (v : R) : Prop where
  /-- `(a·ā)·(b̄·b)` -/
  rMY : ∃ c, tdF X' Y (kbM a.ndim xa) (kbP b.ndim xb) = .ok c ∧ Scal c v
  /-- `(b̄·b)·(a·ā)` -/
  rYM : ∃ c, tdF Y X' (kbP b.ndim xb) (kbM a.ndim xa) = .ok c ∧ Scal c v
  /-- `(b·b̄)·(a·ā)` -/
  rMM' : ∃ c, tdF Y' X' (kbM b.ndim xb) (kbM a.ndim xa) = .ok c ∧ Scal c v
  /-- `(a·ā)·(b·b̄)`, the legs bonded to the bra side listed first -/
  rMM : ∃ c, tdF X' Y' (kbM a.ndim xa) (kbM b.ndim xb) = .ok c ∧ Scal c v
  /-- `(a·ā)·(b·b̄)`, the legs bonded to the ket side listed first -/
  rMMk : ∃ c, tdF X' Y' (kbP a.ndim xa) (kbP b.ndim xb) = .ok c ∧ Scal c v

theorem mirror_half (hmul : ∀ x y : R, x * y = y * x) {a b : Arr R} {xa xb : List Nat}
    {X Y X' Y' : Arr R} {v : R} (h : Adm a b xa xb) (PX : Piece a xa X) (PY : Piece b xb Y)
    (H : HubHalf a b xa xb X Y v) (MX : MPiece a xa X') (MY : MPiece b xb Y') :
    MirrorHalf a b xa xb X' Y Y' v := by
  obtain ⟨c, ec, Sc⟩ := H.rXY
  have hrotA : (rotB xa.length xa.length).Perm (List.range X.ndim) := by
    rw [PX.nd]; exact perm_of_isPerm (rotB_isPerm _ _)
  have hrotB : (rotB xb.length xb.length).Perm (List.range Y.ndim) := by
    rw [PY.nd]; exact perm_of_isPerm (rotB_isPerm _ _)
  have fXp : freeAxes X.ndim (kbP a.ndim xa) = [] := by rw [PX.nd]; exact kbP_free h.nA h.ltA
  have fYp : freeAxes Y.ndim (kbP b.ndim xb) = [] := by rw [PY.nd]; exact kbP_free h.nB h.ltB
  have fX'm : freeAxes X'.ndim (kbM a.ndim xa) = [] := by rw [MX.nd]; exact kbM_free h.nA h.ltA
  have fY'm : freeAxes Y'.ndim (kbM b.ndim xb) = [] := by rw [MY.nd]; exact kbM_free h.nB h.ltB
  -- X·Y → X'·Y
  obtain ⟨c1, e1, S1, W1⟩ := scal_pre_congr H.wXY hrotA fXp fYp
    (by rw [PX.nd]; exact kbM_perm h.nA h.ltA) (kbM_rot h.nA h.ltA) (MX.eqv X PX) MX.valid ec Sc
  -- X'·Y → Y·X'
  obtain ⟨c2, e2, S2⟩ := scalar_swap hmul W1 (by rw [MX.odd, PY.odd]; exact List.Pairwise.nil)
    fX'm fYp e1 S1
  have W2 := admW_swap W1
  -- Y·X' → Y'·X'
  obtain ⟨c3, e3, S3, W3⟩ := scal_pre_congr W2 hrotB fYp fX'm
    (by rw [PY.nd]; exact kbM_perm h.nB h.ltB) (kbM_rot h.nB h.ltB) (MY.eqv Y PY) MY.valid e2 S2
  -- Y'·X' → X'·Y'
  obtain ⟨c4, e4, S4⟩ := scalar_swap hmul W3 (by rw [MY.odd, MX.odd]; exact List.Pairwise.nil)
    fY'm fX'm e3 S3
  have W4 := admW_swap W3
  -- S4: the two blocks of pairs exchanged
  have hl : ((kbQ a.ndim xa).map (xa.length + ·)).length = ((kbQ b.ndim xb).map (xb.length + ·)).length := by
    rw [List.length_map, List.length_map, kbQ_len h.nA h.ltA, kbQ_len h.nB h.ltB]
    exact h.len
  have hc := tdotF_axes_comm_w X' Y' _ _ _ _ hl W4
  exact ⟨⟨c1, e1, S1⟩, ⟨c2, e2, S2⟩, ⟨c3, e3, S3⟩, ⟨c4, e4, S4⟩, ⟨c4, hc.trans e4, S4⟩⟩

/-- the hub together with all routes through the ket-first pieces, common value `v` -/
def MirrorHub (a b : Arr R) (xa xb : List Nat) (X Y X' Y' : Arr R) (v : R) : Prop :=
  KetBraHub a b xa xb X Y v ∧ MPiece a xa X' ∧ MPiece b xb Y'
    ∧ MirrorHalf a b xa xb X' Y Y' v ∧ MirrorHalf b a xb xa Y' X X' v

theorem mirror_hub_of (hmul : ∀ x y : R, x * y = y * x) {a b : Arr R} {xa xb : List Nat}
    {X Y : Arr R} {v : R} (h : Adm a b xa xb) (hoA : KetLabels a.oddpos) (hoB : KetLabels b.oddpos)
    (hdA : a.oddpos.Pairwise (fun x y => x.1 ≠ y.1))
    (hdB : b.oddpos.Pairwise (fun x y => x.1 ≠ y.1)) (K : KetBraHub a b xa xb X Y v) :
    ∃ X' Y', MirrorHub a b xa xb X Y X' Y' v := by
  obtain ⟨PX, PY, H, H'⟩ := K
  obtain ⟨X', MX⟩ := mpiece_of hmul a xa h.va h.fa h.nA h.ltA hoA hdA
  obtain ⟨Y', MY⟩ := mpiece_of hmul b xb h.vb h.fb h.nB h.ltB hoB hdB
  exact ⟨X', Y', ⟨PX, PY, H, H'⟩, MX, MY, mirror_half hmul h PX PY H MX MY,
    mirror_half hmul (adm_swap h) PY PX H' MY MX⟩

/-- all routes through `a·ā`, `b·b̄` give `Σ|K|²` -/
def MirrorAll (a b : Arr R) (xa xb : List Nat) : Prop :=
  ∃ K X Y X' Y', a.tensordotF b (.pair (xa.map Int.ofNat) (xb.map Int.ofNat)) .blockwise = .ok K
    ∧ MirrorHub a b xa xb X Y X' Y' (normSq K)

theorem mirror_all_of (hmul : ∀ x y : R, x * y = y * x) {a b : Arr R} {xa xb : List Nat}
    (h : Adm a b xa xb) (hoA : KetLabels a.oddpos) (hoB : KetLabels b.oddpos)
    (hdA : a.oddpos.Pairwise (fun x y => x.1 ≠ y.1))
    (hdB : b.oddpos.Pairwise (fun x y => x.1 ≠ y.1)) (A : KetBraAll a b xa xb) :
    MirrorAll a b xa xb := by
  obtain ⟨K, X, Y, eK, Hub⟩ := A
  obtain ⟨X', Y', M⟩ := mirror_hub_of hmul h hoA hoB hdA hdB Hub
  exact ⟨K, X, Y, X', Y', eK, M⟩

end main

end SymmModel.NormNet
