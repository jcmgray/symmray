/-
  SymmModel.Proofs.AssocFrame — what a successful call of symmray's
  `tensordot_fermionic(a, b, axes)` (symmray/fermionic_core.py; model `Arr.tensordotF`) returns, as three
  relations between the operands, the contracted axis lists `xa`, `xb` and the result.
  `TdotP.InterW a b xa xb ab` (any mode): `ab` is a valid fermionic array of `a`'s symmetry whose index
  tables are the tables of the free legs of `a`, then of `b`, each with some charges dropped (`SizeLe`;
  symmray drops the charges no stored sector uses) — all that the guard of a further contraction
  with `ab` needs.
  `AssocP.Inter a b xa xb ab ph` (blockwise mode): moreover the charge is the combined charge, the
  stored sectors are exactly the free parts of aligned stored sector pairs, the tables are the free
  legs' tables pruned to them, and the value at every address is the sign `ph` times the graded
  contraction `gradedContract a b xa xb` of C03.
  `AssocP.Call a b xa xb c out ph`: moreover `(out, ph)` is what `resolve_combined_oddpos` makes of the two
  label lists (`OddposP.mergeOddpos`), and `c` carries the labels `out`.
  Under the weak guard `AdmW`: `Call.of_merge` (the call succeeds when the label merge does),
  `Call.of_ok` (whatever a successful call returns is a `Call`), `Call.exists` (distinct labels).
  Arguments about contraction routes rest on these and on the lemmas of `Inter` / `InterW`; the core
  contraction `coreT` and `finish` (Routes) are only needed where two results are compared block by
  block.

  HOW TO USE IT.  The call is written `a.tensordotF b (.pair (xa.map Int.ofNat) (xb.map Int.ofNat))
  .blockwise`, abbreviated `Assoc3P.tdF a b xa xb` (Proofs/Assoc3Chain.lean).  Getting in: the guard
  `W : AdmW a b xa xb` is `AdmW.of ha hb hfa hfb hadm` from the decidable test
  `tdotAdmissibleCommonB a b xa xb = true`, or `AdmW.ofAdm` from the documented guard `RoutesP.Adm`
  (`admW_iff`; back to the test: `Assoc3P.admW_toB`).  One call, labels distinct: `call_pack`
  (= `Call.exists` with the labels read off the result).  A call known to have succeeded:
  `Call.of_ok`.  A call whose label merge is known: `Call.of_merge`; a failing call: `Call.error_iff`.  The guard of the NEXT call,
  with the result as one operand: `TdotP.admW_left_chain_w` / `admW_right_chain_w` (chain, axes
  `AssocP.axesAB` / `axesBC`, Proofs/AssocLeft.lean) and `admW_left_tri_w` / `admW_right_tri_w`
  (triangle, `Assoc2P.axesAB` / `axesBC`), all in Proofs/Assoc3Frame.lean, applied to `C.toInter.toW`.
-/
import SymmModel.Proofs.Routes

namespace SymmModel

namespace OddposP

theorem mergeOddpos_pm {pa : Bool} {la lb out : List (Int × Bool)} {s : Int}
    (h : mergeOddpos pa la lb = .ok (out, s)) : s = 1 ∨ s = -1 := by
  have hs : s = LabelAlg.eps pa lb.length ∨ s = -LabelAlg.eps pa lb.length :=
    (LabelAlg.mergeOddpos_reds h).1.sign
  rcases LabelAlg.eps_pm pa lb.length with e | e <;> rw [e] at hs <;> omega

end OddposP

namespace TdotP
open GradedP RoutesP AssocP
variable {R : Type}

theorem cmAgree_of_sizeLe_left {i' i : Index} (h : SizeLe i' i) (hn : (i'.cm.map (·.1)).Nodup)
    {c2 : List (Charge × Nat)} (hag : cmAgree i.cm c2 = true) : cmAgree i'.cm c2 = true := by
  unfold cmAgree at hag ⊢
  rw [List.all_eq_true] at hag ⊢
  rintro ⟨c, d⟩ hp
  have h1 : i'.sizeOf? c = some d := alookup_of_mem_nodup hn hp
  have h2 := h.2 c d h1
  exact hag (c, d) (alookup_some_mem h2)

theorem cmAgree_of_sizeLe_right {j' j : Index} (h : SizeLe j' j) {c1 : List (Charge × Nat)}
    (hag : cmAgree c1 j.cm = true) : cmAgree c1 j'.cm = true := by
  unfold cmAgree at hag ⊢
  rw [List.all_eq_true] at hag ⊢
  rintro ⟨c, d⟩ hp
  have := hag (c, d) hp
  simp only at this ⊢
  cases hl : alookup j'.cm c with
  | none => rfl
  | some d' =>
    have h2 : alookup j.cm c = some d' := h.2 c d' hl
    rw [h2] at this
    exact this

theorem commonB_sizeLe_left {a a' b : Arr R} {xa xa' xb : List Nat} (hl : xa'.length = xa.length)
    (hp : ∀ j, j < xa.length →
      SizeLe (a'.indices.getD (xa'.getD j 0) default) (a.indices.getD (xa.getD j 0) default)
      ∧ ((a'.indices.getD (xa'.getD j 0) default).cm.map (·.1)).Nodup)
    (h : contractibleCommonB a b xa xb = true) : contractibleCommonB a' b xa' xb = true := by
  rw [commonB_iff] at h ⊢
  refine ⟨hl.trans h.1, fun j hj => ?_⟩
  obtain ⟨h1, h2⟩ := h.2 j (hl ▸ hj)
  obtain ⟨p, pn⟩ := hp j (hl ▸ hj)
  exact ⟨cmAgree_of_sizeLe_left p pn h1, by rw [h2, p.1]⟩

theorem commonB_sizeLe_right {a b b' : Arr R} {xa xb xb' : List Nat} (hl : xb'.length = xb.length)
    (hp : ∀ j, j < xb.length →
      SizeLe (b'.indices.getD (xb'.getD j 0) default) (b.indices.getD (xb.getD j 0) default))
    (h : contractibleCommonB a b xa xb = true) : contractibleCommonB a b' xa xb' = true := by
  rw [commonB_iff] at h ⊢
  refine ⟨h.1.trans hl.symm, fun j hj => ?_⟩
  obtain ⟨h1, h2⟩ := h.2 j hj
  have p := hp j (h.1 ▸ hj)
  exact ⟨cmAgree_of_sizeLe_right p h1, by rw [p.1, h2]⟩

/-! ### positions in the frame `without X xa ++ without Y xb` of a result -/

section frame
variable {α : Type} (X Y : List α) (xa xb : List Nat)

theorem frame_length :
    (without X xa ++ without Y xb).length
      = (freeAxes X.length xa).length + (freeAxes Y.length xb).length := by
  rw [List.length_append, without_length, without_length]

theorem frame_getD_left (d : α) {p : Nat} (hp : p < (freeAxes X.length xa).length) :
    (without X xa ++ without Y xb).getD p d = X.getD ((freeAxes X.length xa).getD p 0) d := by
  rw [List.getD_eq_getElem?_getD, List.getElem?_append_left (by rw [without_length]; exact hp),
    ← List.getD_eq_getElem?_getD, without_eq_permuted_freeAxes]
  exact getD_permuted_ax X _ mem_freeAxes_lt p hp d

theorem frame_getD_right (d : α) {p : Nat} (hp : p < (freeAxes Y.length xb).length) :
    (without X xa ++ without Y xb).getD ((freeAxes X.length xa).length + p) d
      = Y.getD ((freeAxes Y.length xb).getD p 0) d := by
  rw [List.getD_eq_getElem?_getD, List.getElem?_append_right (by rw [without_length]; omega),
    without_length, Nat.add_sub_cancel_left, ← List.getD_eq_getElem?_getD,
    without_eq_permuted_freeAxes]
  exact getD_permuted_ax Y _ mem_freeAxes_lt p hp d

end frame

/-- what the second contraction needs to know about the result `ab` of a first contraction in
    ANY mode -/
structure InterW (a b : Arr R) (xa xb : List Nat) (ab : Arr R) : Prop where
  valid : ab.validB = true
  fermi : ab.fermi = true
  sym : ab.sym = a.sym
  frame : List.Forall₂ SizeLe ab.indices (without a.indices xa ++ without b.indices xb)

section interw
variable {a b ab : Arr R} {xa xb : List Nat}

theorem InterW.ndim (I : InterW a b xa xb ab) :
    ab.ndim = (freeAxes a.ndim xa).length + (freeAxes b.ndim xb).length :=
  I.frame.length_eq.trans (frame_length _ _ _ _)

theorem InterW.leg_nodup (I : InterW a b xa xb ab) (p : Nat) (hp : p < ab.ndim) :
    ((ab.indices.getD p default).cm.map (·.1)).Nodup := by
  rw [List.getD_eq_getElem?_getD, List.getElem?_eq_getElem hp]
  exact keys_nodup_of_validB I.valid _ (List.getElem_mem hp)

theorem InterW.leg_right (I : InterW a b xa xb ab) (p : Nat) (hp : p < (freeAxes b.ndim xb).length) :
    SizeLe (ab.indices.getD ((freeAxes a.ndim xa).length + p) default)
      (b.indices.getD ((freeAxes b.ndim xb).getD p 0) default) := by
  have := forall₂_getD I.frame ((freeAxes a.indices.length xa).length + p)
    (by rw [I.frame.length_eq, frame_length]; exact Nat.add_lt_add_left hp _) default default
  rwa [frame_getD_right _ _ _ _ _ hp] at this

theorem InterW.leg_left (I : InterW a b xa xb ab) (p : Nat) (hp : p < (freeAxes a.ndim xa).length) :
    SizeLe (ab.indices.getD p default) (a.indices.getD ((freeAxes a.ndim xa).getD p 0) default) := by
  have := forall₂_getD I.frame p
    (by rw [I.frame.length_eq, frame_length]; exact Nat.lt_add_right _ hp) default default
  rwa [frame_getD_left _ _ _ _ _ hp] at this

end interw
end TdotP

namespace AssocP
open TdotP GradedP RoutesP KoszulP
open Lazy (sgnI)

variable {R : Type}

/-- `ab` is a result of the BLOCKWISE call on `a`, `b` at the axes `xa`, `xb`, with label sign `ph`:
    besides what `InterW` says, its charge, its stored sectors, its tables (the free legs' tables
    pruned to the sectors) and its value at every address -/
structure Inter (a b : Arr R) (xa xb : List Nat) (ab : Arr R) (ph : Int)
    [AddMonoid R] [Mul R] [Neg R] : Prop where
  valid : ab.validB = true
  fermi : ab.fermi = true
  sym : ab.sym = a.sym
  charge : ab.charge = a.sym.combine [a.charge, b.charge]
  indices : ab.indices = dropUnused (without a.indices xa ++ without b.indices xb) ab.sectors
  sectors : ab.sectors
    = (tdKeys a.sectors b.sectors (freeAxes a.ndim xa) xa xb (freeAxes b.ndim xb)).eraseDups
  pm : ph = 1 ∨ ph = -1
  elem : ∀ s oL oR, oL.length = (freeAxes a.ndim xa).length →
    inBox (Arr.blockShapeD (without a.indices xa ++ without b.indices xb) s) (oL ++ oR) = true →
    ab.elem s (oL ++ oR) = sgnI ph (gradedContract a b xa xb s oL oR)

section inter
variable [AddMonoid R] [Mul R] [Neg R]
variable {a b ab : Arr R} {xa xb : List Nat} {ph : Int}

theorem Inter.toW (I : Inter a b xa xb ab ph) : InterW a b xa xb ab :=
  ⟨I.valid, I.fermi, I.sym, by rw [I.indices]; exact dropUnused_sizeLe _ _⟩

theorem Inter.ndim (I : Inter a b xa xb ab ph) :
    ab.ndim = (freeAxes a.ndim xa).length + (freeAxes b.ndim xb).length :=
  I.toW.ndim

theorem Inter.mem_sectors (I : Inter a b xa xb ab ph) {s : Sector} :
    s ∈ ab.sectors ↔ ∃ sa ∈ a.sectors, ∃ sb ∈ b.sectors, permuted sb xb = permuted sa xa
      ∧ s = permuted sa (freeAxes a.ndim xa) ++ permuted sb (freeAxes b.ndim xb) := by
  rw [I.sectors, List.mem_eraseDups, mem_tdKeys]
  constructor
  · rintro ⟨x, hx, y, hy, h1, h2⟩; exact ⟨x, hx, y, hy, h1.symm, h2⟩
  · rintro ⟨x, hx, y, hy, h1, h2⟩; exact ⟨x, hx, y, hy, h1.symm, h2⟩

/-- the block shape of a stored sector of the intermediate result: pruning keeps the shape in the
    frame, `frame_shape` -/
theorem Inter.shape (I : Inter a b xa xb ab ph) (hsa : a.shapesOk) (hsb : b.shapesOk)
    {sa sb : Sector} (hA : sa ∈ a.sectors) (hB : sb ∈ b.sectors)
    (hal : permuted sb xb = permuted sa xa) :
    Arr.blockShape? ab.indices (permuted sa (freeAxes a.ndim xa) ++ permuted sb (freeAxes b.ndim xb))
      = some (permuted (Arr.blockShapeD a.indices sa) (freeAxes a.ndim xa)
          ++ permuted (Arr.blockShapeD b.indices sb) (freeAxes b.ndim xb)) := by
  rw [I.indices, ValidP.dropUnused_blockShape _ _ _ (I.mem_sectors.mpr ⟨sa, hA, sb, hB, hal, rfl⟩)]
  exact frame_shape hsa hsb hA hB

theorem Inter.leg_right (I : Inter a b xa xb ab ph) (p : Nat) (hp : p < (freeAxes b.ndim xb).length) :
    Pruned (ab.indices.getD ((freeAxes a.ndim xa).length + p) default)
      (b.indices.getD ((freeAxes b.ndim xb).getD p 0) default) := by
  have := dropUnused_getD_pruned (without a.indices xa ++ without b.indices xb) ab.sectors
    ((freeAxes a.indices.length xa).length + p)
    (by rw [frame_length]; exact Nat.add_lt_add_left hp _)
  rwa [← I.indices, frame_getD_right _ _ _ _ _ hp] at this

theorem Inter.leg_left (I : Inter a b xa xb ab ph) (p : Nat) (hp : p < (freeAxes a.ndim xa).length) :
    Pruned (ab.indices.getD p default) (a.indices.getD ((freeAxes a.ndim xa).getD p 0) default) := by
  have := dropUnused_getD_pruned (without a.indices xa ++ without b.indices xb) ab.sectors p
    (by rw [frame_length]; exact Nat.lt_add_right _ hp)
  rwa [← I.indices, frame_getD_left _ _ _ _ _ hp] at this

end inter

section call
variable [AddMonoid R] [Mul R] [Neg R]

/-- `c` is a result of the blockwise call `a.tensordotF b (xa, xb)`: the label merge gave the labels
    `out` and the sign `ph`, `c` carries `out`, and `c` has the frame, sector set and values that
    `Inter` lists -/
structure Call (a b : Arr R) (xa xb : List Nat) (c : Arr R) (out : List (Int × Bool)) (ph : Int) :
    Prop extends Inter a b xa xb c ph where
  merge : OddposP.mergeOddpos a.parity a.oddpos b.oddpos = .ok (out, ph)
  oddpos : c.oddpos = out

variable [SignRing R] {a b c : Arr R} {xa xb : List Nat}

theorem Call.of_finish (W : AdmW a b xa xb) {r : List (Int × Bool) × Int}
    (hm : OddposP.mergeOddpos a.parity a.oddpos b.oddpos = .ok r) :
    a.tensordotF b (.pair (xa.map Int.ofNat) (xb.map Int.ofNat)) .blockwise
        = .ok (finish (coreT a b xa xb) r)
      ∧ Call a b xa xb (finish (coreT a b xa xb) r) r.1 r.2 := by
  have hcall : a.tensordotF b (.pair (xa.map Int.ofNat) (xb.map Int.ofNat)) .blockwise
      = .ok (finish (coreT a b xa xb) r) := by
    rw [tensordotF_eq_core_w a b xa xb W, hm]; rfl
  have F := coreT_frame_w a b xa xb W
  obtain ⟨f1, f2, f3, f4, f5, f6⟩ := finish_fields (coreT a b xa xb) r
  have hv := ValidP.tensordotF_valid_of_opposite .blockwise ValidP.tdotASpec_blockwise a b _ xa xb
    ((ValidP.validB_iff a).mp W.va) ((ValidP.validB_iff b).mp W.vb) W.fa W.fb W.sym
    (Assoc3P.opposite_of_commonB W.con) W.nA W.nB W.ltA W.ltB hcall
  refine ⟨hcall, ⟨(ValidP.validB_iff _).mpr hv, by rw [f3, F.fermi, W.fa], by rw [f2, F.sym],
    by rw [f1, F.charge], by rw [f4, f5, F.indices], by rw [f5, F.sectors],
    OddposP.mergeOddpos_pm (out := r.1) hm, ?_⟩, hm, f6⟩
  intro s oL oR hoL ho
  rw [finish_elem _ _ (coreFrame_signOk F), F.elem s oL oR hoL ho]

theorem Call.of_merge (W : AdmW a b xa xb) {out : List (Int × Bool)} {ph : Int}
    (hm : OddposP.mergeOddpos a.parity a.oddpos b.oddpos = .ok (out, ph)) :
    ∃ c, a.tensordotF b (.pair (xa.map Int.ofNat) (xb.map Int.ofNat)) .blockwise = .ok c
      ∧ Call a b xa xb c out ph :=
  ⟨_, Call.of_finish W hm⟩

theorem Call.of_ok (W : AdmW a b xa xb)
    (e : a.tensordotF b (.pair (xa.map Int.ofNat) (xb.map Int.ofNat)) .blockwise = .ok c) :
    ∃ out ph, Call a b xa xb c out ph := by
  cases hm : OddposP.mergeOddpos a.parity a.oddpos b.oddpos with
  | error err => rw [tensordotF_eq_core_w a b xa xb W, hm] at e; cases e
  | ok r =>
    obtain ⟨e', C⟩ := Call.of_finish W hm
    rw [e] at e'
    obtain rfl := Except.ok.inj e'
    exact ⟨_, _, C⟩

theorem Call.error_iff (W : AdmW a b xa xb) (e : Err) :
    a.tensordotF b (.pair (xa.map Int.ofNat) (xb.map Int.ofNat)) .blockwise = .error e
      ↔ OddposP.mergeOddpos a.parity a.oddpos b.oddpos = .error e := by
  rw [tensordotF_eq_core_w a b xa xb W]
  cases OddposP.mergeOddpos a.parity a.oddpos b.oddpos with
  | error e' => constructor <;> intro h <;> cases h <;> rfl
  | ok r => constructor <;> intro h <;> cases h

theorem Call.exists (W : AdmW a b xa xb) (hd : OddposP.LabelsDistinct (a.oddpos ++ b.oddpos)) :
    ∃ c out ph, a.tensordotF b (.pair (xa.map Int.ofNat) (xb.map Int.ofNat)) .blockwise = .ok c
      ∧ Call a b xa xb c out ph ∧ out.Perm (a.oddpos ++ b.oddpos) := by
  obtain ⟨out, p1, _, m1⟩ := OddposP.mergeOddpos_spec a.parity a.oddpos b.oddpos hd
  obtain ⟨c, e, C⟩ := Call.of_merge W m1
  exact ⟨c, out, _, e, C, p1⟩

end call

end AssocP

namespace Assoc3P
open TdotP GradedP RoutesP AssocP
variable {R : Type} [AddMonoid R] [Mul R] [Neg R] [SignRing R]

theorem call_pack (X Y : Arr R) (xa xb : List Nat) (W : AdmW X Y xa xb)
    (hd : OddposP.LabelsDistinct (X.oddpos ++ Y.oddpos)) :
    ∃ Z ph, X.tensordotF Y (.pair (xa.map Int.ofNat) (xb.map Int.ofNat)) .blockwise = .ok Z
      ∧ Call X Y xa xb Z Z.oddpos ph ∧ Z.oddpos.Perm (X.oddpos ++ Y.oddpos) := by
  obtain ⟨Z, out, ph, e, C, p⟩ := Call.exists W hd
  obtain rfl := C.oddpos
  exact ⟨Z, ph, e, C, p⟩

end Assoc3P
end SymmModel
