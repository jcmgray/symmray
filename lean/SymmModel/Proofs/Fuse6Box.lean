/-
  SymmModel.Proofs.Fuse6Box — the address an unfuse step reads from lies in a box of its input:
  collapsing the segment of an in-box address of the result gives an in-box address of the input.
-/
import SymmModel.Proofs.Fuse6Parts
namespace SymmModel
namespace FuseP

theorem collapse_box {sym : Sym} {ix : Index} {subs : List Index} {exts : Extents}
    (hw : Index.wfB sym ix = true) (hsub : ix.sub = some (subs, exts))
    {IA IX : List Index} {A S X : Sector} {A' S' X' : List Nat} {shp : List Nat} {st : Nat} {sub : List Nat}
    (hA : A.length = IA.length) (hS : S.length = subs.length) (hA' : A'.length = IA.length)
    (hS' : S'.length = subs.length)
    (hK : Arr.blockShape? (IA ++ subs ++ IX) (A ++ S ++ X) = some shp) (hJ : inBox shp (A' ++ S' ++ X') = true)
    (hl : look sym ix subs exts S = some (st, sub)) :
    ∃ shp1, Arr.blockShape? (IA ++ [ix] ++ IX) (A ++ [cmb sym ix subs S] ++ X) = some shp1
      ∧ inBox shp1 (A' ++ [st + ravel sub S'] ++ X') = true := by
  obtain ⟨e, d, he, hst, hbs⟩ := look_some hl
  obtain ⟨D, hD, hext⟩ := wfB_extent hw hsub he
  have hb := startOf_bound hst
  rw [hext.total] at hb
  obtain ⟨_, ⟨shp', hshp', hprod⟩, _⟩ := hext.entry S d (startOf_mem hst)
  rw [hbs] at hshp'; simp only [Option.some.injEq] at hshp'; subst hshp'
  obtain ⟨p12, pX, rfl, h12, hpX⟩ := blockShape?_append_inv (by simp [hA, hS]) hK
  obtain ⟨pA, pS, rfl, hpA, hpS⟩ := blockShape?_append_inv hA.symm h12
  rw [hbs] at hpS; simp only [Option.some.injEq] at hpS; subst hpS
  have hpAl : pA.length = IA.length := by rw [(blockShape?_length hpA).2, hA]
  have hsl : sub.length = subs.length := by rw [(blockShape?_length hbs).2, hS]
  rw [inBox_append (by simp [hA', hS', hpAl, hsl]), inBox_append (by rw [hA', hpAl])] at hJ
  simp only [Bool.and_eq_true] at hJ
  obtain ⟨⟨hJ1, hJ2⟩, hJ3⟩ := hJ
  refine ⟨pA ++ [D] ++ pX, blockShape?_append (blockShape?_append hpA (blockShape?_single hD)) hpX, ?_⟩
  rw [inBox_append (by simp [hA', hpAl]), inBox_append (by rw [hA', hpAl]), hJ1, hJ3]
  have := ravel_lt hJ2
  simp only [inBox, Bool.and_true, Bool.true_and, decide_eq_true_eq]
  omega

end FuseP
end SymmModel
