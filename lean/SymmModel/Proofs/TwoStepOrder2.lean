/-
  SymmModel.Proofs.TwoStepOrder2 — continuation of TwoStepOrder: sizes of the canonical labels,
  the sector filter of the abelian einsum after the transposition to `tsOrder`, and
  `permuted · tsOrder` (C04).  Namespace `SymmModel.TwoStepP`.
-/
import SymmModel.Proofs.TwoStepOrder

namespace SymmModel
namespace TwoStepP
open TdotP GradedP Lazy

theorem einKeep_canon {N m : Nat} {rhs : List Nat} (hlt : ∀ q ∈ rhs, q < N) (s : Sector) :
    einKeep (dblFront N m ++ rhs) rhs s = (List.range m).all (fun i => s[2 * i]? == s[2 * i + 1]?) := by
  unfold einKeep
  rw [einTracedPos_canon hlt, List.all_map]
  rfl

section perm
variable {R : Type} {α : Type}

theorem permuted_tsOrder (X : List α) (a : Arr R) (nb : Nat) (xa xb ya yb : List Nat) :
    permuted X (tsOrder a nb xa xb ya yb) =
      ((List.range ya.length).flatMap (fun i =>
        if (a.indices.getD (ya.getD i 0) default).dual
        then permuted X [(tsPA a.ndim xa ya).getD i 0, (tsPB a.ndim nb xa xb yb).getD i 0]
        else permuted X [(tsPB a.ndim nb xa xb yb).getD i 0, (tsPA a.ndim xa ya).getD i 0]))
      ++ permuted X (tsRhs a.ndim nb xa xb ya yb) := by
  unfold tsOrder permuted
  rw [List.filterMap_append, List.filterMap_flatMap]
  congr 1
  apply List.flatMap_congr
  intro i _
  split <;> rfl

theorem permuted_pair (d : α) (X : List α) {p q : Nat} (hp : p < X.length) (hq : q < X.length) :
    permuted X [p, q] = [X.getD p d, X.getD q d] := by
  rw [permuted_eq_map X [p, q] (by intro x hx; simp at hx; rcases hx with rfl | rfl <;> assumption) d]
  rfl

theorem permuted_tsOrder_pairs (X VA VB : List Nat) (a : Arr R) (nb : Nat) (xa xb ya yb : List Nat)
    (hnA : (xa ++ ya).Nodup) (hA : ∀ i ∈ xa ++ ya, i < a.ndim)
    (hnB : (xb ++ yb).Nodup) (hB : ∀ i ∈ xb ++ yb, i < nb) (hly : ya.length = yb.length)
    (hX : X.length = tsN a.ndim nb xa xb)
    (pA : permuted X (tsPA a.ndim xa ya) = VA) (pB : permuted X (tsPB a.ndim nb xa xb yb) = VB) :
    permuted X (tsOrder a nb xa xb ya yb)
      = gFront (fun i => (a.indices.getD (ya.getD i 0) default).dual) VA VB ya.length
        ++ permuted X (tsRhs a.ndim nb xa xb ya yb) := by
  have g := geo_ts hnA hA hnB hB hly
  have hPA : ∀ p ∈ tsPA a.ndim xa ya, p < X.length := fun p hp => hX ▸ g.ltA hp
  have hPB : ∀ p ∈ tsPB a.ndim nb xa xb yb, p < X.length := fun p hp => hX ▸ g.ltB hp
  rw [permuted_tsOrder]
  unfold gFront
  refine congrArg (· ++ _) (List.flatMap_congr fun i hi => ?_)
  have hi := List.mem_range.mp hi
  have eA : X.getD ((tsPA a.ndim xa ya).getD i 0) 0 = VA.getD i 0 := by
    rw [← pA, GradedP.getD_permuted_ax X _ hPA i (by rw [g.lenA]; exact hi) 0]
  have eB : X.getD ((tsPB a.ndim nb xa xb yb).getD i 0) 0 = VB.getD i 0 := by
    rw [← pB, GradedP.getD_permuted_ax X _ hPB i (by rw [g.lenB]; exact hi) 0]
  rw [permuted_pair 0 X (hPA _ (g.getA hi).1) (hPB _ (g.getB hi).1),
    permuted_pair 0 X (hPB _ (g.getB hi).1) (hPA _ (g.getA hi).1), eA, eB]

theorem permuted_shift_range (l : List α) (d : Nat) (hd : d ≤ l.length) :
    permuted l ((List.range (l.length - d)).map (d + ·)) = l.drop d := by
  apply List.ext_getElem?
  intro j
  rw [permuted_getElem? l _ (by
    intro i hi
    obtain ⟨k, hk, rfl⟩ := List.mem_map.1 hi
    have := List.mem_range.1 hk
    omega), List.getElem?_drop]
  by_cases hj : j < l.length - d
  · simp [hj]
  · have : l.length ≤ d + j := by omega
    simp [hj, List.getElem?_eq_none this]

end perm

theorem getElem?_of_getD {P : List Nat} {i : Nat} (h : i < P.length) : P[i]? = some (P.getD i 0) := by
  simp [List.getD_eq_getElem?_getD, h]

theorem permuted_eq_iff {α : Type} (l : List α) {P Q : List Nat} {m : Nat}
    (hP : ∀ x ∈ P, x < l.length) (hQ : ∀ x ∈ Q, x < l.length)
    (lP : P.length = m) (lQ : Q.length = m) :
    permuted l P = permuted l Q ↔ ∀ i, i < m → l[P.getD i 0]? = l[Q.getD i 0]? := by
  constructor
  · intro h i hi
    have := congrArg (·[i]?) h
    simp only [permuted_getElem? l P hP, permuted_getElem? l Q hQ,
      getElem?_of_getD (lP ▸ hi), getElem?_of_getD (lQ ▸ hi), Option.bind_some] at this
    exact this
  · intro h
    apply List.ext_getElem?
    intro i
    rw [permuted_getElem? l P hP, permuted_getElem? l Q hQ]
    by_cases hi : i < m
    · rw [getElem?_of_getD (lP ▸ hi), getElem?_of_getD (lQ ▸ hi)]
      exact h i hi
    · rw [List.getElem?_eq_none (by omega), List.getElem?_eq_none (by omega)]

theorem gFront_getElem? (d : Nat → Bool) (PA PB : List Nat) {m i : Nat} (hi : i < m) :
    (gFront d PA PB m)[2 * i]? = some (if d i then PA.getD i 0 else PB.getD i 0) ∧
    (gFront d PA PB m)[2 * i + 1]? = some (if d i then PB.getD i 0 else PA.getD i 0) := by
  have hL : ∀ j, (if d j then [PA.getD j 0, PB.getD j 0] else [PB.getD j 0, PA.getD j 0]).length = 2 := by
    intro j; split <;> rfl
  have h0 := KoszulP.getElem?_flatMap_uniform _ 2 hL m i 0 hi (by omega)
  have h1 := KoszulP.getElem?_flatMap_uniform _ 2 hL m i 1 hi (by omega)
  have e0 : i * 2 + 0 = 2 * i := by omega
  have e1 : i * 2 + 1 = 2 * i + 1 := by omega
  rw [e0] at h0
  rw [e1] at h1
  unfold gFront
  rw [h0, h1]
  cases d i <;> simp

theorem einKeep_tsOrder {R : Type} (a : Arr R) (nb : Nat) (xa xb ya yb : List Nat) (s0 : Sector)
    (hnA : (xa ++ ya).Nodup) (hA : ∀ i ∈ xa ++ ya, i < a.ndim)
    (hnB : (xb ++ yb).Nodup) (hB : ∀ i ∈ xb ++ yb, i < nb) (hly : ya.length = yb.length)
    (hs : s0.length = tsN a.ndim nb xa xb) :
    einKeep (dblFront (tsN a.ndim nb xa xb) ya.length ++ tsRhs a.ndim nb xa xb ya yb)
        (tsRhs a.ndim nb xa xb ya yb) (permuted s0 (tsOrder a nb xa xb ya yb)) = true
      ↔ permuted s0 (tsPA a.ndim xa ya) = permuted s0 (tsPB a.ndim nb xa xb yb) := by
  have g := geo_ts hnA hA hnB hB hly
  have hord : ∀ x ∈ tsOrder a nb xa xb ya yb, x < s0.length := by
    intro x hx
    rw [hs]
    exact List.mem_range.1 ((tsOrder_perm a nb xa xb ya yb hnA hA hnB hB hly).mem_iff.1 hx)
  rw [einKeep_canon (tsRhs_lt _ _ _ _ _ _), List.all_eq_true,
    permuted_eq_iff s0 (fun x hx => hs ▸ g.ltA hx) (fun x hx => hs ▸ g.ltB hx) g.lenA g.lenB]
  have key : ∀ i, i < ya.length →
      (((permuted s0 (tsOrder a nb xa xb ya yb))[2 * i]?
          == (permuted s0 (tsOrder a nb xa xb ya yb))[2 * i + 1]?) = true
        ↔ s0[(tsPA a.ndim xa ya).getD i 0]? = s0[(tsPB a.ndim nb xa xb yb).getD i 0]?) := by
    intro i hi
    rw [permuted_getElem? s0 _ hord, permuted_getElem? s0 _ hord, tsOrder_eq_gOrder,
      List.getElem?_append_left (by rw [gFront_length]; omega),
      List.getElem?_append_left (by rw [gFront_length]; omega),
      (gFront_getElem? _ _ _ hi).1, (gFront_getElem? _ _ _ hi).2, beq_iff_eq]
    simp only [Option.bind_some]
    split
    · exact Iff.rfl
    · exact eq_comm
  constructor
  · intro h i hi
    exact (key i hi).1 (h i (List.mem_range.2 hi))
  · intro h i hi
    exact (key i (List.mem_range.1 hi)).2 (h i (List.mem_range.1 hi))

theorem indexOf?_dblFront {N m : Nat} (tl : List Nat) {i : Nat} (hi : i < m) :
    indexOf? (dblFront N m ++ tl) (N + i) = some (2 * i) := by
  induction m generalizing tl with
  | zero => omega
  | succ m ih =>
    rw [dblFront_succ, List.append_assoc]
    by_cases him : i < m
    · exact ih _ him
    · have e : i = m := by omega
      subst e
      have hnf : N + i ∉ dblFront N i := by
        intro h
        obtain ⟨j, hj, e⟩ := mem_dblFront.1 h
        omega
      rw [indexOf?_append_right _ _ _ hnf, dblFront_length]
      simp [indexOf?]

theorem indexOf?_canon_rhs {N m : Nat} {rhs : List Nat} (hlt : ∀ q ∈ rhs, q < N) (hnd : rhs.Nodup)
    {j : Nat} (hj : j < rhs.length) :
    indexOf? (dblFront N m ++ rhs) rhs[j] = some (2 * m + j) := by
  rw [indexOf?_append_right _ _ _ (rhs_not_mem_dblFront hlt (List.getElem_mem hj)),
    indexOf?_getElem hnd hj, dblFront_length]
  rfl

theorem einSize_traced_canon {N m : Nat} {rhs : List Nat} (hlt : ∀ q ∈ rhs, q < N) (Z : List Nat) :
    (einTraced (dblFront N m ++ rhs) rhs).map (einSize Z (dblFront N m ++ rhs))
      = (List.range m).map (fun i => Z.getD (2 * i) 0) := by
  rw [einTraced_canon hlt, List.map_map]
  apply List.map_congr_left
  intro i hi
  simp only [Function.comp, einSize, indexOf?_dblFront rhs (List.mem_range.1 hi)]

theorem einSize_rhs_canon {N m : Nat} {rhs : List Nat} (hlt : ∀ q ∈ rhs, q < N) (hnd : rhs.Nodup)
    (Z : List Nat) :
    rhs.map (einSize Z (dblFront N m ++ rhs))
      = (List.range rhs.length).map (fun j => Z.getD (2 * m + j) 0) := by
  apply List.ext_getElem
  · simp
  · intro n h1 h2
    have hn : n < rhs.length := by simpa using h1
    simp only [List.getElem_map, List.getElem_range, einSize, indexOf?_canon_rhs hlt hnd hn]

theorem einSize_rhs_canon_drop {N m : Nat} {rhs : List Nat} (hlt : ∀ q ∈ rhs, q < N)
    (hnd : rhs.Nodup) (Z : List Nat) (hZ : Z.length = 2 * m + rhs.length) :
    rhs.map (einSize Z (dblFront N m ++ rhs)) = Z.drop (2 * m) := by
  rw [einSize_rhs_canon hlt hnd]
  apply List.ext_getElem
  · simp [hZ]
  · intro n h1 h2
    have hn : n < rhs.length := by simpa using h1
    have : 2 * m + n < Z.length := by omega
    simp [List.getD_eq_getElem?_getD, this]

end TwoStepP
end SymmModel
