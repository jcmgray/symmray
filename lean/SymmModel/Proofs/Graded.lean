/-
  SymmModel.Proofs.Graded — the lemmas behind the main theorem of property C03,
  `tensordotF_refines_graded` (Props/C03b.lean): the fermionic contraction of the model
  (`Arr.tensordotF`, Model/Fermi.lean, blockwise mode) equals an explicit graded-tensor
  specification (`gradedSign`, `gradedContract`) that does not mention the lazy sign table.
  Namespace `SymmModel.GradedP`.

  The argument has three layers.
  * Transport.  `Prepared a X p τ`: `X` is `a` brought to the axis order `p` with every stored
    sector multiplied by a sign `τ`.  For prepared copies `X`, `Y` of `a`, `b` in ANY layout of
    the contracted axes (`Lay`; the layouts of the model are `lay_left`, `lay_right`) the
    abelian blockwise contraction (C02) of `X`, `Y` is the sign-twisted pair sum over `a`, `b`
    (`contract_transport`).
  * Signs.  The sign operations of `tensordot_fermionic` act sector-wise (`Twist`,
    `prepared_of_twist`); in both branches of the size test their product on an aligned pair is
    `gradedSign` (`ket_sign_left/right`, `reversal_sign_right`, `prepared_pair_of_duals`).  Of
    the guard on the contracted legs only their number, their opposite directions and the
    equal sizes of matched legs are used: `all_zip_at`, `contractible_at`, `shapes_match_of`
    are stated so that the weak guard of Proofs/AssocWeak can supply them as well
    (`prepared_pair`, `shapes_match`: under `contractibleB`).
  * Assembly.  `prepared_contract` and `graded_of_prepared`: the abelian kernel on ANY prepared
    pair whose signs multiply to `gradedSign`, followed by the label step (`resolve_tail`).
    `tensordotF_graded` is the statement under the strong guard; its structural form under the
    weak guard is `AssocP.Call.of_ok` (Proofs/AssocFrame).
  `diagTrace`, `gradedTrace`, `traceA_of_twist`, `prepared_of_twist_id` serve the corollaries for
  `trace` and `a @ b` (Props/C03b.lean).
-/
import SymmModel.Proofs.Koszul
import SymmModel.Proofs.Oddpos
import SymmModel.Proofs.LazyLemmas
import SymmModel.Proofs.TdotDense
import SymmModel.Proofs.ValidTdotF

namespace SymmModel
namespace GradedP
open TdotP
set_option linter.unusedSectionVars false


/-- the laws of negation the graded contraction needs (on top of `AddMonoid`) -/
class SignRing (R : Type) [AddMonoid R] [Mul R] [Neg R] : Prop where
  neg_neg : ∀ x : R, - -x = x
  neg_zero : -(0 : R) = 0
  neg_add : ∀ x y : R, -(x + y) = -x + -y
  neg_mul : ∀ x y : R, (-x) * y = -(x * y)
  mul_neg : ∀ x y : R, x * (-y) = -(x * y)

instance {R : Type} [AddMonoid R] [Mul R] [Neg R] [SignRing R] : Lazy.LawfulNeg R :=
  ⟨SignRing.neg_neg, SignRing.neg_zero⟩

instance : SignRing Int :=
  ⟨Int.neg_neg, Int.neg_zero, fun x y => by omega, Int.neg_mul, Int.mul_neg⟩

section scalars
variable {R : Type} [AddMonoid R] [Mul R] [Neg R] [SignRing R]
open Lazy (sgnI)

theorem sgnI_mul_mul {σ τ : Int} (hσ : σ = 1 ∨ σ = -1) (hτ : τ = 1 ∨ τ = -1) (x y : R) :
    sgnI σ x * sgnI τ y = sgnI (σ * τ) (x * y) := by
  rcases hσ with rfl | rfl <;> rcases hτ with rfl | rfl <;>
    simp [sgnI, SignRing.neg_mul, SignRing.mul_neg, SignRing.neg_neg]

theorem sgnI_mul_l {σ : Int} (hσ : σ = 1 ∨ σ = -1) (x y : R) : sgnI σ x * y = sgnI σ (x * y) := by
  have := sgnI_mul_mul hσ (Or.inl rfl) x y
  rwa [Lazy.sgnI_one, Int.mul_one] at this

theorem sgnI_mul_r {σ : Int} (hσ : σ = 1 ∨ σ = -1) (x y : R) : x * sgnI σ y = sgnI σ (x * y) := by
  have := sgnI_mul_mul (Or.inl rfl) hσ x y
  rwa [Lazy.sgnI_one, Int.one_mul] at this

theorem sgnI_sum (σ : Int) {α : Type} (f : α → R) (l : List α) :
    (l.map (fun k => sgnI σ (f k))).sum = sgnI σ (l.map f).sum :=
  Lazy.sgnI_map_sum SignRing.neg_add σ f l

theorem sgnI_comp {σ τ : Int} (hσ : σ = 1 ∨ σ = -1) (hτ : τ = 1 ∨ τ = -1) (x : R) :
    sgnI σ (sgnI τ x) = sgnI (σ * τ) x := (Lazy.sgnI_mul hσ hτ x).symm

end scalars


section positions
variable {α : Type}

theorem freeAxes_length {n : Nat} {ax : List Nat} (hn : ax.Nodup) (hlt : ∀ i ∈ ax, i < n) :
    (freeAxes n ax).length + ax.length = n := by
  have := (ValidP.without_append_perm hn hlt).length_eq
  rw [without_range, List.length_append, List.length_range] at this
  exact this

theorem range_eq_append_shift (n k : Nat) (hk : k ≤ n) :
    List.range n = List.range k ++ (List.range (n - k)).map (k + ·) := by
  conv => lhs; rw [show n = k + (n - k) by omega]
  exact List.range_add

theorem drop_range_eq_map (n k : Nat) (hk : k ≤ n) :
    (List.range n).drop k = (List.range (n - k)).map (fun j => k + j) := by
  rw [range_eq_append_shift n k hk, List.drop_left' (by simp)]

theorem freeAxes_drop (n k : Nat) (hk : k ≤ n) :
    freeAxes n ((List.range n).drop k) = List.range k := by
  unfold freeAxes
  rw [drop_range_eq_map n k hk]
  conv => lhs; arg 2; rw [range_eq_append_shift n k hk]
  rw [List.filter_append]
  have h1 : (List.range k).filter (fun ax => !((List.range (n - k)).map (k + ·)).contains ax)
      = List.range k := by
    rw [List.filter_eq_self]
    intro x hx
    have := List.mem_range.mp hx
    simp only [Bool.not_eq_true', List.contains_eq_mem, decide_eq_false_iff_not, List.mem_map,
      List.mem_range, not_exists, not_and]
    intro y _; omega
  have h2 : ((List.range (n - k)).map (k + ·)).filter
      (fun ax => !((List.range (n - k)).map (k + ·)).contains ax) = [] := by
    rw [List.filter_eq_nil_iff]
    intro x hx
    simp [hx]
  rw [h1, h2, List.append_nil]

theorem freeAxes_range (m k : Nat) (hk : k ≤ m) :
    freeAxes m (List.range k) = (List.range m).drop k := by
  unfold freeAxes
  rw [range_eq_append_shift m k hk, List.drop_left' (by simp), List.filter_append]
  have h1 : (List.range k).filter (fun ax => !(List.range k).contains ax) = [] := by
    rw [List.filter_eq_nil_iff]
    intro x hx
    simp [hx]
  have h2 : ((List.range (m - k)).map (k + ·)).filter (fun ax => !(List.range k).contains ax)
      = (List.range (m - k)).map (k + ·) := by
    rw [List.filter_eq_self]
    intro x hx
    obtain ⟨y, _, rfl⟩ := List.mem_map.mp hx
    simp
  rw [h1, h2, List.nil_append]

theorem perm_left {n : Nat} {ax : List Nat} (hn : ax.Nodup) (hlt : ∀ i ∈ ax, i < n) :
    (freeAxes n ax ++ ax).Perm (List.range n) := by
  have := ValidP.without_append_perm hn hlt
  rwa [without_range] at this

theorem perm_right {n : Nat} {ax : List Nat} (hn : ax.Nodup) (hlt : ∀ i ∈ ax, i < n) :
    (ax ++ freeAxes n ax).Perm (List.range n) :=
  List.perm_append_comm.trans (perm_left hn hlt)

variable {n : Nat} {ax : List Nat} (hn : ax.Nodup) (hlt : ∀ i ∈ ax, i < n)
  (z : List α) (hz : z.length = n)
include hn hlt hz

theorem len_free : (permuted z (freeAxes n ax)).length = n - ax.length := by
  rw [permuted_length _ _ (by intro x hx; rw [hz]; exact (mem_freeAxes.mp hx).1)]
  have := freeAxes_length hn hlt; omega

theorem len_ax : (permuted z ax).length = ax.length :=
  permuted_length _ _ (by intro x hx; rw [hz]; exact hlt x hx)

theorem left_lengths : (permuted z (freeAxes n ax ++ ax)).length = n := by
  rw [permuted_append, List.length_append, len_free hn hlt z hz, len_ax hn hlt z hz]
  have := freeAxes_length hn hlt; omega

theorem left_newA :
    permuted (permuted z (freeAxes n ax ++ ax)) ((List.range n).drop (n - ax.length))
      = permuted z ax := by
  have hl := left_lengths hn hlt z hz
  have := ValidP.permuted_range_drop (permuted z (freeAxes n ax ++ ax)) (n - ax.length)
  rw [hl] at this
  rw [this, permuted_append, List.drop_left' (len_free hn hlt z hz)]

theorem left_free :
    permuted (permuted z (freeAxes n ax ++ ax)) (freeAxes n ((List.range n).drop (n - ax.length)))
      = permuted z (freeAxes n ax) := by
  rw [freeAxes_drop n (n - ax.length) (by omega), ValidP.permuted_range_take,
    permuted_append, List.take_left' (len_free hn hlt z hz)]

theorem right_lengths : (permuted z (ax ++ freeAxes n ax)).length = n := by
  rw [permuted_append, List.length_append, len_free hn hlt z hz, len_ax hn hlt z hz]
  have := freeAxes_length hn hlt; omega

theorem right_newB :
    permuted (permuted z (ax ++ freeAxes n ax)) (List.range ax.length) = permuted z ax := by
  rw [ValidP.permuted_range_take, permuted_append, List.take_left' (len_ax hn hlt z hz)]

theorem right_free :
    permuted (permuted z (ax ++ freeAxes n ax)) (freeAxes n (List.range ax.length))
      = permuted z (freeAxes n ax) := by
  have hl := right_lengths hn hlt z hz
  have hk : ax.length ≤ n := by have := freeAxes_length hn hlt; omega
  rw [freeAxes_range n ax.length hk]
  have := ValidP.permuted_range_drop (permuted z (ax ++ freeAxes n ax)) ax.length
  rw [hl] at this
  rw [this, permuted_append, List.drop_left' (len_ax hn hlt z hz)]

end positions

theorem mergeIdx_reorder {n : Nat} {ax ax' p k f : List Nat}
    (hax : ax.Nodup) (haxlt : ∀ i ∈ ax, i < n) (hax' : ∀ y ∈ ax', y < n)
    (hk : k.length = ax.length) (hf : f.length = (freeAxes n ax).length)
    (hlen : ∀ z : List Nat, z.length = n → (permuted z p).length = n)
    (e1 : ∀ z : List Nat, z.length = n → permuted (permuted z p) ax' = permuted z ax)
    (e2 : ∀ z : List Nat, z.length = n →
      permuted (permuted z p) (freeAxes n ax') = permuted z (freeAxes n ax)) :
    mergeIdx 0 n ax' (freeAxes n ax') k f = permuted (mergeIdx 0 n ax (freeAxes n ax) k f) p := by
  have hml : (mergeIdx 0 n ax (freeAxes n ax) k f).length = n := mergeIdx_length _ _ _ _ _ _
  have := mergeIdx_permuted 0 (x := permuted (mergeIdx 0 n ax (freeAxes n ax) k f) p)
    (axes := ax') (free := freeAxes n ax') (hlen _ hml) hax' (fun y hy => (mem_freeAxes.mp hy).1)
    (fun y hy => (Classical.em (y ∈ ax')).imp_right fun h => mem_freeAxes.mpr ⟨hy, h⟩)
  rwa [e1 _ hml, e2 _ hml, permuted_mergeIdx_axes 0 hax haxlt hk,
    permuted_mergeIdx_free 0 (freeAxes_nodup _ _) (fun x hx => (mem_freeAxes.mp hx).1)
      (fun x hx => (mem_freeAxes.mp hx).2) hf] at this


theorem shape_of_mem {R : Type} {a : Arr R} (hs : a.shapesOk) {s : Sector} (h : s ∈ a.sectors) :
    ∃ shp, Arr.blockShape? a.indices s = some shp ∧ Arr.blockShapeD a.indices s = shp
      ∧ shp.length = a.ndim ∧ s.length = a.ndim := by
  obtain ⟨p, hp, rfl⟩ := List.mem_map.mp h
  have h1 := hs p hp
  exact ⟨p.2.shape, h1, by rw [Arr.blockShapeD, h1]; rfl, (blockShape?_length h1).2,
    (blockShape?_length h1).1⟩

theorem transposeF_elem_at {R : Type} [Zero R] [Neg R] [Lazy.LawfulNeg R] {a : Arr R} {p : List Nat}
    (h : Lazy.TrOk a p) (hshape : a.shapesOk) {s : Sector} (hs : s ∈ a.sectors) {off : List Nat}
    (hoff : inBox (Arr.blockShapeD a.indices s) off = true) :
    (a.transposeF p).elem (permuted s p) (permuted off p)
      = Lazy.sgnI (koszul (a.parities s) (some p)) (a.elem s off) := by
  obtain ⟨shp, h1, h2, h3, _⟩ := shape_of_mem hshape hs
  obtain ⟨b, hb⟩ := KoszulP.alookup_isSome_of_mem a.blocks s hs
  have hbs : b.shape = shp := by
    have := hshape (s, b) (alookup_some_mem hb)
    rw [h1] at this
    exact (Option.some.inj this).symm
  exact KoszulP.transposeF_elem Lazy.LawfulNeg.neg_neg a p
    (allDistinct_iff_nodup.mpr h.sign.sectors) h.len h.perm s b hb (by rw [hbs, h3])
    (h.sign.phases.phOf s) off (by rw [hbs, ← h2]; exact hoff)

section transport
variable {R : Type} [AddMonoid R] [Mul R] [Neg R] [SignRing R]
open Lazy (sgnI)

/-- `X` is `a` brought to the axis order `p`, with every stored sector `s` multiplied by the sign
    `τ s`, and with no pending signs left -/
structure Prepared (a X : Arr R) (p : List Nat) (τ : Sector → Int) : Prop where
  phases : X.phases = []
  sectors : X.sectors = a.sectors.map (fun s => permuted s p)
  indices : X.indices = permuted a.indices p
  distinct : allDistinct X.sectors = true
  shapes : X.shapesOk
  pm : ∀ s, τ s = 1 ∨ τ s = -1
  elem : ∀ s ∈ a.sectors, ∀ off, inBox (Arr.blockShapeD a.indices s) off = true →
      X.elem (permuted s p) (permuted off p) = sgnI (τ s) (a.elem s off)

/-- the contracted axes `ax` of an operand of rank `n` sit at the positions `ax'` after re-indexing
    by the permutation `p`, and the free axes keep their order -/
structure Lay (n : Nat) (ax p ax' : List Nat) : Prop where
  perm : p.Perm (List.range n)
  nd : ax.Nodup
  lt : ∀ i ∈ ax, i < n
  nd' : ax'.Nodup
  lt' : ∀ i ∈ ax', i < n
  axes : ∀ {α : Type} (z : List α), z.length = n → permuted (permuted z p) ax' = permuted z ax
  free : ∀ {α : Type} (z : List α), z.length = n →
    permuted (permuted z p) (freeAxes n ax') = permuted z (freeAxes n ax)

theorem Lay.plt {n : Nat} {ax p ax' : List Nat} (h : Lay n ax p ax') : ∀ x ∈ p, x < n :=
  KoszulP.perm_range_mem_lt h.perm

theorem Lay.plen {n : Nat} {ax p ax' : List Nat} (h : Lay n ax p ax') {α : Type} (z : List α)
    (hz : z.length = n) : (permuted z p).length = n := by
  rw [permuted_length _ _ (by rw [hz]; exact h.plt), h.perm.length_eq, List.length_range]

theorem Lay.free_length {n : Nat} {ax p ax' : List Nat} (h : Lay n ax p ax') :
    (freeAxes n ax').length = (freeAxes n ax).length := by
  have h1 := congrArg List.length (h.free (List.range n) List.length_range)
  rwa [permuted_length _ _ (by
      intro x hx
      rw [h.plen _ List.length_range]; exact (mem_freeAxes.mp hx).1),
    permuted_length _ _ (by intro x hx; rw [List.length_range]; exact (mem_freeAxes.mp hx).1)] at h1

theorem lay_left {n : Nat} {ax : List Nat} (hn : ax.Nodup) (hlt : ∀ i ∈ ax, i < n) :
    Lay n ax (freeAxes n ax ++ ax) ((List.range n).drop (n - ax.length)) :=
  ⟨perm_left hn hlt, hn, hlt, List.nodup_range.sublist (List.drop_sublist _ _),
    fun _ hi => List.mem_range.mp (List.mem_of_mem_drop hi),
    fun z hz => left_newA hn hlt z hz, fun z hz => left_free hn hlt z hz⟩

theorem lay_right {n : Nat} {ax : List Nat} (hn : ax.Nodup) (hlt : ∀ i ∈ ax, i < n) :
    Lay n ax (ax ++ freeAxes n ax) (List.range ax.length) :=
  ⟨perm_right hn hlt, hn, hlt, List.nodup_range,
    fun i hi => by have := List.mem_range.mp hi; have := freeAxes_length hn hlt; omega,
    fun z hz => right_newB hn hlt z hz, fun z hz => right_free hn hlt z hz⟩

theorem storedPairs_transport (a b X Y : Arr R) (xa xb p q xa' xb' : List Nat)
    (hsa : a.shapesOk) (hsb : b.shapesOk) (LA : Lay a.ndim xa p xa') (LB : Lay b.ndim xb q xb')
    (hX : X.sectors = a.sectors.map (fun s => permuted s p))
    (hY : Y.sectors = b.sectors.map (fun s => permuted s q)) (s : Sector) :
    storedPairs X Y (freeAxes a.ndim xa') xa' xb' (freeAxes b.ndim xb') s
      = (storedPairs a b (freeAxes a.ndim xa) xa xb (freeAxes b.ndim xb) s).map
          (fun t => (permuted t.1 p, permuted t.2 q)) := by
  unfold storedPairs
  rw [hX, hY]
  simp only [List.flatMap_map, List.filter_map, List.map_flatMap, List.map_map]
  apply flatMap_congr_mem
  intro sa hsa'
  have hla := Arr.sector_length hsa hsa'
  congr 1
  apply List.filter_congr
  intro sb hsb'
  have hlb := Arr.sector_length hsb hsb'
  simp only [Function.comp]
  rw [LA.axes sa hla, LA.free sa hla, LB.axes sb hlb, LB.free sb hlb]

theorem pair_transport (a b X Y : Arr R) (xa xb p q xa' xb' : List Nat) (τA τB : Sector → Int)
    (hsa : a.shapesOk) (hsb : b.shapesOk) (LA : Lay a.ndim xa p xa') (LB : Lay b.ndim xb q xb')
    (hmatch : ∀ sa ∈ a.sectors, ∀ sb ∈ b.sectors, permuted sb xb = permuted sa xa →
      permuted (Arr.blockShapeD b.indices sb) xb = permuted (Arr.blockShapeD a.indices sa) xa)
    (PX : Prepared a X p τA) (PY : Prepared b Y q τB)
    (s : Sector) (oL oR : List Nat) (hoL : oL.length = (freeAxes a.ndim xa).length)
    (ho : inBox (Arr.blockShapeD (without a.indices xa ++ without b.indices xb) s) (oL ++ oR) = true)
    (sa sb : Sector)
    (hp : (sa, sb) ∈ storedPairs a b (freeAxes a.ndim xa) xa xb (freeAxes b.ndim xb) s) :
    contractPair X Y xa' xb' oL oR (permuted sa p, permuted sb q)
      = sgnI (τA sa * τB sb) (contractPair a b xa xb oL oR (sa, sb)) := by
  obtain ⟨hsa', hsb', hal, hs⟩ := mem_storedPairs.mp hp
  obtain ⟨shpA, hA1, hA2, hA3, hA4⟩ := shape_of_mem hsa hsa'
  obtain ⟨shpB, hB1, hB2, hB3, hB4⟩ := shape_of_mem hsb hsb'
  have hA := LA.lt
  have hB := LB.lt
  have hXn : X.ndim = a.ndim := by
    show X.indices.length = _
    rw [PX.indices]; exact LA.plen a.indices rfl
  have hYn : Y.ndim = b.ndim := by
    show Y.indices.length = _
    rw [PY.indices]; exact LB.plen b.indices rfl
  have hleftlt : ∀ x ∈ freeAxes a.ndim xa, x < a.ndim := fun x hx => (mem_freeAxes.mp hx).1
  have hrightlt : ∀ x ∈ freeAxes b.ndim xb, x < b.ndim := fun x hx => (mem_freeAxes.mp hx).1
  have hboxX : permuted (Arr.blockShapeD X.indices (permuted sa p)) xa' = permuted shpA xa := by
    rw [PX.indices, Arr.blockShapeD, blockShape?_permuted hA1 _ LA.plt]
    exact LA.axes shpA hA3
  have hmatch' : permuted shpB xb = permuted shpA xa := by
    have := hmatch sa hsa' sb hsb' hal
    rwa [hA2, hB2] at this
  have hfree : inBox (permuted shpA (freeAxes a.ndim xa)) oL = true
      ∧ inBox (permuted shpB (freeAxes b.ndim xb)) oR = true := by
    have e : Arr.blockShapeD (without a.indices xa ++ without b.indices xb) s
        = permuted shpA (freeAxes a.ndim xa) ++ permuted shpB (freeAxes b.ndim xb) := by
      have ea : a.indices.length = a.ndim := rfl
      have eb : b.indices.length = b.ndim := rfl
      rw [← hs, without_eq_permuted_freeAxes, without_eq_permuted_freeAxes, ea, eb, Arr.blockShapeD,
        blockShape?_append (blockShape?_permuted hA1 _ hleftlt) (blockShape?_permuted hB1 _ hrightlt)]
      rfl
    rw [e, inBox_append (by
      rw [hoL, permuted_length _ _ (by intro x hx; rw [hA3]; exact hleftlt x hx)])] at ho
    simpa using ho
  unfold contractPair
  rw [hboxX, hA2, ← sgnI_sum]
  congr 1
  apply List.map_congr_left
  intro k hk
  have hkbox : inBox (permuted shpA xa) k = true := mem_allIdx.mp hk
  have hklen : k.length = xa.length := by
    rw [inBox_length hkbox, permuted_length _ _ (by intro x hx; rw [hA3]; exact hA x hx)]
  unfold contractTerm
  have hM : inBox shpA (mergeIdx 0 a.ndim xa (freeAxes a.ndim xa) k oL) = true := by
    have := inBox_mergeIdx (shape := shpA) (axes := xa) (k := k) (f := oL)
      (by intro x hx; rw [hA3]; exact hA x hx) hkbox (by rw [hA3]; exact hfree.1)
    rwa [hA3] at this
  have hMperm : mergeIdx 0 X.ndim xa' (freeAxes X.ndim xa') k oL
      = permuted (mergeIdx 0 a.ndim xa (freeAxes a.ndim xa) k oL) p := by
    rw [hXn]
    have hml : (mergeIdx 0 a.ndim xa (freeAxes a.ndim xa) k oL).length = a.ndim := mergeIdx_length _ _ _ _ _ _
    have e1 := LA.axes (mergeIdx 0 a.ndim xa (freeAxes a.ndim xa) k oL) hml
    have e2 := LA.free (mergeIdx 0 a.ndim xa (freeAxes a.ndim xa) k oL) hml
    rw [permuted_mergeIdx_axes 0 LA.nd hA hklen] at e1
    rw [permuted_mergeIdx_free 0 (freeAxes_nodup _ _) hleftlt
      (fun x hx => (mem_freeAxes.mp hx).2) hoL] at e2
    have := mergeIdx_permuted 0
      (x := permuted (mergeIdx 0 a.ndim xa (freeAxes a.ndim xa) k oL) p)
      (n := a.ndim) (axes := xa') (free := freeAxes a.ndim xa')
      (LA.plen _ hml) LA.lt' (fun y hy => (mem_freeAxes.mp hy).1)
      (by
        intro y hy
        by_cases h : y ∈ xa'
        · exact Or.inl h
        · exact Or.inr (mem_freeAxes.mpr ⟨hy, h⟩))
    rw [e1, e2] at this
    exact this
  have hN : inBox shpB (mergeIdx 0 b.ndim xb (freeAxes b.ndim xb) k oR) = true := by
    have := inBox_mergeIdx (shape := shpB) (axes := xb) (k := k) (f := oR)
      (by intro x hx; rw [hB3]; exact hB x hx) (by rw [hmatch']; exact hkbox)
      (by rw [hB3]; exact hfree.2)
    rwa [hB3] at this
  have hoR : oR.length = (freeAxes b.ndim xb).length := by
    rw [inBox_length hfree.2, permuted_length _ _ (by intro x hx; rw [hB3]; exact hrightlt x hx)]
  have hklen' : k.length = xb.length := by
    have h1 := congrArg List.length hmatch'
    rw [permuted_length _ _ (by intro x hx; rw [hB3]; exact hB x hx),
      permuted_length _ _ (by intro x hx; rw [hA3]; exact hA x hx)] at h1
    rw [hklen, h1]
  have hNperm : mergeIdx 0 Y.ndim xb' (freeAxes Y.ndim xb') k oR
      = permuted (mergeIdx 0 b.ndim xb (freeAxes b.ndim xb) k oR) q := by
    rw [hYn]
    have hml : (mergeIdx 0 b.ndim xb (freeAxes b.ndim xb) k oR).length = b.ndim := mergeIdx_length _ _ _ _ _ _
    have e1 := LB.axes (mergeIdx 0 b.ndim xb (freeAxes b.ndim xb) k oR) hml
    have e2 := LB.free (mergeIdx 0 b.ndim xb (freeAxes b.ndim xb) k oR) hml
    rw [permuted_mergeIdx_axes 0 LB.nd hB hklen'] at e1
    rw [permuted_mergeIdx_free 0 (freeAxes_nodup _ _) hrightlt
      (fun x hx => (mem_freeAxes.mp hx).2) hoR] at e2
    have := mergeIdx_permuted 0
      (x := permuted (mergeIdx 0 b.ndim xb (freeAxes b.ndim xb) k oR) q)
      (n := b.ndim) (axes := xb') (free := freeAxes b.ndim xb')
      (LB.plen _ hml) LB.lt' (fun y hy => (mem_freeAxes.mp hy).1)
      (by
        intro y hy
        by_cases h : y ∈ xb'
        · exact Or.inl h
        · exact Or.inr (mem_freeAxes.mpr ⟨hy, h⟩))
    rw [e1, e2] at this
    exact this
  rw [hMperm, hNperm, PX.elem sa hsa' _ (by rw [hA2]; exact hM), PY.elem sb hsb' _ (by rw [hB2]; exact hN),
    sgnI_mul_mul (PX.pm sa) (PY.pm sb)]

theorem contract_transport (a b X Y : Arr R) (xa xb p q xa' xb' : List Nat) (τA τB : Sector → Int)
    (hsa : a.shapesOk) (hsb : b.shapesOk) (LA : Lay a.ndim xa p xa') (LB : Lay b.ndim xb q xb')
    (hmatch : ∀ sa ∈ a.sectors, ∀ sb ∈ b.sectors, permuted sb xb = permuted sa xa →
      permuted (Arr.blockShapeD b.indices sb) xb = permuted (Arr.blockShapeD a.indices sa) xa)
    (PX : Prepared a X p τA) (PY : Prepared b Y q τB)
    (s : Sector) (oL oR : List Nat) (hoL : oL.length = (freeAxes a.ndim xa).length)
    (ho : inBox (Arr.blockShapeD (without a.indices xa ++ without b.indices xb) s) (oL ++ oR) = true) :
    (tensordotBlockwise X Y (freeAxes X.ndim xa') xa' xb' (freeAxes Y.ndim xb')).elem s (oL ++ oR)
      = ((storedPairs a b (freeAxes a.ndim xa) xa xb (freeAxes b.ndim xb) s).map (fun t =>
          sgnI (τA t.1 * τB t.2) (contractPair a b xa xb oL oR t))).sum := by
  have hXn : X.ndim = a.ndim := by
    show X.indices.length = _
    rw [PX.indices]; exact LA.plen a.indices rfl
  have hYn : Y.ndim = b.ndim := by
    show Y.indices.length = _
    rw [PY.indices]; exact LB.plen b.indices rfl
  have e1 : without X.indices xa' = without a.indices xa := by
    rw [without_eq_permuted_freeAxes, without_eq_permuted_freeAxes]
    have : X.indices.length = a.ndim := hXn
    rw [this, PX.indices]
    exact LA.free a.indices rfl
  have e2 : without Y.indices xb' = without b.indices xb := by
    rw [without_eq_permuted_freeAxes, without_eq_permuted_freeAxes]
    have : Y.indices.length = b.ndim := hYn
    rw [this, PY.indices]
    exact LB.free b.indices rfl
  have ho' : inBox (Arr.blockShapeD (without X.indices xa' ++ without Y.indices xb') s) (oL ++ oR) = true := by
    rw [e1, e2]; exact ho
  have hfl : (freeAxes a.ndim xa').length = (freeAxes a.ndim xa).length := LA.free_length
  rw [tensordotBlockwise_elem_pairs X Y _ _ PX.phases PY.phases PX.distinct PY.distinct PX.shapes
    PY.shapes s (oL ++ oR) ho', hXn, hYn]
  have hl' : (freeAxes a.ndim xa').length = oL.length := by rw [hfl, hoL]
  rw [hl', List.take_left' rfl, List.drop_left' rfl,
    storedPairs_transport a b X Y xa xb p q xa' xb' hsa hsb LA LB PX.sectors PY.sectors s,
    List.map_map]
  congr 1
  apply List.map_congr_left
  rintro ⟨sa, sb⟩ hp
  exact pair_transport a b X Y xa xb p q xa' xb' τA τB hsa hsb LA LB hmatch PX PY s oL oR hoL ho sa sb hp

end transport


section prepare
variable {R : Type} [AddMonoid R] [Mul R] [Neg R] [SignRing R]
open Lazy (sgnI)

/-- `X` has the frame and the stored sectors of `a1`, and its value is the value of `a1` times the
    sector sign `φ` -/
structure Twist (a1 X : Arr R) (φ : Sector → Int) : Prop where
  sym : X.sym = a1.sym
  sectors : X.sectors = a1.sectors
  indices : X.indices = a1.indices
  sign : Lazy.SignOk X
  pm : ∀ s, φ s = 1 ∨ φ s = -1
  elem : ∀ s off, X.elem s off = sgnI (φ s) (a1.elem s off)

theorem Twist.refl {a1 : Arr R} (h : Lazy.SignOk a1) : Twist a1 a1 (fun _ => 1) :=
  ⟨rfl, rfl, rfl, h, fun _ => Or.inl rfl, fun _ _ => (Lazy.sgnI_one _).symm⟩

theorem Twist.phaseFlip {a1 X : Arr R} {φ : Sector → Int} (h : Twist a1 X φ) (axs : List Nat) :
    Twist a1 (X.phaseFlip axs) (fun s => Lazy.flipSign a1.sym axs s * φ s) := by
  refine ⟨?_, ?_, ?_, h.sign.phaseFlip axs, fun s => Lazy.mul_pm (Lazy.flipSign_pm _ _ _) (h.pm s), ?_⟩
  · rw [(ValidP.phaseFlip_fields X axs).2.1, h.sym]
  · unfold Arr.sectors; rw [Lazy.phaseFlip_blocks]; exact h.sectors
  · rw [(ValidP.phaseFlip_fields X axs).1, h.indices]
  · intro s off
    rw [Lazy.phaseFlip_elem X axs h.sign, h.elem, sgnI_comp (Lazy.flipSign_pm _ _ _) (h.pm s), h.sym]

theorem Twist.phaseTranspose {a1 X : Arr R} {φ : Sector → Int} (h : Twist a1 X φ)
    (axes : Option (List Nat)) :
    Twist a1 (X.phaseTranspose axes) (fun s => koszul (a1.parities s) axes * φ s) := by
  refine ⟨h.sym, h.sectors, h.indices, h.sign.phaseTranspose axes,
    fun s => Lazy.mul_pm (Lazy.koszul_pm _ _) (h.pm s), ?_⟩
  intro s off
  have hp : X.parities s = a1.parities s := by unfold Arr.parities; rw [h.sym]
  rw [Lazy.phaseTranspose_elem X axes h.sign, h.elem, sgnI_comp (Lazy.koszul_pm _ _) (h.pm s), hp]

theorem prepared_of_twist (a X : Arr R) (p : List Nat) (φ : Sector → Int)
    (hfull : Lazy.Full a) (hshape : a.shapesOk) (hp : Arr.isPerm p a.ndim = true)
    (hT : Twist (a.transposeF p) X φ) (hv : X.phaseSync.shapesOk) :
    Prepared a X.phaseSync p (fun s => φ (permuted s p) * koszul (a.parities s) (some p)) := by
  have htr : Lazy.TrOk a p := hfull.trOk hp
  have hsec : X.phaseSync.sectors = a.sectors.map (fun s => permuted s p) := by
    rw [Lazy.phaseSync_sectors, hT.sectors, Lazy.transposeF_sectors htr]
  refine ⟨rfl, hsec, ?_, ?_, hv, fun s => Lazy.mul_pm (hT.pm _) (Lazy.koszul_pm _ _), ?_⟩
  · show X.indices = _
    rw [hT.indices]; rfl
  · rw [hsec, allDistinct_iff_nodup]; exact htr.nodup_keys
  · intro s hs off hoff
    rw [Lazy.phaseSync_elem, hT.elem, ← sgnI_comp (hT.pm _) (Lazy.koszul_pm _ _)]
    congr 1
    exact transposeF_elem_at htr hshape hs hoff

end prepare


section spec
variable {R : Type}

/-- number of odd charges among the contracted legs of the sector `sa` -/
def oddContracted (a : Arr R) (xa : List Nat) (sa : Sector) : Nat :=
  ((permuted sa xa).filter a.sym.parity).length

/-- number of contracted legs of `a` that are kets (not dual) and carry an odd charge in `sa`:
    these meet their partner as ket-then-bra -/
def ketOdd (a : Arr R) (xa : List Nat) (sa : Sector) : Nat :=
  ((xa.filter (fun ax => !(a.indices.getD ax default).dual)).filter
    (fun ax => a.sym.parity (sa.getD ax (0, 0)))).length

/-- the sign of one aligned sector pair in the graded contraction: bring `a` to (free, contracted)
    and `b` to (contracted, free) order [two Koszul signs], reverse the contracted block of `b` so
    that the pairs nest [`(-1)^(k(k-1)/2)`, `k` odd contracted charges], evaluate each pair with
    `-1` per odd ket-then-bra pair -/
def gradedSign (a b : Arr R) (xa xb : List Nat) (sa sb : Sector) : Int :=
  koszul (a.parities sa) (some (freeAxes a.ndim xa ++ xa))
    * koszul (b.parities sb) (some (xb ++ freeAxes b.ndim xb))
    * (-1) ^ (oddContracted a xa sa * (oddContracted a xa sa - 1) / 2)
    * (-1) ^ ketOdd a xa sa

theorem pow_pm (n : Nat) : ((-1 : Int) ^ n = 1) ∨ ((-1 : Int) ^ n = -1) := by
  rw [← KoszulP.sgn_eq_pow]; exact KoszulP.sgn_cases n

theorem gradedSign_pm (a b : Arr R) (xa xb : List Nat) (sa sb : Sector) :
    gradedSign a b xa xb sa sb = 1 ∨ gradedSign a b xa xb sa sb = -1 :=
  Lazy.mul_pm (Lazy.mul_pm (Lazy.mul_pm (Lazy.koszul_pm _ _) (Lazy.koszul_pm _ _)) (pow_pm _)) (pow_pm _)

theorem gradedSign_sgn (a b : Arr R) (xa xb : List Nat) (sa sb : Sector) :
    gradedSign a b xa xb sa sb
      = koszul (a.parities sa) (some (freeAxes a.ndim xa ++ xa))
        * koszul (b.parities sb) (some (xb ++ freeAxes b.ndim xb))
        * KoszulP.sgn (KoszulP.tri (oddContracted a xa sa)) * KoszulP.sgn (ketOdd a xa sa) := by
  unfold gradedSign
  rw [KoszulP.tri_eq, KoszulP.sgn_eq_pow, KoszulP.sgn_eq_pow]

theorem gradedSign_congr_left {a a' : Arr R} (hs : a.sym = a'.sym) (hn : a.ndim = a'.ndim)
    (hd : ∀ ax, (a.indices.getD ax default).dual = (a'.indices.getD ax default).dual)
    (b : Arr R) (xa xb : List Nat) (sa sb : Sector) :
    gradedSign a b xa xb sa sb = gradedSign a' b xa xb sa sb := by
  unfold gradedSign oddContracted ketOdd Arr.parities
  rw [hs, hn]
  simp only [hd]

theorem gradedSign_congr_right {b b' : Arr R} (hs : b.sym = b'.sym) (hn : b.ndim = b'.ndim)
    (a : Arr R) (xa xb : List Nat) (sa sb : Sector) :
    gradedSign a b xa xb sa sb = gradedSign a b' xa xb sa sb := by
  unfold gradedSign Arr.parities
  rw [hs, hn]

theorem oddContracted_single (a : Arr R) (x : Nat) (sa : Sector) :
    oddContracted a [x] sa * (oddContracted a [x] sa - 1) / 2 = 0 := by
  have h1 : oddContracted a [x] sa ≤ 1 := by
    unfold oddContracted
    calc ((permuted sa [x]).filter a.sym.parity).length ≤ (permuted sa [x]).length :=
          List.length_filter_le _ _
      _ ≤ [x].length := permuted_length_le _ _
      _ = 1 := rfl
  have : oddContracted a [x] sa = 0 ∨ oddContracted a [x] sa = 1 := by omega
  rcases this with h | h <;> rw [h]

/-- the graded contraction at the address `(s, oL ++ oR)`: the signed sum over the stored sector
    pairs with equal contracted parts whose free parts make up `s` -/
def gradedContract [AddMonoid R] [Mul R] [Neg R] (a b : Arr R) (xa xb : List Nat) (s : Sector)
    (oL oR : List Nat) : R :=
  ((storedPairs a b (freeAxes a.ndim xa) xa xb (freeAxes b.ndim xb) s).map (fun p =>
    Lazy.sgnI (gradedSign a b xa xb p.1 p.2) (contractPair a b xa xb oL oR p))).sum

end spec


section signs
variable {R : Type}

theorem flipSign_eq_pow (sym : Sym) (axs : List Nat) (s : Sector) :
    Lazy.flipSign sym axs s
      = (-1 : Int) ^ ((axs.filter (fun ax => sym.parity (s.getD ax (0, 0)))).length) := by
  rw [← KoszulP.sgn_eq_pow]
  unfold Lazy.flipSign Lazy.flipOdd KoszulP.sgn
  generalize (axs.filter (fun ax => sym.parity (s.getD ax (0, 0)))).length = c
  rcases Nat.mod_two_eq_zero_or_one c with h | h <;> simp [h]

theorem list_eq_map_getD (l : List Nat) : l = (List.range l.length).map (fun j => l.getD j 0) := by
  apply List.ext_getElem
  · simp
  · intro i h1 h2
    simp [List.getD_eq_getElem?_getD, List.getElem?_eq_getElem h1]

theorem count_two_maps (nc : Nat) (f g : Nat → Nat) (P Q P' Q' : Nat → Bool)
    (h : ∀ j, j < nc → P (f j) = P' (g j) ∧ Q (f j) = Q' (g j)) :
    ((((List.range nc).map f).filter P).filter Q).length
      = ((((List.range nc).map g).filter P').filter Q').length := by
  simp only [List.filter_map, List.length_map, List.filter_filter]
  congr 1
  apply List.filter_congr
  intro j hj
  have := h j (List.mem_range.mp hj)
  simp [Function.comp, this.1, this.2]

variable {α : Type}

theorem getD_permuted_ax (z : List α) (ax : List Nat) (hlt : ∀ i ∈ ax, i < z.length) (j : Nat)
    (hj : j < ax.length) (d : α) : (permuted z ax).getD j d = z.getD (ax.getD j 0) d := by
  rw [List.getD_eq_getElem?_getD, permuted_getElem? z ax hlt, List.getElem?_eq_getElem hj,
    List.getD_eq_getElem?_getD, List.getD_eq_getElem?_getD, List.getElem?_eq_getElem hj]
  rfl

theorem getD_left {n : Nat} {ax : List Nat} (hn : ax.Nodup) (hlt : ∀ i ∈ ax, i < n)
    (z : List α) (hz : z.length = n) (j : Nat) (hj : j < ax.length) (d : α) :
    (permuted z (freeAxes n ax ++ ax)).getD (n - ax.length + j) d = z.getD (ax.getD j 0) d := by
  rw [permuted_append, List.getD_eq_getElem?_getD,
    List.getElem?_append_right (by rw [len_free hn hlt z hz]; omega), len_free hn hlt z hz,
    ← List.getD_eq_getElem?_getD]
  have : n - ax.length + j - (n - ax.length) = j := by omega
  rw [this]
  exact getD_permuted_ax z ax (by rw [hz]; exact hlt) j hj d

theorem getD_right {n : Nat} {ax : List Nat} (hn : ax.Nodup) (hlt : ∀ i ∈ ax, i < n)
    (z : List α) (hz : z.length = n) (j : Nat) (hj : j < ax.length) (d : α) :
    (permuted z (ax ++ freeAxes n ax)).getD j d = z.getD (ax.getD j 0) d := by
  rw [permuted_append, List.getD_eq_getElem?_getD,
    List.getElem?_append_left (by rw [len_ax hn hlt z hz]; exact hj), ← List.getD_eq_getElem?_getD]
  exact getD_permuted_ax z ax (by rw [hz]; exact hlt) j hj d

theorem all_zip_at {xa xb : List Nat} {f : Nat × Nat → Bool} (hl : xa.length = xb.length)
    (hall : ∀ p ∈ xa.zip xb, f p = true) (j : Nat) (hj : j < xa.length) :
    f (xa.getD j 0, xb.getD j 0) = true := by
  have hj' : j < xb.length := by omega
  refine hall _ ?_
  rw [List.mem_iff_getElem]
  refine ⟨j, by simp; omega, ?_⟩
  simp [List.getD_eq_getElem?_getD, List.getElem?_eq_getElem hj, List.getElem?_eq_getElem hj']

theorem eq_not_of_bne {x y : Bool} (h : (x != y) = true) : y = !x := by
  revert h; cases x <;> cases y <;> simp

theorem contractible_at {a b : Arr R} {xa xb : List Nat}
    (hc : ValidP.contractibleB a b xa xb = true) (j : Nat) (hj : j < xa.length) :
    (a.indices.getD (xa.getD j 0) default).cm = (b.indices.getD (xb.getD j 0) default).cm
      ∧ (b.indices.getD (xb.getD j 0) default).dual = !(a.indices.getD (xa.getD j 0) default).dual := by
  unfold ValidP.contractibleB at hc
  simp only [Bool.and_eq_true, beq_iff_eq, List.all_eq_true] at hc
  have := all_zip_at (f := fun p => (a.indices.getD p.1 default).cm == (b.indices.getD p.2 default).cm
    && ((a.indices.getD p.1 default).dual != (b.indices.getD p.2 default).dual)) hc.1
    (by simpa using hc.2) j hj
  simp only [Bool.and_eq_true, beq_iff_eq] at this
  exact ⟨this.1, eq_not_of_bne this.2⟩

theorem contractible_len {a b : Arr R} {xa xb : List Nat}
    (hc : ValidP.contractibleB a b xa xb = true) : xa.length = xb.length := by
  unfold ValidP.contractibleB at hc
  simp only [Bool.and_eq_true, beq_iff_eq] at hc
  exact hc.1

/-- branch `a.size ≤ b.size`: the flip of `a`'s ket legs among the contracted positions -/
theorem ket_sign_left (a : Arr R) (xa : List Nat) (hn : xa.Nodup) (hlt : ∀ i ∈ xa, i < a.ndim)
    (sa : Sector) (hsa : sa.length = a.ndim) :
    Lazy.flipSign a.sym
        (((List.range a.ndim).drop (a.ndim - xa.length)).filter (fun ax =>
          !((permuted a.indices (freeAxes a.ndim xa ++ xa)).getD ax default).dual))
        (permuted sa (freeAxes a.ndim xa ++ xa))
      = (-1 : Int) ^ ketOdd a xa sa := by
  rw [flipSign_eq_pow]
  congr 1
  have hk : xa.length ≤ a.ndim := by have := freeAxes_length hn hlt; omega
  have e1 := drop_range_eq_map a.ndim (a.ndim - xa.length) (by omega)
  have e3 : a.ndim - (a.ndim - xa.length) = xa.length := by omega
  rw [e3] at e1
  unfold ketOdd
  rw [e1]
  have e2 : ((xa.filter (fun ax => !(a.indices.getD ax default).dual)).filter
        (fun ax => a.sym.parity (sa.getD ax (0, 0)))).length
      = ((((List.range xa.length).map (fun j => xa.getD j 0)).filter
          (fun ax => !(a.indices.getD ax default).dual)).filter
        (fun ax => a.sym.parity (sa.getD ax (0, 0)))).length := by
    rw [← list_eq_map_getD xa]
  rw [e2]
  apply count_two_maps
  intro j hj
  rw [getD_left hn hlt a.indices rfl j hj, getD_left hn hlt sa hsa j hj]
  exact ⟨rfl, rfl⟩

/-- branch `a.size > b.size`: the flip of `b`'s bra legs among the contracted positions gives the
    same sign, because matched legs have opposite directions (`hdual`) and aligned sectors carry equal
    charges on them; nothing else about the pairing of the legs is used -/
theorem ket_sign_right (a b : Arr R) (xa xb : List Nat) (hsym : a.sym = b.sym)
    (hlen : xa.length = xb.length)
    (hdual : ∀ j, j < xa.length →
      (b.indices.getD (xb.getD j 0) default).dual = !(a.indices.getD (xa.getD j 0) default).dual)
    (hA : ∀ i ∈ xa, i < a.ndim) (hnB : xb.Nodup) (hB : ∀ i ∈ xb, i < b.ndim)
    (sa sb : Sector) (hsa : sa.length = a.ndim) (hsb : sb.length = b.ndim)
    (hal : permuted sb xb = permuted sa xa) :
    Lazy.flipSign b.sym
        ((List.range xa.length).filter (fun ax =>
          ((permuted b.indices (xb ++ freeAxes b.ndim xb)).getD ax default).dual))
        (permuted sb (xb ++ freeAxes b.ndim xb))
      = (-1 : Int) ^ ketOdd a xa sa := by
  rw [flipSign_eq_pow]
  congr 1
  unfold ketOdd
  have e2 : ((xa.filter (fun ax => !(a.indices.getD ax default).dual)).filter
        (fun ax => a.sym.parity (sa.getD ax (0, 0)))).length
      = ((((List.range xa.length).map (fun j => xa.getD j 0)).filter
          (fun ax => !(a.indices.getD ax default).dual)).filter
        (fun ax => a.sym.parity (sa.getD ax (0, 0)))).length := by
    rw [← list_eq_map_getD xa]
  have e1 : List.range xa.length = (List.range xa.length).map (fun j => j) := by simp
  rw [e2]
  conv => lhs; rw [e1]
  apply count_two_maps
  intro j hj
  have hj' : j < xb.length := by omega
  rw [getD_right hnB hB b.indices rfl j hj', getD_right hnB hB sb hsb j hj']
  refine ⟨hdual j hj, ?_⟩
  have h1 := getD_permuted_ax sb xb (by rw [hsb]; exact hB) j hj' (0, 0)
  have h2 := getD_permuted_ax sa xa (by rw [hsa]; exact hA) j hj (0, 0)
  rw [← h1, ← h2, hal, hsym]

theorem reversal_sign (par : List Bool) (m nc : Nat) (hnc : nc ≤ m) (hm : nc ≤ par.length) :
    koszul par (some ((List.range nc).reverse ++ (List.range m).drop nc))
      = (-1 : Int) ^ (((par.take nc).filter id).length * (((par.take nc).filter id).length - 1) / 2) := by
  have hsplit : List.range nc ++ (List.range m).drop nc = List.range m := by
    have := List.take_append_drop nc (List.range m)
    rwa [List.take_range, Nat.min_eq_left hnc] at this
  have h : ([] ++ List.range nc ++ (List.range m).drop nc).Perm (List.range m) := by
    rw [List.nil_append, hsplit]
  have hk := KoszulP.koszul_reverse_block par [] (List.range nc) ((List.range m).drop nc) m h
  simp only [List.nil_append] at hk
  rw [hk, hsplit, KoszulP.koszul_id', Int.one_mul, KoszulP.sgn_eq_pow]
  have hcount : KoszulP.oddCount par (List.range nc) = ((par.take nc).filter id).length := by
    have h1 := KoszulP.oddCount_range (par.take nc)
    rw [List.length_take, Nat.min_eq_left hm] at h1
    rw [← h1]
    unfold KoszulP.oddCount
    congr 1
    apply List.filter_congr
    intro j hj
    have := List.mem_range.mp hj
    unfold isOdd
    rw [List.getD_eq_getElem?_getD, List.getD_eq_getElem?_getD, List.getElem?_take_of_lt this]
  rw [hcount]

theorem reversal_sign_right (a b : Arr R) (xa xb : List Nat) (hsym : a.sym = b.sym)
    (hlen : xa.length = xb.length) (hnB : xb.Nodup) (hB : ∀ i ∈ xb, i < b.ndim)
    (sa sb : Sector) (hsb : sb.length = b.ndim) (hal : permuted sb xb = permuted sa xa) :
    koszul ((permuted sb (xb ++ freeAxes b.ndim xb)).map b.sym.parity)
        (some ((List.range xa.length).reverse ++ (List.range b.ndim).drop xa.length))
      = (-1 : Int) ^ (oddContracted a xa sa * (oddContracted a xa sa - 1) / 2) := by
  have hk : xb.length ≤ b.ndim := by have := freeAxes_length hnB hB; omega
  have hl := right_lengths hnB hB sb hsb
  rw [reversal_sign _ b.ndim xa.length (by omega) (by rw [List.length_map, hl]; omega)]
  have : (((permuted sb (xb ++ freeAxes b.ndim xb)).map b.sym.parity).take xa.length).filter id
      = ((permuted sa xa).map a.sym.parity).filter id := by
    rw [← List.map_take, permuted_append, hlen, List.take_left' (len_ax hnB hB sb hsb), hal,
      hsym]
  rw [this]
  unfold oddContracted
  simp only [List.filter_map, List.length_map]
  rfl

theorem shapes_match_of {a b : Arr R} {xa xb : List Nat} (hsa : a.shapesOk) (hsb : b.shapesOk)
    (hlen : xa.length = xb.length)
    (hag : ∀ j, j < xa.length → ∀ (c : Charge) (dA dB : Nat),
      alookup (a.indices.getD (xa.getD j 0) default).cm c = some dA →
      alookup (b.indices.getD (xb.getD j 0) default).cm c = some dB → dB = dA)
    (hA : ∀ i ∈ xa, i < a.ndim) (hB : ∀ i ∈ xb, i < b.ndim) :
    ∀ sa ∈ a.sectors, ∀ sb ∈ b.sectors, permuted sb xb = permuted sa xa →
      permuted (Arr.blockShapeD b.indices sb) xb = permuted (Arr.blockShapeD a.indices sa) xa := by
  intro sa hsa' sb hsb' hal
  obtain ⟨shpA, hA1, hA2, hA3, hA4⟩ := shape_of_mem hsa hsa'
  obtain ⟨shpB, hB1, hB2, hB3, hB4⟩ := shape_of_mem hsb hsb'
  rw [hA2, hB2]
  apply List.ext_getElem?
  intro j
  rw [permuted_getElem? _ _ (by rw [hB3]; exact hB), permuted_getElem? _ _ (by rw [hA3]; exact hA)]
  by_cases hj : j < xa.length
  · have hj' : j < xb.length := by omega
    have hxa : xa[j] < a.ndim := hA _ (List.getElem_mem hj)
    have hxb : xb[j] < b.ndim := hB _ (List.getElem_mem hj')
    rw [List.getElem?_eq_getElem hj, List.getElem?_eq_getElem hj']
    simp only [Option.bind_some]
    have zA := ((blockShape?_eq_some_iff _ _ _).mp hA1).2
    have zB := ((blockShape?_eq_some_iff _ _ _).mp hB1).2
    have gA := congrArg (fun l => l[xa[j]]?) zA
    have gB := congrArg (fun l => l[xb[j]]?) zB
    have ia : xa[j] < a.indices.length := hxa
    have ib : xb[j] < b.indices.length := hxb
    simp only [List.getElem?_zipWith, List.getElem?_map, List.getElem?_eq_getElem ia,
      List.getElem?_eq_getElem ib, List.getElem?_eq_getElem (hA4 ▸ hxa),
      List.getElem?_eq_getElem (hB4 ▸ hxb), List.getElem?_eq_getElem (hA3 ▸ hxa),
      List.getElem?_eq_getElem (hB3 ▸ hxb), Option.map_some] at gA gB
    have hcm := hag j hj
    simp only [List.getD_eq_getElem?_getD, List.getElem?_eq_getElem hj, List.getElem?_eq_getElem hj',
      List.getElem?_eq_getElem ia, List.getElem?_eq_getElem ib, Option.getD_some] at hcm
    have hch : sb[xb[j]]'(hB4 ▸ hxb) = sa[xa[j]]'(hA4 ▸ hxa) := by
      have h1 := congrArg (fun l => l[j]?) hal
      simp only [permuted_getElem? sb xb (by rw [hB4]; exact hB),
        permuted_getElem? sa xa (by rw [hA4]; exact hA), List.getElem?_eq_getElem hj,
        List.getElem?_eq_getElem hj', Option.bind_some, List.getElem?_eq_getElem (hA4 ▸ hxa),
        List.getElem?_eq_getElem (hB4 ▸ hxb), Option.some.injEq] at h1
      exact h1
    rw [List.getElem?_eq_getElem (hB3 ▸ hxb), List.getElem?_eq_getElem (hA3 ▸ hxa)]
    unfold Index.sizeOf? at gA gB
    rw [hch] at gB
    rw [hcm _ _ _ (Option.some.inj gA) (Option.some.inj gB)]
  · rw [List.getElem?_eq_none (by omega), List.getElem?_eq_none (by omega)]; rfl

theorem shapes_match {a b : Arr R} {xa xb : List Nat} (hsa : a.shapesOk) (hsb : b.shapesOk)
    (hc : ValidP.contractibleB a b xa xb = true)
    (hA : ∀ i ∈ xa, i < a.ndim) (hB : ∀ i ∈ xb, i < b.ndim) :
    ∀ sa ∈ a.sectors, ∀ sb ∈ b.sectors, permuted sb xb = permuted sa xa →
      permuted (Arr.blockShapeD b.indices sb) xb = permuted (Arr.blockShapeD a.indices sa) xa :=
  shapes_match_of hsa hsb (contractible_len hc)
    (fun j hj c dA dB h1 h2 => by
      rw [(contractible_at hc j hj).1, h2] at h1; exact Option.some.inj h1) hA hB

end signs


section main
variable {R : Type} [AddMonoid R] [Mul R] [Neg R] [SignRing R]
open Lazy (sgnI)

/-- the two operands just before `phase_sync`, in the two branches of the size test -/
theorem tdF34_cases (a b : Arr R) (xa xb : List Nat) :
    let a1 := a.transposeF (freeAxes a.ndim xa ++ xa)
    let b1 := b.transposeF (xb ++ freeAxes b.ndim xb)
    let b2 := b1.phaseTranspose (some ((List.range xa.length).reverse ++ (List.range b1.ndim).drop xa.length))
    ValidP.tdF34 a b xa xb
        = (a1.phaseFlip (((List.range a.ndim).drop (a.ndim - xa.length)).filter
            (fun ax => !(a1.indices.getD ax default).dual)), b2)
      ∨ ValidP.tdF34 a b xa xb
        = (a1, b2.phaseFlip ((List.range xa.length).filter (fun ax => (b2.indices.getD ax default).dual))) := by
  unfold ValidP.tdF34
  simp only [without_range]
  split
  · exact Or.inl rfl
  · exact Or.inr rfl

theorem transposeF_ndim_right (b : Arr R) (xb : List Nat) (hnB : xb.Nodup) (hB : ∀ i ∈ xb, i < b.ndim) :
    (b.transposeF (xb ++ freeAxes b.ndim xb)).ndim = b.ndim :=
  right_lengths hnB hB b.indices rfl

theorem prepared_pair_of_duals (a b : Arr R) (xa xb : List Nat)
    (ha : a.validB = true) (hb : b.validB = true) (hfa : a.fermi = true) (hfb : b.fermi = true)
    (hsym : a.sym = b.sym) (hlen : xa.length = xb.length)
    (hdual : ∀ j, j < xa.length →
      (b.indices.getD (xb.getD j 0) default).dual = !(a.indices.getD (xa.getD j 0) default).dual)
    (hnA : xa.Nodup) (hA : ∀ i ∈ xa, i < a.ndim) (hnB : xb.Nodup) (hB : ∀ i ∈ xb, i < b.ndim) :
    ∃ τA τB, Prepared a (ValidP.tdF34 a b xa xb).1.phaseSync (freeAxes a.ndim xa ++ xa) τA
      ∧ Prepared b (ValidP.tdF34 a b xa xb).2.phaseSync (xb ++ freeAxes b.ndim xb) τB
      ∧ ∀ sa ∈ a.sectors, ∀ sb ∈ b.sectors, permuted sb xb = permuted sa xa →
          τA sa * τB sb = gradedSign a b xa xb sa sb := by
  have fa := Lazy.Full.of_valid ha hfa
  have fb := Lazy.Full.of_valid hb hfb
  have hsa := Arr.shapesOk_of_validB ha
  have hsb := Arr.shapesOk_of_validB hb
  have hpA : Arr.isPerm (freeAxes a.ndim xa ++ xa) a.ndim = true :=
    isPerm_of_perm (perm_left hnA hA)
  have hpB : Arr.isPerm (xb ++ freeAxes b.ndim xb) b.ndim = true :=
    isPerm_of_perm (perm_right hnB hB)
  have props := ValidP.tdF34_props a b xa xb ((ValidP.validB_iff a).mp ha) ((ValidP.validB_iff b).mp hb)
    hfa hfb hnA hnB hA hB
  have hvX : (ValidP.tdF34 a b xa xb).1.phaseSync.shapesOk :=
    Arr.shapesOk_of_validB ((ValidP.validB_iff _).mpr (ValidP.phaseSync_valid _ props.va))
  have hvY : (ValidP.tdF34 a b xa xb).2.phaseSync.shapesOk :=
    Arr.shapesOk_of_validB ((ValidP.validB_iff _).mpr (ValidP.phaseSync_valid _ props.vb))
  have T1 : Twist (a.transposeF (freeAxes a.ndim xa ++ xa)) (a.transposeF (freeAxes a.ndim xa ++ xa))
      (fun _ => 1) := Twist.refl (Lazy.SignOk.transposeF a _)
  have U1 : Twist (b.transposeF (xb ++ freeAxes b.ndim xb)) (b.transposeF (xb ++ freeAxes b.ndim xb))
      (fun _ => 1) := Twist.refl (Lazy.SignOk.transposeF b _)
  have U2 := U1.phaseTranspose (some ((List.range xa.length).reverse
    ++ (List.range (b.transposeF (xb ++ freeAxes b.ndim xb)).ndim).drop xa.length))
  -- the two signs common to both branches
  have hrev : ∀ sa ∈ a.sectors, ∀ sb ∈ b.sectors, permuted sb xb = permuted sa xa →
      koszul ((b.transposeF (xb ++ freeAxes b.ndim xb)).parities (permuted sb (xb ++ freeAxes b.ndim xb)))
        (some ((List.range xa.length).reverse
          ++ (List.range (b.transposeF (xb ++ freeAxes b.ndim xb)).ndim).drop xa.length))
      = (-1 : Int) ^ (oddContracted a xa sa * (oddContracted a xa sa - 1) / 2) := by
    intro sa _ sb hsb' hal
    rw [transposeF_ndim_right b xb hnB hB]
    exact reversal_sign_right a b xa xb hsym hlen hnB hB sa sb (Arr.sector_length hsb hsb') hal
  rcases tdF34_cases a b xa xb with hcase | hcase
  · -- `a` receives the ket-bra flip
    rw [hcase] at hvX hvY ⊢
    have T2 := T1.phaseFlip (((List.range a.ndim).drop (a.ndim - xa.length)).filter
      (fun ax => !((a.transposeF (freeAxes a.ndim xa ++ xa)).indices.getD ax default).dual))
    refine ⟨_, _, prepared_of_twist a _ _ _ fa hsa hpA T2 hvX,
      prepared_of_twist b _ _ _ fb hsb hpB U2 hvY, ?_⟩
    intro sa hsa' sb hsb' hal
    have hk := ket_sign_left a xa hnA hA sa (Arr.sector_length hsa hsa')
    have hr := hrev sa hsa' sb hsb' hal
    show (Lazy.flipSign a.sym _ _ * 1 * _) * (_ * 1 * _) = _
    rw [hr]
    have hk' : Lazy.flipSign a.sym
        (((List.range a.ndim).drop (a.ndim - xa.length)).filter
          (fun ax => !((a.transposeF (freeAxes a.ndim xa ++ xa)).indices.getD ax default).dual))
        (permuted sa (freeAxes a.ndim xa ++ xa)) = (-1 : Int) ^ ketOdd a xa sa := hk
    rw [hk']
    unfold gradedSign
    ring
  · -- `b` receives the ket-bra flip
    rw [hcase] at hvX hvY ⊢
    have U3 := U2.phaseFlip ((List.range xa.length).filter (fun ax =>
      (((b.transposeF (xb ++ freeAxes b.ndim xb)).phaseTranspose (some ((List.range xa.length).reverse
        ++ (List.range (b.transposeF (xb ++ freeAxes b.ndim xb)).ndim).drop xa.length))).indices.getD
          ax default).dual))
    refine ⟨_, _, prepared_of_twist a _ _ _ fa hsa hpA T1 hvX,
      prepared_of_twist b _ _ _ fb hsb hpB U3 hvY, ?_⟩
    intro sa hsa' sb hsb' hal
    have hk := ket_sign_right a b xa xb hsym hlen hdual hA hnB hB sa sb (Arr.sector_length hsa hsa')
      (Arr.sector_length hsb hsb') hal
    have hr := hrev sa hsa' sb hsb' hal
    show (1 * _) * (Lazy.flipSign b.sym _ _ * (_ * 1) * _) = _
    rw [hr]
    have hk' : Lazy.flipSign b.sym
        ((List.range xa.length).filter (fun ax =>
          (((b.transposeF (xb ++ freeAxes b.ndim xb)).phaseTranspose (some ((List.range xa.length).reverse
            ++ (List.range (b.transposeF (xb ++ freeAxes b.ndim xb)).ndim).drop xa.length))).indices.getD
              ax default).dual))
        (permuted sb (xb ++ freeAxes b.ndim xb)) = (-1 : Int) ^ ketOdd a xa sa := hk
    rw [hk']
    unfold gradedSign
    ring

theorem prepared_pair (a b : Arr R) (xa xb : List Nat)
    (ha : a.validB = true) (hb : b.validB = true) (hfa : a.fermi = true) (hfb : b.fermi = true)
    (hsym : a.sym = b.sym) (hc : ValidP.contractibleB a b xa xb = true)
    (hnA : xa.Nodup) (hA : ∀ i ∈ xa, i < a.ndim) (hnB : xb.Nodup) (hB : ∀ i ∈ xb, i < b.ndim) :
    ∃ τA τB, Prepared a (ValidP.tdF34 a b xa xb).1.phaseSync (freeAxes a.ndim xa ++ xa) τA
      ∧ Prepared b (ValidP.tdF34 a b xa xb).2.phaseSync (xb ++ freeAxes b.ndim xb) τB
      ∧ ∀ sa ∈ a.sectors, ∀ sb ∈ b.sectors, permuted sb xb = permuted sa xa →
          τA sa * τB sb = gradedSign a b xa xb sa sb :=
  prepared_pair_of_duals a b xa xb ha hb hfa hfb hsym (contractible_len hc)
    (fun j hj => (contractible_at hc j hj).2) hnA hA hnB hB

/-- the label step: `resolve_combined_oddpos` multiplies every value by the label sign -/
theorem resolve_tail (a b X Y T c : Arr R) (hXpar : X.parity = a.parity)
    (hXodd : X.oddpos = a.oddpos) (hYodd : Y.oddpos = b.oddpos) (hT : Lazy.SignOk T)
    (h : resolveCombinedOddpos X Y T = .ok c) :
    ∃ out ph, OddposP.mergeOddpos a.parity a.oddpos b.oddpos = .ok (out, ph)
      ∧ c.oddpos = out ∧ c.charge = T.charge ∧ ∀ s o, c.elem s o = sgnI ph (T.elem s o) := by
  rw [OddposP.resolveCombinedOddpos_eq, hXpar, hXodd, hYodd] at h
  cases hm : OddposP.mergeOddpos a.parity a.oddpos b.oddpos with
  | error e => rw [hm] at h; cases h
  | ok r =>
    obtain ⟨out, ph⟩ := r
    rw [hm] at h
    simp only [Except.map, Except.ok.injEq] at h
    subst h
    refine ⟨out, ph, rfl, rfl, ?_, ?_⟩
    · show (if (ph == -1) = true then T.phaseGlobal else T).charge = _
      split <;> rfl
    · intro s o
      show (if (ph == -1) = true then T.phaseGlobal else T).elem s o = _
      by_cases hph : ph = -1
      · subst hph
        simp only [beq_self_eq_true, if_true]
        rw [Lazy.phaseGlobal_elem _ hT, Lazy.sgnI_neg_one]
      · have : (ph == -1) = false := by simpa using hph
        simp only [this, Bool.false_eq_true, if_false]
        unfold sgnI
        rw [if_neg hph]

theorem prepared_contract (a b X Y : Arr R) (xa xb : List Nat) (τA τB : Sector → Int)
    (hsa : a.shapesOk) (hsb : b.shapesOk)
    (hnA : xa.Nodup) (hA : ∀ i ∈ xa, i < a.ndim) (hnB : xb.Nodup) (hB : ∀ i ∈ xb, i < b.ndim)
    (hlen : xa.length = xb.length)
    (hmatch : ∀ sa ∈ a.sectors, ∀ sb ∈ b.sectors, permuted sb xb = permuted sa xa →
      permuted (Arr.blockShapeD b.indices sb) xb = permuted (Arr.blockShapeD a.indices sa) xa)
    (PX : Prepared a X (freeAxes a.ndim xa ++ xa) τA)
    (PY : Prepared b Y (xb ++ freeAxes b.ndim xb) τB)
    (hsign : ∀ sa ∈ a.sectors, ∀ sb ∈ b.sectors, permuted sb xb = permuted sa xa →
      τA sa * τB sb = gradedSign a b xa xb sa sb)
    (s : Sector) (oL oR : List Nat) (hoL : oL.length = (freeAxes a.ndim xa).length)
    (ho : inBox (Arr.blockShapeD (without a.indices xa ++ without b.indices xb) s) (oL ++ oR) = true) :
    (tensordotBlockwise X Y (freeAxes X.ndim ((List.range a.ndim).drop (a.ndim - xa.length)))
        ((List.range a.ndim).drop (a.ndim - xa.length)) (List.range xa.length)
        (freeAxes Y.ndim (List.range xa.length))).elem s (oL ++ oR)
      = gradedContract a b xa xb s oL oR := by
  rw [contract_transport a b X Y xa xb _ _ _ _ τA τB hsa hsb (lay_left hnA hA)
    (hlen ▸ lay_right hnB hB) hmatch PX PY s oL oR hoL ho]
  unfold gradedContract
  refine congrArg List.sum (List.map_congr_left ?_)
  rintro ⟨sa, sb⟩ hp
  obtain ⟨m1, m2, m3, _⟩ := mem_storedPairs.mp hp
  rw [hsign sa m1 sb m2 m3]

/-- the part shared by `tensordot` and `@`, which differ only in how they prepare their operands -/
theorem graded_of_prepared (a b X Y c : Arr R) (xa xb : List Nat) (τA τB : Sector → Int)
    (hsa : a.shapesOk) (hsb : b.shapesOk)
    (hnA : xa.Nodup) (hA : ∀ i ∈ xa, i < a.ndim) (hnB : xb.Nodup) (hB : ∀ i ∈ xb, i < b.ndim)
    (hlen : xa.length = xb.length)
    (hmatch : ∀ sa ∈ a.sectors, ∀ sb ∈ b.sectors, permuted sb xb = permuted sa xa →
      permuted (Arr.blockShapeD b.indices sb) xb = permuted (Arr.blockShapeD a.indices sa) xa)
    (PX : Prepared a X (freeAxes a.ndim xa ++ xa) τA)
    (PY : Prepared b Y (xb ++ freeAxes b.ndim xb) τB)
    (hsign : ∀ sa ∈ a.sectors, ∀ sb ∈ b.sectors, permuted sb xb = permuted sa xa →
      τA sa * τB sb = gradedSign a b xa xb sa sb)
    (hXpar : X.parity = a.parity) (hXodd : X.oddpos = a.oddpos) (hYodd : Y.oddpos = b.oddpos)
    (hch : X.sym.combine [X.charge, Y.charge] = a.sym.combine [a.charge, b.charge])
    (h : resolveCombinedOddpos X Y (tensordotBlockwise X Y
        (freeAxes X.ndim ((List.range a.ndim).drop (a.ndim - xa.length)))
        ((List.range a.ndim).drop (a.ndim - xa.length)) (List.range xa.length)
        (freeAxes Y.ndim (List.range xa.length))) = .ok c) :
    ∃ out ph, OddposP.mergeOddpos a.parity a.oddpos b.oddpos = .ok (out, ph)
      ∧ c.oddpos = out ∧ c.charge = a.sym.combine [a.charge, b.charge]
      ∧ ∀ s oL oR, oL.length = (freeAxes a.ndim xa).length →
          inBox (Arr.blockShapeD (without a.indices xa ++ without b.indices xb) s) (oL ++ oR) = true →
          c.elem s (oL ++ oR) = sgnI ph (gradedContract a b xa xb s oL oR) := by
  have hTok : Lazy.SignOk (tensordotBlockwise X Y
      (freeAxes X.ndim ((List.range a.ndim).drop (a.ndim - xa.length)))
      ((List.range a.ndim).drop (a.ndim - xa.length)) (List.range xa.length)
      (freeAxes Y.ndim (List.range xa.length))) :=
    ⟨by rw [tensordotBlockwise_sectors_eq]; exact nodup_eraseDups _,
     by show Lazy.PhOk X.phases; rw [PX.phases]; exact Lazy.PhOk.nil⟩
  obtain ⟨out, ph, h1, h2, h3, h4⟩ := resolve_tail a b X Y _ c hXpar hXodd hYodd hTok h
  refine ⟨out, ph, h1, h2, by rw [h3]; exact hch, fun s oL oR hoL ho => ?_⟩
  rw [h4, prepared_contract a b X Y xa xb τA τB hsa hsb hnA hA hnB hB hlen hmatch PX PY hsign s oL oR
    hoL ho]

/-- `tensordot_fermionic` in blockwise mode on valid fermionic operands with contractible axes: the
    labels of the result are the merged labels, its charge the combined charge, and its value at every
    address in the box of the result's frame is the label sign times the graded contraction. -/
theorem tensordotF_graded (a b c : Arr R) (xa xb : List Nat)
    (ha : a.validB = true) (hb : b.validB = true) (hfa : a.fermi = true) (hfb : b.fermi = true)
    (hadm : ValidP.tdotAdmissibleB a b xa xb = true)
    (h : a.tensordotF b (.pair (xa.map Int.ofNat) (xb.map Int.ofNat)) .blockwise = .ok c) :
    ∃ out ph, OddposP.mergeOddpos a.parity a.oddpos b.oddpos = .ok (out, ph)
      ∧ c.oddpos = out ∧ c.charge = a.sym.combine [a.charge, b.charge]
      ∧ ∀ s oL oR, oL.length = (freeAxes a.ndim xa).length →
          inBox (Arr.blockShapeD (without a.indices xa ++ without b.indices xb) s) (oL ++ oR) = true →
          c.elem s (oL ++ oR) = sgnI ph (gradedContract a b xa xb s oL oR) := by
  obtain ⟨hsym, hc, hnA, hnB, hA, hB⟩ := ValidP.tdotAdmissibleB_iff.mp hadm
  have hlen := contractible_len hc
  have hsa := Arr.shapesOk_of_validB ha
  have hsb := Arr.shapesOk_of_validB hb
  obtain ⟨τA, τB, PX, PY, hsign⟩ := prepared_pair a b xa xb ha hb hfa hfb hsym hc hnA hA hnB hB
  have props := ValidP.tdF34_props a b xa xb ((ValidP.validB_iff a).mp ha) ((ValidP.validB_iff b).mp hb)
    hfa hfb hnA hnB hA hB
  rw [ValidP.tensordotF_eq_nat a b xa xb .blockwise hlen hA hB] at h
  -- from here on the two operands of the abelian kernel are opaque
  generalize (ValidP.tdF34 a b xa xb).1 = A at h PX props
  generalize (ValidP.tdF34 a b xa xb).2 = B at h PY props
  have hXn : A.phaseSync.ndim = a.ndim := by
    show A.phaseSync.indices.length = _
    rw [PX.indices]; exact left_lengths hnA hA a.indices rfl
  have hYn : B.phaseSync.ndim = b.ndim := by
    show B.phaseSync.indices.length = _
    rw [PY.indices]; exact right_lengths hnB hB b.indices rfl
  have hk : xa.length ≤ a.ndim := by have := freeAxes_length hnA hA; omega
  have hk' : xb.length ≤ b.ndim := by have := freeAxes_length hnB hB; omega
  rw [tensordotA_blockwise', ValidP.parseAxes_nat A.phaseSync.ndim B.phaseSync.ndim _ _ (by simp; omega)
    (by intro i hi; rw [hXn]; exact List.mem_range.mp (List.mem_of_mem_drop hi))
    (by intro i hi; rw [hYn]; have := List.mem_range.mp hi; omega)] at h
  exact graded_of_prepared a b A.phaseSync B.phaseSync c xa xb τA τB hsa hsb hnA hA hnB hB hlen
    (shapes_match hsa hsb hc hA hB) PX PY hsign (show A.sym.parity A.charge = _ by rw [props.sa, props.ca]; rfl) props.oa props.ob
    (show A.sym.combine [A.charge, B.charge] = _ by rw [props.sa, props.ca, props.cb]) h

end main


section trace
variable {R : Type} [AddMonoid R] [Mul R] [Neg R] [SignRing R]
open Lazy (sgnI)

/-- the plain trace of the diagonal sector `s = (c, c)` in the value view -/
def diagTrace (a : Arr R) (s : Sector) : R :=
  ((List.range (min ((Arr.blockShapeD a.indices s).getD 0 0) ((Arr.blockShapeD a.indices s).getD 1 0))).map
    (fun i => a.elem s [i, i])).sum

/-- graded trace of a matrix: a bra-ket pair is evaluated as it stands, a ket-bra pair costs `-1`
    for an odd charge -/
def gradedTrace (a : Arr R) : R :=
  ((a.sectors.filter (fun s => s[0]? == s[1]?)).map (fun s =>
    sgnI (if !(a.indices.getD 0 default).dual && a.sym.parity (s.getD 0 (0, 0)) then -1 else 1)
      (diagTrace a s))).sum

theorem traceA_elem (X : Arr R) (hn : X.ndim = 2) (hp : X.phases = [])
    (hd : allDistinct X.sectors = true) (hs : X.shapesOk) :
    traceA X = .ok (((X.sectors.filter (fun s => s[0]? == s[1]?)).map (diagTrace X)).sum) := by
  unfold traceA
  have : (X.ndim != 2) = false := by simp [hn]
  simp only [this, Bool.false_eq_true, if_false]
  congr 1
  have hfold : ∀ (l : List (Sector × Blk R)) (x : R),
      l.foldl (fun acc (p : Sector × Blk R) => acc + p.2.traceK) x = x + (l.map (fun p => p.2.traceK)).sum :=
    fun l x => TdotP.Blk.foldl_add_eq_sum (fun p : Sector × Blk R => p.2.traceK) l x
  have e : (X.blocks.filter (fun (p : Sector × Blk R) => p.1[0]? == p.1[1]?)).foldl
      (fun acc (p : Sector × Blk R) => acc + p.2.traceK) 0
      = ((X.sectors.filter (fun s => s[0]? == s[1]?)).map (diagTrace X)).sum := by
    rw [hfold, zero_add]
    unfold Arr.sectors
    rw [List.filter_map, List.map_map]
    refine congrArg List.sum (List.map_congr_left fun p hp' => ?_)
    have hmem : p ∈ X.blocks := (List.mem_filter.mp hp').1
    have hsh : Arr.blockShapeD X.indices p.1 = p.2.shape := by
      rw [Arr.blockShapeD, hs p hmem]; rfl
    simp only [Function.comp, diagTrace, hsh]
    unfold Blk.traceK
    rw [TdotP.Blk.foldl_add_eq_sum (fun i => p.2.get [i, i]), zero_add]
    refine congrArg List.sum (List.map_congr_left fun i _ => ?_)
    exact (Arr.elem_of_mem_plain hd hp hmem [i, i]).symm
  exact e

theorem traceA_of_twist {a Y : Arr R} {φ : Sector → Int} (T : Twist a Y φ) (hn : a.ndim = 2)
    (hs : Y.phaseSync.shapesOk) :
    traceA Y.phaseSync = .ok (((a.sectors.filter (fun s => s[0]? == s[1]?)).map
      (fun s => sgnI (φ s) (diagTrace a s))).sum) := by
  rw [traceA_elem Y.phaseSync (by show Y.indices.length = 2; rw [T.indices]; exact hn) rfl
    (by rw [Lazy.phaseSync_sectors, allDistinct_iff_nodup]; exact T.sign.sectors) hs,
    Lazy.phaseSync_sectors, T.sectors]
  refine congrArg Except.ok (congrArg List.sum (List.map_congr_left fun s _ => ?_))
  unfold diagTrace
  rw [show Y.phaseSync.indices = a.indices from T.indices, ← sgnI_sum]
  exact congrArg List.sum (List.map_congr_left fun i _ => by rw [Lazy.phaseSync_elem, T.elem])

end trace


section matmul
variable {R : Type} [AddMonoid R] [Mul R] [Neg R] [SignRing R]
open Lazy (sgnI)

theorem prepared_of_twist_id (a X : Arr R) (p : List Nat) (φ : Sector → Int)
    (hfull : Lazy.Full a) (hshape : a.shapesOk) (hid : p = List.range a.ndim)
    (hT : Twist a X φ) (hv : X.phaseSync.shapesOk) :
    Prepared a X.phaseSync p φ := by
  subst hid
  have hperm : ∀ s ∈ a.sectors, permuted s (List.range a.ndim) = s := by
    intro s hs
    have := permuted_range s
    rwa [hfull.len s hs] at this
  have hsec : X.phaseSync.sectors = a.sectors.map (fun s => permuted s (List.range a.ndim)) := by
    rw [Lazy.phaseSync_sectors, hT.sectors]
    conv => lhs; rw [← List.map_id a.sectors]
    apply List.map_congr_left
    intro s hs
    exact (hperm s hs).symm
  refine ⟨rfl, hsec, ?_, ?_, hv, hT.pm, ?_⟩
  · show X.indices = _
    rw [hT.indices]
    exact (permuted_range a.indices).symm
  · rw [Lazy.phaseSync_sectors, hT.sectors, allDistinct_iff_nodup]; exact hfull.sign.sectors
  · intro s hs off hoff
    obtain ⟨shp, _, h2, h3, _⟩ := shape_of_mem hshape hs
    have hoffl : off.length = a.ndim := by rw [inBox_length hoff, h2, h3]
    have hpo : permuted off (List.range a.ndim) = off := by
      have := permuted_range off
      rwa [hoffl] at this
    rw [hperm s hs, hpo, Lazy.phaseSync_elem, hT.elem]

end matmul

end GradedP
end SymmModel
