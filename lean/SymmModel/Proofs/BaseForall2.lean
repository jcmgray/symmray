/-
  SymmModel.Proofs.BaseForall2 — reading a `List.Forall₂` at a position (`getElem`, `getElem?`, `getD`) and at
  a member of either list; a `mapM` in `Except` that returned, as a `Forall₂`.  Mathlib's `Data.List.Forall2` only.
-/
import Mathlib.Data.List.Forall2
import SymmModel.Proofs.BaseExcept

namespace SymmModel

variable {α β : Type} {r : α → β → Prop} {l : List α} {m : List β}

theorem forall₂_getElem (h : List.Forall₂ r l m) (i : Nat) (h1 : i < l.length) (h2 : i < m.length) :
    r l[i] m[i] := by
  induction h generalizing i with
  | nil => simp at h1
  | cons hq _ ih =>
    cases i with
    | zero => exact hq
    | succ i => exact ih i (by simpa using h1) (by simpa using h2)

theorem forall₂_getElem? (h : List.Forall₂ r l m) {i : Nat} {a : α} {b : β} (ha : l[i]? = some a)
    (hb : m[i]? = some b) : r a b := by
  obtain ⟨h1, e1⟩ := List.getElem?_eq_some_iff.mp ha
  obtain ⟨h2, e2⟩ := List.getElem?_eq_some_iff.mp hb
  rw [← e1, ← e2]
  exact forall₂_getElem h i h1 h2

theorem forall₂_getD (h : List.Forall₂ r l m) (i : Nat) (hi : i < l.length) (d : α) (d' : β) :
    r (l.getD i d) (m.getD i d') := by
  have hi' : i < m.length := h.length_eq ▸ hi
  rw [List.getD_eq_getElem?_getD, List.getD_eq_getElem?_getD, List.getElem?_eq_getElem hi,
    List.getElem?_eq_getElem hi']
  exact forall₂_getElem h i hi hi'

theorem forall₂_mem_left (h : List.Forall₂ r l m) {x : α} (hx : x ∈ l) : ∃ y ∈ m, r x y := by
  induction h with
  | nil => cases hx
  | cons hq _ ih =>
    rcases List.mem_cons.mp hx with rfl | hx
    · exact ⟨_, by simp, hq⟩
    · obtain ⟨y, hy, hq'⟩ := ih hx
      exact ⟨y, by simp [hy], hq'⟩

theorem forall₂_mem_right (h : List.Forall₂ r l m) {y : β} (hy : y ∈ m) : ∃ x ∈ l, r x y := by
  induction h with
  | nil => cases hy
  | cons hq _ ih =>
    rcases List.mem_cons.mp hy with rfl | hy
    · exact ⟨_, by simp, hq⟩
    · obtain ⟨x, hx, hq'⟩ := ih hy
      exact ⟨x, by simp [hx], hq'⟩

theorem mapM_ok_forall₂ {α β ε : Type} (f : α → Except ε β) (l : List α) (r : List β)
    (h : l.mapM f = .ok r) : List.Forall₂ (fun x y => f x = .ok y) l r := by
  induction l generalizing r with
  | nil => simp only [List.mapM_nil] at h; cases h; exact List.Forall₂.nil
  | cons x xs ih =>
    rw [List.mapM_cons] at h
    obtain ⟨y, hy, h⟩ := bind_ok h
    obtain ⟨ys, hys, h⟩ := bind_ok h
    cases h
    exact List.Forall₂.cons hy (ih ys hys)

end SymmModel
