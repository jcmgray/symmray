/-
  SymmModel.Proofs.LinalgTrunc — `applyCounts` (the slicing step of `svd_truncated`) on the
  factors produced by `svdA`: closed form and validity.
-/
import SymmModel.Proofs.LinalgFactors

namespace SymmModel
namespace LinalgLemmas

variable {R : Type}

section Tri
variable {α : Type} (key : α → Charge)

theorem dropped_contains (tri : List (α × Nat)) (hnd : (tri.map (fun t => key t.1)).Nodup)
    {t : α × Nat} (ht : t ∈ tri) :
    ((tri.filter (fun t => t.2 == 0)).map (fun t => key t.1)).contains (key t.1) = (t.2 == 0) := by
  rw [Bool.eq_iff_iff, List.contains_iff_mem, List.mem_map]
  constructor
  · rintro ⟨t', ht', e⟩
    have hm := (List.mem_filter.mp ht')
    have := List.inj_on_of_nodup_map hnd hm.1 ht e
    subst this
    exact hm.2
  · intro h
    exact ⟨t, List.mem_filter.mpr ⟨ht, h⟩, rfl⟩

theorem kept_keys_nodup (tri : List (α × Nat)) (hnd : (tri.map (fun t => key t.1)).Nodup) :
    (((tri.filter (fun t => t.2 != 0)).map (fun t => (key t.1, t.2))).map (·.1)).Nodup := by
  rw [List.map_map]
  exact hnd.sublist (List.filter_sublist.map _)

theorem kept_lookup (tri : List (α × Nat)) (hnd : (tri.map (fun t => key t.1)).Nodup)
    {t : α × Nat} (ht : t ∈ tri) :
    alookup ((tri.filter (fun t => t.2 != 0)).map (fun t => (key t.1, t.2))) (key t.1)
      = if t.2 != 0 then some t.2 else none := by
  split
  next h =>
    apply alookup_of_mem_nodup (kept_keys_nodup key tri hnd)
    exact List.mem_map.mpr ⟨t, List.mem_filter.mpr ⟨ht, h⟩, rfl⟩
  next h =>
    rw [alookup_eq_none_iff, List.map_map]
    intro hm
    obtain ⟨t', ht', e⟩ := List.mem_map.mp hm
    have hm' := List.mem_filter.mp ht'
    have := List.inj_on_of_nodup_map hnd hm'.1 ht e
    subst this
    exact h hm'.2

end Tri

section Trunc
variable (x : Arr R) (L S Rt : Blk R → Blk R) (counts : List Nat)

def kept : List ((Sector × Blk R) × Nat) := (x.blocks.zip counts).filter (fun t => t.2 != 0)

def keptCm : List (Charge × Nat) := (kept x counts).map (fun t => (colOf t.1.1, t.2))

variable [Zero R]

def truncU : Arr R :=
  { leftF x L with
    blocks := (kept x counts).map (fun t =>
      (t.1.1, (L t.1.2).sliceK [0, 0] [(L t.1.2).shape.getD 0 0, t.2])),
    indices := [x.indices.getD 0 default,
                (bondIx x L).withCm (Index.sortCm (keptCm x counts))] }

def truncS : BVec R :=
  ⟨(kept x counts).map (fun t => (colOf t.1.1, (S t.1.2).sliceK [0] [t.2]))⟩

def truncV : Arr R :=
  { rightF x L Rt with
    blocks := (kept x counts).map (fun t =>
      ([colOf t.1.1, colOf t.1.1], (Rt t.1.2).sliceK [0, 0] [t.2, (Rt t.1.2).shape.getD 1 0])),
    indices := [(bondIx x L).conj.withCm (Index.sortCm (keptCm x counts)),
                x.indices.getD 1 default] }

end Trunc

section TruncEq
variable {x : Arr R} {L S Rt : Blk R → Blk R} {counts : List Nat}

theorem tri_map_fst (hlen : counts.length = x.blocks.length) :
    (x.blocks.zip counts).map (·.1) = x.blocks :=
  List.map_fst_zip (by omega)

theorem tri_mem (hlen : counts.length = x.blocks.length) {t : (Sector × Blk R) × Nat}
    (ht : t ∈ x.blocks.zip counts) : t.1 ∈ x.blocks := by
  rw [← tri_map_fst hlen]
  exact List.mem_map.mpr ⟨t, ht, rfl⟩

theorem tri_keys_nodup (hv : x.validB = true) (h2 : x.ndim = 2)
    (hlen : counts.length = x.blocks.length) :
    ((x.blocks.zip counts).map (fun t => colOf t.1.1)).Nodup := by
  have e : (x.blocks.zip counts).map (fun t => colOf t.1.1)
      = ((x.blocks.zip counts).map (·.1)).map (fun p => colOf p.1) := by
    rw [List.map_map]; rfl
  rw [e, tri_map_fst hlen]
  exact blocks_cols_nodup hv h2

theorem plan_eq (u : Arr R) (hu : u.sectors = x.sectors) :
    u.sectors.zip counts = (x.blocks.zip counts).map (fun t => (t.1.1, t.2)) := by
  rw [hu, Arr.sectors, List.zip_map_left]
  rfl

theorem plan_keep (u : Arr R) (hu : u.sectors = x.sectors) :
    (u.sectors.zip counts).filter (fun p => p.2 != 0)
      = (kept x counts).map (fun t => (t.1.1, t.2)) := by
  rw [plan_eq u hu, List.filter_map]
  rfl

theorem plan_drop (u : Arr R) (hu : u.sectors = x.sectors) :
    ((u.sectors.zip counts).filter (fun p => p.2 == 0)).map (fun p => p.1.getD 1 (0, 0))
      = ((x.blocks.zip counts).filter (fun t => t.2 == 0)).map (fun t => colOf t.1.1) := by
  rw [plan_eq u hu, List.filter_map, List.map_map]
  rfl

end TruncEq

section ApplyEq
variable {x : Arr R} {L S Rt : Blk R → Blk R} {counts : List Nat} [Zero R]

omit [Zero R] in
theorem leftF_sectors : (leftF x L).sectors = x.sectors := by
  simp [leftF, Arr.sectors, List.map_map, Function.comp_def]

omit [Zero R] in
theorem keptCm_keys_nodup (hv : x.validB = true) (h2 : x.ndim = 2)
    (hlen : counts.length = x.blocks.length) : ((keptCm x counts).map (·.1)).Nodup :=
  kept_keys_nodup (fun p : Sector × Blk R => colOf p.1) _ (tri_keys_nodup hv h2 hlen)

omit [Zero R] in
theorem plan_c1s (u : Arr R) (hu : u.sectors = x.sectors) :
    ((u.sectors.zip counts).filter (fun p => p.2 != 0)).map (fun p => (p.1.getD 1 (0, 0), p.2))
      = keptCm x counts := by
  rw [plan_keep u hu, List.map_map]
  rfl

omit [Zero R] in
theorem c1s_eq (hv : x.validB = true) (h2 : x.ndim = 2) (hlen : counts.length = x.blocks.length)
    (u : Arr R) (hu : u.sectors = x.sectors) :
    adict (((u.sectors.zip counts).filter (fun p => p.2 != 0)).map
        (fun p => (p.1.getD 1 (0, 0), p.2))) = keptCm x counts := by
  rw [plan_c1s u hu]
  exact adict_of_nodup _ (keptCm_keys_nodup hv h2 hlen)

omit [Zero R] in
theorem mem_kept_iff {q : (Sector × Blk R) × Nat} :
    q ∈ kept x counts ↔ q ∈ x.blocks.zip counts ∧ q.2 ≠ 0 := by
  unfold kept
  simp [List.mem_filter]

omit [Zero R] in
theorem kept_mem (hlen : counts.length = x.blocks.length) {t : (Sector × Blk R) × Nat}
    (ht : t ∈ kept x counts) : t.1 ∈ x.blocks ∧ t.2 ≠ 0 ∧ t ∈ x.blocks.zip counts := by
  have := List.mem_filter.mp ht
  exact ⟨tri_mem hlen this.1, by simpa using this.2, this.1⟩

omit [Zero R] in
theorem filter_map_eq_filterMap {α β : Type} (p : α → Bool) (g : α → β) (l : List α) :
    (l.filter p).map g = l.filterMap (fun t => if p t then some (g t) else none) := by
  induction l with
  | nil => rfl
  | cons a l ih =>
    rw [List.filter_cons, List.filterMap_cons]
    by_cases h : p a = true
    · simp only [h, if_true, List.map_cons, ih]
    · simp only [h, Bool.false_eq_true, if_false, ih]

omit [Zero R] in
theorem filterMap_blocks_kept {β γ : Type} (hlen : counts.length = x.blocks.length)
    (g : Sector × Blk R → β) (F : β → Option γ) (G : (Sector × Blk R) × Nat → γ)
    (hF : ∀ t ∈ x.blocks.zip counts, F (g t.1) = if t.2 != 0 then some (G t) else none) :
    (x.blocks.map g).filterMap F = (kept x counts).map G := by
  have hsb : x.blocks.map g = (x.blocks.zip counts).map (fun t => g t.1) := by
    conv => lhs; rw [← tri_map_fst hlen]
    rw [List.map_map]; rfl
  rw [hsb, List.filterMap_map]
  unfold kept
  rw [filter_map_eq_filterMap (fun t : (Sector × Blk R) × Nat => t.2 != 0)]
  apply List.filterMap_congr
  intro t ht
  exact hF t ht

theorem applyCounts_fst (hv : x.validB = true) (h2 : x.ndim = 2)
    (hlen : counts.length = x.blocks.length) (sv : BVec R) :
    (applyCounts (leftF x L) sv (rightF x L Rt) counts).1 = truncU x L counts := by
  have hu : (leftF x L).sectors = x.sectors := leftF_sectors
  unfold applyCounts truncU
  simp only []
  rw [c1s_eq hv h2 hlen _ hu, plan_keep _ hu, List.filterMap_map]
  have hb : List.filterMap ((fun p : Sector × Nat =>
        Option.map (fun b => (p.1, b.sliceK [0, 0] [b.shape.getD 0 0, p.2]))
          (alookup (leftF x L).blocks p.1)) ∘ fun t : (Sector × Blk R) × Nat => (t.1.1, t.2))
        (kept x counts)
      = (kept x counts).map (fun t =>
          (t.1.1, (L t.1.2).sliceK [0, 0] [(L t.1.2).shape.getD 0 0, t.2])) := by
    rw [← List.filterMap_eq_map]
    apply List.filterMap_congr
    intro t ht
    have hm := (kept_mem hlen ht).1
    have hl : alookup (leftF x L).blocks t.1.1 = some (L t.1.2) := by
      apply alookup_of_mem_nodup
      · have := Arr.validB_nodup hv
        simpa [leftF, Arr.sectors, List.map_map, Function.comp_def] using this
      · exact List.mem_map.mpr ⟨t.1, hm, rfl⟩
    simp only [Function.comp, hl, Option.map_some]
  rw [hb]
  rfl

theorem applyCounts_snd (hv : x.validB = true) (h2 : x.ndim = 2)
    (hlen : counts.length = x.blocks.length) :
    (applyCounts (leftF x L) ⟨x.blocks.map (fun p => (colOf p.1, S p.2))⟩ (rightF x L Rt) counts).2.1
      = truncS x S counts := by
  have hu : (leftF x L).sectors = x.sectors := leftF_sectors
  have hnd := tri_keys_nodup (counts := counts) hv h2 hlen
  unfold applyCounts truncS
  simp only []
  rw [plan_drop _ hu, plan_c1s _ hu]
  congr 1
  apply filterMap_blocks_kept hlen
  intro t ht
  have h1 := dropped_contains (fun p : Sector × Blk R => colOf p.1) _ hnd ht
  have h2' := kept_lookup (fun p : Sector × Blk R => colOf p.1) _ hnd ht
  simp only []
  unfold keptCm kept
  rw [h1, h2']
  by_cases h0 : t.2 = 0
  · simp [h0]
  · simp [h0]

theorem applyCounts_thd (hv : x.validB = true) (h2 : x.ndim = 2)
    (hlen : counts.length = x.blocks.length) (sv : BVec R) :
    (applyCounts (leftF x L) sv (rightF x L Rt) counts).2.2 = truncV x L Rt counts := by
  have hu : (leftF x L).sectors = x.sectors := leftF_sectors
  have hnd := tri_keys_nodup (counts := counts) hv h2 hlen
  obtain ⟨f1, f2, f3, f4, f5, f6⟩ := rightF_fields (x := x) (L := L) (Rt := Rt)
  unfold applyCounts truncV
  simp only []
  rw [c1s_eq hv h2 hlen _ hu, plan_drop _ hu, plan_c1s _ hu]
  rw [f5, filterMap_blocks_kept hlen _ _ (fun t =>
    ([colOf t.1.1, colOf t.1.1], (Rt t.1.2).sliceK [0, 0] [t.2, (Rt t.1.2).shape.getD 1 0]))]
  · simp only [f3, List.getD_cons_zero, List.getD_cons_succ]
  · intro t ht
    have h1 := dropped_contains (fun p : Sector × Blk R => colOf p.1) _ hnd ht
    have h2' := kept_lookup (fun p : Sector × Blk R => colOf p.1) _ hnd ht
    simp only [List.getD_cons_zero, beq_self_eq_true, Bool.true_and, if_true]
    unfold keptCm kept
    rw [h1, h2']
    by_cases h0 : t.2 = 0
    · simp [h0]
    · simp [h0]

theorem applyCounts_eq (hv : x.validB = true) (h2 : x.ndim = 2)
    (hlen : counts.length = x.blocks.length) :
    applyCounts (leftF x L) ⟨x.blocks.map (fun p => (colOf p.1, S p.2))⟩ (rightF x L Rt) counts
      = (truncU x L counts, truncS x S counts, truncV x L Rt counts) := by
  apply Prod.ext
  · exact applyCounts_fst hv h2 hlen _
  · apply Prod.ext
    · exact applyCounts_snd hv h2 hlen
    · exact applyCounts_thd hv h2 hlen _

end ApplyEq

section TruncValid
variable {x : Arr R} {L Rt : Blk R → Blk R} {counts : List Nat} {i0 i1 : Index} [Zero R]

omit [Zero R] in
theorem withCm_mk (c : List (Charge × Nat)) (d : Bool) (s) (c' : List (Charge × Nat)) :
    (Index.mk c d s).withCm c' = Index.mk (Index.sortCm c') d s := rfl

omit [Zero R] in
/-- `sortCm (sortCm (keptCm x counts))` is the charge map of the truncated bond -/
theorem newCm_props (hv : x.validB = true) (h2 : x.ndim = 2)
    (hlen : counts.length = x.blocks.length) :
    isSortedStrict Charge.lt ((Index.sortCm (Index.sortCm (keptCm x counts))).map (·.1)) = true
    ∧ (∀ c, alookup (Index.sortCm (Index.sortCm (keptCm x counts))) c = alookup (keptCm x counts) c)
    ∧ (Index.sortCm (Index.sortCm (keptCm x counts))).Perm (keptCm x counts) := by
  have hnd := keptCm_keys_nodup (counts := counts) hv h2 hlen
  have hnd' := sortCm_keys_nodup hnd
  exact ⟨sortCm_sorted hnd', fun c => by rw [alookup_sortCm _ hnd', alookup_sortCm _ hnd],
    (sortCm_perm _).trans (sortCm_perm _)⟩

omit [Zero R] in
theorem keptCm_lookup (hv : x.validB = true) (h2 : x.ndim = 2)
    (hlen : counts.length = x.blocks.length) {t : (Sector × Blk R) × Nat} (ht : t ∈ kept x counts) :
    alookup (keptCm x counts) (colOf t.1.1) = some t.2 := by
  apply alookup_of_mem_nodup (keptCm_keys_nodup hv h2 hlen)
  exact List.mem_map.mpr ⟨t, ht, rfl⟩

omit [Zero R] in
theorem newBond_wf (hv : x.validB = true) (h2 : x.ndim = 2) (hi : x.indices = [i0, i1])
    (hlen : counts.length = x.blocks.length) (d : Bool) :
    (Index.mk (Index.sortCm (Index.sortCm (keptCm x counts))) d none).wfB x.sym = true := by
  obtain ⟨hs, _, hp⟩ := newCm_props (counts := counts) hv h2 hlen
  apply wfB_plain _ _ hs
  intro c n hm
  have hm' := hp.mem_iff.mp hm
  obtain ⟨t, ht, e⟩ := List.mem_map.mp hm'
  obtain ⟨hb, hn, _⟩ := kept_mem hlen ht
  obtain ⟨r, c', m, n', B⟩ := mat_block hv hi (s := t.1.1) (b := t.1.2) hb
  cases e
  exact ⟨Nat.pos_of_ne_zero hn, B.col ▸ B.vc⟩

omit [Zero R] in
theorem kept_sublist (hlen : counts.length = x.blocks.length) :
    ((kept x counts).map (·.1)).Sublist x.blocks := by
  have := (List.filter_sublist (l := x.blocks.zip counts) (p := fun t => t.2 != 0)).map (·.1)
  rwa [tri_map_fst hlen] at this

theorem truncU_valid (hv : x.validB = true) (h2 : x.ndim = 2) (hi : x.indices = [i0, i1])
    (hL : FacShape L Rt) (hlen : counts.length = x.blocks.length) :
    (truncU x L counts).validB = true := by
  obtain ⟨_, hlk, _⟩ := newCm_props (counts := counts) hv h2 hlen
  apply leftLike_valid hv hi (kept x counts) (·.1)
    (fun t => (L t.1.2).sliceK [0, 0] [(L t.1.2).shape.getD 0 0, t.2]) (·.2)
    (Index.sortCm (Index.sortCm (keptCm x counts))) (kept_sublist hlen)
    (newBond_wf hv h2 hi hlen _) _ (truncU x L counts)
    (by simp [truncU, bondIx_eq hi, hi, withCm_mk]) rfl rfl rfl rfl rfl rfl
  intro t ht r c m n B
  have hsh := hL t.1.2 m n B.hshape B.hwf
  refine ⟨by rw [sliceK_shape, hsh.1]; rfl, sliceK_wf _ _ _, ?_⟩
  have := keptCm_lookup hv h2 hlen ht
  rw [B.col] at this
  simpa [hlk c] using this

theorem truncV_valid (hv : x.validB = true) (h2 : x.ndim = 2) (hi : x.indices = [i0, i1])
    (hL : FacShape L Rt) (hlen : counts.length = x.blocks.length) :
    (truncV x L Rt counts).validB = true := by
  obtain ⟨_, hlk, _⟩ := newCm_props (counts := counts) hv h2 hlen
  obtain ⟨f1, f2, f3, f4, f5, f6⟩ := rightF_fields (x := x) (L := L) (Rt := Rt)
  have hI : (truncV x L Rt counts).indices
      = [Index.mk (Index.sortCm (Index.sortCm (keptCm x counts))) (!i1.dual) none, i1] := by
    simp [truncV, bondIx_eq hi, hi, withCm_mk, Index.conj]
  have hcol : ((kept x counts).map (fun t => colOf t.1.1)).Nodup := by
    simpa [keptCm, List.map_map, Function.comp_def] using
      keptCm_keys_nodup (counts := counts) hv h2 hlen
  apply rightLike_valid hv hi (kept x counts) (·.1)
    (fun t => (Rt t.1.2).sliceK [0, 0] [t.2, (Rt t.1.2).shape.getD 1 0]) (·.2)
    (Index.sortCm (Index.sortCm (keptCm x counts))) (fun t ht => (kept_mem hlen ht).1) hcol
    (newBond_wf hv h2 hi hlen _) _ (truncV x L Rt counts) hI rfl f1 f4
  · -- pending signs and labels are those of the untruncated right factor
    have hduals : (truncV x L Rt counts).duals = (rightF x L Rt).duals := by
      simp [Arr.duals, hI, f3, bondIx_eq hi, hi, Index.conj]
    rw [fermiOk_congr (a := truncV x L Rt counts) (a' := rightF x L Rt) rfl hduals rfl rfl rfl rfl]
    exact ((validB_iff _).mp (rightF_valid (Rt := Rt) hv h2 hi hL)).2.2.2.2
  · intro t ht r c m n B
    have hsh := hL t.1.2 m n B.hshape B.hwf
    refine ⟨by rw [sliceK_shape, hsh.2.2.1]; rfl, sliceK_wf _ _ _, ?_⟩
    have := keptCm_lookup hv h2 hlen ht
    rw [B.col] at this
    simpa [hlk c] using this

end TruncValid

end LinalgLemmas
end SymmModel
