/-
  SymmModel.Proofs.ValidFuseF — `AbelianArray.fuse` with empty groups, `FermionicArray.unfuse`
  and `FermionicArray.fuse` (insert mode) return valid arrays (property C01).
  Builds on ValidFuse.lean / ValidFuse2.lean (`unfuseA_core`, `fuseCore_insert_core`).  The two
  wrappers `fuseA_valid_of`, `fuseF_valid_of` take the statement about `_fuse_core` in a given mode
  as a hypothesis; ValidMore2Concat.lean applies them to the concat mode.
-/
import SymmModel.Proofs.ValidFuse2
import SymmModel.Proofs.ValidTdotF

namespace SymmModel
namespace ValidP
open Sym

variable {R : Type}

theorem valid_of_core_synced {a r : Arr R} (hv : Valid a) (hph : a.phases = []) (hcore : Core r)
    (hfields : r.sym = a.sym ∧ r.fermi = a.fermi ∧ r.charge = a.charge ∧ r.phases = a.phases
      ∧ r.oddpos = a.oddpos) : Valid r := by
  obtain ⟨e1, e2, e3, e4, e5⟩ := hfields
  refine Valid.of hcore ?_
  have hs := hv.sgn
  rw [e1, e2, e3, e4, e5, hph]
  cases hf : a.fermi
  · rw [hf] at hs
    exact signsOk_abelian.mpr ⟨rfl, (signsOk_abelian.mp hs).2⟩
  · exact signsOk_fermi.mpr ⟨phasesOk_nil, (hv.signs hf).2⟩

theorem phaseSync_fields [Neg R] (a : Arr R) :
    a.phaseSync.phases = [] ∧ a.phaseSync.fermi = a.fermi ∧ a.phaseSync.indices = a.indices
    ∧ a.phaseSync.sym = a.sym ∧ a.phaseSync.charge = a.charge ∧ a.phaseSync.oddpos = a.oddpos :=
  ⟨rfl, rfl, rfl, rfl, rfl, rfl⟩

theorem filter_nonempty_flatten (groups : List (List Nat)) :
    (groups.filter (fun g => !g.isEmpty)).flatten = groups.flatten := by
  induction groups with
  | nil => rfl
  | cons g gs ih =>
    cases g with
    | nil => simpa using ih
    | cons x xs => simp [ih]

theorem expand_fold_valid (a : Arr R) (expand : List Nat) (g0 : Nat) (hv : Valid a) :
    Valid (expand.foldl (fun x ax => x.expandDims (g0 + ax) none none) a) :=
  foldl_inv (fun x : Arr R => Valid x) _ expand a hv
    (fun x ax _ hx => expandDims_none_valid x (g0 + ax) none hx)

open FuseP (fuseTail) in
theorem fuseTail_valid (groups : List (List Nat)) (expandEmpty : Bool) (newGroups : List (List Nat))
    (xf r : Arr R) (hv : Valid xf) (h : fuseTail groups expandEmpty newGroups xf = .ok r) :
    Valid r := by
  unfold fuseTail at h
  dsimp only at h
  split at h
  · split at h
    · cases h
    · simp only [pure, Except.pure, Except.ok.injEq] at h
      subst h
      exact expand_fold_valid xf _ _ hv
  · simp only [pure, Except.pure, Except.ok.injEq] at h
    subst h; exact hv

/-- `AbelianArray.fuse(*axes_groups, expand_empty, mode)` on an abelian array, empty groups
    included, returns a valid array as soon as `_fuse_core` in that mode does -/
theorem fuseA_valid_of [Zero R] (mode : FuseMode)
    (hcore : ∀ (x r : Arr R) (gs : List (List Nat)), Valid x → x.fermi = false →
      fuseAdmissibleB gs x.ndim = true → fuseCore x gs mode = .ok r → Valid r)
    (a r : Arr R) (groups : List (List Nat)) (expandEmpty : Bool)
    (hv : Valid a) (hf : a.fermi = false) (hadm : fuseAdmissibleB groups a.ndim = true)
    (h : fuseA a groups mode expandEmpty = .ok r) : Valid r := by
  have hadm' : fuseAdmissibleB (groups.filter (fun g => !g.isEmpty)) a.ndim = true := by
    rw [fuseAdmissibleB_congr (filter_nonempty_flatten groups)]; exact hadm
  rw [FuseP.fuseA_eq_tail] at h
  obtain ⟨xf, hxf, h⟩ := bind_ok h
  refine fuseTail_valid _ _ _ xf r ?_ h
  split at hxf
  · cases hxf; exact hv
  · exact hcore a xf _ hv hf hadm' hxf

/-- `AbelianArray.fuse(*axes_groups, expand_empty, mode="insert")` on an abelian array -/
theorem fuseA_valid [Zero R] (a r : Arr R) (groups : List (List Nat)) (expandEmpty : Bool)
    (hv : Valid a) (hf : a.fermi = false) (hadm : fuseAdmissibleB groups a.ndim = true)
    (h : fuseA a groups .insert expandEmpty = .ok r) : Valid r :=
  fuseA_valid_of .insert (fun x r gs => fuseCore_insert_valid x r gs) a r groups expandEmpty
    hv hf hadm h

/-- what a successful `FermionicArray.unfuse` did: `unfuse` of the sign-synchronised array,
    followed or not by a phase flip and a phase transposition (the model applies them for a dual
    index; the statement does not record when) -/
theorem unfuseF_ok [Zero R] [Neg R] {a r : Arr R} {axis : Nat} (h : Arr.unfuseF a axis = .ok r) :
    ∃ new, unfuseA a.phaseSync axis = .ok new
      ∧ (r = new ∨ ∃ axesFlip vperm, r = (new.phaseFlip axesFlip).phaseTranspose (some vperm)) := by
  unfold Arr.unfuseF at h
  dsimp only at h
  split at h
  case h_2 => cases h
  simp only [pure_bind] at h
  obtain ⟨new, hnew, h⟩ := bind_ok h
  refine ⟨new, hnew, ?_⟩
  split at h
  · split at h
    case h_2 => cases h
    simp only [pure, Except.pure, Except.ok.injEq] at h
    exact Or.inr ⟨_, _, h.symm⟩
  · simp only [pure, Except.pure, Except.ok.injEq] at h
    exact Or.inl h.symm

theorem unfuseF_valid' [Zero R] [Neg R] (a r : Arr R) (axis : Nat) (hv : Valid a)
    (hf : a.fermi = true) (h : Arr.unfuseF a axis = .ok r) : Valid r ∧ r.fermi = true := by
  obtain ⟨new, hnew, hr⟩ := unfuseF_ok h
  have hsync := phaseSync_valid a hv
  have hnewv : Valid new :=
    valid_of_core_synced hsync rfl (unfuseA_core _ new axis hsync.core hnew) (unfuseA_fields hnew)
  have hnewf : new.fermi = true := by rw [(unfuseA_fields hnew).2.1]; exact hf
  rcases hr with rfl | ⟨axesFlip, vperm, rfl⟩
  · exact ⟨hnewv, hnewf⟩
  · have h1 := phaseFlip_valid new axesFlip hnewv hnewf
    have f1 : (new.phaseFlip axesFlip).fermi = true := by
      rw [(phaseFlip_fields new _).2.2.2.2]; exact hnewf
    exact ⟨phaseTranspose_valid _ _ h1 f1, f1⟩

theorem unfuseF_valid [Zero R] [Neg R] (a r : Arr R) (axis : Nat) (hv : Valid a)
    (hf : a.fermi = true) (h : Arr.unfuseF a axis = .ok r) : Valid r :=
  (unfuseF_valid' a r axis hv hf h).1

theorem unfuseAllF_valid [Zero R] [Neg R] (a r : Arr R) (hv : Valid a) (hf : a.fermi = true)
    (h : Arr.unfuseAllF a = .ok r) : Valid r := by
  unfold Arr.unfuseAllF unfuseAllWith at h
  refine (foldlM_ok_inv (fun x : Arr R => Valid x ∧ x.fermi = true) _ _ a r ⟨hv, hf⟩ ?_ h).1
  intro x ax x' _ hx hstep
  split at hstep
  · split at hstep
    · exact unfuseF_valid' x x' ax hx.1 hx.2 hstep
    · cases hstep; exact hx
  · cases hstep; exact hx

theorem indexOf?_some {l : List Nat} {a k : Nat} (h : indexOf? l a = some k) :
    k < l.length ∧ l[k]? = some a :=
  ⟨(List.getElem?_eq_some_iff.mp (indexOf?_eq_some h)).1, indexOf?_eq_some h⟩

theorem positions_nodup {perm : List Nat} :
    ∀ {L L' : List Nat}, List.Forall₂ (fun ax k => indexOf? perm ax = some k) L L' → L.Nodup →
      L'.Nodup ∧ ∀ k ∈ L', k < perm.length
  | _, _, .nil, _ => ⟨List.nodup_nil, by simp⟩
  | _, _, .cons (a := ax) (b := k) (l₁ := L) (l₂ := L') hk hrest, hn => by
    obtain ⟨hax, hn'⟩ := List.nodup_cons.mp hn
    obtain ⟨ih1, ih2⟩ := positions_nodup hrest hn'
    refine ⟨List.nodup_cons.mpr ⟨?_, ih1⟩, ?_⟩
    · intro hk'
      -- some other axis has the same position
      have : ∀ {M M' : List Nat}, List.Forall₂ (fun ax k => indexOf? perm ax = some k) M M' →
          k ∈ M' → ax ∈ M := by
        intro M M' hf
        induction hf with
        | nil => simp
        | cons h1 _ ih =>
          intro hm
          rcases List.mem_cons.mp hm with rfl | hm
          · have e1 := (indexOf?_some hk).2
            have e2 := (indexOf?_some h1).2
            rw [e1] at e2
            simp only [Option.some.injEq] at e2
            subst e2; simp
          · exact List.mem_cons_of_mem _ (ih hm)
      exact hax (this hrest hk')
    · intro k' hk'
      rcases List.mem_cons.mp hk' with rfl | hk'
      · exact (indexOf?_some hk).1
      · exact ih2 k' hk'

theorem forall₂_flatten {α β : Type} {Q : α → β → Prop} :
    ∀ {l : List (List α)} {r : List (List β)}, List.Forall₂ (List.Forall₂ Q) l r →
      List.Forall₂ Q l.flatten r.flatten
  | _, _, .nil => by simp
  | _, _, .cons h hrest => by
    simp only [List.flatten_cons]
    exact List.rel_append h (forall₂_flatten hrest)

theorem transposeF_fields [Zero R] (a : Arr R) (axes : List Nat) (phase : Bool) :
    (a.transposeF axes phase).fermi = a.fermi
    ∧ (a.transposeF axes phase).indices = permuted a.indices axes := ⟨rfl, rfl⟩

theorem phaseTranspose_fields (a : Arr R) (axes : Option (List Nat)) :
    (a.phaseTranspose axes).fermi = a.fermi ∧ (a.phaseTranspose axes).indices = a.indices :=
  ⟨rfl, rfl⟩

/-- `FermionicArray.fuse(*axes_groups, expand_empty, mode)` returns a valid array as soon as
    `_fuse_core` in that mode preserves `Core` -/
theorem fuseF_valid_of [Zero R] [Neg R] (mode : FuseMode)
    (hcore : ∀ (x r : Arr R) (gs : List (List Nat)), Core x → fuseAdmissibleB gs x.ndim = true →
      fuseCore x gs mode = .ok r → Core r)
    (a r : Arr R) (groups : List (List Nat)) (expandEmpty : Bool)
    (hv : Valid a) (hf : a.fermi = true) (hadm : fuseAdmissibleB groups a.ndim = true)
    (h : Arr.fuseF a groups mode expandEmpty = .ok r) : Valid r := by
  have hadm' : fuseAdmissibleB (groups.filter (fun g => !g.isEmpty)) a.duals.length = true := by
    have : a.duals.length = a.ndim := by simp [Arr.duals, Arr.ndim]
    rw [fuseAdmissibleB_congr (filter_nonempty_flatten groups), this]; exact hadm
  unfold Arr.fuseF at h
  dsimp only at h
  split at h
  · rw [pure_bind] at h
    have h' : FuseP.fuseTail groups expandEmpty (groups.filter (fun g => !g.isEmpty)) a = .ok r := h
    exact fuseTail_valid _ _ _ a r hv h'
  · obtain ⟨ng, hng, h⟩ := bind_ok h
    obtain ⟨x5, hx5, h⟩ := bind_ok h
    rw [pure_bind] at h
    have h' : FuseP.fuseTail groups expandEmpty ng x5 = .ok r := h
    refine fuseTail_valid _ _ _ x5 r ?_ h'
    have goal : Valid x5 := by
      -- the transposed, sign-synchronised operand of `_fuse_core`
      set nonEmpty := groups.filter (fun g => !g.isEmpty) with hne
      have hperm := perm_of_admissible hadm'
      have hisp : Arr.isPerm (calcFuseGroupInfo nonEmpty a.duals).perm a.ndim = true := by
        have : a.duals.length = a.ndim := by simp [Arr.duals, Arr.ndim]
        rw [← this]; exact isPerm_of_perm hperm
      have v1 := transposeF_valid a _ true hv hf hisp
      set x1 := a.transposeF (calcFuseGroupInfo nonEmpty a.duals).perm true with hx1
      have f1 : x1.fermi = true := hf
      have n1 : x1.ndim = a.ndim := by
        show (permuted a.indices _).length = a.ndim
        rw [permuted_length _ _ (fun i hi => isPerm_lt hisp i hi)]
        have := hperm.length_eq
        simpa [Arr.duals, Arr.ndim] using this
      have hadmNew : fuseAdmissibleB ng a.ndim = true := by
        have hF := forall₂_flatten ((mapM_ok_forall₂ _ _ _ hng).imp
          (fun g g' hg => mapM_ok_forall₂ _ _ _ hg))
        have hF' : List.Forall₂ (fun ax k =>
            indexOf? (calcFuseGroupInfo nonEmpty a.duals).perm ax = some k)
            nonEmpty.flatten ng.flatten := by
          refine hF.imp ?_
          intro ax k hk
          split at hk
          · rename_i k' hk'
            simp only [pure, Except.pure, Except.ok.injEq] at hk
            subst hk; exact hk'
          · cases hk
        unfold fuseAdmissibleB at hadm' ⊢
        simp only [Bool.and_eq_true, allDistinct_iff_nodup, List.all_eq_true,
          decide_eq_true_eq] at hadm' ⊢
        obtain ⟨q1, q2⟩ := positions_nodup hF' hadm'.1
        refine ⟨q1, fun k hk => ?_⟩
        have := q2 k hk
        have hl := hperm.length_eq
        rw [List.length_range] at hl
        rw [hl] at this
        simpa [Arr.duals, Arr.ndim] using this
      generalize hflip : List.flatMap _ _ = axesFlip at hx5
      have v2 := phaseFlip_valid x1 axesFlip v1 f1
      have f2 : (x1.phaseFlip axesFlip).fermi = true := by
        rw [(phaseFlip_fields x1 axesFlip).2.2.2.2]; exact f1
      have i2 : (x1.phaseFlip axesFlip).indices = x1.indices :=
        (phaseFlip_fields x1 axesFlip).1
      have key : ∀ (c : Bool) (p : Option (List Nat)),
          Valid (if c = true then x1.phaseFlip axesFlip
                 else (x1.phaseFlip axesFlip).phaseTranspose p)
          ∧ (if c = true then x1.phaseFlip axesFlip
             else (x1.phaseFlip axesFlip).phaseTranspose p).indices = x1.indices := by
        intro c p
        cases c
        · simp only [Bool.false_eq_true, if_false]
          exact ⟨phaseTranspose_valid _ _ v2 f2, i2⟩
        · simp only [if_true]
          exact ⟨v2, i2⟩
      refine valid_of_core_synced (phaseSync_valid _ (key _ _).1) rfl
        (hcore _ x5 ng (phaseSync_valid _ (key _ _).1).core ?_ hx5)
        (fuseCore_fields hx5)
      have : ∀ y : Arr R, y.indices = x1.indices → y.phaseSync.ndim = a.ndim := by
        intro y hy
        show y.indices.length = a.ndim
        rw [hy]; exact n1
      rw [this _ (key _ _).2]
      exact hadmNew
    exact goal

/-- `FermionicArray.fuse(*axes_groups, expand_empty, mode="insert")` -/
theorem fuseF_valid [Zero R] [Neg R] (a r : Arr R) (groups : List (List Nat)) (expandEmpty : Bool)
    (hv : Valid a) (hf : a.fermi = true) (hadm : fuseAdmissibleB groups a.ndim = true)
    (h : Arr.fuseF a groups .insert expandEmpty = .ok r) : Valid r :=
  fuseF_valid_of .insert (fun x r gs hx hg hr => fuseCore_insert_core x r gs hx hg hr)
    a r groups expandEmpty hv hf hadm h

end ValidP
end SymmModel
