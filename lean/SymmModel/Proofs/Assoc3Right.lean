/-
  SymmModel.Proofs.Assoc3Right — S7 of property C04 with the WEAK guard (`contractibleCommonB`) on ALL
  calls: the expansion of route `A·(B·C)` into the canonical three-operand form.
-/
import SymmModel.Proofs.Assoc3Left

namespace SymmModel
namespace Assoc3P
open TdotP GradedP RoutesP KoszulP AssocP Assoc2P
open Lazy (sgnI)

variable {R : Type}

section signR
variable [AddMonoid R] [Mul R] [Neg R] [SignRing R]
variable {A B C BC : Arr R} {xa1 xa3 xb1 xb2 xc2 xc3 : List Nat} {ph : Int}

theorem sign_right (I : Inter B C xb2 xc2 BC ph) (T : TriW A B C xa1 xa3 xb1 xb2 xc2 xc3)
    (sa sb sc : Sector) (hsa : sa.length = A.ndim) (hsb : sb.length = B.ndim)
    (hsc : sc.length = C.ndim) (hal3 : permuted sc xc3 = permuted sa xa3) :
    gradedSign A BC (xa1 ++ xa3) (axesBC B.ndim C.ndim xb1 xb2 xc2 xc3) sa (permuted sb (freeAxes B.ndim xb2) ++ permuted sc (freeAxes C.ndim xc2)) * gradedSign B C xb2 xc2 sb sc
      = S3 A B C xa1 xa3 xb1 xb2 xc2 xc3 (sa, sb, sc) := by
  have hsym := T.hBC.sym
  have hparB : (B.parities sb).length = B.ndim := by unfold Arr.parities; rw [List.length_map, hsb]
  have hparC : (C.parities sc).length = C.ndim := by unfold Arr.parities; rw [List.length_map, hsc]
  have hpB : (permuted (B.parities sb) (freeAxes B.ndim xb2)).length = (freeAxes B.ndim xb2).length :=
    permuted_length _ _ (by rw [hparB]; exact T.mB.symm.flt)
  have hpC : (permuted (C.parities sc) (freeAxes C.ndim xc2)).length = (freeAxes C.ndim xc2).length :=
    permuted_length _ _ (by rw [hparC]; exact T.mC.flt)
  have k1 : koszul (BC.parities (permuted sb (freeAxes B.ndim xb2) ++ permuted sc (freeAxes C.ndim xc2))) (some ((axesBC B.ndim C.ndim xb1 xb2 xc2 xc3) ++ freeAxes BC.ndim (axesBC B.ndim C.ndim xb1 xb2 xc2 xc3)))
      = koszul (permuted (B.parities sb) (freeAxes B.ndim xb2)) (some ((positions (freeAxes B.ndim xb2) xb1) ++ (freeAxes (freeAxes B.ndim xb2).length (positions (freeAxes B.ndim xb2) xb1))))
        * koszul (permuted (C.parities sc) (freeAxes C.ndim xc2)) (some ((positions (freeAxes C.ndim xc2) xc3) ++ (freeAxes (freeAxes C.ndim xc2).length (positions (freeAxes C.ndim xc2) xc3))))
        * sgn (oddCount (B.parities sb) (freeAxes B.ndim (xb1 ++ xb2)) * oddCount (C.parities sc) xc3) := by
    rw [AssocP.parities_AB I hsym, I.ndim]
    unfold Assoc2P.axesBC
    rw [freeAxes_two _ _ _ _ T.mB.symm.pos_lt]
    have := koszul_two_cross (permuted (B.parities sb) (freeAxes B.ndim xb2)) (permuted (C.parities sc) (freeAxes C.ndim xc2))
      (positions (freeAxes B.ndim xb2) xb1) (freeAxes (freeAxes B.ndim xb2).length (positions (freeAxes B.ndim xb2) xb1)) (positions (freeAxes C.ndim xc2) xc3) (freeAxes (freeAxes C.ndim xc2).length (positions (freeAxes C.ndim xc2) xc3)) (hpB.symm ▸ perm_right T.mB.symm.pos_nodup T.mB.symm.pos_lt)
      (hpC.symm ▸ perm_right T.mC.pos_nodup T.mC.pos_lt)
    rw [hpB] at this
    rw [this, oddCount_permuted _ _ _ (by rw [hparB]; exact T.mB.symm.flt)
        mem_freeAxes_lt, T.mB.symm.free_spec, freeM_comm,
      oddCount_permuted _ _ _ (by rw [hparC]; exact T.mC.flt) T.mC.pos_lt, T.mC.pos_spec]
  have kB := T.mB.koszul_right (B.parities sb) hparB
  have kC := koszul_RR T.mC (C.parities sc) hparC
  have d3 : oddCount (C.parities sc) xc3 = oddCount (A.parities sa) xa3 := by
    rw [oddCount_par C sc xc3 (by rw [hsc]; exact T.mC.lt2),
      oddCount_par A sa xa3 (by rw [hsa]; exact T.mA.lt2)]
    unfold oddContracted; rw [hal3, ← T.hBC.sym, ← T.hAB.sym]
  rw [gradedSign_sgn, gradedSign_sgn, k1, oddContracted_append, ketOdd_append, d3]
  unfold Assoc2P.S3
  simp only []
  rw [← List.append_assoc]
  generalize oddContracted A xa1 sa = K1 at *
  generalize oddContracted A xa3 sa = K3 at *
  generalize oddContracted B xb2 sb = K2 at *
  generalize oddCount (B.parities sb) (freeAxes B.ndim (xb1 ++ xb2)) = m at *
  generalize oddCount (A.parities sa) xa3 = m3 at *
  generalize ketOdd A xa1 sa = e1 at *
  generalize ketOdd A xa3 sa = e3 at *
  generalize ketOdd B xb2 sb = e2 at *
  generalize koszul (B.parities sb) (some ((freeAxes B.ndim xb2) ++ xb2)) = b1 at *
  generalize koszul (permuted (B.parities sb) (freeAxes B.ndim xb2)) (some ((positions (freeAxes B.ndim xb2) xb1) ++ (freeAxes (freeAxes B.ndim xb2).length (positions (freeAxes B.ndim xb2) xb1)))) = b2 at *
  generalize koszul (C.parities sc) (some (xc2 ++ (freeAxes C.ndim xc2))) = c1 at *
  generalize koszul (permuted (C.parities sc) (freeAxes C.ndim xc2)) (some ((positions (freeAxes C.ndim xc2) xc3) ++ (freeAxes (freeAxes C.ndim xc2).length (positions (freeAxes C.ndim xc2) xc3)))) = c2 at *
  generalize koszul (A.parities sa) (some ((freeAxes A.ndim (xa1 ++ xa3)) ++ xa1 ++ xa3)) = A' at *
  generalize koszul (B.parities sb) (some (xb1 ++ (freeAxes B.ndim (xb1 ++ xb2)) ++ xb2)) = B' at *
  generalize koszul (C.parities sc) (some (xc2 ++ xc3 ++ (freeAxes C.ndim (xc2 ++ xc3)))) = C' at *
  rw [Nat.mul_comm m m3, ← kB, ← kC, sgn_add (e1 + e3) e2, sgn_add e1 e3]
  ring

end signR

section valueR
variable [AddCommMonoid R] [Mul R] [Neg R] [SignRing R] [AssocLaws R]
variable {A B C BC : Arr R} {xa1 xa3 xb1 xb2 xc2 xc3 : List Nat} {ph : Int}

/-- the graded contraction of `A` with `B·C` is the label sign of the first call times the same
    canonical signed sum as on route `(A·B)·C` -/
theorem route_right (I : Inter B C xb2 xc2 BC ph) (T : TriW A B C xa1 xa3 xb1 xb2 xc2 xc3)
    {LA LM LC : Sector} {oA oM oC : List Nat}
    (fa : FreeAddr A B C xa1 xa3 xb1 xb2 xc2 xc3 LA LM LC oA oM oC) :
    gradedContract A BC (xa1 ++ xa3) (axesBC B.ndim C.ndim xb1 xb2 xc2 xc3) (LA ++ LM ++ LC) oA (oM ++ oC)
      = sgnI ph (((triplesR A B C BC xa1 xa3 xb1 xb2 xc2 xc3 (LA ++ LM ++ LC)).map
          (fun t => sgnI (S3 A B C xa1 xa3 xb1 xb2 xc2 xc3 t)
            (W3 A B C xa1 xa3 xb1 xb2 xc2 xc3 oA oM oC t))).sum) := by
  have hsa := Arr.shapesOk_of_validB T.hAB.va
  have hsb := Arr.shapesOk_of_validB T.hAB.vb
  have hsc := Arr.shapesOk_of_validB T.hBC.vb
  have hlenAC : xa3.length = xc3.length := commonB_len T.conAC
  let g : Sector × Sector → Sector × Sector → R := fun p q =>
    sgnI (gradedSign A BC (xa1 ++ xa3) (axesBC B.ndim C.ndim xb1 xb2 xc2 xc3) p.1 p.2 * gradedSign B C xb2 xc2 q.1 q.2)
      (((allIdx (permuted (Arr.blockShapeD A.indices p.1) (xa1 ++ xa3))).map
        (fun k13 => ((allIdx (permuted (Arr.blockShapeD B.indices q.1) xb2)).map (fun k2 =>
          A.elem p.1 (mergeIdx 0 A.ndim (xa1 ++ xa3) (freeAxes A.ndim (xa1 ++ xa3)) k13 oA)
            * (B.elem q.1 (mergeIdx 0 B.ndim xb2 (freeAxes B.ndim xb2) k2 ((mergeIdx 0 BC.ndim (axesBC B.ndim C.ndim xb1 xb2 xc2 xc3) (freeAxes BC.ndim (axesBC B.ndim C.ndim xb1 xb2 xc2 xc3)) k13 (oM ++ oC)).take (freeAxes B.ndim xb2).length))
              * C.elem q.2 (mergeIdx 0 C.ndim xc2 (freeAxes C.ndim xc2) k2 ((mergeIdx 0 BC.ndim (axesBC B.ndim C.ndim xb1 xb2 xc2 xc3) (freeAxes BC.ndim (axesBC B.ndim C.ndim xb1 xb2 xc2 xc3)) k13 (oM ++ oC)).drop (freeAxes B.ndim xb2).length))))).sum)).sum)
  have hlA : ∀ sa ∈ A.sectors, LA.length = (permuted sa (freeAxes A.ndim (xa1 ++ xa3))).length := by
    intro sa hA
    rw [fa.lA, permuted_length _ _ (by
      intro x hx; rw [Arr.sector_length hsa hA]; exact (mem_freeAxes.mp hx).1)]
  have halign : ∀ {sa sb sc : Sector}, sa ∈ A.sectors → sb ∈ B.sectors → sc ∈ C.sectors →
      permuted (permuted sb (freeAxes B.ndim xb2) ++ permuted sc (freeAxes C.ndim xc2)) (axesBC B.ndim C.ndim xb1 xb2 xc2 xc3) = permuted sa (xa1 ++ xa3) →
      permuted sb xb1 = permuted sa xa1 ∧ permuted sc xc3 = permuted sa xa3 := by
    intro sa sb sc hA hB hC hal
    rw [readBC_ax T.mB T.mC sb sc (Arr.sector_length hsb hB) (Arr.sector_length hsc hC),
      permuted_append] at hal
    exact List.append_inj hal (by
      rw [permuted_length _ _ (by rw [Arr.sector_length hsb hB]; exact T.mB.lt1),
        permuted_length _ _ (by rw [Arr.sector_length hsa hA]; exact T.mA.lt1), T.hAB.len])
  have hshape : ∀ {sa sb sc : Sector}, sa ∈ A.sectors → sb ∈ B.sectors → sc ∈ C.sectors →
      permuted sc xc2 = permuted sb xb2 →
      permuted sb xb1 = permuted sa xa1 → permuted sc xc3 = permuted sa xa3 →
      permuted (Arr.blockShapeD BC.indices (permuted sb (freeAxes B.ndim xb2) ++ permuted sc (freeAxes C.ndim xc2))) (axesBC B.ndim C.ndim xb1 xb2 xc2 xc3)
        = permuted (Arr.blockShapeD A.indices sa) (xa1 ++ xa3) := by
    intro sa sb sc hA hB hC hal2 hal1 hal3
    rw [axesBC_eq, (pair_shape I T.hBC.va T.hBC.vb T.mB.symm T.mC hB hC hal2).1, permuted_append,
      shapes_match_w hsa hsb T.hAB.con T.hAB.ltA T.hAB.ltB sa hA sb hB hal1,
      shapes_match_w hsa hsc T.conAC T.mA.lt2 T.mC.lt2 sa hA sc hC hal3]
  unfold gradedContract Assoc2P.triplesR
  -- the nested sum over stored pairs is one sum over the triples (`sum_flat`, arguments in full)
  refine Eq.trans ?_ (sum_flat
    (storedPairs A BC (freeAxes A.ndim (xa1 ++ xa3)) (xa1 ++ xa3) (axesBC B.ndim C.ndim xb1 xb2 xc2 xc3)
      (freeAxes BC.ndim (axesBC B.ndim C.ndim xb1 xb2 xc2 xc3)) (LA ++ LM ++ LC))
    (fun p => storedPairs B C (freeAxes B.ndim xb2) xb2 xc2 (freeAxes C.ndim xc2) p.2)
    (fun p q => (p.1, q.1, q.2)) ph g
    (fun t => sgnI (S3 A B C xa1 xa3 xb1 xb2 xc2 xc3 t) (W3 A B C xa1 xa3 xb1 xb2 xc2 xc3 oA oM oC t)) ?_)
  · congr 1
    apply List.map_congr_left
    rintro ⟨sa, sbc⟩ hp
    obtain ⟨hA, hsbcM, hal, hs⟩ := mem_storedPairs.mp hp
    obtain ⟨sb, hB, sc, hC, hal2, hsbc⟩ := I.mem_sectors.mp hsbcM
    simp only at hsbc hs hal ⊢
    subst hsbc
    obtain ⟨_, hLM, hLC⟩ := right_split I T.mB T.mC (hlA sa hA) fa.lM (Arr.sector_length hsb hB)
      (Arr.sector_length hsc hC) hs
    obtain ⟨hal1, hal3⟩ := halign hA hB hC hal
    have hbox := hshape hA hB hC hal2 hal1 hal3
    have hcp : contractPair A BC (xa1 ++ xa3) (axesBC B.ndim C.ndim xb1 xb2 xc2 xc3) oA (oM ++ oC) (sa, (permuted sb (freeAxes B.ndim xb2) ++ permuted sc (freeAxes C.ndim xc2)))
        = ((allIdx (permuted (Arr.blockShapeD A.indices sa) (xa1 ++ xa3))).map (fun k13 =>
            A.elem sa (mergeIdx 0 A.ndim (xa1 ++ xa3) (freeAxes A.ndim (xa1 ++ xa3)) k13 oA) *
            sgnI ph (((storedPairs B C (freeAxes B.ndim xb2) xb2 xc2 (freeAxes C.ndim xc2) (permuted sb (freeAxes B.ndim xb2) ++ permuted sc (freeAxes C.ndim xc2))).map (fun q =>
              sgnI (gradedSign B C xb2 xc2 q.1 q.2)
                (((allIdx (permuted (Arr.blockShapeD B.indices q.1) xb2)).map (fun k2 =>
                  B.elem q.1 (mergeIdx 0 B.ndim xb2 (freeAxes B.ndim xb2) k2 ((mergeIdx 0 BC.ndim (axesBC B.ndim C.ndim xb1 xb2 xc2 xc3) (freeAxes BC.ndim (axesBC B.ndim C.ndim xb1 xb2 xc2 xc3)) k13 (oM ++ oC)).take (freeAxes B.ndim xb2).length))
                    * C.elem q.2 (mergeIdx 0 C.ndim xc2 (freeAxes C.ndim xc2) k2
                        ((mergeIdx 0 BC.ndim (axesBC B.ndim C.ndim xb1 xb2 xc2 xc3) (freeAxes BC.ndim (axesBC B.ndim C.ndim xb1 xb2 xc2 xc3)) k13 (oM ++ oC)).drop (freeAxes B.ndim xb2).length)))).sum))).sum))).sum := by
      unfold contractPair
      congr 1
      apply List.map_congr_left
      intro k13 hk
      unfold contractTerm
      exact congrArg (A.elem sa _ * ·)
        (pair_value (xa1 := xb2) (xa3 := xb1) I T.hBC.va T.hBC.vb T.mB.symm T.mC
          (by rw [freeM_comm]; exact fa.loM) (by rw [freeM_comm]; exact fa.bM) fa.bC hB hC hal2
          (by rw [freeM_comm]; exact hLM) hLC k13 (by rw [← axesBC_eq, hbox]; exact mem_allIdx.mp hk))
    rw [hcp]
    -- the first call's sum goes inside the second call's: `expand` at `μ x c := c * x`; the lists, the
    -- signs and the two summands (the `_`) are read off the goal
    exact expand (fun x c => c * x) (fun h x c => sgnI_mul_r h c x) (fun l f c => mul_sum l f c)
      _ _ _ _ ph _ (gradedSign_pm _ _ _ _ _ _) I.pm
      (fun q => gradedSign_pm _ _ _ _ _ _) _ _
  · rintro ⟨sa, sbc⟩ hp ⟨sb, sc⟩ hq
    obtain ⟨hA, _, hal, hs⟩ := mem_storedPairs.mp hp
    obtain ⟨hB, hC, hal2, hsbc⟩ := mem_storedPairs.mp hq
    simp only at hsbc hs hal hA hB hC hal2 ⊢
    subst hsbc
    obtain ⟨hal1, hal3⟩ := halign hA hB hC hal
    have hlsa := Arr.sector_length hsa hA
    have hlsb := Arr.sector_length hsb hB
    have hlsc := Arr.sector_length hsc hC
    obtain ⟨shpA, hA1, hA2, hA3, hA4⟩ := shape_of_mem hsa hA
    obtain ⟨shpB, hB1, hB2, hB3, hB4⟩ := shape_of_mem hsb hB
    show sgnI _ _ = sgnI _ _
    rw [sign_right I T sa sb sc hlsa hlsb hlsc hal3]
    congr 1
    rw [permuted_append, allIdx_append, List.map_map, sum_pairs]
    simp only [Function.comp]
    unfold Assoc2P.W3
    apply sum_map_congr
    intro k1 hk1
    rw [sum_swap]
    apply sum_map_congr
    intro k2 hk2
    apply sum_map_congr
    intro k3 hk3
    have hk1l : k1.length = xa1.length := by
      rw [inBox_length (mem_allIdx.mp hk1), permuted_length _ _ (by rw [hA2, hA3]; exact T.mA.lt1)]
    have hk3l : k3.length = xa3.length := by
      rw [inBox_length (mem_allIdx.mp hk3), permuted_length _ _ (by rw [hA2, hA3]; exact T.mA.lt2)]
    have hk2l : k2.length = xb2.length := by
      rw [inBox_length (mem_allIdx.mp hk2), permuted_length _ _ (by rw [hB2, hB3]; exact T.mB.lt2)]
    have haddr : (mergeIdx 0 BC.ndim (axesBC B.ndim C.ndim xb1 xb2 xc2 xc3) (freeAxes BC.ndim (axesBC B.ndim C.ndim xb1 xb2 xc2 xc3)) (k1 ++ k3) (oM ++ oC))
        = mergeIdx 0 (freeAxes B.ndim xb2).length (positions (freeAxes B.ndim xb2) xb1) (freeAxes (freeAxes B.ndim xb2).length (positions (freeAxes B.ndim xb2) xb1)) k1 oM ++ mergeIdx 0 (freeAxes C.ndim xc2).length (positions (freeAxes C.ndim xc2) xc3) (freeAxes (freeAxes C.ndim xc2).length (positions (freeAxes C.ndim xc2) xc3)) k3 oC := by
      rw [I.ndim]
      unfold Assoc2P.axesBC
      exact mergeIdx_two 0 _ _ _ _ k1 k3 oM oC T.mB.symm.pos_nodup T.mB.symm.pos_lt T.mC.pos_nodup
        T.mC.pos_lt (by rw [hk1l, T.mB.symm.pos_len, T.hAB.len]) (by rw [hk3l, T.mC.pos_len, hlenAC])
        (by rw [fa.loM, T.mB.symm.free_len, freeM_comm]) (by rw [fa.loC, T.mC.free_len])
    rw [haddr, List.take_left' (mergeIdx_length _ _ _ _ _ _), List.drop_left' (mergeIdx_length _ _ _ _ _ _),
      T.mB.nest_right 0 k1 k2 oM (by rw [hk1l, T.hAB.len]) hk2l fa.loM,
      T.mC.nest_left 0 k2 k3 oC (by rw [hk2l, T.hBC.len]) (by rw [hk3l, hlenAC]) fa.loC]

end valueR

end Assoc3P
end SymmModel
