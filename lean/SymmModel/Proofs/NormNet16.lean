/-
  SymmModel.Proofs.NormNet16 — network form of the norm (property C10), part 16:
  rotations of a list (`rotL`, `rotAx`); the squared norm does not see a transposition
  (`normSq_transposeF`) nor an exchange by an equivalent array (`normSq_eqv`); hence
  `normSq (b·a) = normSq (a·b)` for commutative scalars, by S5 as an equivalence (`Assoc5P.swap_eqv`).
-/
import SymmModel.Proofs.NormNet15
import SymmModel.Proofs.Routes4
import SymmModel.Proofs.FermiAction2
import SymmModel.Proofs.Assoc5Swap
namespace SymmModel.NormNet
open SymmModel SymmModel.Lazy SymmModel.Norm SymmModel.TdotP SymmModel.GradedP SymmModel.RoutesP
open SymmModel.AssocP SymmModel.Assoc3P
set_option linter.unusedSectionVars false

section rot
variable {α : Type}

def rotL (m : Nat) (l : List α) : List α := l.drop m ++ l.take m

theorem rotL_append (u v : List α) : rotL u.length (u ++ v) = v ++ u := by
  unfold rotL; simp

/-- the rotation as an axes permutation -/
def rotAx (m k : Nat) : List Nat := (List.range k).map (m + ·) ++ List.range m

/-- one rotation: its facts are stated for `Assoc5P.rotB` -/
theorem rotAx_eq_rotB (m k : Nat) : rotAx m k = Assoc5P.rotB m k := rfl

theorem rotAx_perm (m k : Nat) : (rotAx m k).Perm (List.range (m + k)) :=
  perm_of_isPerm (Assoc5P.rotB_isPerm m k)

theorem permuted_rotAx (u v : List α) : permuted (u ++ v) (rotAx u.length v.length) = v ++ u :=
  Assoc5P.permuted_rotB u v

end rot

section sums
variable {R : Type} [AddCommMonoid R]

theorem sum_map_perm {α : Type} {l l' : List α} (h : l.Perm l') (f : α → R) :
    (l.map f).sum = (l'.map f).sum := (h.map f).sum_eq

end sums

section main
variable {R : Type} [AddCommMonoid R] [Mul R] [Neg R] [Conj R] [NetLaws R]

theorem conj_sq_sgnI {σ : Int} (hσ : σ = 1 ∨ σ = -1) (x : R) :
    Conj.conj (sgnI σ x) * sgnI σ x = Conj.conj x * x := by
  rw [conj_sgnI, sgnI_mul_sgnI hσ hσ]
  rcases hσ with rfl | rfl <;> simp

theorem normSq_transposeF {K : Arr R} {p : List Nat} (hK : K.validB = true) (hf : K.fermi = true)
    (hp : p.Perm (List.range K.ndim)) : normSq (K.transposeF p) = normSq K := by
  have hT : TrOk K p := ⟨SignOk.of_valid hK hf, SecLen.of_valid hK, isPerm_of_perm hp⟩
  have hsh := Arr.shapesOk_of_validB hK
  have hlt : ∀ x ∈ p, x < K.indices.length := perm_range_lt hp
  unfold normSq
  rw [transposeF_sectors hT, List.map_map]
  refine congrArg List.sum (List.map_congr_left fun s hs => ?_)
  obtain ⟨shp, h1, _⟩ := GradedP.shape_of_mem hsh hs
  have eB : Arr.blockShapeD K.indices s = shp := by unfold Arr.blockShapeD; rw [h1]; rfl
  have eB' : Arr.blockShapeD (K.transposeF p).indices (permuted s p) = permuted shp p := by
    unfold Arr.blockShapeD
    rw [(transposeF_frame K p).2.2.1, blockShape?_permuted h1 p hlt]; rfl
  have hlen : shp.length = K.ndim := by
    exact (blockShape?_length h1).2
  simp only [Function.comp]
  rw [eB', eB, sum_map_perm (allIdx_permuted_perm shp p (by rw [hlen]; exact hp)), List.map_map]
  refine congrArg List.sum (List.map_congr_left fun o ho => ?_)
  simp only [Function.comp]
  rw [GradedP.transposeF_elem_at hT hsh hs (by rw [eB]; exact mem_allIdx.mp ho)]
  exact conj_sq_sgnI (koszul_pm _ _) _

theorem normSq_eqv {X Y : Arr R} (h : Eqv X Y) (hX : X.sectors.Nodup) (hY : Y.sectors.Nodup) :
    normSq X = normSq Y := by
  unfold normSq
  rw [sum_map_perm ((List.perm_ext_iff_of_nodup hX hY).mpr h.sectors), ← h.indices]
  refine congrArg List.sum (List.map_congr_left fun s hs => ?_)
  refine congrArg List.sum (List.map_congr_left fun o ho => ?_)
  rw [h.symm.elem s o (fun _ => by rw [← h.indices]; exact mem_allIdx.mp ho)]

/-- **the squared norm does not depend on the operand order of the contraction** (commutative
    scalars, pairwise-distinct labels: the scope of S5) -/
theorem normSq_swap (hmul : ∀ x y : R, x * y = y * x) (a b K K' : Arr R) (xa xb : List Nat)
    (h : Adm a b xa xb) (hd : (a.oddpos ++ b.oddpos).Pairwise (fun x y => x.1 ≠ y.1))
    (eK : a.tensordotF b (.pair (xa.map Int.ofNat) (xb.map Int.ofNat)) .blockwise = .ok K)
    (eK' : b.tensordotF a (.pair (xb.map Int.ofNat) (xa.map Int.ofNat)) .blockwise = .ok K') :
    normSq K' = normSq K := by
  have W := AdmW.ofAdm h
  obtain ⟨c', e', hv', hvT, hE⟩ := Assoc5P.swap_eqv hmul W hd K eK
  obtain rfl : c' = K' := Except.ok.inj (e'.symm.trans eK')
  obtain ⟨_, _, C⟩ := Call.of_ok W eK
  obtain ⟨_, _, C'⟩ := Call.of_ok (Assoc4P.admW_swap W) e'
  have hfT : (c'.transposeF (rotAx (freeAxes b.ndim xb).length (freeAxes a.ndim xa).length)).fermi
      = true := by rw [(transposeF_frame _ _).2.1]; exact C'.fermi
  rw [← normSq_transposeF hv' C'.fermi (p := rotAx (freeAxes b.ndim xb).length
    (freeAxes a.ndim xa).length) (by rw [C'.toInter.ndim]; exact rotAx_perm _ _)]
  exact normSq_eqv hE (SignOk.of_valid hvT hfT).sectors (SignOk.of_valid C.valid C.fermi).sectors

end main

end SymmModel.NormNet
