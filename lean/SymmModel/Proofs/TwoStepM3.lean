/-
  SymmModel.Proofs.TwoStepM3 — renaming the letters of an einsum equation.
  * `einsumA_rename`   `einsumA a (lhs.map f) (rhs.map f) = einsumA a lhs rhs` for an INJECTIVE renaming `f`
                       (the abelian einsum only compares labels for equality);
  * `einsumF_rename`   the same for `einsumF` and a STRICTLY INCREASING renaming `f` (`einsumF` sorts the axes
                       by (output position, LABEL, bra first), so the transposition it performs depends on
                       the order of the traced labels).
  Namespace `SymmModel.TwoStepP`.
-/
import SymmModel.Proofs.TwoStepOrder
import SymmModel.Proofs.TwoStepGeom
import SymmModel.Proofs.TwoStepInter

namespace SymmModel
namespace TwoStepP
open TdotP
open Lazy (einOrder einOperand)
set_option linter.unusedSectionVars false

variable {R : Type}

section inj
variable {f : Nat → Nat} (hf : ∀ x y, f x = f y → x = y)
include hf

theorem beq_map_inj (x q : Nat) : (f x == f q) = (x == q) := by
  by_cases h : x = q
  · subst h; simp
  · have : f x ≠ f q := fun e => h (hf _ _ e)
    simp [h, this]

theorem indexOf?_map_inj (l : List Nat) (q : Nat) : indexOf? (l.map f) (f q) = indexOf? l q := by
  induction l with
  | nil => rfl
  | cons x xs ih =>
    simp only [List.map_cons, indexOf?]
    rw [beq_map_inj hf, ih]

theorem contains_map_inj (l : List Nat) (q : Nat) : (l.map f).contains (f q) = l.contains q := by
  induction l with
  | nil => rfl
  | cons x xs ih =>
    simp only [List.map_cons, List.contains_cons]
    rw [ih, beq_map_inj hf]

theorem eraseDups_map_inj : ∀ (n : Nat) (l : List Nat), l.length ≤ n →
    (l.map f).eraseDups = l.eraseDups.map f := by
  intro n
  induction n with
  | zero =>
    intro l hl
    have : l = [] := List.eq_nil_of_length_eq_zero (by omega)
    subst this; rfl
  | succ n ih =>
    intro l hl
    cases l with
    | nil => rfl
    | cons a as =>
      rw [List.map_cons, List.eraseDups_cons, List.eraseDups_cons, List.map_cons, List.filter_map]
      have e : ((fun b => !b == f a) ∘ f) = (fun b => !b == a) := by
        funext b; simp only [Function.comp]; rw [beq_map_inj hf]
      rw [e, ih _ (by
        have := List.length_filter_le (fun b => !b == a) as
        simp only [List.length_cons] at hl; omega)]

theorem einTraced_rename (lhs rhs : List Nat) :
    einTraced (lhs.map f) (rhs.map f) = (einTraced lhs rhs).map f := by
  unfold einTraced
  rw [List.filter_map]
  have e : ((fun q => !(rhs.map f).contains q) ∘ f) = (fun q => !rhs.contains q) := by
    funext q; simp only [Function.comp]; rw [contains_map_inj hf]
  rw [e, eraseDups_map_inj hf _ _ (Nat.le_refl _)]

theorem zipIdx_map (l : List Nat) (k : Nat) :
    (l.map f).zipIdx k = (l.zipIdx k).map (fun p => (f p.1, p.2)) := by
  induction l generalizing k with
  | nil => rfl
  | cons x xs ih => simp only [List.map_cons, List.zipIdx_cons, ih]

theorem einTracedPos_rename (lhs rhs : List Nat) :
    einTracedPos (lhs.map f) (rhs.map f) = einTracedPos lhs rhs := by
  unfold einTracedPos
  rw [einTraced_rename hf, List.map_map]
  apply List.map_congr_left
  intro q _
  simp only [Function.comp]
  rw [zipIdx_map hf, List.filter_map, List.map_map]
  have e : ((fun p : Nat × Nat => p.1 == f q) ∘ fun p : Nat × Nat => (f p.1, p.2))
      = (fun p : Nat × Nat => p.1 == q) := by
    funext p; simp only [Function.comp]; rw [beq_map_inj hf]
  rw [e]
  rfl

theorem einPerm?_rename (lhs rhs : List Nat) :
    einPerm? (lhs.map f) (rhs.map f) = einPerm? lhs rhs := by
  unfold einPerm?
  induction rhs with
  | nil => rfl
  | cons q qs ih =>
    simp only [List.map_cons, List.mapM_cons, indexOf?_map_inj hf]
    rw [ih]

theorem einSize_rename (shape lhs : List Nat) (q : Nat) :
    einSize shape (lhs.map f) (f q) = einSize shape lhs q := by
  unfold einSize
  rw [indexOf?_map_inj hf]

theorem einIdx_rename (lhs rhs i t : List Nat) :
    einIdx (lhs.map f) (rhs.map f) i t = einIdx lhs rhs i t := by
  unfold einIdx
  rw [List.map_map]
  apply List.map_congr_left
  intro q _
  simp only [Function.comp]
  rw [indexOf?_map_inj hf rhs q, einTraced_rename hf, indexOf?_map_inj hf _ q]

theorem einsumK_rename [Zero R] [Add R] (b : Blk R) (lhs rhs : List Nat) :
    b.einsumK (lhs.map f) (rhs.map f) = b.einsumK lhs rhs := by
  have s1 : (rhs.map f).map (einSize b.shape (lhs.map f)) = rhs.map (einSize b.shape lhs) := by
    rw [List.map_map]; apply List.map_congr_left; intro q _; exact einSize_rename hf _ _ _
  have s2 : (einTraced (lhs.map f) (rhs.map f)).map (einSize b.shape (lhs.map f))
      = (einTraced lhs rhs).map (einSize b.shape lhs) := by
    rw [einTraced_rename hf, List.map_map]; apply List.map_congr_left; intro q _
    exact einSize_rename hf _ _ _
  show Blk.ofFn ((rhs.map f).map (einSize b.shape (lhs.map f))) (fun i =>
      (allIdx ((einTraced (lhs.map f) (rhs.map f)).map (einSize b.shape (lhs.map f)))).foldl
        (fun acc t => acc + b.get (einIdx (lhs.map f) (rhs.map f) i t)) 0)
    = Blk.ofFn (rhs.map (einSize b.shape lhs)) (fun i =>
      (allIdx ((einTraced lhs rhs).map (einSize b.shape lhs))).foldl
        (fun acc t => acc + b.get (einIdx lhs rhs i t)) 0)
  rw [s1, s2]
  simp only [einIdx_rename hf]

end inj

/-- `einsumA` with the label-dependent parts as parameters -/
def einsumACore [Zero R] [Add R] (a : Arr R) (permE : Except Err (List Nat)) (traced : List (List Nat))
    (K : Blk R → Blk R) : Except Err (Arr R) := do
  let perm ← permE
  if traced.any (fun js => js.length != 2) then throw Err.value
  let newBlocks := a.blocks.foldl (fun (acc : List (Sector × Blk R)) (sb : Sector × Blk R) =>
    let (sector, array) := sb
    if traced.all (fun js => sector[js.getD 0 0]? == sector[js.getD 1 0]?) then
      let ns := permuted sector perm
      let na := K array
      match alookup acc ns with
      | some cur => ainsert acc ns (Blk.zipWith (· + ·) cur na)
      | none => acc ++ [(ns, na)]
    else acc) []
  pure { a with indices := permuted a.indices perm, blocks := newBlocks }

theorem einsumA_core [Zero R] [Add R] (a : Arr R) (lhs rhs : List Nat) :
    einsumA a lhs rhs
      = einsumACore a (einPerm? lhs rhs) (einTracedPos lhs rhs) (fun b => b.einsumK lhs rhs) := rfl

theorem einsumA_rename [Zero R] [Add R] {f : Nat → Nat} (hf : ∀ x y, f x = f y → x = y)
    (a : Arr R) (lhs rhs : List Nat) :
    einsumA a (lhs.map f) (rhs.map f) = einsumA a lhs rhs := by
  rw [einsumA_core, einsumA_core, einPerm?_rename hf, einTracedPos_rename hf]
  congr 1
  funext b
  exact einsumK_rename hf b lhs rhs

theorem insertSorted_congr {α : Type} (lt lt' : α → α → Bool) (a : α) (l : List α)
    (h : ∀ b ∈ l, lt b a = lt' b a) : insertSorted lt a l = insertSorted lt' a l := by
  induction l with
  | nil => rfl
  | cons b bs ih =>
    unfold insertSorted
    rw [h b (List.mem_cons_self ..), ih (fun c hc => h c (List.mem_cons_of_mem _ hc))]

theorem isort_congr {α : Type} (lt lt' : α → α → Bool) (l : List α)
    (h : ∀ x ∈ l, ∀ y ∈ l, lt x y = lt' x y) : isort lt l = isort lt' l := by
  induction l with
  | nil => rfl
  | cons a as ih =>
    unfold isort
    rw [ih (fun x hx y hy => h x (List.mem_cons_of_mem _ hx) y (List.mem_cons_of_mem _ hy))]
    apply insertSorted_congr
    intro b hb
    exact h b (List.mem_cons_of_mem _ (mem_isort.mp hb)) a (List.mem_cons_self ..)

section mono
variable {f : Nat → Nat} (hm : ∀ x y, x < y → f x < f y)
include hm

theorem mono_inj : ∀ x y, f x = f y → x = y := by
  intro x y h
  rcases Nat.lt_trichotomy x y with h1 | h1 | h1
  · have := hm _ _ h1; omega
  · exact h1
  · have := hm _ _ h1; omega

theorem mono_lt (x y : Nat) : decide (f x < f y) = decide (x < y) := by
  by_cases h : x < y
  · simp [h, hm _ _ h]
  · have : ¬ f x < f y := by
      intro h'
      rcases Nat.lt_or_ge y x with h1 | h1
      · have := hm _ _ h1; omega
      · have : x = y := by omega
        subst this; omega
    simp [h, this]

theorem einOrder_rename [Zero R] [Neg R] (a : Arr R) (lhs rhs : List Nat) (hl : lhs.length = a.ndim) :
    einOrder a (lhs.map f) (rhs.map f) = einOrder a lhs rhs := by
  rw [einOrder_eq_isort, einOrder_eq_isort]
  apply isort_congr
  intro i hi j hj
  have hi' : i < lhs.length := by rw [hl]; exact List.mem_range.mp hi
  have hj' : j < lhs.length := by rw [hl]; exact List.mem_range.mp hj
  have hinj := mono_inj hm
  unfold ekey
  simp only [getD_map_of_lt f lhs i 0 0 hi', getD_map_of_lt f lhs j 0 0 hj', indexOf?_map_inj hinj]
  unfold klt
  simp only [mono_lt hm, beq_map_inj hinj]

end mono

theorem einsumF_rename [Zero R] [Add R] [Neg R] {f : Nat → Nat} (hm : ∀ x y, x < y → f x < f y)
    (a : Arr R) (lhs rhs : List Nat) :
    a.einsumF (lhs.map f) (rhs.map f) = a.einsumF lhs rhs := by
  rw [Lazy.einsumF_eq, Lazy.einsumF_eq, List.length_map]
  by_cases hl : lhs.length = a.ndim
  · have : (lhs.length != a.ndim) = false := by simp [hl]
    simp only [this, Bool.false_eq_true, if_false]
    unfold einOperand
    rw [einOrder_rename hm a lhs rhs hl, permuted_map, einsumA_rename (mono_inj hm)]
  · have : (lhs.length != a.ndim) = true := by simp [hl]
    simp only [this, if_true]

end TwoStepP
end SymmModel
