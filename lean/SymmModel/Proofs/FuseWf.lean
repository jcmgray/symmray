/-
  SymmModel.Proofs.FuseWf — the sub-index table produced by
  `calcFuseBlockInfo` is well formed (`Index.wfB`) and canonical (sub-sectors of every extent in
  strictly increasing `sectorLt` order).
-/
import SymmModel.Proofs.FusePlan
namespace SymmModel
namespace FuseP

/-- an entry `(ss, c, d)` is consistent with the sub-indices `subs` fused in direction `gdual` -/
def EntryOk (sym : Sym) (gdual : Bool) (subs : List Index) (x : Sector × Charge × Nat) : Prop :=
  x.1.length = subs.length ∧ (∃ shp, Arr.blockShape? subs x.1 = some shp ∧ prod shp = x.2.2)
    ∧ sym.combine (List.zipWith (fun c' (sub : Index) => sym.sign c' (gdual != sub.dual)) x.1 subs) = x.2.1
    ∧ 0 < x.2.2

theorem sumN_pos {l : List Nat} (hne : l ≠ []) (h : ∀ d ∈ l, 0 < d) : 0 < sumN l := by
  cases l with
  | nil => exact absurd rfl hne
  | cons d ds => have := h d (by simp); simp only [sumN]; omega

theorem mem_sel {l : List (Sector × Charge × Nat)} {c : Charge} {ss : Sector} {d : Nat} :
    (ss, d) ∈ sel l c ↔ (ss, c, d) ∈ l := by
  simp only [sel, List.mem_map, List.mem_filter, beq_iff_eq]
  constructor
  · rintro ⟨x, ⟨hx, hc⟩, he⟩
    obtain ⟨a, b, e⟩ := x
    simp only [Prod.mk.injEq] at he hc
    obtain ⟨rfl, rfl⟩ := he; subst hc; exact hx
  · intro h; exact ⟨(ss, c, d), ⟨h, rfl⟩, rfl⟩

theorem sel_keys_nodup {l : List (Sector × Charge × Nat)} (h : (l.map (·.1)).Nodup) (c : Charge) :
    ((sel l c).map (·.1)).Nodup := by
  simp only [sel, List.map_map]
  have : ((fun x : Sector × Nat => x.1) ∘ fun x : Sector × Charge × Nat => (x.1, x.2.2)) = (·.1) := rfl
  rw [this]
  exact h.sublist (List.filter_sublist.map _)

theorem sel_keys_pairwise {l : List (Sector × Charge × Nat)}
    (h : l.Pairwise (fun x y => sectorLt x.1 y.1 = true)) (c : Charge) :
    ((sel l c).map (·.1)).Pairwise (fun a b => sectorLt a b = true) := by
  simp only [sel, List.map_map, List.pairwise_map]
  exact List.Pairwise.filter _ h

theorem accInv_cm_entry {l : List (Sector × Charge × Nat)} {cmap : List (Charge × Nat)} {ext : Extents}
    (hinv : AccInv l (cmap, ext)) {c : Charge} {d : Nat} (h : (c, d) ∈ cmap) :
    alookup ext c = some (sel l c) ∧ sel l c ≠ [] ∧ sumN ((sel l c).map (·.2)) = d := by
  have hk : (cmap.map (·.1)).Nodup := by have := hinv.keys; simp only at this; rw [this]; exact hinv.nodup
  have h1 := alookup_of_mem_nodup hk h
  have h2 := hinv.cm c
  have h3 := hinv.ext c
  simp only at h2 h3
  rw [h1] at h2
  split at h3
  · rw [h3] at h2; simp at h2
  · rename_i hne
    rw [h3] at h2
    simp only [Option.map_some, Option.some.injEq] at h2
    exact ⟨h3, hne, h2.symm⟩

theorem accInv_ext_entry {l : List (Sector × Charge × Nat)} {cmap : List (Charge × Nat)} {ext : Extents}
    (hinv : AccInv l (cmap, ext)) {c : Charge} {e : Extent} (h : alookup ext c = some e) :
    e = sel l c ∧ e ≠ [] := by
  have h3 := hinv.ext c
  simp only at h3
  rw [h] at h3
  split at h3
  · cases h3
  · rename_i hne; simp only [Option.some.injEq] at h3; subst h3; exact ⟨rfl, hne⟩

theorem entryOk_functional {sym : Sym} {gdual : Bool} {subs : List Index} {x y : Sector × Charge × Nat}
    (hx : EntryOk sym gdual subs x) (hy : EntryOk sym gdual subs y) (h : x.1 = y.1) : x = y := by
  obtain ⟨x1, x2, x3⟩ := x
  obtain ⟨y1, y2, y3⟩ := y
  simp only at h; subst h
  obtain ⟨_, ⟨shp, h1, h2⟩, h3, _⟩ := hx
  obtain ⟨_, ⟨shp', h1', h2'⟩, h3', _⟩ := hy
  simp only at h1 h2 h3 h1' h2' h3'
  rw [h1] at h1'; simp only [Option.some.injEq] at h1'; subst h1'
  rw [← h2, ← h3, h2', h3']

section Wf
variable (sym : Sym) (gdual : Bool) (subs : List Index) (entries : List (Sector × Charge × Nat))

/-- the canonical list of entries the table is built from -/
def sortedEntries : List (Sector × Charge × Nat) :=
  isort (fun x y => sectorLt x.1 y.1) (adict entries)

theorem sortedEntries_nodup : ((sortedEntries entries).map (·.1)).Nodup :=
  ((isort_perm _ _).map _).nodup_iff.2 (adict_keys_nodup _)

theorem sortedEntries_pairwise :
    (sortedEntries entries).Pairwise (fun x y => sectorLt x.1 y.1 = true) :=
  isort_pairwise (fun x : Sector × Charge × Nat => x.1) sectorLt sectorLt_trans sectorLt_tri _
    (adict_keys_nodup _)

theorem mem_sortedEntries {x : Sector × Charge × Nat} (h : x ∈ sortedEntries entries) : x ∈ entries :=
  mem_adict (mem_isort.1 h)

theorem mem_keys_sortedEntries {ss : Sector} :
    ss ∈ (sortedEntries entries).map (·.1) ↔ ss ∈ entries.map (·.1) := by
  rw [← mem_keys_adict (ps := entries)]
  exact ((isort_perm _ _).map _).mem_iff

theorem fusedIndexOf_eq :
    fusedIndexOf entries gdual subs = Index.mk (Index.sortCm (accumExtents (sortedEntries entries)).1) gdual
      (some (subs, (accumExtents (sortedEntries entries)).2)) := rfl

theorem accIndex_wf (l : List (Sector × Charge × Nat)) (hnd : (l.map (·.1)).Nodup)
    (hsubs : Index.wfListB sym subs = true) (hmem : ∀ x ∈ l, EntryOk sym gdual subs x) :
    Index.wfB sym (.mk (Index.sortCm (accumExtents l).1) gdual (some (subs, (accumExtents l).2))) = true := by
  have hinv := accumExtents_inv _ hnd
  generalize hst : accumExtents l = st at hinv ⊢
  obtain ⟨cmap, ext⟩ := st
  simp only
  have hk : (cmap.map (·.1)).Nodup := by have := hinv.keys; simp only at this; rw [this]; exact hinv.nodup
  have hcm : ∀ p ∈ Index.sortCm cmap, p ∈ cmap := fun p hp => mem_isort.1 hp
  rw [Index.wfB.eq_def]
  simp only [Bool.and_eq_true, List.all_eq_true, decide_eq_true_eq]
  refine ⟨⟨?_, ?_⟩, ⟨⟨⟨hsubs, ?_⟩, ?_⟩, ?_⟩⟩
  · apply isSortedStrict_of_pairwise
    rw [List.pairwise_map]
    exact isort_pairwise (fun x : Charge × Nat => x.1) Charge.lt chargeLt_trans chargeLt_tri _ hk
  · intro p hp
    obtain ⟨c, d⟩ := p
    obtain ⟨h1, h2, h3⟩ := accInv_cm_entry hinv (hcm _ hp)
    simp only
    constructor
    · rw [← h3]
      apply sumN_pos (by simpa using h2)
      intro d' hd'
      obtain ⟨⟨ss, d''⟩, hx, rfl⟩ := List.mem_map.1 hd'
      exact (hmem _ (mem_sel.1 hx)).2.2.2
    · cases hs : sel l c with
      | nil => exact absurd hs h2
      | cons x xs =>
        obtain ⟨ss, d'⟩ := x
        have hx : (ss, d') ∈ sel l c := by rw [hs]; simp
        have := (hmem _ (mem_sel.1 hx)).2.2.1
        simp only at this
        rw [← this]; exact Sym.combine_valid _ _
  · exact allDistinct_iff_nodup.2 hinv.nodup
  · intro p hp
    obtain ⟨c, d⟩ := p
    obtain ⟨h1, h2, h3⟩ := accInv_cm_entry hinv (hcm _ hp)
    simp only [h1, extentOk, Bool.and_eq_true, beq_iff_eq, List.all_eq_true]
    refine ⟨⟨h3, allDistinct_iff_nodup.2 (sel_keys_nodup hnd c)⟩, ?_⟩
    intro x hx
    obtain ⟨ss, d'⟩ := x
    obtain ⟨e1, ⟨shp, e2, e3⟩, e4, _⟩ := hmem _ (mem_sel.1 hx)
    simp only at e1 e2 e3 e4 ⊢
    simp [e1, e2, e3, e4]
  · intro p hp
    obtain ⟨c, e⟩ := p
    simp only
    rw [alookup_isSome_iff]
    have : c ∈ ext.map (·.1) := List.mem_map.2 ⟨(c, e), hp, rfl⟩
    have hkeys := hinv.keys
    simp only at hkeys
    rw [← hkeys] at this
    exact ((isort_perm _ _).map _).mem_iff.2 this

theorem fusedIndexOf_wf (hsubs : Index.wfListB sym subs = true)
    (hE : ∀ x ∈ entries, EntryOk sym gdual subs x) :
    Index.wfB sym (fusedIndexOf entries gdual subs) = true :=
  accIndex_wf sym gdual subs _ (sortedEntries_nodup entries) hsubs
    (fun x hx => hE x (mem_sortedEntries entries hx))

theorem fusedIndexOf_sorted {c : Charge} {e : Extent}
    (h : alookup (accumExtents (sortedEntries entries)).2 c = some e) :
    isSortedStrict sectorLt (e.map (·.1)) = true := by
  have hinv := accumExtents_inv _ (sortedEntries_nodup entries)
  generalize hst : accumExtents (sortedEntries entries) = st at hinv h
  obtain ⟨cmap, ext⟩ := st
  obtain ⟨rfl, _⟩ := accInv_ext_entry hinv h
  exact isSortedStrict_of_pairwise (sel_keys_pairwise (sortedEntries_pairwise entries) c)

theorem fusedIndexOf_complete (hfun : ∀ x ∈ entries, ∀ y ∈ entries, x.1 = y.1 → x = y)
    {ss : Sector} {c : Charge} {d : Nat} (h : (ss, c, d) ∈ entries) :
    ∃ e D, alookup (accumExtents (sortedEntries entries)).2 c = some e ∧ (ss, d) ∈ e
      ∧ (e.map (·.1)).Nodup ∧ alookup (Index.sortCm (accumExtents (sortedEntries entries)).1) c = some D
      ∧ sumN (e.map (·.2)) = D := by
  have hnd := sortedEntries_nodup entries
  have hinv := accumExtents_inv _ hnd
  have hin : (ss, c, d) ∈ sortedEntries entries := by
    have hk : ss ∈ (sortedEntries entries).map (·.1) :=
      (mem_keys_sortedEntries entries).2 (List.mem_map.2 ⟨_, h, rfl⟩)
    obtain ⟨y, hy, hy1⟩ := List.mem_map.1 hk
    have := hfun _ (mem_sortedEntries entries hy) _ h hy1
    rw [← this]; exact hy
  generalize hst : accumExtents (sortedEntries entries) = st at hinv
  obtain ⟨cmap, ext⟩ := st
  have hsel : (ss, d) ∈ sel (sortedEntries entries) c := mem_sel.2 hin
  have hne : sel (sortedEntries entries) c ≠ [] := by
    intro h0; rw [h0] at hsel; simp at hsel
  have he := hinv.ext c
  simp only [hne, if_false] at he
  have hc := hinv.cm c
  simp only [he, Option.map_some] at hc
  have hk : (cmap.map (·.1)).Nodup := by have := hinv.keys; simp only at this; rw [this]; exact hinv.nodup
  refine ⟨_, _, he, hsel, sel_keys_nodup hnd c, ?_, rfl⟩
  have hmemc := alookup_some_mem hc
  apply alookup_of_mem_nodup
  · exact ((isort_perm _ _).map _).nodup_iff.2 hk
  · exact mem_isort.2 hmemc

end Wf

end FuseP
end SymmModel
