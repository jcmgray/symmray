/-
  SymmModel.Proofs.NetNormM3 — network form of the norm (property C10), mirror images of the
  ket-bra-first bracketings, part 3: the routes that contract the ket-first piece `X' = a·ā` with `b̄`
  alone and then with `b`:
        `(X'·b̄)·b`,   `(b̄·X')·b`
  give the scalar of the hub (`mirror_tri`).  `X'·b̄` is `Eqv` to `X·b̄` (S6 as an equivalence, `pre_eqv`,
  for the exchange of the two leg blocks of `X`: the free block keeps its order, so the induced
  transposition of the result is the identity, `Net4P.transposeF_range_eqv`), `b̄·X'` is reached by S5.
-/
import SymmModel.Proofs.NetNormM2

namespace SymmModel.NormNet
open SymmModel SymmModel.TdotP SymmModel.GradedP SymmModel.RoutesP

open SymmModel.AssocP SymmModel.Assoc3P SymmModel.Assoc4P SymmModel.Assoc5P SymmModel.Net4P
open SymmModel.OddposP (mergeOddpos)
set_option linter.unusedSectionVars false

section main
variable {R : Type} [AddCommMonoid R] [Mul R] [Neg R] [Conj R] [NetLaws R] [AssocLaws R]

/-- the routes through `X' = a·ā` that end on `b` — the RESULT of `mirror_tri`; like `MirrorHalf` it records no
    guards of the calls (`HubHalf` does) -/
structure MirrorTri (a b : Arr R) (xa xb : List Nat) (X' : Arr R) (v : R) : Prop where
  /-- `(X'·b̄)·b` -/
  rXB : ∃ XB c, tdF X' (braOf b xb) ((kbQ a.ndim xa).map (xa.length + ·)) xb = .ok XB
    ∧ tdF XB b (kbQ a.ndim xa ++ (List.range (freeAxes b.ndim xb).length).map (xa.length + ·))
        (xb ++ freeAxes b.ndim xb) = .ok c ∧ Scal c v
  /-- `(b̄·X')·b` -/
  rBX : ∃ BX c, tdF (braOf b xb) X' xb ((kbQ a.ndim xa).map (xa.length + ·)) = .ok BX
    ∧ tdF BX b ((kbQ a.ndim xa).map ((freeAxes b.ndim xb).length + ·)
        ++ List.range (freeAxes b.ndim xb).length) (xb ++ freeAxes b.ndim xb) = .ok c ∧ Scal c v

theorem mirror_tri (hmul : ∀ x y : R, x * y = y * x) {a b : Arr R} {xa xb : List Nat}
    {X Y X' : Arr R} {v : R} (h : Adm a b xa xb)
    (hdB : b.oddpos.Pairwise (fun x y => x.1 ≠ y.1)) (PX : Piece a xa X)
    (H : HubHalf a b xa xb X Y v) (MX : MPiece a xa X') : MirrorTri a b xa xb X' v := by
  obtain ⟨sX, IX⟩ := PX.inter
  obtain ⟨WbX, _⟩ := piece_guards (xb := xb) h IX.toW
  have WXb := admW_swap WbX
  have hq := kbQ_perm h.nA h.ltA
  have hqlt := kbQ_lt h.nA h.ltA
  have hqn := kbQ_nodup h.nA h.ltA
  have hoBb : (braOf b xb).oddpos = Arr.oddposDag b.oddpos := braOf_oddpos b xb
  have hdd := oddposDag_distinct b.oddpos hdB
  have hdX : OddposP.LabelsDistinct (X.oddpos ++ (braOf b xb).oddpos) := by
    rw [PX.odd, hoBb]; exact hdd
  have hdX' : OddposP.LabelsDistinct (X'.oddpos ++ (braOf b xb).oddpos) := by
    rw [MX.odd, hoBb]; exact hdd
  set k := xa.length with hk
  set nfB := (freeAxes b.ndim xb).length with hnfB
  set q := kbQ a.ndim xa with hqd
  obtain ⟨XB, c, eXB, ec, Sc⟩ := H.rXB
  have WXBb := H.wXB XB eXB
  have hfq : freeAxes X.ndim q = (List.range k).map (k + ·) := by rw [PX.nd]; exact free_kbQ h.nA h.ltA
  have hfq' : freeAxes X.ndim (q.map (k + ·)) = List.range k := by
    rw [PX.nd]; exact free_kbQ_shift h.nA h.ltA
  have hrotp : (rotB k k).Perm (List.range X.ndim) := by
    rw [PX.nd]; exact perm_of_isPerm (rotB_isPerm _ _)
  have hrot : Arr.isPerm (rotB k k) X.ndim = true := isPerm_of_perm hrotp
  have hT : PreT X.ndim (rotB k k) q (q.map (k + ·)) (List.range k) := by
    refine ⟨hrotp, hqn, fun i hi => by rw [PX.nd]; have := hqlt i hi; omega,
      hqn.map (fun x y hxy => by omega), ?_, permuted_rot_high k q hqlt, ?_, ?_⟩
    · intro i hi
      obtain ⟨j, hj, rfl⟩ := List.mem_map.mp hi
      have := hqlt j hj
      rw [PX.nd]; omega
    · rw [hfq, List.length_map, List.length_range]
    · rw [hfq, hfq', permuted_rot_low k _ (fun i hi => List.mem_range.mp hi)]
      have := permuted_range ((List.range k).map (k + ·))
      rw [List.length_map, List.length_range] at this
      exact this
  -- S6 as an equivalence: (X^T)·b̄ ≈ X·b̄
  obtain ⟨c1, ec1, vc1, vXB, _, hE1⟩ := pre_eqv X (braOf b xb) (rotB k k) q (q.map (k + ·))
    (List.range k) xb WXb hrot hT XB eXB
  have W1 := admW_pre WXb hrot hT
  obtain ⟨_, _, CXB⟩ := Call.of_ok WXb eXB
  have hXBn : XB.ndim = k + nfB := by
    rw [CXB.toInter.ndim, hfq, List.length_map, List.length_range, braOf_ndim]
  have hbp : blockP (List.range k) (freeAxes X.ndim q).length (freeAxes (braOf b xb).ndim xb).length
      = List.range XB.ndim := by
    unfold blockP
    rw [hfq, List.length_map, List.length_range, braOf_ndim, hXBn, List.range_add]
  rw [hbp] at hE1
  have hE2 : Eqv XB c1 := (transposeF_range_eqv XB vXB CXB.fermi).symm.trans hE1
  -- congruence: X^T ≈ X'
  obtain ⟨XB', eXB', hE3⟩ := tdotF_congr W1 (MX.eqv X PX) (Eqv.refl _) MX.valid W1.vb c1 ec1
  have W1' : AdmW X' (braOf b xb) (q.map (k + ·)) xb :=
    admW_congr W1 (MX.eqv X PX) (Eqv.refl _) MX.valid W1.vb
  obtain ⟨_, _, e', IXB', _⟩ := call_pack X' (braOf b xb) _ xb W1' hdX'
  rw [eXB'] at e'
  obtain rfl := Except.ok.inj e'
  have hE4 : Eqv XB XB' := hE2.trans hE3
  obtain ⟨r1, er1, n1, o1, v1⟩ := scalar_congr WXBb hE4 IXB'.valid ec Sc.1
  have S1 : Scal r1 v := Sc.transfer n1 o1 v1
  have WXB'b := admW_congr WXBb hE4 (Eqv.refl b) IXB'.valid h.vb
  refine ⟨⟨XB', r1, eXB', er1, S1⟩, ?_⟩
  -- b̄·X': relist the pairs of XB'·b, exchange the operands of the first call, relist back
  have hlen : q.length = xb.length := by
    rw [hqd, kbQ_len h.nA h.ltA]; exact h.len
  have hcomm := tdotF_axes_comm_w XB' b q ((List.range nfB).map (k + ·)) xb (freeAxes b.ndim xb) hlen
    WXB'b
  have WXB'bc := AdmW.comm hlen WXB'b
  have er1c : tdF XB' b ((List.range nfB).map (k + ·) ++ q) (freeAxes b.ndim xb ++ xb) = .ok r1 :=
    hcomm.trans er1
  have hXB'n : XB'.ndim = k + nfB := by rw [← hE4.ndim]; exact hXBn
  have hUc : ((List.range nfB).map (k + ·) ++ q).Perm (List.range XB'.ndim) := by
    rw [hXB'n, List.range_add]
    exact List.perm_append_comm.trans (hq.append_right _)
  have hU' : (List.range nfB ++ q.map (nfB + ·)).Perm (List.range XB'.ndim) := by
    rw [hXB'n, Nat.add_comm, List.range_add]
    exact (hq.map _).append_left _
  have hvB : freeAxes b.ndim (freeAxes b.ndim xb ++ xb) = [] :=
    freeAxes_of_perm (perm_left h.nB h.ltB)
  obtain ⟨BX', r2, eBX', _, er2, S2, W2⟩ := scal_swap_first hmul
    (U' := List.range nfB ++ q.map (nfB + ·)) W1'
    (by rw [MX.odd, hoBb, List.append_nil]; exact hdd) eXB' WXB'bc
    (freeAxes_of_perm hUc) hvB hU'
    (by rw [MX.nd, free_kbQ_shift h.nA h.ltA, List.length_range, braOf_ndim]
        exact permuted_rotB_axes k nfB (List.range nfB) q (fun i hi => List.mem_range.mp hi) hqlt)
    er1c S1
  have hlen2 : (List.range nfB).length = (freeAxes b.ndim xb).length := by rw [List.length_range]
  have hcomm2 := tdotF_axes_comm_w BX' b (List.range nfB) (q.map (nfB + ·)) (freeAxes b.ndim xb) xb
    hlen2 W2
  exact ⟨BX', r2, eBX', hcomm2.trans er2, S2⟩

theorem mirror_tris_of (hmul : ∀ x y : R, x * y = y * x) {a b : Arr R} {xa xb : List Nat}
    {X Y X' Y' : Arr R} {v : R} (h : Adm a b xa xb)
    (hdA : a.oddpos.Pairwise (fun x y => x.1 ≠ y.1))
    (hdB : b.oddpos.Pairwise (fun x y => x.1 ≠ y.1)) (M : MirrorHub a b xa xb X Y X' Y' v) :
    MirrorTri a b xa xb X' v ∧ MirrorTri b a xb xa Y' v := by
  obtain ⟨⟨PX, PY, H, H'⟩, MX, MY, _, _⟩ := M
  exact ⟨mirror_tri hmul h hdB PX H MX, mirror_tri hmul (adm_swap h) hdA PY H' MY⟩

end main

end SymmModel.NormNet
