/-
  SymmModel.Proofs.ReshapeMore — the lemmas behind Props/C07b, in the namespace `SymmModel.ReshapeP`:
  `SameContent`, and that unfuse / fuse / expand_dims and whole certified reshape plans keep it (squeeze
  is done in C07b itself, by `sameContent_of_storedData`).
-/
import SymmModel.Proofs.DenseMore
import SymmModel.Props.C05b
import SymmModel.Props.C07
import SymmModel.Props.C01
import SymmModel.Props.C12
import SymmModel.Proofs.ValidMore2Cert

namespace SymmModel
namespace ReshapeP
open DenseP

variable {R : Type}

theorem findFullReshape_nat (shape : List Nat) (size : Nat) :
    findFullReshape (shape.map Int.ofNat) size = .ok (shape.map Int.ofNat) := by
  unfold findFullReshape
  rw [indexOf?_eq_none_iff.mpr (by
    intro h
    obtain ⟨d, _, hd⟩ := List.mem_map.mp h
    have : (0 : Int) ≤ Int.ofNat d := Int.natCast_nonneg d
    omega)]
  rfl

theorem mapM_toNat (shape : List Nat) :
    (shape.map Int.ofNat).mapM
      (fun (d : Int) => if d < 0 then (throw Err.notimpl : Except Err Nat) else pure d.toNat)
      = .ok shape := by
  induction shape with
  | nil => rfl
  | cons d l ih =>
    rw [List.map_cons, List.mapM_cons, ih]
    have : ¬ (Int.ofNat d < 0) := by
      have h0 : (0 : Int) ≤ Int.ofNat d := Int.natCast_nonneg d
      omega
    simp only [this, if_false, bind, Except.bind, pure, Except.pure]
    rfl

theorem subsizes_nones (a : Arr R) (h : ∀ ix ∈ a.indices, ix.sub = none) :
    a.subsizes = C07.nones a.shape := by
  simp only [Arr.subsizes, C07.nones, Arr.shape, List.map_map]
  apply List.map_congr_left
  intro ix hix
  simp [h ix hix]

section content

def blkSum {M : Type} [AddCommMonoid M] (g : R → M) (b : Blk R) : M := (b.data.toList.map g).sum

def entrySum {M : Type} [AddCommMonoid M] (g : R → M) (a : Arr R) : M :=
  (a.blocks.map (fun p => blkSum g p.2)).sum

/-- **same content**: every additive statistic `Σ g(entry)` with `g 0 = 0` of the stored entries
    agrees.  (Then the multisets of non-zero stored entries agree, `SameContent.perm_nonzero`; the
    converse is not proved.  Stored zeros may be added or dropped.) -/
def SameContent [Zero R] (a b : Arr R) : Prop :=
  ∀ (M : Type) [AddCommMonoid M] (g : R → M), g 0 = 0 → entrySum g a = entrySum g b

theorem SameContent.refl [Zero R] (a : Arr R) : SameContent a a := fun _ _ _ _ => rfl
theorem SameContent.symm [Zero R] {a b : Arr R} (h : SameContent a b) : SameContent b a :=
  fun M _ g hg => (h M g hg).symm
theorem SameContent.trans [Zero R] {a b c : Arr R} (h1 : SameContent a b) (h2 : SameContent b c) :
    SameContent a c := fun M _ g hg => (h1 M g hg).trans (h2 M g hg)

theorem sameContent_of_storedData [Zero R] {a b : Arr R} (h : C07.storedData a = C07.storedData b) :
    SameContent a b := by
  intro M _ g _
  have : ∀ x : Arr R, entrySum g x = ((C07.storedData x).map (fun d => (d.toList.map g).sum)).sum := by
    intro x; simp [entrySum, blkSum, C07.storedData, List.map_map, Function.comp_def]
  rw [this, this, h]

variable {M : Type} [AddCommMonoid M]

theorem blkSum_eq_box [Zero R] (g : R → M) (b : Blk R) (hwf : b.wf = true) :
    blkSum g b = ((allIdx b.shape).map (fun i => g (b.get i))).sum := by
  rw [blkSum, ← allIdx_map_get b hwf, List.map_map]; rfl

theorem blkSum_ofFn (g : R → M) (s : List Nat) (f : List Nat → R) :
    blkSum g (Blk.ofFn s f) = ((allIdx s).map (fun i => g (f i))).sum := by
  simp [blkSum, Blk.ofFn, List.map_map, Function.comp_def]

theorem sum_allIdx_append (A C : List Nat) (F : List Nat → M) :
    ((allIdx (A ++ C)).map F).sum
      = ((allIdx A).map (fun a => ((allIdx C).map (fun c => F (a ++ c))).sum)).sum := by
  induction A generalizing F with
  | nil => simp [allIdx]
  | cons d ds ih =>
    simp only [List.cons_append, allIdx]
    rw [sum_map_flatMap, sum_map_flatMap]
    apply sum_map_congr
    intro i _
    simp only [List.map_map, Function.comp_def]
    exact ih (fun r => F (i :: r))

theorem sum_allIdx_one (D : Nat) (F : List Nat → M) :
    ((allIdx [D]).map F).sum = ((List.range D).map (fun i => F [i])).sum := by
  rw [allIdx_single, List.map_map]; rfl

/-- prefix sums: summing over the pieces `[st, st + d)` of an extent = summing over `[0, total)` -/
theorem sum_zip_offsets {β : Type} (ext : List (β × Nat)) (F : Nat → M) :
    ((ext.zip (offsets (ext.map (·.2)))).map (fun q =>
        ((List.range q.1.2).map (fun t => F (q.2 + t))).sum)).sum
      = ((List.range (sumN (ext.map (·.2)))).map F).sum := by
  induction ext generalizing F with
  | nil => simp [offsets, sumN]
  | cons e rest ih =>
    simp only [List.map_cons, offsets, List.zip_cons_cons, List.sum_cons, sumN, List.range_add,
      List.map_append, List.sum_append, Nat.zero_add, List.map_map]
    congr 1
    rw [List.zip_map_right, List.map_map]
    have := ih (fun q => F (e.2 + q))
    refine Eq.trans ?_ (this.trans rfl)
    apply sum_map_congr
    intro q _
    apply sum_map_congr
    intro t _
    simp only [Prod.map, id]
    congr 1
    omega

/-- the entries of a block = the entries of the slices cut along one axis at the extents'
    offsets (the reshape of each slice does not touch the data) -/
theorem blkSum_pieces [Zero R] (g : R → M) (B : Blk R) (hwf : B.wf = true) (p : Nat)
    (hp : p < B.shape.length) {β : Type} (ext : List (β × Nat))
    (htot : sumN (ext.map (·.2)) = B.shape.getD p 0) (newshape : β × Nat → List Nat) :
    ((ext.zip (offsets (ext.map (·.2)))).map (fun q =>
        blkSum g ((B.sliceK ((List.replicate B.shape.length 0).set p q.2) (B.shape.set p q.1.2)).reshapeK
          (newshape q.1)))).sum
      = blkSum g B := by
  have hsplit : B.shape = B.shape.take p ++ [B.shape.getD p 0] ++ B.shape.drop (p + 1) :=
    FuseP.list_split_at B.shape p 0 hp
  have hpre : (B.shape.take p).length = p := by simp only [List.length_take]; omega
  -- the value read at pre-offsets `a`, position `i` on the axis, post-offsets `c`
  let H : List Nat → Nat → List Nat → M := fun a i c => g (B.get (a ++ [i] ++ c))
  have hpiece : ∀ q : (β × Nat) × Nat,
      blkSum g ((B.sliceK ((List.replicate B.shape.length 0).set p q.2) (B.shape.set p q.1.2)).reshapeK
          (newshape q.1))
        = ((allIdx (B.shape.take p)).map (fun a => ((List.range q.1.2).map (fun t =>
            ((allIdx (B.shape.drop (p + 1))).map (fun c => H a (q.2 + t) c)).sum)).sum)).sum := by
    intro q
    have hd : ((B.sliceK ((List.replicate B.shape.length 0).set p q.2) (B.shape.set p q.1.2)).reshapeK
        (newshape q.1)).data = (Blk.ofFn (B.shape.set p q.1.2)
          (fun i => B.get (List.zipWith (· + ·) i ((List.replicate B.shape.length 0).set p q.2)))).data := rfl
    rw [blkSum, hd, ← blkSum, blkSum_ofFn, FuseP.set_split_at _ _ _ hp, sum_allIdx_append,
      sum_allIdx_append]
    apply sum_map_congr
    intro a ha
    have hal : a.length = p := by rw [inBox_length (mem_allIdx.mp ha), hpre]
    rw [sum_allIdx_one]
    apply sum_map_congr
    intro t _
    apply sum_map_congr
    intro c hc
    have hcl : c.length = (B.shape.drop (p + 1)).length := inBox_length (mem_allIdx.mp hc)
    have hil : (a ++ [t] ++ c).length = B.shape.length := by
      simp only [List.length_append, List.length_singleton, hal, hcl, List.length_drop]; omega
    simp only [H]
    rw [FuseP.zipWith_add_set hil]
    have hget : (a ++ [t] ++ c).getD p 0 = t := by
      have := FuseP.getD_mid a [t] c 0 0 (by simp)
      rw [hal] at this; simpa using this
    have hset := FuseP.set_mid a c t (t + q.2)
    rw [hal] at hset
    rw [hget, hset, Nat.add_comm]
  rw [sum_map_congr (fun q _ => hpiece q), sum_swap]
  rw [blkSum_eq_box g B hwf]
  conv_rhs => rw [hsplit, sum_allIdx_append, sum_allIdx_append]
  apply sum_map_congr
  intro a _
  rw [sum_allIdx_one, ← htot]
  exact sum_zip_offsets ext (fun i => ((allIdx (B.shape.drop (p + 1))).map (fun c => H a i c)).sum)

theorem replaceWithSeq_inj {α : Type} (l : List α) (p : Nat) {s1 s2 : List α}
    (h : replaceWithSeq l p s1 = replaceWithSeq l p s2) : s1 = s2 := by
  simp only [replaceWithSeq, List.append_assoc] at h
  exact List.append_cancel_right (List.append_cancel_left h)

theorem map_zip_fst {α β γ : Type} (l : List α) (r : List β) (f : α → γ) (h : l.length = r.length) :
    (l.zip r).map (fun q => f q.1) = l.map f := by
  induction l generalizing r with
  | nil => rfl
  | cons a l ih =>
    cases r with
    | nil => simp at h
    | cons b r => simp [ih r (by simpa using h)]

theorem length_offsets (l : List Nat) : (offsets l).length = l.length := by
  induction l with
  | nil => rfl
  | cons d ds ih => simp [offsets, ih]

theorem pieces_keys_nodup [Zero R] {x : Arr R} {p : Nat} {ix : Index} {subs : List Index}
    {exts : Extents} (hv : FuseP.ValidArr x) (hix : x.indices[p]? = some ix)
    (hsub : ix.sub = some (subs, exts)) :
    ((x.blocks.flatMap (FuseP.piecesOf subs exts p)).map (·.1)).Nodup := by
  rw [List.map_flatMap]
  rw [List.nodup_flatMap]
  constructor
  · intro n hn
    obtain ⟨_, _, _, e, he, hok⟩ := FuseP.block_at_axis hv hix hsub hn
    have : (FuseP.piecesOf subs exts p n).map (·.1) = e.map (fun q => replaceWithSeq n.1 p q.1) := by
      simp only [FuseP.piecesOf, he, Option.getD_some, List.map_map, Function.comp_def]
      exact map_zip_fst e _ (fun q => replaceWithSeq n.1 p q.1) (by simp [length_offsets])
    rw [this]
    have h2 : e.map (fun q => replaceWithSeq n.1 p q.1) = (e.map (·.1)).map (replaceWithSeq n.1 p) := by
      rw [List.map_map]; rfl
    rw [h2]
    exact hok.nodup.map_on (fun a _ b _ hab => replaceWithSeq_inj n.1 p hab)
  · have hnd : x.blocks.Nodup := List.Nodup.of_map _ hv.nodup
    refine List.Pairwise.imp_of_mem ?_ hnd
    intro n1 n2 h1 h2 hne
    simp only [Function.onFun, List.disjoint_left]
    intro K hK1 hK2
    obtain ⟨⟨K1, V1⟩, hm1, rfl⟩ := List.mem_map.mp hK1
    obtain ⟨⟨K2, V2⟩, hm2, hk⟩ := List.mem_map.mp hK2
    simp only at hk
    subst hk
    have hm1' : (K2, V1) ∈ x.blocks.flatMap (FuseP.piecesOf subs exts p) :=
      List.mem_flatMap.mpr ⟨n1, h1, hm1⟩
    have hm2' : (K2, V2) ∈ x.blocks.flatMap (FuseP.piecesOf subs exts p) :=
      List.mem_flatMap.mpr ⟨n2, h2, hm2⟩
    -- the piece of `n1` / of `n2` with that key
    obtain ⟨_, _, _, e1, he1, hok1⟩ := FuseP.block_at_axis hv hix hsub h1
    obtain ⟨_, _, _, e2, he2, hok2⟩ := FuseP.block_at_axis hv hix hsub h2
    simp only [FuseP.piecesOf, he1, he2, Option.getD_some, List.mem_map] at hm1 hm2
    obtain ⟨⟨⟨s1, d1⟩, st1⟩, hq1, hk1⟩ := hm1
    obtain ⟨⟨⟨s2, d2⟩, st2⟩, hq2, hk2⟩ := hm2
    simp only [Prod.mk.injEq] at hk1 hk2
    have hs1 := (FuseP.mem_zip_offsets hok1.nodup).1 hq1
    have hs2 := (FuseP.mem_zip_offsets hok2.nodup).1 hq2
    exact hne (FuseP.keyU_inj hv hix hsub h1 h2 he1 hs1 he2 hs2 (hk1.1.trans hk2.1.symm)).1

/-- **unfuse keeps the content**: the slices partition each block, the reshape of a slice does not
    touch its data.  Only the part of validity that abelian and fermionic arrays share is used. -/
theorem unfuseA_sameContentC [Zero R] (x y : Arr R) (axis : Nat) (hc : ValidP.Core x)
    (h : unfuseA x axis = .ok y) : SameContent x y := by
  have hva := FuseP.validArr_of_core hc
  obtain ⟨ix, subs, exts, hix, hsub, _⟩ := ValidP.unfuseA_indices h
  have hy := FuseP.unfuseA_eq x axis ix subs exts hix hsub (by
    intro sb hsb
    obtain ⟨_, _, _, e, he, hok⟩ := FuseP.block_at_axis hva hix hsub hsb
    refine ⟨e, he, ?_⟩
    intro q hq
    obtain ⟨_, ⟨shp, hshp, _⟩, _⟩ := hok.entry q.1 q.2 hq
    exact ⟨shp, hshp⟩)
  rw [hy] at h
  injection h with h
  have hbl : y.blocks = x.blocks.flatMap (FuseP.piecesOf subs exts axis) := by
    rw [← h]; exact adict_of_nodup _ (pieces_keys_nodup hva hix hsub)
  intro M _ g _
  simp only [entrySum]
  rw [hbl, sum_map_flatMap]
  symm
  apply sum_map_congr
  intro n hn
  obtain ⟨hp, hl1, hl2, e, he, hok⟩ := FuseP.block_at_axis hva hix hsub hn
  simp only [FuseP.piecesOf, he, Option.getD_some, List.map_map, Function.comp_def]
  exact blkSum_pieces g n.2 (hva.blk n hn).2.2 axis (by omega) e hok.total
    (fun q => replaceWithSeq n.2.shape axis ((Arr.blockShape? subs q.1).getD []))

theorem unfuseA_sameContent [Zero R] (x y : Arr R) (axis : Nat) (hv : x.validB = true)
    (h : unfuseA x axis = .ok y) : SameContent x y :=
  unfuseA_sameContentC x y axis ((ValidP.validB_iff x).1 hv).core h

theorem blkSum_transposeK [Zero R] (g : R → M) (b : Blk R) (hwf : b.wf = true) (axes : List Nat)
    (hperm : Arr.isPerm axes b.shape.length = true) :
    blkSum g (b.transposeK axes) = blkSum g b := by
  have hlt := isPerm_lt hperm
  have hwf' : (b.transposeK axes).wf = true := ofFn_wf _ _
  have hsh : (b.transposeK axes).shape = permuted b.shape axes := rfl
  rw [blkSum_eq_box g _ hwf', blkSum_eq_box g b hwf, hsh]
  -- the boxes correspond under `permuted · axes`
  have hnd : ((allIdx b.shape).map (fun i => permuted i axes)).Nodup :=
    List.Nodup.map_on (fun x hx y hy hxy =>
      permuted_inj hperm (inBox_length (mem_allIdx.mp hx)) (inBox_length (mem_allIdx.mp hy)) hxy)
      (allIdx_nodup b.shape)
  have hsub : ∀ j ∈ (allIdx b.shape).map (fun i => permuted i axes), j ∈ allIdx (permuted b.shape axes) := by
    intro j hj
    obtain ⟨i, hi, rfl⟩ := List.mem_map.mp hj
    exact mem_allIdx.mpr (inBox_permuted (mem_allIdx.mp hi) axes hlt)
  have hlen : (allIdx (permuted b.shape axes)).length ≤ ((allIdx b.shape).map (fun i => permuted i axes)).length := by
    rw [List.length_map, allIdx_length, allIdx_length, prod_perm (ValidP.permuted_perm (perm_of_isPerm hperm))]
  have hp : ((allIdx b.shape).map (fun i => permuted i axes)).Perm (allIdx (permuted b.shape axes)) :=
    (List.subperm_of_subset hnd hsub).perm_of_length_le hlen
  rw [← (hp.map (fun j => g ((b.transposeK axes).get j))).sum_eq, List.map_map]
  apply sum_map_congr
  intro i hi
  simp only [Function.comp]
  rw [Blk.get_transposeK b axes hperm (mem_allIdx.mp hi)]

theorem blkSum_allZero [Zero R] (g : R → M) (hg : g 0 = 0) (b : Blk R) (h : FuseP.AllZero b) :
    blkSum g b = 0 := by
  rw [blkSum, sum_map_congr (g := fun _ => (0 : M)) (fun x hx => by rw [h x hx, hg])]
  simp

theorem entrySum_eq_sectors (g : R → M) (a : Arr R) (hnd : a.sectors.Nodup) :
    entrySum g a = (a.sectors.map (fun s => match alookup a.blocks s with
      | some b => blkSum g b
      | none => 0)).sum := by
  simp only [entrySum, Arr.sectors, List.map_map]
  apply sum_map_congr
  intro p hp
  simp only [Function.comp]
  rw [alookup_of_mem_nodup hnd hp]

theorem fuseAdmissible_of_groupsOk {groups : List (List Nat)} {n : Nat}
    (h : FuseP.groupsOkB groups n = true) : ValidP.fuseAdmissibleB groups n = true :=
  FuseP.admissible_of_groupsOk (FuseP.groupsOk_iff.1 h)

theorem unfuseGroups_sameContentC [Zero R] (groups : List (List Nat)) (pos : Nat) (L : List Nat)
    (x y : Arr R) (hc : ValidP.Core x)
    (h : L.foldlM (fun x g => if FuseP.multiB groups g then unfuseA x (pos + g) else pure x) x = .ok y) :
    SameContent x y ∧ ValidP.Core y := by
  induction L generalizing x with
  | nil =>
    simp only [List.foldlM_nil, pure, Except.pure] at h
    injection h with h; subst h
    exact ⟨SameContent.refl _, hc⟩
  | cons g L ih =>
    rw [List.foldlM_cons] at h
    by_cases hm : FuseP.multiB groups g = true
    · simp only [hm, if_true] at h
      obtain ⟨x1, hu, h⟩ := bind_ok h
      obtain ⟨h1, h2⟩ := ih x1 (ValidP.unfuseA_core x x1 (pos + g) hc hu) h
      exact ⟨(unfuseA_sameContentC x x1 _ hc hu).trans h1, h2⟩
    · simp only [hm, Bool.false_eq_true, if_false, bind, Except.bind, pure, Except.pure] at h
      exact ih x hc h

/-- **fuse keeps the content** (insert strategy, ANY admissible list of groups), for abelian and
    fermionic operands alike: the fused array stores the original entries, each once, plus zeros
    (through the block-level round trip of C05; `hcx`: the fused array satisfies the part of
    validity that does not depend on the kind of array) -/
theorem fuseCore_sameContentC [Zero R] (a x : Arr R) (groups : List (List Nat))
    (hv : a.validB = true) (hg : FuseP.groupsOkB groups a.ndim = true)
    (h : fuseCore a groups .insert = .ok x) (hcx : ValidP.Core x) : SameContent a x := by
  classical
  obtain ⟨x', y, hx', hy, _, hstored, hother⟩ := C05.unfuse_fuse_blocks a groups hv hg
  rw [h] at hx'; injection hx' with hx'; subst hx'
  obtain ⟨hxy, hcy⟩ := unfuseGroups_sameContentC groups _ _ x y hcx hy
  refine SameContent.trans ?_ hxy.symm
  -- `a` against `y`: transposed blocks plus all-zero blocks
  intro M _ g hg0
  have hva := FuseP.validArr_of_validB hv
  have hnda : a.sectors.Nodup := hva.nodup
  have hndy : y.sectors.Nodup := (FuseP.validArr_of_core hcy).nodup
  obtain ⟨_, _, hperm, _⟩ := C05.calcFuseGroupInfo_perm groups a.duals (by rw [FuseP.duals_length]; exact hg)
  rw [FuseP.duals_length] at hperm
  have hI : (a.sectors.map (fun s => permuted s (calcFuseGroupInfo groups a.duals).perm)).Nodup :=
    List.Nodup.map_on (fun s hs t ht hst => by
      obtain ⟨⟨s', b⟩, hm, rfl⟩ := List.mem_map.mp hs
      obtain ⟨⟨t', b'⟩, hm', rfl⟩ := List.mem_map.mp ht
      exact permuted_inj hperm (hva.blk _ hm).1 (hva.blk _ hm').1 hst) hnda
  symm
  rw [entrySum_eq_sectors g y hndy]
  rw [sum_eq_sum_of_support hndy hI (fun K hK => by
      obtain ⟨s, hs, rfl⟩ := List.mem_map.mp hK
      obtain ⟨⟨s', b⟩, hm, rfl⟩ := List.mem_map.mp hs
      exact alookup_isSome_iff.mp (by rw [hstored s' b hm]; rfl)) _
    (fun K hK hKI => by
      obtain ⟨V, hV⟩ := Option.isSome_iff_exists.mp (alookup_isSome_iff.mpr hK)
      simp only [hV]
      rcases hother K V hV with ⟨s, b, hm, rfl⟩ | hz
      · exact absurd (List.mem_map.mpr ⟨s, List.mem_map.mpr ⟨(s, b), hm, rfl⟩, rfl⟩) hKI
      · exact blkSum_allZero g hg0 V hz)]
  simp only [entrySum, Arr.sectors, List.map_map]
  apply sum_map_congr
  intro p hp
  simp only [Function.comp]
  rw [hstored p.1 p.2 hp]
  have hb := hva.blk p hp
  exact blkSum_transposeK g p.2 hb.2.2 _ (by
    rw [Arr.blockShape?_shape_length hb.2.1]; exact hperm)

theorem fuseCore_sameContent [Zero R] (a x : Arr R) (groups : List (List Nat))
    (hv : a.validB = true) (hf : a.fermi = false) (hg : FuseP.groupsOkB groups a.ndim = true)
    (h : fuseCore a groups .insert = .ok x) : SameContent a x :=
  fuseCore_sameContentC a x groups hv hg h ((ValidP.validB_iff x).1
    (C01.fuseCore_valid a x groups hv hf (fuseAdmissible_of_groupsOk hg) h)).core

/-- the public `fuse` with admissible non-empty groups -/
theorem fuseA_sameContent [Zero R] (a x : Arr R) (groups : List (List Nat)) (expandEmpty : Bool)
    (hv : a.validB = true) (hf : a.fermi = false) (hg : FuseP.groupsOkB groups a.ndim = true)
    (h : fuseA a groups .insert expandEmpty = .ok x) : SameContent a x := by
  rw [C05.fuseA_eq_fuseCore a groups .insert expandEmpty a.ndim hg] at h
  exact fuseCore_sameContent a x groups hv hf hg h

theorem expandDims_sameContent [Zero R] (a : Arr R) (axis : Nat) (c : Option Charge)
    (dual : Option Bool) (hnd : a.sectors.Nodup) : SameContent a (a.expandDims axis c dual) :=
  (sameContent_of_storedData (C07.expandDims_data a axis c dual (allDistinct_iff_nodup.2 hnd))).symm

theorem normSq2_eq_entrySum {S : Type} [AddCommMonoid S] (nsq : R → S) (a : Arr R) :
    C12.normSq2 nsq a = entrySum nsq a := by
  show a.blocks.foldl (fun acc x => acc + (x.2.map nsq).sumAll) 0 = _
  rw [foldl_add_eq_sum, zero_add]
  simp only [entrySum, blkSum, Blk.sumAll, Blk.map, ← Array.foldl_toList, ← List.sum_eq_foldl,
    Array.toList_map]

theorem SameContent.normSq2 [Zero R] {a b : Arr R} (h : SameContent a b) {S : Type}
    [AddCommMonoid S] (nsq : R → S) (h0 : nsq 0 = 0) : C12.normSq2 nsq a = C12.normSq2 nsq b := by
  rw [normSq2_eq_entrySum, normSq2_eq_entrySum]; exact h S nsq h0

def nzEntries [Zero R] [DecidableEq R] (a : Arr R) : List R :=
  a.blocks.flatMap (fun p => p.2.data.toList.filter (fun r => decide (r ≠ 0)))

theorem count_filter_eq_sum [Zero R] [DecidableEq R] (v : R) (l : List R) :
    (l.filter (fun r => decide (r ≠ 0))).count v
      = (l.map (fun r => if r ≠ 0 ∧ r = v then 1 else 0)).sum := by
  induction l with
  | nil => rfl
  | cons x l ih =>
    simp only [List.filter_cons, List.map_cons, List.sum_cons]
    by_cases hx : x ≠ 0
    · simp only [hx, decide_true, if_true, List.count_cons, ih, true_and, ne_eq, not_false_eq_true,
        beq_iff_eq]
      omega
    · have hx0 : x = 0 := by simpa using hx
      subst hx0
      simp only [ne_eq, not_true_eq_false, decide_false, Bool.false_eq_true, if_false, false_and,
        Nat.zero_add]
      exact ih

theorem SameContent.perm_nonzero [Zero R] [DecidableEq R] {a b : Arr R} (h : SameContent a b) :
    (nzEntries a).Perm (nzEntries b) := by
  rw [List.perm_iff_count]
  intro v
  have key : ∀ x : Arr R, (nzEntries x).count v
      = entrySum (M := Nat) (fun r => if r ≠ 0 ∧ r = v then 1 else 0) x := by
    intro x
    simp only [nzEntries, List.count_flatMap, entrySum, blkSum, Function.comp_def,
      count_filter_eq_sum]
  rw [key, key]
  exact h Nat _ (by simp)

end content

section size

theorem sumN_eq_sum (l : List Nat) : sumN l = l.sum := by
  induction l with
  | nil => rfl
  | cons d ds ih => simp [sumN, ih]

theorem sum_map_mul_left' {α : Type} (l : List α) (r : Nat) (f : α → Nat) :
    (l.map (fun i => r * f i)).sum = r * (l.map f).sum := by
  induction l with
  | nil => simp
  | cons a l ih => simp [ih, Nat.mul_add]

theorem sum_cartesian_prod (ls : List (List (Charge × Nat))) :
    ((cartesian ls).map (fun e => prod (e.map (·.2)))).sum
      = prod (ls.map (fun l => (l.map (·.2)).sum)) := by
  induction ls with
  | nil => simp [cartesian, prod]
  | cons l ls ih =>
    simp only [cartesian, List.map_cons, prod]
    rw [sum_map_flatMap]
    simp only [List.map_map, Function.comp_def, List.map_cons, prod]
    rw [sum_map_congr (fun a _ => sum_map_mul_left' (cartesian ls) a.2 (fun r => prod (r.map (·.2))))]
    rw [ih]
    induction l with
    | nil => simp
    | cons a l ih2 => simp [ih2, Nat.add_mul]

theorem sum_le_sum_of_subset {α : Type} [DecidableEq α] {L K : List α} (hL : L.Nodup) (hK : K.Nodup)
    (hsub : ∀ x ∈ K, x ∈ L) (f : α → Nat) : (K.map f).sum ≤ (L.map f).sum := by
  have hp := (List.filter_append_perm (fun x => decide (x ∈ K)) L).map f
  rw [← hp.sum_eq, List.map_append, List.sum_append]
  have hperm : (L.filter (fun x => decide (x ∈ K))).Perm K := by
    rw [List.perm_ext_iff_of_nodup (hL.filter _) hK]
    intro x
    simp only [List.mem_filter, decide_eq_true_eq]
    exact ⟨fun hx => hx.2, fun hx => ⟨hsub x hx, hx⟩⟩
  rw [(hperm.map f).sum_eq]
  omega

theorem prod_le_prod {l1 l2 : List Nat} (h : List.Forall₂ (· ≤ ·) l1 l2) : prod l1 ≤ prod l2 := by
  induction h with
  | nil => exact Nat.le_refl _
  | cons hab _ ih => exact Nat.mul_le_mul hab ih

/-- **a well-formed fused index is at most as large as the product of its sub-indices** (smaller under
    "sparse fusing", when not every combination of sub-charges occurs; only `≤` is proved) -/
theorem sizeTotal_le_prod_subs {sym : Sym} {ix : Index} (hw : Index.wfB sym ix = true)
    {subs : List Index} {exts : Extents} (hs : ix.sub = some (subs, exts)) :
    ix.sizeTotal ≤ prod (subs.map Index.sizeTotal) := by
  classical
  have hsorted := sorted_of_wfB hw
  have hcmnd : (ix.cm.map (·.1)).Nodup := nodup_of_pairwise_lt hsorted
  have hext : ∀ cd ∈ ix.cm, ∃ e, alookup exts cd.1 = some e
      ∧ FuseP.ExtentOk sym ix.dual subs cd.1 cd.2 e := fun cd hcd =>
    FuseP.wfB_cm_extent hw hs (alookup_of_mem_nodup hcmnd hcd)
  have hsubs : ∀ s ∈ subs, (s.cm.map (·.1)).Nodup := by
    intro s hs'
    exact nodup_of_pairwise_lt (sorted_of_wfB (wfB_of_wfListB (Index.wfB_sub hw hs).1 s hs'))
  let f : Sector → Nat := fun ss => prod ((Arr.blockShape? subs ss).getD [])
  let S : List Sector := ix.cm.flatMap (fun cd => ((alookup exts cd.1).getD []).map (·.1))
  -- the size is the sum of `f` over all sub-sectors of all extents
  have h1 : ix.sizeTotal = (S.map f).sum := by
    simp only [Index.sizeTotal, sumN_eq_sum, S]
    rw [sum_map_flatMap]
    simp only [List.map_map, Function.comp_def]
    apply sum_map_congr
    intro cd hcd
    obtain ⟨e, he, hok⟩ := hext cd hcd
    simp only [he, Option.getD_some]
    rw [← hok.total, sumN_eq_sum]
    apply sum_map_congr
    intro q hq
    obtain ⟨_, ⟨shp, hshp, hprod⟩, _⟩ := hok.entry q.1 q.2 hq
    simp only [f, hshp, Option.getD_some, hprod]
  -- the sub-sectors are distinct and lie in the product of the sub-tables
  have hSnd : S.Nodup := by
    rw [List.nodup_flatMap]
    constructor
    · intro cd hcd
      obtain ⟨e, he, hok⟩ := hext cd hcd
      simp only [he, Option.getD_some]
      exact hok.nodup
    · have hnd : ix.cm.Nodup := List.Nodup.of_map _ hcmnd
      refine List.Pairwise.imp_of_mem ?_ hnd
      intro c1 c2 h1' h2' hne
      simp only [Function.onFun, List.disjoint_left]
      intro ss hs1 hs2
      obtain ⟨e1, he1, hok1⟩ := hext c1 h1'
      obtain ⟨e2, he2, hok2⟩ := hext c2 h2'
      simp only [he1, he2, Option.getD_some, List.mem_map] at hs1 hs2
      obtain ⟨q1, hq1, rfl⟩ := hs1
      obtain ⟨q2, hq2, hq⟩ := hs2
      have k1 := (hok1.entry q1.1 q1.2 hq1).2.2
      have k2 := (hok2.entry q2.1 q2.2 hq2).2.2
      rw [hq, k1] at k2
      apply hne
      have h1'' := alookup_of_mem_nodup hcmnd h1'
      have h2'' := alookup_of_mem_nodup hcmnd h2'
      rw [k2, h2''] at h1''
      exact Prod.ext k2 (Option.some.inj h1'').symm
  have hC : (cartesian ((tables subs).map (List.map (·.1)))).Nodup := by
    apply cartesian_nodup
    intro l hl
    simp only [tables, List.map_map, List.mem_map, Function.comp] at hl
    obtain ⟨s, hs', rfl⟩ := hl
    exact nodup_keys_sortCm (hsubs s hs')
  have hSsub : ∀ ss ∈ S, ss ∈ cartesian ((tables subs).map (List.map (·.1))) := by
    intro ss hss
    simp only [S, List.mem_flatMap, List.mem_map] at hss
    obtain ⟨cd, hcd, q, hq, rfl⟩ := hss
    obtain ⟨e, he, hok⟩ := hext cd hcd
    simp only [he, Option.getD_some] at hq
    obtain ⟨_, ⟨shp, hshp, _⟩, _⟩ := hok.entry q.1 q.2 hq
    exact mem_cartesian_of_blockShape? hshp
  rw [h1]
  refine Nat.le_trans (sum_le_sum_of_subset hC hSnd hSsub f) ?_
  rw [cartesian_map, List.map_map]
  have h2 : ((cartesian (tables subs)).map (f ∘ List.map (·.1))).sum
      = ((cartesian (tables subs)).map (fun e => prod (e.map (·.2)))).sum := by
    apply sum_map_congr
    intro e he
    simp only [Function.comp, f, blockShape?_of_mem_cartesian hsubs he, Option.getD_some]
  rw [h2, sum_cartesian_prod]
  apply Nat.le_of_eq
  congr 1
  simp only [tables, List.map_map, Function.comp_def]
  apply List.map_congr_left
  intro s _
  rw [← sumN_eq_sum, sumN_sortCm]; rfl

end size

section sim
open C07

/-- an actual index is described by a symbolic axis: not larger than the symbolic size, and
    where the symbolic axis is fused the index is fused with as many sub-indices, each not larger
    than the symbolic sub-size -/
def AxisRel (ix : Index) (e : Nat × Option (List Nat)) : Prop :=
  ix.sizeTotal ≤ e.1 ∧ ∀ sz, e.2 = some sz → ∃ subs exts, ix.sub = some (subs, exts)
    ∧ List.Forall₂ (fun (s : Index) d => s.sizeTotal ≤ d) subs sz

/-- the simulation invariant between an array and a symbolic shape -/
structure Sim (x : Arr R) (st : SymShape) : Prop where
  valid : x.validB = true
  abelian : x.fermi = false
  axes : List.Forall₂ AxisRel x.indices st

theorem sim_init (a : Arr R) (hv : a.validB = true) (hf : a.fermi = false) :
    Sim a (a.shape.zip a.subsizes) := by
  refine ⟨hv, hf, ?_⟩
  simp only [Arr.shape, Arr.subsizes, List.zip_map']
  rw [List.forall₂_map_right_iff]
  apply List.forall₂_same.mpr
  intro ix _
  refine ⟨Nat.le_refl _, fun sz hsz => ?_⟩
  cases hs : ix.sub with
  | none => simp [hs] at hsz
  | some se =>
    obtain ⟨subs, exts⟩ := se
    simp only [hs, Option.map_some, Option.some.injEq] at hsz
    subst hsz
    refine ⟨subs, exts, rfl, ?_⟩
    rw [List.forall₂_map_right_iff]
    exact List.forall₂_same.mpr (fun _ _ => Nat.le_refl _)

theorem sim_unfuse [Zero R] [Neg R] {x x' : Arr R} {st st' : SymShape} {ax : Nat} (hs : Sim x st)
    (hsym : symUnfuse st ax = some st') (h : unfuseDispatch x ax = .ok x') :
    Sim x' st' ∧ SameContent x x' := by
  have hA : unfuseA x ax = .ok x' := by simpa [unfuseDispatch, hs.abelian] using h
  obtain ⟨ix, subs, exts, hix, hsub, hidx⟩ := ValidP.unfuseA_indices hA
  refine ⟨⟨C01.unfuseA_valid x x' ax hs.valid hs.abelian hA,
    by rw [(ValidP.unfuseA_fields hA).2.1, hs.abelian], ?_⟩, unfuseA_sameContent x x' ax hs.valid hA⟩
  simp only [symUnfuse] at hsym
  cases he : st[ax]? with
  | none => simp [he] at hsym
  | some e =>
    obtain ⟨d, osz⟩ := e
    cases osz with
    | none => simp [he] at hsym
    | some sz =>
      simp only [he, Option.some.injEq] at hsym
      subst hsym
      obtain ⟨_, hrel⟩ := forall₂_getElem? hs.axes hix he
      obtain ⟨subs', exts', hsub', hsz⟩ := hrel sz rfl
      rw [hsub] at hsub'
      simp only [Option.some.injEq, Prod.mk.injEq] at hsub'
      obtain ⟨rfl, rfl⟩ := hsub'
      rw [hidx]
      show List.Forall₂ AxisRel (x.indices.take ax ++ subs ++ x.indices.drop (ax + 1)) _
      refine List.rel_append (List.rel_append (List.forall₂_take ax hs.axes) ?_)
        (List.forall₂_drop (ax + 1) hs.axes)
      rw [List.forall₂_map_right_iff]
      exact hsz.imp (fun {s d} hsd => ⟨hsd, fun sz' h' => by simp at h'⟩)

theorem sim_expand [Zero R] {x x' : Arr R} {st st' : SymShape} {ax : Nat} (hs : Sim x st)
    (hsym : symExpand st ax = some st') (h : expandDispatch x ax = .ok x') :
    Sim x' st' ∧ SameContent x x' := by
  have hlen : x.indices.length = st.length := hs.axes.length_eq
  simp only [symExpand] at hsym
  split at hsym
  · rename_i hle
    injection hsym with hsym; subst hsym
    have hle' : ax ≤ x.ndim := by simpa [Arr.ndim, hlen] using hle
    have hx' : x' = x.expandDims ax none none := by
      simp only [expandDispatch, Nat.not_lt.mpr hle', if_false, pure, Except.pure] at h
      exact (Except.ok.inj h).symm
    subst hx'
    have hva := FuseP.validArr_of_validB hs.valid
    refine ⟨⟨C01.expandDims_none_valid x ax none hs.valid, hs.abelian, ?_⟩,
      expandDims_sameContent x ax none none hva.nodup⟩
    rw [(expandDims_frame x ax none none).1]
    show List.Forall₂ AxisRel (x.indices.take ax ++ [_] ++ x.indices.drop ax) _
    refine List.rel_append (List.rel_append (List.forall₂_take ax hs.axes) ?_)
      (List.forall₂_drop ax hs.axes)
    refine List.Forall₂.cons ⟨?_, fun sz h' => by simp at h'⟩ List.Forall₂.nil
    simp [Index.sizeTotal, Index.cm, sumN]
  · cases hsym

theorem groupsOk_of_flat {G : List (List Nat)} {P n : Nat} (hne : G ≠ []) (hg : ∀ g ∈ G, g ≠ [])
    (hflat : G.flatten = List.range' P G.flatten.length) (hle : P + G.flatten.length ≤ n) :
    FuseP.GroupsOk G n := by
  refine ⟨hne, hg, ?_, ?_⟩
  · intro ax hax
    rw [hflat, List.mem_range'_1] at hax; omega
  · rw [hflat]; exact List.nodup_range'

theorem groupsOk_of_symFuse {st st' : SymShape} {groups : List (List Nat)} {n : Nat}
    (h : symFuse st groups = some st') (hn : st.length = n) : FuseP.GroupsOk groups n := by
  obtain ⟨p, hflat, hlenpos, hne, hle, _⟩ := symFuse_spec h
  exact groupsOk_of_flat (fun hg => by rw [hg] at hlenpos; simp at hlenpos) hne hflat (by omega)

theorem groupInfo_run (a : Arr R) {G : List (List Nat)} {P : Nat} (hok : FuseP.GroupsOk G a.ndim)
    (hflat : G.flatten = List.range' P G.flatten.length) (hle : P + G.flatten.length ≤ a.ndim) :
    (calcFuseGroupInfo G a.duals).position = P
      ∧ (calcFuseGroupInfo G a.duals).perm = List.range a.ndim := by
  have hdl := FuseP.duals_length a
  have hpos := List.length_pos_iff.mpr hok.flatten_ne
  obtain ⟨_, _, hperm⟩ := ValidP.groupInfo_consecutive (duals := a.duals) hflat hpos
    (by rw [hdl]; exact hle)
  refine ⟨?_, hdl ▸ hperm⟩
  obtain ⟨h1, h2⟩ := FuseP.position_spec (duals := a.duals) (hdl.symm ▸ hok)
  rw [hflat, List.mem_range'_1] at h1
  have := h2 P (by rw [hflat, List.mem_range'_1]; omega)
  omega

theorem fuse_indices [Zero R] {x x' : Arr R} {groups : List (List Nat)} {p : Nat}
    (hv : x.validB = true) (hok : FuseP.GroupsOk groups x.ndim)
    (hflat : groups.flatten = List.range' p groups.flatten.length)
    (hle : p + groups.flatten.length ≤ x.ndim) (h : fuseCore x groups .insert = .ok x') :
    x'.indices = x.indices.take p ++ FuseP.newMidOf x groups ++ x.indices.drop (p + groups.flatten.length) := by
  have hva := FuseP.validArr_of_validB hv
  rw [FuseP.fuseCore_multi_eq hva hok.adm] at h
  injection h with h
  rw [← h]
  show (FuseP.fuseInfoOf x groups).newIndices = _
  obtain ⟨hb, ha, _⟩ := ValidP.groupInfo_consecutive (duals := x.duals) hflat
    (List.length_pos_iff.mpr hok.flatten_ne) (by rw [FuseP.duals_length]; exact hle)
  simp only [FuseP.fuseInfoOf]
  rw [hb, ha, FuseP.duals_length]
  have h2 : permuted x.indices (List.range' (p + groups.flatten.length) (x.ndim - (p + groups.flatten.length)))
      = x.indices.drop (p + groups.flatten.length) := by
    rw [ValidP.range'_eq_drop_range]; exact ValidP.permuted_range_drop _ _
  rw [ValidP.permuted_range_take, h2]

theorem prod_sizes_rel {x : Arr R} {st : SymShape} (hax : List.Forall₂ AxisRel x.indices st)
    (gaxes : List Nat) (hlt : ∀ ax ∈ gaxes, ax < x.indices.length) :
    List.Forall₂ (fun (s : Index) d => s.sizeTotal ≤ d)
      (gaxes.map (fun ax => x.indices.getD ax default))
      (gaxes.map (fun ax => (st.getD ax (0, none)).1)) := by
  rw [List.forall₂_map_left_iff, List.forall₂_map_right_iff]
  apply List.forall₂_same.mpr
  intro ax hax'
  have h1 : ax < x.indices.length := hlt ax hax'
  have h2 : ax < st.length := by rw [← hax.length_eq]; exact h1
  have := forall₂_getElem? hax (List.getElem?_eq_getElem h1) (List.getElem?_eq_getElem h2)
  simp only [List.getD_eq_getElem?_getD, List.getElem?_eq_getElem h1, List.getElem?_eq_getElem h2,
    Option.getD_some]
  exact this.1

theorem sim_fuse [Zero R] [Neg R] {x x' : Arr R} {st st' : SymShape} {groups : List (List Nat)}
    (hs : Sim x st) (hsym : symFuse st groups = some st') (h : fuseDispatch x groups = .ok x') :
    Sim x' st' ∧ SameContent x x' := by
  obtain ⟨p, hflat, hlenpos, hne, hle, rfl⟩ := symFuse_spec hsym
  have hlen : x.indices.length = st.length := hs.axes.length_eq
  have hle' : p + groups.flatten.length ≤ x.ndim := by simpa [Arr.ndim, hlen] using hle
  have hok : FuseP.GroupsOk groups x.ndim := groupsOk_of_symFuse hsym hlen.symm
  have hokB : FuseP.groupsOkB groups x.ndim = true := FuseP.groupsOk_iff.2 hok
  have hA : fuseA x groups = .ok x' := by simpa [fuseDispatch, hs.abelian] using h
  have hC : fuseCore x groups .insert = .ok x' := by
    rw [← C05.fuseA_eq_fuseCore x groups .insert true x.ndim hokB]; exact hA
  have hvx' := C01.fuseCore_valid x x' groups hs.valid hs.abelian (fuseAdmissible_of_groupsOk hokB) hC
  have hfx' : x'.fermi = false := by
    have hva := FuseP.validArr_of_validB hs.valid
    rw [FuseP.fuseCore_multi_eq hva hok.adm] at hC
    injection hC with hC; rw [← hC]; exact hs.abelian
  refine ⟨⟨hvx', hfx', ?_⟩, fuseCore_sameContent x x' groups hs.valid hs.abelian hokB hC⟩
  have hidx := fuse_indices hs.valid hok hflat hle' hC
  rw [hidx]
  refine List.rel_append (List.rel_append (List.forall₂_take p hs.axes) ?_)
    (List.forall₂_drop (p + groups.flatten.length) hs.axes)
  rw [List.forall₂_iff_get]
  refine ⟨by rw [FuseP.newMidOf_length, List.length_map], fun i h1 h2 => ?_⟩
  have hi : i < groups.length := by simpa using h2
  have hgi : groups[i]? = some groups[i] := List.getElem?_eq_getElem hi
  have hmem : groups[i] ∈ groups := List.getElem_mem hi
  have hlt : ∀ ax ∈ groups[i], ax < x.indices.length := by
    intro ax hax
    have : ax ∈ groups.flatten := List.mem_flatten.mpr ⟨_, hmem, hax⟩
    have := hok.lt ax this
    simpa [Arr.ndim] using this
  simp only [List.get_eq_getElem, List.getElem_map]
  have hF : (FuseP.newMidOf x groups)[i] = (if groups[i].length == 1 then x.indices.getD (groups[i].headD 0) default
      else FuseP.fusedIndexOf (FuseP.tableEntries (FuseP.blockmapOf x groups) (calcFuseGroupInfo groups x.duals).position i)
        ((calcFuseGroupInfo groups x.duals).groupDuals.getD i false)
        (groups[i].map (fun ax => x.indices.getD ax default))) := by
    simp [FuseP.newMidOf]
  rw [hF]
  rcases hg : groups[i] with _ | ⟨a0, _ | ⟨a1, rest⟩⟩
  · exact absurd hg (hne _ hmem)
  · simp only [List.length_singleton, beq_self_eq_true, if_true, List.headD_cons, symGroup]
    have h1' : a0 < x.indices.length := hlt a0 (by rw [hg]; simp)
    have h2' : a0 < st.length := by rw [← hlen]; exact h1'
    have := forall₂_getElem? hs.axes (List.getElem?_eq_getElem h1') (List.getElem?_eq_getElem h2')
    simpa [List.getD_eq_getElem?_getD, List.getElem?_eq_getElem h1', List.getElem?_eq_getElem h2'] using this
  · have hl1 : ((a0 :: a1 :: rest).length == 1) = false := by simp
    simp only [hl1, Bool.false_eq_true, if_false, symGroup]
    rw [hg] at hlt
    set ix' := FuseP.fusedIndexOf (FuseP.tableEntries (FuseP.blockmapOf x groups)
        (calcFuseGroupInfo groups x.duals).position i)
      ((calcFuseGroupInfo groups x.duals).groupDuals.getD i false)
      ((a0 :: a1 :: rest).map (fun ax => x.indices.getD ax default)) with hix'
    have hsub : ix'.sub = some ((a0 :: a1 :: rest).map (fun ax => x.indices.getD ax default),
        (accumExtents (isort (fun x y => sectorLt x.1 y.1) (adict (FuseP.tableEntries (FuseP.blockmapOf x groups)
          (calcFuseGroupInfo groups x.duals).position i)))).2) := rfl
    have hmem' : ix' ∈ x'.indices := by
      rw [hidx]
      apply List.mem_append_left
      apply List.mem_append_right
      have : (FuseP.newMidOf x groups)[i]'h1 = ix' := by rw [hF, hg]; simp only [hl1, Bool.false_eq_true, if_false]; rfl
      rw [← this]; exact List.getElem_mem h1
    have hw := (FuseP.validArr_of_validB hvx').idx ix' hmem'
    have hrel := prod_sizes_rel hs.axes (a0 :: a1 :: rest) hlt
    refine ⟨Nat.le_trans (sizeTotal_le_prod_subs hw hsub) (prod_le_prod ?_), fun sz hsz => ?_⟩
    · rw [List.forall₂_map_left_iff]
      exact hrel.imp (fun {s d} h => h)
    · injection hsz with hsz
      subst hsz
      exact ⟨_, _, hsub, hrel⟩

theorem applyPlan_sim [Zero R] [Neg R] (a r : Arr R) (t : List Nat × List (List (List Nat)) × List Nat)
    (newshape : List Nat) (hv : a.validB = true) (hf : a.fermi = false)
    (hwf : (Plan.ofTriple t).wfB a.shape a.subsizes newshape = true)
    (h : applyPlan a t = .ok r) :
    ∃ st, Sim r st ∧ SymShape.sizes st = newshape ∧ SameContent a r := by
  obtain ⟨_, st3, hexec, hsizes⟩ := wfB_iff.mp hwf
  obtain ⟨hs, hc⟩ := applyPlan_lockstep (I := fun st x => Sim x st) SameContent.refl SameContent.trans
    (fun _ _ _ _ _ hs => sim_unfuse hs) (fun _ _ _ _ _ hs => sim_fuse hs)
    (fun _ _ _ _ _ hs => sim_expand hs) (sim_init a hv hf) hexec h
  exact ⟨st3, hs, hsizes, hc⟩

theorem Sim.axes_le {x : Arr R} {st : SymShape} (h : Sim x st) :
    x.ndim = st.length ∧ List.Forall₂ (fun (ix : Index) d => ix.sizeTotal ≤ d) x.indices (SymShape.sizes st) := by
  refine ⟨h.axes.length_eq, ?_⟩
  simp only [SymShape.sizes]
  rw [List.forall₂_map_right_iff]
  exact h.axes.imp (fun {ix e} hr => hr.1)

theorem reshapeArr_eq [Zero R] [Neg R] (a : Arr R) (ns : List Int) (full : List Int) (nsN : List Nat)
    (t : List Nat × List (List (List Nat)) × List Nat)
    (h1 : findFullReshape ns a.size = .ok full)
    (h2 : full.mapM (fun (d : Int) => if d < 0 then (throw Err.notimpl : Except Err Nat) else pure d.toNat)
      = .ok nsN)
    (h3 : calcReshapeArgs a.shape nsN a.subsizes = .ok t) :
    reshapeArr a ns = applyPlan a t := by
  simp only [reshapeArr, bind, Except.bind, h1, h2, h3]

end sim

end ReshapeP
end SymmModel
