/-
  SymmModel.Proofs.NormNet1 — network form of the norm (property C10):
  scalar laws, the bra tensor `braOf` of a network tensor and its frame / value view / validity.

  MAP OF THE REGION (Proofs/NormLemmas, NormNetLabels, NormNet*, NetNorm*; Props/C10*).  Imports: NormLemmas →
  NormNetLabels / NormNet1; the NormNet files in the order of their numbers (1–17, 19–24) → the NetNorm files
  in the order of their numbers (1–3, 7–12) → NetNormK1–K3 (C10i: the triangle through `ā·a`) → NetNormL1–L3
  (C10j: the hub) → NetNormL4 (the hub in any mode; a leaf) and, beside it, NetNormL3 → NetNormM1–M3 (C10k:
  mirror images).

  WHAT A NETWORK THEOREM TAKES.  There is no input record.  A two-tensor "ket network" is the eight hypotheses
      `ha hb : validB`, `hfa hfb : fermi`, `hadm : ValidP.tdotAdmissibleB a b xa xb`,
      `hoA hoB : KetLabels _.oddpos` (NormNet3), `hd : (a.oddpos ++ b.oddpos).Pairwise (·.1 ≠ ·.1)`;
  the first five are `RoutesP.Adm a b xa xb` (`Adm.of`), weakened by `AssocP.AdmW.ofAdm` to the guard that
  intermediate results satisfy.  Chains take `Assoc3P.Seg`s with `Assoc4P.LeafOK` / `Link`.
  Scalars: `Norm.NormLaws` (NormLemmas) ⊂ `NetLaws` (here; contains `GradedP.SignRing`), with `AssocLaws` from
  NormNet11 on; `hmul` (commutative `*`) wherever S5 enters; `hz1 hz2` (`0·x = x·0 = 0`) for modes — explicit
  hypotheses of the tools (`pad_call`, `half_of_call`, `step_mode`, …), taken from `AssocLaws.zero_mul` /
  `AssocLaws.mul_zero` by the theorems that have `[AssocLaws R]`.  The hypothesis `netLabelsB … = true` of some
  statements of Props/C10* is implied by `hd` (`LabelAlg.netLabelsB_of_distinct`, NormNet10); no proof uses it.
  ONE ROTATION has three names: `Assoc5P.rotB m k` = `rotAx m k` (NormNet16, `rotAx_eq_rotB`), and
  `crossAx k m = rotAx m k` (NormNet22; `C10.crossAx_eq_rotAx`).

  THE RECORDS are, with two exceptions, RESULTS of theorems (their fields list calls that succeed and what is
  known of the results), re-opened by the callers:
    record (file)                     made by                          taken by
    `Halves` (NormNet6)               `network_norm_halves`            `net_setup`, `Halves.adm`, `halves_final_any`
                                                                       (NormNet17: B1/B2 in any mode over a GIVEN record)
    `NetSetup` ⊃ `Halves` (NormNet11) `net_setup` (NormNet15)          `sequential_of_setup` (NormNet14) — like
                                                                       `halves_final_any` stated over a given record
    `TwoNets` (NormNet23)             `network_norm_mixed`             NormNet24, NetNorm2, NetNormK3, NetNormL3
    `Piece` (NetNormL1), `MPiece` (M2) `piece_of`, `mpiece_of`          `hub_half`, `mirror_half`, `mirror_tri`
    `HubHalf` (NetNormL2)             `hub_half`                       `hub_all`, `hub_value`, `hub_half_any`, mirrors
    `HubHalfM` (NetNormL4)            `hub_half_any`                   `ketbra_all_any`
    `MirrorHalf` (M2), `MirrorTri` (M3) `mirror_half`, `mirror_tri`     `mirror_hub_of`, `mirror_tris_of`
  "the same piece blockwise and in any mode" — ONE notion in three records: `Half` (NormNet17; a frame given),
  `HalfPair` (NormNet19; the conjugated frame of `p·q`, plus `sym`), `ModeInv` (NetNorm12; plus the bond lists
  of a `Seg`); the last two ARE a `Half` (`HalfPair.half`, `ModeInv.half`), and a `Half` gives a `Net4P.PadA`
  (`Half.padA`).  Made by one `Net4P.pad_call` per call (`half_of_call`, `HalfPair.of_call`, `step_mode`); taken by
  `half_call_any` (NormNet17: a call on two `Half`s along legs opposite in their frames, in any mode; the guards
  from the frames alone, `commonB_of_frames`, NormNet13).
  The induction invariant of the chains: `BraInv` (NetNorm10; `.start`, `.step`, taken by `chain_conj`).
  The whole-network statements (`Bracketings6`, `Bracketings6M`, `MixedM`, `ChainNorm…`, `KetBraHub`, `KetBraAll`,
  `MirrorHub`, `MirrorAll`, …) are `def … : Prop := ∃ … ∧ …` — conclusions written out for Props/C10*.

  RECIPES.  Value: `Adm.of` → `AdmW.ofAdm` → `conj_tensordot_spared_w` (NormNet5: the bra contraction is the bra
  tensor of the ket contraction) → `norm_of_obs` (NormNet6) → `Halves`.  Sequential routes: `net_setup` →
  `sequential_of_setup` (S7 for the triangle half – tensor – tensor, guards from the frame of the half:
  NormNet13).  Other operand orders: `NormNet.swap_eqv` + the scalar steps `scalar_pre`, `scalar_congr` (NormNet22),
  `scal_pre_congr`, `scal_swap_first` (NetNormK1), `scalar_swap` (NetNormL2); a `Scal c v` is carried by
  `Scal.transfer`, `Scal.of_eqv`, `Scal.of_pad` (NetNormK1).  Through `ā·a`: `piece_of` →
  `hub_half` → `hub_all` (NetNormL3).  A new MODE: one `Net4P.pad_call` per call, which needs the blockwise
  `AdmW` of every later call beside the one of the padded operands (what `HubHalf.wXY wBX wXB` are).
-/
import SymmModel.Proofs.NormLemmas
import SymmModel.Proofs.Routes
namespace SymmModel.NormNet
open SymmModel SymmModel.Lazy SymmModel.Norm SymmModel.TdotP SymmModel.GradedP SymmModel.RoutesP
set_option linter.unusedSectionVars false

/-- the laws of `NormLaws` plus: conjugation is additive and multiplicative -/
class NetLaws (R : Type) [AddMonoid R] [Mul R] [Neg R] [Conj R] : Prop extends NormLaws R where
  conj_add : ∀ x y : R, Conj.conj (x + y) = Conj.conj x + Conj.conj y
  conj_mul : ∀ x y : R, Conj.conj (x * y) = Conj.conj x * Conj.conj y

instance : NetLaws Int where
  conj_add := fun _ _ => rfl
  conj_mul := fun _ _ => rfl

theorem netLaws_GRat :
    @NetLaws GRat C02.addCommMonoidGRat.toAddMonoid GRat.instMul GRat.instNeg GRat.instConj :=
  @NetLaws.mk GRat C02.addCommMonoidGRat.toAddMonoid _ _ _ normLaws_GRat
    (fun x y => by
      apply GRat.ext'
      · rfl
      · show -(x.im + y.im) = -x.im + -y.im; ring)
    (fun x y => by
      apply GRat.ext'
      · show x.re * y.re - x.im * y.im = x.re * y.re - (-x.im) * (-y.im); ring
      · show -(x.re * y.im + x.im * y.re) = x.re * (-y.im) + (-x.im) * y.re; ring)

section laws
variable {R : Type} [AddMonoid R] [Mul R] [Neg R] [Conj R]

/-- `NormLaws` contains the laws of `GradedP.SignRing` -/
instance signRing_of_normLaws [NormLaws R] : SignRing R where
  neg_neg := LawfulNeg.neg_neg
  neg_zero := LawfulNeg.neg_zero
  neg_add := NormLaws.neg_add
  neg_mul := NormLaws.neg_mul
  mul_neg := NormLaws.mul_neg

variable [NetLaws R]

theorem conj_sgnI (σ : Int) (x : R) : Conj.conj (sgnI σ x) = sgnI σ (Conj.conj x) := by
  unfold sgnI; split
  · exact LawfulNegConj.conj_neg x
  · rfl

theorem conj_sum {α : Type} (f : α → R) (l : List α) :
    Conj.conj (l.map f).sum = (l.map (fun k => Conj.conj (f k))).sum := by
  induction l with
  | nil => simpa using (LawfulNegConj.conj_zero : Conj.conj (0 : R) = 0)
  | cons a l ih => simp only [List.map_cons, List.sum_cons, NetLaws.conj_add, ih]

end laws

section bra
variable {R : Type} [Zero R] [Neg R] [Conj R]

/-- the dangling (not contracted) legs of `a` that are bra-like -/
def dangDual (a : Arr R) (xa : List Nat) : List Nat :=
  (freeAxes a.ndim xa).filter (fun ax => (a.indices.getD ax default).dual)

omit [Zero R] [Neg R] [Conj R] in
/-- `dangDual` sees the bond legs only as a set -/
theorem dangDual_congr (a : Arr R) {x y : List Nat} (h : ∀ ax, ax ∈ x ↔ ax ∈ y) :
    dangDual a x = dangDual a y := by
  unfold dangDual; rw [freeAxes_congr a.ndim h]

omit [Zero R] [Neg R] [Conj R] in
theorem dangDual_eq (a : Arr R) (xa : List Nat) :
    dangDual a xa = (List.range a.ndim).filter
      (fun ax => (a.indices.getD ax default).dual && !xa.contains ax) := by
  unfold dangDual freeAxes; rw [List.filter_filter]

/-- the bra tensor of a network tensor whose legs `xa` are bonds: `a.conj()` (default options),
    then `phase_flip` of the dangling legs that were bra-like -/
def braOf (a : Arr R) (xa : List Nat) : Arr R := (a.conjF).phaseFlip (dangDual a xa)

theorem braOf_frame (a : Arr R) (xa : List Nat) :
    (braOf a xa).sym = a.sym ∧ (braOf a xa).fermi = a.fermi
      ∧ (braOf a xa).indices = a.indices.map Index.conj
      ∧ (braOf a xa).charge = a.sym.sign a.charge true
      ∧ (braOf a xa).oddpos = Arr.oddposDag a.oddpos
      ∧ skel (braOf a xa) = skel a := by
  obtain ⟨h1, h2, h3, h4, h5, h6⟩ := conjF_frame a true false
  obtain ⟨g1, g2, g3, g4, g5, g6⟩ := phaseFlip_frame (a.conjF) (dangDual a xa)
  unfold braOf
  exact ⟨g1.trans h1, g2.trans h2, g3.trans h3, g4.trans h4, g5.trans h5, by
    unfold skel at h6 ⊢; rw [phaseFlip_blocks]; exact h6⟩

theorem braOf_sym (a : Arr R) (xa : List Nat) : (braOf a xa).sym = a.sym := (braOf_frame a xa).1

theorem braOf_fermi_eq (a : Arr R) (xa : List Nat) : (braOf a xa).fermi = a.fermi :=
  (braOf_frame a xa).2.1

theorem braOf_indices (a : Arr R) (xa : List Nat) :
    (braOf a xa).indices = a.indices.map Index.conj := (braOf_frame a xa).2.2.1

theorem braOf_charge (a : Arr R) (xa : List Nat) :
    (braOf a xa).charge = a.sym.sign a.charge true := (braOf_frame a xa).2.2.2.1

theorem braOf_oddpos (a : Arr R) (xa : List Nat) :
    (braOf a xa).oddpos = Arr.oddposDag a.oddpos := (braOf_frame a xa).2.2.2.2.1

theorem braOf_skel (a : Arr R) (xa : List Nat) : skel (braOf a xa) = skel a :=
  (braOf_frame a xa).2.2.2.2.2

theorem braOf_sectors (a : Arr R) (xa : List Nat) : (braOf a xa).sectors = a.sectors := by
  rw [← skel_sectors, braOf_skel a xa, skel_sectors]

theorem braOf_ndim (a : Arr R) (xa : List Nat) : (braOf a xa).ndim = a.ndim := by
  unfold Arr.ndim; rw [braOf_indices a xa, List.length_map]

theorem braOf_parity (a : Arr R) (xa : List Nat) : (braOf a xa).parity = a.parity := by
  unfold Arr.parity
  rw [braOf_sym a xa, braOf_charge a xa, Sym.parity_sign]

theorem braOf_parities (a : Arr R) (xa : List Nat) (s : Sector) :
    (braOf a xa).parities s = a.parities s := by
  unfold Arr.parities; rw [braOf_sym a xa]

def braSign (a : Arr R) (xa : List Nat) (s : Sector) : Int :=
  flipSign a.sym (dangDual a xa) s * conjTotSign a true false s

theorem braSign_pm (a : Arr R) (xa : List Nat) (s : Sector) :
    braSign a xa s = 1 ∨ braSign a xa s = -1 :=
  mul_pm (flipSign_pm _ _ _) (conjTotSign_pm _ _ _ _)

theorem braOf_elem [LawfulNegConj R] (a : Arr R) (xa : List Nat) (h : SignOk a) (s : Sector)
    (off : List Nat) :
    (braOf a xa).elem s off = sgnI (braSign a xa s) (Conj.conj (a.elem s off)) := by
  unfold braOf braSign
  rw [phaseFlip_elem _ _ (h.conjF true false), conjF_elem a true false h,
    (conjF_frame a true false).1, sgnI_mul (flipSign_pm _ _ _) (conjTotSign_pm _ _ _ _)]

theorem braOf_valid (a : Arr R) (xa : List Nat) (hv : a.validB = true) (hf : a.fermi = true) :
    (braOf a xa).validB = true := by
  rw [ValidP.validB_iff] at hv ⊢
  unfold braOf
  exact ValidP.phaseFlip_valid _ _ (ValidP.conjF_valid a true false hv hf)
    ((conjF_frame a true false).2.1.trans hf)

theorem braOf_fermi (a : Arr R) (xa : List Nat) (hf : a.fermi = true) : (braOf a xa).fermi = true :=
  (braOf_fermi_eq a xa).trans hf

theorem getD_map_conj (idx : List Index) (i : Nat) (hi : i < idx.length) :
    (idx.map Index.conj).getD i default = (idx.getD i default).conj :=
  getD_map_of_lt Index.conj idx i default default hi

end bra

section swap
variable {R : Type}

theorem mem_zip_swap {α β : Type} {l : List α} {m : List β} {p : β × α} (h : p ∈ m.zip l) :
    (p.2, p.1) ∈ l.zip m := by
  obtain ⟨i, hi, rfl⟩ := List.mem_iff_getElem.mp h
  simp only [List.length_zip] at hi
  apply List.mem_iff_getElem.mpr
  refine ⟨i, by simp only [List.length_zip]; omega, ?_⟩
  simp

theorem contractibleB_swap {a b : Arr R} {xa xb : List Nat}
    (h : ValidP.contractibleB a b xa xb = true) : ValidP.contractibleB b a xb xa = true := by
  unfold ValidP.contractibleB at h ⊢
  simp only [Bool.and_eq_true, beq_iff_eq, List.all_eq_true] at h ⊢
  refine ⟨h.1.symm, ?_⟩
  intro p hp
  have := h.2 (p.2, p.1) (mem_zip_swap hp)
  refine ⟨this.1.symm, ?_⟩
  have h2 := this.2
  revert h2
  cases (a.indices.getD p.2 default).dual <;> cases (b.indices.getD p.1 default).dual <;> simp

end swap

section adm
variable {R : Type} [AddMonoid R] [Mul R] [Neg R] [Conj R]

theorem braOf_adm {a b : Arr R} {xa xb : List Nat} (h : Adm a b xa xb) :
    Adm (braOf a xa) (braOf b xb) xa xb := by
  obtain ⟨ha, hb, hfa, hfb, hsym, hc, hnA, hnB, hA, hB⟩ := h
  refine ⟨braOf_valid a xa ha hfa, braOf_valid b xb hb hfb, braOf_fermi a xa hfa,
    braOf_fermi b xb hfb, ?_, ?_, hnA, hnB, ?_, ?_⟩
  · rw [braOf_sym a xa, braOf_sym b xb, hsym]
  · unfold ValidP.contractibleB at hc ⊢
    simp only [Bool.and_eq_true, beq_iff_eq, List.all_eq_true] at hc ⊢
    refine ⟨hc.1, ?_⟩
    intro p hp
    have hp1 : p.1 ∈ xa := (List.of_mem_zip hp).1
    have hp2 : p.2 ∈ xb := (List.of_mem_zip hp).2
    have := hc.2 p hp
    rw [braOf_indices a xa, braOf_indices b xb,
      getD_map_conj _ _ (hA _ hp1), getD_map_conj _ _ (hB _ hp2), Index.conj_cm, Index.conj_cm,
      Index.conj_dual, Index.conj_dual]
    refine ⟨this.1, ?_⟩
    have h2 := this.2
    revert h2
    cases (a.indices.getD p.1 default).dual <;> cases (b.indices.getD p.2 default).dual <;> simp
  · intro i hi; rw [braOf_ndim]; exact hA i hi
  · intro i hi; rw [braOf_ndim]; exact hB i hi

/-- bra tensors with ANY flip sets satisfy the weak guard along the same bond -/
theorem braOf_admW {a b : Arr R} {xa xb : List Nat} (h : AssocP.AdmW a b xa xb)
    (Xa Xb : List Nat) : AssocP.AdmW (braOf a Xa) (braOf b Xb) xa xb := by
  obtain ⟨ha, hb, hfa, hfb, hsym, hc, hnA, hnB, hA, hB⟩ := h
  refine ⟨braOf_valid a Xa ha hfa, braOf_valid b Xb hb hfb, braOf_fermi a Xa hfa,
    braOf_fermi b Xb hfb, ?_, ?_, hnA, hnB, ?_, ?_⟩
  · rw [braOf_sym a Xa, braOf_sym b Xb, hsym]
  · rw [AssocP.commonB_iff] at hc ⊢
    refine ⟨hc.1, fun j hj => ?_⟩
    obtain ⟨h1, h2⟩ := hc.2 j hj
    have hj' : j < xb.length := hc.1 ▸ hj
    have m1 : xa.getD j 0 ∈ xa := by
      rw [List.getD_eq_getElem?_getD, List.getElem?_eq_getElem hj]; exact List.getElem_mem hj
    have m2 : xb.getD j 0 ∈ xb := by
      rw [List.getD_eq_getElem?_getD, List.getElem?_eq_getElem hj']; exact List.getElem_mem hj'
    rw [braOf_indices a Xa, braOf_indices b Xb,
      getD_map_conj _ _ (hA _ m1), getD_map_conj _ _ (hB _ m2), Index.conj_cm, Index.conj_cm,
      Index.conj_dual, Index.conj_dual]
    exact ⟨h1, by rw [h2]⟩
  · intro i hi; rw [braOf_ndim]; exact hA i hi
  · intro i hi; rw [braOf_ndim]; exact hB i hi

end adm

section drop

theorem Index.conj_charges (i : Index) : i.conj.charges = i.charges := by
  unfold Index.charges; rw [Index.conj_cm]

theorem Index.conj_dropCharges (i : Index) (cs : List Charge) :
    (i.dropCharges cs).conj = i.conj.dropCharges cs := by
  cases i with
  | mk c d s => cases s <;> rfl

theorem dropTo_conj (i : Index) (S : List Charge) : (dropTo i S).conj = dropTo i.conj S := by
  rw [dropTo_eq_dropCharges, dropTo_eq_dropCharges, Index.conj_dropCharges, Index.conj_charges]

theorem dropUnused_conj (ixs : List Index) (S : List Sector) :
    dropUnused (ixs.map Index.conj) S = (dropUnused ixs S).map Index.conj := by
  rw [dropUnused_eq, dropUnused_eq, List.zipIdx_map, List.map_map, List.map_map]
  apply List.map_congr_left
  intro p _
  simp only [Function.comp, Prod.map, id, dropTo_conj]

theorem without_map {α β : Type} (f : α → β) (l : List α) (rm : List Nat) :
    without (l.map f) rm = (without l rm).map f := by
  rw [without_eq_permuted_freeAxes, without_eq_permuted_freeAxes, List.length_map, permuted_map]

/-- the un-pruned frame of `ā·b̄` is the conjugated frame of `a·b`, whichever legs `ya`, `yb` the two bra
    tensors leave unflipped (the flips touch no index table) -/
theorem braOf_without {R : Type} [Zero R] [Neg R] [Conj R] (a b : Arr R) (xa xb : List Nat)
    {ya yb : List Nat} :
    without (braOf a ya).indices xa ++ without (braOf b yb).indices xb
      = (without a.indices xa ++ without b.indices xb).map Index.conj := by
  rw [braOf_indices a ya, braOf_indices b yb, without_map, without_map, List.map_append]

end drop

end SymmModel.NormNet
