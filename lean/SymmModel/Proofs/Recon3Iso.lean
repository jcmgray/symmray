/-
  SymmModel.Proofs.Recon3Iso — the structure clauses of C11 that are per-block kernel contracts
  ("every block of Q and U has orthonormal columns, every block of V† orthonormal rows, R blocks
  upper triangular"), transported to the VALUE VIEW of the returned arrays (pending signs
  included — they are `±1` per sector and cancel in a Gram sum), for abelian and fermionic
  inputs alike.
-/
import SymmModel.Proofs.Recon3Trunc

namespace SymmModel

variable {R : Type}

/-- the Q factor of ONE block `b` (`m × n`, `k = min m n`) has orthonormal columns w.r.t. `conj` -/
def Kernels.QIsoBlock [CommRing R] (conj : R →+* R) (K : Kernels R) (b : Blk R) : Prop :=
  ∀ m n, b.shape = [m, n] → ∀ t t', t < min m n → t' < min m n →
    (List.range m).foldl
        (fun acc i => acc + conj ((K.qr b).1.get [i, t]) * (K.qr b).1.get [i, t']) 0
      = (if t = t' then 1 else 0)

/-- the R factor of ONE block (`k × n`, `k = min m n`) is upper triangular -/
def Kernels.RUpperBlock [Zero R] (K : Kernels R) (b : Blk R) : Prop :=
  ∀ m n, b.shape = [m, n] → ∀ t j, t < min m n → j < t → (K.qr b).2.get [t, j] = 0

namespace Recon3P
open LinalgLemmas ReconP Recon2P

theorem gram_signed [CommRing R] (conj : R →+* R) (σ : Bool) (f g : Nat → R) (n : Nat) :
    (List.range n).foldl (fun acc i =>
        acc + conj (if σ then - f i else f i) * (if σ then - g i else g i)) 0
      = (List.range n).foldl (fun acc i => acc + conj (f i) * g i) 0 := by
  apply foldl_ext'
  intro acc i _
  cases σ with
  | false => rfl
  | true => simp only [if_true, map_neg, neg_mul_neg]

section left
variable [CommRing R] {x : Arr R} {L Rt : Blk R → Blk R}

theorem gram_elem_cols (conj : R →+* R) {a : Arr R} (hnd : a.sectors.Nodup) {s : Sector}
    {b : Blk R} (hm : (s, b) ∈ a.blocks) (m : Nat) (t t' : Nat) :
    (List.range m).foldl (fun acc i => acc + conj (a.elem s [i, t]) * a.elem s [i, t']) 0
      = (List.range m).foldl (fun acc i => acc + conj (b.get [i, t]) * b.get [i, t']) 0 := by
  simp only [Arr.elem_of_mem hnd hm]
  exact gram_signed conj _ (fun i => b.get [i, t]) (fun i => b.get [i, t']) m

theorem gram_elem_rows (conj : R →+* R) {a : Arr R} (hnd : a.sectors.Nodup) {s : Sector}
    {b : Blk R} (hm : (s, b) ∈ a.blocks) (n : Nat) (t t' : Nat) :
    (List.range n).foldl (fun acc j => acc + conj (a.elem s [t, j]) * a.elem s [t', j]) 0
      = (List.range n).foldl (fun acc j => acc + conj (b.get [t, j]) * b.get [t', j]) 0 := by
  simp only [Arr.elem_of_mem hnd hm]
  exact gram_signed conj _ (fun j => b.get [t, j]) (fun j => b.get [t', j]) n

theorem leftF_gram (conj : R →+* R) (hv : x.validB = true) {s : Sector} {b : Blk R}
    (hm : (s, b) ∈ x.blocks) (m : Nat) (t t' : Nat) :
    (List.range m).foldl (fun acc i =>
        acc + conj ((leftF x L).elem s [i, t]) * (leftF x L).elem s [i, t']) 0
      = (List.range m).foldl (fun acc i => acc + conj ((L b).get [i, t]) * (L b).get [i, t']) 0 :=
  gram_elem_cols conj (by rw [leftF_sectors]; exact Arr.validB_nodup hv)
    (List.mem_map.mpr ⟨(s, b), hm, rfl⟩) m t t'

theorem rightF_gram (conj : R →+* R) (hv : x.validB = true) (h2 : x.ndim = 2) {s : Sector}
    {b : Blk R} (hm : (s, b) ∈ x.blocks) (n : Nat) (t t' : Nat) :
    (List.range n).foldl (fun acc j =>
        acc + conj ((rightF x L Rt).elem (diagOf s) [t, j]) * (rightF x L Rt).elem (diagOf s) [t', j]) 0
      = (List.range n).foldl (fun acc j => acc + conj ((Rt b).get [t, j]) * (Rt b).get [t', j]) 0 :=
  gram_elem_rows conj (by rw [rightF_sectors]; exact diag_nodup hv h2)
    (by rw [rightF_fields.blocks]; exact List.mem_map.mpr ⟨(s, b), hm, rfl⟩) n t t'

theorem rightF_zero (hv : x.validB = true) (h2 : x.ndim = 2) {s : Sector}
    {b : Blk R} (hm : (s, b) ∈ x.blocks) (off : List Nat) (h0 : (Rt b).get off = 0) :
    (rightF x L Rt).elem (diagOf s) off = 0 := by
  have hnd : (rightF x L Rt).sectors.Nodup := by rw [rightF_sectors]; exact diag_nodup hv h2
  have hm' : (diagOf s, Rt b) ∈ (rightF x L Rt).blocks := by
    rw [rightF_fields.blocks]; exact List.mem_map.mpr ⟨(s, b), hm, rfl⟩
  rw [Arr.elem_of_mem hnd hm' off, h0]
  split <;> simp

end left

theorem tdot_blocks_adj [Zero R] [Add R] [Mul R] {α : Type} (l : List α) (row col : α → Charge)
    (hrow : (l.map row).Nodup) (hcol : (l.map col).Nodup) (fA fB : α → Blk R) (a b : Arr R)
    (ha : a.blocks = l.map (fun p => ([col p, row p], fA p)))
    (hb : b.blocks = l.map (fun p => ([row p, col p], fB p))) :
    (tensordotBlockwise a b [0] [1] [0] [1]).blocks
      = l.map (fun p => ([col p, col p], (fA p).tensordotK (fB p) [1] [0])) :=
  tdot_blocks_uvw l col row col hrow (nodup_map_diag hcol) fA fB a b ha hb

section array
variable [CommRing R] [Conj R] {x : Arr R}

theorem adjA_leftF (hv : x.validB = true) (h2 : x.ndim = 2) (L : Blk R → Blk R) :
    (leftF x L).adjA.blocks = x.blocks.map (fun p =>
      ([colOf p.1, rowOf p.1], ((L p.2).conjK).transposeK [1, 0])) := by
  obtain ⟨i0, i1, hi⟩ := ndim_two h2
  have hr : Arr.reversedAxes (leftF x L).conjA.ndim = [1, 0] := rfl
  unfold Arr.adjA
  have hr' : Arr.reversedAxes (leftF x L).ndim = [1, 0] := rfl
  rw [hr']
  simp only [Arr.transposeA, Arr.conjA, leftF, List.map_map, Function.comp_def]
  have he : x.blocks.map (fun p => (permuted p.1 [1, 0], ((L p.2).conjK).transposeK [1, 0]))
      = x.blocks.map (fun p => ([colOf p.1, rowOf p.1], ((L p.2).conjK).transposeK [1, 0])) := by
    apply List.map_congr_left
    intro p hp
    obtain ⟨r, c, m, n, B⟩ := mat_block hv hi (s := p.1) (b := p.2) hp
    rw [B.hs]; rfl
  rw [he]
  apply adict_of_nodup
  have hnd := Arr.validB_nodup hv
  have : (x.blocks.map (fun p => [colOf p.1, rowOf p.1])).Nodup := by
    have hb : x.blocks.Nodup := List.Nodup.of_map (·.1) (show (x.blocks.map (·.1)).Nodup from hnd)
    apply nodup_map_of_inj x.blocks (fun p : Sector × Blk R => [colOf p.1, rowOf p.1]) hb
    · intro p hp q hq e
      obtain ⟨r, c, m, n, B⟩ := mat_block hv hi (s := p.1) (b := p.2) hp
      obtain ⟨r', c', m', n', B'⟩ := mat_block hv hi (s := q.1) (b := q.2) hq
      have e1 : colOf p.1 = colOf q.1 := (List.cons.inj e).1
      have e2 : rowOf p.1 = rowOf q.1 := (List.cons.inj (List.cons.inj e).2).1
      have hs : p.1 = q.1 := by
        rw [B.hs, B'.hs] at e1 e2 ⊢
        simp only [colOf_pair, rowOf_pair] at e1 e2
        rw [e1, e2]
      have h1 := alookup_of_mem_nodup hnd hp
      have h2' := alookup_of_mem_nodup hnd hq
      rw [hs] at h1
      have : p.2 = q.2 := Option.some.inj (h1.symm.trans h2')
      exact Prod.ext hs this
  simpa [List.map_map, Function.comp_def] using this

theorem adjA_rightF (hv : x.validB = true) (h2 : x.ndim = 2) (L Rt : Blk R → Blk R) :
    (rightF x L Rt).adjA.blocks = x.blocks.map (fun p =>
      (diagOf p.1, ((Rt p.2).conjK).transposeK [1, 0])) := by
  have hr' : Arr.reversedAxes (rightF x L Rt).ndim = [1, 0] := by rw [rightF_ndim]; rfl
  unfold Arr.adjA
  rw [hr']
  simp only [Arr.transposeA, Arr.conjA, (rightF_fields (x := x) (L := L) (Rt := Rt)).blocks,
    List.map_map, Function.comp_def]
  have hperm : ∀ c : Charge, permuted [c, c] [1, 0] = [c, c] := fun _ => rfl
  simp only [hperm]
  apply adict_of_nodup
  have := diag_nodup hv h2
  simpa [Arr.sectors, List.map_map, Function.comp_def, diagOf] using this

/-- **`L† · L` at array level** (abelian): the blockwise contraction of the adjoint of the left
    factor with the left factor stores one block per bond charge, on the diagonal sector, with
    entries the Gram sums of the columns of the block -/
theorem gram_left_array (conj : R →+* R) (hcj : ∀ v : R, Conj.conj v = conj v)
    (hv : x.validB = true) (h2 : x.ndim = 2) (hf : x.fermi = false) {L Rt : Blk R → Blk R}
    (hL : FacShape L Rt) :
    let G := tensordotBlockwise (leftF x L).adjA (leftF x L) [0] [1] [0] [1]
    G.sectors = x.sectors.map diagOf ∧ G.phases = []
    ∧ ∀ s b, (s, b) ∈ x.blocks → ∀ m n, b.shape = [m, n] → ∀ t t', t < min m n → t' < min m n →
        G.elem (diagOf s) [t, t']
          = (List.range m).foldl (fun acc i => acc + conj ((L b).get [i, t]) * (L b).get [i, t']) 0 := by
  intro G
  obtain ⟨i0, i1, hi⟩ := ndim_two h2
  have hc0 : Conj.conj (0 : R) = 0 := by rw [hcj]; exact map_zero conj
  have hrows := blocks_rows_nodup hv h2
  have hcols := blocks_cols_nodup hv h2
  have hlb : (leftF x L).blocks = x.blocks.map (fun p => ([rowOf p.1, colOf p.1], L p.2)) := by
    show x.blocks.map (fun p => (p.1, L p.2)) = _
    apply List.map_congr_left
    intro p hp
    obtain ⟨r, c, m, n, B⟩ := mat_block hv hi (s := p.1) (b := p.2) hp
    rw [B.hs]; rfl
  have hG : G.blocks = x.blocks.map (fun p => ([colOf p.1, colOf p.1],
      (((L p.2).conjK).transposeK [1, 0]).tensordotK (L p.2) [1] [0])) :=
    tdot_blocks_adj x.blocks (fun p => rowOf p.1) (fun p => colOf p.1) hrows hcols _ _ _ _
      (adjA_leftF hv h2 L) hlb
  have hph : G.phases = [] := by
    show (leftF x L).adjA.phases = []
    show x.phases = []
    exact Arr.phases_nil_of_validB hv hf
  refine ⟨by simp [Arr.sectors, hG, List.map_map, Function.comp_def, diagOf], hph, ?_⟩
  intro s b hm m n hs t t' ht ht'
  have hwf : b.wf = true := Arr.validB_block_wf hv hm
  obtain ⟨l1, _, _, _⟩ := hL b m n hs hwf
  have hnd : (G.blocks.map (·.1)).Nodup := by
    rw [hG, List.map_map]
    exact nodup_map_diag hcols
  have hl : alookup G.blocks (diagOf s)
      = some ((((L b).conjK).transposeK [1, 0]).tensordotK (L b) [1] [0]) := by
    apply alookup_of_mem_nodup hnd
    rw [hG]; exact List.mem_map.mpr ⟨(s, b), hm, rfl⟩
  simp only [Arr.elem, hl, hph, alookup]
  rw [tensordotK_matmul_get _ _ (transposeK10_shape _ (by rw [conjK_shape]; exact l1)) l1 ht ht']
  apply foldl_ext'
  intro acc i hi'
  have hi'' := List.mem_range.mp hi'
  rw [transposeK10_get _ (by rw [conjK_shape]; exact l1) ht hi'', conjK_get hc0, hcj]

theorem gram_right_array (conj : R →+* R) (hcj : ∀ v : R, Conj.conj v = conj v)
    (hv : x.validB = true) (h2 : x.ndim = 2) (hf : x.fermi = false) {L Rt : Blk R → Blk R}
    (hL : FacShape L Rt) :
    let G := tensordotBlockwise (rightF x L Rt) (rightF x L Rt).adjA [0] [1] [0] [1]
    G.sectors = x.sectors.map diagOf ∧ G.phases = []
    ∧ ∀ s b, (s, b) ∈ x.blocks → ∀ m n, b.shape = [m, n] → ∀ t t', t < min m n → t' < min m n →
        G.elem (diagOf s) [t, t']
          = (List.range n).foldl (fun acc j => acc + conj ((Rt b).get [t', j]) * (Rt b).get [t, j]) 0 := by
  intro G
  obtain ⟨i0, i1, hi⟩ := ndim_two h2
  have hc0 : Conj.conj (0 : R) = 0 := by rw [hcj]; exact map_zero conj
  have hcols := blocks_cols_nodup hv h2
  have hdiag : (x.blocks.map (fun p => diagOf p.1)).Nodup := nodup_map_diag hcols
  have hG : G.blocks = x.blocks.map (fun p => (diagOf p.1,
      (Rt p.2).tensordotK (((Rt p.2).conjK).transposeK [1, 0]) [1] [0])) :=
    tdot_blocks_items x.blocks (fun p => diagOf p.1) (fun _ _ => rfl) hdiag
      (by simpa [diagOf, colOf] using hcols) _ _ _ _
      (by rw [rightF_fields.blocks]) (by rw [adjA_rightF hv h2 L Rt]; rfl)
  have hph : G.phases = [] := by
    show (rightF x L Rt).phases = []
    have hx : x.fermi = false := hf
    unfold rightF
    simp [hx, rightF0]
  refine ⟨by simp [Arr.sectors, hG, List.map_map, Function.comp_def], hph, ?_⟩
  intro s b hm m n hs t t' ht ht'
  have hwf : b.wf = true := Arr.validB_block_wf hv hm
  obtain ⟨_, _, l3, _⟩ := hL b m n hs hwf
  have hnd : (G.blocks.map (·.1)).Nodup := by
    rw [hG, List.map_map]; exact hdiag
  have hl : alookup G.blocks (diagOf s)
      = some ((Rt b).tensordotK (((Rt b).conjK).transposeK [1, 0]) [1] [0]) := by
    apply alookup_of_mem_nodup hnd
    rw [hG]; exact List.mem_map.mpr ⟨(s, b), hm, rfl⟩
  simp only [Arr.elem, hl, hph, alookup]
  rw [tensordotK_matmul_get _ _ l3 (transposeK10_shape _ (by rw [conjK_shape]; exact l3)) ht ht']
  apply foldl_ext'
  intro acc j hj'
  have hj'' := List.mem_range.mp hj'
  rw [transposeK10_get _ (by rw [conjK_shape]; exact l3) hj'' ht', conjK_get hc0, hcj, mul_comm]

end array

end Recon3P
end SymmModel
