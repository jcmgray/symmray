/-
  SymmModel.Proofs.NetNormK2 — network form of the norm (property C10), ket-bra-first bracketings,
  part 2: the labels.  `ā·a` carries no label (`merge_bra_ket`: nested conjugate pairs annihilate, the sign
  is the starting sign `ph0`);
  the label routes of the triangles `(ā·a, b̄, b)` (`labelRoutes_X`, any sorted ket lists) and
  `(b̄, ā, a)` (`ketBraLabelsB`: a decidable check, `ketBraLabelsB_oneKet`: it holds for at most one ket
  label per tensor).
-/
import SymmModel.Proofs.NetNormK1

namespace SymmModel.NormNet
open SymmModel SymmModel.Lazy

open SymmModel.OddposP (mergeOddpos)
set_option linter.unusedSectionVars false

section labels

/-- the sign `resolve_combined_oddpos` starts with -/
def ph0 (p : Bool) (n : Nat) : Int := if p && n % 2 == 1 then -1 else 1

theorem ph0_pm (p : Bool) (n : Nat) : ph0 p n = 1 ∨ ph0 p n = -1 := by
  unfold ph0; split <;> simp

theorem merge_fuel (n : Nat) : 2 * n + 2 ≤ (n + n) * (n + n) + 2 * (n + n) + 4 := by
  have : n ≤ (n + n) * (n + n) := by
    calc n ≤ n + n := by omega
      _ ≤ (n + n) * (n + n) := Nat.le_mul_self _
  omega

theorem merge_bra_ket (p : Bool) (w : List (Int × Bool)) (hk : KetLabels w)
    (hd : w.Pairwise (fun x y => x.1 ≠ y.1)) :
    mergeOddpos p (Arr.oddposDag w) w = .ok ([], ph0 p w.length) := by
  have hs := oddposDag_sorted_of_nondual w hk.1 hk.2
  unfold OddposP.mergeOddpos
  rw [resolveScan_nested w hs hd _ _ (by
    simp only [List.length_append, oddposDag_length]; exact merge_fuel _),
    nestSign_nondual w hk.1, Int.mul_one]
  rfl

theorem merge_nested (p : Bool) (w : List (Int × Bool)) (hk : KetLabels w)
    (hd : w.Pairwise (fun x y => x.1 ≠ y.1)) :
    ∃ s, mergeOddpos p (Arr.oddposDag w) w = .ok ([], s) ∧ (s = 1 ∨ s = -1) :=
  ⟨ph0 p w.length, merge_bra_ket p w hk hd, ph0_pm p w.length⟩

theorem merge_nil_left (l : List (Int × Bool)) (hs : l.Pairwise (fun x y => oddLt x y = true))
    (hd : l.Pairwise (fun x y => x.1 ≠ y.1)) :
    mergeOddpos false [] l = .ok (l, 1) := by
  obtain ⟨out, p1, s1, m1⟩ := OddposP.mergeOddpos_spec false [] l (show OddposP.LabelsDistinct ([] ++ l) from hd)
  have : out = l := OddposP.oddSorted_unique s1 hs (by simpa using p1)
  subst this
  rw [m1]
  simp only [List.nil_append, OddposP.invR_oddR_sorted _ hs, Bool.toNat_false, Nat.zero_mul,
    Nat.add_zero]
  rfl

theorem merge_nil_right (p : Bool) (l : List (Int × Bool))
    (hs : l.Pairwise (fun x y => oddLt x y = true)) (hd : l.Pairwise (fun x y => x.1 ≠ y.1)) :
    mergeOddpos p l [] = .ok (l, 1) := by
  obtain ⟨out, p1, s1, m1⟩ := OddposP.mergeOddpos_spec p l []
    (show OddposP.LabelsDistinct (l ++ []) by rw [List.append_nil]; exact hd)
  have : out = l := OddposP.oddSorted_unique s1 hs (by simpa using p1)
  subst this
  rw [m1]
  simp only [List.append_nil, OddposP.invR_oddR_sorted _ hs, List.length_nil, Nat.mul_zero,
    Nat.add_zero]
  rfl

theorem labelRoutes_X (pb : Bool) (oB : List (Int × Bool)) (hk : KetLabels oB)
    (hd : oB.Pairwise (fun x y => x.1 ≠ y.1)) :
    Assoc2P.LabelRoutes false pb [] (Arr.oddposDag oB) oB := by
  have hs := oddposDag_sorted_of_nondual oB hk.1 hk.2
  have hdd := oddposDag_distinct oB hd
  obtain ⟨s, m, q⟩ := merge_nested pb oB hk hd
  refine ⟨Arr.oddposDag oB, 1, [], s, [], s, 1, merge_nil_left _ hs hdd, ?_, m, rfl, ?_, Or.inl rfl, q,
    q, Or.inl rfl⟩
  · rw [Bool.false_xor]; exact m
  · rw [Int.one_mul, Int.mul_one]

/-- the label check of the triangle `(b̄, ā, a)` (S7 for `(b̄·ā)·a = b̄·(ā·a)`) -/
def ketBraLabelsB (pA pB : Bool) (oA oB : List (Int × Bool)) : Bool :=
  C04.labelRoutesB pB pA (Arr.oddposDag oB) (Arr.oddposDag oA) oA

theorem ketBraLabelsB_spec {pA pB : Bool} {oA oB : List (Int × Bool)}
    (h : ketBraLabelsB pA pB oA oB = true) :
    Assoc2P.LabelRoutes pB pA (Arr.oddposDag oB) (Arr.oddposDag oA) oA :=
  (C04.labelRoutes_iff _ _ _ _ _).mpr h

theorem ketBraLabelsB_lt {x y : Int} (h : x < y) :
    ketBraLabelsB true true [(x, false)] [(y, false)] = true := by
  have h1 : ¬ y = x := by omega
  have h3 : ¬ y < x := by omega
  simp [ketBraLabelsB, C04.labelRoutesB, OddposP.mergeOddpos, resolveScan, oddLt, pure, Except.pure,
    Arr.oddposDag, h1, h3]

/-- at most one ket label per tensor: the check holds for `(a, b)` or for `(b, a)` (for two labels:
    for the pair whose FIRST tensor carries the smaller label; for the other order the check can fail,
    `ketBraLabelsB_order` — the two routes `(b̄·ā)·a` and `b̄·(ā·a)` then end with different label lists,
    evaluated on an instance in Props/C10i, `ketbra_vals_order`) -/
theorem ketBraLabelsB_oneKet (oA oB : List (Int × Bool)) (hA : OneKet oA) (hB : OneKet oB)
    (hd : (oA ++ oB).Pairwise (fun x y => x.1 ≠ y.1)) :
    ketBraLabelsB (oA.length % 2 == 1) (oB.length % 2 == 1) oA oB = true
    ∨ ketBraLabelsB (oB.length % 2 == 1) (oA.length % 2 == 1) oB oA = true := by
  rcases hA with rfl | ⟨x, rfl⟩ <;> rcases hB with rfl | ⟨y, rfl⟩
  · left; decide
  · left
    simp [ketBraLabelsB, C04.labelRoutesB, OddposP.mergeOddpos, resolveScan, pure, Except.pure,
      Arr.oddposDag]
  · left
    simp [ketBraLabelsB, C04.labelRoutesB, OddposP.mergeOddpos, resolveScan, pure, Except.pure,
      Arr.oddposDag]
  · have hne : x ≠ y := by simpa using hd
    by_cases h : x < y
    · exact Or.inl (ketBraLabelsB_lt h)
    · exact Or.inr (ketBraLabelsB_lt (by omega))

/-- the order matters: on the labels `1`, `3` the check fails with the larger label on the first tensor -/
theorem ketBraLabelsB_order :
    ketBraLabelsB true true [(1, false)] [(3, false)] = true
    ∧ ketBraLabelsB true true [(3, false)] [(1, false)] = false := by decide

end labels

end SymmModel.NormNet
