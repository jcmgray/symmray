/-
  SymmModel.Proofs.FuseMulti4 — list plumbing for several fused axes: lists cut into
  front / group / back parts, flattening of per-group segments, `ravel` over grouped axes.
-/
import SymmModel.Proofs.FuseMulti3
namespace SymmModel
namespace FuseP


theorem list_ext_getD {α : Type} {l1 l2 : List α} (d : α) (hl : l1.length = l2.length)
    (h : ∀ k, k < l1.length → l1.getD k d = l2.getD k d) : l1 = l2 := by
  apply List.ext_getElem hl
  intro k h1 h2
  have := h k h1
  simpa [List.getD_eq_getElem?_getD, List.getElem?_eq_getElem h1, List.getElem?_eq_getElem h2] using this

theorem range_map_congr {α : Type} {n : Nat} {f g : Nat → α} (h : ∀ x, x < n → f x = g x) :
    (List.range n).map f = (List.range n).map g :=
  List.map_congr_left (fun x hx => h x (List.mem_range.1 hx))

theorem eq_three_parts {α : Type} {l : List α} (d : α) {p k m : Nat} (hl : l.length = p + k + m)
    {f g h : Nat → α} (hf : ∀ x, x < p → l.getD x d = f x) (hg : ∀ j, j < k → l.getD (p + j) d = g j)
    (hh : ∀ j, j < m → l.getD (p + k + j) d = h j) :
    l = (List.range p).map f ++ (List.range k).map g ++ (List.range m).map h := by
  have hF : ((List.range p).map f).length = p := by simp
  have hFG : ((List.range p).map f ++ (List.range k).map g).length = p + k := by simp
  apply list_ext_getD d (by simp [hl, Nat.add_assoc])
  intro x hx
  rw [hl] at hx
  by_cases h1 : x < p
  · rw [List.append_assoc, getD_before _ _ _ _ (by rw [hF]; exact h1), getD_range_map _ _ _ _ h1, hf x h1]
  · by_cases h2 : x < p + k
    · obtain ⟨j, rfl⟩ : ∃ j, x = p + j := ⟨x - p, by omega⟩
      have hj : j < k := by omega
      have := getD_mid ((List.range p).map f) ((List.range k).map g) ((List.range m).map h) j d
        (by simpa using hj)
      rw [hF] at this
      rw [this, getD_range_map _ _ _ _ hj, hg j hj]
    · obtain ⟨j, rfl⟩ : ∃ j, x = p + k + j := ⟨x - p - k, by omega⟩
      have hj : j < m := by omega
      have := getD_after ((List.range p).map f ++ (List.range k).map g) ((List.range m).map h) j d
      rw [hFG] at this
      rw [this, getD_range_map _ _ _ _ hj, hh j hj]

theorem three_parts {α : Type} (l : List α) (d : α) (p k m : Nat) (hl : l.length = p + k + m) :
    l = (List.range p).map (fun x => l.getD x d) ++ (List.range k).map (fun g => l.getD (p + g) d)
        ++ (List.range m).map (fun j => l.getD (p + k + j) d) :=
  eq_three_parts d hl (fun _ _ => rfl) (fun _ _ => rfl) (fun _ _ => rfl)

theorem take_eq_range_map {α : Type} (l : List α) (d : α) (p : Nat) (hp : p ≤ l.length) :
    l.take p = (List.range p).map (fun x => l.getD x d) := by
  apply list_ext_getD d (by simp [hp])
  intro x hx
  simp only [List.length_take] at hx
  rw [getD_range_map _ _ _ _ (by omega)]
  simp [List.getD_eq_getElem?_getD, show x < p by omega]

theorem drop_eq_range_map {α : Type} (l : List α) (d : α) (p m : Nat) (hl : l.length = p + m) :
    l.drop p = (List.range m).map (fun j => l.getD (p + j) d) := by
  apply list_ext_getD d (by simp [hl])
  intro x hx
  simp only [List.length_drop] at hx
  rw [getD_range_map _ _ _ _ (by omega)]
  simp [List.getD_eq_getElem?_getD, List.getElem?_drop]

theorem map_eq_range_map {α β : Type} (l : List α) (d : α) (f : α → β) :
    l.map f = (List.range l.length).map (fun g => f (l.getD g d)) := by
  apply List.ext_getElem (by simp)
  intro k h1 h2
  simp only [List.length_map] at h1
  simp [List.getD_eq_getElem?_getD, List.getElem?_eq_getElem h1]

theorem zipIdx_map_eq_range_map {α β : Type} (l : List α) (d : α) (f : α × Nat → β) :
    l.zipIdx.map f = (List.range l.length).map (fun g => f (l.getD g d, g)) := by
  apply List.ext_getElem (by simp)
  intro k h1 h2
  simp only [List.length_map, List.length_zipIdx] at h1
  simp [List.getD_eq_getElem?_getD, List.getElem?_eq_getElem h1]


theorem flatten_map_inj {γ α : Type} (gs : List γ) (f1 f2 : γ → List α)
    (hl : ∀ g ∈ gs, (f1 g).length = (f2 g).length)
    (h : (gs.map f1).flatten = (gs.map f2).flatten) : ∀ g ∈ gs, f1 g = f2 g := by
  induction gs with
  | nil => intro g hg; cases hg
  | cons x xs ih =>
    simp only [List.map_cons, List.flatten_cons] at h
    have := List.append_inj h (hl x (by simp))
    intro g hg
    rcases List.mem_cons.1 hg with rfl | hg
    · exact this.1
    · exact ih (fun g hg => hl g (List.mem_cons_of_mem _ hg)) this.2 g hg

theorem flatten_map_length_eq {γ α β : Type} (gs : List γ) (f1 : γ → List α) (f2 : γ → List β)
    (hl : ∀ g ∈ gs, (f1 g).length = (f2 g).length) :
    (gs.map f1).flatten.length = (gs.map f2).flatten.length := by
  induction gs with
  | nil => rfl
  | cons x xs ih =>
    simp only [List.map_cons, List.flatten_cons, List.length_append]
    rw [hl x (by simp), ih (fun g hg => hl g (List.mem_cons_of_mem _ hg))]

theorem inBox_flatten_map {γ : Type} (gs : List γ) (ms js : γ → List Nat)
    (h : ∀ g ∈ gs, inBox (ms g) (js g) = true) :
    inBox (gs.map ms).flatten (gs.map js).flatten = true := by
  induction gs with
  | nil => rfl
  | cons x xs ih =>
    simp only [List.map_cons, List.flatten_cons]
    rw [inBox_append (inBox_length (h x (by simp))), h x (by simp),
      ih (fun g hg => h g (List.mem_cons_of_mem _ hg))]
    rfl

theorem prod_flatten_map {γ : Type} (gs : List γ) (ms : γ → List Nat) :
    prod (gs.map ms).flatten = prod (gs.map (fun g => prod (ms g))) := by
  induction gs with
  | nil => rfl
  | cons x xs ih => simp only [List.map_cons, List.flatten_cons, prod_append, prod, ih]

theorem ravel_groups {γ : Type} (gs : List γ) (ms js : γ → List Nat) (C ic : List Nat)
    (h : ∀ g ∈ gs, (js g).length = (ms g).length) :
    ravel (gs.map (fun g => prod (ms g)) ++ C) (gs.map (fun g => ravel (ms g) (js g)) ++ ic)
      = ravel ((gs.map ms).flatten ++ C) ((gs.map js).flatten ++ ic) := by
  induction gs with
  | nil => rfl
  | cons x xs ih =>
    simp only [List.map_cons, List.flatten_cons, List.cons_append, ravel, List.append_assoc]
    rw [ravel_append (h x (by simp)), ih (fun g hg => h g (List.mem_cons_of_mem _ hg)),
      prod_append, prod_append, prod_flatten_map]

theorem ravel_three {γ : Type} (gs : List γ) (ms js : γ → List Nat) (A C ia ic : List Nat)
    (ha : ia.length = A.length) (h : ∀ g ∈ gs, (js g).length = (ms g).length) :
    ravel (A ++ gs.map (fun g => prod (ms g)) ++ C) (ia ++ gs.map (fun g => ravel (ms g) (js g)) ++ ic)
      = ravel (A ++ (gs.map ms).flatten ++ C) (ia ++ (gs.map js).flatten ++ ic) := by
  rw [List.append_assoc, List.append_assoc, List.append_assoc, List.append_assoc, ravel_append ha,
    ravel_append ha, ravel_groups gs ms js C ic h, prod_append, prod_append, prod_flatten_map]

theorem unravel_single (d n : Nat) : unravel [d] n = [n] := by
  simp [unravel, prod]

end FuseP
end SymmModel
