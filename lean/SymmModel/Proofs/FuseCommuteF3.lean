/-
  SymmModel.Proofs.FuseCommuteF3 — C06, first clause, fermionic: the ingredients of "the fermionic
  fuse signs are contraction-compatible" (`fuse_signs_compatible` in FuseCommuteG1):
  `bondSign` — the graded sign of the contraction over the SINGLE fused pair, which depends only on
  the free charges and on the parity of the number of odd contracted charges
  (`gradedSign_fusedpair`) — and the count of odd kets on the two operands (`ketOdd_add`).
  Namespace `SymmModel.TdotP`.
-/
import SymmModel.Proofs.FuseCommuteF2
import SymmModel.Proofs.Routes3

namespace SymmModel
namespace TdotP
open SymmModel.KoszulP SymmModel.Lazy SymmModel.GradedP SymmModel.RoutesP
variable {R : Type}

/-- the graded sign of a contraction over one pair of legs at positions `pA`, `pB`, as a function
    of the free charges `Ls`, `Rs`, of `m` (only its parity matters: the parity of the contracted
    charge) and of the direction of the left leg -/
def bondSign (sym : Sym) (dualA : Bool) (pA pB : Nat) (Ls Rs : Sector) (m : Nat) : Int :=
  sgn (m * oddIn sym (Ls.drop pA)) * sgn (oddIn sym (Rs.take pB) * m) * (if dualA then 1 else sgn m)

theorem sgn_mul_congr_left {m m' : Nat} (h : m % 2 = m' % 2) (o : Nat) : sgn (m * o) = sgn (m' * o) := by
  apply sgn_congr
  rw [Nat.mul_mod, h, ← Nat.mul_mod]

theorem sgn_mul_congr_right {m m' : Nat} (h : m % 2 = m' % 2) (o : Nat) : sgn (o * m) = sgn (o * m') := by
  rw [Nat.mul_comm o m, Nat.mul_comm o m']; exact sgn_mul_congr_left h o

theorem bondSign_congr (sym : Sym) (dualA : Bool) (pA pB : Nat) (Ls Rs : Sector) {m m' : Nat}
    (h : m % 2 = m' % 2) : bondSign sym dualA pA pB Ls Rs m = bondSign sym dualA pA pB Ls Rs m' := by
  unfold bondSign
  rw [sgn_mul_congr_left h, sgn_mul_congr_right h, sgn_congr h]

theorem bondSign_pm (sym : Sym) (dualA : Bool) (pA pB : Nat) (Ls Rs : Sector) (m : Nat) :
    bondSign sym dualA pA pB Ls Rs m = 1 ∨ bondSign sym dualA pA pB Ls Rs m = -1 := by
  unfold bondSign
  refine mul_pm (mul_pm (sgn_cases _) (sgn_cases _)) ?_
  split
  · exact Or.inl rfl
  · exact sgn_cases _

theorem oddCount_arr (X : Arr R) (s : Sector) (L : List Nat) (hL : ∀ i ∈ L, i < s.length) :
    oddCount (X.parities s) L = oddIn X.sym (permuted s L) :=
  oddCount_parities X.sym s L hL

theorem oddContracted_eq (X : Arr R) (xa : List Nat) (s : Sector) :
    oddContracted X xa s = oddIn X.sym (permuted s xa) := rfl

theorem filter_split (l : List Nat) (p q : Nat → Bool) :
    ((l.filter (fun x => !p x)).filter q).length + ((l.filter p).filter q).length = (l.filter q).length := by
  induction l with
  | nil => rfl
  | cons a l ih =>
    cases hp : p a <;> cases hq : q a <;>
      simp only [List.filter_cons, hp, hq, Bool.not_false, Bool.not_true, if_true, if_false,
        Bool.false_eq_true, List.length_cons] <;> omega

theorem gradedSign_single (AF BF : Arr R) (pA mA pB mB : Nat) (hnA : AF.ndim = pA + 1 + mA)
    (hnB : BF.ndim = pB + 1 + mB) (sa' sb' : Sector) :
    gradedSign AF BF [pA] [pB] sa' sb'
      = sgn (oddCount (AF.parities sa') [pA]
          * oddCount (AF.parities sa') ((List.range mA).map (fun j => pA + 1 + j)))
        * sgn (oddCount (BF.parities sb') (List.range pB) * oddCount (BF.parities sb') [pB])
        * sgn (ketOdd AF [pA] sa') := by
  unfold gradedSign
  rw [hnA, hnB, koszul_left_single, koszul_right_single, oddContracted_single, ← sgn_eq_pow]
  rw [show sgn 0 = 1 from rfl, Int.mul_one, ← sgn_eq_pow]

theorem gradedSign_fusedpair (AF BF : Arr R) (pA mA pB mB : Nat) (hnA : AF.ndim = pA + 1 + mA)
    (hnB : BF.ndim = pB + 1 + mB) (hsym : AF.sym = BF.sym) (sa' sb' : Sector)
    (hla : sa'.length = AF.ndim) (hlb : sb'.length = BF.ndim)
    (hK : permuted sb' [pB] = permuted sa' [pA]) (m : Nat)
    (hm : oddIn AF.sym (permuted sa' [pA]) % 2 = m % 2) :
    gradedSign AF BF [pA] [pB] sa' sb'
      = bondSign AF.sym (AF.indices.getD pA default).dual pA pB
          (permuted sa' (freeAxes AF.ndim [pA])) (permuted sb' (freeAxes BF.ndim [pB])) m := by
  rw [gradedSign_single AF BF pA mA pB mB hnA hnB]
  have hA1 : ∀ i ∈ ([pA] : List Nat), i < sa'.length := by
    intro i hi; simp only [List.mem_cons, List.not_mem_nil, or_false] at hi; omega
  have hB1 : ∀ i ∈ ([pB] : List Nat), i < sb'.length := by
    intro i hi; simp only [List.mem_cons, List.not_mem_nil, or_false] at hi; omega
  have hAt : ∀ i ∈ (List.range mA).map (fun j => pA + 1 + j), i < sa'.length := by
    intro i hi
    obtain ⟨j, hj, rfl⟩ := List.mem_map.mp hi
    have := List.mem_range.mp hj; omega
  have hBr : ∀ i ∈ List.range pB, i < sb'.length := by
    intro i hi; have := List.mem_range.mp hi; omega
  have hAr : ∀ i ∈ List.range pA, i < sa'.length := by
    intro i hi; have := List.mem_range.mp hi; omega
  rw [oddCount_arr AF sa' _ hA1, oddCount_arr AF sa' _ hAt, oddCount_arr BF sb' _ hBr,
    oddCount_arr BF sb' _ hB1, hK, ← hsym]
  have eL : (permuted sa' (freeAxes AF.ndim [pA])).drop pA
      = permuted sa' ((List.range mA).map (fun j => pA + 1 + j)) := by
    rw [hnA, freeAxes_succ_mid, permuted_append]
    exact List.drop_left' (by rw [permuted_length _ _ hAr, List.length_range])
  have eR : (permuted sb' (freeAxes BF.ndim [pB])).take pB = permuted sb' (List.range pB) := by
    rw [hnB, freeAxes_succ_mid, permuted_append]
    exact List.take_left' (by rw [permuted_length _ _ hBr, List.length_range])
  unfold bondSign
  rw [eL, eR, sgn_mul_congr_left hm, sgn_mul_congr_right hm]
  refine congrArg (HMul.hMul (_ : Int)) ?_
  have hc : oddIn AF.sym (permuted sa' [pA]) = if AF.sym.parity (sa'.getD pA (0, 0)) then 1 else 0 := by
    rw [permuted_eq_map _ _ hA1 ((0, 0) : Charge)]
    unfold oddIn
    simp only [List.map_cons, List.map_nil, List.filter_cons, List.filter_nil]
    split <;> rfl
  unfold ketOdd
  cases hd : (AF.indices.getD pA default).dual
  · rw [← sgn_congr hm, hc]
    cases hp : AF.sym.parity (sa'.getD pA (0, 0)) <;>
      simp only [List.filter_cons, List.filter_nil, hd, hp, Bool.not_false, if_true, if_false,
        Bool.false_eq_true, List.length_cons, List.length_nil]
  · simp only [List.filter_cons, List.filter_nil, hd, Bool.not_true, if_true, if_false,
      Bool.false_eq_true, List.length_nil]
    rfl

theorem ketOdd_add (A B : Arr R) (xa xb : List Nat) (sa sb : Sector) (hsym : A.sym = B.sym)
    (hlen : xa.length = xb.length)
    (hlA : ∀ i ∈ xa, i < sa.length) (hlB : ∀ i ∈ xb, i < sb.length)
    (hK : permuted sb xb = permuted sa xa)
    (hdual : (xb.map (fun ax => B.indices.getD ax default)).map Index.dual
      = (xa.map (fun ax => A.indices.getD ax default)).map (fun ix => !ix.dual)) :
    ketOdd A xa sa + ketOdd B xb sb = oddContracted A xa sa := by
  have hj : ∀ j, j < xa.length →
      (B.indices.getD (xb.getD j 0) default).dual = !(A.indices.getD (xa.getD j 0) default).dual
      ∧ B.sym.parity (sb.getD (xb.getD j 0) (0, 0)) = A.sym.parity (sa.getD (xa.getD j 0) (0, 0)) := by
    intro j hj
    have hjb : j < xb.length := by omega
    constructor
    · have h1 := List.getElem_of_eq hdual (i := j) (by simp; omega)
      simp only [List.getElem_map] at h1
      have ea : xa.getD j 0 = xa[j] := by
        rw [List.getD_eq_getElem?_getD, List.getElem?_eq_getElem hj]; rfl
      have eb : xb.getD j 0 = xb[j] := by
        rw [List.getD_eq_getElem?_getD, List.getElem?_eq_getElem hjb]; rfl
      rw [ea, eb]; exact h1
    · have := congrArg (fun l => l.getD j ((0, 0) : Charge)) hK
      rw [getD_permuted_ax sb xb hlB j hjb, getD_permuted_ax sa xa hlA j hj] at this
      rw [this, hsym]
  -- count through the common enumeration `j < k`
  have e1 : ketOdd B xb sb
      = ((xa.filter (fun ax => (A.indices.getD ax default).dual)).filter
          (fun ax => A.sym.parity (sa.getD ax (0, 0)))).length := by
    unfold ketOdd
    conv_lhs => rw [list_eq_map_getD xb]
    conv_rhs => rw [list_eq_map_getD xa]
    rw [← hlen]
    apply count_two_maps
    intro j hj'
    obtain ⟨h1, h2⟩ := hj j hj'
    exact ⟨by simp only [h1, Bool.not_not], h2⟩
  rw [e1, oddContracted_eq, permuted_eq_map _ _ hlA ((0, 0) : Charge)]
  have e3 : oddIn A.sym (xa.map fun x => sa.getD x (0, 0))
      = (xa.filter (fun ax => A.sym.parity (sa.getD ax (0, 0)))).length := by
    unfold oddIn; rw [List.filter_map, List.length_map]; rfl
  rw [e3]
  exact filter_split xa (fun ax => (A.indices.getD ax default).dual)
    (fun ax => A.sym.parity (sa.getD ax (0, 0)))

end TdotP
end SymmModel
