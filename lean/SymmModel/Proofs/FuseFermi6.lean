/-
  SymmModel.Proofs.FuseFermi6 — the flip part of the fermionic fuse sign factorises over the dual
  groups: one factor `(-1)^(number of odd charges on the non-dual legs)` per dual group.
-/
import SymmModel.Proofs.FuseFermi5
namespace SymmModel
namespace FuseP
open SymmModel.Lazy

variable {R : Type}

theorem sign_add_parity (m n : Nat) :
    (if ((m + n) % 2 == 1) = true then (-1 : Int) else 1)
      = (if (m % 2 == 1) = true then (-1 : Int) else 1) * (if (n % 2 == 1) = true then (-1 : Int) else 1) := by
  rcases Nat.mod_two_eq_zero_or_one m with h1 | h1 <;> rcases Nat.mod_two_eq_zero_or_one n with h2 | h2 <;>
    simp [Nat.add_mod, h1, h2]

theorem flipSign_append (sym : Sym) (l1 l2 : List Nat) (S : Sector) :
    flipSign sym (l1 ++ l2) S = flipSign sym l1 S * flipSign sym l2 S := by
  simp only [flipSign, flipOdd, List.filter_append, List.length_append]
  exact sign_add_parity _ _

theorem flipSign_nil (sym : Sym) (S : Sector) : flipSign sym [] S = 1 := by
  simp [flipSign, flipOdd]

theorem flipSign_flatMap (sym : Sym) (gs : List (List Nat)) (f : List Nat → List Nat) (S : Sector) :
    flipSign sym (gs.flatMap f) S = (gs.map (fun g => flipSign sym (f g) S)).foldr (· * ·) 1 := by
  induction gs with
  | nil => simp [flipSign_nil]
  | cons g gs ih => simp [List.flatMap_cons, flipSign_append, ih]

theorem fuseSignT_flip [Zero R] [Neg R] (a : Arr R) (groups : List (List Nat)) (S : Sector) :
    flipSign a.sym (axesFlipF a groups) S
      = ((dualGroupsF a groups).map (fun g => flipSign a.sym (g.filter (fun ax =>
          !((a.transposeF (calcFuseGroupInfo groups a.duals).perm).indices.getD ax default).dual)) S)).foldr (· * ·) 1 := by
  unfold axesFlipF
  exact flipSign_flatMap _ _ _ _

end FuseP
end SymmModel
