/-
  SymmModel.Proofs.FuseMultiR1 — generic list lemmas for the general round trip: a list whose last
  `j` group positions have been expanded into segments; un-permuting a multi-index.
-/
import SymmModel.Proofs.FuseMultiU
namespace SymmModel
namespace FuseP

variable {R : Type}

theorem take_succ_getD {α : Type} (l : List α) (d : α) {p : Nat} (hp : p < l.length) :
    l.take (p + 1) = l.take p ++ [l.getD p d] := by
  rw [← List.take_append_getElem hp]
  simp [List.getD_eq_getElem?_getD, List.getElem?_eq_getElem hp]


section PartG
variable {α : Type} (L : List α) (seg : Nat → List α) (pos k : Nat)

/-- the part behind the still-collapsed group positions: segments of the last `j` groups, then the
    back part of `L` -/
def tailG : Nat → List α
  | 0 => L.drop (pos + k)
  | j + 1 => seg (k - (j + 1)) ++ tailG j

/-- `L` with its last `j` group positions expanded -/
def partG (j : Nat) : List α := L.take (pos + k - j) ++ tailG L seg pos k j

theorem partG_zero : partG L seg pos k 0 = L := by
  simp [partG, tailG]

variable {L seg pos k}

theorem partG_length_take {j : Nat} (hj : j ≤ k) (hl : pos + k ≤ L.length) :
    (L.take (pos + k - j)).length = pos + k - j := by
  rw [List.length_take]; omega

theorem partG_getD_low {j x : Nat} (d : α) (hj : j ≤ k) (hl : pos + k ≤ L.length) (hx : x < pos + k - j) :
    (partG L seg pos k j).getD x d = L.getD x d := by
  simp only [partG]
  rw [getD_before _ _ _ _ (by rw [partG_length_take hj hl]; exact hx)]
  simp [List.getD_eq_getElem?_getD, hx]

theorem partG_take {j : Nat} (hj : j < k) (hl : pos + k ≤ L.length) :
    (partG L seg pos k j).take (pos + (k - (j + 1))) = L.take (pos + (k - (j + 1))) := by
  simp only [partG]
  rw [List.take_append_of_le_length (by rw [partG_length_take (Nat.le_of_lt hj) hl]; omega), List.take_take,
    Nat.min_eq_left (by omega)]

theorem partG_drop {j : Nat} (hj : j < k) (hl : pos + k ≤ L.length) :
    (partG L seg pos k j).drop (pos + (k - (j + 1)) + 1) = tailG L seg pos k j := by
  simp only [partG]
  have : pos + (k - (j + 1)) + 1 = (L.take (pos + k - j)).length := by
    rw [partG_length_take (Nat.le_of_lt hj) hl]; omega
  rw [this, List.drop_left']
  rfl

theorem partG_succ_parts {j : Nat} (hj : j < k) (hl : pos + k ≤ L.length) :
    partG L seg pos k (j + 1) = L.take (pos + (k - (j + 1))) ++ seg (k - (j + 1)) ++ tailG L seg pos k j := by
  have hp' : pos + k - (j + 1) = pos + (k - (j + 1)) := by omega
  simp only [partG, tailG, hp', List.append_assoc]

theorem partG_parts {j : Nat} (d : α) (hj : j < k) (hl : pos + k ≤ L.length) :
    partG L seg pos k j = L.take (pos + (k - (j + 1))) ++ [L.getD (pos + (k - (j + 1))) d] ++ tailG L seg pos k j := by
  have hp : pos + k - j = pos + (k - (j + 1)) + 1 := by omega
  simp only [partG, hp]
  rw [take_succ_getD L d (by omega)]

theorem partG_single {j : Nat} (d : α) (hj : j < k) (hl : pos + k ≤ L.length)
    (h : seg (k - (j + 1)) = [L.getD (pos + (k - (j + 1))) d]) :
    partG L seg pos k (j + 1) = partG L seg pos k j := by
  rw [partG_succ_parts hj hl, h, ← partG_parts d hj hl]

theorem partG_succ {j : Nat} (hj : j < k) (hl : pos + k ≤ L.length) :
    partG L seg pos k (j + 1) = replaceWithSeq (partG L seg pos k j) (pos + (k - (j + 1))) (seg (k - (j + 1))) := by
  rw [replaceWithSeq_split, partG_take hj hl, partG_drop hj hl, partG_succ_parts hj hl]

theorem partG_length {j : Nat} (hj : j ≤ k) (hl : pos + k ≤ L.length) :
    (partG L seg pos k j).length = pos + k - j + (tailG L seg pos k j).length := by
  simp only [partG, List.length_append, partG_length_take hj hl]

theorem tailG_closed {j : Nat} (hj : j ≤ k) :
    tailG L seg pos k j = ((List.range j).map (fun t => seg (k - j + t))).flatten ++ L.drop (pos + k) := by
  induction j with
  | zero => simp [tailG]
  | succ j ih =>
    simp only [tailG]
    have e : (List.range j).map (fun t => seg (k - j + t))
        = (List.range j).map ((fun t => seg (k - (j + 1) + t)) ∘ Nat.succ) := by
      apply List.map_congr_left
      intro t _
      simp only [Function.comp]
      congr 1; omega
    rw [ih (by omega), List.range_succ_eq_map, List.map_cons, List.map_map, List.flatten_cons, List.append_assoc, e]
    rfl

theorem partG_full : partG L seg pos k k
    = L.take pos ++ ((List.range k).map seg).flatten ++ L.drop (pos + k) := by
  simp only [partG, tailG_closed (Nat.le_refl k), Nat.add_sub_cancel, Nat.sub_self, Nat.zero_add,
    List.append_assoc]

end PartG


theorem inBox_take {s i : List Nat} (h : inBox s i = true) (n : Nat) : inBox (s.take n) (i.take n) = true := by
  induction s generalizing i n with
  | nil => cases i <;> simp_all [inBox]
  | cons d ds ih =>
    cases i with
    | nil => simp [inBox] at h
    | cons x xs =>
      cases n with
      | zero => rfl
      | succ n =>
        simp only [inBox_cons] at h
        simp only [List.take_succ_cons, inBox_cons]
        exact ⟨h.1, ih h.2 n⟩

theorem inBox_drop {s i : List Nat} (h : inBox s i = true) (n : Nat) : inBox (s.drop n) (i.drop n) = true := by
  induction s generalizing i n with
  | nil => cases i <;> simp_all [inBox]
  | cons d ds ih =>
    cases i with
    | nil => simp [inBox] at h
    | cons x xs =>
      cases n with
      | zero => exact h
      | succ n =>
        simp only [inBox_cons] at h
        simp only [List.drop_succ_cons]
        exact ih h.2 n

theorem tailG_inBox {S I : List Nat} {ms og : Nat → List Nat} {pos k : Nat} (h : inBox S I = true)
    (hg : ∀ g, g < k → inBox (ms g) (og g) = true) {j : Nat} (hj : j ≤ k) :
    inBox (tailG S ms pos k j) (tailG I og pos k j) = true := by
  induction j with
  | zero => exact inBox_drop h _
  | succ j ih =>
    simp only [tailG]
    rw [inBox_append (inBox_length (hg _ (by omega))), hg _ (by omega), ih (by omega)]
    rfl

theorem partG_inBox {S I : List Nat} {ms og : Nat → List Nat} {pos k : Nat} (h : inBox S I = true)
    (hg : ∀ g, g < k → inBox (ms g) (og g) = true) {j : Nat} (hj : j ≤ k) :
    inBox (partG S ms pos k j) (partG I og pos k j) = true := by
  simp only [partG]
  rw [inBox_append (by simp [inBox_length h]), inBox_take h, tailG_inBox h hg hj]
  rfl


theorem exists_unpermute {perm shp J : List Nat} {n : Nat} (hnd : perm.Nodup) (hpl : perm.length = n)
    (hlt : ∀ p ∈ perm, p < n) (hcover : ∀ ax, ax < n → ax ∈ perm) (hs : shp.length = n)
    (hJ : inBox (permuted shp perm) J = true) :
    ∃ offs, offs.length = n ∧ permuted offs perm = J ∧ inBox shp offs = true := by
  have hJl : J.length = n := by
    rw [inBox_length hJ, permuted_length _ _ (by rw [hs]; exact hlt), hpl]
  have hJb := (inBox_iff.1 hJ).2
  rw [permuted_length _ _ (by rw [hs]; exact hlt), hpl] at hJb
  refine ⟨(List.range n).map (fun ax => J.getD ((indexOf? perm ax).getD 0) 0), by simp, ?_, ?_⟩
  · rw [permuted_eq_map _ 0 _ (by simpa using hlt)]
    apply List.ext_getElem (by simp [hpl, hJl])
    intro t h1 h2
    simp only [List.length_map] at h1
    simp only [List.getElem_map]
    rw [getD_range_map _ _ _ _ (hlt _ (List.getElem_mem h1)), indexOf?_getElem hnd h1]
    simp [List.getD_eq_getElem?_getD, List.getElem?_eq_getElem h2]
  · rw [inBox_iff]
    refine ⟨by simp [hs], ?_⟩
    intro ax hax
    rw [hs] at hax
    rw [getD_range_map _ _ _ _ hax]
    obtain ⟨t, ht1, ht2⟩ := indexOf?_of_mem (hcover ax hax)
    have htl := getElem?_lt ht2
    rw [ht1]
    simp only [Option.getD_some]
    have := hJb t (by omega)
    rw [permuted_eq_map _ 0 _ (by rw [hs]; exact hlt)] at this
    simp only [List.getD_eq_getElem?_getD, List.getElem?_map, ht2, Option.map_some, Option.getD_some] at this
    simpa [List.getD_eq_getElem?_getD] using this

theorem allZero_of_get [Zero R] {V : Blk R} (hw : V.wf = true) (h : ∀ J, inBox V.shape J = true → V.get J = 0) :
    AllZero V := by
  rw [← ofFn_get_self V hw]
  exact ofFn_allZero h

end FuseP
end SymmModel
