/-
  SymmModel.Proofs.NetNormM1 — network form of the norm (property C10), mirror images of the
  ket-bra-first bracketings, part 1: the labels of `a·ā`.  S5 for operands whose labels are NOT distinct
  (`Assoc4P.tdotF_swap_gen_w`, `Assoc5P.swap_eqv_gen`) takes as hypotheses that both label merges succeed,
  give the same list, and that their signs differ by the sign of the two parities; here these facts are
  proved for the pair `(a, ā)` (`merge_ket_bra` next to `merge_bra_ket`: nested conjugate pairs annihilate
  in either order, with explicit signs; `merge_mirror_sign`).
-/
import SymmModel.Proofs.NetNormL3

namespace SymmModel.NormNet
open SymmModel SymmModel.Lazy
open SymmModel.KoszulP

open SymmModel.OddposP (mergeOddpos)
set_option linter.unusedSectionVars false

section labels

theorem merge_ket_bra (p : Bool) (w : List (Int × Bool)) (hk : KetLabels w)
    (hd : w.Pairwise (fun x y => x.1 ≠ y.1)) :
    mergeOddpos p w (Arr.oddposDag w)
      = .ok ([], ph0 p w.length * (if w.length % 2 = 1 then -1 else 1)) := by
  have hdd := oddposDag_distinct w hd
  have hs : (Arr.oddposDag (Arr.oddposDag w)).Pairwise (fun a b => oddLt a b = true) := by
    rw [oddposDag_involutive]; exact hk.2
  unfold OddposP.mergeOddpos
  have key := resolveScan_nested (Arr.oddposDag w) hs hdd
    (if p && (Arr.oddposDag w).length % 2 == 1 then -1 else 1)
    ((w ++ Arr.oddposDag w).length * (w ++ Arr.oddposDag w).length
      + 2 * (w ++ Arr.oddposDag w).length + 4) (by
    simp only [List.length_append, oddposDag_length]; exact merge_fuel _)
  rw [oddposDag_involutive] at key
  rw [key, nestSign_dual _ (oddposDag_all_dual w hk.1), oddposDag_length]
  rfl

theorem merge_mirror_sign (p : Bool) (n : Nat) (h : (n % 2 == 1) = p) :
    ph0 p n = ph0 p n * (if n % 2 = 1 then -1 else 1) * sgn (p.toNat * p.toNat) := by
  subst h
  unfold ph0 sgn
  rcases Nat.mod_two_eq_zero_or_one n with e | e <;> simp [e]

end labels

end SymmModel.NormNet
