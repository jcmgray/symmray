/-
  SymmModel.Proofs.Oddpos — the label algebra, second half: what the moves preserve (property C04,
  sign law S3: the odd-position labels of `resolve_combined_oddpos`).  The moves `swap` / `kill` on
  signed words and the scan as a strategy in them are Proofs/OddposScan.

  The invariant.  Order the letters "label first, bra before ket", so that the two letters of a label
  are neighbours in the order.  On a word without repeated letters
      sign · (-1)^(number of inversions for this order)
  is unchanged by every move (`LabelAlg.Red.wt_eq`): a swap changes the count by one and flips the
  sign; when a neighbouring pair is dropped, every third letter stands on the same side of both and
  compares alike with both (`pairR_pair_left/right`), so it contributes an even number, and the
  pair's own inversion is exactly the sign `kill` applies (`pairR_self_pair`).  With pairwise-distinct
  labels no pair is ever dropped and the same holds for the `oddLt`-inversions (`Red.distinct`),
  which gives the sorted merge with sign `(-1)^inversions` (`resolveScan_spec`, `mergeOddpos_spec`).

  Normal forms.  A sorted word whose neighbours carry different labels and whose letters ALL come in
  conjugate pairs is empty (`nil_of_paired`): the bra and the ket of the least label would both be
  there, a letter between them would carry a smaller label, so they would be neighbours.

  Consequences.  Both bracketings of three operands without repeated letters are reductions of the
  whole word from the same starting sign (`routes_core`); hence they agree when the labels are
  pairwise distinct (`routes_of_distinct`: the sorted permutation is unique) and when every letter is
  paired (`routes_of_paired`: both end in the empty word, and the invariant fixes the sign) — the
  latter is the case of the doubled (norm) network, `doubled_word`.  The fuel `n² + 2n + 4` that the
  model's `resolveCombinedOddpos` gives the scan (symmray's `while` loop has none) suffices for every
  input (`resolveScan_fuel_ok`).
-/
import SymmModel.Proofs.OddposScan
import SymmModel.Proofs.Koszul
import Mathlib.Tactic.Ring

namespace SymmModel
namespace OddposP
open KoszulP

/-- "`a` standing before `b` is an inversion" for odd-position labels -/
def oddR (a b : Int × Bool) : Bool := oddLt b a

theorem oddR_ex {a b : Int × Bool} (h : a ≠ b) : oddR a b = !oddR b a := by
  unfold oddR
  rcases oddLt_total h with h1 | h1
  · rw [h1, oddLt_asymm h1]; rfl
  · rw [h1, oddLt_asymm h1]; rfl

theorem invR_oddR_sorted (l : List (Int × Bool)) (h : l.Pairwise (fun x y => oddLt x y = true)) :
    invR oddR l = 0 := by
  apply invR_eq_zero_of_pairwise
  exact List.Pairwise.imp (fun {a b} hab => by unfold oddR; exact oddLt_asymm hab) h

theorem invR_oddR_swap (xs : List (Int × Bool)) (a b : Int × Bool) (rest : List (Int × Bool))
    (h : oddLt b a = true) :
    invR oddR (xs ++ a :: b :: rest) = invR oddR (xs ++ b :: a :: rest) + 1 := by
  have e := invR_block_swap oddR xs [a] [b] rest
  have h1 : oddR a b = true := h
  have h2 : oddR b a = false := oddLt_asymm h
  have c1 : crossR oddR [b] [a] = 0 := by simp [crossR, h2]
  have c2 : crossR oddR [a] [b] = 1 := by simp [crossR, h1]
  have e1 : xs ++ [a] ++ [b] ++ rest = xs ++ a :: b :: rest := by simp
  have e2 : xs ++ [b] ++ [a] ++ rest = xs ++ b :: a :: rest := by simp
  rw [c1, c2, e1, e2] at e
  omega

theorem invR_remove_two_le {α : Type} (r : α → α → Bool) (xs : List α) (a b : α) (rest : List α) :
    invR r (xs ++ rest) ≤ invR r (xs ++ a :: b :: rest) := by
  simp only [invR_append, invR, crossR_cons_right]; omega

def OddSorted (l : List (Int × Bool)) : Prop := l.Pairwise (fun x y => oddLt x y = true)

def LabelsDistinct (l : List (Int × Bool)) : Prop := l.Pairwise (fun x y => x.1 ≠ y.1)

theorem LabelsDistinct.perm {l m : List (Int × Bool)} (h : LabelsDistinct l) (p : l.Perm m) :
    LabelsDistinct m :=
  (p.pairwise_iff (fun hxy => Ne.symm hxy)).1 h

theorem labels_ne_of_distinct (xs : List (Int × Bool)) (a b : Int × Bool) (rest : List (Int × Bool))
    (h : LabelsDistinct (xs ++ a :: b :: rest)) : (a.1 == b.1) = false := by
  unfold LabelsDistinct at h
  rw [List.pairwise_append] at h
  have := (List.pairwise_cons.1 h.2.1).1 b (by simp)
  simpa using this

theorem LabelsDistinct.nodup {l : List (Int × Bool)} (h : LabelsDistinct l) : l.Nodup :=
  h.imp (fun h e => h (by rw [e]))

theorem _root_.SymmModel.LabelAlg.Normal.sorted {o : List (Int × Bool)} (h : LabelAlg.Normal o) :
    OddSorted o := by
  unfold OddSorted; rw [← List.reverse_reverse o, List.pairwise_reverse]; exact h.1

end OddposP

namespace LabelAlg
open OddposP KoszulP

/-- inversions for the order "label first, bra before ket" -/
def pairR (a b : Lab) : Bool := decide (b.1 < a.1) || (b.1 == a.1 && b.2 && !a.2)

/-- the invariant of words without repeated letters -/
def wt (p : List Lab × Int) : Int := p.2 * sgn (invR pairR p.1)

def Paired (l : List Lab) : Prop := ∀ x d, (x, d) ∈ l → (x, !d) ∈ l

theorem pairR_ex {a b : Lab} (h : a.1 ≠ b.1) : pairR a b = !pairR b a := by
  obtain ⟨x, d⟩ := a
  obtain ⟨y, e⟩ := b
  have h' : x ≠ y := h
  have h1 : (y == x) = false := by simpa using fun e => h' e.symm
  have h2 : (x == y) = false := by simpa using h'
  simp only [pairR, h1, h2, Bool.false_and, Bool.or_false]
  rw [Bool.eq_iff_iff]
  simp only [decide_eq_true_eq, Bool.not_eq_true', decide_eq_false_iff_not]
  omega

theorem pairR_pair_left {a b c : Lab} (h : a.1 = b.1) (hc : c.1 ≠ a.1) :
    pairR c a = pairR c b := by
  have h2 : (b.1 == c.1) = false := by rw [← h]; simpa using fun e => hc e.symm
  simp only [pairR, h2, Bool.false_and, Bool.or_false, h]

theorem pairR_pair_right {a b c : Lab} (h : a.1 = b.1) (hc : c.1 ≠ a.1) :
    pairR a c = pairR b c := by
  have h2 : (c.1 == b.1) = false := by rw [← h]; simpa using hc
  simp only [pairR, h2, Bool.false_and, Bool.or_false, h]

theorem pairR_self_pair {a b : Lab} (h : a.1 = b.1) (hd : a.2 ≠ b.2) : pairR a b = b.2 := by
  obtain ⟨x, d⟩ := a
  obtain ⟨y, e⟩ := b
  simp only at h hd
  subst h
  cases d <;> cases e <;> simp_all [pairR]

theorem sgn_invR_swap (r : Lab → Lab → Bool) (xs rest : List Lab) {a b : Lab}
    (hex : r a b = !r b a) :
    sgn (invR r (xs ++ b :: a :: rest)) = - sgn (invR r (xs ++ a :: b :: rest)) := by
  have e := invR_block_swap r xs [a] [b] rest
  have c : crossR r [a] [b] + crossR r [b] [a] = 1 := by
    simp only [crossR, List.filter_cons, List.filter_nil]
    cases h1 : r a b <;> cases h2 : r b a <;> simp_all
  simp only [List.append_assoc, List.cons_append, List.nil_append] at e
  rw [← sgn_succ]
  exact sgn_congr (by omega)

theorem eq_of_label {a b c : Lab} (h : a.1 = b.1) (hd : a.2 ≠ b.2) (e : c.1 = a.1) : c = a ∨ c = b := by
  have bool : ∀ x y z : Bool, x ≠ y → y ≠ z → x = z := by decide
  by_cases hc : c.2 = a.2
  · exact .inl (Prod.ext e hc)
  · exact .inr (Prod.ext (e.trans h) (bool _ _ _ hc hd))

theorem ne_of_nodup_mid {xs rest : List Lab} {a b c : Lab} (hn : (xs ++ a :: b :: rest).Nodup)
    (hc : c ∈ xs ∨ c ∈ rest) : c ≠ a ∧ c ≠ b := by
  obtain ⟨-, n2, n3⟩ := List.nodup_append.mp hn
  obtain ⟨na, n4⟩ := List.nodup_cons.mp n2
  obtain ⟨nb, -⟩ := List.nodup_cons.mp n4
  rcases hc with hc | hc
  · exact ⟨n3 c hc a (by simp), n3 c hc b (by simp)⟩
  · exact ⟨fun e => na (e ▸ List.mem_cons_of_mem _ hc), fun e => nb (e ▸ hc)⟩

/-- dropping a neighbouring pair changes the inversion count by an even number plus the pair's own -/
theorem invR_kill (xs rest : List Lab) (a b : Lab) (h : a.1 = b.1) (hd : a.2 ≠ b.2)
    (hn : (xs ++ a :: b :: rest).Nodup) :
    sgn (invR pairR (xs ++ a :: b :: rest))
      = sgn (invR pairR (xs ++ rest)) * (if b.2 then -1 else 1) := by
  have hne : ∀ c, c ∈ xs ∨ c ∈ rest → c.1 ≠ a.1 := fun c hc e => by
    obtain ⟨ha, hb⟩ := ne_of_nodup_mid hn hc
    rcases eq_of_label h hd e with e' | e'
    · exact ha e'
    · exact hb e'
  have e1 : (xs.filter (fun c => pairR c a)).length = (xs.filter (fun c => pairR c b)).length := by
    rw [List.filter_congr (fun c hc => pairR_pair_left h (hne c (Or.inl hc)))]
  have e2 : (rest.filter (pairR a)).length = (rest.filter (pairR b)).length := by
    rw [List.filter_congr (fun c hc => pairR_pair_right h (hne c (Or.inr hc)))]
  have e3 := pairR_self_pair h hd
  simp only [invR_append, invR, crossR_cons_right, List.filter_cons, e3]
  cases b.2
  · simp only [Bool.false_eq_true, if_false, Int.mul_one]
    rw [e1, e2]
    exact sgn_congr (by omega)
  · simp only [if_true, List.length_cons]
    rw [e1, e2, show ∀ x : Int, x * -1 = -x from fun x => by omega, ← sgn_succ]
    exact sgn_congr (by omega)

theorem Red.wt_eq {p q : List Lab × Int} (h : Red p q) (hn : p.1.Nodup) : wt q = wt p := by
  cases h with
  | swap xs rest a b s hab =>
    unfold wt
    simp only
    rw [sgn_invR_swap pairR xs rest (pairR_ex hab)]; ring
  | kill xs rest a b s hab hd =>
    unfold wt
    simp only
    rw [invR_kill xs rest a b hab hd hn]
    cases b.2 <;> simp

theorem Red.nodup {p q : List Lab × Int} (h : Red p q) (hn : p.1.Nodup) : q.1.Nodup := by
  cases h with
  | swap xs rest a b s hab =>
    exact (List.Perm.append_left xs (List.Perm.swap b a rest)).nodup_iff.mp hn
  | kill xs rest a b s hab hd =>
    exact hn.sublist (List.Sublist.append_left
      ((List.sublist_cons_self b rest).trans (List.sublist_cons_self a _)) xs)

theorem Red.paired {p q} (h : Red p q) (hn : p.1.Nodup) (hp : Paired p.1) : Paired q.1 := by
  cases h with
  | swap xs rest a b s hab =>
    have pm : (xs ++ b :: a :: rest).Perm (xs ++ a :: b :: rest) :=
      List.Perm.append_left xs (List.Perm.swap a b rest)
    intro x d hx
    exact pm.mem_iff.mpr (hp x d (pm.mem_iff.mp hx))
  | kill xs rest a b s hab hd =>
    intro x d hx
    simp only at hn hp hx ⊢
    have hx' : (x, d) ∈ xs ∨ (x, d) ∈ rest := List.mem_append.mp hx
    obtain ⟨ha, hb⟩ := ne_of_nodup_mid hn hx'
    -- the partner of a surviving letter is neither of the two dropped ones: it carries their label,
    -- so the surviving letter would be one of them
    have off : ∀ u : Lab, (x, !d) = u → u.1 = a.1 → False := fun u e1 e2 => by
      rcases eq_of_label (c := (x, d)) hab hd (by rw [← e2, ← e1]) with e | e
      · exact ha e
      · exact hb e
    rcases List.mem_append.mp (hp x d (by rcases hx' with h | h <;> simp [h])) with h | h
    · exact List.mem_append.mpr (.inl h)
    · rcases List.mem_cons.mp h with h | h
      · exact (off a h rfl).elim
      · rcases List.mem_cons.mp h with h | h
        · exact (off b h hab.symm).elim
        · exact List.mem_append.mpr (.inr h)

/-- with pairwise-distinct labels a move is a swap: the word is permuted and
    `sign · (-1)^(oddLt-inversions)` stays -/
theorem Red.distinct {p q : List Lab × Int} (h : Red p q) (hd : LabelsDistinct p.1) :
    q.1.Perm p.1 ∧ q.2 * sgn (invR oddR q.1) = p.2 * sgn (invR oddR p.1) := by
  cases h with
  | swap xs rest a b s hab =>
    refine ⟨List.Perm.append_left xs (List.Perm.swap a b rest), ?_⟩
    simp only
    rw [sgn_invR_swap oddR xs rest (oddR_ex (fun e => hab (by rw [e])))]; ring
  | kill xs rest a b s hab _ =>
    have := labels_ne_of_distinct xs a b rest hd
    simp [hab] at this

theorem Reds.inv {p q} (h : Reds p q) (hn : p.1.Nodup) : wt q = wt p ∧ q.1.Nodup :=
  h.lift (P := fun x => wt x = wt p ∧ x.1.Nodup)
    (fun r ⟨e, n⟩ => ⟨(r.wt_eq n).trans e, r.nodup n⟩) ⟨rfl, hn⟩

theorem Reds.paired {p q} (h : Reds p q) (hn : p.1.Nodup) (hp : Paired p.1) : Paired q.1 :=
  (h.lift (P := fun x => x.1.Nodup ∧ Paired x.1)
    (fun r ⟨n, k⟩ => ⟨r.nodup n, r.paired n k⟩) ⟨hn, hp⟩).2

theorem Reds.distinct {p q : List Lab × Int} (h : Reds p q) (hd : LabelsDistinct p.1) :
    q.1.Perm p.1 ∧ q.2 * sgn (invR oddR q.1) = p.2 * sgn (invR oddR p.1) :=
  h.lift (P := fun x => x.1.Perm p.1 ∧ x.2 * sgn (invR oddR x.1) = p.2 * sgn (invR oddR p.1))
    (fun r ⟨pm, e⟩ =>
      have ⟨pm', e'⟩ := r.distinct (hd.perm pm.symm)
      ⟨pm'.trans pm, e'.trans e⟩)
    ⟨List.Perm.refl _, rfl⟩

theorem exists_min_label : ∀ (l : List Lab), l ≠ [] → ∃ m ∈ l, ∀ y ∈ l, m.1 ≤ y.1
  | [a], _ => ⟨a, by simp, by simp⟩
  | a :: b :: l, _ => by
    obtain ⟨m, hm, hmin⟩ := exists_min_label (b :: l) (by simp)
    by_cases h : a.1 ≤ m.1
    · refine ⟨a, by simp, fun y hy => ?_⟩
      rcases List.mem_cons.mp hy with rfl | hy
      · exact Int.le_refl _
      · exact Int.le_trans h (hmin y hy)
    · refine ⟨m, List.mem_cons_of_mem _ hm, fun y hy => ?_⟩
      rcases List.mem_cons.mp hy with rfl | hy
      · omega
      · exact hmin y hy

theorem Tight.mid : ∀ (A : List Lab) {k b : Lab} {C : List Lab}, Tight (A ++ k :: b :: C) → k.1 ≠ b.1
  | [], _, _, _, h => h.1
  | [_], _, _, _, h => h.2.1
  | _ :: a' :: A, _, _, _, h => Tight.mid (a' :: A) h.2

theorem tight_of_distinct : ∀ (l : List Lab), LabelsDistinct l → Tight l
  | [], _ => trivial
  | [_], _ => trivial
  | a :: b :: l, h =>
    ⟨(List.pairwise_cons.mp h).1 b (by simp), tight_of_distinct (b :: l) (List.Pairwise.of_cons h)⟩

/-- a `Normal` word whose letters all come in conjugate pairs is empty: in the reversed (descending)
    word the ket of the least label stands in front of its bra with nothing between them -/
theorem nil_of_paired {o : List Lab} (h : Normal o) (hn : o.Nodup) (hp : Paired o) : o = [] := by
  suffices hl : ∀ l : List Lab, Desc l → Tight l → l.Nodup → Paired l → l = [] by
    have := hl o.reverse h.1 h.2 (List.nodup_reverse.mpr hn)
      (fun x d hx => List.mem_reverse.mpr (hp x d (List.mem_reverse.mp hx)))
    simpa using this
  intro l hD hT hn hp
  by_contra hne
  obtain ⟨⟨x, d⟩, hm, hmin⟩ := exists_min_label l hne
  have hk : (x, false) ∈ l := by cases d; exact hm; exact hp x true hm
  have hb : (x, true) ∈ l := by cases d; exact hp x false hm; exact hm
  obtain ⟨A, t, rfl⟩ := List.append_of_mem hk
  unfold Desc at hD
  obtain ⟨-, hD2, hD3⟩ := List.pairwise_append.mp hD
  obtain ⟨hk1, hD4⟩ := List.pairwise_cons.mp hD2
  have hbt : (x, true) ∈ t := by
    rcases List.mem_append.mp hb with h | h
    · have := hD3 _ h (x, false) (by simp)
      simp [oddLt] at this
    · rcases List.mem_cons.mp h with h | h
      · cases h
      · exact h
  obtain ⟨B, C, rfl⟩ := List.append_of_mem hbt
  -- a ket between them would have a smaller label, and so would a bra
  have hB : B = [] := by
    rw [List.eq_nil_iff_forall_not_mem]
    rintro ⟨y, e⟩ hy
    have h1 := hk1 (y, e) (by simp [hy])
    have h2 := (List.pairwise_append.mp hD4).2.2 (y, e) hy (x, true) (by simp)
    have h3 := hmin (y, e) (by simp [hy])
    cases e <;> simp [oddLt] at h1 h2 h3 <;> omega
  subst hB
  exact Tight.mid A hT rfl

end LabelAlg

namespace OddposP
open KoszulP

/-! ### partial correctness for pairwise-distinct labels -/

theorem resolveScan_spec : ∀ (fuel : Nat) (pre post : List (Int × Bool)) (ph : Int)
    (out : List (Int × Bool)) (ph' : Int),
    LabelsDistinct (pre.reverse ++ post) → Desc (post.head?.toList ++ pre) →
    resolveScan fuel pre post ph = .ok (out, ph') →
    out.Perm (pre.reverse ++ post) ∧ OddSorted out ∧
      ph' = ph * sgn (invR oddR (pre.reverse ++ post)) := by
  intro fuel pre post ph out ph' hd hdesc h
  have hsub : (pre.reverse ++ post.head?.toList).Sublist (pre.reverse ++ post) :=
    (List.Sublist.refl _).append (by cases post <;> simp)
  have hT : LabelAlg.Tight (post.head?.toList ++ pre) :=
    LabelAlg.tight_of_distinct _ (LabelsDistinct.perm (List.Pairwise.sublist hsub hd)
      (List.perm_append_comm.trans ((List.reverse_perm pre).append_left _)))
  obtain ⟨r, n⟩ := LabelAlg.resolveScan_reds fuel pre post ph out ph' hdesc hT h
  obtain ⟨pm, e⟩ := r.distinct hd
  have hs := n.sorted
  refine ⟨pm, hs, ?_⟩
  simp only [invR_oddR_sorted _ hs, sgn_zero, Int.mul_one] at e
  exact e

/-- the scan never runs out of fuel once `fuel > 2·(inversions) + (entries from the cursor on)`;
    this holds for every input, conjugate pairs and clashes included -/
theorem resolveScan_ne_other : ∀ (fuel : Nat) (pre post : List (Int × Bool)) (ph : Int),
    2 * invR oddR (pre.reverse ++ post) + post.length < fuel →
    resolveScan fuel pre post ph ≠ .error Err.other := by
  intro fuel
  induction fuel with
  | zero => intro pre post ph h; omega
  | succ f ih =>
    intro pre post ph hlt
    match post, hlt with
    | [], _ => rw [resolveScan_nil]; intro h; cases h
    | [a], _ => rw [resolveScan_single]; intro h; cases h
    | a :: b :: rest, hlt =>
      simp only [List.length_cons] at hlt
      cases h1 : (a.1 == b.1)
      · cases h2 : oddLt b a
        · rw [resolveScan_fwd f pre a b rest ph h1 h2]
          apply ih
          have e : (a :: pre).reverse ++ b :: rest = pre.reverse ++ a :: b :: rest := by simp
          rw [e, List.length_cons]; omega
        · rw [resolveScan_swap f pre a b rest ph h1 h2]
          apply ih
          have := invR_oddR_swap pre.reverse a b rest h2
          have hl := zip_back_length pre (b :: a :: rest)
          rw [zip_back]
          simp only [List.length_cons] at hl
          omega
      · cases h2 : (a.2 != b.2)
        · rw [resolveScan_clash f pre a b rest ph h1 h2]; intro h; cases h
        · rw [resolveScan_annihilate f pre a b rest ph h1 h2]
          apply ih
          have := invR_remove_two_le oddR pre.reverse a b rest
          have hl := zip_back_length pre rest
          rw [zip_back]
          omega

/-- `C04.resolveScan_fuel`: with the fuel `n*n + 2*n + 4` of `resolveCombinedOddpos` the scan never
    reports `Err.other` (out of fuel) — for every input list -/
theorem resolveScan_fuel_ok (l : List (Int × Bool)) (ph : Int) :
    resolveScan (l.length * l.length + 2 * l.length + 4) [] l ph ≠ .error Err.other := by
  apply resolveScan_ne_other
  have := invR_le oddR l
  simp only [List.reverse_nil, List.nil_append]
  omega

/-- on a word without repeated letters the scan succeeds: a clash would be a reachable word with the
    same letter twice, and the moves keep words free of repeated letters -/
theorem resolveScan_ok (l : List (Int × Bool)) (ph : Int) (hn : l.Nodup) :
    ∃ out s, resolveScan (l.length * l.length + 2 * l.length + 4) [] l ph = .ok (out, s) := by
  have O := LabelAlg.resolveScan_outcome (l.length * l.length + 2 * l.length + 4) [] l ph
    (LabelAlg.desc_start l) (LabelAlg.tight_start l)
  cases h : resolveScan (l.length * l.length + 2 * l.length + 4) [] l ph with
  | ok r => exact ⟨r.1, r.2, rfl⟩
  | error e =>
    rw [h] at O
    cases e with
    | other => exact absurd h (resolveScan_fuel_ok l ph)
    | value =>
      obtain ⟨xs, a, rest, s, r⟩ := O
      have := (List.nodup_cons.mp (List.nodup_append.mp (r.inv (by simpa using hn)).2).2.1).1
      exact absurd List.mem_cons_self this
    | _ => exact O.elim

/-- total correctness of the scan for pairwise-distinct labels: it returns the `oddLt`-sorted
    permutation of its input and multiplies the sign by `(-1)^(number of inversions)` -/
theorem resolveScan_total (l : List (Int × Bool)) (ph : Int) (hd : LabelsDistinct l) :
    ∃ out, out.Perm l ∧ OddSorted out ∧
      resolveScan (l.length * l.length + 2 * l.length + 4) [] l ph
        = .ok (out, ph * sgn (invR oddR l)) := by
  obtain ⟨out, ph', hres⟩ := resolveScan_ok l ph hd.nodup
  obtain ⟨o1, o2, o3⟩ := resolveScan_spec _ [] l ph out ph' (by simpa using hd)
    (LabelAlg.desc_start l) hres
  simp only [List.reverse_nil, List.nil_append] at o1 o3
  exact ⟨out, o1, o2, by rw [hres, o3]⟩

theorem oddSorted_unique {l m : List (Int × Bool)} (hl : OddSorted l) (hm : OddSorted m)
    (p : l.Perm m) : l = m := by
  apply List.Perm.eq_of_pairwise (le := fun x y => oddLt x y = true) _ hl hm p
  intro a b _ _ h1 h2
  rw [oddLt_asymm h1] at h2; cases h2

theorem ph0_eq (pa : Bool) (n : Nat) :
    (if pa && n % 2 == 1 then (-1 : Int) else 1) = sgn (pa.toNat * n) := by
  unfold sgn
  cases pa
  · simp
  · rcases Nat.mod_two_eq_zero_or_one n with h | h <;> simp [h]

theorem mergeOddpos_spec (pa : Bool) (la lb : List (Int × Bool)) (hd : LabelsDistinct (la ++ lb)) :
    ∃ out, out.Perm (la ++ lb) ∧ OddSorted out ∧
      mergeOddpos pa la lb = .ok (out, sgn (pa.toNat * lb.length + invR oddR (la ++ lb))) := by
  obtain ⟨out, o1, o2, o3⟩ := resolveScan_total (la ++ lb)
    (if pa && lb.length % 2 == 1 then -1 else 1) hd
  refine ⟨out, o1, o2, ?_⟩
  unfold mergeOddpos
  rw [o3, ph0_eq, sgn_add]

/-- a lone conjugate pair annihilates; the sign is `-1` exactly for ket-then-bra -/
theorem resolveScan_pair (f : Nat) (a b : Int × Bool) (ph : Int)
    (h1 : a.1 = b.1) (h2 : a.2 ≠ b.2) :
    resolveScan (f + 2) [] [a, b] ph = .ok ([], if b.2 then -ph else ph) := by
  rw [resolveScan_annihilate (f + 1) [] a b [] ph (by simp [h1]) (by simpa using h2)]
  rfl

/-- walking over an already sorted, label-distinct prefix costs one unit of fuel per entry and
    changes nothing -/
theorem resolveScan_walk : ∀ (xs : List (Int × Bool)) (f : Nat) (pre : List (Int × Bool))
    (c : Int × Bool) (post : List (Int × Bool)) (ph : Int),
    OddSorted (xs ++ [c]) → LabelsDistinct (xs ++ [c]) →
    resolveScan (f + xs.length) pre (xs ++ c :: post) ph
      = resolveScan f (xs.reverse ++ pre) (c :: post) ph := by
  intro xs
  induction xs with
  | nil => intro f pre c post ph _ _; rfl
  | cons x xs ih =>
    intro f pre c post ph hs hd
    have hs' : OddSorted (xs ++ [c]) := List.Pairwise.of_cons hs
    have hd' : LabelsDistinct (xs ++ [c]) := List.Pairwise.of_cons hd
    obtain ⟨y, ys, hy⟩ : ∃ y ys, xs ++ c :: post = y :: ys := by
      cases xs with
      | nil => exact ⟨c, post, rfl⟩
      | cons y ys => exact ⟨y, ys ++ c :: post, rfl⟩
    have hymem : y ∈ xs ++ [c] := by
      cases xs with
      | nil => simp only [List.nil_append, List.cons.injEq] at hy; simp [hy.1]
      | cons y' ys' => simp only [List.cons_append, List.cons.injEq] at hy; simp [hy.1]
    have hxy : oddLt x y = true := (List.pairwise_cons.1 hs).1 y hymem
    have hne : (x.1 == y.1) = false := by
      have := (List.pairwise_cons.1 hd).1 y hymem
      simpa using this
    have e : f + (x :: xs).length = (f + xs.length) + 1 := by simp; omega
    rw [e, List.cons_append, hy, resolveScan_fwd _ pre x y ys ph hne (oddLt_asymm hxy), ← hy,
      ih f (x :: pre) c post ph hs' hd']
    simp

/-- annihilation inside a list (adjacent case): if the part before the pair is sorted up to and
    including the ket/bra `a`, the scan reaches the pair, removes it with sign `-1` iff it meets
    as ket-then-bra (`b.dual`), steps back one entry and carries on with the remaining list -/
theorem resolveScan_annihilate_adjacent (xs : List (Int × Bool)) (a b : Int × Bool)
    (ys : List (Int × Bool)) (f : Nat) (ph : Int)
    (hs : OddSorted (xs ++ [a])) (hd : LabelsDistinct (xs ++ [a]))
    (h1 : a.1 = b.1) (h2 : a.2 ≠ b.2) :
    resolveScan (f + 1 + xs.length) [] (xs ++ a :: b :: ys) ph
      = resolveScan f xs.reverse.tail (xs.reverse.head?.toList ++ ys)
          (if b.2 then -ph else ph) := by
  rw [resolveScan_walk xs (f + 1) [] a (b :: ys) ph hs hd, List.append_nil,
    resolveScan_annihilate f xs.reverse a b ys ph (by simp [h1]) (by simpa using h2)]

theorem mergeOddpos_ok (p : Bool) (la lb : List (Int × Bool)) (hn : (la ++ lb).Nodup) :
    ∃ out s, mergeOddpos p la lb = .ok (out, s) :=
  resolveScan_ok (la ++ lb) _ hn

end OddposP

namespace Assoc2P

/-- the two label routes succeed with the same final labels and the same total sign -/
def LabelRoutes (pa pb : Bool) (la lb lc : List (Int × Bool)) : Prop :=
  ∃ lab sab lbc sbc out s1 s2,
    OddposP.mergeOddpos pa la lb = .ok (lab, sab) ∧
    OddposP.mergeOddpos (xor pa pb) lab lc = .ok (out, s1) ∧
    OddposP.mergeOddpos pb lb lc = .ok (lbc, sbc) ∧
    OddposP.mergeOddpos pa la lbc = .ok (out, s2) ∧
    sab * s1 = sbc * s2 ∧
    (sab = 1 ∨ sab = -1) ∧ (s1 = 1 ∨ s1 = -1) ∧ (sbc = 1 ∨ sbc = -1) ∧ (s2 = 1 ∨ s2 = -1)

end Assoc2P

namespace LabelAlg
open OddposP KoszulP

theorem eps_assoc (pa pb : Bool) {nb nc nbc : Nat} (h : nbc % 2 = (nb + nc) % 2) :
    eps pa nb * eps (xor pa pb) nc = eps pb nc * eps pa nbc := by
  unfold eps
  rcases Nat.mod_two_eq_zero_or_one nb with hb | hb <;>
    rcases Nat.mod_two_eq_zero_or_one nc with hc | hc <;>
    cases pa <;> cases pb <;> simp [hb, hc, h, Nat.add_mod]

/-- the four merges of the two bracketings `(la·lb)·lc` and `la·(lb·lc)`, both routes as reductions of
    the whole word from the same starting sign `ε` -/
structure Routes (pa pb : Bool) (la lb lc lab lbc o1 o2 : List Lab) (sab sbc s1 s2 ε : Int) : Prop where
  m1 : mergeOddpos pa la lb = .ok (lab, sab)
  m2 : mergeOddpos (xor pa pb) lab lc = .ok (o1, s1)
  m3 : mergeOddpos pb lb lc = .ok (lbc, sbc)
  m4 : mergeOddpos pa la lbc = .ok (o2, s2)
  r1 : Reds (la ++ lb ++ lc, ε) (o1, sab * s1)
  r2 : Reds (la ++ lb ++ lc, ε) (o2, sbc * s2)
  n1 : Normal o1
  n2 : Normal o2
  pm : (sab = 1 ∨ sab = -1) ∧ (s1 = 1 ∨ s1 = -1) ∧ (sbc = 1 ∨ sbc = -1) ∧ (s2 = 1 ∨ s2 = -1)

theorem Routes.labelRoutes {pa pb : Bool} {la lb lc lab lbc o1 o2 : List Lab} {sab sbc s1 s2 ε : Int}
    (R : Routes pa pb la lb lc lab lbc o1 o2 sab sbc s1 s2 ε) (ho : o1 = o2)
    (hs : sab * s1 = sbc * s2) : Assoc2P.LabelRoutes pa pb la lb lc :=
  ⟨lab, sab, lbc, sbc, o1, s1, s2, R.m1, R.m2, R.m3, ho ▸ R.m4, hs, R.pm⟩

theorem routes_core (pa pb : Bool) (la lb lc : List Lab) (hn : (la ++ lb ++ lc).Nodup) :
    ∃ lab lbc o1 o2 sab sbc s1 s2 ε, Routes pa pb la lb lc lab lbc o1 o2 sab sbc s1 s2 ε := by
  have hn' : (la ++ (lb ++ lc)).Nodup := by rw [← List.append_assoc]; exact hn
  obtain ⟨lab, sab, m1⟩ := mergeOddpos_ok pa la lb (List.nodup_append.mp hn).1
  obtain ⟨lbc, sbc, m3⟩ := mergeOddpos_ok pb lb lc (List.nodup_append.mp hn').2.1
  obtain ⟨r1, -, -⟩ := mergeOddpos_reds m1
  obtain ⟨r3, -, -⟩ := mergeOddpos_reds m3
  -- the two first merges, seen inside the whole word
  have R1 := r1.ctx [] lc (eps (xor pa pb) lc.length)
  have R3 := r3.ctx la [] (eps pa lbc.length)
  simp only [List.nil_append, List.append_nil] at R1 R3
  rw [← List.append_assoc] at R3
  obtain ⟨-, n1⟩ := R1.inv hn
  obtain ⟨-, n3⟩ := R3.inv hn
  obtain ⟨o1, s1, m2⟩ := mergeOddpos_ok (xor pa pb) lab lc n1
  obtain ⟨o2, s2, m4⟩ := mergeOddpos_ok pa la lbc n3
  obtain ⟨r2, k2⟩ := mergeOddpos_reds m2
  obtain ⟨r4, k4⟩ := mergeOddpos_reds m4
  have R2 := R1.trans (by simpa [Int.mul_comm] using r2.ctx [] [] sab)
  have R4 := R3.trans (by simpa [Int.mul_comm] using r4.ctx [] [] sbc)
  have hl : lbc.length % 2 = (lb.length + lc.length) % 2 := by
    have := r3.length; simpa using this
  rw [Int.mul_comm (eps pa _), ← eps_assoc pa pb hl, Int.mul_comm (eps pa _)] at R4
  have pm : ∀ {p q : List Lab × Int}, Reds p q → (p.2 = 1 ∨ p.2 = -1) → (q.2 = 1 ∨ q.2 = -1) := by
    intro p q r h
    rcases r.sign with e | e <;> rcases h with e' | e' <;> rw [e, e'] <;> simp
  exact ⟨lab, lbc, o1, o2, sab, sbc, s1, s2, _, m1, m2, m3, m4, R2, R4, k2, k4,
    pm r1 (eps_pm _ _), pm r2 (eps_pm _ _), pm r3 (eps_pm _ _), pm r4 (eps_pm _ _)⟩

/-- **three operands whose letters are all different and all come in conjugate pairs**: both
    bracketings end in the empty word (`nil_of_paired`) and the invariant fixes their sign -/
theorem routes_of_paired (pa pb : Bool) (la lb lc : List Lab)
    (hn : (la ++ lb ++ lc).Nodup) (hp : Paired (la ++ lb ++ lc)) :
    Assoc2P.LabelRoutes pa pb la lb lc := by
  obtain ⟨lab, lbc, o1, o2, sab, sbc, s1, s2, ε, R⟩ := routes_core pa pb la lb lc hn
  obtain ⟨w1, n1⟩ := R.r1.inv hn
  obtain ⟨w2, n2⟩ := R.r2.inv hn
  have e1 : o1 = [] := nil_of_paired R.n1 n1 (R.r1.paired hn hp)
  have e2 : o2 = [] := nil_of_paired R.n2 n2 (R.r2.paired hn hp)
  subst e1 e2
  simp only [wt, invR, sgn_zero, Int.mul_one] at w1 w2
  exact R.labelRoutes rfl (w1.trans w2.symm)

/-- **three operands with pairwise-distinct labels**: both bracketings end in the sorted permutation
    of the whole word, which is unique, and the `oddLt`-inversions fix their sign -/
theorem routes_of_distinct (pa pb : Bool) (la lb lc : List Lab)
    (hd : LabelsDistinct (la ++ lb ++ lc)) : Assoc2P.LabelRoutes pa pb la lb lc := by
  obtain ⟨lab, lbc, o1, o2, sab, sbc, s1, s2, ε, R⟩ := routes_core pa pb la lb lc hd.nodup
  obtain ⟨p1, w1⟩ := R.r1.distinct hd
  obtain ⟨p2, w2⟩ := R.r2.distinct hd
  have ho : o1 = o2 :=
    oddSorted_unique R.n1.sorted R.n2.sorted (p1.trans p2.symm)
  subst ho
  simp only [invR_oddR_sorted _ R.n1.sorted, sgn_zero, Int.mul_one] at w1 w2
  exact R.labelRoutes rfl (w1.trans w2.symm)

def flip (a : Lab) : Lab := (a.1, !a.2)

theorem oddposDag_perm (o : List Lab) : (Arr.oddposDag o).Perm (o.map flip) :=
  (List.reverse_perm o).map _

theorem doubled_word {o w : List Lab} (hd : LabelsDistinct o) (hw : w.Perm (o ++ o.map flip)) :
    w.Nodup ∧ Paired w := by
  have same : ∀ a ∈ o, ∀ c ∈ o, a.1 = c.1 → a = c := by
    intro a ha c hc e
    obtain ⟨s, t, rfl⟩ := List.append_of_mem ha
    obtain ⟨-, h2, h3⟩ := List.pairwise_append.mp hd
    rcases List.mem_append.mp hc with h | h
    · exact absurd e.symm (h3 c h a (by simp))
    · rcases List.mem_cons.mp h with h | h
      · exact h.symm
      · exact absurd e ((List.pairwise_cons.mp h2).1 c h)
  have finj : Function.Injective flip := by
    rintro ⟨x, d⟩ ⟨y, e⟩ h
    simp only [flip, Prod.mk.injEq] at h
    obtain ⟨rfl, h⟩ := h
    rw [Bool.not_inj h]
  have on : o.Nodup := hd.nodup
  refine ⟨hw.nodup_iff.mpr (List.nodup_append.mpr ⟨on, List.Nodup.map finj on, ?_⟩), ?_⟩
  · intro a ha b hb e
    subst e
    obtain ⟨c, hc, rfl⟩ := List.mem_map.mp hb
    have := same _ ha c hc rfl
    have := congrArg Prod.snd this
    obtain ⟨y, e⟩ := c
    cases e <;> cases this
  · intro x d hx
    refine hw.mem_iff.mpr (List.mem_append.mpr ?_)
    rcases List.mem_append.mp (hw.mem_iff.mp hx) with h | h
    · exact .inr (List.mem_map.mpr ⟨_, h, rfl⟩)
    · obtain ⟨⟨y, e⟩, hc, he⟩ := List.mem_map.mp h
      simp only [flip, Prod.mk.injEq] at he
      obtain ⟨rfl, rfl⟩ := he
      exact .inl (by rw [Bool.not_not]; exact hc)

end LabelAlg

namespace OddposP

/-- S3 associativity: three operands with pairwise-distinct labels, either bracketing — the same
    final label list and the same total sign (the parity of an intermediate result is the xor
    of its factors' parities) -/
theorem oddpos_assoc (pa pb : Bool) (la lb lc : List (Int × Bool))
    (hd : LabelsDistinct (la ++ lb ++ lc)) :
    ∃ lab sab lbc sbc out s1 s2,
      mergeOddpos pa la lb = .ok (lab, sab) ∧
      mergeOddpos (xor pa pb) lab lc = .ok (out, s1) ∧
      mergeOddpos pb lb lc = .ok (lbc, sbc) ∧
      mergeOddpos pa la lbc = .ok (out, s2) ∧
      sab * s1 = sbc * s2 := by
  obtain ⟨lab, sab, lbc, sbc, out, s1, s2, m1, m2, m3, m4, hs, -⟩ :=
    LabelAlg.routes_of_distinct pa pb la lb lc hd
  exact ⟨lab, sab, lbc, sbc, out, s1, s2, m1, m2, m3, m4, hs⟩

end OddposP
end SymmModel
