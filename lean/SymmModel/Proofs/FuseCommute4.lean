/-
  SymmModel.Proofs.FuseCommute4 — C06's first clause at the level of `_tensordot_blockwise`:
  for aligned operands `A`, `B` (`Ctx0`), fusing the contracted legs `xa` of `A` into ONE leg and
  the contracted legs `xb` of `B` into ONE leg (each where `_fuse_core` puts it: at the smallest
  contracted axis, free legs untouched) and contracting that single fused pair gives, at EVERY
  address of the free legs' table box, the element of the contraction over the original pairs.
  Also: the public `fuse` with either strategy returns `fusedArrM`.  Namespace `SymmModel.TdotP`.
-/
import SymmModel.Proofs.FuseCommute3
import SymmModel.Proofs.TdotFuseC7
import SymmModel.Props.C05h

namespace SymmModel
namespace TdotP
variable {R : Type}

/-- the public abelian `fuse` (non-empty admissible groups, `expand_empty = False`) returns the
    `_fuse_core` array `fusedArrM`, with EITHER strategy -/
theorem fuseA_any_mode [Zero R] (X : Arr R) (G : List (List Nat)) (m : FuseMode) (hv : X.validB = true)
    (hok : FuseP.GroupsOk G X.ndim) : fuseA X G m false = .ok (FuseP.fusedArrM X G) := by
  have hf : G.filter (fun g => !g.isEmpty) = G := by
    rw [List.filter_eq_self]
    intro g hg
    have := hok.gne g hg
    cases g <;> simp_all
  have hins : fuseA X G .insert false = .ok (FuseP.fusedArrM X G) := by
    rw [C05.fuseA_noexpand, hf]
    have hne : G.isEmpty = false := by
      have := hok.ne; cases G <;> simp_all
    simp only [hne, Bool.false_eq_true, if_false]
    exact FuseP.fuseCore_multi_eq (FuseP.validArr_of_validB hv) hok.adm
  cases m with
  | insert => exact hins
  | concat =>
    rw [C05.fuseA_concat_eq_insert X G false hv (by rw [hf]; exact FuseP.groupsOk_iff.2 hok)]
    exact hins


namespace Ctx0
variable {A B : Arr R} {xa xb : List Nat}

theorem oneA (h : Ctx0 A B xa xb) (hne : xa ≠ []) : OneOk A xa := ⟨hne, h.nA, h.rA⟩

theorem oneB (h : Ctx0 A B xa xb) (hne : xa ≠ []) : OneOk B xb :=
  ⟨by intro e; have := h.len; rw [e] at this; exact hne (List.eq_nil_of_length_eq_zero this), h.nB, h.rB⟩

end Ctx0

/-- position of the fused contracted leg of `X` after `fuse(X, g)` -/
def bondPos (X : Arr R) (g : List Nat) : Nat := (FuseP.giM X [g]).position

theorem one_bond_lt [Zero R] {X : Arr R} {g : List Nat} (h : OneOk X g) :
    ∀ x ∈ ([bondPos X g] : List Nat), x < (FuseP.fusedArrM X [g]).ndim := by
  intro x hx
  rw [List.mem_singleton.mp hx, one_ndim h]; exact one_pos_lt_ndimM h

theorem one_cover [Zero R] {X : Arr R} {g : List Nat} (hvF : (FuseP.fusedArrM X [g]).validB = true)
    (h : OneOk X g) :
    ∀ sF ∈ (FuseP.fusedArrM X [g]).sectors,
      permuted sF [bondPos X g] ∈ (FuseP.ixM X [g] 0).cm.map (fun cd => [cd.1]) := by
  intro sF hsF
  obtain ⟨p, hp, rfl⟩ := List.mem_map.mp hsF
  have hsh := Arr.shapesOk_of_validB hvF p hp
  have hch := charges_of_blockShape? hsh
  have hl : p.1.length = FuseP.ndimM X [g] := by
    rw [(blockShape?_length hsh).1]; exact FuseP.newIdxM_length h.groupsOk.adm
  have hpl := one_pos_lt_ndimM h
  have := forall₂_getD (r := fun (c : Charge × Index) (ix : Charge × Index) => c.1 ∈ ix.2.charges)
    (l := p.1.map (fun c => (c, (default : Index)))) (m := (FuseP.fusedArrM X [g]).indices.map (fun ix => ((0, 0), ix)))
  clear this
  have key : p.1.getD (bondPos X g) (0, 0) ∈ ((FuseP.fusedArrM X [g]).indices.getD (bondPos X g) default).charges := by
    rw [List.forall₂_iff_get] at hch
    obtain ⟨hlen, hget⟩ := hch
    have h1 : bondPos X g < p.1.length := by rw [hl]; exact hpl
    have h2 : bondPos X g < (FuseP.fusedArrM X [g]).indices.length := by rw [← hlen]; exact h1
    have := hget (bondPos X g) h1 h2
    simp only [List.get_eq_getElem] at this
    rw [List.getD_eq_getElem?_getD, List.getD_eq_getElem?_getD, List.getElem?_eq_getElem h1,
      List.getElem?_eq_getElem h2]
    exact this
  have hix : (FuseP.fusedArrM X [g]).indices.getD (bondPos X g) default = FuseP.ixM X [g] 0 := rfl
  rw [hix] at key
  obtain ⟨cd, hcd, hcd'⟩ := List.mem_map.mp key
  refine List.mem_map.mpr ⟨cd, hcd, ?_⟩
  rw [permuted_eq_map _ _ (by
    intro x hx
    simp only [List.mem_cons, List.not_mem_nil, or_false] at hx
    rw [hx, hl]; exact hpl) ((0, 0) : Charge)]
  simp [hcd']

theorem bond_contractibleB [Zero R] {X Y : Arr R} {g h : List Nat}
    (hcm : (FuseP.ixM X [g] 0).cm = (FuseP.ixM Y [h] 0).cm)
    (hd : (FuseP.ixM X [g] 0).dual = !(FuseP.ixM Y [h] 0).dual) :
    ValidP.contractibleB (FuseP.fusedArrM X [g]) (FuseP.fusedArrM Y [h]) [bondPos X g] [bondPos Y h]
      = true := by
  have e1 : (FuseP.fusedArrM X [g]).indices.getD (bondPos X g) default = FuseP.ixM X [g] 0 := rfl
  have e2 : (FuseP.fusedArrM Y [h]).indices.getD (bondPos Y h) default = FuseP.ixM Y [h] 0 := rfl
  simp only [ValidP.contractibleB, List.length_cons, List.length_nil, beq_self_eq_true, List.zip_cons_cons,
    List.zip_nil_right, List.all_cons, List.all_nil, Bool.and_true, Bool.true_and, e1, e2, hcm, hd,
    bne_iff_ne, ne_eq]
  cases (FuseP.ixM Y [h] 0).dual <;> simp

theorem fused_free_shape [Zero R] {X : Arr R} {g : List Nat} (h : OneOk X g) {Ls : Sector} {shpL : List Nat}
    (hshpL : Arr.blockShape? (permuted X.indices (freeAxes X.ndim g)) Ls = some shpL) :
    Arr.blockShape? (permuted (FuseP.fusedArrM X [g]).indices
      (freeAxes (FuseP.fusedArrM X [g]).ndim [bondPos X g])) Ls = some shpL := by
  rw [one_ndim h]
  show Arr.blockShape? (permuted (FuseP.newIdxM X [g]) _) Ls = _
  rw [show bondPos X g = (FuseP.giM X [g]).position from rfl, one_free_indices h]; exact hshpL

theorem bond_fuse_core [AddCommMonoid R] [Mul R] [Neg R]
    (hz1 : ∀ x : R, 0 * x = 0) (hz2 : ∀ x : R, x * 0 = 0) {A B : Arr R} {xa xb : List Nat}
    (h : Ctx0 A B xa xb) (hne : xa ≠ [])
    {Ls Rs : Sector} {oL oR shpL shpR : List Nat}
    (hshpL : Arr.blockShape? (permuted A.indices (freeAxes A.ndim xa)) Ls = some shpL)
    (hboxL : inBox shpL oL = true)
    (hshpR : Arr.blockShape? (permuted B.indices (freeAxes B.ndim xb)) Rs = some shpR)
    (hboxR : inBox shpR oR = true) :
    (tensordotBlockwise (FuseP.fusedArrM A [xa]) (FuseP.fusedArrM B [xb])
        (freeAxes (FuseP.fusedArrM A [xa]).ndim [bondPos A xa]) [bondPos A xa] [bondPos B xb]
        (freeAxes (FuseP.fusedArrM B [xb]).ndim [bondPos B xb])).elem (Ls ++ Rs) (oL ++ oR)
      = (tensordotBlockwise A B (freeAxes A.ndim xa) xa xb (freeAxes B.ndim xb)).elem (Ls ++ Rs) (oL ++ oR) := by
  have oA := h.oneA hne
  have oB := h.oneB hne
  have hokA := oA.groupsOk
  have hokB := oB.groupsOk
  have hvA := h.vaA
  have hvB := h.vaB
  have gA0 : ([xa] : List (List Nat))[0]? = some xa := rfl
  have gB0 : ([xb] : List (List Nat))[0]? = some xb := rfl
  have hvaf := one_validB h.vA h.fA oA
  have hvbf := one_validB h.vB h.fB oB
  have hpA : (FuseP.fusedArrM A [xa]).phases = [] := h.phA
  have hpB : (FuseP.fusedArrM B [xb]).phases = [] := h.phB
  have hndK := cm_keys_nodup (ixM_wfB hvA hokA gA0)
  have hn1A : ([bondPos A xa] : List Nat).Nodup := by simp
  have hn1B : ([bondPos B xb] : List Nat).Nodup := by simp
  have hr1A := one_bond_lt (R := R) oA
  have hr1B := one_bond_lt (R := R) oB
  have hLf := fused_free_shape oA hshpL
  have hRf := fused_free_shape oB hshpR
  have hLlenF := freePart_length hLf
  have hRlenF := freePart_length hRf
  have hoLlenF := freeOffs_length hLf hboxL
  have hboxF := freeBox_append hLf hboxL hRf hboxR
  -- the contraction of the fused operands as a double sum over the fused bond
  have hcov := one_cover hvaf oA
  rw [tensordotBlockwise_elem_dense' hz1 hz2 (FuseP.fusedArrM A [xa]) (FuseP.fusedArrM B [xb])
    [bondPos A xa] [bondPos B xb] hpA hpB (Arr.allDistinct_of_validB hvaf) (Arr.allDistinct_of_validB hvbf)
    (Arr.shapesOk_of_validB hvaf) (Arr.shapesOk_of_validB hvbf) hn1A hr1A hn1B hr1B rfl
    ((FuseP.ixM A [xa] 0).cm.map (fun cd => [cd.1]))
    (by
      have : (FuseP.ixM A [xa] 0).cm.map (fun cd => [cd.1])
          = ((FuseP.ixM A [xa] 0).cm.map (·.1)).map (fun c => [c]) := by rw [List.map_map]; rfl
      rw [this]; exact hndK.map (fun x y h => by simpa using h))
    (by intro K hK; obtain ⟨cd, _, rfl⟩ := List.mem_map.mp hK; rfl)
    hcov Ls Rs hLlenF hRlenF (oL ++ oR) hboxF]
  have etake : (oL ++ oR).take (freeAxes (FuseP.fusedArrM A [xa]).ndim [bondPos A xa]).length = oL := by
    rw [← hoLlenF]; simp
  have edrop : (oL ++ oR).drop (freeAxes (FuseP.fusedArrM A [xa]).ndim [bondPos A xa]).length = oR := by
    rw [← hoLlenF]; simp
  rw [etake, edrop, List.map_map]
  -- the entries of the two fused operands as functions of the bond position
  let FA : Charge → Nat → R := fun c k =>
    (FuseP.fusedArrM A [xa]).elem (mergeSec (FuseP.fusedArrM A [xa]).ndim [bondPos A xa] [c] Ls)
      (mergeIdx 0 (FuseP.fusedArrM A [xa]).ndim [bondPos A xa]
        (freeAxes (FuseP.fusedArrM A [xa]).ndim [bondPos A xa]) [k] oL)
  let FB : Charge → Nat → R := fun c k =>
    (FuseP.fusedArrM B [xb]).elem (mergeSec (FuseP.fusedArrM B [xb]).ndim [bondPos B xb] [c] Rs)
      (mergeIdx 0 (FuseP.fusedArrM B [xb]).ndim [bondPos B xb]
        (freeAxes (FuseP.fusedArrM B [xb]).ndim [bondPos B xb]) [k] oR)
  have hstep : ∀ cd ∈ (FuseP.ixM A [xa] 0).cm,
      ((fun K => contractPair (FuseP.fusedArrM A [xa]) (FuseP.fusedArrM B [xb]) [bondPos A xa] [bondPos B xb]
          oL oR (mergeSec (FuseP.fusedArrM A [xa]).ndim [bondPos A xa] K Ls,
            mergeSec (FuseP.fusedArrM B [xb]).ndim [bondPos B xb] K Rs)) ∘ fun cd => [cd.1]) cd
        = ((List.range cd.2).map (fun k => FA cd.1 k * FB cd.1 k)).sum := by
    rintro ⟨c, D⟩ hcd
    have hsz : (FuseP.ixM A [xa] 0).sizeOf? c = some D := alookup_of_mem_nodup hndK hcd
    have hKf : Arr.blockShape? (permuted (FuseP.fusedArrM A [xa]).indices [bondPos A xa]) [c] = some [D] := by
      show Arr.blockShape? (permuted (FuseP.newIdxM A [xa]) [(FuseP.giM A [xa]).position]) [c] = _
      rw [one_fused_index oA]
      simp only [Arr.blockShape?_cons, Arr.blockShape?_nil_nil, hsz]
      rfl
    simp only [Function.comp, contractPair]
    rw [contracted_box (A := FuseP.fusedArrM A [xa]) hn1A hr1A hKf hLf, allIdx_single, List.map_map]
    rfl
  -- the bond double sum is the blockwise contraction of the original operands
  exact (sum_map_congr hstep).trans
    (core_generic hz1 hz2 h hokA hokB gA0 gB0 hshpL hboxL hshpR hboxR FA FB
      (fun c D k K ok hsz hk hdec => one_merge_elem h.vA h.fA oA hsz hk hdec hshpL hboxL)
      (fun c D k K ok hsz hk hdec => one_merge_elem h.vB h.fB oB hsz hk hdec hshpR hboxR))

end TdotP
end SymmModel
