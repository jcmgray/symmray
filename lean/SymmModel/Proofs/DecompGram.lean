/-
  SymmModel.Proofs.DecompGram — the product of two admissible rank-2 fermionic arrays whose labels
  merge, through `A @ B` and through `tensordot(A, B, ([1],[0]), mode)` in every mode: both are the
  graded contraction (C03 for `@` and blockwise `tensordot`, C06d for fused / auto).
  `GramPair`: two matrices with one stored sector pair per result key; then the contraction is one
  signed sum per key (`GramPair.gradedContract`) and zero elsewhere (`GramPair.gradedContract_miss`).
-/
import SymmModel.Proofs.DecompTransfer

namespace SymmModel

namespace Recon2P
set_option linter.unusedSectionVars false
open LinalgLemmas ReconP TdotP GradedP RoutesP OddposP

theorem flatMap_pick {α β : Type} [DecidableEq α] (l : List α) (s : α) (f : α → β) (hnd : l.Nodup)
    (hs : s ∈ l) : l.flatMap (fun a => if a = s then [f a] else []) = [f s] := by
  induction l with
  | nil => cases hs
  | cons a l ih =>
    rw [List.nodup_cons] at hnd
    rw [List.flatMap_cons]
    by_cases e : a = s
    · subst e
      have : l.flatMap (fun b => if b = a then [f b] else []) = [] := by
        rw [List.flatMap_eq_nil_iff]
        intro b hb
        have : b ≠ a := fun e => hnd.1 (e ▸ hb)
        simp [this]
      simp [this]
    · have hs' : s ∈ l := by
        rcases List.mem_cons.mp hs with h | h
        · exact absurd h.symm e
        · exact h
      simp only [e, if_false, List.nil_append]
      exact ih hnd.2 hs'

variable {R : Type}

theorem gradedSign_matrices {A B : Arr R} (hA : A.ndim = 2) (hB : B.ndim = 2) (a b b' c : Charge) :
    gradedSign A B [1] [0] [a, b] [b', c]
      = if !(A.indices.getD 1 default).dual && A.sym.parity b then -1 else 1 := by
  unfold GradedP.gradedSign
  rw [hA, hB]
  have f1 : freeAxes 2 [1] = [0] := by decide
  have f2 : freeAxes 2 [0] = [1] := by decide
  rw [f1, f2]
  have e01 : ([0] ++ [1] : List Nat) = List.range 2 := rfl
  rw [e01, KoszulP.koszul_id', KoszulP.koszul_id']
  have hoc : oddContracted A [1] [a, b] * (oddContracted A [1] [a, b] - 1) / 2 = 0 := by
    unfold oddContracted
    show (([b].filter A.sym.parity).length * (([b].filter A.sym.parity).length - 1)) / 2 = 0
    cases hp : A.sym.parity b <;> simp [hp]
  rw [hoc]
  unfold ketOdd
  simp only [List.filter_cons, List.filter_nil]
  show (1 : Int) * 1 * (-1) ^ 0 * (-1) ^ _ = _
  cases (A.indices.getD 1 default).dual <;> cases hp : A.sym.parity b <;>
    simp only [Bool.not_false, Bool.not_true, Bool.true_and, Bool.false_and, Bool.false_eq_true,
      if_true, if_false, List.filter_cons, List.filter_nil, List.getD_cons_succ,
      List.getD_cons_zero, hp] <;>
    rfl

end Recon2P

namespace DecompP
set_option linter.unusedSectionVars false
open LinalgLemmas ReconP Recon2P TdotP GradedP RoutesP OddposP
open Lazy (sgnI)

variable {R : Type}

/-- `A`, `B` rank 2; `A` stores the sectors `[u p, v p]`, `B` the sectors `[v p, w p]` (`p ∈ l`);
    the contracted charge `v p` and the result key `[u p, w p]` each determine `p` -/
structure GramPair (A B : Arr R) {α : Type} (l : List α) (u v w : α → Charge) : Prop where
  nA : A.ndim = 2
  nB : B.ndim = 2
  sA : A.sectors = l.map (fun p => [u p, v p])
  sB : B.sectors = l.map (fun p => [v p, w p])
  hv : (l.map v).Nodup
  hk : (l.map (fun p => [u p, w p])).Nodup

section pairs
variable {A B : Arr R} {α : Type} {l : List α} {u v w : α → Charge}

open Classical in
theorem GramPair.storedPairs (G : GramPair A B l u v w) {p : α} (hp : p ∈ l) :
    storedPairs A B [0] [1] [0] [1] [u p, w p] = [([u p, v p], [v p, w p])] := by
  have hl : l.Nodup := List.Nodup.of_map _ G.hv
  unfold TdotP.storedPairs
  rw [G.sA, G.sB, List.flatMap_map]
  have hstep : l.flatMap (fun q =>
      ((l.map (fun r => [v r, w r])).filter (fun sb => permuted sb [0] == permuted [u q, v q] [1]
        && permuted [u q, v q] [0] ++ permuted sb [1] == [u p, w p])).map
          (fun sb => ([u q, v q], sb)))
      = l.flatMap (fun q => if q = p then [([u q, v q], [v q, w q])] else []) := by
    apply List.flatMap_congr
    intro q hq
    rw [List.filter_map]
    by_cases e : q = p
    · subst e
      rw [if_pos rfl]
      have hf : l.filter ((fun sb => permuted sb [0] == permuted [u q, v q] [1]
          && permuted [u q, v q] [0] ++ permuted sb [1] == [u q, w q]) ∘ (fun r => [v r, w r]))
          = [q] := by
        apply filter_key_eq_singleton l v G.hv hq
        intro r hr
        simp only [Function.comp]
        show ([v r] == [v q] && [u q, w r] == [u q, w q]) = true ↔ v r = v q
        constructor
        · intro h
          simp only [Bool.and_eq_true, beq_iff_eq] at h
          exact (List.cons.inj h.1).1
        · intro h
          have : r = q := List.inj_on_of_nodup_map G.hv hr hq h
          subst this
          simp
      rw [hf]; rfl
    · rw [if_neg e, List.map_eq_nil_iff, List.map_eq_nil_iff, List.filter_eq_nil_iff]
      intro r hr
      simp only [Function.comp]
      show ¬ (([v r] == [v q] && [u q, w r] == [u p, w p]) = true)
      intro h
      simp only [Bool.and_eq_true, beq_iff_eq] at h
      have h1 : v r = v q := (List.cons.inj h.1).1
      have : r = q := List.inj_on_of_nodup_map G.hv hr hq h1
      subst this
      exact e (List.inj_on_of_nodup_map G.hk hr hp h.2)
  rw [hstep, flatMap_pick l p (fun q => ([u q, v q], [v q, w q])) hl hp]

theorem GramPair.storedPairs_miss (G : GramPair A B l u v w) (s : Sector)
    (hs : ∀ p ∈ l, [u p, w p] ≠ s) : TdotP.storedPairs A B [0] [1] [0] [1] s = [] := by
  rw [List.eq_nil_iff_forall_not_mem]
  rintro ⟨sa, sb⟩ hmem
  obtain ⟨h1, h2, h3, h4⟩ := mem_storedPairs.mp hmem
  rw [G.sA] at h1
  rw [G.sB] at h2
  obtain ⟨p, hp, rfl⟩ := List.mem_map.mp h1
  obtain ⟨q, hq, rfl⟩ := List.mem_map.mp h2
  have e : v q = v p := (List.cons.inj (show [v q] = [v p] from h3)).1
  have : q = p := List.inj_on_of_nodup_map G.hv hq hp e
  subst this
  exact hs q hq h4

end pairs

section value
variable [AddMonoid R] [Mul R] [Neg R] [SignRing R]
variable {A B : Arr R} {α : Type} {l : List α} {u v w : α → Charge}

theorem GramPair.gradedContract (G : GramPair A B l u v w) {p : α} (hp : p ∈ l) (m k : Nat)
    (hsh : Arr.blockShapeD A.indices [u p, v p] = [m, k]) (t t' : Nat) :
    gradedContract A B [1] [0] [u p, w p] [t] [t']
      = sgnI (if !(A.indices.getD 1 default).dual && A.sym.parity (v p) then -1 else 1)
          (((List.range k).map (fun i =>
            A.elem [u p, v p] [t, i] * B.elem [v p, w p] [i, t'])).sum) := by
  unfold GradedP.gradedContract
  have f1 : freeAxes A.ndim [1] = [0] := by rw [G.nA]; decide
  have f2 : freeAxes B.ndim [0] = [1] := by rw [G.nB]; decide
  rw [f1, f2, G.storedPairs hp]
  simp only [List.map_cons, List.map_nil, List.sum_cons, List.sum_nil, add_zero]
  rw [gradedSign_matrices G.nA G.nB]
  congr 1
  unfold contractPair
  simp only [hsh]
  show ((allIdx [k]).map _).sum = _
  rw [allIdx_single, List.map_map]
  congr 1
  apply List.map_congr_left
  intro i _
  simp only [Function.comp, contractTerm]
  rw [f1, f2, G.nA, G.nB]
  rfl

theorem GramPair.gradedContract_miss (G : GramPair A B l u v w) (s : Sector)
    (hs : ∀ p ∈ l, [u p, w p] ≠ s) (oL oR : List Nat) :
    GradedP.gradedContract A B [1] [0] s oL oR = 0 := by
  unfold GradedP.gradedContract
  have f1 : freeAxes A.ndim [1] = [0] := by rw [G.nA]; decide
  have f2 : freeAxes B.ndim [0] = [1] := by rw [G.nB]; decide
  rw [f1, f2, G.storedPairs_miss s hs]
  rfl

end value

end DecompP

namespace DecompP
set_option linter.unusedSectionVars false
open LinalgLemmas ReconP Recon2P TdotP GradedP RoutesP OddposP
open Lazy (sgnI)

variable {R : Type}

/-- a consequence of what `a @ b` and `tensordot(a, b, …, mode)` (every mode) return is drawn once,
    for whatever array either call returns -/
theorem both_imp {f : Except Err (Arr R)} {g : TdotMode → Except Err (Arr R)} {P P' : Arr R → Prop}
    (h : (∃ y, f = .ok y ∧ P y) ∧ ∀ tm, ∃ c, g tm = .ok c ∧ P c) (himp : ∀ y, P y → P' y) :
    (∃ y, f = .ok y ∧ P' y) ∧ ∀ tm, ∃ c, g tm = .ok c ∧ P' c :=
  ⟨h.1.imp fun _ hy => ⟨hy.1, himp _ hy.2⟩, fun tm => (h.2 tm).imp fun _ hc => ⟨hc.1, himp _ hc.2⟩⟩

theorem matmulF_ok_of_merge [Zero R] [Add R] [Mul R] [Neg R] (A B : Arr R) (hA : A.ndim = 2)
    (j0 j1 : Index) (hB : B.indices = [j0, j1]) (r : List (Int × Bool) × Int)
    (hm : mergeOddpos A.parity A.oddpos B.oddpos = .ok r) : ∃ y, A.matmulF B = .ok y := by
  rw [matmulF_eq_22 A B hA j0 j1 hB, resolveCombinedOddpos_eq]
  have h1 : A.phaseSync.parity = A.parity := rfl
  have h2 : A.phaseSync.oddpos = A.oddpos := rfl
  have h3 : (if j0.dual then B.phaseFlip [0] else B).phaseSync.oddpos = B.oddpos := by
    show (if j0.dual then B.phaseFlip [0] else B).oddpos = _
    split
    · exact (phaseFlip_fields B [0]).oddpos
    · rfl
  rw [h1, h2, h3, hm]
  exact ⟨_, rfl⟩

section all
variable [AddCommMonoid R] [Mul R] [Neg R] [SignRing R]

/-- `A @ B` and `tensordot(A, B, ([1],[0]), mode)` (every mode) for admissible rank-2 fermionic
    operands whose labels merge: both succeed, carry the merged labels, and are the graded
    contraction times the label sign at every address `[t, t']` of the table box -/
theorem graded_matmul_and_tensordot (hz1 : ∀ x : R, 0 * x = 0) (hz2 : ∀ x : R, x * 0 = 0)
    (A B : Arr R) (hAdm : Adm A B [1] [0]) (hA : A.ndim = 2) (hB : B.ndim = 2)
    (out : List (Int × Bool)) (ph : Int)
    (hm : mergeOddpos A.parity A.oddpos B.oddpos = .ok (out, ph)) :
    (∃ y, A.matmulF B = .ok y ∧ y.oddpos = out ∧ y.charge = A.sym.combine [A.charge, B.charge]
      ∧ ∀ s t t', inBox (Arr.blockShapeD (without A.indices [1] ++ without B.indices [0]) s)
            [t, t'] = true →
          y.elem s [t, t'] = sgnI ph (gradedContract A B [1] [0] s [t] [t']))
    ∧ ∀ tm, ∃ c, A.tensordotF B (.pair [1] [0]) tm = .ok c ∧ c.oddpos = out
      ∧ c.charge = A.sym.combine [A.charge, B.charge]
      ∧ ∀ s t t', inBox (Arr.blockShapeD (without A.indices [1] ++ without B.indices [0]) s)
            [t, t'] = true →
          c.elem s [t, t'] = sgnI ph (gradedContract A B [1] [0] s [t] [t']) := by
  have hadm : ValidP.tdotAdmissibleB A B [1] [0] = true := by
    exact ValidP.tdotAdmissibleB_iff.mpr ⟨hAdm.sym, hAdm.con, hAdm.nA, hAdm.nB, hAdm.ltA, hAdm.ltB⟩
  have hfree : (freeAxes A.ndim [1]).length = 1 := by rw [hA]; rfl
  constructor
  · obtain ⟨j0, j1, hBi⟩ := ndim_two hB
    obtain ⟨y, hy⟩ := matmulF_ok_of_merge A B hA j0 j1 hBi _ hm
    have hadm' : ValidP.tdotAdmissibleB A B [A.ndim - 1] [0] = true := by rw [hA]; exact hadm
    obtain ⟨out', ph', g1, g2, g3, g4⟩ := C03.matmulF_refines_graded A B y hAdm.va hAdm.vb hAdm.fa
      hAdm.fb (Or.inr hA) (Or.inr hB) hadm' hy
    rw [hm] at g1
    cases g1
    refine ⟨y, hy, g2, g3, ?_⟩
    intro s t t' hbox
    have := g4 s [t] [t'] (by rw [hA]; rfl) (by rw [hA]; exact hbox)
    rw [hA] at this
    exact this
  · intro tm
    obtain ⟨c, h1, h2, h3, h4, _⟩ :=
      tensordotF_all_modes A B [1] [0] hAdm out ph hm tm (Or.inr ⟨hz1, hz2⟩)
    exact ⟨c, h1, h2, h3, fun s t t' hbox => h4 s [t] [t'] hfree.symm hbox⟩

/-- **both products of two matrices at chosen keys.**  Admissible rank-2 fermionic operands whose
    labels annihilate (merge `([], ph)`): if at the keys `key p`, inside the table box, the graded
    contraction times `ph` is `val p t t'`, then `A @ B` and `tensordot(A, B, ([1],[0]), mode)` in
    every mode succeed, carry no label and have these entries. -/
theorem entries_of_graded (hz1 : ∀ x : R, 0 * x = 0) (hz2 : ∀ x : R, x * 0 = 0)
    {A B : Arr R} (hAdm : Adm A B [1] [0]) (hA : A.ndim = 2) (hB : B.ndim = 2) {ph : Int}
    (hm : mergeOddpos A.parity A.oddpos B.oddpos = .ok ([], ph))
    {α : Type} {l : List α} (key : α → Sector) (k : α → Nat) (val : α → Nat → Nat → R)
    (hval : ∀ p ∈ l, ∀ t t', t < k p → t' < k p →
      inBox (Arr.blockShapeD (without A.indices [1] ++ without B.indices [0]) (key p)) [t, t'] = true
      ∧ sgnI ph (gradedContract A B [1] [0] (key p) [t] [t']) = val p t t') :
    (∃ y, A.matmulF B = .ok y ∧ y.oddpos = []
      ∧ ∀ p ∈ l, ∀ t t', t < k p → t' < k p → y.elem (key p) [t, t'] = val p t t')
    ∧ ∀ tm, ∃ c, A.tensordotF B (.pair [1] [0]) tm = .ok c ∧ c.oddpos = []
      ∧ ∀ p ∈ l, ∀ t t', t < k p → t' < k p → c.elem (key p) [t, t'] = val p t t' :=
  both_imp (graded_matmul_and_tensordot hz1 hz2 A B hAdm hA hB [] ph hm)
    (fun _ h => ⟨h.1, fun p hp t t' ht ht' => by
      obtain ⟨hbox, hv⟩ := hval p hp t t' ht ht'
      rw [h.2.2 _ t t' hbox, hv]⟩)

end all

end DecompP
end SymmModel
