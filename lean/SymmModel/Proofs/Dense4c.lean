/-
  SymmModel.Proofs.Dense4c — helpers for the permutation case of the single-operand einsum at
  dense level (`C08.einsum_perm_toDense`, Props/C08d.lean): an equation `lhs -> rhs` without
  repeated labels in which `rhs` uses every label of `lhs` has no traced label and the output
  permutation `einPermOf`, which is a permutation of the axes.
-/
import SymmModel.Proofs.Dense4a
import SymmModel.Proofs.TdotMore

namespace SymmModel
namespace Dense4
open TdotP

variable {R : Type}

theorem einTraced_nil {lhs rhs : List Nat} (h : ∀ q ∈ lhs, q ∈ rhs) : einTraced lhs rhs = [] := by
  have : lhs.filter (fun q => !rhs.contains q) = [] := by
    rw [List.filter_eq_nil_iff]
    intro q hq
    simp [h q hq]
  rw [einTraced, this]; rfl

theorem einTracedPos_nil {lhs rhs : List Nat} (h : ∀ q ∈ lhs, q ∈ rhs) : einTracedPos lhs rhs = [] := by
  simp [einTracedPos, einTraced_nil h]

/-- the output permutation of an einsum equation -/
def einPermOf (lhs rhs : List Nat) : List Nat := rhs.map (fun q => (indexOf? lhs q).getD 0)

theorem einPermOf_lt {lhs rhs : List Nat} (h : ∀ q ∈ rhs, q ∈ lhs) :
    ∀ p ∈ einPermOf lhs rhs, p < lhs.length := by
  intro p hp
  obtain ⟨q, hq, rfl⟩ := List.mem_map.mp hp
  obtain ⟨k, hk1, hk2⟩ := indexOf?_of_mem (h q hq)
  rw [hk1]
  exact FuseP.getElem?_lt hk2

theorem einIdx_permuted {lhs rhs : List Nat} (hnd : lhs.Nodup) (h1 : ∀ q ∈ lhs, q ∈ rhs)
    (h2 : ∀ q ∈ rhs, q ∈ lhs) (off : List Nat) (hl : off.length = lhs.length) (t : List Nat) :
    einIdx lhs rhs (permuted off (einPermOf lhs rhs)) t = off := by
  have hlt := einPermOf_lt h2
  apply List.ext_getElem (by simp [einIdx, hl])
  intro k hk1 hk2
  simp only [einIdx, List.length_map] at hk1
  simp only [einIdx, List.getElem_map]
  obtain ⟨j, hj1, hj2⟩ := indexOf?_of_mem (h1 lhs[k] (List.getElem_mem hk1))
  have hjl := FuseP.getElem?_lt hj2
  rw [hj1]
  simp only
  rw [FuseP.permuted_eq_map off 0 _ (by rw [hl]; exact hlt)]
  simp only [einPermOf, List.getD_eq_getElem?_getD, List.getElem?_map, hj2, Option.map_some,
    Option.getD_some, indexOf?_getElem hnd hk1, List.getElem?_eq_getElem hk2]

theorem einPermOf_isPerm {lhs rhs : List Nat} (hnd : lhs.Nodup) (hndr : rhs.Nodup)
    (h1 : ∀ q ∈ lhs, q ∈ rhs) (h2 : ∀ q ∈ rhs, q ∈ lhs) :
    Arr.isPerm (einPermOf lhs rhs) lhs.length = true := by
  have hlen : rhs.length = lhs.length := by
    have p : rhs.Perm lhs := (List.perm_ext_iff_of_nodup hndr hnd).mpr
      (fun q => ⟨h2 q, h1 q⟩)
    exact p.length_eq
  simp only [Arr.isPerm, Bool.and_eq_true, beq_iff_eq, List.all_eq_true, List.mem_range,
    List.contains_eq_mem, decide_eq_true_eq]
  refine ⟨by simp [einPermOf, hlen], fun k hk => ?_⟩
  refine List.mem_map.mpr ⟨lhs[k], h1 _ (List.getElem_mem hk), ?_⟩
  rw [indexOf?_getElem hnd hk]; rfl

theorem sum_filter_unique {M : Type} [AddMonoid M] (l : List Sector) (hnd : l.Nodup)
    (P : Sector → Bool) (s : Sector) (hP : ∀ x ∈ l, P x = true ↔ x = s) (f : Sector → M) :
    ((l.filter P).map f).sum = if s ∈ l then f s else 0 := by
  induction l with
  | nil => simp
  | cons x xs ih =>
    rw [List.nodup_cons] at hnd
    have ih' := ih hnd.2 (fun y hy => hP y (List.mem_cons_of_mem _ hy))
    by_cases hx : x = s
    · subst hx
      have hpx : P x = true := (hP x (by simp)).mpr rfl
      rw [List.filter_cons_of_pos hpx, List.map_cons, List.sum_cons, ih', if_neg hnd.1]
      simp
    · have hpx : ¬ P x = true := fun h => hx ((hP x (by simp)).mp h)
      rw [List.filter_cons_of_neg hpx, ih']
      have : (s ∈ x :: xs) ↔ s ∈ xs := by
        simp only [List.mem_cons]
        exact ⟨fun h => h.resolve_left (fun e => hx e.symm), Or.inr⟩
      simp only [this]

end Dense4
end SymmModel
