/-
  SymmModel.Proofs.LazyMore — property C09 for the operations that Proofs/LazyLemmas does not
  reach (they need the validity and contraction lemmas of other properties): reductions and
  unary maps (`syncF`, `sumF`, `mapF`, `reduceF` transcribe what the library does, /repo commit
  9260944: synchronise, then read the blocks), the decompositions, `_map_blocks`
  (`squeeze`, `expand_dims`), `fuse` with empty groups, the single-array `einsum`; and the
  per-operation table over ALL operations: `Op2` with `Op2.apply_rel`, the state invariant
  `StOk`, and the program theorems `run_runSyncE`, `run_observe`.  Namespace `SymmModel.Lazy`.
-/
import SymmModel.Proofs.LazyLemmas
import SymmModel.Props.C12
import SymmModel.Props.C11
import SymmModel.Props.C08b
import SymmModel.Proofs.ValidMore
import SymmModel.Props.C02b
namespace SymmModel.Lazy
open SymmModel
set_option linter.unusedSectionVars false

section syncfirst1
variable {R : Type} [Zero R] [Neg R]

/-- `FermionicArray._do_reduction / _do_unary_op / clip` (commit 9260944): a fermionic array is
    synchronised before its blocks are read; an abelian array is used as is -/
def syncF (a : Arr R) : Arr R := if a.fermi then a.phaseSync else a

/-- `x.sum()` exactly as the driver's "sum" case computes it -/
def sumF [Add R] (a : Arr R) : R :=
  (syncF a).blocks.foldl (fun acc (_, b) => acc + b.sumAll) 0

/-- `x.abs()`, `x.sqrt()`, `x.clip(lo, hi)`, … : any elementwise map of the stored numbers of the
    synchronised array -/
def mapF (f : R → R) (a : Arr R) : Arr R :=
  { syncF a with blocks := (syncF a).blocks.map (fun (k, b) => (k, b.map f)) }

/-- `x.max()`, `x.min()`, … : fold a per-block reduction `g` with `op` over the blocks -/
def reduceF {S : Type} (g : Blk R → S) (op : S → S → S) (e : S) (a : Arr R) : S :=
  (syncF a).blocks.foldl (fun acc (_, b) => op acc (g b)) e

theorem syncF_congr [LawfulNeg R] {a a' : Arr R} (h : ObsEq a a') (fa : Full a) (fa' : Full a')
    (hf : a.fermi = true) : syncF a = syncF a' := by
  unfold syncF
  rw [← h.fermi, hf]
  exact canon h fa fa'

/-- **every function of the synchronised array** — in particular every reduction and every unary
    map, for ARBITRARY `f` (no oddness needed) — gives identical results on observationally
    equal arrays -/
theorem syncFirst_congr [LawfulNeg R] {α : Type} (F : Arr R → α) {a a' : Arr R} (h : ObsEq a a')
    (fa : Full a) (fa' : Full a') (hf : a.fermi = true) : F (syncF a) = F (syncF a') := by
  rw [syncF_congr h fa fa' hf]

theorem phaseSync_of_nil (a : Arr R) (h : a.phases = []) : a.phaseSync = a := by
  have hb : a.phaseSync.blocks = a.blocks := by
    rw [phaseSync_blocks_eq]
    conv_rhs => rw [← List.map_id a.blocks]
    apply List.map_congr_left
    intro p _
    simp [syncBlk_of_nil h]
  exact arr_ext rfl rfl rfl rfl hb h.symm rfl

theorem syncF_sync (a : Arr R) (hf : a.fermi = true) : syncF a.phaseSync = syncF a := by
  unfold syncF
  show (if a.fermi = true then a.phaseSync.phaseSync else a.phaseSync) = _
  rw [hf]; exact phaseSync_idem a

theorem sumF_sync [Add R] (a : Arr R) (hf : a.fermi = true) : sumF a.phaseSync = sumF a := by
  unfold sumF; rw [syncF_sync a hf]

theorem mapF_sync (f : R → R) (a : Arr R) (hf : a.fermi = true) : mapF f a.phaseSync = mapF f a := by
  unfold mapF; rw [syncF_sync a hf]

theorem reduceF_sync {S : Type} (g : Blk R → S) (op : S → S → S) (e : S) (a : Arr R)
    (hf : a.fermi = true) : reduceF g op e a.phaseSync = reduceF g op e a := by
  unfold reduceF; rw [syncF_sync a hf]

end syncfirst1


section linalg
variable {R : Type} [Zero R] [Neg R]

/-- the conditional synchronisation at the head of `eigh_fermionic` / `solve_fermionic` -/
theorem condSync_eq (a : Arr R) (hf : a.fermi = true) :
    (if a.fermi && !a.phases.isEmpty then a.phaseSync else a) = a.phaseSync := by
  rw [hf]
  cases hp : a.phases with
  | nil => simp; exact (phaseSync_of_nil a hp).symm
  | cons x xs => simp

/-- on a synchronised array the conditional synchronisation does nothing (`c`: the `fermi` test) -/
theorem condSync_sync (c : Bool) (b : Arr R) :
    (if c && !b.phaseSync.phases.isEmpty then b.phaseSync.phaseSync else b.phaseSync)
      = b.phaseSync := by
  show (if c && !([] : List (Sector × Int)).isEmpty then _ else _) = _
  simp

/-- the singular values a kernel returns do not change when the block is negated (true of every
    SVD: `-b = (-U) s Vh`) -/
def SvdSignInvariant (K : Kernels R) : Prop := ∀ b : Blk R, (K.svd b.negK).2.1 = (K.svd b).2.1

/-- the singular values `svd` stores (charge ↦ vector), as data -/
def svdVals (K : Kernels R) (x : Arr R) : Except Err (BVec R) := (svdA K x).map (fun r => r.2.1)

theorem svdVals_eq (K : Kernels R) (x : Arr R) :
    svdVals K x = if x.ndim != 2 then .error Err.notimpl
      else .ok ⟨adict (x.blocks.map (fun p => (p.1.getD 1 (0, 0), (K.svd p.2).2.1)))⟩ := by
  unfold svdVals svdA
  split
  · rfl
  · simp only [Except.map, pure, Except.pure, List.map_map]
    rfl

theorem svdVals_sync (K : Kernels R) (hK : SvdSignInvariant K) (x : Arr R) :
    svdVals K x.phaseSync = svdVals K x := by
  rw [svdVals_eq, svdVals_eq]
  show (if x.ndim != 2 then _ else _) = _
  congr 3
  rw [phaseSync_blocks_eq, List.map_map]
  congr 1
  apply List.map_congr_left
  intro p _
  simp only [Function.comp, syncBlk]
  split
  · rw [hK]
  · rfl

theorem svdVals_congr [LawfulNeg R] (K : Kernels R) (hK : SvdSignInvariant K) {a a' : Arr R}
    (h : ObsEq a a') (fa : Full a) (fa' : Full a') : svdVals K a = svdVals K a' := by
  rw [← svdVals_sync K hK a, ← svdVals_sync K hK a', canon h fa fa']

end linalg

section recon
variable {R : Type} [Zero R] [Add R] [Mul R] [Neg R] [NegLaws R] [LawfulNeg R]

theorem addrOf_sync {x : Arr R} {s : Sector} {off : List Nat} (h : LinalgLemmas.AddrOf x s off) :
    LinalgLemmas.AddrOf x.phaseSync s off := by
  rcases h with h | ⟨b, hb, ho⟩
  · left; rw [phaseSync_sectors]; exact h
  · right
    refine ⟨syncBlk x s b, ?_, ?_⟩
    · rw [phaseSync_blocks_eq]
      exact List.mem_map.mpr ⟨(s, b), hb, rfl⟩
    · rw [syncBlk_shape]; exact ho

end recon
section mapblocks
variable {R : Type} [Zero R] [Neg R]

/-- results that are both errors of the same kind or both values related by `r` -/
def ExceptRel {α : Type} (r : α → α → Prop) : Except Err α → Except Err α → Prop
  | .ok x, .ok y => r x y
  | .error e, .error e' => e = e'
  | _, _ => False

theorem ExceptRel.of_eq {α : Type} {r : α → α → Prop} (hr : ∀ x, r x x) {x y : Except Err α}
    (h : x = y) : ExceptRel r x y := by
  subst h; cases x with
  | ok v => exact hr v
  | error e => rfl

theorem ExceptRel.iff {α : Type} {r : α → α → Prop} {x y : Except Err α} :
    ExceptRel r x y ↔ (∃ e, x = .error e ∧ y = .error e) ∨ (∃ u v, x = .ok u ∧ y = .ok v ∧ r u v) := by
  cases x <;> cases y <;> simp [ExceptRel, eq_comm]

omit [Zero R] [Neg R] in
theorem alookup_filter_fst {κ β : Type} [BEq κ] [LawfulBEq κ] (q : κ → Bool) (l : List (κ × β))
    (k : κ) (hk : q k = true) : alookup (l.filter (fun p => q p.1)) k = alookup l k := by
  induction l with
  | nil => rfl
  | cons p l ih =>
    obtain ⟨k1, v1⟩ := p
    by_cases h : k1 = k
    · subst h; simp [List.filter, hk, alookup]
    · have h1 : (k1 == k) = false := by simpa using h
      cases hq : q k1 <;> simp [List.filter, hq, alookup, h1, ih]

/-- the entries of the sign table that `_map_blocks` re-keys: those of stored blocks -/
def livePhases (a : Arr R) : List (Sector × Int) :=
  a.phases.filter (fun p => (alookup a.blocks p.1).isSome)

omit [Zero R] [Neg R] in
theorem livePhases_keys_stored (a : Arr R) : ∀ k ∈ akeys (livePhases a), k ∈ a.sectors := by
  intro k hk
  obtain ⟨p, hp, rfl⟩ := List.mem_map.mp hk
  exact alookup_isSome_iff.mp (List.mem_filter.mp hp).2

omit [Zero R] [Neg R] in
theorem livePhases_nodup {a : Arr R} (h : PhOk a.phases) : (akeys (livePhases a)).Nodup :=
  List.Nodup.sublist (List.Sublist.map _ List.filter_sublist) h.1

omit [Zero R] [Neg R] in
theorem phOf_livePhases (a : Arr R) {s : Sector} (hs : s ∈ a.sectors) :
    phOf (livePhases a) s = phOf a.phases s := by
  unfold phOf livePhases
  rw [alookup_filter_fst (fun k => (alookup a.blocks k).isSome) a.phases s
    (alookup_isSome_iff.mpr hs)]

/-- **`_map_blocks` on an array and on its synchronised copy.**  `fs` re-keys sectors (and the
    sign entries of the stored blocks; entries of sectors without a block are discarded), `fb`
    maps blocks.  If `fs` is injective on the stored sectors and `fb` commutes with negation, the
    two results are observationally equal — whatever else the sign table holds. -/
theorem mapBlocks_sync_obsEq [LawfulNeg R] (a : Arr R) (fs : Sector → Sector) (fb : Blk R → Blk R)
    (hf : a.fermi = true) (h : SignOk a)
    (hinj : ∀ k1 k2, k1 ∈ a.sectors → k2 ∈ a.sectors → fs k1 = fs k2 → k1 = k2)
    (hneg : ∀ b, fb b.negK = (fb b).negK) :
    ObsEq (a.mapBlocks fs fb) (a.phaseSync.mapBlocks fs fb) := by
  have hnodupB : (akeys (a.blocks.map (fun p => (fs p.1, fb p.2)))).Nodup := by
    rw [akeys_map_key fs fb]
    exact List.Nodup.map_on (fun x hx y hy e => hinj x y hx hy e) h.sectors
  have hB : (a.mapBlocks fs fb).blocks = a.blocks.map (fun p => (fs p.1, fb p.2)) :=
    adict_of_nodup _ hnodupB
  have hsyncmap : a.phaseSync.blocks.map (fun p => (fs p.1, fb p.2))
      = a.blocks.map (fun p => (fs p.1, if phOf a.phases p.1 = -1 then (fb p.2).negK else fb p.2)) := by
    rw [phaseSync_blocks_eq, List.map_map]
    apply List.map_congr_left
    intro p _
    simp only [Function.comp, syncBlk]
    split
    · rw [hneg]
    · rfl
  have hnodupB' : (akeys (a.phaseSync.blocks.map (fun p => (fs p.1, fb p.2)))).Nodup := by
    rw [akeys_map_key fs fb]
    have : akeys a.phaseSync.blocks = a.sectors := phaseSync_sectors a
    rw [this]
    exact List.Nodup.map_on (fun x hx y hy e => hinj x y hx hy e) h.sectors
  have hB' : (a.phaseSync.mapBlocks fs fb).blocks
      = a.blocks.map (fun p => (fs p.1, if phOf a.phases p.1 = -1 then (fb p.2).negK else fb p.2)) := by
    rw [← hsyncmap]; exact adict_of_nodup _ hnodupB'
  -- phases: only the live entries are re-keyed
  have hlive := livePhases_keys_stored a
  have hP : (a.mapBlocks fs fb).phases = (livePhases a).map (fun p => (fs p.1, id p.2)) := by
    show (if a.fermi then adict ((a.phases.filter (fun (s, _) => (alookup a.blocks s).isSome)).map
      (fun (s, p) => (fs s, p))) else a.phases) = _
    rw [hf]
    show adict ((livePhases a).map (fun p => (fs p.1, id p.2))) = _
    refine adict_of_nodup _ (?_ : (akeys _).Nodup)
    rw [akeys_map_key fs id]
    exact List.Nodup.map_on (fun x hx y hy e => hinj x y (hlive x hx) (hlive y hy) e)
      (livePhases_nodup h.phases)
  have hP' : (a.phaseSync.mapBlocks fs fb).phases = [] := by
    show (if a.fermi then adict ((([] : List (Sector × Int)).filter
      (fun (s, _) => (alookup a.phaseSync.blocks s).isSome)).map (fun (s, p) => (fs s, p))) else []) = _
    rw [hf]; rfl
  refine ⟨rfl, rfl, rfl, rfl, rfl, ?_, ?_⟩
  · unfold skel
    rw [hB, hB']
    simp only [List.map_map]
    apply List.map_congr_left
    intro p _
    simp only [Function.comp]
    split
    · rfl
    · rfl
  · intro t off
    rw [elem_eq, elem_eq, hB, hB', hP, hP']
    by_cases ht : ∃ s ∈ a.sectors, fs s = t
    · obtain ⟨s, hs, rfl⟩ := ht
      rw [alookup_map_inj fs fb a.blocks s (fun k hk he => hinj k s hk hs he),
        show a.blocks.map (fun p => (fs p.1, if phOf a.phases p.1 = -1 then (fb p.2).negK else fb p.2))
          = (a.blocks.map (fun p => (p.1, (fun k b => if phOf a.phases k = -1 then (fb b).negK else fb b) p.1 p.2))).map
              (fun p => (fs p.1, id p.2)) by simp [List.map_map, Function.comp_def],
        alookup_map_inj fs id _ s (fun k hk he => by
          rw [akeys_map_val (fun k b => if phOf a.phases k = -1 then (fb b).negK else fb b)] at hk
          exact hinj k s hk hs he),
        alookup_map_val (fun k b => if phOf a.phases k = -1 then (fb b).negK else fb b)]
      have hph : phOf ((livePhases a).map (fun p => (fs p.1, id p.2))) (fs s) = phOf a.phases s := by
        rw [← phOf_livePhases a hs]
        unfold phOf
        rw [alookup_map_inj fs id (livePhases a) s (fun k hk he => hinj k s (hlive k hk) hs he)]
        simp
      rw [hph]
      cases alookup a.blocks s with
      | none => rfl
      | some b => exact ((sgnI_one _).trans (syncBlk_get a s (fb b) off)).symm
    · have hn1 : alookup (a.blocks.map (fun p => (fs p.1, fb p.2))) t = none := by
        refine alookup_eq_none_iff.mpr (?_ : _ ∉ akeys _)
        rw [akeys_map_key fs fb]
        intro hm
        obtain ⟨s, hs, he⟩ := List.mem_map.mp hm
        exact ht ⟨s, hs, he⟩
      have hn2 : alookup (a.blocks.map (fun p => (fs p.1,
          if phOf a.phases p.1 = -1 then (fb p.2).negK else fb p.2))) t = none := by
        refine alookup_eq_none_iff.mpr (?_ : _ ∉ akeys _)
        intro hm
        simp only [akeys, List.map_map, Function.comp_def] at hm
        obtain ⟨p, hp, he⟩ := List.mem_map.mp hm
        exact ht ⟨p.1, List.mem_map_of_mem (f := (·.1)) hp, he⟩
      rw [hn1, hn2]


theorem ObsEq.withFrame {x y : Arr R} (h : ObsEq x y) (idx : List Index) (c : Charge) :
    ObsEq ({ x with indices := idx, charge := c } : Arr R) ({ y with indices := idx, charge := c } : Arr R) :=
  ⟨h.sym, h.fermi, rfl, rfl, h.oddpos, h.skel, h.elem⟩

/-- every stored sector has its charges in the index tables (a clause of `validB`) -/
def SecInTables (a : Arr R) : Prop :=
  ∀ s ∈ a.sectors, (Arr.blockShape? a.indices s).isSome = true

/-- every stored sector and every key of the sign table has its charges in the index tables
    (`validB` gives the first part; the second is `ValidP.phaseKeysInTablesB`, which holds
    whenever the sign-table keys are sectors that were stored at some time).  Only the first part
    (`SecInTables`) is needed: `_map_blocks` re-keys the sign entries of stored blocks only
    (/repo commit 2f542e3). -/
def InTables (a : Arr R) : Prop :=
  (∀ s ∈ a.sectors, (Arr.blockShape? a.indices s).isSome = true)
  ∧ (∀ k ∈ akeys a.phases, (Arr.blockShape? a.indices k).isSome = true)

theorem SecInTables.of_valid {a : Arr R} (hv : a.validB = true) : SecInTables a := by
  intro s hs
  obtain ⟨p, hp, rfl⟩ := List.mem_map.mp hs
  rw [(Arr.validB_block hv hp).2.2.1]; rfl

theorem InTables.sectors {a : Arr R} (h : InTables a) : SecInTables a := h.1

theorem squeezeMask_congr {a a' : Arr R} (h : ObsEq a a') (axis : Option (List Nat)) :
    DenseP.squeezeMask a axis = DenseP.squeezeMask a' axis := by
  unfold DenseP.squeezeMask; rw [h.indices, h.sym]

/-- squeeze of an array and of its synchronised copy; no hypothesis on the keys of the sign
    table -/
theorem squeezed_sync_obsEq [LawfulNeg R] {a : Arr R} {axis : Option (List Nat)} {m : List Bool}
    (hm : DenseP.squeezeMask a axis = .ok m) (hf : a.fermi = true) (h : SignOk a)
    (hT : SecInTables a) :
    ObsEq (DenseP.squeezed a (DenseP.keptAxes m 0)) (DenseP.squeezed a.phaseSync (DenseP.keptAxes m 0)) := by
  obtain ⟨hlen, hspec⟩ := DenseP.squeezeMask_ok hm
  have hmask : ∀ (i : Nat) (ix : Index), a.indices[i]? = some ix → m[i]? = some true →
      ∃ d, ix.cm = [(a.sym.zero, d)] ∧ d ≤ 1 := fun i ix hix hi => ((hspec i ix hix).1 hi).2
  have hinj : ∀ k1 k2, k1 ∈ a.sectors → k2 ∈ a.sectors →
      permuted k1 (DenseP.keptAxes m 0) = permuted k2 (DenseP.keptAxes m 0) → k1 = k2 := by
    intro k1 k2 h1 h2 he
    obtain ⟨sh1, e1⟩ := Option.isSome_iff_exists.mp (hT k1 h1)
    obtain ⟨sh2, e2⟩ := Option.isSome_iff_exists.mp (hT k2 h2)
    have l1 : k1.length = m.length := by rw [(blockShape?_length e1).1, hlen]
    have l2 : k2.length = m.length := by rw [(blockShape?_length e2).1, hlen]
    rw [DenseP.permuted_keptAxes_zero m k1 l1, DenseP.permuted_keptAxes_zero m k2 l2] at he
    refine DenseP.dropMask_inj l1 l2 (fun i hi => ?_) he
    obtain ⟨_, _, g1, _⟩ := DenseP.masked_facts hlen hmask e1 i hi
    obtain ⟨_, _, g2, _⟩ := DenseP.masked_facts hlen hmask e2 i hi
    rw [g1, g2]
  have := mapBlocks_sync_obsEq a (fun s => permuted s (DenseP.keptAxes m 0))
    (fun b => b.squeezeK (DenseP.keptAxes m 0)) hf h hinj (fun _ => rfl)
  exact this.withFrame (permuted a.indices (DenseP.keptAxes m 0)) a.charge

/-- **congruence of `squeeze`**: same error, or observationally equal results — whatever the
    sign tables hold besides the entries of the stored blocks -/
theorem squeeze_congr_any_phases [LawfulNeg R] {a a' : Arr R} (h : ObsEq a a') (fa : Full a)
    (fa' : Full a') (hf : a.fermi = true) (hT : SecInTables a) (hT' : SecInTables a')
    (axis : Option (List Nat)) :
    ExceptRel ObsEq (a.squeeze axis) (a'.squeeze axis) := by
  rw [DenseP.squeeze_eq, DenseP.squeeze_eq, ← squeezeMask_congr h axis]
  cases hm : DenseP.squeezeMask a axis with
  | error e => rfl
  | ok m =>
    have hm' : DenseP.squeezeMask a' axis = .ok m := by rw [← squeezeMask_congr h axis]; exact hm
    have e1 := squeezed_sync_obsEq hm hf fa.sign hT
    have e2 := squeezed_sync_obsEq hm' (h.fermi ▸ hf) fa'.sign hT'
    rw [canon h fa fa'] at e1
    exact e1.trans e2.symm

theorem squeeze_sync_any_phases [LawfulNeg R] {a : Arr R} (fa : Full a) (hf : a.fermi = true)
    (hT : SecInTables a) (axis : Option (List Nat)) :
    ExceptRel ObsEq (a.squeeze axis) (a.phaseSync.squeeze axis) := by
  rw [DenseP.squeeze_eq, DenseP.squeeze_eq, ← squeezeMask_congr (phaseSync_obsEq a).symm axis]
  cases hm : DenseP.squeezeMask a axis with
  | error e => rfl
  | ok m => exact squeezed_sync_obsEq hm hf fa.sign hT

theorem shapesOk_phaseSync {a : Arr R} (h : Arr.ShapesOk a) : Arr.ShapesOk a.phaseSync := by
  refine ⟨h.1, fun s b hb => ?_⟩
  rw [phaseSync_blocks_eq, alookup_map_val (syncBlk a)] at hb
  cases hb0 : alookup a.blocks s with
  | none => rw [hb0] at hb; cases hb
  | some b0 =>
    rw [hb0] at hb
    simp only [Option.map_some, Option.some.injEq] at hb
    subst hb
    have := h.2 s b0 hb0
    rw [syncBlk_shape]; exact this

/-- **value view of `squeeze` with an arbitrary sign table.**  Dropping the masked coordinates of
    a sector of the tables and of an offset of its box gives an address of the squeezed array that
    holds the same value: an entry of the sign table whose sector has no block contributes no
    sign to any block of the result. -/
theorem squeezed_elem_any_phases [LawfulNeg R] {a : Arr R} {axis : Option (List Nat)}
    {m : List Bool} (hm : DenseP.squeezeMask a axis = .ok m) (hf : a.fermi = true) (fa : Full a)
    (hT : SecInTables a) (hsh : Arr.ShapesOk a)
    (s : Sector) (shp off : List Nat) (hshp : Arr.blockShape? a.indices s = some shp)
    (hoff : inBox shp off = true) :
    (DenseP.squeezed a (DenseP.keptAxes m 0)).elem (DenseP.dropMask m s) (DenseP.dropMask m off)
      = a.elem s off := by
  obtain ⟨hlen, hspec⟩ := DenseP.squeezeMask_ok hm
  have hmask : ∀ (i : Nat) (ix : Index), a.indices[i]? = some ix → m[i]? = some true →
      ∃ d, ix.cm = [(a.sym.zero, d)] ∧ d ≤ 1 := fun i ix hix hi => ((hspec i ix hix).1 hi).2
  have e1 := (squeezed_sync_obsEq hm hf fa.sign hT).elem (DenseP.dropMask m s) (DenseP.dropMask m off)
  have e2 := DenseP.squeezed_elem a.phaseSync m hlen hmask rfl (shapesOk_phaseSync hsh)
    (by rw [show a.phaseSync.sectors = a.sectors from phaseSync_sectors a]; exact fa.sign.sectors)
    s shp off hshp hoff
  rw [e1, e2]
  exact (phaseSync_obsEq a).elem s off

omit [Zero R] [Neg R] in
theorem insert_inj {α : Type} (axis : Nat) (c : α) {s t : List α}
    (h : s.take axis ++ [c] ++ s.drop axis = t.take axis ++ [c] ++ t.drop axis) : s = t := by
  have hl : s.length = t.length := by
    have := congrArg List.length h
    simp only [List.length_append, List.length_take, List.length_drop, List.length_cons,
      List.length_nil] at this
    omega
  have hlt : (s.take axis).length = (t.take axis).length := by simp [hl]
  rw [List.append_assoc, List.append_assoc] at h
  have h1 := List.append_inj_left h hlt
  have h2 := List.append_inj_right h hlt
  simp only [List.singleton_append, List.cons.injEq, true_and] at h2
  rw [← List.take_append_drop axis s, ← List.take_append_drop axis t, h1, h2]

theorem expandDims_sync_obsEq [LawfulNeg R] (a : Arr R) (axis : Nat) (c : Option Charge)
    (dual : Option Bool) (hf : a.fermi = true) (h : SignOk a) :
    ObsEq (a.expandDims axis c dual) (a.phaseSync.expandDims axis c dual) := by
  cases c with
  | none =>
    have := mapBlocks_sync_obsEq a (fun s => s.take axis ++ [a.sym.zero] ++ s.drop axis)
      (fun b => b.expandK axis) hf h (fun _ _ _ _ e => insert_inj axis _ e) (fun _ => rfl)
    exact this.withFrame _ _
  | some c =>
    have := mapBlocks_sync_obsEq a (fun s => s.take axis ++ [c] ++ s.drop axis)
      (fun b => b.expandK axis) hf h (fun _ _ _ _ e => insert_inj axis _ e) (fun _ => rfl)
    exact this.withFrame _ _

theorem expandDims_congr [LawfulNeg R] {a a' : Arr R} (h : ObsEq a a') (fa : Full a) (fa' : Full a')
    (hf : a.fermi = true) (axis : Nat) (c : Option Charge) (dual : Option Bool) :
    ObsEq (a.expandDims axis c dual) (a'.expandDims axis c dual) := by
  have e1 := expandDims_sync_obsEq a axis c dual hf fa.sign
  have e2 := expandDims_sync_obsEq a' axis c dual (h.fermi ▸ hf) fa'.sign
  rw [canon h fa fa'] at e1
  exact e1.trans e2.symm

/-- with only empty groups `fuse` does not touch the blocks: it returns the array itself, or the
    `ValueError` of `expand_empty` -/
theorem fuseF_allEmpty (a : Arr R) (groups : List (List Nat)) (mode : FuseMode) (expandEmpty : Bool)
    (he : (groups.filter (fun g => !g.isEmpty)).isEmpty = true) :
    a.fuseF groups mode expandEmpty
      = if expandEmpty && !((groups.zipIdx.filter (fun p => p.1.isEmpty)).map (·.2)).isEmpty
        then .error Err.value else .ok a := by
  have hnil : groups.filter (fun g => !g.isEmpty) = [] := List.isEmpty_iff.mp he
  unfold Arr.fuseF
  simp only [hnil, List.isEmpty_nil, if_true, pure_bind, List.flatten_nil]
  split <;> rfl

theorem fuseF_allEmpty_congr {a a' : Arr R} (h : ObsEq a a') (groups : List (List Nat))
    (mode : FuseMode) (expandEmpty : Bool)
    (he : (groups.filter (fun g => !g.isEmpty)).isEmpty = true) :
    ExceptRel ObsEq (a.fuseF groups mode expandEmpty) (a'.fuseF groups mode expandEmpty) := by
  rw [fuseF_allEmpty a groups mode expandEmpty he, fuseF_allEmpty a' groups mode expandEmpty he]
  split
  · rfl
  · exact h

theorem fuseF_congr_all [LawfulNeg R] {a a' : Arr R} (h : ObsEq a a') (fa : Full a) (fa' : Full a')
    (groups : List (List Nat)) (mode : FuseMode) (expandEmpty : Bool)
    (hg : (groups.filter (fun g => !g.isEmpty)).isEmpty = false →
      Arr.isPerm (calcFuseGroupInfo (groups.filter (fun g => !g.isEmpty)) a.duals).perm a.ndim = true) :
    ExceptRel ObsEq (a.fuseF groups mode expandEmpty) (a'.fuseF groups mode expandEmpty) := by
  cases he : (groups.filter (fun g => !g.isEmpty)).isEmpty with
  | true => exact fuseF_allEmpty_congr h groups mode expandEmpty he
  | false =>
    exact ExceptRel.of_eq ObsEq.refl (fuseF_congr h fa fa' groups mode expandEmpty he (hg he))

end mapblocks
section prog2
variable {R : Type} [Zero R] [Add R] [Mul R] [Neg R] [Conj R]

/-- the state invariant of the extended programs: clauses of `Arr.validB` for a fermionic array
    (nothing about the keys of the sign table: `tables` speaks of the stored sectors only) -/
structure StOk (a : Arr R) : Prop where
  full : Full a
  fermi : a.fermi = true
  tables : SecInTables a

theorem StOk.of_valid_any_phases {a : Arr R} (hv : a.validB = true) (hf : a.fermi = true) : StOk a :=
  ⟨Full.of_valid hv hf, hf, SecInTables.of_valid hv⟩

/-- the same with the hypothesis `ValidP.phaseKeysInTablesB` supplied as well (it is not a clause of
    `Arr.validB`, see `C01.exStale`); it is not needed -/
theorem StOk.of_valid {a : Arr R} (hv : a.validB = true) (hf : a.fermi = true)
    (_hk : ValidP.phaseKeysInTablesB a = true) : StOk a :=
  StOk.of_valid_any_phases hv hf

/-- the guard of `tensordot` (the normalised axes are distinct and in range) -/
def tdGuard (a b : Arr R) (axes : AxesArg) : Prop :=
  ∀ axesA axesB, parseAxes a.ndim b.ndim axes = .ok (axesA, axesB) →
    Arr.isPerm (without (List.range a.ndim) axesA ++ axesA) a.ndim = true
    ∧ Arr.isPerm (axesB ++ without (List.range b.ndim) axesB) b.ndim = true

/-- the operations of a fermionic array: those of `SOp` and the block-restructuring ones -/
inductive Op2 (R : Type) where
  | base (op : SOp)
  | squeeze (axis : Option (List Nat))
  | expandDims (axis : Nat) (c : Option Charge) (dual : Option Bool)
  | mdiag (v : BVec R) (axis : Nat)
  | fuse (groups : List (List Nat)) (mode : FuseMode) (expandEmpty : Bool)
  | unfuse (axis : Nat)
  | tdotL (b : Arr R) (axes : AxesArg) (mode : TdotMode)   -- `tensordot(x, b, axes)`
  | tdotR (b : Arr R) (axes : AxesArg) (mode : TdotMode)   -- `tensordot(b, x, axes)`

def Op2.apply : Op2 R → Arr R → Except Err (Arr R)
  | .base op, a => .ok (op.apply a)
  | .squeeze axis, a => a.squeeze axis
  | .expandDims axis c dual, a => .ok (a.expandDims axis c dual)
  | .mdiag v axis, a => .ok (multiplyDiagonal a v axis)
  | .fuse g m e, a => a.fuseF g m e
  | .unfuse axis, a => a.unfuseF axis
  | .tdotL b axes mode, a => a.tensordotF b axes mode
  | .tdotR b axes mode, a => b.tensordotF a axes mode

/-- guards (where Python raises and the model is totalised) and the validity of fixed partners -/
def Op2.ok : Op2 R → Arr R → Prop
  | .base op, a => op.ok a
  | .fuse g _ _, a => (g.filter (fun x => !x.isEmpty)).isEmpty = false →
      Arr.isPerm (calcFuseGroupInfo (g.filter (fun x => !x.isEmpty)) a.duals).perm a.ndim = true
  | .tdotL b axes _, a => Full b ∧ tdGuard a b axes
  | .tdotR b axes _, a => Full b ∧ tdGuard b a axes
  | _, _ => True

/-- run a program as written -/
def runE : List (Op2 R) → Arr R → Except Err (Arr R)
  | [], a => .ok a
  | op :: p, a => op.apply a >>= runE p

/-- run a program eagerly: `phase_sync()` after every step -/
def runSyncE : List (Op2 R) → Arr R → Except Err (Arr R)
  | [], a => .ok a
  | op :: p, a => (op.apply a).map Arr.phaseSync >>= runSyncE p

/-- every state of the lazy run satisfies the invariant (property C01) and every guard holds -/
def runOkE : List (Op2 R) → Arr R → Prop
  | [], a => StOk a
  | op :: p, a => StOk a ∧ op.ok a ∧ ∀ r, op.apply a = .ok r → runOkE p r

/-- every state of the eager run satisfies the invariant -/
def runSyncOkE : List (Op2 R) → Arr R → Prop
  | [], a => StOk a
  | op :: p, a => StOk a ∧ ∀ r, op.apply a = .ok r → runSyncOkE p r.phaseSync

theorem ExceptRel.ok_ok {α : Type} {r : α → α → Prop} {x y : α} (h : r x y) :
    ExceptRel r (.ok x) (.ok y) := h

theorem Op2.apply_rel [LawfulNegConj R] [LawfulMulNeg R] (op : Op2 R) {a a' : Arr R}
    (h : ObsEq a a') (sa : StOk a) (sa' : StOk a') (ho : op.ok a) :
    ExceptRel ObsEq (op.apply a) (op.apply a') := by
  cases op with
  | base op => exact op.apply_congr h sa.full.inv sa'.full.inv ho
  | squeeze axis => exact squeeze_congr_any_phases h sa.full sa'.full sa.fermi sa.tables sa'.tables axis
  | expandDims axis c dual => exact expandDims_congr h sa.full sa'.full sa.fermi axis c dual
  | mdiag v axis => exact multiplyDiagonal_congr h v axis
  | fuse g m e => exact fuseF_congr_all h sa.full sa'.full g m e ho
  | unfuse axis => exact ExceptRel.of_eq ObsEq.refl (unfuseF_congr h sa.full sa'.full axis)
  | tdotL b axes mode =>
    exact ExceptRel.of_eq ObsEq.refl
      (tensordotF_congr h (ObsEq.refl b) sa.full sa'.full ho.1 ho.1 axes mode ho.2)
  | tdotR b axes mode =>
    exact ExceptRel.of_eq ObsEq.refl
      (tensordotF_congr (ObsEq.refl b) h ho.1 ho.1 sa.full sa'.full axes mode ho.2)

/-- **lazy signs are unobservable, all operations of `Op2`**: the lazy and the eager run of a
    program return the same error or observationally equal arrays, when every state of both runs
    satisfies `StOk` and every guard holds (`runOkE`, `runSyncOkE`) -/
theorem run_runSyncE [LawfulNegConj R] [LawfulMulNeg R] (p : List (Op2 R)) {a a' : Arr R}
    (h : ObsEq a a') (hl : runOkE p a) (he : runSyncOkE p a') :
    ExceptRel ObsEq (runE p a) (runSyncE p a') := by
  induction p generalizing a a' with
  | nil => exact h
  | cons op p ih =>
    obtain ⟨sa, ho, hn⟩ := hl
    obtain ⟨sa', hn'⟩ := he
    unfold runE runSyncE
    rcases ExceptRel.iff.1 (op.apply_rel h sa sa' ho) with ⟨e, e1, e2⟩ | ⟨r, r', e1, e2, hr⟩
    · rw [e1, e2]; rfl
    · rw [e1, e2]
      exact ih (hr.trans (phaseSync_obsEq r').symm) (hn r e1) (hn' r' e2)

theorem runOkE_final (p : List (Op2 R)) {a r : Arr R} (hl : runOkE p a) (h : runE p a = .ok r) :
    StOk r := by
  induction p generalizing a with
  | nil => cases h; exact hl
  | cons op p ih =>
    obtain ⟨_, _, hn⟩ := hl
    unfold runE at h
    cases e1 : op.apply a with
    | error e => rw [e1] at h; cases h
    | ok r1 => rw [e1] at h; exact ih (hn r1 e1) h

theorem runSyncOkE_final (p : List (Op2 R)) {a r : Arr R} (hl : runSyncOkE p a)
    (h : runSyncE p a = .ok r) : StOk r := by
  induction p generalizing a with
  | nil => cases h; exact hl
  | cons op p ih =>
    obtain ⟨_, hn⟩ := hl
    unfold runSyncE at h
    cases e1 : op.apply a with
    | error e => rw [e1] at h; cases h
    | ok r1 => rw [e1] at h; exact ih (hn r1 e1) h

/-- **terminal observations**: whatever is computed from the synchronised final array — `sum`,
    `max`, `abs`, `clip`, `to_dense`, `norm`, `eigh`, `solve`, …; singular values with
    `svdVals_sync` — is the same for the lazy and the eager run -/
theorem run_observe [LawfulNegConj R] [LawfulMulNeg R] {α : Type} (F : Arr R → α)
    (p : List (Op2 R)) {a : Arr R} (hl : runOkE p a) (he : runSyncOkE p a) :
    ExceptRel (fun r r' => F (syncF r) = F (syncF r')) (runE p a) (runSyncE p a) := by
  rcases ExceptRel.iff.1 (run_runSyncE p (ObsEq.refl a) hl he) with ⟨e, e1, e2⟩ | ⟨r, r', e1, e2, hr⟩
  · rw [e1, e2]; rfl
  · rw [e1, e2]
    have s1 := runOkE_final p hl e1
    exact syncFirst_congr F hr s1.full (runSyncOkE_final p he e2).full s1.fermi

end prog2
section einsum
variable {R : Type} [Zero R] [Neg R]

/-- the axis order `FermionicArray.einsum` transposes to: axes sorted (stably) by
    (position of the label in the output or −1 for traced labels, label, ket before bra) — every
    traced pair becomes adjacent, in front, as (bra, ket) -/
def einOrder (a : Arr R) (lhs rhs : List Nat) : List Nat :=
  let key (i : Nat) : Int × Nat × Bool :=
    let c := lhs.getD i 0
    ((match indexOf? rhs c with | some j => (j : Int) | none => -1), c,
     !(a.indices.getD i default).dual)
  let klt (x y : Int × Nat × Bool) : Bool :=
    x.1 < y.1 || (x.1 == y.1 && (x.2.1 < y.2.1 || (x.2.1 == y.2.1 && (!x.2.2 && y.2.2))))
  isort (fun i j => klt (key i) (key j)) (List.range a.ndim)

theorem isPerm_einOrder (a : Arr R) (lhs rhs : List Nat) :
    Arr.isPerm (einOrder a lhs rhs) a.ndim = true := isPerm_isort _ _

/-- the operand of the abelian einsum: transposed (with its Koszul signs) and synchronised -/
def einOperand (a : Arr R) (lhs rhs : List Nat) : Arr R :=
  (a.transposeF (einOrder a lhs rhs)).phaseSync

/-- `FermionicArray.einsum` = transpose to `einOrder`, synchronise, abelian einsum (traces of
    adjacent (bra, ket) pairs and the output permutation) -/
theorem einsumF_eq [Add R] (a : Arr R) (lhs rhs : List Nat) :
    a.einsumF lhs rhs =
      if lhs.length != a.ndim then .error Err.index
      else einsumA (einOperand a lhs rhs) (permuted lhs (einOrder a lhs rhs)) rhs := by
  unfold Arr.einsumF
  split <;> rfl

/-- the value `transpose` puts at the transposed address, up to the Koszul sign (intrinsic form) -/
def transposedElem (a : Arr R) (axes : List Nat) (s : Sector) (off : List Nat) : R :=
  match alookup (skel a) s with
  | none => 0
  | some shp => match boxIdx (permuted shp axes) off with
    | none => 0
    | some i => a.elem s (srcIdx shp.length axes i)

theorem transposedElem_inBox (a : Arr R) (axes : List Nat) (s : Sector) (b : Blk R)
    (hb : alookup a.blocks s = some b) (off : List Nat)
    (ho : inBox (permuted b.shape axes) off = true) :
    transposedElem a axes s off = a.elem s (srcIdx b.shape.length axes off) := by
  unfold transposedElem
  rw [alookup_skel, hb]
  simp only [Option.map_some]
  rw [boxIdx_of_inBox ho]

theorem einOperand_elem [LawfulNeg R] {a : Arr R} (lhs rhs : List Nat) (fa : Full a) {s : Sector}
    (hs : s.length = a.ndim) (off : List Nat) :
    (einOperand a lhs rhs).elem (permuted s (einOrder a lhs rhs)) off
      = sgnI (koszul (a.parities s) (some (einOrder a lhs rhs)))
          (transposedElem a (einOrder a lhs rhs) s off) := by
  unfold einOperand
  rw [phaseSync_elem, transposeF_elem (fa.trOk (isPerm_einOrder a lhs rhs)) s hs off]
  rfl

theorem einOperand_sectors {a : Arr R} (lhs rhs : List Nat) (fa : Full a) :
    (einOperand a lhs rhs).sectors = a.sectors.map (fun s => permuted s (einOrder a lhs rhs)) := by
  unfold einOperand
  rw [phaseSync_sectors, transposeF_sectors (fa.trOk (isPerm_einOrder a lhs rhs))]

end einsum

section einsum2
variable {R : Type} [AddMonoid R] [Neg R]

theorem filter_map_sum {α β : Type} (π : α → β) (P : β → Bool) (G : β → R) (l : List α) :
    (((l.map π).filter P).map G).sum = ((l.filter (P ∘ π)).map (G ∘ π)).sum := by
  rw [List.filter_map, List.map_map]

/-- **the element-level form behind `C09.einsumF_refines_graded`.**  Valid fermionic `a`, one label per axis, every
    output label on the left, every traced label exactly twice.  Then `a.einsum(lhs -> rhs)`
    succeeds; its indices are those of `a` permuted by `einOrder` and then by the output
    permutation; and its element at `(s', o')` is the sum, over the stored sectors `s` of `a`
    whose traced pairs carry equal charges and whose kept part is `s'`, of the Koszul sign of
    `einOrder` on the parities of `s` times the sum over the traced box of the transposed value
    of `a` at the assembled offsets: the graded trace — bring every traced pair to the front as
    (bra, ket) with the Koszul sign, then take plain traces. -/
theorem einsumF_elem [LawfulNeg R] (neg_add : ∀ x y : R, -(x + y) = -x + -y) (a : Arr R)
    (lhs rhs perm2 : List Nat) (hv : a.validB = true) (hf : a.fermi = true)
    (hlen : lhs.length = a.ndim)
    (hperm : TdotP.einPerm? (permuted lhs (einOrder a lhs rhs)) rhs = .ok perm2)
    (h2 : (TdotP.einTracedPos (permuted lhs (einOrder a lhs rhs)) rhs).any
      (fun js => js.length != 2) = false)
    (s' : Sector) (o' : List Nat)
    (ho : ∀ s ∈ (einOperand a lhs rhs).sectors,
      TdotP.einKeep (permuted lhs (einOrder a lhs rhs)) rhs s = true → permuted s perm2 = s' →
      inBox (rhs.map (TdotP.einSize (Arr.blockShapeD (einOperand a lhs rhs).indices s)
        (permuted lhs (einOrder a lhs rhs)))) o' = true) :
    ∃ c, a.einsumF lhs rhs = .ok c
      ∧ c.indices = permuted (permuted a.indices (einOrder a lhs rhs)) perm2
      ∧ c.elem s' o' =
        ((a.sectors.filter (fun s =>
            TdotP.einKeep (permuted lhs (einOrder a lhs rhs)) rhs (permuted s (einOrder a lhs rhs))
            && permuted (permuted s (einOrder a lhs rhs)) perm2 == s')).map (fun s =>
          sgnI (koszul (a.parities s) (some (einOrder a lhs rhs)))
            (((allIdx ((TdotP.einTraced (permuted lhs (einOrder a lhs rhs)) rhs).map
                (TdotP.einSize (Arr.blockShapeD (einOperand a lhs rhs).indices
                  (permuted s (einOrder a lhs rhs))) (permuted lhs (einOrder a lhs rhs))))).map
              (fun t => transposedElem a (einOrder a lhs rhs) s
                (TdotP.einIdx (permuted lhs (einOrder a lhs rhs)) rhs o' t))).sum))).sum := by
  have fa : Full a := Full.of_valid hv hf
  have hvx : (einOperand a lhs rhs).validB = true :=
    LinalgLemmas.phaseSync_valid _ (C01.transposeF_valid a _ true hv hf (isPerm_einOrder a lhs rhs))
  obtain ⟨c, h1, h2', _, h4⟩ := C02.einsumA_elem (einOperand a lhs rhs)
    (permuted lhs (einOrder a lhs rhs)) rhs perm2 hperm h2 rfl
    (TdotP.Arr.allDistinct_of_validB hvx) (TdotP.Arr.shapesOk_of_validB hvx) s' o' ho
  refine ⟨c, ?_, ?_, ?_⟩
  · rw [einsumF_eq]
    have : (lhs.length != a.ndim) = false := by simp [hlen]
    rw [this]; exact h1
  · rw [h2']
    show permuted (a.transposeF (einOrder a lhs rhs)).indices perm2 = _
    rw [(transposeF_frame a _).2.2.1]
  · rw [h4, einOperand_sectors lhs rhs fa, filter_map_sum]
    congr 1
    apply List.map_congr_left
    intro s hs
    have hsm : s ∈ a.sectors := (List.mem_filter.mp hs).1
    simp only [Function.comp]
    rw [← sgnI_map_sum neg_add]
    congr 1
    apply List.map_congr_left
    intro t _
    exact einOperand_elem lhs rhs fa (fa.len s hsm) _

end einsum2
end SymmModel.Lazy
