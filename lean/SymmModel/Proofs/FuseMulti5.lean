/-
  SymmModel.Proofs.FuseMulti5 — arbitrary groups: permuted lists, plans and offsets in
  front / group / back form; what `splitAddr` finds on a multi-axis group axis of a fused block.
-/
import SymmModel.Proofs.FuseMulti4
namespace SymmModel
namespace FuseP

variable {R : Type}

theorem getD_zipWith_sub {a b : List Nat} (h : a.length = b.length) (k : Nat) :
    (List.zipWith (· - ·) a b).getD k 0 = a.getD k 0 - b.getD k 0 :=
  getD_zipWith (· - ·) h k 0 0

theorem inBox_range_map (n : Nat) (f g : Nat → Nat) (h : ∀ x, x < n → f x < g x) :
    inBox ((List.range n).map g) ((List.range n).map f) = true := by
  rw [inBox_iff]
  refine ⟨by simp, ?_⟩
  intro k hk
  simp only [List.length_map, List.length_range] at hk
  rw [getD_range_map _ _ _ _ hk, getD_range_map _ _ _ _ hk]
  exact h k hk

section Multi
variable {a : Arr R} {groups : List (List Nat)}

theorem permutedM_eq {α : Type} (hok : GroupsAdm groups a.ndim) (l : List α) (d : α) (hl : l.length = a.ndim) :
    permuted l (giM a groups).perm
      = (List.range (giM a groups).position).map (fun x => l.getD x d)
        ++ ((List.range groups.length).map (fun g => (groups.getD g []).map (fun ax => l.getD ax d))).flatten
        ++ (List.range (giM a groups).axesAfter.length).map (fun j => l.getD ((giM a groups).axesAfter.getD j 0) d) := by
  have hall : ∀ p ∈ (giM a groups).perm, p < l.length := by
    intro p hp; rw [hl, ← duals_length]; exact (mem_perm hok.duals).1 hp
  rw [permuted_eq_map l d _ hall, perm_eq, List.map_append, List.map_append, axesBefore_range _ _,
    List.map_flatten, map_eq_range_map groups [] (List.map (fun p => l.getD p d)),
    map_eq_range_map (giM a groups).axesAfter 0 (fun p => l.getD p d)]

theorem permutedM_length {α : Type} (hok : GroupsAdm groups a.ndim) (l : List α) (hl : l.length = a.ndim) :
    (permuted l (giM a groups).perm).length = a.ndim := by
  rw [permuted_length, perm_length hok.duals, duals_length]
  intro p hp; rw [hl, ← duals_length]; exact (mem_perm hok.duals).1 hp

theorem cM_eq_combine (hok : GroupsAdm groups a.ndim) {g : Nat} {gaxes : List Nat} (hg : groups[g]? = some gaxes)
    (hlen : gaxes.length ≠ 1) (sb : Sector × Blk R) :
    cM (a := a) (groups := groups) sb g = a.sym.combine (List.zipWith (fun c' (sub : Index) =>
      a.sym.sign c' ((giM a groups).groupDuals.getD g false != sub.dual))
      (ssM (a := a) (groups := groups) sb g) (gaxes.map (fun ax => a.indices.getD ax default))) := by
  rw [ssM_eq hg]
  simp only [cM, planM]
  rw [planOf_newSector_getD _ _ _ _ _ _ hg]
  rw [midOf_multi _ _ _ _ _ g hlen]
  simp only [fusedCharge]
  rw [List.zipWith_map, List.zipWith_self]

theorem nsM_parts (hok : GroupsAdm groups a.ndim) (sb : Sector × Blk R) :
    (planM a groups sb).newSector
      = (List.range (giM a groups).position).map (fun x => sb.1.getD x (0, 0))
        ++ (List.range groups.length).map (fun g => cM (a := a) (groups := groups) sb g)
        ++ (List.range (giM a groups).axesAfter.length).map
            (fun j => sb.1.getD ((giM a groups).axesAfter.getD j 0) (0, 0)) := by
  exact eq_three_parts (0, 0) (planM_newSector_length hok sb)
    (fun _ hx => planOf_newSector_before _ _ _ _ _ _ hx) (fun _ _ => rfl)
    (fun _ hj => planOf_newSector_after _ _ _ _ _ _ hj)

theorem nshM_parts (hok : GroupsAdm groups a.ndim) (sb : Sector × Blk R) :
    (planM a groups sb).newShape
      = (List.range (giM a groups).position).map (fun x => sb.2.shape.getD x 0)
        ++ (List.range groups.length).map
            (fun g => prod ((groups.getD g []).map (fun ax => sb.2.shape.getD ax 0)))
        ++ (List.range (giM a groups).axesAfter.length).map
            (fun j => sb.2.shape.getD ((giM a groups).axesAfter.getD j 0) 0) := by
  refine eq_three_parts 0 (planM_newShape_length hok sb)
    (fun _ hx => planOf_newShape_before _ _ _ _ hx) (fun g hg => ?_)
    (fun _ hj => planOf_newShape_after _ _ _ _ hj)
  have hgg : groups[g]? = some groups[g] := List.getElem?_eq_getElem hg
  rw [show groups.getD g [] = groups[g] by simp [List.getD_eq_getElem?_getD, hgg]]
  exact dM_eq (a := a) hok hgg sb


theorem split_factsM (hv : ValidArr a) (hok : GroupsOk groups a.ndim) {g : Nat} {gaxes : List Nat}
    (hg : groups[g]? = some gaxes) (hlen : gaxes.length ≠ 1) {sb0 : Sector × Blk R} (hsb0 : sb0 ∈ a.blocks)
    {o : Nat} (ho : o < DM a groups sb0 g) :
    ∃ e ss r st d shpM, alookup (extsM a groups g) (cM (a := a) (groups := groups) sb0 g) = some e
      ∧ (e.map (·.1)).Nodup
      ∧ splitAddr (ixM a groups g) (cM (a := a) (groups := groups) sb0 g) o = some (ss, unravel shpM r)
      ∧ startOf e ss = some (st, d) ∧ r < d ∧ o = st + r
      ∧ Arr.blockShape? (gaxes.map (fun ax => a.indices.getD ax default)) ss = some shpM ∧ prod shpM = d
      ∧ ss.length = gaxes.length
      ∧ a.sym.combine (List.zipWith (fun c' (sub : Index) =>
          a.sym.sign c' ((giM a groups).groupDuals.getD g false != sub.dual)) ss
          (gaxes.map (fun ax => a.indices.getD ax default))) = cM (a := a) (groups := groups) sb0 g := by
  obtain ⟨e, D, h1, _, _, h4, h5⟩ := stored_tableM hv hok.adm hg hlen hsb0
  obtain ⟨_, _, hext⟩ := ixM_extent hv hok.adm hg hlen h1
  rw [h5] at ho
  obtain ⟨ss, r, hso⟩ := splitOffset_some (ext := e) (o := o) (by rw [h4]; exact ho)
  obtain ⟨st, d, hst, hr, hio⟩ := splitOffset_startOf hext.nodup hso
  obtain ⟨hssl, ⟨shpM, hshpM, hprod⟩, hc⟩ := hext.entry ss d (startOf_mem hst)
  refine ⟨e, ss, r, st, d, shpM, h1, hext.nodup, ?_, hst, hr, hio, hshpM, hprod, by simpa using hssl, hc⟩
  have hsub := ixM_sub (a := a) hok.adm hg hlen
  simp only [splitAddr, hsub, h1, hso, hshpM]

end Multi

end FuseP
end SymmModel
