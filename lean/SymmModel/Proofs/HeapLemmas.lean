/-
  SymmModel.Proofs.HeapLemmas — who may write what in the heap model `Model/Heap.lean` (property C14).

  The model gives Python objects identity: an array object points to dict objects (`_blocks`, `_phases`),
  two arrays may point to the same dict, and every method of symmray is a short program over CPython's
  primitive effects.  Whether a call changes an object it was not asked to change is settled by a
  small-step argument:

    * `Step A D h h'` is the footprint of any number of effects: `h'` is `h` after effects that rebound
      slots only of array objects in `A`, mutated only dict objects in `D`, and allocated new objects;
      every object keeps its kind.  `Step.same` is the frame rule: an object outside both write sets is
      identical afterwards.  The allocation-only case: `Ext` (the object table only grows), `BufExt` (the
      buffer table only grows), `Grows` (both).
    * `Own` / `Inv h0 WA WD h env o` is the invariant of a running call: `h` is a `Step` from the heap `h0`
      at the start of the call within the write sets `WA` for arrays and `WA ∪ WD` for dicts (objects
      allocated since are free), and every variable flagged in `o` is owned (it and the dicts it points to
      may be written).  `runCmd_inv` is the step rule, `Inv.push` the rule for a sub-computation that
      writes nothing that existed.
    * `Safe` is the syntactic discipline — mutate only through owned variables, never bind a dict that
      something else points to (`shareBlocks` / `sharePhases` are rejected) — and `safe_inv` its
      soundness; the `safe_…` lemmas give it for the program combinators of the model.
    * `binLoop` is the loop of `_binary_blockwise_op` written once for any kind of step, `binMuts` its
      effects on target and temporary dict, `binaryK_eq` / `safe_binaryK` the program as that loop.

  Trusted, not proved here: that the effect programs of `Model/Heap.lean` are what symmray's methods do
  (transcribed by hand, replayed against the code by the harness), and that a block buffer is never
  written after it is published (so buffers are opaque ids with a provenance).
-/
import SymmModel.Model.Heap
namespace SymmModel.Heap

/-- the footprint of any number of effects -/
structure Step (A D : ObjId → Prop) (h h' : Heap) : Prop where
  size : h.size ≤ h'.size
  arr : ∀ i a, h.get? i = some (.arr a) → ∃ a', h'.get? i = some (.arr a') ∧ (¬ A i → a' = a)
  dict : ∀ i d, h.get? i = some (.dict d) → ∃ d', h'.get? i = some (.dict d') ∧ (¬ D i → d' = d)

/-- the empty write set -/
def Never : ObjId → Prop := fun _ => False

theorem Step.refl (A D) (h : Heap) : Step A D h h :=
  ⟨Nat.le_refl _, fun _ a ha => ⟨a, ha, fun _ => rfl⟩, fun _ d hd => ⟨d, hd, fun _ => rfl⟩⟩

theorem get?_lt {h : Heap} {i : ObjId} {o : Obj} (hg : h.get? i = some o) : i < h.size := by
  unfold Heap.get? at hg
  unfold Heap.size
  exact (List.getElem?_eq_some_iff.mp hg).1

theorem Step.trans {A D A' D' : ObjId → Prop} {h h1 h2 : Heap}
    (s1 : Step A D h h1) (s2 : Step A' D' h1 h2)
    (hA : ∀ i, i < h.size → A' i → A i) (hD : ∀ i, i < h.size → D' i → D i) : Step A D h h2 := by
  refine ⟨Nat.le_trans s1.size s2.size, ?_, ?_⟩
  · intro i a ha
    obtain ⟨a1, h1a, e1⟩ := s1.arr i a ha
    obtain ⟨a2, h2a, e2⟩ := s2.arr i a1 h1a
    refine ⟨a2, h2a, fun hn => ?_⟩
    rw [e2 (fun h' => hn (hA i (get?_lt ha) h')), e1 hn]
  · intro i d hd
    obtain ⟨d1, h1d, e1⟩ := s1.dict i d hd
    obtain ⟨d2, h2d, e2⟩ := s2.dict i d1 h1d
    refine ⟨d2, h2d, fun hn => ?_⟩
    rw [e2 (fun h' => hn (hD i (get?_lt hd) h')), e1 hn]

theorem Step.mono {A D A' D' : ObjId → Prop} {h h' : Heap} (s : Step A D h h')
    (hA : ∀ i, A i → A' i) (hD : ∀ i, D i → D' i) : Step A' D' h h' :=
  ⟨s.size, fun i a ha => let ⟨a', h1, e⟩ := s.arr i a ha; ⟨a', h1, fun hn => e (fun x => hn (hA i x))⟩,
   fun i d hd => let ⟨d', h1, e⟩ := s.dict i d hd; ⟨d', h1, fun hn => e (fun x => hn (hD i x))⟩⟩

theorem Step.same {A D : ObjId → Prop} {h h' : Heap} (s : Step A D h h') {i : ObjId} {o : Obj}
    (hg : h.get? i = some o) (hA : ¬ A i) (hD : ¬ D i) : h'.get? i = some o := by
  cases o with
  | arr a => obtain ⟨a', h1, e⟩ := s.arr i a hg; rw [h1, e hA]
  | dict d => obtain ⟨d', h1, e⟩ := s.dict i d hg; rw [h1, e hD]

theorem alloc_get?_old (h : Heap) (o : Obj) {i : ObjId} (hi : i < h.size) :
    (alloc h o).1.get? i = h.get? i := by
  simp only [alloc, Heap.get?]
  exact List.getElem?_append_left hi

theorem alloc_get?_new (h : Heap) (o : Obj) : (alloc h o).1.get? h.size = some o := by
  simp [alloc, Heap.get?, Heap.size]

theorem alloc_size (h : Heap) (o : Obj) : (alloc h o).1.size = h.size + 1 := by
  simp [alloc, Heap.size]

theorem alloc_id (h : Heap) (o : Obj) : (alloc h o).2 = h.size := rfl

theorem alloc_bufs (h : Heap) (o : Obj) : (alloc h o).1.bufs = h.bufs := rfl

theorem alloc_step (h : Heap) (o : Obj) : Step Never Never h (alloc h o).1 := by
  refine ⟨by rw [alloc_size]; omega, ?_, ?_⟩
  · intro i a ha; exact ⟨a, by rw [alloc_get?_old h o (get?_lt ha)]; exact ha, fun _ => rfl⟩
  · intro i d hd; exact ⟨d, by rw [alloc_get?_old h o (get?_lt hd)]; exact hd, fun _ => rfl⟩

theorem write_size (h : Heap) (i : ObjId) (o : Obj) : (write h i o).size = h.size := by
  simp [write, Heap.size]

theorem write_get?_ne (h : Heap) {i j : ObjId} (o : Obj) (hne : i ≠ j) :
    (write h i o).get? j = h.get? j := by
  simp only [write, Heap.get?]
  exact List.getElem?_set_ne hne

theorem write_get?_eq (h : Heap) {i : ObjId} (o : Obj) (hi : i < h.size) :
    (write h i o).get? i = some o := by
  simp only [write, Heap.get?]
  rw [List.getElem?_set_self hi]

theorem write_bufs (h : Heap) (i : ObjId) (o : Obj) : (write h i o).bufs = h.bufs := rfl

theorem updDict_step (h : Heap) (d : DictId) (f : Dict → Dict) :
    Step Never (· = d) h (updDict h d f) := by
  unfold updDict
  split
  · rename_i l hl
    refine ⟨by rw [write_size]; omega, ?_, ?_⟩
    · intro i a ha
      have hne : d ≠ i := by intro e; subst e; rw [hl] at ha; cases ha
      exact ⟨a, by rw [write_get?_ne h _ hne]; exact ha, fun _ => rfl⟩
    · intro i l' hd
      by_cases e : d = i
      · subst e
        exact ⟨f l, write_get?_eq h _ (get?_lt hl), fun hn => absurd rfl hn⟩
      · exact ⟨l', by rw [write_get?_ne h _ e]; exact hd, fun _ => rfl⟩
  · exact Step.refl _ _ _

theorem updDict_bufs (h : Heap) (d : DictId) (f : Dict → Dict) : (updDict h d f).bufs = h.bufs := by
  unfold updDict; split <;> rfl

theorem rebindField_step (h : Heap) (x : ObjId) (f : Field) :
    Step (· = x) Never h (rebindField h x f) := by
  unfold rebindField
  split
  · rename_i a hx
    refine ⟨by rw [write_size]; omega, ?_, ?_⟩
    · intro i a' ha
      by_cases e : x = i
      · subst e
        exact ⟨f.apply a, write_get?_eq h _ (get?_lt hx), fun hn => absurd rfl hn⟩
      · exact ⟨a', by rw [write_get?_ne h _ e]; exact ha, fun _ => rfl⟩
    · intro i l hd
      have hne : x ≠ i := by intro e; subst e; rw [hx] at hd; cases hd
      exact ⟨l, by rw [write_get?_ne h _ hne]; exact hd, fun _ => rfl⟩
  · exact Step.refl _ _ _

theorem rebindField_bufs (h : Heap) (x : ObjId) (f : Field) : (rebindField h x f).bufs = h.bufs := by
  unfold rebindField; split <;> rfl

theorem newBuffer_objs (h : Heap) (t : Nat) (args : List BufId) : (newBuffer h t args).1.objs = h.objs := rfl

theorem newBuffer_step (h : Heap) (t : Nat) (args : List BufId) : Step Never Never h (newBuffer h t args).1 :=
  ⟨Nat.le_refl _, fun _ a ha => ⟨a, ha, fun _ => rfl⟩, fun _ d hd => ⟨d, hd, fun _ => rfl⟩⟩

def Ext (h h' : Heap) : Prop := ∃ l, h'.objs = h.objs ++ l

theorem Ext.refl (h : Heap) : Ext h h := ⟨[], by simp⟩
theorem Ext.trans {h h1 h2 : Heap} (a : Ext h h1) (b : Ext h1 h2) : Ext h h2 := by
  obtain ⟨l1, e1⟩ := a; obtain ⟨l2, e2⟩ := b
  exact ⟨l1 ++ l2, by rw [e2, e1, List.append_assoc]⟩
theorem Ext.size {h h' : Heap} (e : Ext h h') : h.size ≤ h'.size := by
  obtain ⟨l, e⟩ := e; simp [Heap.size, e]
theorem Ext.get? {h h' : Heap} (e : Ext h h') {i : ObjId} (hi : i < h.size) : h'.get? i = h.get? i := by
  obtain ⟨l, e⟩ := e
  simp only [Heap.get?, e]
  exact List.getElem?_append_left hi
theorem Ext.step {h h' : Heap} (e : Ext h h') : Step Never Never h h' :=
  ⟨e.size, fun i a ha => ⟨a, by rw [e.get? (get?_lt ha)]; exact ha, fun _ => rfl⟩,
   fun i d hd => ⟨d, by rw [e.get? (get?_lt hd)]; exact hd, fun _ => rfl⟩⟩

theorem alloc_ext (h : Heap) (o : Obj) : Ext h (alloc h o).1 := ⟨[o], rfl⟩
theorem newBuffer_ext (h : Heap) (t : Nat) (a : List BufId) : Ext h (newBuffer h t a).1 := ⟨[], by simp [newBuffer]⟩

def BufExt (h h' : Heap) : Prop := ∃ X, h'.bufs = h.bufs ++ X

theorem BufExt.refl (h : Heap) : BufExt h h := ⟨[], by simp⟩
theorem BufExt.trans {h h1 h2 : Heap} (a : BufExt h h1) (b : BufExt h1 h2) : BufExt h h2 := by
  obtain ⟨X, e1⟩ := a; obtain ⟨Y, e2⟩ := b
  exact ⟨X ++ Y, by rw [e2, e1, List.append_assoc]⟩
theorem BufExt.of_eq {h h' : Heap} (e : h'.bufs = h.bufs) : BufExt h h' := ⟨[], by simp [e]⟩

/-- what an allocation-only effect does: the object table and the buffer table only grow -/
structure Grows (h h' : Heap) : Prop where
  ext : Ext h h'
  bufs : BufExt h h'

theorem Grows.refl (h : Heap) : Grows h h := ⟨Ext.refl h, BufExt.refl h⟩
theorem Grows.trans {h h1 h2 : Heap} (a : Grows h h1) (b : Grows h1 h2) : Grows h h2 :=
  ⟨a.ext.trans b.ext, a.bufs.trans b.bufs⟩
theorem alloc_grows (h : Heap) (o : Obj) : Grows h (alloc h o).1 := ⟨alloc_ext h o, BufExt.of_eq rfl⟩
theorem newBuffer_grows (h : Heap) (t : Nat) (a : List BufId) : Grows h (newBuffer h t a).1 :=
  ⟨newBuffer_ext h t a, ⟨[(t, a)], rfl⟩⟩

theorem buildEntries_objs (h : Heap) (es : List (Key × BufSrc)) : (buildEntries h es).1.objs = h.objs := by
  induction es generalizing h with
  | nil => rfl
  | cons e r ih =>
    obtain ⟨k, s⟩ := e
    cases s with
    | old b => simp only [buildEntries]; exact ih h
    | kern t a => simp only [buildEntries]; rw [ih]; rfl

theorem buildEntries_bufext (h : Heap) (es : List (Key × BufSrc)) : BufExt h (buildEntries h es).1 := by
  induction es generalizing h with
  | nil => exact BufExt.refl _
  | cons e r ih =>
    obtain ⟨k, s⟩ := e
    cases s with
    | old b => simp only [buildEntries]; exact ih h
    | kern t a => simp only [buildEntries]; exact (newBuffer_grows h t a).bufs.trans (ih _)

theorem buildDict_objs (h : Heap) (es : List (Key × BufSrc)) :
    ∃ d, (buildDict h es).1.objs = h.objs ++ [Obj.dict d] ∧ (buildDict h es).2 = h.size := by
  refine ⟨(buildEntries h es).2.foldl (fun acc e => acc.set e.1 e.2) [], ?_, ?_⟩
  · simp only [buildDict, newDict, alloc, buildEntries_objs]
  · simp only [buildDict, newDict, alloc, buildEntries_objs, Heap.size]

theorem copyDict_objs (h : Heap) (d : DictId) :
    (copyDict h d).1.objs = h.objs ++ [Obj.dict (h.dictOf d)] ∧ (copyDict h d).2 = h.size := ⟨rfl, rfl⟩

theorem newDict_objs (h : Heap) (d : Dict) :
    (newDict h d).1.objs = h.objs ++ [Obj.dict d] ∧ (newDict h d).2 = h.size := ⟨rfl, rfl⟩

theorem allocArray_objs (h : Heap) (a : ArrObj) :
    (allocArray h a).1.objs = h.objs ++ [Obj.arr a] ∧ (allocArray h a).2 = h.size := ⟨rfl, rfl⟩

/-- a value created by an allocation-only effect: it and everything it points to is new -/
structure FreshObj (h h' : Heap) (x : ObjId) : Prop where
  ge : h.size ≤ x
  lt : x < h'.size
  dicts : ∀ d ∈ dictsOf h' x, h.size ≤ d

theorem dictsOf_of_get? {h : Heap} {x : ObjId} {a : ArrObj} (hx : h.get? x = some (.arr a)) :
    dictsOf h x = dictsOfArr a := by simp [dictsOf, Heap.arrOf, hx]

theorem dictsOf_of_dict {h : Heap} {x : ObjId} {d : Dict} (hx : h.get? x = some (.dict d)) :
    dictsOf h x = [] := by simp [dictsOf, Heap.arrOf, hx]

theorem get?_append_len (h : Heap) (l : List Obj) (o : Obj) (r : List Obj) :
    ({ h with objs := l ++ o :: r } : Heap).get? l.length = some o := by
  simp [Heap.get?]

theorem freshObj_dict {h h' : Heap} {x : ObjId} {d : Dict} (hge : h.size ≤ x)
    (hx : h'.get? x = some (.dict d)) : FreshObj h h' x :=
  ⟨hge, get?_lt hx, by rw [dictsOf_of_dict hx]; simp⟩

theorem newDict_spec (h : Heap) (d : Dict) :
    Grows h (newDict h d).1 ∧ FreshObj h (newDict h d).1 (newDict h d).2 :=
  ⟨alloc_grows _ _, freshObj_dict (d := d) (Nat.le_refl _) (alloc_get?_new _ _)⟩

theorem copyDict_spec (h : Heap) (d : DictId) :
    Grows h (copyDict h d).1 ∧ FreshObj h (copyDict h d).1 (copyDict h d).2 := newDict_spec _ _

theorem allocArray_fresh {h0 h : Heap} (a : ArrObj) (he : Grows h0 h) (hb : h0.size ≤ a.blocks)
    (hp : ∀ p, a.phases = some p → h0.size ≤ p) :
    Grows h0 (allocArray h a).1 ∧ FreshObj h0 (allocArray h a).1 (allocArray h a).2 := by
  refine ⟨he.trans (alloc_grows _ _), ?_, ?_, ?_⟩
  · exact he.ext.size
  · show h.size < (alloc h _).1.size
    rw [alloc_size]; omega
  · have : (allocArray h a).1.get? (allocArray h a).2 = some (.arr a) := alloc_get?_new _ _
    rw [dictsOf_of_get? this]
    intro d hd
    simp only [dictsOfArr, List.mem_cons, Option.mem_toList] at hd
    rcases hd with rfl | hd
    · exact hb
    · exact hp d hd

theorem FreshObj.ge_of_ext {h0 h h' : Heap} {x : ObjId} (he : Ext h0 h) (f : FreshObj h h' x) : h0.size ≤ x :=
  Nat.le_trans he.size f.ge

theorem buildDict_spec (h : Heap) (es : List (Key × BufSrc)) :
    Grows h (buildDict h es).1 ∧ FreshObj h (buildDict h es).1 (buildDict h es).2 := by
  obtain ⟨d, e, hid⟩ := buildDict_objs h es
  refine ⟨⟨⟨_, e⟩, (buildEntries_bufext h es).trans (BufExt.of_eq rfl)⟩, ?_⟩
  have hg : (buildDict h es).1.get? (buildDict h es).2 = some (.dict d) := by
    rw [hid]; simp [Heap.get?, e, Heap.size]
  exact freshObj_dict (by rw [hid]; exact Nat.le_refl _) hg

theorem blocksFor_spec (h : Heap) (o : ArrObj) (mb) :
    Grows h (blocksFor h o mb).1 ∧ FreshObj h (blocksFor h o mb).1 (blocksFor h o mb).2 := by
  unfold blocksFor
  cases mb with
  | some es => exact buildDict_spec _ _
  | none => exact copyDict_spec _ _

theorem phasesFor_spec (h : Heap) (o : ArrObj) (mp) :
    Grows h (phasesFor h o mp).1 ∧ ∀ q, (phasesFor h o mp).2 = some q → h.size ≤ q := by
  unfold phasesFor
  cases o.phases with
  | none => exact ⟨Grows.refl _, by simp⟩
  | some p =>
    cases mp with
    | some d => exact ⟨(newDict_spec h d).1, fun q hq => Option.some.inj hq ▸ (newDict_spec h d).2.ge⟩
    | none => exact ⟨(copyDict_spec h p).1, fun q hq => Option.some.inj hq ▸ (copyDict_spec h p).2.ge⟩

theorem copyWithArr_spec (h : Heap) (x : ObjId) (m : Mods) :
    Grows h (copyWithArr h x m).1 ∧ FreshObj h (copyWithArr h x m).1 (copyWithArr h x m).2 := by
  unfold copyWithArr
  split
  · exact newDict_spec _ _
  · rename_i o ho
    have s1 := blocksFor_spec h o m.blocks
    have s2 := phasesFor_spec (blocksFor h o m.blocks).1 o m.phases
    exact allocArray_fresh _ (s1.1.trans s2.1) s1.2.ge
      (fun q hq => Nat.le_trans s1.1.ext.size (s2.2 q hq))

theorem copyArr_eq (h : Heap) (x : ObjId) : copyArr h x = copyWithArr h x {} := by
  unfold copyArr copyWithArr
  cases h.arrOf x <;> rfl

theorem copyArr_spec (h : Heap) (x : ObjId) :
    Grows h (copyArr h x).1 ∧ FreshObj h (copyArr h x).1 (copyArr h x).2 := by
  rw [copyArr_eq]; exact copyWithArr_spec h x {}

theorem constructArr_spec (h : Heap) (i : Nat) (c : Int) (es : List (Key × BufSrc)) (f : Bool) (o : Nat) :
    Grows h (constructArr h i c es f o).1 ∧
      FreshObj h (constructArr h i c es f o).1 (constructArr h i c es f o).2 := by
  unfold constructArr
  have s1 := buildDict_spec h es
  have s2 := copyDict_spec (buildDict h es).1 (buildDict h es).2
  cases f with
  | false =>
    simp only [Bool.false_eq_true, if_false]
    exact allocArray_fresh _ (s1.1.trans s2.1) (s2.2.ge_of_ext s1.1.ext) (by simp)
  | true =>
    simp only [if_true]
    have s3 := newDict_spec (copyDict (buildDict h es).1 (buildDict h es).2).1 []
    exact allocArray_fresh _ ((s1.1.trans s2.1).trans s3.1) (s2.2.ge_of_ext s1.1.ext)
      fun q hq => Option.some.inj hq ▸ s3.2.ge_of_ext (s1.1.trans s2.1).ext

theorem arrOf_eq_some {h : Heap} {x : ObjId} {o : ArrObj} : h.arrOf x = some o ↔ h.get? x = some (.arr o) := by
  unfold Heap.arrOf
  split
  · rename_i a ha; simp [ha]
  · rename_i hn
    constructor
    · intro e; cases e
    · intro e; exact absurd e (hn o)

theorem arrOf_eq_none_of_dict {h : Heap} {x : ObjId} {d : Dict} (hx : h.get? x = some (.dict d)) :
    h.arrOf x = none := by simp [Heap.arrOf, hx]

theorem Step.arrOf_same {A D : ObjId → Prop} {h h' : Heap} (s : Step A D h h') {x : ObjId} {o : ArrObj}
    (hx : h.arrOf x = some o) (hA : ¬ A x) : h'.arrOf x = some o := by
  obtain ⟨a', h1, e⟩ := s.arr x o (arrOf_eq_some.mp hx)
  rw [arrOf_eq_some, h1, e hA]

theorem Step.dictsOf_same {A D : ObjId → Prop} {h h' : Heap} (s : Step A D h h') {x : ObjId}
    (hx : x < h.size) (hA : ¬ A x) : dictsOf h' x = dictsOf h x := by
  have : ∃ o, h.get? x = some o := by
    unfold Heap.get?; unfold Heap.size at hx
    exact ⟨h.objs[x], List.getElem?_eq_getElem hx⟩
  obtain ⟨o, ho⟩ := this
  cases o with
  | arr a =>
    obtain ⟨a', h1, e⟩ := s.arr x a ho
    rw [dictsOf_of_get? h1, dictsOf_of_get? ho, e hA]
  | dict d =>
    obtain ⟨d', h1, _⟩ := s.dict x d ho
    rw [dictsOf_of_dict h1, dictsOf_of_dict ho]

def Field.dictIds : Field → List DictId
  | .blocks d => [d]
  | .phases d => [d]
  | _ => []

theorem dictsOf_rebindField (h : Heap) (x : ObjId) (f : Field) :
    ∀ d ∈ dictsOf (rebindField h x f) x, d ∈ dictsOf h x ∨ d ∈ f.dictIds := by
  unfold rebindField
  split
  · rename_i a hx
    have hg : (write h x (.arr (f.apply a))).get? x = some (.arr (f.apply a)) := write_get?_eq h _ (get?_lt hx)
    rw [dictsOf_of_get? hg, dictsOf_of_get? hx]
    intro d hd
    cases f <;> simp_all [Field.apply, dictsOfArr, Field.dictIds]
    · rcases hd with h1 | h1
      · exact Or.inr h1
      · exact Or.inl (Or.inr h1)
    · rcases hd with h1 | h1
      · exact Or.inl (Or.inl h1)
      · exact Or.inr h1
  · intro d hd; exact Or.inl hd

theorem rebinds_step (h : Heap) (x : ObjId) (fs : List Field) : Step (· = x) Never h (rebinds h x fs) := by
  induction fs generalizing h with
  | nil => exact Step.refl _ _ _
  | cons f r ih =>
    exact (rebindField_step h x f).trans (ih (rebindField h x f)) (fun _ _ e => e) (fun _ _ e => e)

theorem dictsOf_rebinds (h : Heap) (x : ObjId) (fs : List Field) :
    ∀ d ∈ dictsOf (rebinds h x fs) x, d ∈ dictsOf h x ∨ d ∈ fs.flatMap Field.dictIds := by
  induction fs generalizing h with
  | nil => intro d hd; exact Or.inl hd
  | cons f r ih =>
    intro d hd
    rcases ih (rebindField h x f) d hd with h1 | h1
    · rcases dictsOf_rebindField h x f d h1 with h2 | h2
      · exact Or.inl h2
      · exact Or.inr (by simp only [List.flatMap_cons, List.mem_append]; exact Or.inl h2)
    · exact Or.inr (by simp only [List.flatMap_cons, List.mem_append]; exact Or.inr h1)

theorem rebinds_bufs (h : Heap) (x : ObjId) (fs : List Field) : (rebinds h x fs).bufs = h.bufs := by
  induction fs generalizing h with
  | nil => rfl
  | cons f r ih => exact (ih _).trans (rebindField_bufs h x f)

theorem argBlocks_spec (h : Heap) (mb) :
    Grows h (argBlocks h mb).1 ∧ ∀ q, (argBlocks h mb).2 = some q → h.size ≤ q := by
  unfold argBlocks
  cases mb with
  | none => exact ⟨Grows.refl _, by simp⟩
  | some es => exact ⟨(buildDict_spec h es).1, fun q hq => Option.some.inj hq ▸ (buildDict_spec h es).2.ge⟩

theorem argPhases_spec (h : Heap) (o : ArrObj) (mp) :
    Grows h (argPhases h o mp).1 ∧ ∀ q, (argPhases h o mp).2 = some q → h.size ≤ q := by
  unfold argPhases
  split
  · rename_i d _ _
    exact ⟨(newDict_spec h d).1, fun q hq => Option.some.inj hq ▸ (newDict_spec h d).2.ge⟩
  · exact ⟨Grows.refl _, by simp⟩

theorem runModify_spec (m : Mods) (h : Heap) (x : ObjId) (o : ArrObj) (hx : h.arrOf x = some o) :
    Step (· = x) Never h (runModify m h x o) ∧
    ∀ d ∈ dictsOf (runModify m h x o) x, d ∈ dictsOf h x ∨ h.size ≤ d := by
  unfold runModify
  have s1 := argBlocks_spec h m.blocks
  have s2 := argPhases_spec (argBlocks h m.blocks).1 o m.phases
  have e12 := (s1.1.trans s2.1).ext
  constructor
  · exact (e12.step.mono (fun _ f => f.elim) (fun _ f => f.elim)).trans (rebinds_step _ x _)
      (fun _ _ e => e) (fun _ _ e => e)
  · intro d hd
    rcases dictsOf_rebinds _ x _ d hd with h1 | h1
    · left
      rwa [e12.step.dictsOf_same (get?_lt (arrOf_eq_some.mp hx)) (fun f => f)] at h1
    · right
      simp only [List.flatMap_append, List.mem_append, List.mem_flatMap, Option.mem_toList,
        Option.map_eq_some_iff] at h1
      rcases h1 with ((⟨f, ⟨q, hq, rfl⟩, hf⟩ | ⟨f, ⟨q, hq, rfl⟩, hf⟩) | ⟨f, ⟨q, hq, rfl⟩, hf⟩) | ⟨f, ⟨q, hq, rfl⟩, hf⟩
      · simp only [Field.dictIds, List.mem_singleton] at hf
        subst hf; exact Nat.le_trans s1.1.ext.size (s2.2 _ hq)
      · simp [Field.dictIds] at hf
      · simp [Field.dictIds] at hf
      · simp only [Field.dictIds, List.mem_singleton] at hf
        subst hf; exact s1.2 _ hq

theorem updOwn_spec (h : Heap) (x : ObjId) (o : ArrObj) (hx : h.arrOf x = some o) (d : DictId)
    (hd : d ∈ dictsOf h x) (f : Dict → Dict) :
    Step (· = x) (· ∈ dictsOf h x) h (updDict h d f) ∧
    ∀ q ∈ dictsOf (updDict h d f) x, q ∈ dictsOf h x ∨ h.size ≤ q := by
  have st := updDict_step h d f
  refine ⟨st.mono (fun _ e => e.elim) (fun i e => by subst e; exact hd), ?_⟩
  intro q hq
  rw [st.dictsOf_same (get?_lt (arrOf_eq_some.mp hx)) (fun e => e)] at hq
  exact Or.inl hq

theorem blocks_mem_dictsOf {h : Heap} {x : ObjId} {o : ArrObj} (hx : h.arrOf x = some o) :
    o.blocks ∈ dictsOf h x := by simp [dictsOf, hx, dictsOfArr]

theorem phases_mem_dictsOf {h : Heap} {x : ObjId} {o : ArrObj} (hx : h.arrOf x = some o) {p : DictId}
    (hp : o.phases = some p) : p ∈ dictsOf h x := by simp [dictsOf, hx, dictsOfArr, hp]

theorem onPhases_spec (h : Heap) (x : ObjId) (o : ArrObj) (hx : h.arrOf x = some o) (f : Dict → Dict) :
    Step (· = x) (· ∈ dictsOf h x) h (onPhases h o (fun p => updDict h p f)) ∧
    ∀ q ∈ dictsOf (onPhases h o (fun p => updDict h p f)) x, q ∈ dictsOf h x ∨ h.size ≤ q := by
  unfold onPhases
  split
  · rename_i p hp
    exact updOwn_spec h x o hx p (phases_mem_dictsOf hx hp) f
  · exact ⟨Step.refl _ _ _, fun q hq => Or.inl hq⟩

theorem runAct_spec (a : Act) (h : Heap) (x : ObjId) :
    Step (· = x) (· ∈ dictsOf h x) h (runAct a h x) ∧
    ∀ d ∈ dictsOf (runAct a h x) x, d ∈ dictsOf h x ∨ h.size ≤ d := by
  unfold runAct
  split
  · exact ⟨Step.refl _ _ _, fun q hq => Or.inl hq⟩
  · rename_i o hx
    cases a with
    | modify m =>
      obtain ⟨s, d⟩ := runModify_spec m h x o hx
      exact ⟨s.mono (fun _ e => e) (fun _ e => e.elim), d⟩
    | setOddpos v =>
      dsimp only
      refine ⟨(rebindField_step h x _).mono (fun _ e => e) (fun _ e => e.elim), ?_⟩
      intro d hd
      rcases dictsOf_rebindField h x _ d hd with h1 | h1
      · exact Or.inl h1
      · simp [Field.dictIds] at h1
    | bKern k tag args =>
      dsimp only
      have hx' : (newBuffer h tag args).1.arrOf x = some o := by
        simpa [Heap.arrOf, Heap.get?, newBuffer_objs] using hx
      have := updOwn_spec (newBuffer h tag args).1 x o hx' o.blocks (blocks_mem_dictsOf hx')
        (fun l => l.set k ((newBuffer h tag args).2 : Int))
      have hds : dictsOf (newBuffer h tag args).1 x = dictsOf h x := by
        simp [dictsOf, hx, hx']
      rw [hds] at this
      refine ⟨(newBuffer_step h tag args).mono (fun _ e => e.elim) (fun _ e => e.elim) |>.trans this.1
        (fun _ _ e => e) (fun _ _ e => e), this.2⟩
    | bPut _ _ | bPop _ | bUpdate _ => exact updOwn_spec h x o hx o.blocks (blocks_mem_dictsOf hx) _
    | pSet _ _ | pPop _ | pPopItem | pClear => exact onPhases_spec h x o hx _
    | pCopyThen f =>
      dsimp only
      unfold onPhases
      split
      · rename_i p hp
        dsimp only
        have c := copyDict_spec h p
        have u := updDict_step (copyDict h p).1 (copyDict h p).2 f
        have r := rebindField_step (updDict (copyDict h p).1 (copyDict h p).2 f) x (.phases (copyDict h p).2)
        have hlt := get?_lt (arrOf_eq_some.mp hx)
        have s12 : Step Never Never h (updDict (copyDict h p).1 (copyDict h p).2 f) :=
          c.1.ext.step.trans u (fun _ _ e => e) (fun i hi e => by have := c.2.ge; have e' : i = (copyDict h p).2 := e; omega)
        refine ⟨(s12.mono (fun _ e => e.elim) (fun _ e => e.elim)).trans r (fun _ _ e => e) (fun _ _ e => e.elim), ?_⟩
        intro d hd
        rcases dictsOf_rebindField _ x _ d hd with h1 | h1
        · rw [s12.dictsOf_same hlt (fun e => e)] at h1; exact Or.inl h1
        · simp only [Field.dictIds, List.mem_singleton] at h1
          subst h1; exact Or.inr c.2.ge
      · exact ⟨Step.refl _ _ _, fun q hq => Or.inl hq⟩

/-- `i` may be rebound / mutated: it was allocated after `h0`, or it is in the declared write set `W`.
    (`FreshObj h h' x` is the stronger fact about one allocation: `x` and all it points to are new.) -/
def Writable (h0 : Heap) (W : ObjId → Prop) (i : ObjId) : Prop := h0.size ≤ i ∨ W i

/-- a variable the program may mutate through: the object is writable (an array of the write set
    `WA` or a new object) and the dicts it points to are writable (in `WD` or new) -/
structure Own (h0 : Heap) (WA WD : ObjId → Prop) (h : Heap) (i : ObjId) : Prop where
  lt : i < h.size
  self : Writable h0 WA i
  dicts : ∀ d ∈ dictsOf h i, Writable h0 WD d

/-- does the command respect ownership (`o[j]` = variable `j` is owned)? -/
def Cmd.ok (o : List Bool) : Cmd → Bool
  | .act t _ => o.getD t false
  | .dmut t _ => o.getD t false
  | .shareBlocks _ _ => false
  | .sharePhases _ _ => false
  | _ => true

/-- ownership flags after the command -/
def Cmd.push (o : List Bool) : Cmd → List Bool
  | .copy _ => o ++ [true]
  | .copyWith _ _ => o ++ [true]
  | .construct _ _ _ _ _ => o ++ [true]
  | .dictCopy _ => o ++ [true]
  | .alias s => o ++ [o.getD s false]
  | .dictRef _ => o ++ [false]
  | _ => o

/-- the program mutates only through owned variables; `Q` holds of the final ownership flags -/
def Safe (Q : List Bool → Prop) : List Bool → Prog → Prop
  | o, .done => Q o
  | o, .cmd c k => c.ok o = true ∧ Safe Q (c.push o) k
  | o, .read f => ∀ v, Safe Q o (f v)

/-- the invariant of a running call: footprint so far, and which variables are owned -/
structure Inv (h0 : Heap) (WA WD : ObjId → Prop) (h : Heap) (env : Env) (o : List Bool) : Prop where
  /-- the dict write set contains `WA`: a `dmut` goes through an owned variable, and when that variable
      holds a dict, `Own.self` says of the dict only that it is new or in `WA` -/
  step : Step WA (fun i => WA i ∨ WD i) h0 h
  len : o.length = env.length
  own : ∀ j, o.getD j false = true → Own h0 WA WD h (envGet env j)

theorem envGet_append_left {env : Env} {j : Nat} (e2 : Env) (hj : j < env.length) :
    envGet (env ++ e2) j = envGet env j := by
  simp [envGet, List.getD, List.getElem?_append_left hj]

theorem envGet_append_len (env : Env) (x : ObjId) : envGet (env ++ [x]) env.length = x := by
  simp [envGet, List.getD]

theorem getD_append_left {o l : List Bool} {j : Nat} (hj : j < o.length) :
    (o ++ l).getD j false = o.getD j false := by
  simp [List.getD, List.getElem?_append_left hj]

theorem getD_append_right {o l : List Bool} {n : Nat} (hn : o.length = n) (i : Nat) :
    (o ++ l).getD (n + i) false = l.getD i false := by
  subst hn
  simp [List.getD, List.getElem?_append_right]

theorem getD_append_len (o : List Bool) (b : Bool) : (o ++ [b]).getD o.length false = b :=
  getD_append_right (l := [b]) rfl 0

theorem getD_true_lt {o : List Bool} {j : Nat} (h : o.getD j false = true) : j < o.length := by
  by_cases hj : j < o.length
  · exact hj
  · simp [List.getD, List.getElem?_eq_none (Nat.le_of_not_lt hj)] at h

theorem Own.ext {h0 : Heap} {WA WD : ObjId → Prop} {h h' : Heap} {i : ObjId} (w : Own h0 WA WD h i)
    {A D : ObjId → Prop} (s : Step A D h h') (hA : ¬ A i) : Own h0 WA WD h' i :=
  ⟨Nat.lt_of_lt_of_le w.lt s.size, w.self, by rw [s.dictsOf_same w.lt hA]; exact w.dicts⟩

theorem Inv.push {h0 : Heap} {WA WD : ObjId → Prop} {h h' : Heap} {env : Env} {o : List Bool}
    (I : Inv h0 WA WD h env o) (e : Step Never Never h h') (x : ObjId) (b : Bool)
    (hb : b = true → Own h0 WA WD h' x) : Inv h0 WA WD h' (env ++ [x]) (o ++ [b]) := by
  refine ⟨I.step.trans e (fun _ _ e => e.elim) (fun _ _ e => e.elim), by simp [I.len], ?_⟩
  intro j hj
  by_cases hlt : j < o.length
  · rw [getD_append_left hlt] at hj
    rw [envGet_append_left _ (I.len ▸ hlt)]
    exact (I.own j hj).ext e (fun e => e)
  · have hj' := getD_true_lt hj
    have : j = env.length := by simp at hj'; rw [← I.len]; omega
    subst this
    rw [envGet_append_len]
    rw [← I.len, getD_append_len] at hj
    exact hb hj

theorem Inv.push_fresh {h0 : Heap} {WA WD : ObjId → Prop} {h h' : Heap} {env : Env} {o : List Bool}
    (I : Inv h0 WA WD h env o) (e : Ext h h') {x : ObjId} (f : FreshObj h h' x) :
    Inv h0 WA WD h' (env ++ [x]) (o ++ [true]) :=
  I.push e.step x true fun _ => ⟨f.lt, Or.inl (Nat.le_trans I.step.size f.ge),
    fun d hd => Or.inl (Nat.le_trans I.step.size (f.dicts d hd))⟩

theorem Inv.push_alias {h0 : Heap} {WA WD : ObjId → Prop} {h : Heap} {env : Env} {o : List Bool}
    (I : Inv h0 WA WD h env o) (x : ObjId) (b : Bool) (hb : b = true → Own h0 WA WD h x) :
    Inv h0 WA WD h (env ++ [x]) (o ++ [b]) :=
  I.push (Step.refl _ _ h) x b hb

theorem updDict_arr_noop {h : Heap} {i : ObjId} {a : ArrObj} (hi : h.get? i = some (.arr a))
    (f : Dict → Dict) : updDict h i f = h := by
  unfold updDict; rw [hi]

theorem runCmd_inv {h0 : Heap} {WA WD : ObjId → Prop} (c : Cmd) {h : Heap} {env : Env} {o : List Bool}
    (hok : c.ok o = true) (I : Inv h0 WA WD h env o) :
    Inv h0 WA WD (runCmd c h env).1 (runCmd c h env).2 (c.push o) := by
  cases c with
  | copy s => exact I.push_fresh (copyArr_spec h _).1.ext (copyArr_spec h _).2
  | copyWith s m => exact I.push_fresh (copyWithArr_spec h _ m).1.ext (copyWithArr_spec h _ m).2
  | construct i c es f od => exact I.push_fresh (constructArr_spec h i c es f od).1.ext (constructArr_spec h i c es f od).2
  | alias s =>
    exact I.push_alias _ _ (fun hb => I.own s hb)
  | dictCopy s =>
    simp only [runCmd]
    split
    · exact I.push_fresh (copyDict_spec h _).1.ext (copyDict_spec h _).2
    · exact I.push_fresh (newDict_spec h _).1.ext (newDict_spec h _).2
  | dictRef s =>
    simp only [runCmd]
    split
    · exact I.push_alias _ false (fun hb => by cases hb)
    · exact I.push_alias _ false (fun hb => by cases hb)
  | act t a =>
    simp only [Cmd.ok] at hok
    have wt := I.own t hok
    obtain ⟨st, ds⟩ := runAct_spec a h (envGet env t)
    refine ⟨I.step.trans st ?_ ?_, I.len, ?_⟩
    · intro i hi e
      have e' : i = envGet env t := e
      rcases wt.self with h1 | h1
      · omega
      · rw [e']; exact h1
    · intro i hi e
      rcases wt.dicts i e with h1 | h1
      · omega
      · exact Or.inr h1
    · intro j hj
      show Own h0 WA WD (runAct a h (envGet env t)) (envGet env j)
      by_cases e : envGet env j = envGet env t
      · rw [e]
        refine ⟨Nat.lt_of_lt_of_le wt.lt st.size, wt.self, ?_⟩
        intro d hd
        rcases ds d hd with h1 | h1
        · exact wt.dicts d h1
        · exact Or.inl (Nat.le_trans I.step.size h1)
      · exact (I.own j hj).ext st e
  | dmut t f =>
    simp only [Cmd.ok] at hok
    have wt := I.own t hok
    have st := updDict_step h (envGet env t) f
    refine ⟨I.step.trans st (fun _ _ e => e.elim) ?_, I.len, ?_⟩
    · intro i hi e
      have e' : i = envGet env t := e
      rcases wt.self with h1 | h1
      · omega
      · rw [e']; exact Or.inl h1
    · intro j hj
      show Own h0 WA WD (updDict h (envGet env t) f) (envGet env j)
      exact (I.own j hj).ext st (fun e => e)
  | shareBlocks _ _ | sharePhases _ _ => simp [Cmd.ok] at hok

theorem Inv.act {h0 : Heap} {WA WD : ObjId → Prop} {h : Heap} {env : Env} {o : List Bool}
    (I : Inv h0 WA WD h env o) {t : Nat} (ht : o.getD t false = true) (a : Act) :
    Inv h0 WA WD (runAct a h (envGet env t)) env o :=
  runCmd_inv (.act t a) ht I

theorem Inv.dmut {h0 : Heap} {WA WD : ObjId → Prop} {h : Heap} {env : Env} {o : List Bool}
    (I : Inv h0 WA WD h env o) {t : Nat} (ht : o.getD t false = true) (f : Dict → Dict) :
    Inv h0 WA WD (updDict h (envGet env t) f) env o :=
  runCmd_inv (.dmut t f) ht I

theorem Inv.step_never {h0 h : Heap} {env : Env} {o : List Bool} (I : Inv h0 Never Never h env o) :
    Step Never Never h0 h := I.step.mono (fun _ e => e) (fun _ e => e.elim id id)

theorem Inv.start_inplace {h : Heap} {x : ObjId} (hx : x < h.size) (env : Env) (o : List Bool)
    (hlen : o.length = env.length) (ho : ∀ j, o.getD j false = true → envGet env j = x) :
    Inv h (· = x) (· ∈ dictsOf h x) h env o :=
  ⟨Step.refl _ _ _, hlen, fun j hj => by
    rw [ho j hj]; exact ⟨hx, Or.inr rfl, fun d hd => Or.inr hd⟩⟩

theorem Inv.start_out (h : Heap) (env : Env) :
    Inv h Never Never h env (List.replicate env.length false) :=
  ⟨Step.refl _ _ _, by simp, fun j hj => by
    have := getD_true_lt hj
    simp only [List.length_replicate] at this
    simp [List.getD, this] at hj⟩

theorem runCmd_env (c : Cmd) (h : Heap) (env : Env) : ∃ e2, (runCmd c h env).2 = env ++ e2 := by
  cases c with
  | copy _ | copyWith _ _ | construct _ _ _ _ _ | alias _ => exact ⟨_, rfl⟩
  | dictCopy _ | dictRef _ => simp only [runCmd]; split <;> exact ⟨_, rfl⟩
  | act _ _ | dmut _ _ => exact ⟨[], by simp [runCmd]⟩
  | shareBlocks t s => simp only [runCmd]; split <;> exact ⟨[], by simp⟩
  | sharePhases t s =>
    simp only [runCmd]
    split
    · split <;> exact ⟨[], by simp⟩
    · exact ⟨[], by simp⟩

theorem Cmd.push_ext (c : Cmd) (o : List Bool) : ∃ ext, c.push o = o ++ ext := by
  cases c with
  | copy _ | copyWith _ _ | construct _ _ _ _ _ | alias _ | dictCopy _ | dictRef _ => exact ⟨_, rfl⟩
  | act _ _ | dmut _ _ | shareBlocks _ _ | sharePhases _ _ => exact ⟨[], by simp [Cmd.push]⟩

/-- **soundness of the discipline**: a program that mutates only through owned variables rebinds, of
    the objects that existed in `h0`, at most the arrays in `WA` and mutates at most the dicts in
    `WA ∪ WD` (the dict write set of `Inv.step`); variables are only appended -/
theorem safe_inv {h0 : Heap} {WA WD : ObjId → Prop} {Q : List Bool → Prop} (p : Prog) :
    ∀ {h : Heap} {env : Env} {o : List Bool}, Safe Q o p → Inv h0 WA WD h env o →
      ∃ ext e2, Q (o ++ ext) ∧ (p.run h env).2 = env ++ e2 ∧
        Inv h0 WA WD (p.run h env).1 (p.run h env).2 (o ++ ext) := by
  induction p with
  | done => intro h env o hs I; exact ⟨[], [], by simpa [Safe] using hs, by simp [Prog.run], by simpa [Prog.run] using I⟩
  | cmd c k ih =>
    intro h env o hs I
    obtain ⟨hok, hk⟩ := hs
    have I1 := runCmd_inv c hok I
    obtain ⟨x1, hx1⟩ := c.push_ext o
    obtain ⟨y1, hy1⟩ := runCmd_env c h env
    obtain ⟨ext, e2, hq, he, hI⟩ := ih hk I1
    refine ⟨x1 ++ ext, y1 ++ e2, ?_, ?_, ?_⟩
    · rw [← List.append_assoc, ← hx1]; exact hq
    · simp only [Prog.run]; rw [he, hy1, List.append_assoc]
    · simp only [Prog.run]; rw [← List.append_assoc, ← hx1]; exact hI
  | read f ih =>
    intro h env o hs I
    exact ih _ (hs _) I

theorem safe_actsK {Q : List Bool → Prop} {o : List Bool} {t : Nat} (ht : o.getD t false = true)
    (as : List Act) (k : Prog) : Safe Q o (Prog.actsK t as k) ↔ Safe Q o k := by
  induction as with
  | nil => exact Iff.rfl
  | cons a r ih =>
    simp only [Prog.actsK, Safe, Cmd.ok, Cmd.push, ht, true_and]
    exact ih

theorem safe_mutsK {Q : List Bool → Prop} {o : List Bool} (l : List Mut)
    (hl : ∀ m ∈ l, o.getD m.tgt false = true) (k : Prog) : Safe Q o (Prog.mutsK l k) ↔ Safe Q o k := by
  induction l with
  | nil => exact Iff.rfl
  | cons m r ih =>
    have hm := hl m (List.mem_cons_self ..)
    have hr := ih (fun m' h' => hl m' (List.mem_cons_of_mem _ h'))
    cases m with
    | act _ _ | dmut _ _ =>
      simp only [Prog.mutsK, Mut.cmd, Safe, Cmd.ok, Cmd.push]
      simp only [Mut.tgt] at hm
      simp only [hm, true_and]; exact hr

theorem safe_script {Q : List Bool → Prop} {o : List Bool} {t : Nat} (ht : o.getD t false = true)
    (others : List Nat) (s : Script) (k : Prog) : Safe Q o (s.prog t others k) ↔ Safe Q o k := by
  induction s with
  | nil => exact Iff.rfl
  | acts as s ih => simp only [Script.prog]; rw [safe_actsK ht]; exact ih
  | read f ih =>
    simp only [Script.prog, Safe]
    constructor
    · intro hv; exact (ih _ _).mp (hv [])
    · intro hk v; exact (ih _ _).mpr hk

theorem Safe.script {Q : List Bool → Prop} {o : List Bool} {t : Nat} (ht : o.getD t false = true)
    {others : List Nat} {s : Script} {k : Prog} (hk : Safe Q o k) : Safe Q o (s.prog t others k) :=
  (safe_script ht others s k).mpr hk

theorem Safe.actsK {Q : List Bool → Prop} {o : List Bool} {t : Nat} (ht : o.getD t false = true)
    {as : List Act} {k : Prog} (hk : Safe Q o k) : Safe Q o (Prog.actsK t as k) :=
  (safe_actsK ht as k).mpr hk

/-- `new = self if inplace else self.copy()`, then effects on `new` only: in place the operand must be
    owned; out of place the copy is -/
theorem safe_viaCopy {Q : List Bool → Prop} {o : List Bool} {n : Nat} (hn : o.length = n) (others : List Nat)
    (s : Script) (ip : Bool) (h0 : ip = true → o.getD 0 false = true)
    (hQ : Q (if ip then o else o ++ [true])) : Safe Q o (viaCopy n others s ip) := by
  cases ip with
  | true => rw [viaCopy, if_pos rfl, safe_script (h0 rfl)]; exact hQ
  | false =>
    have hc : (o ++ [true]).getD n false = true := by rw [← hn]; exact getD_append_len o true
    simp only [viaCopy, Bool.false_eq_true, if_false, Safe, Cmd.ok, Cmd.push, true_and]
    rw [safe_script hc]; exact hQ

/-- the same for `self.modify(**m) if inplace else self.copy_with(**m)` -/
theorem safe_viaCopyWith {Q : List Bool → Prop} {o : List Bool} {n : Nat} (hn : o.length = n)
    (others : List Nat) (m : Content → View → Mods) (post : Script) (ip : Bool)
    (h0 : ip = true → o.getD 0 false = true) (hQ : Q (if ip then o else o ++ [true])) :
    Safe Q o (viaCopyWith n others m post ip) := by
  intro v
  dsimp only
  cases ip with
  | true =>
    simp only [if_true, Safe, Cmd.ok, Cmd.push, h0 rfl, true_and]
    rw [safe_script (h0 rfl)]; exact hQ
  | false =>
    have hc : (o ++ [true]).getD n false = true := by rw [← hn]; exact getD_append_len o true
    simp only [Bool.false_eq_true, if_false, Safe, Cmd.ok, Cmd.push, true_and]
    rw [safe_script hc]; exact hQ

theorem safe_alignK_false {Q : List Bool → Prop} {o : List Bool} (ia ib : Nat) (p : AlignP) (k : Prog) :
    Safe Q o (alignK ia ib p false k) ↔ Safe Q (o ++ [true] ++ [true]) k := by
  simp only [alignK, Safe, Cmd.ok, Cmd.push, Bool.false_eq_true, if_false, true_and]
  exact ⟨fun h => h [], fun h _ => h⟩

theorem safe_alignK_true {Q : List Bool → Prop} {o : List Bool} {ia ib : Nat}
    (ha : o.getD ia false = true) (hb : o.getD ib false = true) (p : AlignP) (k : Prog) :
    Safe Q o (alignK ia ib p true k) ↔ Safe Q o k := by
  simp only [alignK, Safe, Cmd.ok, Cmd.push, if_true, ha, hb, true_and]
  exact ⟨fun h => h [], fun h _ => h⟩

theorem safe_tdotBlockwiseK {Q : List Bool → Prop} {o : List Bool} (ia ib : Nat) (p : TdotP) (k : Prog) :
    Safe Q o (tdotBlockwiseK ia ib p k) ↔ Safe Q (o ++ [true]) k := by
  simp only [tdotBlockwiseK, Safe, Cmd.ok, Cmd.push, true_and]
  exact ⟨fun h => h [], fun h _ => h⟩

theorem safe_fuseOutK {Q : List Bool → Prop} {o : List Bool} (src : Nat) (f : Option FuseP) (k : Prog) :
    Safe Q o (fuseOutK src f k) ↔ Safe Q (o ++ [true]) k := by
  cases f with
  | none => simp only [fuseOutK, Safe, Cmd.ok, Cmd.push, true_and]
  | some c =>
    simp only [fuseOutK, Safe, Cmd.ok, Cmd.push, true_and]
    exact ⟨fun h => h [], fun h _ => h⟩

theorem safe_tdotFusedK {Q : List Bool → Prop} {o : List Bool} {base : Nat} (hb : o.length = base)
    (ia ib : Nat) (p : FusedP) (k : Prog) (hk : Safe Q (o ++ [true, true, true, true, true]) k) :
    Safe Q o (tdotFusedK ia ib base p k) := by
  unfold tdotFusedK
  rw [safe_alignK_false]
  intro v
  dsimp only
  by_cases hc : ((v.at base).blocks.isEmpty || (v.at (base + 1)).blocks.isEmpty) = true
  · rw [if_pos hc]
    simp only [Safe, Cmd.ok, Cmd.push, true_and]
    have h2 : (o ++ [true] ++ [true] ++ [true]).getD (base + 2) false = true := by
      rw [List.append_assoc, List.append_assoc, getD_append_right hb]; rfl
    have h3 : (o ++ [true] ++ [true] ++ [true] ++ [true]).getD (base + 2) false = true := by
      rw [List.append_assoc, List.append_assoc, List.append_assoc, getD_append_right hb]; rfl
    rw [h2, h3]
    simpa using hk
  · rw [if_neg hc]
    rw [safe_fuseOutK, safe_fuseOutK, safe_tdotBlockwiseK]
    have h4 : (o ++ [true] ++ [true] ++ [true] ++ [true] ++ [true]).getD (base + 4) false = true := by
      simp only [List.append_assoc]
      rw [getD_append_right hb]; rfl
    rw [safe_script h4, safe_script h4]
    simpa using hk

theorem safe_syncedK {Q : List Bool → Prop} {o : List Bool} {n : Nat} (hn : o.length = n)
    (src : Nat) (fermi : Bool) (k : Prog)
    (h1 : Safe Q (o ++ [true]) k) (h2 : Safe Q (o ++ [o.getD src false]) k) :
    Safe Q o (syncedK src n fermi k) := by
  unfold syncedK
  intro v
  dsimp only
  by_cases hc : (fermi && !List.isEmpty ((v.at src).phases.getD [])) = true
  · rw [if_pos hc]
    simp only [Safe, Cmd.ok, Cmd.push, true_and]
    have : (o ++ [true]).getD n false = true := by rw [← hn]; exact getD_append_len o true
    rw [safe_script this]; exact h1
  · rw [if_neg hc]
    simp only [Safe, Cmd.ok, Cmd.push, true_and]; exact h2

/-! ### the loop of `_binary_blockwise_op`

    `for sector, x in xy.blocks.items(): if sector in other_blocks: <both> else: <miss>` (`missing=None`:
    the loop stops at the first left block without partner).  The loop is written once for any kind of
    effect; the model's effects (`binMuts`), the effects of the denotation and the effects on dicts of
    values are instances. -/

def binLoop {α β : Type} (has : Key → Bool) (both : Key × β → List α) (miss : Missing → Key × β → List α)
    (m : Missing) (xb : List (Key × β)) : List α :=
  match m with
  | .strict => (xb.takeWhile fun e => has e.1).flatMap both
  | m => xb.flatMap fun e => if has e.1 then both e else miss m e

section binLoop
variable {α α' β : Type} {has : Key → Bool} {both : Key × β → List α} {miss : Missing → Key × β → List α}

theorem mem_binLoop {m : Missing} {xb : List (Key × β)} {a : α} (h : a ∈ binLoop has both miss m xb) :
    ∃ e ∈ xb, (has e.1 = true ∧ a ∈ both e) ∨ (has e.1 = false ∧ a ∈ miss m e) := by
  cases m <;> simp only [binLoop, List.mem_flatMap] at h <;> obtain ⟨e, he, ha⟩ := h
  · exact ⟨e, List.takeWhile_subset _ he, Or.inl ⟨List.all_eq_true.mp List.all_takeWhile e he, ha⟩⟩
  all_goals
    refine ⟨e, he, ?_⟩
    by_cases hh : has e.1 = true
    · rw [if_pos hh] at ha; exact Or.inl ⟨hh, ha⟩
    · rw [if_neg hh] at ha; exact Or.inr ⟨by simpa using hh, ha⟩

theorem map_binLoop (f : α → α') (m : Missing) (xb : List (Key × β)) :
    (binLoop has both miss m xb).map f =
      binLoop has (fun e => (both e).map f) (fun m e => (miss m e).map f) m xb := by
  cases m <;> simp only [binLoop, List.map_flatMap]
  all_goals
    congr 1; funext e; split <;> rfl

end binLoop

/-- the loop as effects of the model (`xb` = the left blocks, `ob` = the copy of the right block dict, both
    as they are when the loop starts) -/
def binMuts (t tmp : Nat) (missing : Missing) (xb ob : Dict) : List Mut :=
  binLoop ob.has
    (fun e => [.dmut tmp (fun d => d.pop e.1), .act t (.bKern e.1 tFn [e.2.toNat, (ob.getD e.1 0).toNat])])
    (fun m e => match m with
      | .outer => [.act t (.bPut e.1 e.2.toNat)]
      | .inner => [.act t (.bPop e.1)]
      | .strict => [])
    missing xb

/-- what follows the loop: `xy_blocks.update(other_blocks)` for `missing="outer"` -/
def binTail (t tmp : Nat) (missing : Missing) (k : Prog) : Prog :=
  match missing with
  | .outer => .read fun v => .cmd (.act t (.bUpdate (v.dictAt tmp))) k
  | _ => k

theorem binaryK_eq (t o tmp : Nat) (missing : Missing) (k : Prog) :
    binaryK t o tmp missing k =
      .cmd (.dictCopy o) (.read fun v =>
        Prog.mutsK (binMuts t tmp missing (v.at t).blocks (v.dictAt tmp)) (binTail t tmp missing k)) := by
  unfold binaryK
  cases missing <;> rfl

theorem binMuts_tgt (t tmp : Nat) (missing : Missing) (xb ob : Dict) :
    ∀ m ∈ binMuts t tmp missing xb ob, (∃ a, m = .act t a) ∨ (∃ f, m = .dmut tmp f) := by
  intro m hm
  obtain ⟨e, _, ⟨_, h⟩ | ⟨_, h⟩⟩ := mem_binLoop hm
  · simp only [List.mem_cons, List.not_mem_nil, or_false] at h
    rcases h with rfl | rfl
    · exact Or.inr ⟨_, rfl⟩
    · exact Or.inl ⟨_, rfl⟩
  · cases missing <;> simp only [List.mem_cons, List.not_mem_nil, or_false] at h
    all_goals subst h; exact Or.inl ⟨_, rfl⟩

theorem safe_binaryK {Q : List Bool → Prop} {o : List Bool} {t tmp : Nat} (ht : o.getD t false = true)
    (hn : o.length = tmp) (src : Nat) (missing : Missing) (k : Prog) (hk : Safe Q (o ++ [true]) k) :
    Safe Q o (binaryK t src tmp missing k) := by
  have htmp : (o ++ [true]).getD tmp false = true := by rw [← hn]; exact getD_append_len o true
  have ht' : (o ++ [true]).getD t false = true := by
    rw [getD_append_left (getD_true_lt ht)]; exact ht
  rw [binaryK_eq]
  simp only [Safe, Cmd.ok, Cmd.push, true_and]
  intro v
  -- every effect of the loop is on the temporary dict or on the target
  rw [safe_mutsK _ fun m hm => by
    rcases binMuts_tgt _ _ _ _ _ m hm with ⟨a, rfl⟩ | ⟨f, rfl⟩
    · exact ht'
    · exact htmp]
  cases missing with
  | outer => intro v'; simp only [Safe, Cmd.ok, Cmd.push, ht', true_and]; exact hk
  | strict | inner => exact hk

theorem safe_svdK {Q : List Bool → Prop} (p : FactorP) (k : Prog) (hk : Safe Q [false, true, true, true] k) :
    Safe Q [false] (svdK p k) := by
  unfold svdK
  intro v
  simp only [Safe, Cmd.ok, Cmd.push, true_and, List.cons_append, List.nil_append]
  rw [safe_script (by rfl)]; exact hk

end SymmModel.Heap
