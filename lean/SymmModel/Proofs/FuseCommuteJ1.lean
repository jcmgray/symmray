/-
  SymmModel.Proofs.FuseCommuteJ1 — fermionic: fusing the leading free legs of the RIGHT operand (via
  the operand swap S5).
  `C06.tensordot_fuse_free_commute_fermionic_right`: the one-sided theorem `TdotP.lead_commute_fermi`
  applied to the swapped call `tensordotF(b, a)` and carried back to `tensordotF(a, fuseF(b))` by S5
  (`tdotF_swap_w`).  Helpers in `SymmModel.TdotP`, the theorem in `SymmModel.C06`.
-/
import SymmModel.Proofs.TdotFuseC7
import SymmModel.Proofs.Assoc4Swap

namespace SymmModel.TdotP
open SymmModel SymmModel.GradedP SymmModel.Lazy SymmModel.AssocP SymmModel.RoutesP
open SymmModel.Assoc3P SymmModel.Assoc4P

variable {R : Type}

theorem admB_of_admW [Zero R] {a b : Arr R} {xa xb : List Nat} (h : AdmW a b xa xb) :
    tdotAdmissibleCommonB a b xa xb = true := by
  unfold tdotAdmissibleCommonB
  simp only [Bool.and_eq_true, decide_eq_true_eq, allDistinct_iff_nodup, List.all_eq_true]
  exact ⟨⟨⟨⟨⟨h.sym, h.con⟩, h.nA⟩, h.nB⟩, h.ltA⟩, h.ltB⟩

end SymmModel.TdotP

namespace SymmModel.C06
open SymmModel SymmModel.TdotP SymmModel.GradedP SymmModel.RoutesP SymmModel.AssocP
open SymmModel.Assoc3P SymmModel.Assoc4P
open SymmModel.Lazy (sgnI)

variable {R : Type}

/-- **fermionic, RIGHT operand**: fusing the leading free legs `0 … k-1` of the right operand `b`
    before the contraction.  With `c' = tensordotF(b, a)` the result of the call with the operands
    exchanged (S5: `c'` is the fermionic transpose of `c = tensordotF(a, b)` that moves `b`'s free
    legs in front), the element of `tensordotF(a, fuseF(b, [0 … k-1]))` at `(L ++ c0 :: restR)` is the
    Koszul sign of exchanging the two free parts times the element of `fuseF(c', [0 … k-1])` at
    `(c2 :: restR ++ L)` — `c0`, `c2` decoding, each through its own fused table, to the same
    `(S, O)`. -/
theorem tensordot_fuse_free_commute_fermionic_right [AddCommMonoid R] [Mul R] [Neg R] [SignRing R]
    (hz1 : ∀ x : R, 0 * x = 0) (hz2 : ∀ x : R, x * 0 = 0) (hmul : ∀ x y : R, x * y = y * x)
    (a b c : Arr R) (xa xb : List Nat) (k : Nat) (e : Bool)
    (ha : a.validB = true) (hb : b.validB = true) (hfa : a.fermi = true) (hfb : b.fermi = true)
    (hadm : tdotAdmissibleCommonB a b xa xb = true)
    (hd : (a.oddpos ++ b.oddpos).Pairwise (fun x y => x.1 ≠ y.1))
    (hk1 : 1 ≤ k) (hk : k ≤ b.ndim) (hxb : ∀ x ∈ xb, k ≤ x)
    (hc : a.tensordotF b (.pair (xa.map Int.ofNat) (xb.map Int.ofNat)) .blockwise = .ok c) :
    b.fuseF [List.range k] .insert e
        = .ok (FuseP.fusedArrM (FuseP.signAdj b [List.range k]) [List.range k])
    ∧ ∃ c', b.tensordotF a (.pair (xb.map Int.ofNat) (xa.map Int.ofNat)) .blockwise = .ok c'
      ∧ c'.oddpos = c.oddpos ∧ c'.charge = c.charge ∧ c'.sym = c.sym ∧ c'.fermi = c.fermi
      ∧ (∀ (L Rr : Sector) (oL oR : List Nat), L.length = (freeAxes a.ndim xa).length →
          Rr.length = (freeAxes b.ndim xb).length → oL.length = (freeAxes a.ndim xa).length →
          oR.length = (freeAxes b.ndim xb).length →
          inBox (Arr.blockShapeD (without a.indices xa ++ without b.indices xb) (L ++ Rr))
            (oL ++ oR) = true →
          c'.elem (Rr ++ L) (oR ++ oL)
            = sgnI (koszul ((L ++ Rr).map a.sym.parity)
                (some ((List.range Rr.length).map (L.length + ·) ++ List.range L.length)))
                (c.elem (L ++ Rr) (oL ++ oR)))
      ∧ c'.fuseF [List.range k] .insert e
          = .ok (FuseP.fusedArrM (FuseP.signAdj c' [List.range k]) [List.range k])
      ∧ k ≤ c'.ndim
      ∧ ∃ cP, a.tensordotF (FuseP.fusedArrM (FuseP.signAdj b [List.range k]) [List.range k])
            (.pair (xa.map Int.ofNat) ((xb.map (sh k)).map Int.ofNat)) .blockwise = .ok cP
        ∧ ∀ (c0 c2 : Charge) (i0 d0 i2 d2 : Nat) (S restR L : Sector) (O orestR oL shp : List Nat),
          decAx (FuseP.signAdj b [List.range k]) [List.range k] 0 c0 i0 = some (S, O) →
          (FuseP.ixM (FuseP.signAdj b [List.range k]) [List.range k] 0).sizeOf? c0 = some d0 → i0 < d0 →
          decAx (FuseP.signAdj c' [List.range k]) [List.range k] 0 c2 i2 = some (S, O) →
          (FuseP.ixM (FuseP.signAdj c' [List.range k]) [List.range k] 0).sizeOf? c2 = some d2 → i2 < d2 →
          Arr.blockShape? (c'.indices.drop k) (restR ++ L) = some shp → inBox shp (orestR ++ oL) = true →
          L.length = (freeAxes a.ndim xa).length → oL.length = (freeAxes a.ndim xa).length →
          restR.length + 1 = (freeAxes (1 + (b.ndim - k)) (xb.map (sh k))).length →
          orestR.length = restR.length →
          inBox (Arr.blockShapeD
              (without (FuseP.fusedArrM (FuseP.signAdj b [List.range k]) [List.range k]).indices
                  (xb.map (sh k)) ++ without a.indices xa) ((c0 :: restR) ++ L))
            ((i0 :: orestR) ++ oL) = true →
          cP.elem (L ++ c0 :: restR) (oL ++ i0 :: orestR)
            = sgnI (koszul (((c0 :: restR) ++ L).map a.sym.parity)
                (some ((List.range L.length).map ((restR.length + 1) + ·)
                  ++ List.range (restR.length + 1))))
                ((FuseP.fusedArrM (FuseP.signAdj c' [List.range k]) [List.range k]).elem
                  (c2 :: (restR ++ L)) (i2 :: (orestR ++ oL))) := by
  have W := AdmW.of ha hb hfa hfb hadm
  have W' := admW_swap W
  have hd' : (b.oddpos ++ a.oddpos).Pairwise (fun x y => x.1 ≠ y.1) :=
    (List.pairwise_append_comm (fun h => Ne.symm h)).mp hd
  obtain ⟨c', hc', s1, s2, s3, s4, sel⟩ := tdotF_swap_w a b c xa xb hmul W hd hc
  obtain ⟨hfuseB, hfuseC, hkc, cP', hcP', hel⟩ :=
    lead_commute_fermi hz1 hz2 b a c' xb xa k e hb ha hfb hfa (admB_of_admW W') hk1 hk hxb hc'
  obtain ⟨fO, fS, fF, fC, nP, iP⟩ := fuse_lead_fields b hb hfb hk1 hk
  have WF := admW_fuse_lead W' k e hk1 hk hxb
  have hdF : ((FuseP.fusedArrM (FuseP.signAdj b [List.range k]) [List.range k]).oddpos
      ++ a.oddpos).Pairwise (fun x y => x.1 ≠ y.1) := by rw [fO]; exact hd'
  obtain ⟨cP, hcP, _, _, _, _, tel⟩ := tdotF_swap_w _ a cP' _ xa hmul WF hdF hcP'
  refine ⟨hfuseB, c', hc', s1, s2, s3, s4, sel, hfuseC, hkc, cP, hcP, ?_⟩
  intro c0 c2 i0 d0 i2 d2 S restR L O orestR oL shp h1 h2 h3 h4 h5 h6 h7 h8 lL loL lR loR hbox
  have := tel (c0 :: restR) L (i0 :: orestR) oL (by rw [nP]; simpa using lR)
    lL (by rw [nP]; simp only [List.length_cons]; omega) loL hbox
  rw [this, fS, W.sym.symm]
  simp only [List.length_cons]
  exact congrArg _ (hel c0 c2 i0 d0 i2 d2 S (restR ++ L) O (orestR ++ oL) shp h1 h2 h3 h4 h5 h6 h7 h8)

end SymmModel.C06
