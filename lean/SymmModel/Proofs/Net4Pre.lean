/-
  SymmModel.Proofs.Net4Pre — S6 of property C04 (pre-transposition of the left operand) as an `Eqv`
  statement under the weak guard: `(a.transposeF p)·b` is `Eqv` to `(a·b).transposeF (q ⊕ id)`,
  `q` the induced permutation of the free legs of `a` (`PreT`).
-/
import SymmModel.Proofs.Net4Trans

namespace SymmModel
namespace Net4P
open TdotP GradedP RoutesP KoszulP OddposP AssocP Assoc3P Assoc4P Assoc5P
open Lazy (sgnI)
set_option linter.unusedSectionVars false

variable {R : Type}

/-- the block permutation `q ⊕ id` on `nL + nR` positions -/
def blockP (q : List Nat) (nL nR : Nat) : List Nat := q ++ (List.range nR).map (nL + ·)

theorem permuted_blockP {α : Type} (u v : List α) (q : List Nat) (hq : ∀ i ∈ q, i < u.length) :
    permuted (u ++ v) (blockP q u.length v.length) = permuted u q ++ v := by
  unfold blockP
  rw [permuted_append, permuted_append_of_lt u v q hq, permuted_append_map_add,
    permuted_range]

theorem blockP_perm {q : List Nat} {nL : Nat} (hq : q.Perm (List.range nL)) (nR : Nat) :
    (blockP q nL nR).Perm (List.range (nL + nR)) := by
  unfold blockP
  rw [List.range_add]
  exact List.Perm.append_right _ hq

theorem dropUnused_permuted (U : List Index) (S S' : List Sector) (P : List Nat)
    (hP : ∀ x ∈ P, x < U.length) (hS : ∀ s ∈ S, s.length = U.length)
    (h : ∀ s', s' ∈ S' ↔ ∃ s ∈ S, s' = permuted s P) :
    dropUnused (permuted U P) S' = permuted (dropUnused U S) P := by
  apply List.ext_getElem?
  intro i
  rw [dropUnused_getElem?, permuted_getElem? U P hP,
    permuted_getElem? _ P (by rw [dropUnused_length]; exact hP)]
  cases hPi : P[i]? with
  | none => rfl
  | some x =>
    simp only [Option.bind_some]
    rw [dropUnused_getElem?]
    cases U[x]? with
    | none => rfl
    | some ix =>
      simp only [Option.map_some]
      congr 1
      apply dropTo_congr
      intro ch _
      simp only [List.mem_filterMap]
      constructor
      · rintro ⟨s', hs', e⟩
        obtain ⟨s, hs, rfl⟩ := (h s').mp hs'
        refine ⟨s, hs, ?_⟩
        rw [permuted_getElem? s P (by rw [hS s hs]; exact hP), hPi] at e
        exact e
      · rintro ⟨s, hs, e⟩
        refine ⟨permuted s P, (h _).mpr ⟨s, hs, rfl⟩, ?_⟩
        rw [permuted_getElem? s P (by rw [hS s hs]; exact hP), hPi]
        exact e

section
variable [AddCommMonoid R] [Mul R] [Neg R] [SignRing R] [AssocLaws R]

theorem pre_eqv (a b : Arr R) (p xa xa' q xb : List Nat) (W : AdmW a b xa xb)
    (hp : Arr.isPerm p a.ndim = true) (hT : PreT a.ndim p xa xa' q) (c : Arr R)
    (hc : tdF a b xa xb = .ok c) :
    ∃ c', tdF (a.transposeF p) b xa' xb = .ok c' ∧ c'.validB = true ∧ c.validB = true
      ∧ Arr.isPerm (blockP q (freeAxes a.ndim xa).length (freeAxes b.ndim xb).length) c.ndim = true
      ∧ Eqv (c.transposeF (blockP q (freeAxes a.ndim xa).length (freeAxes b.ndim xb).length)) c' := by
  have hsa := Arr.shapesOk_of_validB W.va
  have hsb := Arr.shapesOk_of_validB W.vb
  have W' := admW_pre W hp hT
  obtain ⟨_, ph, CI⟩ := Call.of_ok W hc
  have I := CI.toInter
  obtain ⟨c', ec', q1, q2, q3, q4, q5⟩ := tdotF_pretranspose_w a b c p xa xa' q xb W hp hT hc
  obtain ⟨_, ph', CI'⟩ := Call.of_ok W' ec'
  have I' := CI'.toInter
  have Ta := transOf_transposeF a p W.va W.fa hp
  have hnd : (a.transposeF p).ndim = a.ndim := hT.lenT a.indices rfl
  set nL := (freeAxes a.ndim xa).length with hnL
  set nR := (freeAxes b.ndim xb).length with hnR
  have hqlt : ∀ i ∈ q, i < nL := mem_lt_of_perm hT.hq
  have hPp : (blockP q nL nR).Perm (List.range c.ndim) := by rw [I.ndim]; exact blockP_perm hT.hq nR
  have hPerm : Arr.isPerm (blockP q nL nR) c.ndim = true := isPerm_of_perm hPp
  have hlA : ∀ sa ∈ a.sectors, (permuted sa (freeAxes a.ndim xa)).length = nL :=
    fun sa h => permuted_length _ _ (by
      intro x hx; rw [Arr.sector_length hsa h]; exact (mem_freeAxes.mp hx).1)
  have hlB : ∀ sb ∈ b.sectors, (permuted sb (freeAxes b.ndim xb)).length = nR :=
    fun sb h => permuted_length _ _ (by
      intro x hx; rw [Arr.sector_length hsb h]; exact (mem_freeAxes.mp hx).1)
  have hsec : ∀ s', s' ∈ c'.sectors ↔ ∃ s ∈ c.sectors, s' = permuted s (blockP q nL nR) := by
    intro s'
    rw [I'.mem_sectors]
    constructor
    · rintro ⟨sa', hA', sb, hB, hal, rfl⟩
      rw [Ta.sectors, List.mem_map] at hA'
      obtain ⟨sa, hA, rfl⟩ := hA'
      have hla := Arr.sector_length hsa hA
      rw [hT.ax sa hla] at hal
      refine ⟨_, I.mem_sectors.mpr ⟨sa, hA, sb, hB, hal, rfl⟩, ?_⟩
      have := permuted_blockP (permuted sa (freeAxes a.ndim xa)) (permuted sb (freeAxes b.ndim xb)) q
        (by rw [hlA sa hA]; exact hqlt)
      rw [hlA sa hA, hlB sb hB] at this
      rw [this, hnd, hT.free sa hla]
    · rintro ⟨s, hs, rfl⟩
      obtain ⟨sa, hA, sb, hB, hal, rfl⟩ := I.mem_sectors.mp hs
      have hla := Arr.sector_length hsa hA
      refine ⟨permuted sa p, by rw [Ta.sectors]; exact List.mem_map.mpr ⟨sa, hA, rfl⟩, sb, hB,
        by rw [hT.ax sa hla]; exact hal, ?_⟩
      have := permuted_blockP (permuted sa (freeAxes a.ndim xa)) (permuted sb (freeAxes b.ndim xb)) q
        (by rw [hlA sa hA]; exact hqlt)
      rw [hlA sa hA, hlB sb hB] at this
      rw [this, hnd, hT.free sa hla]
  have hl1 : (without a.indices xa).length = nL := by
    rw [without_eq_permuted_freeAxes]; exact permuted_length _ _ (fun x hx => (mem_freeAxes.mp hx).1)
  have hl2 : (without b.indices xb).length = nR := by
    rw [without_eq_permuted_freeAxes]; exact permuted_length _ _ (fun x hx => (mem_freeAxes.mp hx).1)
  have hidx : c'.indices = permuted c.indices (blockP q nL nR) := by
    have hU : without (a.transposeF p).indices xa' ++ without b.indices xb
        = permuted (without a.indices xa ++ without b.indices xb) (blockP q nL nR) := by
      have := permuted_blockP (without a.indices xa) (without b.indices xb) q
        (by rw [hl1]; exact hqlt)
      rw [hl1, hl2] at this
      rw [this, without_eq_permuted_freeAxes, without_eq_permuted_freeAxes (l := a.indices)]
      congr 1
      show permuted (a.transposeF p).indices (freeAxes (a.transposeF p).ndim xa') = _
      rw [hnd, Ta.indices]
      exact hT.free a.indices rfl
    rw [I'.indices, I.indices, hU]
    apply dropUnused_permuted
    · intro x hx
      rw [List.length_append, hl1, hl2, ← I.ndim]
      exact mem_lt_of_perm hPp x hx
    · intro s hs
      obtain ⟨sa, hA, sb, hB, _, rfl⟩ := I.mem_sectors.mp hs
      rw [List.length_append, List.length_append, hlA sa hA, hlB sb hB, hl1, hl2]
    · exact hsec
  refine ⟨c', ec', I'.valid, I.valid, hPerm,
    eqv_of_transposed I.valid I.fermi hPerm q3 q4 q2 q1 hidx hsec ?_⟩
  intro s hs o hbox
  obtain ⟨sa, hA, sb, hB, hal, rfl⟩ := I.mem_sectors.mp hs
  have hL := hlA sa hA
  have hR := hlB sb hB
  obtain ⟨shpA, hA1, hA2, hA3, hA4⟩ := shape_of_mem hsa hA
  obtain ⟨shpB, hB1, hB2, hB3, hB4⟩ := shape_of_mem hsb hB
  have hFA : (permuted (Arr.blockShapeD a.indices sa) (freeAxes a.ndim xa)).length = nL :=
    permuted_length _ _ (by intro x hx; rw [hA2, hA3]; exact (mem_freeAxes.mp hx).1)
  rw [Arr.blockShapeD, I.shape hsa hsb hA hB hal] at hbox
  change inBox (permuted (Arr.blockShapeD a.indices sa) (freeAxes a.ndim xa)
    ++ permuted (Arr.blockShapeD b.indices sb) (freeAxes b.ndim xb)) o = true at hbox
  have hFB : (permuted (Arr.blockShapeD b.indices sb) (freeAxes b.ndim xb)).length = nR :=
    permuted_length _ _ (by intro x hx; rw [hB2, hB3]; exact (mem_freeAxes.mp hx).1)
  obtain ⟨oL, oR, rfl, htl, hdl⟩ := inBox_split hbox
  rw [hFA] at htl
  rw [hFB] at hdl
  have hboxU : inBox (Arr.blockShapeD (without a.indices xa ++ without b.indices xb)
      (permuted sa (freeAxes a.ndim xa) ++ permuted sb (freeAxes b.ndim xb)))
      (oL ++ oR) = true := by
    rw [Arr.blockShapeD, frame_shape hsa hsb hA hB]
    exact hbox
  have hval := q5 _ _ oL oR hL htl hboxU
  have r1 := permuted_blockP (permuted sa (freeAxes a.ndim xa)) (permuted sb (freeAxes b.ndim xb)) q
    (by rw [hL]; exact hqlt)
  rw [hL, hR] at r1
  have r2 := permuted_blockP oL oR q (by rw [htl]; exact hqlt)
  rw [htl, hdl] at r2
  rw [r1, r2, hval]
  congr 1
  have k := koszul_id_block_right ((permuted sa (freeAxes a.ndim xa)).map a.sym.parity)
    ((permuted sb (freeAxes b.ndim xb)).map a.sym.parity) q (by rw [List.length_map, hL]; exact hT.hq)
  rw [List.length_map, List.length_map, hL, hR, ← List.map_append] at k
  unfold Arr.parities blockP
  rw [I.sym, k]

end

end Net4P
end SymmModel
