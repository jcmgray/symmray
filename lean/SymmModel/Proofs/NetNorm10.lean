/-
  SymmModel.Proofs.NetNorm10 — network form of the norm (property C10):
  CHAINS OF ANY LENGTH `t₀ – t₁ – … – tₙ` (segments `Assoc3P.Seg`: a tensor with its left and right bond
  legs; weak guards `Assoc4P.Link` between neighbours), the bra chain built tensor by tensor
  (`braSeg`: `conj()`, dangling bra-like legs flipped, both bonds spared): the left-nested contraction
  of the bra chain is observationally `conj(phase_dual=True)` of the left-nested contraction of the ket
  chain (induction with `conj_tensordot_spared_w`; one step: `BraInv.step`), hence
  `(bra chain)·(ket chain) = Σ|K|²`.  The three-tensor chain with its intermediate (`network_norm_chain3`) is
  two steps.
-/
import SymmModel.Proofs.NetNorm9
namespace SymmModel.NormNet
open SymmModel SymmModel.Lazy SymmModel.Norm SymmModel.TdotP
open SymmModel.AssocP SymmModel.Assoc3P SymmModel.Assoc4P
set_option linter.unusedSectionVars false

section nchain
variable {R : Type} [AddMonoid R] [Mul R] [Neg R] [Conj R] [NetLaws R]

/-- the bra tensor of a chain tensor: `conj()`, then `phase_flip` of the dangling bra-like legs — the
    two bonds `l`, `r` are spared -/
def braSeg (S : Seg R) : Seg R := ⟨braOf S.arr (S.l ++ S.r), S.l, S.r⟩

/-- the invariant of the induction: `S` a left-nested piece of the ket chain (no open bond on the
    left), `Sb` the corresponding piece of the bra chain -/
structure BraInv (S Sb : Seg R) : Prop where
  v : S.arr.validB = true
  f : S.arr.fermi = true
  vb : Sb.arr.validB = true
  fb : Sb.arr.fermi = true
  obs : ObsEq Sb.arr (braOf S.arr S.r)
  l : S.l = []
  lb : Sb.l = []
  r : Sb.r = S.r
  ket : KetLabels S.arr.oddpos
  dl : S.arr.oddpos.Pairwise (fun x y => x.1 ≠ y.1)
  nr : S.r.Nodup
  ltr : ∀ i ∈ S.r, i < S.arr.ndim

theorem braSeg_leafOK {S : Seg R} (h : LeafOK S) : LeafOK (braSeg S) :=
  ⟨braOf_valid _ _ h.valid h.fermi, braOf_fermi _ _ h.fermi, h.nd,
    fun i hi => by show i < (braOf S.arr (S.l ++ S.r)).ndim; rw [braOf_ndim]; exact h.ltl i hi,
    fun i hi => by show i < (braOf S.arr (S.l ++ S.r)).ndim; rw [braOf_ndim]; exact h.ltr i hi⟩

theorem _root_.SymmModel.Assoc4P.Link.admW {S S' : Seg R} (lk : Link S S') (hS : LeafOK S)
    (hS' : LeafOK S') : AdmW S.arr S'.arr S.r S'.l :=
  ⟨hS.valid, hS'.valid, hS.fermi, hS'.fermi, lk.sym, lk.con, (List.nodup_append.mp hS.nd).2.1,
    (List.nodup_append.mp hS'.nd).1, hS.ltr, hS'.ltl⟩

theorem braSeg_link {S S' : Seg R} (hS : LeafOK S) (hS' : LeafOK S') (lk : Link S S') :
    Link (braSeg S) (braSeg S') := by
  have Wb := braOf_admW (lk.admW hS hS') (S.l ++ S.r) (S'.l ++ S'.r)
  exact ⟨Wb.sym, Wb.con⟩

theorem braSeg_linked (ys : List (Seg R)) : ∀ (S : Seg R), LeafOK S → linked S ys →
    linked (braSeg S) (ys.map braSeg) := by
  induction ys with
  | nil => intro _ _ _; trivial
  | cons y ys ih =>
    intro S hS h
    obtain ⟨lk, hy, hr⟩ := h
    exact ⟨braSeg_link hS hy lk, braSeg_leafOK hy, ih y hy hr⟩

theorem BraInv.start {S : Seg R} (hS : LeafOK S) (hl : S.l = []) (hket : KetLabels S.arr.oddpos)
    (hd : S.arr.oddpos.Pairwise (fun x y => x.1 ≠ y.1)) : BraInv S (braSeg S) :=
  ⟨hS.valid, hS.fermi, braOf_valid _ _ hS.valid hS.fermi, braOf_fermi _ _ hS.fermi,
    by show ObsEq (braOf S.arr (S.l ++ S.r)) (braOf S.arr S.r)
       rw [hl, List.nil_append]; exact ObsEq.refl _,
    hl, hl, rfl, hket, hd, (List.nodup_append.mp hS.nd).2.1, hS.ltr⟩

theorem BraInv.obs_conj {T Tb : Seg R} (H : BraInv T Tb) (hr : T.r = []) :
    ObsEq Tb.arr (T.arr.conjF true true) := by
  have := H.obs
  rw [hr] at this
  exact this.trans (conjF_obs_braOf T.arr [] (SignOk.of_valid H.v H.f) (fun _ h => nomatch h)).symm

theorem lastD_r_nil (T y : Seg R) (ys : List (Seg R)) (h : y.r = [] → T.r = [])
    (hl : (lastD y ys).r = []) : (lastD T ys).r = [] := by
  cases ys with
  | nil => exact h hl
  | cons y' ys' => exact hl

theorem BraInv.admW {S Sb y : Seg R} (H : BraInv S Sb) (lk : Link S y) (hy : LeafOK y) :
    AdmW S.arr y.arr S.r y.l :=
  ⟨H.v, hy.valid, H.f, hy.fermi, lk.sym, lk.con, H.nr, (List.nodup_append.mp hy.nd).1, H.ltr,
    hy.ltl⟩

theorem mid_of_leafOK {y : Seg R} (hy : LeafOK y) : Mid y.arr.ndim y.l y.r :=
  Mid.of hy.nd (by
    intro i hi
    rcases List.mem_append.mp hi with h | h
    · exact hy.ltl i h
    · exact hy.ltr i h)

/-- by `conj_tensordot_spared_w`, the open right bond of `y` spared -/
theorem BraInv.step {S Sb y : Seg R} (H : BraInv S Sb) (lk : Link S y) (hy : LeafOK y)
    (hky : KetLabels y.arr.oddpos) (hd : OddposP.LabelsDistinct (S.arr.oddpos ++ y.arr.oddpos)) :
    ∃ K Kb, S.arr.tensordotF y.arr (.pair (S.r.map Int.ofNat) (y.l.map Int.ofNat)) .blockwise = .ok K
      ∧ Sb.arr.tensordotF (braOf y.arr (y.l ++ y.r))
          (.pair (S.r.map Int.ofNat) (y.l.map Int.ofNat)) .blockwise = .ok Kb
      ∧ S.comp y = .ok ⟨K, [], AssocP.axesAB S.arr.ndim y.arr.ndim S.r y.l y.r⟩
      ∧ Sb.comp (braSeg y) = .ok ⟨Kb, [], AssocP.axesAB S.arr.ndim y.arr.ndim S.r y.l y.r⟩
      ∧ BraInv ⟨K, [], AssocP.axesAB S.arr.ndim y.arr.ndim S.r y.l y.r⟩
          ⟨Kb, [], AssocP.axesAB S.arr.ndim y.arr.ndim S.r y.l y.r⟩
      ∧ InterW S.arr y.arr S.r y.l K
      ∧ K.oddpos.Perm (S.arr.oddpos ++ y.arr.oddpos) := by
  have W := H.admW lk hy
  have hM := mid_of_leafOK hy
  obtain ⟨K, Kb, eK, eKb, hobs, hKv, hKf, hKbv, hKbf, hk, hs, hdl, I, hperm⟩ :=
    conj_tensordot_spared_w S.arr y.arr S.r y.l y.r W hM H.ket hky hd
  have hndb : Sb.arr.ndim = S.arr.ndim := by
    unfold Arr.ndim; rw [H.obs.indices]; exact braOf_ndim S.arr _
  have hB := braOf_admW W S.r (y.l ++ y.r)
  have econg : Sb.arr.tensordotF (braOf y.arr (y.l ++ y.r))
        (.pair (S.r.map Int.ofNat) (y.l.map Int.ofNat)) .blockwise = .ok Kb := by
    rw [← eKb]
    exact tensordotF_congr H.obs (ObsEq.refl _) (Full.of_valid H.vb H.fb)
      (Full.of_valid hB.va hB.fa) (Full.of_valid hB.vb hB.fb) (Full.of_valid hB.vb hB.fb) _ _
      (by rw [hndb, braOf_ndim]; exact congr_guard _ _ _ _ W.len W.nA W.nB W.ltA W.ltB)
  refine ⟨K, Kb, eK, econg, ?_, ?_, ?_, I, hperm⟩
  · unfold Seg.comp tdF; rw [eK, H.l]; rfl
  · unfold Seg.comp tdF braSeg
    simp only []
    rw [H.r, econg, H.lb, hndb, braOf_ndim]; rfl
  · exact ⟨hKv, hKf, hKbv, hKbf, hobs, rfl, rfl, rfl, ⟨hk, hs⟩, hdl, AssocP.axesAB_nodup hM,
      by show ∀ i ∈ _, i < K.ndim
         rw [I.ndim]; exact AssocP.axesAB_lt hM⟩

theorem chain_conj (ys : List (Seg R)) : ∀ (S Sb : Seg R), BraInv S Sb → linked S ys →
    (∀ y ∈ ys, KetLabels y.arr.oddpos) →
    OddposP.LabelsDistinct (S.arr.oddpos ++ flatL ys) →
    ∃ T Tb, evalL S ys = .ok T ∧ evalL Sb (ys.map braSeg) = .ok Tb ∧ BraInv T Tb
      ∧ ((lastD S ys).r = [] → T.r = [])
      ∧ T.arr.oddpos.Perm (S.arr.oddpos ++ flatL ys) := by
  induction ys with
  | nil =>
    intro S Sb H _ _ _
    exact ⟨S, Sb, rfl, rfl, H, fun h => h, by simp [flatL]⟩
  | cons y ys ih =>
    intro S Sb H hlink hket hd
    obtain ⟨lk, hy, hrest⟩ := hlink
    have hd' : OddposP.LabelsDistinct ((S.arr.oddpos ++ y.arr.oddpos) ++ flatL ys) := by
      rw [List.append_assoc]; exact hd
    obtain ⟨K, Kb, eK, _, c1, c2, Hn, I, hperm⟩ :=
      H.step lk hy (hket y (List.mem_cons_self ..)) (List.pairwise_append.mp hd').1
    have hlinkn : linked (⟨K, [], AssocP.axesAB S.arr.ndim y.arr.ndim S.r y.l y.r⟩ : Seg R) ys := by
      cases ys with
      | nil => trivial
      | cons y' ys' =>
        obtain ⟨lk', hy', hrest'⟩ := hrest
        have Wy := lk'.admW hy hy'
        have W2 := admW_left_chain_w I (H.admW lk hy) Wy (mid_of_leafOK hy)
        exact ⟨⟨W2.sym, W2.con⟩, hy', hrest'⟩
    have hdn : OddposP.LabelsDistinct (K.oddpos ++ flatL ys) :=
      OddposP.LabelsDistinct.perm hd' (List.Perm.append_right _ hperm).symm
    obtain ⟨T, Tb, e1, e2, HT, hr, hp⟩ := ih _ _ Hn hlinkn
      (fun z hz => hket z (List.mem_cons_of_mem _ hz)) hdn
    refine ⟨T, Tb, ?_, ?_, HT, ?_, ?_⟩
    · simp only [evalL, c1]; exact e1
    · simp only [List.map_cons, evalL, c2]; exact e2
    · intro hl
      apply hr
      exact lastD_r_nil _ y ys (fun h => by show AssocP.axesAB _ _ _ _ y.r = []; rw [h]; rfl) hl
    · refine hp.trans ?_
      show (K.oddpos ++ flatL ys).Perm (S.arr.oddpos ++ (y.arr.oddpos ++ flatL ys))
      rw [← List.append_assoc]
      exact List.Perm.append_right _ hperm

/-- the conclusion of `network_norm_chain` -/
def ChainNorm (S : Seg R) (ys : List (Seg R)) : Prop :=
  ∃ T Tb, evalL S ys = .ok T ∧ evalL (braSeg S) (ys.map braSeg) = .ok Tb
    ∧ ObsEq Tb.arr (T.arr.conjF true true)
    ∧ T.arr.validB = true ∧ T.arr.fermi = true ∧ Tb.arr.validB = true ∧ Tb.arr.fermi = true
    ∧ T.arr.oddpos.Perm (S.arr.oddpos ++ flatL ys)
    ∧ Tb.arr.ndim = T.arr.ndim
    ∧ (∃ r, Tb.arr.tensordotF T.arr (allAxes T.arr.ndim) .blockwise = .ok r
        ∧ r.ndim = 0 ∧ r.oddpos = [] ∧ r.elem [] [] = normSq T.arr)
    ∧ (∃ r, T.arr.tensordotF Tb.arr (allAxes T.arr.ndim) .blockwise = .ok r
        ∧ r.ndim = 0 ∧ r.oddpos = [] ∧ r.elem [] [] = normSq' T.arr)

theorem network_norm_chain (S : Seg R) (ys : List (Seg R)) (hS : LeafOK S) (hl : S.l = [])
    (hlink : linked S ys) (hlast : (lastD S ys).r = [])
    (hketS : KetLabels S.arr.oddpos) (hket : ∀ y ∈ ys, KetLabels y.arr.oddpos)
    (hd : OddposP.LabelsDistinct (S.arr.oddpos ++ flatL ys)) : ChainNorm S ys := by
  have H0 := BraInv.start hS hl hketS (List.pairwise_append.mp hd).1
  obtain ⟨T, Tb, e1, e2, HT, hr, hp⟩ := chain_conj ys S (braSeg S) H0 hlink hket hd
  have hobs := HT.obs_conj (hr hlast)
  obtain ⟨r, r', hnd, q1, q2, q3, q4, g1, g2, g3, g4⟩ :=
    norm_of_obs HT.v HT.f HT.vb HT.fb hobs HT.ket.1 HT.ket.2 HT.dl
  exact ⟨T, Tb, e1, e2, hobs, HT.v, HT.f, HT.vb, HT.fb, hp, hnd, ⟨r, q1, q2, q3, q4⟩,
    ⟨r', g1, g2, g3, g4⟩⟩

/-- three-tensor chain (weak guards on the two bonds of the INPUT tensors): two steps of the chain -/
theorem network_norm_chain3 (a b c : Arr R) (xa xb1 xb2 xc : List Nat)
    (ha : a.validB = true) (hb : b.validB = true) (hc : c.validB = true)
    (hfa : a.fermi = true) (hfb : b.fermi = true) (hfc : c.fermi = true)
    (hadm1 : tdotAdmissibleCommonB a b xa xb1 = true)
    (hadm2 : tdotAdmissibleCommonB b c xb2 xc = true)
    (hnd : (xb1 ++ xb2).Nodup)
    (hoA : KetLabels a.oddpos) (hoB : KetLabels b.oddpos) (hoC : KetLabels c.oddpos)
    (hd : ((a.oddpos ++ b.oddpos) ++ c.oddpos).Pairwise (fun x y => x.1 ≠ y.1)) :
    Chain3 a b c xa xb1 xb2 xc := by
  have W1 := AdmW.of ha hb hfa hfb hadm1
  have Wbc := AdmW.of hb hc hfb hfc hadm2
  have hA : LeafOK (⟨a, [], xa⟩ : Seg R) := ⟨ha, hfa, W1.nA, (fun _ h => nomatch h), W1.ltA⟩
  have hB : LeafOK (⟨b, xb1, xb2⟩ : Seg R) := ⟨hb, hfb, hnd, W1.ltB, Wbc.ltA⟩
  have hC : LeafOK (⟨c, xc, []⟩ : Seg R) :=
    ⟨hc, hfc, by rw [List.append_nil]; exact Wbc.nB, Wbc.ltB, fun _ h => nomatch h⟩
  have hd1 := (List.pairwise_append.mp hd).1
  obtain ⟨K2, Kb2, eK2, eKb2, _, _, H1, I, hperm⟩ :=
    (BraInv.start hA rfl hoA (List.pairwise_append.mp hd1).1).step ⟨W1.sym, W1.con⟩ hB hoB hd1
  have W2 := admW_left_chain_w I W1 Wbc (mid_of_leafOK hB)
  obtain ⟨K3, Kb3, eK3, eKb3, _, _, H2, _, hperm3⟩ := H1.step ⟨W2.sym, W2.con⟩ hC hoC
    (OddposP.LabelsDistinct.perm (l := (a.oddpos ++ b.oddpos) ++ c.oddpos) hd
      (List.Perm.append_right _ hperm).symm)
  rw [List.append_nil] at eKb3
  have hobs2 := H2.obs_conj rfl
  obtain ⟨r, r', hnd3, e1, n1, o1, v1, e2, n2, o2, v2⟩ :=
    norm_of_obs H2.v H2.f H2.vb H2.fb hobs2 H2.ket.1 H2.ket.2 H2.dl
  exact ⟨K2, Kb2, K3, Kb3, eK2, eKb2, eK3, eKb3, H1.obs, hobs2, hnd3,
    hperm3.trans (List.Perm.append_right _ hperm), H2.v, H2.f, H2.vb, H2.fb, ⟨r, e1, n1, o1, v1⟩,
    ⟨r', e2, n2, o2, v2⟩⟩
end nchain

end SymmModel.NormNet
