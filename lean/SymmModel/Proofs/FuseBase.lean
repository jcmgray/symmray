/-
  SymmModel.Proofs.FuseBase — blocks used by fusing, read entry by entry: `AllZero`, the region written by
  `setSliceK` (`inRegion`) with `setSliceK_get`, `sliceK_get`, `reshapeK_get`; and a few facts about lists and
  sectors (`getD_zipWith`, `set_mid`, `sector_ext`).  Core Lean only.
-/
import SymmModel.Model.Valid
import SymmModel.Model.Fuse
import SymmModel.Proofs.BaseBox
import SymmModel.Proofs.BaseList
import SymmModel.Proofs.ArrBase
namespace SymmModel
namespace FuseP

variable {R : Type}

def AllZero [Zero R] (b : Blk R) : Prop := ∀ x ∈ b.data.toList, x = 0

theorem ofFn_shape (s : List Nat) (f : List Nat → R) : (Blk.ofFn s f).shape = s := rfl

theorem get_of_allZero [Zero R] {b : Blk R} (h : AllZero b) (i : List Nat) : b.get i = 0 := by
  simp only [Blk.get, Array.getD_eq_getD_getElem?]
  cases hk : b.data[ravel b.shape i]? with
  | none => rfl
  | some x =>
    simp only [Option.getD_some]
    apply h
    rw [Array.getElem?_eq_some_iff] at hk
    obtain ⟨hlt, rfl⟩ := hk
    simp

theorem ofFn_allZero [Zero R] {s : List Nat} {f : List Nat → R}
    (h : ∀ i, inBox s i = true → f i = 0) : AllZero (Blk.ofFn s f) := by
  intro x hx
  simp only [Blk.ofFn, List.mem_map] at hx
  obtain ⟨i, hi, rfl⟩ := hx
  exact h i (mem_allIdx.1 hi)

/-- membership in the region written by `setSliceK dest starts src` -/
def inRegion (starts shp i : List Nat) : Bool :=
  (List.zipWith (fun a s => decide (s ≤ a)) i starts).all id
    && inBox shp (List.zipWith (· - ·) i starts)

theorem setSliceK_shape [Zero R] (dest src : Blk R) (starts : List Nat) :
    (dest.setSliceK starts src).shape = dest.shape := rfl

theorem rel_all (i starts : List Nat) :
    ((List.zipWith (fun a s => (decide (s ≤ a), a - s)) i starts).all fun x => x.1)
      = (List.zipWith (fun a s => decide (s ≤ a)) i starts).all id := by
  induction i generalizing starts with
  | nil => simp
  | cons x xs ih => cases starts <;> simp [ih]

theorem rel_map (i starts : List Nat) :
    (List.zipWith (fun a s => (decide (s ≤ a), a - s)) i starts).map (fun x => x.2)
      = List.zipWith (· - ·) i starts := by
  induction i generalizing starts with
  | nil => simp
  | cons x xs ih => cases starts <;> simp [ih]

theorem setSliceK_get [Zero R] (dest src : Blk R) (starts : List Nat) {i : List Nat}
    (h : inBox dest.shape i = true) :
    (dest.setSliceK starts src).get i =
      if inRegion starts src.shape i then src.get (List.zipWith (· - ·) i starts) else dest.get i := by
  unfold Blk.setSliceK
  rw [ofFn_get _ _ h]
  simp only [inRegion, rel_all, rel_map]
  rfl

theorem sliceK_get [Zero R] (b : Blk R) (starts lens : List Nat) {i : List Nat}
    (h : inBox lens i = true) :
    (b.sliceK starts lens).get i = b.get (List.zipWith (· + ·) i starts) := by
  unfold Blk.sliceK; rw [ofFn_get _ _ h]

theorem reshapeK_get [Zero R] (b : Blk R) (s i : List Nat) :
    (b.reshapeK s).get i = b.data.getD (ravel s i) 0 := rfl

theorem inRegion_cons {s d x : Nat} {starts shp i : List Nat} :
    inRegion (s :: starts) (d :: shp) (x :: i) = true
      ↔ (s ≤ x ∧ x < s + d) ∧ inRegion starts shp i = true := by
  simp only [inRegion, List.zipWith_cons_cons, List.all_cons, id, inBox_cons, Bool.and_eq_true,
    decide_eq_true_eq]
  constructor
  · rintro ⟨⟨hs, ha⟩, hx, hb⟩; exact ⟨⟨hs, by omega⟩, ha, hb⟩
  · rintro ⟨⟨hs, hx⟩, ha, hb⟩; exact ⟨⟨hs, ha⟩, by omega, hb⟩

theorem inRegion_iff {starts shp i : List Nat} {n : Nat} (h1 : i.length = n) (h2 : starts.length = n)
    (h3 : shp.length = n) :
    inRegion starts shp i = true ↔
      ∀ k, k < n → starts.getD k 0 ≤ i.getD k 0 ∧ i.getD k 0 < starts.getD k 0 + shp.getD k 0 := by
  induction n generalizing starts shp i with
  | zero =>
    have := List.eq_nil_of_length_eq_zero h1; subst this
    have := List.eq_nil_of_length_eq_zero h2; subst this
    have := List.eq_nil_of_length_eq_zero h3; subst this
    simp [inRegion, inBox]
  | succ n ih =>
    match i, starts, shp, h1, h2, h3 with
    | x :: i, s :: starts, d :: shp, h1, h2, h3 =>
      rw [inRegion_cons, Nat.forall_lt_succ_left,
        ih (Nat.succ.inj h1) (Nat.succ.inj h2) (Nat.succ.inj h3)]
      simp only [List.getD_cons_zero, List.getD_cons_succ]

theorem getD_zipWith {α β γ : Type} (f : α → β → γ) {a : List α} {b : List β} (h : a.length = b.length)
    (k : Nat) (da : α) (db : β) :
    (List.zipWith f a b).getD k (f da db) = f (a.getD k da) (b.getD k db) := by
  simp only [List.getD_eq_getElem?_getD, List.getElem?_zipWith]
  by_cases hk : k < a.length
  · rw [List.getElem?_eq_getElem hk, List.getElem?_eq_getElem (h ▸ hk)]; rfl
  · rw [List.getElem?_eq_none (by omega), List.getElem?_eq_none (by omega)]; rfl

theorem set_mid {α : Type} (x y : List α) (u v : α) : (x ++ [u] ++ y).set x.length v = x ++ [v] ++ y := by
  induction x with
  | nil => simp
  | cons h t ih => simp

theorem mid_set_self {α : Type} (x y : List α) (u : α) : (x ++ [u] ++ y).set x.length u = x ++ [u] ++ y := by
  rw [set_mid]

theorem sector_ext {s s' : Sector} {n : Nat} (h1 : s.length = n) (h2 : s'.length = n) {perm : List Nat}
    (hcover : ∀ ax, ax < n → ax ∈ perm) (h : ∀ ax ∈ perm, s.getD ax (0, 0) = s'.getD ax (0, 0)) :
    s = s' := by
  apply List.ext_getElem (by rw [h1, h2])
  intro k hk hk'
  have := h k (hcover k (by omega))
  simpa [List.getD_eq_getElem?_getD, List.getElem?_eq_getElem hk, List.getElem?_eq_getElem hk'] using this

end FuseP
end SymmModel
