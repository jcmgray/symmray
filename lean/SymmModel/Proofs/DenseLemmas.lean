/-
  SymmModel.Proofs.DenseLemmas — the dense form of an array, read through its value view
  (properties C08, C16).  Nothing of `Model/` is redefined.  What it holds (the C16 machinery is
  interleaved with the rest where its lemmas are first needed):

  * chargemaps: `Arr.locate` on a table with distinct charges is a bijection between the positions of
    an axis and the addresses (charge, offset) (`Arr.position` is the inverse); `Arr.locateAll` does
    this on all axes at once — the four lists `(indices, position, sector, offsets)` are the
    columns of one list of rows, each row a correct `locate` (`locateAll_eq_some_iff`) — and agrees
    with `Arr.blockShape?`; sorting a chargemap (`Index.sortCm`).
  * `Arr.toDenseA` is defined by meaning (`Model/Arr.lean`): the entry at a position is the value
    view `Arr.elem` at the located address.  `toDenseA_get` / `toDenseA_val` say so, and three
    doors carry facts about value views to the dense arrays: `toDense_rel₂/₃` (same address,
    elementwise operations), `toDense_reindex` (a map of the whole box: transpose, squeeze,
    expand_dims), and for operations that move STORED entries and leave zeros elsewhere (fuse,
    unfuse, reshape) `Dense6.Img` with `Img.comp` and the introduction `Dense6.img_of_addr` from
    address-level facts over `StoredAt` / `DenseOk` (`Arr.dense_relocate(_stored)` are its two
    halves, used directly where a statement speaks of addresses).
    `elem_rekey`: the value view of a block table rekeyed by `_map_blocks`.
  * the elementwise operations of block_core.py given names (`negA`, `smulA`, `sdivA`, `binopA`), and
    which blocks `binaryBlockwise` stores in each mode.
  * the constructors of property C16: the table inference of `from_blocks` (`inferIndices`),
    `construct`, `chargeGroups` and `from_dense` (`fdBlocks`, `fdIndices`, `origPos`: the stable
    sort of the positions of an axis by charge), the round trip blocks → dense → blocks,
    `from_fill_fn`.
  * `Arr.validB_shapesOk`, `validB_length`, `validB_keys_sorted`, … (with `Arr.validB_nodup`,
    `Arr.phases_nil_of_validB` of Proofs/ValidBase.lean): what `Arr.validB`
    (property C01) gives the theorems above, by name.
-/
import SymmModel.Model.Tdot
import SymmModel.Model.Construct
import SymmModel.Model.GRat
import SymmModel.Model.Valid
import SymmModel.Proofs.ValidBase
import SymmModel.Proofs.SymLemmas
import SymmModel.Proofs.BaseBox
import SymmModel.Proofs.BaseAlist
import SymmModel.Proofs.BaseList
import SymmModel.Proofs.ArrBase
import SymmModel.Proofs.ArrPerm
import SymmModel.Proofs.BaseForall2
import Mathlib.Data.List.Perm.Basic
import Mathlib.Data.List.Perm.Subperm
import Mathlib.Data.List.Nodup

namespace SymmModel

namespace Blk
variable {R : Type}

@[simp] theorem shape_ofFn (s : List Nat) (f : List Nat → R) : (ofFn s f).shape = s := rfl

@[simp] theorem shape_map {S : Type} (f : R → S) (b : Blk R) : (b.map f).shape = b.shape := rfl

theorem get_map [Zero R] (f : R → R) (hf : f 0 = 0) (b : Blk R) (i : List Nat) :
    (b.map f).get i = f (b.get i) := by
  simp only [get, map, Array.getD_eq_getD_getElem?, Array.getElem?_map]
  cases b.data[ravel b.shape i]? <;> simp [hf]

@[simp] theorem shape_zipWith [Zero R] (f : R → R → R) (a b : Blk R) :
    (zipWith f a b).shape = a.shape := rfl

theorem get_zipWith [Zero R] (f : R → R → R) (a b : Blk R) {i : List Nat}
    (h : inBox a.shape i = true) : (zipWith f a b).get i = f (a.get i) (b.get i) := by
  simp only [zipWith, ofFn_get _ _ h]

@[simp] theorem shape_mulAxisK [Zero R] [Mul R] (b v : Blk R) (axis : Nat) :
    (b.mulAxisK v axis).shape = b.shape := rfl

theorem get_mulAxisK [Zero R] [Mul R] (b v : Blk R) (axis : Nat) {i : List Nat}
    (h : inBox b.shape i = true) : (b.mulAxisK v axis).get i = b.get i * v.get [i.getD axis 0] := by
  simp only [mulAxisK, ofFn_get _ _ h]

end Blk

section alist
variable {κ β γ : Type} [BEq κ] [LawfulBEq κ]

omit [LawfulBEq κ] in
@[simp] theorem alookup_nil (k : κ) : alookup ([] : List (κ × β)) k = none := rfl

attribute [simp] alookup_cons_self

theorem alookup_append (l1 l2 : List (κ × β)) (k : κ) :
    alookup (l1 ++ l2) k = (alookup l1 k).or (alookup l2 k) := by
  induction l1 with
  | nil => simp
  | cons q l ih =>
    obtain ⟨k0, v0⟩ := q
    by_cases e : k0 = k
    · subst e; simp
    · simp [alookup_cons_ne e, ih]

theorem alookup_filterMap_key {δ : Type} (l : List (κ × β)) (sel : κ → Option δ)
    (f : κ → β → δ → γ) (k : κ) :
    alookup (l.filterMap (fun q => (sel q.1).map (fun d => (q.1, f q.1 q.2 d)))) k
      = (alookup l k).bind (fun b => (sel k).map (f k b)) := by
  induction l with
  | nil => simp
  | cons q l ih =>
    obtain ⟨k0, v0⟩ := q
    simp only [List.filterMap_cons]
    by_cases e : k0 = k
    · subst e
      cases hg : sel k0 with
      | none => simp [ih, hg]
      | some d => simp
    · cases hg : sel k0 <;> simp [alookup_cons_ne e, ih]

/-- variants for an arbitrary function that is pointwise of the required form (the model writes
    these functions with pattern-matching lambdas) -/
theorem alookup_map_val' (l : List (κ × β)) (F : κ × β → κ × γ) (g : κ → β → γ)
    (hF : ∀ q, F q = (q.1, g q.1 q.2)) (k : κ) :
    alookup (l.map F) k = (alookup l k).map (g k) := by
  rw [show F = (fun p => (p.1, g p.1 p.2)) from funext hF]; exact alookup_map_val g l k

theorem alookup_filter_key' (l : List (κ × β)) (P : κ × β → Bool) (p : κ → Bool)
    (hP : ∀ q, P q = p q.1) (k : κ) :
    alookup (l.filter P) k = if p k = true then alookup l k else none := by
  rw [show P = (fun q => p q.1) from funext hP]; exact alookup_filter_key l p k

theorem alookup_filterMap_key' {δ : Type} (l : List (κ × β)) (F : κ × β → Option (κ × γ))
    (sel : κ → Option δ) (f : κ → β → δ → γ)
    (hF : ∀ q, F q = (sel q.1).map (fun d => (q.1, f q.1 q.2 d))) (k : κ) :
    alookup (l.filterMap F) k = (alookup l k).bind (fun b => (sel k).map (f k b)) := by
  rw [show F = (fun q => (sel q.1).map (fun d => (q.1, f q.1 q.2 d))) from funext hF]
  exact alookup_filterMap_key l sel f k

end alist

theorem sortCm_perm (cm : List (Charge × Nat)) : (Index.sortCm cm).Perm cm := isort_perm _ cm

theorem sumN_sortCm (cm : List (Charge × Nat)) :
    sumN ((Index.sortCm cm).map (·.2)) = sumN (cm.map (·.2)) :=
  sumN_perm ((sortCm_perm cm).map _)

theorem mem_sortCm {cm : List (Charge × Nat)} {x : Charge × Nat} : x ∈ Index.sortCm cm ↔ x ∈ cm :=
  (sortCm_perm cm).mem_iff

theorem nodup_keys_sortCm {cm : List (Charge × Nat)} (h : (cm.map (·.1)).Nodup) :
    ((Index.sortCm cm).map (·.1)).Nodup :=
  ((sortCm_perm cm).map _).nodup_iff.mpr h

namespace Arr

/-- inverse of `locate`: (charge, offset) ↦ position along the axis -/
def position : List (Charge × Nat) → Charge → Nat → Option Nat
  | [], _, _ => none
  | (k, d) :: rest, k0, o =>
      if k = k0 then (if o < d then some o else none)
      else (position rest k0 o).map (· + d)

theorem locate_isSome {cm : List (Charge × Nat)} {p : Nat} (h : p < sumN (cm.map (·.2))) :
    ∃ c o, locate cm p = some (c, o) := by
  induction cm generalizing p with
  | nil => simp [sumN] at h
  | cons kd rest ih =>
    obtain ⟨k, d⟩ := kd
    simp only [locate]
    split
    · exact ⟨k, p, rfl⟩
    · apply ih; simp only [List.map_cons, sumN] at h; omega

theorem locate_spec {cm : List (Charge × Nat)} {p : Nat} {c : Charge} {o : Nat}
    (h : locate cm p = some (c, o)) : ∃ d, (c, d) ∈ cm ∧ o < d := by
  induction cm generalizing p with
  | nil => simp [locate] at h
  | cons kd rest ih =>
    obtain ⟨k, d⟩ := kd
    simp only [locate] at h
    split at h
    · rename_i hp
      simp only [Option.some.injEq, Prod.mk.injEq] at h
      obtain ⟨rfl, rfl⟩ := h
      exact ⟨d, by simp, hp⟩
    · obtain ⟨d', hm, ho⟩ := ih h
      exact ⟨d', by simp [hm], ho⟩

theorem locate_lt {cm : List (Charge × Nat)} {p : Nat} {c : Charge} {o : Nat}
    (h : locate cm p = some (c, o)) : p < sumN (cm.map (·.2)) := by
  induction cm generalizing p with
  | nil => simp [locate] at h
  | cons kd rest ih =>
    obtain ⟨k, d⟩ := kd
    simp only [locate] at h
    simp only [List.map_cons, sumN]
    split at h
    · omega
    · have := ih h; omega

theorem locate_mem_keys {cm : List (Charge × Nat)} {p : Nat} {c : Charge} {o : Nat}
    (h : locate cm p = some (c, o)) : c ∈ cm.map (·.1) := by
  obtain ⟨d, hm, _⟩ := locate_spec h
  exact List.mem_map.mpr ⟨_, hm, rfl⟩

theorem position_locate {cm : List (Charge × Nat)} (hnd : (cm.map (·.1)).Nodup) {p : Nat}
    {c : Charge} {o : Nat} (h : locate cm p = some (c, o)) : position cm c o = some p := by
  induction cm generalizing p with
  | nil => simp [locate] at h
  | cons kd rest ih =>
    obtain ⟨k', d⟩ := kd
    simp only [List.map_cons, List.nodup_cons] at hnd
    simp only [locate] at h
    split at h
    · rename_i hp
      simp only [Option.some.injEq, Prod.mk.injEq] at h
      obtain ⟨rfl, rfl⟩ := h
      simp [position, hp]
    · rename_i hp
      have hk : k' ≠ c := by
        intro e; subst e
        exact hnd.1 (locate_mem_keys h)
      simp only [position, hk, if_false]
      rw [ih hnd.2 h]
      simp only [Option.map_some, Option.some.injEq]; omega

theorem locate_position {cm : List (Charge × Nat)} {c : Charge} {o p : Nat}
    (h : position cm c o = some p) : locate cm p = some (c, o) := by
  induction cm generalizing p with
  | nil => simp [position] at h
  | cons kd rest ih =>
    obtain ⟨k', d⟩ := kd
    simp only [position] at h
    split at h
    · rename_i hk; subst hk
      split at h
      · rename_i ho
        simp only [Option.some.injEq] at h; subst h
        simp [locate, ho]
      · simp at h
    · cases hq : position rest c o with
      | none => simp [hq] at h
      | some q =>
        simp only [hq, Option.map_some, Option.some.injEq] at h
        subst h
        have : ¬ (q + d < d) := by omega
        simp only [locate, this, if_false, Nat.add_sub_cancel]
        exact ih hq

theorem position_isSome {cm : List (Charge × Nat)} {c : Charge} {d o : Nat}
    (hnd : (cm.map (·.1)).Nodup) (hm : (c, d) ∈ cm) (ho : o < d) : ∃ p, position cm c o = some p := by
  induction cm with
  | nil => simp at hm
  | cons kd rest ih =>
    obtain ⟨k', d'⟩ := kd
    simp only [List.map_cons, List.nodup_cons] at hnd
    simp only [position]
    rcases List.mem_cons.mp hm with e | hm'
    · simp only [Prod.mk.injEq] at e; obtain ⟨rfl, rfl⟩ := e
      simp [ho]
    · have hk : k' ≠ c := by
        intro e; subst e
        exact hnd.1 (List.mem_map.mpr ⟨_, hm', rfl⟩)
      obtain ⟨p, hp⟩ := ih hnd.2 hm'
      exact ⟨p + d', by simp [hk, hp]⟩

@[simp] theorem locateAll_nil_nil : locateAll [] [] = some ([], []) := rfl

theorem locateAll_cons (ix : Index) (idx : List Index) (q : Nat) (p : List Nat) :
    locateAll (ix :: idx) (q :: p) =
      (locate (Index.sortCm ix.cm) q).bind (fun co =>
        (locateAll idx p).map (fun sf => (co.1 :: sf.1, co.2 :: sf.2))) := by
  simp only [locateAll, List.zipWith_cons_cons, List.mapM_cons, id]
  cases locate (Index.sortCm ix.cm) q with
  | none => simp
  | some co =>
    simp only [Option.bind_some, Option.bind_eq_bind]
    cases List.mapM id (List.zipWith (fun ix q => locate (Index.sortCm ix.cm) q) idx p) <;> simp

theorem locateAll_isSome {idx : List Index} {p : List Nat}
    (h : inBox (idx.map Index.sizeTotal) p = true) :
    ∃ sec off, locateAll idx p = some (sec, off) := by
  induction idx generalizing p with
  | nil => cases p with
    | nil => exact ⟨[], [], rfl⟩
    | cons q p => simp [inBox] at h
  | cons ix idx ih =>
    cases p with
    | nil => simp [inBox] at h
    | cons q p =>
      rw [List.map_cons, inBox_cons] at h
      obtain ⟨c, o, hco⟩ := locate_isSome (cm := Index.sortCm ix.cm) (p := q)
        (by rw [sumN_sortCm]; exact h.1)
      obtain ⟨sec, off, hso⟩ := ih h.2
      exact ⟨c :: sec, o :: off, by simp [locateAll_cons, hco, hso]⟩

theorem locateAll_cons_eq_some {ix : Index} {idx : List Index} {q : Nat} {p : List Nat}
    {sec : Sector} {off : List Nat} :
    locateAll (ix :: idx) (q :: p) = some (sec, off) ↔
      ∃ c o sec' off', locate (Index.sortCm ix.cm) q = some (c, o)
        ∧ locateAll idx p = some (sec', off') ∧ sec = c :: sec' ∧ off = o :: off' := by
  rw [locateAll_cons]
  constructor
  · intro h
    obtain ⟨⟨c, o⟩, hco, h⟩ := Option.bind_eq_some_iff.mp h
    obtain ⟨⟨sec', off'⟩, hso, h⟩ := Option.map_eq_some_iff.mp h
    cases h
    exact ⟨c, o, sec', off', hco, hso, rfl, rfl⟩
  · rintro ⟨c, o, sec', off', hco, hso, rfl, rfl⟩
    rw [hco, hso]; rfl

/-- one axis of a located position: index, position, charge, offset -/
abbrev Row := Index × Nat × Charge × Nat

/-- the row is right: the position lies at that offset of that charge -/
def Row.ok (r : Row) : Prop := locate (Index.sortCm r.1.cm) r.2.1 = some r.2.2

theorem locateAll_eq_some_iff {idx : List Index} {p : List Nat} {sec : Sector} {off : List Nat}
    (hp : p.length = idx.length) :
    locateAll idx p = some (sec, off) ↔
      ∃ rows : List Row, (∀ r ∈ rows, r.ok) ∧ idx = rows.map (·.1) ∧ p = rows.map (·.2.1)
        ∧ sec = rows.map (·.2.2.1) ∧ off = rows.map (·.2.2.2) := by
  induction idx generalizing p sec off with
  | nil =>
    cases p with
    | cons _ _ => simp at hp
    | nil =>
      constructor
      · intro h; cases h; exact ⟨[], by simp⟩
      · rintro ⟨rows, _, h1, _, rfl, rfl⟩
        cases rows with
        | nil => rfl
        | cons _ _ => simp at h1
  | cons ix idx ih =>
    cases p with
    | nil => simp at hp
    | cons q p =>
      rw [locateAll_cons_eq_some]
      constructor
      · rintro ⟨c, o, sec', off', hco, hso, rfl, rfl⟩
        obtain ⟨rows, hok, rfl, rfl, rfl, rfl⟩ := (ih (by simpa using hp)).mp hso
        refine ⟨(ix, q, c, o) :: rows, fun r hr => ?_, rfl, rfl, rfl, rfl⟩
        rcases List.mem_cons.mp hr with rfl | hr
        · exact hco
        · exact hok r hr
      · rintro ⟨rows, hok, h1, h2, rfl, rfl⟩
        cases rows with
        | nil => simp at h1
        | cons r rows =>
          simp only [List.map_cons, List.cons.injEq] at h1 h2
          obtain ⟨rfl, rfl⟩ := h1
          obtain ⟨rfl, rfl⟩ := h2
          exact ⟨r.2.2.1, r.2.2.2, _, _, hok r (by simp),
            (ih (by simp)).mpr ⟨rows, fun r' h' => hok r' (by simp [h']), rfl, rfl, rfl, rfl⟩, rfl, rfl⟩

theorem locateAll_rows {rows : List Row} (hok : ∀ r ∈ rows, r.ok) :
    locateAll (rows.map (·.1)) (rows.map (·.2.1))
      = some (rows.map (·.2.2.1), rows.map (·.2.2.2)) :=
  (locateAll_eq_some_iff (by simp)).mpr ⟨rows, hok, rfl, rfl, rfl, rfl⟩

theorem locateAll_append {X Y : List Index} {p p' : List Nat} {s s' : Sector} {o o' : List Nat}
    (hp : p.length = X.length) (hp' : p'.length = Y.length)
    (h : locateAll X p = some (s, o)) (h' : locateAll Y p' = some (s', o')) :
    locateAll (X ++ Y) (p ++ p') = some (s ++ s', o ++ o') := by
  obtain ⟨r, hr, rfl, rfl, rfl, rfl⟩ := (locateAll_eq_some_iff hp).mp h
  obtain ⟨r', hr', rfl, rfl, rfl, rfl⟩ := (locateAll_eq_some_iff hp').mp h'
  simp only [← List.map_append]
  exact locateAll_rows fun x hx => (List.mem_append.mp hx).elim (hr x) (hr' x)

theorem locateAll_length {idx : List Index} {p : List Nat} {sec : Sector} {off : List Nat}
    (h : locateAll idx p = some (sec, off)) (hp : p.length = idx.length) :
    sec.length = idx.length ∧ off.length = idx.length := by
  obtain ⟨rows, _, rfl, rfl, rfl, rfl⟩ := (locateAll_eq_some_iff hp).mp h
  simp

theorem blockShape?_nil_nil : blockShape? [] [] = some [] := rfl

theorem blockShape?_cons (ix : Index) (idx : List Index) (c : Charge) (s : Sector) :
    blockShape? (ix :: idx) (c :: s) =
      (ix.sizeOf? c).bind (fun d => (blockShape? idx s).map (d :: ·)) := by
  simp only [blockShape?, List.length_cons, bne_iff_ne, ne_eq, Nat.add_right_cancel_iff,
    List.zipWith_cons_cons, List.mapM_cons, id]
  by_cases hl : idx.length = s.length
  · simp only [hl, not_true_eq_false, if_false]
    cases ix.sizeOf? c with
    | none => simp
    | some d =>
      simp only [Option.bind_some, Option.bind_eq_bind]
      cases List.mapM id (List.zipWith (fun ix c => ix.sizeOf? c) idx s) <;> simp
  · simp only [hl, not_false_eq_true, if_true]
    cases ix.sizeOf? c <;> simp

theorem blockShape?_cons_eq_some {ix : Index} {idx : List Index} {c : Charge} {s : Sector}
    {shp : List Nat} :
    blockShape? (ix :: idx) (c :: s) = some shp ↔
      ∃ d shp', ix.sizeOf? c = some d ∧ blockShape? idx s = some shp' ∧ shp = d :: shp' := by
  simp only [blockShape?_cons, Option.bind_eq_some_iff, Option.map_eq_some_iff]
  constructor
  · rintro ⟨d, hd, shp', hs, rfl⟩
    exact ⟨d, shp', hd, hs, rfl⟩
  · rintro ⟨d, shp', hd, hs, rfl⟩
    exact ⟨d, hd, shp', hs, rfl⟩

theorem blockShape?_shape_length {idx : List Index} {s : Sector} {shp : List Nat}
    (h : blockShape? idx s = some shp) : shp.length = idx.length := by
  induction idx generalizing s shp with
  | nil =>
    cases s with
    | nil => cases h; rfl
    | cons c s => simp [blockShape?] at h
  | cons ix idx ih =>
    cases s with
    | nil => simp [blockShape?] at h
    | cons c s =>
      obtain ⟨d, shp', _, hr, rfl⟩ := blockShape?_cons_eq_some.mp h
      simp [ih hr]

theorem forall₂_of_blockShape? {idx : List Index} {s : Sector} {shp : List Nat}
    (h : blockShape? idx s = some shp) :
    List.Forall₂ (fun c (ix : Index) => c ∈ ix.charges) s idx := by
  induction idx generalizing s shp with
  | nil =>
    cases s with
    | nil => exact List.Forall₂.nil
    | cons c s => simp [blockShape?] at h
  | cons ix idx ih =>
    cases s with
    | nil => simp [blockShape?] at h
    | cons c s =>
      obtain ⟨d, shp', hd, hr, _⟩ := blockShape?_cons_eq_some.mp h
      exact List.Forall₂.cons (List.mem_map.mpr ⟨(c, d), alookup_some_mem hd, rfl⟩) (ih hr)

theorem locateAll_blockShape {idx : List Index} (hnd : ∀ ix ∈ idx, (ix.cm.map (·.1)).Nodup)
    {p : List Nat} {sec : Sector} {off : List Nat} (hp : p.length = idx.length)
    (h : locateAll idx p = some (sec, off)) :
    ∃ shp, blockShape? idx sec = some shp ∧ inBox shp off = true := by
  induction idx generalizing p sec off with
  | nil =>
    cases p with
    | nil => cases h; exact ⟨[], rfl, rfl⟩
    | cons q p => simp at hp
  | cons ix idx ih =>
    cases p with
    | nil => simp at hp
    | cons q p =>
      obtain ⟨c, o, sec', off', hco, hso, rfl, rfl⟩ := locateAll_cons_eq_some.mp h
      obtain ⟨shp', h1, h2⟩ := ih (fun ix' h' => hnd ix' (by simp [h'])) (by simpa using hp) hso
      -- the size `locate` worked with is the one `sizeOf?` reads off the unsorted table
      obtain ⟨d, hm, ho⟩ := locate_spec hco
      have hd : ix.sizeOf? c = some d :=
        alookup_of_mem_nodup (hnd ix (by simp)) (mem_sortCm.mp hm)
      exact ⟨d :: shp', by rw [blockShape?_cons, hd, h1]; rfl, inBox_cons.mpr ⟨ho, h2⟩⟩

theorem locateAll_inBox {idx : List Index} (hnd : ∀ ix ∈ idx, (ix.cm.map (·.1)).Nodup)
    {p : List Nat} {sec : Sector} {off shp : List Nat} (hp : p.length = idx.length)
    (h : locateAll idx p = some (sec, off)) (hs : blockShape? idx sec = some shp) :
    inBox shp off = true := by
  obtain ⟨shp', h1, h2⟩ := locateAll_blockShape hnd hp h
  obtain rfl : shp' = shp := Option.some.inj (h1.symm.trans hs)
  exact h2

end Arr

namespace Arr
variable {R : Type}

theorem toDenseA_eq [Zero R] [Neg R] (a : Arr R) (raw : Bool)
    (h : a.indices.any (fun ix => ix.cm.isEmpty) = false) :
    toDenseA a raw = .ok (Blk.ofFn a.shape (fun p =>
      match locateAll a.indices p with
      | some (sec, off) =>
        if raw then ({ a with phases := [] } : Arr R).elem sec off else a.elem sec off
      | none => 0)) := by
  unfold toDenseA
  rw [if_neg (by simp [h])]
  rfl

theorem toDenseA_error [Zero R] [Neg R] (a : Arr R) (raw : Bool)
    (h : a.indices.any (fun ix => ix.cm.isEmpty) = true) : toDenseA a raw = .error Err.value := by
  simp [toDenseA, h]

/-- the bridge: the dense value at a position is the value view at the located address
    (existential form; to use the bridge take `toDenseA_val` and `toDenseA_shape`) -/
theorem toDenseA_get [Zero R] [Neg R] (a : Arr R)
    (h : a.indices.any (fun ix => ix.cm.isEmpty) = false) :
    ∃ d, toDenseA a = .ok d ∧ d.shape = a.shape ∧
      ∀ p, inBox a.shape p = true →
        ∃ sec off, locateAll a.indices p = some (sec, off) ∧ d.get p = a.elem sec off := by
  refine ⟨_, toDenseA_eq a false h, rfl, fun p hp => ?_⟩
  obtain ⟨sec, off, hso⟩ := locateAll_isSome (idx := a.indices) (p := p) hp
  refine ⟨sec, off, hso, ?_⟩
  rw [ofFn_get _ _ hp, hso]
  simp

theorem toDenseA_val [Zero R] [Neg R] {a : Arr R} {d : Blk R} (hd : toDenseA a = .ok d)
    {p : List Nat} (hp : inBox a.shape p = true) {s : Sector} {off : List Nat}
    (hl : locateAll a.indices p = some (s, off)) : d.get p = a.elem s off := by
  unfold toDenseA at hd
  split at hd
  · cases hd
  · cases hd
    rw [ofFn_get _ _ hp, hl]; simp

theorem toDenseA_shape [Zero R] [Neg R] {a : Arr R} {d : Blk R} (hd : toDenseA a = .ok d) :
    d.shape = a.shape := by
  unfold toDenseA at hd
  split at hd
  · cases hd
  · cases hd; rfl

theorem toDenseA_wf [Zero R] [Neg R] {a : Arr R} {d : Blk R} (hd : toDenseA a = .ok d) :
    d.wf = true := by
  unfold toDenseA at hd
  split at hd
  · cases hd
  · cases hd; exact ofFn_wf _ _

theorem toDenseA_congr_elem [Zero R] [Neg R] {a b : Arr R} (hi : a.indices = b.indices)
    (he : ∀ s off, a.elem s off = b.elem s off) : a.toDenseA = b.toDenseA := by
  unfold Arr.toDenseA Arr.shape
  rw [hi]
  simp only [Bool.false_eq_true, if_false, he]

/-! ### the elementwise operations (block_core.py `_do_unary_op`, `__neg__`, `__mul__` by a
    scalar, `__truediv__`, `_binary_blockwise_op`).  The expressions are the ones the
    correspondence driver executes (`Driver/Ops.lean`, cases "neg", "smul", "sdiv", "add",
    "sub", "mul"), given a name so that theorems can mention them. -/

def negA [Neg R] (a : Arr R) : Arr R :=
  { a with blocks := a.blocks.map (fun (k, b) => (k, b.negK)) }

def smulA [Mul R] (a : Arr R) (s : R) : Arr R :=
  { a with blocks := a.blocks.map (fun (k, b) => (k, b.map (· * s))) }

def sdivA [Div R] (a : Arr R) (s : R) : Arr R :=
  { a with blocks := a.blocks.map (fun (k, b) => (k, b.map (· / s))) }

def binopA [Zero R] (f : R → R → R) (m : Missing) (x y : Arr R) : Except Err (Arr R) :=
  match binaryBlockwise (Blk.zipWith f) m x.blocks y.blocks with
  | .ok bl => .ok { x with blocks := bl }
  | .error e => .error e

def addA [Zero R] [Add R] (x y : Arr R) : Except Err (Arr R) := binopA (· + ·) .outer x y
def subA [Zero R] [Sub R] (x y : Arr R) : Except Err (Arr R) := binopA (· - ·) .strict x y
def mulA [Zero R] [Mul R] (x y : Arr R) : Except Err (Arr R) := binopA (· * ·) .inner x y

theorem alookup_mapVals (bl : List (Sector × Blk R)) (f : Blk R → Blk R) (s : Sector) :
    alookup (bl.map (fun (k, b) => (k, f b))) s = (alookup bl s).map f :=
  alookup_map_val' bl _ (fun _ b => f b) (fun ⟨_, _⟩ => rfl) s

theorem elem_mapVals [Zero R] [Neg R] (a a' : Arr R) (f : Blk R → Blk R) (g : R → R) (hg : g 0 = 0)
    (hf : ∀ b off, (f b).get off = g (b.get off))
    (hph : a.phases = []) (hph' : a'.phases = [])
    (hbl : a'.blocks = a.blocks.map (fun (k, b) => (k, f b))) (s : Sector) (off : List Nat) :
    a'.elem s off = g (a.elem s off) := by
  rw [Arr.elem_of_phases_nil hph', Arr.elem_of_phases_nil hph, hbl, alookup_mapVals]
  cases alookup a.blocks s <;> simp [hg, hf]

end Arr

section binary
variable {R : Type} {κ : Type} [BEq κ] [LawfulBEq κ]

theorem binaryBlockwise_outer (fn : Blk R → Blk R → Blk R) (x y : List (κ × Blk R)) :
    ∃ bl, binaryBlockwise fn .outer x y = .ok bl ∧ ∀ k, alookup bl k =
      match alookup x k, alookup y k with
      | some bx, some b => some (fn bx b)
      | some bx, none => some bx
      | none, o => o := by
  refine ⟨_, rfl, fun k => ?_⟩
  rw [alookup_append,
    alookup_map_val' x _ (fun k bx => match alookup y k with
        | some b => fn bx b
        | none => bx) (fun ⟨k, bx⟩ => by dsimp only; cases alookup y k <;> rfl),
    alookup_filter_key' y _ (fun k => (alookup x k).isNone) (fun ⟨_, _⟩ => rfl)]
  cases alookup x k <;> cases alookup y k <;> simp

theorem binaryBlockwise_inner (fn : Blk R → Blk R → Blk R) (x y : List (κ × Blk R)) :
    ∃ bl, binaryBlockwise fn .inner x y = .ok bl ∧ ∀ k, alookup bl k =
      match alookup x k, alookup y k with
      | some bx, some b => some (fn bx b)
      | _, _ => none := by
  refine ⟨_, rfl, fun k => ?_⟩
  rw [alookup_filterMap_key' x _ (fun k => alookup y k) (fun _ bx b => fn bx b)
    (fun ⟨k, bx⟩ => by dsimp only; cases alookup y k <;> rfl)]
  cases alookup x k <;> cases alookup y k <;> simp

/-- the test `binaryBlockwise` runs in strict mode: some key of `x` is missing from `y` -/
theorem any_key_missing_iff {β γ : Type} (x : List (κ × β)) (y : List (κ × γ)) :
    x.any (fun (k, _) => (alookup y k).isNone) = true ↔ ∃ k ∈ x.map (·.1), k ∉ y.map (·.1) := by
  simp only [List.any_eq_true, Option.isNone_iff_eq_none, alookup_eq_none_iff, List.mem_map]
  constructor
  · rintro ⟨q, hq, hn⟩
    exact ⟨q.1, ⟨q, hq, rfl⟩, hn⟩
  · rintro ⟨_, ⟨q, hq, rfl⟩, hn⟩
    exact ⟨q, hq, hn⟩

theorem binaryBlockwise_strict (fn : Blk R → Blk R → Blk R) (x y : List (κ × Blk R)) :
    (binaryBlockwise fn .strict x y = .error Err.value ∧ ¬ ∀ k, k ∈ x.map (·.1) ↔ k ∈ y.map (·.1))
    ∨ (∃ bl, binaryBlockwise fn .strict x y = .ok bl ∧ (∀ k, k ∈ x.map (·.1) ↔ k ∈ y.map (·.1)) ∧
        ∀ k, alookup bl k =
          match alookup x k, alookup y k with
          | some bx, some b => some (fn bx b)
          | _, _ => none) := by
  simp only [binaryBlockwise]
  by_cases hx : x.any (fun (k, _) => (alookup y k).isNone) = true
  · obtain ⟨k, hkx, hky⟩ := (any_key_missing_iff x y).mp hx
    exact Or.inl ⟨by rw [if_pos hx]; rfl, fun hk => hky ((hk k).mp hkx)⟩
  by_cases hy : y.any (fun (k, _) => (alookup x k).isNone) = true
  · obtain ⟨k, hky, hkx⟩ := (any_key_missing_iff y x).mp hy
    exact Or.inl ⟨by rw [if_neg hx, if_pos hy]; rfl, fun hk => hkx ((hk k).mpr hky)⟩
  have hkeys : ∀ k, k ∈ x.map (·.1) ↔ k ∈ y.map (·.1) := fun k =>
    ⟨fun hm => by_contra fun hn => hx ((any_key_missing_iff x y).mpr ⟨k, hm, hn⟩),
     fun hm => by_contra fun hn => hy ((any_key_missing_iff y x).mpr ⟨k, hm, hn⟩)⟩
  refine Or.inr ⟨_, by rw [if_neg hx, if_neg hy]; rfl, hkeys, fun k => ?_⟩
  rw [alookup_map_val' x _ (fun k bx => match alookup y k with
        | some b => fn bx b
        | none => bx) (fun ⟨k, bx⟩ => by dsimp only; cases alookup y k <;> rfl)]
  cases hxk : alookup x k with
  | none => cases alookup y k <;> rfl
  | some bx =>
    cases hyk : alookup y k with
    | none =>
      have := (hkeys k).mp (alookup_isSome_iff.mp (by rw [hxk]; rfl))
      rw [← alookup_isSome_iff, hyk] at this
      exact absurd this (by simp)
    | some b => simp only [Option.map_some, hyk]

end binary

theorem insertSorted_sorted {β : Type} (a : Charge × β) (l : List (Charge × β))
    (h : l.Pairwise (fun x y => Charge.lt y.1 x.1 = false)) :
    (insertSorted (fun a b => Charge.lt a.1 b.1) a l).Pairwise
      (fun x y => Charge.lt y.1 x.1 = false) := by
  induction l with
  | nil => simp [insertSorted]
  | cons b l ih =>
    rw [List.pairwise_cons] at h
    simp only [insertSorted]
    split
    · rename_i hba
      rw [List.pairwise_cons]
      refine ⟨fun x hx => ?_, ih h.2⟩
      rcases List.mem_cons.mp ((insertSorted_perm _ a l).mem_iff.mp hx) with e | hx'
      · subst e; exact Charge.lt_asymm hba
      · exact h.1 x hx'
    · rename_i hba
      have hba' : Charge.lt b.1 a.1 = false := by simpa using hba
      rw [List.pairwise_cons]
      refine ⟨fun x hx => ?_, List.pairwise_cons.mpr h⟩
      rcases List.mem_cons.mp hx with e | hx'
      · subst e; exact hba'
      · exact Charge.le_trans hba' (h.1 x hx')

theorem isort_sorted {β : Type} (l : List (Charge × β)) :
    (isort (fun a b => Charge.lt a.1 b.1) l).Pairwise (fun x y => Charge.lt y.1 x.1 = false) := by
  induction l with
  | nil => simp [isort]
  | cons a l ih => exact insertSorted_sorted a _ ih

theorem sortCm_sorted (cm : List (Charge × Nat)) :
    (Index.sortCm cm).Pairwise (fun x y => Charge.lt y.1 x.1 = false) :=
  isort_sorted cm

theorem isort_keys_strict {β : Type} (l : List (Charge × β)) (hnd : (l.map (·.1)).Nodup) :
    ((isort (fun a b : Charge × β => Charge.lt a.1 b.1) l).map (·.1)).Pairwise
      (fun a b => Charge.lt a b = true) := by
  have h1 := isort_sorted l
  have h2 : ((isort (fun a b : Charge × β => Charge.lt a.1 b.1) l).map (·.1)).Nodup :=
    ((isort_perm (fun a b : Charge × β => Charge.lt a.1 b.1) l).map _).nodup_iff.mpr hnd
  rw [List.pairwise_map]
  rw [List.Nodup, List.pairwise_map] at h2
  refine (h1.and h2).imp ?_
  rintro a b ⟨hle, hne⟩
  by_contra hlt
  exact hne (Charge.eq_of_not_lt (by simpa using hlt) hle)

theorem sortCm_strict {cm : List (Charge × Nat)} (hnd : (cm.map (·.1)).Nodup) :
    ((Index.sortCm cm).map (·.1)).Pairwise (fun a b => Charge.lt a b = true) :=
  isort_keys_strict cm hnd

theorem sortCm_of_sorted {cm : List (Charge × Nat)}
    (h : cm.Pairwise (fun x y => Charge.lt y.1 x.1 = false)) : Index.sortCm cm = cm := by
  induction cm with
  | nil => rfl
  | cons a l ih =>
    rw [List.pairwise_cons] at h
    show insertSorted _ a (Index.sortCm l) = a :: l
    rw [ih h.2]
    cases l with
    | nil => rfl
    | cons b l =>
      have := h.1 b (by simp)
      simp [insertSorted, this]

section construct
variable {R : Type}

theorem forIn_except_eq_foldlM {α σ ε : Type} (l : List α) (init : σ)
    (body : α → σ → Except ε (ForInStep σ)) (f : σ → α → Except ε σ)
    (h : ∀ a s, body a s = (f s a).map ForInStep.yield) :
    forIn l init body = l.foldlM f init := by
  induction l generalizing init with
  | nil => rfl
  | cons a l ih =>
    rw [List.forIn_cons, List.foldlM_cons, h]
    cases f init a with
    | error e => rfl
    | ok v => exact ih v

theorem foldlM_flatMap_except {α β σ ε : Type} (l : List α) (g : α → List β)
    (f : σ → β → Except ε σ) (init : σ) :
    (l.flatMap g).foldlM f init = l.foldlM (fun s a => (g a).foldlM f s) init := by
  induction l generalizing init with
  | nil => rfl
  | cons a l ih =>
    rw [List.flatMap_cons, List.foldlM_append, List.foldlM_cons]
    cases (g a).foldlM f init with
    | error e => rfl
    | ok v => exact ih v

/-- one step of the table inference of `from_blocks`: record size `e.1.2` for charge `e.1.1` on
    axis `e.2`, or fail when a different size was recorded before -/
def inferStep (maps : List (List (Charge × Nat))) (e : (Charge × Nat) × Nat) :
    Except Err (List (List (Charge × Nat))) :=
  match alookup (maps.getD e.2 []) e.1.1 with
  | none => .ok (maps.set e.2 (maps.getD e.2 [] ++ [(e.1.1, e.1.2)]))
  | some d0 => if e.1.2 != d0 then .error Err.value else .ok maps

/-- all `((charge, size), axis)` facts contained in the blocks, in the order Python visits them -/
def inferEntries (blocks : List (Sector × Blk R)) : List ((Charge × Nat) × Nat) :=
  blocks.flatMap (fun sb => (sb.1.zip sb.2.shape).zipIdx)

/-- the indices `from_blocks` infers (or the error it raises while doing so) -/
def inferIndices (blocks : List (Sector × Blk R)) (duals : List Bool) : Except Err (List Index) :=
  match blocks with
  | [] => .error Err.other
  | (s, _) :: _ =>
    match (inferEntries blocks).foldlM inferStep (List.replicate s.length []) with
    | .error e => .error e
    | .ok maps =>
      if duals.length != s.length then .error Err.value
      else .ok (List.zipWith (fun m d => Index.plain m d) maps duals)

/-- the recorded facts are consistent: one size per (axis, charge) -/
def InferCons (maps : List (List (Charge × Nat))) (es : List ((Charge × Nat) × Nat)) : Prop :=
  ∀ c d d' i, i < maps.length → ((c, d), i) ∈ es →
    (((c, d'), i) ∈ es ∨ (c, d') ∈ maps.getD i []) → d = d'

theorem getD_set_nil {α : Type} (maps : List (List α)) (i j : Nat) (v : List α) :
    (maps.set i v).getD j [] = if i = j ∧ i < maps.length then v else maps.getD j [] := by
  simp only [List.getD_eq_getElem?_getD, List.getElem?_set]
  by_cases hij : i = j
  · subst hij
    by_cases hi : i < maps.length <;> simp [hi]
  · simp [hij]

theorem mem_getD_set_append {α : Type} (maps : List (List α)) (i j : Nat) (x y : α) :
    x ∈ (maps.set i (maps.getD i [] ++ [y])).getD j [] ↔
      x ∈ maps.getD j [] ∨ (i = j ∧ i < maps.length ∧ x = y) := by
  rw [getD_set_nil]
  split
  · rename_i h
    obtain ⟨rfl, hi⟩ := h
    simp [hi]
  · rename_i h
    exact ⟨Or.inl, fun h' => h'.elim id fun ⟨hij, hi, _⟩ => absurd ⟨hij, hi⟩ h⟩

theorem prop_getD_nil {α : Type} {P : List α → Prop} {maps : List (List α)} (h : ∀ m ∈ maps, P m)
    (h0 : P []) (i : Nat) : P (maps.getD i []) := by
  rw [List.getD_eq_getElem?_getD]
  cases hi : maps[i]? with
  | none => exact h0
  | some m => exact h m (List.mem_of_getElem? hi)

theorem lt_of_mem_getD_nil {α : Type} {maps : List (List α)} {i : Nat} {x : α}
    (h : x ∈ maps.getD i []) : i < maps.length := by
  by_contra hn
  rw [List.getD_eq_getElem?_getD, List.getElem?_eq_none (by omega)] at h
  simp at h

theorem inferCons_iff_none {maps : List (List (Charge × Nat))} {es : List ((Charge × Nat) × Nat)}
    {c : Charge} {d i : Nat} (hl : alookup (maps.getD i []) c = none) :
    InferCons maps (((c, d), i) :: es) ↔
      InferCons (maps.set i (maps.getD i [] ++ [(c, d)])) es := by
  have hnk : ∀ d', (c, d') ∉ maps.getD i [] := fun d' hm =>
    (alookup_eq_none_iff.mp hl) (List.mem_map.mpr ⟨_, hm, rfl⟩)
  constructor
  · intro hc c1 d1 d1' i1 hi1 h1 h2
    rw [List.length_set] at hi1
    rcases h2 with h2 | h2
    · exact hc c1 d1 d1' i1 hi1 (List.mem_cons_of_mem _ h1) (Or.inl (List.mem_cons_of_mem _ h2))
    · rw [getD_set_nil] at h2
      split at h2
      · rename_i hij
        obtain ⟨rfl, _⟩ := hij
        rcases List.mem_append.mp h2 with h2 | h2
        · exact hc c1 d1 d1' i hi1 (List.mem_cons_of_mem _ h1) (Or.inr h2)
        · simp only [List.mem_singleton, Prod.mk.injEq] at h2
          obtain ⟨rfl, rfl⟩ := h2
          exact hc c1 d1 d1' i hi1 (List.mem_cons_of_mem _ h1) (Or.inl (by simp))
      · exact hc c1 d1 d1' i1 hi1 (List.mem_cons_of_mem _ h1) (Or.inr h2)
  · intro hc c1 d1 d1' i1 hi1 h1 h2
    have hin : ∀ {j}, j < maps.length → ∀ {x}, x ∈ maps.getD j [] →
        x ∈ (maps.set i (maps.getD i [] ++ [(c, d)])).getD j [] := by
      intro j _ x hx
      rw [getD_set_nil]
      split
      · rename_i hij; obtain ⟨rfl, _⟩ := hij; exact List.mem_append_left _ hx
      · exact hx
    have hnew : i < maps.length → (c, d) ∈ (maps.set i (maps.getD i [] ++ [(c, d)])).getD i [] := by
      intro hi
      rw [getD_set_nil, if_pos ⟨rfl, hi⟩]; simp
    have hlen : (maps.set i (maps.getD i [] ++ [(c, d)])).length = maps.length := List.length_set
    rcases List.mem_cons.mp h1 with e1 | h1t
    · simp only [Prod.mk.injEq] at e1
      obtain ⟨⟨rfl, rfl⟩, rfl⟩ := e1
      rcases h2 with h2 | h2
      · rcases List.mem_cons.mp h2 with e2 | h2t
        · simp only [Prod.mk.injEq] at e2; exact e2.1.2.symm
        · exact (hc c1 d1' d1 i1 (by omega) h2t (Or.inr (hnew hi1))).symm
      · exact absurd h2 (hnk d1')
    · rcases h2 with h2 | h2
      · rcases List.mem_cons.mp h2 with e2 | h2t
        · simp only [Prod.mk.injEq] at e2
          obtain ⟨⟨e2c, e2d⟩, e2i⟩ := e2
          rw [e2c, e2i] at h1t; rw [e2d]
          exact hc c d1 d i (by omega) h1t (Or.inr (hnew (e2i ▸ hi1)))
        · exact hc c1 d1 d1' i1 (by omega) h1t (Or.inl h2t)
      · exact hc c1 d1 d1' i1 (by omega) h1t (Or.inr (hin hi1 h2))

theorem inferCons_iff_some {maps : List (List (Charge × Nat))} {es : List ((Charge × Nat) × Nat)}
    (hnd : ∀ m ∈ maps, (m.map (·.1)).Nodup)
    {c : Charge} {d i : Nat} (hl : alookup (maps.getD i []) c = some d) :
    InferCons maps (((c, d), i) :: es) ↔ InferCons maps es := by
  have hm : (c, d) ∈ maps.getD i [] := alookup_some_mem hl
  have hu : ∀ d', (c, d') ∈ maps.getD i [] → d' = d := by
    intro d' hm'
    have := alookup_of_mem_nodup (prop_getD_nil (P := fun (m : List (Charge × Nat)) => (m.map (·.1)).Nodup) hnd (by simp) i) hm'
    rw [hl] at this; exact (Option.some.inj this).symm
  constructor
  · intro hc c1 d1 d1' i1 hi1 h1 h2
    exact hc c1 d1 d1' i1 hi1 (List.mem_cons_of_mem _ h1)
      (h2.imp (List.mem_cons_of_mem _) id)
  · intro hc c1 d1 d1' i1 hi1 h1 h2
    rcases List.mem_cons.mp h1 with e1 | h1t
    · simp only [Prod.mk.injEq] at e1
      obtain ⟨⟨rfl, rfl⟩, rfl⟩ := e1
      rcases h2 with h2 | h2
      · rcases List.mem_cons.mp h2 with e2 | h2t
        · simp only [Prod.mk.injEq] at e2; exact e2.1.2.symm
        · exact (hc c1 d1' d1 i1 hi1 h2t (Or.inr hm)).symm
      · exact (hu d1' h2).symm
    · rcases h2 with h2 | h2
      · rcases List.mem_cons.mp h2 with e2 | h2t
        · simp only [Prod.mk.injEq] at e2
          obtain ⟨⟨e2c, e2d⟩, e2i⟩ := e2
          rw [e2c, e2i] at h1t; rw [e2d]
          exact hc c d1 d i (e2i ▸ hi1) h1t (Or.inr hm)
        · exact hc c1 d1 d1' i1 hi1 h1t (Or.inl h2t)
      · exact hc c1 d1 d1' i1 hi1 h1t (Or.inr h2)

theorem foldlM_inferStep (es : List ((Charge × Nat) × Nat)) (maps : List (List (Charge × Nat)))
    (hnd : ∀ m ∈ maps, (m.map (·.1)).Nodup) :
    (¬ InferCons maps es ∧ es.foldlM inferStep maps = .error Err.value)
    ∨ (InferCons maps es ∧ ∃ maps', es.foldlM inferStep maps = .ok maps'
        ∧ maps'.length = maps.length ∧ (∀ m ∈ maps', (m.map (·.1)).Nodup)
        ∧ ∀ i, i < maps.length → ∀ c d,
            (c, d) ∈ maps'.getD i [] ↔ ((c, d) ∈ maps.getD i [] ∨ ((c, d), i) ∈ es)) := by
  induction es generalizing maps with
  | nil =>
    right
    exact ⟨fun _ _ _ _ _ h => by simp at h, maps, rfl, rfl, hnd, fun i _ c d => by simp⟩
  | cons e es ih =>
    obtain ⟨⟨c, d⟩, i⟩ := e
    rw [List.foldlM_cons]
    cases hl : alookup (maps.getD i []) c with
    | none =>
      have hstep : inferStep maps ((c, d), i) = .ok (maps.set i (maps.getD i [] ++ [(c, d)])) := by
        simp only [inferStep, hl]
      have hnd1 : ∀ m ∈ maps.set i (maps.getD i [] ++ [(c, d)]), (m.map (·.1)).Nodup := by
        intro m hm
        rcases List.mem_or_eq_of_mem_set hm with hm | rfl
        · exact hnd m hm
        · have h1 := prop_getD_nil (P := fun (m : List (Charge × Nat)) => (m.map (·.1)).Nodup) hnd (by simp) i
          have h2 := alookup_eq_none_iff.mp hl
          rw [List.map_append, List.nodup_append]
          refine ⟨h1, by simp, ?_⟩
          intro a ha b hb
          simp only [List.map_cons, List.map_nil, List.mem_singleton] at hb
          subst hb
          exact fun e => h2 (e ▸ ha)
      rw [hstep, inferCons_iff_none hl]
      rcases ih _ hnd1 with ⟨hc, he⟩ | ⟨hc, maps', hok, hlen, hnd', hspec⟩
      · exact Or.inl ⟨hc, he⟩
      · refine Or.inr ⟨hc, maps', hok, by rw [hlen, List.length_set], hnd', fun j hj c' d' => ?_⟩
        rw [hspec j (by rw [List.length_set]; exact hj), mem_getD_set_append, List.mem_cons]
        constructor
        · rintro ((h | ⟨rfl, _, h⟩) | h)
          · exact Or.inl h
          · exact Or.inr (Or.inl (by rw [h]))
          · exact Or.inr (Or.inr h)
        · rintro (h | h | h)
          · exact Or.inl (Or.inl h)
          · cases h; exact Or.inl (Or.inr ⟨rfl, hj, rfl⟩)
          · exact Or.inr h
    | some d0 =>
      by_cases hd : d = d0
      · subst hd
        have hstep : inferStep maps ((c, d), i) = .ok maps := by
          simp only [inferStep, hl, bne_self_eq_false, Bool.false_eq_true, if_false]
        rw [hstep, inferCons_iff_some hnd hl]
        rcases ih _ hnd with ⟨hc, he⟩ | ⟨hc, maps', hok, hlen, hnd', hspec⟩
        · exact Or.inl ⟨hc, he⟩
        · refine Or.inr ⟨hc, maps', hok, hlen, hnd', fun j hj c' d' => ?_⟩
          rw [hspec j hj]
          simp only [List.mem_cons, Prod.mk.injEq]
          constructor
          · rintro (h | h)
            · exact Or.inl h
            · exact Or.inr (Or.inr h)
          · rintro (h | ⟨⟨rfl, rfl⟩, rfl⟩ | h)
            · exact Or.inl h
            · exact Or.inl (alookup_some_mem hl)
            · exact Or.inr h
      · left
        have hstep : inferStep maps ((c, d), i) = .error Err.value := by
          simp only [inferStep, hl]
          rw [if_pos (by simpa using hd)]
        refine ⟨fun hc => hd ?_, by rw [hstep]; rfl⟩
        have hm := alookup_some_mem hl
        exact hc c d d0 i (lt_of_mem_getD_nil hm) (by simp) (Or.inr hm)

theorem mem_inferEntries {blocks : List (Sector × Blk R)} {c : Charge} {d i : Nat} :
    ((c, d), i) ∈ inferEntries blocks ↔
      ∃ sb ∈ blocks, sb.1[i]? = some c ∧ sb.2.shape[i]? = some d := by
  simp only [inferEntries, List.mem_flatMap, List.mem_zipIdx_iff_getElem?,
    List.getElem?_zip_eq_some]

/-- blocks agree on the size of every charge on each of the first `n` axes -/
def SizesAgree (blocks : List (Sector × Blk R)) (n : Nat) : Prop :=
  ∀ sb ∈ blocks, ∀ sb' ∈ blocks, ∀ i, i < n → ∀ c d d',
    sb.1[i]? = some c → sb.2.shape[i]? = some d →
    sb'.1[i]? = some c → sb'.2.shape[i]? = some d' → d = d'

theorem inferCons_replicate_iff (blocks : List (Sector × Blk R)) (n : Nat) :
    InferCons (List.replicate n []) (inferEntries blocks) ↔ SizesAgree blocks n := by
  have hempty : ∀ i (x : Charge × Nat), x ∉ (List.replicate n ([] : List (Charge × Nat))).getD i [] := by
    intro i x hx
    rw [List.getD_eq_getElem?_getD] at hx
    cases hi : (List.replicate n ([] : List (Charge × Nat)))[i]? with
    | none => simp [hi] at hx
    | some m =>
      have := List.eq_of_mem_replicate (List.mem_of_getElem? hi)
      subst this; simp [hi] at hx
  constructor
  · intro hc sb hsb sb' hsb' i hi c d d' h1 h2 h3 h4
    exact hc c d d' i (by simpa using hi) (mem_inferEntries.mpr ⟨sb, hsb, h1, h2⟩)
      (Or.inl (mem_inferEntries.mpr ⟨sb', hsb', h3, h4⟩))
  · intro hs c d d' i hi h1 h2
    rcases h2 with h2 | h2
    · obtain ⟨sb, hsb, e1, e2⟩ := mem_inferEntries.mp h1
      obtain ⟨sb', hsb', e3, e4⟩ := mem_inferEntries.mp h2
      exact hs sb hsb sb' hsb' i (by simpa using hi) c d d' e1 e2 e3 e4
    · exact absurd h2 (hempty i _)

/-- the index tables `from_blocks` infers from at least one block (on no blocks `inferIndices` is
    `Err.other`, Python's `StopIteration`, by definition): it raises `ValueError` when two blocks
    disagree on a size or `duals` has the wrong length; otherwise index `i` is a
    plain index with direction `duals[i]` whose chargemap lists — strictly sorted by charge —
    exactly the (charge, size) pairs occurring at position `i` of the blocks -/
theorem inferIndices_spec (s0 : Sector) (b0 : Blk R) (rest : List (Sector × Blk R))
    (duals : List Bool) :
    let blocks := (s0, b0) :: rest
    (¬ SizesAgree blocks s0.length ∧ inferIndices blocks duals = .error Err.value)
    ∨ (SizesAgree blocks s0.length ∧ duals.length ≠ s0.length
        ∧ inferIndices blocks duals = .error Err.value)
    ∨ (SizesAgree blocks s0.length ∧ duals.length = s0.length ∧
        ∃ idx, inferIndices blocks duals = .ok idx ∧ idx.length = s0.length ∧
          ∀ i, i < s0.length → ∃ ix, idx[i]? = some ix ∧ some ix.dual = duals[i]? ∧ ix.sub = none
            ∧ (∀ c d, (c, d) ∈ ix.cm ↔ ∃ sb ∈ blocks, sb.1[i]? = some c ∧ sb.2.shape[i]? = some d)
            ∧ (ix.cm.map (·.1)).Pairwise (fun a b => Charge.lt a b = true)) := by
  intro blocks
  have hnd0 : ∀ m ∈ List.replicate s0.length ([] : List (Charge × Nat)), (m.map (·.1)).Nodup := by
    intro m hm; rw [List.eq_of_mem_replicate hm]; simp
  rcases foldlM_inferStep (inferEntries blocks) _ hnd0 with ⟨hc, he⟩ | ⟨hc, maps, hok, hlen, hnd, hspec⟩
  · left
    rw [inferCons_replicate_iff] at hc
    exact ⟨hc, by simp only [inferIndices, blocks, he]⟩
  · right
    rw [inferCons_replicate_iff] at hc
    rw [List.length_replicate] at hlen
    by_cases hd : duals.length = s0.length
    · right
      refine ⟨hc, hd, List.zipWith (fun m d => Index.plain m d) maps duals, by
        simp only [inferIndices, blocks, hok, hd, bne_self_eq_false, Bool.false_eq_true, if_false],
        by simp [hlen, hd], fun i hi => ?_⟩
      have hm : i < maps.length := by omega
      have hdi : i < duals.length := by omega
      refine ⟨Index.plain maps[i] duals[i], by simp [List.getElem?_zipWith, hm, hdi], by
        simp [Index.plain, Index.dual, hdi], rfl, fun c d => ?_, ?_⟩
      · have := hspec i (by simpa using hi) c d
        simp only [List.getD_eq_getElem?_getD, List.getElem?_eq_getElem hm, Option.getD_some] at this
        show (c, d) ∈ Index.sortCm maps[i] ↔ _
        rw [mem_sortCm, this, mem_inferEntries]
        simp only [List.getElem?_replicate, hi, if_true, Option.getD_some, List.not_mem_nil,
          false_or]
      · exact sortCm_strict (hnd _ (List.getElem_mem hm))
    · left
      exact ⟨hc, hd, by
        simp only [inferIndices, blocks, hok]
        rw [if_pos (by simpa using hd)]⟩

theorem head?_key_ainsert {κ β : Type} [BEq κ] (q : κ × β) (acc : List (κ × β)) (k : κ) (v : β) :
    ((ainsert (q :: acc) k v).head?).map (·.1) = some q.1 := by
  obtain ⟨k0, v0⟩ := q
  simp only [ainsert]
  split <;> rfl

theorem head?_key_foldl_ainsert {κ β : Type} [BEq κ] (ps : List (κ × β)) (q : κ × β)
    (acc : List (κ × β)) :
    ((ps.foldl (fun acc p => ainsert acc p.1 p.2) (q :: acc)).head?).map (·.1) = some q.1 := by
  induction ps generalizing q acc with
  | nil => rfl
  | cons p ps ih =>
    simp only [List.foldl_cons]
    have h := head?_key_ainsert q acc p.1 p.2
    cases hq : ainsert (q :: acc) p.1 p.2 with
    | nil => simp [hq] at h
    | cons q' acc' =>
      rw [hq] at h
      simp only [List.head?_cons, Option.map_some, Option.some.injEq] at h
      rw [ih, h]

theorem adict_head_key {κ β : Type} [BEq κ] (ps : List (κ × β)) :
    ((adict ps).head?).map (·.1) = (ps.head?).map (·.1) := by
  cases ps with
  | nil => rfl
  | cons p ps =>
    have : adict (p :: ps) = ps.foldl (fun acc p => ainsert acc p.1 p.2) [p] := by
      obtain ⟨k, v⟩ := p; rfl
    rw [this, head?_key_foldl_ainsert]; rfl

/-- the charge `__init__` ends up with -/
def resolvedCharge (sym : Sym) (indices : List Index) (charge : Option Charge)
    (blocks : List (Sector × Blk R)) : Charge :=
  match charge with
  | some c => c
  | none => match blocks with
    | (s, _) :: _ => Arr.sectorCharge sym (indices.map Index.dual) s
    | [] => sym.zero

theorem construct_eq (sym : Sym) (fermi : Bool) (indices : List Index) (charge : Option Charge)
    (blocks : List (Sector × Blk R)) (oddpos : List (Int × Bool)) :
    construct sym fermi indices charge blocks oddpos =
      if (fermi && sym.parity (resolvedCharge sym indices charge blocks) && oddpos.isEmpty) = true
      then .error Err.value
      else .ok { sym := sym, fermi := fermi, indices := indices,
                 charge := resolvedCharge sym indices charge blocks,
                 blocks := adict blocks, phases := [], oddpos := oddpos } := by
  -- the charge is read off the first key, which `adict` keeps
  have key : resolvedCharge sym indices charge (adict blocks)
      = resolvedCharge sym indices charge blocks := by
    have h := adict_head_key blocks
    generalize adict blocks = bl at h
    cases charge with
    | some c => rfl
    | none =>
      rcases bl with _ | ⟨⟨s, b⟩, _⟩ <;> rcases blocks with _ | ⟨⟨s', b'⟩, _⟩ <;>
        simp at h <;> simp [resolvedCharge, h]
  rw [← key]
  unfold construct resolvedCharge
  split <;> rfl

end construct

namespace Arr
variable {R : Type}

theorem cm_conj (ix : Index) : (Index.conj ix).cm = ix.cm := by
  cases ix with
  | mk c d s => cases s with
    | none => rfl
    | some se => obtain ⟨subs, ext⟩ := se; rfl

theorem map_cm_conj (idx : List Index) : (idx.map Index.conj).map Index.cm = idx.map Index.cm := by
  simp [List.map_map, Function.comp_def, cm_conj]

theorem sizeTotal_eq_of_cm {ix ix' : Index} (h : ix'.cm = ix.cm) : ix'.sizeTotal = ix.sizeTotal := by
  simp [Index.sizeTotal, h]

theorem locateAll_congr {idx idx' : List Index} (h : idx'.map Index.cm = idx.map Index.cm)
    (p : List Nat) : locateAll idx' p = locateAll idx p := by
  induction idx generalizing idx' p with
  | nil =>
    cases idx' with
    | nil => rfl
    | cons a l => simp at h
  | cons ix idx ih =>
    cases idx' with
    | nil => simp at h
    | cons ix' idx' =>
      simp only [List.map_cons, List.cons.injEq] at h
      cases p with
      | nil => rfl
      | cons q p => rw [locateAll_cons, locateAll_cons, h.1, ih h.2]

theorem shape_congr {idx idx' : List Index} (h : idx'.map Index.cm = idx.map Index.cm) :
    idx'.map Index.sizeTotal = idx.map Index.sizeTotal := by
  have : ∀ l : List Index, l.map Index.sizeTotal = (l.map Index.cm).map (fun c => sumN (c.map (·.2))) := by
    intro l; simp [List.map_map, Function.comp_def, Index.sizeTotal]
  rw [this, this, h]

theorem noEmpty_congr {idx idx' : List Index} (h : idx'.map Index.cm = idx.map Index.cm) :
    idx'.any (fun ix => ix.cm.isEmpty) = idx.any (fun ix => ix.cm.isEmpty) := by
  have : ∀ l : List Index, l.any (fun ix => ix.cm.isEmpty) = (l.map Index.cm).any (fun c => c.isEmpty) := by
    intro l; simp [List.any_map, Function.comp_def]
  rw [this, this, h]

theorem noEmpty_of_subset {idx idx' : List Index} (h : ∀ ix ∈ idx', ix ∈ idx)
    (hne : idx.any (fun ix => ix.cm.isEmpty) = false) :
    idx'.any (fun ix => ix.cm.isEmpty) = false := by
  rw [List.any_eq_false] at hne ⊢
  exact fun ix hix => hne ix (h ix hix)

theorem noEmpty_permuted {idx : List Index} (hne : idx.any (fun ix => ix.cm.isEmpty) = false)
    (axes : List Nat) : (permuted idx axes).any (fun ix => ix.cm.isEmpty) = false :=
  noEmpty_of_subset (fun _ => mem_permuted) hne

theorem toDense_rel₃ [Zero R] [Neg R] (x y z : Arr R)
    (hy : y.indices.map Index.cm = x.indices.map Index.cm)
    (hz : z.indices.map Index.cm = x.indices.map Index.cm)
    (hne : x.indices.any (fun ix => ix.cm.isEmpty) = false)
    (P : List Nat → R → R → R → Prop)
    (hP : ∀ p sec off, inBox x.shape p = true → locateAll x.indices p = some (sec, off) →
      P p (x.elem sec off) (y.elem sec off) (z.elem sec off)) :
    ∃ dx dy dz, toDenseA x = .ok dx ∧ toDenseA y = .ok dy ∧ toDenseA z = .ok dz
      ∧ dx.shape = x.shape ∧ dy.shape = x.shape ∧ dz.shape = x.shape
      ∧ ∀ p, inBox x.shape p = true → P p (dx.get p) (dy.get p) (dz.get p) := by
  have hdx := toDenseA_eq x false hne
  have hdy := toDenseA_eq y false (by rw [noEmpty_congr hy]; exact hne)
  have hdz := toDenseA_eq z false (by rw [noEmpty_congr hz]; exact hne)
  have hsy : y.shape = x.shape := shape_congr hy
  have hsz : z.shape = x.shape := shape_congr hz
  refine ⟨_, _, _, hdx, hdy, hdz, rfl, hsy, hsz, fun p hp => ?_⟩
  obtain ⟨sec, off, hl⟩ := locateAll_isSome (idx := x.indices) (p := p) hp
  rw [toDenseA_val hdx hp hl, toDenseA_val hdy (hsy ▸ hp) (locateAll_congr hy p ▸ hl),
    toDenseA_val hdz (hsz ▸ hp) (locateAll_congr hz p ▸ hl)]
  exact hP p sec off hp hl

theorem toDense_rel₂ [Zero R] [Neg R] (x z : Arr R)
    (hz : z.indices.map Index.cm = x.indices.map Index.cm)
    (hne : x.indices.any (fun ix => ix.cm.isEmpty) = false)
    (P : List Nat → R → R → Prop)
    (hP : ∀ p sec off, inBox x.shape p = true → locateAll x.indices p = some (sec, off) →
      P p (x.elem sec off) (z.elem sec off)) :
    ∃ dx dz, toDenseA x = .ok dx ∧ toDenseA z = .ok dz
      ∧ dx.shape = x.shape ∧ dz.shape = x.shape
      ∧ ∀ p, inBox x.shape p = true → P p (dx.get p) (dz.get p) := by
  obtain ⟨dx, dy, dz, h1, _, h3, s1, _, s3, h⟩ :=
    toDense_rel₃ x x z rfl hz hne (fun p a _ c => P p a c) hP
  exact ⟨dx, dz, h1, h3, s1, s3, h⟩

theorem toDense_reindex [Zero R] [Neg R] (a y : Arr R)
    (hne : a.indices.any (fun ix => ix.cm.isEmpty) = false)
    (hney : y.indices.any (fun ix => ix.cm.isEmpty) = false) (f : List Nat → List Nat)
    (hbox : ∀ p, inBox a.shape p = true → inBox y.shape (f p) = true)
    (hval : ∀ p s off, inBox a.shape p = true → locateAll a.indices p = some (s, off) →
      ∃ s' off', locateAll y.indices (f p) = some (s', off') ∧ y.elem s' off' = a.elem s off) :
    ∃ d d', toDenseA a = .ok d ∧ toDenseA y = .ok d' ∧ d.shape = a.shape ∧ d'.shape = y.shape
      ∧ ∀ p, inBox a.shape p = true → d'.get (f p) = d.get p := by
  refine ⟨_, _, toDenseA_eq a false hne, toDenseA_eq y false hney, rfl, rfl, fun p hp => ?_⟩
  obtain ⟨s, off, hl⟩ := locateAll_isSome (idx := a.indices) (p := p) hp
  obtain ⟨s', off', hl', hv⟩ := hval p s off hp hl
  rw [toDenseA_val (toDenseA_eq y false hney) (hbox p hp) hl',
    toDenseA_val (toDenseA_eq a false hne) hp hl, hv]

/-- stored blocks have the shape the index tables prescribe, and the tables have distinct
    charges (part of `Arr.validB`) -/
def ShapesOk (a : Arr R) : Prop :=
  (∀ ix ∈ a.indices, (ix.cm.map (·.1)).Nodup)
  ∧ ∀ s b, alookup a.blocks s = some b → blockShape? a.indices s = some b.shape

theorem ShapesOk.inBox {a : Arr R} (h : ShapesOk a) {p : List Nat} (hp : inBox a.shape p = true)
    {sec : Sector} {off : List Nat} (hl : locateAll a.indices p = some (sec, off))
    {b : Blk R} (hb : alookup a.blocks sec = some b) : inBox b.shape off = true :=
  locateAll_inBox h.1 (by simpa [shape] using inBox_length hp) hl (h.2 sec b hb)

theorem locateAll_axis {idx : List Index} {p : List Nat} {sec : Sector} {off : List Nat}
    (h : locateAll idx p = some (sec, off)) (hp : p.length = idx.length) (k : Nat)
    (hk : k < idx.length) :
    locate (Index.sortCm (idx.getD k default).cm) (p.getD k 0)
      = some (sec.getD k (0, 0), off.getD k 0) := by
  obtain ⟨rows, hok, rfl, rfl, rfl, rfl⟩ := (locateAll_eq_some_iff hp).mp h
  have hk' : k < rows.length := by simpa using hk
  have := hok rows[k] (List.getElem_mem hk')
  simpa [Row.ok, List.getD_eq_getElem?_getD, List.getElem?_eq_getElem hk'] using this

end Arr

/-- value view of a block vector: entry `o` of the block of charge `c`, zero if absent -/
def BVec.elem {R : Type} [Zero R] (v : BVec R) (c : Charge) (o : Nat) : R :=
  match alookup v.blocks c with
  | some vb => vb.get [o]
  | none => 0

/-- dense value of a block vector laid out along the index `ix` (sorted charges) -/
def BVec.denseAt {R : Type} [Zero R] (v : BVec R) (ix : Index) (q : Nat) : R :=
  match Arr.locate (Index.sortCm ix.cm) q with
  | some (c, o) => v.elem c o
  | none => 0

section perm

variable {α : Type}

theorem permuted_nil (l : List α) : permuted l [] = [] := rfl

theorem permuted_reversedAxes (l : List α) : permuted l (Arr.reversedAxes l.length) = l.reverse := by
  unfold Arr.reversedAxes
  have := permuted_range l
  unfold permuted at this ⊢
  rw [List.filterMap_reverse, this]

theorem permuted_inj {axes : List Nat} {n : Nat} (hperm : Arr.isPerm axes n = true)
    {s s' : List α} (hs : s.length = n) (hs' : s'.length = n)
    (h : permuted s axes = permuted s' axes) : s = s' :=
  permuted_inj_of_cover (isPerm_spec hperm).2 (isPerm_lt hperm) hs hs' h

end perm

namespace Blk
variable {R : Type}

theorem get_transposeK [Zero R] (b : Blk R) (axes : List Nat)
    (hperm : Arr.isPerm axes b.shape.length = true) {i : List Nat} (hi : inBox b.shape i = true) :
    (b.transposeK axes).get (permuted i axes) = b.get i :=
  transposeK_get_permuted b rfl (inBox_length hi) (isPerm_spec hperm).2 (isPerm_lt hperm)
    (inBox_permuted hi axes (isPerm_lt hperm))

end Blk

section alistinj
variable {κ κ' β γ : Type} [BEq κ] [LawfulBEq κ] [BEq κ'] [LawfulBEq κ']

theorem alookup_map_inj (l : List (κ × β)) (F : κ × β → κ' × γ) (fk : κ → κ') (fv : β → γ)
    (hF : ∀ q, F q = (fk q.1, fv q.2)) (k0 : κ)
    (hinj : ∀ k ∈ l.map (·.1), fk k = fk k0 → k = k0) :
    alookup (l.map F) (fk k0) = (alookup l k0).map fv := by
  induction l with
  | nil => rfl
  | cons q l ih =>
    obtain ⟨k, v⟩ := q
    have ih' := ih (fun k' hk' => hinj k' (by simp [hk']))
    rw [List.map_cons, hF]
    by_cases e : k = k0
    · subst e; simp
    · have : fk k ≠ fk k0 := fun h => e (hinj k (by simp) h)
      rw [alookup_cons_ne this, alookup_cons_ne e, ih']

end alistinj

namespace Arr
variable {R : Type}

theorem locateAll_permuted {idx : List Index} {p : List Nat} {sec : Sector} {off : List Nat}
    (h : locateAll idx p = some (sec, off)) (hp : p.length = idx.length) (axes : List Nat) :
    locateAll (permuted idx axes) (permuted p axes) = some (permuted sec axes, permuted off axes) := by
  obtain ⟨rows, hok, rfl, rfl, rfl, rfl⟩ := (locateAll_eq_some_iff hp).mp h
  simp only [permuted_map]
  exact locateAll_rows fun r hr => hok r (mem_permuted hr)

/-- **value view of a rekeyed block table.**  `y` stores, for every block `(t, b)` of `a`, the
    block `fv b` under the key `fk t` (`_map_blocks`); when `fk` does not identify stored sectors
    (with each other, or with `s`), the value view of `y` at `fk s` is what the kernel `fv` does
    to the block at `s`.  Behind transpose, squeeze and expand_dims. -/
theorem elem_rekey [Zero R] [Neg R] {a y : Arr R} (fk : Sector → Sector) (fv : Blk R → Blk R)
    (hy : y.blocks = adict (a.blocks.map (fun sb => (fk sb.1, fv sb.2))))
    (hyp : y.phases = []) (hab : a.phases = []) (hnd : a.sectors.Nodup)
    (hinj : ∀ t ∈ a.sectors, ∀ t' ∈ a.sectors, fk t = fk t' → t = t')
    {s : Sector} (hinjs : ∀ t ∈ a.sectors, fk t = fk s → t = s) {off off' : List Nat}
    (hget : ∀ b, alookup a.blocks s = some b → (fv b).get off' = b.get off) :
    y.elem (fk s) off' = a.elem s off := by
  have hkeys : ((a.blocks.map (fun sb => (fk sb.1, fv sb.2))).map (·.1)).Nodup := by
    rw [List.map_map]
    have := List.Nodup.map_on hinj hnd
    rwa [sectors, List.map_map] at this
  rw [elem_of_phases_nil hyp, elem_of_phases_nil hab, hy, adict_of_nodup _ hkeys,
    alookup_map_inj a.blocks _ fk fv (fun _ => rfl) s hinjs]
  cases hb : alookup a.blocks s with
  | none => rfl
  | some b => exact hget b hb

theorem transposeA_elem [Zero R] [Neg R] (a : Arr R) (axes : List Nat)
    (hperm : isPerm axes a.ndim = true) (hab : a.phases = []) (hnd : a.sectors.Nodup)
    (hlen : ∀ s ∈ a.sectors, s.length = a.ndim)
    (hshape : ∀ s b, alookup a.blocks s = some b → b.shape.length = a.ndim)
    (s : Sector) (hs : s.length = a.ndim) (off : List Nat)
    (hoff : ∀ b, alookup a.blocks s = some b → inBox b.shape off = true) :
    (transposeA a axes).elem (permuted s axes) (permuted off axes) = a.elem s off :=
  elem_rekey (y := transposeA a axes) (fun s => permuted s axes) (fun b => b.transposeK axes) rfl
    hab hab hnd
    (fun x hx y hy hxy => permuted_inj hperm (hlen x hx) (hlen y hy) hxy)
    (fun k hk hkk => permuted_inj hperm (hlen k hk) hs hkk)
    (fun b hb => Blk.get_transposeK b axes (by rw [hshape s b hb]; exact hperm) (hoff b hb))

end Arr

section ainsert
variable {κ β : Type} [BEq κ] [LawfulBEq κ]

theorem keys_ainsert (l : List (κ × β)) (k : κ) (v : β) :
    (k ∈ l.map (·.1) ∧ (ainsert l k v).map (·.1) = l.map (·.1))
    ∨ (k ∉ l.map (·.1) ∧ (ainsert l k v).map (·.1) = l.map (·.1) ++ [k]) := by
  induction l with
  | nil => right; simp [ainsert]
  | cons q l ih =>
    obtain ⟨k0, v0⟩ := q
    by_cases e : k0 = k
    · subst e; left; simp [ainsert]
    · have e' : ¬ k = k0 := fun h => e h.symm
      rcases ih with ⟨h1, h2⟩ | ⟨h1, h2⟩
      · left; simp [ainsert, e, h1, h2]
      · right; simp [ainsert, e, e', h1, h2]

theorem nodup_keys_ainsert {l : List (κ × β)} (h : (l.map (·.1)).Nodup) (k : κ) (v : β) :
    ((ainsert l k v).map (·.1)).Nodup := by
  rcases keys_ainsert l k v with ⟨_, h2⟩ | ⟨h1, h2⟩
  · rw [h2]; exact h
  · rw [h2, List.nodup_append]
    exact ⟨h, by simp, fun a ha b hb => by
      simp only [List.mem_singleton] at hb; subst hb; exact fun e => h1 (e ▸ ha)⟩

theorem mem_iff_alookup {l : List (κ × β)} (h : (l.map (·.1)).Nodup) {k : κ} {v : β} :
    (k, v) ∈ l ↔ alookup l k = some v :=
  ⟨alookup_of_mem_nodup h, alookup_some_mem⟩

end ainsert

section groups

/-- one step of `chargeGroups` -/
def cgStep (acc : List (Charge × List Nat)) (ci : Charge × Nat) : List (Charge × List Nat) :=
  match alookup acc ci.1 with
  | none => acc ++ [(ci.1, [ci.2])]
  | some l => ainsert acc ci.1 (l ++ [ci.2])

theorem chargeGroups_eq_foldl (labels : List Charge) :
    chargeGroups labels = labels.zipIdx.foldl cgStep [] := by
  unfold chargeGroups
  congr 1

theorem cgStep_eq (acc : List (Charge × List Nat)) (c : Charge) (i : Nat) :
    cgStep acc (c, i) = ainsert acc c ((alookup acc c).getD [] ++ [i]) := by
  simp only [cgStep]
  cases h : alookup acc c with
  | none =>
    simp only [Option.getD_none, List.nil_append]
    rw [ainsert_of_not_mem _ _ _ (alookup_eq_none_iff.mp h)]
  | some l => rfl

theorem totalLen_ainsert (acc : List (Charge × List Nat)) (c : Charge) (v : List Nat) :
    sumN ((ainsert acc c v).map (fun cl => cl.2.length)) + ((alookup acc c).getD []).length
      = sumN (acc.map (fun cl => cl.2.length)) + v.length := by
  induction acc with
  | nil => simp [ainsert, sumN]
  | cons q acc ih =>
    obtain ⟨c0, l0⟩ := q
    by_cases e : c0 = c
    · subst e; simp only [ainsert, beq_self_eq_true, if_true, List.map_cons, sumN,
        alookup_cons_self, Option.getD_some]; omega
    · have : (c0 == c) = false := by simpa using e
      simp only [ainsert, this, Bool.false_eq_true, if_false, List.map_cons, sumN,
        alookup_cons_ne e]
      omega

/-- what `chargeGroups` has computed after reading the first `k` labels -/
structure CgInv (labels : List Charge) (k : Nat) (acc : List (Charge × List Nat)) : Prop where
  nodup : (acc.map (·.1)).Nodup
  label : ∀ c l, alookup acc c = some l → ∀ i ∈ l, labels[i]? = some c ∧ i < k
  sorted : ∀ c l, alookup acc c = some l → l.Pairwise (· < ·)
  cover : ∀ i c, i < k → labels[i]? = some c → ∃ l, alookup acc c = some l ∧ i ∈ l
  total : sumN (acc.map (fun cl => cl.2.length)) = k
  nonempty : ∀ c l, alookup acc c = some l → l ≠ []

theorem cgInv_step {labels : List Charge} {k : Nat} {acc : List (Charge × List Nat)}
    (h : CgInv labels k acc) {c : Charge} (hc : labels[k]? = some c) :
    CgInv labels (k + 1) (cgStep acc (c, k)) := by
  rw [cgStep_eq]
  have hold : ∀ i ∈ (alookup acc c).getD [], labels[i]? = some c ∧ i < k := by
    intro i hi
    cases hl : alookup acc c with
    | none => simp [hl] at hi
    | some l => rw [hl] at hi; exact h.label c l hl i hi
  refine ⟨nodup_keys_ainsert h.nodup _ _, ?_, ?_, ?_, ?_, ?_⟩
  · intro c' l' hl' i hi
    by_cases e : c = c'
    · subst e
      rw [alookup_ainsert_self] at hl'
      injection hl' with hl'; subst hl'
      rcases List.mem_append.mp hi with hi | hi
      · exact ⟨(hold i hi).1, by have := (hold i hi).2; omega⟩
      · simp only [List.mem_singleton] at hi; subst hi; exact ⟨hc, by omega⟩
    · rw [alookup_ainsert_ne _ e] at hl'
      have := h.label c' l' hl' i hi
      exact ⟨this.1, by omega⟩
  · intro c' l' hl'
    by_cases e : c = c'
    · subst e
      rw [alookup_ainsert_self] at hl'
      injection hl' with hl'; subst hl'
      rw [List.pairwise_append]
      refine ⟨?_, by simp, fun a ha b hb => ?_⟩
      · cases hl : alookup acc c with
        | none => simp
        | some l => exact h.sorted c l hl
      · simp only [List.mem_singleton] at hb; subst hb; exact (hold a ha).2
    · rw [alookup_ainsert_ne _ e] at hl'; exact h.sorted c' l' hl'
  · intro i c' hi hci
    by_cases e : c = c'
    · subst e
      refine ⟨_, alookup_ainsert_self _ _ _, ?_⟩
      by_cases hik : i = k
      · subst hik; simp
      · obtain ⟨l, hl, hm⟩ := h.cover i c (by omega) hci
        simp [hl, hm]
    · have hik : i ≠ k := by
        intro hik; subst hik; rw [hc] at hci; exact e (Option.some.inj hci)
      obtain ⟨l, hl, hm⟩ := h.cover i c' (by omega) hci
      exact ⟨l, by rw [alookup_ainsert_ne _ e]; exact hl, hm⟩
  · have := totalLen_ainsert acc c ((alookup acc c).getD [] ++ [k])
    rw [h.total] at this
    simp only [List.length_append, List.length_singleton] at this
    omega
  · intro c' l' hl'
    by_cases e : c = c'
    · subst e
      rw [alookup_ainsert_self] at hl'
      injection hl' with hl'; subst hl'; simp
    · rw [alookup_ainsert_ne _ e] at hl'; exact h.nonempty c' l' hl'

theorem cgInv_fold {labels : List Charge} (rest : List Charge) (k : Nat)
    (acc : List (Charge × List Nat)) (hrest : labels.drop k = rest) (hk : k ≤ labels.length)
    (h : CgInv labels k acc) :
    CgInv labels labels.length ((rest.zipIdx k).foldl cgStep acc) := by
  induction rest generalizing k acc with
  | nil =>
    have : k = labels.length := by
      have := congrArg List.length hrest
      simp only [List.length_drop, List.length_nil] at this; omega
    subst this; exact h
  | cons c rest ih =>
    have hlen : k < labels.length := by
      have := congrArg List.length hrest
      simp only [List.length_drop, List.length_cons] at this; omega
    have hc : labels[k]? = some c := by
      have := congrArg (fun l => l[0]?) hrest
      simpa using this
    simp only [List.zipIdx_cons, List.foldl_cons]
    refine ih (k + 1) _ ?_ (by omega) (cgInv_step h hc)
    rw [← List.drop_drop, hrest]; rfl

theorem chargeGroups_inv (labels : List Charge) :
    CgInv labels labels.length (chargeGroups labels) := by
  rw [chargeGroups_eq_foldl]
  refine cgInv_fold labels 0 [] rfl (by omega) ⟨by simp, ?_, ?_, ?_, rfl, ?_⟩
  · intro c l h; simp at h
  · intro c l h; simp at h
  · intro i c h; omega
  · intro c l h; simp at h

end groups

section fromDense
variable {R : Type}

/-- (charge, number of positions) along one dense axis, first-appearance order -/
def gsizes (labels : List Charge) : List (Charge × Nat) :=
  (chargeGroups labels).map (fun (c, l) => (c, l.length))

/-- positions (per axis) that the sector's charges occupy in the dense array -/
def fdPos (maps : List (List Charge)) (sector : Sector) : List (List Nat) :=
  List.zipWith (fun g c => (alookup g c).getD []) (maps.map chargeGroups) sector

/-- the block `from_dense` cuts out for a sector -/
def fdBlock [Zero R] (dense : Blk R) (maps : List (List Charge)) (sector : Sector) : Blk R :=
  Blk.ofFn ((fdPos maps sector).map List.length)
    (fun i => dense.get (List.zipWith (fun (p : List Nat) k => p.getD k 0) (fdPos maps sector) i))

/-- all combinations of the charges present on each axis -/
def fdSectors (maps : List (List Charge)) : List Sector :=
  cartesian ((maps.map chargeGroups).map (fun g => g.map (·.1)))

def fdBlocks [Zero R] (sym : Sym) (dense : Blk R) (maps : List (List Charge)) (duals : List Bool)
    (c : Charge) : List (Sector × Blk R) :=
  (fdSectors maps).filterMap (fun sector =>
    if Arr.sectorCharge sym duals sector == c then some (sector, fdBlock dense maps sector) else none)

def fdIndices (maps : List (List Charge)) (duals : List Bool) : List Index :=
  List.zipWith (fun m d => Index.plain (gsizes m) d) maps duals

/-- `from_dense` = the direct constructor on the sorted group sizes and the charge-conserving
    blocks cut out of the dense array (when the arguments have consistent lengths) -/
theorem fromDense_eq [Zero R] (sym : Sym) (fermi : Bool) (dense : Blk R) (maps : List (List Charge))
    (duals : List Bool) (charge : Option Charge) (oddpos : List (Int × Bool))
    (hm : maps.length = dense.shape.length) (hd : duals.length = dense.shape.length)
    (hl : (List.zipWith (fun (m : List Charge) d => m.length != d) maps dense.shape).any id = false) :
    fromDense sym fermi dense maps duals charge oddpos =
      construct sym fermi (fdIndices maps duals) (some (charge.getD sym.zero))
        (fdBlocks sym dense maps duals (charge.getD sym.zero)) oddpos := by
  unfold fromDense
  simp only [bind, Except.bind]
  rw [if_neg (by simp [hm, hd]), if_neg (by simp [hl])]
  simp only [fdIndices, fdBlocks, fdSectors, fdBlock, fdPos, gsizes, List.zipWith_map_left]

theorem fromDense_error_index [Zero R] (sym : Sym) (fermi : Bool) (dense : Blk R)
    (maps : List (List Charge)) (duals : List Bool) (charge : Option Charge)
    (oddpos : List (Int × Bool))
    (h : maps.length ≠ dense.shape.length ∨ duals.length ≠ dense.shape.length) :
    fromDense sym fermi dense maps duals charge oddpos = .error Err.index := by
  unfold fromDense
  simp only [bind, Except.bind]
  rw [if_pos (by simpa using h)]
  rfl

theorem fromDense_error_key [Zero R] (sym : Sym) (fermi : Bool) (dense : Blk R)
    (maps : List (List Charge)) (duals : List Bool) (charge : Option Charge)
    (oddpos : List (Int × Bool))
    (hm : maps.length = dense.shape.length) (hd : duals.length = dense.shape.length)
    (hl : (List.zipWith (fun (m : List Charge) d => m.length != d) maps dense.shape).any id = true) :
    fromDense sym fermi dense maps duals charge oddpos = .error Err.key := by
  unfold fromDense
  simp only [bind, Except.bind]
  rw [if_neg (by simp [hm, hd]), if_pos hl]
  rfl

theorem labels_length_of_guard {maps : List (List Charge)} {shape : List Nat}
    (hm : maps.length = shape.length)
    (hl : (List.zipWith (fun (m : List Charge) d => m.length != d) maps shape).any id = false) :
    maps.map List.length = shape := by
  induction maps generalizing shape with
  | nil => cases shape with
    | nil => rfl
    | cons d ds => simp at hm
  | cons m maps ih =>
    cases shape with
    | nil => simp at hm
    | cons d ds =>
      simp only [List.zipWith_cons_cons, List.any_cons, id, Bool.or_eq_false_iff, bne_eq_false_iff_eq] at hl
      simp only [List.map_cons, hl.1, ih (by simpa using hm) hl.2]

/-- sorted position ↦ original position along one axis: the `o`-th position (in increasing
    order) among those carrying the located charge -/
def origPos (labels : List Charge) (q : Nat) : Nat :=
  match Arr.locate (Index.sortCm (gsizes labels)) q with
  | some (c, o) => ((alookup (chargeGroups labels) c).getD []).getD o 0
  | none => 0

def origAll (maps : List (List Charge)) (p : List Nat) : List Nat := List.zipWith origPos maps p

/-- the charge labels found at a dense multi-index -/
def labelsAt (maps : List (List Charge)) (r : List Nat) : Sector :=
  List.zipWith (fun (m : List Charge) i => m.getD i (0, 0)) maps r

theorem mem_gsizes {labels : List Charge} {c : Charge} {d : Nat} :
    (c, d) ∈ gsizes labels ↔ ∃ l, alookup (chargeGroups labels) c = some l ∧ l.length = d := by
  have hnd := (chargeGroups_inv labels).nodup
  simp only [gsizes, List.mem_map, Prod.mk.injEq]
  constructor
  · rintro ⟨⟨c', l⟩, hm, rfl, rfl⟩
    exact ⟨l, (mem_iff_alookup hnd).mp hm, rfl⟩
  · rintro ⟨l, hl, rfl⟩
    exact ⟨(c, l), (mem_iff_alookup hnd).mpr hl, rfl, rfl⟩

theorem keys_gsizes (labels : List Charge) :
    (gsizes labels).map (·.1) = (chargeGroups labels).map (·.1) := by
  simp [gsizes, List.map_map, Function.comp_def]

theorem sumN_gsizes (labels : List Charge) : sumN ((gsizes labels).map (·.2)) = labels.length := by
  have := (chargeGroups_inv labels).total
  simpa [gsizes, List.map_map, Function.comp_def] using this

theorem origPos_spec (labels : List Charge) {q : Nat} {c : Charge} {o : Nat}
    (h : Arr.locate (Index.sortCm (gsizes labels)) q = some (c, o)) :
    ∃ l, alookup (chargeGroups labels) c = some l ∧ ∃ ho : o < l.length,
      origPos labels q = l[o] ∧ labels[l[o]]? = some c := by
  obtain ⟨d, hm, ho⟩ := Arr.locate_spec h
  obtain ⟨l, hl, rfl⟩ := mem_gsizes.mp (mem_sortCm.mp hm)
  refine ⟨l, hl, ho, ?_, ((chargeGroups_inv labels).label c l hl _ (List.getElem_mem ho)).1⟩
  simp only [origPos, h, hl, Option.getD_some, List.getD_eq_getElem?_getD,
    List.getElem?_eq_getElem ho]

theorem sortCm_idem (cm : List (Charge × Nat)) : Index.sortCm (Index.sortCm cm) = Index.sortCm cm :=
  sortCm_of_sorted (sortCm_sorted cm)

theorem fd_locateAll (maps : List (List Charge)) (duals : List Bool) (p : List Nat)
    (sec : Sector) (off : List Nat) (hd : duals.length = maps.length) (hp : p.length = maps.length)
    (h : Arr.locateAll (fdIndices maps duals) p = some (sec, off)) :
    sec = labelsAt maps (origAll maps p)
    ∧ List.Forall₂ (fun x l => x ∈ l) sec ((maps.map chargeGroups).map (fun g => g.map (·.1)))
    ∧ inBox ((fdPos maps sec).map List.length) off = true
    ∧ List.zipWith (fun (p : List Nat) k => p.getD k 0) (fdPos maps sec) off = origAll maps p := by
  induction maps generalizing duals p sec off with
  | nil =>
    cases p with
    | cons q p => simp at hp
    | nil =>
      cases duals with
      | cons d ds => simp at hd
      | nil =>
        simp only [fdIndices, List.zipWith_nil_left, Arr.locateAll_nil_nil, Option.some.injEq,
          Prod.mk.injEq] at h
        obtain ⟨rfl, rfl⟩ := h
        exact ⟨rfl, List.Forall₂.nil, rfl, rfl⟩
  | cons m maps ih =>
    cases p with
    | nil => simp at hp
    | cons q p =>
      cases duals with
      | nil => simp at hd
      | cons d ds =>
        have hix : fdIndices (m :: maps) (d :: ds) = Index.plain (gsizes m) d :: fdIndices maps ds := rfl
        rw [hix] at h
        obtain ⟨c, o, sec', off', hco, hso, rfl, rfl⟩ := Arr.locateAll_cons_eq_some.mp h
        have hcm : (Index.plain (gsizes m) d).cm = Index.sortCm (gsizes m) := rfl
        rw [hcm, sortCm_idem] at hco
        obtain ⟨l, hl, ho, horig, hlab⟩ := origPos_spec m hco
        obtain ⟨h1, h2, h3, h4⟩ := ih ds p sec' off' (by simpa using hd) (by simpa using hp) hso
        have hpos : fdPos (m :: maps) (c :: sec') = l :: fdPos maps sec' := by
          simp [fdPos, hl]
        refine ⟨?_, ?_, ?_, ?_⟩
        · simp only [labelsAt, origAll, List.zipWith_cons_cons, List.cons.injEq]
          refine ⟨?_, h1⟩
          rw [horig, List.getD_eq_getElem?_getD, hlab]; rfl
        · simp only [List.map_cons]
          exact List.Forall₂.cons (alookup_isSome_iff.mp (by simp [hl])) h2
        · rw [hpos, List.map_cons, inBox_cons]
          exact ⟨ho, h3⟩
        · rw [hpos]
          simp only [origAll, List.zipWith_cons_cons, List.cons.injEq]
          refine ⟨?_, h4⟩
          rw [horig, List.getD_eq_getElem?_getD, List.getElem?_eq_getElem ho]; rfl

theorem shape_fdIndices (maps : List (List Charge)) (duals : List Bool)
    (hd : duals.length = maps.length) :
    (fdIndices maps duals).map Index.sizeTotal = maps.map List.length := by
  induction maps generalizing duals with
  | nil => simp [fdIndices]
  | cons m maps ih =>
    cases duals with
    | nil => simp at hd
    | cons d ds =>
      have hix : fdIndices (m :: maps) (d :: ds) = Index.plain (gsizes m) d :: fdIndices maps ds := rfl
      rw [hix, List.map_cons, List.map_cons, ih ds (by simpa using hd)]
      congr 1
      show sumN ((Index.sortCm (gsizes m)).map (·.2)) = m.length
      rw [sumN_sortCm, sumN_gsizes]

theorem noEmpty_fdIndices (maps : List (List Charge)) (duals : List Bool)
    (hne : ∀ m ∈ maps, m ≠ []) :
    (fdIndices maps duals).any (fun ix => ix.cm.isEmpty) = false := by
  rw [List.any_eq_false]
  intro ix hix
  simp only [fdIndices] at hix
  obtain ⟨i, hi, rfl⟩ := List.mem_iff_getElem.mp hix
  simp only [List.getElem_zipWith]
  simp only [List.length_zipWith] at hi
  have hil : i < maps.length := (Nat.lt_min.mp hi).1
  have hm := hne _ (List.getElem_mem hil)
  show ¬ (Index.sortCm (gsizes maps[i])).isEmpty = true
  intro he
  have h0 : Index.sortCm (gsizes maps[i]) = [] := by simpa using he
  have := sumN_sortCm (gsizes maps[i])
  rw [h0, sumN_gsizes] at this
  simp only [List.map_nil, sumN] at this
  exact hm (List.length_eq_zero_iff.mp this.symm)

section filterkeys
variable {κ β : Type} [BEq κ] [LawfulBEq κ]

theorem alookup_filterMap_keys (ks : List κ) (c : κ → Bool) (f : κ → β) (k0 : κ) (hk : k0 ∈ ks) :
    alookup (ks.filterMap (fun k => if c k = true then some (k, f k) else none)) k0
      = if c k0 = true then some (f k0) else none := by
  induction ks with
  | nil => simp at hk
  | cons k ks ih =>
    simp only [List.filterMap_cons]
    by_cases e : k = k0
    · subst e
      by_cases hc : c k = true
      · simp [hc]
      · simp only [hc, Bool.false_eq_true, if_false]
        clear ih hk
        induction ks with
        | nil => rfl
        | cons k' ks ih' =>
          simp only [List.filterMap_cons]
          by_cases e' : k' = k
          · subst e'; simp only [hc, Bool.false_eq_true, if_false]; exact ih'
          · by_cases hc' : c k' = true
            · simp only [hc', if_true, alookup_cons_ne e']; exact ih'
            · simp only [hc', Bool.false_eq_true, if_false]; exact ih'
    · have hk' : k0 ∈ ks := by
        rcases List.mem_cons.mp hk with h | h
        · exact absurd h.symm e
        · exact h
      by_cases hc : c k = true
      · simp only [hc, if_true, alookup_cons_ne e]; exact ih hk'
      · simp only [hc, Bool.false_eq_true, if_false]; exact ih hk'

omit [BEq κ] [LawfulBEq κ] in
theorem keys_filterMap_keys (ks : List κ) (c : κ → Bool) (f : κ → β) :
    (ks.filterMap (fun k => if c k = true then some (k, f k) else none)).map (·.1) = ks.filter c := by
  induction ks with
  | nil => rfl
  | cons k ks ih =>
    simp only [List.filterMap_cons, List.filter_cons]
    by_cases hc : c k = true <;> simp [hc, ih]

end filterkeys

theorem fdSectors_nodup (maps : List (List Charge)) : (fdSectors maps).Nodup := by
  apply cartesian_nodup
  intro l hl
  simp only [List.map_map, List.mem_map, Function.comp] at hl
  obtain ⟨m, _, rfl⟩ := hl
  exact (chargeGroups_inv m).nodup

theorem fdBlocks_keys [Zero R] (sym : Sym) (dense : Blk R) (maps : List (List Charge))
    (duals : List Bool) (c : Charge) :
    (fdBlocks sym dense maps duals c).map (·.1)
      = (fdSectors maps).filter (fun s => Arr.sectorCharge sym duals s == c) :=
  keys_filterMap_keys _ _ _

theorem fdBlocks_nodup [Zero R] (sym : Sym) (dense : Blk R) (maps : List (List Charge))
    (duals : List Bool) (c : Charge) : ((fdBlocks sym dense maps duals c).map (·.1)).Nodup := by
  rw [fdBlocks_keys]; exact (fdSectors_nodup maps).filter _

theorem locate_mono {cm : List (Charge × Nat)}
    (hs : (cm.map (·.1)).Pairwise (fun a b => Charge.lt a b = true)) {q q' : Nat} (hq : q < q')
    {c c' : Charge} {o o' : Nat} (h : Arr.locate cm q = some (c, o))
    (h' : Arr.locate cm q' = some (c', o')) :
    Charge.lt c c' = true ∨ (c = c' ∧ o < o') := by
  induction cm generalizing q q' with
  | nil => simp [Arr.locate] at h
  | cons kd rest ih =>
    obtain ⟨k, d⟩ := kd
    simp only [List.map_cons, List.pairwise_cons] at hs
    simp only [Arr.locate] at h h'
    by_cases h1 : q < d
    · rw [if_pos h1] at h
      simp only [Option.some.injEq, Prod.mk.injEq] at h
      obtain ⟨rfl, rfl⟩ := h
      by_cases h2 : q' < d
      · rw [if_pos h2] at h'
        simp only [Option.some.injEq, Prod.mk.injEq] at h'
        obtain ⟨rfl, rfl⟩ := h'
        exact Or.inr ⟨rfl, hq⟩
      · rw [if_neg h2] at h'
        exact Or.inl (hs.1 c' (Arr.locate_mem_keys h'))
    · rw [if_neg h1] at h
      rw [if_neg (by omega)] at h'
      exact ih hs.2 (by omega) h h'

theorem gsizes_sorted_strict (labels : List Charge) :
    ((Index.sortCm (gsizes labels)).map (·.1)).Pairwise (fun a b => Charge.lt a b = true) :=
  sortCm_strict (by rw [keys_gsizes]; exact (chargeGroups_inv labels).nodup)

theorem locate_gsizes_isSome (labels : List Charge) {q : Nat} (hq : q < labels.length) :
    ∃ c o, Arr.locate (Index.sortCm (gsizes labels)) q = some (c, o) :=
  Arr.locate_isSome (by rw [sumN_sortCm, sumN_gsizes]; exact hq)

theorem origPos_lt (labels : List Charge) {q : Nat} (hq : q < labels.length) :
    origPos labels q < labels.length := by
  obtain ⟨c, o, h⟩ := locate_gsizes_isSome labels hq
  obtain ⟨l, _, ho, horig, hlab⟩ := origPos_spec labels h
  rw [horig]
  by_contra hn
  rw [List.getElem?_eq_none (by omega)] at hlab
  simp at hlab

/-- the labels read at `origPos 0, origPos 1, …` are sorted by charge, and positions with equal
    labels keep their original order (stability); in particular `origPos` is injective -/
theorem origPos_sorted_stable (labels : List Charge) {q q' : Nat} (hq : q < q')
    (hq' : q' < labels.length) :
    let c := labels.getD (origPos labels q) (0, 0)
    let c' := labels.getD (origPos labels q') (0, 0)
    Charge.lt c c' = true ∨ (c = c' ∧ origPos labels q < origPos labels q') := by
  obtain ⟨c, o, h⟩ := locate_gsizes_isSome labels (show q < labels.length by omega)
  obtain ⟨c', o', h'⟩ := locate_gsizes_isSome labels hq'
  obtain ⟨l, hl, ho, horig, hlab⟩ := origPos_spec labels h
  obtain ⟨l', hl', ho', horig', hlab'⟩ := origPos_spec labels h'
  simp only [horig, horig', List.getD_eq_getElem?_getD, hlab, hlab', Option.getD_some]
  rcases locate_mono (gsizes_sorted_strict labels) hq h h' with hlt | ⟨rfl, hoo⟩
  · exact Or.inl hlt
  · right
    rw [hl] at hl'; injection hl' with hl'; subst hl'
    exact ⟨rfl, List.pairwise_iff_getElem.mp ((chargeGroups_inv labels).sorted c l hl) o o' ho ho' hoo⟩

theorem origPos_injective (labels : List Charge) {q q' : Nat} (hq : q < labels.length)
    (hq' : q' < labels.length) (h : origPos labels q = origPos labels q') : q = q' := by
  rcases Nat.lt_trichotomy q q' with hlt | heq | hgt
  · rcases origPos_sorted_stable labels hlt hq' with h1 | ⟨_, h2⟩
    · rw [h, Charge.lt_irrefl] at h1; cases h1
    · omega
  · exact heq
  · rcases origPos_sorted_stable labels hgt hq with h1 | ⟨_, h2⟩
    · rw [h, Charge.lt_irrefl] at h1; cases h1
    · omega

end fromDense

section valid
variable {R : Type}

theorem pairwise_of_isSortedStrict {l : List Charge} (h : isSortedStrict Charge.lt l = true) :
    l.Pairwise (fun a b => Charge.lt a b = true) := by
  induction l with
  | nil => exact List.Pairwise.nil
  | cons a l ih =>
    cases l with
    | nil => simp
    | cons b l =>
      simp only [isSortedStrict, Bool.and_eq_true] at h
      have ih' := ih h.2
      rw [List.pairwise_cons] at ih' ⊢
      refine ⟨fun x hx => ?_, List.pairwise_cons.mpr ih'⟩
      rcases List.mem_cons.mp hx with rfl | hx
      · exact h.1
      · exact Charge.lt_trans h.1 (ih'.1 x hx)

theorem nodup_of_pairwise_lt {l : List Charge} (h : l.Pairwise (fun a b => Charge.lt a b = true)) :
    l.Nodup :=
  h.imp (fun {a b} hab e => by subst e; rw [Charge.lt_irrefl] at hab; cases hab)

theorem wfB_of_wfListB {sym : Sym} {idx : List Index} (h : Index.wfListB sym idx = true) :
    ∀ ix ∈ idx, Index.wfB sym ix = true := Index.wfListB_iff.mp h

theorem sorted_of_wfB {sym : Sym} {ix : Index} (h : Index.wfB sym ix = true) :
    (ix.cm.map (·.1)).Pairwise (fun a b => Charge.lt a b = true) :=
  pairwise_of_isSortedStrict (Index.wfB_cm h).1

theorem pos_of_wfB {sym : Sym} {ix : Index} (h : Index.wfB sym ix = true) :
    ∀ cd ∈ ix.cm, 0 < cd.2 := fun cd hcd => ((Index.wfB_cm h).2 cd hcd).1

theorem validB_pos (a : Arr R) (h : a.validB = true) : ∀ ix ∈ a.indices, ∀ cd ∈ ix.cm, 0 < cd.2 :=
  fun ix hix => pos_of_wfB (wfB_of_wfListB (Arr.validB_indices h) ix hix)

theorem Arr.validB_keys_sorted {a : Arr R} (hv : a.validB = true) :
    ∀ ix ∈ a.indices, (ix.cm.map (·.1)).Pairwise (fun a b => Charge.lt a b = true) :=
  fun ix hix => sorted_of_wfB (wfB_of_wfListB (Arr.validB_indices hv) ix hix)

theorem Arr.validB_shapesOk {a : Arr R} (hv : a.validB = true) : Arr.ShapesOk a :=
  ⟨fun ix hix => nodup_of_pairwise_lt (Arr.validB_keys_sorted hv ix hix),
    fun _ _ hb => Arr.validB_block_shape hv (alookup_some_mem hb)⟩

theorem Arr.validB_length {a : Arr R} (hv : a.validB = true) :
    ∀ s ∈ a.sectors, s.length = a.ndim := by
  intro s hs
  obtain ⟨p, hm, rfl⟩ := List.mem_map.mp hs
  exact Arr.validB_block_len hv hm

theorem Arr.validB_isValidSector {a : Arr R} (hv : a.validB = true) :
    ∀ s ∈ a.sectors, a.isValidSector s = true := by
  intro s hs
  obtain ⟨p, hm, rfl⟩ := List.mem_map.mp hs
  exact Arr.validB_block_sector hv hm

theorem validB_facts (a : Arr R) (h : a.validB = true) :
    Arr.ShapesOk a ∧ a.sectors.Nodup ∧ (∀ s ∈ a.sectors, s.length = a.ndim)
    ∧ (∀ s ∈ a.sectors, a.isValidSector s = true)
    ∧ (∀ ix ∈ a.indices, (ix.cm.map (·.1)).Pairwise (fun a b => Charge.lt a b = true))
    ∧ (a.fermi = false → a.phases = []) :=
  ⟨Arr.validB_shapesOk h, Arr.validB_nodup h, Arr.validB_length h, Arr.validB_isValidSector h,
    Arr.validB_keys_sorted h, Arr.phases_nil_of_validB h⟩

end valid

/-! ## the dense view of an abelian array

  `toDenseA_val` reads a dense entry as a value view; here the converse direction (every stored
  address is the address of a position) and what follows from the two: an operation that moves
  stored entries between stored addresses moves the dense entries between the located positions
  (`dense_relocate`); its public form is `Dense6.Img` below. -/

namespace Arr
variable {R : Type}

theorem locateAll_surj {idx : List Index} (hnd : ∀ ix ∈ idx, (ix.cm.map (·.1)).Nodup)
    {s : Sector} {shp off : List Nat} (hs : blockShape? idx s = some shp)
    (ho : inBox shp off = true) :
    ∃ p, inBox (idx.map Index.sizeTotal) p = true ∧ locateAll idx p = some (s, off) := by
  induction idx generalizing s shp off with
  | nil =>
    cases s with
    | nil =>
      cases hs
      cases off with
      | nil => exact ⟨[], rfl, rfl⟩
      | cons o off => simp [inBox] at ho
    | cons c s => simp [blockShape?] at hs
  | cons ix idx ih =>
    cases s with
    | nil => simp [blockShape?] at hs
    | cons c s =>
      obtain ⟨dd, shp', hd, hr, rfl⟩ := blockShape?_cons_eq_some.mp hs
      cases off with
      | nil => simp [inBox] at ho
      | cons o off =>
        rw [inBox_cons] at ho
        obtain ⟨p, hp, hl⟩ := ih (fun ix' h' => hnd ix' (by simp [h'])) hr ho.2
        have hmem : (c, dd) ∈ Index.sortCm ix.cm := mem_sortCm.mpr (alookup_some_mem hd)
        obtain ⟨q, hq⟩ := position_isSome (nodup_keys_sortCm (hnd ix (by simp))) hmem ho.1
        have hloc := locate_position hq
        have hlt := locate_lt hloc
        rw [sumN_sortCm] at hlt
        refine ⟨q :: p, ?_, ?_⟩
        · rw [List.map_cons, inBox_cons]; exact ⟨hlt, hp⟩
        · rw [locateAll_cons, hloc, hl]; rfl

/-- `(s, off)` is the address of a stored entry -/
def StoredAt (a : Arr R) (s : Sector) (off : List Nat) : Prop :=
  ∃ b, alookup a.blocks s = some b ∧ inBox b.shape off = true

/-- what the dense form of an abelian array is read through: tables without repeated charges,
    blocks of the tables' shapes, no pending sign, no empty table -/
structure DenseOk (a : Arr R) : Prop where
  shapes : ShapesOk a
  phases : a.phases = []
  noEmpty : a.indices.any (fun ix => ix.cm.isEmpty) = false

theorem DenseOk.of_validB {a : Arr R} (hv : a.validB = true) (hf : a.fermi = false)
    (hne : a.indices.any (fun ix => ix.cm.isEmpty) = false) : DenseOk a :=
  ⟨validB_shapesOk hv, phases_nil_of_validB hv hf, hne⟩

theorem StoredAt.mem {a : Arr R} {s : Sector} {off : List Nat} (h : StoredAt a s off) :
    s ∈ a.sectors := by
  obtain ⟨b, hb, _⟩ := h
  rw [Arr.sectors, ← alookup_isSome_iff, hb]; rfl

theorem DenseOk.storedAt {a : Arr R} (h : DenseOk a) {p : List Nat} (hp : inBox a.shape p = true)
    {s : Sector} {off : List Nat} (hl : locateAll a.indices p = some (s, off))
    (hs : s ∈ a.sectors) : StoredAt a s off := by
  obtain ⟨b, hb⟩ := Option.isSome_iff_exists.mp (alookup_isSome_iff.mpr hs)
  exact ⟨b, hb, h.shapes.inBox hp hl hb⟩

theorem DenseOk.exists_pos {a : Arr R} (h : DenseOk a) {s : Sector} {off : List Nat}
    (hst : StoredAt a s off) :
    ∃ p, inBox a.shape p = true ∧ locateAll a.indices p = some (s, off) := by
  obtain ⟨b, hb, ho⟩ := hst
  exact locateAll_surj h.shapes.1 (h.shapes.2 s b hb) ho

section
variable [Zero R] [Neg R] {a y : Arr R} {d dA dY : Blk R}

theorem DenseOk.elem_eq (h : DenseOk a) {s : Sector} {b : Blk R} (hb : alookup a.blocks s = some b)
    (off : List Nat) : a.elem s off = b.get off := by
  rw [Arr.elem_of_phases_nil h.phases, hb]

theorem DenseOk.get_eq_zero (h : DenseOk a) (hd : toDenseA a = .ok d) {p : List Nat}
    (hp : inBox a.shape p = true) {s : Sector} {off : List Nat}
    (hl : locateAll a.indices p = some (s, off)) (hs : s ∉ a.sectors) : d.get p = 0 := by
  rw [toDenseA_val hd hp hl, Arr.elem_of_phases_nil h.phases, alookup_eq_none_iff.mpr hs]

/-- **relocation.**  A map between stored addresses that keeps the value (or sends the address
    nowhere when the value is `0`) lifts to the dense forms: every position of `a` holds `0` or
    has an image position in `y`, of a stored sector, holding the same entry, the two addresses
    being related.  Used in both directions of fuse and unfuse. -/
theorem dense_relocate (ha : DenseOk a) (hy : DenseOk y) (hdA : toDenseA a = .ok dA)
    (hdY : toDenseA y = .ok dY) (Rel : Sector → List Nat → Sector → List Nat → Prop)
    {p : List Nat} (hp : inBox a.shape p = true) {s : Sector} {off : List Nat}
    (hl : locateAll a.indices p = some (s, off))
    (h : StoredAt a s off → a.elem s off = 0 ∨
      ∃ ns i, StoredAt y ns i ∧ Rel s off ns i ∧ y.elem ns i = a.elem s off) :
    dA.get p = 0 ∨ ∃ P ns i, inBox y.shape P = true ∧ locateAll y.indices P = some (ns, i)
      ∧ s ∈ a.sectors ∧ ns ∈ y.sectors ∧ Rel s off ns i ∧ dY.get P = dA.get p := by
  by_cases hs : s ∈ a.sectors
  · rw [toDenseA_val hdA hp hl]
    rcases h (ha.storedAt hp hl hs) with h0 | ⟨ns, i, hst, hrel, hval⟩
    · exact Or.inl h0
    · obtain ⟨P, hP, hlP⟩ := hy.exists_pos hst
      exact Or.inr ⟨P, ns, i, hP, hlP, hs, hst.mem, hrel, by rw [toDenseA_val hdY hP hlP, hval]⟩
  · exact Or.inl (ha.get_eq_zero hdA hp hl hs)

theorem dense_relocate_stored (ha : DenseOk a) (hy : DenseOk y) (hdA : toDenseA a = .ok dA)
    (hdY : toDenseA y = .ok dY) (Rel : Sector → List Nat → Sector → List Nat → Prop)
    {p : List Nat} (hp : inBox a.shape p = true) {s : Sector} {off : List Nat}
    (hl : locateAll a.indices p = some (s, off)) (hs : s ∈ a.sectors)
    (h : StoredAt a s off →
      ∃ ns i, StoredAt y ns i ∧ Rel s off ns i ∧ y.elem ns i = a.elem s off) :
    ∃ P ns i, inBox y.shape P = true ∧ locateAll y.indices P = some (ns, i)
      ∧ ns ∈ y.sectors ∧ Rel s off ns i ∧ dY.get P = dA.get p := by
  obtain ⟨ns, i, hst, hrel, hval⟩ := h (ha.storedAt hp hl hs)
  obtain ⟨P, hP, hlP⟩ := hy.exists_pos hst
  exact ⟨P, ns, i, hP, hlP, hst.mem, hrel,
    by rw [toDenseA_val hdY hP hlP, hval, toDenseA_val hdA hp hl]⟩

end
end Arr

/-! ## images: the public form of relocation

  `Dense6.Img a y Rel` is what an operation that moves stored entries (fuse, unfuse, the steps of a
  reshape plan) should be shown to produce: it composes (`Img.comp`), and it follows from
  value-keeping maps between the stored addresses (`img_of_addr`, over `Arr.dense_relocate`). -/

namespace Dense6
open Arr

variable {R : Type}

section
variable [Zero R] [Neg R]

/-- the dense form of `y` is the image of the dense form of `a` under the position relation `Rel`:
    every NON-ZERO entry of `dense a` has a `Rel`-image in `dense y` holding the same entry, and
    every entry of `dense y` is `0` or such an image -/
def Img (a y : Arr R) (Rel : List Nat → List Nat → Prop) : Prop :=
  ∃ dA dY, toDenseA a = .ok dA ∧ toDenseA y = .ok dY ∧ dA.shape = a.shape ∧ dY.shape = y.shape
    ∧ (∀ p, inBox a.shape p = true → dA.get p ≠ 0 →
        ∃ P, inBox y.shape P = true ∧ Rel p P ∧ dY.get P = dA.get p)
    ∧ (∀ P, inBox y.shape P = true → dY.get P = 0 ∨
        ∃ p, inBox a.shape p = true ∧ Rel p P ∧ dY.get P = dA.get p)

theorem Img.refl (a : Arr R) (hne : a.indices.any (fun ix => ix.cm.isEmpty) = false) : Img a a (fun p P => p = P) := by
  obtain ⟨d, hd, hs, _⟩ := toDenseA_get a hne
  exact ⟨d, d, hd, hd, hs, hs, fun p hp _ => ⟨p, hp, rfl, rfl⟩, fun P hP => Or.inr ⟨P, hP, rfl, rfl⟩⟩

theorem Img.comp {a x y : Arr R} {R1 R2 : List Nat → List Nat → Prop} (h1 : Img a x R1)
    (h2 : Img x y R2) : Img a y (fun p P => ∃ P1, R1 p P1 ∧ R2 P1 P) := by
  obtain ⟨dA, dX, e1, e2, s1, s2, f1, b1⟩ := h1
  obtain ⟨dX', dY, e3, e4, s3, s4, f2, b2⟩ := h2
  rw [e2] at e3; injection e3 with e3; subst e3
  refine ⟨dA, dY, e1, e4, s1, s4, ?_, ?_⟩
  · intro p hp hnz
    obtain ⟨P1, hP1, r1, v1⟩ := f1 p hp hnz
    obtain ⟨P, hP, r2, v2⟩ := f2 P1 hP1 (by rw [v1]; exact hnz)
    exact ⟨P, hP, ⟨P1, r1, r2⟩, by rw [v2, v1]⟩
  · intro P hP
    rcases b2 P hP with h0 | ⟨P1, hP1, r2, v2⟩
    · exact Or.inl h0
    · rcases b1 P1 hP1 with h0 | ⟨p, hp, r1, v1⟩
      · left; rw [v2, h0]
      · exact Or.inr ⟨p, hp, ⟨P1, r1, r2⟩, by rw [v2, v1]⟩

/-- **images from addresses.**  A value-keeping map of the stored addresses of `a` into those of
    `y` and one back (up to entries that are `0`), both inside the address relation `Rel`, make the
    dense form of `y` the image of that of `a` under any position relation `PRel` that holds
    between positions of stored sectors with `Rel`-related addresses. -/
theorem img_of_addr {a y : Arr R} (ha : DenseOk a) (hy : DenseOk y)
    (Rel : Sector → List Nat → Sector → List Nat → Prop) (PRel : List Nat → List Nat → Prop)
    (hrel : ∀ {p P s off ns i}, locateAll a.indices p = some (s, off) → s ∈ a.sectors →
      locateAll y.indices P = some (ns, i) → ns ∈ y.sectors → Rel s off ns i → PRel p P)
    (fwd : ∀ s off, StoredAt a s off →
      ∃ ns i, StoredAt y ns i ∧ Rel s off ns i ∧ y.elem ns i = a.elem s off)
    (bwd : ∀ ns i, StoredAt y ns i → y.elem ns i = 0 ∨
      ∃ s off, StoredAt a s off ∧ Rel s off ns i ∧ a.elem s off = y.elem ns i) :
    Img a y PRel := by
  have hdA := toDenseA_eq a false ha.noEmpty
  have hdY := toDenseA_eq y false hy.noEmpty
  refine ⟨_, _, hdA, hdY, rfl, rfl, fun p hp hnz => ?_, fun P hP => ?_⟩
  · obtain ⟨s, off, hl⟩ := locateAll_isSome (idx := a.indices) (p := p) hp
    have hs : s ∈ a.sectors := by
      by_contra hs; exact hnz (ha.get_eq_zero hdA hp hl hs)
    obtain ⟨P, ns, i, hP, hlP, hns, hr, hval⟩ :=
      dense_relocate_stored ha hy hdA hdY Rel hp hl hs (fwd s off)
    exact ⟨P, hP, hrel hl hs hlP hns hr, hval⟩
  · obtain ⟨ns, i, hlP⟩ := locateAll_isSome (idx := y.indices) (p := P) hP
    rcases dense_relocate hy ha hdY hdA (fun ns i s off => Rel s off ns i) hP hlP (bwd ns i)
      with h0 | ⟨p, s, off, hp, hl, hns, hs, hr, hval⟩
    · exact Or.inl h0
    · exact Or.inr ⟨p, hp, hrel hl hs hlP hns hr, hval.symm⟩

end

end Dense6

section roundtrip
variable {R : Type}

theorem sorted_ext {α : Type} {r : α → α → Prop} (hasym : ∀ a b, r a b → ¬ r b a)
    {l1 l2 : List α} (h1 : l1.Pairwise r) (h2 : l2.Pairwise r) (hm : ∀ x, x ∈ l1 ↔ x ∈ l2) :
    l1 = l2 := by
  -- an asymmetric relation is irreflexive, so both lists are duplicate-free, hence permutations
  -- of each other; sorted permutations are equal
  have nodup : ∀ {l : List α}, l.Pairwise r → l.Nodup := fun h =>
    h.imp (fun {a b} hab (e : a = b) => hasym a b hab (e ▸ hab))
  exact ((List.perm_ext_iff_of_nodup (nodup h1) (nodup h2)).mpr hm).eq_of_pairwise
    (fun a b _ _ hab hba => absurd hba (hasym a b hab)) h1 h2

/-- the labels of an axis laid out in the order of the charge table `cm` -/
def labelsOf (cm : List (Charge × Nat)) : List Charge :=
  cm.flatMap (fun cd => List.replicate cd.2 cd.1)

theorem labelsOf_getElem? (cm : List (Charge × Nat)) (q : Nat) :
    (labelsOf cm)[q]? = (Arr.locate cm q).map (·.1) := by
  induction cm generalizing q with
  | nil => simp [labelsOf, Arr.locate]
  | cons kd rest ih =>
    obtain ⟨k, d⟩ := kd
    have : labelsOf ((k, d) :: rest) = List.replicate d k ++ labelsOf rest := by
      simp [labelsOf]
    rw [this]
    simp only [Arr.locate]
    by_cases hq : q < d
    · rw [if_pos hq, List.getElem?_append_left (by simpa using hq), List.getElem?_replicate, if_pos hq]
      rfl
    · rw [if_neg hq, List.getElem?_append_right (by simpa using Nat.le_of_not_lt hq)]
      simpa using ih (q - d)

theorem length_labelsOf (cm : List (Charge × Nat)) : (labelsOf cm).length = sumN (cm.map (·.2)) := by
  induction cm with
  | nil => rfl
  | cons kd rest ih =>
    have : labelsOf (kd :: rest) = List.replicate kd.2 kd.1 ++ labelsOf rest := by
      simp [labelsOf]
    rw [this, List.length_append, List.length_replicate, ih]; rfl

/-- first position of charge `c` along a table -/
def startOf : List (Charge × Nat) → Charge → Nat
  | [], _ => 0
  | (k, d) :: rest, c => if k = c then 0 else d + startOf rest c

theorem position_eq_start {cm : List (Charge × Nat)} (hnd : (cm.map (·.1)).Nodup) {c : Charge}
    {d o : Nat} (hm : (c, d) ∈ cm) (ho : o < d) :
    Arr.position cm c o = some (startOf cm c + o) := by
  induction cm with
  | nil => simp at hm
  | cons kd rest ih =>
    obtain ⟨k, d'⟩ := kd
    simp only [List.map_cons, List.nodup_cons] at hnd
    rcases List.mem_cons.mp hm with e | hm'
    · simp only [Prod.mk.injEq] at e; obtain ⟨rfl, rfl⟩ := e
      simp [Arr.position, startOf, ho]
    · have hk : k ≠ c := by
        intro e; subst e
        exact hnd.1 (List.mem_map.mpr ⟨_, hm', rfl⟩)
      simp only [Arr.position, startOf, hk, if_false, ih hnd.2 hm', Option.map_some,
        Option.some.injEq]
      omega

theorem labelsOf_eq_iff {cm : List (Charge × Nat)} (hnd : (cm.map (·.1)).Nodup) {c : Charge}
    {d : Nat} (hm : (c, d) ∈ cm) (i : Nat) :
    (labelsOf cm)[i]? = some c ↔ startOf cm c ≤ i ∧ i < startOf cm c + d := by
  rw [labelsOf_getElem?]
  constructor
  · intro h
    cases hl : Arr.locate cm i with
    | none => simp [hl] at h
    | some co =>
      obtain ⟨c', o⟩ := co
      simp only [hl, Option.map_some, Option.some.injEq] at h
      subst h
      obtain ⟨d', hm', ho⟩ := Arr.locate_spec hl
      have hdd : d' = d := by
        have h1 := alookup_of_mem_nodup hnd hm
        have h2 := alookup_of_mem_nodup hnd hm'
        rw [h1] at h2; exact (Option.some.inj h2).symm
      subst hdd
      have h1 := Arr.position_locate hnd hl
      rw [position_eq_start hnd hm ho] at h1
      have := Option.some.inj h1
      omega
  · rintro ⟨h1, h2⟩
    have hpos := position_eq_start hnd hm (show i - startOf cm c < d by omega)
    rw [show startOf cm c + (i - startOf cm c) = i by omega] at hpos
    rw [Arr.locate_position hpos]; rfl

theorem chargeGroups_labelsOf {cm : List (Charge × Nat)} (hnd : (cm.map (·.1)).Nodup)
    {c : Charge} {d : Nat} (hm : (c, d) ∈ cm) (hd : 0 < d) :
    alookup (chargeGroups (labelsOf cm)) c = some (List.range' (startOf cm c) d) := by
  have inv := chargeGroups_inv (labelsOf cm)
  have h0 : (labelsOf cm)[startOf cm c]? = some c := (labelsOf_eq_iff hnd hm _).mpr ⟨by omega, by omega⟩
  have hlt : startOf cm c < (labelsOf cm).length :=
    (List.getElem?_eq_some_iff.mp h0).1
  obtain ⟨l, hl, _⟩ := inv.cover _ c hlt h0
  rw [hl]
  congr 1
  refine sorted_ext (r := fun a b : Nat => a < b) (fun a b h h' => by omega) (inv.sorted c l hl)
    (List.pairwise_lt_range' 1) (fun i => ?_)
  rw [List.mem_range'_1, ← labelsOf_eq_iff hnd hm]
  constructor
  · exact fun hi => (inv.label c l hl i hi).1
  · intro hi
    have hilt : i < (labelsOf cm).length :=
    (List.getElem?_eq_some_iff.mp hi).1
    obtain ⟨l', hl', hmem⟩ := inv.cover i c hilt hi
    rw [hl] at hl'; injection hl' with hl'; subst hl'; exact hmem

theorem sortCm_gsizes_labelsOf {cm : List (Charge × Nat)}
    (hs : (cm.map (·.1)).Pairwise (fun a b => Charge.lt a b = true))
    (hpos : ∀ cd ∈ cm, 0 < cd.2) : Index.sortCm (gsizes (labelsOf cm)) = cm := by
  have hnd : (cm.map (·.1)).Nodup := nodup_of_pairwise_lt hs
  have hg := gsizes_sorted_strict (labelsOf cm)
  rw [List.pairwise_map] at hg hs
  refine sorted_ext (r := fun a b : Charge × Nat => Charge.lt a.1 b.1 = true)
    (fun a b h h' => by rw [Charge.lt_asymm h] at h'; cases h') hg hs (fun x => ?_)
  obtain ⟨c, n⟩ := x
  rw [mem_sortCm, mem_gsizes]
  constructor
  · rintro ⟨l, hl, rfl⟩
    have inv := chargeGroups_inv (labelsOf cm)
    obtain ⟨i, hi⟩ := List.exists_mem_of_ne_nil l (inv.nonempty c l hl)
    have hlab := (inv.label c l hl i hi).1
    rw [labelsOf_getElem?] at hlab
    cases hloc : Arr.locate cm i with
    | none => simp [hloc] at hlab
    | some co =>
      obtain ⟨c', o⟩ := co
      simp only [hloc, Option.map_some, Option.some.injEq] at hlab
      subst hlab
      obtain ⟨d, hm, _⟩ := Arr.locate_spec hloc
      have := chargeGroups_labelsOf hnd hm (hpos _ hm)
      rw [hl] at this; injection this with this
      rw [this, List.length_range']; exact hm
  · intro hm
    exact ⟨_, chargeGroups_labelsOf hnd hm (hpos _ hm), List.length_range'⟩

theorem fd_axis_roundtrip {cm : List (Charge × Nat)}
    (hs : (cm.map (·.1)).Pairwise (fun a b => Charge.lt a b = true))
    (hpos : ∀ cd ∈ cm, 0 < cd.2) {c : Charge} {d o : Nat} (hd : alookup cm c = some d) (ho : o < d) :
    ∃ l, alookup (chargeGroups (labelsOf cm)) c = some l ∧ l.length = d
      ∧ Arr.locate (Index.sortCm cm) (l.getD o 0) = some (c, o)
      ∧ l.getD o 0 < sumN (cm.map (·.2)) := by
  have hnd : (cm.map (·.1)).Nodup := nodup_of_pairwise_lt hs
  have hm := alookup_some_mem hd
  have hsc : Index.sortCm cm = cm := by
    apply sortCm_of_sorted
    rw [List.pairwise_map] at hs
    exact hs.imp (fun {a b} h => Charge.lt_asymm h)
  refine ⟨_, chargeGroups_labelsOf hnd hm (hpos _ hm), List.length_range', ?_, ?_⟩
  · rw [hsc, List.getD_eq_getElem?_getD, List.getElem?_eq_getElem (by simpa using ho),
      List.getElem_range']
    simp only [Nat.one_mul, Option.getD_some]
    exact Arr.locate_position (position_eq_start hnd hm ho)
  · rw [List.getD_eq_getElem?_getD, List.getElem?_eq_getElem (by simpa using ho),
      List.getElem_range']
    simp only [Nat.one_mul, Option.getD_some]
    have := Arr.locate_lt (Arr.locate_position (position_eq_start hnd hm ho))
    exact this

def labelsOfIdx (indices : List Index) : List (List Charge) := indices.map (fun ix => labelsOf ix.cm)

/-- all axes: for a sector/offset of the index tables, `from_dense`'s position list is in the
    box and its entries are located back at (sector, offset) -/
theorem fd_roundtrip_locate (idx : List Index)
    (hs : ∀ ix ∈ idx, (ix.cm.map (·.1)).Pairwise (fun a b => Charge.lt a b = true))
    (hpos : ∀ ix ∈ idx, ∀ cd ∈ ix.cm, 0 < cd.2)
    (s : Sector) (shp off : List Nat) (hshp : Arr.blockShape? idx s = some shp)
    (hoff : inBox shp off = true) :
    let r := List.zipWith (fun (p : List Nat) k => p.getD k 0) (fdPos (labelsOfIdx idx) s) off
    s ∈ fdSectors (labelsOfIdx idx)
    ∧ (fdPos (labelsOfIdx idx) s).map List.length = shp
    ∧ inBox (idx.map Index.sizeTotal) r = true
    ∧ Arr.locateAll idx r = some (s, off) := by
  induction idx generalizing s shp off with
  | nil =>
    cases s with
    | cons c s => simp [Arr.blockShape?] at hshp
    | nil =>
      simp only [Arr.blockShape?_nil_nil, Option.some.injEq] at hshp
      subst hshp
      cases off with
      | cons o off => simp [inBox] at hoff
      | nil => exact ⟨by simp [fdSectors, labelsOfIdx, cartesian], rfl, rfl, rfl⟩
  | cons ix idx ih =>
    cases s with
    | nil => simp [Arr.blockShape?] at hshp
    | cons c s =>
      obtain ⟨d, shp', hd, hr, rfl⟩ := Arr.blockShape?_cons_eq_some.mp hshp
      cases off with
      | nil => simp [inBox] at hoff
      | cons o off =>
        rw [inBox_cons] at hoff
        obtain ⟨l, hl, hlen, hloc, hlt⟩ := fd_axis_roundtrip (hs ix (by simp)) (hpos ix (by simp))
          (show alookup ix.cm c = some d from hd) hoff.1
        obtain ⟨h1, h2, h3, h4⟩ := ih (fun ix' h' => hs ix' (by simp [h']))
          (fun ix' h' => hpos ix' (by simp [h'])) s shp' off hr hoff.2
        have hfp : fdPos (labelsOfIdx (ix :: idx)) (c :: s) = l :: fdPos (labelsOfIdx idx) s := by
          simp [fdPos, labelsOfIdx, hl]
        intro r
        have hr' : r = l.getD o 0 ::
            List.zipWith (fun (p : List Nat) k => p.getD k 0) (fdPos (labelsOfIdx idx) s) off := by
          simp only [r, hfp, List.zipWith_cons_cons]
        refine ⟨?_, ?_, ?_, ?_⟩
        · simp only [fdSectors, labelsOfIdx, List.map_cons, cartesian, List.mem_flatMap,
            List.mem_map]
          exact ⟨c, List.mem_map.mp ((alookup_isSome_iff (l := chargeGroups (labelsOf ix.cm))
            (k := c)).mp (by rw [hl]; rfl)), s, h1, rfl⟩
        · rw [hfp, List.map_cons, hlen, h2]
        · rw [hr', List.map_cons, inBox_cons]
          exact ⟨hlt, h3⟩
        · rw [hr', Arr.locateAll_cons, hloc, h4]; rfl

end roundtrip

section agree
variable {R : Type}

/-- `from_fill_fn`: the result has the given indices, the identity-defaulted charge, and one
    block per valid sector (in `gen_valid_sectors` order), each the fill function applied to the
    sector and its shape -/
theorem fromFillFn_spec (sym : Sym) (fermi : Bool) (indices : List Index) (charge : Option Charge)
    (fill : Sector → List Nat → Blk R) (oddpos : List (Int × Bool)) (b : Arr R)
    (h : fromFillFn sym fermi indices charge fill oddpos = .ok b) :
    b.sym = sym ∧ b.fermi = fermi ∧ b.indices = indices ∧ b.charge = charge.getD sym.zero
    ∧ b.phases = [] ∧ b.oddpos = oddpos
    ∧ List.Forall₂ (fun s (sb : Sector × Blk R) =>
        sb.1 = s ∧ ∃ shp, Arr.blockShape? indices s = some shp ∧ sb.2 = fill s shp)
        (Arr.genValidSectors
          ({ sym := sym, fermi := fermi, indices := indices, charge := charge.getD sym.zero,
             blocks := [], phases := [], oddpos := oddpos } : Arr R))
        b.blocks
    ∧ (fermi && sym.parity (charge.getD sym.zero) && oddpos.isEmpty) = false := by
  unfold fromFillFn at h
  simp only [bind, Except.bind, pure, Except.pure] at h
  rw [construct_eq] at h
  by_cases hc : (fermi && sym.parity (resolvedCharge sym indices (some (charge.getD sym.zero))
      ([] : List (Sector × Blk R))) && oddpos.isEmpty) = true
  · rw [if_pos hc] at h; cases h
  rw [if_neg hc] at h
  dsimp only at h
  split at h
  · cases h
  rename_i blocks hm
  injection h with h
  subst h
  refine ⟨rfl, rfl, rfl, rfl, rfl, rfl, ?_, by simpa [resolvedCharge] using hc⟩
  refine (mapM_ok_forall₂ _ _ _ hm).imp ?_
  intro s sb hsb
  cases hshp : Arr.blockShape? indices s with
  | none => simp [hshp] at hsb
  | some shp =>
    simp only [hshp] at hsb
    injection hsb with hsb; subst hsb
    exact ⟨rfl, shp, rfl, rfl⟩

theorem blockShape?_getElem {idx : List Index} {s : Sector} {shp : List Nat}
    (h : Arr.blockShape? idx s = some shp) {i : Nat} {ix : Index} {c : Charge}
    (hi : idx[i]? = some ix) (hc : s[i]? = some c) :
    ∃ d, shp[i]? = some d ∧ alookup ix.cm c = some d := by
  induction idx generalizing s shp i with
  | nil => simp at hi
  | cons ix0 idx ih =>
    cases s with
    | nil => simp at hc
    | cons c0 s =>
      obtain ⟨d, shp', hd, hr, rfl⟩ := Arr.blockShape?_cons_eq_some.mp h
      cases i with
      | zero =>
        simp only [List.getElem?_cons_zero, Option.some.injEq] at hi hc
        subst hi hc
        exact ⟨d, rfl, hd⟩
      | succ i =>
        simp only [List.getElem?_cons_succ] at hi hc ⊢
        exact ih hr hi hc

/-- `from_blocks` on the blocks and directions of an array recovers its indices, provided the
    tables are plain, strictly sorted, and every listed charge is used by some stored sector -/
theorem inferIndices_of_array (a : Arr R) (hne : a.blocks ≠ [])
    (hlen : ∀ sb ∈ a.blocks, sb.1.length = a.ndim)
    (hshape : ∀ sb ∈ a.blocks, Arr.blockShape? a.indices sb.1 = some sb.2.shape)
    (hs : ∀ ix ∈ a.indices, (ix.cm.map (·.1)).Pairwise (fun a b => Charge.lt a b = true))
    (hplain : ∀ ix ∈ a.indices, ix.sub = none)
    (hused : ∀ (i : Nat) (ix : Index), a.indices[i]? = some ix →
      ∀ cd ∈ ix.cm, ∃ sb ∈ a.blocks, sb.1[i]? = some cd.1) :
    inferIndices a.blocks a.duals = .ok a.indices := by
  cases hb : a.blocks with
  | nil => exact absurd hb hne
  | cons sb0 rest =>
    obtain ⟨s0, b0⟩ := sb0
    have hn : s0.length = a.indices.length := by
      have := hlen (s0, b0) (by rw [hb]; simp)
      simpa [Arr.ndim] using this
    have hdl : a.duals.length = s0.length := by simp [Arr.duals, hn]
    have hagree : SizesAgree ((s0, b0) :: rest) s0.length := by
      intro sb hsb sb' hsb' i hi c d d' h1 h2 h3 h4
      have hix : i < a.indices.length := hn ▸ hi
      obtain ⟨d1, e1, e2⟩ := blockShape?_getElem (hshape sb (by rw [hb]; exact hsb))
        (List.getElem?_eq_getElem hix) h1
      obtain ⟨d2, e3, e4⟩ := blockShape?_getElem (hshape sb' (by rw [hb]; exact hsb'))
        (List.getElem?_eq_getElem hix) h3
      rw [h2] at e1; rw [h4] at e3; rw [e2] at e4
      exact Option.some.inj (e1.trans (e4.trans e3.symm))
    rcases inferIndices_spec s0 b0 rest a.duals with ⟨h1, _⟩ | ⟨_, h2, _⟩ | ⟨_, _, idx, hok, hl, hspec⟩
    · exact absurd hagree h1
    · exact absurd hdl h2
    rw [hok]
    congr 1
    apply List.ext_getElem?
    intro i
    by_cases hi : i < s0.length
    · obtain ⟨ix', hix', hdual, hsub, hmem, hsorted⟩ := hspec i hi
      have hix : i < a.indices.length := hn ▸ hi
      rw [hix', List.getElem?_eq_getElem hix]
      congr 1
      have hmi : a.indices[i] ∈ a.indices := List.getElem_mem hix
      have hnd : ((a.indices[i]).cm.map (·.1)).Nodup := nodup_of_pairwise_lt (hs _ hmi)
      have hcm : ix'.cm = (a.indices[i]).cm := by
        have h1 := hsorted
        have h2 := hs _ hmi
        rw [List.pairwise_map] at h1 h2
        refine sorted_ext (r := fun a b : Charge × Nat => Charge.lt a.1 b.1 = true)
          (fun a b h h' => by rw [Charge.lt_asymm h] at h'; cases h') h1 h2 (fun x => ?_)
        obtain ⟨c, d⟩ := x
        rw [hmem c d]
        constructor
        · rintro ⟨sb, hsb, e1, e2⟩
          obtain ⟨d1, e3, e4⟩ := blockShape?_getElem (hshape sb (by rw [hb]; exact hsb))
            (List.getElem?_eq_getElem hix) e1
          rw [e2] at e3; injection e3 with e3; subst e3
          exact alookup_some_mem e4
        · intro hcd
          obtain ⟨sb, hsb, e1⟩ := hused i _ (List.getElem?_eq_getElem hix) (c, d) hcd
          obtain ⟨d1, e3, e4⟩ := blockShape?_getElem (hshape sb hsb) (List.getElem?_eq_getElem hix) e1
          have := alookup_of_mem_nodup hnd hcd
          rw [e4] at this; injection this with this; subst this
          exact ⟨sb, by rw [← hb]; exact hsb, e1, e3⟩
      have hdd : ix'.dual = (a.indices[i]).dual := by
        have : a.duals[i]? = some (a.indices[i]).dual := by
          simp [Arr.duals, List.getElem?_map, List.getElem?_eq_getElem hix]
        rw [this] at hdual; exact Option.some.inj hdual
      have hss : ix'.sub = (a.indices[i]).sub := by rw [hsub, hplain _ hmi]
      cases hx : ix' with
      | mk c1 d1 s1 =>
        cases hy : a.indices[i] with
        | mk c2 d2 s2 =>
          rw [hx, hy] at hcm hdd hss
          simp only [Index.cm, Index.dual, Index.sub] at hcm hdd hss
          rw [hcm, hdd, hss]
    · rw [List.getElem?_eq_none (by omega), List.getElem?_eq_none (by omega)]

end agree

end SymmModel
