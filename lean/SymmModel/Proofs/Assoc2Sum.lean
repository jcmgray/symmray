/-
  SymmModel.Proofs.Assoc2Sum — S7 of property C04 with `A–C` legs: nested signed sums.  Sums over a
  box that is a concatenation of two boxes, and `expand`: the signed sum a first call contributes,
  pulled out of the sum of the second call, for either side the third operand stands on.
-/
import SymmModel.Proofs.Assoc2Geom

namespace SymmModel
namespace Assoc2P
open TdotP GradedP AssocP
open Lazy (sgnI)
set_option linter.unusedSectionVars false

/-- all pairs, first component slowest -/
def pairs {α β : Type} (K : List α) (K' : List β) : List (α × β) :=
  K.flatMap (fun k => K'.map (fun k' => (k, k')))

theorem mem_pairs {α β : Type} {K : List α} {K' : List β} {p : α × β} :
    p ∈ pairs K K' ↔ p.1 ∈ K ∧ p.2 ∈ K' := by
  obtain ⟨a, b⟩ := p
  simp only [pairs, List.mem_flatMap, List.mem_map, Prod.mk.injEq]
  constructor
  · rintro ⟨k, hk, k', hk', rfl, rfl⟩; exact ⟨hk, hk'⟩
  · rintro ⟨h1, h2⟩; exact ⟨a, h1, b, h2, rfl, rfl⟩

theorem allIdx_append (s t : List Nat) :
    allIdx (s ++ t) = (pairs (allIdx s) (allIdx t)).map (fun p => p.1 ++ p.2) := by
  induction s with
  | nil =>
    simp only [allIdx, pairs, List.nil_append, List.flatMap_cons, List.flatMap_nil, List.append_nil,
      List.map_map]
    conv => lhs; rw [← List.map_id (allIdx t)]
    apply List.map_congr_left
    intro x _
    rfl
  | cons d ds ih =>
    show (List.range d).flatMap (fun i => (allIdx (ds ++ t)).map (fun r => i :: r)) = _
    rw [ih]
    unfold pairs
    show _ = (((List.range d).flatMap (fun i => (allIdx ds).map (fun r => i :: r))).flatMap
      (fun k => (allIdx t).map (fun k' => (k, k')))).map (fun p => p.1 ++ p.2)
    simp only [List.flatMap_assoc, List.map_flatMap, List.flatMap_map, List.map_map]
    rfl

variable {R : Type} [AddCommMonoid R] [Mul R] [Neg R] [SignRing R] [AssocLaws R]

theorem sum_pairs {α β : Type} (K : List α) (K' : List β) (G : α × β → R) :
    ((pairs K K').map G).sum = (K.map (fun k => (K'.map (fun k' => G (k, k'))).sum)).sum := by
  unfold pairs
  rw [sum_map_flatMap]
  congr 2
  funext k
  rw [List.map_map]
  rfl

theorem sum3_rot {α β γ : Type} (K1 : List α) (K2 : List β) (K3 : List γ) (X : α → β → γ → R) :
    (K3.map (fun k3 => (K2.map (fun k2 => (K1.map (fun k1 => X k1 k2 k3)).sum)).sum)).sum
      = (K1.map (fun k1 => (K2.map (fun k2 => (K3.map (fun k3 => X k1 k2 k3)).sum)).sum)).sum := by
  have e1 : ∀ k3, (K2.map (fun k2 => (K1.map (fun k1 => X k1 k2 k3)).sum)).sum
      = (K1.map (fun k1 => (K2.map (fun k2 => X k1 k2 k3)).sum)).sum := fun k3 => sum_swap _ _ _
  simp only [e1]
  rw [sum_swap]
  congr 2
  funext k1
  exact sum_swap _ _ _

/-- **the first call's sum inside the second call's.**  `μ x c` is the product of the intermediate
    result's value `x` with the third operand's factor `c`: `x * c` on route `(A·B)·C`, `c * x` on
    route `A·(B·C)`; all that is used of it is that signs and sums pass through its first argument. -/
theorem expand {β κ κ' : Type} (μ : R → R → R)
    (hμs : ∀ {σ : Int}, (σ = 1 ∨ σ = -1) → ∀ x c, μ (sgnI σ x) c = sgnI σ (μ x c))
    (hμsum : ∀ {ι : Type} (l : List ι) (f : ι → R) (c : R),
      μ (l.map f).sum c = (l.map (fun i => μ (f i) c)).sum)
    (K : List κ) (Q : List β) (K' : β → List κ')
    (σ' ph : Int) (σ : β → Int) (hσ' : σ' = 1 ∨ σ' = -1) (hph : ph = 1 ∨ ph = -1)
    (hσ : ∀ q, σ q = 1 ∨ σ q = -1)
    (t : β → κ' → κ → R) (c : κ → R) :
    sgnI σ' ((K.map (fun k =>
        μ (sgnI ph ((Q.map (fun q => sgnI (σ q) (((K' q).map (fun k' => t q k' k)).sum))).sum))
          (c k))).sum)
      = sgnI ph ((Q.map (fun q => sgnI (σ' * σ q)
          ((K.map (fun k => ((K' q).map (fun k' => μ (t q k' k) (c k))).sum)).sum))).sum) := by
  have e1 : ∀ k, μ (sgnI ph ((Q.map (fun q => sgnI (σ q)
        (((K' q).map (fun k' => t q k' k)).sum))).sum)) (c k)
      = sgnI ph ((Q.map (fun q => sgnI (σ q)
          (((K' q).map (fun k' => μ (t q k' k) (c k))).sum))).sum) := by
    intro k
    rw [hμs hph, hμsum]
    congr 2
    apply List.map_congr_left
    intro q _
    rw [hμs (hσ q), hμsum]
  simp only [e1]
  rw [sgnI_sum, sgnI_comp hσ' hph, Int.mul_comm, ← sgnI_comp hph hσ', sum_swap, ← sgnI_sum]
  congr 2
  apply List.map_congr_left
  intro q _
  rw [sgnI_sum, sgnI_comp hσ' (hσ q)]

end Assoc2P
end SymmModel
