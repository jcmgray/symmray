/-
  SymmModel.Proofs.Fuse4Round5 — the invariant of the round trip **unfuseF ∘ fuseF** and its step:
  after the last `j` groups of the fermionic fused array were unfused with `unfuseF`, it carries the
  values of the sign-free round trip up to the accumulated sign `tauF` (`FInvG`, `FInv`), and one
  more stage keeps that (`finv_stepG`, `finv_step`).  Iterated and closed in Fuse4Round6.
-/
import SymmModel.Proofs.Fuse4Round4
namespace SymmModel
namespace FuseP
open SymmModel.KoszulP SymmModel.Lazy

variable {R : Type} [Zero R] [Neg R] [LawfulNeg R]

section StageG
variable {b : Arr R} {gs : List (List Nat)}

variable (b gs) in
/-- for any operand `b` and groups `gs`: after the last `j` groups were unfused the fermionic array `Z`
    carries the values of the sign-free array `X` up to the sector signs `σ` -/
structure FInvG (σ : Sector → Int) (j : Nat) (Z X : Arr R) : Prop where
  rel : FRel Z X
  stage : StageInv b gs j X
  sign : ∀ sb ∈ b.blocks, ∀ J, inBox (SM b gs sb j) J = true →
    Z.elem (KM b gs sb j) J = sgnI (σ sb.1) (X.elem (KM b gs sb j) J)

/-- one stage of the round trip (an `unfuseF` at a multi-axis group, nothing at a single-axis group)
    takes the signs `σ` to the signs `σ'` -/
theorem finv_stepG (hc : ValidP.Core b) (hok : GroupsOk gs b.ndim) {j : Nat} (hj : j < gs.length)
    {Z X : Arr R} {σ : Sector → Int} (h : FInvG b gs σ j Z X) (σ' : Sector → Int)
    (hσ : ∀ S, σ S = 1 ∨ σ S = -1)
    (hσm : multiB gs (gs.length - (j + 1)) = true →
      (giM b gs).position + (gs.length - (j + 1)) < Z.ndim → ∀ sb ∈ b.blocks,
        unfuseSign Z (ixM b gs (gs.length - (j + 1))) (segIx b gs (gs.length - (j + 1)))
          ((giM b gs).position + (gs.length - (j + 1))) (KM b gs sb (j + 1)) * σ sb.1 = σ' sb.1)
    (hσs : multiB gs (gs.length - (j + 1)) = false → ∀ S, σ' S = σ S) :
    ∃ Z' X', (if multiB gs (gs.length - (j + 1)) = true
          then Arr.unfuseF Z ((giM b gs).position + (gs.length - (j + 1))) else pure Z) = .ok Z'
      ∧ Z'.sym = Z.sym ∧ (Z'.charge = Z.charge ∧ Z'.oddpos = Z.oddpos) ∧ FInvG b gs σ' (j + 1) Z' X' := by
  obtain ⟨hrel, hstage, hsign⟩ := h
  have hva := validArr_of_core hc
  by_cases hm : multiB gs (gs.length - (j + 1)) = true
  · -- a multi-axis group: one `unfuseF`
    obtain ⟨X', hX', hS'⟩ := stage_multi hc hok hj hm hstage
    obtain ⟨gx, hgg, hgl⟩ := multiB_iff.1 hm
    have hvX := validArr_of_core hstage.core
    have hlI : (giM b gs).position + gs.length ≤ (newIdxM b gs).length := by
      rw [newIdxM_length hok.adm]; exact ndimM_ge
    have hplt : (giM b gs).position + (gs.length - (j + 1)) < X.indices.length := by
      rw [hstage.idx, idxStage, partG_length (Nat.le_of_lt hj) hlI]; omega
    have hix : X.indices[(giM b gs).position + (gs.length - (j + 1))]? = some (ixM b gs (gs.length - (j + 1))) := by
      rw [getElem?_of_getD _ default hplt, hstage.idx, idxStage,
        partG_getD_low default (Nat.le_of_lt hj) hlI (by omega)]
      rfl
    have hsub := ixM_sub hok.adm hgg hgl
    have hgd : gs.getD (gs.length - (j + 1)) [] = gx := by
      simp only [List.getD_eq_getElem?_getD, hgg, Option.getD_some]
    have hsubs : gx.map (fun ax => b.indices.getD ax default) = segIx b gs (gs.length - (j + 1)) := by
      simp only [segIx, hgd]
    rw [hsubs] at hsub
    obtain ⟨Z', hZ', hrel', hsym', hlab', hprop⟩ := stepF hrel hix hsub hX'
    refine ⟨Z', X', by rw [if_pos hm]; exact hZ', hsym', hlab', hrel', hS', ?_⟩
    · intro sb hsb J hJ
      obtain ⟨V, hV, hVs, _⟩ := hstage.here sb hsb
      obtain ⟨e, D, t1, t2, _, _, _⟩ := stored_tableM hva hok.adm hgg hgl hsb
      have hlN : (giM b gs).position + gs.length ≤ (planM b gs sb).newSector.length := by
        rw [planM_newSector_length hok.adm]; exact ndimM_ge
      have hlB : (giM b gs).position + gs.length ≤ (BshM b gs sb).length := by
        rw [BshM_length]; exact ndimM_ge
      have hKp : (KM b gs sb j).getD
          ((giM b gs).position + (gs.length - (j + 1))) (0, 0)
          = cM (a := b) (groups := gs) sb (gs.length - (j + 1)) := by
        simp only [KM]
        rw [partG_getD_low (0, 0) (Nat.le_of_lt hj) hlN (by omega)]
        rfl
      have hseg : ssM (a := b) (groups := gs) sb (gs.length - (j + 1)) = segS gs sb (gs.length - (j + 1)) := by
        rw [ssM_eq hgg]; simp only [segS, hgd]
      rw [hseg] at t2
      obtain ⟨subshape, hbs, hval⟩ := hprop _ V hV e _ _ _ (by rw [hKp]; exact t1) t2
        (σ sb.1) (hσ sb.1) (by
          intro J' hJ'
          exact hsign sb hsb J' (by rw [← hVs]; exact hJ'))
      have hsh : subshape = segSh gs sb (gs.length - (j + 1)) := by
        have := blockShape?_map (hva.blk sb hsb).2.1 gx (groupM_lt hok.adm hgg)
        have hb2 : Arr.blockShape? (segIx b gs
            (gs.length - (j + 1)))
            (segS gs sb (gs.length - (j + 1))) = some (segSh gs sb (gs.length - (j + 1))) := by
          simp only [segIx, segS, segSh, hgd]; exact this
        rw [hb2] at hbs
        simpa only [Option.some.injEq] using hbs.symm
      subst hsh
      have hKsucc : KM b gs sb (j + 1) = replaceWithSeq (KM b gs sb j)
              ((giM b gs).position + (gs.length - (j + 1)))
              (segS gs sb (gs.length - (j + 1))) := by
        simp only [KM]; exact partG_succ hj hlN
      have hSsucc : SM b gs sb (j + 1) = replaceWithSeq V.shape
              ((giM b gs).position + (gs.length - (j + 1)))
              (segSh gs sb (gs.length - (j + 1))) := by
        rw [hVs]; simp only [SM]; exact partG_succ hj hlB
      rw [hSsucc] at hJ
      have := hval J hJ
      rw [← hKsucc] at this
      rw [this]
      refine congrArg (sgnI · _) ?_
      exact hσm hm (by show _ < Z.indices.length; rw [hrel.shape.1]; exact hplt) sb hsb
  · -- a single-axis group: nothing happens
    have hm' : multiB gs (gs.length - (j + 1)) = false := by
      simpa only [Bool.not_eq_true] using hm
    obtain ⟨e1, e2, e3, e4⟩ := stage_single hva hok hj hm'
    obtain ⟨X', hX', hS'⟩ := stage_step hc hok hj hstage
    have hXeq : X' = X := by
      simp only [stageStep, hm', Bool.false_eq_true, if_false, pure, Except.pure, Except.ok.injEq] at hX'
      exact hX'.symm
    subst hXeq
    refine ⟨Z, X', by rw [if_neg hm]; rfl, rfl, ⟨rfl, rfl⟩, hrel, hS', ?_⟩
    · intro sb hsb J hJ
      rw [e1 sb]
      rw [e2 sb hsb] at hJ
      rw [hsign sb hsb J hJ, hσs hm' sb.1]

end StageG

section Stage
variable {a : Arr R} {groups : List (List Nat)}

variable (a groups) in
/-- the fermionic array `Z` and the sign-free array `X` after the last `j` groups were unfused -/
structure FInv (j : Nat) (Z X : Arr R) : Prop
    extends FInvG (signAdj a groups) (newGroupsF groups a.duals) (fun S => tauF a groups S j) j Z X where
  sym : Z.sym = a.sym
  lab : Z.charge = a.charge ∧ Z.oddpos = a.oddpos

variable (a groups) in
def stageStepF (Z : Arr R) (g : Nat) : Except Err (Arr R) :=
  if multiB groups g then Arr.unfuseF Z ((calcFuseGroupInfo groups a.duals).position + g) else pure Z

theorem finv_step (hv : a.validB = true) (hf : a.fermi = true) (hok : GroupsOk groups a.ndim) {j : Nat}
    (hj : j < groups.length) {Z X : Arr R} (h : FInv a groups j Z X) :
    ∃ Z' X', stageStepF a groups Z (groups.length - (j + 1)) = .ok Z' ∧ FInv a groups (j + 1) Z' X' := by
  have hc4 : ValidP.Core (signAdj a groups) := (signAdj_valid a groups hv hf hok).core
  have hok4 := signAdj_groupsOk (a := a) hok
  have hpos := signAdj_position (a := a) hok
  have hlen : (newGroupsF groups a.duals).length = groups.length := newGroupsF_length _ _
  obtain ⟨Z', X', hstep, hsym', hlab', hG'⟩ := finv_stepG hc4 hok4 (j := j) (by rw [hlen]; exact hj)
    h.toFInvG (fun S => tauF a groups S (j + 1)) (fun S => tauF_pm _ _ S j)
    (by
      intro hm hZn sb4 hsb4
      rw [hlen] at hm hZn ⊢
      rw [unfuseSign_group hok (sb4 := sb4) hj hm h.sym hZn]
      simp only [tauF])
    (by
      intro hm S
      have hg : (newGroupsF groups a.duals).length - (j + 1) < (newGroupsF groups a.duals).length := by omega
      have hgg := List.getElem?_eq_getElem hg
      have hl1 : ((newGroupsF groups a.duals)[(newGroupsF groups a.duals).length - (j + 1)]).length = 1 := by
        by_contra hne
        have := multiB_iff.2 ⟨_, hgg, hne⟩
        rw [hm] at this; cases this
      simp only [tauF]
      rw [← hlen, List.getD_eq_getElem?_getD, hgg, Option.getD_some]
      match hgx : (newGroupsF groups a.duals)[(newGroupsF groups a.duals).length - (j + 1)], hl1 with
      | [ax'], _ => rw [groupFactor_single, Int.one_mul])
  refine ⟨Z', X', ?_, hG', hsym'.trans h.sym, ⟨hlab'.1.trans h.lab.1, hlab'.2.trans h.lab.2⟩⟩
  rw [hlen, hpos, multiB_newGroupsF] at hstep
  exact hstep

end Stage

end FuseP
end SymmModel
