/-
  SymmModel.Proofs.Routes3 — S5 of property C04 (passing the operands in the other order),
  specification level and model level.  The theorems are proved under the weak guard `AssocP.AdmW`
  (namespace `SymmModel.Assoc4P`, so that they apply to contracted pieces of a network); the one
  under the documented guard (`RoutesP.tdotF_swap`) follows by `AdmW.ofAdm`.
-/
import SymmModel.Proofs.Routes2

namespace SymmModel
namespace RoutesP
open TdotP GradedP KoszulP OddposP
set_option linter.unusedSectionVars false

theorem mergeOddpos_swap (pa pb : Bool) (la lb : List (Int × Bool))
    (hd : LabelsDistinct (la ++ lb)) :
    ∃ out sab sba, mergeOddpos pa la lb = .ok (out, sab) ∧ mergeOddpos pb lb la = .ok (out, sba)
      ∧ sba = sab * sgn (pa.toNat * lb.length + pb.toNat * la.length + la.length * lb.length) := by
  have hd' : LabelsDistinct (lb ++ la) := hd.perm List.perm_append_comm
  obtain ⟨o1, p1, s1, m1⟩ := mergeOddpos_spec pa la lb hd
  obtain ⟨o2, p2, s2, m2⟩ := mergeOddpos_spec pb lb la hd'
  have ho : o2 = o1 := oddSorted_unique s2 s1 (p2.trans (List.perm_append_comm.trans p1.symm))
  subst ho
  refine ⟨o2, _, _, m1, m2, ?_⟩
  rw [← sgn_add]
  apply sgn_congr
  have hex : ∀ x ∈ la, ∀ y ∈ lb, oddR x y = !oddR y x := by
    intro x hx y hy
    apply oddR_ex
    intro e
    have := (List.pairwise_append.mp hd).2.2 x hx y hy
    exact this (by rw [e])
  have hc := crossR_add_swap oddR la lb hex
  rw [invR_append, invR_append]
  generalize pa.toNat * lb.length = A
  generalize pb.toNat * la.length = B
  generalize la.length * lb.length = N at hc ⊢
  omega

section parity
variable {R : Type}

/-- number of odd charges in a list of charges -/
def oddIn (sym : Sym) (l : Sector) : Nat := (l.filter sym.parity).length

theorem oddCount_parities (sym : Sym) (s : Sector) (A : List Nat) (hA : ∀ i ∈ A, i < s.length) :
    oddCount (s.map sym.parity) A = oddIn sym (permuted s A) := by
  unfold oddCount oddIn
  rw [permuted_eq_map s A hA (0, 0), List.filter_map, List.length_map]
  congr 1
  apply List.filter_congr
  intro ax hax
  have := hA ax hax
  unfold isOdd
  simp [List.getD_eq_getElem?_getD, List.getElem?_eq_getElem this]

theorem oddIn_perm (sym : Sym) {l l' : Sector} (h : l.Perm l') : oddIn sym l = oddIn sym l' :=
  (h.filter _).length_eq

theorem oddIn_append (sym : Sym) (l l' : Sector) : oddIn sym (l ++ l') = oddIn sym l + oddIn sym l' := by
  unfold oddIn; rw [List.filter_append, List.length_append]

/-- charge conservation for a stored sector: its parity is the number of odd charges, which splits
    into the free and the contracted part -/
theorem parity_split (a : Arr R) (xa : List Nat) (hn : xa.Nodup) (hlt : ∀ i ∈ xa, i < a.ndim)
    (sa : Sector) (hla : sa.length = a.ndim) (hv : a.isValidSector sa = true) :
    a.parity = ((oddIn a.sym (permuted sa (freeAxes a.ndim xa)) + oddIn a.sym (permuted sa xa)) % 2 == 1) := by
  rw [← Lazy.odd_count_sector hla hv]
  have h1 : ((a.parities sa).filter id).length = oddIn a.sym sa := by
    unfold Arr.parities oddIn; rw [List.filter_map, List.length_map]; rfl
  have h2 : oddIn a.sym sa = oddIn a.sym (permuted sa (freeAxes a.ndim xa ++ xa)) :=
    (oddIn_perm a.sym (permuted_perm sa _ (by rw [hla]; exact perm_left hn hlt))).symm
  rw [h1, h2, permuted_append, oddIn_append]

theorem swap_parity (oL K oR : Nat) (pa pb : Bool) (ha : pa = ((oL + K) % 2 == 1))
    (hb : pb = ((K + oR) % 2 == 1)) :
    (pa.toNat * pb.toNat + K * oR + oL * K + K) % 2 = (oL * oR) % 2 := by
  subst ha hb
  rcases Nat.mod_two_eq_zero_or_one oL with h1 | h1 <;>
    rcases Nat.mod_two_eq_zero_or_one K with h2 | h2 <;>
    rcases Nat.mod_two_eq_zero_or_one oR with h3 | h3 <;>
    simp [Nat.add_mod, Nat.mul_mod, h1, h2, h3]

end parity

section swapsign
variable {R : Type}

theorem filter2_range (l : List Nat) (P Q : Nat → Bool) :
    ((l.filter P).filter Q).length
      = ((List.range l.length).filter (fun j => P (l.getD j 0) && Q (l.getD j 0))).length := by
  conv => lhs; rw [list_eq_map_getD l]
  simp only [List.filter_map, List.length_map, List.filter_filter]
  congr 1
  apply List.filter_congr
  intro j _
  simp [Function.comp, Bool.and_comm]

end swapsign

section swapspec
variable {R : Type}

/-- the rotation that moves the second block of legs in front costs `(-1)^(#odd₁ · #odd₂)` -/
theorem koszul_rot (P Q : List Bool) :
    koszul (P ++ Q) (some ((List.range Q.length).map (P.length + ·) ++ List.range P.length))
      = sgn ((P.filter id).length * (Q.filter id).length) := by
  have h : ([] ++ List.range P.length ++ (List.range Q.length).map (P.length + ·) ++ []).Perm
      (List.range (P.length + Q.length)) := by
    rw [List.range_add]; simp
  have hk := koszul_block_move (P ++ Q) [] (List.range P.length)
    ((List.range Q.length).map (P.length + ·)) [] (P.length + Q.length) h
  simp only [List.nil_append, List.append_nil] at hk
  have hid : List.range P.length ++ (List.range Q.length).map (P.length + ·)
      = List.range (P.length + Q.length) := List.range_add.symm
  rw [hk, hid, koszul_id', Int.one_mul]
  have c1 : oddCount (P ++ Q) (List.range P.length) = (P.filter id).length := by
    rw [← oddCount_range P]
    unfold oddCount
    congr 1
    apply List.filter_congr
    intro j hj
    exact isOdd_append_left P Q j (List.mem_range.mp hj)
  have c2 : oddCount (P ++ Q) ((List.range Q.length).map (P.length + ·)) = (Q.filter id).length := by
    rw [← oddCount_range Q]
    unfold oddCount
    rw [List.filter_map, List.length_map]
    congr 1
    apply List.filter_congr
    intro j _
    exact isOdd_append_right P Q j
  rw [c1, c2]

theorem oddIn_eq_filter (sym : Sym) (l : Sector) : ((l.map sym.parity).filter id).length = oddIn sym l := by
  unfold oddIn; rw [List.filter_map, List.length_map]; rfl

theorem storedPairs_swap_perm (a b : Arr R) (xa xb : List Nat)
    (hda : a.sectors.Nodup) (hdb : b.sectors.Nodup) (hsa : a.shapesOk)
    (L Rr : Sector) (hL : L.length = (freeAxes a.ndim xa).length) :
    (storedPairs b a (freeAxes b.ndim xb) xb xa (freeAxes a.ndim xa) (Rr ++ L)).Perm
      ((storedPairs a b (freeAxes a.ndim xa) xa xb (freeAxes b.ndim xb) (L ++ Rr)).map Prod.swap) := by
  rw [List.perm_ext_iff_of_nodup (storedPairs_nodup _ _ _ _ _ hdb hda)
    ((storedPairs_nodup _ _ _ _ _ hda hdb).map (fun x y h => by
      cases x; cases y; simp only [Prod.swap, Prod.mk.injEq] at h; simp [h.1, h.2]))]
  rintro ⟨sb, sa⟩
  simp only [List.mem_map, Prod.exists, Prod.swap, Prod.mk.injEq]
  constructor
  · intro h
    obtain ⟨h1, h2, h3, h4⟩ := mem_storedPairs.mp h
    have hl : (permuted sa (freeAxes a.ndim xa)).length = L.length := by
      rw [permuted_length _ _ (by
        intro x hx; rw [Arr.sector_length hsa h2]; exact (mem_freeAxes.mp hx).1), hL]
    obtain ⟨e1, e2⟩ := List.append_inj' h4 hl
    exact ⟨sa, sb, mem_storedPairs.mpr ⟨h2, h1, h3.symm, by rw [e1, e2]⟩, rfl, rfl⟩
  · rintro ⟨sa', sb', h, rfl, rfl⟩
    obtain ⟨h1, h2, h3, h4⟩ := mem_storedPairs.mp h
    have hl : (permuted sa' (freeAxes a.ndim xa)).length = L.length := by
      rw [permuted_length _ _ (by
        intro x hx; rw [Arr.sector_length hsa h1]; exact (mem_freeAxes.mp hx).1), hL]
    obtain ⟨e1, e2⟩ := List.append_inj h4 hl
    exact mem_storedPairs.mpr ⟨h2, h1, h3.symm, by rw [e1, e2]⟩

end swapspec

section s5
variable {R : Type}

theorem oddpos_parity {a : Arr R} (ha : a.validB = true) (hfa : a.fermi = true) :
    (a.oddpos.length % 2 == 1) = a.parity := by
  have := ((ValidP.validB_iff a).mp ha).sgn
  unfold ValidP.SignsOk at this
  rw [if_pos hfa] at this
  exact this.2

theorem label_swap_parity (pa pb : Bool) (na nb : Nat) (ha : (na % 2 == 1) = pa) (hb : (nb % 2 == 1) = pb) :
    (pa.toNat * nb + pb.toNat * na + na * nb) % 2 = (pa.toNat * pb.toNat) % 2 := by
  subst ha hb
  rcases Nat.mod_two_eq_zero_or_one na with h1 | h1 <;>
    rcases Nat.mod_two_eq_zero_or_one nb with h2 | h2 <;>
    simp [Nat.add_mod, Nat.mul_mod, h1, h2]

theorem box_swap (a b : Arr R) (xa xb : List Nat) (L Rr : Sector)
    (hL : L.length = (freeAxes a.ndim xa).length) (hR : Rr.length = (freeAxes b.ndim xb).length)
    (oL oR : List Nat) (hoL : oL.length = (freeAxes a.ndim xa).length)
    (hoR : oR.length = (freeAxes b.ndim xb).length)
    (ho : inBox (Arr.blockShapeD (without a.indices xa ++ without b.indices xb) (L ++ Rr))
      (oL ++ oR) = true) :
    inBox (Arr.blockShapeD (without b.indices xb ++ without a.indices xa) (Rr ++ L))
      (oR ++ oL) = true := by
  have hIL : (without a.indices xa).length = (freeAxes a.ndim xa).length := without_length _ _
  have hIR : (without b.indices xb).length = (freeAxes b.ndim xb).length := without_length _ _
  cases hh : Arr.blockShape? (without a.indices xa ++ without b.indices xb) (L ++ Rr) with
  | none =>
    -- no shape: the address is empty, and the swapped key has no shape either
    rw [Arr.blockShapeD, hh] at ho
    have hnil : oL ++ oR = [] := by have := inBox_length ho; simpa using this
    obtain ⟨e1, e2⟩ := List.append_eq_nil_iff.mp hnil
    subst e1 e2
    have hn' : Arr.blockShape? (without b.indices xb ++ without a.indices xa) (Rr ++ L) = none := by
      cases hh' : Arr.blockShape? (without b.indices xb ++ without a.indices xa) (Rr ++ L) with
      | none => rfl
      | some shp =>
        obtain ⟨p1, p2⟩ := blockShape?_split (by rw [hR, hIR]) hh'
        rw [blockShape?_append p2 p1] at hh; cases hh
    rw [Arr.blockShapeD, hn']; rfl
  | some shp =>
    obtain ⟨h1, h2⟩ := blockShape?_split (by rw [hL, hIL]) hh
    rw [Arr.blockShapeD, blockShape?_append h1 h2] at ho
    rw [Arr.blockShapeD, blockShape?_append h2 h1]
    have l1 := (blockShape?_length h1).2
    have l2 := (blockShape?_length h2).2
    change inBox (_ ++ _) (oL ++ oR) = true at ho
    show inBox (_ ++ _) (oR ++ oL) = true
    rw [inBox_append (by rw [hoL, l1, hIL])] at ho
    rw [inBox_append (by rw [hoR, l2, hIR])]
    simp only [Bool.and_eq_true] at ho ⊢
    exact ⟨ho.2, ho.1⟩

end s5

end RoutesP

namespace Assoc4P
open TdotP GradedP RoutesP KoszulP OddposP AssocP
variable {R : Type}

theorem commonB_swap {a b : Arr R} {xa xb : List Nat} (hb : b.validB = true)
    (hB : ∀ i ∈ xb, i < b.ndim) (hc : contractibleCommonB a b xa xb = true) :
    contractibleCommonB b a xb xa = true := by
  rw [commonB_iff] at hc ⊢
  refine ⟨hc.1.symm, fun j hj => ?_⟩
  have hj' : j < xa.length := by rw [hc.1]; exact hj
  obtain ⟨h1, h2⟩ := hc.2 j hj'
  refine ⟨?_, by rw [h2]; simp⟩
  have hxb : xb.getD j 0 < b.indices.length := by
    rw [List.getD_eq_getElem?_getD, List.getElem?_eq_getElem hj]
    exact hB _ (List.getElem_mem hj)
  have hnd : ((b.indices.getD (xb.getD j 0) default).cm.map (·.1)).Nodup := by
    rw [List.getD_eq_getElem?_getD, List.getElem?_eq_getElem hxb]
    exact keys_nodup_of_validB hb _ (List.getElem_mem hxb)
  unfold cmAgree
  rw [List.all_eq_true]
  rintro ⟨k, d⟩ hp
  have hl : alookup (b.indices.getD (xb.getD j 0) default).cm k = some d :=
    alookup_of_mem (allDistinct_iff_nodup.mpr hnd) hp
  cases hq : alookup (a.indices.getD (xa.getD j 0) default).cm k with
  | none => rfl
  | some d' =>
    have := cmAgree_lookup h1 hq hl
    simp [this]

theorem admW_swap {a b : Arr R} {xa xb : List Nat} (h : AdmW a b xa xb) : AdmW b a xb xa :=
  ⟨h.vb, h.va, h.fb, h.fa, h.sym.symm, commonB_swap h.vb h.ltB h.con, h.nB, h.nA, h.ltB, h.ltA⟩

/-- every odd contracted charge sits on a ket leg of exactly one of the two operands -/
theorem ket_sum (a b : Arr R) (xa xb : List Nat) (hsym : a.sym = b.sym)
    (hc : contractibleCommonB a b xa xb = true)
    (hA : ∀ i ∈ xa, i < a.ndim) (hB : ∀ i ∈ xb, i < b.ndim)
    (sa sb : Sector) (hla : sa.length = a.ndim) (hlb : sb.length = b.ndim)
    (hal : permuted sb xb = permuted sa xa) :
    ketOdd b xb sb + ketOdd a xa sa = oddIn a.sym (permuted sa xa) := by
  have hlen := commonB_len hc
  unfold ketOdd
  rw [filter2_range xb, filter2_range xa, ← hlen]
  have hK : oddIn a.sym (permuted sa xa)
      = ((List.range xa.length).filter (fun j => a.sym.parity (sa.getD (xa.getD j 0) (0, 0)))).length := by
    unfold oddIn
    rw [permuted_eq_map sa xa (by rw [hla]; exact hA) (0, 0), List.filter_map, List.length_map]
    conv => lhs; rw [list_eq_map_getD xa]
    rw [List.filter_map, List.length_map]
    rfl
  rw [hK, ← Lazy.filter_and_add_not (fun j => (a.indices.getD (xa.getD j 0) default).dual)
    (fun j => a.sym.parity (sa.getD (xa.getD j 0) (0, 0))) (List.range xa.length)]
  congr 1
  apply congrArg List.length
  apply List.filter_congr
  intro j hj
  have hj' := List.mem_range.mp hj
  have hjb : j < xb.length := by omega
  have hat := commonB_at hc j hj'
  have h1 := getD_permuted_ax sb xb (by rw [hlb]; exact hB) j hjb (0, 0)
  have h2 := getD_permuted_ax sa xa (by rw [hla]; exact hA) j hj' (0, 0)
  rw [hat.2, ← h1, ← h2, hal, hsym]
  simp

theorem gradedSign_swap (a b : Arr R) (xa xb : List Nat) (hsym : a.sym = b.sym)
    (hc : contractibleCommonB a b xa xb = true)
    (hnA : xa.Nodup) (hA : ∀ i ∈ xa, i < a.ndim) (hnB : xb.Nodup) (hB : ∀ i ∈ xb, i < b.ndim)
    (sa sb : Sector) (hla : sa.length = a.ndim) (hlb : sb.length = b.ndim)
    (hal : permuted sb xb = permuted sa xa) :
    gradedSign b a xb xa sb sa
      = gradedSign a b xa xb sa sb
        * sgn (oddIn a.sym (permuted sa xa) * oddIn a.sym (permuted sb (freeAxes b.ndim xb))
            + oddIn a.sym (permuted sa (freeAxes a.ndim xa)) * oddIn a.sym (permuted sa xa)
            + oddIn a.sym (permuted sa xa)) := by
  have hfreeA : ∀ i ∈ freeAxes a.ndim xa, i < sa.length := by
    intro i hi; rw [hla]; exact (mem_freeAxes.mp hi).1
  have hfreeB : ∀ i ∈ freeAxes b.ndim xb, i < sb.length := by
    intro i hi; rw [hlb]; exact (mem_freeAxes.mp hi).1
  have kb := koszul_block_move (b.parities sb) [] xb (freeAxes b.ndim xb) [] b.ndim
    (by simpa using perm_right hnB hB)
  have ka := koszul_block_move (a.parities sa) [] (freeAxes a.ndim xa) xa [] a.ndim
    (by simpa using perm_left hnA hA)
  simp only [List.nil_append, List.append_nil] at kb ka
  have cb1 : oddCount (b.parities sb) xb = oddIn a.sym (permuted sa xa) := by
    unfold Arr.parities
    rw [oddCount_parities b.sym sb xb (by rw [hlb]; exact hB), hal, hsym]
  have cb2 : oddCount (b.parities sb) (freeAxes b.ndim xb)
      = oddIn a.sym (permuted sb (freeAxes b.ndim xb)) := by
    unfold Arr.parities
    rw [oddCount_parities b.sym sb _ hfreeB, hsym]
  have ca1 : oddCount (a.parities sa) xa = oddIn a.sym (permuted sa xa) := by
    unfold Arr.parities
    rw [oddCount_parities a.sym sa xa (by rw [hla]; exact hA)]
  have ca2 : oddCount (a.parities sa) (freeAxes a.ndim xa)
      = oddIn a.sym (permuted sa (freeAxes a.ndim xa)) := by
    unfold Arr.parities
    rw [oddCount_parities a.sym sa _ hfreeA]
  rw [cb1, cb2] at kb
  rw [ca1, ca2] at ka
  have hodd : oddContracted b xb sb = oddContracted a xa sa := by
    unfold oddContracted; rw [hal, hsym]
  have hK : oddContracted a xa sa = oddIn a.sym (permuted sa xa) := rfl
  have hket := ket_sum a b xa xb hsym hc hA hB sa sb hla hlb hal
  have hketsgn : (-1 : Int) ^ ketOdd b xb sb
      = (-1 : Int) ^ ketOdd a xa sa * sgn (oddIn a.sym (permuted sa xa)) := by
    rw [← sgn_eq_pow, ← sgn_eq_pow, ← sgn_add]
    apply sgn_congr
    omega
  unfold gradedSign
  rw [kb, ka, hodd, hketsgn, sgn_add, sgn_add]
  ring

section s5
variable [AddCommMonoid R] [Mul R] [Neg R] [SignRing R]
open Lazy (sgnI)

omit [SignRing R] in
theorem contractPair_swap (a b : Arr R) (xa xb : List Nat) (hmul : ∀ x y : R, x * y = y * x)
    (hsa : a.shapesOk) (hsb : b.shapesOk) (hc : contractibleCommonB a b xa xb = true)
    (hA : ∀ i ∈ xa, i < a.ndim) (hB : ∀ i ∈ xb, i < b.ndim) (oL oR : List Nat) (sa sb : Sector)
    (h1 : sa ∈ a.sectors) (h2 : sb ∈ b.sectors) (hal : permuted sb xb = permuted sa xa) :
    contractPair b a xb xa oR oL (sb, sa) = contractPair a b xa xb oL oR (sa, sb) := by
  unfold contractPair
  simp only []
  rw [shapes_match_w hsa hsb hc hA hB sa h1 sb h2 hal]
  congr 1
  apply List.map_congr_left
  intro k _
  unfold contractTerm
  exact hmul _ _

/-- **S5, specification level.** -/
theorem gradedContract_swap_w (a b : Arr R) (xa xb : List Nat) (hmul : ∀ x y : R, x * y = y * x)
    (h : AdmW a b xa xb) (L Rr : Sector) (hL : L.length = (freeAxes a.ndim xa).length)
    (oL oR : List Nat) :
    gradedContract b a xb xa (Rr ++ L) oR oL
      = sgnI (sgn (a.parity.toNat * b.parity.toNat + oddIn a.sym L * oddIn a.sym Rr))
          (gradedContract a b xa xb (L ++ Rr) oL oR) := by
  have hsa := Arr.shapesOk_of_validB h.va
  have hsb := Arr.shapesOk_of_validB h.vb
  have fa := Lazy.Full.of_valid h.va h.fa
  have fb := Lazy.Full.of_valid h.vb h.fb
  unfold gradedContract
  rw [((storedPairs_swap_perm a b xa xb fa.sign.sectors fb.sign.sectors hsa L Rr hL).map _).sum_eq,
    List.map_map, ← sgnI_sum]
  refine congrArg List.sum (List.map_congr_left ?_)
  rintro ⟨sa, sb⟩ hp
  obtain ⟨m1, m2, m3, m4⟩ := mem_storedPairs.mp hp
  have hla := Arr.sector_length hsa m1
  have hlb := Arr.sector_length hsb m2
  simp only [Function.comp, Prod.swap]
  rw [contractPair_swap a b xa xb hmul hsa hsb h.con h.ltA h.ltB oL oR sa sb m1 m2 m3,
    sgnI_comp (sgn_cases _) (gradedSign_pm _ _ _ _ _ _),
    gradedSign_swap a b xa xb h.sym h.con h.nA h.ltA h.nB h.ltB sa sb hla hlb m3]
  refine congrArg (fun σ => sgnI σ _) ?_
  rw [Int.mul_comm]
  refine congrArg (· * gradedSign a b xa xb sa sb) (sgn_congr ?_)
  -- the free parts of the pair are `L` and `Rr`
  have hl1 : (permuted sa (freeAxes a.ndim xa)).length = L.length := by
    rw [permuted_length _ _ (by intro x hx; rw [hla]; exact (mem_freeAxes.mp hx).1), hL]
  obtain ⟨e1, e2⟩ := List.append_inj m4 hl1
  rw [e1, e2]
  have pa := parity_split a xa h.nA h.ltA sa hla (Lazy.SecValid.of_valid h.va sa m1)
  have pb := parity_split b xb h.nB h.ltB sb hlb (Lazy.SecValid.of_valid h.vb sb m2)
  rw [e1] at pa
  rw [e2, m3, ← h.sym] at pb
  have := swap_parity (oddIn a.sym L) (oddIn a.sym (permuted sa xa)) (oddIn a.sym Rr) a.parity b.parity
    pa (by rw [pb, Nat.add_comm])
  omega

/-- **S5, labels not necessarily distinct.**  If both label merges succeed with the same list and
    `sba = sab · sgn(parity a · parity b)`, the value of `b·a` at the address with the two free parts
    exchanged is the value of `a·b` times the Koszul sign of the rotation. -/
theorem tdotF_swap_gen_w (a b c : Arr R) (xa xb : List Nat) (hmul : ∀ x y : R, x * y = y * x)
    (h : AdmW a b xa xb) (out : List (Int × Bool)) (sab sba : Int)
    (m1 : mergeOddpos a.parity a.oddpos b.oddpos = .ok (out, sab))
    (m2 : mergeOddpos b.parity b.oddpos a.oddpos = .ok (out, sba))
    (m3 : sba = sab * sgn (a.parity.toNat * b.parity.toNat))
    (hc : a.tensordotF b (.pair (xa.map Int.ofNat) (xb.map Int.ofNat)) .blockwise = .ok c) :
    ∃ c', b.tensordotF a (.pair (xb.map Int.ofNat) (xa.map Int.ofNat)) .blockwise = .ok c'
      ∧ c'.oddpos = c.oddpos ∧ c'.charge = c.charge ∧ c'.sym = c.sym ∧ c'.fermi = c.fermi
      ∧ ∀ (L Rr : Sector) (oL oR : List Nat), L.length = (freeAxes a.ndim xa).length →
          Rr.length = (freeAxes b.ndim xb).length → oL.length = (freeAxes a.ndim xa).length →
          oR.length = (freeAxes b.ndim xb).length →
          inBox (Arr.blockShapeD (without a.indices xa ++ without b.indices xb) (L ++ Rr))
            (oL ++ oR) = true →
          c'.elem (Rr ++ L) (oR ++ oL)
            = sgnI (koszul ((L ++ Rr).map a.sym.parity)
                (some ((List.range Rr.length).map (L.length + ·) ++ List.range L.length)))
                (c.elem (L ++ Rr) (oL ++ oR)) := by
  have hsab := mergeOddpos_pm m1
  obtain ⟨o, s, C⟩ := Call.of_ok h hc
  obtain ⟨rfl, rfl⟩ : out = o ∧ sab = s := by
    have := m1.symm.trans C.merge; simpa using this
  obtain ⟨c', e', C'⟩ := Call.of_merge (admW_swap h) m2
  refine ⟨c', e', C'.oddpos.trans C.oddpos.symm, ?_, by rw [C'.sym, C.sym, h.sym],
    by rw [C'.fermi, C.fermi], ?_⟩
  · rw [C'.charge, C.charge, ← h.sym]
    exact Sym.combine_comm a.sym b.charge a.charge
  · intro L Rr oL oR hL hR hoL hoR ho
    have ho' := box_swap a b xa xb L Rr hL hR oL oR hoL hoR ho
    rw [C'.elem _ _ _ hoR ho', C.elem _ _ _ hoL ho, gradedContract_swap_w a b xa xb hmul h L Rr hL oL oR]
    have hrot : koszul ((L ++ Rr).map a.sym.parity)
        (some ((List.range Rr.length).map (L.length + ·) ++ List.range L.length))
        = sgn (oddIn a.sym L * oddIn a.sym Rr) := by
      have := koszul_rot (L.map a.sym.parity) (Rr.map a.sym.parity)
      rw [List.length_map, List.length_map, oddIn_eq_filter, oddIn_eq_filter, ← List.map_append] at this
      exact this
    rw [hrot, m3, sgnI_comp (Lazy.mul_pm hsab (sgn_cases _)) (sgn_cases _), sgnI_comp (sgn_cases _) hsab]
    refine congrArg (fun σ => sgnI σ _) ?_
    rw [Int.mul_assoc, ← sgn_add, Int.mul_comm]
    refine congrArg (· * sab) (sgn_congr ?_)
    omega

/-- **S5** (blockwise mode, weak guard).  Passing the operands in the other order (pairwise-distinct
    labels, commutative scalars) gives a result with the same labels, charge, `sym` and `fermi` whose
    value, at every in-box address with the two free parts exchanged, is the original value times the
    Koszul sign of the rotation `rot` that moves `b`'s free legs in front — the sign of the
    transposition `rot` of the result; the statement is address by address, not an `ObsEq` with
    `transposeF c rot` (see Props/C04b). -/
theorem tdotF_swap_w (a b c : Arr R) (xa xb : List Nat) (hmul : ∀ x y : R, x * y = y * x)
    (h : AdmW a b xa xb) (hd : (a.oddpos ++ b.oddpos).Pairwise (fun x y => x.1 ≠ y.1))
    (hc : a.tensordotF b (.pair (xa.map Int.ofNat) (xb.map Int.ofNat)) .blockwise = .ok c) :
    ∃ c', b.tensordotF a (.pair (xb.map Int.ofNat) (xa.map Int.ofNat)) .blockwise = .ok c'
      ∧ c'.oddpos = c.oddpos ∧ c'.charge = c.charge ∧ c'.sym = c.sym ∧ c'.fermi = c.fermi
      ∧ ∀ (L Rr : Sector) (oL oR : List Nat), L.length = (freeAxes a.ndim xa).length →
          Rr.length = (freeAxes b.ndim xb).length → oL.length = (freeAxes a.ndim xa).length →
          oR.length = (freeAxes b.ndim xb).length →
          inBox (Arr.blockShapeD (without a.indices xa ++ without b.indices xb) (L ++ Rr))
            (oL ++ oR) = true →
          c'.elem (Rr ++ L) (oR ++ oL)
            = sgnI (koszul ((L ++ Rr).map a.sym.parity)
                (some ((List.range Rr.length).map (L.length + ·) ++ List.range L.length)))
                (c.elem (L ++ Rr) (oL ++ oR)) := by
  obtain ⟨out, sab, sba, m1, m2, m3⟩ := mergeOddpos_swap a.parity b.parity a.oddpos b.oddpos hd
  -- the label counts have the operands' parities
  have hlab := label_swap_parity a.parity b.parity a.oddpos.length b.oddpos.length
    (oddpos_parity h.va h.fa) (oddpos_parity h.vb h.fb)
  exact tdotF_swap_gen_w a b c xa xb hmul h out sab sba m1 m2
    (m3.trans (congrArg (sab * ·) (sgn_congr hlab))) hc

end s5

end Assoc4P

namespace RoutesP
open TdotP GradedP KoszulP OddposP AssocP Assoc4P

section s5strong
variable {R : Type}
variable [AddCommMonoid R] [Mul R] [Neg R] [SignRing R]
open Lazy (sgnI)

/-- **S5** under the documented guard `Adm`: `Assoc4P.tdotF_swap_w` through `AdmW.ofAdm`. -/
theorem tdotF_swap (a b c : Arr R) (xa xb : List Nat) (hmul : ∀ x y : R, x * y = y * x)
    (h : Adm a b xa xb) (hd : (a.oddpos ++ b.oddpos).Pairwise (fun x y => x.1 ≠ y.1))
    (hc : a.tensordotF b (.pair (xa.map Int.ofNat) (xb.map Int.ofNat)) .blockwise = .ok c) :
    ∃ c', b.tensordotF a (.pair (xb.map Int.ofNat) (xa.map Int.ofNat)) .blockwise = .ok c'
      ∧ c'.oddpos = c.oddpos ∧ c'.charge = c.charge ∧ c'.sym = c.sym ∧ c'.fermi = c.fermi
      ∧ ∀ (L Rr : Sector) (oL oR : List Nat), L.length = (freeAxes a.ndim xa).length →
          Rr.length = (freeAxes b.ndim xb).length → oL.length = (freeAxes a.ndim xa).length →
          oR.length = (freeAxes b.ndim xb).length →
          inBox (Arr.blockShapeD (without a.indices xa ++ without b.indices xb) (L ++ Rr))
            (oL ++ oR) = true →
          c'.elem (Rr ++ L) (oR ++ oL)
            = sgnI (koszul ((L ++ Rr).map a.sym.parity)
                (some ((List.range Rr.length).map (L.length + ·) ++ List.range L.length)))
                (c.elem (L ++ Rr) (oL ++ oR)) :=
  tdotF_swap_w a b c xa xb hmul (.ofAdm h) hd hc

end s5strong


end RoutesP
end SymmModel
