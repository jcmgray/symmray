/-
  SymmModel.Proofs.Recon2Core — the records that say "this array is a factor of the fermionic matrix
  `x`", and `tensordot_fermionic` of a left with a right one.

  `symmray.linalg` returns, for `qr`, `svd`, `svd_truncated` (every `absorb` option), arrays whose
  blocks are blockwise images of blocks of the input `x`.  What the theorems about them need is
  recorded once, over a list `l` of items (the stored blocks of `x`, or the kept ones after
  truncation) with sector `sec p` and block `fA p` / `fB p`:
    `DecompP.LeftLike x Q …`   `Q` keeps `x`'s symmetry, charge, labels, row index; `fA p : [m, k]` at `sec p`;
    `DecompP.RightLike x V …`  `V` has no labels, `x`'s column index; `fB p : [k, n]` at the diagonal
                               sector `(c, c)` of the column charge of `sec p`;
    `ReconP.RightOf x V`       (Proofs/ReconSvd.lean) the sign table `qr_fermionic` / `svd_fermionic` leave on `V`;
    `Recon3P.Pair x … A B`     `A` left-like with `x`'s pending signs, `B` right-like and `RightOf x`, the
                               two bond indices with one charge table and opposite directions.
  Instances: `factors_pair` (`leftF` / `rightF` of any shape-correct block maps, Proofs/LinalgFactors.lean), and in
  Proofs/Recon3Trunc.lean the truncated factors and `Pair.absorb` (singular values multiplied in).
  The isometry theorems (Proofs/DecompIso.lean) need `LeftLike` / `RightLike` alone.

  `tdotF_pair_any_mode`: `tensordot_fermionic(A, B, ([1],[0]), mode)` of a `Pair`, every mode.  Route:
  `DecompP.tensordotF_all_modes` (Proofs/DecompTransfer.lean) gives the value view as the graded
  contraction of the value views of the operands; a `Pair` is a `DecompP.GramPair` (`Pair.gram`: the
  item sector `(r, c)` on `A` meets `(c, c)` on `B`), so that contraction is one signed sum per item
  (`GramPair.gradedContract`, Proofs/DecompGram.lean).  Its graded sign (`gradedSign_matrices`) is
  `-1` exactly when the bond is a ket on the left factor and the bond charge is odd — exactly the
  sectors on which `qr_fermionic`/`svd_fermionic` stored a pending `-1` on the right factor, so the
  two cancel, whichever operand `tensordot_fermionic` chooses to flip.
-/
import SymmModel.Proofs.DecompGram

namespace SymmModel
namespace Recon2P
set_option linter.unusedSectionVars false
open LinalgLemmas ReconP TdotP GradedP RoutesP OddposP
open Lazy (sgnI)

theorem eraseDups_of_nodup {α : Type} [BEq α] [LawfulBEq α] (l : List α) (h : l.Nodup) :
    l.eraseDups = l := by
  induction l with
  | nil => simp
  | cons a l ih =>
    rw [List.nodup_cons] at h
    rw [List.eraseDups_cons]
    have : l.filter (fun b => !b == a) = l := by
      rw [List.filter_eq_self]
      intro b hb
      have : b ≠ a := fun e => h.1 (e ▸ hb)
      simp [this]
    rw [this, ih h.2]

theorem sum_map_eq_foldl {R : Type} [AddMonoid R] (f : Nat → R) (l : List Nat) :
    (l.map f).sum = l.foldl (fun acc t => acc + f t) 0 := by
  rw [List.sum_eq_foldl, List.foldl_map]

variable {R : Type}

section factors
variable {x : Arr R} {L Rt : Blk R → Blk R}

theorem rightF_ndim : (rightF x L Rt).ndim = 2 := by
  simp [Arr.ndim, (rightF_fields (x := x) (L := L) (Rt := Rt)).indices]

theorem rightF_sectors : (rightF x L Rt).sectors = x.sectors.map diagOf := by
  simp [Arr.sectors, (rightF_fields (x := x) (L := L) (Rt := Rt)).blocks, List.map_map,
    Function.comp_def, colOf]

end factors

/-- the sign the fermionic rules attach to the pair (`x`-sector `[r, c]`, diagonal sector of `c`) -/
def bondSign (x : Arr R) (c : Charge) : Int :=
  if !(x.indices.getD 1 default).dual && x.sym.parity c then -1 else 1

theorem bondSign_pm (x : Arr R) (c : Charge) : bondSign x c = 1 ∨ bondSign x c = -1 := by
  unfold bondSign; split <;> simp

theorem pm_mul_self {p : Int} (h : p = 1 ∨ p = -1) : p * p = 1 := by
  rcases h with rfl | rfl <;> rfl

theorem bondSign_sq (x : Arr R) (c : Charge) : bondSign x c * bondSign x c = 1 :=
  pm_mul_self (bondSign_pm x c)

theorem inBox_diag {I I' : Index} {c : Charge} {k : Nat} (e : alookup I.cm c = some k)
    (e' : alookup I'.cm c = some k) {t t' : Nat} (ht : t < k) (ht' : t' < k) :
    inBox (Arr.blockShapeD [I, I'] [c, c]) [t, t'] = true := by
  unfold Arr.blockShapeD
  rw [(blockShape?_pair _ _ c c [k, k]).mpr ⟨k, k, e, e', rfl⟩]
  exact (inBox_pair _ _ t t').mpr ⟨ht, ht'⟩

end Recon2P

namespace DecompP
open LinalgLemmas ReconP Recon2P

variable {R : Type}

/-- `Q` is a left-factor-like array of the fermionic matrix `x` restricted to the items `l`: it keeps
    `x`'s symmetry, charge, labels and row index, and stores `fA p` (shape `[m, k]`) at the sector
    `sec p` of `x` (any pending signs).  Instances: `q` of `qr`, `u` of `svd`, `u'` of
    `svd_truncated`. -/
structure LeftLike (x Q : Arr R) {α : Type} (l : List α) (sec : α → Sector) (fA : α → Blk R)
    (dims : α → Nat × Nat) : Prop where
  v : Q.validB = true
  f : Q.fermi = true
  sym : Q.sym = x.sym
  ch : Q.charge = x.charge
  od : Q.oddpos = x.oddpos
  idx : ∃ J, Q.indices = [x.indices.getD 0 default, J]
  bl : Q.blocks = l.map (fun p => (sec p, fA p))
  hin : ∀ p ∈ l, sec p ∈ x.sectors
  hsec : (l.map sec).Nodup
  hsh : ∀ p ∈ l, (fA p).shape = [(dims p).1, (dims p).2]

/-- `V` is a right-factor-like array: no labels, `x`'s symmetry and column index, `fB p` (shape
    `[k, n]`) at the diagonal sector of the column charge of `sec p` (any pending signs). -/
structure RightLike (x V : Arr R) {α : Type} (l : List α) (sec : α → Sector) (fB : α → Blk R)
    (dims : α → Nat × Nat) : Prop where
  v : V.validB = true
  f : V.fermi = true
  sym : V.sym = x.sym
  od : V.oddpos = []
  idx : ∃ J, V.indices = [J, x.indices.getD 1 default]
  bl : V.blocks = l.map (fun p => (diagOf (sec p), fB p))
  hin : ∀ p ∈ l, sec p ∈ x.sectors
  hsec : (l.map sec).Nodup
  hsh : ∀ p ∈ l, (fB p).shape = [(dims p).1, (dims p).2]

section items
variable {x : Arr R} {α : Type} {l : List α} {sec : α → Sector}

theorem items_rc (hv : x.validB = true) (h2 : x.ndim = 2) (hin : ∀ p ∈ l, sec p ∈ x.sectors) :
    ∀ p ∈ l, sec p = [rowOf (sec p), colOf (sec p)] := by
  obtain ⟨i0, i1, hi⟩ := ndim_two h2
  intro p hp
  obtain ⟨⟨s0, b⟩, hm, e⟩ := List.mem_map.mp (hin p hp)
  obtain ⟨r, c, m, n, B⟩ := mat_block hv hi hm
  have e' : sec p = [r, c] := by rw [← e]; exact B.hs
  rw [e']; rfl

theorem items_rows (hv : x.validB = true) (h2 : x.ndim = 2) (hin : ∀ p ∈ l, sec p ∈ x.sectors)
    (hsec : (l.map sec).Nodup) : (l.map (fun p => rowOf (sec p))).Nodup := by
  have := nodup_map_of_inj (l.map sec) rowOf hsec (by
    intro a ha b hb e
    obtain ⟨p, hp, rfl⟩ := List.mem_map.mp ha
    obtain ⟨q, hq, rfl⟩ := List.mem_map.mp hb
    exact (sector_inj hv h2 (hin p hp) (hin q hq)).1 e)
  simpa [List.map_map, Function.comp_def] using this

theorem items_cols (hv : x.validB = true) (h2 : x.ndim = 2) (hin : ∀ p ∈ l, sec p ∈ x.sectors)
    (hsec : (l.map sec).Nodup) : (l.map (fun p => colOf (sec p))).Nodup := by
  have := nodup_map_of_inj (l.map sec) colOf hsec (by
    intro a ha b hb e
    obtain ⟨p, hp, rfl⟩ := List.mem_map.mp ha
    obtain ⟨q, hq, rfl⟩ := List.mem_map.mp hb
    exact (sector_inj hv h2 (hin p hp) (hin q hq)).2 e)
  simpa [List.map_map, Function.comp_def] using this

theorem items_diag (hv : x.validB = true) (h2 : x.ndim = 2) (hin : ∀ p ∈ l, sec p ∈ x.sectors)
    (hsec : (l.map sec).Nodup) :
    (l.map (fun p => [colOf (sec p), colOf (sec p)])).Nodup := by
  exact nodup_map_diag (items_cols hv h2 hin hsec)

end items

theorem leftLike_leftF {x : Arr R} {L Rt : Blk R → Blk R} (hv : x.validB = true) (h2 : x.ndim = 2)
    (hf : x.fermi = true) (hL : FacShape L Rt) :
    LeftLike x (leftF x L) x.blocks (fun p => p.1) (fun p => L p.2)
      (fun p => (p.2.shape.getD 0 0, min (p.2.shape.getD 0 0) (p.2.shape.getD 1 0))) := by
  obtain ⟨i0, i1, hi⟩ := ndim_two h2
  refine ⟨leftF_valid hv h2 hi hL, hf, rfl, rfl, rfl, ⟨bondIx x L, rfl⟩, rfl,
    fun p hp => List.mem_map.mpr ⟨p, hp, rfl⟩, Arr.validB_nodup hv, ?_⟩
  intro p hp
  obtain ⟨r, c, m, n, B⟩ := mat_block hv hi (s := p.1) (b := p.2) hp
  obtain ⟨l1, _, _, _⟩ := hL p.2 m n B.hshape B.hwf
  simp only [B.hshape, List.getD_cons_zero, List.getD_cons_succ]
  exact l1

theorem rightLike_rightF {x : Arr R} {L Rt : Blk R → Blk R} (hv : x.validB = true)
    (h2 : x.ndim = 2) (hf : x.fermi = true) (hL : FacShape L Rt) :
    RightLike x (rightF x L Rt) x.blocks (fun p => p.1) (fun p => Rt p.2)
      (fun p => (min (p.2.shape.getD 0 0) (p.2.shape.getD 1 0), p.2.shape.getD 1 0)) := by
  obtain ⟨i0, i1, hi⟩ := ndim_two h2
  obtain ⟨f1, f2, f3, f4, f5, f6⟩ := rightF_fields (x := x) (L := L) (Rt := Rt)
  refine ⟨rightF_valid hv h2 hi hL, f2.trans hf, f1, f6, ⟨_, f3⟩, f5,
    fun p hp => List.mem_map.mpr ⟨p, hp, rfl⟩, Arr.validB_nodup hv, ?_⟩
  intro p hp
  obtain ⟨r, c, m, n, B⟩ := mat_block hv hi (s := p.1) (b := p.2) hp
  obtain ⟨_, _, l3, _⟩ := hL p.2 m n B.hshape B.hwf
  simp only [B.hshape, List.getD_cons_zero, List.getD_cons_succ]
  exact l3

end DecompP

namespace Recon3P
set_option linter.unusedSectionVars false
open LinalgLemmas ReconP Recon2P TdotP GradedP RoutesP OddposP
open Lazy (sgnI phOf)

variable {R : Type}

theorem tdKeysS {S : List Sector} (hlen : ∀ s ∈ S, s.length = 2) (hcols : (S.map colOf).Nodup) :
    tdKeys S (S.map diagOf) [0] [1] [0] [1] = S := by
  unfold tdKeys
  conv => rhs; rw [← List.flatMap_singleton' S]
  apply List.flatMap_congr
  intro sa hsa
  obtain ⟨r, c, rfl⟩ := length_two (hlen sa hsa)
  -- the only diagonal sector that continues `[r, c]` is that of `c`
  have hf : S.filter ((fun t => permuted t [0] == permuted [r, c] [1]) ∘ diagOf) = [[r, c]] := by
    apply filter_key_eq_singleton S colOf hcols hsa
    intro q _
    show ([colOf q] == [c]) = true ↔ colOf q = c
    constructor
    · intro h; exact (List.cons.inj (eq_of_beq h)).1
    · intro h; rw [h]; exact beq_self_eq_true _
  rw [List.filter_map, hf]
  rfl

/-- `A`, `B` are a (left, right) pair of factors of the fermionic matrix `x` restricted to the items
    `l`: `A` is left-factor-like (stores `fA p`, shape `[m, k]`, at `sec p`; `x`'s row index, charge
    and labels) and keeps `x`'s pending signs; `B` is right-factor-like (stores `fB p`, shape
    `[k, n]`, at the diagonal sector of the column charge of `sec p`; `x`'s column index) and a
    `RightOf x` (no labels, the sign table `qr_fermionic`/`svd_fermionic` write); the two bond
    indices carry the same charge table and opposite directions, the one on `A` the direction of
    `x`'s column index. -/
structure Pair (x : Arr R) {α : Type} (l : List α) (sec : α → Sector) (fA fB : α → Blk R)
    (dims : α → Nat × Nat × Nat) (A B : Arr R) : Prop where
  left : DecompP.LeftLike x A l sec fA (fun p => ((dims p).1, (dims p).2.1))
  right : DecompP.RightLike x B l sec fB (fun p => ((dims p).2.1, (dims p).2.2))
  ro : RightOf x B
  pa : A.phases = x.phases
  idx : ∃ J j0, A.indices = [x.indices.getD 0 default, J]
    ∧ B.indices = [j0, x.indices.getD 1 default]
    ∧ J.cm = j0.cm ∧ J.dual = (x.indices.getD 1 default).dual

section pair
variable {x : Arr R} {α : Type} {l : List α} {sec : α → Sector} {fA fB : α → Blk R}
  {dims : α → Nat × Nat × Nat} {A B : Arr R}

theorem Pair.ndimA (P : Pair x l sec fA fB dims A B) : A.ndim = 2 := by
  obtain ⟨J, j0, h1, _⟩ := P.idx
  simp [Arr.ndim, h1]

theorem Pair.ndimB (P : Pair x l sec fA fB dims A B) : B.ndim = 2 := by
  obtain ⟨J, j0, _, h2, _⟩ := P.idx
  simp [Arr.ndim, h2]

theorem Pair.secA (P : Pair x l sec fA fB dims A B) : A.sectors = l.map sec := by
  simp [Arr.sectors, P.left.bl, List.map_map, Function.comp_def]

theorem Pair.secB (P : Pair x l sec fA fB dims A B) : B.sectors = (l.map sec).map diagOf := by
  simp [Arr.sectors, P.right.bl, List.map_map, Function.comp_def]

theorem Pair.len2 (P : Pair x l sec fA fB dims A B) (hv : x.validB = true) (h2 : x.ndim = 2) :
    ∀ s ∈ l.map sec, s.length = 2 := by
  intro s hs
  obtain ⟨p, hp, rfl⟩ := List.mem_map.mp hs
  obtain ⟨⟨_, b⟩, hm, e⟩ := List.mem_map.mp (P.left.hin p hp)
  have := Arr.validB_block_len hv hm
  rw [← e, this, h2]

theorem Pair.cols (P : Pair x l sec fA fB dims A B) (hv : x.validB = true) (h2 : x.ndim = 2) :
    ((l.map sec).map colOf).Nodup := by
  rw [List.map_map]; exact DecompP.items_cols hv h2 P.left.hin P.left.hsec

theorem Pair.adm (P : Pair x l sec fA fB dims A B) : Adm A B [1] [0] := by
  obtain ⟨J, j0, h1, h2, h3, h4⟩ := P.idx
  obtain ⟨j0', j1', hB, hd⟩ := P.ro.hidx
  have hj : j0' = j0 := by rw [h2] at hB; exact (List.cons.inj hB).1.symm
  subst hj
  exact adm_matrices P.left.v P.right.v P.left.f P.right.f (P.left.sym.trans P.ro.hsym.symm) h1 h2 h3
    (by rw [h4, hd, Bool.not_not])

theorem Pair.rc (P : Pair x l sec fA fB dims A B) (hv : x.validB = true) (h2 : x.ndim = 2) :
    ∀ p ∈ l, sec p = [rowOf (sec p), colOf (sec p)] := by
  intro p hp
  obtain ⟨r, c, h⟩ := length_two (P.len2 hv h2 (sec p) (List.mem_map.mpr ⟨p, hp, rfl⟩))
  rw [h]; rfl

theorem Pair.gram (P : Pair x l sec fA fB dims A B) (hv : x.validB = true) (h2 : x.ndim = 2) :
    DecompP.GramPair A B l (fun p => rowOf (sec p)) (fun p => colOf (sec p))
      (fun p => colOf (sec p)) := by
  have hrc := P.rc hv h2
  refine ⟨P.ndimA, P.ndimB, ?_, ?_, DecompP.items_cols hv h2 P.left.hin P.left.hsec, ?_⟩
  · rw [P.secA]; exact List.map_congr_left hrc
  · rw [P.secB, List.map_map]; rfl
  · rw [← List.map_congr_left hrc]; exact P.left.hsec

variable [AddMonoid R] [Mul R] [Neg R] [SignRing R]

omit [Mul R] [SignRing R] in
theorem Pair.phOk (P : Pair x l sec fA fB dims A B) : Lazy.PhOk x.phases :=
  P.pa ▸ (Lazy.SignOk.of_valid P.left.v P.left.f).phases

theorem Pair.elemA (P : Pair x l sec fA fB dims A B) {p : α} (hp : p ∈ l) (off : List Nat) :
    A.elem (sec p) off = sgnI (phOf x.phases (sec p)) ((fA p).get off) := by
  have hnd : A.sectors.Nodup := by rw [P.secA]; exact P.left.hsec
  have hm' : (sec p, fA p) ∈ A.blocks := by rw [P.left.bl]; exact List.mem_map.mpr ⟨p, hp, rfl⟩
  rw [elem_sgn hnd hm' off, P.pa]

theorem Pair.elemB (P : Pair x l sec fA fB dims A B) (hv : x.validB = true) (h2 : x.ndim = 2)
    {p : α} (hp : p ∈ l) (off : List Nat) :
    B.elem (diagOf (sec p)) off = sgnI (bondSign x (colOf (sec p))) ((fB p).get off) := by
  have hnd : B.sectors.Nodup := by
    rw [P.secB]
    exact nodup_map_diag (P.cols hv h2)
  have hm' : (diagOf (sec p), fB p) ∈ B.blocks := by
    rw [P.right.bl]; exact List.mem_map.mpr ⟨p, hp, rfl⟩
  have hmem : diagOf (sec p) ∈ x.sectors.map diagOf := List.mem_map.mpr ⟨sec p, P.left.hin p hp, rfl⟩
  rw [Arr.elem_of_mem hnd hm' off, P.ro.hph]
  unfold bondSign sgnI
  cases hd : (x.indices.getD 1 default).dual
  · simp only [Bool.true_and, Bool.not_false, if_true]
    have := alookup_flagged (x.sectors.map diagOf)
      (fun s => x.sym.parity (s.getD 0 (0, 0))) (diagOf (sec p))
    rw [this]
    simp only [hmem, decide_true, Bool.true_and, diagOf, List.getD_cons_zero]
    cases x.sym.parity (colOf (sec p)) <;> simp
  · simp

omit [AddMonoid R] [Mul R] [Neg R] [SignRing R] in
theorem Pair.table (P : Pair x l sec fA fB dims A B) (hv : x.validB = true) (h2 : x.ndim = 2)
    {p : α} (hp : p ∈ l) :
    Arr.blockShapeD x.indices (sec p) = [(dims p).1, (dims p).2.2]
      ∧ Arr.blockShapeD A.indices (sec p) = [(dims p).1, (dims p).2.1] := by
  obtain ⟨i0, i1, hi⟩ := ndim_two h2
  obtain ⟨J, j0, hA1, hB1, _, _⟩ := P.idx
  obtain ⟨r, c, hrc⟩ := length_two (P.len2 hv h2 (sec p) (List.mem_map.mpr ⟨p, hp, rfl⟩))
  have hdg : diagOf (sec p) = [c, c] := by rw [hrc, diagOf_pair]
  obtain ⟨e1, e2⟩ := block_table P.left.v hA1
    (by rw [← hrc, P.left.bl]; exact List.mem_map.mpr ⟨p, hp, rfl⟩) (P.left.hsh p hp)
  obtain ⟨_, e5⟩ := block_table P.right.v hB1
    (by rw [← hdg, P.right.bl]; exact List.mem_map.mpr ⟨p, hp, rfl⟩) (P.right.hsh p hp)
  have hi0 : x.indices.getD 0 default = i0 := by simp [hi]
  have hi1 : x.indices.getD 1 default = i1 := by simp [hi]
  rw [hi0] at e1; rw [hi1] at e5
  unfold Arr.blockShapeD
  constructor
  · rw [hi, hrc, (blockShape?_pair i0 i1 r c _).mpr ⟨_, _, e1, e5, rfl⟩]; rfl
  · rw [hA1, hi0, hrc, (blockShape?_pair i0 J r c _).mpr ⟨_, _, e1, e2, rfl⟩]; rfl

end pair

section modes
variable [AddCommMonoid R] [Mul R] [Neg R] [SignRing R] {x : Arr R} {α : Type} {l : List α}
  {sec : α → Sector} {fA fB : α → Blk R} {dims : α → Nat × Nat × Nat} {A B : Arr R}

/-- **an aligned pair, every contraction mode.**  `tensordot_fermionic(A, B, ([1],[0]), mode)`
    succeeds, carries `x`'s labels, stores every item sector in blocks of the shape `x`'s index
    tables give, has the entry `± Σ_t fA[i,t]·fB[t,j]` (pending sign of `x`) at every offset of
    every item's box and `0` at every table address of every other sector.  Fused and auto mode
    are reduced to the blockwise one by C06d. -/
theorem tdotF_pair_any_mode (hv : x.validB = true) (h2 : x.ndim = 2)
    (hlab : SortedLabels x.oddpos) (P : Pair x l sec fA fB dims A B) (tm : TdotMode)
    (hz : tm = .blockwise ∨ ((∀ x : R, 0 * x = 0) ∧ ∀ x : R, x * 0 = 0)) :
    ∃ c, A.tensordotF B (.pair [1] [0]) tm = .ok c
      ∧ c.oddpos = x.oddpos ∧ (∀ s ∈ l.map sec, s ∈ c.sectors)
      ∧ (tm = .blockwise → c.phases = [] ∧ c.sectors = l.map sec)
      ∧ (∀ s V, alookup c.blocks s = some V → V.shape = Arr.blockShapeD x.indices s)
      ∧ (∀ p ∈ l, ∀ i j, i < (dims p).1 → j < (dims p).2.2 →
          c.elem (sec p) [i, j]
            = sgnI (phOf x.phases (sec p)) ((List.range (dims p).2.1).foldl
                (fun acc t => acc + (fA p).get [i, t] * (fB p).get [t, j]) 0))
      ∧ (∀ s, s ∉ l.map sec → ∀ off, inBox (Arr.blockShapeD x.indices s) off = true →
          c.elem s off = 0) := by
  obtain ⟨i0, i1, hi⟩ := ndim_two h2
  obtain ⟨J, j0, hA1, hB1, hcm, hJd⟩ := P.idx
  have hidx : without A.indices [1] ++ without B.indices [0] = x.indices := by
    rw [hA1, hB1, hi]; rfl
  have f1 : freeAxes A.ndim [1] = [0] := by rw [P.ndimA]; decide
  have f2 : freeAxes B.ndim [0] = [1] := by rw [P.ndimB]; decide
  have hkeys : (tdKeys A.sectors B.sectors (freeAxes A.ndim [1]) [1] [0]
      (freeAxes B.ndim [0])).eraseDups = l.map sec := by
    rw [f1, f2, P.secA, P.secB, tdKeysS (P.len2 hv h2) (P.cols hv h2), eraseDups_of_nodup _ P.left.hsec]
  have hrc := P.rc hv h2
  obtain ⟨c, hc, ho, _, hel, g1, g3, g4, g2⟩ :=
    DecompP.tensordotF_all_modes A B [1] [0] P.adm _ 1
      (by rw [P.ro.hodd, P.left.od]; exact merge_left_sorted _ _ hlab) tm hz
  rw [hkeys] at g1 g2 g4
  rw [hidx] at g3 g4 hel
  refine ⟨c, hc, ho, g1, fun h => ⟨(g2 h).2 rfl, (g2 h).1⟩, g3, fun p hp i j hi' hj' => ?_, g4⟩
  obtain ⟨htab, hAshape⟩ := P.table hv h2 hp
  have := hel (sec p) [i] [j] (by rw [f1]; rfl)
    (by rw [htab]; exact (inBox_pair _ _ i j).mpr ⟨hi', hj'⟩)
  rw [show ([i] ++ [j] : List Nat) = [i, j] from rfl] at this
  -- the one stored sector pair of the item's sector, and its sign
  have hgc := (P.gram hv h2).gradedContract hp (dims p).1 (dims p).2.1
    (by rw [← hrc p hp]; exact hAshape) i j
  rw [← hrc p hp] at hgc
  rw [this, hgc, Lazy.sgnI_one]
  have hsign : (if !(A.indices.getD 1 default).dual && A.sym.parity (colOf (sec p))
      then (-1 : Int) else 1) = bondSign x (colOf (sec p)) := by
    rw [hA1, P.left.sym]
    unfold bondSign
    rw [← hJd]
    rfl
  rw [hsign]
  -- the bond sign of `B`'s value view appears a second time
  have hterm : ∀ t ∈ List.range (dims p).2.1,
      A.elem (sec p) [i, t] * B.elem [colOf (sec p), colOf (sec p)] [t, j]
        = sgnI (phOf x.phases (sec p) * bondSign x (colOf (sec p)))
            ((fA p).get [i, t] * (fB p).get [t, j]) := by
    intro t _
    show A.elem (sec p) [i, t] * B.elem (diagOf (sec p)) [t, j] = _
    rw [P.elemA hp, P.elemB hv h2 hp, sgnI_mul_mul (P.phOk.phOf _) (bondSign_pm x _)]
  rw [List.map_congr_left hterm, sgnI_sum, sum_map_eq_foldl,
    sgnI_comp (bondSign_pm x _) (Lazy.mul_pm (P.phOk.phOf _) (bondSign_pm x _))]
  congr 1
  rw [Int.mul_comm (bondSign x _), Int.mul_assoc, bondSign_sq, Int.mul_one]

end modes

theorem factors_pair {x : Arr R} {L Rt : Blk R → Blk R} (hv : x.validB = true) (h2 : x.ndim = 2)
    (hf : x.fermi = true) (hL : FacShape L Rt) :
    Pair x x.blocks (fun p => p.1) (fun p => L p.2) (fun p => Rt p.2)
      (fun p => (p.2.shape.getD 0 0, min (p.2.shape.getD 0 0) (p.2.shape.getD 1 0), p.2.shape.getD 1 0))
      (leftF x L) (rightF x L Rt) := by
  obtain ⟨i0, i1, hi⟩ := ndim_two h2
  have hi1 : x.indices.getD 1 default = i1 := by simp [hi]
  exact ⟨DecompP.leftLike_leftF hv h2 hf hL, DecompP.rightLike_rightF hv h2 hf hL,
    rightF_rightOf hv h2 hf _ _, rfl,
    ⟨bondIx x L, (bondIx x L).conj, rfl, rightF_fields.indices, (Index.conj_cm _).symm,
      by rw [bondIx_eq hi, hi1]; rfl⟩⟩

end Recon3P
end SymmModel
