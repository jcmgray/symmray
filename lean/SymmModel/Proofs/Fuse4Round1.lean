/-
  SymmModel.Proofs.Fuse4Round1 — towards `unfuseF_fuseF`: `ShapeEq` (same indices, same stored
  sectors with the same block shapes) is kept by `unfuse` (`unfuse_transfer`, `shapeEq_unfuse`).
-/
import SymmModel.Proofs.Fuse4Sign2
namespace SymmModel
namespace FuseP
set_option linter.unusedSectionVars false
open SymmModel.KoszulP SymmModel.Lazy

variable {R : Type}

def ShapeEq (Z X : Arr R) : Prop :=
  Z.indices = X.indices ∧ ∀ K, (alookup Z.blocks K).map (·.shape) = (alookup X.blocks K).map (·.shape)

theorem ShapeEq.refl (X : Arr R) : ShapeEq X X := ⟨rfl, fun _ => rfl⟩

section U
variable [Zero R]

theorem pieceU_shape (B : Blk R) (p st d : Nat) (sub : List Nat) :
    (pieceU B p st d sub).shape = replaceWithSeq B.shape p sub := rfl

theorem ShapeEq.symm {Z X : Arr R} (h : ShapeEq Z X) : ShapeEq X Z := ⟨h.1.symm, fun K => (h.2 K).symm⟩

theorem unfuse_transfer {A B A' B' : Arr R} (h : ShapeEq A B) (hvA : ValidArr A) (hvB : ValidArr B) {p : Nat}
    {ix : Index} {subs : List Index} {exts : Extents} (hix : B.indices[p]? = some ix)
    (hsub : ix.sub = some (subs, exts)) (hA : unfuseA A p = .ok A') (hB : unfuseA B p = .ok B')
    {K : Sector} {V : Blk R} (hV : alookup A'.blocks K = some V) :
    ∃ W, alookup B'.blocks K = some W ∧ W.shape = V.shape := by
  have hixA : A.indices[p]? = some ix := by rw [h.1]; exact hix
  obtain ⟨z, hz, Uz⟩ := unfuseU hvA hixA hsub
  obtain ⟨x, hx, Ux⟩ := unfuseU hvB hix hsub
  rw [hA] at hz; rw [hB] at hx
  simp only [Except.ok.injEq] at hz hx
  subst hz; subst hx
  obtain ⟨nsB, hm, e, ss, st, d, he, hst, hK, rfl⟩ := Uz.only K V hV
  have hl : alookup A.blocks nsB.1 = some nsB.2 := alookup_of_mem_nodup hvA.nodup hm
  have hs := h.2 nsB.1
  rw [hl] at hs
  cases hb : alookup B.blocks nsB.1 with
  | none => rw [hb] at hs; simp at hs
  | some b' =>
    rw [hb] at hs
    simp only [Option.map_some, Option.some.injEq] at hs
    obtain ⟨subshape, h1, _, h3, _⟩ := Ux.piece (nsB.1, b') (alookup_some_mem hb) e ss st d he hst
    refine ⟨_, by rw [hK]; exact h3, ?_⟩
    rw [pieceU_shape, pieceU_shape, h1, ← hs]
    rfl

theorem shapeEq_unfuse {Z X Z' X' : Arr R} (h : ShapeEq Z X) (hvZ : ValidArr Z) (hvX : ValidArr X) {p : Nat}
    {ix : Index} {subs : List Index} {exts : Extents} (hix : X.indices[p]? = some ix)
    (hsub : ix.sub = some (subs, exts)) (hZ : unfuseA Z p = .ok Z') (hX : unfuseA X p = .ok X') :
    ShapeEq Z' X' := by
  have hixZ : Z.indices[p]? = some ix := by rw [h.1]; exact hix
  obtain ⟨z, hz, Uz⟩ := unfuseU hvZ hixZ hsub
  obtain ⟨x, hx, Ux⟩ := unfuseU hvX hix hsub
  rw [hZ] at hz; rw [hX] at hx
  simp only [Except.ok.injEq] at hz hx
  subst hz; subst hx
  refine ⟨by rw [Uz.indices, Ux.indices, h.1], ?_⟩
  intro K
  cases hz : alookup Z'.blocks K with
  | some V =>
    obtain ⟨W, hW, hs⟩ := unfuse_transfer h hvZ hvX hix hsub hZ hX hz
    rw [hW]; simp [hs]
  | none =>
    cases hx : alookup X'.blocks K with
    | none => rfl
    | some W =>
      obtain ⟨V, hV, _⟩ := unfuse_transfer h.symm hvX hvZ hixZ hsub hX hZ hx
      rw [hz] at hV; cases hV

end U

end FuseP
end SymmModel
