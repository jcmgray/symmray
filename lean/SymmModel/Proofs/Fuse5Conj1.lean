/-
  SymmModel.Proofs.Fuse5Conj1 — `conj` and the fuse plan: conjugation flips every direction
  (recursively through the sub-index tables) and leaves charges, sizes and extents alone, so the
  plan of `conj a` is the plan of `a` with the new indices conjugated.
-/
import SymmModel.Proofs.FuseMultiAll
import SymmModel.Proofs.LinalgLemmas
import SymmModel.Proofs.LazyLemmas
namespace SymmModel
namespace FuseP
open SymmModel.LinalgLemmas

variable {R : Type}

/-- the index part of `conj` (blocks untouched): what the plan reads -/
def conjIdx (a : Arr R) : Arr R := { a with indices := a.indices.map Index.conj }

theorem conj_sizeOf (i : Index) (c : Charge) : i.conj.sizeOf? c = i.sizeOf? c := by
  simp only [Index.sizeOf?, Index.conj_cm]

theorem conjIdx_duals (a : Arr R) : (conjIdx a).duals = a.duals.map (fun d => !d) := by
  simp only [Arr.duals, conjIdx, List.map_map, List.map_inj_left, Function.comp, Index.conj_dual, implies_true]

theorem conjIdx_ndim (a : Arr R) : (conjIdx a).ndim = a.ndim := by simp [conjIdx, Arr.ndim]

theorem getD_map_conj (l : List Index) {x : Nat} (h : x < l.length) :
    (l.map Index.conj).getD x default = (l.getD x default).conj :=
  getD_map_of_lt Index.conj l x default default h

section Plan
variable {a : Arr R} {groups : List (List Nat)}

theorem gi_conj (hok : GroupsOk groups a.ndim) :
    (giM (conjIdx a) groups).position = (giM a groups).position
    ∧ (giM (conjIdx a) groups).perm = (giM a groups).perm
    ∧ (giM (conjIdx a) groups).axesBefore = (giM a groups).axesBefore
    ∧ (giM (conjIdx a) groups).axesAfter = (giM a groups).axesAfter
    ∧ ∀ g, g < groups.length →
        (giM (conjIdx a) groups).groupDuals.getD g false = !((giM a groups).groupDuals.getD g false) := by
  have hl : (conjIdx a).duals.length = a.duals.length := by rw [conjIdx_duals]; simp
  refine ⟨?_, ?_, ?_, ?_, ?_⟩
  · simp only [calcFuseGroupInfo]
  · simp only [calcFuseGroupInfo, hl]
  · simp only [calcFuseGroupInfo]
  · simp only [calcFuseGroupInfo, hl]
  · intro g hg
    have hgg : groups[g]? = some groups[g] := List.getElem?_eq_getElem hg
    rw [groupDuals_getD _ _ _ _ hgg, groupDuals_getD _ _ _ _ hgg, conjIdx_duals]
    have hne := hok.gne _ (List.getElem_mem hg)
    have hlt : (groups[g]).headD 0 < a.duals.length := by
      rw [duals_length]
      apply hok.lt
      refine List.mem_flatten.2 ⟨groups[g], List.getElem_mem hg, ?_⟩
      cases hgx : groups[g] with
      | nil => exact absurd hgx hne
      | cons x xs => simp
    simp only [List.getD_eq_getElem?_getD, List.getElem?_map, List.getElem?_eq_getElem hlt, Option.map_some,
      Option.getD_some]

theorem planOf_conj (hok : GroupsOk groups a.ndim) (s : Sector) (shp : List Nat) :
    planOf a.sym (a.indices.map Index.conj) groups (giM (conjIdx a) groups) s shp
      = planOf a.sym a.indices groups (giM a groups) s shp := by
  obtain ⟨_, _, hb, haf, hgd⟩ := gi_conj (a := a) hok
  simp only [planOf, hb, haf]
  have hmid : groups.zipIdx.map (midOf a.sym (a.indices.map Index.conj) s shp (giM (conjIdx a) groups))
      = groups.zipIdx.map (midOf a.sym a.indices s shp (giM a groups)) := by
    apply List.map_congr_left
    intro q hq
    obtain ⟨gaxes, g⟩ := q
    have hm := List.mem_zipIdx hq
    simp only [Nat.zero_add, Nat.sub_zero] at hm
    have hgin : gaxes ∈ groups := by rw [hm.2.2]; exact List.getElem_mem _
    simp only [midOf, fusedCharge]
    split
    · rfl
    · congr 2
      apply List.map_congr_left
      intro ax hax
      have hlt : ax < a.indices.length := hok.lt ax (List.mem_flatten.2 ⟨gaxes, hgin, hax⟩)
      rw [hgd g hm.2.1, getD_map_conj _ hlt, Index.conj_dual]
      cases (giM a groups).groupDuals.getD g false <;> cases (a.indices.getD ax default).dual <;> rfl
  rw [hmid]

theorem blockmapOf_conj (hok : GroupsOk groups a.ndim) : blockmapOf (conjIdx a) groups = blockmapOf a groups := by
  simp only [blockmapOf]
  apply List.map_congr_left
  intro sb _
  exact congrArg (Prod.mk sb.1) (planOf_conj hok sb.1 sb.2.shape)

theorem fusedIndexOf_conj (entries : List (Sector × Charge × Nat)) (gdual : Bool) (subs : List Index) :
    fusedIndexOf entries (!gdual) (subs.map Index.conj) = (fusedIndexOf entries gdual subs).conj := by
  simp only [fusedIndexOf, Index.conj, Index.conjList_eq_map]

theorem newIdxM_conj (hok : GroupsOk groups a.ndim) :
    newIdxM (conjIdx a) groups = (newIdxM a groups).map Index.conj := by
  obtain ⟨hpos, _, hb, haf, hgd⟩ := gi_conj (a := a) hok
  simp only [newIdxM, fuseInfoOf, List.map_append]
  have hci : (conjIdx a).indices = a.indices.map Index.conj := rfl
  rw [hci, hb, haf, permuted_map, permuted_map]
  congr 2
  simp only [newMidOf, List.map_map]
  apply List.map_congr_left
  intro q hq
  obtain ⟨gaxes, g⟩ := q
  have hm := List.mem_zipIdx hq
  simp only [Nat.zero_add, Nat.sub_zero] at hm
  have hgin : gaxes ∈ groups := by rw [hm.2.2]; exact List.getElem_mem _
  simp only [Function.comp]
  split
  · have hne := hok.gne _ hgin
    have hlt : gaxes.headD 0 < a.indices.length := by
      apply hok.lt
      refine List.mem_flatten.2 ⟨gaxes, hgin, ?_⟩
      cases hgx : gaxes with
      | nil => exact absurd hgx hne
      | cons x xs => simp
    rw [hci, getD_map_conj _ hlt]
  · rw [blockmapOf_conj hok, hpos, hgd g hm.2.1, ← fusedIndexOf_conj]
    congr 1
    rw [hci, List.map_map]
    apply List.map_congr_left
    intro ax hax
    exact getD_map_conj _ (hok.lt ax (List.mem_flatten.2 ⟨gaxes, hgin, hax⟩))

end Plan

end FuseP
end SymmModel
