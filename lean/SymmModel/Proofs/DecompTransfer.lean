/-
  SymmModel.Proofs.DecompTransfer — what is known of `tensordot_fermionic(a, b, axes, mode)` in EVERY
  contraction mode, collected in one statement (`tensordotF_all_modes`, any rank, any axes), and the
  passage from `@` to `tensordot` (`matmulF_to_tensordotF`; `tensordotA_matrices_table` is the abelian
  counterpart for two matrices).  The decompositions use them for matrices (Proofs/DecompGram.lean,
  Proofs/Recon2Core.lean).

  Blockwise mode is `AssocP.tensordotF_eq_core_w` / `coreT_frame_w` (Proofs/Routes.lean); fused and
  auto are reduced to it by C06d, which is where `0·x = x·0 = 0` is needed — hence the hypothesis
  `tm = .blockwise ∨ (… ∧ …)`.  `a @ b` and `tensordot(a, b, ([-1],[0]), mode)` agree because both are
  the graded contraction (C03 `matmulF_refines_graded`).

  Why a Proofs module imports Props: the statements collected here are theorems of
  Props/C06d (`C06.tensordotF_modes_agree_shapes`, `tensordotF_to_blockwise'`,
  `tensordotF_refines_graded_any_mode'`: fused/auto against blockwise) and Props/C03b
  (`C03.tensordotF_refines_graded_at`, `C03.matmulF_refines_graded`).  Props/C11All2 puts this module
  and everything over it (Decomp*, Recon2*, Recon3*, SmallIso: the proofs of C11e–h) behind C11–C11d,
  whose `C11.facShape_svd`, `C11.eighA_valid`, `C11.solveA_valid` they call.
-/
import SymmModel.Props.C11All2
import SymmModel.Props.C06d
import SymmModel.Proofs.TdotEveryMode

namespace SymmModel

namespace Recon2P
open RoutesP
variable {R : Type}

theorem contractible_matrices {A B : Arr R} {a0 a1 b0 b1 : Index} (hA : A.indices = [a0, a1])
    (hB : B.indices = [b0, b1]) (hcm : a1.cm = b0.cm) (hd : a1.dual = !b0.dual) :
    ValidP.contractibleB A B [1] [0] = true := by
  unfold ValidP.contractibleB
  rw [hA, hB]
  simp [hcm, hd]

theorem adm_matrices {A B : Arr R} (va : A.validB = true) (vb : B.validB = true)
    (fa : A.fermi = true) (fb : B.fermi = true) (hs : A.sym = B.sym) {a0 a1 b0 b1 : Index}
    (hA : A.indices = [a0, a1]) (hB : B.indices = [b0, b1]) (hcm : a1.cm = b0.cm)
    (hd : a1.dual = !b0.dual) : Adm A B [1] [0] := by
  refine ⟨va, vb, fa, fb, hs, contractible_matrices hA hB hcm hd, by decide, by decide, ?_, ?_⟩
  · intro a ha
    rw [List.mem_singleton.mp ha]
    show 1 < A.indices.length
    rw [hA]; exact Nat.one_lt_two
  · intro a ha
    rw [List.mem_singleton.mp ha]
    show 0 < B.indices.length
    rw [hB]; exact Nat.zero_lt_two

end Recon2P

namespace DecompP
open LinalgLemmas TdotP GradedP RoutesP OddposP
open Lazy (sgnI)

variable {R : Type}

section transfer
variable [AddCommMonoid R] [Mul R] [Neg R] [SignRing R]

/-- **`tensordot_fermionic(a, b, axes, mode)` in every mode**, for admissible operands whose labels merge: success,
    the merged labels, the combined charge, the graded contraction (C03) times the label sign at
    every table address; every key of the blockwise result is stored, stored blocks have the table
    shape, the result vanishes at every table address of every other key; the blockwise result has
    exactly these keys and, when the label sign is `1`, no pending sign.  `0·x = x·0 = 0` is
    needed for the fused and auto modes only. -/
theorem tensordotF_all_modes (a b : Arr R) (xa xb : List Nat) (hA : Adm a b xa xb)
    (out : List (Int × Bool)) (ph : Int)
    (hm : mergeOddpos a.parity a.oddpos b.oddpos = .ok (out, ph)) (tm : TdotMode)
    (hz : tm = .blockwise ∨ ((∀ x : R, 0 * x = 0) ∧ ∀ x : R, x * 0 = 0)) :
    ∃ c, a.tensordotF b (.pair (xa.map Int.ofNat) (xb.map Int.ofNat)) tm = .ok c
      ∧ c.oddpos = out ∧ c.charge = a.sym.combine [a.charge, b.charge]
      ∧ (∀ (s : Sector) (oL oR : List Nat), oL.length = (freeAxes a.ndim xa).length →
          inBox (Arr.blockShapeD (without a.indices xa ++ without b.indices xb) s) (oL ++ oR) = true →
          c.elem s (oL ++ oR) = sgnI ph (gradedContract a b xa xb s oL oR))
      ∧ (∀ s ∈ (tdKeys a.sectors b.sectors (freeAxes a.ndim xa) xa xb
            (freeAxes b.ndim xb)).eraseDups, s ∈ c.sectors)
      ∧ (∀ s V, alookup c.blocks s = some V →
          V.shape = Arr.blockShapeD (without a.indices xa ++ without b.indices xb) s)
      ∧ (∀ s, s ∉ (tdKeys a.sectors b.sectors (freeAxes a.ndim xa) xa xb
            (freeAxes b.ndim xb)).eraseDups →
          ∀ off, inBox (Arr.blockShapeD (without a.indices xa ++ without b.indices xb) s) off = true →
            c.elem s off = 0)
      ∧ (tm = .blockwise → c.sectors
            = (tdKeys a.sectors b.sectors (freeAxes a.ndim xa) xa xb (freeAxes b.ndim xb)).eraseDups
          ∧ (ph = 1 → c.phases = [])) := by
  have hadm : ValidP.tdotAdmissibleB a b xa xb = true := by
    exact ValidP.tdotAdmissibleB_iff.mpr ⟨hA.sym, hA.con, hA.nA, hA.nB, hA.ltA, hA.ltB⟩
  -- blockwise: the label merge followed by `finish` of the core contraction
  have hcore := AssocP.tensordotF_eq_core_w a b xa xb (.ofAdm hA)
  have hF := AssocP.coreT_frame_w a b xa xb (.ofAdm hA)
  rw [hm] at hcore
  generalize coreT a b xa xb = T at hF hcore
  have hcore' : a.tensordotF b (.pair (xa.map Int.ofNat) (xb.map Int.ofNat)) .blockwise
      = .ok (finish T (out, ph)) := hcore
  have hfb : (finish T (out, ph)).blocks = T.blocks := AssocP.finish_blocks T (out, ph)
  have hfs : (finish T (out, ph)).sectors = T.sectors := by unfold Arr.sectors; rw [hfb]
  have hzero : ∀ s, s ∉ T.sectors → ∀ off, (finish T (out, ph)).elem s off = 0 := by
    intro s hs off
    have : alookup (finish T (out, ph)).blocks s = none := by
      rw [hfb]; exact alookup_eq_none_iff.mpr hs
    simp only [Arr.elem, this]
  obtain ⟨out', ph', g1, g2, g3, g4⟩ :=
    C03.tensordotF_refines_graded_at a b _ xa xb hA.va hA.vb hA.fa hA.fb hadm hcore'
  rw [hm] at g1
  cases g1
  by_cases htm : tm = .blockwise
  · subst htm
    refine ⟨_, hcore', g2, g3, g4, fun s hs => by rw [hfs, hF.sectors]; exact hs,
      fun s V hl => hF.shape (s, V) (alookup_some_mem (by rw [← hfb]; exact hl)),
      fun s hs off _ => hzero s (by rw [hF.sectors]; exact hs) off,
      fun _ => ⟨by rw [hfs, hF.sectors], fun h1 => ?_⟩⟩
    subst h1
    show (finish T (out, 1)).phases = []
    unfold finish
    simp only [show ((1 : Int) == -1) = false from rfl, Bool.false_eq_true, if_false]
    exact hF.phases
  · -- fused / auto: C06d reduces them to the blockwise result on the table box
    have hmode : tm = .fused ∨ tm = .auto := by
      cases tm with
      | blockwise => exact absurd rfl htm
      | fused => exact Or.inl rfl
      | auto => exact Or.inr rfl
    obtain ⟨hz1, hz2⟩ := hz.resolve_left htm
    obtain ⟨rm, _, h1, _, _, _, _, _, _, _, hshape, _⟩ :=
      (C06.tensordotF_modes_agree_shapes hz1 hz2 a b xa xb hA tm hmode).2 _ hm
    obtain ⟨rb, h2, _, _, _, _, _, hsec, hel⟩ :=
      C06.tensordotF_to_blockwise' hz1 hz2 a b rm xa xb (AssocP.AdmW.ofAdm hA) tm hmode h1
    obtain ⟨out', ph', k1, k2, k3, k4⟩ :=
      C06.tensordotF_refines_graded_any_mode' hz1 hz2 a b rm xa xb hA tm hmode h1
    rw [hm] at k1
    cases k1
    have e : rb = finish T (out, ph) := Except.ok.inj (h2.symm.trans hcore')
    subst e
    refine ⟨rm, h1, k2, k3, k4, fun s hs => hsec s (by rw [hfs, hF.sectors]; exact hs),
      fun s V hl => ?_, fun s hs off hoff => ?_, fun h => absurd h htm⟩
    · unfold Arr.blockShapeD
      rw [hshape s V hl]; rfl
    · rw [hel s off hoff]
      exact hzero s (by rw [hF.sectors]; exact hs) off

/-- **`@` → `tensordot`.**  Valid fermionic operands of rank 1 or 2 with contractible inner legs:
    if `a @ b` succeeds with result `y`, then `tensordot_fermionic(a, b, ([ndim a - 1],[0]), mode)`
    succeeds in EVERY mode with the labels and charge of `y` and the element of `y` at every sector
    key and every address of the table box of the result indices. -/
theorem matmulF_to_tensordotF (hz1 : ∀ x : R, 0 * x = 0) (hz2 : ∀ x : R, x * 0 = 0)
    (a b y : Arr R) (ha : a.validB = true) (hb : b.validB = true) (hfa : a.fermi = true)
    (hfb : b.fermi = true) (hna : a.ndim = 1 ∨ a.ndim = 2) (hnb : b.ndim = 1 ∨ b.ndim = 2)
    (hadm : ValidP.tdotAdmissibleB a b [a.ndim - 1] [0] = true)
    (h : a.matmulF b = .ok y) (tm : TdotMode) :
    ∃ c, a.tensordotF b (.pair [Int.ofNat (a.ndim - 1)] [0]) tm = .ok c
      ∧ c.oddpos = y.oddpos ∧ c.charge = y.charge
      ∧ ∀ (s : Sector) (oL oR : List Nat), oL.length = (freeAxes a.ndim [a.ndim - 1]).length →
          inBox (Arr.blockShapeD (without a.indices [a.ndim - 1] ++ without b.indices [0]) s)
            (oL ++ oR) = true →
          c.elem s (oL ++ oR) = y.elem s (oL ++ oR) := by
  obtain ⟨out, ph, hm, ho, hc, he⟩ :=
    C03.matmulF_refines_graded a b y ha hb hfa hfb hna hnb hadm h
  obtain ⟨c, h1, h2, h3, h4, _⟩ := tensordotF_all_modes a b [a.ndim - 1] [0]
    (Adm.of ha hb hfa hfb hadm) out ph hm tm (Or.inr ⟨hz1, hz2⟩)
  exact ⟨c, h1, h2.trans ho.symm, h3.trans hc.symm,
    fun s oL oR hl hbox => (h4 s oL oR hl hbox).trans (he s oL oR hl hbox).symm⟩

end transfer

section abelian
variable [AddCommMonoid R] [Mul R] [Neg R]

/-- abelian `tensordot` in every mode (`TdotP.tensordotA_every_mode`) for two matrices whose inner
    legs carry the same charge table in opposite directions, contracted over `([1],[0])`: the table
    box is that of `[a0, b1]` -/
theorem tensordotA_matrices_table (hz1 : ∀ x : R, 0 * x = 0) (hz2 : ∀ x : R, x * 0 = 0)
    {a b : Arr R} (ha : a.validB = true) (hb : b.validB = true) (hfa : a.fermi = false)
    (hfb : b.fermi = false) (hsym : a.sym = b.sym) {a0 a1 b0 b1 : Index}
    (hA : a.indices = [a0, a1]) (hB : b.indices = [b0, b1]) (hcm : a1.cm = b0.cm)
    (hd : a1.dual = !b0.dual) (tm : TdotMode) :
    ∃ c, tensordotA a b (.pair [1] [0]) tm = .ok c
      ∧ ∀ K J, inBox (Arr.blockShapeD [a0, b1] K) J = true →
          c.elem K J = (tensordotBlockwise a b [0] [1] [0] [1]).elem K J := by
  have hAn : a.ndim = 2 := by show a.indices.length = 2; rw [hA]; rfl
  have hBn : b.ndim = 2 := by show b.indices.length = 2; rw [hB]; rfl
  have hparse : parseAxes a.ndim b.ndim (.pair [1] [0]) = .ok ([1], [0]) := by rw [hAn, hBn]; rfl
  obtain ⟨c, h1, _, _, h2⟩ := tensordotA_every_mode hz1 hz2 a b (.pair [1] [0]) [1] [0] hparse ha hb
    hfa hfb hsym (Recon2P.contractible_matrices hA hB hcm hd) (by decide) (by decide)
    (by intro y hy; rw [List.mem_singleton.mp hy, hAn]; exact Nat.one_lt_two)
    (by intro y hy; rw [List.mem_singleton.mp hy, hBn]; exact Nat.zero_lt_two) tm
  refine ⟨c, h1, fun K J hbox => ?_⟩
  have := h2 K J (by rw [hA, hB]; exact hbox)
  rw [hAn, hBn] at this
  exact this

end abelian

end DecompP
end SymmModel
