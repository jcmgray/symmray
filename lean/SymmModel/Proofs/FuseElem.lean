/-
  SymmModel.Proofs.FuseElem — list lemmas behind the element map of a fused array: `ravel` over a grouped
  axis (`ravel_append`, `ravel_group`), a list cut at one position (`list_split_at`, `set_split_at`).
-/
import SymmModel.Proofs.FuseAll
namespace SymmModel
namespace FuseP

variable {R : Type}


theorem ravel_append {A B ia ib : List Nat} (h : ia.length = A.length) :
    ravel (A ++ B) (ia ++ ib) = ravel A ia * prod B + ravel B ib := by
  induction A generalizing ia with
  | nil =>
    have := List.eq_nil_of_length_eq_zero h; subst this
    simp [ravel]
  | cons d ds ih =>
    cases ia with
    | nil => simp at h
    | cons x xs =>
      simp only [List.cons_append, ravel]
      rw [ih (by simpa using h), prod_append, Nat.add_mul, Nat.mul_assoc, Nat.add_assoc]

theorem unravel_length (s : List Nat) (n : Nat) : (unravel s n).length = s.length := by
  induction s generalizing n with
  | nil => rfl
  | cons d ds ih => simp [unravel, ih]

theorem ravel_group {A M C ia ic : List Nat} {r : Nat} (ha : ia.length = A.length) (hr : r < prod M) :
    ravel (A ++ [prod M] ++ C) (ia ++ [r] ++ ic) = ravel (A ++ M ++ C) (ia ++ unravel M r ++ ic) := by
  rw [List.append_assoc, List.append_assoc, ravel_append ha, List.append_assoc, List.append_assoc,
    ravel_append ha]
  congr 1
  · rw [prod_append, prod_append]; simp [prod]
  · rw [ravel_append (A := [prod M]) (ia := [r]) (by simp),
      ravel_append (A := M) (ia := unravel M r) (unravel_length M r), ravel_unravel hr]
    simp [ravel, prod]

theorem list_split_at {α : Type} (i : List α) (p : Nat) (d : α) (hp : p < i.length) :
    i = i.take p ++ [i.getD p d] ++ i.drop (p + 1) := by
  have h1 : i.getD p d = i[p] := by simp [List.getD_eq_getElem?_getD, List.getElem?_eq_getElem hp]
  rw [h1]
  simp

theorem set_split_at {α : Type} (i : List α) (p : Nat) (v : α) (hp : p < i.length) :
    i.set p v = i.take p ++ [v] ++ i.drop (p + 1) := by
  simp [List.set_eq_take_append_cons_drop, hp]

end FuseP
end SymmModel
