/-
  SymmModel.Proofs.SmallIso — the complement of the isometry statements of `Proofs/DecompIso` (C11,
  fermionic factors): `dagger(Q) · Q` (`LeftLike`) and `V · dagger(V)` (`RightLike`), through `@` or
  `tensordot` in any mode, VANISH at every address of the table box of the product's indices that is
  off the bond sectors of the items (`GramPair.gradedContract_miss` under
  `graded_matmul_and_tensordot`), and on the bond sector of an item the box is exactly the item's
  range of offsets, where `gram_left_fermi_items` / `gram_right_fermi_items` give the value.  So the
  product is known at every address of its table box: `leftLike_everywhere`, `rightLike_everywhere`,
  which `Props/C11h` instantiates for `qr`, `svd`, `svd_truncated`.
-/
import SymmModel.Proofs.DecompIso

namespace SymmModel
namespace DecompP
set_option linter.unusedSectionVars false
open LinalgLemmas ReconP Recon2P TdotP GradedP RoutesP OddposP
open Lazy (sgnI)

variable {R : Type}

section either
variable [AddCommMonoid R] [Mul R] [Neg R] [SignRing R] [Conj R]

theorem of_matmul_or_tensordot {A B : Arr R} {P : Arr R → Prop}
    (hM : ∃ y0, A.matmulF B = .ok y0 ∧ P y0)
    (hT : ∀ tm, ∃ c, A.tensordotF B (.pair [1] [0]) tm = .ok c ∧ P c) {y : Arr R}
    (hy : A.matmulF B = .ok y ∨ ∃ tm, A.tensordotF B (.pair [1] [0]) tm = .ok y) : P y := by
  rcases hy with hy | ⟨tm, hy⟩
  · obtain ⟨y0, hy0, h⟩ := hM
    exact Except.ok.inj (hy0.symm.trans hy) ▸ h
  · obtain ⟨c, hc, h⟩ := hT tm
    exact Except.ok.inj (hc.symm.trans hy) ▸ h

end either

section left
variable [AddCommMonoid R] [Mul R] [Neg R] [SignRing R] [Conj R]
variable {x Q : Arr R} {α : Type} {l : List α} {sec : α → Sector} {fA : α → Blk R}
  {dims : α → Nat × Nat}

/-- every in-box address `(s, [t, t'])` of the table box of `dagger(Q) · Q` (indices
    `[J.conj, J]`, `J` the bond index of `Q`) either lies on the bond sector of an item `p`, within its
    range `t, t' < k_p`, or the product is ZERO there — through `@` and `tensordot` in every mode -/
theorem gram_left_fermi_items_box (hz1 : ∀ v : R, 0 * v = 0) (hz2 : ∀ v : R, v * 0 = 0)
    (hv : x.validB = true) (h2 : x.ndim = 2)
    (hlab : SortedLabels x.oddpos) (P : LeftLike x Q l sec fA dims) :
    ∀ y, (Q.daggerF.matmulF Q = .ok y ∨ ∃ tm, Q.daggerF.tensordotF Q (.pair [1] [0]) tm = .ok y) →
      ∀ s t t', inBox (Arr.blockShapeD [(Q.indices.getD 1 default).conj, Q.indices.getD 1 default] s)
          [t, t'] = true →
        (∃ p ∈ l, s = diagOf (sec p) ∧ t < (dims p).2 ∧ t' < (dims p).2)
        ∨ ((∀ p ∈ l, diagOf (sec p) ≠ s) ∧ y.elem s [t, t'] = 0) := by
  obtain ⟨i0, i1, hi⟩ := ndim_two h2
  have hi0 : x.indices.getD 0 default = i0 := by rw [hi]; rfl
  obtain ⟨J, hQi, hAi, hAdm, G, hm⟩ := P.gram hv h2 hlab
  rw [hi0] at hQi hAi
  have hQv := P.v
  have hrc := items_rc hv h2 P.hin
  have hidx : without Q.daggerF.indices [1] ++ without Q.indices [0] = [J.conj, J] := by
    rw [hAi, hQi]; rfl
  have hJ : Q.indices.getD 1 default = J := by rw [hQi]; rfl
  obtain ⟨hM, hT⟩ := graded_matmul_and_tensordot hz1 hz2 _ _ hAdm G.nA G.nB _ _ hm
  rw [hidx] at hM hT
  intro y hy s t t' hbox
  rw [hJ] at hbox
  by_cases hex : ∃ p ∈ l, diagOf (sec p) = s
  · left
    obtain ⟨p, hp, rfl⟩ := hex
    refine ⟨p, hp, rfl, ?_⟩
    have hs := hrc p hp
    generalize hr : rowOf (sec p) = r at hs
    generalize hc : colOf (sec p) = c at hs
    have l1 := P.hsh p hp
    have hdg : diagOf (sec p) = [c, c] := by simp [diagOf, hc]
    have hQm : (sec p, fA p) ∈ Q.blocks := by rw [P.bl]; exact List.mem_map.mpr ⟨p, hp, rfl⟩
    obtain ⟨_, e2⟩ := block_table hQv hQi (by rw [← hs]; exact hQm) l1
    rw [hdg] at hbox
    unfold Arr.blockShapeD at hbox
    rw [(blockShape?_pair _ _ c c [(dims p).2, (dims p).2]).mpr
      ⟨(dims p).2, (dims p).2, by rw [Index.conj_cm]; exact e2, e2, rfl⟩] at hbox
    exact (inBox_pair _ _ t t').mp hbox
  · right
    have hmiss : ∀ p ∈ l, [colOf (sec p), colOf (sec p)] ≠ s := fun p hp e => hex ⟨p, hp, e⟩
    refine ⟨hmiss, ?_⟩
    obtain ⟨_, _, hye⟩ := of_matmul_or_tensordot hM hT hy
    rw [hye s t t' hbox, G.gradedContract_miss s hmiss [t] [t']]
    exact Lazy.sgnI_zero _

/-- **`dagger(Q) · Q` everywhere on its table box**: when the columns of every item block are orthonormal
    (`hG`), the product — through `@` or `tensordot` in any mode — has no label and at every in-box address
    is `isoSignL x (sec p) · δ` on the bond sector of an item `p` and ZERO on every other sector -/
theorem leftLike_everywhere (hz1 : ∀ v : R, 0 * v = 0) (hz2 : ∀ v : R, v * 0 = 0)
    (hc0 : Conj.conj (0 : R) = 0) [One R] (hv : x.validB = true) (h2 : x.ndim = 2)
    (hlab : SortedLabels x.oddpos) (P : LeftLike x Q l sec fA dims)
    (hG : ∀ p ∈ l, ∀ t t', t < (dims p).2 → t' < (dims p).2 →
      (List.range (dims p).1).foldl
        (fun acc i => acc + Conj.conj ((fA p).get [i, t]) * (fA p).get [i, t']) 0
        = (if t = t' then 1 else 0)) :
    ∀ y, (Q.daggerF.matmulF Q = .ok y ∨ ∃ tm, Q.daggerF.tensordotF Q (.pair [1] [0]) tm = .ok y) →
      y.oddpos = [] ∧
      ∀ s t t', inBox (Arr.blockShapeD [(Q.indices.getD 1 default).conj, Q.indices.getD 1 default] s)
          [t, t'] = true →
        (∃ p ∈ l, s = diagOf (sec p)
          ∧ y.elem s [t, t'] = sgnI (isoSignL x (sec p)) (if t = t' then 1 else 0))
        ∨ ((∀ p ∈ l, diagOf (sec p) ≠ s) ∧ y.elem s [t, t'] = 0) := by
  obtain ⟨hM, hT⟩ := gram_left_fermi_items hz1 hz2 hc0 hv h2 hlab P
  intro y hy
  obtain ⟨hyo, hye⟩ := of_matmul_or_tensordot hM hT hy
  refine ⟨hyo, fun s t t' hb => ?_⟩
  rcases gram_left_fermi_items_box hz1 hz2 hv h2 hlab P y hy s t t' hb with
    ⟨p, hp, rfl, ht, ht'⟩ | h
  · exact Or.inl ⟨p, hp, rfl, by rw [hye p hp t t' ht ht', hG p hp t t' ht ht']⟩
  · exact Or.inr h

end left

section right
variable [AddCommMonoid R] [Mul R] [Neg R] [SignRing R] [Conj R]
variable {x V : Arr R} {α : Type} {l : List α} {sec : α → Sector} {fB : α → Blk R}
  {dims : α → Nat × Nat}

/-- the same for `V · dagger(V)` (indices `[J, J.conj]`, `J` the bond index of `V`) -/
theorem gram_right_fermi_items_box (hz1 : ∀ v : R, 0 * v = 0) (hz2 : ∀ v : R, v * 0 = 0)
    (hv : x.validB = true) (h2 : x.ndim = 2) (P : RightLike x V l sec fB dims) :
    ∀ y, (V.matmulF V.daggerF = .ok y ∨ ∃ tm, V.tensordotF V.daggerF (.pair [1] [0]) tm = .ok y) →
      ∀ s t t', inBox (Arr.blockShapeD [V.indices.getD 0 default, (V.indices.getD 0 default).conj] s)
          [t, t'] = true →
        (∃ p ∈ l, s = diagOf (sec p) ∧ t < (dims p).1 ∧ t' < (dims p).1)
        ∨ ((∀ p ∈ l, diagOf (sec p) ≠ s) ∧ y.elem s [t, t'] = 0) := by
  obtain ⟨i0, i1, hi⟩ := ndim_two h2
  have hi1 : x.indices.getD 1 default = i1 := by rw [hi]; rfl
  obtain ⟨J, hVi, hBi, hAdm, G, hm⟩ := P.gram hv h2
  rw [hi1] at hVi hBi
  have hVv := P.v
  have hidx : without V.indices [1] ++ without V.daggerF.indices [0] = [J, J.conj] := by
    rw [hVi, hBi]; rfl
  have hJ : V.indices.getD 0 default = J := by rw [hVi]; rfl
  obtain ⟨hM, hT⟩ := graded_matmul_and_tensordot hz1 hz2 _ _ hAdm G.nA G.nB _ _ hm
  rw [hidx] at hM hT
  intro y hy s t t' hbox
  rw [hJ] at hbox
  by_cases hex : ∃ p ∈ l, diagOf (sec p) = s
  · left
    obtain ⟨p, hp, rfl⟩ := hex
    refine ⟨p, hp, rfl, ?_⟩
    generalize hc : colOf (sec p) = c
    have l3 := P.hsh p hp
    have hdg : diagOf (sec p) = [c, c] := by simp [diagOf, hc]
    have hVm : ([c, c], fB p) ∈ V.blocks := by
      rw [P.bl]; exact List.mem_map.mpr ⟨p, hp, by rw [hdg]⟩
    obtain ⟨e1, _⟩ := block_table hVv hVi hVm l3
    rw [hdg] at hbox
    unfold Arr.blockShapeD at hbox
    rw [(blockShape?_pair _ _ c c [(dims p).1, (dims p).1]).mpr
      ⟨(dims p).1, (dims p).1, e1, by rw [Index.conj_cm]; exact e1, rfl⟩] at hbox
    exact (inBox_pair _ _ t t').mp hbox
  · right
    have hmiss : ∀ p ∈ l, [colOf (sec p), colOf (sec p)] ≠ s := fun p hp e => hex ⟨p, hp, e⟩
    refine ⟨hmiss, ?_⟩
    obtain ⟨_, _, hye⟩ := of_matmul_or_tensordot hM hT hy
    rw [hye s t t' hbox, G.gradedContract_miss s hmiss [t] [t']]
    exact Lazy.sgnI_zero _

/-- **`V · dagger(V)` everywhere on its table box** (rows of every item block orthonormal) -/
theorem rightLike_everywhere (hz1 : ∀ v : R, 0 * v = 0) (hz2 : ∀ v : R, v * 0 = 0)
    (hc0 : Conj.conj (0 : R) = 0) [One R] (hv : x.validB = true) (h2 : x.ndim = 2)
    (P : RightLike x V l sec fB dims)
    (hG : ∀ p ∈ l, ∀ t t', t < (dims p).1 → t' < (dims p).1 →
      (List.range (dims p).2).foldl
        (fun acc j => acc + (fB p).get [t, j] * Conj.conj ((fB p).get [t', j])) 0
        = (if t = t' then 1 else 0)) :
    ∀ y, (V.matmulF V.daggerF = .ok y ∨ ∃ tm, V.tensordotF V.daggerF (.pair [1] [0]) tm = .ok y) →
      y.oddpos = [] ∧
      ∀ s t t', inBox (Arr.blockShapeD [V.indices.getD 0 default, (V.indices.getD 0 default).conj] s)
          [t, t'] = true →
        (∃ p ∈ l, s = diagOf (sec p)
          ∧ y.elem s [t, t'] = sgnI (bondSign x (colOf (sec p))) (if t = t' then 1 else 0))
        ∨ ((∀ p ∈ l, diagOf (sec p) ≠ s) ∧ y.elem s [t, t'] = 0) := by
  obtain ⟨hM, hT⟩ := gram_right_fermi_items hz1 hz2 hc0 hv h2 P
  intro y hy
  obtain ⟨hyo, hye⟩ := of_matmul_or_tensordot hM hT hy
  refine ⟨hyo, fun s t t' hb => ?_⟩
  rcases gram_right_fermi_items_box hz1 hz2 hv h2 P y hy s t t' hb with
    ⟨p, hp, rfl, ht, ht'⟩ | h
  · exact Or.inl ⟨p, hp, rfl, by rw [hye p hp t t' ht ht', hG p hp t t' ht ht']⟩
  · exact Or.inr h

end right

end DecompP
end SymmModel
