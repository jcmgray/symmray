/-
  SymmModel.Proofs.Dense5e — Boolean forms of the hypotheses of `einsum_dense_main`.
-/
import SymmModel.Proofs.Dense5d

namespace SymmModel
namespace Dense5

variable {R : Type}

def eqOkB (lhs rhs : List Nat) : Bool :=
  allDistinct rhs && rhs.all (fun q => lhs.contains q)
    && (List.range lhs.length).all (fun k =>
        !rhs.contains (lhs.getD k 0) || indexOf? lhs (lhs.getD k 0) == some k)

theorem eqOk_of_B {lhs rhs : List Nat} (h : eqOkB lhs rhs = true) : EqOk lhs rhs := by
  simp only [eqOkB, Bool.and_eq_true, List.all_eq_true, List.mem_range, Bool.or_eq_true,
    Bool.not_eq_true', beq_iff_eq, List.contains_eq_mem, decide_eq_true_eq,
    decide_eq_false_iff_not] at h
  obtain ⟨⟨h1, h2⟩, h3⟩ := h
  refine ⟨allDistinct_iff_nodup.1 h1, h2, fun k hk hm => ?_⟩
  have hd : lhs.getD k 0 = lhs[k] := by
    simp [List.getD_eq_getElem?_getD, List.getElem?_eq_getElem hk]
  have := h3 k hk
  rw [hd] at this
  rcases this with h | h
  · exact absurd hm h
  · exact h

def tabOkB (a : Arr R) (lhs : List Nat) : Bool :=
  (List.range lhs.length).all (fun k => (List.range lhs.length).all (fun k' =>
    lhs.getD k 0 != lhs.getD k' 0
      || Index.sortCm (a.indices.getD k default).cm == Index.sortCm (a.indices.getD k' default).cm))

theorem tabOk_of_B {a : Arr R} {lhs : List Nat} (h : tabOkB a lhs = true) : TabOk a lhs := by
  intro k k' hk hk' he
  simp only [tabOkB, List.all_eq_true, List.mem_range, Bool.or_eq_true, bne_iff_ne, ne_eq,
    beq_iff_eq] at h
  have := h k hk k' hk'
  have hd : lhs.getD k 0 = lhs[k] := by
    simp [List.getD_eq_getElem?_getD, List.getElem?_eq_getElem hk]
  have hd' : lhs.getD k' 0 = lhs[k'] := by
    simp [List.getD_eq_getElem?_getD, List.getElem?_eq_getElem hk']
  rw [hd, hd'] at this
  rcases this with h | h
  · exact absurd he h
  · exact h

end Dense5
end SymmModel
