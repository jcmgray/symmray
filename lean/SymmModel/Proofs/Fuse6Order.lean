/-
  SymmModel.Proofs.Fuse6Order — unfusing several fused axes left to right (with the axis numbers
  shifted by what was already expanded) gives the same value view as unfusing them right to left.
-/
import SymmModel.Proofs.Fuse6Step
namespace SymmModel
namespace FuseP
set_option linter.unusedSectionVars false
open SymmModel.Lazy

variable {R : Type} [Zero R] [Neg R] [LawfulNeg R]

def FusedAt (x : Arr R) (p : Nat) : Prop :=
  ∃ ix subs exts, x.indices[p]? = some ix ∧ ix.sub = some (subs, exts)

def FusedAtL (x : Arr R) (p L : Nat) : Prop :=
  ∃ ix subs exts, x.indices[p]? = some ix ∧ ix.sub = some (subs, exts) ∧ subs.length = L

/-- the axis numbers of a left-to-right unfuse: original axis plus what was expanded before -/
def l2rAxes : List (Nat × Nat) → Nat → List Nat
  | [], _ => []
  | (p, L) :: rest, off => (p + off) :: l2rAxes rest (off + L - 1)

theorem foldlM_snoc_ok {ε α β : Type} (f : β → α → Except ε β) (l : List α) (a : α) (x w z : β)
    (h1 : l.foldlM f x = .ok w) (h2 : f w a = .ok z) : (l ++ [a]).foldlM f x = .ok z := by
  rw [List.foldlM_append, h1]
  show [a].foldlM f w = _
  rw [List.foldlM_cons, h2]; rfl

theorem getElem?_replace_before {α : Type} (l s : List α) {p i : Nat} (hi : i < p) (hp : p < l.length) :
    (replaceWithSeq l p s)[i]? = l[i]? := by
  rw [replaceWithSeq_split, List.append_assoc, List.getElem?_append_left (by rw [List.length_take]; omega),
    List.getElem?_take_of_lt hi]

theorem getElem?_replace_after {α : Type} (l s : List α) {p q : Nat} (hq : p < q) (hp : p < l.length) :
    (replaceWithSeq l p s)[q - 1 + s.length]? = l[q]? := by
  obtain ⟨k, rfl⟩ := Nat.exists_eq_add_of_lt hq
  have hl : (l.take p ++ s).length = p + s.length := by
    rw [List.length_append, List.length_take_of_le (Nat.le_of_lt hp)]
  have e : p + k + 1 - 1 + s.length = (l.take p ++ s).length + k := by rw [hl]; omega
  rw [replaceWithSeq_split, e, List.getElem?_append_right (Nat.le_add_right _ _), Nat.add_sub_cancel_left,
    List.getElem?_drop, Nat.add_right_comm]

section Order
variable {unf : Arr R → Nat → Except Err (Arr R)} {Good : Arr R → Prop}
  {sg : Sym → Index → List Index → Sector → Int}

theorem r2l_keep (H : StepOK unf Good sg) : ∀ (qs : List Nat) (x : Arr R), Good x → qs.Pairwise (· < ·) →
    (∀ q ∈ qs, FusedAt x q) →
    ∃ w, qs.reverse.foldlM unf x = .ok w ∧ Good w ∧ ∀ i, (∀ q ∈ qs, i < q) → w.indices[i]? = x.indices[i]? := by
  intro qs
  induction qs with
  | nil => intro x hx _ _; exact ⟨x, rfl, hx, fun _ _ => rfl⟩
  | cons q1 qs ih =>
    intro x hx hs hf
    obtain ⟨hlt, hs'⟩ := List.pairwise_cons.1 hs
    obtain ⟨w', hw', hgw', hkeep⟩ := ih x hx hs' (fun q hq => hf q (List.mem_cons_of_mem _ hq))
    obtain ⟨ix, subs, exts, hix, hsub⟩ := hf q1 (by simp)
    have hix' : w'.indices[q1]? = some ix := by rw [hkeep q1 hlt]; exact hix
    obtain ⟨w, hw, hgw, hwi, _⟩ := H.step w' q1 ix subs exts hgw' hix' hsub
    refine ⟨w, ?_, hgw, ?_⟩
    · rw [List.reverse_cons]; exact foldlM_snoc_ok unf _ _ _ _ _ hw' hw
    · intro i hi
      have hi1 : i < q1 := hi q1 (by simp)
      rw [hwi, getElem?_replace_before _ _ hi1 (getElem?_lt hix')]
      exact hkeep i (fun q hq => hi q (List.mem_cons_of_mem _ hq))

/-- an unfuse step at `p0` can be pushed through a right-to-left run on later axes -/
theorem r2l_push (H : StepOK unf Good sg) (x : Arr R) (hx : Good x) {p0 : Nat} {ix0 : Index}
    {subs0 : List Index} {exts0 : Extents} (h0 : x.indices[p0]? = some ix0) (hs0 : ix0.sub = some (subs0, exts0)) :
    ∀ qs : List Nat, qs.Pairwise (· < ·) → (∀ q ∈ qs, p0 < q ∧ FusedAt x q) →
    ∃ y zI w u, unf x p0 = .ok y ∧ (qs.map (fun q => q - 1 + subs0.length)).reverse.foldlM unf y = .ok zI
      ∧ qs.reverse.foldlM unf x = .ok w ∧ unf w p0 = .ok u ∧ Good zI ∧ Good u ∧ VEq zI u := by
  intro qs
  induction qs with
  | nil =>
    intro _ _
    obtain ⟨y, hy, hgy, _⟩ := H.step x p0 ix0 subs0 exts0 hx h0 hs0
    exact ⟨y, y, x, y, hy, rfl, rfl, hy, hgy, hgy, VEq.refl y⟩
  | cons q1 qs ih =>
    intro hs hf
    obtain ⟨hlt, hs'⟩ := List.pairwise_cons.1 hs
    obtain ⟨y, zI, w', u, hy, hzI, hw', hu, hgzI, hgu, hveq⟩ := ih hs' (fun q hq => hf q (List.mem_cons_of_mem _ hq))
    obtain ⟨w'', hw'', hgw', hkeep⟩ := r2l_keep H qs x hx hs' (fun q hq => (hf q (List.mem_cons_of_mem _ hq)).2)
    rw [hw'] at hw''
    simp only [Except.ok.injEq] at hw''
    subst hw''
    obtain ⟨hp01, ixQ, subsQ, extsQ, hixQ, hsubQ⟩ := hf q1 (by simp)
    have hixQ' : w'.indices[q1]? = some ixQ := by rw [hkeep q1 hlt]; exact hixQ
    have h0' : w'.indices[p0]? = some ix0 := by
      rw [hkeep p0 (fun q hq => Nat.lt_trans hp01 (hlt q hq))]; exact h0
    obtain ⟨y1, z1, y2, z2, hy1, hz1, hy2, hz2, _, hgz1, _, _, _, hy2i, hv12⟩ :=
      step_comm H w' hgw' hp01 h0' hs0 hixQ' hsubQ
    rw [hu] at hy2
    simp only [Except.ok.injEq] at hy2
    subst hy2
    have huq : u.indices[q1 - 1 + subs0.length]? = some ixQ := by
      rw [hy2i, getElem?_replace_after _ _ hp01 (getElem?_lt h0')]; exact hixQ'
    have hzq : zI.indices[q1 - 1 + subs0.length]? = some ixQ := by rw [hveq.indices]; exact huq
    obtain ⟨t, t', ht, ht', hgt, _, hvt⟩ := step_veq H hveq hgzI hgu hzq hsubQ
    rw [hz2] at ht'
    simp only [Except.ok.injEq] at ht'
    subst ht'
    refine ⟨y, t, y1, z1, hy, ?_, ?_, hz1, hgt, hgz1, hvt.trans hv12.symm⟩
    · rw [List.map_cons, List.reverse_cons]; exact foldlM_snoc_ok unf _ _ _ _ _ hzI ht
    · rw [List.reverse_cons]; exact foldlM_snoc_ok unf _ _ _ _ _ hw' hy1

theorem l2r_r2l (H : StepOK unf Good sg) : ∀ (pls : List (Nat × Nat)) (off : Nat) (x : Arr R), Good x →
    (pls.map (·.1)).Pairwise (· < ·) → (∀ pl ∈ pls, 0 < pl.2 ∧ FusedAtL x (pl.1 + off) pl.2) →
    ∃ z z', (l2rAxes pls off).foldlM unf x = .ok z
      ∧ ((pls.map (fun pl => pl.1 + off)).reverse).foldlM unf x = .ok z' ∧ Good z ∧ Good z' ∧ VEq z z' := by
  intro pls
  induction pls with
  | nil => intro off x hx _ _; exact ⟨x, x, rfl, rfl, hx, hx, VEq.refl x⟩
  | cons pl rest ih =>
    obtain ⟨p, L⟩ := pl
    intro off x hx hs hf
    simp only [List.map_cons] at hs
    obtain ⟨hlt, hs'⟩ := List.pairwise_cons.1 hs
    obtain ⟨hL, ix, subs, exts, hix, hsub, hlen⟩ := hf (p, L) (by simp)
    simp only at hL hix hlen
    have hsq : (rest.map (fun pl => pl.1 + off)).Pairwise (· < ·) := by
      have := hs'.map (fun n => n + off) (fun a b hab => Nat.add_lt_add_right hab off)
      rw [List.map_map] at this
      exact this
    have hfq : ∀ q ∈ rest.map (fun pl => pl.1 + off), p + off < q ∧ FusedAt x q := by
      intro q hq
      obtain ⟨pl, hpl, rfl⟩ := List.mem_map.1 hq
      have h1 : p < pl.1 := hlt pl.1 (List.mem_map.2 ⟨pl, hpl, rfl⟩)
      obtain ⟨_, ix', subs', exts', h2, h3, _⟩ := hf pl (List.mem_cons_of_mem _ hpl)
      exact ⟨by omega, ix', subs', exts', h2, h3⟩
    obtain ⟨y, zI, w, u, hy, hzI, hw, hu, hgzI, hgu, hveq⟩ := r2l_push H x hx hix hsub _ hsq hfq
    obtain ⟨y', hy', hgy, hyi, _⟩ := H.step x (p + off) ix subs exts hx hix hsub
    rw [hy] at hy'
    simp only [Except.ok.injEq] at hy'
    subst hy'
    have hfy : ∀ pl ∈ rest, 0 < pl.2 ∧ FusedAtL y (pl.1 + (off + L - 1)) pl.2 := by
      intro pl hpl
      have h1 : p < pl.1 := hlt pl.1 (List.mem_map.2 ⟨pl, hpl, rfl⟩)
      obtain ⟨hL', ix', subs', exts', h2, h3, h4⟩ := hf pl (List.mem_cons_of_mem _ hpl)
      refine ⟨hL', ix', subs', exts', ?_, h3, h4⟩
      have : pl.1 + (off + L - 1) = (pl.1 + off) - 1 + subs.length := by omega
      rw [this, hyi, getElem?_replace_after _ _ (by omega) (getElem?_lt hix)]
      exact h2
    obtain ⟨z, z'', hz, hz'', hgz, _, hvz⟩ := ih (off + L - 1) y hgy hs' hfy
    have hmap : (rest.map (fun pl => pl.1 + off)).map (fun q => q - 1 + subs.length)
        = rest.map (fun pl => pl.1 + (off + L - 1)) := by
      rw [List.map_map]
      apply List.map_congr_left
      intro pl hpl
      have h1 : p < pl.1 := hlt pl.1 (List.mem_map.2 ⟨pl, hpl, rfl⟩)
      simp only [Function.comp]
      omega
    rw [hmap, hz''] at hzI
    simp only [Except.ok.injEq] at hzI
    subst hzI
    refine ⟨z, u, ?_, ?_, hgz, hgu, hvz.trans hveq⟩
    · show ((p + off) :: l2rAxes rest (off + L - 1)).foldlM unf x = _
      rw [List.foldlM_cons, hy]
      exact hz
    · rw [List.map_cons, List.reverse_cons]
      exact foldlM_snoc_ok unf _ _ _ _ _ hw hu

end Order

end FuseP
end SymmModel
