/-
  SymmModel.Proofs.ValidMore2Linalg — `solve` and `svd_truncated` (= `svd` followed by the
  truncation step `applyCounts`) as validity-preserving calls with their guards, wrapping the
  theorems of Props/C11.lean (`solveA_valid`, `applyCounts_valid`).
-/
import SymmModel.Props.C11
import SymmModel.Proofs.ValidMore

namespace SymmModel
namespace ValidP

variable {R : Type}

/-- guard of `solve(a, b)` with the matrix `a` as the current array: same symmetry and kind, the
    vector's index has the direction of `a`'s row index, and (fermionic) `a` is even — the
    known finding "solve-odd-matrix" is excluded -/
def solveAdmissibleB (a b : Arr R) : Bool :=
  b.validB && decide (a.sym = b.sym) && (a.fermi == b.fermi)
  && ((b.indices.getD 0 default).dual == (a.indices.getD 0 default).dual)
  && (!a.fermi || !a.parity)

theorem solve_valid [Neg R] (K : Kernels R) (hK : K.ShapeOk) (a b x : Arr R)
    (hv : a.validB = true) (hadm : solveAdmissibleB a b = true) (h : solveA K a b = .ok x) :
    x.validB = true := by
  unfold solveAdmissibleB at hadm
  simp only [Bool.and_eq_true, decide_eq_true_eq, beq_iff_eq, Bool.or_eq_true,
    Bool.not_eq_true'] at hadm
  obtain ⟨⟨⟨⟨hb, hsym⟩, hfer⟩, hdir⟩, hev⟩ := hadm
  refine (C11.solveA_valid K hK a b hv hb hsym hfer hdir ?_ x h).2.2.1
  intro hf
  rcases hev with h1 | h1
  · rw [hf] at h1; cases h1
  · exact h1

/-- guard of the truncation step: a matrix, `counts` aligned with the sectors of `U` and at
    most the bond sizes (evaluated on the factors `svd` returns) -/
def svdTruncAdmissibleB (K : Kernels R) (x : Arr R) (counts : List Nat) : Bool :=
  x.ndim == 2 &&
  match svdA K x with
  | .ok (u, _, _) =>
    counts.length == u.sectors.length
    && (u.blocks.zip counts).all (fun p => decide (p.2 ≤ p.1.2.shape.getD 1 0))
  | .error _ => true

/-- `svd_truncated`: both truncated factors are valid, for ANY admissible counts -/
theorem svdTrunc_valid [Zero R] (K : Kernels R) (hK : K.ShapeOk) (x u vh : Arr R) (s : BVec R)
    (counts : List Nat) (hv : x.validB = true) (hadm : svdTruncAdmissibleB K x counts = true)
    (h : svdA K x = .ok (u, s, vh)) :
    (applyCounts u s vh counts).1.validB = true ∧ (applyCounts u s vh counts).2.2.validB = true := by
  unfold svdTruncAdmissibleB at hadm
  rw [h] at hadm
  simp only [Bool.and_eq_true, beq_iff_eq, List.all_eq_true, decide_eq_true_eq] at hadm
  obtain ⟨h2, hlen, hle⟩ := hadm
  obtain ⟨u', s', vh', T, heq, hu', hvh', _⟩ :=
    C11.applyCounts_valid K hK x hv h2 u s vh h counts hlen hle
  rw [heq]
  exact ⟨hu', hvh'⟩

end ValidP
end SymmModel
