/-
  SymmModel.Proofs.TdotFuseC5 — the fermionic fuse of adjacent legs in order: its operand, its sign,
  and the twisted contraction.
  For a group of adjacent legs in increasing order (`AdjOk`; the leading legs `[0 … k-1]` are the case
  used for free legs) the fermionic `fuse` does not move any leg: the operand of `_fuse_core` is the
  array itself with every sector multiplied by the fuse sign, and that sign is explicit: for a dual
  group `(-1)^(odd non-dual legs) · (-1)^(m(m-1)/2)`, `m` = number of odd charges of the group; `+1`
  for a non-dual group.  It depends only on the directions of the legs of the group and the charges on
  them.  A sector-wise sign on the left operand that is constant on the contributing sectors factors
  out of the graded contraction (`gradedContract_twist`).
-/
import SymmModel.Proofs.TdotFuseC4
import SymmModel.Proofs.FuseFermi5
import SymmModel.Proofs.Fuse4Sign2
import SymmModel.Proofs.NormLemmas

namespace SymmModel.TdotP
open SymmModel SymmModel.GradedP SymmModel.Lazy SymmModel.KoszulP

variable {R : Type}

/-- a non-empty group of distinct axes whose `_fuse_core` permutation `before ++ g ++ after` is the
    identity: the legs of `g` are adjacent and in increasing order -/
structure AdjOk (X : Arr R) (g : List Nat) : Prop where
  one : OneOk X g
  idp : (FuseP.giM X [g]).perm = List.range X.ndim

section Adj
variable [Zero R] [Neg R] {X : Arr R} {g : List Nat}

theorem adj_newGroupsF (h : AdjOk X g) : FuseP.newGroupsF [g] X.duals = [g] := by
  unfold FuseP.newGroupsF
  simp only [List.map_cons, List.map_nil, List.cons.injEq, and_true]
  have hp : (calcFuseGroupInfo [g] X.duals).perm = List.range X.ndim := h.idp
  rw [hp]
  conv_rhs => rw [← List.map_id g]
  apply List.map_congr_left
  intro ax hax
  rw [indexOf?_range X.ndim ax (h.one.lt ax hax)]
  rfl

theorem adj_trIndices (h : AdjOk X g) :
    (X.transposeF (calcFuseGroupInfo [g] X.duals).perm).indices = X.indices := by
  have hp : (calcFuseGroupInfo [g] X.duals).perm = List.range X.ndim := h.idp
  rw [(Lazy.transposeF_frame X _).2.2.1, hp]
  exact permuted_range X.indices

theorem adj_dualGroupsF (h : AdjOk X g) :
    FuseP.dualGroupsF X [g] = if (X.indices.getD (g.headD 0) default).dual then [g] else [] := by
  unfold FuseP.dualGroupsF
  rw [adj_newGroupsF h, adj_trIndices h]
  simp only [List.filter_cons, List.filter_nil]

theorem adj_fuseSignT (h : AdjOk X g) (S : Sector) :
    FuseP.fuseSignT X [g] S
      = if (X.indices.getD (g.headD 0) default).dual
        then sgn (ketOdd X g S)
          * sgn (oddCount (S.map X.sym.parity) g * (oddCount (S.map X.sym.parity) g - 1) / 2)
        else 1 := by
  rw [FuseP.fuseSignT_groups X [g] h.one.groupsOk, adj_dualGroupsF h]
  split
  · simp only [List.map_cons, List.map_nil, List.foldr_cons, List.foldr_nil, mul_one]
    rw [FuseP.groupSign_eq X [g] S g (adj_trIndices h)]
    rfl
  · rfl

theorem adj_fuseSignT_congr {X' : Arr R} (h : AdjOk X g) (h' : AdjOk X' g) (hsym : X.sym = X'.sym)
    (hix : ∀ ax ∈ g, (X.indices.getD ax default).dual = (X'.indices.getD ax default).dual)
    {T T' : Sector} (hT : ∀ ax ∈ g, T[ax]? = T'[ax]?) :
    FuseP.fuseSignT X [g] T = FuseP.fuseSignT X' [g] T' := by
  have hhead : g.headD 0 ∈ g := by
    cases g with
    | nil => exact absurd rfl h.one.ne
    | cons x xs => exact List.mem_cons_self
  have hnd : g.filter (fun ax => !(X.indices.getD ax default).dual)
      = g.filter (fun ax => !(X'.indices.getD ax default).dual) :=
    List.filter_congr (fun ax hax => by rw [hix ax hax])
  have hket : ketOdd X g T = ketOdd X' g T' := by
    unfold ketOdd
    rw [← hsym, ← hnd]
    refine congrArg List.length (List.filter_congr (fun ax hax => ?_))
    rw [List.getD_eq_getElem?_getD, List.getD_eq_getElem?_getD, hT ax (List.mem_filter.mp hax).1]
  have hodd : oddCount (T.map X.sym.parity) g = oddCount (T'.map X'.sym.parity) g := by
    unfold oddCount
    rw [← hsym]
    refine congrArg List.length (List.filter_congr (fun ax hax => ?_))
    unfold isOdd
    rw [List.getD_eq_getElem?_getD, List.getD_eq_getElem?_getD, List.getElem?_map, List.getElem?_map,
      hT ax hax]
  rw [adj_fuseSignT h, adj_fuseSignT h', hix _ hhead, hket, hodd]

end Adj

theorem signAdj_sectors [Zero R] [Neg R] (a : Arr R) (groups : List (List Nat)) :
    (FuseP.signAdj a groups).sectors
      = (a.transposeF (calcFuseGroupInfo groups a.duals).perm).sectors := by
  have hflip : ∀ (b : Arr R) axs, (b.phaseFlip axs).sectors = b.sectors :=
    fun b axs => congrArg (List.map Prod.fst) (Lazy.phaseFlip_blocks b axs)
  unfold FuseP.signAdj
  rw [Lazy.phaseSync_sectors]
  split
  · exact hflip _ _
  · exact hflip _ _

/-- the operand of `_fuse_core` inside the fermionic fuse of a group of adjacent legs in order:
    the array itself, every stored sector multiplied by the fuse sign -/
theorem signAdj_adj [Zero R] [Neg R] [LawfulNeg R] (a : Arr R) {g : List Nat} (hv : a.validB = true)
    (hf : a.fermi = true) (h : AdjOk a g) :
    (FuseP.signAdj a [g]).indices = a.indices
    ∧ (FuseP.signAdj a [g]).sym = a.sym
    ∧ (FuseP.signAdj a [g]).sectors = a.sectors
    ∧ (FuseP.signAdj a [g]).phases = []
    ∧ (FuseP.signAdj a [g]).validB = true
    ∧ (FuseP.signAdj a [g]).fermi = a.fermi
    ∧ (FuseP.signAdj a [g]).charge = a.charge
    ∧ (FuseP.signAdj a [g]).oddpos = a.oddpos
    ∧ ∀ S J, (FuseP.signAdj a [g]).elem S J = sgnI (FuseP.fuseSignT a [g] S) (a.elem S J) := by
  have hok := h.one.groupsOk
  have hp : (calcFuseGroupInfo [g] a.duals).perm = List.range a.ndim := h.idp
  obtain ⟨f1, f2, f3, f4, f5, f6⟩ := FuseP.signAdj_fields a [g]
  have hobs := Norm.transposeF_id_obsEq (Lazy.Full.of_valid hv hf) (Lazy.ShapeLen.of_valid hv)
  refine ⟨?_, f3, ?_, f1, (ValidP.validB_iff _).2 (FuseP.signAdj_valid a _ hv hf hok), f4, f5, f6, ?_⟩
  · rw [f2, hp]; exact permuted_range a.indices
  · rw [signAdj_sectors, hp, ← Lazy.skel_sectors, ← Lazy.skel_sectors, hobs.skel]
  · intro S J
    rw [FuseP.signAdj_elem, hp, hobs.elem S J]

section lead
variable [Zero R] [Neg R]

theorem lead_adjOk (a : Arr R) {k : Nat} (h1 : 1 ≤ k) (h2 : k ≤ a.ndim) : AdjOk a (List.range k) :=
  ⟨lead_oneOk h1 h2, lead_perm h1 h2⟩

theorem lead_newGroupsF (a : Arr R) {k : Nat} (h1 : 1 ≤ k) (h2 : k ≤ a.ndim) :
    FuseP.newGroupsF [List.range k] a.duals = [List.range k] :=
  adj_newGroupsF (lead_adjOk a h1 h2)

theorem fuseSignT_lead_congr (a a' : Arr R) {k : Nat} (h1 : 1 ≤ k) (h2 : k ≤ a.ndim) (h2' : k ≤ a'.ndim)
    (hsym : a.sym = a'.sym)
    (hix : ∀ ax, ax < k → (a.indices.getD ax default).dual = (a'.indices.getD ax default).dual) {T T' : Sector}
    (hT : T.take k = T'.take k) :
    FuseP.fuseSignT a [List.range k] T = FuseP.fuseSignT a' [List.range k] T' := by
  refine adj_fuseSignT_congr (lead_adjOk a h1 h2) (lead_adjOk a' h1 h2') hsym
    (fun ax hax => hix ax (List.mem_range.mp hax)) (fun ax hax => ?_)
  have := congrArg (fun z => z[ax]?) hT
  simpa only [List.getElem?_take, List.mem_range.mp hax, if_true] using this

end lead

theorem signAdj_lead [Zero R] [Neg R] [LawfulNeg R] (a : Arr R) {k : Nat} (hv : a.validB = true)
    (hf : a.fermi = true) (h1 : 1 ≤ k) (h2 : k ≤ a.ndim) :
    (FuseP.signAdj a [List.range k]).indices = a.indices
    ∧ (FuseP.signAdj a [List.range k]).sym = a.sym
    ∧ (FuseP.signAdj a [List.range k]).sectors = a.sectors
    ∧ (FuseP.signAdj a [List.range k]).phases = []
    ∧ (FuseP.signAdj a [List.range k]).validB = true
    ∧ (FuseP.signAdj a [List.range k]).fermi = a.fermi
    ∧ (FuseP.signAdj a [List.range k]).charge = a.charge
    ∧ (FuseP.signAdj a [List.range k]).oddpos = a.oddpos
    ∧ ∀ S J, (FuseP.signAdj a [List.range k]).elem S J
        = sgnI (FuseP.fuseSignT a [List.range k] S) (a.elem S J) :=
  signAdj_adj a hv hf (lead_adjOk a h1 h2)

theorem gradedContract_twist [AddCommMonoid R] [Mul R] [Neg R] [SignRing R] (X a b : Arr R)
    (xa xb : List Nat) (τ : Sector → Int) (hτ : ∀ s, τ s = 1 ∨ τ s = -1)
    (hidx : X.indices = a.indices) (hsym : X.sym = a.sym) (hsec : X.sectors = a.sectors)
    (helem : ∀ s o, X.elem s o = sgnI (τ s) (a.elem s o))
    (s : Sector) (σ : Int)
    (hσ : ∀ p ∈ storedPairs a b (freeAxes a.ndim xa) xa xb (freeAxes b.ndim xb) s, τ p.1 = σ)
    (oL oR : List Nat) :
    gradedContract X b xa xb s oL oR = sgnI σ (gradedContract a b xa xb s oL oR) := by
  have hnd : X.ndim = a.ndim := by
    show X.indices.length = a.indices.length
    rw [hidx]
  have hsp : storedPairs X b (freeAxes X.ndim xa) xa xb (freeAxes b.ndim xb) s
      = storedPairs a b (freeAxes a.ndim xa) xa xb (freeAxes b.ndim xb) s := by
    unfold storedPairs
    rw [hsec, hnd]
  unfold gradedContract
  rw [hsp, ← sgnI_sum]
  apply sum_map_congr
  intro p hp
  have hgs : gradedSign X b xa xb p.1 p.2 = gradedSign a b xa xb p.1 p.2 := by
    unfold gradedSign oddContracted ketOdd Arr.parities
    rw [hidx, hsym, hnd]
  have hcp : contractPair X b xa xb oL oR p = sgnI (τ p.1) (contractPair a b xa xb oL oR p) := by
    unfold contractPair
    rw [hidx, ← sgnI_sum]
    apply sum_map_congr
    intro kk _
    unfold contractTerm
    rw [helem, hnd]
    have := GradedP.sgnI_mul_mul (hτ p.1) (Or.inl rfl)
      (a.elem p.1 (mergeIdx 0 a.ndim xa (freeAxes a.ndim xa) kk oL))
      (b.elem p.2 (mergeIdx 0 b.ndim xb (freeAxes b.ndim xb) kk oR))
    rwa [Lazy.sgnI_one, Int.mul_one] at this
  have hσ' : σ = 1 ∨ σ = -1 := by rw [← hσ p hp]; exact hτ p.1
  rw [hgs, hcp, hσ p hp, GradedP.sgnI_comp (gradedSign_pm _ _ _ _ _ _) hσ',
    GradedP.sgnI_comp hσ' (gradedSign_pm _ _ _ _ _ _), Int.mul_comm]

end SymmModel.TdotP
