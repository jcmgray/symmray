/-
  SymmModel.Proofs.Routes4 — towards S7 of property C04: the sign identity for the middle operand
  of a chain `A–B–C`.
-/
import SymmModel.Proofs.Routes3

namespace SymmModel
namespace RoutesP
open TdotP GradedP KoszulP

/-- **assoc_sign_identity** (the sign part of S7 for the middle operand `B` of a chain `A–B–C`).
    `B` has `m` legs with parities `par`; `xb1` are its legs bonded to `A`, `xb2` those bonded to
    `C` (disjoint).  Route `(A·B)·C`: `B` is brought to `(xb1, rest)` order and then, inside the
    intermediate result, its remaining legs are re-listed (`ρ₁`) so that `xb2` comes last.
    Route `A·(B·C)`: `B` is brought to `(rest, xb2)` order and then its remaining legs are
    re-listed (`ρ₂`) so that `xb1` comes first.  Both products of Koszul signs equal the sign of
    bringing `B` to `(xb1, M, xb2)` order directly, `M` the legs that stay free. -/
theorem assoc_sign_identity (par : List Bool) (m : Nat) (hpar : par.length = m) (xb1 xb2 : List Nat)
    (hn : (xb1 ++ xb2).Nodup) (hlt : ∀ i ∈ xb1 ++ xb2, i < m) :
    let M := freeAxes m (xb1 ++ xb2)
    let ρ1 := positions (freeAxes m xb1) (M ++ xb2)
    let ρ2 := positions (freeAxes m xb2) (xb1 ++ M)
    koszul par (some (xb1 ++ freeAxes m xb1)) * koszul (permuted par (freeAxes m xb1)) (some ρ1)
        = koszul par (some (xb1 ++ M ++ xb2))
      ∧ koszul par (some (freeAxes m xb2 ++ xb2)) * koszul (permuted par (freeAxes m xb2)) (some ρ2)
        = koszul par (some (xb1 ++ M ++ xb2)) := by
  intro M ρ1 ρ2
  have hn1 : xb1.Nodup := (List.nodup_append.mp hn).1
  have hn2 : xb2.Nodup := (List.nodup_append.mp hn).2.1
  have hdisj : ∀ x ∈ xb1, ∀ y ∈ xb2, x ≠ y := (List.nodup_append.mp hn).2.2
  have hlt1 : ∀ i ∈ xb1, i < m := fun i hi => hlt i (List.mem_append_left _ hi)
  have hlt2 : ∀ i ∈ xb2, i < m := fun i hi => hlt i (List.mem_append_right _ hi)
  have hMnd : M.Nodup := freeAxes_nodup _ _
  -- `M ++ xb2` is a re-listing of the free axes w.r.t. `xb1`
  have hP1 : (M ++ xb2).Perm (freeAxes m xb1) := by
    rw [List.perm_ext_iff_of_nodup ?_ (freeAxes_nodup _ _)]
    · intro y
      simp only [List.mem_append, M, mem_freeAxes, not_or]
      constructor
      · rintro (⟨h1, h2, _⟩ | h)
        · exact ⟨h1, h2⟩
        · exact ⟨hlt2 y h, fun h' => hdisj y h' y h rfl⟩
      · rintro ⟨h1, h2⟩
        by_cases h3 : y ∈ xb2
        · exact Or.inr h3
        · exact Or.inl ⟨h1, h2, h3⟩
    · rw [List.nodup_append]
      refine ⟨hMnd, hn2, ?_⟩
      intro x hx y hy e
      subst e
      exact (mem_freeAxes.mp hx).2 (List.mem_append_right _ hy)
  have hP2 : (xb1 ++ M).Perm (freeAxes m xb2) := by
    rw [List.perm_ext_iff_of_nodup ?_ (freeAxes_nodup _ _)]
    · intro y
      simp only [List.mem_append, M, mem_freeAxes, not_or]
      constructor
      · rintro (h | ⟨h1, _, h3⟩)
        · exact ⟨hlt1 y h, fun h' => hdisj y h y h' rfl⟩
        · exact ⟨h1, h3⟩
      · rintro ⟨h1, h2⟩
        by_cases h3 : y ∈ xb1
        · exact Or.inl h3
        · exact Or.inr ⟨h1, h3, h2⟩
    · rw [List.nodup_append]
      refine ⟨hn1, hMnd, ?_⟩
      intro x hx y hy e
      subst e
      exact (mem_freeAxes.mp hy).2 (List.mem_append_left _ hx)
  have hq1 := positions_perm (freeAxes m xb1) (M ++ xb2) hP1 (freeAxes_nodup _ _)
  have hq2 := positions_perm (freeAxes m xb2) (xb1 ++ M) hP2 (freeAxes_nodup _ _)
  have hs1 := (positions_spec (freeAxes m xb1) (M ++ xb2) (fun y hy => hP1.mem_iff.mp hy)).1
  have hs2 := (positions_spec (freeAxes m xb2) (xb1 ++ M) (fun y hy => hP2.mem_iff.mp hy)).1
  constructor
  · have := koszul_relist_snd par m hpar xb1 _ ρ1 (perm_right hn1 hlt1) hq1
    rw [hs1] at this
    rw [← this, List.append_assoc]
  · have := koszul_relist_fst par m hpar _ xb2 ρ2 (perm_left hn2 hlt2) hq2
    rw [hs2] at this
    rw [← this]

end RoutesP
end SymmModel
