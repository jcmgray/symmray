/-
  SymmModel.Proofs.FuseSpec — the value `fuseInfoOf a groups`
  of `calcFuseBlockInfo`: entries of the plan at the fused positions, direction and size of the
  fused index, well-formedness of the produced indices.
-/
import SymmModel.Proofs.FuseWf
namespace SymmModel
namespace FuseP

variable {R : Type}

theorem getD_mid {α : Type} (a b c : List α) (g : Nat) (d : α) (hg : g < b.length) :
    (a ++ b ++ c).getD (a.length + g) d = b.getD g d := by
  simp only [List.getD_eq_getElem?_getD]
  rw [List.append_assoc, List.getElem?_append_right (by omega), List.getElem?_append_left (by omega)]
  congr 2; omega

theorem getD_before {α : Type} (a b : List α) (k : Nat) (d : α) (hk : k < a.length) :
    (a ++ b).getD k d = a.getD k d := by
  simp only [List.getD_eq_getElem?_getD]
  rw [List.getElem?_append_left hk]

theorem getD_after {α : Type} (a b : List α) (k : Nat) (d : α) :
    (a ++ b).getD (a.length + k) d = b.getD k d := by
  simp only [List.getD_eq_getElem?_getD]
  rw [List.getElem?_append_right (by omega)]
  congr 2; omega

theorem zipIdx_map_getD {α β : Type} (l : List α) (f : α × Nat → β) (g : Nat) (x : α) (d : β)
    (h : l[g]? = some x) : (l.zipIdx.map f).getD g d = f (x, g) := by
  simp [List.getD_eq_getElem?_getD, List.getElem?_map, List.getElem?_zipIdx, h]

theorem getElem?_lt {α : Type} {l : List α} {g : Nat} {x : α} (h : l[g]? = some x) : g < l.length := by
  rw [List.getElem?_eq_some_iff] at h; exact h.1

theorem getElem?_mem' {α : Type} {l : List α} {g : Nat} {x : α} (h : l[g]? = some x) : x ∈ l := by
  rw [List.getElem?_eq_some_iff] at h; obtain ⟨h1, rfl⟩ := h; exact List.getElem_mem _


section PlanAt
variable (sym : Sym) (indices : List Index) (groups : List (List Nat)) (sector : Sector)
  (shp : List Nat) (duals : List Bool)

theorem planOf_subsectors_getD {gi : FuseGroupInfo} {g : Nat} {gaxes : List Nat}
    (h : groups[g]? = some gaxes) :
    (planOf sym indices groups gi sector shp).subsectors.getD g []
      = (midOf sym indices sector shp gi (gaxes, g)).2.2 := by
  simp only [planOf, List.map_map]
  rw [zipIdx_map_getD _ _ _ _ _ h]; rfl

theorem planOf_newSector_getD {g : Nat} {gaxes : List Nat} (h : groups[g]? = some gaxes) :
    (planOf sym indices groups (calcFuseGroupInfo groups duals) sector shp).newSector.getD
        ((calcFuseGroupInfo groups duals).position + g) (0, 0)
      = (midOf sym indices sector shp (calcFuseGroupInfo groups duals) (gaxes, g)).1 := by
  simp only [planOf, List.map_map]
  have hl : (List.map (fun ax => List.getD sector ax (0, 0)) (calcFuseGroupInfo groups duals).axesBefore).length
      = (calcFuseGroupInfo groups duals).position := by
    rw [List.length_map, axesBefore_length _ _]
  rw [← hl, getD_mid _ _ _ _ _ (by simpa using getElem?_lt h), zipIdx_map_getD _ _ _ _ _ h]; rfl

theorem planOf_newShape_getD {g : Nat} {gaxes : List Nat} (h : groups[g]? = some gaxes) :
    (planOf sym indices groups (calcFuseGroupInfo groups duals) sector shp).newShape.getD
        ((calcFuseGroupInfo groups duals).position + g) 0
      = (midOf sym indices sector shp (calcFuseGroupInfo groups duals) (gaxes, g)).2.1 := by
  simp only [planOf, List.map_map]
  have hl : (List.map (fun ax => List.getD shp ax 0) (calcFuseGroupInfo groups duals).axesBefore).length
      = (calcFuseGroupInfo groups duals).position := by
    rw [List.length_map, axesBefore_length _ _]
  rw [← hl, getD_mid _ _ _ _ _ (by simpa using getElem?_lt h), zipIdx_map_getD _ _ _ _ _ h]; rfl

theorem planOf_newSector_before {k : Nat} (hk : k < (calcFuseGroupInfo groups duals).position) :
    (planOf sym indices groups (calcFuseGroupInfo groups duals) sector shp).newSector.getD k (0, 0)
      = sector.getD k (0, 0) := by
  simp only [planOf]
  rw [List.append_assoc, getD_before _ _ _ _ (by rw [List.length_map, axesBefore_length _ _]; exact hk)]
  rw [axesBefore_range _ _]
  simp [List.getD_eq_getElem?_getD, List.getElem?_map, List.getElem?_range hk]

theorem planOf_newSector_after {k : Nat} (hk : k < (calcFuseGroupInfo groups duals).axesAfter.length) :
    (planOf sym indices groups (calcFuseGroupInfo groups duals) sector shp).newSector.getD
        ((calcFuseGroupInfo groups duals).position + groups.length + k) (0, 0)
      = sector.getD ((calcFuseGroupInfo groups duals).axesAfter.getD k 0) (0, 0) := by
  simp only [planOf]
  have hl : (List.map (fun ax => List.getD sector ax (0, 0)) (calcFuseGroupInfo groups duals).axesBefore
      ++ List.map (fun x => x.1) (List.map (midOf sym indices sector shp (calcFuseGroupInfo groups duals))
          groups.zipIdx)).length = (calcFuseGroupInfo groups duals).position + groups.length := by
    simp [axesBefore_length _ _]
  rw [← hl, getD_after]
  simp [List.getD_eq_getElem?_getD, List.getElem?_map, List.getElem?_eq_getElem hk]

end PlanAt


theorem blockShape?_map {indices : List Index} {sector : Sector} {shp : List Nat}
    (h : Arr.blockShape? indices sector = some shp) (axes : List Nat)
    (hax : ∀ ax ∈ axes, ax < indices.length) :
    Arr.blockShape? (axes.map (fun ax => indices.getD ax default))
        (axes.map (fun ax => sector.getD ax (0, 0)))
      = some (axes.map (fun ax => shp.getD ax 0)) := by
  rw [blockShape?_eq_some_iff]
  refine ⟨by simp, ?_⟩
  rw [List.zipWith_map, List.zipWith_self, List.map_map]
  apply List.map_congr_left
  intro ax h1
  obtain ⟨ix, c, _, _, h3, h4, h5⟩ := blockShape?_get h (hax ax h1)
  simp only [Function.comp, h4, h5, h3]

theorem sizeOf?_pos {sym : Sym} {ix : Index} (h : Index.wfB sym ix = true) {c : Charge} {d : Nat}
    (hc : ix.sizeOf? c = some d) : 0 < d :=
  ((Index.wfB_cm h).2 (c, d) (alookup_some_mem hc)).1

theorem blockShape?_pos {sym : Sym} {indices : List Index} {sector : Sector} {shp : List Nat}
    (hw : ∀ ix ∈ indices, Index.wfB sym ix = true)
    (h : Arr.blockShape? indices sector = some shp) {ax : Nat} (hax : ax < indices.length) :
    0 < shp.getD ax 0 := by
  obtain ⟨ix, c, h1, _, h3, _, _⟩ := blockShape?_get h hax
  exact sizeOf?_pos (hw ix (getElem?_mem' h1)) h3

theorem midOf_entryOk {sym : Sym} {indices : List Index} {sector : Sector} {shp : List Nat}
    (hw : ∀ ix ∈ indices, Index.wfB sym ix = true)
    (h : Arr.blockShape? indices sector = some shp) (gi : FuseGroupInfo) (gaxes : List Nat) (g : Nat)
    (hax : ∀ ax ∈ gaxes, ax < indices.length) (hlen : gaxes.length ≠ 1) :
    EntryOk sym (gi.groupDuals.getD g false) (gaxes.map (fun ax => indices.getD ax default))
      ((midOf sym indices sector shp gi (gaxes, g)).2.2,
       (midOf sym indices sector shp gi (gaxes, g)).1, (midOf sym indices sector shp gi (gaxes, g)).2.1) := by
  simp only [midOf_multi _ _ _ _ _ g hlen, EntryOk]
  refine ⟨by simp, ⟨_, blockShape?_map h gaxes hax, rfl⟩, ?_, ?_⟩
  · rw [List.zipWith_map, List.zipWith_self]; rfl
  · apply prod_pos
    intro d hd
    obtain ⟨ax, h1, rfl⟩ := List.mem_map.1 hd
    exact blockShape?_pos hw h (hax ax h1)

/-- the entries of the table of a multi-axis group come from the stored blocks: the grouped axes
    have to be in range only if there is one -/
theorem tableEntries_entryOk {a : Arr R} {groups : List (List Nat)} (hv : ValidArr a)
    (hlt : a.blocks ≠ [] → ∀ ax ∈ groups.flatten, ax < a.ndim) {g : Nat} {gaxes : List Nat}
    (hg : groups[g]? = some gaxes) (hlen : gaxes.length ≠ 1) :
    ∀ x ∈ tableEntries (blockmapOf a groups) (calcFuseGroupInfo groups a.duals).position g,
      EntryOk a.sym ((calcFuseGroupInfo groups a.duals).groupDuals.getD g false)
        (gaxes.map (fun ax => a.indices.getD ax default)) x := by
  intro x hx
  simp only [tableEntries, blockmapOf, List.map_map, List.mem_map, Function.comp] at hx
  obtain ⟨sb, hsb, rfl⟩ := hx
  rw [planOf_subsectors_getD _ _ _ _ _ hg, planOf_newSector_getD _ _ _ _ _ _ hg,
    planOf_newShape_getD _ _ _ _ _ _ hg]
  apply midOf_entryOk hv.idx (hv.blk sb hsb).2.1
  · intro ax hax
    exact hlt (List.ne_nil_of_mem hsb) ax (List.mem_flatten.2 ⟨gaxes, getElem?_mem' hg, hax⟩)
  · exact hlen


theorem newMidOf_length (a : Arr R) (groups : List (List Nat)) :
    (newMidOf a groups).length = groups.length := by simp [newMidOf]

theorem permuted_before_length {a : Arr R} {groups : List (List Nat)} (hok : GroupsAdm groups a.ndim) :
    (permuted a.indices (calcFuseGroupInfo groups a.duals).axesBefore).length
      = (calcFuseGroupInfo groups a.duals).position := by
  rw [permuted_length _ _ (beforeM_lt hok.lt), axesBefore_length _ _]

theorem newIndices_getD {a : Arr R} {groups : List (List Nat)} (hok : GroupsAdm groups a.ndim)
    {g : Nat} (hg : g < groups.length) :
    (fuseInfoOf a groups).newIndices.getD ((calcFuseGroupInfo groups a.duals).position + g) default
      = (newMidOf a groups).getD g default := by
  simp only [fuseInfoOf]
  have := getD_mid (permuted a.indices (calcFuseGroupInfo groups a.duals).axesBefore) (newMidOf a groups)
    (permuted a.indices (calcFuseGroupInfo groups a.duals).axesAfter) g default
    (by rw [newMidOf_length]; exact hg)
  rw [permuted_before_length hok] at this
  exact this

theorem newIndices_getD_mid {a : Arr R} {groups : List (List Nat)} (hok : GroupsAdm groups a.ndim)
    {g : Nat} {gaxes : List Nat} (hg : groups[g]? = some gaxes) :
    (fuseInfoOf a groups).newIndices.getD ((calcFuseGroupInfo groups a.duals).position + g) default
      = if gaxes.length == 1 then a.indices.getD (gaxes.headD 0) default
        else fusedIndexOf (tableEntries (blockmapOf a groups) (calcFuseGroupInfo groups a.duals).position g)
          ((calcFuseGroupInfo groups a.duals).groupDuals.getD g false)
          (gaxes.map (fun ax => a.indices.getD ax default)) := by
  rw [newIndices_getD hok (getElem?_lt hg)]
  simp only [newMidOf]
  rw [zipIdx_map_getD _ _ _ _ _ hg]

theorem wfB_default (sym : Sym) : Index.wfB sym default = true := by
  show Index.wfB sym (.mk [] false none) = true
  rw [Index.wfB.eq_def]; simp [isSortedStrict]

theorem wfB_getD {sym : Sym} {indices : List Index} (h : ∀ i ∈ indices, Index.wfB sym i = true)
    (ax : Nat) : Index.wfB sym (indices.getD ax default) = true := by
  rw [List.getD_eq_getElem?_getD]
  cases hi : indices[ax]? with
  | none => exact wfB_default sym
  | some ix => exact h ix (List.mem_of_getElem? hi)

/-- all indices of the fused array are well formed (a grouped axis out of range reads the default
    index; the tables are built from the stored blocks) -/
theorem newIndices_wf {a : Arr R} {groups : List (List Nat)} (hv : ValidArr a)
    (hlt : a.blocks ≠ [] → ∀ ax ∈ groups.flatten, ax < a.ndim) :
    ∀ ix ∈ (fuseInfoOf a groups).newIndices, Index.wfB a.sym ix = true := by
  intro ix hix
  simp only [fuseInfoOf, List.mem_append] at hix
  rcases hix with (hix | hix) | hix
  · exact hv.idx ix (mem_permuted hix)
  · simp only [newMidOf, List.mem_map] at hix
    obtain ⟨⟨gaxes, g⟩, hp, rfl⟩ := hix
    have hg : groups[g]? = some gaxes := List.mk_mem_zipIdx_iff_getElem?.1 hp
    by_cases hlen : gaxes.length = 1
    · simp only [hlen, BEq.rfl, if_true]
      exact wfB_getD hv.idx _
    · have hl : (gaxes.length == 1) = false := by simpa using hlen
      simp only [hl, Bool.false_eq_true, if_false]
      apply fusedIndexOf_wf
      · rw [wfListB_iff]
        intro i hi
        obtain ⟨ax, _, rfl⟩ := List.mem_map.mp hi
        exact wfB_getD hv.idx ax
      · exact tableEntries_entryOk hv hlt hg hlen
  · exact hv.idx ix (mem_permuted hix)

/-- behind `C05.table_wf` -/
theorem fused_index_wf {a : Arr R} {groups : List (List Nat)} (hv : ValidArr a)
    (hok : GroupsAdm groups a.ndim) (g : Nat) :
    Index.wfB a.sym
      ((fuseInfoOf a groups).newIndices.getD ((calcFuseGroupInfo groups a.duals).position + g) default)
      = true :=
  wfB_getD (newIndices_wf hv fun _ => hok.lt) _

/-- behind `C05.fused_dual_spec` -/
theorem fused_dual {a : Arr R} {groups : List (List Nat)} (hok : GroupsAdm groups a.ndim)
    {g : Nat} {gaxes : List Nat} (hg : groups[g]? = some gaxes) :
    ((fuseInfoOf a groups).newIndices.getD ((calcFuseGroupInfo groups a.duals).position + g) default).dual
      = (a.indices.getD (gaxes.headD 0) default).dual := by
  rw [newIndices_getD_mid hok hg]
  split
  · rfl
  · simp only [fusedIndexOf, Index.dual]
    rw [groupDuals_getD _ _ _ _ hg]
    simp only [Arr.duals, List.getD_eq_getElem?_getD, List.getElem?_map]
    cases a.indices[gaxes.headD 0]? <;> rfl

theorem fused_index_sub {a : Arr R} {groups : List (List Nat)} (hok : GroupsAdm groups a.ndim)
    {g : Nat} {gaxes : List Nat} (hg : groups[g]? = some gaxes) (hlen : gaxes.length ≠ 1) :
    (fuseInfoOf a groups).newIndices.getD ((calcFuseGroupInfo groups a.duals).position + g) default
      = fusedIndexOf (tableEntries (blockmapOf a groups) (calcFuseGroupInfo groups a.duals).position g)
          ((calcFuseGroupInfo groups a.duals).groupDuals.getD g false)
          (gaxes.map (fun ax => a.indices.getD ax default)) := by
  rw [newIndices_getD_mid hok hg]
  have hl : (gaxes.length == 1) = false := by simpa using hlen
  simp [hl]

end FuseP
end SymmModel
