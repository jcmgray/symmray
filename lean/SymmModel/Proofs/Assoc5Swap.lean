/-
  SymmModel.Proofs.Assoc5Swap — S5 of property C04 as an `Eqv` statement: the contraction with the
  operands exchanged, followed by the transposition that rotates the two free blocks back, is
  equivalent to the original contraction (weak guard).
-/
import SymmModel.Proofs.Assoc4Swap

namespace SymmModel
namespace Assoc5P
open TdotP GradedP RoutesP KoszulP OddposP AssocP Assoc3P Assoc4P
open Lazy (sgnI)

variable {R : Type}

/-- the rotation bringing the second block (length `nL`) in front of the first (length `nR`) -/
def rotB (nR nL : Nat) : List Nat := (List.range nL).map (nR + ·) ++ List.range nR

theorem permuted_rotB {α : Type} (u v : List α) :
    permuted (u ++ v) (rotB u.length v.length) = v ++ u := by
  unfold rotB
  rw [permuted_append, permuted_append_map_add,
    permuted_append_of_lt u v _ (by intro i hi; exact List.mem_range.mp hi), permuted_range,
    permuted_range]

theorem rotB_isPerm (nR nL : Nat) : Arr.isPerm (rotB nR nL) (nR + nL) = true := by
  apply isPerm_of_perm
  unfold rotB
  rw [List.range_add]
  exact List.perm_append_comm

section
variable [AddMonoid R] [Mul R] [Neg R]
variable {a b c c' : Arr R} {xa xb : List Nat} {ph ph' : Int}

theorem swap_sectors (I : Inter a b xa xb c ph) (I' : Inter b a xb xa c' ph')
    (hsa : a.shapesOk) (hsb : b.shapesOk) (s' : Sector) :
    s' ∈ c'.sectors ↔ ∃ L Rr, L.length = (freeAxes a.ndim xa).length
      ∧ Rr.length = (freeAxes b.ndim xb).length ∧ s' = Rr ++ L ∧ L ++ Rr ∈ c.sectors := by
  have hlA : ∀ sa ∈ a.sectors, (permuted sa (freeAxes a.ndim xa)).length = (freeAxes a.ndim xa).length :=
    fun sa h => permuted_length _ _ (by
      intro x hx; rw [Arr.sector_length hsa h]; exact (mem_freeAxes.mp hx).1)
  have hlB : ∀ sb ∈ b.sectors, (permuted sb (freeAxes b.ndim xb)).length = (freeAxes b.ndim xb).length :=
    fun sb h => permuted_length _ _ (by
      intro x hx; rw [Arr.sector_length hsb h]; exact (mem_freeAxes.mp hx).1)
  rw [I'.mem_sectors]
  constructor
  · rintro ⟨sb, hB, sa, hA, hal, rfl⟩
    exact ⟨_, _, hlA sa hA, hlB sb hB, rfl, I.mem_sectors.mpr ⟨sa, hA, sb, hB, hal.symm, rfl⟩⟩
  · rintro ⟨L, Rr, hL, hR, rfl, hs⟩
    obtain ⟨sa, hA, sb, hB, hal, e⟩ := I.mem_sectors.mp hs
    obtain ⟨e1, e2⟩ := List.append_inj e (by rw [hL, hlA sa hA])
    exact ⟨sb, hB, sa, hA, hal.symm, by rw [e1, e2]⟩

theorem swap_sectors_rot (I : Inter a b xa xb c ph) (I' : Inter b a xb xa c' ph')
    (hsa : a.shapesOk) (hsb : b.shapesOk) (s : Sector) :
    s ∈ c'.sectors.map (fun s' =>
        permuted s' (rotB (freeAxes b.ndim xb).length (freeAxes a.ndim xa).length)) ↔ s ∈ c.sectors := by
  have corr := swap_sectors I I' hsa hsb
  rw [List.mem_map]
  constructor
  · rintro ⟨s', hs', rfl⟩
    obtain ⟨L, Rr, hL, hR, rfl, hs⟩ := (corr s').mp hs'
    have := permuted_rotB Rr L
    rw [hR, hL] at this
    rw [this]; exact hs
  · intro hs
    obtain ⟨sa, hA, sb, hB, hal, es⟩ := I.mem_sectors.mp hs
    have hL : (permuted sa (freeAxes a.ndim xa)).length = (freeAxes a.ndim xa).length :=
      permuted_length _ _ (by
        intro x hx; rw [Arr.sector_length hsa hA]; exact (mem_freeAxes.mp hx).1)
    have hR : (permuted sb (freeAxes b.ndim xb)).length = (freeAxes b.ndim xb).length :=
      permuted_length _ _ (by
        intro x hx; rw [Arr.sector_length hsb hB]; exact (mem_freeAxes.mp hx).1)
    refine ⟨permuted sb (freeAxes b.ndim xb) ++ permuted sa (freeAxes a.ndim xa),
      (corr _).mpr ⟨_, _, hL, hR, rfl, by rw [← es]; exact hs⟩, ?_⟩
    have := permuted_rotB (permuted sb (freeAxes b.ndim xb)) (permuted sa (freeAxes a.ndim xa))
    rw [hR, hL] at this
    rw [this, es]

theorem rotB_lt (nR nL : Nat) : ∀ i ∈ rotB nR nL, i < nR + nL := by
  intro i hi
  unfold rotB at hi
  rcases List.mem_append.mp hi with h | h
  · obtain ⟨k, hk, rfl⟩ := List.mem_map.mp h
    have := List.mem_range.mp hk; omega
  · have := List.mem_range.mp h; omega

theorem swap_indices (I : Inter a b xa xb c ph) (I' : Inter b a xb xa c' ph')
    (hsa : a.shapesOk) (hsb : b.shapesOk) :
    permuted c'.indices (rotB (freeAxes b.ndim xb).length (freeAxes a.ndim xa).length) = c.indices := by
  have hl1 : (without a.indices xa).length = (freeAxes a.ndim xa).length := without_length _ _
  have hl2 : (without b.indices xb).length = (freeAxes b.ndim xb).length := without_length _ _
  have hrot := permuted_rotB (without b.indices xb) (without a.indices xa)
  rw [hl2, hl1] at hrot
  rw [I'.indices, dropUnused_permuted _ _ _
    (by rw [List.length_append, hl2, hl1]; exact rotB_lt _ _)
    (by
      intro s' hs' i hi
      obtain ⟨L, Rr, hL, hR, rfl, _⟩ := (swap_sectors I I' hsa hsb s').mp hs'
      rw [List.length_append, hR, hL]; exact rotB_lt _ _ i hi),
    hrot, I.indices]
  exact dropUnused_congr_mem _ (swap_sectors_rot I I' hsa hsb)

end

section eqv
variable [AddCommMonoid R] [Mul R] [Neg R] [SignRing R]

/-- **S5 as an equivalence, labels not necessarily distinct**: if both label merges succeed with the
    same list and `sba = sab · sgn(parity a · parity b)`, then `b·a`, rotated back by `transposeF`,
    is `Eqv` to `a·b` -/
theorem swap_eqv_gen (hmul : ∀ x y : R, x * y = y * x) {a b : Arr R} {xa xb : List Nat}
    (W : AdmW a b xa xb) (out : List (Int × Bool)) (sab sba : Int)
    (m1 : mergeOddpos a.parity a.oddpos b.oddpos = .ok (out, sab))
    (m2 : mergeOddpos b.parity b.oddpos a.oddpos = .ok (out, sba))
    (m3 : sba = sab * sgn (a.parity.toNat * b.parity.toNat)) (c : Arr R)
    (hc : tdF a b xa xb = .ok c) :
    ∃ c', tdF b a xb xa = .ok c' ∧ c'.validB = true
      ∧ (c'.transposeF (rotB (freeAxes b.ndim xb).length (freeAxes a.ndim xa).length)).validB = true
      ∧ Eqv (c'.transposeF (rotB (freeAxes b.ndim xb).length (freeAxes a.ndim xa).length)) c := by
  have hsa := Arr.shapesOk_of_validB W.va
  have hsb := Arr.shapesOk_of_validB W.vb
  obtain ⟨_, _, C⟩ := Call.of_ok W hc
  have I := C.toInter
  obtain ⟨c', ec', q1, q2, q3, q4, q5⟩ :=
    tdotF_swap_gen_w a b c xa xb hmul W out sab sba m1 m2 m3 hc
  obtain ⟨_, _, C'⟩ := Call.of_ok (admW_swap W) ec'
  have I' := C'.toInter
  set nL := (freeAxes a.ndim xa).length with hnL
  set nR := (freeAxes b.ndim xb).length with hnR
  have hperm : Arr.isPerm (rotB nR nL) c'.ndim = true := by rw [I'.ndim]; exact rotB_isPerm nR nL
  have T := transOf_transposeF c' (rotB nR nL) I'.valid I'.fermi hperm
  have hval : (c'.transposeF (rotB nR nL)).validB = true :=
    (ValidP.validB_iff _).mpr (ValidP.transposeF_valid c' _ true ((ValidP.validB_iff c').mp I'.valid)
      I'.fermi hperm)
  have corr := swap_sectors I I' hsa hsb
  have hidx : (c'.transposeF (rotB nR nL)).indices = c.indices := by
    rw [T.indices]; exact swap_indices I I' hsa hsb
  have hsec : ∀ s, s ∈ (c'.transposeF (rotB nR nL)).sectors ↔ s ∈ c.sectors := by
    intro s
    rw [T.sectors]; exact swap_sectors_rot I I' hsa hsb s
  refine ⟨c', ec', I'.valid, hval, ⟨by rw [T.sym, q3], I'.fermi.trans I.fermi.symm, q2, q1, hidx, hsec, ?_⟩⟩
  intro s o ho
  by_cases hs : s ∈ (c'.transposeF (rotB nR nL)).sectors
  · have hbox := ho hs
    have hsZ := (hsec s).mp hs
    obtain ⟨sa, hA, sb, hB, hal, es⟩ := I.mem_sectors.mp hsZ
    subst es
    have hL : (permuted sa (freeAxes a.ndim xa)).length = nL := permuted_length _ _ (by
      intro x hx; rw [Arr.sector_length hsa hA]; exact (mem_freeAxes.mp hx).1)
    have hR : (permuted sb (freeAxes b.ndim xb)).length = nR := permuted_length _ _ (by
      intro x hx; rw [Arr.sector_length hsb hB]; exact (mem_freeAxes.mp hx).1)
    obtain ⟨shpA, hA1, hA2, hA3, hA4⟩ := shape_of_mem hsa hA
    obtain ⟨shpB, hB1, hB2, hB3, hB4⟩ := shape_of_mem hsb hB
    have hFA : (permuted (Arr.blockShapeD a.indices sa) (freeAxes a.ndim xa)).length = nL :=
      permuted_length _ _ (by intro x hx; rw [hA2, hA3]; exact (mem_freeAxes.mp hx).1)
    have hFB : (permuted (Arr.blockShapeD b.indices sb) (freeAxes b.ndim xb)).length = nR :=
      permuted_length _ _ (by intro x hx; rw [hB2, hB3]; exact (mem_freeAxes.mp hx).1)
    rw [hidx, Arr.blockShapeD, I.shape hsa hsb hA hB hal] at hbox
    change inBox (permuted (Arr.blockShapeD a.indices sa) (freeAxes a.ndim xa)
      ++ permuted (Arr.blockShapeD b.indices sb) (freeAxes b.ndim xb)) o = true at hbox
    have hol := inBox_length hbox
    rw [List.length_append, hFA, hFB] at hol
    have hsplit : o = o.take nL ++ o.drop nL := (List.take_append_drop _ _).symm
    have htl : (o.take nL).length = nL := by rw [List.length_take]; omega
    have hdl : (o.drop nL).length = nR := by rw [List.length_drop]; omega
    rw [hsplit, inBox_append (by rw [htl, hFA]), Bool.and_eq_true] at hbox
    obtain ⟨bL, bR⟩ := hbox
    have hswap := q5 _ _ (o.take nL) (o.drop nL) hL hR htl hdl (by
      rw [Arr.blockShapeD, frame_shape hsa hsb hA hB]
      change inBox (_ ++ _) _ = true
      rw [inBox_append (by rw [htl, hFA]), bL, bR]; rfl)
    have hs' : permuted sb (freeAxes b.ndim xb) ++ permuted sa (freeAxes a.ndim xa) ∈ c'.sectors :=
      (corr _).mpr ⟨_, _, hL, hR, rfl, hsZ⟩
    have hT := T.elem _ hs' (o.drop nL ++ o.take nL) (by
      rw [Arr.blockShapeD, I'.shape hsb hsa hB hA hal.symm]
      change inBox (_ ++ _) _ = true
      rw [inBox_append (by rw [hdl, hFB]), bR, bL]; rfl)
    have r1 := permuted_rotB (permuted sb (freeAxes b.ndim xb)) (permuted sa (freeAxes a.ndim xa))
    rw [hR, hL] at r1
    have r2 := permuted_rotB (o.drop nL) (o.take nL)
    rw [hdl, htl] at r2
    rw [r1, r2, hswap] at hT
    rw [← hsplit] at hT
    rw [hT]
    -- the two rotation signs cancel
    have k1 := koszul_rot ((permuted sa (freeAxes a.ndim xa)).map a.sym.parity)
      ((permuted sb (freeAxes b.ndim xb)).map a.sym.parity)
    rw [List.length_map, List.length_map, ← List.map_append] at k1
    have k2 := koszul_rot ((permuted sb (freeAxes b.ndim xb)).map a.sym.parity)
      ((permuted sa (freeAxes a.ndim xa)).map a.sym.parity)
    rw [List.length_map, List.length_map, ← List.map_append, hR, hL] at k2
    have hpar : c'.parities (permuted sb (freeAxes b.ndim xb) ++ permuted sa (freeAxes a.ndim xa))
        = (permuted sb (freeAxes b.ndim xb) ++ permuted sa (freeAxes a.ndim xa)).map a.sym.parity := by
      unfold Arr.parities; rw [q3, I.sym]
    have hrot : rotB nR nL = (List.range nL).map (nR + ·) ++ List.range nR := rfl
    rw [hpar, hrot, k2, k1, sgnI_comp (sgn_cases _) (sgn_cases _), ← sgn_add]
    have : sgn ((List.filter id (List.map a.sym.parity (permuted sb (freeAxes b.ndim xb)))).length
        * (List.filter id (List.map a.sym.parity (permuted sa (freeAxes a.ndim xa)))).length
        + (List.filter id (List.map a.sym.parity (permuted sa (freeAxes a.ndim xa)))).length
        * (List.filter id (List.map a.sym.parity (permuted sb (freeAxes b.ndim xb)))).length) = 1 := by
      rw [Nat.mul_comm, ← Nat.two_mul]
      unfold sgn; simp
    rw [this, Lazy.sgnI_one]
  · rw [Arr.elem_of_not_mem hs, Arr.elem_of_not_mem (fun h => hs ((hsec s).mpr h))]

/-- **S5 as an equivalence** (commutative scalars, distinct labels): `b·a`, rotated back by `transposeF`, is `Eqv` to `a·b` -/
theorem swap_eqv (hmul : ∀ x y : R, x * y = y * x) {a b : Arr R} {xa xb : List Nat}
    (W : AdmW a b xa xb) (hd : OddposP.LabelsDistinct (a.oddpos ++ b.oddpos)) (c : Arr R)
    (hc : tdF a b xa xb = .ok c) :
    ∃ c', tdF b a xb xa = .ok c' ∧ c'.validB = true
      ∧ (c'.transposeF (rotB (freeAxes b.ndim xb).length (freeAxes a.ndim xa).length)).validB = true
      ∧ Eqv (c'.transposeF (rotB (freeAxes b.ndim xb).length (freeAxes a.ndim xa).length)) c := by
  obtain ⟨out, sab, sba, m1, m2, m3⟩ := mergeOddpos_swap a.parity b.parity a.oddpos b.oddpos hd
  -- the label counts have the operands' parities
  have hlab := label_swap_parity a.parity b.parity a.oddpos.length b.oddpos.length
    (oddpos_parity W.va W.fa) (oddpos_parity W.vb W.fb)
  exact swap_eqv_gen hmul W out sab sba m1 m2
    (m3.trans (congrArg (sab * ·) (sgn_congr hlab))) c hc

end eqv

end Assoc5P
end SymmModel
