/-
  SymmModel.Proofs.FuseMultiR3 — the general round trip, preparations for one stage: an address of a
  piece, with the offsets of the unfused group collapsed, lies in the box of the fused block
  (`collapse_inBox_parts`); the step function `stageStep`; the stage for a single-axis group, where
  nothing is unfused (`stage_single`).  The stage for a multi-axis group is `stage_multi`
  (FuseMultiR4), the iteration `stage_step`, `round_tripM` (FuseMultiR5).
-/
import SymmModel.Proofs.FuseMultiR2
import SymmModel.Proofs.ValidFuse
namespace SymmModel
namespace FuseP
set_option linter.unusedSectionVars false

variable {R : Type}

theorem getElem?_of_getD {α : Type} (l : List α) (d : α) {p : Nat} (hp : p < l.length) :
    l[p]? = some (l.getD p d) := by
  simp [List.getD_eq_getElem?_getD, List.getElem?_eq_getElem hp]

theorem collapse_inBox_parts {Bsh sub A S T : List Nat} {p st d : Nat} (hp : p < Bsh.length) (hd : prod sub = d)
    (hb : st + d ≤ Bsh.getD p 0) (hA : A.length = p) (hS : S.length = sub.length)
    (hJ : inBox (replaceWithSeq Bsh p sub) (A ++ S ++ T) = true) :
    inBox Bsh (A ++ [st + ravel sub S] ++ T) = true ∧ inBox sub S = true := by
  obtain ⟨htl, hJ1, hJ2, hJ3⟩ := inBox_parts hp hA hS hJ
  refine ⟨?_, hJ2⟩
  have hr := ravel_lt hJ2
  rw [list_split_at Bsh p 0 hp, inBox_append (by simp [htl]), inBox_append htl, hJ1, hJ3]
  simp only [inBox, Bool.and_true, Bool.true_and, decide_eq_true_eq]
  omega

theorem collapse_inBox {Bsh sub J : List Nat} {p st d : Nat} (hp : p < Bsh.length) (hd : prod sub = d)
    (hb : st + d ≤ Bsh.getD p 0) (hJ : inBox (replaceWithSeq Bsh p sub) J = true) :
    inBox Bsh (J.take p ++ [st + ravel sub ((J.drop p).take sub.length)] ++ J.drop (p + sub.length)) = true
      ∧ inBox sub ((J.drop p).take sub.length) = true := by
  obtain ⟨A, S, T, rfl, rfl, hS⟩ := exists_box_parts hp hJ
  rw [← hS, (three_split A S T).1, (three_split A S T).2.1, (three_split A S T).2.2]
  exact collapse_inBox_parts hp hd hb rfl hS hJ

section Multi
variable {a : Arr R} {groups : List (List Nat)} [Zero R]

variable (a groups) in
def stageStep (x : Arr R) (g : Nat) : Except Err (Arr R) :=
  if multiB groups g then unfuseA x ((giM a groups).position + g) else pure x

theorem ndimM_ge : (giM a groups).position + groups.length ≤ ndimM a groups := by
  simp only [ndimM]; omega

theorem stage_single (hv : ValidArr a) (hok : GroupsOk groups a.ndim) {j : Nat} (hj : j < groups.length)
    (hm : multiB groups (groups.length - (j + 1)) = false) :
    (∀ sb, KM a groups sb (j + 1) = KM a groups sb j)
    ∧ (∀ sb ∈ a.blocks, SM a groups sb (j + 1) = SM a groups sb j)
    ∧ (∀ sb ∈ a.blocks, ∀ offs, inBox sb.2.shape offs = true → IM a groups sb offs (j + 1) = IM a groups sb offs j)
    ∧ idxStage a groups (j + 1) = idxStage a groups j := by
  have hg : groups.length - (j + 1) < groups.length := by omega
  obtain ⟨ax, _, hgd, hc, hd, hs0, hix⟩ := singleM (a := a) hok.adm hg hm
  refine ⟨?_, ?_, ?_, ?_⟩
  · intro sb
    apply partG_single (0, 0) hj (by rw [planM_newSector_length hok.adm]; exact ndimM_ge)
    have := hc sb
    simp only [cM] at this
    simp only [this, segS, hgd, List.map_cons, List.map_nil]
  · intro sb hsb
    apply partG_single 0 hj (by rw [BshM_length]; exact ndimM_ge)
    rw [BshM_getD sb (by simp only [ndimM]; omega), axMulti_mid hg, hm]
    have := hd sb
    simp only [dM] at this
    simp only [Bool.false_eq_true, if_false, this, segSh, hgd, List.map_cons, List.map_nil]
  · intro sb hsb offs ho
    apply partG_single 0 hj (by rw [joinI_length]; exact ndimM_ge)
    rw [joinI_mid sb offs hg]
    simp only [segO, hgd, hs0 sb, Nat.zero_add, List.map_cons, List.map_nil, ravel_single]
  · apply partG_single default hj (by rw [newIdxM_length hok.adm]; exact ndimM_ge)
    have := hix
    simp only [ixM] at this
    simp only [this, segIx, hgd, List.map_cons, List.map_nil]

end Multi

end FuseP
end SymmModel
