/-
  SymmModel.Proofs.Dense4b — unfusing at the level of addresses (property C08, Props/C08d).
  `y = unfuse(x, axis)`: every stored entry of `x` is a stored entry of `y` at the address with the
  fused coordinate split by the fused index's own table (`splitAddr`), and every stored entry of
  `y` is one of `x` (`unfuse_addr_fwd`, `unfuse_addr_bwd`); `Arr.dense_relocate` carries both to
  the dense forms (`C08.unfuse_toDense`).
-/
import SymmModel.Proofs.Dense4a

namespace SymmModel
namespace Dense4
open FuseP Arr

variable {R : Type}

theorem split_at {α : Type} (l : List α) (d : α) {p : Nat} (hp : p < l.length) :
    l = l.take p ++ [l.getD p d] ++ l.drop (p + 1) := by
  rw [List.append_assoc, List.singleton_append, List.getD_eq_getElem?_getD,
    List.getElem?_eq_getElem hp, Option.getD_some, List.getElem_cons_drop, List.take_append_drop]

theorem rws_take {α : Type} (l seq : List α) {p : Nat} (hp : p ≤ l.length) :
    (replaceWithSeq l p seq).take p = l.take p := by
  rw [replaceWithSeq, List.append_assoc, List.take_left' (by simp [hp])]

theorem rws_mid {α : Type} (l seq : List α) {p : Nat} (hp : p ≤ l.length) :
    ((replaceWithSeq l p seq).drop p).take seq.length = seq := by
  rw [replaceWithSeq, List.append_assoc, List.drop_left' (by simp [hp]), List.take_left' rfl]

theorem rws_drop {α : Type} (l seq : List α) {p : Nat} (hp : p ≤ l.length) :
    (replaceWithSeq l p seq).drop (p + seq.length) = l.drop (p + 1) := by
  rw [replaceWithSeq, List.drop_left' (by simp [hp])]

theorem rws_of_parts {α : Type} (J : List α) (p m : Nat) (x : α) (hJ : p + m ≤ J.length) :
    J = replaceWithSeq (J.take p ++ [x] ++ J.drop (p + m)) p ((J.drop p).take m) := by
  have hl : (J.take p).length = p := by simp; omega
  have h1 : (J.take p ++ [x] ++ J.drop (p + m)).take p = J.take p := by
    rw [List.append_assoc, List.take_left' hl]
  have h2 : (J.take p ++ [x] ++ J.drop (p + m)).drop (p + 1) = J.drop (p + m) :=
    List.drop_left' (by simp [hl])
  rw [replaceWithSeq, h1, h2, List.append_assoc, ← List.drop_drop, List.take_append_drop,
    List.take_append_drop]

theorem inBox_rws {shape shp i so : List Nat} {p : Nat} (hi : inBox shape i = true)
    (hso : inBox shp so = true) :
    inBox (replaceWithSeq shape p shp) (replaceWithSeq i p so) = true := by
  have hl := inBox_length hi
  rw [replaceWithSeq, replaceWithSeq, inBox_append (by simp [hl, inBox_length hso]),
    inBox_append (by simp [hl])]
  simp [inBox_take hi p, inBox_drop hi (p + 1), hso]

theorem inBox_rws_parts {shape shp J : List Nat} {p : Nat} (hp : p < shape.length)
    (hJ : inBox (replaceWithSeq shape p shp) J = true) :
    inBox (shape.take p) (J.take p) = true ∧ inBox shp ((J.drop p).take shp.length) = true
      ∧ inBox (shape.drop (p + 1)) (J.drop (p + shp.length)) = true
      ∧ p + shp.length ≤ J.length := by
  have hJl : J.length = p + shp.length + (shape.length - (p + 1)) := by
    rw [inBox_length hJ, replaceWithSeq]
    simp only [List.length_append, List.length_take, List.length_drop]
    omega
  have hJsplit : J = J.take p ++ (J.drop p).take shp.length ++ J.drop (p + shp.length) := by
    rw [List.append_assoc, ← List.drop_drop, List.take_append_drop, List.take_append_drop]
  have htl : (J.take p).length = (shape.take p).length := by
    simp only [List.length_take]; omega
  have hsl : ((J.drop p).take shp.length).length = shp.length := by
    simp only [List.length_take, List.length_drop]; omega
  rw [hJsplit, replaceWithSeq,
    inBox_append (by rw [List.length_append, htl, hsl, List.length_append]), inBox_append htl] at hJ
  simp only [Bool.and_eq_true] at hJ
  exact ⟨hJ.1.1, hJ.1.2, hJ.2, by omega⟩

theorem inBox_of_parts {shape J : List Nat} {p m o : Nat} (hp : p < shape.length)
    (ha : inBox (shape.take p) (J.take p) = true) (ho : o < shape.getD p 0)
    (hc : inBox (shape.drop (p + 1)) (J.drop (p + m)) = true) :
    inBox shape (J.take p ++ [o] ++ J.drop (p + m)) = true
      ∧ (J.take p ++ [o] ++ J.drop (p + m)).getD p 0 = o := by
  have htl := inBox_length ha
  have hpl : (J.take p).length = p := by rw [htl, List.length_take]; omega
  constructor
  · rw [split_at shape 0 hp, inBox_append (by simp [htl]), inBox_append htl, ha, hc]
    simpa [inBox] using ho
  · rw [List.append_assoc, List.getD_eq_getElem?_getD, List.getElem?_append_right (Nat.le_of_eq hpl),
      hpl]
    simp

theorem splitAddr_unpack {sym : Sym} {ix : Index} (hw : Index.wfB sym ix = true) {subs : List Index}
    {exts : Extents} (hsub : ix.sub = some (subs, exts)) {c : Charge} {o : Nat} {ss : Sector}
    {so : List Nat} (h : splitAddr ix c o = some (ss, so)) :
    ∃ e st d shp r D, alookup exts c = some e ∧ FuseP.startOf e ss = some (st, d)
      ∧ Arr.blockShape? subs ss = some shp ∧ prod shp = d ∧ r < d ∧ o = st + r
      ∧ so = unravel shp r ∧ alookup ix.cm c = some D ∧ st + d ≤ D := by
  unfold splitAddr at h
  rw [hsub] at h
  simp only at h
  cases he : alookup exts c with
  | none => simp [he] at h
  | some e =>
    simp only [he] at h
    cases hso : splitOffset e o with
    | none => simp [hso] at h
    | some sr =>
      obtain ⟨ss', r⟩ := sr
      simp only [hso] at h
      cases hb : Arr.blockShape? subs ss' with
      | none => simp [hb] at h
      | some shp =>
        simp only [hb, Option.some.injEq, Prod.mk.injEq] at h
        obtain ⟨rfl, rfl⟩ := h
        obtain ⟨D, hD, hext⟩ := wfB_extent hw hsub he
        obtain ⟨st, d, hst, hr, hio⟩ := splitOffset_startOf hext.nodup hso
        obtain ⟨_, ⟨shp', hb', hprod⟩, _⟩ := hext.entry ss' d (startOf_mem hst)
        rw [hb] at hb'; injection hb' with hb'; subst hb'
        have hbd := startOf_bound hst
        rw [hext.total] at hbd
        exact ⟨e, st, d, shp, r, D, rfl, hst, hb, hprod, hr, hio, rfl, hD, hbd⟩

/-- the address relation of one unfuse call -/
def URel (ix : Index) (axis : Nat) (ns : Sector) (i : List Nat) (K : Sector) (J : List Nat) : Prop :=
  ∃ ss so, splitAddr ix (ns.getD axis (0, 0)) (i.getD axis 0) = some (ss, so)
    ∧ K = replaceWithSeq ns axis ss ∧ J = replaceWithSeq i axis so

section UnfuseAddr
variable [Zero R] [Neg R] {x y : Arr R} {axis : Nat} {ix : Index} {subs : List Index} {exts : Extents}

omit [Neg R] in
theorem _root_.SymmModel.Arr.DenseOk.unfuseA (hv : x.validB = true) (hf : x.fermi = false)
    (hix : x.indices[axis]? = some ix) (hsub : ix.sub = some (subs, exts))
    (hy : unfuseA x axis = .ok y) (hney : y.indices.any (fun ix => ix.cm.isEmpty) = false) :
    DenseOk y := by
  obtain ⟨y', hy', U⟩ := unfuseU (validArr_of_validB hv) hix hsub
  rw [hy] at hy'; injection hy' with hy'; subst hy'
  exact .of_validB (ValidP.unfuseA_validB x y axis hv hf hy) (by rw [U.fermi]; exact hf) hney

theorem unfuse_addr_fwd (hva : ValidArr x) (hix : x.indices[axis]? = some ix)
    (hsub : ix.sub = some (subs, exts)) (hX : DenseOk x) (hY : DenseOk y)
    (hy : unfuseA x axis = .ok y) {ns : Sector} {i : List Nat} (hst : StoredAt x ns i) :
    ∃ K J, StoredAt y K J ∧ URel ix axis ns i K J ∧ y.elem K J = x.elem ns i := by
  obtain ⟨y', hy', U⟩ := unfuseU hva hix hsub
  rw [hy] at hy'; injection hy' with hy'; subst hy'
  obtain ⟨B, hB0, hi⟩ := hst
  have hmem : (ns, B) ∈ x.blocks := alookup_some_mem hB0
  have hwix : Index.wfB x.sym ix = true := hva.idx ix (getElem?_mem' hix)
  have hax : axis < x.indices.length := getElem?_lt hix
  have hbs := hX.shapes.2 ns B hB0
  have hBl : B.shape.length = x.indices.length := Arr.blockShape?_shape_length hbs
  have hnl : ns.length = x.indices.length := (hva.blk (ns, B) hmem).1
  have hil : i.length = x.indices.length := by rw [inBox_length hi, hBl]
  have hnsd : ns[axis]? = some (ns.getD axis (0, 0)) := by
    rw [List.getD_eq_getElem?_getD, List.getElem?_eq_getElem (hnl ▸ hax), Option.getD_some]
  obtain ⟨D0, hD0, hcm⟩ := blockShape?_getElem hbs hix hnsd
  have hio : i.getD axis 0 < D0 := by
    have := (inBox_iff.1 hi).2 axis (by rw [hBl]; exact hax)
    rw [List.getD_eq_getElem?_getD (l := B.shape), hD0] at this
    exact this
  obtain ⟨ss, so, hsp⟩ := splitAddr_total hwix (subs := subs) (exts := exts) hsub
    (c := ns.getD axis (0, 0)) hcm hio
  obtain ⟨e, st, d, shp, r, D, he, hst, hb, hprod, hr, hor, hso, _, _⟩ :=
    splitAddr_unpack hwix hsub hsp
  obtain ⟨subshape, e1, e2, e3, e4⟩ := U.piece (ns, B) hmem e ss st d he hst
  rw [hb] at e1; injection e1 with e1; subst e1
  have hsobox : inBox shp so = true := by rw [hso]; exact unravel_inBox (by rw [hprod]; exact hr)
  have hsol : so.length = shp.length := inBox_length hsobox
  have hJ : inBox (replaceWithSeq B.shape axis shp) (replaceWithSeq i axis so) = true :=
    inBox_rws hi hsobox
  have hval := e4 _ hJ
  simp only at hval
  have hale : axis ≤ i.length := by rw [hil]; omega
  rw [rws_take i so hale, ← hsol, rws_mid i so hale, rws_drop i so hale] at hval
  have hrav : ravel shp so = r := by rw [hso]; exact ravel_unravel (by rw [hprod]; exact hr)
  rw [hrav, ← hor, ← split_at i 0 (by rw [hil]; exact hax)] at hval
  exact ⟨_, _, ⟨_, e3, hJ⟩, ⟨ss, so, hsp, rfl, rfl⟩, by rw [hY.elem_eq e3, hX.elem_eq hB0]; exact hval⟩

theorem unfuse_addr_bwd (hva : ValidArr x) (hix : x.indices[axis]? = some ix)
    (hsub : ix.sub = some (subs, exts)) (hX : DenseOk x) (hY : DenseOk y)
    (hndx : (x.blocks.map (·.1)).Nodup)
    (hy : unfuseA x axis = .ok y) {K : Sector} {J : List Nat} (hst : StoredAt y K J) :
    ∃ ns i, StoredAt x ns i ∧ URel ix axis ns i K J ∧ x.elem ns i = y.elem K J := by
  obtain ⟨y', hy', U⟩ := unfuseU hva hix hsub
  rw [hy] at hy'; injection hy' with hy'; subst hy'
  obtain ⟨V, hV, hJ0⟩ := hst
  have hwix : Index.wfB x.sym ix = true := hva.idx ix (getElem?_mem' hix)
  have hax : axis < x.indices.length := getElem?_lt hix
  obtain ⟨⟨ns, B⟩, hmem, e, ss, st, d, he, hst, hK, _⟩ := U.only K V hV
  simp only at he hK
  obtain ⟨shp, e1, e2, e3, e4⟩ := U.piece (ns, B) hmem e ss st d he hst
  simp only at e3 e4
  rw [← hK, hV] at e3
  injection e3 with e3
  subst e3
  have hJ : inBox (replaceWithSeq B.shape axis shp) J = true := hJ0
  have hval := e4 J hJ
  have hB0 : alookup x.blocks ns = some B := alookup_of_mem_nodup hndx hmem
  have hbs := hX.shapes.2 ns B hB0
  have hBl : B.shape.length = x.indices.length := Arr.blockShape?_shape_length hbs
  have hnl : ns.length = x.indices.length := (hva.blk (ns, B) hmem).1
  have haxB : axis < B.shape.length := by rw [hBl]; exact hax
  obtain ⟨hJa, hseg, hJc, hJle⟩ := inBox_rws_parts haxB hJ
  have hr := ravel_lt hseg
  rw [e2] at hr
  have hnsd : ns[axis]? = some (ns.getD axis (0, 0)) := by
    rw [List.getD_eq_getElem?_getD, List.getElem?_eq_getElem (hnl ▸ hax), Option.getD_some]
  obtain ⟨D0, hD0, hcm⟩ := blockShape?_getElem hbs hix hnsd
  obtain ⟨D, hD, hext⟩ := wfB_extent hwix hsub he
  rw [hcm] at hD
  injection hD with hD
  subst hD
  have hbd := startOf_bound hst
  rw [hext.total] at hbd
  let o := st + ravel shp ((J.drop axis).take shp.length)
  let i := J.take axis ++ [o] ++ J.drop (axis + shp.length)
  obtain ⟨hibox, hio⟩ : inBox B.shape i = true ∧ i.getD axis 0 = o :=
    inBox_of_parts haxB hJa (by
      rw [List.getD_eq_getElem?_getD, hD0, Option.getD_some]
      show st + ravel shp ((J.drop axis).take shp.length) < D0
      omega) hJc
  have hja : joinAddr ix (ns.getD axis (0, 0)) ss ((J.drop axis).take shp.length) = some o := by
    simp only [joinAddr, hsub, he, e1, hseg, if_true, joinOffset, hst, hr]
    rfl
  refine ⟨ns, i, ⟨B, hB0, hibox⟩, ⟨ss, (J.drop axis).take shp.length,
    by rw [hio]; exact splitAddr_joinAddr hja, hK, rws_of_parts J axis shp.length o hJle⟩, ?_⟩
  rw [hX.elem_eq hB0, hY.elem_eq hV]; exact hval.symm

end UnfuseAddr

end Dense4
end SymmModel
