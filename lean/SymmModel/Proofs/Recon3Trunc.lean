/-
  SymmModel.Proofs.Recon3Trunc — the factors of `svd` / `svd_truncated`, for every `absorb` option,
  are an aligned `Recon3P.Pair`; what a caller contracts through `tensordot` (`svdTensordot`); the
  entries of the product of absorbed blocks (`absorbed_fold`).
-/
import SymmModel.Proofs.Recon2Modes

namespace SymmModel
namespace Recon3P
set_option linter.unusedSectionVars false
open LinalgLemmas ReconP Recon2P TdotP GradedP RoutesP OddposP
open Lazy (sgnI phOf)

variable {R : Type}

theorem valid_withBlocks {a : Arr R} (hv : a.validB = true) {α : Type} (l : List α)
    (key : α → Sector) (f g : α → Blk R) (ha : a.blocks = l.map (fun p => (key p, f p)))
    (hg : ∀ p ∈ l, (g p).shape = (f p).shape ∧ (g p).wf = true) :
    ({ a with blocks := l.map (fun p => (key p, g p)) } : Arr R).validB = true := by
  obtain ⟨h1, h2, h3, h4, h5⟩ := (validB_iff a).mp hv
  refine (validB_iff _).mpr ⟨h1, h2, ?_, ?_, ?_⟩
  · have : ({ a with blocks := l.map (fun p => (key p, g p)) } : Arr R).sectors = a.sectors := by
      simp [Arr.sectors, ha, List.map_map, Function.comp_def]
    rw [this]; exact h3
  · intro s b' hm
    obtain ⟨p, hp, e⟩ := List.mem_map.mp hm
    have e1 := (Prod.mk.inj e).1; have e2 := (Prod.mk.inj e).2
    subst e1 e2
    obtain ⟨g1, g2, g3, _⟩ := h4 (key p) (f p) (by rw [ha]; exact List.mem_map.mpr ⟨p, hp, rfl⟩)
    refine ⟨g1, ?_, ?_, (hg p hp).2⟩
    · rw [← g2]; exact isValidSector_congr rfl rfl rfl _
    · rw [(hg p hp).1]; exact g3
  · rw [← h5]; exact fermiOk_congr rfl rfl rfl rfl rfl rfl

theorem Pair.absorb [Zero R] [Mul R] {x : Arr R} {α : Type} {l : List α} {sec : α → Sector}
    {ub sb vb : α → Blk R} {dims : α → Nat × Nat × Nat} {u : Arr R} {sv : BVec R} {vh : Arr R}
    (P : Pair x l sec ub vb dims u vh) (A : Aligned l sec ub sb vb u sv vh)
    (mode : Absorb) (sqrtK : Blk R → Blk R) :
    Pair x l sec (fun p => absU mode sqrtK (ub p) (sb p)) (fun p => absV mode sqrtK (vb p) (sb p))
      dims (absorbA mode sqrtK u sv vh).1 (absorbA mode sqrtK u sv vh).2 := by
  rw [absorbA_eq A mode sqrtK]
  have hwf : ∀ {a : Arr R} (_ : a.validB = true) {s : Sector} {b : Blk R}, (s, b) ∈ a.blocks →
      b.wf = true := fun hva _ _ hm => Arr.validB_block_wf hva hm
  have hwfU : ∀ p ∈ l, (absU mode sqrtK (ub p) (sb p)).wf = true := fun p hp => by
    cases mode with
    | left => exact ofFn_wf _ _
    | right => exact hwf P.left.v (by rw [A.hu]; exact List.mem_map.mpr ⟨p, hp, rfl⟩)
    | both => exact ofFn_wf _ _
  have hwfV : ∀ p ∈ l, (absV mode sqrtK (vb p) (sb p)).wf = true := fun p hp => by
    cases mode with
    | left => exact hwf P.right.v (by rw [A.hv]; exact List.mem_map.mpr ⟨p, hp, rfl⟩)
    | right => exact ofFn_wf _ _
    | both => exact ofFn_wf _ _
  exact ⟨⟨valid_withBlocks P.left.v l sec ub _ A.hu (fun p hp => ⟨absU_shape _ _ _ _, hwfU p hp⟩),
      P.left.f, P.left.sym, P.left.ch, P.left.od, P.left.idx, rfl, P.left.hin, P.left.hsec,
      fun p hp => by rw [absU_shape]; exact P.left.hsh p hp⟩,
    ⟨valid_withBlocks P.right.v l (fun p => diagOf (sec p)) vb _ A.hv
        (fun p hp => ⟨absV_shape _ _ _ _, hwfV p hp⟩),
      P.right.f, P.right.sym, P.right.od, P.right.idx, rfl, P.right.hin, P.right.hsec,
      fun p hp => by rw [absV_shape]; exact P.right.hsh p hp⟩,
    P.ro.withBlocks _, P.pa, P.idx⟩

/-- what the caller contracts, through `tensordot`, for the four values of `absorb` -/
def svdTensordot [Zero R] [Add R] [Mul R] [Neg R] (mode : Option Absorb) (tm : TdotMode)
    (sqrtK : Blk R → Blk R) (u : Arr R) (sv : BVec R) (vh : Arr R) : Except Err (Arr R) :=
  match mode with
  | none => (multiplyDiagonal u sv 1).tensordotF vh (.pair [1] [0]) tm
  | some m => (absorbA m sqrtK u sv vh).1.tensordotF (absorbA m sqrtK u sv vh).2 (.pair [1] [0]) tm

theorem svdTensordot_eq [Zero R] [Add R] [Mul R] [Neg R] {α : Type} {l : List α}
    {sec : α → Sector} {ub sb vb : α → Blk R} {u : Arr R} {sv : BVec R} {vh : Arr R}
    (A : Aligned l sec ub sb vb u sv vh) (sqrtK : Blk R → Blk R) (mode : Option Absorb)
    (tm : TdotMode) :
    svdTensordot mode tm sqrtK u sv vh
      = (absorbA (modeOf mode) sqrtK u sv vh).1.tensordotF (absorbA (modeOf mode) sqrtK u sv vh).2
          (.pair [1] [0]) tm := by
  cases mode with
  | none =>
    show (multiplyDiagonal u sv 1).tensordotF vh _ _ = _
    simp only [modeOf]
    rw [absorb_left_eq A sqrtK]
  | some m => rfl

theorem withCm_cm (i : Index) (c : List (Charge × Nat)) : (i.withCm c).cm = Index.sortCm c := by
  cases i; rfl

section inst
variable [Zero R] [Mul R] {K : Kernels R} {x : Arr R}

theorem svd_pair (hK : K.ShapeOk) (hv : x.validB = true) (h2 : x.ndim = 2) (hf : x.fermi = true)
    (mode : Absorb) (sqrtK : Blk R → Blk R) :
    Pair x x.blocks (fun p => p.1)
      (fun p => absU mode sqrtK (K.svd p.2).1 (K.svd p.2).2.1)
      (fun p => absV mode sqrtK (K.svd p.2).2.2 (K.svd p.2).2.1)
      (fun p => (p.2.shape.getD 0 0, min (p.2.shape.getD 0 0) (p.2.shape.getD 1 0), p.2.shape.getD 1 0))
      (absorbA mode sqrtK (leftF x (fun b => (K.svd b).1))
        ⟨x.blocks.map (fun p => (colOf p.1, (K.svd p.2).2.1))⟩
        (rightF x (fun b => (K.svd b).1) (fun b => (K.svd b).2.2))).1
      (absorbA mode sqrtK (leftF x (fun b => (K.svd b).1))
        ⟨x.blocks.map (fun p => (colOf p.1, (K.svd p.2).2.1))⟩
        (rightF x (fun b => (K.svd b).1) (fun b => (K.svd b).2.2))).2 :=
  (factors_pair hv h2 hf (C11.facShape_svd hK)).absorb (aligned_svd (K := K) hv h2) mode sqrtK

omit [Mul R] in
theorem kept_sectors_nodup (hv : x.validB = true) (hlen : counts.length = x.blocks.length) :
    ((kept x counts).map (fun t => t.1.1)).Nodup := by
  have hsub : ((kept x counts).map (fun t => t.1.1)).Sublist
      ((x.blocks.zip counts).map (fun t => t.1.1)) := List.filter_sublist.map _
  have e : (x.blocks.zip counts).map (fun t => t.1.1) = x.sectors := by
    have : (x.blocks.zip counts).map (fun t => t.1.1)
        = ((x.blocks.zip counts).map (·.1)).map (·.1) := by rw [List.map_map]; rfl
    rw [this, tri_map_fst hlen]; rfl
  rw [e] at hsub
  exact (Arr.validB_nodup hv).sublist hsub

omit [Mul R] in
/-- the truncated factors `u'`, `vh'` of `svd_truncated` (closed form `truncU`, `truncV` of
    `applyCounts`), for any shape-correct block maps, are an aligned pair over the kept items -/
theorem truncFactors_pair {L Rt : Blk R → Blk R} (hv : x.validB = true) (h2 : x.ndim = 2)
    (hf : x.fermi = true) (hL : FacShape L Rt) {counts : List Nat}
    (hlen : counts.length = x.blocks.length) :
    Pair x (kept x counts) (fun t => t.1.1)
      (fun t => (L t.1.2).sliceK [0, 0] [(L t.1.2).shape.getD 0 0, t.2])
      (fun t => (Rt t.1.2).sliceK [0, 0] [t.2, (Rt t.1.2).shape.getD 1 0])
      (fun t => ((L t.1.2).shape.getD 0 0, t.2, (Rt t.1.2).shape.getD 1 0))
      (truncU x L counts) (truncV x L Rt counts) := by
  obtain ⟨i0, i1, hi⟩ := ndim_two h2
  have hi1 : x.indices.getD 1 default = i1 := by simp [hi]
  have hin : ∀ t ∈ kept x counts, t.1.1 ∈ x.sectors :=
    fun t ht => List.mem_map.mpr ⟨t.1, (kept_mem hlen ht).1, rfl⟩
  obtain ⟨f1, f2, f3, f4, f5, f6⟩ := rightF_fields (x := x) (L := L) (Rt := Rt)
  exact ⟨⟨truncU_valid hv h2 hi hL hlen, hf, rfl, rfl, rfl, ⟨_, rfl⟩, rfl, hin,
      kept_sectors_nodup hv hlen, fun _ _ => rfl⟩,
    ⟨truncV_valid hv h2 hi hL hlen, f2.trans hf, f1, f6, ⟨_, rfl⟩, rfl, hin,
      kept_sectors_nodup hv hlen, fun _ _ => rfl⟩,
    truncV_rightOf hv h2 hf _ _ counts, rfl,
    ⟨_, _, rfl, rfl, by rw [withCm_cm, withCm_cm], by rw [withCm_dual, bondIx_eq hi, hi1]; rfl⟩⟩

theorem trunc_pair (hK : K.ShapeOk) (hv : x.validB = true) (h2 : x.ndim = 2) (hf : x.fermi = true)
    {counts : List Nat} (hlen : counts.length = x.blocks.length)
    (mode : Absorb) (sqrtK : Blk R → Blk R) :
    Pair x (kept x counts) (fun t => t.1.1)
      (fun t => absU mode sqrtK
        (((K.svd t.1.2).1).sliceK [0, 0] [((K.svd t.1.2).1).shape.getD 0 0, t.2])
        (((K.svd t.1.2).2.1).sliceK [0] [t.2]))
      (fun t => absV mode sqrtK
        (((K.svd t.1.2).2.2).sliceK [0, 0] [t.2, ((K.svd t.1.2).2.2).shape.getD 1 0])
        (((K.svd t.1.2).2.1).sliceK [0] [t.2]))
      (fun t => (((K.svd t.1.2).1).shape.getD 0 0, t.2, ((K.svd t.1.2).2.2).shape.getD 1 0))
      (absorbA mode sqrtK (truncU x (fun b => (K.svd b).1) counts)
        (truncS x (fun b => (K.svd b).2.1) counts)
        (truncV x (fun b => (K.svd b).1) (fun b => (K.svd b).2.2) counts)).1
      (absorbA mode sqrtK (truncU x (fun b => (K.svd b).1) counts)
        (truncS x (fun b => (K.svd b).2.1) counts)
        (truncV x (fun b => (K.svd b).1) (fun b => (K.svd b).2.2) counts)).2 :=
  (truncFactors_pair hv h2 hf (C11.facShape_svd hK) hlen).absorb
    (aligned_trunc (K := K) hv h2 hlen) mode sqrtK

end inst

theorem signRing_of_ring [Ring R] : SignRing R :=
  ⟨neg_neg, neg_zero, fun x y => by rw [neg_add], neg_mul, mul_neg⟩

theorem absorbed_fold [CommRing R] (mode : Absorb) (sqrtK : Blk R → Blk R) {ub sb vb : Blk R}
    {m k n : Nat} (hsh : ItemShape ub sb vb m k n)
    (hsq : mode = .both → (sqrtK sb).shape = [k]
      ∧ ∀ t, t < k → (sqrtK sb).get [t] * (sqrtK sb).get [t] = sb.get [t])
    {i j : Nat} (hi : i < m) (hj : j < n) :
    (List.range k).foldl (fun acc t =>
        acc + (absU mode sqrtK ub sb).get [i, t] * (absV mode sqrtK vb sb).get [t, j]) 0
      = (List.range k).foldl (fun acc t => acc + (ub.get [i, t] * sb.get [t]) * vb.get [t, j]) 0 := by
  rw [← absorbed_entry mode sqrtK hsh hsq hi hj,
    tensordotK_matmul_get _ _ (by rw [absU_shape]; exact hsh.1) (by rw [absV_shape]; exact hsh.2.2) hi hj]

end Recon3P
end SymmModel
