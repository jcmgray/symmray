/-
  SymmModel.Proofs.Reshape7b — `reshape` to the current shape, fused axes allowed: the planner returns
  the empty plan if and only if no fused axis has sub-sizes equal to the window of the shape that
  starts at its own position (`selfWin = false`); otherwise it unfuses (known finding
  reshape-fused-window-match).
-/
import SymmModel.Proofs.Reshape7a
namespace SymmModel.Reshape5
open SymmModel SymmModel.Reshape SymmModel.C07

/-- some fused axis carries sub-sizes equal to the window of the shape starting at that axis -/
def selfWin : List Nat → List (Option (List Nat)) → Bool
  | [], _ => false
  | _ :: _, [] => false
  | d :: sh, some subs :: ss => beqNats subs ((d :: sh).take subs.length) || selfWin sh ss
  | _ :: sh, none :: ss => selfWin sh ss

theorem selfWin_false_iff : ∀ (rest : List Nat) (rs : List (Option (List Nat))) (pre : List Nat),
    rest.length = rs.length →
    (selfWin rest rs = false ↔
      ∀ j sub, rs[j]? = some sub → unfuseMatch (pre ++ rest) (pre.length + j) sub = none) := by
  intro rest
  induction rest with
  | nil =>
    intro rs pre hl
    have : rs = [] := List.length_eq_zero_iff.mp hl.symm
    subst this
    simp [selfWin]
  | cons d rest ih =>
    intro rs pre hl
    cases rs with
    | nil => simp at hl
    | cons sub0 rs =>
      have hl' : rest.length = rs.length := by simpa using hl
      have hih := ih rs (pre ++ [d]) hl'
      have hshift : ∀ j sub, unfuseMatch (pre ++ d :: rest) (pre.length + (j + 1)) sub
          = unfuseMatch ((pre ++ [d]) ++ rest) ((pre ++ [d]).length + j) sub := by
        intro j sub
        simp [Nat.add_assoc, Nat.add_comm 1 j]
      have hdrop : (pre ++ d :: rest).drop pre.length = d :: rest := by rw [List.drop_left' rfl]
      constructor
      · intro hw j sub hj
        cases j with
        | zero =>
          simp only [List.getElem?_cons_zero, Option.some.injEq] at hj
          subst hj
          cases sub0 with
          | none => rfl
          | some subs =>
            simp only [selfWin, Bool.or_eq_false_iff] at hw
            simp only [unfuseMatch, Nat.add_zero, hdrop, hw.1]
            rfl
        | succ j =>
          simp only [List.getElem?_cons_succ] at hj
          rw [hshift]
          refine hih.mp ?_ j sub hj
          cases sub0 with
          | none => simpa [selfWin] using hw
          | some subs =>
            simp only [selfWin, Bool.or_eq_false_iff] at hw
            exact hw.2
      · intro h
        have hrest : selfWin rest rs = false := by
          refine hih.mpr ?_
          intro j sub hj
          rw [← hshift]
          exact h (j + 1) sub (by simpa using hj)
        cases sub0 with
        | none => simpa [selfWin] using hrest
        | some subs =>
          simp only [selfWin, Bool.or_eq_false_iff]
          refine ⟨?_, hrest⟩
          have h0 := h 0 (some subs) (by simp)
          simp only [unfuseMatch, Nat.add_zero, hdrop] at h0
          cases hb : beqNats subs ((d :: rest).take subs.length) with
          | false => rfl
          | true => rw [hb] at h0; simp at h0

theorem selfshape_plan_empty (shape : List Nat) (subsizes : List (Option (List Nat)))
    (hlen : shape.length = subsizes.length) (hw : selfWin shape subsizes = false) :
    calcReshapeArgs shape shape subsizes = .ok ([], [], []) :=
  planner_keeps shape subsizes hlen.symm fun j sub hj => by
    simpa using (selfWin_false_iff shape subsizes [] hlen).mp hw j sub hj

theorem mainLoop_us_mono (shape newshape : List Nat) (subsizes : List (Option (List Nat))) :
    ∀ (fuel : Nat) (st st' : RState), st.unfuseSizes ≠ [] →
      mainLoop shape newshape subsizes fuel st = .ok st' → st'.unfuseSizes ≠ [] := by
  intro fuel st st' h0 h
  refine (mainLoop_induct (P := fun st => st.unfuseSizes ≠ []) ?_ fuel st st' h0 h).1
  intro st st1 _ _ _ _ hround h0
  rcases hround.sizes.1 with hus | ⟨s, hus⟩
  · rw [hus]; exact h0
  · rw [hus]; simp

theorem mainLoop_selfwin (shape : List Nat) (subsizes : List (Option (List Nat))) :
    ∀ (rest : List Nat) (rs : List (Option (List Nat))) (pre : List Nat) (ps : List (Option (List Nat)))
      (fuel k : Nat) (term : List Lbl) (sq us fs ex : List Nat) (a1 a2 : Bool) (st' : RState),
      shape = pre ++ rest → subsizes = ps ++ rs → ps.length = pre.length →
      selfWin rest rs = true →
      mainLoop shape shape subsizes fuel ⟨pre.length, pre.length, k, term, sq, us, fs, ex, a1, a2⟩ = .ok st' →
      st'.unfuseSizes ≠ [] ∨ rest.length > fuel := by
  intro rest
  induction rest with
  | nil => intro rs pre ps fuel k term sq us fs ex a1 a2 st' _ _ _ hw _; simp [selfWin] at hw
  | cons d rest ih =>
    intro rs pre ps fuel k term sq us fs ex a1 a2 st' hs hss hpl hw h
    cases fuel with
    | zero => right; simp
    | succ f =>
    cases rs with
    | nil => simp [selfWin] at hw
    | cons sub rs =>
      have g1 : shape[pre.length]? = some d := by rw [hs]; exact Reshape3.getElem?_append_cons _ _ _
      have g3 : subsizes[pre.length]? = some sub := by rw [hss, ← hpl]; exact Reshape3.getElem?_append_cons _ _ _
      have hdrop : shape.drop pre.length = d :: rest := by rw [hs, List.drop_left' rfl]
      have hi : pre.length < shape.length := (List.getElem?_eq_some_iff.mp g1).1
      rw [mainLoop_succ] at h
      simp only [g1, g3] at h
      cases hR : roundF shape shape (unfuseMatch shape pre.length sub) d d
          ⟨pre.length, pre.length, k, term, sq, us, fs, ex, a1, a2⟩ with
      | error e => rw [hR] at h; cases h
      | ok st1 =>
      rw [hR] at h
      have hround := (roundF_ok_iff (st := ⟨pre.length, pre.length, k, term, sq, us, fs, ex, a1, a2⟩)
        (sub := sub) hi).mp hR
      cases hm : unfuseMatch shape pre.length sub with
      | some subs =>
        rw [hm] at hround
        cases hround
        exact Or.inl (mainLoop_us_mono _ _ _ _ _ _ (by simp) h)
      | none =>
        rw [hm] at hround
        obtain rfl : st1 = ⟨pre.length + 1, pre.length + 1, k + 1, term ++ [Lbl.o], sq, us, fs, ex, a1, a2⟩ := by
          cases hround with
          | keep _ => rfl
          | squeeze hne _ => exact absurd rfl hne
          | expand hne _ _ => exact absurd rfl hne
          | fuse _ _ hlt _ _ _ => omega
        have hw' : selfWin rest rs = true := by
          cases sub with
          | none => simpa [selfWin] using hw
          | some subs =>
            simp only [selfWin, Bool.or_eq_true] at hw
            rcases hw with hw | hw
            · simp only [unfuseMatch, hdrop, hw, if_true] at hm; cases hm
            · exact hw
        have := ih rs (pre ++ [d]) (ps ++ [sub]) f (k + 1) (term ++ [Lbl.o]) sq us fs ex a1 a2 st'
          (by simp [hs]) (by simp [hss]) (by simp [hpl]) hw'
          (by simpa [List.length_append] using h)
        rcases this with h1 | h1
        · exact Or.inl h1
        · right; simp; omega

theorem unfusePhase_len : ∀ (us : List Nat) (k : Nat) (term : List Lbl) (axs : List Nat) (r : List Lbl × List Nat),
    unfusePhase us k term axs = .ok r → r.2.length = axs.length + us.length := by
  intro us
  induction us with
  | nil => intro k term axs r h; simp only [unfusePhase, pure, Except.pure] at h; injection h with h; subst h; simp
  | cons s us ih =>
    intro k term axs r h
    simp only [unfusePhase] at h
    split at h
    · cases h
    · rw [ih _ _ _ _ h]; simp; omega

/-- a plan has as many unfuse steps as the first loop has counted -/
theorem plan_unfuses_of_loop {shape newshape : List Nat} {subsizes : List (Option (List Nat))}
    {t : List Nat × List (List (List Nat)) × List Nat} (h : calcReshapeArgs shape newshape subsizes = .ok t)
    (hloop : ∀ st, mainLoop shape newshape subsizes (shape.length + newshape.length) {} = .ok st →
      st.unfuseSizes ≠ []) : t.1 ≠ [] := by
  unfold calcReshapeArgs at h
  split at h
  · cases h
  · rename_i st hst
    have hus' := hloop st hst
    simp only [] at h
    split at h
    · cases h
    · rename_i term2 axsU hu
      have hl := unfusePhase_len _ _ _ _ _ hu
      simp only [List.length_nil, Nat.zero_add] at hl
      split at h
      · cases h
      · split at h
        · cases h
        · simp only [pure, Except.pure] at h
          injection h with h
          rw [← h]
          intro hc
          simp only at hc
          rw [hc] at hl
          exact hus' (List.length_eq_zero_iff.mp hl.symm)

theorem selfshape_plan_unfuses (shape : List Nat) (subsizes : List (Option (List Nat)))
    (hw : selfWin shape subsizes = true) (t : List Nat × List (List (List Nat)) × List Nat)
    (h : calcReshapeArgs shape shape subsizes = .ok t) : t.1 ≠ [] := by
  refine plan_unfuses_of_loop h fun st hst => ?_
  have e0 : ({} : RState) = ⟨0, 0, 0, [], [], [], [], [], false, false⟩ := rfl
  rw [e0] at hst
  rcases mainLoop_selfwin shape subsizes shape subsizes [] [] _ 0 [] [] [] [] [] false false st rfl rfl
    rfl hw hst with h1 | h1
  · exact h1
  · omega

end SymmModel.Reshape5
