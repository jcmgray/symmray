/-
  SymmModel.Proofs.NormNet14 — network form of the norm (property C10), part 14:
  the four sequential bracketings without the guard `netFullB` (S7 under the weak guard), from a
  `NetSetup`.
-/
import SymmModel.Proofs.NormNet13
namespace SymmModel.NormNet
open SymmModel SymmModel.Lazy SymmModel.Norm SymmModel.TdotP SymmModel.GradedP SymmModel.RoutesP
open SymmModel.AssocP

section routes
variable {R : Type} [AddCommMonoid R] [Mul R] [Neg R] [Conj R] [NetLaws R] [AssocLaws R]

theorem sequential_of_setup {a b K Kb r r' : Arr R} {xa xb : List Nat}
    (ha : a.validB = true) (hb : b.validB = true) (hfa : a.fermi = true) (hfb : b.fermi = true)
    (hadm : ValidP.tdotAdmissibleB a b xa xb = true) (S : NetSetup a b K Kb r r' xa xb) :
    (∃ T c, Kb.tensordotF a (.pair ((List.range (freeAxes a.ndim xa).length).map Int.ofNat)
          ((freeAxes a.ndim xa).map Int.ofNat)) .blockwise = .ok T
      ∧ T.tensordotF b (.pair ((axesTW a.ndim b.ndim xa xb).map Int.ofNat)
          ((freeAxes b.ndim xb ++ xb).map Int.ofNat)) .blockwise = .ok c
      ∧ c.ndim = 0 ∧ c.oddpos = [] ∧ c.elem [] [] = normSq K)
    ∧ (∃ T c, (braOf b xb).tensordotF K (.pair ((freeAxes b.ndim xb).map Int.ofNat)
          (((List.range (freeAxes b.ndim xb).length).map ((freeAxes a.ndim xa).length + ·)).map
            Int.ofNat)) .blockwise = .ok T
      ∧ (braOf a xa).tensordotF T (.pair ((xa ++ freeAxes a.ndim xa).map Int.ofNat)
          ((axesTWr a.ndim b.ndim xa xb).map Int.ofNat)) .blockwise = .ok c
      ∧ c.ndim = 0 ∧ c.oddpos = [] ∧ c.elem [] [] = normSq K)
    ∧ (∃ T c, K.tensordotF (braOf a xa) (.pair ((List.range (freeAxes a.ndim xa).length).map Int.ofNat)
          ((freeAxes a.ndim xa).map Int.ofNat)) .blockwise = .ok T
      ∧ T.tensordotF (braOf b xb) (.pair ((axesTW a.ndim b.ndim xa xb).map Int.ofNat)
          ((freeAxes b.ndim xb ++ xb).map Int.ofNat)) .blockwise = .ok c
      ∧ c.ndim = 0 ∧ c.oddpos = [] ∧ c.elem [] [] = normSq' K)
    ∧ (∃ T c, b.tensordotF Kb (.pair ((freeAxes b.ndim xb).map Int.ofNat)
          (((List.range (freeAxes b.ndim xb).length).map ((freeAxes a.ndim xa).length + ·)).map
            Int.ofNat)) .blockwise = .ok T
      ∧ a.tensordotF T (.pair ((xa ++ freeAxes a.ndim xa).map Int.ofNat)
          ((axesTWr a.ndim b.ndim xa xb).map Int.ofNat)) .blockwise = .ok c
      ∧ c.ndim = 0 ∧ c.oddpos = [] ∧ c.elem [] [] = normSq' K) := by
  have h := Adm.of ha hb hfa hfb hadm
  have hB := braOf_adm h
  obtain ⟨S0, hK0⟩ := tdot_indices_pruned h S.eK
  have hXi : Kb.indices
      = (dropUnused (without a.indices xa ++ without b.indices xb) S0).map Index.conj := by
    rw [S.Kbi, hK0]
  have hKi : K.indices = (dropUnused (without (braOf a xa).indices xa
      ++ without (braOf b xb).indices xb) S0).map Index.conj := by
    rw [braOf_without, dropUnused_conj, Lazy.Index.map_conj_conj, hK0]
  have hrK : K.tensordotF Kb (allAxes Kb.ndim) .blockwise = .ok r' := by rw [S.nd]; exact S.hr'
  have hrKb : Kb.tensordotF K (allAxes Kb.ndim) .blockwise = .ok r := by rw [S.nd]; exact S.hr
  refine ⟨?_, ?_, ?_, ?_⟩
  · obtain ⟨T, c, e1, e2, q1, q2, q3⟩ := tw_left_w a b Kb K r xa xb S0 ha hb S.Kbv hfa hfb S.Kbf hadm
      S.eK S.Kbs hXi S.nd.symm (by rw [S.Kbp, S.Kbo]; exact S.lrS1) S.hr
    exact ⟨T, c, e1, e2, ndim0_of q1 S.r0.1, q2.trans S.r0.2.1, q3.trans S.r0.2.2⟩
  · obtain ⟨T, c, e1, e2, q1, q2, q3⟩ := tw_right_w (braOf a xa) (braOf b xb) K Kb r xa xb S0 hB.va
      hB.vb S.Kv hB.fa hB.fb S.Kf (admB_of_adm hB) S.eKb (S.Ks.trans (braOf_sym a xa).symm) hKi
      S.nd
      (by rw [braOf_parity, braOf_parity, braOf_oddpos a xa,
        braOf_oddpos b xb]; exact S.lrS2) hrKb
    simp only [braOf_ndim] at e1 e2
    exact ⟨T, c, e1, e2, ndim0_of q1 S.r0.1, q2.trans S.r0.2.1, q3.trans S.r0.2.2⟩
  · obtain ⟨T, c, e1, e2, q1, q2, q3⟩ := tw_left_w (braOf a xa) (braOf b xb) K Kb r' xa xb S0 hB.va
      hB.vb S.Kv hB.fa hB.fb S.Kf (admB_of_adm hB) S.eKb (S.Ks.trans (braOf_sym a xa).symm) hKi
      S.nd
      (by rw [S.Kp, braOf_parity, braOf_oddpos a xa,
        braOf_oddpos b xb]; exact S.lrS3) hrK
    simp only [braOf_ndim] at e1 e2
    exact ⟨T, c, e1, e2, ndim0_of q1 S.r0'.1, q2.trans S.r0'.2.1, q3.trans S.r0'.2.2⟩
  · obtain ⟨T, c, e1, e2, q1, q2, q3⟩ := tw_right_w a b Kb K r' xa xb S0 ha hb S.Kbv hfa hfb S.Kbf hadm
      S.eK S.Kbs hXi S.nd.symm (by rw [S.Kbo]; exact S.lrS4) S.hr'
    exact ⟨T, c, e1, e2, ndim0_of q1 S.r0'.1, q2.trans S.r0'.2.1, q3.trans S.r0'.2.2⟩

end routes

end SymmModel.NormNet
