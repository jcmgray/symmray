/-
  SymmModel.Proofs.FuseAddr — the address map of a fused index in
  certificate form.  `splitAddr`/`joinAddr` read only the index's own table
  (`ix.sub = (sub-indices, extents)`); they are mutually inverse for every well-formed index,
  independently of how the table was produced.
-/
import SymmModel.Proofs.FuseSpec
namespace SymmModel
namespace FuseP

/-- (fused charge, offset) ↦ (sub-charges, sub-offsets): find the sub-sector whose cumulative
    range contains the offset, subtract its start, `unravel` over the sub-sizes -/
def splitAddr (ix : Index) (c : Charge) (o : Nat) : Option (Sector × List Nat) :=
  match ix.sub with
  | none => none
  | some (subs, exts) =>
    match alookup exts c with
    | none => none
    | some ext =>
      match splitOffset ext o with
      | none => none
      | some (ss, r) =>
        match Arr.blockShape? subs ss with
        | none => none
        | some shp => some (ss, unravel shp r)

/-- (sub-charges, sub-offsets) ↦ offset inside the fused charge `c` -/
def joinAddr (ix : Index) (c : Charge) (ss : Sector) (offs : List Nat) : Option Nat :=
  match ix.sub with
  | none => none
  | some (subs, exts) =>
    match alookup exts c with
    | none => none
    | some ext =>
      match Arr.blockShape? subs ss with
      | none => none
      | some shp => if inBox shp offs then joinOffset ext ss (ravel shp offs) else none

/-- the clauses of `extentOk`, as propositions -/
structure ExtentOk (sym : Sym) (dual : Bool) (subs : List Index) (c : Charge) (d : Nat) (ext : Extent) :
    Prop where
  total : sumN (ext.map (·.2)) = d
  nodup : (ext.map (·.1)).Nodup
  entry : ∀ ss sz, (ss, sz) ∈ ext → ss.length = subs.length
    ∧ (∃ shp, Arr.blockShape? subs ss = some shp ∧ prod shp = sz)
    ∧ sym.combine (List.zipWith (fun c' (sub : Index) => sym.sign c' (dual != sub.dual)) ss subs) = c

theorem extentOk_iff {sym : Sym} {dual : Bool} {subs : List Index} {c : Charge} {d : Nat} {ext : Extent} :
    extentOk sym dual subs c d ext = true ↔ ExtentOk sym dual subs c d ext := by
  simp only [extentOk, Bool.and_eq_true, beq_iff_eq, List.all_eq_true, allDistinct_iff_nodup]
  constructor
  · rintro ⟨⟨h1, h2⟩, h3⟩
    refine ⟨h1, h2, ?_⟩
    intro ss sz hm
    have := h3 (ss, sz) hm
    simp only at this
    refine ⟨this.1.1, ?_, this.2⟩
    cases hb : Arr.blockShape? subs ss with
    | none => rw [hb] at this; simp at this
    | some shp => rw [hb] at this; simp only [beq_iff_eq] at this; exact ⟨shp, rfl, this.1.2⟩
  · rintro ⟨h1, h2, h3⟩
    refine ⟨⟨h1, h2⟩, ?_⟩
    intro x hx
    obtain ⟨ss, sz⟩ := x
    obtain ⟨e1, ⟨shp, e2, e3⟩, e4⟩ := h3 ss sz hx
    simp [e1, e2, e3, e4]

theorem wfB_extent {sym : Sym} {ix : Index} (hw : Index.wfB sym ix = true) {subs : List Index}
    {exts : Extents} (hs : ix.sub = some (subs, exts)) {c : Charge} {ext : Extent}
    (he : alookup exts c = some ext) :
    ∃ d, alookup ix.cm c = some d ∧ ExtentOk sym ix.dual subs c d ext := by
  obtain ⟨_, _, h3, h4⟩ := Index.wfB_sub hw hs
  obtain ⟨d, hd⟩ := Option.isSome_iff_exists.mp (h4 (c, ext) (alookup_some_mem he))
  obtain ⟨ext', he', hok⟩ := h3 (c, d) (alookup_some_mem hd)
  rw [he] at he'
  cases he'
  exact ⟨d, hd, extentOk_iff.1 hok⟩

section Addr
variable {sym : Sym} {ix : Index} (hw : Index.wfB sym ix = true)
include hw

theorem joinAddr_splitAddr {c : Charge} {o : Nat} {ss : Sector} {offs : List Nat}
    (h : splitAddr ix c o = some (ss, offs)) :
    joinAddr ix c ss offs = some o
      ∧ ∃ subs exts shp, ix.sub = some (subs, exts) ∧ Arr.blockShape? subs ss = some shp
        ∧ inBox shp offs = true
        ∧ sym.combine (List.zipWith (fun c' (sub : Index) => sym.sign c' (ix.dual != sub.dual)) ss subs) = c := by
  unfold splitAddr at h
  cases hs : ix.sub with
  | none => simp [hs] at h
  | some se =>
    obtain ⟨subs, exts⟩ := se
    simp only [hs] at h
    cases he : alookup exts c with
    | none => simp [he] at h
    | some ext =>
      simp only [he] at h
      cases hso : splitOffset ext o with
      | none => simp [hso] at h
      | some q =>
        obtain ⟨ss', r⟩ := q
        simp only [hso] at h
        cases hb : Arr.blockShape? subs ss' with
        | none => simp [hb] at h
        | some shp =>
          simp only [hb, Option.some.injEq, Prod.mk.injEq] at h
          obtain ⟨rfl, rfl⟩ := h
          obtain ⟨d, _, hok⟩ := wfB_extent hw hs he
          obtain ⟨st, d', hst, hr, ho⟩ := splitOffset_startOf hok.nodup hso
          obtain ⟨_, ⟨shp', hb', hp⟩, hc⟩ := hok.entry _ _ (startOf_mem hst)
          rw [hb] at hb'; simp only [Option.some.injEq] at hb'; subst hb'
          have hr' : r < prod shp := by rw [hp]; exact hr
          refine ⟨?_, subs, exts, shp, rfl, hb, unravel_inBox hr', hc⟩
          simp only [joinAddr, hs, he, hb, unravel_inBox hr', if_true, ravel_unravel hr']
          exact joinOffset_splitOffset hok.nodup hso

theorem splitAddr_total {c : Charge} {D : Nat} {subs : List Index} {exts : Extents}
    (hs : ix.sub = some (subs, exts)) (hc : alookup ix.cm c = some D) {o : Nat} (ho : o < D) :
    ∃ ss offs, splitAddr ix c o = some (ss, offs) := by
  obtain ⟨_, _, h3, _⟩ := Index.wfB_sub hw hs
  obtain ⟨ext, he, h6⟩ := h3 (c, D) (alookup_some_mem hc)
  have hok := extentOk_iff.1 h6
  obtain ⟨ss, r, hso⟩ := splitOffset_some (ext := ext) (o := o) (by rw [hok.total]; exact ho)
  obtain ⟨st, d', hst, _, _⟩ := splitOffset_startOf hok.nodup hso
  obtain ⟨_, ⟨shp, hb, _⟩, _⟩ := hok.entry _ _ (startOf_mem hst)
  exact ⟨ss, unravel shp r, by simp [splitAddr, hs, he, hso, hb]⟩

end Addr

theorem splitAddr_joinAddr {ix : Index} {c : Charge} {ss : Sector} {offs : List Nat} {o : Nat}
    (h : joinAddr ix c ss offs = some o) : splitAddr ix c o = some (ss, offs) := by
  unfold joinAddr at h
  cases hs : ix.sub with
  | none => simp [hs] at h
  | some se =>
    obtain ⟨subs, exts⟩ := se
    simp only [hs] at h
    cases he : alookup exts c with
    | none => simp [he] at h
    | some ext =>
      simp only [he] at h
      cases hb : Arr.blockShape? subs ss with
      | none => simp [hb] at h
      | some shp =>
        simp only [hb] at h
        split at h
        · rename_i hbox
          simp only [splitAddr, hs, he, splitOffset_joinOffset h, hb, unravel_ravel hbox]
        · cases h

theorem joinAddr_inj {ix : Index} {c : Charge} {ss ss' : Sector} {offs offs' : List Nat} {o : Nat}
    (h : joinAddr ix c ss offs = some o) (h' : joinAddr ix c ss' offs' = some o) :
    ss = ss' ∧ offs = offs' := by
  have := splitAddr_joinAddr h
  rw [splitAddr_joinAddr h'] at this
  simp only [Option.some.injEq, Prod.mk.injEq] at this
  exact ⟨this.1.symm, this.2.symm⟩

end FuseP
end SymmModel
