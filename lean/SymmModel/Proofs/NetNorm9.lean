/-
  SymmModel.Proofs.NetNorm9 — network form of the norm (property C10):
  contraction calls in any mode (`blockwise`, `fused`, `auto`).  Fused / auto results are zero-padded
  copies (`TdotP.Pad`) of the blockwise ones with the same un-pruned table frame; here `frame_mono`
  (pruning an operand prunes the frame of the result) and the statement `Chain3M` for the three-tensor
  chain.
-/
import SymmModel.Proofs.NetNorm8
namespace SymmModel.NormNet
open SymmModel SymmModel.Lazy SymmModel.Norm SymmModel.TdotP SymmModel.GradedP SymmModel.RoutesP
open SymmModel.AssocP

section frames
variable {R : Type}

theorem frame_mono {Z : Arr R} {F2 W Cc : List Index} (x2 : List Nat)
    (hZ : List.Forall₂ SizeLe Z.indices F2)
    (hW : List.Forall₂ SizeLe W (without Z.indices x2 ++ Cc)) :
    List.Forall₂ SizeLe W (without F2 x2 ++ Cc) := by
  refine forall₂_trans (r := SizeLe) (fun _ _ _ => SizeLe.trans) hW
    (forall₂_append ?_ (forall₂_refl SizeLe.refl Cc))
  rw [without_eq_permuted_freeAxes, without_eq_permuted_freeAxes, hZ.length_eq]
  exact forall₂_permuted hZ _

end frames

section chainM
variable {R : Type} [AddCommMonoid R] [Mul R] [Neg R] [Conj R] [NetLaws R]

/-- the conclusion of `C10.network_norm_chain3_any_mode`: `K3` the blockwise `(a·b)·c` (reference for `normSq`) -/
def Chain3M (a b c : Arr R) (xa xb1 xb2 xc : List Nat) (md : Nat → TdotMode) : Prop :=
  ∃ K2 K3 K2m Kb2m K3m Kb3m,
    a.tensordotF b (.pair (xa.map Int.ofNat) (xb1.map Int.ofNat)) .blockwise = .ok K2
    ∧ K2.tensordotF c (.pair ((AssocP.axesAB a.ndim b.ndim xa xb1 xb2).map Int.ofNat)
        (xc.map Int.ofNat)) .blockwise = .ok K3
    ∧ a.tensordotF b (.pair (xa.map Int.ofNat) (xb1.map Int.ofNat)) (md 0) = .ok K2m
    ∧ (braOf a xa).tensordotF (braOf b (xb1 ++ xb2))
        (.pair (xa.map Int.ofNat) (xb1.map Int.ofNat)) (md 1) = .ok Kb2m
    ∧ K2m.tensordotF c (.pair ((AssocP.axesAB a.ndim b.ndim xa xb1 xb2).map Int.ofNat)
        (xc.map Int.ofNat)) (md 2) = .ok K3m
    ∧ Kb2m.tensordotF (braOf c xc) (.pair ((AssocP.axesAB a.ndim b.ndim xa xb1 xb2).map Int.ofNat)
        (xc.map Int.ofNat)) (md 3) = .ok Kb3m
    ∧ (∃ r, Kb3m.tensordotF K3m (allAxes K3.ndim) (md 4) = .ok r
        ∧ r.ndim = 0 ∧ r.oddpos = [] ∧ r.elem [] [] = normSq K3)
    ∧ (∃ r, K3m.tensordotF Kb3m (allAxes K3.ndim) (md 5) = .ok r
        ∧ r.ndim = 0 ∧ r.oddpos = [] ∧ r.elem [] [] = normSq' K3)

end chainM

end SymmModel.NormNet
