/-
  SymmModel.Proofs.Fuse8Region — an address of the fused block chooses the sub-sectors of a stored
  sector exactly when it lies in the region the insert strategy writes that sector to; the in-piece
  address is then the address relative to the region.
-/
import SymmModel.Proofs.Fuse8Link
namespace SymmModel
namespace FuseP
set_option linter.unusedSectionVars false

variable {R : Type} [Zero R]

section
variable {a : Arr R} {groups : List (List Nat)}

theorem getD_map_fst (qs : List (Sector × Nat)) (g : Nat) :
    (qs.map (·.1)).getD g [] = (qs.getD g ([], 0)).1 := by
  simp only [List.getD_eq_getElem?_getD, List.getElem?_map]
  cases qs[g]? <;> rfl

theorem subsectors_length (sb : Sector × Blk R) : (planM a groups sb).subsectors.length = groups.length := by
  simp only [planM, planOf, List.getD_eq_getElem?_getD, List.map_map, List.append_assoc, List.length_map,
    List.length_zipIdx]

theorem region_link (hv : ValidArr a) (hok : GroupsAdm groups a.ndim) {sb : Sector × Blk R} (hsb : sb ∈ a.blocks)
    {i : List Nat} (hi : inBox (BshM a groups sb) i = true) :
    (decQ (lvFrom a groups (planM a groups sb).newSector 0 groups.length) i).length = groups.length
    ∧ ((inRegion (startsM a groups sb) (planM a groups sb).newShape i = true
        ↔ (planM a groups sb).subsectors
            = (decQ (lvFrom a groups (planM a groups sb).newSector 0 groups.length) i).map (·.1)))
    ∧ (inRegion (startsM a groups sb) (planM a groups sb).newShape i = true →
        List.zipWith (· - ·) i (startsM a groups sb)
          = decOff (lvFrom a groups (planM a groups sb).newSector 0 groups.length) i) := by
  -- `dec_spec` says what `decQ` / `decOff` return level by level: on a multi-axis group the extent entry whose range
  -- contains the coordinate and the offset inside it (`locatePiece`), on a single-axis group the charge itself.
  -- `hgroup` compares this, one multi-axis group at a time, with the range `[stM, stM + dM)` of `sb`'s own sub-sector
  -- (both are read off the same duplicate-free extent: `startOf_splitOffset`, `splitOffset_startOf`); `hsingle`:
  -- single-axis groups always agree.  The region of `sb` is the product of these ranges (`regionM`), which gives
  -- the equivalence; the offsets agree axis by axis.
  have hib := inBox_iff.1 hi
  rw [BshM_length] at hib
  have hN : ndimM a groups = (giM a groups).position + groups.length + (giM a groups).axesAfter.length := rfl
  have hget : ∀ t, t < groups.length → (lvFrom a groups (planM a groups sb).newSector 0 groups.length)[t]?
      = some (lvlM a groups (planM a groups sb).newSector t) := by
    intro t ht; rw [lvFrom_getElem?, if_pos ht, Nat.zero_add]
  obtain ⟨m1, m2, m3, m3', m4⟩ := dec_spec (lvFrom a groups (planM a groups sb).newSector 0 groups.length) i
    (lvDistinct_lvFrom _ _ _) (by
      intro ax e h
      obtain ⟨t, ht, hl⟩ := mem_lvFrom h
      obtain ⟨hm, rfl, rfl⟩ := lvlM_multi hl.symm
      rw [Nat.zero_add] at hm ⊢
      obtain ⟨gaxes, hgx, hlen⟩ := multiB_iff.1 hm
      rw [(ext_facts hv hok hgx hlen hsb).2.2.1]
      have := hib.2 ((giM a groups).position + t) (by omega)
      rw [BshM_getD sb (by omega), axMulti_mid ht, hm] at this
      exact ⟨by rw [hib.1]; omega,
        by simpa only [List.getD_eq_getElem?_getD, gt_iff_lt, ↓reduceIte, Nat.add_sub_cancel_left] using this⟩)
  rw [lvFrom_length] at m1
  have hgroup : ∀ g, g < groups.length → multiB groups g = true →
      ((stM a groups sb g ≤ i.getD ((giM a groups).position + g) 0
          ∧ i.getD ((giM a groups).position + g) 0 < stM a groups sb g + dM (a := a) (groups := groups) sb g)
        ↔ ssM (a := a) (groups := groups) sb g
            = ((decQ (lvFrom a groups (planM a groups sb).newSector 0 groups.length) i).getD g ([], 0)).1)
      ∧ (ssM (a := a) (groups := groups) sb g
            = ((decQ (lvFrom a groups (planM a groups sb).newSector 0 groups.length) i).getD g ([], 0)).1 →
          (decOff (lvFrom a groups (planM a groups sb).newSector 0 groups.length) i).getD
              ((giM a groups).position + g) 0
            = i.getD ((giM a groups).position + g) 0 - stM a groups sb g) := by
    intro g hg hm
    obtain ⟨gaxes, hgx, hlen⟩ := multiB_iff.1 hm
    obtain ⟨hnd, hst, _, _⟩ := ext_facts hv hok hgx hlen hsb
    obtain ⟨k, o, q, hloc, hq, hdq, hdo⟩ := m3 g _ _ (by rw [hget g hg, lvlM, if_pos hm])
    obtain ⟨ss, d, hk, hsplit⟩ := locatePiece_splitOffset hloc
    rw [hq] at hk
    simp only [Option.some.injEq] at hk
    obtain ⟨st, d', hst', hod, hp⟩ := splitOffset_startOf hnd hsplit
    rw [hdq, hdo, hk]
    refine ⟨⟨fun hr => ?_, fun hs => ?_⟩, fun hs => ?_⟩
    · have h2 := startOf_splitOffset hst (r := i.getD ((giM a groups).position + g) 0 - stM a groups sb g) (by omega)
      rw [show stM a groups sb g + (i.getD ((giM a groups).position + g) 0 - stM a groups sb g)
          = i.getD ((giM a groups).position + g) 0 by omega, hsplit] at h2
      simp only [Option.some.injEq, Prod.mk.injEq] at h2
      exact h2.1.symm
    · simp only at hs
      rw [← hs, hst] at hst'
      simp only [Option.some.injEq, Prod.mk.injEq] at hst'
      omega
    · simp only at hs
      rw [← hs, hst] at hst'
      simp only [Option.some.injEq, Prod.mk.injEq] at hst'
      omega
  have hsingle : ∀ g, g < groups.length → multiB groups g = false →
      ssM (a := a) (groups := groups) sb g
        = ((decQ (lvFrom a groups (planM a groups sb).newSector 0 groups.length) i).getD g ([], 0)).1 := by
    intro g hg hm
    rw [m3' g _ (by rw [hget g hg, lvlM, if_neg (by simp [hm])])]
    have hgg : groups[g]? = some groups[g] := List.getElem?_eq_getElem hg
    have hlen : groups[g].length = 1 := by
      by_contra h
      have := multiB_iff.2 ⟨_, hgg, h⟩
      rw [hm] at this; cases this
    rw [ssM_eq hgg]
    have hc := cM_single (a := a) hok hgg hlen sb
    have hc' : (planM a groups sb).newSector.getD ((giM a groups).position + g) (0, 0)
        = sb.1.getD (groups[g].headD 0) (0, 0) := hc
    rw [hc']
    match hgx : groups[g], hlen with
    | [ax], _ => rfl
  have hkey : (planM a groups sb).subsectors
        = (decQ (lvFrom a groups (planM a groups sb).newSector 0 groups.length) i).map (·.1)
      ↔ ∀ g, g < groups.length → multiB groups g = true →
          ssM (a := a) (groups := groups) sb g
            = ((decQ (lvFrom a groups (planM a groups sb).newSector 0 groups.length) i).getD g ([], 0)).1 := by
    constructor
    · intro h g _ _
      simp only [ssM]
      rw [h, getD_map_fst]
    · intro h
      apply list_ext_getD [] (by rw [subsectors_length, List.length_map, m1])
      intro g hg
      rw [subsectors_length] at hg
      rw [getD_map_fst]
      cases hm : multiB groups g with
      | true => exact h g hg hm
      | false => exact hsingle g hg hm
  refine ⟨m1, ?_, ?_⟩
  · rw [regionM hok sb hi, hkey]
    constructor
    · intro h g hg hm; exact ((hgroup g hg hm).1).1 (h g hg hm)
    · intro h g hg hm; exact ((hgroup g hg hm).1).2 (h g hg hm)
  · intro hreg
    have hr := (regionM hok sb hi).1 hreg
    apply list_ext_getD 0
    · rw [List.length_zipWith, m2, hib.1]; simp [startsM]
    · intro ax hax
      rw [List.length_zipWith, hib.1] at hax
      have haxN : ax < ndimM a groups := by
        have : (startsM a groups sb).length = ndimM a groups := by simp [startsM]
        rw [this] at hax; omega
      rw [getD_zipWith_sub (by rw [hib.1]; simp [startsM]), startsM_getD sb haxN]
      by_cases hma : axMulti a groups ax = true
      · obtain ⟨g, hg, rfl, hm⟩ := axMulti_cases hma
        have hs := ((hgroup g hg hm).1).1 (hr g hg hm)
        rw [(hgroup g hg hm).2 hs]
        rfl
      · have hma' : axMulti a groups ax = false := by simpa using hma
        simp only [startM, hma', Bool.false_eq_true, if_false, Nat.sub_zero]
        symm
        apply m4
        intro e he
        obtain ⟨t, ht, hl⟩ := mem_lvFrom he
        obtain ⟨hmt, hEq, _⟩ := lvlM_multi hl.symm
        rw [Nat.zero_add] at hmt hEq
        rw [hEq, axMulti_mid ht, hmt] at hma'
        cases hma'

end

end FuseP
end SymmModel
