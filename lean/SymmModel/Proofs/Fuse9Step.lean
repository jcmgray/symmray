/-
  SymmModel.Proofs.Fuse9Step — one `unfuseF` step against `conjF`, on the value view:
  `unfuseF (conjF x) p` is `conjF (unfuseF x p)` times the flip over the legs of the unfused index
  whose direction differs from the index.
-/
import SymmModel.Proofs.Fuse9Sign
import SymmModel.Proofs.Fuse5Conj3
import SymmModel.Proofs.Fuse6Inst
import SymmModel.Props.C01
namespace SymmModel
namespace FuseP
set_option linter.unusedSectionVars false
open SymmModel.Lazy SymmModel.KoszulP SymmModel.LinalgLemmas

theorem flipSign_shift (sym : Sym) (axes : List Nat) {p : Nat} {A S X : Sector} (hA : A.length = p)
    (hax : ∀ t ∈ axes, t < S.length) :
    Lazy.flipSign sym (axes.map (fun t => p + t)) (A ++ S ++ X) = Lazy.flipSign sym axes S := by
  unfold Lazy.flipSign Lazy.flipOdd
  rw [List.filter_map, List.length_map]
  have : axes.filter ((fun ax => sym.parity ((A ++ S ++ X).getD ax (0, 0))) ∘ fun t => p + t)
      = axes.filter (fun ax => sym.parity (S.getD ax (0, 0))) := by
    apply List.filter_congr
    intro t ht
    simp only [Function.comp]
    rw [← hA, getD_mid A S X t (0, 0) (hax t ht)]
  rw [this]

theorem mismatchLegs_lt (ix : Index) (subs : List Index) : ∀ t ∈ mismatchLegs ix subs, t < subs.length := by
  intro t ht
  exact List.mem_range.1 (List.mem_filter.1 ht).1

theorem pm_sq {s : Int} (h : s = 1 ∨ s = -1) : s * s = 1 := by rcases h with rfl | rfl <;> rfl

section
variable {R : Type} [Zero R] [Neg R] [Conj R] [LawfulNegConj R]

theorem conjTotSign_default (a : Arr R) (s : Sector) :
    conjTotSign a true false s = (if conjGlob a true then -1 else 1) * koszul (s.map a.sym.parity) none := by
  simp only [conjTotSign, Int.reduceNeg, conjSign, Bool.false_and, Bool.false_eq_true, ↓reduceIte, Arr.parities,
    one_mul, ite_mul, neg_mul]

theorem conj_unfuse_step (x : Arr R) (hv : x.validB = true) (hf : x.fermi = true) {p : Nat} {ix : Index}
    {subs : List Index} {exts : Extents} (hix : x.indices[p]? = some ix) (hsub : ix.sub = some (subs, exts)) :
    ∃ u u', Arr.unfuseF x p = .ok u ∧ Arr.unfuseF x.conjF p = .ok u'
      ∧ u.validB = true ∧ u.fermi = true ∧ u'.validB = true ∧ u'.fermi = true
      ∧ u.indices = replaceWithSeq x.indices p subs
      ∧ u'.indices = u.conjF.indices ∧ u'.sym = u.conjF.sym ∧ u'.charge = u.conjF.charge
      ∧ u'.oddpos = u.conjF.oddpos
      ∧ ∀ K shp, Arr.blockShape? u'.indices K = some shp → ∀ J, inBox shp J = true →
          u'.elem K J = sgnI (Lazy.flipSign x.sym ((mismatchLegs ix subs).map (fun t => p + t)) K)
            (u.conjF.elem K J) := by
  have hfx := conjF_frame x true false
  have hvx' : x.conjF.validB = true := C01.conjF_valid x true false hv hf
  have hfx' : x.conjF.fermi = true := by rw [hfx.2.1]; exact hf
  have hix' : x.conjF.indices[p]? = some ix.conj := by rw [hfx.2.2.1, List.getElem?_map, hix]; rfl
  have hsub' := conj_sub ix hsub
  obtain ⟨u, hu, hui, huv⟩ := unfuseF_val x p ix subs exts hv hix hsub
  obtain ⟨u', hu', hui', huv'⟩ := unfuseF_val x.conjF p ix.conj (subs.map Index.conj) exts hvx' hix' hsub'
  obtain ⟨hVu, hfu⟩ := ValidP.unfuseF_valid' x u p ((ValidP.validB_iff x).1 hv) hf hu
  obtain ⟨hVu', hfu'⟩ := ValidP.unfuseF_valid' x.conjF u' p ((ValidP.validB_iff _).1 hvx') hfx' hu'
  obtain ⟨fu1, fu2, fu3⟩ := unfuseF_frame x p hv hix hsub hu
  obtain ⟨fu1', fu2', fu3'⟩ := unfuseF_frame x.conjF p hvx' hix' hsub' hu'
  have hvu : u.validB = true := (ValidP.validB_iff u).2 hVu
  have hfc := conjF_frame u true false
  have hidx : u'.indices = u.conjF.indices := by
    rw [hui', hfx.2.2.1, replaceWithSeq_map, hfc.2.2.1, hui]
  refine ⟨u, u', hu, hu', hvu, hfu, (ValidP.validB_iff u').2 hVu', hfu', hui, hidx,
    by rw [fu1', hfx.1, hfc.1, fu1], by rw [fu2', hfx.2.2.2.1, hfc.2.2.2.1, fu1, fu2],
    by rw [fu3', hfx.2.2.2.2.1, hfc.2.2.2.2.1, fu3], ?_⟩
  intro K shp hK J hJ
  have hp : p < x.indices.length := getElem?_lt hix
  have hKu : Arr.blockShape? u.indices K = some shp := by
    rw [hidx, hfc.2.2.1, ← Index.conjList_eq_map, blockShape?_conjList] at hK; exact hK
  obtain ⟨A, S, X, A', S', X', rfl, rfl, hA, hS, hA', hS'⟩ := box_parts hp (by rw [← hui]; exact hKu) hJ
  have hSc : S.length = (subs.map Index.conj).length := by rw [List.length_map]; exact hS
  have hSc' : S'.length = (subs.map Index.conj).length := by rw [List.length_map]; exact hS'
  rw [huv' _ shp hK _ hJ, unfVal_parts _ _ _ _ _ _ hA hSc hA' hSc',
    conjF_elem u true false (SignOk.of_valid hvu hfu), huv _ shp hKu _ hJ, unfVal_parts _ _ _ _ _ _ hA hS hA' hS',
    hfx.1, look_conj, cmb_conj]
  cases hl : look x.sym ix subs exts S with
  | none =>
    simp only
    rw [LawfulNegConj.conj_zero, sgnI_zero, sgnI_zero]
  | some q =>
    obtain ⟨st, sub⟩ := q
    simp only
    rw [conjF_elem x true false (SignOk.of_valid hv hf), sgnI_conj]
    have hs : unfuseSign x ix subs p (A ++ S ++ X) = segSign x.sym ix subs S := unfuseSign_seg x ix subs p hp hA hS
    have hs' : unfuseSign x.conjF ix.conj (subs.map Index.conj) p (A ++ S ++ X)
        = segSign x.sym ix.conj (subs.map Index.conj) S := by
      have := unfuseSign_seg x.conjF ix.conj (subs.map Index.conj) p
        (by rw [conjF_ndim]; exact hp) (X := X) hA hSc
      rw [this, hfx.1]
    have hglob : conjGlob u true = conjGlob x true := by
      simp only [conjGlob, fu1, fu2, fu3]
    rw [hs, hs', conjTotSign_default, conjTotSign_default, hglob, fu1]
    have hflip := flipSign_shift x.sym (mismatchLegs ix subs) (X := X) hA (by
      intro t ht; rw [hS]; exact mismatchLegs_lt ix subs t ht)
    rw [hflip]
    have h1 := conj_step_sign x.sym ix subs S
    have h2 := koszul_collapse x.sym ix subs A S X hS
    have pS := segSign_pm x.sym ix subs S
    have pS' := segSign_pm x.sym ix.conj (subs.map Index.conj) S
    have pK := koszul_pm ((A ++ S ++ X).map x.sym.parity) none
    have pKc := koszul_pm ((A ++ [cmb x.sym ix subs S] ++ X).map x.sym.parity) none
    have pF := Lazy.flipSign_pm x.sym (mismatchLegs ix subs) S
    have pG : (if conjGlob x true = true then (-1 : Int) else 1) = 1
        ∨ (if conjGlob x true = true then (-1 : Int) else 1) = -1 := by split <;> simp
    generalize segSign x.sym ix subs S = s at *
    generalize segSign x.sym ix.conj (subs.map Index.conj) S = s' at *
    generalize koszul ((A ++ S ++ X).map x.sym.parity) none = k at *
    generalize koszul ((A ++ [cmb x.sym ix subs S] ++ X).map x.sym.parity) none = kc at *
    generalize Lazy.flipSign x.sym (mismatchLegs ix subs) S = f at *
    generalize (if conjGlob x true = true then (-1 : Int) else 1) = g at *
    generalize revSign (S.map x.sym.parity) (List.range subs.length) = r at *
    generalize Conj.conj (x.elem (A ++ [cmb x.sym ix subs S] ++ X)
      (A' ++ [st + ravel sub S'] ++ X')) = e
    have pR : r = 1 ∨ r = -1 := by rw [← h2]; exact mul_pm pK pKc
    rw [← sgnI_mul pS' (mul_pm pG pKc), ← sgnI_mul (mul_pm pG pK) pS,
      ← sgnI_mul pF (mul_pm (mul_pm pG pK) pS)]
    congr 1
    have e1 : s' = s * (f * r) := by rw [← h1, ← Int.mul_assoc, pm_sq pS, Int.one_mul]
    have e2 : kc = k * r := by rw [← h2, ← Int.mul_assoc, pm_sq pK, Int.one_mul]
    have hr := pm_sq pR
    rw [e1, e2]
    calc s * (f * r) * (g * (k * r)) = (r * r) * (f * (g * k * s)) := by ring
      _ = f * (g * k * s) := by rw [hr, Int.one_mul]

end

end FuseP
end SymmModel
