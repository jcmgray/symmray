/-
  SymmModel.Proofs.ValidMore2Concat — `fuse` in concat mode returns a valid array (property C01).

  For a non-empty list of admissible groups the concat strategy returns the array of the insert
  strategy (`FuseP.fuseCore_concat_multi_eq`), whose validity is `fuseCore_insert_core`; with no
  groups the recursion of `_fuse_blocks_via_concat` has no fuel, so it succeeds only on an array
  without blocks.  Then the wrappers `fuseA_concat_valid` (empty groups included),
  `fuseF_concat_valid`.
-/
import SymmModel.Proofs.ValidFuseF
import SymmModel.Proofs.Fuse8Order

namespace SymmModel
namespace ValidP
open Sym

variable {R : Type}

namespace FC

theorem numGroups_eq (groups : List (List Nat)) (duals : List Bool) :
    (calcFuseGroupInfo groups duals).numGroups = groups.length := rfl

end FC

/-- with no groups the concat recursion has no fuel: it succeeds only when nothing is stored -/
theorem fuseConcat_nil_groups [Zero R] {idx : List Index} {blocks : List (Sector × Blk R)} {fi : FuseInfo}
    {nb : List (Sector × Blk R)} (hn : fi.gi.numGroups = 0) (h : fuseConcat idx blocks fi = .ok nb) :
    nb = [] := by
  unfold fuseConcat at h
  obtain ⟨grouped, _, h⟩ := bind_ok h
  cases grouped with
  | nil => simpa [List.mapM_nil, pure, Except.pure] using h.symm
  | cons x xs =>
    exfalso
    rw [List.mapM_cons] at h
    obtain ⟨y, hy, _⟩ := bind_ok h
    obtain ⟨ns, sub⟩ := x
    simp only [hn, recurseConcat, bind, Except.bind, throw, throwThe, MonadExceptOf.throw] at hy
    cases hy

theorem fuseCore_concat_core [Zero R] (a r : Arr R) (groups : List (List Nat)) (hv : Core a)
    (hadm : fuseAdmissibleB groups a.ndim = true)
    (h : fuseCore a groups .concat = .ok r) : Core r := by
  by_cases hne : groups = []
  · subst hne
    obtain ⟨fi, nb, hfi, hnb, rfl⟩ := fuseCore_ok h
    obtain ⟨_, _, hfieq⟩ := calcFuseBlockInfo_ok hfi
    have := fuseConcat_nil_groups (by rw [hfieq]; rfl) hnb
    subst this
    exact ⟨calcFuseBlockInfo_wf a [] fi hv hfi, hv.chg, List.nodup_nil,
      fun _ h => absurd h List.not_mem_nil⟩
  · have hva := FuseP.validArr_of_core hv
    have hok := groupsAdm_iff.1 hadm
    rw [FuseP.fuseCore_concat_multi_eq hva hok hne] at h
    cases h
    exact fuseCore_insert_core a _ groups hv hadm (FuseP.fuseCore_multi_eq hva hok)

theorem fuseCore_concat_valid [Zero R] (a r : Arr R) (groups : List (List Nat)) (hv : Valid a)
    (hf : a.fermi = false) (hadm : fuseAdmissibleB groups a.ndim = true)
    (h : fuseCore a groups .concat = .ok r) : Valid r := by
  obtain ⟨_, e2, _, e4, e5⟩ := fuseCore_fields h
  exact hv.of_abelian hf (fuseCore_concat_core a r groups hv.core hadm h) e2 e4 e5

/-- `AbelianArray.fuse(*axes_groups, expand_empty, mode="concat")` on an abelian array, empty
    groups included -/
theorem fuseA_concat_valid [Zero R] (a r : Arr R) (groups : List (List Nat)) (expandEmpty : Bool)
    (hv : Valid a) (hf : a.fermi = false) (hadm : fuseAdmissibleB groups a.ndim = true)
    (h : fuseA a groups .concat expandEmpty = .ok r) : Valid r :=
  fuseA_valid_of .concat (fun x r gs => fuseCore_concat_valid x r gs) a r groups expandEmpty
    hv hf hadm h

/-- `FermionicArray.fuse(*axes_groups, expand_empty, mode="concat")` -/
theorem fuseF_concat_valid [Zero R] [Neg R] (a r : Arr R) (groups : List (List Nat))
    (expandEmpty : Bool) (hv : Valid a) (hf : a.fermi = true)
    (hadm : fuseAdmissibleB groups a.ndim = true)
    (h : Arr.fuseF a groups .concat expandEmpty = .ok r) : Valid r :=
  fuseF_valid_of .concat (fun x r gs hx hg hr => fuseCore_concat_core x r gs hx hg hr)
    a r groups expandEmpty hv hf hadm h

/-! ## the hypotheses are satisfiable, and a zero block really is used -/

/-- a Z2 array with four indices, total charge 1, three of the eight sectors stored.  Fusing
    axes `0, 1`: the new charge `0` has the sub-sectors `(0,0)` and `(1,1)`; the new sector
    `(0,0,1)` only has the sub-block `(0,0)` and the new sector `(0,1,0)` only `(1,1)`, so each
    is completed by a zero block.  (With three indices and one fused pair the remaining charge is
    determined by the fused one, so no sub-block can be missing: rank 4 is the smallest case.) -/
def exConcat4 : Arr Int :=
  { sym := .Z2, fermi := false,
    indices := [.mk [((0, 0), 1), ((1, 0), 2)] false none, .mk [((0, 0), 2), ((1, 0), 1)] true none,
                .mk [((0, 0), 1), ((1, 0), 1)] false none, .mk [((0, 0), 2), ((1, 0), 1)] false none],
    charge := (1, 0),
    blocks := [([(0, 0), (0, 0), (0, 0), (1, 0)], ⟨[1, 2, 1, 1], #[1, 2]⟩),
               ([(1, 0), (1, 0), (1, 0), (0, 0)], ⟨[2, 1, 1, 2], #[3, 4, 5, 6]⟩),
               ([(0, 0), (1, 0), (0, 0), (0, 0)], ⟨[1, 1, 1, 2], #[7, 8]⟩)] }

example : exConcat4.validB = true ∧ exConcat4.fermi = false
    ∧ fuseAdmissibleB [[0, 1]] exConcat4.ndim = true ∧ fuseAdmissibleB [[0, 1], [2, 3]] exConcat4.ndim = true
    ∧ fuseAdmissibleB [[3, 0], [1]] exConcat4.ndim = true := by
  decide

/-- the result is valid, has the three new sectors, and the block of `(0,0,1)` is the stored
    `[1,2]` followed by two zeros -/
example : (match fuseCore exConcat4 [[0, 1]] .concat with
    | .ok r => r.validB && r.sectors == [[(0, 0), (0, 0), (1, 0)], [(0, 0), (1, 0), (0, 0)],
                                         [(1, 0), (0, 0), (0, 0)]]
        && (r.blocks.map (fun sb => (sb.2.shape, sb.2.data.toList)))
            == [([4, 1, 1], [1, 2, 0, 0]), ([4, 1, 2], [0, 0, 0, 0, 3, 4, 5, 6]), ([1, 1, 2], [7, 8])]
    | .error _ => false) = true := by decide +kernel

/-- two fused groups, and a fused group together with a singlet group -/
example : (match fuseCore exConcat4 [[0, 1], [2, 3]] .concat with
    | .ok r => r.validB && r.ndim == 2
    | .error _ => false) = true := by decide +kernel

example : (match fuseCore exConcat4 [[3, 0], [1]] .concat with
    | .ok r => r.validB && r.ndim == 3
    | .error _ => false) = true := by decide +kernel

/-- concat and insert mode agree on this array -/
example : (match fuseCore exConcat4 [[0, 1]] .concat, fuseCore exConcat4 [[0, 1]] .insert with
    | .ok r, .ok r' => r.sectors == r'.sectors
        && r.blocks.map (fun sb => (sb.2.shape, sb.2.data.toList))
            == r'.blocks.map (fun sb => (sb.2.shape, sb.2.data.toList))
    | _, _ => false) = true := by decide +kernel

/-- a rank-3 array (all four sectors stored), every group a singlet: the result is the leaf -/
example : (match fuseCore exArr3 [[1], [0]] .concat with
    | .ok r => r.validB && r.ndim == 3
    | .error _ => false) = true := by decide +kernel

example : (match fuseCore exArr3 [[0, 1]] .concat with
    | .ok r => r.validB && r.sectors == [[(0, 0), (1, 0)], [(1, 0), (0, 0)]]
    | .error _ => false) = true := by decide +kernel

/-- `AbelianArray.fuse` in concat mode with an empty group (continues with `expand_dims`) -/
example : fuseAdmissibleB [[1, 0], [], [3]] exConcat4.ndim = true
    ∧ (match fuseA exConcat4 [[1, 0], [], [3]] .concat true with
        | .ok r => r.validB && r.ndim == 4
        | .error _ => false) = true := by decide +kernel

/-- the same data as a fermionic array (odd parity, one odd-position label) -/
def exConcat4F : Arr Int := { exConcat4 with fermi := true, oddpos := [(0, false)] }

example : exConcat4F.validB = true ∧ exConcat4F.fermi = true
    ∧ fuseAdmissibleB [[1, 0], [], [3]] exConcat4F.ndim = true := by decide

example : (match Arr.fuseF exConcat4F [[1, 0], [], [3]] .concat true with
    | .ok r => r.validB && r.ndim == 4
    | .error _ => false) = true := by decide +kernel

example : (match Arr.fuseF exConcat4F [[0, 1], [2, 3]] .concat true with
    | .ok r => r.validB && r.ndim == 2
    | .error _ => false) = true := by decide +kernel

/-
  Remarks.
  * `fuseCore_concat_core`: on admissible groups the concat strategy builds the
    blocks of the insert strategy (`FuseP.insert_eq_concat_multi`, `FuseP.concatBlocksM_eq`); an extent
    is never empty, so `Blk.concatK [] _` is never evaluated, and a zero block of the right shape
    stands for every missing sub-block (`FuseP.zeroShape_ok`).
  * `fuseCore a [] .concat` is an error whenever `a` has a block (`recurseConcat` starts with fuel
    `0`), while insert mode returns a valid array; `fuseA` / `fuseF` never call `fuseCore` with an
    empty list, and Python's `_recurse_concat` fails there too, so this is not a discrepancy.
-/

end ValidP
end SymmModel
