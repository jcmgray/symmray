/-
  SymmModel.Proofs.Fuse4Round4 — the fermionic round trip, stage by stage: unfusing the groups of
  `fuseF a groups` with `unfuseF` (last group first) accumulates exactly the per-group factors of
  the fuse sign.
-/
import SymmModel.Proofs.Fuse4Round3
namespace SymmModel
namespace FuseP
set_option linter.unusedSectionVars false
open SymmModel.KoszulP SymmModel.Lazy

variable {R : Type} [Zero R] [Neg R] [LawfulNeg R]

def groupFactor (a : Arr R) (groups : List (List Nat)) (S : Sector) (gx : List Nat) : Int :=
  if dualSel a groups gx then groupSign a groups S gx else 1

/-- accumulated sign after the last `j` groups have been unfused -/
def tauF (a : Arr R) (groups : List (List Nat)) (S : Sector) : Nat → Int
  | 0 => 1
  | j + 1 => groupFactor a groups S ((newGroupsF groups a.duals).getD (groups.length - (j + 1)) []) * tauF a groups S j

theorem groupFactor_pm (a : Arr R) (groups : List (List Nat)) (S : Sector) (gx : List Nat) :
    groupFactor a groups S gx = 1 ∨ groupFactor a groups S gx = -1 := by
  unfold groupFactor
  split
  · exact groupSign_pm _ _ _ _
  · exact Or.inl rfl

theorem tauF_pm (a : Arr R) (groups : List (List Nat)) (S : Sector) (j : Nat) :
    tauF a groups S j = 1 ∨ tauF a groups S j = -1 := by
  induction j with
  | zero => exact Or.inl rfl
  | succ j ih => exact mul_pm (groupFactor_pm _ _ _ _) ih

theorem groupFactor_single (a : Arr R) (groups : List (List Nat)) (S : Sector) (ax : Nat) :
    groupFactor a groups S [ax] = 1 := by
  unfold groupFactor
  split
  · rename_i hd
    simp only [dualSel, List.headD_cons] at hd
    unfold groupSign
    have h1 : ([ax].filter (fun ax => !((a.transposeF (calcFuseGroupInfo groups a.duals).perm).indices.getD ax default).dual)) = [] := by
      rw [List.filter_cons]
      simp only [hd, Bool.not_true, Bool.false_eq_true, if_false, List.filter_nil]
    rw [h1, flipSign_nil, Int.one_mul]
    exact revSign_of_le_one (le_trans (List.length_filter_le _ _) (by simp))
  · rfl

theorem getD_map_dual (l : List Index) (x : Nat) :
    (l.map Index.dual).getD x false = (l.getD x default).dual :=
  getD_map Index.dual l x default

section Legs
variable {b : Arr R} {gs : List (List Nat)}

/-- after the last `j + 1` groups were unfused, the expanded sector carries on the legs of the group
    unfused last the charges of the stored sector on the axes of that group -/
theorem KM_new_legs (hok : GroupsOk gs b.ndim) {sb : Sector × Blk R} {j : Nat} (hj : j < gs.length)
    {gx : List Nat} (hgg : gs[gs.length - (j + 1)]? = some gx) :
    ∀ t, t < gx.length →
      (KM b gs sb (j + 1)).getD ((giM b gs).position + (gs.length - (j + 1)) + t) (0, 0)
        = sb.1.getD (gx.getD t 0) (0, 0) := by
  intro t ht
  have hgd : gs.getD (gs.length - (j + 1)) [] = gx := by
    simp only [List.getD_eq_getElem?_getD, hgg, Option.getD_some]
  simp only [KM]
  rw [partG_succ_parts hj (by rw [planM_newSector_length hok.adm]; exact ndimM_ge)]
  have hl : ((planM b gs sb).newSector.take ((giM b gs).position + (gs.length - (j + 1)))).length
      = (giM b gs).position + (gs.length - (j + 1)) := by
    rw [List.length_take, planM_newSector_length hok.adm]
    have := ndimM_ge (a := b) (groups := gs)
    omega
  have := getD_mid ((planM b gs sb).newSector.take ((giM b gs).position + (gs.length - (j + 1))))
    (segS gs sb (gs.length - (j + 1)))
    (tailG (planM b gs sb).newSector (segS gs sb) (giM b gs).position gs.length j) t (0, 0)
    (by simp only [segS, hgd, List.length_map]; exact ht)
  rw [hl] at this
  rw [this]
  simp only [segS, hgd]
  simp only [List.getD_eq_getElem?_getD, List.getElem?_map, List.getElem?_eq_getElem ht, Option.map_some,
    Option.getD_some]

/-- the sign of one `unfuseF` step of the round trip over an operand `b` with groups `gs`, in the
    per-group form: flip of the group's non-dual legs times the reversal sign of its odd charges, read
    on the stored sector, when the group's first leg is dual; `1` otherwise -/
theorem unfuseSign_stage (hok : GroupsOk gs b.ndim) {sb : Sector × Blk R} {j : Nat} (hj : j < gs.length)
    (hm : multiB gs (gs.length - (j + 1)) = true) {Z : Arr R} (hZs : Z.sym = b.sym)
    (hZn : (giM b gs).position + (gs.length - (j + 1)) < Z.ndim) {gx : List Nat}
    (hgd : gs.getD (gs.length - (j + 1)) [] = gx) :
    unfuseSign Z (ixM b gs (gs.length - (j + 1))) (segIx b gs (gs.length - (j + 1)))
        ((giM b gs).position + (gs.length - (j + 1))) (KM b gs sb (j + 1))
      = if (b.indices.getD (gx.headD 0) default).dual
        then flipSign b.sym (gx.filter (fun ax => !(b.indices.getD ax default).dual)) sb.1
          * revSign (sb.1.map b.sym.parity) gx
        else 1 := by
  obtain ⟨gx', hgg, hgl⟩ := multiB_iff.1 hm
  obtain rfl : gx' = gx := by
    simp only [List.getD_eq_getElem?_getD, hgg, Option.getD_some] at hgd; exact hgd
  have hdual : (ixM b gs (gs.length - (j + 1))).dual = (b.indices.getD (gx'.headD 0) default).dual := by
    rw [ixM_dual hok.adm hgg hgl, groupDuals_getD _ _ _ _ hgg]
    exact getD_map_dual _ _
  have hsubs : segIx b gs (gs.length - (j + 1)) = gx'.map (fun ax => b.indices.getD ax default) := by
    simp only [segIx, hgd]
  have hK := KM_new_legs hok (sb := sb) hj hgg
  unfold unfuseSign
  rw [hdual]
  split
  · rw [hZs]
    refine congrArg₂ (· * ·) ?_ ?_
    · rw [hsubs]
      apply flipSign_transfer b.sym _ sb.1 gx' _ _ _ (by simp)
      · intro t ht
        simp only [List.getD_eq_getElem?_getD, List.getElem?_map, List.getElem?_eq_getElem ht, Option.map_some,
          Option.getD_some]
      · exact hK
    · have hL : 0 < gx'.length := List.length_pos_of_ne_nil (hok.gne gx' (getElem?_mem' hgg))
      have hsl : (segIx b gs (gs.length - (j + 1))).length = gx'.length := by rw [hsubs]; simp
      rw [hsl, koszul_unfuseVperm _ _ _ _ hZn hL]
      exact revSign_congr (oddCount_transfer b.sym _ sb.1 gx' _ hK)
  · rfl

end Legs

section Stage
variable {a : Arr R} {groups : List (List Nat)}

/-- … for the operand `signAdj a groups` of the fermionic fuse: the factor of the group -/
theorem unfuseSign_group (hok : GroupsOk groups a.ndim)
    {sb4 : Sector × Blk R} {j : Nat} (hj : j < groups.length)
    (hm : multiB (newGroupsF groups a.duals) (groups.length - (j + 1)) = true) {Z : Arr R}
    (hZs : Z.sym = a.sym)
    (hZn : (giM (signAdj a groups) (newGroupsF groups a.duals)).position + (groups.length - (j + 1)) < Z.ndim) :
    unfuseSign Z (ixM (signAdj a groups) (newGroupsF groups a.duals) (groups.length - (j + 1)))
        (segIx (signAdj a groups) (newGroupsF groups a.duals) (groups.length - (j + 1)))
        ((giM (signAdj a groups) (newGroupsF groups a.duals)).position + (groups.length - (j + 1)))
        (KM (signAdj a groups) (newGroupsF groups a.duals) sb4 (j + 1))
      = groupFactor a groups sb4.1 ((newGroupsF groups a.duals).getD (groups.length - (j + 1)) []) := by
  obtain ⟨_, hidx, hsym, _⟩ := signAdj_fields a groups
  have hlen : (newGroupsF groups a.duals).length = groups.length := newGroupsF_length _ _
  have := unfuseSign_stage (signAdj_groupsOk (a := a) hok) (sb := sb4) (j := j) (by rw [hlen]; exact hj)
    (by rw [hlen]; exact hm) (hZs.trans hsym.symm) (by rw [hlen]; exact hZn) rfl
  rw [hlen, hidx, hsym] at this
  exact this

end Stage

end FuseP
end SymmModel
