/-
  SymmModel.Proofs.NormNet21 — network form of the norm (property C10), part 21:
  `b·a` is the rotated transpose of `a·b` up to block order: `Eqv (q·p) ((p·q).transposeF rot)`
  (`Assoc5P.swap_eqv`, S5 of C04 as an equivalence of arrays, read from `q·p`; `rotAx` is `Assoc5P.rotB`);
  rotations of lists, and `dropUnused` commutes with the rotation of the legs.
-/
import SymmModel.Proofs.NormNet20
namespace SymmModel.NormNet
open SymmModel SymmModel.TdotP SymmModel.GradedP SymmModel.RoutesP
open SymmModel.AssocP SymmModel.Assoc3P
set_option linter.unusedSectionVars false

section rot
variable {α : Type}

theorem rotL_getElem? (m : Nat) (l : List α) (hm : m ≤ l.length) (i : Nat) :
    (rotL m l)[i]? = if i < l.length - m then l[m + i]? else
      if i < l.length then l[i - (l.length - m)]? else none := by
  unfold rotL
  by_cases h1 : i < l.length - m
  · rw [if_pos h1, List.getElem?_append_left (by rw [List.length_drop]; exact h1), List.getElem?_drop]
  · rw [if_neg h1, List.getElem?_append_right (by rw [List.length_drop]; omega), List.length_drop,
      List.getElem?_take]
    by_cases h2 : i < l.length
    · rw [if_pos h2, if_pos (by omega)]
    · rw [if_neg h2, if_neg (by omega)]

theorem rotL_length (m : Nat) (l : List α) (hm : m ≤ l.length) : (rotL m l).length = l.length := by
  unfold rotL; simp; omega

theorem permuted_rot_eq (m k : Nat) (s : List α) (hs : s.length = m + k) :
    permuted s (rotAx m k) = rotL m s := by
  have h1 : (s.take m).length = m := by rw [List.length_take]; omega
  have h2 : (s.drop m).length = k := by rw [List.length_drop]; omega
  have := permuted_rotAx (s.take m) (s.drop m)
  rw [h1, h2, List.take_append_drop] at this
  exact this

end rot

section droprot

theorem dropUnused_rot (W : List Index) (S S' : List Sector) (m : Nat) (hm : m ≤ W.length)
    (hS : ∀ s ∈ S, s.length = W.length)
    (hmem : ∀ s', s' ∈ S' ↔ ∃ s ∈ S, rotL m s = s') :
    dropUnused (rotL m W) S' = rotL m (dropUnused W S) := by
  apply List.ext_getElem?
  intro i
  have hpres : ∀ (j : Nat), (if i < W.length - m then m + i else i - (W.length - m)) = j →
      i < W.length →
      ∀ c, c ∈ S'.filterMap (fun s => s[i]?) ↔ c ∈ S.filterMap (fun s => s[j]?) := by
    intro j hj hi c
    simp only [List.mem_filterMap]
    constructor
    · rintro ⟨s', hs', he⟩
      obtain ⟨s, hs, rfl⟩ := (hmem s').mp hs'
      refine ⟨s, hs, ?_⟩
      rw [rotL_getElem? m s (by rw [hS s hs]; exact hm), hS s hs] at he
      subst hj
      by_cases h1 : i < W.length - m
      · simp only [h1, if_true] at he ⊢; exact he
      · simp only [h1, hi, if_true, if_false] at he ⊢; exact he
    · rintro ⟨s, hs, he⟩
      refine ⟨rotL m s, (hmem _).mpr ⟨s, hs, rfl⟩, ?_⟩
      rw [rotL_getElem? m s (by rw [hS s hs]; exact hm), hS s hs]
      subst hj
      by_cases h1 : i < W.length - m
      · simp only [h1, if_true] at he ⊢; exact he
      · simp only [h1, hi, if_true, if_false] at he ⊢; exact he
  rw [dropUnused_getElem?, rotL_getElem? m W hm, rotL_getElem? m (dropUnused W S)
    (by rw [dropUnused_length]; exact hm), dropUnused_length]
  by_cases h1 : i < W.length - m
  · rw [if_pos h1, if_pos h1, dropUnused_getElem?]
    cases hW : W[m + i]? with
    | none => rfl
    | some ix =>
      simp only [Option.map_some]
      rw [dropTo_congr ix (fun c _ => hpres (m + i) (by rw [if_pos h1]) (by omega) c)]
  · rw [if_neg h1, if_neg h1]
    by_cases h2 : i < W.length
    · rw [if_pos h2, if_pos h2, dropUnused_getElem?]
      cases hW : W[i - (W.length - m)]? with
      | none => rfl
      | some ix =>
        simp only [Option.map_some]
        rw [dropTo_congr ix (fun c _ => hpres (i - (W.length - m)) (by rw [if_neg h1]) h2 c)]
    · rw [if_neg h2, if_neg h2]; rfl

end droprot

section swapeqv
variable {R : Type} [AddCommMonoid R] [Mul R] [Neg R] [SignRing R]

/-- **S5 as an equivalence of arrays**: `P' = q·p` and `(p·q).transposeF rot`, `rot` the rotation
    that moves `p`'s dangling legs behind `q`'s, have the same frame, sector set and values -/
theorem swap_eqv (hmul : ∀ x y : R, x * y = y * x) (p q P P' : Arr R) (xp xq : List Nat)
    (h : Adm p q xp xq) (hd : (p.oddpos ++ q.oddpos).Pairwise (fun x y => x.1 ≠ y.1))
    (eP : p.tensordotF q (.pair (xp.map Int.ofNat) (xq.map Int.ofNat)) .blockwise = .ok P)
    (eP' : q.tensordotF p (.pair (xq.map Int.ofNat) (xp.map Int.ofNat)) .blockwise = .ok P') :
    Eqv P' (P.transposeF (rotAx (freeAxes p.ndim xp).length (freeAxes q.ndim xq).length)) := by
  obtain ⟨c', e, _, _, hE⟩ := Assoc5P.swap_eqv hmul (Assoc4P.admW_swap (AdmW.ofAdm h))
    (OddposP.LabelsDistinct.perm hd List.perm_append_comm) P' eP'
  obtain rfl : c' = P := Except.ok.inj (e.symm.trans eP)
  exact hE.symm

end swapeqv

end SymmModel.NormNet
