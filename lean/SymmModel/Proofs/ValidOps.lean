/-
  SymmModel.Proofs.ValidOps — property C01 (every result is a valid array) for the operations
  that keep every block: the `phase_*` operations, `transpose` and `conj` of both kinds of array,
  `FermionicArray.dagger`.  Also what the other Valid* modules build on: `Core`, the clauses of
  `Valid` that do not mention signs (the abelian kernels preserve `Core`; `Valid.of_fermi` and
  `Valid.of_abelian` add the sign clause), and well-formed pending-sign tables (`PhasesOk`) under
  insertion, erasure and re-keying.
-/
import SymmModel.Proofs.ValidLemmas
import SymmModel.Proofs.SpecConj

namespace SymmModel
namespace ValidP

variable {R : Type}

/-- the clauses of validity that do not mention signs -/
structure Core (a : Arr R) : Prop where
  idx : ∀ i ∈ a.indices, Index.wfB a.sym i = true
  chg : a.sym.valid a.charge = true
  nodup : (a.blocks.map (·.1)).Nodup
  blk : ∀ sb ∈ a.blocks, BlockOk a.sym a.indices a.charge sb

theorem Valid.core {a : Arr R} (h : Valid a) : Core a := ⟨h.idx, h.chg, h.nodup, h.blk⟩

theorem Valid.of {a : Arr R} (h : Core a)
    (hs : SignsOk a.sym a.fermi a.indices a.charge a.phases a.oddpos) : Valid a :=
  ⟨h.idx, h.chg, h.nodup, h.blk, hs⟩

theorem signsOk_abelian {sym : Sym} {idx : List Index} {ch : Charge} {ph : List (Sector × Int)}
    {op : List (Int × Bool)} : SignsOk sym false idx ch ph op ↔ ph = [] ∧ op = [] := by
  simp [SignsOk]

theorem signsOk_fermi {sym : Sym} {idx : List Index} {ch : Charge} {ph : List (Sector × Int)}
    {op : List (Int × Bool)} :
    SignsOk sym true idx ch ph op ↔
      PhasesOk sym idx ch ph ∧ ((op.length % 2 == 1) = sym.parity ch) := by
  simp [SignsOk]

theorem Valid.signs {a : Arr R} (h : Valid a) (hf : a.fermi = true) :
    PhasesOk a.sym a.indices a.charge a.phases ∧ ((a.oddpos.length % 2 == 1) = a.sym.parity a.charge) := by
  have := h.sgn
  rw [hf] at this
  exact signsOk_fermi.mp this

theorem Valid.of_fermi {a : Arr R} (h : Core a) (hf : a.fermi = true)
    (hp : PhasesOk a.sym a.indices a.charge a.phases)
    (ho : (a.oddpos.length % 2 == 1) = a.sym.parity a.charge) : Valid a := by
  refine Valid.of h ?_
  rw [hf]
  exact signsOk_fermi.mpr ⟨hp, ho⟩

theorem Valid.of_abelian {a r : Arr R} (hv : Valid a) (hf : a.fermi = false) (hcore : Core r)
    (e2 : r.fermi = a.fermi) (e4 : r.phases = a.phases) (e5 : r.oddpos = a.oddpos) : Valid r := by
  refine Valid.of hcore ?_
  have hs := hv.sgn
  rw [hf] at hs e2
  rw [e2, e4, e5]
  exact signsOk_abelian.mpr (signsOk_abelian.mp hs)

theorem Core.secOk {a : Arr R} (h : Core a) {s : Sector} (hs : s ∈ a.sectors) :
    SecOk a.sym a.indices a.charge s := by
  obtain ⟨sb, hsb, rfl⟩ := List.mem_map.mp hs
  exact (h.blk sb hsb).1

theorem Valid.secOk {a : Arr R} (h : Valid a) {s : Sector} (hs : s ∈ a.sectors) :
    SecOk a.sym a.indices a.charge s :=
  h.core.secOk hs

theorem keys_map_of {β γ : Type} (l : List (Sector × β)) (f : Sector × β → Sector × γ)
    (hf : ∀ x ∈ l, (f x).1 = x.1) :
    (l.map f).map (fun x : Sector × γ => x.1) = l.map (fun x : Sector × β => x.1) := by
  rw [List.map_map]
  exact List.map_congr_left (fun x hx => hf x hx)

section Phases
variable {sym : Sym} {idx : List Index} {ch : Charge}

theorem phasesOk_nil : PhasesOk sym idx ch [] := ⟨by simp, by simp⟩

theorem phasesOk_ainsert {ph : List (Sector × Int)} {s : Sector} {p : Int}
    (h : PhasesOk sym idx ch ph) (hs : SecOk sym idx ch s) (hp : p = 1 ∨ p = -1) :
    PhasesOk sym idx ch (ainsert ph s p) := by
  refine ⟨ainsert_keys_nodup _ _ h.1, ?_⟩
  intro sp hsp
  rcases (mem_ainsert hsp).symm with rfl | hm
  · exact ⟨hs, hp⟩
  · exact h.2 sp hm

theorem phasesOk_aerase {ph : List (Sector × Int)} (s : Sector)
    (h : PhasesOk sym idx ch ph) : PhasesOk sym idx ch (aerase ph s) :=
  ⟨aerase_keys_nodup _ h.1, fun sp hsp => h.2 sp (mem_aerase hsp)⟩

theorem phasesOk_setPhase {ph : List (Sector × Int)} {s : Sector} {p : Int}
    (h : PhasesOk sym idx ch ph) (hs : SecOk sym idx ch s) (hp : p = 1 ∨ p = -1) :
    PhasesOk sym idx ch (Arr.setPhase ph s p) := by
  unfold Arr.setPhase
  split
  · exact phasesOk_aerase s h
  · exact phasesOk_ainsert h hs hp

theorem phasesOk_getD {ph : List (Sector × Int)} (h : PhasesOk sym idx ch ph) (s : Sector) :
    (alookup ph s).getD 1 = 1 ∨ (alookup ph s).getD 1 = -1 := by
  cases hl : alookup ph s with
  | none => exact Or.inl rfl
  | some p => exact (h.2 (s, p) (alookup_some_mem hl)).2

theorem koszul_pm (par : List Bool) (perm : Option (List Nat)) :
    koszul par perm = 1 ∨ koszul par perm = -1 := by
  unfold koszul; split <;> simp

theorem pm_mul {x y : Int} (hx : x = 1 ∨ x = -1) (hy : y = 1 ∨ y = -1) :
    x * y = 1 ∨ x * y = -1 := by
  rcases hx with rfl | rfl <;> rcases hy with rfl | rfl <;> simp

theorem pm_neg {x : Int} (hx : x = 1 ∨ x = -1) : -x = 1 ∨ -x = -1 := by
  rcases hx with rfl | rfl <;> simp

theorem phasesOk_adict_map {ph : List (Sector × Int)} {idx' : List Index} {ch' : Charge}
    (f : Sector → Sector) (h : PhasesOk sym idx ch ph)
    (hf : ∀ s, SecOk sym idx ch s → SecOk sym idx' ch' (f s)) :
    PhasesOk sym idx' ch' (adict (ph.map (fun sp => (f sp.1, sp.2)))) := by
  refine ⟨adict_keys_nodup _, ?_⟩
  intro sp hsp
  obtain ⟨sp0, h0, rfl⟩ := List.mem_map.mp (mem_adict hsp)
  exact ⟨hf _ (h.2 sp0 h0).1, (h.2 sp0 h0).2⟩

theorem phasesOk_retarget {ph : List (Sector × Int)} {idx' : List Index} {ch' : Charge}
    (h : PhasesOk sym idx ch ph)
    (hf : ∀ s, SecOk sym idx ch s → SecOk sym idx' ch' s) : PhasesOk sym idx' ch' ph :=
  ⟨h.1, fun sp hsp => ⟨hf _ (h.2 sp hsp).1, (h.2 sp hsp).2⟩⟩

end Phases

theorem valid_setPhases {a : Arr R} (hv : Valid a) (hf : a.fermi = true)
    (ph : List (Sector × Int)) (hph : PhasesOk a.sym a.indices a.charge ph) :
    Valid { a with phases := ph } :=
  Valid.of_fermi ⟨hv.idx, hv.chg, hv.nodup, hv.blk⟩ hf hph (hv.signs hf).2

theorem valid_phasesOk {a : Arr R} (hv : Valid a) (hf : a.fermi = true) :
    PhasesOk a.sym a.indices a.charge a.phases := (hv.signs hf).1

theorem phaseFlip_valid (a : Arr R) (axs : List Nat) (hv : Valid a) (hf : a.fermi = true) :
    Valid (a.phaseFlip axs) := by
  unfold Arr.phaseFlip
  split
  · exact hv
  · apply valid_setPhases hv hf
    apply foldl_inv (PhasesOk a.sym a.indices a.charge)
    · exact valid_phasesOk hv hf
    · intro ph s hs hph
      simp only
      split
      · split
        · exact phasesOk_aerase s hph
        · exact phasesOk_ainsert hph (hv.secOk hs) (pm_neg (phasesOk_getD hph s))
      · exact hph

theorem phaseTranspose_valid (a : Arr R) (axes : Option (List Nat)) (hv : Valid a)
    (hf : a.fermi = true) : Valid (a.phaseTranspose axes) := by
  unfold Arr.phaseTranspose
  apply valid_setPhases hv hf
  apply foldl_inv (PhasesOk a.sym a.indices a.charge)
  · exact valid_phasesOk hv hf
  · intro ph s hs hph
    exact phasesOk_setPhase hph (hv.secOk hs) (pm_mul (phasesOk_getD hph s) (koszul_pm _ _))

theorem phaseSector_valid (a : Arr R) (sector : Sector) (hv : Valid a) (hf : a.fermi = true)
    (hs : SecOk a.sym a.indices a.charge sector) : Valid (a.phaseSector sector) := by
  unfold Arr.phaseSector
  apply valid_setPhases hv hf
  split
  · exact phasesOk_ainsert (phasesOk_aerase _ (valid_phasesOk hv hf)) hs (Or.inr rfl)
  · exact phasesOk_aerase _ (valid_phasesOk hv hf)

theorem phaseGlobal_valid (a : Arr R) (hv : Valid a) (hf : a.fermi = true) :
    Valid a.phaseGlobal := by
  unfold Arr.phaseGlobal
  apply valid_setPhases hv hf
  apply foldl_inv (PhasesOk a.sym a.indices a.charge)
  · exact valid_phasesOk hv hf
  · intro ph s hs hph
    simp only
    split
    · exact phasesOk_ainsert (phasesOk_aerase _ hph) (hv.secOk hs) (Or.inr rfl)
    · exact phasesOk_aerase _ hph

theorem negK_wf [Neg R] (b : Blk R) (h : b.wf = true) : b.negK.wf = true := map_wf _ b h

theorem phaseSync_valid [Neg R] (a : Arr R) (hv : Valid a) : Valid a.phaseSync := by
  unfold Arr.phaseSync
  refine ⟨hv.idx, hv.chg, ?_, ?_, ?_⟩
  · show (List.map (fun x : Sector × Blk R => x.1) (a.blocks.map _)).Nodup
    rw [keys_map_of]
    · exact hv.nodup
    · rintro ⟨s, b⟩ _
      simp only
      split <;> rfl
  · intro sb hsb
    obtain ⟨sb0, h0, rfl⟩ := List.mem_map.mp hsb
    obtain ⟨h1, h2, h3⟩ := hv.blk sb0 h0
    simp only
    split
    · exact ⟨h1, h2, negK_wf _ h3⟩
    · exact ⟨h1, h2, h3⟩
  · have hs := hv.sgn
    show SignsOk a.sym a.fermi a.indices a.charge [] a.oddpos
    cases hf : a.fermi
    · rw [hf] at hs
      exact signsOk_abelian.mpr ⟨rfl, (signsOk_abelian.mp hs).2⟩
    · exact signsOk_fermi.mpr ⟨phasesOk_nil, (hv.signs hf).2⟩

theorem transposeA_core [Zero R] (a : Arr R) (axes : List Nat) (hv : Core a)
    (hp : Arr.isPerm axes a.ndim = true) : Core (a.transposeA axes) := by
  have hperm := perm_of_isPerm hp
  refine ⟨fun i hi => hv.idx i (mem_permuted hi), hv.chg, adict_keys_nodup _, ?_⟩
  intro sb hsb
  obtain ⟨sb0, h0, rfl⟩ := List.mem_map.mp (mem_adict hsb)
  obtain ⟨h1, h2, _⟩ := hv.blk sb0 h0
  refine ⟨?_, ?_, ofFn_wf _ _⟩
  · exact secOk_natT (natT_permuted axes)
      (fun l hl => permuted_perm (by rw [hl]; exact hperm)) h1
  · exact blockShape?_natT (natT_permuted axes) h2

theorem secOk_permuted {sym : Sym} {idx : List Index} {ch : Charge} {s : Sector} {axes : List Nat}
    (hp : Arr.isPerm axes idx.length = true) (h : SecOk sym idx ch s) :
    SecOk sym (permuted idx axes) ch (permuted s axes) :=
  secOk_natT (natT_permuted axes)
    (fun l hl => permuted_perm (by rw [hl]; exact perm_of_isPerm hp)) h

theorem transposeA_valid [Zero R] (a : Arr R) (axes : List Nat) (hv : Valid a)
    (hf : a.fermi = false) (hp : Arr.isPerm axes a.ndim = true) : Valid (a.transposeA axes) :=
  hv.of_abelian hf (transposeA_core a axes hv.core hp) rfl rfl rfl

theorem transposeF_valid [Zero R] (a : Arr R) (axes : List Nat) (phase : Bool) (hv : Valid a)
    (hf : a.fermi = true) (hp : Arr.isPerm axes a.ndim = true) :
    Valid (a.transposeF axes phase) := by
  unfold Arr.transposeF
  generalize hnp : (if phase = true then _ else _ : List (Sector × Int)) = newPhases
  have hcore : Core ({ a with phases := newPhases } : Arr R) := ⟨hv.idx, hv.chg, hv.nodup, hv.blk⟩
  have hs := hv.signs hf
  refine Valid.of_fermi (transposeA_core _ axes hcore hp) hf ?_ hs.2
  show PhasesOk a.sym (permuted a.indices axes) a.charge newPhases
  subst hnp
  split
  · refine ⟨adict_keys_nodup _, ?_⟩
    intro sp hsp
    obtain ⟨s, hs1, hs2⟩ := List.mem_filterMap.mp (mem_adict hsp)
    simp only at hs2
    split at hs2
    · cases hs2
      exact ⟨secOk_permuted hp (hv.secOk hs1), Or.inr rfl⟩
    · cases hs2
  · exact phasesOk_adict_map _ hs.1 (fun s h => secOk_permuted hp h)

theorem conjK_wf [Conj R] (b : Blk R) (h : b.wf = true) : b.conjK.wf = true := map_wf _ b h

theorem conj_core [Conj R] (a : Arr R) (hv : Core a) (ph : List (Sector × Int))
    (op : List (Int × Bool)) :
    Core ({ a with blocks := a.blocks.map (fun (s, b) => (s, b.conjK)),
                   phases := ph,
                   indices := a.indices.map Index.conj,
                   charge := a.sym.sign a.charge true,
                   oddpos := op } : Arr R) := by
  refine ⟨?_, Sym.sign_valid _ _ _ hv.chg, ?_, ?_⟩
  · intro i hi
    obtain ⟨i0, h0, rfl⟩ := List.mem_map.mp hi
    exact conj_wfB _ _ (hv.idx i0 h0)
  · show (List.map (·.1) (a.blocks.map (fun x : Sector × Blk R => (x.1, x.2.conjK)))).Nodup
    rw [keys_map_of a.blocks (fun x => (x.1, x.2.conjK)) (fun _ _ => rfl)]; exact hv.nodup
  · intro sb hsb
    obtain ⟨sb0, h0, rfl⟩ := List.mem_map.mp hsb
    obtain ⟨h1, h2, h3⟩ := hv.blk sb0 h0
    exact ⟨secOk_conj h1, by rw [blockShape?_conj]; exact h2, conjK_wf _ h3⟩

theorem conjA_valid [Conj R] (a : Arr R) (hv : Valid a) (hf : a.fermi = false) :
    Valid a.conjA :=
  hv.of_abelian hf (conj_core a hv.core a.phases a.oddpos) rfl rfl rfl

theorem oddposDag_length (o : List (Int × Bool)) : (Arr.oddposDag o).length = o.length := by
  simp [Arr.oddposDag]

theorem conjF_valid [Conj R] (a : Arr R) (phasePerm phaseDual : Bool) (hv : Valid a)
    (hf : a.fermi = true) : Valid (a.conjF phasePerm phaseDual) := by
  rw [Lazy.conjF_eq]
  have hs := hv.signs hf
  have hsec : ∀ s, SecOk a.sym a.indices a.charge s →
      SecOk a.sym (a.indices.map Index.conj) (a.sym.sign a.charge true) s := fun s h => secOk_conj h
  have hphases : PhasesOk a.sym (a.indices.map Index.conj) (a.sym.sign a.charge true)
      (Lazy.conjPhases a phasePerm phaseDual) := by
    unfold Lazy.conjPhases
    split
    · apply foldl_inv (PhasesOk a.sym (a.indices.map Index.conj) (a.sym.sign a.charge true))
      · exact phasesOk_retarget hs.1 hsec
      · intro ph s hsm hph
        apply phasesOk_setPhase hph (hsec s (hv.secOk hsm))
        have h0 := phasesOk_getD hph s
        have h1 : (if phasePerm = true then (alookup ph s).getD 1 * koszul (a.parities s) none
            else (alookup ph s).getD 1) = 1 ∨ (if phasePerm = true then
              (alookup ph s).getD 1 * koszul (a.parities s) none
            else (alookup ph s).getD 1) = -1 := by
          split
          · exact pm_mul h0 (koszul_pm _ _)
          · exact h0
        split
        · exact pm_neg h1
        · exact h1
    · exact phasesOk_retarget hs.1 hsec
  have hnew : Valid (Lazy.conjCore { a with phases := Lazy.conjPhases a phasePerm phaseDual }) := by
    refine Valid.of_fermi (conj_core a hv.core _ _) hf hphases ?_
    show ((Arr.oddposDag a.oddpos).length % 2 == 1) = a.sym.parity (a.sym.sign a.charge true)
    rw [oddposDag_length, Sym.parity_sign]; exact hs.2
  split
  · exact phaseGlobal_valid _ hnew hf
  · exact hnew

theorem permuted_reversed {α : Type} (l : List α) :
    permuted l (Arr.reversedAxes l.length) = l.reverse := by
  unfold permuted Arr.reversedAxes
  rw [List.filterMap_reverse]
  congr 1
  exact permuted_range l

theorem secOk_reverse {sym : Sym} {idx : List Index} {ch : Charge} {s : Sector}
    (h : SecOk sym idx ch s) : SecOk sym idx.reverse ch s.reverse :=
  secOk_natT natT_reverse (fun l _ => List.reverse_perm l) h

theorem dagCore_valid [Zero R] [Conj R] (a : Arr R) (hv : Valid a) (hf : a.fermi = true) :
    Valid (Lazy.dagCore a) := by
  have hs := hv.signs hf
  have hsec : ∀ s, SecOk a.sym a.indices a.charge s →
      SecOk a.sym (a.indices.reverse.map Index.conj) (a.sym.sign a.charge true) s.reverse :=
    fun s h => secOk_conj (secOk_reverse h)
  unfold Lazy.dagCore
  refine ⟨?_, Sym.sign_valid _ _ _ hv.chg, ?_, ?_, ?_⟩
  · intro i hi
    obtain ⟨i0, h0, rfl⟩ := List.mem_map.mp hi
    exact conj_wfB _ _ (hv.idx i0 (List.mem_reverse.mp h0))
  · show (List.map (fun x : Sector × Blk R => x.1) (a.blocks.map _)).Nodup
    rw [List.map_map]
    have : ((fun x : Sector × Blk R => x.1) ∘ fun x : Sector × Blk R =>
        match x with
        | (s, b) => (s.reverse, (b.conjK).transposeK (Arr.reversedAxes a.ndim)))
        = List.reverse ∘ (fun x : Sector × Blk R => x.1) := by
      funext x; obtain ⟨s, b⟩ := x; rfl
    rw [this, ← List.map_map]
    exact List.Nodup.map List.reverse_injective hv.nodup
  · intro sb hsb
    obtain ⟨⟨s, b⟩, h0, rfl⟩ := List.mem_map.mp hsb
    obtain ⟨h1, h2, h3⟩ := hv.blk (s, b) h0
    refine ⟨hsec _ h1, ?_, ofFn_wf _ _⟩
    show Arr.blockShape? (a.indices.reverse.map Index.conj) s.reverse
      = some (permuted b.conjK.shape (Arr.reversedAxes a.ndim))
    rw [blockShape?_conj]
    have hl : b.conjK.shape.length = a.ndim := (blockShape?_length h2).2
    rw [← hl, permuted_reversed]
    exact blockShape?_natT natT_reverse h2
  · show SignsOk a.sym a.fermi _ _ _ _
    rw [hf]
    refine signsOk_fermi.mpr ⟨⟨?_, ?_⟩, ?_⟩
    · have : (a.blocks.filterMap (fun x : Sector × Blk R =>
          match x with
          | (s, _) => if a.getPhase s == -1 then some (s.reverse, (-1 : Int)) else none)).map
            (fun x : Sector × Int => x.1)
          = (a.blocks.map (fun x : Sector × Blk R => x.1)).filterMap (fun s =>
              if a.getPhase s == -1 then some s.reverse else none) := by
        rw [List.map_filterMap, List.filterMap_map]
        congr 1
        funext x
        obtain ⟨s, b⟩ := x
        simp only [Function.comp]
        split <;> rfl
      show (List.map (fun x : Sector × Int => x.1) (a.blocks.filterMap _)).Nodup
      rw [this]
      apply List.Nodup.filterMap _ hv.nodup
      intro s s' t h1 h2
      split at h1 <;> split at h2 <;> simp at h1 h2
      exact List.reverse_injective (h1.trans h2.symm)
    · intro sp hsp
      obtain ⟨⟨s, b⟩, h0, h1⟩ := List.mem_filterMap.mp hsp
      simp only at h1
      split at h1
      · cases h1
        exact ⟨hsec _ (hv.blk (s, b) h0).1, Or.inr rfl⟩
      · cases h1
    · show ((Arr.oddposDag a.oddpos).length % 2 == 1) = a.sym.parity (a.sym.sign a.charge true)
      rw [oddposDag_length, Sym.parity_sign]; exact hs.2

theorem daggerF_valid [Zero R] [Conj R] (a : Arr R) (phaseDual : Bool) (hv : Valid a)
    (hf : a.fermi = true) : Valid (a.daggerF phaseDual) := by
  rw [Lazy.daggerF_eq]
  have hnew := dagCore_valid a hv hf
  have hmid : Valid (if Lazy.conjGlob a true then (Lazy.dagCore a).phaseGlobal else Lazy.dagCore a)
      ∧ (if Lazy.conjGlob a true then (Lazy.dagCore a).phaseGlobal else Lazy.dagCore a).fermi = true := by
    split
    · exact ⟨phaseGlobal_valid _ hnew hf, hf⟩
    · exact ⟨hnew, hf⟩
  split
  · exact phaseFlip_valid _ _ hmid.1 hmid.2
  · exact hmid.1

end ValidP
end SymmModel
