/-
  SymmModel.Proofs.Net4Trans — "equal up to a fermionic transpose" as an `Eqv` statement.  The bridge
  is `eqv_of_transposed`: an array `c'` whose sectors, index tables and values are those of `c`
  re-listed along `P` (values times the Koszul sign of `P`) is `Eqv` to `c.transposeF P`.  From it,
  `Eqv`-congruence and composition of `transposeF`, and the relation `TEq` ("is a fermionic transpose
  of").
-/
import SymmModel.Proofs.Net4Relist
import SymmModel.Proofs.Dense4a

namespace SymmModel
namespace Net4P
open TdotP GradedP RoutesP KoszulP AssocP Assoc3P
open Lazy (sgnI)
set_option linter.unusedSectionVars false

variable {R : Type}

theorem exists_preimage {α : Type} {P : List Nat} {n : Nat} (hP : P.Perm (List.range n))
    (o : List α) (ho : o.length = n) : ∃ o0 : List α, o0.length = n ∧ permuted o0 P = o := by
  have hPl : P.length = n := by simpa using hP.length_eq
  obtain ⟨π, hπ, e⟩ := exists_relist (l' := List.range n) (l := P) hP.symm
  rw [hPl] at hπ
  have hπl : π.length = n := by simpa using hπ.length_eq
  obtain ⟨π', hπ', e'⟩ := exists_relist (l' := List.range n) (l := π) hπ.symm
  rw [hπl] at hπ'
  have hπlt : ∀ i ∈ π, i < n := mem_lt_of_perm hπ
  have key : π' = P := by
    have h1 := permuted_permuted_ax P π π' (by rw [hPl]; exact hπlt)
    rw [e', e, permuted_range_of_lt n π' (mem_lt_of_perm hπ')] at h1
    rw [← hPl, permuted_range] at h1
    exact h1.symm
  subst key
  refine ⟨permuted o π, ?_, ?_⟩
  · rw [permuted_length_perm o π (by rw [ho]; exact hπ)]; exact ho
  · rw [← permuted_permuted_ax o π π' (by rw [ho]; exact hπlt), e', ← ho, permuted_range]

section
variable [AddCommMonoid R] [Mul R] [Neg R] [SignRing R]

theorem eqv_of_transposed {c c' : Arr R} {P : List Nat} (hv : c.validB = true) (hf : c.fermi = true)
    (hP : Arr.isPerm P c.ndim = true)
    (hsym : c'.sym = c.sym) (hfer : c'.fermi = c.fermi) (hch : c'.charge = c.charge)
    (hodd : c'.oddpos = c.oddpos) (hidx : c'.indices = permuted c.indices P)
    (hsec : ∀ s', s' ∈ c'.sectors ↔ ∃ s ∈ c.sectors, s' = permuted s P)
    (helem : ∀ s ∈ c.sectors, ∀ o, inBox (Arr.blockShapeD c.indices s) o = true →
      c'.elem (permuted s P) (permuted o P) = sgnI (koszul (c.parities s) (some P)) (c.elem s o)) :
    Eqv (c.transposeF P) c' := by
  have T := transOf_transposeF c P hv hf hP
  have hsc := Arr.shapesOk_of_validB hv
  have hPp := perm_of_isPerm hP
  have hsec' : ∀ s, s ∈ (c.transposeF P).sectors ↔ s ∈ c'.sectors := by
    intro s
    rw [T.sectors, List.mem_map, hsec]
    constructor
    · rintro ⟨s0, h0, rfl⟩; exact ⟨s0, h0, rfl⟩
    · rintro ⟨s0, h0, rfl⟩; exact ⟨s0, h0, rfl⟩
  refine ⟨by rw [T.sym, hsym], hfer.symm, hch.symm, hodd.symm, by rw [T.indices, hidx], hsec', ?_⟩
  intro s o ho
  by_cases hs : s ∈ (c.transposeF P).sectors
  · have hbox := ho hs
    rw [T.sectors, List.mem_map] at hs
    obtain ⟨s0, h0, rfl⟩ := hs
    obtain ⟨shp, h1, h2, h3, h4⟩ := shape_of_mem hsc h0
    have hPlt : ∀ x ∈ P, x < c.indices.length := mem_lt_of_perm hPp
    rw [T.indices, Arr.blockShapeD, blockShape?_permuted h1 P hPlt] at hbox
    change inBox (permuted shp P) o = true at hbox
    have hol : o.length = c.ndim := by
      have := inBox_length hbox
      rw [this, permuted_length_perm shp P (by rw [h3]; exact hPp)]; exact h3
    obtain ⟨o0, hl0, rfl⟩ := exists_preimage hPp o hol
    have hb0 : inBox (Arr.blockShapeD c.indices s0) o0 = true := by
      rw [h2]
      exact Dense4.inBox_of_permuted (n := c.ndim) (mem_lt_of_perm hPp)
        (fun ax hax => hPp.mem_iff.mpr (List.mem_range.mpr hax)) h3 hl0 hbox
    rw [T.elem s0 h0 o0 hb0, helem s0 h0 o0 hb0]
  · rw [Arr.elem_of_not_mem hs, Arr.elem_of_not_mem (fun h => hs ((hsec' s).mpr h))]

theorem transposeF_congr {X X' : Arr R} {P : List Nat} (h : Eqv X X') (hv : X.validB = true)
    (hv' : X'.validB = true) (hf : X.fermi = true) (hP : Arr.isPerm P X.ndim = true) :
    Eqv (X.transposeF P) (X'.transposeF P) := by
  have hf' : X'.fermi = true := by rw [← h.fermi]; exact hf
  have hP' : Arr.isPerm P X'.ndim = true := by rw [← h.ndim]; exact hP
  have T' := transOf_transposeF X' P hv' hf' hP'
  refine eqv_of_transposed hv hf hP (by rw [T'.sym, h.sym]) (h.fermi.symm ▸ rfl) h.charge.symm
    h.oddpos.symm (by rw [T'.indices, h.indices]) ?_ ?_
  · intro s'
    rw [T'.sectors, List.mem_map]
    constructor
    · rintro ⟨s0, h0, rfl⟩; exact ⟨s0, (h.sectors s0).mpr h0, rfl⟩
    · rintro ⟨s0, h0, rfl⟩; exact ⟨s0, (h.sectors s0).mp h0, rfl⟩
  · intro s hs o ho
    have hs' := (h.sectors s).mp hs
    rw [T'.elem s hs' o (by rw [← h.indices]; exact ho), ← h.elem s o (fun _ => ho)]
    unfold Arr.parities
    rw [h.sym]

theorem transposeF_validB (X : Arr R) (P : List Nat) (hv : X.validB = true) (hf : X.fermi = true)
    (hP : Arr.isPerm P X.ndim = true) : (X.transposeF P).validB = true :=
  (ValidP.validB_iff _).mpr (ValidP.transposeF_valid X P true ((ValidP.validB_iff X).mp hv) hf hP)

theorem transposeF_ndim (X : Arr R) (P : List Nat) (hv : X.validB = true) (hf : X.fermi = true)
    (hP : Arr.isPerm P X.ndim = true) : (X.transposeF P).ndim = X.ndim := by
  have T := transOf_transposeF X P hv hf hP
  show (X.transposeF P).indices.length = X.indices.length
  rw [T.indices]
  exact permuted_length_perm _ _ (perm_of_isPerm hP)

theorem transposeF_comp (X : Arr R) (P Q : List Nat) (hv : X.validB = true) (hf : X.fermi = true)
    (hP : Arr.isPerm P X.ndim = true) (hQ : Arr.isPerm Q X.ndim = true) :
    Eqv (X.transposeF (compose P Q)) ((X.transposeF P).transposeF Q) := by
  have hPp := perm_of_isPerm hP
  have hQp := perm_of_isPerm hQ
  have hsX := Arr.shapesOk_of_validB hv
  have T1 := transOf_transposeF X P hv hf hP
  have hv1 := transposeF_validB X P hv hf hP
  have hn1 := transposeF_ndim X P hv hf hP
  have hf1 : (X.transposeF P).fermi = true := hf
  have T2 := transOf_transposeF (X.transposeF P) Q hv1 hf1 (by rw [hn1]; exact hQ)
  have hPlt : ∀ i ∈ P, i < X.ndim := mem_lt_of_perm hPp
  refine eqv_of_transposed hv hf (isPerm_of_perm (compose_perm hPp hQp))
    (by rw [T2.sym, T1.sym]) rfl rfl rfl ?_ ?_ ?_
  · rw [T2.indices, T1.indices]
    exact KoszulP.permuted_permuted X.indices P Q hPlt
  · intro s'
    rw [T2.sectors, T1.sectors, List.map_map, List.mem_map]
    constructor
    · rintro ⟨s, hs, rfl⟩
      exact ⟨s, hs, KoszulP.permuted_permuted s P Q (by rw [Arr.sector_length hsX hs]; exact hPlt)⟩
    · rintro ⟨s, hs, rfl⟩
      exact ⟨s, hs, KoszulP.permuted_permuted s P Q (by rw [Arr.sector_length hsX hs]; exact hPlt)⟩
  · intro s hs o ho
    obtain ⟨shp, h1, h2, h3, h4⟩ := shape_of_mem hsX hs
    have hol : o.length = X.ndim := by rw [inBox_length ho, h2, h3]
    rw [← KoszulP.permuted_permuted s P Q (by rw [h4]; exact hPlt),
      ← KoszulP.permuted_permuted o P Q (by rw [hol]; exact hPlt)]
    have hs1 : permuted s P ∈ (X.transposeF P).sectors := by
      rw [T1.sectors]; exact List.mem_map.mpr ⟨s, hs, rfl⟩
    have hb1 : inBox (Arr.blockShapeD (X.transposeF P).indices (permuted s P)) (permuted o P) = true := by
      rw [T1.indices, Arr.blockShapeD, blockShape?_permuted h1 P hPlt]
      change inBox (permuted shp P) (permuted o P) = true
      rw [h2] at ho
      exact KoszulP.inBox_permuted shp o P X.ndim hPp h3 ho
    rw [T2.elem _ hs1 _ hb1, T1.elem s hs o ho, sgnI_comp (Lazy.koszul_pm _ _) (Lazy.koszul_pm _ _)]
    congr 1
    have hpar : (X.transposeF P).parities (permuted s P) = permuted (X.parities s) P := by
      unfold Arr.parities
      rw [T1.sym]
      exact (permuted_map _ s P).symm
    rw [hpar, Int.mul_comm]
    exact (koszul_cocycle' (X.parities s) P Q X.ndim (by unfold Arr.parities; rw [List.length_map, h4])
      hPp hQp).symm

theorem transposeF_range_eqv (T : Arr R) (hv : T.validB = true) (hf : T.fermi = true) :
    Eqv (T.transposeF (List.range T.ndim)) T := by
  have hsT := Arr.shapesOk_of_validB hv
  have sec : ∀ s ∈ T.sectors, permuted s (List.range T.ndim) = s := fun s hs => by
    rw [← Arr.sector_length hsT hs, permuted_range]
  refine eqv_of_transposed hv hf (isPerm_of_perm (List.Perm.refl _)) rfl rfl rfl rfl
    (permuted_range T.indices).symm ?_ ?_
  · intro s
    constructor
    · intro hs; exact ⟨s, hs, (sec s hs).symm⟩
    · rintro ⟨s0, h0, rfl⟩; rw [sec s0 h0]; exact h0
  · intro s hs o ho
    obtain ⟨shp, h1, h2, h3, h4⟩ := shape_of_mem hsT hs
    have hol : o.length = T.ndim := by rw [h2] at ho; rw [inBox_length ho, h3]
    have hk : koszul (T.parities s) (some (List.range T.ndim)) = 1 := by
      have hlen : (T.parities s).length = T.ndim := by
        unfold Arr.parities; rw [List.length_map, Arr.sector_length hsT hs]
      have := koszul_id_block_left (T.parities s) [] [] (List.Perm.refl _)
      simp only [List.append_nil, List.map_nil] at this
      rw [← hlen, this]
      rfl
    rw [sec s hs, show permuted o (List.range T.ndim) = o by rw [← hol]; exact permuted_range o, hk,
      Lazy.sgnI_one]

/-- `T'` is a fermionic transpose of `T` (up to block order / pending signs): for some permutation
    `P` of the legs, `T.transposeF P` is `Eqv` to `T'` -/
def TEq (T T' : Arr R) : Prop :=
  ∃ P, Arr.isPerm P T.ndim = true ∧ Eqv (T.transposeF P) T'

theorem TEq.of_eqv {T T' : Arr R} (h : Eqv T T') (hv : T.validB = true) (hf : T.fermi = true) :
    TEq T T' :=
  ⟨List.range T.ndim, isPerm_of_perm (List.Perm.refl _), (transposeF_range_eqv T hv hf).trans h⟩

theorem TEq.trans {T1 T2 T3 : Arr R} (h12 : TEq T1 T2) (h23 : TEq T2 T3) (hv1 : T1.validB = true)
    (hf1 : T1.fermi = true) (hv2 : T2.validB = true) : TEq T1 T3 := by
  obtain ⟨P, hP, e12⟩ := h12
  obtain ⟨Q, hQ, e23⟩ := h23
  have hn : (T1.transposeF P).ndim = T1.ndim := transposeF_ndim T1 P hv1 hf1 hP
  have hQ' : Arr.isPerm Q T1.ndim = true := by rw [← hn, e12.ndim]; exact hQ
  refine ⟨compose P Q, isPerm_of_perm
    (compose_perm (perm_of_isPerm hP) (perm_of_isPerm hQ')), ?_⟩
  have c := transposeF_comp T1 P Q hv1 hf1 hP hQ'
  have hvP := transposeF_validB T1 P hv1 hf1 hP
  have cg := transposeF_congr e12 hvP hv2 (by exact hf1) (by rw [hn]; exact hQ')
  exact (c.trans cg).trans e23

end

end Net4P
end SymmModel
