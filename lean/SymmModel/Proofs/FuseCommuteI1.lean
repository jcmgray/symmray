/-
  SymmModel.Proofs.FuseCommuteI1 — mirror image of `TdotP.group_commute` (FuseCommuteH2): fusing ONE
  group `g` of FREE legs of the RIGHT operand (any position, any order, no preliminary transposition)
  commutes with the contraction (abelian, operands not aligned): the contraction of `a` with
  `fuse(b, [g])` over the renumbered axes `xb.map (shiftAxes b g)`, at the address made of any address
  `(Ls, oL)` of `a`'s free legs followed by the free part read off a full address `(MR', MO')` of the
  fused operand, is the plain contraction at `(Ls, oL)` followed by the free part of the full address
  `(MR, MO)` of `b` that `(MR', MO')` decodes to.  Also: the renumbered call is again `contractibleB`
  (either side).  Namespace `SymmModel.TdotP`.
-/
import SymmModel.Proofs.FuseCommuteH2

namespace SymmModel
namespace TdotP
variable {R : Type}

theorem shiftAxes_index [Zero R] {X : Arr R} {g : List Nat} (h : OneOk X g) {x : Nat}
    (hx : x < X.ndim ∧ x ∉ g) :
    (FuseP.fusedArrM X [g]).indices.getD (shiftAxes X g x) default = X.indices.getD x default := by
  have eFn : (FuseP.fusedArrM X [g]).indices.length = FuseP.ndimM X [g] := one_ndim h
  have e := permuted_shift h (default : Index) eFn rfl (one_free_indices h) [x]
    (by intro y hy; simp only [List.mem_cons, List.not_mem_nil, or_false] at hy; rw [hy]; exact hx)
  have := getD_of_permuted_eq (default : Index) e
    (by intro y hy
        simp only [List.map_cons, List.map_nil, List.mem_cons, List.not_mem_nil, or_false] at hy
        rw [hy, eFn]; exact shiftAxes_lt h hx)
    (by intro y hy; simp only [List.mem_cons, List.not_mem_nil, or_false] at hy; rw [hy]; exact hx.1)
    rfl 0 (by simp)
  simpa using this

theorem contractibleB_shift_left [Zero R] {a b : Arr R} {xa xb g : List Nat} (h : OneOk a g)
    (hxa : ∀ x ∈ xa, x < a.ndim ∧ x ∉ g) (hc : ValidP.contractibleB a b xa xb = true) :
    ValidP.contractibleB (FuseP.fusedArrM a [g]) b (xa.map (shiftAxes a g)) xb = true := by
  unfold ValidP.contractibleB at hc ⊢
  simp only [Bool.and_eq_true, List.all_eq_true, List.length_map] at hc ⊢
  refine ⟨hc.1, ?_⟩
  intro p hp
  rw [List.zip_map_left] at hp
  obtain ⟨q, hq, rfl⟩ := List.mem_map.mp hp
  have hq1 : q.1 ∈ xa := (List.of_mem_zip (a := q.1) (b := q.2) hq).1
  have := hc.2 q hq
  simp only [Prod.map_fst, Prod.map_snd, id_eq]
  rw [shiftAxes_index h (hxa q.1 hq1)]
  exact this

theorem contractibleB_shift_right [Zero R] {a b : Arr R} {xa xb g : List Nat} (h : OneOk b g)
    (hxb : ∀ x ∈ xb, x < b.ndim ∧ x ∉ g) (hc : ValidP.contractibleB a b xa xb = true) :
    ValidP.contractibleB a (FuseP.fusedArrM b [g]) xa (xb.map (shiftAxes b g)) = true := by
  unfold ValidP.contractibleB at hc ⊢
  simp only [Bool.and_eq_true, List.all_eq_true, List.length_map] at hc ⊢
  refine ⟨hc.1, ?_⟩
  intro p hp
  rw [List.zip_map_right] at hp
  obtain ⟨q, hq, rfl⟩ := List.mem_map.mp hp
  have hq2 : q.2 ∈ xb := (List.of_mem_zip (a := q.1) (b := q.2) hq).2
  have := hc.2 q hq
  simp only [Prod.map_fst, Prod.map_snd, id_eq]
  rw [shiftAxes_index h (hxb q.2 hq2)]
  exact this

theorem group_commute_right [AddCommMonoid R] [Mul R] [Neg R]
    (hz1 : ∀ x : R, 0 * x = 0) (hz2 : ∀ x : R, x * 0 = 0) (a b : Arr R) (xa xb g : List Nat)
    (ha : a.validB = true) (hb : b.validB = true) (hpa : a.phases = []) (hfb : b.fermi = false)
    (h : OneOk b g) (hdisj : ∀ x ∈ xb, x ∉ g)
    (hc : ValidP.contractibleB a b xa xb = true)
    (hnA : xa.Nodup) (hnB : xb.Nodup) (hA : ∀ x ∈ xa, x < a.ndim) (hB : ∀ x ∈ xb, x < b.ndim)
    {MR' MR : Sector} {MO' MO shp' shpB : List Nat}
    (hshp' : Arr.blockShape? (FuseP.fusedArrM b [g]).indices MR' = some shp') (hbox' : inBox shp' MO' = true)
    (hshpB : Arr.blockShape? b.indices MR = some shpB) (hboxB : inBox shpB MO = true)
    (hdec : decAx b [g] 0 (MR'.getD (bondPos b g) (0, 0)) (MO'.getD (bondPos b g) 0)
      = some (permuted MR g, permuted MO g))
    (hfS : permuted MR' (freeAxes (FuseP.fusedArrM b [g]).ndim [bondPos b g]) = permuted MR (freeAxes b.ndim g))
    (hfO : permuted MO' (freeAxes (FuseP.fusedArrM b [g]).ndim [bondPos b g]) = permuted MO (freeAxes b.ndim g))
    {Ls : Sector} {oL shpL : List Nat}
    (hL : Arr.blockShape? (permuted a.indices (freeAxes a.ndim xa)) Ls = some shpL)
    (hbL : inBox shpL oL = true) :
    (tensordotBlockwise a (FuseP.fusedArrM b [g]) (freeAxes a.ndim xa) xa (xb.map (shiftAxes b g))
        (freeAxes (FuseP.fusedArrM b [g]).ndim (xb.map (shiftAxes b g)))).elem
        (Ls ++ permuted MR' (freeAxes (FuseP.fusedArrM b [g]).ndim (xb.map (shiftAxes b g))))
        (oL ++ permuted MO' (freeAxes (FuseP.fusedArrM b [g]).ndim (xb.map (shiftAxes b g))))
      = (tensordotBlockwise a b (freeAxes a.ndim xa) xa xb (freeAxes b.ndim xb)).elem
        (Ls ++ permuted MR (freeAxes b.ndim xb)) (oL ++ permuted MO (freeAxes b.ndim xb)) := by
  obtain ⟨G, hRF, hbRF, hR, hbR⟩ :=
    group_geom_full b g xb hb hfb h hdisj hnB hB hshp' hbox' hshpB hboxB hdec hfS hfO
  have hpb : b.phases = [] := Arr.phases_nil_of_validB hb hfb
  have hvF := one_validB hb hfb h
  obtain ⟨hlen, hcm⟩ := cm_eq_of_contractibleB hc hA hB
  -- the contracted legs of `b` carry the same tables as those of `a`
  exact tdot_elem_congr_right hz1 hz2 a (FuseP.fusedArrM b [g]) b xa (xb.map (shiftAxes b g)) xb hpa hpb hpb
    (Arr.allDistinct_of_validB ha) (Arr.allDistinct_of_validB hvF) (Arr.allDistinct_of_validB hb)
    (Arr.shapesOk_of_validB ha) (Arr.shapesOk_of_validB hvF) (Arr.shapesOk_of_validB hb) hnA hA
    G.nodupF G.ltF hnB hB (by rw [List.length_map]; exact hlen) hlen hL hbL hRF hbRF hR hbR
    (fun hK hkk => G.elem (by rw [← blockShape?_congr hcm]; exact hK) hkk)

end TdotP
end SymmModel
