/-
  SymmModel.Proofs.SymLemmas — the laws of the charge group (`Sym.valid/combine/sign/parity` of
  `Model/Sym.lean`) and the sector enumeration of `Model/Arr.lean` (`cartesian`,
  `Arr.genValidSectors`).  The five symmetries are written once as `ℤ/n₁ × ℤ/n₂` with moduli
  `(Sym.mod1, Sym.mod2)` = (2,1), (4,1), (0,1), (2,2), (0,0) (`x % 0 = x`, `x % 1 = 0`) and the
  reduction `Sym.red`.  Seven facts are read off the five definitions by `cases s`, because they say
  what each definition computes: `combine_eq` (`combine` is the reduced sum), `valid_iff` (the valid
  charges are the representatives), `red_sign` (`sign · true` is negation up to reduction),
  `sign_valid`, `sign_false`, `parity_red`, `parity_add` (parity is additive and factors through
  `red`).  Every other law under `Sym.*` is integer arithmetic with the modulus a variable
  (`Int.emod_add_emod` and relatives hold for every modulus, 0 included) and never looks at `s`.
  Props/C17.lean states the property theorems as instances; every other module takes the laws
  from here.
-/
import SymmModel.Model.Arr
import Mathlib.Data.List.Forall2
import Mathlib.Data.List.Nodup
import Mathlib.Data.List.Perm.Basic

namespace SymmModel
namespace Sym

theorem foldl_add (l : List Int) (a : Int) :
    l.foldl (· + ·) a = a + l.foldl (· + ·) 0 := by
  induction l generalizing a with
  | nil => simp
  | cons x xs ih =>
    simp only [List.foldl_cons]
    rw [ih (a + x), ih (0 + x)]
    omega

@[simp] theorem sum1_nil : sum1 [] = 0 := rfl
@[simp] theorem sum2_nil : sum2 [] = 0 := rfl

theorem sum1_cons (c : Charge) (cs : List Charge) : sum1 (c :: cs) = c.1 + sum1 cs := by
  unfold sum1
  simp only [List.map_cons, List.foldl_cons]
  rw [foldl_add]
  omega

theorem sum2_cons (c : Charge) (cs : List Charge) : sum2 (c :: cs) = c.2 + sum2 cs := by
  unfold sum2
  simp only [List.map_cons, List.foldl_cons]
  rw [foldl_add]
  omega

theorem sum1_append (xs ys : List Charge) : sum1 (xs ++ ys) = sum1 xs + sum1 ys := by
  induction xs with
  | nil => simp
  | cons x xs ih => simp only [List.cons_append, sum1_cons, ih]; omega

theorem sum2_append (xs ys : List Charge) : sum2 (xs ++ ys) = sum2 xs + sum2 ys := by
  induction xs with
  | nil => simp
  | cons x xs ih => simp only [List.cons_append, sum2_cons, ih]; omega

theorem sum1_perm {xs ys : List Charge} (h : xs.Perm ys) : sum1 xs = sum1 ys := by
  induction h with
  | nil => rfl
  | cons x _ ih => simp only [sum1_cons, ih]
  | swap x y l => simp only [sum1_cons]; omega
  | trans _ _ ih1 ih2 => exact ih1.trans ih2

theorem sum2_perm {xs ys : List Charge} (h : xs.Perm ys) : sum2 xs = sum2 ys := by
  induction h with
  | nil => rfl
  | cons x _ ih => simp only [sum2_cons, ih]
  | swap x y l => simp only [sum2_cons]; omega
  | trans _ _ ih1 ih2 => exact ih1.trans ih2

theorem xorFold1 (cs : List Charge) (a : Int) (ha : a % 2 = a) :
    cs.foldl (fun acc c => (acc + c.1) % 2) a = (a + sum1 cs) % 2 := by
  induction cs generalizing a with
  | nil => simp only [List.foldl_nil, sum1_nil]; omega
  | cons c cs ih =>
    simp only [List.foldl_cons, sum1_cons]
    rw [ih ((a + c.1) % 2) (by omega)]
    omega

theorem xorFold2 (cs : List Charge) (a : Int) (ha : a % 2 = a) :
    cs.foldl (fun acc c => (acc + c.2) % 2) a = (a + sum2 cs) % 2 := by
  induction cs generalizing a with
  | nil => simp only [List.foldl_nil, sum2_nil]; omega
  | cons c cs ih =>
    simp only [List.foldl_cons, sum2_cons]
    rw [ih ((a + c.2) % 2) (by omega)]
    omega

theorem combine_Z2 (cs : List Charge) : combine Z2 cs = (sum1 cs % 2, 0) := rfl
theorem combine_Z4 (cs : List Charge) : combine Z4 cs = (sum1 cs % 4, 0) := rfl
theorem combine_U1 (cs : List Charge) : combine U1 cs = (sum1 cs, 0) := rfl
theorem combine_U1U1 (cs : List Charge) : combine U1U1 cs = (sum1 cs, sum2 cs) := rfl
theorem combine_Z2Z2 (cs : List Charge) : combine Z2Z2 cs = (sum1 cs % 2, sum2 cs % 2) := by
  show (cs.foldl (fun acc c => (acc + c.1) % 2) 0, cs.foldl (fun acc c => (acc + c.2) % 2) 0) = _
  rw [xorFold1 cs 0 (by omega), xorFold2 cs 0 (by omega)]
  simp

theorem beq_one_xor (x y z : Int) (h : z % 2 = (x + y) % 2) :
    (z % 2 == 1) = xor (x % 2 == 1) (y % 2 == 1) := by
  rw [h, Int.add_emod]
  rcases Int.emod_two_eq x with hx | hx <;> rcases Int.emod_two_eq y with hy | hy <;>
    rw [hx, hy] <;> rfl

def mod1 : Sym → Int | Z2 => 2 | Z4 => 4 | U1 => 0 | Z2Z2 => 2 | U1U1 => 0
def mod2 : Sym → Int | Z2 => 1 | Z4 => 1 | U1 => 1 | Z2Z2 => 2 | U1U1 => 0

/-- the representative of a pair of integers -/
def red (s : Sym) (c : Charge) : Charge := (c.1 % s.mod1, c.2 % s.mod2)

theorem combine_eq (s : Sym) (cs : List Charge) : s.combine cs = s.red (sum1 cs, sum2 cs) := by
  cases s <;>
    simp only [combine_Z2, combine_Z4, combine_U1, combine_U1U1, combine_Z2Z2, red, mod1, mod2,
      Int.emod_zero, Int.emod_one]

theorem valid_iff (s : Sym) (c : Charge) : s.valid c = true ↔ s.red c = c := by
  obtain ⟨c1, c2⟩ := c
  cases s <;> simp only [Sym.valid, red, mod1, mod2, Int.emod_zero, Int.emod_one,
    Bool.and_eq_true, Bool.or_eq_true, beq_iff_eq, Prod.mk.injEq, true_and] <;> omega

/-- `sign · true` is negation up to reduction; on an invalid charge it need not be reduced
    (`Z2.sign(3) = 3`) -/
theorem red_sign (s : Sym) (c : Charge) : s.red (s.sign c true) = s.red (-c.1, -c.2) := by
  obtain ⟨c1, c2⟩ := c
  cases s <;> simp only [Sym.sign, red, mod1, mod2, Int.emod_zero, Int.emod_one, if_true,
    Prod.mk.injEq, and_true] <;> omega

theorem sign_false (s : Sym) (c : Charge) : s.sign c false = c := by
  cases s <;> rfl

theorem sign_valid (s : Sym) (c : Charge) (d : Bool) (h : s.valid c = true) :
    s.valid (s.sign c d) = true := by
  cases d
  · rw [sign_false]; exact h
  · obtain ⟨c1, c2⟩ := c
    cases s <;>
      simp only [Sym.sign, Sym.valid, Bool.and_eq_true, Bool.or_eq_true, beq_iff_eq, if_true,
        and_true] at * <;> omega

theorem parity_red (s : Sym) (c : Charge) : s.parity (s.red c) = s.parity c := by
  obtain ⟨c1, c2⟩ := c
  cases s <;> simp only [Sym.parity, red, mod1, mod2, Int.emod_zero, Int.emod_one] <;>
    congr 1 <;> omega

theorem parity_add (s : Sym) (a b : Charge) :
    s.parity (a.1 + b.1, a.2 + b.2) = xor (s.parity a) (s.parity b) := by
  cases s <;> simp only [Sym.parity] <;> apply beq_one_xor <;> omega

theorem neg_emod_emod (a n : Int) : (-(a % n)) % n = (-a) % n := by
  rw [← Int.zero_sub, Int.sub_emod_emod, Int.zero_sub]

theorem add_emod_of_zero {a b n : Int} (h : b % n = 0 % n) : (a + b) % n = a % n := by
  rw [← Int.add_emod_emod, h, Int.add_emod_emod, Int.add_zero]

theorem red_red (s : Sym) (c : Charge) : s.red (s.red c) = s.red c := by
  simp only [red, Int.emod_emod]

theorem red_congr (s : Sym) {a1 a2 b1 b2 : Int} (h1 : a1 = b1) (h2 : a2 = b2) :
    (a1 % s.mod1, a2 % s.mod2) = (b1 % s.mod1, b2 % s.mod2) := by rw [h1, h2]

theorem sign_emod1 (s : Sym) (c : Charge) : (s.sign c true).1 % s.mod1 = -c.1 % s.mod1 :=
  congrArg Prod.fst (red_sign s c)

theorem sign_emod2 (s : Sym) (c : Charge) : (s.sign c true).2 % s.mod2 = -c.2 % s.mod2 :=
  congrArg Prod.snd (red_sign s c)

theorem sign_true (s : Sym) (c : Charge) (h : s.valid c = true) :
    s.sign c true = s.red (-c.1, -c.2) := by
  rw [← red_sign, (valid_iff s _).mp (sign_valid s c true h)]

/-- `sym_mod` writes every `combine` as a reduced sum and pushes every inner `%` outwards: both sides
    of a law become `(linear % n₁, linear % n₂)`. -/
macro "sym_mod" : tactic => `(tactic|
  simp only [combine_eq, red, sum1_cons, sum1_nil, sum2_cons, sum2_nil, sum1_append, sum2_append,
    Int.add_zero, Int.emod_add_emod, Int.add_emod_emod, Int.emod_emod, neg_emod_emod])

theorem combine_valid (s : Sym) (cs : List Charge) : s.valid (s.combine cs) = true := by
  rw [valid_iff, combine_eq, red_red]

theorem combine_append (s : Sym) (xs ys : List Charge) :
    s.combine (xs ++ ys) = s.combine [s.combine xs, s.combine ys] := by
  sym_mod

theorem combine_cons (s : Sym) (x : Charge) (L : List Charge) :
    s.combine (x :: L) = s.combine [x, s.combine L] := by
  sym_mod

theorem combine_snoc (s : Sym) (xs : List Charge) (y : Charge) :
    s.combine (xs ++ [y]) = s.combine [s.combine xs, y] := by
  sym_mod

theorem combine_congr (s : Sym) {xs ys : List Charge} (h1 : sum1 xs = sum1 ys)
    (h2 : sum2 xs = sum2 ys) : s.combine xs = s.combine ys := by
  rw [combine_eq, combine_eq, h1, h2]

theorem combine_perm (s : Sym) {xs ys : List Charge} (h : xs.Perm ys) :
    s.combine xs = s.combine ys :=
  combine_congr s (sum1_perm h) (sum2_perm h)

theorem combine_comm (s : Sym) (a b : Charge) : s.combine [a, b] = s.combine [b, a] :=
  combine_perm s (List.Perm.swap b a [])

/-- holds for all charges: partial results are reduced -/
theorem combine_assoc (s : Sym) (a b c : Charge) :
    s.combine [s.combine [a, b], c] = s.combine [a, s.combine [b, c]] := by
  sym_mod
  simp only [Int.add_assoc]

theorem combine_cons_congr (s : Sym) {a b : Charge} (h : s.red a = s.red b) (L : List Charge) :
    s.combine (a :: L) = s.combine (b :: L) := by
  obtain ⟨h1, h2⟩ := Prod.mk.inj h
  simp only [combine_eq, red, sum1_cons, sum2_cons]
  rw [← Int.emod_add_emod, h1, Int.emod_add_emod, ← Int.emod_add_emod a.2, h2, Int.emod_add_emod]

theorem combine_singleton (s : Sym) (c : Charge) (h : s.valid c = true) : s.combine [c] = c := by
  rw [combine_eq]
  simp only [sum1_cons, sum1_nil, sum2_cons, sum2_nil, Int.add_zero]
  exact (valid_iff s c).mp h

theorem combine_combine (s : Sym) (L : List Charge) : s.combine [s.combine L] = s.combine L :=
  combine_singleton s _ (combine_valid s L)

theorem zero_eq (s : Sym) : s.zero = (0, 0) := by
  rw [Sym.zero, combine_eq]
  simp only [sum1_nil, sum2_nil, red, Int.zero_emod]

theorem zero_valid (s : Sym) : s.valid s.zero = true := combine_valid s []

theorem combine_zero_combine (s : Sym) (L : List Charge) :
    s.combine [s.zero, s.combine L] = s.combine L := by
  rw [show s.zero = s.combine [] from rfl, ← combine_append, List.nil_append]

theorem combine_combine_zero (s : Sym) (L : List Charge) :
    s.combine [s.combine L, s.zero] = s.combine L := by
  rw [show s.zero = s.combine [] from rfl, ← combine_append, List.append_nil]

theorem combine_zero_left (s : Sym) (c : Charge) (h : s.valid c = true) :
    s.combine [s.zero, c] = c := by
  have := combine_zero_combine s [c]
  rwa [combine_singleton s c h] at this

theorem combine_zero_right (s : Sym) (c : Charge) (h : s.valid c = true) :
    s.combine [c, s.zero] = c := by
  rw [combine_comm, combine_zero_left s c h]

theorem combine_sign_cancel (s : Sym) (c : Charge) :
    s.combine [c, s.sign c true] = s.zero := by
  unfold Sym.zero
  sym_mod
  rw [Int.add_emod _ (s.sign c true).1, sign_emod1, ← Int.add_emod,
    Int.add_emod _ (s.sign c true).2, sign_emod2, ← Int.add_emod]
  exact red_congr s (by omega) (by omega)

theorem combine_conj_pair (s : Sym) (c : Charge) (d : Bool) :
    s.combine [s.sign c (!d), s.sign c d] = s.zero := by
  cases d
  · rw [Bool.not_false, sign_false, combine_comm, combine_sign_cancel]
  · rw [Bool.not_true, sign_false, combine_sign_cancel]

theorem sign_sign (s : Sym) (c : Charge) (d : Bool) (h : s.valid c = true) :
    s.sign (s.sign c d) d = c := by
  cases d
  · rw [sign_false, sign_false]
  · rw [sign_true s _ (sign_valid s c true h), sign_true s c h]
    conv_rhs => rw [← (valid_iff s c).mp h]
    simp only [red, neg_emod_emod, Int.neg_neg]

theorem red_sign_sign (s : Sym) (c : Charge) : s.red (s.sign (s.sign c true) true) = s.red c := by
  rw [red_sign]
  simp only [red]
  rw [← neg_emod_emod, sign_emod1, neg_emod_emod, ← neg_emod_emod (s.sign c true).2, sign_emod2,
    neg_emod_emod, Int.neg_neg, Int.neg_neg]

theorem sign_zero (s : Sym) (d : Bool) : s.sign s.zero d = s.zero := by
  cases d
  · exact sign_false s _
  · rw [sign_true s _ (zero_valid s), zero_eq]
    simp only [red, Int.neg_zero, Int.zero_emod]

theorem sign_combine_pair (s : Sym) (x y : Charge) :
    s.sign (s.combine [x, y]) true = s.combine [s.sign x true, s.sign y true] := by
  rw [sign_true s _ (combine_valid s _)]
  sym_mod
  rw [Int.add_emod (s.sign x true).1, sign_emod1, sign_emod1, ← Int.add_emod,
    Int.add_emod (s.sign x true).2, sign_emod2, sign_emod2, ← Int.add_emod]
  exact red_congr s (by omega) (by omega)

theorem combine_sign_flip (s : Sym) (c z : Charge) (d : Bool) :
    s.combine [s.sign c (!d), s.sign z true] = s.sign (s.combine [s.sign c d, z]) true := by
  cases d
  · rw [Bool.not_false, sign_false, sign_combine_pair]
  · rw [Bool.not_true, sign_false, sign_combine_pair]
    exact (combine_cons_congr s (red_sign_sign s c) _).symm

theorem combine_cancel_mid (s : Sym) (A B x : Charge) (hx : s.valid x = true)
    (hAB : s.combine [A, B] = s.zero) : s.combine [s.combine [A, x], B] = x := by
  rw [valid_iff] at hx
  conv_rhs => rw [← hx]
  unfold Sym.zero at hAB
  revert hAB
  sym_mod
  intro hAB
  obtain ⟨h1, h2⟩ := Prod.mk.inj hAB
  rw [show A.1 + x.1 + B.1 = x.1 + (A.1 + B.1) by omega, add_emod_of_zero h1,
    show A.2 + x.2 + B.2 = x.2 + (A.2 + B.2) by omega, add_emod_of_zero h2]

theorem combine_cancel_left (s : Sym) (A B x : Charge) (hx : s.valid x = true)
    (hAB : s.combine [A, B] = s.zero) : s.combine [A, s.combine [x, B]] = x := by
  rw [← combine_assoc, combine_cancel_mid s A B x hx hAB]

/-- solving `A + (±r) = t` for `r`, given the inverse `B` of `A`: cancel `A`, undo the sign -/
theorem solve_last (s : Sym) (A B t r : Charge) (d : Bool)
    (ht : s.valid t = true) (hr : s.valid r = true) (hAB : s.combine [A, B] = s.zero) :
    s.combine [A, s.sign r d] = t ↔ r = s.sign (s.combine [t, B]) d := by
  constructor
  · rintro rfl
    rw [combine_cancel_mid s A B _ (sign_valid s r d hr) hAB, sign_sign s r d hr]
  · rintro rfl
    rw [sign_sign s _ d (combine_valid s _), combine_cancel_left s A B t ht hAB]

theorem combine_anti (s : Sym) (p : List Charge) (ds : List Bool) :
    s.combine [s.combine (List.zipWith (fun c d => s.sign c d) p ds),
               s.combine (List.zipWith (fun c d => s.sign c (!d)) p ds)] = s.zero := by
  induction p generalizing ds with
  | nil => simp only [List.zipWith_nil_left]; exact (combine_append s [] []).symm
  | cons c p ih =>
    cases ds with
    | nil => exact (combine_append s [] []).symm
    | cons d ds =>
      have ih' := ih ds
      simp only [List.zipWith_cons_cons]
      generalize List.zipWith (fun c d => s.sign c d) p ds = X at *
      generalize List.zipWith (fun c d => s.sign c (!d)) p ds = Y at *
      -- bring the two heads together: they cancel, and so do the tails
      rw [← combine_append,
        combine_congr s (ys := [s.sign c (!d), s.sign c d] ++ (X ++ Y))
          (by simp only [sum1_append, sum1_cons, List.cons_append, List.nil_append]; omega)
          (by simp only [sum2_append, sum2_cons, List.cons_append, List.nil_append]; omega),
        combine_append, combine_conj_pair, combine_append, ih']
      exact (combine_append s [] []).symm

theorem parity_zero_charge (s : Sym) : s.parity (0, 0) = false := by
  have := parity_add s (0, 0) (0, 0)
  rwa [Bool.xor_self] at this

theorem parity_zero (s : Sym) : s.parity s.zero = false := by
  rw [zero_eq]; exact parity_zero_charge s

theorem parity_combine_cons (s : Sym) (c : Charge) (cs : List Charge) :
    s.parity (s.combine (c :: cs)) = xor (s.parity c) (s.parity (s.combine cs)) := by
  rw [combine_eq, combine_eq, parity_red, parity_red, sum1_cons, sum2_cons]
  exact parity_add s c (sum1 cs, sum2 cs)

theorem parity_combine (s : Sym) (cs : List Charge) :
    s.parity (s.combine cs) = cs.foldr (fun c acc => xor (s.parity c) acc) false := by
  induction cs with
  | nil => exact parity_zero s
  | cons c cs ih => rw [parity_combine_cons, ih]; rfl

theorem parity_combine_pair (s : Sym) (a b : Charge) :
    s.parity (s.combine [a, b]) = xor (s.parity a) (s.parity b) := by
  rw [parity_combine]; simp

/-- negation preserves parity (every charge): `c + (-c) = 0` is even -/
theorem parity_sign (s : Sym) (c : Charge) (d : Bool) : s.parity (s.sign c d) = s.parity c := by
  cases d
  · rw [sign_false]
  · have h := parity_combine_pair s c (s.sign c true)
    rw [combine_sign_cancel, parity_zero] at h
    cases hc : s.parity c <;> cases hs : s.parity (s.sign c true) <;> simp_all

end Sym

theorem mem_cartesian {α : Type} {ls : List (List α)} {s : List α} :
    s ∈ cartesian ls ↔ List.Forall₂ (fun x l => x ∈ l) s ls := by
  induction ls generalizing s with
  | nil => simp [cartesian]
  | cons l ls ih =>
    simp only [cartesian, List.mem_flatMap, List.mem_map, List.forall₂_cons_right_iff]
    constructor
    · rintro ⟨a, ha, r, hr, rfl⟩
      exact ⟨a, r, ha, ih.mp hr, rfl⟩
    · rintro ⟨a, r, ha, hr, rfl⟩
      exact ⟨a, ha, r, ih.mpr hr, rfl⟩

theorem cartesian_nodup {α : Type} {ls : List (List α)} (h : ∀ l ∈ ls, l.Nodup) :
    (cartesian ls).Nodup := by
  induction ls with
  | nil => simp [cartesian]
  | cons l ls ih =>
    have hl : l.Nodup := h l (by simp)
    have hls : (cartesian ls).Nodup := ih (fun l' hl' => h l' (by simp [hl']))
    simp only [cartesian]
    rw [List.nodup_flatMap]
    refine ⟨fun a _ => hls.map (fun x y hxy => (List.cons.inj hxy).2), ?_⟩
    refine List.Pairwise.imp ?_ hl
    intro a b hab
    simp only [Function.onFun, List.disjoint_left, List.mem_map]
    rintro s ⟨r, _, rfl⟩ ⟨r', _, h'⟩
    exact hab (List.cons.inj h').1.symm

theorem forall₂_concat_right {α β : Type} {R : α → β → Prop} {s : List α} {l : List β} {x : β} :
    List.Forall₂ R s (l ++ [x]) ↔ ∃ p r, s = p ++ [r] ∧ List.Forall₂ R p l ∧ R r x := by
  induction l generalizing s with
  | nil =>
    simp only [List.nil_append, List.forall₂_cons_right_iff, List.forall₂_nil_right_iff]
    constructor
    · rintro ⟨a, u, hr, rfl, rfl⟩
      exact ⟨[], a, rfl, rfl, hr⟩
    · rintro ⟨p, r, rfl, rfl, hr⟩
      exact ⟨r, [], hr, rfl, rfl⟩
  | cons b l ih =>
    simp only [List.cons_append, List.forall₂_cons_right_iff]
    constructor
    · rintro ⟨a, u, hab, hu, rfl⟩
      obtain ⟨p, r, rfl, hp, hr⟩ := ih.mp hu
      exact ⟨a :: p, r, rfl, ⟨a, p, hab, hp, rfl⟩, hr⟩
    · rintro ⟨p, r, rfl, ⟨a, p', hab, hp', rfl⟩, hr⟩
      exact ⟨a, p' ++ [r], hab, ih.mpr ⟨p', r, rfl, hp', hr⟩, rfl⟩

namespace Arr
open Sym
variable {R : Type}

/-- solving the charge constraint for the last charge, as `gen_valid_sectors` does -/
theorem solve_sector (s : Sym) (first : List Index) (last : Index) (t : Charge)
    (p : List Charge) (r : Charge) (hlen : p.length = first.length)
    (ht : s.valid t = true) (hr : s.valid r = true) :
    sectorCharge s ((first ++ [last]).map Index.dual) (p ++ [r]) = t ↔
      r = s.sign (s.combine [t, s.combine
            (List.zipWith (fun c (ix : Index) => s.sign c (!ix.dual)) p first)]) last.dual := by
  have hz : List.zipWith (fun c (ix : Index) => s.sign c (!ix.dual)) p first
      = List.zipWith (fun c d => s.sign c (!d)) p (first.map Index.dual) := by
    rw [List.zipWith_map_right]
  unfold sectorCharge
  rw [hz, List.map_append, List.map_cons, List.map_nil,
    List.zipWith_append (by simp [hlen]), List.zipWith_cons_cons, List.zipWith_nil_left,
    combine_snoc]
  exact solve_last s _ _ t r last.dual ht hr (combine_anti s p _)

theorem mem_genValidSectors (a : Arr R)
    (hidx : ∀ ix ∈ a.indices, ∀ c ∈ ix.charges, a.sym.valid c = true)
    (hch : a.sym.valid a.charge = true) (s : Sector) :
    s ∈ a.genValidSectors ↔
      List.Forall₂ (fun c (ix : Index) => c ∈ ix.charges) s a.indices ∧ a.isValidSector s = true := by
  unfold genValidSectors
  split
  next h0 =>
    have hI : a.indices = [] := by simpa using h0
    simp only [hI, List.forall₂_nil_right_iff, isValidSector, duals, List.map_nil]
    constructor
    · intro h
      split at h
      next hc =>
        have hs : s = [] := by simpa using h
        subst hs
        refine ⟨rfl, ?_⟩
        simp only [sectorCharge, List.zipWith_nil_left, beq_iff_eq] at hc ⊢
        exact hc.symm
      next => simp at h
    · rintro ⟨rfl, hc⟩
      simp only [sectorCharge, List.zipWith_nil_left, beq_iff_eq] at hc
      have : (a.charge == a.sym.zero) = true := by
        simp only [beq_iff_eq]; exact hc.symm
      simp [this]
  next last revFirst h0 =>
    have hI : a.indices = revFirst.reverse ++ [last] := by
      have := congrArg List.reverse h0
      simpa using this
    have hlast : ∀ c ∈ last.charges, a.sym.valid c = true :=
      hidx last (by rw [hI]; simp)
    generalize revFirst.reverse = first at *
    simp only [List.mem_filterMap, mem_cartesian, List.forall₂_map_right_iff, isValidSector,
      duals, hI, forall₂_concat_right, beq_iff_eq]
    constructor
    · rintro ⟨p, hp, hf⟩
      split at hf
      next hcont =>
        have hs := Option.some.inj hf
        subst hs
        have hmem := List.contains_iff_mem.mp hcont
        refine ⟨⟨p, _, rfl, hp, hmem⟩, ?_⟩
        exact (solve_sector a.sym first last a.charge p _ hp.length_eq hch
          (hlast _ hmem)).mpr rfl
      next => simp at hf
    · rintro ⟨⟨p, r, rfl, hp, hr⟩, hc⟩
      have hreq := (solve_sector a.sym first last a.charge p r hp.length_eq hch
          (hlast _ hr)).mp hc
      refine ⟨p, hp, ?_⟩
      rw [← hreq, if_pos (List.contains_iff_mem.mpr hr)]

theorem genValidSectors_nodup_aux (a : Arr R) (h : ∀ ix ∈ a.indices, ix.charges.Nodup) :
    a.genValidSectors.Nodup := by
  unfold genValidSectors
  split
  next => split <;> simp
  next last revFirst h0 =>
    have hI : a.indices = revFirst.reverse ++ [last] := by
      have := congrArg List.reverse h0
      simpa using this
    refine List.Nodup.filterMap ?_ (cartesian_nodup ?_)
    · intro p p' b hb hb'
      simp only [Option.mem_def] at hb hb'
      split at hb
      next =>
        split at hb'
        next =>
          have e := (Option.some.inj hb).trans (Option.some.inj hb').symm
          exact (List.append_inj' e rfl).1
        next => simp at hb'
      next => simp at hb
    · intro l hl
      obtain ⟨ix, hix, rfl⟩ := List.mem_map.mp hl
      exact h ix (by rw [hI]; exact List.mem_append_left _ hix)

end Arr
end SymmModel
