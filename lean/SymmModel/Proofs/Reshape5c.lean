/-
  SymmModel.Proofs.Reshape5c — the multi-group / multi-call round trip, generically in the unfuse
  step (`FuseP.StepOK`) and the fuse call: what one fuse call of a forward plan looks like (`CallOk`)
  and what it does (`FuseOK`).  The invariant along the calls is `ReshapeH.InvH` (Proofs/ReshapeHb).
-/
import SymmModel.Proofs.Reshape5b

namespace SymmModel
namespace Reshape5
open C07 ReshapeP FuseP

variable {R : Type} [Zero R] [Neg R] [Lazy.LawfulNeg R]

/-- one fuse call: groups `G` that are the consecutive axes from `P` on, every group with at least
    two axes, all of them at or after axis `lb` -/
structure CallOk (G : List (List Nat)) (P lb nd : Nat) : Prop where
  ne : G ≠ []
  two : ∀ g ∈ G, 2 ≤ g.length
  flat : G.flatten = List.range' P G.flatten.length
  lb : lb ≤ P
  le : P + G.flatten.length ≤ nd

/-- what a fuse call does (on arrays satisfying `Good`) -/
structure FuseOK (fuse : Arr R → List (List Nat) → Except Err (Arr R))
    (unf : Arr R → Nat → Except Err (Arr R)) (Good : Arr R → Prop) : Prop where
  fuse : ∀ (y : Arr R) (G : List (List Nat)) (P : Nat), Good y → G ≠ [] → (∀ g ∈ G, 2 ≤ g.length) →
    G.flatten = List.range' P G.flatten.length → P + G.flatten.length ≤ y.ndim →
    ∃ y' mids w, fuse y G = .ok y' ∧ Good y'
      ∧ y'.indices = y.indices.take P ++ mids ++ y.indices.drop (P + G.flatten.length)
      ∧ mids.length = G.length
      ∧ (∀ (i : Nat) (g : List Nat), G[i]? = some g → ∃ (ix : Index) (exts : Extents), mids[i]? = some ix
          ∧ ix.sub = some (g.map (fun ax => y.indices.getD ax default), exts))
      ∧ ((List.range G.length).map (fun g => P + g)).reverse.foldlM unf y' = .ok w ∧ Good w ∧ VEq w y

end Reshape5
end SymmModel
