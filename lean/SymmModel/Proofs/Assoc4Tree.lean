/-
  SymmModel.Proofs.Assoc4Tree — chains of `n` tensors: bracketing trees, their evaluation, the
  left-nested evaluation of a list, and the theorem "every bracketing is equivalent to the
  left-nested contraction".
-/
import SymmModel.Proofs.Assoc4Seg

namespace SymmModel
namespace Assoc4P
open GradedP AssocP Assoc3P
set_option linter.unusedSectionVars false

variable {R : Type}

/-- a bracketing of a chain: binary tree whose leaves are the tensors (with their open bonds) in
    chain order -/
inductive STree (R : Type) where
  | leaf (S : Seg R) : STree R
  | node (a b : STree R) : STree R

namespace STree
def first : STree R → Seg R
  | leaf S => S
  | node a _ => a.first
def last : STree R → Seg R
  | leaf S => S
  | node _ b => b.last
/-- the leaves after the first one -/
def rest : STree R → List (Seg R)
  | leaf _ => []
  | node a b => a.rest ++ b.first :: b.rest
def labels : STree R → List (Int × Bool)
  | leaf S => S.arr.oddpos
  | node a b => a.labels ++ b.labels
/-- every leaf is a valid fermionic tensor with disjoint in-range bonds, consecutive leaves are
    linked (a condition on the LEAF SEQUENCE only) -/
def OK : STree R → Prop
  | leaf S => LeafOK S
  | node a b => a.OK ∧ b.OK ∧ Link a.last b.first
def eval [Zero R] [Add R] [Mul R] [Neg R] : STree R → Except Err (Seg R)
  | leaf S => .ok S
  | node a b =>
    match a.eval, b.eval with
    | .ok s1, .ok s2 => s1.comp s2
    | .error e, _ => .error e
    | .ok _, .error e => .error e
end STree

/-- left-nested contraction `(((S·y₁)·y₂)·…)` -/
def evalL [Zero R] [Add R] [Mul R] [Neg R] : Seg R → List (Seg R) → Except Err (Seg R)
  | S, [] => .ok S
  | S, y :: ys =>
    match S.comp y with
    | .ok s => evalL s ys
    | .error e => .error e

def lastD : Seg R → List (Seg R) → Seg R
  | S, [] => S
  | _, y :: ys => lastD y ys
def flatL : List (Seg R) → List (Int × Bool)
  | [] => []
  | y :: ys => y.arr.oddpos ++ flatL ys
def linked : Seg R → List (Seg R) → Prop
  | _, [] => True
  | S, y :: ys => Link S y ∧ LeafOK y ∧ linked y ys

theorem lastD_append (S y : Seg R) (xs ys : List (Seg R)) :
    lastD S (xs ++ y :: ys) = lastD y ys := by
  induction xs generalizing S with
  | nil => rfl
  | cons x xs ih => exact ih x

theorem flatL_append (xs ys : List (Seg R)) : flatL (xs ++ ys) = flatL xs ++ flatL ys := by
  induction xs with
  | nil => rfl
  | cons x xs ih => simp only [List.cons_append, flatL, ih, List.append_assoc]

theorem linked_append (S y : Seg R) (xs ys : List (Seg R)) (h1 : linked S xs)
    (h2 : Link (lastD S xs) y) (h3 : LeafOK y) (h4 : linked y ys) : linked S (xs ++ y :: ys) := by
  induction xs generalizing S with
  | nil => exact ⟨h2, h3, h4⟩
  | cons x xs ih => exact ⟨h1.1, h1.2.1, ih x h1.2.2 h2⟩

theorem evalL_append [Zero R] [Add R] [Mul R] [Neg R] (S T : Seg R) (xs ys : List (Seg R))
    (h : evalL S xs = .ok T) : evalL S (xs ++ ys) = evalL T ys := by
  induction xs generalizing S with
  | nil =>
    simp only [evalL, Except.ok.injEq] at h
    subst h; rfl
  | cons x xs ih =>
    simp only [List.cons_append, evalL] at h ⊢
    cases hc : S.comp x with
    | error e => rw [hc] at h; cases h
    | ok s => rw [hc] at h; exact ih s h

namespace STree
theorem ok_first {t : STree R} (h : t.OK) : LeafOK t.first := by
  induction t with
  | leaf S => exact h
  | node a b iha _ => exact iha h.1

theorem lastD_rest (t : STree R) : lastD t.first t.rest = t.last := by
  induction t with
  | leaf S => rfl
  | node a b _ ihb =>
    show lastD a.first (a.rest ++ b.first :: b.rest) = b.last
    rw [lastD_append, ihb]

theorem labels_eq (t : STree R) : t.labels = t.first.arr.oddpos ++ flatL t.rest := by
  induction t with
  | leaf S => simp [labels, first, rest, flatL]
  | node a b iha ihb =>
    show a.labels ++ b.labels = a.first.arr.oddpos ++ flatL (a.rest ++ b.first :: b.rest)
    rw [flatL_append, iha, ihb]
    simp only [flatL, List.append_assoc]

theorem linked_rest {t : STree R} (h : t.OK) : linked t.first t.rest := by
  induction t with
  | leaf S => trivial
  | node a b iha ihb =>
    show linked a.first (a.rest ++ b.first :: b.rest)
    exact linked_append _ _ _ _ (iha h.1) (by rw [lastD_rest]; exact h.2.2) (ok_first h.2.1)
      (ihb h.2.1)
end STree

section main
variable [AddCommMonoid R] [Mul R] [Neg R] [SignRing R] [AssocLaws R]

theorem evalL_cons_ok {S y s : Seg R} {ys : List (Seg R)} (h : S.comp y = .ok s) :
    evalL S (y :: ys) = evalL s ys := by
  show (match S.comp y with
    | .ok s => evalL s ys
    | .error e => .error e) = _
  rw [h]

theorem evalL_good {F La T : Seg R} {labs : List (Int × Bool)} (ys : List (Seg R))
    (g : Good F La labs T) (hl : linked La ys)
    (hd : OddposP.LabelsDistinct (labs ++ flatL ys)) :
    ∃ TL, evalL T ys = .ok TL ∧ Good F (lastD La ys) (labs ++ flatL ys) TL := by
  induction ys generalizing T La labs with
  | nil => exact ⟨T, rfl, by simpa [flatL, lastD] using g⟩
  | cons y ys ih =>
    obtain ⟨lk, hy, hl'⟩ := hl
    have hd1 : OddposP.LabelsDistinct (labs ++ y.arr.oddpos) :=
      dist_of hd _ (List.Perm.refl _) (by
        show (labs ++ y.arr.oddpos).Sublist (labs ++ (y.arr.oddpos ++ flatL ys))
        rw [← List.append_assoc]; exact List.sublist_append_left _ _)
    obtain ⟨T', e, g'⟩ := comp_good g (Good.leaf hy) lk hd1
    obtain ⟨TL, e', gl⟩ := ih g' hl' (by
      show OddposP.LabelsDistinct (labs ++ y.arr.oddpos ++ flatL ys)
      rw [List.append_assoc]; exact hd)
    refine ⟨TL, by rw [evalL_cons_ok e]; exact e', ?_⟩
    show Good F (lastD y ys) (labs ++ (y.arr.oddpos ++ flatL ys)) TL
    rw [← List.append_assoc]; exact gl

theorem evalL_congr {F La T T' X : Seg R} {labs : List (Int × Bool)} (ys : List (Seg R))
    (g : Good F La labs T) (g' : Good F La labs T') (he : SegEqv T T') (hl : linked La ys)
    (hd : OddposP.LabelsDistinct (labs ++ flatL ys)) (h : evalL T ys = .ok X) :
    ∃ X', evalL T' ys = .ok X' ∧ SegEqv X X' := by
  induction ys generalizing T T' La labs with
  | nil =>
    simp only [evalL, Except.ok.injEq] at h
    subst h
    exact ⟨T', rfl, he⟩
  | cons y ys ih =>
    obtain ⟨lk, hy, hl'⟩ := hl
    have hd1 : OddposP.LabelsDistinct (labs ++ y.arr.oddpos) :=
      dist_of hd _ (List.Perm.refl _) (by
        show (labs ++ y.arr.oddpos).Sublist (labs ++ (y.arr.oddpos ++ flatL ys))
        rw [← List.append_assoc]; exact List.sublist_append_left _ _)
    obtain ⟨U, eU, gU⟩ := comp_good g (Good.leaf hy) lk hd1
    obtain ⟨U', eU', gU'⟩ := comp_good g' (Good.leaf hy) lk hd1
    obtain ⟨U'', eU'', hE⟩ := comp_congr g (Good.leaf hy) lk he (SegEqv.refl y) g'.ok.valid hy.valid eU
    rw [eU'] at eU''
    obtain rfl := Except.ok.inj eU''
    rw [evalL_cons_ok eU] at h
    rw [evalL_cons_ok eU']
    exact ih gU gU' hE hl' (by
      show OddposP.LabelsDistinct (labs ++ y.arr.oddpos ++ flatL ys)
      rw [List.append_assoc]; exact hd) h

/-- `T1 ∘ (left-nested contraction starting with T2)` is equivalent to the left-nested
    contraction starting with `T1 ∘ T2` -/
theorem comp_evalL {F1 L1 F2 L2 T1 T2 Y : Seg R} {labs1 labs2 : List (Int × Bool)}
    (ys : List (Seg R)) (g1 : Good F1 L1 labs1 T1) (g2 : Good F2 L2 labs2 T2) (lk : Link L1 F2)
    (hl : linked L2 ys) (hd : OddposP.LabelsDistinct (labs1 ++ labs2 ++ flatL ys))
    (h : evalL T2 ys = .ok Y) :
    ∃ X X' T12, T1.comp Y = .ok X ∧ T1.comp T2 = .ok T12 ∧ evalL T12 ys = .ok X' ∧ SegEqv X X' := by
  induction ys generalizing T2 L2 labs2 Y with
  | nil =>
    simp only [evalL, Except.ok.injEq] at h
    subst h
    obtain ⟨T12, e, _⟩ := comp_good g1 g2 lk (by simpa [flatL] using hd)
    exact ⟨T12, T12, T12, e, e, rfl, SegEqv.refl _⟩
  | cons z zs ih =>
    obtain ⟨lkz, hz, hl'⟩ := hl
    have hd' : OddposP.LabelsDistinct (labs1 ++ labs2 ++ z.arr.oddpos ++ flatL zs) := by
      have : labs1 ++ labs2 ++ flatL (z :: zs) = labs1 ++ labs2 ++ z.arr.oddpos ++ flatL zs := by
        show labs1 ++ labs2 ++ (z.arr.oddpos ++ flatL zs) = _
        rw [← List.append_assoc]
      rw [← this]; exact hd
    have hd3 : OddposP.LabelsDistinct (labs1 ++ labs2 ++ z.arr.oddpos) :=
      dist_of hd' _ (List.Perm.refl _) (List.sublist_append_left _ _)
    have hd12 : OddposP.LabelsDistinct (labs1 ++ labs2) :=
      dist_of hd3 _ (List.Perm.refl _) (List.sublist_append_left _ _)
    have hd2z : OddposP.LabelsDistinct (labs2 ++ z.arr.oddpos) :=
      dist_of hd3 _ (List.Perm.refl _) (by rw [List.append_assoc]; exact List.sublist_append_right _ _)
    obtain ⟨U, eU, gU⟩ := comp_good g2 (Good.leaf hz) lkz hd2z
    rw [evalL_cons_ok eU] at h
    obtain ⟨X, X'', T1U, eX, eT1U, eX'', hXX''⟩ := ih gU hl' (by
      show OddposP.LabelsDistinct (labs1 ++ (labs2 ++ z.arr.oddpos) ++ flatL zs)
      rw [← List.append_assoc]; exact hd') h
    obtain ⟨S12, S23, L, Rr, a1, a2, a3, a4, hRL⟩ := assoc_good g1 g2 (Good.leaf hz) lk lkz hd3
    rw [eU] at a3
    obtain rfl := Except.ok.inj a3
    rw [eT1U] at a4
    obtain rfl := Except.ok.inj a4
    obtain ⟨S12', b1, g12⟩ := comp_good g1 g2 lk hd12
    rw [a1] at b1
    obtain rfl := Except.ok.inj b1
    obtain ⟨L', b2, gL⟩ := comp_good g12 (Good.leaf hz) lkz hd3
    rw [a2] at b2
    obtain rfl := Except.ok.inj b2
    obtain ⟨R', b3, gR⟩ := comp_good g1 gU lk (by rw [← List.append_assoc]; exact hd3)
    rw [eT1U] at b3
    obtain rfl := Except.ok.inj b3
    rw [← List.append_assoc] at gR
    obtain ⟨X', eX', hX''X'⟩ := evalL_congr zs gR gL hRL hl' hd' eX''
    exact ⟨X, X', S12, eX, a1, by rw [evalL_cons_ok a2]; exact eX', hXX''.trans hX''X'⟩

/-- **every bracketing of a chain** (leaves `OK`, distinct labels) **succeeds, keeps the invariants, and
    is equivalent to the left-nested contraction of its leaf sequence** -/
theorem tree_eqv_leftnested (t : STree R) (hok : t.OK) (hd : OddposP.LabelsDistinct t.labels) :
    ∃ T TL, t.eval = .ok T ∧ Good t.first t.last t.labels T
      ∧ evalL t.first t.rest = .ok TL ∧ Good t.first t.last t.labels TL ∧ SegEqv T TL := by
  induction t with
  | leaf S =>
    exact ⟨S, S, rfl, Good.leaf hok, rfl, Good.leaf hok, SegEqv.refl S⟩
  | node a b iha ihb =>
    obtain ⟨oa, ob, lk⟩ := hok
    have hda : OddposP.LabelsDistinct a.labels :=
      dist_of hd _ (List.Perm.refl _) (List.sublist_append_left _ _)
    have hdb : OddposP.LabelsDistinct b.labels :=
      dist_of hd _ (List.Perm.refl _) (List.sublist_append_right _ _)
    obtain ⟨Ta, TLa, ea, ga, eLa, gLa, hEa⟩ := iha oa hda
    obtain ⟨Tb, TLb, eb, gb, eLb, gLb, hEb⟩ := ihb ob hdb
    obtain ⟨T, eT, gT⟩ := comp_good ga gb lk hd
    obtain ⟨T', eT', hTT'⟩ := comp_congr ga gb lk hEa hEb gLa.ok.valid gLb.ok.valid eT
    have hd3 : OddposP.LabelsDistinct (a.labels ++ b.first.arr.oddpos ++ flatL b.rest) := by
      rw [List.append_assoc, ← STree.labels_eq]; exact hd
    obtain ⟨X, X', T12, eX, e12, eX', hXX'⟩ := comp_evalL b.rest gLa (Good.leaf (STree.ok_first ob)) lk
      (STree.linked_rest ob) hd3 eLb
    rw [eT'] at eX
    obtain rfl := Except.ok.inj eX
    have eL : evalL a.first (a.rest ++ b.first :: b.rest) = .ok X' := by
      rw [evalL_append _ _ _ _ eLa, evalL_cons_ok e12]; exact eX'
    have hfin : SegEqv T X' := hTT'.trans hXX'
    obtain ⟨TL', eTL', gTL'⟩ := evalL_good (STree.node a b).rest (Good.leaf (STree.ok_first (t := STree.node a b) ⟨oa, ob, lk⟩))
      (STree.linked_rest (t := STree.node a b) ⟨oa, ob, lk⟩) (by rw [← STree.labels_eq]; exact hd)
    have eL' : evalL (STree.node a b).first (STree.node a b).rest = .ok X' := eL
    rw [eL'] at eTL'
    obtain rfl := Except.ok.inj eTL'
    rw [STree.lastD_rest, ← STree.labels_eq] at gTL'
    refine ⟨T, X', ?_, gT, eL, gTL', hfin⟩
    show (match a.eval, b.eval with
      | .ok s1, .ok s2 => s1.comp s2
      | .error e, _ => .error e
      | .ok _, .error e => .error e) = _
    rw [ea, eb]
    exact eT

end main

end Assoc4P
end SymmModel
