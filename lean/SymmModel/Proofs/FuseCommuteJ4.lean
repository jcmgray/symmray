/-
  SymmModel.Proofs.FuseCommuteJ4 — `tensordot_fuse_free_commute_fermionic_two_sided_signs`: the form
  of FuseCommuteJ3 with the fuse signs of the intermediate results replaced by those of the operands
  (`TdotP.fuseSignT_lead_result`: operand and contraction result carry the same fuse sign on the
  leading free legs).
  Namespace `SymmModel.C06`.
-/
import SymmModel.Proofs.FuseCommuteJ3

namespace SymmModel.C06
open SymmModel SymmModel.TdotP SymmModel.GradedP SymmModel.RoutesP SymmModel.AssocP
open SymmModel.Assoc3P SymmModel.Assoc4P
open SymmModel.Lazy (sgnI)

variable {R : Type}

/-- `tensordot_fuse_free_commute_fermionic_two_sided_any_mode` with the two fuse signs expressed by the
    OPERANDS: the fuse sign of `a`'s leading group at `Sa` and the fuse sign of `b`'s leading group at `Sb` -/
theorem tensordot_fuse_free_commute_fermionic_two_sided_signs [AddCommMonoid R] [Mul R] [Neg R] [SignRing R]
    (hz1 : ∀ x : R, 0 * x = 0) (hz2 : ∀ x : R, x * 0 = 0) (hmul : ∀ x y : R, x * y = y * x)
    (a b cm : Arr R) (xa xb : List Nat) (ka kb : Nat) (e : Bool) (m1 m2 : TdotMode)
    (ha : a.validB = true) (hb : b.validB = true) (hfa : a.fermi = true) (hfb : b.fermi = true)
    (hadm : tdotAdmissibleCommonB a b xa xb = true)
    (hd : (a.oddpos ++ b.oddpos).Pairwise (fun x y => x.1 ≠ y.1))
    (hka1 : 1 ≤ ka) (hka : ka ≤ a.ndim) (hxa : ∀ x ∈ xa, ka ≤ x)
    (hkb1 : 1 ≤ kb) (hkb : kb ≤ b.ndim) (hxb : ∀ x ∈ xb, kb ≤ x)
    (hcm : a.tensordotF b (.pair (xa.map Int.ofNat) (xb.map Int.ofNat)) m1 = .ok cm) :
    a.fuseF [List.range ka] .insert e
        = .ok (FuseP.fusedArrM (FuseP.signAdj a [List.range ka]) [List.range ka])
    ∧ b.fuseF [List.range kb] .insert e
        = .ok (FuseP.fusedArrM (FuseP.signAdj b [List.range kb]) [List.range kb])
    ∧ ∃ c' cP cPPm,
      b.tensordotF a (.pair (xb.map Int.ofNat) (xa.map Int.ofNat)) .blockwise = .ok c'
      ∧ a.tensordotF (FuseP.fusedArrM (FuseP.signAdj b [List.range kb]) [List.range kb])
          (.pair (xa.map Int.ofNat) ((xb.map (sh kb)).map Int.ofNat)) .blockwise = .ok cP
      ∧ (FuseP.fusedArrM (FuseP.signAdj a [List.range ka]) [List.range ka]).tensordotF
          (FuseP.fusedArrM (FuseP.signAdj b [List.range kb]) [List.range kb])
          (.pair ((xa.map (sh ka)).map Int.ofNat) ((xb.map (sh kb)).map Int.ofNat)) m2 = .ok cPPm
      ∧ c'.fuseF [List.range kb] .insert e
          = .ok (FuseP.fusedArrM (FuseP.signAdj c' [List.range kb]) [List.range kb])
      ∧ cP.fuseF [List.range ka] .insert e
          = .ok (FuseP.fusedArrM (FuseP.signAdj cP [List.range ka]) [List.range ka])
      ∧ kb ≤ c'.ndim ∧ ka ≤ cP.ndim
      ∧ ∀ (c0a c2a c0b c2b : Charge) (i0a d0a i2a d2a i0b d0b i2b d2b : Nat)
          (Sa Sb restL restR : Sector) (Oa Ob orestL orestR shp1 shp2 : List Nat),
        -- the left fused position
        decAx (FuseP.signAdj a [List.range ka]) [List.range ka] 0 c0a i0a = some (Sa, Oa) →
        (FuseP.ixM (FuseP.signAdj a [List.range ka]) [List.range ka] 0).sizeOf? c0a = some d0a →
        i0a < d0a →
        decAx (FuseP.signAdj cP [List.range ka]) [List.range ka] 0 c2a i2a = some (Sa, Oa) →
        (FuseP.ixM (FuseP.signAdj cP [List.range ka]) [List.range ka] 0).sizeOf? c2a = some d2a →
        i2a < d2a →
        -- the right fused position
        decAx (FuseP.signAdj b [List.range kb]) [List.range kb] 0 c0b i0b = some (Sb, Ob) →
        (FuseP.ixM (FuseP.signAdj b [List.range kb]) [List.range kb] 0).sizeOf? c0b = some d0b →
        i0b < d0b →
        decAx (FuseP.signAdj c' [List.range kb]) [List.range kb] 0 c2b i2b = some (Sb, Ob) →
        (FuseP.ixM (FuseP.signAdj c' [List.range kb]) [List.range kb] 0).sizeOf? c2b = some d2b →
        i2b < d2b →
        -- the rest of the address lies inside the tables of `cP` resp. `c'`
        Arr.blockShape? (cP.indices.drop ka) (restL ++ c0b :: restR) = some shp1 →
        inBox shp1 (orestL ++ i0b :: orestR) = true →
        Arr.blockShape? (c'.indices.drop kb) (restR ++ (Sa ++ restL)) = some shp2 →
        inBox shp2 (orestR ++ (Oa ++ orestL)) = true →
        (Sa ++ restL).length = (freeAxes a.ndim xa).length →
        (Oa ++ orestL).length = (freeAxes a.ndim xa).length →
        restR.length + 1 = (freeAxes (1 + (b.ndim - kb)) (xb.map (sh kb))).length →
        orestR.length = restR.length →
        (Sb ++ restR).length = (freeAxes b.ndim xb).length →
        (Ob ++ orestR).length = (freeAxes b.ndim xb).length →
        -- the addresses lie inside the operands' tables
        inBox (Arr.blockShapeD
            (without (FuseP.fusedArrM (FuseP.signAdj b [List.range kb]) [List.range kb]).indices
                (xb.map (sh kb)) ++ without a.indices xa) ((c0b :: restR) ++ (Sa ++ restL)))
          ((i0b :: orestR) ++ (Oa ++ orestL)) = true →
        inBox (Arr.blockShapeD (without a.indices xa ++ without b.indices xb)
            ((Sa ++ restL) ++ (Sb ++ restR))) ((Oa ++ orestL) ++ (Ob ++ orestR)) = true →
        -- the address of the pre-fused contraction lies inside the tables of the fused operands
        inBox (Arr.blockShapeD
            (without (FuseP.fusedArrM (FuseP.signAdj a [List.range ka]) [List.range ka]).indices
                (xa.map (sh ka))
              ++ without (FuseP.fusedArrM (FuseP.signAdj b [List.range kb]) [List.range kb]).indices
                (xb.map (sh kb))) (c0a :: (restL ++ c0b :: restR)))
          (i0a :: (orestL ++ i0b :: orestR)) = true →
        cPPm.elem (c0a :: (restL ++ c0b :: restR)) (i0a :: (orestL ++ i0b :: orestR))
          = sgnI (FuseP.fuseSignT a [List.range ka] (Sa ++ restL))
             (sgnI (koszul (((c0b :: restR) ++ (Sa ++ restL)).map a.sym.parity)
                (some ((List.range (Sa ++ restL).length).map ((restR.length + 1) + ·)
                  ++ List.range (restR.length + 1))))
              (sgnI (FuseP.fuseSignT b [List.range kb] (Sb ++ restR))
               (sgnI (koszul (((Sa ++ restL) ++ (Sb ++ restR)).map a.sym.parity)
                  (some ((List.range (Sb ++ restR).length).map ((Sa ++ restL).length + ·)
                    ++ List.range (Sa ++ restL).length)))
                (cm.elem ((Sa ++ restL) ++ (Sb ++ restR)) ((Oa ++ orestL) ++ (Ob ++ orestR)))))) := by
  have W := AdmW.of ha hb hfa hfb hadm
  obtain ⟨hfA, hfB, c', cP, cPPm, hc', hcP, hcPPm, hfC', hfCP, hk1', hk2', hel⟩ :=
    tensordot_fuse_free_commute_fermionic_two_sided_any_mode hz1 hz2 hmul a b cm xa xb ka kb e m1 m2 ha hb hfa hfb hadm hd hka1 hka
      hxa hkb1 hkb hxb hcm
  have WR := admW_fuse_lead_right W kb e hkb1 hkb hxb
  refine ⟨hfA, hfB, c', cP, cPPm, hc', hcP, hcPPm, hfC', hfCP, hk1', hk2', ?_⟩
  intro c0a c2a c0b c2b i0a d0a i2a d2a i0b d0b i2b d2b Sa Sb restL restR Oa Ob orestL orestR shp1 shp2
    a1 a2 a3 a4 a5 a6 b1 b2 b3 b4 b5 b6 hs1 hx1 hs2 hx2 l1 l2 l3 l4 l5 l6 box3 box4 box5
  have hla : ka ≤ (Sa ++ restL).length := by
    rw [l1, freeAxes_lead a.ndim ka xa hka hxa, List.length_append, List.length_range]; omega
  have hlb : kb ≤ (Sb ++ restR).length := by
    rw [l5, freeAxes_lead b.ndim kb xb hkb hxb, List.length_append, List.length_range]; omega
  have sA : FuseP.fuseSignT a [List.range ka] (Sa ++ restL)
      = FuseP.fuseSignT cP [List.range ka] (Sa ++ (restL ++ c0b :: restR)) :=
    (fuseSignT_lead_result hz1 hz2 WR .blockwise cP ka hka1 hka hxa hcP).2 (by
      rw [← List.append_assoc, List.take_append_of_le_length hla])
  have sB : FuseP.fuseSignT b [List.range kb] (Sb ++ restR)
      = FuseP.fuseSignT c' [List.range kb] (Sb ++ (restR ++ (Sa ++ restL))) :=
    (fuseSignT_lead_result hz1 hz2 (admW_swap W) .blockwise c' kb hkb1 hkb hxb hc').2 (by
      rw [← List.append_assoc, List.take_append_of_le_length hlb])
  rw [sA, sB]
  exact hel c0a c2a c0b c2b i0a d0a i2a d2a i0b d0b i2b d2b Sa Sb restL restR Oa Ob orestL orestR
    shp1 shp2 a1 a2 a3 a4 a5 a6 b1 b2 b3 b4 b5 b6 hs1 hx1 hs2 hx2 l1 l2 l3 l4 l5 l6 box3 box4 box5

end SymmModel.C06
