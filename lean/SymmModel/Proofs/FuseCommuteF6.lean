/-
  SymmModel.Proofs.FuseCommuteF6 — C06, first clause, FERMIONIC: `drop_misaligned_sectors` on
  fermionic operands: aligning first does not change the graded contraction
  (`gradedContract_dropMisaligned`).  Namespace `SymmModel.TdotP`.
-/
import SymmModel.Proofs.FuseCommuteF4

namespace SymmModel
namespace TdotP
open SymmModel.KoszulP SymmModel.Lazy SymmModel.GradedP SymmModel.RoutesP SymmModel.AssocP
variable {R : Type}

theorem pairsAt_dropMisaligned (a b : Arr R) (l xa xb r : List Nat) (s : Sector) :
    pairsAt (dropMisaligned a b xa xb).1 (dropMisaligned a b xa xb).2 l xa xb r s
      = pairsAt a b l xa xb r s := by
  unfold pairsAt
  rw [dropMisaligned_fst_blocks, dropMisaligned_snd_blocks]
  rw [flatMap_filter_of_nil]
  · apply flatMap_congr_mem
    rintro ⟨sa, ba⟩ hpa
    simp only [List.filter_filter]
    congr 1
    apply List.filter_congr
    rintro ⟨sb, bb⟩ _
    by_cases hm : permuted sb xb = permuted sa xa
    · have := mem_subKeys_of_mem (axes := xa) hpa
      simp [hm, this]
    · simp [hm]
  · rintro ⟨sa, ba⟩ _ hnot
    simp only [List.map_eq_nil_iff, List.filter_eq_nil_iff, List.mem_filter, beq_iff_eq, and_imp,
      Prod.forall, Bool.and_eq_true, not_and]
    intro sb bb hpb _ hm
    have := mem_subKeys_of_mem (axes := xb) hpb
    simp only [hm] at this
    simp [this] at hnot

theorem storedPairs_dropMisaligned (a b : Arr R) (l xa xb r : List Nat) (s : Sector) :
    storedPairs (dropMisaligned a b xa xb).1 (dropMisaligned a b xa xb).2 l xa xb r s
      = storedPairs a b l xa xb r s := by
  rw [← map_pairsAt, ← map_pairsAt, pairsAt_dropMisaligned]

theorem elem_dropMisaligned_fst [Zero R] [Neg R] (a b : Arr R) (xa xb : List Nat) {s : Sector}
    (hs : s ∈ (dropMisaligned a b xa xb).1.sectors) (o : List Nat) :
    (dropMisaligned a b xa xb).1.elem s o = a.elem s o := by
  have hk : (subKeys b xb).contains (permuted s xa) = true := by
    rw [Arr.sectors, dropMisaligned_fst_blocks] at hs
    obtain ⟨p, hp, rfl⟩ := List.mem_map.mp hs
    exact (List.mem_filter.mp hp).2
  have hph : (dropMisaligned a b xa xb).1.phases = a.phases := rfl
  unfold Arr.elem
  rw [hph, dropMisaligned_fst_blocks,
    alookup_filter_key' a.blocks _ (fun k => (subKeys b xb).contains (permuted k xa)) (fun _ => rfl) s,
    if_pos hk]

theorem elem_dropMisaligned_snd [Zero R] [Neg R] (a b : Arr R) (xa xb : List Nat) {s : Sector}
    (hs : s ∈ (dropMisaligned a b xa xb).2.sectors) (o : List Nat) :
    (dropMisaligned a b xa xb).2.elem s o = b.elem s o := by
  have hk : (subKeys a xa).contains (permuted s xb) = true := by
    rw [Arr.sectors, dropMisaligned_snd_blocks] at hs
    obtain ⟨p, hp, rfl⟩ := List.mem_map.mp hs
    exact (List.mem_filter.mp hp).2
  have hph : (dropMisaligned a b xa xb).2.phases = b.phases := rfl
  unfold Arr.elem
  rw [hph, dropMisaligned_snd_blocks,
    alookup_filter_key' b.blocks _ (fun k => (subKeys a xa).contains (permuted k xb)) (fun _ => rfl) s,
    if_pos hk]

theorem gradedSign_dropMisaligned (a b : Arr R) (xa xb : List Nat) (sa sb : Sector) :
    gradedSign (dropMisaligned a b xa xb).1 (dropMisaligned a b xa xb).2 xa xb sa sb
      = gradedSign a b xa xb sa sb := by
  obtain ⟨n1, n2⟩ := dropMisaligned_ndim a b xa xb
  have hk : ketOdd (dropMisaligned a b xa xb).1 xa sa = ketOdd a xa sa := by
    unfold ketOdd
    have : xa.filter (fun ax => !((dropMisaligned a b xa xb).1.indices.getD ax default).dual)
        = xa.filter (fun ax => !(a.indices.getD ax default).dual) := by
      apply List.filter_congr
      intro ax _
      rw [dropMisaligned_fst_indices, dropUnused_getD_dual]
    rw [this]; rfl
  unfold gradedSign
  rw [hk, n1, n2]
  rfl

theorem blockShapeD_dropMisaligned (a b : Arr R) (xa xb : List Nat) (ha : a.validB = true)
    (hb : b.validB = true) :
    (∀ s ∈ (dropMisaligned a b xa xb).1.sectors,
        Arr.blockShapeD (dropMisaligned a b xa xb).1.indices s = Arr.blockShapeD a.indices s)
    ∧ (∀ s ∈ (dropMisaligned a b xa xb).2.sectors,
        Arr.blockShapeD (dropMisaligned a b xa xb).2.indices s = Arr.blockShapeD b.indices s) := by
  obtain ⟨v1, v2⟩ := ValidP.dropMisaligned_valid a b xa xb ((ValidP.validB_iff a).mp ha)
    ((ValidP.validB_iff b).mp hb)
  have s1 := Arr.shapesOk_of_validB ((ValidP.validB_iff _).mpr v1)
  have s2 := Arr.shapesOk_of_validB ((ValidP.validB_iff _).mpr v2)
  have sa := Arr.shapesOk_of_validB ha
  have sb := Arr.shapesOk_of_validB hb
  constructor
  · intro s hs
    obtain ⟨p, hp, rfl⟩ := List.mem_map.mp hs
    have h1 := s1 p hp
    rw [dropMisaligned_fst_blocks] at hp
    have h2 := sa p (List.mem_filter.mp hp).1
    unfold Arr.blockShapeD; rw [h1, h2]
  · intro s hs
    obtain ⟨p, hp, rfl⟩ := List.mem_map.mp hs
    have h1 := s2 p hp
    rw [dropMisaligned_snd_blocks] at hp
    have h2 := sb p (List.mem_filter.mp hp).1
    unfold Arr.blockShapeD; rw [h1, h2]

theorem gradedContract_dropMisaligned [AddCommMonoid R] [Mul R] [Neg R] (a b : Arr R) (xa xb : List Nat)
    (ha : a.validB = true) (hb : b.validB = true) (s : Sector) (oL oR : List Nat) :
    gradedContract (dropMisaligned a b xa xb).1 (dropMisaligned a b xa xb).2 xa xb s oL oR
      = gradedContract a b xa xb s oL oR := by
  obtain ⟨n1, n2⟩ := dropMisaligned_ndim a b xa xb
  obtain ⟨q1, q2⟩ := blockShapeD_dropMisaligned a b xa xb ha hb
  unfold gradedContract
  rw [n1, n2, storedPairs_dropMisaligned]
  apply sum_map_congr
  rintro ⟨sa, sb⟩ hp
  rw [← storedPairs_dropMisaligned, ← n1, ← n2] at hp
  obtain ⟨hA1, hB1, _, _⟩ := mem_storedPairs.mp hp
  rw [gradedSign_dropMisaligned]
  congr 1
  unfold contractPair
  simp only
  rw [q1 sa hA1]
  apply sum_map_congr
  intro kk _
  unfold contractTerm
  rw [elem_dropMisaligned_fst a b xa xb hA1, elem_dropMisaligned_snd a b xa xb hB1, n1, n2]

end TdotP
end SymmModel
