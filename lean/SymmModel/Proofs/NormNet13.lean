/-
  SymmModel.Proofs.NormNet13 — network form of the norm (property C10):
  the weak guard of a call read off the table frames of its operands (`commonB_of_frames`: each operand
  a `SizeLe`-pruning of a frame, the matched legs of the frames opposite, `Opp`).  A half `Y` of the
  network whose frame is a pruning of the conjugated frame of `p·q` (what the model computes for the
  other half, in any mode) against the two tensors: its weak guards (`commonS_Xp/Xq`) and the three
  triangles it forms with them (`half_tri_left/right/cross`), from the frame alone; and the two generic
  tensor-by-tensor steps of the blockwise routes under the WEAK guard (`tw_left_w`, `tw_right_w`, from
  `Assoc3P.tdotF_assoc_w`).
-/
import SymmModel.Proofs.NormNet12
import SymmModel.Proofs.Assoc3Chain
namespace SymmModel.NormNet
open SymmModel SymmModel.Lazy SymmModel.Norm SymmModel.TdotP SymmModel.GradedP SymmModel.RoutesP
open SymmModel.AssocP
set_option linter.unusedSectionVars false

section tri
variable {R : Type} [AddCommMonoid R] [Mul R] [Neg R] [SignRing R] [AssocLaws R]

theorem assoc_scalar_tri {A B C : Arr R} {xa1 xa3 xb1 xb2 xc2 xc3 : List Nat}
    (T : Assoc3P.TriW A B C xa1 xa3 xb1 xb2 xc2 xc3)
    (hL : Assoc2P.LabelRoutes A.parity B.parity A.oddpos B.oddpos C.oddpos)
    (fA : freeAxes A.ndim (xa1 ++ xa3) = []) (fB : freeAxes B.ndim (xb1 ++ xb2) = [])
    (fC : freeAxes C.ndim (xc2 ++ xc3) = []) :
    ∃ AB BC c1 c2 : Arr R,
      A.tensordotF B (.pair (xa1.map Int.ofNat) (xb1.map Int.ofNat)) .blockwise = .ok AB
      ∧ AB.tensordotF C (.pair ((Assoc2P.axesAB A.ndim B.ndim xa1 xa3 xb1 xb2).map Int.ofNat)
          ((xc3 ++ xc2).map Int.ofNat)) .blockwise = .ok c1
      ∧ B.tensordotF C (.pair (xb2.map Int.ofNat) (xc2.map Int.ofNat)) .blockwise = .ok BC
      ∧ A.tensordotF BC (.pair ((xa1 ++ xa3).map Int.ofNat)
          ((Assoc2P.axesBC B.ndim C.ndim xb1 xb2 xc2 xc3).map Int.ofNat)) .blockwise = .ok c2
      ∧ c2.oddpos = c1.oddpos ∧ c2.indices = c1.indices ∧ c2.elem [] [] = c1.elem [] [] := by
  obtain ⟨AB, BC, c1, c2, e1, e2, e3, e4, r1, _, _, _, _, _, r7, _, r9⟩ :=
    Assoc3P.tdotF_assoc_w A B C xa1 xa3 xb1 xb2 xc2 xc3 T.hAB.va T.hAB.vb T.hBC.vb T.hAB.fa T.hAB.fb
      T.hBC.fb (Assoc3P.admW_toB T.hAB) (Assoc3P.admW_toB T.hBC) T.conAC T.mA.nodup_append
      T.mB.nodup_append T.mC.nodup_append T.mA.lt2 T.mC.lt2 hL
  refine ⟨AB, BC, c1, c2, e1, e2, e3, e4, r1, r7, ?_⟩
  have := r9 [] [] [] [] [] [] ⟨by rw [fA]; rfl, by rw [fB]; rfl, by rw [fA], by rw [fB],
    by rw [fC], by rw [fA]; rfl, by rw [fB]; rfl, by rw [fC]; rfl⟩
  simpa using this

end tri

section adm
variable {R : Type}

theorem getD_mem_of_lt {α : Type} {l : List α} {k : Nat} {d : α} (h : k < l.length) :
    l.getD k d ∈ l := by
  rw [List.getD_eq_getElem?_getD, List.getElem?_eq_getElem h]
  exact List.getElem_mem h

theorem freeAxes_getD_lt {n : Nat} {xs : List Nat} {j : Nat} (hj : j < (freeAxes n xs).length) :
    (freeAxes n xs).getD j 0 < n :=
  mem_freeAxes_lt _ (getD_mem_of_lt hj)

theorem free_leg_nodup {p : Arr R} (hp : p.validB = true) {xp : List Nat} {j : Nat}
    (hj : j < (freeAxes p.ndim xp).length) :
    ((p.indices.getD ((freeAxes p.ndim xp).getD j 0) default).cm.map (·.1)).Nodup :=
  keys_nodup_of_validB hp _ (getD_mem_of_lt (freeAxes_getD_lt hj))

theorem getD_range (n j : Nat) (hj : j < n) : (List.range n).getD j 0 = j := by
  simp [List.getD_eq_getElem?_getD, List.getElem?_range hj]

theorem getD_shift (n m j : Nat) (hj : j < n) : ((List.range n).map (m + ·)).getD j 0 = m + j := by
  simp [List.getD_eq_getElem?_getD, List.getElem?_map, List.getElem?_range hj]

theorem conj_sizeLe {i j : Index} (h : SizeLe i j) : SizeLe i.conj j.conj :=
  ⟨by rw [Index.conj_dual, Index.conj_dual, h.1], fun c d hc => by
    have := h.2 c d (by simpa only [Index.sizeOf?, Index.conj_cm] using hc)
    simpa only [Index.sizeOf?, Index.conj_cm] using this⟩

theorem frame_of_dropUnused {X : Arr R} {W : List Index} {S : List Sector}
    (hX : X.indices = (dropUnused W S).map Index.conj) :
    List.Forall₂ SizeLe X.indices (W.map Index.conj) := by
  rw [hX]
  exact List.forall₂_map_left_iff.mpr (List.forall₂_map_right_iff.mpr
    ((dropUnused_sizeLe W S).imp (fun _ _ h => conj_sizeLe h)))

theorem frame_mem {a b : Arr R} {xa xb : List Nat} {ix : Index}
    (h : ix ∈ without a.indices xa ++ without b.indices xb) : ix ∈ a.indices ∨ ix ∈ b.indices := by
  rcases List.mem_append.mp h with h | h
  · left; rw [without_eq_permuted_freeAxes] at h; exact mem_permuted h
  · right; rw [without_eq_permuted_freeAxes] at h; exact mem_permuted h

theorem nodup_keys_frame {a b : Arr R} (ha : a.validB = true) (hb : b.validB = true)
    (xa xb : List Nat) :
    ∀ ix ∈ without a.indices xa ++ without b.indices xb, (ix.cm.map (·.1)).Nodup := fun _ hix =>
  (frame_mem hix).elim (keys_nodup_of_validB ha _) (keys_nodup_of_validB hb _)

theorem nodup_keys_conj {L : List Index} (h : ∀ ix ∈ L, (ix.cm.map (·.1)).Nodup) :
    ∀ ix ∈ L.map Index.conj, (ix.cm.map (·.1)).Nodup := by
  intro ix hix
  obtain ⟨i, hi, rfl⟩ := List.mem_map.mp hix
  rw [Index.conj_cm]; exact h i hi

/-- a pruned table is a sublist -/
theorem frame_keys_nodup {X p q : Arr R} {xp xq : List Nat} {S : List Sector}
    (hp : p.validB = true) (hq : q.validB = true)
    (hX : X.indices = (dropUnused (without p.indices xp ++ without q.indices xq) S).map Index.conj) :
    ∀ ix ∈ X.indices, (ix.cm.map (·.1)).Nodup := by
  rw [hX]
  intro ix hix
  obtain ⟨ix', hix', rfl⟩ := List.mem_map.mp hix
  obtain ⟨i, hi, rfl⟩ := List.mem_iff_getElem.mp hix'
  rw [dropUnused_length] at hi
  obtain ⟨_, f, hf⟩ := dropUnused_getD_pruned _ S i hi
  rw [List.getD_eq_getElem?_getD, List.getElem?_eq_getElem (by rwa [dropUnused_length]),
    Option.getD_some] at hf
  rw [Index.conj_cm, hf]
  exact (nodup_keys_frame hp hq xp xq _ (getD_mem_of_lt hi)).sublist (List.filter_sublist.map _)

end adm

section opp

def Opp (i j : Index) : Prop := j.cm = i.cm ∧ j.dual = !i.dual

theorem opp_conj (i : Index) : Opp i i.conj := ⟨Index.conj_cm i, Index.conj_dual i⟩

theorem opp_conj' (i : Index) : Opp i.conj i :=
  ⟨(Index.conj_cm i).symm, by rw [Index.conj_dual]; simp⟩

theorem Opp.symm {i j : Index} (h : Opp i j) : Opp j i := ⟨h.1.symm, by rw [h.2]; simp⟩

theorem forall₂_opp_conj (U : List Index) : List.Forall₂ Opp U (U.map Index.conj) := by
  induction U with
  | nil => exact .nil
  | cons x xs ih => exact .cons (opp_conj x) ih

theorem forall₂_opp_conj' (U : List Index) : List.Forall₂ Opp (U.map Index.conj) U := by
  induction U with
  | nil => exact .nil
  | cons x xs ih => exact .cons (opp_conj' x) ih

end opp

section frames
variable {R : Type}

/-- `Z` is a pruning of the frame `G`, `X` of the frame `F` (`SizeLe` leg by leg: what every
    intermediate result of a network satisfies with respect to the un-pruned legs of the network's
    tensors); the `j`-th matched pair `u[j]`/`v[j]` hits opposite legs of the frames -/
theorem commonB_of_frames {Z X : Arr R} {G F : List Index} {u v : List Nat}
    (hZ : List.Forall₂ SizeLe Z.indices G) (hX : List.Forall₂ SizeLe X.indices F)
    (hnZ : ∀ ix ∈ Z.indices, (ix.cm.map (·.1)).Nodup) (hl : u.length = v.length)
    (hu : ∀ i ∈ u, i < G.length) (hv : ∀ i ∈ v, i < F.length)
    (hopp : ∀ j, j < u.length → Opp (G.getD (u.getD j 0) default) (F.getD (v.getD j 0) default)
      ∧ ((G.getD (u.getD j 0) default).cm.map (·.1)).Nodup) :
    contractibleCommonB Z X u v = true := by
  rw [commonB_iff]
  refine ⟨hl, fun j hj => ?_⟩
  obtain ⟨ho, hn⟩ := hopp j hj
  have hju : u.getD j 0 < Z.indices.length := hZ.length_eq ▸ hu _ (getD_mem_of_lt hj)
  have hjv : v.getD j 0 < X.indices.length := hX.length_eq ▸ hv _ (getD_mem_of_lt (hl ▸ hj))
  have sZ := forall₂_getD hZ (u.getD j 0) hju default default
  have sX := forall₂_getD hX (v.getD j 0) hjv default default
  have c0 : cmAgree (G.getD (u.getD j 0) default).cm (F.getD (v.getD j 0) default).cm = true := by
    rw [ho.1]; exact cmAgree_self hn
  exact ⟨cmAgree_of_sizeLe_right sX (cmAgree_of_sizeLe_left sZ (hnZ _ (getD_mem_of_lt hju)) c0),
    by rw [sX.1, sZ.1, ho.2]⟩

end frames

section halfS
variable {R : Type}
variable (X p q : Arr R) (xp xq : List Nat)

theorem frame_conj_length :
    ((without p.indices xp ++ without q.indices xq).map Index.conj).length
      = (freeAxes p.ndim xp).length + (freeAxes q.ndim xq).length := by
  rw [List.length_map, frame_eq, List.length_append, List.length_map, List.length_map]

variable {p q xp xq} in
theorem frame_conj_left {j : Nat} (hj : j < (freeAxes p.ndim xp).length) :
    ((without p.indices xp ++ without q.indices xq).map Index.conj).getD j default
      = (p.indices.getD ((freeAxes p.ndim xp).getD j 0) default).conj := by
  rw [getD_map_conj _ _ (by
    rw [← List.length_map (f := Index.conj), frame_conj_length]; omega), frame_eq,
    getD_append_map_left _ _ _ _ _ hj]

variable {p q xp xq} in
theorem frame_conj_right {j : Nat} (hj : j < (freeAxes q.ndim xq).length) :
    ((without p.indices xp ++ without q.indices xq).map Index.conj).getD
        ((freeAxes p.ndim xp).length + j) default
      = (q.indices.getD ((freeAxes q.ndim xq).getD j 0) default).conj := by
  rw [getD_map_conj _ _ (by
    rw [← List.length_map (f := Index.conj), frame_conj_length]; omega), frame_eq,
    getD_append_map_right _ _ _ _ _ hj]

variable
  (hX : List.Forall₂ SizeLe X.indices ((without p.indices xp ++ without q.indices xq).map Index.conj))
  (hnX : ∀ ix ∈ X.indices, (ix.cm.map (·.1)).Nodup)
include hX hnX

theorem halfS_ndim : X.ndim = (freeAxes p.ndim xp).length + (freeAxes q.ndim xq).length :=
  hX.length_eq.trans (frame_conj_length p q xp xq)

theorem commonS_Xp (hp : p.validB = true) :
    contractibleCommonB X p (List.range (freeAxes p.ndim xp).length) (freeAxes p.ndim xp) = true
    ∧ contractibleCommonB p X (freeAxes p.ndim xp) (List.range (freeAxes p.ndim xp).length) = true := by
  have hP := List.forall₂_same.mpr fun ix (_ : ix ∈ p.indices) => SizeLe.refl ix
  have hu : ∀ i ∈ List.range (freeAxes p.ndim xp).length,
      i < ((without p.indices xp ++ without q.indices xq).map Index.conj).length :=
    fun i hi => by rw [frame_conj_length]; exact half_range_lt hi
  have hv : ∀ i ∈ freeAxes p.ndim xp, i < p.indices.length := fun i hi => mem_freeAxes_lt i hi
  constructor
  · refine commonB_of_frames hX hP hnX List.length_range hu hv (fun j hj => ?_)
    rw [List.length_range] at hj
    rw [getD_range _ _ hj, frame_conj_left hj, Index.conj_cm]
    exact ⟨opp_conj' _, free_leg_nodup hp hj⟩
  · refine commonB_of_frames hP hX (keys_nodup_of_validB hp) List.length_range.symm hv hu
      (fun j hj => ?_)
    rw [getD_range _ _ hj, frame_conj_left hj]
    exact ⟨opp_conj _, free_leg_nodup hp hj⟩

theorem commonS_Xq (hq : q.validB = true) :
    contractibleCommonB X q
      ((List.range (freeAxes q.ndim xq).length).map ((freeAxes p.ndim xp).length + ·))
      (freeAxes q.ndim xq) = true
    ∧ contractibleCommonB q X (freeAxes q.ndim xq)
      ((List.range (freeAxes q.ndim xq).length).map ((freeAxes p.ndim xp).length + ·)) = true := by
  have hQ := List.forall₂_same.mpr fun ix (_ : ix ∈ q.indices) => SizeLe.refl ix
  have hl : ((List.range (freeAxes q.ndim xq).length).map ((freeAxes p.ndim xp).length + ·)).length
      = (freeAxes q.ndim xq).length := by rw [List.length_map, List.length_range]
  have hu : ∀ i ∈ (List.range (freeAxes q.ndim xq).length).map ((freeAxes p.ndim xp).length + ·),
      i < ((without p.indices xp ++ without q.indices xq).map Index.conj).length :=
    fun i hi => by rw [frame_conj_length]; exact half_shift_lt hi
  have hv : ∀ i ∈ freeAxes q.ndim xq, i < q.indices.length := fun i hi => mem_freeAxes_lt i hi
  constructor
  · refine commonB_of_frames hX hQ hnX hl hu hv (fun j hj => ?_)
    rw [hl] at hj
    rw [getD_shift _ _ _ hj, frame_conj_right hj, Index.conj_cm]
    exact ⟨opp_conj' _, free_leg_nodup hq hj⟩
  · refine commonB_of_frames hQ hX (keys_nodup_of_validB hq) hl.symm hv hu (fun j hj => ?_)
    rw [getD_shift _ _ _ hj, frame_conj_right hj]
    exact ⟨opp_conj _, free_leg_nodup hq hj⟩

end halfS

/-! ## the three triangles of a half with its two tensors

  `Y` lists `p`'s dangling legs first (positions `range fp`), then `q`'s (`fp + range fq`).  Nothing
  but the frame of `Y` is used, so the same lemma serves the blockwise half and its any-mode copy. -/
section halfTri
variable {R : Type} [AddCommMonoid R] [Mul R] [Neg R] [SignRing R]
variable {Y p q : Arr R} {xp xq : List Nat} (hY : Y.validB = true) (hfY : Y.fermi = true)
  (sY : Y.sym = p.sym)
  (frY : List.Forall₂ SizeLe Y.indices ((without p.indices xp ++ without q.indices xq).map Index.conj))
  (h : Adm p q xp xq)
include hY hfY sY frY h

/-- `(Y·p)·q` -/
theorem half_tri_left :
    Assoc3P.TriW Y p q (List.range (freeAxes p.ndim xp).length)
      ((List.range (freeAxes q.ndim xq).length).map ((freeAxes p.ndim xp).length + ·))
      (freeAxes p.ndim xp) xp xq (freeAxes q.ndim xq) := by
  have nY := keys_nodup_of_validB hY
  have hYn := halfS_ndim Y p q xp xq frY nY
  exact ⟨⟨hY, h.va, hfY, h.fa, sY, (commonS_Xp Y p q xp xq frY nY h.va).1, List.nodup_range,
      freeAxes_nodup _ _, fun i hi => by rw [hYn]; exact half_range_lt hi,
      fun i hi => mem_freeAxes_lt i hi⟩,
    AdmW.ofAdm h, hYn ▸ mid_half _ _, mid_free_left h.nA h.ltA, mid_free_right h.nB h.ltB,
    (commonS_Xq Y p q xp xq frY nY h.vb).1⟩

/-- `p·(q·Y)` -/
theorem half_tri_right :
    Assoc3P.TriW p q Y xp (freeAxes p.ndim xp) xq (freeAxes q.ndim xq)
      ((List.range (freeAxes q.ndim xq).length).map ((freeAxes p.ndim xp).length + ·))
      (List.range (freeAxes p.ndim xp).length) := by
  have nY := keys_nodup_of_validB hY
  have hYn := halfS_ndim Y p q xp xq frY nY
  exact ⟨AdmW.ofAdm h,
    ⟨h.vb, hY, h.fb, hfY, by rw [sY, h.sym], (commonS_Xq Y p q xp xq frY nY h.vb).2, freeAxes_nodup _ _,
      shift_nodup _ _, fun i hi => mem_freeAxes_lt i hi, fun i hi => by rw [hYn]; exact half_shift_lt hi⟩,
    mid_free_right h.nA h.ltA, mid_free_right h.nB h.ltB, (hYn ▸ mid_half _ _).symm,
    (commonS_Xp Y p q xp xq frY nY h.va).2⟩

/-- the crossed order `(Y·q)·p` -/
theorem half_tri_cross :
    Assoc3P.TriW Y q p
      ((List.range (freeAxes q.ndim xq).length).map ((freeAxes p.ndim xp).length + ·))
      (List.range (freeAxes p.ndim xp).length) (freeAxes q.ndim xq) xq xp (freeAxes p.ndim xp) := by
  have nY := keys_nodup_of_validB hY
  have hYn := halfS_ndim Y p q xp xq frY nY
  exact ⟨⟨hY, h.vb, hfY, h.fb, by rw [sY, h.sym], (commonS_Xq Y p q xp xq frY nY h.vb).1,
      shift_nodup _ _, freeAxes_nodup _ _, fun i hi => by rw [hYn]; exact half_shift_lt hi,
      fun i hi => mem_freeAxes_lt i hi⟩,
    Assoc4P.admW_swap (AdmW.ofAdm h), hYn ▸ (mid_half _ _).symm, mid_free_left h.nB h.ltB, mid_free_right h.nA h.ltA,
    (commonS_Xp Y p q xp xq frY nY h.va).1⟩

end halfTri

section tw
variable {R : Type} [AddCommMonoid R] [Mul R] [Neg R] [SignRing R] [AssocLaws R]

/-- `(X·p)·q = X·(p·q)` -/
theorem tw_left_w (p q X PQ r : Arr R) (xp xq : List Nat) (S : List Sector)
    (hp : p.validB = true) (hq : q.validB = true) (hX : X.validB = true)
    (hfp : p.fermi = true) (hfq : q.fermi = true) (hfX : X.fermi = true)
    (hadm : ValidP.tdotAdmissibleB p q xp xq = true)
    (ePQ : p.tensordotF q (.pair (xp.map Int.ofNat) (xq.map Int.ofNat)) .blockwise = .ok PQ)
    (hXs : X.sym = p.sym)
    (hXi : X.indices = (dropUnused (without p.indices xp ++ without q.indices xq) S).map Index.conj)
    (hn : PQ.ndim = X.ndim)
    (hL : Assoc2P.LabelRoutes X.parity p.parity X.oddpos p.oddpos q.oddpos)
    (hr : X.tensordotF PQ (allAxes PQ.ndim) .blockwise = .ok r) :
    ∃ AB c, X.tensordotF p (.pair ((List.range (freeAxes p.ndim xp).length).map Int.ofNat)
          ((freeAxes p.ndim xp).map Int.ofNat)) .blockwise = .ok AB
      ∧ AB.tensordotF q (.pair ((axesTW p.ndim q.ndim xp xq).map Int.ofNat)
          ((freeAxes q.ndim xq ++ xq).map Int.ofNat)) .blockwise = .ok c
      ∧ c.indices = r.indices ∧ c.oddpos = r.oddpos ∧ c.elem [] [] = r.elem [] [] := by
  have fr := frame_of_dropUnused hXi
  have hXn := halfS_ndim X p q xp xq fr (keys_nodup_of_validB hX)
  obtain ⟨AB, BC, d1, d2, e1, e2, e3, e4, r1, r7, r9⟩ :=
    assoc_scalar_tri (half_tri_left hX hfX hXs fr (Adm.of hp hq hfp hfq hadm)) hL
      (freeAxes_all _ _ (by rw [range_split, ← hXn]; exact fun i hi => List.mem_range.mpr hi))
      (freeAxes_all _ _ (all_left xp)) (freeAxes_all _ _ (all_right xq))
  obtain rfl : BC = PQ := Except.ok.inj (e3.symm.trans ePQ)
  rw [range_split, axesBC_all, ← hXn, ← hn] at e4
  obtain rfl : d2 = r := (Except.ok.inj (hr.symm.trans e4)).symm
  refine ⟨AB, d1, e1, ?_, r7.symm, r1.symm, r9.symm⟩
  unfold axesTW; rw [← hXn]; exact e2

/-- `p·(q·X) = (p·q)·X` -/
theorem tw_right_w (p q X PQ r : Arr R) (xp xq : List Nat) (S : List Sector)
    (hp : p.validB = true) (hq : q.validB = true) (hX : X.validB = true)
    (hfp : p.fermi = true) (hfq : q.fermi = true) (hfX : X.fermi = true)
    (hadm : ValidP.tdotAdmissibleB p q xp xq = true)
    (ePQ : p.tensordotF q (.pair (xp.map Int.ofNat) (xq.map Int.ofNat)) .blockwise = .ok PQ)
    (hXs : X.sym = p.sym)
    (hXi : X.indices = (dropUnused (without p.indices xp ++ without q.indices xq) S).map Index.conj)
    (hn : PQ.ndim = X.ndim)
    (hL : Assoc2P.LabelRoutes p.parity q.parity p.oddpos q.oddpos X.oddpos)
    (hr : PQ.tensordotF X (allAxes PQ.ndim) .blockwise = .ok r) :
    ∃ BC c, q.tensordotF X (.pair ((freeAxes q.ndim xq).map Int.ofNat)
          (((List.range (freeAxes q.ndim xq).length).map ((freeAxes p.ndim xp).length + ·)).map
            Int.ofNat)) .blockwise = .ok BC
      ∧ p.tensordotF BC (.pair ((xp ++ freeAxes p.ndim xp).map Int.ofNat)
          ((axesTWr p.ndim q.ndim xp xq).map Int.ofNat)) .blockwise = .ok c
      ∧ c.indices = r.indices ∧ c.oddpos = r.oddpos ∧ c.elem [] [] = r.elem [] [] := by
  have fr := frame_of_dropUnused hXi
  have hXn := halfS_ndim X p q xp xq fr (keys_nodup_of_validB hX)
  obtain ⟨AB, BC, d1, d2, e1, e2, e3, e4, r1, r7, r9⟩ :=
    assoc_scalar_tri (half_tri_right hX hfX hXs fr (Adm.of hp hq hfp hfq hadm)) hL
      (freeAxes_all _ _ (all_right xp)) (freeAxes_all _ _ (all_right xq))
      (freeAxes_all _ _ (fun i hi => shift_range_cover (by rwa [hXn] at hi)))
  obtain rfl : AB = PQ := Except.ok.inj (e1.symm.trans ePQ)
  rw [range_split, axesAB_all, ← hXn, ← hn] at e2
  obtain rfl : d1 = r := (Except.ok.inj (hr.symm.trans e2)).symm
  refine ⟨BC, d2, e3, ?_, r7, r1, r9⟩
  unfold axesTWr; rw [← hXn]; exact e4

end tw

end SymmModel.NormNet
