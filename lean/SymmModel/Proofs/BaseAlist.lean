/-
  SymmModel.Proofs.BaseAlist — the insertion-ordered association lists of `Model/Basic`
  (`alookup` / `ainsert` / `adict`, the model of Python dicts) with a lawful key equality.
  Keys are written `l.map (·.1)` (`akeys l` unfolds to it).  `mem_X` of a pair is an implication back to the list,
  `mem_keys_X` an iff.  Core Lean only.
-/
import SymmModel.Model.Basic

namespace SymmModel

section alist
variable {κ β γ : Type} [BEq κ]

theorem alookup_cons (k : κ) (v : β) (l : List (κ × β)) (k0 : κ) :
    alookup ((k, v) :: l) k0 = if k == k0 then some v else alookup l k0 := rfl

variable [LawfulBEq κ]

theorem alookup_cons_self (k : κ) (v : β) (l : List (κ × β)) :
    alookup ((k, v) :: l) k = some v := by
  simp [alookup]

theorem alookup_cons_ne {k0 k : κ} (h : k0 ≠ k) (v : β) (l : List (κ × β)) :
    alookup ((k0, v) :: l) k = alookup l k := by
  simp [alookup, h]

attribute [local simp] alookup_cons_self

theorem alookup_some_mem {l : List (κ × β)} {k : κ} {v : β} (h : alookup l k = some v) :
    (k, v) ∈ l := by
  induction l with
  | nil => simp [alookup] at h
  | cons q l ih =>
    obtain ⟨k0, v0⟩ := q
    by_cases e : k0 = k
    · subst e; simp only [alookup_cons_self, Option.some.injEq] at h; subst h; simp
    · rw [alookup_cons_ne e] at h; simp [ih h]

theorem alookup_isSome_iff {l : List (κ × β)} {k : κ} :
    (alookup l k).isSome = true ↔ k ∈ l.map (·.1) := by
  induction l with
  | nil => simp [alookup]
  | cons q l ih =>
    obtain ⟨k0, v0⟩ := q
    by_cases e : k0 = k
    · subst e; simp
    · rw [alookup_cons_ne e, ih]
      simp only [List.map_cons, List.mem_cons]
      constructor
      · exact Or.inr
      · rintro (h | h)
        · exact absurd h.symm e
        · exact h

theorem alookup_eq_none_iff {l : List (κ × β)} {k : κ} :
    alookup l k = none ↔ k ∉ l.map (·.1) := by
  rw [← alookup_isSome_iff]; cases alookup l k <;> simp

theorem alookup_of_mem_nodup {l : List (κ × β)} (hnd : (l.map (·.1)).Nodup) {k : κ} {v : β}
    (h : (k, v) ∈ l) : alookup l k = some v := by
  induction l with
  | nil => simp at h
  | cons q l ih =>
    obtain ⟨k0, v0⟩ := q
    simp only [List.map_cons, List.nodup_cons] at hnd
    rcases List.mem_cons.mp h with e | h'
    · simp only [Prod.mk.injEq] at e; obtain ⟨rfl, rfl⟩ := e; simp
    · have : k0 ≠ k := by
        intro e; subst e
        exact hnd.1 (List.mem_map.mpr ⟨_, h', rfl⟩)
      rw [alookup_cons_ne this, ih hnd.2 h']

theorem alookup_map_val (g : κ → β → γ) (l : List (κ × β)) (k : κ) :
    alookup (l.map (fun p => (p.1, g p.1 p.2))) k = (alookup l k).map (g k) := by
  induction l with
  | nil => simp [alookup]
  | cons q l ih =>
    obtain ⟨k0, v0⟩ := q
    by_cases e : k0 = k
    · subst e; simp
    · simp [alookup_cons_ne e, ih]

theorem alookup_map_key {κ' : Type} [BEq κ'] [LawfulBEq κ'] (f : κ → κ') {S : List κ}
    (hinj : ∀ s ∈ S, ∀ t ∈ S, f s = f t → s = t) (l : List (κ × β)) (hl : ∀ e ∈ l, e.1 ∈ S) {k : κ} (hk : k ∈ S) :
    alookup (l.map (fun p => (f p.1, p.2))) (f k) = alookup l k := by
  induction l with
  | nil => rfl
  | cons q l ih =>
    obtain ⟨k0, v0⟩ := q
    have ih := ih fun e he => hl e (List.mem_cons_of_mem _ he)
    by_cases e : k0 = k
    · subst e; simp
    · have : f k0 ≠ f k := fun h => e (hinj k0 (hl _ (List.mem_cons_self ..)) k hk h)
      simp only [List.map_cons]
      rw [alookup_cons_ne this, alookup_cons_ne e, ih]

theorem alookup_filter_key (l : List (κ × β)) (p : κ → Bool) (k : κ) :
    alookup (l.filter (fun q => p q.1)) k = if p k = true then alookup l k else none := by
  induction l with
  | nil => simp [alookup]
  | cons q l ih =>
    obtain ⟨k0, v0⟩ := q
    simp only [List.filter_cons]
    by_cases e : k0 = k
    · subst e
      by_cases hp : p k0 = true <;> simp [hp, ih]
    · by_cases hp : p k0 = true <;> simp [hp, alookup_cons_ne e, ih]

theorem alookup_ainsert (l : List (κ × β)) (k k' : κ) (v : β) :
    alookup (ainsert l k v) k' = if k == k' then some v else alookup l k' := by
  induction l with
  | nil => simp [ainsert, alookup]
  | cons p l ih =>
    obtain ⟨a, b⟩ := p
    simp only [ainsert]
    by_cases h : a == k
    · have := eq_of_beq h; subst this
      simp only [BEq.rfl, if_true, alookup_cons]
      split <;> rfl
    · simp only [h, Bool.false_eq_true, if_false, alookup_cons, ih]
      by_cases h2 : a == k'
      · have := eq_of_beq h2; subst this
        have : (k == a) = false := beq_false_of_ne (fun e => h (by rw [e]; exact BEq.rfl))
        simp [this]
      · simp [h2]

theorem alookup_ainsert_self (l : List (κ × β)) (k : κ) (v : β) :
    alookup (ainsert l k v) k = some v := by simp [alookup_ainsert]

theorem alookup_ainsert_ne (l : List (κ × β)) {k k' : κ} (h : k ≠ k') (v : β) :
    alookup (ainsert l k v) k' = alookup l k' := by
  rw [alookup_ainsert]; simp [h]

theorem ainsert_of_not_mem (l : List (κ × β)) (k : κ) (v : β) (h : k ∉ l.map (·.1)) :
    ainsert l k v = l ++ [(k, v)] := by
  induction l with
  | nil => rfl
  | cons q l ih =>
    obtain ⟨k0, v0⟩ := q
    simp only [List.map_cons, List.mem_cons, not_or] at h
    have : (k0 == k) = false := by simpa using fun e => h.1 e.symm
    simp [ainsert, this, ih h.2]

theorem foldl_ainsert_of_nodup (acc ps : List (κ × β))
    (h : ((acc ++ ps).map (·.1)).Nodup) :
    ps.foldl (fun acc p => ainsert acc p.1 p.2) acc = acc ++ ps := by
  induction ps generalizing acc with
  | nil => simp
  | cons q ps ih =>
    obtain ⟨k0, v0⟩ := q
    have h1 : k0 ∉ acc.map (·.1) := by
      intro hm
      simp only [List.map_append, List.map_cons, List.nodup_append, List.mem_cons] at h
      exact h.2.2 _ hm _ (Or.inl rfl) rfl
    simp only [List.foldl_cons]
    rw [ainsert_of_not_mem _ _ _ h1, ih _ (by simpa using h)]
    simp

theorem adict_of_nodup (ps : List (κ × β)) (h : (ps.map (·.1)).Nodup) : adict ps = ps := by
  have := foldl_ainsert_of_nodup [] ps (by simpa using h)
  simpa [adict] using this

theorem mem_ainsert {l : List (κ × β)} {k : κ} {v : β} {p : κ × β} (h : p ∈ ainsert l k v) :
    p ∈ l ∨ p = (k, v) := by
  induction l with
  | nil => simp [ainsert] at h; exact Or.inr h
  | cons q l ih =>
    obtain ⟨a, b⟩ := q
    simp only [ainsert] at h
    split at h
    · rename_i hk; have := eq_of_beq hk; subst this
      rcases List.mem_cons.1 h with h | h
      · exact Or.inr h
      · exact Or.inl (List.mem_cons_of_mem _ h)
    · rcases List.mem_cons.1 h with h | h
      · exact Or.inl (by simp [h])
      · rcases ih h with h | h
        · exact Or.inl (List.mem_cons_of_mem _ h)
        · exact Or.inr h

theorem ainsert_keys (l : List (κ × β)) (k : κ) (v : β) :
    (ainsert l k v).map (·.1) = if k ∈ l.map (·.1) then l.map (·.1) else l.map (·.1) ++ [k] := by
  induction l with
  | nil => simp [ainsert]
  | cons q rest ih =>
    obtain ⟨k', v'⟩ := q
    simp only [ainsert]
    by_cases hk : (k' == k) = true
    · have := eq_of_beq hk
      subst this
      simp
    · have hne : k ≠ k' := fun h => hk (by simp [h])
      simp only [hk, Bool.false_eq_true, ↓reduceIte, List.map_cons, ih, List.mem_cons, hne, false_or]
      by_cases hm : k ∈ List.map (fun x => x.1) rest
      · simp only [hm, if_true]
      · simp only [hm, if_false]; rfl

theorem ainsert_keys_of_mem {l : List (κ × β)} {k : κ} (v : β) (h : k ∈ l.map (·.1)) :
    (ainsert l k v).map (·.1) = l.map (·.1) := by
  rw [ainsert_keys, if_pos h]

theorem mem_keys_ainsert {l : List (κ × β)} {k : κ} {v : β} {k' : κ} :
    k' ∈ (ainsert l k v).map (·.1) ↔ k' ∈ l.map (·.1) ∨ k' = k := by
  rw [ainsert_keys]
  split
  · rename_i hk
    exact ⟨Or.inl, fun h => h.elim id (fun e => e ▸ hk)⟩
  · simp

theorem ainsert_keys_nodup {l : List (κ × β)} (k : κ) (v : β) (h : (l.map (·.1)).Nodup) :
    ((ainsert l k v).map (·.1)).Nodup := by
  rw [ainsert_keys]
  split
  · exact h
  · rename_i hk
    exact List.nodup_append.mpr ⟨h, by simp, by
      intro a ha b hb
      simp only [List.mem_singleton] at hb
      subst hb
      intro hab; subst hab; exact hk ha⟩

omit [LawfulBEq κ] in
theorem aerase_sublist (l : List (κ × β)) (k : κ) : (aerase l k).Sublist l := by
  induction l with
  | nil => exact List.Sublist.refl _
  | cons q rest ih =>
    obtain ⟨k', v'⟩ := q
    simp only [aerase]
    split
    · exact List.sublist_cons_self _ _
    · exact ih.cons_cons _

omit [LawfulBEq κ] in
theorem mem_aerase {l : List (κ × β)} {k : κ} {p : κ × β} (h : p ∈ aerase l k) : p ∈ l :=
  (aerase_sublist l k).subset h

omit [LawfulBEq κ] in
theorem aerase_keys_nodup {l : List (κ × β)} (k : κ) (h : (l.map (·.1)).Nodup) :
    ((aerase l k).map (·.1)).Nodup :=
  List.Nodup.sublist ((aerase_sublist l k).map _) h

theorem foldl_ainsert_keys_nodup (acc ps : List (κ × β)) (h : (acc.map (·.1)).Nodup) :
    ((ps.foldl (fun acc p => ainsert acc p.1 p.2) acc).map (·.1)).Nodup := by
  induction ps generalizing acc with
  | nil => exact h
  | cons p ps ih => exact ih _ (ainsert_keys_nodup _ _ h)

theorem mem_foldl_ainsert {acc ps : List (κ × β)} {p : κ × β}
    (h : p ∈ ps.foldl (fun acc p => ainsert acc p.1 p.2) acc) : p ∈ acc ∨ p ∈ ps := by
  induction ps generalizing acc with
  | nil => exact Or.inl h
  | cons q ps ih =>
    rcases ih (acc := ainsert acc q.1 q.2) h with h | h
    · rcases mem_ainsert h with h | h
      · exact Or.inl h
      · exact Or.inr (by simp [h])
    · exact Or.inr (List.mem_cons_of_mem _ h)

theorem mem_keys_foldl_ainsert {acc ps : List (κ × β)} {k : κ} :
    k ∈ (ps.foldl (fun acc p => ainsert acc p.1 p.2) acc).map (·.1)
      ↔ k ∈ acc.map (·.1) ∨ k ∈ ps.map (·.1) := by
  induction ps generalizing acc with
  | nil => simp
  | cons q ps ih =>
    rw [List.foldl_cons, ih, mem_keys_ainsert, List.map_cons, List.mem_cons, or_assoc]

theorem adict_keys_nodup (ps : List (κ × β)) : ((adict ps).map (·.1)).Nodup :=
  foldl_ainsert_keys_nodup [] ps (by simp)

theorem mem_adict {ps : List (κ × β)} {p : κ × β} (h : p ∈ adict ps) : p ∈ ps :=
  (mem_foldl_ainsert (acc := []) h).elim (fun h => by simp at h) id

theorem mem_keys_adict {ps : List (κ × β)} {k : κ} :
    k ∈ (adict ps).map (·.1) ↔ k ∈ ps.map (·.1) := by
  unfold adict
  rw [mem_keys_foldl_ainsert]; simp

omit [LawfulBEq κ] in
theorem ainsert_map_val (f : β → γ) (l : List (κ × β)) (k : κ) (v : β) :
    ainsert (l.map (fun p => (p.1, f p.2))) k (f v) = (ainsert l k v).map (fun p => (p.1, f p.2)) := by
  induction l with
  | nil => rfl
  | cons p l ih =>
    obtain ⟨a, b⟩ := p
    simp only [List.map_cons, ainsert]
    split
    · rfl
    · simp only [List.map_cons]; rw [← ih]

omit [LawfulBEq κ] in
theorem foldl_ainsert_map_val (f : β → γ) (acc l : List (κ × β)) :
    (l.map (fun p => (p.1, f p.2))).foldl (fun acc p => ainsert acc p.1 p.2) (acc.map (fun p => (p.1, f p.2)))
      = (l.foldl (fun acc p => ainsert acc p.1 p.2) acc).map (fun p => (p.1, f p.2)) := by
  induction l generalizing acc with
  | nil => rfl
  | cons q l ih =>
    rw [List.map_cons, List.foldl_cons, List.foldl_cons, ainsert_map_val f acc q.1 q.2, ih]

omit [LawfulBEq κ] in
theorem adict_map_val (f : β → γ) (l : List (κ × β)) :
    adict (l.map (fun p => (p.1, f p.2))) = (adict l).map (fun p => (p.1, f p.2)) :=
  foldl_ainsert_map_val f [] l

theorem ainsert_map_key {κ' : Type} [BEq κ'] [LawfulBEq κ'] (f : κ → κ') {S : List κ}
    (hinj : ∀ s ∈ S, ∀ t ∈ S, f s = f t → s = t) (l : List (κ × β)) (hl : ∀ e ∈ l, e.1 ∈ S) {k : κ} (hk : k ∈ S)
    (v : β) :
    (ainsert l k v).map (fun p => (f p.1, p.2)) = ainsert (l.map (fun p => (f p.1, p.2))) (f k) v ∧
    ∀ e ∈ ainsert l k v, e.1 ∈ S := by
  induction l with
  | nil => exact ⟨rfl, fun e he => by rw [List.mem_singleton.mp he]; exact hk⟩
  | cons q l ih =>
    obtain ⟨k0, v0⟩ := q
    have h0 : k0 ∈ S := hl _ (List.mem_cons_self ..)
    have hr : ∀ e ∈ l, e.1 ∈ S := fun e he => hl e (List.mem_cons_of_mem _ he)
    obtain ⟨ih1, ih2⟩ := ih hr
    by_cases e : k0 = k
    · subst e
      refine ⟨by simp [ainsert], fun e he => ?_⟩
      simp only [ainsert, beq_self_eq_true, if_true, List.mem_cons] at he
      rcases he with rfl | he
      · exact h0
      · exact hr e he
    · have hf : f k0 ≠ f k := fun h => e (hinj k0 h0 k hk h)
      refine ⟨by simp [ainsert, e, hf, ih1], fun e' he => ?_⟩
      simp only [ainsert, beq_eq_false_iff_ne.mpr e, Bool.false_eq_true, if_false, List.mem_cons] at he
      rcases he with rfl | he
      · exact h0
      · exact ih2 e' he

theorem foldl_ainsert_map_key {κ' : Type} [BEq κ'] [LawfulBEq κ'] (f : κ → κ') {S : List κ}
    (hinj : ∀ s ∈ S, ∀ t ∈ S, f s = f t → s = t) (ps : List (κ × β)) (hps : ∀ e ∈ ps, e.1 ∈ S) :
    ∀ (acc : List (κ × β)), (∀ e ∈ acc, e.1 ∈ S) →
      (ps.foldl (fun a p => ainsert a p.1 p.2) acc).map (fun p => (f p.1, p.2)) =
        (ps.map (fun p => (f p.1, p.2))).foldl (fun a p => ainsert a p.1 p.2) (acc.map (fun p => (f p.1, p.2))) := by
  induction ps with
  | nil => intro acc _; rfl
  | cons q r ih =>
    intro acc ha
    obtain ⟨e1, e2⟩ := ainsert_map_key f hinj acc ha (hps q (List.mem_cons_self ..)) q.2
    simp only [List.map_cons, List.foldl_cons]
    rw [← e1]
    exact ih (fun e he => hps e (List.mem_cons_of_mem _ he)) _ e2

end alist

theorem allDistinct_iff_nodup {α : Type} [BEq α] [LawfulBEq α] {l : List α} :
    allDistinct l = true ↔ l.Nodup := by
  induction l with
  | nil => simp [allDistinct]
  | cons a l ih =>
    simp only [allDistinct, Bool.and_eq_true, Bool.not_eq_true', List.nodup_cons, ih]
    rw [← Bool.not_eq_true, List.contains_iff_mem]

end SymmModel
