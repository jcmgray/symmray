/-
  SymmModel.Proofs.FermiAction2 — groundwork for applying a local operator array to a state tensor
  (property C18, action clause): the instance `signRingOfRing` (a ring has the sign laws of
  Proofs/Graded), positions in canonical layout, the correspondence between a basis index and its
  (charge, offset) address along one axis (`rankIn`, `posIn`), and `opEntry`, the specified element
  masked by charge conservation.
-/
import SymmModel.Proofs.FermiAction1
import SymmModel.Proofs.Graded
import SymmModel.Proofs.TdotMore
import Mathlib.Algebra.BigOperators.Group.List.Basic
import Mathlib.Algebra.Ring.Basic

namespace SymmModel
namespace FermiActP
open FermiOpsP GradedP TdotP

instance signRingOfRing {R : Type} [Ring R] : SignRing R :=
  ⟨neg_neg, neg_zero, neg_add, neg_mul, mul_neg⟩

theorem permuted_append_left {α : Type} (A B : List α) :
    permuted (A ++ B) (List.range A.length) = A := by
  rw [ValidP.permuted_range_take, List.take_left]

theorem permuted_append_right {α : Type} (A B : List α) :
    permuted (A ++ B) ((List.range (A.length + B.length)).drop A.length) = B := by
  rw [← List.length_append, ValidP.permuted_range_drop, List.drop_left]

theorem range_split (m k : Nat) (hk : k ≤ m) :
    List.range k ++ (List.range m).drop k = List.range m := by
  rw [drop_range_eq_map m k hk]; exact (range_eq_append_shift m k hk).symm

/-- offset of basis state `j` inside the block of its charge: its rank among the positions
    carrying the same label -/
def rankIn (m : List Charge) (j : Nat) : Nat :=
  ((alookup (chargeGroups m) (m.getD j (0, 0))).getD []).idxOf j

/-- the `k`-th basis state carrying charge `c` -/
def posIn (m : List Charge) (c : Charge) (k : Nat) : Nat :=
  ((alookup (chargeGroups m) c).getD []).getD k 0

theorem group_nodup {m : List Charge} {c : Charge} {l : List Nat}
    (hl : alookup (chargeGroups m) c = some l) : l.Nodup :=
  ((chargeGroups_inv m).sorted c l hl).imp (fun h => Nat.ne_of_lt h)

theorem pos_of_group (m : List Charge) (c : Charge) (l : List Nat)
    (hl : alookup (chargeGroups m) c = some l) (k : Nat) (hk : k < l.length) :
    posIn m c k = l[k] ∧ l[k] < m.length ∧ m.getD l[k] (0, 0) = c ∧ rankIn m l[k] = k := by
  have hlab := ((chargeGroups_inv m).label c l hl l[k] (List.getElem_mem hk)).1
  have hlt : l[k] < m.length := by
    by_contra hn; rw [List.getElem?_eq_none (by omega)] at hlab; cases hlab
  have hget : m.getD l[k] (0, 0) = c := by rw [List.getD_eq_getElem?_getD, hlab]; rfl
  refine ⟨?_, hlt, hget, ?_⟩
  · simp [posIn, hl, List.getD_eq_getElem?_getD, List.getElem?_eq_getElem hk]
  · unfold rankIn
    rw [hget, hl]
    exact (group_nodup hl).idxOf_getElem k hk

theorem group_of_pos (m : List Charge) (j : Nat) (hj : j < m.length) :
    ∃ l, alookup (chargeGroups m) (m.getD j (0, 0)) = some l ∧ j ∈ l
      ∧ ∃ hr : rankIn m j < l.length, l[rankIn m j] = j := by
  have hlab : m[j]? = some (m.getD j (0, 0)) := by
    rw [List.getD_eq_getElem?_getD, List.getElem?_eq_getElem hj]; rfl
  obtain ⟨l, hl, hmem⟩ := (chargeGroups_inv m).cover j _ hj hlab
  have hr : rankIn m j < l.length := by
    unfold rankIn; rw [hl]; exact List.idxOf_lt_length_of_mem hmem
  refine ⟨l, hl, hmem, hr, ?_⟩
  have e : rankIn m j = l.idxOf j := by unfold rankIn; rw [hl]; rfl
  have := List.getElem_idxOf (x := j) (xs := l) (List.idxOf_lt_length_of_mem hmem)
  simp only [e]; exact this

theorem groups_perm (m : List Charge) :
    ((chargeGroups m).flatMap (·.2)).Perm (List.range m.length) := by
  have inv := chargeGroups_inv m
  have hnd : ((chargeGroups m).flatMap (·.2)).Nodup := by
    rw [List.nodup_flatMap]
    constructor
    · rintro ⟨c, l⟩ hcl
      exact group_nodup ((mem_iff_alookup inv.nodup).mp hcl)
    · have := inv.nodup
      rw [List.Nodup, List.pairwise_map] at this
      refine List.Pairwise.imp_of_mem ?_ this
      rintro ⟨c, l⟩ ⟨c', l'⟩ h1 h2 hne
      simp only [Function.onFun]
      intro j hj hj'
      have e1 := (inv.label c l ((mem_iff_alookup inv.nodup).mp h1) j hj).1
      have e2 := (inv.label c' l' ((mem_iff_alookup inv.nodup).mp h2) j hj').1
      rw [e1] at e2
      exact hne (Option.some.inj e2)
  rw [List.perm_ext_iff_of_nodup hnd List.nodup_range]
  intro j
  simp only [List.mem_flatMap, List.mem_range]
  constructor
  · rintro ⟨⟨c, l⟩, hcl, hj⟩
    have := (inv.label c l ((mem_iff_alookup inv.nodup).mp hcl) j hj).1
    by_contra hn; rw [List.getElem?_eq_none (by omega)] at this; cases this
  · intro hj
    obtain ⟨l, hl, hmem, _⟩ := group_of_pos m j hj
    exact ⟨(_, l), (mem_iff_alookup inv.nodup).mpr hl, hmem⟩

theorem sum_range_getElem {R : Type} [AddCommMonoid R] (l : List Nat) (h : Nat → R) :
    ((List.range l.length).map (fun k => h (l.getD k 0))).sum = (l.map h).sum := by
  congr 1
  apply List.ext_getElem
  · simp
  · intro i h1 h2
    simp only [List.length_map, List.length_range] at h1
    simp [List.getD_eq_getElem?_getD, List.getElem?_eq_getElem h1]

theorem sum_groups {R : Type} [AddCommMonoid R] (m : List Charge) (h : Nat → R) :
    ((Index.sortCm (gsizes m)).map (fun cd =>
        ((List.range cd.2).map (fun k => h (posIn m cd.1 k))).sum)).sum
      = ((List.range m.length).map h).sum := by
  rw [((sortCm_perm (gsizes m)).map _).sum_eq, ← ((groups_perm m).map h).sum_eq, sum_map_flatMap]
  unfold gsizes
  rw [List.map_map]
  congr 1
  apply List.map_congr_left
  rintro ⟨c, l⟩ hcl
  have hl := (mem_iff_alookup (chargeGroups_inv m).nodup).mp hcl
  simp only [Function.comp, posIn, hl, Option.getD_some]
  exact sum_range_getElem l h

section action1
variable {R : Type} [Ring R] [DecidableEq R]

/-- entry of the operator array at a basis multi-index `(i…, j…)`: the specified element, masked
    by charge conservation of the labels (the mask is vacuous for neutral terms, see
    `opEntry_eq_specAt`) -/
def opEntry (terms : List (R × Word)) (bases : List (List Word)) (sym : Sym)
    (maps : List (List Charge)) (idx : List Nat) : R :=
  if Arr.sectorCharge sym (opDuals bases.length) (labelsAt (maps ++ maps) idx) == sym.zero
  then specAt terms bases idx else 0

theorem key_of_lookup {m : List Charge} {c : Charge} {l : List Nat}
    (hl : alookup (chargeGroups m) c = some l) : c ∈ (chargeGroups m).map (·.1) := by
  rw [← alookup_isSome_iff, hl]; rfl

end action1

end FermiActP
end SymmModel
