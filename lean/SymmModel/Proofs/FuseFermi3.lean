/-
  SymmModel.Proofs.FuseFermi3 — fermionic fuse: the sign-adjusted operand is a valid synchronised
  array whose value is the transposed value times an explicit sign per sector; its frame
  (`signAdj_ndim`, `signAdj_groupsOk`, `signAdj_position`, `signAdj_perm`).
-/
import SymmModel.Proofs.FuseFermi2
import SymmModel.Proofs.LazyLemmas
import SymmModel.Proofs.ValidFuseF
namespace SymmModel
namespace FuseP
set_option linter.unusedSectionVars false
open SymmModel.Lazy

variable {R : Type}

section F
variable [Zero R] [Neg R]

theorem sgnI_comm (σ τ : Int) (x : R) : sgnI σ (sgnI τ x) = sgnI τ (sgnI σ x) := by
  unfold sgnI
  split <;> split <;> rfl

/-- the sign the fermionic fuse applies to sector `S` of the TRANSPOSED array: the flip of the
    non-dual legs of the dual groups and the virtual reversal of the dual groups -/
def fuseSignT (a : Arr R) (groups : List (List Nat)) (S : Sector) : Int :=
  flipSign a.sym (axesFlipF a groups) S
    * (if (dualGroupsF a groups).isEmpty then 1 else koszul (S.map a.sym.parity) (some (vpermF a groups)))

theorem fuseSignT_pm (a : Arr R) (groups : List (List Nat)) (S : Sector) :
    fuseSignT a groups S = 1 ∨ fuseSignT a groups S = -1 := by
  unfold fuseSignT
  apply mul_pm (flipSign_pm _ _ _)
  split
  · exact Or.inl rfl
  · exact koszul_pm _ _

theorem signAdj_fields (a : Arr R) (groups : List (List Nat)) :
    (signAdj a groups).phases = [] ∧ (signAdj a groups).indices = permuted a.indices (calcFuseGroupInfo groups a.duals).perm
      ∧ (signAdj a groups).sym = a.sym ∧ (signAdj a groups).fermi = a.fermi
      ∧ (signAdj a groups).charge = a.charge ∧ (signAdj a groups).oddpos = a.oddpos := by
  obtain ⟨hi, hs, hc, ho, hf⟩ :=
    ValidP.phaseFlip_fields (a.transposeF (calcFuseGroupInfo groups a.duals).perm) (axesFlipF a groups)
  -- `phaseSync` and `phaseTranspose` touch only blocks and phases; stated for a variable array,
  -- so that the unifier never compares `X.phaseSync` with `X` for the concrete `X`
  have key : ∀ (c : Bool) (X : Arr R) (v : Option (List Nat)),
      (if c then X else X.phaseTranspose v).phaseSync.phases = []
        ∧ (if c then X else X.phaseTranspose v).phaseSync.indices = X.indices
        ∧ (if c then X else X.phaseTranspose v).phaseSync.sym = X.sym
        ∧ (if c then X else X.phaseTranspose v).phaseSync.fermi = X.fermi
        ∧ (if c then X else X.phaseTranspose v).phaseSync.charge = X.charge
        ∧ (if c then X else X.phaseTranspose v).phaseSync.oddpos = X.oddpos := by
    intro c X v
    cases c <;> exact ⟨rfl, rfl, rfl, rfl, rfl, rfl⟩
  obtain ⟨k1, k2, k3, k4, k5, k6⟩ := key (dualGroupsF a groups).isEmpty
    ((a.transposeF (calcFuseGroupInfo groups a.duals).perm).phaseFlip (axesFlipF a groups)) (some (vpermF a groups))
  exact ⟨k1, k2.trans hi, k3.trans hs, k4.trans hf, k5.trans hc, k6.trans ho⟩

theorem giM_isPerm {a : Arr R} {groups : List (List Nat)} (hok : GroupsOk groups a.ndim) :
    Arr.isPerm (calcFuseGroupInfo groups a.duals).perm a.ndim = true := by
  have := perm_isPerm (hokD hok).adm; rwa [duals_length] at this

theorem signAdj_valid (a : Arr R) (groups : List (List Nat)) (hv : a.validB = true) (hf : a.fermi = true)
    (hok : GroupsOk groups a.ndim) : ValidP.Valid (signAdj a groups) := by
  have hVa := (ValidP.validB_iff a).1 hv
  have hisp := giM_isPerm (a := a) hok
  have v1 := ValidP.transposeF_valid a _ true hVa hf hisp
  have f1 : (a.transposeF (calcFuseGroupInfo groups a.duals).perm).fermi = true := hf
  have v2 := ValidP.phaseFlip_valid _ (axesFlipF a groups) v1 f1
  have f2 : ((a.transposeF (calcFuseGroupInfo groups a.duals).perm).phaseFlip (axesFlipF a groups)).fermi = true := by
    rw [(ValidP.phaseFlip_fields _ _).2.2.2.2]; exact f1
  unfold signAdj
  split
  · exact ValidP.phaseSync_valid _ v2
  · exact ValidP.phaseSync_valid _ (ValidP.phaseTranspose_valid _ _ v2 f2)


theorem signAdj_ndim {a : Arr R} {groups : List (List Nat)} (hok : GroupsOk groups a.ndim) :
    (signAdj a groups).ndim = a.ndim := by
  show (signAdj a groups).indices.length = a.ndim
  rw [(signAdj_fields a groups).2.1]; exact permutedM_length hok.adm a.indices rfl

theorem signAdj_duals_length {a : Arr R} {groups : List (List Nat)} (hok : GroupsOk groups a.ndim) :
    (signAdj a groups).duals.length = a.duals.length := by
  rw [duals_length, duals_length, signAdj_ndim hok]

theorem signAdj_groupsOk {a : Arr R} {groups : List (List Nat)} (hok : GroupsOk groups a.ndim) :
    GroupsOk (newGroupsF groups a.duals) (signAdj a groups).ndim := by
  rw [signAdj_ndim hok, ← duals_length]; exact newGroupsF_ok (hokD hok)

theorem signAdj_position {a : Arr R} {groups : List (List Nat)} (hok : GroupsOk groups a.ndim) :
    (giM (signAdj a groups) (newGroupsF groups a.duals)).position = (calcFuseGroupInfo groups a.duals).position :=
  (newGroups_plan (hokD hok) (signAdj_duals_length hok)).1

theorem signAdj_perm {a : Arr R} {groups : List (List Nat)} (hok : GroupsOk groups a.ndim) :
    (giM (signAdj a groups) (newGroupsF groups a.duals)).perm = List.range a.duals.length :=
  (newGroups_plan (hokD hok) (signAdj_duals_length hok)).2.1

theorem signAdj_elem [LawfulNeg R] (a : Arr R) (groups : List (List Nat)) (S : Sector) (J : List Nat) :
    (signAdj a groups).elem S J
      = sgnI (fuseSignT a groups S) ((a.transposeF (calcFuseGroupInfo groups a.duals).perm).elem S J) := by
  have h1 : SignOk (a.transposeF (calcFuseGroupInfo groups a.duals).perm) := SignOk.transposeF a _
  have h2 := h1.phaseFlip (axesFlipF a groups)
  have hsym : (a.transposeF (calcFuseGroupInfo groups a.duals).perm).sym = a.sym := rfl
  have hsym2 : ((a.transposeF (calcFuseGroupInfo groups a.duals).perm).phaseFlip (axesFlipF a groups)).sym = a.sym :=
    (ValidP.phaseFlip_fields _ _).2.1
  unfold signAdj fuseSignT
  rw [phaseSync_elem]
  split
  · rw [phaseFlip_elem _ _ h1, hsym]; simp
  · rw [phaseTranspose_elem _ _ h2, phaseFlip_elem _ _ h1, hsym,
      sgnI_mul (flipSign_pm _ _ _) (koszul_pm _ _)]
    have hp : ((a.transposeF (calcFuseGroupInfo groups a.duals).perm).phaseFlip (axesFlipF a groups)).parities S
        = S.map a.sym.parity := by
      simp only [Arr.parities, hsym2]
    rw [hp]
    exact sgnI_comm _ _ _

end F

end FuseP
end SymmModel
