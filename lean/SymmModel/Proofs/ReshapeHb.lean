/-
  SymmModel.Proofs.ReshapeHb — the invariant `InvH` of the multi-call round trip, for inputs that may
  ALREADY carry fused axes.  "Fused axis" and "axis created by the forward plan" are not the same
  then, so every axis of the intermediate array carries a mark (`true` = created by a fuse call of
  the plan); the old fused axes of the input stay what they are.  The way back
  (Proofs/ReshapeIg.lean) unfuses the marked axes only.  For an input without fused axes the marked
  axes are exactly the fused ones.
-/
import SymmModel.Proofs.ReshapeHa
namespace SymmModel.ReshapeH
open SymmModel SymmModel.Reshape SymmModel.C07 SymmModel.Reshape5 ReshapeP FuseP
set_option linter.unusedSectionVars false

variable {R : Type}

def subsOf (ix : Index) : List Index := match ix.sub with
  | some se => se.1
  | none => []

/-- what a marked axis stands for in the original array -/
def expM (s : Index × Bool) : List Index := if s.2 then subsOf s.1 else [s.1]

/-- (axis, number of sub-indices) of the marked axes, left to right; `b` = axis of the first -/
def newPL : List (Index × Bool) → Nat → List (Nat × Nat)
  | [], _ => []
  | s :: r, b => if s.2 then (b, (subsOf s.1).length) :: newPL r (b + 1) else newPL r (b + 1)

/-- a marked axis is fused and has at least one sub-index: `FusedOk` (Reshape5a) of the symbolic shape
    `symH segs` (`fusedOk_symH`) -/
def SegOk (s : Index × Bool) : Prop := s.2 = true → ∃ se, s.1.sub = some se ∧ se.1 ≠ []

/-- the symbolic shape in which only the marked axes count as fused -/
def symH (segs : List (Index × Bool)) : SymShape :=
  segs.map (fun s => (s.1.sizeTotal, if s.2 then s.1.sub.map (fun se => se.1.map Index.sizeTotal) else none))

def AllOld (segs : List (Index × Bool)) : Prop := ∀ s ∈ segs, s.2 = false

theorem newPL_append : ∀ (A B : List (Index × Bool)) (b : Nat),
    newPL (A ++ B) b = newPL A b ++ newPL B (b + A.length) := by
  intro A
  induction A with
  | nil => intro B b; simp [newPL]
  | cons s A ih =>
    intro B b
    simp only [List.cons_append, newPL, List.length_cons]
    cases s.2 with
    | false => simp only [Bool.false_eq_true, if_false]; rw [ih]; congr 2; omega
    | true => simp only [if_true, List.cons_append]; rw [ih]; congr 3; omega

theorem newPL_old {A : List (Index × Bool)} (h : AllOld A) (b : Nat) : newPL A b = [] := by
  induction A generalizing b with
  | nil => rfl
  | cons s A ih =>
    simp only [newPL, h s (by simp), Bool.false_eq_true, if_false]
    exact ih (fun i hi => h i (by simp [hi])) _

theorem flatMap_old {A : List (Index × Bool)} (h : AllOld A) : A.flatMap expM = A.map (·.1) := by
  induction A with
  | nil => rfl
  | cons s A ih =>
    simp only [List.flatMap_cons, List.map_cons, expM, h s (by simp), Bool.false_eq_true, if_false]
    rw [ih (fun i hi => h i (by simp [hi]))]; rfl

theorem newPL_mem : ∀ (segs : List (Index × Bool)) (b : Nat) (pl : Nat × Nat), pl ∈ newPL segs b →
    b ≤ pl.1 ∧ ∃ ix, segs[pl.1 - b]? = some (ix, true) ∧ (subsOf ix).length = pl.2 := by
  intro segs
  induction segs with
  | nil => intro b pl h; simp [newPL] at h
  | cons s r ih =>
    intro b pl h
    obtain ⟨ix0, m⟩ := s
    simp only [newPL] at h
    cases m with
    | false =>
      simp only [Bool.false_eq_true, if_false] at h
      obtain ⟨h1, ix, h2, h3⟩ := ih (b + 1) pl h
      refine ⟨by omega, ix, ?_, h3⟩
      have : pl.1 - b = (pl.1 - (b + 1)) + 1 := by omega
      rw [this]; simpa using h2
    | true =>
      simp only [if_true] at h
      rcases List.mem_cons.mp h with rfl | h
      · exact ⟨Nat.le_refl _, ix0, by simp, rfl⟩
      · obtain ⟨h1, ix, h2, h3⟩ := ih (b + 1) pl h
        refine ⟨by omega, ix, ?_, h3⟩
        have : pl.1 - b = (pl.1 - (b + 1)) + 1 := by omega
        rw [this]; simpa using h2

theorem newPL_sorted : ∀ (segs : List (Index × Bool)) (b : Nat),
    ((newPL segs b).map (·.1)).Pairwise (· < ·) := by
  intro segs
  induction segs with
  | nil => intro b; simp [newPL]
  | cons s r ih =>
    intro b
    simp only [newPL]
    cases s.2 with
    | false => simp only [Bool.false_eq_true, if_false]; exact ih (b + 1)
    | true =>
      simp only [if_true, List.map_cons, List.pairwise_cons]
      refine ⟨?_, ih (b + 1)⟩
      intro q hq
      obtain ⟨pl, hpl, rfl⟩ := List.mem_map.mp hq
      have := (newPL_mem r (b + 1) pl hpl).1
      omega

theorem sizes_symH (segs : List (Index × Bool)) :
    SymShape.sizes (symH segs) = (segs.map (·.1)).map Index.sizeTotal := by
  simp [symH, SymShape.sizes, List.map_map, Function.comp_def]

theorem tgt_symH (segs : List (Index × Bool)) (hok : ∀ s ∈ segs, SegOk s) :
    tgt (symH segs) = (segs.flatMap expM).map Index.sizeTotal := by
  induction segs with
  | nil => rfl
  | cons s r ih =>
    have ih' := ih (fun i hi => hok i (by simp [hi]))
    simp only [symH, List.map_cons, tgt_cons, List.flatMap_cons, List.map_append] at ih' ⊢
    rw [ih']
    congr 1
    obtain ⟨ix, m⟩ := s
    cases m with
    | false => simp [tgt1, expM]
    | true =>
      obtain ⟨se, hse, _⟩ := hok (ix, true) (by simp) rfl
      simp only at hse
      simp [tgt1, expM, subsOf, hse]

theorem fusedOk_symH (segs : List (Index × Bool)) (hok : ∀ s ∈ segs, SegOk s) : FusedOk (symH segs) := by
  intro e he subs hs
  simp only [symH, List.mem_map] at he
  obtain ⟨s, hs', rfl⟩ := he
  obtain ⟨ix, m⟩ := s
  cases m with
  | false => simp at hs
  | true =>
    obtain ⟨se, hse, hne⟩ := hok (ix, true) hs' rfl
    simp only at hse
    simp only [if_true, hse, Option.map_some, Option.some.injEq] at hs
    subst hs
    simpa using hne

theorem backAxes_symH : ∀ (segs : List (Index × Bool)) (b off : Nat), (∀ s ∈ segs, SegOk s) →
    backAxes (symH segs) (b + off) = l2rAxes (newPL segs b) off := by
  intro segs
  induction segs with
  | nil => intro b off _; rfl
  | cons s r ih =>
    intro b off hok
    have hokr : ∀ s ∈ r, SegOk s := fun i hi => hok i (by simp [hi])
    obtain ⟨ix, m⟩ := s
    cases m with
    | false =>
      simp only [symH, List.map_cons, Bool.false_eq_true, if_false, backAxes, newPL]
      have := ih (b + 1) off hokr
      simp only [symH] at this
      rw [← this]; congr 1; omega
    | true =>
      obtain ⟨se, hse, hne⟩ := hok (ix, true) (by simp) rfl
      simp only at hse
      have hl : 1 ≤ se.1.length := List.length_pos_iff.mpr hne
      simp only [symH, List.map_cons, if_true, hse, Option.map_some, backAxes, newPL, l2rAxes,
        List.length_map, subsOf]
      congr 1
      have := ih (b + 1) (off + se.1.length - 1) hokr
      simp only [symH] at this
      rw [← this]; congr 1; omega

theorem ndim_fused {y y' : Arr R} {mids : List Index} {G : List (List Nat)} {P : Nat}
    (hidx : y'.indices = y.indices.take P ++ mids ++ y.indices.drop (P + G.flatten.length))
    (hml : mids.length = G.length) (hle : P + G.flatten.length ≤ y.ndim) :
    y'.ndim = y.ndim - G.flatten.length + G.length := by
  have hnd : y.indices.length = y.ndim := rfl
  have h1 : y'.indices.length = y'.ndim := rfl
  have := congrArg List.length hidx
  have hAy : (y.indices.take P).length = P := by rw [List.length_take]; omega
  simp only [List.length_append, hAy, hml, List.length_drop] at this
  omega

variable [Zero R] [Neg R] [Lazy.LawfulNeg R]

/-- the invariant: `a` is the original array (fused axes allowed), `segs` the marked axes of `y` -/
structure InvH (unf : Arr R → Nat → Except Err (Arr R)) (Good : Arr R → Prop) (a y : Arr R) (lb : Nat)
    (segs : List (Index × Bool)) : Prop where
  good : Good y
  idx : y.indices = segs.map (·.1)
  exp : segs.flatMap expM = a.indices
  ok : ∀ s ∈ segs, SegOk s
  old : AllOld (segs.drop lb)
  chain : ∃ z, ((newPL segs 0).map (·.1)).reverse.foldlM unf y = .ok z ∧ Good z ∧ VEq z a

theorem allOld_init (l : List Index) : AllOld (l.map (fun ix => (ix, false))) := by
  intro s hs
  obtain ⟨ix, _, rfl⟩ := List.mem_map.mp hs
  rfl

theorem invH_init {unf : Arr R → Nat → Except Err (Arr R)} {Good : Arr R → Prop} (a : Arr R)
    (hg : Good a) : InvH unf Good a a 0 (a.indices.map (fun ix => (ix, false))) where
  good := hg
  idx := by simp [List.map_map, Function.comp_def]
  exp := by rw [flatMap_old (allOld_init _)]; simp [List.map_map, Function.comp_def]
  ok := fun s hs h => by rw [allOld_init _ s hs] at h; cases h
  old := fun s hs => allOld_init _ s (List.mem_of_mem_drop hs)
  chain := ⟨a, by rw [newPL_old (allOld_init _)]; rfl, hg, VEq.refl a⟩

theorem mids_factsH : ∀ (Ss : List (List Index)) (mids : List Index) (b : Nat), mids.length = Ss.length →
    (∀ (i : Nat) (S : List Index), Ss[i]? = some S →
      ∃ (ix : Index) (e : Extents), mids[i]? = some ix ∧ ix.sub = some (S, e)) →
    (mids.map (fun m => (m, true))).flatMap expM = Ss.flatten
    ∧ (newPL (mids.map (fun m => (m, true))) b).map (·.1) = (List.range Ss.length).map (fun g => b + g)
    ∧ ((∀ S ∈ Ss, S ≠ []) → ∀ s ∈ mids.map (fun m => (m, true)), SegOk s) := by
  intro Ss
  induction Ss with
  | nil =>
    intro mids b hl _
    have : mids = [] := List.length_eq_zero_iff.mp hl
    subst this
    exact ⟨rfl, rfl, fun _ s hs => by simp at hs⟩
  | cons S Ss ih =>
    intro mids b hl h
    cases mids with
    | nil => simp at hl
    | cons m mids =>
      obtain ⟨ix, e, h0, hsub⟩ := h 0 S (by simp)
      simp only [List.getElem?_cons_zero, Option.some.injEq] at h0
      subst h0
      obtain ⟨i1, i2, i3⟩ := ih mids (b + 1) (by simpa using hl) (fun i S' hS' => by
        have := h (i + 1) S' (by simpa using hS')
        simpa using this)
      refine ⟨?_, ?_, ?_⟩
      · simp only [List.map_cons, List.flatMap_cons, List.flatten_cons, i1]
        simp [expM, subsOf, hsub]
      · simp only [List.map_cons, newPL, if_true, List.length_cons, List.range_succ_eq_map,
          List.map_map, i2, Nat.add_zero, List.cons.injEq, true_and]
        apply List.map_congr_left
        intro g _
        simp only [Function.comp]; omega
      · intro hne s hs
        simp only [List.map_cons] at hs
        rcases List.mem_cons.mp hs with rfl | hs
        · intro _
          exact ⟨(S, e), hsub, hne S (by simp)⟩
        · exact i3 (fun S' hS' => hne S' (by simp [hS'])) s hs

/-- what the round trip needs to know about one kind of arrays (`Good`): the unfuse step, the fuse call,
    and that `reshape` dispatches to them -/
structure Kind (fuse : Arr R → List (List Nat) → Except Err (Arr R)) (unf : Arr R → Nat → Except Err (Arr R))
    (Good : Arr R → Prop) (sg : Sym → Index → List Index → Sector → Int) : Prop where
  stepOK : StepOK unf Good sg
  fuseOK : FuseOK fuse unf Good
  ind : ∀ x p y, unf x p = .ok y → ∃ ix subs exts, x.indices[p]? = some ix ∧ ix.sub = some (subs, exts)
  fd : ∀ x G, Good x → fuseDispatch x G = fuse x G
  disp : ∀ x p, Good x → unfuseDispatch x p = unf x p

theorem kind_F : Kind (R := R) (fun y G => Arr.fuseF y G .insert true) Arr.unfuseF
    (fun a => a.validB = true ∧ a.fermi = true) segSign :=
  ⟨stepOK_F, fuseOK_F, ind_F, fun x G hx => by simp [fuseDispatch, hx.2], disp_F⟩

theorem kind_A : Kind (R := R) (fun y G => fuseA y G) unfuseA
    (fun a => a.validB = true ∧ a.fermi = false) (fun _ _ _ _ => 1) :=
  ⟨stepOK_A, fuseOK_A, ind_A, fun x G hx => by simp [fuseDispatch, hx.2], disp_A⟩

variable {fuse : Arr R → List (List Nat) → Except Err (Arr R)}
  {unf : Arr R → Nat → Except Err (Arr R)} {Good : Arr R → Prop}
  {sg : Sym → Index → List Index → Sector → Int}

theorem invH_step (K : Kind fuse unf Good sg)
    {a y : Arr R} {lb P : Nat} {G : List (List Nat)} {segs : List (Index × Bool)}
    (hI : InvH unf Good a y lb segs) (hc : CallOk G P lb y.ndim) :
    ∃ y' segs', fuse y G = .ok y' ∧ InvH unf Good a y' (P + G.length) segs'
      ∧ y'.ndim = y.ndim - G.flatten.length + G.length := by
  obtain ⟨y', mids, w, hy', gy', hidx, hml, hmids, hw, gw, hvw⟩ :=
    K.fuseOK.fuse y G P hI.good hc.ne hc.two hc.flat hc.le
  have hnd : y.indices.length = y.ndim := rfl
  have hsl : segs.length = y.ndim := by rw [← hnd, hI.idx]; simp
  obtain ⟨N, hN⟩ : ∃ N, N = G.flatten.length := ⟨_, rfl⟩
  have hle : P + N ≤ y.indices.length := by rw [hN, hnd]; exact hc.le
  have hsplit : segs = segs.take P ++ ((segs.drop P).take N ++ segs.drop (P + N)) := by
    rw [← List.drop_drop, List.take_append_drop, List.take_append_drop]
  have hWold : AllOld ((segs.drop P).take N) := by
    intro s hs
    apply hI.old s
    have h1 : s ∈ segs.drop P := List.mem_of_mem_take hs
    have : segs.drop P = (segs.drop lb).drop (P - lb) := by
      rw [List.drop_drop]; congr 1; have := hc.lb; omega
    rw [this] at h1
    exact List.mem_of_mem_drop h1
  have hCold : AllOld (segs.drop (P + N)) := by
    intro s hs
    apply hI.old s
    have : segs.drop (P + N) = (segs.drop lb).drop (P + N - lb) := by
      rw [List.drop_drop]; congr 1; have := hc.lb; omega
    rw [this] at hs
    exact List.mem_of_mem_drop hs
  have hSs : (G.map (fun g => g.map (fun ax => y.indices.getD ax default))).flatten
      = (y.indices.drop P).take N := by
    rw [← List.map_flatten, hc.flat, ← hN]
    exact map_getD_range' y.indices default P N hle
  obtain ⟨m1, m2, m3⟩ := mids_factsH (G.map (fun g => g.map (fun ax => y.indices.getD ax default))) mids P
    (by simpa using hml) (by
      intro i S hS
      rw [List.getElem?_map] at hS
      cases hg : G[i]? with
      | none => rw [hg] at hS; cases hS
      | some g =>
        rw [hg] at hS
        simp only [Option.map_some, Option.some.injEq] at hS
        subst hS
        exact hmids i g hg)
  rw [hSs] at m1
  simp only [List.length_map] at m2
  have hokm : ∀ s ∈ mids.map (fun m => (m, true)), SegOk s := m3 (by
    intro S hS
    obtain ⟨g, hg, rfl⟩ := List.mem_map.mp hS
    intro hc0
    have hl0 := congrArg List.length hc0
    have h2 := hc.two g hg
    simp only [List.length_map, List.length_nil] at hl0; omega)
  have hAl : (segs.take P).length = P := by rw [List.length_take]; omega
  have hWmap : ((segs.drop P).take N).map (·.1) = (y.indices.drop P).take N := by
    rw [hI.idx, List.map_take, List.map_drop]
  refine ⟨y', segs.take P ++ mids.map (fun m => (m, true)) ++ segs.drop (P + N), hy',
    ⟨gy', ?_, ?_, ?_, ?_, ?_⟩, ?_⟩
  · rw [hidx, ← hN, hI.idx]
    simp [List.map_take, List.map_drop, List.map_map, Function.comp_def]
  · rw [List.flatMap_append, List.flatMap_append, m1, ← hWmap, ← flatMap_old hWold, ← hI.exp]
    conv => rhs; rw [hsplit, List.flatMap_append, List.flatMap_append]
    simp
  · intro s hs
    simp only [List.mem_append] at hs
    rcases hs with (hs | hs) | hs
    · exact hI.ok s (List.mem_of_mem_take hs)
    · exact hokm s hs
    · exact hI.ok s (List.mem_of_mem_drop hs)
  · have : (segs.take P ++ mids.map (fun m => (m, true)) ++ segs.drop (P + N)).drop (P + G.length)
        = segs.drop (P + N) := by
      rw [List.drop_left' (by simp [hAl, hml])]
    rw [this]; exact hCold
  · obtain ⟨zy, hzy, gzy, hvzy⟩ := hI.chain
    have e1 : newPL segs 0 = newPL (segs.take P) 0 := by
      conv => lhs; rw [hsplit]
      rw [newPL_append, newPL_append, newPL_old hWold, newPL_old hCold]
      simp
    have e2 : newPL (segs.take P ++ mids.map (fun m => (m, true)) ++ segs.drop (P + N)) 0
        = newPL (segs.take P) 0 ++ newPL (mids.map (fun m => (m, true))) P := by
      rw [newPL_append, newPL_append, newPL_old hCold]
      simp [hAl]
    rw [e1] at hzy
    obtain ⟨zw, hzw, _, gzw, hvz⟩ := chain_veq K.stepOK K.ind _ y w zy hvw.symm hI.good gw hzy
    refine ⟨zw, ?_, gzw, hvz.symm.trans hvzy⟩
    rw [e2, List.map_append, List.reverse_append, List.foldlM_append, m2, hw]
    exact hzw
  · exact ndim_fused hidx hml hc.le

theorem invH_calls (K : Kind fuse unf Good sg) (a : Arr R) :
    ∀ (calls : List (List (List Nat))) (y : Arr R) (lb : Nat) (segs : List (Index × Bool)),
      InvH unf Good a y lb segs → CallsOk calls lb y.ndim →
      ∃ y' lb' segs', calls.foldlM fuseDispatch y = .ok y' ∧ InvH unf Good a y' lb' segs' := by
  intro calls
  induction calls with
  | nil => intro y lb segs hI _; exact ⟨y, lb, segs, rfl, hI⟩
  | cons G rest ih =>
    intro y lb segs hI hc
    obtain ⟨P, hc1, hc2⟩ := hc
    obtain ⟨y1, segs1, hy1, hI1, hnd⟩ := invH_step K hI hc1
    rw [← hnd] at hc2
    obtain ⟨y', lb', segs', h1, h2⟩ := ih y1 _ segs1 hI1 hc2
    exact ⟨y', lb', segs', by rw [List.foldlM_cons, K.fd y G hI.good, hy1]; exact h1, h2⟩

theorem newPL_fusedAtL (y : Arr R) (segs : List (Index × Bool)) (hidx : y.indices = segs.map (·.1))
    (hok : ∀ s ∈ segs, SegOk s) : ∀ pl ∈ newPL segs 0, 0 < pl.2 ∧ FusedAtL y pl.1 pl.2 := by
  intro pl hpl
  obtain ⟨_, ix, h1, h2⟩ := newPL_mem segs 0 pl hpl
  simp only [Nat.sub_zero] at h1
  obtain ⟨se, hse, hne⟩ := hok (ix, true) (List.mem_of_getElem? h1) rfl
  simp only at hse
  have hl : (subsOf ix).length = se.1.length := by simp [subsOf, hse]
  refine ⟨by rw [← h2, hl]; exact List.length_pos_iff.mpr hne, ix, se.1, se.2, ?_, hse, by rw [← h2, hl]⟩
  rw [hidx, List.getElem?_map, h1]; rfl

end SymmModel.ReshapeH
