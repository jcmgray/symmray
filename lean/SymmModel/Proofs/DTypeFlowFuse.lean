/-
  SymmModel.Proofs.DTypeFlowFuse — dtype flow of the two fusing strategies: insert mode on any input
  (`fuseInsertD_spec`: dtype of the example block, flags of casting every block into it), both modes on
  uniform input (C20b).
-/
import SymmModel.Proofs.DTypeFlowBasic
namespace SymmModel.DFlow
open SymmModel DType

theorem orErr_ok {α : Type} {e : Err} {o : Option α} {a : α} (h : orErr e o = .ok a) : o = some a := by
  cases o with
  | none => cases h
  | some b => simp only [orErr, pure, Except.pure] at h; injection h with h; rw [h]

theorem ok_inj {ε α : Type} {a b : α} (h : (Except.ok a : Except ε α) = .ok b) : a = b := by
  injection h

theorem insertTarget_spec {ex : DType} {fi : FuseInfo} {acc : DBlocks} {p : BlockPlan} {t : DType}
    (hacc : Uni ex acc) (h : insertTarget ex fi acc p = .ok t) : t = ex := by
  unfold insertTarget at h
  split at h
  · rename_i t' hl
    rw [← pure_ok h]; exact uni_alookup hacc hl
  · split at h
    · exact (pure_ok h).symm
    · cases h

theorem fuseInsertStep_spec {ex : DType} {fi : FuseInfo} {acc acc' : DBlocks × Flags} {sb : Sector × DType}
    (hacc : Uni ex acc.1) (h : fuseInsertStep ex fi acc sb = .ok acc') :
    Uni ex acc'.1 ∧ acc'.2 = acc.2.or (castFlags ex sb.2) := by
  unfold fuseInsertStep at h
  simp only [bind_ok_iff] at h
  obtain ⟨p, _, _, _, t, ht, h⟩ := h
  have := pure_ok h
  subst this
  have htex := insertTarget_spec hacc ht
  subst htex
  exact ⟨uni_ainsert hacc rfl, rfl⟩

/-- the flags of assigning every block of `blocks` into a destination of dtype `ex` -/
def insertFlags (ex : DType) (blocks : DBlocks) : Flags :=
  blocks.foldl (fun f sb => f.or (castFlags ex sb.2)) Flags.none

theorem fuseInsert_fold {ex : DType} {fi : FuseInfo} (blocks : DBlocks) :
    ∀ (acc r : DBlocks × Flags), Uni ex acc.1 → blocks.foldlM (fuseInsertStep ex fi) acc = .ok r →
      Uni ex r.1 ∧ r.2 = blocks.foldl (fun f sb => f.or (castFlags ex sb.2)) acc.2 := by
  induction blocks with
  | nil => intro acc r ha h
           have := pure_ok (by simpa [List.foldlM] using h)
           subst this; exact ⟨ha, rfl⟩
  | cons sb rest ih =>
    intro acc r ha h
    simp only [List.foldlM_cons] at h
    obtain ⟨acc', h1, h2⟩ := bind_ok_iff.mp h
    obtain ⟨hu, hf⟩ := fuseInsertStep_spec ha h1
    obtain ⟨hu', hf'⟩ := ih acc' r hu h2
    exact ⟨hu', by rw [hf', hf]; rfl⟩

/-- **insert mode, any input**: every fused block has the dtype `ex` that was passed to `zeros`,
    whatever the dtypes of the sub-blocks; the flags are those of casting every sub-block into it -/
theorem fuseInsertD_spec {ex : DType} {fi : FuseInfo} {blocks : DBlocks} {r : DBlocks × Flags}
    (h : fuseInsertD ex blocks fi = .ok r) : Uni ex r.1 ∧ r.2 = insertFlags ex blocks :=
  fuseInsert_fold blocks ([], Flags.none) r (uni_nil ex) h

theorem flags_fold_proj (π : Flags → Bool) (hπ : ∀ f g, π (f.or g) = (π f || π g)) {α : Type} (g : α → Flags)
    (l : List α) : ∀ f : Flags, π (l.foldl (fun f x => f.or (g x)) f) = (π f || l.any (fun x => π (g x))) := by
  induction l with
  | nil => intro f; simp
  | cons x xs ih => intro f; rw [List.foldl_cons, ih, hπ, List.any_cons, Bool.or_assoc]

theorem insertFlags_losesImag (ex : DType) (blocks : DBlocks) :
    (insertFlags ex blocks).losesImag = blocks.any (fun sb => sb.2.isComplex && !ex.isComplex) := by
  unfold insertFlags; rw [flags_fold_proj (·.losesImag) (fun _ _ => rfl)]; simp [Flags.none, castFlags, losesImag]

theorem insertFlags_narrows (ex : DType) (blocks : DBlocks) :
    (insertFlags ex blocks).narrows = blocks.any (fun sb => sb.2.isDouble && !ex.isDouble) := by
  unfold insertFlags; rw [flags_fold_proj (·.narrows) (fun _ _ => rfl)]; simp [Flags.none, castFlags, narrowsInto]

theorem insertFlags_uniform {ex : DType} {blocks : DBlocks} (h : Uni ex blocks) :
    insertFlags ex blocks = Flags.none :=
  foldl_inv (· = Flags.none) _ blocks Flags.none rfl
    (fun f sb hsb hf => by rw [hf, h sb hsb, castFlags_self, flags_or_none])

theorem subblockD_uni {d : DType} {sub : List (List Sector × DType)} (hs : Uni d sub) (key : List Sector) :
    subblockD d sub key = d := by
  unfold subblockD
  split
  · rename_i v hv; exact uni_alookup hs hv
  · rfl

theorem recurseConcatD_uni {d : DType} {fi : FuseInfo} {sub : List (List Sector × DType)} {ns : Sector}
    (hs : Uni d sub) : ∀ (fuel g : Nat) (subkey : List Sector) (r : DType),
      recurseConcatD d fi sub ns fuel g subkey = .ok r → r = d := by
  intro fuel
  induction fuel with
  | zero => intro g subkey r h; simp [recurseConcatD] at h
  | succ fuel ih =>
    intro g subkey r h
    simp only [recurseConcatD] at h
    split at h
    · split at h
      · rw [← pure_ok h]; exact subblockD_uni hs _
      · exact ih _ _ _ h
    · obtain ⟨ext, _, h2⟩ := bind_ok_iff.mp h
      obtain ⟨arrays, ha, h3⟩ := bind_ok_iff.mp h2
      refine concatD_forall (eq_closed d) ?_ h3
      intro x hx
      obtain ⟨q, _, hq⟩ := mapM_ok_mem _ _ _ ha x hx
      split at hq
      · rw [← pure_ok hq]; exact subblockD_uni hs _
      · exact ih _ _ _ hq

theorem concatGroup_uni {d : DType} {fi : FuseInfo} {blocks : DBlocks} (hb : Uni d blocks)
    {g : List (Sector × List (List Sector × DType))} (h : concatGroup fi blocks = .ok g) :
    ∀ q ∈ g, Uni d q.2 := by
  unfold concatGroup at h
  refine foldlM_ok_inv (fun acc => ∀ q ∈ acc, Uni d q.2) _ blocks [] g (fun _ hq => by cases hq) ?_ h
  intro acc sb acc' hsb hacc hstep
  obtain ⟨p, _, h2⟩ := bind_ok_iff.mp hstep
  have := pure_ok h2
  subst this
  intro q hq
  rcases mem_ainsert hq with hq | hq
  · exact hacc q hq
  · rw [hq]
    apply uni_ainsert _ (hb sb hsb)
    cases hl : alookup acc p.newSector with
    | none => exact uni_nil d
    | some cur =>
      obtain ⟨k', hk⟩ := alookup_mem hl
      exact hacc (k', cur) hk

theorem fuseConcatD_uni {d : DType} {fi : FuseInfo} {blocks r : DBlocks} (hb : Uni d blocks)
    (h : fuseConcatD d blocks fi = .ok r) : Uni d r := by
  unfold fuseConcatD at h
  obtain ⟨g, hg, h2⟩ := bind_ok_iff.mp h
  have hgu := concatGroup_uni hb hg
  intro p hp
  obtain ⟨q, hq, hfq⟩ := mapM_ok_mem _ _ _ h2 p hp
  obtain ⟨e, he, h3⟩ := bind_ok_iff.mp hfq
  rw [← pure_ok h3]
  exact recurseConcatD_uni (hgu q hq) _ _ _ _ he

theorem fuseBlocksD_uni {d : DType} {fi : FuseInfo} {blocks : DBlocks} {mode : FuseMode}
    {r : DBlocks × Flags} (hb : Uni d blocks) (h : fuseBlocksD d blocks fi mode = .ok r) :
    Uni d r.1 ∧ r.2 = Flags.none := by
  cases mode with
  | insert =>
    obtain ⟨h1, h2⟩ := fuseInsertD_spec h
    exact ⟨h1, by rw [h2, insertFlags_uniform hb]⟩
  | concat =>
    simp only [fuseBlocksD] at h
    obtain ⟨x, hx, h2⟩ := bind_ok_iff.mp h
    rw [← pure_ok h2]
    exact ⟨fuseConcatD_uni hb hx, rfl⟩

end SymmModel.DFlow
