/-
  SymmModel.Proofs.Fuse6Step — an abstract unfuse step (`unfuseA` on abelian arrays, `unfuseF` on
  fermionic ones): what it does to the frame and to the value view.  Two such steps on different
  axes commute up to equality of value views, and a step respects equality of value views.
-/
import SymmModel.Proofs.Fuse6Comm
import SymmModel.Proofs.Fuse6Box
namespace SymmModel
namespace FuseP
set_option linter.unusedSectionVars false
open SymmModel.Lazy

variable {R : Type} [Zero R] [Neg R] [LawfulNeg R]

/-- the sign of a step as a function of the whole sector: a function of the segment only -/
def sgS (sg : Sector → Int) (p L : Nat) (K : Sector) : Int := sg ((K.drop p).take L)

/-- specification of an unfuse step -/
structure StepOK (unf : Arr R → Nat → Except Err (Arr R)) (Good : Arr R → Prop)
    (sg : Sym → Index → List Index → Sector → Int) : Prop where
  valid : ∀ a, Good a → ValidArr a
  step : ∀ a p ix subs exts, Good a → a.indices[p]? = some ix → ix.sub = some (subs, exts) →
    ∃ y, unf a p = .ok y ∧ Good y ∧ y.indices = replaceWithSeq a.indices p subs
      ∧ y.sym = a.sym ∧ y.fermi = a.fermi ∧ y.charge = a.charge ∧ y.oddpos = a.oddpos
      ∧ ∀ K shp, Arr.blockShape? y.indices K = some shp → ∀ J, inBox shp J = true →
          y.elem K J = unfVal a.sym ix subs exts p (sgS (sg a.sym ix subs) p subs.length) a.elem K J

theorem replace_parts {α : Type} {A X : List α} {p : Nat} (hA : A.length = p) (x : α) (s : List α) :
    replaceWithSeq (A ++ [x] ++ X) p s = A ++ s ++ X := by
  rw [replaceWithSeq_split]
  exact col_parts hA (by simp) s

theorem getElem?_parts {α : Type} {A X : List α} {p : Nat} (hA : A.length = p) (x : α) :
    (A ++ [x] ++ X)[p]? = some x := by
  subst hA; simp

theorem parts_at {α : Type} {l : List α} {p : Nat} {x : α} (h : l[p]? = some x) :
    ∃ A X, l = A ++ [x] ++ X ∧ A.length = p := by
  have hp : p < l.length := getElem?_lt h
  refine ⟨l.take p, l.drop (p + 1), ?_, by rw [List.length_take]; omega⟩
  have := list_split_at l p x hp
  have hx : l.getD p x = x := by rw [List.getD_eq_getElem?_getD, h]; rfl
  rw [hx] at this
  exact this

/-- the inner value view only matters at the one address that is read, which lies in a box of the
    index list before the step -/
theorem unfVal_box_congr {sym : Sym} {ix : Index} {subs : List Index} {exts : Extents}
    (hw : Index.wfB sym ix = true) (hsub : ix.sub = some (subs, exts)) (sgn : Sector → Int)
    {w w' : Sector → List Nat → R} {IA IX : List Index} {p : Nat} (hp : IA.length = p)
    (h : ∀ K shp, Arr.blockShape? (IA ++ [ix] ++ IX) K = some shp → ∀ J, inBox shp J = true → w K J = w' K J)
    {A S X : Sector} {A' S' X' : List Nat} {shp : List Nat}
    (hA : A.length = p) (hS : S.length = subs.length) (hA' : A'.length = p) (hS' : S'.length = subs.length)
    (hK : Arr.blockShape? (IA ++ subs ++ IX) (A ++ S ++ X) = some shp)
    (hJ : inBox shp (A' ++ S' ++ X') = true) :
    unfVal sym ix subs exts p sgn w (A ++ S ++ X) (A' ++ S' ++ X')
      = unfVal sym ix subs exts p sgn w' (A ++ S ++ X) (A' ++ S' ++ X') := by
  rw [unfVal_parts sym ix subs exts sgn w hA hS hA' hS', unfVal_parts sym ix subs exts sgn w' hA hS hA' hS']
  cases hl : look sym ix subs exts S with
  | none => rfl
  | some q =>
    obtain ⟨st, sub⟩ := q
    obtain ⟨shp1, hb1, hj1⟩ := collapse_box hw hsub (hA.trans hp.symm) hS (hA'.trans hp.symm) hS' hK hJ hl
    simp only
    rw [h _ shp1 hb1 _ hj1]

section Step
variable {unf : Arr R → Nat → Except Err (Arr R)} {Good : Arr R → Prop}
  {sg : Sym → Index → List Index → Sector → Int}

theorem step_veq (H : StepOK unf Good sg) {a b : Arr R} (h : VEq a b) (ha : Good a) (hb : Good b)
    {p : Nat} {ix : Index} {subs : List Index} {exts : Extents}
    (hix : a.indices[p]? = some ix) (hsub : ix.sub = some (subs, exts)) :
    ∃ y y', unf a p = .ok y ∧ unf b p = .ok y' ∧ Good y ∧ Good y' ∧ VEq y y' := by
  have hixb : b.indices[p]? = some ix := by rw [← h.indices]; exact hix
  obtain ⟨y, hy, hgy, hyi, hys, hyf, hyc, hyo, hyv⟩ := H.step a p ix subs exts ha hix hsub
  obtain ⟨y', hy', hgy', hyi', hys', hyf', hyc', hyo', hyv'⟩ := H.step b p ix subs exts hb hixb hsub
  have hii : y.indices = y'.indices := by rw [hyi, hyi', h.indices]
  refine ⟨y, y', hy, hy', hgy, hgy', ⟨by rw [hys, hys', h.sym], by rw [hyf, hyf', h.fermi], hii,
    by rw [hyc, hyc', h.charge], by rw [hyo, hyo', h.oddpos], ?_⟩⟩
  apply elem_ext_of_inBox (H.valid y hgy) (H.valid y' hgy') hii
  intro K shp hK J hJ
  rw [hyv K shp hK J hJ, hyv' K shp (by rw [← hii]; exact hK) J hJ, ← h.sym]
  exact unfVal_congr h.elem K J

theorem step_comm (H : StepOK unf Good sg) (a : Arr R) (ha : Good a) {p q : Nat} (hpq : p < q)
    {ixP ixQ : Index} {subsP subsQ : List Index} {extsP extsQ : Extents}
    (hixP : a.indices[p]? = some ixP) (hsubP : ixP.sub = some (subsP, extsP))
    (hixQ : a.indices[q]? = some ixQ) (hsubQ : ixQ.sub = some (subsQ, extsQ)) :
    ∃ y1 z1 y2 z2, unf a q = .ok y1 ∧ unf y1 p = .ok z1 ∧ unf a p = .ok y2
      ∧ unf y2 (q - 1 + subsP.length) = .ok z2 ∧ Good y1 ∧ Good z1 ∧ Good y2 ∧ Good z2
      ∧ y1.indices = replaceWithSeq a.indices q subsQ ∧ y2.indices = replaceWithSeq a.indices p subsP
      ∧ VEq z1 z2 := by
  have hva := H.valid a ha
  have hwP : Index.wfB a.sym ixP = true := hva.idx ixP (getElem?_mem' hixP)
  have hwQ : Index.wfB a.sym ixQ = true := hva.idx ixQ (getElem?_mem' hixQ)
  -- the index list in five parts
  obtain ⟨B, IC, hI, hB⟩ := parts_at hixQ
  have hBp : B[p]? = some ixP := by
    rw [hI, List.append_assoc, List.getElem?_append_left (by omega)] at hixP
    exact hixP
  obtain ⟨IA, IM, rfl, hIA⟩ := parts_at hBp
  obtain ⟨m, hm⟩ : ∃ m, IM.length = m := ⟨_, rfl⟩
  have hq : q = p + 1 + m := by
    simp only [List.length_append, List.length_cons, List.length_nil] at hB; omega
  have hq' : q - 1 + subsP.length = p + subsP.length + m := by omega
  rw [hq']
  obtain ⟨y1, hy1, hg1, hy1i, hy1s, hy1f, hy1c, hy1o, hy1v⟩ := H.step a q ixQ subsQ extsQ ha hixQ hsubQ
  have hy1i' : y1.indices = IA ++ [ixP] ++ (IM ++ subsQ ++ IC) := by
    rw [hy1i, hI, replace_parts hB]; simp only [List.append_assoc]
  have hy1p : y1.indices[p]? = some ixP := by rw [hy1i']; exact getElem?_parts hIA ixP
  obtain ⟨z1, hz1, hgz1, hz1i, hz1s, hz1f, hz1c, hz1o, hz1v⟩ := H.step y1 p ixP subsP extsP hg1 hy1p hsubP
  have hz1i' : z1.indices = IA ++ subsP ++ (IM ++ subsQ ++ IC) := by
    rw [hz1i, hy1i', replace_parts hIA]
  obtain ⟨y2, hy2, hg2, hy2i, hy2s, hy2f, hy2c, hy2o, hy2v⟩ := H.step a p ixP subsP extsP ha hixP hsubP
  have hI' : a.indices = IA ++ [ixP] ++ (IM ++ [ixQ] ++ IC) := by rw [hI]; simp only [List.append_assoc]
  have hy2i' : y2.indices = (IA ++ subsP ++ IM) ++ [ixQ] ++ IC := by
    rw [hy2i, hI', replace_parts hIA]; simp only [List.append_assoc]
  have hB2 : (IA ++ subsP ++ IM).length = p + subsP.length + m := by
    simp only [List.length_append, hIA, hm]
  have hy2q : y2.indices[p + subsP.length + m]? = some ixQ := by rw [hy2i']; exact getElem?_parts hB2 ixQ
  obtain ⟨z2, hz2, hgz2, hz2i, hz2s, hz2f, hz2c, hz2o, hz2v⟩ :=
    H.step y2 (p + subsP.length + m) ixQ subsQ extsQ hg2 hy2q hsubQ
  have hz2i' : z2.indices = (IA ++ subsP ++ IM) ++ subsQ ++ IC := by
    rw [hz2i, hy2i', replace_parts hB2]
  have hii : z1.indices = z2.indices := by rw [hz1i', hz2i']; simp only [List.append_assoc]
  refine ⟨y1, z1, y2, z2, hy1, hz1, hy2, hz2, hg1, hgz1, hg2, hgz2, hy1i, hy2i,
    ⟨by rw [hz1s, hy1s, hz2s, hy2s], by rw [hz1f, hy1f, hz2f, hy2f], hii,
     by rw [hz1c, hy1c, hz2c, hy2c], by rw [hz1o, hy1o, hz2o, hy2o], ?_⟩⟩
  apply elem_ext_of_inBox (H.valid z1 hgz1) (H.valid z2 hgz2) hii
  intro K shp hK J hJ
  -- the address in five parts
  have hKl : K.length = p + subsP.length + m + subsQ.length + IC.length := by
    have := (blockShape?_length hK).1
    rw [hz1i'] at this
    simp only [List.length_append, hIA, hm] at this
    omega
  have hJl : J.length = K.length := by rw [inBox_length hJ, (blockShape?_length hK).2]
  obtain ⟨A, S, M, T, C, rfl, hA, hS, hM, hT⟩ := exists_parts5 K p subsP.length m subsQ.length (by omega)
  obtain ⟨A', S', M', T', C', rfl, hA', hS', hM', hT'⟩ := exists_parts5 J p subsP.length m subsQ.length (by omega)
  have eK : A ++ S ++ M ++ T ++ C = A ++ S ++ (M ++ T ++ C) := by simp only [List.append_assoc]
  have eJ : A' ++ S' ++ M' ++ T' ++ C' = A' ++ S' ++ (M' ++ T' ++ C') := by simp only [List.append_assoc]
  have hAQ : (A ++ S ++ M).length = p + subsP.length + m := by simp only [List.length_append, hA, hS, hM]
  have hAQ' : (A' ++ S' ++ M').length = p + subsP.length + m := by simp only [List.length_append, hA', hS', hM']
  -- order 1 as a composition
  have e1 : z1.elem (A ++ S ++ M ++ T ++ C) (A' ++ S' ++ M' ++ T' ++ C')
      = unfVal a.sym ixP subsP extsP p (sgS (sg a.sym ixP subsP) p subsP.length)
          (unfVal a.sym ixQ subsQ extsQ (p + 1 + m) (sgS (sg a.sym ixQ subsQ) (p + 1 + m) subsQ.length) a.elem)
          (A ++ S ++ M ++ T ++ C) (A' ++ S' ++ M' ++ T' ++ C') := by
    rw [hz1v _ shp hK _ hJ, hy1s, eK, eJ]
    exact unfVal_box_congr hwP hsubP _ hIA
      (fun K1 shp1 hb1 J1 hj1 => by rw [← hy1i'] at hb1; rw [hy1v _ shp1 hb1 _ hj1, hq])
      hA hS hA' hS' (by rw [← hz1i', ← eK]; exact hK) (by rw [← eJ]; exact hJ)
  -- order 2 as a composition
  have e2 : z2.elem (A ++ S ++ M ++ T ++ C) (A' ++ S' ++ M' ++ T' ++ C')
      = unfVal a.sym ixQ subsQ extsQ (p + subsP.length + m)
          (sgS (sg a.sym ixQ subsQ) (p + subsP.length + m) subsQ.length)
          (unfVal a.sym ixP subsP extsP p (sgS (sg a.sym ixP subsP) p subsP.length) a.elem)
          (A ++ S ++ M ++ T ++ C) (A' ++ S' ++ M' ++ T' ++ C') := by
    have hK2 : Arr.blockShape? z2.indices (A ++ S ++ M ++ T ++ C) = some shp := by rw [← hii]; exact hK
    rw [hz2v _ shp hK2 _ hJ, hy2s]
    exact unfVal_box_congr hwQ hsubQ _ hB2
      (fun K1 shp1 hb1 J1 hj1 => by rw [← hy2i'] at hb1; rw [hy2v _ shp1 hb1 _ hj1])
      hAQ hT hAQ' hT' (by rw [← hz2i']; exact hK2) hJ
  rw [e1, e2]
  apply unfVal_comm a.sym ixP ixQ subsP subsQ extsP extsQ _ _ _ _ a.elem hA hS hM hT hA' hS' hM' hT'
  · -- the sign of the `p` step only sees `S`
    unfold sgS
    rw [eK, seg_parts hA hS]
    have : A ++ S ++ M ++ [cmb a.sym ixQ subsQ T] ++ C = A ++ S ++ (M ++ [cmb a.sym ixQ subsQ T] ++ C) := by
      simp only [List.append_assoc]
    rw [this, seg_parts hA hS]
  · -- the sign of the `q` step only sees `T`
    unfold sgS
    rw [seg_parts hAQ hT]
    have : A ++ [cmb a.sym ixP subsP S] ++ M ++ T ++ C = (A ++ [cmb a.sym ixP subsP S] ++ M) ++ T ++ C := rfl
    rw [this, seg_parts (by simp only [List.length_append, List.length_cons, List.length_nil, hA, hM]) hT]

end Step

end FuseP
end SymmModel
