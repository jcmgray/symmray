/-
  SymmModel.Proofs.Net4M8 — the five bracketings of a four-tensor network (K4 bonds) with, at every
  one of the three calls, BOTH an operand-order flag (`callS`, C04h) and a contraction mode:
  `routeSM1 … routeSM5`.  That every route succeeds and is a zero-padded copy (`PadA`) of the
  blockwise route with the same flags, which is `Eqv` to the plain blockwise left-nested result, is
  `routeSM1_pad … routeSM5_pad` and `k4_flagged_modes` (Net4M9).
-/
import SymmModel.Proofs.Net4M7

namespace SymmModel
namespace Net4P
open TdotP GradedP RoutesP KoszulP AssocP Assoc2P Assoc3P Assoc4P Assoc5P

variable {R : Type}

section routes
variable [Zero R] [Add R] [Mul R] [Neg R]
variable (A B C D : Arr R) (ab ac ad ba bc bd ca cb cd da db dc : List Nat)

/-- `((A·B)·C)·D` -/
def routeSM1 (f1 f2 f3 : Bool) (m1 m2 m3 : TdotMode) : Except Err (Arr R) :=
  (callSM m1 f1 A B ab ba).bind fun AB =>
  (callSM m2 f2 AB C (Assoc2P.axesAB A.ndim B.ndim ab ac ba bc) (ca ++ cb)).bind fun ABC =>
  callSM m3 f3 ABC D (axesABC_D A B C ab ac ad ba bc bd ca cb cd) ((da ++ db) ++ dc)

/-- `(A·(B·C))·D` -/
def routeSM2 (f1 f2 f3 : Bool) (m1 m2 m3 : TdotMode) : Except Err (Arr R) :=
  (callSM m1 f1 B C bc cb).bind fun BC =>
  (callSM m2 f2 A BC (ab ++ ac) (Assoc2P.axesBC B.ndim C.ndim ba bc cb ca)).bind fun ABC =>
  callSM m3 f3 ABC D (axesABC_D A B C ab ac ad ba bc bd ca cb cd) ((da ++ db) ++ dc)

/-- `(A·B)·(C·D)` -/
def routeSM3 (f1 f2 f3 : Bool) (m1 m2 m3 : TdotMode) : Except Err (Arr R) :=
  (callSM m1 f1 A B ab ba).bind fun AB =>
  (callSM m2 f2 C D cd dc).bind fun CD =>
  callSM m3 f3 AB CD
    (Assoc2P.axesAB A.ndim B.ndim ab ac ba bc ++ Assoc2P.axesAB A.ndim B.ndim ab ad ba bd)
    (Assoc2P.axesBC C.ndim D.ndim (ca ++ cb) cd dc (da ++ db))

/-- `A·((B·C)·D)` -/
def routeSM4 (f1 f2 f3 : Bool) (m1 m2 m3 : TdotMode) : Except Err (Arr R) :=
  (callSM m1 f1 B C bc cb).bind fun BC =>
  (callSM m2 f2 BC D (Assoc2P.axesAB B.ndim C.ndim bc bd cb cd) (db ++ dc)).bind fun BCD =>
  callSM m3 f3 A BCD (ab ++ (ac ++ ad)) (axesBCD_A B C D ba bc bd ca cb cd da db dc)

/-- `A·(B·(C·D))` -/
def routeSM5 (f1 f2 f3 : Bool) (m1 m2 m3 : TdotMode) : Except Err (Arr R) :=
  (callSM m1 f1 C D cd dc).bind fun CD =>
  (callSM m2 f2 B CD (bc ++ bd) (Assoc2P.axesBC C.ndim D.ndim cb cd dc db)).bind fun BCD =>
  callSM m3 f3 A BCD (ab ++ (ac ++ ad)) (axesBCD_A B C D ba bc bd ca cb cd da db dc)

theorem routeSM_unflagged (m1 m2 m3 : TdotMode) :
    routeSM1 A B C D ab ac ad ba bc bd ca cb cd da db dc false false false m1 m2 m3
      = routeM1 A B C D ab ac ad ba bc bd ca cb cd da db dc m1 m2 m3
    ∧ routeSM2 A B C D ab ac ad ba bc bd ca cb cd da db dc false false false m1 m2 m3
      = routeM2 A B C D ab ac ad ba bc bd ca cb cd da db dc m1 m2 m3
    ∧ routeSM3 A B C D ab ac ad ba bc bd ca cb cd da db dc false false false m1 m2 m3
      = routeM3 A B C D ab ac ad ba bc bd ca cb cd da db dc m1 m2 m3
    ∧ routeSM4 A B C D ab ac ad ba bc bd ca cb cd da db dc false false false m1 m2 m3
      = routeM4 A B C D ab ac ad ba bc bd ca cb cd da db dc m1 m2 m3
    ∧ routeSM5 A B C D ab ac ad ba bc bd ca cb cd da db dc false false false m1 m2 m3
      = routeM5 A B C D ab ac ad ba bc bd ca cb cd da db dc m1 m2 m3 :=
  ⟨rfl, rfl, rfl, rfl, rfl⟩

end routes

end Net4P
end SymmModel
