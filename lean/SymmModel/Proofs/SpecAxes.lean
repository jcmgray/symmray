/-
  SymmModel.Proofs.SpecAxes — what `parseAxes` returns on a pair of axis lists: Python's `x % ndim`
  (`TdotP.normAxis`), the general equation `TdotP.parseAxes_pair`, and its form for axes that are
  already natural numbers in range, `ValidP.parseAxes_nat`.
-/
import SymmModel.Model.Tdot

namespace SymmModel
namespace TdotP

/-- `x % ndim` of Python, as a natural number -/
def normAxis (n : Nat) (x : Int) : Nat := (x % (n : Int)).toNat

theorem normAxis_lt {n : Nat} (hn : 0 < n) (x : Int) : normAxis n x < n := by
  unfold normAxis
  have h1 : 0 ≤ x % (n : Int) := Int.emod_nonneg _ (by omega)
  have h2 : x % (n : Int) < n := Int.emod_lt_of_pos _ (by omega)
  omega

theorem normAxis_of_nonneg {n : Nat} {x : Int} (h0 : 0 ≤ x) (h1 : x < n) : normAxis n x = x.toNat := by
  unfold normAxis; rw [Int.emod_eq_of_lt h0 h1]

theorem normAxis_of_neg {n : Nat} {x : Int} (h0 : x < 0) (h1 : -(n : Int) ≤ x) :
    normAxis n x = (x + n).toNat := by
  unfold normAxis
  rw [← Int.add_emod_right, Int.emod_eq_of_lt (by omega) (by omega)]

theorem parseAxes_pair {na nb : Nat} {xa xb : List Int} (hl : xa.length = xb.length)
    (ha : 0 < na ∨ xa = []) (hb : 0 < nb ∨ xb = []) :
    parseAxes na nb (.pair xa xb) = .ok (xa.map (normAxis na), xb.map (normAxis nb)) := by
  unfold parseAxes
  have c1 : (na == 0 && !xa.isEmpty) = false := by
    rcases ha with h | h
    · have : (na == 0) = false := by simp; omega
      simp [this]
    · simp [h]
  have c2 : (nb == 0 && !xb.isEmpty) = false := by
    rcases hb with h | h
    · have : (nb == 0) = false := by simp; omega
      simp [this]
    · simp [h]
  simp only [c1, c2, Bool.false_eq_true, if_false, hl, bne_self_eq_false]
  rfl

theorem map_normAxis_ofNat {n : Nat} {axes : List Nat} (h : ∀ i ∈ axes, i < n) :
    (axes.map Int.ofNat).map (normAxis n) = axes := by
  rw [List.map_map]
  conv => rhs; rw [← List.map_id axes]
  apply List.map_congr_left
  intro i hi
  have := h i hi
  simp only [Function.comp, id]
  rw [normAxis_of_nonneg (by simp) (by simpa using this)]
  simp

end TdotP

namespace ValidP

theorem parseAxes_nat (na nb : Nat) (axesA axesB : List Nat) (hl : axesA.length = axesB.length)
    (hA : ∀ i ∈ axesA, i < na) (hB : ∀ i ∈ axesB, i < nb) :
    parseAxes na nb (.pair (axesA.map Int.ofNat) (axesB.map Int.ofNat)) = .ok (axesA, axesB) := by
  have pos : ∀ (n : Nat) (l : List Nat), (∀ i ∈ l, i < n) → 0 < n ∨ l.map Int.ofNat = [] := by
    intro n l h
    cases l with
    | nil => exact Or.inr rfl
    | cons i _ => exact Or.inl (Nat.lt_of_le_of_lt (Nat.zero_le i) (h i (by simp)))
  rw [TdotP.parseAxes_pair (by rw [List.length_map, List.length_map, hl]) (pos na axesA hA)
    (pos nb axesB hB), TdotP.map_normAxis_ofNat hA, TdotP.map_normAxis_ofNat hB]

end ValidP
end SymmModel
