/-
  SymmModel.Proofs.NormNet5 — network form of the norm (property C10), part 5: assembly.
  `conj_tensordot_spared_w`: `braOf a xa · braOf b (xb ++ y)` (weak guard; `y` further bond legs of `b`,
  not flipped) is observationally `braOf (a·b) (images of y)`; `conj_tensordot_spared` the same under the
  documented guard; `conj_tensordot` is `y = []`: the contraction of the two bra tensors is observationally
  `conj(phase_dual=True)` of the contraction of the two ket tensors.  `link_dual` (the images of ket-like
  legs are ket-like) is a statement of its own with no user.
-/
import SymmModel.Proofs.NormNet4
import SymmModel.Proofs.AssocFrame
namespace SymmModel.NormNet
open SymmModel SymmModel.Lazy SymmModel.Norm SymmModel.TdotP SymmModel.RoutesP
open SymmModel.AssocP
set_option linter.unusedSectionVars false

section obs
variable {R : Type} [Zero R] [Neg R] [LawfulNeg R]

theorem obsEq_of_inBox {X Y : Arr R} (h1 : X.sym = Y.sym) (h2 : X.fermi = Y.fermi)
    (h3 : X.indices = Y.indices) (h4 : X.charge = Y.charge) (h5 : X.oddpos = Y.oddpos)
    (hsk : skel X = skel Y) (hn : X.sectors.Nodup) (hwX : BlocksWf X) (hwY : BlocksWf Y)
    (he : ∀ p ∈ X.blocks, ∀ off, inBox p.2.shape off = true → X.elem p.1 off = Y.elem p.1 off) :
    ObsEq X Y := by
  have hb : X.phaseSync.blocks = Y.phaseSync.blocks := by
    apply blocks_ext_inBox
    · exact (phaseSync_obsEq X).skel.trans (hsk.trans (phaseSync_obsEq Y).skel.symm)
    · show X.phaseSync.sectors.Nodup
      rw [phaseSync_sectors]; exact hn
    · exact hwX.phaseSync
    · exact hwY.phaseSync
    · intro p hp off hoff
      rw [← elem_eq_rawGet (a := X.phaseSync) rfl, ← elem_eq_rawGet (a := Y.phaseSync) rfl,
        phaseSync_elem, phaseSync_elem]
      have hm : (p.1, p.2.shape) ∈ skel X := by
        rw [← (phaseSync_obsEq X).skel]
        exact List.mem_map.mpr ⟨p, hp, rfl⟩
      obtain ⟨q, hq, hqe⟩ := List.mem_map.mp hm
      simp only [Prod.mk.injEq] at hqe
      rw [← hqe.1]
      apply he q hq
      rw [hqe.2]; exact hoff
  have : X.phaseSync = Y.phaseSync := arr_ext h1 h2 h3 h4 hb rfl h5
  exact (phaseSync_obsEq X).symm.trans (this ▸ phaseSync_obsEq Y)

end obs

section main
variable {R : Type} [AddMonoid R] [Mul R] [Neg R] [Conj R] [NetLaws R]

theorem admB_of_adm {a b : Arr R} {xa xb : List Nat} (h : Adm a b xa xb) :
    ValidP.tdotAdmissibleB a b xa xb = true := by
  exact ValidP.tdotAdmissibleB_iff.mpr ⟨h.sym, h.con, h.nA, h.nB, h.ltA, h.ltB⟩

/-- **`conj` is a homomorphism of the contraction, further bond legs spared, weak guard.**
    `a`, `b` valid fermionic, contractible along `xa`/`xb` under the WEAK guard (`AdmW`: matched legs
    opposite, charge tables agreeing on common charges — what intermediate results with pruned tables
    satisfy), sorted distinct ket labels; `y` legs of `b` disjoint from `xb` (bonds to a third tensor).
    The bra tensors `braOf a xa`, `braOf b (xb ++ y)` (each: `conj()`, then `phase_flip` of its DANGLING
    bra-like legs) contract to an array observationally equal to `braOf K y'`, `K = a·b`, `y'` the
    images of `y` in `K`: `conj()` of `K` with the dangling bra-like legs flipped. -/
theorem conj_tensordot_spared_w (a b : Arr R) (xa xb y : List Nat) (W : AdmW a b xa xb)
    (hM : Mid b.ndim xb y)
    (hoA : KetLabels a.oddpos) (hoB : KetLabels b.oddpos)
    (hd : (a.oddpos ++ b.oddpos).Pairwise (fun x y => x.1 ≠ y.1)) :
    ∃ K Kb, a.tensordotF b (.pair (xa.map Int.ofNat) (xb.map Int.ofNat)) .blockwise = .ok K
      ∧ (braOf a xa).tensordotF (braOf b (xb ++ y)) (.pair (xa.map Int.ofNat) (xb.map Int.ofNat))
          .blockwise = .ok Kb
      ∧ ObsEq Kb (braOf K (AssocP.axesAB a.ndim b.ndim xa xb y))
      ∧ K.validB = true ∧ K.fermi = true ∧ Kb.validB = true ∧ Kb.fermi = true
      ∧ (∀ x ∈ K.oddpos, x.2 = false)
      ∧ K.oddpos.Pairwise (fun x y => oddLt x y = true)
      ∧ K.oddpos.Pairwise (fun x y => x.1 ≠ y.1)
      ∧ InterW a b xa xb K ∧ K.oddpos.Perm (a.oddpos ++ b.oddpos) := by
  have hB := braOf_admW W xa (xb ++ y)
  have hlabA := (NormOk.of_valid W.va W.fa).labels
  have hlabB := (NormOk.of_valid W.vb W.fb).labels
  obtain ⟨out, ph, m1, m2, hph, hk, hs, hdl⟩ :=
    merge_bra_gen a.parity a.oddpos b.oddpos hoA hoB hd hlabA
  obtain ⟨out', hperm, _, m1'⟩ := OddposP.mergeOddpos_spec a.parity a.oddpos b.oddpos hd
  have hout : out' = out := by
    rw [m1] at m1'; exact (Prod.mk.inj (Except.ok.inj m1')).1.symm
  rw [hout] at hperm
  rw [hlabB] at m2
  obtain ⟨K, eK, C⟩ := Call.of_merge W m1
  obtain ⟨Kb, eKb, Cb⟩ := Call.of_merge hB (out := Arr.oddposDag out)
    (ph := ph * sgB (a.parity && b.parity)) (by
      rw [braOf_parity, braOf_oddpos a xa, braOf_oddpos b (xb ++ y)]; exact m2)
  refine ⟨K, Kb, eK, eKb, ?_, C.valid, C.fermi, Cb.valid, Cb.fermi, by rw [C.oddpos]; exact hk,
    by rw [C.oddpos]; exact hs, by rw [C.oddpos]; exact hdl, C.toInter.toW,
    by rw [C.oddpos]; exact hperm⟩
  -- the frames: same stored sectors, conjugated index tables
  have hsec : Kb.sectors = K.sectors := by
    rw [Cb.sectors, C.sectors, braOf_sectors, braOf_sectors, braOf_ndim, braOf_ndim]
  have hKbi : Kb.indices = K.indices.map Index.conj := by
    rw [Cb.indices, hsec, braOf_without, dropUnused_conj, ← C.indices]
  have hKp : K.parity = xor a.parity b.parity := by
    unfold Arr.parity
    rw [C.sym, C.charge, Sym.parity_combine_pair, W.sym]
  have hKl := (NormOk.of_valid C.valid C.fermi).labels
  obtain ⟨c1, c2, c3, c4, c5, c6⟩ := braOf_frame K (AssocP.axesAB a.ndim b.ndim xa xb y)
  apply obsEq_of_inBox
  · rw [Cb.sym, braOf_sym a xa, c1, C.sym]
  · rw [Cb.fermi, c2, C.fermi]
  · rw [hKbi, c3]
  · rw [Cb.charge, braOf_sym a xa, braOf_charge a xa,
      braOf_charge b (xb ++ y), c4, C.sym, C.charge, Sym.sign_combine_pair, W.sym]
  · rw [Cb.oddpos, c5, C.oddpos]
  · rw [skel_of_valid Cb.valid, c6, skel_of_valid C.valid, hsec, hKbi]
    exact List.map_congr_left fun s _ => by rw [blockShapeD_map_conj]
  · exact (SignOk.of_valid Cb.valid Cb.fermi).sectors
  · exact BlocksWf.of_valid Cb.valid
  · exact BlocksWf.of_valid (braOf_valid K _ C.valid C.fermi)
  · intro p hp off hoff
    have hps : p.1 ∈ K.sectors := hsec ▸ List.mem_map.mpr ⟨p, hp, rfl⟩
    -- the box of the block is the box of the un-pruned frame at its sector
    have hshape : p.2.shape
        = Arr.blockShapeD (without a.indices xa ++ without b.indices xb) p.1 := by
      have := (Arr.validB_block Cb.valid hp).2.2.1
      rw [hKbi, blockShape?_conj, C.indices, ValidP.dropUnused_blockShape _ _ _ hps] at this
      unfold Arr.blockShapeD; rw [this]; rfl
    have hkey : p.1 ∈ tdKeys a.sectors b.sectors (freeAxes a.ndim xa) xa xb (freeAxes b.ndim xb) :=
      List.mem_eraseDups.mp (C.sectors ▸ hps)
    have hlen := key_shape_length (Arr.shapesOk_of_validB W.va) (Arr.shapesOk_of_validB W.vb) hkey
    rw [hshape] at hoff
    have hol : off.length = (freeAxes a.ndim xa).length + (freeAxes b.ndim xb).length := by
      rw [inBox_length hoff, hlen]
    have hsplit : off = off.take (freeAxes a.ndim xa).length ++ off.drop (freeAxes a.ndim xa).length :=
      (List.take_append_drop _ _).symm
    have htl : (off.take (freeAxes a.ndim xa).length).length = (freeAxes a.ndim xa).length := by
      rw [List.length_take]; omega
    rw [braOf_elem K _ (SignOk.of_valid C.valid C.fermi), hsplit,
      Cb.elem p.1 _ _ (by rw [braOf_ndim]; exact htl)
        (by rw [← hsplit, braOf_without, blockShapeD_map_conj]; exact hoff),
      C.elem p.1 _ _ htl (by rw [← hsplit]; exact hoff)]
    exact gradedContract_bra W hM K.sectors C.sym C.indices hKp hKl ph _ hph rfl p.1 _ _

/-- the same under the strong guard `tdotAdmissibleB` (the form of `conj_tensordot`) -/
theorem conj_tensordot_spared (a b : Arr R) (xa xb y : List Nat)
    (ha : a.validB = true) (hb : b.validB = true) (hfa : a.fermi = true) (hfb : b.fermi = true)
    (hadm : ValidP.tdotAdmissibleB a b xa xb = true) (hM : Mid b.ndim xb y)
    (hoA : KetLabels a.oddpos) (hoB : KetLabels b.oddpos)
    (hd : (a.oddpos ++ b.oddpos).Pairwise (fun x y => x.1 ≠ y.1)) :
    ∃ K Kb, a.tensordotF b (.pair (xa.map Int.ofNat) (xb.map Int.ofNat)) .blockwise = .ok K
      ∧ (braOf a xa).tensordotF (braOf b (xb ++ y)) (.pair (xa.map Int.ofNat) (xb.map Int.ofNat))
          .blockwise = .ok Kb
      ∧ ObsEq Kb (braOf K (AssocP.axesAB a.ndim b.ndim xa xb y))
      ∧ K.validB = true ∧ K.fermi = true ∧ Kb.validB = true ∧ Kb.fermi = true
      ∧ (∀ x ∈ K.oddpos, x.2 = false)
      ∧ K.oddpos.Pairwise (fun x y => oddLt x y = true)
      ∧ K.oddpos.Pairwise (fun x y => x.1 ≠ y.1) := by
  obtain ⟨K, Kb, h1, h2, h3, h4, h5, h6, h7, h8, h9, h10, _, _⟩ :=
    conj_tensordot_spared_w a b xa xb y (AdmW.ofAdm (Adm.of ha hb hfa hfb hadm)) hM hoA hoB hd
  exact ⟨K, Kb, h1, h2, h3, h4, h5, h6, h7, h8, h9, h10⟩

/-- **`conj` is a homomorphism of the contraction.**  `a`, `b` valid fermionic, contractible
    along `xa`/`xb`, each carrying a sorted list of non-dual labels (`KetLabels`), all labels distinct.  Then the ket
    contraction `K = a·b` and the contraction `Kb` of the two bra tensors (each: `conj()`, then
    `phase_flip` of its dangling legs that were bra-like) both succeed, and `Kb` is observationally
    equal — symmetry, indices, charge, labels, stored sectors, every value — to
    `K.conj(phase_dual=True)`. -/
theorem conj_tensordot (a b : Arr R) (xa xb : List Nat)
    (ha : a.validB = true) (hb : b.validB = true) (hfa : a.fermi = true) (hfb : b.fermi = true)
    (hadm : ValidP.tdotAdmissibleB a b xa xb = true)
    (hoA : KetLabels a.oddpos) (hoB : KetLabels b.oddpos)
    (hd : (a.oddpos ++ b.oddpos).Pairwise (fun x y => x.1 ≠ y.1)) :
    ∃ K Kb, a.tensordotF b (.pair (xa.map Int.ofNat) (xb.map Int.ofNat)) .blockwise = .ok K
      ∧ (braOf a xa).tensordotF (braOf b xb) (.pair (xa.map Int.ofNat) (xb.map Int.ofNat)) .blockwise
          = .ok Kb
      ∧ ObsEq Kb (K.conjF true true)
      ∧ K.validB = true ∧ K.fermi = true ∧ Kb.validB = true ∧ Kb.fermi = true
      ∧ (∀ x ∈ K.oddpos, x.2 = false)
      ∧ K.oddpos.Pairwise (fun x y => oddLt x y = true)
      ∧ K.oddpos.Pairwise (fun x y => x.1 ≠ y.1) := by
  have W := AdmW.ofAdm (Adm.of ha hb hfa hfb hadm)
  obtain ⟨K, Kb, h1, h2, h3, h4, h5, h6, h7, h8, h9, h10, _, _⟩ :=
    conj_tensordot_spared_w a b xa xb [] W (mid_nil W) hoA hoB hd
  rw [List.append_nil] at h2
  exact ⟨K, Kb, h1, h2,
    h3.trans (conjF_obs_braOf K [] (SignOk.of_valid h4 h5) (fun _ h => absurd h List.not_mem_nil)).symm,
    h4, h5, h6, h7, h8, h9, h10⟩

end main

section link
variable {R : Type}

theorem link_dual {a b K2 : Arr R} {xa xb1 xb2 : List Nat} (I : InterW a b xa xb1 K2)
    (hM : Mid b.ndim xb1 xb2)
    (hb2 : ∀ ax ∈ xb2, (b.indices.getD ax default).dual = false) :
    ∀ ax ∈ AssocP.axesAB a.ndim b.ndim xa xb1 xb2, (K2.indices.getD ax default).dual = false := by
  intro ax hax
  obtain ⟨j, hj, rfl⟩ := List.mem_iff_getElem.mp hax
  have hj' : j < xb2.length := by rw [← AssocP.axesAB_len (nA := a.ndim) (xa := xa) hM]; exact hj
  obtain ⟨e1, e2, e3⟩ := AssocP.axesAB_getD (nA := a.ndim) (xa := xa) hM j hj'
  have hg : (AssocP.axesAB a.ndim b.ndim xa xb1 xb2)[j]
      = (AssocP.axesAB a.ndim b.ndim xa xb1 xb2).getD j 0 := by
    rw [List.getD_eq_getElem?_getD, List.getElem?_eq_getElem hj]; rfl
  have := I.leg_right _ e2
  rw [e3, ← e1, ← hg] at this
  rw [this.1]
  apply hb2
  rw [List.getD_eq_getElem?_getD, List.getElem?_eq_getElem hj']
  exact List.getElem_mem hj'

end link

end SymmModel.NormNet
