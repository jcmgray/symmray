/-
  SymmModel.Proofs.Fuse9Main — the axes `mmAxes a groups` whose odd charges give the sign between
  `unfuseAllF (conjF (fuseF a groups))` and `conjF (transposeF a perm)`, and `conj_sub_isSome`.  The
  relation itself is `C05.conj_fuse_relation` (Props/C05i), which gets its imports through this file.
-/
import SymmModel.Proofs.Fuse9Fold
import SymmModel.Proofs.Fuse6Fuse2
import SymmModel.Proofs.Fuse5All2
import SymmModel.Props.C05f
namespace SymmModel
namespace FuseP
open SymmModel.Lazy SymmModel.KoszulP SymmModel.LinalgLemmas

variable {R : Type} [Zero R] [Neg R] [Conj R] [LawfulNegConj R]

/-- the axes of the fully unfused conjugate whose odd charges give the sign -/
def mmAxes (a : Arr R) (groups : List (List Nat)) : List Nat :=
  mmRec (newIdxM (signAdj a groups) (newGroupsF groups a.duals)) groups
    (calcFuseGroupInfo groups a.duals).position groups.length []

theorem conj_sub_isSome (ix : Index) : ix.conj.sub.isSome = ix.sub.isSome := by
  obtain ⟨c, d, s⟩ := ix
  cases s with
  | none => rfl
  | some q => obtain ⟨subs, e⟩ := q; rfl

end FuseP
end SymmModel
