/-
  SymmModel.Proofs.Fuse5Cache — bridge between `fuseCore` (which, in the model, recomputes its plan)
  and the cached plan of property C15.
-/
import SymmModel.Props.C15
namespace SymmModel
namespace FuseP
open FuseCache

variable {R : Type}

/-- `_fuse_core` with the plan handed in (the result of `cached_fuse_block_info`, whatever produced
    it) instead of recomputed -/
def fuseCoreWithPlan [Zero R] (plan : Except Err FuseInfo) (a : Arr R) (mode : FuseMode) : Except Err (Arr R) := do
  let fi ← plan
  let newBlocks ← match mode with
    | .insert => fuseInsert a.blocks fi
    | .concat => fuseConcat a.indices a.blocks fi
  pure { a with indices := fi.newIndices, blocks := newBlocks }

theorem fuseCore_eq_withPlan [Zero R] (a : Arr R) (groups : List (List Nat)) (mode : FuseMode) :
    fuseCore a groups mode = fuseCoreWithPlan (calcFuseBlockInfo a groups) a mode := rfl

/-- the answer of the last call of a history of cache calls -/
def lastAnswer {β : Type} (rs : List (Option β)) : Option β := rs.getLast?.bind id

/-- after ANY history of calls (any policy, cache size, sector limit), the cache answers the call
    for `(a, groups)` with the plan of `(a, groups)` -/
theorem cached_plan_eq (P : Policy) (maxsize : Int) (maxsectors : Nat)
    (history : List (Arr R × List (List Nat))) (a : Arr R) (groups : List (List Nat)) :
    lastAnswer (runCallsP P (fuseSpec R maxsectors) (FuseCache.empty maxsize) (history ++ [(a, groups)])).1
      = some (calcFuseBlockInfo a groups) := by
  rw [C15.fuse_cache_history_independent]
  simp only [lastAnswer, List.map_append, List.map_cons, List.map_nil, List.getLast?_append,
    List.getLast?_singleton, List.getLast?_map, Option.some_or, Option.bind_some, id_eq]

end FuseP
end SymmModel
