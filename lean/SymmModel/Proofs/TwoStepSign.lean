/-
  SymmModel.Proofs.TwoStepSign — the sign identity behind property C04 ("several pairs at once or one
  after another"): Koszul sign of the einsum axis order `tsOrder` of the intermediate times the graded
  sign of the first contraction = graded sign of the contraction of all pairs at once
  (`SymmModel.TwoStepP.two_step_sign`).  The pair block in front of `tsOrder` is de-interleaved by an exact
  inversion count (`koszul_pl`); from there on the identity is the Koszul block calculus of
  Proofs/Koszul, AssocGeom, Assoc2Geom.  Helpers in `SymmModel.TwoStepP.SignAux`.
-/
import SymmModel.Proofs.TwoStepOrder2
import SymmModel.Proofs.TwoStepGeom
import SymmModel.Proofs.Assoc2Left

namespace SymmModel
namespace TwoStepP
open TdotP GradedP KoszulP AssocP Assoc2P RoutesP

namespace SignAux

theorem flen_all (w : Nat) (l : List Nat) (h : ∀ x ∈ l, x < w) : (l.filter (gtR w)).length = l.length := by
  rw [List.filter_eq_self.2]
  intro x hx; simp [gtR, h x hx]

theorem flen_none (w : Nat) (l : List Nat) (h : ∀ x ∈ l, w ≤ x) : (l.filter (gtR w)).length = 0 := by
  rw [List.filter_eq_nil_iff.2]; rfl
  intro x hx; have := h x hx; simp [gtR]; omega

/-- the pair block of `tsOrder`, as a function of the list of (a-leg, b-leg, a-leg is dual) -/
def pl (ts : List (Nat × Nat × Bool)) : List Nat :=
  ts.flatMap (fun t => if t.2.2 then [t.1, t.2.1] else [t.2.1, t.1])

theorem pl_cons (u v : Nat) (d : Bool) (ts : List (Nat × Nat × Bool)) :
    pl ((u, v, d) :: ts) = (if d then [u, v] else [v, u]) ++ pl ts := by
  simp [pl]

theorem pl_perm (ts : List (Nat × Nat × Bool)) :
    (pl ts).Perm (ts.map (·.1) ++ ts.map (·.2.1)) := by
  induction ts with
  | nil => simp [pl]
  | cons t ts ih =>
    obtain ⟨u, v, d⟩ := t
    rw [pl_cons]
    have h2 : (u :: v :: (ts.map (·.1) ++ ts.map (·.2.1))).Perm
        (u :: (ts.map (·.1) ++ v :: ts.map (·.2.1))) :=
      List.Perm.cons u (List.perm_middle.symm)
    have h1 : ((if d then [u, v] else [v, u]) ++ pl ts).Perm (u :: v :: (ts.map (·.1) ++ ts.map (·.2.1))) := by
      cases d
      · exact (List.Perm.swap u v _).trans (List.Perm.cons u (List.Perm.cons v ih))
      · exact List.Perm.cons u (List.Perm.cons v ih)
    exact h1.trans h2

theorem flen_X (q : Nat → Bool) (ts : List (Nat × Nat × Bool)) (R : List Nat) (w : Nat) :
    (((pl ts ++ R).filter q).filter (gtR w)).length
      = (((ts.map (·.1)).filter q).filter (gtR w)).length
        + (((ts.map (·.2.1)).filter q).filter (gtR w)).length + ((R.filter q).filter (gtR w)).length := by
  have := (((pl_perm ts).filter q).filter (gtR w)).length_eq
  simp only [List.filter_append, List.length_append] at this ⊢
  omega

theorem invR_pl (q : Nat → Bool) (ts : List (Nat × Nat × Bool)) (R : List Nat)
    (hq : ∀ t ∈ ts, q t.1 = q t.2.1)
    (hlt : ∀ t ∈ ts, ∀ t' ∈ ts, t.1 < t'.2.1) :
    invR gtR ((pl ts ++ R).filter q)
      = (ts.filter (fun t => q t.1 && !t.2.2)).length
        + invR gtR ((ts.map (·.1)).filter q) + invR gtR ((ts.map (·.2.1)).filter q)
        + tri ((ts.map (·.1)).filter q).length
        + crossR gtR ((ts.map (·.1)).filter q) (R.filter q)
        + crossR gtR ((ts.map (·.2.1)).filter q) (R.filter q)
        + invR gtR (R.filter q) := by
  induction ts with
  | nil => simp [pl, invR, tri]
  | cons t ts ih =>
    obtain ⟨u, v, d⟩ := t
    have ih' := ih (fun t ht => hq t (List.mem_cons_of_mem _ ht))
      (fun t ht t' ht' => hlt t (List.mem_cons_of_mem _ ht) t' (List.mem_cons_of_mem _ ht'))
    have hquv : q u = q v := hq (u, v, d) (by simp)
    have huv : u < v := hlt (u, v, d) (by simp) (u, v, d) (by simp)
    have hu_vs : ∀ x ∈ (ts.map (·.2.1)).filter q, u ≤ x := by
      intro x hx
      obtain ⟨t', ht', rfl⟩ := List.mem_map.1 (List.mem_filter.1 hx).1
      exact Nat.le_of_lt (hlt (u, v, d) (by simp) t' (List.mem_cons_of_mem _ ht'))
    have hv_us : ∀ x ∈ (ts.map (·.1)).filter q, x < v := by
      intro x hx
      obtain ⟨t', ht', rfl⟩ := List.mem_map.1 (List.mem_filter.1 hx).1
      exact hlt t' (List.mem_cons_of_mem _ ht') (u, v, d) (by simp)
    have eXu := flen_X q ts R u
    have eXv := flen_X q ts R v
    rw [flen_none u _ hu_vs] at eXu
    rw [flen_all v _ hv_us] at eXv
    rw [pl_cons]
    cases hqu : q u
    · have hqv : q v = false := by rw [← hquv]; exact hqu
      have e : ((if d then [u, v] else [v, u]) ++ pl ts ++ R).filter q = (pl ts ++ R).filter q := by
        cases d <;> simp [hqu, hqv]
      rw [e, ih']
      simp [hqu, hqv]
    · have hqv : q v = true := by rw [← hquv]; exact hqu
      have guv : gtR u v = false := by simp [gtR]; omega
      have gvu : gtR v u = true := by simp [gtR]; omega
      cases d
      · have e : ((if false = true then [u, v] else [v, u]) ++ pl ts ++ R).filter q
            = v :: u :: (pl ts ++ R).filter q := by
          simp [hqu, hqv]
        rw [e]
        simp only [invR, List.filter_cons, gvu, hqu, hqv, ih', List.map_cons, crossR, tri, if_true,
          List.length_cons, Bool.not_false, Bool.and_true, eXu, eXv]
        omega
      · have e : ((if true = true then [u, v] else [v, u]) ++ pl ts ++ R).filter q
            = u :: v :: (pl ts ++ R).filter q := by
          simp [hqu, hqv]
        rw [e]
        simp only [invR, List.filter_cons, guv, hqu, hqv, ih', List.map_cons, crossR, tri, if_true,
          List.length_cons, Bool.not_true, Bool.and_false, Bool.false_eq_true, if_false, eXu, eXv]
        omega

theorem isOdd_parities {R : Type} (a : Arr R) (sa : Sector) (x : Nat) (h : x < sa.length) :
    isOdd (a.parities sa) x = a.sym.parity (sa.getD x (0, 0)) := by
  simp [isOdd, Arr.parities, List.getD_eq_getElem?_getD, List.getElem?_eq_getElem h]

theorem filter_range_getD (P : Nat → Bool) (l : List Nat) :
    ((List.range l.length).filter (fun i => P (l.getD i 0))).length = (l.filter P).length := by
  have := congrArg (fun z => (z.filter P).length) (list_eq_map_getD l)
  simp only [List.filter_map, List.length_map] at this
  exact this.symm

theorem ketOdd_eq {R : Type} (a : Arr R) (ya : List Nat) (sa : Sector) (q : Nat → Bool)
    (h : ∀ y ∈ ya, a.sym.parity (sa.getD y (0, 0)) = q y) :
    ketOdd a ya sa = (ya.filter (fun y => q y && !(a.indices.getD y default).dual)).length := by
  unfold ketOdd
  rw [List.filter_filter]
  congr 1
  apply List.filter_congr
  intro y hy
  rw [h y hy]

end SignAux
open SignAux

/-- the pair block in front costs, against the de-interleaved order `us ++ vs ++ R`, exactly the ket
    count plus a triangle — as a statement about `koszul`, so that the block calculus
    (`koszul_two_cross`, `Mid.koszul_right`, `koszul_RR`, `koszul_block_move`) takes over from there -/
theorem koszul_pl (par : List Bool) (ts : List (Nat × Nat × Bool)) (R : List Nat) (n : Nat)
    (hperm : (pl ts ++ R).Perm (List.range n))
    (hq : ∀ t ∈ ts, isOdd par t.1 = isOdd par t.2.1)
    (hlt : ∀ t ∈ ts, ∀ t' ∈ ts, t.1 < t'.2.1) :
    koszul par (some (pl ts ++ R))
      = sgn ((ts.filter (fun t => isOdd par t.1 && !t.2.2)).length
          + tri (oddCount par (ts.map (·.1))))
        * koszul par (some (ts.map (·.1) ++ ts.map (·.2.1) ++ R)) := by
  have hperm' : (ts.map (·.1) ++ ts.map (·.2.1) ++ R).Perm (List.range n) :=
    ((pl_perm ts).append_right R).symm.trans hperm
  have h0 : crossR gtR ((ts.map (·.1)).filter (isOdd par)) ((ts.map (·.2.1)).filter (isOdd par)) = 0 := by
    apply crossR_gtR_zero
    intro x hx y hy
    obtain ⟨t, ht, rfl⟩ := List.mem_map.1 (List.mem_filter.1 hx).1
    obtain ⟨t', ht', rfl⟩ := List.mem_map.1 (List.mem_filter.1 hy).1
    exact Nat.le_of_lt (hlt t ht t' ht')
  rw [koszul_eq_sgn_invR _ _ n hperm, koszul_eq_sgn_invR _ _ n hperm', ← sgn_add,
    invR_pl (isOdd par) ts R hq hlt]
  unfold oddCount
  simp only [List.filter_append, invR_append, crossR_append_left, h0]
  apply sgn_congr
  omega

theorem sign_arith (kA1 kP kB1 kQ kA2 kA3 kB2 : Int) (kx ky ketx kety oF : Nat)
    (k3 : kA1 * kP = kA3) (k4 : kB1 * kQ = kB2) (k5 : kA2 = kA3 * sgn (ky * (oF + kx))) :
    sgn (kety + tri ky) * (kP * kQ * sgn (oF * ky)) * (kA1 * kB1 * sgn (tri kx) * sgn ketx)
      = kA2 * kB2 * sgn (tri (kx + ky)) * sgn (ketx + kety) := by
  have hs : sgn (kety + tri ky) * sgn (oF * ky) * sgn (tri kx) * sgn ketx
      = sgn (ky * (oF + kx)) * sgn (tri (kx + ky)) * sgn (ketx + kety) := by
    simp only [← sgn_add]
    apply sgn_congr
    have := KoszulP.tri_add kx ky
    rw [Nat.mul_add, Nat.mul_comm oF ky]
    rw [Nat.mul_comm kx ky] at this
    generalize ky * oF = u at *
    generalize ky * kx = v at *
    omega
  rw [k5, ← k3, ← k4]
  calc _ = (kA1 * kP) * (kB1 * kQ) * (sgn (kety + tri ky) * sgn (oF * ky) * sgn (tri kx) * sgn ketx) := by ring
    _ = _ := by rw [hs]; ring

/-- the sign identity of C04's second clause (`C04.two_step_sign_identity`): on a sector pair aligned on
    all pairs, transposing the intermediate sector to `tsOrder` costs, together with the graded sign of
    the contraction over `xa ~ xb`, the graded sign of the contraction over all pairs.  All lists are read
    in the coordinates of the intermediate: `koszul_pl` de-interleaves the pair block, `koszul_two_cross`
    separates `a`'s legs from `b`'s, `Mid.koszul_right` / `koszul_RR` compose, on each side, the order of
    the first contraction with the order inside the intermediate, `koszul_block_move` takes `ya` from the
    front of `a`'s order to its back; `sign_arith` adds up -/
theorem two_step_sign {R : Type} (a b : Arr R) (xa xb ya yb : List Nat) (sa sb : Sector)
    (hsym : a.sym = b.sym)
    (hnA : (xa ++ ya).Nodup) (hA : ∀ i ∈ xa ++ ya, i < a.ndim)
    (hnB : (xb ++ yb).Nodup) (hB : ∀ i ∈ xb ++ yb, i < b.ndim)
    (hlx : xa.length = xb.length) (hly : ya.length = yb.length)
    (hsa : sa.length = a.ndim) (hsb : sb.length = b.ndim)
    (hal : permuted sb (xb ++ yb) = permuted sa (xa ++ ya)) :
    koszul ((permuted sa (freeAxes a.ndim xa) ++ permuted sb (freeAxes b.ndim xb)).map a.sym.parity)
        (some (tsOrder a b.ndim xa xb ya yb))
      * gradedSign a b xa xb sa sb
    = gradedSign a b (xa ++ ya) (xb ++ yb) sa sb := by
  have mA : Mid a.ndim xa ya := Mid.of hnA hA
  have mB : Mid b.ndim xb yb := Mid.of hnB hB
  have hla : (a.parities sa).length = a.ndim := by simp [Arr.parities, hsa]
  have hlb : (b.parities sb).length = b.ndim := by simp [Arr.parities, hsb]
  have hpar : (permuted sa (freeAxes a.ndim xa) ++ permuted sb (freeAxes b.ndim xb)).map a.sym.parity
      = permuted (a.parities sa) (freeAxes a.ndim xa) ++ permuted (b.parities sb) (freeAxes b.ndim xb) := by
    unfold Arr.parities
    rw [List.map_append, permuted_map, permuted_map, hsym]
  have hPl : (permuted (a.parities sa) (freeAxes a.ndim xa)).length = (freeAxes a.ndim xa).length :=
    permuted_length _ _ (by rw [hla]; exact mA.flt)
  have hQl : (permuted (b.parities sb) (freeAxes b.ndim xb)).length = (freeAxes b.ndim xb).length :=
    permuted_length _ _ (by rw [hlb]; exact mB.flt)
  have hal2 : permuted sb yb = permuted sa ya := by
    rw [permuted_append, permuted_append] at hal
    refine (List.append_inj hal ?_).2
    rw [permuted_length sb xb (by rw [hsb]; exact mB.lt1), permuted_length sa xa (by rw [hsa]; exact mA.lt1), hlx]
  have hky : oddCount (b.parities sb) yb = oddCount (a.parities sa) ya := by
    rw [oddCount_par b sb yb (by rw [hsb]; exact mB.lt2), oddCount_par a sa ya (by rw [hsa]; exact mA.lt2)]
    unfold oddContracted
    rw [hal2, hsym]
  have k3 := mA.symm.koszul_right (a.parities sa) hla
  have k4 := koszul_RR mB (b.parities sb) hlb
  have k2 := koszul_two_cross (permuted (a.parities sa) (freeAxes a.ndim xa))
    (permuted (b.parities sb) (freeAxes b.ndim xb))
    (positions (freeAxes a.ndim xa) ya)
    (freeAxes (freeAxes a.ndim xa).length (positions (freeAxes a.ndim xa) ya))
    (positions (freeAxes b.ndim xb) yb)
    (freeAxes (freeAxes b.ndim xb).length (positions (freeAxes b.ndim xb) yb))
    (by rw [hPl]; exact perm_right mA.pos_nodup mA.pos_lt)
    (by rw [hQl]; exact perm_right mB.pos_nodup mB.pos_lt)
  rw [hPl] at k2
  -- the order, as a pair block followed by the untraced legs
  obtain ⟨ts, hts⟩ : ∃ ts, ts = (List.range ya.length).map (fun i =>
      ((tsPA a.ndim xa ya).getD i 0, (tsPB a.ndim b.ndim xa xb yb).getD i 0,
        (a.indices.getD (ya.getD i 0) default).dual)) := ⟨_, rfl⟩
  have eO : tsOrder a b.ndim xa xb ya yb = pl ts ++ tsRhs a.ndim b.ndim xa xb ya yb := by
    rw [tsOrder_eq_gOrder, ← tsRhs_eq_gRhs, hts]
    refine congrArg (· ++ _) ?_
    unfold pl gFront
    rw [List.flatMap_map]
  have e1 : ts.map (·.1) = positions (freeAxes a.ndim xa) ya := by
    rw [hts, List.map_map, ← tsPA_eq mA]
    have hl : (tsPA a.ndim xa ya).length = ya.length := by simp [tsPA]
    conv => rhs; rw [list_eq_map_getD (tsPA a.ndim xa ya), hl]
    rfl
  have e2 : ts.map (·.2.1) = (positions (freeAxes b.ndim xb) yb).map ((freeAxes a.ndim xa).length + ·) := by
    rw [hts, List.map_map, ← tsPB_eq mB]
    have hl : (tsPB a.ndim b.ndim xa xb yb).length = ya.length := by simp [tsPB, hly]
    conv => rhs; rw [list_eq_map_getD (tsPB a.ndim b.ndim xa xb yb), hl]
    rfl
  -- reading the parities of the intermediate at the positions of the remaining legs
  have g := geo_ts hnA hA hnB hB hly
  have hXl : (permuted (a.parities sa) (freeAxes a.ndim xa) ++ permuted (b.parities sb) (freeAxes b.ndim xb)).length
      = tsN a.ndim b.ndim xa xb := by rw [List.length_append, hPl, hQl]; rfl
  have rA := permuted_tsPA mA (a.parities sa) (permuted (b.parities sb) (freeAxes b.ndim xb)) hla
  have rB := permuted_tsPB (na := a.ndim) (xa := xa) mB (permuted (a.parities sa) (freeAxes a.ndim xa))
    (b.parities sb) hPl hlb
  have hal3 : permuted (b.parities sb) yb = permuted (a.parities sa) ya := by
    unfold Arr.parities; rw [permuted_map, permuted_map, hal2, hsym]
  have oddA : ∀ i, i < ya.length →
      isOdd (permuted (a.parities sa) (freeAxes a.ndim xa) ++ permuted (b.parities sb) (freeAxes b.ndim xb))
        ((tsPA a.ndim xa ya).getD i 0) = isOdd (a.parities sa) (ya.getD i 0) := by
    intro i hi
    unfold isOdd
    rw [← getD_permuted_ax _ (tsPA a.ndim xa ya) (by rw [hXl]; exact fun x hx => g.ltA hx) i
      (by rw [g.lenA]; exact hi) false, rA, getD_permuted_ax _ ya (by rw [hla]; exact mA.lt2) i hi false]
  have oddB : ∀ i, i < ya.length →
      isOdd (permuted (a.parities sa) (freeAxes a.ndim xa) ++ permuted (b.parities sb) (freeAxes b.ndim xb))
        ((tsPB a.ndim b.ndim xa xb yb).getD i 0) = isOdd (a.parities sa) (ya.getD i 0) := by
    intro i hi
    unfold isOdd
    rw [← getD_permuted_ax _ (tsPB a.ndim b.ndim xa xb yb) (by rw [hXl]; exact fun x hx => g.ltB hx) i
      (by rw [g.lenB]; exact hi) false, rB, hal3, getD_permuted_ax _ ya (by rw [hla]; exact mA.lt2) i hi false]
  have k1 := koszul_pl (permuted (a.parities sa) (freeAxes a.ndim xa) ++ permuted (b.parities sb) (freeAxes b.ndim xb))
    ts (tsRhs a.ndim b.ndim xa xb ya yb) (tsN a.ndim b.ndim xa xb)
    (by rw [← eO]; exact tsOrder_perm a b.ndim xa xb ya yb hnA hA hnB hB hly)
    (by
      intro t ht
      rw [hts] at ht
      obtain ⟨i, hi, rfl⟩ := List.mem_map.1 ht
      have hi := List.mem_range.1 hi
      exact (oddA i hi).trans (oddB i hi).symm)
    (by
      intro t ht t' ht'
      rw [hts] at ht ht'
      obtain ⟨i, hi, rfl⟩ := List.mem_map.1 ht
      obtain ⟨j, hj, rfl⟩ := List.mem_map.1 ht'
      have h1 := tsPA_lt hnA hA _ (getD_mem (tsPA a.ndim xa ya) i 0 (by rw [g.lenA]; exact List.mem_range.1 hi))
      have h2 := tsPB_ge a.ndim b.ndim xa xb yb _
        (getD_mem (tsPB a.ndim b.ndim xa xb yb) j 0 (by rw [g.lenB]; exact List.mem_range.1 hj))
      exact Nat.lt_of_lt_of_le h1 h2)
  have hpaP : ∀ i ∈ positions (freeAxes a.ndim xa) ya,
      i < (permuted (a.parities sa) (freeAxes a.ndim xa)).length := by rw [hPl]; exact mA.pos_lt
  have hoc : oddCount (permuted (a.parities sa) (freeAxes a.ndim xa) ++ permuted (b.parities sb) (freeAxes b.ndim xb))
      (positions (freeAxes a.ndim xa) ya) = oddContracted a ya sa := by
    rw [oddCount_low _ _ _ hpaP, oddCount_permuted _ _ _ (by rw [hla]; exact mA.flt) mA.pos_lt, mA.pos_spec,
      oddCount_par a sa ya (by rw [hsa]; exact mA.lt2)]
  have hoF : oddCount (permuted (a.parities sa) (freeAxes a.ndim xa))
      (freeAxes (freeAxes a.ndim xa).length (positions (freeAxes a.ndim xa) ya))
      = oddCount (a.parities sa) (freeAxes a.ndim (xa ++ ya)) := by
    rw [oddCount_permuted _ _ _ (by rw [hla]; exact mA.flt) (fun i hi => (mem_freeAxes.mp hi).1), mA.free_spec]
  have hoQ : oddCount (permuted (b.parities sb) (freeAxes b.ndim xb)) (positions (freeAxes b.ndim xb) yb)
      = oddContracted a ya sa := by
    rw [oddCount_permuted _ _ _ (by rw [hlb]; exact mB.flt) mB.pos_lt, mB.pos_spec, hky,
      oddCount_par a sa ya (by rw [hsa]; exact mA.lt2)]
  have hket : (ts.filter (fun t => isOdd (permuted (a.parities sa) (freeAxes a.ndim xa)
      ++ permuted (b.parities sb) (freeAxes b.ndim xb)) t.1 && !t.2.2)).length = ketOdd a ya sa := by
    rw [ketOdd_eq a ya sa (isOdd (a.parities sa))
        (fun y hy => (isOdd_parities a sa y (by rw [hsa]; exact mA.lt2 y hy)).symm),
      hts, List.filter_map, List.length_map,
      ← filter_range_getD (fun y => isOdd (a.parities sa) y && !(a.indices.getD y default).dual) ya]
    congr 1
    apply List.filter_congr
    intro i hi
    simp only [Function.comp, oddA i (List.mem_range.1 hi)]
  -- `ya` moved from the front to the back of `a`'s one-step order
  have k5 : koszul (a.parities sa) (some (freeAxes a.ndim (xa ++ ya) ++ (xa ++ ya)))
      = koszul (a.parities sa) (some (ya ++ freeAxes a.ndim (ya ++ xa) ++ xa))
        * sgn (oddContracted a ya sa * (oddCount (a.parities sa) (freeAxes a.ndim (xa ++ ya))
            + oddContracted a xa sa)) := by
    have e : freeAxes a.ndim (ya ++ xa) = freeAxes a.ndim (xa ++ ya) :=
      freeAxes_congr _ (by intro x; simp only [List.mem_append]; exact Or.comm)
    have hp : ([] ++ ya ++ (freeAxes a.ndim (xa ++ ya) ++ xa) ++ []).Perm (List.range a.ndim) := by
      have := perm_left hnA hA
      simp only [List.nil_append, List.append_nil]
      refine List.perm_append_comm.trans ?_
      rwa [List.append_assoc]
    have := koszul_block_move (a.parities sa) [] ya (freeAxes a.ndim (xa ++ ya) ++ xa) [] a.ndim hp
    simp only [List.nil_append, List.append_nil, List.append_assoc] at this
    rw [e, List.append_assoc, this, oddCount_par a sa ya (by rw [hsa]; exact mA.lt2)]
    congr 2
    rw [← oddCount_par a sa xa (by rw [hsa]; exact mA.lt1)]
    unfold oddCount
    rw [List.filter_append, List.length_append]
  rw [hpar, eO, k1, e1, e2, tsRhs_eq mA mB, k2, hoc, hoF, hoQ, hket, gradedSign_sgn, gradedSign_sgn,
    oddContracted_append, ketOdd_append]
  exact sign_arith _ _ _ _ _ _ _ _ _ _ _ _ k3 k4 k5

end TwoStepP
end SymmModel
