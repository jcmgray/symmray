/-
  SymmModel.Proofs.ValidFuse2 — `fuse` in insert mode returns a valid array (property C01).

  `fuseAdmissibleB` is the precondition of `fuse` as a Bool; as a proposition it is
  `FuseP.GroupsAdm` (`groupsAdm_iff`).  `calcFuseBlockInfo_ok` and `fuseCore_ok` read the result of
  a successful `calcFuseBlockInfo` / `_fuse_core` off the model text, with no hypothesis on the
  array or the groups.  On an array with the block clauses of `Valid` that result is the closed form
  `FuseP.fuseInfoOf`, and every new index is well formed (`calcFuseBlockInfo_wf`).  The new sector
  of a stored block conserves the charge (`newSector_secOk`), so the array of the insert strategy,
  `FuseP.fusedArrM`, satisfies `Core` (`core_fusedArrM`); `_fuse_core` returns that array
  (`FuseP.fuseCore_multi_eq`), which gives `fuseCore_insert_core` and the abelian statements
  after it.
-/
import SymmModel.Proofs.ValidFuse
import SymmModel.Proofs.FuseMulti3

namespace SymmModel

theorem FuseP.validArr_of_core {R : Type} {x : Arr R} (h : ValidP.Core x) : FuseP.ValidArr x :=
  ⟨h.idx, h.nodup, fun sb hsb => ⟨(h.blk sb hsb).1.1, (h.blk sb hsb).2.1, (h.blk sb hsb).2.2⟩⟩

namespace ValidP
open Sym

variable {R : Type}

/-- the precondition of `fuse`: the grouped axes are distinct and in range -/
def fuseAdmissibleB (groups : List (List Nat)) (ndim : Nat) : Bool :=
  allDistinct groups.flatten && groups.flatten.all (fun ax => decide (ax < ndim))

theorem groupsAdm_iff {groups : List (List Nat)} {n : Nat} :
    fuseAdmissibleB groups n = true ↔ FuseP.GroupsAdm groups n := by
  simp only [fuseAdmissibleB, Bool.and_eq_true, List.all_eq_true, decide_eq_true_eq, allDistinct_iff_nodup]
  exact ⟨fun h => ⟨h.2, h.1⟩, fun h => ⟨h.nodup, h.lt⟩⟩

theorem _root_.SymmModel.FuseP.admissible_of_groupsOk {groups : List (List Nat)} {n : Nat}
    (h : FuseP.GroupsOk groups n) : fuseAdmissibleB groups n = true :=
  groupsAdm_iff.2 h.adm

theorem fuseAdmissibleB_congr {g1 g2 : List (List Nat)} (h : g1.flatten = g2.flatten) (n : Nat) :
    fuseAdmissibleB g1 n = fuseAdmissibleB g2 n := by
  unfold fuseAdmissibleB; rw [h]

theorem foldl_min_head_le (l : List Nat) (n : Nat) (h : ∀ x ∈ l, x < n) :
    l.foldl min (l.headD 0) ≤ n := by
  cases l with
  | nil => simp
  | cons a as =>
    have := (FuseP.foldl_min_spec (a :: as) a).2.2 a (by simp)
    have := h a (by simp)
    simp only [List.headD_cons]
    omega

theorem perm_of_admissible {groups : List (List Nat)} {duals : List Bool}
    (h : fuseAdmissibleB groups duals.length = true) :
    (calcFuseGroupInfo groups duals).perm.Perm (List.range duals.length) :=
  FuseP.calcFuseGroupInfo_perm (groupsAdm_iff.1 h)

theorem permuted_flatten {α : Type} (l : List α) (groups : List (List Nat)) :
    permuted l groups.flatten = groups.flatMap (permuted l) := by
  induction groups with
  | nil => rfl
  | cons g gs ih => simp only [List.flatten_cons, List.flatMap_cons, permuted_append, ih]

/-- the sub-sector table of group `g` (copy of the model text) -/
def fuseSubTable (gi : FuseGroupInfo) (blockmap : List (Sector × BlockPlan)) (g : Nat) :
    List (Sector × Charge × Nat) :=
  adict (blockmap.map (fun (_, p) =>
    (p.subsectors.getD g [], (p.newSector.getD (gi.position + g) (0, 0),
                              p.newShape.getD (gi.position + g) 0))))

/-- the new index of group `g` (copy of the model text) -/
def fuseMidIndex (a : Arr R) (gi : FuseGroupInfo) (blockmap : List (Sector × BlockPlan)) :
    List Nat × Nat → Index :=
  fun (gaxes, g) =>
    if gaxes.length == 1 then a.indices.getD (gaxes.headD 0) default
    else
      let sub : List (Sector × Charge × Nat) := fuseSubTable gi blockmap g
      let sorted := isort (fun x y => sectorLt x.1 y.1) sub
      let (cmap, ext) := accumExtents sorted
      Index.mk (Index.sortCm cmap) (gi.groupDuals.getD g false)
        (some (gaxes.map (fun ax => a.indices.getD ax default), ext))

def planEntry (a : Arr R) (groups : List (List Nat)) (gi : FuseGroupInfo) :
    Sector × Blk R → Except Err (Sector × BlockPlan) :=
  fun (sector, _) => do
    let p ← planSector a.sym a.indices groups gi sector
    pure (sector, p)

def calcFuseBlockInfo' (a : Arr R) (groups : List (List Nat)) : Except Err FuseInfo := do
  let gi := calcFuseGroupInfo groups a.duals
  let blockmap ← a.blocks.mapM (planEntry a groups gi)
  pure { gi := gi,
         newIndices := permuted a.indices gi.axesBefore ++ groups.zipIdx.map (fuseMidIndex a gi blockmap)
           ++ permuted a.indices gi.axesAfter,
         blockmap := blockmap }

theorem calcFuseBlockInfo_eq (a : Arr R) (groups : List (List Nat)) :
    calcFuseBlockInfo a groups = calcFuseBlockInfo' a groups := rfl

theorem calcFuseBlockInfo_ok {a : Arr R} {groups : List (List Nat)} {fi : FuseInfo}
    (h : calcFuseBlockInfo a groups = .ok fi) :
    ∃ blockmap, a.blocks.mapM (planEntry a groups (calcFuseGroupInfo groups a.duals)) = .ok blockmap
      ∧ fi = { gi := calcFuseGroupInfo groups a.duals,
               newIndices := permuted a.indices (calcFuseGroupInfo groups a.duals).axesBefore
                 ++ groups.zipIdx.map (fuseMidIndex a (calcFuseGroupInfo groups a.duals) blockmap)
                 ++ permuted a.indices (calcFuseGroupInfo groups a.duals).axesAfter,
               blockmap := blockmap } := by
  rw [calcFuseBlockInfo_eq] at h
  unfold calcFuseBlockInfo' at h
  simp only at h
  cases hb : a.blocks.mapM (planEntry a groups (calcFuseGroupInfo groups a.duals)) with
  | error e => rw [hb] at h; cases h
  | ok blockmap => rw [hb] at h; cases h; exact ⟨blockmap, rfl, rfl⟩

theorem getD_dual (indices : List Index) (ax : Nat) :
    (indices.map Index.dual).getD ax false = (indices.getD ax default).dual := by
  simp only [List.getD_eq_getElem?_getD, List.getElem?_map]
  cases indices[ax]? <;> rfl

theorem groupDuals_getD {groups : List (List Nat)} {duals : List Bool} {gaxes : List Nat} {g : Nat}
    (hg : (gaxes, g) ∈ groups.zipIdx) :
    (calcFuseGroupInfo groups duals).groupDuals.getD g false = duals.getD (gaxes.headD 0) false := by
  obtain ⟨_, hg1, hg2⟩ := List.mem_zipIdx hg
  simp only [Nat.zero_add, Nat.sub_zero] at hg1 hg2
  show (groups.map (fun g => duals.getD (g.headD 0) false)).getD g false = _
  simp [List.getD_eq_getElem?_getD, hg1, hg2]

theorem fuseMidIndex_dual (a : Arr R) (groups : List (List Nat))
    (blockmap : List (Sector × BlockPlan)) {x : List Nat × Nat} (hx : x ∈ groups.zipIdx) :
    (fuseMidIndex a (calcFuseGroupInfo groups a.duals) blockmap x).dual
      = (calcFuseGroupInfo groups a.duals).groupDuals.getD x.2 false := by
  obtain ⟨gaxes, g⟩ := x
  unfold fuseMidIndex
  simp only
  split
  · rw [groupDuals_getD hx]
    exact (getD_dual a.indices _).symm
  · generalize accumExtents _ = r
    obtain ⟨c, e⟩ := r
    rfl

theorem fuseCore_ok [Zero R] {a r : Arr R} {groups : List (List Nat)} {mode : FuseMode}
    (h : fuseCore a groups mode = .ok r) :
    ∃ fi nb, calcFuseBlockInfo a groups = .ok fi
      ∧ (match mode with
          | .insert => fuseInsert a.blocks fi
          | .concat => fuseConcat a.indices a.blocks fi) = .ok nb
      ∧ r = { a with indices := fi.newIndices, blocks := nb } := by
  unfold fuseCore at h
  obtain ⟨fi, hfi, h⟩ := bind_ok h
  cases mode with
  | insert =>
    obtain ⟨nb, hnb, h⟩ := bind_ok h
    cases h
    exact ⟨fi, nb, hfi, hnb, rfl⟩
  | concat =>
    obtain ⟨nb, hnb, h⟩ := bind_ok h
    cases h
    exact ⟨fi, nb, hfi, hnb, rfl⟩

/-- a successful plan of one sector has read every grouped axis, so these are in range -/
theorem planSector_ok_lt {sym : Sym} {indices : List Index} {groups : List (List Nat)}
    {gi : FuseGroupInfo} {sector : Sector} {p : BlockPlan}
    (h : planSector sym indices groups gi sector = .ok p) :
    ∀ ax ∈ groups.flatten, ax < indices.length := by
  unfold planSector at h
  dsimp only at h
  obtain ⟨_, _, h⟩ := bind_ok h
  obtain ⟨_, _, h⟩ := bind_ok h
  obtain ⟨mids, hm, _⟩ := bind_ok h
  intro ax hax
  obtain ⟨gaxes, hg, haxg⟩ := List.mem_flatten.mp hax
  obtain ⟨g, hg', rfl⟩ := List.getElem_of_mem hg
  obtain ⟨y, -, hq⟩ := forall₂_mem_left (mapM_ok_forall₂ _ _ _ hm)
    (List.mk_mem_zipIdx_iff_getElem?.mpr (List.getElem?_eq_getElem hg'))
  obtain ⟨cds, hc, _⟩ := bind_ok hq
  obtain ⟨y', -, hcd⟩ := forall₂_mem_left (mapM_ok_forall₂ _ _ _ hc) haxg
  cases hi : indices[ax]? with
  | none => rw [hi] at hcd; cases hcd
  | some ix => exact (List.getElem?_eq_some_iff.mp hi).1

theorem calcFuseBlockInfo_ok_closed {a : Arr R} {groups : List (List Nat)} {fi : FuseInfo}
    (hv : FuseP.ValidArr a) (h : calcFuseBlockInfo a groups = .ok fi) :
    fi = FuseP.fuseInfoOf a groups
      ∧ (a.blocks ≠ [] → ∀ ax ∈ groups.flatten, ax < a.ndim) := by
  have hlt : a.blocks ≠ [] → ∀ ax ∈ groups.flatten, ax < a.ndim := by
    intro hne
    obtain ⟨sb, hsb⟩ := List.exists_mem_of_ne_nil _ hne
    unfold calcFuseBlockInfo at h
    obtain ⟨blockmap, hb, _⟩ := bind_ok h
    obtain ⟨sp, -, hq⟩ := forall₂_mem_left (mapM_ok_forall₂ _ _ _ hb) hsb
    obtain ⟨p, hp, _⟩ := bind_ok hq
    exact planSector_ok_lt hp
  rw [FuseP.calcFuseBlockInfo_eq hv hlt] at h
  cases h
  exact ⟨rfl, hlt⟩

theorem calcFuseBlockInfo_wf (a : Arr R) (groups : List (List Nat)) (fi : FuseInfo) (hv : Core a)
    (h : calcFuseBlockInfo a groups = .ok fi) : ∀ i ∈ fi.newIndices, Index.wfB a.sym i = true := by
  obtain ⟨rfl, hlt⟩ := calcFuseBlockInfo_ok_closed (FuseP.validArr_of_core hv) h
  exact FuseP.newIndices_wf (FuseP.validArr_of_core hv) hlt

theorem combine_single_pair (s : Sym) (x : Charge) (Y : List Charge) :
    s.combine (x :: Y) = s.combine [s.combine [x], s.combine Y] :=
  Sym.combine_append s [x] Y

theorem combine_map_flat (s : Sym) {α : Type} (f : α → Charge) (G : α → List Charge) (L : List α)
    (h : ∀ x ∈ L, s.combine [f x] = s.combine (G x)) :
    s.combine (L.map f) = s.combine (L.flatMap G) := by
  induction L with
  | nil => rfl
  | cons x L ih =>
    simp only [List.map_cons, List.flatMap_cons]
    rw [combine_single_pair, Sym.combine_append, h x (by simp), ih (fun y hy => h y (by simp [hy]))]

theorem newSector_secOk {a : Arr R} {groups : List (List Nat)} (hv : Core a)
    (hadm : fuseAdmissibleB groups a.ndim = true) {sb : Sector × Blk R} (hsb : sb ∈ a.blocks) :
    SecOk a.sym (FuseP.fuseInfoOf a groups).newIndices a.charge
      (FuseP.planOf a.sym a.indices groups (calcFuseGroupInfo groups a.duals) sb.1 sb.2.shape).newSector := by
  obtain ⟨P, hidx, hs, hch⟩ := secOk_iff.mp (hv.blk sb hsb).1
  have hn : a.ndim = P.length := by show a.indices.length = _; rw [hidx]; simp
  have hperm : (calcFuseGroupInfo groups a.duals).perm.Perm (List.range P.length) := by
    have : a.ndim = a.duals.length := by simp [Arr.ndim, Arr.duals]
    rw [← hn, this]; rw [this] at hadm; exact perm_of_admissible hadm
  set gi := calcFuseGroupInfo groups a.duals with hgi
  have hin : ∀ ax ∈ gi.axesBefore ++ groups.flatten ++ gi.axesAfter, ax < P.length :=
    fun ax hax => List.mem_range.mp (hperm.mem_iff.mp hax)
  have hpt : ∀ ax, ax < P.length → sb.1.getD ax (0, 0) = (P.getD ax default).2
      ∧ a.indices.getD ax default = (P.getD ax default).1 := by
    intro ax h
    rw [hs, hidx]
    simp [List.getD_eq_getElem?_getD, List.getElem?_map, List.getElem?_eq_getElem h]
  have hpm : ∀ axes : List Nat, (∀ ax ∈ axes, ax < P.length) →
      permuted P axes = axes.map (fun ax => P.getD ax default) :=
    fun axes h => FuseP.permuted_eq_map P default axes h
  have hB : ∀ ax ∈ gi.axesBefore, ax < P.length := fun ax h => hin ax (by simp [h])
  have hA : ∀ ax ∈ gi.axesAfter, ax < P.length := fun ax h => hin ax (by simp [h])
  have hG : ∀ p ∈ groups.zipIdx, ∀ ax ∈ p.1, ax < P.length := by
    intro p hp ax hax
    refine hin ax ?_
    have : p.1 ∈ groups := by
      obtain ⟨_, h1, h2⟩ := List.mem_zipIdx hp
      simp only [Nat.zero_add, Nat.sub_zero] at h1 h2
      rw [h2]; exact List.getElem_mem _
    exact List.mem_append.mpr (Or.inl (List.mem_append.mpr (Or.inr
      (List.mem_flatten.mpr ⟨p.1, this, hax⟩))))
  have rd : ∀ axes : List Nat, (∀ ax ∈ axes, ax < P.length) →
      axes.map (fun ax => sb.1.getD ax (0, 0)) = (permuted P axes).map (·.2) := by
    intro axes h
    rw [hpm axes h, List.map_map]
    exact List.map_congr_left (fun ax hax => (hpt ax (h ax hax)).1)
  have ri : ∀ X : List Nat, permuted a.indices X = (permuted P X).map (·.1) :=
    fun X => by rw [hidx, permuted_map]
  -- the index built for group `p`
  let nm : List Nat × Nat → Index := fun p =>
    if p.1.length == 1 then a.indices.getD (p.1.headD 0) default
    else FuseP.fusedIndexOf (FuseP.tableEntries (FuseP.blockmapOf a groups) gi.position p.2)
      (gi.groupDuals.getD p.2 false) (p.1.map (fun ax => a.indices.getD ax default))
  let md := FuseP.midOf a.sym a.indices sb.1 sb.2.shape gi
  -- the joint list of the new array
  refine secOk_iff.mpr ⟨permuted P gi.axesBefore ++ groups.zipIdx.map (fun p => (nm p, (md p).1))
      ++ permuted P gi.axesAfter, ?_, ?_, ?_⟩
  · show permuted a.indices gi.axesBefore ++ groups.zipIdx.map nm ++ permuted a.indices gi.axesAfter = _
    rw [ri, ri]
    simp only [List.map_append, List.map_map]
    rfl
  · show gi.axesBefore.map (fun ax => sb.1.getD ax (0, 0)) ++ (groups.zipIdx.map md).map (·.1)
        ++ gi.axesAfter.map (fun ax => sb.1.getD ax (0, 0)) = _
    rw [rd _ hB, rd _ hA]
    simp only [List.map_append, List.map_map]
    rfl
  · have hmid : a.sym.combine (groups.zipIdx.map (fun p => a.sym.sign (md p).1 (nm p).dual))
        = a.sym.combine (groups.zipIdx.flatMap (fun p => sgn a.sym (permuted P p.1))) := by
      apply combine_map_flat
      intro p hp
      by_cases hlen : p.1.length = 1
      · obtain ⟨gaxes, g⟩ := p
        match gaxes, hlen with
        | [ax], _ =>
          have hax : ax < P.length := hG _ hp ax (by simp)
          simp only [nm, md, FuseP.midOf_single _ _ _ _ _ g (gaxes := [ax]) rfl, List.length_singleton, BEq.rfl,
            if_true, List.headD_cons]
          rw [hpm [ax] (by simpa using hax), (hpt ax hax).1, (hpt ax hax).2]
          rfl
      · have hl : (p.1.length == 1) = false := by simpa using hlen
        have hD : (nm p).dual = gi.groupDuals.getD p.2 false := by
          simp only [nm, hl, Bool.false_eq_true, if_false]; rfl
        have hc : (md p).1 = a.sym.combine ((permuted P p.1).map (fun q =>
            a.sym.sign q.2 (gi.groupDuals.getD p.2 false != q.1.dual))) := by
          simp only [md, FuseP.midOf_multi _ _ _ _ _ p.2 hlen, FuseP.fusedCharge]
          rw [hpm p.1 (hG p hp), List.map_map]
          congr 1
          apply List.map_congr_left
          intro ax hax
          simp only [Function.comp, (hpt ax (hG p hp ax hax)).1, (hpt ax (hG p hp ax hax)).2]
        rw [hD, hc, sign_rel_combine, combine_combine]
    have hfl : groups.zipIdx.flatMap (fun p => sgn a.sym (permuted P p.1))
        = sgn a.sym (permuted P groups.flatten) := by
      unfold sgn
      rw [permuted_flatten, List.map_flatMap]
      conv_rhs => rw [← List.zipIdx_map_fst 0 groups, List.flatMap_map]
    show a.sym.combine (sgn a.sym (permuted P gi.axesBefore
        ++ groups.zipIdx.map (fun p => (nm p, (md p).1)) ++ permuted P gi.axesAfter)) = _
    have hsplit : sgn a.sym (permuted P gi.axesBefore
          ++ groups.zipIdx.map (fun p => (nm p, (md p).1)) ++ permuted P gi.axesAfter)
        = sgn a.sym (permuted P gi.axesBefore)
          ++ groups.zipIdx.map (fun p => a.sym.sign (md p).1 (nm p).dual)
          ++ sgn a.sym (permuted P gi.axesAfter) := by
      unfold sgn
      simp only [List.map_append, List.map_map]
      rfl
    rw [hsplit, combine3, hmid, hfl, ← combine3]
    have hperm' : (gi.axesBefore ++ groups.flatten ++ gi.axesAfter).Perm (List.range P.length) := hperm
    unfold sgn
    rw [← List.map_append, ← List.map_append, ← permuted_append, ← permuted_append,
      Sym.combine_perm a.sym (List.Perm.map _ (permuted_perm hperm'))]
    exact hch

theorem core_fusedArrM [Zero R] {a : Arr R} {groups : List (List Nat)} (hv : Core a)
    (hadm : fuseAdmissibleB groups a.ndim = true) : Core (FuseP.fusedArrM a groups) := by
  have hva := FuseP.validArr_of_core hv
  have hok := groupsAdm_iff.1 hadm
  have hinv := FuseP.fusedBlocksM_inv hva hok
  refine ⟨FuseP.newIndices_wf hva (fun _ => hok.lt), hv.chg, hinv.nodup, ?_⟩
  rintro ⟨ns, B⟩ hB
  have hk : ns ∈ (FuseP.fusedBlocksM a groups).map (·.1) := List.mem_map.2 ⟨_, hB, rfl⟩
  rw [hinv.keys] at hk
  simp only [List.map_map, List.mem_map, Function.comp] at hk
  obtain ⟨sb, hsb, rfl⟩ := hk
  have hlook := alookup_of_mem_nodup hinv.nodup hB
  refine ⟨newSector_secOk hv hadm hsb, ?_, FuseP.insFold_wf _ _ _ hB⟩
  show Arr.blockShape? (FuseP.newIdxM a groups) (FuseP.planM a groups sb).newSector = some B.shape
  rw [hinv.shape _ B hlook]
  show _ = some (FuseP.shapeOfM a groups (FuseP.planM a groups sb).newSector)
  rw [FuseP.shapeOfM_stored hva hok hsb]
  exact FuseP.shape_storedM hva hok hsb

theorem fuseCore_insert_core [Zero R] (a r : Arr R) (groups : List (List Nat)) (hv : Core a)
    (hadm : fuseAdmissibleB groups a.ndim = true)
    (h : fuseCore a groups .insert = .ok r) : Core r := by
  rw [FuseP.fuseCore_multi_eq (FuseP.validArr_of_core hv) (groupsAdm_iff.1 hadm)] at h
  cases h
  exact core_fusedArrM hv hadm

theorem fuseCore_fields [Zero R] {a r : Arr R} {groups : List (List Nat)} {mode : FuseMode}
    (h : fuseCore a groups mode = .ok r) :
    r.sym = a.sym ∧ r.fermi = a.fermi ∧ r.charge = a.charge ∧ r.phases = a.phases
      ∧ r.oddpos = a.oddpos := by
  obtain ⟨_, _, _, _, rfl⟩ := fuseCore_ok h
  exact ⟨rfl, rfl, rfl, rfl, rfl⟩

theorem fuseCore_insert_valid [Zero R] (a r : Arr R) (groups : List (List Nat)) (hv : Valid a)
    (hf : a.fermi = false) (hadm : fuseAdmissibleB groups a.ndim = true)
    (h : fuseCore a groups .insert = .ok r) : Valid r := by
  obtain ⟨_, e2, _, e4, e5⟩ := fuseCore_fields h
  exact hv.of_abelian hf (fuseCore_insert_core a r groups hv.core hadm h) e2 e4 e5

theorem fuseA_insert_valid [Zero R] (a r : Arr R) (groups : List (List Nat)) (expandEmpty : Bool)
    (hv : Valid a) (hf : a.fermi = false) (hadm : fuseAdmissibleB groups a.ndim = true)
    (hne : groups.all (fun g => !g.isEmpty) = true)
    (h : fuseA a groups .insert expandEmpty = .ok r) : Valid r := by
  rw [FuseP.fuseA_of_nonempty a groups .insert expandEmpty hne] at h
  split at h
  · cases h; exact hv
  · exact fuseCore_insert_valid a r groups hv hf hadm h

theorem fuseCore_insert_validB [Zero R] (a r : Arr R) (groups : List (List Nat))
    (hv : a.validB = true) (hf : a.fermi = false) (hadm : fuseAdmissibleB groups a.ndim = true)
    (h : fuseCore a groups .insert = .ok r) : r.validB = true :=
  (validB_iff r).mpr (fuseCore_insert_valid a r groups ((validB_iff a).mp hv) hf hadm h)

theorem _root_.SymmModel.FuseP.fusedArrM_validB [Zero R] {a : Arr R} {groups : List (List Nat)}
    (hv : a.validB = true) (hf : a.fermi = false) (hok : FuseP.GroupsAdm groups a.ndim) :
    (FuseP.fusedArrM a groups).validB = true :=
  fuseCore_insert_validB a _ groups hv hf (groupsAdm_iff.2 hok)
    (FuseP.fuseCore_multi_eq (FuseP.validArr_of_validB hv) hok)

/-! ### the hypotheses are satisfiable -/

/-- a Z2 array with three indices, total charge 1, all four sectors stored -/
def exArr3 : Arr Int :=
  { sym := .Z2, fermi := false,
    indices := [.mk [((0, 0), 1), ((1, 0), 2)] false none, .mk [((0, 0), 2), ((1, 0), 1)] true none,
                .mk [((0, 0), 1), ((1, 0), 1)] false none],
    charge := (1, 0),
    blocks := [([(0, 0), (0, 0), (1, 0)], ⟨[1, 2, 1], #[1, 2]⟩),
               ([(0, 0), (1, 0), (0, 0)], ⟨[1, 1, 1], #[3]⟩),
               ([(1, 0), (0, 0), (0, 0)], ⟨[2, 2, 1], #[4, 5, 6, 7]⟩),
               ([(1, 0), (1, 0), (1, 0)], ⟨[2, 1, 1], #[8, 9]⟩)] }

example : exArr3.validB = true ∧ exArr3.fermi = false
    ∧ fuseAdmissibleB [[0, 1]] exArr3.ndim = true ∧ fuseAdmissibleB [[2, 0]] exArr3.ndim = true := by
  decide

example : (match fuseCore exArr3 [[0, 1]] .insert with
    | .ok r => r.validB && r.sectors == [[(0, 0), (1, 0)], [(1, 0), (0, 0)]]
        && (match unfuseA r 0 with
            | .ok u => u.validB && u.sectors.length == 4
            | .error _ => false)
    | .error _ => false) = true := by decide +kernel

example : (match fuseCore exArr3 [[0, 1]] .insert with
    | .ok r => (match unfuseAllA r with
        | .ok u => u.validB && u.ndim == 3
        | .error _ => false)
    | .error _ => false) = true := by decide +kernel

example : (match fuseCore exArr3 [[2, 0]] .insert with
    | .ok r => r.validB && r.ndim == 2
    | .error _ => false) = true := by decide +kernel

end ValidP
end SymmModel
