/-
  SymmModel.Proofs.ReconLabels — fermionic reconstruction (C11) for arrays that carry a LIST of
  odd-position labels (`SortedLabels`: sorted by `FermionicOperator.__lt__`, distinct names).
  Two facts carry it: `resolve_combined_oddpos` returns a sorted list unchanged and without sign
  when the other operand has no label (`resolve_sorted_left`, `merge_right_sorted`), and the first-axis flip that
  `__matmul__` applies to a right factor of a decomposition cancels the flip the decomposition
  stored on it (`rightSync_blocks`; also for truncated / absorbed right factors, whose sign table
  may keep entries of dropped sectors).  Then `a @ b` of factors aligned with a list of items has
  the value view of the abelian blockwise product (`matmulF_items`, `matmulF_items_elem`).
-/
import SymmModel.Proofs.LinalgMore6
import SymmModel.Proofs.Oddpos

namespace SymmModel
namespace ReconP
open LinalgLemmas OddposP
open Lazy (sgnI phOf)

variable {R : Type}

/-- what every array of the library carries: labels sorted w.r.t. `FermionicOperator.__lt__`
    (dual labels first, descending; then non-dual ones, ascending) with pairwise distinct names -/
def SortedLabels (o : List (Int × Bool)) : Prop := OddSorted o ∧ LabelsDistinct o

theorem sortedLabels_nil : SortedLabels [] := ⟨List.Pairwise.nil, List.Pairwise.nil⟩

theorem sortedLabels_single (a : Int × Bool) : SortedLabels [a] :=
  ⟨List.pairwise_singleton _ _, List.pairwise_singleton _ _⟩

theorem sortedLabels_of_short {o : List (Int × Bool)} (h : o.length ≤ 1) : SortedLabels o := by
  match o, h with
  | [], _ => exact sortedLabels_nil
  | [a], _ => exact sortedLabels_single a

theorem merge_left_sorted (pa : Bool) (o : List (Int × Bool)) (h : SortedLabels o) :
    mergeOddpos pa o [] = .ok (o, 1) := by
  obtain ⟨out, p, s, m⟩ := mergeOddpos_spec pa o [] (by simpa using h.2)
  have e : out = o := oddSorted_unique s h.1 (by simpa using p)
  subst e
  rw [m, List.append_nil, invR_oddR_sorted out h.1]
  rfl

theorem merge_right_sorted (o : List (Int × Bool)) (h : SortedLabels o) :
    mergeOddpos false [] o = .ok (o, 1) := by
  obtain ⟨out, p, s, m⟩ := mergeOddpos_spec false [] o (by simpa using h.2)
  have e : out = o := oddSorted_unique s h.1 (by simpa using p)
  subst e
  rw [m, List.nil_append, invR_oddR_sorted out h.1]
  simp [Bool.toNat, KoszulP.sgn_zero]

theorem resolve_sorted_left (left right new : Arr R) (hr : right.oddpos = [])
    (hl : SortedLabels left.oddpos) :
    resolveCombinedOddpos left right new = .ok { new with oddpos := left.oddpos } := by
  rw [resolveCombinedOddpos_eq, hr, merge_left_sorted _ _ hl]
  rfl

/-- the table `phase_flip(0)` writes on an array without pending signs: value at a listed sector -/
theorem getD_flagged (l : List Sector) (P : Sector → Bool) (s : Sector) (hs : s ∈ l) :
    (alookup ((l.filter P).map (fun s => (s, (-1 : Int)))) s).getD 1 = if P s then -1 else 1 := by
  have hf := alookup_flagged l P s
  simp only [hs, decide_true, Bool.true_and] at hf
  cases ho : alookup ((l.filter P).map (fun s => (s, (-1 : Int)))) s with
  | none =>
    rw [ho] at hf
    have : P s = false := by
      rw [← hf]; decide
    simp [this]
  | some v =>
    have hm := alookup_some_mem ho
    obtain ⟨t, _, e⟩ := List.mem_map.mp hm
    have hv : v = -1 := (Prod.mk.inj e).2.symm
    subst hv
    rw [ho] at hf
    have : P s = true := by rw [← hf]; decide
    simp [this]

/-- A right factor `V` (of `qr`/`svd`, possibly truncated or with singular values absorbed): its
    stored sectors lie in a duplicate-free list `D`; when its first (bond) index is dual its sign
    table is the one `phase_flip(0)` writes on `D`, otherwise it is empty.  Then the flip
    `__matmul__` applies to a dual first index, followed by `phase_sync`, leaves the blocks as
    they are.  (Entries of the table at sectors that are no longer stored are harmless.) -/
theorem rightSync_blocks [Neg R] (V : Arr R) (D : List Sector) (d : Bool)
    (hD : D.Nodup) (hnd : V.sectors.Nodup) (hsub : ∀ s ∈ V.sectors, s ∈ D)
    (hph : V.phases = if d then
        (D.filter (fun s => V.sym.parity (s.getD 0 (0, 0)))).map (fun s => (s, (-1 : Int)))
      else []) :
    (if d then V.phaseFlip [0] else V).phaseSync.blocks = V.blocks := by
  cases d with
  | false =>
    simp only [Bool.false_eq_true, if_false] at hph ⊢
    exact phaseSync_blocks_nil V hph
  | true =>
    simp only [if_true] at hph ⊢
    have hb := (phaseFlip_fields V [0]).blocks
    have hkeys : allDistinct (V.phases.map (·.1)) = true := by
      rw [allDistinct_iff_nodup, hph, List.map_map]
      have : ((fun (p : Sector × Int) => p.1) ∘ fun s => (s, (-1 : Int))) = id := rfl
      rw [this, List.map_id]
      exact hD.filter _
    unfold Arr.phaseSync
    simp only
    rw [hb]
    conv => rhs; rw [← List.map_id V.blocks]
    apply List.map_congr_left
    intro p hp
    have hs : p.1 ∈ V.sectors := List.mem_map.mpr ⟨p, hp, rfl⟩
    have hg := (KoszulP.phaseFlip_resigns V [0] hnd (allDistinct_iff_nodup.mp hkeys)).get p.1
    rw [if_pos hs] at hg
    have h1 : V.getPhase p.1 = if V.sym.parity (p.1.getD 0 (0, 0)) then -1 else 1 := by
      unfold Arr.getPhase
      rw [hph]
      exact getD_flagged D _ p.1 (hsub _ hs)
    have h2 : KoszulP.flipSign V [0] p.1 = if V.sym.parity (p.1.getD 0 (0, 0)) then -1 else 1 := by
      unfold KoszulP.flipSign
      cases hpar : V.sym.parity (p.1.getD 0 (0, 0)) <;>
        simp only [List.filter_cons, List.filter_nil, hpar] <;> rfl
    have h3 : (V.phaseFlip [0]).getPhase p.1 = 1 := by
      rw [hg, h1, h2]
      cases V.sym.parity (p.1.getD 0 (0, 0)) <;> simp
    have h4 : (alookup (V.phaseFlip [0]).phases p.1 == some (-1)) = false := by
      rw [Lazy.lookup_neg_one_iff]
      show ((V.phaseFlip [0]).getPhase p.1 == -1) = false
      rw [h3]; decide
    simp only [h4, Bool.false_eq_true, if_false, id]

/-- `a` stores a block `fA p` at `sec p`, `b` a block `fB p` at the diagonal sector of the column
    charge of `sec p`, for the items `p` of `l` (rank-2 sectors, distinct, distinct column charges);
    `a` carries a sorted label list and any pending signs, `b` no label and the sign table of a
    right factor.  Then `a @ b` (`FermionicArray.__matmul__`) succeeds, has no pending signs,
    carries `a`'s labels, and its block at `sec p` is `(±fA p) · fB p` with `a`'s pending sign. -/
theorem matmulF_items [Zero R] [Add R] [Mul R] [Neg R] {α : Type} (l : List α) (sec : α → Sector)
    (hlen : ∀ p ∈ l, (sec p).length = 2) (hsec : (l.map sec).Nodup)
    (hcol : (l.map (fun p => colOf (sec p))).Nodup) (fA fB : α → Blk R) (a b : Arr R)
    (ha : a.blocks = l.map (fun p => (sec p, fA p)))
    (hb : b.blocks = l.map (fun p => ([colOf (sec p), colOf (sec p)], fB p)))
    (hand : a.ndim = 2) (hlab : SortedLabels a.oddpos) (hbo : b.oddpos = [])
    (j0 j1 : Index) (hbi : b.indices = [j0, j1]) (D : List Sector) (hD : D.Nodup)
    (hsub : ∀ p ∈ l, [colOf (sec p), colOf (sec p)] ∈ D)
    (hph : b.phases = if j0.dual then
        (D.filter (fun s => b.sym.parity (s.getD 0 (0, 0)))).map (fun s => (s, (-1 : Int)))
      else []) :
    ∃ y, Arr.matmulF a b = .ok y ∧ y.phases = [] ∧ y.oddpos = a.oddpos
      ∧ y.blocks = l.map (fun p =>
          (sec p, (Lazy.syncBlk a (sec p) (fA p)).tensordotK (fB p) [1] [0]))
      ∧ y.sym = a.sym ∧ y.fermi = a.fermi
      ∧ y.charge = a.sym.combine [a.charge, b.charge]
      ∧ y.indices = dropUnused (without a.indices [1] ++ without b.indices [0]) (l.map sec) := by
  have hbsec : b.sectors = l.map (fun p => [colOf (sec p), colOf (sec p)]) := by
    simp [Arr.sectors, hb, List.map_map, Function.comp_def]
  have hbnd : b.sectors.Nodup := by
    rw [hbsec]
    exact nodup_map_diag hcol
  have hb2b : (if j0.dual then b.phaseFlip [0] else b).phaseSync.blocks
      = l.map (fun p => ([colOf (sec p), colOf (sec p)], fB p)) := by
    rw [rightSync_blocks b D j0.dual hD hbnd ?_ hph, hb]
    intro s hs
    rw [hbsec] at hs
    obtain ⟨p, hp, rfl⟩ := List.mem_map.mp hs
    exact hsub p hp
  have ha2b : a.phaseSync.blocks = l.map (fun p => (sec p, Lazy.syncBlk a (sec p) (fA p))) := by
    rw [Lazy.phaseSync_blocks_eq, ha, List.map_map]; rfl
  have hc := tdot_blocks_items l sec hlen hsec hcol (fun p => Lazy.syncBlk a (sec p) (fA p)) fB _ _
    ha2b hb2b
  have hb2o : (if j0.dual then b.phaseFlip [0] else b).phaseSync.oddpos = [] := by
    show (if j0.dual then b.phaseFlip [0] else b).oddpos = []
    split
    · rw [(phaseFlip_fields b [0]).oddpos]; exact hbo
    · exact hbo
  have hb2i : (if j0.dual then b.phaseFlip [0] else b).phaseSync.indices = b.indices := by
    show (if j0.dual then b.phaseFlip [0] else b).indices = b.indices
    split
    · exact (phaseFlip_fields b [0]).indices
    · rfl
  have hb2c : (if j0.dual then b.phaseFlip [0] else b).phaseSync.charge = b.charge := by
    show (if j0.dual then b.phaseFlip [0] else b).charge = b.charge
    split
    · exact (phaseFlip_fields b [0]).charge
    · rfl
  rw [matmulF_eq_22 a b hand j0 j1 hbi,
    resolve_sorted_left _ _ _ hb2o (show SortedLabels a.phaseSync.oddpos from hlab)]
  refine ⟨_, rfl, rfl, rfl, hc, rfl, rfl, ?_, ?_⟩
  · show a.sym.combine [a.charge, _] = _
    rw [hb2c]
  · show dropUnused (without a.indices [1] ++ without _ [0]) _ = _
    rw [hb2i]
    congr 1
    have := congrArg (List.map (·.1)) hc
    rw [List.map_map] at this
    exact this

theorem negLaws_of_ring [Ring R] : NegLaws R where
  neg_zero := neg_zero
  neg_add a b := (neg_add a b).symm
  neg_mul a b := neg_mul a b

theorem syncBlk_matmul_get [Zero R] [Add R] [Mul R] [Neg R] [NegLaws R] (x : Arr R) (s : Sector)
    {a b : Blk R} {m k n : Nat} (ha : a.shape = [m, k]) (hb : b.shape = [k, n]) {i j : Nat}
    (hi : i < m) (hj : j < n) :
    ((Lazy.syncBlk x s a).tensordotK b [1] [0]).get [i, j]
      = sgnI (phOf x.phases s)
          ((List.range k).foldl (fun acc t => acc + a.get [i, t] * b.get [t, j]) 0) := by
  unfold Lazy.syncBlk sgnI
  split
  · rw [tensordotK_matmul_get a.negK b (by rw [negK_shape]; exact ha) hb hi hj]
    have := neg_fold (fun t => a.get [i, t]) (fun t => b.get [t, j]) (List.range k) (0 : R)
    rw [NegLaws.neg_zero] at this
    rw [← this]
    apply foldl_ext'
    intro acc t _
    rw [negK_get NegLaws.neg_zero]
  · exact tensordotK_matmul_get a b ha hb hi hj

theorem elem_items [Zero R] [Neg R] {α : Type} (l : List α) (sec : α → Sector)
    (hsec : (l.map sec).Nodup) (y : Arr R) (T : α → Blk R)
    (hy : y.blocks = l.map (fun p => (sec p, T p))) :
    (∀ p ∈ l, ∀ off, y.elem (sec p) off = sgnI (phOf y.phases (sec p)) ((T p).get off))
    ∧ (∀ s, s ∉ l.map sec → ∀ off, y.elem s off = 0) := by
  have hnd : (y.blocks.map (·.1)).Nodup := by
    rw [hy, List.map_map]; exact hsec
  refine ⟨fun p hp off => ?_, fun s hs off => ?_⟩
  · exact elem_sgn hnd (by rw [hy]; exact List.mem_map.mpr ⟨p, hp, rfl⟩) off
  · have hl : alookup y.blocks s = none := by
      rw [alookup_eq_none_iff, hy, List.map_map]; exact hs
    simp only [Arr.elem, hl]

/-- **bridge.**  The value view of the fermionic `a @ b` of aligned factors (block shapes
    `[m, k]`, `[k, n]`) is the value view of the abelian blockwise product of the same two arrays
    (which keeps `a`'s pending signs lazily): same sectors, same element at every offset of every
    `m × n` box, zero elsewhere. -/
theorem matmulF_items_elem [Zero R] [Add R] [Mul R] [Neg R] [NegLaws R] {α : Type} (l : List α)
    (sec : α → Sector) (hlen : ∀ p ∈ l, (sec p).length = 2) (hsec : (l.map sec).Nodup)
    (hcol : (l.map (fun p => colOf (sec p))).Nodup) (fA fB : α → Blk R) (a b y : Arr R)
    (ha : a.blocks = l.map (fun p => (sec p, fA p)))
    (hb : b.blocks = l.map (fun p => ([colOf (sec p), colOf (sec p)], fB p)))
    (hyp : y.phases = [])
    (hyb : y.blocks = l.map (fun p =>
          (sec p, (Lazy.syncBlk a (sec p) (fA p)).tensordotK (fB p) [1] [0])))
    (dims : α → Nat × Nat × Nat)
    (hsh : ∀ p ∈ l, (fA p).shape = [(dims p).1, (dims p).2.1]
      ∧ (fB p).shape = [(dims p).2.1, (dims p).2.2]) :
    y.sectors = (tensordotBlockwise a b [0] [1] [0] [1]).sectors
    ∧ (∀ p ∈ l, ∀ i j, i < (dims p).1 → j < (dims p).2.2 →
        y.elem (sec p) [i, j] = (tensordotBlockwise a b [0] [1] [0] [1]).elem (sec p) [i, j])
    ∧ (∀ s, s ∉ l.map sec → ∀ off,
        y.elem s off = (tensordotBlockwise a b [0] [1] [0] [1]).elem s off) := by
  have hP := tdot_blocks_items l sec hlen hsec hcol fA fB a b ha hb
  have hPph : (tensordotBlockwise a b [0] [1] [0] [1]).phases = a.phases := rfl
  obtain ⟨y1, y2⟩ := elem_items l sec hsec y _ hyb
  obtain ⟨p1, p2⟩ := elem_items l sec hsec _ _ hP
  refine ⟨by simp [Arr.sectors, hyb, hP, List.map_map, Function.comp_def], ?_, ?_⟩
  · intro p hp i j hi hj
    rw [y1 p hp, p1 p hp, hyp, hPph]
    obtain ⟨s1, s2⟩ := hsh p hp
    rw [syncBlk_matmul_get a (sec p) s1 s2 hi hj, tensordotK_matmul_get (fA p) (fB p) s1 s2 hi hj]
    exact if_neg (show ¬ (1 : Int) = -1 by decide)
  · intro s hs off
    rw [y2 s hs, p2 s hs]

end ReconP
end SymmModel
