/-
  SymmModel.Proofs.Reshape6e — planner totality for merge / squeeze targets: the old shape is a list
  of items in the planner's own reading — `K d` an axis kept, `Sq` a size-one axis without
  counterpart (allowed where the next target dimension is not 1), `M d0 mid dl` a run
  `d0, mid…, dl` merged into one axis (`d0, dl ≥ 2`, inner sizes ≥ 1) — and the target has the kept
  sizes and the products.  The items up to the last one with a target are a greedy segmentation
  (`items_split`), so by `Reshape3.planner_greedy` the planner returns a plan, without unfuse steps
  and without expansions.
-/
import SymmModel.Proofs.Reshape6c
namespace SymmModel.Reshape5
open SymmModel SymmModel.Reshape SymmModel.C07 SymmModel.Reshape3

/-- the old shape in the planner's own reading, item by item (see the head of this file) -/
inductive Item where
  | K (d : Nat)
  | Sq
  | M (d0 : Nat) (mid : List Nat) (dl : Nat)
  deriving Repr, DecidableEq

def Item.shape : Item → List Nat
  | .K d => [d]
  | .Sq => [1]
  | .M d0 mid dl => d0 :: (mid ++ [dl])

def Item.target : Item → List Nat
  | .K d => [d]
  | .Sq => []
  | .M d0 mid dl => [prod (d0 :: (mid ++ [dl]))]

def shapeOf (items : List Item) : List Nat := items.flatMap Item.shape
def targetOf (items : List Item) : List Nat := items.flatMap Item.target

/-- the conditions under which the first loop reads the shape that way: a squeezed axis does not face a target size 1
    (else the `di == dj` branch keeps it), a merged run starts and ends with sizes ≥ 2 (inner sizes ≥ 1) -/
def ItemsOk : List Item → Prop
  | [] => True
  | .K _ :: r => ItemsOk r
  | .Sq :: r => (targetOf r).head? ≠ some 1 ∧ ItemsOk r
  | .M d0 mid dl :: r => 2 ≤ d0 ∧ 2 ≤ dl ∧ (∀ d ∈ mid, 1 ≤ d) ∧ ItemsOk r

instance : DecidablePred ItemsOk := fun items => by
  induction items with
  | nil => exact isTrue trivial
  | cons a r ih =>
    cases a <;> (unfold ItemsOk; infer_instance)

@[simp] theorem shapeOf_nil : shapeOf [] = [] := rfl
@[simp] theorem targetOf_nil : targetOf [] = [] := rfl
@[simp] theorem shapeOf_append (a b : List Item) : shapeOf (a ++ b) = shapeOf a ++ shapeOf b := by simp [shapeOf]
@[simp] theorem targetOf_append (a b : List Item) : targetOf (a ++ b) = targetOf a ++ targetOf b := by
  simp [targetOf]
@[simp] theorem shapeOf_cons (a : Item) (b : List Item) : shapeOf (a :: b) = a.shape ++ shapeOf b := by
  simp [shapeOf]
@[simp] theorem targetOf_cons (a : Item) (b : List Item) : targetOf (a :: b) = a.target ++ targetOf b := by
  simp [targetOf]

/-- the segment of an item (`n` = the key of a merged run) -/
def Item.seg (n : Nat) : Item → Seg
  | .K d => Seg.o (d, none)
  | .Sq => Seg.s (1, none)
  | .M d0 mid dl => Seg.g n ((d0 :: (mid ++ [dl])).map fun d => (d, none))

/-- the segments of an item list, merged runs keyed `n`, `n+1`, … as the first loop keys them -/
def segsI : Nat → List Item → List Seg
  | _, [] => []
  | n, .M d0 mid dl :: r => (Item.M d0 mid dl).seg n :: segsI (n + 1) r
  | n, a :: r => a.seg n :: segsI n r

theorem segsI_cons (n : Nat) (a : Item) (r : List Item) :
    ∃ n', segsI n (a :: r) = a.seg n :: segsI n' r := by
  cases a <;> exact ⟨_, rfl⟩

theorem flatE_segsI : ∀ (items : List Item) (n : Nat),
    flatE (segsI n items) = (shapeOf items).map fun d => ((d, none) : E)
  | [], _ => rfl
  | a :: r, n => by
    obtain ⟨n', h⟩ := segsI_cons n a r
    rw [h, flatE_cons, flatE_segsI r, shapeOf_cons, List.map_append]
    cases a <;> rfl

theorem flatA_segsI : ∀ (items : List Item) (n : Nat), flatA (segsI n items) = targetOf items
  | [], _ => rfl
  | a :: r, n => by
    obtain ⟨n', h⟩ := segsI_cons n a r
    rw [h, flatA_cons, flatA_segsI r, targetOf_cons]
    cases a <;> simp [Item.seg, Item.target, Seg.outA, Seg.outK, SymShape.sizes, Function.comp_def]

theorem keyed_segsI : ∀ (items : List Item) (nu n : Nat), Keyed nu n (segsI n items)
  | [], _, _ => trivial
  | .K _ :: r, nu, n => .cons_o (keyed_segsI r nu n)
  | .Sq :: r, nu, n => .cons_s (keyed_segsI r nu n)
  | .M _ _ _ :: r, nu, n => .cons_g (keyed_segsI r nu _)

theorem mem_segsI : ∀ (items : List Item) (n : Nat) (a : Seg), a ∈ segsI n items →
    ∃ it n', it ∈ items ∧ a = it.seg n'
  | [], _, _, h => by simp [segsI] at h
  | it :: r, n, a, h => by
    obtain ⟨n', hc⟩ := segsI_cons n it r
    rw [hc] at h
    rcases List.mem_cons.mp h with rfl | h
    · exact ⟨it, n, by simp, rfl⟩
    · obtain ⟨it', n'', hm, ha⟩ := mem_segsI r n' a h
      exact ⟨it', n'', by simp [hm], ha⟩

theorem segsI_noU (items : List Item) (n k d : Nat) (subs : List Nat) : Seg.u k d subs ∉ segsI n items := by
  intro h
  obtain ⟨it, n', _, ha⟩ := mem_segsI items n _ h
  cases it <;> cases ha

/-- an item with a target is an axis to squeeze into -/
theorem segsI_any : ∀ (items : List Item) (n : Nat), targetOf items ≠ [] → (segsI n items).any Seg.isOG = true
  | [], _, h => (h rfl).elim
  | .K _ :: _, _, _ => rfl
  | .M _ _ _ :: _, _, _ => rfl
  | .Sq :: r, n, h => by simpa [segsI, Item.seg, Seg.isOG] using segsI_any r n (by simpa [Item.target] using h)

theorem targetOf_replicate_Sq : ∀ m : Nat, targetOf (List.replicate m Item.Sq) = []
  | 0 => rfl
  | m + 1 => by simp [List.replicate_succ, Item.target, targetOf_replicate_Sq m]

theorem shapeOf_replicate_Sq : ∀ m : Nat, shapeOf (List.replicate m Item.Sq) = List.replicate m 1
  | 0 => rfl
  | m + 1 => by simp [List.replicate_succ, Item.shape, shapeOf_replicate_Sq m]

theorem items_split : ∀ items : List Item, ItemsOk items →
    ∃ front m, items = front ++ List.replicate m Item.Sq ∧ (targetOf items = [] → front = [])
      ∧ ∀ n, Greedy (segsI n front)
  | [], _ => ⟨[], 0, rfl, fun _ => rfl, fun _ => trivial⟩
  | a :: r, hok => by
    have hokr : ItemsOk r := by
      cases a with
      | K d => exact hok
      | Sq => exact hok.2
      | M d0 mid dl => exact hok.2.2.2
    obtain ⟨front, m, rfl, hemp, hgr⟩ := items_split r hokr
    have htr : targetOf (front ++ List.replicate m Item.Sq) = targetOf front := by
      simp [targetOf_replicate_Sq]
    by_cases hsq : a = Item.Sq ∧ front = []
    · obtain ⟨rfl, rfl⟩ := hsq
      exact ⟨[], m + 1, rfl, fun _ => rfl, fun _ => trivial⟩
    · refine ⟨a :: front, m, rfl, ?_, fun n => ?_⟩
      · intro h
        rw [targetOf_cons, htr] at h
        cases a with
        | K d => simp [Item.target] at h
        | M d0 mid dl => simp [Item.target] at h
        | Sq => exact absurd ⟨rfl, hemp (by simpa [Item.target, htr] using h)⟩ hsq
      · cases a with
        | K d => exact .cons_o rfl (hgr n)
        | M d0 mid dl =>
          obtain ⟨hd0, hdl, hmid, _⟩ := hok
          have := Greedy.cons_g (k := n) (e0 := (d0, none)) (el := (dl, none)) (mid := mid.map fun d => (d, none))
            hd0 (fun e he => by obtain ⟨d, hd, rfl⟩ := List.mem_map.mp he; exact hmid d hd) hdl rfl (hgr (n + 1))
          simpa [segsI, Item.seg] using this
        | Sq =>
          have hh := hok.1
          rw [htr] at hh
          cases hT : targetOf front with
          | nil => exact absurd ⟨rfl, hemp (by rw [htr, hT])⟩ hsq
          | cons dj T' =>
            exact .cons_s rfl (by rw [flatA_segsI]; exact hT) (by rw [hT] at hh; simpa using hh) rfl (hgr n)

theorem planner_items_plan (items : List Item) (hok : ItemsOk items) (hne : targetOf items ≠ []) :
    ∃ S3 : List Seg, OG S3 ∧ GTwo S3 ∧ flatE S3 = (shapeOf items).map (fun d => ((d, none) : E))
      ∧ flatK S3 = targetOf items
      ∧ calcReshapeArgs (shapeOf items) (targetOf items) (nones (shapeOf items))
          = .ok ([], callsOf 0 [] S3, []) := by
  obtain ⟨front, m, rfl, hemp, hgr⟩ := items_split items hok
  have h := (planner_greedy (segsI 0 front) (List.replicate m (1, none)) (hgr 0) (keyed_segsI front 0 0)).2
  have hsh : SymShape.sizes (flatE (segsI 0 front) ++ List.replicate m (1, none))
      = shapeOf (front ++ List.replicate m Item.Sq) := by
    simp [flatE_segsI, SymShape.sizes, shapeOf_replicate_Sq, Function.comp_def]
  have hsu : SymShape.subs (flatE (segsI 0 front) ++ List.replicate m (1, none))
      = nones (shapeOf (front ++ List.replicate m Item.Sq)) := by
    simp [flatE_segsI, SymShape.subs, nones, shapeOf_replicate_Sq, Function.comp_def]
  rw [hsh, hsu, flatA_segsI] at h
  simp only [targetOf_append, targetOf_replicate_Sq, List.append_nil] at hne ⊢
  have hnu := segsI_noU front 0
  have hany := segsI_any front 0 hne
  simp only [unf_id hnu, unfAxes_noU 0 hnu, List.any_append, hany, Bool.true_or,
    Bool.not_true, Bool.and_false, Bool.false_eq_true, if_false] at h
  -- the segments before the squeeze phase: "o", "s" of size one, "g" of at least two axes
  obtain ⟨L, hL⟩ : ∃ L, L = segsI 0 front ++ (List.replicate m ((1, none) : E)).map Seg.s := ⟨_, rfl⟩
  have hmem : ∀ a ∈ L, (∃ it n', a = Item.seg n' it) ∨ a = Seg.s (1, none) := by
    intro a ha
    rw [hL] at ha
    rcases List.mem_append.mp ha with ha | ha
    · obtain ⟨it, n', _, rfl⟩ := mem_segsI front 0 a ha; exact Or.inl ⟨it, n', rfl⟩
    · obtain ⟨e, he, rfl⟩ := List.mem_map.mp ha; rw [(List.mem_replicate.mp he).2]; exact Or.inr rfl
  have hO : OSG L := fun a ha => by
    rcases hmem a ha with ⟨it, n', rfl⟩ | rfl
    · cases it <;> rfl
    · rfl
  have hne' : ∃ a ∈ L, a.isOG = true := by
    obtain ⟨a, ha, hog⟩ := List.any_eq_true.mp hany
    exact ⟨a, by rw [hL]; simp [ha], hog⟩
  have h1 : SOne L := fun e he => by
    rcases hmem _ he with ⟨it, n', hit⟩ | hit
    · cases it <;> cases hit; rfl
    · cases hit; rfl
  have h2 : GTwo L := fun k es he => by
    rcases hmem _ he with ⟨it, n', hit⟩ | hit
    · cases it <;> cases hit; simp
    · cases hit
  have hnx : ∀ a ∈ L, a.isX = false := fun a ha => by have := hO a ha; cases a <;> simp_all [Seg.isOSG, Seg.isX]
  have hk := absorbS_keeps (gLens (segsI 0 front)) hO hne'
  rw [← hL] at h
  refine ⟨_, absorbS_og _ hO hne', hk.two h2, ?_, ?_, h⟩
  · rw [hk.flatE, hL, flatE_append, flatE_map_s, flatE_segsI]; simp [shapeOf_replicate_Sq]
  · rw [(hk.flatK h1).1, ← flatA_eq_flatK hnx, hL, flatA_append, flatA_map_s, flatA_segsI, List.append_nil]

theorem planner_items_total (items : List Item) (hok : ItemsOk items) (hne : targetOf items ≠ []) :
    ∃ t, calcReshapeArgs (shapeOf items) (targetOf items) (nones (shapeOf items)) = .ok t
      ∧ t.1 = [] ∧ t.2.2 = [] := by
  obtain ⟨S3, _, _, _, _, h⟩ := planner_items_plan items hok hne
  exact ⟨_, h, rfl, rfl⟩

theorem prod_items (items : List Item) : prod (shapeOf items) = prod (targetOf items) := by
  induction items with
  | nil => rfl
  | cons a r ih =>
    rw [shapeOf_cons, targetOf_cons, prod_append, prod_append, ih]
    cases a <;> simp [Item.shape, Item.target, prod]

end SymmModel.Reshape5
