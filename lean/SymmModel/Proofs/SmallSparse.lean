/-
  SymmModel.Proofs.SmallSparse — for `Props/C08h` (C08).  `Arr.item` is `itemCore`, what `BlockBase.item`
  does to a block dict, after `FermionicArray.item` has synced the pending signs; on one one-entry block
  it is the value view at the all-zero offset.  For the converse of `C08.allclose_toDense`: equal dense
  forms give value views that agree on every box of the index tables (`elem_inBox_of_toDense`), and
  value views that agree there agree at every address (`elem_eq_of_inBox`).
-/
import SymmModel.Proofs.SparseLemmas
import SymmModel.Proofs.Dense3b

namespace SymmModel.SmallSparse
open SymmModel Arr SparseP
set_option linter.unusedSectionVars false
set_option linter.unusedSimpArgs false

section blk
variable {R : Type} [Zero R]

theorem ravel_zeros (s : List Nat) : ravel s (List.replicate s.length 0) = 0 := by
  induction s with
  | nil => rfl
  | cons d ds ih => simp [List.replicate_succ, ravel, ih]

theorem inBox_zeros (s : List Nat) (h : prod s = 1) : inBox s (List.replicate s.length 0) = true := by
  induction s with
  | nil => rfl
  | cons d ds ih =>
    simp only [prod] at h
    have h1 : d = 1 := Nat.eq_one_of_mul_eq_one_right h
    have h2 : prod ds = 1 := Nat.eq_one_of_mul_eq_one_left h
    simp [List.replicate_succ, inBox, h1, ih h2]

theorem get_zeros_off (b : Blk R) {v : R} (h : b.data.toList = [v]) :
    b.get (List.replicate b.shape.length 0) = v := by
  obtain ⟨s, d⟩ := b
  obtain ⟨l⟩ := d
  simp only at h
  subst h
  simp [Blk.get, ravel_zeros]

theorem toList_singleton_of_size {α : Type} (d : Array α) (h : d.size = 1) : ∃ v, d.toList = [v] := by
  obtain ⟨l⟩ := d
  match l, h with
  | [v], _ => exact ⟨v, rfl⟩

end blk

section item
variable {R : Type}

/-- the tuple-unpacking and `array.item()` of `BlockBase.item` on a block dict -/
def itemCore (bl : List (Sector × Blk R)) : Except Err R :=
  match bl with
  | [(_, b)] =>
    match b.data.toList with
    | [v] => .ok v
    | _ => .error Err.value
  | _ => .error Err.value

theorem item_eq_core [Neg R] (a : Arr R) :
    a.item = itemCore (if a.fermi && !a.phases.isEmpty then a.phaseSync else a).blocks := rfl

theorem itemCore_single {s : Sector} {b : Blk R} {v : R} (h : b.data.toList = [v]) :
    itemCore [(s, b)] = .ok v := by
  simp [itemCore, h]

theorem itemCore_ok_iff (bl : List (Sector × Blk R)) (v : R) :
    itemCore bl = .ok v ↔ ∃ s b, bl = [(s, b)] ∧ b.data.toList = [v] := by
  constructor
  · intro h
    unfold itemCore at h
    split at h
    next s b =>
      split at h
      next w hw => cases h; exact ⟨s, b, rfl, hw⟩
      next => cases h
    next => cases h
  · rintro ⟨s, b, rfl, hv⟩
    exact itemCore_single hv

theorem itemCore_error (bl : List (Sector × Blk R)) (e : Err) (h : itemCore bl = .error e) :
    e = Err.value := by
  unfold itemCore at h
  split at h
  next =>
    split at h
    next => cases h
    next => cases h; rfl
  next => cases h; rfl

variable [Zero R] [Neg R] [Lazy.LawfulNeg R]

theorem itemCore_eq_elem (x : Arr R) (hp : x.phases = []) (s : Sector) (b : Blk R)
    (hb : x.blocks = [(s, b)]) (hsz : b.data.size = 1) :
    itemCore x.blocks = .ok (x.elem s (List.replicate b.shape.length 0)) := by
  obtain ⟨v, hv⟩ := toList_singleton_of_size b.data hsz
  rw [hb, itemCore_single hv, Arr.elem_of_phases_nil hp, hb]
  simp [alookup, get_zeros_off b hv]

/-- the array `FermionicArray.item` reads, `self.phase_sync() if self.phases else self` -/
theorem item_source_blocks (a : Arr R) :
    (if a.fermi && !a.phases.isEmpty then a.phaseSync else a).blocks
      = a.blocks.map (fun p => (p.1,
          if a.fermi && !a.phases.isEmpty then Lazy.syncBlk a p.1 p.2 else p.2)) := by
  split
  · rw [Lazy.phaseSync_blocks_eq]
  · simp

end item

section close
variable {R : Type} [Zero R] [BEq R] [LawfulBEq R] [Neg R]

theorem secClose_of_inBox {a b : Arr R} (hpa : a.phases = []) (hpb : b.phases = [])
    {idx : List Index} (hsa : Shaped idx a.blocks) (hsb : Shaped idx b.blocks) (s : Sector)
    (h : ∀ shp off, blockShape? idx s = some shp → inBox shp off = true → a.elem s off = b.elem s off) :
    secClose a b s = true := by
  unfold secClose
  simp only [Arr.elem_of_phases_nil hpa, Arr.elem_of_phases_nil hpb] at h
  cases hx : alookup a.blocks s with
  | none =>
    cases hy : alookup b.blocks s with
    | none => rfl
    | some y =>
      have hy' := hsb _ (alookup_some_mem hy)
      rw [hx, hy] at h
      exact isZero_of_get hy'.2 (fun i hi => (h _ i hy'.1 hi).symm)
  | some x =>
    have hx' := hsa _ (alookup_some_mem hx)
    cases hy : alookup b.blocks s with
    | none =>
      rw [hx, hy] at h
      exact isZero_of_get hx'.2 (fun i hi => h _ i hx'.1 hi)
    | some y =>
      have hy' := hsb _ (alookup_some_mem hy)
      rw [hx, hy] at h
      simp only
      rw [blkClose_iff]
      have hsh : x.shape = y.shape := Option.some.inj (hx'.1.symm.trans hy'.1)
      exact blk_ext hx'.2 hy'.2 hsh (fun off ho => h _ off hx'.1 ho)

/-- pending signs allowed: both sides are synced first, which keeps shapes and value views.  The route
    is `allcloseA`: in-box agreement makes the two blocks of a sector equal, or all-zero opposite an
    absent one, which also settles the offsets outside the box, where `Blk.get` may still read data -/
theorem elem_eq_of_inBox [Lazy.LawfulNeg R] {a b : Arr R} {idx : List Index}
    (hsa : Shaped idx a.blocks) (hsb : Shaped idx b.blocks)
    (h : ∀ s shp off, blockShape? idx s = some shp → inBox shp off = true → a.elem s off = b.elem s off) :
    ∀ s off, a.elem s off = b.elem s off := by
  have h1 : allcloseA a.phaseSync b.phaseSync = true :=
    (allcloseA_iff_sec _ _).mpr (fun s =>
      secClose_of_inBox (Lazy.phaseSync_phases a) (Lazy.phaseSync_phases b)
        (shaped_phaseSync hsa) (shaped_phaseSync hsb) s
        (fun shp off hs ho => by rw [Lazy.phaseSync_elem, Lazy.phaseSync_elem]; exact h s shp off hs ho))
  have h2 := (allcloseA_iff_elem (Lazy.phaseSync_phases a) (Lazy.phaseSync_phases b)
    (shaped_phaseSync hsa) (shaped_phaseSync hsb)).mp h1
  intro s off
  have := h2 s off
  rwa [Lazy.phaseSync_elem, Lazy.phaseSync_elem] at this

end close

section dense
variable {R : Type} [Zero R] [Neg R]

theorem elem_inBox_of_toDense {a b : Arr R} (hnd : ∀ ix ∈ a.indices, (ix.cm.map (·.1)).Nodup)
    (hi : a.indices = b.indices) (hne : a.indices.any (fun ix => ix.cm.isEmpty) = false)
    (hd : a.toDenseA = b.toDenseA) :
    ∀ s shp off, blockShape? a.indices s = some shp → inBox shp off = true →
      a.elem s off = b.elem s off := by
  intro s shp off hs ho
  obtain ⟨p, hp, hl⟩ := locateAll_surj hnd hs ho
  rw [Arr.toDenseA_eq a false hne, Arr.toDenseA_eq b false (hi ▸ hne)] at hd
  have hd' := Except.ok.inj hd
  have hsh : b.shape = a.shape := by unfold Arr.shape; rw [hi]
  rw [hsh, ← hi] at hd'
  have hg := congrArg (fun d => d.get p) hd'
  have hp' : inBox a.shape p = true := hp
  rw [ofFn_get _ _ hp', ofFn_get _ _ hp', hl] at hg
  simpa using hg

theorem forall₂_exists {α β : Type} {P : α → β → Prop} {l : List α} {m : List β}
    (h : List.Forall₂ P l m) {y : β} (hy : y ∈ m) : ∃ x, P x y := by
  induction h with
  | nil => cases hy
  | cons hxy _ ih =>
    rcases List.mem_cons.mp hy with rfl | hy
    · exact ⟨_, hxy⟩
    · exact ih hy

theorem blocks_nil_of_empty_cm {a : Arr R} (g : Good a)
    (he : a.indices.any (fun ix => ix.cm.isEmpty) = true) : a.blocks = [] := by
  cases hb : a.blocks with
  | nil => rfl
  | cons p bl =>
    exfalso
    obtain ⟨_, _, h3, _⟩ := g.stored p (by rw [hb]; exact List.mem_cons_self)
    obtain ⟨ix, hix, hemp⟩ := List.any_eq_true.mp he
    obtain ⟨c, hc⟩ := forall₂_exists (forall₂_of_blockShape? h3) hix
    have : ix.cm = [] := by simpa using hemp
    simp [Index.charges, this] at hc

end dense

end SymmModel.SmallSparse
