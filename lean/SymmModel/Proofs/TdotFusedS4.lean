/-
  SymmModel.Proofs.TdotFusedS4 — S7 for fused / auto mode: the table frames of the second-level
  calls on a fused / auto intermediate result are prunings of the frame of the three operands'
  free legs; hence an address of the original operands' tables (`Assoc2P.FreeAddr`) lies in the
  own box of every block the final result stores at that key.  The four calls of the two routes:
  first level by `call_w` (fused / auto beside blockwise), second level by `Net4P.pad_call` (a call
  on zero-padded operands), read entry by entry (`Pad.reading`).  Namespace `SymmModel.TdotP`.
-/
import SymmModel.Proofs.TdotChain1

namespace SymmModel
namespace TdotP
open GradedP RoutesP AssocP Assoc2P
variable {R : Type}

theorem blockShape?_split {X Y : List Index} :
    ∀ {sx sy : Sector} {shp : List Nat}, sx.length = X.length →
      Arr.blockShape? (X ++ Y) (sx ++ sy) = some shp →
      ∃ p q, shp = p ++ q ∧ Arr.blockShape? X sx = some p ∧ Arr.blockShape? Y sy = some q :=
  fun hl h => blockShape?_append_inv hl.symm h

section frames
variable [AddMonoid R] [Mul R] [Neg R] [SignRing R]
variable {A B C ABm BCm : Arr R} {xa1 xa3 xb1 xb2 xc2 xc3 : List Nat}

theorem frame_left (I : InterW A B xa1 xb1 ABm) (T : Tri A B C xa1 xa3 xb1 xb2 xc2 xc3) :
    List.Forall₂ SizeLe
      (without ABm.indices (Assoc2P.axesAB A.ndim B.ndim xa1 xa3 xb1 xb2) ++ without C.indices (xc3 ++ xc2))
      (permuted A.indices (freeAxes A.ndim (xa1 ++ xa3)) ++ (permuted B.indices (freeAxes B.ndim (xb1 ++ xb2))
        ++ permuted C.indices (freeAxes C.ndim (xc2 ++ xc3)))) := by
  have e5 : ABm.indices.length = ABm.ndim := rfl
  have e6 : A.indices.length = A.ndim := rfl
  have e7 : B.indices.length = B.ndim := rfl
  have e8 : C.indices.length = C.ndim := rfl
  have hfree : ∀ i ∈ freeAxes ABm.ndim (Assoc2P.axesAB A.ndim B.ndim xa1 xa3 xb1 xb2),
      i < ABm.indices.length := fun i hi => (mem_freeAxes.mp hi).1
  have h1 := forall₂_permuted I.frame (freeAxes ABm.ndim (Assoc2P.axesAB A.ndim B.ndim xa1 xa3 xb1 xb2))
  rw [without_eq_permuted_freeAxes A.indices, without_eq_permuted_freeAxes B.indices, e6, e7, I.ndim,
    readAB_free T.mA T.mB A.indices B.indices rfl rfl, ← I.ndim] at h1
  rw [without_eq_permuted_freeAxes ABm.indices, e5, without_eq_permuted_freeAxes C.indices, e8,
    freeM_comm C.ndim xc3 xc2, ← List.append_assoc]
  exact forall₂_append h1 (forall₂_refl SizeLe.refl _)

theorem frame_right (I : InterW B C xb2 xc2 BCm) (T : Tri A B C xa1 xa3 xb1 xb2 xc2 xc3) :
    List.Forall₂ SizeLe
      (without A.indices (xa1 ++ xa3) ++ without BCm.indices (Assoc2P.axesBC B.ndim C.ndim xb1 xb2 xc2 xc3))
      (permuted A.indices (freeAxes A.ndim (xa1 ++ xa3)) ++ (permuted B.indices (freeAxes B.ndim (xb1 ++ xb2))
        ++ permuted C.indices (freeAxes C.ndim (xc2 ++ xc3)))) := by
  have e5 : BCm.indices.length = BCm.ndim := rfl
  have e6 : A.indices.length = A.ndim := rfl
  have e7 : B.indices.length = B.ndim := rfl
  have e8 : C.indices.length = C.ndim := rfl
  have hfree : ∀ i ∈ freeAxes BCm.ndim (Assoc2P.axesBC B.ndim C.ndim xb1 xb2 xc2 xc3),
      i < BCm.indices.length := fun i hi => (mem_freeAxes.mp hi).1
  have h1 := forall₂_permuted I.frame (freeAxes BCm.ndim (Assoc2P.axesBC B.ndim C.ndim xb1 xb2 xc2 xc3))
  rw [without_eq_permuted_freeAxes B.indices, without_eq_permuted_freeAxes C.indices, e7, e8, I.ndim,
    readBC_free T.mB T.mC B.indices C.indices rfl rfl, ← I.ndim] at h1
  rw [without_eq_permuted_freeAxes BCm.indices, e5, without_eq_permuted_freeAxes A.indices, e6]
  exact forall₂_append (forall₂_refl SizeLe.refl _) h1

end frames

section addr
variable {A B C : Arr R} {xa1 xa3 xb1 xb2 xc2 xc3 : List Nat}

theorem freeAddr_inBox {LA LM LC : Sector} {oA oM oC : List Nat}
    (fa : FreeAddr A B C xa1 xa3 xb1 xb2 xc2 xc3 LA LM LC oA oM oC) {shp : List Nat}
    (h : Arr.blockShape? (permuted A.indices (freeAxes A.ndim (xa1 ++ xa3))
      ++ (permuted B.indices (freeAxes B.ndim (xb1 ++ xb2))
        ++ permuted C.indices (freeAxes C.ndim (xc2 ++ xc3)))) (LA ++ LM ++ LC) = some shp) :
    inBox shp (oA ++ oM ++ oC) = true := by
  have hlA : LA.length = (permuted A.indices (freeAxes A.ndim (xa1 ++ xa3))).length := by
    rw [fa.lA]; exact (permuted_length _ _ (fun x hx => (mem_freeAxes.mp hx).1)).symm
  have hlM : LM.length = (permuted B.indices (freeAxes B.ndim (xb1 ++ xb2))).length := by
    rw [fa.lM]; exact (permuted_length _ _ (fun x hx => (mem_freeAxes.mp hx).1)).symm
  rw [List.append_assoc] at h
  obtain ⟨pA, q, rfl, hA', hq⟩ := blockShape?_split hlA h
  obtain ⟨pM, pC, rfl, hM', hC'⟩ := blockShape?_split hlM hq
  have bA := fa.bA
  have bM := fa.bM
  have bC := fa.bC
  rw [Arr.blockShapeD, hA'] at bA
  rw [Arr.blockShapeD, hM'] at bM
  rw [Arr.blockShapeD, hC'] at bC
  rw [← List.append_assoc]
  exact inBox3 (inBox_length bA) (inBox_length bM) bA bM bC

theorem ownBox_of_freeAddr {tbl : List Index}
    (hfr : List.Forall₂ SizeLe tbl (permuted A.indices (freeAxes A.ndim (xa1 ++ xa3))
      ++ (permuted B.indices (freeAxes B.ndim (xb1 ++ xb2))
        ++ permuted C.indices (freeAxes C.ndim (xc2 ++ xc3)))))
    {LA LM LC : Sector} {oA oM oC : List Nat}
    (fa : FreeAddr A B C xa1 xa3 xb1 xb2 xc2 xc3 LA LM LC oA oM oC) {shp : List Nat}
    (h : Arr.blockShape? tbl (LA ++ LM ++ LC) = some shp) :
    inBox shp (oA ++ oM ++ oC) = true :=
  freeAddr_inBox fa (blockShape?_weaken hfr _ _ h)

theorem triple_shape (hsa : A.shapesOk) (hsb : B.shapesOk) (hsc : C.shapesOk) {s : Sector}
    {t : Sector × Sector × Sector} (ht : IsTriple A B C xa1 xa3 xb1 xb2 xc2 xc3 s t) :
    ∃ shp, Arr.blockShape? (permuted A.indices (freeAxes A.ndim (xa1 ++ xa3))
      ++ (permuted B.indices (freeAxes B.ndim (xb1 ++ xb2))
        ++ permuted C.indices (freeAxes C.ndim (xc2 ++ xc3)))) s = some shp := by
  obtain ⟨sa, sb, sc⟩ := t
  obtain ⟨hA, hB, hC, _, _, _, h3⟩ := ht
  simp only at hA hB hC h3
  obtain ⟨shpA, hA1, _, _, _⟩ := shape_of_mem hsa hA
  obtain ⟨shpB, hB1, _, _, _⟩ := shape_of_mem hsb hB
  obtain ⟨shpC, hC1, _, _, _⟩ := shape_of_mem hsc hC
  have qA := blockShape?_permuted hA1 (freeAxes A.ndim (xa1 ++ xa3)) (fun x hx => (mem_freeAxes.mp hx).1)
  have qB := blockShape?_permuted hB1 (freeAxes B.ndim (xb1 ++ xb2)) (fun x hx => (mem_freeAxes.mp hx).1)
  have qC := blockShape?_permuted hC1 (freeAxes C.ndim (xc2 ++ xc3)) (fun x hx => (mem_freeAxes.mp hx).1)
  refine ⟨permuted shpA (freeAxes A.ndim (xa1 ++ xa3)) ++ (permuted shpB (freeAxes B.ndim (xb1 ++ xb2))
    ++ permuted shpC (freeAxes C.ndim (xc2 ++ xc3))), ?_⟩
  rw [← h3, List.append_assoc]
  exact blockShape?_append qA (blockShape?_append qB qC)

end addr

theorem Pad.reading [Zero R] [Neg R] {cm cb : Arr R} (p : Pad cm cb) :
    (∀ s ∈ cb.sectors, ∀ o, inBox (Arr.blockShapeD cb.indices s) o = true → cm.elem s o = cb.elem s o)
    ∧ (∀ s, s ∉ cb.sectors → ∀ o, (∀ V, alookup cm.blocks s = some V → inBox V.shape o = true) →
        cm.elem s o = 0) := by
  refine ⟨fun s hs o ho => p.elem s (p.sub s hs) o (by rw [p.shape s hs]; exact ho), ?_⟩
  intro s hs o h
  by_cases hm : s ∈ cm.sectors
  · obtain ⟨q, hq, rfl⟩ := List.mem_map.mp hm
    have hbox := h q.2 (alookup_of_mem_nodup p.ndP hq)
    rw [p.elem q.1 hm o (by rw [Arr.blockShapeD, p.shapeP q hq]; exact hbox)]
    exact Arr.elem_of_not_mem hs o
  · exact Arr.elem_of_not_mem hm o

/-- everything that is proved about the two routes in fused / auto mode (`c1b`: the blockwise
    result of route 1, `ABb` its intermediate) -/
structure AssocCore [Zero R] [Add R] [Mul R] [Neg R] (A B C : Arr R) (xa1 xa3 xb1 xb2 xc2 xc3 : List Nat)
    (mode : TdotMode) (ABm BCm c1m c2m ABb c1b : Arr R) : Prop where
  call1 : A.tensordotF B (.pair (xa1.map Int.ofNat) (xb1.map Int.ofNat)) mode = .ok ABm
  call2 : ABm.tensordotF C (.pair ((Assoc2P.axesAB A.ndim B.ndim xa1 xa3 xb1 xb2).map Int.ofNat)
      ((xc3 ++ xc2).map Int.ofNat)) mode = .ok c1m
  call3 : B.tensordotF C (.pair (xb2.map Int.ofNat) (xc2.map Int.ofNat)) mode = .ok BCm
  call4 : A.tensordotF BCm (.pair ((xa1 ++ xa3).map Int.ofNat)
      ((Assoc2P.axesBC B.ndim C.ndim xb1 xb2 xc2 xc3).map Int.ofNat)) mode = .ok c2m
  callb1 : A.tensordotF B (.pair (xa1.map Int.ofNat) (xb1.map Int.ofNat)) .blockwise = .ok ABb
  callb2 : ABb.tensordotF C (.pair ((Assoc2P.axesAB A.ndim B.ndim xa1 xa3 xb1 xb2).map Int.ofNat)
      ((xc3 ++ xc2).map Int.ofNat)) .blockwise = .ok c1b
  oddpos : c2m.oddpos = c1m.oddpos
  charge : c2m.charge = c1m.charge
  sym : c2m.sym = c1m.sym
  fermi : c2m.fermi = c1m.fermi
  oddb : c1m.oddpos = c1b.oddpos
  chargeb : c1m.charge = c1b.charge
  secs : ∀ s ∈ c1b.sectors, s ∈ c1m.sectors ∧ s ∈ c2m.sectors
  stored : ∀ s ∈ c1b.sectors, ∀ o, inBox (Arr.blockShapeD c1b.indices s) o = true →
    c2m.elem s o = c1m.elem s o ∧ c1m.elem s o = c1b.elem s o
  zero1 : ∀ s, s ∉ c1b.sectors → ∀ o, (∀ V, alookup c1m.blocks s = some V → inBox V.shape o = true) →
    c1m.elem s o = 0
  zero2 : ∀ s, s ∉ c1b.sectors → ∀ o, (∀ V, alookup c2m.blocks s = some V → inBox V.shape o = true) →
    c2m.elem s o = 0
  shape1 : ∀ K V, alookup c1m.blocks K = some V →
    Arr.blockShape? (permuted A.indices (freeAxes A.ndim (xa1 ++ xa3))
      ++ (permuted B.indices (freeAxes B.ndim (xb1 ++ xb2))
        ++ permuted C.indices (freeAxes C.ndim (xc2 ++ xc3)))) K = some V.shape
  shape2 : ∀ K V, alookup c2m.blocks K = some V →
    Arr.blockShape? (permuted A.indices (freeAxes A.ndim (xa1 ++ xa3))
      ++ (permuted B.indices (freeAxes B.ndim (xb1 ++ xb2))
        ++ permuted C.indices (freeAxes C.ndim (xc2 ++ xc3)))) K = some V.shape
  idxb : c1b.indices = dropUnused (permuted A.indices (freeAxes A.ndim (xa1 ++ xa3))
      ++ (permuted B.indices (freeAxes B.ndim (xb1 ++ xb2))
        ++ permuted C.indices (freeAxes C.ndim (xc2 ++ xc3)))) c1b.sectors
  secb : ∀ s, s ∈ c1b.sectors ↔ ∃ t, IsTriple A B C xa1 xa3 xb1 xb2 xc2 xc3 s t

theorem assoc_core [AddCommMonoid R] [Mul R] [Neg R] [SignRing R] [AssocLaws R]
    (hz1 : ∀ x : R, 0 * x = 0) (hz2 : ∀ x : R, x * 0 = 0)
    (A B C : Arr R) (xa1 xa3 xb1 xb2 xc2 xc3 : List Nat)
    (hA : A.validB = true) (hB : B.validB = true) (hC : C.validB = true)
    (hfA : A.fermi = true) (hfB : B.fermi = true) (hfC : C.fermi = true)
    (h1 : ValidP.tdotAdmissibleB A B xa1 xb1 = true) (h2 : ValidP.tdotAdmissibleB B C xb2 xc2 = true)
    (h3 : ValidP.contractibleB A C xa3 xc3 = true)
    (hnA : (xa1 ++ xa3).Nodup) (hnB : (xb1 ++ xb2).Nodup) (hnC : (xc2 ++ xc3).Nodup)
    (hltA : ∀ i ∈ xa3, i < A.ndim) (hltC : ∀ i ∈ xc3, i < C.ndim)
    (hL : LabelRoutes A.parity B.parity A.oddpos B.oddpos C.oddpos)
    (mode : TdotMode) (hmode : mode = .fused ∨ mode = .auto) :
    ∃ ABm BCm c1m c2m ABb c1b : Arr R,
      AssocCore A B C xa1 xa3 xb1 xb2 xc2 xc3 mode ABm BCm c1m c2m ABb c1b := by
  obtain ⟨ABb, BCb, c1b, c2b, d1, d2, d3, d4, r1, r2, r3, r4, r5, r6, r7, r8, r9⟩ :=
    tdotF_assoc_tri A B C xa1 xa3 xb1 xb2 xc2 xc3 hA hB hC hfA hfB hfC h1 h2 h3 hnA hnB hnC
      hltA hltC hL
  have hat := elem_eq_of_sector A B C c1b c2b xa1 xa3 xb1 xb2 xc2 xc3
    (Arr.shapesOk_of_validB hA) (Arr.shapesOk_of_validB hB) (Arr.shapesOk_of_validB hC) r8 r5 r6 r9
  have hAB := Adm.of hA hB hfA hfB h1
  have hBC := Adm.of hB hC hfB hfC h2
  have T : Tri A B C xa1 xa3 xb1 xb2 xc2 xc3 :=
    ⟨hAB, hBC,
      Mid.of hnA (by
        intro i hi
        rcases List.mem_append.mp hi with h | h
        · exact hAB.ltA i h
        · exact hltA i h),
      Mid.of hnB (by
        intro i hi
        rcases List.mem_append.mp hi with h | h
        · exact hAB.ltB i h
        · exact hBC.ltA i h),
      Mid.of hnC (by
        intro i hi
        rcases List.mem_append.mp hi with h | h
        · exact hBC.ltB i h
        · exact hltC i h), h3⟩
  have TW : Assoc3P.TriW A B C xa1 xa3 xb1 xb2 xc2 xc3 :=
    ⟨AdmW.ofAdm hAB, AdmW.ofAdm hBC, T.mA, T.mB, T.mC, commonB_of_contractibleB hA T.mA.lt2 h3⟩
  -- first-level calls: fused / auto beside blockwise
  obtain ⟨ABm, e1, pAB, IABm, IABb, oAB, cAB⟩ := call_w hz1 hz2 A B xa1 xb1 TW.hAB mode hmode ABb d1
  obtain ⟨BCm, e3, pBC, IBCm, IBCb, oBC, cBC⟩ := call_w hz1 hz2 B C xb2 xc2 TW.hBC mode hmode BCb d3
  -- second-level calls on the padded intermediates
  obtain ⟨c1m, e2, P1, I1⟩ := Net4P.pad_call hz1 hz2 ⟨pAB, oAB, cAB⟩ (Net4P.PadA.refl hC)
    (admW_left_tri_w IABm TW) (admW_left_tri_w IABb TW) c1b d2 mode
  obtain ⟨c2m, e4, P2, I2⟩ := Net4P.pad_call hz1 hz2 (Net4P.PadA.refl hA) ⟨pBC, oBC, cBC⟩
    (admW_right_tri_w IBCm TW) (admW_right_tri_w IBCb TW) c2b d4 mode
  obtain ⟨lst, lz⟩ := P1.pad.reading
  obtain ⟨mst, mz⟩ := P2.pad.reading
  have lsh : ∀ K V, alookup c1m.blocks K = some V → _ := fun K V hl =>
    blockShape?_weaken I1.frame K _ (Arr.shapesOk_of_validB I1.valid (K, V) (alookup_some_mem hl))
  have msh : ∀ K V, alookup c2m.blocks K = some V → _ := fun K V hl =>
    blockShape?_weaken I2.frame K _ (Arr.shapesOk_of_validB I2.valid (K, V) (alookup_some_mem hl))
  refine ⟨ABm, BCm, c1m, c2m, ABb, c1b, e1, e2, e3, e4, d1, d2,
    by rw [P2.oddpos, P1.oddpos, r1], by rw [P2.charge, P1.charge, r2],
    by rw [P2.pad.sym, P1.pad.sym, r3], by rw [I2.fermi, I1.fermi], P1.oddpos, P1.charge,
    fun s hs => ⟨P1.pad.sub s hs, P2.pad.sub s ((r6 s).mpr hs)⟩, ?_, lz,
    fun s hs o ho => mz s (fun h => hs ((r6 s).mp h)) o ho,
    fun K V hl => blockShape?_weaken (frame_left IABm T) K _ (lsh K V hl),
    fun K V hl => blockShape?_weaken (frame_right IBCm T) K _ (msh K V hl), r8, r5⟩
  intro s hs o ho
  have h1' := lst s hs o ho
  have h2' := mst s ((r6 s).mpr hs) o (by rw [r7]; exact ho)
  exact ⟨by rw [h2', h1']; exact hat s o (fun _ => ho), h1'⟩

end TdotP
end SymmModel
