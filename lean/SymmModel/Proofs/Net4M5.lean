/-
  SymmModel.Proofs.Net4M5 — "several indices at once or one after another": the frame part.
  Contracting the pairs `xa ~ xb` by `tensordotF` and then the remaining pairs by the single-array
  `einsumF` gives the labels, total charge, symmetry and kind of contracting `xa ++ ya ~ xb ++ yb`
  at once, when all three calls succeed.  (The values are NOT compared here.)
-/
import SymmModel.Proofs.TdotChain1
import SymmModel.Proofs.LazyMore
import SymmModel.Proofs.ValidMore2Einsum

namespace SymmModel
namespace Net4P
open TdotP GradedP RoutesP KoszulP AssocP Assoc2P Assoc3P

variable {R : Type}

theorem call_frame [AddCommMonoid R] [Mul R] [Neg R] [SignRing R] {a b c : Arr R} {xa xb : List Nat}
    (W : AdmW a b xa xb) (h : tdM .blockwise a b xa xb = .ok c) :
    ∃ r, OddposP.mergeOddpos a.parity a.oddpos b.oddpos = .ok r ∧ c.oddpos = r.1
      ∧ c.charge = a.sym.combine [a.charge, b.charge] ∧ c.sym = a.sym ∧ c.fermi = a.fermi := by
  obtain ⟨out, ph, C⟩ := Call.of_ok W h
  exact ⟨(out, ph), C.merge, C.oddpos, C.charge, C.sym, by rw [C.fermi, W.fa]⟩

theorem einsumF_frame [Zero R] [Add R] [Neg R] {c e : Arr R} {lhs rhs : List Nat}
    (h : c.einsumF lhs rhs = .ok e) :
    e.oddpos = c.oddpos ∧ e.charge = c.charge ∧ e.sym = c.sym ∧ e.fermi = c.fermi := by
  rw [Lazy.einsumF_eq] at h
  split at h
  · cases h
  · obtain ⟨perm, _, _, rfl⟩ := ValidP.einsumA_ok h
    exact ⟨rfl, rfl, rfl, rfl⟩

theorem two_step_frame [AddCommMonoid R] [Mul R] [Neg R] [SignRing R] {a b c e c' : Arr R}
    {xa xb ya yb lhs rhs : List Nat}
    (W : AdmW a b xa xb) (W' : AdmW a b (xa ++ ya) (xb ++ yb))
    (h1 : tdM .blockwise a b xa xb = .ok c) (h2 : c.einsumF lhs rhs = .ok e)
    (h3 : tdM .blockwise a b (xa ++ ya) (xb ++ yb) = .ok c') :
    e.oddpos = c'.oddpos ∧ e.charge = c'.charge ∧ e.sym = c'.sym ∧ e.fermi = c'.fermi := by
  obtain ⟨r, m, o, ch, s, f⟩ := call_frame W h1
  obtain ⟨r', m', o', ch', s', f'⟩ := call_frame W' h3
  obtain ⟨eo, ec, es, ef⟩ := einsumF_frame h2
  rw [m] at m'
  obtain rfl := Except.ok.inj m'
  exact ⟨by rw [eo, o, o'], by rw [ec, ch, ch'], by rw [es, s, s'], by rw [ef, f, f']⟩

end Net4P
end SymmModel
