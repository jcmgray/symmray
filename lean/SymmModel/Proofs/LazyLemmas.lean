/-
  SymmModel.Proofs.LazyLemmas — lemmas for properties C09 (lazily tracked fermionic signs are
  unobservable) and C10 (involution / adjoint laws of `conj` and `dagger`).
  Namespace `SymmModel.Lazy`.  The layers:

  * Scalars.  The law classes `LawfulNeg`, `LawfulNegConj`, `LawfulMulNeg` (instances `Int`,
    `GRat`) are all the arithmetic the sign bookkeeping uses; `sgnI σ x` multiplies a scalar by
    a sign kept as an integer.
  * The sign table.  `phOf` is the phase function of a table (`Arr.getPhase`, `KoszulP.pget`);
    `PhOk` (distinct keys, values `±1`) is read off that function (`PhOk_iff`).  What a sign
    operation does to the table is `KoszulP.Resigns` (Proofs/Koszul); `SignOk.of_resigns` and
    `phases_of_resigns` turn it into the invariant and the table of the result.
  * The value view `Arr.elem` (stored number times pending sign) of every sign operation, of
    the elementwise maps, of `conj`, `transpose`, `multiply_diagonal`, `dagger`: the `*_elem`
    theorems.
  * Invariants, each a set of clauses of `Arr.validB`: `SignOk` (sectors distinct, `PhOk`),
    `Inv` = `SignOk` + `SecLen`, `Full` = `Inv` + `BlocksWf`, `TrOk` = `Inv` + the guard of
    `transpose`; Proofs/LazyMore adds `StOk`.
  * Observational equality `ObsEq` (same frame, same skeleton, same value view) and the
    canonical form `canon`: observationally equal arrays have EQUAL synchronised copies
    (`Blk.ext_get`, `blocks_ext`).  Hence two kinds of congruence: operations that carry signs
    along are congruences through their `*_elem` theorem (`ObsEq.of_frames`); operations that
    synchronise first return identical results (rewrite with `canon`).
  * The per-operation table: `SOp` (sign operations, `neg`, `conj`, `transpose`, `dagger`) with
    `SOp.apply_inv` and `SOp.apply_congr`, and the program theorems `run_inv`, `run_congr`,
    `run_runSync` by induction over it.
  * C10: `conj ∘ conj`, `dagger = transpose ∘ conj` (`dagger_eq_conj_rev`), `dagger ∘ dagger`.
    The sign algebra there counts the odd charges among the legs selected by a predicate on the
    index (`count_sel`, `count_map`, `count_reverse`, `filter_and_add_not`).
-/
import SymmModel.Model.GRat
import SymmModel.Proofs.SymLemmas
import SymmModel.Proofs.Koszul
import SymmModel.Proofs.SpecTdotF
import SymmModel.Proofs.SpecConj
import SymmModel.Proofs.SpecMulDiag
import Mathlib.Algebra.Order.Ring.Rat

namespace SymmModel.Lazy
open SymmModel
set_option linter.unusedSectionVars false

/-- the two laws of negation the sign bookkeeping relies on -/
class LawfulNeg (R : Type) [Zero R] [Neg R] : Prop where
  neg_neg : ∀ x : R, - - x = x
  neg_zero : -(0 : R) = 0

class LawfulNegConj (R : Type) [Zero R] [Neg R] [Conj R] : Prop extends LawfulNeg R where
  conj_neg : ∀ x : R, Conj.conj (-x) = - Conj.conj x
  conj_conj : ∀ x : R, Conj.conj (Conj.conj x) = x
  conj_zero : Conj.conj (0 : R) = 0

instance : LawfulNeg Int := ⟨Int.neg_neg, Int.neg_zero⟩

scoped instance instConjInt : Conj Int := ⟨id⟩
instance : LawfulNegConj Int := { conj_neg := fun _ => rfl, conj_conj := fun _ => rfl, conj_zero := rfl }

theorem GRat.ext' {a b : GRat} (h1 : a.re = b.re) (h2 : a.im = b.im) : a = b := by
  cases a; cases b; simp_all

instance : LawfulNeg GRat where
  neg_neg x := GRat.ext' (Rat.neg_neg x.re) (Rat.neg_neg x.im)
  neg_zero := by decide

instance : LawfulNegConj GRat where
  conj_neg x := GRat.ext' rfl rfl
  conj_conj x := GRat.ext' rfl (Rat.neg_neg x.im)
  conj_zero := by decide

/-- multiplication of a scalar by a sign `±1` given as an integer (the model keeps signs as
    `Int`s; `R` has no multiplication by integers): `-1` negates, everything else is kept -/
def sgnI {R : Type} [Neg R] (σ : Int) (x : R) : R := if σ = -1 then -x else x

theorem sgnI_eq_applySign {R : Type} [Neg R] : @sgnI R _ = KoszulP.applySign := rfl

section sgn
variable {R : Type} [Zero R] [Neg R] [LawfulNeg R]

@[simp] theorem sgnI_one (x : R) : sgnI 1 x = x := by simp [sgnI]
@[simp] theorem sgnI_neg_one (x : R) : sgnI (-1) x = -x := by simp [sgnI]
theorem sgnI_zero (σ : Int) : sgnI σ (0 : R) = 0 := by
  unfold sgnI; split
  · exact LawfulNeg.neg_zero
  · rfl

theorem sgnI_mul {σ τ : Int} (hσ : σ = 1 ∨ σ = -1) (hτ : τ = 1 ∨ τ = -1) (x : R) :
    sgnI (σ * τ) x = sgnI σ (sgnI τ x) := by
  rw [sgnI_eq_applySign]; exact KoszulP.applySign_mul LawfulNeg.neg_neg hσ hτ x

theorem sgnI_sgnI {σ : Int} (x : R) : sgnI σ (sgnI σ x) = x := by
  unfold sgnI; split
  · exact LawfulNeg.neg_neg x
  · rfl

theorem sgnI_neg {σ : Int} (x : R) : sgnI σ (-x) = - sgnI σ x := by
  unfold sgnI; split <;> rfl
end sgn

theorem sgnI_conj {R : Type} [Zero R] [Neg R] [Conj R] [LawfulNegConj R] (σ : Int) (x : R) :
    Conj.conj (sgnI σ x) = sgnI σ (Conj.conj x) := by
  unfold sgnI; split
  · exact LawfulNegConj.conj_neg x
  · rfl


/-- a sign moves out of a sum (`R` need not be a ring: distributivity of `-` is a hypothesis) -/
theorem sgnI_map_sum {R : Type} [AddMonoid R] [Neg R] [LawfulNeg R]
    (neg_add : ∀ x y : R, -(x + y) = -x + -y) (σ : Int) {α : Type} (f : α → R) (l : List α) :
    (l.map (fun k => sgnI σ (f k))).sum = sgnI σ (l.map f).sum := by
  induction l with
  | nil => simp [sgnI_zero]
  | cons x xs ih =>
    simp only [List.map_cons, List.sum_cons, ih]
    unfold sgnI; split
    · exact (neg_add _ _).symm
    · rfl

/-- the pending sign a table assigns to a sector (`Arr.getPhase` on a raw table) -/
def phOf (ph : List (Sector × Int)) (s : Sector) : Int := (alookup ph s).getD 1

/-- `phOf` is `KoszulP.pget` at the key type `Sector`; the lemmas about the table as a function
    of the key are stated for `pget` -/
theorem phOf_eq_pget : phOf = KoszulP.pget := rfl

/-- a well-formed pending-sign table: distinct keys, values `±1` (part of `Arr.validB`) -/
def PhOk (ph : List (Sector × Int)) : Prop :=
  (akeys ph).Nodup ∧ ∀ p ∈ ph, p.2 = 1 ∨ p.2 = -1

theorem PhOk.nil : PhOk [] := ⟨List.nodup_nil, by simp⟩

theorem PhOk.phOf {ph : List (Sector × Int)} (h : PhOk ph) (s : Sector) :
    phOf ph s = 1 ∨ phOf ph s = -1 := by
  unfold Lazy.phOf
  cases hl : alookup ph s with
  | none => left; rfl
  | some v => exact h.2 _ (alookup_some_mem hl)

theorem lookup_neg_one_iff (ph : List (Sector × Int)) (s : Sector) :
    (alookup ph s == some (-1)) = (phOf ph s == -1) := by
  unfold phOf
  cases alookup ph s with
  | none => decide
  | some v => simp

/-- so the stored values need not be followed through the updates, only the phase function -/
theorem PhOk_iff {ph : List (Sector × Int)} :
    PhOk ph ↔ (akeys ph).Nodup ∧ ∀ s, phOf ph s = 1 ∨ phOf ph s = -1 :=
  ⟨fun h => ⟨h.1, h.phOf⟩, fun h => ⟨h.1, fun p hp => by
    have := h.2 p.1
    unfold phOf at this
    rwa [alookup_of_mem_nodup h.1 (show (p.1, p.2) ∈ ph from hp)] at this⟩⟩


section blk
variable {R : Type} [Zero R]

theorem Blk.get_map (f : R → R) (h0 : f 0 = 0) (b : Blk R) (i : List Nat) :
    (b.map f).get i = f (b.get i) := by
  unfold Blk.get Blk.map
  simp only [Array.getD_eq_getD_getElem?, Array.getElem?_map]
  cases b.data[ravel b.shape i]? with
  | none => simp [h0]
  | some v => simp

theorem Blk.get_negK [Neg R] [LawfulNeg R] (b : Blk R) (i : List Nat) :
    b.negK.get i = - b.get i := Blk.get_map _ LawfulNeg.neg_zero b i

theorem Blk.get_conjK [Neg R] [Conj R] [LawfulNegConj R] (b : Blk R) (i : List Nat) :
    b.conjK.get i = Conj.conj (b.get i) := Blk.get_map _ LawfulNegConj.conj_zero b i

end blk

section elem
variable {R : Type} [Zero R] [Neg R]

/-- the invariants of `Arr.validB` the sign bookkeeping needs: stored sectors are distinct and
    the pending-sign table has distinct keys and values `±1` -/
structure SignOk (a : Arr R) : Prop where
  sectors : a.sectors.Nodup
  phases : PhOk a.phases

theorem SignOk.of_valid {a : Arr R} (h : a.validB = true) (hf : a.fermi = true) : SignOk a :=
  ⟨allDistinct_iff_nodup.mp (Arr.validB_sectors h), allDistinct_iff_nodup.mp (Arr.validB_signs h hf).1,
   fun p hp => ((Arr.validB_signs h hf).2 p hp).2.2⟩

theorem getPhase_eq (a : Arr R) (s : Sector) : a.getPhase s = phOf a.phases s := rfl

theorem elem_eq (a : Arr R) (s : Sector) (off : List Nat) :
    a.elem s off = match alookup a.blocks s with
      | none => 0
      | some b => sgnI (phOf a.phases s) (b.get off) :=
  KoszulP.elem_eq_applySign a s off

theorem mem_sectors_of_lookup {a : Arr R} {s : Sector} {b : Blk R}
    (h : alookup a.blocks s = some b) : s ∈ a.sectors :=
  KoszulP.mem_sectors_of_alookup a s b h

theorem elem_of_phase [LawfulNeg R] {a a' : Arr R} (hb : a'.blocks = a.blocks) (s : Sector)
    {σ : Int} (hσ : σ = 1 ∨ σ = -1) (h0 : PhOk a.phases)
    (hp : s ∈ a.sectors → phOf a'.phases s = σ * phOf a.phases s) (off : List Nat) :
    a'.elem s off = sgnI σ (a.elem s off) := by
  by_cases hm : s ∈ a.sectors
  · exact KoszulP.elem_of_getPhase_mul LawfulNeg.neg_neg a a' hb s hm σ hσ (h0.phOf s)
      (by rw [getPhase_eq, hp hm, Int.mul_comm]; rfl) off
  · rw [Arr.elem_of_not_mem hm, Arr.elem_of_not_mem (a := a') (by unfold Arr.sectors; rw [hb]; exact hm),
      sgnI_zero]

theorem koszul_pm (par : List Bool) (perm : Option (List Nat)) :
    koszul par perm = 1 ∨ koszul par perm = -1 := KoszulP.koszul_cases par perm

theorem mul_pm {p q : Int} (hp : p = 1 ∨ p = -1) (hq : q = 1 ∨ q = -1) : p * q = 1 ∨ p * q = -1 :=
  KoszulP.pm_mul hp hq

theorem SignOk.of_resigns {a a' : Arr R} {g : Sector → Int → Int} (h : KoszulP.Resigns a a' g)
    (ha : SignOk a) (hsec : a'.sectors = a.sectors)
    (hg : ∀ s v, v = 1 ∨ v = -1 → g s v = 1 ∨ g s v = -1) : SignOk a' :=
  ⟨hsec ▸ ha.sectors, PhOk_iff.2 ⟨h.nodup, fun s => by
    rw [← getPhase_eq, h.get s]
    split
    · exact hg s _ (ha.phases.phOf s)
    · exact ha.phases.phOf s⟩⟩

theorem phases_of_resigns {a a' : Arr R} {g : Sector → Int → Int} (h : KoszulP.Resigns a a' g)
    (ha : SignOk a) (hsec : a'.sectors = a.sectors) {σ : Sector → Int}
    (hσ : ∀ s, σ s = 1 ∨ σ s = -1) (hg : ∀ s v, v = 1 ∨ v = -1 → g s v = σ s * v) :
    PhOk a'.phases ∧ ∀ s, phOf a'.phases s
      = if s ∈ a.sectors then σ s * phOf a.phases s else phOf a.phases s :=
  ⟨(SignOk.of_resigns h ha hsec (fun s v hv => hg s v hv ▸ mul_pm (hσ s) hv)).phases, fun s => by
    rw [← getPhase_eq, h.get s, getPhase_eq, hg s _ (ha.phases.phOf s)]⟩

/-- `phase_flip(*axs)` negates a sector iff an odd number of the listed axes carry an odd charge -/
def flipOdd (sym : Sym) (axs : List Nat) (s : Sector) : Bool :=
  (axs.filter (fun ax => sym.parity (s.getD ax (0, 0)))).length % 2 == 1

def flipSign (sym : Sym) (axs : List Nat) (s : Sector) : Int := if flipOdd sym axs s then -1 else 1

/-- the `flipSign` of the C03 statements takes the array, this one its symmetry -/
theorem flipSign_eq {R : Type} (a : Arr R) (axs : List Nat) (s : Sector) :
    KoszulP.flipSign a axs s = flipSign a.sym axs s := rfl

theorem flipSign_pm (sym : Sym) (axs : List Nat) (s : Sector) :
    flipSign sym axs s = 1 ∨ flipSign sym axs s = -1 := by
  unfold flipSign; split
  · right; rfl
  · left; rfl

theorem phaseFlip_blocks (a : Arr R) (axs : List Nat) : (a.phaseFlip axs).blocks = a.blocks := by
  unfold Arr.phaseFlip; split <;> rfl

theorem phaseFlip_phases [LawfulNeg R] (a : Arr R) (axs : List Nat) (h : SignOk a) :
    PhOk (a.phaseFlip axs).phases ∧ ∀ s, phOf (a.phaseFlip axs).phases s
      = if s ∈ a.sectors then flipSign a.sym axs s * phOf a.phases s else phOf a.phases s :=
  phases_of_resigns (KoszulP.phaseFlip_resigns a axs h.sectors h.phases.1) h
    (by unfold Arr.sectors; rw [phaseFlip_blocks]) (flipSign_pm a.sym axs)
    (fun _ _ _ => Int.mul_comm _ _)

theorem phaseFlip_elem [LawfulNeg R] (a : Arr R) (axs : List Nat) (h : SignOk a) (s : Sector)
    (off : List Nat) :
    (a.phaseFlip axs).elem s off = sgnI (flipSign a.sym axs s) (a.elem s off) :=
  elem_of_phase (phaseFlip_blocks a axs) s (flipSign_pm _ _ _) h.phases
    (fun hs => by rw [(phaseFlip_phases a axs h).2 s, if_pos hs]) off

theorem phaseTranspose_phases (a : Arr R) (axes : Option (List Nat)) (h : SignOk a) :
    PhOk (a.phaseTranspose axes).phases ∧ ∀ s, phOf (a.phaseTranspose axes).phases s
      = if s ∈ a.sectors then koszul (a.parities s) axes * phOf a.phases s else phOf a.phases s :=
  phases_of_resigns (KoszulP.phaseTranspose_resigns a axes h.sectors h.phases.1) h rfl
    (fun s => koszul_pm (a.parities s) axes) (fun _ _ _ => Int.mul_comm _ _)

theorem phaseTranspose_elem [LawfulNeg R] (a : Arr R) (axes : Option (List Nat)) (h : SignOk a)
    (s : Sector) (off : List Nat) :
    (a.phaseTranspose axes).elem s off = sgnI (koszul (a.parities s) axes) (a.elem s off) :=
  elem_of_phase (a := a) (a' := a.phaseTranspose axes) rfl s (koszul_pm _ _) h.phases
    (fun hs => by rw [(phaseTranspose_phases a axes h).2 s, if_pos hs]) off

theorem phaseGlobal_phases (a : Arr R) (h : SignOk a) :
    PhOk a.phaseGlobal.phases ∧ ∀ s, phOf a.phaseGlobal.phases s
      = if s ∈ a.sectors then -1 * phOf a.phases s else phOf a.phases s :=
  phases_of_resigns (KoszulP.phaseGlobal_resigns a h.sectors h.phases.1) h rfl
    (fun _ => Or.inr rfl) (by rintro _ v (rfl | rfl) <;> rfl)

theorem phaseGlobal_elem [LawfulNeg R] (a : Arr R) (h : SignOk a) (s : Sector) (off : List Nat) :
    a.phaseGlobal.elem s off = - a.elem s off := by
  have := elem_of_phase (a := a) (a' := a.phaseGlobal) rfl s (σ := -1) (Or.inr rfl) h.phases
    (fun hs => by rw [(phaseGlobal_phases a h).2 s, if_pos hs]) off
  rwa [sgnI_neg_one] at this

theorem phaseSector_phases (a : Arr R) (s0 : Sector) (h : SignOk a) :
    PhOk (a.phaseSector s0).phases ∧ ∀ s, phOf (a.phaseSector s0).phases s
      = (if s0 = s then -1 else 1) * phOf a.phases s := by
  have hs := KoszulP.phaseSector_sets a s0 h.phases.1
  have key : ∀ s, phOf (a.phaseSector s0).phases s = (if s0 = s then -1 else 1) * phOf a.phases s := by
    intro s
    refine (hs.get s).trans ?_
    by_cases hh : s0 = s
    · subst hh
      simp only [beq_self_eq_true, if_true, getPhase_eq]
      rcases h.phases.phOf s0 with e | e <;> simp only [e] <;> rfl
    · have : (s0 == s) = false := by simpa using hh
      simp only [this, Bool.false_eq_true, if_false, hh, Int.one_mul]; rfl
  exact ⟨PhOk_iff.2 ⟨hs.nodup, fun s => by
    rw [key]; exact mul_pm (by split <;> simp) (h.phases.phOf s)⟩, key⟩

theorem phaseSector_elem [LawfulNeg R] (a : Arr R) (s0 : Sector) (h : SignOk a) (s : Sector)
    (off : List Nat) :
    (a.phaseSector s0).elem s off = sgnI (if s0 = s then -1 else 1) (a.elem s off) :=
  elem_of_phase (a := a) (a' := a.phaseSector s0) rfl s (by split <;> simp) h.phases
    (fun _ => (phaseSector_phases a s0 h).2 s) off

/-- what `phase_sync` does to the block stored for sector `s` -/
def syncBlk (a : Arr R) (s : Sector) (b : Blk R) : Blk R :=
  if phOf a.phases s = -1 then b.negK else b

theorem syncBlk_get [LawfulNeg R] (a : Arr R) (s : Sector) (b : Blk R) (off : List Nat) :
    (syncBlk a s b).get off = sgnI (phOf a.phases s) (b.get off) := by
  unfold syncBlk sgnI
  split
  · exact Blk.get_negK b off
  · rfl

theorem syncBlk_shape (a : Arr R) (s : Sector) (b : Blk R) : (syncBlk a s b).shape = b.shape := by
  unfold syncBlk; split <;> rfl

theorem syncBlk_wf (a : Arr R) (s : Sector) (b : Blk R) (h : b.wf = true) : (syncBlk a s b).wf = true := by
  unfold syncBlk; split
  · simpa [Blk.wf, Blk.negK, Blk.map] using h
  · exact h

theorem syncBlk_size (a : Arr R) (s : Sector) (b : Blk R) :
    (syncBlk a s b).data.size = b.data.size := by
  unfold syncBlk; split
  · simp [Blk.negK, Blk.map]
  · rfl

theorem syncBlk_of_nil {a : Arr R} (h : a.phases = []) (s : Sector) (b : Blk R) : syncBlk a s b = b := by
  simp [syncBlk, h, phOf, alookup]

theorem phaseSync_blocks_eq (a : Arr R) :
    a.phaseSync.blocks = a.blocks.map (fun p => (p.1, syncBlk a p.1 p.2)) := by
  unfold Arr.phaseSync
  simp only
  apply List.map_congr_left
  rintro ⟨s, b⟩ _
  simp only [lookup_neg_one_iff, beq_iff_eq, syncBlk]
  split <;> rfl

theorem phaseSync_phases (a : Arr R) : a.phaseSync.phases = [] := rfl

theorem phaseSync_sectors (a : Arr R) : a.phaseSync.sectors = a.sectors := by
  unfold Arr.sectors
  rw [phaseSync_blocks_eq]
  exact akeys_map_val (syncBlk a) a.blocks

theorem phaseSync_elem [LawfulNeg R] (a : Arr R) (s : Sector) (off : List Nat) :
    a.phaseSync.elem s off = a.elem s off := by
  rw [elem_eq, elem_eq, phaseSync_blocks_eq, alookup_map_val (syncBlk a), phaseSync_phases]
  cases alookup a.blocks s with
  | none => rfl
  | some b => exact (sgnI_one _).trans (syncBlk_get a s b off)

theorem phaseSync_idem (a : Arr R) : a.phaseSync.phaseSync = a.phaseSync := by
  have : a.phaseSync.phaseSync.blocks = a.phaseSync.blocks := by
    rw [phaseSync_blocks_eq a.phaseSync]
    simp [syncBlk_of_nil (phaseSync_phases a)]
  unfold Arr.phaseSync at this ⊢
  simp only at this ⊢
  rw [this]

theorem SignOk.of_nil {a : Arr R} (hs : a.sectors.Nodup) (hp : a.phases = []) : SignOk a :=
  ⟨hs, hp ▸ PhOk.nil⟩

theorem SignOk.phaseSync {a : Arr R} (h : SignOk a) : SignOk a.phaseSync :=
  .of_nil (by rw [phaseSync_sectors]; exact h.sectors) rfl

theorem SignOk.phaseFlip [LawfulNeg R] {a : Arr R} (h : SignOk a) (axs : List Nat) :
    SignOk (a.phaseFlip axs) :=
  ⟨by unfold Arr.sectors; rw [phaseFlip_blocks]; exact h.sectors, (phaseFlip_phases a axs h).1⟩

theorem SignOk.phaseTranspose {a : Arr R} (h : SignOk a) (axes : Option (List Nat)) :
    SignOk (a.phaseTranspose axes) :=
  ⟨h.sectors, (phaseTranspose_phases a axes h).1⟩

theorem SignOk.phaseGlobal {a : Arr R} (h : SignOk a) : SignOk a.phaseGlobal :=
  ⟨h.sectors, (phaseGlobal_phases a h).1⟩

theorem SignOk.phaseSector {a : Arr R} (h : SignOk a) (s0 : Sector) : SignOk (a.phaseSector s0) :=
  ⟨h.sectors, (phaseSector_phases a s0 h).1⟩


/-- apply `f` to every stored number (`-x`, `x * c`, `x.conj()` are instances; the driver's
    `neg` is `mapVals (- ·)`, `smul c` is `mapVals (· * c)`) -/
def mapVals (f : R → R) (a : Arr R) : Arr R :=
  { a with blocks := a.blocks.map (fun p => (p.1, p.2.map f)) }

theorem mapVals_elem [LawfulNeg R] (f : R → R) (hf0 : f 0 = 0) (hfn : ∀ x, f (-x) = - f x)
    (a : Arr R) (s : Sector) (off : List Nat) :
    (mapVals f a).elem s off = f (a.elem s off) := by
  rw [elem_eq, elem_eq]
  show (match alookup (a.blocks.map (fun p => (p.1, (fun _ b => Blk.map f b) p.1 p.2))) s with
      | none => 0
      | some b => sgnI (phOf a.phases s) (b.get off)) = _
  rw [alookup_map_val (fun _ b => Blk.map f b)]
  cases alookup a.blocks s with
  | none => exact hf0.symm
  | some b =>
    simp only [Option.map_some, Blk.get_map f hf0]
    unfold sgnI; split
    · exact (hfn _).symm
    · rfl

theorem mapVals_sectors (f : R → R) (a : Arr R) : (mapVals f a).sectors = a.sectors :=
  akeys_map_val (fun _ b => Blk.map f b) a.blocks

theorem SignOk.mapVals {a : Arr R} (h : SignOk a) (f : R → R) : SignOk (mapVals f a) :=
  ⟨by rw [mapVals_sectors]; exact h.sectors, h.phases⟩

theorem negA_eq (a : Arr R) : negA a = mapVals (fun x => -x) a := rfl

theorem negA_elem [LawfulNeg R] (a : Arr R) (s : Sector) (off : List Nat) :
    (negA a).elem s off = - a.elem s off :=
  mapVals_elem (fun x => -x) LawfulNeg.neg_zero (fun _ => rfl) a s off

section conj
variable [Conj R]

/-- the sector sign of `conj` before the global sign: reversal sign (`phase_permutation`) times
    the dual-leg sign (`phase_dual`) -/
def conjSign (a : Arr R) (pp pd : Bool) (s : Sector) : Int :=
  (if pd && dualOdd a s then -1 else 1) * (if pp then koszul (a.parities s) none else 1)

theorem conjSign_pm (a : Arr R) (pp pd : Bool) (s : Sector) :
    conjSign a pp pd s = 1 ∨ conjSign a pp pd s = -1 := by
  unfold conjSign
  apply mul_pm
  · split <;> simp
  · split
    · exact koszul_pm _ _
    · left; rfl

theorem conjPhases_resigns (a : Arr R) (pp pd : Bool)
    (hs : a.sectors.Nodup) (hph : (akeys a.phases).Nodup) :
    KoszulP.Resigns a { a with phases := conjPhases a pp pd } (fun s v => v * conjSign a pp pd s) := by
  unfold conjPhases
  split
  · have := KoszulP.Sets.foldl _ (fun s v => v * conjSign a pp pd s)
      (fun ph s hnd => by
        have key : (if (pd && ((axsConj a).filter (fun ax => (a.parities s).getD ax false)).length % 2 == 1) = true
                    then -(if pp = true then KoszulP.pget ph s * koszul (a.parities s) none
                           else KoszulP.pget ph s)
                    else (if pp = true then KoszulP.pget ph s * koszul (a.parities s) none
                          else KoszulP.pget ph s))
                  = KoszulP.pget ph s * conjSign a pp pd s := by
          unfold conjSign dualOdd
          split <;> split <;> simp [Int.mul_comm]
        rw [← key]
        exact KoszulP.Sets.setPhase hnd s _)
      a.sectors hs a.phases hph
    exact ⟨this.1, this.2⟩
  · rename_i hpp
    have : pp = false ∧ pd = false := by simpa using hpp
    obtain ⟨rfl, rfl⟩ := this
    exact ⟨hph, fun s => by simp [conjSign]⟩

theorem conjPhases_spec (a : Arr R) (pp pd : Bool) (h : SignOk a) :
    PhOk (conjPhases a pp pd) ∧ ∀ s, phOf (conjPhases a pp pd) s
      = if s ∈ a.sectors then conjSign a pp pd s * phOf a.phases s else phOf a.phases s :=
  phases_of_resigns (conjPhases_resigns a pp pd h.sectors h.phases.1) h rfl (conjSign_pm a pp pd)
    (fun _ _ _ => Int.mul_comm _ _)

theorem conjCore_elem [LawfulNegConj R] (x : Arr R) (s : Sector) (off : List Nat) :
    (conjCore x).elem s off = Conj.conj (x.elem s off) :=
  mapVals_elem (a := x) Conj.conj LawfulNegConj.conj_zero LawfulNegConj.conj_neg s off

theorem conjCore_sectors (x : Arr R) : (conjCore x).sectors = x.sectors :=
  mapVals_sectors Conj.conj x

/-- the complete sector sign of `conj` -/
def conjTotSign (a : Arr R) (pp pd : Bool) (s : Sector) : Int :=
  (if conjGlob a pp then -1 else 1) * conjSign a pp pd s

theorem conjTotSign_pm (a : Arr R) (pp pd : Bool) (s : Sector) :
    conjTotSign a pp pd s = 1 ∨ conjTotSign a pp pd s = -1 :=
  mul_pm (by split <;> simp) (conjSign_pm a pp pd s)

theorem SignOk.conjPre {a : Arr R} (h : SignOk a) (pp pd : Bool) :
    SignOk (conjCore { a with phases := conjPhases a pp pd }) :=
  ⟨by rw [conjCore_sectors]; exact h.sectors, (conjPhases_spec a pp pd h).1⟩

theorem SignOk.conjF {a : Arr R} (h : SignOk a) (pp pd : Bool) : SignOk (a.conjF pp pd) := by
  rw [conjF_eq]; split
  · exact (h.conjPre pp pd).phaseGlobal
  · exact h.conjPre pp pd

theorem conjF_elem [LawfulNegConj R] (a : Arr R) (pp pd : Bool) (h : SignOk a) (s : Sector)
    (off : List Nat) :
    (a.conjF pp pd).elem s off = sgnI (conjTotSign a pp pd s) (Conj.conj (a.elem s off)) := by
  have h1 : ({ a with phases := conjPhases a pp pd } : Arr R).elem s off
      = sgnI (conjSign a pp pd s) (a.elem s off) :=
    elem_of_phase (a := a) (a' := { a with phases := conjPhases a pp pd }) rfl s
      (conjSign_pm a pp pd s) h.phases
      (fun hs => by rw [(conjPhases_spec a pp pd h).2 s, if_pos hs]) off
  have h2 : (conjCore { a with phases := conjPhases a pp pd }).elem s off
      = sgnI (conjSign a pp pd s) (Conj.conj (a.elem s off)) := by
    rw [conjCore_elem, h1, sgnI_conj]
  rw [conjF_eq]; unfold conjTotSign
  split
  · rw [phaseGlobal_elem _ (h.conjPre pp pd), h2, sgnI_mul (Or.inr rfl) (conjSign_pm a pp pd s),
      sgnI_neg_one]
  · rw [h2, Int.one_mul]

end conj


/-- the shape skeleton: stored sectors in dict order with the shapes of their blocks -/
def skel (a : Arr R) : List (Sector × List Nat) := a.blocks.map (fun p => (p.1, p.2.shape))

theorem skel_sectors (a : Arr R) : (skel a).map (·.1) = a.sectors := by
  simp [skel, Arr.sectors, List.map_map, Function.comp_def]

/-- **Observational equality**: everything one can read off an array through its value view
    agrees — symmetry, kind, indices, total charge, odd-position labels, the stored sectors (in
    dict order) with their block shapes, and the value `elem s off` (stored number times pending
    sign, zero for a missing sector) at every address.  The pending-sign tables and the stored
    numbers themselves may differ. -/
structure ObsEq (a b : Arr R) : Prop where
  sym : a.sym = b.sym
  fermi : a.fermi = b.fermi
  indices : a.indices = b.indices
  charge : a.charge = b.charge
  oddpos : a.oddpos = b.oddpos
  skel : skel a = skel b
  elem : ∀ s off, a.elem s off = b.elem s off

theorem ObsEq.refl (a : Arr R) : ObsEq a a := ⟨rfl, rfl, rfl, rfl, rfl, rfl, fun _ _ => rfl⟩
theorem ObsEq.symm {a b : Arr R} (h : ObsEq a b) : ObsEq b a :=
  ⟨h.sym.symm, h.fermi.symm, h.indices.symm, h.charge.symm, h.oddpos.symm, h.skel.symm,
   fun s off => (h.elem s off).symm⟩
theorem ObsEq.trans {a b c : Arr R} (h : ObsEq a b) (h' : ObsEq b c) : ObsEq a c :=
  ⟨h.sym.trans h'.sym, h.fermi.trans h'.fermi, h.indices.trans h'.indices,
   h.charge.trans h'.charge, h.oddpos.trans h'.oddpos, h.skel.trans h'.skel,
   fun s off => (h.elem s off).trans (h'.elem s off)⟩

theorem ObsEq.sectors {a b : Arr R} (h : ObsEq a b) : a.sectors = b.sectors := by
  rw [← skel_sectors, ← skel_sectors, h.skel]

theorem ObsEq.parities {a b : Arr R} (h : ObsEq a b) (s : Sector) : a.parities s = b.parities s := by
  unfold Arr.parities; rw [h.sym]

/-- `x` differs from `a` at most in the pending-sign table -/
def SameFrame (x a : Arr R) : Prop :=
  x.sym = a.sym ∧ x.fermi = a.fermi ∧ x.indices = a.indices ∧ x.charge = a.charge
    ∧ x.oddpos = a.oddpos ∧ x.blocks = a.blocks

theorem ObsEq.of_frames {a a' x x' : Arr R} (h : ObsEq a a') (hx : SameFrame x a)
    (hx' : SameFrame x' a') (he : ∀ s off, x.elem s off = x'.elem s off) : ObsEq x x' := by
  obtain ⟨h1, h2, h3, h4, h5, h6⟩ := hx
  obtain ⟨g1, g2, g3, g4, g5, g6⟩ := hx'
  refine ⟨by rw [h1, g1, h.sym], by rw [h2, g2, h.fermi], by rw [h3, g3, h.indices],
    by rw [h4, g4, h.charge], by rw [h5, g5, h.oddpos], ?_, he⟩
  have := h.skel
  unfold Lazy.skel at this ⊢
  rw [h6, g6, this]

theorem phaseFlip_frame (a : Arr R) (axs : List Nat) : SameFrame (a.phaseFlip axs) a := by
  unfold Arr.phaseFlip; split <;> exact ⟨rfl, rfl, rfl, rfl, rfl, rfl⟩

theorem skel_map_val (F : Sector → Blk R → Blk R) (hF : ∀ s b, (F s b).shape = b.shape)
    (l : List (Sector × Blk R)) :
    (l.map (fun p => (p.1, F p.1 p.2))).map (fun p => (p.1, p.2.shape))
      = l.map (fun p => (p.1, p.2.shape)) := by
  simp [List.map_map, Function.comp_def, hF]

theorem phaseSync_obsEq [LawfulNeg R] (a : Arr R) : ObsEq a.phaseSync a := by
  refine ⟨rfl, rfl, rfl, rfl, rfl, ?_, phaseSync_elem a⟩
  unfold skel
  rw [phaseSync_blocks_eq]
  exact skel_map_val (syncBlk a) (syncBlk_shape a) a.blocks

theorem phaseFlip_congr [LawfulNeg R] {a a' : Arr R} (h : ObsEq a a') (ha : SignOk a)
    (ha' : SignOk a') (axs : List Nat) : ObsEq (a.phaseFlip axs) (a'.phaseFlip axs) :=
  h.of_frames (phaseFlip_frame a axs) (phaseFlip_frame a' axs) (fun s off => by
    rw [phaseFlip_elem a axs ha, phaseFlip_elem a' axs ha', h.sym, h.elem])

theorem phaseTranspose_congr [LawfulNeg R] {a a' : Arr R} (h : ObsEq a a') (ha : SignOk a)
    (ha' : SignOk a') (axes : Option (List Nat)) :
    ObsEq (a.phaseTranspose axes) (a'.phaseTranspose axes) :=
  h.of_frames ⟨rfl, rfl, rfl, rfl, rfl, rfl⟩ ⟨rfl, rfl, rfl, rfl, rfl, rfl⟩ (fun s off => by
    rw [phaseTranspose_elem a axes ha, phaseTranspose_elem a' axes ha', h.parities, h.elem])

theorem phaseGlobal_congr [LawfulNeg R] {a a' : Arr R} (h : ObsEq a a') (ha : SignOk a)
    (ha' : SignOk a') : ObsEq a.phaseGlobal a'.phaseGlobal :=
  h.of_frames ⟨rfl, rfl, rfl, rfl, rfl, rfl⟩ ⟨rfl, rfl, rfl, rfl, rfl, rfl⟩ (fun s off => by
    rw [phaseGlobal_elem a ha, phaseGlobal_elem a' ha', h.elem])

theorem phaseSector_congr [LawfulNeg R] {a a' : Arr R} (h : ObsEq a a') (ha : SignOk a)
    (ha' : SignOk a') (s0 : Sector) : ObsEq (a.phaseSector s0) (a'.phaseSector s0) :=
  h.of_frames ⟨rfl, rfl, rfl, rfl, rfl, rfl⟩ ⟨rfl, rfl, rfl, rfl, rfl, rfl⟩ (fun s off => by
    rw [phaseSector_elem a s0 ha, phaseSector_elem a' s0 ha', h.elem])

theorem phaseSync_congr [LawfulNeg R] {a a' : Arr R} (h : ObsEq a a') :
    ObsEq a.phaseSync a'.phaseSync :=
  ((phaseSync_obsEq a).trans h).trans (phaseSync_obsEq a').symm

theorem skel_mapVals (f : R → R) (a : Arr R) : skel (mapVals f a) = skel a :=
  skel_map_val (fun _ b => Blk.map f b) (fun _ _ => rfl) a.blocks

theorem mapVals_congr [LawfulNeg R] (f : R → R) (hf0 : f 0 = 0) (hfn : ∀ x, f (-x) = - f x)
    {a a' : Arr R} (h : ObsEq a a') : ObsEq (mapVals f a) (mapVals f a') :=
  ⟨h.sym, h.fermi, h.indices, h.charge, h.oddpos, by rw [skel_mapVals, skel_mapVals, h.skel],
   fun s off => by rw [mapVals_elem f hf0 hfn, mapVals_elem f hf0 hfn, h.elem]⟩

theorem negA_congr [LawfulNeg R] {a a' : Arr R} (h : ObsEq a a') : ObsEq (negA a) (negA a') :=
  mapVals_congr (fun x => -x) LawfulNeg.neg_zero (fun _ => rfl) h

/-- an array with the frame and skeleton of `a` whose value view is that of `a` times one sign for
    all sectors is `a` or `-a` (the shape of the involution laws `conj ∘ conj`, `dagger ∘ dagger`) -/
theorem obsEq_negA_of_elem [LawfulNeg R] {x a : Arr R} {c : Bool} (h1 : x.sym = a.sym)
    (h2 : x.fermi = a.fermi) (h3 : x.indices = a.indices) (h4 : x.charge = a.charge)
    (h5 : x.oddpos = a.oddpos) (h6 : skel x = skel a)
    (he : ∀ s off, x.elem s off = sgnI (if c then -1 else 1) (a.elem s off)) :
    ObsEq x (if c then negA a else a) := by
  cases c
  · exact ⟨h1, h2, h3, h4, h5, h6, fun s off => by rw [he]; exact sgnI_one _⟩
  · simp only [if_true] at he ⊢
    exact ⟨h1, h2, h3, h4, h5, by rw [h6, negA_eq, skel_mapVals], fun s off => by
      rw [he, negA_elem, sgnI_neg_one]⟩

section conj
variable [Conj R]

theorem conjF_frame (a : Arr R) (pp pd : Bool) :
    (a.conjF pp pd).sym = a.sym ∧ (a.conjF pp pd).fermi = a.fermi
      ∧ (a.conjF pp pd).indices = a.indices.map Index.conj
      ∧ (a.conjF pp pd).charge = a.sym.sign a.charge true
      ∧ (a.conjF pp pd).oddpos = Arr.oddposDag a.oddpos
      ∧ skel (a.conjF pp pd) = skel a := by
  rw [conjF_eq]
  have : skel (conjCore { a with phases := conjPhases a pp pd }) = skel a :=
    skel_mapVals Conj.conj { a with phases := conjPhases a pp pd }
  split <;> exact ⟨rfl, rfl, rfl, rfl, rfl, this⟩

theorem axsConj_congr {a a' : Arr R} (h : ObsEq a a') : axsConj a = axsConj a' := by
  unfold axsConj; rw [h.indices]

theorem conjTotSign_congr {a a' : Arr R} (h : ObsEq a a') (pp pd : Bool) (s : Sector) :
    conjTotSign a pp pd s = conjTotSign a' pp pd s := by
  unfold conjTotSign conjGlob conjSign dualOdd
  rw [h.sym, h.charge, h.oddpos, h.parities, axsConj_congr h]

theorem conjF_congr [LawfulNegConj R] {a a' : Arr R} (h : ObsEq a a') (ha : SignOk a)
    (ha' : SignOk a') (pp pd : Bool) : ObsEq (a.conjF pp pd) (a'.conjF pp pd) := by
  obtain ⟨h1, h2, h3, h4, h5, h6⟩ := conjF_frame a pp pd
  obtain ⟨g1, g2, g3, g4, g5, g6⟩ := conjF_frame a' pp pd
  refine ⟨by rw [h1, g1, h.sym], by rw [h2, g2, h.fermi], by rw [h3, g3, h.indices],
    by rw [h4, g4, h.sym, h.charge], by rw [h5, g5, h.oddpos], by rw [h6, g6, h.skel], ?_⟩
  intro s off
  rw [conjF_elem a pp pd ha, conjF_elem a' pp pd ha', conjTotSign_congr h, h.elem]

end conj

theorem toDenseA_congr {a b : Arr R} (h : ObsEq a b) : a.toDenseA = b.toDenseA := by
  unfold Arr.toDenseA Arr.shape
  rw [h.indices]
  simp only [Bool.false_eq_true, if_false, h.elem]

theorem toDenseF_eq [LawfulNeg R] (a : Arr R) : a.toDenseF = a.toDenseA :=
  toDenseA_congr (phaseSync_obsEq a)

end elem

theorem oddposDag_involutive (o : List (Int × Bool)) : Arr.oddposDag (Arr.oddposDag o) = o := by
  unfold Arr.oddposDag
  simp [List.map_reverse, List.map_map, Function.comp_def]

theorem oddposDag_length (o : List (Int × Bool)) : (Arr.oddposDag o).length = o.length := by
  simp [Arr.oddposDag]

mutual
  theorem Index.conj_conj : ∀ i : Index, i.conj.conj = i
    | .mk c d none => by simp [Index.conj]
    | .mk c d (some (subs, ext)) => by simp [Index.conj, Index.conjList_conjList subs]
  theorem Index.conjList_conjList : ∀ l : List Index, Index.conjList (Index.conjList l) = l
    | [] => rfl
    | i :: is => by simp [Index.conjList, Index.conj_conj i, Index.conjList_conjList is]
end

theorem Index.map_conj_conj (l : List Index) : (l.map Index.conj).map Index.conj = l := by
  simp [List.map_map, Function.comp_def, Index.conj_conj]

section
variable {R : Type} [Zero R]

theorem Blk.ext_get {b b' : Blk R} (hs : b.shape = b'.shape) (hw : b.wf = true) (hw' : b'.wf = true)
    (h : ∀ off, b.get off = b'.get off) : b = b' :=
  blk_ext hw hw' hs (fun off _ => h off)

/-- value of a block dict at an address (no signs) -/
def rawGet (l : List (Sector × Blk R)) (s : Sector) (off : List Nat) : R :=
  match alookup l s with
  | none => 0
  | some b => b.get off

theorem blocks_ext {l l' : List (Sector × Blk R)}
    (hk : l.map (fun p => (p.1, p.2.shape)) = l'.map (fun p => (p.1, p.2.shape)))
    (hn : (akeys l).Nodup) (hw : ∀ p ∈ l, p.2.wf = true) (hw' : ∀ p ∈ l', p.2.wf = true)
    (h : ∀ s off, rawGet l s off = rawGet l' s off) : l = l' := by
  induction l generalizing l' with
  | nil => cases l' with
    | nil => rfl
    | cons _ _ => simp at hk
  | cons p t ih =>
    cases l' with
    | nil => simp at hk
    | cons p' t' =>
      obtain ⟨k, b⟩ := p
      obtain ⟨k', b'⟩ := p'
      simp only [List.map_cons, List.cons.injEq, Prod.mk.injEq] at hk
      obtain ⟨⟨rfl, hsh⟩, hkt⟩ := hk
      simp only [akeys, List.map_cons, List.nodup_cons] at hn
      have hkeys : akeys t = akeys t' := by
        have := congrArg (List.map (·.1)) hkt
        simpa [akeys, List.map_map, Function.comp_def] using this
      have hb : b = b' := by
        apply Blk.ext_get hsh (hw _ List.mem_cons_self) (hw' _ List.mem_cons_self)
        intro off
        have := h k off
        simpa [rawGet, alookup] using this
      subst hb
      congr 1
      apply ih hkt hn.2 (fun p hp => hw p (List.mem_cons_of_mem _ hp))
        (fun p hp => hw' p (List.mem_cons_of_mem _ hp))
      intro s off
      by_cases hs : k = s
      · subst hs
        have h1 : k ∉ akeys t := hn.1
        have h2 : k ∉ akeys t' := hkeys ▸ h1
        simp [rawGet, alookup_eq_none_iff.mpr h1, alookup_eq_none_iff.mpr h2]
      · have := h s off
        have hne : (k == s) = false := by simpa using hs
        simpa [rawGet, alookup, hne] using this

/-- every stored block has exactly `prod shape` entries (a clause of `Arr.validB`) -/
def BlocksWf (a : Arr R) : Prop := ∀ p ∈ a.blocks, p.2.wf = true

theorem BlocksWf.of_valid {a : Arr R} (h : a.validB = true) : BlocksWf a :=
  fun _ hp => (Arr.validB_block h hp).2.2.2

theorem arr_ext {a b : Arr R} (h1 : a.sym = b.sym) (h2 : a.fermi = b.fermi)
    (h3 : a.indices = b.indices) (h4 : a.charge = b.charge) (h5 : a.blocks = b.blocks)
    (h6 : a.phases = b.phases) (h7 : a.oddpos = b.oddpos) : a = b := by
  cases a; cases b; simp_all

variable [Neg R]

theorem elem_eq_rawGet [LawfulNeg R] {a : Arr R} (h : a.phases = []) (s : Sector) (off : List Nat) :
    a.elem s off = rawGet a.blocks s off := by
  rw [elem_eq, h]; unfold rawGet
  cases alookup a.blocks s with
  | none => rfl
  | some b => simp [phOf, alookup]

theorem BlocksWf.phaseSync {a : Arr R} (h : BlocksWf a) : BlocksWf a.phaseSync := by
  intro p hp
  rw [phaseSync_blocks_eq] at hp
  obtain ⟨q, hq, rfl⟩ := List.mem_map.mp hp
  exact syncBlk_wf a q.1 q.2 (h q hq)

/-- **Canonical form.**  If two arrays with distinct sectors and well-formed blocks are
    observationally equal, their synchronised copies are equal as data.  Hence every operation
    that synchronises its operand first (`unfuse`, `@`, `to_dense`, `allclose`, reductions, unary
    maps, binary blockwise arithmetic) returns identical results on them; `fuse`, `tensordot`,
    `einsum` and `trace` synchronise after sign operations and need the congruences of those as
    well (`fuseF_congr`, `tensordotF_congr`). -/
theorem phaseSync_eq_of_obsEq [LawfulNeg R] {a a' : Arr R} (h : ObsEq a a')
    (hs : a.sectors.Nodup) (hw : BlocksWf a) (hw' : BlocksWf a') :
    a.phaseSync = a'.phaseSync := by
  have h2 : ObsEq a.phaseSync a'.phaseSync := phaseSync_congr h
  refine arr_ext h.sym h.fermi h.indices h.charge ?_ rfl h.oddpos
  refine blocks_ext h2.skel ?_ hw.phaseSync hw'.phaseSync (fun s off => ?_)
  · show a.phaseSync.sectors.Nodup
    rw [phaseSync_sectors]; exact hs
  · rw [← elem_eq_rawGet (a := a.phaseSync) rfl, ← elem_eq_rawGet (a := a'.phaseSync) rfl]
    exact h2.elem s off

end


theorem permuted_inj {α : Type} {s t : List α} {perm : List Nat} {n : Nat}
    (hp : Arr.isPerm perm n = true) (hs : s.length = n) (ht : t.length = n)
    (h : permuted s perm = permuted t perm) : s = t :=
  KoszulP.permuted_injective s t perm n (perm_of_isPerm hp) hs ht h

theorem permuted_length_eq {α β : Type} (s : List α) (t : List β) (perm : List Nat)
    (h : s.length = t.length) : (permuted s perm).length = (permuted t perm).length := by
  induction perm with
  | nil => rfl
  | cons p ps ih =>
    unfold permuted at ih ⊢
    simp only [List.filterMap_cons]
    by_cases hp : p < s.length
    · have hp' : p < t.length := h ▸ hp
      simp [List.getElem?_eq_getElem hp, List.getElem?_eq_getElem hp', ih]
    · have hp' : ¬ p < t.length := h ▸ hp
      have e1 : s[p]? = none := List.getElem?_eq_none (by omega)
      have e2 : t[p]? = none := List.getElem?_eq_none (by omega)
      simp [e1, e2, ih]

section ofFn
variable {R : Type} [Zero R]

/-- the multi-index of the box `s` that has the flat position of `off`
    (`some off` when `off` lies in the box) -/
def boxIdx (s : List Nat) (off : List Nat) : Option (List Nat) := (allIdx s)[ravel s off]?

theorem get_ofFn (s : List Nat) (g : List Nat → R) (off : List Nat) :
    (Blk.ofFn s g).get off = match boxIdx s off with
      | some i => g i
      | none => 0 := by
  unfold Blk.get Blk.ofFn boxIdx
  simp only [Array.getD_eq_getD_getElem?, List.getElem?_toArray, List.getElem?_map]
  cases (allIdx s)[ravel s off]? <;> rfl

/-- source multi-index of `np.transpose`: new axis `k` is old axis `perm[k]` -/
def srcIdx (n : Nat) (perm : List Nat) (i : List Nat) : List Nat :=
  (List.range n).map (fun ax => match indexOf? perm ax with
    | some k => i.getD k 0
    | none => 0)

theorem transposeK_eq (b : Blk R) (perm : List Nat) :
    b.transposeK perm = Blk.ofFn (permuted b.shape perm) (fun i => b.get (srcIdx b.shape.length perm i)) := rfl

theorem transposeK_get (b : Blk R) (perm : List Nat) (off : List Nat) :
    (b.transposeK perm).get off = match boxIdx (permuted b.shape perm) off with
      | some i => b.get (srcIdx b.shape.length perm i)
      | none => 0 := by
  rw [transposeK_eq, get_ofFn]

end ofFn
section transpose
variable {R : Type} [Zero R] [Neg R]

/-- every stored sector has one charge per index (a clause of `Arr.validB`) -/
def SecLen (a : Arr R) : Prop := ∀ s ∈ a.sectors, s.length = a.ndim

theorem SecLen.of_valid {a : Arr R} (h : a.validB = true) : SecLen a := by
  intro s hs
  obtain ⟨p, hp, rfl⟩ := List.mem_map.mp hs
  exact (Arr.validB_block h hp).1

/-- the sectors `transpose` records a `-1` for -/
def trNeg (a : Arr R) (axes : List Nat) (s : Sector) : Bool :=
  a.getPhase s * koszul (a.parities s) (some axes) == -1

theorem transposeF_eq (a : Arr R) (axes : List Nat) :
    a.transposeF axes =
      { a with phases := adict ((a.sectors.filter (trNeg a axes)).map
                  (fun s => (permuted s axes, (-1 : Int)))),
               indices := permuted a.indices axes,
               blocks := adict (a.blocks.map (fun p => (permuted p.1 axes, p.2.transposeK axes))) } := by
  unfold Arr.transposeF Arr.transposeA
  simp only [if_true]
  rw [← KoszulP.filterMap_ite]
  rfl

/-- the hypotheses of the transposition laws -/
structure TrOk (a : Arr R) (axes : List Nat) : Prop where
  sign : SignOk a
  len : SecLen a
  perm : Arr.isPerm axes a.ndim = true

theorem TrOk.inj {a : Arr R} {axes : List Nat} (h : TrOk a axes) {k s : Sector}
    (hk : k ∈ a.sectors) (hs : s.length = a.ndim) (he : permuted k axes = permuted s axes) : k = s :=
  permuted_inj h.perm (h.len k hk) hs he

theorem TrOk.nodup_keys {a : Arr R} {axes : List Nat} (h : TrOk a axes) :
    (a.sectors.map (fun s => permuted s axes)).Nodup :=
  List.Nodup.map_on (fun _ hx y hy e => h.inj hx (h.len y hy) e) h.sign.sectors

theorem transposeF_blocks {a : Arr R} {axes : List Nat} (h : TrOk a axes) :
    (a.transposeF axes).blocks
      = a.blocks.map (fun p => (permuted p.1 axes, p.2.transposeK axes)) :=
  KoszulP.transposeF_blocks a axes h.sign.sectors h.len h.perm

theorem transposeF_sectors {a : Arr R} {axes : List Nat} (h : TrOk a axes) :
    (a.transposeF axes).sectors = a.sectors.map (fun s => permuted s axes) := by
  unfold Arr.sectors
  rw [transposeF_blocks h]
  simp [List.map_map, Function.comp_def]

theorem transposeF_phOf {a : Arr R} {axes : List Nat} (h : TrOk a axes) {s : Sector}
    (hs : s ∈ a.sectors) :
    phOf (a.transposeF axes).phases (permuted s axes)
      = koszul (a.parities s) (some axes) * phOf a.phases s := by
  rw [Int.mul_comm]
  exact KoszulP.transposeF_getPhase a axes h.len h.perm s hs (h.sign.phases.phOf s)

theorem transposeF_elem_block [LawfulNeg R] {a : Arr R} {axes : List Nat} (h : TrOk a axes)
    {s : Sector} {b : Blk R} (hb : alookup a.blocks s = some b) (off : List Nat) :
    (a.transposeF axes).elem (permuted s axes) off
      = sgnI (koszul (a.parities s) (some axes))
          (sgnI (a.getPhase s) ((b.transposeK axes).get off)) :=
  KoszulP.transposeF_elem_block LawfulNeg.neg_neg a axes h.sign.sectors h.len h.perm hb
    (h.sign.phases.phOf s) off


theorem alookup_skel (a : Arr R) (s : Sector) :
    alookup (skel a) s = (alookup a.blocks s).map (·.shape) :=
  alookup_map_val (fun _ (b : Blk R) => b.shape) a.blocks s

/-- **`transpose` on the value view**, intrinsic form: only the value view and the shape skeleton
    of `a` occur on the right (`srcIdx`: new axis `k` is old axis `axes[k]`) -/
theorem transposeF_elem [LawfulNeg R] {a : Arr R} {axes : List Nat} (h : TrOk a axes)
    (s : Sector) (hs : s.length = a.ndim) (off : List Nat) :
    (a.transposeF axes).elem (permuted s axes) off
      = sgnI (koszul (a.parities s) (some axes))
          (match alookup (skel a) s with
           | none => 0
           | some shp => match boxIdx (permuted shp axes) off with
             | none => 0
             | some i => a.elem s (srcIdx shp.length axes i)) := by
  cases hb : alookup a.blocks s with
  | none =>
    rw [alookup_skel, hb, elem_eq, transposeF_blocks h,
      alookup_map_inj (fun s : Sector => permuted s axes) (fun b : Blk R => b.transposeK axes) _ s
        (fun k hk he => h.inj hk hs he), hb]
    exact (sgnI_zero _).symm
  | some b =>
    rw [transposeF_elem_block h hb, alookup_skel, hb, transposeK_get]
    simp only [Option.map_some]
    congr 1
    cases boxIdx (permuted b.shape axes) off with
    | none => exact sgnI_zero _
    | some i =>
      simp only
      rw [elem_eq, hb]; rfl

theorem transposeF_frame (a : Arr R) (axes : List Nat) :
    (a.transposeF axes).sym = a.sym ∧ (a.transposeF axes).fermi = a.fermi
      ∧ (a.transposeF axes).indices = permuted a.indices axes
      ∧ (a.transposeF axes).charge = a.charge ∧ (a.transposeF axes).oddpos = a.oddpos := by
  rw [transposeF_eq]; exact ⟨rfl, rfl, rfl, rfl, rfl⟩

theorem transposeF_skel {a : Arr R} {axes : List Nat} (h : TrOk a axes) :
    skel (a.transposeF axes) = (skel a).map (fun p => (permuted p.1 axes, permuted p.2 axes)) := by
  unfold skel
  rw [transposeF_blocks h]
  simp only [List.map_map, Function.comp_def]
  rfl

theorem TrOk.of_obsEq {a a' : Arr R} {axes : List Nat} (h : ObsEq a a') (ht : TrOk a axes)
    (hs : SignOk a') : TrOk a' axes :=
  ⟨hs, fun s hs' => by
      have := ht.len s (h.sectors ▸ hs')
      unfold Arr.ndim at this ⊢; rw [← h.indices]; exact this,
   by have := ht.perm; unfold Arr.ndim at this ⊢; rw [← h.indices]; exact this⟩

theorem transposeF_congr [LawfulNeg R] {a a' : Arr R} {axes : List Nat} (h : ObsEq a a')
    (ht : TrOk a axes) (ht' : TrOk a' axes) :
    ObsEq (a.transposeF axes) (a'.transposeF axes) := by
  obtain ⟨h1, h2, h3, h4, h5⟩ := transposeF_frame a axes
  obtain ⟨g1, g2, g3, g4, g5⟩ := transposeF_frame a' axes
  refine ⟨by rw [h1, g1, h.sym], by rw [h2, g2, h.fermi], by rw [h3, g3, h.indices],
    by rw [h4, g4, h.charge], by rw [h5, g5, h.oddpos],
    by rw [transposeF_skel ht, transposeF_skel ht', h.skel], ?_⟩
  intro t off
  by_cases hm : t ∈ (a.transposeF axes).sectors
  · rw [transposeF_sectors ht] at hm
    obtain ⟨s, hs, rfl⟩ := List.mem_map.mp hm
    have hl := ht.len s hs
    have hl' : s.length = a'.ndim := ht'.len s (h.sectors ▸ hs)
    rw [transposeF_elem ht s hl, transposeF_elem ht' s hl', h.parities, h.skel]
    simp only [h.elem]
  · have hm' : t ∉ (a'.transposeF axes).sectors := by
      rw [transposeF_sectors ht', ← h.sectors, ← transposeF_sectors ht]; exact hm
    rw [Arr.elem_of_not_mem hm, Arr.elem_of_not_mem hm']

theorem SignOk.transposeF (a : Arr R) (axes : List Nat) : SignOk (a.transposeF axes) := by
  rw [transposeF_eq]
  refine ⟨nodup_adict _, nodup_adict _, fun p hp => ?_⟩
  obtain ⟨s, _, rfl⟩ := List.mem_map.mp (mem_adict hp)
  right; rfl

theorem BlocksWf.transposeF (a : Arr R) (axes : List Nat) : BlocksWf (a.transposeF axes) := by
  rw [transposeF_eq]
  intro p hp
  obtain ⟨q, _, rfl⟩ := List.mem_map.mp (mem_adict hp)
  exact ofFn_wf _ _

theorem SecLen.transposeF {a : Arr R} {axes : List Nat} (h : TrOk a axes) :
    SecLen (a.transposeF axes) := by
  intro t hm
  rw [transposeF_sectors h] at hm
  obtain ⟨s, hs, rfl⟩ := List.mem_map.mp hm
  unfold Arr.ndim
  rw [(transposeF_frame a axes).2.2.1]
  exact permuted_length_eq s a.indices axes (h.len s hs)

theorem SecLen.of_same {a x : Arr R} (h : SecLen a) (hs : x.sectors = a.sectors)
    (hn : x.ndim = a.ndim) : SecLen x := by
  intro s hm; rw [hn]; exact h s (hs ▸ hm)

theorem SecLen.phaseFlip {a : Arr R} (h : SecLen a) (axs : List Nat) : SecLen (a.phaseFlip axs) :=
  h.of_same (by unfold Arr.sectors; rw [phaseFlip_blocks])
    (by unfold Arr.ndim; rw [(phaseFlip_frame a axs).2.2.1])

/-- the invariants a program needs: `SignOk` and one charge per index in every stored sector
    (both are clauses of `Arr.validB`) -/
structure Inv (a : Arr R) : Prop where
  sign : SignOk a
  len : SecLen a

theorem Inv.of_valid {a : Arr R} (h : a.validB = true) (hf : a.fermi = true) : Inv a :=
  ⟨SignOk.of_valid h hf, SecLen.of_valid h⟩

end transpose
class LawfulMulNeg (R : Type) [Zero R] [Neg R] [Mul R] : Prop extends LawfulNeg R where
  neg_mul : ∀ x y : R, (-x) * y = -(x * y)
  zero_mul : ∀ y : R, (0 : R) * y = 0

instance : LawfulMulNeg Int := { neg_mul := Int.neg_mul, zero_mul := Int.zero_mul }

instance : LawfulMulNeg GRat where
  neg_mul x y := by
    apply GRat.ext'
    · show (-x.re) * y.re - (-x.im) * y.im = -(x.re * y.re - x.im * y.im); ring
    · show (-x.re) * y.im + (-x.im) * y.re = -(x.re * y.im + x.im * y.re); ring
  zero_mul y := by
    apply GRat.ext'
    · show (0 : Rat) * y.re - 0 * y.im = 0; ring
    · show (0 : Rat) * y.im + 0 * y.re = 0; ring


theorem sgnI_mul_left {R : Type} [Zero R] [Neg R] [Mul R] [LawfulMulNeg R] (σ : Int) (x y : R) :
    sgnI σ (x * y) = sgnI σ x * y := by
  unfold sgnI; split
  · exact (LawfulMulNeg.neg_mul x y).symm
  · rfl

section mdiag
variable {κ β : Type} [BEq κ] [LawfulBEq κ]

theorem alookup_filterMap_key {ω γ : Type} (W : κ → Option ω) (H : κ → ω → β → γ)
    (l : List (κ × β)) (k : κ) :
    alookup (l.filterMap (fun p => (W p.1).map (fun w => (p.1, H p.1 w p.2)))) k
      = (W k).bind (fun w => (alookup l k).map (H k w)) := by
  induction l with
  | nil => cases W k <;> rfl
  | cons p l ih =>
    obtain ⟨k1, v1⟩ := p
    simp only [List.filterMap_cons]
    by_cases h : k1 = k
    · subst h
      cases hw : W k1 with
      | none => simp only [Option.map_none]; rw [ih, hw]; rfl
      | some w => simp [alookup_cons]
    · have h1 : (k1 == k) = false := by simpa using h
      cases hw : W k1 with
      | none => simp only [Option.map_none]; rw [ih, alookup_cons, h1]; rfl
      | some w => simp only [Option.map_some]; rw [alookup_cons, ih, alookup_cons]; simp [h1]

variable {R : Type} [Zero R] [Neg R] [Mul R]

theorem multiplyDiagonal_blocks (a : Arr R) (v : BVec R) (axis : Nat) :
    (multiplyDiagonal a v axis).blocks
      = a.blocks.filterMap (fun p => (alookup v.blocks (p.1.getD axis (0, 0))).map
          (fun vb => (p.1, (fun (_ : Sector) (vb b : Blk R) => b.mulAxisK vb axis) p.1 vb p.2))) :=
  SymmModel.multiplyDiagonal_blocks a v axis

/-- **`multiply_diagonal` on the value view**, intrinsic form as `transposeF_elem`; sectors whose
    charge on `axis` is missing from the vector are dropped -/
theorem multiplyDiagonal_elem [LawfulMulNeg R] (a : Arr R) (v : BVec R) (axis : Nat) (s : Sector)
    (off : List Nat) :
    (multiplyDiagonal a v axis).elem s off
      = match alookup v.blocks (s.getD axis (0, 0)) with
        | none => 0
        | some vb => match alookup (skel a) s with
          | none => 0
          | some shp => match boxIdx shp off with
            | none => 0
            | some i => a.elem s i * vb.get [i.getD axis 0] := by
  rw [elem_eq, multiplyDiagonal_blocks,
    alookup_filterMap_key (fun s : Sector => alookup v.blocks (s.getD axis (0, 0)))
      (fun (_ : Sector) (vb b : Blk R) => b.mulAxisK vb axis), alookup_skel]
  cases alookup v.blocks (s.getD axis (0, 0)) with
  | none => rfl
  | some vb =>
    simp only [Option.bind_some]
    cases hb : alookup a.blocks s with
    | none => rfl
    | some b =>
      simp only [Option.map_some]
      show sgnI (phOf a.phases s) ((Blk.ofFn b.shape (fun i => b.get i * vb.get [i.getD axis 0])).get off) = _
      rw [get_ofFn]
      cases boxIdx b.shape off with
      | none => exact sgnI_zero _
      | some i =>
        simp only
        rw [sgnI_mul_left, elem_eq, hb]

theorem multiplyDiagonal_skel (a : Arr R) (v : BVec R) (axis : Nat) :
    skel (multiplyDiagonal a v axis)
      = (skel a).filter (fun p => (alookup v.blocks (p.1.getD axis (0, 0))).isSome) := by
  unfold skel
  rw [multiplyDiagonal_blocks]
  induction a.blocks with
  | nil => rfl
  | cons p l ih =>
    simp only [List.filterMap_cons, List.map_cons, List.filter_cons]
    cases alookup v.blocks (p.1.getD axis (0, 0)) with
    | none => simpa using ih
    | some vb => simp only [Option.map_some, List.map_cons, Option.isSome_some, if_true, ih]; rfl

theorem multiplyDiagonal_congr [LawfulMulNeg R] {a a' : Arr R} (h : ObsEq a a') (v : BVec R)
    (axis : Nat) : ObsEq (multiplyDiagonal a v axis) (multiplyDiagonal a' v axis) :=
  ⟨h.sym, h.fermi, h.indices, h.charge, h.oddpos,
   by rw [multiplyDiagonal_skel, multiplyDiagonal_skel, h.skel],
   fun s off => by
     rw [multiplyDiagonal_elem, multiplyDiagonal_elem, h.skel]; simp only [h.elem]⟩

end mdiag
section syncfirst
variable {R : Type} [Zero R] [Neg R]

/-- `Inv` and well-formed blocks: what the canonical form `canon` needs -/
structure Full (a : Arr R) : Prop where
  sign : SignOk a
  len : SecLen a
  wf : BlocksWf a

theorem Full.of_valid {a : Arr R} (h : a.validB = true) (hf : a.fermi = true) : Full a :=
  ⟨SignOk.of_valid h hf, SecLen.of_valid h, BlocksWf.of_valid h⟩

theorem Full.inv {a : Arr R} (h : Full a) : Inv a := ⟨h.sign, h.len⟩

theorem Full.phaseFlip [LawfulNeg R] {a : Arr R} (h : Full a) (axs : List Nat) :
    Full (a.phaseFlip axs) :=
  ⟨h.sign.phaseFlip axs, h.len.phaseFlip axs,
   by unfold BlocksWf; rw [phaseFlip_blocks]; exact h.wf⟩

theorem Full.phaseTranspose {a : Arr R} (h : Full a) (axes : Option (List Nat)) :
    Full (a.phaseTranspose axes) :=
  ⟨h.sign.phaseTranspose axes, h.len.of_same rfl rfl, h.wf⟩

theorem Full.transposeF {a : Arr R} (h : Full a) {axes : List Nat}
    (hp : Arr.isPerm axes a.ndim = true) : Full (a.transposeF axes) :=
  ⟨SignOk.transposeF a axes, SecLen.transposeF ⟨h.sign, h.len, hp⟩, BlocksWf.transposeF a axes⟩

theorem Full.trOk {a : Arr R} (h : Full a) {axes : List Nat}
    (hp : Arr.isPerm axes a.ndim = true) : TrOk a axes := ⟨h.sign, h.len, hp⟩

theorem canon [LawfulNeg R] {a a' : Arr R} (h : ObsEq a a') (ha : Full a) (ha' : Full a') :
    a.phaseSync = a'.phaseSync :=
  phaseSync_eq_of_obsEq h ha.sign.sectors ha.wf ha'.wf

theorem ObsEq.ndim {a a' : Arr R} (h : ObsEq a a') : a.ndim = a'.ndim := by
  unfold Arr.ndim; rw [h.indices]

theorem unfuseF_congr [LawfulNeg R] {a a' : Arr R} (ha : ObsEq a a')
    (fa : Full a) (fa' : Full a') (axis : Nat) : a.unfuseF axis = a'.unfuseF axis := by
  unfold Arr.unfuseF
  rw [ha.indices, canon ha fa fa', ha.ndim]



theorem ObsEq.size {a a' : Arr R} (h : ObsEq a a') : a.size = a'.size := by
  unfold Arr.size Arr.shape; rw [h.indices]

/-- the operands `tensordot_fermionic` hands to the abelian kernel (`ValidP.tdF34`, synchronised)
    depend on the arrays only up to `ObsEq` -/
theorem tdF34_sync_congr [LawfulNeg R] {a a' b b' : Arr R} (ha : ObsEq a a') (hb : ObsEq b b')
    (fa : Full a) (fa' : Full a') (fb : Full b) (fb' : Full b') (axesA axesB : List Nat)
    (g1 : Arr.isPerm (without (List.range a.ndim) axesA ++ axesA) a.ndim = true)
    (g2 : Arr.isPerm (axesB ++ without (List.range b.ndim) axesB) b.ndim = true) :
    (ValidP.tdF34 a b axesA axesB).1.phaseSync = (ValidP.tdF34 a' b' axesA axesB).1.phaseSync
      ∧ (ValidP.tdF34 a b axesA axesB).2.phaseSync = (ValidP.tdF34 a' b' axesA axesB).2.phaseSync := by
  have g1' : Arr.isPerm (without (List.range a.ndim) axesA ++ axesA) a'.ndim = true := by
    rwa [← ha.ndim]
  have g2' : Arr.isPerm (axesB ++ without (List.range b.ndim) axesB) b'.ndim = true := by
    rwa [← hb.ndim]
  have A1 := transposeF_congr ha (fa.trOk g1) (fa'.trOk g1')
  have B1 := transposeF_congr hb (fb.trOk g2) (fb'.trOk g2')
  have FA1 := fa.transposeF g1
  have FA1' := fa'.transposeF g1'
  have FB1 := fb.transposeF g2
  have FB1' := fb'.transposeF g2'
  unfold ValidP.tdF34
  simp only [← ha.ndim, ← hb.ndim]
  generalize a.transposeF (without (List.range a.ndim) axesA ++ axesA) = a1 at *
  generalize a'.transposeF (without (List.range a.ndim) axesA ++ axesA) = a1' at *
  generalize b.transposeF (axesB ++ without (List.range b.ndim) axesB) = b1 at *
  generalize b'.transposeF (axesB ++ without (List.range b.ndim) axesB) = b1' at *
  rw [← B1.ndim]
  have B2 := phaseTranspose_congr B1 FB1.sign FB1'.sign
    (some ((List.range axesA.length).reverse ++ (List.range b1.ndim).drop axesA.length))
  have FB2 := FB1.phaseTranspose
    (some ((List.range axesA.length).reverse ++ (List.range b1.ndim).drop axesA.length))
  have FB2' := FB1'.phaseTranspose
    (some ((List.range axesA.length).reverse ++ (List.range b1.ndim).drop axesA.length))
  generalize b1.phaseTranspose
    (some ((List.range axesA.length).reverse ++ (List.range b1.ndim).drop axesA.length)) = b2 at *
  generalize b1'.phaseTranspose
    (some ((List.range axesA.length).reverse ++ (List.range b1.ndim).drop axesA.length)) = b2' at *
  rw [← A1.size, ← B2.size, ← A1.indices, ← B2.indices]
  by_cases hc : a1.size ≤ b2.size
  · simp only [if_pos hc]
    exact ⟨canon (phaseFlip_congr A1 FA1.sign FA1'.sign _) (FA1.phaseFlip _) (FA1'.phaseFlip _),
      canon B2 FB2 FB2'⟩
  · simp only [if_neg hc]
    exact ⟨canon A1 FA1 FA1',
      canon (phaseFlip_congr B2 FB2.sign FB2'.sign _) (FB2.phaseFlip _) (FB2'.phaseFlip _)⟩

/-- **`tensordot` of fermionic arrays returns identical results on observationally equal
    operands** (arrays and their synchronised copies in particular).  Guard: the normalised
    contraction axes are distinct and in range, i.e. the two transpositions are permutations
    (Python raises otherwise). -/
theorem tensordotF_congr [Add R] [Mul R] [LawfulNeg R] {a a' b b' : Arr R} (ha : ObsEq a a')
    (hb : ObsEq b b') (fa : Full a) (fa' : Full a') (fb : Full b) (fb' : Full b')
    (axes : AxesArg) (mode : TdotMode)
    (hg : ∀ axesA axesB, parseAxes a.ndim b.ndim axes = .ok (axesA, axesB) →
      Arr.isPerm (without (List.range a.ndim) axesA ++ axesA) a.ndim = true
      ∧ Arr.isPerm (axesB ++ without (List.range b.ndim) axesB) b.ndim = true) :
    a.tensordotF b axes mode = a'.tensordotF b' axes mode := by
  rw [tensordotF_eq, tensordotF_eq, ← ha.ndim, ← hb.ndim]
  apply bind_congr_ok
  rintro ⟨axesA, axesB⟩ hpa
  obtain ⟨g1, g2⟩ := hg axesA axesB hpa
  obtain ⟨e1, e2⟩ := tdF34_sync_congr ha hb fa fa' fb fb' axesA axesB g1 g2
  simp only [e1, e2]

end syncfirst
section conjconj

theorem filter_and_add_not {α : Type} (p q : α → Bool) (l : List α) :
    (l.filter (fun x => p x && q x)).length + (l.filter (fun x => !p x && q x)).length
      = (l.filter q).length := by
  induction l with
  | nil => rfl
  | cons x l ih =>
    simp only [List.filter_cons]
    cases hp : p x <;> cases hq : q x <;> simp <;> omega

theorem count_sel (idx : List Index) (P : Index → Bool) (q : Nat → Bool) :
    (((idx.zipIdx.filter (fun p => P p.1)).map (·.2)).filter q).length
      = (idx.zipIdx.filter (fun p => P p.1 && q p.2)).length := by
  rw [List.filter_map, List.length_map, List.filter_filter]
  congr 1
  apply List.filter_congr
  intro x _
  simp [Bool.and_comm]

theorem count_map (f : Index → Index) (idx : List Index) (P : Index → Bool) (q : Nat → Bool) :
    ((idx.map f).zipIdx.filter (fun p => P p.1 && q p.2)).length
      = (idx.zipIdx.filter (fun p => P (f p.1) && q p.2)).length := by
  rw [List.zipIdx_map, List.filter_map, List.length_map]; rfl

theorem count_all (idx : List Index) (q : Nat → Bool) :
    (idx.zipIdx.filter (fun p => q p.2)).length = ((List.range idx.length).filter q).length := by
  have : (idx.zipIdx.filter (fun p => q p.2)).length
      = ((idx.zipIdx.map Prod.snd).filter q).length := by
    rw [List.filter_map, List.length_map]; rfl
  rw [this, List.zipIdx_map_snd, List.range_eq_range']

theorem count_range_getD (par : List Bool) :
    ((List.range par.length).filter (fun ax => par.getD ax false)).length
      = (par.filter id).length := by
  have h : par = (List.range par.length).map (fun i => par.getD i false) := by
    apply List.ext_getElem (by simp)
    intro i h1 h2
    simp [List.getD_eq_getElem?_getD, List.getElem?_eq_getElem h1]
  conv_rhs => rw [h, List.filter_map, List.length_map]
  rfl

theorem odd_count_eq_xor (par : List Bool) :
    ((par.filter id).length % 2 == 1) = par.foldr xor false := by
  induction par with
  | nil => rfl
  | cons b l ih =>
    cases b
    · simpa using ih
    · simp only [List.filter_cons, id, if_true, List.length_cons, List.foldr_cons, Bool.true_xor]
      rw [← ih]
      rcases Nat.mod_two_eq_zero_or_one (List.filter id l).length with h | h <;>
        simp [Nat.add_mod, h]

variable {R : Type}

theorem parity_sectorCharge (sym : Sym) (duals : List Bool) (s : Sector)
    (h : s.length = duals.length) :
    sym.parity (Arr.sectorCharge sym duals s) = (s.map sym.parity).foldr xor false := by
  unfold Arr.sectorCharge
  rw [Sym.parity_combine]
  induction s generalizing duals with
  | nil => simp
  | cons c cs ih =>
    cases duals with
    | nil => simp at h
    | cons d ds =>
      simp only [List.zipWith_cons_cons, List.foldr_cons, List.map_cons, Sym.parity_sign]
      rw [ih ds (by simpa using h)]

/-- every stored sector satisfies the charge constraint (a clause of `Arr.validB`) -/
def SecValid (a : Arr R) : Prop := ∀ s ∈ a.sectors, a.isValidSector s = true

theorem SecValid.of_valid {a : Arr R} (h : a.validB = true) : SecValid a := by
  intro s hs
  obtain ⟨p, hp, rfl⟩ := List.mem_map.mp hs
  exact (Arr.validB_block h hp).2.1

theorem odd_count_sector {a : Arr R} {s : Sector} (hl : s.length = a.ndim)
    (hv : a.isValidSector s = true) :
    (((a.parities s).filter id).length % 2 == 1) = a.parity := by
  rw [odd_count_eq_xor]
  unfold Arr.parities
  rw [← parity_sectorCharge a.sym a.duals s (by simpa [Arr.duals, Arr.ndim] using hl)]
  unfold Arr.isValidSector at hv
  rw [eq_of_beq hv]; rfl


variable [Zero R] [Neg R] [Conj R]

theorem dualOdd_eq (a : Arr R) (s : Sector) :
    dualOdd a s = ((a.indices.zipIdx.filter
      (fun p => p.1.dual && (a.parities s).getD p.2 false)).length % 2 == 1) := by
  unfold dualOdd axsConj
  rw [count_sel (a.indices.map Index.conj) (fun i => !i.dual) (fun ax => (a.parities s).getD ax false),
    count_map Index.conj a.indices (fun i => !i.dual) (fun ax => (a.parities s).getD ax false)]
  simp only [Index.conj_dual, Bool.not_not]

theorem dualOdd_conj (a : Arr R) (pp pd : Bool) (s : Sector) :
    dualOdd (a.conjF pp pd) s = ((a.indices.zipIdx.filter
      (fun p => !p.1.dual && (a.parities s).getD p.2 false)).length % 2 == 1) := by
  obtain ⟨h1, _, h3, _, _, _⟩ := conjF_frame a pp pd
  rw [dualOdd_eq]
  unfold Arr.parities
  rw [h1, h3, count_map Index.conj a.indices (fun i => i.dual)
    (fun ax => (s.map a.sym.parity).getD ax false)]
  simp only [Index.conj_dual]

theorem xor_odd (m n : Nat) : ((m % 2 == 1) != (n % 2 == 1)) = ((m + n) % 2 == 1) := by
  rcases Nat.mod_two_eq_zero_or_one m with h | h <;>
    rcases Nat.mod_two_eq_zero_or_one n with h' | h' <;> simp [Nat.add_mod, h, h']

/-- the two dual-leg signs of `conj ∘ conj` multiply to the parity sign of the array -/
theorem dualOdd_xor {a : Arr R} (pp pd : Bool) {s : Sector} (hl : s.length = a.ndim)
    (hv : a.isValidSector s = true) :
    (dualOdd (a.conjF pp pd) s != dualOdd a s) = a.parity := by
  rw [dualOdd_conj, dualOdd_eq, xor_odd, Nat.add_comm,
    filter_and_add_not (fun p : Index × Nat => p.1.dual) (fun p => (a.parities s).getD p.2 false),
    count_all a.indices (fun ax => (a.parities s).getD ax false)]
  have : a.indices.length = (a.parities s).length := by
    unfold Arr.parities; rw [List.length_map]; exact hl.symm
  rw [this, count_range_getD, odd_count_sector hl hv]

theorem sign_prod {g k d1 d : Int} (hg : g = 1 ∨ g = -1) (hk : k = 1 ∨ k = -1) :
    (g * (d1 * k)) * (g * (d * k)) = d1 * d := by
  rcases hg with rfl | rfl <;> rcases hk with rfl | rfl <;> ring

theorem conjTotSign_conj {a : Arr R} (pp pd : Bool) {s : Sector} (hl : s.length = a.ndim)
    (hv : a.isValidSector s = true) :
    conjTotSign (a.conjF pp pd) pp pd s * conjTotSign a pp pd s
      = if pd && a.parity then -1 else 1 := by
  obtain ⟨h1, _, _, h4, h5, _⟩ := conjF_frame a pp pd
  have hG : conjGlob (a.conjF pp pd) pp = conjGlob a pp := by
    unfold conjGlob
    simp only [h1, h4, h5, Sym.parity_sign, oddposDag_length]
  have hP : (a.conjF pp pd).parities s = a.parities s := by unfold Arr.parities; rw [h1]
  unfold conjTotSign conjSign
  rw [hG, hP, sign_prod (by split <;> simp) (by split; exact koszul_pm _ _; left; rfl),
    ← dualOdd_xor pp pd hl hv]
  cases pd <;> cases dualOdd (a.conjF pp true) s <;> cases dualOdd a s <;> simp


theorem Blk.map_map_cancel {f g : R → R} (h : ∀ x, g (f x) = x) (b : Blk R) :
    (b.map f).map g = b := by
  obtain ⟨sh, d⟩ := b
  simp only [Blk.map, Array.map_map]
  congr 1
  conv_rhs => rw [← Array.map_id d]
  apply Array.map_congr_left
  intro x _; exact h x

theorem conjA_conjA [LawfulNegConj R] (a : Arr R) (hv : a.sym.valid a.charge = true) :
    a.conjA.conjA = a := by
  refine arr_ext (a := a.conjA.conjA) (b := a) rfl rfl (Index.map_conj_conj a.indices)
    (Sym.sign_sign a.sym a.charge true hv) ?_ rfl rfl
  show (a.blocks.map (fun (s, b) => (s, b.conjK))).map (fun (s, b) => (s, b.conjK)) = a.blocks
  rw [List.map_map]
  conv_rhs => rw [← List.map_id a.blocks]
  apply List.map_congr_left
  rintro ⟨s, b⟩ _
  simp only [Function.comp, Blk.conjK, id]
  rw [Blk.map_map_cancel LawfulNegConj.conj_conj]

theorem conjF_conjF_elem [LawfulNegConj R] {a : Arr R} (pp pd : Bool) (h : SignOk a) {s : Sector}
    (hl : s.length = a.ndim) (hv : a.isValidSector s = true) (off : List Nat) :
    ((a.conjF pp pd).conjF pp pd).elem s off
      = sgnI (if pd && a.parity then -1 else 1) (a.elem s off) := by
  rw [conjF_elem _ pp pd (h.conjF pp pd), conjF_elem a pp pd h, sgnI_conj,
    LawfulNegConj.conj_conj, ← sgnI_mul (conjTotSign_pm _ _ _ _) (conjTotSign_pm _ _ _ _),
    conjTotSign_conj pp pd hl hv]

theorem conjF_conjF_frame (a : Arr R) (pp pd : Bool) (hc : a.sym.valid a.charge = true) :
    ((a.conjF pp pd).conjF pp pd).sym = a.sym ∧ ((a.conjF pp pd).conjF pp pd).fermi = a.fermi
      ∧ ((a.conjF pp pd).conjF pp pd).indices = a.indices
      ∧ ((a.conjF pp pd).conjF pp pd).charge = a.charge
      ∧ ((a.conjF pp pd).conjF pp pd).oddpos = a.oddpos
      ∧ skel ((a.conjF pp pd).conjF pp pd) = skel a := by
  obtain ⟨h1, h2, h3, h4, h5, h6⟩ := conjF_frame a pp pd
  obtain ⟨g1, g2, g3, g4, g5, g6⟩ := conjF_frame (a.conjF pp pd) pp pd
  refine ⟨g1.trans h1, g2.trans h2, ?_, ?_, ?_, g6.trans h6⟩
  · rw [g3, h3, Index.map_conj_conj]
  · rw [g4, h1, h4, Sym.sign_sign a.sym a.charge true hc]
  · rw [g5, h5, oddposDag_involutive]

/-- **`conj ∘ conj`** (up to `ObsEq`): the identity for `phase_dual = False` (the default), and
    multiplication by `(-1)^parity` — i.e. `-x` for odd `x` — for `phase_dual = True`; for both
    values of `phase_permutation` -/
theorem conjF_conjF [LawfulNegConj R] {a : Arr R} (pp pd : Bool) (h : SignOk a) (hl : SecLen a)
    (hv : SecValid a) (hc : a.sym.valid a.charge = true) :
    ObsEq ((a.conjF pp pd).conjF pp pd) (if pd && a.parity then negA a else a) := by
  obtain ⟨h1, h2, h3, h4, h5, h6⟩ := conjF_conjF_frame a pp pd hc
  have hsec : ((a.conjF pp pd).conjF pp pd).sectors = a.sectors := by
    rw [← skel_sectors, h6, skel_sectors]
  have helem : ∀ s off, ((a.conjF pp pd).conjF pp pd).elem s off
      = sgnI (if pd && a.parity then -1 else 1) (a.elem s off) := by
    intro s off
    by_cases hs : s ∈ a.sectors
    · exact conjF_conjF_elem pp pd h (hl s hs) (hv s hs) off
    · rw [Arr.elem_of_not_mem (hsec ▸ hs), Arr.elem_of_not_mem hs, sgnI_zero]
  exact obsEq_negA_of_elem h1 h2 h3 h4 h5 h6 helem

end conjconj

/-- `calc_phase_permutation(parities, None)` equals `calc_phase_permutation(parities, reversed)` -/
theorem koszul_none_eq_reverse (par : List Bool) :
    koszul par none = koszul par (some (List.range par.length).reverse) :=
  KoszulP.koszul_none_eq_reverse' par

theorem boxIdx_of_inBox {s j : List Nat} (h : inBox s j = true) : boxIdx s j = some j := by
  unfold boxIdx
  rw [allIdx_getElem?_ravel h]

theorem boxIdx_some {s off i : List Nat} (h : boxIdx s off = some i) :
    inBox s i = true ∧ ravel s i = ravel s off := by
  unfold boxIdx at h
  have hlt : ravel s off < prod s := by
    rw [← allIdx_length]
    by_contra hc
    rw [List.getElem?_eq_none (by omega)] at h
    cases h
  rw [allIdx_getElem? hlt] at h
  cases h
  exact ⟨unravel_inBox hlt, ravel_unravel hlt⟩

theorem boxIdx_none {s off : List Nat} (h : boxIdx s off = none) : prod s ≤ ravel s off := by
  unfold boxIdx at h
  rw [← allIdx_length]
  exact List.getElem?_eq_none_iff.mp h

theorem inBox_iff {s j : List Nat} :
    inBox s j = true ↔ j.length = s.length ∧ ∀ k (h1 : k < j.length) (h2 : k < s.length), j[k] < s[k] := by
  induction s generalizing j with
  | nil => cases j <;> simp [inBox]
  | cons d ds ih =>
    cases j with
    | nil => simp [inBox]
    | cons i js =>
      simp only [inBox, Bool.and_eq_true, decide_eq_true_eq, ih, List.length_cons]
      constructor
      · rintro ⟨h1, h2, h3⟩
        refine ⟨by omega, fun k hk1 hk2 => ?_⟩
        cases k with
        | zero => simpa using h1
        | succ k => simpa using h3 k (by omega) (by omega)
      · rintro ⟨h1, h2⟩
        refine ⟨by simpa using h2 0 (by omega) (by omega), by omega, fun k hk1 hk2 => ?_⟩
        have := h2 (k + 1) (by omega) (by omega)
        simp only [List.getElem_cons_succ] at this
        exact this

theorem inBox_reverse {s j : List Nat} (h : inBox s j = true) : inBox s.reverse j.reverse = true := by
  rw [inBox_iff] at h ⊢
  obtain ⟨hl, hk⟩ := h
  refine ⟨by simp [hl], fun k h1 h2 => ?_⟩
  simp only [List.length_reverse] at h1 h2
  rw [List.getElem_reverse, List.getElem_reverse]
  have := hk (j.length - 1 - k) (by omega) (by omega)
  simpa [hl] using this

section
variable {R : Type} [Zero R]

theorem get_eq_boxIdx {b : Blk R} (hw : b.wf = true) (off : List Nat) :
    b.get off = match boxIdx b.shape off with
      | some i => b.get i
      | none => 0 := by
  cases h : boxIdx b.shape off with
  | some i => simp only; unfold Blk.get; rw [(boxIdx_some h).2]
  | none =>
    simp only
    have := boxIdx_none h
    simp only [Blk.wf, beq_iff_eq] at hw
    unfold Blk.get
    rw [Array.getD_eq_getD_getElem?, Array.getElem?_eq_none (by omega)]; rfl
end


section dagger

theorem permuted_reversed {α : Type} (s : List α) (n : Nat) (h : s.length = n) :
    permuted s (Arr.reversedAxes n) = s.reverse := by
  subst h
  unfold Arr.reversedAxes
  have := permuted_range s
  unfold permuted at this ⊢
  rw [List.filterMap_reverse, this]

variable {R : Type} [Zero R] [Neg R] [Conj R]

theorem dagCore_phases (a : Arr R) :
    (dagCore a).phases = ((a.sectors.filter (fun s => a.getPhase s == -1)).map
      (fun s => (s, (-1 : Int)))).map (fun p => (p.1.reverse, id p.2)) := by
  show a.blocks.filterMap (fun (s, _) =>
      if a.getPhase s == -1 then some (s.reverse, (-1 : Int)) else none) = _
  have : (fun (p : Sector × Blk R) => if a.getPhase p.1 == -1 then some (p.1.reverse, (-1 : Int)) else none)
      = (fun s => if a.getPhase s == -1 then some (s.reverse, (-1 : Int)) else none) ∘ (·.1) := rfl
  show a.blocks.filterMap (fun p => if a.getPhase p.1 == -1 then some (p.1.reverse, (-1 : Int)) else none) = _
  rw [this, ← List.filterMap_map, KoszulP.filterMap_ite]
  simp [Arr.sectors, List.map_map, Function.comp_def]

theorem dagCore_sectors (a : Arr R) : (dagCore a).sectors = a.sectors.map List.reverse := by
  show (a.blocks.map (fun (s, b) => (s.reverse, (b.conjK).transposeK (Arr.reversedAxes a.ndim)))).map (·.1) = _
  simp [Arr.sectors, List.map_map, Function.comp_def]

theorem SignOk.dagCore {a : Arr R} (h : SignOk a) : SignOk (dagCore a) := by
  refine ⟨?_, ?_, ?_⟩
  · rw [dagCore_sectors]
    exact h.sectors.map List.reverse_injective
  · rw [dagCore_phases]
    have : akeys (((a.sectors.filter (fun s => a.getPhase s == -1)).map
        (fun s => (s, (-1 : Int)))).map (fun p => (p.1.reverse, id p.2)))
        = (a.sectors.filter (fun s => a.getPhase s == -1)).map List.reverse := by
      simp [akeys, List.map_map, Function.comp_def]
    rw [this]
    exact (h.sectors.sublist List.filter_sublist).map List.reverse_injective
  · rw [dagCore_phases]
    intro p hp
    simp only [List.map_map, List.mem_map, Function.comp_def] at hp
    obtain ⟨s, _, rfl⟩ := hp
    right; rfl

theorem dagCore_phOf {a : Arr R} (h : SignOk a) {s : Sector} (hs : s ∈ a.sectors) :
    phOf (dagCore a).phases s.reverse = phOf a.phases s := by
  rw [dagCore_phases]
  have := KoszulP.pget_rekey (fun s : Sector => s.reverse) (fun s => a.getPhase s == -1) a.sectors hs
    (fun k _ e => List.reverse_injective e)
  simp only [List.map_map, Function.comp_def, id]
  refine this.trans ?_
  rcases h.phases.phOf s with e | e <;> simp [e, getPhase_eq]


theorem dagCore_frame (a : Arr R) :
    (dagCore a).sym = a.sym ∧ (dagCore a).fermi = a.fermi
      ∧ (dagCore a).indices = a.indices.reverse.map Index.conj
      ∧ (dagCore a).charge = a.sym.sign a.charge true
      ∧ (dagCore a).oddpos = Arr.oddposDag a.oddpos := ⟨rfl, rfl, rfl, rfl, rfl⟩

theorem daggerF_frame (a : Arr R) (pd : Bool) :
    (a.daggerF pd).sym = a.sym ∧ (a.daggerF pd).fermi = a.fermi
      ∧ (a.daggerF pd).indices = a.indices.reverse.map Index.conj
      ∧ (a.daggerF pd).charge = a.sym.sign a.charge true
      ∧ (a.daggerF pd).oddpos = Arr.oddposDag a.oddpos
      ∧ (a.daggerF pd).blocks = (dagCore a).blocks := by
  rw [daggerF_eq]
  cases pd <;> simp only [if_true, Bool.false_eq_true, if_false]
  · split <;> exact ⟨rfl, rfl, rfl, rfl, rfl, rfl⟩
  · obtain ⟨f1, f2, f3, f4, f5, f6⟩ :=
      phaseFlip_frame (if conjGlob a true then (dagCore a).phaseGlobal else dagCore a) (dagAxs a)
    rw [f1, f2, f3, f4, f5, f6]
    split <;> exact ⟨rfl, rfl, rfl, rfl, rfl, rfl⟩

theorem SignOk.dagGlob {a : Arr R} (h : SignOk a) :
    SignOk (if conjGlob a true then (Lazy.dagCore a).phaseGlobal else Lazy.dagCore a) := by
  split
  · exact h.dagCore.phaseGlobal
  · exact h.dagCore

theorem SignOk.daggerF [LawfulNeg R] {a : Arr R} (h : SignOk a) (pd : Bool) : SignOk (a.daggerF pd) := by
  rw [daggerF_eq]
  cases pd <;> simp only [if_true, Bool.false_eq_true, if_false]
  · exact h.dagGlob
  · exact h.dagGlob.phaseFlip _

/-- the sign `dagger` puts on (the reversal of) sector `s` -/
def dagSign (a : Arr R) (pd : Bool) (s : Sector) : Int :=
  (if pd then flipSign a.sym (dagAxs a) s.reverse else 1) * (if conjGlob a true then -1 else 1)

theorem dagSign_pm (a : Arr R) (pd : Bool) (s : Sector) : dagSign a pd s = 1 ∨ dagSign a pd s = -1 :=
  mul_pm (by split; exact flipSign_pm _ _ _; left; rfl) (by split <;> simp)

theorem dagGlob_phOf {a : Arr R} (h : SignOk a) {s : Sector} (hs : s ∈ a.sectors) :
    phOf (if conjGlob a true then (dagCore a).phaseGlobal else dagCore a).phases s.reverse
      = (if conjGlob a true then -1 else 1) * phOf a.phases s := by
  have hm : s.reverse ∈ (dagCore a).sectors := by
    rw [dagCore_sectors]; exact List.mem_map_of_mem hs
  split
  · rw [(phaseGlobal_phases _ h.dagCore).2, if_pos hm, dagCore_phOf h hs]
  · rw [dagCore_phOf h hs, Int.one_mul]

theorem daggerF_phOf [LawfulNeg R] {a : Arr R} (h : SignOk a) (pd : Bool) {s : Sector}
    (hs : s ∈ a.sectors) :
    phOf (a.daggerF pd).phases s.reverse = dagSign a pd s * phOf a.phases s := by
  rw [daggerF_eq]; unfold dagSign
  cases pd <;> simp only [if_true, Bool.false_eq_true, if_false]
  · rw [dagGlob_phOf h hs, Int.one_mul]
  · have hm : s.reverse ∈ (if conjGlob a true then (dagCore a).phaseGlobal else dagCore a).sectors := by
      have : (if conjGlob a true then (dagCore a).phaseGlobal else dagCore a).sectors
          = (dagCore a).sectors := by split <;> rfl
      rw [this, dagCore_sectors]; exact List.mem_map_of_mem hs
    rw [(phaseFlip_phases _ (dagAxs a) h.dagGlob).2, if_pos hm, dagGlob_phOf h hs, Int.mul_assoc]
    congr 2
    split <;> rfl



theorem count_zip (l : List Index) (v : List Bool) (P : Index → Bool) (h : l.length = v.length) :
    (l.zipIdx.filter (fun p => P p.1 && v.getD p.2 false)).length
      = ((l.zip v).filter (fun p => P p.1 && p.2)).length := by
  have hv : v = (List.range l.length).map (fun i => v.getD i false) := by
    apply List.ext_getElem (by simp [h])
    intro i h1 h2
    simp [List.getD_eq_getElem?_getD, List.getElem?_eq_getElem h1]
  conv_rhs => rw [hv, List.zip_map_right, List.filter_map, List.length_map]
  rw [List.zipIdx_eq_zip_range', ← List.range_eq_range']
  rfl

theorem count_reverse (l : List Index) (v : List Bool) (P : Index → Bool) (h : l.length = v.length) :
    (l.reverse.zipIdx.filter (fun p => P p.1 && v.reverse.getD p.2 false)).length
      = (l.zipIdx.filter (fun p => P p.1 && v.getD p.2 false)).length := by
  rw [count_zip l.reverse v.reverse P (by simp [h]), count_zip l v P h, List.zip_eq_zipWith,
    ← List.reverse_zipWith h, List.filter_reverse, List.length_reverse, ← List.zip_eq_zipWith]

theorem flipOdd_dag {a : Arr R} {s : Sector} (hl : s.length = a.ndim) :
    flipOdd a.sym (dagAxs a) s.reverse = dualOdd a s := by
  have hq : (fun ax => a.sym.parity (s.reverse.getD ax (0, 0)))
      = (fun ax => (a.parities s).reverse.getD ax false) := by
    funext ax
    unfold Arr.parities
    rw [← List.map_reverse]
    simp only [List.getD_eq_getElem?_getD, List.getElem?_map]
    cases s.reverse[ax]? with
    | none => simp [Sym.parity_zero_charge]
    | some c => simp
  have hlen : a.indices.length = (a.parities s).length := by
    unfold Arr.parities; rw [List.length_map]; exact hl.symm
  unfold flipOdd dagAxs
  rw [hq, count_sel (a.indices.reverse.map Index.conj) (fun i => !i.dual)
      (fun ax => (a.parities s).reverse.getD ax false),
    count_map Index.conj a.indices.reverse (fun i => !i.dual)
      (fun ax => (a.parities s).reverse.getD ax false), dualOdd_eq]
  simp only [Index.conj_dual, Bool.not_not]
  rw [count_reverse a.indices (a.parities s) (fun i => i.dual) hlen]

theorem conjF_blocks (a : Arr R) (pp pd : Bool) :
    (a.conjF pp pd).blocks = a.blocks.map (fun p => (p.1, p.2.conjK)) := by
  rw [conjF_eq]; split <;> rfl

theorem conjF_phOf {a : Arr R} (pp pd : Bool) (h : SignOk a) {s : Sector} (hs : s ∈ a.sectors) :
    phOf (a.conjF pp pd).phases s = conjTotSign a pp pd s * phOf a.phases s := by
  have h1 : phOf (conjCore { a with phases := conjPhases a pp pd }).phases s
      = conjSign a pp pd s * phOf a.phases s := by
    show phOf (conjPhases a pp pd) s = _
    rw [(conjPhases_spec a pp pd h).2 s, if_pos hs]
  rw [conjF_eq]; unfold conjTotSign
  split
  · have hm : s ∈ (conjCore { a with phases := conjPhases a pp pd }).sectors := by
      rw [conjCore_sectors]; exact hs
    rw [(phaseGlobal_phases _ (h.conjPre pp pd)).2, if_pos hm, h1, Int.mul_assoc]
  · rw [h1, Int.one_mul]

omit [Conj R] in
theorem obsEq_of_blocks_phOf {x y : Arr R} (h1 : x.sym = y.sym) (h2 : x.fermi = y.fermi)
    (h3 : x.indices = y.indices) (h4 : x.charge = y.charge) (h5 : x.oddpos = y.oddpos)
    (hb : x.blocks = y.blocks) (hp : ∀ s ∈ x.sectors, phOf x.phases s = phOf y.phases s) :
    ObsEq x y := by
  refine ⟨h1, h2, h3, h4, h5, by unfold skel; rw [hb], fun s off => ?_⟩
  rw [elem_eq, elem_eq, ← hb]
  cases hl : alookup x.blocks s with
  | none => rfl
  | some b => simp only; rw [hp s (mem_sectors_of_lookup hl)]


theorem conjF_sectors (a : Arr R) (pp pd : Bool) : (a.conjF pp pd).sectors = a.sectors := by
  rw [← skel_sectors, (conjF_frame a pp pd).2.2.2.2.2, skel_sectors]

theorem conjF_ndim (a : Arr R) (pp pd : Bool) : (a.conjF pp pd).ndim = a.ndim := by
  unfold Arr.ndim; rw [(conjF_frame a pp pd).2.2.1, List.length_map]

theorem daggerF_sectors (a : Arr R) (pd : Bool) :
    (a.daggerF pd).sectors = a.sectors.map List.reverse := by
  unfold Arr.sectors
  rw [(daggerF_frame a pd).2.2.2.2.2]
  exact dagCore_sectors a

theorem trOk_conj_rev {a : Arr R} (pd : Bool) (h : SignOk a) (hl : SecLen a) :
    TrOk (a.conjF true pd) (Arr.reversedAxes a.ndim) :=
  ⟨h.conjF true pd, hl.of_same (conjF_sectors a true pd) (conjF_ndim a true pd),
   by rw [conjF_ndim]; exact Arr.isPerm_reversedAxes a.ndim⟩

/-- **the adjoint is the conjugate followed by the fermionic reversal of the axes**, for both
    values of `phase_dual`.  (Uses `koszul_none_eq_reverse`: the virtual reversal sign
    `perm=None` of `calc_phase_permutation` equals the sign of the explicit reversal.) -/
theorem dagger_eq_conj_rev [LawfulNegConj R] {a : Arr R} (pd : Bool) (h : SignOk a) (hl : SecLen a) :
    ObsEq (a.daggerF pd) ((a.conjF true pd).transposeF (Arr.reversedAxes a.ndim)) := by
  have ht := trOk_conj_rev pd h hl
  obtain ⟨d1, d2, d3, d4, d5, d6⟩ := daggerF_frame a pd
  obtain ⟨t1, t2, t3, t4, t5⟩ := transposeF_frame (a.conjF true pd) (Arr.reversedAxes a.ndim)
  obtain ⟨c1, c2, c3, c4, c5, _⟩ := conjF_frame a true pd
  refine obsEq_of_blocks_phOf (by rw [d1, t1, c1]) (by rw [d2, t2, c2]) ?_ (by rw [d4, t4, c4])
    (by rw [d5, t5, c5]) ?_ ?_
  · rw [d3, t3, c3, permuted_reversed _ a.ndim (by simp [Arr.ndim]), List.map_reverse]
  · rw [d6, transposeF_blocks ht, conjF_blocks, List.map_map]
    apply List.map_congr_left
    rintro ⟨s, b⟩ hp
    have hs : s ∈ a.sectors := List.mem_map_of_mem (f := (·.1)) hp
    simp only [Function.comp, permuted_reversed s a.ndim (hl s hs)]
  · intro t ht'
    rw [daggerF_sectors] at ht'
    obtain ⟨s, hs, rfl⟩ := List.mem_map.mp ht'
    have hs' : s ∈ (a.conjF true pd).sectors := by rw [conjF_sectors]; exact hs
    have hlen := hl s hs
    rw [daggerF_phOf h pd hs, ← permuted_reversed s a.ndim hlen, transposeF_phOf ht hs',
      conjF_phOf true pd h hs, ← Int.mul_assoc]
    congr 1
    have hpar : (a.conjF true pd).parities s = a.parities s := by unfold Arr.parities; rw [c1]
    have hk : koszul (a.parities s) none = koszul (a.parities s) (some (Arr.reversedAxes a.ndim)) := by
      rw [koszul_none_eq_reverse (a.parities s)]
      unfold Arr.parities Arr.reversedAxes
      rw [List.length_map, hlen]
    unfold dagSign conjTotSign conjSign
    rw [hpar, ← hk]
    have hF : flipSign a.sym (dagAxs a) s.reverse = if dualOdd a s then -1 else 1 := by
      unfold flipSign; rw [flipOdd_dag hlen]
    rw [hF]
    simp only [if_true]
    rcases koszul_pm (a.parities s) none with hk1 | hk1 <;> rw [hk1] <;>
      cases pd <;> cases dualOdd a s <;> cases conjGlob a true <;> simp

end dagger
section dagdag

theorem indexOf?_reverse_range (n ax : Nat) (h : ax < n) :
    indexOf? (List.range n).reverse ax = some (n - 1 - ax) := by
  induction n with
  | zero => omega
  | succ n ih =>
    rw [List.range_succ, List.reverse_append, List.reverse_singleton, List.singleton_append]
    unfold indexOf?
    by_cases he : n = ax
    · subst he; simp
    · have : (n == ax) = false := by simpa using he
      rw [this, ih (by omega)]
      simp only [Bool.false_eq_true, if_false, Option.map_some]
      congr 1; omega

theorem srcIdx_reversed (n : Nat) (i : List Nat) (h : i.length = n) :
    srcIdx n (Arr.reversedAxes n) i = i.reverse := by
  unfold srcIdx Arr.reversedAxes
  apply List.ext_getElem (by simp [h])
  intro k h1 h2
  simp only [List.length_map, List.length_range] at h1
  simp only [List.getElem_map, List.getElem_range, indexOf?_reverse_range n k h1,
    List.getElem_reverse]
  rw [List.getD_eq_getElem?_getD, List.getElem?_eq_getElem (by omega)]
  simp [h]

variable {R : Type} [Zero R]

theorem ofFn_shape (s : List Nat) (g : List Nat → R) : (Blk.ofFn s g).shape = s := rfl

theorem transposeK_shape (b : Blk R) (perm : List Nat) :
    (b.transposeK perm).shape = permuted b.shape perm := rfl

theorem transposeK_reversed_get (b : Blk R) {n : Nat} (hn : b.shape.length = n) {j : List Nat}
    (hj : inBox b.shape.reverse j = true) :
    (b.transposeK (Arr.reversedAxes n)).get j = b.get j.reverse := by
  rw [transposeK_get, permuted_reversed b.shape n hn, boxIdx_of_inBox hj, hn]
  simp only
  rw [srcIdx_reversed n j (by rw [inBox_length hj, List.length_reverse, hn])]

variable [Neg R] [Conj R]

theorem conjT_conjT [LawfulNegConj R] (b : Blk R) {n : Nat} (hn : b.shape.length = n)
    (hw : b.wf = true) :
    (((b.conjK).transposeK (Arr.reversedAxes n)).conjK).transposeK (Arr.reversedAxes n) = b := by
  have hs1 : ((b.conjK).transposeK (Arr.reversedAxes n)).shape = b.shape.reverse := by
    rw [transposeK_shape]; exact permuted_reversed b.shape n hn
  have hs1' : (((b.conjK).transposeK (Arr.reversedAxes n)).conjK).shape = b.shape.reverse := hs1
  have hlen1 : (((b.conjK).transposeK (Arr.reversedAxes n)).conjK).shape.length = n := by
    rw [hs1', List.length_reverse, hn]
  apply Blk.ext_get
  · rw [transposeK_shape, permuted_reversed _ n hlen1, hs1', List.reverse_reverse]
  · exact ofFn_wf _ _
  · exact hw
  · intro off
    rw [get_eq_boxIdx hw off, transposeK_get, permuted_reversed _ n hlen1, hs1',
      List.reverse_reverse]
    cases hb : boxIdx b.shape off with
    | none => rfl
    | some i =>
      simp only
      have hi := (boxIdx_some hb).1
      have hil : i.length = n := by rw [inBox_length hi, hn]
      rw [List.length_reverse, hn, srcIdx_reversed n i hil, Blk.get_conjK]
      have hir : inBox (b.conjK).shape.reverse i.reverse = true := inBox_reverse hi
      rw [transposeK_reversed_get (b.conjK) (n := n) hn hir, Blk.get_conjK, List.reverse_reverse,
        LawfulNegConj.conj_conj]


/-- every stored block has one axis per index (a clause of `Arr.validB`) -/
def ShapeLen (a : Arr R) : Prop := ∀ p ∈ a.blocks, p.2.shape.length = a.ndim

omit [Zero R] [Neg R] [Conj R] in
theorem ShapeLen.of_valid {a : Arr R} (h : a.validB = true) : ShapeLen a :=
  fun _ hp => (blockShape?_length (Arr.validB_block h hp).2.2.1).2

theorem daggerF_ndim (a : Arr R) (pd : Bool) : (a.daggerF pd).ndim = a.ndim := by
  unfold Arr.ndim; rw [(daggerF_frame a pd).2.2.1]; simp

theorem daggerF_blocks (a : Arr R) (pd : Bool) :
    (a.daggerF pd).blocks = a.blocks.map (fun p =>
      (p.1.reverse, (p.2.conjK).transposeK (Arr.reversedAxes a.ndim))) :=
  (daggerF_frame a pd).2.2.2.2.2

theorem daggerF_daggerF_blocks [LawfulNegConj R] {a : Arr R} (pd pd' : Bool) (hw : BlocksWf a)
    (hs : ShapeLen a) : ((a.daggerF pd).daggerF pd').blocks = a.blocks := by
  rw [daggerF_blocks, daggerF_blocks, daggerF_ndim, List.map_map]
  conv_rhs => rw [← List.map_id a.blocks]
  apply List.map_congr_left
  rintro ⟨s, b⟩ hp
  simp only [Function.comp, id, List.reverse_reverse]
  rw [conjT_conjT b (hs _ hp) (hw _ hp)]


theorem daggerF_parities (a : Arr R) (pd : Bool) (s : Sector) :
    (a.daggerF pd).parities s.reverse = (a.parities s).reverse := by
  unfold Arr.parities; rw [(daggerF_frame a pd).1, List.map_reverse]

/-- the dual legs of `dagger a` are the reversed ket-like legs of `a` -/
theorem dualOdd_dag {a : Arr R} (pd : Bool) {s : Sector} (hl : s.length = a.ndim) :
    dualOdd (a.daggerF pd) s.reverse = dualOdd (a.conjF true pd) s := by
  have hlen : (a.indices.map Index.conj).length = (a.parities s).length := by
    unfold Arr.parities; rw [List.length_map, List.length_map]; exact hl.symm
  rw [dualOdd_eq, dualOdd_conj, daggerF_parities, (daggerF_frame a pd).2.2.1, List.map_reverse,
    count_reverse (a.indices.map Index.conj) (a.parities s) (fun i => i.dual) hlen,
    count_map Index.conj a.indices (fun i => i.dual) (fun ax => (a.parities s).getD ax false)]
  simp only [Index.conj_dual]

theorem conjGlob_dag (a : Arr R) (pd : Bool) : conjGlob (a.daggerF pd) true = conjGlob a true := by
  obtain ⟨h1, _, _, h4, h5, _⟩ := daggerF_frame a pd
  unfold conjGlob
  simp only [h1, h4, h5, Sym.parity_sign, oddposDag_length]

theorem dagSign_dag {a : Arr R} (pd : Bool) {s : Sector} (hl : s.length = a.ndim)
    (hv : a.isValidSector s = true) :
    dagSign (a.daggerF pd) pd s.reverse * dagSign a pd s = if pd && a.parity then -1 else 1 := by
  unfold dagSign flipSign
  have hl' : s.reverse.length = (a.daggerF pd).ndim := by rw [daggerF_ndim, List.length_reverse, hl]
  rw [conjGlob_dag, flipOdd_dag hl, flipOdd_dag hl', dualOdd_dag pd hl,
    ← dualOdd_xor true pd hl hv]
  cases pd <;> cases dualOdd (a.conjF true _) s <;> cases dualOdd a s <;> cases conjGlob a true <;> simp

theorem daggerF_daggerF_frame (a : Arr R) (pd pd' : Bool) (hc : a.sym.valid a.charge = true) :
    ((a.daggerF pd).daggerF pd').sym = a.sym ∧ ((a.daggerF pd).daggerF pd').fermi = a.fermi
      ∧ ((a.daggerF pd).daggerF pd').indices = a.indices
      ∧ ((a.daggerF pd).daggerF pd').charge = a.charge
      ∧ ((a.daggerF pd).daggerF pd').oddpos = a.oddpos := by
  obtain ⟨h1, h2, h3, h4, h5, _⟩ := daggerF_frame a pd
  obtain ⟨g1, g2, g3, g4, g5, _⟩ := daggerF_frame (a.daggerF pd) pd'
  refine ⟨g1.trans h1, g2.trans h2, ?_, ?_, ?_⟩
  · rw [g3, h3, List.map_reverse, Index.map_conj_conj, List.reverse_reverse]
  · rw [g4, h1, h4, Sym.sign_sign a.sym a.charge true hc]
  · rw [g5, h5, oddposDag_involutive]

/-- **`dagger ∘ dagger`** (up to `ObsEq`): the identity for `phase_dual = False` (the default) and
    multiplication by `(-1)^parity` for `phase_dual = True` -/
theorem daggerF_daggerF [LawfulNegConj R] {a : Arr R} (pd : Bool) (h : SignOk a) (hl : SecLen a)
    (hv : SecValid a) (hw : BlocksWf a) (hs : ShapeLen a) (hc : a.sym.valid a.charge = true) :
    ObsEq ((a.daggerF pd).daggerF pd) (if pd && a.parity then negA a else a) := by
  obtain ⟨h1, h2, h3, h4, h5⟩ := daggerF_daggerF_frame a pd pd hc
  have hb := daggerF_daggerF_blocks pd pd hw hs
  have h6 : skel ((a.daggerF pd).daggerF pd) = skel a := by unfold skel; rw [hb]
  have helem : ∀ s off, ((a.daggerF pd).daggerF pd).elem s off
      = sgnI (if pd && a.parity then -1 else 1) (a.elem s off) := by
    intro s off
    refine elem_of_phase hb s (by split <;> simp) h.phases (fun hs' => ?_) off
    have hd : s.reverse ∈ (a.daggerF pd).sectors := by
      rw [daggerF_sectors]; exact List.mem_map_of_mem hs'
    have := daggerF_phOf (h.daggerF pd) pd hd
    rw [List.reverse_reverse] at this
    rw [this, daggerF_phOf h pd hs', ← Int.mul_assoc, dagSign_dag pd (hl s hs') (hv s hs')]
  exact obsEq_negA_of_elem h1 h2 h3 h4 h5 h6 helem

end dagdag
/-! ## `fuse` synchronises after its sign operations (the sorted axes of `einsum`: `isPerm_isort`) -/
section einsumfuse

theorem insertSorted_length {α : Type} (lt : α → α → Bool) (a : α) (l : List α) :
    (insertSorted lt a l).length = l.length + 1 := by
  induction l with
  | nil => rfl
  | cons b bs ih => unfold insertSorted; split <;> simp [ih]

theorem isort_length {α : Type} (lt : α → α → Bool) (l : List α) : (isort lt l).length = l.length := by
  induction l with
  | nil => rfl
  | cons a as ih => simp [isort, insertSorted_length, ih]

theorem isPerm_isort (lt : Nat → Nat → Bool) (n : Nat) :
    Arr.isPerm (isort lt (List.range n)) n = true := by
  unfold Arr.isPerm
  simp only [Bool.and_eq_true, beq_iff_eq, List.all_eq_true, List.contains_eq_mem,
    decide_eq_true_eq]
  exact ⟨by rw [isort_length, List.length_range], fun i hi => mem_isort.mpr hi⟩

variable {R : Type} [Zero R] [Neg R]


theorem phaseFlip_ndim (a : Arr R) (axs : List Nat) : (a.phaseFlip axs).ndim = a.ndim := by
  unfold Arr.ndim; rw [(phaseFlip_frame a axs).2.2.1]

theorem ObsEq.duals {a a' : Arr R} (h : ObsEq a a') : a.duals = a'.duals := by
  unfold Arr.duals; rw [h.indices]

/-- **`fuse` of a fermionic array returns identical results on observationally equal inputs**
    when at least one group is non-empty (then the array is synchronised before the abelian
    fuse).  Guard: the groups' axes are distinct and in range, i.e. the fuse permutation is a
    permutation (Python raises otherwise). -/
theorem fuseF_congr [LawfulNeg R] {a a' : Arr R} (ha : ObsEq a a') (fa : Full a) (fa' : Full a')
    (groups : List (List Nat)) (mode : FuseMode) (expandEmpty : Bool)
    (hne : (groups.filter (fun g => !g.isEmpty)).isEmpty = false)
    (hg : Arr.isPerm (calcFuseGroupInfo (groups.filter (fun g => !g.isEmpty)) a.duals).perm a.ndim = true) :
    a.fuseF groups mode expandEmpty = a'.fuseF groups mode expandEmpty := by
  have hg' : Arr.isPerm (calcFuseGroupInfo (groups.filter (fun g => !g.isEmpty)) a.duals).perm a'.ndim = true := by
    rw [← ha.ndim]; exact hg
  have X1 := transposeF_congr ha (fa.trOk hg) (fa'.trOk hg')
  have FX := fa.transposeF hg
  have FX' := fa'.transposeF hg'
  unfold Arr.fuseF
  simp only [hne, Bool.false_eq_true, if_false]
  rw [← ha.duals]
  generalize a.transposeF (calcFuseGroupInfo (groups.filter (fun g => !g.isEmpty)) a.duals).perm = x1 at *
  generalize a'.transposeF (calcFuseGroupInfo (groups.filter (fun g => !g.isEmpty)) a.duals).perm = x1' at *
  simp only [phaseFlip_ndim, ← X1.ndim, ← X1.indices]
  have key : ∀ (F : List Nat) (V : Option (List Nat)) (c : Bool),
      (if c = true then x1.phaseFlip F else (x1.phaseFlip F).phaseTranspose V).phaseSync
        = (if c = true then x1'.phaseFlip F else (x1'.phaseFlip F).phaseTranspose V).phaseSync := by
    intro F V c
    have h1 := phaseFlip_congr X1 FX.sign FX'.sign F
    split
    · exact canon h1 (FX.phaseFlip F) (FX'.phaseFlip F)
    · exact canon (phaseTranspose_congr h1 (FX.phaseFlip F).sign (FX'.phaseFlip F).sign V)
        ((FX.phaseFlip F).phaseTranspose V) ((FX'.phaseFlip F).phaseTranspose V)
  simp only [key]

end einsumfuse
section prog
variable {R : Type} [Zero R] [Neg R]

theorem daggerF_congr [Conj R] [LawfulNegConj R] {a a' : Arr R} (h : ObsEq a a') (ha : SignOk a)
    (ha' : SignOk a') (hl : SecLen a) (hl' : SecLen a') (pd : Bool) :
    ObsEq (a.daggerF pd) (a'.daggerF pd) := by
  have e1 := dagger_eq_conj_rev pd ha hl
  have e2 := dagger_eq_conj_rev pd ha' hl'
  rw [← h.ndim] at e2
  have t1 := trOk_conj_rev pd ha hl
  have t2 := trOk_conj_rev pd ha' hl'
  rw [← h.ndim] at t2
  exact (e1.trans (transposeF_congr (conjF_congr h ha ha' true pd) t1 t2)).trans e2.symm


/-- the sign operations, elementwise operations and transpositions of a fermionic array -/
inductive SOp where
  | flip (axs : List Nat)                 -- `phase_flip(*axs)`
  | ptranspose (axes : Option (List Nat)) -- `phase_transpose(axes)`
  | global                                -- `phase_global()`
  | sector (s : Sector)                   -- `phase_sector(s)`
  | sync                                  -- `phase_sync()`
  | neg                                   -- `-x`
  | conj (pp pd : Bool)                   -- `conj(phase_permutation, phase_dual)`
  | transpose (axes : List Nat)           -- `transpose(axes)`
  | dagger (pd : Bool)                    -- `dagger(phase_dual)`

def SOp.apply [Conj R] : SOp → Arr R → Arr R
  | .flip axs, a => a.phaseFlip axs
  | .ptranspose axes, a => a.phaseTranspose axes
  | .global, a => a.phaseGlobal
  | .sector s, a => a.phaseSector s
  | .sync, a => a.phaseSync
  | .neg, a => negA a
  | .conj pp pd, a => a.conjF pp pd
  | .transpose axes, a => a.transposeF axes
  | .dagger pd, a => a.daggerF pd

/-- the guard of an operation (where Python raises): `transpose` needs a permutation of the axes -/
def SOp.ok : SOp → Arr R → Prop
  | .transpose axes, a => Arr.isPerm axes a.ndim = true
  | _, _ => True

/-- run a program as written (signs stay pending) -/
def run [Conj R] (p : List SOp) (a : Arr R) : Arr R := p.foldl (fun x op => op.apply x) a

/-- run a program eagerly: `phase_sync()` after every step -/
def runSync [Conj R] (p : List SOp) (a : Arr R) : Arr R :=
  p.foldl (fun x op => (op.apply x).phaseSync) a

/-- all guards hold along the run -/
def runOk [Conj R] : List SOp → Arr R → Prop
  | [], _ => True
  | op :: p, a => op.ok a ∧ runOk p (op.apply a)

theorem SOp.ok_congr (op : SOp) {a a' : Arr R} (h : ObsEq a a') (ho : op.ok a) : op.ok a' := by
  cases op <;> try trivial
  rename_i axes
  change Arr.isPerm axes a.indices.length = true at ho
  change Arr.isPerm axes a'.indices.length = true
  rw [← h.indices]; exact ho

theorem SOp.apply_inv [Conj R] [LawfulNegConj R] (op : SOp) {a : Arr R} (h : Inv a)
    (ho : op.ok a) : Inv (op.apply a) := by
  cases op with
  | flip axs => exact ⟨h.sign.phaseFlip axs, h.len.phaseFlip axs⟩
  | ptranspose axes => exact ⟨h.sign.phaseTranspose axes, h.len.of_same rfl rfl⟩
  | global => exact ⟨h.sign.phaseGlobal, h.len.of_same rfl rfl⟩
  | sector s => exact ⟨h.sign.phaseSector s, h.len.of_same rfl rfl⟩
  | sync => exact ⟨h.sign.phaseSync, h.len.of_same (phaseSync_sectors a) rfl⟩
  | neg => exact ⟨h.sign.mapVals _, h.len.of_same (mapVals_sectors _ a) rfl⟩
  | conj pp pd =>
    exact ⟨h.sign.conjF pp pd, h.len.of_same (conjF_sectors a pp pd) (conjF_ndim a pp pd)⟩
  | transpose axes => exact ⟨SignOk.transposeF a axes, SecLen.transposeF ⟨h.sign, h.len, ho⟩⟩
  | dagger pd =>
    refine ⟨h.sign.daggerF pd, ?_⟩
    intro t ht
    change t ∈ (a.daggerF pd).sectors at ht
    rw [daggerF_sectors] at ht
    obtain ⟨s, hs, rfl⟩ := List.mem_map.mp ht
    change s.reverse.length = (a.daggerF pd).ndim
    rw [daggerF_ndim, List.length_reverse]; exact h.len s hs

theorem SOp.apply_congr [Conj R] [LawfulNegConj R] (op : SOp) {a a' : Arr R} (h : ObsEq a a')
    (ha : Inv a) (ha' : Inv a') (ho : op.ok a) : ObsEq (op.apply a) (op.apply a') := by
  cases op with
  | flip axs => exact phaseFlip_congr h ha.sign ha'.sign axs
  | ptranspose axes => exact phaseTranspose_congr h ha.sign ha'.sign axes
  | global => exact phaseGlobal_congr h ha.sign ha'.sign
  | sector s => exact phaseSector_congr h ha.sign ha'.sign s
  | sync => exact phaseSync_congr h
  | neg => exact negA_congr h
  | conj pp pd => exact conjF_congr h ha.sign ha'.sign pp pd
  | transpose axes =>
    exact transposeF_congr h ⟨ha.sign, ha.len, ho⟩
      ⟨ha'.sign, ha'.len, SOp.ok_congr (.transpose axes) h ho⟩
  | dagger pd => exact daggerF_congr h ha.sign ha'.sign ha.len ha'.len pd

theorem Inv.phaseSync {a : Arr R} (h : Inv a) : Inv a.phaseSync :=
  ⟨h.sign.phaseSync, h.len.of_same (phaseSync_sectors a) rfl⟩

theorem run_inv [Conj R] [LawfulNegConj R] (p : List SOp) {a : Arr R} (h : Inv a)
    (ho : runOk p a) : Inv (run p a) := by
  induction p generalizing a with
  | nil => exact h
  | cons op p ih => exact ih (op.apply_inv h ho.1) ho.2

theorem run_congr [Conj R] [LawfulNegConj R] (p : List SOp) {a a' : Arr R} (h : ObsEq a a')
    (ha : Inv a) (ha' : Inv a') (ho : runOk p a) : ObsEq (run p a) (run p a') := by
  induction p generalizing a a' with
  | nil => exact h
  | cons op p ih =>
    exact ih (op.apply_congr h ha ha' ho.1) (op.apply_inv ha ho.1)
      (op.apply_inv ha' (op.ok_congr h ho.1)) ho.2

theorem run_runSync [Conj R] [LawfulNegConj R] (p : List SOp) {a a' : Arr R} (h : ObsEq a a')
    (ha : Inv a) (ha' : Inv a') (ho : runOk p a) : ObsEq (run p a) (runSync p a') := by
  induction p generalizing a a' with
  | nil => exact h
  | cons op p ih =>
    exact ih ((op.apply_congr h ha ha' ho.1).trans (phaseSync_obsEq _).symm) (op.apply_inv ha ho.1)
      (op.apply_inv ha' (op.ok_congr h ho.1)).phaseSync ho.2

end prog

end SymmModel.Lazy
