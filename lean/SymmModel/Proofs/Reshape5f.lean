/-
  SymmModel.Proofs.Reshape5f — forward plans that are a list of fuse calls (`CallsOk`: every call
  fuses consecutive axes, every group has at least two axes, the calls go left to right; `callsOkB`
  decides it); the planner never unfuses an array without fused axes, so `reshape` there runs only
  the fuse calls.  The round trip for such plans is `ReshapeI.roundtrip_fused_generic`
  (Proofs/ReshapeIg), for inputs without fused axes `ReshapeI.roundtrip_generic`.
-/
import SymmModel.Proofs.Reshape5e

namespace SymmModel
namespace Reshape5
open C07 ReshapeP FuseP SymmModel.Reshape
set_option linter.unusedSectionVars false

variable {R : Type} [Zero R] [Neg R] [Lazy.LawfulNeg R]

/-- the fuse calls of a plan, `lb` = first axis not yet touched, `nd` = current number of axes -/
def CallsOk : List (List (List Nat)) → Nat → Nat → Prop
  | [], _, _ => True
  | G :: rest, lb, nd => ∃ P, CallOk G P lb nd ∧ CallsOk rest (P + G.length) (nd - G.flatten.length + G.length)

def callsOkB : List (List (List Nat)) → Nat → Nat → Bool
  | [], _, _ => true
  | G :: rest, lb, nd =>
    let flat := G.flatten
    let P := flat.headD 0
    !G.isEmpty && G.all (fun g => decide (2 ≤ g.length)) && beqNats flat (List.range' P flat.length)
      && decide (lb ≤ P) && decide (P + flat.length ≤ nd)
      && callsOkB rest (P + G.length) (nd - flat.length + G.length)

theorem callsOk_of_B : ∀ (calls : List (List (List Nat))) (lb nd : Nat),
    callsOkB calls lb nd = true → CallsOk calls lb nd := by
  intro calls
  induction calls with
  | nil => intro _ _ _; trivial
  | cons G rest ih =>
    intro lb nd h
    simp only [callsOkB, Bool.and_eq_true, decide_eq_true_eq, List.all_eq_true, Bool.not_eq_true',
      List.isEmpty_eq_false_iff] at h
    obtain ⟨⟨⟨⟨⟨h1, h2⟩, h3⟩, h4⟩, h5⟩, h6⟩ := h
    exact ⟨G.flatten.headD 0, ⟨h1, h2, beqNats_iff.mp h3, h4, h5⟩, ih _ _ h6⟩

theorem planner_no_unfuse (shape newshape : List Nat) (t : List Nat × List (List (List Nat)) × List Nat)
    (h : calcReshapeArgs shape newshape (nones shape) = .ok t) : t.1 = [] := by
  obtain ⟨st, S, S3, fs3, _, hinv, _, rfl, _, _⟩ := Reshape3.planner_ok_of_ok (nones_length shape).symm h
  -- a "u" segment would be an old axis that carries sub-sizes
  refine Reshape3.unfAxes_noU 0 fun k d subs hm => ?_
  simp only [Reshape3.allSegs, List.mem_append, List.mem_map, List.mem_replicate] at hm
  rcases hm with (hm | ⟨_, _, hm⟩) | ⟨_, hm⟩
  · have hE : (d, some subs) ∈ Reshape3.flatE S := List.mem_flatMap.mpr ⟨_, hm, by simp [Reshape3.Seg.ax]⟩
    rw [hinv.ax] at hE
    have := (List.of_mem_zip (List.mem_of_mem_take hE)).2
    simp [nones] at this
  · cases hm
  · cases hm

theorem reshapeArr_eq_calls (a : Arr R) (ns full : List Int) (nsN : List Nat)
    (t : List Nat × List (List (List Nat)) × List Nat) (hnf : ∀ ix ∈ a.indices, ix.sub = none)
    (h1 : findFullReshape ns a.size = .ok full)
    (h2 : full.mapM (fun (d : Int) => if d < 0 then (throw Err.notimpl : Except Err Nat) else pure d.toNat)
      = .ok nsN)
    (h3 : calcReshapeArgs a.shape nsN a.subsizes = .ok t) (hexp : t.2.2 = []) :
    reshapeArr a ns = applyPlan a ([], t.2.1, []) := by
  have hu : t.1 = [] := by
    rw [subsizes_nones a hnf] at h3; exact planner_no_unfuse _ _ t h3
  have ht : t = ([], t.2.1, []) := by
    obtain ⟨t1, t2, t3⟩ := t
    simp only at hu hexp; subst hu; subst hexp; rfl
  rw [reshapeArr_eq a ns full nsN t h1 h2 h3, ← ht]

end Reshape5
end SymmModel
