/-
  SymmModel.Proofs.Net4Flag — the five bracketings of a four-tensor network (K4 bonds) as programs
  of three calls, each call with a Boolean flag: a flagged call is made with the operands
  EXCHANGED and followed by the `transposeF` that rotates the two free blocks back (`callS`).
  For any assignment of the fifteen flags the five routes succeed and are `Eqv` to the unflagged
  left-nested route.
-/
import SymmModel.Proofs.Net4K4

namespace SymmModel
namespace Net4P
open TdotP GradedP RoutesP KoszulP AssocP Assoc2P Assoc3P Assoc5P
set_option linter.unusedSectionVars false

variable {R : Type}

/-- a call `X·Y` on `xa ~ xb`; with `sw = true` it is made as `Y·X` on `xb ~ xa` and the result is
    rotated back (free legs of `X` first) by `transposeF` -/
def callS [Zero R] [Add R] [Mul R] [Neg R] (sw : Bool) (X Y : Arr R) (xa xb : List Nat) :
    Except Err (Arr R) :=
  match sw with
  | false => tdF X Y xa xb
  | true => (tdF Y X xb xa).map (fun z =>
      z.transposeF (rotB (freeAxes Y.ndim xb).length (freeAxes X.ndim xa).length))

theorem bind_bind_ok {α β γ : Type} {x : Except Err α} {f : α → Except Err β}
    {g : α → β → Except Err γ} {a : α} {b : β} {c : γ} (h1 : x = .ok a) (h2 : f a = .ok b)
    (h3 : g a b = .ok c) : (x.bind fun a => (f a).bind fun b => g a b) = .ok c := by
  subst h1
  show (f a).bind _ = _
  rw [h2]
  exact h3

section routes
variable [Zero R] [Add R] [Mul R] [Neg R]
variable (A B C D : Arr R) (ab ac ad ba bc bd ca cb cd da db dc : List Nat)

/-- the legs of `A·B·C` bonded to `D`: images of `ad` and `bd` in `A·B`, then these and `cd` in
    `(A·B)·C` -/
def axesABC_D : List Nat :=
  Assoc2P.axesAB ((freeAxes A.ndim ab).length + (freeAxes B.ndim ba).length) C.ndim
    (Assoc2P.axesAB A.ndim B.ndim ab ac ba bc) (Assoc2P.axesAB A.ndim B.ndim ab ad ba bd) (ca ++ cb) cd

/-- the legs of `B·C·D` bonded to `A` -/
def axesBCD_A : List Nat :=
  Assoc2P.axesBC B.ndim ((freeAxes C.ndim cd).length + (freeAxes D.ndim dc).length) ba (bc ++ bd)
    (Assoc2P.axesBC C.ndim D.ndim cb cd dc db) (Assoc2P.axesBC C.ndim D.ndim ca cd dc da)

/-- `((A·B)·C)·D` -/
def routeS1 (f1 f2 f3 : Bool) : Except Err (Arr R) :=
  (callS f1 A B ab ba).bind fun AB =>
  (callS f2 AB C (Assoc2P.axesAB A.ndim B.ndim ab ac ba bc) (ca ++ cb)).bind fun ABC =>
  callS f3 ABC D (axesABC_D A B C ab ac ad ba bc bd ca cb cd) ((da ++ db) ++ dc)

/-- `(A·(B·C))·D` -/
def routeS2 (f1 f2 f3 : Bool) : Except Err (Arr R) :=
  (callS f1 B C bc cb).bind fun BC =>
  (callS f2 A BC (ab ++ ac) (Assoc2P.axesBC B.ndim C.ndim ba bc cb ca)).bind fun ABC =>
  callS f3 ABC D (axesABC_D A B C ab ac ad ba bc bd ca cb cd) ((da ++ db) ++ dc)

/-- `(A·B)·(C·D)` -/
def routeS3 (f1 f2 f3 : Bool) : Except Err (Arr R) :=
  (callS f1 A B ab ba).bind fun AB =>
  (callS f2 C D cd dc).bind fun CD =>
  callS f3 AB CD
    (Assoc2P.axesAB A.ndim B.ndim ab ac ba bc ++ Assoc2P.axesAB A.ndim B.ndim ab ad ba bd)
    (Assoc2P.axesBC C.ndim D.ndim (ca ++ cb) cd dc (da ++ db))

/-- `A·((B·C)·D)` -/
def routeS4 (f1 f2 f3 : Bool) : Except Err (Arr R) :=
  (callS f1 B C bc cb).bind fun BC =>
  (callS f2 BC D (Assoc2P.axesAB B.ndim C.ndim bc bd cb cd) (db ++ dc)).bind fun BCD =>
  callS f3 A BCD (ab ++ (ac ++ ad)) (axesBCD_A B C D ba bc bd ca cb cd da db dc)

/-- `A·(B·(C·D))` -/
def routeS5 (f1 f2 f3 : Bool) : Except Err (Arr R) :=
  (callS f1 C D cd dc).bind fun CD =>
  (callS f2 B CD (bc ++ bd) (Assoc2P.axesBC C.ndim D.ndim cb cd dc db)).bind fun BCD =>
  callS f3 A BCD (ab ++ (ac ++ ad)) (axesBCD_A B C D ba bc bd ca cb cd da db dc)

end routes

section
variable [AddCommMonoid R] [Mul R] [Neg R] [SignRing R] [AssocLaws R]

/-- commutativity of the scalars is needed only when the operands are exchanged -/
theorem step (sw : Bool) (hmul : sw = true → ∀ x y : R, x * y = y * x) {X X' Y Y' : Arr R}
    {xa xb : List Nat}
    (W : AdmW X Y xa xb) (hd : OddposP.LabelsDistinct (X.oddpos ++ Y.oddpos))
    (eX : Eqv X X') (eY : Eqv Y Y') (vX' : X'.validB = true) (vY' : Y'.validB = true)
    (Z : Arr R) (e : tdF X Y xa xb = .ok Z) :
    ∃ Z', callS sw X' Y' xa xb = .ok Z' ∧ Eqv Z Z' ∧ Z'.validB = true := by
  obtain ⟨Z1, e1, h1⟩ := tdotF_congr W eX eY vX' vY' Z e
  have W' : AdmW X' Y' xa xb := admW_congr W eX eY vX' vY'
  have hd' : OddposP.LabelsDistinct (X'.oddpos ++ Y'.oddpos) := by
    rw [← eX.oddpos, ← eY.oddpos]; exact hd
  cases sw with
  | false =>
    obtain ⟨_, _, C1⟩ := Call.of_ok W' e1
    exact ⟨Z1, e1, h1, C1.valid⟩
  | true =>
    obtain ⟨c', ec', _, hval, hE⟩ := swap_eqv (hmul rfl) W' hd' Z1 e1
    refine ⟨_, ?_, h1.trans hE.symm, hval⟩
    unfold callS
    simp only []
    rw [ec']
    rfl

theorem K4Data.routes {A B C D : Arr R} {ab ac ad ba bc bd ca cb cd da db dc : List Nat}
    {AB BC CD ABC1 ABC2 BCD1 BCD2 T1 T2 T3 T4 T5 : Arr R}
    (K : K4Data A B C D ab ac ad ba bc bd ca cb cd da db dc AB BC CD ABC1 ABC2 BCD1 BCD2 T1 T2 T3 T4 T5) :
    routeS1 A B C D ab ac ad ba bc bd ca cb cd da db dc false false false = .ok T1
    ∧ routeS2 A B C D ab ac ad ba bc bd ca cb cd da db dc false false false = .ok T2
    ∧ routeS3 A B C D ab ac ad ba bc bd ca cb cd da db dc false false false = .ok T3
    ∧ routeS4 A B C D ab ac ad ba bc bd ca cb cd da db dc false false false = .ok T4
    ∧ routeS5 A B C D ab ac ad ba bc bd ca cb cd da db dc false false false = .ok T5 :=
  ⟨bind_bind_ok K.eAB K.eABC1 K.eT1, bind_bind_ok K.eBC K.eABC2 K.eT2,
    bind_bind_ok K.eAB K.eCD K.eT3, bind_bind_ok K.eBC K.eBCD1 K.eT4, bind_bind_ok K.eCD K.eBCD2 K.eT5⟩

theorem k4_flagged (hmul : ∀ x y : R, x * y = y * x) (A B C D : Arr R)
    (ab ac ad ba bc bd ca cb cd da db dc : List Nat)
    (WAB : AdmW A B ab ba) (WAC : AdmW A C ac ca) (WAD : AdmW A D ad da)
    (WBC : AdmW B C bc cb) (WBD : AdmW B D bd db) (WCD : AdmW C D cd dc)
    (hnA : (ab ++ ac ++ ad).Nodup) (hnB : (ba ++ bc ++ bd).Nodup)
    (hnC : (ca ++ cb ++ cd).Nodup) (hnD : (da ++ db ++ dc).Nodup)
    (hd : OddposP.LabelsDistinct (A.oddpos ++ B.oddpos ++ C.oddpos ++ D.oddpos)) :
    ∃ T1 : Arr R, routeS1 A B C D ab ac ad ba bc bd ca cb cd da db dc false false false = .ok T1
      ∧ T1.validB = true
      ∧ ∀ f : Fin 15 → Bool, ∃ U1 U2 U3 U4 U5 : Arr R,
        routeS1 A B C D ab ac ad ba bc bd ca cb cd da db dc (f 0) (f 1) (f 2) = .ok U1
        ∧ routeS2 A B C D ab ac ad ba bc bd ca cb cd da db dc (f 3) (f 4) (f 5) = .ok U2
        ∧ routeS3 A B C D ab ac ad ba bc bd ca cb cd da db dc (f 6) (f 7) (f 8) = .ok U3
        ∧ routeS4 A B C D ab ac ad ba bc bd ca cb cd da db dc (f 9) (f 10) (f 11) = .ok U4
        ∧ routeS5 A B C D ab ac ad ba bc bd ca cb cd da db dc (f 12) (f 13) (f 14) = .ok U5
        ∧ Eqv U1 T1 ∧ Eqv U2 T1 ∧ Eqv U3 T1 ∧ Eqv U4 T1 ∧ Eqv U5 T1
        ∧ U1.validB = true ∧ U2.validB = true ∧ U3.validB = true ∧ U4.validB = true
        ∧ U5.validB = true := by
  obtain ⟨AB, BC, CD, ABC1, ABC2, BCD1, BCD2, T1, T2, T3, T4, T5, K⟩ :=
    k4x ⟨WAB, WAC, WAD, WBC, WBD, WCD, hnA, hnB, hnC, hnD, hd⟩
  refine ⟨T1, K.routes.1, K.hv, ?_⟩
  intro f
  obtain ⟨AB1, a11, b11, v11⟩ := step (f 0) (fun _ => hmul) WAB K.h_ab (Eqv.refl A) (Eqv.refl B) WAB.va WAB.vb AB K.eAB
  obtain ⟨ABC1', a12, b12, v12⟩ := step (f 1) (fun _ => hmul) K.X.wABc K.h_ABc b11 (Eqv.refl C) v11 WBC.vb ABC1 K.eABC1
  obtain ⟨U1, a13, b13, v13⟩ := step (f 2) (fun _ => hmul) K.X.wT1 K.h_T1 b12 (Eqv.refl D) v12 WCD.vb T1 K.eT1
  obtain ⟨BC2, a21, b21, v21⟩ := step (f 3) (fun _ => hmul) WBC K.h_bc (Eqv.refl B) (Eqv.refl C) WBC.va WBC.vb BC K.eBC
  obtain ⟨ABC2', a22, b22, v22⟩ := step (f 4) (fun _ => hmul) K.X.waBC K.h_aBC (Eqv.refl A) b21 WAB.va v21 ABC2 K.eABC2
  obtain ⟨U2, a23, b23, v23⟩ := step (f 5) (fun _ => hmul) K.X.wT2 K.h_T2 b22 (Eqv.refl D) v22 WCD.vb T2 K.eT2
  obtain ⟨AB3, a31, b31, v31⟩ := step (f 6) (fun _ => hmul) WAB K.h_ab (Eqv.refl A) (Eqv.refl B) WAB.va WAB.vb AB K.eAB
  obtain ⟨CD3, a32, b32, v32⟩ := step (f 7) (fun _ => hmul) WCD K.h_cd (Eqv.refl C) (Eqv.refl D) WCD.va WCD.vb CD K.eCD
  obtain ⟨U3, a33, b33, v33⟩ := step (f 8) (fun _ => hmul) K.X.wT3 K.h_T3 b31 b32 v31 v32 T3 K.eT3
  obtain ⟨BC4, a41, b41, v41⟩ := step (f 9) (fun _ => hmul) WBC K.h_bc (Eqv.refl B) (Eqv.refl C) WBC.va WBC.vb BC K.eBC
  obtain ⟨BCD4, a42, b42, v42⟩ := step (f 10) (fun _ => hmul) K.X.wBCd K.h_BCd b41 (Eqv.refl D) v41 WCD.vb BCD1 K.eBCD1
  obtain ⟨U4, a43, b43, v43⟩ := step (f 11) (fun _ => hmul) K.X.wT4 K.h_T4 (Eqv.refl A) b42 WAB.va v42 T4 K.eT4
  obtain ⟨CD5, a51, b51, v51⟩ := step (f 12) (fun _ => hmul) WCD K.h_cd (Eqv.refl C) (Eqv.refl D) WCD.va WCD.vb CD K.eCD
  obtain ⟨BCD5, a52, b52, v52⟩ := step (f 13) (fun _ => hmul) K.X.wbCD K.h_bCD (Eqv.refl B) b51 WBC.va v51 BCD2 K.eBCD2
  obtain ⟨U5, a53, b53, v53⟩ := step (f 14) (fun _ => hmul) K.X.wT5 K.h_T5 (Eqv.refl A) b52 WAB.va v52 T5 K.eT5
  refine ⟨U1, U2, U3, U4, U5, ?_, ?_, ?_, ?_, ?_, b13.symm, b23.symm.trans K.q2, b33.symm.trans K.q3,
    b43.symm.trans K.q4, b53.symm.trans K.q5, v13, v23, v33, v43, v53⟩
  · exact bind_bind_ok a11 a12 a13
  · exact bind_bind_ok a21 a22 a23
  · exact bind_bind_ok a31 a32 a33
  · exact bind_bind_ok a41 a42 a43
  · exact bind_bind_ok a51 a52 a53

end

end Net4P
end SymmModel
