/-
  SymmModel.Proofs.LinalgLemmas — lemmas for properties C11 / C12 about `Model/Linalg.lean`
  (`qrA`, `svdA`, `applyCounts`, `eighA`, `solveA`): readings of `validB` for matrices,
  `MatBlock` / `mat_block` (one stored block of a valid matrix, facts by name), `sector_inj`.
  The facts about sorted charge maps, well-formed conjugate indices and `phase_sync` are those of
  Proofs/ValidLemmas.lean / ValidOps.lean (namespace `ValidP`); the ones the decomposition proofs
  call are re-exported here (`export ValidP (…)`) so that `open LinalgLemmas` finds them.

  VOCABULARY shared by the files for C11–C13 (Linalg*, Recon*, Decomp*; file names and namespaces
  do not say what they hold, and the numbers in `LinalgMore2…6`, `Recon2*`, `Recon3*` only count
  files).
  * Two evaluation routes.  Literal stored blocks, scalars with bare `[Zero R] [Add R] [Mul R]
    [Neg R]`: `tdot_blocks_uvw`, `matmulF_items` (Linalg*, Recon*).  Value view (`Arr.elem`) through
    the graded contraction, scalars `[AddCommMonoid R] [Mul R] [Neg R] [GradedP.SignRing R]`:
    `tensordotF_all_modes`, `Pair`, `GramPair` (Decomp*, Recon2*, Recon3*).
  * Sign laws of the scalars.  A new lemma over literal blocks takes the weakest that serves:
    a hypothesis `hn0 : -(0 : R) = 0` (only `negK_get` is needed), class `NegLaws` (`-` through
    `+`, `*` from the left: a signed LEFT operand), class `SignLaws` (`- -a = a`, `-` through `*`
    on both sides: `eigh`).  Over the value view: `GradedP.SignRing` (all of these; gives
    `Lazy.LawfulNeg`, which the `sgnI` lemmas of Proofs/LazyLemmas ask for).  A statement over
    `[CommRing R]` gets them by `negLaws_of_ring` (ReconLabels), `signRing_of_ring` (Recon3Trunc).
    Sibling property theorems differ in the carrier because their proofs need different laws
    (C11b's `solve` over `hn0`, C11e's labelled `solve` over `Lazy.LawfulNeg`).
  * Conjugation.  The model's `Blk.conjK`, `daggerF` use the class `Conj R`; sums over `Finset`
    that conjugate need a ring homomorphism `conj : R →+* R`.  Statements with both take
    `hcj : ∀ v, Conj.conj v = conj v` (Recon3Iso, Decomp*, C11f–h).
  * Column charge of a sector: `colOf s` in Proofs (lemmas `colOf_pair`, `MatBlock.col`); the
    theorems of Props/C11* write `s.getD 1 (0, 0)` or `C11.col s` — all three are `rfl`-equal.
    Diagonal sector: `ReconP.diagOf s = [colOf s, colOf s]` (an abbreviation).
  * Pending sign of sector `s` on a value: `Lazy.sgnI (Lazy.phOf ph s) v` in Proofs from LinalgMore4
    on; `Arr.elem` and the files before write the look-up out (`sgnI_phOf` is the bridge); the
    theorems of C11c, C11f say `C11.pend x s v` (`C11.pend_eq`).
  * "Factors aligned with a list of items `l`" (items = stored blocks, or kept blocks with their
    counts).  `Aligned l sec ub sb vb u sv vh` + `ItemShape`: the three svd factors store the
    blocks `ub p`, `sb p`, `vb p` (LinalgMore4; what `absorbA` needs).  `RightOf x V`: labels, bond
    direction and sign table of a right factor, nothing about blocks (ReconSvd).  `ItemProduct`:
    what is proved about the PRODUCT of aligned factors (ReconSvd).  `LeftLike x Q …`,
    `RightLike x V …`: a valid fermionic left / right factor with its blocks listed (Recon2Core;
    for `Q†Q`, `VV†` one factor suffices).  `Pair x l sec fA fB dims A B` = `LeftLike` + `RightLike`
    + `RightOf` + matching bond: the input of `tdotF_pair_any_mode`.  `GramPair`: the general
    two-matrix situation all of these instantiate.  For a new statement about a product through
    `tensordot` build a `Pair` (`factors_pair`, `truncFactors_pair`, `Pair.absorb`); through `@`,
    an `Aligned` + `RightOf`.  `leftLike_valid` / `rightLike_valid` (LinalgFactors) are validity
    lemmas for arrays of that form and do not mention the records.
-/
import SymmModel.Model.Linalg
import SymmModel.Model.Valid
import SymmModel.Proofs.ValidOps
import SymmModel.Proofs.SymLemmas
import SymmModel.Proofs.BaseBox
import SymmModel.Proofs.BaseAlist
import SymmModel.Proofs.BaseList
import SymmModel.Proofs.ArrBase
import Mathlib.Data.List.Nodup
import Mathlib.Data.List.Perm.Basic

namespace SymmModel
namespace LinalgLemmas

section Assoc
variable {κ β γ : Type} [BEq κ] [LawfulBEq κ]

theorem alookup_isSome_iff (l : List (κ × β)) (k : κ) :
    (alookup l k).isSome = true ↔ k ∈ l.map (·.1) :=
  SymmModel.alookup_isSome_iff

theorem alookup_perm {l l' : List (κ × β)} (hp : l.Perm l') (hnd : (l.map (·.1)).Nodup) (k : κ) :
    alookup l k = alookup l' k := by
  have hnd' : (l'.map (·.1)).Nodup := (hp.map _).nodup_iff.mp hnd
  cases h : alookup l k with
  | none =>
    have := alookup_eq_none_iff.mp h
    have h2 : k ∉ l'.map (·.1) := fun hm => this ((hp.map _).mem_iff.mpr hm)
    exact (alookup_eq_none_iff.mpr h2).symm
  | some v =>
    exact (alookup_of_mem_nodup hnd' (hp.mem_iff.mp (alookup_some_mem h))).symm

end Assoc


export ValidP (sortCm_perm sortCm_keys_nodup sortCm_sorted sortedCharges_iff sortedCharges_nodup)

theorem alookup_sortCm (cm : List (Charge × Nat)) (hnd : (cm.map (·.1)).Nodup) (c : Charge) :
    alookup (Index.sortCm cm) c = alookup cm c :=
  (alookup_perm (sortCm_perm cm).symm hnd c).symm

section IndexWf

theorem wfB_cm {sym : Sym} {i : Index} (h : i.wfB sym = true) :
    isSortedStrict Charge.lt (i.cm.map (·.1)) = true
    ∧ ∀ c d, (c, d) ∈ i.cm → 0 < d ∧ sym.valid c = true :=
  ⟨(Index.wfB_cm h).1, fun c d hm => (Index.wfB_cm h).2 (c, d) hm⟩

theorem wfB_plain {sym : Sym} (cm : List (Charge × Nat)) (d : Bool)
    (h1 : isSortedStrict Charge.lt (cm.map (·.1)) = true)
    (h2 : ∀ c n, (c, n) ∈ cm → 0 < n ∧ sym.valid c = true) :
    (Index.mk cm d none).wfB sym = true :=
  (ValidP.wfB_none sym cm d).mpr ⟨h1, fun p hp => h2 p.1 p.2 hp⟩

theorem wfB_keys_nodup {sym : Sym} {i : Index} (h : i.wfB sym = true) :
    (i.cm.map (·.1)).Nodup := sortedCharges_nodup (wfB_cm h).1

theorem wfListB_pair {sym : Sym} (i j : Index) :
    Index.wfListB sym [i, j] = true ↔ i.wfB sym = true ∧ j.wfB sym = true := by
  simp only [Index.wfListB, Bool.and_eq_true, Bool.and_true]

theorem wfListB_single {sym : Sym} (i : Index) :
    Index.wfListB sym [i] = true ↔ i.wfB sym = true := by
  simp only [Index.wfListB, Bool.and_true]

@[simp] theorem cm_mk (c d s) : (Index.mk c d s).cm = c := rfl
@[simp] theorem dual_mk (c d s) : (Index.mk c d s).dual = d := rfl

export ValidP (conj_wfB)

theorem conjList_wfB (sym : Sym) : (l : List Index) → Index.wfListB sym l = true →
    Index.wfListB sym (Index.conjList l) = true :=
  ValidP.conjList_wfListB sym

theorem blockShape?_conjList (subs : List Index) (ss : Sector) :
    Arr.blockShape? (Index.conjList subs) ss = Arr.blockShape? subs ss := by
  rw [Index.conjList_eq_map]; exact blockShape?_conj subs ss

end IndexWf

section ValidMat
variable {R : Type}

/-- the fermionic clause of `validB` -/
def fermiOk (a : Arr R) : Bool :=
  if a.fermi then
    allDistinct (a.phases.map (·.1))
    && a.phases.all (fun (s, p) => s.length == a.ndim && a.isValidSector s && (p == 1 || p == -1))
    && (a.oddpos.length % 2 == 1) == a.parity
  else a.phases.isEmpty && a.oddpos.isEmpty

theorem validB_iff (a : Arr R) :
    a.validB = true ↔
      Index.wfListB a.sym a.indices = true ∧ a.sym.valid a.charge = true ∧ a.sectors.Nodup ∧
      (∀ s b, (s, b) ∈ a.blocks → s.length = a.ndim ∧ a.isValidSector s = true
          ∧ Arr.blockShape? a.indices s = some b.shape ∧ b.wf = true) ∧
      fermiOk a = true := by
  unfold Arr.validB fermiOk
  simp only [Bool.and_eq_true, allDistinct_iff_nodup, List.all_eq_true, beq_iff_eq]
  constructor
  · rintro ⟨⟨⟨⟨h1, h2⟩, h3⟩, h4⟩, h5⟩
    exact ⟨h1, h2, h3, fun s b hm => by
      have := h4 (s, b) hm
      exact ⟨this.1.1.1, this.1.1.2, this.1.2, this.2⟩, h5⟩
  · rintro ⟨h1, h2, h3, h4, h5⟩
    exact ⟨⟨⟨⟨h1, h2⟩, h3⟩, fun p hm => by
      obtain ⟨s, b⟩ := p
      have := h4 s b hm
      exact ⟨⟨⟨this.1, this.2.1⟩, this.2.2.1⟩, this.2.2.2⟩⟩, h5⟩

theorem blockShape?_pair (i0 i1 : Index) (r c : Charge) (shp : List Nat) :
    Arr.blockShape? [i0, i1] [r, c] = some shp ↔
      ∃ m n, alookup i0.cm r = some m ∧ alookup i1.cm c = some n ∧ shp = [m, n] := by
  simp only [Arr.blockShape?, List.length_cons, List.length_nil, bne_self_eq_false,
    Bool.false_eq_true, if_false, List.zipWith_cons_cons, List.zipWith_nil_left, Index.sizeOf?]
  cases h0 : alookup i0.cm r <;> cases h1 : alookup i1.cm c <;>
    simp [List.mapM_cons, List.mapM_nil, eq_comm]

theorem blockShape?_single_iff (i0 : Index) (c : Charge) (shp : List Nat) :
    Arr.blockShape? [i0] [c] = some shp ↔ ∃ n, alookup i0.cm c = some n ∧ shp = [n] := by
  simp only [Arr.blockShape?, List.length_cons, List.length_nil, bne_self_eq_false,
    Bool.false_eq_true, if_false, List.zipWith_cons_cons, List.zipWith_nil_left, Index.sizeOf?]
  cases h0 : alookup i0.cm c <;> simp [List.mapM_cons, List.mapM_nil, eq_comm]

theorem length_two {α : Type} {l : List α} (h : l.length = 2) : ∃ a b, l = [a, b] :=
  List.length_eq_two.mp h

theorem length_one {α : Type} {l : List α} (h : l.length = 1) : ∃ a, l = [a] :=
  List.length_eq_one_iff.mp h

theorem combine_left_cancel (s : Sym) {x a b : Charge} (hx : s.valid x = true)
    (ha : s.valid a = true) (hb : s.valid b = true)
    (h : s.combine [x, a] = s.combine [x, b]) : a = b := by
  -- `-x + (x + c) = c`
  have key : ∀ c, s.valid c = true → s.combine [s.sign x true, s.combine [x, c]] = c := fun c hc => by
    rw [← Sym.combine_assoc s _ x c, Sym.combine_comm s _ x,
      Sym.combine_sign_cancel, Sym.combine_zero_left s c hc]
  rw [← key a ha, h, key b hb]

theorem sign_inj (s : Sym) (d : Bool) {a b : Charge} (ha : s.valid a = true) (hb : s.valid b = true)
    (h : s.sign a d = s.sign b d) : a = b := by
  rw [← Sym.sign_sign s a d ha, h, Sym.sign_sign s b d hb]

theorem sign_not (s : Sym) (c : Charge) (d : Bool) (hc : s.valid c = true) :
    s.sign c (!d) = s.sign (s.sign c d) true := by
  cases d
  · rw [Sym.sign_false]; rfl
  · rw [Sym.sign_sign s c true hc]; exact Sym.sign_false s c

theorem diag_valid (s : Sym) (c : Charge) (d : Bool) (hc : s.valid c = true) :
    s.combine [s.sign c (!d), s.sign c d] = s.zero := by
  rw [sign_not s c d hc, Sym.combine_comm, Sym.combine_sign_cancel]

theorem signed_pair_cancel (s : Sym) (d d' : Bool) {x a b : Charge} (hx : s.valid x = true)
    (ha : s.valid a = true) (hb : s.valid b = true)
    (h : s.combine [s.sign x d', s.sign a d] = s.combine [s.sign x d', s.sign b d]) : a = b :=
  sign_inj s d ha hb (combine_left_cancel s (Sym.sign_valid s x d' hx)
    (Sym.sign_valid s a d ha) (Sym.sign_valid s b d hb) h)

/-- everything `validB` says about one stored block `(s, b)` of a matrix with indices `[i0, i1]` -/
structure MatBlock (a : Arr R) (i0 i1 : Index) (s : Sector) (b : Blk R)
    (r c : Charge) (m n : Nat) : Prop where
  hs : s = [r, c]
  hr : alookup i0.cm r = some m
  hc : alookup i1.cm c = some n
  hshape : b.shape = [m, n]
  hwf : b.wf = true
  hm : 0 < m
  hn : 0 < n
  vr : a.sym.valid r = true
  vc : a.sym.valid c = true
  hcharge : a.sym.combine [a.sym.sign r i0.dual, a.sym.sign c i1.dual] = a.charge

theorem ndim_two {a : Arr R} (h : a.ndim = 2) : ∃ i0 i1, a.indices = [i0, i1] := length_two h

theorem mat_block {a : Arr R} (hv : a.validB = true) {i0 i1 : Index} (hi : a.indices = [i0, i1])
    {s : Sector} {b : Blk R} (hmem : (s, b) ∈ a.blocks) :
    ∃ r c m n, MatBlock a i0 i1 s b r c m n := by
  have hwf := Arr.validB_indices hv
  obtain ⟨hlen, hvs, hshp, hbwf⟩ := Arr.validB_block hv hmem
  rw [hi, wfListB_pair] at hwf
  have hnd : a.ndim = 2 := by simp [Arr.ndim, hi]
  rw [hnd] at hlen
  obtain ⟨r, c, rfl⟩ := length_two hlen
  rw [hi] at hshp
  obtain ⟨m, n, h0, h1, hs⟩ := (blockShape?_pair i0 i1 r c b.shape).mp hshp
  have m0 := (wfB_cm hwf.1).2 r m (alookup_some_mem h0)
  have m1 := (wfB_cm hwf.2).2 c n (alookup_some_mem h1)
  refine ⟨r, c, m, n, rfl, h0, h1, hs, hbwf, m0.1, m1.1, m0.2, m1.2, ?_⟩
  simpa [Arr.isValidSector, Arr.sectorCharge, Arr.duals, hi] using hvs

theorem block_table {a : Arr R} (hv : a.validB = true) {i0 i1 : Index} (hi : a.indices = [i0, i1])
    {r c : Charge} {b : Blk R} (hm : ([r, c], b) ∈ a.blocks) {m k : Nat} (hsh : b.shape = [m, k]) :
    alookup i0.cm r = some m ∧ alookup i1.cm c = some k := by
  obtain ⟨r', c', m', k', B⟩ := mat_block hv hi hm
  obtain ⟨rfl, rfl⟩ : r = r' ∧ c = c' := by simpa using B.hs
  obtain ⟨rfl, rfl⟩ : m' = m ∧ k' = k := by simpa using B.hshape.symm.trans hsh
  exact ⟨B.hr, B.hc⟩

theorem sector_inj {a : Arr R} (hv : a.validB = true) (h2 : a.ndim = 2)
    {s s' : Sector} (hs : s ∈ a.sectors) (hs' : s' ∈ a.sectors) :
    (s.getD 0 (0, 0) = s'.getD 0 (0, 0) → s = s') ∧ (s.getD 1 (0, 0) = s'.getD 1 (0, 0) → s = s') := by
  obtain ⟨i0, i1, hi⟩ := ndim_two h2
  obtain ⟨⟨_, b⟩, hm, rfl⟩ := List.mem_map.mp hs
  obtain ⟨⟨_, b'⟩, hm', rfl⟩ := List.mem_map.mp hs'
  obtain ⟨r, c, m, n, B⟩ := mat_block hv hi hm
  obtain ⟨r', c', m', n', B'⟩ := mat_block hv hi hm'
  have e1 := B.hs; have e2 := B'.hs
  subst e1 e2
  simp only [List.getD_cons_zero, List.getD_cons_succ]
  constructor
  · intro e; subst e
    rw [signed_pair_cancel a.sym i1.dual i0.dual B.vr B.vc B'.vc (B.hcharge.trans B'.hcharge.symm)]
  · intro e; subst e
    have h := B.hcharge.trans B'.hcharge.symm
    rw [Sym.combine_comm, Sym.combine_comm _ (a.sym.sign r' _)] at h
    rw [signed_pair_cancel a.sym i0.dual i1.dual B.vc B.vr B'.vr h]

theorem nodup_map_of_inj {α β : Type} (l : List α) (f : α → β) (hnd : l.Nodup)
    (hinj : ∀ x ∈ l, ∀ y ∈ l, f x = f y → x = y) : (l.map f).Nodup :=
  hnd.map_on hinj

theorem colCharges_nodup {a : Arr R} (hv : a.validB = true) (h2 : a.ndim = 2) :
    (a.sectors.map (fun s => s.getD 1 (0, 0))).Nodup :=
  nodup_map_of_inj _ _ (Arr.validB_nodup hv) (fun _ hx _ hy e => (sector_inj hv h2 hx hy).2 e)

theorem rowCharges_nodup {a : Arr R} (hv : a.validB = true) (h2 : a.ndim = 2) :
    (a.sectors.map (fun s => s.getD 0 (0, 0))).Nodup :=
  nodup_map_of_inj _ _ (Arr.validB_nodup hv) (fun _ hx _ hy e => (sector_inj hv h2 hx hy).1 e)

end ValidMat

section BlkLemmas
variable {R : Type}

@[simp] theorem ofFn_shape (s : List Nat) (f : List Nat → R) : (Blk.ofFn s f).shape = s := rfl

theorem zeros_wf [Zero R] (s : List Nat) : (Blk.zeros s : Blk R).wf = true := ofFn_wf s _

@[simp] theorem zeros_shape [Zero R] (s : List Nat) : (Blk.zeros s : Blk R).shape = s := rfl

@[simp] theorem sliceK_shape [Zero R] (b : Blk R) (st ln : List Nat) : (b.sliceK st ln).shape = ln := rfl

theorem sliceK_wf [Zero R] (b : Blk R) (st ln : List Nat) : (b.sliceK st ln).wf = true := ofFn_wf _ _

@[simp] theorem negK_shape [Neg R] (b : Blk R) : b.negK.shape = b.shape := rfl

theorem negK_wf [Neg R] (b : Blk R) : b.negK.wf = b.wf := by
  simp [Blk.wf, Blk.negK, Blk.map]

theorem negK_get [Zero R] [Neg R] (hneg : -(0 : R) = 0) (b : Blk R) (i : List Nat) :
    b.negK.get i = - b.get i := by
  simp only [Blk.get, Blk.negK, Blk.map, Array.getD_eq_getD_getElem?, Array.getElem?_map]
  cases b.data[ravel b.shape i]? <;> simp [hneg]

theorem inBox_pair (m n i j : Nat) : inBox [m, n] [i, j] = true ↔ i < m ∧ j < n := by
  simp [inBox]

theorem inBox_single (m i : Nat) : inBox [m] [i] = true ↔ i < m := by
  simp [inBox]

end BlkLemmas

section Phases
variable {R : Type}

/-- `a'` is `a` up to the pending signs -/
structure SignsOnly (a' a : Arr R) : Prop where
  sym : a'.sym = a.sym
  fermi : a'.fermi = a.fermi
  indices : a'.indices = a.indices
  charge : a'.charge = a.charge
  blocks : a'.blocks = a.blocks
  oddpos : a'.oddpos = a.oddpos

theorem phaseFlip_fields (a : Arr R) (axs : List Nat) : SignsOnly (a.phaseFlip axs) a := by
  unfold Arr.phaseFlip
  split <;> exact ⟨rfl, rfl, rfl, rfl, rfl, rfl⟩

theorem flip_fold_nil (odd : Sector → Bool) (ss : List Sector) (acc : List (Sector × Int))
    (hnd : (acc.map (·.1) ++ ss).Nodup) :
    ss.foldl (fun ph s =>
      if odd s then
        let np := - (alookup ph s).getD 1
        if np == 1 then aerase ph s else ainsert ph s np
      else ph) acc = acc ++ (ss.filter odd).map (fun s => (s, (-1 : Int))) := by
  induction ss generalizing acc with
  | nil => simp
  | cons s ss ih =>
    have hs : s ∉ acc.map (·.1) := by
      intro hm
      exact (List.nodup_append.mp hnd).2.2 _ hm _ List.mem_cons_self rfl
    simp only [List.foldl_cons]
    by_cases ho : odd s = true
    · have hl : alookup acc s = none := alookup_eq_none_iff.mpr hs
      simp only [ho, if_true, hl, Option.getD_none]
      have : ((-1 : Int) == 1) = false := by decide
      simp only [this, Bool.false_eq_true, if_false]
      rw [ainsert_of_not_mem acc s (-1) hs, ih _ (by simpa using hnd)]
      simp [ho]
    · simp only [ho, Bool.false_eq_true, if_false]
      rw [ih acc (by
        have := hnd
        rw [List.nodup_append] at this ⊢
        exact ⟨this.1, (List.nodup_cons.mp this.2.1).2,
          fun a ha b hb => this.2.2 a ha b (List.mem_cons_of_mem _ hb)⟩)]
      simp [ho]

theorem phaseFlip0_phases (a : Arr R) (hp : a.phases = []) (hnd : a.sectors.Nodup) :
    (a.phaseFlip [0]).phases
      = (a.sectors.filter (fun s => a.sym.parity (s.getD 0 (0, 0)))).map (fun s => (s, (-1 : Int))) := by
  unfold Arr.phaseFlip
  simp only [List.isEmpty_cons, Bool.false_eq_true, if_false, hp]
  have h := flip_fold_nil (fun s => a.sym.parity (s.getD 0 (0, 0))) a.sectors [] (by simpa using hnd)
  simp only [List.nil_append] at h
  rw [← h]
  congr 1
  funext ph s
  simp only [List.filter_cons, List.filter_nil]
  cases a.sym.parity (s.getD 0 (0, 0)) <;> simp

theorem phaseSync_sectors [Neg R] (a : Arr R) : a.phaseSync.sectors = a.sectors := by
  simp only [Arr.phaseSync, Arr.sectors, List.map_map]
  apply List.map_congr_left
  intro p _
  obtain ⟨s, b⟩ := p
  simp only [Function.comp]
  split <;> rfl

theorem phaseSync_mem [Neg R] {a : Arr R} {s : Sector} {b' : Blk R}
    (h : (s, b') ∈ a.phaseSync.blocks) :
    ∃ b, (s, b) ∈ a.blocks ∧ (b' = b ∨ b' = b.negK) := by
  simp only [Arr.phaseSync, List.mem_map] at h
  obtain ⟨⟨s0, b0⟩, hm, e⟩ := h
  simp only at e
  split at e
  · cases e
    exact ⟨b0, hm, Or.inr rfl⟩
  · cases e
    exact ⟨_, hm, Or.inl rfl⟩

theorem phaseSync_valid [Neg R] (a : Arr R) (hv : a.validB = true) : a.phaseSync.validB = true :=
  (ValidP.validB_iff _).mpr (ValidP.phaseSync_valid a ((ValidP.validB_iff a).mp hv))

end Phases

end LinalgLemmas
end SymmModel
