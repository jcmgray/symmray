/-
  SymmModel.Proofs.FuseCommuteI5 — `layout_core` (FuseCommuteI4) with the other operand's free part
  IN FRONT: the group of free legs belongs to the RIGHT operand, so its legs in the result are offset
  by the number of the left operand's free legs.  Namespace `SymmModel.TdotP`.
-/
import SymmModel.Proofs.FuseCommuteI4

namespace SymmModel
namespace TdotP
open AssocP RoutesP
variable {R : Type}

section Layout
variable {X : Arr R} {g xa : List Nat}

theorem layout_right {α : Type} (h : OneOk X g) (hxaF : ∀ x ∈ xa, x < X.ndim ∧ x ∉ g)
    {V' V : List α} (Ls : List α) (hV' : V'.length = FuseP.ndimM X [g]) (hV : V.length = X.ndim)
    (hf : permuted V' (freeAxes (FuseP.ndimM X [g]) [(FuseP.giM X [g]).position])
      = permuted V (freeAxes X.ndim g)) :
    permuted (Ls ++ permuted V' (freeAxes (FuseP.ndimM X [g]) (xa.map (shiftAxes X g))))
        (freeAxes (Ls.length + (freeAxes (FuseP.ndimM X [g]) (xa.map (shiftAxes X g))).length)
          [Ls.length
            + (freeAxes (FuseP.ndimM X [g]) (xa.map (shiftAxes X g))).idxOf (FuseP.giM X [g]).position])
      = permuted (Ls ++ permuted V (freeAxes X.ndim xa))
          (freeAxes (Ls.length + (freeAxes X.ndim xa).length)
            (g.map (fun x => Ls.length + (freeAxes X.ndim xa).idxOf x))) := by
  have e1 : ([Ls.length
      + (freeAxes (FuseP.ndimM X [g]) (xa.map (shiftAxes X g))).idxOf (FuseP.giM X [g]).position] : List Nat)
      = [(freeAxes (FuseP.ndimM X [g]) (xa.map (shiftAxes X g))).idxOf (FuseP.giM X [g]).position].map
          (Ls.length + ·) := rfl
  have e2 : g.map (fun x => Ls.length + (freeAxes X.ndim xa).idxOf x)
      = (g.map (fun x => (freeAxes X.ndim xa).idxOf x)).map (Ls.length + ·) := by
    rw [List.map_map]; rfl
  rw [e1, e2, AssocP.freeAxes_shift, AssocP.freeAxes_shift, AssocP.permuted_append_id_shift,
    AssocP.permuted_append_id_shift,
    layout_core h hxaF hV' hV hf]

theorem layout_right_pos {α : Type} (d : α) (h : OneOk X g) (hxaF : ∀ x ∈ xa, x < X.ndim ∧ x ∉ g)
    {V' : List α} (Ls : List α) (hV' : V'.length = FuseP.ndimM X [g]) :
    (Ls ++ permuted V' (freeAxes (FuseP.ndimM X [g]) (xa.map (shiftAxes X g)))).getD
        (Ls.length
          + (freeAxes (FuseP.ndimM X [g]) (xa.map (shiftAxes X g))).idxOf (FuseP.giM X [g]).position) d
      = V'.getD (FuseP.giM X [g]).position d := by
  have := layout_left_pos d h hxaF ([] : List α) hV'
  rw [List.append_nil] at this
  rw [← this, List.getD_eq_getElem?_getD, List.getD_eq_getElem?_getD,
    List.getElem?_append_right (by omega), Nat.add_sub_cancel_left]

end Layout

end TdotP
end SymmModel
