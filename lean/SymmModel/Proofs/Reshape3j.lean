/-
  SymmModel.Proofs.Reshape3j — C07 for fermionic (and abelian) arrays: a certified reshape plan,
  executed with the dispatching `unfuse` / `fuse` / `expand_dims`, keeps the content up to signs,
  returns a valid array with the requested number of axes; hence `reshape` itself keeps the content up
  to signs, with the planner certificate discharged by the unbounded planner theorem.
-/
import SymmModel.Proofs.Reshape3h
import SymmModel.Proofs.Reshape3g

namespace SymmModel
namespace ReshapeP
open C07 Reshape3

variable {R : Type}

theorem unfuseDispatch_abs [Zero R] [Neg R] {st st' : SymShape} {x x' : Arr R} {ax : Nat}
    (hI : ValidP.Sim st x ∧ ValidP.Valid x) (hu : symUnfuse st ax = some st')
    (h : unfuseDispatch x ax = .ok x') :
    (ValidP.Sim st' x' ∧ ValidP.Valid x') ∧ SameAbs x x' := by
  obtain ⟨hs, hv⟩ := hI
  refine ⟨⟨(ValidP.unfuseDispatch_sim hs hu h).1, ValidP.unfuseDispatch_valid x x' ax hv h⟩, ?_⟩
  have hvb := (ValidP.validB_iff x).2 hv
  unfold unfuseDispatch at h
  split at h
  · exact unfuseF_sameAbs x x' ax hvb h
  · exact (unfuseA_sameContent x x' ax hvb h).abs

theorem fuseDispatch_abs [Zero R] [Neg R] {st st' : SymShape} {x x' : Arr R} {groups : List (List Nat)}
    (hI : ValidP.Sim st x ∧ ValidP.Valid x) (hu : symFuse st groups = some st')
    (h : fuseDispatch x groups = .ok x') :
    (ValidP.Sim st' x' ∧ ValidP.Valid x') ∧ SameAbs x x' := by
  obtain ⟨hs, hv⟩ := hI
  have hadm := ValidP.fuseAdmissible_of_symFuse hu hs.ndim_eq
  refine ⟨⟨(ValidP.fuseDispatch_sim hs hu h).1, ValidP.fuseDispatch_valid x x' groups hv hadm h⟩, ?_⟩
  have hvb := (ValidP.validB_iff x).2 hv
  have hokB : FuseP.groupsOkB groups x.ndim = true :=
    FuseP.groupsOk_iff.2 (groupsOk_of_symFuse hu hs.ndim_eq)
  unfold fuseDispatch at h
  split at h
  · rename_i hf; exact fuseF_sameAbs x x' groups true hvb hf hokB h
  · rename_i hf
    exact (fuseA_sameContent x x' groups true hvb (by simpa using hf) hokB h).abs

theorem expandDispatch_abs [Zero R] [Neg R] {st st' : SymShape} {x x' : Arr R} {ax : Nat}
    (hI : ValidP.Sim st x ∧ ValidP.Valid x) (hu : symExpand st ax = some st')
    (h : expandDispatch x ax = .ok x') :
    (ValidP.Sim st' x' ∧ ValidP.Valid x') ∧ SameAbs x x' := by
  obtain ⟨hs, hv⟩ := hI
  refine ⟨⟨(ValidP.expandDispatch_sim hs hu h).1, ValidP.expandDispatch_valid x x' ax hv h⟩, ?_⟩
  unfold expandDispatch at h
  split at h
  · cases h
  · simp only [pure, Except.pure, Except.ok.injEq] at h
    subst h
    have hva := FuseP.validArr_of_validB ((ValidP.validB_iff x).2 hv)
    exact (expandDims_sameContent x ax none none hva.nodup).abs

theorem applyPlan_abs [Zero R] [Neg R] (a r : Arr R)
    (t : List Nat × List (List (List Nat)) × List Nat) (ns : List Nat) (hv : a.validB = true)
    (hwf : (Plan.ofTriple t).wfB a.shape a.subsizes ns = true) (h : applyPlan a t = .ok r) :
    SameAbs a r ∧ r.validB = true ∧ r.ndim = ns.length ∧ r.fermi = a.fermi := by
  obtain ⟨_, _, _, _, hfe⟩ := ValidP.applyPlan_sim_of_certificate a r t ns hwf h
  obtain ⟨_, st3, hexec, _⟩ := wfB_iff.mp hwf
  obtain ⟨⟨_, hv3⟩, hc⟩ := applyPlan_lockstep (I := fun st x => ValidP.Sim st x ∧ ValidP.Valid x)
    SameAbs.refl SameAbs.trans (fun _ _ _ _ _ hI => unfuseDispatch_abs hI)
    (fun _ _ _ _ _ hI => fuseDispatch_abs hI) (fun _ _ _ _ _ hI => expandDispatch_abs hI)
    ⟨ValidP.sim_init a, (ValidP.validB_iff a).1 hv⟩ hexec h
  exact ⟨hc, (ValidP.validB_iff r).2 hv3, ValidP.applyPlan_ndim_of_certificate a r t ns hwf h, hfe⟩


/-- the non-zero magnitudes `m entry` of the stored entries, block after block -/
def magEntries {S : Type} [Zero S] [DecidableEq S] (m : R → S) (a : Arr R) : List S :=
  a.blocks.flatMap (fun p => (p.2.data.toList.map m).filter (fun r => decide (r ≠ 0)))

theorem reshapeArr_abs [Zero R] [Neg R] (a r : Arr R) (ns full : List Int) (nsN : List Nat)
    (t : List Nat × List (List (List Nat)) × List Nat) (hv : a.validB = true)
    (h1 : findFullReshape ns a.size = .ok full)
    (h2 : full.mapM (fun (d : Int) => if d < 0 then (throw Err.notimpl : Except Err Nat) else pure d.toNat)
      = .ok nsN)
    (h3 : calcReshapeArgs a.shape nsN a.subsizes = .ok t)
    (hwf : (Plan.ofTriple t).wfB a.shape a.subsizes nsN = true)
    (h : reshapeArr a ns = .ok r) :
    SameAbs a r ∧ r.validB = true ∧ r.ndim = nsN.length ∧ r.fermi = a.fermi := by
  rw [reshapeArr_eq a ns full nsN t h1 h2 h3] at h
  exact applyPlan_abs a r t nsN hv hwf h

theorem shape_subsizes_length (a : Arr R) : a.shape.length = a.subsizes.length := by
  simp [Arr.shape, Arr.subsizes]

theorem reshape_plan_certified (a : Arr R) (nsN : List Nat)
    (t : List Nat × List (List (List Nat)) × List Nat)
    (hdense : denseB a.shape a.subsizes = true) (hpos : ∀ d ∈ a.shape, 0 < d)
    (hprod : prod a.shape = prod nsN) (h3 : calcReshapeArgs a.shape nsN a.subsizes = .ok t) :
    (Plan.ofTriple t).wfB a.shape a.subsizes nsN = true :=
  planner_wf_of_prod a.shape nsN a.subsizes (shape_subsizes_length a) hdense hpos hprod t h3

theorem denseB_unfused (a : Arr R) (h : ∀ ix ∈ a.indices, ix.sub = none) :
    denseB a.shape a.subsizes = true := by
  rw [subsizes_nones a h]; exact denseB_nones _

end ReshapeP
end SymmModel
