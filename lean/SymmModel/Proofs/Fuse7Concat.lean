/-
  SymmModel.Proofs.Fuse7Concat — `fuseConcat` for arbitrary groups as a pure function: group the
  reshaped blocks by new sector and sub-sectors, then the nested concatenation per new sector.
-/
import SymmModel.Proofs.Fuse7Shape
namespace SymmModel
namespace FuseP
set_option linter.unusedSectionVars false

variable {R : Type} [Zero R]

section
variable (a : Arr R) (groups : List (List Nat))

def toGItemM (sb : Sector × Blk R) : GItem R :=
  ((planM a groups sb).newSector, (planM a groups sb).subsectors,
   (sb.2.transposeK (giM a groups).perm).reshapeK (planM a groups sb).newShape)

def groupedM : List (Sector × List (List Sector × Blk R)) := grpFold (a.blocks.map (toGItemM a groups))

/-- the shape of a missing sub-block -/
def zsM (ns : Sector) (key : List Sector) : List Nat :=
  (List.range (ndimM a groups)).map (fun ax =>
    if axMulti a groups ax then
      ((startOf (extM a groups ns (ax - (giM a groups).position)) (key.getD (ax - (giM a groups).position) [])).getD
        (0, 0)).2
    else (shapeOfM a groups ns).getD ax 0)

def concatBlocksM : List (Sector × Blk R) :=
  (groupedM a groups).map (fun p =>
    (p.1, nest (leafM p.2 (zsM a groups p.1)) (lvFrom a groups p.1 0 groups.length) []))

variable {a groups}

theorem blockShape?_getD {idx : List Index} {s : Sector} {shp : List Nat} (h : Arr.blockShape? idx s = some shp)
    {ax : Nat} (hax : ax < idx.length) :
    (idx.getD ax default).sizeOf? (s.getD ax (0, 0)) = some (shp.getD ax 0) := by
  obtain ⟨ix, c, _, _, h3, h4, h5⟩ := blockShape?_get h hax
  rw [h4, h5, h3]

theorem gitemsM_distinct (hv : ValidArr a) (hok : GroupsAdm groups a.ndim) :
    (a.blocks.map (toGItemM a groups)).Pairwise GDistinct := by
  rw [List.pairwise_map]
  have hnd : a.blocks.Pairwise (fun x y => x.1 ≠ y.1) := by
    have := hv.nodup
    rwa [List.Nodup, List.pairwise_map] at this
  apply List.Pairwise.imp_of_mem _ hnd
  intro x y hx hy hne ⟨h1, h2⟩
  apply hne
  apply permM_sector_ext hv hok hx hy h1
  intro g _ _
  have h2' : (planM a groups x).subsectors = (planM a groups y).subsectors := h2
  simp only [ssM, h2']

theorem groupedM_inv (hv : ValidArr a) (hok : GroupsAdm groups a.ndim) :
    GrpInv (a.blocks.map (toGItemM a groups)) (groupedM a groups) :=
  grpFold_inv _ (gitemsM_distinct hv hok)

theorem bind_eq_ok {ε α β : Type} {x : Except ε α} {k : α → Except ε β} {v : α} {r : β}
    (hx : x = .ok v) (hk : k v = .ok r) : x >>= k = .ok r := by
  rw [hx]; exact hk

variable (a groups) in
/-- the closure `zeroShapeOf` of `fuseConcat` (Model/Fuse.lean), verbatim: the shape of the block of zeros
    that `_get_subblock` builds for a missing sub-sector in `_fuse_blocks_via_concat` (abelian_core.py) -/
def zeroShapeE (ns : Sector) (subkey : List Sector) : Except Err (List Nat) := do
  let sz (ax : Nat) (pos : Nat) : Except Err Nat :=
    match (a.indices.getD ax default).sizeOf? (ns.getD pos (0, 0)) with
    | some d => pure d
    | none => throw Err.key
  let before ← (fuseInfoOf a groups).gi.axesBefore.zipIdx.mapM (fun (ax, k) => sz ax k)
  let mid ← subkey.zipIdx.mapM (fun (ss, g) =>
    let ix := (fuseInfoOf a groups).newIndices.getD ((fuseInfoOf a groups).gi.position + g) default
    let c := ns.getD ((fuseInfoOf a groups).gi.position + g) (0, 0)
    if (fuseInfoOf a groups).gi.singlets.contains g then
      match ix.sizeOf? c with
      | some d => pure d
      | none => throw Err.key
    else match extentStart? ix c ss with
      | some (_, d) => pure d
      | none => throw Err.key)
  let after ← (fuseInfoOf a groups).gi.axesAfter.zipIdx.mapM (fun (ax, k) =>
    sz ax ((fuseInfoOf a groups).gi.position + (fuseInfoOf a groups).gi.numGroups + k))
  pure (before ++ mid ++ after)

theorem zeroShape_ok (hv : ValidArr a) (hok : GroupsAdm groups a.ndim) {sb0 : Sector × Blk R} (hsb0 : sb0 ∈ a.blocks)
    (qs : List (Sector × Nat))
    (hqs : Choice (lvFrom a groups (planM a groups sb0).newSector 0 groups.length) qs) :
    zeroShapeE a groups (planM a groups sb0).newSector (qs.map (·.1))
      = .ok (zsM a groups (planM a groups sb0).newSector (qs.map (·.1))) := by
  -- `zeroShapeE` is three `mapM`s: the axes before the groups, one entry per group, the axes after.  Each is shown to
  -- return (`mapM_ok_of_forall`) with its values named in advance: away from the multi-axis groups the size that the
  -- shape of a STORED block of this sector has there (`blockShape?_getD` on `shape_storedM`); on a multi-axis group
  -- the size of the chosen sub-sector in the extent, found because a choice is a member of the extent (`choice_mem`).
  -- `?parts`: the three lists, put together, are `zsM`.
  have hbase := shape_storedM hv hok hsb0
  have hsh : shapeOfM a groups (planM a groups sb0).newSector = BshM a groups sb0 := by
    simp only [shapeOfM, hbase, Option.getD_some]
  have hN : (newIdxM a groups).length = ndimM a groups := newIdxM_length hok
  have hgi : (fuseInfoOf a groups).gi = giM a groups := rfl
  have hni : (fuseInfoOf a groups).newIndices = newIdxM a groups := rfl
  have hql : qs.length = groups.length := (choice_length _ _ hqs).trans (lvFrom_length _ _ _)
  have hpl : (giM a groups).axesBefore.length = (giM a groups).position := axesBefore_length _ _
  unfold zeroShapeE
  simp only [hgi, hni, numGroups_eq]
  refine bind_eq_ok (mapM_ok_of_forall _ (fun p : Nat × Nat => (BshM a groups sb0).getD p.2 0) _ ?before)
    (bind_eq_ok (mapM_ok_of_forall _ (fun p : Sector × Nat =>
        if multiB groups p.2 then
          ((startOf (extM a groups (planM a groups sb0).newSector p.2) p.1).getD (0, 0)).2
        else (BshM a groups sb0).getD ((giM a groups).position + p.2) 0) _ ?mid)
      (bind_eq_ok (mapM_ok_of_forall _ (fun p : Nat × Nat =>
        (BshM a groups sb0).getD ((giM a groups).position + groups.length + p.2) 0) _ ?after) ?parts))
  case before =>
    intro p hp
    obtain ⟨ax, k⟩ := p
    have hm := List.mem_zipIdx hp
    simp only [Nat.zero_add, Nat.sub_zero] at hm
    simp only []
    have hkp : k < (giM a groups).position := by
      have := hm.2.1; rwa [hpl] at this
    have hlt : k < (newIdxM a groups).length := by rw [hN]; simp only [ndimM]; omega
    have h1 := blockShape?_getD hbase hlt
    rw [newIdxM_before hok hkp] at h1
    have hax : ax = k := by
      rw [hm.2.2]
      simp only [axesBefore_range _ _, List.getElem_range]
    rw [hax, h1]
    rfl
  case mid =>
    intro p hp
    obtain ⟨ss, g⟩ := p
    have hm := List.mem_zipIdx hp
    simp only [Nat.zero_add, Nat.sub_zero, List.length_map] at hm
    have hgl : g < groups.length := by rw [← hql]; exact hm.2.1
    have hsing := singlets_not_multiB (a := a) hgl
    have hix : (newIdxM a groups).getD ((giM a groups).position + g) default = ixM a groups g := rfl
    simp only [hsing, hix]
    cases hmg : multiB groups g with
    | false =>
      simp only [Bool.not_false, if_true, Bool.false_eq_true, if_false]
      have hlt : (giM a groups).position + g < (newIdxM a groups).length := by
        rw [hN]; simp only [ndimM]; omega
      have h1 := blockShape?_getD hbase hlt
      rw [hix] at h1
      rw [h1]
      rfl
    | true =>
      simp only [Bool.not_true, Bool.false_eq_true, if_false, if_true]
      obtain ⟨gaxes, hgx, hlen⟩ := multiB_iff.1 hmg
      obtain ⟨e, D, _, he, _, _, _⟩ := stored_in_tableM hv hok hgx hlen hsb0
      have he' : alookup (extsM a groups g) ((planM a groups sb0).newSector.getD ((giM a groups).position + g) (0, 0))
          = some e := he
      rw [extentStart?_eq (ixM_sub hok hgx hlen) he']
      have hmem := choice_mem _ qs hqs g _ _
        (by rw [lvFrom_getElem?, if_pos hgl, Nat.zero_add, lvlM, if_pos hmg])
      have hext : extM a groups (planM a groups sb0).newSector g = e := by simp only [extM, he', Option.getD_some]
      rw [hext] at hmem ⊢
      have hss : ss = (qs.getD g ([], 0)).1 := by
        have := hm.2.2
        simp only [List.getElem_map] at this
        rw [this]
        simp only [List.getD_eq_getElem?_getD, List.getElem?_eq_getElem (hql ▸ hgl), Option.getD_some]
      obtain ⟨st, d, hst⟩ := startOf_isSome_of_mem (ext := e) (ss := ss)
        (by rw [hss]; exact List.mem_map.2 ⟨_, hmem, rfl⟩)
      rw [hst]
      rfl
  case after =>
    intro p hp
    obtain ⟨ax, k⟩ := p
    have hm := List.mem_zipIdx hp
    simp only [Nat.zero_add, Nat.sub_zero] at hm
    simp only []
    have hlt : (giM a groups).position + groups.length + k < (newIdxM a groups).length := by
      rw [hN]; simp only [ndimM]; omega
    have h1 := blockShape?_getD hbase hlt
    rw [newIdxM_after hok hm.2.1] at h1
    have hax : (giM a groups).axesAfter.getD k 0 = ax := by
      rw [hm.2.2]; simp [List.getD_eq_getElem?_getD, List.getElem?_eq_getElem hm.2.1]
    rw [hax] at h1
    rw [h1]
    rfl
  case parts =>
    have hzl : (zsM a groups (planM a groups sb0).newSector (qs.map (·.1))).length
        = (giM a groups).position + groups.length + (giM a groups).axesAfter.length := by
      simp only [zsM, List.getD_eq_getElem?_getD, List.getElem?_map, ndimM, List.length_map, List.length_range]
    refine congrArg Except.ok (Eq.trans ?_ (three_parts _ 0 _ _ _ hzl).symm)
    refine congrArg₂ (· ++ ·) (congrArg₂ (· ++ ·) ?_ ?_) ?_
    · rw [zipIdx_map_eq_range_map _ 0, hpl]
      apply List.map_congr_left
      intro x hx
      simp only [List.mem_range] at hx
      simp only [zsM]
      rw [getD_range_map _ _ _ _ (by simp only [ndimM]; omega), axMulti_before hx]
      simp only [Bool.false_eq_true, if_false, hsh]
    · rw [zipIdx_map_eq_range_map _ [], List.length_map, hql]
      apply List.map_congr_left
      intro g hg
      simp only [List.mem_range] at hg
      simp only [zsM]
      rw [getD_range_map _ _ _ _ (by simp only [ndimM]; omega), axMulti_mid hg, Nat.add_sub_cancel_left]
      simp only [hsh]
    · rw [zipIdx_map_eq_range_map _ 0]
      apply List.map_congr_left
      intro j hj
      simp only [List.mem_range] at hj
      simp only [zsM]
      rw [getD_range_map _ _ _ _ (by simp only [ndimM]; omega), axMulti_after]
      simp only [Bool.false_eq_true, if_false, hsh]

theorem fuseConcat_multi_eq (hv : ValidArr a) (hok : GroupsAdm groups a.ndim) (hne : groups ≠ []) :
    fuseConcat a.indices a.blocks (fuseInfoOf a groups) = .ok (concatBlocksM a groups) := by
  unfold fuseConcat
  have hfi : (fuseInfoOf a groups).blockmap = blockmapOf a groups := rfl
  have hgi : (fuseInfoOf a groups).gi = giM a groups := rfl
  have hni : (fuseInfoOf a groups).newIndices = newIdxM a groups := rfl
  obtain ⟨n', hn'⟩ : ∃ n', groups.length = n' + 1 := by
    cases groups with
    | nil => exact absurd rfl hne
    | cons g gs => exact ⟨gs.length, rfl⟩
  rw [foldlM_ok _ (fun acc sb => grpStep acc (toGItemM a groups sb))]
  · simp only [bind, Except.bind]
    rw [← List.foldl_map (f := toGItemM a groups) (g := grpStep)]
    show List.mapM _ (groupedM a groups) = _
    apply mapM_ok_of_forall
    intro p hp
    obtain ⟨ns, sub⟩ := p
    -- the new sector comes from a stored block
    show (do let b ← recurseConcat (fuseInfoOf a groups) sub ns (zeroShapeE a groups ns)
                (fuseInfoOf a groups).gi.numGroups 0 []
             pure (ns, b)) = _
    have hinv := groupedM_inv hv hok
    have hk : ns ∈ (a.blocks.map (toGItemM a groups)).map (·.1) :=
      (hinv.keys ns).1 (List.mem_map.2 ⟨_, hp, rfl⟩)
    simp only [List.map_map, List.mem_map, Function.comp] at hk
    obtain ⟨sb0, hsb0, hns⟩ := hk
    have hns' : (planM a groups sb0).newSector = ns := hns
    subst hns'
    have hext : ∀ g, g < groups.length → multiB groups g = true →
        (alookup (extsM a groups g) ((planM a groups sb0).newSector.getD ((giM a groups).position + g) (0, 0))).isSome
          = true := by
      intro g hg hm
      obtain ⟨gaxes, hgx, hlen⟩ := multiB_iff.1 hm
      obtain ⟨e, D, _, he, _, _, _⟩ := stored_in_tableM hv hok hgx hlen hsb0
      have he' : alookup (extsM a groups g)
          ((planM a groups sb0).newSector.getD ((giM a groups).position + g) (0, 0)) = some e := he
      rw [he']; rfl
    have hnum : (fuseInfoOf a groups).gi.numGroups = n' + 1 := hn'
    rw [hnum]
    have := recurse_eq hok sub (planM a groups sb0).newSector (zeroShapeE a groups (planM a groups sb0).newSector)
      (zsM a groups (planM a groups sb0).newSector) hext n' 0 [] (by omega) (by
        intro qs hqs
        rw [← hn'] at hqs
        simpa only [List.nil_append] using zeroShape_ok hv hok hsb0 qs hqs)
    rw [this, hn']
    rfl
  · intro acc sb hsb
    obtain ⟨s, b⟩ := sb
    simp only []
    rw [hfi, alookup_blockmapM hv hsb, hgi]
    rfl

end

end FuseP
end SymmModel
