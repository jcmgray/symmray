/-
  SymmModel.Proofs.ValidMore2Prog — programs over every public operation that the quantifier of
  property C01 names preserve validity.  `OpAll R` extends `Op R` (Proofs/ValidProg.lean) by fuse in
  concat mode, einsum, reshape, solve, svd_truncated and the second component of align_axes
  (`alignR`; `alignL` is `Op.dropMisaligned` again, so that both components read alike); `Ctor R`
  lists the ways of building the first array.  `Op`, `Prog.run` and `Prog.run_valid` of ValidProg
  are the base case (`OpAll.base`): Props/C01.lean states `Prog.preserves_valid` over `Op`,
  Props/C01b.lean `Prog.preserves_valid_all` over `OpAll`.  `fill_missing_blocks`,
  `drop_missing_blocks` and `_map_blocks` are not steps of a program; validity of the first two is
  `C08.fillMissing_valid`, `C08.dropMissing_valid` (Props/C08g.lean); `_map_blocks` on its own
  is covered for a shape-preserving block function without re-keying
  (`LinalgLemmas.mapBlocks_valid`, Proofs/LinalgSolve.lean), and through `expand_dims` and `squeeze`,
  which re-key with it and are steps.
-/
import SymmModel.Proofs.ValidProg
import SymmModel.Proofs.ValidMore2Reshape
import SymmModel.Proofs.ValidMore2Linalg
import SymmModel.Proofs.ValidMore2Einsum
import SymmModel.Proofs.ValidMore2Construct
import SymmModel.Proofs.ValidMore2Concat
import SymmModel.Proofs.ValidMore2Cert

namespace SymmModel
namespace ValidP

variable {R : Type}

inductive OpAll (R : Type) where
  | base (op : Op R)
  | reshape (newshape : List Int)
  | einsum (lhs rhs : List Nat)
  | fuseConcat (groups : List (List Nat)) (expandEmpty : Bool)
  | solve (K : Kernels R) (b : Arr R)
  | svdTruncU (K : Kernels R) (counts : List Nat)
  | svdTruncV (K : Kernels R) (counts : List Nat)
  | alignL (b : Arr R) (axesA axesB : List Nat)
  | alignR (a : Arr R) (axesA axesB : List Nat)

def OpAll.admissible [Zero R] [Neg R] : OpAll R → Arr R → Bool
  | .base op, a => op.admissible a
  | .reshape ns, a => reshapeAdmissibleB a ns
  | .einsum lhs rhs, a => einsumAdmissibleB a lhs rhs
  | .fuseConcat groups _, a => fuseAdmissibleB groups a.ndim
  | .solve _ b, a => solveAdmissibleB a b
  | .svdTruncU K counts, a => svdTruncAdmissibleB K a counts
  | .svdTruncV K counts, a => svdTruncAdmissibleB K a counts
  | .alignL b _ _, _ => b.validB
  | .alignR a _ _, _ => a.validB

def OpAll.KernelOk : OpAll R → Prop
  | .base op => op.KernelOk
  | .solve K _ => K.ShapeOk
  | .svdTruncU K _ => K.ShapeOk
  | .svdTruncV K _ => K.ShapeOk
  | _ => True

def OpAll.apply [Zero R] [Add R] [Mul R] [Neg R] [Conj R] : OpAll R → Arr R → Except Err (Arr R)
  | .base op, a => op.apply a
  | .reshape ns, a => reshapeArr a ns
  | .einsum lhs rhs, a => if a.fermi then a.einsumF lhs rhs else einsumA a lhs rhs
  | .fuseConcat groups expandEmpty, a =>
      if a.fermi then a.fuseF groups .concat expandEmpty else fuseA a groups .concat expandEmpty
  | .solve K b, a => solveA K a b
  | .svdTruncU K counts, a => do
      let (u, s, vh) ← svdA K a
      pure (applyCounts u s vh counts).1
  | .svdTruncV K counts, a => do
      let (u, s, vh) ← svdA K a
      pure (applyCounts u s vh counts).2.2
  | .alignL b axesA axesB, a => pure (dropMisaligned a b axesA axesB).1
  | .alignR a axesA axesB, b => pure (dropMisaligned a b axesA axesB).2

theorem OpAll.apply_valid [Zero R] [Add R] [Mul R] [Neg R] [Conj R] (op : OpAll R) (a r : Arr R)
    (hv : Valid a) (hK : op.KernelOk) (hadm : op.admissible a = true)
    (h : op.apply a = .ok r) : Valid r := by
  cases op with
  | base op => exact op.apply_valid a r hv hK hadm h
  | reshape ns => exact reshapeArr_valid a r ns hv hadm h
  | einsum lhs rhs =>
    simp only [OpAll.apply] at h
    split at h
    · rename_i hf; exact einsumF_valid a r lhs rhs hv hf hadm h
    · rename_i hf; exact einsumA_valid a r lhs rhs hv (by simpa using hf) hadm h
  | fuseConcat groups expandEmpty =>
    simp only [OpAll.apply] at h
    split at h
    · rename_i hf; exact fuseF_concat_valid a r groups expandEmpty hv hf hadm h
    · rename_i hf; exact fuseA_concat_valid a r groups expandEmpty hv (by simpa using hf) hadm h
  | solve K b =>
    exact (validB_iff r).mp (solve_valid K hK a b r ((validB_iff a).mpr hv) hadm h)
  | svdTruncU K counts =>
    simp only [OpAll.apply] at h
    obtain ⟨⟨u, s, vh⟩, husv, h⟩ := bind_ok h
    simp only [pure, Except.pure, Except.ok.injEq] at h
    subst h
    exact (validB_iff _).mp (svdTrunc_valid K hK a u vh s counts ((validB_iff a).mpr hv) hadm husv).1
  | svdTruncV K counts =>
    simp only [OpAll.apply] at h
    obtain ⟨⟨u, s, vh⟩, husv, h⟩ := bind_ok h
    simp only [pure, Except.pure, Except.ok.injEq] at h
    subst h
    exact (validB_iff _).mp (svdTrunc_valid K hK a u vh s counts ((validB_iff a).mpr hv) hadm husv).2
  | alignL b axesA axesB =>
    simp only [OpAll.apply, pure, Except.pure, Except.ok.injEq] at h
    subst h
    exact (dropMisaligned_valid a b axesA axesB hv ((validB_iff b).mp hadm)).1
  | alignR a0 axesA axesB =>
    simp only [OpAll.apply, pure, Except.pure, Except.ok.injEq] at h
    subst h
    exact (dropMisaligned_valid a0 a axesA axesB ((validB_iff a0).mp hadm) hv).2

def OpAll.step [Zero R] [Add R] [Mul R] [Neg R] [Conj R] (op : OpAll R) (a : Arr R) :
    Except Err (Arr R) :=
  if op.admissible a then op.apply a else throw Err.value

theorem OpAll.step_valid [Zero R] [Add R] [Mul R] [Neg R] [Conj R] (op : OpAll R) (a r : Arr R)
    (hv : Valid a) (hK : op.KernelOk) (h : op.step a = .ok r) : Valid r := by
  unfold OpAll.step at h
  split at h
  · rename_i hadm; exact op.apply_valid a r hv hK hadm h
  · cases h

/-- the ways of obtaining the first array of a program -/
inductive Ctor (R : Type) where
  | given (a : Arr R)
  | construct (sym : Sym) (fermi : Bool) (indices : List Index) (charge : Option Charge)
      (blocks : List (Sector × Blk R)) (oddpos : List (Int × Bool))
  | fromBlocks (sym : Sym) (fermi : Bool) (blocks : List (Sector × Blk R)) (duals : List Bool)
      (charge : Option Charge) (oddpos : List (Int × Bool))
  | fromDense (sym : Sym) (fermi : Bool) (dense : Blk R) (maps : List (List Charge))
      (duals : List Bool) (charge : Option Charge) (oddpos : List (Int × Bool))
  | fromFillFn (sym : Sym) (fermi : Bool) (indices : List Index) (charge : Option Charge)
      (fill : Sector → List Nat → Blk R) (oddpos : List (Int × Bool))

def Ctor.admissible : Ctor R → Bool
  | .given a => a.validB
  | .construct sym fermi indices charge blocks oddpos =>
      constructOkB sym fermi indices charge blocks oddpos
  | .fromBlocks sym fermi blocks duals charge oddpos =>
      fromBlocksOkB sym fermi blocks duals charge oddpos
  | .fromDense sym fermi _ maps _ charge oddpos => fromDenseOkB sym fermi maps charge oddpos
  | .fromFillFn sym fermi indices charge _ oddpos => fromFillFnOkB sym fermi indices charge oddpos

/-- the contract of the fill function of `from_fill_fn`: blocks of the requested shape -/
def Ctor.FillOk : Ctor R → Prop
  | .fromFillFn _ _ indices _ fill _ => ValidP.FillOk indices fill
  | _ => True

def Ctor.build [Zero R] : Ctor R → Except Err (Arr R)
  | .given a => pure a
  | .construct sym fermi indices charge blocks oddpos =>
      SymmModel.construct sym fermi indices charge blocks oddpos
  | .fromBlocks sym fermi blocks duals charge oddpos =>
      SymmModel.fromBlocks sym fermi blocks duals charge oddpos
  | .fromDense sym fermi dense maps duals charge oddpos =>
      SymmModel.fromDense sym fermi dense maps duals charge oddpos
  | .fromFillFn sym fermi indices charge fill oddpos =>
      SymmModel.fromFillFn sym fermi indices charge fill oddpos

theorem Ctor.build_valid [Zero R] (c : Ctor R) (a : Arr R) (hadm : c.admissible = true)
    (hfill : c.FillOk) (h : c.build = .ok a) : Valid a := by
  cases c with
  | given a0 =>
    simp only [Ctor.build, pure, Except.pure, Except.ok.injEq] at h
    subst h; exact (validB_iff _).mp hadm
  | construct sym fermi indices charge blocks oddpos =>
    exact (validB_iff a).mp (construct_valid hadm h)
  | fromBlocks sym fermi blocks duals charge oddpos =>
    exact (validB_iff a).mp (fromBlocks_valid hadm h)
  | fromDense sym fermi dense maps duals charge oddpos =>
    exact (validB_iff a).mp (fromDense_valid hadm h)
  | fromFillFn sym fermi indices charge fill oddpos =>
    exact (validB_iff a).mp (fromFillFn_valid hadm hfill h)

structure ProgAll (R : Type) where
  ctor : Ctor R
  ops : List (OpAll R)

def runOps [Zero R] [Add R] [Mul R] [Neg R] [Conj R] : List (OpAll R) → Arr R → Except Err (Arr R)
  | [], a => pure a
  | op :: rest, a => do
    let a' ← op.step a
    runOps rest a'

def ProgAll.run [Zero R] [Add R] [Mul R] [Neg R] [Conj R] (p : ProgAll R) : Except Err (Arr R) :=
  if p.ctor.admissible then do
    let a ← p.ctor.build
    runOps p.ops a
  else throw Err.value

theorem runOps_eq_foldlM [Zero R] [Add R] [Mul R] [Neg R] [Conj R] (ops : List (OpAll R)) (a : Arr R) :
    runOps ops a = ops.foldlM (fun x op => op.step x) a := by
  induction ops generalizing a with
  | nil => rfl
  | cons op rest ih => simp only [runOps, List.foldlM_cons, ih]

theorem runOps_valid [Zero R] [Add R] [Mul R] [Neg R] [Conj R] (ops : List (OpAll R)) (a r : Arr R)
    (hv : Valid a) (hK : ∀ op ∈ ops, op.KernelOk) (h : runOps ops a = .ok r) : Valid r :=
  foldlM_ok_inv (fun x : Arr R => Valid x) _ ops a r hv
    (fun x op x' hop hx hs => op.step_valid x x' hx (hK op hop) hs) (runOps_eq_foldlM ops a ▸ h)

theorem ProgAll.run_valid [Zero R] [Add R] [Mul R] [Neg R] [Conj R] (p : ProgAll R) (r : Arr R)
    (hfill : p.ctor.FillOk) (hK : ∀ op ∈ p.ops, op.KernelOk) (h : p.run = .ok r) : Valid r := by
  unfold ProgAll.run at h
  split at h
  · rename_i hadm
    obtain ⟨a, ha, h⟩ := bind_ok h
    exact runOps_valid p.ops a r (p.ctor.build_valid a hadm hfill ha) hK h
  · cases h

end ValidP
end SymmModel
