/-
  SymmModel.Proofs.FuseMultiR4 — the general round trip: the stage that unfuses a multi-axis
  group.
-/
import SymmModel.Proofs.FuseMultiR3
namespace SymmModel
namespace FuseP
set_option linter.unusedSectionVars false

variable {R : Type}

section Multi
variable {a : Arr R} {groups : List (List Nat)} [Zero R]

theorem stage_multi (hc : ValidP.Core a) (hok : GroupsOk groups a.ndim) {j : Nat} (hj : j < groups.length)
    (hm : multiB groups (groups.length - (j + 1)) = true) {X : Arr R} (h : StageInv a groups j X) :
    ∃ X', unfuseA X ((giM a groups).position + (groups.length - (j + 1))) = .ok X'
      ∧ StageInv a groups (j + 1) X' := by
  -- Stage `j` has unfused the last `j` groups; this step unfuses the multi-axis group `groups.length - (j+1)`.
  -- `unfuseU` describes the result of `unfuseA` by the blocks of `X`: every piece of a stored block, by sub-sector
  -- and offsets (`U.piece`), and every stored block of the result is such a piece (`U.only`).  `hstored` collects what
  -- `StageInv` at `j` knows of the block that carries a source block `sb`.  Of the clauses at `j + 1`, the indices
  -- follow by `partG_succ`; `here` is `U.piece` at the sub-sector of `sb` (the collapsed offsets are those of stage `j`);
  -- for `only` an address of a result block is cut in three (`exists_box_parts`), its middle part collapses to an
  -- offset inside the fused block (`collapse_inBox_parts`), and `only` of stage `j` applies there.
  have hv := validArr_of_core hc
  have hvX := validArr_of_core h.core
  have hg : groups.length - (j + 1) < groups.length := by omega
  obtain ⟨gaxes, hgg, hlen⟩ := multiB_iff.1 hm
  have hgd : groups.getD (groups.length - (j + 1)) [] = gaxes := by simp [List.getD_eq_getElem?_getD, hgg]
  -- abbreviations are avoided: `g = groups.length - (j+1)`, `p = position + g`
  have hlN : ∀ sb : Sector × Blk R, (giM a groups).position + groups.length ≤ (planM a groups sb).newSector.length := by
    intro sb; rw [planM_newSector_length hok.adm]; exact ndimM_ge
  have hlB : ∀ sb : Sector × Blk R, (giM a groups).position + groups.length ≤ (BshM a groups sb).length := by
    intro sb; rw [BshM_length]; exact ndimM_ge
  have hlJ : ∀ (sb : Sector × Blk R) offs, (giM a groups).position + groups.length ≤ (joinI a groups sb offs).length := by
    intro sb offs; rw [joinI_length]; exact ndimM_ge
  have hlI : (giM a groups).position + groups.length ≤ (newIdxM a groups).length := by
    rw [newIdxM_length hok.adm]; exact ndimM_ge
  have hIl : ∀ (sb : Sector × Blk R) (offs : List Nat),
      ((joinI a groups sb offs).take ((giM a groups).position + (groups.length - (j + 1)))).length
        = (giM a groups).position + (groups.length - (j + 1)) := by
    intro sb offs
    rw [List.length_take, joinI_length]; have := ndimM_ge (a := a) (groups := groups); omega
  have hplt : (giM a groups).position + (groups.length - (j + 1)) < X.indices.length := by
    rw [h.idx, idxStage, partG_length (Nat.le_of_lt hj) hlI]; omega
  have hix : X.indices[(giM a groups).position + (groups.length - (j + 1))]? = some (ixM a groups (groups.length - (j + 1))) := by
    rw [getElem?_of_getD _ default hplt, h.idx, idxStage,
      partG_getD_low default (Nat.le_of_lt hj) hlI (by omega)]
    rfl
  have hsub := ixM_sub (a := a) hok.adm hgg hlen
  obtain ⟨Y, hY, U⟩ := unfuseU hvX hix hsub
  have hsegbox : ∀ sb ∈ a.blocks, ∀ offs, inBox sb.2.shape offs = true → ∀ g, g < groups.length →
      inBox (segSh groups sb g) (segO groups offs g) = true := by
    intro sb hsb offs ho g hg'
    have hgg' : groups[g]? = some groups[g] := List.getElem?_eq_getElem hg'
    have hgd' : groups.getD g [] = groups[g] := by simp [List.getD_eq_getElem?_getD, hgg']
    have hshape := blockShape?_length (hv.blk sb hsb).2.1
    have hshl : sb.2.shape.length = a.ndim := by rw [hshape.2]; exact (hv.blk sb hsb).1
    simp only [segSh, segO, hgd']
    apply inBox_map_getD ho
    intro ax hax; rw [hshl]; exact groupM_lt hok.adm hgg' ax hax
  have hstored : ∀ sb ∈ a.blocks, ∃ V e, alookup X.blocks (KM a groups sb j) = some V ∧ V.shape = SM a groups sb j
      ∧ (∀ offs, inBox sb.2.shape offs = true → V.get (IM a groups sb offs j) = sb.2.get offs)
      ∧ (KM a groups sb j).getD ((giM a groups).position + (groups.length - (j + 1))) (0, 0)
          = cM (a := a) (groups := groups) sb (groups.length - (j + 1))
      ∧ alookup (extsM a groups (groups.length - (j + 1))) (cM (a := a) (groups := groups) sb (groups.length - (j + 1))) = some e
      ∧ startOf e (segS groups sb (groups.length - (j + 1)))
          = some (stM a groups sb (groups.length - (j + 1)), dM (a := a) (groups := groups) sb (groups.length - (j + 1)))
      ∧ Arr.blockShape? (gaxes.map (fun ax => a.indices.getD ax default)) (segS groups sb (groups.length - (j + 1)))
          = some (segSh groups sb (groups.length - (j + 1)))
      ∧ dM (a := a) (groups := groups) sb (groups.length - (j + 1)) = prod (segSh groups sb (groups.length - (j + 1))) := by
    intro sb hsb
    obtain ⟨V, hV, hVs, hVg⟩ := h.here sb hsb
    obtain ⟨e, D, t1, t2, _, _, _⟩ := stored_tableM hv hok.adm hgg hlen hsb
    refine ⟨V, e, hV, hVs, hVg, ?_, t1, ?_, ?_, ?_⟩
    · simp only [KM]
      rw [partG_getD_low (0, 0) (Nat.le_of_lt hj) (hlN sb) (by omega)]
      rfl
    · rw [ssM_eq hgg] at t2
      simp only [segS, hgd]; exact t2
    · simp only [segS, segSh, hgd]
      exact blockShape?_map (hv.blk sb hsb).2.1 gaxes (groupM_lt hok.adm hgg)
    · rw [dM_eq hok.adm hgg]; simp only [segSh, hgd]
  refine ⟨Y, hY, ?_, ?_, ?_, ?_, ?_⟩
  · exact ValidP.unfuseA_core X Y _ h.core hY
  · rw [U.sym, h.sym]
  · rw [U.indices, h.idx]
    simp only [idxStage]
    rw [partG_succ hj hlI]
    simp only [segIx, hgd]
  · -- every stored block is where it should be
    intro sb hsb
    obtain ⟨V, e, hV, hVs, hVg, hKp, he, hst, hbs, hdM⟩ := hstored sb hsb
    have hmem : (KM a groups sb j, V) ∈ X.blocks := alookup_some_mem hV
    obtain ⟨subshape, hbs', hprod, hlook, hget⟩ := U.piece (KM a groups sb j, V) hmem e
      (segS groups sb (groups.length - (j + 1))) _ _ (by simp only; rw [hKp]; exact he) hst
    rw [hbs] at hbs'
    simp only [Option.some.injEq] at hbs'; subst hbs'
    refine ⟨_, by simp only [KM]; rw [partG_succ hj (hlN sb)]; exact hlook, ?_, ?_⟩
    · show replaceWithSeq V.shape _ _ = _
      rw [hVs]; simp only [SM]; rw [partG_succ hj (hlB sb)]
    · intro offs ho
      obtain ⟨B, hBl, hBbox, _⟩ := fused_ontoM hv hok hsb ho
      obtain ⟨B', _, hBs'⟩ := fusedBlockM_exists hv hok.adm hsb
      have hbase : inBox (BshM a groups sb) (joinI a groups sb offs) = true := by
        obtain ⟨B'', hB'', hBs''⟩ := fusedBlockM_exists hv hok.adm hsb
        rw [hBl] at hB''; simp only [Option.some.injEq] at hB''; subst hB''
        rw [← hBs'']; exact hBbox
      have hJbox : inBox (replaceWithSeq V.shape ((giM a groups).position + (groups.length - (j + 1)))
          (segSh groups sb (groups.length - (j + 1)))) (IM a groups sb offs (j + 1)) = true := by
        rw [hVs]
        have := partG_inBox (S := BshM a groups sb) (I := joinI a groups sb offs) (ms := segSh groups sb)
          (og := segO groups offs) (pos := (giM a groups).position) (k := groups.length) hbase
          (fun g hg' => hsegbox sb hsb offs ho g hg') (j := j + 1) (by omega)
        simp only [SM, IM]
        rw [← partG_succ hj (hlB sb)]
        exact this
      rw [hget _ hJbox, ← hVg offs ho]
      refine congrArg _ ?_
      have hsl : (segO groups offs (groups.length - (j + 1))).length
          = (segSh groups sb (groups.length - (j + 1))).length := by simp [segO, segSh]
      have hparts := partG_succ_parts (L := joinI a groups sb offs) (seg := segO groups offs) hj (hlJ sb offs)
      have h3 := three_split ((joinI a groups sb offs).take ((giM a groups).position + (groups.length - (j + 1))))
        (segO groups offs (groups.length - (j + 1)))
        (tailG (joinI a groups sb offs) (segO groups offs) (giM a groups).position groups.length j)
      rw [hIl sb offs, hsl] at h3
      simp only [IM]
      rw [hparts, h3.1, h3.2.1, h3.2.2, partG_parts 0 hj (hlJ sb offs), joinI_mid sb offs hg]
      rfl
  · -- nothing else is non-zero
    intro K' V' hl' J hJ
    obtain ⟨nsB, hmem, e', ss', st', d', he', hst', hK', hV'⟩ := U.only K' V' hl'
    obtain ⟨subshape', hbs', hprod', _, hget'⟩ := U.piece nsB hmem e' ss' st' d' he' hst'
    have hsub' : (Arr.blockShape? (gaxes.map (fun ax => a.indices.getD ax default)) ss').getD [] = subshape' := by
      rw [hbs']; rfl
    rw [hsub'] at hV'
    subst hV'
    have hJ' : inBox (replaceWithSeq nsB.2.shape ((giM a groups).position + (groups.length - (j + 1))) subshape') J = true := hJ
    obtain ⟨hp1, _, hBl, e'', he'', hext⟩ := block_at_axis hvX hix hsub hmem
    rw [he'] at he''; simp only [Option.some.injEq] at he''; subst he''
    have hpB : (giM a groups).position + (groups.length - (j + 1)) < nsB.2.shape.length := by omega
    have hbound : st' + d' ≤ nsB.2.shape.getD ((giM a groups).position + (groups.length - (j + 1))) 0 := by
      have := startOf_bound hst'; rw [hext.total] at this; exact this
    obtain ⟨A, S, T, rfl, hAl, hSl⟩ := exists_box_parts hpB hJ'
    rw [pieceU_get_parts nsB.2 hpB hprod' hbound hAl hSl hJ']
    obtain ⟨hcbox, hsegJ⟩ := collapse_inBox_parts hpB hprod' hbound hAl hSl hJ'
    have hlk : alookup X.blocks nsB.1 = some nsB.2 := alookup_of_mem_nodup hvX.nodup hmem
    rcases h.only nsB.1 nsB.2 hlk _ hcbox with ⟨sb, hsb, offs, ho, hKeq, hJeq⟩ | h0
    · left
      obtain ⟨V, e, hV, hVs, hVg, hKp, he, hst, hbs, hdM⟩ := hstored sb hsb
      rw [hKeq, hKp, he] at he'
      simp only [Option.some.injEq] at he'; subst he'
      -- the collapsed address is stage `j` of `offs`, part by part
      simp only [IM] at hJeq
      rw [partG_parts (L := joinI a groups sb offs) (seg := segO groups offs) 0 hj (hlJ sb offs)] at hJeq
      obtain ⟨hfront, hT⟩ := List.append_inj hJeq (by
        rw [List.length_append, List.length_append, hAl, hIl sb offs]; rfl)
      obtain ⟨U.piece, hmid⟩ := List.append_inj hfront (by rw [hAl, hIl sb offs])
      have hpos : st' + ravel subshape' S
          = stM a groups sb (groups.length - (j + 1)) + ravel (segSh groups sb (groups.length - (j + 1)))
              (segO groups offs (groups.length - (j + 1))) := by
        have := (List.cons.inj hmid).1
        rw [joinI_mid sb offs hg] at this
        exact this
      have hr' := ravel_lt hsegJ
      rw [hprod'] at hr'
      have hsb' := hsegbox sb hsb offs ho _ hg
      have hr := ravel_lt hsb'
      rw [← hdM] at hr
      have hsseq : ss' = segS groups sb (groups.length - (j + 1)) :=
        startOf_eq_of_common hst' hst hr' hr hpos
      subst hsseq
      rw [hst] at hst'
      simp only [Option.some.injEq, Prod.mk.injEq] at hst'
      obtain ⟨rfl, rfl⟩ := hst'
      rw [hbs] at hbs'
      simp only [Option.some.injEq] at hbs'; subst hbs'
      have hsegeq : S = segO groups offs (groups.length - (j + 1)) := by
        have hrav : ravel (segSh groups sb (groups.length - (j + 1))) S
            = ravel (segSh groups sb (groups.length - (j + 1))) (segO groups offs (groups.length - (j + 1))) := by
          omega
        rw [← unravel_ravel hsegJ, hrav, unravel_ravel hsb']
      refine ⟨sb, hsb, offs, ho, ?_, ?_⟩
      · rw [hK', hKeq]; simp only [KM]; rw [partG_succ hj (hlN sb)]
      · simp only [IM]
        rw [partG_succ_parts hj (hlJ sb offs), U.piece, hT, hsegeq]
    · exact Or.inr h0

end Multi

end FuseP
end SymmModel
