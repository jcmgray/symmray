/-
  SymmModel.Proofs.CheckLemmas — what `Props/C01c` and `Props/C01d` need to compare the model of
  symmray's own audit (`Model/Check`, on raw states with `Int` sizes) with C01's validity
  predicate (`Model/Valid`): the embedding `indexToRaw` / `arrToRaw` commutes with the accessors
  and with casting sums; the one total that `BlockIndex.check` compares follows from the
  per-charge clauses of `Index.wfB`; `sorted(keys) == list(keys)` on distinct keys is strict
  sortedness; `blockShapeE` on embedded indices is `Arr.blockShape?` up to `zip` truncation.
-/
import SymmModel.Model.Check
import SymmModel.Proofs.ValidLemmas

namespace SymmModel
namespace CheckP
open Check ValidP

theorem forE_ok_iff {α : Type} (f : α → Except Err Unit) (l : List α) :
    forE f l = .ok () ↔ ∀ x ∈ l, f x = .ok () := by
  induction l with
  | nil => simp [forE]
  | cons x xs ih =>
    simp only [forE, List.mem_cons, forall_eq_or_imp]
    cases h : f x with
    | ok u => cases u; simp [ih]
    | error e => simp

theorem guardE_ok_iff (c : Bool) (e : Err) : guardE c e = .ok () ↔ c = true := by
  unfold guardE; cases c <;> simp

theorem indexListToRaw_eq_map (l : List Index) : indexListToRaw l = l.map indexToRaw := by
  induction l with
  | nil => simp [indexListToRaw]
  | cons i is ih => simp [indexListToRaw, ih]

theorem arrToRaw_indices {R : Type} (a : Arr R) :
    (arrToRaw a).indices = a.indices.map indexToRaw := by
  simp [arrToRaw, indexListToRaw_eq_map]

theorem indexToRaw_cm (i : Index) : (indexToRaw i).cm = cmToRaw i.cm := by
  obtain ⟨cm, d, sub⟩ := i
  cases sub with
  | none => simp [indexToRaw, RIndex.cm, Index.cm]
  | some se => obtain ⟨subs, exts⟩ := se; simp [indexToRaw, RIndex.cm, Index.cm]

theorem indexToRaw_dual (i : Index) : (indexToRaw i).dual = i.dual := by
  obtain ⟨cm, d, sub⟩ := i
  cases sub with
  | none => simp [indexToRaw, RIndex.dual, Index.dual]
  | some se => obtain ⟨subs, exts⟩ := se; simp [indexToRaw, RIndex.dual, Index.dual]

theorem cmToRaw_keys (cm : List (Charge × Nat)) : (cmToRaw cm).map (·.1) = cm.map (·.1) := by
  simp [cmToRaw, List.map_map, Function.comp_def]

theorem alookup_cmToRaw (cm : List (Charge × Nat)) (c : Charge) :
    alookup (cmToRaw cm) c = (alookup cm c).map (fun (n : Nat) => (n : Int)) := by
  induction cm with
  | nil => simp [cmToRaw, alookup]
  | cons p rest ih =>
    obtain ⟨k, v⟩ := p
    simp only [cmToRaw, List.map_cons, alookup] at ih ⊢
    split
    · simp
    · exact ih

theorem arrToRaw_duals {R : Type} (a : Arr R) : (arrToRaw a).duals = a.duals := by
  simp [arrToRaw, RArr.duals, Arr.duals, indexListToRaw_eq_map, List.map_map, Function.comp_def,
    indexToRaw_dual]

theorem arrToRaw_isValidSector {R : Type} (a : Arr R) (s : Sector) :
    (arrToRaw a).isValidSector s = a.isValidSector s := by
  unfold RArr.isValidSector Arr.isValidSector
  rw [arrToRaw_duals]
  rfl

theorem sumZ_cast (l : List Nat) : sumZ (l.map (fun (n : Nat) => (n : Int))) = (sumN l : Int) := by
  induction l with
  | nil => simp [sumZ, sumN]
  | cons d ds ih => simp only [List.map_cons, sumZ, sumN, ih]; omega

/-- over `Nat`, the sum `BlockIndex.check` compares `size_total` with:
    `sum(d for extent in self.subinfo.extents.values() for d in extent.values())` -/
def totalN (exts : Extents) : Nat := sumN (exts.flatMap (fun e => e.2.map (·.2)))

theorem totalN_cons (e : Charge × Extent) (rest : Extents) :
    totalN (e :: rest) = sumN (e.2.map (·.2)) + totalN rest := by
  simp [totalN, List.flatMap_cons, sumN_append]

theorem cm_sizes_raw (cm : List (Charge × Nat)) :
    sumZ ((cmToRaw cm).map (·.2)) = (sumN (cm.map (·.2)) : Int) := by
  rw [← sumZ_cast]
  simp only [cmToRaw, List.map_map]
  rfl

theorem flat_raw (exts : Extents) :
    (exts.map (fun e => (e.1, e.2.map (fun q => (q.1, (q.2 : Int)))))).flatMap (fun e => e.2.map (·.2))
      = (exts.flatMap (fun e => e.2.map (·.2))).map (fun (n : Nat) => (n : Int)) := by
  induction exts with
  | nil => rfl
  | cons e rest ih =>
    rw [List.map_cons, List.flatMap_cons, List.flatMap_cons, List.map_append, ih]
    congr 1
    rw [List.map_map, List.map_map]
    rfl

theorem extentsTotal_raw (exts : Extents) : extentsTotal (extentsToRaw exts) = (totalN exts : Int) := by
  unfold extentsTotal totalN extentsToRaw
  rw [← sumZ_cast, flat_raw]

theorem totalN_aerase {exts : Extents} {c : Charge} {ext : Extent}
    (h : alookup exts c = some ext) :
    totalN exts = sumN (ext.map (·.2)) + totalN (aerase exts c) := by
  induction exts with
  | nil => simp [alookup] at h
  | cons e rest ih =>
    obtain ⟨k, v⟩ := e
    by_cases hk : (k == c) = true
    · rw [alookup, if_pos hk] at h
      cases h
      rw [aerase, if_pos hk, totalN_cons]
    · rw [alookup, if_neg hk] at h
      rw [aerase, if_neg hk, totalN_cons, totalN_cons, ih h]
      omega

theorem alookup_aerase_ne {β : Type} {l : List (Charge × β)} {k c : Charge} (h : k ≠ c) :
    alookup (aerase l c) k = alookup l k := by
  induction l with
  | nil => simp [aerase]
  | cons p rest ih =>
    obtain ⟨k', v'⟩ := p
    simp only [aerase]
    split
    · rename_i hk
      have hkc : k' = c := eq_of_beq hk
      have : ¬ (k' == k) = true := by
        intro hh; exact h ((eq_of_beq hh).symm.trans hkc)
      simp [alookup, this]
    · simp only [alookup, ih]

theorem not_mem_keys_aerase {β : Type} {l : List (Charge × β)} {c : Charge}
    (hn : (l.map (·.1)).Nodup) : c ∉ (aerase l c).map (·.1) := by
  induction l with
  | nil => simp [aerase]
  | cons p rest ih =>
    obtain ⟨k', v'⟩ := p
    simp only [List.map_cons, List.nodup_cons] at hn
    simp only [aerase]
    split
    · rename_i hk
      have hkc : k' = c := eq_of_beq hk
      subst hkc; exact hn.1
    · rename_i hk
      simp only [List.map_cons, List.mem_cons, not_or]
      refine ⟨?_, ih hn.2⟩
      intro hc; apply hk; simp [hc]

/-- the per-charge partition clauses of `Index.wfB` imply the single total that
    `BlockIndex.check` compares -/
theorem cm_total_eq (cm : List (Charge × Nat)) (exts : Extents)
    (hd : (cm.map (·.1)).Nodup) (he : (exts.map (·.1)).Nodup)
    (h1 : ∀ p ∈ cm, ∃ ext, alookup exts p.1 = some ext ∧ sumN (ext.map (·.2)) = p.2)
    (h2 : ∀ e ∈ exts, (alookup cm e.1).isSome = true) :
    sumN (cm.map (·.2)) = totalN exts := by
  induction cm generalizing exts with
  | nil =>
    cases exts with
    | nil => simp [sumN, totalN]
    | cons e rest => have := h2 e (by simp); simp [alookup] at this
  | cons p rest ih =>
    obtain ⟨c, d⟩ := p
    simp only [List.map_cons, List.nodup_cons] at hd
    obtain ⟨ext, hlk, hsum⟩ := h1 (c, d) (by simp)
    simp only at hlk hsum
    rw [totalN_aerase hlk, List.map_cons, sumN, hsum]
    congr 1
    apply ih (aerase exts c) hd.2 (aerase_keys_nodup c he)
    · intro q hq
      have hne : q.1 ≠ c := by
        intro hqc; apply hd.1; rw [← hqc]; exact List.mem_map.mpr ⟨q, hq, rfl⟩
      obtain ⟨ext', hl', hs'⟩ := h1 q (List.mem_cons_of_mem _ hq)
      exact ⟨ext', by rw [alookup_aerase_ne hne]; exact hl', hs'⟩
    · intro e hem
      have hne : e.1 ≠ c := by
        intro hec
        have hmem : e.1 ∈ (aerase exts c).map (·.1) := List.mem_map.mpr ⟨e, hem, rfl⟩
        rw [hec] at hmem
        exact not_mem_keys_aerase (c := c) he hmem
      have := h2 e (mem_aerase hem)
      simp only [alookup] at this
      have hcc : ¬ (c == e.1) = true := by intro hh; exact hne (eq_of_beq hh).symm
      simpa [hcc] using this

/-- `BlockIndex.check`'s `sorted(self._chargemap) == list(self._chargemap)` holds for a strictly
    sorted key list -/
theorem isort_of_sorted {l : List Charge} (h : isSortedStrict Charge.lt l = true) :
    isort Charge.lt l = l := by
  induction l with
  | nil => rfl
  | cons a as ih =>
    cases as with
    | nil => rfl
    | cons b rest =>
      simp only [isSortedStrict, Bool.and_eq_true] at h
      rw [isort, ih h.2, insertSorted, Charge.lt_asymm h.1]
      simp

theorem insertSorted_pairwise (a : Charge) (l : List Charge)
    (h : l.Pairwise (fun x y => Charge.lt y x = false)) :
    (insertSorted Charge.lt a l).Pairwise (fun x y => Charge.lt y x = false) :=
  insertSorted_pairwise_of (r := fun x y => Charge.lt y x = false) Charge.lt
    (fun _ _ _ => Charge.le_trans) a l h (fun _ _ hba => Charge.lt_asymm hba) (fun _ _ hba => hba)

theorem isort_pairwise (l : List Charge) :
    (isort Charge.lt l).Pairwise (fun x y => Charge.lt y x = false) := by
  induction l with
  | nil => simp [isort]
  | cons a as ih => exact insertSorted_pairwise a _ ih

/-- conversely `sorted(keys) == list(keys)` plus the dict invariant (distinct keys) is strict
    sortedness -/
theorem sorted_of_isort_fix {l : List Charge} (h : isort Charge.lt l = l) (hn : l.Nodup) :
    isSortedStrict Charge.lt l = true := by
  rw [sortedCharges_iff]
  have hp := isort_pairwise l
  rw [h] at hp
  refine List.Pairwise.imp₂ ?_ hp hn
  intro a b hba hne
  rcases Charge.lt_total a b with h1 | h1 | h1
  · exact h1
  · exact absurd h1 hne
  · rw [h1] at hba; cases hba

theorem shapesAgree_cast (shp : List Nat) : shapesAgree shp (shp.map (fun (n : Nat) => (n : Int))) = true := by
  induction shp with
  | nil => rfl
  | cons d ds ih => simp [shapesAgree, ih]

theorem blockShapeE_of_trips (T : List Trip) (hT : TOk T) :
    blockShapeE ((T.map (·.1)).map indexToRaw) (T.map (·.2.1))
      = .ok ((T.map (·.2.2)).map (fun (n : Nat) => (n : Int))) := by
  induction T with
  | nil => rfl
  | cons t T ih =>
    have ht : t.1.sizeOf? t.2.1 = some t.2.2 := hT t (by simp)
    have ih' := ih (fun t' ht' => hT t' (by simp [ht']))
    simp only [List.map_cons, blockShapeE, indexToRaw_cm, alookup_cmToRaw]
    unfold Index.sizeOf? at ht
    rw [ht]
    simp only [Option.map_some]
    rw [ih']

theorem blockShapeE_of_blockShape? {idx : List Index} {s : Sector} {shp : List Nat}
    (h : Arr.blockShape? idx s = some shp) :
    blockShapeE (indexListToRaw idx) s = .ok (shp.map (fun (n : Nat) => (n : Int))) := by
  obtain ⟨T, hT, rfl, rfl, rfl⟩ := blockShape?_iff.mp h
  rw [indexListToRaw_eq_map]
  exact blockShapeE_of_trips T hT

/-- the converse needs the two rank hypotheses: `blockShapeE` and `shapesAgree` truncate as
    Python's `zip` does, so the audit's shape loop never compares ranks -/
theorem blockShape?_of_blockShapeE {idx : List Index} {s : Sector} {shp : List Nat} {exp : List Int}
    (hs : s.length = idx.length) (hr : shp.length = idx.length)
    (h : blockShapeE (idx.map indexToRaw) s = .ok exp) (ha : shapesAgree shp exp = true) :
    Arr.blockShape? idx s = some shp := by
  rw [blockShape?_iff]
  induction idx generalizing s shp exp with
  | nil =>
    cases s with
    | nil =>
      cases shp with
      | nil => exact ⟨[], by simp [TOk], rfl, rfl, rfl⟩
      | cons d ds => simp at hr
    | cons c cs => simp at hs
  | cons ix idx ih =>
    cases s with
    | nil => simp at hs
    | cons c cs =>
      cases shp with
      | nil => simp at hr
      | cons d ds =>
        simp only [List.map_cons, blockShapeE, indexToRaw_cm, alookup_cmToRaw] at h
        cases hlk : alookup ix.cm c with
        | none => rw [hlk] at h; simp at h
        | some n =>
          rw [hlk] at h
          simp only [Option.map_some] at h
          cases hrest : blockShapeE (idx.map indexToRaw) cs with
          | error e => rw [hrest] at h; cases h
          | ok r =>
            rw [hrest] at h
            cases h
            simp only [shapesAgree, Bool.and_eq_true, beq_iff_eq] at ha
            have hdn : d = n := by exact_mod_cast ha.1
            subst hdn
            obtain ⟨T, hT, h1, h2, h3⟩ :=
              ih (by simpa using hs) (by simpa using hr) hrest ha.2
            refine ⟨(ix, c, d) :: T, ?_, ?_, ?_, ?_⟩
            · intro t ht
              rcases List.mem_cons.mp ht with rfl | ht
              · exact hlk
              · exact hT t ht
            · simp [h1]
            · simp [h2]
            · simp [h3]

section dict
variable {κ β : Type} [BEq κ] [LawfulBEq κ]

theorem ddc_iff_gen (ne : β → β → Bool) {da db : List (κ × β)} (hn : (da.map (·.1)).Nodup) :
    dictsDontConflict ne da db = true
      ↔ ∀ k va vb, alookup da k = some va → alookup db k = some vb → ne va vb = false := by
  unfold dictsDontConflict
  rw [List.all_eq_true]
  constructor
  · intro h k va vb ha hb
    have := h (k, va) (alookup_some_mem ha)
    simp only [hb] at this
    simpa using this
  · intro h p hp
    have ha : alookup da p.1 = some p.2 := alookup_of_mem_nodup hn hp
    cases hb : alookup db p.1 with
    | none => rfl
    | some vb => simp [h p.1 p.2 vb ha hb]

/-- `hne` asks for symmetry of `ne` only between values stored under a common key: `neExt` is
    symmetric only between extents that are dicts themselves (`dictEq_symm`) -/
theorem ddc_symm_gen (ne : β → β → Bool) {da db : List (κ × β)}
    (ha : (da.map (·.1)).Nodup) (hb : (db.map (·.1)).Nodup)
    (hne : ∀ k va vb, alookup da k = some va → alookup db k = some vb → ne va vb = ne vb va) :
    dictsDontConflict ne da db = dictsDontConflict ne db da := by
  rw [Bool.eq_iff_iff, ddc_iff_gen ne ha, ddc_iff_gen ne hb]
  constructor
  · intro h k va vb h1 h2; rw [← hne k vb va h2 h1]; exact h k vb va h2 h1
  · intro h k va vb h1 h2; rw [hne k va vb h1 h2]; exact h k vb va h2 h1

end dict

end CheckP
end SymmModel
