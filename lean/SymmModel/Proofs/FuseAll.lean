/-
  SymmModel.Proofs.FuseAll — `unfuseAllA` on an array with exactly one fused axis performs exactly
  the one `unfuseA`.
-/
import SymmModel.Proofs.FuseUnfuse
namespace SymmModel
namespace FuseP

variable {R : Type} [Zero R]

theorem foldlM_skip {ε α β : Type} (f : β → α → Except ε β) (l : List α) (x : β)
    (h : ∀ ax ∈ l, f x ax = .ok x) : l.foldlM f x = .ok x := by
  induction l with
  | nil => rfl
  | cons a l ih =>
    rw [List.foldlM_cons, h a (by simp)]
    exact ih (fun ax hax => h ax (List.mem_cons_of_mem _ hax))

theorem foldlM_one {ε α β : Type} (f : β → α → Except ε β) (l1 l2 : List α) (p : α) (x y : β)
    (h1 : ∀ ax ∈ l1, f x ax = .ok x) (hp : f x p = .ok y) (h2 : ∀ ax ∈ l2, f y ax = .ok y) :
    (l1 ++ p :: l2).foldlM f x = .ok y := by
  rw [List.foldlM_append, foldlM_skip f l1 x h1]
  show (p :: l2).foldlM f x = _
  rw [List.foldlM_cons, hp]
  exact foldlM_skip f l2 y h2

theorem unfuseAll_step_skip (x : Arr R) (ax : Nat) (h : ∀ ix, x.indices[ax]? = some ix → ix.sub = none) :
    (match x.indices[ax]? with
      | some ix => if ix.sub.isSome then unfuseA x ax else pure x
      | none => pure x) = (.ok x : Except Err (Arr R)) := by
  cases hx : x.indices[ax]? with
  | none => rfl
  | some ix => simp [h ix hx]; rfl

theorem unfuseAll_single {x y : Arr R} {p : Nat} {ix : Index} (hix : x.indices[p]? = some ix)
    (hsub : ix.sub.isSome = true)
    (hx : ∀ ax ix', ax ≠ p → x.indices[ax]? = some ix' → ix'.sub = none)
    (hy : unfuseA x p = .ok y) (hyp : ∀ ix' ∈ y.indices, ix'.sub = none) : unfuseAllA x = .ok y := by
  unfold unfuseAllA unfuseAllWith
  obtain ⟨m, hm⟩ : ∃ m, x.ndim = p + 1 + m :=
    ⟨x.ndim - (p + 1), by have := getElem?_lt hix; simp only [Arr.ndim]; omega⟩
  have hrange : (List.range x.ndim).reverse
      = ((List.range m).map (fun j => p + 1 + j)).reverse ++ p :: (List.range p).reverse := by
    rw [hm, List.range_add, List.range_succ]
    simp
  rw [hrange]
  apply foldlM_one
  · intro ax hax
    simp only [List.mem_reverse, List.mem_map, List.mem_range] at hax
    obtain ⟨j, _, rfl⟩ := hax
    exact unfuseAll_step_skip x _ (fun ix' h => hx _ ix' (by omega) h)
  · simp only [hix, hsub, if_true]
    exact hy
  · intro ax _
    exact unfuseAll_step_skip y ax (fun ix' h => hyp ix' (getElem?_mem' h))

end FuseP
end SymmModel
