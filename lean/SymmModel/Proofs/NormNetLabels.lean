/-
  SymmModel.Proofs.NormNetLabels — label LISTS in the norm: nested conjugate pairs.
    * (L1) `resolveScan_nested`: the scan of `oddposDag w ++ w` annihilates every pair, innermost
      first, and leaves the sign `nestSign w` (one `-1` per DUAL entry of `w`);
    * (L2) `resolve_nested`: `resolveCombinedOddpos` on operands with labels `oddposDag w`, `w`;
    * (L3) `norm_left_signed`, `norm_right_signed`: `tensordot (conj x) x` and `tensordot x (conj x)`
      over all axes for label lists with pairwise distinct names, `Σ |x|²` up to `nestSign`;
      `norm_left_labels`, `norm_right_labels`: no sign for non-dual labels.
-/
import SymmModel.Proofs.NormLemmas
namespace SymmModel.NormNet
open SymmModel SymmModel.Lazy SymmModel.Norm
set_option linter.unusedSectionVars false

def bar (a : Int × Bool) : Int × Bool := (a.1, !a.2)

def nestSign (w : List (Int × Bool)) : Int :=
  (w.map (fun a => if a.2 then (-1 : Int) else 1)).foldr (· * ·) 1

@[simp] theorem nestSign_nil : nestSign [] = 1 := rfl

theorem nestSign_cons (a : Int × Bool) (w : List (Int × Bool)) :
    nestSign (a :: w) = (if a.2 then -1 else 1) * nestSign w := rfl

theorem nestSign_pm (w : List (Int × Bool)) : nestSign w = 1 ∨ nestSign w = -1 := by
  induction w with
  | nil => exact Or.inl rfl
  | cons a w ih =>
    rw [nestSign_cons]
    rcases ih with h | h <;> rw [h] <;> cases a.2 <;> simp

theorem nestSign_nondual (w : List (Int × Bool)) (h : ∀ a ∈ w, a.2 = false) : nestSign w = 1 := by
  induction w with
  | nil => rfl
  | cons a w ih =>
    rw [nestSign_cons, ih (fun b hb => h b (List.mem_cons_of_mem _ hb)),
      h a List.mem_cons_self]
    rfl

theorem nestSign_dual (w : List (Int × Bool)) (h : ∀ a ∈ w, a.2 = true) :
    nestSign w = if w.length % 2 = 1 then -1 else 1 := by
  induction w with
  | nil => rfl
  | cons a w ih =>
    rw [nestSign_cons, ih (fun b hb => h b (List.mem_cons_of_mem _ hb)),
      h a List.mem_cons_self, List.length_cons]
    rcases Nat.mod_two_eq_zero_or_one w.length with e | e <;>
      simp [e, Nat.add_mod]

theorem nestSign_dual_pow (w : List (Int × Bool)) (h : ∀ a ∈ w, a.2 = true) :
    nestSign w = (-1 : Int) ^ w.length := by
  induction w with
  | nil => rfl
  | cons a w ih =>
    rw [nestSign_cons, ih (fun b hb => h b (List.mem_cons_of_mem _ hb)),
      h a List.mem_cons_self, List.length_cons, Int.pow_succ, Int.mul_comm]
    rfl

theorem oddposDag_eq_bar (w : List (Int × Bool)) : Arr.oddposDag w = w.reverse.map bar := rfl

theorem oddposDag_cons (a : Int × Bool) (t : List (Int × Bool)) :
    Arr.oddposDag (a :: t) = Arr.oddposDag t ++ [bar a] := by
  simp [Arr.oddposDag, bar]

/-- the cascade: cursor on `ā` followed by `a`, everything before the cursor being the conjugates
    of what follows, innermost next to the cursor.  Each step removes a pair and steps back. -/
theorem resolveScan_cascade : ∀ (t : List (Int × Bool)) (a : Int × Bool) (f : Nat) (ph : Int),
    resolveScan (f + t.length + 2) (t.map bar) (bar a :: a :: t) ph
      = .ok ([], ph * nestSign (a :: t)) := by
  intro t
  induction t with
  | nil =>
    intro a f ph
    rw [show f + ([] : List (Int × Bool)).length + 2 = (f + 1) + 1 from rfl, List.map_nil,
      OddposP.resolveScan_annihilate (f + 1) [] (bar a) a [] ph (by simp [bar])
        (by cases h : a.2 <;> simp [bar, h])]
    rw [nestSign_cons, nestSign_nil]
    show Except.ok _ = _
    cases a.2 <;> simp
  | cons b t ih =>
    intro a f ph
    rw [show f + (b :: t).length + 2 = (f + t.length + 2) + 1 from by simp; omega,
      OddposP.resolveScan_annihilate (f + t.length + 2) ((b :: t).map bar) (bar a) a (b :: t) ph
        (by simp [bar]) (by cases h : a.2 <;> simp [bar, h])]
    show resolveScan (f + t.length + 2) (t.map bar) (bar b :: b :: t) _ = _
    rw [ih b f, nestSign_cons a]
    cases a.2 <;> simp

/-- **(L1)** nested conjugate pairs `w̄ₙ … w̄₁ w₁ … wₙ` annihilate completely; the sign is `-1` per
    dual entry of `w` -/
theorem resolveScan_nested (w : List (Int × Bool))
    (hs : (Arr.oddposDag w).Pairwise (fun a b => oddLt a b = true))
    (hd : w.Pairwise (fun a b => a.1 ≠ b.1)) (ph : Int) (N : Nat) (hN : 2 * w.length + 2 ≤ N) :
    resolveScan N [] (Arr.oddposDag w ++ w) ph = .ok ([], ph * nestSign w) := by
  cases w with
  | nil =>
    obtain ⟨f, rfl⟩ := Nat.exists_eq_add_of_le hN
    simp only [List.length_nil, Nat.mul_zero, Nat.zero_add]
    rw [show 2 + f = (f + 1) + 1 from by omega]
    show Except.ok _ = _
    simp
  | cons a t =>
    obtain ⟨f, rfl⟩ := Nat.exists_eq_add_of_le hN
    have hdd : ((Arr.oddposDag t) ++ [bar a]).Pairwise (fun x y => x.1 ≠ y.1) := by
      rw [← oddposDag_cons, oddposDag_eq_bar, List.pairwise_map, List.pairwise_reverse]
      exact hd.imp (fun h => by simpa [bar] using Ne.symm h)
    rw [oddposDag_cons] at hs
    rw [oddposDag_cons, List.append_assoc, List.singleton_append,
      show 2 * (a :: t).length + 2 + f = (f + t.length + 4) + (Arr.oddposDag t).length from by
        simp [Arr.oddposDag]; omega,
      OddposP.resolveScan_walk (Arr.oddposDag t) (f + t.length + 4) [] (bar a) (a :: t) ph hs hdd,
      List.append_nil]
    have e : (Arr.oddposDag t).reverse = t.map bar := by
      simp [Arr.oddposDag, bar, List.map_reverse]
    rw [e]
    rw [show f + t.length + 4 = (f + 2) + t.length + 2 from by omega]
    exact resolveScan_cascade t a (f + 2) ph

example : resolveScan 8 [] (Arr.oddposDag [(2, false), (5, false), (9, false)]
      ++ [(2, false), (5, false), (9, false)]) 1 = .ok ([], 1)
    ∧ nestSign [(2, false), (5, false), (9, false)] = 1 := by decide
example : resolveScan 8 [] (Arr.oddposDag [(9, true), (5, true), (2, true)]
      ++ [(9, true), (5, true), (2, true)]) 1 = .ok ([], -1)
    ∧ nestSign [(9, true), (5, true), (2, true)] = -1 := by decide
example : (Arr.oddposDag [((2 : Int), false), (5, false), (9, false)]).Pairwise
      (fun a b => oddLt a b = true)
    ∧ [((2 : Int), false), (5, false), (9, false)].Pairwise (fun a b => a.1 ≠ b.1) := by decide

section labels
variable {R : Type}

/-- **(L2)** operands whose labels are `oddposDag w` and `w`: all labels annihilate; the result is
    negated iff `(-1)^(parity(L)·|w|) · nestSign w = -1` -/
theorem resolve_nested (L Rr T : Arr R) (w : List (Int × Bool))
    (hL : L.oddpos = Arr.oddposDag w) (hR : Rr.oddpos = w)
    (hs : (Arr.oddposDag w).Pairwise (fun a b => oddLt a b = true))
    (hd : w.Pairwise (fun a b => a.1 ≠ b.1)) :
    resolveCombinedOddpos L Rr T
      = .ok { (if (if L.parity && w.length % 2 == 1 then (-1 : Int) else 1) * nestSign w = -1
                then T.phaseGlobal else T) with oddpos := [] } := by
  rw [OddposP.resolveCombinedOddpos_eq, hL, hR]
  unfold OddposP.mergeOddpos
  rw [resolveScan_nested w hs hd _ _ (by
    simp only [List.length_append, oddposDag_length]
    generalize w.length = n
    have : n ≤ (n + n) * (n + n) := by
      calc n ≤ n + n := by omega
        _ ≤ (n + n) * (n + n) := Nat.le_mul_self _
    omega)]
  simp only [Except.map, beq_iff_eq]

end labels

theorem oddposDag_sorted_of_nondual (o : List (Int × Bool)) (hk : ∀ a ∈ o, a.2 = false)
    (hs : o.Pairwise (fun a b => oddLt a b = true)) :
    (Arr.oddposDag o).Pairwise (fun a b => oddLt a b = true) := by
  rw [oddposDag_eq_bar, List.pairwise_map, List.pairwise_reverse]
  refine (List.Pairwise.and_mem.mp hs).imp ?_
  rintro a b ⟨ha, hb, hab⟩
  have ea := hk a ha
  have eb := hk b hb
  unfold oddLt at hab ⊢
  simp only [ea, eb, Bool.false_eq_true, if_false] at hab
  simp only [bar, ea, eb, Bool.not_false, if_true]
  simpa using hab

theorem oddposDag_perm_map (o : List (Int × Bool)) : (Arr.oddposDag o).Perm (o.map bar) := by
  rw [oddposDag_eq_bar]; exact (List.reverse_perm o).map bar

theorem keys_dag (o : List (Int × Bool)) : ((Arr.oddposDag o).map (·.1)).Perm (o.map (·.1)) := by
  have h := (oddposDag_perm_map o).map (·.1)
  rwa [List.map_map, show ((fun x : Int × Bool => x.1) ∘ bar) = (fun x : Int × Bool => x.1) from rfl] at h

theorem distinct_of_keys {l m : List (Int × Bool)} (h : (m.map (·.1)).Perm (l.map (·.1)))
    (hd : l.Pairwise (fun a b => a.1 ≠ b.1)) : m.Pairwise (fun a b => a.1 ≠ b.1) := by
  have e : ∀ k : List (Int × Bool), k.Pairwise (fun a b => a.1 ≠ b.1) ↔ (k.map (·.1)).Nodup :=
    fun k => by unfold List.Nodup; rw [List.pairwise_map]
  rw [e] at hd ⊢
  exact h.nodup_iff.mpr hd

theorem oddposDag_distinct (o : List (Int × Bool)) (hd : o.Pairwise (fun a b => a.1 ≠ b.1)) :
    (Arr.oddposDag o).Pairwise (fun a b => a.1 ≠ b.1) :=
  distinct_of_keys (keys_dag o) hd

theorem oddposDag_all_dual (o : List (Int × Bool)) (hk : ∀ a ∈ o, a.2 = false) :
    ∀ a ∈ Arr.oddposDag o, a.2 = true := by
  intro a ha
  rw [oddposDag_eq_bar] at ha
  obtain ⟨b, hb, rfl⟩ := List.mem_map.mp ha
  simp [bar, hk b (List.mem_reverse.mp hb)]

section compose
variable {R : Type} [AddMonoid R] [Mul R] [Neg R] [Conj R]

theorem resolve_value_labels [NormLaws R] {L Rr : Arr R} {n : Nat} (hL : L.ndim = n)
    (hR : Rr.ndim = n) (hp : L.phases = []) (w : List (Int × Bool))
    (hLo : L.oddpos = Arr.oddposDag w) (hRo : Rr.oddpos = w)
    (hs : (Arr.oddposDag w).Pairwise (fun a b => oddLt a b = true))
    (hd : w.Pairwise (fun a b => a.1 ≠ b.1)) :
    ∃ r, resolveCombinedOddpos L Rr (fullT L Rr n) = .ok r ∧ r.ndim = 0 ∧ r.oddpos = []
      ∧ r.elem [] []
        = sgnI ((if L.parity && w.length % 2 == 1 then (-1 : Int) else 1) * nestSign w)
            ((fullT L Rr n).elem [] []) := by
  have hi := fullT_indices hL hR
  refine ⟨_, resolve_nested L Rr _ w hLo hRo hs hd, ?_, rfl, ?_⟩
  · show (if _ then (fullT L Rr n).phaseGlobal else fullT L Rr n).indices.length = 0
    generalize (if L.parity && w.length % 2 == 1 then (-1 : Int) else 1) * nestSign w = σ
    split
    · show (fullT L Rr n).indices.length = 0
      rw [hi]; rfl
    · rw [hi]; rfl
  · show (if _ then (fullT L Rr n).phaseGlobal else fullT L Rr n).elem [] [] = _
    unfold sgnI
    generalize (if L.parity && w.length % 2 == 1 then (-1 : Int) else 1) * nestSign w = σ
    split
    · exact phaseGlobal_elem _ (fullT_signOk hp) [] []
    · rfl

/-- **norm, order `(conj x, x)`**, labels of any dualness with distinct names whose conjugated list
    is sorted: the squared norm up to `-1` per dual label -/
theorem norm_left_signed [NormLaws R] {x : Arr R} (h : NormOk x) (pd : Bool)
    (hd : pd = true ∨ ∀ ix ∈ x.indices, ix.dual = false)
    (hs : (Arr.oddposDag x.oddpos).Pairwise (fun a b => oddLt a b = true))
    (hdl : x.oddpos.Pairwise (fun a b => a.1 ≠ b.1)) :
    ∃ r, (x.conjF true pd).tensordotF x (allAxes x.ndim) .blockwise = .ok r ∧ r.ndim = 0
      ∧ r.oddpos = [] ∧ r.elem [] [] = sgnI (nestSign x.oddpos) (normSq x) := by
  have e := tensordotF_full (a := x.conjF true pd) (b := x) (Full.conjF h.full true pd)
    (ShapeLen.conjF h.shapeLen true pd) h.full h.shapeLen (conjF_ndim x true pd).symm
    (by rw [conjF_size])
  rw [conjF_ndim] at e
  change _ = resolveCombinedOddpos _ _ (fullT (prepL (x.conjF true pd)) (prepR x) x.ndim) at e
  have hval : (fullT (prepL (x.conjF true pd)) (prepR x) x.ndim).elem [] []
      = sgnI (if conjGlob x true then -1 else 1) (normSq x) :=
    norm_abelian_left pd h.full h.shapes hd
  have hLo : (prepL (x.conjF true pd)).oddpos = Arr.oddposDag x.oddpos := by
    rw [prepL_oddpos, (conjF_frame x true pd).2.2.2.2.1]
  obtain ⟨r, h1, h2, h3, h4⟩ := resolve_value_labels (L := prepL (x.conjF true pd))
    (Rr := prepR x) (n := x.ndim) (by rw [prepL_ndim, conjF_ndim]) rfl rfl x.oddpos hLo rfl hs hdl
  refine ⟨r, e.trans h1, h2, h3, ?_⟩
  -- the global sign of `conj` and the label sign of the odd left operand cancel
  rw [h4, hval, conjGlob_valid h.labels, prepL_parity, conjF_parity, h.labels]
  rcases nestSign_pm x.oddpos with hn | hn <;> rw [hn] <;> cases x.parity <;>
    simp [sgnI, LawfulNeg.neg_neg]

/-- **norm, order `(x, conj x)`**, sorted labels of any dualness with distinct names -/
theorem norm_right_signed [NormLaws R] {x : Arr R} (h : NormOk x) (pd : Bool)
    (hd : pd = true ∨ ∀ ix ∈ x.indices, ix.dual = false)
    (hs : x.oddpos.Pairwise (fun a b => oddLt a b = true))
    (hdl : x.oddpos.Pairwise (fun a b => a.1 ≠ b.1)) :
    ∃ r, x.tensordotF (x.conjF true pd) (allAxes x.ndim) .blockwise = .ok r ∧ r.ndim = 0
      ∧ r.oddpos = [] ∧ r.elem [] []
        = sgnI ((if x.parity then -1 else 1) * nestSign (Arr.oddposDag x.oddpos)) (normSq' x) := by
  have e := tensordotF_full (a := x) (b := x.conjF true pd) h.full h.shapeLen
    (Full.conjF h.full true pd) (ShapeLen.conjF h.shapeLen true pd) (conjF_ndim x true pd)
    (by rw [conjF_size])
  change _ = resolveCombinedOddpos _ _ (fullT (prepL x) (prepR (x.conjF true pd)) x.ndim) at e
  have hval : (fullT (prepL x) (prepR (x.conjF true pd)) x.ndim).elem [] []
      = sgnI ((if x.parity then -1 else 1) * (if conjGlob x true then -1 else 1)) (normSq' x) :=
    norm_abelian_right pd h.full h.secValid h.shapes hd
  have hRo : (prepR (x.conjF true pd)).oddpos = Arr.oddposDag x.oddpos :=
    (conjF_frame x true pd).2.2.2.2.1
  obtain ⟨r, h1, h2, h3, h4⟩ := resolve_value_labels (L := prepL x)
    (Rr := prepR (x.conjF true pd)) (n := x.ndim) (prepL_ndim x)
    (by rw [prepR_ndim, conjF_ndim]) rfl (Arr.oddposDag x.oddpos)
    (by rw [prepL_oddpos, oddposDag_involutive]) hRo
    (by rw [oddposDag_involutive]; exact hs) (oddposDag_distinct _ hdl)
  refine ⟨r, e.trans h1, h2, h3, ?_⟩
  rw [h4, hval, conjGlob_valid h.labels, prepL_parity, oddposDag_length, h.labels]
  rcases nestSign_pm (Arr.oddposDag x.oddpos) with hn | hn <;> rw [hn] <;> cases x.parity <;>
    simp [sgnI]

theorem norm_left_labels [NormLaws R] {x : Arr R} (h : NormOk x) (pd : Bool)
    (hd : pd = true ∨ ∀ ix ∈ x.indices, ix.dual = false)
    (hk : ∀ a ∈ x.oddpos, a.2 = false)
    (hs : x.oddpos.Pairwise (fun a b => oddLt a b = true))
    (hdl : x.oddpos.Pairwise (fun a b => a.1 ≠ b.1)) :
    ∃ r, (x.conjF true pd).tensordotF x (allAxes x.ndim) .blockwise = .ok r ∧ r.ndim = 0
      ∧ r.oddpos = [] ∧ r.elem [] [] = normSq x := by
  have := norm_left_signed h pd hd (oddposDag_sorted_of_nondual _ hk hs) hdl
  rwa [nestSign_nondual _ hk, sgnI_one] at this

/-- non-dual labels: the conjugated list is all dual, `(-1)^|labels|` cancels the parity sign of the
    order `(x, conj x)` -/
theorem norm_right_labels [NormLaws R] {x : Arr R} (h : NormOk x) (pd : Bool)
    (hd : pd = true ∨ ∀ ix ∈ x.indices, ix.dual = false)
    (hk : ∀ a ∈ x.oddpos, a.2 = false)
    (hs : x.oddpos.Pairwise (fun a b => oddLt a b = true))
    (hdl : x.oddpos.Pairwise (fun a b => a.1 ≠ b.1)) :
    ∃ r, x.tensordotF (x.conjF true pd) (allAxes x.ndim) .blockwise = .ok r ∧ r.ndim = 0
      ∧ r.oddpos = [] ∧ r.elem [] [] = normSq' x := by
  have := norm_right_signed h pd hd hs hdl
  rw [nestSign_dual _ (oddposDag_all_dual _ hk), oddposDag_length] at this
  have hl := h.labels
  rcases Nat.mod_two_eq_zero_or_one x.oddpos.length with e2 | e2 <;> rw [e2] at hl this <;>
    rw [← hl] at this <;> simpa using this

end compose

/-! ## non-vacuity -/

/-- even parity, TWO non-dual labels, rank 3, mixed dualness, a pending sign -/
def exE2 : Arr Int :=
  { sym := .Z2, fermi := true, charge := (0, 0),
    indices := [Index.mk [((0, 0), 1), ((1, 0), 1)] false none,
                Index.mk [((0, 0), 1), ((1, 0), 2)] true none,
                Index.mk [((0, 0), 1), ((1, 0), 1)] true none],
    blocks := [([(1, 0), (1, 0), (0, 0)], ⟨[1, 2, 1], #[2, -3]⟩),
               ([(1, 0), (0, 0), (1, 0)], ⟨[1, 1, 1], #[5]⟩),
               ([(0, 0), (1, 0), (1, 0)], ⟨[1, 2, 1], #[1, 1]⟩)],
    phases := [([(1, 0), (1, 0), (0, 0)], -1)], oddpos := [(2, false), (5, false)] }

/-- odd parity, THREE non-dual labels, rank 2 -/
def exO3 : Arr Int :=
  { sym := .Z2, fermi := true, charge := (1, 0),
    indices := [Index.mk [((0, 0), 1), ((1, 0), 2)] false none,
                Index.mk [((0, 0), 2), ((1, 0), 1)] true none],
    blocks := [([(0, 0), (1, 0)], ⟨[1, 1], #[3]⟩), ([(1, 0), (0, 0)], ⟨[2, 2], #[1, 2, -4, 5]⟩)],
    phases := [([(1, 0), (0, 0)], -1)],
    oddpos := [(2, false), (5, false), (9, false)] }

example : exE2.validB = true ∧ exE2.fermi = true ∧ exE2.parity = false
    ∧ exO3.validB = true ∧ exO3.fermi = true ∧ exO3.parity = true := by decide

example : ∃ r, (exE2.conjF true true).tensordotF exE2 (allAxes exE2.ndim) .blockwise = .ok r
    ∧ r.ndim = 0 ∧ r.oddpos = [] ∧ r.elem [] [] = normSq exE2 :=
  norm_left_labels (NormOk.of_valid (by decide) rfl) true (Or.inl rfl) (by decide) (by decide)
    (by decide)

example : ∃ r, exE2.tensordotF (exE2.conjF true true) (allAxes exE2.ndim) .blockwise = .ok r
    ∧ r.ndim = 0 ∧ r.oddpos = [] ∧ r.elem [] [] = normSq' exE2 :=
  norm_right_labels (NormOk.of_valid (by decide) rfl) true (Or.inl rfl) (by decide) (by decide)
    (by decide)

example : ∃ r, (exO3.conjF true true).tensordotF exO3 (allAxes exO3.ndim) .blockwise = .ok r
    ∧ r.ndim = 0 ∧ r.oddpos = [] ∧ r.elem [] [] = normSq exO3 :=
  norm_left_labels (NormOk.of_valid (by decide) rfl) true (Or.inl rfl) (by decide) (by decide)
    (by decide)

example : ∃ r, exO3.tensordotF (exO3.conjF true true) (allAxes exO3.ndim) .blockwise = .ok r
    ∧ r.ndim = 0 ∧ r.oddpos = [] ∧ r.elem [] [] = normSq' exO3 :=
  norm_right_labels (NormOk.of_valid (by decide) rfl) true (Or.inl rfl) (by decide) (by decide)
    (by decide)

/-- the same on the concrete values, both orders -/
example : normSq exE2 = 40 ∧ normSq' exE2 = 40 ∧ normSq exO3 = 55 ∧ normSq' exO3 = 55
    ∧ (match (exE2.conjF true true).tensordotF exE2 (allAxes 3) .blockwise with
      | .ok r => (r.elem [] [], r.oddpos) | .error _ => (0, [(0, true)])) = (40, [])
    ∧ (match exE2.tensordotF (exE2.conjF true true) (allAxes 3) .blockwise with
      | .ok r => (r.elem [] [], r.oddpos) | .error _ => (0, [(0, true)])) = (40, [])
    ∧ (match (exO3.conjF true true).tensordotF exO3 (allAxes 2) .blockwise with
      | .ok r => (r.elem [] [], r.oddpos) | .error _ => (0, [(0, true)])) = (55, [])
    ∧ (match exO3.tensordotF (exO3.conjF true true) (allAxes 2) .blockwise with
      | .ok r => (r.elem [] [], r.oddpos) | .error _ => (0, [(0, true)])) = (55, []) := by
  decide +kernel

end SymmModel.NormNet
