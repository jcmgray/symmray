/-
  SymmModel.Proofs.Reshape3f — the planner `calc_reshape_args` for all shapes, targets and sub-sizes
  (C07), part f: assembling the phases.
  `planner_eq`: given the segments of the first loop, `calc_reshape_args` in closed form (the unfuse
  axes `unfAxes`, the fuse calls `callsOf` of the squeezed segments `absorbS`, the expansion
  positions); the certificate `planner_wf_of_trailing` is read off it.  `planner_greedy`: with the
  converse of the first loop's invariant, the plan as a function of a greedy segmentation of the input.
  `Greedy` has no "x" segment (`Loc .x = False`, Reshape3b): for a target that inserts a size-one axis
  the way is `mainLoop_inv` (Reshape3b) and `planner_eq`.
-/
import SymmModel.Proofs.Reshape3e
namespace SymmModel.Reshape3
open SymmModel SymmModel.Reshape SymmModel.C07

/-- the segments without the expansions: "x" appends no label and consumes no old axis, so the unfuse, squeeze and
    fuse phases do not see it -/
def noX (S : List Seg) : List Seg := S.filter (fun a => !a.isX)

theorem eq_x_of_filtered {a : Seg} (h : (!a.isX) = false) : a = Seg.x := by
  cases a <;> simp [Seg.isX] at h ⊢

theorem flatL_noX (S : List Seg) : flatL (noX S) = flatL S :=
  flatMap_filter_eq _ _ (fun a h => eq_x_of_filtered h ▸ rfl) S

theorem flatE_noX (S : List Seg) : flatE (noX S) = flatE S :=
  flatMap_filter_eq _ _ (fun a h => eq_x_of_filtered h ▸ rfl) S

theorem flatK_noX (S : List Seg) : flatK (noX S) = flatK S :=
  flatMap_filter_eq _ _ (fun a h => eq_x_of_filtered h ▸ rfl) S

theorem uKeys_noX (S : List Seg) : uKeys (noX S) = uKeys S :=
  filterMap_filter_eq _ _ (fun a h => eq_x_of_filtered h ▸ rfl) S

theorem uLens_noX (S : List Seg) : uLens (noX S) = uLens S :=
  filterMap_filter_eq _ _ (fun a h => eq_x_of_filtered h ▸ rfl) S

theorem gKeys_noX (S : List Seg) : gKeys (noX S) = gKeys S :=
  filterMap_filter_eq _ _ (fun a h => eq_x_of_filtered h ▸ rfl) S

theorem mem_noX {S : List Seg} {a : Seg} : a ∈ noX S ↔ a ∈ S ∧ a.isX = false := by
  simp [noX]

theorem unfAxes_noX : ∀ (S : List Seg) (c : Nat), unfAxes c (noX S) = unfAxes c S
  | [], _ => rfl
  | a :: S, c => by
    cases a <;> simp [noX, Seg.isX, unfAxes, Seg.lbl] <;> exact unfAxes_noX S _

theorem unf_osg (S : List Seg) (h : ∀ a ∈ S, a.isX = false) : OSG (unf S) := by
  intro a ha
  simp only [unf, List.mem_flatMap] at ha
  obtain ⟨b, hb, hab⟩ := ha
  have hbx := h b hb
  cases b with
  | x => simp [Seg.isX] at hbx
  | u k d subs =>
    simp only [Seg.unf, List.mem_map] at hab
    obtain ⟨d', _, rfl⟩ := hab; rfl
  | o e => simp only [Seg.unf, List.mem_singleton] at hab; subst hab; rfl
  | s e => simp only [Seg.unf, List.mem_singleton] at hab; subst hab; rfl
  | g k es => simp only [Seg.unf, List.mem_singleton] at hab; subst hab; rfl

theorem mem_unf_g {S : List Seg} {k : Nat} {es : List E} (h : Seg.g k es ∈ unf S) : Seg.g k es ∈ S := by
  rcases mem_unf h with h | ⟨d, h⟩
  · exact h
  · cases h

theorem mem_unf_s {S : List Seg} {e : E} (h : Seg.s e ∈ unf S) : Seg.s e ∈ S := by
  rcases mem_unf h with h | ⟨d, h⟩
  · exact h
  · cases h

theorem flatL_replicate_x (n : Nat) : flatL (List.replicate n Seg.x) = [] :=
  List.flatMap_eq_nil_iff.2 fun _ ha => List.eq_of_mem_replicate ha ▸ rfl
theorem flatE_replicate_x (n : Nat) : flatE (List.replicate n Seg.x) = [] :=
  List.flatMap_eq_nil_iff.2 fun _ ha => List.eq_of_mem_replicate ha ▸ rfl
theorem flatK_replicate_x (n : Nat) : flatK (List.replicate n Seg.x) = [] :=
  List.flatMap_eq_nil_iff.2 fun _ ha => List.eq_of_mem_replicate ha ▸ rfl
theorem flatA_replicate_x (n : Nat) : flatA (List.replicate n Seg.x) = List.replicate n 1 := by
  induction n with
  | zero => rfl
  | succ n ih => simp [List.replicate_succ, Seg.outA, ih]
theorem flatA_map_s (ses : List E) : flatA (ses.map Seg.s) = [] :=
  List.flatMap_eq_nil_iff.2 fun _ ha => by obtain ⟨e, _, rfl⟩ := List.mem_map.mp ha; rfl
theorem uKeys_map_s (ses : List E) : uKeys (ses.map Seg.s) = [] :=
  List.filterMap_eq_nil_iff.2 fun _ ha => by obtain ⟨e, _, rfl⟩ := List.mem_map.mp ha; rfl
theorem uLens_map_s (ses : List E) : uLens (ses.map Seg.s) = [] :=
  List.filterMap_eq_nil_iff.2 fun _ ha => by obtain ⟨e, _, rfl⟩ := List.mem_map.mp ha; rfl
theorem uKeys_replicate_x (n : Nat) : uKeys (List.replicate n Seg.x) = [] :=
  List.filterMap_eq_nil_iff.2 fun _ ha => List.eq_of_mem_replicate ha ▸ rfl
theorem uLens_replicate_x (n : Nat) : uLens (List.replicate n Seg.x) = [] :=
  List.filterMap_eq_nil_iff.2 fun _ ha => List.eq_of_mem_replicate ha ▸ rfl
theorem gKeys_replicate_x (n : Nat) : gKeys (List.replicate n Seg.x) = [] :=
  List.filterMap_eq_nil_iff.2 fun _ ha => List.eq_of_mem_replicate ha ▸ rfl
theorem expPosFrom_map_s (c : Nat) (ses : List E) : expPosFrom c (ses.map Seg.s) = [] := by
  induction ses with
  | nil => rfl
  | cons d r ih => simp [expPosFrom, Seg.outK, ih]
theorem expPosFrom_replicate_x (c n : Nat) : expPosFrom c (List.replicate n Seg.x) = List.replicate n c := by
  induction n with
  | zero => rfl
  | succ n ih => simp [List.replicate_succ, expPosFrom, ih]

theorem eq_replicate_one {l : List Nat} (h : ∀ d ∈ l, d = 1) : l = List.replicate l.length 1 := by
  induction l with
  | nil => rfl
  | cons a l ih =>
    rw [List.length_cons, List.replicate_succ, h a (by simp), ← ih (fun d hd => h d (by simp [hd]))]

/-- all segments of a run of the planner whose first loop ends in the state `st` with the segments
    `S`: then come the old axes left over (they are squeezed) and the new axes left over (expansions) —
    "check trailing dimensions, which should be size 1": `for i in range(i, ndim_old): any_singleton =
    True; term.append("s")` and `for j in range(j, ndim_new): axs_expand.append(k)` -/
def allSegs (shape newshape : List Nat) (subsizes : List (Option (List Nat))) (st : RState)
    (S : List Seg) : List Seg :=
  S ++ ((shape.zip subsizes).drop st.i).map Seg.s ++ List.replicate (newshape.length - st.j) Seg.x

/-- the same as the squeeze and the fuse phase see them: without the expansions, fused axes unfused -/
def lateSegs (shape newshape : List Nat) (subsizes : List (Option (List Nat))) (st : RState)
    (S : List Seg) : List Seg :=
  unf (noX (allSegs shape newshape subsizes st S))

section
variable {shape newshape : List Nat} {subsizes : List (Option (List Nat))} {st : RState} {S : List Seg}

theorem mem_lateSegs_g {k : Nat} {es : List E} (h : Seg.g k es ∈ lateSegs shape newshape subsizes st S) :
    Seg.g k es ∈ S := by
  have := (mem_noX.mp (mem_unf_g h)).1
  simp only [allSegs, List.mem_append, List.mem_map, List.mem_replicate] at this
  rcases this with (hm | ⟨_, _, hm⟩) | ⟨_, hm⟩
  · exact hm
  · cases hm
  · cases hm

theorem mem_lateSegs_s {e : E} (h : Seg.s e ∈ lateSegs shape newshape subsizes st S) :
    Seg.s e ∈ S ∨ e ∈ (shape.zip subsizes).drop st.i := by
  have := (mem_noX.mp (mem_unf_s h)).1
  simp only [allSegs, List.mem_append, List.mem_map, List.mem_replicate] at this
  rcases this with (hm | ⟨e', he', hm⟩) | ⟨_, hm⟩
  · exact Or.inl hm
  · injection hm with hm; subst hm; exact Or.inr he'
  · cases hm

theorem expPosFrom_allSegs (hinv : MInv shape newshape subsizes st S) :
    st.axsExpand ++ List.replicate (newshape.length - st.j) st.k
      = expPosFrom 0 (allSegs shape newshape subsizes st S) := by
  rw [allSegs, expPosFrom_append, expPosFrom_append, expPosFrom_map_s, expPosFrom_replicate_x,
    ← hinv.exp, hinv.k]
  simp [flatK_map_s, -List.map_drop]

theorem lateSegs_osg : OSG (lateSegs shape newshape subsizes st S) :=
  unf_osg _ fun _ ha => (mem_noX.mp ha).2

theorem lateSegs_gok (hinv : MInv shape newshape subsizes st S) :
    GOk st.fuseSizes (lateSegs shape newshape subsizes st S) :=
  hinv.gok.congr
    (by simp [lateSegs, allSegs, gKeys_unf, gKeys_noX, gKeys_map_s, gKeys_replicate_x, -List.map_drop])
    fun _ _ => mem_lateSegs_g

theorem length_zip_drop (hlen : shape.length = subsizes.length) (i : Nat) :
    ((shape.zip subsizes).drop i).length = shape.length - i := by
  simp [List.length_zip, ← hlen]

/-- `any_singleton` after the trailing dimensions is false: nothing to squeeze -/
theorem lateSegs_og (hlen : shape.length = subsizes.length) (hinv : MInv shape newshape subsizes st S)
    (hf : (st.anySingleton || Nat.blt 0 (shape.length - st.i)) = false) :
    OG (lateSegs shape newshape subsizes st S) := by
  intro a ha
  refine isOG_of_osg_not_s (lateSegs_osg a ha) fun e he => ?_
  simp only [Bool.or_eq_false_iff] at hf
  rcases mem_lateSegs_s (he ▸ ha) with hm | hm
  · exact hinv.anyS hf.1 e hm
  · have h0 : ((shape.zip subsizes).drop st.i).length = 0 := by
      rw [length_zip_drop hlen]
      rcases Nat.eq_zero_or_pos (shape.length - st.i) with h | h
      · exact h
      · have := hf.2
        rw [show Nat.blt 0 (shape.length - st.i) = true from Nat.ble_eq_true_of_le h] at this
        cases this
    rw [List.eq_nil_of_length_eq_zero h0] at hm
    simp at hm

/-- **`calc_reshape_args` in closed form**, given the segments of its first loop: the unfuse axes do
    what `unf` says, the fuse calls are those of the squeezed segments, the expansions are those of the
    "x" segments; it fails iff there is something to squeeze and no other axis to squeeze it into -/
theorem planner_eq (hlen : shape.length = subsizes.length)
    (hst : mainLoop shape newshape subsizes (shape.length + newshape.length) {} = .ok st)
    (hinv : MInv shape newshape subsizes st S) :
    foldOpt symUnfuse (unfAxes 0 (allSegs shape newshape subsizes st S)) (shape.zip subsizes)
        = some (flatE (lateSegs shape newshape subsizes st S)) ∧
      calcReshapeArgs shape newshape subsizes =
        if (st.anySingleton || Nat.blt 0 (shape.length - st.i))
            && !(lateSegs shape newshape subsizes st S).any Seg.isOG then .error Err.index
        else .ok (unfAxes 0 (allSegs shape newshape subsizes st S),
          callsOf 0 [] (absorbS st.fuseSizes (lateSegs shape newshape subsizes st S)).1,
          (expPosFrom 0 (allSegs shape newshape subsizes st S)).reverse) := by
  have hzl := length_zip_drop hlen st.i
  obtain ⟨S1, hS1⟩ : ∃ S1, S1 = noX (allSegs shape newshape subsizes st S) := ⟨_, rfl⟩
  obtain ⟨S2, hS2⟩ : ∃ S2, S2 = lateSegs shape newshape subsizes st S := ⟨_, rfl⟩
  -- `simp` would push `map Seg.s` through `drop st.i` (`List.map_drop`), away from the `…_map_s` lemmas
  have hterm : st.term ++ List.replicate (shape.length - st.i) Lbl.s = flatL S1 := by
    rw [hS1, flatL_noX]; simp [allSegs, flatL_map_s, flatL_replicate_x, hinv.term, hzl, -List.map_drop]
  have hus : st.unfuseSizes = uLens S1 := by
    rw [hS1, uLens_noX]; simp [allSegs, uLens_map_s, uLens_replicate_x, hinv.us, -List.map_drop]
  have hE1 : flatE S1 = shape.zip subsizes := by
    rw [hS1, flatE_noX]; simp [allSegs, flatE_map_s, flatE_replicate_x, hinv.ax, -List.map_drop]
  have hX := expPosFrom_allSegs hinv
  obtain ⟨hu1, hu2⟩ := unfuse_phase S1 0 [] [] []
    (by rw [hS1, uKeys_noX, uLens_noX]
        simpa [allSegs, uKeys_map_s, uKeys_replicate_x, uLens_map_s, uLens_replicate_x, -List.map_drop]
          using hinv.uk)
    (by intro a ha; simp at ha) rfl (fun a ha => (mem_noX.mp (hS1 ▸ ha)).2)
  simp only [List.nil_append] at hu1 hu2
  have hS21 : unf S1 = S2 := by rw [hS1, hS2]; rfl
  rw [hS21] at hu1 hu2
  rw [hE1] at hu2
  have hO2 : OSG S2 := hS2 ▸ lateSegs_osg
  have hG2 : GOk st.fuseSizes S2 := hS2 ▸ lateSegs_gok hinv
  have hax : unfAxes 0 S1 = unfAxes 0 (allSegs shape newshape subsizes st S) := by rw [hS1, unfAxes_noX]
  simp only [List.length_nil, hax] at hu1 hu2
  refine ⟨hS2 ▸ hu2, ?_⟩
  rw [← hS2]
  unfold calcReshapeArgs
  simp only [hst, hterm, hus, hu1, hX]
  cases hflag : (st.anySingleton || Nat.blt 0 (shape.length - st.i)) with
  | false =>
    have hOG : OG S2 := hS2 ▸ lateSegs_og hlen hinv hflag
    have hl := length_le_flatL (fun a ha => hG2.lbl_pos ha (hOG a ha))
    simp only [Bool.false_eq_true, if_false, Bool.false_and, pure, Except.pure, absorbS_id _ hOG,
      Bool.or_false]
    cases hF : st.anyFused with
    | false =>
      rw [callsOf_no_g S2 0 (fun k es hm => hinv.anyF hF k es (mem_lateSegs_g (hS2 ▸ hm)))]
      simp
    | true =>
      simp only [if_true]
      rw [show fuseLoop st.fuseSizes _ 0 (flatL S2) [] [] = _ from
        fuseLoop_eq st.fuseSizes _ S2 [] [] [] hOG hG2.len (by simp; omega)]
      simp
  | true =>
    simp only [if_true, Bool.true_and, Bool.or_true]
    cases hany : S2.any Seg.isOG with
    | false =>
      rw [squeezePhase_none S2 _ hO2 (fun a ha => by
        have := List.any_eq_false.mp hany a ha; simpa using this)]
      rfl
    | true =>
      have hne : ∃ a ∈ S2, a.isOG = true := List.any_eq_true.mp hany
      have hO3 := absorbS_og st.fuseSizes hO2 hne
      have hG3 := (absorbS_keeps st.fuseSizes hO2 hne).gok hG2
      have hl := length_le_flatL (fun a ha => hG3.lbl_pos ha (hO3 a ha))
      rw [squeezePhase_eq S2 _ hO2 hG2 hne]
      simp only [Bool.not_true, Bool.false_eq_true, if_false]
      rw [show fuseLoop _ _ 0 (flatL (absorbS st.fuseSizes S2).1) [] [] = _ from
        fuseLoop_eq _ _ _ [] [] [] hO3 hG3.len (by simp; omega)]
      simp [pure, Except.pure]

/-- a plan that the planner returns: `planner_eq`, with what is known about the squeezed segments -/
theorem planner_ok (hlen : shape.length = subsizes.length)
    (hst : mainLoop shape newshape subsizes (shape.length + newshape.length) {} = .ok st)
    (hinv : MInv shape newshape subsizes st S) {t : List Nat × List (List (List Nat)) × List Nat}
    (h : calcReshapeArgs shape newshape subsizes = .ok t) :
    ∃ S3 fs3, t = (unfAxes 0 (allSegs shape newshape subsizes st S), callsOf 0 [] S3,
        (expPosFrom 0 (allSegs shape newshape subsizes st S)).reverse)
      ∧ OG S3 ∧ SqKeeps (lateSegs shape newshape subsizes st S) st.fuseSizes S3 fs3 := by
  obtain ⟨_, heq⟩ := planner_eq hlen hst hinv
  refine ⟨(absorbS st.fuseSizes (lateSegs shape newshape subsizes st S)).1,
    (absorbS st.fuseSizes (lateSegs shape newshape subsizes st S)).2, ?_⟩
  rw [heq] at h
  cases hflag : (st.anySingleton || Nat.blt 0 (shape.length - st.i)) with
  | false =>
    have hOG := lateSegs_og hlen hinv hflag
    simp only [hflag, Bool.false_and, Bool.false_eq_true, if_false] at h
    injection h with h
    rw [absorbS_id _ hOG] at h ⊢
    exact ⟨h.symm, hOG, SqKeeps.refl _ _⟩
  | true =>
    simp only [hflag, Bool.true_and] at h
    split at h
    · cases h
    · rename_i hc
      have hne : ∃ a ∈ lateSegs shape newshape subsizes st S, a.isOG = true :=
        List.any_eq_true.mp (by simpa using hc)
      injection h with h
      exact ⟨h.symm, absorbS_og _ lateSegs_osg hne, absorbS_keeps _ lateSegs_osg hne⟩

theorem planner_ok_of_ok (hlen : shape.length = subsizes.length)
    {t : List Nat × List (List (List Nat)) × List Nat} (h : calcReshapeArgs shape newshape subsizes = .ok t) :
    ∃ st S S3 fs3, mainLoop shape newshape subsizes (shape.length + newshape.length) {} = .ok st ∧
      MInv shape newshape subsizes st S ∧
      foldOpt symUnfuse (unfAxes 0 (allSegs shape newshape subsizes st S)) (shape.zip subsizes)
        = some (flatE (lateSegs shape newshape subsizes st S)) ∧
      t = (unfAxes 0 (allSegs shape newshape subsizes st S), callsOf 0 [] S3,
        (expPosFrom 0 (allSegs shape newshape subsizes st S)).reverse) ∧
      OG S3 ∧ SqKeeps (lateSegs shape newshape subsizes st S) st.fuseSizes S3 fs3 := by
  cases hst : mainLoop shape newshape subsizes (shape.length + newshape.length) {} with
  | error e => simp only [calcReshapeArgs, hst] at h; cases h
  | ok st =>
    obtain ⟨S, hinv, _⟩ := mainLoop_inv hlen _ _ _ _ (minv_init shape newshape subsizes) hst
    obtain ⟨S3, fs3, ht, hO3, hk⟩ := planner_ok hlen hst hinv h
    exact ⟨st, S, S3, fs3, rfl, hinv, (planner_eq hlen hst hinv).1, ht, hO3, hk⟩

end

/-- **the planner theorem, general form**: for all shapes, targets and sub-sizes, a plan
    returned by `calc_reshape_args` is certified (`Plan.wfB`: it executes on the symbolic shape —
    axes in range, only fused axes unfused, every fuse call groups consecutive axes — and yields
    exactly `newshape`), provided the dimensions the first loop leaves over on either side all have
    size one (which the code assumes but does not check). -/
theorem planner_wf_of_trailing (shape newshape : List Nat) (subsizes : List (Option (List Nat)))
    (hlen : shape.length = subsizes.length)
    (t : List Nat × List (List (List Nat)) × List Nat)
    (h : calcReshapeArgs shape newshape subsizes = .ok t)
    (htrail : ∀ st, mainLoop shape newshape subsizes (shape.length + newshape.length) {} = .ok st →
      (∀ d ∈ shape.drop st.i, d = 1) ∧ (∀ d ∈ newshape.drop st.j, d = 1)) :
    (Plan.ofTriple t).wfB shape subsizes newshape = true := by
  obtain ⟨st, S, S3, fs3, hst, hinv, hu, rfl, hO3, hk⟩ := planner_ok_of_ok hlen h
  obtain ⟨ht1, ht2⟩ := htrail st hst
  have hG2 := lateSegs_gok hinv
  have h12 : SOne (lateSegs shape newshape subsizes st S) := by
    intro e he
    rcases mem_lateSegs_s he with hm | hm
    · exact hinv.sone e hm
    · apply ht1
      have : e.1 ∈ SymShape.sizes ((shape.zip subsizes).drop st.i) := List.mem_map.mpr ⟨e, hm, rfl⟩
      have e2 := sizes_take_drop_zip hlen st.i (shape.length - st.i)
      rw [List.take_of_length_le (by rw [length_zip_drop hlen]; exact Nat.le_refl _),
        List.take_of_length_le (by simp)] at e2
      rwa [e2] at this
  have hG3 := hk.gok hG2
  have hz1 := callsOf_exec_all S3 hO3 (fun k es hm => (hG3.len k es hm).2)
  have hz2 := sizes_fusedE hO3
  have hKall : flatK (allSegs shape newshape subsizes st S) = flatK S3 := by
    rw [(hk.flatK h12).1, lateSegs, flatK_unf, flatK_noX]
  obtain ⟨Y, hy1, hy2⟩ := expand_phase (allSegs shape newshape subsizes st S) [] (fusedE S3) (by rw [hKall, hz2])
  have hA : flatA (allSegs shape newshape subsizes st S) = newshape := by
    have := eq_replicate_one ht2
    rw [List.length_drop] at this
    simp only [allSegs, flatA_append, flatA_map_s, flatA_replicate_x, hinv.out, List.append_nil]
    rw [← this, List.take_append_drop]
  rw [wfB_iff]
  refine ⟨hlen, Y, ?_, by rw [hy2, hA]⟩
  simp only [Plan.exec, Plan.ofTriple, hu, ← hk.flatE, hz1]
  exact hy1

/-- `fuse_sizes` after the first loop: one entry per "g" segment, in order (`fuse_sizes[label] = s`) -/
def gLens (S : List Seg) : List Nat := S.filterMap fun | .g _ es => some es.length | _ => none

theorem foldl_after_sizes : ∀ (S : List Seg) (st : RState),
    (S.foldl after st).fuseSizes = st.fuseSizes ++ gLens S
      ∧ (S.foldl after st).anySingleton = (st.anySingleton || S.any Seg.isS)
  | [], st => by simp [gLens]
  | a :: S, st => by
    obtain ⟨h1, h2⟩ := foldl_after_sizes S (after st a)
    rw [List.foldl_cons, h1, h2]
    cases a <;> simp [after, gLens, Seg.isS]

theorem foldl_after_pos : ∀ (S : List Seg) (st : RState), (∀ a ∈ S, a.isX = false) →
    (S.foldl after st).i = st.i + (flatE S).length ∧ (S.foldl after st).j = st.j + (flatA S).length
  | [], st, _ => by simp
  | a :: S, st, h => by
    obtain ⟨h1, h2⟩ := foldl_after_pos S (after st a) fun b hb => h b (by simp [hb])
    rw [List.foldl_cons, h1, h2, after_i st a (h a (by simp)), after_j]
    simp [Nat.add_assoc]

theorem greedy_noX : ∀ {S : List Seg}, Greedy S → ∀ a ∈ S, a.isX = false ∧ 1 ≤ a.ax.length
  | [], _ => fun _ h => by simp at h
  | b :: S, h => by
    intro a ha
    rcases List.mem_cons.mp ha with rfl | ha
    · have := h.1
      cases a with
      | x => exact this.elim
      | g k es => obtain ⟨e0, mid, el, rfl, _⟩ := this; simp [Seg.isX, Seg.ax]
      | o e => simp [Seg.isX, Seg.ax]
      | s e => simp [Seg.isX, Seg.ax]
      | u _ _ _ => simp [Seg.isX, Seg.ax]
    · exact greedy_noX h.2 a ha

theorem length_le_flatE : ∀ {S : List Seg}, (∀ a ∈ S, 1 ≤ a.ax.length) → S.length ≤ (flatE S).length
  | [], _ => Nat.le_refl _
  | a :: S, h => by
    have := h a (by simp)
    have := length_le_flatE (S := S) (fun b hb => h b (by simp [hb]))
    simp only [List.length_cons, flatE_cons, List.length_append]; omega

theorem unfAxes_tail (X : SymShape) : ∀ (S : List Seg) (c : Nat), unfAxes c (S ++ X.map Seg.s) = unfAxes c S
  | [], c => by
    induction X generalizing c with
    | nil => rfl
    | cons e X ih => exact ih _
  | a :: S, c => by
    cases a <;> simp [unfAxes, unfAxes_tail X S]

theorem expPosFrom_noX : ∀ (S : List Seg) (c : Nat), (∀ a ∈ S, a.isX = false) → expPosFrom c S = []
  | [], _, _ => rfl
  | a :: S, c, h => by
    have ha := h a (by simp)
    have := expPosFrom_noX S (c + a.outK.length) fun b hb => h b (by simp [hb])
    cases a <;> simp_all [expPosFrom, Seg.isX]

theorem flatA_eq_flatK : ∀ {S : List Seg}, (∀ a ∈ S, a.isX = false) → flatA S = flatK S
  | [], _ => rfl
  | a :: S, h => by
    have ha := h a (by simp)
    rw [flatA_cons, flatK_cons, flatA_eq_flatK fun b hb => h b (by simp [hb])]
    cases a with
    | x => simp [Seg.isX] at ha
    | _ => rfl

theorem noX_id {S : List Seg} (h : ∀ a ∈ S, a.isX = false) : noX S = S :=
  List.filter_eq_self.mpr fun a ha => by simp [h a ha]

theorem unf_map_s (X : SymShape) : unf (X.map Seg.s) = X.map Seg.s := by
  induction X with
  | nil => rfl
  | cons e X ih => rw [List.map_cons, unf_cons, ih]; rfl

/-- **the planner on a greedy segmentation** `S` of the old axes (`Greedy`: every segment is what the
    first loop does at its place; `Keyed`: with the labels it hands out), followed by old axes `X` for
    which the target has nothing left.  The plan is a function of `S` and `X`: unfuse the "u" axes
    (`unfAxes`; the first conjunct says what that does to the shape), fuse the groups that are left
    when every "s" — those of `S` and all of `X` — has joined a neighbour (`absorbS`, `callsOf`), expand
    nothing.  The planner fails (`term[i]` past the end) exactly when there is something to squeeze and
    no other axis to squeeze it into.
    The descriptions of a pair of shapes that are turned into such an `S`: a symbolic shape with its
    fused axes to be unfused (`Reshape5.segsBack`, Reshape5a), a list of merged runs
    (`Reshape5.segsR`, Reshape5g), the planner's reading `Item` of a merge / squeeze target
    (`Reshape5.segsI`, Reshape6e); a merge / drop description `MSeg` is first rewritten as items
    (`Reshape5.normalise`, Reshape7a). -/
theorem planner_greedy (S : List Seg) (X : SymShape) (hG : Greedy S) (hK : Keyed 0 0 S) :
    foldOpt symUnfuse (unfAxes 0 S) (flatE S ++ X) = some (flatE (unf S) ++ X) ∧
    calcReshapeArgs (SymShape.sizes (flatE S ++ X)) (flatA S) (SymShape.subs (flatE S ++ X)) =
      if (S.any Seg.isS || !X.isEmpty) && !(unf S ++ X.map Seg.s).any Seg.isOG then .error Err.index
      else .ok (unfAxes 0 S, callsOf 0 [] (absorbS (gLens S) (unf S ++ X.map Seg.s)).1, []) := by
  have hnx := greedy_noX hG
  have hlen : (SymShape.sizes (flatE S ++ X)).length = (SymShape.subs (flatE S ++ X)).length := by
    simp [SymShape.sizes, SymShape.subs]
  have hinv := minv_of_greedy S [] X {} (by simpa using minv_init _ _ _) hG hK
  simp only [List.nil_append] at hinv
  obtain ⟨st, hst⟩ : ∃ st, st = S.foldl after {} := ⟨_, rfl⟩
  rw [← hst] at hinv
  obtain ⟨hi, hj⟩ : st.i = (flatE S).length ∧ st.j = (flatA S).length := by
    simpa [hst] using foldl_after_pos S {} fun a ha => (hnx a ha).1
  have hmain : mainLoop (SymShape.sizes (flatE S ++ X)) (flatA S) (SymShape.subs (flatE S ++ X))
      ((SymShape.sizes (flatE S ++ X)).length + (flatA S).length) {} = .ok st := by
    have hl := length_le_flatE fun a ha => (hnx a ha).2
    obtain ⟨f, hf⟩ : ∃ f, (SymShape.sizes (flatE S ++ X)).length + (flatA S).length = f + S.length :=
      ⟨(SymShape.sizes (flatE S ++ X)).length + (flatA S).length - S.length, by
        simp [SymShape.sizes]; omega⟩
    have hrun := run_of_greedy S [] X {} rfl rfl hG
    simp only [List.nil_append] at hrun
    rw [hf, mainLoop_run _ _ _ hrun, ← hst, mainLoop_stop _ _ _ _ _ (Or.inr (by omega))]
  obtain ⟨hunf, heq⟩ := planner_eq hlen hmain hinv
  have hall : allSegs (SymShape.sizes (flatE S ++ X)) (flatA S) (SymShape.subs (flatE S ++ X)) st S
      = S ++ X.map Seg.s := by
    simp [allSegs, zip_sizes_subs, hi, hj]
  have hnx' : ∀ a ∈ S ++ X.map Seg.s, a.isX = false := by
    intro a ha
    rcases List.mem_append.mp ha with ha | ha
    · exact (hnx a ha).1
    · obtain ⟨e, _, rfl⟩ := List.mem_map.mp ha; rfl
  have hlate : lateSegs (SymShape.sizes (flatE S ++ X)) (flatA S) (SymShape.subs (flatE S ++ X)) st S
      = unf S ++ X.map Seg.s := by
    rw [lateSegs, hall, noX_id hnx', unf, List.flatMap_append, ← unf, ← unf, unf_map_s]
  have hflag : (st.anySingleton || Nat.blt 0 ((SymShape.sizes (flatE S ++ X)).length - st.i))
      = (S.any Seg.isS || !X.isEmpty) := by
    rw [hst, (foldl_after_sizes S {}).2, ← hst, hi]
    cases X <;> simp [SymShape.sizes, Nat.blt]
  rw [hall, hlate, unfAxes_tail, zip_sizes_subs] at hunf
  refine ⟨by simpa [flatE_map_s] using hunf, ?_⟩
  rw [heq, hlate, hall, hflag, expPosFrom_noX _ _ hnx', unfAxes_tail, hst, (foldl_after_sizes S {}).1]
  rfl

theorem planner_greedy_plain (S : List Seg) (hG : Greedy S) (hK : Keyed 0 0 S) (hs : S.any Seg.isS = false) :
    calcReshapeArgs (SymShape.sizes (flatE S)) (flatA S) (SymShape.subs (flatE S))
      = .ok (unfAxes 0 S, callsOf 0 [] (unf S), []) := by
  have hOG : OG (unf S) := fun a ha =>
    isOG_of_osg_not_s (unf_osg S (fun b hb => (greedy_noX hG b hb).1) a ha) fun e he => by
      have := List.any_eq_false.mp hs _ (mem_unf_s (he ▸ ha))
      simp [Seg.isS] at this
  have := (planner_greedy S [] hG hK).2
  simpa [hs, absorbS_id _ hOG] using this

theorem unf_id : ∀ {S : List Seg}, (∀ k d subs, Seg.u k d subs ∉ S) → unf S = S
  | [], _ => rfl
  | a :: S, h => by
    rw [unf_cons, unf_id fun k d subs hm => h k d subs (by simp [hm])]
    cases a with
    | u k d subs => exact (h _ _ _ (List.mem_cons_self ..)).elim
    | _ => rfl

theorem unfAxes_noU : ∀ {S : List Seg} (c : Nat), (∀ k d subs, Seg.u k d subs ∉ S) → unfAxes c S = []
  | [], _, _ => rfl
  | a :: S, c, h => by
    have ih := fun c => unfAxes_noU (S := S) c fun k d subs hm => h k d subs (by simp [hm])
    cases a with
    | u k d subs => exact (h _ _ _ (List.mem_cons_self ..)).elim
    | _ => exact ih _

end SymmModel.Reshape3
