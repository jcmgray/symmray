/-
  SymmModel.Proofs.TwoStepSec — "several pairs at once or one after another" (C04): per-sector facts.
  For a stored sector pair aligned on all pairs: the block shape of its intermediate sector read in the
  einsum order, and the assembled intermediate offset read in the einsum order; boxes.
  Namespace `SymmModel.TwoStepP`.
-/
import SymmModel.Proofs.TwoStepInter
import SymmModel.Proofs.TwoStepOrder2

namespace SymmModel
namespace TwoStepP
open TdotP GradedP RoutesP AssocP KoszulP Assoc3P
open Lazy (sgnI)
set_option linter.unusedSectionVars false

def dbl (L : List Nat) (m : Nat) : List Nat := (List.range m).flatMap (fun i => [L.getD i 0, L.getD i 0])

theorem dbl_length (L : List Nat) (m : Nat) : (dbl L m).length = 2 * m := by
  unfold dbl
  rw [KoszulP.length_flatMap_uniform (g := fun i => [L.getD i 0, L.getD i 0]) (L := 2) (fun _ => rfl) m]
  omega

theorem dbl_getD (L : List Nat) (m k : Nat) (hk : k < 2 * m) : (dbl L m).getD k 0 = L.getD (k / 2) 0 := by
  unfold dbl
  have e : k = (k / 2) * 2 + k % 2 := by omega
  rw [List.getD_eq_getElem?_getD]
  conv => lhs; rw [e]
  rw [KoszulP.getElem?_flatMap_uniform (g := fun i => [L.getD i 0, L.getD i 0]) (L := 2) (fun _ => rfl)
    m (k / 2) (k % 2) (by omega) (by omega)]
  rcases Nat.mod_two_eq_zero_or_one k with h | h <;> simp [h]

theorem inBox_dbl (V t : List Nat) (m : Nat) (hV : V.length = m) (h : inBox V t = true) :
    inBox (dbl V m) (dbl t m) = true := by
  rw [inBox_iff] at h ⊢
  rw [dbl_length, dbl_length]
  refine ⟨rfl, fun k hk => ?_⟩
  rw [dbl_getD _ _ _ hk, dbl_getD _ _ _ hk]
  exact h.2 _ (by omega)

theorem inBox_of_permuted (s i p : List Nat) (n : Nat) (hp : p.Perm (List.range n))
    (hs : s.length = n) (hi : i.length = n) (h : inBox (permuted s p) (permuted i p) = true) :
    inBox s i = true := by
  rw [inBox_iff] at h ⊢
  have hps : ∀ x ∈ p, x < s.length := by rw [hs]; exact perm_range_mem_lt hp
  have hpi : ∀ x ∈ p, x < i.length := by rw [hi]; exact perm_range_mem_lt hp
  refine ⟨by rw [hs, hi], fun k hk => ?_⟩
  have hkp : k ∈ p := hp.mem_iff.mpr (List.mem_range.mpr (hs ▸ hk))
  obtain ⟨j, hj, rfl⟩ := List.getElem_of_mem hkp
  have := h.2 j (by rw [permuted_length s p hps]; exact hj)
  rwa [getD_permuted i p hpi j hj, getD_permuted s p hps j hj] at this

variable {R : Type}

section shapes
variable [AddCommMonoid R] [Mul R] [Neg R] [SignRing R]
variable {a b c : Arr R} {xa xb ya yb : List Nat} {ph : Int}

theorem gFront_self (d : Nat → Bool) (V : List Nat) (m : Nat) : gFront d V V m = dbl V m := by
  unfold gFront dbl
  exact List.flatMap_congr fun i _ => by split <;> rfl

theorem shape_ord (W : AdmW a b (xa ++ ya) (xb ++ yb)) (hlx : xa.length = xb.length)
    (hly : ya.length = yb.length) {sa sb : Sector} (hsa : sa ∈ a.sectors) (hsb : sb ∈ b.sectors)
    (hal : permuted sb (xb ++ yb) = permuted sa (xa ++ ya)) :
    (permuted (Arr.blockShapeD a.indices sa) (freeAxes a.ndim xa)
        ++ permuted (Arr.blockShapeD b.indices sb) (freeAxes b.ndim xb)).length = tsN a.ndim b.ndim xa xb
    ∧ (permuted (Arr.blockShapeD a.indices sa) ya).length = ya.length
    ∧ permuted (permuted (Arr.blockShapeD a.indices sa) (freeAxes a.ndim xa)
        ++ permuted (Arr.blockShapeD b.indices sb) (freeAxes b.ndim xb)) (tsOrder a b.ndim xa xb ya yb)
      = dbl (permuted (Arr.blockShapeD a.indices sa) ya) ya.length
        ++ (permuted (Arr.blockShapeD a.indices sa) (freeAxes a.ndim (xa ++ ya))
          ++ permuted (Arr.blockShapeD b.indices sb) (freeAxes b.ndim (xb ++ yb))) := by
  have hA : Mid a.ndim xa ya := Mid.of W.nA W.ltA
  have hB : Mid b.ndim xb yb := Mid.of W.nB W.ltB
  obtain ⟨shpA, _, e1, lA, _⟩ := shape_of_mem (Arr.shapesOk_of_validB W.va) hsa
  obtain ⟨shpB, _, e2, lB, _⟩ := shape_of_mem (Arr.shapesOk_of_validB W.vb) hsb
  rw [← e1] at lA
  rw [← e2] at lB
  have hsy := shapes_y W hlx hsa hsb hal
  clear e1 e2
  generalize Arr.blockShapeD a.indices sa = shA at *
  generalize Arr.blockShapeD b.indices sb = shB at *
  have lFA : (permuted shA (freeAxes a.ndim xa)).length = (freeAxes a.ndim xa).length :=
    permuted_length _ _ (by rw [lA]; exact hA.flt)
  have lFB : (permuted shB (freeAxes b.ndim xb)).length = (freeAxes b.ndim xb).length :=
    permuted_length _ _ (by rw [lB]; exact hB.flt)
  have hZ : (permuted shA (freeAxes a.ndim xa) ++ permuted shB (freeAxes b.ndim xb)).length
      = tsN a.ndim b.ndim xa xb := by
    rw [List.length_append, lFA, lFB]; rfl
  have hV : (permuted shA ya).length = ya.length :=
    permuted_length _ _ (by rw [lA]; exact hA.lt2)
  have pA := permuted_tsPA hA shA (permuted shB (freeAxes b.ndim xb)) lA
  have pB := permuted_tsPB (na := a.ndim) (xa := xa) hB (permuted shA (freeAxes a.ndim xa)) shB lFA lB
  rw [hsy] at pB
  exact ⟨hZ, hV, by
    rw [permuted_tsOrder_pairs _ _ _ a b.ndim xa xb ya yb W.nA W.ltA W.nB W.ltB hly hZ pA pB,
      gFront_self, permuted_tsRhs hA hB shA shB lA lB]⟩

theorem asm_ord (a : Arr R) {nb : Nat} (hnA : (xa ++ ya).Nodup) (hltA : ∀ i ∈ xa ++ ya, i < a.ndim)
    (hnB : (xb ++ yb).Nodup) (hltB : ∀ i ∈ xb ++ yb, i < nb) (hly : ya.length = yb.length)
    (t fL fR : List Nat) (ht : t.length = ya.length)
    (hfL : fL.length = (freeAxes a.ndim (xa ++ ya)).length)
    (hfR : fR.length = (freeAxes nb (xb ++ yb)).length) :
    (asmSide (freeAxes a.ndim xa) ya (freeAxes a.ndim (xa ++ ya)) t fL
        ++ asmSide (freeAxes nb xb) yb (freeAxes nb (xb ++ yb)) t fR).length = tsN a.ndim nb xa xb
    ∧ permuted (asmSide (freeAxes a.ndim xa) ya (freeAxes a.ndim (xa ++ ya)) t fL
        ++ asmSide (freeAxes nb xb) yb (freeAxes nb (xb ++ yb)) t fR) (tsOrder a nb xa xb ya yb)
      = dbl t ya.length ++ (fL ++ fR) := by
  have hA : Mid a.ndim xa ya := Mid.of hnA hltA
  have hB : Mid nb xb yb := Mid.of hnB hltB
  have hZ : (asmSide (freeAxes a.ndim xa) ya (freeAxes a.ndim (xa ++ ya)) t fL
        ++ asmSide (freeAxes nb xb) yb (freeAxes nb (xb ++ yb)) t fR).length = tsN a.ndim nb xa xb := by
    rw [List.length_append, asmSide_length, asmSide_length]; rfl
  have pA := permuted_asm_tsPA hA t fL
    (asmSide (freeAxes nb xb) yb (freeAxes nb (xb ++ yb)) t fR) ht
  have pB := permuted_asm_tsPB (na := a.ndim) (xa := xa) hB t fR
    (asmSide (freeAxes a.ndim xa) ya (freeAxes a.ndim (xa ++ ya)) t fL) (asmSide_length _ _ _ _ _)
    (ht.trans hly)
  exact ⟨hZ, by
    rw [permuted_tsOrder_pairs _ _ _ a nb xa xb ya yb hnA hltA hnB hltB hly hZ pA pB,
      gFront_self, permuted_asm_tsRhs hA hB t fL fR hfL hfR]⟩

/-- `t` runs over the box of the remaining pairs, `fL ++ fR` over the box of the output sector -/
theorem asm_inBox (W : AdmW a b (xa ++ ya) (xb ++ yb)) (hlx : xa.length = xb.length)
    (hly : ya.length = yb.length) {sa sb : Sector} (hsa : sa ∈ a.sectors) (hsb : sb ∈ b.sectors)
    (hal : permuted sb (xb ++ yb) = permuted sa (xa ++ ya)) (t fL fR : List Nat)
    (ht : inBox (permuted (Arr.blockShapeD a.indices sa) ya) t = true)
    (hfL : fL.length = (freeAxes a.ndim (xa ++ ya)).length)
    (hbox : inBox (permuted (Arr.blockShapeD a.indices sa) (freeAxes a.ndim (xa ++ ya))
      ++ permuted (Arr.blockShapeD b.indices sb) (freeAxes b.ndim (xb ++ yb))) (fL ++ fR) = true) :
    t.length = ya.length ∧ fR.length = (freeAxes b.ndim (xb ++ yb)).length
    ∧ inBox (permuted (permuted (Arr.blockShapeD a.indices sa) (freeAxes a.ndim xa)
        ++ permuted (Arr.blockShapeD b.indices sb) (freeAxes b.ndim xb)) (tsOrder a b.ndim xa xb ya yb))
      (dbl t ya.length ++ (fL ++ fR)) = true
    ∧ inBox (permuted (Arr.blockShapeD a.indices sa) (freeAxes a.ndim xa)
        ++ permuted (Arr.blockShapeD b.indices sb) (freeAxes b.ndim xb))
      (asmSide (freeAxes a.ndim xa) ya (freeAxes a.ndim (xa ++ ya)) t fL
        ++ asmSide (freeAxes b.ndim xb) yb (freeAxes b.ndim (xb ++ yb)) t fR) = true := by
  obtain ⟨hZ, hV, hZo⟩ := shape_ord W hlx hly hsa hsb hal
  obtain ⟨_, _, eA, lA, _⟩ := shape_of_mem (Arr.shapesOk_of_validB W.va) hsa
  obtain ⟨_, _, eB, lB, _⟩ := shape_of_mem (Arr.shapesOk_of_validB W.vb) hsb
  have htl : t.length = ya.length := by rw [inBox_length ht, hV]
  have hfR : fR.length = (freeAxes b.ndim (xb ++ yb)).length := by
    have h1 := inBox_length hbox
    rw [List.length_append, List.length_append,
      permuted_length _ _ (by rw [eA, lA]; intro x hx; exact (mem_freeAxes.mp hx).1),
      permuted_length _ _ (by rw [eB, lB]; intro x hx; exact (mem_freeAxes.mp hx).1)] at h1
    omega
  obtain ⟨hml, hmo⟩ := asm_ord a W.nA W.ltA W.nB W.ltB hly t fL fR htl hfL hfR
  have hboxO : inBox (permuted (permuted (Arr.blockShapeD a.indices sa) (freeAxes a.ndim xa)
        ++ permuted (Arr.blockShapeD b.indices sb) (freeAxes b.ndim xb)) (tsOrder a b.ndim xa xb ya yb))
      (dbl t ya.length ++ (fL ++ fR)) = true := by
    rw [hZo, inBox_append (by rw [dbl_length, dbl_length]), inBox_dbl _ _ _ hV ht, hbox]
    rfl
  exact ⟨htl, hfR, hboxO, inBox_of_permuted _ _ _ _
    (tsOrder_perm a b.ndim xa xb ya yb W.nA W.ltA W.nB W.ltB hly) hZ hml (by rw [hmo]; exact hboxO)⟩

end shapes

end TwoStepP
end SymmModel
