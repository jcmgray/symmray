/-
  SymmModel.Proofs.TruncLemmas — facts about the pieces of `Model/Trunc.lean` (the selection logic of
  `svd_truncated`, symmray/linalg.py) from which `Props/C13.lean` assembles the C13 theorems:
  `sall` is an ascending permutation of all singular values; on an ascending list `a[-n]` and
  `count_nonzero(a >= t)` are monotone; the rule threshold is monotone in the cutoff and raises
  independently of it; the bond clamp only raises the threshold; the remainder that `calc_sub_max_bonds`
  distributes is at most one per sector.
-/
import SymmModel.Model.Trunc
import SymmModel.Proofs.BaseList
import Mathlib.Tactic.Linarith
import Mathlib.Tactic.Ring
import Mathlib.Algebra.Order.Field.Rat
import Mathlib.Data.List.Perm.Basic
import Mathlib.Data.List.Forall2

namespace SymmModel.TruncLemmas

theorem insertSorted_sorted (a : Rat) (l : List Rat) (h : l.Pairwise (· ≤ ·)) :
    (insertSorted ltRat a l).Pairwise (· ≤ ·) := by
  induction l with
  | nil => simp [insertSorted]
  | cons b bs ih =>
    simp only [insertSorted]
    rw [List.pairwise_cons] at h
    split
    · rename_i hlt
      have hba : b < a := by simpa [ltRat] using hlt
      rw [List.pairwise_cons]
      refine ⟨?_, ih h.2⟩
      intro x hx
      have := (insertSorted_perm ltRat a bs).mem_iff.mp hx
      rcases List.mem_cons.mp this with rfl | hx'
      · exact le_of_lt hba
      · exact h.1 x hx'
    · rename_i hlt
      have hab : a ≤ b := by
        have : ¬ b < a := by simpa [ltRat] using hlt
        exact not_lt.mp this
      rw [List.pairwise_cons]
      refine ⟨?_, List.pairwise_cons.mpr h⟩
      intro x hx
      rcases List.mem_cons.mp hx with rfl | hx'
      · exact hab
      · exact le_trans hab (h.1 x hx')

theorem sortAsc_sorted (l : List Rat) : (sortAsc l).Pairwise (· ≤ ·) := by
  unfold sortAsc
  induction l with
  | nil => simp [isort]
  | cons a as ih => simp only [isort]; exact insertSorted_sorted a _ ih

theorem sortAsc_perm (l : List Rat) : (sortAsc l).Perm l := isort_perm _ l

theorem toDense_perm (s : List (Charge × List Rat)) : (toDense s).Perm (s.flatMap (·.2)) := by
  unfold toDense
  exact (isort_perm _ s).flatMap_right _

theorem sall_perm (s : List (Charge × List Rat)) : (sall s).Perm (s.flatMap (·.2)) :=
  (sortAsc_perm _).trans (toDense_perm s)

theorem sall_sorted (s : List (Charge × List Rat)) : (sall s).Pairwise (· ≤ ·) :=
  sortAsc_sorted _

theorem filter_eq_take_of_desc {α : Type} (p : α → Bool) (l : List α)
    (h : l.Pairwise (fun a b => p b = true → p a = true)) :
    l.filter p = l.take (l.countP p) ∧ l.filter (fun x => !p x) = l.drop (l.countP p) := by
  induction l with
  | nil => simp
  | cons a as ih =>
    rw [List.pairwise_cons] at h
    obtain ⟨ih1, ih2⟩ := ih h.2
    by_cases ha : p a = true
    · simp [ha, ih1, ih2]
    · have hall : ∀ x ∈ as, p x = false := by
        intro x hx
        by_contra hc
        exact ha (h.1 x hx (by simpa using hc))
      have hc0 : as.countP p = 0 := by
        rw [List.countP_eq_zero]; intro x hx; simp [hall x hx]
      have hf : as.filter p = [] := by
        rw [List.filter_eq_nil_iff]; intro x hx; simp [hall x hx]
      have hf2 : as.filter (fun x => !p x) = as := by
        rw [List.filter_eq_self]; intro x hx; simp [hall x hx]
      simp [ha, hc0, hf, hf2]

theorem filter_eq_drop_of_asc {α : Type} (p : α → Bool) (l : List α)
    (h : l.Pairwise (fun a b => p a = true → p b = true)) :
    l.filter p = l.drop (l.length - l.countP p) ∧
      ∀ x ∈ l.take (l.length - l.countP p), p x = false := by
  induction l with
  | nil => simp
  | cons a as ih =>
    rw [List.pairwise_cons] at h
    obtain ⟨ih1, ih2⟩ := ih h.2
    by_cases ha : p a = true
    · have hall : ∀ x ∈ as, p x = true := fun x hx => h.1 x hx ha
      have hc : as.countP p = as.length := by
        rw [List.countP_eq_length]; exact hall
      have hf : as.filter p = as := by
        rw [List.filter_eq_self]; exact hall
      simp [ha, hc, hf]
    · have hle : as.countP p ≤ as.length := List.countP_le_length
      have e : (a :: as).length - (a :: as).countP p = (as.length - as.countP p) + 1 := by
        simp [ha]; omega
      rw [e]
      refine ⟨by simp [ha, ih1], ?_⟩
      intro x hx
      rw [List.take_succ_cons] at hx
      rcases List.mem_cons.mp hx with rfl | hx'
      · simpa using ha
      · exact ih2 x hx'


theorem ascending_getElem_le {a : List Rat} (hs : a.Pairwise (· ≤ ·)) {j k : Nat} (hjk : j ≤ k)
    (hk : k < a.length) : a[j]'(by omega) ≤ a[k] := by
  rcases Nat.lt_or_ge j k with hlt | hge
  · exact List.pairwise_iff_getElem.mp hs j k (by omega) hk hlt
  · have : j = k := by omega
    subst this; exact le_refl _

theorem countGe_le_length (t : Rat) (l : List Rat) : countGe t l ≤ l.length :=
  List.countP_le_length

theorem countGe_anti {t1 t2 : Rat} (h : t1 ≤ t2) (l : List Rat) : countGe t2 l ≤ countGe t1 l := by
  unfold countGe
  apply List.countP_mono_left
  intro x _ hx
  simp only [leRat, decide_eq_true_eq] at hx ⊢
  exact le_trans h hx

theorem sumNat_map_countGe (t : Rat) (s : List (Charge × List Rat)) :
    sumNat (s.map (fun p => countGe t p.2)) = countGe t (s.flatMap (·.2)) := by
  induction s with
  | nil => simp [sumNat, countGe]
  | cons p ps ih =>
    simp only [List.map_cons, List.flatMap_cons]
    unfold sumNat at ih ⊢
    simp only [List.foldr_cons]
    rw [ih]
    simp [countGe, List.countP_append]

theorem sumNat_map_countGe_sall (t : Rat) (s : List (Charge × List Rat)) :
    sumNat (s.map (fun p => countGe t p.2)) = countGe t (sall s) := by
  rw [sumNat_map_countGe]
  exact ((sall_perm s).countP_eq _).symm

theorem countGe_getElem_split (a : List Rat) (hs : a.Pairwise (· ≤ ·)) (k : Nat) (hk : k < a.length) :
    countGe a[k] a = countGe a[k] (a.take k) + (a.length - k) := by
  have h1 : countGe a[k] a = countGe a[k] (a.take k) + countGe a[k] (a.drop k) := by
    unfold countGe
    rw [← List.countP_append, List.take_append_drop]
  have h2 : countGe a[k] (a.drop k) = (a.drop k).length := by
    unfold countGe
    rw [List.countP_eq_length]
    intro x hx
    simp only [leRat, decide_eq_true_eq]
    obtain ⟨j, hj, rfl⟩ := List.mem_iff_getElem.mp hx
    rw [List.getElem_drop]
    exact ascending_getElem_le hs (by omega) (by simp at hj; omega)
  rw [h1, h2, List.length_drop]

theorem countGe_getElem_ge (a : List Rat) (hs : a.Pairwise (· ≤ ·)) (k : Nat) (hk : k < a.length) :
    a.length - k ≤ countGe a[k] a := by
  rw [countGe_getElem_split a hs k hk]
  omega

theorem countGe_getElem_eq (a : List Rat) (hs : a.Pairwise (· ≤ ·)) (k : Nat) (hk : k < a.length)
    (hstep : ∀ j (hj : j < k), a[j]'(by omega) < a[k]) :
    countGe a[k] a = a.length - k := by
  have h3 : countGe a[k] (a.take k) = 0 := by
    unfold countGe
    rw [List.countP_eq_zero]
    intro x hx
    simp only [leRat, decide_eq_true_eq, not_le]
    obtain ⟨j, hj, rfl⟩ := List.mem_take_iff_getElem.mp hx
    exact hstep j (by omega)
  rw [countGe_getElem_split a hs k hk, h3, Nat.zero_add]

theorem cumsumFrom_length (acc : Rat) (l : List Rat) : (cumsumFrom acc l).length = l.length := by
  induction l generalizing acc with
  | nil => rfl
  | cons x xs ih => simp [cumsumFrom, ih]

theorem cumsum_length (l : List Rat) : (cumsum l).length = l.length := cumsumFrom_length 0 l

theorem cumsumFrom_ge (acc : Rat) (l : List Rat) (h : NonNeg l) :
    ∀ x ∈ cumsumFrom acc l, acc ≤ x := by
  induction l generalizing acc with
  | nil => intro x hx; simp [cumsumFrom] at hx
  | cons y ys ih =>
    intro x hx
    have hy : 0 ≤ y := h y (by simp)
    have hys : NonNeg ys := fun z hz => h z (by simp [hz])
    simp only [cumsumFrom, List.mem_cons] at hx
    rcases hx with rfl | hx
    · linarith
    · have := ih (acc + y) hys x hx
      linarith

theorem cumsumFrom_sorted (acc : Rat) (l : List Rat) (h : NonNeg l) :
    (cumsumFrom acc l).Pairwise (· ≤ ·) := by
  induction l generalizing acc with
  | nil => simp [cumsumFrom]
  | cons y ys ih =>
    have hys : NonNeg ys := fun z hz => h z (by simp [hz])
    simp only [cumsumFrom, List.pairwise_cons]
    exact ⟨cumsumFrom_ge _ ys hys, ih _ hys⟩

theorem cumsumFrom_getElem (acc : Rat) (l : List Rat) (j : Nat) (hj : j < l.length) :
    (cumsumFrom acc l)[j]'(by rw [cumsumFrom_length]; exact hj) = acc + (l.take (j + 1)).sum := by
  induction l generalizing acc j with
  | nil => simp at hj
  | cons y ys ih =>
    cases j with
    | zero => simp [cumsumFrom]
    | succ j =>
      simp only [cumsumFrom, List.getElem_cons_succ]
      rw [ih (acc + y) j (by simpa using hj)]
      simp [List.take_succ_cons, List.sum_cons]
      ring

theorem weights_length (mode : Nat) (sa : List Rat) : (weights mode sa).length = sa.length := by
  unfold weights; split <;> simp

theorem weights_nonneg (mode : Nat) (sa : List Rat) (h : NonNeg sa) : NonNeg (weights mode sa) := by
  unfold weights
  split
  · intro x hx
    obtain ⟨y, _, rfl⟩ := List.mem_map.mp hx
    exact mul_self_nonneg y
  · exact h

theorem negIndex_eq (a : List Rat) (n : Nat) (h1 : 1 ≤ n) (h2 : n ≤ a.length) :
    negIndex a n = .ok (a[a.length - n]'(by omega)) := by
  unfold negIndex
  have : ¬ a.length < n := by omega
  have hn : n ≠ 0 := by omega
  simp only [this, if_false, hn]
  rw [List.getElem?_eq_getElem (by omega)]

theorem negIndex_zero (a : List Rat) (h : 0 < a.length) : negIndex a 0 = .ok (a[0]'h) := by
  unfold negIndex
  simp [List.getElem?_eq_getElem h]

theorem negIndex_ok_of_le (a : List Rat) (n : Nat) (hne : 0 < a.length) (h : n ≤ a.length) :
    ∃ v, negIndex a n = .ok v := by
  rcases Nat.eq_zero_or_pos n with rfl | hpos
  · exact ⟨_, negIndex_zero a hne⟩
  · exact ⟨_, negIndex_eq a n hpos h⟩

theorem negIndex_mem {a : List Rat} {n : Nat} {v : Rat} (h : negIndex a n = .ok v) : v ∈ a := by
  unfold negIndex at h
  split at h
  · cases h
  · split at h
    · rename_i w hw
      cases h
      exact List.mem_of_getElem? hw
    · cases h

theorem negIndex_nil (n : Nat) : negIndex [] n = .error .index := by
  unfold negIndex
  split <;> simp

theorem negIndex_mono (a : List Rat) (hs : a.Pairwise (· ≤ ·)) {n1 n2 : Nat} {v1 v2 : Rat}
    (h21 : n2 ≤ n1) (hpos : 1 ≤ n2) (h1 : negIndex a n1 = .ok v1) (h2 : negIndex a n2 = .ok v2) :
    v1 ≤ v2 := by
  have hl1 : n1 ≤ a.length := by
    by_contra hc
    unfold negIndex at h1
    simp [show a.length < n1 by omega] at h1
  rw [negIndex_eq a n1 (by omega) hl1] at h1
  rw [negIndex_eq a n2 hpos (by omega)] at h2
  cases h1; cases h2
  exact ascending_getElem_le hs (by omega) (by omega)


theorem nChiAdjust_mono (fix : Bool) {n m : Nat} (h : n ≤ m) : nChiAdjust fix n ≤ nChiAdjust fix m := by
  unfold nChiAdjust; split <;> omega

theorem nChiAdjust_le (fix : Bool) {n len : Nat} (h : n ≤ len) (hl : 1 ≤ len) :
    nChiAdjust fix n ≤ len := by
  unfold nChiAdjust; split <;> omega

theorem nChiAdjust_true_pos (n : Nat) : 1 ≤ nChiAdjust true n := by
  unfold nChiAdjust; simp

theorem condRhs_inv {mode : Nat} {cum : List Rat} {c rhs : Rat} (h : condRhs mode cum c = .ok rhs) :
    ((mode = 4 ∨ mode = 6) ∧ ∃ tot, negIndex cum 1 = .ok tot ∧ rhs = c * tot) ∨
    (¬ (mode = 4 ∨ mode = 6) ∧ rhs = c) := by
  unfold condRhs at h
  split at h
  · rename_i hm
    left
    refine ⟨hm, ?_⟩
    split at h
    · rename_i tot htot
      cases h
      exact ⟨tot, htot, rfl⟩
    · cases h
  · rename_i hm
    right
    cases h
    exact ⟨hm, rfl⟩

theorem condRhs_ok_of_ne_nil (mode : Nat) (cum : List Rat) (c : Rat) (h : 0 < cum.length) :
    ∃ rhs, condRhs mode cum c = .ok rhs := by
  unfold condRhs
  split
  · rw [negIndex_eq cum 1 (le_refl _) h]
    exact ⟨_, rfl⟩
  · exact ⟨_, rfl⟩

theorem ruleThreshold_cum_inv {fix : Bool} {sa : List Rat} {c t : Rat} {mode : Nat}
    (hm : mode = 3 ∨ mode = 4 ∨ mode = 5 ∨ mode = 6)
    (h : ruleThreshold fix sa c mode = .ok t) :
    ∃ rhs, condRhs mode (cumsum (weights mode sa)) c = .ok rhs ∧
      negIndex sa (nChiAdjust fix (countGe rhs (cumsum (weights mode sa)))) = .ok t := by
  have h1 : mode ≠ 1 := by omega
  have h2 : mode ≠ 2 := by omega
  unfold ruleThreshold at h
  simp only [h1, h2, if_false, hm, if_true] at h
  unfold nChiAll at h
  simp only at h
  cases hc : condRhs mode (cumsum (weights mode sa)) c with
  | error e => rw [hc] at h; simp at h
  | ok rhs =>
    rw [hc] at h
    exact ⟨rhs, rfl, h⟩

theorem ruleThreshold_cum_of {fix : Bool} {sa : List Rat} {c rhs : Rat} {mode : Nat}
    (hm : mode = 3 ∨ mode = 4 ∨ mode = 5 ∨ mode = 6)
    (hc : condRhs mode (cumsum (weights mode sa)) c = .ok rhs) :
    ruleThreshold fix sa c mode =
      negIndex sa (nChiAdjust fix (countGe rhs (cumsum (weights mode sa)))) := by
  have h1 : mode ≠ 1 := by omega
  have h2 : mode ≠ 2 := by omega
  unfold ruleThreshold
  simp only [h1, h2, if_false, hm, if_true]
  unfold nChiAll
  simp only [hc]

theorem ruleThreshold_ok_of_ne_nil (fix : Bool) (sa : List Rat) (c : Rat) (mode : Nat)
    (hne : 0 < sa.length) (hm : 1 ≤ mode ∧ mode ≤ 6) : ∃ t, ruleThreshold fix sa c mode = .ok t := by
  by_cases h1 : mode = 1
  · exact ⟨c, by simp [ruleThreshold, h1]⟩
  by_cases h2 : mode = 2
  · simp only [ruleThreshold, h2]
    rw [negIndex_eq sa 1 (le_refl _) hne]
    exact ⟨_, rfl⟩
  have hm' : mode = 3 ∨ mode = 4 ∨ mode = 5 ∨ mode = 6 := by omega
  have hcl : (cumsum (weights mode sa)).length = sa.length := by
    rw [cumsum_length, weights_length]
  obtain ⟨rhs, hrhs⟩ := condRhs_ok_of_ne_nil mode (cumsum (weights mode sa)) c (by omega)
  rw [ruleThreshold_cum_of hm' hrhs]
  apply negIndex_ok_of_le sa _ hne
  apply nChiAdjust_le fix _ hne
  rw [← hcl]
  exact countGe_le_length _ _

theorem ruleThreshold_error_indep {fix : Bool} {sa : List Rat} {c1 c2 : Rat} {mode : Nat}
    {e : TruncErr} (h : ruleThreshold fix sa c1 mode = .error e) :
    ruleThreshold fix sa c2 mode = .error e := by
  by_cases hm : 1 ≤ mode ∧ mode ≤ 6
  · rcases Nat.eq_zero_or_pos sa.length with h0 | hpos
    · have : sa = [] := List.eq_nil_of_length_eq_zero h0
      subst this
      by_cases h1 : mode = 1
      · simp [ruleThreshold, h1] at h
      by_cases h2 : mode = 2
      · simp only [ruleThreshold, h2, negIndex_nil] at h ⊢
        exact h
      have hm' : mode = 3 ∨ mode = 4 ∨ mode = 5 ∨ mode = 6 := by omega
      have hw0 : cumsum (weights mode []) = [] := by
        unfold weights; split <;> rfl
      have key : ∀ c, ruleThreshold fix [] c mode = .error .index := by
        intro c
        unfold ruleThreshold
        simp only [h1, h2, if_false, hm', if_true]
        unfold nChiAll
        simp only
        cases hc : condRhs mode (cumsum (weights mode [])) c with
        | error e' =>
          simp only
          unfold condRhs at hc
          split at hc
          · rw [hw0, negIndex_nil] at hc
            simp only at hc; cases hc; rfl
          · cases hc
        | ok rhs => simp only [negIndex_nil]
      rw [key c1] at h
      rw [key c2]
      exact h
    · obtain ⟨t, ht⟩ := ruleThreshold_ok_of_ne_nil fix sa c1 mode hpos hm
      rw [ht] at h; cases h
  · have h1 : mode ≠ 1 := by omega
    have h2 : mode ≠ 2 := by omega
    have h3 : ¬ (mode = 3 ∨ mode = 4 ∨ mode = 5 ∨ mode = 6) := by omega
    simp only [ruleThreshold, h1, h2, h3, if_false] at h ⊢
    exact h

/-- `hnowrap` keeps the larger cutoff away from `sall[-0]`: with `fix = false` and `n_chi_all = 0` the
    index wraps to the smallest value and the threshold drops (`C13.keep_antitone_cutoff_old_counterexample`);
    with `fix = true` the hypothesis is `nChiAdjust_true_pos`. -/
theorem ruleThreshold_mono {fix : Bool} {sa : List Rat} (hs : sa.Pairwise (· ≤ ·)) (hnn : NonNeg sa)
    {c1 c2 t1 t2 : Rat} {mode : Nat} (hc : c1 ≤ c2)
    (h1 : ruleThreshold fix sa c1 mode = .ok t1) (h2 : ruleThreshold fix sa c2 mode = .ok t2)
    (hnowrap : ∀ n, nChiAll mode sa c2 = .ok n → 1 ≤ nChiAdjust fix n) :
    t1 ≤ t2 := by
  by_cases hm1 : mode = 1
  · simp only [ruleThreshold, hm1, if_true] at h1 h2
    cases h1; cases h2; exact hc
  by_cases hm2 : mode = 2
  · simp only [ruleThreshold, hm2] at h1 h2
    cases htop : negIndex sa 1 with
    | error e => rw [htop] at h1; simp at h1
    | ok top =>
      rw [htop] at h1 h2
      simp only [Nat.reduceEqDiff, if_false, if_true] at h1 h2
      cases h1; cases h2
      have : 0 ≤ top := hnn top (negIndex_mem htop)
      exact mul_le_mul_of_nonneg_left hc this
  by_cases hm : mode = 3 ∨ mode = 4 ∨ mode = 5 ∨ mode = 6
  · obtain ⟨rhs1, hr1, hn1⟩ := ruleThreshold_cum_inv hm h1
    obtain ⟨rhs2, hr2, hn2⟩ := ruleThreshold_cum_inv hm h2
    have hw : NonNeg (weights mode sa) := weights_nonneg mode sa hnn
    have hrhs : rhs1 ≤ rhs2 := by
      rcases condRhs_inv hr1 with ⟨hm46, tot, htot, rfl⟩ | ⟨hm46, rfl⟩
      · rcases condRhs_inv hr2 with ⟨_, tot', htot', rfl⟩ | ⟨hm46', _⟩
        · rw [htot] at htot'; cases htot'
          have hmem := negIndex_mem htot
          have : (0 : Rat) ≤ tot := cumsumFrom_ge 0 _ hw tot hmem
          exact mul_le_mul_of_nonneg_right hc this
        · exact absurd hm46 hm46'
      · rcases condRhs_inv hr2 with ⟨hm46', _⟩ | ⟨_, rfl⟩
        · exact absurd hm46' hm46
        · exact hc
    have hcnt : countGe rhs2 (cumsum (weights mode sa)) ≤ countGe rhs1 (cumsum (weights mode sa)) :=
      countGe_anti hrhs _
    have hpos : 1 ≤ nChiAdjust fix (countGe rhs2 (cumsum (weights mode sa))) := by
      apply hnowrap
      unfold nChiAll
      simp only [hr2]
    exact negIndex_mono sa hs (nChiAdjust_mono fix hcnt) hpos hn1 hn2
  · simp only [ruleThreshold, hm1, hm2, hm, if_false] at h1
    cases h1

theorem bondClamp_ge (sa : List Rat) (t : Rat) (mb : Int) : t ≤ bondClamp sa t mb := by
  unfold bondClamp
  split
  · split
    · split
      · rename_i h; exact le_of_lt h
      · exact le_refl _
    · exact le_refl _
  · exact le_refl _

theorem bondClamp_mono (sa : List Rat) {t1 t2 : Rat} (h : t1 ≤ t2) (mb : Int) :
    bondClamp sa t1 mb ≤ bondClamp sa t2 mb := by
  unfold bondClamp
  split
  · split
    · rename_i b _
      split <;> split
      · exact le_refl _
      · rename_i h2; exact not_lt.mp h2
      · rename_i h1 h2; exact le_trans h (le_of_lt h2)
      · exact h
    · exact h
  · exact h

theorem bondClamp_ge_bond (sa : List Rat) (t : Rat) (mb : Nat) (h0 : 0 < mb) (h1 : mb < sa.length) :
    sa[sa.length - mb]'(by omega) ≤ bondClamp sa t (mb : Int) := by
  unfold bondClamp
  have hc : 0 < (mb : Int) ∧ (mb : Int) < (sa.length : Int) := by omega
  simp only [hc, and_self, if_true, Int.toNat_natCast]
  rw [negIndex_eq sa mb h0 (by omega)]
  simp only
  split
  · exact le_refl _
  · rename_i h; exact not_lt.mp h

theorem forall2_counts (s : List (Charge × List Rat)) {t1 t2 : Rat} (h : t1 ≤ t2) :
    List.Forall₂ (· ≤ ·) (s.map (fun p => countGe t2 p.2)) (s.map (fun p => countGe t1 p.2)) := by
  induction s with
  | nil => exact List.Forall₂.nil
  | cons p ps ih => exact List.Forall₂.cons (countGe_anti h _) ih


theorem sumNat_cons (a : Nat) (l : List Nat) : sumNat (a :: l) = a + sumNat l := rfl

theorem sumNat_bump (l : List Nat) (i : Nat) (h : i < l.length) : sumNat (bump l i) = sumNat l + 1 := by
  unfold bump
  induction l generalizing i with
  | nil => simp at h
  | cons a as ih =>
    cases i with
    | zero => simp only [List.modify_zero_cons, sumNat_cons]; omega
    | succ i =>
      simp only [List.modify_succ_cons, sumNat_cons]
      rw [ih i (by simpa using h)]
      omega

theorem length_bump (l : List Nat) (i : Nat) : (bump l i).length = l.length := by
  unfold bump; exact List.length_modify _ _ _

theorem length_foldl_bump (idxs : List Nat) (l : List Nat) : (idxs.foldl bump l).length = l.length := by
  induction idxs generalizing l with
  | nil => rfl
  | cons j js ih => simp only [List.foldl_cons]; rw [ih, length_bump]

theorem sumNat_foldl_bump (idxs : List Nat) (l : List Nat) (h : ∀ i ∈ idxs, i < l.length) :
    sumNat (idxs.foldl bump l) = sumNat l + idxs.length := by
  induction idxs generalizing l with
  | nil => rfl
  | cons j js ih =>
    simp only [List.foldl_cons, List.length_cons]
    rw [ih (bump l j) (by intro i hi; rw [length_bump]; exact h i (by simp [hi]))]
    rw [sumNat_bump l j (h j (by simp))]
    omega

theorem getElem?_bump (l : List Nat) (j i : Nat) :
    (bump l j)[i]? = (l[i]?).map (fun x => if j = i then x + 1 else x) := by
  unfold bump
  rw [List.getElem?_modify]
  rfl

theorem getElem?_foldl_bump (idxs : List Nat) (l : List Nat) (hnd : idxs.Nodup) (i : Nat) :
    (idxs.foldl bump l)[i]? = (l[i]?).map (fun x => if i ∈ idxs then x + 1 else x) := by
  induction idxs generalizing l with
  | nil => simp
  | cons j js ih =>
    rw [List.nodup_cons] at hnd
    simp only [List.foldl_cons]
    rw [ih (bump l j) hnd.2, getElem?_bump]
    cases l[i]? with
    | none => rfl
    | some x =>
      simp only [Option.map_some, Option.some.injEq, List.mem_cons]
      by_cases hji : j = i
      · subst hji
        simp [hnd.1]
      · have : ¬ i = j := fun h => hji h.symm
        simp [hji, this]

theorem argsortNat_perm (l : List Nat) : (argsortNat l).Perm (List.range l.length) :=
  isort_perm _ _

theorem baseSplit_length (sizes : List Nat) (mb : Nat) : (baseSplit sizes mb).length = sizes.length := by
  simp [baseSplit]

theorem base_sum_le (l : List Nat) (mb T : Nat) :
    sumNat (l.map (fun sz => mb * sz / T)) * T ≤ mb * sumNat l := by
  induction l with
  | nil => simp [sumNat]
  | cons a as ih =>
    simp only [List.map_cons, sumNat_cons]
    have := Nat.div_mul_le_self (mb * a) T
    rw [Nat.add_mul, Nat.mul_add]
    omega

theorem base_sum_ge (l : List Nat) (mb T : Nat) (hT : 0 < T) :
    mb * sumNat l ≤ (sumNat (l.map (fun sz => mb * sz / T)) + l.length) * T := by
  induction l with
  | nil => simp [sumNat]
  | cons a as ih =>
    simp only [List.map_cons, sumNat_cons, List.length_cons]
    have h1 : mb * a < (mb * a / T + 1) * T := by
      have := Nat.div_add_mod (mb * a) T
      have := Nat.mod_lt (mb * a) hT
      rw [Nat.add_mul, Nat.mul_comm (mb * a / T) T]
      omega
    have e : (mb * a / T + sumNat (List.map (fun sz => mb * sz / T) as) + (as.length + 1)) * T
        = (mb * a / T + 1) * T + (sumNat (List.map (fun sz => mb * sz / T) as) + as.length) * T := by
      ring
    rw [e, Nat.mul_add]
    omega

/-- `rem = max_bond - sum(sub_max_bonds)` of `calc_sub_max_bonds` lies in `0 .. len(sizes)`: the slice
    `argsort(sub_max_bonds)[:rem]` never has a negative bound and bumps a sector at most once. -/
theorem split_facts (sizes : List Nat) (mb : Nat) (h : mb < sumNat sizes) :
    sumNat (baseSplit sizes mb) ≤ mb ∧ mb - sumNat (baseSplit sizes mb) ≤ sizes.length := by
  have hT : 0 < sumNat sizes := by omega
  have h1 := base_sum_le sizes mb (sumNat sizes)
  have h2 := base_sum_ge sizes mb (sumNat sizes) hT
  have a1 : sumNat (baseSplit sizes mb) ≤ mb := by
    unfold baseSplit
    exact Nat.le_of_mul_le_mul_right h1 hT
  have a2 : mb ≤ sumNat (baseSplit sizes mb) + sizes.length := by
    unfold baseSplit
    exact Nat.le_of_mul_le_mul_right h2 hT
  exact ⟨a1, by omega⟩

theorem calcSubMaxBonds_eq (sizes : List Nat) (mb : Nat) (h : mb < sumNat sizes) :
    calcSubMaxBonds sizes (mb : Int) =
      ((argsortNat (baseSplit sizes mb)).take (mb - sumNat (baseSplit sizes mb))).foldl bump
        (baseSplit sizes mb) := by
  unfold calcSubMaxBonds
  have h1 : ¬ ((mb : Int) < 0) := by omega
  have h2 : ¬ (sumNat sizes ≤ mb) := by omega
  simp only [h1, if_false, Int.toNat_natCast, h2]

theorem threshold_inv {fix : Bool} {s : List (Charge × List Rat)} {cutoff : Rat} {mode : Nat}
    {mb : Int} {t : Rat} (ht : threshold fix s cutoff mode mb = .ok t) :
    ∃ tr, ruleThreshold fix (sall s) cutoff mode = .ok tr ∧ bondClamp (sall s) tr mb = t := by
  unfold threshold at ht
  cases hr : ruleThreshold fix (sall s) cutoff mode with
  | error e => rw [hr] at ht; cases ht
  | ok tr =>
    rw [hr] at ht
    exact ⟨tr, rfl, Except.ok.inj ht⟩

theorem keepCountsG_eq {fix : Bool} {s : List (Charge × List Rat)} {cutoff : Rat} {mode : Nat}
    {mb : Int} {t : Rat} (ht : threshold fix s cutoff mode mb = .ok t) :
    keepCountsG fix s cutoff mode mb = s.map (fun p => countGe t p.2) := by
  unfold keepCountsG; rw [ht]

theorem keptValues_map (s : List (Charge × List Rat)) (g : Charge × List Rat → Nat) :
    keptValues s (s.map g) = s.map (fun p => p.2.take (g p)) := by
  unfold keptValues
  induction s with
  | nil => rfl
  | cons p ps ih => simp only [List.map_cons, List.zipWith_cons_cons, ih]

theorem droppedValues_map (s : List (Charge × List Rat)) (g : Charge × List Rat → Nat) :
    droppedValues s (s.map g) = s.map (fun p => p.2.drop (g p)) := by
  unfold droppedValues
  induction s with
  | nil => rfl
  | cons p ps ih => simp only [List.map_cons, List.zipWith_cons_cons, ih]

theorem take_countGe {l : List Rat} (hs : SortedDesc l) (t : Rat) :
    l.take (countGe t l) = l.filter (fun v => leRat t v)
    ∧ l.drop (countGe t l) = l.filter (fun v => !leRat t v) :=
  have hmono : l.Pairwise (fun a b => leRat t b = true → leRat t a = true) := by
    refine hs.imp ?_
    intro a b hba hb
    simp only [leRat, decide_eq_true_eq] at hb ⊢
    exact le_trans hb hba
  have h := filter_eq_take_of_desc (fun v => leRat t v) l hmono
  ⟨h.1.symm, h.2.symm⟩

theorem le_of_mem_take_countGe {l : List Rat} (hs : SortedDesc l) {t a : Rat}
    (h : a ∈ l.take (countGe t l)) : t ≤ a := by
  rw [(take_countGe hs t).1] at h
  simpa [leRat] using (List.mem_filter.mp h).2

theorem lt_of_mem_drop_countGe {l : List Rat} (hs : SortedDesc l) {t b : Rat}
    (h : b ∈ l.drop (countGe t l)) : b < t := by
  rw [(take_countGe hs t).2] at h
  simpa [leRat] using (List.mem_filter.mp h).2

theorem cumsum_last (w : List Rat) (h : 0 < w.length) : negIndex (cumsum w) 1 = .ok w.sum := by
  have hcl : (cumsum w).length = w.length := cumsum_length w
  rw [negIndex_eq _ 1 (le_refl _) (by omega)]
  have := cumsumFrom_getElem 0 w (w.length - 1) (by omega)
  have e : w.length - 1 + 1 = w.length := by omega
  rw [e, List.take_length, zero_add] at this
  simp only [hcl]
  unfold cumsum
  rw [this]

/-- line 303, `n_chi_all = count_nonzero(cum_spow >= rhs)`: for non-negative weights the partial sums
    are below `rhs` exactly on the first `len - n_chi_all` positions. -/
theorem cum_split (w : List Rat) (hwn : NonNeg w) (rhs : Rat) :
    (∀ j, j < w.length - countGe rhs (cumsum w) → (w.take (j + 1)).sum < rhs) ∧
    (∀ j, w.length - countGe rhs (cumsum w) ≤ j → j < w.length → rhs ≤ (w.take (j + 1)).sum) := by
  have hcl : (cumsum w).length = w.length := cumsum_length w
  have hsorted : (cumsum w).Pairwise (· ≤ ·) := cumsumFrom_sorted 0 w hwn
  have hmono : (cumsum w).Pairwise (fun a b => leRat rhs a = true → leRat rhs b = true) := by
    refine hsorted.imp ?_
    intro a b hab ha
    simp only [leRat, decide_eq_true_eq] at ha ⊢
    exact le_trans ha hab
  obtain ⟨f1, f2⟩ := filter_eq_drop_of_asc (fun v => leRat rhs v) (cumsum w) hmono
  have hcum : ∀ j (hj : j < w.length), (cumsum w)[j]'(by omega) = (w.take (j + 1)).sum := by
    intro j hj
    have := cumsumFrom_getElem 0 w j hj
    unfold cumsum
    rw [this, zero_add]
  have hc : (cumsum w).countP (fun v => leRat rhs v) = countGe rhs (cumsum w) := rfl
  rw [hc, hcl] at f1 f2
  constructor
  · intro j hj
    have hm' : (cumsum w)[j]'(by omega) ∈ (cumsum w).take (w.length - countGe rhs (cumsum w)) :=
      List.mem_take_iff_getElem.mpr ⟨j, by omega, rfl⟩
    have := f2 _ hm'
    rw [hcum j (by omega)] at this
    simpa [leRat] using this
  · intro j hj1 hj2
    have hm' : (cumsum w)[j]'(by omega) ∈ (cumsum w).drop (w.length - countGe rhs (cumsum w)) := by
      rw [List.mem_iff_getElem]
      refine ⟨j - (w.length - countGe rhs (cumsum w)), ?_, ?_⟩
      · simp only [List.length_drop]; omega
      · rw [List.getElem_drop]; congr 1; omega
    rw [← f1] at hm'
    have := (List.mem_filter.mp hm').2
    rw [hcum j hj2] at this
    simpa [leRat] using this


theorem nonNeg_sall {s : List (Charge × List Rat)} (h : ∀ p ∈ s, NonNeg p.2) : NonNeg (sall s) := by
  intro x hx
  have := (sall_perm s).mem_iff.mp hx
  obtain ⟨p, hp, hxp⟩ := List.mem_flatMap.mp this
  exact h p hp x hxp


end SymmModel.TruncLemmas
