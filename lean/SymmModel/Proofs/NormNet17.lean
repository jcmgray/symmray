/-
  SymmModel.Proofs.NormNet17 — network form of the norm (property C10), part 17:
  a half of the network in blockwise mode next to the same half in any mode (`Half`: a zero-padded
  copy with the same table frame), a call on two such halves along opposite legs of their frames
  (`half_call_any`, from `commonB_of_frames` and `Net4P.pad_call`), and with it the balanced
  bracketings B1, B2 with EVERY call in `mode = fused / auto / blockwise`.
-/
import SymmModel.Proofs.NormNet16
import SymmModel.Proofs.TdotChain1
namespace SymmModel.NormNet
open SymmModel SymmModel.Lazy SymmModel.Norm SymmModel.TdotP SymmModel.GradedP SymmModel.RoutesP
open SymmModel.AssocP

section half
variable {R : Type}

/-- `Y` (blockwise) and `Ym` (any mode): the same half of a network, with the un-pruned table
    frame `F`.  `HalfPair` (NormNet19) is a `Half` whose frame is the conjugated frame of `p·q`, with
    the symmetry (`HalfPair.half`), `ModeInv` (NetNorm12) a `Half` of two chain segments with the same
    bond lists (`ModeInv.half`).  What a route carries along is `Half.padA`; the frames give the weak
    guards of the later calls. -/
structure Half [Zero R] [Neg R] (Y Ym : Arr R) (F : List Index) : Prop where
  pad : Pad Ym Y
  vY : Y.validB = true
  vYm : Ym.validB = true
  fY : Y.fermi = true
  fYm : Ym.fermi = true
  odd : Ym.oddpos = Y.oddpos
  chg : Ym.charge = Y.charge
  frY : List.Forall₂ SizeLe Y.indices F
  frYm : List.Forall₂ SizeLe Ym.indices F

theorem Half.padA [Zero R] [Neg R] {Y Ym : Arr R} {F : List Index} (H : Half Y Ym F) :
    Net4P.PadA Ym Y := ⟨H.pad, H.odd, H.chg⟩

variable [AddCommMonoid R] [Mul R] [Neg R] [SignRing R]

theorem half_of_call (hz1 : ∀ x : R, 0 * x = 0) (hz2 : ∀ x : R, x * 0 = 0) (a b : Arr R)
    (xa xb : List Nat) (W : AdmW a b xa xb) (mode : TdotMode) (K : Arr R)
    (eK : a.tensordotF b (.pair (xa.map Int.ofNat) (xb.map Int.ofNat)) .blockwise = .ok K) :
    ∃ Km, a.tensordotF b (.pair (xa.map Int.ofNat) (xb.map Int.ofNat)) mode = .ok Km
      ∧ Half K Km (without a.indices xa ++ without b.indices xb) ∧ K.sym = a.sym := by
  obtain ⟨Km, e, p, Im⟩ := Net4P.pad_call hz1 hz2 (.refl W.va) (.refl W.vb) W W K eK mode
  obtain ⟨_, _, C⟩ := Call.of_ok W eK
  have Ib := C.toInter.toW
  exact ⟨Km, e, ⟨p.pad, Ib.valid, Im.valid, Ib.fermi, Im.fermi, p.oddpos, p.charge, Ib.frame,
    Im.frame⟩, Ib.sym⟩

/-- **a call on two halves in any mode.**  `Z`, `X` blockwise with table frames `G`, `F`, `Zm`, `Xm`
    the same halves in any mode; the matched legs `u[j]`/`v[j]` are opposite legs of the frames.
    From the blockwise call `Z·X` the call `Zm·Xm` in any mode succeeds and is a zero-padded copy. -/
theorem half_call_any (hz1 : ∀ x : R, 0 * x = 0) (hz2 : ∀ x : R, x * 0 = 0)
    {Z Zm X Xm : Arr R} {G F : List Index} {u v : List Nat}
    (HZ : Half Z Zm G) (HX : Half X Xm F) (hsym : Z.sym = X.sym)
    (hnu : u.Nodup) (hnv : v.Nodup) (hl : u.length = v.length)
    (hu : ∀ i ∈ u, i < G.length) (hv : ∀ i ∈ v, i < F.length)
    (hopp : ∀ j, j < u.length → Opp (G.getD (u.getD j 0) default) (F.getD (v.getD j 0) default)
      ∧ ((G.getD (u.getD j 0) default).cm.map (·.1)).Nodup)
    (r : Arr R) (hr : Net4P.tdM .blockwise Z X u v = .ok r) (mode : TdotMode) :
    ∃ rm, Net4P.tdM mode Zm Xm u v = .ok rm ∧ Net4P.PadA rm r := by
  have nd : ∀ {Y : Arr R} {F : List Index}, List.Forall₂ SizeLe Y.indices F → Y.ndim = F.length :=
    fun h => h.length_eq
  have Wq : AdmW Z X u v :=
    ⟨HZ.vY, HX.vY, HZ.fY, HX.fY, hsym,
      commonB_of_frames HZ.frY HX.frY (keys_nodup_of_validB HZ.vY) hl hu hv hopp, hnu, hnv,
      fun i hi => by rw [nd HZ.frY]; exact hu i hi, fun i hi => by rw [nd HX.frY]; exact hv i hi⟩
  have Wp : AdmW Zm Xm u v :=
    ⟨HZ.vYm, HX.vYm, HZ.fYm, HX.fYm, by rw [HZ.pad.sym, HX.pad.sym, hsym],
      commonB_of_frames HZ.frYm HX.frYm (keys_nodup_of_validB HZ.vYm) hl hu hv hopp, hnu, hnv,
      fun i hi => by rw [nd HZ.frYm]; exact hu i hi, fun i hi => by rw [nd HX.frYm]; exact hv i hi⟩
  obtain ⟨rm, e, prm, _⟩ := Net4P.pad_call hz1 hz2 HZ.padA HX.padA Wp Wq r hr mode
  exact ⟨rm, e, prm⟩

theorem full_call_any (hz1 : ∀ x : R, 0 * x = 0) (hz2 : ∀ x : R, x * 0 = 0)
    {Z Zm X Xm : Arr R} {F G : List Index}
    (HZ : Half Z Zm G) (HX : Half X Xm F) (hsym : Z.sym = X.sym)
    (hFG : List.Forall₂ Opp F G) (hnF : ∀ ix ∈ F, (ix.cm.map (·.1)).Nodup) (r : Arr R)
    (hr : Z.tensordotF X (allAxes F.length) .blockwise = .ok r) (hrn : r.ndim = 0)
    (mode : TdotMode) :
    ∃ rm, Zm.tensordotF Xm (allAxes F.length) mode = .ok rm
      ∧ rm.ndim = 0 ∧ rm.oddpos = r.oddpos ∧ rm.elem [] [] = r.elem [] [] := by
  have hlt : ∀ i ∈ List.range F.length, i < F.length := fun i hi => List.mem_range.mp hi
  obtain ⟨rm, e, prm⟩ := half_call_any hz1 hz2 HZ HX hsym List.nodup_range List.nodup_range rfl
    (fun i hi => hFG.length_eq ▸ hlt i hi) hlt (fun j hj => by
      rw [List.length_range] at hj
      rw [getD_range _ _ hj]
      have o := forall₂_getD hFG j hj default default
      exact ⟨o.symm, by rw [o.1]; exact hnF _ (getD_mem_of_lt hj)⟩) r hr mode
  exact ⟨rm, e, prm.scalar hrn⟩

end half

section b12
variable {R : Type} [AddCommMonoid R] [Mul R] [Neg R] [Conj R] [NetLaws R]

theorem halves_final_any (hz1 : ∀ x : R, 0 * x = 0) (hz2 : ∀ x : R, x * 0 = 0)
    {a b K Kb r r' Km Kbm : Arr R} {xa xb : List Nat} (ha : a.validB = true) (hb : b.validB = true)
    (H : Halves a b K Kb r r' xa xb)
    (HK : Half K Km (without a.indices xa ++ without b.indices xb))
    (HKb : Half Kb Kbm ((without a.indices xa ++ without b.indices xb).map Index.conj))
    (hs : Kb.sym = K.sym) (m3 m4 : TdotMode) :
    (∃ rm, Kbm.tensordotF Km (allAxes K.ndim) m3 = .ok rm
        ∧ rm.ndim = 0 ∧ rm.oddpos = [] ∧ rm.elem [] [] = normSq K)
    ∧ (∃ rm, Km.tensordotF Kbm (allAxes K.ndim) m4 = .ok rm
        ∧ rm.ndim = 0 ∧ rm.oddpos = [] ∧ rm.elem [] [] = normSq' K) := by
  have hn : K.ndim = (without a.indices xa ++ without b.indices xb).length := HK.frY.length_eq
  have nF := nodup_keys_frame ha hb xa xb
  obtain ⟨rm, e3, n1, o1, v1⟩ := full_call_any hz1 hz2 HKb HK hs (forall₂_opp_conj _) nF r
    (hn ▸ H.hr) H.r0.1 m3
  obtain ⟨rm', e4, n2, o2, v2⟩ := full_call_any hz1 hz2 HK HKb hs.symm (forall₂_opp_conj' _)
    (nodup_keys_conj nF) r' (by rw [List.length_map, ← hn]; exact H.hr') H.r0'.1 m4
  rw [← hn] at e3
  rw [List.length_map, ← hn] at e4
  exact ⟨⟨rm, e3, n1, o1.trans H.r0.2.1, v1.trans H.r0.2.2⟩,
    ⟨rm', e4, n2, o2.trans H.r0'.2.1, v2.trans H.r0'.2.2⟩⟩

/-- **B1 and B2 in any mode.**  The two halves `a·b` (mode `m1`) and `ā·b̄` (mode `m2`) and the final
    contraction (mode `m3` resp. `m4`), each in `blockwise`, `fused` or `auto` mode: all calls
    succeed and the results are rank-0 arrays without labels with value `normSq K` resp.
    `normSq' K`, `K` the blockwise contraction `a·b`. -/
theorem network_norm_halves_any_mode (hz1 : ∀ x : R, 0 * x = 0) (hz2 : ∀ x : R, x * 0 = 0)
    (a b : Arr R) (xa xb : List Nat)
    (ha : a.validB = true) (hb : b.validB = true) (hfa : a.fermi = true) (hfb : b.fermi = true)
    (hadm : ValidP.tdotAdmissibleB a b xa xb = true)
    (hoA : KetLabels a.oddpos) (hoB : KetLabels b.oddpos)
    (hd : (a.oddpos ++ b.oddpos).Pairwise (fun x y => x.1 ≠ y.1)) (m1 m2 m3 m4 : TdotMode) :
    ∃ K Km Kbm r r', a.tensordotF b (.pair (xa.map Int.ofNat) (xb.map Int.ofNat)) .blockwise = .ok K
      ∧ a.tensordotF b (.pair (xa.map Int.ofNat) (xb.map Int.ofNat)) m1 = .ok Km
      ∧ (braOf a xa).tensordotF (braOf b xb) (.pair (xa.map Int.ofNat) (xb.map Int.ofNat)) m2 = .ok Kbm
      ∧ Km.ndim = K.ndim ∧ Kbm.ndim = K.ndim
      ∧ Kbm.tensordotF Km (allAxes K.ndim) m3 = .ok r
      ∧ r.ndim = 0 ∧ r.oddpos = [] ∧ r.elem [] [] = normSq K
      ∧ Km.tensordotF Kbm (allAxes K.ndim) m4 = .ok r'
      ∧ r'.ndim = 0 ∧ r'.oddpos = [] ∧ r'.elem [] [] = normSq' K := by
  obtain ⟨K, Kb, r, r', H⟩ := network_norm_halves a b xa xb ha hb hfa hfb hadm hoA hoB hd
  have h := Adm.of ha hb hfa hfb hadm
  have hB := braOf_adm h
  obtain ⟨Km, e1, HK, sK⟩ := half_of_call hz1 hz2 a b xa xb (AdmW.ofAdm h) m1 K H.eK
  obtain ⟨Kbm, e2, HKb, sKb⟩ :=
    half_of_call hz1 hz2 (braOf a xa) (braOf b xb) xa xb (AdmW.ofAdm hB) m2 Kb H.eKb
  rw [braOf_without] at HKb
  obtain ⟨⟨rm, e3, n3, o3, v3⟩, ⟨rm', e4, q4⟩⟩ := halves_final_any hz1 hz2 ha hb H HK HKb
    (by rw [sKb, braOf_sym a xa, sK]) m3 m4
  exact ⟨K, Km, Kbm, rm, rm', H.eK, e1, e2, HK.pad.ndim, HKb.pad.ndim.trans H.nd, e3, n3, o3, v3, e4,
    q4⟩

end b12

end SymmModel.NormNet
