/-
  SymmModel.Proofs.FuseCommuteG5 — C06, first clause, FERMIONIC, public route, ARBITRARY contracted
  legs, BOTH contractions in an arbitrary mode (`fuse_contracted_fermi_gen_modes`): composition of
  `fuse_contracted_fermi` (blockwise) with `tensordotF_every_mode`.  Namespace `SymmModel.TdotP`.
-/
import SymmModel.Proofs.FuseCommuteG4
import SymmModel.Proofs.FuseCommuteF8
namespace SymmModel
namespace TdotP
open SymmModel.KoszulP SymmModel.Lazy SymmModel.GradedP SymmModel.RoutesP SymmModel.AssocP SymmModel.C06
variable {R : Type}

theorem fused_free_tables [AddCommMonoid R] [Mul R] [Neg R] [SignRing R] (A : Arr R) {g : List Nat}
    (hv : A.validB = true) (hf : A.fermi = true) (oA : OneOk A g) :
    without (FuseP.fusedArrM (FuseP.signAdj A [g]) [newG A g]).indices [bondPos A g]
      = permuted A.indices (freeAxes A.ndim g) := by
  have hX := FuseOp.of_signAdj A hv hf oA
  generalize FuseP.signAdj A [g] = X at *
  rw [without_eq_permuted_freeAxes, ← hX.bondPos_eq]
  have := one_free_indices hX.oneX
  rwa [hX.free_indices, ← one_ndim hX.oneX] at this

/-- **C06, first clause, fermionic, public route, ARBITRARY contracted legs, BOTH contractions in
    an arbitrary mode.** -/
theorem fuse_contracted_fermi_gen_modes [AddCommMonoid R] [Mul R] [Neg R] [SignRing R]
    (hz1 : ∀ x : R, 0 * x = 0) (hz2 : ∀ x : R, x * 0 = 0) (a b : Arr R) (xa xb : List Nat)
    (W : AdmW a b xa xb) (hne : xa ≠ []) (e1 e2 : Bool) (m1 m2 : TdotMode) :
    ∃ af bf, (dropMisaligned a b xa xb).1.fuseF [xa] .insert e1 = .ok af
      ∧ (dropMisaligned a b xa xb).2.fuseF [xb] .insert e2 = .ok bf
      ∧ (∀ e, a.tensordotF b (.pair (xa.map Int.ofNat) (xb.map Int.ofNat)) m1 = .error e →
          af.tensordotF bf (.pair [Int.ofNat (bondPos a xa)] [Int.ofNat (bondPos b xb)]) m2 = .error e)
      ∧ ∀ c, a.tensordotF b (.pair (xa.map Int.ofNat) (xb.map Int.ofNat)) m1 = .ok c →
        ∃ cf, af.tensordotF bf (.pair [Int.ofNat (bondPos a xa)] [Int.ofNat (bondPos b xb)]) m2 = .ok cf
          ∧ cf.oddpos = c.oddpos ∧ cf.charge = c.charge ∧ cf.sym = c.sym ∧ cf.fermi = c.fermi
          ∧ cf.ndim = c.ndim
          ∧ ∀ K V, alookup cf.blocks K = some V → ∀ J, inBox V.shape J = true → cf.elem K J = c.elem K J := by
  obtain ⟨n1, n2⟩ := dropMisaligned_ndim a b xa xb
  have h := fctxG_of_dropMisaligned a b xa xb W hne
  have W0 := h.W
  obtain ⟨f1', f2', _⟩ := C06.fuse_contracted_aligned_fermionic hz1 hz2 h e1 e2
  obtain ⟨af, bf, f1, f2, W', _, _, herr, hok⟩ :=
    fuse_contracted_fermi hz1 hz2 a b xa xb W hne e1 e2
  have eaf : af = FuseP.fusedArrM (FuseP.signAdj (dropMisaligned a b xa xb).1 [xa])
      [newG (dropMisaligned a b xa xb).1 xa] := by
    rw [f1'] at f1; exact (Except.ok.inj f1).symm
  have ebf : bf = FuseP.fusedArrM (FuseP.signAdj (dropMisaligned a b xa xb).2 [xb])
      [newG (dropMisaligned a b xa xb).2 xb] := by
    rw [f2'] at f2; exact (Except.ok.inj f2).symm
  have iA : without af.indices [bondPos a xa]
      = permuted (dropMisaligned a b xa xb).1.indices (freeAxes a.ndim xa) := by
    have := fused_free_tables (dropMisaligned a b xa xb).1 W0.va W0.fa h.oneA
    rw [n1, ← eaf] at this
    exact this
  have iB : without bf.indices [bondPos b xb]
      = permuted (dropMisaligned a b xa xb).2.indices (freeAxes b.ndim xb) := by
    have := fused_free_tables (dropMisaligned a b xa xb).2 W0.vb W0.fb h.oneB
    rw [n2, ← ebf] at this
    exact this
  -- each call against its blockwise twin
  obtain ⟨E1, K1⟩ := tensordotF_every_mode hz1 hz2 a b xa xb W m1
  obtain ⟨E2, K2⟩ := tensordotF_every_mode hz1 hz2 af bf [bondPos a xa] [bondPos b xb] W' m2
  simp only [List.map_cons, List.map_nil] at E2 K2
  refine ⟨af, bf, f1, f2, fun e he => (E2 e).mpr (herr e ((E1 e).mp he)), fun c hc => ?_⟩
  cases hb : a.tensordotF b (.pair (xa.map Int.ofNat) (xb.map Int.ofNat)) .blockwise with
  | error e0 => rw [(E1 e0).mpr hb] at hc; cases hc
  | ok rb =>
  obtain ⟨rm, q1, g1, g2, g3, g4, g5, _, gel⟩ := K1 rb hb
  obtain rfl : rm = c := Except.ok.inj (q1.symm.trans hc)
  obtain ⟨cfb, t1, k2, k3, k4, k5, k6, kE⟩ := hok rb hb
  obtain ⟨cf, p1, j1, j2, j3, j4, j5, jshape, jel⟩ := K2 cfb t1
  refine ⟨cf, p1, j1.trans (k2.trans g1.symm), j2.trans (k3.trans g2.symm), j3.trans (k4.trans g3.symm),
    j4.trans (k5.trans g4.symm), ?_, fun K V hK J hJ => ?_⟩
  · show cf.indices.length = rm.indices.length
    rw [j5, g5]; exact k6
  · have hs := jshape K V hK
    rw [jel K J (by rw [Arr.blockShapeD, hs]; exact hJ)]
    rw [iA, iB] at hs
    obtain ⟨Ls, Rs, oL, oR, p, q, rfl, rfl, hp, hbp, hq, hbq⟩ := address_split hs hJ
    rw [kE _ _ _ _ _ _ hp hbp hq hbq]
    -- the shape of the stored block in the ORIGINAL free-leg tables
    have hshp : Arr.blockShape? (without a.indices xa ++ without b.indices xb) (Ls ++ Rs) = some V.shape := by
      rw [without_eq_permuted_freeAxes, without_eq_permuted_freeAxes]
      exact blockShape?_weaken
        (forall₂_append (forall₂_permuted (dropUnused_sizeLe a.indices _) _)
          (forall₂_permuted (dropUnused_sizeLe b.indices _) _)) _ V.shape hs
    exact (gel _ _ (by rw [Arr.blockShapeD, hshp]; exact hJ)).symm

/-- **C06, first clause, fermionic, public route, BOTH contractions in an arbitrary mode.**
    Contracted legs adjacent and in order; the contraction of the original operands in mode `m1`,
    the contraction of the fused operands in mode `m2` (each of blockwise / fused / auto): the second
    fails with the error of the first, or both succeed with the same labels, charge, symmetry,
    kind, rank, and every stored entry of the second result equals the element of the first at
    that address. -/
theorem fuse_contracted_fermi_modes [AddCommMonoid R] [Mul R] [Neg R] [SignRing R]
    (hz1 : ∀ x : R, 0 * x = 0) (hz2 : ∀ x : R, x * 0 = 0) (a b : Arr R) (xa xb : List Nat)
    (W : AdmW a b xa xb) (hadjA : AdjOk a xa) (hadjB : AdjOk b xb) (e1 e2 : Bool) (m1 m2 : TdotMode) :
    ∃ af bf, (dropMisaligned a b xa xb).1.fuseF [xa] .insert e1 = .ok af
      ∧ (dropMisaligned a b xa xb).2.fuseF [xb] .insert e2 = .ok bf
      ∧ (∀ e, a.tensordotF b (.pair (xa.map Int.ofNat) (xb.map Int.ofNat)) m1 = .error e →
          af.tensordotF bf (.pair [Int.ofNat (bondPos a xa)] [Int.ofNat (bondPos b xb)]) m2 = .error e)
      ∧ ∀ c, a.tensordotF b (.pair (xa.map Int.ofNat) (xb.map Int.ofNat)) m1 = .ok c →
        ∃ cf, af.tensordotF bf (.pair [Int.ofNat (bondPos a xa)] [Int.ofNat (bondPos b xb)]) m2 = .ok cf
          ∧ cf.oddpos = c.oddpos ∧ cf.charge = c.charge ∧ cf.sym = c.sym ∧ cf.fermi = c.fermi
          ∧ cf.ndim = c.ndim
          ∧ ∀ K V, alookup cf.blocks K = some V → ∀ J, inBox V.shape J = true → cf.elem K J = c.elem K J :=
  fuse_contracted_fermi_gen_modes hz1 hz2 a b xa xb W hadjA.one.ne e1 e2 m1 m2

end TdotP
end SymmModel
