/-
  SymmModel.Proofs.Reshape3e — the planner `calc_reshape_args` for all shapes, targets and sub-sizes (C07), part e: the fuse phase.
  `fuseLoop` collects adjacent groups into one `fuse(*groups)` call: on the labels of "o"/"g"
  segments it returns the calls `callsOf` (`fuseLoop_eq`); executing these calls on the symbolic
  shape multiplies out every `g` segment and leaves the other axes alone (`callsOf_exec`: the result
  is `fusedE`).
-/
import SymmModel.Proofs.Reshape3d
namespace SymmModel.Reshape3
open SymmModel SymmModel.Reshape SymmModel.C07

theorem range'_append' (p m n : Nat) : List.range' p m ++ List.range' (p + m) n = List.range' p (m + n) := by
  induction m generalizing p with
  | zero => simp
  | succ m ih =>
    have : m + 1 + n = (m + n) + 1 := by omega
    rw [this, List.range'_succ, List.range'_succ, List.cons_append]
    have e : p + (m + 1) = p + 1 + m := by omega
    rw [e, ih]

def curL : Nat → List Nat → List (List Nat)
  | _, [] => []
  | P, L :: ls => List.range' P L :: curL (P + L) ls

theorem curL_append : ∀ (ls : List Nat) (P L : Nat),
    curL P ls ++ [List.range' (P + sumN ls) L] = curL P (ls ++ [L]) := by
  intro ls
  induction ls with
  | nil => intro P L; simp [curL, sumN]
  | cons a ls ih =>
    intro P L
    simp only [curL, List.cons_append, sumN]
    rw [← ih (P + a) L]
    simp [Nat.add_assoc]

theorem curL_lengths : ∀ (ls : List Nat) (P : Nat), (curL P ls).map List.length = ls := by
  intro ls
  induction ls with
  | nil => intro P; rfl
  | cons a ls ih => intro P; simp [curL, ih]

theorem curL_length (ls : List Nat) (P : Nat) : (curL P ls).length = ls.length := by
  have := congrArg List.length (curL_lengths ls P)
  simpa using this

theorem curL_flatten : ∀ (ls : List Nat) (P : Nat), (curL P ls).flatten = List.range' P (sumN ls) := by
  intro ls
  induction ls with
  | nil => intro P; simp [curL, sumN]
  | cons a ls ih =>
    intro P
    simp only [curL, List.flatten_cons, ih, sumN]
    exact range'_append' _ _ _

/-- `current_groups` for the pending groups `C`, the first starting at axis `p` -/
def curOf (p : Nat) (C : List (Nat × List E)) : List (List Nat) := curL p (C.map fun c => c.2.length)

theorem curOf_nil (p : Nat) : curOf p [] = [] := rfl
theorem curOf_cons (p : Nat) (c : Nat × List E) (C : List (Nat × List E)) :
    curOf p (c :: C) = List.range' p c.2.length :: curOf (p + c.2.length) C := rfl

def cSegs (C : List (Nat × List E)) : List Seg := C.map (fun c => Seg.g c.1 c.2)

theorem cSegs_append (A B : List (Nat × List E)) : cSegs (A ++ B) = cSegs A ++ cSegs B := by
  simp [cSegs]

theorem sumN_lens (C : List (Nat × List E)) : sumN (C.map fun c => c.2.length) = (flatE (cSegs C)).length := by
  induction C with
  | nil => rfl
  | cons c C ih => simp [sumN, ih, cSegs, Seg.ax]

theorem curOf_flatten (C : List (Nat × List E)) (p : Nat) :
    (curOf p C).flatten = List.range' p (flatE (cSegs C)).length := by
  rw [curOf, curL_flatten, sumN_lens]

/-- what `fuse(*groups)` makes of one group of axes on the symbolic shape (`symGroup`): a single axis
    stays as it is, several become their product and remember their sizes as sub-sizes -/
def grpE : List E → E
  | [e] => e
  | es => (prod (SymShape.sizes es), some (SymShape.sizes es))

def Seg.fusedE : Seg → SymShape
  | .g _ es => [grpE es]
  | a => a.ax

/-- the symbolic shape after the fuse phase -/
def fusedE (S : List Seg) : SymShape := S.flatMap Seg.fusedE

theorem sizes_grpE (es : List E) : (grpE es).1 = prod (SymShape.sizes es) := by
  match es with
  | [] => rfl
  | [e] => simp [grpE, SymShape.sizes, prod]
  | _ :: _ :: _ => rfl

theorem sizes_fusedE : ∀ {S : List Seg}, OG S → SymShape.sizes (fusedE S) = flatK S
  | [], _ => rfl
  | a :: S, h => by
    have ih := sizes_fusedE (S := S) fun b hb => h b (by simp [hb])
    have ha := h a (by simp)
    simp only [fusedE, List.flatMap_cons, sizes_append, flatK_cons] at ih ⊢
    rw [ih]
    cases a <;> simp [Seg.isOG] at ha <;> simp [Seg.fusedE, Seg.ax, Seg.outK, SymShape.sizes, sizes_grpE]

theorem symGroup_range' (X : SymShape) (p : Nat) (es : List E) (h : (X.drop p).take es.length = es)
    (hle : p + es.length ≤ X.length) : symGroup X (List.range' p es.length) = grpE es := by
  have hs := range'_map_getD X es.length p hle
  rw [h] at hs
  match es, h, hs with
  | [], _, _ => rfl
  | [e], h, _ =>
    have : X[p]? = some e := by
      have := congrArg (·[0]?) h
      simpa [List.getElem?_take, List.getElem?_drop] using this
    simp [symGroup, grpE, List.range'_succ, List.getD_eq_getElem?_getD, this]
  | _ :: _ :: _, _, hs => simp only [List.length_cons, List.range'_succ, symGroup, grpE] at hs ⊢; rw [hs]

theorem curOf_groups : ∀ (C : List (Nat × List E)) (pre rest : SymShape),
    (curOf pre.length C).map (symGroup (pre ++ flatE (cSegs C) ++ rest)) = C.map fun c => grpE c.2 := by
  intro C
  induction C with
  | nil => intro pre rest; rfl
  | cons c C ih =>
    intro pre rest
    simp only [curOf_cons, List.map_cons, cSegs, flatE_cons, Seg.ax]
    have e : pre ++ (c.2 ++ flatE (List.map (fun c => Seg.g c.1 c.2) C)) ++ rest
        = (pre ++ c.2) ++ flatE (cSegs C) ++ rest := by simp [cSegs]
    have e2 : pre.length + c.2.length = (pre ++ c.2).length := by simp
    rw [e, e2, ih (pre ++ c.2) rest, symGroup_range' _ _ _ (by
      rw [List.append_assoc, List.append_assoc, List.drop_left' rfl, List.take_left' rfl]) (by simp)]

theorem curOf_all_nonempty (C : List (Nat × List E)) (p : Nat) (h : ∀ c ∈ C, 1 ≤ c.2.length) :
    (curOf p C).all (fun g => !g.isEmpty) = true := by
  induction C generalizing p with
  | nil => rfl
  | cons c C ih =>
    simp only [curOf_cons, List.all_cons, Bool.and_eq_true]
    refine ⟨?_, ih _ (fun c hc => h c (by simp [hc]))⟩
    have := h c (by simp)
    cases hc : c.2 with
    | nil => rw [hc] at this; simp at this
    | cons a b => simp [List.range'_succ]

theorem symFuse_cur (P : SymShape) (C : List (Nat × List E)) (rest : SymShape) (hC : C ≠ [])
    (h : ∀ c ∈ C, 1 ≤ c.2.length) :
    symFuse (P ++ flatE (cSegs C) ++ rest) (curOf P.length C)
      = some (P ++ (curOf P.length C).map (symGroup (P ++ flatE (cSegs C) ++ rest)) ++ rest) := by
  unfold symFuse
  simp only [curOf_flatten]
  have hpos : 1 ≤ (flatE (cSegs C)).length := by
    cases C with
    | nil => exact (hC rfl).elim
    | cons c C => have := h c (by simp); simp [cSegs, Seg.ax]; omega
  obtain ⟨n, hn⟩ : ∃ n, (flatE (cSegs C)).length = n + 1 := ⟨_, (Nat.sub_add_cancel hpos).symm⟩
  rw [hn, List.range'_succ]
  simp only [curOf_all_nonempty C _ h, Bool.true_and, List.length_cons, List.length_range']
  rw [← List.range'_succ, beqNats_refl]
  have hle : Nat.ble (P.length + (n + 1)) (P ++ flatE (cSegs C) ++ rest).length = true := by
    apply Nat.ble_eq_true_of_le; simp [hn]
  simp only [hle, Bool.true_and, if_true]
  congr 2
  · simp
  · rw [← hn]; simp [List.drop_append]

/-- the fuse calls for the segments `Q` ("now we handle fusing": `while i < len(term)`): `i` = the
    current axis (in the coordinates after the calls already issued), `cur` = `current_groups`.  A group
    is appended as `tuple(range(i, i + s))`; any other label closes the pending groups into ONE call
    (`axs_fuse.append(tuple(current_groups))`: adjacent groups are fused simultaneously) and the position
    rewinds to behind the `ng` new axes (`i = i0 + ng`); what is pending at the end is the last call -/
def callsOf : Nat → List (List Nat) → List Seg → List (List (List Nat))
  | _, cur, [] => if cur.isEmpty then [] else [cur]
  | i, cur, .g _ es :: Q => callsOf (i + es.length) (cur ++ [List.range' i es.length]) Q
  | i, cur, _ :: Q =>
    if cur.isEmpty then callsOf (i + 1) [] Q
    else cur :: callsOf (i - sumN (cur.map List.length) + cur.length + 1) [] Q

theorem callsOf_o (i : Nat) (cur : List (List Nat)) (e : E) (Q : List Seg) :
    callsOf i cur (Seg.o e :: Q) = if cur.isEmpty then callsOf (i + 1) [] Q
      else cur :: callsOf (i - sumN (cur.map List.length) + cur.length + 1) [] Q := rfl

theorem callsOf_no_g : ∀ (Q : List Seg) (i : Nat), (∀ k es, Seg.g k es ∉ Q) → callsOf i [] Q = []
  | [], _, _ => rfl
  | X :: Q, i, h => by
    have ih := callsOf_no_g Q (i + 1) (fun k es hm => h k es (by simp [hm]))
    cases X with
    | g k es => exact (h k es (by simp)).elim
    | o e => exact ih
    | s e => exact ih
    | u _ _ _ => exact ih
    | x => exact ih

/-- `T0` = the labels already passed (closing a call rewrites them, the loop never looks at them again) -/
theorem fuseLoop_eq (fs : List Nat) : ∀ (fuel : Nat) (Q : List Seg) (T0 : List Lbl) (cur : List (List Nat))
    (acc : List (List (List Nat))), OG Q →
    (∀ k es, Seg.g k es ∈ Q → fs[k]? = some es.length ∧ 1 ≤ es.length) →
    2 * Q.length + (if cur.isEmpty then 0 else 1) + 1 ≤ fuel →
    fuseLoop fs fuel T0.length (T0 ++ flatL Q) cur acc = .ok (acc ++ callsOf T0.length cur Q) := by
  intro fuel
  induction fuel with
  | zero => intro Q T0 cur acc _ _ hf; omega
  | succ fuel ih =>
    intro Q T0 cur acc hQ hfs hf
    cases Q with
    | nil =>
      have hnone : (T0 ++ flatL [])[T0.length]? = none := by simp
      simp only [fuseLoop, hnone, pure, Except.pure, callsOf]
      cases cur.isEmpty <;> simp
    | cons X Q =>
      have hQ' : OG Q := fun a ha => hQ a (by simp [ha])
      have hfs' : ∀ k es, Seg.g k es ∈ Q → fs[k]? = some es.length ∧ 1 ≤ es.length :=
        fun k es hm => hfs k es (by simp [hm])
      have hX := hQ X (by simp)
      cases X with
      | g k es =>
        obtain ⟨hk, hes⟩ := hfs k es (by simp)
        have hcur : (T0 ++ flatL (Seg.g k es :: Q))[T0.length]? = some (Lbl.g k) := by
          rw [List.getElem?_append_right (Nat.le_refl _)]
          cases es with
          | nil => simp at hes
          | cons a b => simp [Seg.lbl, List.replicate_succ]
        have e : T0 ++ flatL (Seg.g k es :: Q) = (T0 ++ List.replicate es.length (Lbl.g k)) ++ flatL Q := by
          simp [Seg.lbl]
        have e2 : T0.length + es.length = (T0 ++ List.replicate es.length (Lbl.g k)).length := by simp
        simp only [fuseLoop, hcur, hk, callsOf]
        rw [e, e2]
        exact ih Q _ _ acc hQ' hfs' (by simp at hf ⊢; omega)
      | o e =>
        have hcur : (T0 ++ flatL (Seg.o e :: Q))[T0.length]? = some Lbl.o := by
          rw [List.getElem?_append_right (Nat.le_refl _)]; simp [Seg.lbl]
        simp only [fuseLoop, hcur, callsOf_o]
        cases hc : cur.isEmpty with
        | true =>
          have e : T0 ++ flatL (Seg.o e :: Q) = (T0 ++ [Lbl.o]) ++ flatL Q := by simp [Seg.lbl]
          have e2 : T0.length + 1 = (T0 ++ [Lbl.o]).length := by simp
          rw [List.isEmpty_iff.mp hc] at hf ⊢
          simp only [Bool.not_true, Bool.false_eq_true, if_false, if_true]
          rw [e, e2]
          exact ih Q _ [] acc hQ' hfs' (by simp at hf ⊢; omega)
        | false =>
          -- the pending groups become one call; the "o" label is looked at again
          simp only [Bool.not_false, if_true, Bool.false_eq_true, if_false]
          have et : (T0 ++ flatL (Seg.o e :: Q)).take (T0.length - sumN (cur.map List.length))
                ++ List.replicate cur.length Lbl.o ++ (T0 ++ flatL (Seg.o e :: Q)).drop T0.length
              = (T0.take (T0.length - sumN (cur.map List.length)) ++ List.replicate cur.length Lbl.o)
                ++ flatL (Seg.o e :: Q) := by
            rw [List.drop_left' rfl, List.take_append_of_le_length (by omega)]
          have e2 : T0.length - sumN (cur.map List.length) + cur.length
              = (T0.take (T0.length - sumN (cur.map List.length)) ++ List.replicate cur.length Lbl.o).length := by
            simp <;> omega
          rw [et, e2, ih (Seg.o e :: Q) _ [] _ hQ hfs (by simp [hc] at hf ⊢; omega), callsOf_o]
          simp [← e2]
      | _ => simp [Seg.isOG] at hX

/-- `P` = the axes done, `C` = the pending groups (key, axes) -/
theorem callsOf_exec : ∀ (Q : List Seg) (P : SymShape) (C : List (Nat × List E)), OG Q →
    (∀ k es, Seg.g k es ∈ Q → 1 ≤ es.length) → (∀ c ∈ C, 1 ≤ c.2.length) →
    foldOpt symFuse (callsOf (P.length + (flatE (cSegs C)).length) (curOf P.length C) Q)
        (P ++ flatE (cSegs C) ++ flatE Q) = some (P ++ fusedE (cSegs C) ++ fusedE Q) := by
  have hfC : ∀ C : List (Nat × List E), fusedE (cSegs C) = C.map fun c => grpE c.2 := fun C => by
    induction C with
    | nil => rfl
    | cons c C ih => simp only [fusedE, cSegs, List.map_cons, List.flatMap_cons] at ih ⊢; rw [ih]; rfl
  intro Q
  induction Q with
  | nil =>
    intro P C _ _ hC
    cases C with
    | nil => simp [callsOf, curOf_nil, foldOpt, cSegs, fusedE]
    | cons c C' =>
      simp only [callsOf, curOf_cons, List.isEmpty_cons, Bool.false_eq_true, if_false, foldOpt, flatE_nil]
      rw [← curOf_cons, symFuse_cur P (c :: C') [] (by simp) hC, curOf_groups, hfC]
      simp [fusedE]
  | cons X Q ih =>
    intro P C hQ hes hC
    have hQ' : OG Q := fun a ha => hQ a (by simp [ha])
    have hes' : ∀ k es, Seg.g k es ∈ Q → 1 ≤ es.length := fun k es hm => hes k es (by simp [hm])
    have hX := hQ X (by simp)
    cases X with
    | g k es =>
      have e1 : P.length + (flatE (cSegs C)).length + es.length
          = P.length + (flatE (cSegs (C ++ [(k, es)]))).length := by
        simp [cSegs, Seg.ax]; omega
      have e3 : curOf P.length C ++ [List.range' (P.length + (flatE (cSegs C)).length) es.length]
          = curOf P.length (C ++ [(k, es)]) := by
        rw [← sumN_lens]; simpa [curOf] using curL_append (C.map fun c => c.2.length) P.length es.length
      have r2 := ih P (C ++ [(k, es)]) hQ' hes' (by
        intro c hc
        rcases List.mem_append.mp hc with hc | hc
        · exact hC c hc
        · rw [List.mem_singleton.mp hc]; exact hes k es (by simp))
      simp only [callsOf]
      rw [e1, e3]
      simpa [cSegs_append, cSegs, fusedE] using r2
    | o e =>
      rw [callsOf_o]
      cases C with
      | nil =>
        have r2 := ih (P ++ [e]) [] hQ' hes' (by simp)
        simpa [cSegs, curOf_nil, Seg.ax, fusedE, Seg.fusedE] using r2
      | cons c C' =>
        generalize hCC : c :: C' = CC at *
        have hne : (curOf P.length CC).isEmpty = false := by rw [← hCC]; rfl
        have h1 := symFuse_cur P CC (flatE (Seg.o e :: Q)) (by rw [← hCC]; simp) hC
        rw [curOf_groups, ← hfC] at h1
        have r2 := ih (P ++ fusedE (cSegs CC) ++ [e]) [] hQ' hes' (by simp)
        have epos : P.length + (flatE (cSegs CC)).length - sumN ((curOf P.length CC).map List.length)
            + (curOf P.length CC).length + 1
            = (P ++ fusedE (cSegs CC) ++ [e]).length + (flatE (cSegs [])).length := by
          rw [curOf, curL_lengths, curL_length, sumN_lens, hfC]; simp [cSegs]; omega
        simp only [hne, Bool.false_eq_true, if_false, foldOpt]
        rw [h1, epos]
        simpa [cSegs, curOf_nil, Seg.ax, fusedE, Seg.fusedE] using r2
    | _ => simp [Seg.isOG] at hX

theorem callsOf_exec_all (Q : List Seg) (hQ : OG Q) (hes : ∀ k es, Seg.g k es ∈ Q → 1 ≤ es.length) :
    foldOpt symFuse (callsOf 0 [] Q) (flatE Q) = some (fusedE Q) := by
  simpa [cSegs, curOf_nil, fusedE] using callsOf_exec Q [] [] hQ hes (by simp)

end SymmModel.Reshape3
