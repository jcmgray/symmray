/-
  SymmModel.Proofs.LazyAlist — the insertion-ordered association lists of Model/Basic
  (`alookup / ainsert / aerase / adict / akeys`, the model of Python dicts), on top of
  Proofs/BaseAlist: keys and lookup after insert and erase, and re-keying through a map.
  Namespace `SymmModel.Lazy`.
-/
import SymmModel.Model.Basic
import SymmModel.Proofs.BaseAlist
import Mathlib.Data.List.Nodup

namespace SymmModel.Lazy
open SymmModel
set_option linter.unusedSectionVars false

section alist
variable {κ β : Type} [BEq κ] [LawfulBEq κ]

theorem ainsert_cons (k1 : κ) (v1 : β) (l : List (κ × β)) (k : κ) (v : β) :
    ainsert ((k1, v1) :: l) k v = if k1 == k then (k1, v) :: l else (k1, v1) :: ainsert l k v := by
  simp [ainsert]
theorem aerase_cons (k1 : κ) (v1 : β) (l : List (κ × β)) (k : κ) :
    aerase ((k1, v1) :: l) k = if k1 == k then l else (k1, v1) :: aerase l k := by
  simp [aerase]

theorem akeys_ainsert (l : List (κ × β)) (k : κ) (v : β) :
    akeys (ainsert l k v) = if k ∈ akeys l then akeys l else akeys l ++ [k] :=
  ainsert_keys l k v

theorem akeys_aerase (l : List (κ × β)) (k : κ) : akeys (aerase l k) = (akeys l).erase k := by
  induction l with
  | nil => simp [aerase, akeys]
  | cons p l ih =>
    obtain ⟨k1, v1⟩ := p
    rw [aerase_cons]
    simp only [akeys, List.map_cons] at ih ⊢
    split
    · grind
    · simp only [List.map_cons, ih]; grind

theorem nodup_ainsert {l : List (κ × β)} (h : (akeys l).Nodup) (k : κ) (v : β) :
    (akeys (ainsert l k v)).Nodup :=
  ainsert_keys_nodup k v h

theorem nodup_aerase {l : List (κ × β)} (h : (akeys l).Nodup) (k : κ) :
    (akeys (aerase l k)).Nodup :=
  aerase_keys_nodup k h

theorem alookup_aerase {l : List (κ × β)} (hl : (akeys l).Nodup) (k k' : κ) :
    alookup (aerase l k) k' = if k == k' then none else alookup l k' := by
  induction l with
  | nil => simp [aerase, alookup]
  | cons p l ih =>
    obtain ⟨k1, v1⟩ := p
    simp only [akeys, List.map_cons, List.nodup_cons] at hl ih
    have hn := (@alookup_eq_none_iff κ β _ _ l k').mpr
    rw [aerase_cons]
    split
    · rw [alookup_cons]; grind
    · rw [alookup_cons, alookup_cons, ih hl.2]; grind

theorem akeys_map_val {γ : Type} (F : κ → β → γ) (l : List (κ × β)) :
    akeys (l.map (fun p => (p.1, F p.1 p.2))) = akeys l := by
  simp [akeys, List.map_map, Function.comp_def]

end alist

section alist2
variable {κ β : Type} [BEq κ] [LawfulBEq κ]

theorem nodup_adict (l : List (κ × β)) : (akeys (adict l)).Nodup :=
  adict_keys_nodup l

variable {κ' γ : Type} [BEq κ'] [LawfulBEq κ']

theorem alookup_map_inj (π : κ → κ') (F : β → γ) (l : List (κ × β)) (k : κ)
    (hinj : ∀ k1 ∈ akeys l, π k1 = π k → k1 = k) :
    alookup (l.map (fun p => (π p.1, F p.2))) (π k) = (alookup l k).map F := by
  induction l with
  | nil => rfl
  | cons p l ih =>
    obtain ⟨k1, v1⟩ := p
    simp only [akeys, List.map_cons, List.mem_cons, forall_eq_or_imp] at hinj ih
    simp only [List.map_cons]
    rw [alookup_cons, alookup_cons, ih hinj.2]
    by_cases h : k1 = k
    · subst h; simp
    · have h1 : (k1 == k) = false := by simpa using h
      have h2 : (π k1 == π k) = false := by
        rw [Bool.eq_false_iff]; intro hh; exact h (hinj.1 (eq_of_beq hh))
      simp [h1, h2]

theorem akeys_map_key (π : κ → κ') (F : β → γ) (l : List (κ × β)) :
    akeys (l.map (fun p => (π p.1, F p.2))) = (akeys l).map π := by
  simp [akeys, List.map_map, Function.comp_def]

end alist2

end SymmModel.Lazy
