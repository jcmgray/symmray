/-
  SymmModel.Proofs.Heap4MulDiag — `multiply_diagonal(v, axis, inplace=True)`: the heap script
  (`S.multiplyDiagonal`: per block, store `block * v_block` or delete the block) denotes the value
  model's `multiplyDiagonal` (`Model/Tdot.lean`: a `filterMap` over the blocks) (property C14).
-/
import SymmModel.Proofs.Heap4Sync
import SymmModel.Proofs.SpecMulDiag
namespace SymmModel.Heap

/-- the effects of `multiply_diagonal` on an array with content `c`, `vb` = the vector's block dict -/
def mdActs (chargeOf : Key → Key) (c : Content) (vb : Dict) : List SAct :=
  c.blocks.map fun e =>
    match vb.get? (chargeOf e.1) with
    | some b => SAct.kern e.1 tMul [e.2.toNat, b.toNat]
    | none => SAct.pop e.1

theorem multiplyDiagonal_pureV (chargeOf : Key → Key) (ov : View) (c : Content) (T : Bufs) :
    (S.multiplyDiagonal chargeOf).pureV ov (c, T) =
      ((mdActs chargeOf c (ov.getD 0 .none).toContent.blocks).foldl (fun s a => a.mut.pure s) ((c, T), [])).1 := by
  have hmap : (mdActs chargeOf c (ov.getD 0 .none).toContent.blocks).map SAct.mut =
      ((c.blocks.map fun e =>
        match (ov.getD 0 .none).toContent.blocks.get? (chargeOf e.1) with
        | some b => Act.bKern e.1 tMul [e.2.toNat, b.toNat]
        | none => Act.bPop e.1).map (Mut.act 0)) := by
    simp only [mdActs, List.map_map]
    apply List.map_congr_left
    intro e _
    simp only [Function.comp_def]
    split <;> rfl
  have h1 : (mdActs chargeOf c (ov.getD 0 .none).toContent.blocks).foldl (fun s a => a.mut.pure s) ((c, T), []) =
      ((mdActs chargeOf c (ov.getD 0 .none).toContent.blocks).map SAct.mut).foldl (fun s m => m.pure s)
        ((c, T), []) := by rw [List.foldl_map]
  rw [h1, hmap, foldl_act_mut]
  simp only [S.multiplyDiagonal, Script.pureV]
  rfl

theorem mdActs_ok {n : Nat} {chargeOf : Key → Key} {c : Content} {vb : Dict} (hc : DictOK n c.blocks)
    (hv : DictOK n vb) : ∀ a ∈ mdActs chargeOf c vb, a.ok n := by
  intro a ha
  simp only [mdActs, List.mem_map] at ha
  obtain ⟨e, he, rfl⟩ := ha
  split
  · rename_i b hb
    intro a' ha'
    simp only [List.mem_cons, List.not_mem_nil, or_false] at ha'
    rcases ha' with rfl | rfl
    · exact hc e he
    · exact hv.get? hb
  · trivial

section sem
variable {V : Type} (I : Nat → List V → V) (d : V)

/-- `multiply_diagonal` on dicts of values -/
def mdSem (chargeOf : Key → Key) (xs vs : SDict V) : SDict V :=
  xs.filterMap fun e =>
    match SD.get? vs (chargeOf e.1) with
    | some w => some (e.1, I tMul [e.2, w])
    | none => none

theorem multiplyDiagonal_abs (chargeOf : Key → Key) (c : Content) (T : Bufs) (vb : Dict)
    (hc : DictOK T.length c.blocks) (hv : DictOK T.length vb) (hn : (c.blocks.map (·.1)).Nodup) :
    Abs I d T c ((mdActs chargeOf c vb).foldl (fun s a => a.mut.pure s) ((c, T), ([] : Dict))).1
      (mdSem I chargeOf (semDict I d T c.blocks) (semDict I d T vb)) c.phases := by
  obtain ⟨D, h5, h6, h7, h8⟩ := sacts_abs I d T (mdActs chargeOf c vb) (mdActs_ok hc hv) c [] []
    (by simpa using hc) (by intro e he; cases he)
  have h1 := D.ext
  have h2 := D.okb
  have h4 := D.sem
  clear D
  simp only [List.append_nil] at h1 h2 h4 h5 h6 h7 h8
  have hph : (mdActs chargeOf c vb).foldl SAct.ph c.phases = c.phases :=
    SAct.foldl_ph_of_ne_ppop _ _ fun a ha => by
      obtain ⟨e, _, rfl⟩ := List.mem_map.mp ha
      split <;> (intro h; cases h)
  refine ⟨h1, h2, ?_, h5, h6, h7, by rw [h8, hph]⟩
  -- the denoted effects: one `set` or `pop` per left entry
  let xs := semDict I d T c.blocks
  let vs := semDict I d T vb
  let G : Key × V → List (SStep V) := fun e =>
    match SD.get? vs (chargeOf e.1) with
    | some w => [SStep.set e.1 (I tMul [e.2, w])]
    | none => [SStep.pop e.1]
  let ψ : Key × V → Option (Key × V) := fun e =>
    match SD.get? vs (chargeOf e.1) with
    | some w => some (e.1, I tMul [e.2, w])
    | none => none
  have hG : ∀ e : Key × V, GoodStep G ψ (fun _ t => t) e := by
    intro e
    obtain ⟨k, v⟩ := e
    cases hg : SD.get? vs (chargeOf k) with
    | none =>
      refine ⟨?_, by intro e' he'; simp [ψ, hg] at he'⟩
      intro A C t hA hC
      simp only [G, ψ, hg, List.foldl_cons, List.foldl_nil, SStep.run, sd_pop_mid A C k v hA hC]
      simp
    | some w =>
      refine ⟨?_, by intro e' he'; simp [ψ, hg] at he'; subst he'; rfl⟩
      intro A C t hA _
      simp only [G, ψ, hg, List.foldl_cons, List.foldl_nil, SStep.run, sd_set_mid A C k v _ hA]
      simp
  have hsteps : xs.flatMap G = (mdActs chargeOf c vb).map (SAct.toS I d T) := by
    simp only [mdActs, xs, semDict, mapV, List.map_map, List.flatMap_map]
    apply flatMap_eq_map
    intro e _
    have hget : SD.get? vs (chargeOf e.1) = (vb.get? (chargeOf e.1)).map fun b => look I d T b.toNat :=
      get?_mapV _ vb _
    simp only [G, Function.comp_def, hget]
    cases vb.get? (chargeOf e.1) <;> rfl
  have hxn : (keysOf ([] ++ xs)).Nodup := by
    simp only [List.nil_append, xs, keysOf_semDict]; exact hn
  have hpass := pass_fold G ψ (fun _ t => t) xs [] (semDict I d T []) (fun e _ => hG e) hxn
  simp only [List.nil_append] at hpass
  have h4' := h4
  rw [← List.foldl_map (f := SAct.toS I d T) (g := fun s a => SStep.run a s), ← hsteps, hpass] at h4'
  have := congrArg Prod.fst h4'
  simp only at this
  rw [this]
  rfl

end sem


section enc
variable {R : Type} [Zero R] [Mul R] (enc : Sector → Key) (encC : Charge → Key)
  (I : Nat → List (Blk R) → Blk R)

/-- a value-model block vector with its charge keys encoded -/
def encV (bl : List (Charge × Blk R)) : SDict (Blk R) := bl.map fun e => (encC e.1, e.2)

def InjOnC (Sc : List Charge) : Prop := ∀ s ∈ Sc, ∀ t ∈ Sc, encC s = encC t → s = t

omit [Zero R] [Mul R] in
theorem get?_encV {Sc : List Charge} (hinj : InjOnC encC Sc) (l : List (Charge × Blk R))
    (hl : ∀ e ∈ l, e.1 ∈ Sc) {ch : Charge} (hs : ch ∈ Sc) : SD.get? (encV encC l) (encC ch) = alookup l ch := by
  rw [← alookup_eq_get?]
  exact alookup_map_key encC hinj l hl hs

theorem mdSem_enc (chargeOf : Key → Key) (axis : Nat) (hmul : ∀ b w, I tMul [b, w] = b.mulAxisK w axis)
    (A : Arr R) (v : BVec R) (hch : ∀ e ∈ A.blocks, chargeOf (enc e.1) = encC (e.1.getD axis (0, 0)))
    {Sc : List Charge} (hinj : InjOnC encC Sc) (hv : ∀ e ∈ v.blocks, e.1 ∈ Sc)
    (hlook : ∀ e ∈ A.blocks, e.1.getD axis (0, 0) ∈ Sc) :
    mdSem I chargeOf (encB enc A.blocks) (encV encC v.blocks) = encB enc (multiplyDiagonal A v axis).blocks := by
  simp only [mdSem, encB, multiplyDiagonal_blocks, List.filterMap_map, List.map_filterMap]
  apply filterMap_congr_mem
  intro e he
  obtain ⟨s, b⟩ := e
  have h1 := hch (s, b) he
  have h2 := get?_encV encC hinj v.blocks hv (hlook (s, b) he)
  simp only at h1 h2
  simp only [Function.comp_def, h1, h2]
  cases alookup v.blocks (s.getD axis (0, 0)) with
  | none => rfl
  | some w => simp [hmul]

end enc
end SymmModel.Heap
