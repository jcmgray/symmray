/-
  SymmModel.Proofs.Fuse6Inst — `unfuseF` on valid fermionic arrays and `unfuseA` on valid abelian
  arrays are unfuse steps in the sense of `StepOK`.
-/
import SymmModel.Proofs.Fuse6Step
import SymmModel.Proofs.Fuse6Sign
namespace SymmModel
namespace FuseP
set_option linter.unusedSectionVars false
open SymmModel.Lazy

variable {R : Type} [Zero R] [Neg R] [LawfulNeg R]

theorem unfVal_sgn_congr (sym : Sym) (ix : Index) (subs : List Index) (exts : Extents) (p : Nat)
    (sgn sgn' : Sector → Int) (v : Sector → List Nat → R) (K : Sector) (J : List Nat) (h : sgn K = sgn' K) :
    unfVal sym ix subs exts p sgn v K J = unfVal sym ix subs exts p sgn' v K J := by
  unfold unfVal
  rw [h]

theorem stepOK_F : StepOK (R := R) Arr.unfuseF (fun a => a.validB = true ∧ a.fermi = true) segSign where
  valid := fun a h => validArr_of_validB h.1
  step := by
    intro a p ix subs exts ⟨hv, hf⟩ hix hsub
    obtain ⟨y, hy, hyi, hyv⟩ := unfuseF_val a p ix subs exts hv hix hsub
    obtain ⟨hVy, hfy⟩ := ValidP.unfuseF_valid' a y p ((ValidP.validB_iff a).1 hv) hf hy
    obtain ⟨f1, f2, f3⟩ := unfuseF_frame a p hv hix hsub hy
    refine ⟨y, hy, ⟨(ValidP.validB_iff y).2 hVy, hfy⟩, hyi, f1, by rw [hfy, hf], f2, f3, ?_⟩
    intro K shp hK J hJ
    rw [hyv K shp hK J hJ]
    apply unfVal_sgn_congr
    have hp : p < a.indices.length := getElem?_lt hix
    obtain ⟨A, S, X, _, _, _, rfl, _, hA, hS, _, _⟩ := box_parts hp (by rw [← hyi]; exact hK) hJ
    rw [unfuseSign_seg a ix subs p hp hA hS]
    unfold sgS
    rw [seg_parts hA hS]

theorem stepOK_A : StepOK (R := R) unfuseA (fun a => a.validB = true ∧ a.fermi = false) (fun _ _ _ _ => 1) where
  valid := fun a h => validArr_of_validB h.1
  step := by
    intro a p ix subs exts ⟨hv, hf⟩ hix hsub
    have hva := validArr_of_validB hv
    have hph : a.phases = [] := by
      have := ((ValidP.validB_iff a).1 hv).sgn
      unfold ValidP.SignsOk at this
      simp only [hf, Bool.false_eq_true, if_false] at this
      exact this.1
    obtain ⟨y, hy, U⟩ := unfuseU hva hix hsub
    have hyph : y.phases = [] := by rw [U.phases]; exact hph
    have hyV := ValidP.unfuseA_validB a y p hv hf hy
    refine ⟨y, hy, ⟨hyV, by rw [U.fermi]; exact hf⟩, U.indices, U.sym, U.fermi, U.charge, U.oddpos, ?_⟩
    intro K shp hK J hJ
    have hcert := val_of_cert (a := a) (y := y) (fun _ => (1 : Int)) hva hix hsub U.indices ?_ ?_ hK hJ
    · rw [hcert]; rfl
    · intro ns B hm e ss st d he hst
      obtain ⟨subshape, h1, h2, h3, h4⟩ := U.piece (ns, B) hm e ss st d he hst
      refine ⟨subshape, h1, h2, ?_⟩
      intro J hJ
      rw [Arr.elem_of_phases_nil hyph, h3, Arr.elem_of_phases_nil hph, alookup_of_mem_nodup hva.nodup hm]
      simp only [sgnI_one]
      exact h4 J hJ
    · intro K hK J
      rw [Arr.elem_of_phases_nil hyph]
      cases hl : alookup y.blocks K with
      | none => rfl
      | some V =>
        exfalso
        obtain ⟨nsB, hm, e, ss, st, d, h3, h4, h5, _⟩ := U.only K V hl
        exact hK nsB.1 nsB.2 e ss st d hm h3 h4 h5

end FuseP
end SymmModel
