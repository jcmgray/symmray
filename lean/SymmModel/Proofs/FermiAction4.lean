/-
  SymmModel.Proofs.FermiAction4 — resolution of the identity over a complete basis and the
  Fock matrix of a product of operators (property C18).
-/
import SymmModel.Proofs.FermiAction3
import Mathlib.Algebra.BigOperators.Ring.List

namespace SymmModel
namespace FermiActP
open FermiOpsP

theorem applyWord_amp (w : Word) (a : Int) (s : List Int) (h : applyWord w [] = some (a, s)) :
    a = 1 ∨ a = -1 := ((applyWord_runFlags w).2 a s h).1

theorem vacAmp_scale (u : Word) (a : Int) (ha : a = 1 ∨ a = -1) (S : List Int) :
    vacAmp (applyWordSt u (some (a, S))) = a * vacAmp (applyWordSt u (some (1, S))) := by
  rcases ha with rfl | rfl
  · simp
  · have : (some (-1, S) : FState) = negSt (some (1, S)) := rfl
    rw [this, applyWordSt_negSt, vacAmp_negSt]; simp

theorem vev_append_state (u v : Word) (a : Int) (S : List Int)
    (h : applyWord v [] = some (a, S)) :
    vev (u ++ v) = a * vacAmp (applyWordSt u (some (1, S))) := by
  rw [vev_append, h, vacAmp_scale u a (applyWord_amp v a S h)]

theorem vev_append_none (u v : Word) (h : applyWord v [] = none) : vev (u ++ v) = 0 := by
  rw [vev_append, h]
  have : ∀ u : Word, applyWordSt u none = none := by
    intro u; induction u with
    | nil => rfl
    | cons o u ih => simp only [applyWordSt, List.foldr_cons] at ih ⊢; rw [ih]; rfl
  rw [this]; rfl

/-- `⟨0| K† |S⟩` for a ket `K|0⟩ = σ|S'⟩`: `σ` if `S' = S`, else `0` -/
theorem vacAmp_dag_ket (K : Word) (S : List Int) (hS : Sorted S) :
    (∀ σ, applyWord K [] = some (σ, S) → vacAmp (applyWord (dagWord K) S) = σ)
    ∧ ((∀ σ, applyWord K [] ≠ some (σ, S)) → vacAmp (applyWord (dagWord K) S) = 0) := by
  constructor
  · intro σ h
    rw [applyWord_adjoint K [] σ S sorted_nil h]; rfl
  · intro h
    match hst : applyWord (dagWord K) S with
    | none => rfl
    | some (a, []) =>
      have := applyWord_adjoint (dagWord K) S a [] hS hst
      rw [dagWord_dagWord] at this
      exact absurd this (h a)
    | some (a, _ :: _) => rfl

/-- the kets `K_0 … K_{n-1}` are a complete basis of the Fock space over the modes `M`:
    every occupation `S ⊆ M` is the state of exactly one ket -/
def CompleteKets (M : List Int) (kets : List Word) : Prop :=
  ∀ S : List Int, Sorted S → (∀ z ∈ S, z ∈ M) →
    ∃ k0, ∃ _ : k0 < kets.length, (∃ σ, applyWord kets[k0] [] = some (σ, S))
      ∧ ∀ k, ∀ _ : k < kets.length, k ≠ k0 → ∀ σ', applyWord kets[k] [] ≠ some (σ', S)

/-- **resolution of the identity**: for a word `v` over the modes `M` at most one ket `K` of a
    complete basis overlaps with `v|0⟩`, and inserting `|K⟩⟨K|` there reproduces the vev -/
theorem resolution (M : List Int) (kets : List Word) (hc : CompleteKets M kets) (u v : Word)
    (hv : ∀ o ∈ v, o.label ∈ M) :
    ∃ k0, ∃ _ : k0 < kets.length,
      (∀ k, ∀ _ : k < kets.length, k ≠ k0 → vev (dagWord kets[k] ++ v) = 0)
      ∧ vev (u ++ kets[k0]) * vev (dagWord kets[k0] ++ v) = vev (u ++ v) := by
  match hst : applyWord v [] with
  | none =>
    obtain ⟨k0, hk0, _, _⟩ := hc [] sorted_nil (fun z hz => by cases hz)
    refine ⟨k0, hk0, fun k hk _ => vev_append_none _ v hst, ?_⟩
    rw [vev_append_none _ v hst, vev_append_none _ v hst, Int.mul_zero]
  | some (a, S) =>
    have hS : Sorted S := by
      have := FermiOpsP.applyWord_sorted v; rw [hst] at this; exact this
    have hSM : ∀ z ∈ S, z ∈ M := by
      intro z hz
      obtain ⟨o, ho, rfl⟩ := applyWord_support v a S hst z hz
      exact hv o ho
    have ha := applyWord_amp v a S hst
    obtain ⟨k0, hk0, ⟨σ, hσ⟩, huniq⟩ := hc S hS hSM
    have hσ' := applyWord_amp _ σ S hσ
    refine ⟨k0, hk0, ?_, ?_⟩
    · intro k hk hne
      rw [vev_append_state _ v a S hst]
      have := (vacAmp_dag_ket kets[k] S hS).2 (huniq k hk hne)
      unfold applyWord at this
      rw [this, Int.mul_zero]
    · rw [vev_append_state _ v a S hst, vev_append_state _ v a S hst, vev_append_state _ _ σ S hσ]
      have := (vacAmp_dag_ket kets[k0] S hS).1 σ hσ
      unfold applyWord at this
      rw [this]
      have hsq : σ * σ = 1 := by rcases hσ' with rfl | rfl <;> rfl
      calc σ * vacAmp (applyWordSt u (some (1, S))) * (a * σ)
          = (σ * σ) * (a * vacAmp (applyWordSt u (some (1, S)))) := by ring
        _ = a * vacAmp (applyWordSt u (some (1, S))) := by rw [hsq, Int.one_mul]

section prod
variable {R : Type} [Ring R]

/-- the term list of the operator product `O₂ · O₁`: all concatenations, coefficients multiplied -/
def mulTerms (t2 t1 : List (R × Word)) : List (R × Word) :=
  t2.flatMap (fun c2 => t1.map (fun c1 => (c2.1 * c1.1, c2.2 ++ c1.2)))

theorem mulTerms_neutral (q : Int → Int) (t2 t1 : List (R × Word))
    (h2 : ∀ ct ∈ t2, wordCharge q ct.2 = 0) (h1 : ∀ ct ∈ t1, wordCharge q ct.2 = 0) :
    ∀ ct ∈ mulTerms t2 t1, wordCharge q ct.2 = 0 := by
  intro ct hct
  simp only [mulTerms, List.mem_flatMap, List.mem_map] at hct
  obtain ⟨c2, hc2, c1, hc1, rfl⟩ := hct
  rw [wordCharge_append, h2 c2 hc2, h1 c1 hc1]; rfl

theorem sumA_eq_sum (l : List R) : sumA l = l.sum := by
  induction l with
  | nil => rfl
  | cons a l ih => simp [sumA, ih]

theorem scaleInt_mul (x y : Int) (hx : x = 0 ∨ x = 1 ∨ x = -1) (hy : y = 0 ∨ y = 1 ∨ y = -1)
    (a b : R) : scaleInt x a * scaleInt y b = scaleInt (x * y) (a * b) := by
  rcases hx with rfl | rfl | rfl <;> rcases hy with rfl | rfl | rfl <;> simp [scaleInt]

theorem sum_single_index {β : Type} (l : List β) (f : β → R) (k0 : Nat) (hk0 : k0 < l.length)
    (hz : ∀ k, ∀ h : k < l.length, k ≠ k0 → f l[k] = 0) : (l.map f).sum = f l[k0] := by
  induction l generalizing k0 with
  | nil => simp at hk0
  | cons a l ih =>
    cases k0 with
    | zero =>
      rw [List.map_cons, List.sum_cons, List.sum_eq_zero (List.forall_mem_map.mpr ?_), add_zero]; · rfl
      intro x hx
      obtain ⟨i, hi, rfl⟩ := List.mem_iff_getElem.mp hx
      have := hz (i + 1) (by simp; omega) (by omega)
      simpa using this
    | succ k0 =>
      have h0 : f a = 0 := by
        have := hz 0 (by simp) (by omega); simpa using this
      rw [List.map_cons, List.sum_cons, h0, zero_add, ih k0 (by simpa using hk0)]
      · rfl
      · intro k hk hne
        have := hz (k + 1) (by simp; omega) (by omega)
        simpa using this

/-- **the Fock matrix of the product is the product of the Fock matrices**, summed over a
    complete family of intermediate kets `ks ↦ ketOf bases ks` -/
theorem fock_mul (M : List Int) (bases : List (List Word)) (ks : List (List Nat))
    (hc : CompleteKets M (ks.map (ketOf bases)))
    (t2 t1 : List (R × Word)) (ht1 : ∀ ct ∈ t1, ∀ o ∈ ct.2, o.label ∈ M)
    (is js : List Nat) (hj : ∀ o ∈ ketOf bases js, o.label ∈ M) :
    fockMatrixAt (mulTerms t2 t1) bases is js
      = (ks.map (fun k => fockMatrixAt t2 bases is k * fockMatrixAt t1 bases k js)).sum := by
  simp only [fockMatrixAt_eq, sumA_eq_sum]
  -- right-hand side: expand the products and swap the sums
  have hR : ∀ k : List Nat,
      (t2.map (fun ct => scaleInt (vev (dagWord (ketOf bases is) ++ ct.2 ++ ketOf bases k)) ct.1)).sum
        * (t1.map (fun ct => scaleInt (vev (dagWord (ketOf bases k) ++ ct.2 ++ ketOf bases js)) ct.1)).sum
      = (t2.map (fun c2 => (t1.map (fun c1 =>
          scaleInt (vev (dagWord (ketOf bases is) ++ c2.2 ++ ketOf bases k)) c2.1
          * scaleInt (vev (dagWord (ketOf bases k) ++ c1.2 ++ ketOf bases js)) c1.1)).sum)).sum := by
    intro k
    rw [← List.sum_map_mul_right]
    congr 1
    apply List.map_congr_left
    intro c2 _
    rw [← List.sum_map_mul_left]
  simp only [hR]
  rw [sum_swap ks t2]
  simp only [sum_swap ks t1]
  unfold mulTerms
  rw [sum_map_flatMap]
  congr 1
  apply List.map_congr_left
  intro c2 _
  rw [List.map_map]
  congr 1
  apply List.map_congr_left
  intro c1 hc1
  simp only [Function.comp]
  -- one pair of terms: resolution of the identity
  obtain ⟨k0, hk0, hz, hmain⟩ := resolution M (ks.map (ketOf bases)) hc
    (dagWord (ketOf bases is) ++ c2.2) (c1.2 ++ ketOf bases js)
    (by
      intro o ho
      rcases List.mem_append.mp ho with h | h
      · exact ht1 c1 hc1 o h
      · exact hj o h)
  have hk0' : k0 < ks.length := by simpa using hk0
  have hsum := sum_single_index ks (fun k =>
      scaleInt (vev (dagWord (ketOf bases is) ++ c2.2 ++ ketOf bases k)) c2.1
      * scaleInt (vev (dagWord (ketOf bases k) ++ c1.2 ++ ketOf bases js)) c1.1) k0 hk0'
    (by
      intro k hk hne
      have := hz k (by simpa using hk) hne
      simp only [List.getElem_map] at this
      simp only [List.append_assoc]
      rw [this]; simp [scaleInt])
  rw [hsum, scaleInt_mul _ _ (vev_cases _) (vev_cases _)]
  simp only [List.getElem_map] at hmain
  simp only [List.append_assoc] at hmain ⊢
  rw [hmain]

end prod

end FermiActP
end SymmModel
