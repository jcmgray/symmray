/-
  SymmModel.Proofs.Dense5c — single-operand einsum with traced labels at dense level, part 2:
  the positions of a traced label, what the trace test `einKeep` says of a sector, and the stored
  sectors that contribute as assembled sectors.
-/
import SymmModel.Proofs.Dense5b

namespace SymmModel
namespace Dense5
open TdotP

variable {R : Type}

def posOf (lhs : List Nat) (lab : Nat) : List Nat := (lhs.zipIdx.filter (fun p => p.1 == lab)).map (·.2)

theorem mem_posOf {lhs : List Nat} {lab k : Nat} : k ∈ posOf lhs lab ↔ lhs[k]? = some lab := by
  unfold posOf
  rw [List.mem_map]
  constructor
  · rintro ⟨⟨x, i⟩, hm, rfl⟩
    rw [List.mem_filter] at hm
    obtain ⟨hm1, hm2⟩ := hm
    have : x = lab := by simpa using hm2
    subst this
    exact List.mem_zipIdx_iff_getElem?.mp hm1
  · intro h
    exact ⟨(lab, k), List.mem_filter.mpr ⟨List.mem_zipIdx_iff_getElem?.mpr h, by simp⟩, rfl⟩

theorem einTracedPos_eq (lhs rhs : List Nat) :
    einTracedPos lhs rhs = (einTraced lhs rhs).map (posOf lhs) := rfl

/-- a two-element list: every member is one of the two entries read by `einKeep` -/
theorem mem_pair {js : List Nat} (h : js.length = 2) {k : Nat} (hk : k ∈ js) :
    k = js.getD 0 0 ∨ k = js.getD 1 0 := by
  match js, h with
  | [x, y], _ => simpa using hk

theorem pair_mem {js : List Nat} (h : js.length = 2) : js.getD 0 0 ∈ js ∧ js.getD 1 0 ∈ js := by
  match js, h with
  | [x, y], _ => simp

theorem keep_eq {lhs rhs : List Nat}
    (h2 : (einTracedPos lhs rhs).any (fun js => js.length != 2) = false) {s : Sector}
    (hkeep : einKeep lhs rhs s = true) {k k' : Nat} {lab : Nat} (hlab : lab ∈ einTraced lhs rhs)
    (hk : lhs[k]? = some lab) (hk' : lhs[k']? = some lab) : s[k]? = s[k']? := by
  have hjs : posOf lhs lab ∈ einTracedPos lhs rhs := by
    rw [einTracedPos_eq]; exact List.mem_map.mpr ⟨lab, hlab, rfl⟩
  have hlen : (posOf lhs lab).length = 2 := by
    rw [List.any_eq_false] at h2
    have := h2 _ hjs
    simpa using this
  simp only [einKeep, List.all_eq_true] at hkeep
  have he := hkeep _ hjs
  simp only [beq_iff_eq] at he
  rcases mem_pair hlen (mem_posOf.mpr hk) with e1 | e1 <;>
    rcases mem_pair hlen (mem_posOf.mpr hk') with e2 | e2 <;> rw [e1, e2]
  · exact he
  · exact he.symm

theorem keep_of_eq {lhs rhs : List Nat}
    (h2 : (einTracedPos lhs rhs).any (fun js => js.length != 2) = false) {s : Sector}
    (h : ∀ lab ∈ einTraced lhs rhs, ∀ (k k' : Nat), lhs[k]? = some lab → lhs[k']? = some lab →
      s[k]? = s[k']?) :
    einKeep lhs rhs s = true := by
  simp only [einKeep, List.all_eq_true, beq_iff_eq]
  intro js hjs
  rw [einTracedPos_eq] at hjs
  obtain ⟨lab, hlab, rfl⟩ := List.mem_map.mp hjs
  have hlen : (posOf lhs lab).length = 2 := by
    rw [List.any_eq_false] at h2
    have := h2 _ (by rw [einTracedPos_eq]; exact List.mem_map.mpr ⟨lab, hlab, rfl⟩)
    simpa using this
  obtain ⟨m0, m1⟩ := pair_mem hlen
  exact h lab hlab _ _ (mem_posOf.mp m0) (mem_posOf.mp m1)

/-- the (charge, size) of every traced label in a sector -/
def eOf (a : Arr R) (lhs rhs : List Nat) (s : Sector) : List (Charge × Nat) :=
  (einTraced lhs rhs).map (fun lab =>
    (s.getD (fpos lhs lab) (0, 0), (Arr.blockShapeD a.indices s).getD (fpos lhs lab) 0))

theorem eOf_snd (a : Arr R) (lhs rhs : List Nat) (s : Sector) :
    (eOf a lhs rhs s).map (·.2)
      = (einTraced lhs rhs).map (einSize (Arr.blockShapeD a.indices s) lhs) := by
  simp only [eOf, List.map_map]
  apply List.map_congr_left
  intro lab hlab
  obtain ⟨k, h1, _⟩ := indexOf?_of_mem (mem_einTraced.mp hlab).1
  simp [einSize, fpos, h1]

theorem asm_of_sector {lhs rhs : List Nat} (hok : EqOk lhs rhs)
    (h2 : (einTracedPos lhs rhs).any (fun js => js.length != 2) = false) {s : Sector}
    (hsl : s.length = lhs.length) (hkeep : einKeep lhs rhs s = true) (cs : Sector)
    (hcs : cs = (einTraced lhs rhs).map (fun lab => s.getD (fpos lhs lab) (0, 0))) :
    asm (0, 0) lhs rhs (permuted s (Dense4.einPermOf lhs rhs)) cs = s := by
  have hlt := Dense4.einPermOf_lt hok.rsub
  apply List.ext_getElem?
  intro k
  by_cases hk : k < lhs.length
  · rcases axis_cases (rhs := rhs) hk with ⟨j, hj1, hj2⟩ | ⟨hnr, j, hj1, hj2⟩
    · rw [asm_kept (0, 0) _ _ hk hj1]
      have hjl := FuseP.getElem?_lt hj2
      have hmem : lhs[k] ∈ rhs := List.mem_of_getElem? hj2
      have hfp : fpos lhs lhs[k] = k := by simp [fpos, hok.once k hk hmem]
      rw [List.getD_eq_getElem?_getD, permuted_getElem? _ _ (by rw [hsl]; exact hlt),
        einPermOf_getElem? hj2, hfp]
      simp [List.getElem?_eq_getElem (by rw [hsl]; exact hk : k < s.length)]
    · rw [asm_traced (0, 0) _ _ hk hnr hj1, hcs]
      have hlab : lhs[k] ∈ einTraced lhs rhs := List.mem_of_getElem? hj2
      obtain ⟨hfl, hfe⟩ := fpos_spec (List.getElem_mem hk : lhs[k] ∈ lhs)
      have := keep_eq h2 hkeep hlab (List.getElem?_eq_getElem hk)
        (by rw [List.getElem?_eq_getElem hfl, hfe] : lhs[fpos lhs lhs[k]]? = some lhs[k])
      rw [this]
      simp [List.getD_eq_getElem?_getD, List.getElem?_map, hj2,
        List.getElem?_eq_getElem (by rw [hsl]; exact hfl : fpos lhs lhs[k] < s.length)]
  · rw [List.getElem?_eq_none (by simp; omega), List.getElem?_eq_none (by omega)]

theorem keep_asm {lhs rhs : List Nat}
    (h2 : (einTracedPos lhs rhs).any (fun js => js.length != 2) = false) (s' cs : Sector) :
    einKeep lhs rhs (asm (0, 0) lhs rhs s' cs) = true := by
  apply keep_of_eq h2
  intro lab hlab k k' hk hk'
  have hkl := FuseP.getElem?_lt hk
  have hkl' := FuseP.getElem?_lt hk'
  have e1 : lhs[k] = lab := by rw [List.getElem?_eq_getElem hkl] at hk; exact Option.some.inj hk
  have e2 : lhs[k'] = lab := by rw [List.getElem?_eq_getElem hkl'] at hk'; exact Option.some.inj hk'
  have hnr : lab ∉ rhs := (mem_einTraced.mp hlab).2
  obtain ⟨j, hj1, _⟩ := indexOf?_of_mem hlab
  rw [asm_traced (0, 0) s' cs hkl (by rw [e1]; exact hnr) (by rw [e1]; exact hj1),
    asm_traced (0, 0) s' cs hkl' (by rw [e2]; exact hnr) (by rw [e2]; exact hj1)]

end Dense5
end SymmModel
