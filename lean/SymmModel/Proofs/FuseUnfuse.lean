/-
  SymmModel.Proofs.FuseUnfuse — `unfuseA` as a pure function.
-/
import SymmModel.Proofs.FuseIns
namespace SymmModel
namespace FuseP

variable {R : Type}


/-- the pieces one block is cut into -/
def piecesOf [Zero R] (subIdx : List Index) (exts : Extents) (axis : Nat) (sb : Sector × Blk R) :
    List (Sector × Blk R) :=
  (((alookup exts (sb.1.getD axis (0, 0))).getD []).zip
      (offsets (((alookup exts (sb.1.getD axis (0, 0))).getD []).map (·.2)))).map (fun q =>
    (replaceWithSeq sb.1 axis q.1.1,
     (sb.2.sliceK ((List.replicate sb.2.shape.length 0).set axis q.2) (sb.2.shape.set axis q.1.2)).reshapeK
        (replaceWithSeq sb.2.shape axis ((Arr.blockShape? subIdx q.1.1).getD []))))

theorem unfuseA_eq [Zero R] (x : Arr R) (axis : Nat) (ix : Index) (subIdx : List Index) (exts : Extents)
    (h1 : x.indices[axis]? = some ix) (h2 : ix.sub = some (subIdx, exts))
    (h3 : ∀ sb ∈ x.blocks, ∃ ext, alookup exts (sb.1.getD axis (0, 0)) = some ext
      ∧ ∀ q ∈ ext, ∃ shp, Arr.blockShape? subIdx q.1 = some shp) :
    unfuseA x axis = .ok { x with indices := replaceWithSeq x.indices axis subIdx,
                                  blocks := adict (x.blocks.flatMap (piecesOf subIdx exts axis)) } := by
  unfold unfuseA
  simp only [h1, h2, bind, Except.bind, pure, Except.pure]
  rw [foldlM_ok _ (fun acc sb => (piecesOf subIdx exts axis sb).foldl (fun m p => ainsert m p.1 p.2) acc)]
  · simp only [foldl_ainsertAll_flatMap]
    rfl
  · intro acc sb hsb
    obtain ⟨s, b⟩ := sb
    obtain ⟨ext, he, hq⟩ := h3 (s, b) hsb
    simp only [he]
    rw [mapM_ok_of_forall _ (fun q : (Sector × Nat) × Nat =>
      (replaceWithSeq s axis q.1.1,
       (b.sliceK ((List.replicate b.shape.length 0).set axis q.2) (b.shape.set axis q.1.2)).reshapeK
          (replaceWithSeq b.shape axis ((Arr.blockShape? subIdx q.1.1).getD []))))]
    · simp only [piecesOf, he, Option.getD_some]
    · intro q hqm
      obtain ⟨⟨ss, d⟩, st⟩ := q
      obtain ⟨shp, hshp⟩ := hq (ss, d) (List.of_mem_zip hqm).1
      simp only [hshp, Option.getD_some]

end FuseP
end SymmModel
