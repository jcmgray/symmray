/-
  SymmModel.Proofs.Routes2 — S6 of property C04 (pre-transposing an operand), specification level
  and model level.  The model-level theorem is proved under the weak guard
  (`Assoc5P.tdotF_pretranspose_w`).
-/
import SymmModel.Proofs.AssocFrame

namespace SymmModel
namespace RoutesP
open TdotP GradedP KoszulP AssocP
set_option linter.unusedSectionVars false

/-- `positions l x`: for each entry of `x` its position in `l` (entries not in `l` are dropped) -/
def positions (l x : List Nat) : List Nat := x.filterMap (fun y => indexOf? l y)

theorem positions_spec (l x : List Nat) (hx : ∀ y ∈ x, y ∈ l) :
    permuted l (positions l x) = x ∧ (positions l x).length = x.length
      ∧ ∀ i ∈ positions l x, i < l.length := by
  induction x with
  | nil => exact ⟨rfl, rfl, by simp [positions]⟩
  | cons y xs ih =>
    obtain ⟨i1, i2, i3⟩ := ih (fun z hz => hx z (List.mem_cons_of_mem _ hz))
    have hy : y ∈ l := hx y (by simp)
    cases hj : indexOf? l y with
    | none => exact absurd hy (indexOf?_eq_none_iff.mp hj)
    | some j =>
      have hlj := indexOf?_eq_some hj
      have hjl : j < l.length := by
        by_contra hc; rw [List.getElem?_eq_none (by omega)] at hlj; cases hlj
      have e : positions l (y :: xs) = j :: positions l xs := by
        unfold positions; rw [List.filterMap_cons, hj]
      rw [e]
      refine ⟨?_, by simp [i2], ?_⟩
      · unfold permuted at i1 ⊢
        rw [List.filterMap_cons, hlj, i1]
      · intro i hi
        rcases List.mem_cons.mp hi with rfl | h
        · exact hjl
        · exact i3 i h

theorem positions_nodup (l x : List Nat) (hx : ∀ y ∈ x, y ∈ l) (hn : x.Nodup) :
    (positions l x).Nodup := by
  obtain ⟨h1, _, h3⟩ := positions_spec l x hx
  rw [permuted_eq_map l _ h3 0] at h1
  rw [← h1] at hn
  exact List.Nodup.of_map _ hn

theorem positions_perm (l x : List Nat) (hp : x.Perm l) (hn : l.Nodup) :
    (positions l x).Perm (List.range l.length) := by
  have hx : ∀ y ∈ x, y ∈ l := fun y hy => hp.mem_iff.mp hy
  obtain ⟨_, h2, h3⟩ := positions_spec l x hx
  have hnd := positions_nodup l x hx (hp.nodup_iff.mpr hn)
  have hsub : positions l x ⊆ List.range l.length := fun i hi => List.mem_range.mpr (h3 i hi)
  have hsp := List.subperm_of_subset hnd hsub
  exact hsp.perm_of_length_le (by rw [h2, hp.length_eq]; simp)

theorem positions_append (l x y : List Nat) :
    positions l (x ++ y) = positions l x ++ positions l y := by
  unfold positions; exact List.filterMap_append

theorem positions_append_left (F G u : List Nat) (hu : ∀ e ∈ u, e ∈ F) :
    positions (F ++ G) u = positions F u := by
  unfold positions
  induction u with
  | nil => rfl
  | cons y ys ih =>
    have hy : y ∈ F := hu y (by simp)
    cases hj : indexOf? F y with
    | none => exact absurd hy (indexOf?_eq_none_iff.mp hj)
    | some j =>
      rw [List.filterMap_cons, List.filterMap_cons, indexOf?_append_left F G y j hj, hj,
        ih (fun e he => hu e (List.mem_cons_of_mem _ he))]

theorem positions_append_right (L G x : List Nat) (hx : ∀ e ∈ x, e ∉ L) :
    positions (L ++ G) x = (positions G x).map (L.length + ·) := by
  unfold positions
  induction x with
  | nil => rfl
  | cons y ys ih =>
    rw [List.filterMap_cons, List.filterMap_cons, indexOf?_append_right L G y (hx y (by simp)),
      ih (fun e he => hx e (List.mem_cons_of_mem _ he))]
    cases indexOf? G y <;> rfl

theorem positions_permuted (l y : List Nat) (hn : l.Nodup) (hy : ∀ i ∈ y, i < l.length) :
    positions l (permuted l y) = y := by
  rw [permuted_eq_map l y hy 0]
  unfold positions
  rw [List.filterMap_map]
  have : ∀ i ∈ y, ((fun z => indexOf? l z) ∘ fun x => l.getD x 0) i = some i := by
    intro i hi
    have hi' := hy i hi
    simp only [Function.comp, List.getD_eq_getElem?_getD, List.getElem?_eq_getElem hi',
      Option.getD_some]
    exact indexOf?_getElem hn hi'
  rw [List.filterMap_congr this]
  simp

theorem positions_self (l : List Nat) (hn : l.Nodup) : positions l l = List.range l.length := by
  have := positions_permuted l (List.range l.length) hn (fun i hi => List.mem_range.mp hi)
  rwa [permuted_range] at this

theorem positions_range_append (a : Nat) (G x : List Nat) (hx : ∀ i ∈ x, i < a) :
    positions (List.range a ++ G) x = x := by
  unfold positions
  induction x with
  | nil => rfl
  | cons y ys ih =>
    rw [List.filterMap_cons, indexOf?_append_left _ _ _ _ (indexOf?_range a y (hx y (by simp))),
      ih (fun i hi => hx i (by simp [hi]))]

theorem positions_append_shift (F G q : List Nat) (b : Nat) (hF : ∀ i ∈ F, i < b) :
    positions (F ++ G.map (b + ·)) (q.map (b + ·)) = (positions G q).map (F.length + ·) := by
  unfold positions
  induction q with
  | nil => rfl
  | cons y ys ih =>
    have hy : b + y ∉ F := fun h => by have := hF _ h; omega
    have e : indexOf? (G.map (b + ·)) (b + y) = indexOf? G y := by
      clear ih hy
      induction G with
      | nil => rfl
      | cons g gs ihg =>
        simp only [List.map_cons, indexOf?, ihg]
        have : ((b + g) == (b + y)) = (g == y) := by
          rw [Bool.eq_iff_iff]; simp
        rw [this]
    rw [List.map_cons, List.filterMap_cons, List.filterMap_cons, indexOf?_append_right _ _ _ hy, e, ih]
    cases indexOf? G y <;> rfl

/-- `a` is transposed by `p` first; `xa'` are the positions of the contracted axes `xa` in the
    transposed array, and `q` is the induced permutation of the free axes:
    (free axes of `a`, re-listed along `q`) = (free axes of the transposed array, as axes of `a`) -/
structure PreT (n : Nat) (p xa xa' q : List Nat) : Prop where
  hp : p.Perm (List.range n)
  nA : xa.Nodup
  ltA : ∀ i ∈ xa, i < n
  nA' : xa'.Nodup
  ltA' : ∀ i ∈ xa', i < n
  hx : permuted p xa' = xa
  hq : q.Perm (List.range (freeAxes n xa).length)
  hL : permuted (freeAxes n xa) q = permuted p (freeAxes n xa')

section pret
variable {α : Type} {n : Nat} {p xa xa' q : List Nat}

theorem PreT.plen (h : PreT n p xa xa' q) : p.length = n := by simpa using h.hp.length_eq

theorem PreT.plt (h : PreT n p xa xa' q) : ∀ i ∈ p, i < n := mem_lt_of_perm h.hp

theorem PreT.len (h : PreT n p xa xa' q) : xa'.length = xa.length := by
  have := congrArg List.length h.hx
  rw [permuted_length _ _ (by rw [h.plen]; exact h.ltA')] at this
  exact this

theorem PreT.lenT (z : List α) (hz : z.length = n) (h : PreT n p xa xa' q) :
    (permuted z p).length = n := by
  rw [permuted_length _ _ (by rw [hz]; exact h.plt), h.plen]

theorem PreT.ax (h : PreT n p xa xa' q) (z : List α) (hz : z.length = n) :
    permuted (permuted z p) xa' = permuted z xa := by
  rw [KoszulP.permuted_permuted z p xa' (by rw [hz]; exact h.plt)]
  unfold compose
  rw [h.hx]

theorem PreT.free (h : PreT n p xa xa' q) (z : List α) (hz : z.length = n) :
    permuted (permuted z p) (freeAxes n xa') = permuted (permuted z (freeAxes n xa)) q := by
  rw [KoszulP.permuted_permuted z p _ (by rw [hz]; exact h.plt),
    KoszulP.permuted_permuted z (freeAxes n xa) q
      (by intro i hi; rw [hz]; exact (mem_freeAxes.mp hi).1)]
  unfold compose
  rw [h.hL]

theorem PreT.freeLen (h : PreT n p xa xa' q) : (freeAxes n xa').length = (freeAxes n xa).length := by
  have h1 := freeAxes_length h.nA h.ltA
  have h2 := freeAxes_length h.nA' h.ltA'
  have := h.len
  omega

theorem PreT.canonical (hp : p.Perm (List.range n)) (hn : xa.Nodup) (hlt : ∀ i ∈ xa, i < n) :
    PreT n p xa (positions p xa)
      (positions (freeAxes n xa) (permuted p (freeAxes n (positions p xa)))) := by
  have hpn : p.Nodup := hp.nodup_iff.mpr List.nodup_range
  have hplen : p.length = n := by simpa using hp.length_eq
  have hxa_mem : ∀ y ∈ xa, y ∈ p := fun y hy => hp.mem_iff.mpr (List.mem_range.mpr (hlt y hy))
  obtain ⟨s1, s2, s3⟩ := positions_spec p xa hxa_mem
  have hnA' := positions_nodup p xa hxa_mem hn
  have hltA' : ∀ i ∈ positions p xa, i < n := fun i hi => hplen ▸ s3 i hi
  -- the free axes of the transposed array, as axes of `a`, are a permutation of `a`'s free axes
  have hLt : (permuted p (freeAxes n (positions p xa))).Perm (freeAxes n xa) := by
    have hfl' : ∀ i ∈ freeAxes n (positions p xa), i < p.length := by
      intro i hi; rw [hplen]; exact (mem_freeAxes.mp hi).1
    rw [List.perm_ext_iff_of_nodup ?_ (freeAxes_nodup _ _)]
    · intro y
      constructor
      · intro hy
        rw [permuted_eq_map p _ hfl' 0] at hy
        obtain ⟨j, hj, rfl⟩ := List.mem_map.mp hy
        obtain ⟨hjn, hjx⟩ := mem_freeAxes.mp hj
        have hjp : j < p.length := by omega
        rw [List.getD_eq_getElem?_getD, List.getElem?_eq_getElem hjp, Option.getD_some]
        refine mem_freeAxes.mpr ⟨mem_lt_of_perm hp _ (List.getElem_mem hjp), ?_⟩
        intro hmem
        apply hjx
        -- `p[j] ∈ xa` means `j` is one of the positions
        obtain ⟨t, ht, hte⟩ := List.mem_iff_getElem.mp hmem
        have : (positions p xa)[t]? = some j := by
          have h1 := congrArg (fun l => l[t]?) s1
          simp only [permuted_getElem? p _ s3, List.getElem?_eq_getElem ht] at h1
          have ht' : t < (positions p xa).length := by omega
          rw [List.getElem?_eq_getElem ht'] at h1 ⊢
          simp only [Option.bind_some] at h1
          have hi := s3 _ (List.getElem_mem ht')
          rw [List.getElem?_eq_getElem hi] at h1
          have e : p[(positions p xa)[t]] = p[j] := by rw [Option.some.inj h1, hte]
          have := (List.Nodup.getElem_inj_iff hpn).mp e
          rw [this]
        exact List.mem_of_getElem? this
      · intro hy
        obtain ⟨hyn, hyx⟩ := mem_freeAxes.mp hy
        obtain ⟨j, hj, rfl⟩ := List.mem_iff_getElem.mp (hp.mem_iff.mpr (List.mem_range.mpr hyn))
        rw [permuted_eq_map p _ hfl' 0]
        refine List.mem_map.mpr ⟨j, mem_freeAxes.mpr ⟨by omega, ?_⟩, by
          rw [List.getD_eq_getElem?_getD, List.getElem?_eq_getElem hj]; rfl⟩
        intro hjpos
        apply hyx
        obtain ⟨t, ht, hte⟩ := List.mem_iff_getElem.mp hjpos
        have h1 := congrArg (fun l => l[t]?) s1
        simp only [permuted_getElem? p _ s3, List.getElem?_eq_getElem ht, Option.bind_some, hte,
          List.getElem?_eq_getElem hj] at h1
        exact List.mem_of_getElem? h1.symm
    · rw [permuted_eq_map p _ hfl' 0]
      apply List.Nodup.map_on _ (freeAxes_nodup _ _)
      intro i hi j hj e
      have hi' := hfl' i hi
      have hj' := hfl' j hj
      rw [List.getD_eq_getElem?_getD, List.getD_eq_getElem?_getD, List.getElem?_eq_getElem hi',
        List.getElem?_eq_getElem hj'] at e
      exact (List.Nodup.getElem_inj_iff hpn).mp (by simpa using e)
  have hq := positions_perm (freeAxes n xa) _ hLt (freeAxes_nodup _ _)
  obtain ⟨t1, _, _⟩ := positions_spec (freeAxes n xa) (permuted p (freeAxes n (positions p xa)))
    (fun y hy => hLt.mem_iff.mp hy)
  exact ⟨hp, hn, hlt, hnA', hltA', s1, hq, t1⟩

end pret

section s6spec
variable {R : Type}

theorem free_boxes {a b : Arr R} {xa xb : List Nat} (hsa : a.shapesOk) (hsb : b.shapesOk)
    {s sa sb : Sector} {oL oR : List Nat}
    (hp : (sa, sb) ∈ storedPairs a b (freeAxes a.ndim xa) xa xb (freeAxes b.ndim xb) s)
    (hoL : oL.length = (freeAxes a.ndim xa).length)
    (ho : inBox (Arr.blockShapeD (without a.indices xa ++ without b.indices xb) s) (oL ++ oR) = true) :
    inBox (permuted (Arr.blockShapeD a.indices sa) (freeAxes a.ndim xa)) oL = true
      ∧ inBox (permuted (Arr.blockShapeD b.indices sb) (freeAxes b.ndim xb)) oR = true := by
  obtain ⟨hsa', hsb', _, hs⟩ := mem_storedPairs.mp hp
  obtain ⟨shpA, _, hA2, hA3, _⟩ := shape_of_mem hsa hsa'
  rw [← hs, Arr.blockShapeD, frame_shape hsa hsb hsa' hsb', Option.getD_some, inBox_append (by
    rw [hoL, hA2, permuted_length _ _ (by rw [hA3]; exact mem_freeAxes_lt)])] at ho
  simpa using ho

theorem storedPairs_pre (a a' b : Arr R) (p xa xa' q xb : List Nat)
    (hsa : a.shapesOk) (hT : PreT a.ndim p xa xa' q)
    (hsec : a'.sectors = a.sectors.map (fun s => permuted s p)) (hnd : a'.ndim = a.ndim)
    (L Rr : Sector) (hL : L.length = (freeAxes a.ndim xa).length) :
    storedPairs a' b (freeAxes a'.ndim xa') xa' xb (freeAxes b.ndim xb) (permuted L q ++ Rr)
      = (storedPairs a b (freeAxes a.ndim xa) xa xb (freeAxes b.ndim xb) (L ++ Rr)).map
          (fun pr => (permuted pr.1 p, pr.2)) := by
  unfold storedPairs
  rw [hsec, hnd]
  simp only [List.flatMap_map, List.map_flatMap, List.map_map]
  apply flatMap_congr_mem
  intro sa hsa'
  have hla := Arr.sector_length hsa hsa'
  have e : ∀ sb ∈ b.sectors,
      (permuted sb xb == permuted (permuted sa p) xa' &&
        permuted (permuted sa p) (freeAxes a.ndim xa') ++ permuted sb (freeAxes b.ndim xb)
          == permuted L q ++ Rr)
      = (permuted sb xb == permuted sa xa &&
        permuted sa (freeAxes a.ndim xa) ++ permuted sb (freeAxes b.ndim xb) == L ++ Rr) := by
    intro sb _
    rw [hT.ax sa hla, hT.free sa hla]
    congr 1
    have hl1 : (permuted sa (freeAxes a.ndim xa)).length = (freeAxes a.ndim xa).length :=
      permuted_length _ _ (by intro x hx; rw [hla]; exact (mem_freeAxes.mp hx).1)
    have hqlt : ∀ i ∈ q, i < (freeAxes a.ndim xa).length := mem_lt_of_perm hT.hq
    have hl2 : (permuted (permuted sa (freeAxes a.ndim xa)) q).length = (permuted L q).length := by
      rw [permuted_length _ _ (by rw [hl1]; exact hqlt), permuted_length _ _ (by rw [hL]; exact hqlt)]
    rw [Bool.eq_iff_iff]
    simp only [beq_iff_eq]
    constructor
    · intro h
      obtain ⟨h1, h2⟩ := List.append_inj h hl2
      have := KoszulP.permuted_injective _ _ q _ hT.hq hl1 hL h1
      rw [this, h2]
    · intro h
      obtain ⟨h1, h2⟩ := List.append_inj h (by rw [hl1, hL])
      rw [h1, h2]
  rw [List.filter_congr e]
  simp [Function.comp]

variable [AddMonoid R] [Mul R] [Neg R] [SignRing R]
open Lazy (sgnI)

/-- `a'` is `a` transposed by `p` in the value view (as `FermionicArray.transpose` produces it) -/
structure TransOf (a a' : Arr R) (p : List Nat) : Prop where
  sym : a'.sym = a.sym
  sectors : a'.sectors = a.sectors.map (fun s => permuted s p)
  indices : a'.indices = permuted a.indices p
  elem : ∀ s ∈ a.sectors, ∀ off, inBox (Arr.blockShapeD a.indices s) off = true →
    a'.elem (permuted s p) (permuted off p) = sgnI (koszul (a.parities s) (some p)) (a.elem s off)

theorem transOf_transposeF (a : Arr R) (p : List Nat) (ha : a.validB = true) (hfa : a.fermi = true)
    (hp : Arr.isPerm p a.ndim = true) : TransOf a (a.transposeF p) p := by
  have fa := Lazy.Full.of_valid ha hfa
  have hsa := Arr.shapesOk_of_validB ha
  exact ⟨rfl, Lazy.transposeF_sectors (fa.trOk hp), rfl,
    fun _ hs _ hoff => transposeF_elem_at (fa.trOk hp) hsa hs hoff⟩

theorem contractPair_pre (a a' b : Arr R) (p xa xa' q xb : List Nat)
    (hsa : a.shapesOk) (hsb : b.shapesOk) (hT : PreT a.ndim p xa xa' q) (T : TransOf a a' p)
    (s : Sector) (oL oR : List Nat) (hoL : oL.length = (freeAxes a.ndim xa).length)
    (ho : inBox (Arr.blockShapeD (without a.indices xa ++ without b.indices xb) s) (oL ++ oR) = true)
    (sa sb : Sector)
    (hp : (sa, sb) ∈ storedPairs a b (freeAxes a.ndim xa) xa xb (freeAxes b.ndim xb) s) :
    contractPair a' b xa' xb (permuted oL q) oR (permuted sa p, sb)
      = sgnI (koszul (a.parities sa) (some p)) (contractPair a b xa xb oL oR (sa, sb)) := by
  obtain ⟨hsa', _, _, _⟩ := mem_storedPairs.mp hp
  obtain ⟨shpA, hA1, hA2, hA3, hA4⟩ := shape_of_mem hsa hsa'
  have hfree := (free_boxes hsa hsb hp hoL ho).1
  rw [hA2] at hfree
  have hnd : a'.ndim = a.ndim := by
    show a'.indices.length = _
    rw [T.indices]; exact hT.lenT a.indices rfl
  have hplt : ∀ x ∈ p, x < a.indices.length := hT.plt
  have hbox : permuted (Arr.blockShapeD a'.indices (permuted sa p)) xa' = permuted shpA xa := by
    rw [T.indices, Arr.blockShapeD, blockShape?_permuted hA1 _ hplt]
    exact hT.ax shpA hA3
  unfold contractPair
  rw [hbox, hA2, ← sgnI_sum]
  congr 1
  apply List.map_congr_left
  intro k hk
  have hkbox : inBox (permuted shpA xa) k = true := mem_allIdx.mp hk
  have hklen : k.length = xa.length := by
    rw [inBox_length hkbox, permuted_length _ _ (by intro x hx; rw [hA3]; exact hT.ltA x hx)]
  unfold contractTerm
  have hleftlt : ∀ x ∈ freeAxes a.ndim xa, x < a.ndim := mem_freeAxes_lt
  have hM : inBox shpA (mergeIdx 0 a.ndim xa (freeAxes a.ndim xa) k oL) = true := by
    have := inBox_mergeIdx (shape := shpA) (axes := xa) (k := k) (f := oL)
      (by intro x hx; rw [hA3]; exact hT.ltA x hx) hkbox (by rw [hA3]; exact hfree)
    rwa [hA3] at this
  have hml : (mergeIdx 0 a.ndim xa (freeAxes a.ndim xa) k oL).length = a.ndim := mergeIdx_length _ _ _ _ _ _
  have hMperm : mergeIdx 0 a'.ndim xa' (freeAxes a'.ndim xa') k (permuted oL q)
      = permuted (mergeIdx 0 a.ndim xa (freeAxes a.ndim xa) k oL) p := by
    rw [hnd]
    have e1 := hT.ax (mergeIdx 0 a.ndim xa (freeAxes a.ndim xa) k oL) hml
    have e2 := hT.free (mergeIdx 0 a.ndim xa (freeAxes a.ndim xa) k oL) hml
    rw [permuted_mergeIdx_axes 0 hT.nA hT.ltA hklen] at e1
    rw [permuted_mergeIdx_free 0 (freeAxes_nodup _ _) hleftlt
      (fun x hx => (mem_freeAxes.mp hx).2) hoL] at e2
    have := mergeIdx_permuted 0
      (x := permuted (mergeIdx 0 a.ndim xa (freeAxes a.ndim xa) k oL) p)
      (n := a.ndim) (axes := xa') (free := freeAxes a.ndim xa')
      (hT.lenT _ hml) hT.ltA' mem_freeAxes_lt
      (by
        intro y hy
        by_cases h : y ∈ xa'
        · exact Or.inl h
        · exact Or.inr (mem_freeAxes.mpr ⟨hy, h⟩))
    rw [e1, e2] at this
    exact this
  rw [hMperm, T.elem sa hsa' _ (by rw [hA2]; exact hM), sgnI_mul_l (Lazy.koszul_pm _ _)]

omit [AddMonoid R] [Mul R] [Neg R] [SignRing R] in
theorem ketOdd_pre (a a' : Arr R) (p xa xa' q : List Nat) (hT : PreT a.ndim p xa xa' q)
    (hsym : a'.sym = a.sym) (hidx : a'.indices = permuted a.indices p)
    (sa : Sector) (hla : sa.length = a.ndim) :
    ketOdd a' xa' (permuted sa p) = ketOdd a xa sa := by
  unfold ketOdd
  have hxa : xa = xa'.map (fun ax => p.getD ax 0) := by
    rw [← hT.hx, permuted_eq_map p xa' (by rw [hT.plen]; exact hT.ltA') 0]
  rw [hidx, hsym]
  conv => rhs; rw [hxa]
  simp only [List.filter_map, List.length_map, List.filter_filter]
  congr 1
  apply List.filter_congr
  intro ax hax
  have haxp : ax < p.length := by rw [hT.plen]; exact hT.ltA' ax hax
  simp only [Function.comp]
  rw [getD_permuted_ax a.indices p hT.plt ax haxp, getD_permuted_ax sa p (by rw [hla]; exact hT.plt) ax haxp]

omit [AddMonoid R] [Mul R] [Neg R] [SignRing R] in
theorem gradedSign_pre (a a' b : Arr R) (p xa xa' q xb : List Nat) (hT : PreT a.ndim p xa xa' q)
    (hsym : a'.sym = a.sym) (hidx : a'.indices = permuted a.indices p)
    (sa sb : Sector) (hla : sa.length = a.ndim) :
    gradedSign a' b xa' xb (permuted sa p) sb * koszul (a.parities sa) (some p)
      = gradedSign a b xa xb sa sb
        * koszul ((permuted sa (freeAxes a.ndim xa)).map a.sym.parity) (some q) := by
  have hnd : a'.ndim = a.ndim := by
    show a'.indices.length = _
    rw [hidx]; exact hT.lenT a.indices rfl
  have hpa : (a.parities sa).length = a.ndim := by unfold Arr.parities; rw [List.length_map, hla]
  have hpar' : a'.parities (permuted sa p) = permuted (a.parities sa) p := by
    unfold Arr.parities; rw [hsym, permuted_map]
  have hodd : oddContracted a' xa' (permuted sa p) = oddContracted a xa sa := by
    unfold oddContracted; rw [hT.ax sa hla, hsym]
  have hco := koszul_cocycle' (a.parities sa) p (freeAxes a.ndim xa' ++ xa') a.ndim hpa hT.hp
    (perm_left hT.nA' hT.ltA')
  have hcomp : compose p (freeAxes a.ndim xa' ++ xa') = permuted (freeAxes a.ndim xa) q ++ xa := by
    unfold compose
    rw [permuted_append, hT.hx, hT.hL]
  rw [hcomp, koszul_relist_fst _ a.ndim hpa _ xa q (perm_left hT.nA hT.ltA) hT.hq] at hco
  have hfreepar : permuted (a.parities sa) (freeAxes a.ndim xa)
      = (permuted sa (freeAxes a.ndim xa)).map a.sym.parity := by
    unfold Arr.parities; rw [permuted_map]
  unfold gradedSign
  rw [hnd, hpar', hodd, ketOdd_pre a a' p xa xa' q hT hsym hidx sa hla, ← hfreepar]
  have hk1 := Lazy.koszul_pm (a.parities sa) (some p)
  generalize koszul (a.parities sa) (some p) = t at hco hk1 ⊢
  generalize koszul (permuted (a.parities sa) p) (some (freeAxes a.ndim xa' ++ xa')) = u at hco ⊢
  have hu : u = t * (koszul (a.parities sa) (some (freeAxes a.ndim xa ++ xa))
      * koszul (permuted (a.parities sa) (freeAxes a.ndim xa)) (some q)) := by
    rcases hk1 with rfl | rfl
    · rw [hco]; ring
    · rw [hco]; ring
  rw [hu]
  rcases hk1 with rfl | rfl <;> ring

/-- **S6, specification level.**  Contracting the pre-transposed operand gives, at the address
    whose left free part is re-listed along `q`, the original graded contraction times the
    Koszul sign of `q` on the parities of the left free charges. -/
theorem gradedContract_pre (a a' b : Arr R) (p xa xa' q xb : List Nat)
    (hsa : a.shapesOk) (hsb : b.shapesOk) (hT : PreT a.ndim p xa xa' q) (T : TransOf a a' p)
    (L Rr : Sector) (hL : L.length = (freeAxes a.ndim xa).length)
    (oL oR : List Nat) (hoL : oL.length = (freeAxes a.ndim xa).length)
    (ho : inBox (Arr.blockShapeD (without a.indices xa ++ without b.indices xb) (L ++ Rr))
      (oL ++ oR) = true) :
    gradedContract a' b xa' xb (permuted L q ++ Rr) (permuted oL q) oR
      = sgnI (koszul (L.map a.sym.parity) (some q)) (gradedContract a b xa xb (L ++ Rr) oL oR) := by
  have hnd : a'.ndim = a.ndim := by
    show a'.indices.length = _
    rw [T.indices]; exact hT.lenT a.indices rfl
  unfold gradedContract
  rw [storedPairs_pre a a' b p xa xa' q xb hsa hT T.sectors hnd L Rr hL, List.map_map, ← sgnI_sum]
  congr 1
  apply List.map_congr_left
  rintro ⟨sa, sb⟩ hp
  obtain ⟨m1, m2, m3, m4⟩ := mem_storedPairs.mp hp
  have hla := Arr.sector_length hsa m1
  simp only [Function.comp]
  rw [contractPair_pre a a' b p xa xa' q xb hsa hsb hT T (L ++ Rr) oL oR hoL ho sa sb hp,
    sgnI_comp (gradedSign_pm _ _ _ _ _ _) (Lazy.koszul_pm _ _),
    sgnI_comp (Lazy.koszul_pm _ _) (gradedSign_pm _ _ _ _ _ _),
    gradedSign_pre a a' b p xa xa' q xb hT T.sym T.indices sa sb hla]
  have hLeq : permuted sa (freeAxes a.ndim xa) = L := by
    have hl1 : (permuted sa (freeAxes a.ndim xa)).length = L.length := by
      rw [permuted_length _ _ (by intro x hx; rw [hla]; exact (mem_freeAxes.mp hx).1), hL]
    exact (List.append_inj m4 hl1).1
  rw [hLeq, Int.mul_comm]

end s6spec

section s6
variable {R : Type}

theorem blockShape?_split {ixs ixs' : List Index} {s s' : Sector} {shp : List Nat}
    (hl : s.length = ixs.length) (h : Arr.blockShape? (ixs ++ ixs') (s ++ s') = some shp) :
    Arr.blockShape? ixs s = some (shp.take ixs.length)
      ∧ Arr.blockShape? ixs' s' = some (shp.drop ixs.length) := by
  obtain ⟨h1, h2⟩ := (blockShape?_eq_some_iff _ _ _).mp h
  rw [List.zipWith_append hl.symm] at h2
  have hsl := blockShape?_length h
  simp only [List.length_append] at h1 hsl
  have hs : shp.map some = (shp.take ixs.length).map some ++ (shp.drop ixs.length).map some := by
    rw [← List.map_append, List.take_append_drop]
  rw [hs] at h2
  have hlen : (List.zipWith (fun (ix : Index) c => ix.sizeOf? c) ixs s).length
      = ((shp.take ixs.length).map some).length := by
    simp only [List.length_zipWith, List.length_map, List.length_take]; omega
  obtain ⟨e1, e2⟩ := List.append_inj h2 hlen
  exact ⟨(blockShape?_eq_some_iff _ _ _).mpr ⟨hl.symm, e1⟩,
    (blockShape?_eq_some_iff _ _ _).mpr ⟨by omega, e2⟩⟩

theorem box_pre (a a' b : Arr R) (p xa xa' q xb : List Nat) (hT : PreT a.ndim p xa xa' q)
    (hidx : a'.indices = permuted a.indices p)
    (L Rr : Sector) (hL : L.length = (freeAxes a.ndim xa).length)
    (oL oR : List Nat) (hoL : oL.length = (freeAxes a.ndim xa).length)
    (ho : inBox (Arr.blockShapeD (without a.indices xa ++ without b.indices xb) (L ++ Rr))
      (oL ++ oR) = true) :
    inBox (Arr.blockShapeD (without a'.indices xa' ++ without b.indices xb) (permuted L q ++ Rr))
      (permuted oL q ++ oR) = true := by
  have hnd : a'.ndim = a.ndim := by
    show a'.indices.length = _
    rw [hidx]; exact hT.lenT a.indices rfl
  have hleftlt : ∀ x ∈ freeAxes a.ndim xa, x < a.indices.length := mem_freeAxes_lt
  have hIL : (without a.indices xa).length = (freeAxes a.ndim xa).length := without_length _ _
  have hw : without a'.indices xa' = permuted (without a.indices xa) q := by
    rw [without_eq_permuted_freeAxes, without_eq_permuted_freeAxes]
    have : a'.indices.length = a.ndim := hnd
    rw [this, hidx]
    exact hT.free a.indices rfl
  have hqlt : ∀ i ∈ q, i < (freeAxes a.ndim xa).length := mem_lt_of_perm hT.hq
  rw [hw]
  cases hbs : Arr.blockShape? (without a.indices xa ++ without b.indices xb) (L ++ Rr) with
  | none =>
    -- the box is empty: no free axes on the left at all
    have ho0 := ho
    rw [Arr.blockShapeD, hbs] at ho
    have hnil : oL ++ oR = [] := by
      have := inBox_length ho; simpa using this
    have hoLnil : oL = [] := (List.append_eq_nil_iff.mp hnil).1
    have h0 : (freeAxes a.ndim xa).length = 0 := by rw [← hoL, hoLnil]; rfl
    have hqnil : q = [] := by
      have := hT.hq.length_eq; rw [h0] at this; simpa using this
    have hLnil : L = [] := List.length_eq_zero_iff.mp (by rw [hL, h0])
    subst hqnil hLnil hoLnil
    have hILnil : without a.indices xa = [] := List.length_eq_zero_iff.mp (by rw [hIL, h0])
    rw [hILnil] at ho0 ⊢
    exact ho0
  | some shp =>
    rw [Arr.blockShapeD, hbs] at ho
    obtain ⟨s1, s2⟩ := blockShape?_split (by rw [hL, hIL]) hbs
    have hsl := blockShape?_length s1
    have hshp : shp = shp.take (without a.indices xa).length ++ shp.drop (without a.indices xa).length :=
      (List.take_append_drop _ _).symm
    have ho' : inBox (shp.take (without a.indices xa).length ++ shp.drop (without a.indices xa).length)
        (oL ++ oR) = true := by rw [← hshp]; exact ho
    rw [inBox_append (by rw [hoL, hsl.2, hIL])] at ho'
    simp only [Bool.and_eq_true] at ho'
    have hq' : q.Perm (List.range (without a.indices xa).length) := by rw [hIL]; exact hT.hq
    have s1' := blockShape?_permuted s1 q (by rw [hIL]; exact hqlt)
    rw [Arr.blockShapeD, blockShape?_append s1' s2]
    show inBox (permuted _ q ++ _) _ = true
    rw [inBox_append (by
      rw [permuted_length _ _ (by rw [hoL]; exact hqlt),
        permuted_length _ _ (by rw [hsl.2, hIL]; exact hqlt)])]
    simp only [Bool.and_eq_true]
    exact ⟨KoszulP.inBox_permuted _ oL q _ (by rw [hsl.2]; exact hq') rfl ho'.1, ho'.2⟩

theorem _root_.SymmModel.Assoc5P.commonB_pre {a a' b : Arr R} {p xa xa' q xb : List Nat}
    (hc : contractibleCommonB a b xa xb = true) (hT : PreT a.ndim p xa xa' q)
    (hidx : a'.indices = permuted a.indices p) :
    contractibleCommonB a' b xa' xb = true := by
  refine commonB_prune_left (a := a) (xa := xa) hT.len ?_ hc
  intro j hj3
  have hj1 : j < xa'.length := by rw [hT.len]; exact hj3
  have hax : xa'[j] < p.length := by rw [hT.plen]; exact hT.ltA' _ (List.getElem_mem hj1)
  have hxj : p.getD xa'[j] 0 = xa.getD j 0 := by
    have h1 := congrArg (fun l => l[j]?) hT.hx
    simp only [permuted_getElem? p xa' (by rw [hT.plen]; exact hT.ltA'), List.getElem?_eq_getElem hj1,
      Option.bind_some, List.getElem?_eq_getElem hj3, List.getElem?_eq_getElem hax] at h1
    rw [List.getD_eq_getElem?_getD, List.getD_eq_getElem?_getD, List.getElem?_eq_getElem hax,
      List.getElem?_eq_getElem hj3]
    simpa using h1
  have e : xa'.getD j 0 = xa'[j] := by
    rw [List.getD_eq_getElem?_getD, List.getElem?_eq_getElem hj1]; rfl
  rw [e, hidx, getD_permuted_ax a.indices p hT.plt _ hax, hxj]
  exact Pruned.refl _

variable [AddMonoid R] [Mul R] [Neg R] [SignRing R]
open Lazy (sgnI)

theorem _root_.SymmModel.Assoc5P.admW_pre {a b : Arr R} {p xa xa' q xb : List Nat} (h : AdmW a b xa xb)
    (hp : Arr.isPerm p a.ndim = true) (hT : PreT a.ndim p xa xa' q) :
    AdmW (a.transposeF p) b xa' xb := by
  have hnd : (a.transposeF p).ndim = a.ndim := hT.lenT a.indices rfl
  refine ⟨(ValidP.validB_iff _).mpr (ValidP.transposeF_valid a p true ((ValidP.validB_iff a).mp h.va)
    h.fa hp), h.vb, h.fa, h.fb, h.sym, Assoc5P.commonB_pre h.con hT rfl, hT.nA', h.nB, ?_, h.ltB⟩
  rw [hnd]; exact hT.ltA'

/-- **S6** (blockwise mode, weak guard).  Transposing the left operand first (and renumbering the
    contracted axes) gives a result with the same labels, charge, `sym` and `fermi` whose value, at
    every in-box address with the left free part re-listed along the induced permutation `q`, is the
    original value times the Koszul sign of `q` on the parities of the left free charges — the sign of
    the transposition `q ++ id` of the result (`C04.pretranspose_sign_is_transpose_sign`); the
    statement is address by address, not an `ObsEq` with `transposeF c (q ++ id)` (see Props/C04b). -/
theorem _root_.SymmModel.Assoc5P.tdotF_pretranspose_w (a b c : Arr R) (p xa xa' q xb : List Nat)
    (h : AdmW a b xa xb)
    (hp : Arr.isPerm p a.ndim = true) (hT : PreT a.ndim p xa xa' q)
    (hc : a.tensordotF b (.pair (xa.map Int.ofNat) (xb.map Int.ofNat)) .blockwise = .ok c) :
    ∃ c', (a.transposeF p).tensordotF b (.pair (xa'.map Int.ofNat) (xb.map Int.ofNat)) .blockwise = .ok c'
      ∧ c'.oddpos = c.oddpos ∧ c'.charge = c.charge ∧ c'.sym = c.sym ∧ c'.fermi = c.fermi
      ∧ ∀ (L Rr : Sector) (oL oR : List Nat), L.length = (freeAxes a.ndim xa).length →
          oL.length = (freeAxes a.ndim xa).length →
          inBox (Arr.blockShapeD (without a.indices xa ++ without b.indices xb) (L ++ Rr))
            (oL ++ oR) = true →
          c'.elem (permuted L q ++ Rr) (permuted oL q ++ oR)
            = sgnI (koszul (L.map a.sym.parity) (some q)) (c.elem (L ++ Rr) (oL ++ oR)) := by
  have h' := Assoc5P.admW_pre h hp hT
  have hsa := Arr.shapesOk_of_validB h.va
  have hsb := Arr.shapesOk_of_validB h.vb
  have T := transOf_transposeF a p h.va h.fa hp
  have hnd : (a.transposeF p).ndim = a.ndim := hT.lenT a.indices rfl
  obtain ⟨out, ph, C⟩ := Call.of_ok h hc
  obtain ⟨c', e', C'⟩ := Call.of_merge (a := a.transposeF p) h' C.merge
  refine ⟨c', e', C'.oddpos.trans C.oddpos.symm, by rw [C'.charge, C.charge]; rfl,
    by rw [C'.sym, C.sym]; rfl, by rw [C'.fermi, C.fermi], ?_⟩
  intro L Rr oL oR hL hoL ho
  have ho' := box_pre a (a.transposeF p) b p xa xa' q xb hT rfl L Rr hL oL oR hoL ho
  have hoL' : (permuted oL q).length = (freeAxes (a.transposeF p).ndim xa').length := by
    rw [hnd, hT.freeLen, permuted_length _ _ (by rw [hoL]; exact mem_lt_of_perm hT.hq),
      hT.hq.length_eq, List.length_range]
  rw [C'.elem _ _ _ hoL' ho', C.elem _ _ _ hoL ho,
    gradedContract_pre a (a.transposeF p) b p xa xa' q xb hsa hsb hT T L Rr hL oL oR hoL ho]
  -- the two signs commute
  unfold sgnI
  by_cases h1 : ph = -1 <;> by_cases h2 : koszul (L.map a.sym.parity) (some q) = -1 <;> simp [h1, h2]

end s6

end RoutesP
end SymmModel
