/-
  SymmModel.Proofs.NormNet20 — network form of the norm (property C10), part 20:
  the six bracketings B1, B2, S1–S4 with EVERY call in its own mode (blockwise / fused / auto).
-/
import SymmModel.Proofs.NormNet19
namespace SymmModel.NormNet
open SymmModel SymmModel.Lazy SymmModel.Norm SymmModel.TdotP SymmModel.GradedP SymmModel.RoutesP
open SymmModel.AssocP

section final
variable {R : Type} [AddCommMonoid R] [Mul R] [Neg R] [Conj R] [NetLaws R] [AssocLaws R]

/-- the six bracketings of the norm network with the two halves computed in modes `mK`, `mKb` and the
    `i`-th of the remaining ten calls in mode `md i` -/
def Bracketings6M (a b : Arr R) (xa xb : List Nat) (mK mKb : TdotMode) (md : Nat → TdotMode) : Prop :=
  ∃ K Km Kbm, a.tensordotF b (.pair (xa.map Int.ofNat) (xb.map Int.ofNat)) .blockwise = .ok K
    ∧ a.tensordotF b (.pair (xa.map Int.ofNat) (xb.map Int.ofNat)) mK = .ok Km
    ∧ (braOf a xa).tensordotF (braOf b xb) (.pair (xa.map Int.ofNat) (xb.map Int.ofNat)) mKb = .ok Kbm
    -- B1, B2
    ∧ (∃ r, Kbm.tensordotF Km (allAxes K.ndim) (md 0) = .ok r
        ∧ r.ndim = 0 ∧ r.oddpos = [] ∧ r.elem [] [] = normSq K)
    ∧ (∃ r, Km.tensordotF Kbm (allAxes K.ndim) (md 1) = .ok r
        ∧ r.ndim = 0 ∧ r.oddpos = [] ∧ r.elem [] [] = normSq' K)
    -- S1  ((ā·b̄)·a)·b
    ∧ (∃ T c, Kbm.tensordotF a (.pair ((List.range (freeAxes a.ndim xa).length).map Int.ofNat)
          ((freeAxes a.ndim xa).map Int.ofNat)) (md 2) = .ok T
      ∧ T.tensordotF b (.pair ((axesTW a.ndim b.ndim xa xb).map Int.ofNat)
          ((freeAxes b.ndim xb ++ xb).map Int.ofNat)) (md 3) = .ok c
      ∧ c.ndim = 0 ∧ c.oddpos = [] ∧ c.elem [] [] = normSq K)
    -- S2  ā·(b̄·(a·b))
    ∧ (∃ T c, (braOf b xb).tensordotF Km (.pair ((freeAxes b.ndim xb).map Int.ofNat)
          (((List.range (freeAxes b.ndim xb).length).map ((freeAxes a.ndim xa).length + ·)).map
            Int.ofNat)) (md 4) = .ok T
      ∧ (braOf a xa).tensordotF T (.pair ((xa ++ freeAxes a.ndim xa).map Int.ofNat)
          ((axesTWr a.ndim b.ndim xa xb).map Int.ofNat)) (md 5) = .ok c
      ∧ c.ndim = 0 ∧ c.oddpos = [] ∧ c.elem [] [] = normSq K)
    -- S3  ((a·b)·ā)·b̄
    ∧ (∃ T c, Km.tensordotF (braOf a xa) (.pair ((List.range (freeAxes a.ndim xa).length).map Int.ofNat)
          ((freeAxes a.ndim xa).map Int.ofNat)) (md 6) = .ok T
      ∧ T.tensordotF (braOf b xb) (.pair ((axesTW a.ndim b.ndim xa xb).map Int.ofNat)
          ((freeAxes b.ndim xb ++ xb).map Int.ofNat)) (md 7) = .ok c
      ∧ c.ndim = 0 ∧ c.oddpos = [] ∧ c.elem [] [] = normSq' K)
    -- S4  a·(b·(ā·b̄))
    ∧ (∃ T c, b.tensordotF Kbm (.pair ((freeAxes b.ndim xb).map Int.ofNat)
          (((List.range (freeAxes b.ndim xb).length).map ((freeAxes a.ndim xa).length + ·)).map
            Int.ofNat)) (md 8) = .ok T
      ∧ a.tensordotF T (.pair ((xa ++ freeAxes a.ndim xa).map Int.ofNat)
          ((axesTWr a.ndim b.ndim xa xb).map Int.ofNat)) (md 9) = .ok c
      ∧ c.ndim = 0 ∧ c.oddpos = [] ∧ c.elem [] [] = normSq' K)

theorem network_norm_bracketings6M (a b : Arr R) (xa xb : List Nat)
    (ha : a.validB = true) (hb : b.validB = true) (hfa : a.fermi = true) (hfb : b.fermi = true)
    (hadm : ValidP.tdotAdmissibleB a b xa xb = true)
    (hoA : KetLabels a.oddpos) (hoB : KetLabels b.oddpos)
    (hd : (a.oddpos ++ b.oddpos).Pairwise (fun x y => x.1 ≠ y.1))
    (mK mKb : TdotMode) (md : Nat → TdotMode) : Bracketings6M a b xa xb mK mKb md := by
  have hz1 : ∀ x : R, 0 * x = 0 := AssocLaws.zero_mul
  have hz2 : ∀ x : R, x * 0 = 0 := AssocLaws.mul_zero
  obtain ⟨K, Kb, r0, r0', S⟩ := net_setup a b xa xb ha hb hfa hfb hadm hoA hoB hd
  have h := Adm.of ha hb hfa hfb hadm
  have hB := braOf_adm h
  obtain ⟨Kbm, e2, H1⟩ := HalfPair.of_call hz1 hz2 (p := a) (q := b) (AdmW.ofAdm hB)
    (braOf_sym a xa) (braOf_without a b xa xb) S.eKb mKb
  obtain ⟨Km, e1, H2⟩ := HalfPair.of_call hz1 hz2 (p := braOf a xa) (q := braOf b xb) (AdmW.ofAdm h)
    (braOf_sym a xa).symm (by rw [braOf_without, Lazy.Index.map_conj_conj]) S.eK mK
  have HK := H2.half
  rw [braOf_without, Lazy.Index.map_conj_conj] at HK
  obtain ⟨B1, B2⟩ := halves_final_any hz1 hz2 ha hb S.toHalves HK H1.half (S.Kbs.trans S.Ks.symm)
    (md 0) (md 1)
  obtain ⟨⟨T1, c1, a1, a2, a3, a4, a5⟩, ⟨T2, c2, b1, b2, b3, b4, b5⟩, ⟨T3, c3, d1, d2, d3, d4, d5⟩,
    ⟨T4, c4, f1, f2, f3, f4, f5⟩⟩ := sequential_of_setup ha hb hfa hfb hadm S
  refine ⟨K, Km, Kbm, S.eK, e1, e2, B1, B2, ?_, ?_, ?_, ?_⟩
  · obtain ⟨Tm, cm, g1, g2, g3, g4, g5⟩ := tw_left_any hz1 hz2 a b Kb Kbm T1 c1 xa xb ha hb hfa hfb
      hadm H1 a1 a2 a3 (md 2) (md 3)
    exact ⟨Tm, cm, g1, g2, g3, g4.trans a4, g5.trans a5⟩
  · obtain ⟨Tm, cm, g1, g2, g3, g4, g5⟩ := tw_right_any hz1 hz2 (braOf a xa) (braOf b xb) K Km T2 c2
      xa xb hB.va hB.vb hB.fa hB.fb (admB_of_adm hB) H2
      (by simpa only [braOf_ndim] using b1) (by simpa only [braOf_ndim] using b2) b3 (md 4) (md 5)
    simp only [braOf_ndim] at g1 g2
    exact ⟨Tm, cm, g1, g2, g3, g4.trans b4, g5.trans b5⟩
  · obtain ⟨Tm, cm, g1, g2, g3, g4, g5⟩ := tw_left_any hz1 hz2 (braOf a xa) (braOf b xb) K Km T3 c3
      xa xb hB.va hB.vb hB.fa hB.fb (admB_of_adm hB) H2
      (by simpa only [braOf_ndim] using d1) (by simpa only [braOf_ndim] using d2) d3 (md 6) (md 7)
    simp only [braOf_ndim] at g1 g2
    exact ⟨Tm, cm, g1, g2, g3, g4.trans d4, g5.trans d5⟩
  · obtain ⟨Tm, cm, g1, g2, g3, g4, g5⟩ := tw_right_any hz1 hz2 a b Kb Kbm T4 c4 xa xb ha hb hfa hfb
      hadm H1 f1 f2 f3 (md 8) (md 9)
    exact ⟨Tm, cm, g1, g2, g3, g4.trans f4, g5.trans f5⟩

end final

end SymmModel.NormNet
