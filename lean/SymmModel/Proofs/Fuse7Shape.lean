/-
  SymmModel.Proofs.Fuse7Shape — the leaf shape of a list of choices for the levels of the groups, explicitly:
  the fused shape with the size of the chosen sub-sector on every multi-axis group axis.
-/
import SymmModel.Proofs.Fuse7Rec
namespace SymmModel
namespace FuseP
set_option linter.unusedSectionVars false

variable {R : Type} [Zero R]

section
variable {a : Arr R} {groups : List (List Nat)}

theorem pieceShape_full (ns : Sector) (b : List Nat) (qs : List (Sector × Nat)) (hb : b.length = ndimM a groups)
    (hq : qs.length = groups.length) :
    pieceShape (lvFrom a groups ns 0 groups.length) b qs
      = (List.range (ndimM a groups)).map (fun ax =>
          if axMulti a groups ax then (qs.getD (ax - (giM a groups).position) ([], 0)).2 else b.getD ax 0) := by
  obtain ⟨c1, c2, c3⟩ := pieceShape_getD (lvFrom a groups ns 0 groups.length) b qs (lvDistinct_lvFrom ns _ _)
    (by rw [hq, lvFrom_length])
  apply List.ext_getElem (by rw [c1, hb]; simp)
  intro ax h1 h2
  have hax : ax < ndimM a groups := by simpa using h2
  have hg : (pieceShape (lvFrom a groups ns 0 groups.length) b qs)[ax]
      = (pieceShape (lvFrom a groups ns 0 groups.length) b qs).getD ax 0 := by
    rw [List.getD_eq_getElem?_getD, List.getElem?_eq_getElem h1]; rfl
  rw [List.getElem_map, List.getElem_range, hg]
  by_cases hm : axMulti a groups ax = true
  · simp only [axMulti, Bool.and_eq_true, decide_eq_true_eq] at hm
    obtain ⟨⟨h3, h4⟩, h5⟩ := hm
    rw [if_pos (by simp only [axMulti, Bool.and_eq_true, decide_eq_true_eq]; exact ⟨⟨h3, h4⟩, h5⟩)]
    refine c2 (ax - (giM a groups).position) ax (extM a groups ns (ax - (giM a groups).position)) ?_ (by omega)
    rw [lvFrom_getElem?, if_pos (by omega), Nat.zero_add, lvlM, if_pos h5]
    congr 2; omega
  · rw [if_neg hm]
    refine c3 ax fun e he => hm ?_
    obtain ⟨t, ht, hl⟩ := mem_lvFrom he
    obtain ⟨hmt, rfl, _⟩ := lvlM_multi hl.symm
    simp only [axMulti, Bool.and_eq_true, decide_eq_true_eq, Nat.zero_add] at hmt ⊢
    exact ⟨⟨by omega, by omega⟩, by rw [Nat.add_sub_cancel_left]; exact hmt⟩

end

end FuseP
end SymmModel
