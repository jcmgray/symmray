/-
  SymmModel.Proofs.NormNet8 — network form of the norm (property C10), part 8:
  the fields of a contraction result under the documented guard, read off `AssocP.Call`.
-/
import SymmModel.Proofs.NormNet7
namespace SymmModel.NormNet
open SymmModel SymmModel.TdotP SymmModel.GradedP SymmModel.RoutesP
open SymmModel.AssocP
set_option linter.unusedSectionVars false

section fields
variable {R : Type} [AddMonoid R] [Mul R] [Neg R] [SignRing R]

theorem tdot_fields {a b K : Arr R} {xa xb : List Nat} (h : Adm a b xa xb)
    (eK : a.tensordotF b (.pair (xa.map Int.ofNat) (xb.map Int.ofNat)) .blockwise = .ok K) :
    K.sym = a.sym ∧ K.charge = a.sym.combine [a.charge, b.charge]
      ∧ ∃ ph, OddposP.mergeOddpos a.parity a.oddpos b.oddpos = .ok (K.oddpos, ph) := by
  obtain ⟨_, ph, C⟩ := Call.of_ok (.ofAdm h) eK
  exact ⟨C.sym, C.charge, ph, by rw [C.oddpos]; exact C.merge⟩

theorem tdot_sectors {a b K : Arr R} {xa xb : List Nat} (h : Adm a b xa xb)
    (eK : a.tensordotF b (.pair (xa.map Int.ofNat) (xb.map Int.ofNat)) .blockwise = .ok K) :
    K.sectors = (tdKeys a.sectors b.sectors (freeAxes a.ndim xa) xa xb (freeAxes b.ndim xb)).eraseDups
      ∧ K.indices = dropUnused (without a.indices xa ++ without b.indices xb) K.sectors := by
  obtain ⟨_, _, C⟩ := Call.of_ok (.ofAdm h) eK
  exact ⟨C.sectors, C.indices⟩

theorem tdot_indices_pruned {a b K : Arr R} {xa xb : List Nat} (h : Adm a b xa xb)
    (eK : a.tensordotF b (.pair (xa.map Int.ofNat) (xb.map Int.ofNat)) .blockwise = .ok K) :
    ∃ S, K.indices = dropUnused (without a.indices xa ++ without b.indices xb) S :=
  ⟨K.sectors, (tdot_sectors h eK).2⟩

end fields

end SymmModel.NormNet
