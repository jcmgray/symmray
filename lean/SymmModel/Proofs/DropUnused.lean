/-
  SymmModel.Proofs.DropUnused — `dropUnused` (Model/Tdot.lean; the `charges_drop` loops of
  `_tensordot_blockwise` and `drop_misaligned_sectors` in abelian_core.py) read index by index:
  `dropTo ix present` drops from `ix` the charges that are not in `present` (`dropUnused_eq`),
  together with the algebra of `Index.dropCharges` behind it.  Core Lean only, so that the
  validity proofs and the value proofs both rest on it.
-/
import SymmModel.Model.Tdot

namespace SymmModel

@[simp] theorem dropCharges_dual (i : Index) (cs : List Charge) : (i.dropCharges cs).dual = i.dual := by
  obtain ⟨cm, d, sub⟩ := i; rfl

theorem Index.dropCharges_nil (ix : Index) : ix.dropCharges [] = ix := by
  have hf : ∀ {α : Type} (l : List α), l.filter (fun _ => true) = l :=
    fun l => List.filter_eq_self.mpr (fun _ _ => rfl)
  obtain ⟨c, d, s⟩ := ix
  simp only [Index.dropCharges, List.contains_nil, Bool.not_false, hf]
  congr 1
  cases s <;> rfl

theorem Index.dropCharges_congr (ix : Index) {d1 d2 : List Charge} (h : ∀ c, c ∈ d1 ↔ c ∈ d2) :
    ix.dropCharges d1 = ix.dropCharges d2 := by
  have e : ∀ c : Charge, d1.contains c = d2.contains c := by
    intro c; rw [Bool.eq_iff_iff]; simpa using h c
  obtain ⟨c, d, s⟩ := ix
  simp only [Index.dropCharges, e]

theorem Index.dropCharges_dropCharges (ix : Index) (d1 d2 : List Charge) :
    (ix.dropCharges d1).dropCharges d2 = ix.dropCharges (d1 ++ d2) := by
  obtain ⟨c, d, s⟩ := ix
  simp only [Index.dropCharges, List.filter_filter, List.contains_append, Bool.not_or]
  congr 1
  · apply List.filter_congr; intro x _; rw [Bool.and_comm]
  · cases s with
    | none => rfl
    | some se =>
      simp only [Option.map_some, List.filter_filter]
      congr 2
      apply List.filter_congr; intro x _; rw [Bool.and_comm]

theorem Index.charges_dropCharges (ix : Index) (d : List Charge) :
    (ix.dropCharges d).charges = ix.charges.filter (fun c => !d.contains c) := by
  obtain ⟨c, dd, s⟩ := ix
  simp only [Index.dropCharges, Index.charges, Index.cm, List.filter_map]
  rfl

/-- per-index action of `dropUnused`, and of `Arr.syncCharges` (`sync_charges`), whose model text
    repeats the same body: drop the charges of `ix` that are not in `present` -/
def dropTo (ix : Index) (present : List Charge) : Index :=
  let drop := ix.charges.filter (fun c => !present.contains c)
  if drop.isEmpty then ix else ix.dropCharges drop

theorem dropUnused_eq (ixs : List Index) (S : List Sector) :
    dropUnused ixs S = ixs.zipIdx.map (fun p => dropTo p.1 (S.filterMap (fun s => s[p.2]?))) := rfl

@[simp] theorem dropUnused_length (ixs : List Index) (S : List Sector) :
    (dropUnused ixs S).length = ixs.length := by
  simp [dropUnused_eq]

theorem dropUnused_getElem? (ixs : List Index) (S : List Sector) (i : Nat) :
    (dropUnused ixs S)[i]? = ixs[i]?.map (fun ix => dropTo ix (S.filterMap (fun s => s[i]?))) := by
  rw [dropUnused_eq, List.getElem?_map, List.getElem?_zipIdx]
  cases ixs[i]? <;> simp

@[simp] theorem dropTo_dual (ix : Index) (S : List Charge) : (dropTo ix S).dual = ix.dual := by
  unfold dropTo; simp only; split <;> simp

theorem dropUnused_getD_dual (ixs : List Index) (S : List Sector) (i : Nat) :
    ((dropUnused ixs S).getD i default).dual = (ixs.getD i default).dual := by
  simp only [List.getD_eq_getElem?_getD, dropUnused_getElem?]
  cases ixs[i]? with
  | none => rfl
  | some ix => simp [dropTo_dual]

theorem dropUnused_duals (indices : List Index) (sectors : List Sector) :
    (dropUnused indices sectors).map Index.dual = indices.map Index.dual := by
  rw [dropUnused_eq, List.map_map]
  apply List.ext_getElem
  · simp
  · intro i h1 h2
    simp

theorem dropTo_eq_dropCharges (ix : Index) (S : List Charge) :
    dropTo ix S = ix.dropCharges (ix.charges.filter (fun c => !S.contains c)) := by
  unfold dropTo
  by_cases h : (ix.charges.filter (fun c => !S.contains c)).isEmpty
  · simp only [h, if_true]
    rw [List.isEmpty_iff.mp h, Index.dropCharges_nil]
  · simp only [h, Bool.false_eq_true, if_false]

theorem dropTo_dropTo (ix : Index) {S S' : List Charge} (h : ∀ c ∈ ix.charges, c ∈ S' → c ∈ S) :
    dropTo (dropTo ix S) S' = dropTo ix S' := by
  rw [dropTo_eq_dropCharges, dropTo_eq_dropCharges ix S, Index.dropCharges_dropCharges,
    dropTo_eq_dropCharges, Index.charges_dropCharges]
  apply Index.dropCharges_congr
  intro c
  simp only [List.mem_append, List.mem_filter, List.contains_eq_mem,
    decide_eq_false_iff_not, Bool.not_eq_eq_eq_not, Bool.not_true,
    not_and, Decidable.not_not]
  constructor
  · rintro (⟨hc, hS⟩ | ⟨⟨hc, _⟩, hS'⟩)
    · exact ⟨hc, fun h' => hS (h c hc h')⟩
    · exact ⟨hc, hS'⟩
  · rintro ⟨hc, hS'⟩
    by_cases hS : c ∈ S
    · exact Or.inr ⟨⟨hc, fun _ => hS⟩, hS'⟩
    · exact Or.inl ⟨hc, hS⟩

theorem dropTo_congr (ix : Index) {S S' : List Charge} (h : ∀ c ∈ ix.charges, c ∈ S ↔ c ∈ S') :
    dropTo ix S = dropTo ix S' := by
  rw [dropTo_eq_dropCharges, dropTo_eq_dropCharges]
  congr 1
  apply List.filter_congr
  intro c hc
  have := h c hc
  simp only [List.contains_eq_mem]
  rw [Bool.eq_iff_iff]; simp [this]

end SymmModel
