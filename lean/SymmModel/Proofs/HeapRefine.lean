/-
  SymmModel.Proofs.HeapRefine — the heap programs compute a pure function of the target's abstract
  content; `inplace_same_value` of Props/C14 rests on it.

  `Act.pure` / `Script.pure` are the value-level meaning of the in-place effects: they act on
  `Content × buffer table` and know nothing about object identity.  `runAct_refines` /
  `script_refines` show that, on a well-formed array object, the heap effects change the object's
  abstract content exactly as the pure function says, wherever the object lives in the heap.
  What else a running call may have written meanwhile is the ownership invariant `Inv` of HeapLemmas,
  threaded through the statements about scripts; a read-only array is framed by `Inv.wf_other`.
-/
import SymmModel.Proofs.HeapLemmas
namespace SymmModel.Heap

abbrev Bufs := List (Nat × List BufId)
abbrev PState := Content × Bufs

def buildEntriesP (bufs : Bufs) : List (Key × BufSrc) → Bufs × Dict
  | [] => (bufs, [])
  | (k, .old b) :: r => ((buildEntriesP bufs r).1, (k, (b : Int)) :: (buildEntriesP bufs r).2)
  | (k, .kern tag args) :: r =>
    ((buildEntriesP (bufs ++ [(tag, args)]) r).1,
     (k, (bufs.length : Int)) :: (buildEntriesP (bufs ++ [(tag, args)]) r).2)

def buildDictP (bufs : Bufs) (es : List (Key × BufSrc)) : Bufs × Dict :=
  ((buildEntriesP bufs es).1, (buildEntriesP bufs es).2.foldl (fun acc e => acc.set e.1 e.2) [])

/-- `modify(phases=d)` replaces the signs of an array that has a sign dict -/
def newPd (mp pd : Option Dict) : Option Dict :=
  match mp, pd with
  | some d, some _ => some d
  | _, _ => pd

def modifyP (m : Mods) (s : PState) : PState :=
  let qb : Bufs × Option Dict := match m.blocks with
    | some es => ((buildDictP s.2 es).1, some (buildDictP s.2 es).2)
    | none => (s.2, none)
  let np : Option Dict := newPd m.phases s.1.phases
  ({ indices := m.indices.getD s.1.indices, charge := m.charge.getD s.1.charge,
     blocks := qb.2.getD s.1.blocks, phases := np, oddpos := s.1.oddpos }, qb.1)

def Act.pure (a : Act) (s : PState) : PState :=
  match a with
  | .modify m => modifyP m s
  | .setOddpos v => ({ s.1 with oddpos := v }, s.2)
  | .bKern k tag args => ({ s.1 with blocks := s.1.blocks.set k (s.2.length : Int) }, s.2 ++ [(tag, args)])
  | .bPut k b => ({ s.1 with blocks := s.1.blocks.set k (b : Int) }, s.2)
  | .bPop k => ({ s.1 with blocks := s.1.blocks.pop k }, s.2)
  | .bUpdate src => ({ s.1 with blocks := s.1.blocks.update src }, s.2)
  | .pSet k v => ({ s.1 with phases := s.1.phases.map (fun l => l.set k v) }, s.2)
  | .pPop k => ({ s.1 with phases := s.1.phases.map (fun l => l.pop k) }, s.2)
  | .pPopItem => ({ s.1 with phases := s.1.phases.map Dict.popItem }, s.2)
  | .pClear => ({ s.1 with phases := s.1.phases.map (fun _ => []) }, s.2)
  | .pCopyThen f => ({ s.1 with phases := s.1.phases.map f }, s.2)

/-- a script that looks at nothing but its target -/
def Script.pure : Script → PState → PState
  | .nil, s => s
  | .acts as k, s => k.pure (as.foldl (fun s a => a.pure s) s)
  | .read f, s => (f s.1 []).pure s

/-- `x` is an array object `a` whose block dict holds `bd` and whose sign dict (a different object)
    holds `pd` -/
structure WFArr (h : Heap) (x : ObjId) (a : ArrObj) (bd : Dict) (pd : Option Dict) : Prop where
  arr : h.get? x = some (.arr a)
  blk : h.get? a.blocks = some (.dict bd)
  ph : ∀ p, a.phases = some p → ∃ d, pd = some d ∧ h.get? p = some (.dict d) ∧ p ≠ a.blocks
  phn : a.phases = none → pd = none

/-- the abstract content of an array object whose two dicts hold `bd` and `pd`: what `Heap.content h x`
    reads off a heap in which `WFArr h x a bd pd` holds (`WFArr.content`), written without the heap -/
def cont (a : ArrObj) (bd : Dict) (pd : Option Dict) : Content := ⟨a.indices, a.charge, bd, pd, a.oddpos⟩

theorem dictOf_of_get? {h : Heap} {d : DictId} {l : Dict} (hd : h.get? d = some (.dict l)) : h.dictOf d = l := by
  simp [Heap.dictOf, Heap.dictOf?, hd]

theorem WFArr.content {h : Heap} {x : ObjId} {a : ArrObj} {bd : Dict} {pd : Option Dict}
    (w : WFArr h x a bd pd) : content h x = some (cont a bd pd) := by
  simp only [Heap.content, arrOf_eq_some.mpr w.arr, cont, dictOf_of_get? w.blk]
  cases hp : a.phases with
  | none => simp [w.phn hp]
  | some p =>
    obtain ⟨d, rfl, hd, _⟩ := w.ph p hp
    simp [dictOf_of_get? hd]

theorem WFArr.ne {h : Heap} {x : ObjId} {a : ArrObj} {bd : Dict} {pd : Option Dict}
    (w : WFArr h x a bd pd) : a.blocks ≠ x := by
  intro e; have := w.blk; rw [e, w.arr] at this; cases this

theorem WFArr.ne_ph {h : Heap} {x : ObjId} {a : ArrObj} {bd : Dict} {pd : Option Dict}
    (w : WFArr h x a bd pd) {p : DictId} (hp : a.phases = some p) : p ≠ x := by
  intro e
  obtain ⟨d, _, hd, _⟩ := w.ph p hp
  rw [e, w.arr] at hd; cases hd

theorem get?_updDict_self {h : Heap} {d : DictId} {l : Dict} (hd : h.get? d = some (.dict l)) (f : Dict → Dict) :
    (updDict h d f).get? d = some (.dict (f l)) := by
  unfold updDict; rw [hd]; exact write_get?_eq h _ (get?_lt hd)

theorem get?_updDict_ne (h : Heap) {d i : ObjId} (hne : d ≠ i) (f : Dict → Dict) :
    (updDict h d f).get? i = h.get? i := by
  unfold updDict; split
  · exact write_get?_ne h _ hne
  · rfl

theorem get?_rebindField_self {h : Heap} {x : ObjId} {a : ArrObj} (hx : h.get? x = some (.arr a)) (f : Field) :
    (rebindField h x f).get? x = some (.arr (f.apply a)) := by
  unfold rebindField; rw [hx]; exact write_get?_eq h _ (get?_lt hx)

theorem get?_rebindField_ne (h : Heap) {x i : ObjId} (hne : x ≠ i) (f : Field) :
    (rebindField h x f).get? i = h.get? i := by
  unfold rebindField; split
  · exact write_get?_ne h _ hne
  · rfl

theorem wf_updBlocks {h : Heap} {x : ObjId} {a : ArrObj} {bd : Dict} {pd : Option Dict}
    (w : WFArr h x a bd pd) (f : Dict → Dict) : WFArr (updDict h a.blocks f) x a (f bd) pd := by
  refine ⟨?_, get?_updDict_self w.blk f, ?_, w.phn⟩
  · rw [get?_updDict_ne h w.ne]; exact w.arr
  · intro p hp
    obtain ⟨d, e, hd, hne⟩ := w.ph p hp
    exact ⟨d, e, by rw [get?_updDict_ne h (Ne.symm hne)]; exact hd, hne⟩

theorem wf_updPhases {h : Heap} {x : ObjId} {a : ArrObj} {bd : Dict} {d : Dict} {p : DictId}
    (w : WFArr h x a bd (some d)) (hp : a.phases = some p) (f : Dict → Dict) :
    WFArr (updDict h p f) x a bd (some (f d)) := by
  obtain ⟨d', e, hd, hne⟩ := w.ph p hp
  cases e
  refine ⟨?_, ?_, ?_, fun hn => by rw [hn] at hp; cases hp⟩
  · rw [get?_updDict_ne h (w.ne_ph hp)]; exact w.arr
  · rw [get?_updDict_ne h hne]; exact w.blk
  · intro q hq
    rw [hp] at hq; cases hq
    exact ⟨f d, rfl, get?_updDict_self hd f, hne⟩

theorem wf_objs {h h' : Heap} (e : h'.objs = h.objs) {x : ObjId} {a : ArrObj} {bd : Dict} {pd : Option Dict}
    (w : WFArr h x a bd pd) : WFArr h' x a bd pd := by
  have hg : ∀ i, h'.get? i = h.get? i := fun i => by simp [Heap.get?, e]
  exact ⟨by rw [hg]; exact w.arr, by rw [hg]; exact w.blk,
    fun p hp => let ⟨d, e1, hd, hne⟩ := w.ph p hp; ⟨d, e1, by rw [hg]; exact hd, hne⟩, w.phn⟩

theorem wf_ext {h h' : Heap} (e : Ext h h') {x : ObjId} {a : ArrObj} {bd : Dict} {pd : Option Dict}
    (w : WFArr h x a bd pd) : WFArr h' x a bd pd :=
  ⟨by rw [e.get? (get?_lt w.arr)]; exact w.arr, by rw [e.get? (get?_lt w.blk)]; exact w.blk,
   fun p hp => let ⟨d, e1, hd, hne⟩ := w.ph p hp; ⟨d, e1, by rw [e.get? (get?_lt hd)]; exact hd, hne⟩, w.phn⟩

theorem wf_rebind_scalar {h : Heap} {x : ObjId} {a : ArrObj} {bd : Dict} {pd : Option Dict}
    (w : WFArr h x a bd pd) (f : Field) (hb : (f.apply a).blocks = a.blocks) (hp : (f.apply a).phases = a.phases) :
    WFArr (rebindField h x f) x (f.apply a) bd pd := by
  refine ⟨get?_rebindField_self w.arr f, ?_, ?_, ?_⟩
  · rw [hb, get?_rebindField_ne h (Ne.symm w.ne)]; exact w.blk
  · intro p hq
    rw [hp] at hq
    obtain ⟨d, e1, hd, hne⟩ := w.ph p hq
    exact ⟨d, e1, by rw [get?_rebindField_ne h (Ne.symm (w.ne_ph hq))]; exact hd, by rw [hb]; exact hne⟩
  · intro hn; rw [hp] at hn; exact w.phn hn

theorem wf_rebind_phases {h : Heap} {x : ObjId} {a : ArrObj} {bd : Dict} {pd : Option Dict}
    (w : WFArr h x a bd pd) {d : DictId} {l : Dict} (hd : h.get? d = some (.dict l)) (hne : d ≠ a.blocks) :
    WFArr (rebindField h x (.phases d)) x { a with phases := some d } bd (some l) := by
  have hdx : x ≠ d := by intro e; rw [← e, w.arr] at hd; cases hd
  refine ⟨get?_rebindField_self w.arr _, ?_, ?_, fun hn => by cases hn⟩
  · show (rebindField h x (.phases d)).get? a.blocks = _
    rw [get?_rebindField_ne h (Ne.symm w.ne)]; exact w.blk
  · intro p hp
    cases hp
    exact ⟨l, rfl, by rw [get?_rebindField_ne h hdx]; exact hd, hne⟩

theorem wf_updOther {h : Heap} {x : ObjId} {a : ArrObj} {bd : Dict} {pd : Option Dict}
    (w : WFArr h x a bd pd) {d : DictId} (h1 : d ≠ x) (h2 : d ≠ a.blocks)
    (h3 : ∀ p, a.phases = some p → d ≠ p) (f : Dict → Dict) : WFArr (updDict h d f) x a bd pd :=
  ⟨by rw [get?_updDict_ne h h1]; exact w.arr, by rw [get?_updDict_ne h h2]; exact w.blk,
   fun p hp => let ⟨d', e1, hd, hne⟩ := w.ph p hp
     ⟨d', e1, by rw [get?_updDict_ne h (h3 p hp)]; exact hd, hne⟩, w.phn⟩

theorem onPhases_refines {h : Heap} {x : ObjId} {a : ArrObj} {bd : Dict} {pd : Option Dict}
    (w : WFArr h x a bd pd) (f : Dict → Dict) :
    ∃ pd', WFArr (onPhases h a (fun p => updDict h p f)) x a bd pd' ∧ pd' = pd.map f ∧
      (onPhases h a (fun p => updDict h p f)).bufs = h.bufs := by
  unfold onPhases
  cases hp : a.phases with
  | none => exact ⟨pd, w, by rw [w.phn hp]; rfl, rfl⟩
  | some p =>
    obtain ⟨d, rfl, _, _⟩ := w.ph p hp
    exact ⟨some (f d), wf_updPhases w hp f, rfl, updDict_bufs _ _ _⟩

/-! ### `modify` and `copy_with`

    Both allocate their dict arguments and then put ONE array object with the new slots in place: `modify`
    writes it over `self` (`rebinds_eq_write`), `copy_with` allocates it.  `modify_placed` is the statement
    about the new slots that both instantiate. -/

theorem buildEntries_pure (h : Heap) (es : List (Key × BufSrc)) :
    (buildEntries h es).1.bufs = (buildEntriesP h.bufs es).1 ∧ (buildEntries h es).2 = (buildEntriesP h.bufs es).2 := by
  induction es generalizing h with
  | nil => exact ⟨rfl, rfl⟩
  | cons e r ih =>
    obtain ⟨k, src⟩ := e
    cases src with
    | old b =>
      simp only [buildEntries, buildEntriesP]
      exact ⟨(ih h).1, by rw [(ih h).2]⟩
    | kern tag args =>
      simp only [buildEntries, buildEntriesP]
      have := ih (newBuffer h tag args).1
      exact ⟨this.1, by rw [this.2]; rfl⟩

theorem buildDict_pure (h : Heap) (es : List (Key × BufSrc)) :
    (buildDict h es).1.bufs = (buildDictP h.bufs es).1 ∧
    (buildDict h es).1.get? (buildDict h es).2 = some (.dict (buildDictP h.bufs es).2) ∧
    (buildDict h es).2 = h.size ∧ Ext h (buildDict h es).1 := by
  have hp := buildEntries_pure h es
  refine ⟨?_, ?_, ?_, (buildDict_spec h es).1.ext⟩
  · simp only [buildDict, newDict, alloc, buildDictP]; exact hp.1
  · simp only [buildDict, newDict, buildDictP, ← hp.2]
    have := alloc_get?_new (buildEntries h es).1
      (.dict ((buildEntries h es).2.foldl (fun acc e => acc.set e.1 e.2) []))
    simpa [alloc, Heap.size] using this
  · simp only [buildDict, newDict, alloc, Heap.size, buildEntries_objs]

theorem arrObj_eta (a : ArrObj) :
    ({ indices := a.indices, charge := a.charge, blocks := a.blocks, phases := a.phases, oddpos := a.oddpos } : ArrObj) = a := by
  cases a; rfl

theorem copyDict_get?_new {h : Heap} {d : DictId} {l : Dict} (hd : h.get? d = some (.dict l)) :
    (copyDict h d).1.get? (copyDict h d).2 = some (.dict l) := by
  have := alloc_get?_new h (.dict (h.dictOf d))
  rw [dictOf_of_get? hd] at this
  simpa [copyDict, newDict, dictOf_of_get? hd, alloc, Heap.size] using this

theorem write_self {h : Heap} {i : ObjId} {o : Obj} (hi : h.get? i = some o) : write h i o = h := by
  obtain ⟨objs, bufs⟩ := h
  simp only [write, Heap.get?] at hi ⊢
  obtain ⟨hlt, rfl⟩ := List.getElem?_eq_some_iff.mp hi
  rw [List.set_getElem_self]

theorem write_write (h : Heap) (i : ObjId) (o o' : Obj) : write (write h i o) i o' = write h i o' := by
  simp [write, List.set_set]

theorem rebinds_eq_write (fs : List Field) : ∀ {h : Heap} {x : ObjId} {a : ArrObj}, h.get? x = some (.arr a) →
    rebinds h x fs = write h x (.arr (fs.foldl (fun a f => f.apply a) a)) := by
  induction fs with
  | nil => intro h x a hx; exact (write_self hx).symm
  | cons f r ih =>
    intro h x a hx
    have h1 : rebindField h x f = write h x (.arr (f.apply a)) := by unfold rebindField; rw [hx]
    show rebinds (rebindField h x f) x r = _
    rw [h1, ih (write_get?_eq h _ (get?_lt hx)), write_write]
    rfl

theorem modify_fields (a : ArrObj) (op : Option DictId) (oi : Option Nat) (oc : Option Int) (ob : Option DictId) :
    ((op.map Field.phases).toList ++ (oi.map Field.indices).toList ++ (oc.map Field.charge).toList ++
        (ob.map Field.blocks).toList).foldl (fun a f => f.apply a) a =
      { indices := oi.getD a.indices, charge := oc.getD a.charge, blocks := ob.getD a.blocks,
        phases := op.map some |>.getD a.phases, oddpos := a.oddpos } := by
  cases a; cases op <;> cases oi <;> cases oc <;> cases ob <;> rfl

structure Placed (h2 h' : Heap) (z : ObjId) (a' : ArrObj) : Prop where
  get : h'.get? z = some (.arr a')
  dict : ∀ i l, h2.get? i = some (.dict l) → h'.get? i = some (.dict l)
  bufs : h'.bufs = h2.bufs

theorem placed_write {h2 : Heap} {x : ObjId} {a : ArrObj} (hx : h2.get? x = some (.arr a)) (a' : ArrObj) :
    Placed h2 (write h2 x (.arr a')) x a' :=
  ⟨write_get?_eq h2 _ (get?_lt hx), fun i l hi => by
    rw [write_get?_ne h2 _ (fun e => by rw [e, hi] at hx; cases hx)]; exact hi, rfl⟩

theorem placed_alloc (h2 : Heap) (a' : ArrObj) : Placed h2 (alloc h2 (.arr a')).1 h2.size a' :=
  ⟨alloc_get?_new _ _, fun i l hi => by rw [alloc_get?_old _ _ (get?_lt hi)]; exact hi, rfl⟩


/-- the `blocks=` argument at the level of values: the new block dict and buffer table -/
def blocksP (mb : Option (List (Key × BufSrc))) (bd : Dict) (B : Bufs) : Dict × Bufs :=
  match mb with
  | some es => ((buildDictP B es).2, (buildDictP B es).1)
  | none => (bd, B)

/-- **the new slots of `modify` / `copy_with`**: once the dict arguments are allocated (`h2`) and the array
    object with the new slots is in place (`Placed`: written over `self`, or allocated), it is well formed
    and its content is `modifyP` -/
theorem modify_placed (m : Mods) (h : Heap) (a : ArrObj) (bd : Dict) (pd : Option Dict) {h2 h' : Heap} {z : ObjId}
    {a' : ArrObj} (P : Placed h2 h' z a') (hi : a'.indices = m.indices.getD a.indices)
    (hc : a'.charge = m.charge.getD a.charge) (ho : a'.oddpos = a.oddpos)
    (hb : h2.get? a'.blocks = some (.dict (blocksP m.blocks bd h.bufs).1))
    (hB : h2.bufs = (blocksP m.blocks bd h.bufs).2)
    (hp : ∀ q, a'.phases = some q → ∃ l, newPd m.phases pd = some l ∧ h2.get? q = some (.dict l) ∧ q ≠ a'.blocks)
    (hpn : a'.phases = none → newPd m.phases pd = none) :
    ∃ a' bd' pd', WFArr h' z a' bd' pd' ∧ (cont a' bd' pd', h'.bufs) = modifyP m (cont a bd pd, h.bufs) := by
  refine ⟨a', _, newPd m.phases pd, ⟨P.get, P.dict _ _ hb, fun q hq => ?_, hpn⟩, ?_⟩
  · obtain ⟨l, e, hd, hne⟩ := hp q hq
    exact ⟨l, e, P.dict _ _ hd, hne⟩
  · rw [P.bufs, hB]
    simp only [cont, modifyP, blocksP, hi, hc, ho]
    cases m.blocks <;> rfl

/-- what `modify` / `copy_with` need of the allocation of their `blocks=` argument: the heap `h1` after it and
    the block dict `qb` the array will point to -/
structure BlkArg (h : Heap) (a : ArrObj) (bd : Dict) (mb : Option (List (Key × BufSrc))) (h1 : Heap) (qb : DictId) :
    Prop where
  ext : Ext h h1
  get : h1.get? qb = some (.dict (blocksP mb bd h.bufs).1)
  bufs : h1.bufs = (blocksP mb bd h.bufs).2
  old : ∀ q, q < h.size → q ≠ a.blocks → q ≠ qb

theorem argBlocks_arg (h : Heap) (mb : Option (List (Key × BufSrc))) {a : ArrObj} {bd : Dict}
    (hblk : h.get? a.blocks = some (.dict bd)) :
    BlkArg h a bd mb (argBlocks h mb).1 ((argBlocks h mb).2.getD a.blocks) := by
  cases mb with
  | none => exact ⟨Ext.refl _, hblk, rfl, fun q _ hne => hne⟩
  | some es =>
    obtain ⟨p1, p2, p3, p4⟩ := buildDict_pure h es
    exact ⟨p4, p2, p1, fun q hq _ => by show q ≠ (buildDict h es).2; rw [p3]; exact Nat.ne_of_lt hq⟩

theorem blocksFor_arg (h : Heap) (mb : Option (List (Key × BufSrc))) {a : ArrObj} {bd : Dict}
    (hblk : h.get? a.blocks = some (.dict bd)) :
    BlkArg h a bd mb (blocksFor h a mb).1 (blocksFor h a mb).2 := by
  cases mb with
  | some es =>
    obtain ⟨p1, p2, p3, p4⟩ := buildDict_pure h es
    exact ⟨p4, p2, p1, fun q hq _ => by show q ≠ (buildDict h es).2; rw [p3]; exact Nat.ne_of_lt hq⟩
  | none =>
    refine ⟨(copyDict_spec h _).1.ext, ?_, rfl, fun q hq _ => Nat.ne_of_lt hq⟩
    exact copyDict_get?_new hblk


theorem argPhases_bufs (h : Heap) (o : ArrObj) (mp : Option Dict) : (argPhases h o mp).1.bufs = h.bufs := by
  unfold argPhases; split <;> rfl

theorem runModify_refines (m : Mods) {h : Heap} {x : ObjId} {a : ArrObj} {bd : Dict} {pd : Option Dict}
    (w : WFArr h x a bd pd) :
    ∃ a' bd' pd', WFArr (runModify m h x a) x a' bd' pd' ∧
      (cont a' bd' pd', (runModify m h x a).bufs) = modifyP m (cont a bd pd, h.bufs) := by
  have B := argBlocks_arg h m.blocks w.blk
  have s2 := argPhases_spec (argBlocks h m.blocks).1 a m.phases
  have hx2 : (argPhases (argBlocks h m.blocks).1 a m.phases).1.get? x = some (.arr a) := by
    rw [(B.ext.trans s2.1.ext).get? (get?_lt w.arr)]; exact w.arr
  have hqb := get?_lt B.get
  simp only [runModify]
  rw [rebinds_eq_write _ hx2, modify_fields]
  refine modify_placed m h a bd pd (placed_write hx2 _) rfl rfl rfl
    (by rw [s2.1.ext.get? hqb]; exact B.get) (by rw [argPhases_bufs]; exact B.bufs) ?_ ?_
  all_goals
    cases hmp : m.phases <;> cases hap : a.phases <;>
      simp only [argPhases, hap, Option.map_none, Option.map_some, Option.getD_none, Option.getD_some]
  -- the sign dict stays, or is the newly allocated one
  · intro q hq; cases hq
  · rename_i p
    intro q hq
    cases hq
    obtain ⟨d0, rfl, hd0, hne⟩ := w.ph p hap
    exact ⟨d0, rfl, by rw [B.ext.get? (get?_lt hd0)]; exact hd0, B.old p (get?_lt hd0) hne⟩
  · intro q hq; cases hq
  · rename_i d p
    intro q hq
    cases hq
    obtain ⟨d0, rfl, _, _⟩ := w.ph p hap
    exact ⟨d, rfl, alloc_get?_new _ _, Nat.ne_of_gt hqb⟩
  · intro _; rw [w.phn hap]; rfl
  · intro hn; cases hn
  · intro _; rw [w.phn hap]; rfl
  · intro hn; cases hn

/-- **every in-place effect changes the target's abstract content as its pure meaning says** -/
theorem runAct_refines (act : Act) {h : Heap} {x : ObjId} {a : ArrObj} {bd : Dict} {pd : Option Dict}
    (w : WFArr h x a bd pd) :
    ∃ a' bd' pd', WFArr (runAct act h x) x a' bd' pd' ∧
      (cont a' bd' pd', (runAct act h x).bufs) = act.pure (cont a bd pd, h.bufs) := by
  unfold runAct
  rw [arrOf_eq_some.mpr w.arr]
  cases act with
  | modify m => exact runModify_refines m w
  | setOddpos v =>
    exact ⟨_, _, _, wf_rebind_scalar w (.oddpos v) rfl rfl, by simp [cont, Act.pure, Field.apply, rebindField_bufs]⟩
  | bKern k tag args =>
    have w1 : WFArr (newBuffer h tag args).1 x a bd pd := wf_objs (h := h) (h' := (newBuffer h tag args).1) rfl w
    exact ⟨_, _, _, wf_updBlocks w1 _, by simp [cont, Act.pure, dictSet, updDict_bufs, newBuffer]⟩
  | bPut _ _ | bPop _ | bUpdate _ =>
    exact ⟨_, _, _, wf_updBlocks w _, by simp [cont, Act.pure, dictSet, dictPop, dictUpdate, updDict_bufs]⟩
  | pSet _ _ | pPop _ | pPopItem | pClear =>
    obtain ⟨pd', w', e, hb⟩ := onPhases_refines w _
    exact ⟨_, _, _, w', by simp [cont, Act.pure, e]; exact hb⟩
  | pCopyThen f =>
    dsimp only
    unfold onPhases
    cases hp : a.phases with
    | none =>
      exact ⟨a, bd, pd, w, by simp [cont, Act.pure, w.phn hp]⟩
    | some p =>
      obtain ⟨d, rfl, hd, hne⟩ := w.ph p hp
      dsimp only
      have c := copyDict_spec h p
      have w1 := wf_ext c.1.ext w
      have ht := copyDict_get?_new hd
      have hts : (copyDict h p).2 = h.size := rfl
      have hx := get?_lt w.arr
      have hb := get?_lt w.blk
      have hpl := get?_lt hd
      have w2 := wf_updOther w1 (d := (copyDict h p).2)
        (by rw [hts]; exact Nat.ne_of_gt hx) (by rw [hts]; exact Nat.ne_of_gt hb)
        (by intro q hq; rw [hp] at hq; cases hq; rw [hts]; exact Nat.ne_of_gt hpl) f
      have w3 := wf_rebind_phases w2 (get?_updDict_self ht f) (by rw [hts]; exact Nat.ne_of_gt hb)
      refine ⟨_, _, _, w3, ?_⟩
      simp only [cont, Act.pure, rebindField_bufs, updDict_bufs, Option.map_some]
      rfl

theorem actsK_run (t : Nat) (as : List Act) (k : Prog) (h : Heap) (env : Env) :
    (Prog.actsK t as k).run h env = k.run (as.foldl (fun h a => runAct a h (envGet env t)) h) env := by
  induction as generalizing h with
  | nil => rfl
  | cons a r ih => simp only [Prog.actsK, Prog.run, runCmd, List.foldl_cons]; exact ih _

theorem see_arr {h : Heap} {x : ObjId} {a : ArrObj} {bd : Dict} {pd : Option Dict} (w : WFArr h x a bd pd) :
    see h x = .arr (cont a bd pd) := by
  simp [see, w.arr, w.content]

theorem view_at {h : Heap} {env : Env} {t : Nat} (ht : t < env.length) {a : ArrObj} {bd : Dict}
    {pd : Option Dict} (w : WFArr h (envGet env t) a bd pd) : View.at (env.map (see h)) t = cont a bd pd := by
  have : (env.map (see h)).getD t Seen.none = see h (envGet env t) := by
    simp [List.getD, envGet, List.getElem?_map, List.getElem?_eq_getElem ht]
  unfold View.at
  rw [this, see_arr w]; rfl

theorem phasesFor_bufs (h : Heap) (o : ArrObj) (mp : Option Dict) : (phasesFor h o mp).1.bufs = h.bufs := by
  unfold phasesFor; split
  · rfl
  · split <;> rfl

theorem copyWithArr_refines (m : Mods) {h : Heap} {x : ObjId} {a : ArrObj} {bd : Dict} {pd : Option Dict}
    (w : WFArr h x a bd pd) :
    ∃ a' bd' pd', WFArr (copyWithArr h x m).1 (copyWithArr h x m).2 a' bd' pd' ∧
      (cont a' bd' pd', (copyWithArr h x m).1.bufs) = modifyP m (cont a bd pd, h.bufs) := by
  have B := blocksFor_arg h m.blocks w.blk
  have s2 := phasesFor_spec (blocksFor h a m.blocks).1 a m.phases
  have hqb := get?_lt B.get
  unfold copyWithArr
  rw [arrOf_eq_some.mpr w.arr]
  refine modify_placed m h a bd pd (placed_alloc _ _) rfl rfl rfl
    (by rw [s2.1.ext.get? hqb]; exact B.get) (by rw [phasesFor_bufs]; exact B.bufs) ?_ ?_
  all_goals
    cases hmp : m.phases <;> cases hap : a.phases <;> simp only [phasesFor, hap]
  -- no sign dict, a copy of the old one, or the given one
  · intro q hq; cases hq
  · rename_i p
    intro q hq
    cases hq
    obtain ⟨d0, rfl, hd0, _⟩ := w.ph p hap
    exact ⟨d0, rfl, copyDict_get?_new (by rw [B.ext.get? (get?_lt hd0)]; exact hd0), Nat.ne_of_gt hqb⟩
  · intro q hq; cases hq
  · rename_i d p
    intro q hq
    cases hq
    obtain ⟨d0, rfl, _, _⟩ := w.ph p hap
    exact ⟨d, rfl, alloc_get?_new _ _, Nat.ne_of_gt hqb⟩
  · intro _; rw [w.phn hap]; rfl
  · intro hn; cases hn
  · intro _; rw [w.phn hap]; rfl
  · intro hn; cases hn

theorem modifyP_empty (s : PState) : modifyP {} s = s := by
  obtain ⟨c, b⟩ := s
  simp [modifyP, newPd]

theorem copyArr_refines {h : Heap} {x : ObjId} {a : ArrObj} {bd : Dict} {pd : Option Dict}
    (w : WFArr h x a bd pd) :
    ∃ a' bd' pd', WFArr (copyArr h x).1 (copyArr h x).2 a' bd' pd' ∧
      cont a' bd' pd' = cont a bd pd ∧ (copyArr h x).1.bufs = h.bufs := by
  obtain ⟨ac, bc, pc, wc, ec⟩ := copyWithArr_refines {} w
  rw [modifyP_empty, ← copyArr_eq] at ec
  rw [← copyArr_eq] at wc
  exact ⟨ac, bc, pc, wc, (Prod.mk.inj ec).1, (Prod.mk.inj ec).2⟩

/-! ### scripts that also look at other (read-only) variables -/

def Script.pureV : Script → View → PState → PState
  | .nil, _, s => s
  | .acts as k, ov, s => k.pureV ov (as.foldl (fun s a => a.pure s) s)
  | .read f, ov, s => (f s.1 ov).pureV ov s

theorem wf_other_step {A D : ObjId → Prop} {h h' : Heap} (st : Step A D h h') {y : ObjId} {a : ArrObj}
    {bd : Dict} {pd : Option Dict} (w : WFArr h y a bd pd) (hA : ¬ A y) (hb : ¬ D a.blocks)
    (hp : ∀ p, a.phases = some p → ¬ D p) : WFArr h' y a bd pd := by
  have kindA : ∀ i l, h.get? i = some (.dict l) → ¬ D i → h'.get? i = some (.dict l) := by
    intro i l hi hd
    obtain ⟨l', h1, e⟩ := st.dict i l hi
    rw [h1, e hd]
  refine ⟨?_, kindA _ _ w.blk hb, ?_, w.phn⟩
  · obtain ⟨a', h1, e⟩ := st.arr y a w.arr
    rw [h1, e hA]
  · intro p hq
    obtain ⟨d, e1, hd, hne⟩ := w.ph p hq
    exact ⟨d, e1, kindA _ _ hd (hp p hq), hne⟩

/-! ### the ownership invariant is the footprint of the value refinement

    The value-level statements below thread `Inv h0 WA WD h env o` (HeapLemmas): the target is an owned
    variable, whatever else the running call may write is bounded by `WA`, `WD` and the objects allocated
    after `h0`, and every frame fact about a read-only array is `Inv.wf_other`. -/

/-- an array of the heap `h0` at the start of a call none of whose objects the call may write -/
def Frozen (h0 : Heap) (WA WD : ObjId → Prop) (y : ObjId) : Prop :=
  ∃ a bd pd, WFArr h0 y a bd pd ∧ ¬ WA y ∧ ¬ (WA a.blocks ∨ WD a.blocks) ∧
    ∀ p, a.phases = some p → ¬ (WA p ∨ WD p)

theorem Frozen.never {h0 : Heap} {WA WD : ObjId → Prop} {y : ObjId} (f : Frozen h0 WA WD y) :
    Frozen h0 Never Never y := by
  obtain ⟨a, bd, pd, w, _⟩ := f
  exact ⟨a, bd, pd, w, id, fun e => e.elim id id, fun _ _ e => e.elim id id⟩

theorem Inv.wf_other {h0 : Heap} {WA WD : ObjId → Prop} {h : Heap} {env : Env} {o : List Bool}
    (I : Inv h0 WA WD h env o) {y : ObjId} {a : ArrObj} {bd : Dict} {pd : Option Dict} (w : WFArr h0 y a bd pd)
    (hA : ¬ WA y) (hb : ¬ (WA a.blocks ∨ WD a.blocks)) (hp : ∀ p, a.phases = some p → ¬ (WA p ∨ WD p)) :
    WFArr h y a bd pd := wf_other_step I.step w hA hb hp

theorem Inv.see_frozen {h0 : Heap} {WA WD : ObjId → Prop} {h : Heap} {env : Env} {o : List Bool}
    (I : Inv h0 WA WD h env o) {y : ObjId} (f : Frozen h0 WA WD y) : see h y = see h0 y := by
  obtain ⟨a, bd, pd, w, hA, hb, hp⟩ := f
  rw [see_arr (I.wf_other w hA hb hp), see_arr w]

theorem view_getD (h : Heap) (env : Env) (j : Nat) :
    (env.map (see h)).getD j Seen.none = if j < env.length then see h (envGet env j) else Seen.none := by
  by_cases hj : j < env.length
  · simp [List.getD, envGet, hj]
  · simp [List.getD, hj]

theorem see_ge {h : Heap} {i : ObjId} (hi : h.size ≤ i) : see h i = Seen.none := by
  have : h.get? i = none := by
    unfold Heap.get?; exact List.getElem?_eq_none hi
  simp [see, this]

def othersView (h : Heap) (env : Env) (others : List Nat) : View :=
  others.map (fun j => (env.map (see h)).getD j .none)

theorem Inv.othersView {h0 : Heap} {WA WD : ObjId → Prop} {h : Heap} {env : Env} {o : List Bool}
    (I : Inv h0 WA WD h env o) {others : List Nat} (fr : ∀ j ∈ others, Frozen h0 WA WD (envGet env j)) :
    othersView h env others = othersView h0 env others := by
  unfold Heap.othersView
  apply List.map_congr_left
  intro j hj
  rw [view_getD, view_getD, I.see_frozen (fr j hj)]

theorem othersView_append_new (h : Heap) (env : Env) {r : ObjId} (hr : h.size ≤ r) (others : List Nat) :
    othersView h (env ++ [r]) others = othersView h env others := by
  unfold othersView
  apply List.map_congr_left
  intro j _
  rw [view_getD, view_getD]
  by_cases hj : j < env.length
  · rw [if_pos hj, if_pos (by simp; omega), envGet_append_left _ hj]
  · rw [if_neg hj]
    split
    · rename_i hj'
      have : j = env.length := by simp at hj'; omega
      rw [this, envGet_append_len, see_ge hr]
    · rfl

theorem acts_refines {h0 : Heap} {WA WD : ObjId → Prop} (as : List Act) {env : Env} {o : List Bool} {t : Nat}
    (ht : o.getD t false = true) :
    ∀ {h : Heap} {a : ArrObj} {bd : Dict} {pd : Option Dict}, Inv h0 WA WD h env o →
      WFArr h (envGet env t) a bd pd →
      ∃ a' bd' pd', WFArr (as.foldl (fun h a => runAct a h (envGet env t)) h) (envGet env t) a' bd' pd' ∧
        (cont a' bd' pd', (as.foldl (fun h a => runAct a h (envGet env t)) h).bufs) =
          as.foldl (fun s a => a.pure s) (cont a bd pd, h.bufs) ∧
        Inv h0 WA WD (as.foldl (fun h a => runAct a h (envGet env t)) h) env o := by
  induction as with
  | nil => intro h a bd pd I w; exact ⟨a, bd, pd, w, rfl, I⟩
  | cons act r ih =>
    intro h a bd pd I w
    obtain ⟨a1, bd1, pd1, w1, e1⟩ := runAct_refines act w
    obtain ⟨a2, bd2, pd2, w2, e2, I2⟩ := ih (I.act ht act) w1
    exact ⟨a2, bd2, pd2, w2, by simp only [List.foldl_cons]; rw [e2, e1], I2⟩

/-- **a script on an owned target computes `Script.pureV` of the target's content and of the view of the
    frozen variables it looks at** (as they were at the start of the call), and keeps the invariant -/
theorem script_refines_others {h0 : Heap} {WA WD : ObjId → Prop} (s : Script) (t : Nat) (others : List Nat)
    (k : Prog) {env : Env} {o : List Bool} (ht : o.getD t false = true)
    (fr : ∀ j ∈ others, Frozen h0 WA WD (envGet env j)) :
    ∀ {h : Heap} {a : ArrObj} {bd : Dict} {pd : Option Dict}, Inv h0 WA WD h env o →
      WFArr h (envGet env t) a bd pd →
      ∃ h' a' bd' pd', (s.prog t others k).run h env = k.run h' env ∧ WFArr h' (envGet env t) a' bd' pd' ∧
        (cont a' bd' pd', h'.bufs) = s.pureV (othersView h0 env others) (cont a bd pd, h.bufs) ∧
        Inv h0 WA WD h' env o := by
  induction s with
  | nil => intro h a bd pd I w; exact ⟨h, a, bd, pd, rfl, w, rfl, I⟩
  | acts as s ih =>
    intro h a bd pd I w
    obtain ⟨a1, bd1, pd1, w1, e1, I1⟩ := acts_refines as ht I w
    obtain ⟨h2, a2, bd2, pd2, r2, w2, e2, I2⟩ := ih I1 w1
    exact ⟨h2, a2, bd2, pd2, by simp only [Script.prog, actsK_run]; exact r2, w2,
      by simp only [Script.pureV]; rw [e2, e1], I2⟩
  | read f ih =>
    intro h a bd pd I w
    simp only [Script.prog, Prog.run, Script.pureV]
    rw [view_at (I.len ▸ getD_true_lt ht) w]
    have := I.othersView fr
    unfold Heap.othersView at this
    rw [this]
    exact ih _ _ I w

theorem script_run {h0 : Heap} {WA WD : ObjId → Prop} (s : Script) (t : Nat) (others : List Nat) {env : Env}
    {o : List Bool} (ht : o.getD t false = true) (fr : ∀ j ∈ others, Frozen h0 WA WD (envGet env j)) {h : Heap}
    {a : ArrObj} {bd : Dict} {pd : Option Dict} (I : Inv h0 WA WD h env o) (w : WFArr h (envGet env t) a bd pd) :
    ∃ c, ((s.prog t others .done).run h env).2 = env ∧
      content ((s.prog t others .done).run h env).1 (envGet env t) = some c ∧
      (c, ((s.prog t others .done).run h env).1.bufs) =
        s.pureV (othersView h0 env others) (cont a bd pd, h.bufs) := by
  obtain ⟨h', a', bd', pd', r, w', e, _⟩ := script_refines_others s t others .done ht fr I w
  rw [r]
  exact ⟨cont a' bd' pd', rfl, w'.content, e⟩

theorem Script.pure_eq_pureV (s : Script) (st : PState) : s.pure st = s.pureV [] st := by
  induction s generalizing st with
  | nil => rfl
  | acts as k ih => exact ih _
  | read f ih => exact ih _ _ _

/-- `script_refines` below is the case of a call that starts at `h`; here the call is under way: the
    invariant `Inv` is a hypothesis and a conclusion. -/
theorem script_refines2 {h0 : Heap} {WA WD : ObjId → Prop} (s : Script) (t : Nat) (k : Prog) {env : Env}
    {o : List Bool} (ht : o.getD t false = true) {h : Heap} {a : ArrObj} {bd : Dict} {pd : Option Dict}
    (I : Inv h0 WA WD h env o) (w : WFArr h (envGet env t) a bd pd) :
    ∃ h' a' bd' pd', (s.prog t [] k).run h env = k.run h' env ∧ WFArr h' (envGet env t) a' bd' pd' ∧
      (cont a' bd' pd', h'.bufs) = s.pure (cont a bd pd, h.bufs) ∧ Inv h0 WA WD h' env o := by
  rw [Script.pure_eq_pureV]
  exact script_refines_others s t [] k ht (fun _ hj => nomatch hj) I w

theorem Inv.start_target {h : Heap} {env : Env} {t : Nat} (ht : t < env.length) (hx : envGet env t < h.size) :
    Inv h (· = envGet env t) (· ∈ dictsOf h (envGet env t)) h env ((List.range env.length).map (· == t)) ∧
    ((List.range env.length).map (· == t)).getD t false = true := by
  refine ⟨Inv.start_inplace hx env _ (by simp) fun j hj => ?_, by simp [List.getD, List.getElem?_range ht]⟩
  have hlt := getD_true_lt hj
  simp only [List.length_map, List.length_range] at hlt
  have : j = t := by simpa [List.getD, List.getElem?_range hlt] using hj
  rw [this]

/-- **a script that looks only at its target computes `Script.pure` of the target's content**,
    wherever the target lives and whatever else is in the heap -/
theorem script_refines (s : Script) (t : Nat) (k : Prog) :
    ∀ {h : Heap} {env : Env} {a : ArrObj} {bd : Dict} {pd : Option Dict}, t < env.length →
      WFArr h (envGet env t) a bd pd →
      ∃ h' a' bd' pd', (s.prog t [] k).run h env = k.run h' env ∧ WFArr h' (envGet env t) a' bd' pd' ∧
        (cont a' bd' pd', h'.bufs) = s.pure (cont a bd pd, h.bufs) := by
  intro h env a bd pd ht w
  obtain ⟨I, hfl⟩ := Inv.start_target ht (get?_lt w.arr)
  obtain ⟨h', a', bd', pd', r, w', e, _⟩ := script_refines2 s t k hfl I w
  exact ⟨h', a', bd', pd', r, w', e⟩

theorem script_run_pure (s : Script) (t : Nat) {h : Heap} {env : Env} {a : ArrObj} {bd : Dict}
    {pd : Option Dict} (ht : t < env.length) (w : WFArr h (envGet env t) a bd pd) :
    ∃ c, ((s.prog t [] .done).run h env).2 = env ∧
      content ((s.prog t [] .done).run h env).1 (envGet env t) = some c ∧
      (c, ((s.prog t [] .done).run h env).1.bufs) = s.pure (cont a bd pd, h.bufs) := by
  obtain ⟨h', a', bd', pd', r, w', e⟩ := script_refines s t .done ht w
  rw [r]
  exact ⟨cont a' bd' pd', rfl, w'.content, e⟩

end SymmModel.Heap
