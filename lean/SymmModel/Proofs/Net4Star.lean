/-
  SymmModel.Proofs.Net4Star — the legs of `A·B·C` bonded to a fourth tensor have the same positions
  whether `A·B·C` was formed as `(A·B)·C` or as `A·(B·C)`: the two nested `positions` expressions
  coincide (`axes_star`).
-/
import SymmModel.Proofs.Net4Relist

namespace SymmModel
namespace Net4P
open TdotP GradedP RoutesP KoszulP AssocP Assoc2P Assoc3P

theorem freeAxes_two (n1 n2 : Nat) (u v : List Nat) (hu : ∀ i ∈ u, i < n1) :
    freeAxes (n1 + n2) (u ++ v.map (n1 + ·))
      = freeAxes n1 u ++ (freeAxes n2 v).map (n1 + ·) := by
  unfold freeAxes
  rw [List.range_add, List.filter_append, List.filter_map]
  congr 1
  · apply List.filter_congr
    intro x hx
    have hx' := List.mem_range.mp hx
    have : (List.map (fun x => n1 + x) v).contains x = false := by
      rw [List.contains_eq_mem, decide_eq_false_iff_not, List.mem_map]
      rintro ⟨y, _, e⟩
      omega
    simp only [List.contains_append, this, Bool.or_false]
  · congr 1
    apply List.filter_congr
    intro x _
    have h1 : u.contains (n1 + x) = false := by
      rw [List.contains_eq_mem, decide_eq_false_iff_not]
      intro h; have := hu _ h; omega
    have h2 : (List.map (fun x => n1 + x) v).contains (n1 + x) = v.contains x := by
      rw [Bool.eq_iff_iff]
      simp only [List.contains_eq_mem, decide_eq_true_eq, List.mem_map]
      constructor
      · rintro ⟨y, hy, e⟩
        have : y = x := by omega
        exact this ▸ hy
      · intro h; exact ⟨x, h, rfl⟩
    simp only [Function.comp, List.contains_append, h1, h2, Bool.false_or]

theorem positions_two (F G u v : List Nat) (b : Nat) (hF : ∀ i ∈ F, i < b) (hu : ∀ e ∈ u, e ∈ F) :
    positions (F ++ G.map (b + ·)) (u ++ v.map (b + ·))
      = positions F u ++ (positions G v).map (F.length + ·) := by
  rw [positions_append, positions_append_left F _ u hu, positions_append_shift F G v b hF]

theorem indexOf?_permuted (F L : List Nat) (hF : F.Nodup) (hL : ∀ i ∈ L, i < F.length) (j : Nat)
    (hj : j < F.length) : indexOf? (permuted F L) F[j] = indexOf? L j := by
  induction L with
  | nil => rfl
  | cons i is ih =>
    have hi : i < F.length := hL i (by simp)
    have e : permuted F (i :: is) = F[i] :: permuted F is := by
      unfold permuted
      rw [List.filterMap_cons, List.getElem?_eq_getElem hi]
    rw [e]
    simp only [indexOf?]
    have hb : (F[i] == F[j]) = (i == j) := by
      rw [Bool.eq_iff_iff]
      simp only [beq_iff_eq]
      constructor
      · intro h; exact (List.Nodup.getElem_inj_iff hF).mp h
      · intro h; subst h; rfl
    rw [hb, ih (fun k hk => hL k (List.mem_cons_of_mem _ hk))]

theorem positions_positions (F L z : List Nat) (hF : F.Nodup) (hL : ∀ i ∈ L, i < F.length) :
    positions L (positions F z) = positions (permuted F L) z := by
  induction z with
  | nil => rfl
  | cons e es ih =>
    unfold positions at ih ⊢
    rw [List.filterMap_cons, List.filterMap_cons]
    cases hj : indexOf? F e with
    | none =>
      have he : e ∉ F := indexOf?_eq_none_iff.mp hj
      have he' : e ∉ permuted F L := by
        intro h
        unfold permuted at h
        obtain ⟨i, _, hi⟩ := List.mem_filterMap.mp h
        exact he (List.mem_of_getElem? hi)
      rw [indexOf?_eq_none_iff.mpr he']
      exact ih
    | some j =>
      have hje := indexOf?_eq_some hj
      have hjl : j < F.length := (List.getElem?_eq_some_iff.mp hje).1
      have hFj : F[j] = e := (List.getElem?_eq_some_iff.mp hje).2
      simp only []
      rw [List.filterMap_cons, ← hFj, indexOf?_permuted F L hF hL j hjl]
      cases indexOf? L j with
      | none => exact ih
      | some k => simp only []; rw [ih]

theorem positions_nested {n : Nat} {x y : List Nat} (h : Mid n x y) (z : List Nat) :
    positions (freeAxes (freeAxes n x).length (positions (freeAxes n x) y)) (positions (freeAxes n x) z)
      = positions (freeAxes n (x ++ y)) z := by
  rw [positions_positions _ _ z (freeAxes_nodup _ _) (fun i hi => (mem_freeAxes.mp hi).1), h.free_spec]

theorem pos_sub {n : Nat} {x y z : List Nat} (h : Mid n x (y ++ z)) :
    ∀ e ∈ positions (freeAxes n x) z,
      e ∈ freeAxes (freeAxes n x).length (positions (freeAxes n x) y) := by
  intro e he
  have hn := h.pos_nodup
  have hlt := h.pos_lt
  rw [positions_append] at hn hlt
  refine mem_freeAxes.mpr ⟨hlt e (List.mem_append_right _ he), fun hy => ?_⟩
  exact (List.nodup_append.mp hn).2.2 e hy e he rfl

/-- one layer: the legs `u ~ s` (of `A`, `B`) seen in `A·B` minus the legs `v ~ t` -/
theorem layer (nA nB : Nat) (xa u v xb s t : List Nat) (mA : Mid nA xa u) (mA2 : Mid nA xa (u ++ v))
    (mB : Mid nB xb s) :
    positions (freeAxes ((freeAxes nA xa).length + (freeAxes nB xb).length)
        (positions (freeAxes nA xa) u ++ (positions (freeAxes nB xb) s).map ((freeAxes nA xa).length + ·)))
      (positions (freeAxes nA xa) v ++ (positions (freeAxes nB xb) t).map ((freeAxes nA xa).length + ·))
    = positions (freeAxes nA (xa ++ u)) v
        ++ (positions (freeAxes nB (xb ++ s)) t).map ((freeAxes nA (xa ++ u)).length + ·)
    ∧ (freeAxes ((freeAxes nA xa).length + (freeAxes nB xb).length)
        (positions (freeAxes nA xa) u
          ++ (positions (freeAxes nB xb) s).map ((freeAxes nA xa).length + ·))).length
      = (freeAxes nA (xa ++ u)).length + (freeAxes nB (xb ++ s)).length := by
  rw [freeAxes_two _ _ _ _ mA.pos_lt]
  constructor
  · rw [positions_two _ _ _ _ _ (fun i hi => (mem_freeAxes.mp hi).1) (pos_sub mA2),
      positions_nested mA v, positions_nested mB t, mA.free_len]
  · rw [List.length_append, List.length_map, mA.free_len, mB.free_len]

theorem axes_star (nA nB nC : Nat) (ab ac ad ba bc bd ca cb cd : List Nat)
    (mA : Mid nA ab ac) (mA2 : Mid nA ab (ac ++ ad)) (mB : Mid nB ba bc)
    (mB' : Mid nB bc ba) (mB2' : Mid nB bc (ba ++ bd)) (mC : Mid nC cb ca) :
    Assoc2P.axesAB ((freeAxes nA ab).length + (freeAxes nB ba).length) nC
        (Assoc2P.axesAB nA nB ab ac ba bc) (Assoc2P.axesAB nA nB ab ad ba bd) (ca ++ cb) cd
      = Assoc2P.axesAB nA ((freeAxes nB bc).length + (freeAxes nC cb).length) (ab ++ ac) ad
          (Assoc2P.axesBC nB nC ba bc cb ca) (Assoc2P.axesAB nB nC bc bd cb cd) := by
  obtain ⟨l1, l2⟩ := layer nA nB ab ac ad ba bc bd mA mA2 mB
  obtain ⟨r1, r2⟩ := layer nB nC bc ba bd cb ca cd mB' mB2' mC
  unfold Assoc2P.axesAB Assoc2P.axesBC
  rw [l1, l2, r1]
  have eB : freeAxes nB (bc ++ ba) = freeAxes nB (ba ++ bc) :=
    freeAxes_congr nB (by intro x; simp only [List.mem_append]; exact Or.comm)
  have eC : freeAxes nC (cb ++ ca) = freeAxes nC (ca ++ cb) :=
    freeAxes_congr nC (by intro x; simp only [List.mem_append]; exact Or.comm)
  rw [eB, eC]
  simp only [List.map_append, List.map_map, List.append_assoc]
  congr 2
  apply List.map_congr_left
  intro a _
  simp only [Function.comp]
  omega

end Net4P
end SymmModel
