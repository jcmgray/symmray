/-
  SymmModel.Proofs.FuseCommuteF1 — C06, first clause, fermionic: the Koszul signs of a contraction
  over a group of legs at an arbitrary position, in terms of the permutation `before ++ group ++ after`
  of `_fuse_core` (`calcFuseGroupInfo`), and the same for a single (fused) leg.
  Pure sign bookkeeping (no arrays except through `calcFuseGroupInfo`).  Namespace `SymmModel.TdotP`.
-/
import SymmModel.Proofs.FuseCommute4

namespace SymmModel
namespace TdotP
open SymmModel.KoszulP
variable {R : Type}

theorem sgn_mod_mul (m o : Nat) : sgn (m % 2 * o) = sgn (m * o) := by
  apply sgn_congr
  rw [Nat.mul_mod, Nat.mod_mod, ← Nat.mul_mod]

theorem sgn_sq (n : Nat) : sgn n * sgn n = 1 := sgn_mul_self n

theorem sgn_b2n (b : Bool) (o : Nat) : sgn ((if b then 1 else 0) * o) = if b then sgn o else 1 := by
  cases b <;> simp [sgn]

theorem koszul_move_tail (par : List Bool) (xs A B : List Nat) (n : Nat)
    (h : (xs ++ A ++ B).Perm (List.range n)) :
    koszul par (some (xs ++ B ++ A)) = koszul par (some (xs ++ A ++ B)) * sgn (oddCount par A * oddCount par B) := by
  have := koszul_block_move par xs A B [] n (by simpa using h)
  simpa using this

theorem koszul_move_head (par : List Bool) (A B ys : List Nat) (n : Nat)
    (h : (A ++ B ++ ys).Perm (List.range n)) :
    koszul par (some (B ++ A ++ ys)) = koszul par (some (A ++ B ++ ys)) * sgn (oddCount par A * oddCount par B) := by
  have := koszul_block_move par [] A B ys n (by simpa using h)
  simpa using this

section One
variable {X : Arr R} {g : List Nat}

theorem one_perm (h : OneOk X g) :
    (FuseP.giM X [g]).perm = List.range (FuseP.giM X [g]).position ++ g ++ (FuseP.giM X [g]).axesAfter := by
  show (calcFuseGroupInfo [g] X.duals).perm = _
  rw [FuseP.perm_eq, FuseP.axesBefore_range _ _]
  simp

theorem one_perm_perm (h : OneOk X g) : (FuseP.giM X [g]).perm.Perm (List.range X.ndim) := by
  have := FuseP.perm_isPerm (FuseP.hokD h.groupsOk).adm
  rw [FuseP.duals_length] at this
  exact perm_of_isPerm this

/-- left operand: `free ++ group` against `before ++ group ++ after` -/
theorem koszul_left_one (h : OneOk X g) (par : List Bool) :
    koszul par (some (freeAxes X.ndim g ++ g))
      = koszul par (some (FuseP.giM X [g]).perm)
        * sgn (oddCount par g * oddCount par (FuseP.giM X [g]).axesAfter) := by
  rw [one_free h, one_perm h]
  exact koszul_move_tail par _ g _ X.ndim (by rw [← one_perm h]; exact one_perm_perm h)

/-- right operand: `group ++ free` against `before ++ group ++ after` -/
theorem koszul_right_one (h : OneOk X g) (par : List Bool) :
    koszul par (some (g ++ freeAxes X.ndim g))
      = koszul par (some (FuseP.giM X [g]).perm)
        * sgn (oddCount par (List.range (FuseP.giM X [g]).position) * oddCount par g) := by
  rw [one_free h, one_perm h, ← List.append_assoc]
  exact koszul_move_head par _ g _ X.ndim (by rw [← one_perm h]; exact one_perm_perm h)

end One

theorem koszul_left_single (par : List Bool) (p m : Nat) :
    koszul par (some (freeAxes (p + 1 + m) [p] ++ [p]))
      = sgn (oddCount par [p] * oddCount par ((List.range m).map (fun j => p + 1 + j))) := by
  rw [freeAxes_succ_mid]
  have hr : List.range p ++ [p] ++ (List.range m).map (fun j => p + 1 + j) = List.range (p + 1 + m) := by
    rw [List.range_add, List.range_succ]
  rw [koszul_move_tail par (List.range p) [p] _ (p + 1 + m) (by rw [hr]), hr, koszul_id', Int.one_mul]

theorem koszul_right_single (par : List Bool) (p m : Nat) :
    koszul par (some ([p] ++ freeAxes (p + 1 + m) [p]))
      = sgn (oddCount par (List.range p) * oddCount par [p]) := by
  rw [freeAxes_succ_mid, ← List.append_assoc]
  have hr : List.range p ++ [p] ++ (List.range m).map (fun j => p + 1 + j) = List.range (p + 1 + m) := by
    rw [List.range_add, List.range_succ]
  rw [koszul_move_head par (List.range p) [p] _ (p + 1 + m) (by rw [hr]), hr, koszul_id', Int.one_mul]

end TdotP
end SymmModel
