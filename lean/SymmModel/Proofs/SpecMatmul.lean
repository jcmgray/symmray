/-
  SymmModel.Proofs.SpecMatmul — `a @ b` in closed form: for operands of rank 1 or 2 `matmulA` is the
  blockwise contraction of the last leg of `a` with the first leg of `b` (`matmulA_eq`), otherwise it
  raises (`matmulA_ok_ranks`); `matmulF` flips a dual first leg of `b`, synchronises both operands,
  calls `matmulA` and resolves the labels (`matmulF_eq`, for the operands of a successful call:
  `matmulF_ok`).
-/
import SymmModel.Model.Fermi

namespace SymmModel
variable {R : Type} [Zero R] [Add R] [Mul R]

theorem matmulA_eq (a b : Arr R) (ha : a.ndim = 1 ∨ a.ndim = 2) (hb : b.ndim = 1 ∨ b.ndim = 2) :
    matmulA a b = .ok (tensordotBlockwise a b (without (List.range a.ndim) [a.ndim - 1])
      [a.ndim - 1] [0] (without (List.range b.ndim) [0])) := by
  unfold matmulA
  rcases ha with h1 | h1 <;> rcases hb with h2 | h2 <;> rw [h1, h2] <;> rfl

theorem matmulA_ok_ranks {a b c : Arr R} (h : matmulA a b = .ok c) :
    (a.ndim = 1 ∨ a.ndim = 2) ∧ (b.ndim = 1 ∨ b.ndim = 2) := by
  unfold matmulA at h
  split at h
  · rename_i h1 h2; exact ⟨Or.inl h1, Or.inl h2⟩
  · rename_i h1 h2; exact ⟨Or.inl h1, Or.inr h2⟩
  · rename_i h1 h2; exact ⟨Or.inr h1, Or.inl h2⟩
  · rename_i h1 h2; exact ⟨Or.inr h1, Or.inr h2⟩
  · split at h <;> cases h

theorem matmulF_eq [Neg R] (a b : Arr R) (ha : a.ndim ≤ 2) (hb : b.ndim ≤ 2) (j0 : Index)
    (hj : b.indices[0]? = some j0) :
    Arr.matmulF a b = (do
      let c ← matmulA a.phaseSync (if j0.dual then b.phaseFlip [0] else b).phaseSync
      resolveCombinedOddpos a.phaseSync (if j0.dual then b.phaseFlip [0] else b).phaseSync c) := by
  unfold Arr.matmulF
  have hg : (decide (a.ndim > 2) || decide (b.ndim > 2)) = false := by
    simp only [gt_iff_lt, Bool.or_eq_false_iff, decide_eq_false_iff_not, Nat.not_lt]
    exact ⟨ha, hb⟩
  simp only [hg, hj, Bool.false_eq_true, if_false]
  rfl

theorem matmulF_ok [Neg R] {a b r : Arr R} (h : Arr.matmulF a b = .ok r) :
    a.ndim ≤ 2 ∧ b.ndim ≤ 2 ∧ ∃ j0, b.indices[0]? = some j0 := by
  unfold Arr.matmulF at h
  dsimp only at h
  split at h
  · cases h
  · rename_i hg
    simp only [gt_iff_lt, Bool.or_eq_true, decide_eq_true_eq, not_or, Nat.not_lt] at hg
    cases hj : b.indices[0]? with
    | none => rw [hj] at h; cases h
    | some j0 => exact ⟨hg.1, hg.2, j0, rfl⟩

end SymmModel
