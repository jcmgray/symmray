/-
  SymmModel.Proofs.SizeLe — the preorder "knows no more charge sizes than" on index tables
  (`TdotP.SizeLe`): what the result of a contraction, in any mode, keeps of the tables of its
  operands' free legs.  It is weaker than `AssocP.Pruned` (the table is a filter of the other
  one, Proofs/AssocWeak); "pruned" is kept for that relation.
-/
import SymmModel.Model.Index

namespace SymmModel
namespace TdotP

def SizeLe (ix ix' : Index) : Prop :=
  ix.dual = ix'.dual ∧ ∀ c d, ix.sizeOf? c = some d → ix'.sizeOf? c = some d

theorem SizeLe.refl (ix : Index) : SizeLe ix ix := ⟨rfl, fun _ _ h => h⟩

theorem SizeLe.trans {i j k : Index} (h1 : SizeLe i j) (h2 : SizeLe j k) : SizeLe i k :=
  ⟨h1.1.trans h2.1, fun c d h => h2.2 c d (h1.2 c d h)⟩

end TdotP
end SymmModel
