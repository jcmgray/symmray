/-
  SymmModel.Proofs.Reshape3h — C07 for FERMIONIC arrays: the fermionic fuse / unfuse keep the content
  up to signs (every certified reshape plan: Reshape3j).

  `SameAbs a b`: every additive statistic `Σ g(entry)` with `g 0 = 0` and `g (-x) = g x` agrees on
  the stored entries of `a` and `b` — the squared norm and the multiset of magnitudes are such
  statistics.  (Stored entries, i.e. without the pending lazy signs, which are signs as well.)
-/
import SymmModel.Proofs.ReshapeMore
import SymmModel.Props.C05c

namespace SymmModel
namespace ReshapeP
open DenseP

variable {R : Type} {M : Type} [AddCommMonoid M]

def SameAbs [Zero R] [Neg R] (a b : Arr R) : Prop :=
  ∀ (M : Type) [AddCommMonoid M] (g : R → M), g 0 = 0 → (∀ x, g (-x) = g x) → entrySum g a = entrySum g b

theorem SameAbs.refl [Zero R] [Neg R] (a : Arr R) : SameAbs a a := fun _ _ _ _ _ => rfl
theorem SameAbs.trans [Zero R] [Neg R] {a b c : Arr R} (h1 : SameAbs a b) (h2 : SameAbs b c) :
    SameAbs a c := fun M _ g h0 he => (h1 M g h0 he).trans (h2 M g h0 he)
theorem SameContent.abs [Zero R] [Neg R] {a b : Arr R} (h : SameContent a b) : SameAbs a b :=
  fun M _ g h0 _ => h M g h0

theorem sameAbs_of_blocks [Zero R] [Neg R] {a b : Arr R} (h : a.blocks = b.blocks) : SameAbs a b := by
  intro M _ g _ _
  simp only [entrySum, h]

theorem blkSum_negK [Neg R] (g : R → M) (he : ∀ x, g (-x) = g x) (b : Blk R) :
    blkSum g b.negK = blkSum g b := by
  simp only [blkSum, Blk.negK, Blk.map, Array.toList_map, List.map_map]
  apply sum_map_congr
  intro x _
  exact he x

/-- synchronising the pending signs negates whole blocks -/
theorem phaseSync_sameAbs [Zero R] [Neg R] (a : Arr R) : SameAbs a a.phaseSync := by
  intro M _ g _ he
  simp only [entrySum, Lazy.phaseSync_blocks_eq, List.map_map]
  apply sum_map_congr
  intro p _
  simp only [Function.comp, Lazy.syncBlk]
  split
  · exact (blkSum_negK g he _).symm
  · rfl

/-- **`FermionicArray.unfuse` keeps the content up to signs** -/
theorem unfuseF_sameAbs [Zero R] [Neg R] (a y : Arr R) (axis : Nat) (hv : a.validB = true)
    (h : Arr.unfuseF a axis = .ok y) : SameAbs a y := by
  have hvs : a.phaseSync.validB = true := LinalgLemmas.phaseSync_valid a hv
  unfold Arr.unfuseF at h
  dsimp only at h
  split at h
  case h_2 => cases h
  rename_i ix _
  simp only [pure_bind] at h
  obtain ⟨new, hnew, h⟩ := bind_ok h
  have h1 : SameAbs a new :=
    (phaseSync_sameAbs a).trans (unfuseA_sameContent a.phaseSync new axis hvs hnew).abs
  split at h
  · split at h
    case h_2 => cases h
    rename_i subs _ _
    simp only [pure, Except.pure, Except.ok.injEq] at h
    subst h
    exact h1.trans (sameAbs_of_blocks (Lazy.phaseFlip_blocks _ _).symm)
  · simp only [pure, Except.pure, Except.ok.injEq] at h
    subst h; exact h1

/-- the sign-adjusted operand of the fermionic fuse: transposed blocks, some of them negated -/
theorem signAdj_sameAbs [Zero R] [Neg R] (a : Arr R) (groups : List (List Nat)) (hv : a.validB = true)
    (hf : a.fermi = true) (hg : FuseP.groupsOkB groups a.ndim = true) :
    SameAbs a (FuseP.signAdj a groups) := by
  obtain ⟨_, _, hperm, _⟩ := C05.calcFuseGroupInfo_perm groups a.duals (by rw [FuseP.duals_length]; exact hg)
  rw [FuseP.duals_length] at hperm
  have hfull := Lazy.Full.of_valid hv hf
  have htr := hfull.trOk hperm
  have hva := FuseP.validArr_of_validB hv
  have key : ∀ y : Arr R, y.blocks = (a.transposeF (calcFuseGroupInfo groups a.duals).perm).blocks →
      SameAbs a y.phaseSync := by
    intro y hy
    refine SameAbs.trans ?_ (phaseSync_sameAbs y)
    intro M _ g _ _
    simp only [entrySum, hy, Lazy.transposeF_blocks htr, List.map_map]
    apply sum_map_congr
    intro p hp
    simp only [Function.comp]
    have hb := hva.blk p hp
    exact (blkSum_transposeK g p.2 hb.2.2 _ (by
      rw [Arr.blockShape?_shape_length hb.2.1]; exact hperm)).symm
  unfold FuseP.signAdj
  split
  · exact key _ (Lazy.phaseFlip_blocks _ _)
  · exact key _ (Lazy.phaseFlip_blocks _ _)

/-- **`FermionicArray.fuse` keeps the content up to signs** (insert strategy, any admissible list of groups) -/
theorem fuseF_sameAbs [Zero R] [Neg R] (a x : Arr R) (groups : List (List Nat)) (e : Bool)
    (hv : a.validB = true) (hf : a.fermi = true) (hg : FuseP.groupsOkB groups a.ndim = true)
    (h : Arr.fuseF a groups .insert e = .ok x) : SameAbs a x := by
  obtain ⟨hs1, hs2, _, _, hs5, _, _⟩ := C05.fuseF_struct a groups .insert e hv hf hg
  have hvx : x.validB = true :=
    C01.fuseF_valid a x groups e hv hf (fuseAdmissible_of_groupsOk hg) h
  rw [hs1] at h
  exact (signAdj_sameAbs a groups hv hf hg).trans
    (fuseCore_sameContentC (FuseP.signAdj a groups) x _ hs2 hs5 h ((ValidP.validB_iff x).1 hvx).core).abs

end ReshapeP
end SymmModel
