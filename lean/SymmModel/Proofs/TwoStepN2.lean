/-
  SymmModel.Proofs.TwoStepN2 — the hypothesis of `TwoStepN1` that is special to a strictly increasing `ya`:
  the positions `tsPA` of `a`'s remaining legs in the intermediate are strictly increasing (the separator
  `K = (freeAxes na xa).length` between `tsPA` and `tsPB` is in TwoStepOrder).  Namespace `SymmModel.TwoStepP`.
-/
import SymmModel.Proofs.TwoStepN1
import SymmModel.Proofs.TwoStepGeom

namespace SymmModel
namespace TwoStepP
open TdotP GradedP Lazy

theorem posIn_mono {l : List Nat} (hl : l.Pairwise (· < ·)) {x y : Nat} (hx : x ∈ l) (hy : y ∈ l)
    (h : x < y) : posIn l x < posIn l y := by
  obtain ⟨hx1, hx2⟩ := posIn_lt_get hx
  obtain ⟨hy1, hy2⟩ := posIn_lt_get hy
  obtain ⟨_, ex⟩ := List.getElem?_eq_some_iff.mp hx2
  obtain ⟨_, ey⟩ := List.getElem?_eq_some_iff.mp hy2
  by_contra hn
  rcases Nat.lt_or_eq_of_le (Nat.le_of_not_lt hn) with hlt | heq
  · have := List.pairwise_iff_getElem.mp hl _ _ hy1 hx1 hlt
    omega
  · have : y = x := by rw [← ey, ← ex]; simp only [heq]
    omega

theorem tsPA_pairwise {na : Nat} {xa ya : List Nat} (hn : (xa ++ ya).Nodup) (hlt : ∀ i ∈ xa ++ ya, i < na)
    (hinc : ya.Pairwise (· < ·)) : (tsPA na xa ya).Pairwise (· < ·) := by
  unfold tsPA
  rw [List.pairwise_map]
  exact List.Pairwise.imp_of_mem (fun hx hy h =>
    posIn_mono (freeAxes_pairwise na xa) (mem_free_of hn hlt hx) (mem_free_of hn hlt hy) h) hinc

end TwoStepP
end SymmModel
