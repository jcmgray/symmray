/-
  SymmModel.Proofs.FuseFermi4 — `fuseF_elemT`: the value of the fermionic fused array at
  `(ns, i)` is the value of the transposed array at the expanded address times the sign the fuse
  applies to that sector (`fuseSignT`).  In terms of the original array: `fuseF_elemM` (FuseFermi5).
-/
import SymmModel.Proofs.FuseFermi3
namespace SymmModel
namespace FuseP
set_option linter.unusedSectionVars false
open SymmModel.Lazy

variable {R : Type}

section Len
variable {a : Arr R} {groups : List (List Nat)} [Zero R]

theorem segM_length (hv : ValidArr a) (hok : GroupsOk groups a.ndim) {ns : Sector} {i : List Nat} {g : Nat}
    (hg : g < groups.length)
    (hsplit : multiB groups g = true →
      splitAddr (ixM a groups g) (ns.getD ((giM a groups).position + g) (0, 0))
        (i.getD ((giM a groups).position + g) 0) = some (segM a groups ns i g)) :
    (segM a groups ns i g).1.length = (groups.getD g []).length
      ∧ (segM a groups ns i g).2.length = (groups.getD g []).length := by
  have hgg : groups[g]? = some groups[g] := List.getElem?_eq_getElem hg
  have hgd : groups.getD g [] = groups[g] := by simp [List.getD_eq_getElem?_getD, hgg]
  by_cases hm : multiB groups g = true
  · obtain ⟨gaxes, hgg', hlen⟩ := multiB_iff.1 hm
    have hgd' : groups.getD g [] = gaxes := by simp [List.getD_eq_getElem?_getD, hgg']
    have hs' := hsplit hm
    cases hsg : segM a groups ns i g with
    | mk s1 s2 =>
      rw [hsg] at hs'
      obtain ⟨_, subs, exts, shp, hs, hb, hbox, _⟩ := joinAddr_splitAddr (ixM_wf hv hok.adm _) hs'
      rw [ixM_sub hok.adm hgg' hlen] at hs
      simp only [Option.some.injEq, Prod.mk.injEq] at hs
      obtain ⟨rfl, _⟩ := hs
      have hl := blockShape?_length hb
      have hl2 := inBox_length hbox
      rw [hgd']
      simp only [List.length_map] at hl
      exact ⟨hl.1.symm, by rw [hl2, hl.2]; exact hl.1.symm⟩
  · have hm' : multiB groups g = false := by simpa using hm
    obtain ⟨ax, _, hgd1, _⟩ := singleM (a := a) hok.adm hg hm'
    rw [hgd1]
    simp only [segM, hm', Bool.false_eq_true, if_false, List.length_cons, List.length_nil, Nat.zero_add,
      and_self]

theorem groups_sum_length (groups : List (List Nat)) :
    ((List.range groups.length).map (fun g => (groups.getD g []))).flatten.length = groups.flatten.length := by
  rw [← map_eq_range_map groups [] (fun g => g)]
  simp

theorem expandK_length (hv : ValidArr a) (hok : GroupsOk groups a.ndim) {ns : Sector} {i : List Nat}
    (hns : ns.length = ndimM a groups) (hil : i.length = ndimM a groups)
    (hsplit : ∀ g, g < groups.length → multiB groups g = true →
      splitAddr (ixM a groups g) (ns.getD ((giM a groups).position + g) (0, 0))
        (i.getD ((giM a groups).position + g) 0) = some (segM a groups ns i g)) :
    (expandK a groups ns i).length = a.ndim ∧ (expandJ a groups ns i).length = a.ndim := by
  have hfl := flatten_le (hokD hok)
  rw [duals_length] at hfl
  have h1 : ((List.range groups.length).map (fun g => (segM a groups ns i g).1)).flatten.length
      = groups.flatten.length := by
    rw [← groups_sum_length groups]
    apply flatten_map_length_eq
    intro g hg
    exact (segM_length hv hok (List.mem_range.1 hg) (hsplit g (List.mem_range.1 hg))).1
  have h2 : ((List.range groups.length).map (fun g => (segM a groups ns i g).2)).flatten.length
      = groups.flatten.length := by
    rw [← groups_sum_length groups]
    apply flatten_map_length_eq
    intro g hg
    exact (segM_length hv hok (List.mem_range.1 hg) (hsplit g (List.mem_range.1 hg))).2
  constructor
  · rw [expandK_parts ns i hns]
    simp only [List.length_append, List.length_map, List.length_range, h1]
    exact hfl
  · rw [expandJ_parts ns i hil]
    simp only [List.length_append, List.length_map, List.length_range, h2]
    exact hfl

end Len

section F
variable [Zero R] [Neg R] [LawfulNeg R]

theorem fuseF_elemT (a : Arr R) (groups : List (List Nat)) (e : Bool) (hv : a.validB = true)
    (hf : a.fermi = true) (hok : GroupsOk groups a.ndim) :
    Arr.fuseF a groups .insert e = .ok (fusedArrM (signAdj a groups) (newGroupsF groups a.duals))
    ∧ ∀ ns B, alookup (fusedArrM (signAdj a groups) (newGroupsF groups a.duals)).blocks ns = some B →
      ∀ i, inBox B.shape i = true →
        (∀ g, g < groups.length → multiB groups g = true →
          splitAddr (ixM (signAdj a groups) (newGroupsF groups a.duals) g)
            (ns.getD ((calcFuseGroupInfo groups a.duals).position + g) (0, 0))
            (i.getD ((calcFuseGroupInfo groups a.duals).position + g) 0)
            = some (segM (signAdj a groups) (newGroupsF groups a.duals) ns i g))
        ∧ (expandK (signAdj a groups) (newGroupsF groups a.duals) ns i).length = a.ndim
        ∧ (expandJ (signAdj a groups) (newGroupsF groups a.duals) ns i).length = a.ndim
        ∧ (fusedArrM (signAdj a groups) (newGroupsF groups a.duals)).elem ns i
          = sgnI (fuseSignT a groups (expandK (signAdj a groups) (newGroupsF groups a.duals) ns i))
              ((a.transposeF (calcFuseGroupInfo groups a.duals).perm).elem
                (expandK (signAdj a groups) (newGroupsF groups a.duals) ns i)
                (expandJ (signAdj a groups) (newGroupsF groups a.duals) ns i))
        ∧ (∀ b4, alookup (signAdj a groups).blocks (expandK (signAdj a groups) (newGroupsF groups a.duals) ns i) = some b4 →
            inBox b4.shape (expandJ (signAdj a groups) (newGroupsF groups a.duals) ns i) = true) := by
  have hfld := signAdj_fields a groups
  have hva4 : ValidArr (signAdj a groups) := validArr_of_core (signAdj_valid a groups hv hf hok).core
  have hnd4 := signAdj_ndim (a := a) hok
  have hok4 := signAdj_groupsOk (a := a) hok
  have hpos := signAdj_position (a := a) hok
  have hperm := signAdj_perm (a := a) hok
  refine ⟨by rw [fuseF_eq a groups .insert e hok]; exact fuseCore_multi_eq hva4 hok4.adm, ?_⟩
  intro ns B hB i hi
  have hB' : alookup (fusedBlocksM (signAdj a groups) (newGroupsF groups a.duals)) ns = some B := hB
  obtain ⟨h1, h2⟩ := fused_getM hva4 hok4 hB' hi
  obtain ⟨sb0, hsb0, hns0, hBs⟩ := fusedBlockM_info hva4 hok4.adm hB'
  have hnsl : ns.length = ndimM (signAdj a groups) (newGroupsF groups a.duals) := by
    rw [← hns0]; exact planM_newSector_length hok4.adm sb0
  have hil : i.length = ndimM (signAdj a groups) (newGroupsF groups a.duals) := by
    rw [inBox_length hi, hBs, BshM_length]
  have hlen : (newGroupsF groups a.duals).length = groups.length := newGroupsF_length _ _
  obtain ⟨hKl, hJl⟩ := expandK_length hva4 hok4 hnsl hil h1
  rw [hnd4] at hKl hJl
  have hpermK : permuted (expandK (signAdj a groups) (newGroupsF groups a.duals) ns i)
      (giM (signAdj a groups) (newGroupsF groups a.duals)).perm
      = expandK (signAdj a groups) (newGroupsF groups a.duals) ns i := by
    rw [hperm, ← duals_length a, ← hKl] at *
    exact permuted_range _
  have hpermJ : permuted (expandJ (signAdj a groups) (newGroupsF groups a.duals) ns i)
      (giM (signAdj a groups) (newGroupsF groups a.duals)).perm
      = expandJ (signAdj a groups) (newGroupsF groups a.duals) ns i := by
    rw [hperm, duals_length a, ← hJl]
    exact permuted_range _
  obtain ⟨hget, hbox⟩ := h2 _ _ (by rw [hnd4]; exact hKl) (by rw [hnd4]; exact hJl) hpermK hpermJ
  refine ⟨?_, hKl, hJl, ?_, ?_⟩
  · intro g hg hm
    have := h1 g (by rw [hlen]; exact hg) (by rw [multiB_newGroupsF]; exact hm)
    rw [hpos] at this
    exact this
  · rw [← signAdj_elem, Arr.elem_of_phases_nil hfld.1,
      Arr.elem_of_phases_nil (a := fusedArrM (signAdj a groups) (newGroupsF groups a.duals))
        (by show (signAdj a groups).phases = []; exact hfld.1)]
    simp only [fusedArrM, hB']
    rw [hget]
    cases alookup (signAdj a groups).blocks (expandK (signAdj a groups) (newGroupsF groups a.duals) ns i) <;> rfl
  · intro b4 hb4
    have := hbox b4 hb4
    have hb4l : b4.shape.length = a.duals.length := by
      have := (hva4.blk (_, b4) (alookup_some_mem hb4)).2.1
      have hl := blockShape?_length this
      rw [hl.2, duals_length]; exact hKl
    rw [hpermJ, hperm, ← hb4l, permuted_range] at this
    exact this

end F

end FuseP
end SymmModel
