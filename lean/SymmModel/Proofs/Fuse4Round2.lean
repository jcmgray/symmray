/-
  SymmModel.Proofs.Fuse4Round2 — the two factors of the sign `unfuseF` applies, in the per-group form
  of the fuse sign: the Koszul sign of its virtual reversal is the reversal sign of the new legs' odd
  charges (`koszul_unfuseVperm`), and its flip is the flip of the group's non-dual legs
  (`flipSign_transfer`).  Put together in `unfuseSign_stage` (Fuse4Round4).
-/
import SymmModel.Proofs.Fuse4Round1
namespace SymmModel
namespace FuseP
open SymmModel.KoszulP SymmModel.Lazy

variable {R : Type}

theorem unfuseVperm_eq (N L p : Nat) (hp : p < N) (hL : 0 < L) :
    unfuseVperm N L p
      = List.range p ++ ((List.range L).map (fun t => p + t)).reverse
        ++ (List.range (N - 1 - p)).map (fun j => p + L + j) := by
  have hN : N + L - 1 = p + L + (N - 1 - p) := by omega
  unfold unfuseVperm
  rw [hN, List.range_add, List.range_add, List.map_append, List.map_append, List.map_map, List.map_map]
  refine congrArg₂ (· ++ ·) (congrArg₂ (· ++ ·) ?_ ?_) ?_
  · conv_rhs => rw [← List.map_id (List.range p)]
    apply List.map_congr_left
    intro x hx
    simp only [List.mem_range] at hx
    have : ¬ (p ≤ x) := by omega
    simp only [this, decide_false, Bool.false_and, Bool.false_eq_true, ↓reduceIte, id_eq]
  · apply List.ext_getElem (by simp only [List.length_map, List.length_range, List.length_reverse])
    intro t h1 h2
    simp only [List.length_map, List.length_range] at h1
    simp only [List.getElem_map, List.getElem_range, Function.comp, List.getElem_reverse, List.length_map,
      List.length_range]
    have c1 : p ≤ p + t := by omega
    have c2 : p + t < p + L := by omega
    simp only [c1, c2, decide_true, Bool.and_self, if_true]
    omega
  · apply List.map_congr_left
    intro j hj
    simp only [Function.comp]
    have : ¬ (p + L + j < p + L) := by omega
    simp only [this, decide_false, Bool.and_false, Bool.false_eq_true, ↓reduceIte]

theorem koszul_unfuseVperm (par : List Bool) (N L p : Nat) (hp : p < N) (hL : 0 < L) :
    koszul par (some (unfuseVperm N L p)) = revSign par ((List.range L).map (fun t => p + t)) := by
  have hN : N + L - 1 = p + L + (N - 1 - p) := by omega
  have hr : List.range (N + L - 1) = List.range p ++ (List.range L).map (fun t => p + t)
      ++ (List.range (N - 1 - p)).map (fun j => p + L + j) := by
    rw [hN, List.range_add, List.range_add]
  rw [unfuseVperm_eq N L p hp hL, koszul_reverse_block par _ _ _ (N + L - 1) (by rw [← hr]), ← hr,
    koszul_id', Int.one_mul]
  rfl

theorem getD_map_parity (sym : Sym) (K : Sector) (x : Nat) :
    (K.map sym.parity).getD x false = sym.parity (K.getD x (0, 0)) := by
  rw [← Sym.parity_zero_charge sym]
  exact getD_map sym.parity K x (0, 0)

theorem list_eq_range_map (l : List Nat) : l = (List.range l.length).map (fun t => l.getD t 0) := by
  have := map_eq_range_map l 0 (fun x => x)
  simpa only [List.getD_eq_getElem?_getD, List.map_id_fun', id_eq] using this

theorem oddCount_transfer (sym : Sym) (K S : Sector) (gx : List Nat) (p : Nat)
    (h : ∀ t, t < gx.length → K.getD (p + t) (0, 0) = S.getD (gx.getD t 0) (0, 0)) :
    oddCount (K.map sym.parity) ((List.range gx.length).map (fun t => p + t))
      = oddCount (S.map sym.parity) gx := by
  conv_rhs => rw [list_eq_range_map gx]
  simp only [oddCount, List.filter_map, List.length_map]
  congr 1
  apply List.filter_congr
  intro t ht
  simp only [List.mem_range] at ht
  simp only [Function.comp, isOdd, getD_map_parity, h t ht]

theorem zipIdx_filter_map {α : Type} (l : List α) (d : α) (q : α → Bool) (h : Nat → Nat) :
    (l.zipIdx.filter (fun x => q x.1)).map (fun x => h x.2)
      = ((List.range l.length).filter (fun t => q (l.getD t d))).map h := by
  have hz : l.zipIdx = (List.range l.length).map (fun g => (l.getD g d, g)) := by
    have := zipIdx_map_eq_range_map l d (fun x => x)
    simpa only [List.getD_eq_getElem?_getD, List.map_id_fun', id_eq] using this
  rw [hz, List.filter_map, List.map_map]
  rfl

theorem flipSign_transfer (sym : Sym) (K S : Sector) (gx : List Nat) (p : Nat) (subs : List Index)
    (idx : List Index) (hl : subs.length = gx.length)
    (hs : ∀ t, t < gx.length → (subs.getD t default).dual = (idx.getD (gx.getD t 0) default).dual)
    (h : ∀ t, t < gx.length → K.getD (p + t) (0, 0) = S.getD (gx.getD t 0) (0, 0)) :
    Lazy.flipSign sym (unfuseFlipAxes subs p) K
      = Lazy.flipSign sym (gx.filter (fun ax => !(idx.getD ax default).dual)) S := by
  unfold unfuseFlipAxes
  have e1 := zipIdx_filter_map subs default (fun ix : Index => !ix.dual) (fun t => p + t)
  rw [e1, hl]
  have hL : (List.filter (fun ax => sym.parity (K.getD ax (0, 0)))
      (List.map (fun t => p + t) (List.filter (fun t => !(subs.getD t default).dual) (List.range gx.length)))).length
      = (List.filter (fun t => sym.parity (K.getD (p + t) (0, 0)))
          (List.filter (fun t => !(subs.getD t default).dual) (List.range gx.length))).length := by
    rw [List.filter_map, List.length_map]; rfl
  have hR : (List.filter (fun ax => sym.parity (S.getD ax (0, 0)))
      (List.filter (fun ax => !(idx.getD ax default).dual) gx)).length
      = (List.filter (fun t => sym.parity (S.getD (gx.getD t 0) (0, 0)))
          (List.filter (fun t => !(idx.getD (gx.getD t 0) default).dual) (List.range gx.length))).length := by
    conv_lhs => rw [list_eq_range_map gx]
    rw [List.filter_map, List.filter_map, List.length_map]
    rfl
  have hmid : List.filter (fun t => sym.parity (K.getD (p + t) (0, 0)))
        (List.filter (fun t => !(subs.getD t default).dual) (List.range gx.length))
      = List.filter (fun t => sym.parity (S.getD (gx.getD t 0) (0, 0)))
        (List.filter (fun t => !(idx.getD (gx.getD t 0) default).dual) (List.range gx.length)) := by
    have e2 : List.filter (fun t => !(subs.getD t default).dual) (List.range gx.length)
        = List.filter (fun t => !(idx.getD (gx.getD t 0) default).dual) (List.range gx.length) := by
      apply List.filter_congr
      intro t ht
      rw [hs t (List.mem_range.1 ht)]
    rw [e2]
    apply List.filter_congr
    intro t ht
    rw [h t (List.mem_range.1 (List.mem_filter.1 ht).1)]
  have hcount := hL.trans ((congrArg List.length hmid).trans hR.symm)
  have hodd : Lazy.flipOdd sym (List.map (fun t => p + t)
        (List.filter (fun t => !(subs.getD t default).dual) (List.range gx.length))) K
      = Lazy.flipOdd sym (List.filter (fun ax => !(idx.getD ax default).dual) gx) S := by
    unfold Lazy.flipOdd
    rw [hcount]
  unfold Lazy.flipSign
  rw [hodd]

end FuseP
end SymmModel
