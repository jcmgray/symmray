/-
  SymmModel.Proofs.Heap3Sem — a VALUE semantics for the buffer table of the heap model (property C14).

  The heap model records of every buffer only its provenance `(kernel tag, argument buffers)`.  Given ANY
  interpretation `I : tag → argument values → value` of the kernels over ANY value type `V` (`V` = blocks
  of scalars and `I` = numpy's kernels; or `V` = provenance trees and `I` = the free constructor) every
  buffer id denotes a value (`look`), every block dict a dict of values (`semDict`).  `Den` relates a state
  of the heap-side run (content, buffer table, temporary dict) to the dicts of values it denotes; `SAct.sim`
  shows that one effect of the kind `phase_sync` and `_binary_blockwise_op` perform keeps the relation,
  with the denoted effect on the values — whatever the buffer ids are.
-/
import SymmModel.Proofs.Heap2Binary
import SymmModel.Proofs.BaseList
namespace SymmModel.Heap

/-- dict of values -/
abbrev SDict (V : Type) := List (Key × V)

namespace SD
variable {V : Type}
def get? (l : SDict V) (k : Key) : Option V := (l.find? (fun e => e.1 == k)).map (·.2)
def has (l : SDict V) (k : Key) : Bool := l.any (fun e => e.1 == k)
def set : SDict V → Key → V → SDict V
  | [], k, v => [(k, v)]
  | (k', v') :: r, k, v => if k' == k then (k, v) :: r else (k', v') :: set r k v
def pop (l : SDict V) (k : Key) : SDict V := l.filter (fun e => !(e.1 == k))
def update (l src : SDict V) : SDict V := src.foldl (fun acc e => set acc e.1 e.2) l
end SD

def mapV {V : Type} (g : Val → V) (l : Dict) : SDict V := l.map fun e => (e.1, g e.2)

section dicts
variable {V : Type} (g : Val → V)

theorem mapV_set (l : Dict) (k : Key) (v : Val) : mapV g (Dict.set l k v) = SD.set (mapV g l) k (g v) := by
  induction l with
  | nil => rfl
  | cons e r ih =>
    obtain ⟨k', v'⟩ := e
    simp only [Dict.set, mapV, List.map_cons, SD.set]
    split
    · rfl
    · simp only [List.map_cons]; exact congrArg _ ih

theorem mapV_pop (l : Dict) (k : Key) : mapV g (Dict.pop l k) = SD.pop (mapV g l) k := by
  induction l with
  | nil => rfl
  | cons e r ih =>
    simp only [Dict.pop, SD.pop, mapV, List.filter_cons, List.map_cons] at ih ⊢
    split
    · simp only [List.map_cons]; exact congrArg _ ih
    · exact ih

theorem mapV_update (l src : Dict) : mapV g (Dict.update l src) = SD.update (mapV g l) (mapV g src) := by
  induction src generalizing l with
  | nil => rfl
  | cons e r ih =>
    simp only [Dict.update, SD.update, mapV, List.foldl_cons, List.map_cons] at ih ⊢
    rw [ih]
    exact congrArg (fun z => List.foldl _ z _) (mapV_set g l e.1 e.2)

theorem has_mapV (l : Dict) (k : Key) : SD.has (mapV g l) k = Dict.has l k := by
  simp [SD.has, Dict.has, mapV, List.any_map, Function.comp_def]

theorem get?_mapV (l : Dict) (k : Key) : SD.get? (mapV g l) k = (Dict.get? l k).map g := by
  induction l with
  | nil => rfl
  | cons e r ih =>
    simp only [SD.get?, Dict.get?, mapV, List.map_cons, List.find?_cons] at ih ⊢
    split <;> simp_all

theorem mapV_congr {g g' : Val → V} (l : Dict) (h : ∀ e ∈ l, g e.2 = g' e.2) : mapV g l = mapV g' l := by
  apply List.map_congr_left
  intro e he; rw [h e he]

theorem mem_dict_set {l : Dict} {k : Key} {v : Val} {e : Key × Val} (h : e ∈ Dict.set l k v) :
    e ∈ l ∨ e = (k, v) := by
  induction l with
  | nil => simp [Dict.set] at h; exact Or.inr h
  | cons e' r ih =>
    obtain ⟨k', v'⟩ := e'
    simp only [Dict.set] at h
    split at h
    · simp only [List.mem_cons] at h ⊢
      rcases h with h | h
      · exact Or.inr h
      · exact Or.inl (Or.inr h)
    · simp only [List.mem_cons] at h ⊢
      rcases h with h | h
      · exact Or.inl (Or.inl h)
      · rcases ih h with h1 | h1
        · exact Or.inl (Or.inr h1)
        · exact Or.inr h1

theorem dict_get?_mem {l : Dict} {k : Key} {b : Val} (h : Dict.get? l k = some b) : ∃ e ∈ l, e.2 = b := by
  simp only [Dict.get?, Option.map_eq_some_iff] at h
  obtain ⟨e, he, rfl⟩ := h
  exact ⟨e, List.mem_of_find?_eq_some he, rfl⟩

theorem dict_get?_key {l : Dict} {k : Key} {b : Val} (h : Dict.get? l k = some b) : k ∈ l.map (·.1) := by
  simp only [Dict.get?, Option.map_eq_some_iff] at h
  obtain ⟨e, he, _⟩ := h
  rw [← (by simpa using List.find?_some he : e.1 = k)]
  exact List.mem_map_of_mem (List.mem_of_find?_eq_some he)

theorem dict_has_getD {l : Dict} {k : Key} (h : Dict.has l k = true) :
    ∃ b, Dict.get? l k = some b ∧ Dict.getD l k 0 = b := by
  simp only [Dict.has, List.any_eq_true] at h
  obtain ⟨e, he, hk⟩ := h
  cases hf : l.find? (fun e => e.1 == k) with
  | none =>
    have := List.find?_eq_none.mp hf e he
    exact absurd hk this
  | some e' => exact ⟨e'.2, by simp [Dict.get?, hf], by simp [Dict.getD, Dict.get?, hf]⟩

end dicts


section sem
variable {V : Type} (I : Nat → List V → V) (d : V)

def valsFrom (vs : List V) (bufs : Bufs) : List V :=
  bufs.foldl (fun vs e => vs ++ [I e.1 (e.2.map fun a => vs.getD a d)]) vs

/-- the values of all buffers of a table, in order (arguments refer to earlier entries) -/
def vals (bufs : Bufs) : List V := valsFrom I d [] bufs

/-- the value of buffer `b` -/
def look (bufs : Bufs) (b : BufId) : V := (vals I d bufs).getD b d

/-- the denotation of a block dict -/
def semDict (bufs : Bufs) (l : Dict) : SDict V := mapV (fun v => look I d bufs v.toNat) l

theorem valsFrom_ext (vs : List V) (X : Bufs) : ∃ ys, valsFrom I d vs X = vs ++ ys ∧ ys.length = X.length := by
  induction X generalizing vs with
  | nil => exact ⟨[], by simp [valsFrom], rfl⟩
  | cons e r ih =>
    obtain ⟨ys, h1, h2⟩ := ih (vs ++ [I e.1 (e.2.map fun a => vs.getD a d)])
    refine ⟨I e.1 (e.2.map fun a => vs.getD a d) :: ys, ?_, by simp [h2]⟩
    simp only [valsFrom, List.foldl_cons] at h1 ⊢
    rw [h1, List.append_assoc]; rfl

theorem vals_append (T X : Bufs) : vals I d (T ++ X) = valsFrom I d (vals I d T) X := by
  simp [vals, valsFrom, List.foldl_append]

theorem vals_length (T : Bufs) : (vals I d T).length = T.length := by
  obtain ⟨ys, h1, h2⟩ := valsFrom_ext I d [] T
  simp only [vals, h1, List.nil_append, h2]

theorem look_append_lt (T X : Bufs) {b : BufId} (hb : b < T.length) : look I d (T ++ X) b = look I d T b := by
  obtain ⟨ys, h1, _⟩ := valsFrom_ext I d (vals I d T) X
  have hb' : b < (vals I d T).length := by rw [vals_length]; exact hb
  simp only [look, vals_append, h1, List.getD_eq_getElem?_getD, List.getElem?_append_left hb']

theorem look_new (T : Bufs) (tag : Nat) (args : List BufId) :
    look I d (T ++ [(tag, args)]) T.length = I tag (args.map (look I d T)) := by
  have hl := vals_length I d T
  simp only [look, vals_append, valsFrom, List.foldl_cons, List.foldl_nil, List.getD_eq_getElem?_getD]
  rw [← hl, List.getElem?_append_right (Nat.le_refl _)]
  simp only [Nat.sub_self, List.getElem?_cons_zero, Option.getD_some]
  rfl

/-- all buffer ids stored in a dict exist in a table of length `n` -/
def DictOK (n : Nat) (l : Dict) : Prop := ∀ e ∈ l, e.2.toNat < n

theorem DictOK.mono {n n' : Nat} {l : Dict} (h : DictOK n l) (hn : n ≤ n') : DictOK n' l :=
  fun e he => Nat.lt_of_lt_of_le (h e he) hn

theorem DictOK.get? {n : Nat} {l : Dict} (h : DictOK n l) {k : Key} {b : Val} (hb : Dict.get? l k = some b) :
    b.toNat < n := by
  obtain ⟨e, he, rfl⟩ := dict_get?_mem hb
  exact h e he

theorem DictOK.getD {n : Nat} {l : Dict} (h : DictOK n l) {k : Key} (hk : Dict.has l k = true) :
    (Dict.getD l k 0).toNat < n := by
  obtain ⟨b, hb, hg⟩ := dict_has_getD hk
  rw [hg]; exact h.get? hb

theorem semDict_append (T X : Bufs) {l : Dict} (h : DictOK T.length l) :
    semDict I d (T ++ X) l = semDict I d T l :=
  mapV_congr l (fun e he => look_append_lt I d T X (h e he))


/-- the in-place effects that occur: kernel result stored under a key, existing buffer stored under a
    key, block deleted, `phases.popitem()`, `other_blocks.pop(k)` on the temporary dict -/
inductive SAct
  | kern (k : Key) (tag : Nat) (args : List BufId)
  | put (k : Key) (b : BufId)
  | pop (k : Key)
  | ppop
  | tpop (k : Key)

/-- the effect as a `Mut`.  Target and temporary dict both get variable `0`: only `Mut.pure` is
    taken of the result, and it forgets the variables (Proofs/Heap2Binary) -/
def SAct.mut : SAct → Mut
  | .kern k tag args => .act 0 (.bKern k tag args)
  | .put k b => .act 0 (.bPut k b)
  | .pop k => .act 0 (.bPop k)
  | .ppop => .act 0 .pPopItem
  | .tpop k => .dmut 0 (fun l => l.pop k)

/-- the buffers the effect mentions exist in a table of length `n` -/
def SAct.ok (n : Nat) : SAct → Prop
  | .kern _ _ args => ∀ a ∈ args, a < n
  | .put _ b => b < n
  | _ => True

/-- effects on dicts of values -/
inductive SStep (V : Type)
  | set (k : Key) (v : V)
  | pop (k : Key)
  | tpop (k : Key)
  | skip

def SStep.run : SStep V → SDict V × SDict V → SDict V × SDict V
  | .set k v, s => (SD.set s.1 k v, s.2)
  | .pop k, s => (SD.pop s.1 k, s.2)
  | .tpop k, s => (s.1, SD.pop s.2 k)
  | .skip, s => s

/-- the denotation of an effect whose buffers live in `T0` -/
def SAct.toS (T0 : Bufs) : SAct → SStep V
  | .kern k tag args => .set k (I tag (args.map (look I d T0)))
  | .put k b => .set k (look I d T0 b)
  | .pop k => .pop k
  | .ppop => .skip
  | .tpop k => .tpop k

def SAct.ph : Option Dict → SAct → Option Dict
  | p, .ppop => p.map Dict.popItem
  | p, _ => p

theorem SAct.foldl_ph_of_ne_ppop (p : Option Dict) : ∀ l : List SAct, (∀ a ∈ l, a ≠ .ppop) → l.foldl SAct.ph p = p
  | [], _ => rfl
  | a :: r, h => by
    have ha := h a (List.mem_cons_self ..)
    have : SAct.ph p a = p := by cases a <;> first | rfl | exact absurd rfl ha
    rw [List.foldl_cons, this]
    exact SAct.foldl_ph_of_ne_ppop p r fun a' h' => h a' (List.mem_cons_of_mem _ h')

/-- the state `s` (content and buffer table of the target, temporary dict) of a run that started from the
    table `T0 ++ X` denotes the dicts of values `v`: the table has only grown, the target's buffers exist in
    it, the temporary's in `T0`, and the denotations are `v` -/
structure Den (T0 X : Bufs) (s : PState × Dict) (v : SDict V × SDict V) : Prop where
  ext : ∃ Y, s.1.2 = T0 ++ X ++ Y
  okb : DictOK s.1.2.length s.1.1.blocks
  okt : DictOK T0.length s.2
  sem : (semDict I d s.1.2 s.1.1.blocks, semDict I d T0 s.2) = v

theorem Den.set {T0 X : Bufs} {c : Content} {T : Bufs} {td : Dict} {xs ts : SDict V} {k : Key} {b : BufId}
    (D : Den I d T0 X ((c, T), td) (xs, ts)) (hb : b < T.length) :
    DictOK T.length (c.blocks.set k (b : Int)) ∧
    semDict I d T (c.blocks.set k (b : Int)) = SD.set xs k (look I d T b) := by
  refine ⟨fun e he => ?_, ?_⟩
  · rcases mem_dict_set he with h1 | h1
    · exact D.okb e h1
    · subst h1; show ((b : Int)).toNat < _; rw [Int.toNat_natCast]; exact hb
  · rw [semDict, mapV_set, Int.toNat_natCast, ← (Prod.mk.inj D.sem).1]; rfl

theorem SAct.sim (T0 X : Bufs) (a : SAct) (ha : a.ok T0.length) {s : PState × Dict} {v : SDict V × SDict V}
    (D : Den I d T0 X s v) : Den I d T0 X (a.mut.pure s) ((a.toS I d T0).run v) := by
  obtain ⟨⟨c, T⟩, td⟩ := s
  obtain ⟨xs, ts⟩ := v
  obtain ⟨Y, hY⟩ := D.ext
  have hY : T = T0 ++ (X ++ Y) := by rw [← List.append_assoc]; exact hY
  have hT0 : ∀ {b : BufId}, b < T0.length → look I d T b = look I d T0 b := fun hb => by
    rw [hY]; exact look_append_lt I d T0 _ hb
  have hlen : T0.length ≤ T.length := by rw [hY]; simp
  cases a with
  | kern k tag args =>
    -- the new buffer is the last of the table; older ones keep their value
    have D' : Den I d T0 X ((c, T ++ [(tag, args)]), td) (xs, ts) :=
      ⟨⟨Y ++ [(tag, args)], by simp [hY, List.append_assoc]⟩,
       D.okb.mono (by simp), D.okt, by
        rw [← D.sem]; congr 1; exact semDict_append I d T _ D.okb⟩
    obtain ⟨ok, sem⟩ := D'.set I d (k := k) (b := T.length) (by simp)
    refine ⟨D'.ext, ok, D.okt, ?_⟩
    show (semDict I d (T ++ [(tag, args)]) (c.blocks.set k (T.length : Int)), semDict I d T0 td) = _
    rw [sem, look_new, ← (Prod.mk.inj D.sem).2]
    simp only [SAct.toS, SStep.run]
    congr 3
    apply List.map_congr_left
    intro a' ha'
    exact hT0 (ha a' ha')
  | put k b =>
    obtain ⟨ok, sem⟩ := D.set I d (k := k) (b := b) (Nat.lt_of_lt_of_le ha hlen)
    refine ⟨D.ext, ok, D.okt, ?_⟩
    show (semDict I d T (c.blocks.set k (b : Int)), semDict I d T0 td) = _
    rw [sem, hT0 ha, ← (Prod.mk.inj D.sem).2]; rfl
  | pop k =>
    refine ⟨D.ext, fun e he => D.okb e (List.mem_filter.mp he).1, D.okt, ?_⟩
    show (semDict I d T (c.blocks.pop k), semDict I d T0 td) = _
    rw [semDict, mapV_pop, ← D.sem]; rfl
  | ppop => exact ⟨D.ext, D.okb, D.okt, D.sem⟩
  | tpop k =>
    refine ⟨D.ext, D.okb, fun e he => D.okt e (List.mem_filter.mp he).1, ?_⟩
    show (semDict I d T c.blocks, semDict I d T0 (td.pop k)) = _
    rw [semDict, semDict, mapV_pop, ← D.sem]; rfl

theorem SAct.mut_rest (a : SAct) (s : PState × Dict) :
    (a.mut.pure s).1.1.indices = s.1.1.indices ∧ (a.mut.pure s).1.1.charge = s.1.1.charge ∧
    (a.mut.pure s).1.1.oddpos = s.1.1.oddpos ∧ (a.mut.pure s).1.1.phases = SAct.ph s.1.1.phases a := by
  cases a <;> exact ⟨rfl, rfl, rfl, rfl⟩

theorem sacts_abs (T0 : Bufs) (l : List SAct) (hl : ∀ a ∈ l, a.ok T0.length) (c : Content) (X : Bufs) (td : Dict)
    (hc : DictOK (T0 ++ X).length c.blocks) (ht : DictOK T0.length td) :
    Den I d T0 X (l.foldl (fun s a => a.mut.pure s) ((c, T0 ++ X), td))
      (l.foldl (fun s a => (a.toS I d T0).run s) (semDict I d (T0 ++ X) c.blocks, semDict I d T0 td)) ∧
    (l.foldl (fun s a => a.mut.pure s) ((c, T0 ++ X), td)).1.1.indices = c.indices ∧
    (l.foldl (fun s a => a.mut.pure s) ((c, T0 ++ X), td)).1.1.charge = c.charge ∧
    (l.foldl (fun s a => a.mut.pure s) ((c, T0 ++ X), td)).1.1.oddpos = c.oddpos ∧
    (l.foldl (fun s a => a.mut.pure s) ((c, T0 ++ X), td)).1.1.phases = l.foldl SAct.ph c.phases :=
  ⟨foldl_rel (Den I d T0 X) _ _ l (fun a ha _ _ => SAct.sim I d T0 X a (hl a ha)) _ _
      ⟨⟨[], by simp⟩, hc, ht, rfl⟩,
    foldl_rel (fun (s : PState × Dict) (p : Option Dict) => s.1.1.indices = c.indices ∧
        s.1.1.charge = c.charge ∧ s.1.1.oddpos = c.oddpos ∧ s.1.1.phases = p) _ SAct.ph l
      (fun a _ s p r => by
        obtain ⟨h1, h2, h3, h4⟩ := a.mut_rest s
        exact ⟨h1.trans r.1, h2.trans r.2.1, h3.trans r.2.2.1, h4.trans (by rw [r.2.2.2])⟩)
      ((c, T0 ++ X), td) c.phases ⟨rfl, rfl, rfl, rfl⟩⟩

/-- what the effect lists of `phase_sync`, `_binary_blockwise_op`, `multiply_diagonal` do to a content `c` whose buffers
    live in the table `T`, seen from the values: the state `s` afterwards has an extended table in which its buffers
    exist, its block dict denotes `xs`, its sign dict is `ph`, and index table, charge and labels are those of `c` -/
structure Abs (T : Bufs) (c : Content) (s : PState) (xs : SDict V) (ph : Option Dict) : Prop where
  ext : ∃ Y, s.2 = T ++ Y
  ok : DictOK s.2.length s.1.blocks
  sem : semDict I d s.2 s.1.blocks = xs
  indices : s.1.indices = c.indices
  charge : s.1.charge = c.charge
  oddpos : s.1.oddpos = c.oddpos
  phases : s.1.phases = ph

end sem
end SymmModel.Heap
