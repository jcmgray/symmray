/-
  SymmModel.Proofs.SpectrumMore — the Gram matrix `Dᴴ D` of the dense form of a valid matrix (any
  charge, rectangular blocks; singular-value part of C12b): its entries between columns of one charge,
  as sums over the row table.
-/
import SymmModel.Proofs.SpectrumDense

namespace SymmModel
namespace Spectrum

open Arr LinalgLemmas

variable {R : Type} [CommRing R]

/-- `Dᴴ D` with an arbitrary conjugation `conj` on the scalars -/
def gram (conj : R → R) {m n : Nat} (D : Matrix (Fin m) (Fin n) R) : Matrix (Fin n) (Fin n) R :=
  fun j j' => ∑ i, conj (D i j) * D i j'

/-- the Gram block of column charge `c` (size `n`) in terms of elements: the sum runs over all
    row charges of the row table and all their offsets (at most one row charge contributes) -/
def _root_.SymmModel.Arr.colGram (conj : R → R) (a : Arr R) (rows : List (Charge × Nat))
    (c : Charge) (n : Nat) : Matrix (Fin n) (Fin n) R :=
  fun o o' => (rows.map (fun rm =>
    ∑ u ∈ Finset.range rm.2, conj (a.elem [rm.1, c] [u, o.1]) * a.elem [rm.1, c] [u, o'.1])).sum

theorem sum_locate (cm : List (Charge × Nat)) (F : Charge → Nat → R) :
    ∑ i ∈ Finset.range (total cm),
        F (ofLex (chargeAt cm i) : Int × Int) (offsetAt cm i)
      = (cm.map (fun rm => ∑ u ∈ Finset.range rm.2, F rm.1 u)).sum := by
  induction cm with
  | nil => simp [total, sumN]
  | cons kd rest ih =>
    obtain ⟨k, d⟩ := kd
    have ht : total ((k, d) :: rest) = d + total rest := rfl
    rw [ht, Finset.sum_range_add, List.map_cons, List.sum_cons, ← ih]
    congr 1
    · apply Finset.sum_congr rfl
      intro i hi
      have hi' := Finset.mem_range.mp hi
      simp [chargeAt, offsetAt, locate, hi']
    · apply Finset.sum_congr rfl
      intro i _
      have : ¬ (d + i < d) := by omega
      simp [chargeAt, offsetAt, locate, this]

theorem sum_map_single {α : Type} (l : List α) (f : α → R) (x : α) (hx : x ∈ l) (hnd : l.Nodup)
    (h0 : ∀ y ∈ l, y ≠ x → f y = 0) : (l.map f).sum = f x := by
  induction l with
  | nil => cases hx
  | cons a l ih =>
    rw [List.nodup_cons] at hnd
    rw [List.map_cons, List.sum_cons]
    rcases List.mem_cons.mp hx with rfl | hx'
    · have : (l.map f).sum = 0 := by
        apply List.sum_eq_zero
        intro v hv
        obtain ⟨y, hy, rfl⟩ := List.mem_map.mp hv
        exact h0 y (List.mem_cons_of_mem _ hy) (fun e => hnd.1 (e ▸ hy))
      rw [this, add_zero]
    · have ha : a ≠ x := fun e => hnd.1 (e ▸ hx')
      rw [h0 a List.mem_cons_self ha, zero_add]
      exact ih hx' hnd.2 (fun y hy => h0 y (List.mem_cons_of_mem _ hy))

variable {a : Arr R} {i0 i1 : Index}

/-- in a valid rank-2 array the row charge of a stored sector determines its column charge
    (`sector_inj`); this is what makes `Dᴴ D` block diagonal in the column charges -/
theorem row_disjoint (hv : a.validB = true) (h2 : a.ndim = 2) (hi : a.indices = [i0, i1])
    {d : Blk R} (hd : a.toDenseA = .ok d) (i : Fin (total (Index.sortCm i0.cm)))
    (j j' : Fin (total (Index.sortCm i1.cm)))
    (hne : chargeAt (Index.sortCm i1.cm) j.1 ≠ chargeAt (Index.sortCm i1.cm) j'.1) :
    d.get [i.1, j.1] = 0 ∨ d.get [i.1, j'.1] = 0 := by
  by_contra hcon
  rw [not_or] at hcon
  have e1 := dense_entry2 hi hd i.2 j.2
  have e2 := dense_entry2 hi hd i.2 j'.2
  have n1 := elem_ne_zero_mem (e1 ▸ hcon.1)
  have n2 := elem_ne_zero_mem (e2 ▸ hcon.2)
  have := (sector_inj hv h2 n1 n2).1 rfl
  have e := (List.cons.inj (List.cons.inj this).2).1
  exact hne (ofLex.injective e)

theorem gram_block_entry (conj : R → R) (hi : a.indices = [i0, i1])
    {d : Blk R} (hd : a.toDenseA = .ok d) (hnd : ((Index.sortCm i1.cm).map (·.1)).Nodup)
    (c : Charge) (n : Nat) (hm : (c, n) ∈ Index.sortCm i1.cm)
    (P P' : {p : Fin (total (Index.sortCm i1.cm)) // chargeAt (Index.sortCm i1.cm) p.1 = toLex c}) :
    gram conj (d.toMatrix (total (Index.sortCm i0.cm)) (total (Index.sortCm i1.cm))) P.1 P'.1
      = a.colGram conj (Index.sortCm i0.cm) c n (axisEquiv _ hnd c n hm P)
          (axisEquiv _ hnd c n hm P') := by
  unfold gram Arr.colGram
  rw [← sum_locate (Index.sortCm i0.cm) (fun r u =>
    conj (a.elem [r, c] [u, (axisEquiv _ hnd c n hm P).1])
      * a.elem [r, c] [u, (axisEquiv _ hnd c n hm P').1]),
    ← Fin.sum_univ_eq_sum_range (fun i =>
      conj (a.elem [ofLex (chargeAt (Index.sortCm i0.cm) i), c]
          [offsetAt (Index.sortCm i0.cm) i, (axisEquiv _ hnd c n hm P).1])
        * a.elem [ofLex (chargeAt (Index.sortCm i0.cm) i), c]
          [offsetAt (Index.sortCm i0.cm) i, (axisEquiv _ hnd c n hm P').1])]
  apply Finset.sum_congr rfl
  intro i _
  simp only [Blk.toMatrix]
  rw [dense_entry2 hi hd i.2 P.1.2, dense_entry2 hi hd i.2 P'.1.2, P.2, P'.2]
  rfl

end Spectrum
end SymmModel
