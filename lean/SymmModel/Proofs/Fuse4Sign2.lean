/-
  SymmModel.Proofs.Fuse4Sign2 — the sign of the fermionic fuse as a product over the dual groups.
-/
import SymmModel.Proofs.Fuse4Sign
namespace SymmModel
namespace FuseP
set_option linter.unusedSectionVars false
open SymmModel.KoszulP SymmModel.Lazy

variable {R : Type} [Zero R] [Neg R]

/-- "the first axis of the (transposed) group is dual" -/
def dualSel (a : Arr R) (groups : List (List Nat)) (g : List Nat) : Bool :=
  ((a.transposeF (calcFuseGroupInfo groups a.duals).perm).indices.getD (g.headD 0) default).dual

theorem dualGroupsF_eq (a : Arr R) (groups : List (List Nat)) :
    dualGroupsF a groups = (newGroupsF groups a.duals).filter (dualSel a groups) := rfl

theorem vpermF_eq (a : Arr R) (groups : List (List Nat)) (hok : GroupsOk groups a.ndim) :
    vpermF a groups = (List.range a.ndim).map (vfun (dualGroupsF a groups)) := by
  have hn : ((a.transposeF (calcFuseGroupInfo groups a.duals).perm).phaseFlip (axesFlipF a groups)).ndim
      = a.ndim := by
    show ((a.transposeF (calcFuseGroupInfo groups a.duals).perm).phaseFlip (axesFlipF a groups)).indices.length = _
    rw [(ValidP.phaseFlip_fields _ _).1]
    exact permutedM_length hok.adm a.indices rfl
  unfold vpermF
  rw [hn]
  rfl

theorem range_blocks {groups : List (List Nat)} {duals : List Bool} (hok : GroupsOk groups duals.length) :
    List.range duals.length
      = List.range (calcFuseGroupInfo groups duals).position ++ (newGroupsF groups duals).flatten
        ++ (List.range (calcFuseGroupInfo groups duals).axesAfter.length).map
            (fun j => (calcFuseGroupInfo groups duals).position + groups.flatten.length + j) := by
  rw [newGroupsF_flatten hok, ← flatten_le hok, List.range_add, List.range_add]

theorem koszul_vpermF (a : Arr R) (groups : List (List Nat)) (hok : GroupsOk groups a.ndim) (par : List Bool) :
    koszul par (some (vpermF a groups)) = revProd par (dualSel a groups) (newGroupsF groups a.duals) := by
  have hok' := hokD hok
  have hnd : (newGroupsF groups a.duals).flatten.Nodup := (newGroupsF_ok hok').nodup
  have hrange := range_blocks hok'
  rw [duals_length] at hrange
  rw [vpermF_eq a groups hok, dualGroupsF_eq]
  have hfl := newGroupsF_flatten hok'
  have hmap := map_vfun_blocks hnd (dualSel a groups) (List.range (calcFuseGroupInfo groups a.duals).position)
    ((List.range (calcFuseGroupInfo groups a.duals).axesAfter.length).map
      (fun j => (calcFuseGroupInfo groups a.duals).position + groups.flatten.length + j))
    (by
      intro x hx hm
      rw [hfl] at hm
      simp only [List.mem_range] at hx
      simp only [List.mem_map, List.mem_range] at hm
      obtain ⟨t, _, rfl⟩ := hm; omega)
    (by
      intro y hy hm
      rw [hfl] at hm
      simp only [List.mem_map, List.mem_range] at hy hm
      obtain ⟨j, _, rfl⟩ := hy
      obtain ⟨t, ht, he⟩ := hm; omega)
  rw [hrange, hmap, koszul_reverse_blocks par (dualSel a groups) _ _ _ a.ndim (by rw [← hrange]),
    ← hrange, koszul_id', Int.one_mul]

/-- the sign factor of one dual group on the transposed sector `S`: flip of the group's non-dual
    legs times the reversal sign of the group's odd charges -/
def groupSign (a : Arr R) (groups : List (List Nat)) (S : Sector) (g : List Nat) : Int :=
  flipSign a.sym (g.filter (fun ax =>
      !((a.transposeF (calcFuseGroupInfo groups a.duals).perm).indices.getD ax default).dual)) S
    * revSign (S.map a.sym.parity) g

theorem groupSign_pm (a : Arr R) (groups : List (List Nat)) (S : Sector) (g : List Nat) :
    groupSign a groups S g = 1 ∨ groupSign a groups S g = -1 :=
  Lazy.mul_pm (Lazy.flipSign_pm _ _ _) (revSign_pm _ _)

theorem flipSign_eq_sgn (sym : Sym) (axs : List Nat) (s : Sector) :
    Lazy.flipSign sym axs s = sgn (axs.filter (fun ax => sym.parity (s.getD ax (0, 0)))).length := by
  unfold Lazy.flipSign Lazy.flipOdd sgn
  generalize (axs.filter (fun ax => sym.parity (s.getD ax (0, 0)))).length = c
  rcases Nat.mod_two_eq_zero_or_one c with h | h <;> simp [h]

theorem groupSign_eq (a : Arr R) (groups : List (List Nat)) (S : Sector) (g : List Nat) {idx : List Index}
    (hidx : (a.transposeF (calcFuseGroupInfo groups a.duals).perm).indices = idx) :
    groupSign a groups S g
      = sgn ((g.filter (fun ax => !(idx.getD ax default).dual)).filter
            (fun ax => a.sym.parity (S.getD ax (0, 0)))).length
        * revSign (S.map a.sym.parity) g := by
  unfold groupSign
  rw [hidx, flipSign_eq_sgn]

theorem revProd_eq_foldr (par : List Bool) (sel : List Nat → Bool) (L : List (List Nat)) :
    revProd par sel L = ((L.filter sel).map (revSign par)).foldr (· * ·) 1 := by
  induction L with
  | nil => rfl
  | cons g rest ih =>
    simp only [revProd, List.filter_cons]
    split
    · simp only [ih, List.map_cons, List.foldr_cons]
    · simp only [ih, one_mul]

theorem foldr_mul_zip (l : List (List Nat)) (f h : List Nat → Int) :
    (l.map f).foldr (· * ·) 1 * (l.map h).foldr (· * ·) 1 = (l.map (fun g => f g * h g)).foldr (· * ·) 1 := by
  induction l with
  | nil => rfl
  | cons g rest ih =>
    simp only [List.map_cons, List.foldr_cons]
    rw [← ih]
    ring

theorem fuseSignT_groups (a : Arr R) (groups : List (List Nat)) (hok : GroupsOk groups a.ndim) (S : Sector) :
    fuseSignT a groups S
      = ((dualGroupsF a groups).map (groupSign a groups S)).foldr (· * ·) 1 := by
  unfold fuseSignT
  rw [fuseSignT_flip]
  by_cases he : (dualGroupsF a groups).isEmpty = true
  · have : dualGroupsF a groups = [] := by simpa using he
    simp only [List.getD_eq_getElem?_getD, this, List.map_nil, List.foldr_nil, List.isEmpty_nil, ↓reduceIte,
      mul_one]
  · simp only [he, Bool.false_eq_true, if_false]
    rw [koszul_vpermF a groups hok, revProd_eq_foldr, ← dualGroupsF_eq, foldr_mul_zip]
    rfl

theorem fuseSignF_groups (a : Arr R) (groups : List (List Nat)) (hok : GroupsOk groups a.ndim) (s : Sector) :
    fuseSignF a groups s
      = ((dualGroupsF a groups).map
            (groupSign a groups (permuted s (calcFuseGroupInfo groups a.duals).perm))).foldr (· * ·) 1
        * koszul (a.parities s) (some (calcFuseGroupInfo groups a.duals).perm) := by
  unfold fuseSignF
  rw [fuseSignT_groups a groups hok]

section SignAdj
variable {a : Arr R} {groups : List (List Nat)}

theorem fuseF_fusedArrM [LawfulNeg R] (e : Bool) (hv : a.validB = true) (hf : a.fermi = true)
    (hok : GroupsOk groups a.ndim) :
    Arr.fuseF a groups .insert e = .ok (fusedArrM (signAdj a groups) (newGroupsF groups a.duals))
      ∧ (fusedArrM (signAdj a groups) (newGroupsF groups a.duals)).validB = true
      ∧ (fusedArrM (signAdj a groups) (newGroupsF groups a.duals)).fermi = true := by
  obtain ⟨hy, _⟩ := fuseF_elemT a groups e hv hf hok
  refine ⟨hy, (ValidP.validB_iff _).2 (ValidP.fuseF_valid a _ groups e ((ValidP.validB_iff a).1 hv) hf
    (admissible_of_groupsOk hok) hy), ?_⟩
  show (signAdj a groups).fermi = true
  rw [(signAdj_fields a groups).2.2.2.1]; exact hf

end SignAdj

end FuseP
end SymmModel
