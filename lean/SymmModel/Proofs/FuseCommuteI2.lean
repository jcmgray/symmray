/-
  SymmModel.Proofs.FuseCommuteI2 — the result addresses used by the free-leg-group theorems lie in
  the result's table box (`tableBox_left`, `tableBox_right`).  Namespace `SymmModel.TdotP`.
-/
import SymmModel.Proofs.FuseCommuteI1
import SymmModel.Props.C06h

namespace SymmModel
namespace TdotP
variable {R : Type}

theorem tableBox_left {X Y : Arr R} {xx xy : List Nat} {M : Sector} {O shp : List Nat}
    {Rs : Sector} {oR shpR : List Nat}
    (hM : Arr.blockShape? X.indices M = some shp) (hO : inBox shp O = true)
    (hR : Arr.blockShape? (permuted Y.indices (freeAxes Y.ndim xy)) Rs = some shpR)
    (hbR : inBox shpR oR = true) :
    ∃ s, Arr.blockShape? (without X.indices xx ++ without Y.indices xy) (permuted M (freeAxes X.ndim xx) ++ Rs)
          = some s
      ∧ inBox s (permuted O (freeAxes X.ndim xx) ++ oR) = true := by
  have eX : X.indices.length = X.ndim := rfl
  have eY : Y.indices.length = Y.ndim := rfl
  have hlt : ∀ x ∈ freeAxes X.ndim xx, x < X.ndim := fun x hx => (mem_freeAxes.mp hx).1
  have hshl : shp.length = X.ndim := (blockShape?_length hM).2
  have h1 := blockShape?_permuted hM (freeAxes X.ndim xx) hlt
  have h2 : inBox (permuted shp (freeAxes X.ndim xx)) (permuted O (freeAxes X.ndim xx)) = true :=
    inBox_permuted hO _ (by intro q hq; rw [hshl]; exact hlt q hq)
  refine ⟨permuted shp (freeAxes X.ndim xx) ++ shpR, ?_, ?_⟩
  · rw [without_eq_permuted_freeAxes, without_eq_permuted_freeAxes, eX, eY]
    exact blockShape?_append h1 hR
  · rw [inBox_append (inBox_length h2), h2, hbR]; rfl

theorem tableBox_right {X Y : Arr R} {xx xy : List Nat} {M : Sector} {O shp : List Nat}
    {Ls : Sector} {oL shpL : List Nat}
    (hL : Arr.blockShape? (permuted X.indices (freeAxes X.ndim xx)) Ls = some shpL)
    (hbL : inBox shpL oL = true)
    (hM : Arr.blockShape? Y.indices M = some shp) (hO : inBox shp O = true) :
    ∃ s, Arr.blockShape? (without X.indices xx ++ without Y.indices xy) (Ls ++ permuted M (freeAxes Y.ndim xy))
          = some s
      ∧ inBox s (oL ++ permuted O (freeAxes Y.ndim xy)) = true := by
  have eX : X.indices.length = X.ndim := rfl
  have eY : Y.indices.length = Y.ndim := rfl
  have hlt : ∀ x ∈ freeAxes Y.ndim xy, x < Y.ndim := fun x hx => (mem_freeAxes.mp hx).1
  have hshl : shp.length = Y.ndim := (blockShape?_length hM).2
  have h1 := blockShape?_permuted hM (freeAxes Y.ndim xy) hlt
  have h2 : inBox (permuted shp (freeAxes Y.ndim xy)) (permuted O (freeAxes Y.ndim xy)) = true :=
    inBox_permuted hO _ (by intro q hq; rw [hshl]; exact hlt q hq)
  refine ⟨shpL ++ permuted shp (freeAxes Y.ndim xy), ?_, ?_⟩
  · rw [without_eq_permuted_freeAxes, without_eq_permuted_freeAxes, eX, eY]
    exact blockShape?_append hL h1
  · rw [inBox_append (inBox_length hbL), hbL, h2]; rfl

end TdotP
end SymmModel
