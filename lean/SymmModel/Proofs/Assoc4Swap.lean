/-
  SymmModel.Proofs.Assoc4Swap — operand order at the ROOT of a bracketing of a chain: S5 under the
  weak guard (`Assoc4P.tdotF_swap_w`, Proofs/Routes3.lean) applied to the two contracted pieces.
-/
import SymmModel.Proofs.Assoc4Tree

namespace SymmModel
namespace Assoc4P
open TdotP GradedP OddposP AssocP Assoc3P

variable {R : Type}

section s5
variable [AddCommMonoid R] [Mul R] [Neg R] [SignRing R]
open Lazy (sgnI)

/-- **the root of a bracketing with its operands passed in the other order** (commutative scalars):
    `a.eval = Ta`, `b.eval = Tb`; the call `Tb · Ta` succeeds, has the labels and charge of
    `T = Ta ∘ Tb = (node a b).eval`, and its value at the address with the two free parts exchanged
    is the Koszul sign of the rotation times the value of `T` (S5 for contracted pieces). -/
theorem root_swap [AssocLaws R] (hmul : ∀ x y : R, x * y = y * x) (a b : STree R)
    (hok : (STree.node a b).OK) (hd : OddposP.LabelsDistinct (a.labels ++ b.labels)) :
    ∃ Ta Tb T c', a.eval = .ok Ta ∧ b.eval = .ok Tb ∧ (STree.node a b).eval = .ok T
      ∧ tdF Ta.arr Tb.arr Ta.r Tb.l = .ok T.arr
      ∧ tdF Tb.arr Ta.arr Tb.l Ta.r = .ok c'
      ∧ c'.oddpos = T.arr.oddpos ∧ c'.charge = T.arr.charge ∧ c'.sym = T.arr.sym
      ∧ ∀ (L Rr : Sector) (oL oR : List Nat), L.length = (freeAxes Ta.arr.ndim Ta.r).length →
          Rr.length = (freeAxes Tb.arr.ndim Tb.l).length →
          oL.length = (freeAxes Ta.arr.ndim Ta.r).length →
          oR.length = (freeAxes Tb.arr.ndim Tb.l).length →
          inBox (Arr.blockShapeD (without Ta.arr.indices Ta.r ++ without Tb.arr.indices Tb.l) (L ++ Rr))
            (oL ++ oR) = true →
          c'.elem (Rr ++ L) (oR ++ oL)
            = sgnI (koszul ((L ++ Rr).map Ta.arr.sym.parity)
                (some ((List.range Rr.length).map (L.length + ·) ++ List.range L.length)))
                (T.arr.elem (L ++ Rr) (oL ++ oR)) := by
  obtain ⟨oa, ob, lk⟩ := hok
  have hda : OddposP.LabelsDistinct a.labels :=
    dist_of hd _ (List.Perm.refl _) (List.sublist_append_left _ _)
  have hdb : OddposP.LabelsDistinct b.labels :=
    dist_of hd _ (List.Perm.refl _) (List.sublist_append_right _ _)
  obtain ⟨Ta, _, ea, ga, _, _, _⟩ := tree_eqv_leftnested a oa hda
  obtain ⟨Tb, _, eb, gb, _, _, _⟩ := tree_eqv_leftnested b ob hdb
  obtain ⟨T, eT, gT⟩ := comp_good ga gb lk hd
  have W := admW_of_good ga gb lk
  have hcall : tdF Ta.arr Tb.arr Ta.r Tb.l = .ok T.arr := by
    unfold Seg.comp at eT
    cases hz : tdF Ta.arr Tb.arr Ta.r Tb.l with
    | error err => rw [hz] at eT; cases eT
    | ok Z =>
      rw [hz] at eT
      simp only [Except.map, Except.ok.injEq] at eT
      rw [← eT]
  have hd' : (Ta.arr.oddpos ++ Tb.arr.oddpos).Pairwise (fun x y => x.1 ≠ y.1) :=
    OddposP.LabelsDistinct.perm hd (ga.perm.symm.append gb.perm.symm)
  obtain ⟨c', e', q1, q2, q3, _, q5⟩ := tdotF_swap_w Ta.arr Tb.arr T.arr Ta.r Tb.l hmul W hd' hcall
  refine ⟨Ta, Tb, T, c', ea, eb, ?_, hcall, e', q1, q2, q3, q5⟩
  show (match a.eval, b.eval with
    | .ok s1, .ok s2 => s1.comp s2
    | .error e, _ => .error e
    | .ok _, .error e => .error e) = _
  rw [ea, eb]
  exact eT

end s5

end Assoc4P
end SymmModel
