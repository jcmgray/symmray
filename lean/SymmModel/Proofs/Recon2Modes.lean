/-
  SymmModel.Proofs.Recon2Modes — reconstruction of a matrix from its `qr`/`svd` factors through
  `tensordot` (`Arr.tensordotF`, fermionic arrays) in every contraction mode: the factors are an
  aligned pair (`Recon3P.tdotF_pair_any_mode`) whose block maps reproduce every block
  (`LinalgLemmas.Reproduces`; `U·diag(s)`, `VH` is such a pair: `usOf` in Proofs/LinalgRecon.lean).
  The abelian fused / auto case is `C11.tdotA_factors_modes` in Props/C11d.lean.
-/
import SymmModel.Proofs.Recon2Core

namespace SymmModel
namespace Recon2P
set_option linter.unusedSectionVars false
open LinalgLemmas ReconP TdotP GradedP RoutesP OddposP
open Lazy (sgnI phOf)

variable {R : Type}

section fermi
variable {x : Arr R}

theorem addrOf_of_table {a : Arr R} (hv : a.validB = true) {s : Sector} {off : List Nat}
    (h : inBox (Arr.blockShapeD a.indices s) off = true) : AddrOf a s off := by
  by_cases hs : s ∈ a.sectors
  · obtain ⟨⟨s0, b⟩, hm, e⟩ := List.mem_map.mp hs
    have e' : s0 = s := e
    subst e'
    refine Or.inr ⟨b, hm, ?_⟩
    have := Arr.validB_block_shape hv hm
    unfold Arr.blockShapeD at h
    rw [this] at h
    exact h
  · exact Or.inl hs

theorem recon_of_blocks [Zero R] [Neg R] (hv : x.validB = true) (h2 : x.ndim = 2) (c : Arr R)
    (hval : ∀ s b, (s, b) ∈ x.blocks → ∀ m n, b.shape = [m, n] → ∀ i j, i < m → j < n →
      c.elem s [i, j] = sgnI (phOf x.phases s) (b.get [i, j]))
    (s : Sector) (off : List Nat) (ha : AddrOf x s off) (hz : s ∉ x.sectors → c.elem s off = 0) :
    c.elem s off = x.elem s off := by
  obtain ⟨i0, i1, hi⟩ := ndim_two h2
  rcases ha with hns | ⟨b, hm, hbox⟩
  · have h1 : alookup x.blocks s = none := alookup_eq_none_iff.mpr hns
    rw [hz hns]
    simp [Arr.elem, h1]
  · obtain ⟨r, c', m, n, B⟩ := mat_block hv hi hm
    rw [B.hshape] at hbox
    obtain ⟨i, j, rfl, hij⟩ := inBox_pair_elim hbox
    rw [hval s b hm m n B.hshape i j hij.1 hij.2, elem_sgn (Arr.validB_nodup hv) hm]

variable [AddCommMonoid R] [Mul R] [Neg R] [SignRing R] {L Rt : Blk R → Blk R}

theorem factors_values (hv : x.validB = true)
    (hC : Reproduces L Rt)
    {c : Arr R}
    (h : ∀ p ∈ x.blocks, ∀ i j, i < p.2.shape.getD 0 0 → j < p.2.shape.getD 1 0 →
      c.elem p.1 [i, j] = sgnI (phOf x.phases p.1)
        ((List.range (min (p.2.shape.getD 0 0) (p.2.shape.getD 1 0))).foldl
          (fun acc t => acc + (L p.2).get [i, t] * (Rt p.2).get [t, j]) 0)) :
    ∀ s b, (s, b) ∈ x.blocks → ∀ m n, b.shape = [m, n] → ∀ i j, i < m → j < n →
      c.elem s [i, j] = sgnI (phOf x.phases s) (b.get [i, j]) := by
  intro s b hm m n hs i j hi hj
  have hwf : b.wf = true := Arr.validB_block_wf hv hm
  have := h (s, b) hm i j
  simp only [hs, List.getD_cons_zero, List.getD_cons_succ] at this
  rw [this hi hj, hC b m n hs hwf i j hi hj]

/-- **blockwise.**  `x` a valid fermionic matrix with sorted labels, `L`, `Rt` shape-correct block
    maps that reproduce every block.  `tensordot_fermionic(left, right, ([1],[0]),
    mode="blockwise")` has `x`'s labels, sectors and block shapes, no pending signs, and `x`'s
    element (value view) at every address of `x`. -/
theorem tdotF_recon_blockwise (hv : x.validB = true) (h2 : x.ndim = 2) (hf : x.fermi = true)
    (hlab : SortedLabels x.oddpos) (hL : FacShape L Rt)
    (hC : Reproduces L Rt) :
    ∃ c, (leftF x L).tensordotF (rightF x L Rt) (.pair [1] [0]) .blockwise = .ok c
      ∧ c.oddpos = x.oddpos ∧ c.phases = [] ∧ c.sectors = x.sectors
      ∧ (∀ p ∈ c.blocks, p.2.shape = Arr.blockShapeD x.indices p.1)
      ∧ ∀ s off, AddrOf x s off → c.elem s off = x.elem s off := by
  obtain ⟨c, h1, h3, _, hbw, h7, h8, _⟩ := Recon3P.tdotF_pair_any_mode hv h2 hlab
    (Recon3P.factors_pair (L := L) (Rt := Rt) hv h2 hf hL) .blockwise (Or.inl rfl)
  obtain ⟨h2', h4⟩ := hbw rfl
  have h4' : c.sectors = x.sectors := by
    rw [h4]; simp [Arr.sectors]
  refine ⟨c, h1, h3, h2', h4', fun p hp => h7 p.1 p.2 (alookup_of_mem_nodup
      (by show c.sectors.Nodup; rw [h4']; exact Arr.validB_nodup hv) hp), fun s off ha =>
    recon_of_blocks hv h2 c (factors_values hv hC h8) s off ha (fun hs => ?_)⟩
  have : alookup c.blocks s = none := by
    rw [alookup_eq_none_iff]; show s ∉ c.sectors; rw [h4']; exact hs
  simp only [Arr.elem, this]

/-- **every contraction mode.**  The same call in any mode succeeds, carries `x`'s labels, stores
    every sector of `x` in blocks of the shape `x`'s index tables give, and has `x`'s element at
    every address of `x`'s index tables. -/
theorem tdotF_recon_any_mode (hz1 : ∀ x : R, 0 * x = 0) (hz2 : ∀ x : R, x * 0 = 0)
    (hv : x.validB = true) (h2 : x.ndim = 2) (hf : x.fermi = true)
    (hlab : SortedLabels x.oddpos) (hL : FacShape L Rt)
    (hC : Reproduces L Rt)
    (tm : TdotMode) :
    ∃ c, (leftF x L).tensordotF (rightF x L Rt) (.pair [1] [0]) tm = .ok c
      ∧ c.oddpos = x.oddpos ∧ (∀ s ∈ x.sectors, s ∈ c.sectors)
      ∧ (∀ s V, alookup c.blocks s = some V → V.shape = Arr.blockShapeD x.indices s)
      ∧ ∀ s off, inBox (Arr.blockShapeD x.indices s) off = true → c.elem s off = x.elem s off := by
  obtain ⟨c, h1, h2', h3, _, h5, h6, h7⟩ := Recon3P.tdotF_pair_any_mode hv h2 hlab
    (Recon3P.factors_pair (L := L) (Rt := Rt) hv h2 hf hL) tm (Or.inr ⟨hz1, hz2⟩)
  exact ⟨c, h1, h2', h3, h5, fun s off hbox =>
    recon_of_blocks hv h2 c (factors_values hv hC h6) s off (addrOf_of_table hv hbox)
      (fun hs => h7 s hs off hbox)⟩

end fermi

end Recon2P
end SymmModel
