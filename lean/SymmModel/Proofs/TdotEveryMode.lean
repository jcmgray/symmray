/-
  SymmModel.Proofs.TdotEveryMode — the abelian `tensordot` in ANY mode against the blockwise result
  (`tensordotA_every_mode`, from `C06.tensordotA_modes_agree_all`): the call succeeds, stores every
  sector of the blockwise result, its stored blocks have the shapes of the un-pruned result tables,
  and at EVERY address of that table box (stored sector or not) it holds the blockwise result's
  element.  The `…_any_mode` / `…_both_modes` / `…_every_mode` theorems of the abelian side are a
  blockwise theorem followed by this.
-/
import SymmModel.Props.C06d

namespace SymmModel
namespace TdotP
variable {R : Type}

theorem tensordotA_every_mode [AddCommMonoid R] [Mul R] [Neg R]
    (hz1 : ∀ x : R, 0 * x = 0) (hz2 : ∀ x : R, x * 0 = 0)
    (a b : Arr R) (axes : AxesArg) (xa xb : List Nat)
    (hparse : parseAxes a.ndim b.ndim axes = .ok (xa, xb))
    (ha : a.validB = true) (hb : b.validB = true) (hfa : a.fermi = false) (hfb : b.fermi = false)
    (hsym : a.sym = b.sym) (hc : ValidP.contractibleB a b xa xb = true)
    (hnA : xa.Nodup) (hnB : xb.Nodup) (hA : ∀ x ∈ xa, x < a.ndim) (hB : ∀ x ∈ xb, x < b.ndim)
    (tm : TdotMode) :
    ∃ c, tensordotA a b axes tm = .ok c
      ∧ (∀ s ∈ (tensordotBlockwise a b (freeAxes a.ndim xa) xa xb (freeAxes b.ndim xb)).sectors, s ∈ c.sectors)
      ∧ (∀ K V, alookup c.blocks K = some V →
          Arr.blockShape? (without a.indices xa ++ without b.indices xb) K = some V.shape)
      ∧ ∀ K J, inBox (Arr.blockShapeD (without a.indices xa ++ without b.indices xb) K) J = true →
          c.elem K J
            = (tensordotBlockwise a b (freeAxes a.ndim xa) xa xb (freeAxes b.ndim xb)).elem K J := by
  -- of the clauses of the property statement: the fused and the blockwise call (`e1`, `e2`), the
  -- default mode with and without contracted axes (`e3`, `e4`), blockwise sectors stored (`hsec`),
  -- values on stored entries (`hel`), block shapes (`hshape`); skipped: the six field and rank
  -- equations and the distinctness of the keys
  obtain ⟨c, bw, e1, e2, e3, e4, _, _, _, _, _, _, hsec, _, hel, hshape⟩ :=
    C06.tensordotA_modes_agree_all hz1 hz2 a b axes xa xb hparse ha hb hfa hfb hsym hc hnA hnB hA hB
  have hbw := tensordotA_blockwise_ok a b axes xa xb hparse
  rw [hbw] at e2
  obtain rfl := Except.ok.inj e2
  -- the blockwise result itself: its blocks have the shapes of its pruned tables
  have hshapeB : ∀ K V, alookup (tensordotBlockwise a b (freeAxes a.ndim xa) xa xb (freeAxes b.ndim xb)).blocks K
      = some V → Arr.blockShape? (without a.indices xa ++ without b.indices xb) K = some V.shape := by
    intro K V hK
    have hv := ValidP.tensordotBlockwise_valid a b xa xb ((ValidP.validB_iff _).mp ha)
      ((ValidP.validB_iff _).mp hb) hsym hfa (ValidP.contractible_opposite hc) hnA hnB hA hB
    rw [without_range, without_range] at hv
    have h1 := Arr.shapesOk_of_validB ((ValidP.validB_iff _).mpr hv) (K, V) (alookup_some_mem hK)
    rw [tensordotBlockwise_indices] at h1
    exact blockShape?_weaken (dropUnused_sizeLe _ _) K V.shape h1
  have hfused : ∀ K J,
      inBox (Arr.blockShapeD (without a.indices xa ++ without b.indices xb) K) J = true →
        c.elem K J
          = (tensordotBlockwise a b (freeAxes a.ndim xa) xa xb (freeAxes b.ndim xb)).elem K J :=
    fun K J hbox => elem_everywhere hsec hel K J (ownBox_of_table hshape K J hbox)
  cases tm with
  | blockwise => exact ⟨_, hbw, fun _ h => h, hshapeB, fun _ _ _ => rfl⟩
  | fused => exact ⟨c, e1, hsec, hshape, hfused⟩
  | auto =>
    by_cases hxa : xa = []
    · exact ⟨_, e4 hxa, fun _ h => h, hshapeB, fun _ _ _ => rfl⟩
    · exact ⟨c, e3 hxa, hsec, hshape, hfused⟩

end TdotP
end SymmModel
