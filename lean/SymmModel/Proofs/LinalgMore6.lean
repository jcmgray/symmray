/-
  SymmModel.Proofs.LinalgMore6 — concrete kernels over `Int` meeting the per-call contracts of
  C11b: `Kernels.eighDiag` (`EighBlock` on diagonal blocks), `Kernels.solveCopy` (`SolvesOn` for
  identity blocks), and the singular values `Kernels.trivialFactor` returns (`trivialFactor_s`,
  used by the `sqrt` examples of Props/C11b, C11c; the `OrthoBlock` instance is an example in
  Props/C11b).
-/
import SymmModel.Proofs.LinalgMore5

namespace SymmModel

open scoped SymmModel.Lazy

/-- `eigh` for DIAGONAL blocks: eigenvalues = the diagonal, eigenvectors = identity -/
def Kernels.eighDiag : Kernels Int :=
  { (Kernels.shapeOnly : Kernels Int) with
    eigh := fun b =>
      let m := b.shape.getD 0 0
      (Blk.ofFn [m] (fun i => b.get [i.getD 0 0, i.getD 0 0]), LinalgLemmas.eyeI m) }

/-- `solve` returning (a copy of the right size of) the right-hand side: exact for identity
    blocks -/
def Kernels.solveCopy : Kernels Int :=
  { (Kernels.shapeOnly : Kernels Int) with
    solve := fun a b => Blk.ofFn [a.shape.getD 1 0] (fun i => b.get i) }

namespace LinalgLemmas

theorem eighDiag_shapeOk : Kernels.eighDiag.ShapeOk where
  qr b m n hs hw := (shapeOnly_shapeOk (R := Int)).qr b m n hs hw
  svd b m n hs hw := (shapeOnly_shapeOk (R := Int)).svd b m n hs hw
  eigh b m hs _ := by
    simp only [Kernels.eighDiag, hs, List.getD_cons_zero]
    exact ⟨rfl, ofFn_wf _ _, rfl, ofFn_wf _ _⟩
  solve a b m n hs hw := (shapeOnly_shapeOk (R := Int)).solve a b m n hs hw

def IsDiag (b : Blk Int) : Prop :=
  ∀ m, b.shape = [m, m] → ∀ i j, i < m → j < m → i ≠ j → b.get [i, j] = 0

theorem isDiag_negK {b : Blk Int} (h : IsDiag b) : IsDiag b.negK := by
  intro m hs i j hi hj hne
  rw [negK_get (by rfl)]
  rw [h m hs i j hi hj hne]; rfl

theorem eighDiag_block (b : Blk Int) (hd : IsDiag b) :
    Kernels.eighDiag.EighBlock b := by
  intro m hs i j hi hj
  simp only [Kernels.eighDiag, hs, List.getD_cons_zero]
  have := sum_delta
    (fun t => (Blk.ofFn [m] (fun i => b.get [i.getD 0 0, i.getD 0 0])).get [t]
      * Conj.conj ((eyeI m).get [j, t]))
    (fun t => ((eyeI m).get [i, t] * (Blk.ofFn [m] (fun i => b.get [i.getD 0 0, i.getD 0 0])).get [t])
      * Conj.conj ((eyeI m).get [j, t])) i m 0
    (fun t ht => by rw [eyeI_get hi ht]; split <;> simp)
  rw [this]
  simp only [hi, if_true, Int.zero_add]
  rw [ofFn_get _ _ ((inBox_single m i).mpr hi), eyeI_get hj hi]
  show b.get [i, i] * (if j = i then 1 else 0) = b.get [i, j]
  by_cases e : j = i
  · subst e; simp
  · rw [if_neg e, Int.mul_zero]
    exact (hd m hs i j hi hj (fun h => e h.symm)).symm

theorem solveCopy_shapeOk : Kernels.solveCopy.ShapeOk where
  qr b m n hs hw := (shapeOnly_shapeOk (R := Int)).qr b m n hs hw
  svd b m n hs hw := (shapeOnly_shapeOk (R := Int)).svd b m n hs hw
  eigh b m hs hw := (shapeOnly_shapeOk (R := Int)).eigh b m hs hw
  solve a b m n hs _ := by
    simp only [Kernels.solveCopy, hs, List.getD_cons_succ, List.getD_cons_zero]
    exact ⟨rfl, ofFn_wf _ _⟩

theorem solveCopy_solvesOn (a b : Arr Int)
    (hI : ∀ s arr, (s, arr) ∈ a.blocks → ∃ n, arr = eyeI n) : Kernels.solveCopy.SolvesOn a b := by
  intro s arr bb hm _ i hi
  obtain ⟨n, rfl⟩ := hI s arr hm
  have hi' : i < n := hi
  show (List.range n).foldl (fun acc t => acc + (eyeI n).get [i, t]
    * (Blk.ofFn [n] (fun i => bb.get i)).get [t]) 0 = bb.get [i]
  have := sum_delta (fun t => (Blk.ofFn [n] (fun i => bb.get i)).get [t])
    (fun t => (eyeI n).get [i, t] * (Blk.ofFn [n] (fun i => bb.get i)).get [t]) i n 0
    (fun t ht => by rw [eyeI_get hi' ht]; split <;> simp)
  rw [this]
  simp only [hi', if_true, Int.zero_add]
  rw [ofFn_get _ _ ((inBox_single n i).mpr hi')]

theorem trivialFactor_s (b : Blk Int) {m n : Nat} (hs : b.shape = [m, n]) :
    (Kernels.trivialFactor.svd b).2.1 = onesI (min m n) := by
  simp only [Kernels.trivialFactor, hs, List.getD_cons_zero, List.getD_cons_succ]
  split
  next h => rw [Nat.min_eq_left h]
  next h => rw [Nat.min_eq_right (by omega)]

end LinalgLemmas
end SymmModel
