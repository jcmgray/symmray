/-
  SymmModel.Proofs.NormNet15 — network form of the norm (property C10), part 15:
  the network setup for operands with any sorted lists of ket labels (the four `LabelRoutes` of the
  sequential bracketings come from the label check `netLabelsB`, which holds for distinct labels:
  `LabelAlg.netLabelsB_of_distinct`); the six bracketings without guard on the index tables, and their
  special case under the guard `netFullB` for at most one ket label per tensor.
-/
import SymmModel.Proofs.NormNet14
namespace SymmModel.NormNet
open SymmModel SymmModel.Lazy SymmModel.Norm SymmModel.TdotP SymmModel.RoutesP
open SymmModel.AssocP
open SymmModel.OddposP (mergeOddpos)
set_option linter.unusedSectionVars false

section setup
variable {R : Type} [AddCommMonoid R] [Mul R] [Neg R] [Conj R] [NetLaws R] [AssocLaws R]

theorem net_setup (a b : Arr R) (xa xb : List Nat)
    (ha : a.validB = true) (hb : b.validB = true) (hfa : a.fermi = true) (hfb : b.fermi = true)
    (hadm : ValidP.tdotAdmissibleB a b xa xb = true)
    (hoA : KetLabels a.oddpos) (hoB : KetLabels b.oddpos)
    (hd : (a.oddpos ++ b.oddpos).Pairwise (fun x y => x.1 ≠ y.1)) :
    ∃ K Kb r r', NetSetup a b K Kb r r' xa xb := by
  obtain ⟨K, Kb, r, r', H⟩ := network_norm_halves a b xa xb ha hb hfa hfb hadm hoA hoB hd
  have h := Adm.of ha hb hfa hfb hadm
  obtain ⟨hKs, hKc, ph, hm⟩ := tdot_fields h H.eK
  obtain ⟨c1, c2, c3, c4, c5, c6⟩ := conjF_frame K true true
  have hKp : K.parity = xor a.parity b.parity := by
    unfold Arr.parity
    rw [hKs, hKc, Sym.parity_combine_pair, h.sym]
  have hXp : Kb.parity = xor a.parity b.parity := by
    rw [← hKp]
    unfold Arr.parity
    rw [H.obs.sym, H.obs.charge, c1, c4, Sym.parity_sign]
  obtain ⟨l3, l4, l2, l1⟩ := netLabelsB_spec hm
    (LabelAlg.netLabelsB_of_distinct a.parity b.parity a.oddpos b.oddpos hd)
  exact ⟨K, Kb, r, r', H, hKs, by rw [H.obs.sym, c1, hKs], by rw [H.obs.indices, c3], hKp, hXp,
    by rw [H.obs.oddpos, c5], l1, l2, l3, l4⟩

/-- **the six bracketings** `B1, B2, S1–S4` of the norm network, no guard on the index tables;
    operands with sorted ket label lists -/
def Bracketings6 (a b : Arr R) (xa xb : List Nat) : Prop :=
  ∃ K Kb, a.tensordotF b (.pair (xa.map Int.ofNat) (xb.map Int.ofNat)) .blockwise = .ok K
    ∧ (braOf a xa).tensordotF (braOf b xb) (.pair (xa.map Int.ofNat) (xb.map Int.ofNat)) .blockwise
        = .ok Kb
    ∧ (∃ r r', r.ndim = 0 ∧ r.oddpos = [] ∧ r.elem [] [] = normSq K
        ∧ r'.ndim = 0 ∧ r'.oddpos = [] ∧ r'.elem [] [] = normSq' K
        ∧ ∀ π : List Nat, π.Perm (List.range K.ndim) →
            Kb.tensordotF K (.pair (π.map Int.ofNat) (π.map Int.ofNat)) .blockwise = .ok r
            ∧ K.tensordotF Kb (.pair (π.map Int.ofNat) (π.map Int.ofNat)) .blockwise = .ok r')
    ∧ (∃ T c, Kb.tensordotF a (.pair ((List.range (freeAxes a.ndim xa).length).map Int.ofNat)
          ((freeAxes a.ndim xa).map Int.ofNat)) .blockwise = .ok T
      ∧ T.tensordotF b (.pair ((axesTW a.ndim b.ndim xa xb).map Int.ofNat)
          ((freeAxes b.ndim xb ++ xb).map Int.ofNat)) .blockwise = .ok c
      ∧ c.ndim = 0 ∧ c.oddpos = [] ∧ c.elem [] [] = normSq K)
    ∧ (∃ T c, (braOf b xb).tensordotF K (.pair ((freeAxes b.ndim xb).map Int.ofNat)
          (((List.range (freeAxes b.ndim xb).length).map ((freeAxes a.ndim xa).length + ·)).map
            Int.ofNat)) .blockwise = .ok T
      ∧ (braOf a xa).tensordotF T (.pair ((xa ++ freeAxes a.ndim xa).map Int.ofNat)
          ((axesTWr a.ndim b.ndim xa xb).map Int.ofNat)) .blockwise = .ok c
      ∧ c.ndim = 0 ∧ c.oddpos = [] ∧ c.elem [] [] = normSq K)
    ∧ (∃ T c, K.tensordotF (braOf a xa) (.pair ((List.range (freeAxes a.ndim xa).length).map Int.ofNat)
          ((freeAxes a.ndim xa).map Int.ofNat)) .blockwise = .ok T
      ∧ T.tensordotF (braOf b xb) (.pair ((axesTW a.ndim b.ndim xa xb).map Int.ofNat)
          ((freeAxes b.ndim xb ++ xb).map Int.ofNat)) .blockwise = .ok c
      ∧ c.ndim = 0 ∧ c.oddpos = [] ∧ c.elem [] [] = normSq' K)
    ∧ (∃ T c, b.tensordotF Kb (.pair ((freeAxes b.ndim xb).map Int.ofNat)
          (((List.range (freeAxes b.ndim xb).length).map ((freeAxes a.ndim xa).length + ·)).map
            Int.ofNat)) .blockwise = .ok T
      ∧ a.tensordotF T (.pair ((xa ++ freeAxes a.ndim xa).map Int.ofNat)
          ((axesTWr a.ndim b.ndim xa xb).map Int.ofNat)) .blockwise = .ok c
      ∧ c.ndim = 0 ∧ c.oddpos = [] ∧ c.elem [] [] = normSq' K)

theorem network_norm_bracketings6 (a b : Arr R) (xa xb : List Nat)
    (ha : a.validB = true) (hb : b.validB = true) (hfa : a.fermi = true) (hfb : b.fermi = true)
    (hadm : ValidP.tdotAdmissibleB a b xa xb = true)
    (hoA : KetLabels a.oddpos) (hoB : KetLabels b.oddpos)
    (hd : (a.oddpos ++ b.oddpos).Pairwise (fun x y => x.1 ≠ y.1)) :
    Bracketings6 a b xa xb := by
  obtain ⟨K, Kb, r, r', S⟩ := net_setup a b xa xb ha hb hfa hfb hadm hoA hoB hd
  obtain ⟨K', Kb', r1, r1', eK', eKb', h2, h3, h4, g2, g3, g4, hπ⟩ :=
    network_norm_halves_any_order a b xa xb ha hb hfa hfb hadm hoA hoB hd
  obtain rfl : K' = K := Except.ok.inj (eK'.symm.trans S.eK)
  obtain rfl : Kb' = Kb := Except.ok.inj (eKb'.symm.trans S.eKb)
  obtain ⟨s1, s2, s3, s4⟩ := sequential_of_setup ha hb hfa hfb hadm S
  exact ⟨K', Kb', S.eK, S.eKb, ⟨r1, r1', h2, h3, h4, g2, g3, g4, hπ⟩, s1, s2, s3, s4⟩

theorem netLabelsB_of_oneKet {a b : Arr R} (ha : a.validB = true) (hb : b.validB = true)
    (hfa : a.fermi = true) (hfb : b.fermi = true) (hoA : OneKet a.oddpos) (hoB : OneKet b.oddpos)
    (hd : (a.oddpos ++ b.oddpos).Pairwise (fun x y => x.1 ≠ y.1)) :
    netLabelsB a.parity b.parity a.oddpos b.oddpos = true :=
  LabelAlg.netLabelsB_of_distinct _ _ _ _ hd

/-- the covered bracketings of the norm network of `a`, `b` (see `network_norm_bracketings`) -/
def Bracketings (a b : Arr R) (xa xb : List Nat) : Prop :=
    ∃ K Kb, a.tensordotF b (.pair (xa.map Int.ofNat) (xb.map Int.ofNat)) .blockwise = .ok K
      ∧ (braOf a xa).tensordotF (braOf b xb) (.pair (xa.map Int.ofNat) (xb.map Int.ofNat)) .blockwise
          = .ok Kb
      -- balanced
      ∧ (∃ r r', r.ndim = 0 ∧ r.oddpos = [] ∧ r.elem [] [] = normSq K
          ∧ r'.ndim = 0 ∧ r'.oddpos = [] ∧ r'.elem [] [] = normSq' K
          ∧ ∀ π : List Nat, π.Perm (List.range K.ndim) →
              Kb.tensordotF K (.pair (π.map Int.ofNat) (π.map Int.ofNat)) .blockwise = .ok r
              ∧ K.tensordotF Kb (.pair (π.map Int.ofNat) (π.map Int.ofNat)) .blockwise = .ok r')
      -- sequential
      ∧ (netFullB a b xa xb = true →
        (∃ T c, Kb.tensordotF a (.pair ((List.range (freeAxes a.ndim xa).length).map Int.ofNat)
              ((freeAxes a.ndim xa).map Int.ofNat)) .blockwise = .ok T
          ∧ T.tensordotF b (.pair ((axesTW a.ndim b.ndim xa xb).map Int.ofNat)
              ((freeAxes b.ndim xb ++ xb).map Int.ofNat)) .blockwise = .ok c
          ∧ c.ndim = 0 ∧ c.oddpos = [] ∧ c.elem [] [] = normSq K)
        ∧ (∃ T c, (braOf b xb).tensordotF K (.pair ((freeAxes b.ndim xb).map Int.ofNat)
              (((List.range (freeAxes b.ndim xb).length).map ((freeAxes a.ndim xa).length + ·)).map
                Int.ofNat)) .blockwise = .ok T
          ∧ (braOf a xa).tensordotF T (.pair ((xa ++ freeAxes a.ndim xa).map Int.ofNat)
              ((axesTWr a.ndim b.ndim xa xb).map Int.ofNat)) .blockwise = .ok c
          ∧ c.ndim = 0 ∧ c.oddpos = [] ∧ c.elem [] [] = normSq K)
        ∧ (∃ T c, K.tensordotF (braOf a xa) (.pair ((List.range (freeAxes a.ndim xa).length).map Int.ofNat)
              ((freeAxes a.ndim xa).map Int.ofNat)) .blockwise = .ok T
          ∧ T.tensordotF (braOf b xb) (.pair ((axesTW a.ndim b.ndim xa xb).map Int.ofNat)
              ((freeAxes b.ndim xb ++ xb).map Int.ofNat)) .blockwise = .ok c
          ∧ c.ndim = 0 ∧ c.oddpos = [] ∧ c.elem [] [] = normSq' K)
        ∧ (∃ T c, b.tensordotF Kb (.pair ((freeAxes b.ndim xb).map Int.ofNat)
              (((List.range (freeAxes b.ndim xb).length).map ((freeAxes a.ndim xa).length + ·)).map
                Int.ofNat)) .blockwise = .ok T
          ∧ a.tensordotF T (.pair ((xa ++ freeAxes a.ndim xa).map Int.ofNat)
              ((axesTWr a.ndim b.ndim xa xb).map Int.ofNat)) .blockwise = .ok c
          ∧ c.ndim = 0 ∧ c.oddpos = [] ∧ c.elem [] [] = normSq' K))

/-- **the covered bracketings of the norm network `{a, b, ā, b̄}`** in one statement.
    Balanced: `(ā·b̄)·(a·b) = normSq K`, `(a·b)·(ā·b̄) = normSq' K`, final leg pairs in any order.
    Sequential, under the guard `netFullB`: `((ā·b̄)·a)·b = ā·(b̄·(a·b)) = normSq K`,
    `((a·b)·ā)·b̄ = a·(b·(ā·b̄)) = normSq' K`.  All results have rank 0 and no labels. -/
theorem network_norm_bracketings (a b : Arr R) (xa xb : List Nat)
    (ha : a.validB = true) (hb : b.validB = true) (hfa : a.fermi = true) (hfb : b.fermi = true)
    (hadm : ValidP.tdotAdmissibleB a b xa xb = true)
    (hoA : OneKet a.oddpos) (hoB : OneKet b.oddpos)
    (hd : (a.oddpos ++ b.oddpos).Pairwise (fun x y => x.1 ≠ y.1)) :
    Bracketings a b xa xb := by
  obtain ⟨K, Kb, eK, eKb, hB, hS⟩ := network_norm_bracketings6 a b xa xb ha hb hfa hfb hadm
    hoA.ketLabels hoB.ketLabels hd
  exact ⟨K, Kb, eK, eKb, hB, fun _ => hS⟩

end setup

end SymmModel.NormNet
