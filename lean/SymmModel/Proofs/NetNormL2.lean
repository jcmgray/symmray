/-
  SymmModel.Proofs.NetNormL2 — network form of the norm (property C10), ket-bra-first bracketings,
  part 5: the hub.  For the label-free pieces `X = ā·a`, `Y = b̄·b` the routes
        `(b̄·X)·b`,   `(X·b̄)·b`,   `X·Y`
  all succeed and give ONE scalar (`hub_half`; no label check: only the routes of the triangles
  `(X, b̄, b)`, whose first piece has no label, are used), and a full contraction may be swapped at the
  root (`scalar_swap`, S5 for a scalar result).  `piece_guards`: the guards of `ā·a` with `b̄` and with `b`, from
  its frame alone, so that they hold for the piece in any mode; `hub_guards`: likewise the guards of the later
  calls `(b̄·X)·b`, `(X·b̄)·b`, `X·Y` from the frames of the intermediates.
-/
import SymmModel.Proofs.NetNormL1
import SymmModel.Proofs.TdotChain1

namespace SymmModel.NormNet
open SymmModel SymmModel.Lazy SymmModel.TdotP SymmModel.GradedP SymmModel.RoutesP
open SymmModel.AssocP SymmModel.Assoc3P SymmModel.Assoc4P SymmModel.Assoc5P SymmModel.Net4P
open SymmModel.OddposP (mergeOddpos)
set_option linter.unusedSectionVars false

section gen
variable {R : Type} [AddCommMonoid R] [Mul R] [Neg R] [SignRing R] [AssocLaws R]

theorem scalar_swap (hmul : ∀ x y : R, x * y = y * x) {p q c : Arr R} {xp xq : List Nat} {v : R}
    (W : AdmW p q xp xq) (hd : OddposP.LabelsDistinct (p.oddpos ++ q.oddpos))
    (hu : freeAxes p.ndim xp = []) (hv : freeAxes q.ndim xq = [])
    (e : tdF p q xp xq = .ok c) (h : Scal c v) :
    ∃ c', tdF q p xq xp = .ok c' ∧ Scal c' v := by
  obtain ⟨c', ec', q1, _, _, _, hel⟩ := tdotF_swap_w p q c xp xq hmul W hd e
  refine ⟨c', ec', h.transfer ?_ q1 ?_⟩
  · rw [ndim_of_call_w (admW_swap W) ec', hu, hv]; rfl
  · have e1 : without p.indices xp = [] := without_nil_of_freeAxes hu
    have e2 : without q.indices xq = [] := without_nil_of_freeAxes hv
    have := hel [] [] [] [] (by rw [hu]; rfl) (by rw [hv]; rfl) (by rw [hu]) (by rw [hv])
      (by rw [e1, e2]; rfl)
    simp only [List.append_nil, List.map_nil, koszul_nil, sgnI_one] at this
    exact this

end gen

section main
variable {R : Type} [AddCommMonoid R] [Mul R] [Neg R] [Conj R] [NetLaws R] [AssocLaws R]

/-- the routes through `X = ā·a` that end on `b`, with their common value `v`, and the blockwise weak guards
    `wXY wBX wXB` of their later calls: `hub_half_any` (NetNormL4) lifts each call to its own mode with
    `Net4P.pad_call`, and that lift needs, for every LATER call, the blockwise guard next to the guard of
    the padded operands -/
structure HubHalf (a b : Arr R) (xa xb : List Nat) (X Y : Arr R) (v : R) : Prop where
  /-- `(b̄·X)·b` -/
  rBX : ∃ BX c, tdF (braOf b xb) X xb (kbQ a.ndim xa) = .ok BX
    ∧ tdF BX b ((kbQ a.ndim xa).map ((freeAxes b.ndim xb).length + ·)
        ++ List.range (freeAxes b.ndim xb).length) (xb ++ freeAxes b.ndim xb) = .ok c ∧ Scal c v
  /-- `(X·b̄)·b` -/
  rXB : ∃ XB c, tdF X (braOf b xb) (kbQ a.ndim xa) xb = .ok XB
    ∧ tdF XB b (kbQ a.ndim xa ++ (List.range (freeAxes b.ndim xb).length).map (xa.length + ·))
        (xb ++ freeAxes b.ndim xb) = .ok c ∧ Scal c v
  /-- `X·Y` -/
  rXY : ∃ c, tdF X Y (kbP a.ndim xa) (kbP b.ndim xb) = .ok c ∧ Scal c v
  wXY : AdmW X Y (kbP a.ndim xa) (kbP b.ndim xb)
  wBX : ∀ BX, tdF (braOf b xb) X xb (kbQ a.ndim xa) = .ok BX →
    AdmW BX b ((kbQ a.ndim xa).map ((freeAxes b.ndim xb).length + ·)
        ++ List.range (freeAxes b.ndim xb).length) (xb ++ freeAxes b.ndim xb)
  wXB : ∀ XB, tdF X (braOf b xb) (kbQ a.ndim xa) xb = .ok XB →
    AdmW XB b (kbQ a.ndim xa ++ (List.range (freeAxes b.ndim xb).length).map (xa.length + ·))
      (xb ++ freeAxes b.ndim xb)

theorem piece_guards {a b : Arr R} {xa xb : List Nat} {X : Arr R} (h : Adm a b xa xb)
    (IX : InterW (braOf a xa) a (freeAxes a.ndim xa) (freeAxes a.ndim xa) X) :
    AdmW (braOf b xb) X xb (kbQ a.ndim xa)
      ∧ AdmW X b ((kbQ a.ndim xa).map (xa.length + ·)) xb := by
  have WAa := admW_bra_self a xa h.va h.fa
  have hnxa : (xa ++ (freeAxes a.ndim xa)).Nodup :=
    perm_range_nodup (perm_right h.nA h.ltA)
  have T2 : TriW (braOf b xb) (braOf a xa) a xb [] xa (freeAxes a.ndim xa) (freeAxes a.ndim xa) [] :=
    ⟨AdmW.ofAdm (braOf_adm (adm_swap h)), WAa, Mid.of (by rw [List.append_nil]; exact h.nB) (by
        rw [List.append_nil]; intro i hi; rw [braOf_ndim]; exact h.ltB i hi),
      Mid.of hnxa (fun i hi => by
        rw [braOf_ndim]; exact List.mem_range.mp ((perm_right h.nA h.ltA).mem_iff.mp hi)),
      Mid.of (by rw [List.append_nil]; exact freeAxes_nodup _ _) (by
        rw [List.append_nil]; exact fun i hi => mem_freeAxes_lt i hi),
      by simp [contractibleCommonB]⟩
  constructor
  · have := admW_right_tri_w IX T2
    rw [List.append_nil, braOf_ndim] at this
    rw [← kbX_eq]
    exact this
  · have := admW_left_chain_w (C := b) (xb2 := xa) (xc := xb) IX WAa (AdmW.ofAdm h)
      (Mid.of (perm_range_nodup (perm_left h.nA h.ltA)) (fun i hi =>
        List.mem_range.mp ((perm_left h.nA h.ltA).mem_iff.mp hi)))
    unfold AssocP.axesAB at this
    rw [braOf_ndim, sorted_len h.nA h.ltA] at this
    exact this

theorem hub_guards {a b : Arr R} {xa xb : List Nat} {X : Arr R} (h : Adm a b xa xb)
    (IX : InterW (braOf a xa) a (freeAxes a.ndim xa) (freeAxes a.ndim xa) X)
    (WBb : AdmW (braOf b xb) b (freeAxes b.ndim xb) (freeAxes b.ndim xb)) :
    (∀ BX, InterW (braOf b xb) X xb (kbQ a.ndim xa) BX →
      AdmW BX b ((kbQ a.ndim xa).map ((freeAxes b.ndim xb).length + ·)
        ++ List.range (freeAxes b.ndim xb).length) (xb ++ freeAxes b.ndim xb))
    ∧ (∀ XB, InterW X (braOf b xb) (kbQ a.ndim xa) xb XB →
      AdmW XB b (kbQ a.ndim xa ++ (List.range (freeAxes b.ndim xb).length).map (xa.length + ·))
        (xb ++ freeAxes b.ndim xb))
    ∧ (∀ Y, InterW (braOf b xb) b (freeAxes b.ndim xb) (freeAxes b.ndim xb) Y →
      AdmW X Y (kbP a.ndim xa) (kbP b.ndim xb)) := by
  obtain ⟨WbX, WXb⟩ := piece_guards (xb := xb) h IX
  have hq := kbQ_perm h.nA h.ltA
  have hXn : X.ndim = xa.length + xa.length := by
    have := IX.ndim
    rwa [braOf_ndim, sorted_len h.nA h.ltA] at this
  have hnB1 : (xb ++ freeAxes b.ndim xb).Nodup :=
    perm_range_nodup (perm_right h.nB h.ltB)
  have hnB2 : (freeAxes b.ndim xb ++ xb).Nodup :=
    perm_range_nodup (perm_left h.nB h.ltB)
  have hltB1 : ∀ i ∈ xb ++ freeAxes b.ndim xb, i < b.ndim := perm_range_lt (perm_right h.nB h.ltB)
  have hPp := kbP_perm h.nA h.ltA
  have hPn : (kbP a.ndim xa).Nodup := perm_range_nodup hPp
  have hPlt : ∀ i ∈ kbP a.ndim xa, i < X.ndim := fun i hi => by
    rw [hXn]; exact List.mem_range.mp (hPp.mem_iff.mp hi)
  have T : TriW (braOf b xb) X b xb (freeAxes b.ndim xb) (kbQ a.ndim xa)
      ((kbQ a.ndim xa).map (xa.length + ·)) xb (freeAxes b.ndim xb) :=
    ⟨WbX, WXb, Mid.of hnB1 (by rw [braOf_ndim]; exact hltB1), Mid.of hPn hPlt, Mid.of hnB1 hltB1,
      WBb.con⟩
  have T' : TriW X (braOf b xb) b (kbQ a.ndim xa) ((kbQ a.ndim xa).map (xa.length + ·)) xb
      (freeAxes b.ndim xb) (freeAxes b.ndim xb) xb :=
    ⟨admW_swap WbX, WBb, Mid.of hPn hPlt, Mid.of hnB1 (by rw [braOf_ndim]; exact hltB1),
      Mid.of hnB2 (perm_range_lt (perm_left h.nB h.ltB)),
      WXb.con⟩
  refine ⟨fun BX I => ?_, fun XB I => ?_, fun Y I => ?_⟩
  · have W0 := admW_left_tri_w I T
    rw [braOf_ndim, hXn, axesAB_bXb hq] at W0
    exact AdmW.comm (by rw [List.length_range]) W0
  · have W0 := admW_left_tri_w I T'
    rwa [hXn, braOf_ndim, axesAB_Xbb hq] at W0
  · have W0 := admW_right_tri_w I T'
    rwa [braOf_ndim, axesBC_Xbb h.nB h.ltB] at W0

theorem hub_half (hmul : ∀ x y : R, x * y = y * x) (a b : Arr R) (xa xb : List Nat) (X Y : Arr R)
    (h : Adm a b xa xb) (hoB : KetLabels b.oddpos)
    (hdB : b.oddpos.Pairwise (fun x y => x.1 ≠ y.1))
    (PX : Piece a xa X) (PY : Piece b xb Y) : ∃ v, HubHalf a b xa xb X Y v := by
  obtain ⟨sX, IX⟩ := PX.inter
  obtain ⟨sY, IY⟩ := PY.inter
  obtain ⟨WbX, WXb'⟩ := piece_guards (xb := xb) h IX.toW
  obtain ⟨gBX, _, gXY⟩ := hub_guards h IX.toW PY.adm
  have hq := kbQ_perm h.nA h.ltA
  have hqlt := kbQ_lt h.nA h.ltA
  have hoBb : (braOf b xb).oddpos = Arr.oddposDag b.oddpos := braOf_oddpos b xb
  have hsd := oddposDag_sorted_of_nondual b.oddpos hoB.1 hoB.2
  have hdd := oddposDag_distinct b.oddpos hdB
  have WBb := PY.adm
  have hnB1 : (xb ++ freeAxes b.ndim xb).Nodup :=
    perm_range_nodup (perm_right h.nB h.ltB)
  have hnB2 : (freeAxes b.ndim xb ++ xb).Nodup :=
    perm_range_nodup (perm_left h.nB h.ltB)
  have hPp := kbP_perm h.nA h.ltA
  have hPn : (kbP a.ndim xa).Nodup := perm_range_nodup hPp
  obtain ⟨c2, ec2, IBX⟩ := Call.of_merge WbX (out := Arr.oddposDag b.oddpos) (ph := 1)
    (by rw [hoBb, PX.odd]; exact merge_nil_right _ _ hsd hdd)
  have oc2 := IBX.oddpos
  have hc2n : c2.ndim = (freeAxes b.ndim xb).length + xa.length := by
    rw [IBX.ndim, braOf_ndim, PX.nd, free_kbQ h.nA h.ltA, List.length_map, List.length_range]
  have WBXb := gBX c2 IBX.toW
  obtain ⟨s1, m1, q1⟩ := merge_nested c2.parity b.oddpos hoB hdB
  obtain ⟨r1, er1, Cr1⟩ := Call.of_merge WBXb (out := []) (ph := s1) (by rw [oc2]; exact m1)
  have or1 := Cr1.oddpos
  have hU : ((kbQ a.ndim xa).map ((freeAxes b.ndim xb).length + ·)
      ++ List.range (freeAxes b.ndim xb).length).Perm (List.range c2.ndim) := by
    rw [hc2n, ← range_split]
    exact List.perm_append_comm.trans ((hq.map _).append_left _)
  have hu : freeAxes c2.ndim ((kbQ a.ndim xa).map ((freeAxes b.ndim xb).length + ·)
      ++ List.range (freeAxes b.ndim xb).length) = [] :=
    freeAxes_of_perm hU
  have hv : freeAxes b.ndim (xb ++ freeAxes b.ndim xb) = [] := freeAxes_all _ _ (all_right xb)
  have n1 : r1.ndim = 0 := by rw [ndim_of_call_w WBXb er1, hu, hv]; rfl
  -- X·b̄: the operands of the first call exchanged (S5 inside, S6 and congruence at the root)
  have WXb := admW_swap WbX
  have hP' : (kbQ a.ndim xa ++ (List.range (freeAxes b.ndim xb).length).map (xa.length + ·)).Perm
      (List.range c2.ndim) := by
    rw [hc2n, Nat.add_comm, ← range_split]
    exact hq.append_right _
  obtain ⟨XB, r3, eXB, vXB, er3, S3, W3⟩ := scal_swap_first hmul WbX
    (by rw [PX.odd, hoBb]; exact hdd) ec2 WBXb hu hv hP'
    (by rw [braOf_ndim, PX.nd, free_kbQ h.nA h.ltA, List.length_map, List.length_range]
        exact permuted_rotB_axes _ _ _ _ hqlt (fun i hi => List.mem_range.mp hi))
    er1 ⟨n1, or1, rfl⟩
  have hL : Assoc2P.LabelRoutes X.parity (braOf b xb).parity X.oddpos (braOf b xb).oddpos b.oddpos := by
    rw [PX.par, PX.odd, braOf_parity, hoBb]
    exact labelRoutes_X b.parity b.oddpos hoB hdB
  obtain ⟨AB, BC, c1, c4, a1, a2, a3, a4, hE⟩ := assoc_eqv X (braOf b xb) b (kbQ a.ndim xa)
    ((kbQ a.ndim xa).map (xa.length + ·)) xb (freeAxes b.ndim xb) (freeAxes b.ndim xb) xb WXb WBb
    WXb'.con hPn hnB1 hnB2 WXb'.ltA h.ltB hL
  obtain rfl : XB = AB := Except.ok.inj (eXB.symm.trans a1)
  obtain rfl : Y = BC := by have := PY.call; rw [this] at a3; exact Except.ok.inj a3
  rw [PX.nd, braOf_ndim, axesAB_Xbb hq] at a2
  obtain rfl : r3 = c1 := by unfold tdF at er3; rw [er3] at a2; exact Except.ok.inj a2
  rw [braOf_ndim, axesBC_Xbb h.nB h.ltB] at a4
  have WXY := gXY Y IY.toW
  exact ⟨r1.elem [] [], ⟨c2, r1, ec2, er1, n1, or1, rfl⟩, ⟨XB, r3, eXB, er3, S3⟩,
    ⟨c4, a4, Scal.of_eqv hE S3⟩, WXY, fun BX' e' => by
      unfold tdF at e'
      obtain rfl : c2 = BX' := by rw [ec2] at e'; exact Except.ok.inj e'
      exact WBXb, fun XB' e' => by
      obtain rfl : XB = XB' := Except.ok.inj (eXB.symm.trans e')
      exact W3⟩

end main

end SymmModel.NormNet
