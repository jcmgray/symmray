/-
  SymmModel.Proofs.ValidBase — the clauses of the validity predicate `Arr.validB`
  (Model/Valid.lean) read off once, as propositions: what a valid array guarantees for its index
  tables, its charge, its list of sectors, each stored block, its pending-sign table and labels
  (fermionic arrays) or their absence (abelian arrays); conversely `Arr.validB_of`; what
  `Index.wfB` says about one index table; and the order `Charge.lt` by which charge tables are
  sorted.  Core Lean only.  The record `ValidP.Valid` (Proofs/ValidLemmas.lean) states the same
  clauses with `Nodup`, `SecOk` and `BlockOk`; `ValidP.validB_iff`, proved from the readings here,
  is the one bridge between the two.
-/
import SymmModel.Model.Valid
import SymmModel.Proofs.BaseAlist

namespace SymmModel

namespace Index

theorem wfListB_iff {sym : Sym} {l : List Index} :
    Index.wfListB sym l = true ↔ ∀ ix ∈ l, Index.wfB sym ix = true := by
  induction l with
  | nil => simp [Index.wfListB]
  | cons i l ih => rw [Index.wfListB.eq_def]; simp [ih]

theorem wfB_cm {sym : Sym} {ix : Index} (h : Index.wfB sym ix = true) :
    isSortedStrict Charge.lt (ix.cm.map (·.1)) = true
      ∧ ∀ p ∈ ix.cm, 0 < p.2 ∧ sym.valid p.1 = true := by
  obtain ⟨cm, d, sub⟩ := ix
  rw [Index.wfB.eq_def] at h
  simp only [Bool.and_eq_true, List.all_eq_true, decide_eq_true_eq] at h
  exact ⟨h.1.1, h.1.2⟩

theorem wfB_sub {sym : Sym} {ix : Index} {subs : List Index} {exts : Extents}
    (h : Index.wfB sym ix = true) (hs : ix.sub = some (subs, exts)) :
    Index.wfListB sym subs = true ∧ allDistinct (exts.map (·.1)) = true
      ∧ (∀ p ∈ ix.cm, ∃ ext, alookup exts p.1 = some ext
          ∧ extentOk sym ix.dual subs p.1 p.2 ext = true)
      ∧ ∀ e ∈ exts, (alookup ix.cm e.1).isSome = true := by
  obtain ⟨cm, d, sub⟩ := ix
  cases hs
  rw [Index.wfB.eq_def] at h
  simp only [Bool.and_eq_true, List.all_eq_true] at h
  obtain ⟨_, ⟨⟨h1, h2⟩, h3⟩, h4⟩ := h
  refine ⟨h1, h2, fun p hp => ?_, h4⟩
  have := h3 p hp
  split at this
  · rename_i ext he; exact ⟨ext, he, this⟩
  · cases this

end Index

namespace Arr

variable {R : Type}

theorem validB_indices {a : Arr R} (hv : a.validB = true) : Index.wfListB a.sym a.indices = true := by
  unfold Arr.validB at hv
  simp only [Bool.and_eq_true] at hv
  exact hv.1.1.1.1

theorem validB_charge {a : Arr R} (hv : a.validB = true) : a.sym.valid a.charge = true := by
  unfold Arr.validB at hv
  simp only [Bool.and_eq_true] at hv
  exact hv.1.1.1.2

theorem validB_sectors {a : Arr R} (hv : a.validB = true) : allDistinct a.sectors = true := by
  unfold Arr.validB at hv
  simp only [Bool.and_eq_true] at hv
  exact hv.1.1.2

theorem validB_nodup {a : Arr R} (hv : a.validB = true) : a.sectors.Nodup :=
  allDistinct_iff_nodup.mp (validB_sectors hv)

theorem validB_block {a : Arr R} (hv : a.validB = true) {p : Sector × Blk R} (hp : p ∈ a.blocks) :
    p.1.length = a.ndim ∧ a.isValidSector p.1 = true
      ∧ Arr.blockShape? a.indices p.1 = some p.2.shape ∧ p.2.wf = true := by
  unfold Arr.validB at hv
  simp only [Bool.and_eq_true] at hv
  have := List.all_eq_true.mp hv.1.2 p hp
  simp only [Bool.and_eq_true, beq_iff_eq] at this
  exact ⟨this.1.1.1, this.1.1.2, this.1.2, this.2⟩

theorem validB_block_len {a : Arr R} (hv : a.validB = true) {s : Sector} {b : Blk R}
    (hm : (s, b) ∈ a.blocks) : s.length = a.ndim :=
  (validB_block hv hm).1

theorem validB_block_sector {a : Arr R} (hv : a.validB = true) {s : Sector} {b : Blk R}
    (hm : (s, b) ∈ a.blocks) : a.isValidSector s = true :=
  (validB_block hv hm).2.1

theorem validB_block_shape {a : Arr R} (hv : a.validB = true) {s : Sector} {b : Blk R}
    (hm : (s, b) ∈ a.blocks) : Arr.blockShape? a.indices s = some b.shape :=
  (validB_block hv hm).2.2.1

theorem validB_block_wf {a : Arr R} (hv : a.validB = true) {s : Sector} {b : Blk R}
    (hm : (s, b) ∈ a.blocks) : b.wf = true :=
  (validB_block hv hm).2.2.2

theorem validB_signs {a : Arr R} (hv : a.validB = true) (hf : a.fermi = true) :
    allDistinct (a.phases.map (·.1)) = true
      ∧ ∀ p ∈ a.phases, p.1.length = a.ndim ∧ a.isValidSector p.1 = true ∧ (p.2 = 1 ∨ p.2 = -1) := by
  unfold Arr.validB at hv
  simp only [hf, if_true, Bool.and_eq_true] at hv
  refine ⟨hv.2.1.1, fun p hp => ?_⟩
  have := List.all_eq_true.mp hv.2.1.2 p hp
  simp only [Bool.and_eq_true, Bool.or_eq_true, beq_iff_eq] at this
  exact ⟨this.1.1, this.1.2, this.2⟩

theorem validB_labels {a : Arr R} (hv : a.validB = true) (hf : a.fermi = true) :
    (a.oddpos.length % 2 == 1) = a.parity := by
  unfold Arr.validB at hv
  simp only [hf, if_true, Bool.and_eq_true, beq_iff_eq] at hv
  exact hv.2.2

theorem validB_abelian {a : Arr R} (hv : a.validB = true) (hf : a.fermi = false) :
    a.phases = [] ∧ a.oddpos = [] := by
  unfold Arr.validB at hv
  simp only [hf, Bool.false_eq_true, ↓reduceIte, Bool.and_eq_true, List.isEmpty_iff] at hv
  exact hv.2

theorem phases_nil_of_validB {a : Arr R} (hv : a.validB = true) (hf : a.fermi = false) :
    a.phases = [] :=
  (validB_abelian hv hf).1

/-- the sign clause as a whole, in the form `validB_of` takes it back -/
theorem validB_sgn {a : Arr R} (hv : a.validB = true) :
    if a.fermi = true then
      allDistinct (a.phases.map (·.1)) = true
      ∧ (∀ p ∈ a.phases, p.1.length = a.ndim ∧ a.isValidSector p.1 = true ∧ (p.2 = 1 ∨ p.2 = -1))
      ∧ (a.oddpos.length % 2 == 1) = a.parity
    else a.phases = [] ∧ a.oddpos = [] := by
  split
  · rename_i hf
    exact ⟨(validB_signs hv hf).1, (validB_signs hv hf).2, validB_labels hv hf⟩
  · rename_i hf
    exact validB_abelian hv (by simpa using hf)

theorem validB_of {a : Arr R} (hidx : Index.wfListB a.sym a.indices = true)
    (hchg : a.sym.valid a.charge = true) (hsec : allDistinct a.sectors = true)
    (hblk : ∀ p ∈ a.blocks, p.1.length = a.ndim ∧ a.isValidSector p.1 = true
      ∧ Arr.blockShape? a.indices p.1 = some p.2.shape ∧ p.2.wf = true)
    (hsgn : if a.fermi = true then
        allDistinct (a.phases.map (·.1)) = true
        ∧ (∀ p ∈ a.phases, p.1.length = a.ndim ∧ a.isValidSector p.1 = true ∧ (p.2 = 1 ∨ p.2 = -1))
        ∧ (a.oddpos.length % 2 == 1) = a.parity
      else a.phases = [] ∧ a.oddpos = []) : a.validB = true := by
  unfold Arr.validB
  simp only [Bool.and_eq_true, List.all_eq_true, beq_iff_eq]
  refine ⟨⟨⟨⟨hidx, hchg⟩, hsec⟩, fun p hp => ?_⟩, ?_⟩
  · obtain ⟨a1, a2, a3, a4⟩ := hblk p hp
    exact ⟨⟨⟨a1, a2⟩, a3⟩, a4⟩
  · split
    · rename_i hf
      simp only [hf, if_true] at hsgn
      simp only [Bool.and_eq_true, List.all_eq_true, beq_iff_eq, Bool.or_eq_true]
      exact ⟨⟨hsgn.1, fun p hp => ⟨⟨(hsgn.2.1 p hp).1, (hsgn.2.1 p hp).2.1⟩, (hsgn.2.1 p hp).2.2⟩⟩,
        hsgn.2.2⟩
    · rename_i hf
      simp only [hf] at hsgn
      simp [hsgn.1, hsgn.2]

end Arr

theorem Charge.lt_iff (a b : Charge) :
    Charge.lt a b = true ↔ a.1 < b.1 ∨ (a.1 = b.1 ∧ a.2 < b.2) := by
  simp [Charge.lt]

theorem Charge.lt_asymm {a b : Charge} (h : Charge.lt a b = true) : Charge.lt b a = false := by
  rw [Bool.eq_false_iff]; intro h'
  rw [Charge.lt_iff] at h h'; omega

theorem Charge.lt_trans {a b c : Charge} (h1 : Charge.lt a b = true) (h2 : Charge.lt b c = true) :
    Charge.lt a c = true := by
  rw [Charge.lt_iff] at *; omega

theorem Charge.le_trans {a b c : Charge} (h1 : Charge.lt b a = false) (h2 : Charge.lt c b = false) :
    Charge.lt c a = false := by
  rw [Bool.eq_false_iff] at *
  rw [Ne, Charge.lt_iff] at *; omega

theorem Charge.eq_of_not_lt {a b : Charge} (h1 : Charge.lt a b = false) (h2 : Charge.lt b a = false) :
    a = b := by
  rw [Bool.eq_false_iff, Ne, Charge.lt_iff] at *
  obtain ⟨a1, a2⟩ := a; obtain ⟨b1, b2⟩ := b
  simp only [Prod.mk.injEq] at *; omega

theorem Charge.lt_irrefl (c : Charge) : Charge.lt c c = false := by
  rw [Bool.eq_false_iff, Ne, Charge.lt_iff]; omega

theorem Charge.lt_total (a b : Charge) : Charge.lt a b = true ∨ a = b ∨ Charge.lt b a = true := by
  obtain ⟨a1, a2⟩ := a
  obtain ⟨b1, b2⟩ := b
  simp only [Charge.lt_iff, Prod.mk.injEq]
  omega

end SymmModel
