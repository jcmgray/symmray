/-
  SymmModel.Proofs.TdotFusedS1 — towards S7 (property C04's associativity clause `tdotF_assoc`:
  `(A·B)·C = A·(B·C)` with labels, Props/C04d.lean) for fused / auto mode: the graded contraction
  does not see zero padding.  `Pad P Q`: `P` stores the sectors of `Q` (any order) plus all-zero blocks and
  has differently pruned tables with the same directions.  Then `gradedContract P P' =
  gradedContract Q Q'` at every address of the table box (`Pad P Q`, `Pad P' Q'`).
  Namespace `SymmModel.TdotP`.
-/
import SymmModel.Proofs.TdotFusedW2

namespace SymmModel
namespace TdotP
open GradedP
open Lazy (sgnI)
variable {R : Type}

/-- `P` is a zero-padded, re-ordered, differently pruned copy of `Q` -/
structure Pad [Zero R] [Neg R] (P Q : Arr R) : Prop where
  sym : P.sym = Q.sym
  ndim : P.ndim = Q.ndim
  dual : ∀ i, (P.indices.getD i default).dual = (Q.indices.getD i default).dual
  ndP : P.sectors.Nodup
  ndQ : Q.sectors.Nodup
  sub : ∀ s ∈ Q.sectors, s ∈ P.sectors
  shapeP : P.shapesOk
  shapeQ : Q.shapesOk
  shape : ∀ s ∈ Q.sectors, Arr.blockShapeD P.indices s = Arr.blockShapeD Q.indices s
  elem : ∀ s ∈ P.sectors, ∀ o, inBox (Arr.blockShapeD P.indices s) o = true → P.elem s o = Q.elem s o

theorem Pad.refl [Zero R] [Neg R] {P : Arr R} (hv : P.validB = true) : Pad P P :=
  ⟨rfl, rfl, fun _ => rfl, allDistinct_iff_nodup.mp (Arr.allDistinct_of_validB hv),
    allDistinct_iff_nodup.mp (Arr.allDistinct_of_validB hv), fun _ h => h,
    Arr.shapesOk_of_validB hv, Arr.shapesOk_of_validB hv, fun _ _ => rfl, fun _ _ _ _ => rfl⟩

theorem Pad.of_frame [Zero R] [Neg R] {P Q : Arr R} {F : List Index}
    (vP : P.validB = true) (vQ : Q.validB = true) (hsym : P.sym = Q.sym)
    (fP : List.Forall₂ SizeLe P.indices F) (fQ : List.Forall₂ SizeLe Q.indices F)
    (hsub : ∀ s ∈ Q.sectors, s ∈ P.sectors)
    (hel : ∀ K V, alookup P.blocks K = some V → ∀ J, inBox V.shape J = true → P.elem K J = Q.elem K J) :
    Pad P Q := by
  have hdP := allDistinct_iff_nodup.mp (Arr.allDistinct_of_validB vP)
  have hdQ := allDistinct_iff_nodup.mp (Arr.allDistinct_of_validB vQ)
  have blk : ∀ {X : Arr R}, X.validB = true → List.Forall₂ SizeLe X.indices F → ∀ s ∈ X.sectors,
      ∃ V, alookup X.blocks s = some V ∧ Arr.blockShapeD X.indices s = V.shape
        ∧ Arr.blockShape? F s = some V.shape := by
    intro X vX fX s hs
    obtain ⟨p, hp, rfl⟩ := List.mem_map.mp hs
    have hsh := Arr.shapesOk_of_validB vX p hp
    exact ⟨p.2, alookup_of_mem_nodup (allDistinct_iff_nodup.mp (Arr.allDistinct_of_validB vX)) hp,
      by rw [Arr.blockShapeD, hsh]; rfl, blockShape?_weaken fX p.1 _ hsh⟩
  refine ⟨hsym, fP.length_eq.trans fQ.length_eq.symm, ?_, hdP, hdQ, hsub, Arr.shapesOk_of_validB vP,
    Arr.shapesOk_of_validB vQ, ?_, ?_⟩
  · intro i
    by_cases hi : i < P.indices.length
    · have hi' : i < Q.indices.length := by rw [fQ.length_eq, ← fP.length_eq]; exact hi
      rw [(forall₂_getD fP i hi default default).1, (forall₂_getD fQ i hi' default default).1]
    · have hi' : ¬ i < Q.indices.length := by rw [fQ.length_eq, ← fP.length_eq]; exact hi
      rw [List.getD_eq_getElem?_getD, List.getD_eq_getElem?_getD,
        List.getElem?_eq_none (by omega), List.getElem?_eq_none (by omega)]
  · intro s hs
    obtain ⟨_, _, e1, e2⟩ := blk vP fP s (hsub s hs)
    obtain ⟨_, _, e3, e4⟩ := blk vQ fQ s hs
    rw [e1, e3, Option.some.inj (e2.symm.trans e4)]
  · intro s hs o ho
    obtain ⟨V, hl, e1, _⟩ := blk vP fP s hs
    exact hel s V hl o (by rw [← e1]; exact ho)

theorem gradedSign_congr_left [Zero R] [Neg R] {P Q : Arr R} (hp : Pad P Q) (C : Arr R) (x y : List Nat) (sa sb : Sector) :
    gradedSign P C x y sa sb = gradedSign Q C x y sa sb :=
  GradedP.gradedSign_congr_left hp.sym hp.ndim hp.dual C x y sa sb

theorem gradedSign_congr_right [Zero R] [Neg R] {P Q : Arr R} (hp : Pad P Q) (A : Arr R) (x y : List Nat) (sa sb : Sector) :
    gradedSign A P x y sa sb = gradedSign A Q x y sa sb :=
  GradedP.gradedSign_congr_right hp.sym hp.ndim A x y sa sb

section congr
variable [AddCommMonoid R] [Mul R] [Neg R] [SignRing R]

/-- **zero padding of the operands is invisible to the graded contraction** (aligned sector pairs
    have equal contracted shapes: `hmatch`, e.g. `AssocP.shapes_match_w`) -/
theorem gradedContract_congr (hz1 : ∀ x : R, 0 * x = 0) (hz2 : ∀ x : R, x * 0 = 0)
    {P Q P' Q' : Arr R} (hp : Pad P Q) (hp' : Pad P' Q') (x y : List Nat)
    (hx : ∀ i ∈ x, i < P.ndim) (hy : ∀ i ∈ y, i < P'.ndim)
    (hmatch : ∀ sa ∈ P.sectors, ∀ sb ∈ P'.sectors, permuted sb y = permuted sa x →
      permuted (Arr.blockShapeD P'.indices sb) y = permuted (Arr.blockShapeD P.indices sa) x)
    (s : Sector) (oL oR : List Nat) (hoL : oL.length = (freeAxes P.ndim x).length)
    (ho : inBox (Arr.blockShapeD (without P.indices x ++ without P'.indices y) s) (oL ++ oR) = true) :
    gradedContract P P' x y s oL oR = gradedContract Q Q' x y s oL oR := by
  have hleftlt : ∀ z ∈ freeAxes P.ndim x, z < P.ndim := fun z hz => (mem_freeAxes.mp hz).1
  have hrightlt : ∀ z ∈ freeAxes P'.ndim y, z < P'.ndim := fun z hz => (mem_freeAxes.mp hz).1
  have hel : ∀ sa sb, (sa, sb) ∈ storedPairs P P' (freeAxes P.ndim x) x y (freeAxes P'.ndim y) s →
      ∀ k ∈ allIdx (permuted (Arr.blockShapeD P.indices sa) x),
        P.elem sa (mergeIdx 0 P.ndim x (freeAxes P.ndim x) k oL)
          = Q.elem sa (mergeIdx 0 P.ndim x (freeAxes P.ndim x) k oL)
        ∧ P'.elem sb (mergeIdx 0 P'.ndim y (freeAxes P'.ndim y) k oR)
          = Q'.elem sb (mergeIdx 0 P'.ndim y (freeAxes P'.ndim y) k oR) := by
    intro sa sb hmem k hk
    obtain ⟨hA, hB, hal, hs⟩ := mem_storedPairs.mp hmem
    obtain ⟨shpA, hA1, hA2, hA3, hA4⟩ := shape_of_mem hp.shapeP hA
    obtain ⟨shpB, hB1, hB2, hB3, hB4⟩ := shape_of_mem hp'.shapeP hB
    have hfree : inBox (permuted shpA (freeAxes P.ndim x)) oL = true
        ∧ inBox (permuted shpB (freeAxes P'.ndim y)) oR = true := by
      have e : Arr.blockShapeD (without P.indices x ++ without P'.indices y) s
          = permuted shpA (freeAxes P.ndim x) ++ permuted shpB (freeAxes P'.ndim y) := by
        have ea : P.indices.length = P.ndim := rfl
        have eb : P'.indices.length = P'.ndim := rfl
        rw [← hs, without_eq_permuted_freeAxes, without_eq_permuted_freeAxes, ea, eb, Arr.blockShapeD,
          blockShape?_append (blockShape?_permuted hA1 _ hleftlt) (blockShape?_permuted hB1 _ hrightlt)]
        rfl
      rw [e, inBox_append (by
        rw [hoL, permuted_length _ _ (by intro z hz; rw [hA3]; exact hleftlt z hz)])] at ho
      simp only [Bool.and_eq_true] at ho
      exact ho
    have hm := hmatch sa hA sb hB hal
    rw [hA2, hB2] at hm
    rw [hA2] at hk
    have hkA : inBox (permuted shpA x) k = true := mem_allIdx.mp hk
    have hkB : inBox (permuted shpB y) k = true := by rw [hm]; exact hkA
    constructor
    · apply hp.elem sa hA
      rw [hA2]
      have := inBox_mergeIdx (shape := shpA) (axes := x) (k := k) (f := oL)
        (by intro z hz; rw [hA3]; exact hx z hz) hkA (by rw [hA3]; exact hfree.1)
      rwa [hA3] at this
    · apply hp'.elem sb hB
      rw [hB2]
      have := inBox_mergeIdx (shape := shpB) (axes := y) (k := k) (f := oR)
        (by intro z hz; rw [hB3]; exact hy z hz) hkB (by rw [hB3]; exact hfree.2)
      rwa [hB3] at this
  unfold gradedContract
  rw [hp.ndim, hp'.ndim] at hel ⊢
  -- drop the pairs with a sector that `Q` or `Q'` does not store: they contribute zero
  rw [← sum_filter_of_zero (fun p => Q.sectors.contains p.1 && Q'.sectors.contains p.2) _ _ (by
    rintro ⟨sa, sb⟩ hmem hnot
    have hz : contractPair P P' x y oL oR (sa, sb) = 0 := by
      unfold contractPair
      apply List.sum_eq_zero
      intro t ht
      obtain ⟨k, hk, rfl⟩ := List.mem_map.mp ht
      unfold contractTerm
      rw [hp.ndim, hp'.ndim, (hel sa sb hmem k hk).1, (hel sa sb hmem k hk).2]
      by_cases hq : sa ∈ Q.sectors
      · have hq' : sb ∉ Q'.sectors := by
          intro h
          simp [hq, h] at hnot
        rw [Arr.elem_of_not_mem hq', hz2]
      · rw [Arr.elem_of_not_mem hq, hz1]
    rw [hz, Lazy.sgnI_zero])]
  have hterm : ∀ p ∈ (storedPairs P P' (freeAxes Q.ndim x) x y (freeAxes Q'.ndim y) s).filter
        (fun p => Q.sectors.contains p.1 && Q'.sectors.contains p.2),
      sgnI (gradedSign P P' x y p.1 p.2) (contractPair P P' x y oL oR p)
        = sgnI (gradedSign Q Q' x y p.1 p.2) (contractPair Q Q' x y oL oR p) := by
    rintro ⟨sa, sb⟩ hmem
    obtain ⟨hmem', hq⟩ := List.mem_filter.mp hmem
    simp only [Bool.and_eq_true, List.contains_eq_mem, decide_eq_true_eq] at hq
    rw [gradedSign_congr_left hp, gradedSign_congr_right hp']
    congr 1
    unfold contractPair
    simp only
    rw [← hp.shape sa hq.1]
    congr 1
    apply List.map_congr_left
    intro k hk
    unfold contractTerm
    rw [hp.ndim, hp'.ndim, (hel sa sb hmem' k hk).1, (hel sa sb hmem' k hk).2]
  rw [List.map_congr_left hterm]
  apply List.Perm.sum_eq
  apply List.Perm.map
  rw [List.perm_ext_iff_of_nodup
    ((storedPairs_nodup _ x y _ _ hp.ndP hp'.ndP).filter _) (storedPairs_nodup _ x y _ _ hp.ndQ hp'.ndQ)]
  rintro ⟨sa, sb⟩
  rw [List.mem_filter, mem_storedPairs, mem_storedPairs]
  simp only [Bool.and_eq_true, List.contains_eq_mem, decide_eq_true_eq]
  constructor
  · rintro ⟨⟨_, _, h3, h4⟩, hq1, hq2⟩; exact ⟨hq1, hq2, h3, h4⟩
  · rintro ⟨h1, h2, h3, h4⟩; exact ⟨⟨hp.sub _ h1, hp'.sub _ h2, h3, h4⟩, h1, h2⟩

end congr

end TdotP
end SymmModel
