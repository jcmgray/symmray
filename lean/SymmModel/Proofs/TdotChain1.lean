/-
  SymmModel.Proofs.TdotChain1 — zero padding (`Pad`) through a contraction under the weak guard:
  transitivity of `Pad`, a fused / auto call versus the blockwise call on the same operands
  (weak guard), the blockwise call on padded versus plain operands (namespace `SymmModel.TdotP`),
  and both together: one call in any mode on zero-padded operands (`Net4P.PadA`, `Net4P.pad_call`),
  two nested calls over a triangle (`Net4P.left_two_any`, `Net4P.right_two_any`).
-/
import SymmModel.Proofs.TdotFusedS1
import SymmModel.Proofs.Assoc2Main

namespace SymmModel
namespace TdotP
open GradedP RoutesP AssocP
variable {R : Type}

theorem Pad.trans [Zero R] [Neg R] {P Q S : Arr R} (h1 : Pad P Q) (h2 : Pad Q S) : Pad P S := by
  refine ⟨h1.sym.trans h2.sym, h1.ndim.trans h2.ndim, fun i => (h1.dual i).trans (h2.dual i), h1.ndP, h2.ndQ,
    fun s hs => h1.sub s (h2.sub s hs), h1.shapeP, h2.shapeQ,
    fun s hs => (h1.shape s (h2.sub s hs)).trans (h2.shape s hs), ?_⟩
  intro s hs o ho
  rw [h1.elem s hs o ho]
  by_cases hq : s ∈ Q.sectors
  · exact h2.elem s hq o (by rw [← h1.shape s hq]; exact ho)
  · rw [Arr.elem_of_not_mem hq, Arr.elem_of_not_mem (fun h => hq (h2.sub s h))]

/-- **a fused / auto call under the weak guard**: it comes with the blockwise call on the same
    operands; its result is a zero-padded copy of the blockwise result and can serve as an
    intermediate of a chain -/
theorem call_w [AddCommMonoid R] [Mul R] [Neg R] [SignRing R]
    (hz1 : ∀ x : R, 0 * x = 0) (hz2 : ∀ x : R, x * 0 = 0) (a b : Arr R) (xa xb : List Nat)
    (W : AdmW a b xa xb) (mode : TdotMode) (hmode : mode = .fused ∨ mode = .auto) (rb : Arr R)
    (hb : a.tensordotF b (.pair (xa.map Int.ofNat) (xb.map Int.ofNat)) .blockwise = .ok rb) :
    ∃ rm, a.tensordotF b (.pair (xa.map Int.ofNat) (xb.map Int.ofNat)) mode = .ok rm
      ∧ Pad rm rb ∧ InterW a b xa xb rm ∧ InterW a b xa xb rb
      ∧ rm.oddpos = rb.oddpos ∧ rm.charge = rb.charge := by
  obtain ⟨he, hk⟩ := tensordotF_modes_all_w hz1 hz2 a b xa xb W mode hmode
  obtain ⟨out, ph, C⟩ := Call.of_ok W hb
  obtain ⟨rm, rb', h1, h2, f1, f2, f3, f4, _, hsec, _, hframe, _, hel⟩ := hk _ C.merge
  rw [hb] at h2
  obtain rfl := Except.ok.inj h2
  have vm : rm.validB = true := (ValidP.validB_iff _).mpr
    (ValidP.tensordotF_valid_of_opposite mode (ValidP.tdotASpec_all mode) a b rm xa xb
      ((ValidP.validB_iff a).mp W.va) ((ValidP.validB_iff b).mp W.vb) W.fa W.fb W.sym
      (Assoc3P.opposite_of_commonB W.con) W.nA W.nB W.ltA W.ltB h1)
  have Ib := C.toInter.toW
  exact ⟨rm, h1, Pad.of_frame vm C.valid f3 hframe Ib.frame hsec hel,
    ⟨vm, by rw [f4, C.fermi], by rw [f3, C.sym], hframe⟩, Ib, f1, f2⟩

theorem pad_tables_dual [Zero R] [Neg R] {P Q P' Q' : Arr R} (hp : Pad P Q) (hp' : Pad P' Q') (x y : List Nat) :
    List.Forall₂ (fun i j : Index => i.dual = j.dual)
      (without P.indices x ++ without P'.indices y) (without Q.indices x ++ without Q'.indices y) := by
  have key : ∀ (U V : Arr R), Pad U V → ∀ z : List Nat,
      List.Forall₂ (fun i j : Index => i.dual = j.dual) (without U.indices z) (without V.indices z) := by
    intro U V h z
    rw [without_eq_permuted_freeAxes, without_eq_permuted_freeAxes,
      permuted_eq_map _ _ (fun w hw => (mem_freeAxes.mp hw).1) default,
      permuted_eq_map _ _ (fun w hw => (mem_freeAxes.mp hw).1) default]
    have e : V.indices.length = U.indices.length := h.ndim.symm
    rw [e]
    generalize freeAxes U.indices.length z = F
    induction F with
    | nil => exact .nil
    | cons w ws ih => exact .cons (h.dual w) ih
  exact forall₂_append (key P Q hp x) (key P' Q' hp' y)

theorem pad_tables_shape [Zero R] [Neg R] {P Q P' Q' : Arr R} (hp : Pad P Q) (hp' : Pad P' Q') (x y : List Nat)
    {s : Sector}
    (hs : s ∈ tdKeys Q.sectors Q'.sectors (freeAxes Q.ndim x) x y (freeAxes Q'.ndim y)) :
    Arr.blockShapeD (without P.indices x ++ without P'.indices y) s
      = Arr.blockShapeD (without Q.indices x ++ without Q'.indices y) s := by
  obtain ⟨sa, hsa, sc, hsc, _, rfl⟩ := mem_tdKeys.mp hs
  obtain ⟨shpP, hP1, hP2, _, _⟩ := shape_of_mem hp.shapeP (hp.sub sa hsa)
  obtain ⟨shpQ, hQ1, hQ2, _, _⟩ := shape_of_mem hp.shapeQ hsa
  obtain ⟨shpP', hP1', hP2', _, _⟩ := shape_of_mem hp'.shapeP (hp'.sub sc hsc)
  obtain ⟨shpQ', hQ1', hQ2', _, _⟩ := shape_of_mem hp'.shapeQ hsc
  have e1 : shpP = shpQ := by rw [← hP2, ← hQ2]; exact hp.shape sa hsa
  have e2 : shpP' = shpQ' := by rw [← hP2', ← hQ2']; exact hp'.shape sc hsc
  have lt : ∀ (U : Arr R) (z : List Nat), ∀ w ∈ freeAxes U.ndim z, w < U.ndim :=
    fun U z w hw => (mem_freeAxes.mp hw).1
  have eP : P.indices.length = P.ndim := rfl
  have eQ : Q.indices.length = Q.ndim := rfl
  have eP' : P'.indices.length = P'.ndim := rfl
  have eQ' : Q'.indices.length = Q'.ndim := rfl
  rw [without_eq_permuted_freeAxes P.indices, without_eq_permuted_freeAxes P'.indices,
    without_eq_permuted_freeAxes Q.indices, without_eq_permuted_freeAxes Q'.indices, eP, eP', eQ, eQ',
    Arr.blockShapeD, Arr.blockShapeD, hp.ndim, hp'.ndim,
    blockShape?_append (blockShape?_permuted hQ1 _ (lt Q x)) (blockShape?_permuted hQ1' _ (lt Q' y))]
  have h1 := blockShape?_permuted hP1 (freeAxes Q.ndim x) (by rw [← hp.ndim]; exact lt P x)
  have h2 := blockShape?_permuted hP1' (freeAxes Q'.ndim y) (by rw [← hp'.ndim]; exact lt P' y)
  rw [blockShape?_append h1 h2, e1, e2]

/-- **the blockwise call on zero-padded operands is a zero-padded copy of the blockwise call on
    the plain operands** (weak guard on both pairs) -/
theorem pad_blockwise [AddCommMonoid R] [Mul R] [Neg R] [SignRing R]
    (hz1 : ∀ x : R, 0 * x = 0) (hz2 : ∀ x : R, x * 0 = 0) {P Q P' Q' : Arr R} {x y : List Nat}
    (hp : Pad P Q) (hp' : Pad P' Q') (Wp : AdmW P P' x y) (Wq : AdmW Q Q' x y)
    (hodd : P.oddpos = Q.oddpos) (hch : P.charge = Q.charge)
    (hodd' : P'.oddpos = Q'.oddpos) (hch' : P'.charge = Q'.charge) (zq : Arr R)
    (hq : Q.tensordotF Q' (.pair (x.map Int.ofNat) (y.map Int.ofNat)) .blockwise = .ok zq) :
    ∃ zp, P.tensordotF P' (.pair (x.map Int.ofNat) (y.map Int.ofNat)) .blockwise = .ok zp
      ∧ Pad zp zq ∧ zp.oddpos = zq.oddpos ∧ zp.charge = zq.charge := by
  have hpar : P.parity = Q.parity := by
    show Sym.parity P.sym P.charge = Sym.parity Q.sym Q.charge
    rw [hp.sym, hch]
  obtain ⟨out, ph, Cq⟩ := Call.of_ok Wq hq
  obtain ⟨zp, ezp, Cp⟩ := Call.of_merge Wp (by rw [hpar, hodd, hodd']; exact Cq.merge)
  have hsP := Arr.shapesOk_of_validB Wp.va
  have hsP' := Arr.shapesOk_of_validB Wp.vb
  have hsQ := Arr.shapesOk_of_validB Wq.va
  have hsQ' := Arr.shapesOk_of_validB Wq.vb
  have hsub : ∀ s ∈ zq.sectors, s ∈ zp.sectors := by
    intro s hs
    rw [Cq.sectors, List.mem_eraseDups] at hs
    obtain ⟨sa, hsa, sc, hsc, hal, rfl⟩ := mem_tdKeys.mp hs
    rw [Cp.sectors, List.mem_eraseDups, mem_tdKeys]
    exact ⟨sa, hp.sub sa hsa, sc, hp'.sub sc hsc, hal, by rw [hp.ndim, hp'.ndim]⟩
  have hbsP : ∀ s ∈ zp.sectors, Arr.blockShapeD zp.indices s
      = Arr.blockShapeD (without P.indices x ++ without P'.indices y) s := by
    intro s hs
    rw [Cp.indices, Arr.blockShapeD, ValidP.dropUnused_blockShape _ _ _ hs]; rfl
  have hbsQ : ∀ s ∈ zq.sectors, Arr.blockShapeD zq.indices s
      = Arr.blockShapeD (without Q.indices x ++ without Q'.indices y) s := by
    intro s hs
    rw [Cq.indices, Arr.blockShapeD, ValidP.dropUnused_blockShape _ _ _ hs]; rfl
  have hkeyQ : ∀ s ∈ zq.sectors,
      s ∈ tdKeys Q.sectors Q'.sectors (freeAxes Q.ndim x) x y (freeAxes Q'.ndim y) := by
    intro s hs; rw [Cq.sectors] at hs; exact List.mem_eraseDups.mp hs
  refine ⟨zp, ezp, ⟨by rw [Cp.sym, Cq.sym, hp.sym], ?_, ?_, ?_, ?_, hsub,
      Arr.shapesOk_of_validB Cp.valid, Arr.shapesOk_of_validB Cq.valid, ?_, ?_⟩,
    by rw [Cp.oddpos, Cq.oddpos], by rw [Cp.charge, Cq.charge, hp.sym, hch, hch']⟩
  · show zp.indices.length = zq.indices.length
    rw [Cp.indices, Cq.indices, dropUnused_length, dropUnused_length,
      (pad_tables_dual hp hp' x y).length_eq]
  · intro i
    have hd := pad_tables_dual hp hp' x y
    rw [Cp.indices, Cq.indices]
    by_cases hi : i < (without P.indices x ++ without P'.indices y).length
    · have hi' : i < (without Q.indices x ++ without Q'.indices y).length := by
        rw [← hd.length_eq]; exact hi
      rw [dropUnused_getD _ _ hi, dropUnused_getD _ _ hi', dropTo_dual, dropTo_dual]
      exact forall₂_getD hd i hi default default
    · have hi' : ¬ i < (without Q.indices x ++ without Q'.indices y).length := by
        rw [← hd.length_eq]; exact hi
      rw [List.getD_eq_getElem?_getD, List.getD_eq_getElem?_getD,
        List.getElem?_eq_none (by rw [dropUnused_length]; omega),
        List.getElem?_eq_none (by rw [dropUnused_length]; omega)]
  · rw [Cp.sectors]; exact nodup_eraseDups _
  · rw [Cq.sectors]; exact nodup_eraseDups _
  · intro s hs
    rw [hbsP s (hsub s hs), hbsQ s hs]
    exact pad_tables_shape hp hp' x y (hkeyQ s hs)
  · intro s hs o ho
    rw [hbsP s hs] at ho
    have hkeyP : s ∈ tdKeys P.sectors P'.sectors (freeAxes P.ndim x) x y (freeAxes P'.ndim y) := by
      rw [Cp.sectors] at hs; exact List.mem_eraseDups.mp hs
    have hlen := key_shape_length hsP hsP' hkeyP
    have hol : o.length = (freeAxes P.ndim x).length + (freeAxes P'.ndim y).length := by
      rw [inBox_length ho]; exact hlen
    have hsplit : o.take (freeAxes P.ndim x).length ++ o.drop (freeAxes P.ndim x).length = o :=
      List.take_append_drop _ _
    have htl : (o.take (freeAxes P.ndim x).length).length = (freeAxes P.ndim x).length := by
      rw [List.length_take]; omega
    have ho' := ho
    rw [← hsplit] at ho'
    conv_lhs => rw [← hsplit]
    rw [Cp.elem s _ _ htl ho',
      gradedContract_congr hz1 hz2 hp hp' x y Wp.ltA Wp.ltB
        (shapes_match_w hsP hsP' Wp.con Wp.ltA Wp.ltB) s _ _ htl ho']
    by_cases hsq : s ∈ zq.sectors
    · have hoq : inBox (Arr.blockShapeD (without Q.indices x ++ without Q'.indices y) s)
          (o.take (freeAxes P.ndim x).length ++ o.drop (freeAxes P.ndim x).length) = true := by
        rw [← pad_tables_shape hp hp' x y (hkeyQ s hsq)]; exact ho'
      conv_rhs => rw [← hsplit]
      rw [Cq.elem s _ _ (by rw [← hp.ndim]; exact htl) hoq]
    · rw [Arr.elem_of_not_mem hsq]
      have hnil : storedPairs Q Q' (freeAxes Q.ndim x) x y (freeAxes Q'.ndim y) s = [] := by
        apply List.eq_nil_iff_forall_not_mem.mpr
        intro pr hpr
        apply hsq
        rw [Cq.sectors]
        exact (AssocP.mem_keys_iff _ _ _ _ _ _ _).mpr ⟨pr, hpr⟩
      unfold gradedContract
      rw [hnil]
      simp only [List.map_nil, List.sum_nil, Lazy.sgnI_zero]

end TdotP

namespace Net4P
open TdotP GradedP RoutesP AssocP
variable {R : Type}

abbrev tdM [Zero R] [Add R] [Mul R] [Neg R] (m : TdotMode) (X Y : Arr R) (xa xb : List Nat) :
    Except Err (Arr R) :=
  X.tensordotF Y (.pair (xa.map Int.ofNat) (xb.map Int.ofNat)) m

/-- what is carried along a route: `Xm` (calls in arbitrary modes) is a zero-padded copy of the
    blockwise `X` -/
structure PadA [Zero R] [Neg R] (Xm X : Arr R) : Prop where
  pad : Pad Xm X
  oddpos : Xm.oddpos = X.oddpos
  charge : Xm.charge = X.charge

theorem PadA.refl [Zero R] [Neg R] {X : Arr R} (hv : X.validB = true) : PadA X X :=
  ⟨Pad.refl hv, rfl, rfl⟩

/-- **one call in ANY mode on zero-padded operands**: a zero-padded copy of the blockwise call on
    the plain operands, and an `InterW` of the padded operands -/
theorem pad_call [AddCommMonoid R] [Mul R] [Neg R] [SignRing R]
    (hz1 : ∀ x : R, 0 * x = 0) (hz2 : ∀ x : R, x * 0 = 0) {P Q P' Q' : Arr R} {x y : List Nat}
    (hp : PadA P Q) (hp' : PadA P' Q') (Wp : AdmW P P' x y) (Wq : AdmW Q Q' x y) (zq : Arr R)
    (hq : tdM .blockwise Q Q' x y = .ok zq) (mode : TdotMode) :
    ∃ zm, tdM mode P P' x y = .ok zm ∧ PadA zm zq ∧ InterW P P' x y zm := by
  obtain ⟨zp, hzp, pz, oz, cz⟩ := pad_blockwise hz1 hz2 hp.pad hp'.pad Wp Wq hp.oddpos hp.charge
    hp'.oddpos hp'.charge zq hq
  obtain ⟨zf, hzf, pf, If, Ib, of, cf⟩ := call_w hz1 hz2 P P' x y Wp .fused (Or.inl rfl) zp hzp
  cases mode with
  | blockwise => exact ⟨zp, hzp, ⟨pz, oz, cz⟩, Ib⟩
  | fused => exact ⟨zf, hzf, ⟨pf.trans pz, of.trans oz, cf.trans cz⟩, If⟩
  | auto =>
    obtain ⟨za, hza, pa, Ia, _, oa, ca⟩ := call_w hz1 hz2 P P' x y Wp .auto (Or.inr rfl) zp hzp
    exact ⟨za, hza, ⟨pa.trans pz, oa.trans oz, ca.trans cz⟩, Ia⟩

theorem pad_elem_nil [Zero R] [Neg R] {P Q : Arr R} (hp : Pad P Q) (hn : P.ndim = 0) :
    P.elem [] [] = Q.elem [] [] := by
  by_cases hs : ([] : Sector) ∈ P.sectors
  · apply hp.elem [] hs
    have : P.indices = [] := List.eq_nil_of_length_eq_zero hn
    rw [this]; rfl
  · rw [Arr.elem_of_not_mem hs, Arr.elem_of_not_mem (fun h => hs (hp.sub _ h))]

theorem PadA.scalar [Zero R] [Neg R] {cm c : Arr R} (P : PadA cm c) (hc : c.ndim = 0) :
    cm.ndim = 0 ∧ cm.oddpos = c.oddpos ∧ cm.elem [] [] = c.elem [] [] :=
  ⟨P.pad.ndim.trans hc, P.oddpos, pad_elem_nil P.pad (P.pad.ndim.trans hc)⟩

/-- **two left-nested calls in any modes.**  `Ym` a zero-padded copy of `Y`, the triangle hypotheses
    for both, the blockwise route `(Y·p)·q`: `(Ym·p)·q` with the calls in modes `m1`, `m2` succeeds
    and is a zero-padded copy of the blockwise result. -/
theorem left_two_any [AddCommMonoid R] [Mul R] [Neg R] [SignRing R]
    (hz1 : ∀ x : R, 0 * x = 0) (hz2 : ∀ x : R, x * 0 = 0)
    {Y Ym p q AB c : Arr R} {a1 a3 b1 b2 c2 c3 : List Nat} (P : PadA Ym Y) (hp : p.validB = true)
    (hq : q.validB = true)
    (Tm : Assoc3P.TriW Ym p q a1 a3 b1 b2 c2 c3) (Tb : Assoc3P.TriW Y p q a1 a3 b1 b2 c2 c3)
    (e1 : tdM .blockwise Y p a1 b1 = .ok AB)
    (e2 : tdM .blockwise AB q (Assoc2P.axesAB Y.ndim p.ndim a1 a3 b1 b2) (c3 ++ c2) = .ok c)
    (m1 m2 : TdotMode) :
    ∃ ABm cm, tdM m1 Ym p a1 b1 = .ok ABm
      ∧ tdM m2 ABm q (Assoc2P.axesAB Y.ndim p.ndim a1 a3 b1 b2) (c3 ++ c2) = .ok cm ∧ PadA cm c := by
  obtain ⟨ABm, e1m, pAB, IABm⟩ := pad_call hz1 hz2 P (PadA.refl hp) Tm.hAB Tb.hAB AB e1 m1
  obtain ⟨_, _, C⟩ := Call.of_ok Tb.hAB e1
  have W2p := admW_left_tri_w IABm Tm
  rw [P.pad.ndim] at W2p
  obtain ⟨cm, e2m, pc, _⟩ :=
    pad_call hz1 hz2 pAB (PadA.refl hq) W2p (admW_left_tri_w C.toInter.toW Tb) c e2 m2
  exact ⟨ABm, cm, e1m, e2m, pc⟩

/-- **two right-nested calls in any modes**: `p·(q·Ym)` from the blockwise `p·(q·Y)` -/
theorem right_two_any [AddCommMonoid R] [Mul R] [Neg R] [SignRing R]
    (hz1 : ∀ x : R, 0 * x = 0) (hz2 : ∀ x : R, x * 0 = 0)
    {Y Ym p q BC c : Arr R} {a1 a3 b1 b2 c2 c3 : List Nat} (P : PadA Ym Y) (hp : p.validB = true)
    (hq : q.validB = true)
    (Tm : Assoc3P.TriW p q Ym a1 a3 b1 b2 c2 c3) (Tb : Assoc3P.TriW p q Y a1 a3 b1 b2 c2 c3)
    (e1 : tdM .blockwise q Y b2 c2 = .ok BC)
    (e2 : tdM .blockwise p BC (a1 ++ a3) (Assoc2P.axesBC q.ndim Y.ndim b1 b2 c2 c3) = .ok c)
    (m1 m2 : TdotMode) :
    ∃ BCm cm, tdM m1 q Ym b2 c2 = .ok BCm
      ∧ tdM m2 p BCm (a1 ++ a3) (Assoc2P.axesBC q.ndim Y.ndim b1 b2 c2 c3) = .ok cm ∧ PadA cm c := by
  obtain ⟨BCm, e1m, pBC, IBCm⟩ := pad_call hz1 hz2 (PadA.refl hq) P Tm.hBC Tb.hBC BC e1 m1
  obtain ⟨_, _, C⟩ := Call.of_ok Tb.hBC e1
  have W2p := admW_right_tri_w IBCm Tm
  rw [P.pad.ndim] at W2p
  obtain ⟨cm, e2m, pc, _⟩ :=
    pad_call hz1 hz2 (PadA.refl hp) pBC W2p (admW_right_tri_w C.toInter.toW Tb) c e2 m2
  exact ⟨BCm, cm, e1m, e2m, pc⟩

end Net4P
end SymmModel
