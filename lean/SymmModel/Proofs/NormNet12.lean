/-
  SymmModel.Proofs.NormNet12 — network form of the norm (property C10):
  the decidable "no pruning" guard `netFullB` (every charge of every dangling leg occurs in a stored
  sector of `a·b`).
-/
import SymmModel.Proofs.NormNet11
namespace SymmModel.NormNet
open SymmModel SymmModel.TdotP

set_option linter.unusedSectionVars false

section noprune

/-- every charge listed by an index table of `W` occurs at that position in some sector of `S` -/
def noPruneB (W : List Index) (S : List Sector) : Bool :=
  W.zipIdx.all (fun p => p.1.charges.all (fun c => (S.filterMap (fun s => s[p.2]?)).contains c))

theorem dropUnused_of_noPrune (W : List Index) (S : List Sector) (h : noPruneB W S = true) :
    dropUnused W S = W := by
  rw [dropUnused_eq]
  have : ∀ p ∈ W.zipIdx, dropTo p.1 (S.filterMap (fun s => s[p.2]?)) = p.1 := by
    intro p hp
    unfold noPruneB at h
    have h1 := List.all_eq_true.mp h p hp
    unfold dropTo
    have : p.1.charges.filter (fun c => !(S.filterMap (fun s => s[p.2]?)).contains c) = [] := by
      rw [List.filter_eq_nil_iff]
      intro c hc
      have := List.all_eq_true.mp h1 c hc
      rw [this]; decide
    simp only [this, List.isEmpty_nil, if_true]
  rw [List.map_congr_left this]
  simp [List.zipIdx_map_fst]

variable {R : Type}

/-- the guard under which C10d states the sequential routes (they hold without it: C10e): the index tables of
    `a·b` are not pruned — every charge of every dangling leg of `a` and `b` occurs in a sector key of the
    contraction -/
def netFullB (a b : Arr R) (xa xb : List Nat) : Bool :=
  noPruneB (without a.indices xa ++ without b.indices xb)
    (tdKeys a.sectors b.sectors (freeAxes a.ndim xa) xa xb (freeAxes b.ndim xb))

theorem noPruneB_eraseDups (W : List Index) (S : List Sector) :
    noPruneB W S.eraseDups = noPruneB W S := by
  unfold noPruneB
  apply List.all_congr rfl
  intro p
  apply List.all_congr rfl
  intro c
  rw [Bool.eq_iff_iff]
  simp only [List.contains_iff_mem, List.mem_filterMap, List.mem_eraseDups]

end noprune

end SymmModel.NormNet
