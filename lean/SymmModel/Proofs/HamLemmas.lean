/-
  SymmModel.Proofs.HamLemmas — lemmas for property C19 (Model/Ham.lean).  `coordinations[v]` is the
  degree of `v`; dividing a per-site quantity by the degree on every incident edge end and summing
  over the edges gives it once per site (`onsite_core`), which with the closed form of the returned
  dict (`edgeDict_closed`) is `edgewise_eq_lattice`; on a simple graph a filter on the two-site
  monomials of a bond lets through the terms of that one edge only (`bond_filter`); the legs that
  `parse_edges_to_site_info` collects per site (`parseFold_legs`, `contrib_count`).
-/
import Mathlib.Algebra.Field.Rat
import Mathlib.Tactic.Ring
import Mathlib.Tactic.FieldSimp
import Mathlib.Data.List.Nodup
import SymmModel.Model.Ham
import SymmModel.Proofs.Accum
namespace SymmModel.HamLemmas
open SymmModel


/-- the table `acc` holds exactly the non-zero values of `f`: the invariant of the loop that counts
    edge ends (`coordStep`) -/
def TableOk (acc : List (Site × Nat)) (f : Site → Nat) : Prop :=
  ∀ v, alookup acc v = if f v = 0 then none else some (f v)

theorem coordStep_ok (acc : List (Site × Nat)) (f : Site → Nat) (e : Edge) (h : TableOk acc f) :
    TableOk (coordStep acc e)
      (fun v => f v + ((if e.1 = v then 1 else 0) + (if e.2 = v then 1 else 0))) := by
  intro v
  simp only [coordStep, alookup_ainsert, beq_iff_eq, h _]
  by_cases h1 : e.1 = v <;> by_cases h2 : e.2 = v <;> by_cases h0 : f v = 0 <;>
    simp_all

theorem coordFold_ok (es : List Edge) : ∀ (acc : List (Site × Nat)) (f : Site → Nat),
    TableOk acc f → TableOk (es.foldl coordStep acc) (fun v => f v + degree es v) := by
  induction es with
  | nil => intro acc f h; simpa [degree] using h
  | cons e rest ih =>
    intro acc f h
    have := ih _ _ (coordStep_ok acc f e h)
    intro v
    rw [List.foldl_cons, this v]
    simp only [degree, Nat.add_assoc]

theorem coordination_eq (edges : List Edge) (v : Site) :
    coordination edges v = if degree edges v = 0 then none else some (degree edges v) := by
  have := coordFold_ok edges [] (fun _ => 0) (by intro v; simp [alookup]) v
  simpa [coordination, coordTable] using this



theorem mapOpt_eq_map {α β : Type} (f : α → Option β) (d : β) :
    ∀ (l : List α) (r : List β), mapOpt f l = some r →
      r = l.map (fun a => (f a).getD d) ∧ ∀ a ∈ l, (f a).isSome := by
  intro l
  induction l with
  | nil => intro r h; simp [mapOpt] at h; subst h; simp
  | cons a as ih =>
    intro r h
    simp only [mapOpt] at h
    cases hfa : f a with
    | none => simp [hfa] at h
    | some b =>
      cases hrest : mapOpt f as with
      | none => simp [hfa, hrest] at h
      | some bs =>
        simp [hfa, hrest] at h
        obtain ⟨h1, h2⟩ := ih bs hrest
        subst h
        refine ⟨by simp [hfa, ← h1], ?_⟩
        intro a' ha'
        rcases List.mem_cons.mp ha' with rfl | hm
        · simp [hfa]
        · exact h2 a' hm


theorem sum_supported {α : Type} [DecidableEq α] (l : List α) (hnd : l.Nodup) (ψ : α → Rat) (w : α)
    (hψ : ∀ v, v ≠ w → ψ v = 0) : (l.map ψ).sum = if w ∈ l then ψ w else 0 := by
  induction l with
  | nil => simp
  | cons a as ih =>
    have hnd' := List.nodup_cons.mp hnd
    simp only [List.map_cons, List.sum_cons, ih hnd'.2]
    by_cases h : a = w
    · subst h
      simp [hnd'.1]
    · have : ¬ w = a := fun h' => h h'.symm
      simp [hψ a h, List.mem_cons, this]

theorem coefAt_append (a b : List Term) (k : Kind) (s : List Site) :
    coefAt (a ++ b) k s = coefAt a k s + coefAt b k s := by
  simp [coefAt, List.sum_append]

theorem coefAt_flatMap {α : Type} (l : List α) (g : α → List Term) (k : Kind) (s : List Site) :
    coefAt (l.flatMap g) k s = (l.map (fun a => coefAt (g a) k s)).sum := by
  induction l with
  | nil => simp [coefAt]
  | cons a as ih => simp only [List.flatMap_cons, coefAt_append, ih, List.map_cons, List.sum_cons]


theorem mem_sitesOf (es : List Edge) (v : Site) :
    v ∈ sitesOf es ↔ ∃ e ∈ es, e.1 = v ∨ e.2 = v := by
  induction es with
  | nil => simp [sitesOf]
  | cons e rest ih =>
    simp only [sitesOf, List.mem_cons, exists_eq_or_imp]
    by_cases h1 : e.1 ∈ sitesOf rest
    · by_cases h2 : e.2 ∈ sitesOf rest
      · simp only [h1, h2, if_true, ih]
        constructor
        · intro h; exact Or.inr h
        · rintro (h | h)
          · rcases h with h | h
            · subst h; exact ih.mp h1
            · subst h; exact ih.mp h2
          · exact h
      · simp only [h1, h2, if_true, if_false, List.mem_cons, ih]
        constructor
        · rintro (h | h)
          · exact Or.inl (Or.inr h.symm)
          · exact Or.inr h
        · rintro (h | h)
          · rcases h with h | h
            · subst h; exact Or.inr (ih.mp h1)
            · exact Or.inl h.symm
          · exact Or.inr h
    · by_cases h2 : e.2 ∈ e.1 :: sitesOf rest
      · simp only [h1, h2, if_true, if_false, List.mem_cons, ih]
        constructor
        · rintro (h | h)
          · exact Or.inl (Or.inl h.symm)
          · exact Or.inr h
        · rintro (h | h)
          · rcases h with h | h
            · exact Or.inl h.symm
            · subst h
              rcases List.mem_cons.mp h2 with h3 | h3
              · exact Or.inl h3
              · exact Or.inr (ih.mp h3)
          · exact Or.inr h
      · simp only [h1, h2, if_false, List.mem_cons, ih]
        constructor
        · rintro (h | h | h)
          · exact Or.inl (Or.inr h.symm)
          · exact Or.inl (Or.inl h.symm)
          · exact Or.inr h
        · rintro (h | h)
          · rcases h with h | h
            · exact Or.inr (Or.inl h.symm)
            · exact Or.inl h.symm
          · exact Or.inr (Or.inr h)

theorem sitesOf_nodup (es : List Edge) : (sitesOf es).Nodup := by
  induction es with
  | nil => simp [sitesOf]
  | cons e rest ih =>
    simp only [sitesOf]
    by_cases h1 : e.1 ∈ sitesOf rest
    · by_cases h2 : e.2 ∈ sitesOf rest
      · simpa [h1, h2] using ih
      · simp only [h1, h2, if_true, if_false]
        exact List.nodup_cons.mpr ⟨h2, ih⟩
    · have hn1 : (e.1 :: sitesOf rest).Nodup := List.nodup_cons.mpr ⟨h1, ih⟩
      by_cases h2 : e.2 ∈ e.1 :: sitesOf rest
      · simpa [h1, h2] using hn1
      · simp only [h1, h2, if_false]
        exact List.nodup_cons.mpr ⟨h2, hn1⟩

theorem degree_ne_zero_iff (es : List Edge) (v : Site) :
    degree es v ≠ 0 ↔ ∃ e ∈ es, e.1 = v ∨ e.2 = v := by
  induction es with
  | nil => simp [degree]
  | cons e rest ih =>
    simp only [degree, List.mem_cons, exists_eq_or_imp]
    constructor
    · intro h
      by_cases h1 : e.1 = v
      · exact Or.inl (Or.inl h1)
      · by_cases h2 : e.2 = v
        · exact Or.inl (Or.inr h2)
        · right
          apply ih.mp
          simpa [h1, h2] using h
    · rintro (h | h)
      · rcases h with h | h <;> simp [h]
      · have := ih.mpr h
        omega

theorem degree_ne_zero_iff_mem (es : List Edge) (v : Site) :
    degree es v ≠ 0 ↔ v ∈ sitesOf es := by
  rw [degree_ne_zero_iff, mem_sitesOf]

theorem sum_ends (es : List Edge) (w : Site) (x : Rat) :
    (es.map (fun e => (if e.1 = w then x else 0) + (if e.2 = w then x else 0))).sum
      = (degree es w : Rat) * x := by
  induction es with
  | nil => simp [degree]
  | cons e rest ih =>
    simp only [List.map_cons, List.sum_cons, ih, degree]
    by_cases h1 : e.1 = w <;> by_cases h2 : e.2 = w <;> simp [h1, h2] <;> ring

theorem onsite_core (edges : List Edge) (ψ : Site → Rat) (w : Site) (hψ : ∀ v, v ≠ w → ψ v = 0) :
    (edges.map (fun e => ψ e.1 / (degree edges e.1 : Rat) + ψ e.2 / (degree edges e.2 : Rat))).sum
      = ((sitesOf edges).map ψ).sum := by
  have h1 : (edges.map (fun e => ψ e.1 / (degree edges e.1 : Rat) + ψ e.2 / (degree edges e.2 : Rat))).sum
      = (edges.map (fun e => (if e.1 = w then ψ w / (degree edges w : Rat) else 0)
          + (if e.2 = w then ψ w / (degree edges w : Rat) else 0))).sum := by
    apply sum_map_congr
    intro e _
    by_cases h1 : e.1 = w <;> by_cases h2 : e.2 = w <;> simp [h1, h2, hψ]
  rw [h1, sum_ends, sum_supported _ (sitesOf_nodup edges) ψ w hψ]
  by_cases hd : degree edges w = 0
  · have : w ∉ sitesOf edges := fun hm => (degree_ne_zero_iff_mem edges w).mpr hm hd
    simp [hd, this]
  · have hm : w ∈ sitesOf edges := (degree_ne_zero_iff_mem edges w).mp hd
    have hq : (degree edges w : Rat) ≠ 0 := by exact_mod_cast hd
    simp only [hm, if_true]
    field_simp

theorem edgewise_sum (edges : List Edge) (F B : Edge → Rat) (ψ : Site → Rat) (w : Site)
    (hψ : ∀ v, v ≠ w → ψ v = 0)
    (hF : ∀ e ∈ edges, F e = B e + (ψ e.1 / (degree edges e.1 : Rat) + ψ e.2 / (degree edges e.2 : Rat))) :
    (edges.map F).sum = (edges.map B).sum + ((sitesOf edges).map ψ).sum := by
  rw [sum_map_congr hF, List.sum_map_add, onsite_core edges ψ w hψ]



theorem edgeDict_closed (args : Edge → Option LocalArgs) (terms : Site → Site → LocalArgs → List Term)
    (edges : List Edge) (H : List (Edge × LocalArgs × List Term)) (hnd : edges.Nodup)
    (h : edgeDict args terms edges = some H) :
    H = edges.map (fun e => (e, (args e).getD default, terms e.1 e.2 ((args e).getD default)))
      ∧ ∀ e ∈ edges, (args e).isSome := by
  unfold edgeDict edgeItems at h
  cases hi : mapOpt (fun e => (args e).map (fun g => (e, g, terms e.1 e.2 g))) edges with
  | none => simp [hi] at h
  | some items =>
    simp only [hi, Option.map_some, Option.some.injEq] at h
    obtain ⟨h1, h2⟩ := mapOpt_eq_map _ (default : Edge × LocalArgs × List Term) edges items hi
    have hsome : ∀ e ∈ edges, (args e).isSome := by
      intro e he
      have := h2 e he
      simpa using this
    have h3 : items = edges.map (fun e => (e, (args e).getD default, terms e.1 e.2 ((args e).getD default))) := by
      rw [h1]
      apply List.map_congr_left
      intro e he
      obtain ⟨g, hg⟩ := Option.isSome_iff_exists.mp (hsome e he)
      simp [hg]
    have hk : items.map (·.1) = edges := by
      rw [h3, List.map_map]
      simp [Function.comp_def]
    refine ⟨?_, hsome⟩
    rw [← h, adict_of_nodup items (by rw [hk]; exact hnd), h3]

theorem allTerms_closed (args : Edge → Option LocalArgs) (terms : Site → Site → LocalArgs → List Term)
    (edges : List Edge) :
    allTerms (edges.map (fun e => (e, (args e).getD default, terms e.1 e.2 ((args e).getD default))))
      = edges.flatMap (fun e => terms e.1 e.2 ((args e).getD default)) := by
  induction edges with
  | nil => rfl
  | cons e rest ih =>
    simp only [allTerms, List.map_cons, List.flatMap_cons] at ih ⊢
    rw [ih]

theorem coord_some (edges : List Edge) (v : Site) (n : Nat) (h : coordination edges v = some n) :
    n = degree edges v ∧ degree edges v ≠ 0 := by
  rw [coordination_eq] at h
  by_cases hd : degree edges v = 0
  · simp [hd] at h
  · simp [hd] at h
    exact ⟨h.symm, hd⟩

/-! ### the three term lists split into a bond part and two site parts -/

def hubBondTerms (tv : Rat) (x y : Site) : List Term :=
  [ ⟨-tv, .hop .up, [x, y]⟩, ⟨-tv, .hop .up, [y, x]⟩,
    ⟨-tv, .hop .dn, [x, y]⟩, ⟨-tv, .hop .dn, [y, x]⟩ ]

def hubSiteTerms (u m : Rat) (v : Site) : List Term :=
  [ ⟨u, .dbl, [v]⟩, ⟨-m, .num .up, [v]⟩, ⟨-m, .num .dn, [v]⟩ ]

def slBondTerms (tv vv : Rat) (x y : Site) : List Term :=
  [ ⟨-tv, .hop .none, [x, y]⟩, ⟨-tv, .hop .none, [y, x]⟩, ⟨vv, .nn, [x, y]⟩ ]

def slSiteTerms (m : Rat) (v : Site) : List Term := [ ⟨-m, .num .none, [v]⟩ ]

def tfBondTerms (j : Rat) (x y : Site) : List Term := [ ⟨j, .xx, [x, y]⟩ ]

def tfSiteTerms (h : Rat) (v : Site) : List Term := [ ⟨h, .zf, [v]⟩ ]

theorem hubbard_local_decomp (x y : Site) (g : LocalArgs) (k : Kind) (s : List Site) :
    coefAt (hubbardLocalTerms x y g) k s = coefAt (hubBondTerms g.t x y) k s
      + (coefAt (hubSiteTerms g.ua g.mua x) k s / (g.ca : Rat)
        + coefAt (hubSiteTerms g.ub g.mub y) k s / (g.cb : Rat)) := by
  simp only [coefAt, hubbardLocalTerms, hubBondTerms, hubSiteTerms, List.map_cons, List.map_nil,
    List.sum_cons, List.sum_nil, add_div, ite_div, zero_div]
  ring

theorem spinless_local_decomp (x y : Site) (g : LocalArgs) (k : Kind) (s : List Site) :
    coefAt (spinlessLocalTerms x y g) k s = coefAt (slBondTerms g.t g.v x y) k s
      + (coefAt (slSiteTerms g.mua x) k s / (g.ca : Rat)
        + coefAt (slSiteTerms g.mub y) k s / (g.cb : Rat)) := by
  simp only [coefAt, spinlessLocalTerms, slBondTerms, slSiteTerms, List.map_cons, List.map_nil,
    List.sum_cons, List.sum_nil, add_div, ite_div, zero_div]
  ring

theorem tfim_local_decomp (x y : Site) (g : LocalArgs) (k : Kind) (s : List Site) :
    coefAt (tfimLocalTerms x y g) k s = coefAt (tfBondTerms g.t x y) k s
      + (coefAt (tfSiteTerms g.ua x) k s / (g.ca : Rat)
        + coefAt (tfSiteTerms g.ub y) k s / (g.cb : Rat)) := by
  simp only [coefAt, tfimLocalTerms, tfBondTerms, tfSiteTerms, List.map_cons, List.map_nil,
    List.sum_cons, List.sum_nil, add_div, ite_div, zero_div]
  ring

theorem hubSite_support (u m : Rat) (v : Site) (k : Kind) (s : List Site) (h : s ≠ [v]) :
    coefAt (hubSiteTerms u m v) k s = 0 := by
  have : ¬ [v] = s := fun h' => h h'.symm
  simp [coefAt, hubSiteTerms, this]

theorem slSite_support (m : Rat) (v : Site) (k : Kind) (s : List Site) (h : s ≠ [v]) :
    coefAt (slSiteTerms m v) k s = 0 := by
  have : ¬ [v] = s := fun h' => h h'.symm
  simp [coefAt, slSiteTerms, this]

theorem tfSite_support (m : Rat) (v : Site) (k : Kind) (s : List Site) (h : s ≠ [v]) :
    coefAt (tfSiteTerms m v) k s = 0 := by
  have : ¬ [v] = s := fun h' => h h'.symm
  simp [coefAt, tfSiteTerms, this]

theorem headD_support (s : List Site) (v : Site) (h : v ≠ s.headD 0) : s ≠ [v] := by
  intro hs; subst hs; simp at h



theorem hubbardArgs_some (edges : List Edge) (t : EdgeCoef) (U mu : NodeCoef) (e : Edge) (g : LocalArgs)
    (h : hubbardArgs edges t U mu e = some g) :
    t.get e.1 e.2 = some g.t ∧ U.get e.1 = some g.ua ∧ U.get e.2 = some g.ub
      ∧ mu.get e.1 = some g.mua ∧ mu.get e.2 = some g.mub
      ∧ coordination edges e.1 = some g.ca ∧ coordination edges e.2 = some g.cb := by
  simp only [hubbardArgs, Option.bind_eq_bind, Option.pure_def, Option.bind_eq_some_iff] at h
  obtain ⟨a1, h1, a2, h2, a3, h3, a4, h4, a5, h5, a6, h6, a7, h7, hg⟩ := h
  simp only [Option.some.injEq] at hg
  subst hg
  exact ⟨h1, h2, h3, h4, h5, h6, h7⟩

theorem spinlessArgs_some (edges : List Edge) (t V : EdgeCoef) (mu : NodeCoef) (e : Edge) (g : LocalArgs)
    (h : spinlessArgs edges t V mu e = some g) :
    t.get e.1 e.2 = some g.t ∧ V.get e.1 e.2 = some g.v
      ∧ mu.get e.1 = some g.mua ∧ mu.get e.2 = some g.mub
      ∧ coordination edges e.1 = some g.ca ∧ coordination edges e.2 = some g.cb := by
  simp only [spinlessArgs, Option.bind_eq_bind, Option.pure_def, Option.bind_eq_some_iff] at h
  obtain ⟨a1, h1, a2, h2, a3, h3, a4, h4, a5, h5, a6, h6, hg⟩ := h
  simp only [Option.some.injEq] at hg
  subst hg
  exact ⟨h1, h2, h3, h4, h5, h6⟩

theorem tfimArgs_some (edges : List Edge) (jx : EdgeCoef) (hz : NodeCoef) (e : Edge) (g : LocalArgs)
    (h : tfimArgs edges jx hz e = some g) :
    jx.get e.1 e.2 = some g.t ∧ hz.get e.1 = some g.ua ∧ hz.get e.2 = some g.ub
      ∧ coordination edges e.1 = some g.ca ∧ coordination edges e.2 = some g.cb := by
  simp only [tfimArgs, Option.bind_eq_bind, Option.pure_def, Option.bind_eq_some_iff] at h
  obtain ⟨a1, h1, a2, h2, a3, h3, a4, h4, a5, h5, hg⟩ := h
  simp only [Option.some.injEq] at hg
  subst hg
  exact ⟨h1, h2, h3, h4, h5⟩



theorem simple_nodup (es : List Edge) (h : simpleB es = true) : es.Nodup := by
  induction es with
  | nil => simp
  | cons e rest ih =>
    simp only [simpleB, Bool.and_eq_true, Bool.not_eq_true', bne_iff_ne, ne_eq] at h
    obtain ⟨⟨⟨_, h2⟩, _⟩, h4⟩ := h
    have : e ∉ rest := by simpa using h2
    exact List.nodup_cons.mpr ⟨this, ih h4⟩

theorem simple_noloop (es : List Edge) (h : simpleB es = true) : ∀ e ∈ es, e.1 ≠ e.2 := by
  induction es with
  | nil => simp
  | cons e rest ih =>
    simp only [simpleB, Bool.and_eq_true, Bool.not_eq_true', bne_iff_ne, ne_eq] at h
    obtain ⟨⟨⟨h1, _⟩, _⟩, h4⟩ := h
    intro e' he'
    rcases List.mem_cons.mp he' with rfl | hm
    · exact h1
    · exact ih h4 e' hm

theorem simple_norev (es : List Edge) (h : simpleB es = true) : ∀ e ∈ es, (e.2, e.1) ∉ es := by
  induction es with
  | nil => simp
  | cons e0 rest ih =>
    simp only [simpleB, Bool.and_eq_true, Bool.not_eq_true', bne_iff_ne, ne_eq] at h
    obtain ⟨⟨⟨h1, h2⟩, h3⟩, h4⟩ := h
    have h2' : e0 ∉ rest := by simpa using h2
    have h3' : (e0.2, e0.1) ∉ rest := by simpa using h3
    intro e he hrev
    rcases List.mem_cons.mp he with rfl | hm
    · rcases List.mem_cons.mp hrev with heq | hm2
      · apply h1
        have := congrArg Prod.fst heq
        simpa using this.symm
      · exact h3' hm2
    · rcases List.mem_cons.mp hrev with heq | hm2
      · apply h3'
        have : e = (e0.2, e0.1) := by
          rw [← heq]
        rw [← this]; exact hm
      · exact ih h4 e hm hm2


theorem flatMap_single {α β : Type} (l : List α) (hnd : l.Nodup) (a : α) (ha : a ∈ l)
    (g : α → List β) (h : ∀ e ∈ l, e ≠ a → g e = []) : l.flatMap g = g a := by
  induction l with
  | nil => simp at ha
  | cons x xs ih =>
    have hnd' := List.nodup_cons.mp hnd
    simp only [List.flatMap_cons]
    rcases List.mem_cons.mp ha with rfl | hm
    · have : xs.flatMap g = [] := by
        rw [List.flatMap_eq_nil_iff]
        intro e he
        exact h e (by simp [he]) (fun heq => hnd'.1 (heq ▸ he))
      simp [this]
    · have hx : x ≠ a := fun heq => hnd'.1 (heq ▸ hm)
      rw [h x (by simp) hx, ih hnd'.2 hm (fun e he hne => h e (by simp [he]) hne)]
      simp



/-- the legs collected so far for site `v` in the accumulator of the first loop of
    `parse_edges_to_site_info` (empty if `v` has no entry); `Model/Ham.legsAt` reads the finished table -/
def legsOf (acc : List (Site × List Leg)) (v : Site) : List Leg := (alookup acc v).getD []

theorem parseStep_legs (D : Nat) (acc : List (Site × List Leg)) (e : Edge) (v : Site) :
    legsOf (parseStep D acc e) v = legsOf acc v ++ bondContrib D v e := by
  simp only [legsOf, parseStep, bondContrib, alookup_ainsert, beq_iff_eq]
  by_cases hgt : e.1 > e.2 <;> simp only [hgt, if_true, if_false]
  · by_cases h1 : e.2 = v <;> by_cases h2 : e.1 = v <;> simp_all
  · by_cases h1 : e.1 = v <;> by_cases h2 : e.2 = v <;> simp_all

theorem parseStep_keys (D : Nat) (acc : List (Site × List Leg)) (e : Edge) (v : Site) :
    (alookup (parseStep D acc e) v).isSome = true
      ↔ ((alookup acc v).isSome = true ∨ e.1 = v ∨ e.2 = v) := by
  simp only [parseStep, alookup_ainsert, beq_iff_eq]
  by_cases hgt : e.1 > e.2 <;> simp only [hgt, if_true, if_false]
  · by_cases h1 : e.2 = v <;> by_cases h2 : e.1 = v <;> simp_all
  · by_cases h1 : e.1 = v <;> by_cases h2 : e.2 = v <;> simp_all

theorem parseFold_legs (D : Nat) (es : List Edge) : ∀ (acc : List (Site × List Leg)) (v : Site),
    legsOf (es.foldl (parseStep D) acc) v = legsOf acc v ++ es.flatMap (bondContrib D v) := by
  induction es with
  | nil => intro acc v; simp
  | cons e rest ih =>
    intro acc v
    rw [List.foldl_cons, ih, parseStep_legs, List.flatMap_cons, List.append_assoc]

theorem parseFold_keys (D : Nat) (es : List Edge) : ∀ (acc : List (Site × List Leg)) (v : Site),
    (alookup (es.foldl (parseStep D) acc) v).isSome = true
      ↔ ((alookup acc v).isSome = true ∨ ∃ e ∈ es, e.1 = v ∨ e.2 = v) := by
  induction es with
  | nil => intro acc v; simp
  | cons e rest ih =>
    intro acc v
    rw [List.foldl_cons, ih, parseStep_keys]
    simp only [List.mem_cons, exists_eq_or_imp, or_assoc]

theorem parseFold_nodup (D : Nat) (es : List Edge) : ∀ (acc : List (Site × List Leg)),
    (acc.map (·.1)).Nodup → ((es.foldl (parseStep D) acc).map (·.1)).Nodup := by
  induction es with
  | nil => intro acc h; simpa using h
  | cons e rest ih =>
    intro acc h
    rw [List.foldl_cons]
    apply ih
    unfold parseStep
    exact ainsert_keys_nodup _ _ (ainsert_keys_nodup _ _ h)

/-- the second loop of `parse_edges_to_site_info` re-values the entries of the first, keys kept -/
theorem parseEdges_lookup (edges : List Edge) (D : Nat) (phys : Option Nat) (v : Site) :
    alookup (parseEdges edges D phys) v
      = (alookup (parseBonds D edges) v).map (fun x => ⟨x ++ physLegs phys v, x.length, v⟩) :=
  alookup_map_val (fun k x => (⟨x ++ physLegs phys k, x.length, k⟩ : SiteInfo)) _ v

theorem degree_perm (l1 l2 : List Edge) (h : l1.Perm l2) (v : Site) : degree l1 v = degree l2 v := by
  induction h with
  | nil => rfl
  | cons x _ ih => simp [degree, ih]
  | swap x y l => simp only [degree]; omega
  | trans _ _ ih1 ih2 => rw [ih1, ih2]

theorem contrib_length (D : Nat) (v : Site) (es : List Edge) :
    (es.flatMap (bondContrib D v)).length = degree es v := by
  induction es with
  | nil => simp [degree]
  | cons e rest ih =>
    have key : (bondContrib D v e).length = (if e.1 = v then 1 else 0) + (if e.2 = v then 1 else 0) := by
      unfold bondContrib
      by_cases hgt : e.1 > e.2 <;> simp only [hgt, if_true, if_false, List.length_append]
      · by_cases h1 : e.1 = v <;> by_cases h2 : e.2 = v <;> simp only [h1, h2, if_true, if_false] <;> rfl
      · by_cases h1 : e.1 = v <;> by_cases h2 : e.2 = v <;> simp only [h1, h2, if_true, if_false] <;> rfl
    simp only [List.flatMap_cons, List.length_append, ih, degree, key]

/-- the edge with its ends in increasing order (what the bond is named after) -/
def normEdge (e : Edge) : Edge := if e.1 > e.2 then (e.2, e.1) else e

theorem bondContrib_eq (D : Nat) (v : Site) (e : Edge) :
    bondContrib D v e
      = (if (normEdge e).1 = v then [⟨.bond (normEdge e).1 (normEdge e).2, 0, D⟩] else [])
        ++ (if (normEdge e).2 = v then [⟨.bond (normEdge e).1 (normEdge e).2, 1, D⟩] else []) := by
  unfold bondContrib normEdge
  split <;> rfl

/-- how many edges of the list join {x, y} (in either orientation) -/
def bondMult (es : List Edge) (x y : Site) : Nat := es.countP (fun e => normEdge e == (x, y))

theorem contrib_count (D : Nat) (v x y δ : Nat) (es : List Edge) :
    (es.flatMap (bondContrib D v)).countP (fun l => l.name == .bond x y && l.dual == δ)
      = if (δ = 0 ∧ v = x) ∨ (δ = 1 ∧ v = y) then bondMult es x y else 0 := by
  induction es with
  | nil => simp [bondMult]
  | cons e rest ih =>
    simp only [List.flatMap_cons, List.countP_append, ih, bondMult, List.countP_cons]
    have key : (bondContrib D v e).countP (fun l => l.name == .bond x y && l.dual == δ)
        = if (δ = 0 ∧ v = x) ∨ (δ = 1 ∧ v = y) then (if (normEdge e == (x, y)) = true then 1 else 0) else 0 := by
      rw [bondContrib_eq]
      generalize normEdge e = ab
      obtain ⟨a, b⟩ := ab
      by_cases h1 : a = v <;> by_cases h2 : b = v <;>
        simp [h1, h2, List.countP_cons, List.countP_nil] <;> grind
    rw [key]
    by_cases hc : (δ = 0 ∧ v = x) ∨ (δ = 1 ∧ v = y) <;> simp [hc]; omega


theorem edgewise_eq_lattice
    (args : Edge → Option LocalArgs) (terms : Site → Site → LocalArgs → List Term)
    (bond : Edge → List Term) (site : Site → List Term)
    (edges : List Edge) (H : List (Edge × LocalArgs × List Term)) (hnd : edges.Nodup)
    (hH : edgeDict args terms edges = some H) (k : Kind) (s : List Site)
    (hsupp : ∀ v, s ≠ [v] → coefAt (site v) k s = 0)
    (hloc : ∀ e ∈ edges, ∀ g, args e = some g →
      coefAt (terms e.1 e.2 g) k s = coefAt (bond e) k s
        + (coefAt (site e.1) k s / (degree edges e.1 : Rat)
          + coefAt (site e.2) k s / (degree edges e.2 : Rat))) :
    coefAt (allTerms H) k s
      = coefAt (edges.flatMap bond ++ (sitesOf edges).flatMap site) k s := by
  obtain ⟨hcl, hsome⟩ := edgeDict_closed args terms edges H hnd hH
  rw [hcl, allTerms_closed, coefAt_flatMap, coefAt_append, coefAt_flatMap, coefAt_flatMap]
  apply edgewise_sum edges _ _ _ (s.headD 0)
  · intro v hv
    exact hsupp v (headD_support s v hv)
  · intro e he
    obtain ⟨g, hg⟩ := Option.isSome_iff_exists.mp (hsome e he)
    simp only [hg, Option.getD_some]
    exact hloc e he g hg


theorem lattice_site_eval (bond : Edge → List Term) (site : Site → List Term) (edges : List Edge)
    (k : Kind) (v : Site) (hb : ∀ e, coefAt (bond e) k [v] = 0)
    (hs : ∀ u, u ≠ v → coefAt (site u) k [v] = 0) :
    coefAt (edges.flatMap bond ++ (sitesOf edges).flatMap site) k [v]
      = if v ∈ sitesOf edges then coefAt (site v) k [v] else 0 := by
  rw [coefAt_append, coefAt_flatMap, coefAt_flatMap,
    sum_supported _ (sitesOf_nodup edges) (fun u => coefAt (site u) k [v]) v hs]
  have : (edges.map (fun e => coefAt (bond e) k [v])).sum = 0 := by
    rw [sum_map_congr (g := fun _ => 0) (fun e _ => hb e)]
    simp
  rw [this]; simp

theorem lattice_onsite (bond : Edge → List Term) (site : Site → List Term) (edges : List Edge)
    (k : Kind) {v : Site} (hv : v ∈ sitesOf edges) (hb : ∀ e, coefAt (bond e) k [v] = 0)
    (hs : ∀ u, [v] ≠ [u] → coefAt (site u) k [v] = 0) :
    coefAt (edges.flatMap bond ++ (sitesOf edges).flatMap site) k [v] = coefAt (site v) k [v] := by
  rw [lattice_site_eval bond site edges k v hb (fun u hu => hs u (by simpa using Ne.symm hu)), if_pos hv]

theorem site_args (args : Edge → Option LocalArgs) (terms : Site → Site → LocalArgs → List Term)
    (edges : List Edge) (H : List (Edge × LocalArgs × List Term)) (hnd : edges.Nodup)
    (hH : edgeDict args terms edges = some H) {v : Site} (hv : v ∈ sitesOf edges) :
    ∃ e g, args e = some g ∧ (e.1 = v ∨ e.2 = v) := by
  obtain ⟨e, he, hev⟩ := (mem_sitesOf edges v).mp hv
  obtain ⟨g, hg⟩ := Option.isSome_iff_exists.mp ((edgeDict_closed _ _ edges H hnd hH).2 e he)
  exact ⟨e, g, hg, hev⟩

theorem bond_filter (args : Edge → Option LocalArgs) (terms : Site → Site → LocalArgs → List Term)
    (edges : List Edge) (H : List (Edge × LocalArgs × List Term)) (hs : simpleB edges = true)
    (hH : edgeDict args terms edges = some H) (a b : Site) (hab : (a, b) ∈ edges)
    (p : Term → Bool)
    (hp : ∀ e ∈ edges, ∀ g, ∀ x ∈ terms e.1 e.2 g, p x = true →
      x.sites = [e.1, e.2] ∨ x.sites = [e.2, e.1])
    (hq : ∀ x, p x = true → x.sites = [a, b] ∨ x.sites = [b, a]) :
    ∃ g, args (a, b) = some g ∧ (allTerms H).filter p = (terms a b g).filter p := by
  have hnd := simple_nodup edges hs
  obtain ⟨hcl, hsome⟩ := edgeDict_closed args terms edges H hnd hH
  obtain ⟨g, hg⟩ := Option.isSome_iff_exists.mp (hsome (a, b) hab)
  refine ⟨g, hg, ?_⟩
  rw [hcl, allTerms_closed, List.filter_flatMap,
    flatMap_single edges hnd (a, b) hab]
  · simp [hg]
  · intro e he hne
    rw [List.filter_eq_nil_iff]
    intro x hx hpx
    rcases hp e he _ x hx hpx with h1 | h1 <;> rcases hq x hpx with h2 | h2
    · rw [h1] at h2
      simp only [List.cons.injEq, and_true] at h2
      exact hne (Prod.ext h2.1 h2.2)
    · rw [h1] at h2
      simp only [List.cons.injEq, and_true] at h2
      have : e = (b, a) := Prod.ext h2.1 h2.2
      exact simple_norev edges hs (a, b) hab (this ▸ he)
    · rw [h1] at h2
      simp only [List.cons.injEq, and_true] at h2
      have : e = (b, a) := Prod.ext h2.2 h2.1
      exact simple_norev edges hs (a, b) hab (this ▸ he)
    · rw [h1] at h2
      simp only [List.cons.injEq, and_true] at h2
      exact hne (Prod.ext h2.2 h2.1)

theorem bond_filter_kind (args : Edge → Option LocalArgs)
    (terms : Site → Site → LocalArgs → List Term)
    (edges : List Edge) (H : List (Edge × LocalArgs × List Term)) (hs : simpleB edges = true)
    (hH : edgeDict args terms edges = some H) (a b : Site) (hab : (a, b) ∈ edges)
    (K : Kind) (S : List Site → Prop) [DecidablePred S]
    (hK : ∀ p q g, ∀ x ∈ terms p q g, x.kind = K → x.sites = [p, q] ∨ x.sites = [q, p])
    (hS : ∀ s, S s → s = [a, b] ∨ s = [b, a]) :
    ∃ g, args (a, b) = some g
      ∧ (allTerms H).filter (fun x => decide (x.kind = K ∧ S x.sites))
          = (terms a b g).filter (fun x => decide (x.kind = K ∧ S x.sites)) :=
  bond_filter args terms edges H hs hH a b hab _
    (fun e _ g x hx hp => hK e.1 e.2 g x hx (of_decide_eq_true hp).1)
    (fun x hp => hS _ (of_decide_eq_true hp).2)

theorem hub_two_site (p q : Site) (g : LocalArgs) (x : Term) (hx : x ∈ hubbardLocalTerms p q g)
    (σ : Spin) (hk : x.kind = .hop σ) : x.sites = [p, q] ∨ x.sites = [q, p] := by
  simp only [hubbardLocalTerms, List.mem_cons, List.not_mem_nil, or_false] at hx
  rcases hx with rfl | rfl | rfl | rfl | rfl | rfl | rfl | rfl | rfl | rfl <;> simp at hk ⊢

theorem sl_two_site (p q : Site) (g : LocalArgs) (x : Term) (hx : x ∈ spinlessLocalTerms p q g)
    (hk : (∃ σ, x.kind = .hop σ) ∨ x.kind = .nn) : x.sites = [p, q] ∨ x.sites = [q, p] := by
  simp only [spinlessLocalTerms, List.mem_cons, List.not_mem_nil, or_false] at hx
  rcases hx with rfl | rfl | rfl | rfl | rfl <;> simp at hk ⊢

theorem tf_two_site (p q : Site) (g : LocalArgs) (x : Term) (hx : x ∈ tfimLocalTerms p q g)
    (hk : x.kind = .xx) : x.sites = [p, q] ∨ x.sites = [q, p] := by
  simp only [tfimLocalTerms, List.mem_cons, List.not_mem_nil, or_false] at hx
  rcases hx with rfl | rfl | rfl <;> simp at hk ⊢


theorem bondMult_simple (edges : List Edge) (hs : simpleB edges = true) (e : Edge) (he : e ∈ edges) :
    bondMult edges (normEdge e).1 (normEdge e).2 = 1 := by
  have hnd := simple_nodup edges hs
  have hrev := simple_norev edges hs
  have hcong : ∀ f ∈ edges, ((normEdge f == ((normEdge e).1, (normEdge e).2)) = true) ↔ ((f == e) = true) := by
    intro f hf
    simp only [beq_iff_eq]
    constructor
    · intro h
      by_contra hne
      have hfe : f = (e.2, e.1) := by
        obtain ⟨f1, f2⟩ := f
        obtain ⟨e1, e2⟩ := e
        simp only [normEdge] at h
        grind
      exact hrev e he (hfe ▸ hf)
    · intro h; rw [h]
  unfold bondMult
  rw [List.countP_congr hcong]
  exact List.count_eq_one_of_mem hnd he


end SymmModel.HamLemmas
