/-
  SymmModel.Proofs.FuseCommuteJ2 — fermionic: free-leg groups fused on BOTH operands before the
  contraction.
  `C06.tensordot_fuse_free_commute_fermionic_two_sided`: `TdotP.lead_commute_fermi` for the left operand
  of the pair `(a, fuseF(b))`, `C06.tensordot_fuse_free_commute_fermionic_right` (S5 – one-sided
  theorem – S5) for the right operand, `fuseF_lead` for the two fused results, S5 once more to come
  back to the plain result `c = tensordotF(a, b)`.  Helpers in `SymmModel.TdotP`, the theorem in
  `SymmModel.C06`.
-/
import SymmModel.Proofs.FuseCommuteJ1

namespace SymmModel.TdotP
open SymmModel SymmModel.GradedP SymmModel.Lazy SymmModel.AssocP SymmModel.RoutesP
open SymmModel.Assoc3P SymmModel.Assoc4P

variable {R : Type}

theorem admW_fuse_lead_right [AddCommMonoid R] [Mul R] [Neg R] [SignRing R] {a b : Arr R}
    {xa xb : List Nat} (W : AdmW a b xa xb) (k : Nat) (e : Bool) (hk1 : 1 ≤ k) (hk : k ≤ b.ndim)
    (hxb : ∀ x ∈ xb, k ≤ x) :
    AdmW a (FuseP.fusedArrM (FuseP.signAdj b [List.range k]) [List.range k]) xa (xb.map (sh k)) :=
  admW_swap (admW_fuse_lead (admW_swap W) k e hk1 hk hxb)

end SymmModel.TdotP

namespace SymmModel.C06
open SymmModel SymmModel.TdotP SymmModel.GradedP SymmModel.RoutesP SymmModel.AssocP
open SymmModel.Assoc3P SymmModel.Assoc4P
open SymmModel.Lazy (sgnI)

variable {R : Type}

/-- **fermionic, BOTH operands** (blockwise, weak guard, commutative scalars, distinct labels):
    `aF = fuseF(a, [0 … ka-1])`, `bF = fuseF(b, [0 … kb-1])` (leading free legs of each operand),
    `cPP = tensordotF(aF, bF)`, `cP = tensordotF(a, bF)`, `c = tensordotF(a, b)`,
    `c' = tensordotF(b, a)`.  At an address `(c0a :: restL ++ c0b :: restR)` whose two fused
    positions decode — `c0a` through the table of `aF` AND through the table of
    `fuseF(cP, [0 … ka-1])` (position `c2a`) to `(Sa, Oa)`; `c0b` through the table of `bF` AND
    through the table of `fuseF(c', [0 … kb-1])` (position `c2b`) to `(Sb, Ob)`:
    * `cPP` there = `fuseF(cP, [0 … ka-1])` at `(c2a :: restL ++ c0b :: restR)` (left group fused
      after the contraction);
    * `cP` at `(Sa ++ restL ++ c0b :: restR)` = Koszul sign of the operand exchange times
      `fuseF(c', [0 … kb-1])` at `(c2b :: restR ++ Sa ++ restL)` (right group fused after the
      contraction, on the operand-exchanged result);
    * all together: `cPP` there = fuse sign of the left group × Koszul sign of the exchange ×
      fuse sign of the right group × Koszul sign of the exchange back × the plain result `c` at
      `(Sa ++ restL ++ Sb ++ restR)`. -/
theorem tensordot_fuse_free_commute_fermionic_two_sided [AddCommMonoid R] [Mul R] [Neg R] [SignRing R]
    (hz1 : ∀ x : R, 0 * x = 0) (hz2 : ∀ x : R, x * 0 = 0) (hmul : ∀ x y : R, x * y = y * x)
    (a b c : Arr R) (xa xb : List Nat) (ka kb : Nat) (e : Bool)
    (ha : a.validB = true) (hb : b.validB = true) (hfa : a.fermi = true) (hfb : b.fermi = true)
    (hadm : tdotAdmissibleCommonB a b xa xb = true)
    (hd : (a.oddpos ++ b.oddpos).Pairwise (fun x y => x.1 ≠ y.1))
    (hka1 : 1 ≤ ka) (hka : ka ≤ a.ndim) (hxa : ∀ x ∈ xa, ka ≤ x)
    (hkb1 : 1 ≤ kb) (hkb : kb ≤ b.ndim) (hxb : ∀ x ∈ xb, kb ≤ x)
    (hc : a.tensordotF b (.pair (xa.map Int.ofNat) (xb.map Int.ofNat)) .blockwise = .ok c) :
    a.fuseF [List.range ka] .insert e
        = .ok (FuseP.fusedArrM (FuseP.signAdj a [List.range ka]) [List.range ka])
    ∧ b.fuseF [List.range kb] .insert e
        = .ok (FuseP.fusedArrM (FuseP.signAdj b [List.range kb]) [List.range kb])
    ∧ ∃ c' cP cPP,
      b.tensordotF a (.pair (xb.map Int.ofNat) (xa.map Int.ofNat)) .blockwise = .ok c'
      ∧ a.tensordotF (FuseP.fusedArrM (FuseP.signAdj b [List.range kb]) [List.range kb])
          (.pair (xa.map Int.ofNat) ((xb.map (sh kb)).map Int.ofNat)) .blockwise = .ok cP
      ∧ (FuseP.fusedArrM (FuseP.signAdj a [List.range ka]) [List.range ka]).tensordotF
          (FuseP.fusedArrM (FuseP.signAdj b [List.range kb]) [List.range kb])
          (.pair ((xa.map (sh ka)).map Int.ofNat) ((xb.map (sh kb)).map Int.ofNat)) .blockwise = .ok cPP
      ∧ c'.fuseF [List.range kb] .insert e
          = .ok (FuseP.fusedArrM (FuseP.signAdj c' [List.range kb]) [List.range kb])
      ∧ cP.fuseF [List.range ka] .insert e
          = .ok (FuseP.fusedArrM (FuseP.signAdj cP [List.range ka]) [List.range ka])
      ∧ kb ≤ c'.ndim ∧ ka ≤ cP.ndim
      ∧ c'.oddpos = c.oddpos ∧ c'.charge = c.charge
      ∧ ∀ (c0a c2a c0b c2b : Charge) (i0a d0a i2a d2a i0b d0b i2b d2b : Nat)
          (Sa Sb restL restR : Sector) (Oa Ob orestL orestR shp1 shp2 : List Nat),
        -- the left fused position
        decAx (FuseP.signAdj a [List.range ka]) [List.range ka] 0 c0a i0a = some (Sa, Oa) →
        (FuseP.ixM (FuseP.signAdj a [List.range ka]) [List.range ka] 0).sizeOf? c0a = some d0a →
        i0a < d0a →
        decAx (FuseP.signAdj cP [List.range ka]) [List.range ka] 0 c2a i2a = some (Sa, Oa) →
        (FuseP.ixM (FuseP.signAdj cP [List.range ka]) [List.range ka] 0).sizeOf? c2a = some d2a →
        i2a < d2a →
        -- the right fused position
        decAx (FuseP.signAdj b [List.range kb]) [List.range kb] 0 c0b i0b = some (Sb, Ob) →
        (FuseP.ixM (FuseP.signAdj b [List.range kb]) [List.range kb] 0).sizeOf? c0b = some d0b →
        i0b < d0b →
        decAx (FuseP.signAdj c' [List.range kb]) [List.range kb] 0 c2b i2b = some (Sb, Ob) →
        (FuseP.ixM (FuseP.signAdj c' [List.range kb]) [List.range kb] 0).sizeOf? c2b = some d2b →
        i2b < d2b →
        -- the rest of the address lies inside the tables of `cP` resp. `c'`
        Arr.blockShape? (cP.indices.drop ka) (restL ++ c0b :: restR) = some shp1 →
        inBox shp1 (orestL ++ i0b :: orestR) = true →
        Arr.blockShape? (c'.indices.drop kb) (restR ++ (Sa ++ restL)) = some shp2 →
        inBox shp2 (orestR ++ (Oa ++ orestL)) = true →
        (Sa ++ restL).length = (freeAxes a.ndim xa).length →
        (Oa ++ orestL).length = (freeAxes a.ndim xa).length →
        restR.length + 1 = (freeAxes (1 + (b.ndim - kb)) (xb.map (sh kb))).length →
        orestR.length = restR.length →
        (Sb ++ restR).length = (freeAxes b.ndim xb).length →
        (Ob ++ orestR).length = (freeAxes b.ndim xb).length →
        -- the addresses lie inside the operands' tables
        inBox (Arr.blockShapeD
            (without (FuseP.fusedArrM (FuseP.signAdj b [List.range kb]) [List.range kb]).indices
                (xb.map (sh kb)) ++ without a.indices xa) ((c0b :: restR) ++ (Sa ++ restL)))
          ((i0b :: orestR) ++ (Oa ++ orestL)) = true →
        inBox (Arr.blockShapeD (without a.indices xa ++ without b.indices xb)
            ((Sa ++ restL) ++ (Sb ++ restR))) ((Oa ++ orestL) ++ (Ob ++ orestR)) = true →
        cPP.elem (c0a :: (restL ++ c0b :: restR)) (i0a :: (orestL ++ i0b :: orestR))
          = (FuseP.fusedArrM (FuseP.signAdj cP [List.range ka]) [List.range ka]).elem
              (c2a :: (restL ++ c0b :: restR)) (i2a :: (orestL ++ i0b :: orestR))
        ∧ cP.elem ((Sa ++ restL) ++ c0b :: restR) ((Oa ++ orestL) ++ i0b :: orestR)
          = sgnI (koszul (((c0b :: restR) ++ (Sa ++ restL)).map a.sym.parity)
                (some ((List.range (Sa ++ restL).length).map ((restR.length + 1) + ·)
                  ++ List.range (restR.length + 1))))
              ((FuseP.fusedArrM (FuseP.signAdj c' [List.range kb]) [List.range kb]).elem
                (c2b :: (restR ++ (Sa ++ restL))) (i2b :: (orestR ++ (Oa ++ orestL))))
        ∧ cPP.elem (c0a :: (restL ++ c0b :: restR)) (i0a :: (orestL ++ i0b :: orestR))
          = sgnI (FuseP.fuseSignT cP [List.range ka] (Sa ++ (restL ++ c0b :: restR)))
             (sgnI (koszul (((c0b :: restR) ++ (Sa ++ restL)).map a.sym.parity)
                (some ((List.range (Sa ++ restL).length).map ((restR.length + 1) + ·)
                  ++ List.range (restR.length + 1))))
              (sgnI (FuseP.fuseSignT c' [List.range kb] (Sb ++ (restR ++ (Sa ++ restL))))
               (sgnI (koszul (((Sa ++ restL) ++ (Sb ++ restR)).map a.sym.parity)
                  (some ((List.range (Sb ++ restR).length).map ((Sa ++ restL).length + ·)
                    ++ List.range (Sa ++ restL).length)))
                (c.elem ((Sa ++ restL) ++ (Sb ++ restR)) ((Oa ++ orestL) ++ (Ob ++ orestR)))))) := by
  have W := AdmW.of ha hb hfa hfb hadm
  obtain ⟨hfuseB, c', hc', s1, s2, s3, s4, sel, hfuseC', hkc', cP, hcP, rel⟩ :=
    tensordot_fuse_free_commute_fermionic_right hz1 hz2 hmul a b c xa xb kb e ha hb hfa hfb hadm hd hkb1 hkb hxb hc
  obtain ⟨_, hvB, _⟩ := fuseF_lead b kb e hb hfb hkb1 hkb
  obtain ⟨fO, fS, fF, fC, nP, iP⟩ := fuse_lead_fields b hb hfb hkb1 hkb
  have WR := admW_fuse_lead_right W kb e hkb1 hkb hxb
  obtain ⟨hfuseA, hfuseCP, hkcp, cPP, hcPP, lel⟩ :=
    lead_commute_fermi hz1 hz2 a _ cP xa (xb.map (sh kb)) ka e ha hvB hfa fF (admB_of_admW WR)
      hka1 hka hxa hcP
  obtain ⟨_, _, CP⟩ := Call.of_ok WR hcP
  obtain ⟨_, _, C'⟩ := Call.of_ok (admW_swap W) hc'
  obtain ⟨_, _, elP⟩ := fuseF_lead cP ka e CP.valid CP.fermi hka1 hkcp
  obtain ⟨_, _, elC⟩ := fuseF_lead c' kb e C'.valid C'.fermi hkb1 hkc'
  refine ⟨hfuseA, hfuseB, c', cP, cPP, hc', hcP, hcPP, hfuseC', hfuseCP, hkc', hkcp, s1, s2, ?_⟩
  intro c0a c2a c0b c2b i0a d0a i2a d2a i0b d0b i2b d2b Sa Sb restL restR Oa Ob orestL orestR shp1 shp2
    a1 a2 a3 a4 a5 a6 b1 b2 b3 b4 b5 b6 hs1 hx1 hs2 hx2 l1 l2 l3 l4 l5 l6 box3 box4
  have E1 := lel c0a c2a i0a d0a i2a d2a Sa (restL ++ c0b :: restR) Oa (orestL ++ i0b :: orestR) shp1
    a1 a2 a3 a4 a5 a6 hs1 hx1
  have E2 := rel c0b c2b i0b d0b i2b d2b Sb restR (Sa ++ restL) Ob orestR (Oa ++ orestL) shp2
    b1 b2 b3 b4 b5 b6 hs2 hx2 l1 l2 l3 l4 box3
  have E3 := elP c2a i2a d2a Sa (restL ++ c0b :: restR) Oa (orestL ++ i0b :: orestR) shp1 a4 a5 a6 hs1 hx1
  have E4 := elC c2b i2b d2b Sb (restR ++ (Sa ++ restL)) Ob (orestR ++ (Oa ++ orestL)) shp2 b4 b5 b6 hs2 hx2
  have E5 := sel (Sa ++ restL) (Sb ++ restR) (Oa ++ orestL) (Ob ++ orestR) l1 l5 l2 l6 box4
  refine ⟨E1, E2, ?_⟩
  rw [E1, E3]
  have e6 : Sa ++ (restL ++ c0b :: restR) = (Sa ++ restL) ++ c0b :: restR := by simp
  have e7 : Oa ++ (orestL ++ i0b :: orestR) = (Oa ++ orestL) ++ i0b :: orestR := by simp
  have e8 : Sb ++ (restR ++ (Sa ++ restL)) = (Sb ++ restR) ++ (Sa ++ restL) := by simp
  have e9 : Ob ++ (orestR ++ (Oa ++ orestL)) = (Ob ++ orestR) ++ (Oa ++ orestL) := by simp
  rw [e7, show cP.elem (Sa ++ (restL ++ c0b :: restR)) = cP.elem ((Sa ++ restL) ++ c0b :: restR) by rw [e6],
    E2, E4, e9,
    show c'.elem (Sb ++ (restR ++ (Sa ++ restL))) = c'.elem ((Sb ++ restR) ++ (Sa ++ restL)) by rw [e8], E5]

end SymmModel.C06
