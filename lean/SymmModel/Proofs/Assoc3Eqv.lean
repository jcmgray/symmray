/-
  SymmModel.Proofs.Assoc3Eqv — observational equivalence of arrays up to block order and up to the
  split between stored numbers and pending signs (`Eqv`), and the CONGRUENCE of the fermionic
  contraction w.r.t. it in either operand.
-/
import SymmModel.Proofs.Assoc3Main

namespace SymmModel
namespace Assoc3P
open TdotP GradedP RoutesP AssocP
open Lazy (sgnI)
set_option linter.unusedSectionVars false

variable {R : Type}

/-- same frame (symmetry, kind, charge, labels, index tables), same SET of stored sectors, same
    value at every offset of every stored block -/
structure Eqv [Zero R] [Neg R] (X X' : Arr R) : Prop where
  sym : X.sym = X'.sym
  fermi : X.fermi = X'.fermi
  charge : X.charge = X'.charge
  oddpos : X.oddpos = X'.oddpos
  indices : X.indices = X'.indices
  sectors : ∀ s, s ∈ X.sectors ↔ s ∈ X'.sectors
  elem : ∀ (s : Sector) (o : List Nat),
    (s ∈ X.sectors → inBox (Arr.blockShapeD X.indices s) o = true) → X.elem s o = X'.elem s o

section basics
variable [Zero R] [Neg R]

theorem Eqv.refl (X : Arr R) : Eqv X X :=
  ⟨rfl, rfl, rfl, rfl, rfl, fun _ => Iff.rfl, fun _ _ _ => rfl⟩

theorem Eqv.symm {X X' : Arr R} (h : Eqv X X') : Eqv X' X :=
  ⟨h.sym.symm, h.fermi.symm, h.charge.symm, h.oddpos.symm, h.indices.symm,
    fun s => (h.sectors s).symm, fun s o ho => (h.elem s o (fun hs => by
      rw [h.indices]; exact ho ((h.sectors s).mp hs))).symm⟩

theorem Eqv.trans {X Y Z : Arr R} (h1 : Eqv X Y) (h2 : Eqv Y Z) : Eqv X Z :=
  ⟨h1.sym.trans h2.sym, h1.fermi.trans h2.fermi, h1.charge.trans h2.charge,
    h1.oddpos.trans h2.oddpos, h1.indices.trans h2.indices,
    fun s => (h1.sectors s).trans (h2.sectors s), fun s o ho => (h1.elem s o ho).trans
      (h2.elem s o (fun hs => by rw [← h1.indices]; exact ho ((h1.sectors s).mpr hs)))⟩

theorem Eqv.ndim {X X' : Arr R} (h : Eqv X X') : X.ndim = X'.ndim := by
  unfold Arr.ndim; rw [h.indices]

theorem Eqv.parity {X X' : Arr R} (h : Eqv X X') : X.parity = X'.parity := by
  unfold Arr.parity; rw [h.sym, h.charge]

end basics

section congr
variable [AddCommMonoid R] [Mul R] [Neg R] [SignRing R]

theorem gradedSign_congr_left {X X' : Arr R} (h : Eqv X X') (Y : Arr R) (xa xb : List Nat)
    (sa sb : Sector) : gradedSign X Y xa xb sa sb = gradedSign X' Y xa xb sa sb :=
  GradedP.gradedSign_congr_left h.sym h.ndim (fun _ => by rw [h.indices]) Y xa xb sa sb

theorem gradedSign_congr_right {Y Y' : Arr R} (h : Eqv Y Y') (X : Arr R) (xa xb : List Nat)
    (sa sb : Sector) : gradedSign X Y xa xb sa sb = gradedSign X Y' xa xb sa sb :=
  GradedP.gradedSign_congr_right h.sym h.ndim X xa xb sa sb

theorem storedPairs_perm_left {X X' : Arr R} (h : Eqv X X') (Y : Arr R) (l xa xb r : List Nat)
    (s : Sector) (hdX : X.sectors.Nodup) (hdX' : X'.sectors.Nodup) (hdY : Y.sectors.Nodup) :
    (storedPairs X Y l xa xb r s).Perm (storedPairs X' Y l xa xb r s) := by
  rw [List.perm_ext_iff_of_nodup (storedPairs_nodup _ _ _ _ _ hdX hdY)
    (storedPairs_nodup _ _ _ _ _ hdX' hdY)]
  rintro ⟨sa, sb⟩
  rw [mem_storedPairs, mem_storedPairs, h.sectors sa]

theorem storedPairs_perm_right {Y Y' : Arr R} (h : Eqv Y Y') (X : Arr R) (l xa xb r : List Nat)
    (s : Sector) (hdX : X.sectors.Nodup) (hdY : Y.sectors.Nodup) (hdY' : Y'.sectors.Nodup) :
    (storedPairs X Y l xa xb r s).Perm (storedPairs X Y' l xa xb r s) := by
  rw [List.perm_ext_iff_of_nodup (storedPairs_nodup _ _ _ _ _ hdX hdY)
    (storedPairs_nodup _ _ _ _ _ hdX hdY')]
  rintro ⟨sa, sb⟩
  rw [mem_storedPairs, mem_storedPairs, h.sectors sb]

theorem gradedContract_congr_left {X X' Y : Arr R} {xa xb : List Nat} (W : AdmW X Y xa xb)
    (h : Eqv X X') (hvX' : X'.validB = true) (s : Sector) (oL oR : List Nat)
    (hoL : oL.length = (freeAxes X.ndim xa).length)
    (ho : inBox (Arr.blockShapeD (without X.indices xa ++ without Y.indices xb) s) (oL ++ oR) = true) :
    gradedContract X Y xa xb s oL oR = gradedContract X' Y xa xb s oL oR := by
  have hsX := Arr.shapesOk_of_validB W.va
  have hsY := Arr.shapesOk_of_validB W.vb
  have hdX := Arr.validB_nodup W.va
  have hdX' := Arr.validB_nodup hvX'
  have hdY := Arr.validB_nodup W.vb
  unfold gradedContract
  rw [← h.ndim, ← ((storedPairs_perm_left h Y _ xa xb _ s hdX hdX' hdY).map _).sum_eq]
  apply sum_map_congr
  rintro ⟨sa, sb⟩ hp
  rw [gradedSign_congr_left h]
  congr 1
  obtain ⟨hA, _, _, _⟩ := mem_storedPairs.mp hp
  obtain ⟨shpA, hA1, hA2, hA3, _⟩ := shape_of_mem hsX hA
  obtain ⟨fb1, _⟩ := free_boxes hsX hsY hp hoL ho
  unfold contractPair contractTerm
  rw [← h.indices, ← h.ndim]
  apply sum_map_congr
  intro k hk
  congr 1
  apply h.elem
  intro _
  have := inBox_mergeIdx (shape := Arr.blockShapeD X.indices sa) (axes := xa) (k := k) (f := oL)
    (by rw [hA2, hA3]; exact W.ltA) (mem_allIdx.mp hk) (by rw [hA2, hA3]; rw [hA2] at fb1; exact fb1)
  rw [hA2, hA3] at this
  rw [hA2]
  exact this

theorem gradedContract_congr_right {X Y Y' : Arr R} {xa xb : List Nat} (W : AdmW X Y xa xb)
    (h : Eqv Y Y') (hvY' : Y'.validB = true) (s : Sector) (oL oR : List Nat)
    (hoL : oL.length = (freeAxes X.ndim xa).length)
    (ho : inBox (Arr.blockShapeD (without X.indices xa ++ without Y.indices xb) s) (oL ++ oR) = true) :
    gradedContract X Y xa xb s oL oR = gradedContract X Y' xa xb s oL oR := by
  have hsX := Arr.shapesOk_of_validB W.va
  have hsY := Arr.shapesOk_of_validB W.vb
  have hdX := Arr.validB_nodup W.va
  have hdY' := Arr.validB_nodup hvY'
  have hdY := Arr.validB_nodup W.vb
  unfold gradedContract
  rw [← h.ndim, ← ((storedPairs_perm_right h X _ xa xb _ s hdX hdY hdY').map _).sum_eq]
  apply sum_map_congr
  rintro ⟨sa, sb⟩ hp
  rw [gradedSign_congr_right h]
  congr 1
  obtain ⟨hA, hB, hal, _⟩ := mem_storedPairs.mp hp
  obtain ⟨shpB, hB1, hB2, hB3, _⟩ := shape_of_mem hsY hB
  obtain ⟨_, fb2⟩ := free_boxes hsX hsY hp hoL ho
  have hm := shapes_match_w hsX hsY W.con W.ltA W.ltB sa hA sb hB hal
  unfold contractPair contractTerm
  rw [← h.ndim]
  apply sum_map_congr
  intro k hk
  congr 1
  apply h.elem
  intro _
  have := inBox_mergeIdx (shape := Arr.blockShapeD Y.indices sb) (axes := xb) (k := k) (f := oR)
    (by rw [hB2, hB3]; exact W.ltB) (by rw [hm]; exact mem_allIdx.mp hk)
    (by rw [hB2, hB3]; rw [hB2] at fb2; exact fb2)
  rw [hB2, hB3] at this
  rw [hB2]
  exact this

end congr

section tdot
variable [AddCommMonoid R] [Mul R] [Neg R] [SignRing R]

theorem admW_congr {X X' Y Y' : Arr R} {xa xb : List Nat} (W : AdmW X Y xa xb) (hX : Eqv X X')
    (hY : Eqv Y Y') (hvX' : X'.validB = true) (hvY' : Y'.validB = true) : AdmW X' Y' xa xb := by
  refine ⟨hvX', hvY', by rw [← hX.fermi]; exact W.fa, by rw [← hY.fermi]; exact W.fb,
    by rw [← hX.sym, ← hY.sym]; exact W.sym, ?_, W.nA, W.nB, by rw [← hX.ndim]; exact W.ltA,
    by rw [← hY.ndim]; exact W.ltB⟩
  rw [commonB_congr hX.indices hY.indices]
  exact W.con

theorem eqv_of_calls {X X' Y Y' Z Z' : Arr R} {xa xb : List Nat} {out : List (Int × Bool)} {ph : Int}
    (W : AdmW X Y xa xb) (C : Call X Y xa xb Z out ph) (C' : Call X' Y' xa xb Z' out ph)
    (hX : Eqv X X') (hY : Eqv Y Y')
    (hg : ∀ s oL oR, oL.length = (freeAxes X.ndim xa).length →
      inBox (Arr.blockShapeD (without X.indices xa ++ without Y.indices xb) s) (oL ++ oR) = true →
      gradedContract X Y xa xb s oL oR = gradedContract X' Y' xa xb s oL oR) :
    Eqv Z Z' := by
  have hsX := Arr.shapesOk_of_validB W.va
  have hsY := Arr.shapesOk_of_validB W.vb
  have hsec : ∀ s, s ∈ Z.sectors ↔ s ∈ Z'.sectors := by
    intro s
    rw [C.sectors, C'.sectors, AssocP.mem_keys_iff, AssocP.mem_keys_iff, ← hX.ndim, ← hY.ndim]
    constructor
    · rintro ⟨⟨sa, sb⟩, hp⟩
      obtain ⟨h1, h2, h3, h4⟩ := mem_storedPairs.mp hp
      exact ⟨(sa, sb), mem_storedPairs.mpr ⟨(hX.sectors sa).mp h1, (hY.sectors sb).mp h2, h3, h4⟩⟩
    · rintro ⟨⟨sa, sb⟩, hp⟩
      obtain ⟨h1, h2, h3, h4⟩ := mem_storedPairs.mp hp
      exact ⟨(sa, sb), mem_storedPairs.mpr ⟨(hX.sectors sa).mpr h1, (hY.sectors sb).mpr h2, h3, h4⟩⟩
  refine ⟨by rw [C.sym, C'.sym, hX.sym], by rw [C.fermi, C'.fermi],
    by rw [C.charge, C'.charge, hX.sym, hX.charge, hY.charge], by rw [C.oddpos, C'.oddpos], ?_, hsec, ?_⟩
  · rw [C.indices, C'.indices, ← hX.indices, ← hY.indices]
    exact dropUnused_congr_mem _ hsec
  intro s o ho
  by_cases hs : s ∈ Z.sectors
  · have hbox := ho hs
    rw [C.indices, Arr.blockShapeD, ValidP.dropUnused_blockShape _ _ _ hs] at hbox
    have hkey : s ∈ tdKeys X.sectors Y.sectors (freeAxes X.ndim xa) xa xb (freeAxes Y.ndim xb) := by
      rw [C.sectors] at hs; exact List.mem_eraseDups.mp hs
    have hlen := key_shape_length hsX hsY hkey
    have hol : o.length = (freeAxes X.ndim xa).length + (freeAxes Y.ndim xb).length := by
      rw [inBox_length hbox]; exact hlen
    have hsplit : o = o.take (freeAxes X.ndim xa).length ++ o.drop (freeAxes X.ndim xa).length :=
      (List.take_append_drop _ _).symm
    have htl : (o.take (freeAxes X.ndim xa).length).length = (freeAxes X.ndim xa).length := by
      rw [List.length_take]; omega
    have hbox' : inBox (Arr.blockShapeD (without X.indices xa ++ without Y.indices xb) s)
        (o.take (freeAxes X.ndim xa).length ++ o.drop (freeAxes X.ndim xa).length) = true := by
      rw [← hsplit]; exact hbox
    rw [hsplit, C.elem s _ _ htl hbox',
      C'.elem s _ _ (by rw [htl, hX.ndim]) (by rw [← hX.indices, ← hY.indices]; exact hbox'),
      hg s _ _ htl hbox']
  · rw [Arr.elem_of_not_mem hs, Arr.elem_of_not_mem (fun h => hs ((hsec s).mpr h))]

/-- **congruence of `tensordotF`** in both operands (blockwise mode, weak guard): if the call on
    `X`, `Y` returns, so does the call on equivalent valid operands, with an equivalent result -/
theorem tdotF_congr {X X' Y Y' : Arr R} {xa xb : List Nat} (W : AdmW X Y xa xb)
    (hX : Eqv X X') (hY : Eqv Y Y') (hvX' : X'.validB = true) (hvY' : Y'.validB = true)
    (Z : Arr R) (e : X.tensordotF Y (.pair (xa.map Int.ofNat) (xb.map Int.ofNat)) .blockwise = .ok Z) :
    ∃ Z', X'.tensordotF Y' (.pair (xa.map Int.ofNat) (xb.map Int.ofNat)) .blockwise = .ok Z'
      ∧ Eqv Z Z' := by
  have W1 : AdmW X' Y xa xb := admW_congr W hX (Eqv.refl Y) hvX' W.vb
  have W' : AdmW X' Y' xa xb := admW_congr W hX hY hvX' hvY'
  obtain ⟨out, ph, C⟩ := Call.of_ok W e
  obtain ⟨Z', e', C'⟩ := Call.of_merge W' (by rw [← hX.parity, ← hX.oddpos, ← hY.oddpos]; exact C.merge)
  refine ⟨Z', e', eqv_of_calls W C C' hX hY ?_⟩
  intro s oL oR hoL ho
  rw [gradedContract_congr_left W hX hvX' s oL oR hoL ho]
  exact gradedContract_congr_right W1 hY hvY' s oL oR (by rw [← hX.ndim]; exact hoL)
    (by rw [← hX.indices]; exact ho)

theorem Eqv.toDenseF {X X' : Arr R} (h : Eqv X X') (hv : X.validB = true) :
    X.toDenseF = X'.toDenseF := by
  apply AssocP.toDenseF_eq_of X' X h.indices
  · rw [← h.indices]; exact keys_nodup_of_validB hv
  · intro s o ho
    exact h.elem s o (fun hs => by rw [h.indices]; exact ho ((h.sectors s).mp hs))

end tdot

end Assoc3P
end SymmModel
