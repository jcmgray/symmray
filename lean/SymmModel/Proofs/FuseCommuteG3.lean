/-
  SymmModel.Proofs.FuseCommuteG3 — C06, first clause, FERMIONIC, ARBITRARY contracted groups,
  blockwise level: for aligned fermionic operands `A`, `B` (`FCtxG`), the graded contraction of the
  two fermionically fused operands over the single fused pair equals the graded contraction over the
  original pairs at every address of the free legs' table box (`gradedContract_bond_fuse`).
  What ONE operand `X = signAdj A [g]` of `_fuse_core` and its fused array inherit from `A` is the
  structure `FuseOp` with its lemmas; the theorems take one `FuseOp` per operand.
  Namespace `SymmModel.TdotP`.
-/
import SymmModel.Proofs.FuseCommuteG2

namespace SymmModel
namespace TdotP
open SymmModel.KoszulP SymmModel.Lazy SymmModel.GradedP SymmModel.RoutesP SymmModel.AssocP
variable {R : Type}
set_option linter.unusedSectionVars false

/-- aligned fermionic operands (what `dropMisaligned` produces from a pair satisfying the weak
    guard), at least one contracted pair; no condition on the positions of the contracted legs -/
structure FCtxG (A B : Arr R) (xa xb : List Nat) : Prop where
  W : AdmW A B xa xb
  ne : xa ≠ []
  cm : (xa.map (fun ax => A.indices.getD ax default)).map Index.cm
      = (xb.map (fun ax => B.indices.getD ax default)).map Index.cm
  dual : (xb.map (fun ax => B.indices.getD ax default)).map Index.dual
      = (xa.map (fun ax => A.indices.getD ax default)).map (fun ix => !ix.dual)
  keys : ∀ K, K ∈ A.blocks.map (fun sb => xa.map (fun ax => sb.1.getD ax (0, 0))) ↔
      K ∈ B.blocks.map (fun sb => xb.map (fun ax => sb.1.getD ax (0, 0)))

section
variable [AddCommMonoid R] [Mul R] [Neg R] [SignRing R]

theorem FCtxG.oneA {A B : Arr R} {xa xb : List Nat} (h : FCtxG A B xa xb) : OneOk A xa :=
  ⟨h.ne, h.W.nA, h.W.ltA⟩

theorem FCtxG.oneB {A B : Arr R} {xa xb : List Nat} (h : FCtxG A B xa xb) : OneOk B xb :=
  ⟨by intro e; have := h.W.len; rw [e] at this; exact h.ne (List.eq_nil_of_length_eq_zero this),
    h.W.nB, h.W.ltB⟩

end

theorem headD_eq_getD (l : List Nat) : l.headD 0 = l.getD 0 0 := by cases l <;> rfl

theorem newG_one {X X' : Arr R} {g : List Nat} (h : OneOk X g) (hn : X'.ndim = X.ndim) :
    OneOk X' (newG X g) ∧ (FuseP.giM X' [newG X g]).position = (FuseP.giM X [g]).position := by
  have hl := one_lengths h
  have hk : 0 < g.length := by
    have := h.ne
    cases g with
    | nil => exact absurd rfl this
    | cons x xs => simp
  have hone : OneOk X' (newG X g) := by
    refine ⟨?_, ?_, by rw [hn]; exact newG_lt h⟩
    · intro e
      have := congrArg List.length e
      rw [newG_length] at this
      simp only [List.length_nil] at this; omega
    · unfold newG
      exact (List.nodup_range).map_on (by intro x _ y _ e; omega)
  refine ⟨hone, ?_⟩
  have h1 := one_pos_mem hone
  have h2 := one_pos_le hone ((FuseP.giM X [g]).position + 0) (by
    unfold newG; exact List.mem_map.mpr ⟨0, List.mem_range.mpr hk, rfl⟩)
  generalize (FuseP.giM X' [newG X g]).position = P at h1 h2 ⊢
  unfold newG at h1
  obtain ⟨j, _, hj⟩ := List.mem_map.mp h1
  omega

theorem map_getD_newG {X : Arr R} {g : List Nat} (h : OneOk X g) {α : Type} (z : List α)
    (hz : z.length = X.ndim) (d : α) :
    (newG X g).map (fun ax => (permuted z (FuseP.giM X [g]).perm).getD ax d) = g.map (fun ax => z.getD ax d) := by
  have hpl : (permuted z (FuseP.giM X [g]).perm).length = X.ndim := (lay_one h).plen z hz
  rw [← permuted_eq_map _ _ (by rw [hpl]; exact newG_lt h) d, permuted_perm_newG h z hz,
    permuted_eq_map _ _ (by rw [hz]; exact h.lt) d]


section fuseOp
variable [AddCommMonoid R] [Mul R] [Neg R] [SignRing R]

/-- `X` is the operand of `_fuse_core` inside the fermionic fuse of the group `g` of `A`
    (`FuseP.signAdj A [g]`, kept abstract): a re-indexed, sign-twisted, synchronised copy with `A`'s
    symmetry, kind, charge and labels, in which the group sits at the consecutive positions
    `newG A g`.  What the fused array `fusedArrM X [newG A g]` inherits from `A` is stated once here
    and used for either operand of a contraction. -/
structure FuseOp (A X : Arr R) (g : List Nat) : Prop where
  one : OneOk A g
  prep : Prepared A X (FuseP.giM A [g]).perm (FuseP.fuseSignF A [g])
  sym : X.sym = A.sym
  fermi : X.fermi = A.fermi
  charge : X.charge = A.charge
  oddpos : X.oddpos = A.oddpos
  valid : X.validB = true

theorem FuseOp.of_signAdj (A : Arr R) {g : List Nat} (hv : A.validB = true) (hf : A.fermi = true)
    (oA : OneOk A g) : FuseOp A (FuseP.signAdj A [g]) g := by
  obtain ⟨_, _, xS, xF, xCh, xOd⟩ := FuseP.signAdj_fields A [g]
  exact ⟨oA, prepared_signAdj A hv hf oA, xS, xF, xCh, xOd,
    (ValidP.validB_iff _).mpr (FuseP.signAdj_valid A [g] hv hf oA.groupsOk)⟩

namespace FuseOp
variable {A X : Arr R} {g : List Nat} (h : FuseOp A X g)
include h

theorem ndim : X.ndim = A.ndim := by
  show X.indices.length = _
  rw [h.prep.indices]; exact (lay_one h.one).plen A.indices rfl

theorem oneX : OneOk X (newG A g) := (newG_one h.one h.ndim).1

theorem bondPos_eq : bondPos X (newG A g) = bondPos A g := (newG_one h.one h.ndim).2

theorem free_indices :
    permuted X.indices (freeAxes X.ndim (newG A g)) = permuted A.indices (freeAxes A.ndim g) := by
  rw [h.ndim, h.prep.indices]; exact (lay_one h.one).free A.indices rfl

theorem free_shapeX {Ls : Sector} {shpL : List Nat}
    (hs : Arr.blockShape? (permuted A.indices (freeAxes A.ndim g)) Ls = some shpL) :
    Arr.blockShape? (permuted X.indices (freeAxes X.ndim (newG A g))) Ls = some shpL := by
  rw [h.free_indices]; exact hs

theorem free_shape {Ls : Sector} {shpL : List Nat}
    (hs : Arr.blockShape? (permuted A.indices (freeAxes A.ndim g)) Ls = some shpL) :
    Arr.blockShape? (permuted (FuseP.fusedArrM X [newG A g]).indices
      (freeAxes (FuseP.fusedArrM X [newG A g]).ndim [bondPos X (newG A g)])) Ls = some shpL :=
  fused_free_shape h.oneX (h.free_shapeX hs)

theorem free_length :
    (freeAxes (FuseP.fusedArrM X [newG A g]).ndim [bondPos X (newG A g)]).length
      = (freeAxes A.ndim g).length := by
  rw [one_ndim h.oneX]; unfold bondPos
  rw [one_free_length h.oneX, h.ndim, (lay_one h.one).free_length]

theorem after_length :
    (FuseP.giM X [newG A g]).axesAfter.length = (FuseP.giM A [g]).axesAfter.length := by
  have l1 := one_lengths h.oneX
  have l2 := one_lengths h.one
  rw [newG_length, show (FuseP.giM X [newG A g]).position = _ from h.bondPos_eq, h.ndim] at l1
  unfold bondPos at l1
  omega

theorem fused_ndim : (FuseP.fusedArrM X [newG A g]).ndim
    = (FuseP.giM A [g]).position + 1 + (FuseP.giM A [g]).axesAfter.length := by
  rw [one_ndim h.oneX, one_ndimM h.oneX, show (FuseP.giM X [newG A g]).position = _ from h.bondPos_eq,
    h.after_length]; rfl

theorem fused_rank : (FuseP.fusedArrM X [newG A g]).ndim + g.length = A.ndim + 1 := by
  have := one_lengths h.one
  rw [h.fused_ndim]; omega

theorem fused_parity : (FuseP.fusedArrM X [newG A g]).parity = A.parity := by
  show X.sym.parity X.charge = A.sym.parity A.charge
  rw [h.sym, h.charge]

theorem fused_dual :
    ((FuseP.fusedArrM X [newG A g]).indices.getD (bondPos X (newG A g)) default).dual
      = (A.indices.getD (g.headD 0) default).dual := by
  have hk0 : 0 < g.length := List.length_pos_of_ne_nil h.one.ne
  show (FuseP.ixM X [newG A g] 0).dual = _
  rw [one_fused_dual h.oneX, h.prep.indices, newG_headD h.one]
  have := getD_perm_newG h.one A.indices rfl 0 hk0 default
  rw [Nat.add_zero] at this
  rw [this, headD_eq_getD]

theorem group_indices :
    (newG A g).map (fun ax => X.indices.getD ax default) = g.map (fun ax => A.indices.getD ax default) := by
  rw [h.prep.indices]; exact map_getD_newG h.one A.indices rfl default

theorem group_keys (hsa : A.shapesOk) :
    X.blocks.map (fun sb => (newG A g).map (fun ax => sb.1.getD ax (0, 0)))
      = A.blocks.map (fun sb => g.map (fun ax => sb.1.getD ax (0, 0))) := by
  have e1 : X.blocks.map (fun sb => (newG A g).map (fun ax => sb.1.getD ax (0, 0)))
      = X.sectors.map (fun s => (newG A g).map (fun ax => s.getD ax (0, 0))) := by
    unfold Arr.sectors; rw [List.map_map]; rfl
  have e2 : A.blocks.map (fun sb => g.map (fun ax => sb.1.getD ax (0, 0)))
      = A.sectors.map (fun s => g.map (fun ax => s.getD ax (0, 0))) := by
    unfold Arr.sectors; rw [List.map_map]; rfl
  rw [e1, e2, h.prep.sectors, List.map_map]
  apply List.map_congr_left
  intro s hs
  simp only [Function.comp]
  exact map_getD_newG h.one s (Arr.sector_length hsa hs) (0, 0)

end FuseOp
end fuseOp

/-- `bond_fuse_core` for two synchronised arrays of any kind (kind flag and labels are not read) -/
theorem bond_fuse_core_ab [AddCommMonoid R] [Mul R] [Neg R]
    (hz1 : ∀ x : R, 0 * x = 0) (hz2 : ∀ x : R, x * 0 = 0) {X Y : Arr R} {g h : List Nat}
    (H0 : Ctx0 (ab X) (ab Y) g h) (hne : g ≠ [])
    {Ls Rs : Sector} {oL oR shpL shpR : List Nat}
    (hshpL : Arr.blockShape? (permuted X.indices (freeAxes X.ndim g)) Ls = some shpL)
    (hboxL : inBox shpL oL = true)
    (hshpR : Arr.blockShape? (permuted Y.indices (freeAxes Y.ndim h)) Rs = some shpR)
    (hboxR : inBox shpR oR = true) :
    (tensordotBlockwise (FuseP.fusedArrM X [g]) (FuseP.fusedArrM Y [h])
        (freeAxes (FuseP.fusedArrM X [g]).ndim [bondPos X g]) [bondPos X g] [bondPos Y h]
        (freeAxes (FuseP.fusedArrM Y [h]).ndim [bondPos Y h])).elem (Ls ++ Rs) (oL ++ oR)
      = (tensordotBlockwise X Y (freeAxes X.ndim g) g h (freeAxes Y.ndim h)).elem (Ls ++ Rs) (oL ++ oR) :=
  bond_fuse_core hz1 hz2 H0 hne (A := ab X) (B := ab Y)
    (show Arr.blockShape? (permuted (ab X).indices (freeAxes (ab X).ndim g)) Ls = some shpL from hshpL) hboxL
    (show Arr.blockShape? (permuted (ab Y).indices (freeAxes (ab Y).ndim h)) Rs = some shpR from hshpR) hboxR

section main
variable [AddCommMonoid R] [Mul R] [Neg R] [SignRing R]

theorem ctx0_of_fctxG {A B X Y : Arr R} {xa xb : List Nat} (h : FCtxG A B xa xb)
    (hX : FuseOp A X xa) (hY : FuseOp B Y xb) :
    Ctx0 (ab X) (ab Y) (newG A xa) (newG B xb) := by
  have W := h.W
  have LA := lay_one hX.one
  have LB := lay_one hY.one
  refine ⟨ab_validB ((ValidP.validB_iff X).mp hX.valid) hX.prep.phases,
    ab_validB ((ValidP.validB_iff Y).mp hY.valid) hY.prep.phases,
    rfl, rfl, hX.sym.trans (W.sym.trans hY.sym.symm), LA.nd', LB.nd',
    by intro x hx; show x < X.ndim; rw [hX.ndim]; exact LA.lt' x hx,
    by intro x hx; show x < Y.ndim; rw [hY.ndim]; exact LB.lt' x hx,
    by rw [newG_length, newG_length]; exact W.len, ?_, ?_, ?_⟩
  · show ((newG A xa).map (fun ax => X.indices.getD ax default)).map Index.cm
      = ((newG B xb).map (fun ax => Y.indices.getD ax default)).map Index.cm
    rw [hX.group_indices, hY.group_indices]
    exact h.cm
  · show ((newG B xb).map (fun ax => Y.indices.getD ax default)).map Index.dual
      = ((newG A xa).map (fun ax => X.indices.getD ax default)).map (fun ix => !ix.dual)
    rw [hX.group_indices, hY.group_indices]
    exact h.dual
  · intro K
    show K ∈ X.blocks.map _ ↔ K ∈ Y.blocks.map _
    rw [hX.group_keys (Arr.shapesOk_of_validB W.va), hY.group_keys (Arr.shapesOk_of_validB W.vb)]
    exact h.keys K

theorem gradedContract_bond_fuse
    (hz1 : ∀ x : R, 0 * x = 0) (hz2 : ∀ x : R, x * 0 = 0) {A B X Y : Arr R} {xa xb : List Nat}
    (h : FCtxG A B xa xb) (hX : FuseOp A X xa) (hY : FuseOp B Y xb)
    (hvAF : (FuseP.fusedArrM X [newG A xa]).validB = true)
    (hvBF : (FuseP.fusedArrM Y [newG B xb]).validB = true)
    {Ls Rs : Sector} {oL oR shpL shpR : List Nat}
    (hshpL : Arr.blockShape? (permuted A.indices (freeAxes A.ndim xa)) Ls = some shpL)
    (hboxL : inBox shpL oL = true)
    (hshpR : Arr.blockShape? (permuted B.indices (freeAxes B.ndim xb)) Rs = some shpR)
    (hboxR : inBox shpR oR = true) :
    gradedContract (FuseP.fusedArrM X [newG A xa]) (FuseP.fusedArrM Y [newG B xb])
        [bondPos A xa] [bondPos B xb] (Ls ++ Rs) oL oR
      = gradedContract A B xa xb (Ls ++ Rs) oL oR := by
  have W := h.W
  have hlen := W.len
  have oA := hX.one
  have oB := hY.one
  have oAX := hX.oneX
  have oBX := hY.oneX
  have H0 : Ctx0 (ab X) (ab Y) (newG A xa) (newG B xb) := ctx0_of_fctxG h hX hY
  have hpAF : (FuseP.fusedArrM X [newG A xa]).phases = [] := hX.prep.phases
  have hpBF : (FuseP.fusedArrM Y [newG B xb]).phases = [] := hY.prep.phases
  have nFA := hX.fused_ndim
  have nFB := hY.fused_ndim
  have hbA := hX.bondPos_eq
  have hbB := hY.bondPos_eq
  have hbA' : bondPos A xa = (FuseP.giM A [xa]).position := rfl
  have hbB' : bondPos B xb = (FuseP.giM B [xb]).position := rfl
  have hsymF : (FuseP.fusedArrM X [newG A xa]).sym = (FuseP.fusedArrM Y [newG B xb]).sym :=
    hX.sym.trans (W.sym.trans hY.sym.symm)
  have hLlen := freePart_length hshpL
  have hoLlen := freeOffs_length hshpL hboxL
  have hFreeA := hX.free_length
  have hboxF := freeBox_append (hX.free_shape hshpL) hboxL (hY.free_shape hshpR) hboxR
  have hboxAB := freeBox_append hshpL hboxL hshpR hboxR
  have etakeF : (oL ++ oR).take (freeAxes (FuseP.fusedArrM X [newG A xa]).ndim [bondPos X (newG A xa)]).length = oL := by
    rw [hFreeA, ← hoLlen]; simp
  have edropF : (oL ++ oR).drop (freeAxes (FuseP.fusedArrM X [newG A xa]).ndim [bondPos X (newG A xa)]).length = oR := by
    rw [hFreeA, ← hoLlen]; simp
  -- the constant sign of the fused pair
  obtain ⟨σ, hσ⟩ : ∃ σ : Int, σ = bondSign A.sym (A.indices.getD (xa.headD 0) default).dual
      (FuseP.giM A [xa]).position (FuseP.giM B [xb]).position Ls Rs
      ((if A.parity then 1 else 0) + oddIn A.sym Ls) := ⟨_, rfl⟩
  have hσpm : σ = 1 ∨ σ = -1 := by rw [hσ]; exact bondSign_pm _ _ _ _ _ _ _
  have hdualF := hX.fused_dual
  have hparF := hX.fused_parity
  have hsF : ∀ q ∈ storedPairs (FuseP.fusedArrM X [newG A xa]) (FuseP.fusedArrM Y [newG B xb])
      (freeAxes (FuseP.fusedArrM X [newG A xa]).ndim [bondPos X (newG A xa)]) [bondPos X (newG A xa)]
      [bondPos Y (newG B xb)]
      (freeAxes (FuseP.fusedArrM Y [newG B xb]).ndim [bondPos Y (newG B xb)]) (Ls ++ Rs),
      gradedSign (FuseP.fusedArrM X [newG A xa]) (FuseP.fusedArrM Y [newG B xb]) [bondPos X (newG A xa)]
        [bondPos Y (newG B xb)] q.1 q.2 = σ := by
    rintro ⟨sa', sb'⟩ hq
    obtain ⟨hA1, hB1, hK, hs⟩ := mem_storedPairs.mp hq
    have hla := Arr.sector_length (Arr.shapesOk_of_validB hvAF) hA1
    have hlb := Arr.sector_length (Arr.shapesOk_of_validB hvBF) hB1
    have hr1A : ∀ x ∈ freeAxes (FuseP.fusedArrM X [newG A xa]).ndim [bondPos X (newG A xa)], x < sa'.length := by
      intro x hx; rw [hla]; exact mem_freeAxes_lt x hx
    have hl1 : (permuted sa' (freeAxes (FuseP.fusedArrM X [newG A xa]).ndim [bondPos X (newG A xa)])).length
        = Ls.length := by
      rw [permuted_length _ _ hr1A, hFreeA, hLlen]
    obtain ⟨hsL, hsR⟩ := List.append_inj hs hl1
    have hn1 : ([bondPos X (newG A xa)] : List Nat).Nodup := by simp
    have hlt1 := one_bond_lt (R := R) oAX
    have hps := parity_split (FuseP.fusedArrM X [newG A xa]) [bondPos X (newG A xa)] hn1 hlt1 sa' hla
      (Lazy.SecValid.of_valid hvAF sa' hA1)
    have eS : (FuseP.fusedArrM X [newG A xa]).sym = A.sym := hX.sym
    rw [hsL, hparF, eS] at hps
    have hm := parity_m _ _ _ hps
    have key := gradedSign_fusedpair (FuseP.fusedArrM X [newG A xa]) (FuseP.fusedArrM Y [newG B xb])
      (FuseP.giM A [xa]).position (FuseP.giM A [xa]).axesAfter.length
      (FuseP.giM B [xb]).position (FuseP.giM B [xb]).axesAfter.length nFA nFB hsymF sa' sb' hla hlb
      (by rw [← hbA', ← hbB', ← hbA, ← hbB]; exact hK) ((if A.parity then 1 else 0) + oddIn A.sym Ls)
      (by rw [← hbA', ← hbA, eS]; exact hm)
    have hdualF' := hdualF
    rw [hbA, hbA'] at hsL hdualF'
    rw [hbB, hbB'] at hsR
    show gradedSign _ _ [bondPos X (newG A xa)] [bondPos Y (newG B xb)] sa' sb' = σ
    rw [hbA, hbB, hbA', hbB', key, hsL, hsR, hdualF', eS, hσ]
  have step1 : gradedContract (FuseP.fusedArrM X [newG A xa]) (FuseP.fusedArrM Y [newG B xb])
      [bondPos X (newG A xa)] [bondPos Y (newG B xb)] (Ls ++ Rs) oL oR
      = sgnI σ ((tensordotBlockwise (FuseP.fusedArrM X [newG A xa]) (FuseP.fusedArrM Y [newG B xb])
          (freeAxes (FuseP.fusedArrM X [newG A xa]).ndim [bondPos X (newG A xa)]) [bondPos X (newG A xa)]
          [bondPos Y (newG B xb)]
          (freeAxes (FuseP.fusedArrM Y [newG B xb]).ndim [bondPos Y (newG B xb)])).elem (Ls ++ Rs) (oL ++ oR)) := by
    rw [tensordotBlockwise_elem_pairs _ _ _ _ hpAF hpBF (Arr.allDistinct_of_validB hvAF)
      (Arr.allDistinct_of_validB hvBF) (Arr.shapesOk_of_validB hvAF) (Arr.shapesOk_of_validB hvBF) _ _ hboxF,
      etakeF, edropF, ← sgnI_sum]
    unfold gradedContract
    apply sum_map_congr
    intro q hq
    rw [hsF q hq]
  -- the abelian theorem on the kind-erased operands
  have step2 : (tensordotBlockwise (FuseP.fusedArrM X [newG A xa]) (FuseP.fusedArrM Y [newG B xb])
          (freeAxes (FuseP.fusedArrM X [newG A xa]).ndim [bondPos X (newG A xa)]) [bondPos X (newG A xa)]
          [bondPos Y (newG B xb)]
          (freeAxes (FuseP.fusedArrM Y [newG B xb]).ndim [bondPos Y (newG B xb)])).elem (Ls ++ Rs) (oL ++ oR)
      = (tensordotBlockwise X Y (freeAxes X.ndim (newG A xa)) (newG A xa) (newG B xb)
          (freeAxes Y.ndim (newG B xb))).elem (Ls ++ Rs) (oL ++ oR) :=
    bond_fuse_core_ab hz1 hz2 H0 oAX.ne (hX.free_shapeX hshpL) hboxL (hY.free_shapeX hshpR) hboxR
  -- the contraction of the re-indexed, twisted operands as a pair sum over `A`, `B`
  have step3 := contract_transport A B X Y xa xb _ _ (newG A xa) (newG B xb) _ _
    (Arr.shapesOk_of_validB W.va) (Arr.shapesOk_of_validB W.vb) (lay_one oA) (lay_one oB)
    (shapes_match_w (Arr.shapesOk_of_validB W.va) (Arr.shapesOk_of_validB W.vb) W.con W.ltA W.ltB)
    hX.prep hY.prep (Ls ++ Rs) oL oR hoLlen hboxAB
  rw [← hbA, ← hbB, step1, step2, step3, ← sgnI_sum]
  unfold gradedContract
  apply sum_map_congr
  rintro ⟨sa, sb⟩ hp
  obtain ⟨hA1, hB1, hK, hs⟩ := mem_storedPairs.mp hp
  have hla := Arr.sector_length (Arr.shapesOk_of_validB W.va) hA1
  have hlb := Arr.sector_length (Arr.shapesOk_of_validB W.vb) hB1
  have hrA : ∀ x ∈ freeAxes A.ndim xa, x < sa.length := by
    intro x hx; rw [hla]; exact mem_freeAxes_lt x hx
  have hl1 : (permuted sa (freeAxes A.ndim xa)).length = Ls.length := by
    rw [permuted_length _ _ hrA, hLlen]
  obtain ⟨hsL, hsR⟩ := List.append_inj hs hl1
  have hps := parity_split A xa W.nA W.ltA sa hla (Lazy.SecValid.of_valid W.va sa hA1)
  rw [hsL] at hps
  have hm := parity_m _ _ _ hps
  have hid := fuse_signs_compatible A B oA oB W.sym hlen h.dual sa sb hla hlb hK
  rw [hsL, hsR, bondSign_congr A.sym _ _ _ Ls Rs (show oddContracted A xa sa % 2 = _ from hm), ← hσ] at hid
  simp only
  rw [hid, GradedP.sgnI_comp hσpm (Lazy.mul_pm (hX.prep.pm sa) (hY.prep.pm sb)), Int.mul_assoc]

end main

end TdotP
end SymmModel
