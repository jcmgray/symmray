/-
  SymmModel.Proofs.NormNet4 — network form of the norm (property C10), part 4:
  the graded contraction of two bra tensors (legs `y` of the second one spared) is, sector by sector, the
  `braOf` value of the graded contraction of the two ket tensors (`gradedContract_bra`).
-/
import SymmModel.Proofs.NormNet3
namespace SymmModel.NormNet
open SymmModel SymmModel.Lazy SymmModel.Norm SymmModel.TdotP SymmModel.GradedP
set_option linter.unusedSectionVars false

section contract
open SymmModel.AssocP
variable {R : Type} [AddMonoid R] [Mul R] [Neg R] [Conj R] [NetLaws R]

theorem blockShapeD_map_conj (idx : List Index) (s : Sector) :
    Arr.blockShapeD (idx.map Index.conj) s = Arr.blockShapeD idx s := by
  unfold Arr.blockShapeD; rw [blockShape?_conj]

theorem contractPair_bra (a b : Arr R) (Xa Xb xa xb oL oR : List Nat) (p : Sector × Sector)
    (ha : SignOk a) (hb : SignOk b) :
    contractPair (braOf a Xa) (braOf b Xb) xa xb oL oR p
      = sgnI (braSign a Xa p.1 * braSign b Xb p.2) (Conj.conj (contractPair a b xa xb oL oR p)) := by
  unfold contractPair contractTerm
  rw [braOf_indices a Xa, blockShapeD_map_conj, braOf_ndim, braOf_ndim, conj_sum, ← sum_sgnI]
  refine congrArg List.sum (List.map_congr_left ?_)
  intro k _
  rw [braOf_elem a Xa ha, braOf_elem b Xb hb,
    sgnI_mul_sgnI (braSign_pm _ _ _) (braSign_pm _ _ _), NetLaws.conj_mul]

theorem gradedContract_bra {a b K : Arr R} {xa xb y : List Nat} (h : AdmW a b xa xb)
    (hM : Mid b.ndim xb y) (S : List Sector)
    (hKs : K.sym = a.sym)
    (hKi : K.indices = dropUnused (without a.indices xa ++ without b.indices xb) S)
    (hKp : K.parity = xor a.parity b.parity)
    (hKl : (K.oddpos.length % 2 == 1) = K.parity)
    (ph ph' : Int) (hph : ph = 1 ∨ ph = -1) (hph' : ph' = ph * sgB (a.parity && b.parity))
    (s : Sector) (oL oR : List Nat) :
    sgnI ph' (gradedContract (braOf a xa) (braOf b (xb ++ y)) xa xb s oL oR)
      = sgnI (braSign K (AssocP.axesAB a.ndim b.ndim xa xb y) s)
          (Conj.conj (sgnI ph (gradedContract a b xa xb s oL oR))) := by
  have hSa : SignOk a := SignOk.of_valid h.va h.fa
  have hSb : SignOk b := SignOk.of_valid h.vb h.fb
  have hph'pm : ph' = 1 ∨ ph' = -1 := by
    rw [hph']; exact mul_pm hph (by unfold sgB; split <;> simp)
  unfold gradedContract
  have hsp : storedPairs (braOf a xa) (braOf b (xb ++ y)) (freeAxes (braOf a xa).ndim xa) xa xb
        (freeAxes (braOf b (xb ++ y)).ndim xb) s
      = storedPairs a b (freeAxes a.ndim xa) xa xb (freeAxes b.ndim xb) s := by
    unfold storedPairs
    rw [braOf_sectors, braOf_sectors, braOf_ndim, braOf_ndim]
  rw [hsp, conj_sgnI, conj_sum]
  have L : sgnI ph' (((storedPairs a b (freeAxes a.ndim xa) xa xb (freeAxes b.ndim xb) s).map (fun p =>
        sgnI (gradedSign (braOf a xa) (braOf b (xb ++ y)) xa xb p.1 p.2)
          (contractPair (braOf a xa) (braOf b (xb ++ y)) xa xb oL oR p))).sum)
      = ((storedPairs a b (freeAxes a.ndim xa) xa xb (freeAxes b.ndim xb) s).map (fun p =>
        sgnI (ph' * (gradedSign (braOf a xa) (braOf b (xb ++ y)) xa xb p.1 p.2
            * (braSign a xa p.1 * braSign b (xb ++ y) p.2)))
          (Conj.conj (contractPair a b xa xb oL oR p)))).sum := by
    rw [← sgnI_sum]
    refine congrArg List.sum (List.map_congr_left ?_)
    intro p _
    rw [contractPair_bra a b xa (xb ++ y) xa xb oL oR p hSa hSb,
      sgnI_comp (gradedSign_pm _ _ _ _ _ _) (mul_pm (braSign_pm _ _ _) (braSign_pm _ _ _)),
      sgnI_comp hph'pm (mul_pm (gradedSign_pm _ _ _ _ _ _)
        (mul_pm (braSign_pm _ _ _) (braSign_pm _ _ _)))]
  have Rr : sgnI (braSign K (AssocP.axesAB a.ndim b.ndim xa xb y) s) (sgnI ph
        (((storedPairs a b (freeAxes a.ndim xa) xa xb (freeAxes b.ndim xb) s).map (fun p =>
          Conj.conj (sgnI (gradedSign a b xa xb p.1 p.2) (contractPair a b xa xb oL oR p)))).sum))
      = ((storedPairs a b (freeAxes a.ndim xa) xa xb (freeAxes b.ndim xb) s).map (fun p =>
        sgnI (braSign K (AssocP.axesAB a.ndim b.ndim xa xb y) s
            * (ph * gradedSign a b xa xb p.1 p.2))
          (Conj.conj (contractPair a b xa xb oL oR p)))).sum := by
    rw [← sgnI_sum, ← sgnI_sum]
    refine congrArg List.sum (List.map_congr_left ?_)
    intro p _
    rw [conj_sgnI, sgnI_comp hph (gradedSign_pm _ _ _ _ _ _),
      sgnI_comp (braSign_pm _ _ _) (mul_pm hph (gradedSign_pm _ _ _ _ _ _))]
  rw [L, Rr]
  refine congrArg List.sum (List.map_congr_left ?_)
  rintro ⟨sa, sb⟩ hp
  obtain ⟨h1, h2, h3, h4⟩ := mem_storedPairs.mp hp
  subst h4
  rw [bra_pair_sign_spared h hM S hKs hKi hKp hKl h1 h2 h3 ph ph' hph']

end contract

end SymmModel.NormNet
