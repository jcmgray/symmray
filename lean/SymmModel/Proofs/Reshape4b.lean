/-
  SymmModel.Proofs.Reshape4b — the way back on arrays: if `y` has a fused axis at `p` whose
  sub-indices, put in its place, give the indices of an array `a` without fused axes, then
  `y.reshape(a.shape)` is exactly `y.unfuse(p)`.
-/
import SymmModel.Proofs.Reshape5b
import SymmModel.Proofs.Reshape3j

namespace SymmModel
namespace Reshape4
open C07 ReshapeP Reshape5

variable {R : Type}

theorem beqLbl_o_u (j : Nat) : (Lbl.o == Lbl.u j) = false := rfl

theorem indexOf?_replicate_o (n j : Nat) (rest : List Lbl) :
    indexOf? (List.replicate n Lbl.o ++ Lbl.u j :: rest) (Lbl.u j) = some n := by
  have huu : (Lbl.u j == Lbl.u j) = true := by
    show Lbl.beq (Lbl.u j) (Lbl.u j) = true
    simp [Lbl.beq]
  induction n with
  | zero => simp [indexOf?, huu]
  | succ n ih =>
    simp only [List.replicate_succ, List.cons_append, indexOf?, beqLbl_o_u, Bool.false_eq_true,
      if_false, ih, Option.map_some]

theorem getElem?_split {α : Type} {l : List α} {p : Nat} {x : α} (h : l[p]? = some x) :
    l = l.take p ++ x :: l.drop (p + 1) := by
  obtain ⟨hp, hx⟩ := List.getElem?_eq_some_iff.mp h
  conv => lhs; rw [← List.take_append_drop p l, List.drop_eq_getElem_cons hp, hx]

/-- the plan of `y.reshape(a.shape)`: `back_plan_arr_multi` for one fused index among plain ones -/
theorem back_plan_arr (y a : Arr R) (p : Nat) (ix : Index) (subs : List Index) (exts : Extents)
    (hix : y.indices[p]? = some ix) (hsub : ix.sub = some (subs, exts)) (hsn : subs ≠ [])
    (hidx : a.indices = replaceWithSeq y.indices p subs) (hnf : ∀ ix ∈ a.indices, ix.sub = none) :
    calcReshapeArgs y.shape a.shape y.subsizes = .ok ([p], [], []) := by
  have hp := (List.getElem?_eq_some_iff.mp hix).1
  have hsplit := getElem?_split hix
  have hL : Plain (y.indices.take p) := fun i hi =>
    hnf i (by rw [hidx]; simp only [replaceWithSeq, List.mem_append]; exact Or.inl (Or.inl hi))
  have hR : Plain (y.indices.drop (p + 1)) := fun i hi =>
    hnf i (by rw [hidx]; simp only [replaceWithSeq, List.mem_append]; exact Or.inr hi)
  have hlen : (y.indices.take p).length = p := by rw [List.length_take]; omega
  have hd : Dep1 y.indices := by
    rw [hsplit]
    intro i hi se hse
    rcases List.mem_append.mp hi with hi | hi
    · rw [hL i hi] at hse; cases hse
    · rcases List.mem_cons.mp hi with rfl | hi
      · rw [hsub] at hse; cases hse; exact hsn
      · rw [hR i hi] at hse; cases hse
  have hexp : expand1 y.indices = a.indices := by
    rw [hidx]
    conv => lhs; rw [hsplit, expand1_append, expand1_plain hL]
    have : expand1 (ix :: y.indices.drop (p + 1)) = subs ++ y.indices.drop (p + 1) := by
      have := expand1_append [ix] (y.indices.drop (p + 1))
      rw [List.singleton_append, expand1_plain hR] at this
      rw [this]; simp [expand1, hsub]
    rw [this, replaceWithSeq, List.append_assoc]
  have hpl : fusedPL y.indices 0 = [(p, subs.length)] := by
    conv => lhs; rw [hsplit, fusedPL_append, fusedPL_plain hL]
    simp only [fusedPL, hsub, List.nil_append, Nat.zero_add, hlen, fusedPL_plain hR]
  have := back_plan_arr_multi y hd
  rw [hexp, hpl] at this
  simpa [FuseP.l2rAxes, Arr.shape] using this

theorem reshape_back_eq [Zero R] [Neg R] (y a : Arr R) (p : Nat) (ix : Index) (subs : List Index)
    (exts : Extents) (hix : y.indices[p]? = some ix) (hsub : ix.sub = some (subs, exts))
    (hsn : subs ≠ []) (hidx : a.indices = replaceWithSeq y.indices p subs)
    (hnf : ∀ ix ∈ a.indices, ix.sub = none) :
    reshapeArr y (a.shape.map Int.ofNat) = unfuseDispatch y p := by
  rw [reshapeArr_eq y _ _ a.shape ([p], [], []) (findFullReshape_nat a.shape y.size)
    (mapM_toNat a.shape) (back_plan_arr y a p ix subs exts hix hsub hsn hidx hnf)]
  simp only [applyPlan, List.foldlM_cons, List.foldlM_nil, bind, Except.bind, pure, Except.pure]
  cases unfuseDispatch y p <;> rfl

end Reshape4
end SymmModel
