/-
  SymmModel.Proofs.ReconSolve — `a @ solve(a, b)` for fermionic operands that carry labels (C11).
  `solve_matmulF` evaluates the product up to the label merge of `__matmul__`;
  `solve_recon_fermi_labels` reads off the case `a.oddpos = []`, `b` with a sorted label list
  (labels on both operands: Props/C11e.lean).
-/
import SymmModel.Proofs.ReconLabels

namespace SymmModel
namespace ReconP
open LinalgLemmas OddposP

variable {R : Type}

/-- `a @ x` for `x = solve(a, b)`: `__matmul__` hands the blockwise product `T` of the synchronised
    operands to the merge of `a`'s labels with `b`'s (the solution carries `b`'s).  `T` has no
    pending sign, distinct sectors, and `b`'s element on every sector of `b` paired with a block
    of `a`. -/
theorem solve_matmulF [Zero R] [Add R] [Mul R] [Neg R] (hn0 : -(0 : R) = 0) {K : Kernels R}
    (hK : K.ShapeOk) {a b x : Arr R} (hva : a.validB = true) (hvb : b.validB = true)
    (hfa : a.fermi = true) (hfb : b.fermi = true)
    (hS : K.SolvesOn a.phaseSync b.phaseSync) (h : solveA K a b = .ok x) :
    ∃ T : Arr R, Arr.matmulF a x
        = (mergeOddpos a.parity a.oddpos b.oddpos).map (fun r =>
            { (if r.2 == -1 then T.phaseGlobal else T) with oddpos := r.1 })
      ∧ T.phases = [] ∧ T.sectors.Nodup
      ∧ ∀ s arr, (s, arr) ∈ a.blocks → [s.getD 0 (0, 0)] ∈ b.sectors →
        ∀ i, i < arr.shape.getD 0 0 →
          T.elem [s.getD 0 (0, 0)] [i] = b.elem [s.getD 0 (0, 0)] [i] := by
  obtain ⟨h2, h1, hx⟩ := solveA_ok_eq hva h
  obtain ⟨f1, f2, f3, f4, f5, f6⟩ := syncIf_fields a
  obtain ⟨g1, g2, g3, g4, g5⟩ := syncB_fields (syncIf a) b
  have hva' := syncIf_valid a hva
  have h2' : (syncIf a).ndim = 2 := by rw [syncIf_ndim]; exact h2
  have hfA : (syncIf a).fermi = true := f2.trans hfa
  have hBph : (syncB (syncIf a) b).phases = [] :=
    syncB_phases _ b hvb (by rw [f2, hfa, hfb])
  have hXph : (solveX K (syncIf a) (syncB (syncIf a) b)).phases = [] := hBph
  have hXnd : (solveX K (syncIf a) (syncB (syncIf a) b)).sectors.Nodup :=
    solveBlocks_keys_nodup hva' h2'
  have hxi : x.indices = [((syncIf a).indices.getD 1 default).conj] := by
    rw [hx]; split
    · rw [(phaseFlip_fields _ [0]).indices]; rfl
    · rfl
  -- after `__matmul__`'s own flip the solution has no pending signs
  have hb1 : (if ((syncIf a).indices.getD 1 default).conj.dual then x.phaseFlip [0] else x).phases = []
      ∧ (if ((syncIf a).indices.getD 1 default).conj.dual then x.phaseFlip [0] else x).blocks
          = solveBlocks K (syncIf a) (syncB (syncIf a) b)
      ∧ (if ((syncIf a).indices.getD 1 default).conj.dual then x.phaseFlip [0] else x).oddpos
          = b.oddpos := by
    by_cases hd : ((syncIf a).indices.getD 1 default).conj.dual = true
    · have hx' : x = (solveX K (syncIf a) (syncB (syncIf a) b)).phaseFlip [0] := by
        rw [hx, if_pos (by rw [hfA, hd]; rfl)]
      rw [if_pos hd]
      refine ⟨?_, ?_, ?_⟩
      · rw [hx']; exact phaseFlip0_twice _ hXph hXnd
      · rw [(phaseFlip_fields _ [0]).blocks, hx', (phaseFlip_fields _ [0]).blocks]; rfl
      · rw [(phaseFlip_fields _ [0]).oddpos, hx', (phaseFlip_fields _ [0]).oddpos]; exact g5
    · have hx' : x = solveX K (syncIf a) (syncB (syncIf a) b) := by
        rw [hx, if_neg (by rw [hfA]; simpa using hd)]
      rw [if_neg hd, hx']
      exact ⟨hXph, rfl, g5⟩
  obtain ⟨hb1p, hb1b, hb1o⟩ := hb1
  have hb2b := (phaseSync_blocks_nil _ hb1p).trans hb1b
  have ha2b : a.phaseSync.blocks = (syncIf a).blocks := (syncIf_blocks_fermi a hfa).symm
  have hcb := (tdot_blocks_congr ha2b
      (hb2b.trans (show solveBlocks K (syncIf a) (syncB (syncIf a) b)
        = (solveX K (syncIf a) (syncB (syncIf a) b)).blocks from rfl)) [0] [1] [0] []).trans
    (solve_tdot_blocks (K := K) (b := syncB (syncIf a) b) hva' h2')
  -- one product block per row charge of `a` that `b` stores
  have hkeys : (((syncIf a).blocks.filterMap (fun p =>
      (alookup (syncB (syncIf a) b).blocks [p.1.getD 0 (0, 0)]).map (fun bb =>
        ([p.1.getD 0 (0, 0)], p.2.tensordotK (K.solve p.2 bb) [1] [0])))).map (·.1)).Nodup := by
    apply nodup_filterMap_keys (syncIf a).blocks _ (fun q : Sector × Blk R => q.1)
      (fun p => [p.1.getD 0 (0, 0)])
    · have := rowCharges_nodup hva' h2'
      have h' := nodup_map_of_inj _ (fun c : Charge => [c]) this (fun a _ b _ e => (List.cons.inj e).1)
      rwa [List.map_map, Arr.sectors, List.map_map] at h'
    · intro p q hpq
      cases hl' : alookup (syncB (syncIf a) b).blocks [p.1.getD 0 (0, 0)] with
      | none => rw [hl'] at hpq; cases hpq
      | some bb' => rw [hl'] at hpq; cases hpq; rfl
  rw [matmulF_eq_21 a x h2 _ hxi, resolveCombinedOddpos_eq]
  have hx2o : (if ((syncIf a).indices.getD 1 default).conj.dual then x.phaseFlip [0]
      else x).phaseSync.oddpos = b.oddpos := hb1o
  rw [hx2o]
  refine ⟨_, rfl, rfl, by rw [← hcb] at hkeys; exact hkeys, ?_⟩
  intro s arr hm hbs i hi
  obtain ⟨i0, i1, hidx⟩ := ndim_two h2'
  have hs' : s ∈ (syncIf a).sectors := by rw [f6]; exact List.mem_map.mpr ⟨(s, arr), hm, rfl⟩
  obtain ⟨⟨s', arr'⟩, hm', hs'e⟩ := List.mem_map.mp hs'
  have hs'e' : s' = s := hs'e
  subst hs'e'
  have hshape : arr'.shape = arr.shape := by
    have e1 := Arr.validB_block_shape hva' hm'
    have e2 := Arr.validB_block_shape hva hm
    rw [f3] at e1
    exact Option.some.inj (e1.symm.trans e2)
  have hbsec : [s'.getD 0 (0, 0)] ∈ (syncB (syncIf a) b).sectors := by
    rw [syncB_sectors]; exact hbs
  obtain ⟨⟨_, bb⟩, hbm, hbe⟩ := List.mem_map.mp hbsec
  have hBnd := Arr.validB_nodup (syncB_valid (syncIf a) b hvb)
  have hl : alookup (syncB (syncIf a) b).blocks [s'.getD 0 (0, 0)] = some bb := by
    apply alookup_of_mem_nodup hBnd
    rw [← hbe]; exact hbm
  obtain ⟨r, c, m, n, B⟩ := mat_block hva' hidx hm'
  have hSol : K.SolvesOn (syncIf a) (syncB (syncIf a) b) :=
    solvesOn_congr (syncIf_blocks_fermi a hfa).symm (syncB_blocks_fermi _ b hfA).symm hS
  have hi' : i < m := by rw [← hshape, B.hshape] at hi; exact hi
  have hval := hSol _ arr' bb hm' hl i (by rw [B.hshape]; exact hi')
  simp only [B.hshape, List.getD_cons_succ, List.getD_cons_zero] at hval
  have hsol := hK.solve arr' bb m n B.hshape B.hwf
  have hlook := alookup_of_mem_nodup hkeys
    (k := [s'.getD 0 (0, 0)])
    (v := arr'.tensordotK (K.solve arr' bb) [1] [0])
    (by rw [List.mem_filterMap]; exact ⟨(s', arr'), hm', by simp only [hl, Option.map_some]⟩)
  rw [← hcb] at hlook
  rw [← syncB_elem hn0 (syncIf a) b]
  have hTph : (tensordotBlockwise a.phaseSync
      (if ((syncIf a).indices.getD 1 default).conj.dual then x.phaseFlip [0] else x).phaseSync
      [0] [1] [0] []).phases = [] := rfl
  simp only [Arr.elem, hlook, hl, hBph, hTph, alookup]
  rw [← hval]
  simpa using tensordotK_matvec_get arr' (K.solve arr' bb) B.hshape hsol.1 hi'

/-- the even matrix `a` carries no label, `b` a sorted list: `a @ solve(a, b)` carries `b`'s labels
    and has `b`'s element on every sector of `b` paired with a block of `a` -/
theorem solve_recon_fermi_labels [Zero R] [Add R] [Mul R] [Neg R] (hn0 : -(0 : R) = 0) {K : Kernels R}
    (hK : K.ShapeOk) {a b x : Arr R} (hva : a.validB = true) (hvb : b.validB = true)
    (hfa : a.fermi = true) (hfb : b.fermi = true) (heven : a.parity = false)
    (hao : a.oddpos = []) (hbo : SortedLabels b.oddpos)
    (hS : K.SolvesOn a.phaseSync b.phaseSync) (h : solveA K a b = .ok x) :
    ∃ y, Arr.matmulF a x = .ok y ∧ y.oddpos = b.oddpos ∧
      ∀ s arr, (s, arr) ∈ a.blocks → [s.getD 0 (0, 0)] ∈ b.sectors →
        ∀ i, i < arr.shape.getD 0 0 →
          y.elem [s.getD 0 (0, 0)] [i] = b.elem [s.getD 0 (0, 0)] [i] := by
  obtain ⟨T, hm, _, _, hel⟩ := solve_matmulF hn0 hK hva hvb hfa hfb hS h
  rw [heven, hao, merge_right_sorted _ hbo] at hm
  exact ⟨_, hm, rfl, hel⟩

end ReconP
end SymmModel
