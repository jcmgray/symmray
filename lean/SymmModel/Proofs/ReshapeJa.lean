/-
  SymmModel.Proofs.ReshapeJa — ONE abelian fuse call of a `reshape` plan, element by element, no signs.
  For a valid abelian array `a` and a call `G` at position `P` (`CallOk`):
    * `fuse_call_A`       the call succeeds with EITHER strategy (insert / concat, any `expand_empty`)
                          and returns the same valid abelian array `fusedArrM a G`
    * `ElemStepA`         every stored element of the result is the element of `a` at the split
                          address (lengths, box of the source block when the source sector is stored)
    * `onto_call_A`       `IntoStep`: every stored BLOCK `(s, b)` of `a` lies in ONE stored block `ns` of the
                          result
    * `src_call_A`        `FromStep`: every stored block `ns` of the result contains a whole stored source
                          block (the "only if" half: a stored fused sector has a stored source sector)
-/
import SymmModel.Proofs.ReshapeIh
import SymmModel.Proofs.TdotFused2
import SymmModel.Props.C05h
namespace SymmModel.ReshapeJ
open SymmModel SymmModel.Reshape SymmModel.C07 SymmModel.Reshape5 SymmModel.ReshapeH SymmModel.ReshapeI
open ReshapeP FuseP SymmModel.Lazy
set_option linter.unusedSectionVars false

variable {R : Type} [Zero R] [Neg R] [LawfulNeg R]

theorem fuse_call_A (a : Arr R) (G : List (List Nat)) (P lb : Nat) (hv : a.validB = true)
    (hf : a.fermi = false) (hc : CallOk G P lb a.ndim) :
    fuseDispatch a G = .ok (fusedArrM a G)
    ∧ (∀ (m : FuseMode) (e : Bool), fuseA a G m e = .ok (fusedArrM a G))
    ∧ (fusedArrM a G).validB = true ∧ (fusedArrM a G).fermi = false
    ∧ (fusedArrM a G).ndim = a.ndim - G.flatten.length + G.length := by
  obtain ⟨hok, _, _⟩ := call_plan a G P lb hc
  have hgok : C05.groupsOkB G a.ndim = true := groupsOk_iff.2 hok
  have hva := validArr_of_validB hv
  have hcore := fuseCore_multi_eq hva hok.adm
  have hins : ∀ e : Bool, fuseA a G .insert e = .ok (fusedArrM a G) := by
    intro e; rw [C05.fuseA_eq_fuseCore a G .insert e a.ndim hgok]; exact hcore
  have hfil : G.filter (fun g => !g.isEmpty) = G := by
    rw [List.filter_eq_self]
    intro g hg
    have := hok.gne g hg
    cases g <;> simp_all
  have hall : ∀ (m : FuseMode) (e : Bool), fuseA a G m e = .ok (fusedArrM a G) := by
    intro m e
    cases m with
    | insert => exact hins e
    | concat =>
      rw [C05.fuseA_concat_eq_insert a G e hv (by rw [hfil]; exact hgok)]
      exact hins e
  obtain ⟨y', mids, w, h1, g1, hidx, hml, _, _, _, _⟩ :=
    (fuseOK_A (R := R)).fuse a G P ⟨hv, hf⟩ hc.ne hc.two hc.flat hc.le
  have h1' : fuseA a G = .ok y' := h1
  rw [hins true] at h1'
  injection h1' with h1'; subst h1'
  exact ⟨by simp only [fuseDispatch, hf, Bool.false_eq_true, if_false]; exact hins true, hall, g1.1, g1.2,
    ndim_fused hidx hml hc.le⟩

theorem fuse_good_A (x : Arr R) (G : List (List Nat)) (P lb : Nat) (y1 : Arr R)
    (hx : x.validB = true ∧ x.fermi = false) (hc : CallOk G P lb x.ndim) (hy : fuseDispatch x G = .ok y1) :
    (y1.validB = true ∧ y1.fermi = false) ∧ y1.ndim = x.ndim - G.flatten.length + G.length := by
  obtain ⟨hy', _, hv', hf', hn'⟩ := fuse_call_A x G P lb hx.1 hx.2 hc
  rw [hy] at hy'; injection hy' with hy'; subst hy'
  exact ⟨⟨hv', hf'⟩, hn'⟩

/-- the one-call statement, abelian: no sign -/
abbrev ElemStepA (a y : Arr R) (G : List (List Nat)) (P : Nat) : Prop := ElemStepV (fun _ x => x) a y G P

theorem elem_call_A (a : Arr R) (G : List (List Nat)) (P lb : Nat)
    (hv : a.validB = true) (hf : a.fermi = false) (hc : CallOk G P lb a.ndim) :
    ElemStepA a (fusedArrM a G) G P := by
  obtain ⟨hok, hpos, hperm⟩ := call_plan a G P lb hc
  have hva := validArr_of_validB hv
  have hph := Arr.phases_nil_of_validB hv hf
  intro ns B hB i hi
  have hB' : alookup (fusedBlocksM a G) ns = some B := hB
  obtain ⟨h1, h2⟩ := fused_getM hva hok hB' hi
  obtain ⟨sb0, hsb0, hns0, hBs⟩ := fusedBlockM_info hva hok.adm hB'
  have hnsl : ns.length = ndimM a G := by rw [← hns0]; exact planM_newSector_length hok.adm sb0
  have hil : i.length = ndimM a G := by rw [inBox_length hi, hBs, BshM_length]
  obtain ⟨hKl, hJl⟩ := expandK_length hva hok hnsl hil h1
  have eK := expandK_eq a G P hpos ns i
  have eJ := expandJ_eq a G P hpos ns i
  have pK : permuted (expandK a G ns i) (giM a G).perm = expandK a G ns i := by
    rw [hperm, ← hKl]; exact permuted_range _
  have pJ : permuted (expandJ a G ns i) (giM a G).perm = expandJ a G ns i := by
    rw [hperm, ← hJl]; exact permuted_range _
  obtain ⟨hget, hbox⟩ := h2 _ _ hKl hJl pK pJ
  refine ⟨(List.range G.length).map (segM a G ns i), by simp, fun g gaxes hg => segs_split a G G P hpos ns i h1 g gaxes hg
      (by have := hc.two gaxes (List.mem_of_getElem? hg); omega),
    by rw [← eK]; exact hKl, by rw [← eJ]; exact hJl, ?_, ?_⟩
  · rw [← eK, ← eJ, Arr.elem_of_phases_nil hph, Arr.elem_of_phases_nil (a := fusedArrM a G) (by show a.phases = []; exact hph)]
    simp only [fusedArrM, hB']
    rw [hget]
    cases alookup a.blocks (expandK a G ns i) <;> rfl
  · intro b hb
    rw [← eK] at hb
    have := hbox b hb
    rw [pJ, hperm] at this
    have hbl : b.shape.length = a.ndim := ShapeLen.of_valid hv (_, b) (alookup_some_mem hb)
    rw [← hbl, permuted_range, eJ] at this
    exact this

theorem block_into (a : Arr R) (G : List (List Nat)) (P lb : Nat)
    (hv : a.validB = true) (hc : CallOk G P lb a.ndim) (s : Sector) (b : Blk R)
    (hbs : alookup a.blocks s = some b) (B : Blk R)
    (hB : alookup (fusedArrM a G).blocks (planM a G (s, b)).newSector = some B) :
    ∀ offs, inBox b.shape offs = true →
      ∃ i, ∃ segs : List (Sector × List Nat), inBox B.shape i = true
        ∧ segs.length = G.length
        ∧ (∀ g gaxes, G[g]? = some gaxes →
            splitAddr ((fusedArrM a G).indices.getD (P + g) default)
              ((planM a G (s, b)).newSector.getD (P + g) (0, 0)) (i.getD (P + g) 0) = segs[g]?)
        ∧ s = (planM a G (s, b)).newSector.take P ++ (segs.map (·.1)).flatten
              ++ (planM a G (s, b)).newSector.drop (P + G.length)
        ∧ offs = i.take P ++ (segs.map (·.2)).flatten ++ i.drop (P + G.length) := by
  obtain ⟨hok, hpos, hperm⟩ := call_plan a G P lb hc
  have hva := validArr_of_validB hv
  exact block_into_M a G G P hva hok hpos hperm rfl hc.two (fun hB' hi => (fused_getM hva hok hB' hi).1) s b
    (alookup_some_mem hbs) (hva.blk (s, b) (alookup_some_mem hbs)).1
    (ShapeLen.of_valid hv (s, b) (alookup_some_mem hbs)) B hB

theorem onto_call_A (a : Arr R) (G : List (List Nat)) (P lb : Nat)
    (hv : a.validB = true) (hc : CallOk G P lb a.ndim) :
    IntoStep a (fusedArrM a G) G P := by
  obtain ⟨hok, _, _⟩ := call_plan a G P lb hc
  have hva := validArr_of_validB hv
  intro s b hbs
  have hbl : b.shape.length = a.ndim := ShapeLen.of_valid hv (s, b) (alookup_some_mem hbs)
  -- the fused block exists even if `b` has a zero extent (no address): it is found by its key
  obtain ⟨B, hB, _⟩ := fusedBlockM_exists hva hok.adm (alookup_some_mem hbs)
  exact ⟨_, B, hB, block_into a G P lb hv hc s b hbs B hB⟩

theorem src_call_A (a : Arr R) (G : List (List Nat)) (P lb : Nat)
    (hv : a.validB = true) (hc : CallOk G P lb a.ndim) :
    FromStep a (fusedArrM a G) G P := by
  obtain ⟨hok, _, _⟩ := call_plan a G P lb hc
  have hva := validArr_of_validB hv
  intro ns B hB
  have hB' : alookup (fusedBlocksM a G) ns = some B := hB
  obtain ⟨sb0, hsb0, hns0, _⟩ := fusedBlockM_info hva hok.adm hB'
  obtain ⟨s, b⟩ := sb0
  have hbs : alookup a.blocks s = some b := alookup_of_mem_nodup hva.nodup hsb0
  subst hns0
  exact ⟨s, b, hbs, block_into a G P lb hv hc s b hbs B hB⟩

theorem elem_call_A_of_dispatch (x : Arr R) (G : List (List Nat)) (P lb : Nat) (y1 : Arr R)
    (hx : x.validB = true ∧ x.fermi = false) (hc : CallOk G P lb x.ndim) (hy : fuseDispatch x G = .ok y1) :
    ElemStepA x y1 G P := by
  rw [(fuse_call_A x G P lb hx.1 hx.2 hc).1] at hy
  injection hy with hy; subst hy
  exact elem_call_A x G P lb hx.1 hx.2 hc

theorem into_call_A (x : Arr R) (G : List (List Nat)) (P lb : Nat) (y1 : Arr R)
    (hx : x.validB = true ∧ x.fermi = false) (hc : CallOk G P lb x.ndim) (hy : fuseDispatch x G = .ok y1) :
    IntoStep x y1 G P := by
  rw [(fuse_call_A x G P lb hx.1 hx.2 hc).1] at hy
  injection hy with hy; subst hy
  exact onto_call_A x G P lb hx.1 hc

theorem from_call_A (x : Arr R) (G : List (List Nat)) (P lb : Nat) (y1 : Arr R)
    (hx : x.validB = true ∧ x.fermi = false) (hc : CallOk G P lb x.ndim) (hy : fuseDispatch x G = .ok y1) :
    FromStep x y1 G P := by
  rw [(fuse_call_A x G P lb hx.1 hx.2 hc).1] at hy
  injection hy with hy; subst hy
  exact src_call_A x G P lb hx.1 hc

end SymmModel.ReshapeJ
