/-
  SymmModel.Proofs.TdotFused10 — "the kernel call agrees" (`KernelOk`: fused strategy = blockwise,
  value view AND block shapes) for EVERY contraction of valid operands of any kind with synced
  signs (`kernelOk_all`): from `AbOk` on the abelianised operands, aligned blocks or not.
-/
import SymmModel.Proofs.TdotFused9

namespace SymmModel
namespace TdotP
variable {R : Type}

/-- the fused strategy on `(X, Y)` along `(xa, xb)` succeeds, its result has the value view of the
    blockwise result, distinct sector keys, and every stored block has the shape the operands' free
    legs give for its key -/
def KernelOk [Zero R] [Add R] [Mul R] [Neg R] (X Y : Arr R) (xa xb : List Nat) : Prop :=
  ∃ c, tensordotViaFused X Y (freeAxes X.ndim xa) xa xb (freeAxes Y.ndim xb) = .ok c
    ∧ SameView c (tensordotBlockwise X Y (freeAxes X.ndim xa) xa xb (freeAxes Y.ndim xb))
    ∧ c.sectors.Nodup
    ∧ List.Forall₂ SizeLe c.indices (without X.indices xa ++ without Y.indices xb)
    ∧ ∀ K V, alookup c.blocks K = some V →
        Arr.blockShape? (without X.indices xa ++ without Y.indices xb) K = some V.shape

theorem kernelOk_of_abOk [AddCommMonoid R] [Mul R] [Neg R] (X Y : Arr R) (xa xb : List Nat)
    (hbl : ((dropMisaligned X Y xa xb).1.blocks.isEmpty || (dropMisaligned X Y xa xb).2.blocks.isEmpty) = false →
      AbOk (ab X) (ab Y) xa xb) :
    KernelOk X Y xa xb := by
  cases hb : ((dropMisaligned X Y xa xb).1.blocks.isEmpty || (dropMisaligned X Y xa xb).2.blocks.isEmpty) with
  | true =>
    obtain ⟨c, h1, h2, h3⟩ := viaFused_empty_sameView X Y xa xb hb
    refine ⟨c, h1, h2, h3, ?_⟩
    obtain ⟨h1', _, _⟩ := viaFused_empty X Y (freeAxes X.ndim xa) xa xb (freeAxes Y.ndim xb) hb
    rw [h1'] at h1
    cases h1
    obtain ⟨n1, n2⟩ := dropMisaligned_ndim X Y xa xb
    refine ⟨?_, ?_⟩
    · show List.Forall₂ SizeLe (without (dropMisaligned X Y xa xb).1.indices xa
        ++ without (dropMisaligned X Y xa xb).2.indices xb) _
      rw [without_eq_permuted_freeAxes, without_eq_permuted_freeAxes, without_eq_permuted_freeAxes,
        without_eq_permuted_freeAxes]
      have e1 : (dropMisaligned X Y xa xb).1.indices.length = X.indices.length := n1
      have e2 : (dropMisaligned X Y xa xb).2.indices.length = Y.indices.length := n2
      rw [e1, e2]
      exact forall₂_append
        (permuted_dropUnused_sizeLe X.indices _ _ (fun x hx => (mem_freeAxes.mp hx).1))
        (permuted_dropUnused_sizeLe Y.indices _ _ (fun x hx => (mem_freeAxes.mp hx).1))
    · intro K V hl
      simp [alookup] at hl
  | false =>
    obtain ⟨c0, h0, K⟩ := hbl hb
    have hrank := K.rank
    have hsec := K.sec
    have hval := K.val
    have e := tensordotViaFused_ab X Y (freeAxes X.ndim xa) xa xb (freeAxes Y.ndim xb)
    have nX : (ab X).ndim = X.ndim := rfl
    have nY : (ab Y).ndim = Y.ndim := rfl
    rw [nX, nY] at h0 hrank hsec hval
    rw [h0] at e
    cases hc' : tensordotViaFused X Y (freeAxes X.ndim xa) xa xb (freeAxes Y.ndim xb) with
    | error err => rw [hc'] at e; cases e
    | ok c =>
      rw [hc'] at e
      simp only [Except.map, Except.ok.injEq] at e
      subst e
      have hfields := tensordotViaFused_fields hc'
      exact ⟨c, hc', ⟨K.sym, hfields.1, K.charge, K.phases, hfields.2, hrank, hsec, hval⟩,
        allDistinct_iff_nodup.mp (Arr.allDistinct_of_validB (a := ab c) K.valid), K.frame, K.shape⟩

/-- **fused = blockwise for EVERY call** (operands of any kind, synced signs) -/
theorem kernelOk_all [AddCommMonoid R] [Mul R] [Neg R]
    (hz1 : ∀ x : R, 0 * x = 0) (hz2 : ∀ x : R, x * 0 = 0) (X Y : Arr R) (xa xb : List Nat)
    (hvX : ValidP.Valid X) (hvY : ValidP.Valid Y) (hpX : X.phases = []) (hpY : Y.phases = [])
    (hsym : X.sym = Y.sym) (hc : ValidP.contractibleB X Y xa xb = true)
    (hnA : xa.Nodup) (hnB : xb.Nodup) (hA : ∀ x ∈ xa, x < X.ndim) (hB : ∀ x ∈ xb, x < Y.ndim) :
    KernelOk X Y xa xb :=
  kernelOk_of_abOk X Y xa xb (fun hbl =>
    abOk_all hz1 hz2 (ab X) (ab Y) xa xb (ab_validB hvX hpX) (ab_validB hvY hpY) rfl rfl hsym hc
      hnA hnB hA hB hbl)

/-- **fused = blockwise for every non-empty contraction** (operands of any kind, synced signs) -/
theorem kernelOk_contract [AddCommMonoid R] [Mul R] [Neg R]
    (hz1 : ∀ x : R, 0 * x = 0) (hz2 : ∀ x : R, x * 0 = 0) (X Y : Arr R) (xa xb : List Nat)
    (hvX : ValidP.Valid X) (hvY : ValidP.Valid Y) (hpX : X.phases = []) (hpY : Y.phases = [])
    (hsym : X.sym = Y.sym) (hc : ValidP.contractibleB X Y xa xb = true)
    (hnA : xa.Nodup) (hnB : xb.Nodup) (hA : ∀ x ∈ xa, x < X.ndim) (hB : ∀ x ∈ xb, x < Y.ndim)
    (hneK : xa ≠ []) : KernelOk X Y xa xb :=
  kernelOk_all hz1 hz2 X Y xa xb hvX hvY hpX hpY hsym hc hnA hnB hA hB

end TdotP
end SymmModel
