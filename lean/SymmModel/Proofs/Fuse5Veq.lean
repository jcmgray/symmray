/-
  SymmModel.Proofs.Fuse5Veq — equality of value views (`VEq`): same frame and the same value at
  every address, whatever is stored; the value view of `unfuseF a p` as a function of that of `a`.
-/
import SymmModel.Proofs.Fuse5Val
namespace SymmModel
namespace FuseP
set_option linter.unusedSectionVars false
open SymmModel.Lazy

variable {R : Type} [Zero R] [Neg R] [LawfulNeg R]

/-- equal value views: same symmetry / kind / indices (with all tables) / charge / labels and the
    same value at every address.  Stored all-zero blocks are not observed. -/
structure VEq (a b : Arr R) : Prop where
  sym : a.sym = b.sym
  fermi : a.fermi = b.fermi
  indices : a.indices = b.indices
  charge : a.charge = b.charge
  oddpos : a.oddpos = b.oddpos
  elem : ∀ s off, a.elem s off = b.elem s off

theorem VEq.refl (a : Arr R) : VEq a a := ⟨rfl, rfl, rfl, rfl, rfl, fun _ _ => rfl⟩
theorem VEq.symm {a b : Arr R} (h : VEq a b) : VEq b a :=
  ⟨h.sym.symm, h.fermi.symm, h.indices.symm, h.charge.symm, h.oddpos.symm, fun s o => (h.elem s o).symm⟩
theorem VEq.trans {a b c : Arr R} (h : VEq a b) (h' : VEq b c) : VEq a c :=
  ⟨h.sym.trans h'.sym, h.fermi.trans h'.fermi, h.indices.trans h'.indices, h.charge.trans h'.charge,
   h.oddpos.trans h'.oddpos, fun s o => (h.elem s o).trans (h'.elem s o)⟩

theorem ObsEq.toVEq {a b : Arr R} (h : ObsEq a b) : VEq a b :=
  ⟨h.sym, h.fermi, h.indices, h.charge, h.oddpos, h.elem⟩

theorem elem_ext_of_inBox {a b : Arr R} (hva : ValidArr a) (hvb : ValidArr b) (hi : a.indices = b.indices)
    (h : ∀ s shp, Arr.blockShape? a.indices s = some shp → ∀ off, inBox shp off = true →
      a.elem s off = b.elem s off) :
    ∀ s off, a.elem s off = b.elem s off := by
  intro s off
  rw [elem_eq, elem_eq]
  cases ha : alookup a.blocks s with
  | none =>
    cases hb : alookup b.blocks s with
    | none => rfl
    | some Bb =>
      simp only
      have hsh := (hvb.blk _ (alookup_some_mem hb)).2.1
      have hz : AllZero (syncBlk b s Bb) := by
        apply allZero_of_get (syncBlk_wf b s Bb (hvb.blk _ (alookup_some_mem hb)).2.2)
        intro J hJ
        rw [syncBlk_shape] at hJ
        have := h s Bb.shape (by rw [hi]; exact hsh) J hJ
        rw [elem_eq, elem_eq, ha, hb] at this
        rw [syncBlk_get]; exact this.symm
      rw [← syncBlk_get]; exact (get_of_allZero hz off).symm
  | some Ba =>
    have hsha := (hva.blk _ (alookup_some_mem ha)).2.1
    simp only
    cases hb : alookup b.blocks s with
    | none =>
      simp only
      have hz : AllZero (syncBlk a s Ba) := by
        apply allZero_of_get (syncBlk_wf a s Ba (hva.blk _ (alookup_some_mem ha)).2.2)
        intro J hJ
        rw [syncBlk_shape] at hJ
        have := h s Ba.shape hsha J hJ
        rw [elem_eq, elem_eq, ha, hb] at this
        rw [syncBlk_get]; exact this
      rw [← syncBlk_get]; exact get_of_allZero hz off
    | some Bb =>
      simp only
      have hshb := (hvb.blk _ (alookup_some_mem hb)).2.1
      rw [← hi, hsha] at hshb
      simp only [Option.some.injEq] at hshb
      have heq : syncBlk a s Ba = syncBlk b s Bb := by
        apply blk_ext (syncBlk_wf a s Ba (hva.blk _ (alookup_some_mem ha)).2.2)
          (syncBlk_wf b s Bb (hvb.blk _ (alookup_some_mem hb)).2.2)
          (by rw [syncBlk_shape, syncBlk_shape, hshb])
        intro J hJ
        rw [syncBlk_shape] at hJ
        have := h s Ba.shape hsha J hJ
        rw [elem_eq, elem_eq, ha, hb] at this
        rw [syncBlk_get, syncBlk_get]; exact this
      rw [← syncBlk_get, ← syncBlk_get, heq]

theorem unfuseF_val (a : Arr R) (p : Nat) (ix : Index) (subs : List Index) (exts : Extents)
    (hv : a.validB = true) (hix : a.indices[p]? = some ix) (hsub : ix.sub = some (subs, exts)) :
    ∃ y, Arr.unfuseF a p = .ok y ∧ y.indices = replaceWithSeq a.indices p subs
      ∧ ∀ K shpK, Arr.blockShape? y.indices K = some shpK → ∀ J, inBox shpK J = true →
          y.elem K J = unfVal a.sym ix subs exts p (unfuseSign a ix subs p) a.elem K J := by
  obtain ⟨y, hy, hyidx, hA, hB⟩ := unfuseF_elemM a p ix subs exts hv hix hsub
  exact ⟨y, hy, hyidx, fun K shpK hK J hJ =>
    val_of_cert (unfuseSign a ix subs p) (validArr_of_validB hv) hix hsub hyidx hA hB hK hJ⟩

theorem unfVal_congr {sym : Sym} {ix : Index} {subs : List Index} {exts : Extents} {p : Nat}
    {sgn : Sector → Int} {v v' : Sector → List Nat → R} (h : ∀ s o, v s o = v' s o) (K : Sector) (J : List Nat) :
    unfVal sym ix subs exts p sgn v K J = unfVal sym ix subs exts p sgn v' K J := by
  have : v = v' := funext (fun s => funext (fun o => h s o))
  rw [this]

end FuseP
end SymmModel
