/-
  SymmModel.Proofs.FuseFermi5 — `fuseF_elemM`, the element map of `fuseF` in terms of the ORIGINAL
  array: the explicit sign per original sector (`fuseSignF`) is the Koszul sign of the permutation
  times the sign of the fuse on the transposed sector.
-/
import SymmModel.Proofs.FuseFermi4
namespace SymmModel
namespace FuseP
set_option linter.unusedSectionVars false
open SymmModel.Lazy

variable {R : Type}

section F
variable [Zero R] [Neg R] [LawfulNeg R]

theorem transposeF_elem_orig {a : Arr R} {perm : List Nat} (h : TrOk a perm) (hsl : ShapeLen a)
    {s : Sector} {offs : List Nat} (hs : s.length = a.ndim) (ho : offs.length = a.ndim)
    (hbox : ∀ b, alookup a.blocks s = some b → inBox (permuted b.shape perm) (permuted offs perm) = true) :
    (a.transposeF perm).elem (permuted s perm) (permuted offs perm)
      = sgnI (koszul (a.parities s) (some perm)) (a.elem s offs) := by
  have hcov : ∀ ax, ax < a.ndim → ax ∈ perm := by
    intro ax hax
    have := h.perm
    simp only [Arr.isPerm, Bool.and_eq_true, beq_iff_eq, List.all_eq_true, List.mem_range,
      List.contains_eq_mem, decide_eq_true_eq] at this
    exact this.2 ax hax
  have hlt : ∀ p ∈ perm, p < a.ndim := isPerm_lt h.perm
  cases hb : alookup a.blocks s with
  | some b =>
    rw [transposeF_elem_block h hb, elem_eq, hb]
    simp only
    have hbl : b.shape.length = a.ndim := hsl (s, b) (alookup_some_mem hb)
    rw [transposeK_get_permuted b hbl ho hcov hlt (hbox b hb)]
    rfl
  | none =>
    rw [transposeF_elem h s hs, alookup_skel, hb, elem_eq, hb]
    simp only [Option.map_none]

theorem signAdj_block {a : Arr R} {groups : List (List Nat)} (h : TrOk a (calcFuseGroupInfo groups a.duals).perm)
    {s : Sector} {b : Blk R} (hb : alookup a.blocks s = some b) :
    ∃ b4, alookup (signAdj a groups).blocks (permuted s (calcFuseGroupInfo groups a.duals).perm) = some b4
      ∧ b4.shape = permuted b.shape (calcFuseGroupInfo groups a.duals).perm := by
  have hs : s ∈ a.sectors := mem_sectors_of_lookup hb
  have hx1 : alookup (a.transposeF (calcFuseGroupInfo groups a.duals).perm).blocks
      (permuted s (calcFuseGroupInfo groups a.duals).perm)
      = some (b.transposeK (calcFuseGroupInfo groups a.duals).perm) := by
    rw [transposeF_blocks h, alookup_map_inj (fun s : Sector => permuted s (calcFuseGroupInfo groups a.duals).perm)
      (fun b : Blk R => b.transposeK (calcFuseGroupInfo groups a.duals).perm) _ s
      (fun k hk he => h.inj hk (h.len s hs) he), hb]
    rfl
  have key : ∀ y : Arr R, y.blocks = (a.transposeF (calcFuseGroupInfo groups a.duals).perm).blocks →
      ∃ b4, alookup y.phaseSync.blocks (permuted s (calcFuseGroupInfo groups a.duals).perm) = some b4
        ∧ b4.shape = permuted b.shape (calcFuseGroupInfo groups a.duals).perm := by
    intro y hy
    rw [phaseSync_blocks_eq, alookup_map_val (syncBlk y), hy, hx1]
    refine ⟨_, rfl, ?_⟩
    simp only [syncBlk]
    split <;> rfl
  unfold signAdj
  split
  · exact key _ (phaseFlip_blocks _ _)
  · exact key _ (phaseFlip_blocks _ _)

/-- the total sign the fermionic fuse applies to the original sector `s` -/
def fuseSignF (a : Arr R) (groups : List (List Nat)) (s : Sector) : Int :=
  fuseSignT a groups (permuted s (calcFuseGroupInfo groups a.duals).perm)
    * koszul (a.parities s) (some (calcFuseGroupInfo groups a.duals).perm)

theorem fuseF_elemM (a : Arr R) (groups : List (List Nat)) (e : Bool) (hv : a.validB = true)
    (hf : a.fermi = true) (hok : GroupsOk groups a.ndim) :
    Arr.fuseF a groups .insert e = .ok (fusedArrM (signAdj a groups) (newGroupsF groups a.duals))
    ∧ ∀ ns B, alookup (fusedArrM (signAdj a groups) (newGroupsF groups a.duals)).blocks ns = some B →
      ∀ i, inBox B.shape i = true → ∀ s offs, s.length = a.ndim → offs.length = a.ndim →
        permuted s (calcFuseGroupInfo groups a.duals).perm
          = expandK (signAdj a groups) (newGroupsF groups a.duals) ns i →
        permuted offs (calcFuseGroupInfo groups a.duals).perm
          = expandJ (signAdj a groups) (newGroupsF groups a.duals) ns i →
        (fusedArrM (signAdj a groups) (newGroupsF groups a.duals)).elem ns i
          = sgnI (fuseSignF a groups s) (a.elem s offs) := by
  obtain ⟨h0, hT⟩ := fuseF_elemT a groups e hv hf hok
  refine ⟨h0, ?_⟩
  intro ns B hB i hi s offs hs ho hK hJ
  obtain ⟨_, _, _, hel, hbx⟩ := hT ns B hB i hi
  have hfull := Full.of_valid hv hf
  have hisp := giM_isPerm (a := a) hok
  have htr := hfull.trOk hisp
  rw [hel, ← hK, ← hJ, transposeF_elem_orig htr (ShapeLen.of_valid hv) hs ho]
  · unfold fuseSignF
    rw [sgnI_mul (fuseSignT_pm _ _ _) (koszul_pm _ _)]
  · intro b hb
    obtain ⟨b4, hb4, hsh⟩ := signAdj_block (groups := groups) htr hb
    have := hbx b4 (by rw [← hK]; exact hb4)
    rw [hsh, ← hJ] at this
    exact this

end F

end FuseP
end SymmModel
