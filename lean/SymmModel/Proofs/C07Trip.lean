/-
  SymmModel.Proofs.C07Trip — the shape-level fact behind the planner's round trip on merge / drop
  targets: a non-empty member of `targets shape` is the list of products of a partition of `shape`
  into runs of adjacent axes (a dropped size-one axis can always be counted into a neighbouring run).
-/
import SymmModel.Proofs.Reshape7a
namespace SymmModel.C07
open SymmModel SymmModel.Reshape SymmModel.Reshape5 ReshapeP

theorem mem_merges_cons {d : Nat} {r t : List Nat} (h : t ∈ merges (d :: r)) :
    ∃ t0 ∈ merges r,
      (t0 = [] ∧ t = [d]) ∨ ∃ e t', t0 = e :: t' ∧ (t = d :: t0 ∨ t = (d * e) :: t') := by
  simp only [merges, List.mem_flatMap] at h
  obtain ⟨t0, h0, ht⟩ := h
  refine ⟨t0, h0, ?_⟩
  cases t0 with
  | nil => exact Or.inl ⟨rfl, by simpa using ht⟩
  | cons e t' =>
    cases r with
    | nil => simp [merges] at h0
    | cons _ _ => exact Or.inr ⟨e, t', rfl, by simpa using ht⟩

theorem mem_drops_cons {d : Nat} {rest u : List Nat} (h : u ∈ drops (d :: rest)) :
    (d = 1 ∧ u ∈ drops rest) ∨ ∃ r ∈ drops rest, u = d :: r := by
  simp only [drops] at h
  split at h
  · rename_i hd
    simp only [List.mem_flatMap, List.mem_cons, List.not_mem_nil, or_false] at h
    obtain ⟨r, hr, rfl | rfl⟩ := h
    · exact Or.inr ⟨r, hr, rfl⟩
    · exact Or.inl ⟨by simpa using hd, hr⟩
  · simp only [List.mem_map] at h
    obtain ⟨r, hr, rfl⟩ := h
    exact Or.inr ⟨r, hr, rfl⟩

/-- a target of `d :: rest` is a target of `rest` (`d = 1` dropped), or comes from a target `t0` of
    `rest` by keeping `d` as an axis of its own or merging it into the first axis of `t0` -/
theorem mem_targets_cons {d : Nat} {rest t : List Nat} (h : t ∈ targets (d :: rest)) :
    (d = 1 ∧ t ∈ targets rest) ∨ ∃ t0 ∈ targets rest,
      (t0 = [] ∧ t = [d]) ∨ ∃ e t', t0 = e :: t' ∧ (t = d :: t0 ∨ t = (d * e) :: t') := by
  obtain ⟨u, hu, ht⟩ := List.mem_flatMap.mp h
  rcases mem_drops_cons hu with ⟨hd, hu'⟩ | ⟨r, hr, rfl⟩
  · exact Or.inl ⟨hd, List.mem_flatMap.mpr ⟨u, hu', ht⟩⟩
  · obtain ⟨t0, h0, hcase⟩ := mem_merges_cons ht
    exact Or.inr ⟨t0, List.mem_flatMap.mpr ⟨r, hr, h0⟩, hcase⟩

theorem prod_of_nil_mem_targets : ∀ (shape : List Nat), [] ∈ targets shape → prod shape = 1 := by
  intro shape
  induction shape with
  | nil => intro _; rfl
  | cons d rest ih =>
    intro h
    rcases mem_targets_cons h with ⟨rfl, h'⟩ | ⟨t0, _, ⟨_, h'⟩ | ⟨e, t', _, h' | h'⟩⟩
    · simp [prod, ih h']
    · cases h'
    · cases h'
    · cases h'

/-- **the merge / drop targets are the merge targets**: every non-empty target of `shape` is
    obtained by cutting `shape` into runs of adjacent axes and multiplying each run out -/
theorem targets_runs : ∀ (shape t : List Nat), t ∈ targets shape → t ≠ [] →
    ∃ runs : List (List Nat), (∀ r ∈ runs, r ≠ []) ∧ runs.flatten = shape ∧ runs.map prod = t := by
  intro shape
  induction shape with
  | nil =>
    intro t h hne
    simp only [targets, drops, merges, List.flatMap_cons, List.flatMap_nil, List.append_nil,
      List.mem_singleton] at h
    exact absurd h hne
  | cons d rest ih =>
    intro t h hne
    rcases mem_targets_cons h with ⟨rfl, h'⟩ | ⟨t0, h0, ⟨rfl, rfl⟩ | ⟨e, t', rfl, rfl | rfl⟩⟩
    · -- `d = 1` dropped: it joins the first run
      obtain ⟨runs, hr, hfl, hpr⟩ := ih t h' hne
      cases runs with
      | nil => exact absurd hpr.symm hne
      | cons r1 rs =>
        exact ⟨(1 :: r1) :: rs, List.forall_mem_cons.mpr ⟨by simp, (List.forall_mem_cons.mp hr).2⟩,
          by simp [← hfl], by simp [← hpr, prod]⟩
    · -- everything after `d` is dropped: one run
      exact ⟨[d :: rest], by simp, by simp, by simp [prod, prod_of_nil_mem_targets rest h0]⟩
    · -- `d` kept as an axis: a run of its own
      obtain ⟨runs, hr, hfl, hpr⟩ := ih _ h0 (by simp)
      exact ⟨[d] :: runs, List.forall_mem_cons.mpr ⟨by simp, hr⟩, by simp [hfl], by simp [hpr, prod]⟩
    · -- `d` merged into the first axis of `t0`: it joins the first run
      obtain ⟨runs, hr, hfl, hpr⟩ := ih _ h0 (by simp)
      cases runs with
      | nil => cases hpr
      | cons r1 rs =>
        simp only [List.map_cons, List.cons.injEq] at hpr
        exact ⟨(d :: r1) :: rs, List.forall_mem_cons.mpr ⟨by simp, (List.forall_mem_cons.mp hr).2⟩,
          by simp [← hfl], by simp [← hpr.1, ← hpr.2, prod]⟩

/-- the runs as a merge / drop description without drops -/
theorem shapeS_map_run (runs : List (List Nat)) : shapeS (runs.map MSeg.run) = runs.flatten := by
  induction runs with
  | nil => rfl
  | cons r rs ih =>
    simp only [shapeS] at ih ⊢
    simp only [List.map_cons, List.flatMap_cons, MSeg.shape, List.flatten_cons, ih]

theorem targetS_map_run (runs : List (List Nat)) : targetS (runs.map MSeg.run) = runs.map prod := by
  induction runs with
  | nil => rfl
  | cons r rs ih =>
    simp only [targetS] at ih ⊢
    simp only [List.map_cons, List.flatMap_cons, MSeg.target, List.singleton_append, ih]

theorem zip_nones (shape : List Nat) : shape.zip (nones shape) = shape.map fun d => (d, none) := by
  induction shape with
  | nil => rfl
  | cons d r ih => simp only [nones, List.map_cons, List.zip_cons_cons] at ih ⊢; rw [ih]

end SymmModel.C07
