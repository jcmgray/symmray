/-
  SymmModel.Proofs.Reshape6c — every plan of the planner for an input without fused axes has fuse
  calls satisfying `CallsOk` (no hypothesis on the inputs): the calls are `Reshape3.callsOf` of "o"/"g"
  segments whose groups all have at least two axes (`Reshape3.planner_ok`, `callsOk_callsOf`).
-/
import SymmModel.Proofs.Reshape6a
namespace SymmModel.Reshape5
open SymmModel SymmModel.Reshape SymmModel.C07 SymmModel.Reshape3

theorem range'_inj_start {P p n m : Nat} (hn : 0 < n) (h : List.range' P n = List.range' p m) : P = p := by
  obtain ⟨n', rfl⟩ : ∃ n', n = n' + 1 := ⟨n - 1, by omega⟩
  cases m with
  | zero => simp [List.range'_succ] at h
  | succ m =>
    rw [List.range'_succ, List.range'_succ] at h
    injection h

theorem CallOk.pos_unique {G : List (List Nat)} {P P' lb lb' nd nd' : Nat} (h : CallOk G P lb nd)
    (h' : CallOk G P' lb' nd') : P = P' :=
  range'_inj_start (flatten_pos h.ne h.two) (h.flat.symm.trans h'.flat)

theorem calls_of_planner (shape newshape : List Nat) (t : List Nat × List (List (List Nat)) × List Nat)
    (h : calcReshapeArgs shape newshape (nones shape) = .ok t) : CallsOk t.2.1 0 shape.length := by
  have hlen : shape.length = (nones shape).length := (nones_length shape).symm
  obtain ⟨st, S, S3, fs3, _, hinv, hu, rfl, hO3, hk⟩ := planner_ok_of_ok hlen h
  have h2 : GTwo (lateSegs shape newshape (nones shape) st S) := fun k es hm =>
    hinv.ge2 k es (mem_lateSegs_g hm)
  -- no axis is unfused, so the squeezed segments still cover `shape`
  rw [show unfAxes 0 _ = [] from planner_no_unfuse shape newshape _ h] at hu
  simp only [foldOpt, Option.some.injEq] at hu
  have hnd : shape.length = 0 + (flatE S3).length := by
    rw [hk.flatE, ← hu]; simp [List.length_zip, nones]
  exact callsOk_of_B _ _ _
    (callsOk_callsOf S3 0 [] 0 0 _ hO3 (hk.two h2) (by simp) (by simp [sumN]) (Nat.le_refl _) hnd)

end SymmModel.Reshape5
