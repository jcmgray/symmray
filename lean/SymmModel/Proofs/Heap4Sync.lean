/-
  SymmModel.Proofs.Heap4Sync — the heap-side `phase_sync` on block values (`psSem`: a fold of the `tNeg`
  kernel over the pending −1 keys, in `popitem` order) IS the value model's `Arr.phaseSync`
  (`Model/Fermi.lean`: a map over the blocks negating those whose sector carries the sign −1), for dicts
  with unique keys, under an encoding `enc : Sector → Key` of sectors as abstract dict keys that is
  injective on the sectors that occur.  Also: `binaryBlockwise` commutes with such an encoding.

  Last part: the `_map_blocks` script (`S.mapBlocks`, with the sign dict `S.mapPhases`: only the
  entries of stored blocks are re-keyed, as symmray does from its commit 2f542e3 on) IS `Arr.mapBlocks` at the level of contents
  (`mapBlocks_rep`); `squeeze` / `expand_dims` are `_map_blocks` followed by slot assignments.
-/
import SymmModel.Proofs.Heap3Value
import SymmModel.Model.Fermi
namespace SymmModel.Heap

section sd
variable {V : Type}

theorem sd_set_eq_map (l : SDict V) (k : Key) (w : V) (hk : k ∈ keysOf l) (hn : (keysOf l).Nodup) :
    SD.set l k w = l.map (fun e => if e.1 == k then (k, w) else e) := by
  induction l with
  | nil => simp [keysOf] at hk
  | cons e r ih =>
    obtain ⟨k', v⟩ := e
    simp only [keysOf, List.map_cons, List.nodup_cons, List.mem_cons] at hk hn
    by_cases h : (k' == k) = true
    · have hkk : k' = k := by simpa using h
      simp only [SD.set, h, if_true, List.map_cons]
      congr 1
      symm
      conv => rhs; rw [← List.map_id r]
      apply List.map_congr_left
      intro e he
      have : e.1 ≠ k := by
        intro h'; apply hn.1; rw [hkk, ← h']; exact List.mem_map_of_mem he
      simp [this]
    · have h' : (k' == k) = false := by simpa using h
      simp only [SD.set, h', Bool.false_eq_true, if_false, List.map_cons]
      congr 1
      rcases hk with hk | hk
      · exact absurd hk.symm (by simpa using h)
      · exact ih hk hn.2

theorem sd_get?_mem {l : SDict V} {k : Key} {v : V} (h : SD.get? l k = some v) : (k, v) ∈ l :=
  alookup_some_mem (by rw [alookup_eq_get?]; exact h)

theorem sd_get?_of_mem {l : SDict V} {k : Key} {v : V} (hn : (keysOf l).Nodup) (hm : (k, v) ∈ l) :
    SD.get? l k = some v := by
  rw [← alookup_eq_get?]; exact alookup_of_mem_nodup hn hm

theorem sd_get?_none {l : SDict V} {k : Key} (h : SD.get? l k = none) : ∀ e ∈ l, (e.1 == k) = false := by
  intro e he
  simp only [SD.get?, Option.map_eq_none_iff, List.find?_eq_none] at h
  simpa using h e he

end sd


section sync
variable {V : Type} (I : Nat → List V → V) (d : V) (neg : V → V)

/-- `phase_sync` on a dict of values: negate the blocks whose key carries the sign −1 -/
def syncSD (xs : SDict V) (P : Dict) : SDict V :=
  xs.map fun e => (e.1, if P.any (fun q => q.2 == -1 && e.1 == q.1) then neg e.2 else e.2)

/-- what one pending sign does to the dict of values -/
def psEff (xs : SDict V) (q : Key × Val) (st : SDict V) : SDict V :=
  if q.2 == -1 then (match SD.get? xs q.1 with | some v => SD.set st q.1 (neg v) | none => st) else st

theorem psSem_fold (hneg : ∀ v, I tNeg [v] = neg v) (B : Bufs) (c : Content) :
    psSem I d B c = (c.phases.getD []).reverse.foldl (fun st q => psEff neg (semDict I d B c.blocks) q st)
      (semDict I d B c.blocks) := by
  have key : ∀ (Q : Dict) (st : SDict V),
      ((Q.flatMap fun e => SAct.ppop :: psNeg c e).foldl
        (fun s a => (a.toS I d B).run s) (st, ([] : SDict V))) =
      (Q.foldl (fun st q => psEff neg (semDict I d B c.blocks) q st) st, []) := by
    intro Q
    induction Q with
    | nil => intro st; rfl
    | cons q r ih =>
      intro st
      simp only [List.flatMap_cons, List.cons_append, List.foldl_cons, List.foldl_append]
      have hpp : (SAct.toS I d B SAct.ppop).run (st, ([] : SDict V)) = (st, []) := rfl
      rw [hpp]
      have hmid : (psNeg c q).foldl (fun s a => (a.toS I d B).run s) (st, ([] : SDict V)) =
          (psEff neg (semDict I d B c.blocks) q st, []) := by
        simp only [psNeg, psEff, semDict, get?_mapV]
        split
        · cases hb : c.blocks.get? q.1 with
          | none => simp
          | some b => simp [SAct.toS, SStep.run, hneg]
        · rfl
      rw [hmid]; exact ih _
  simp only [psSem, psActs]
  exact congrArg Prod.fst (key (c.phases.getD []).reverse (semDict I d B c.blocks))

theorem psEff_step (xs : SDict V) (hn : (keysOf xs).Nodup) (q : Key × Val) (φ : Key × V → V) :
    psEff neg xs q (xs.map fun e => (e.1, φ e)) =
      xs.map fun e => (e.1, if (q.2 == -1 && e.1 == q.1) then neg e.2 else φ e) := by
  unfold psEff
  by_cases hq : (q.2 == -1) = true
  · simp only [hq, if_true, Bool.true_and]
    cases hg : SD.get? xs q.1 with
    | none =>
      apply List.map_congr_left
      intro e he
      simp [sd_get?_none hg e he]
    | some v =>
      have hmem := sd_get?_mem hg
      have hk : q.1 ∈ keysOf (xs.map fun e => (e.1, φ e)) := by
        simp only [keysOf, List.map_map, List.mem_map, Function.comp_def]
        exact ⟨(q.1, v), hmem, rfl⟩
      have hn2 : (keysOf (xs.map fun e => (e.1, φ e))).Nodup := by
        simpa [keysOf, List.map_map, Function.comp_def] using hn
      simp only
      rw [sd_set_eq_map _ _ _ hk hn2, List.map_map]
      apply List.map_congr_left
      intro e he
      simp only [Function.comp_def]
      by_cases hek : (e.1 == q.1) = true
      · have hkk : e.1 = q.1 := by simpa using hek
        have : SD.get? xs e.1 = some e.2 := sd_get?_of_mem hn (by cases e; exact he)
        rw [hkk, hg] at this
        simp [hkk, Option.some.inj this]
      · have hek' : (e.1 == q.1) = false := by simpa using hek
        simp [hek']
  · have hq' : (q.2 == -1) = false := by simpa using hq
    simp [hq']

theorem psEff_fold (xs : SDict V) (hn : (keysOf xs).Nodup) :
    ∀ (Q : Dict) (φ : Key × V → V), Q.foldl (fun st q => psEff neg xs q st) (xs.map fun e => (e.1, φ e)) =
      xs.map fun e => (e.1, if Q.any (fun q => q.2 == -1 && e.1 == q.1) then neg e.2 else φ e) := by
  intro Q
  induction Q with
  | nil => intro φ; simp
  | cons q r ih =>
    intro φ
    simp only [List.foldl_cons]
    rw [psEff_step neg xs hn q φ, ih]
    apply List.map_congr_left
    intro e _
    simp only [List.any_cons]
    by_cases h1 : (q.2 == -1 && e.1 == q.1) = true <;> by_cases h2 : (r.any fun q => q.2 == -1 && e.1 == q.1) = true <;>
      simp [h1, h2]

theorem psSem_eq_syncSD (hneg : ∀ v, I tNeg [v] = neg v) (B : Bufs) (c : Content)
    (hn : (c.blocks.map (·.1)).Nodup) :
    psSem I d B c = syncSD neg (semDict I d B c.blocks) (c.phases.getD []) := by
  rw [psSem_fold I d neg hneg]
  have hn' : (keysOf (semDict I d B c.blocks)).Nodup := by rw [keysOf_semDict]; exact hn
  generalize semDict I d B c.blocks = xs at hn' ⊢
  have h := psEff_fold neg xs hn' (c.phases.getD []).reverse (fun e => e.2)
  have hid : xs.map (fun e => (e.1, e.2)) = xs := by simp
  rw [hid] at h
  rw [h]; simp only [syncSD, List.any_reverse]

end sync


section enc
variable (enc : Sector → Key)

/-- a value-model block list with its sector keys encoded -/
def encB {V : Type} (bl : List (Sector × V)) : SDict V := bl.map fun e => (enc e.1, e.2)

def InjOn (S : List Sector) : Prop := ∀ s ∈ S, ∀ t ∈ S, enc s = enc t → s = t

theorem alookup_enc {β : Type} {S : List Sector} (hinj : InjOn enc S) (l : List (Sector × β))
    (hl : ∀ e ∈ l, e.1 ∈ S) {s : Sector} (hs : s ∈ S) : alookup (encB enc l) (enc s) = alookup l s :=
  alookup_map_key enc hinj l hl hs

theorem syncSD_enc {R : Type} [Neg R] (A : Arr R) {S : List Sector} (hinj : InjOn enc S)
    (hb : ∀ e ∈ A.blocks, e.1 ∈ S) (hp : ∀ e ∈ A.phases, e.1 ∈ S) (hpn : (A.phases.map (·.1)).Nodup) :
    syncSD Blk.negK (encB enc A.blocks) (A.phases.map fun e => (enc e.1, e.2)) = encB enc A.phaseSync.blocks := by
  simp only [syncSD, encB, Arr.phaseSync, List.map_map]
  apply List.map_congr_left
  intro e he
  obtain ⟨s, b⟩ := e
  have hs : s ∈ S := hb (s, b) he
  have hcond : ((A.phases.map fun e => (enc e.1, e.2)).any fun q => q.2 == -1 && enc s == q.1) =
      (alookup A.phases s == some (-1)) := by
    rw [Bool.eq_iff_iff]
    simp only [List.any_map, List.any_eq_true, Function.comp_def, Bool.and_eq_true, beq_iff_eq]
    constructor
    · rintro ⟨⟨t, v⟩, hm, hv, hk⟩
      have ht : t ∈ S := hp (t, v) hm
      have : s = t := hinj s hs t ht hk
      subst this
      subst hv
      exact alookup_of_mem_nodup hpn hm
    · intro h
      exact ⟨(s, -1), alookup_some_mem h, rfl, rfl⟩
  simp only [Function.comp_def, hcond]
  split <;> rfl

end enc


section bb
variable {R : Type} {κ : Type} [BEq κ] (fn : Blk R → Blk R → Blk R)

def combF (y : List (κ × Blk R)) (e : κ × Blk R) : κ × Blk R :=
  match alookup y e.1 with | some b => (e.1, fn e.2 b) | none => (e.1, e.2)
def combFM (y : List (κ × Blk R)) (e : κ × Blk R) : Option (κ × Blk R) :=
  match alookup y e.1 with | some b => some (e.1, fn e.2 b) | none => none
def missP (x : List (κ × Blk R)) (e : κ × Blk R) : Bool := (alookup x e.1).isNone

theorem binaryBlockwise_def (m : SymmModel.Missing) (x y : List (κ × Blk R)) :
    binaryBlockwise fn m x y = (match m with
      | .strict => if x.any (missP y) then throw Err.value else if y.any (missP x) then throw Err.value
          else pure (x.map (combF fn y))
      | .outer => pure (x.map (combF fn y) ++ y.filter (missP x))
      | .inner => pure (x.filterMap (combFM fn y))) := by
  cases m <;> rfl

end bb

section enc2
variable (enc : Sector → Key) {R : Type} (fn : Blk R → Blk R → Blk R)

theorem binaryBlockwise_enc (m : SymmModel.Missing) {S : List Sector}
    (hinj : InjOn enc S) (x y : List (Sector × Blk R)) (hx : ∀ e ∈ x, e.1 ∈ S) (hy : ∀ e ∈ y, e.1 ∈ S) :
    binaryBlockwise fn m (encB enc x) (encB enc y) = (binaryBlockwise fn m x y).map (encB enc) := by
  have hal : ∀ (w : List (Sector × Blk R)), (∀ e ∈ w, e.1 ∈ S) → ∀ s ∈ S,
      alookup (w.map fun e => (enc e.1, e.2)) (enc s) = alookup w s :=
    fun w hw s hs => alookup_enc enc hinj w hw hs
  have hmapF : (encB enc x).map (combF fn (encB enc y)) = encB enc (x.map (combF fn y)) := by
    simp only [encB, List.map_map]
    apply List.map_congr_left
    intro e he
    simp only [Function.comp_def, combF, hal y hy _ (hx _ he)]
    cases alookup y e.1 <;> rfl
  have hany : ∀ (u w : List (Sector × Blk R)), (∀ e ∈ u, e.1 ∈ S) → (∀ e ∈ w, e.1 ∈ S) →
      (encB enc u).any (missP (encB enc w)) = u.any (missP w) := by
    intro u w hu hw
    simp only [encB, List.any_map]
    rw [Bool.eq_iff_iff]
    simp only [List.any_eq_true, Function.comp_def, missP]
    constructor <;> rintro ⟨e, he, h⟩ <;> refine ⟨e, he, ?_⟩
    · rwa [hal w hw _ (hu _ he)] at h
    · rwa [hal w hw _ (hu _ he)]
  have hfilt : (encB enc y).filter (missP (encB enc x)) = encB enc (y.filter (missP x)) := by
    simp only [encB, List.filter_map]
    congr 1
    apply List.filter_congr
    intro e he
    simp only [Function.comp_def, missP, hal x hx _ (hy _ he)]
  have hfm : (encB enc x).filterMap (combFM fn (encB enc y)) = encB enc (x.filterMap (combFM fn y)) := by
    simp only [encB, List.filterMap_map, List.map_filterMap]
    apply filterMap_congr_mem
    intro e he
    simp only [Function.comp_def, combFM, hal y hy _ (hx _ he)]
    cases alookup y e.1 <;> rfl
  rw [binaryBlockwise_def, binaryBlockwise_def]
  cases m with
  | strict =>
    simp only
    rw [hany x y hx hy, hany y x hy hx, hmapF]
    split
    · rfl
    · split <;> rfl
  | outer =>
    simp only
    rw [hmapF, hfilt]
    simp [encB, pure, Except.pure, Except.map]
  | inner =>
    simp only
    rw [hfm]
    rfl

end enc2


section rep
variable {R : Type} (enc : Sector → Key) (I : Nat → List (Blk R) → Blk R) (d : Blk R)

/-- the heap content `c` (buffers in table `B`) represents the value-model array `A`: the block dict
    denotes `A.blocks` and the sign dict is `A.phases`, sectors encoded as abstract keys, same order -/
structure Rep (B : Bufs) (c : Content) (A : Arr R) : Prop where
  blocks : semDict I d B c.blocks = encB enc A.blocks
  phases : c.phases.getD [] = A.phases.map fun e => (enc e.1, e.2)

theorem phaseSync_blocks_keys [Neg R] (A : Arr R) {S : List Sector} (hb : ∀ e ∈ A.blocks, e.1 ∈ S) :
    ∀ e ∈ A.phaseSync.blocks, e.1 ∈ S := by
  intro e he
  simp only [Arr.phaseSync, List.mem_map] at he
  obtain ⟨⟨s, b⟩, hm, rfl⟩ := he
  have := hb (s, b) hm
  split <;> exact this

theorem psSem_rep [Neg R] (hneg : ∀ v, I tNeg [v] = Blk.negK v) {B : Bufs} {c : Content} {A : Arr R}
    (rep : Rep enc I d B c A) (hn : (c.blocks.map (·.1)).Nodup) {S : List Sector} (hinj : InjOn enc S)
    (hb : ∀ e ∈ A.blocks, e.1 ∈ S) (hp : ∀ e ∈ A.phases, e.1 ∈ S) (hpn : (A.phases.map (·.1)).Nodup) :
    psSem I d B c = encB enc A.phaseSync.blocks := by
  rw [psSem_eq_syncSD I d Blk.negK hneg B c hn, rep.blocks, rep.phases]
  exact syncSD_enc enc A hinj hb hp hpn

end rep

/-- the sign dict (if the object has one) becomes `S.mapPhases` of the OLD block dict -/
theorem mapBlocks_pure (fk : Key → Key) (tag : Nat) (c : Content) (B : Bufs) :
    (S.mapBlocks fk tag).pure (c, B) =
      ({ c with blocks := (buildDictP B (c.blocks.map fun e => (fk e.1, .kern tag [e.2.toNat]))).2,
                phases := c.phases.map (S.mapPhases fk c.blocks) },
       (buildDictP B (c.blocks.map fun e => (fk e.1, .kern tag [e.2.toNat]))).1) := by
  obtain ⟨ci, cc, cb, cp, co⟩ := c
  cases cp <;> simp [S.mapBlocks, Script.pure, Act.pure, modifyP, newPd]

theorem dict_set_eq_ainsert (l : Dict) (k : Key) (v : Val) : Dict.set l k v = ainsert l k v := by
  have := mapV_set (fun v => v) l k v
  simp only [mapV, List.map_id'] at this
  rw [this, sd_set_eq_ainsert]

section sem
variable {V : Type} (I : Nat → List V → V) (d : V)

theorem buildEntriesP_ext (B : Bufs) (es : List (Key × BufSrc)) : ∃ X, (buildEntriesP B es).1 = B ++ X := by
  induction es generalizing B with
  | nil => exact ⟨[], by simp [buildEntriesP]⟩
  | cons e r ih =>
    obtain ⟨k, src⟩ := e
    cases src with
    | old b => simpa [buildEntriesP] using ih B
    | kern tag args =>
      obtain ⟨X, hX⟩ := ih (B ++ [(tag, args)])
      exact ⟨(tag, args) :: X, by simp [buildEntriesP, hX]⟩

theorem mapEntries_sem (fk : Key → Key) (tag : Nat) (bd : Dict) (B : Bufs) (hok : DictOK B.length bd) :
    semDict I d (buildEntriesP B (bd.map fun e => (fk e.1, .kern tag [e.2.toNat]))).1
        (buildEntriesP B (bd.map fun e => (fk e.1, .kern tag [e.2.toNat]))).2 =
      (semDict I d B bd).map fun e => (fk e.1, I tag [e.2]) := by
  induction bd generalizing B with
  | nil => rfl
  | cons e r ih =>
    obtain ⟨k, b⟩ := e
    have hb : b.toNat < B.length := hok (k, b) (List.mem_cons_self ..)
    have hr : DictOK (B ++ [(tag, [b.toNat])]).length r :=
      DictOK.mono (fun e he => hok e (List.mem_cons_of_mem _ he)) (by simp)
    have hr0 : DictOK B.length r := fun e he => hok e (List.mem_cons_of_mem _ he)
    have ih' := ih (B ++ [(tag, [b.toNat])]) hr
    obtain ⟨X, hX⟩ := buildEntriesP_ext (B ++ [(tag, [b.toNat])])
      (r.map fun e => (fk e.1, BufSrc.kern tag [e.2.toNat]))
    simp only [List.map_cons, buildEntriesP]
    simp only [semDict, mapV, List.map_cons] at ih' ⊢
    rw [ih']
    congr 1
    · rw [hX]
      have h1 : B.length < (B ++ [(tag, [b.toNat])]).length := by simp
      have : ((B.length : Int)).toNat = B.length := by simp
      rw [this, look_append_lt I d _ X h1, look_new]
      simp
    · have := semDict_append I d B [(tag, [b.toNat])] hr0
      simp only [semDict, mapV] at this
      rw [this]

theorem mapV_foldl_set (g : Val → V) (es : Dict) (acc : Dict) :
    mapV g (es.foldl (fun a e => Dict.set a e.1 e.2) acc) =
      (mapV g es).foldl (fun a e => ainsert a e.1 e.2) (mapV g acc) := by
  induction es generalizing acc with
  | nil => rfl
  | cons e r ih =>
    simp only [List.foldl_cons, mapV, List.map_cons] at ih ⊢
    rw [ih]
    have := mapV_set g acc e.1 e.2
    simp only [mapV, sd_set_eq_ainsert] at this
    rw [this]

end sem

section enc
variable (enc : Sector → Key) {V : Type}

theorem rekey_encB {S : List Sector} (hinj : InjOn enc S) (fs : Sector → Sector) (fk : Key → Key) (g : V → V)
    (Q : List (Sector × V)) (hfs : ∀ e ∈ Q, fs e.1 ∈ S) (hfk : ∀ e ∈ Q, fk (enc e.1) = enc (fs e.1)) :
    ((encB enc Q).map fun e => (fk e.1, g e.2)).foldl (fun a e => ainsert a e.1 e.2) [] =
      encB enc (adict (Q.map fun e => (fs e.1, g e.2))) := by
  have hl : (encB enc Q).map (fun e => (fk e.1, g e.2)) =
      (Q.map fun e => (fs e.1, g e.2)).map (fun p => (enc p.1, p.2)) := by
    simp only [encB, List.map_map]
    exact List.map_congr_left fun e he => by simp only [Function.comp_def, hfk e he]
  rw [hl]
  exact (foldl_ainsert_map_key enc hinj _
    (fun e he => by obtain ⟨q, hq, rfl⟩ := List.mem_map.mp he; exact hfs q hq) [] (by simp)).symm

end enc

section rep2
variable {R : Type} (enc : Sector → Key) (I : Nat → List (Blk R) → Blk R) (d : Blk R)

theorem has_rep {B : Bufs} {c : Content} {A : Arr R} (rep : Rep enc I d B c A) {Ss : List Sector}
    (hinj : InjOn enc Ss) (hb : ∀ e ∈ A.blocks, e.1 ∈ Ss) {s : Sector} (hs : s ∈ Ss) :
    Dict.has c.blocks (enc s) = (alookup A.blocks s).isSome := by
  rw [← has_mapV (fun v => look I d B v.toNat) c.blocks (enc s)]
  have := rep.blocks
  simp only [semDict] at this
  rw [this, sd_has_iff, alookup_enc enc hinj A.blocks hb hs]

/-- **the sign dict `_map_blocks` builds is the sign table of `Arr.mapBlocks`** (fermionic): only the
    entries of stored blocks are re-keyed.  The sectors of stale entries must be encoded injectively
    (to be told apart from stored ones) but nothing is asked of their images under `fs`. -/
theorem mapPhases_rep (fs : Sector → Sector) (fb : Blk R → Blk R) (fk : Key → Key) {B : Bufs} {c : Content}
    {A : Arr R} (rep : Rep enc I d B c A) (hf : A.fermi = true) {Ss : List Sector} (hinj : InjOn enc Ss)
    (hb : ∀ e ∈ A.blocks, e.1 ∈ Ss) (hbs : ∀ e ∈ A.blocks, fs e.1 ∈ Ss)
    (hbk : ∀ e ∈ A.blocks, fk (enc e.1) = enc (fs e.1)) (hp : ∀ e ∈ A.phases, e.1 ∈ Ss) :
    S.mapPhases fk c.blocks (c.phases.getD []) = (A.mapBlocks fs fb).phases.map fun e => (enc e.1, e.2) := by
  rw [rep.phases]
  have hfilt : (A.phases.map fun e => (enc e.1, e.2)).filter (fun e => Dict.has c.blocks e.1) =
      encB enc (A.phases.filter fun e => (alookup A.blocks e.1).isSome) := by
    simp only [encB, List.filter_map]
    congr 1
    apply List.filter_congr
    intro e he
    exact has_rep enc I d rep hinj hb (hp e he)
  have hQ : ∀ e ∈ A.phases.filter (fun e => (alookup A.blocks e.1).isSome), ∃ b, (e.1, b) ∈ A.blocks := by
    intro e he
    have h2 := (List.mem_filter.mp he).2
    obtain ⟨b, hb'⟩ := Option.isSome_iff_exists.mp h2
    exact ⟨b, alookup_some_mem hb'⟩
  have key := rekey_encB enc hinj fs fk (fun p : Int => p)
    (A.phases.filter fun e => (alookup A.blocks e.1).isSome)
    (fun e he => by obtain ⟨b, hm⟩ := hQ e he; exact hbs _ hm)
    (fun e he => by obtain ⟨b, hm⟩ := hQ e he; exact hbk _ hm)
  simp only [S.mapPhases, Dict.mapKeys, hfilt]
  simp only [Arr.mapBlocks, hf, if_true]
  simp only [List.foldl_map] at key
  simp only [dict_set_eq_ainsert]
  exact key

/-- `_map_blocks` on the heap is `Arr.mapBlocks` at the level of contents — block dict AND sign dict, stale
    sign entries (sectors without a stored block) being discarded on both sides. -/
theorem mapBlocks_rep (fs : Sector → Sector) (fb : Blk R → Blk R) (fk : Key → Key) (tag : Nat)
    (hI : ∀ b, I tag [b] = fb b) {B : Bufs} {c : Content} {A : Arr R} (rep : Rep enc I d B c A)
    (hok : DictOK B.length c.blocks) (hf : A.fermi = c.phases.isSome) {Ss : List Sector} (hinj : InjOn enc Ss)
    (hb : ∀ e ∈ A.blocks, e.1 ∈ Ss) (hbs : ∀ e ∈ A.blocks, fs e.1 ∈ Ss)
    (hbk : ∀ e ∈ A.blocks, fk (enc e.1) = enc (fs e.1)) (hp : ∀ e ∈ A.phases, e.1 ∈ Ss) :
    Rep enc I d ((S.mapBlocks fk tag).pure (c, B)).2 ((S.mapBlocks fk tag).pure (c, B)).1
      (A.mapBlocks fs fb) := by
  rw [mapBlocks_pure]
  refine ⟨?_, ?_⟩
  · simp only [buildDictP]
    have h0 := mapV_foldl_set (fun v => look I d
        (buildEntriesP B (c.blocks.map fun e => (fk e.1, BufSrc.kern tag [e.2.toNat]))).1 v.toNat)
      (buildEntriesP B (c.blocks.map fun e => (fk e.1, BufSrc.kern tag [e.2.toNat]))).2 []
    have h1 := mapEntries_sem I d fk tag c.blocks B hok
    simp only [semDict] at h0 h1 ⊢
    rw [h0, h1]
    have h2 := rep.blocks
    simp only [semDict] at h2
    rw [h2]
    have key := rekey_encB enc hinj fs fk fb A.blocks hbs hbk
    simp only [Arr.mapBlocks]
    rw [← key]
    simp only [mapV, List.map_nil, encB, List.map_map, Function.comp_def, hI]
  · cases hph : c.phases with
    | none =>
      have h2 := rep.phases
      rw [hph] at hf h2
      have hf' : A.fermi = false := by simpa using hf
      simp only [Option.map_none, Option.getD_none, Arr.mapBlocks, hf', Bool.false_eq_true, if_false] at h2 ⊢
      exact h2
    | some p =>
      rw [hph] at hf
      have hf' : A.fermi = true := by simpa using hf
      have := mapPhases_rep enc I d fs fb fk rep hf' hinj hb hbs hbk hp
      rw [hph] at this
      simpa using this

end rep2

theorem Script.pure_seq (s q : Script) (st : PState) : (s.seq q).pure st = q.pure (s.pure st) := by
  induction s generalizing st with
  | nil => rfl
  | acts as k ih => simp only [Script.seq, Script.pure]; exact ih _
  | read f ih => simp only [Script.seq, Script.pure]; exact ih _ _ _

theorem squeeze_pure (fk : Key → Key) (fi : Nat → Nat) (st : PState) :
    (S.squeeze fk fi).pure st =
      ({ ((S.mapBlocks fk tSlice).pure st).1 with indices := fi ((S.mapBlocks fk tSlice).pure st).1.indices },
       ((S.mapBlocks fk tSlice).pure st).2) := by
  simp [S.squeeze, Script.pure_seq, Script.pure, Act.pure, modifyP, newPd]

theorem expandDims_pure (fk : Key → Key) (fi : Nat → Nat) (fc : Int → Int) (st : PState) :
    (S.expandDims fk fi fc).pure st =
      ({ ((S.mapBlocks fk tSlice).pure st).1 with
           indices := fi ((S.mapBlocks fk tSlice).pure st).1.indices,
           charge := fc ((S.mapBlocks fk tSlice).pure st).1.charge },
       ((S.mapBlocks fk tSlice).pure st).2) := by
  simp [S.expandDims, Script.pure_seq, Script.pure, Act.pure, modifyP, newPd]

end SymmModel.Heap
