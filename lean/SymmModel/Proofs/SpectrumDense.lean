/-
  SymmModel.Proofs.SpectrumDense — the dense form of a rank-2 array as a matrix: its entries
  through the charge labelling of positions, and the block structure of a Hermitian-structured
  matrix (C12b).
-/
import SymmModel.Proofs.SpectrumAxis
import SymmModel.Proofs.LinalgMore
import SymmModel.Proofs.LinalgDense

namespace SymmModel

variable {R : Type}

def Blk.toMatrix [Zero R] (d : Blk R) (m n : Nat) : Matrix (Fin m) (Fin n) R :=
  fun i j => d.get [i.1, j.1]

/-- the `m × n` matrix of the elements of the sector `[r, c]` (pending sign included; the zero
    matrix when the sector is not stored) -/
def Arr.sectorMatrix [Zero R] [Neg R] (a : Arr R) (r c : Charge) (m n : Nat) :
    Matrix (Fin m) (Fin n) R :=
  fun i j => a.elem [r, c] [i.1, j.1]

namespace Spectrum

open LinalgLemmas

theorem dense_entry2 [Zero R] [Neg R] {a : Arr R} {i0 i1 : Index} (hi : a.indices = [i0, i1])
    {d : Blk R} (hd : a.toDenseA = .ok d) {p q : Nat} (hp : p < total (Index.sortCm i0.cm))
    (hq : q < total (Index.sortCm i1.cm)) :
    d.get [p, q]
      = a.elem [ofLex (chargeAt (Index.sortCm i0.cm) p), ofLex (chargeAt (Index.sortCm i1.cm) q)]
          [offsetAt (Index.sortCm i0.cm) p, offsetAt (Index.sortCm i1.cm) q] := by
  have hbox : inBox a.shape [p, q] = true := by
    simp only [Arr.shape, hi, List.map_cons, List.map_nil, Index.sizeTotal, inBox, Bool.and_true,
      Bool.and_eq_true, decide_eq_true_eq]
    rw [total, sumN_sortCm] at hp hq
    exact ⟨hp, hq⟩
  rw [(LinalgLemmas.toDenseA_get hd hbox).2]
  simp [Arr.locateAll, hi, locate_eq_of_lt hp, locate_eq_of_lt hq]

theorem sortCm_table {sym : Sym} {i : Index} (hw : i.wfB sym = true) :
    ((Index.sortCm i.cm).map (·.1)).Nodup ∧ (∀ c d, (c, d) ∈ Index.sortCm i.cm → 0 < d) :=
  ⟨sortCm_keys_nodup (wfB_keys_nodup hw),
   fun c d hm => ((wfB_cm hw).2 c d ((LinalgLemmas.sortCm_perm _).mem_iff.mp hm)).1⟩

/-! ### Hermitian-structured matrices: charge zero, opposite directions, equal charge tables -/
section Herm
variable [Zero R] [Neg R] {a : Arr R} {i0 i1 : Index} {d : Blk R}

theorem herm_entry (H : EighInput a) (hi : a.indices = [i0, i1]) (hd : a.toDenseA = .ok d)
    {p q : Nat} (hp : p < total (Index.sortCm i0.cm)) (hq : q < total (Index.sortCm i0.cm)) :
    d.get [p, q]
      = a.elem [ofLex (chargeAt (Index.sortCm i0.cm) p), ofLex (chargeAt (Index.sortCm i0.cm) q)]
          [offsetAt (Index.sortCm i0.cm) p, offsetAt (Index.sortCm i0.cm) q] := by
  have hcm : i0.cm = i1.cm := by simpa [hi] using H.hcm
  have := dense_entry2 hi hd hp (by rw [← hcm]; exact hq)
  rwa [← hcm] at this

/-- charge zero and opposite directions put every stored sector on the diagonal `[c, c]` (`eigh_block`),
    so the dense form vanishes between positions of different charges -/
theorem herm_blockDiag (H : EighInput a) (hi : a.indices = [i0, i1]) (hd : a.toDenseA = .ok d)
    {p q : Nat} (hp : p < total (Index.sortCm i0.cm)) (hq : q < total (Index.sortCm i0.cm))
    (hne : chargeAt (Index.sortCm i0.cm) p ≠ chargeAt (Index.sortCm i0.cm) q) :
    d.get [p, q] = 0 := by
  by_contra hnz
  rw [herm_entry H hi hd hp hq] at hnz
  obtain ⟨⟨s, b⟩, hm, hse⟩ := List.mem_map.mp (elem_ne_zero_mem hnz)
  obtain ⟨c, m, hsc, _⟩ := eigh_block H (s := s) (b := b) hm
  have hse' : [c, c]
      = [ofLex (chargeAt (Index.sortCm i0.cm) p), ofLex (chargeAt (Index.sortCm i0.cm) q)] :=
    hsc.symm.trans hse
  have e1 := (List.cons.inj hse').1
  have e2 := (List.cons.inj (List.cons.inj hse').2).1
  exact hne (ofLex.injective (e1.symm.trans e2))

end Herm

end Spectrum
end SymmModel
