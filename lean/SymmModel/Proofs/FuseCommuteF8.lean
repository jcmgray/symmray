/-
  SymmModel.Proofs.FuseCommuteF8 — fermionic contraction under the weak guard: every mode against
  blockwise mode (`tensordotF_every_mode`, from `C06.tensordotF_modes_agree_weak`).
  Namespace `SymmModel.TdotP`.
-/
import SymmModel.Proofs.FuseCommuteF7
import SymmModel.Props.C06d
namespace SymmModel
namespace TdotP
open SymmModel.KoszulP SymmModel.Lazy SymmModel.GradedP SymmModel.RoutesP SymmModel.AssocP SymmModel.C06
variable {R : Type}

/-- `C06.tensordotF_modes_agree_weak` stated against the blockwise call (`mode = blockwise` is the trivial
    case); the element equation ranges over EVERY address of the un-pruned result table box, stored or not. -/
theorem tensordotF_every_mode [AddCommMonoid R] [Mul R] [Neg R] [SignRing R]
    (hz1 : ∀ x : R, 0 * x = 0) (hz2 : ∀ x : R, x * 0 = 0) (a b : Arr R) (xa xb : List Nat)
    (h : AdmW a b xa xb) (mode : TdotMode) :
    (∀ e, a.tensordotF b (.pair (xa.map Int.ofNat) (xb.map Int.ofNat)) mode = .error e
        ↔ a.tensordotF b (.pair (xa.map Int.ofNat) (xb.map Int.ofNat)) .blockwise = .error e)
    ∧ ∀ rb, a.tensordotF b (.pair (xa.map Int.ofNat) (xb.map Int.ofNat)) .blockwise = .ok rb →
        ∃ rm, a.tensordotF b (.pair (xa.map Int.ofNat) (xb.map Int.ofNat)) mode = .ok rm
          ∧ rm.oddpos = rb.oddpos ∧ rm.charge = rb.charge ∧ rm.sym = rb.sym ∧ rm.fermi = rb.fermi
          ∧ rm.indices.length = rb.indices.length
          ∧ (∀ K V, alookup rm.blocks K = some V →
              Arr.blockShape? (without a.indices xa ++ without b.indices xb) K = some V.shape)
          ∧ ∀ K J, inBox (Arr.blockShapeD (without a.indices xa ++ without b.indices xb) K) J = true →
              rm.elem K J = rb.elem K J := by
  have key : ∀ m, (m = .fused ∨ m = .auto) →
      (∀ e, a.tensordotF b (.pair (xa.map Int.ofNat) (xb.map Int.ofNat)) m = .error e
          ↔ a.tensordotF b (.pair (xa.map Int.ofNat) (xb.map Int.ofNat)) .blockwise = .error e)
      ∧ ∀ rb, a.tensordotF b (.pair (xa.map Int.ofNat) (xb.map Int.ofNat)) .blockwise = .ok rb →
          ∃ rm, a.tensordotF b (.pair (xa.map Int.ofNat) (xb.map Int.ofNat)) m = .ok rm
            ∧ rm.oddpos = rb.oddpos ∧ rm.charge = rb.charge ∧ rm.sym = rb.sym ∧ rm.fermi = rb.fermi
            ∧ rm.indices.length = rb.indices.length
            ∧ (∀ K V, alookup rm.blocks K = some V →
                Arr.blockShape? (without a.indices xa ++ without b.indices xb) K = some V.shape)
            ∧ ∀ K J, inBox (Arr.blockShapeD (without a.indices xa ++ without b.indices xb) K) J = true →
                rm.elem K J = rb.elem K J := by
    intro m hm
    obtain ⟨E, K⟩ := tensordotF_modes_agree_weak hz1 hz2 a b xa xb h m hm
    cases hmo : OddposP.mergeOddpos a.parity a.oddpos b.oddpos with
    | error e0 =>
      obtain ⟨q1, q2⟩ := E e0 hmo
      exact ⟨fun e => (by rw [q1, q2]), fun rb hb => (by rw [q2] at hb; cases hb)⟩
    | ok r =>
      obtain ⟨rm, rb, q1, q2, f1, f2, f3, f4, f5, hsec, hshape, hel⟩ := K r hmo
      refine ⟨fun e => ?_, fun rb' hb => ?_⟩
      · rw [q1, q2]; constructor <;> intro c <;> cases c
      rw [q2] at hb
      obtain rfl := Except.ok.inj hb
      exact ⟨rm, q1, f1, f2, f3, f4, f5, hshape,
        fun K J hbox => elem_everywhere hsec hel K J (ownBox_of_table hshape K J hbox)⟩
  cases mode with
  | fused => exact key .fused (Or.inl rfl)
  | auto => exact key .auto (Or.inr rfl)
  | blockwise =>
    refine ⟨fun _ => Iff.rfl, fun rb hb => ⟨rb, hb, rfl, rfl, rfl, rfl, rfl, fun K V hK => ?_, fun _ _ _ => rfl⟩⟩
    obtain ⟨_, _, C⟩ := Call.of_ok h hb
    have h1 := Arr.shapesOk_of_validB C.valid (K, V) (alookup_some_mem hK)
    rw [C.indices] at h1
    exact blockShape?_weaken (dropUnused_sizeLe _ _) K V.shape h1

end TdotP
end SymmModel
