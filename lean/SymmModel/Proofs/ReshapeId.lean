/-
  SymmModel.Proofs.ReshapeId — which windows the planner's first loop asks about.
  `visits shape newshape B fuel i j`: the pairs (input axis, target position) at which the first loop,
  run with the sub-size table `B` from the loop state `(i, j)`, evaluates `unfuseMatch`.
  `mainLoop_agree`: two tables that answer alike AT THE VISITED PAIRS of one of them give the same run.
  `mainLoop_win_unfuses`: if a visited pair of the unfused run has a window match in the table `A`, the
  run with `A` takes the unfuse branch.
-/
import SymmModel.Proofs.ReshapeHd
namespace SymmModel.ReshapeI
open SymmModel SymmModel.Reshape SymmModel.C07 SymmModel.Reshape3 SymmModel.Reshape5 SymmModel.ReshapeH

/-- `fuseScan` without the label bookkeeping: `(di', i')` -/
def scanI (shape : List Nat) (dj : Nat) : Nat → Nat → Nat → Option (Nat × Nat)
  | 0, _, _ => none
  | fuel + 1, di, i =>
    if Nat.blt di dj then
      match shape[i]? with
      | none => none
      | some d => scanI shape dj fuel (di * d) (i + 1)
    else some (di, i)

theorem scanI_eq (shape : List Nat) (dj : Nat) (lbl : Lbl) :
    ∀ (fuel di i s : Nat) (term : List Lbl),
      scanI shape dj fuel di i = match fuseScan shape dj lbl fuel di i s term with
        | .ok r => some (r.1, r.2.1)
        | .error _ => none := by
  intro fuel
  induction fuel with
  | zero => intro di i s term; rfl
  | succ fuel ih =>
    intro di i s term
    simp only [scanI, fuseScan]
    by_cases hb : Nat.blt di dj = true
    · simp only [if_pos hb]
      cases shape[i]? with
      | none => rfl
      | some d => exact ih _ _ _ _
    · simp only [if_neg hb]; rfl

/-- the (input axis, target position) pairs at which the first loop asks the window question -/
def visits (shape newshape : List Nat) (B : List (Option (List Nat))) : Nat → Nat → Nat → List (Nat × Nat)
  | 0, _, _ => []
  | fuel + 1, i, j =>
    match shape[i]?, newshape[j]? with
    | some di, some dj =>
      match B[i]? with
      | none => []
      | some sub =>
        (i, j) ::
        (match unfuseMatch newshape j sub with
         | some subs => visits shape newshape B fuel (i + 1) (j + subs.length)
         | none =>
           if Nat.beq di dj then visits shape newshape B fuel (i + 1) (j + 1)
           else if Nat.beq di 1 then visits shape newshape B fuel (i + 1) j
           else if Nat.beq dj 1 then visits shape newshape B fuel i (j + 1)
           else if Nat.blt di dj then
             match scanI shape dj (shape.length + 1) di (i + 1) with
             | some (di', i') => if Nat.beq di' dj then visits shape newshape B fuel i' (j + 1) else []
             | none => []
           else [])
    | _, _ => []

/-- `visits` in terms of `Reshape.roundF` -/
theorem visits_succ (shape newshape : List Nat) (B : List (Option (List Nat))) (fuel : Nat) (st : RState) :
    visits shape newshape B (fuel + 1) st.i st.j =
      match shape[st.i]?, newshape[st.j]? with
      | some di, some dj =>
        match B[st.i]? with
        | none => []
        | some sub =>
          (st.i, st.j) :: match roundF shape newshape (unfuseMatch newshape st.j sub) di dj st with
            | .ok st1 => visits shape newshape B fuel st1.i st1.j
            | .error _ => []
      | _, _ => [] := by
  rw [visits]
  cases shape[st.i]? with
  | none => rfl
  | some di =>
    cases newshape[st.j]? with
    | none => rfl
    | some dj =>
      cases B[st.i]? with
      | none => rfl
      | some sub =>
        simp only [roundF, List.cons.injEq, true_and]
        cases hm : unfuseMatch newshape st.j sub with
        | some subs =>
          have hwin := (unfuseMatch_eq_some.mp hm).2
          simp only [(unfuseCheck_iff newshape subs 0 st.j st.k _ hwin).mpr rfl]
          rfl
        | none =>
          simp only []
          by_cases c1 : Nat.beq di dj = true
          · simp only [if_pos c1]; rfl
          · simp only [if_neg c1]
            by_cases c2 : Nat.beq di 1 = true
            · simp only [if_pos c2]; rfl
            · simp only [if_neg c2]
              by_cases c3 : Nat.beq dj 1 = true
              · simp only [if_pos c3]; rfl
              · simp only [if_neg c3]
                by_cases c4 : Nat.blt di dj = true
                · simp only [if_pos c4]
                  rw [scanI_eq shape dj (Lbl.g st.fuseSizes.length) _ _ _ 1
                    (st.term ++ [Lbl.g st.fuseSizes.length])]
                  cases fuseScan shape dj (Lbl.g st.fuseSizes.length) (shape.length + 1) di (st.i + 1) 1
                      (st.term ++ [Lbl.g st.fuseSizes.length]) with
                  | error e => rfl
                  | ok r =>
                    simp only []
                    cases c5 : Nat.beq r.1 dj <;> simp only [Bool.not_true, Bool.not_false, if_true,
                      Bool.false_eq_true, if_false] <;> rfl
                · simp only [if_neg c4]; rfl

theorem visits_next {shape newshape : List Nat} {B : List (Option (List Nat))} {st : RState} {a : Seg}
    (h : Next shape newshape B st a) (fuel : Nat) :
    visits shape newshape B (fuel + 1) st.i st.j
      = (st.i, st.j) :: visits shape newshape B fuel (after st a).i (after st a).j := by
  obtain ⟨di, dj, sub, hr, hround⟩ := h.round
  rw [visits_succ]
  simp only [hr.i, hr.j, hr.sub, (roundF_ok_iff hr.i_lt).mpr hround]

theorem visits_stop (shape newshape : List Nat) (B : List (Option (List Nat))) (fuel i j : Nat)
    (h : shape.length ≤ i) : visits shape newshape B fuel i j = [] := by
  cases fuel with
  | zero => rfl
  | succ f =>
    have := visits_succ shape newshape B f { i := i, j := j }
    simp only [List.getElem?_eq_none h] at this
    exact this

theorem mem_visits_run {shape newshape : List Nat} {B : List (Option (List Nat))} :
    ∀ (S : List Seg) (st : RState) (fuel : Nat), Run shape newshape B st S →
      shape.length ≤ (S.foldl after st).i →
      ∀ p ∈ visits shape newshape B fuel st.i st.j,
        ∃ P a R, S = P ++ a :: R ∧ p = ((P.foldl after st).i, (P.foldl after st).j) := by
  intro S
  induction S with
  | nil => intro st fuel _ hend p hp; rw [visits_stop _ _ _ _ st.i _ hend] at hp; cases hp
  | cons a S ih =>
    intro st fuel h hend p hp
    cases fuel with
    | zero => cases hp
    | succ f =>
      rw [visits_next h.1, List.mem_cons] at hp
      rcases hp with rfl | hp
      · exact ⟨[], a, S, rfl, rfl⟩
      · obtain ⟨P, b, R, rfl, rfl⟩ := ih (after st a) f h.2 hend p hp
        exact ⟨a :: P, b, R, rfl, rfl⟩

theorem mainLoop_agree (shape newshape : List Nat) (A B : List (Option (List Nat)))
    (hlen : A.length = B.length) :
    ∀ (fuel : Nat) (st : RState),
      (∀ p ∈ visits shape newshape B fuel st.i st.j,
        unfuseMatch newshape p.2 (A.getD p.1 none) = unfuseMatch newshape p.2 (B.getD p.1 none)) →
      mainLoop shape newshape A fuel st = mainLoop shape newshape B fuel st := by
  intro fuel
  induction fuel with
  | zero => intro st _; rw [mainLoop_zero_table shape newshape A B]
  | succ fuel ih =>
    intro st hvis
    rw [mainLoop_succ, mainLoop_succ]
    rw [visits_succ] at hvis
    cases h1 : shape[st.i]? with
    | none => rfl
    | some di =>
      cases h2 : newshape[st.j]? with
      | none => rfl
      | some dj =>
        rcases getElem?_both hlen st.i with ⟨hA, hB⟩ | ⟨sa, sb, hA, hB⟩
        · rw [hA, hB]
        · simp only [h1, h2, hA, hB, List.mem_cons, forall_eq_or_imp, List.getD_eq_getElem?_getD,
            Option.getD_some] at hvis ⊢
          rw [hvis.1]
          cases hR : roundF shape newshape (unfuseMatch newshape st.j sb) di dj st with
          | error e => rfl
          | ok st1 => rw [hR] at hvis; exact ih st1 hvis.2

theorem nones_getD (shape : List Nat) (i : Nat) : (nones shape).getD i none = none := by
  simp only [nones, List.getD_eq_getElem?_getD, List.getElem?_map]
  cases shape[i]? <;> rfl

theorem mainLoop_win_unfuses (shape newshape : List Nat) (A : List (Option (List Nat)))
    (hlen : A.length = shape.length) :
    ∀ (fuel : Nat) (st st' : RState),
      (∃ p ∈ visits shape newshape (nones shape) fuel st.i st.j,
        unfuseMatch newshape p.2 (A.getD p.1 none) ≠ none) →
      mainLoop shape newshape A fuel st = .ok st' → st'.unfuseSizes ≠ [] := by
  intro fuel
  induction fuel with
  | zero => intro st st' ⟨p, hp, _⟩ _; simp [visits] at hp
  | succ fuel ih =>
    intro st st' ⟨p, hp, hne⟩ h
    rw [visits_succ] at hp
    rw [mainLoop_succ] at h
    cases h1 : shape[st.i]? with
    | none => simp [h1] at hp
    | some di =>
      cases h2 : newshape[st.j]? with
      | none => simp [h1, h2] at hp
      | some dj =>
        have hi : st.i < shape.length := (List.getElem?_eq_some_iff.mp h1).1
        have hA : A[st.i]? = some (A[st.i]'(by omega)) := List.getElem?_eq_getElem (by omega)
        simp only [h1, h2, nones_getElem? shape st.i hi, hA, List.mem_cons] at hp h
        -- the unfused run asks with the answer `none`; so does the run with `A`, unless it unfuses
        cases hm : unfuseMatch newshape st.j (A[st.i]'(by omega)) with
        | some subs =>
          rw [hm] at h
          cases hR : roundF shape newshape (some subs) di dj st with
          | error e => rw [hR] at h; cases h
          | ok st1 =>
            rw [hR] at h
            refine mainLoop_us_mono _ _ _ _ _ _ ?_ h
            rw [← hm] at hR
            have := (roundF_ok_iff hi).mp hR
            rw [hm] at this
            cases this; simp
        | none =>
          rw [hm] at h
          rcases hp with rfl | hp
          · exact absurd (by simpa [List.getD_eq_getElem?_getD, hA] using hm) hne
          · have e : unfuseMatch newshape st.j none = none := rfl
            rw [e] at hp
            cases hR : roundF shape newshape none di dj st with
            | error e => rw [hR] at h; cases h
            | ok st1 => rw [hR] at h hp; exact ih st1 st' ⟨p, hp, hne⟩ h

/-- no window match at any pair the planner visits on `shape → newshape` (run as for an unfused
    input) -/
def noWinVisB (shape newshape : List Nat) (subsizes : List (Option (List Nat))) : Bool :=
  (visits shape newshape (nones shape) (shape.length + newshape.length) 0 0).all
    (fun p => (unfuseMatch newshape p.2 (subsizes.getD p.1 none)).isNone)

theorem planner_vis_nones (shape newshape : List Nat) (subsizes : List (Option (List Nat)))
    (hlen : shape.length = subsizes.length) (h : noWinVisB shape newshape subsizes = true) :
    calcReshapeArgs shape newshape subsizes = calcReshapeArgs shape newshape (nones shape) := by
  unfold calcReshapeArgs
  rw [mainLoop_agree shape newshape subsizes (nones shape) (by rw [nones_length, hlen]) _ {}]
  intro p hp
  simp only [noWinVisB, List.all_eq_true, Option.isNone_iff_eq_none] at h
  have e0 : ({} : RState).i = 0 := rfl
  have e1 : ({} : RState).j = 0 := rfl
  rw [e0, e1] at hp
  rw [h p hp, nones_getD]
  rfl

theorem planner_vis_unfuses (shape newshape : List Nat) (subsizes : List (Option (List Nat)))
    (hlen : shape.length = subsizes.length) (hw : noWinVisB shape newshape subsizes = false)
    (t : List Nat × List (List (List Nat)) × List Nat)
    (h : calcReshapeArgs shape newshape subsizes = .ok t) : t.1 ≠ [] := by
  have hex : ∃ p ∈ visits shape newshape (nones shape) (shape.length + newshape.length) 0 0,
      unfuseMatch newshape p.2 (subsizes.getD p.1 none) ≠ none := by
    simp only [noWinVisB, ← Bool.not_eq_true, List.all_eq_true, Option.isNone_iff_eq_none] at hw
    exact Classical.not_forall.mp hw |>.elim fun p hp => ⟨p, Classical.not_imp.mp hp⟩
  exact plan_unfuses_of_loop h fun st hst =>
    mainLoop_win_unfuses shape newshape subsizes hlen.symm _ {} st hex hst

end SymmModel.ReshapeI
