/-
  SymmModel.Proofs.Fuse9Fold — the relation through the whole right-to-left run of unfuse steps; the
  list of axes whose odd charges give the sign; `conjF` respects equality of value views.
-/
import SymmModel.Proofs.Fuse9Rel
import SymmModel.Proofs.Fuse6Order
namespace SymmModel
namespace FuseP
open SymmModel.Lazy SymmModel.KoszulP SymmModel.LinalgLemmas

variable {R : Type} [Zero R] [Neg R]

/-- unfuse the groups `g-1, …, 0` (last first) -/
def runR (groups : List (List Nat)) (pos : Nat) : Nat → Arr R → Except Err (Arr R)
  | 0, x => pure x
  | g + 1, x => do
    let x' ← (if multiB groups g then Arr.unfuseF x (pos + g) else pure x)
    runR groups pos g x'

theorem runR_eq (groups : List (List Nat)) (pos : Nat) (g : Nat) (x : Arr R) :
    runR groups pos g x
      = (List.range g).reverse.foldlM (fun x g => if multiB groups g then Arr.unfuseF x (pos + g) else pure x) x := by
  induction g generalizing x with
  | zero => rfl
  | succ g ih =>
    rw [List.range_succ, List.reverse_append, List.reverse_singleton, List.singleton_append, List.foldlM_cons]
    simp only [runR]
    congr 1
    funext x'
    exact ih x'

/-- the axes whose odd charges give the sign: at every multi-axis group the legs whose direction
    differs from the fused index, at their positions in the fully unfused array -/
def mmRec (idx : List Index) (groups : List (List Nat)) (pos : Nat) : Nat → List Nat → List Nat
  | 0, axes => axes
  | g + 1, axes =>
    if multiB groups g then
      match idx[pos + g]? with
      | some ix => match ix.sub with
        | some (subs, _) =>
          mmRec idx groups pos g
            ((mismatchLegs ix subs).map (fun t => pos + g + t) ++ axes.map (fun ax => ax + subs.length - 1))
        | none => mmRec idx groups pos g axes
      | none => mmRec idx groups pos g axes
    else mmRec idx groups pos g axes

section
variable [Conj R] [LawfulNegConj R]

theorem CRel.run (idx0 : List Index) (groups : List (List Nat)) (pos : Nat) :
    ∀ (g : Nat) (w z : Arr R) (axes : List Nat), CRel axes z w → (∀ ax ∈ axes, pos + g ≤ ax) →
      (∀ i, i < pos + g → w.indices[i]? = idx0[i]?) →
      (∀ g', g' < g → multiB groups g' = true →
        ∃ ix subs exts, idx0[pos + g']? = some ix ∧ ix.sub = some (subs, exts) ∧ 0 < subs.length) →
      ∃ w' z', runR groups pos g w = .ok w' ∧ runR groups pos g z = .ok z'
        ∧ CRel (mmRec idx0 groups pos g axes) z' w' := by
  intro g
  induction g with
  | zero => intro w z axes h _ _ _; exact ⟨w, z, rfl, rfl, h⟩
  | succ g ih =>
    intro w z axes h hax hkeep hfused
    cases hm : multiB groups g with
    | false =>
      have := ih w z axes h (fun ax hm' => by have := hax ax hm'; omega)
        (fun i hi => hkeep i (by omega)) (fun g' hg' => hfused g' (by omega))
      simpa only [runR, mmRec, hm, Bool.false_eq_true, if_false, bind, Except.bind, pure, Except.pure] using this
    | true =>
      obtain ⟨ix, subs, exts, hix0, hsub, hL⟩ := hfused g (by omega) hm
      have hix : w.indices[pos + g]? = some ix := by rw [hkeep (pos + g) (by omega)]; exact hix0
      obtain ⟨w1, z1, hw1, hz1, hw1i, hrel⟩ := h.step hix hsub hL (fun ax hm' => by have := hax ax hm'; omega)
      obtain ⟨w', z', hw', hz', hrel'⟩ := ih w1 z1 _ hrel
        (by
          intro ax hm'
          rcases List.mem_append.1 hm' with h1 | h1
          · obtain ⟨t, _, rfl⟩ := List.mem_map.1 h1; omega
          · obtain ⟨ax0, h0, rfl⟩ := List.mem_map.1 h1
            have := hax ax0 h0; omega)
        (by
          intro i hi
          rw [hw1i, getElem?_replace_before _ _ hi (getElem?_lt hix)]
          exact hkeep i (by omega))
        (fun g' hg' => hfused g' (by omega))
      refine ⟨w', z', ?_, ?_, ?_⟩
      · simp only [runR, hm, if_true, hw1, bind, Except.bind]; exact hw'
      · simp only [runR, hm, if_true, hz1, bind, Except.bind]; exact hz'
      · simp only [mmRec, hm, if_true, hix0, hsub]; exact hrel'

theorem conjF_veq {a b : Arr R} (h : VEq a b) (hva : a.validB = true) (hvb : b.validB = true)
    (hf : a.fermi = true) : VEq a.conjF b.conjF := by
  have hfb : b.fermi = true := by rw [← h.fermi]; exact hf
  have fa := conjF_frame a true false
  have fb := conjF_frame b true false
  refine ⟨by rw [fa.1, fb.1, h.sym], by rw [fa.2.1, fb.2.1, h.fermi], by rw [fa.2.2.1, fb.2.2.1, h.indices],
    by rw [fa.2.2.2.1, fb.2.2.2.1, h.sym, h.charge], by rw [fa.2.2.2.2.1, fb.2.2.2.2.1, h.oddpos], ?_⟩
  intro s off
  rw [conjF_elem a true false (SignOk.of_valid hva hf), conjF_elem b true false (SignOk.of_valid hvb hfb),
    conjTotSign_default, conjTotSign_default, h.elem]
  have hg : conjGlob a true = conjGlob b true := by simp only [conjGlob, h.sym, h.charge, h.oddpos]
  rw [hg, h.sym]

end

end FuseP
end SymmModel
