/-
  SymmModel.Proofs.RandLemmas — helper lemmas for the random constructors (Model/Rand.lean),
  used by Props/C16c.lean, and the Boolean guards `drawOkB`, `drawsOkB`, `modeOkB` that are the
  hypotheses of the C16c results.
-/
import SymmModel.Model.Rand
import SymmModel.Proofs.DenseLemmas
import SymmModel.Proofs.LinalgLemmas
import SymmModel.Proofs.ValidMore2Construct
import Mathlib.Data.List.ProdSigma
import SymmModel.Proofs.FuseAssoc

namespace SymmModel
namespace RandP
open Rand

theorem sumN_map_snd_zip {α : Type} (cs : List α) (ss : List Nat) (hl : ss.length ≤ cs.length) :
    sumN ((cs.zip ss).map (·.2)) = sumN ss := by
  rw [List.map_snd_zip hl]

theorem map_fst_zip_sublist {α β : Type} (cs : List α) (ss : List β) :
    ((cs.zip ss).map (·.1)).Sublist cs := by
  induction cs generalizing ss with
  | nil => simp
  | cons c cs ih =>
    cases ss with
    | nil => simp
    | cons s ss => simpa using ih ss

theorem mkIndex_wf {sym : Sym} {cs : List Charge} {ss : List Nat} (dual : Bool)
    (hnd : cs.Nodup) (hv : ∀ c ∈ cs, sym.valid c = true) (hp : ∀ s ∈ ss, 0 < s)
    (hl : ss.length ≤ cs.length) :
    Index.wfB sym (mkIndex cs ss dual) = true ∧ (mkIndex cs ss dual).sizeTotal = sumN ss
    ∧ (mkIndex cs ss dual).dual = dual ∧ (mkIndex cs ss dual).sub = none := by
  have hk : ((cs.zip ss).map (·.1)).Nodup := hnd.sublist (map_fst_zip_sublist cs ss)
  have hd : adict (cs.zip ss) = cs.zip ss := adict_of_nodup _ hk
  refine ⟨?_, ?_, rfl, rfl⟩
  · show Index.wfB sym (Index.mk (Index.sortCm (adict (cs.zip ss))) dual none) = true
    rw [hd]
    apply LinalgLemmas.wfB_plain
    · exact LinalgLemmas.sortCm_sorted hk
    · intro c n hm
      have hm' := mem_sortCm.mp hm
      have := List.of_mem_zip hm'
      exact ⟨hp n this.2, hv c this.1⟩
  · show sumN ((Index.sortCm (adict (cs.zip ss))).map (·.2)) = sumN ss
    rw [hd, sumN_sortCm, sumN_map_snd_zip cs ss hl]

theorem intRange_length (a b : Int) : (intRange a b).length = (b - a).toNat := by
  simp [intRange]

theorem intRange_nodup (a b : Int) : (intRange a b).Nodup := by
  unfold intRange
  refine List.Nodup.map ?_ List.nodup_range
  intro i j h
  simp only at h
  omega

theorem sumN_range_step (q r m : Nat) :
    sumN ((List.range m).map (fun i => q + (if i < r then 1 else 0))) = m * q + min m r := by
  induction m with
  | zero => simp [sumN]
  | succ m ih =>
    rw [List.range_succ, List.map_append, sumN_append, ih]
    simp only [List.map_cons, List.map_nil, sumN]
    split <;> rename_i h
    · rw [Nat.min_eq_left (by omega : m + 1 ≤ r), Nat.min_eq_left (by omega : m ≤ r)]
      rw [Nat.succ_mul]; omega
    · rw [Nat.min_eq_right (by omega : r ≤ m + 1), Nat.min_eq_right (by omega : r ≤ m)]
      rw [Nat.succ_mul]; omega

theorem equalSizes_spec {d nc : Nat} (h1 : 0 < nc) (h2 : nc ≤ d) :
    (equalSizes d nc).length = nc ∧ (∀ s ∈ equalSizes d nc, 0 < s) ∧ sumN (equalSizes d nc) = d := by
  refine ⟨by simp [equalSizes], ?_, ?_⟩
  · intro s hs
    simp only [equalSizes, List.mem_map, List.mem_range] at hs
    obtain ⟨i, _, rfl⟩ := hs
    have : 0 < d / nc := Nat.div_pos h2 h1
    omega
  · unfold equalSizes
    rw [sumN_range_step]
    have : d % nc < nc := Nat.mod_lt _ h1
    rw [Nat.min_eq_right (by omega)]
    exact Nat.div_add_mod d nc

theorem sumN_replicate (n k : Nat) : sumN (List.replicate n k) = n * k := by
  induction n with
  | zero => simp [sumN]
  | succ n ih => rw [List.replicate_succ, sumN, ih, Nat.succ_mul]; omega

theorem u1Charges_length (n : Nat) : (u1Charges n).length = n := by
  unfold u1Charges
  simp only [List.length_take, (isort_perm _ _).length_eq, intRange_length]
  omega

theorem u1Charges_nodup (n : Nat) : (u1Charges n).Nodup :=
  ((isort_perm _ _).nodup_iff.mpr (intRange_nodup _ _)).sublist (List.take_sublist _ _)

theorem u1Charges_spec (n : Nat) :
    ((u1Charges n).map (fun c => ((c, 0) : Charge))).length = n
    ∧ ((u1Charges n).map (fun c => ((c, 0) : Charge))).Nodup
    ∧ ∀ c ∈ (u1Charges n).map (fun c => ((c, 0) : Charge)), Sym.valid .U1 c = true := by
  refine ⟨by simp [u1Charges_length], ?_, ?_⟩
  · refine (u1Charges_nodup n).map ?_
    intro a b h
    exact (Prod.mk.inj h).1
  · intro c hc
    obtain ⟨x, _, rfl⟩ := List.mem_map.mp hc
    rfl

theorem u1u1_pool_length (k : Nat) :
    ((intRange (-(k : Int) + 1) ((k : Int) + 1)).flatMap
      (fun i => (intRange (-(k : Int) + 1) ((k : Int) + 1)).map (fun j => ((i, j) : Charge)))).length
      = (2 * k) * (2 * k) := by
  have h : ∀ (l : List Int), l.flatMap (fun i => l.map (fun j => ((i, j) : Charge))) = l ×ˢ l :=
    fun _ => rfl
  rw [h, List.length_product, intRange_length]
  have : ((k : Int) + 1 - (-(k : Int) + 1)).toNat = 2 * k := by omega
  rw [this]

theorem u1u1Charges_length (n : Nat) : (u1u1Charges n).length = n := by
  unfold u1u1Charges
  simp only [List.length_take, (isort_perm _ _).length_eq, u1u1_pool_length]
  apply Nat.min_eq_left
  have h1 := Nat.lt_succ_sqrt n
  rcases Nat.eq_zero_or_pos n with rfl | hn
  · exact Nat.zero_le _
  · have hk : 1 ≤ Nat.sqrt n := by
      rcases Nat.eq_zero_or_pos (Nat.sqrt n) with h0 | h0
      · rw [h0] at h1; simp at h1; omega
      · exact h0
    have : Nat.succ (Nat.sqrt n) ≤ 2 * Nat.sqrt n := by omega
    exact Nat.le_of_lt (Nat.lt_of_lt_of_le h1 (Nat.mul_le_mul this this))

theorem u1u1Charges_nodup (n : Nat) : (u1u1Charges n).Nodup := by
  unfold u1u1Charges
  refine ((isort_perm _ _).nodup_iff.mpr ?_).sublist (List.take_sublist _ _)
  have h : ∀ (l : List Int), l.flatMap (fun i => l.map (fun j => ((i, j) : Charge))) = l ×ˢ l :=
    fun _ => rfl
  rw [h]
  exact (intRange_nodup _ _).product (intRange_nodup _ _)

def diffs : List Int → List Nat
  | a :: b :: r => (b - a).toNat :: diffs (b :: r)
  | _ => []

theorem range_map_diffs : ∀ (sp : List Int) (n : Nat), sp.length = n + 1 →
    (List.range n).map (fun i => (sp.getD (i + 1) 0 - sp.getD i 0).toNat) = diffs sp
  | [], _, h => by simp at h
  | [a], n, h => by
    have : n = 0 := by simpa using h
    subst this; rfl
  | a :: b :: r, n, h => by
    obtain ⟨m, rfl⟩ : ∃ m, n = m + 1 := ⟨r.length, by simp at h; omega⟩
    rw [List.range_succ_eq_map, List.map_cons, List.map_map]
    have ih := range_map_diffs (b :: r) m (by simpa using h)
    simp only [diffs]
    rw [← ih]
    simp [Function.comp_def]

theorem diffs_spec : ∀ (sp : List Int), sp.Pairwise (· < ·) →
    (∀ x ∈ diffs sp, 0 < x) ∧ ((sumN (diffs sp) : Nat) : Int) = sp.getLast?.getD 0 - sp.head?.getD 0
  | [], _ => by simp [diffs, sumN]
  | [a], _ => by simp [diffs, sumN]
  | a :: b :: r, h => by
    have h' := List.pairwise_cons.mp h
    have hab : a < b := h'.1 b (by simp)
    obtain ⟨ih1, ih2⟩ := diffs_spec (b :: r) h'.2
    refine ⟨?_, ?_⟩
    · intro x hx
      simp only [diffs, List.mem_cons] at hx
      rcases hx with rfl | hx
      · omega
      · exact ih1 x hx
    · simp only [diffs, sumN, Int.natCast_add]
      rw [ih2]
      have : (a :: b :: r).getLast? = (b :: r).getLast? := by simp [List.getLast?_cons_cons]
      rw [this]
      simp only [List.head?_cons, Option.getD_some]
      omega

theorem diffs_getLast : ∀ (init : List Int) (d : Int), init ≠ [] → (∀ x ∈ init, x + 2 ≤ d) →
    2 ≤ (diffs (init ++ [d])).getLast?.getD 0
  | [], _, h, _ => absurd rfl h
  | [a], d, _, h => by
    have := h a (by simp)
    simp only [List.cons_append, List.nil_append, diffs, List.getLast?_singleton, Option.getD_some]
    omega
  | a :: b :: r, d, _, h => by
    have ih := diffs_getLast (b :: r) d (by simp) (fun x hx => h x (List.mem_cons_of_mem _ hx))
    show 2 ≤ ((b - a).toNat :: diffs ((b :: r) ++ [d])).getLast?.getD 0
    cases hds : diffs ((b :: r) ++ [d]) with
    | nil => rw [hds] at ih; simp at ih
    | cons x xs => rw [hds] at ih; rw [List.getLast?_cons_cons]; exact ih

/-- an admissible draw for `rand_partition(d, n)`: `n - 1` distinct values of `range(1, d - 1)` -/
def drawOkB (d n : Nat) (draw : List Nat) : Bool :=
  draw.length == n - 1 && allDistinct draw && draw.all (fun x => decide (1 ≤ x) && decide (x + 1 < d))

theorem randPartition_general {d n : Nat} {draw : List Nat} (hd : 0 < d) (hdn : d ≠ n) (hn : 0 < n)
    (hok : drawOkB d n draw = true) :
    ∃ parts, randPartition d n draw = .ok parts ∧ parts.length = n ∧ (∀ p ∈ parts, 0 < p)
      ∧ sumN parts = d ∧ 2 ≤ parts.getLast?.getD 0 := by
  simp only [drawOkB, Bool.and_eq_true, beq_iff_eq, List.all_eq_true, decide_eq_true_eq] at hok
  obtain ⟨⟨hlen, hdist⟩, hrange⟩ := hok
  have hnd := allDistinct_iff_nodup.mp hdist
  -- the population is large enough
  have hpop : ¬ (d - 2 < n - 1) := by
    intro hlt
    -- n - 1 distinct values in [1, d-2]
    have hsub : draw.Subperm ((List.range (d - 1)).tail) := by
      apply List.subperm_of_subset hnd
      intro x hx
      have := hrange x hx
      have hx' : x ∈ List.range (d - 1) := List.mem_range.mpr (by omega)
      cases hd : d - 1 with
      | zero => omega
      | succ m =>
        rw [hd] at hx'
        rw [List.range_succ_eq_map, List.tail_cons]
        rw [List.range_succ_eq_map] at hx'
        rcases List.mem_cons.mp hx' with h0 | h1
        · omega
        · exact h1
    have := hsub.length_le
    simp only [List.length_tail, List.length_range] at this
    omega
  let s := isort (fun a b => decide (a < b)) draw
  have hs_perm : s.Perm draw := isort_perm _ _
  have hs_sorted : s.Pairwise (fun x y => decide (x < y) = true) := by
    have := FuseP.isort_pairwise (α := Nat) (γ := Nat) id (fun a b => decide (a < b))
      (by intro a b c h1 h2; simp only [decide_eq_true_eq] at *; omega)
      (by intro a b; simp only [decide_eq_true_eq]; omega) draw (by simpa using hnd)
    exact this
  let sp : List Int := [(0 : Int)] ++ s.map (fun (x : Nat) => (x : Int)) ++ [(d : Int)]
  have hsp_len : sp.length = n + 1 := by
    simp only [sp, List.length_append, List.length_cons, List.length_nil, List.length_map,
      hs_perm.length_eq, hlen]
    omega
  have hsp_pw : sp.Pairwise (· < ·) := by
    simp only [sp, List.cons_append, List.nil_append]
    rw [List.pairwise_cons]
    refine ⟨?_, ?_⟩
    · intro x hx
      rcases List.mem_append.mp hx with hx | hx
      · obtain ⟨y, hy, rfl⟩ := List.mem_map.mp hx
        have := hrange y (hs_perm.mem_iff.mp hy)
        show (0 : Int) < (y : Int)
        omega
      · simp only [List.mem_cons, List.not_mem_nil, or_false] at hx
        subst hx
        show (0 : Int) < (d : Int)
        omega
    · rw [List.pairwise_append]
      refine ⟨?_, by simp, ?_⟩
      · rw [List.pairwise_map]
        refine hs_sorted.imp ?_
        intro a b hab
        simp only [decide_eq_true_eq] at hab
        show (a : Int) < (b : Int)
        omega
      · intro x hx y hy
        obtain ⟨z, hz, rfl⟩ := List.mem_map.mp hx
        simp only [List.mem_cons, List.not_mem_nil, or_false] at hy
        subst hy
        have := hrange z (hs_perm.mem_iff.mp hz)
        show (z : Int) < (d : Int)
        omega
  obtain ⟨hpos, hsum⟩ := diffs_spec sp hsp_pw
  have hres : randPartition d n draw = .ok (diffs sp) := by
    unfold randPartition
    have h1 : (d == n) = false := by simpa using hdn
    have h2 : (n == 0) = false := by simpa using (by omega : n ≠ 0)
    have h3 : (draw.length != n - 1) = false := by simp [hlen]
    simp only [h1, h2, hpop, h3, Bool.false_eq_true, if_false]
    show Except.ok _ = Except.ok _
    congr 1
    exact range_map_diffs sp n hsp_len
  have hlast : sp.getLast? = some (d : Int) := by
    show (([(0 : Int)] ++ s.map (fun (x : Nat) => (x : Int))) ++ [(d : Int)]).getLast? = _
    rw [List.getLast?_concat]
  have hhead : sp.head? = some (0 : Int) := by simp [sp]
  refine ⟨diffs sp, hres, ?_, hpos, ?_, ?_⟩
  · rw [← range_map_diffs sp n hsp_len]; simp
  · rw [hlast, hhead] at hsum
    simp only [Option.getD_some] at hsum
    omega
  · have := diffs_getLast ([(0 : Int)] ++ s.map (fun (x : Nat) => (x : Int))) (d : Int) (by simp) (by
      intro x hx
      rcases List.mem_append.mp hx with hx | hx
      · simp only [List.mem_cons, List.not_mem_nil, or_false] at hx
        subst hx; omega
      · obtain ⟨z, hz, rfl⟩ := List.mem_map.mp hx
        have := hrange z (hs_perm.mem_iff.mp hz)
        omega)
    exact this

/-- `rand_partition(d, n)` for `1 ≤ n ≤ d` and an admissible draw (none is needed when `d = n`) -/
theorem randPartition_spec {d n : Nat} {draw : List Nat} (hn : 0 < n) (hnd : n ≤ d)
    (hok : d = n ∨ drawOkB d n draw = true) :
    ∃ parts, randPartition d n draw = .ok parts ∧ parts.length = n ∧ (∀ p ∈ parts, 0 < p)
      ∧ sumN parts = d := by
  by_cases hdn : d = n
  · subst hdn
    refine ⟨List.replicate d 1, by simp [randPartition]; rfl, by simp, ?_, by simp [sumN_replicate]⟩
    intro p hp
    rw [(List.mem_replicate.mp hp).2]; exact Nat.one_pos
  · rcases hok with h | h
    · exact absurd h hdn
    · obtain ⟨parts, h1, h2, h3, h4, _⟩ := randPartition_general (by omega) hdn hn h
      exact ⟨parts, h1, h2, h3, h4⟩

theorem zipIdx_map_eq_zip {α : Type} (l : List α) (f : Nat → Nat) :
    l.zipIdx.map (fun (p : α × Nat) => (p.1, f p.2)) = l.zip ((List.range l.length).map f) := by
  apply List.ext_getElem
  · simp
  · intro i h1 h2
    simp

theorem map_pair_eq_zip {α : Type} (l : List α) (k : Nat) :
    l.map (fun c => (c, k)) = l.zip (List.replicate l.length k) := by
  induction l with
  | nil => rfl
  | cons a l ih => simp [List.replicate_succ, ih]

/-- admissible draws of `rand_*_index(d, subsizes=None)` -/
def drawsOkB (sym : Sym) (d : Nat) (dr : Draws) : Bool :=
  match sym with
  | .Z2 => if d == 1 then decide (dr.charge ≤ 1) else decide (1 ≤ dr.d0) && decide (dr.d0 < d)
  | .Z2Z2 =>
    if d < 4 then dr.charges.length == d && allDistinct dr.charges
      && dr.charges.all (fun c => possibleZ2Z2.contains c)
    else (d == 4 || drawOkB d 4 dr.splits)
  | .U1 => decide (1 ≤ dr.ncharge) && decide (dr.ncharge ≤ d)
      && (d == dr.ncharge || drawOkB d dr.ncharge dr.splits)
  | .U1U1 => decide (1 ≤ dr.ncharge) && decide (dr.ncharge ≤ d)
      && (d == dr.ncharge || drawOkB d dr.ncharge dr.splits)
  | .Z4 => false

/-- the deterministic modes, and the random mode with admissible draws -/
def modeOkB (sym : Sym) (d : Nat) (ss : Subsizes) (dr : Draws) : Bool :=
  match ss with
  | .equal => true
  | .maximal => true
  | .minimal => true
  | .random => drawsOkB sym d dr
  | .explicit _ => false

/-- what `chargeSizes` needs: a deterministic mode, or a drawn `ncharge` in `[1, d]` together
    with an admissible `rand_partition` draw -/
def SizesOk (d : Nat) (ss : Subsizes) (dr : Draws) : Prop :=
  match ss with
  | .equal => True
  | .maximal => True
  | .minimal => True
  | .random => 1 ≤ dr.ncharge ∧ dr.ncharge ≤ d ∧ (d = dr.ncharge ∨ drawOkB d dr.ncharge dr.splits = true)
  | .explicit _ => False

theorem chargeSizes_spec {nequal d : Nat} {ss : Subsizes} {dr : Draws} (hq : 0 < nequal) (hd : 0 < d)
    (hm : SizesOk d ss dr) :
    ∃ nc sizes, chargeSizes nequal d ss dr = .ok (nc, sizes) ∧ sizes.length = nc
      ∧ (∀ s ∈ sizes, 0 < s) ∧ sumN sizes = d := by
  cases ss with
  | equal =>
    have h1 : 0 < min d nequal := by omega
    have h2 : min d nequal ≤ d := Nat.min_le_left _ _
    obtain ⟨a, b, c⟩ := equalSizes_spec h1 h2
    exact ⟨_, _, rfl, a, b, c⟩
  | maximal =>
    refine ⟨_, _, rfl, by simp, ?_, by simp [sumN_replicate]⟩
    intro s hs; rw [(List.mem_replicate.mp hs).2]; exact Nat.one_pos
  | minimal =>
    refine ⟨_, _, rfl, rfl, ?_, by simp [sumN]⟩
    intro s hs; simp at hs; omega
  | random =>
    obtain ⟨h1, h2, h3⟩ := hm
    obtain ⟨parts, p1, p2, p3, p4⟩ := randPartition_spec (draw := dr.splits) h1 h2 h3
    refine ⟨dr.ncharge, parts, ?_, p2, p3, p4⟩
    simp only [chargeSizes, p1]
    rfl
  | explicit _ => exact absurd hm id

theorem blockLoop_spec (size : Nat) : ∀ (fuel d bs : Nat), d ≤ size → size - d ≤ fuel →
    (∀ b ∈ blockLoop size fuel d bs, 0 < b) ∧ sumN (blockLoop size fuel d bs) = size - d
  | 0, d, bs, h1, h2 => by
    have : d = size := by omega
    subst this
    simp [blockLoop, sumN]
  | fuel + 1, d, bs, h1, h2 => by
    unfold blockLoop
    by_cases hlt : d < size
    · simp only [hlt, if_true]
      have hb : 0 < min (max bs 1) (size - d) := by omega
      have hb2 : min (max bs 1) (size - d) ≤ size - d := Nat.min_le_right _ _
      obtain ⟨ih1, ih2⟩ := blockLoop_spec size fuel (d + min (max bs 1) (size - d))
        (min (max bs 1) (size - d)) (by omega) (by omega)
      refine ⟨?_, ?_⟩
      · intro b hb'
        rcases List.mem_cons.mp hb' with rfl | hb'
        · exact hb
        · exact ih1 b hb'
      · simp only [sumN, ih2]; omega
    · simp only [hlt, if_false]
      refine ⟨by simp, ?_⟩
      simp only [sumN]; omega

end RandP
end SymmModel
