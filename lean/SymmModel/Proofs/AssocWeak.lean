/-
  SymmModel.Proofs.AssocWeak — the weak guard of a contraction, towards S7 of property C04
  (associativity of `tensordotF`).

  The intermediate result of a contraction has PRUNED index tables (`dropUnused`), so the pair
  (A·B, C) is in general not `contractibleB` (equal charge tables).  `contractibleCommonB` asks only
  that matched legs have opposite directions and that their charge tables give the same size to
  every charge that BOTH list.  That is enough for what the refinement theorem uses of the guard: the
  operands handed to the abelian kernel are prepared copies with the graded sign (`prepared_pair_w`,
  from `GradedP.prepared_pair_of_duals`), and aligned sectors have equal contracted sizes
  (`shapes_match_w`).  A table with charges dropped (`Pruned`, what `dropUnused` produces) keeps the
  weak guard (`commonB_prune_left/right`) and is below the original in the order `TdotP.SizeLe`.
  `Proofs/Routes.lean` builds the structure of a call on this.
-/
import SymmModel.Proofs.Graded
import SymmModel.Proofs.TdotMore
import SymmModel.Proofs.SizeLe

namespace SymmModel
namespace AssocP
open TdotP GradedP
set_option linter.unusedSectionVars false

variable {R : Type}

/-- two charge tables give the same size to every charge listed in both -/
def cmAgree (c1 c2 : List (Charge × Nat)) : Bool :=
  c1.all (fun p => match alookup c2 p.1 with
    | some d => d == p.2
    | none => true)

/-- the weak precondition of a contraction: matched legs have opposite directions and their
    charge tables agree on the charges they have in common -/
def contractibleCommonB (a b : Arr R) (axesA axesB : List Nat) : Bool :=
  axesA.length == axesB.length
  && (axesA.zip axesB).all (fun p =>
      cmAgree (a.indices.getD p.1 default).cm (b.indices.getD p.2 default).cm
      && ((a.indices.getD p.1 default).dual != (b.indices.getD p.2 default).dual))

/-- guard of a contraction call with the weak precondition -/
def tdotAdmissibleCommonB (a b : Arr R) (axesA axesB : List Nat) : Bool :=
  decide (a.sym = b.sym) && contractibleCommonB a b axesA axesB
  && allDistinct axesA && allDistinct axesB
  && axesA.all (fun i => decide (i < a.ndim)) && axesB.all (fun i => decide (i < b.ndim))

theorem cmAgree_lookup {c1 c2 : List (Charge × Nat)} (h : cmAgree c1 c2 = true) {c : Charge}
    {d1 d2 : Nat} (h1 : alookup c1 c = some d1) (h2 : alookup c2 c = some d2) : d2 = d1 := by
  unfold cmAgree at h
  rw [List.all_eq_true] at h
  have := h (c, d1) (alookup_some_mem h1)
  simp only [h2, beq_iff_eq] at this
  exact this

theorem cmAgree_self {c : List (Charge × Nat)} (hn : (c.map (·.1)).Nodup) : cmAgree c c = true := by
  unfold cmAgree
  rw [List.all_eq_true]
  rintro ⟨k, d⟩ hp
  have : alookup c k = some d := alookup_of_mem (allDistinct_iff_nodup.mpr hn) hp
  simp [this]

theorem commonB_at {a b : Arr R} {xa xb : List Nat}
    (hc : contractibleCommonB a b xa xb = true) (j : Nat) (hj : j < xa.length) :
    cmAgree (a.indices.getD (xa.getD j 0) default).cm (b.indices.getD (xb.getD j 0) default).cm = true
      ∧ (b.indices.getD (xb.getD j 0) default).dual = !(a.indices.getD (xa.getD j 0) default).dual := by
  unfold contractibleCommonB at hc
  simp only [Bool.and_eq_true, beq_iff_eq, List.all_eq_true] at hc
  have := all_zip_at (f := fun p =>
    cmAgree (a.indices.getD p.1 default).cm (b.indices.getD p.2 default).cm
    && ((a.indices.getD p.1 default).dual != (b.indices.getD p.2 default).dual)) hc.1
    (by simpa using hc.2) j hj
  simp only [Bool.and_eq_true] at this
  exact ⟨this.1, eq_not_of_bne this.2⟩

theorem commonB_len {a b : Arr R} {xa xb : List Nat}
    (hc : contractibleCommonB a b xa xb = true) : xa.length = xb.length := by
  unfold contractibleCommonB at hc
  simp only [Bool.and_eq_true, beq_iff_eq] at hc
  exact hc.1

theorem commonB_nil (a b : Arr R) : contractibleCommonB a b [] [] = true := rfl

theorem commonB_congr {a a' b b' : Arr R} {xa xb : List Nat} (ha : a.indices = a'.indices)
    (hb : b.indices = b'.indices) :
    contractibleCommonB a' b' xa xb = contractibleCommonB a b xa xb := by
  unfold contractibleCommonB
  rw [ha, hb]

/-- the documented precondition implies the weak one; `ha` is there because a charge table agrees
    with itself (`cmAgree_self`) only when its charges are distinct -/
theorem commonB_of_contractibleB {a b : Arr R} {xa xb : List Nat} (ha : a.validB = true)
    (hA : ∀ i ∈ xa, i < a.ndim) (hc : ValidP.contractibleB a b xa xb = true) :
    contractibleCommonB a b xa xb = true := by
  unfold ValidP.contractibleB at hc
  unfold contractibleCommonB
  simp only [Bool.and_eq_true, beq_iff_eq, List.all_eq_true] at hc ⊢
  refine ⟨hc.1, fun p hp => ⟨?_, (hc.2 p hp).2⟩⟩
  rw [← (hc.2 p hp).1]
  apply cmAgree_self
  have hp1 : p.1 < a.indices.length := hA p.1 (List.of_mem_zip hp).1
  rw [List.getD_eq_getElem?_getD, List.getElem?_eq_getElem hp1]
  exact keys_nodup_of_validB ha _ (List.getElem_mem hp1)

theorem shapes_match_w {a b : Arr R} {xa xb : List Nat} (hsa : a.shapesOk) (hsb : b.shapesOk)
    (hc : contractibleCommonB a b xa xb = true)
    (hA : ∀ i ∈ xa, i < a.ndim) (hB : ∀ i ∈ xb, i < b.ndim) :
    ∀ sa ∈ a.sectors, ∀ sb ∈ b.sectors, permuted sb xb = permuted sa xa →
      permuted (Arr.blockShapeD b.indices sb) xb = permuted (Arr.blockShapeD a.indices sa) xa :=
  shapes_match_of hsa hsb (commonB_len hc)
    (fun j hj _ _ _ h1 h2 => cmAgree_lookup (commonB_at hc j hj).1 h1 h2) hA hB

/-- `ix'` is `ix` with some charges dropped -/
def Pruned (ix' ix : Index) : Prop :=
  ix'.dual = ix.dual ∧ ∃ f : Charge → Bool, ix'.cm = ix.cm.filter (fun p => f p.1)

theorem Pruned.refl (ix : Index) : Pruned ix ix := ⟨rfl, fun _ => true, by simp⟩

theorem dropTo_pruned (ix : Index) (P : List Charge) : Pruned (dropTo ix P) ix := by
  unfold dropTo
  simp only
  split
  · exact Pruned.refl ix
  · obtain ⟨c, d, s⟩ := ix
    exact ⟨rfl, fun k => !(List.filter (fun c => !P.contains c) (Index.mk c d s).charges).contains k, rfl⟩

theorem cmAgree_prune_left {c1 c2 : List (Charge × Nat)} (f : Charge → Bool)
    (h : cmAgree c1 c2 = true) : cmAgree (c1.filter (fun p => f p.1)) c2 = true := by
  unfold cmAgree at h ⊢
  rw [List.all_eq_true] at h ⊢
  intro p hp
  exact h p (List.mem_filter.mp hp).1

theorem cmAgree_prune_right {c1 c2 : List (Charge × Nat)} (f : Charge → Bool)
    (h : cmAgree c1 c2 = true) : cmAgree c1 (c2.filter (fun p => f p.1)) = true := by
  unfold cmAgree at h ⊢
  rw [List.all_eq_true] at h ⊢
  intro p hp
  rw [alookup_filter_key]
  have := h p hp
  by_cases hf : f p.1 = true
  · rw [if_pos hf]; exact this
  · rw [if_neg hf]

theorem commonB_iff {a b : Arr R} {xa xb : List Nat} :
    contractibleCommonB a b xa xb = true ↔ xa.length = xb.length ∧ ∀ j, j < xa.length →
      cmAgree (a.indices.getD (xa.getD j 0) default).cm (b.indices.getD (xb.getD j 0) default).cm = true
      ∧ (b.indices.getD (xb.getD j 0) default).dual = !(a.indices.getD (xa.getD j 0) default).dual := by
  constructor
  · intro h
    exact ⟨commonB_len h, fun j hj => commonB_at h j hj⟩
  · rintro ⟨hl, hall⟩
    unfold contractibleCommonB
    simp only [Bool.and_eq_true, beq_iff_eq, List.all_eq_true]
    refine ⟨hl, ?_⟩
    intro p hp
    obtain ⟨j, hj, hpj⟩ := List.mem_iff_getElem.mp hp
    have hj1 : j < xa.length := by simp at hj; omega
    have hj2 : j < xb.length := by simp at hj; omega
    have hp' : p = (xa[j], xb[j]) := by rw [← hpj, List.getElem_zip]
    have := hall j hj1
    simp only [List.getD_eq_getElem?_getD, List.getElem?_eq_getElem hj1, List.getElem?_eq_getElem hj2,
      Option.getD_some] at this
    rw [hp']
    refine ⟨this.1, ?_⟩
    simp only [List.getD_eq_getElem?_getD]
    rw [this.2]
    cases (a.indices[xa[j]]?.getD default).dual <;> rfl

theorem commonB_prune_left {a a' b : Arr R} {xa xa' xb : List Nat} (hl : xa'.length = xa.length)
    (hp : ∀ j, j < xa.length →
      Pruned (a'.indices.getD (xa'.getD j 0) default) (a.indices.getD (xa.getD j 0) default))
    (h : contractibleCommonB a b xa xb = true) : contractibleCommonB a' b xa' xb = true := by
  rw [commonB_iff] at h ⊢
  refine ⟨hl.trans h.1, fun j hj => ?_⟩
  obtain ⟨h1, h2⟩ := h.2 j (hl ▸ hj)
  obtain ⟨p1, f, p2⟩ := hp j (hl ▸ hj)
  rw [p1, p2]
  exact ⟨cmAgree_prune_left f h1, h2⟩

theorem commonB_prune_right {a b b' : Arr R} {xa xb xb' : List Nat} (hl : xb'.length = xb.length)
    (hp : ∀ j, j < xb.length →
      Pruned (b'.indices.getD (xb'.getD j 0) default) (b.indices.getD (xb.getD j 0) default))
    (h : contractibleCommonB a b xa xb = true) : contractibleCommonB a b' xa xb' = true := by
  rw [commonB_iff] at h ⊢
  refine ⟨h.1.trans hl.symm, fun j hj => ?_⟩
  obtain ⟨h1, h2⟩ := h.2 j hj
  obtain ⟨p1, f, p2⟩ := hp j (h.1 ▸ hj)
  rw [p1, p2]
  exact ⟨cmAgree_prune_right f h1, h2⟩

theorem dropUnused_getD_pruned (U : List Index) (S : List Sector) (i : Nat) (hi : i < U.length) :
    Pruned ((dropUnused U S).getD i default) (U.getD i default) := by
  rw [List.getD_eq_getElem?_getD, List.getD_eq_getElem?_getD, dropUnused_getElem?,
    List.getElem?_eq_getElem hi]
  exact dropTo_pruned _ _

theorem Pruned.sizeLe {ix' ix : Index} (h : Pruned ix' ix) : SizeLe ix' ix := by
  obtain ⟨hd, f, hf⟩ := h
  refine ⟨hd, fun c d hc => ?_⟩
  unfold Index.sizeOf? at hc ⊢
  rw [hf, alookup_filter_key] at hc
  split at hc
  · exact hc
  · cases hc

theorem _root_.SymmModel.TdotP.dropUnused_sizeLe (idx : List Index) (S : List Sector) :
    List.Forall₂ SizeLe (dropUnused idx S) idx := by
  rw [List.forall₂_iff_get]
  refine ⟨dropUnused_length _ _, fun i h1 h2 => ?_⟩
  have := dropUnused_getD_pruned idx S i h2
  rw [List.getD_eq_getElem?_getD, List.getD_eq_getElem?_getD, List.getElem?_eq_getElem h1,
    List.getElem?_eq_getElem h2] at this
  exact this.sizeLe

theorem _root_.SymmModel.Assoc3P.opposite_of_commonB {a b : Arr R} {xa xb : List Nat}
    (h : contractibleCommonB a b xa xb = true) : ValidP.oppositeDualsB a b xa xb = true := by
  unfold contractibleCommonB at h
  unfold ValidP.oppositeDualsB
  simp only [Bool.and_eq_true, List.all_eq_true] at h ⊢
  exact ⟨h.1, fun p hp => (h.2 p hp).2⟩

section main
variable [AddMonoid R] [Mul R] [Neg R] [SignRing R]
open Lazy (sgnI)

/-- `prepared_pair` under the weak precondition: it uses of the guard only the lengths and the
    opposite directions of matched legs -/
theorem prepared_pair_w (a b : Arr R) (xa xb : List Nat)
    (ha : a.validB = true) (hb : b.validB = true) (hfa : a.fermi = true) (hfb : b.fermi = true)
    (hsym : a.sym = b.sym) (hc : contractibleCommonB a b xa xb = true)
    (hnA : xa.Nodup) (hA : ∀ i ∈ xa, i < a.ndim) (hnB : xb.Nodup) (hB : ∀ i ∈ xb, i < b.ndim) :
    ∃ τA τB, Prepared a (ValidP.tdF34 a b xa xb).1.phaseSync (freeAxes a.ndim xa ++ xa) τA
      ∧ Prepared b (ValidP.tdF34 a b xa xb).2.phaseSync (xb ++ freeAxes b.ndim xb) τB
      ∧ ∀ sa ∈ a.sectors, ∀ sb ∈ b.sectors, permuted sb xb = permuted sa xa →
          τA sa * τB sb = gradedSign a b xa xb sa sb :=
  prepared_pair_of_duals a b xa xb ha hb hfa hfb hsym (commonB_len hc)
    (fun j hj => (commonB_at hc j hj).2) hnA hA hnB hB

/-- what the hypotheses of a call give, with the weak precondition -/
structure AdmW (a b : Arr R) (xa xb : List Nat) : Prop where
  va : a.validB = true
  vb : b.validB = true
  fa : a.fermi = true
  fb : b.fermi = true
  sym : a.sym = b.sym
  con : contractibleCommonB a b xa xb = true
  nA : xa.Nodup
  nB : xb.Nodup
  ltA : ∀ i ∈ xa, i < a.ndim
  ltB : ∀ i ∈ xb, i < b.ndim

theorem admW_iff {a b : Arr R} {xa xb : List Nat} :
    AdmW a b xa xb ↔ a.validB = true ∧ b.validB = true ∧ a.fermi = true ∧ b.fermi = true
      ∧ tdotAdmissibleCommonB a b xa xb = true := by
  unfold tdotAdmissibleCommonB
  simp only [Bool.and_eq_true, decide_eq_true_eq, allDistinct_iff_nodup, List.all_eq_true]
  exact ⟨fun W => ⟨W.va, W.vb, W.fa, W.fb, ⟨⟨⟨⟨⟨W.sym, W.con⟩, W.nA⟩, W.nB⟩, W.ltA⟩, W.ltB⟩⟩,
    fun ⟨ha, hb, hfa, hfb, ⟨⟨⟨⟨⟨hsym, hc⟩, hnA⟩, hnB⟩, hA⟩, hB⟩⟩ =>
      ⟨ha, hb, hfa, hfb, hsym, hc, hnA, hnB, hA, hB⟩⟩

theorem AdmW.of {a b : Arr R} {xa xb : List Nat} (ha : a.validB = true) (hb : b.validB = true)
    (hfa : a.fermi = true) (hfb : b.fermi = true) (hadm : tdotAdmissibleCommonB a b xa xb = true) :
    AdmW a b xa xb :=
  admW_iff.mpr ⟨ha, hb, hfa, hfb, hadm⟩

theorem _root_.SymmModel.Assoc3P.admW_toB {a b : Arr R} {xa xb : List Nat} (W : AdmW a b xa xb) :
    tdotAdmissibleCommonB a b xa xb = true :=
  (admW_iff.mp W).2.2.2.2

theorem AdmW.len {a b : Arr R} {xa xb : List Nat} (h : AdmW a b xa xb) : xa.length = xb.length :=
  commonB_len h.con

end main

end AssocP
end SymmModel
