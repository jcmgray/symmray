/-
  SymmModel.Proofs.Heap2Lemmas — the frame theorems of property C14 for ANY operation given as an
  `OpSpec` whose program obeys the ownership discipline (`Safe`), and for programs of such calls
  (`runG`): proved once for the union of the tables `Op` and `Op2`.

  One call is run under `Inv` with the call's targets as write sets (`spec_step`); a program of calls under
  `GInv`, which is `Inv` with empty write sets: such a program may write only what its own calls allocated,
  so an operand is written only if an earlier call of the program returned it (`GCallsOwned`).
-/
import SymmModel.Model.Heap2
import SymmModel.Proofs.HeapLemmas
namespace SymmModel.Heap

/-- ownership of the operand variables at the start of a call: exactly the targets -/
def OpSpec.flags (s : OpSpec) : List Bool := (List.range s.arity).map fun j => s.targets.contains j

/-- at the end, the returned objects are owned -/
def OpSpec.ResOwned (s : OpSpec) : List Bool → Prop := fun o' => ∀ r ∈ s.results, o'.getD r false = true

/-- the operation obeys the discipline: it mutates only through variables it owns (objects it has
    allocated, or the operands it is asked to modify) and returns owned objects -/
structure OpSpec.OK (s : OpSpec) : Prop where
  safe : Safe s.ResOwned s.flags s.prog
  tlt : ∀ j ∈ s.targets, j < s.arity

def OpSpec.targetObjs (s : OpSpec) (operands : List ObjId) : List ObjId := s.targets.map (envGet operands)

theorem envGet_take {l : List ObjId} {n j : Nat} (hj : j < n) : envGet (l.take n) j = envGet l j := by
  simp [envGet, List.getD, hj]

theorem map_envGet_range (l : List ObjId) : (List.range l.length).map (envGet l) = l := by
  apply List.ext_getElem
  · simp
  · intro i h1 _
    simp only [List.length_map, List.length_range] at h1
    simp [envGet, List.getD, List.getElem?_eq_getElem h1]

theorem OpSpec.flags_true {s : OpSpec} {j : Nat} (h : s.flags.getD j false = true) :
    j < s.arity ∧ j ∈ s.targets := by
  have hlt := getD_true_lt h
  simp only [OpSpec.flags, List.length_map, List.length_range] at hlt
  refine ⟨hlt, ?_⟩
  simp only [OpSpec.flags, List.getD, List.getElem?_map, List.getElem?_range hlt, Option.map_some,
    Option.getD_some, List.contains_iff_mem] at h
  exact h

theorem spec_step (s : OpSpec) (ok : s.OK) (h : Heap) (operands : List ObjId)
    (hn : s.arity ≤ operands.length) (htg : ∀ x ∈ s.targetObjs operands, x < h.size) :
    Step (· ∈ s.targetObjs operands) (· ∈ reachable h (s.targetObjs operands)) h (s.run h operands).1 ∧
    (∀ r ∈ (s.run h operands).2,
      Own h (· ∈ s.targetObjs operands) (· ∈ reachableDicts h (s.targetObjs operands)) (s.run h operands).1 r) ∧
    (∀ x ∈ s.targetObjs operands,
      Own h (· ∈ s.targetObjs operands) (· ∈ reachableDicts h (s.targetObjs operands)) (s.run h operands).1 x) := by
  have I0 : Inv h (· ∈ s.targetObjs operands) (· ∈ reachableDicts h (s.targetObjs operands))
      h (operands.take s.arity) s.flags := by
    refine ⟨Step.refl _ _ _, by simp [OpSpec.flags, Nat.min_eq_left hn], ?_⟩
    intro j hj
    obtain ⟨hlt, hmem⟩ := OpSpec.flags_true hj
    rw [envGet_take hlt]
    have hx : envGet operands j ∈ s.targetObjs operands := List.mem_map_of_mem hmem
    refine ⟨htg _ hx, Or.inr hx, fun d hd => Or.inr ?_⟩
    simp only [reachableDicts, List.mem_flatMap]
    exact ⟨_, hx, hd⟩
  obtain ⟨ext, e2, hq, he, I⟩ := safe_inv s.prog ok.safe I0
  refine ⟨I.step.mono (fun _ e => e) ?_, ?_, ?_⟩
  · intro i hi
    simp only [reachable, List.mem_flatMap, List.mem_cons]
    rcases hi with hi | hi
    · exact ⟨i, hi, Or.inl rfl⟩
    · simp only [reachableDicts, List.mem_flatMap] at hi
      obtain ⟨x, hx, hd⟩ := hi
      exact ⟨x, hx, Or.inr hd⟩
  · intro r hr
    simp only [OpSpec.run, List.mem_map] at hr
    obtain ⟨j, hj, rfl⟩ := hr
    exact I.own j (hq j hj)
  · intro x hx
    simp only [OpSpec.targetObjs, List.mem_map] at hx
    obtain ⟨j, hj, rfl⟩ := hx
    have hlt : j < s.arity := ok.tlt j hj
    have hfl : s.flags.getD j false = true := by
      simp only [OpSpec.flags, List.getD, List.getElem?_map, List.getElem?_range hlt, Option.map_some,
        Option.getD_some, List.contains_iff_mem]
      exact hj
    have hlen : j < s.flags.length := by simp [OpSpec.flags, hlt]
    have := I.own j (by rw [getD_append_left hlen]; exact hfl)
    rw [he] at this
    have hj' : j < (operands.take s.arity).length := by simp [Nat.min_eq_left hn, hlt]
    simpa [OpSpec.run, envGet, List.getD, List.getElem?_append_left hj', List.getElem?_take, hlt] using this

theorem spec_step_out (s : OpSpec) (ok : s.OK) (h : Heap) (operands : List ObjId)
    (hn : s.arity ≤ operands.length) (hout : s.targets = []) :
    Step Never Never h (s.run h operands).1 := by
  have htg : ∀ x ∈ s.targetObjs operands, x < h.size := by simp [OpSpec.targetObjs, hout]
  exact (spec_step s ok h operands hn htg).1.mono (by simp [OpSpec.targetObjs, hout])
    (by simp [OpSpec.targetObjs, hout, reachable])

theorem spec_frame_all (s : OpSpec) (ok : s.OK) (h : Heap) (operands : List ObjId)
    (hn : s.arity ≤ operands.length) (hout : s.targets = []) :
    ∀ i o, h.get? i = some o → (s.run h operands).1.get? i = some o := by
  intro i o ho
  exact (spec_step_out s ok h operands hn hout).same ho (fun e => e) (fun e => e)

theorem spec_result_objects_new (s : OpSpec) (ok : s.OK) (h : Heap) (operands : List ObjId)
    (hn : s.arity ≤ operands.length) (hout : s.targets = []) :
    ∀ r ∈ (s.run h operands).2, h.size ≤ r ∧ ∀ d ∈ dictsOf (s.run h operands).1 r, h.size ≤ d := by
  have htg : ∀ x ∈ s.targetObjs operands, x < h.size := by simp [OpSpec.targetObjs, hout]
  obtain ⟨_, ow, _⟩ := spec_step s ok h operands hn htg
  intro r hr
  have w := ow r hr
  refine ⟨?_, fun d hd => ?_⟩
  · rcases w.self with h1 | h1
    · exact h1
    · simp [OpSpec.targetObjs, hout] at h1
  · rcases w.dicts d hd with h1 | h1
    · exact h1
    · simp [OpSpec.targetObjs, hout, reachableDicts] at h1


/-- ownership discipline for a program of calls: whatever a call is asked to modify is an owned
    variable (a result of an earlier call); results of every call are owned afterwards -/
def GCallsOwned : List Bool → List GCall → Prop
  | _, [] => True
  | oo, c :: r => c.spec.OK ∧ c.spec.arity ≤ c.args.length ∧
      (∀ j ∈ c.spec.targets, oo.getD (c.args.getD j 0) false = true) ∧
      GCallsOwned (oo ++ List.replicate c.spec.results.length true) r

/-- the invariant of a program of calls: nothing that existed before the program may be written -/
abbrev GInv (h0 h : Heap) (env : Env) (oo : List Bool) : Prop := Inv h0 Never Never h env oo

theorem own_lift {h0 h h' : Heap} {WA WD : ObjId → Prop} {r : ObjId} (w : Own h WA WD h' r)
    (hs : h0.size ≤ h.size) (hA : ∀ x, WA x → h0.size ≤ x) (hD : ∀ d, WD d → h0.size ≤ d) :
    Own h0 Never Never h' r := by
  refine ⟨w.lt, ?_, fun d hd => ?_⟩
  · rcases w.self with h1 | h1
    · exact Or.inl (Nat.le_trans hs h1)
    · exact Or.inl (hA _ h1)
  · rcases w.dicts d hd with h1 | h1
    · exact Or.inl (Nat.le_trans hs h1)
    · exact Or.inl (hD _ h1)

theorem spec_run_results_length (s : OpSpec) (h : Heap) (operands : List ObjId) :
    (s.run h operands).2.length = s.results.length := by simp [OpSpec.run]

theorem gcall_inv {h0 h : Heap} {env : Env} {oo : List Bool} (c : GCall) (I : GInv h0 h env oo)
    (ok : c.spec.OK) (hn : c.spec.arity ≤ c.args.length)
    (ht : ∀ j ∈ c.spec.targets, oo.getD (c.args.getD j 0) false = true) :
    GInv h0 (c.spec.run h (c.args.map (envGet env))).1
      (env ++ (c.spec.run h (c.args.map (envGet env))).2)
      (oo ++ List.replicate c.spec.results.length true) := by
  have tgOwn : ∀ x ∈ c.spec.targetObjs (c.args.map (envGet env)), Own h0 Never Never h x := by
    intro x hx
    simp only [OpSpec.targetObjs, List.mem_map] at hx
    obtain ⟨j, hj, rfl⟩ := hx
    have hlt : j < c.args.length := Nat.lt_of_lt_of_le (ok.tlt j hj) hn
    have : envGet (c.args.map (envGet env)) j = envGet env (c.args.getD j 0) := by
      simp [envGet, List.getD, List.getElem?_map, List.getElem?_eq_getElem hlt]
    rw [this]; exact I.own _ (ht j hj)
  have fA : ∀ x, x ∈ c.spec.targetObjs (c.args.map (envGet env)) → h0.size ≤ x := by
    intro x hx
    rcases (tgOwn x hx).self with h1 | h1
    · exact h1
    · exact h1.elim
  have fD : ∀ d, d ∈ reachableDicts h (c.spec.targetObjs (c.args.map (envGet env))) → h0.size ≤ d := by
    intro d hd
    simp only [reachableDicts, List.mem_flatMap] at hd
    obtain ⟨x, hx, hd⟩ := hd
    rcases (tgOwn x hx).dicts d hd with h1 | h1
    · exact h1
    · exact h1.elim
  obtain ⟨st, ro, to⟩ := spec_step c.spec ok h (c.args.map (envGet env)) (by simpa using hn)
    (fun x hx => (tgOwn x hx).lt)
  refine ⟨I.step.trans st ?_ ?_, by simp [I.len, spec_run_results_length], ?_⟩
  · intro i hi hx
    have := fA i hx
    omega
  · intro i hi hx
    simp only [reachable, List.mem_flatMap, List.mem_cons] at hx
    obtain ⟨x, hx, hd⟩ := hx
    rcases hd with rfl | hd
    · have := fA i hx; omega
    · have := fD i (by simp only [reachableDicts, List.mem_flatMap]; exact ⟨x, hx, hd⟩)
      omega
  · intro j hj
    by_cases hlt : j < oo.length
    · rw [getD_append_left hlt] at hj
      have hlt' : j < env.length := I.len ▸ hlt
      have : envGet (env ++ (c.spec.run h (c.args.map (envGet env))).2) j = envGet env j := by
        simp [envGet, List.getD, List.getElem?_append_left hlt']
      rw [this]
      by_cases hm : envGet env j ∈ c.spec.targetObjs (c.args.map (envGet env))
      · exact own_lift (to _ hm) I.step.size fA fD
      · exact (I.own j hj).ext st hm
    · have hge : oo.length ≤ j := Nat.le_of_not_lt hlt
      obtain ⟨k, rfl⟩ : ∃ k, j = oo.length + k := ⟨j - oo.length, by omega⟩
      have hk : k < (c.spec.run h (c.args.map (envGet env))).2.length := by
        have := getD_true_lt hj
        simp only [List.length_append, List.length_replicate] at this
        rw [spec_run_results_length]; omega
      have : envGet (env ++ (c.spec.run h (c.args.map (envGet env))).2) (oo.length + k) =
          (c.spec.run h (c.args.map (envGet env))).2[k] := by
        simp [envGet, List.getD, I.len, List.getElem?_append_right, List.getElem?_eq_getElem hk]
      rw [this]
      exact own_lift (ro _ (List.getElem_mem hk)) I.step.size fA fD

theorem gcalls_inv {h0 : Heap} (cs : List GCall) :
    ∀ {h : Heap} {env : Env} {oo : List Bool}, GCallsOwned oo cs → GInv h0 h env oo →
      ∃ oo', GInv h0 (runG cs h env).1 (runG cs h env).2 oo' := by
  induction cs with
  | nil => intro h env oo _ I; exact ⟨oo, I⟩
  | cons c r ih =>
    intro h env oo hc I
    obtain ⟨ok, hn, ht, hr⟩ := hc
    exact ih hr (gcall_inv c I ok hn ht)

theorem gprog_frame (cs : List GCall) (h : Heap) (env : Env)
    (hcs : GCallsOwned (List.replicate env.length false) cs) :
    ∀ i o, h.get? i = some o → (runG cs h env).1.get? i = some o := by
  obtain ⟨oo', I⟩ := gcalls_inv cs hcs (Inv.start_out h env)
  intro i o ho
  exact I.step_never.same ho (fun e => e) (fun e => e)

theorem g_result_mutation_safe (s : OpSpec) (ok : s.OK) (h : Heap) (operands : List ObjId)
    (hn : s.arity ≤ operands.length) (hout : s.targets = []) (cs : List GCall)
    (hcs : GCallsOwned (List.replicate operands.length false ++ List.replicate s.results.length true) cs) :
    ∀ i o, h.get? i = some o →
      (runG cs (s.run h operands).1 (operands ++ (s.run h operands).2)).1.get? i = some o := by
  have I1 := gcall_inv (h0 := h) ⟨s, List.range operands.length⟩ (Inv.start_out h operands) ok
    (by simpa using hn) (by simp [hout])
  simp only [map_envGet_range] at I1
  obtain ⟨oo', I2⟩ := gcalls_inv cs hcs I1
  intro i o ho
  exact I2.step_never.same ho (fun e => e) (fun e => e)

theorem runG_append (cs1 cs2 : List GCall) (h : Heap) (env : Env) :
    runG (cs1 ++ cs2) h env = runG cs2 (runG cs1 h env).1 (runG cs1 h env).2 := by
  induction cs1 generalizing h env with
  | nil => rfl
  | cons c r ih => simp only [List.cons_append, runG]; exact ih _ _


theorem OpSpec.resOwned_of_all {s : OpSpec} {o : List Bool}
    (h : s.results.all (fun r => o.getD r false) = true) : s.ResOwned o :=
  fun r hr => List.all_eq_true.mp h r hr

theorem Safe.syncCopyK {Q : List Bool → Prop} {o : List Bool} {n : Nat} (hn : o.length = n) {src : Nat}
    {k : Prog} (hk : Safe Q (o ++ [true]) k) : Safe Q o (syncCopyK src n k) :=
  ⟨rfl, Safe.script (by rw [← hn]; exact getD_append_len o true) hk⟩

/-- Each program is followed command by command: `⟨_, _⟩` is one command (its ownership condition, then
    the rest), `fun _ =>` a read; at `.done` the final flags are concrete and `resOwned_of_all rfl`
    evaluates them. -/
theorem op2_ok (op : Op2) : op.spec.OK := by
  refine ⟨?_, fun _ h => nomatch h⟩
  cases op with
  | observe n => exact OpSpec.resOwned_of_all rfl
  | getParams | construct _ _ _ _ _ => exact ⟨rfl, OpSpec.resOwned_of_all rfl⟩
  | reduceF => exact safe_syncedK rfl _ _ _ (OpSpec.resOwned_of_all rfl) (OpSpec.resOwned_of_all rfl)
  | toDenseF => exact Safe.syncCopyK rfl (OpSpec.resOwned_of_all rfl)
  | allcloseF => exact Safe.syncCopyK rfl (Safe.syncCopyK rfl (OpSpec.resOwned_of_all rfl))
  | traceF flip =>
    cases flip with
    | none => exact Safe.syncCopyK rfl (OpSpec.resOwned_of_all rfl)
    | some odd => exact ⟨rfl, Safe.script rfl (Safe.syncCopyK rfl (OpSpec.resOwned_of_all rfl))⟩
  | clipA tag => exact ⟨rfl, Safe.script rfl (OpSpec.resOwned_of_all rfl)⟩
  | clipF tag =>
    refine safe_syncedK rfl _ _ _ ?_ ?_ <;>
      exact ⟨rfl, Safe.script rfl (OpSpec.resOwned_of_all rfl)⟩
  | einsumA p scalar =>
    cases scalar with
    | true => exact OpSpec.resOwned_of_all rfl
    | false => exact fun _ => ⟨rfl, OpSpec.resOwned_of_all rfl⟩
  | einsumF fk fi sg p scalar =>
    refine ⟨rfl, Safe.script rfl (Safe.script rfl ?_)⟩
    cases scalar with
    | true => exact OpSpec.resOwned_of_all rfl
    | false => exact fun _ => ⟨rfl, OpSpec.resOwned_of_all rfl⟩
  | matmulF flip tdot oddFlip oddpos scalar =>
    have tail : ∀ b : Bool, Safe (Op2.spec (.matmulF flip tdot oddFlip oddpos scalar)).ResOwned [false, false, b]
        (syncCopyK 0 3 <| syncCopyK 2 4 <| tdotBlockwiseK 3 4 tdot <| .read fun v =>
          (S.resolveOddpos (oddFlip (v.at 3) (v.at 4)) (oddpos (v.at 3) (v.at 4))).prog 5 [] <|
          if scalar then S.phaseSync.prog 5 [] .done else .done) := by
      intro b
      refine Safe.syncCopyK rfl (Safe.syncCopyK rfl ((safe_tdotBlockwiseK 3 4 tdot _).mpr fun _ => Safe.script rfl ?_))
      cases scalar with
      | true => exact Safe.script rfl (OpSpec.resOwned_of_all rfl)
      | false => exact OpSpec.resOwned_of_all rfl
    cases flip with
    | none => exact ⟨rfl, tail _⟩
    | some odd => exact ⟨rfl, Safe.script rfl (tail _)⟩
  | fromFill i c f o keys => exact ⟨rfl, Safe.actsK rfl (OpSpec.resOwned_of_all rfl)⟩

end SymmModel.Heap
