/-
  SymmModel.Proofs.Assoc2Left — S7 of property C04 with `A–C` legs: the canonical three-operand
  form for a triangle (`S3`, `W3`), and the geometry and sign bookkeeping of the intermediate
  result `A·B` on route `(A·B)·C`.
-/
import SymmModel.Proofs.Assoc2Sum

namespace SymmModel
namespace Assoc2P
open TdotP GradedP RoutesP KoszulP AssocP
open Lazy (sgnI)
set_option linter.unusedSectionVars false

variable {R : Type}

/-- axes of `A·B` contracted with `C` on route `(A·B)·C`: the images of `A`'s legs `xa3`, then of
    `B`'s legs `xb2` (matched with `xc3 ++ xc2`) -/
def axesAB (nA nB : Nat) (xa1 xa3 xb1 xb2 : List Nat) : List Nat :=
  positions (freeAxes nA xa1) xa3
    ++ (positions (freeAxes nB xb1) xb2).map ((freeAxes nA xa1).length + ·)

/-- axes of `B·C` contracted with `A` on route `A·(B·C)`: the images of `B`'s legs `xb1`, then of
    `C`'s legs `xc3` (matched with `xa1 ++ xa3`) -/
def axesBC (nB nC : Nat) (xb1 xb2 xc2 xc3 : List Nat) : List Nat :=
  positions (freeAxes nB xb2) xb1
    ++ (positions (freeAxes nC xc2) xc3).map ((freeAxes nB xb2).length + ·)

/-- the hypotheses on the three operands and their three bonds -/
structure Tri (A B C : Arr R) (xa1 xa3 xb1 xb2 xc2 xc3 : List Nat)
    [AddMonoid R] [Mul R] [Neg R] [SignRing R] : Prop where
  hAB : Adm A B xa1 xb1
  hBC : Adm B C xb2 xc2
  mA : Mid A.ndim xa1 xa3
  mB : Mid B.ndim xb1 xb2
  mC : Mid C.ndim xc2 xc3
  conAC : ValidP.contractibleB A C xa3 xc3 = true

/-- the sign of a stored sector triple in the three-operand graded contraction of a triangle -/
def S3 (A B C : Arr R) (xa1 xa3 xb1 xb2 xc2 xc3 : List Nat) (t : Sector × Sector × Sector) : Int :=
  koszul (A.parities t.1) (some ((freeAxes A.ndim (xa1 ++ xa3)) ++ xa1 ++ xa3))
    * koszul (B.parities t.2.1) (some (xb1 ++ (freeAxes B.ndim (xb1 ++ xb2)) ++ xb2))
    * koszul (C.parities t.2.2) (some (xc2 ++ xc3 ++ (freeAxes C.ndim (xc2 ++ xc3))))
    * sgn (oddCount (A.parities t.1) xa3 * oddCount (B.parities t.2.1) (freeAxes B.ndim (xb1 ++ xb2)))
    * sgn (tri (oddContracted A xa1 t.1 + oddContracted A xa3 t.1))
    * sgn (tri (oddContracted B xb2 t.2.1))
    * sgn (ketOdd A xa1 t.1 + ketOdd A xa3 t.1 + ketOdd B xb2 t.2.1)

/-- the plain three-operand contraction of a stored sector triple at the free offsets -/
def W3 [AddMonoid R] [Mul R] [Neg R] (A B C : Arr R) (xa1 xa3 xb1 xb2 xc2 xc3 : List Nat)
    (oA oM oC : List Nat) (t : Sector × Sector × Sector) : R :=
  ((allIdx (permuted (Arr.blockShapeD A.indices t.1) xa1)).map (fun k1 =>
    ((allIdx (permuted (Arr.blockShapeD B.indices t.2.1) xb2)).map (fun k2 =>
      ((allIdx (permuted (Arr.blockShapeD A.indices t.1) xa3)).map (fun k3 =>
        A.elem t.1 (mergeIdx 0 A.ndim (xa1 ++ xa3) (freeAxes A.ndim (xa1 ++ xa3)) (k1 ++ k3) oA)
          * (B.elem t.2.1 (mergeIdx 0 B.ndim (xb1 ++ xb2) (freeAxes B.ndim (xb1 ++ xb2)) (k1 ++ k2) oM)
            * C.elem t.2.2 (mergeIdx 0 C.ndim (xc2 ++ xc3) (freeAxes C.ndim (xc2 ++ xc3)) (k2 ++ k3) oC)))).sum)).sum)).sum

/-- the stored sector triples of route `(A·B)·C`, in visiting order -/
def triplesL (A B C AB : Arr R) (xa1 xa3 xb1 xb2 xc2 xc3 : List Nat) (s : Sector) :
    List (Sector × Sector × Sector) :=
  (storedPairs AB C (freeAxes AB.ndim (axesAB A.ndim B.ndim xa1 xa3 xb1 xb2)) (axesAB A.ndim B.ndim xa1 xa3 xb1 xb2) (xc3 ++ xc2) (freeAxes C.ndim (xc3 ++ xc2)) s).flatMap (fun p =>
    (storedPairs A B (freeAxes A.ndim xa1) xa1 xb1 (freeAxes B.ndim xb1) p.1).map (fun q => (q.1, q.2, p.2)))

/-- the free address of the final result: lengths and boxes in terms of the ORIGINAL operands -/
structure FreeAddr (A B C : Arr R) (xa1 xa3 xb1 xb2 xc2 xc3 : List Nat) (LA LM LC : Sector)
    (oA oM oC : List Nat) : Prop where
  lA : LA.length = (freeAxes A.ndim (xa1 ++ xa3)).length
  lM : LM.length = (freeAxes B.ndim (xb1 ++ xb2)).length
  loA : oA.length = (freeAxes A.ndim (xa1 ++ xa3)).length
  loM : oM.length = (freeAxes B.ndim (xb1 ++ xb2)).length
  loC : oC.length = (freeAxes C.ndim (xc2 ++ xc3)).length
  bA : inBox (Arr.blockShapeD (permuted A.indices (freeAxes A.ndim (xa1 ++ xa3))) LA) oA = true
  bM : inBox (Arr.blockShapeD (permuted B.indices (freeAxes B.ndim (xb1 ++ xb2))) LM) oM = true
  bC : inBox (Arr.blockShapeD (permuted C.indices (freeAxes C.ndim (xc2 ++ xc3))) LC) oC = true

section geomL
variable {nA nB : Nat} {xa1 xa3 xb1 xb2 : List Nat} {α : Type}

theorem axesAB_len (hA : Mid nA xa1 xa3) (hB : Mid nB xb1 xb2) :
    (axesAB nA nB xa1 xa3 xb1 xb2).length = xa3.length + xb2.length := by
  unfold axesAB; rw [List.length_append, List.length_map, hA.pos_len, hB.pos_len]

theorem axesAB_nodup (hA : Mid nA xa1 xa3) (hB : Mid nB xb1 xb2) :
    (axesAB nA nB xa1 xa3 xb1 xb2).Nodup := by
  unfold axesAB
  refine List.nodup_append.mpr ⟨hA.pos_nodup, hB.pos_nodup.map (fun x y hxy => by omega), ?_⟩
  intro x hx y hy e
  obtain ⟨z, _, rfl⟩ := List.mem_map.mp hy
  have := hA.pos_lt x hx
  omega

theorem axesAB_lt (hA : Mid nA xa1 xa3) (hB : Mid nB xb1 xb2) :
    ∀ i ∈ axesAB nA nB xa1 xa3 xb1 xb2, i < (freeAxes nA xa1).length + (freeAxes nB xb1).length := by
  intro i hi
  unfold axesAB at hi
  rcases List.mem_append.mp hi with h | h
  · have := hA.pos_lt i h; omega
  · obtain ⟨p, hp, rfl⟩ := List.mem_map.mp h
    have := hB.pos_lt p hp; omega

theorem readAB_ax (hA : Mid nA xa1 xa3) (hB : Mid nB xb1 xb2) (y z : List α) (hy : y.length = nA)
    (hz : z.length = nB) :
    permuted (permuted y (freeAxes nA xa1) ++ permuted z (freeAxes nB xb1))
        (axesAB nA nB xa1 xa3 xb1 xb2)
      = permuted y xa3 ++ permuted z xb2 := by
  have hl : (permuted y (freeAxes nA xa1)).length = (freeAxes nA xa1).length :=
    permuted_length _ _ (by rw [hy]; exact hA.flt)
  unfold axesAB
  have := permuted_two (permuted y (freeAxes nA xa1)) (permuted z (freeAxes nB xb1))
    (positions (freeAxes nA xa1) xa3) (positions (freeAxes nB xb1) xb2) (by rw [hl]; exact hA.pos_lt)
  rw [hl] at this
  rw [this, hA.read_ax y hy, hB.read_ax z hz]

theorem readAB_free (hA : Mid nA xa1 xa3) (hB : Mid nB xb1 xb2) (y z : List α) (hy : y.length = nA)
    (hz : z.length = nB) :
    permuted (permuted y (freeAxes nA xa1) ++ permuted z (freeAxes nB xb1))
        (freeAxes ((freeAxes nA xa1).length + (freeAxes nB xb1).length) (axesAB nA nB xa1 xa3 xb1 xb2))
      = permuted y (freeAxes nA (xa1 ++ xa3)) ++ permuted z (freeAxes nB (xb1 ++ xb2)) := by
  have hl : (permuted y (freeAxes nA xa1)).length = (freeAxes nA xa1).length :=
    permuted_length _ _ (by rw [hy]; exact hA.flt)
  have hl2 : (permuted z (freeAxes nB xb1)).length = (freeAxes nB xb1).length :=
    permuted_length _ _ (by rw [hz]; exact hB.flt)
  unfold axesAB
  have := permuted_two_free (permuted y (freeAxes nA xa1)) (permuted z (freeAxes nB xb1))
    (positions (freeAxes nA xa1) xa3) (positions (freeAxes nB xb1) xb2) (by rw [hl]; exact hA.pos_lt)
  rw [hl, hl2] at this
  rw [this, hA.read_free y hy, hB.read_free z hz]

theorem freeAB_len (hA : Mid nA xa1 xa3) (hB : Mid nB xb1 xb2) :
    (freeAxes ((freeAxes nA xa1).length + (freeAxes nB xb1).length) (axesAB nA nB xa1 xa3 xb1 xb2)).length
      = (freeAxes nA (xa1 ++ xa3)).length + (freeAxes nB (xb1 ++ xb2)).length := by
  unfold axesAB
  rw [freeAxes_two _ _ _ _ hA.pos_lt, List.length_append, List.length_map, hA.free_len, hB.free_len]

end geomL

section signs

theorem oddCount_permuted (par : List Bool) (F p : List Nat) (hF : ∀ i ∈ F, i < par.length)
    (hp : ∀ i ∈ p, i < F.length) :
    oddCount (permuted par F) p = oddCount par (permuted F p) := by
  unfold oddCount
  rw [permuted_eq_map F p hp 0, List.filter_map, List.length_map]
  congr 1
  apply List.filter_congr
  intro j hj
  have hjl := hp j hj
  simp only [Function.comp]
  rw [isOdd_permuted par F hF j hjl, List.getD_eq_getElem?_getD, List.getElem?_eq_getElem hjl]
  rfl

theorem oddCount_par (a : Arr R) (s : Sector) (x : List Nat) (hx : ∀ i ∈ x, i < s.length) :
    oddCount (a.parities s) x = oddContracted a x s := by
  unfold Arr.parities oddContracted
  exact oddCount_parities a.sym s x hx

theorem oddContracted_append (a : Arr R) (x y : List Nat) (s : Sector) :
    oddContracted a (x ++ y) s = oddContracted a x s + oddContracted a y s := by
  unfold oddContracted
  rw [permuted_append, List.filter_append, List.length_append]

theorem ketOdd_append (a : Arr R) (x y : List Nat) (s : Sector) :
    ketOdd a (x ++ y) s = ketOdd a x s + ketOdd a y s := by
  unfold ketOdd
  rw [List.filter_append, List.filter_append, List.length_append]

end signs

section signL
variable [AddMonoid R] [Mul R] [Neg R] [SignRing R]
variable {A B C AB : Arr R} {xa1 xa3 xb1 xb2 xc2 xc3 : List Nat} {ph : Int}

theorem pos_getD {n : Nat} {ax1 ax2 : List Nat} (h : Mid n ax1 ax2) (j : Nat) (hj : j < ax2.length) :
    (positions (freeAxes n ax1) ax2).getD j 0 < (freeAxes n ax1).length
      ∧ (freeAxes n ax1).getD ((positions (freeAxes n ax1) ax2).getD j 0) 0 = ax2.getD j 0 :=
  (AssocP.axesAB_getD (nA := 0) (xa := []) h j hj).2

theorem ketOdd_AB_left (I : Inter A B xa1 xb1 AB ph) (h : Mid A.ndim xa1 xa3)
    (sa sb : Sector) (hsa : sa.length = A.ndim) :
    ketOdd AB (positions (freeAxes A.ndim xa1) xa3) (permuted sa (freeAxes A.ndim xa1) ++ permuted sb (freeAxes B.ndim xb1)) = ketOdd A xa3 sa := by
  unfold ketOdd
  have hl := h.pos_len
  have eL : (positions (freeAxes A.ndim xa1) xa3) = (List.range xa3.length).map (fun j => (positions (freeAxes A.ndim xa1) xa3).getD j 0) := by
    have := list_eq_map_getD (positions (freeAxes A.ndim xa1) xa3)
    rwa [hl] at this
  have eR := list_eq_map_getD xa3
  rw [eL]
  conv => rhs; rw [eR]
  apply count_two_maps
  intro j hj
  obtain ⟨e2, e3⟩ := pos_getD h j hj
  have hp := I.leg_left _ e2
  rw [e3] at hp
  rw [hp.1, I.sym]
  refine ⟨rfl, ?_⟩
  have hlen : (permuted sa (freeAxes A.ndim xa1)).length = (freeAxes A.ndim xa1).length :=
    permuted_length _ _ (by intro x hx; rw [hsa]; exact (mem_freeAxes.mp hx).1)
  rw [List.getD_eq_getElem?_getD, List.getElem?_append_left (by rw [hlen]; exact e2),
    ← List.getD_eq_getElem?_getD, getD_permuted_ax sa _ (by rw [hsa]; exact h.flt) _ e2, e3]

end signL

section valueL
variable [AddCommMonoid R] [Mul R] [Neg R] [SignRing R] [AssocLaws R]
variable {A B C AB : Arr R} {xa1 xa3 xb1 xb2 xc2 xc3 : List Nat} {ph : Int}

theorem left_split (I : Inter A B xa1 xb1 AB ph) (hA : Mid A.ndim xa1 xa3) (hB : Mid B.ndim xb1 xb2)
    {LA LM LC X : Sector} (lA : LA.length = (freeAxes A.ndim (xa1 ++ xa3)).length) (lM : LM.length = (freeAxes B.ndim (xb1 ++ xb2)).length)
    {sa sb : Sector} (hsa : sa.length = A.ndim) (hsb : sb.length = B.ndim)
    (hs : permuted (permuted sa (freeAxes A.ndim xa1) ++ permuted sb (freeAxes B.ndim xb1)) (freeAxes AB.ndim (axesAB A.ndim B.ndim xa1 xa3 xb1 xb2)) ++ X = LA ++ LM ++ LC) :
    permuted sa (freeAxes A.ndim (xa1 ++ xa3)) = LA ∧ permuted sb (freeAxes B.ndim (xb1 ++ xb2)) = LM ∧ X = LC := by
  have hlA : (permuted sa (freeAxes A.ndim (xa1 ++ xa3))).length = (freeAxes A.ndim (xa1 ++ xa3)).length :=
    permuted_length _ _ (by intro x hx; rw [hsa]; exact (mem_freeAxes.mp hx).1)
  have hlM : (permuted sb (freeAxes B.ndim (xb1 ++ xb2))).length = (freeAxes B.ndim (xb1 ++ xb2)).length :=
    permuted_length _ _ (by intro x hx; rw [hsb]; exact (mem_freeAxes.mp hx).1)
  rw [I.ndim, readAB_free hA hB sa sb hsa hsb] at hs
  obtain ⟨e1, e2⟩ := List.append_inj hs (by
    rw [List.length_append, List.length_append, hlA, hlM, lA, lM])
  obtain ⟨e3, e4⟩ := List.append_inj e1 (by rw [hlA, lA])
  exact ⟨e3, e4, e2⟩

end valueL

end Assoc2P
end SymmModel
