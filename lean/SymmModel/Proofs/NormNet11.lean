/-
  SymmModel.Proofs.NormNet11 — network form of the norm (property C10):
  what the four sequential bracketings `((ā·b̄)·a)·b`, `ā·(b̄·(a·b))`, `((a·b)·ā)·b̄`, `a·(b·(ā·b̄))` use
  about the two contracted halves (`NetSetup`); and the operand-swapped network.
-/
import SymmModel.Proofs.NormNet10
namespace SymmModel.NormNet
open SymmModel SymmModel.GradedP SymmModel.RoutesP
open SymmModel.AssocP
set_option linter.unusedSectionVars false

section setup
variable {R : Type} [AddCommMonoid R] [Mul R] [Neg R] [Conj R] [NetLaws R] [AssocLaws R]

/-- everything the sequential routes use about the two halves.  `lrS1 … lrS4`: the `LabelRoutes`
    hypothesis of S7 for the operand triple of the sequential route S1 `(K̄, a, b)`, S2 `(ā, b̄, K)`,
    S3 `(K, ā, b̄)`, S4 `(a, b, K̄)` -/
structure NetSetup (a b K Kb r r' : Arr R) (xa xb : List Nat) : Prop
    extends Halves a b K Kb r r' xa xb where
  Ks : K.sym = a.sym
  Kbs : Kb.sym = a.sym
  Kbi : Kb.indices = K.indices.map Index.conj
  Kp : K.parity = xor a.parity b.parity
  Kbp : Kb.parity = xor a.parity b.parity
  Kbo : Kb.oddpos = Arr.oddposDag K.oddpos
  lrS1 : Assoc2P.LabelRoutes (xor a.parity b.parity) a.parity (Arr.oddposDag K.oddpos)
    a.oddpos b.oddpos
  lrS2 : Assoc2P.LabelRoutes a.parity b.parity (Arr.oddposDag a.oddpos) (Arr.oddposDag b.oddpos)
    K.oddpos
  lrS3 : Assoc2P.LabelRoutes (xor a.parity b.parity) a.parity
    K.oddpos (Arr.oddposDag a.oddpos) (Arr.oddposDag b.oddpos)
  lrS4 : Assoc2P.LabelRoutes a.parity b.parity a.oddpos b.oddpos (Arr.oddposDag K.oddpos)

end setup

section routes
variable {R : Type} [AddCommMonoid R] [Mul R] [Neg R] [Conj R] [NetLaws R] [AssocLaws R]

theorem ndim0_of {c r : Arr R} (h : c.indices = r.indices) (hr : r.ndim = 0) : c.ndim = 0 := by
  unfold Arr.ndim at hr ⊢; rw [h]; exact hr

end routes

section swapnet
variable {R : Type}

theorem adm_swap [AddMonoid R] [Mul R] [Neg R] [SignRing R] {a b : Arr R} {xa xb : List Nat}
    (h : Adm a b xa xb) : Adm b a xb xa :=
  ⟨h.vb, h.va, h.fb, h.fa, h.sym.symm, contractibleB_swap h.con, h.nB, h.nA, h.ltB, h.ltA⟩

theorem admB_swap [AddMonoid R] [Mul R] [Neg R] [SignRing R] {a b : Arr R} {xa xb : List Nat}
    (ha : a.validB = true) (hb : b.validB = true) (hfa : a.fermi = true) (hfb : b.fermi = true)
    (hadm : ValidP.tdotAdmissibleB a b xa xb = true) :
    ValidP.tdotAdmissibleB b a xb xa = true := by
  have h' := adm_swap (Adm.of ha hb hfa hfb hadm)
  exact ValidP.tdotAdmissibleB_iff.mpr ⟨h'.sym, h'.con, h'.nA, h'.nB, h'.ltA, h'.ltB⟩

theorem labels_swap {oA oB : List (Int × Bool)}
    (hd : (oA ++ oB).Pairwise (fun x y => x.1 ≠ y.1)) :
    (oB ++ oA).Pairwise (fun x y => x.1 ≠ y.1) :=
  OddposP.LabelsDistinct.perm (l := oA ++ oB) hd List.perm_append_comm

end swapnet

end SymmModel.NormNet
