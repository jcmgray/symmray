/-
  SymmModel.Proofs.Assoc5Tree — bracketings of a chain in which ANY subset of nodes has its operands
  exchanged (each swapped contraction followed by the transposition that rotates the two free blocks
  back, Koszul sign included): the result is equivalent to the unswapped bracketing.
-/
import SymmModel.Proofs.Assoc5Swap

namespace SymmModel
namespace Assoc5P
open TdotP GradedP RoutesP OddposP AssocP Assoc3P Assoc4P

variable {R : Type}

/-- a bracketing with a flag at every node: `true` = pass the operands in the other order -/
inductive FTree (R : Type) where
  | leaf (S : Seg R) : FTree R
  | node (sw : Bool) (a b : FTree R) : FTree R

def FTree.strip : FTree R → STree R
  | .leaf S => .leaf S
  | .node _ a b => .node a.strip b.strip

/-- the swapped composition: `S2.arr · S1.arr` on the same bond, then rotate the free legs of `S1`
    back in front (`transposeF`, which multiplies by the Koszul sign of the rotation) -/
def compS [Zero R] [Add R] [Mul R] [Neg R] (S1 S2 : Seg R) : Except Err (Seg R) :=
  (tdF S2.arr S1.arr S2.l S1.r).map (fun z =>
    ⟨z.transposeF (rotB (freeAxes S2.arr.ndim S2.l).length (freeAxes S1.arr.ndim S1.r).length),
      positions (freeAxes S1.arr.ndim S1.r) S1.l,
      AssocP.axesAB S1.arr.ndim S2.arr.ndim S1.r S2.l S2.r⟩)

def FTree.eval [Zero R] [Add R] [Mul R] [Neg R] : FTree R → Except Err (Seg R)
  | .leaf S => .ok S
  | .node sw a b =>
    match a.eval, b.eval with
    | .ok s1, .ok s2 => if sw then compS s1 s2 else s1.comp s2
    | .error e, _ => .error e
    | .ok _, .error e => .error e

section
variable [AddCommMonoid R] [Mul R] [Neg R] [SignRing R] [AssocLaws R]

/-- **any subset of nodes swapped** (commutative scalars): the evaluation succeeds, is valid and `SegEqv` to the
    evaluation of the unswapped bracketing -/
theorem ftree_eqv (hmul : ∀ x y : R, x * y = y * x) (t : FTree R) (hok : t.strip.OK)
    (hd : OddposP.LabelsDistinct t.strip.labels) :
    ∃ X T, t.eval = .ok X ∧ t.strip.eval = .ok T ∧ SegEqv X T ∧ X.arr.validB = true
      ∧ Good t.strip.first t.strip.last t.strip.labels T := by
  induction t with
  | leaf S => exact ⟨S, S, rfl, rfl, SegEqv.refl S, hok.valid, Good.leaf hok⟩
  | node sw a b iha ihb =>
    obtain ⟨oa, ob, lk⟩ := hok
    have hda : OddposP.LabelsDistinct a.strip.labels :=
      dist_of hd _ (List.Perm.refl _) (List.sublist_append_left _ _)
    have hdb : OddposP.LabelsDistinct b.strip.labels :=
      dist_of hd _ (List.Perm.refl _) (List.sublist_append_right _ _)
    obtain ⟨Xa, Ta, ea, eTa, hEa, vXa, ga⟩ := iha oa hda
    obtain ⟨Xb, Tb, eb, eTb, hEb, vXb, gb⟩ := ihb ob hdb
    obtain ⟨T, eT, gT⟩ := comp_good ga gb lk hd
    have eStrip : (STree.node a.strip b.strip).eval = .ok T := by
      show (match a.strip.eval, b.strip.eval with
        | .ok s1, .ok s2 => s1.comp s2
        | .error e, _ => .error e
        | .ok _, .error e => .error e) = _
      rw [eTa, eTb]; exact eT
    obtain ⟨X', eX', hTX'⟩ := comp_congr ga gb lk hEa.symm hEb.symm vXa vXb eT
    -- the unswapped call on the (possibly swapped) children
    have W := admW_of_good ga gb lk
    have WX : AdmW Xa.arr Xb.arr Xa.r Xb.l := by
      have := admW_congr W hEa.symm.1 hEb.symm.1 vXa vXb
      rw [hEa.symm.2.2, hEb.symm.2.1] at this
      exact this
    have hdX : OddposP.LabelsDistinct (Xa.arr.oddpos ++ Xb.arr.oddpos) := by
      rw [hEa.1.oddpos, hEb.1.oddpos]
      exact OddposP.LabelsDistinct.perm hd (ga.perm.symm.append gb.perm.symm)
    obtain ⟨Z, _, eZ, IZ, _⟩ := call_pack Xa.arr Xb.arr Xa.r Xb.l WX hdX
    have hZ : tdF Xa.arr Xb.arr Xa.r Xb.l = .ok Z := eZ
    have hX'arr : X' = ⟨Z, positions (freeAxes Xa.arr.ndim Xa.r) Xa.l,
        AssocP.axesAB Xa.arr.ndim Xb.arr.ndim Xa.r Xb.l Xb.r⟩ := by
      unfold Seg.comp at eX'
      rw [hZ] at eX'
      simp only [Except.map, Except.ok.injEq] at eX'
      exact eX'.symm
    cases sw with
    | false =>
      refine ⟨X', T, ?_, eStrip, hTX'.symm, by rw [hX'arr]; exact IZ.valid, gT⟩
      show (match a.eval, b.eval with
        | .ok s1, .ok s2 => if false = true then compS s1 s2 else s1.comp s2
        | .error e, _ => .error e
        | .ok _, .error e => .error e) = _
      rw [ea, eb]
      exact eX'
    | true =>
      obtain ⟨c', ec', _, hv, hE⟩ := swap_eqv hmul WX hdX Z hZ
      refine ⟨⟨c'.transposeF (rotB (freeAxes Xb.arr.ndim Xb.l).length (freeAxes Xa.arr.ndim Xa.r).length),
          positions (freeAxes Xa.arr.ndim Xa.r) Xa.l,
          AssocP.axesAB Xa.arr.ndim Xb.arr.ndim Xa.r Xb.l Xb.r⟩, T, ?_, eStrip, ?_, hv, gT⟩
      · show (match a.eval, b.eval with
          | .ok s1, .ok s2 => if true = true then compS s1 s2 else s1.comp s2
          | .error e, _ => .error e
          | .ok _, .error e => .error e) = _
        rw [ea, eb]
        show compS Xa Xb = _
        unfold compS
        rw [ec']
        rfl
      · have : SegEqv ⟨c'.transposeF (rotB (freeAxes Xb.arr.ndim Xb.l).length
            (freeAxes Xa.arr.ndim Xa.r).length), positions (freeAxes Xa.arr.ndim Xa.r) Xa.l,
            AssocP.axesAB Xa.arr.ndim Xb.arr.ndim Xa.r Xb.l Xb.r⟩ X' := by
          rw [hX'arr]; exact ⟨hE, rfl, rfl⟩
        exact this.trans hTX'.symm

end

end Assoc5P
end SymmModel
