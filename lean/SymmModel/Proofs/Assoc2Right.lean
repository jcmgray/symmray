/-
  SymmModel.Proofs.Assoc2Right — S7 of property C04 with `A–C` legs: the geometry of the
  intermediate result `B·C` on route `A·(B·C)`, and the vocabulary of the statement: stored sector
  triples (`IsTriple`), addresses (`FreeAddr.parts`), the step from the address-by-address value
  clause to every stored sector, and `labelRoutes_of_distinct` (pairwise-distinct labels satisfy
  `LabelRoutes`, Proofs/Oddpos.lean: the two label routes agree).
-/
import SymmModel.Proofs.Assoc2Left

namespace SymmModel
namespace Assoc2P
open TdotP GradedP AssocP
open Lazy (sgnI)
set_option linter.unusedSectionVars false

variable {R : Type}

/-- the stored sector triples of route `A·(B·C)`, in visiting order -/
def triplesR (A B C BC : Arr R) (xa1 xa3 xb1 xb2 xc2 xc3 : List Nat) (s : Sector) :
    List (Sector × Sector × Sector) :=
  (storedPairs A BC (freeAxes A.ndim (xa1 ++ xa3)) (xa1 ++ xa3) (axesBC B.ndim C.ndim xb1 xb2 xc2 xc3) (freeAxes BC.ndim (axesBC B.ndim C.ndim xb1 xb2 xc2 xc3)) s).flatMap (fun p =>
    (storedPairs B C (freeAxes B.ndim xb2) xb2 xc2 (freeAxes C.ndim xc2) p.2).map (fun q => (p.1, q.1, q.2)))

theorem axesBC_eq (nB nC : Nat) (xb1 xb2 xc2 xc3 : List Nat) :
    axesBC nB nC xb1 xb2 xc2 xc3 = axesAB nB nC xb2 xb1 xc2 xc3 := rfl

section geomR
variable {nB nC : Nat} {xb1 xb2 xc2 xc3 : List Nat} {α : Type}

theorem readBC_ax (hB : Mid nB xb1 xb2) (hC : Mid nC xc2 xc3) (y z : List α) (hy : y.length = nB)
    (hz : z.length = nC) :
    permuted (permuted y (freeAxes nB xb2) ++ permuted z (freeAxes nC xc2))
        (axesBC nB nC xb1 xb2 xc2 xc3)
      = permuted y xb1 ++ permuted z xc3 :=
  readAB_ax hB.symm hC y z hy hz

theorem readBC_free (hB : Mid nB xb1 xb2) (hC : Mid nC xc2 xc3) (y z : List α) (hy : y.length = nB)
    (hz : z.length = nC) :
    permuted (permuted y (freeAxes nB xb2) ++ permuted z (freeAxes nC xc2))
        (freeAxes ((freeAxes nB xb2).length + (freeAxes nC xc2).length) (axesBC nB nC xb1 xb2 xc2 xc3))
      = permuted y (freeAxes nB (xb1 ++ xb2)) ++ permuted z (freeAxes nC (xc2 ++ xc3)) := by
  have := readAB_free hB.symm hC y z hy hz
  rw [freeM_comm] at this
  exact this

end geomR

section valueR
variable [AddCommMonoid R] [Mul R] [Neg R] [SignRing R] [AssocLaws R]
variable {A B C BC : Arr R} {xa1 xa3 xb1 xb2 xc2 xc3 : List Nat} {ph : Int}

theorem right_split (I : Inter B C xb2 xc2 BC ph) (hB : Mid B.ndim xb1 xb2) (hC : Mid C.ndim xc2 xc3)
    {LA LM LC X : Sector} (lA : LA.length = X.length) (lM : LM.length = (freeAxes B.ndim (xb1 ++ xb2)).length)
    {sb sc : Sector} (hsb : sb.length = B.ndim) (hsc : sc.length = C.ndim)
    (hs : X ++ permuted (permuted sb (freeAxes B.ndim xb2) ++ permuted sc (freeAxes C.ndim xc2)) (freeAxes BC.ndim (axesBC B.ndim C.ndim xb1 xb2 xc2 xc3)) = LA ++ LM ++ LC) :
    X = LA ∧ permuted sb (freeAxes B.ndim (xb1 ++ xb2)) = LM ∧ permuted sc (freeAxes C.ndim (xc2 ++ xc3)) = LC := by
  have hlM : (permuted sb (freeAxes B.ndim (xb1 ++ xb2))).length = (freeAxes B.ndim (xb1 ++ xb2)).length :=
    permuted_length _ _ (by intro x hx; rw [hsb]; exact (mem_freeAxes.mp hx).1)
  rw [I.ndim, readBC_free hB hC sb sc hsb hsc, List.append_assoc LA LM LC] at hs
  obtain ⟨e1, e2⟩ := List.append_inj hs lA.symm
  obtain ⟨e3, e4⟩ := List.append_inj e2 (by rw [hlM, lM])
  exact ⟨e1, e3, e4⟩

end valueR

/-- `t = (sa, sb, sc)` is a stored sector triple, aligned on all three bonds, with free parts `s` -/
def IsTriple (A B C : Arr R) (xa1 xa3 xb1 xb2 xc2 xc3 : List Nat) (s : Sector)
    (t : Sector × Sector × Sector) : Prop :=
  t.1 ∈ A.sectors ∧ t.2.1 ∈ B.sectors ∧ t.2.2 ∈ C.sectors
    ∧ permuted t.2.1 xb1 = permuted t.1 xa1 ∧ permuted t.2.2 xc2 = permuted t.2.1 xb2
    ∧ permuted t.2.2 xc3 = permuted t.1 xa3
    ∧ permuted t.1 (freeAxes A.ndim (xa1 ++ xa3)) ++ permuted t.2.1 (freeAxes B.ndim (xb1 ++ xb2)) ++ permuted t.2.2 (freeAxes C.ndim (xc2 ++ xc3)) = s

section triples
variable [AddMonoid R] [Mul R] [Neg R]
variable {A B C AB BC : Arr R} {xa1 xa3 xb1 xb2 xc2 xc3 : List Nat} {ph : Int}

theorem triplesL_nodup (hdAB : AB.sectors.Nodup) (hdA : A.sectors.Nodup) (hdB : B.sectors.Nodup)
    (hdC : C.sectors.Nodup) (s : Sector) : (triplesL A B C AB xa1 xa3 xb1 xb2 xc2 xc3 s).Nodup := by
  unfold triplesL
  rw [List.nodup_flatMap]
  constructor
  · intro p _
    refine (storedPairs_nodup _ _ _ _ _ hdA hdB).map ?_
    intro x y hxy
    simp only [Prod.mk.injEq] at hxy
    exact Prod.ext hxy.1 hxy.2.1
  · refine List.Pairwise.imp ?_ (storedPairs_nodup _ _ _ _ _ hdAB hdC)
    intro p p' hne
    simp only [Function.onFun, List.disjoint_left, List.mem_map, not_exists, not_and]
    rintro t ⟨q, hq, rfl⟩ q' hq' heq
    apply hne
    obtain ⟨_, _, _, e1⟩ := mem_storedPairs.mp hq
    obtain ⟨_, _, _, e2⟩ := mem_storedPairs.mp hq'
    simp only [Prod.mk.injEq] at heq
    apply Prod.ext
    · rw [← e1, ← e2, heq.1, heq.2.1]
    · exact heq.2.2.symm

theorem triplesR_nodup (hdBC : BC.sectors.Nodup) (hdA : A.sectors.Nodup) (hdB : B.sectors.Nodup)
    (hdC : C.sectors.Nodup) (s : Sector) : (triplesR A B C BC xa1 xa3 xb1 xb2 xc2 xc3 s).Nodup := by
  unfold triplesR
  rw [List.nodup_flatMap]
  constructor
  · intro p _
    refine (storedPairs_nodup _ _ _ _ _ hdB hdC).map ?_
    intro x y hxy
    simp only [Prod.mk.injEq] at hxy
    exact Prod.ext hxy.2.1 hxy.2.2
  · refine List.Pairwise.imp ?_ (storedPairs_nodup _ _ _ _ _ hdA hdBC)
    intro p p' hne
    simp only [Function.onFun, List.disjoint_left, List.mem_map, not_exists, not_and]
    rintro t ⟨q, hq, rfl⟩ q' hq' heq
    apply hne
    obtain ⟨_, _, _, e1⟩ := mem_storedPairs.mp hq
    obtain ⟨_, _, _, e2⟩ := mem_storedPairs.mp hq'
    simp only [Prod.mk.injEq] at heq
    apply Prod.ext
    · exact heq.1.symm
    · rw [← e1, ← e2, heq.2.1, heq.2.2]

omit [AddMonoid R] [Mul R] [Neg R] in
theorem commonB_append {a b : Arr R} {x x' y y' : List Nat} (hl : x.length = y.length)
    (h1 : contractibleCommonB a b x y = true) (h2 : contractibleCommonB a b x' y' = true) :
    contractibleCommonB a b (x ++ x') (y ++ y') = true := by
  unfold contractibleCommonB at h1 h2 ⊢
  simp only [Bool.and_eq_true, beq_iff_eq] at h1 h2 ⊢
  refine ⟨by rw [List.length_append, List.length_append, h1.1, h2.1], ?_⟩
  rw [List.zip_append hl, List.all_append, h1.2, h2.2]
  rfl

end triples

section boxes
variable [AddMonoid R] [Mul R] [Neg R]
variable {A B C AB BC : Arr R} {xa1 xa3 xb1 xb2 xc2 xc3 : List Nat} {ph : Int}

theorem FreeAddr.parts {LA LM LC : Sector} {oA oM oC : List Nat}
    (fa : FreeAddr A B C xa1 xa3 xb1 xb2 xc2 xc3 LA LM LC oA oM oC)
    (hsa : A.shapesOk) (hsb : B.shapesOk) (hsc : C.shapesOk)
    {t : Sector × Sector × Sector} (ht : IsTriple A B C xa1 xa3 xb1 xb2 xc2 xc3 (LA ++ LM ++ LC) t) :
    permuted t.1 (freeAxes A.ndim (xa1 ++ xa3)) = LA ∧ permuted t.2.1 (freeAxes B.ndim (xb1 ++ xb2)) = LM ∧ permuted t.2.2 (freeAxes C.ndim (xc2 ++ xc3)) = LC
      ∧ inBox (permuted (Arr.blockShapeD A.indices t.1) (freeAxes A.ndim (xa1 ++ xa3))) oA = true
      ∧ inBox (permuted (Arr.blockShapeD B.indices t.2.1) (freeAxes B.ndim (xb1 ++ xb2))) oM = true
      ∧ inBox (permuted (Arr.blockShapeD C.indices t.2.2) (freeAxes C.ndim (xc2 ++ xc3))) oC = true := by
  obtain ⟨hA, hB, hC, _, _, _, h3⟩ := ht
  have hlA : (permuted t.1 (freeAxes A.ndim (xa1 ++ xa3))).length = (freeAxes A.ndim (xa1 ++ xa3)).length :=
    permuted_length _ _ (by
      intro x hx; rw [Arr.sector_length hsa hA]; exact (mem_freeAxes.mp hx).1)
  have hlM : (permuted t.2.1 (freeAxes B.ndim (xb1 ++ xb2))).length = (freeAxes B.ndim (xb1 ++ xb2)).length :=
    permuted_length _ _ (by
      intro x hx; rw [Arr.sector_length hsb hB]; exact (mem_freeAxes.mp hx).1)
  obtain ⟨e1, e2⟩ := List.append_inj h3 (by
    rw [List.length_append, List.length_append, hlA, hlM, fa.lA, fa.lM])
  obtain ⟨e3, e4⟩ := List.append_inj e1 (by rw [hlA, fa.lA])
  refine ⟨e3, e4, e2, ?_, ?_, ?_⟩
  · have := fa.bA
    rw [← e3, shapeD_free hsa hA _ mem_freeAxes_lt] at this
    exact this
  · have := fa.bM
    rw [← e4, shapeD_free hsb hB _ mem_freeAxes_lt] at this
    exact this
  · have := fa.bC
    rw [← e2, shapeD_free hsc hC _ mem_freeAxes_lt] at this
    exact this

theorem inBox3 {s1 s2 s3 o1 o2 o3 : List Nat} (l1 : o1.length = s1.length) (l2 : o2.length = s2.length)
    (b1 : inBox s1 o1 = true) (b2 : inBox s2 o2 = true) (b3 : inBox s3 o3 = true) :
    inBox (s1 ++ s2 ++ s3) (o1 ++ o2 ++ o3) = true := by
  rw [inBox_append (by rw [List.length_append, List.length_append, l1, l2]), inBox_append l1, b1, b2, b3]
  rfl

end boxes

theorem labelRoutes_of_distinct (pa pb : Bool) (la lb lc : List (Int × Bool))
    (hd : (la ++ lb ++ lc).Pairwise (fun x y => x.1 ≠ y.1)) : LabelRoutes pa pb la lb lc :=
  LabelAlg.routes_of_distinct pa pb la lb lc hd

/-! ### the value clause, sector by sector in the result's own (pruned) frame -/

section atsector
variable [Zero R] [Neg R]

theorem elem_eq_of_sector (A B C c1 c2 : Arr R) (xa1 xa3 xb1 xb2 xc2 xc3 : List Nat)
    (hsa : A.shapesOk) (hsb : B.shapesOk) (hsc : C.shapesOk)
    (hidx : c1.indices = dropUnused (permuted A.indices (freeAxes A.ndim (xa1 ++ xa3)) ++ (permuted B.indices (freeAxes B.ndim (xb1 ++ xb2)) ++ permuted C.indices (freeAxes C.ndim (xc2 ++ xc3)))) c1.sectors)
    (hsec1 : ∀ s, s ∈ c1.sectors ↔ ∃ t, IsTriple A B C xa1 xa3 xb1 xb2 xc2 xc3 s t)
    (hsec2 : ∀ s, s ∈ c2.sectors ↔ s ∈ c1.sectors)
    (helem : ∀ (LA LM LC : Sector) (oA oM oC : List Nat),
      FreeAddr A B C xa1 xa3 xb1 xb2 xc2 xc3 LA LM LC oA oM oC →
      c2.elem (LA ++ LM ++ LC) (oA ++ oM ++ oC) = c1.elem (LA ++ LM ++ LC) (oA ++ oM ++ oC))
    (s : Sector) (o : List Nat)
    (ho : s ∈ c1.sectors → inBox (Arr.blockShapeD c1.indices s) o = true) :
    c2.elem s o = c1.elem s o := by
  by_cases hs : s ∈ c1.sectors
  · have hbox := ho hs
    obtain ⟨⟨sa, sb, sc⟩, hA, hB, hC, _, _, _, h3⟩ := (hsec1 s).mp hs
    simp only at hA hB hC h3
    obtain ⟨shpA, hA1, hA2, hA3, hA4⟩ := shape_of_mem hsa hA
    obtain ⟨shpB, hB1, hB2, hB3, hB4⟩ := shape_of_mem hsb hB
    obtain ⟨shpC, hC1, hC2, hC3, hC4⟩ := shape_of_mem hsc hC
    have qA := blockShape?_permuted hA1 (freeAxes A.ndim (xa1 ++ xa3)) mem_freeAxes_lt
    have qB := blockShape?_permuted hB1 (freeAxes B.ndim (xb1 ++ xb2)) mem_freeAxes_lt
    have qC := blockShape?_permuted hC1 (freeAxes C.ndim (xc2 ++ xc3)) mem_freeAxes_lt
    rw [hidx, Arr.blockShapeD, ValidP.dropUnused_blockShape _ _ _ hs, ← h3, List.append_assoc,
      blockShape?_append qA (blockShape?_append qB qC)] at hbox
    obtain ⟨oA, oM, oC, rfl, l1, l2, l3, b1, b2, b3⟩ := inBox_split3 hbox
    have pl : ∀ {z : List Nat} {n : Nat} (hz : z.length = n) (F : List Nat),
        (∀ x ∈ F, x < n) → (permuted z F).length = F.length := by
      intro z n hz F hF
      exact permuted_length _ _ (by rw [hz]; exact hF)
    have plS : ∀ {z : Sector} {n : Nat} (hz : z.length = n) (F : List Nat),
        (∀ x ∈ F, x < n) → (permuted z F).length = F.length := by
      intro z n hz F hF
      exact permuted_length _ _ (by rw [hz]; exact hF)
    rw [← h3]
    apply helem
    refine ⟨plS hA4 _ mem_freeAxes_lt, plS hB4 _ mem_freeAxes_lt,
      by rw [l1, pl hA3 _ mem_freeAxes_lt],
      by rw [l2, pl hB3 _ mem_freeAxes_lt],
      by rw [l3, pl hC3 _ mem_freeAxes_lt], ?_, ?_, ?_⟩
    · rw [Arr.blockShapeD, qA]; exact b1
    · rw [Arr.blockShapeD, qB]; exact b2
    · rw [Arr.blockShapeD, qC]; exact b3
  · rw [Arr.elem_of_not_mem hs, Arr.elem_of_not_mem (fun h => hs ((hsec2 s).mp h))]

end atsector

end Assoc2P
end SymmModel
