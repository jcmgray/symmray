/-
  SymmModel.Proofs.Assoc3Frame — S7 of property C04 with the WEAK guard on the first-level calls:
  the hypotheses on three operands and their three bonds (`Assoc3P.TriW`), and the weak guard of the
  second calls, for an intermediate result of any mode (`TdotP.admW_left/right_chain_w`,
  `TdotP.admW_left/right_tri_w`, from `InterW`).
-/
import SymmModel.Proofs.Assoc2Right

namespace SymmModel
namespace Assoc3P
open TdotP GradedP RoutesP AssocP Assoc2P
open Lazy (sgnI)
set_option linter.unusedSectionVars false

variable {R : Type}

/-- the hypotheses on the three operands and their three bonds, weak guards -/
structure TriW (A B C : Arr R) (xa1 xa3 xb1 xb2 xc2 xc3 : List Nat)
    [AddMonoid R] [Mul R] [Neg R] [SignRing R] : Prop where
  hAB : AdmW A B xa1 xb1
  hBC : AdmW B C xb2 xc2
  mA : Mid A.ndim xa1 xa3
  mB : Mid B.ndim xb1 xb2
  mC : Mid C.ndim xc2 xc3
  conAC : contractibleCommonB A C xa3 xc3 = true

end Assoc3P

namespace TdotP
open GradedP RoutesP AssocP
variable {R : Type}

/-! ### the second calls satisfy the weak guard (intermediate result of ANY mode) -/

section admw
set_option linter.unusedSectionVars false
variable [AddMonoid R] [Mul R] [Neg R] [SignRing R]
variable {A B C AB BC : Arr R}

theorem admW_left_chain_w {xa xb1 xb2 xc : List Nat} (I : InterW A B xa xb1 AB)
    (hAB : AdmW A B xa xb1) (hBC : AdmW B C xb2 xc) (h : Mid B.ndim xb1 xb2) :
    AdmW AB C (AssocP.axesAB A.ndim B.ndim xa xb1 xb2) xc := by
  refine ⟨I.valid, hBC.vb, I.fermi, hBC.fb, by rw [I.sym, hAB.sym, hBC.sym], ?_, AssocP.axesAB_nodup h,
    hBC.nB, ?_, hBC.ltB⟩
  · refine commonB_sizeLe_left (a := B) (xa := xb2) (AssocP.axesAB_len h) ?_ hBC.con
    intro j hj
    obtain ⟨e1, e2, e3⟩ := AssocP.axesAB_getD (nA := A.ndim) (xa := xa) h j hj
    have := I.leg_right _ e2
    rw [e3, ← e1] at this
    refine ⟨this, I.leg_nodup _ ?_⟩
    rw [e1, I.ndim]; omega
  · rw [I.ndim]; exact AssocP.axesAB_lt h

theorem admW_right_chain_w {xa xb1 xb2 xc : List Nat} (I : InterW B C xb2 xc BC)
    (hAB : AdmW A B xa xb1) (h : Mid B.ndim xb1 xb2) :
    AdmW A BC xa (AssocP.axesBC B.ndim xb1 xb2) := by
  refine ⟨hAB.va, I.valid, hAB.fa, I.fermi, by rw [I.sym]; exact hAB.sym, ?_, hAB.nA,
    h.symm.pos_nodup, hAB.ltA, ?_⟩
  · refine commonB_sizeLe_right (b := B) (xb := xb1) h.symm.pos_len ?_ hAB.con
    intro j hj
    have hjp : j < (positions (freeAxes B.ndim xb2) xb1).length := by rw [h.symm.pos_len]; exact hj
    have e2 : (positions (freeAxes B.ndim xb2) xb1).getD j 0 < (freeAxes B.ndim xb2).length := by
      rw [List.getD_eq_getElem?_getD, List.getElem?_eq_getElem hjp]
      exact h.symm.pos_lt _ (List.getElem_mem hjp)
    have e3 : (freeAxes B.ndim xb2).getD ((positions (freeAxes B.ndim xb2) xb1).getD j 0) 0
        = xb1.getD j 0 := by
      rw [← getD_permuted_ax (freeAxes B.ndim xb2) _ h.symm.pos_lt j hjp 0, h.symm.pos_spec]
    have := I.leg_left _ e2
    rw [e3] at this
    exact this
  · intro i hi
    rw [I.ndim]
    have := h.symm.pos_lt i hi
    omega

open Assoc2P in
theorem admW_left_tri_w {xa1 xa3 xb1 xb2 xc2 xc3 : List Nat} (I : InterW A B xa1 xb1 AB)
    (T : Assoc3P.TriW A B C xa1 xa3 xb1 xb2 xc2 xc3) :
    AdmW AB C (Assoc2P.axesAB A.ndim B.ndim xa1 xa3 xb1 xb2) (xc3 ++ xc2) := by
  refine ⟨I.valid, T.hBC.vb, I.fermi, T.hBC.fb, by rw [I.sym, T.hAB.sym, T.hBC.sym], ?_,
    Assoc2P.axesAB_nodup T.mA T.mB,
    List.nodup_append.mpr ⟨T.mC.n2, T.mC.n1, fun x hx y hy e => T.mC.disj y hy (e ▸ hx)⟩, ?_, ?_⟩
  · unfold Assoc2P.axesAB
    refine commonB_append (by rw [T.mA.pos_len, commonB_len T.conAC]) ?_
      (admW_left_chain_w I T.hAB T.hBC T.mB).con
    refine commonB_sizeLe_left (a := A) (xa := xa3) T.mA.pos_len ?_ T.conAC
    intro j hj
    obtain ⟨e2, e3⟩ := pos_getD T.mA j hj
    have := I.leg_left _ e2
    rw [e3] at this
    refine ⟨this, I.leg_nodup _ ?_⟩
    rw [I.ndim]; omega
  · rw [I.ndim]; exact Assoc2P.axesAB_lt T.mA T.mB
  · intro i hi
    rcases List.mem_append.mp hi with h | h
    · exact T.mC.lt2 i h
    · exact T.mC.lt1 i h

open Assoc2P in
theorem admW_right_tri_w {xa1 xa3 xb1 xb2 xc2 xc3 : List Nat} (I : InterW B C xb2 xc2 BC)
    (T : Assoc3P.TriW A B C xa1 xa3 xb1 xb2 xc2 xc3) :
    AdmW A BC (xa1 ++ xa3) (Assoc2P.axesBC B.ndim C.ndim xb1 xb2 xc2 xc3) := by
  refine ⟨T.hAB.va, I.valid, T.hAB.fa, I.fermi, by rw [I.sym]; exact T.hAB.sym, ?_,
    List.nodup_append.mpr ⟨T.mA.n1, T.mA.n2, fun x hx y hy e => T.mA.disj x hx (e ▸ hy)⟩,
    Assoc2P.axesAB_nodup T.mB.symm T.mC, ?_, ?_⟩
  · unfold Assoc2P.axesBC
    refine commonB_append (by rw [T.mB.symm.pos_len, T.hAB.len])
      (admW_right_chain_w I T.hAB T.mB).con ?_
    refine commonB_sizeLe_right (b := C) (xb := xc3) (by rw [List.length_map, T.mC.pos_len]) ?_
      T.conAC
    intro j hj
    obtain ⟨e1, e2, e3⟩ := AssocP.axesAB_getD (nA := B.ndim) (xa := xb2) T.mC j hj
    have := I.leg_right _ e2
    rw [e3, ← e1] at this
    exact this
  · intro i hi
    rcases List.mem_append.mp hi with h | h
    · exact T.mA.lt1 i h
    · exact T.mA.lt2 i h
  · rw [I.ndim]; exact Assoc2P.axesAB_lt T.mB.symm T.mC

end admw

end TdotP
end SymmModel
