/-
  SymmModel.Proofs.Fuse8Link — facts about the extents of a new sector (`ext_facts`),
  well-formedness of the nested concatenation (`nest_wf`) and of the reshaped stored blocks that
  are its leaves (`srcM_wf`).
-/
import SymmModel.Proofs.Fuse7Concat
namespace SymmModel
namespace FuseP
set_option linter.unusedSectionVars false

variable {R : Type} [Zero R]

theorem nest_wf (leaf : List Sector → Blk R) (hleaf : ∀ k, (leaf k).wf = true) :
    ∀ (lv : List Lvl) (key : List Sector) (b : List Nat), LvOk lv b → (nest leaf lv key).wf = true := by
  intro lv
  induction lv with
  | nil => intro key _ _; exact hleaf key
  | cons l r ih =>
    intro key b hok
    cases l with
    | single k => exact ih _ b hok
    | multi ax ext =>
      simp only [nest]
      cases ext with
      | nil => exact absurd rfl hok.2.2.1
      | cons q rest => exact ofFn_wf _ _

section
variable {a : Arr R} {groups : List (List Nat)}

theorem ext_facts (hv : ValidArr a) (hok : GroupsAdm groups a.ndim) {g : Nat} {gaxes : List Nat}
    (hgx : groups[g]? = some gaxes) (hlen : gaxes.length ≠ 1) {sb : Sector × Blk R} (hsb : sb ∈ a.blocks) :
    ((extM a groups (planM a groups sb).newSector g).map (·.1)).Nodup
    ∧ startOf (extM a groups (planM a groups sb).newSector g) (ssM (a := a) (groups := groups) sb g)
        = some (stM a groups sb g, dM (a := a) (groups := groups) sb g)
    ∧ sumN ((extM a groups (planM a groups sb).newSector g).map (·.2)) = DM a groups sb g
    ∧ extM a groups (planM a groups sb).newSector g ≠ [] := by
  obtain ⟨e, D, he, hst, _, hsum, hDM⟩ := stored_tableM hv hok hgx hlen hsb
  have he' : alookup (extsM a groups g) ((planM a groups sb).newSector.getD ((giM a groups).position + g) (0, 0))
      = some e := he
  have hext : extM a groups (planM a groups sb).newSector g = e := by simp only [extM, he', Option.getD_some]
  obtain ⟨_, _, hx⟩ := wfB_extent (ixM_wf hv hok _) (ixM_sub hok hgx hlen) he'
  rw [hext]
  refine ⟨hx.nodup, hst, by rw [hsum, hDM], ?_⟩
  intro h; rw [h] at hst; simp [startOf] at hst

theorem srcM_wf (hv : ValidArr a) (hok : GroupsAdm groups a.ndim) {sb : Sector × Blk R} (hsb : sb ∈ a.blocks) :
    ((sb.2.transposeK (giM a groups).perm).reshapeK (planM a groups sb).newShape).wf = true := by
  have hshl : sb.2.shape.length = a.ndim := by
    have := blockShape?_length (hv.blk sb hsb).2.1
    rw [this.2, (hv.blk sb hsb).1]
  have h1 : (sb.2.transposeK (giM a groups).perm).wf = true := ofFn_wf _ _
  have h2 : (sb.2.transposeK (giM a groups).perm).shape = permuted sb.2.shape (giM a groups).perm := rfl
  simp only [Blk.wf, beq_iff_eq] at h1 ⊢
  show (sb.2.transposeK (giM a groups).perm).data.size = prod (planM a groups sb).newShape
  rw [h1, h2, permutedM_eq hok sb.2.shape 0 hshl, nshM_parts hok sb, prod_append, prod_append, prod_append,
    prod_append, prod_flatten_map]

end

end FuseP
end SymmModel
