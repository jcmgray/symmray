/-
  SymmModel.Proofs.NetNorm8 — network form of the norm (property C10):
  tools for further routes of a chain: both bracketings of `A – B – C` under the weak guard with the
  validity of the right-nested result (`chain_both`, from `Assoc3P.chain_eqv` = S7 for chains), and
  the final full contraction with `Eqv` copies of the two halves (`full_congr`).
-/
import SymmModel.Proofs.NetNorm7
namespace SymmModel.NormNet
open SymmModel SymmModel.Norm SymmModel.TdotP SymmModel.GradedP
open SymmModel.AssocP SymmModel.Assoc3P
set_option linter.unusedSectionVars false

section tools
variable {R : Type} [AddCommMonoid R] [Mul R] [Neg R] [SignRing R] [AssocLaws R]

theorem chain_both (A B C : Arr R) (xa xb1 xb2 xc : List Nat)
    (WAB : AdmW A B xa xb1) (WBC : AdmW B C xb2 xc) (hnB : (xb1 ++ xb2).Nodup)
    (hd : OddposP.LabelsDistinct (A.oddpos ++ B.oddpos ++ C.oddpos)) :
    ∃ AB BC c1 c2 : Arr R,
      A.tensordotF B (.pair (xa.map Int.ofNat) (xb1.map Int.ofNat)) .blockwise = .ok AB
      ∧ AB.tensordotF C (.pair ((AssocP.axesAB A.ndim B.ndim xa xb1 xb2).map Int.ofNat)
          (xc.map Int.ofNat)) .blockwise = .ok c1
      ∧ B.tensordotF C (.pair (xb2.map Int.ofNat) (xc.map Int.ofNat)) .blockwise = .ok BC
      ∧ A.tensordotF BC (.pair (xa.map Int.ofNat)
          ((AssocP.axesBC B.ndim xb1 xb2).map Int.ofNat)) .blockwise = .ok c2
      ∧ Eqv c2 c1 ∧ c2.validB = true := by
  obtain ⟨AB, BC, c1, c2, e1, e2, e3, e4, he⟩ := chain_eqv A B C xa xb1 xb2 xc WAB WBC hnB
    (Assoc2P.labelRoutes_of_distinct _ _ _ _ _ hd)
  have hM : Mid B.ndim xb1 xb2 := Mid.of hnB (by
    intro i hi
    rcases List.mem_append.mp hi with h | h
    · exact WAB.ltB i h
    · exact WBC.ltA i h)
  have h_bc : OddposP.LabelsDistinct (B.oddpos ++ C.oddpos) :=
    dist_of hd _ (List.Perm.refl _) (by rw [List.append_assoc]; exact List.sublist_append_right _ _)
  obtain ⟨BC', _, eBC, IBC, pBC⟩ := call_pack B C xb2 xc WBC h_bc
  obtain rfl : BC' = BC := by rw [e3] at eBC; exact (Except.ok.inj eBC).symm
  have W' := admW_right_chain_w IBC.toW WAB hM
  have h_abc : OddposP.LabelsDistinct (A.oddpos ++ BC'.oddpos) := by
    have hd' : OddposP.LabelsDistinct (A.oddpos ++ (B.oddpos ++ C.oddpos)) := by
      rw [← List.append_assoc]; exact hd
    exact OddposP.LabelsDistinct.perm hd' (List.Perm.append_left _ pBC.symm)
  obtain ⟨Z, _, eZ, IZ, _⟩ := call_pack A BC' xa _ W' h_abc
  obtain rfl : Z = c2 := by rw [e4] at eZ; exact (Except.ok.inj eZ).symm
  exact ⟨AB, BC', c1, Z, e1, e2, e3, e4, he, IZ.valid⟩

/-- `scalar_congr_both` (NormNet22) read for the axes `allAxes n` and equivalences pointing towards
    the given halves -/
theorem full_congr {P Q X Y r : Arr R} (n : Nat)
    (A : AdmW P Q (List.range n) (List.range n)) (E1 : Eqv X P) (E2 : Eqv Y Q)
    (vX : X.validB = true) (vY : Y.validB = true)
    (e : P.tensordotF Q (allAxes n) .blockwise = .ok r) (hn : r.ndim = 0) :
    ∃ r', X.tensordotF Y (allAxes n) .blockwise = .ok r'
      ∧ r'.ndim = 0 ∧ r'.oddpos = r.oddpos ∧ r'.elem [] [] = r.elem [] [] :=
  scalar_congr_both A E1.symm E2.symm vX vY e hn

end tools

end SymmModel.NormNet
