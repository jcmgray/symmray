/-
  SymmModel.Proofs.Dense3a — `expand_dims` with an explicit charge (property C08, Props/C08c):
  the inserted charge and the total charge of the result, all fields of the result, and that
  every position of the expanded box comes from one of the original.  Value view and dense form
  for any charge: `DenseP.expandDims_elem_any`, `expandDims_toDense_any` (Proofs/DenseMore.lean).
-/
import SymmModel.Proofs.DenseMore
import SymmModel.Proofs.ValidMore

namespace SymmModel
namespace Dense3
open DenseP

variable {R : Type}

/-- the charge `expand_dims(axis, c, dual)` inserts: `c`, or the identity when `c is None` -/
def expandCharge (a : Arr R) (c : Option Charge) : Charge := c.getD a.sym.zero

/-- the total charge of the result: unchanged for `c is None`, otherwise
    `combine(charge, sign(c, dual))` with the direction the new index gets -/
def expandNewCharge (a : Arr R) (axis : Nat) (c : Option Charge) (dual : Option Bool) : Charge :=
  match c with
  | none => a.charge
  | some c => a.sym.combine [a.charge, a.sym.sign c (expandDual a axis dual)]

theorem expandDims_fields (a : Arr R) (axis : Nat) (c : Option Charge) (dual : Option Bool) :
    (a.expandDims axis c dual).indices
        = ins axis (Index.mk [(expandCharge a c, 1)] (expandDual a axis dual) none) a.indices
    ∧ (a.expandDims axis c dual).charge = expandNewCharge a axis c dual
    ∧ (a.expandDims axis c dual).sym = a.sym
    ∧ (a.expandDims axis c dual).fermi = a.fermi
    ∧ (a.expandDims axis c dual).oddpos = a.oddpos
    ∧ (a.expandDims axis c dual).blocks
        = adict (a.blocks.map (fun (sb : Sector × Blk R) =>
            (ins axis (expandCharge a c) sb.1, sb.2.expandK axis)))
    ∧ (a.phases = [] → (a.expandDims axis c dual).phases = []) := by
  obtain ⟨h1, h2, h3, h4, h5, h6⟩ := expandDims_frame a axis c dual
  exact ⟨h1, by cases c <;> cases dual <;> rfl, h2, h3, h4, h5, h6⟩

/-- hence `DenseP.expandDims_toDense_any` describes the whole dense array -/
theorem inBox_ins_surj {shape q : List Nat} (axis : Nat) (ha : axis ≤ shape.length)
    (h : inBox (ins axis 1 shape) q = true) : ∃ p, inBox shape p = true ∧ q = ins axis 0 p := by
  induction axis generalizing shape q with
  | zero =>
    cases q with
    | nil => simp [inBox] at h
    | cons j q =>
      simp only [ins_zero, inBox_cons] at h
      exact ⟨q, h.2, by simp only [ins_zero]; congr 1; omega⟩
  | succ axis ih =>
    cases shape with
    | nil => simp at ha
    | cons d ds =>
      cases q with
      | nil => simp [inBox] at h
      | cons j q =>
        simp only [ins_succ_cons, inBox_cons] at h
        obtain ⟨p, hp, rfl⟩ := ih (by simpa using ha) h.2
        exact ⟨j :: p, by simp [inBox_cons, h.1, hp], by simp⟩

/-! ### the direction of the inserted index, as Proofs/ValidMore.lean writes it -/

theorem expandDual_eq (a : Arr R) (axis : Nat) (dual : Option Bool) :
    ValidP.expandDual a axis dual = expandDual a axis dual := rfl

end Dense3
end SymmModel
