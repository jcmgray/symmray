/-
  SymmModel.Proofs.NetNorm1 — network form of the norm (property C10):
  the weak guard between two halves contracted in OPPOSITE operand orders (crossed leg pairs), for
  halves of any mode, and the transfer of a crossed full contraction from the blockwise halves to
  halves / a final call in `fused` / `auto` mode.
-/
import SymmModel.Proofs.NormNet24
namespace SymmModel.NormNet
open SymmModel SymmModel.Lazy SymmModel.Norm SymmModel.TdotP SymmModel.GradedP SymmModel.RoutesP
open SymmModel.AssocP SymmModel.Assoc3P

section pos

theorem getD_app_left (l l' : List Index) (j : Nat) (hj : j < l.length) :
    (l ++ l').getD j default = l.getD j default := by
  simp only [List.getD_eq_getElem?_getD]
  rw [List.getElem?_append_left hj]

theorem getD_app_right (l l' : List Index) (j : Nat) :
    (l ++ l').getD (l.length + j) default = l'.getD j default := by
  simp only [List.getD_eq_getElem?_getD]
  rw [List.getElem?_append_right (Nat.le_add_right _ _), Nat.add_sub_cancel_left]

theorem rotAx_getD_left (m k j : Nat) (hj : j < k) : (rotAx m k).getD j 0 = m + j := by
  unfold rotAx
  simp only [List.getD_eq_getElem?_getD]
  rw [List.getElem?_append_left (by rw [List.length_map, List.length_range]; exact hj)]
  simp [List.getElem?_map, List.getElem?_range hj]

theorem rotAx_getD_right (m k j : Nat) (hj : j < m) : (rotAx m k).getD (k + j) 0 = j := by
  unfold rotAx
  simp only [List.getD_eq_getElem?_getD]
  have : ((List.range k).map (m + ·)).length = k := by rw [List.length_map, List.length_range]
  rw [List.getElem?_append_right (by rw [this]; exact Nat.le_add_right _ _), this,
    Nat.add_sub_cancel_left]
  simp [List.getElem?_range hj]

end pos

section crossed
variable {U V U' V' : List Index} (hU : List.Forall₂ Opp U U') (hV : List.Forall₂ Opp V V')
include hU hV

theorem cross_lt : ∀ i ∈ crossAx U.length V.length, i < (V' ++ U').length := by
  intro i hi
  have := List.mem_range.mp ((crossAx_perm U.length V.length).mem_iff.mp hi)
  rw [List.length_append, ← hU.length_eq, ← hV.length_eq]; omega

theorem cross_opp (hnF : ∀ ix ∈ U ++ V, (ix.cm.map (·.1)).Nodup) :
    ∀ j, j < (crossAx U.length V.length).length →
      Opp ((V' ++ U').getD ((crossAx U.length V.length).getD j 0) default)
        ((U ++ V).getD ((List.range (U.length + V.length)).getD j 0) default)
      ∧ (((V' ++ U').getD ((crossAx U.length V.length).getD j 0) default).cm.map (·.1)).Nodup := by
  intro j hj
  have hlV := hV.length_eq
  rw [crossAx_eq_rotAx] at hj ⊢
  rw [rotAx_length] at hj
  rw [getD_range _ _ (by omega)]
  by_cases h1 : j < U.length
  · rw [rotAx_getD_left _ _ _ h1, getD_app_left _ _ _ h1, hlV, getD_app_right]
    have o := forall₂_getD hU j h1 default default
    exact ⟨o.symm, by rw [o.1]; exact hnF _ (List.mem_append_left _ (getD_mem_of_lt h1))⟩
  · obtain ⟨i, rfl⟩ : ∃ i, j = U.length + i := ⟨j - U.length, by omega⟩
    have hi : i < V.length := by omega
    rw [rotAx_getD_right _ _ _ hi, getD_app_right, getD_app_left _ _ _ (by rw [← hlV]; exact hi)]
    have o := forall₂_getD hV i hi default default
    exact ⟨o.symm, by rw [o.1]; exact hnF _ (List.mem_append_right _ (getD_mem_of_lt hi))⟩

end crossed

section cross
variable {R : Type}

theorem range_lt_append (U V : List Index) :
    ∀ i ∈ List.range (U.length + V.length), i < (U ++ V).length := fun i hi => by
  rw [List.length_append]; exact List.mem_range.mp hi

theorem cross_common {Z X : Arr R} {U V U' V' : List Index}
    (hZ : List.Forall₂ SizeLe Z.indices (V' ++ U')) (hX : List.Forall₂ SizeLe X.indices (U ++ V))
    (hU : List.Forall₂ Opp U U') (hV : List.Forall₂ Opp V V')
    (hnZ : ∀ ix ∈ Z.indices, (ix.cm.map (·.1)).Nodup)
    (hnF : ∀ ix ∈ U ++ V, (ix.cm.map (·.1)).Nodup) :
    contractibleCommonB Z X (crossAx U.length V.length) (List.range (U.length + V.length)) = true :=
  commonB_of_frames hZ hX hnZ (crossAx_perm _ _).length_eq (cross_lt hU hV) (range_lt_append U V)
    (cross_opp hU hV hnF)

theorem cross_call_any [AddCommMonoid R] [Mul R] [Neg R] [SignRing R]
    (hz1 : ∀ x : R, 0 * x = 0) (hz2 : ∀ x : R, x * 0 = 0)
    {Z Zm X Xm : Arr R} {U V U' V' : List Index}
    (HZ : Half Z Zm (V' ++ U')) (HX : Half X Xm (U ++ V)) (hsym : Z.sym = X.sym)
    (hU : List.Forall₂ Opp U U') (hV : List.Forall₂ Opp V V')
    (hnF : ∀ ix ∈ U ++ V, (ix.cm.map (·.1)).Nodup) (r : Arr R)
    (hr : Z.tensordotF X (.pair ((crossAx U.length V.length).map Int.ofNat)
        ((List.range (U.length + V.length)).map Int.ofNat)) .blockwise = .ok r)
    (hrn : r.ndim = 0) (mode : TdotMode) :
    ∃ rm, Zm.tensordotF Xm (.pair ((crossAx U.length V.length).map Int.ofNat)
          ((List.range (U.length + V.length)).map Int.ofNat)) mode = .ok rm
      ∧ rm.ndim = 0 ∧ rm.oddpos = r.oddpos ∧ rm.elem [] [] = r.elem [] [] := by
  obtain ⟨rm, e, prm⟩ := half_call_any hz1 hz2 HZ HX hsym
    ((crossAx_perm _ _).nodup_iff.mpr List.nodup_range) List.nodup_range (crossAx_perm _ _).length_eq
    (cross_lt hU hV) (range_lt_append U V) (cross_opp hU hV hnF) r hr mode
  exact ⟨rm, e, prm.scalar hrn⟩

end cross

end SymmModel.NormNet
