/-
  SymmModel.Proofs.Reshape5d — the fermionic fuse call is a `FuseOK` call.
-/
import SymmModel.Proofs.Reshape5c
import SymmModel.Proofs.NormLemmas

namespace SymmModel
namespace Reshape5
open C07 ReshapeP FuseP
set_option linter.unusedSectionVars false

variable {R : Type} [Zero R] [Neg R] [Lazy.LawfulNeg R]

theorem groupsOk_of_call {G : List (List Nat)} {P nd : Nat} (hne : G ≠ []) (h2 : ∀ g ∈ G, 2 ≤ g.length)
    (hflat : G.flatten = List.range' P G.flatten.length) (hle : P + G.flatten.length ≤ nd) :
    GroupsOk G nd :=
  groupsOk_of_flat hne (fun g hg hc => by have := h2 g hg; rw [hc] at this; simp at this) hflat hle

theorem flatten_pos {G : List (List Nat)} (hne : G ≠ []) (h2 : ∀ g ∈ G, 2 ≤ g.length) :
    0 < G.flatten.length := by
  cases G with
  | nil => exact (hne rfl).elim
  | cons g r =>
    have := h2 g (by simp)
    simp only [List.flatten_cons, List.length_append]; omega

/-- the explicit list of unfuse steps, last group first, when every group has several axes -/
theorem groups_chain (unf : Arr R → Nat → Except Err (Arr R)) (G : List (List Nat)) (P : Nat) (x : Arr R)
    (h2 : ∀ g ∈ G, 2 ≤ g.length) :
    (List.range G.length).reverse.foldlM (fun x g => if multiB G g then unf x (P + g) else pure x) x
      = ((List.range G.length).map (fun g => P + g)).reverse.foldlM unf x := by
  rw [foldlM_if_filter (multiB G) (fun x g => unf x (P + g))]
  have hf : (List.range G.length).reverse.filter (multiB G) = (List.range G.length).reverse := by
    rw [List.filter_eq_self]
    intro g hg
    have hgl : g < G.length := by simpa using hg
    exact multiB_iff.2 ⟨G[g], List.getElem?_eq_getElem hgl, by
      have := h2 G[g] (List.getElem_mem hgl); omega⟩
  rw [hf, ← List.map_reverse, List.foldlM_map]

theorem eq_of_flatten_lengths : ∀ (A B : List (List Nat)), A.flatten = B.flatten →
    A.map List.length = B.map List.length → A = B := by
  intro A
  induction A with
  | nil =>
    intro B _ hl
    cases B with
    | nil => rfl
    | cons b B => simp at hl
  | cons a A ih =>
    intro B hf hl
    cases B with
    | nil => simp at hl
    | cons b B =>
      simp only [List.map_cons, List.cons.injEq] at hl
      simp only [List.flatten_cons] at hf
      have hab : a = b := by
        have := congrArg (List.take a.length) hf
        rw [List.take_left' rfl, hl.1, List.take_left' rfl] at this
        exact this
      subst hab
      rw [ih B (List.append_cancel_left hf) hl.2]

theorem newMidOf_sub (x : Arr R) (G : List (List Nat)) (h2 : ∀ g ∈ G, 2 ≤ g.length) (i : Nat)
    (g : List Nat) (hg : G[i]? = some g) :
    ∃ (ix : Index) (exts : Extents), (newMidOf x G)[i]? = some ix
      ∧ ix.sub = some (g.map (fun ax => x.indices.getD ax default), exts) := by
  have hgl := (List.getElem?_eq_some_iff.mp hg).1
  have hgm : g ∈ G := List.mem_of_getElem? hg
  have hne : (g.length == 1) = false := by
    have := h2 g hgm
    simp; omega
  have hz : G.zipIdx[i]? = some (g, i) := by
    rw [List.getElem?_zipIdx, hg]; simp
  refine ⟨fusedIndexOf (tableEntries (blockmapOf x G) (calcFuseGroupInfo G x.duals).position i)
      ((calcFuseGroupInfo G x.duals).groupDuals.getD i false)
      (g.map (fun ax => x.indices.getD ax default)), _, ?_, rfl⟩
  simp only [newMidOf, List.getElem?_map, hz, Option.map_some, hne, Bool.false_eq_true, if_false]

theorem fuseOK_F : FuseOK (R := R) (fun y G => Arr.fuseF y G .insert true) Arr.unfuseF
    (fun a => a.validB = true ∧ a.fermi = true) where
  fuse := by
    intro y G P ⟨hv, hf⟩ hne h2 hflat hle
    have hok := groupsOk_of_call hne h2 hflat hle
    have hgok : groupsOkB G y.ndim = true := groupsOk_iff.2 hok
    obtain ⟨hpos, hperm⟩ := groupInfo_run y hok hflat hle
    obtain ⟨y', z, hy', hz, hzv, hveq⟩ := C05.unfuseGroupsF_fuseF_veq y G true hv hf hgok
    rw [hpos] at hz
    rw [hperm] at hveq
    obtain ⟨hs1, hs2, _, hs4, hs5, _, _⟩ := C05.fuseF_struct y G .insert true hv hf hgok
    have hy'v : y'.validB = true := C01.fuseF_valid y y' G true hv hf (fuseAdmissible_of_groupsOk hgok) hy'
    have hyF := hy'
    rw [hs1] at hy'
    have hndS : (signAdj y G).ndim = y.ndim := by
      show (signAdj y G).indices.length = y.ndim
      rw [hs4, hperm]
      show (permuted y.indices (List.range y.indices.length)).length = _
      rw [permuted_range]; rfl
    have hok4 : GroupsOk (newGroupsF G y.duals) (signAdj y G).ndim := groupsOk_iff.1 hs5
    have hGeq : newGroupsF G y.duals = G := by
      obtain ⟨c1, c2⟩ := C05.newGroups_consecutive G y.duals (by rw [FuseP.duals_length]; exact hgok)
      apply eq_of_flatten_lengths _ _ _ c2
      rw [c1, hpos]
      conv => rhs; rw [hflat]
      rw [List.range'_eq_map_range]
    rw [hGeq] at hy' hok4
    have hy'f : y'.fermi = true := by
      have := fuseCore_multi_eq (validArr_of_validB hs2) hok4.adm
      rw [hy'] at this
      have e := Except.ok.inj this
      rw [e]
      show (signAdj y G).fermi = true
      rw [(signAdj_fields y G).2.2.2.1]; exact hf
    have hSidx : (signAdj y G).indices = y.indices := by
      rw [hs4, hperm]; exact permuted_range y.indices
    have hidx := ReshapeP.fuse_indices (x := signAdj y G) (groups := G) (p := P) hs2 hok4 hflat
      (by rw [hndS]; exact hle) hy'
    rw [hSidx] at hidx
    have hfull := Lazy.Full.of_valid hv hf
    have hobs := Norm.transposeF_id_obsEq hfull (Lazy.ShapeLen.of_valid hv)
    have hzy : VEq z y := hveq.trans (C05.veq_of_obsEq hobs)
    refine ⟨y', newMidOf (signAdj y G) G, z, hyF, ⟨hy'v, hy'f⟩, hidx, newMidOf_length _ _, ?_, ?_,
      ⟨hzv, by rw [hzy.fermi]; exact hf⟩, hzy⟩
    · intro i g hg
      obtain ⟨ix, exts, h1, h2'⟩ := newMidOf_sub (signAdj y G) G h2 i g hg
      rw [hSidx] at h2'
      exact ⟨ix, exts, h1, h2'⟩
    · rw [← groups_chain Arr.unfuseF G P y' h2]
      exact hz

theorem ind_F : ∀ (x : Arr R) (p : Nat) (y : Arr R), Arr.unfuseF x p = .ok y →
    ∃ ix subs exts, x.indices[p]? = some ix ∧ ix.sub = some (subs, exts) := by
  intro x p y h
  obtain ⟨ix, subs, exts, h1, h2, _⟩ := ValidP.unfuseF_indices h
  exact ⟨ix, subs, exts, h1, h2⟩

theorem disp_F : ∀ (x : Arr R) (p : Nat), (x.validB = true ∧ x.fermi = true) →
    unfuseDispatch x p = Arr.unfuseF x p := by
  intro x p h
  simp [unfuseDispatch, h.2]

end Reshape5
end SymmModel
