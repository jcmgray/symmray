/-
  SymmModel.Proofs.Assoc4Seg — chains of `n` tensors: the invariants of a composed chain segment
  (`Good`), their preservation under composition, congruence and associativity of the composition
  at the level of good segments.
-/
import SymmModel.Proofs.Assoc3Seg

namespace SymmModel
namespace Assoc4P
open TdotP GradedP RoutesP AssocP Assoc3P
set_option linter.unusedSectionVars false

variable {R : Type}

structure LeafOK (S : Seg R) : Prop where
  valid : S.arr.validB = true
  fermi : S.arr.fermi = true
  nd : (S.l ++ S.r).Nodup
  ltl : ∀ i ∈ S.l, i < S.arr.ndim
  ltr : ∀ i ∈ S.r, i < S.arr.ndim

/-- the bond between two consecutive tensors: same symmetry, weak guard -/
structure Link (S S' : Seg R) : Prop where
  sym : S.arr.sym = S'.arr.sym
  con : contractibleCommonB S.arr S'.arr S.r S'.l = true

theorem pruned_trans {a b c : Index} (h1 : Pruned a b) (h2 : Pruned b c) : Pruned a c := by
  obtain ⟨d1, f, e1⟩ := h1
  obtain ⟨d2, g, e2⟩ := h2
  refine ⟨d1.trans d2, fun k => g k && f k, ?_⟩
  rw [e1, e2, List.filter_filter]
  apply List.filter_congr
  intro p _
  rw [Bool.and_comm]

/-- the left open legs of `T` are pruned copies of the left open legs of the tensor `F` -/
def LeftIf (T F : Seg R) : Prop :=
  T.arr.sym = F.arr.sym ∧ T.l.length = F.l.length ∧ ∀ j, j < F.l.length →
    Pruned (T.arr.indices.getD (T.l.getD j 0) default) (F.arr.indices.getD (F.l.getD j 0) default)

/-- the right open legs of `T` are pruned copies of the right open legs of the tensor `La` -/
def RightIf (T La : Seg R) : Prop :=
  T.arr.sym = La.arr.sym ∧ T.r.length = La.r.length ∧ ∀ j, j < La.r.length →
    Pruned (T.arr.indices.getD (T.r.getD j 0) default) (La.arr.indices.getD (La.r.getD j 0) default)

/-- `T` is a contraction of the chain piece that starts with the tensor `F`, ends with `La` and
    carries the labels `labs` -/
structure Good (F La : Seg R) (labs : List (Int × Bool)) (T : Seg R) : Prop where
  ok : LeafOK T
  perm : T.arr.oddpos.Perm labs
  left : LeftIf T F
  right : RightIf T La

theorem Good.leaf {S : Seg R} (h : LeafOK S) : Good S S S.arr.oddpos S :=
  ⟨h, List.Perm.refl _, ⟨rfl, rfl, fun _ _ => Pruned.refl _⟩, ⟨rfl, rfl, fun _ _ => Pruned.refl _⟩⟩

def SegEqv [Zero R] [Neg R] (S S' : Seg R) : Prop := Eqv S.arr S'.arr ∧ S.l = S'.l ∧ S.r = S'.r

section basic
variable [Zero R] [Neg R]
theorem SegEqv.refl (S : Seg R) : SegEqv S S := ⟨Eqv.refl _, rfl, rfl⟩
theorem SegEqv.symm {S S' : Seg R} (h : SegEqv S S') : SegEqv S' S := ⟨h.1.symm, h.2.1.symm, h.2.2.symm⟩
theorem SegEqv.trans {S S' S'' : Seg R} (h : SegEqv S S') (h' : SegEqv S' S'') : SegEqv S S'' :=
  ⟨h.1.trans h'.1, h.2.1.trans h'.2.1, h.2.2.trans h'.2.2⟩
end basic

section comp
variable [AddCommMonoid R] [Mul R] [Neg R] [SignRing R] [AssocLaws R]

theorem admW_of_good {F1 L1 F2 L2 T1 T2 : Seg R} {labs1 labs2 : List (Int × Bool)}
    (g1 : Good F1 L1 labs1 T1) (g2 : Good F2 L2 labs2 T2) (lk : Link L1 F2) :
    AdmW T1.arr T2.arr T1.r T2.l := by
  have nr : T1.r.Nodup := (List.nodup_append.mp g1.ok.nd).2.1
  have nl : T2.l.Nodup := (List.nodup_append.mp g2.ok.nd).1
  refine ⟨g1.ok.valid, g2.ok.valid, g1.ok.fermi, g2.ok.fermi,
    by rw [g1.right.1, lk.sym, ← g2.left.1], ?_, nr, nl, g1.ok.ltr, g2.ok.ltl⟩
  have c1 : contractibleCommonB T1.arr F2.arr T1.r F2.l = true :=
    commonB_prune_left (a := L1.arr) (xa := L1.r) g1.right.2.1 g1.right.2.2 lk.con
  exact commonB_prune_right (b := F2.arr) (xb := F2.l) g2.left.2.1 g2.left.2.2 c1

theorem comp_good {F1 L1 F2 L2 T1 T2 : Seg R} {labs1 labs2 : List (Int × Bool)}
    (g1 : Good F1 L1 labs1 T1) (g2 : Good F2 L2 labs2 T2) (lk : Link L1 F2)
    (hd : OddposP.LabelsDistinct (labs1 ++ labs2)) :
    ∃ T, T1.comp T2 = .ok T ∧ Good F1 L2 (labs1 ++ labs2) T := by
  have W := admW_of_good g1 g2 lk
  have hd' : OddposP.LabelsDistinct (T1.arr.oddpos ++ T2.arr.oddpos) :=
    OddposP.LabelsDistinct.perm hd (g1.perm.symm.append g2.perm.symm)
  obtain ⟨Z, ph, eZ, I, pZ⟩ := call_pack T1.arr T2.arr T1.r T2.l W hd'
  have mid1 : Mid T1.arr.ndim T1.r T1.l := (Mid.of g1.ok.nd (by
    intro i hi
    rcases List.mem_append.mp hi with h | h
    · exact g1.ok.ltl i h
    · exact g1.ok.ltr i h)).symm
  have mid2 : Mid T2.arr.ndim T2.l T2.r := Mid.of g2.ok.nd (by
    intro i hi
    rcases List.mem_append.mp hi with h | h
    · exact g2.ok.ltl i h
    · exact g2.ok.ltr i h)
  refine ⟨⟨Z, positions (freeAxes T1.arr.ndim T1.r) T1.l,
    AssocP.axesAB T1.arr.ndim T2.arr.ndim T1.r T2.l T2.r⟩, ?_, ⟨⟨I.valid, I.fermi, ?_, ?_, ?_⟩,
    pZ.trans (g1.perm.append g2.perm), ?_, ?_⟩⟩
  · unfold Seg.comp tdF; rw [eZ]; rfl
  · refine List.nodup_append.mpr ⟨mid1.pos_nodup, AssocP.axesAB_nodup mid2, ?_⟩
    intro x hx y hy e
    have h1 := mid1.pos_lt x hx
    unfold AssocP.axesAB at hy
    obtain ⟨z, _, rfl⟩ := List.mem_map.mp hy
    omega
  · intro i hi
    show i < Z.ndim
    rw [I.ndim]
    have := mid1.pos_lt i hi
    omega
  · intro i hi
    show i < Z.ndim
    rw [I.ndim]
    exact AssocP.axesAB_lt mid2 i hi
  · refine ⟨by show Z.sym = _; rw [I.sym]; exact g1.left.1,
      by show (positions _ _).length = _; rw [mid1.pos_len]; exact g1.left.2.1, ?_⟩
    intro j hj
    have hj' : j < T1.l.length := by rw [g1.left.2.1]; exact hj
    obtain ⟨e2, e3⟩ := Assoc2P.pos_getD mid1 j hj'
    have := I.leg_left _ e2
    rw [e3] at this
    exact pruned_trans this (g1.left.2.2 j hj)
  · refine ⟨by show Z.sym = _; rw [I.sym, W.sym]; exact g2.right.1,
      by show (AssocP.axesAB _ _ _ _ _).length = _; rw [AssocP.axesAB_len mid2]; exact g2.right.2.1, ?_⟩
    intro j hj
    have hj' : j < T2.r.length := by rw [g2.right.2.1]; exact hj
    obtain ⟨e1, e2, e3⟩ := AssocP.axesAB_getD (nA := T1.arr.ndim) (xa := T1.r) mid2 j hj'
    have := I.leg_right _ e2
    rw [e3, ← e1] at this
    exact pruned_trans this (g2.right.2.2 j hj)

theorem comp_congr {F1 L1 F2 L2 T1 T2 T1' T2' T : Seg R} {labs1 labs2 : List (Int × Bool)}
    (g1 : Good F1 L1 labs1 T1) (g2 : Good F2 L2 labs2 T2) (lk : Link L1 F2)
    (e1 : SegEqv T1 T1') (e2 : SegEqv T2 T2') (v1 : T1'.arr.validB = true) (v2 : T2'.arr.validB = true)
    (h : T1.comp T2 = .ok T) : ∃ T', T1'.comp T2' = .ok T' ∧ SegEqv T T' := by
  have W := admW_of_good g1 g2 lk
  unfold Seg.comp at h ⊢
  cases hz : tdF T1.arr T2.arr T1.r T2.l with
  | error err => rw [hz] at h; cases h
  | ok Z =>
    rw [hz] at h
    simp only [Except.map, Except.ok.injEq] at h
    subst h
    obtain ⟨Z', eZ', hE⟩ := tdotF_congr W e1.1 e2.1 v1 v2 Z hz
    rw [← e1.2.2, ← e2.2.1]
    unfold tdF
    rw [eZ']
    refine ⟨_, rfl, hE, ?_, ?_⟩
    · show positions _ _ = positions _ _
      rw [e1.1.ndim, e1.2.1, e1.2.2]
    · show AssocP.axesAB _ _ _ _ _ = AssocP.axesAB _ _ _ _ _
      rw [e1.1.ndim, e2.1.ndim, e1.2.2, e2.2.1, e2.2.2]

theorem assoc_good {F1 L1 F2 L2 F3 L3 T1 T2 T3 : Seg R} {labs1 labs2 labs3 : List (Int × Bool)}
    (g1 : Good F1 L1 labs1 T1) (g2 : Good F2 L2 labs2 T2) (g3 : Good F3 L3 labs3 T3)
    (lk12 : Link L1 F2) (lk23 : Link L2 F3)
    (hd : OddposP.LabelsDistinct (labs1 ++ labs2 ++ labs3)) :
    ∃ S12 S23 L Rr : Seg R, T1.comp T2 = .ok S12 ∧ S12.comp T3 = .ok L
      ∧ T2.comp T3 = .ok S23 ∧ T1.comp S23 = .ok Rr ∧ SegEqv Rr L :=
  seg_assoc T1 T2 T3 (admW_of_good g1 g2 lk12) (admW_of_good g2 g3 lk23) g1.ok.nd g1.ok.ltl g2.ok.nd
    g3.ok.nd g3.ok.ltr
    (OddposP.LabelsDistinct.perm hd ((g1.perm.symm.append g2.perm.symm).append g3.perm.symm))

end comp

end Assoc4P
end SymmModel
