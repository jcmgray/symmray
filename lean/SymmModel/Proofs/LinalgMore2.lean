/-
  SymmModel.Proofs.LinalgMore2 — fermionic `solve`, preparations: value view and blocks of the
  operands `solveA` synchronises first (`syncIf`, `syncB`), and `Arr.matmulF` of a matrix with a
  vector in closed form.  The product `a @ solve(a, b)` is evaluated in Proofs/ReconSolve.lean.
-/
import SymmModel.Proofs.LinalgMore

namespace SymmModel
namespace LinalgLemmas

variable {R : Type}

theorem tdot_blocks_congr [Zero R] [Add R] [Mul R] {a a' b b' : Arr R} (ha : a.blocks = a'.blocks)
    (hb : b.blocks = b'.blocks) (l xa xb r : List Nat) :
    (tensordotBlockwise a b l xa xb r).blocks = (tensordotBlockwise a' b' l xa xb r).blocks := by
  unfold tensordotBlockwise
  simp only [ha, hb]

theorem alookup_map_snd {κ β γ : Type} [BEq κ] [LawfulBEq κ] (l : List (κ × β))
    (f : κ × β → γ) (k : κ) :
    alookup (l.map (fun p => (p.1, f p))) k = (alookup l k).map (fun v => f (k, v)) := by
  induction l with
  | nil => rfl
  | cons p l ih =>
    obtain ⟨k1, v1⟩ := p
    simp only [List.map_cons, alookup]
    by_cases h : k1 = k
    · subst h; simp
    · have : (k1 == k) = false := by simp [h]
      simp only [this, Bool.false_eq_true, if_false, ih]

theorem phaseSync_elem' [Zero R] [Neg R] (hn0 : -(0 : R) = 0) (a : Arr R) (s : Sector)
    (off : List Nat) : a.phaseSync.elem s off = a.elem s off := by
  have hb : a.phaseSync.blocks = a.blocks.map (fun p =>
      (p.1, if alookup a.phases p.1 == some (-1) then p.2.negK else p.2)) := by
    simp only [Arr.phaseSync]
    apply List.map_congr_left
    intro p _
    split <;> rfl
  unfold Arr.elem
  rw [hb, alookup_map_snd]
  cases alookup a.blocks s with
  | none => rfl
  | some b =>
    have hp : alookup a.phaseSync.phases s = none := rfl
    simp only [Option.map_some, hp]
    by_cases hc : (alookup a.phases s == some (-1)) = true
    · simp only [hc, if_true, negK_get hn0]
      rfl
    · simp only [hc, Bool.false_eq_true, if_false]
      rfl

theorem syncIf_elem [Zero R] [Neg R] (hn0 : -(0 : R) = 0) (a : Arr R) (s : Sector)
    (off : List Nat) : (syncIf a).elem s off = a.elem s off := by
  unfold syncIf
  split
  · exact phaseSync_elem' hn0 a s off
  · rfl

theorem syncB_elem [Zero R] [Neg R] (hn0 : -(0 : R) = 0) (a b : Arr R) (s : Sector)
    (off : List Nat) : (syncB a b).elem s off = b.elem s off := by
  unfold syncB
  split
  · exact phaseSync_elem' hn0 b s off
  · rfl

theorem syncIf_blocks_fermi [Neg R] (a : Arr R) (hf : a.fermi = true) :
    (syncIf a).blocks = a.phaseSync.blocks := by
  unfold syncIf
  split
  · rfl
  next h =>
    simp only [hf, Bool.true_and, Bool.not_eq_true', Bool.not_eq_false] at h
    exact (phaseSync_blocks_nil a (List.isEmpty_iff.mp h)).symm

theorem syncB_blocks_fermi [Neg R] (a b : Arr R) (hf : a.fermi = true) :
    (syncB a b).blocks = b.phaseSync.blocks := by
  unfold syncB
  split
  · rfl
  next h =>
    simp only [hf, Bool.true_and, Bool.not_eq_true', Bool.not_eq_false] at h
    exact (phaseSync_blocks_nil b (List.isEmpty_iff.mp h)).symm

theorem syncB_sectors [Neg R] (a b : Arr R) : (syncB a b).sectors = b.sectors := by
  unfold syncB
  split
  · exact phaseSync_sectors b
  · rfl

theorem solvesOn_congr [Zero R] [Add R] [Mul R] {K : Kernels R} {a a' b b' : Arr R}
    (ha : a.blocks = a'.blocks) (hb : b.blocks = b'.blocks) (h : K.SolvesOn a b) :
    K.SolvesOn a' b' := by
  intro s arr bb hm hl
  exact h s arr bb (ha ▸ hm) (hb ▸ hl)

theorem matmulF_eq_21 [Zero R] [Add R] [Mul R] [Neg R] (a b : Arr R) (ha : a.ndim = 2)
    (j0 : Index) (hb : b.indices = [j0]) :
    Arr.matmulF a b =
      resolveCombinedOddpos a.phaseSync (if j0.dual then b.phaseFlip [0] else b).phaseSync
        (tensordotBlockwise a.phaseSync (if j0.dual then b.phaseFlip [0] else b).phaseSync
          [0] [1] [0] []) := by
  have hbn : b.ndim = 1 := by simp [Arr.ndim, hb]
  have h1 : a.phaseSync.ndim = 2 := ha
  have h2 := (flipSync_ndim b j0.dual).trans hbn
  rw [SymmModel.matmulF_eq a b (by omega) (by omega) j0 (by rw [hb]; rfl),
    matmulA_eq _ _ (Or.inr h1) (Or.inl h2), h1, h2]
  rfl

end LinalgLemmas
end SymmModel
