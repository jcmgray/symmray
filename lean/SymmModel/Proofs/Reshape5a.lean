/-
  SymmModel.Proofs.Reshape5a — the planner on the way back, any number of fused axes: the old shape
  is described by a symbolic shape `st` (kept axes `(d, none)`, fused axes `(D, some subs)` of any —
  also sparse — size `D`), the target is `st` with every fused axis replaced by its sub-sizes.  The
  plan unfuses the fused axes LEFT TO RIGHT (axis numbers shifted by what was expanded before): the
  instance of `Reshape3.planner_greedy` for the segments "o" (kept axis) and "u" (fused axis).
-/
import SymmModel.Proofs.Reshape3f
namespace SymmModel.Reshape5
open SymmModel SymmModel.Reshape SymmModel.C07 SymmModel.Reshape3

/-- what one symbolic axis becomes in the target -/
def tgt1 (e : Nat × Option (List Nat)) : List Nat :=
  match e.2 with
  | none => [e.1]
  | some subs => subs

def tgt (st : SymShape) : List Nat := st.flatMap tgt1

/-- the axes to unfuse, left to right; `off` = number of axes before `st` in the expanded shape -/
def backAxes : SymShape → Nat → List Nat
  | [], _ => []
  | (_, none) :: r, off => backAxes r (off + 1)
  | (_, some subs) :: r, off => off :: backAxes r (off + subs.length)

/-- every fused axis of the symbolic shape has at least one sub-index (otherwise the first loop would unfuse it into
    nothing: `subsizes[i] == newshape[j:j]` matches the empty window); `Loc` of the "u" segments
    (Reshape3b) -/
def FusedOk (st : SymShape) : Prop := ∀ e ∈ st, ∀ subs, e.2 = some subs → subs ≠ []

@[simp] theorem tgt_nil : tgt [] = [] := rfl
@[simp] theorem tgt_append (a b : SymShape) : tgt (a ++ b) = tgt a ++ tgt b := by simp [tgt]
@[simp] theorem tgt_cons (e : Nat × Option (List Nat)) (b : SymShape) : tgt (e :: b) = tgt1 e ++ tgt b := by
  simp [tgt]

/-- the segments of the way back: an axis is kept, or it is a fused axis to be unfused (`k` = the next
    free key) -/
def segsBack : Nat → SymShape → List Seg
  | _, [] => []
  | k, (d, none) :: r => Seg.o (d, none) :: segsBack k r
  | k, (d, some subs) :: r => Seg.u k d subs :: segsBack (k + 1) r

theorem flatE_segsBack : ∀ (st : SymShape) (k : Nat), flatE (segsBack k st) = st
  | [], _ => rfl
  | (d, none) :: r, k => by simp [segsBack, Seg.ax, flatE_segsBack r]
  | (d, some subs) :: r, k => by simp [segsBack, Seg.ax, flatE_segsBack r]

theorem flatA_segsBack : ∀ (st : SymShape) (k : Nat), flatA (segsBack k st) = tgt st
  | [], _ => rfl
  | (d, none) :: r, k => by simp [segsBack, Seg.outA, Seg.outK, tgt1, flatA_segsBack r]
  | (d, some subs) :: r, k => by simp [segsBack, Seg.outA, Seg.outK, tgt1, flatA_segsBack r]

theorem greedy_segsBack : ∀ (st : SymShape) (k : Nat), FusedOk st → Greedy (segsBack k st)
  | [], _, _ => trivial
  | (d, none) :: r, k, h => .cons_o rfl (greedy_segsBack r k fun e he => h e (by simp [he]))
  | (d, some subs) :: r, k, h =>
    .cons_u (h (d, some subs) (by simp) subs rfl) (greedy_segsBack r _ fun e he => h e (by simp [he]))

theorem keyed_segsBack : ∀ (st : SymShape) (k : Nat), Keyed k 0 (segsBack k st)
  | [], _ => trivial
  | (_, none) :: r, k => .cons_o (keyed_segsBack r k)
  | (_, some _) :: r, _ => .cons_u (keyed_segsBack r _)

theorem unfAxes_segsBack : ∀ (st : SymShape) (k c : Nat), unfAxes c (segsBack k st) = backAxes st c
  | [], _, _ => rfl
  | (d, none) :: r, k, c => unfAxes_segsBack r k _
  | (d, some subs) :: r, k, c => by simp [segsBack, unfAxes, backAxes, unfAxes_segsBack r]

theorem segsBack_ou : ∀ (st : SymShape) (k : Nat), ∀ a ∈ segsBack k st, (∃ e, a = Seg.o e) ∨ ∃ j d subs, a = Seg.u j d subs
  | [], _ => fun _ h => by simp [segsBack] at h
  | (d, none) :: r, k => fun a ha => by
    rcases List.mem_cons.mp ha with rfl | ha
    · exact Or.inl ⟨_, rfl⟩
    · exact segsBack_ou r k a ha
  | (d, some subs) :: r, k => fun a ha => by
    rcases List.mem_cons.mp ha with rfl | ha
    · exact Or.inr ⟨_, _, _, rfl⟩
    · exact segsBack_ou r _ a ha

theorem run_back (st : SymShape) (hok : FusedOk st) :
    Run (SymShape.sizes st) (tgt st) (SymShape.subs st) {} (segsBack 0 st) := by
  have hrun := run_of_greedy (segsBack 0 st) [] [] {} rfl rfl (greedy_segsBack st 0 hok)
  simpa only [List.nil_append, List.append_nil, flatE_segsBack, flatA_segsBack] using hrun

theorem segsBack_split : ∀ (st : SymShape) (k : Nat) (P : List Seg) (a : Seg) (R : List Seg),
    segsBack k st = P ++ a :: R →
    ∃ pre e rest, st = pre ++ e :: rest ∧ flatE P = pre ∧ flatA P = tgt pre
  | [], _, P, a, R, h => by simp [segsBack] at h
  | e0 :: r, k, [], a, R, _ => ⟨[], e0, r, rfl, rfl, rfl⟩
  | (d, none) :: r, k, a0 :: P, a, R, h => by
    simp only [segsBack, List.cons_append, List.cons.injEq] at h
    obtain ⟨pre, e, rest, rfl, hE, hA⟩ := segsBack_split r k P a R h.2
    exact ⟨(d, none) :: pre, e, rest, rfl, by simp [← h.1, Seg.ax, hE],
      by simp [← h.1, Seg.outA, Seg.outK, tgt1, hA]⟩
  | (d, some subs) :: r, k, a0 :: P, a, R, h => by
    simp only [segsBack, List.cons_append, List.cons.injEq] at h
    obtain ⟨pre, e, rest, rfl, hE, hA⟩ := segsBack_split r (k + 1) P a R h.2
    exact ⟨(d, some subs) :: pre, e, rest, rfl, by simp [← h.1, Seg.ax, hE],
      by simp [← h.1, Seg.outA, Seg.outK, tgt1, hA]⟩

theorem back_plan_multi (st : SymShape) (hok : FusedOk st) :
    calcReshapeArgs (SymShape.sizes st) (tgt st) (SymShape.subs st) = .ok (backAxes st 0, [], []) := by
  have h := planner_greedy_plain (segsBack 0 st) (greedy_segsBack st 0 hok) (keyed_segsBack st 0)
    (List.any_eq_false.mpr fun a ha => by
      rcases segsBack_ou st 0 a ha with ⟨e, rfl⟩ | ⟨j, d, subs, rfl⟩ <;> simp [Seg.isS])
  rw [flatE_segsBack, flatA_segsBack, unfAxes_segsBack, callsOf_no_g] at h
  · exact h
  · intro k es hm
    rcases segsBack_ou st 0 _ (mem_unf_g hm) with ⟨e, he⟩ | ⟨j, d, subs, he⟩ <;> cases he

theorem flatE_unf_segsBack : ∀ (st : SymShape) (k : Nat),
    flatE (unf (segsBack k st)) = (tgt st).map fun d => ((d, none) : E)
  | [], _ => rfl
  | (d, none) :: r, k => by simp [segsBack, unf_cons, Seg.unf, Seg.ax, tgt1, flatE_unf_segsBack r]
  | (d, some subs) :: r, k => by
    simp [segsBack, unf_cons, Seg.unf, flatE_map_o, tgt1, flatE_unf_segsBack r]

theorem back_plan_exec (st : SymShape) (hok : FusedOk st) :
    (Plan.ofTriple (backAxes st 0, [], [])).exec st = some ((tgt st).map fun d => (d, none)) := by
  have := (planner_greedy (segsBack 0 st) [] (greedy_segsBack st 0 hok) (keyed_segsBack st 0)).1
  rw [unfAxes_segsBack, flatE_segsBack, flatE_unf_segsBack, List.append_nil, List.append_nil] at this
  simp only [Plan.exec, Plan.ofTriple, this, foldOpt]

theorem fusedE_back : ∀ {S : List Seg}, OG S → GTwo S → (∀ e ∈ flatE S, e.2 = none) →
    FusedOk (fusedE S) ∧ tgt (fusedE S) = SymShape.sizes (flatE S)
  | [], _, _, _ => ⟨fun _ h => by simp [fusedE] at h, rfl⟩
  | a :: S, hO, h2, hpl => by
    obtain ⟨ih1, ih2⟩ := fusedE_back (S := S) (fun b hb => hO b (by simp [hb]))
      (fun k es hm => h2 k es (by simp [hm])) (fun e he => hpl e (by simp [he]))
    have ha := hO a (by simp)
    simp only [fusedE, List.flatMap_cons, tgt_append, flatE_cons, sizes_append] at ih1 ih2 ⊢
    rw [ih2]
    cases a with
    | o e =>
      have he := hpl e (by simp [Seg.ax])
      refine ⟨fun x hx subs hs => ?_, by simp [Seg.fusedE, Seg.ax, tgt, tgt1, he, SymShape.sizes]⟩
      rcases List.mem_append.mp hx with hx | hx
      · simp only [Seg.fusedE, Seg.ax, List.mem_singleton] at hx; rw [hx, he] at hs; cases hs
      · exact ih1 x hx subs hs
    | g k es =>
      have hes := h2 k es (by simp)
      obtain ⟨e1, e2, r, rfl⟩ : ∃ e1 e2 r, es = e1 :: e2 :: r := by
        match es, hes with
        | e1 :: e2 :: r, _ => exact ⟨e1, e2, r, rfl⟩
      refine ⟨fun x hx subs hs => ?_, by simp [Seg.fusedE, grpE, Seg.ax, tgt, tgt1]⟩
      rcases List.mem_append.mp hx with hx | hx
      · simp only [Seg.fusedE, grpE, List.mem_singleton] at hx
        rw [hx] at hs; injection hs with hs; subst hs; simp [SymShape.sizes]
      · exact ih1 x hx subs hs
    | _ => simp [Seg.isOG] at ha

theorem backAxes_plain_append (l : List Nat) (r : SymShape) (off : Nat) :
    backAxes (l.map (fun d => (d, none)) ++ r) off = backAxes r (off + l.length) := by
  induction l generalizing off with
  | nil => rfl
  | cons d l ih =>
    simp only [List.map_cons, List.cons_append, backAxes, List.length_cons]
    rw [ih]; congr 1; omega

example : backAxes [(6, some [2, 3]), (7, none), (20, some [4, 5])] 0 = [0, 3]
    ∧ tgt [(6, some [2, 3]), (7, none), (20, some [4, 5])] = [2, 3, 7, 4, 5] := by decide

end SymmModel.Reshape5
