/-
  SymmModel.Proofs.Assoc3Main — S7 of property C04 with the WEAK guard (`contractibleCommonB`) on ALL
  calls: both routes visit the same stored sector triples, the second calls satisfy the weak guard,
  the index tables agree, and — for label lists on which the two label routes agree
  (`LabelRoutes`) — the two results agree.
-/
import SymmModel.Proofs.Assoc3Right

namespace SymmModel
namespace Assoc3P
open TdotP GradedP AssocP Assoc2P
open Lazy (sgnI)

variable {R : Type}

section triples
variable [AddMonoid R] [Mul R] [Neg R] [SignRing R]
variable {A B C AB BC : Arr R} {xa1 xa3 xb1 xb2 xc2 xc3 : List Nat} {ph : Int}

theorem mem_triplesL (I : Inter A B xa1 xb1 AB ph) (T : TriW A B C xa1 xa3 xb1 xb2 xc2 xc3)
    {s : Sector} {t : Sector × Sector × Sector} :
    t ∈ triplesL A B C AB xa1 xa3 xb1 xb2 xc2 xc3 s ↔ IsTriple A B C xa1 xa3 xb1 xb2 xc2 xc3 s t := by
  have hsa := Arr.shapesOk_of_validB T.hAB.va
  have hsb := Arr.shapesOk_of_validB T.hAB.vb
  have hsc := Arr.shapesOk_of_validB T.hBC.vb
  have hlenAC : xa3.length = xc3.length := commonB_len T.conAC
  unfold Assoc2P.triplesL Assoc2P.IsTriple
  simp only [List.mem_flatMap, List.mem_map]
  constructor
  · rintro ⟨⟨sab, sc⟩, hp, ⟨sa, sb⟩, hq, rfl⟩
    obtain ⟨_, hC, h23, h4⟩ := mem_storedPairs.mp hp
    obtain ⟨hA, hB, h1, hsab⟩ := mem_storedPairs.mp hq
    simp only at hsab h23 h4 hC ⊢
    subst hsab
    have hlsa := Arr.sector_length hsa hA
    have hlsb := Arr.sector_length hsb hB
    have hlsc := Arr.sector_length hsc hC
    rw [readAB_ax T.mA T.mB sa sb hlsa hlsb, permuted_append] at h23
    obtain ⟨h3, h2⟩ := List.append_inj h23 (by
      rw [permuted_length _ _ (by rw [hlsc]; exact T.mC.lt2),
        permuted_length _ _ (by rw [hlsa]; exact T.mA.lt2), hlenAC])
    rw [I.ndim, readAB_free T.mA T.mB sa sb hlsa hlsb, freeM_comm C.ndim xc2 xc3] at h4
    exact ⟨hA, hB, hC, h1, h2, h3, h4⟩
  · obtain ⟨sa, sb, sc⟩ := t
    rintro ⟨hA, hB, hC, h1, h2, h3, h4⟩
    simp only at hA hB hC h1 h2 h3 h4
    have hlsa := Arr.sector_length hsa hA
    have hlsb := Arr.sector_length hsb hB
    refine ⟨(permuted sa (freeAxes A.ndim xa1) ++ permuted sb (freeAxes B.ndim xb1), sc),
      mem_storedPairs.mpr ⟨I.mem_sectors.mpr ⟨sa, hA, sb, hB, h1, rfl⟩, hC, ?_, ?_⟩,
      (sa, sb), mem_storedPairs.mpr ⟨hA, hB, h1, rfl⟩, rfl⟩
    · rw [readAB_ax T.mA T.mB sa sb hlsa hlsb, permuted_append, h3, h2]
    · rw [I.ndim, readAB_free T.mA T.mB sa sb hlsa hlsb, freeM_comm C.ndim xc2 xc3]; exact h4

theorem mem_triplesR (I : Inter B C xb2 xc2 BC ph) (T : TriW A B C xa1 xa3 xb1 xb2 xc2 xc3)
    {s : Sector} {t : Sector × Sector × Sector} :
    t ∈ triplesR A B C BC xa1 xa3 xb1 xb2 xc2 xc3 s ↔ IsTriple A B C xa1 xa3 xb1 xb2 xc2 xc3 s t := by
  have hsa := Arr.shapesOk_of_validB T.hAB.va
  have hsb := Arr.shapesOk_of_validB T.hAB.vb
  have hsc := Arr.shapesOk_of_validB T.hBC.vb
  unfold Assoc2P.triplesR Assoc2P.IsTriple
  simp only [List.mem_flatMap, List.mem_map]
  constructor
  · rintro ⟨⟨sa, sbc⟩, hp, ⟨sb, sc⟩, hq, rfl⟩
    obtain ⟨hA, _, h13, h4⟩ := mem_storedPairs.mp hp
    obtain ⟨hB, hC, h2, hsbc⟩ := mem_storedPairs.mp hq
    simp only at hsbc h13 h4 hA ⊢
    subst hsbc
    have hlsa := Arr.sector_length hsa hA
    have hlsb := Arr.sector_length hsb hB
    have hlsc := Arr.sector_length hsc hC
    rw [readBC_ax T.mB T.mC sb sc hlsb hlsc, permuted_append] at h13
    obtain ⟨h1, h3⟩ := List.append_inj h13 (by
      rw [permuted_length _ _ (by rw [hlsb]; exact T.mB.lt1),
        permuted_length _ _ (by rw [hlsa]; exact T.mA.lt1), T.hAB.len])
    rw [I.ndim, readBC_free T.mB T.mC sb sc hlsb hlsc, ← List.append_assoc] at h4
    exact ⟨hA, hB, hC, h1, h2, h3, h4⟩
  · obtain ⟨sa, sb, sc⟩ := t
    rintro ⟨hA, hB, hC, h1, h2, h3, h4⟩
    simp only at hA hB hC h1 h2 h3 h4
    have hlsb := Arr.sector_length hsb hB
    have hlsc := Arr.sector_length hsc hC
    refine ⟨(sa, permuted sb (freeAxes B.ndim xb2) ++ permuted sc (freeAxes C.ndim xc2)),
      mem_storedPairs.mpr ⟨hA, I.mem_sectors.mpr ⟨sb, hB, sc, hC, h2, rfl⟩, ?_, ?_⟩,
      (sb, sc), mem_storedPairs.mpr ⟨hB, hC, h2, rfl⟩, rfl⟩
    · rw [readBC_ax T.mB T.mC sb sc hlsb hlsc, permuted_append, h1, h3]
    · rw [I.ndim, readBC_free T.mB T.mC sb sc hlsb hlsc, ← List.append_assoc]; exact h4

theorem keysL_iff (I : Inter A B xa1 xb1 AB ph) (T : TriW A B C xa1 xa3 xb1 xb2 xc2 xc3) (s : Sector) :
    s ∈ (tdKeys AB.sectors C.sectors (freeAxes AB.ndim (axesAB A.ndim B.ndim xa1 xa3 xb1 xb2)) (axesAB A.ndim B.ndim xa1 xa3 xb1 xb2) (xc3 ++ xc2) (freeAxes C.ndim (xc3 ++ xc2))).eraseDups
      ↔ ∃ t, IsTriple A B C xa1 xa3 xb1 xb2 xc2 xc3 s t := by
  rw [mem_keys_iff]
  constructor
  · rintro ⟨⟨sab, sc⟩, hp⟩
    obtain ⟨hsab, _, _, _⟩ := mem_storedPairs.mp hp
    obtain ⟨sa, hA, sb, hB, h1, e⟩ := I.mem_sectors.mp hsab
    refine ⟨(sa, sb, sc), (mem_triplesL I T).mp ?_⟩
    unfold Assoc2P.triplesL
    exact List.mem_flatMap.mpr ⟨(sab, sc), hp, List.mem_map.mpr
      ⟨(sa, sb), mem_storedPairs.mpr ⟨hA, hB, h1, e.symm⟩, rfl⟩⟩
  · rintro ⟨t, ht⟩
    have := (mem_triplesL I T).mpr ht
    unfold Assoc2P.triplesL at this
    obtain ⟨p, hp, _⟩ := List.mem_flatMap.mp this
    exact ⟨p, hp⟩

theorem keysR_iff (I : Inter B C xb2 xc2 BC ph) (T : TriW A B C xa1 xa3 xb1 xb2 xc2 xc3) (s : Sector) :
    s ∈ (tdKeys A.sectors BC.sectors (freeAxes A.ndim (xa1 ++ xa3)) (xa1 ++ xa3) (axesBC B.ndim C.ndim xb1 xb2 xc2 xc3) (freeAxes BC.ndim (axesBC B.ndim C.ndim xb1 xb2 xc2 xc3))).eraseDups
      ↔ ∃ t, IsTriple A B C xa1 xa3 xb1 xb2 xc2 xc3 s t := by
  rw [mem_keys_iff]
  constructor
  · rintro ⟨⟨sa, sbc⟩, hp⟩
    obtain ⟨_, hsbc, _, _⟩ := mem_storedPairs.mp hp
    obtain ⟨sb, hB, sc, hC, h1, e⟩ := I.mem_sectors.mp hsbc
    refine ⟨(sa, sb, sc), (mem_triplesR I T).mp ?_⟩
    unfold Assoc2P.triplesR
    exact List.mem_flatMap.mpr ⟨(sa, sbc), hp, List.mem_map.mpr
      ⟨(sb, sc), mem_storedPairs.mpr ⟨hB, hC, h1, e.symm⟩, rfl⟩⟩
  · rintro ⟨t, ht⟩
    have := (mem_triplesR I T).mpr ht
    unfold Assoc2P.triplesR at this
    obtain ⟨p, hp, _⟩ := List.mem_flatMap.mp this
    exact ⟨p, hp⟩

theorem boxL (I : Inter A B xa1 xb1 AB ph) (T : TriW A B C xa1 xa3 xb1 xb2 xc2 xc3)
    {LA LM LC : Sector} {oA oM oC : List Nat}
    (fa : FreeAddr A B C xa1 xa3 xb1 xb2 xc2 xc3 LA LM LC oA oM oC)
    {t : Sector × Sector × Sector} (ht : IsTriple A B C xa1 xa3 xb1 xb2 xc2 xc3 (LA ++ LM ++ LC) t) :
    inBox (Arr.blockShapeD (without AB.indices (axesAB A.ndim B.ndim xa1 xa3 xb1 xb2) ++ without C.indices (xc3 ++ xc2)) (LA ++ LM ++ LC))
      ((oA ++ oM) ++ oC) = true := by
  have hsa := Arr.shapesOk_of_validB T.hAB.va
  have hsb := Arr.shapesOk_of_validB T.hAB.vb
  have hsc := Arr.shapesOk_of_validB T.hBC.vb
  obtain ⟨p1, p2, p3, b1, b2, b3⟩ := fa.parts hsa hsb hsc ht
  obtain ⟨sa, sb, sc⟩ := t
  obtain ⟨hA, hB, hC, h1, _, _, _⟩ := ht
  simp only at hA hB hC h1 p1 p2 p3 b1 b2 b3
  obtain ⟨shpA, hA1, hA2, hA3, hA4⟩ := shape_of_mem hsa hA
  obtain ⟨shpB, hB1, hB2, hB3, hB4⟩ := shape_of_mem hsb hB
  obtain ⟨shpC, hC1, hC2, hC3, hC4⟩ := shape_of_mem hsc hC
  have hAB := blockShape?_permuted (I.shape hsa hsb hA hB h1)
    (freeAxes AB.ndim (axesAB A.ndim B.ndim xa1 xa3 xb1 xb2)) mem_freeAxes_lt
  rw [hA2, hB2, I.ndim, readAB_free T.mA T.mB sa sb hA4 hB4, readAB_free T.mA T.mB shpA shpB hA3 hB3,
    ← I.ndim] at hAB
  have hCC := blockShape?_permuted hC1 (freeAxes C.ndim (xc2 ++ xc3)) mem_freeAxes_lt
  have e5 : AB.indices.length = AB.ndim := rfl
  have e6 : C.indices.length = C.ndim := rfl
  rw [without_eq_permuted_freeAxes, without_eq_permuted_freeAxes, e5, e6, freeM_comm C.ndim xc2 xc3,
    Arr.blockShapeD, ← p1, ← p2, ← p3, blockShape?_append hAB hCC]
  rw [hA2] at b1
  rw [hB2] at b2
  rw [hC2] at b3
  exact inBox3
    (by rw [fa.loA, permuted_length _ _ (by intro x hx; rw [hA3]; exact (mem_freeAxes.mp hx).1)])
    (by rw [fa.loM, permuted_length _ _ (by intro x hx; rw [hB3]; exact (mem_freeAxes.mp hx).1)])
    b1 b2 b3

theorem boxR (I : Inter B C xb2 xc2 BC ph) (T : TriW A B C xa1 xa3 xb1 xb2 xc2 xc3)
    {LA LM LC : Sector} {oA oM oC : List Nat}
    (fa : FreeAddr A B C xa1 xa3 xb1 xb2 xc2 xc3 LA LM LC oA oM oC)
    {t : Sector × Sector × Sector} (ht : IsTriple A B C xa1 xa3 xb1 xb2 xc2 xc3 (LA ++ LM ++ LC) t) :
    inBox (Arr.blockShapeD (without A.indices (xa1 ++ xa3) ++ without BC.indices (axesBC B.ndim C.ndim xb1 xb2 xc2 xc3)) (LA ++ LM ++ LC))
      (oA ++ (oM ++ oC)) = true := by
  have hsa := Arr.shapesOk_of_validB T.hAB.va
  have hsb := Arr.shapesOk_of_validB T.hAB.vb
  have hsc := Arr.shapesOk_of_validB T.hBC.vb
  obtain ⟨p1, p2, p3, b1, b2, b3⟩ := fa.parts hsa hsb hsc ht
  obtain ⟨sa, sb, sc⟩ := t
  obtain ⟨hA, hB, hC, _, h2, _, _⟩ := ht
  simp only at hA hB hC h2 p1 p2 p3 b1 b2 b3
  obtain ⟨shpA, hA1, hA2, hA3, hA4⟩ := shape_of_mem hsa hA
  obtain ⟨shpB, hB1, hB2, hB3, hB4⟩ := shape_of_mem hsb hB
  obtain ⟨shpC, hC1, hC2, hC3, hC4⟩ := shape_of_mem hsc hC
  have hBC := blockShape?_permuted (I.shape hsb hsc hB hC h2)
    (freeAxes BC.ndim (axesBC B.ndim C.ndim xb1 xb2 xc2 xc3)) mem_freeAxes_lt
  rw [hB2, hC2, I.ndim, readBC_free T.mB T.mC sb sc hB4 hC4, readBC_free T.mB T.mC shpB shpC hB3 hC3,
    ← I.ndim] at hBC
  have hAA := blockShape?_permuted hA1 (freeAxes A.ndim (xa1 ++ xa3)) mem_freeAxes_lt
  have e5 : BC.indices.length = BC.ndim := rfl
  have e6 : A.indices.length = A.ndim := rfl
  rw [without_eq_permuted_freeAxes, without_eq_permuted_freeAxes, e5, e6, Arr.blockShapeD,
    List.append_assoc LA LM LC, ← p1, ← p2, ← p3, blockShape?_append hAA hBC,
    ← List.append_assoc oA oM oC]
  rw [hA2] at b1
  rw [hB2] at b2
  rw [hC2] at b3
  show inBox (permuted shpA _ ++ (permuted shpB _ ++ permuted shpC _)) _ = true
  rw [← List.append_assoc]
  exact inBox3
    (by rw [fa.loA, permuted_length _ _ (by intro x hx; rw [hA3]; exact (mem_freeAxes.mp hx).1)])
    (by rw [fa.loM, permuted_length _ _ (by intro x hx; rw [hB3]; exact (mem_freeAxes.mp hx).1)])
    b1 b2 b3

theorem idxL (I : Inter A B xa1 xb1 AB ph) (T : TriW A B C xa1 xa3 xb1 xb2 xc2 xc3) (Tr : Arr R)
    {ph' : Int} (F : Inter AB C (axesAB A.ndim B.ndim xa1 xa3 xb1 xb2) (xc3 ++ xc2) Tr ph') :
    Tr.indices = dropUnused (permuted A.indices (freeAxes A.ndim (xa1 ++ xa3)) ++ (permuted B.indices (freeAxes B.ndim (xb1 ++ xb2)) ++ permuted C.indices (freeAxes C.ndim (xc2 ++ xc3)))) Tr.sectors := by
  rw [F.indices_left (Arr.shapesOk_of_validB I.valid) I.indices]
  congr 1
  rw [without_eq_permuted_freeAxes A.indices, without_eq_permuted_freeAxes B.indices,
    without_eq_permuted_freeAxes C.indices, I.ndim]
  have e6 : A.indices.length = A.ndim := rfl
  have e7 : B.indices.length = B.ndim := rfl
  have e8 : C.indices.length = C.ndim := rfl
  rw [e6, e7, e8, readAB_free T.mA T.mB A.indices B.indices rfl rfl, freeM_comm C.ndim xc2 xc3,
    List.append_assoc]

theorem idxR (I : Inter B C xb2 xc2 BC ph) (T : TriW A B C xa1 xa3 xb1 xb2 xc2 xc3) (Tr : Arr R)
    {ph' : Int} (F : Inter A BC (xa1 ++ xa3) (axesBC B.ndim C.ndim xb1 xb2 xc2 xc3) Tr ph') :
    Tr.indices = dropUnused (permuted A.indices (freeAxes A.ndim (xa1 ++ xa3)) ++ (permuted B.indices (freeAxes B.ndim (xb1 ++ xb2)) ++ permuted C.indices (freeAxes C.ndim (xc2 ++ xc3)))) Tr.sectors := by
  rw [F.indices_right (Arr.shapesOk_of_validB T.hAB.va) (Arr.shapesOk_of_validB I.valid) I.indices]
  congr 1
  rw [without_eq_permuted_freeAxes A.indices, without_eq_permuted_freeAxes B.indices,
    without_eq_permuted_freeAxes C.indices, I.ndim]
  have e6 : A.indices.length = A.ndim := rfl
  have e7 : B.indices.length = B.ndim := rfl
  have e8 : C.indices.length = C.ndim := rfl
  rw [e6, e7, e8, readBC_free T.mB T.mC B.indices C.indices rfl rfl]

end triples

section final
variable [AddCommMonoid R] [Mul R] [Neg R] [SignRing R] [AssocLaws R]

/-- **associativity of `tensordotF`** for three operands with bonds `A–B`, `B–C` and (optionally)
    `A–C` under the weak guard on all bonds (see `Props/C04e.lean`) -/
theorem tdotF_assoc_w (A B C : Arr R) (xa1 xa3 xb1 xb2 xc2 xc3 : List Nat)
    (hA : A.validB = true) (hB : B.validB = true) (hC : C.validB = true)
    (hfA : A.fermi = true) (hfB : B.fermi = true) (hfC : C.fermi = true)
    (h1 : tdotAdmissibleCommonB A B xa1 xb1 = true) (h2 : tdotAdmissibleCommonB B C xb2 xc2 = true)
    (h3 : contractibleCommonB A C xa3 xc3 = true)
    (hnA : (xa1 ++ xa3).Nodup) (hnB : (xb1 ++ xb2).Nodup) (hnC : (xc2 ++ xc3).Nodup)
    (hltA : ∀ i ∈ xa3, i < A.ndim) (hltC : ∀ i ∈ xc3, i < C.ndim)
    (hL : LabelRoutes A.parity B.parity A.oddpos B.oddpos C.oddpos) :
    ∃ AB BC c1 c2 : Arr R,
      A.tensordotF B (.pair (xa1.map Int.ofNat) (xb1.map Int.ofNat)) .blockwise = .ok AB
      ∧ AB.tensordotF C (.pair ((axesAB A.ndim B.ndim xa1 xa3 xb1 xb2).map Int.ofNat) ((xc3 ++ xc2).map Int.ofNat)) .blockwise = .ok c1
      ∧ B.tensordotF C (.pair (xb2.map Int.ofNat) (xc2.map Int.ofNat)) .blockwise = .ok BC
      ∧ A.tensordotF BC (.pair ((xa1 ++ xa3).map Int.ofNat) ((axesBC B.ndim C.ndim xb1 xb2 xc2 xc3).map Int.ofNat)) .blockwise = .ok c2
      ∧ c2.oddpos = c1.oddpos ∧ c2.charge = c1.charge ∧ c2.sym = c1.sym ∧ c2.fermi = c1.fermi
      ∧ (∀ s, s ∈ c1.sectors ↔ ∃ t, IsTriple A B C xa1 xa3 xb1 xb2 xc2 xc3 s t)
      ∧ (∀ s, s ∈ c2.sectors ↔ s ∈ c1.sectors)
      ∧ c2.indices = c1.indices
      ∧ c1.indices = dropUnused (permuted A.indices (freeAxes A.ndim (xa1 ++ xa3)) ++ (permuted B.indices (freeAxes B.ndim (xb1 ++ xb2)) ++ permuted C.indices (freeAxes C.ndim (xc2 ++ xc3)))) c1.sectors
      ∧ ∀ (LA LM LC : Sector) (oA oM oC : List Nat),
          FreeAddr A B C xa1 xa3 xb1 xb2 xc2 xc3 LA LM LC oA oM oC →
          c2.elem (LA ++ LM ++ LC) (oA ++ oM ++ oC) = c1.elem (LA ++ LM ++ LC) (oA ++ oM ++ oC) := by
  have hAB := AdmW.of hA hB hfA hfB h1
  have hBC := AdmW.of hB hC hfB hfC h2
  have T : TriW A B C xa1 xa3 xb1 xb2 xc2 xc3 :=
    ⟨hAB, hBC,
      Mid.of hnA (by
        intro i hi
        rcases List.mem_append.mp hi with h | h
        · exact hAB.ltA i h
        · exact hltA i h),
      Mid.of hnB (by
        intro i hi
        rcases List.mem_append.mp hi with h | h
        · exact hAB.ltB i h
        · exact hBC.ltA i h),
      Mid.of hnC (by
        intro i hi
        rcases List.mem_append.mp hi with h | h
        · exact hBC.ltB i h
        · exact hltC i h), h3⟩
  have hsa := Arr.shapesOk_of_validB hA
  have hsb := Arr.shapesOk_of_validB hB
  have hsc := Arr.shapesOk_of_validB hC
  obtain ⟨lab, sab, lbc, sbc, out, s1, s2, m1, m2, m3, m4, hs, q1, q2, q3, q4⟩ := hL
  obtain ⟨AB, call1, J1⟩ := Call.of_merge hAB m1
  obtain ⟨BC, call3, J2⟩ := Call.of_merge hBC m3
  have I1 := J1.toInter
  have I2 := J2.toInter
  have W1 := admW_left_tri_w I1.toW T
  have W2 := admW_right_tri_w I2.toW T
  have hparAB : AB.parity = xor A.parity B.parity := by
    unfold Arr.parity
    rw [I1.sym, I1.charge, Sym.parity_combine_pair, hAB.sym]
  obtain ⟨c1, call2, K1⟩ := Call.of_merge W1 (by rw [hparAB, J1.oddpos]; exact m2)
  obtain ⟨c2, call4, K2⟩ := Call.of_merge W2 (by rw [J2.oddpos]; exact m4)
  have hsec1 : ∀ s, s ∈ c1.sectors ↔ ∃ t, IsTriple A B C xa1 xa3 xb1 xb2 xc2 xc3 s t := by
    intro s
    rw [K1.sectors]
    exact keysL_iff I1 T s
  have hsec2 : ∀ s, s ∈ c2.sectors ↔ ∃ t, IsTriple A B C xa1 xa3 xb1 xb2 xc2 xc3 s t := by
    intro s
    rw [K2.sectors]
    exact keysR_iff I2 T s
  refine ⟨AB, BC, c1, c2, call1, call2, call3, call4, by rw [K2.oddpos, K1.oddpos], ?_, ?_, ?_, hsec1,
    fun s => (hsec2 s).trans (hsec1 s).symm, ?_, ?_, ?_⟩
  · rw [K2.charge, K1.charge, I1.sym, I1.charge, I2.charge, ← hAB.sym]
    exact (Sym.combine_assoc A.sym A.charge B.charge C.charge).symm
  · rw [K2.sym, K1.sym, I1.sym]
  · rw [K2.fermi, K1.fermi]
  · rw [idxR I2 T c2 K2.toInter, idxL I1 T c1 K1.toInter]
    exact dropUnused_congr_mem _ (fun s => (hsec2 s).trans (hsec1 s).symm)
  · exact idxL I1 T c1 K1.toInter
  · intro LA LM LC oA oM oC fa
    by_cases hex : ∃ t, IsTriple A B C xa1 xa3 xb1 xb2 xc2 xc3 (LA ++ LM ++ LC) t
    · obtain ⟨t, ht⟩ := hex
      rw [K1.elem _ (oA ++ oM) oC (by
          rw [I1.ndim, freeAB_len T.mA T.mB, List.length_append, fa.loA, fa.loM])
          (boxL I1 T fa ht),
        route_left I1 T fa]
      rw [List.append_assoc oA oM oC, K2.elem _ oA (oM ++ oC) fa.loA (boxR I2 T fa ht),
        route_right I2 T fa]
      rw [sgnI_comp q2 q1, sgnI_comp q4 q3]
      have hperm : (triplesR A B C BC xa1 xa3 xb1 xb2 xc2 xc3 (LA ++ LM ++ LC)).Perm
          (triplesL A B C AB xa1 xa3 xb1 xb2 xc2 xc3 (LA ++ LM ++ LC)) := by
        rw [List.perm_ext_iff_of_nodup
          (Assoc2P.triplesR_nodup (Arr.validB_nodup I2.valid)
            (Arr.validB_nodup hA)
            (Arr.validB_nodup hB)
            (Arr.validB_nodup hC) _)
          (Assoc2P.triplesL_nodup (Arr.validB_nodup I1.valid)
            (Arr.validB_nodup hA)
            (Arr.validB_nodup hB)
            (Arr.validB_nodup hC) _)]
        intro t'
        exact (mem_triplesR I2 T).trans (mem_triplesL I1 T).symm
      rw [(hperm.map _).sum_eq]
      congr 1
      -- the label signs (`hs : sab * s1 = sbc * s2`): the only place where `LabelRoutes` enters the
      -- value clause
      rw [Int.mul_comm, ← hs, Int.mul_comm]
    · rw [Arr.elem_of_not_mem (fun hm => hex ((hsec1 _).mp hm)),
        Arr.elem_of_not_mem (fun hm => hex ((hsec2 _).mp hm))]

end final

end Assoc3P
end SymmModel
