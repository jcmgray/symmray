/-
  SymmModel.Proofs.DTypeFlowEval — the step interpreter `evalOp` and the fold of `runStep` that is
  `runProg` preserve a uniform dtype and raise no loss flag (C20b), for steps with admissible
  parameters (`Op.admissible`) and a result whose `defaulted` flag is clear.
-/
import SymmModel.Proofs.DTypeFlowProg
namespace SymmModel.DFlow
open SymmModel DType

/-- parameters of a step that are compatible with data of dtype `d`: scalar operands that cannot
    change a `d` block, constructors asked for `d` (`random` without `dtype=` means float64) -/
def Op.admissible (d : DType) : Op → Bool
  | .scalarOp s => s.okFor d
  | .fromFill _ _ _ _ e _ => e == d
  | .random _ _ _ _ dt _ => dt.getD f64 == d
  | .fromDense _ _ _ e _ _ _ _ => e == d
  | _ => true

/-- a value all of whose dtypes are `d` (arrays) resp. `d` or its real part (vectors, scalars,
    dense vectors: singular values, eigenvalues, norms) -/
def ValOK (d : DType) : DVal → Prop
  | .arr a => Uni d a.blocks
  | .vec v => UniW d v.blocks
  | .scalar s => s.valOK d
  | .dense e => Within d e

def ValsOK (d : DType) : List DVal → Prop
  | [] => True
  | v :: vs => ValOK d v ∧ ValsOK d vs

def EnvOK (d : DType) (env : Env) : Prop := ∀ p ∈ env, ValOK d p.2

theorem okv_eq {vs outs : List DVal} {fl : Flags} (h : okv vs = .ok (outs, fl)) :
    outs = vs ∧ fl = Flags.none := by
  have := pure_ok h
  injection this with h1 h2
  exact ⟨h1.symm, h2.symm⟩

/-! The three shapes of a step: it returns values without flags, it binds one fallible computation and
    returns values built from its result, or it returns the array and the flags of that computation. -/

theorem okv_preserves {d : DType} {vs outs : List DVal} {fl : Flags} (h : okv vs = .ok (outs, fl))
    (hv : ValsOK d vs) : ValsOK d outs ∧ fl.losesImag = false ∧ fl.narrows = false := by
  obtain ⟨rfl, rfl⟩ := okv_eq h
  exact ⟨hv, rfl, rfl⟩

theorem bind_okv_preserves {α : Type} {d : DType} {x : Except Err α} {g : α → List DVal}
    {outs : List DVal} {fl : Flags} (h : (x >>= fun r => okv (g r)) = .ok (outs, fl))
    (hg : ∀ r, x = .ok r → ValsOK d (g r)) :
    ValsOK d outs ∧ fl.losesImag = false ∧ fl.narrows = false := by
  obtain ⟨r, hr, h2⟩ := bind_ok_iff.mp h
  exact okv_preserves h2 (hg r hr)

theorem bind_arr_preserves {d : DType} {x : Except Err (DArr × Flags)} {outs : List DVal} {fl : Flags}
    (h : (x >>= fun r => pure ([DVal.arr r.1], r.2)) = .ok (outs, fl))
    (hx : ∀ r, x = .ok r → Uni d r.1.blocks ∧ r.2 = Flags.none) :
    ValsOK d outs ∧ fl.losesImag = false ∧ fl.narrows = false := by
  obtain ⟨r, hr, h2⟩ := bind_ok_iff.mp h
  injection pure_ok h2 with h3 h4
  rw [← h3, ← h4, (hx r hr).2]
  exact ⟨⟨(hx r hr).1, trivial⟩, rfl, rfl⟩

theorem evalOp_preserves {d : DType} {op : Op} {ins outs : List DVal} {fl : Flags}
    (hadm : op.admissible d = true) (hins : ValsOK d ins) (h : evalOp op ins = .ok (outs, fl))
    (hdef : fl.defaulted = false) :
    ValsOK d outs ∧ fl.losesImag = false ∧ fl.narrows = false := by
  have arrs : ∀ {a : DArr}, Uni d a.blocks → ∀ x ∈ a.blocks.map (·.2), Within d x := fun ha x hx => by
    obtain ⟨p, hp, rfl⟩ := List.mem_map.mp hx
    exact Or.inl (ha p hp)
  have vecs : ∀ {v : DVec}, UniW d v.blocks → ∀ x ∈ v.blocks.map (·.2), Within d x := fun hv x hx => by
    obtain ⟨p, hp, rfl⟩ := List.mem_map.mp hx
    exact hv p hp
  unfold evalOp at h
  split at h
  all_goals try simp only [ValsOK, ValOK, and_true] at hins
  · split at h
    · cases h
    · exact okv_preserves h ⟨transposeD_uni hins _, trivial⟩
  · exact okv_preserves h ⟨conjD_uni hins, trivial⟩
  · exact okv_preserves h ⟨daggerD_uni hins, trivial⟩
  -- keep (array)
  · exact okv_preserves h ⟨hins, trivial⟩
  -- keep (vector)
  · exact okv_preserves h ⟨hins, trivial⟩
  · exact okv_preserves h ⟨syncChargesD_uni hins, trivial⟩
  · exact bind_okv_preserves h fun r hr => ⟨squeezeD_uni hins hr, trivial⟩
  · split at h
    · cases h
    · exact okv_preserves h ⟨expandDimsD_uni hins _ _ _, trivial⟩
  · exact bind_arr_preserves h fun r hr => fuseD_uni hins hr
  · exact bind_arr_preserves h fun r hr => fuseCoreD_uni hins hr
  · exact bind_okv_preserves h fun r hr => ⟨unfuseD_uni hins hr, trivial⟩
  · exact bind_okv_preserves h fun r hr => ⟨unfuseAllD_uni hins hr, trivial⟩
  · exact bind_arr_preserves h fun r hr => reshapeD_uni hins hr
  · exact bind_arr_preserves h fun r hr => tensordotD_uni hins.1 hins.2 hr
  · exact bind_okv_preserves h fun r hr => ⟨matmulD_uni hins.1 hins.2 hr, trivial⟩
  · exact bind_okv_preserves h fun r hr => ⟨traceD_valOK hins hr, trivial⟩
  · exact bind_okv_preserves h fun r hr => ⟨einsumD_uni hins hr, trivial⟩
  · exact okv_preserves h ⟨multiplyDiagonalD_uni hins.1 hins.2 _, trivial⟩
  -- align_axes
  · exact okv_preserves h
      ⟨(dropMisalignedD_uni hins.1 hins.2 _ _).1, (dropMisalignedD_uni hins.1 hins.2 _ _).2, trivial⟩
  · exact bind_okv_preserves h fun r hr => ⟨binopD_uni hins.1 hins.2 hr, trivial⟩
  -- binop (vectors)
  · refine bind_okv_preserves h fun r hr => ⟨?_, trivial⟩
    obtain ⟨bl, hbl, h3⟩ := bind_ok_iff.mp hr
    rw [← pure_ok h3]
    exact binaryD_uniW hins.1 hins.2 hbl
  · exact okv_preserves h ⟨scalarD_uni hins hadm, trivial⟩
  · exact okv_preserves h ⟨vscalarD_uniW hins hadm, trivial⟩
  -- scalar op (scalar)
  · exact okv_preserves h ⟨combine_valOK hins hadm, trivial⟩
  · exact bind_okv_preserves h fun r hr => ⟨normD_within (arrs hins) hr, trivial⟩
  · exact bind_okv_preserves h fun r hr => ⟨normD_within (vecs hins) hr, trivial⟩
  · exact bind_okv_preserves h fun r hr => ⟨reduceD_within (arrs hins) hr, trivial⟩
  · exact bind_okv_preserves h fun r hr => ⟨reduceD_within (vecs hins) hr, trivial⟩
  · obtain ⟨r, hr, h2⟩ := bind_ok_iff.mp h
    injection pure_ok h2 with h3 h4
    subst h3 h4
    obtain ⟨h3, h4, h5⟩ := toDenseD_uni hins hr hdef
    exact ⟨⟨Or.inl h3, trivial⟩, h4, h5⟩
  · injection pure_ok h with h3 h4
    subst h3 h4
    obtain ⟨h3, h4, h5⟩ := fillMissingD_uni hins hdef
    exact ⟨⟨h3, trivial⟩, h4, h5⟩
  · exact bind_okv_preserves h fun r hr => ⟨(qrD_uni hins hr).1, (qrD_uni hins hr).2, trivial⟩
  · refine bind_okv_preserves h fun r hr => ?_
    obtain ⟨h3, h4, h5⟩ := svdD_uni hins hr
    exact ⟨h3, uni_real_to_uniW h4, h5, trivial⟩
  · exact bind_okv_preserves h fun r hr =>
      ⟨uni_real_to_uniW (eighD_uni hins hr).1, (eighD_uni hins hr).2, trivial⟩
  · exact bind_okv_preserves h fun r hr => ⟨solveD_uni hins.1 hins.2 hr, trivial⟩
  · obtain ⟨r, hr, h2⟩ := bind_ok_iff.mp h
    obtain ⟨h3, h4, h5⟩ := svdTruncatedD_uni hins hr
    split at h2
    · rename_i s hs
      exact okv_preserves h2 ⟨h3, uni_real_to_uniW (h4 s hs), h5, trivial⟩
    · exact okv_preserves h2 ⟨h3, h5, trivial⟩
  · simp only [Op.admissible, beq_iff_eq] at hadm
    subst hadm
    exact bind_okv_preserves h fun r hr => ⟨fromFillD_uni hr, trivial⟩
  -- random
  · simp only [Op.admissible, beq_iff_eq] at hadm
    subst hadm
    exact bind_okv_preserves h fun r hr => ⟨fromFillD_uni hr, trivial⟩
  · simp only [Op.admissible, beq_iff_eq] at hadm
    subst hadm
    exact bind_okv_preserves h fun r hr => ⟨fromDenseD_uni hr, trivial⟩
  · exact okv_preserves h ⟨vabsD_uniW hins, trivial⟩
  · exact bind_okv_preserves h fun r hr => ⟨vtoDenseD_within hins hr, trivial⟩
  -- anything else is a type error
  · cases h

theorem valsOK_mem {d : DType} {vs : List DVal} (h : ValsOK d vs) : ∀ v ∈ vs, ValOK d v := by
  induction vs with
  | nil => intro v hv; cases hv
  | cons w ws ih =>
    intro v hv
    rcases List.mem_cons.mp hv with rfl | hv
    · exact h.1
    · exact ih h.2 v hv

theorem valsOK_of_mem {d : DType} {vs : List DVal} (h : ∀ v ∈ vs, ValOK d v) : ValsOK d vs := by
  induction vs with
  | nil => trivial
  | cons w ws ih => exact ⟨h w (by simp), ih (fun v hv => h v (by simp [hv]))⟩

theorem envOK_ainsert {d : DType} {env : Env} {n : String} {v : DVal} (he : EnvOK d env) (hv : ValOK d v) :
    EnvOK d (ainsert env n v) := by
  intro p hp
  rcases mem_ainsert hp with h | h
  · exact he p h
  · rw [h]; exact hv

theorem bindOuts_ok {d : DType} {env : Env} {outs : List String} {vals : List DVal}
    (he : EnvOK d env) (hv : ValsOK d vals) : EnvOK d (bindOuts env outs vals) :=
  foldl_inv (EnvOK d) _ _ env he
    (fun _ nv hnv hb => envOK_ainsert hb (valsOK_mem hv nv.2 (List.of_mem_zip hnv).2))

theorem lookups_ok {d : DType} {env : Env} (he : EnvOK d env) (names : List String) (ins : List DVal)
    (h : names.mapM (fun n => match alookup env n with
      | some v => pure v
      | none => (throw Err.key : Except Err DVal)) = .ok ins) : ValsOK d ins := by
  apply valsOK_of_mem
  intro v hv
  obtain ⟨n, _, hn⟩ := mapM_ok_mem _ _ _ h v hv
  split at hn
  · rename_i w hl
    rw [← pure_ok hn]
    obtain ⟨k, hk⟩ := alookup_mem hl
    exact he (k, w) hk
  · cases hn

theorem flags_or_defaulted {f g : Flags} (h : (f.or g).defaulted = false) :
    f.defaulted = false ∧ g.defaulted = false := by
  simp only [Flags.or, Bool.or_eq_false_iff] at h
  exact h

theorem runStep_preserves {d : DType} {st st' : Env × Flags} {s : Step}
    (hadm : s.op.admissible d = true) (he : EnvOK d st.1)
    (hf : st.2.losesImag = false ∧ st.2.narrows = false)
    (h : runStep st s = .ok st') (hdef : st'.2.defaulted = false) :
    EnvOK d st'.1 ∧ st'.2.losesImag = false ∧ st'.2.narrows = false := by
  unfold runStep at h
  obtain ⟨ins, hins, h2⟩ := bind_ok_iff.mp h
  obtain ⟨r, hr, h3⟩ := bind_ok_iff.mp h2
  have := pure_ok h3
  subst this
  simp only at hdef
  obtain ⟨_, hd2⟩ := flags_or_defaulted hdef
  obtain ⟨h4, h5, h6⟩ := evalOp_preserves (outs := r.1) (fl := r.2) hadm (lookups_ok he _ _ hins) hr hd2
  refine ⟨bindOuts_ok he h4, ?_, ?_⟩
  · simp only [Flags.or, hf.1, h5, Bool.or_self]
  · simp only [Flags.or, hf.2, h6, Bool.or_self]

theorem flags_defaulted_mono_step {st st' : Env × Flags} {s : Step} (h : runStep st s = .ok st')
    (hdef : st'.2.defaulted = false) : st.2.defaulted = false := by
  unfold runStep at h
  obtain ⟨ins, _, h2⟩ := bind_ok_iff.mp h
  obtain ⟨r, _, h3⟩ := bind_ok_iff.mp h2
  have := pure_ok h3
  subst this
  exact (flags_or_defaulted hdef).1

theorem foldlM_runStep_preserves {d : DType} (steps : List Step) :
    ∀ (st st' : Env × Flags), (∀ s ∈ steps, s.op.admissible d = true) → EnvOK d st.1 →
      (st.2.losesImag = false ∧ st.2.narrows = false) →
      steps.foldlM runStep st = .ok st' → st'.2.defaulted = false →
      EnvOK d st'.1 ∧ st'.2.losesImag = false ∧ st'.2.narrows = false ∧ st.2.defaulted = false := by
  intro st st' hadm he hf h
  -- the `defaulted` flag only grows, so the invariant of a state is conditional on its own flag
  refine foldlM_ok_inv (fun (x : Env × Flags) => x.2.defaulted = false →
      EnvOK d x.1 ∧ x.2.losesImag = false ∧ x.2.narrows = false ∧ st.2.defaulted = false)
    runStep steps st st' (fun hd => ⟨he, hf.1, hf.2, hd⟩) ?_ h
  intro b s b' hs hb hstep hd'
  obtain ⟨h1, h2, h3, h4⟩ := hb (flags_defaulted_mono_step hstep hd')
  obtain ⟨e1, e2, e3⟩ := runStep_preserves (hadm s hs) h1 ⟨h2, h3⟩ hstep hd'
  exact ⟨e1, e2, e3, h4⟩

end SymmModel.DFlow
