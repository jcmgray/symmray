/-
  SymmModel.Proofs.FuseIns — the accumulation loop of `_fuse_blocks_via_insert` in abstract form: a fold of
  "look up or create a zero block, write a slice into it" (`insFold`) with its invariant `InsInv`; and two
  facts about folds in `Except` and about `adict` that `unfuse` uses as well.
-/
import SymmModel.Proofs.FuseAddr
namespace SymmModel
namespace FuseP

variable {R : Type} [Zero R]

/-- an item to insert: (key of the target block, start of the region, source block) -/
abbrev Item (R : Type) := Sector × List Nat × Blk R

/-- one iteration of `_fuse_blocks_via_insert` -/
def insStep (shapeOf : Sector → List Nat) (acc : List (Sector × Blk R)) (it : Item R) :
    List (Sector × Blk R) :=
  ainsert acc it.1 (((alookup acc it.1).getD (Blk.zeros (shapeOf it.1))).setSliceK it.2.1 it.2.2)

/-- two items never write the same position of the same block -/
def Disj (shapeOf : Sector → List Nat) (x y : Item R) : Prop :=
  x.1 = y.1 → ∀ i, inBox (shapeOf x.1) i = true →
    inRegion x.2.1 x.2.2.shape i = true → inRegion y.2.1 y.2.2.shape i = true → False

structure InsInv (shapeOf : Sector → List Nat) (done : List (Item R)) (acc : List (Sector × Blk R)) :
    Prop where
  keys : ∀ k, k ∈ acc.map (·.1) ↔ k ∈ done.map (·.1)
  nodup : (acc.map (·.1)).Nodup
  shape : ∀ k B, alookup acc k = some B → B.shape = shapeOf k
  hit : ∀ k B, alookup acc k = some B → ∀ it ∈ done, it.1 = k → ∀ i, inBox (shapeOf k) i = true →
    inRegion it.2.1 it.2.2.shape i = true → B.get i = it.2.2.get (List.zipWith (· - ·) i it.2.1)
  miss : ∀ k B, alookup acc k = some B → ∀ i, inBox (shapeOf k) i = true →
    (∀ it ∈ done, it.1 = k → inRegion it.2.1 it.2.2.shape i = false) → B.get i = 0

theorem insInv_nil (shapeOf : Sector → List Nat) : InsInv (R := R) shapeOf [] [] :=
  ⟨by simp, by simp, by simp [alookup], by simp [alookup], by simp [alookup]⟩

theorem insInv_step {shapeOf : Sector → List Nat} {done : List (Item R)} {acc : List (Sector × Blk R)}
    (hinv : InsInv shapeOf done acc) (it : Item R) (hd : ∀ x ∈ done, Disj shapeOf x it) :
    InsInv shapeOf (done ++ [it]) (insStep shapeOf acc it) := by
  obtain ⟨k0, st, src⟩ := it
  -- the target block before writing
  have hT : ∀ T, T = (alookup acc k0).getD (Blk.zeros (shapeOf k0)) → T.shape = shapeOf k0 := by
    intro T hT
    cases hl : alookup acc k0 with
    | none => rw [hT, hl]; rfl
    | some B => rw [hT, hl]; exact hinv.shape k0 B hl
  refine ⟨?_, ?_, ?_, ?_, ?_⟩
  · intro k
    simp only [insStep, mem_keys_ainsert, hinv.keys k, List.map_append, List.mem_append, List.map_cons,
      List.map_nil, List.mem_singleton]
  · exact ainsert_keys_nodup _ _ hinv.nodup
  · intro k B hB
    simp only [insStep, alookup_ainsert] at hB
    split at hB
    · rename_i hk; have := eq_of_beq hk; subst this
      simp only [Option.some.injEq] at hB; subst hB
      rw [setSliceK_shape]; exact hT _ rfl
    · exact hinv.shape k B hB
  · intro k B hB it' hit' hk' i hi hreg
    simp only [insStep, alookup_ainsert] at hB
    split at hB
    · rename_i hk; have := eq_of_beq hk; subst this
      simp only [Option.some.injEq] at hB; subst hB
      rw [setSliceK_get _ _ _ (by rw [hT _ rfl]; exact hi)]
      rcases List.mem_append.1 hit' with hm | hm
      · -- an earlier item: the new write does not touch `i`
        have hdis : inRegion st src.shape i = false := by
          cases hr : inRegion st src.shape i
          · rfl
          · exact absurd hr (fun hr => hd it' hm hk' i (by rw [hk']; exact hi) hreg hr)
        simp only [hdis, Bool.false_eq_true, if_false]
        have hsome : (alookup acc k0).isSome = true := by
          rw [alookup_isSome_iff, hinv.keys]; exact List.mem_map.2 ⟨it', hm, hk'⟩
        cases hl : alookup acc k0 with
        | none => rw [hl] at hsome; cases hsome
        | some B0 =>
          simp only [Option.getD_some]
          exact hinv.hit k0 B0 hl it' hm hk' i hi hreg
      · simp only [List.mem_singleton] at hm; subst hm
        simp only [hreg, if_true]
    · rename_i hk
      rcases List.mem_append.1 hit' with hm | hm
      · exact hinv.hit k B hB it' hm hk' i hi hreg
      · simp only [List.mem_singleton] at hm; subst hm
        simp only at hk'; subst hk'; simp at hk
  · intro k B hB i hi hno
    simp only [insStep, alookup_ainsert] at hB
    split at hB
    · rename_i hk; have := eq_of_beq hk; subst this
      simp only [Option.some.injEq] at hB; subst hB
      rw [setSliceK_get _ _ _ (by rw [hT _ rfl]; exact hi)]
      have hdis : inRegion st src.shape i = false := hno (k0, st, src) (by simp) rfl
      simp only [hdis, Bool.false_eq_true, if_false]
      cases hl : alookup acc k0 with
      | none => simp only [Option.getD_none]; exact zeros_get _ _
      | some B0 =>
        simp only [Option.getD_some]
        exact hinv.miss k0 B0 hl i hi (fun it' hm hk' => hno it' (List.mem_append_left _ hm) hk')
    · exact hinv.miss k B hB i hi (fun it' hm hk' => hno it' (List.mem_append_left _ hm) hk')

theorem insInv_foldl {shapeOf : Sector → List Nat} {done : List (Item R)} {acc : List (Sector × Blk R)}
    (hinv : InsInv shapeOf done acc) (items : List (Item R))
    (hd : (done ++ items).Pairwise (Disj shapeOf)) :
    InsInv shapeOf (done ++ items) (items.foldl (insStep shapeOf) acc) := by
  induction items generalizing done acc with
  | nil => simpa using hinv
  | cons it items ih =>
    have h1 : ∀ x ∈ done, Disj shapeOf x it := by
      intro x hx
      rw [List.pairwise_append] at hd
      exact hd.2.2 x hx it (by simp)
    have := ih (insInv_step hinv it h1) (by simpa using hd)
    simpa using this

def insFold (shapeOf : Sector → List Nat) (items : List (Item R)) : List (Sector × Blk R) :=
  items.foldl (insStep shapeOf) []

theorem insFold_inv (shapeOf : Sector → List Nat) (items : List (Item R)) (hd : items.Pairwise (Disj shapeOf)) :
    InsInv shapeOf items (insFold shapeOf items) := by
  have := insInv_foldl (insInv_nil shapeOf) items (by simpa using hd)
  simpa [insFold] using this


theorem foldlM_ok {ε α β : Type} (f : β → α → Except ε β) (g : β → α → β) (l : List α) (init : β)
    (h : ∀ acc, ∀ x ∈ l, f acc x = .ok (g acc x)) : l.foldlM f init = .ok (l.foldl g init) := by
  induction l generalizing init with
  | nil => rfl
  | cons x xs ih =>
    rw [List.foldlM_cons, h init x (by simp)]
    exact ih _ (fun acc y hy => h acc y (List.mem_cons_of_mem _ hy))

theorem foldl_ainsertAll_flatMap {κ α β : Type} [BEq κ] (l : List α) (f : α → List (κ × β))
    (acc : List (κ × β)) :
    l.foldl (fun m x => (f x).foldl (fun m p => ainsert m p.1 p.2) m) acc
      = (l.flatMap f).foldl (fun m p => ainsert m p.1 p.2) acc := by
  induction l generalizing acc with
  | nil => rfl
  | cons x xs ih => simp [List.flatMap_cons, List.foldl_append, ih]

theorem alookup_adict_unique {κ β : Type} [BEq κ] [LawfulBEq κ] {l : List (κ × β)} {k : κ} {v : β}
    (hm : (k, v) ∈ l) (hu : ∀ v', (k, v') ∈ l → v' = v) : alookup (adict l) k = some v := by
  have hk : k ∈ (adict l).map (·.1) := mem_keys_adict.2 (List.mem_map.2 ⟨_, hm, rfl⟩)
  cases hl : alookup (adict l) k with
  | none => rw [alookup_eq_none_iff] at hl; exact absurd hk hl
  | some v' => rw [hu v' (mem_adict (alookup_some_mem hl))]

theorem setSliceK_wf (dest src : Blk R) (starts : List Nat) : (dest.setSliceK starts src).wf = true :=
  ofFn_wf _ _

theorem insFold_wf (shapeOf : Sector → List Nat) (items : List (Item R)) :
    ∀ kB ∈ insFold shapeOf items, kB.2.wf = true := by
  unfold insFold
  suffices h : ∀ acc : List (Sector × Blk R), (∀ kB ∈ acc, kB.2.wf = true) →
      ∀ kB ∈ items.foldl (insStep shapeOf) acc, kB.2.wf = true from h [] (by simp)
  induction items with
  | nil => intro acc h; exact h
  | cons it items ih =>
    intro acc h
    apply ih
    intro kB hkB
    rcases mem_ainsert hkB with h1 | h1
    · exact h kB h1
    · rw [h1]; exact setSliceK_wf _ _ _

end FuseP
end SymmModel
