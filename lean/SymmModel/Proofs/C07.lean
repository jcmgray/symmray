/-
  SymmModel.Proofs.C07 — lemmas under Props/C07.lean and the Reshape3 files: `zip`/`sizes`/`subs` of a
  symbolic shape and `nones`; what the certificate `Plan.wfB` says (`wfB_iff`) and what the
  finite-domain definitions of the model mean (`pairOk_roundTrip`); the planner on
  `shape → shape` (`planner_keeps`) and on labels that are all "s" (`squeezePhase_all_s`); the data of
  the stored blocks (`storedData`) under `expand_dims` / `squeeze`; the dense size under `symFuse` /
  `symExpand`.
-/
import SymmModel.Proofs.ReshapeRound
namespace SymmModel.C07
open SymmModel SymmModel.Reshape

theorem zip_sizes_subs (st : SymShape) : (SymShape.sizes st).zip (SymShape.subs st) = st := by
  induction st with
  | nil => rfl
  | cons x xs ih =>
    simp only [SymShape.sizes, SymShape.subs, List.map_cons, List.zip_cons_cons] at ih ⊢
    rw [ih]

theorem sizes_length (st : SymShape) : (SymShape.sizes st).length = st.length := by
  simp [SymShape.sizes]

theorem subs_length (st : SymShape) : (SymShape.subs st).length = st.length := by
  simp [SymShape.subs]

theorem nones_length (shape : List Nat) : (nones shape).length = shape.length := by
  simp [nones]

theorem natbeq_refl (n : Nat) : Nat.beq n n = true := by simp

theorem wfB_iff {shape subsizes newshape plan} :
    Plan.wfB shape subsizes newshape plan = true ↔
      shape.length = subsizes.length ∧
      ∃ r, plan.exec (shape.zip subsizes) = some r ∧ SymShape.sizes r = newshape := by
  unfold Plan.wfB
  cases h : plan.exec (shape.zip subsizes) with
  | none => simp
  | some r => simp [beqNats_iff]

/-! ### what the finite-domain definitions of `Model/ReshapePlan.lean` mean (`dedup`, `shapesOfLen`, `pairOk`) -/

theorem mem_dedup {t : List Nat} {l : List (List Nat)} : t ∈ dedup l ↔ t ∈ l := by
  induction l with
  | nil => simp [dedup]
  | cons u us ih =>
    by_cases e : t = u
    · simp [dedup, e]
    · have : beqNats u t = false := by
        rw [← Bool.not_eq_true, beqNats_iff]; exact fun h => e h.symm
      simp [dedup, e, ih, this]

theorem mem_shapesOfLen {n : Nat} {s : List Nat} :
    s ∈ shapesOfLen n ↔ s.length = n ∧ ∀ d ∈ s, d ∈ sizes5 := by
  induction n generalizing s with
  | zero => cases s <;> simp [shapesOfLen]
  | succ n ih =>
    cases s with
    | nil => simp [shapesOfLen]
    | cons d r => simp [shapesOfLen, ih, and_assoc, and_left_comm]

theorem pairOk_roundTrip {shape target : List Nat} (h : pairOk shape target = true) :
    RoundTrip shape target := by
  unfold pairOk at h
  split at h
  · exact absurd h (by simp)
  · rename_i p hp
    split at h
    · exact absurd h (by simp)
    · rename_i st hst
      rw [Bool.and_eq_true] at h
      obtain ⟨h1, h⟩ := h
      have h1' := beqNats_iff.mp h1
      split at h
      · exact absurd h (by simp)
      · rename_i q hq
        split at h
        · exact absurd h (by simp)
        · rename_i st' hst'
          rw [Bool.and_eq_true] at h
          obtain ⟨h2, h3⟩ := h
          have h2' := beqNats_iff.mp h2
          refine ⟨p, st, hp, ?_, hst, h1', q, st', hq, ?_, hst', h2', ?_⟩
          · exact wfB_iff.mpr ⟨(nones_length shape).symm, st, hst, h1'⟩
          · refine wfB_iff.mpr ⟨by rw [sizes_length, subs_length], st', ?_, h2'⟩
            rw [zip_sizes_subs]; exact hst'
          · intro x hx
            have := (List.all_eq_true.mp h3) x hx
            simpa using this

theorem nones_getElem? (shape : List Nat) (i : Nat) (h : i < shape.length) :
    (nones shape)[i]? = some none := by
  simp [nones, h]

/-- the matching loop on `shape → shape` only appends "o" labels when no axis' sub-sizes equal the window of
    the shape that starts at that axis -/
theorem mainLoop_keeps (shape : List Nat) (subsizes : List (Option (List Nat)))
    (hlen : subsizes.length = shape.length)
    (hnw : ∀ j sub, subsizes[j]? = some sub → unfuseMatch shape j sub = none) :
    ∀ (rest pre : List Nat) (fuel k : Nat) (term : List Lbl) (sq us fs ex : List Nat) (a1 a2 : Bool),
      shape = pre ++ rest → rest.length ≤ fuel →
      mainLoop shape shape subsizes fuel ⟨pre.length, pre.length, k, term, sq, us, fs, ex, a1, a2⟩
        = .ok ⟨shape.length, shape.length, k + rest.length, term ++ List.replicate rest.length Lbl.o,
               sq, us, fs, ex, a1, a2⟩ := by
  intro rest
  induction rest with
  | nil =>
    intro pre fuel k term sq us fs ex a1 a2 hs _
    have hl : shape.length = pre.length := by simp [hs]
    rw [mainLoop_stop _ _ _ _ _ (Or.inl (by simp [hl]))]
    simp [hl]
  | cons d rest ih =>
    intro pre fuel k term sq us fs ex a1 a2 hs hf
    cases fuel with
    | zero => simp at hf
    | succ f =>
      have hlt : pre.length < shape.length := by simp [hs]
      have hget : shape[pre.length]? = some d := by simp [hs]
      have hsub : subsizes[pre.length]? = some (subsizes[pre.length]'(by omega)) :=
        List.getElem?_eq_getElem (by omega)
      have hs' : shape = (pre ++ [d]) ++ rest := by simp [hs]
      have := ih (pre ++ [d]) f (k + 1) (term ++ [Lbl.o]) sq us fs ex a1 a2 hs' (by simpa using hf)
      simp only [List.length_append, List.length_cons, List.length_nil] at this
      rw [mainLoop_round (st := ⟨pre.length, pre.length, k, term, sq, us, fs, ex, a1, a2⟩) ⟨hget, hget, hsub⟩
        (by rw [hnw _ _ hsub]; exact .keep rfl), this]
      simp [List.replicate_succ, Nat.add_comm, Nat.add_left_comm]

/-- no axis' sub-sizes equal the window of the shape that starts at that axis ⇒ reshaping to the
    current shape is the empty plan -/
theorem planner_keeps (shape : List Nat) (subsizes : List (Option (List Nat)))
    (hlen : subsizes.length = shape.length)
    (hnw : ∀ j sub, subsizes[j]? = some sub → unfuseMatch shape j sub = none) :
    calcReshapeArgs shape shape subsizes = .ok ([], [], []) := by
  have h := mainLoop_keeps shape subsizes hlen hnw
    shape [] (shape.length + shape.length) 0 [] [] [] [] [] false false rfl (by omega)
  simp only [List.length_nil] at h
  unfold calcReshapeArgs
  have : ({} : RState) = ⟨0, 0, 0, [], [], [], [], [], false, false⟩ := rfl
  rw [this, h]
  simp [unfusePhase, pure, Except.pure]

/-- `skipS` on a list that ends with the run of "s" labels: `term[i]` past the end -/
theorem skipS_end : ∀ (n fuel : Nat) (T1 : List Lbl), n + 1 ≤ fuel →
    skipS (T1 ++ List.replicate (n + 1) Lbl.s) fuel T1.length = .error Err.index := by
  intro n
  induction n with
  | zero =>
    intro fuel T1 hf
    obtain ⟨f, rfl⟩ : ∃ f, fuel = f + 1 := ⟨fuel - 1, by omega⟩
    have hnext : (T1 ++ List.replicate (0 + 1) Lbl.s)[T1.length + 1]? = none := by simp
    simp only [skipS, hnext]; rfl
  | succ n ih =>
    intro fuel T1 hf
    obtain ⟨f, rfl⟩ : ∃ f, fuel = f + 1 := ⟨fuel - 1, by omega⟩
    have hnext : (T1 ++ List.replicate (n + 1 + 1) Lbl.s)[T1.length + 1]? = some Lbl.s := by
      rw [List.getElem?_append_right (by omega)]
      simp [List.replicate_succ]
    have e : T1 ++ List.replicate (n + 1 + 1) Lbl.s = (T1 ++ [Lbl.s]) ++ List.replicate (n + 1) Lbl.s := by
      simp [List.replicate_succ]
    have e2 : T1.length + 1 = (T1 ++ [Lbl.s]).length := by simp
    simp only [skipS, hnext, Lbl.isS, if_true]
    rw [e, e2, ih f (T1 ++ [Lbl.s]) (by omega)]

/-- all labels are "s" (or there is none): `term[i]` past the end -/
theorem squeezePhase_all_s (n : Nat) (fs : List Nat) :
    squeezePhase (List.replicate n Lbl.s) fs = .error Err.index := by
  cases n with
  | zero => rfl
  | succ n =>
    have := skipS_end n ((List.replicate (n + 1) Lbl.s).length + 1) [] (by simp)
    simp only [List.nil_append, List.length_nil] at this
    simp only [squeezePhase, List.replicate_succ, List.getElem?_cons_zero, Lbl.isS, if_true]
    rw [← List.replicate_succ, this]; rfl

variable {R : Type}

theorem ainsert_fresh {κ β : Type} [BEq κ] (acc : List (κ × β)) (k : κ) (v : β)
    (h : ∀ p ∈ acc, (p.1 == k) = false) : ainsert acc k v = acc ++ [(k, v)] := by
  induction acc with
  | nil => rfl
  | cons p ps ih =>
    have hp := h p (List.mem_cons_self)
    simp only [ainsert, hp, List.cons_append]
    rw [ih (fun q hq => h q (List.mem_cons_of_mem _ hq))]
    simp

theorem foldl_ainsert_distinct {κ β : Type} [BEq κ] [LawfulBEq κ] :
    ∀ (l acc : List (κ × β)), allDistinct (l.map (·.1)) = true →
      (∀ p ∈ l, ∀ q ∈ acc, (q.1 == p.1) = false) →
      l.foldl (fun acc p => ainsert acc p.1 p.2) acc = acc ++ l := by
  intro l
  induction l with
  | nil => intro acc _ _; simp
  | cons p ps ih =>
    intro acc hd hacc
    simp only [List.map_cons, allDistinct, Bool.and_eq_true, Bool.not_eq_true'] at hd
    simp only [List.foldl_cons]
    rw [ainsert_fresh acc p.1 p.2 (fun q hq => hacc p (List.mem_cons_self) q hq)]
    rw [ih (acc ++ [(p.1, p.2)]) hd.2]
    · simp
    · intro p' hp' q hq
      rcases List.mem_append.mp hq with hq | hq
      · exact hacc p' (List.mem_cons_of_mem _ hp') q hq
      · simp only [List.mem_singleton] at hq
        subst hq
        have h1 := hd.1
        simp only [List.contains_eq_mem, List.mem_map, decide_eq_false_iff_not, not_exists, not_and] at h1
        have := h1 p' hp'
        simp only [beq_eq_false_iff_ne, ne_eq]
        exact fun e => this e.symm

theorem adict_distinct {κ β : Type} [BEq κ] [LawfulBEq κ] (l : List (κ × β))
    (h : allDistinct (l.map (·.1)) = true) : adict l = l := by
  unfold adict
  rw [foldl_ainsert_distinct l [] h (by simp)]
  simp

/-- the flat data of every stored block, in dict order -/
def storedData (a : Arr R) : List (Array R) := a.blocks.map (fun sb => sb.2.data)

theorem allDistinct_map_of_injective {α β : Type} [BEq α] [LawfulBEq α] [BEq β] [LawfulBEq β]
    (f : α → β) (hf : ∀ x y, f x = f y → x = y) :
    ∀ l : List α, allDistinct l = true → allDistinct (l.map f) = true := by
  intro l
  induction l with
  | nil => intro _; rfl
  | cons a as ih =>
    intro h
    simp only [allDistinct, Bool.and_eq_true, Bool.not_eq_true', List.map_cons] at h ⊢
    refine ⟨?_, ih h.2⟩
    have h1 := h.1
    simp only [List.contains_eq_mem, decide_eq_false_iff_not, List.mem_map, not_exists, not_and] at h1 ⊢
    intro x hx e
    exact h1 (by rw [← hf x a e]; exact hx)

theorem insertAt_injective {α : Type} (ax : Nat) (c : α) (s t : List α)
    (h : s.take ax ++ [c] ++ s.drop ax = t.take ax ++ [c] ++ t.drop ax) : s = t := by
  have hl : s.length = t.length := by
    have := congrArg List.length h
    simp only [List.length_append, List.length_take, List.length_drop, List.length_cons,
      List.length_nil] at this
    omega
  have h' : s.take ax ++ ([c] ++ s.drop ax) = t.take ax ++ ([c] ++ t.drop ax) := by
    simpa [List.append_assoc] using h
  have hlen : (s.take ax).length = (t.take ax).length := by simp [hl]
  have ⟨h1, h2⟩ := List.append_inj h' hlen
  have h3 : s.drop ax = t.drop ax := by simpa using h2
  rw [← List.take_append_drop ax s, ← List.take_append_drop ax t, h1, h3]

theorem expandDims_blocks (a : Arr R) (axis : Nat) (c : Option Charge) (dual : Option Bool) :
    ∃ c', (a.expandDims axis c dual).blocks =
      (a.mapBlocks (fun s => s.take axis ++ [c'] ++ s.drop axis) (fun b => b.expandK axis)).blocks := by
  cases c with
  | none => exact ⟨a.sym.zero, rfl⟩
  | some c => exact ⟨c, rfl⟩

theorem squeeze_blocks (a : Arr R) (axis : Option (List Nat)) (b : Arr R) (h : a.squeeze axis = .ok b) :
    ∃ keep, b.blocks = (a.mapBlocks (fun s => permuted s keep) (fun b => b.squeezeK keep)).blocks := by
  unfold Arr.squeeze at h
  simp only [bind, Except.bind] at h
  split at h
  · cases h
  · rename_i keep _
    simp only [pure, Except.pure] at h
    injection h with h
    subst h
    exact ⟨_, rfl⟩

theorem prod_flatten (l : List (List Nat)) : prod (l.map prod) = prod l.flatten := by
  induction l with
  | nil => rfl
  | cons x xs ih => simp [prod, prod_append, ih]

theorem sizes_append (a b : SymShape) : SymShape.sizes (a ++ b) = SymShape.sizes a ++ SymShape.sizes b := by
  simp [SymShape.sizes]

theorem symGroup_size (st : SymShape) (g : List Nat) :
    (symGroup st g).1 = prod (g.map (fun ax => (st.getD ax (0, none)).1)) := by
  unfold symGroup
  split
  · simp [prod]
  · rfl

theorem map_getD_range' {α : Type} (l : List α) (d : α) (P N : Nat) (hle : P + N ≤ l.length) :
    (List.range' P N).map (fun ax => l.getD ax d) = (l.drop P).take N := by
  apply List.ext_getElem?
  intro j
  by_cases hj : j < N
  · rw [List.getElem?_map, List.getElem?_range' (by simpa using hj), List.getElem?_take_of_lt hj,
      List.getElem?_drop]
    simp only [Option.map_some, List.getD_eq_getElem?_getD]
    have : P + 1 * j < l.length := by omega
    rw [Nat.one_mul] at this ⊢
    rw [List.getElem?_eq_getElem this]; rfl
  · rw [List.getElem?_eq_none (by simp; omega), List.getElem?_eq_none (by simp; omega)]

theorem range'_map_getD (st : SymShape) (n p : Nat) (h : p + n ≤ st.length) :
    (List.range' p n).map (fun ax => (st.getD ax (0, none)).1) = SymShape.sizes ((st.drop p).take n) := by
  rw [← map_getD_range' st (0, none) p n h, SymShape.sizes, List.map_map]
  rfl

/-- what a successful symbolic fuse call says: the groups are the consecutive axes from `p` on -/
theorem _root_.SymmModel.ReshapeP.symFuse_spec {st st' : SymShape} {groups : List (List Nat)} (h : symFuse st groups = some st') :
    ∃ p, groups.flatten = List.range' p groups.flatten.length ∧ 0 < groups.flatten.length
      ∧ (∀ g ∈ groups, g ≠ []) ∧ p + groups.flatten.length ≤ st.length
      ∧ st' = st.take p ++ groups.map (symGroup st) ++ st.drop (p + groups.flatten.length) := by
  unfold symFuse at h
  cases hflat : groups.flatten with
  | nil => simp [hflat] at h
  | cons p rest =>
    simp only [hflat] at h
    split at h
    · rename_i hc
      simp only [Bool.and_eq_true, List.all_eq_true, Bool.not_eq_true', List.isEmpty_eq_false_iff,
        beqNats_iff, Nat.ble_eq] at hc
      injection h with h
      exact ⟨p, hc.1.2, by simp, hc.1.1, hc.2, h.symm⟩
    · cases h

theorem symFuse_prod {st r : SymShape} {groups : List (List Nat)}
    (h : symFuse st groups = some r) : prod (SymShape.sizes r) = prod (SymShape.sizes st) := by
  obtain ⟨p, hflat, _, _, hle, rfl⟩ := ReshapeP.symFuse_spec h
  have hmid : prod (SymShape.sizes (groups.map (symGroup st)))
      = prod (SymShape.sizes ((st.drop p).take groups.flatten.length)) := by
    have : SymShape.sizes (groups.map (symGroup st))
        = (groups.map (fun g => g.map (fun ax => (st.getD ax (0, none)).1))).map prod := by
      simp [SymShape.sizes, List.map_map, Function.comp_def, symGroup_size]
    rw [this, prod_flatten, ← List.map_flatten]
    conv => lhs; rw [hflat]
    rw [range'_map_getD st _ p hle]
  have hst : st = st.take p ++ ((st.drop p).take groups.flatten.length
      ++ st.drop (p + groups.flatten.length)) := by
    rw [← List.drop_drop, List.take_append_drop, List.take_append_drop]
  conv => rhs; rw [hst]
  simp only [sizes_append, prod_append, hmid, List.append_assoc]

theorem symExpand_prod {st r : SymShape} {ax : Nat} (h : symExpand st ax = some r) :
    prod (SymShape.sizes r) = prod (SymShape.sizes st) := by
  unfold symExpand at h
  split at h
  · injection h with h
    subst h
    have : prod (SymShape.sizes st) = prod (SymShape.sizes (st.take ax ++ st.drop ax)) := by
      rw [List.take_append_drop]
    rw [this]
    simp only [sizes_append, prod_append]
    simp [SymShape.sizes, prod]
  · cases h

theorem foldOpt_inv {α β : Type} (f : β → α → Option β) (P : β → Prop)
    (hf : ∀ b a b', f b a = some b' → P b → P b') :
    ∀ (l : List α) (b b' : β), foldOpt f l b = some b' → P b → P b' := by
  intro l
  induction l with
  | nil => intro b b' h hp; simp [foldOpt] at h; exact h ▸ hp
  | cons a as ih =>
    intro b b' h hp
    unfold foldOpt at h
    split at h
    · rename_i b1 h1
      exact ih b1 b' h (hf b a b1 h1 hp)
    · cases h

theorem sizes_zip (shape : List Nat) (subsizes : List (Option (List Nat)))
    (h : shape.length = subsizes.length) : SymShape.sizes (shape.zip subsizes) = shape := by
  simp only [SymShape.sizes]
  rw [List.map_fst_zip]
  omega

end SymmModel.C07
