/-
  SymmModel.Proofs.Dense3b — elementwise maps and order-type reductions of arrays versus the
  dense array (property C08, Props/C08c).

  * `mapA f` = `_do_unary_op(fn)` (block_core.py): `fn` applied to every STORED block; here its
    value view (`mapA_elem_exact`, `mapA_elem`) and the predicates `FullyStored`, `StoredEntry`,
    `HasMissing`.  The dense statements ("commutes iff `f 0 = 0` or fully stored") are in Props/C08c.
  * `reduceA op` = `_do_reduction(fn)` = `fn(stack(map(fn, blocks)))` for a reduction that folds an
    associative, commutative, idempotent `op` (`max`, `min`, `all`, `any`): the least upper bound
    (w.r.t. `x ≤ y :⇔ op x y = y`) of the STORED entries (`reduceA_isLub`, over `SemiLat`, `IsLub`).
    What the same reduction of the dense array gives is in Props/C08c.
-/
import SymmModel.Proofs.DenseMore

namespace SymmModel
namespace Dense3


variable {R : Type}

/-- `_do_unary_op(fn)` / `apply_to_arrays(fn)`: `f` applied to every entry of every stored block -/
def mapA (f : R → R) (a : Arr R) : Arr R :=
  { a with blocks := a.blocks.map (fun (k, b) => (k, b.map f)) }

theorem get_lt_size [Zero R] (b : Blk R) (hwf : b.wf = true) {i : List Nat}
    (hi : inBox b.shape i = true) : ravel b.shape i < b.data.size := by
  have hsz : b.data.size = prod b.shape := by simpa [Blk.wf] using hwf
  rw [hsz]; exact ravel_lt hi

theorem get_map_inBox [Zero R] (f : R → R) (b : Blk R) (hwf : b.wf = true) {i : List Nat}
    (hi : inBox b.shape i = true) : (b.map f).get i = f (b.get i) := by
  have h := get_lt_size b hwf hi
  simp only [Blk.get, Blk.map]
  rw [Array.getD_eq_getD_getElem?, Array.getD_eq_getD_getElem?, Array.getElem?_map,
    Array.getElem?_eq_getElem h]
  rfl

theorem get_mem_data [Zero R] (b : Blk R) (hwf : b.wf = true) {i : List Nat}
    (hi : inBox b.shape i = true) : b.get i ∈ b.data.toList := by
  have h := get_lt_size b hwf hi
  simp only [Blk.get]
  rw [Array.getD_eq_getD_getElem?, Array.getElem?_eq_getElem h]
  exact Array.mem_toList_iff.mpr (Array.getElem_mem h)

theorem mapA_elem_exact [Zero R] [Neg R] (f : R → R) (a : Arr R) (hab : a.phases = [])
    (s : Sector) (off : List Nat)
    (hoff : ∀ b, alookup a.blocks s = some b → b.wf = true ∧ inBox b.shape off = true) :
    (mapA f a).elem s off = if s ∈ a.sectors then f (a.elem s off) else 0 := by
  rw [Arr.elem_of_phases_nil (a := mapA f a) hab, Arr.elem_of_phases_nil hab]
  show (match alookup (a.blocks.map (fun (k, b) => (k, b.map f))) s with
    | none => 0 | some b => b.get off) = _
  rw [Arr.alookup_mapVals]
  cases hb : alookup a.blocks s with
  | none =>
    have : s ∉ a.sectors := by
      intro hm; rw [Arr.sectors, ← alookup_isSome_iff, hb] at hm; cases hm
    simp [this]
  | some b =>
    have : s ∈ a.sectors := by rw [Arr.sectors, ← alookup_isSome_iff, hb]; rfl
    simp only [Option.map_some, this, if_true]
    exact get_map_inBox f b (hoff b hb).1 (hoff b hb).2

theorem mapA_elem [Zero R] [Neg R] (f : R → R) (h0 : f 0 = 0) (a : Arr R) (hab : a.phases = [])
    (s : Sector) (off : List Nat) : (mapA f a).elem s off = f (a.elem s off) :=
  Arr.elem_mapVals a (mapA f a) (fun b => b.map f) f h0 (fun b off => Blk.get_map f h0 b off)
    hab hab rfl s off

/-- every position of the dense box lies in a stored sector -/
def FullyStored (a : Arr R) : Prop :=
  ∀ p, inBox a.shape p = true → ∀ sec off, Arr.locateAll a.indices p = some (sec, off) →
    sec ∈ a.sectors

def StoredEntry (a : Arr R) (x : R) : Prop := ∃ sb ∈ a.blocks, x ∈ sb.2.data.toList

/-- some position of the dense box lies in a sector that is not stored -/
def HasMissing (a : Arr R) : Prop :=
  ∃ p, inBox a.shape p = true ∧ ∃ sec off, Arr.locateAll a.indices p = some (sec, off)
    ∧ sec ∉ a.sectors

structure SemiLat (op : R → R → R) : Prop where
  assoc : ∀ a b c, op (op a b) c = op a (op b c)
  comm : ∀ a b, op a b = op b a
  idem : ∀ a, op a a = a

/-- `r` is the least upper bound of the set `S` for the order `x ≤ y :⇔ op x y = y` -/
structure IsLub (op : R → R → R) (S : R → Prop) (r : R) : Prop where
  ub : ∀ x, S x → op x r = r
  least : ∀ u, (∀ x, S x → op x u = u) → op r u = u

theorem IsLub.unique {op : R → R → R} (hop : SemiLat op) {S : R → Prop} {r1 r2 : R}
    (h1 : IsLub op S r1) (h2 : IsLub op S r2) : r1 = r2 := by
  have a := h1.least r2 h2.ub
  have b := h2.least r1 h1.ub
  rw [hop.comm] at b
  rw [← b, a]

theorem IsLub.congr {op : R → R → R} {S T : R → Prop} {r : R} (h : ∀ x, S x ↔ T x)
    (h1 : IsLub op S r) : IsLub op T r :=
  ⟨fun x hx => h1.ub x ((h x).mpr hx), fun u hu => h1.least u (fun x hx => hu x ((h x).mp hx))⟩

theorem IsLub.insert {op : R → R → R} (hop : SemiLat op) {S : R → Prop} {r : R}
    (h1 : IsLub op S r) (z : R) : IsLub op (fun x => S x ∨ x = z) (op r z) := by
  constructor
  · rintro x (hx | rfl)
    · rw [← hop.assoc, h1.ub x hx]
    · rw [hop.comm r x, ← hop.assoc, hop.idem]
  · intro u hu
    rw [hop.assoc, hu z (Or.inr rfl)]
    exact h1.least u (fun x hx => hu x (Or.inl hx))

theorem IsLub.single {op : R → R → R} (hop : SemiLat op) (z : R) : IsLub op (fun x => x = z) z :=
  ⟨fun x hx => by rw [hx, hop.idem], fun u hu => hu z rfl⟩

theorem IsLub.union {ι : Type} {op : R → R → R} (hop : SemiLat op) (I : ι → Prop)
    (S : ι → R → Prop) (rs : ι → R) (h : ∀ i, I i → IsLub op (S i) (rs i)) {r : R}
    (hr : IsLub op (fun y => ∃ i, I i ∧ y = rs i) r) :
    IsLub op (fun x => ∃ i, I i ∧ S i x) r := by
  constructor
  · rintro x ⟨i, hi, hx⟩
    have h1 := hr.ub (rs i) ⟨i, hi, rfl⟩
    rw [← h1, ← hop.assoc, (h i hi).ub x hx]
  · intro u hu
    apply hr.least
    rintro y ⟨i, hi, rfl⟩
    exact (h i hi).least u (fun x hx => hu x ⟨i, hi, hx⟩)

/-- a reduction without identity over a list: `none` on the empty list (numpy raises) -/
def reduce1 (op : R → R → R) : List R → Option R
  | [] => none
  | x :: xs => some (xs.foldl op x)

theorem foldl_isLub {op : R → R → R} (hop : SemiLat op) (l : List R) (x : R) :
    IsLub op (fun y => y ∈ x :: l) (l.foldl op x) := by
  induction l generalizing x with
  | nil => exact (IsLub.single hop x).congr (by simp)
  | cons y l ih =>
    have h := ih (op x y)
    simp only [List.foldl_cons]
    constructor
    · intro z hz
      simp only [List.mem_cons] at hz
      have hxy := h.ub (op x y) (by simp)
      rcases hz with hz | hz | hz
      · rw [hz]
        calc op x (List.foldl op (op x y) l)
            = op x (op (op x y) (List.foldl op (op x y) l)) := by rw [hxy]
          _ = op (op x (op x y)) (List.foldl op (op x y) l) := (hop.assoc _ _ _).symm
          _ = op (op (op x x) y) (List.foldl op (op x y) l) := by rw [← hop.assoc x x y]
          _ = op (op x y) (List.foldl op (op x y) l) := by rw [hop.idem]
          _ = _ := hxy
      · rw [hz]
        calc op y (List.foldl op (op x y) l)
            = op y (op (op x y) (List.foldl op (op x y) l)) := by rw [hxy]
          _ = op (op y (op x y)) (List.foldl op (op x y) l) := (hop.assoc _ _ _).symm
          _ = op (op y (op y x)) (List.foldl op (op x y) l) := by rw [hop.comm x y]
          _ = op (op (op y y) x) (List.foldl op (op x y) l) := by rw [← hop.assoc y y x]
          _ = op (op y x) (List.foldl op (op x y) l) := by rw [hop.idem]
          _ = op (op x y) (List.foldl op (op x y) l) := by rw [hop.comm y x]
          _ = _ := hxy
      · exact h.ub z (by simp [hz])
    · intro u hu
      apply h.least
      intro z hz
      simp only [List.mem_cons] at hz
      rcases hz with rfl | hz
      · rw [hop.assoc, hu y (by simp), hu x (by simp)]
      · exact hu z (by simp [hz])

theorem reduce1_isLub {op : R → R → R} (hop : SemiLat op) {l : List R} {r : R}
    (h : reduce1 op l = some r) : IsLub op (fun y => y ∈ l) r := by
  cases l with
  | nil => cases h
  | cons x l =>
    simp only [reduce1, Option.some.injEq] at h
    subst h
    exact foldl_isLub hop l x

theorem reduce1_isSome (op : R → R → R) {l : List R} (h : l ≠ []) : ∃ r, reduce1 op l = some r := by
  cases l with
  | nil => exact absurd rfl h
  | cons x l => exact ⟨_, rfl⟩

/-- the per-block reductions of `_do_reduction`; `none` when some block is empty -/
def reduceBlocks (op : R → R → R) : List (Sector × Blk R) → Option (List R)
  | [] => some []
  | sb :: rest =>
    match reduce1 op sb.2.data.toList, reduceBlocks op rest with
    | some r, some rs => some (r :: rs)
    | _, _ => none

/-- `_do_reduction(fn)` = `fn(stack(map(fn, blocks.values())))`; `none` where numpy raises
    (no blocks / an empty block) -/
def reduceA (op : R → R → R) (a : Arr R) : Option R :=
  (reduceBlocks op a.blocks).bind (reduce1 op)

theorem reduceBlocks_spec {op : R → R → R} (hop : SemiLat op) {bl : List (Sector × Blk R)}
    {rs : List R} (h : reduceBlocks op bl = some rs) :
    (∀ y, y ∈ rs → ∃ sb ∈ bl, IsLub op (fun x => x ∈ sb.2.data.toList) y)
    ∧ (∀ sb ∈ bl, ∃ y ∈ rs, IsLub op (fun x => x ∈ sb.2.data.toList) y) := by
  induction bl generalizing rs with
  | nil =>
    simp only [reduceBlocks, Option.some.injEq] at h
    subst h
    simp
  | cons sb rest ih =>
    simp only [reduceBlocks] at h
    cases h1 : reduce1 op sb.2.data.toList with
    | none => simp [h1] at h
    | some r =>
      cases h2 : reduceBlocks op rest with
      | none => simp [h1, h2] at h
      | some rs' =>
        simp only [h1, h2, Option.some.injEq] at h
        subst h
        obtain ⟨i1, i2⟩ := ih h2
        have hl := reduce1_isLub hop h1
        constructor
        · intro y hy
          rcases List.mem_cons.mp hy with rfl | hy
          · exact ⟨sb, by simp, hl⟩
          · obtain ⟨sb', hm, hh⟩ := i1 y hy
            exact ⟨sb', by simp [hm], hh⟩
        · intro sb' hm
          rcases List.mem_cons.mp hm with rfl | hm
          · exact ⟨r, by simp, hl⟩
          · obtain ⟨y, hy, hh⟩ := i2 sb' hm
            exact ⟨y, by simp [hy], hh⟩

theorem reduceA_isLub {op : R → R → R} (hop : SemiLat op) (a : Arr R) {r : R}
    (h : reduceA op a = some r) : IsLub op (StoredEntry a) r := by
  unfold reduceA at h
  cases hrs : reduceBlocks op a.blocks with
  | none => simp [hrs] at h
  | some rs =>
    simp only [hrs, Option.bind_some] at h
    obtain ⟨i1, i2⟩ := reduceBlocks_spec hop hrs
    have hr := reduce1_isLub hop h
    constructor
    · rintro x ⟨sb, hsb, hx⟩
      obtain ⟨y, hy, hl⟩ := i2 sb hsb
      rw [← hr.ub y hy, ← hop.assoc, hl.ub x hx]
    · intro u hu
      apply hr.least
      intro y hy
      obtain ⟨sb, hsb, hl⟩ := i1 y hy
      exact hl.least u (fun x hx => hu x ⟨sb, hsb, hx⟩)

theorem reduceA_isSome (op : R → R → R) (a : Arr R) (hne : a.blocks ≠ [])
    (hpos : ∀ sb ∈ a.blocks, sb.2.data.toList ≠ []) : ∃ r, reduceA op a = some r := by
  have : ∀ bl : List (Sector × Blk R), (∀ sb ∈ bl, sb.2.data.toList ≠ []) →
      ∃ rs, reduceBlocks op bl = some rs ∧ rs.length = bl.length := by
    intro bl
    induction bl with
    | nil => intro _; exact ⟨[], rfl, rfl⟩
    | cons sb rest ih =>
      intro h
      obtain ⟨r, hr⟩ := reduce1_isSome op (h sb (by simp))
      obtain ⟨rs, hrs, hl⟩ := ih (fun sb' hm => h sb' (by simp [hm]))
      exact ⟨r :: rs, by simp [reduceBlocks, hr, hrs], by simp [hl]⟩
  obtain ⟨rs, hrs, hl⟩ := this a.blocks hpos
  have hrne : rs ≠ [] := by
    intro e; rw [e] at hl
    exact hne (List.length_eq_zero_iff.mp hl.symm)
  obtain ⟨r, hr⟩ := reduce1_isSome op hrne
  exact ⟨r, by simp [reduceA, hrs, hr]⟩

end Dense3
end SymmModel
