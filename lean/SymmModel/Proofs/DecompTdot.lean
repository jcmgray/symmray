/-
  SymmModel.Proofs.DecompTdot — `a @ x` → `tensordot(a, x, ([1],[0]), mode)` (every mode) for the
  solution `x` of a fermionic `solve` (`solve_transfer`, from `DecompP.matmulF_to_tensordotF`), the
  fields `dagger()` leaves alone, and: the table box of an index list depends on the charge tables
  only.

  Imports Props/C11f for the C11 chain up to there: `solve_transfer` calls `C11.solveA_valid`
  (Props/C11) and `C03.matmulF_refines_graded` (Props/C03b); nothing of C11f itself is used, the
  import only keeps this module (a proof of C11g) behind the checks before it.
-/
import SymmModel.Proofs.DecompTransfer
import SymmModel.Props.C11f

namespace SymmModel
namespace DecompP
open LinalgLemmas ReconP Recon2P TdotP GradedP RoutesP OddposP
open Lazy (sgnI)

variable {R : Type}

/-- fields of `FermionicArray.dagger()` that no branch touches -/
theorem daggerF_fields [Zero R] [Conj R] (e : Arr R) :
    (e.daggerF).sym = e.sym ∧ (e.daggerF).fermi = e.fermi
    ∧ (e.daggerF).indices = e.indices.reverse.map Index.conj
    ∧ (e.daggerF).charge = e.sym.sign e.charge true
    ∧ (e.daggerF).oddpos = Arr.oddposDag e.oddpos := by
  rw [Lazy.daggerF_eq]
  simp only [Bool.false_eq_true, if_false]
  split <;> exact ⟨rfl, rfl, rfl, rfl, rfl⟩

theorem blockShapeD_congr_cm (I J : List Index) (s : Sector)
    (h : I.map Index.cm = J.map Index.cm) : Arr.blockShapeD I s = Arr.blockShapeD J s := by
  unfold Arr.blockShapeD
  rw [blockShape?_congr h s]

section solve
variable [AddCommMonoid R] [Mul R] [Neg R] [SignRing R]

/-- **`a @ x` → `tensordot(a, x, ([1],[0]), mode)` for `x = solve(a, b)`, every mode** (fermionic,
    `a` even): success, the labels of `a @ x`, the combined charge, and the element of `a @ x` on the
    row charge of every stored block of `a` -/
theorem solve_transfer (hz1 : ∀ x : R, 0 * x = 0) (hz2 : ∀ x : R, x * 0 = 0)
    {K : Kernels R} (hK : K.ShapeOk) {a b x y : Arr R} (hva : a.validB = true)
    (hvb : b.validB = true) (hfa : a.fermi = true) (hfb : b.fermi = true)
    (hsym : a.sym = b.sym)
    (hdir : (b.indices.getD 0 default).dual = (a.indices.getD 0 default).dual)
    (heven : a.parity = false) (h : solveA K a b = .ok x) (hm : a.matmulF x = .ok y)
    (tm : TdotMode) :
    ∃ c, a.tensordotF x (.pair [1] [0]) tm = .ok c ∧ c.oddpos = y.oddpos
      ∧ c.charge = a.sym.combine [a.charge, x.charge] ∧
      ∀ s arr, (s, arr) ∈ a.blocks → ∀ i, i < arr.shape.getD 0 0 →
        c.elem [s.getD 0 (0, 0)] [i] = y.elem [s.getD 0 (0, 0)] [i] := by
  obtain ⟨h2, _, hvx, _, hxi, hxs, hxf, _⟩ := C11.solveA_valid K hK a b hva hvb hsym
    (hfa.trans hfb.symm) hdir (fun _ => heven) x h
  obtain ⟨i0, i1, hi⟩ := ndim_two h2
  have hxi' : x.indices = [i1.conj] := by rw [hxi, hi]; rfl
  have hxn : x.ndim = 1 := by simp [Arr.ndim, hxi']
  have hadm : ValidP.tdotAdmissibleB a x [a.ndim - 1] [0] = true := by
    have hc : ValidP.contractibleB a x [1] [0] = true := by
      unfold ValidP.contractibleB
      rw [hi, hxi']
      simp only [List.length_cons, List.length_nil, BEq.rfl, List.zip_cons_cons, List.zip_nil_right,
        List.all_cons, List.all_nil, List.getD_cons_zero, List.getD_cons_succ, Index.conj_cm, Index.conj_dual,
        Bool.bne_not, bne_self_eq_false, Bool.not_false, Bool.and_self]
    rw [h2]
    unfold ValidP.tdotAdmissibleB
    rw [hc, h2, hxn, hsym.trans hxs.symm, decide_eq_true rfl]
    rfl
  obtain ⟨c, h1, h2', h3, h4⟩ := matmulF_to_tensordotF hz1 hz2 a x y hva hvx hfa
    (hxf.trans hfb) (Or.inr h2) (Or.inl hxn) hadm hm tm
  rw [h2] at h1 h4
  refine ⟨c, h1, h2', ?_, ?_⟩
  · obtain ⟨out, ph, _, _, hc, _⟩ := C03.matmulF_refines_graded a x y hva hvx hfa
      (hxf.trans hfb) (Or.inr h2) (Or.inl hxn) hadm hm
    rw [h3, hc]
  · intro s arr hmem i hi'
    obtain ⟨r, c', m, n, B⟩ := mat_block hva hi hmem
    have hr : s.getD 0 (0, 0) = r := by rw [B.hs]; rfl
    rw [hr]
    have hidx : without a.indices [2 - 1] ++ without x.indices [0] = [i0] := by
      rw [hi, hxi']; rfl
    have hsh : Arr.blockShapeD [i0] [r] = [m] := by
      unfold Arr.blockShapeD
      rw [(blockShape?_single_iff i0 r [m]).mpr ⟨m, B.hr, rfl⟩]; rfl
    have hbox : inBox (Arr.blockShapeD (without a.indices [2 - 1] ++ without x.indices [0]) [r])
        ([i] ++ []) = true := by
      rw [hidx, hsh]
      have : i < m := by simpa [B.hshape] using hi'
      simp [inBox, this]
    exact h4 [r] [i] [] rfl hbox

end solve


end DecompP
end SymmModel
