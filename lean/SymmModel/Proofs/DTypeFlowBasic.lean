/-
  SymmModel.Proofs.DTypeFlowBasic — the predicates of the dtype-flow theorems (C20b): `Uni d` (every block
  is `d`), `Within d` (`d` or its real part), `UniW d`; `promote` and `realPart` on them; what `concatD`,
  dict insertion, filtering and mapping keep of them.
-/
import SymmModel.Model.DTypeFlow
import SymmModel.Proofs.BaseList
import SymmModel.Props.C20
namespace SymmModel.DFlow
open SymmModel DType

def Uni {κ : Type} (d : DType) (l : List (κ × DType)) : Prop := ∀ p ∈ l, p.2 = d

/-- `x` has the precision of `d` and is not more complex than `d` -/
def Within (d x : DType) : Prop := x = d ∨ x = d.realPart

def UniW {κ : Type} (d : DType) (l : List (κ × DType)) : Prop := ∀ p ∈ l, Within d p.2

theorem promote_real_right (d : DType) : promote d d.realPart = d := by cases d <;> rfl
theorem promote_real_left (d : DType) : promote d.realPart d = d := by cases d <;> rfl

theorem within_self (d : DType) : Within d d := Or.inl rfl
theorem within_real (d : DType) : Within d d.realPart := Or.inr rfl

theorem within_promote {d x y : DType} (hx : Within d x) (hy : Within d y) : Within d (promote x y) := by
  rcases hx with rfl | rfl <;> rcases hy with rfl | rfl
  · exact Or.inl (C20.promote_self _)
  · exact Or.inl (promote_real_right _)
  · exact Or.inl (promote_real_left _)
  · exact Or.inr (C20.promote_self _)

theorem promote_within_right {d x : DType} (hx : Within d x) : promote d x = d := by
  rcases hx with rfl | rfl
  · exact C20.promote_self _
  · exact promote_real_right _

theorem promote_within_left {d x : DType} (hx : Within d x) : promote x d = d := by
  rcases hx with rfl | rfl
  · exact C20.promote_self _
  · exact promote_real_left _

theorem within_realPart {d x : DType} (hx : Within d x) : Within d x.realPart := by
  rcases hx with rfl | rfl
  · exact Or.inr rfl
  · exact Or.inr (C20.realPart_idem _)

theorem castFlags_self (d : DType) : castFlags d d = Flags.none := by cases d <;> rfl
theorem castInto_eq (a b : DType) : castInto a b = a := rfl

theorem flags_or_none (f : Flags) : f.or Flags.none = f := by
  cases f; simp [Flags.or, Flags.none]
theorem flags_none_or (f : Flags) : Flags.none.or f = f := by
  cases f; simp [Flags.or, Flags.none]

theorem mapM_ok_mem {ε α β : Type} (f : α → Except ε β) :
    ∀ (l : List α) (r : List β), l.mapM f = .ok r → ∀ y ∈ r, ∃ x ∈ l, f x = .ok y := by
  intro l
  induction l with
  | nil => intro r h y hy; simp [List.mapM_nil, pure, Except.pure] at h; cases h; cases hy
  | cons a as ih =>
    intro r h y hy
    simp only [List.mapM_cons] at h
    obtain ⟨b, hb, h2⟩ := bind_ok_iff.mp h
    obtain ⟨bs, hbs, h3⟩ := bind_ok_iff.mp h2
    simp only [pure, Except.pure] at h3
    injection h3 with h3
    subst h3
    rcases List.mem_cons.mp hy with rfl | hy'
    · exact ⟨a, by simp, hb⟩
    · obtain ⟨x, hx, hfx⟩ := ih bs hbs y hy'
      exact ⟨x, by simp [hx], hfx⟩

theorem pure_ok {α : Type} {a b : α} (h : (pure a : Except Err α) = .ok b) : a = b := by
  simp only [pure, Except.pure] at h; injection h

/-- the result dtype of a concatenation has every property of the pieces that `promote` keeps
    (being `d`: `eq_closed`; being within `d`: `within_promote`) -/
theorem concatD_forall {P : DType → Prop} (hP : ∀ a b, P a → P b → P (promote a b)) {l : List DType}
    {r : DType} (h : ∀ x ∈ l, P x) (hr : concatD l = .ok r) : P r := by
  cases l with
  | nil => cases hr
  | cons x xs =>
    rw [← pure_ok hr]
    exact foldl_inv P promote xs x (h x (by simp)) (fun b a ha hb => hP b a hb (h a (by simp [ha])))

theorem eq_closed (d : DType) : ∀ a b, a = d → b = d → promote a b = d :=
  fun _ _ ha hb => by rw [ha, hb]; exact C20.promote_self d

section
variable {κ : Type} [BEq κ]

theorem alookup_mem {β : Type} {l : List (κ × β)} {k : κ} {v : β} (h : alookup l k = some v) :
    ∃ k', (k', v) ∈ l := by
  induction l with
  | nil => simp [alookup] at h
  | cons p ps ih =>
    obtain ⟨k0, v0⟩ := p
    simp only [alookup] at h
    split at h
    · injection h with h; subst h; exact ⟨k0, by simp⟩
    · obtain ⟨k', hk⟩ := ih h; exact ⟨k', by simp [hk]⟩

theorem uni_alookup {d : DType} {l : List (κ × DType)} {k : κ} {v : DType} (hl : Uni d l)
    (h : alookup l k = some v) : v = d := by
  obtain ⟨k', hk⟩ := alookup_mem h
  exact hl (k', v) hk

theorem uniW_alookup {d : DType} {l : List (κ × DType)} {k : κ} {v : DType} (hl : UniW d l)
    (h : alookup l k = some v) : Within d v := by
  obtain ⟨k', hk⟩ := alookup_mem h
  exact hl (k', v) hk

theorem mem_ainsert {β : Type} {l : List (κ × β)} {k : κ} {v : β} {p : κ × β}
    (h : p ∈ ainsert l k v) : p ∈ l ∨ p.2 = v := by
  induction l with
  | nil => simp [ainsert] at h; right; rw [h]
  | cons q qs ih =>
    obtain ⟨k0, v0⟩ := q
    simp only [ainsert] at h
    split at h
    · rcases List.mem_cons.mp h with rfl | h'
      · right; rfl
      · left; simp [h']
    · rcases List.mem_cons.mp h with rfl | h'
      · left; simp
      · rcases ih h' with h'' | h''
        · left; simp [h'']
        · right; exact h''

theorem forall_ainsert {β : Type} {P : β → Prop} {l : List (κ × β)} {k : κ} {v : β}
    (hl : ∀ p ∈ l, P p.2) (hv : P v) : ∀ p ∈ ainsert l k v, P p.2 := by
  intro p hp
  rcases mem_ainsert hp with h | h
  · exact hl p h
  · rw [h]; exact hv

theorem forall_foldl_ainsert {β : Type} {P : β → Prop} (ps : List (κ × β)) (acc : List (κ × β))
    (ha : ∀ p ∈ acc, P p.2) (hp : ∀ p ∈ ps, P p.2) :
    ∀ p ∈ ps.foldl (fun acc p => ainsert acc p.1 p.2) acc, P p.2 :=
  foldl_inv (fun acc => ∀ p ∈ acc, P p.2) _ ps acc ha (fun _ q hq hb => forall_ainsert hb (hp q hq))

theorem uni_ainsert {d : DType} {l : List (κ × DType)} {k : κ} {v : DType} (hl : Uni d l) (hv : v = d) :
    Uni d (ainsert l k v) := forall_ainsert (P := (· = d)) hl hv

theorem uni_foldl_ainsert {d : DType} (ps : List (κ × DType)) :
    ∀ acc : List (κ × DType), Uni d acc → Uni d ps →
      Uni d (ps.foldl (fun acc p => ainsert acc p.1 p.2) acc) := forall_foldl_ainsert (P := (· = d)) ps

theorem uni_adict {d : DType} {ps : List (κ × DType)} (h : Uni d ps) : Uni d (adict ps) :=
  uni_foldl_ainsert ps [] (fun _ hp => by cases hp) h

theorem uniW_adict {d : DType} {ps : List (κ × DType)} (h : UniW d ps) : UniW d (adict ps) :=
  forall_foldl_ainsert (P := Within d) ps [] (fun _ hp => by cases hp) h

end

theorem uni_nil {κ : Type} (d : DType) : Uni d ([] : List (κ × DType)) := fun _ h => by cases h

theorem uni_map_key {κ κ' : Type} {d : DType} {l : List (κ × DType)} (f : κ × DType → κ')
    (h : Uni d l) : Uni d (l.map (fun p => (f p, p.2))) := by
  intro p hp
  obtain ⟨q, hq, rfl⟩ := List.mem_map.mp hp
  exact h q hq

theorem uni_filter {κ : Type} {d : DType} {l : List (κ × DType)} (f : κ × DType → Bool)
    (h : Uni d l) : Uni d (l.filter f) := fun p hp => h p (List.mem_filter.mp hp).1

theorem uniW_filter {κ : Type} {d : DType} {l : List (κ × DType)} (f : κ × DType → Bool)
    (h : UniW d l) : UniW d (l.filter f) := fun p hp => h p (List.mem_filter.mp hp).1

theorem uni_append {κ : Type} {d : DType} {l m : List (κ × DType)} (h : Uni d l) (h' : Uni d m) :
    Uni d (l ++ m) := by
  intro p hp
  rcases List.mem_append.mp hp with hp | hp
  · exact h p hp
  · exact h' p hp

theorem uni_to_uniW {κ : Type} {d : DType} {l : List (κ × DType)} (h : Uni d l) : UniW d l :=
  fun p hp => Or.inl (h p hp)

theorem ex_of_uni {d : DType} {a : DArr} (h : Uni d a.blocks) (hne : a.blocks ≠ []) : a.ex = d := by
  unfold DArr.ex
  cases hb : a.blocks with
  | nil => exact absurd hb hne
  | cons p ps =>
    obtain ⟨s, e⟩ := p
    have : (s, e) ∈ a.blocks := by rw [hb]; simp
    exact h (s, e) this

end SymmModel.DFlow
