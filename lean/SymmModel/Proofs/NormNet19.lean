/-
  SymmModel.Proofs.NormNet19 — network form of the norm (property C10), part 19:
  the two generic tensor-by-tensor steps with every call in any mode: given the blockwise route
  (`tw_left_w` / `tw_right_w`), the route through a zero-padded half `Xm` with calls in modes
  `m1`, `m2` succeeds and gives the same scalar (`Net4P.left_two_any` / `right_two_any` over the triangles
  `half_tri_left` / `half_tri_right` of `X` and of `Xm`).
-/
import SymmModel.Proofs.NormNet17
namespace SymmModel.NormNet
open SymmModel SymmModel.Lazy SymmModel.Norm SymmModel.TdotP SymmModel.GradedP SymmModel.RoutesP
open SymmModel.AssocP
set_option linter.unusedSectionVars false

section anymode
variable {R : Type} [AddCommMonoid R] [Mul R] [Neg R] [SignRing R]

/-- the data of a half `X` (blockwise) and its any-mode version `Xm` against the two tensors `p`, `q`
    of the other half: a `Half X Xm` (NormNet17) whose table frame is the conjugated frame of `p·q`
    (`HalfPair.half`), together with the symmetry of both.  Made by `HalfPair.of_call`, taken by the
    tensor-by-tensor steps `tw_left_any`, `tw_right_any`, `tw_cross_any`. -/
structure HalfPair [Zero R] [Neg R] (X Xm p q : Arr R) (xp xq : List Nat) : Prop where
  pad : Pad Xm X
  vX : X.validB = true
  vXm : Xm.validB = true
  fX : X.fermi = true
  fXm : Xm.fermi = true
  sX : X.sym = p.sym
  sXm : Xm.sym = p.sym
  odd : Xm.oddpos = X.oddpos
  chg : Xm.charge = X.charge
  frX : List.Forall₂ SizeLe X.indices
    ((without p.indices xp ++ without q.indices xq).map Index.conj)
  frXm : List.Forall₂ SizeLe Xm.indices
    ((without p.indices xp ++ without q.indices xq).map Index.conj)

theorem HalfPair.half {X Xm p q : Arr R} {xp xq : List Nat} (H : HalfPair X Xm p q xp xq) :
    Half X Xm ((without p.indices xp ++ without q.indices xq).map Index.conj) :=
  ⟨H.pad, H.vX, H.vXm, H.fX, H.fXm, H.odd, H.chg, H.frX, H.frXm⟩

theorem HalfPair.padA {X Xm p q : Arr R} {xp xq : List Nat} (H : HalfPair X Xm p q xp xq) :
    Net4P.PadA Xm X := H.half.padA

theorem HalfPair.of_call (hz1 : ∀ x : R, 0 * x = 0) (hz2 : ∀ x : R, x * 0 = 0)
    {p q p' q' X : Arr R} {xp xq : List Nat} (W : AdmW p' q' xp xq) (hs : p'.sym = p.sym)
    (hfr : without p'.indices xp ++ without q'.indices xq
      = (without p.indices xp ++ without q.indices xq).map Index.conj)
    (e : Net4P.tdM .blockwise p' q' xp xq = .ok X) (m : TdotMode) :
    ∃ Xm, Net4P.tdM m p' q' xp xq = .ok Xm ∧ HalfPair X Xm p q xp xq := by
  obtain ⟨Xm, em, P, Im⟩ := Net4P.pad_call hz1 hz2 (.refl W.va) (.refl W.vb) W W X e m
  obtain ⟨_, _, C⟩ := Call.of_ok W e
  have Ib := C.toInter.toW
  exact ⟨Xm, em, P.pad, Ib.valid, Im.valid, Ib.fermi, Im.fermi, Ib.sym.trans hs, Im.sym.trans hs,
    P.oddpos, P.charge, hfr ▸ Ib.frame, hfr ▸ Im.frame⟩

theorem tw_left_any (hz1 : ∀ x : R, 0 * x = 0) (hz2 : ∀ x : R, x * 0 = 0)
    (p q X Xm AB c : Arr R) (xp xq : List Nat)
    (hp : p.validB = true) (hq : q.validB = true) (hfp : p.fermi = true) (hfq : q.fermi = true)
    (hadm : ValidP.tdotAdmissibleB p q xp xq = true) (H : HalfPair X Xm p q xp xq)
    (e1 : X.tensordotF p (.pair ((List.range (freeAxes p.ndim xp).length).map Int.ofNat)
        ((freeAxes p.ndim xp).map Int.ofNat)) .blockwise = .ok AB)
    (e2 : AB.tensordotF q (.pair ((axesTW p.ndim q.ndim xp xq).map Int.ofNat)
        ((freeAxes q.ndim xq ++ xq).map Int.ofNat)) .blockwise = .ok c)
    (hc : c.ndim = 0) (m1 m2 : TdotMode) :
    ∃ ABm cm, Xm.tensordotF p (.pair ((List.range (freeAxes p.ndim xp).length).map Int.ofNat)
          ((freeAxes p.ndim xp).map Int.ofNat)) m1 = .ok ABm
      ∧ ABm.tensordotF q (.pair ((axesTW p.ndim q.ndim xp xq).map Int.ofNat)
          ((freeAxes q.ndim xq ++ xq).map Int.ofNat)) m2 = .ok cm
      ∧ cm.ndim = 0 ∧ cm.oddpos = c.oddpos ∧ cm.elem [] [] = c.elem [] [] := by
  have h := Adm.of hp hq hfp hfq hadm
  have hXn := halfS_ndim X p q xp xq H.frX (keys_nodup_of_validB H.vX)
  unfold axesTW at e2 ⊢
  rw [← hXn] at e2 ⊢
  obtain ⟨ABm, cm, e1m, e2m, pc⟩ := Net4P.left_two_any hz1 hz2 H.padA hp hq
    (half_tri_left H.vXm H.fXm H.sXm H.frXm h) (half_tri_left H.vX H.fX H.sX H.frX h) e1 e2 m1 m2
  exact ⟨ABm, cm, e1m, e2m, pc.scalar hc⟩

theorem tw_right_any (hz1 : ∀ x : R, 0 * x = 0) (hz2 : ∀ x : R, x * 0 = 0)
    (p q X Xm BC c : Arr R) (xp xq : List Nat)
    (hp : p.validB = true) (hq : q.validB = true) (hfp : p.fermi = true) (hfq : q.fermi = true)
    (hadm : ValidP.tdotAdmissibleB p q xp xq = true) (H : HalfPair X Xm p q xp xq)
    (e1 : q.tensordotF X (.pair ((freeAxes q.ndim xq).map Int.ofNat)
        (((List.range (freeAxes q.ndim xq).length).map ((freeAxes p.ndim xp).length + ·)).map
          Int.ofNat)) .blockwise = .ok BC)
    (e2 : p.tensordotF BC (.pair ((xp ++ freeAxes p.ndim xp).map Int.ofNat)
        ((axesTWr p.ndim q.ndim xp xq).map Int.ofNat)) .blockwise = .ok c)
    (hc : c.ndim = 0) (m1 m2 : TdotMode) :
    ∃ BCm cm, q.tensordotF Xm (.pair ((freeAxes q.ndim xq).map Int.ofNat)
          (((List.range (freeAxes q.ndim xq).length).map ((freeAxes p.ndim xp).length + ·)).map
            Int.ofNat)) m1 = .ok BCm
      ∧ p.tensordotF BCm (.pair ((xp ++ freeAxes p.ndim xp).map Int.ofNat)
          ((axesTWr p.ndim q.ndim xp xq).map Int.ofNat)) m2 = .ok cm
      ∧ cm.ndim = 0 ∧ cm.oddpos = c.oddpos ∧ cm.elem [] [] = c.elem [] [] := by
  have h := Adm.of hp hq hfp hfq hadm
  have hXn := halfS_ndim X p q xp xq H.frX (keys_nodup_of_validB H.vX)
  unfold axesTWr at e2 ⊢
  rw [← hXn] at e2 ⊢
  obtain ⟨BCm, cm, e1m, e2m, pc⟩ := Net4P.right_two_any hz1 hz2 H.padA hp hq
    (half_tri_right H.vXm H.fXm H.sXm H.frXm h) (half_tri_right H.vX H.fX H.sX H.frX h) e1 e2 m1 m2
  exact ⟨BCm, cm, e1m, e2m, pc.scalar hc⟩

end anymode

end SymmModel.NormNet
