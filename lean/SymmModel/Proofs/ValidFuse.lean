/-
  SymmModel.Proofs.ValidFuse — `unfuse` returns a valid array (property C01).  The proof uses exactly
  the `extentOk` bookkeeping that `Index.wfB` demands of a fused index: every sub-sector of the
  extent of the old charge has one charge per sub-index, size = product of the sub-sizes, and its
  signed combination relative to the fused direction is the fused charge.

  `unfStep`/`unfPiece`/`unfuseA'` are verbatim copies of the loop bodies of `unfuseA`
  (`unfuseA_eq'` is `rfl`).
-/
import SymmModel.Proofs.ValidTdot
import SymmModel.Model.Fuse
namespace SymmModel
namespace ValidP
open Sym
variable {R : Type}

def unfPiece [Zero R] (subIdx : List Index) (axis : Nat) (sector : Sector) (array : Blk R) :
    (Sector × Nat) × Nat → Except Err (Sector × Blk R) :=
  fun ((subsector, d), st) => do
      let subshape ← match Arr.blockShape? subIdx subsector with
        | some s => pure s
        | none => throw Err.key
      let lens := array.shape.set axis d
      let piece := array.sliceK ((List.replicate array.shape.length 0).set axis st) lens
      pure (replaceWithSeq sector axis subsector,
            piece.reshapeK (replaceWithSeq array.shape axis subshape))

def unfStep [Zero R] (subIdx : List Index) (exts : Extents) (axis : Nat)
    (acc : List (Sector × Blk R)) (sb : Sector × Blk R) : Except Err (List (Sector × Blk R)) := do
    let (sector, array) := sb
    let oldCharge := sector.getD axis (0, 0)
    let ext ← match alookup exts oldCharge with
      | some e => pure e
      | none => throw Err.key
    let starts := offsets (ext.map (·.2))
    let pieces ← (ext.zip starts).mapM (unfPiece subIdx axis sector array)
    pure (pieces.foldl (fun m (k, v) => ainsert m k v) acc)

def unfuseA' [Zero R] (a : Arr R) (axis : Nat) : Except Err (Arr R) := do
  let ix ← match a.indices[axis]? with
    | some ix => pure ix
    | none => throw Err.index
  let (subIdx, exts) ← match ix.sub with
    | some s => pure s
    | none => throw Err.attr
  let newBlocks ← a.blocks.foldlM (unfStep subIdx exts axis) []
  pure { a with indices := replaceWithSeq a.indices axis subIdx, blocks := newBlocks }

theorem unfuseA_eq' [Zero R] (a : Arr R) (axis : Nat) : unfuseA a axis = unfuseA' a axis := rfl

theorem unfPiece_ok [Zero R] {subIdx : List Index} {axis : Nat} {sector : Sector} {array : Blk R}
    {x : (Sector × Nat) × Nat} {y : Sector × Blk R} (h : unfPiece subIdx axis sector array x = .ok y) :
    ∃ subshape, Arr.blockShape? subIdx x.1.1 = some subshape ∧
      y = (replaceWithSeq sector axis x.1.1,
        (array.sliceK ((List.replicate array.shape.length 0).set axis x.2)
          (array.shape.set axis x.1.2)).reshapeK (replaceWithSeq array.shape axis subshape)) := by
  obtain ⟨⟨ss, d⟩, st⟩ := x
  unfold unfPiece at h
  simp only at h
  cases hb : Arr.blockShape? subIdx ss with
  | none => rw [hb] at h; cases h
  | some shp =>
    rw [hb] at h
    refine ⟨shp, rfl, ?_⟩
    cases h; rfl

theorem unfStep_ok [Zero R] {subIdx : List Index} {exts : Extents} {axis : Nat}
    {acc acc' : List (Sector × Blk R)} {sb : Sector × Blk R}
    (h : unfStep subIdx exts axis acc sb = .ok acc') :
    ∃ ext pieces, alookup exts (sb.1.getD axis (0, 0)) = some ext ∧
      (ext.zip (offsets (ext.map (·.2)))).mapM (unfPiece subIdx axis sb.1 sb.2) = .ok pieces ∧
      acc' = pieces.foldl (fun m x => ainsert m x.1 x.2) acc := by
  obtain ⟨sector, array⟩ := sb
  unfold unfStep at h
  simp only at h
  cases he : alookup exts (sector.getD axis (0, 0)) with
  | none => rw [he] at h; cases h
  | some ext =>
    rw [he] at h
    cases hp : (ext.zip (offsets (ext.map (·.2)))).mapM (unfPiece subIdx axis sector array) with
    | error e => 
      simp only [pure_bind] at h
      rw [hp] at h; cases h
    | ok pieces =>
      simp only [pure_bind] at h
      rw [hp] at h
      refine ⟨ext, pieces, rfl, hp, ?_⟩
      cases h; rfl

theorem sign_rel_combine (s : Sym) (D : Bool) (P : List (Index × Charge)) :
    s.sign (s.combine (P.map (fun p => s.sign p.2 (D != p.1.dual)))) D = s.combine (sgn s P) := by
  cases D with
  | false =>
    rw [Sym.sign_false]
    unfold sgn
    simp
  | true =>
    have : (P.map (fun p => s.sign p.2 (true != p.1.dual)))
        = P.map (fun p => s.sign p.2 (!p.1.dual)) := by
      apply List.map_congr_left
      intro p _
      cases p.1.dual <;> rfl
    rw [this, combine_flip, Sym.sign_sign s _ true (Sym.combine_valid s _)]

theorem combine3 (s : Sym) (A B C : List Charge) :
    s.combine (A ++ B ++ C) = s.combine [s.combine A, s.combine B, s.combine C] := by
  rw [List.append_assoc, Sym.combine_append, Sym.combine_append s B C, ← combine_cons]

theorem combine3_single (s : Sym) (A C : List Charge) (x : Charge) :
    s.combine (A ++ [x] ++ C) = s.combine [s.combine A, x, s.combine C] := by
  rw [List.append_assoc, Sym.combine_append, List.singleton_append, combine_cons s x C,
    ← combine_cons]

theorem secOk_replace {sym : Sym} {idx : List Index} {ch : Charge} {s : Sector}
    {axis : Nat} {ix : Index} (subs : List Index) (ss : Sector)
    (h : SecOk sym idx ch s) (hix : idx[axis]? = some ix) (hl : ss.length = subs.length)
    (hc : sym.combine (List.zipWith (fun c' (sub : Index) => sym.sign c' (ix.dual != sub.dual)) ss subs)
      = s.getD axis (0, 0)) :
    SecOk sym (replaceWithSeq idx axis subs) ch (replaceWithSeq s axis ss) := by
  obtain ⟨P, rfl, rfl, hch⟩ := secOk_iff.mp h
  have hax : axis < P.length := by
    have := (List.getElem?_eq_some_iff.mp hix).1
    simpa using this
  have hP : P = P.take axis ++ [P[axis]] ++ P.drop (axis + 1) := by
    simp
  have hix' : P[axis].1 = ix := by
    have := (List.getElem?_eq_some_iff.mp hix).2
    simpa using this
  have hc' : (List.map (fun x : Index × Charge => x.2) P).getD axis (0, 0) = P[axis].2 := by
    simp [List.getD_eq_getElem?_getD, hax]
  rw [hc'] at hc
  refine secOk_iff.mpr ⟨P.take axis ++ subs.zip ss ++ P.drop (axis + 1), ?_, ?_, ?_⟩
  · unfold replaceWithSeq
    simp only [List.map_append, List.map_take, List.map_drop]
    rw [List.map_fst_zip (by omega)]
  · unfold replaceWithSeq
    simp only [List.map_append, List.map_take, List.map_drop]
    rw [List.map_snd_zip (by omega)]
  · rw [← hch]
    conv_rhs => rw [hP]
    unfold sgn
    simp only [List.map_append, List.map_cons, List.map_nil]
    rw [combine3, combine3_single]
    have key := sign_rel_combine sym ix.dual (subs.zip ss)
    have e : (subs.zip ss).map (fun p => sym.sign p.2 (ix.dual != p.1.dual))
        = List.zipWith (fun c' (sub : Index) => sym.sign c' (ix.dual != sub.dual)) ss subs := by
      rw [List.zip_eq_zipWith, List.map_zipWith]
      rw [List.zipWith_comm]
    rw [e, hc] at key
    unfold sgn at key
    rw [← key, hix']

theorem blockShape?_replace {idx subs : List Index} {s ss : Sector} {shp sshp : List Nat} (axis : Nat)
    (h : Arr.blockShape? idx s = some shp) (hs : Arr.blockShape? subs ss = some sshp) :
    Arr.blockShape? (replaceWithSeq idx axis subs) (replaceWithSeq s axis ss)
      = some (replaceWithSeq shp axis sshp) := by
  unfold replaceWithSeq
  obtain ⟨T, hT, rfl, rfl, rfl⟩ := blockShape?_iff.mp h
  simp only [← List.map_take, ← List.map_drop]
  refine blockShape?_append (blockShape?_append ?_ hs) ?_
  · exact blockShape?_iff.mpr ⟨T.take axis, fun t ht => hT t (List.mem_of_mem_take ht), rfl, rfl, rfl⟩
  · exact blockShape?_iff.mpr ⟨T.drop (axis + 1), fun t ht => hT t (List.mem_of_mem_drop ht),
      rfl, rfl, rfl⟩

theorem blockShape?_getD {idx : List Index} {s : Sector} {shp : List Nat} {axis : Nat} {ix : Index}
    (h : Arr.blockShape? idx s = some shp) (hix : idx[axis]? = some ix) :
    axis < shp.length ∧ ∃ d, ix.sizeOf? (s.getD axis (0, 0)) = some d := by
  obtain ⟨T, hT, rfl, rfl, rfl⟩ := blockShape?_iff.mp h
  have hax : axis < T.length := by
    have := (List.getElem?_eq_some_iff.mp hix).1
    simpa using this
  have hix' : T[axis].1 = ix := by
    have := (List.getElem?_eq_some_iff.mp hix).2
    simpa using this
  refine ⟨by simpa using hax, T[axis].2.2, ?_⟩
  have : (List.map (fun x : Trip => x.2.1) T).getD axis (0, 0) = T[axis].2.1 := by
    simp [List.getD_eq_getElem?_getD, hax]
  rw [this, ← hix']
  exact hT _ (List.getElem_mem _)

theorem prod_replaceWithSeq (shp sub : List Nat) (axis : Nat) (hax : axis < shp.length) :
    prod (replaceWithSeq shp axis sub) = prod (shp.set axis (prod sub)) := by
  unfold replaceWithSeq
  rw [List.set_eq_take_append_cons_drop, if_pos hax, prod_append, prod_append, prod_append]
  simp only [prod, Nat.mul_assoc]

theorem extentOk_iff (sym : Sym) (D : Bool) (subs : List Index) (c : Charge) (d : Nat) (ext : Extent) :
    extentOk sym D subs c d ext = true ↔
      sumN (ext.map (·.2)) = d ∧ (ext.map (·.1)).Nodup ∧
      ∀ e ∈ ext, e.1.length = subs.length
        ∧ (∃ shp, Arr.blockShape? subs e.1 = some shp ∧ prod shp = e.2)
        ∧ sym.combine (List.zipWith (fun c' (sub : Index) => sym.sign c' (D != sub.dual)) e.1 subs) = c := by
  unfold extentOk
  simp only [Bool.and_eq_true, beq_iff_eq, allDistinct_iff_nodup, List.all_eq_true, and_assoc]
  refine and_congr_right (fun _ => and_congr_right (fun _ => ?_))
  constructor
  · rintro h ⟨ss, sz⟩ he
    obtain ⟨h1, h2, h3⟩ := h (ss, sz) he
    refine ⟨h1, ?_, h3⟩
    simp only at h2 ⊢
    split at h2
    · rename_i shp hs; exact ⟨shp, hs, by simpa using h2⟩
    · cases h2
  · rintro h ⟨ss, sz⟩ he
    obtain ⟨h1, ⟨shp, h2, h2'⟩, h3⟩ := h (ss, sz) he
    refine ⟨h1, ?_, h3⟩
    simp only at h2 h2' ⊢
    rw [h2]; simpa using h2'

theorem mem_replaceWithSeq {α : Type} {l seq : List α} {i : Nat} {x : α}
    (h : x ∈ replaceWithSeq l i seq) : x ∈ l ∨ x ∈ seq := by
  unfold replaceWithSeq at h
  simp only [List.mem_append] at h
  rcases h with (h | h) | h
  · exact Or.inl (List.mem_of_mem_take h)
  · exact Or.inr h
  · exact Or.inl (List.mem_of_mem_drop h)

theorem unfuseA_ok [Zero R] {a r : Arr R} {axis : Nat} (h : unfuseA a axis = .ok r) :
    ∃ ix subIdx exts nb, a.indices[axis]? = some ix ∧ ix.sub = some (subIdx, exts)
      ∧ a.blocks.foldlM (unfStep subIdx exts axis) [] = .ok nb
      ∧ r = { a with indices := replaceWithSeq a.indices axis subIdx, blocks := nb } := by
  rw [unfuseA_eq'] at h
  unfold unfuseA' at h
  cases hix : a.indices[axis]? with
  | none => rw [hix] at h; cases h
  | some ix =>
    rw [hix] at h
    simp only [pure_bind] at h
    cases hs : ix.sub with
    | none => rw [hs] at h; cases h
    | some se =>
      rw [hs] at h
      obtain ⟨subIdx, exts⟩ := se
      obtain ⟨nb, hnb, h⟩ := bind_ok h
      cases h
      exact ⟨ix, subIdx, exts, nb, rfl, hs, hnb, rfl⟩

theorem unfuseA_core [Zero R] (a r : Arr R) (axis : Nat) (hv : Core a)
    (h : unfuseA a axis = .ok r) : Core r := by
  obtain ⟨⟨cm, D, sub⟩, subIdx, exts, nb, hix, hsub, hnb, rfl⟩ := unfuseA_ok h
  simp only [Index.sub] at hsub
  subst hsub
  have hwf := hv.idx _ (List.mem_of_getElem? hix)
  obtain ⟨_, w2, _, w4, _⟩ := (wfB_some a.sym cm D subIdx exts).mp hwf
  have inv := foldlM_ok_inv
    (fun acc : List (Sector × Blk R) => (acc.map (·.1)).Nodup ∧
      ∀ sb ∈ acc, BlockOk a.sym (replaceWithSeq a.indices axis subIdx) a.charge sb)
    (unfStep subIdx exts axis) a.blocks [] nb ⟨by simp, by simp⟩ ?_ hnb
  · refine ⟨?_, hv.chg, inv.1, inv.2⟩
    intro i hi
    rcases mem_replaceWithSeq hi with hi | hi
    · exact hv.idx i hi
    · exact Index.wfListB_iff.mp w2 i hi
  · rintro acc ⟨sector, array⟩ acc' hsb ⟨hn, hall⟩ hstep
    obtain ⟨ext, pieces, he, hp, rfl⟩ := unfStep_ok hstep
    simp only at he hp
    obtain ⟨b1, b2, b3⟩ := hv.blk _ hsb
    simp only at b1 b2 b3
    obtain ⟨hax, d, hd⟩ := blockShape?_getD b2 hix
    obtain ⟨ext', he', hok⟩ := w4 _ (alookup_some_mem hd)
    simp only at he' hok
    rw [he] at he'
    cases he'
    obtain ⟨_, _, hext⟩ := (extentOk_iff _ _ _ _ _ _).mp hok
    have hf2 := mapM_ok_forall₂ _ _ _ hp
    have := foldl_ainsert_inv (fun p : Sector × Blk R => p) pieces acc
      (fun sb => BlockOk a.sym (replaceWithSeq a.indices axis subIdx) a.charge sb) hall ?_ hn
    · exact ⟨this.2, this.1⟩
    · intro y hy
      obtain ⟨x, hx, hxy⟩ := forall₂_mem_right hf2 hy
      obtain ⟨subshape, hss, rfl⟩ := unfPiece_ok hxy
      obtain ⟨e1, ⟨shp, e2, e2'⟩, e3⟩ := hext x.1 (List.of_mem_zip hx).1
      rw [hss] at e2
      cases e2
      refine ⟨?_, ?_, ?_⟩
      · exact secOk_replace subIdx x.1.1 b1 hix e1 e3
      · exact blockShape?_replace axis b2 hss
      · simp only [Blk.wf, Blk.reshapeK, beq_iff_eq]
        rw [prod_replaceWithSeq _ _ _ hax, e2']
        have := ofFn_wf (array.shape.set axis x.1.2) (fun i => array.get
          (List.zipWith (· + ·) i ((List.replicate array.shape.length 0).set axis x.2)))
        simpa [Blk.wf, Blk.sliceK] using this

theorem unfuseA_fields [Zero R] {a r : Arr R} {axis : Nat} (h : unfuseA a axis = .ok r) :
    r.sym = a.sym ∧ r.fermi = a.fermi ∧ r.charge = a.charge ∧ r.phases = a.phases
      ∧ r.oddpos = a.oddpos := by
  obtain ⟨_, _, _, _, _, _, _, rfl⟩ := unfuseA_ok h
  exact ⟨rfl, rfl, rfl, rfl, rfl⟩

theorem unfuseA_valid [Zero R] (a r : Arr R) (axis : Nat) (hv : Valid a) (hf : a.fermi = false)
    (h : unfuseA a axis = .ok r) : Valid r := by
  obtain ⟨_, e2, _, e4, e5⟩ := unfuseA_fields h
  exact hv.of_abelian hf (unfuseA_core a r axis hv.core h) e2 e4 e5

theorem unfuseA_validB [Zero R] (a r : Arr R) (axis : Nat) (hv : a.validB = true)
    (hf : a.fermi = false) (h : unfuseA a axis = .ok r) : r.validB = true :=
  (validB_iff r).mpr (unfuseA_valid a r axis ((validB_iff a).mp hv) hf h)

theorem unfuseAllA_core [Zero R] (a r : Arr R) (hv : Core a) (h : unfuseAllA a = .ok r) : Core r := by
  unfold unfuseAllA unfuseAllWith at h
  refine foldlM_ok_inv (fun x : Arr R => Core x) _ _ a r hv ?_ h
  intro x ax x' _ hx hstep
  split at hstep
  · split at hstep
    · exact unfuseA_core x x' ax hx hstep
    · cases hstep; exact hx
  · cases hstep; exact hx

theorem unfuseAllA_valid [Zero R] (a r : Arr R) (hv : Valid a) (hf : a.fermi = false)
    (h : unfuseAllA a = .ok r) : Valid r := by
  unfold unfuseAllA unfuseAllWith at h
  refine (foldlM_ok_inv (fun x : Arr R => Valid x ∧ x.fermi = false) _ _ a r ⟨hv, hf⟩ ?_ h).1
  intro x ax x' _ hx hstep
  split at hstep
  · split at hstep
    · exact ⟨unfuseA_valid x x' ax hx.1 hx.2 hstep, (unfuseA_fields hstep).2.1.trans hx.2⟩
    · cases hstep; exact hx
  · cases hstep; exact hx

/-! ### the hypotheses are satisfiable: a Z2 matrix whose first index is fused from two -/

def exSub : Index := .mk [((0, 0), 1), ((1, 0), 1)] false none
def exFused : Index := .mk [((0, 0), 2), ((1, 0), 2)] false
  (some ([exSub, exSub],
    [((0, 0), [([(0, 0), (0, 0)], 1), ([(1, 0), (1, 0)], 1)]),
     ((1, 0), [([(0, 0), (1, 0)], 1), ([(1, 0), (0, 0)], 1)])]))
def exArr : Arr Int :=
  { sym := .Z2, fermi := false, indices := [exFused, .mk [((0, 0), 1), ((1, 0), 1)] true none],
    charge := (0, 0),
    blocks := [([(0, 0), (0, 0)], ⟨[2, 1], #[1, 2]⟩), ([(1, 0), (1, 0)], ⟨[2, 1], #[3, 4]⟩)] }

example : exArr.validB = true ∧ exArr.fermi = false := by decide
example : (match unfuseA exArr 0 with
    | .ok r => r.validB && r.sectors == [[(0, 0), (0, 0), (0, 0)], [(1, 0), (1, 0), (0, 0)],
        [(0, 0), (1, 0), (1, 0)], [(1, 0), (0, 0), (1, 0)]]
    | .error _ => false) = true := by decide +kernel

end ValidP
end SymmModel
