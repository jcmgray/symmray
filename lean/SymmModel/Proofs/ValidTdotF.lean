/-
  SymmModel.Proofs.ValidTdotF — property C01 for the public contraction entry points:
  `tensordot_abelian` in block-wise mode, and `tensordot_fermionic` in any mode whose abelian
  kernel preserves the sign-free clauses (`TdotASpec`; block-wise mode is the instance proved
  here, `tdotASpec_blockwise`, which Proofs/AssocFrame uses; the instance for every mode is
  `tdotASpec_all` in Proofs/ValidTdotFused).  The sign clause of the fermionic result: the kernel
  sees operands with empty sign tables, and `resolve_combined_oddpos` leaves a number of
  odd-position labels of the parity of the charge.
-/
import SymmModel.Proofs.ValidMore
import SymmModel.Proofs.SpecTdotF
import SymmModel.Proofs.OddposScan

namespace SymmModel
namespace ValidP

variable {R : Type}

def tdotAdmissibleB (a b : Arr R) (axesA axesB : List Nat) : Bool :=
  decide (a.sym = b.sym) && contractibleB a b axesA axesB
  && allDistinct axesA && allDistinct axesB
  && axesA.all (fun i => decide (i < a.ndim)) && axesB.all (fun i => decide (i < b.ndim))

/-- `tdotAdmissibleB` clause by clause -/
structure TdotAdm (a b : Arr R) (axesA axesB : List Nat) : Prop where
  sym : a.sym = b.sym
  con : contractibleB a b axesA axesB = true
  nA : axesA.Nodup
  nB : axesB.Nodup
  ltA : ∀ i ∈ axesA, i < a.ndim
  ltB : ∀ i ∈ axesB, i < b.ndim

theorem tdotAdmissibleB_iff {a b : Arr R} {axesA axesB : List Nat} :
    tdotAdmissibleB a b axesA axesB = true ↔ TdotAdm a b axesA axesB := by
  unfold tdotAdmissibleB
  simp only [Bool.and_eq_true, decide_eq_true_eq, allDistinct_iff_nodup, List.all_eq_true]
  exact ⟨fun ⟨⟨⟨⟨⟨h1, h2⟩, h3⟩, h4⟩, h5⟩, h6⟩ => ⟨h1, h2, h3, h4, h5, h6⟩,
    fun h => ⟨⟨⟨⟨⟨h.sym, h.con⟩, h.nA⟩, h.nB⟩, h.ltA⟩, h.ltB⟩⟩

theorem tensordotA_blockwise_valid [Zero R] [Add R] [Mul R] (a b r : Arr R) (axesA axesB : List Nat)
    (ha : Valid a) (hb : Valid b) (hfa : a.fermi = false)
    (hadm : tdotAdmissibleB a b axesA axesB = true)
    (h : tensordotA a b (.pair (axesA.map Int.ofNat) (axesB.map Int.ofNat)) .blockwise = .ok r) :
    Valid r := by
  obtain ⟨hsym, hc, hnA, hnB, hA, hB⟩ := tdotAdmissibleB_iff.mp hadm
  have hlen := (oppositeDualsB_iff.mp (contractible_opposite hc)).1
  cases (tensordotA_blockwise_of_parse a b _ _ _
    (parseAxes_nat _ _ axesA axesB hlen hA hB)).symm.trans h
  exact tensordotBlockwise_valid a b axesA axesB ha hb hsym hfa (contractible_opposite hc)
    hnA hnB hA hB

theorem odd_add (m n k : Nat) (h : k % 2 = (m + n) % 2) :
    (k % 2 == 1) = xor (m % 2 == 1) (n % 2 == 1) := by
  rcases Nat.mod_two_eq_zero_or_one m with hm | hm <;>
  rcases Nat.mod_two_eq_zero_or_one n with hn | hn <;>
  rcases Nat.mod_two_eq_zero_or_one k with hk | hk <;>
  simp [hm, hn, hk] <;> omega

theorem resolveCombinedOddpos_valid (l r new res : Arr R) (hnew : Core new)
    (hf : new.fermi = true) (hph : PhasesOk new.sym new.indices new.charge new.phases)
    (hch : new.sym.parity new.charge
      = xor (l.oddpos.length % 2 == 1) (r.oddpos.length % 2 == 1))
    (h : resolveCombinedOddpos l r new = .ok res) : Valid res := by
  rw [OddposP.resolveCombinedOddpos_eq] at h
  cases hm : OddposP.mergeOddpos l.parity l.oddpos r.oddpos with
  | error e => rw [hm] at h; cases h
  | ok q =>
    obtain ⟨out, ph⟩ := q
    rw [hm] at h
    simp only [Except.map, Except.ok.injEq] at h
    have hpar := (LabelAlg.mergeOddpos_reds hm).1.length
    simp only [List.length_append] at hpar
    have hodd : (out.length % 2 == 1) = new.sym.parity new.charge := by
      rw [hch]; exact odd_add _ _ _ hpar
    have hbase : Valid ({ new with oddpos := out } : Arr R) :=
      Valid.of_fermi (a := { new with oddpos := out }) ⟨hnew.idx, hnew.chg, hnew.nodup, hnew.blk⟩
        hf hph hodd
    subst h
    split
    · exact phaseGlobal_valid ({ new with oddpos := out } : Arr R) hbase hf
    · exact hbase

theorem permuted_range_take {α : Type} (l : List α) (k : Nat) :
    permuted l (List.range k) = l.take k := by
  by_cases hk : k ≤ l.length
  · have h1 : permuted l (List.range k) = permuted (l.take k) (List.range k) := by
      unfold permuted
      apply List.filterMap_congr
      intro i hi
      have := List.mem_range.mp hi
      rw [List.getElem?_take_of_lt this]
    rw [h1]
    have := permuted_range (l.take k)
    rwa [List.length_take, Nat.min_eq_left hk] at this
  · have hk' : l.length ≤ k := by omega
    rw [List.take_of_length_le hk']
    have : List.range k = List.range l.length ++ (List.range' l.length (k - l.length)) := by
      rw [List.range_eq_range', List.range_eq_range']
      have := List.range'_append (s := 0) (m := l.length) (n := k - l.length) (step := 1)
      have e : l.length + (k - l.length) = k := by omega
      rw [e, Nat.one_mul, Nat.zero_add] at this
      exact this.symm
    rw [this, permuted_append, permuted_range]
    have : permuted l (List.range' l.length (k - l.length)) = [] := by
      unfold permuted
      rw [List.filterMap_eq_nil_iff]
      intro i hi
      have := (List.mem_range'_1.mp hi).1
      exact List.getElem?_eq_none this
    rw [this, List.append_nil]

theorem permuted_range_drop {α : Type} (l : List α) (m : Nat) :
    permuted l ((List.range l.length).drop m) = l.drop m := by
  have h1 : (List.range l.length).drop m = (List.range (l.length - m)).map (· + m) := by
    apply List.ext_getElem
    · simp
    · intro i h1 h2
      simp only [List.getElem_drop, List.getElem_range, List.getElem_map]
      omega
  rw [h1]
  have h2 : permuted l ((List.range (l.length - m)).map (· + m))
      = permuted (l.drop m) (List.range (l.length - m)) := by
    unfold permuted
    rw [List.filterMap_map]
    apply List.filterMap_congr
    intro i _
    simp only [Function.comp, List.getElem?_drop]
    congr 1; omega
  rw [h2]
  have := permuted_range (l.drop m)
  rwa [List.length_drop] at this

theorem without_length_add {n : Nat} {r : List Nat} (hn : r.Nodup) (hlt : ∀ i ∈ r, i < n) :
    (without (List.range n) r).length + r.length = n := by
  have := (without_append_perm hn hlt).length_eq
  rwa [List.length_append, List.length_range] at this

/-- `tensordot_abelian` in `mode`: on operands satisfying the sign-free clauses of validity the
    result satisfies them too, with the combined charge and the first operand's other fields -/
def TdotASpec (R : Type) [Zero R] [Add R] [Mul R] (mode : TdotMode) : Prop :=
  ∀ (a b c : Arr R) (axesA axesB : List Nat), Core a → Core b → a.sym = b.sym →
    (permuted b.indices axesB).map Index.dual = (permuted a.indices axesA).map (fun ix => !ix.dual) →
    axesA.length = axesB.length → axesA.Nodup → axesB.Nodup →
    (∀ i ∈ axesA, i < a.ndim) → (∀ i ∈ axesB, i < b.ndim) →
    tensordotA a b (.pair (axesA.map Int.ofNat) (axesB.map Int.ofNat)) mode = .ok c →
    Core c ∧ c.sym = a.sym ∧ c.fermi = a.fermi ∧ c.charge = a.sym.combine [a.charge, b.charge]
      ∧ c.phases = a.phases ∧ c.oddpos = a.oddpos

theorem tdotASpec_blockwise [Zero R] [Add R] [Mul R] : TdotASpec R .blockwise := by
  intro a b c axesA axesB ha hb hsym hd hlen hnA hnB hA hB h
  cases (tensordotA_blockwise_of_parse a b _ _ _
    (parseAxes_nat _ _ axesA axesB hlen hA hB)).symm.trans h
  exact ⟨tensordotBlockwise_core_of_duals a b axesA axesB ha hb hsym hd hnA hnB hA hB, rfl, rfl, rfl, rfl, rfl⟩

/-- `tensordotF_eq` (Proofs/SpecTdotF) for axes that are natural numbers in range: the parse is done -/
theorem tensordotF_eq_nat [Zero R] [Add R] [Mul R] [Neg R] (a b : Arr R) (axesA axesB : List Nat)
    (mode : TdotMode) (hl : axesA.length = axesB.length)
    (hA : ∀ i ∈ axesA, i < a.ndim) (hB : ∀ i ∈ axesB, i < b.ndim) :
    Arr.tensordotF a b (.pair (axesA.map Int.ofNat) (axesB.map Int.ofNat)) mode =
      (do
        let c ← tensordotA (tdF34 a b axesA axesB).1.phaseSync (tdF34 a b axesA axesB).2.phaseSync
          (.pair (((List.range a.ndim).drop (a.ndim - axesA.length)).map Int.ofNat)
                 ((List.range axesA.length).map Int.ofNat)) mode
        resolveCombinedOddpos (tdF34 a b axesA axesB).1.phaseSync
          (tdF34 a b axesA axesB).2.phaseSync c) := by
  rw [tensordotF_eq, parseAxes_nat a.ndim b.ndim axesA axesB hl hA hB]
  -- `rfl` would make the unifier unfold the model on both sides
  show (pure (axesA, axesB) >>= _) = _
  simp only [pure_bind]

/-- what `tensordotF_valid_of_opposite` uses of the prepared operands `tdF34 a b axesA axesB`
    (`a3`, `b3`: after the transposes and phase operations, before `phase_sync`) -/
structure TdFProps (a b : Arr R) (axesA axesB : List Nat) (a3 b3 : Arr R) : Prop where
  va : Valid a3
  vb : Valid b3
  fa : a3.fermi = true
  fb : b3.fermi = true
  ia : a3.indices = permuted a.indices (without (List.range a.ndim) axesA ++ axesA)
  ib : b3.indices = permuted b.indices (axesB ++ without (List.range b.ndim) axesB)
  sa : a3.sym = a.sym
  sb : b3.sym = b.sym
  ca : a3.charge = a.charge
  cb : b3.charge = b.charge
  oa : a3.oddpos = a.oddpos
  ob : b3.oddpos = b.oddpos

theorem phaseFlip_fields (a : Arr R) (axs : List Nat) :
    (a.phaseFlip axs).indices = a.indices ∧ (a.phaseFlip axs).sym = a.sym
    ∧ (a.phaseFlip axs).charge = a.charge ∧ (a.phaseFlip axs).oddpos = a.oddpos
    ∧ (a.phaseFlip axs).fermi = a.fermi := by
  unfold Arr.phaseFlip
  split <;> exact ⟨rfl, rfl, rfl, rfl, rfl⟩

theorem tdF34_props [Zero R] (a b : Arr R) (axesA axesB : List Nat)
    (ha : Valid a) (hb : Valid b) (hfa : a.fermi = true) (hfb : b.fermi = true)
    (hnA : axesA.Nodup) (hnB : axesB.Nodup)
    (hA : ∀ i ∈ axesA, i < a.ndim) (hB : ∀ i ∈ axesB, i < b.ndim) :
    TdFProps a b axesA axesB (tdF34 a b axesA axesB).1 (tdF34 a b axesA axesB).2 := by
  have hpA : Arr.isPerm (without (List.range a.ndim) axesA ++ axesA) a.ndim = true :=
    isPerm_of_perm (without_append_perm hnA hA)
  have hpB : Arr.isPerm (axesB ++ without (List.range b.ndim) axesB) b.ndim = true :=
    isPerm_of_perm (List.perm_append_comm.trans (without_append_perm hnB hB))
  have va1 := transposeF_valid a _ true ha hfa hpA
  have vb1 := transposeF_valid b _ true hb hfb hpB
  have fb1 : (b.transposeF (axesB ++ without (List.range b.ndim) axesB) true).fermi = true := hfb
  have vb2 := phaseTranspose_valid _
    (some ((List.range axesA.length).reverse
      ++ (List.range (b.transposeF (axesB ++ without (List.range b.ndim) axesB) true).ndim).drop
          axesA.length)) vb1 fb1
  have e := @phaseFlip_fields R
  unfold tdF34
  simp only
  split
  · exact { va := phaseFlip_valid _ _ va1 hfa, vb := vb2, fa := (e _ _).2.2.2.2.trans hfa, fb := hfb
            ia := (e _ _).1.trans rfl, sa := (e _ _).2.1.trans rfl, ca := (e _ _).2.2.1.trans rfl
            oa := (e _ _).2.2.2.1.trans rfl, ib := rfl, sb := rfl, cb := rfl, ob := rfl }
  · exact { va := va1, vb := phaseFlip_valid _ _ vb2 hfb, fa := hfa, fb := (e _ _).2.2.2.2.trans hfb
            ib := (e _ _).1.trans rfl, sb := (e _ _).2.1.trans rfl, cb := (e _ _).2.2.1.trans rfl
            ob := (e _ _).2.2.2.1.trans rfl, ia := rfl, sa := rfl, ca := rfl, oa := rfl }

/-- `tensordot_fermionic` returns a valid array under the part of the guard that validity needs:
    opposite directions on the matched legs (their tables may differ, as after pruning) -/
theorem tensordotF_valid_of_opposite [Zero R] [Add R] [Mul R] [Neg R] (mode : TdotMode)
    (hspec : TdotASpec R mode) (a b r : Arr R)
    (axesA axesB : List Nat) (ha : Valid a) (hb : Valid b)
    (hfa : a.fermi = true) (hfb : b.fermi = true) (hsym : a.sym = b.sym)
    (hc' : oppositeDualsB a b axesA axesB = true)
    (hnA : axesA.Nodup) (hnB : axesB.Nodup)
    (hA : ∀ i ∈ axesA, i < a.ndim) (hB : ∀ i ∈ axesB, i < b.ndim)
    (h : Arr.tensordotF a b (.pair (axesA.map Int.ofNat) (axesB.map Int.ofNat)) mode = .ok r) :
    Valid r := by
  obtain ⟨hlen, hd⟩ := oppositeDualsB_permuted hc' hA hB
  rw [tensordotF_eq_nat a b axesA axesB _ hlen hA hB] at h
  obtain ⟨va, vb, fa, fb, ia, ib, sa, sb, ca, cb, oa, ob⟩ :=
    tdF34_props a b axesA axesB ha hb hfa hfb hnA hnB hA hB
  generalize (tdF34 a b axesA axesB).1 = a3 at *
  generalize (tdF34 a b axesA axesB).2 = b3 at *
  have hleftlen : (without (List.range a.ndim) axesA).length = a.ndim - axesA.length := by
    have := without_length_add hnA hA; omega
  have hplA : (permuted a.indices (without (List.range a.ndim) axesA)).length
      = a.ndim - axesA.length := by
    rw [permuted_length a.indices _ (fun i hi => (without_lt i hi : i < a.ndim)), hleftlen]
  have hplB : (permuted b.indices axesB).length = axesA.length := by
    rw [permuted_length _ _ hB, hlen]
  have hna3 : a3.ndim = a.ndim := by
    unfold Arr.ndim
    rw [ia, permuted_length]
    · rw [List.length_append]; exact without_length_add hnA hA
    · intro i hi
      rcases List.mem_append.mp hi with h1 | h1
      · exact without_lt i h1
      · exact hA i h1
  have hnb3 : b3.ndim = b.ndim := by
    unfold Arr.ndim
    rw [ib, permuted_length]
    · rw [List.length_append, Nat.add_comm]; exact without_length_add hnB hB
    · intro i hi
      rcases List.mem_append.mp hi with h1 | h1
      · exact hB i h1
      · exact without_lt i h1
  have hncon : axesA.length ≤ a.ndim := by have := without_length_add hnA hA; omega
  have hnconB : axesA.length ≤ b.ndim := by have := without_length_add hnB hB; omega
  have va4 := phaseSync_valid a3 va
  have vb4 := phaseSync_valid b3 vb
  set a4 := a3.phaseSync with ha4
  set b4 := b3.phaseSync with hb4
  have ia4 : a4.indices = a3.indices := rfl
  have ib4 : b4.indices = b3.indices := rfl
  set newA := (List.range a.ndim).drop (a.ndim - axesA.length) with hnewA
  set newB := List.range axesA.length with hnewB
  have hnewAlt : ∀ i ∈ newA, i < a4.ndim := by
    intro i hi
    have := List.mem_range.mp (List.mem_of_mem_drop hi)
    show i < a3.ndim
    omega
  have hnewBlt : ∀ i ∈ newB, i < b4.ndim := by
    intro i hi
    have := List.mem_range.mp hi
    show i < b3.ndim
    omega
  have hnewAnd : newA.Nodup := List.Nodup.sublist (List.drop_sublist _ _) List.nodup_range
  have hnewBnd : newB.Nodup := List.nodup_range
  have hnewlen : newA.length = newB.length := by
    simp only [hnewA, hnewB, List.length_drop, List.length_range]; omega
  -- after the transposes the contracted legs are the last `axesA.length` of `a4` and the first
  -- `axesA.length` of `b4`; as lists of indices they are the original ones, so `hd` carries over
  have hd4 : (permuted b4.indices newB).map Index.dual
      = (permuted a4.indices newA).map (fun ix => !ix.dual) := by
    have e1 : permuted a4.indices newA = permuted a.indices axesA := by
      rw [ia4, ia, permuted_append]
      have hl : (permuted a.indices (without (List.range a.ndim) axesA)
          ++ permuted a.indices axesA).length = a.ndim := by
        rw [List.length_append, hplA, permuted_length _ _ hA]; omega
      have := permuted_range_drop (permuted a.indices (without (List.range a.ndim) axesA)
          ++ permuted a.indices axesA) (a.ndim - axesA.length)
      rw [hl] at this
      rw [hnewA, this, List.drop_left' hplA]
    have e2 : permuted b4.indices newB = permuted b.indices axesB := by
      rw [ib4, ib, permuted_append, hnewB, permuted_range_take, List.take_left' hplB]
    rw [e1, e2]; exact hd
  simp only [bind, Except.bind] at h
  split at h
  · cases h
  · rename_i c hcres
    obtain ⟨hcore, hcsym', hcf', hcch', hcph', _⟩ := hspec a4 b4 c newA newB va4.core vb4.core
      (by show a3.sym = b3.sym; rw [sa, sb]; exact hsym) hd4 hnewlen hnewAnd hnewBnd hnewAlt hnewBlt
      hcres
    have hcf : c.fermi = true := by rw [hcf']; exact fa
    have hcph : c.phases = [] := by rw [hcph']; rfl
    have hcch : c.charge = a.sym.combine [a.charge, b.charge] := by
      rw [hcch']
      show a3.sym.combine [a3.charge, b3.charge] = _
      rw [sa, ca, cb]
    have hcsym : c.sym = a.sym := by rw [hcsym']; exact sa
    apply resolveCombinedOddpos_valid a4 b4 c r hcore hcf (by rw [hcph]; exact phasesOk_nil) _ h
    have hsa := ha.signs hfa
    have hsb := hb.signs hfb
    show c.sym.parity c.charge = xor (a3.oddpos.length % 2 == 1) (b3.oddpos.length % 2 == 1)
    rw [hcsym, hcch, Sym.parity_combine_pair, oa, ob, hsa.2, hsb.2, hsym]

theorem tensordotF_valid_of_spec [Zero R] [Add R] [Mul R] [Neg R] (mode : TdotMode)
    (hspec : TdotASpec R mode) (a b r : Arr R)
    (axesA axesB : List Nat) (ha : Valid a) (hb : Valid b)
    (hfa : a.fermi = true) (hfb : b.fermi = true)
    (hadm : tdotAdmissibleB a b axesA axesB = true)
    (h : Arr.tensordotF a b (.pair (axesA.map Int.ofNat) (axesB.map Int.ofNat)) mode = .ok r) :
    Valid r := by
  obtain ⟨hsym, hc, hnA, hnB, hA, hB⟩ := tdotAdmissibleB_iff.mp hadm
  exact tensordotF_valid_of_opposite mode hspec a b r axesA axesB ha hb hfa hfb hsym
    (contractible_opposite hc) hnA hnB hA hB h

end ValidP
end SymmModel
