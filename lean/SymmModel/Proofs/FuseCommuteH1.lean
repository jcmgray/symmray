/-
  SymmModel.Proofs.FuseCommuteH1 — renumbering of axes through `_fuse_core` of ONE group `g` at an
  arbitrary position: `shiftAxes X g x` is where the axis `x ∉ g` of `X` sits in `fuse(X, [g])`
  (the fused leg sits at `(giM X [g]).position = min g` — `bondPos X g` from FuseCommute4 on —, the
  other legs keep their order), and the geometry
  of merged addresses (`mergeIdx`) before / after the fuse.  Namespace `SymmModel.TdotP`.
-/
import SymmModel.Proofs.FuseCommute3

namespace SymmModel
namespace TdotP
variable {R : Type}

theorem getD_of_permuted_eq {α : Type} {V' V : List α} {l' l : List Nat} (d : α)
    (h : permuted V' l' = permuted V l) (hl' : ∀ y ∈ l', y < V'.length) (hl : ∀ y ∈ l, y < V.length)
    (hlen : l'.length = l.length) (j : Nat) (hj : j < l.length) :
    V'.getD (l'.getD j 0) d = V.getD (l.getD j 0) d := by
  rw [permuted_eq_map _ _ hl' d, permuted_eq_map _ _ hl d] at h
  have hj' : j < l'.length := hlen ▸ hj
  have := congrArg (fun L => L[j]?) h
  simp only [List.getElem?_map, List.getElem?_eq_getElem hj', List.getElem?_eq_getElem hj, Option.map_some,
    Option.some.injEq] at this
  rw [List.getD_eq_getElem?_getD (l := l'), List.getD_eq_getElem?_getD (l := l), List.getElem?_eq_getElem hj',
    List.getElem?_eq_getElem hj]
  exact this

theorem getD_of_permuted_eq_mem {α : Type} {V W : List α} {l : List Nat} (d : α)
    (h : permuted V l = permuted W l) (hV : ∀ y ∈ l, y < V.length) (hW : ∀ y ∈ l, y < W.length)
    {x : Nat} (hx : x ∈ l) : V.getD x d = W.getD x d := by
  obtain ⟨j, hj, rfl⟩ := List.mem_iff_getElem.mp hx
  have := getD_of_permuted_eq d h hV hW rfl j hj
  rw [List.getD_eq_getElem?_getD (l := l), List.getElem?_eq_getElem hj] at this
  exact this

theorem permuted_eq_of_getD {α : Type} {V' V : List α} {l' l : List Nat} (d : α)
    (hl' : ∀ y ∈ l', y < V'.length) (hl : ∀ y ∈ l, y < V.length) (hlen : l'.length = l.length)
    (h : ∀ j, j < l.length → V'.getD (l'.getD j 0) d = V.getD (l.getD j 0) d) :
    permuted V' l' = permuted V l := by
  rw [permuted_eq_map _ _ hl' d, permuted_eq_map _ _ hl d]
  apply List.ext_getElem (by simp [hlen])
  intro j h1 h2
  simp only [List.length_map] at h1 h2
  have := h j h2
  rw [List.getD_eq_getElem?_getD (l := l'), List.getD_eq_getElem?_getD (l := l), List.getElem?_eq_getElem h1,
    List.getElem?_eq_getElem h2] at this
  simpa using this

/-- **shiftAxes**: position in `fuse(X, [g])` of the axis `x ∉ g` of `X`: the `j`-th axis outside
    the group goes to the `j`-th position other than the fused one. -/
def shiftAxes (X : Arr R) (g : List Nat) (x : Nat) : Nat :=
  (freeAxes (FuseP.ndimM X [g]) [(FuseP.giM X [g]).position]).getD ((freeAxes X.ndim g).idxOf x) 0

section One
variable {X : Arr R} {g : List Nat}

theorem shiftAxes_at (_h : OneOk X g) {j : Nat} (hj : j < (freeAxes X.ndim g).length) :
    shiftAxes X g ((freeAxes X.ndim g).getD j 0)
      = (freeAxes (FuseP.ndimM X [g]) [(FuseP.giM X [g]).position]).getD j 0 := by
  unfold shiftAxes
  rw [List.getD_eq_getElem?_getD (l := freeAxes X.ndim g), List.getElem?_eq_getElem hj]
  simp only [Option.getD_some]
  rw [(freeAxes_nodup _ _).idxOf_getElem]

theorem shiftAxes_spec (h : OneOk X g) {x : Nat} (hx : x < X.ndim ∧ x ∉ g) :
    ∃ j, j < (freeAxes X.ndim g).length ∧ (freeAxes X.ndim g).getD j 0 = x
      ∧ shiftAxes X g x = (freeAxes (FuseP.ndimM X [g]) [(FuseP.giM X [g]).position]).getD j 0 := by
  have hm : x ∈ freeAxes X.ndim g := mem_freeAxes.mpr hx
  obtain ⟨j, hj, e⟩ := List.mem_iff_getElem.mp hm
  have e' : (freeAxes X.ndim g).getD j 0 = x := by
    rw [List.getD_eq_getElem?_getD, List.getElem?_eq_getElem hj]; exact e
  refine ⟨j, hj, e', ?_⟩
  rw [← e']; exact shiftAxes_at h hj

theorem shiftAxes_mem (h : OneOk X g) {x : Nat} (hx : x < X.ndim ∧ x ∉ g) :
    shiftAxes X g x ∈ freeAxes (FuseP.ndimM X [g]) [(FuseP.giM X [g]).position] := by
  obtain ⟨j, hj, _, e⟩ := shiftAxes_spec h hx
  rw [e]
  have hj' : j < (freeAxes (FuseP.ndimM X [g]) [(FuseP.giM X [g]).position]).length := by
    rw [one_free_length h]; exact hj
  rw [List.getD_eq_getElem?_getD, List.getElem?_eq_getElem hj']
  exact List.getElem_mem hj'

theorem shiftAxes_lt (h : OneOk X g) {x : Nat} (hx : x < X.ndim ∧ x ∉ g) :
    shiftAxes X g x < FuseP.ndimM X [g] := (mem_freeAxes.mp (shiftAxes_mem h hx)).1

theorem shiftAxes_ne_pos (h : OneOk X g) {x : Nat} (hx : x < X.ndim ∧ x ∉ g) :
    shiftAxes X g x ≠ (FuseP.giM X [g]).position := by
  have := (mem_freeAxes.mp (shiftAxes_mem h hx)).2
  simpa using this

theorem shiftAxes_inj (h : OneOk X g) {x y : Nat} (hx : x < X.ndim ∧ x ∉ g) (hy : y < X.ndim ∧ y ∉ g)
    (e : shiftAxes X g x = shiftAxes X g y) : x = y := by
  obtain ⟨j, hj, ej, e1⟩ := shiftAxes_spec h hx
  obtain ⟨k, hk, ek, e2⟩ := shiftAxes_spec h hy
  have hj' : j < (freeAxes (FuseP.ndimM X [g]) [(FuseP.giM X [g]).position]).length := by
    rw [one_free_length h]; exact hj
  have hk' : k < (freeAxes (FuseP.ndimM X [g]) [(FuseP.giM X [g]).position]).length := by
    rw [one_free_length h]; exact hk
  rw [e1, e2, List.getD_eq_getElem?_getD, List.getD_eq_getElem?_getD, List.getElem?_eq_getElem hj',
    List.getElem?_eq_getElem hk'] at e
  simp only [Option.getD_some] at e
  have := (List.Nodup.getElem_inj_iff (freeAxes_nodup _ _)).mp e
  subst this
  rw [← ej, ← ek]

theorem shiftAxes_map_nodup (h : OneOk X g) {xs : List Nat} (hxs : ∀ x ∈ xs, x < X.ndim ∧ x ∉ g)
    (hn : xs.Nodup) : (xs.map (shiftAxes X g)).Nodup :=
  hn.map_on (fun x hx y hy e => shiftAxes_inj h (hxs x hx) (hxs y hy) e)

theorem shiftAxes_map_lt (h : OneOk X g) {xs : List Nat} (hxs : ∀ x ∈ xs, x < X.ndim ∧ x ∉ g) :
    ∀ y ∈ xs.map (shiftAxes X g), y < FuseP.ndimM X [g] := by
  intro y hy
  obtain ⟨x, hx, rfl⟩ := List.mem_map.mp hy
  exact shiftAxes_lt h (hxs x hx)

theorem permuted_shift {α : Type} (h : OneOk X g) (d : α) {V' V : List α}
    (hV' : V'.length = FuseP.ndimM X [g]) (hV : V.length = X.ndim)
    (hf : permuted V' (freeAxes (FuseP.ndimM X [g]) [(FuseP.giM X [g]).position])
      = permuted V (freeAxes X.ndim g))
    (l : List Nat) (hl : ∀ x ∈ l, x < X.ndim ∧ x ∉ g) :
    permuted V' (l.map (shiftAxes X g)) = permuted V l := by
  apply permuted_eq_of_getD d
  · intro y hy
    obtain ⟨x, hx, rfl⟩ := List.mem_map.mp hy
    rw [hV']; exact shiftAxes_lt h (hl x hx)
  · intro x hx; rw [hV]; exact (hl x hx).1
  · simp
  · intro t ht
    have hxm : l[t] ∈ l := List.getElem_mem ht
    obtain ⟨j, hj, ej, e1⟩ := shiftAxes_spec h (hl _ hxm)
    have e3 : (l.map (shiftAxes X g)).getD t 0 = shiftAxes X g l[t] := by
      rw [List.getD_eq_getElem?_getD, List.getElem?_map, List.getElem?_eq_getElem ht]; rfl
    have e4 : l.getD t 0 = l[t] := by
      rw [List.getD_eq_getElem?_getD, List.getElem?_eq_getElem ht]; rfl
    rw [e3, e4, e1, ← ej]
    exact getD_of_permuted_eq d hf
      (by intro y hy; rw [hV']; exact (mem_freeAxes.mp hy).1)
      (by intro y hy; rw [hV]; exact (mem_freeAxes.mp hy).1) (one_free_length h) j hj

theorem one_free_parts_conv {α : Type} (h : OneOk X g) (d : α) {ns s : List α}
    (hnl : ns.length = FuseP.ndimM X [g]) (hs : s.length = X.ndim)
    (h1 : ∀ x, x < (FuseP.giM X [g]).position → ns.getD x d = s.getD x d)
    (h2 : ∀ j, j < (FuseP.giM X [g]).axesAfter.length →
        ns.getD ((FuseP.giM X [g]).position + 1 + j) d = s.getD ((FuseP.giM X [g]).axesAfter.getD j 0) d) :
    permuted ns (freeAxes (FuseP.ndimM X [g]) [(FuseP.giM X [g]).position])
      = permuted s (freeAxes X.ndim g) := by
  have ean : X.indices.length = X.ndim := rfl
  have hb1 : ∀ x ∈ List.range (FuseP.giM X [g]).position, x < ns.length := by
    intro x hx; rw [hnl, one_ndimM h]; have := List.mem_range.mp hx; omega
  have hb2 : ∀ x ∈ List.range (FuseP.giM X [g]).position, x < s.length := by
    intro x hx; rw [hs]; have := List.mem_range.mp hx; have := one_pos_lt h; omega
  have ha1 : ∀ x ∈ (List.range (FuseP.giM X [g]).axesAfter.length).map
      (fun j => (FuseP.giM X [g]).position + 1 + j), x < ns.length := by
    intro x hx
    obtain ⟨j, hj, rfl⟩ := List.mem_map.mp hx
    rw [hnl, one_ndimM h]; have := List.mem_range.mp hj; omega
  have ha2 : ∀ x ∈ (FuseP.giM X [g]).axesAfter, x < s.length := by
    intro x hx; rw [hs, ← ean]; exact FuseP.afterM_lt x hx
  rw [one_ndimM h, freeAxes_succ_mid, one_free h, permuted_append, permuted_append,
    permuted_eq_map _ _ hb1 d, permuted_eq_map _ _ hb2 d, permuted_eq_map _ _ ha1 d, permuted_eq_map _ _ ha2 d,
    List.map_map, FuseP.map_eq_range_map (FuseP.giM X [g]).axesAfter 0]
  congr 1
  · apply List.map_congr_left; intro x hx; exact h1 x (List.mem_range.mp hx)
  · apply List.map_congr_left; intro j hj; exact h2 j (List.mem_range.mp hj)

theorem one_newSector_free (h : OneOk X g) (sb : Sector × Blk R) (hsl : sb.1.length = X.ndim) :
    permuted (FuseP.planM X [g] sb).newSector (freeAxes (FuseP.ndimM X [g]) [(FuseP.giM X [g]).position])
      = permuted sb.1 (freeAxes X.ndim g) := by
  have hok := h.groupsOk
  apply one_free_parts_conv h ((0, 0) : Charge) (FuseP.planM_newSector_length hok.adm sb) hsl
  · intro x hx
    rw [FuseP.nsM_parts hok.adm sb, List.getD_eq_getElem?_getD, List.append_assoc,
      List.getElem?_append_left (by simpa using hx)]
    simp [hx]
  · intro j hj
    rw [FuseP.nsM_parts hok.adm sb, List.getD_eq_getElem?_getD,
      List.getElem?_append_right (by simp)]
    simp only [List.length_append, List.length_map, List.length_range, List.length_cons, List.length_nil]
    have e : (FuseP.giM X [g]).position + 1 + j - ((FuseP.giM X [g]).position + (0 + 1)) = j := by omega
    rw [e]
    simp [hj]

end One

/-- `xa`: axes of `X` outside the group `g` (the contracted ones); `V`, `V'`: full-length lists for
    `X` / `fuse(X, [g])` with equal untouched parts; `kv`: what is written over the `xa`-slots of `V` and the
    shifted slots of `V'`. -/
theorem merged_free {α : Type} (d : α) {X : Arr R} {g xa : List Nat} (h : OneOk X g)
    (hdisj : ∀ x ∈ xa, x ∉ g) (hnA : xa.Nodup) (hA : ∀ x ∈ xa, x < X.ndim)
    {kv : List α} (hkv : kv.length = xa.length) {V' V : List α}
    (hV' : V'.length = FuseP.ndimM X [g]) (hV : V.length = X.ndim)
    (hf : permuted V' (freeAxes (FuseP.ndimM X [g]) [(FuseP.giM X [g]).position])
      = permuted V (freeAxes X.ndim g)) :
    permuted (mergeIdx d (FuseP.ndimM X [g]) (xa.map (shiftAxes X g))
          (freeAxes (FuseP.ndimM X [g]) (xa.map (shiftAxes X g))) kv
          (permuted V' (freeAxes (FuseP.ndimM X [g]) (xa.map (shiftAxes X g)))))
        (freeAxes (FuseP.ndimM X [g]) [(FuseP.giM X [g]).position])
      = permuted (mergeIdx d X.ndim xa (freeAxes X.ndim xa) kv (permuted V (freeAxes X.ndim xa)))
          (freeAxes X.ndim g)
    ∧ (mergeIdx d (FuseP.ndimM X [g]) (xa.map (shiftAxes X g))
          (freeAxes (FuseP.ndimM X [g]) (xa.map (shiftAxes X g))) kv
          (permuted V' (freeAxes (FuseP.ndimM X [g]) (xa.map (shiftAxes X g))))).getD
            (FuseP.giM X [g]).position d = V'.getD (FuseP.giM X [g]).position d
    ∧ permuted (mergeIdx d X.ndim xa (freeAxes X.ndim xa) kv (permuted V (freeAxes X.ndim xa))) g
      = permuted V g := by
  have hxaF : ∀ x ∈ xa, x < X.ndim ∧ x ∉ g := fun x hx => ⟨hA x hx, hdisj x hx⟩
  have hnA' := shiftAxes_map_nodup h hxaF hnA
  have hA' := shiftAxes_map_lt h hxaF
  generalize hM' : mergeIdx d (FuseP.ndimM X [g]) (xa.map (shiftAxes X g))
      (freeAxes (FuseP.ndimM X [g]) (xa.map (shiftAxes X g))) kv
      (permuted V' (freeAxes (FuseP.ndimM X [g]) (xa.map (shiftAxes X g)))) = M'
  generalize hM : mergeIdx d X.ndim xa (freeAxes X.ndim xa) kv (permuted V (freeAxes X.ndim xa)) = M
  have hM'l : M'.length = FuseP.ndimM X [g] := by rw [← hM']; exact mergeIdx_length _ _ _ _ _ _
  have hMl : M.length = X.ndim := by rw [← hM]; exact mergeIdx_length _ _ _ _ _ _
  have pA' : permuted M' (xa.map (shiftAxes X g)) = kv := by
    rw [← hM']; exact permuted_mergeIdx_axes d hnA' hA' (by rw [List.length_map]; exact hkv)
  have pA : permuted M xa = kv := by rw [← hM]; exact permuted_mergeIdx_axes d hnA hA hkv
  have pF' : permuted M' (freeAxes (FuseP.ndimM X [g]) (xa.map (shiftAxes X g)))
      = permuted V' (freeAxes (FuseP.ndimM X [g]) (xa.map (shiftAxes X g))) := by
    rw [← hM']
    exact permuted_mergeIdx_free d (freeAxes_nodup _ _) mem_freeAxes_lt (fun _ hx => (mem_freeAxes.mp hx).2)
      (permuted_length _ _ (by intro x hx; rw [hV']; exact (mem_freeAxes.mp hx).1))
  have pF : permuted M (freeAxes X.ndim xa) = permuted V (freeAxes X.ndim xa) := by
    rw [← hM]
    exact permuted_mergeIdx_free d (freeAxes_nodup _ _) mem_freeAxes_lt (fun _ hx => (mem_freeAxes.mp hx).2)
      (permuted_length _ _ (by intro x hx; rw [hV]; exact (mem_freeAxes.mp hx).1))
  have bF' : ∀ (W : List α), W.length = FuseP.ndimM X [g] →
      ∀ y ∈ freeAxes (FuseP.ndimM X [g]) (xa.map (shiftAxes X g)), y < W.length := by
    intro W hW y hy; rw [hW]; exact (mem_freeAxes.mp hy).1
  have bF : ∀ (W : List α), W.length = X.ndim → ∀ y ∈ freeAxes X.ndim xa, y < W.length := by
    intro W hW y hy; rw [hW]; exact (mem_freeAxes.mp hy).1
  refine ⟨?_, ?_, ?_⟩
  · apply permuted_eq_of_getD d
    · intro y hy; rw [hM'l]; exact (mem_freeAxes.mp hy).1
    · intro y hy; rw [hMl]; exact (mem_freeAxes.mp hy).1
    · exact one_free_length h
    · intro j hj
      have hxm : (freeAxes X.ndim g).getD j 0 ∈ freeAxes X.ndim g := by
        rw [List.getD_eq_getElem?_getD, List.getElem?_eq_getElem hj]; exact List.getElem_mem hj
      generalize hx0 : (freeAxes X.ndim g).getD j 0 = x at hxm
      have hxg := mem_freeAxes.mp hxm
      have hsh : (freeAxes (FuseP.ndimM X [g]) [(FuseP.giM X [g]).position]).getD j 0 = shiftAxes X g x := by
        rw [← hx0]; exact (shiftAxes_at h hj).symm
      rw [hsh]
      by_cases hx : x ∈ xa
      · obtain ⟨t, ht, rfl⟩ := List.mem_iff_getElem.mp hx
        have := getD_of_permuted_eq d (pA'.trans pA.symm)
          (by intro y hy; rw [hM'l]; exact hA' y hy) (by intro y hy; rw [hMl]; exact hA y hy)
          (by simp) t ht
        rw [List.getD_eq_getElem?_getD (l := xa.map _), List.getElem?_map, List.getElem?_eq_getElem ht,
          List.getD_eq_getElem?_getD (l := xa), List.getElem?_eq_getElem ht] at this
        exact this
      · have hxFA : x ∈ freeAxes X.ndim xa := mem_freeAxes.mpr ⟨hxg.1, hx⟩
        have hyFA : shiftAxes X g x ∈ freeAxes (FuseP.ndimM X [g]) (xa.map (shiftAxes X g)) := by
          refine mem_freeAxes.mpr ⟨shiftAxes_lt h hxg, ?_⟩
          intro hm
          obtain ⟨x2, hx2, e⟩ := List.mem_map.mp hm
          exact hx (shiftAxes_inj h (hxaF x2 hx2) hxg e ▸ hx2)
        rw [getD_of_permuted_eq_mem d pF' (bF' M' hM'l) (bF' V' hV') hyFA,
          getD_of_permuted_eq_mem d pF (bF M hMl) (bF V hV) hxFA, ← hsh, ← hx0]
        exact getD_of_permuted_eq d hf
          (by intro y hy; rw [hV']; exact (mem_freeAxes.mp hy).1)
          (by intro y hy; rw [hV]; exact (mem_freeAxes.mp hy).1) (one_free_length h) j hj
  · have hp : (FuseP.giM X [g]).position ∈ freeAxes (FuseP.ndimM X [g]) (xa.map (shiftAxes X g)) := by
      refine mem_freeAxes.mpr ⟨one_pos_lt_ndimM h, ?_⟩
      intro hm
      obtain ⟨x2, hx2, e⟩ := List.mem_map.mp hm
      exact shiftAxes_ne_pos h (hxaF x2 hx2) e
    exact getD_of_permuted_eq_mem d pF' (bF' M' hM'l) (bF' V' hV') hp
  · apply permuted_eq_of_getD d
    · intro y hy; rw [hMl]; exact h.lt y hy
    · intro y hy; rw [hV]; exact h.lt y hy
    · rfl
    · intro j hj
      have hxm : g.getD j 0 ∈ g := by
        rw [List.getD_eq_getElem?_getD, List.getElem?_eq_getElem hj]; exact List.getElem_mem hj
      have hxFA : g.getD j 0 ∈ freeAxes X.ndim xa :=
        mem_freeAxes.mpr ⟨h.lt _ hxm, fun hc => hdisj _ hc hxm⟩
      exact getD_of_permuted_eq_mem d pF (bF M hMl) (bF V hV) hxFA

theorem Decodes.overwrite {X : Arr R} {g xa : List Nat} (h : OneOk X g)
    (hdisj : ∀ x ∈ xa, x ∉ g) (hnA : xa.Nodup) (hA : ∀ x ∈ xa, x < X.ndim)
    {M' M : Sector} {MO' MO : List Nat} (hD : Decodes X g M' M MO' MO)
    (hMl' : M'.length = FuseP.ndimM X [g]) (hMOl' : MO'.length = FuseP.ndimM X [g])
    (hMl : M.length = X.ndim) (hMOl : MO.length = X.ndim)
    {K : Sector} {kk : List Nat} (hK : K.length = xa.length) (hkk : kk.length = xa.length) :
    Decodes X g
      (mergeSec (FuseP.ndimM X [g]) (xa.map (shiftAxes X g)) K
        (permuted M' (freeAxes (FuseP.ndimM X [g]) (xa.map (shiftAxes X g)))))
      (mergeSec X.ndim xa K (permuted M (freeAxes X.ndim xa)))
      (mergeIdx 0 (FuseP.ndimM X [g]) (xa.map (shiftAxes X g))
        (freeAxes (FuseP.ndimM X [g]) (xa.map (shiftAxes X g))) kk
        (permuted MO' (freeAxes (FuseP.ndimM X [g]) (xa.map (shiftAxes X g)))))
      (mergeIdx 0 X.ndim xa (freeAxes X.ndim xa) kk (permuted MO (freeAxes X.ndim xa))) := by
  obtain ⟨s1, s2, s3⟩ := merged_free ((0, 0) : Charge) h hdisj hnA hA hK hMl' hMl hD.sec
  obtain ⟨o1, o2, o3⟩ := merged_free (0 : Nat) h hdisj hnA hA hkk hMOl' hMOl hD.off
  refine ⟨?_, s1, o1⟩
  show decAx X [g] 0 ((mergeIdx ((0, 0) : Charge) _ _ _ _ _).getD _ (0, 0)) _
    = some (permuted (mergeIdx ((0, 0) : Charge) _ _ _ _ _) g, _)
  rw [s2, o2, s3, o3]
  exact hD.dec

end TdotP
end SymmModel
