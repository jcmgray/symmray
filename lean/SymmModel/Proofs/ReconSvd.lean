/-
  SymmModel.Proofs.ReconSvd — fermionic `@` of the factors of `qr`, `svd`, `svd_truncated`
  (all absorb options) for inputs carrying a sorted list of labels.
-/
import SymmModel.Proofs.ReconLabels

namespace SymmModel
namespace ReconP
open LinalgLemmas OddposP
open Lazy (sgnI phOf)

variable {R : Type}

abbrev diagOf (s : Sector) : Sector := [colOf s, colOf s]

@[simp] theorem diagOf_pair (r c : Charge) : diagOf [r, c] = [c, c] := rfl

/-- `V` is a right factor of a decomposition of the fermionic matrix `x`: no label, the bond index
    first (direction opposite to `x`'s column index), and the sign table `qr_fermionic` /
    `svd_fermionic` leave on it.  Says nothing about the blocks. -/
structure RightOf (x V : Arr R) : Prop where
  hsym : V.sym = x.sym
  hodd : V.oddpos = []
  hidx : ∃ j0 j1, V.indices = [j0, j1] ∧ j0.dual = !(x.indices.getD 1 default).dual
  hph : V.phases = if !(x.indices.getD 1 default).dual then
      ((x.sectors.map diagOf).filter (fun s => x.sym.parity (s.getD 0 (0, 0)))).map
        (fun s => (s, (-1 : Int)))
    else []

theorem rightF_rightOf {x : Arr R} (hv : x.validB = true) (h2 : x.ndim = 2) (hf : x.fermi = true)
    (L Rt : Blk R → Blk R) : RightOf x (rightF x L Rt) := by
  obtain ⟨i0, i1, hi⟩ := ndim_two h2
  obtain ⟨f1, _, f3, _, _, f6⟩ := rightF_fields (x := x) (L := L) (Rt := Rt)
  have hi1 : x.indices.getD 1 default = i1 := by simp [hi]
  refine ⟨f1, f6, ⟨_, _, f3, ?_⟩, ?_⟩
  · rw [bondIx_eq hi, hi1]; simp [Index.conj]
  · rw [rightF_phases hv h2 hi, hi1, hf]; rfl

theorem RightOf.withBlocks {x V : Arr R} (h : RightOf x V) (B : List (Sector × Blk R)) :
    RightOf x { V with blocks := B } := ⟨h.hsym, h.hodd, h.hidx, h.hph⟩

theorem withCm_dual (i : Index) (c : List (Charge × Nat)) : (i.withCm c).dual = i.dual := by
  cases i; rfl

theorem truncV_rightOf [Zero R] {x : Arr R} (hv : x.validB = true) (h2 : x.ndim = 2)
    (hf : x.fermi = true) (L Rt : Blk R → Blk R) (counts : List Nat) :
    RightOf x (truncV x L Rt counts) := by
  obtain ⟨g1, g2, ⟨j0, j1, g3, g4⟩, g5⟩ := rightF_rightOf hv h2 hf L Rt
  obtain ⟨i0, i1, hi⟩ := ndim_two h2
  refine ⟨g1, g2, ⟨_, _, rfl, ?_⟩, g5⟩
  rw [withCm_dual]
  have f3 := (rightF_fields (x := x) (L := L) (Rt := Rt)).indices
  rw [g3] at f3
  have : j0 = (bondIx x L).conj := (List.cons.inj f3).1
  rw [← this]; exact g4

theorem diag_nodup {x : Arr R} (hv : x.validB = true) (h2 : x.ndim = 2) :
    (x.sectors.map diagOf).Nodup :=
  nodup_map_diag (colCharges_nodup hv h2)

/-- `matmulF_items` with the right-factor hypotheses packaged as `RightOf x b` -/
theorem matmulF_rightOf [Zero R] [Add R] [Mul R] [Neg R] {x : Arr R} (hv : x.validB = true)
    (h2 : x.ndim = 2) {α : Type} (l : List α) (sec : α → Sector)
    (hlen : ∀ p ∈ l, (sec p).length = 2) (hsec : (l.map sec).Nodup)
    (hcol : (l.map (fun p => colOf (sec p))).Nodup)
    (hin : ∀ p ∈ l, sec p ∈ x.sectors) (fA fB : α → Blk R) (a b : Arr R)
    (ha : a.blocks = l.map (fun p => (sec p, fA p)))
    (hb : b.blocks = l.map (fun p => (diagOf (sec p), fB p)))
    (hand : a.ndim = 2) (hlab : SortedLabels a.oddpos) (RO : RightOf x b) :
    ∃ y, Arr.matmulF a b = .ok y ∧ y.phases = [] ∧ y.oddpos = a.oddpos
      ∧ y.blocks = l.map (fun p =>
          (sec p, (Lazy.syncBlk a (sec p) (fA p)).tensordotK (fB p) [1] [0]))
      ∧ y.sym = a.sym ∧ y.fermi = a.fermi
      ∧ y.charge = a.sym.combine [a.charge, b.charge]
      ∧ y.indices = dropUnused (without a.indices [1] ++ without b.indices [0]) (l.map sec) := by
  obtain ⟨j0, j1, hbi, hd⟩ := RO.hidx
  refine matmulF_items l sec hlen hsec hcol fA fB a b ha hb hand hlab RO.hodd j0 j1 hbi
    (x.sectors.map diagOf) (diag_nodup hv h2) ?_ ?_
  · intro p hp
    exact List.mem_map.mpr ⟨sec p, hin p hp, rfl⟩
  · rw [RO.hph, hd, RO.hsym]

theorem matmulF_factors_labels [Zero R] [Add R] [Mul R] [Neg R] {x : Arr R} (hv : x.validB = true)
    (h2 : x.ndim = 2) (hf : x.fermi = true) (hlab : SortedLabels x.oddpos)
    (a : Arr R) (fU : Blk R → Blk R)
    (hab : a.blocks = x.blocks.map (fun p => (p.1, fU p.2))) (haph : a.phases = x.phases)
    (hand : a.ndim = 2) (haodd : a.oddpos = x.oddpos) (L Rt : Blk R → Blk R) :
    ∃ y, Arr.matmulF a (rightF x L Rt) = .ok y ∧ y.phases = [] ∧ y.oddpos = x.oddpos
      ∧ y.blocks = x.blocks.map (fun p =>
          (p.1, (Lazy.syncBlk x p.1 (fU p.2)).tensordotK (Rt p.2) [1] [0])) := by
  have hlen : ∀ p ∈ x.blocks, p.1.length = 2 := fun p hp => (Arr.validB_block_len hv hp).trans h2
  have hcol := blocks_cols_nodup hv h2
  obtain ⟨y, h1, h2', h3, h4, _⟩ := matmulF_rightOf hv h2 x.blocks (·.1) hlen (Arr.validB_nodup hv) hcol
    (fun p hp => List.mem_map.mpr ⟨p, hp, rfl⟩) (fun p => fU p.2) (fun p => Rt p.2) a
    (rightF x L Rt) hab rightF_fields.blocks hand (by rw [haodd]; exact hlab)
    (rightF_rightOf hv h2 hf L Rt)
  unfold Lazy.syncBlk at h4 ⊢
  rw [haph] at h4
  exact ⟨y, h1, h2', h3.trans haodd, h4⟩

/-- fermionic `@`, sorted labels: the product of a shape-correct factor pair that reproduces every
    block succeeds, carries `x`'s labels, no pending sign, and has `x`'s value view -/
theorem factors_recon_fermi_labels [Zero R] [Add R] [Mul R] [Neg R] [NegLaws R]
    {L Rt : Blk R → Blk R} (hL : FacShape L Rt) (hC : Reproduces L Rt) {x : Arr R}
    (hv : x.validB = true) (h2 : x.ndim = 2) (hf : x.fermi = true)
    (hlab : SortedLabels x.oddpos) :
    ∃ y, Arr.matmulF (leftF x L) (rightF x L Rt) = .ok y
      ∧ y.oddpos = x.oddpos ∧ y.phases = []
      ∧ ∀ s off, AddrOf x s off → y.elem s off = x.elem s off := by
  obtain ⟨i0, i1, hi⟩ := ndim_two h2
  obtain ⟨y, hy, hyp, hyo, hyb⟩ := matmulF_factors_labels hv h2 hf hlab (leftF x L) L rfl rfl rfl rfl
    L Rt
  refine ⟨y, hy, hyo, hyp, fun s off ha => ?_⟩
  apply elem_of_blocks_map_signed hv h2 y _ hyb hyp _ s off ha
  intro p hp i j hi' hj'
  obtain ⟨s0, b⟩ := p
  obtain ⟨r, c, m, n, B⟩ := mat_block hv hi hp
  obtain ⟨a1, _, a3, _⟩ := hL b m n B.hshape B.hwf
  simp only [B.hshape, List.getD_cons_zero, List.getD_cons_succ] at hi' hj'
  show ((Lazy.syncBlk x s0 (L b)).tensordotK (Rt b) [1] [0]).get [i, j] = _
  rw [syncBlk_matmul_get x s0 a1 a3 hi' hj', hC b m n B.hshape B.hwf i j hi' hj', sgnI_phOf]

theorem qr_recon_fermi_labels [Zero R] [Add R] [Mul R] [Neg R] [NegLaws R] {K : Kernels R}
    (hK : K.ShapeOk) (hC : K.QRContract) {x : Arr R} (hv : x.validB = true) (h2 : x.ndim = 2)
    (hf : x.fermi = true) (hlab : SortedLabels x.oddpos) :
    ∃ y, Arr.matmulF (leftF x (fun b => (K.qr b).1))
        (rightF x (fun b => (K.qr b).1) (fun b => (K.qr b).2)) = .ok y
      ∧ y.oddpos = x.oddpos ∧ y.phases = []
      ∧ ∀ s off, AddrOf x s off → y.elem s off = x.elem s off :=
  factors_recon_fermi_labels (fun b m n h1 h2 => hK.qr b m n h1 h2) hC hv h2 hf hlab

theorem absU_shape [Zero R] [Mul R] (mode : Absorb) (sqrtK : Blk R → Blk R) (ub sb : Blk R) :
    (absU mode sqrtK ub sb).shape = ub.shape := by
  cases mode <;> rfl

theorem absV_shape [Zero R] [Mul R] (mode : Absorb) (sqrtK : Blk R → Blk R) (vb sb : Blk R) :
    (absV mode sqrtK vb sb).shape = vb.shape := by
  cases mode <;> rfl

/-- What is proved about a product `y` of factors `u`, `vh` aligned with the items `l`: no pending
    signs, `u`'s labels and kind, the items' sectors, at every offset of an item's `m × n` box
    the entry `± val p i j` (sign = `u`'s pending sign on the item's sector), zero on every
    other sector. -/
structure ItemProduct {α : Type} [Zero R] [Neg R] (l : List α) (sec : α → Sector)
    (dims : α → Nat × Nat × Nat) (u vh y : Arr R) (val : α → Nat → Nat → R) : Prop where
  phases : y.phases = []
  oddpos : y.oddpos = u.oddpos
  sectors : y.sectors = l.map sec
  sym : y.sym = u.sym
  fermi : y.fermi = u.fermi
  charge : y.charge = u.sym.combine [u.charge, vh.charge]
  indices : y.indices = dropUnused (without u.indices [1] ++ without vh.indices [0]) (l.map sec)
  elem : ∀ p ∈ l, ∀ i j, i < (dims p).1 → j < (dims p).2.2 →
    y.elem (sec p) [i, j] = sgnI (phOf u.phases (sec p)) (val p i j)
  zero : ∀ s, s ∉ l.map sec → ∀ off, y.elem s off = 0

/-- For factors `u, sv, vh` aligned with items of the fermionic matrix `x` (the svd factors, or the
    truncated ones), `u` a rank-2 array with a sorted label list, `vh` a right factor of `x`:
    whatever the absorb mode, the fermionic product `U @ VH` of the absorbed factors succeeds,
    has no pending signs, `u`'s labels, the items' sectors, and at every offset of every item's
    `m × n` box the entry `± Σ_t (u[i,t] · s[t]) · vh[t,j]` (sign = `u`'s pending sign) — the
    element of the abelian blockwise product of `absorb_product`. -/
theorem absorb_matmulF [CommRing R] {x : Arr R} (hv : x.validB = true) (h2 : x.ndim = 2)
    {α : Type} {l : List α} {sec : α → Sector} {ub sb vb : α → Blk R} {u : Arr R} {sv : BVec R}
    {vh : Arr R} (A : Aligned l sec ub sb vb u sv vh) (hin : ∀ p ∈ l, sec p ∈ x.sectors)
    (hu2 : u.ndim = 2) (hlab : SortedLabels u.oddpos) (RO : RightOf x vh)
    (sqrtK : Blk R → Blk R) (dims : α → Nat × Nat × Nat)
    (hsh : ∀ p ∈ l, ItemShape (ub p) (sb p) (vb p) (dims p).1 (dims p).2.1 (dims p).2.2)
    (mode : Absorb)
    (hsq : mode = .both → ∀ p ∈ l, (sqrtK (sb p)).shape = [(dims p).2.1]
      ∧ ∀ t, t < (dims p).2.1 → (sqrtK (sb p)).get [t] * (sqrtK (sb p)).get [t] = (sb p).get [t]) :
    ∃ y, Arr.matmulF (absorbA mode sqrtK u sv vh).1 (absorbA mode sqrtK u sv vh).2 = .ok y
      ∧ ItemProduct l sec dims u vh y (fun p i j => (List.range (dims p).2.1).foldl
          (fun acc t => acc + ((ub p).get [i, t] * (sb p).get [t]) * (vb p).get [t, j]) 0) := by
  have : NegLaws R := negLaws_of_ring
  obtain ⟨q1, q2, q3⟩ := absorb_product A sqrtK dims hsh mode hsq
  have hE := absorbA_eq A mode sqrtK
  obtain ⟨y, hy, hyp, hyo, hyb, g1, g2, g3, g4⟩ := matmulF_rightOf hv h2 l sec A.hlen A.hsec A.hcol
    hin (fun p => absU mode sqrtK (ub p) (sb p)) (fun p => absV mode sqrtK (vb p) (sb p))
    (absorbA mode sqrtK u sv vh).1 (absorbA mode sqrtK u sv vh).2
    (by rw [hE]) (by rw [hE]) (by rw [hE]; exact hu2) (by rw [hE]; exact hlab)
    (by rw [hE]; exact RO.withBlocks _)
  obtain ⟨e1, e2, e3⟩ := matmulF_items_elem l sec A.hlen A.hsec A.hcol
    (fun p => absU mode sqrtK (ub p) (sb p)) (fun p => absV mode sqrtK (vb p) (sb p))
    (absorbA mode sqrtK u sv vh).1 (absorbA mode sqrtK u sv vh).2 y (by rw [hE]) (by rw [hE]) hyp hyb
    dims (fun p hp => by
      obtain ⟨s1, _, s3⟩ := hsh p hp
      exact ⟨by rw [absU_shape]; exact s1, by rw [absV_shape]; exact s3⟩)
  have hfields : (absorbA mode sqrtK u sv vh).1.oddpos = u.oddpos
      ∧ (absorbA mode sqrtK u sv vh).1.sym = u.sym ∧ (absorbA mode sqrtK u sv vh).1.fermi = u.fermi
      ∧ (absorbA mode sqrtK u sv vh).1.charge = u.charge
      ∧ (absorbA mode sqrtK u sv vh).1.indices = u.indices
      ∧ (absorbA mode sqrtK u sv vh).2.charge = vh.charge
      ∧ (absorbA mode sqrtK u sv vh).2.indices = vh.indices := by
    rw [hE]; exact ⟨rfl, rfl, rfl, rfl, rfl, rfl, rfl⟩
  obtain ⟨k1, k2, k3, k4, k5, k6, k7⟩ := hfields
  refine ⟨y, hy, hyp, hyo.trans k1, by rw [e1]; exact q2, g1.trans k2, g2.trans k3,
    by rw [g3, k2, k4, k6], by rw [g4, k5, k7], ?_, ?_⟩
  · intro p hp i j hi hj
    rw [e2 p hp i j hi hj]
    exact q3 p hp i j hi hj
  · intro s hs off
    rw [e3 s hs off]
    have hnone : alookup (tensordotBlockwise (absorbA mode sqrtK u sv vh).1
        (absorbA mode sqrtK u sv vh).2 [0] [1] [0] [1]).blocks s = none := by
      rw [alookup_eq_none_iff]
      show s ∉ (tensordotBlockwise _ _ [0] [1] [0] [1]).sectors
      rw [q2]; exact hs
    simp only [Arr.elem, hnone]

theorem multiplyDiagonal1_items [Zero R] [Mul R] {α : Type} {l : List α} {sec : α → Sector}
    {ub sb vb : α → Blk R} {u : Arr R} {sv : BVec R} {vh : Arr R}
    (A : Aligned l sec ub sb vb u sv vh) :
    (multiplyDiagonal u sv 1).blocks = l.map (fun p => (sec p, (ub p).mulAxisK (sb p) 1)) :=
  multiplyDiagonal_items sec ub sb 1 u sv A.hu A.hs A.hcol

theorem multiplyDiagonal0_items [Zero R] [Mul R] {α : Type} {l : List α} {sec : α → Sector}
    {ub sb vb : α → Blk R} {u : Arr R} {sv : BVec R} {vh : Arr R}
    (A : Aligned l sec ub sb vb u sv vh) :
    (multiplyDiagonal vh sv 0).blocks = l.map (fun p => (diagOf (sec p), (vb p).mulAxisK (sb p) 0)) :=
  multiplyDiagonal_items (fun p => diagOf (sec p)) vb sb 0 vh sv A.hv A.hs A.hcol

theorem eq_withBlocks {a : Arr R} {B : List (Sector × Blk R)} (h : a.blocks = B) :
    a = { a with blocks := B } := by rw [← h]

theorem multiplyDiagonal_withBlocks [Zero R] [Mul R] {a : Arr R} {sv : BVec R} {axis : Nat}
    {B : List (Sector × Blk R)} (h : (multiplyDiagonal a sv axis).blocks = B) :
    multiplyDiagonal a sv axis = { a with blocks := B } := by rw [← h]; rfl

theorem absorb_left_eq [Zero R] [Mul R] {α : Type} {l : List α} {sec : α → Sector}
    {ub sb vb : α → Blk R} {u : Arr R} {sv : BVec R} {vh : Arr R}
    (A : Aligned l sec ub sb vb u sv vh) (sqrtK : Blk R → Blk R) :
    absorbA .left sqrtK u sv vh = (multiplyDiagonal u sv 1, vh) := by
  rw [absorbA_eq A .left sqrtK]
  exact Prod.ext (multiplyDiagonal_withBlocks (multiplyDiagonal1_items A)).symm
    (eq_withBlocks A.hv).symm

theorem absorb_right_eq [Zero R] [Mul R] {α : Type} {l : List α} {sec : α → Sector}
    {ub sb vb : α → Blk R} {u : Arr R} {sv : BVec R} {vh : Arr R}
    (A : Aligned l sec ub sb vb u sv vh) (sqrtK : Blk R → Blk R) :
    absorbA .right sqrtK u sv vh = (u, multiplyDiagonal vh sv 0) := by
  rw [absorbA_eq A .right sqrtK]
  exact Prod.ext (eq_withBlocks A.hu).symm
    (multiplyDiagonal_withBlocks (multiplyDiagonal0_items A)).symm

end ReconP
end SymmModel
