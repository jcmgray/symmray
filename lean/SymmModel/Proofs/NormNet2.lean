/-
  SymmModel.Proofs.NormNet2 — network form of the norm (property C10), part 2:
  the arithmetic of the sign exponents; counting odd charges; the bra tensor `braOf a X` (`conj()`, then
  `phase_flip` of the dangling bra-like legs outside `X`): its sector sign through the counts, sparing
  ket-like legs changes nothing, with nothing spared it is `conj(phase_dual=True)`; and the count of
  flipped legs on a contraction result whose legs `y` of the second operand stay spared (`dangOdd_result`).
-/
import SymmModel.Proofs.NormNet1
import SymmModel.Proofs.AssocLeft
namespace SymmModel.NormNet
open SymmModel SymmModel.Lazy SymmModel.Norm SymmModel.TdotP SymmModel.GradedP SymmModel.RoutesP
open SymmModel.KoszulP (sgn tri tri_add sgn_add sgn_congr sgn_cases)
set_option linter.unusedSectionVars false

theorem mul_mod_two (m n : Nat) : (m * n) % 2 = (m % 2) * (n % 2) := by
  rw [Nat.mul_mod]
  rcases Nat.mod_two_eq_zero_or_one m with h | h <;> rcases Nat.mod_two_eq_zero_or_one n with g | g <;>
    simp [h, g]

/-- the parity bookkeeping behind `conj (A·B) = conj A · conj B`, for one aligned pair of sectors.  Counts of
    odd charges: `fA`, `fB` on the free legs of `A`, `B`; `k` on the contracted legs; `dA`, `dB` on the
    flipped (dangling bra-like) legs; `kA`, `kA'` on the ket-like contracted legs of `A` and of its bra
    (`kA' + kA = k`: `conj` turns every leg).  `pA`, `pB`: the parities as numbers; `tA`, `tB`, `tk` stand for
    the triangle numbers of `fA`, `fB`, `k`.  Left: the exponents of the bra call with the two bra signs;
    right: the exponent of the bra sign of the result, with `kA` of the ket call. -/
theorem exps (fA fB k dA dB kA kA' pA pB tA tB tk : Nat) (hpA : pA = (fA + k) % 2)
    (hpB : pB = (fB + k) % 2) (hk : kA' + kA = k) :
    (pA * pB + kA' + (dA + pA + (tA + tk + fA * k)) + (dB + pB + (tB + tk + fB * k))) % 2
      = ((pA + pB) + (dA + dB) + (tA + tB + fA * fB) + kA) % 2 := by
  -- `pA * pB ≡ (fA + k) * (fB + k) ≡ fA * fB + fA * k + fB * k + k`; the rest is linear
  have hp : (pA * pB) % 2 = ((fA + k) * (fB + k)) % 2 := by rw [hpA, hpB, ← Nat.mul_mod]
  have hkk : (k * k) % 2 = k % 2 := by
    rcases Nat.mod_two_eq_zero_or_one k with h | h <;> rw [mul_mod_two, h]
  rw [Nat.add_mul, Nat.mul_add, Nat.mul_add, Nat.mul_comm k fB] at hp
  omega

def sgB (b : Bool) : Int := if b then -1 else 1

theorem sgB_eq (b : Bool) : sgB b = sgn b.toNat := by cases b <;> rfl

theorem sgB_xor (p q : Bool) : sgB (xor p q) = sgn (p.toNat + q.toNat) := by
  cases p <;> cases q <;> rfl

theorem sgB_and (p q : Bool) : sgB (p && q) = sgn (p.toNat * q.toNat) := by
  cases p <;> cases q <;> rfl

theorem toNat_of_beq {n : Nat} {b : Bool} (h : (n % 2 == 1) = b) : b.toNat = n % 2 := by
  subst h
  rcases Nat.mod_two_eq_zero_or_one n with h | h <;> simp [h]

theorem sgB_odd (n : Nat) : sgB (n % 2 == 1) = sgn n := by
  rw [sgB_eq, toNat_of_beq rfl]; exact sgn_congr (Nat.mod_mod n 2)

/-- **the sign identity in terms of the counts** (`exps` as an identity of signs; the only user is
    `bra_pair_sign_spared`, NormNet3, which reads off the counts).  Counts as in `exps`; `X`, `Y`: the Koszul
    signs of the two operand transpositions, the same in the ket and the bra call; `ph`, `ph'`: the signs of
    the label resolution of the ket and the bra call.  Left: resolution sign × graded sign of the bra call ×
    the bra signs `(-1)^d · (-1)^p · (-1)^tri(f + k)` of `A` and `B` (`braSign_eq`); right: the bra sign of
    the result × resolution sign × graded sign of the ket call. -/
theorem sign_algebra (fA fB k dA dB kA kA' : Nat) (pA pB : Bool) (X Y ph ph' : Int)
    (hpA : ((fA + k) % 2 == 1) = pA) (hpB : ((fB + k) % 2 == 1) = pB) (hk : kA' + kA = k)
    (hph' : ph' = ph * sgB (pA && pB)) :
    ph' * (X * Y * sgn (tri k) * sgn kA'
        * ((sgn dA * (sgB pA * sgn (tri (fA + k)))) * (sgn dB * (sgB pB * sgn (tri (fB + k))))))
      = (sgB (xor pA pB) * (sgn (dA + dB) * sgn (tri (fA + fB)))) * (ph * (X * Y * sgn (tri k) * sgn kA)) := by
  have key : sgn (pA.toNat * pB.toNat + kA' + (dA + pA.toNat + (tri fA + tri k + fA * k))
        + (dB + pB.toNat + (tri fB + tri k + fB * k)))
      = sgn ((pA.toNat + pB.toNat) + (dA + dB) + (tri fA + tri fB + fA * fB) + kA) :=
    sgn_congr (exps fA fB k dA dB kA kA' pA.toNat pB.toNat (tri fA) (tri fB) (tri k)
      (toNat_of_beq hpA) (toNat_of_beq hpB) hk)
  simp only [sgn_add] at key
  rw [hph', sgB_and, sgB_xor, sgB_eq, sgB_eq, tri_add, tri_add, tri_add]
  simp only [sgn_add]
  calc ph * sgn (pA.toNat * pB.toNat) * (X * Y * sgn (tri k) * sgn kA' *
          (sgn dA * (sgn pA.toNat * (sgn (tri fA) * sgn (tri k) * sgn (fA * k))) *
            (sgn dB * (sgn pB.toNat * (sgn (tri fB) * sgn (tri k) * sgn (fB * k))))))
      = (ph * X * Y * sgn (tri k)) * (sgn (pA.toNat * pB.toNat) * sgn kA' *
          (sgn dA * sgn pA.toNat * (sgn (tri fA) * sgn (tri k) * sgn (fA * k))) *
            (sgn dB * sgn pB.toNat * (sgn (tri fB) * sgn (tri k) * sgn (fB * k)))) := by ring
    _ = (ph * X * Y * sgn (tri k)) * (sgn pA.toNat * sgn pB.toNat * (sgn dA * sgn dB) *
          (sgn (tri fA) * sgn (tri fB) * sgn (fA * fB)) * sgn kA) := by rw [key]
    _ = _ := by ring

section counts

def oddN (sym : Sym) (l : Sector) : Nat := (l.filter sym.parity).length

theorem oddN_append (sym : Sym) (l m : Sector) : oddN sym (l ++ m) = oddN sym l + oddN sym m := by
  simp [oddN, List.filter_append]

theorem oddN_perm (sym : Sym) {l m : Sector} (h : l.Perm m) : oddN sym l = oddN sym m :=
  (h.filter _).length_eq

theorem oddN_parities (sym : Sym) (s : Sector) :
    ((s.map sym.parity).filter id).length = oddN sym s := by
  rw [List.filter_map, List.length_map]; rfl

theorem oddN_split (sym : Sym) (sa : Sector) {n : Nat} {xa : List Nat} (hl : sa.length = n)
    (hn : xa.Nodup) (hlt : ∀ i ∈ xa, i < n) :
    oddN sym sa = oddN sym (permuted sa (freeAxes n xa)) + oddN sym (permuted sa xa) := by
  subst hl
  have hp : (freeAxes sa.length xa ++ xa).Perm (List.range sa.length) := perm_left hn hlt
  rw [← oddN_perm sym (permuted_perm sa _ hp), permuted_append, oddN_append]

theorem koszul_none_oddN (sym : Sym) (s : Sector) :
    koszul (s.map sym.parity) none = sgn (tri (oddN sym s)) := by
  rw [KoszulP.koszul_none, oddN_parities, KoszulP.sgn_tri]

theorem count_range_getD (l : List Nat) (g f : Nat → Bool)
    (h : ∀ i, i < l.length → g i = f (l.getD i 0)) :
    ((List.range l.length).filter g).length = (l.filter f).length := by
  conv_rhs => rw [list_eq_map_getD l, List.filter_map, List.length_map]
  congr 1
  apply List.filter_congr
  intro i hi
  exact h i (List.mem_range.mp hi)

theorem count_partition {α : Type} (l : List α) (p q : α → Bool) :
    ((l.filter p).filter q).length + ((l.filter (fun x => !p x)).filter q).length
      = (l.filter q).length := by
  induction l with
  | nil => rfl
  | cons x xs ih =>
    simp only [List.filter_cons]
    cases hp : p x <;> cases hq : q x <;>
      simp only [hq, List.filter_cons, Bool.not_false, Bool.not_true, if_true, if_false,
        Bool.false_eq_true, List.length_cons] <;> omega

theorem flipSign_eq_sgn (sym : Sym) (axs : List Nat) (s : Sector) :
    flipSign sym axs s = sgn ((axs.filter (fun ax => sym.parity (s.getD ax (0, 0)))).length) := by
  rw [← sgB_odd]; rfl

end counts

section pairsign
variable {R : Type} [Zero R] [Neg R] [Conj R]

/-- number of dangling bra-like legs of `a` carrying an odd charge in `sa` -/
def dangOdd (a : Arr R) (xa : List Nat) (sa : Sector) : Nat :=
  ((dangDual a xa).filter (fun ax => a.sym.parity (sa.getD ax (0, 0)))).length

theorem braSign_eq (a : Arr R) (xa : List Nat) (sa : Sector)
    (hl : (a.oddpos.length % 2 == 1) = a.parity) :
    braSign a xa sa = sgn (dangOdd a xa sa) * (sgB a.parity * sgn (tri (oddN a.sym sa))) := by
  unfold braSign conjTotSign conjSign
  rw [flipSign_eq_sgn, conjGlob_valid hl]
  simp only [Bool.false_and, Bool.false_eq_true, if_false, if_true, Int.one_mul]
  unfold Arr.parities
  rw [koszul_none_oddN]; rfl

theorem ketOdd_bra' (a : Arr R) (X xa : List Nat) (sa : Sector) (hA : ∀ i ∈ xa, i < a.ndim)
    (hl : sa.length = a.ndim) :
    ketOdd (braOf a X) xa sa + ketOdd a xa sa = oddContracted a xa sa := by
  unfold ketOdd oddContracted
  rw [braOf_sym a X, braOf_indices a X]
  have e : xa.filter (fun ax => !((a.indices.map Index.conj).getD ax default).dual)
      = xa.filter (fun ax => !(fun ax => !(a.indices.getD ax default).dual) ax) := by
    apply List.filter_congr
    intro i hi
    rw [getD_map_conj _ _ (hA i hi), Index.conj_dual]
  rw [e, Nat.add_comm, count_partition xa (fun ax => !(a.indices.getD ax default).dual)
    (fun ax => a.sym.parity (sa.getD ax (0, 0)))]
  rw [permuted_eq_map sa xa (by intro x hx; rw [hl]; exact hA x hx) (0, 0), List.filter_map,
    List.length_map]
  rfl

omit [Zero R] [Neg R] [Conj R] in
theorem getD_append_map_left {α : Type} {d : α} (fA fB : List Nat) (f g : Nat → α) (i : Nat)
    (hi : i < fA.length) : (fA.map f ++ fB.map g).getD i d = f (fA.getD i 0) := by
  simp only [List.getD_eq_getElem?_getD]
  rw [List.getElem?_append_left (by rw [List.length_map]; exact hi), List.getElem?_map,
    List.getElem?_eq_getElem hi]
  simp

omit [Zero R] [Neg R] [Conj R] in
theorem getD_append_map_right {α : Type} {d : α} (fA fB : List Nat) (f g : Nat → α) (i : Nat)
    (hi : i < fB.length) : (fA.map f ++ fB.map g).getD (fA.length + i) d = g (fB.getD i 0) := by
  simp only [List.getD_eq_getElem?_getD]
  have : (fA.map f).length = fA.length := List.length_map _
  rw [← this, List.getElem?_append_right (Nat.le_add_right _ _), Nat.add_sub_cancel_left,
    List.getElem?_map, List.getElem?_eq_getElem hi]
  simp

omit [Zero R] [Neg R] [Conj R] in
/-- the un-pruned frame of the result of `a·b` -/
theorem frame_eq (a b : Arr R) (xa xb : List Nat) :
    without a.indices xa ++ without b.indices xb
      = (freeAxes a.ndim xa).map (fun x => a.indices.getD x default)
        ++ (freeAxes b.ndim xb).map (fun x => b.indices.getD x default) := by
  rw [without_eq_permuted_freeAxes, without_eq_permuted_freeAxes,
    permuted_eq_map _ _ (fun x hx => mem_freeAxes_lt x hx) default,
    permuted_eq_map _ _ (fun x hx => mem_freeAxes_lt x hx) default]
  rfl

/-- ket-like legs are never flipped: excluding them from the dangling legs changes nothing -/
theorem dangDual_spare (a : Arr R) (x y : List Nat)
    (hy : ∀ ax ∈ y, (a.indices.getD ax default).dual = false) :
    dangDual a (x ++ y) = dangDual a x := by
  rw [dangDual_eq, dangDual_eq]
  refine List.filter_congr fun ax _ => ?_
  by_cases h : ax ∈ y
  · have hd := hy ax h
    rw [List.getD_eq_getElem?_getD] at hd
    simp [hd, h]
  · simp [h]

theorem braOf_spare (a : Arr R) (x y : List Nat)
    (hy : ∀ ax ∈ y, (a.indices.getD ax default).dual = false) :
    braOf a (x ++ y) = braOf a x := by
  unfold braOf; rw [dangDual_spare a x y hy]

theorem dangDual_all (K : Arr R) (x : List Nat)
    (hx : ∀ ax ∈ x, (K.indices.getD ax default).dual = false) :
    dangDual K x = (List.range K.indices.length).filter
      (fun ax => (fun i : Index => i.dual) (K.indices.getD ax default)) := by
  rw [dangDual_eq]
  refine List.filter_congr fun ax _ => ?_
  by_cases h : ax ∈ x
  · have hd := hx ax h
    rw [List.getD_eq_getElem?_getD] at hd
    simp [hd, h]
  · simp [h]

/-- the sign of `conj(phase_dual=True)` = flip of all bra-like legs × sign of `conj()` -/
theorem conjTotSign_dual (K : Arr R) (s : Sector) :
    conjTotSign K true true s
      = flipSign K.sym ((List.range K.indices.length).filter
          (fun ax => (fun i : Index => i.dual) (K.indices.getD ax default))) s
        * conjTotSign K true false s := by
  have hflip := flipOdd_filter K.sym K.indices (fun i => i.dual) s
  have e : dualOdd K s = flipOdd K.sym ((List.range K.indices.length).filter
      (fun ax => (fun i : Index => i.dual) (K.indices.getD ax default))) s := by
    rw [dualOdd_eq]; unfold Arr.parities; rw [← hflip]
  unfold conjTotSign conjSign flipSign
  rw [e]
  generalize flipOdd K.sym _ s = f
  generalize koszul (K.parities s) none = k
  generalize conjGlob K true = g
  cases f <;> cases g <;> simp

theorem braSign_nil (K : Arr R) (s : Sector) : braSign K [] s = conjTotSign K true true s := by
  unfold braSign
  rw [dangDual_all K [] (fun _ h => absurd h List.not_mem_nil), conjTotSign_dual]

end pairsign

open SymmModel.AssocP

section geom

/-- the image of a free leg `fb[i]` of `b` in `a·b` is among the images of `y` iff `fb[i] ∈ y` -/
theorem axesAB_contains {nA nB : Nat} {xa xb y : List Nat} (hM : Mid nB xb y) (i : Nat)
    (hi : i < (freeAxes nB xb).length) :
    (AssocP.axesAB nA nB xa xb y).contains ((freeAxes nA xa).length + i)
      = y.contains ((freeAxes nB xb).getD i 0) := by
  rw [Bool.eq_iff_iff]
  simp only [List.contains_iff_mem]
  constructor
  · intro hmem
    obtain ⟨j, hj, e⟩ := List.mem_iff_getElem.mp hmem
    have hj' : j < y.length := by rw [← AssocP.axesAB_len (nA := nA) (xa := xa) hM]; exact hj
    obtain ⟨e1, e2, e3⟩ := AssocP.axesAB_getD (nA := nA) (xa := xa) hM j hj'
    have hg : (AssocP.axesAB nA nB xa xb y)[j] = (AssocP.axesAB nA nB xa xb y).getD j 0 := by
      rw [List.getD_eq_getElem?_getD, List.getElem?_eq_getElem hj]; rfl
    rw [hg, e1] at e
    have : (positions (freeAxes nB xb) y).getD j 0 = i := by omega
    rw [this] at e3
    rw [e3, List.getD_eq_getElem?_getD, List.getElem?_eq_getElem hj']
    exact List.getElem_mem hj'
  · intro hmem
    obtain ⟨j, hj', e⟩ := List.mem_iff_getElem.mp hmem
    obtain ⟨e1, e2, e3⟩ := AssocP.axesAB_getD (nA := nA) (xa := xa) hM j hj'
    have hyj : y.getD j 0 = y[j] := by
      rw [List.getD_eq_getElem?_getD, List.getElem?_eq_getElem hj']; rfl
    have hfi : (freeAxes nB xb).getD i 0 = (freeAxes nB xb)[i] := by
      rw [List.getD_eq_getElem?_getD, List.getElem?_eq_getElem hi]; rfl
    have hfp : (freeAxes nB xb).getD ((positions (freeAxes nB xb) y).getD j 0) 0
        = (freeAxes nB xb)[(positions (freeAxes nB xb) y).getD j 0]'e2 := by
      rw [List.getD_eq_getElem?_getD, List.getElem?_eq_getElem e2]; rfl
    have hpi : (positions (freeAxes nB xb) y).getD j 0 = i := by
      apply ((freeAxes_nodup nB xb).getElem_inj_iff).mp
      rw [← hfp, e3, hyj, e, hfi]
    have hj : j < (AssocP.axesAB nA nB xa xb y).length := by
      rw [AssocP.axesAB_len hM]; exact hj'
    have hg : (AssocP.axesAB nA nB xa xb y)[j] = (AssocP.axesAB nA nB xa xb y).getD j 0 := by
      rw [List.getD_eq_getElem?_getD, List.getElem?_eq_getElem hj]; rfl
    rw [← hpi, ← e1, ← hg]
    exact List.getElem_mem hj

theorem axesAB_not_left {nA nB : Nat} {xa xb y : List Nat} (i : Nat)
    (hi : i < (freeAxes nA xa).length) :
    (AssocP.axesAB nA nB xa xb y).contains i = false := by
  rw [Bool.eq_false_iff]
  simp only [ne_eq, List.contains_iff_mem, AssocP.axesAB, List.mem_map, not_exists, not_and]
  intro p _ e
  omega

theorem freeAxes_append (n : Nat) (x y : List Nat) :
    freeAxes n (x ++ y) = (freeAxes n x).filter (fun ax => !y.contains ax) := by
  unfold freeAxes
  rw [List.filter_filter]
  apply List.filter_congr
  intro ax _
  simp only [List.contains_append, Bool.not_or, Bool.and_comm]

end geom

section result
variable {R : Type} [Zero R] [Neg R] [Conj R]

/-- the dangling-leg flips of `braOf K (images of y)` on the contraction result are the product of
    the dangling-leg flips of `braOf a xa` and `braOf b (xb ++ y)` -/
theorem dangOdd_result (a b K : Arr R) (xa xb y : List Nat) (S : List Sector)
    (hKs : K.sym = a.sym) (hsym : a.sym = b.sym)
    (hKi : K.indices = dropUnused (without a.indices xa ++ without b.indices xb) S)
    (hM : Mid b.ndim xb y)
    (sa sb : Sector) (hla : sa.length = a.ndim) (hlb : sb.length = b.ndim) :
    dangOdd K (AssocP.axesAB a.ndim b.ndim xa xb y)
        (permuted sa (freeAxes a.ndim xa) ++ permuted sb (freeAxes b.ndim xb))
      = dangOdd a xa sa + dangOdd b (xb ++ y) sb := by
  have wAB := frame_eq a b xa xb
  have sAB : permuted sa (freeAxes a.ndim xa) ++ permuted sb (freeAxes b.ndim xb)
      = (freeAxes a.ndim xa).map (fun x => sa.getD x (0, 0))
        ++ (freeAxes b.ndim xb).map (fun x => sb.getD x (0, 0)) := by
    rw [permuted_eq_map sa _ (fun x hx => hla ▸ mem_freeAxes_lt x hx) (0, 0),
      permuted_eq_map sb _ (fun x hx => hlb ▸ mem_freeAxes_lt x hx) (0, 0)]
  have hnd : K.ndim = (freeAxes a.ndim xa).length + (freeAxes b.ndim xb).length := by
    show K.indices.length = _
    rw [hKi, dropUnused_length, wAB, List.length_append, List.length_map, List.length_map]
  have hL : dangOdd K (AssocP.axesAB a.ndim b.ndim xa xb y)
        (permuted sa (freeAxes a.ndim xa) ++ permuted sb (freeAxes b.ndim xb))
      = ((List.range K.ndim).filter (fun ax =>
          K.sym.parity ((permuted sa (freeAxes a.ndim xa) ++ permuted sb (freeAxes b.ndim xb)).getD
            ax (0, 0))
          && (K.indices.getD ax default).dual
          && !(AssocP.axesAB a.ndim b.ndim xa xb y).contains ax)).length := by
    unfold dangOdd dangDual freeAxes
    rw [List.filter_filter, List.filter_filter]
  have hA' : dangOdd a xa sa = ((freeAxes a.ndim xa).filter (fun ax =>
      a.sym.parity (sa.getD ax (0, 0)) && (a.indices.getD ax default).dual)).length := by
    unfold dangOdd dangDual
    rw [List.filter_filter]
  have hB' : dangOdd b (xb ++ y) sb = ((freeAxes b.ndim xb).filter (fun ax =>
      b.sym.parity (sb.getD ax (0, 0))
        && (b.indices.getD ax default).dual && !y.contains ax)).length := by
    unfold dangOdd dangDual
    rw [freeAxes_append, List.filter_filter, List.filter_filter]
  rw [hL, hA', hB', hnd, List.range_add, List.filter_append, List.length_append, List.filter_map,
    List.length_map]
  congr 1
  · -- the legs that came from `a`: none of them is an image of `y`
    apply count_range_getD (freeAxes a.ndim xa)
    intro i hi
    rw [hKi, dropUnused_getD_dual, hKs, axesAB_not_left i hi, wAB, sAB,
      getD_append_map_left _ _ _ _ _ hi, getD_append_map_left _ _ _ _ _ hi]
    simp
  · -- the legs that came from `b`
    apply count_range_getD (freeAxes b.ndim xb)
    intro i hi
    simp only [Function.comp]
    rw [hKi, dropUnused_getD_dual, hKs, hsym, axesAB_contains hM i hi, wAB, sAB,
      getD_append_map_right _ _ _ _ _ hi, getD_append_map_right _ _ _ _ _ hi]

end result

section obs
variable {R : Type} [AddMonoid R] [Mul R] [Neg R] [Conj R] [NetLaws R]

/-- **`conj(phase_dual=True)` is the bra tensor with ket-like bond legs.** -/
theorem conjF_obs_braOf (K : Arr R) (x : List Nat) (hS : SignOk K)
    (hx : ∀ ax ∈ x, (K.indices.getD ax default).dual = false) :
    ObsEq (K.conjF true true) (braOf K x) := by
  obtain ⟨c1, c2, c3, c4, c5, c6⟩ := conjF_frame K true true
  obtain ⟨b1, b2, b3, b4, b5, b6⟩ := braOf_frame K x
  refine ⟨c1.trans b1.symm, c2.trans b2.symm, c3.trans b3.symm, c4.trans b4.symm,
    c5.trans b5.symm, c6.trans b6.symm, fun s off => ?_⟩
  rw [conjF_elem K true true hS, braOf_elem K x hS]
  unfold braSign
  rw [dangDual_all K x hx, conjTotSign_dual]

end obs

end SymmModel.NormNet
