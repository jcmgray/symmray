/-
  SymmModel.Proofs.TdotFuseC3 — fusing the leading free legs of the LEFT operand commutes with the
  contraction (abelian, no alignment needed): the case `g = [0 … k-1]` of the one-group geometry
  (FuseCommuteL), in the phrasing `sh k` / `c0 :: …` of the C06e statements: the bridges
  (`shiftAxes_lead`, `lead_free_parts`, `merge_lead`), the element map `lead_elem`, the geometry
  `lead_geom` shared with the graded and the fermionic forms, and the entry-wise statement.
-/
import SymmModel.Proofs.FuseCommuteL

namespace SymmModel
namespace TdotP
variable {R : Type}

/-- the position of original axis `j ≥ k` after the axes `0 … k-1` have been fused into one -/
def sh (k j : Nat) : Nat := j + 1 - k

/-- the free legs `≥ k` -/
def freeTail (n k : Nat) (xa : List Nat) : List Nat :=
  ((List.range n).drop k).filter (fun ax => !xa.contains ax)

theorem permuted_cons_drop_shift {α : Type} (c : α) (M : List α) (k : Nat) (hk : 1 ≤ k) (l : List Nat)
    (hl : ∀ x ∈ l, k ≤ x) : permuted (c :: M.drop k) (l.map (sh k)) = permuted M l := by
  unfold permuted
  rw [List.filterMap_map]
  apply List.filterMap_congr
  intro x hx
  have hkx := hl x hx
  simp only [Function.comp, sh]
  have e : x + 1 - k = (x - k) + 1 := by omega
  rw [e, List.getElem?_cons_succ, List.getElem?_drop]
  congr 1; omega

theorem freeAxes_lead (n k : Nat) (xa : List Nat) (hk : k ≤ n) (hxa : ∀ x ∈ xa, k ≤ x) :
    freeAxes n xa = List.range k ++ freeTail n k xa := by
  unfold freeAxes freeTail
  have e : List.range n = List.range k ++ (List.range n).drop k := by
    conv_lhs => rw [← List.take_append_drop k (List.range n)]
    rw [List.take_range, Nat.min_eq_left hk]
  conv_lhs => rw [e]
  rw [List.filter_append]
  congr 1
  rw [List.filter_eq_self]
  intro a ha
  have := List.mem_range.mp ha
  simp only [Bool.not_eq_true', List.contains_eq_mem, decide_eq_false_iff_not]
  intro h; have := hxa a h; omega

theorem mem_freeTail {n k : Nat} {xa : List Nat} {x : Nat} (h : x ∈ freeTail n k xa) :
    k ≤ x ∧ x < n ∧ x ∉ xa := by
  unfold freeTail at h
  obtain ⟨h1, h2⟩ := List.mem_filter.mp h
  obtain ⟨i, hi, rfl⟩ := List.mem_iff_getElem.mp h1
  simp only [List.length_drop, List.length_range] at hi
  simp only [List.getElem_drop, List.getElem_range]
  refine ⟨by omega, by omega, ?_⟩
  simpa using h2

theorem freeAxes_shift (n k : Nat) (xa : List Nat) (hk1 : 1 ≤ k) (hk : k ≤ n) (hxa : ∀ x ∈ xa, k ≤ x) :
    freeAxes (1 + (n - k)) (xa.map (sh k)) = 0 :: (freeTail n k xa).map (sh k) := by
  unfold freeAxes freeTail
  have e1 : List.range (1 + (n - k)) = 0 :: (List.range (n - k)).map (· + 1) := by
    rw [Nat.add_comm, List.range_succ_eq_map]
  have e2 : (List.range n).drop k = (List.range (n - k)).map (· + k) := by
    apply List.ext_getElem
    · simp
    · intro i h1 h2; simp; omega
  rw [e1, e2, List.filter_cons]
  have h0 : (!(xa.map (sh k)).contains 0) = true := by
    simp only [Bool.not_eq_true', List.contains_eq_mem, decide_eq_false_iff_not, List.mem_map, not_exists,
      not_and]
    intro x hx; have := hxa x hx; unfold sh; omega
  rw [if_pos h0]
  congr 1
  rw [List.filter_map, List.filter_map, List.map_map]
  have hp : ∀ j, ((fun ax => !(xa.map (sh k)).contains ax) ∘ (· + 1)) j
      = ((fun ax => !xa.contains ax) ∘ (· + k)) j := by
    intro j
    simp only [Function.comp]
    congr 1
    rw [Bool.eq_iff_iff]
    simp only [List.contains_eq_mem, decide_eq_true_eq, List.mem_map]
    constructor
    · rintro ⟨x, hx, he⟩
      have := hxa x hx
      have : x = j + k := by unfold sh at he; omega
      rw [← this]; exact hx
    · intro h
      exact ⟨j + k, h, by unfold sh; omega⟩
  rw [List.filter_congr (fun j _ => hp j)]
  apply List.map_congr_left
  intro j _
  simp only [Function.comp, sh]; omega

theorem permuted_zero_cons {α : Type} (c : α) (l : List α) (p : List Nat) :
    permuted (c :: l) (0 :: p) = c :: permuted (c :: l) p := by
  simp [permuted]

/-- merging with the leading free block `Sv` of length `k`, before and after fusing the leading
    `k` axes (`c` stands for the fused entry) -/
theorem merge_lead {α : Type} (d0 : α) (n k : Nat) (xa : List Nat) (hk1 : 1 ≤ k) (hk : k ≤ n)
    (hn : xa.Nodup) (hr : ∀ x ∈ xa, x < n) (hxa : ∀ x ∈ xa, k ≤ x)
    (kv : List α) (hkv : kv.length = xa.length) (c : α) (Sv Lv : List α) (hS : Sv.length = k)
    (hLv : Lv.length = (freeTail n k xa).length) :
    mergeIdx d0 n xa (freeAxes n xa) kv (Sv ++ Lv)
        = Sv ++ (mergeIdx d0 n xa (freeAxes n xa) kv (Sv ++ Lv)).drop k
    ∧ mergeIdx d0 (1 + (n - k)) (xa.map (sh k)) (freeAxes (1 + (n - k)) (xa.map (sh k))) kv (c :: Lv)
        = c :: (mergeIdx d0 n xa (freeAxes n xa) kv (Sv ++ Lv)).drop k
    ∧ permuted (mergeIdx d0 n xa (freeAxes n xa) kv (Sv ++ Lv)) (freeTail n k xa) = Lv := by
  generalize hM : mergeIdx d0 n xa (freeAxes n xa) kv (Sv ++ Lv) = M
  have hMl : M.length = n := by rw [← hM]; exact mergeIdx_length _ _ _ _ _ _
  have pA : permuted M xa = kv := by rw [← hM]; exact permuted_mergeIdx_axes d0 hn hr hkv
  have hFl : (Sv ++ Lv).length = (freeAxes n xa).length := by
    rw [freeAxes_lead n k xa hk hxa, List.length_append, List.length_append, hS, hLv, List.length_range]
  have pF : permuted M (freeAxes n xa) = Sv ++ Lv := by
    rw [← hM]
    exact permuted_mergeIdx_free d0 (freeAxes_nodup _ _) mem_freeAxes_lt
      (fun _ hx => (mem_freeAxes.mp hx).2) hFl
  rw [freeAxes_lead n k xa hk hxa, permuted_append, ValidP.permuted_range_take] at pF
  have htl : (M.take k).length = Sv.length := by rw [List.length_take, hMl, hS]; omega
  obtain ⟨e1, e2⟩ := List.append_inj pF htl
  have e3 : M = Sv ++ M.drop k := by
    conv_lhs => rw [← List.take_append_drop k M]
    rw [e1]
  refine ⟨e3, ?_, e2⟩
  have hxl : (c :: M.drop k).length = 1 + (n - k) := by
    rw [List.length_cons, List.length_drop, hMl]; omega
  have hra : ∀ y ∈ xa.map (sh k), y < 1 + (n - k) := by
    intro y hy
    obtain ⟨x, hx, rfl⟩ := List.mem_map.mp hy
    have := hr x hx; have := hxa x hx
    unfold sh; omega
  have := mergeIdx_permuted d0 (x := c :: M.drop k) (n := 1 + (n - k)) (axes := xa.map (sh k))
    (free := freeAxes (1 + (n - k)) (xa.map (sh k))) hxl hra mem_freeAxes_lt
    (by
      intro y hy
      by_cases hm : y ∈ xa.map (sh k)
      · exact Or.inl hm
      · exact Or.inr (mem_freeAxes.mpr ⟨hy, hm⟩))
  rw [permuted_cons_drop_shift c M k hk1 xa hxa, pA, freeAxes_shift n k xa hk1 hk hxa,
    permuted_zero_cons, permuted_cons_drop_shift c M k hk1 _ (fun x hx => (mem_freeTail hx).1), e2] at this
  rw [freeAxes_shift n k xa hk1 hk hxa]
  exact this

theorem fused_lead_validB [Zero R] {A : Arr R} {k : Nat} (hv : A.validB = true)
    (hf : A.fermi = false) (h1 : 1 ≤ k) (h2 : k ≤ A.ndim) :
    (FuseP.fusedArrM A [List.range k]).validB = true := by
  exact FuseP.fusedArrM_validB hv hf (lead_groupsOk (X := A) h1 h2).adm

theorem shiftAxes_lead {X : Arr R} {k : Nat} (h1 : 1 ≤ k) (h2 : k ≤ X.ndim) {x : Nat} (hkx : k ≤ x)
    (hx : x < X.ndim) : shiftAxes X (List.range k) x = sh k x := by
  have h := lead_oneOk (X := X) h1 h2
  have hpos := lead_position (X := X) h1 h2
  obtain ⟨j, hj, ej, e⟩ := shiftAxes_spec h ⟨hx, by simp; omega⟩
  rw [one_free h, hpos, lead_after h1 h2] at ej hj
  simp only [List.range_zero, List.nil_append, List.length_drop, List.length_range] at ej hj
  have hxj : x = k + j := by
    rw [← ej, List.getD_eq_getElem?_getD, List.getElem?_drop, List.getElem?_range (by omega)]; rfl
  have hal : (FuseP.giM X [List.range k]).axesAfter.length = X.ndim - k := by
    rw [lead_after h1 h2]; simp
  rw [e, one_ndimM h, freeAxes_succ_mid, hpos, hal]
  simp only [List.range_zero, List.nil_append, List.getD_eq_getElem?_getD, List.getElem?_map,
    List.getElem?_range hj, Option.map_some, Option.getD_some]
  unfold sh; omega

theorem lead_free_parts {X : Arr R} {k : Nat} (h1 : 1 ≤ k) (h2 : k ≤ X.ndim) {α : Type} (d0 c0 : α)
    (Sv T : List α) (hS : Sv.length = k) (hT : T.length = X.ndim - k) :
    permuted (c0 :: T) (freeAxes (FuseP.ndimM X [List.range k]) [(FuseP.giM X [List.range k]).position])
      = permuted (Sv ++ T) (freeAxes X.ndim (List.range k)) := by
  have h := lead_oneOk (X := X) h1 h2
  have hpos := lead_position (X := X) h1 h2
  have hal : (FuseP.giM X [List.range k]).axesAfter.length = X.ndim - k := by
    rw [lead_after h1 h2]; simp
  apply one_free_parts_conv h d0 (by rw [lead_ndimM h1 h2, List.length_cons, hT]; omega)
    (by rw [List.length_append, hS, hT]; omega)
  · intro x hx; rw [hpos] at hx; omega
  · intro j hj
    rw [hal] at hj
    rw [hpos, lead_after_getD h1 h2 j hj, show 0 + 1 + j = j + 1 by omega, List.getD_cons_succ,
      List.getD_eq_getElem?_getD (l := Sv ++ T), List.getElem?_append_right (by omega), hS,
      Nat.add_sub_cancel_left, List.getD_eq_getElem?_getD]

theorem Decodes.lead {X : Arr R} {k : Nat} (h1 : 1 ≤ k) (h2 : k ≤ X.ndim)
    {c : Charge} {i : Nat} {S T : Sector} {O oT : List Nat}
    (hdec : decAx X [List.range k] 0 c i = some (S, O)) (hS : S.length = k) (hO : O.length = k)
    (hT : T.length = X.ndim - k) (hoT : oT.length = X.ndim - k) :
    Decodes X (List.range k) (c :: T) (S ++ T) (i :: oT) (O ++ oT) := by
  refine ⟨?_, lead_free_parts h1 h2 (0, 0) c S T hS hT, lead_free_parts h1 h2 0 i O oT hO hoT⟩
  have eS : permuted (S ++ T) (List.range k) = S := by
    rw [ValidP.permuted_range_take]; exact List.take_left' hS
  have eO : permuted (O ++ oT) (List.range k) = O := by
    rw [ValidP.permuted_range_take]; exact List.take_left' hO
  rw [lead_position h1 h2, eS, eO]
  exact hdec

/-- **element map of fusing the leading `k` axes** (`one_elem` at `g = [0 … k-1]`).  The element of the
    fused array at `(c :: rest, i :: orest)` is the original's element at `(S ++ rest, O ++ orest)`,
    where `(S, O)` is what the fused index's own table decodes `(c, i)` to — also when the fused
    sector is not stored (both are zero). -/
theorem lead_elem [Zero R] [Neg R] {X : Arr R} {k : Nat} (hv : FuseP.ValidArr X) (hph : X.phases = [])
    (h1 : 1 ≤ k) (h2 : k ≤ X.ndim)
    {c : Charge} {i d : Nat} {S : Sector} {O : List Nat}
    (hdec : decAx X [List.range k] 0 c i = some (S, O))
    (hz : (FuseP.ixM X [List.range k] 0).sizeOf? c = some d) (hi : i < d)
    {rest : Sector} {orest shp : List Nat}
    (hshp : Arr.blockShape? (X.indices.drop k) rest = some shp) (hbox : inBox shp orest = true) :
    (FuseP.fusedArrM X [List.range k]).elem (c :: rest) (i :: orest) = X.elem (S ++ rest) (O ++ orest) := by
  have h := lead_oneOk (X := X) h1 h2
  have ean : X.indices.length = X.ndim := rfl
  obtain ⟨shpS, hshpS, hboxS⟩ := decAx_facts hv h.groupsOk (g := 0) rfl hdec hz hi
  have hpk : (permuted X.indices (List.range k)).length = k := by
    rw [ValidP.permuted_range_take, List.length_take, ean]; omega
  have hSl : S.length = k := by rw [(blockShape?_length hshpS).1, hpk]
  have hOl : O.length = k := by rw [inBox_length hboxS, (blockShape?_length hshpS).2, hpk]
  have hrl : rest.length = X.ndim - k := by
    rw [(blockShape?_length hshp).1, List.length_drop, ean]
  have horl : orest.length = X.ndim - k := by
    rw [inBox_length hbox, (blockShape?_length hshp).2, List.length_drop, ean]
  refine one_elem hv hph h (shp := d :: shp) ?_ ?_ (by rw [List.length_append, hSl, hrl]; omega)
    (by rw [List.length_append, hOl, horl]; omega) (Decodes.lead h1 h2 hdec hSl hOl hrl horl)
  · rw [lead_newIdx h1 h2, Arr.blockShape?_cons, hz, hshp]; rfl
  · simp [inBox, hi, hbox]

/-- What the statements about fusing the leading free legs `0 … k-1` of an operand `a` share (the other
    operand does not occur): `(c0, i0)` is an address on the fused leg (`d` its size) that decodes to
    `(S, O)`, `(Lr, oLr)` an address of the other free legs.  The contracted axes renumbered by `sh k`
    are again contractible axes with the same tables, the two free addresses lie in the free-leg table
    boxes, every stored sector of the fused array has the contracted sub-sector of a stored sector of
    `a`, and the two arrays hold the same elements along the contracted box. -/
structure LeadGeom [Zero R] [Neg R] (a : Arr R) (xa : List Nat) (k : Nat) (c0 : Charge) (i0 d : Nat)
    (S : Sector) (O : List Nat) (Lr : Sector) (oLr shpLr shpS : List Nat) : Prop where
  ndimF : (FuseP.fusedArrM a [List.range k]).ndim = 1 + (a.ndim - k)
  nodupF : (xa.map (sh k)).Nodup
  ltF : ∀ x ∈ xa.map (sh k), x < (FuseP.fusedArrM a [List.range k]).ndim
  idxK : permuted (FuseP.fusedArrM a [List.range k]).indices (xa.map (sh k)) = permuted a.indices xa
  keysF : ∀ sF ∈ (FuseP.fusedArrM a [List.range k]).sectors, permuted sF (xa.map (sh k)) ∈ contractedKeys a xa
  shapeLF : Arr.blockShape? (permuted (FuseP.fusedArrM a [List.range k]).indices (freeAxes (FuseP.fusedArrM a [List.range k]).ndim (xa.map (sh k)))) (c0 :: Lr)
      = some (d :: shpLr)
  boxLF : inBox (d :: shpLr) (i0 :: oLr) = true
  shapeL : Arr.blockShape? (permuted a.indices (freeAxes a.ndim xa)) (S ++ Lr) = some (shpS ++ shpLr)
  boxL : inBox (shpS ++ shpLr) (O ++ oLr) = true
  lenS : S.length = k
  lenLr : Lr.length = (freeTail a.ndim k xa).length
  elem : ∀ {K : Sector} {shpK kk : List Nat},
      Arr.blockShape? (permuted a.indices xa) K = some shpK → inBox shpK kk = true →
      (FuseP.fusedArrM a [List.range k]).elem (mergeSec (FuseP.fusedArrM a [List.range k]).ndim (xa.map (sh k)) K (c0 :: Lr))
          (mergeIdx 0 (FuseP.fusedArrM a [List.range k]).ndim (xa.map (sh k)) (freeAxes (FuseP.fusedArrM a [List.range k]).ndim (xa.map (sh k))) kk (i0 :: oLr))
        = a.elem (mergeSec a.ndim xa K (S ++ Lr)) (mergeIdx 0 a.ndim xa (freeAxes a.ndim xa) kk (O ++ oLr))

theorem lead_geom [Zero R] [Neg R] (a : Arr R) (xa : List Nat) (k : Nat)
    (ha : a.validB = true) (hpa : a.phases = []) (hvF : (FuseP.fusedArrM a [List.range k]).validB = true)
    (hnA : xa.Nodup) (hA : ∀ x ∈ xa, x < a.ndim)
    (hk1 : 1 ≤ k) (hk : k ≤ a.ndim) (hxa : ∀ x ∈ xa, k ≤ x)
    {c0 : Charge} {i0 d : Nat} {S : Sector} {O : List Nat}
    (hdec : decAx a [List.range k] 0 c0 i0 = some (S, O))
    (hz : (FuseP.ixM a [List.range k] 0).sizeOf? c0 = some d) (hi : i0 < d)
    {Lr : Sector} {oLr shpLr : List Nat}
    (hLr : Arr.blockShape? (permuted a.indices (freeTail a.ndim k xa)) Lr = some shpLr)
    (hbLr : inBox shpLr oLr = true) :
    ∃ shpS, LeadGeom a xa k c0 i0 d S O Lr oLr shpLr shpS := by
  have h := lead_oneOk (X := a) hk1 hk
  have hva := FuseP.validArr_of_validB ha
  have ean : a.indices.length = a.ndim := rfl
  have nM := lead_ndimM (X := a) hk1 hk
  have nF : (FuseP.fusedArrM a [List.range k]).ndim = 1 + (a.ndim - k) := (one_ndim h).trans nM
  have eSh : xa.map (shiftAxes a (List.range k)) = xa.map (sh k) :=
    List.map_congr_left fun x hx => shiftAxes_lead hk1 hk (hxa x hx) (hA x hx)
  have iF : (FuseP.fusedArrM a [List.range k]).indices
      = FuseP.ixM a [List.range k] 0 :: a.indices.drop k := lead_newIdx hk1 hk
  obtain ⟨shpS, hshpS, hboxS⟩ := decAx_facts hva h.groupsOk (g := 0) rfl hdec hz hi
  have hpk : (permuted a.indices (List.range k)).length = k := by
    rw [ValidP.permuted_range_take, List.length_take, ean]; omega
  have hSl : S.length = k := by rw [(blockShape?_length hshpS).1, hpk]
  have hOl : O.length = k := by rw [inBox_length hboxS, (blockShape?_length hshpS).2, hpk]
  have hFTlt : ∀ x ∈ freeTail a.ndim k xa, x < a.indices.length := fun x hx => (mem_freeTail hx).2.1
  have hLrl : Lr.length = (freeTail a.ndim k xa).length := by
    rw [(blockShape?_length hLr).1, permuted_length _ _ hFTlt]
  have hoLrl : oLr.length = (freeTail a.ndim k xa).length := by
    rw [inBox_length hbLr, (blockShape?_length hLr).2, permuted_length _ _ hFTlt]
  have hL : Arr.blockShape? (permuted a.indices (freeAxes a.ndim xa)) (S ++ Lr) = some (shpS ++ shpLr) := by
    rw [freeAxes_lead a.ndim k xa hk hxa, permuted_append]
    exact blockShape?_append hshpS hLr
  have hbL : inBox (shpS ++ shpLr) (O ++ oLr) = true := by
    rw [inBox_append (inBox_length hboxS), hboxS, hbLr]; rfl
  have hLF : Arr.blockShape? (permuted (FuseP.fusedArrM a [List.range k]).indices
      (freeAxes (1 + (a.ndim - k)) (xa.map (sh k)))) (c0 :: Lr) = some (d :: shpLr) := by
    rw [freeAxes_shift a.ndim k xa hk1 hk hxa, iF, permuted_zero_cons,
      permuted_cons_drop_shift _ a.indices k hk1 _ (fun x hx => (mem_freeTail hx).1),
      Arr.blockShape?_cons, hz, hLr]; rfl
  have hbLF : inBox (d :: shpLr) (i0 :: oLr) = true := by simp [inBox, hi, hbLr]
  -- full-length addresses with these free parts (the contracted slots are never read)
  obtain ⟨m1, m2, _⟩ := merge_lead ((0, 0) : Charge) a.ndim k xa hk1 hk hnA hA hxa
    (List.replicate xa.length (0, 0)) List.length_replicate c0 S Lr hSl hLrl
  obtain ⟨o1, o2, _⟩ := merge_lead (0 : Nat) a.ndim k xa hk1 hk hnA hA hxa
    (List.replicate xa.length 0) List.length_replicate i0 O oLr hOl hoLrl
  generalize hM : mergeIdx ((0, 0) : Charge) a.ndim xa (freeAxes a.ndim xa) (List.replicate xa.length (0, 0))
    (S ++ Lr) = M at m1 m2
  generalize hMO : mergeIdx (0 : Nat) a.ndim xa (freeAxes a.ndim xa) (List.replicate xa.length 0)
    (O ++ oLr) = MO at o1 o2
  have hMl : M.length = a.ndim := by rw [← hM]; exact mergeIdx_length _ _ _ _ _ _
  have hMOl : MO.length = a.ndim := by rw [← hMO]; exact mergeIdx_length _ _ _ _ _ _
  have hLl : (S ++ Lr).length = (freeAxes a.ndim xa).length := by
    rw [freeAxes_lead a.ndim k xa hk hxa, List.length_append, List.length_append, hSl, hLrl, List.length_range]
  have hoLl : (O ++ oLr).length = (freeAxes a.ndim xa).length := by
    rw [freeAxes_lead a.ndim k xa hk hxa, List.length_append, List.length_append, hOl, hoLrl, List.length_range]
  have hLFl : (c0 :: Lr).length = (freeAxes (1 + (a.ndim - k)) (xa.map (sh k))).length := by
    rw [freeAxes_shift a.ndim k xa hk1 hk hxa, List.length_cons, List.length_cons, List.length_map, hLrl]
  have hoLFl : (i0 :: oLr).length = (freeAxes (1 + (a.ndim - k)) (xa.map (sh k))).length := by
    rw [freeAxes_shift a.ndim k xa hk1 hk hxa, List.length_cons, List.length_cons, List.length_map, hoLrl]
  have fr : ∀ y ∈ freeAxes a.ndim xa, y ∉ xa := fun _ hx => (mem_freeAxes.mp hx).2
  have fr' : ∀ y ∈ freeAxes (1 + (a.ndim - k)) (xa.map (sh k)), y ∉ xa.map (sh k) :=
    fun _ hx => (mem_freeAxes.mp hx).2
  have pF : permuted M (freeAxes a.ndim xa) = S ++ Lr := by
    rw [← hM]; exact permuted_mergeIdx_free _ (freeAxes_nodup _ _) mem_freeAxes_lt fr hLl
  have pFO : permuted MO (freeAxes a.ndim xa) = O ++ oLr := by
    rw [← hMO]; exact permuted_mergeIdx_free _ (freeAxes_nodup _ _) mem_freeAxes_lt fr hoLl
  have pF' : permuted (c0 :: M.drop k) (freeAxes (1 + (a.ndim - k)) (xa.map (sh k))) = c0 :: Lr := by
    rw [← m2]; exact permuted_mergeIdx_free _ (freeAxes_nodup _ _) mem_freeAxes_lt fr' hLFl
  have pFO' : permuted (i0 :: MO.drop k) (freeAxes (1 + (a.ndim - k)) (xa.map (sh k))) = i0 :: oLr := by
    rw [← o2]; exact permuted_mergeIdx_free _ (freeAxes_nodup _ _) mem_freeAxes_lt fr' hoLFl
  have hdl : (M.drop k).length = a.ndim - k := by rw [List.length_drop, hMl]
  have hdlO : (MO.drop k).length = a.ndim - k := by rw [List.length_drop, hMOl]
  rw [← nF, ← eSh] at hLF pF' pFO'
  have hD := Decodes.lead hk1 hk hdec hSl hOl hdl hdlO
  rw [← m1, ← o1] at hD
  obtain ⟨g1, g2, g3, g4, g5⟩ := group_geom a (List.range k) xa ha hpa hvF h
    (fun x hx hm => by have := hxa x hx; have := List.mem_range.mp hm; omega) hnA hA
    (by rw [nM, List.length_cons, hdl]; omega) (by rw [nM, List.length_cons, hdlO]; omega) hMl hMOl
    (by rw [pF']; exact hLF) (by rw [pFO']; exact hbLF) hD
  rw [pF', pFO', pF, pFO] at g5
  rw [eSh] at g1 g2 g3 g4 g5 hLF
  exact ⟨shpS, nF, g1, g2, g3, g4, hLF, hbLF, hL, hbL, hSl, hLrl, g5⟩

/-- **fusing the leading free legs of the left operand commutes with the contraction** (abelian;
    no alignment, no guard on the contracted legs beyond equal numbers).  `a`'s axes `0 … k-1` are
    free (every contracted axis is `≥ k`).  The contraction of `fuse(a, [0 … k-1])` with `b`, at the
    address `(c0 :: Lr ++ Rs, i0 :: oLr ++ oR)`, is the plain contraction at
    `(S ++ Lr ++ Rs, O ++ oLr ++ oR)`, where `(S, O)` is what the fused index's own table decodes
    `(c0, i0)` to. -/
theorem lead_commute [AddCommMonoid R] [Mul R] [Neg R]
    (hz1 : ∀ x : R, 0 * x = 0) (hz2 : ∀ x : R, x * 0 = 0) (a b : Arr R) (xa xb : List Nat) (k : Nat)
    (ha : a.validB = true) (hb : b.validB = true) (hpa : a.phases = []) (hpb : b.phases = [])
    (hvF : (FuseP.fusedArrM a [List.range k]).validB = true)
    (hnA : xa.Nodup) (hnB : xb.Nodup) (hA : ∀ x ∈ xa, x < a.ndim) (hB : ∀ x ∈ xb, x < b.ndim)
    (hlen : xa.length = xb.length) (hk1 : 1 ≤ k) (hk : k ≤ a.ndim) (hxa : ∀ x ∈ xa, k ≤ x)
    {c0 : Charge} {i0 d : Nat} {S : Sector} {O : List Nat}
    (hdec : decAx a [List.range k] 0 c0 i0 = some (S, O))
    (hz : (FuseP.ixM a [List.range k] 0).sizeOf? c0 = some d) (hi : i0 < d)
    {Lr Rs : Sector} {oLr oR shpLr shpR : List Nat}
    (hLr : Arr.blockShape? (permuted a.indices (freeTail a.ndim k xa)) Lr = some shpLr)
    (hbLr : inBox shpLr oLr = true)
    (hR : Arr.blockShape? (permuted b.indices (freeAxes b.ndim xb)) Rs = some shpR)
    (hbR : inBox shpR oR = true) :
    (tensordotBlockwise (FuseP.fusedArrM a [List.range k]) b
        (freeAxes (1 + (a.ndim - k)) (xa.map (sh k))) (xa.map (sh k)) xb (freeAxes b.ndim xb)).elem
        ((c0 :: Lr) ++ Rs) ((i0 :: oLr) ++ oR)
      = (tensordotBlockwise a b (freeAxes a.ndim xa) xa xb (freeAxes b.ndim xb)).elem
        ((S ++ Lr) ++ Rs) ((O ++ oLr) ++ oR) := by
  obtain ⟨shpS, G⟩ := lead_geom a xa k ha hpa hvF hnA hA hk1 hk hxa hdec hz hi hLr hbLr
  rw [← G.ndimF]
  exact tdot_elem_congr_left hz1 hz2 (FuseP.fusedArrM a [List.range k]) a b _ xa xb hpa hpa hpb
    (Arr.allDistinct_of_validB hvF) (Arr.allDistinct_of_validB ha) (Arr.allDistinct_of_validB hb)
    (Arr.shapesOk_of_validB hvF) (Arr.shapesOk_of_validB ha) (Arr.shapesOk_of_validB hb) G.nodupF G.ltF
    hnA hA hnB hB (List.length_map _) hlen G.idxK G.keysF G.shapeLF G.boxLF G.shapeL G.boxL hR hbR G.elem

theorem address_split {X Y : List Index} {rest : Sector} {shp orest : List Nat}
    (hshp : Arr.blockShape? (X ++ Y) rest = some shp) (hbox : inBox shp orest = true) :
    ∃ (sx sy : Sector) (ox oy p q : List Nat), rest = sx ++ sy ∧ orest = ox ++ oy
      ∧ Arr.blockShape? X sx = some p ∧ inBox p ox = true
      ∧ Arr.blockShape? Y sy = some q ∧ inBox q oy = true := by
  have hrl : rest.length = X.length + Y.length := by
    rw [(blockShape?_length hshp).1, List.length_append]
  rw [← List.take_append_drop X.length rest] at hshp
  obtain ⟨p, q, rfl, hp, hq⟩ := blockShape?_split (by rw [List.length_take]; omega) hshp
  have hpl : p.length = X.length := (blockShape?_length hp).2
  have hol : orest.length = p.length + q.length := by rw [inBox_length hbox, List.length_append]
  rw [← List.take_append_drop p.length orest, inBox_append (by rw [List.length_take]; omega)] at hbox
  simp only [Bool.and_eq_true] at hbox
  exact ⟨_, _, _, _, p, q, (List.take_append_drop _ _).symm, (List.take_append_drop _ _).symm,
    hp, hbox.1, hq, hbox.2⟩

/-- **fusing the leading free legs of the left operand BEFORE the contraction = fusing the leading
    legs of the result AFTERWARDS**, at decoded addresses (abelian, unaligned operands). -/
theorem lead_commute_result [AddCommMonoid R] [Mul R] [Neg R]
    (hz1 : ∀ x : R, 0 * x = 0) (hz2 : ∀ x : R, x * 0 = 0) (a b : Arr R) (xa xb : List Nat) (k : Nat)
    (ha : a.validB = true) (hb : b.validB = true) (hfa : a.fermi = false) (hfb : b.fermi = false)
    (hsym : a.sym = b.sym) (hopp : ValidP.oppositeDualsB a b xa xb = true)
    (hnA : xa.Nodup) (hnB : xb.Nodup) (hA : ∀ x ∈ xa, x < a.ndim) (hB : ∀ x ∈ xb, x < b.ndim)
    (hk1 : 1 ≤ k) (hk : k ≤ a.ndim) (hxa : ∀ x ∈ xa, k ≤ x) :
    (cPlain a b xa xb).validB = true ∧ k ≤ (cPlain a b xa xb).ndim
    ∧ ∀ (c0 c2 : Charge) (i0 d0 i2 d2 : Nat) (S rest : Sector) (O orest shp : List Nat),
        decAx a [List.range k] 0 c0 i0 = some (S, O) →
        (FuseP.ixM a [List.range k] 0).sizeOf? c0 = some d0 → i0 < d0 →
        decAx (cPlain a b xa xb) [List.range k] 0 c2 i2 = some (S, O) →
        (FuseP.ixM (cPlain a b xa xb) [List.range k] 0).sizeOf? c2 = some d2 → i2 < d2 →
        Arr.blockShape? ((cPlain a b xa xb).indices.drop k) rest = some shp → inBox shp orest = true →
        (tensordotBlockwise (FuseP.fusedArrM a [List.range k]) b
            (freeAxes (1 + (a.ndim - k)) (xa.map (sh k))) (xa.map (sh k)) xb (freeAxes b.ndim xb)).elem
            (c0 :: rest) (i0 :: orest)
          = (cPlain a b xa xb).elem (S ++ rest) (O ++ orest)
        ∧ (FuseP.fusedArrM (cPlain a b xa xb) [List.range k]).elem (c2 :: rest) (i2 :: orest)
          = (cPlain a b xa xb).elem (S ++ rest) (O ++ orest) := by
  have ean : a.indices.length = a.ndim := rfl
  have ebn : b.indices.length = b.ndim := rfl
  have hlen : xa.length = xb.length := by
    exact (ValidP.oppositeDualsB_iff.mp hopp).1
  have hvc : (cPlain a b xa xb).validB = true := by
    have := ValidP.tensordotBlockwise_valid a b xa xb ((ValidP.validB_iff _).mp ha)
      ((ValidP.validB_iff _).mp hb) hsym hfa hopp hnA hnB hA hB
    rw [without_range, without_range] at this
    exact (ValidP.validB_iff _).mpr this
  have hfc : (cPlain a b xa xb).fermi = false := (tensordotBlockwise_fields a b _ xa xb _).2.1.trans hfa
  have hpc : (cPlain a b xa xb).phases = [] := Arr.phases_nil_of_validB hvc hfc
  have hcn : (cPlain a b xa xb).ndim = (freeAxes a.ndim xa).length + (freeAxes b.ndim xb).length :=
    tensordotBlockwise_rank a b xa xb
  have hFl : (freeAxes a.ndim xa).length = k + (freeTail a.ndim k xa).length := by
    rw [freeAxes_lead a.ndim k xa hk hxa, List.length_append, List.length_range]
  have hkc : k ≤ (cPlain a b xa xb).ndim := by rw [hcn, hFl]; omega
  refine ⟨hvc, hkc, ?_⟩
  intro c0 c2 i0 d0 i2 d2 S rest O orest shp hdec hz hi hdec2 hz2' hi2 hshp hbox
  refine ⟨?_, lead_elem (FuseP.validArr_of_validB hvc) hpc hk1 hkc hdec2 hz2' hi2 hshp hbox⟩
  -- the tail of the result's (pruned) tables is a pruning of the operands' tail tables
  have hpk : (permuted a.indices (List.range k)).length = k := by
    rw [ValidP.permuted_range_take, List.length_take, ean]; omega
  have hT : (without a.indices xa ++ without b.indices xb).drop k
      = permuted a.indices (freeTail a.ndim k xa) ++ permuted b.indices (freeAxes b.ndim xb) := by
    rw [without_eq_permuted_freeAxes, without_eq_permuted_freeAxes, ean, ebn,
      freeAxes_lead a.ndim k xa hk hxa, permuted_append, List.append_assoc]
    exact List.drop_left' hpk
  have hfr : List.Forall₂ SizeLe ((cPlain a b xa xb).indices.drop k)
      (permuted a.indices (freeTail a.ndim k xa) ++ permuted b.indices (freeAxes b.ndim xb)) := by
    rw [← hT]
    have : (cPlain a b xa xb).indices
        = dropUnused (without a.indices xa ++ without b.indices xb) (cPlain a b xa xb).sectors :=
      tensordotBlockwise_indices a b _ xa xb _
    rw [this]
    exact List.forall₂_drop k (dropUnused_sizeLe _ _)
  obtain ⟨Lr, Rs, oLr, oR, shpLr, shpR, rfl, rfl, hLr, hbLr, hR, hbR⟩ := address_split (blockShape?_weaken hfr rest shp hshp) hbox
  have := lead_commute hz1 hz2 a b xa xb k ha hb (Arr.phases_nil_of_validB ha hfa) (Arr.phases_nil_of_validB hb hfb)
    (fused_lead_validB ha hfa hk1 hk) hnA hnB hA hB hlen hk1 hk hxa hdec hz hi hLr hbLr hR hbR
  rw [List.cons_append, List.cons_append, List.append_assoc, List.append_assoc] at this
  exact this

end TdotP
end SymmModel
