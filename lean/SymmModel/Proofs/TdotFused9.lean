/-
  SymmModel.Proofs.TdotFused9 — operands of any kind whose pending signs are synced (`phases = []`:
  what `tensordot_fermionic` hands to the kernel after `phase_sync`): their abelianised copies are
  valid; "same value view" (`SameView`); the case that no sector aligns.  Namespace `SymmModel.TdotP`.
-/
import SymmModel.Proofs.TdotFused8

namespace SymmModel
namespace TdotP
variable {R : Type}

theorem ab_validB {x : Arr R} (hv : ValidP.Valid x) (hp : x.phases = []) : (ab x).validB = true := by
  refine (ValidP.validB_iff _).mpr (ValidP.Valid.of ⟨hv.idx, hv.chg, hv.nodup, hv.blk⟩ ?_)
  unfold ValidP.SignsOk
  show (if false = true then _ else _)
  simp only [Bool.false_eq_true, if_false]
  exact ⟨hp, rfl⟩

/-- value-view agreement of a contraction result `c` with the blockwise result `bw`: every stored
    entry of `c` is `bw`'s element at that address, so extra blocks are zero -/
structure SameView [Zero R] [Neg R] (c bw : Arr R) : Prop where
  sym : c.sym = bw.sym
  fermi : c.fermi = bw.fermi
  charge : c.charge = bw.charge
  phases : c.phases = bw.phases
  oddpos : c.oddpos = bw.oddpos
  rank : c.indices.length = bw.indices.length
  sectors : ∀ s ∈ bw.sectors, s ∈ c.sectors
  elem : ∀ K V, alookup c.blocks K = some V → ∀ J, inBox V.shape J = true → c.elem K J = bw.elem K J

theorem SameView.refl [Zero R] [Neg R] (c : Arr R) : SameView c c :=
  ⟨rfl, rfl, rfl, rfl, rfl, rfl, fun _ h => h, fun _ _ _ _ _ => rfl⟩

/-- when no sector aligns both strategies give a block-less result: the value views agree
    (no hypothesis on the groups) -/
theorem viaFused_empty_sameView [Zero R] [Add R] [Mul R] [Neg R] (X Y : Arr R) (xa xb : List Nat)
    (hbl : ((dropMisaligned X Y xa xb).1.blocks.isEmpty || (dropMisaligned X Y xa xb).2.blocks.isEmpty) = true) :
    ∃ c, tensordotViaFused X Y (freeAxes X.ndim xa) xa xb (freeAxes Y.ndim xb) = .ok c
      ∧ SameView c (tensordotBlockwise X Y (freeAxes X.ndim xa) xa xb (freeAxes Y.ndim xb))
      ∧ c.sectors.Nodup := by
  obtain ⟨h1, h2, _⟩ := viaFused_empty X Y (freeAxes X.ndim xa) xa xb (freeAxes Y.ndim xb) hbl
  obtain ⟨n1, n2⟩ := dropMisaligned_ndim X Y xa xb
  refine ⟨_, h1, ⟨rfl, rfl, rfl, rfl, rfl, ?_, ?_, ?_⟩, List.nodup_nil⟩
  · show (without (dropMisaligned X Y xa xb).1.indices xa ++ without (dropMisaligned X Y xa xb).2.indices xb).length = _
    rw [tensordotBlockwise_rank, List.length_append, without_length, without_length]
    show (freeAxes (dropMisaligned X Y xa xb).1.ndim xa).length + (freeAxes (dropMisaligned X Y xa xb).2.ndim xb).length = _
    rw [n1, n2]
  · intro s hs
    rw [Arr.sectors, h2] at hs
    simp at hs
  · intro K V hl
    simp [alookup] at hl

end TdotP
end SymmModel
