/-
  SymmModel.Proofs.DenseSum — the summation bridge: a sum over the positions of the dense box of a
  function of the located address is the sum over the sectors of the charge tables and the offsets
  of each sector's box (`DenseP.sum_locateAll`), with the list-sum lemmas it is made of.  Behind
  `sum`, `norm`, `trace`, `einsum` and `tensordot` at dense level (Proofs/DenseMore.lean,
  Proofs/TdotMore.lean, Proofs/Dense5d.lean).

  The list-sum lemmas are at the root, the rest in `SymmModel.DenseP`.
-/
import SymmModel.Proofs.DenseLemmas
import Mathlib.Algebra.BigOperators.Group.List.Basic

namespace SymmModel

section sums
variable {M : Type}

theorem sum_map_flatMap [AddMonoid M] {α β : Type} (l : List α) (f : α → List β) (g : β → M) :
    ((l.flatMap f).map g).sum = (l.map (fun a => ((f a).map g).sum)).sum := by
  induction l with
  | nil => rfl
  | cons a l ih => simp [List.flatMap_cons, List.sum_append, ih]

theorem sum_swap [AddCommMonoid M] {α β : Type} (l1 : List α) (l2 : List β) (f : α → β → M) :
    (l1.map (fun a => (l2.map (fun b => f a b)).sum)).sum
      = (l2.map (fun b => (l1.map (fun a => f a b)).sum)).sum := by
  induction l1 with
  | nil => simp
  | cons a l ih => simp only [List.map_cons, List.sum_cons, ih, List.sum_map_add]

/-- the two sides sum in the same order, so no commutativity is needed -/
theorem sum_locate [AddMonoid M] (cm : List (Charge × Nat)) (F : Option (Charge × Nat) → M) :
    ((List.range (sumN (cm.map (·.2)))).map (fun q => F (Arr.locate cm q))).sum
      = (cm.map (fun cd => ((List.range cd.2).map (fun o => F (some (cd.1, o)))).sum)).sum := by
  induction cm with
  | nil => simp [sumN]
  | cons kd rest ih =>
    obtain ⟨k, d⟩ := kd
    simp only [List.map_cons, sumN, List.sum_cons, List.range_add, List.map_append, List.sum_append,
      List.map_map]
    congr 1
    · apply sum_map_congr
      intro q hq
      have : q < d := List.mem_range.mp hq
      simp [Arr.locate, this]
    · rw [← ih]
      apply sum_map_congr
      intro q _
      have : ¬ (d + q < d) := by omega
      simp [Arr.locate, this]

theorem cartesian_map {α β : Type} (f : α → β) (ls : List (List α)) :
    cartesian (ls.map (List.map f)) = (cartesian ls).map (List.map f) := by
  induction ls with
  | nil => rfl
  | cons l ls ih =>
    simp only [List.map_cons, cartesian, ih, List.flatMap_map, List.map_flatMap, List.map_map]
    rfl

end sums

namespace DenseP

section reindex
variable {M : Type} [AddCommMonoid M]

def tables (idx : List Index) : List (List (Charge × Nat)) := idx.map (fun ix => Index.sortCm ix.cm)

theorem sum_locateAll (idx : List Index) (G : Option (Sector × List Nat) → M) :
    ((allIdx (idx.map Index.sizeTotal)).map (fun p => G (Arr.locateAll idx p))).sum
      = ((cartesian (tables idx)).map (fun e =>
          ((allIdx (e.map (·.2))).map (fun off => G (some (e.map (·.1), off)))).sum)).sum := by
  induction idx generalizing G with
  | nil => simp [allIdx, tables, cartesian]
  | cons ix idx ih =>
    have hsz : ix.sizeTotal = sumN ((Index.sortCm ix.cm).map (·.2)) := by
      rw [sumN_sortCm]; rfl
    simp only [List.map_cons, allIdx, tables, cartesian]
    rw [sum_map_flatMap, sum_map_flatMap]
    simp only [List.map_map, Function.comp_def, Arr.locateAll_cons]
    rw [hsz, sum_locate (Index.sortCm ix.cm)
      (fun x => ((allIdx (idx.map Index.sizeTotal)).map (fun p =>
        G (x.bind (fun co => (Arr.locateAll idx p).map (fun sf => (co.1 :: sf.1, co.2 :: sf.2)))))).sum)]
    apply sum_map_congr
    intro cd _
    simp only [Option.bind_some]
    -- inner sums: apply the induction hypothesis for every offset, then exchange the sums
    have hih : ∀ o, ((allIdx (idx.map Index.sizeTotal)).map (fun p =>
        G ((Arr.locateAll idx p).map (fun sf => (cd.1 :: sf.1, o :: sf.2))))).sum
        = ((cartesian (tables idx)).map (fun e =>
          ((allIdx (e.map (·.2))).map (fun off => G (some (cd.1 :: e.map (·.1), o :: off)))).sum)).sum := by
      intro o
      exact ih (fun x => G (x.map (fun sf => (cd.1 :: sf.1, o :: sf.2))))
    rw [sum_map_congr (fun o _ => hih o), sum_swap]
    apply sum_map_congr
    intro e _
    simp only [List.map_cons, allIdx]
    rw [sum_map_flatMap]
    simp only [List.map_map, Function.comp_def]

end reindex

theorem blockShape?_of_mem_cartesian {idx : List Index}
    (hnd : ∀ ix ∈ idx, (ix.cm.map (·.1)).Nodup) {e : List (Charge × Nat)}
    (he : e ∈ cartesian (tables idx)) :
    Arr.blockShape? idx (e.map (·.1)) = some (e.map (·.2)) := by
  induction idx generalizing e with
  | nil =>
    simp only [tables, List.map_nil, cartesian, List.mem_singleton] at he
    subst he; rfl
  | cons ix idx ih =>
    simp only [tables, List.map_cons, cartesian, List.mem_flatMap, List.mem_map] at he
    obtain ⟨cd, hcd, r, hr, rfl⟩ := he
    simp only [List.map_cons, Arr.blockShape?_cons]
    have h1 : ix.sizeOf? cd.1 = some cd.2 :=
      alookup_of_mem_nodup (hnd ix (by simp)) (mem_sortCm.mp hcd)
    rw [h1, ih (fun ix' h' => hnd ix' (by simp [h'])) hr]
    rfl

theorem mem_cartesian_of_blockShape? {idx : List Index} {s : Sector} {shp : List Nat}
    (h : Arr.blockShape? idx s = some shp) :
    s ∈ cartesian ((tables idx).map (List.map (·.1))) := by
  induction idx generalizing s shp with
  | nil =>
    cases s with
    | nil => simp [tables, cartesian]
    | cons c s => simp [Arr.blockShape?] at h
  | cons ix idx ih =>
    cases s with
    | nil => simp [Arr.blockShape?] at h
    | cons c s =>
      obtain ⟨d, shp', hd, hr, _⟩ := Arr.blockShape?_cons_eq_some.mp h
      simp only [tables, List.map_cons, cartesian, List.mem_flatMap, List.mem_map]
      exact ⟨c, ⟨(c, d), mem_sortCm.mpr (alookup_some_mem hd), rfl⟩, s, ih hr, rfl⟩

end DenseP
end SymmModel
