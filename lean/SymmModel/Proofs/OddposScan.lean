/-
  SymmModel.Proofs.OddposScan — the label algebra, first half: what the scan does.

  `resolve_combined_oddpos` (symmray `fermionic_core.py`; `resolveScan` in Model/Fermi) merges the
  odd-position labels of two operands by a bubble sort with a cursor that steps back after every
  exchange, annihilating a ket and a bra of the same label when they meet.  Read as a rewriting
  system on SIGNED WORDS `(labels, sign)` it has two moves (`LabelAlg.Red`):
    swap   two neighbours with different labels change places, the sign flips;
    kill   a neighbouring conjugate pair (same label, one ket, one bra) is dropped, the sign flips
           iff the bra stands second.
  The scan is one strategy in this system (`LabelAlg.resolveScan_outcome`, the one induction over
  the zipper that says what the scan does; that its fuel suffices is a second one, in Proofs/Oddpos):
  whatever it returns is reached from its input by moves, is `oddLt`-sorted (bras with falling
  labels, then kets with rising labels), and no two NEIGHBOURS of it carry the same label; and the
  error `Err.value` means that a word with the same letter twice in a row was reached.
  It says nothing else about the result: a conjugate pair that never becomes adjacent survives,
  which is why the result of three operands can depend on the bracketing (`[3†], [3], [2]`).
  `mergeOddpos`, the label part of `resolveCombinedOddpos`, is such a reduction of the concatenated
  word, started with the sign for moving the right labels over an odd left operand
  (`mergeOddpos_reds`).  What the moves PRESERVE — and hence when two routes must agree — is
  Proofs/Oddpos.  This module uses no Mathlib, so that the validity proofs can rest on it too.
-/
import SymmModel.Model.Fermi

namespace SymmModel
namespace OddposP

theorem oddLt_irrefl (a : Int × Bool) : oddLt a a = false := by
  obtain ⟨l, d⟩ := a; cases d <;> simp [oddLt]

theorem oddLt_trans {a b c : Int × Bool} (h1 : oddLt a b = true) (h2 : oddLt b c = true) :
    oddLt a c = true := by
  obtain ⟨la, da⟩ := a; obtain ⟨lb, db⟩ := b; obtain ⟨lc, dc⟩ := c
  cases da <;> cases db <;> cases dc <;> simp [oddLt] at h1 h2 ⊢ <;> omega

theorem oddLt_asymm {a b : Int × Bool} (h : oddLt a b = true) : oddLt b a = false := by
  obtain ⟨la, da⟩ := a; obtain ⟨lb, db⟩ := b
  cases da <;> cases db <;> simp [oddLt] at h ⊢ <;> omega

theorem oddLt_total {a b : Int × Bool} (h : a ≠ b) : oddLt a b = true ∨ oddLt b a = true := by
  obtain ⟨la, da⟩ := a; obtain ⟨lb, db⟩ := b
  have : la ≠ lb ∨ da ≠ db := by
    by_cases h1 : la = lb
    · exact .inr (fun h2 => h (by rw [h1, h2]))
    · exact .inl h1
  cases da <;> cases db <;> simp [oddLt] at this ⊢ <;> omega

theorem oddLt_total_of_label {a b : Int × Bool} (h : a.1 ≠ b.1) :
    oddLt a b = true ∨ oddLt b a = true :=
  oddLt_total (fun e => h (by rw [e]))

theorem resolveScan_zero (pre post : List (Int × Bool)) (ph : Int) :
    resolveScan 0 pre post ph = .error Err.other := by
  cases post <;> rfl

theorem resolveScan_nil (f : Nat) (pre : List (Int × Bool)) (ph : Int) :
    resolveScan (f + 1) pre [] ph = .ok (pre.reverse, ph) := rfl

theorem resolveScan_single (f : Nat) (pre : List (Int × Bool)) (a : Int × Bool) (ph : Int) :
    resolveScan (f + 1) pre [a] ph = .ok ((a :: pre).reverse, ph) := rfl

/-- `i = max(0, i - 1)`: the cursor steps back over one element when there is one -/
theorem resolveScan_swap (f : Nat) (pre : List (Int × Bool)) (a b : Int × Bool)
    (rest : List (Int × Bool)) (ph : Int) (h1 : (a.1 == b.1) = false) (h2 : oddLt b a = true) :
    resolveScan (f + 1) pre (a :: b :: rest) ph
      = resolveScan f pre.tail (pre.head?.toList ++ b :: a :: rest) (-ph) := by
  simp only [resolveScan, h1, h2, Bool.false_eq_true, if_false, if_true]
  cases pre <;> rfl

theorem resolveScan_fwd (f : Nat) (pre : List (Int × Bool)) (a b : Int × Bool)
    (rest : List (Int × Bool)) (ph : Int) (h1 : (a.1 == b.1) = false) (h2 : oddLt b a = false) :
    resolveScan (f + 1) pre (a :: b :: rest) ph = resolveScan f (a :: pre) (b :: rest) ph := by
  simp only [resolveScan, h1, h2, Bool.false_eq_true, if_false]

/-- annihilation of an adjacent conjugate pair (same label, opposite dualness): the pair is
    removed, the cursor steps back, and the sign flips exactly when the pair meets as
    ket-then-bra (`b.dual`) -/
theorem resolveScan_annihilate (f : Nat) (pre : List (Int × Bool)) (a b : Int × Bool)
    (rest : List (Int × Bool)) (ph : Int) (h1 : (a.1 == b.1) = true) (h2 : (a.2 != b.2) = true) :
    resolveScan (f + 1) pre (a :: b :: rest) ph
      = resolveScan f pre.tail (pre.head?.toList ++ rest) (if b.2 then -ph else ph) := by
  simp only [resolveScan, h1, h2, if_true]
  cases pre <;> rfl

theorem resolveScan_clash (f : Nat) (pre : List (Int × Bool)) (a b : Int × Bool)
    (rest : List (Int × Bool)) (ph : Int) (h1 : (a.1 == b.1) = true) (h2 : (a.2 != b.2) = false) :
    resolveScan (f + 1) pre (a :: b :: rest) ph = .error Err.value := by
  simp only [resolveScan, h1, h2, if_true, Bool.false_eq_true, if_false]
  rfl

theorem zip_back {α : Type} (pre X : List α) :
    pre.tail.reverse ++ (pre.head?.toList ++ X) = pre.reverse ++ X := by
  cases pre <;> simp

theorem zip_back_length {α : Type} (pre X : List α) :
    (pre.head?.toList ++ X).length ≤ X.length + 1 := by
  cases pre <;> simp

/-- descending w.r.t. `oddLt` (the reversed prefix of the zipper) -/
def Desc (l : List (Int × Bool)) : Prop := l.Pairwise (fun x y => oddLt y x = true)

theorem desc_back (pre X : List (Int × Bool)) (hX : X ≠ []) (h : Desc pre) :
    Desc ((pre.head?.toList ++ X).head?.toList ++ pre.tail) := by
  cases pre with
  | nil =>
    cases X with
    | nil => exact absurd rfl hX
    | cons x X => simp [Desc]
  | cons p pre => simpa using h

end OddposP

namespace LabelAlg
open OddposP

abbrev Lab := Int × Bool

inductive Red : List Lab × Int → List Lab × Int → Prop
  | swap (xs rest : List Lab) (a b : Lab) (s : Int) (h : a.1 ≠ b.1) :
      Red (xs ++ a :: b :: rest, s) (xs ++ b :: a :: rest, -s)
  | kill (xs rest : List Lab) (a b : Lab) (s : Int) (h : a.1 = b.1) (hd : a.2 ≠ b.2) :
      Red (xs ++ a :: b :: rest, s) (xs ++ rest, if b.2 then -s else s)

inductive Reds : List Lab × Int → List Lab × Int → Prop
  | refl (p) : Reds p p
  | head {p q r} : Red p q → Reds q r → Reds p r

/-- neighbours carry different labels -/
def Tight : List Lab → Prop
  | a :: b :: l => a.1 ≠ b.1 ∧ Tight (b :: l)
  | _ => True

/-- what the scan leaves: an `oddLt`-sorted word (bras with falling labels, then kets with rising
    labels) no two neighbours of which carry the same label.  It is said of the reversed word because
    the zipper holds the part before the cursor reversed. -/
def Normal (o : List Lab) : Prop := Desc o.reverse ∧ Tight o.reverse

/-- the zipper at the start: nothing before the cursor -/
theorem desc_start (l : List Lab) : Desc (l.head?.toList ++ []) := by cases l <;> simp [Desc]

theorem tight_start (l : List Lab) : Tight (l.head?.toList ++ []) := by cases l <;> simp [Tight]

theorem Red.ctx {u s u' s'} (h : Red (u, s) (u', s')) (l r : List Lab) (c : Int) :
    Red (l ++ u ++ r, c * s) (l ++ u' ++ r, c * s') := by
  cases h with
  | swap xs rest a b s hab =>
    have := Red.swap (l ++ xs) (rest ++ r) a b (c * s) hab
    simpa [List.append_assoc, Int.mul_neg] using this
  | kill xs rest a b s hab hd =>
    have := Red.kill (l ++ xs) (rest ++ r) a b (c * s) hab hd
    have e : (if b.2 then -(c * s) else c * s) = c * (if b.2 then -s else s) := by
      cases b.2 <;> simp [Int.mul_neg]
    rw [e] at this
    simpa [List.append_assoc] using this

theorem Reds.trans {p q r} (h1 : Reds p q) (h2 : Reds q r) : Reds p r := by
  induction h1 with
  | refl => exact h2
  | head h _ ih => exact .head h (ih h2)

theorem Reds.ctx {p q} (h : Reds p q) (l r : List Lab) (c : Int) :
    Reds (l ++ p.1 ++ r, c * p.2) (l ++ q.1 ++ r, c * q.2) := by
  induction h with
  | refl => exact .refl _
  | head h _ ih => exact .head (h.ctx l r c) ih

theorem Reds.lift {P : List Lab × Int → Prop} (step : ∀ {p q}, Red p q → P p → P q) {p q}
    (h : Reds p q) : P p → P q := by
  induction h with
  | refl => exact id
  | head h _ ih => exact fun hp => ih (step h hp)

theorem Reds.sign {p q} (h : Reds p q) : q.2 = p.2 ∨ q.2 = -p.2 :=
  h.lift (P := fun x => x.2 = p.2 ∨ x.2 = -p.2)
    (fun r e => by
      cases r with
      | swap => rcases e with e | e <;> simp only at e <;> rw [e] <;> simp
      | kill xs rest a b s _ _ => cases b.2 <;> rcases e with e | e <;> simp only at e <;> rw [e] <;> simp)
    (.inl rfl)

theorem Reds.subset {p q} (h : Reds p q) : ∀ x ∈ q.1, x ∈ p.1 :=
  h.lift (P := fun y => ∀ x ∈ y.1, x ∈ p.1)
    (fun r hy x hx => hy x (by
      cases r with
      | swap xs rest a b s _ =>
        simp only [List.mem_append, List.mem_cons] at hx ⊢
        rcases hx with h | h | h | h
        · exact .inl h
        · exact .inr (.inr (.inl h))
        · exact .inr (.inl h)
        · exact .inr (.inr (.inr h))
      | kill xs rest a b s _ _ =>
        simp only [List.mem_append, List.mem_cons] at hx ⊢
        rcases hx with h | h
        · exact .inl h
        · exact .inr (.inr (.inr h))))
    (fun _ h => h)

theorem Reds.length {p q} (h : Reds p q) : q.1.length % 2 = p.1.length % 2 :=
  h.lift (P := fun x => x.1.length % 2 = p.1.length % 2)
    (fun r e => by
      rw [← e]
      cases r with
      | swap => simp
      | kill => simp only [List.length_append, List.length_cons]; omega)
    rfl

/-- what a result of the scan on the signed word `w` says: a list is reached from `w` by moves and is
    `Normal`; `Err.value` (a clash)
    means that a word with the same letter twice in a row is reached; `Err.other` (out of fuel) says
    nothing; no other error occurs -/
def Outcome (w : List Lab × Int) : Except Err (List Lab × Int) → Prop
  | .ok o => Reds w o ∧ Normal o.1
  | .error .value => ∃ xs a rest s, Reds w (xs ++ a :: a :: rest, s)
  | .error .other => True
  | .error _ => False

theorem Outcome.head {w w' : List Lab × Int} (h : Red w w') :
    ∀ {r : Except Err (List Lab × Int)}, Outcome w' r → Outcome w r
  | .ok _, ⟨r, n⟩ => ⟨.head h r, n⟩
  | .error .value, ⟨xs, a, rest, s, r⟩ => ⟨xs, a, rest, s, .head h r⟩
  | .error .key, h | .error .type, h | .error .index, h | .error .notimpl, h | .error .assertion, h
  | .error .attr, h | .error .other, h => h

/-- **the scan is a strategy of reduction** — the one induction over the zipper; the invariant is that
    the part before the cursor (with the letter under it) is descending and tight -/
theorem resolveScan_outcome : ∀ (fuel : Nat) (pre post : List Lab) (ph : Int),
    Desc (post.head?.toList ++ pre) → Tight (post.head?.toList ++ pre) →
    Outcome (pre.reverse ++ post, ph) (resolveScan fuel pre post ph) := by
  intro fuel
  induction fuel with
  | zero => intro pre post ph _ _; rw [resolveScan_zero]; trivial
  | succ f ih =>
    intro pre post ph hD hT
    match post, hD, hT with
    | [], hD, hT =>
      rw [resolveScan_nil]
      exact ⟨by simpa using Reds.refl _, by simpa using hD, by simpa using hT⟩
    | [a], hD, hT =>
      rw [resolveScan_single]
      exact ⟨by simpa using Reds.refl _, by simpa using hD, by simpa using hT⟩
    | a :: b :: rest, hD, hT =>
      have hD' : Desc (a :: pre) := by simpa using hD
      have hT' : Tight (a :: pre) := by simpa using hT
      cases h1 : a.1 == b.1
      · have hne : a.1 ≠ b.1 := by simpa using h1
        cases h2 : oddLt b a
        · -- in order: move on
          rw [resolveScan_fwd f pre a b rest ph h1 h2]
          have hab : oddLt a b = true := by
            rcases oddLt_total_of_label hne with h' | h'
            · exact h'
            · rw [h2] at h'; cases h'
          have hD2 : Desc ((b :: rest).head?.toList ++ a :: pre) := by
            have : Desc (b :: a :: pre) := by
              unfold Desc at hD' ⊢
              rw [List.pairwise_cons]
              refine ⟨?_, hD'⟩
              intro y hy
              rcases List.mem_cons.1 hy with rfl | hy
              · exact hab
              · exact oddLt_trans ((List.pairwise_cons.1 hD').1 y hy) hab
            simpa using this
          have hT2 : Tight ((b :: rest).head?.toList ++ a :: pre) := by
            show Tight (b :: a :: pre)
            exact ⟨fun e => hne e.symm, hT'⟩
          have := ih (a :: pre) (b :: rest) ph hD2 hT2
          simpa using this
        · -- out of order: swap, flip, step back
          rw [resolveScan_swap f pre a b rest ph h1 h2]
          have hD2 := desc_back pre (b :: a :: rest) (by simp) (List.Pairwise.of_cons hD')
          have hT2 : Tight ((pre.head?.toList ++ b :: a :: rest).head?.toList ++ pre.tail) := by
            cases pre with
            | nil => simp [Tight]
            | cons p pre => simpa using hT'.2
          have := ih pre.tail _ (-ph) hD2 hT2
          rw [zip_back] at this
          exact this.head (Red.swap pre.reverse rest a b ph hne)
      · have heq : a.1 = b.1 := by simpa using h1
        cases h2 : a.2 != b.2
        · -- the same letter twice
          rw [resolveScan_clash f pre a b rest ph h1 h2]
          have hab : b = a := (Prod.ext heq (by simpa using h2)).symm
          exact ⟨pre.reverse, a, rest, ph, by rw [hab]; exact Reds.refl _⟩
        · -- a conjugate pair: drop it, step back
          have hd : a.2 ≠ b.2 := by simpa using h2
          rw [resolveScan_annihilate f pre a b rest ph h1 h2]
          have hDp : Desc pre := List.Pairwise.of_cons hD'
          have hD2 : Desc ((pre.head?.toList ++ rest).head?.toList ++ pre.tail) := by
            cases pre with
            | nil => cases rest <;> simp [Desc]
            | cons p pre => simpa using hDp
          have hT2 : Tight ((pre.head?.toList ++ rest).head?.toList ++ pre.tail) := by
            cases pre with
            | nil => cases rest <;> simp [Tight]
            | cons p pre => simpa using hT'.2
          have := ih pre.tail _ (if b.2 then -ph else ph) hD2 hT2
          rw [zip_back] at this
          exact this.head (Red.kill pre.reverse rest a b ph heq hd)

theorem resolveScan_reds (fuel : Nat) (pre post : List Lab) (ph : Int) (out : List Lab) (s : Int)
    (hD : Desc (post.head?.toList ++ pre)) (hT : Tight (post.head?.toList ++ pre))
    (h : resolveScan fuel pre post ph = .ok (out, s)) :
    Reds (pre.reverse ++ post, ph) (out, s) ∧ Normal out := by
  have := resolveScan_outcome fuel pre post ph hD hT
  rw [h] at this
  exact this

end LabelAlg

namespace OddposP

/-- the label part of `resolve_combined_oddpos(left, right, new)`: the extra sign for moving the
    right labels over an odd left operand, then the signed sort -/
def mergeOddpos (pa : Bool) (la lb : List (Int × Bool)) : Except Err (List (Int × Bool) × Int) :=
  let odd := la ++ lb
  resolveScan (odd.length * odd.length + 2 * odd.length + 4) [] odd
    (if pa && lb.length % 2 == 1 then -1 else 1)

theorem resolveCombinedOddpos_eq {R : Type} (left right new : Arr R) :
    resolveCombinedOddpos left right new
      = (mergeOddpos left.parity left.oddpos right.oddpos).map (fun r =>
          { (if r.2 == -1 then new.phaseGlobal else new) with oddpos := r.1 }) := by
  unfold resolveCombinedOddpos mergeOddpos
  cases hl : left.oddpos with
  | nil =>
    cases hr : right.oddpos with
    | nil => simp [resolveScan, Except.map, pure, Except.pure]
    | cons y ys =>
      simp only [List.isEmpty_nil, List.isEmpty_cons, Bool.and_false, Bool.false_eq_true, if_false]
      rfl
  | cons x xs =>
    simp only [List.isEmpty_cons, Bool.false_and, Bool.false_eq_true, if_false]
    rfl

end OddposP

namespace LabelAlg
open OddposP

/-- the sign a merge starts with -/
def eps (p : Bool) (n : Nat) : Int := if p && n % 2 == 1 then -1 else 1

theorem eps_pm (p : Bool) (n : Nat) : eps p n = 1 ∨ eps p n = -1 := by
  unfold eps; split <;> simp

theorem mergeOddpos_reds {p : Bool} {la lb out : List Lab} {s : Int}
    (h : mergeOddpos p la lb = .ok (out, s)) :
    Reds (la ++ lb, eps p lb.length) (out, s) ∧ Normal out := by
  have := resolveScan_reds _ [] (la ++ lb) _ out s (desc_start _) (tight_start _) h
  rw [List.reverse_nil, List.nil_append] at this
  exact this

theorem mergeOddpos_mem {p : Bool} {la lb out : List Lab} {s : Int}
    (h : mergeOddpos p la lb = .ok (out, s)) : ∀ x ∈ out, x ∈ la ∨ x ∈ lb := fun x hx =>
  List.mem_append.mp ((mergeOddpos_reds h).1.subset x hx)

end LabelAlg
end SymmModel
