/-
  SymmModel.Proofs.TwoStepSum — "several pairs at once or one after another" (C04), the sums.  The operand
  address assembled in two steps (first the pairs `xa`, then, inside the free legs, the remaining pairs
  `ya`) is the address assembled at once (`mergeIdx_asm`); hence, for one stored sector pair, Σ over the
  box of the remaining pairs of the contraction over `xa ~ xb` is the contraction over all pairs, and
  regrouping the stored pairs by intermediate sector gives `two_step_core`, with arbitrary signs `σ` (per
  intermediate sector), `w` (per sector pair) and `ph` (global).  Namespace `SymmModel.TwoStepP`.
-/
import SymmModel.Proofs.TwoStepDefs
import SymmModel.Proofs.Assoc3Seg

namespace SymmModel
namespace TwoStepP
open TdotP GradedP Assoc2P Assoc3P
open Lazy (sgnI)
set_option linter.unusedSectionVars false

/-- one operand's part of the intermediate's offset: the free leg `ax ∈ F` receives `t[i]` if it is the
    `i`-th remaining leg `y[i]`, otherwise the output offset `f[j]` of its position `j` in `F'` -/
def asmSide (F y F' : List Nat) (t f : List Nat) : List Nat :=
  F.map (fun ax => match indexOf? y ax with
    | some i => t.getD i 0
    | none => match indexOf? F' ax with
      | some j => f.getD j 0
      | none => 0)

@[simp] theorem asmSide_length (F y F' t f : List Nat) : (asmSide F y F' t f).length = F.length := by
  simp [asmSide]

theorem mergeIdx_asm (n : Nat) (xa ya : List Nat) (k t f : List Nat) (hk : k.length = xa.length) :
    mergeIdx 0 n xa (freeAxes n xa) k (asmSide (freeAxes n xa) ya (freeAxes n (xa ++ ya)) t f)
      = mergeIdx 0 n (xa ++ ya) (freeAxes n (xa ++ ya)) (k ++ t) f := by
  unfold mergeIdx
  apply List.map_congr_left
  intro ax hax
  have hlt : ax < n := List.mem_range.mp hax
  cases h1 : indexOf? xa ax with
  | some j =>
    have hj : j < xa.length := by
      have := indexOf?_eq_some h1
      exact (List.getElem?_eq_some_iff.mp this).1
    rw [indexOf?_append_left xa ya ax j h1]
    show k.getD j 0 = (k ++ t).getD j 0
    rw [List.getD_eq_getElem?_getD, List.getD_eq_getElem?_getD, List.getElem?_append_left (by omega)]
  | none =>
    have hnot : ax ∉ xa := indexOf?_eq_none_iff.mp h1
    have hF : ax ∈ freeAxes n xa := by
      unfold freeAxes
      simp only [List.mem_filter, List.mem_range, Bool.not_eq_true', List.contains_eq_mem,
        decide_eq_false_iff_not]
      exact ⟨hlt, hnot⟩
    obtain ⟨j, hj⟩ : ∃ j, indexOf? (freeAxes n xa) ax = some j := by
      cases h : indexOf? (freeAxes n xa) ax with
      | none => exact absurd hF (indexOf?_eq_none_iff.mp h)
      | some j => exact ⟨j, rfl⟩
    have hget : (freeAxes n xa)[j]? = some ax := indexOf?_eq_some hj
    rw [indexOf?_append_right xa ya ax hnot]
    simp only [hj]
    have e : (asmSide (freeAxes n xa) ya (freeAxes n (xa ++ ya)) t f).getD j 0
        = (match indexOf? ya ax with
          | some i => t.getD i 0
          | none => match indexOf? (freeAxes n (xa ++ ya)) ax with
            | some j => f.getD j 0
            | none => 0) := by
      unfold asmSide
      rw [List.getD_eq_getElem?_getD, List.getElem?_map, hget]
      rfl
    rw [e]
    cases h2 : indexOf? ya ax with
    | some i =>
      show t.getD i 0 = (k ++ t).getD (xa.length + i) 0
      rw [List.getD_eq_getElem?_getD, List.getD_eq_getElem?_getD,
        List.getElem?_append_right (by omega)]
      congr 2
      omega
    | none => rfl

variable {R : Type}

theorem contractTerm_two_step [Zero R] [Neg R] [Mul R] (a b : Arr R) (xa xb ya yb : List Nat)
    (sa sb : Sector) (k t fL fR : List Nat) (hka : k.length = xa.length) (hkb : k.length = xb.length) :
    contractTerm a b xa xb sa sb
        (asmSide (freeAxes a.ndim xa) ya (freeAxes a.ndim (xa ++ ya)) t fL)
        (asmSide (freeAxes b.ndim xb) yb (freeAxes b.ndim (xb ++ yb)) t fR) k
      = contractTerm a b (xa ++ ya) (xb ++ yb) sa sb fL fR (k ++ t) := by
  unfold contractTerm
  rw [mergeIdx_asm a.ndim xa ya k t fL hka, mergeIdx_asm b.ndim xb yb k t fR hkb]

section sums
variable [AddCommMonoid R] [Mul R] [Neg R] [SignRing R]

theorem sum_pairs' {α β : Type} (K : List α) (K' : List β) (G : α × β → R) :
    ((pairs K K').map G).sum = (K.map (fun k => (K'.map (fun k' => G (k, k'))).sum)).sum := by
  unfold pairs
  rw [sum_map_flatMap]
  congr 2
  funext k
  rw [List.map_map]
  rfl

theorem contractPair_two_step (a b : Arr R) (xa xb ya yb : List Nat) (p : Sector × Sector)
    (fL fR : List Nat) (T : List Nat)
    (hT : T = permuted (Arr.blockShapeD a.indices p.1) ya)
    (hxa : ∀ i ∈ xa, i < (Arr.blockShapeD a.indices p.1).length) (hlx : xa.length = xb.length) :
    ((allIdx T).map (fun t => contractPair a b xa xb
        (asmSide (freeAxes a.ndim xa) ya (freeAxes a.ndim (xa ++ ya)) t fL)
        (asmSide (freeAxes b.ndim xb) yb (freeAxes b.ndim (xb ++ yb)) t fR) p)).sum
      = contractPair a b (xa ++ ya) (xb ++ yb) fL fR p := by
  subst hT
  unfold contractPair
  rw [permuted_append, allIdx_append, List.map_map, sum_pairs', sum_swap]
  apply sum_map_congr
  intro k hk
  have hkl : k.length = xa.length := by
    rw [inBox_length (mem_allIdx.mp hk), permuted_length _ _ hxa]
  apply sum_map_congr
  intro t _
  exact contractTerm_two_step a b xa xb ya yb p.1 p.2 k t fL fR hkl (hkl.trans hlx)

/-- **regrouping the stored sector pairs.**  `S`: the intermediate sectors that survive the trace and
    land on `s'` (`hmem`); every stored pair aligned on all legs is aligned on the first ones (`hal`). -/
theorem sum_regroup (a b : Arr R) (S : List Sector) (hS : S.Nodup)
    (hda : a.sectors.Nodup) (hdb : b.sectors.Nodup)
    (l xa xb r l' xa' xb' r' : List Nat) (s' : Sector)
    (hmem : ∀ sa ∈ a.sectors, ∀ sb ∈ b.sectors, permuted sb xb = permuted sa xa →
      ((permuted sa l ++ permuted sb r) ∈ S ↔
        (permuted sb xb' = permuted sa xa' ∧ permuted sa l' ++ permuted sb r' = s')))
    (hal : ∀ sa ∈ a.sectors, ∀ sb ∈ b.sectors, permuted sb xb' = permuted sa xa' →
      permuted sb xb = permuted sa xa)
    (H : Sector × Sector → R) :
    (S.map (fun s => ((storedPairs a b l xa xb r s).map H).sum)).sum
      = ((storedPairs a b l' xa' xb' r' s').map H).sum := by
  rw [← sum_map_flatMap]
  apply List.Perm.sum_eq
  apply List.Perm.map
  rw [List.perm_ext_iff_of_nodup]
  · rintro ⟨sa, sb⟩
    simp only [List.mem_flatMap, mem_storedPairs]
    constructor
    · rintro ⟨s, hs, hA, hB, hx, rfl⟩
      obtain ⟨h1, h2⟩ := (hmem sa hA sb hB hx).mp hs
      exact ⟨hA, hB, h1, h2⟩
    · rintro ⟨hA, hB, h1, h2⟩
      have hx := hal sa hA sb hB h1
      exact ⟨_, (hmem sa hA sb hB hx).mpr ⟨h1, h2⟩, hA, hB, hx, rfl⟩
  · rw [List.nodup_flatMap]
    constructor
    · intro s _
      exact storedPairs_nodup l xa xb r s hda hdb
    · refine List.Pairwise.imp ?_ hS
      intro x y hxy
      simp only [Function.onFun, List.disjoint_left]
      rintro ⟨sa, sb⟩ h1 h2
      exact hxy ((mem_storedPairs.mp h1).2.2.2.symm.trans (mem_storedPairs.mp h2).2.2.2)
  · exact storedPairs_nodup l' xa' xb' r' s' hda hdb

theorem two_step_core (a b : Arr R) (xa xb ya yb : List Nat) (S : List Sector) (s' : Sector)
    (T : Sector → List Nat) (σ : Sector → Int) (ph : Int) (w : Sector × Sector → Int)
    (fL fR : List Nat)
    (hσ : ∀ s, σ s = 1 ∨ σ s = -1) (hph : ph = 1 ∨ ph = -1) (hw : ∀ p, w p = 1 ∨ w p = -1)
    (hS : S.Nodup) (hda : a.sectors.Nodup) (hdb : b.sectors.Nodup)
    (hmem : ∀ sa ∈ a.sectors, ∀ sb ∈ b.sectors, permuted sb xb = permuted sa xa →
      ((permuted sa (freeAxes a.ndim xa) ++ permuted sb (freeAxes b.ndim xb)) ∈ S ↔
        (permuted sb (xb ++ yb) = permuted sa (xa ++ ya)
          ∧ permuted sa (freeAxes a.ndim (xa ++ ya)) ++ permuted sb (freeAxes b.ndim (xb ++ yb)) = s')))
    (hal : ∀ sa ∈ a.sectors, ∀ sb ∈ b.sectors, permuted sb (xb ++ yb) = permuted sa (xa ++ ya) →
      permuted sb xb = permuted sa xa)
    (hT : ∀ s ∈ S, ∀ p ∈ storedPairs a b (freeAxes a.ndim xa) xa xb (freeAxes b.ndim xb) s,
      T s = permuted (Arr.blockShapeD a.indices p.1) ya)
    (hxa : ∀ sa ∈ a.sectors, ∀ i ∈ xa, i < (Arr.blockShapeD a.indices sa).length)
    (hlx : xa.length = xb.length) :
    (S.map (fun s => sgnI (σ s) (((allIdx (T s)).map (fun t =>
        sgnI ph (((storedPairs a b (freeAxes a.ndim xa) xa xb (freeAxes b.ndim xb) s).map (fun p =>
          sgnI (w p) (contractPair a b xa xb
            (asmSide (freeAxes a.ndim xa) ya (freeAxes a.ndim (xa ++ ya)) t fL)
            (asmSide (freeAxes b.ndim xb) yb (freeAxes b.ndim (xb ++ yb)) t fR) p))).sum))).sum))).sum
      = sgnI ph (((storedPairs a b (freeAxes a.ndim (xa ++ ya)) (xa ++ ya) (xb ++ yb)
            (freeAxes b.ndim (xb ++ yb)) s').map (fun p =>
          sgnI (σ (permuted p.1 (freeAxes a.ndim xa) ++ permuted p.2 (freeAxes b.ndim xb)) * w p)
            (contractPair a b (xa ++ ya) (xb ++ yb) fL fR p))).sum) := by
  -- regroup the stored pairs of the one-step contraction by their intermediate sector, then swap the
  -- sum over the box of the remaining pairs inside
  rw [← sum_regroup a b S hS hda hdb _ xa xb _ _ (xa ++ ya) (xb ++ yb) _ s' hmem hal _, ← sgnI_sum ph]
  refine sum_map_congr fun s hs => ?_
  rw [sgnI_sum ph, sgnI_comp (hσ s) hph, Int.mul_comm, ← sgnI_comp hph (hσ s)]
  refine congrArg (sgnI ph) ?_
  rw [sum_swap (allIdx (T s)) (storedPairs a b (freeAxes a.ndim xa) xa xb (freeAxes b.ndim xb) s)
    (fun t p => sgnI (w p) (contractPair a b xa xb
          (asmSide (freeAxes a.ndim xa) ya (freeAxes a.ndim (xa ++ ya)) t fL)
          (asmSide (freeAxes b.ndim xb) yb (freeAxes b.ndim (xb ++ yb)) t fR) p)),
    ← sgnI_sum (σ s)]
  refine sum_map_congr fun p hp => ?_
  rw [sgnI_sum (w p), contractPair_two_step a b xa xb ya yb p fL fR (T s) (hT s hs p hp)
    (hxa p.1 (mem_storedPairs.mp hp).1) hlx, sgnI_comp (hσ s) (hw p),
    (mem_storedPairs.mp hp).2.2.2]

end sums

end TwoStepP
end SymmModel
