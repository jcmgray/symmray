/-
  SymmModel.Proofs.Heap3Value — the denotation `binSem` of the heap program of `_binary_blockwise_op`
  (a fold of dict effects: pop from the copy of the right dict, store under the left key, delete, update)
  IS the value model's `SymmModel.binaryBlockwise` (maps / filters of association lists) whenever that does
  not raise (`binSem_value`; it can raise only for `missing=None`), for dicts with unique keys
  (property C14, link between `Model/Heap.lean` and `Model/Tdot.lean`).
-/
import SymmModel.Proofs.Heap3Prov
import SymmModel.Model.Tdot
import SymmModel.Proofs.BaseAlist
namespace SymmModel.Heap

section
variable {V : Type}

def keysOf (l : SDict V) : List Key := l.map (·.1)

theorem sd_set_mid (A C : SDict V) (k : Key) (v v' : V) (hA : k ∉ keysOf A) :
    SD.set (A ++ (k, v) :: C) k v' = A ++ (k, v') :: C := by
  induction A with
  | nil => simp [SD.set]
  | cons a r ih =>
    obtain ⟨k', w⟩ := a
    simp only [keysOf, List.map_cons, List.mem_cons, not_or] at hA
    have hne : (k' == k) = false := by simp; exact fun e => hA.1 e.symm
    simp only [List.cons_append, SD.set, hne, Bool.false_eq_true, if_false]
    exact congrArg _ (ih hA.2)

theorem sd_pop_not_mem (A : SDict V) (k : Key) (hA : k ∉ keysOf A) : SD.pop A k = A := by
  apply List.filter_eq_self.mpr
  intro e he
  simp only [Bool.not_eq_eq_eq_not, Bool.not_true, beq_eq_false_iff_ne, ne_eq]
  intro h; apply hA; rw [← h]; exact List.mem_map_of_mem he

theorem sd_pop_mid (A C : SDict V) (k : Key) (v : V) (hA : k ∉ keysOf A) (hC : k ∉ keysOf C) :
    SD.pop (A ++ (k, v) :: C) k = A ++ C := by
  have h1 := sd_pop_not_mem A k hA
  have h2 := sd_pop_not_mem C k hC
  simp only [SD.pop] at h1 h2 ⊢
  rw [List.filter_append, List.filter_cons, h1, h2]
  simp

theorem alookup_eq_get? (l : SDict V) (k : Key) : alookup l k = SD.get? l k := by
  induction l with
  | nil => rfl
  | cons e r ih =>
    obtain ⟨k', v⟩ := e
    by_cases h : (k' == k) = true
    · simp [alookup, SD.get?, h]
    · have h' : (k' == k) = false := by simpa using h
      simp only [alookup, SD.get?, List.find?_cons, h', Bool.false_eq_true, if_false]
      simpa [SD.get?] using ih

theorem sd_has_iff (l : SDict V) (k : Key) : SD.has l k = (alookup l k).isSome := by
  induction l with
  | nil => rfl
  | cons e r ih =>
    obtain ⟨k', v⟩ := e
    simp only [SD.has, List.any_cons, alookup] at ih ⊢
    split <;> simp_all

theorem sd_has_mem (l : SDict V) (k : Key) : SD.has l k = true ↔ k ∈ keysOf l := by
  simp [SD.has, keysOf, List.any_eq_true]

theorem sd_set_eq_ainsert (l : SDict V) (k : Key) (v : V) : SD.set l k v = ainsert l k v := by
  induction l with
  | nil => rfl
  | cons e r ih =>
    obtain ⟨k', v'⟩ := e
    simp only [SD.set, ainsert, ih]
    split
    · rename_i h; rw [beq_iff_eq.mp h]
    · rfl

theorem sd_update_append (l src : SDict V) (h : (keysOf (l ++ src)).Nodup) : SD.update l src = l ++ src := by
  simp only [SD.update, sd_set_eq_ainsert]
  exact foldl_ainsert_of_nodup l src h


/-- what the effects of one left entry amount to: the entry is replaced / kept / deleted (`ψ`), the
    temporary dict is transformed by `τ` -/
def GoodStep (G : Key × V → List (SStep V)) (ψ : Key × V → Option (Key × V))
    (τ : Key × V → SDict V → SDict V) (e : Key × V) : Prop :=
  (∀ (A C t : SDict V), e.1 ∉ keysOf A → e.1 ∉ keysOf C →
    (G e).foldl (fun s a => a.run s) (A ++ e :: C, t) = (A ++ (ψ e).toList ++ C, τ e t)) ∧
  (∀ e' ∈ (ψ e).toList, e'.1 = e.1)

theorem pass_fold (G : Key × V → List (SStep V)) (ψ : Key × V → Option (Key × V))
    (τ : Key × V → SDict V → SDict V) :
    ∀ (l pre t : SDict V), (∀ e ∈ l, GoodStep G ψ τ e) → (keysOf (pre ++ l)).Nodup →
      (l.flatMap G).foldl (fun s a => a.run s) (pre ++ l, t) =
        (pre ++ l.filterMap ψ, l.foldl (fun t e => τ e t) t) := by
  intro l
  induction l with
  | nil => intro pre t _ _; simp
  | cons e r ih =>
    intro pre t hg hn
    have he := hg e (List.mem_cons_self ..)
    simp only [keysOf, List.map_append, List.map_cons, List.nodup_append, List.nodup_cons] at hn
    obtain ⟨hpre, ⟨her, hr⟩, hdis⟩ := hn
    have hA : e.1 ∉ keysOf pre := fun h => hdis _ h _ (List.mem_cons_self ..) rfl
    simp only [List.flatMap_cons, List.foldl_append, List.foldl_cons]
    rw [he.1 pre r t hA her]
    have hn' : (keysOf ((pre ++ (ψ e).toList) ++ r)).Nodup := by
      simp only [keysOf, List.map_append, List.nodup_append]
      refine ⟨⟨hpre, ?_, ?_⟩, hr, ?_⟩
      · cases hψ : ψ e with
        | none => simp
        | some e' => simp
      · intro a ha b hb
        simp only [List.mem_map] at hb
        obtain ⟨e', he', rfl⟩ := hb
        rw [he.2 e' he']
        intro h; exact hA (h ▸ ha)
      · intro a ha b hb
        rcases List.mem_append.mp ha with ha | ha
        · exact hdis a ha b (List.mem_cons_of_mem _ hb)
        · obtain ⟨e', he', rfl⟩ := List.mem_map.mp ha
          rw [he.2 e' he']
          intro h; exact her (h ▸ hb)
    rw [ih (pre ++ (ψ e).toList) (τ e t) (fun e' h' => hg e' (List.mem_cons_of_mem _ h')) hn']
    simp only [List.filterMap_cons]
    cases hψ : ψ e <;> simp

end


section
variable {R : Type} (fn : Blk R → Blk R → Blk R) (I : Nat → List (Blk R) → Blk R) (d : Blk R)

/-- what the heap program stores for a left entry that has a right partner -/
def comb (os : SDict (Blk R)) (e : Key × Blk R) : Key × Blk R := (e.1, I tFn [e.2, (SD.get? os e.1).getD d])

theorem comb_eq (hI : ∀ a b, I tFn [a, b] = fn a b) (os : SDict (Blk R)) (e : Key × Blk R) {b : Blk R}
    (h : alookup os e.1 = some b) : comb I d os e = (e.1, fn e.2 b) := by
  simp [comb, ← alookup_eq_get?, h, hI]

theorem good_both (os : SDict (Blk R)) (e : Key × Blk R) :
    GoodStep (fun e => [SStep.tpop e.1, .set e.1 (comb I d os e).2]) (fun e => some (comb I d os e))
      (fun e t => SD.pop t e.1) e := by
  refine ⟨?_, by intro e' he'; simp at he'; subst he'; rfl⟩
  intro A C t hA _
  obtain ⟨k, v⟩ := e
  simp only [List.foldl_cons, List.foldl_nil, SStep.run, sd_set_mid A C k v _ hA]
  simp [comb]

theorem binPass (os : SDict (Blk R)) (miss : Key × Blk R → List (SStep (Blk R)))
    (ψm : Key × Blk R → Option (Key × Blk R)) (hm : ∀ e, GoodStep miss ψm (fun _ t => t) e)
    (xs : SDict (Blk R)) (hx : (keysOf xs).Nodup) :
    (xs.flatMap fun e => if SD.has os e.1 then
        [SStep.tpop e.1, .set e.1 (I tFn [e.2, (SD.get? os e.1).getD d])] else miss e).foldl
      (fun s a => a.run s) (xs, os) =
    (xs.filterMap fun e => if SD.has os e.1 then some (comb I d os e) else ψm e,
     xs.foldl (fun t e => if SD.has os e.1 then SD.pop t e.1 else t) os) := by
  have hgood : ∀ e ∈ xs, GoodStep
      (fun e => if SD.has os e.1 then [SStep.tpop e.1, .set e.1 (I tFn [e.2, (SD.get? os e.1).getD d])] else miss e)
      (fun e => if SD.has os e.1 then some (comb I d os e) else ψm e)
      (fun e t => if SD.has os e.1 then SD.pop t e.1 else t) e := by
    intro e _
    by_cases hh : SD.has os e.1 = true
    · simpa [GoodStep, hh, comb] using good_both I d os e
    · simpa [GoodStep, hh] using hm e
  simpa only [List.nil_append] using pass_fold _ _ _ xs [] os hgood (by simpa using hx)

theorem good_keep (e : Key × Blk R) : GoodStep (fun e => [SStep.set e.1 e.2]) some (fun _ t => t) e := by
  refine ⟨fun A C t hA _ => ?_, by intro e' he'; simp at he'; subst he'; rfl⟩
  obtain ⟨k, v⟩ := e
  simp [SStep.run, sd_set_mid A C k v v hA]

theorem good_drop (e : Key × Blk R) : GoodStep (fun e => [SStep.pop e.1]) (fun _ => none) (fun _ t => t) e := by
  refine ⟨fun A C t hA hC => ?_, by intro e' he'; simp at he'⟩
  obtain ⟨k, v⟩ := e
  simp [SStep.run, sd_pop_mid A C k v hA hC]

theorem comb_model (hI : ∀ a b, I tFn [a, b] = fn a b) (os : SDict (Blk R)) (keep : Key × Blk R → Option (Key × Blk R))
    (e : Key × Blk R) :
    (if SD.has os e.1 then some (comb I d os e) else keep e) =
      match alookup os e.1 with
      | some b => some (e.1, fn e.2 b)
      | none => keep e := by
  rw [sd_has_iff]
  cases hl : alookup os e.1 with
  | none => simp
  | some b => simp [comb_eq fn I d hI os e hl]

theorem binSem_outer (hI : ∀ a b, I tFn [a, b] = fn a b) (xs os : SDict (Blk R))
    (hx : (keysOf xs).Nodup) (ho : (keysOf os).Nodup) :
    binaryBlockwise fn .outer xs os = .ok (binSem I d .outer xs os) := by
  have hpass := binPass I d os _ _ good_keep xs hx
  -- the remaining right blocks: those whose key is not on the left
  have hrest : ∀ (l : SDict (Blk R)) (t : SDict (Blk R)), (∀ e' ∈ t, SD.has os e'.1 = true) →
      l.foldl (fun t e => if SD.has os e.1 then SD.pop t e.1 else t) t =
        t.filter (fun e' => !(SD.has l e'.1)) := by
    intro l
    induction l with
    | nil =>
      intro t _
      simp only [List.foldl_nil, SD.has, List.any_nil, Bool.not_false]
      exact (List.filter_eq_self.mpr (fun _ _ => rfl)).symm
    | cons e r ih =>
      intro t ht
      simp only [List.foldl_cons]
      have hstep : (if SD.has os e.1 then SD.pop t e.1 else t) = t.filter (fun e' => !(e.1 == e'.1)) := by
        by_cases hh : SD.has os e.1 = true
        · simp only [hh, if_true, SD.pop]
          apply List.filter_congr
          intro e' _
          simp [Bool.beq_comm]
        · simp only [hh, Bool.false_eq_true, if_false]
          symm
          apply List.filter_eq_self.mpr
          intro e' he'
          simp only [Bool.not_eq_eq_eq_not, Bool.not_true, beq_eq_false_iff_ne, ne_eq]
          intro h; rw [h] at hh; exact hh (ht e' he')
      rw [ih _ (by rw [hstep]; intro e' he'; exact ht e' (List.mem_filter.mp he').1), hstep,
        List.filter_filter]
      apply List.filter_congr
      intro e' _
      simp [SD.has, Bool.and_comm]
  have hbin : binSem I d .outer xs os =
      SD.update (xs.filterMap fun e => if SD.has os e.1 then some (comb I d os e) else some e)
        (os.filter (fun e' => !(SD.has xs e'.1))) := by
    simp only [binSem, binSSteps, binLoop]
    rw [hpass, hrest xs os fun e' he' => (sd_has_mem os e'.1).mpr (List.mem_map_of_mem he')]
  have hkeys : keysOf (xs.filterMap fun e => if SD.has os e.1 then some (comb I d os e) else some e) =
      keysOf xs := by
    simp only [keysOf, List.map_filterMap]
    rw [← List.filterMap_eq_map]
    apply filterMap_congr_mem
    intro e _
    simp only [comb]
    split <;> rfl
  rw [hbin, sd_update_append]
  · simp only [binaryBlockwise, pure, Except.pure]
    congr 1
    congr 1
    · rw [← List.filterMap_eq_map]
      apply filterMap_congr_mem
      intro e _
      obtain ⟨k, bx⟩ := e
      rw [comb_model fn I d hI os some (k, bx)]
      show some (match alookup os k with | some b => (k, fn bx b) | none => (k, bx)) = _
      cases alookup os k <;> rfl
    · apply List.filter_congr
      intro e _
      obtain ⟨k, b⟩ := e
      simp [sd_has_iff]
  · rw [keysOf, List.map_append, List.nodup_append]
    refine ⟨by rw [← keysOf, hkeys]; exact hx, List.Nodup.sublist (List.Sublist.map _ List.filter_sublist) ho, ?_⟩
    intro k hk k' hk' e
    subst e
    rw [← keysOf, hkeys] at hk
    simp only [List.mem_map, List.mem_filter] at hk'
    obtain ⟨e', ⟨_, hne⟩, rfl⟩ := hk'
    have := (sd_has_mem xs e'.1).mpr hk
    simp [this] at hne

theorem binSem_inner (hI : ∀ a b, I tFn [a, b] = fn a b) (xs os : SDict (Blk R)) (hx : (keysOf xs).Nodup) :
    binaryBlockwise fn .inner xs os = .ok (binSem I d .inner xs os) := by
  have hbin : binSem I d .inner xs os = _ := congrArg Prod.fst (binPass I d os _ _ good_drop xs hx)
  rw [hbin]
  simp only [binaryBlockwise, pure, Except.pure]
  congr 1
  apply filterMap_congr_mem
  intro e _
  obtain ⟨k, bx⟩ := e
  exact (comb_model fn I d hI os (fun _ => none) (k, bx)).symm

/-- `missing=None` (1:1 matching blocks required): whenever the value model does not raise, every left block
    has a partner, and the heap loop and the value model do what they do for `"inner"` -/
theorem binSem_strict (hI : ∀ a b, I tFn [a, b] = fn a b) (xs os : SDict (Blk R)) (hx : (keysOf xs).Nodup)
    {res : List (Key × Blk R)} (h : binaryBlockwise fn .strict xs os = .ok res) :
    binSem I d .strict xs os = res := by
  simp only [binaryBlockwise] at h
  split at h
  · cases h
  · rename_i hall
    split at h
    · cases h
    · simp only [pure, Except.pure, Except.ok.injEq] at h
      have hsome : ∀ e ∈ xs, SD.has os e.1 = true := by
        intro e he
        rw [sd_has_iff]
        simp only [List.any_eq_true, not_exists, not_and, Bool.not_eq_true] at hall
        have := hall e he
        obtain ⟨k, bx⟩ := e
        simpa using this
      have hheap : binSem I d .strict xs os = binSem I d .inner xs os := by
        simp only [binSem, binSSteps, binLoop]
        rw [takeWhile_all _ xs hsome]
        congr 2
        exact flatMap_congr_mem fun e he => by rw [if_pos (hsome e he)]
      have hmodel : binaryBlockwise fn .inner xs os = .ok res := by
        simp only [binaryBlockwise, pure, Except.pure]
        rw [← h, ← List.filterMap_eq_map]
        congr 1
        apply filterMap_congr_mem
        intro e he
        obtain ⟨k, bx⟩ := e
        have := hsome (k, bx) he
        rw [sd_has_iff] at this
        cases hl : alookup os k with
        | none => simp [hl] at this
        | some b => simp [hl]
      rw [hheap]
      exact Except.ok.inj ((binSem_inner fn I d hI xs os hx).symm.trans hmodel)

/-- the heap model's and the value model's names of the three modes -/
def Missing.val : Missing → SymmModel.Missing
  | .strict => .strict
  | .outer => .outer
  | .inner => .inner

theorem binSem_value (hI : ∀ a b, I tFn [a, b] = fn a b) (m : Missing) (xs os : SDict (Blk R))
    (hx : (keysOf xs).Nodup) (ho : (keysOf os).Nodup) {res : List (Key × Blk R)}
    (h : binaryBlockwise fn m.val xs os = .ok res) : binSem I d m xs os = res := by
  cases m with
  | strict => exact binSem_strict fn I d hI xs os hx h
  | outer =>
    have h' : binaryBlockwise fn .outer xs os = .ok res := h
    rw [binSem_outer fn I d hI xs os hx ho] at h'
    exact Except.ok.inj h'
  | inner =>
    have h' : binaryBlockwise fn .inner xs os = .ok res := h
    rw [binSem_inner fn I d hI xs os hx] at h'
    exact Except.ok.inj h'

end

section
variable {V : Type} (I : Nat → List V → V) (d : V)

theorem keysOf_semDict (T : Bufs) (l : Dict) : keysOf (semDict I d T l) = l.map (·.1) := by
  simp [keysOf, semDict, mapV]

theorem psSem_clean (B : Bufs) (c : Content) (h : c.phases.getD [] = []) : psSem I d B c = semDict I d B c.blocks := by
  simp [psSem, psActs, h]

theorem sd_set_keys (l : SDict V) (k : Key) (v : V) (h : k ∈ keysOf l) : keysOf (SD.set l k v) = keysOf l := by
  induction l with
  | nil => simp [keysOf] at h
  | cons e r ih =>
    obtain ⟨k', w⟩ := e
    simp only [SD.set]
    by_cases hk : (k' == k) = true
    · have : k' = k := by simpa using hk
      simp [keysOf, this]
    · have hk' : (k' == k) = false := by simpa using hk
      simp only [hk', Bool.false_eq_true, if_false, keysOf, List.map_cons, List.cons.injEq, true_and]
      simp only [keysOf, List.map_cons, List.mem_cons] at h
      rcases h with h | h
      · exact absurd h.symm (by simpa using hk)
      · exact ih h

/-- `phase_sync` negates blocks in place: the keys and their order do not change -/
theorem keysOf_psSem (B : Bufs) (c : Content) : keysOf (psSem I d B c) = c.blocks.map (·.1) := by
  have key : ∀ (l : List SAct) (s : SDict V × SDict V),
      (∀ a ∈ l, a = .ppop ∨ ∃ k tag args, a = .kern k tag args ∧ k ∈ c.blocks.map (·.1)) →
      keysOf s.1 = c.blocks.map (·.1) →
      keysOf (l.foldl (fun s a => (a.toS I d B).run s) s).1 = c.blocks.map (·.1) := by
    intro l
    induction l with
    | nil => intro s _ hs; exact hs
    | cons a r ih =>
      intro s hl hs
      simp only [List.foldl_cons]
      apply ih _ (fun a' h' => hl a' (List.mem_cons_of_mem _ h'))
      rcases hl a (List.mem_cons_self ..) with rfl | ⟨k, tag, args, rfl, hk⟩
      · exact hs
      · simp only [SAct.toS, SStep.run]
        rw [sd_set_keys _ _ _ (by rw [hs]; exact hk), hs]
  apply key
  · intro a ha
    rcases mem_psActs ha with rfl | ⟨k, b, hb, rfl⟩
    · exact Or.inl rfl
    · exact Or.inr ⟨_, _, _, rfl, dict_get?_key hb⟩
  · exact keysOf_semDict I d B c.blocks

/-- **the body of `FermionicArray._binary_blockwise_op` at the level of values**: the new left block
    dict denotes `binSem` of the SYNCHRONISED denotations of both operands (`psSem`: pending signs
    multiplied in; the identity for an operand without pending signs) -/
theorem bodyF_value (m : Missing) (cx cy : Content) (B : Bufs) (hx : DictOK B.length cx.blocks)
    (hy : DictOK B.length cy.blocks) :
    semDict I d (bodyFPure m cx cy B).2 (bodyFPure m cx cy B).1.blocks =
      binSem I d m (psSem I d B cx) (psSem I d B cy) := by
  obtain ⟨⟨Y1, hY1⟩, ok1, sem1, _⟩ := phaseSync_abs I d B cx [] hx
  simp only [List.append_nil] at hY1 ok1 sem1
  generalize hs1 : S.phaseSync.pure (cx, B) = s1 at *
  by_cases hclean : cy.phases.getD [] = []
  · have hb : bodyFPure m cx cy B = binPure m (s1.1, s1.2) cy.blocks := by
      simp only [bodyFPure, hs1, syncedPure_clean _ hclean]
    have hy1 : DictOK s1.2.length cy.blocks := hy.mono (by rw [hY1]; simp)
    obtain ⟨_, _, sem, _⟩ := binPure_abs I d m s1.1 s1.2 cy.blocks ok1 hy1
    rw [hb, sem, sem1, psSem_clean I d B cy hclean, hY1, semDict_append I d B Y1 hy]
  · obtain ⟨⟨Y2, hY2⟩, ok2, sem2, _⟩ := phaseSync_abs I d B cy Y1 hy
    rw [← hY1] at hY2 ok2 sem2
    generalize hs2 : S.phaseSync.pure (cy, s1.2) = s2 at *
    have hb : bodyFPure m cx cy B = binPure m (s1.1, s2.2) s2.1.blocks := by
      simp only [bodyFPure, hs1, syncedPure_pending _ hclean, hs2]
    have ok1' : DictOK s2.2.length s1.1.blocks := ok1.mono (by rw [hY2]; simp)
    obtain ⟨_, _, sem, _⟩ := binPure_abs I d m s1.1 s2.2 s2.1.blocks ok1' ok2
    rw [hb, sem, sem2, hY2, semDict_append I d s1.2 Y2 ok1, sem1]

end
end SymmModel.Heap
