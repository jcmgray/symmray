/-
  SymmModel.Proofs.LinalgFactors — the two factors of a block-wise decomposition, in closed form,
  and their validity (C11 structure part).

  symmray/linalg.py `qr` (:51) / `qr_fermionic` (:113) and `svd` (:147) / `svd_fermionic` (:201)
  factor every stored block `b` of a matrix `x` with a LAPACK kernel and assemble the results in the
  same way, so the model's `qrA`, `svdA` are `leftF x L`, `rightF x L Rt` for the block maps `L`, `Rt`
  the kernel defines (`qrA_eq`, `svdA_eq`).  Left factor: `x` with every block `b` replaced by `L b`
  and the column index replaced by the bond.  Right factor: one block `Rt b` per block of `x`, on the
  diagonal sector `(c, c)` of its column charge, charge zero, no labels, and for a fermionic input
  whose right-factor bond is dual the sign table `phase_flip(0)` writes (`rightF_phases`).

  Assumed of the kernels here: shapes only — `Kernels.ShapeOk` (LAPACK's reduced shapes, well-formed
  blocks), for a pair of block maps `FacShape L Rt`.  The value contracts (`QRContract`,
  `SVDContract`, `Reproduces`, and per call `EighBlock`, `SolvesOn`, `OrthoBlock`) are hypotheses of
  the reconstruction theorems in Proofs/LinalgRecon.lean and after; the harness checks them
  numerically on the real LAPACK output, nothing proves them.

  `leftLike_valid` / `rightLike_valid` state validity for a left / right factor over a sublist of the
  blocks with any bond table, so that the truncated factors of `svd_truncated`
  (Proofs/LinalgTrunc.lean) are instances too.
-/
import SymmModel.Proofs.LinalgLemmas

namespace SymmModel

variable {R : Type}

/-- SHAPE contract of the per-block kernels (on well-formed input blocks): the returned blocks
    are well-formed and have LAPACK's reduced shapes. -/
structure Kernels.ShapeOk (K : Kernels R) : Prop where
  qr : ∀ b m n, b.shape = [m, n] → b.wf = true →
    (K.qr b).1.shape = [m, min m n] ∧ (K.qr b).1.wf = true
    ∧ (K.qr b).2.shape = [min m n, n] ∧ (K.qr b).2.wf = true
  svd : ∀ b m n, b.shape = [m, n] → b.wf = true →
    (K.svd b).1.shape = [m, min m n] ∧ (K.svd b).1.wf = true
    ∧ (K.svd b).2.1.shape = [min m n] ∧ (K.svd b).2.1.wf = true
    ∧ (K.svd b).2.2.shape = [min m n, n] ∧ (K.svd b).2.2.wf = true
  eigh : ∀ b m, b.shape = [m, m] → b.wf = true →
    (K.eigh b).1.shape = [m] ∧ (K.eigh b).1.wf = true
    ∧ (K.eigh b).2.shape = [m, m] ∧ (K.eigh b).2.wf = true
  solve : ∀ a b m n, a.shape = [m, n] → a.wf = true →
    (K.solve a b).shape = [n] ∧ (K.solve a b).wf = true

namespace LinalgLemmas

theorem shapeOnly_shapeOk [Zero R] : (Kernels.shapeOnly : Kernels R).ShapeOk where
  qr b m n hs _ := by
    simp only [Kernels.shapeOnly, hs, List.getD_cons_zero, List.getD_cons_succ, zeros_shape,
      zeros_wf, and_self]
  svd b m n hs _ := by
    simp only [Kernels.shapeOnly, hs, List.getD_cons_zero, List.getD_cons_succ, zeros_shape,
      zeros_wf, and_self]
  eigh b m hs _ := by
    simp only [Kernels.shapeOnly, hs, List.getD_cons_zero, zeros_shape, zeros_wf, and_self]
  solve a b m n hs _ := by
    simp only [Kernels.shapeOnly, hs, List.getD_cons_zero, List.getD_cons_succ, zeros_shape,
      zeros_wf, and_self]

/-- column charge of a matrix sector -/
def colOf (s : Sector) : Charge := s.getD 1 (0, 0)
def rowOf (s : Sector) : Charge := s.getD 0 (0, 0)

@[simp] theorem colOf_pair (r c : Charge) : colOf [r, c] = c := rfl
@[simp] theorem rowOf_pair (r c : Charge) : rowOf [r, c] = r := rfl

theorem MatBlock.col {a : Arr R} {i0 i1 : Index} {s : Sector} {b : Blk R} {r c : Charge} {m n : Nat}
    (B : MatBlock a i0 i1 s b r c m n) : colOf s = c := by rw [B.hs]; rfl

theorem nodup_map_diag {α : Type} {l : List α} {f : α → Charge} (h : (l.map f).Nodup) :
    (l.map (fun p => ([f p, f p] : Sector))).Nodup := by
  have h' := nodup_map_of_inj _ (fun c : Charge => [c, c]) h (fun a _ b _ e => (List.cons.inj e).1)
  rwa [List.map_map] at h'

theorem blocks_cols_nodup {x : Arr R} (hv : x.validB = true) (h2 : x.ndim = 2) :
    (x.blocks.map (fun p => colOf p.1)).Nodup := by
  have := colCharges_nodup hv h2
  rwa [Arr.sectors, List.map_map] at this

theorem blocks_rows_nodup {x : Arr R} (hv : x.validB = true) (h2 : x.ndim = 2) :
    (x.blocks.map (fun p => rowOf p.1)).Nodup := by
  have := rowCharges_nodup hv h2
  rwa [Arr.sectors, List.map_map] at this

section Factors
variable (x : Arr R) (L Rt : Blk R → Blk R)

/-- bond chargemap before sorting: column charge ↦ number of columns of the left factor block -/
def bondCm : List (Charge × Nat) := x.blocks.map (fun p => (colOf p.1, (L p.2).shape.getD 1 0))

def bondIx : Index := Index.plain (bondCm x L) (x.indices.getD 1 default).dual

/-- the left factor (`Q`, `U`): the input with its blocks replaced and the column index
    replaced by the bond -/
def leftF : Arr R :=
  { x with indices := [x.indices.getD 0 default, bondIx x L],
           blocks := x.blocks.map (fun p => (p.1, L p.2)) }

/-- the right factor (`R`, `VH`) before the fermionic flip -/
def rightF0 : Arr R :=
  { sym := x.sym, fermi := x.fermi, indices := [(bondIx x L).conj, x.indices.getD 1 default],
    charge := x.sym.zero,
    blocks := x.blocks.map (fun p => ([colOf p.1, colOf p.1], Rt p.2)),
    phases := [], oddpos := [] }

def rightF : Arr R :=
  if x.fermi && (bondIx x L).conj.dual then (rightF0 x L Rt).phaseFlip [0] else rightF0 x L Rt

end Factors

theorem colKeys_nodup {x : Arr R} (hv : x.validB = true) (h2 : x.ndim = 2) {β γ : Type}
    (g : Sector × Blk R → γ) (f : Sector × γ → β) :
    (((x.blocks.map (fun p => (p.1, g p))).map (fun q => (q.1.getD 1 (0, 0), f q))).map (·.1)).Nodup := by
  have := colCharges_nodup hv h2
  simpa [Arr.sectors, List.map_map, Function.comp_def] using this

theorem diagKeys_nodup {x : Arr R} (hv : x.validB = true) (h2 : x.ndim = 2) {β γ : Type}
    (g : Sector × Blk R → γ) (f : Sector × γ → β) :
    (((x.blocks.map (fun p => (p.1, g p))).map
        (fun q => ([q.1.getD 1 (0, 0), q.1.getD 1 (0, 0)], f q))).map (·.1)).Nodup := by
  have := colCharges_nodup hv h2
  have h' := nodup_map_of_inj _ (fun c : Charge => [c, c]) this
    (fun a _ b _ e => (List.cons.inj e).1)
  simpa [Arr.sectors, List.map_map, Function.comp_def] using h'

theorem qrA_eq (K : Kernels R) {x : Arr R} (hv : x.validB = true) (h2 : x.ndim = 2) :
    qrA K x = .ok (leftF x (fun b => (K.qr b).1),
                   rightF x (fun b => (K.qr b).1) (fun b => (K.qr b).2)) := by
  unfold qrA
  simp only [h2, bne_self_eq_false, Bool.false_eq_true, if_false]
  rw [adict_of_nodup _ (colKeys_nodup hv h2 (fun p => K.qr p.2) (fun q => q.2.1.shape.getD 1 0)),
    adict_of_nodup _ (diagKeys_nodup hv h2 (fun p => K.qr p.2) (fun q => q.2.2))]
  simp only [pure, Except.pure, List.map_map, Function.comp_def]
  rfl

theorem svdA_eq (K : Kernels R) {x : Arr R} (hv : x.validB = true) (h2 : x.ndim = 2) :
    svdA K x = .ok (leftF x (fun b => (K.svd b).1),
                    ⟨x.blocks.map (fun p => (colOf p.1, (K.svd p.2).2.1))⟩,
                    rightF x (fun b => (K.svd b).1) (fun b => (K.svd b).2.2)) := by
  unfold svdA
  simp only [h2, bne_self_eq_false, Bool.false_eq_true, if_false]
  rw [adict_of_nodup _ (colKeys_nodup hv h2 (fun p => K.svd p.2) (fun q => q.2.1.shape.getD 1 0)),
    adict_of_nodup _ (colKeys_nodup hv h2 (fun p => K.svd p.2) (fun q => q.2.2.1)),
    adict_of_nodup _ (diagKeys_nodup hv h2 (fun p => K.svd p.2) (fun q => q.2.2.2))]
  simp only [pure, Except.pure, List.map_map, Function.comp_def]
  rfl

/-- shape part of a kernel contract, for the pair (left factor, right factor) of a block -/
def FacShape (L Rt : Blk R → Blk R) : Prop :=
  ∀ b m n, b.shape = [m, n] → b.wf = true →
    (L b).shape = [m, min m n] ∧ (L b).wf = true ∧ (Rt b).shape = [min m n, n] ∧ (Rt b).wf = true

theorem isValidSector_congr {a a' : Arr R} (h1 : a.sym = a'.sym) (h2 : a.duals = a'.duals)
    (h3 : a.charge = a'.charge) (s : Sector) : a.isValidSector s = a'.isValidSector s := by
  simp only [Arr.isValidSector, h1, h2, h3]

theorem fermiOk_congr {a a' : Arr R} (h1 : a.sym = a'.sym) (h2 : a.duals = a'.duals)
    (h3 : a.charge = a'.charge) (h4 : a.fermi = a'.fermi) (h5 : a.phases = a'.phases)
    (h6 : a.oddpos = a'.oddpos) : fermiOk a = fermiOk a' := by
  have hn : a.ndim = a'.ndim := by
    have := congrArg List.length h2
    simpa [Arr.duals, Arr.ndim] using this
  have hv : a.isValidSector = a'.isValidSector := funext (isValidSector_congr h1 h2 h3)
  simp only [fermiOk, h4, h5, h6, hn, hv, Arr.parity, h1, h3]

section FactorsValid
variable {x : Arr R} {L Rt : Blk R → Blk R} {i0 i1 : Index}

theorem bondIx_eq (hi : x.indices = [i0, i1]) :
    bondIx x L = Index.mk (Index.sortCm (bondCm x L)) i1.dual none := by
  simp [bondIx, Index.plain, hi]

theorem bondCm_keys_nodup (hv : x.validB = true) (h2 : x.ndim = 2) :
    ((bondCm x L).map (·.1)).Nodup := by
  have := colCharges_nodup hv h2
  simpa [bondCm, Arr.sectors, List.map_map, Function.comp_def, colOf] using this

theorem bondCm_lookup (hv : x.validB = true) (h2 : x.ndim = 2) (hL : FacShape L Rt)
    {s : Sector} {b : Blk R} (hm : (s, b) ∈ x.blocks) {r c : Charge} {m n : Nat}
    (B : MatBlock x i0 i1 s b r c m n) :
    alookup (Index.sortCm (bondCm x L)) c = some (min m n) := by
  rw [alookup_sortCm _ (bondCm_keys_nodup hv h2)]
  apply alookup_of_mem_nodup (bondCm_keys_nodup hv h2)
  simp only [bondCm, List.mem_map]
  refine ⟨(s, b), hm, ?_⟩
  have := (hL b m n B.hshape B.hwf).1
  simp [B.hs, this]

theorem bondIx_wf (hv : x.validB = true) (h2 : x.ndim = 2) (hi : x.indices = [i0, i1])
    (hL : FacShape L Rt) (d : Bool) :
    (Index.mk (Index.sortCm (bondCm x L)) d none).wfB x.sym = true := by
  apply wfB_plain _ _ (sortCm_sorted (bondCm_keys_nodup hv h2))
  intro c k hmem
  have hmem' := (sortCm_perm _).mem_iff.mp hmem
  simp only [bondCm, List.mem_map] at hmem'
  obtain ⟨⟨s, b⟩, hm, e⟩ := hmem'
  obtain ⟨r, c', m, n, B⟩ := mat_block hv hi hm
  have hsh := (hL b m n B.hshape B.hwf).1
  simp only [B.col, hsh, List.getD_cons_succ, List.getD_cons_zero, Prod.mk.injEq] at e
  obtain ⟨rfl, rfl⟩ := e
  exact ⟨by have := B.hm; have := B.hn; omega, B.vc⟩

theorem indices_wf (hv : x.validB = true) (hi : x.indices = [i0, i1]) :
    i0.wfB x.sym = true ∧ i1.wfB x.sym = true := by
  have := Arr.validB_indices hv
  rwa [hi, wfListB_pair] at this

/-- **validity of a left factor over a sublist of the blocks.**  `y` is `x` with the column index
    replaced by a plain index with table `T` (same direction) and one block `blk t` per item `t`
    of `l`, stored at the sector of the block `it t` of `x`; `blk t` has the rows of `it t` and
    `k t` columns, and `T` gives the column charge of `it t` the size `k t`. -/
theorem leftLike_valid {α : Type} (hv : x.validB = true) (hi : x.indices = [i0, i1]) (l : List α)
    (it : α → Sector × Blk R) (blk : α → Blk R) (k : α → Nat) (T : List (Charge × Nat))
    (hsub : (l.map it).Sublist x.blocks)
    (hT : (Index.mk T i1.dual none).wfB x.sym = true)
    (hblk : ∀ t ∈ l, ∀ r c m n, MatBlock x i0 i1 (it t).1 (it t).2 r c m n →
      (blk t).shape = [m, k t] ∧ (blk t).wf = true ∧ alookup T c = some (k t))
    (y : Arr R) (hyI : y.indices = [i0, Index.mk T i1.dual none])
    (hyB : y.blocks = l.map (fun t => ((it t).1, blk t)))
    (hsym : y.sym = x.sym) (hch : y.charge = x.charge) (hfe : y.fermi = x.fermi)
    (hph : y.phases = x.phases) (hod : y.oddpos = x.oddpos) : y.validB = true := by
  obtain ⟨_, hc, hnd, hb, hf⟩ := (validB_iff x).mp hv
  have hduals : y.duals = x.duals := by simp [Arr.duals, hyI, hi]
  refine (validB_iff _).mpr ⟨?_, by rw [hsym, hch]; exact hc, ?_, ?_, ?_⟩
  · rw [hyI, hsym, wfListB_pair]
    exact ⟨(indices_wf hv hi).1, hT⟩
  · have e : y.sectors = ((l.map it).map (·.1)) := by
      simp [Arr.sectors, hyB, List.map_map, Function.comp_def]
    rw [e]
    exact hnd.sublist (hsub.map _)
  · intro s b' hm'
    rw [hyB] at hm'
    obtain ⟨t, ht, e⟩ := List.mem_map.mp hm'
    cases e
    have hm : it t ∈ x.blocks := hsub.subset (List.mem_map.mpr ⟨t, ht, rfl⟩)
    obtain ⟨r, c, m, n, B⟩ := mat_block hv hi (s := (it t).1) (b := (it t).2) hm
    obtain ⟨g1, g2, _, _⟩ := hb (it t).1 (it t).2 hm
    obtain ⟨k1, k2, k3⟩ := hblk t ht r c m n B
    refine ⟨by simpa [Arr.ndim, hyI, hi] using g1, ?_, ?_, k2⟩
    · rw [isValidSector_congr (a := y) (a' := x) hsym hduals hch]; exact g2
    · rw [hyI, B.hs, k1]
      exact (blockShape?_pair _ _ r c _).mpr ⟨m, k t, B.hr, k3, rfl⟩
  · rw [fermiOk_congr (a := y) (a' := x) hsym hduals hch hfe hph hod]; exact hf

theorem leftF_valid (hv : x.validB = true) (h2 : x.ndim = 2) (hi : x.indices = [i0, i1])
    (hL : FacShape L Rt) : (leftF x L).validB = true := by
  apply leftLike_valid hv hi x.blocks id (fun p => L p.2)
    (fun p => min (p.2.shape.getD 0 0) (p.2.shape.getD 1 0)) (Index.sortCm (bondCm x L))
    (by rw [List.map_id]) (bondIx_wf hv h2 hi hL _) _ (leftF x L)
    (by simp [leftF, bondIx_eq hi, hi]) rfl rfl rfl rfl rfl rfl
  intro p hp r c m n B
  have hs : p.2.shape = [m, n] := B.hshape
  have hsh := hL p.2 m n hs B.hwf
  simp only [hs, List.getD_cons_zero, List.getD_cons_succ]
  exact ⟨hsh.1, hsh.2.1, bondCm_lookup hv h2 hL hp B⟩

theorem rightF0_sectors : (rightF0 x L Rt).sectors = x.sectors.map (fun s => [colOf s, colOf s]) := by
  simp [rightF0, Arr.sectors, List.map_map, Function.comp_def]

theorem rightF0_sectors_nodup (hv : x.validB = true) (h2 : x.ndim = 2) :
    (rightF0 x L Rt).sectors.Nodup := by
  rw [rightF0_sectors]
  exact nodup_map_diag (f := colOf) (colCharges_nodup hv h2)

/-- **validity of a right factor over a sublist of the blocks.**  `y` has the symmetry of `x` and
    charge zero, a plain first index with table `T` (direction opposite to the column index of
    `x`) followed by that column index, and one block `blk t` per item `t` of `l`, stored at the
    diagonal sector of the column charge of the block `it t` of `x`; `blk t` has `k t` rows and
    the columns of `it t`, and `T` gives that column charge the size `k t`.  The clause on
    pending signs and labels is a hypothesis. -/
theorem rightLike_valid {α : Type} (hv : x.validB = true) (hi : x.indices = [i0, i1]) (l : List α)
    (it : α → Sector × Blk R) (blk : α → Blk R) (k : α → Nat) (T : List (Charge × Nat))
    (hmem : ∀ t ∈ l, it t ∈ x.blocks)
    (hcol : (l.map (fun t => colOf (it t).1)).Nodup)
    (hT : (Index.mk T (!i1.dual) none).wfB x.sym = true)
    (hblk : ∀ t ∈ l, ∀ r c m n, MatBlock x i0 i1 (it t).1 (it t).2 r c m n →
      (blk t).shape = [k t, n] ∧ (blk t).wf = true ∧ alookup T c = some (k t))
    (y : Arr R) (hyI : y.indices = [Index.mk T (!i1.dual) none, i1])
    (hyB : y.blocks = l.map (fun t => ([colOf (it t).1, colOf (it t).1], blk t)))
    (hsym : y.sym = x.sym) (hch : y.charge = x.sym.zero) (hF : fermiOk y = true) :
    y.validB = true := by
  refine (validB_iff _).mpr ⟨?_, ?_, ?_, ?_, hF⟩
  · rw [hyI, hsym, wfListB_pair]
    exact ⟨hT, (indices_wf hv hi).2⟩
  · rw [hsym, hch]; exact Sym.combine_valid x.sym []
  · have e : y.sectors = (l.map (fun t => colOf (it t).1)).map (fun c => [c, c]) := by
      simp [Arr.sectors, hyB, List.map_map, Function.comp_def]
    rw [e]
    exact nodup_map_of_inj _ _ hcol (fun a _ b _ e => (List.cons.inj e).1)
  · intro s b' hm'
    rw [hyB] at hm'
    obtain ⟨t, ht, e⟩ := List.mem_map.mp hm'
    cases e
    obtain ⟨r, c, m, n, B⟩ := mat_block hv hi (s := (it t).1) (b := (it t).2) (hmem t ht)
    obtain ⟨k1, k2, k3⟩ := hblk t ht r c m n B
    have hc : colOf (it t).1 = c := B.col
    refine ⟨by simp [Arr.ndim, hyI], ?_, ?_, k2⟩
    · simp only [Arr.isValidSector, Arr.sectorCharge, Arr.duals, hyI, hsym, hch, hc, List.map_cons,
        List.map_nil, List.zipWith_cons_cons, List.zipWith_nil_left, beq_iff_eq, dual_mk]
      exact diag_valid x.sym c i1.dual B.vc
    · rw [hyI, hc, k1]
      exact (blockShape?_pair _ _ c c _).mpr ⟨k t, n, k3, B.hc, rfl⟩

theorem rightF0_valid (hv : x.validB = true) (h2 : x.ndim = 2) (hi : x.indices = [i0, i1])
    (hL : FacShape L Rt) : (rightF0 x L Rt).validB = true := by
  have hcol : (x.blocks.map (fun p => colOf (id p).1)).Nodup := blocks_cols_nodup hv h2
  apply rightLike_valid hv hi x.blocks id (fun p => Rt p.2)
    (fun p => min (p.2.shape.getD 0 0) (p.2.shape.getD 1 0)) (Index.sortCm (bondCm x L))
    (fun _ h => h) hcol (bondIx_wf hv h2 hi hL _) _ (rightF0 x L Rt)
    (by simp [rightF0, bondIx_eq hi, hi, Index.conj]) rfl rfl rfl
  · -- no pending signs, no labels, even charge
    simp only [fermiOk, rightF0, List.map_nil, allDistinct, List.all_nil, List.length_nil,
      Arr.parity, List.isEmpty_nil, Bool.and_self]
    rw [Sym.parity_zero]; cases x.fermi <;> decide
  · intro p hp r c m n B
    have hs : p.2.shape = [m, n] := B.hshape
    have hsh := hL p.2 m n hs B.hwf
    simp only [hs, List.getD_cons_zero, List.getD_cons_succ]
    exact ⟨hsh.2.2.1, hsh.2.2.2, bondCm_lookup hv h2 hL hp B⟩

theorem phaseFlip0_valid {a : Arr R} (hv : a.validB = true) (hf : a.fermi = true)
    (hp : a.phases = []) : (a.phaseFlip [0]).validB = true := by
  obtain ⟨h1, h2, h3, h4, h5⟩ := (validB_iff a).mp hv
  obtain ⟨f1, f2, f3, f4, f5, f6⟩ := phaseFlip_fields a [0]
  have hduals : (a.phaseFlip [0]).duals = a.duals := by simp [Arr.duals, f3]
  have hnd : (a.phaseFlip [0]).ndim = a.ndim := by simp [Arr.ndim, f3]
  have hsec : (a.phaseFlip [0]).sectors = a.sectors := by simp [Arr.sectors, f5]
  have hvs : ∀ s, (a.phaseFlip [0]).isValidSector s = a.isValidSector s :=
    isValidSector_congr f1 hduals f4
  refine (validB_iff _).mpr ⟨by rw [f1, f3]; exact h1, by rw [f1, f4]; exact h2,
    by rw [hsec]; exact h3, ?_, ?_⟩
  · intro s b hm
    rw [f5] at hm
    obtain ⟨g1, g2, g3, g4⟩ := h4 s b hm
    exact ⟨by rw [hnd]; exact g1, by rw [hvs]; exact g2, by rw [f3]; exact g3, g4⟩
  · unfold fermiOk at h5 ⊢
    rw [if_pos hf] at h5
    rw [f2, if_pos hf, phaseFlip0_phases a hp h3]
    simp only [Bool.and_eq_true] at h5 ⊢
    refine ⟨⟨?_, ?_⟩, ?_⟩
    · rw [allDistinct_iff_nodup, List.map_map]
      exact (h3.filter _).map (fun _ _ e => e)
    · rw [List.all_eq_true]
      intro p hp'
      obtain ⟨s, hs, rfl⟩ := List.mem_map.mp hp'
      have hs' := (List.mem_filter.mp hs).1
      obtain ⟨⟨_, b⟩, hb, rfl⟩ := List.mem_map.mp hs'
      obtain ⟨g1, g2, _, _⟩ := h4 _ b hb
      simp only [Bool.and_eq_true, Bool.or_eq_true, beq_iff_eq, hnd, hvs]
      exact ⟨⟨g1, g2⟩, Or.inr trivial⟩
    · rw [f6]
      simpa [Arr.parity, f1, f4] using h5.2

theorem rightF_valid (hv : x.validB = true) (h2 : x.ndim = 2) (hi : x.indices = [i0, i1])
    (hL : FacShape L Rt) : (rightF x L Rt).validB = true := by
  unfold rightF
  split
  next h =>
    simp only [Bool.and_eq_true] at h
    exact phaseFlip0_valid (rightF0_valid hv h2 hi hL) h.1 rfl
  next => exact rightF0_valid hv h2 hi hL

end FactorsValid

section FactorsSpec
variable {x : Arr R} {L Rt : Blk R → Blk R} {i0 i1 : Index}

theorem bondCm_eq (hv : x.validB = true) (hi : x.indices = [i0, i1]) (hL : FacShape L Rt) :
    bondCm x L = x.blocks.map
      (fun p => (p.1.getD 1 (0, 0), min (p.2.shape.getD 0 0) (p.2.shape.getD 1 0))) := by
  unfold bondCm
  apply List.map_congr_left
  intro p hp
  obtain ⟨s, b⟩ := p
  obtain ⟨r, c, m, n, B⟩ := mat_block hv hi hp
  simp [colOf, (hL b m n B.hshape B.hwf).1, B.hshape]

/-- the fields of the right factor other than the pending signs (`rightF_phases`) -/
structure RightFields (x : Arr R) (L Rt : Blk R → Blk R) : Prop where
  sym : (rightF x L Rt).sym = x.sym
  fermi : (rightF x L Rt).fermi = x.fermi
  indices : (rightF x L Rt).indices = [(bondIx x L).conj, x.indices.getD 1 default]
  charge : (rightF x L Rt).charge = x.sym.zero
  blocks : (rightF x L Rt).blocks = x.blocks.map (fun p => ([colOf p.1, colOf p.1], Rt p.2))
  oddpos : (rightF x L Rt).oddpos = []

theorem rightF_fields : RightFields x L Rt := by
  have key : SignsOnly (rightF x L Rt) (rightF0 x L Rt) := by
    unfold rightF
    split
    · exact phaseFlip_fields _ _
    · exact ⟨rfl, rfl, rfl, rfl, rfl, rfl⟩
  exact ⟨key.sym, key.fermi, key.indices, key.charge, key.blocks, key.oddpos⟩

/-- pending signs of the right factor: none, except for a fermionic input whose column index is
    not dual (then the bond index of the right factor is dual): `-1` on every diagonal sector
    `(c, c)` with `c` odd -/
theorem rightF_phases (hv : x.validB = true) (h2 : x.ndim = 2) (hi : x.indices = [i0, i1]) :
    (rightF x L Rt).phases =
      if x.fermi && !i1.dual then
        ((x.sectors.map (fun s => [colOf s, colOf s])).filter
          (fun s => x.sym.parity (s.getD 0 (0, 0)))).map (fun s => (s, (-1 : Int)))
      else [] := by
  have hd : (bondIx x L).conj.dual = !i1.dual := by rw [bondIx_eq hi]; simp [Index.conj]
  unfold rightF
  rw [hd]
  split
  · rw [phaseFlip0_phases _ rfl (rightF0_sectors_nodup hv h2), rightF0_sectors]
    rfl
  · rfl

end FactorsSpec

end LinalgLemmas
end SymmModel
