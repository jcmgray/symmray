/-
  SymmModel.Proofs.Assoc2Geom — S7 of property C04 with `A–C` legs (triangles): two-block list
  geometry (contracted axes in BOTH parts of an intermediate result), two-block Koszul signs with
  their cross term, and the remaining Koszul identities for the outer operands.
-/
import SymmModel.Proofs.AssocIdx

namespace SymmModel
namespace Assoc2P
open TdotP GradedP RoutesP KoszulP AssocP

section lists
variable {α : Type}

theorem freeAxes_two (l m : Nat) (p q : List Nat) (hp : ∀ i ∈ p, i < l) :
    freeAxes (l + m) (p ++ q.map (l + ·)) = freeAxes l p ++ (freeAxes m q).map (l + ·) := by
  unfold freeAxes
  rw [List.range_add, List.filter_append, List.filter_map]
  congr 1
  · apply List.filter_congr
    intro x hx
    have := List.mem_range.mp hx
    have : ¬ ∃ a, a ∈ q ∧ l + a = x := by rintro ⟨a, _, e⟩; omega
    simp [this]
  · congr 1
    apply List.filter_congr
    intro x _
    have : l + x ∉ p := fun h => by have := hp _ h; omega
    simp [this]

theorem permuted_two (u v : List α) (p q : List Nat) (hp : ∀ i ∈ p, i < u.length) :
    permuted (u ++ v) (p ++ q.map (u.length + ·)) = permuted u p ++ permuted v q := by
  rw [permuted_append, permuted_append_of_lt u v p hp, permuted_append_map_add]

theorem permuted_two_free (u v : List α) (p q : List Nat) (hp : ∀ i ∈ p, i < u.length) :
    permuted (u ++ v) (freeAxes (u.length + v.length) (p ++ q.map (u.length + ·)))
      = permuted u (freeAxes u.length p) ++ permuted v (freeAxes v.length q) := by
  rw [freeAxes_two _ _ _ _ hp, permuted_two u v _ _ mem_freeAxes_lt]

theorem mergeIdx_two (d : α) (l m : Nat) (p q : List Nat) (k k' f f' : List α)
    (hp : p.Nodup) (hpl : ∀ i ∈ p, i < l) (hq : q.Nodup) (hql : ∀ i ∈ q, i < m)
    (hk : k.length = p.length) (hk' : k'.length = q.length)
    (hf : f.length = (freeAxes l p).length) (hf' : f'.length = (freeAxes m q).length) :
    mergeIdx d (l + m) (p ++ q.map (l + ·)) (freeAxes (l + m) (p ++ q.map (l + ·))) (k ++ k') (f ++ f')
      = mergeIdx d l p (freeAxes l p) k f ++ mergeIdx d m q (freeAxes m q) k' f' := by
  symm
  have h1 : (mergeIdx d l p (freeAxes l p) k f).length = l := mergeIdx_length _ _ _ _ _ _
  have h2 : (mergeIdx d m q (freeAxes m q) k' f').length = m := mergeIdx_length _ _ _ _ _ _
  apply eq_mergeIdx_of_parts
  · rw [List.length_append, h1, h2]
  · intro y hy
    rcases List.mem_append.mp hy with hy | hy
    · have := hpl y hy; omega
    · obtain ⟨z, hz, rfl⟩ := List.mem_map.mp hy
      have := hql z hz; omega
  · have := permuted_two (mergeIdx d l p (freeAxes l p) k f) (mergeIdx d m q (freeAxes m q) k' f') p q
      (by rw [h1]; exact hpl)
    rw [h1] at this
    rw [this, permuted_mergeIdx_axes d hp hpl hk, permuted_mergeIdx_axes d hq hql hk']
  · have := permuted_two_free (mergeIdx d l p (freeAxes l p) k f)
      (mergeIdx d m q (freeAxes m q) k' f') p q (by rw [h1]; exact hpl)
    rw [h1, h2] at this
    rw [this, permuted_mergeIdx_free d (freeAxes_nodup _ _) mem_freeAxes_lt
        (fun x hx => (mem_freeAxes.mp hx).2) hf,
      permuted_mergeIdx_free d (freeAxes_nodup _ _) mem_freeAxes_lt
        (fun x hx => (mem_freeAxes.mp hx).2) hf']

theorem mergeIdx_comm {n : Nat} {ax1 ax2 : List Nat} (h : Mid n ax1 ax2) (d : α) (k1 k2 o : List α)
    (hk1 : k1.length = ax1.length) (hk2 : k2.length = ax2.length)
    (ho : o.length = (freeAxes n (ax1 ++ ax2)).length) :
    mergeIdx d n (ax2 ++ ax1) (freeAxes n (ax2 ++ ax1)) (k2 ++ k1) o
      = mergeIdx d n (ax1 ++ ax2) (freeAxes n (ax1 ++ ax2)) (k1 ++ k2) o := by
  rw [freeM_comm]
  have hl : (mergeIdx d n (ax2 ++ ax1) (freeAxes n (ax1 ++ ax2)) (k2 ++ k1) o).length = n :=
    mergeIdx_length _ _ _ _ _ _
  have hnd : (ax2 ++ ax1).Nodup :=
    List.nodup_append.mpr ⟨h.n2, h.n1, fun x hx y hy e => h.disj y hy (e ▸ hx)⟩
  have hlt : ∀ y ∈ ax2 ++ ax1, y < n := by
    intro y hy
    rcases List.mem_append.mp hy with hy | hy
    · exact h.lt2 y hy
    · exact h.lt1 y hy
  have p1 := permuted_mergeIdx_axes d (free := freeAxes n (ax1 ++ ax2)) (k := k2 ++ k1) (f := o)
    hnd hlt (by rw [List.length_append, List.length_append, hk1, hk2])
  rw [permuted_append] at p1
  obtain ⟨e2, e1⟩ := List.append_inj p1 (by
    rw [permuted_length _ _ (by rw [hl]; exact h.lt2), hk2])
  have p3 := permuted_mergeIdx_free d (axes := ax2 ++ ax1) (k := k2 ++ k1) (f := o)
    (freeAxes_nodup n (ax1 ++ ax2)) mem_freeAxes_lt
    (fun x hx hx' => (mem_freeAxes.mp hx).2 (by
      rcases List.mem_append.mp hx' with h' | h'
      · exact List.mem_append_right _ h'
      · exact List.mem_append_left _ h')) ho
  exact eq_merge3 h d hl e1 e2 p3

end lists

section koszul2

theorem koszul_block_diag (P Q : List Bool) (πP πQ : List Nat) (hP : πP.Perm (List.range P.length))
    (hQ : πQ.Perm (List.range Q.length)) :
    koszul (P ++ Q) (some (πP ++ πQ.map (P.length + ·))) = koszul P (some πP) * koszul Q (some πQ) := by
  have hlP : πP.length = P.length := by simpa using hP.length_eq
  have hp1 : (πP ++ (List.range Q.length).map (P.length + ·)).Perm (List.range (P.length + Q.length)) := by
    rw [List.range_add]; exact List.Perm.append_right _ hP
  have hp2 : (List.range P.length ++ πQ.map (P.length + ·)).Perm (List.range (P.length + Q.length)) := by
    rw [List.range_add]; exact List.Perm.append_left _ (hQ.map _)
  have hc : compose (πP ++ (List.range Q.length).map (P.length + ·))
      (List.range P.length ++ πQ.map (P.length + ·)) = πP ++ πQ.map (P.length + ·) := by
    unfold compose
    have := permuted_append_id_shift πP ((List.range Q.length).map (P.length + ·)) πQ
    rw [hlP] at this
    rw [this, permuted_map, permuted_range_of_lt _ _ (mem_lt_of_perm hQ)]
  have hco := koszul_cocycle' (P ++ Q) _ _ (P.length + Q.length) (by simp) hp1 hp2
  rw [hc] at hco
  rw [hco, koszul_id_block_right P Q πP hP]
  congr 1
  have e : permuted (P ++ Q) (πP ++ (List.range Q.length).map (P.length + ·)) = permuted P πP ++ Q :=
    permuted_append_low_id P Q πP (mem_lt_of_perm hP)
  rw [e]
  have hl : (permuted P πP).length = P.length := by
    rw [permuted_length _ _ (mem_lt_of_perm hP), hlP]
  have := koszul_id_block_left (permuted P πP) Q πQ hQ
  rw [hl] at this
  exact this

theorem oddCount_low (P Q : List Bool) (b : List Nat) (hb : ∀ i ∈ b, i < P.length) :
    oddCount (P ++ Q) b = oddCount P b := by
  unfold oddCount
  congr 1
  apply List.filter_congr
  intro j hj
  exact isOdd_append_left P Q j (hb j hj)

theorem oddCount_shift (P Q : List Bool) (c : List Nat) :
    oddCount (P ++ Q) (c.map (P.length + ·)) = oddCount Q c := by
  unfold oddCount
  rw [List.filter_map, List.length_map]
  congr 1
  apply List.filter_congr
  intro j _
  exact isOdd_append_right P Q j

/-- the `sgn` factor is the sign of moving `b` across `c` -/
theorem koszul_two_cross (P Q : List Bool) (a b c e : List Nat)
    (hP : (a ++ b).Perm (List.range P.length)) (hQ : (c ++ e).Perm (List.range Q.length)) :
    koszul (P ++ Q) (some (a ++ c.map (P.length + ·) ++ (b ++ e.map (P.length + ·))))
      = koszul P (some (a ++ b)) * koszul Q (some (c ++ e)) * sgn (oddCount P b * oddCount Q c) := by
  have hperm : (a ++ b ++ c.map (P.length + ·) ++ e.map (P.length + ·)).Perm
      (List.range (P.length + Q.length)) := by
    rw [List.range_add, List.append_assoc, ← List.map_append]
    exact List.Perm.append hP (hQ.map _)
  have hm := koszul_block_move (P ++ Q) a b (c.map (P.length + ·)) (e.map (P.length + ·))
    (P.length + Q.length) hperm
  have e1 : a ++ c.map (P.length + ·) ++ (b ++ e.map (P.length + ·))
      = a ++ c.map (P.length + ·) ++ b ++ e.map (P.length + ·) := by simp [List.append_assoc]
  have e2 : a ++ b ++ c.map (P.length + ·) ++ e.map (P.length + ·)
      = (a ++ b) ++ (c ++ e).map (P.length + ·) := by simp [List.append_assoc]
  rw [e1, hm, e2, koszul_block_diag P Q _ _ hP hQ,
    oddCount_low P Q b (fun i hi => mem_lt_of_perm hP i (List.mem_append_right _ hi)),
    oddCount_shift]

end koszul2

section mid2
variable {n : Nat} {ax1 ax2 : List Nat} (h : Mid n ax1 ax2)
include h

/-- left operand first contracted on `ax1` (moved last), then inside the result on `ax2` -/
theorem koszul_LL (par : List Bool) (hpar : par.length = n) :
    koszul par (some (freeAxes n ax1 ++ ax1))
        * koszul (permuted par (freeAxes n ax1))
            (some (freeAxes (freeAxes n ax1).length (positions (freeAxes n ax1) ax2)
              ++ positions (freeAxes n ax1) ax2))
      = koszul par (some (freeAxes n (ax1 ++ ax2) ++ ax2 ++ ax1)) := by
  have hq := perm_left h.pos_nodup h.pos_lt
  have := koszul_relist_fst par n hpar _ ax1 _ (perm_left h.n1 h.lt1) hq
  rw [permuted_append, h.free_spec, h.pos_spec] at this
  rw [← this]

/-- right operand first contracted on `ax1` (moved first), then inside the result on `ax2` -/
theorem koszul_RR (par : List Bool) (hpar : par.length = n) :
    koszul par (some (ax1 ++ freeAxes n ax1))
        * koszul (permuted par (freeAxes n ax1))
            (some (positions (freeAxes n ax1) ax2
              ++ freeAxes (freeAxes n ax1).length (positions (freeAxes n ax1) ax2)))
      = koszul par (some (ax1 ++ ax2 ++ freeAxes n (ax1 ++ ax2))) := by
  have hq := perm_right h.pos_nodup h.pos_lt
  have := koszul_relist_snd par n hpar ax1 _ _ (perm_right h.n1 h.lt1) hq
  rw [permuted_append, h.free_spec, h.pos_spec] at this
  rw [← this, List.append_assoc]

theorem perm3 : (freeAxes n (ax1 ++ ax2) ++ ax1 ++ ax2).Perm (List.range n) := by
  have := perm_left (n := n) (ax := ax1 ++ ax2)
    (List.nodup_append.mpr ⟨h.n1, h.n2, fun x hx y hy e => h.disj x hx (e ▸ hy)⟩)
    (by
      intro i hi
      rcases List.mem_append.mp hi with hi | hi
      · exact h.lt1 i hi
      · exact h.lt2 i hi)
  rwa [← List.append_assoc] at this

theorem koszul_swap_last (par : List Bool) :
    koszul par (some (freeAxes n (ax1 ++ ax2) ++ ax2 ++ ax1))
      = koszul par (some (freeAxes n (ax1 ++ ax2) ++ ax1 ++ ax2))
        * sgn (oddCount par ax1 * oddCount par ax2) := by
  have := koszul_block_move par (freeAxes n (ax1 ++ ax2)) ax1 ax2 [] n (by
    rw [List.append_nil]; exact perm3 h)
  simpa using this

theorem koszul_swap_first (par : List Bool) :
    koszul par (some (ax2 ++ ax1 ++ freeAxes n (ax1 ++ ax2)))
      = koszul par (some (ax1 ++ ax2 ++ freeAxes n (ax1 ++ ax2)))
        * sgn (oddCount par ax1 * oddCount par ax2) := by
  have hp : ([] ++ ax1 ++ ax2 ++ freeAxes n (ax1 ++ ax2)).Perm (List.range n) := by
    rw [List.nil_append]
    exact (List.perm_append_comm).trans (by rw [← List.append_assoc]; exact perm3 h)
  have := koszul_block_move par [] ax1 ax2 (freeAxes n (ax1 ++ ax2)) n hp
  simpa using this

end mid2

end Assoc2P
end SymmModel
