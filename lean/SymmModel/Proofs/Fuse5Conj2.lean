/-
  SymmModel.Proofs.Fuse5Conj2 — `conj` commutes with `fuse` (insert strategy, arbitrary groups, any
  depth of previously fused indices): `fuse (conj a) groups = conj (fuse a groups)` exactly —
  conjugated blocks, index tables with every direction flipped (recursively), same extents.
-/
import SymmModel.Proofs.Fuse5Conj1
import SymmModel.Proofs.ValidOps
namespace SymmModel
namespace FuseP
set_option linter.unusedSectionVars false
open SymmModel.LinalgLemmas SymmModel.Lazy

variable {R : Type} [Zero R] [Neg R] [Conj R] [LawfulNegConj R]

theorem conjK_ofFn (s : List Nat) (f : List Nat → R) :
    (Blk.ofFn s f).conjK = Blk.ofFn s (fun i => Conj.conj (f i)) := by
  simp only [Blk.conjK, Blk.map, Blk.ofFn, List.map_toArray, List.map_map, Blk.mk.injEq, Array.mk.injEq,
    List.map_inj_left, Function.comp, implies_true, and_self]

theorem conjK_shape (b : Blk R) : b.conjK.shape = b.shape := rfl

theorem conjK_zeros (s : List Nat) : (Blk.zeros s : Blk R).conjK = Blk.zeros s := by
  unfold Blk.zeros
  rw [conjK_ofFn]
  exact ofFn_congr (fun _ _ => LawfulNegConj.conj_zero)

theorem conjK_transposeK (b : Blk R) (perm : List Nat) : (b.conjK).transposeK perm = (b.transposeK perm).conjK := by
  unfold Blk.transposeK
  rw [conjK_ofFn, conjK_shape]
  exact ofFn_congr (fun i _ => Blk.get_conjK b _)

theorem conjK_reshapeK (b : Blk R) (s : List Nat) : (b.conjK).reshapeK s = (b.reshapeK s).conjK := rfl

theorem conjK_setSliceK (dest src : Blk R) (starts : List Nat) :
    (dest.conjK).setSliceK starts src.conjK = (dest.setSliceK starts src).conjK := by
  unfold Blk.setSliceK
  rw [conjK_ofFn, conjK_shape, conjK_shape]
  apply ofFn_congr
  intro i _
  simp only
  split
  · exact Blk.get_conjK src _
  · exact Blk.get_conjK dest _

def cjBlk (p : Sector × Blk R) : Sector × Blk R := (p.1, p.2.conjK)
def cjItem (it : Item R) : Item R := (it.1, it.2.1, it.2.2.conjK)

theorem alookup_map_cj (l : List (Sector × Blk R)) (k : Sector) :
    alookup (l.map cjBlk) k = (alookup l k).map Blk.conjK :=
  alookup_map_val (fun _ => Blk.conjK) l k

theorem ainsert_map_cj (l : List (Sector × Blk R)) (k : Sector) (v : Blk R) :
    ainsert (l.map cjBlk) k v.conjK = (ainsert l k v).map cjBlk :=
  ainsert_map_val Blk.conjK l k v

theorem insStep_cj (shapeOf : Sector → List Nat) (acc : List (Sector × Blk R)) (it : Item R) :
    insStep shapeOf (acc.map cjBlk) (cjItem it) = (insStep shapeOf acc it).map cjBlk := by
  obtain ⟨k, st, src⟩ := it
  simp only [insStep, cjItem, alookup_map_cj]
  rw [← ainsert_map_cj]
  congr 1
  cases alookup acc k with
  | none => simp only [Option.map_none, Option.getD_none]; rw [← conjK_setSliceK, conjK_zeros]
  | some t => simp only [Option.map_some, Option.getD_some]; rw [conjK_setSliceK]

theorem insFold_cj (shapeOf : Sector → List Nat) (items : List (Item R)) :
    insFold shapeOf (items.map cjItem) = (insFold shapeOf items).map cjBlk := by
  unfold insFold
  suffices h : ∀ acc : List (Sector × Blk R),
      (items.map cjItem).foldl (insStep shapeOf) (acc.map cjBlk) = (items.foldl (insStep shapeOf) acc).map cjBlk from
    h []
  induction items with
  | nil => intro acc; rfl
  | cons it items ih =>
    intro acc
    simp only [List.map_cons, List.foldl_cons]
    rw [insStep_cj, ih]

section Arr
variable {a : Arr R} {groups : List (List Nat)}

theorem conjA_fields (a : Arr R) :
    a.conjA.sym = a.sym ∧ a.conjA.indices = a.indices.map Index.conj ∧ a.conjA.blocks = a.blocks.map cjBlk
      ∧ a.conjA.duals = (conjIdx a).duals ∧ a.conjA.ndim = a.ndim := by
  refine ⟨rfl, rfl, ?_, rfl, by simp [Arr.conjA, Arr.ndim]⟩
  simp only [Arr.conjA]
  apply List.map_congr_left
  intro p _; obtain ⟨s, b⟩ := p; rfl

theorem planM_conjA (hok : GroupsOk groups a.ndim) (sb : Sector × Blk R) :
    planM a.conjA groups (cjBlk sb) = planM a groups sb := by
  have := planOf_conj (a := a) hok sb.1 sb.2.shape
  simp only [planM, cjBlk, conjK_shape]
  exact this

theorem blockmapOf_conjA (hok : GroupsOk groups a.ndim) : blockmapOf a.conjA groups = blockmapOf a groups := by
  simp only [blockmapOf, (conjA_fields a).2.2.1, List.map_map]
  apply List.map_congr_left
  intro sb _
  exact congrArg (Prod.mk sb.1) (planOf_conj hok sb.1 sb.2.shape)

theorem newIdxM_conjA (hok : GroupsOk groups a.ndim) :
    newIdxM a.conjA groups = (newIdxM a groups).map Index.conj := by
  rw [← newIdxM_conj hok]
  simp only [newIdxM, fuseInfoOf, newMidOf, blockmapOf_conjA hok, blockmapOf_conj hok]
  rfl

theorem shapeOfM_conjA (hok : GroupsOk groups a.ndim) (ns : Sector) :
    shapeOfM a.conjA groups ns = shapeOfM a groups ns := by
  simp only [shapeOfM, newIdxM_conjA hok, ← Index.conjList_eq_map, blockShape?_conjList]

theorem ixM_conjA (hok : GroupsOk groups a.ndim) {g : Nat} (hg : g < groups.length) :
    ixM a.conjA groups g = (ixM a groups g).conj := by
  have hpos : (giM a.conjA groups).position = (giM a groups).position := (gi_conj (a := a) hok).1
  have hlt : (giM a groups).position + g < (newIdxM a groups).length := by
    rw [newIdxM_length hok.adm]; simp only [ndimM]; omega
  simp only [ixM, newIdxM_conjA hok, hpos]
  exact getD_map_conj _ hlt

theorem extsM_conjA (hok : GroupsOk groups a.ndim) {g : Nat} (hg : g < groups.length) :
    extsM a.conjA groups g = extsM a groups g := by
  simp only [extsM, ixM_conjA hok hg]
  generalize ixM a groups g = ix
  obtain ⟨c, d, s⟩ := ix
  cases s with
  | none => rfl
  | some q => obtain ⟨subs, e⟩ := q; rfl

theorem toItemM_conjA (hok : GroupsOk groups a.ndim) (sb : Sector × Blk R) :
    toItemM a.conjA groups (cjBlk sb) = cjItem (toItemM a groups sb) := by
  have hgi := gi_conj (a := a) hok
  have hpl := planM_conjA hok sb
  have hnd : ndimM a.conjA groups = ndimM a groups := by
    simp only [ndimM]
    rw [show (giM a.conjA groups).position = (giM a groups).position from hgi.1,
      show (giM a.conjA groups).axesAfter = (giM a groups).axesAfter from hgi.2.2.2.1]
  simp only [toItemM, cjItem, hpl]
  refine Prod.ext rfl (Prod.ext ?_ ?_)
  · -- the start offsets
    simp only [startsM, hnd]
    apply List.map_congr_left
    intro ax hax
    simp only [List.mem_range] at hax
    have hpos : (giM a.conjA groups).position = (giM a groups).position := hgi.1
    have hmul : axMulti a.conjA groups ax = axMulti a groups ax := by simp only [axMulti, hpos]
    simp only [startM, hmul]
    split
    · rename_i hm
      obtain ⟨g, hg, rfl, _⟩ := axMulti_cases hm
      simp only [hpos, Nat.add_sub_cancel_left, extsM_conjA hok hg, cM, ssM, hpl]
    · rfl
  · simp only [cjBlk]
    rw [conjK_transposeK, conjK_reshapeK,
      show (giM a.conjA groups).perm = (giM a groups).perm from hgi.2.1]

theorem fusedBlocksM_conjA (hok : GroupsOk groups a.ndim) :
    fusedBlocksM a.conjA groups = (fusedBlocksM a groups).map cjBlk := by
  have hs : shapeOfM a.conjA groups = shapeOfM a groups := funext (shapeOfM_conjA hok)
  simp only [fusedBlocksM, hs, (conjA_fields a).2.2.1, List.map_map]
  rw [← insFold_cj, List.map_map]
  refine congrArg (insFold _) (List.map_congr_left fun sb _ => ?_)
  exact toItemM_conjA hok sb

theorem fusedArrM_conjA (hok : GroupsOk groups a.ndim) :
    fusedArrM a.conjA groups = (fusedArrM a groups).conjA := by
  have h1 := newIdxM_conjA (a := a) hok
  have h2 := fusedBlocksM_conjA (a := a) hok
  unfold fusedArrM
  rw [h1, h2]
  rfl

end Arr

end FuseP
end SymmModel
