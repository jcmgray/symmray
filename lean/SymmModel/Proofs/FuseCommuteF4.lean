/-
  SymmModel.Proofs.FuseCommuteF4 — C06, first clause, FERMIONIC: `FCtx`, the situation after
  `dropMisaligned` for fermionic operands whose contracted legs are adjacent and in order
  (`AdjOk`), and small facts about one fused group used at the blockwise level.
  Namespace `SymmModel.TdotP`.
-/
import SymmModel.Proofs.FuseCommuteF3

namespace SymmModel
namespace TdotP
open SymmModel.KoszulP SymmModel.Lazy SymmModel.GradedP SymmModel.RoutesP SymmModel.AssocP
variable {R : Type}

/-- aligned fermionic operands (what `dropMisaligned` produces from a pair satisfying the weak
    guard) whose contracted legs are adjacent and in order -/
structure FCtx (A B : Arr R) (xa xb : List Nat) : Prop where
  W : AdmW A B xa xb
  cm : (xa.map (fun ax => A.indices.getD ax default)).map Index.cm
      = (xb.map (fun ax => B.indices.getD ax default)).map Index.cm
  dual : (xb.map (fun ax => B.indices.getD ax default)).map Index.dual
      = (xa.map (fun ax => A.indices.getD ax default)).map (fun ix => !ix.dual)
  keys : ∀ K, K ∈ A.blocks.map (fun sb => xa.map (fun ax => sb.1.getD ax (0, 0))) ↔
      K ∈ B.blocks.map (fun sb => xb.map (fun ax => sb.1.getD ax (0, 0)))
  adjA : AdjOk A xa
  adjB : AdjOk B xb

theorem parity_m (P : Bool) (o m : Nat) (h : P = ((o + m) % 2 == 1)) :
    m % 2 = ((if P then 1 else 0) + o) % 2 := by
  cases P
  · have : ¬ ((o + m) % 2 = 1) := by
      intro e; rw [e] at h; simp at h
    simp only [Bool.false_eq_true, if_false]; omega
  · have : (o + m) % 2 = 1 := by
      have := h.symm; simpa using this
    simp only [if_true]; omega

theorem one_fused_dual {X : Arr R} {g : List Nat} (h : OneOk X g) :
    (FuseP.ixM X [g] 0).dual = (X.indices.getD (g.headD 0) default).dual := by
  have g0 : ([g] : List (List Nat))[0]? = some g := rfl
  by_cases hlen : g.length = 1
  · rw [FuseP.ixM_single h.groupsOk.adm g0 hlen]
  · rw [FuseP.ixM_dual h.groupsOk.adm g0 hlen]
    show ([g].map (fun g' => X.duals.getD (g'.headD 0) false)).getD 0 false = _
    simp only [List.map_cons, List.map_nil, List.getD_cons_zero]
    have hh : g.headD 0 < X.indices.length := by
      have := h.ne
      match g, this with
      | x :: _, _ => exact h.lt x (by simp)
    unfold Arr.duals
    rw [List.getD_eq_getElem?_getD, List.getD_eq_getElem?_getD, List.getElem?_map,
      List.getElem?_eq_getElem hh]
    rfl

end TdotP
end SymmModel
