/-
  SymmModel.Proofs.Fuse6Fuse — the fused axes of a fused array as a list (axis, number of
  sub-indices); `unfuseGroups` / `unfuseGroupsF` as a right-to-left run over that list.
-/
import SymmModel.Proofs.Fuse6Order
import SymmModel.Proofs.Fuse6Inst
import SymmModel.Props.C05d
namespace SymmModel
namespace FuseP
open SymmModel.Lazy

/-- the fused axes that `fuse(*groups)` creates at `pos`: (axis, group size), left to right -/
def multiPL (groups : List (List Nat)) (pos : Nat) : List (Nat × Nat) :=
  ((List.range groups.length).filter (multiB groups)).map (fun g => (pos + g, (groups.getD g []).length))

theorem foldlM_if_filter {ε α β : Type} (c : α → Bool) (f : β → α → Except ε β) (l : List α) (x : β) :
    l.foldlM (fun x g => if c g then f x g else pure x) x = (l.filter c).foldlM f x := by
  induction l generalizing x with
  | nil => rfl
  | cons a l ih =>
    rw [List.foldlM_cons, List.filter_cons]
    cases hc : c a with
    | false =>
      simp only [Bool.false_eq_true, if_false]
      exact ih x
    | true =>
      simp only [if_true, List.foldlM_cons]
      cases f x a with
      | error e => rfl
      | ok y => exact ih y

theorem r2l_multiPL {R : Type} (unf : Arr R → Nat → Except Err (Arr R)) (groups : List (List Nat)) (pos : Nat)
    (x : Arr R) :
    (((multiPL groups pos).map (fun pl => pl.1 + 0)).reverse).foldlM unf x
      = (List.range groups.length).reverse.foldlM (fun x g => if multiB groups g then unf x (pos + g) else pure x) x := by
  rw [foldlM_if_filter (multiB groups) (fun x g => unf x (pos + g))]
  unfold multiPL
  rw [List.map_map, ← List.map_reverse, ← List.filter_reverse, List.foldlM_map]
  rfl

theorem multiPL_sorted (groups : List (List Nat)) (pos : Nat) :
    ((multiPL groups pos).map (·.1)).Pairwise (· < ·) := by
  unfold multiPL
  rw [List.map_map]
  have h : ((List.range groups.length).filter (multiB groups)).Pairwise (· < ·) :=
    List.Pairwise.filter _ List.pairwise_lt_range
  exact h.map _ (fun a b hab => Nat.add_lt_add_left hab pos)

section
variable {R : Type} [Zero R] {a : Arr R} {groups : List (List Nat)}

theorem fusedArrM_fusedAtL (hok : GroupsOk groups a.ndim) :
    ∀ pl ∈ multiPL groups (giM a groups).position,
      0 < pl.2 ∧ FusedAtL (fusedArrM a groups) (pl.1 + 0) pl.2 := by
  intro pl hpl
  unfold multiPL at hpl
  obtain ⟨g, hg, rfl⟩ := List.mem_map.1 hpl
  obtain ⟨hg1, hm⟩ := List.mem_filter.1 hg
  have hgl : g < groups.length := List.mem_range.1 hg1
  obtain ⟨gaxes, hgx, hlen⟩ := multiB_iff.1 hm
  have hgd : groups.getD g [] = gaxes := by rw [List.getD_eq_getElem?_getD, hgx]; rfl
  have hne : gaxes ≠ [] := hok.gne gaxes (getElem?_mem' hgx)
  simp only [hgd, Nat.add_zero]
  refine ⟨List.length_pos_iff.2 hne, ixM a groups g, _, extsM a groups g, ?_, ixM_sub hok.adm hgx hlen, by simp⟩
  have hlt : (giM a groups).position + g < (newIdxM a groups).length := by
    rw [newIdxM_length hok.adm]; simp only [ndimM]; omega
  show (newIdxM a groups)[(giM a groups).position + g]? = some (ixM a groups g)
  rw [List.getElem?_eq_getElem hlt]
  simp only [ixM, List.getD_eq_getElem?_getD, List.getElem?_eq_getElem hlt, Option.getD_some]

end

end FuseP
end SymmModel
