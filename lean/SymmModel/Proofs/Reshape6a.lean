/-
  SymmModel.Proofs.Reshape6a — the check `callsOkB` of the round-trip theorems: the fuse calls
  `Reshape3.callsOf` of "o"/"g" segments whose groups have at least two axes pass it
  (`callsOk_callsOf`), in particular the calls `callsR runs 0 []` that the planner returns for a
  concatenation of runs.
-/
import SymmModel.Proofs.Reshape5g
namespace SymmModel.Reshape5
open SymmModel SymmModel.Reshape SymmModel.C07 SymmModel.Reshape3

theorem sumN_ge_two {ls : List Nat} (h : ∀ L ∈ ls, 2 ≤ L) (hne : ls ≠ []) : 2 ≤ sumN ls := by
  cases ls with
  | nil => exact (hne rfl).elim
  | cons a ls => have := h a (by simp); simp only [sumN]; omega

theorem callsOkB_cons_curL (P : Nat) (ls : List Nat) (h2 : ∀ L ∈ ls, 2 ≤ L) (hne : ls ≠ []) (lb nd : Nat)
    (hlb : lb ≤ P) (hle : P + sumN ls ≤ nd) (rest : List (List (List Nat)))
    (hrest : callsOkB rest (P + ls.length) (nd - sumN ls + ls.length) = true) :
    callsOkB (curL P ls :: rest) lb nd = true := by
  have hs := sumN_ge_two h2 hne
  have hflat := curL_flatten ls P
  have hhead : (curL P ls).flatten.headD 0 = P := by
    rw [hflat]
    obtain ⟨m, hm⟩ : ∃ m, sumN ls = m + 1 := ⟨sumN ls - 1, by omega⟩
    rw [hm, List.range'_succ]; rfl
  have hne' : (curL P ls).isEmpty = false := by
    cases ls with
    | nil => exact (hne rfl).elim
    | cons a ls => rfl
  have hall : (curL P ls).all (fun g => decide (2 ≤ g.length)) = true := by
    rw [List.all_eq_true]
    intro g hg
    have : g.length ∈ (curL P ls).map List.length := List.mem_map_of_mem hg
    rw [curL_lengths] at this
    simpa using h2 _ this
  simp only [callsOkB, hhead, hne', hall, Bool.not_false, Bool.true_and, Bool.and_eq_true,
    decide_eq_true_eq]
  rw [hflat, List.length_range', beqNats_refl, curL_length]
  exact ⟨⟨⟨rfl, hlb⟩, hle⟩, hrest⟩

/-- general state of the clustering: `ls` = the lengths of the pending groups, the first starting at axis `P` -/
theorem callsOk_callsOf : ∀ (Q : List Seg) (i : Nat) (ls : List Nat) (P lb nd : Nat), OG Q → GTwo Q →
    (∀ L ∈ ls, 2 ≤ L) → i = P + sumN ls → lb ≤ P → nd = i + (flatE Q).length →
    callsOkB (callsOf i (curL P ls) Q) lb nd = true := by
  intro Q
  induction Q with
  | nil =>
    intro i ls P lb nd _ _ h2 hi hlb hnd
    cases ls with
    | nil => rfl
    | cons a ls =>
      have : (curL P (a :: ls)).isEmpty = false := rfl
      simp only [callsOf, this, Bool.false_eq_true, if_false]
      exact callsOkB_cons_curL P (a :: ls) h2 (by simp) lb nd hlb (by simp at hnd; omega) [] rfl
  | cons X Q ih =>
    intro i ls P lb nd hQ hQ2 h2 hi hlb hnd
    have hQ' : OG Q := fun a ha => hQ a (by simp [ha])
    have hQ2' : GTwo Q := fun k es hm => hQ2 k es (by simp [hm])
    have hX := hQ X (by simp)
    cases X with
    | o e =>
      rw [callsOf_o]
      simp only [flatE_cons, Seg.ax, List.length_append, List.length_cons, List.length_nil] at hnd
      cases ls with
      | nil =>
        have : (curL P []).isEmpty = true := rfl
        simp only [this, if_true]
        simp only [sumN, Nat.add_zero] at hi
        have := ih (i + 1) [] (i + 1) lb nd hQ' hQ2' (by simp) (by simp [sumN]) (by omega) (by omega)
        simpa [curL] using this
      | cons a ls =>
        have : (curL P (a :: ls)).isEmpty = false := rfl
        simp only [this, Bool.false_eq_true, if_false]
        rw [curL_lengths, curL_length]
        refine callsOkB_cons_curL P (a :: ls) h2 (by simp) lb nd hlb (by omega) _ ?_
        have e : i - sumN (a :: ls) + (a :: ls).length + 1 = P + (a :: ls).length + 1 := by omega
        rw [e]
        have := ih (P + (a :: ls).length + 1) [] (P + (a :: ls).length + 1) (P + (a :: ls).length)
          (nd - sumN (a :: ls) + (a :: ls).length) hQ' hQ2' (by simp) (by simp [sumN]) (by omega) (by omega)
        simpa [curL] using this
    | g k es =>
      have hes := hQ2 k es (by simp)
      simp only [flatE_cons, Seg.ax, List.length_append] at hnd
      simp only [callsOf]
      rw [hi, curL_append]
      exact ih (P + sumN ls + es.length) (ls ++ [es.length]) P lb nd hQ' hQ2'
        (by
          intro L hL
          rcases List.mem_append.mp hL with hL | hL
          · exact h2 L hL
          · rw [List.mem_singleton.mp hL]; exact hes)
        (by rw [sumN_append]; simp [sumN]; omega) hlb (by omega)
    | _ => simp [Seg.isOG] at hX

theorem callsOk_callsR (rs : List (List Nat)) (i : Nat) (ls : List Nat) (P lb nd : Nat)
    (hok : ∀ r ∈ rs, RunOk r) (h2 : ∀ L ∈ ls, 2 ≤ L) (hi : i = P + sumN ls) (hlb : lb ≤ P)
    (hnd : nd = i + rs.flatten.length) : callsOkB (callsR rs i (curL P ls)) lb nd = true := by
  rw [← callsOf_segsR rs 0]
  exact callsOk_callsOf (segsR 0 rs) i ls P lb nd (og_segsR rs 0) (gtwo_segsR rs 0 fun r hr => (hok r hr).1)
    h2 hi hlb (by rw [flatE_segsR, List.length_map]; exact hnd)

end SymmModel.Reshape5
