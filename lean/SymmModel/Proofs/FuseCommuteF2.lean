/-
  SymmModel.Proofs.FuseCommuteF2 — consecutive axes `p, p+1, …, p+k-1` form a group of ADJACENT legs
  IN ORDER (`AdjOk`, TdotFuseC5: the permutation of `_fuse_core` is the identity).
  Namespace `SymmModel.TdotP`.
-/
import SymmModel.Proofs.FuseCommuteF1

namespace SymmModel
namespace TdotP
open SymmModel.KoszulP SymmModel.Lazy SymmModel.GradedP
variable {R : Type}

theorem adjOk_consecutive (X : Arr R) (p k : Nat) (hk : 1 ≤ k) (hpk : p + k ≤ X.ndim) :
    AdjOk X ((List.range k).map (fun j => p + j)) := by
  have hone : OneOk X ((List.range k).map (fun j => p + j)) := by
    refine ⟨?_, ?_, ?_⟩
    · intro e
      have := congrArg List.length e
      simp at this; omega
    · exact (List.nodup_range).map_on (by intro x _ y _ e; omega)
    · intro x hx
      obtain ⟨j, hj, rfl⟩ := List.mem_map.mp hx
      have := List.mem_range.mp hj; omega
  refine ⟨hone, ?_⟩
  generalize hg : (List.range k).map (fun j => p + j) = g at hone ⊢
  have hperm := one_perm hone
  have hpp := one_perm_perm hone
  have hfree := one_free hone
  have hP : (FuseP.giM X [g]).position = p := by
    have h1 := one_pos_mem hone
    have h2 := one_pos_le hone (p + 0) (by rw [← hg]; exact List.mem_map.mpr ⟨0, List.mem_range.mpr (by omega), rfl⟩)
    generalize (FuseP.giM X [g]).position = P at h1 h2 ⊢
    rw [← hg] at h1
    obtain ⟨j, _, hj⟩ := List.mem_map.mp h1
    omega
  -- sorted permutation of `range n` is `range n`
  have hsorted : (FuseP.giM X [g]).perm.Pairwise (· < ·) := by
    rw [hperm, hP]
    have hfs := freeAxes_pairwise X.ndim g
    rw [hfree, hP] at hfs
    have hafter := (List.pairwise_append.mp hfs).2.1
    have hga : ∀ x ∈ (FuseP.giM X [g]).axesAfter, p + k ≤ x := by
      intro x hx
      have hxf : x ∈ freeAxes X.ndim g := by rw [hfree]; exact List.mem_append_right _ hx
      have hng : x ∉ g := by
        unfold freeAxes at hxf
        have := (List.mem_filter.mp hxf).2
        simpa using this
      have hpx : p ≤ x := by
        by_cases hp0 : p = 0
        · omega
        · have := (List.pairwise_append.mp hfs).2.2 (p - 1) (List.mem_range.mpr (by omega)) x hx
          omega
      by_cases hlt : x < p + k
      · exfalso; apply hng; rw [← hg]
        exact List.mem_map.mpr ⟨x - p, List.mem_range.mpr (by omega), by omega⟩
      · omega
    rw [List.append_assoc, List.pairwise_append]
    refine ⟨List.pairwise_lt_range, ?_, ?_⟩
    · rw [List.pairwise_append]
      refine ⟨?_, hafter, ?_⟩
      · rw [← hg, List.pairwise_map]
        exact List.Pairwise.imp (by intro a b h; omega) List.pairwise_lt_range
      · intro x hx y hy
        rw [← hg] at hx
        obtain ⟨j, hj, rfl⟩ := List.mem_map.mp hx
        have := List.mem_range.mp hj
        have := hga y hy; omega
    · intro x hx y hy
      have := List.mem_range.mp hx
      rcases List.mem_append.mp hy with hy | hy
      · rw [← hg] at hy
        obtain ⟨j, _, rfl⟩ := List.mem_map.mp hy; omega
      · have := hga y hy; omega
  exact List.Perm.eq_of_pairwise (le := (· < ·)) (by intro a b _ _ h1 h2; omega) hsorted
    List.pairwise_lt_range hpp

end TdotP
end SymmModel
