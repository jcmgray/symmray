/-
  SymmModel.Proofs.Net4M7 — zero padding commutes with the fermionic transpose (`pad_transposeF`),
  the intermediate-result facts of a call made with exchanged operands and rotated back
  (`interW_rot`), and one call of a route with BOTH an operand-order flag and a mode (`callSM`):
  modes on top of flags (`callSM_pad`), and the relation carried along a route (`Sim`, `Sim.step`).
-/
import SymmModel.Proofs.Net4M4
import SymmModel.Proofs.Net4Flag

namespace SymmModel
namespace Net4P
open TdotP GradedP RoutesP KoszulP AssocP Assoc2P Assoc3P Assoc4P Assoc5P
open Lazy (sgnI)
set_option linter.unusedSectionVars false

variable {R : Type}

section
variable [AddCommMonoid R] [Mul R] [Neg R] [SignRing R]

theorem pad_transposeF {P Q : Arr R} (hp : Pad P Q) (vP : P.validB = true) (fP : P.fermi = true)
    (vQ : Q.validB = true) (fQ : Q.fermi = true) (p : List Nat) (hperm : Arr.isPerm p P.ndim = true) :
    Pad (P.transposeF p) (Q.transposeF p) := by
  have hpermQ : Arr.isPerm p Q.ndim = true := by rw [← hp.ndim]; exact hperm
  have TP := transOf_transposeF P p vP fP hperm
  have TQ := transOf_transposeF Q p vQ fQ hpermQ
  have vP' := transposeF_validB P p vP fP hperm
  have vQ' := transposeF_validB Q p vQ fQ hpermQ
  have hPp := perm_of_isPerm hperm
  have hQp := perm_of_isPerm hpermQ
  have hPlt : ∀ x ∈ p, x < P.indices.length := mem_lt_of_perm hPp
  have hQlt : ∀ x ∈ p, x < Q.indices.length := mem_lt_of_perm hQp
  have hsP := Arr.shapesOk_of_validB vP
  have hsQ := Arr.shapesOk_of_validB vQ
  have hshape : ∀ s0 ∈ Q.sectors,
      Arr.blockShapeD (permuted P.indices p) (permuted s0 p)
        = Arr.blockShapeD (permuted Q.indices p) (permuted s0 p) := by
    intro s0 h0
    obtain ⟨shpP, hP1, hP2, _, _⟩ := shape_of_mem hsP (hp.sub s0 h0)
    obtain ⟨shpQ, hQ1, hQ2, _, _⟩ := shape_of_mem hsQ h0
    have e : shpP = shpQ := by rw [← hP2, ← hQ2]; exact hp.shape s0 h0
    rw [Arr.blockShapeD, Arr.blockShapeD, blockShape?_permuted hP1 p hPlt,
      blockShape?_permuted hQ1 p hQlt, e]
  refine ⟨by rw [TP.sym, TQ.sym, hp.sym],
    by rw [transposeF_ndim P p vP fP hperm, transposeF_ndim Q p vQ fQ hpermQ, hp.ndim], ?_,
    allDistinct_iff_nodup.mp (Arr.allDistinct_of_validB vP'),
    allDistinct_iff_nodup.mp (Arr.allDistinct_of_validB vQ'), ?_,
    Arr.shapesOk_of_validB vP', Arr.shapesOk_of_validB vQ', ?_, ?_⟩
  · intro i
    rw [TP.indices, TQ.indices]
    by_cases hi : i < p.length
    · rw [getD_permuted_ax P.indices p hPlt i hi, getD_permuted_ax Q.indices p hQlt i hi]
      exact hp.dual _
    · have l1 : (permuted P.indices p).length = P.indices.length := permuted_length_perm _ _ hPp
      have l2 : (permuted Q.indices p).length = Q.indices.length := permuted_length_perm _ _ hQp
      have hpl : p.length = P.indices.length := by
        have := hPp.length_eq; simp only [List.length_range] at this; exact this
      have hql : p.length = Q.indices.length := by
        have := hQp.length_eq; simp only [List.length_range] at this; exact this
      rw [List.getD_eq_getElem?_getD, List.getD_eq_getElem?_getD,
        List.getElem?_eq_none (by omega), List.getElem?_eq_none (by omega)]
  · intro s hs
    rw [TQ.sectors, List.mem_map] at hs
    obtain ⟨s0, h0, rfl⟩ := hs
    rw [TP.sectors, List.mem_map]
    exact ⟨s0, hp.sub s0 h0, rfl⟩
  · intro s hs
    rw [TQ.sectors, List.mem_map] at hs
    obtain ⟨s0, h0, rfl⟩ := hs
    rw [TP.indices, TQ.indices]
    exact hshape s0 h0
  · intro s hs o ho
    rw [TP.sectors, List.mem_map] at hs
    obtain ⟨s0, h0, rfl⟩ := hs
    obtain ⟨shp, h1, h2, h3, h4⟩ := shape_of_mem hsP h0
    rw [TP.indices, Arr.blockShapeD, blockShape?_permuted h1 p hPlt] at ho
    change inBox (permuted shp p) o = true at ho
    have hol : o.length = P.ndim := by
      have := inBox_length ho
      rw [this, permuted_length_perm shp p (by rw [h3]; exact hPp)]; exact h3
    obtain ⟨o0, hl0, rfl⟩ := exists_preimage hPp o hol
    have hb0 : inBox (Arr.blockShapeD P.indices s0) o0 = true := by
      rw [h2]
      exact Dense4.inBox_of_permuted (n := P.ndim) (mem_lt_of_perm hPp)
        (fun ax hax => hPp.mem_iff.mpr (List.mem_range.mpr hax)) h3 hl0 ho
    rw [TP.elem s0 h0 o0 hb0, hp.elem s0 h0 o0 hb0]
    have hpar : P.parities s0 = Q.parities s0 := by unfold Arr.parities; rw [hp.sym]
    by_cases hq : s0 ∈ Q.sectors
    · rw [TQ.elem s0 hq o0 (by rw [← hp.shape s0 hq]; exact hb0), hpar]
    · have hnot : permuted s0 p ∉ (Q.transposeF p).sectors := by
        intro hm
        rw [TQ.sectors, List.mem_map] at hm
        obtain ⟨s1, h1', e1⟩ := hm
        have l0 : s0.length = P.ndim := Arr.sector_length hsP h0
        have l1 : s1.length = P.ndim := by rw [hp.ndim]; exact Arr.sector_length hsQ h1'
        have := KoszulP.permuted_injective s1 s0 p P.ndim hPp l1 l0 e1
        exact hq (this ▸ h1')
      rw [Arr.elem_of_not_mem hq, Arr.elem_of_not_mem hnot, Lazy.sgnI_zero]

theorem padA_transposeF {P Q : Arr R} (hp : PadA P Q) (vP : P.validB = true) (fP : P.fermi = true)
    (vQ : Q.validB = true) (fQ : Q.fermi = true) (p : List Nat) (hperm : Arr.isPerm p P.ndim = true) :
    PadA (P.transposeF p) (Q.transposeF p) :=
  ⟨pad_transposeF hp.pad vP fP vQ fQ p hperm, hp.oddpos, hp.charge⟩

end

/-- a call `X·Y` in mode `m`; with `sw = true` made as `Y·X` (mode `m`) and rotated back -/
def callSM [Zero R] [Add R] [Mul R] [Neg R] (m : TdotMode) (sw : Bool) (X Y : Arr R)
    (xa xb : List Nat) : Except Err (Arr R) :=
  match sw with
  | false => tdM m X Y xa xb
  | true => (tdM m Y X xb xa).map (fun z =>
      z.transposeF (rotB (freeAxes Y.ndim xb).length (freeAxes X.ndim xa).length))

theorem callSM_blockwise [Zero R] [Add R] [Mul R] [Neg R] (sw : Bool) (X Y : Arr R) (xa xb : List Nat) :
    callSM .blockwise sw X Y xa xb = callS sw X Y xa xb := by
  cases sw <;> rfl

section
variable [AddCommMonoid R] [Mul R] [Neg R] [SignRing R]

theorem interW_rot {X Y Z : Arr R} {xa xb : List Nat} (I : InterW Y X xb xa Z) (hsym : X.sym = Y.sym) :
    InterW X Y xa xb (Z.transposeF (rotB (freeAxes Y.ndim xb).length (freeAxes X.ndim xa).length)) := by
  have hP : Arr.isPerm (rotB (freeAxes Y.ndim xb).length (freeAxes X.ndim xa).length) Z.ndim = true := by
    rw [I.ndim]; exact rotB_isPerm _ _
  have T := transOf_transposeF Z _ I.valid I.fermi hP
  refine ⟨transposeF_validB Z _ I.valid I.fermi hP, I.fermi, by rw [T.sym, I.sym, hsym], ?_⟩
  rw [T.indices]
  have hla : (without X.indices xa).length = (freeAxes X.ndim xa).length := by
    rw [without_eq_permuted_freeAxes]
    exact permuted_length _ _ (fun x hx => (mem_freeAxes.mp hx).1)
  have hlb : (without Y.indices xb).length = (freeAxes Y.ndim xb).length := by
    rw [without_eq_permuted_freeAxes]
    exact permuted_length _ _ (fun x hx => (mem_freeAxes.mp hx).1)
  have := forall₂_permuted I.frame (rotB (freeAxes Y.ndim xb).length (freeAxes X.ndim xa).length)
  have key : permuted (without Y.indices xb ++ without X.indices xa)
      (rotB (freeAxes Y.ndim xb).length (freeAxes X.ndim xa).length)
      = without X.indices xa ++ without Y.indices xb := by
    rw [← hla, ← hlb]; exact permuted_rotB _ _
  rw [key] at this
  exact this

variable [AssocLaws R]

theorem callSM_pad (hz1 : ∀ x : R, 0 * x = 0) (hz2 : ∀ x : R, x * 0 = 0) (m : TdotMode) (sw : Bool)
    {Xf Xm Yf Ym Zf : Arr R} {xa xb : List Nat} (pX : PadA Xm Xf) (pY : PadA Ym Yf)
    (Wf : AdmW Xf Yf xa xb) (Wm : AdmW Xm Ym xa xb) (e : callS sw Xf Yf xa xb = .ok Zf) :
    ∃ Zm, callSM m sw Xm Ym xa xb = .ok Zm ∧ PadA Zm Zf ∧ InterW Xm Ym xa xb Zm := by
  cases sw with
  | false => exact pad_call hz1 hz2 pX pY Wm Wf Zf e m
  | true =>
    cases ec : tdF Yf Xf xb xa with
    | error err => unfold callS at e; simp only [] at e; rw [ec] at e; cases e
    | ok c' =>
      have eZ : Zf = c'.transposeF (rotB (freeAxes Yf.ndim xb).length (freeAxes Xf.ndim xa).length) := by
        unfold callS at e; simp only [] at e; rw [ec] at e; exact (Except.ok.inj e).symm
      obtain ⟨_, _, Cc⟩ := Call.of_ok (admW_swap Wf) ec
      obtain ⟨zm, ezm, pzm, Izm⟩ := pad_call hz1 hz2 pY pX (admW_swap Wm) (admW_swap Wf) c' ec m
      have nX : Xm.ndim = Xf.ndim := pX.pad.ndim
      have nY : Ym.ndim = Yf.ndim := pY.pad.ndim
      have hP : Arr.isPerm (rotB (freeAxes Ym.ndim xb).length (freeAxes Xm.ndim xa).length) zm.ndim
          = true := by
        rw [Izm.ndim]; exact rotB_isPerm _ _
      refine ⟨zm.transposeF (rotB (freeAxes Ym.ndim xb).length (freeAxes Xm.ndim xa).length),
        ?_, ?_, interW_rot Izm Wm.sym⟩
      · unfold callSM; simp only []; rw [ezm]; rfl
      · rw [eZ, ← nX, ← nY]
        exact padA_transposeF pzm Izm.valid Izm.fermi Cc.valid Cc.fermi _ hP

/-- what is carried along a route with flags and modes: the result `X` of the plain blockwise calls,
    the result `Xf` of the flagged blockwise calls, the result `Xm` of the flagged calls in modes -/
structure Sim (X Xf Xm : Arr R) : Prop where
  eqv : Eqv X Xf
  valid : Xf.validB = true
  pad : PadA Xm Xf

theorem Sim.refl {X : Arr R} (hv : X.validB = true) : Sim X X X := ⟨Eqv.refl X, hv, PadA.refl hv⟩

/-- flags (`step`) and modes (`callSM_pad`) together; commutativity of the scalars is needed only
    when the operands are exchanged -/
theorem Sim.step (hz1 : ∀ x : R, 0 * x = 0) (hz2 : ∀ x : R, x * 0 = 0)
    (sw : Bool) (hmul : sw = true → ∀ x y : R, x * y = y * x) (m : TdotMode)
    {X Xf Xm Y Yf Ym Z : Arr R} {xa xb : List Nat} (sX : Sim X Xf Xm) (sY : Sim Y Yf Ym)
    (W : AdmW X Y xa xb) (hd : OddposP.LabelsDistinct (X.oddpos ++ Y.oddpos))
    (Wm : AdmW Xm Ym xa xb) (e : tdF X Y xa xb = .ok Z) :
    ∃ Zf Zm, callS sw Xf Yf xa xb = .ok Zf ∧ callSM m sw Xm Ym xa xb = .ok Zm
      ∧ Sim Z Zf Zm ∧ InterW Xm Ym xa xb Zm := by
  obtain ⟨Zf, ef, hE, vZ⟩ := Net4P.step sw hmul W hd sX.eqv sY.eqv sX.valid sY.valid Z e
  obtain ⟨Zm, em, pZ, IZ⟩ := callSM_pad hz1 hz2 m sw sX.pad sY.pad
    (admW_congr W sX.eqv sY.eqv sX.valid sY.valid) Wm ef
  exact ⟨Zf, Zm, ef, em, ⟨hE, vZ, pZ⟩, IZ⟩

end

end Net4P
end SymmModel
