/-
  SymmModel.Proofs.NetNormL3 — network form of the norm (property C10), ket-bra-first bracketings,
  part 6: the whole hub.  With `X = ā·a`, `Y = b̄·b` the six routes
        `(b̄·X)·b`, `(X·b̄)·b`, `X·Y`   and   `(ā·Y)·a`, `(Y·ā)·a`, `Y·X`
  give ONE scalar for every pair of sorted distinct ket label lists (`hub_all`; no label check), and this
  scalar is `Σ|K|²` as soon as `KetBraFirst` holds for `(a, b)` or for `(b, a)` (`ketbra_all`).
-/
import SymmModel.Proofs.NetNormL2

namespace SymmModel.NormNet
open SymmModel SymmModel.Norm SymmModel.TdotP SymmModel.RoutesP
open SymmModel.AssocP SymmModel.Assoc3P SymmModel.Net4P
open SymmModel.OddposP (mergeOddpos)
set_option linter.unusedSectionVars false

section main
variable {R : Type} [AddCommMonoid R] [Mul R] [Neg R] [Conj R] [NetLaws R] [AssocLaws R]

/-- both halves of the hub with the common value `v` -/
def KetBraHub (a b : Arr R) (xa xb : List Nat) (X Y : Arr R) (v : R) : Prop :=
  Piece a xa X ∧ Piece b xb Y ∧ HubHalf a b xa xb X Y v ∧ HubHalf b a xb xa Y X v

theorem kbP_free {n : Nat} {xa : List Nat} (hn : xa.Nodup) (hlt : ∀ i ∈ xa, i < n) :
    freeAxes (xa.length + xa.length) (kbP n xa) = [] :=
  freeAxes_of_perm (kbP_perm hn hlt)

theorem hub_all (hmul : ∀ x y : R, x * y = y * x) (a b : Arr R) (xa xb : List Nat)
    (h : Adm a b xa xb) (hoA : KetLabels a.oddpos) (hoB : KetLabels b.oddpos)
    (hdA : a.oddpos.Pairwise (fun x y => x.1 ≠ y.1))
    (hdB : b.oddpos.Pairwise (fun x y => x.1 ≠ y.1)) :
    ∃ X Y v, KetBraHub a b xa xb X Y v := by
  obtain ⟨X, PX⟩ := piece_of a xa h.va h.fa h.nA h.ltA hoA hdA
  obtain ⟨Y, PY⟩ := piece_of b xb h.vb h.fb h.nB h.ltB hoB hdB
  obtain ⟨v, H⟩ := hub_half hmul a b xa xb X Y h hoB hdB PX PY
  obtain ⟨v', H'⟩ := hub_half hmul b a xb xa Y X (adm_swap h) hoA hdA PY PX
  obtain ⟨c, ec, Sc⟩ := H.rXY
  obtain ⟨c', ec', Sc'⟩ := H'.rXY
  obtain ⟨c'', ec'', Sc''⟩ := scalar_swap hmul H.wXY (by rw [PX.odd, PY.odd]; exact List.Pairwise.nil)
    (by rw [PX.nd]; exact kbP_free h.nA h.ltA) (by rw [PY.nd]; exact kbP_free h.nB h.ltB) ec Sc
  obtain rfl : c' = c'' := by rw [ec'] at ec''; exact Except.ok.inj ec''
  obtain rfl : v' = v := Sc'.2.2.symm.trans Sc''.2.2
  exact ⟨X, Y, v', PX, PY, H, H'⟩

theorem hub_value {a b : Arr R} {xa xb : List Nat} {X Y : Arr R} {v : R}
    (H : HubHalf a b xa xb X Y v) (PX : Piece a xa X) (F : KetBraFirst a b xa xb) :
    ∃ K, a.tensordotF b (.pair (xa.map Int.ofNat) (xb.map Int.ofNat)) .blockwise = .ok K
      ∧ v = normSq K := by
  obtain ⟨K, Kb', T, X', BX, XB, eK, _, _, _, eX, _, eBX, ⟨c, ec, _, _, cv⟩, _, _⟩ := F
  obtain rfl : X = X' := by have := PX.call; rw [this] at eX; exact Except.ok.inj eX
  rw [kbX_eq] at eBX
  obtain ⟨BX2, c2, e1, e2, S⟩ := H.rBX
  obtain rfl : BX = BX2 := by unfold tdF at e1; rw [eBX] at e1; exact Except.ok.inj e1
  have W := H.wBX BX e1
  have hl : ((kbQ a.ndim xa).map ((freeAxes b.ndim xb).length + ·)).length = xb.length := by
    have := W.len
    simp only [List.length_append, List.length_map, List.length_range] at this ⊢
    omega
  have hc := tdotF_axes_comm_w BX b _ _ _ _ hl W
  rw [kbU_eq] at ec
  have ec' : tdF BX b (List.range (freeAxes b.ndim xb).length
      ++ (kbQ a.ndim xa).map ((freeAxes b.ndim xb).length + ·)) (freeAxes b.ndim xb ++ xb) = .ok c := ec
  rw [hc, e2] at ec'
  obtain rfl : c2 = c := Except.ok.inj ec'
  exact ⟨K, eK, S.2.2.symm.trans cv⟩

/-- all ket-bra-first routes (bra on the left) give `Σ|K|²` -/
def KetBraAll (a b : Arr R) (xa xb : List Nat) : Prop :=
  ∃ K X Y, a.tensordotF b (.pair (xa.map Int.ofNat) (xb.map Int.ofNat)) .blockwise = .ok K
    ∧ KetBraHub a b xa xb X Y (normSq K)

theorem ketbra_all (hmul : ∀ x y : R, x * y = y * x) (a b : Arr R) (xa xb : List Nat)
    (ha : a.validB = true) (hb : b.validB = true) (hfa : a.fermi = true) (hfb : b.fermi = true)
    (hadm : ValidP.tdotAdmissibleB a b xa xb = true)
    (hoA : KetLabels a.oddpos) (hoB : KetLabels b.oddpos)
    (hd : (a.oddpos ++ b.oddpos).Pairwise (fun x y => x.1 ≠ y.1))
    (hF : KetBraFirst a b xa xb ∨ KetBraFirst b a xb xa) : KetBraAll a b xa xb := by
  have h := Adm.of ha hb hfa hfb hadm
  have hdA : a.oddpos.Pairwise (fun x y => x.1 ≠ y.1) := (List.pairwise_append.1 hd).1
  have hdB : b.oddpos.Pairwise (fun x y => x.1 ≠ y.1) := (List.pairwise_append.1 hd).2.1
  obtain ⟨X, Y, v, PX, PY, H, H'⟩ := hub_all hmul a b xa xb h hoA hoB hdA hdB
  obtain ⟨K, _, K', _, TN, _⟩ := network_norm_mixed hmul a b xa xb ha hb hfa hfb hadm hoA hoB hd
  rcases hF with F | F
  · obtain ⟨K2, eK2, hv⟩ := hub_value H PX F
    obtain rfl : K = K2 := by have := TN.eK; rw [this] at eK2; exact Except.ok.inj eK2
    subst hv
    exact ⟨K, X, Y, TN.eK, PX, PY, H, H'⟩
  · obtain ⟨K2, eK2, hv⟩ := hub_value H' PY F
    obtain rfl : K' = K2 := by have := TN.eK'; rw [this] at eK2; exact Except.ok.inj eK2
    rw [TN.val] at hv
    subst hv
    exact ⟨K, X, Y, TN.eK, PX, PY, H, H'⟩

end main

end SymmModel.NormNet
