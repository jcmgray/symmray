/-
  SymmModel.Proofs.NetNorm3 — network form of the norm (property C10):
  the sequential bracketing with mixed orders `((ā·b̄)·b)·a` with EVERY call in its own mode:
  the generic step `(Xm·q)·p` (first the SECOND factor of the half, then the first) from the
  blockwise `(X·q)·p`, and the network statement.
-/
import SymmModel.Proofs.NetNorm2
namespace SymmModel.NormNet
open SymmModel SymmModel.Lazy SymmModel.Norm SymmModel.TdotP SymmModel.GradedP SymmModel.RoutesP
open SymmModel.AssocP

section anymode
variable {R : Type} [AddCommMonoid R] [Mul R] [Neg R] [SignRing R]

theorem tw_cross_any (hz1 : ∀ x : R, 0 * x = 0) (hz2 : ∀ x : R, x * 0 = 0)
    (p q X Xm AB c : Arr R) (xp xq : List Nat)
    (hp : p.validB = true) (hq : q.validB = true) (hfp : p.fermi = true) (hfq : q.fermi = true)
    (hadm : ValidP.tdotAdmissibleB p q xp xq = true) (H : HalfPair X Xm p q xp xq)
    (e1 : X.tensordotF q (.pair
        (((List.range (freeAxes q.ndim xq).length).map ((freeAxes p.ndim xp).length + ·)).map
          Int.ofNat) ((freeAxes q.ndim xq).map Int.ofNat)) .blockwise = .ok AB)
    (e2 : AB.tensordotF p (.pair ((Assoc2P.axesAB
          ((freeAxes p.ndim xp).length + (freeAxes q.ndim xq).length) q.ndim
          ((List.range (freeAxes q.ndim xq).length).map ((freeAxes p.ndim xp).length + ·))
          (List.range (freeAxes p.ndim xp).length) (freeAxes q.ndim xq) xq).map Int.ofNat)
        ((freeAxes p.ndim xp ++ xp).map Int.ofNat)) .blockwise = .ok c)
    (hc : c.ndim = 0) (m1 m2 : TdotMode) :
    ∃ ABm cm, Xm.tensordotF q (.pair
          (((List.range (freeAxes q.ndim xq).length).map ((freeAxes p.ndim xp).length + ·)).map
            Int.ofNat) ((freeAxes q.ndim xq).map Int.ofNat)) m1 = .ok ABm
      ∧ ABm.tensordotF p (.pair ((Assoc2P.axesAB
            ((freeAxes p.ndim xp).length + (freeAxes q.ndim xq).length) q.ndim
            ((List.range (freeAxes q.ndim xq).length).map ((freeAxes p.ndim xp).length + ·))
            (List.range (freeAxes p.ndim xp).length) (freeAxes q.ndim xq) xq).map Int.ofNat)
          ((freeAxes p.ndim xp ++ xp).map Int.ofNat)) m2 = .ok cm
      ∧ cm.ndim = 0 ∧ cm.oddpos = c.oddpos ∧ cm.elem [] [] = c.elem [] [] := by
  have h := Adm.of hp hq hfp hfq hadm
  rw [← halfS_ndim X p q xp xq H.frX (keys_nodup_of_validB H.vX)] at e2 ⊢
  obtain ⟨ABm, cm, e1m, e2m, pc⟩ := Net4P.left_two_any hz1 hz2 H.padA hq hp
    (half_tri_cross H.vXm H.fXm H.sXm H.frXm h) (half_tri_cross H.vX H.fX H.sX H.frX h) e1 e2 m1 m2
  exact ⟨ABm, cm, e1m, e2m, pc.scalar hc⟩

end anymode

section seqM
variable {R : Type} [AddCommMonoid R] [Mul R] [Neg R] [Conj R] [NetLaws R] [AssocLaws R]

/-- the conclusion of `network_norm_mixed_seq_any_mode` -/
def MixedSeqM (a b : Arr R) (xa xb : List Nat) (mKb m1 m2 : TdotMode) : Prop :=
  ∃ K Kbm, a.tensordotF b (.pair (xa.map Int.ofNat) (xb.map Int.ofNat)) .blockwise = .ok K
    ∧ (braOf a xa).tensordotF (braOf b xb) (.pair (xa.map Int.ofNat) (xb.map Int.ofNat)) mKb
        = .ok Kbm
    ∧ ∃ T c, Kbm.tensordotF b (.pair
          (((List.range (freeAxes b.ndim xb).length).map ((freeAxes a.ndim xa).length + ·)).map
            Int.ofNat) ((freeAxes b.ndim xb).map Int.ofNat)) m1 = .ok T
      ∧ T.tensordotF a (.pair ((Assoc2P.axesAB
            ((freeAxes a.ndim xa).length + (freeAxes b.ndim xb).length) b.ndim
            ((List.range (freeAxes b.ndim xb).length).map ((freeAxes a.ndim xa).length + ·))
            (List.range (freeAxes a.ndim xa).length) (freeAxes b.ndim xb) xb).map Int.ofNat)
          ((freeAxes a.ndim xa ++ xa).map Int.ofNat)) m2 = .ok c
      ∧ c.ndim = 0 ∧ c.oddpos = [] ∧ c.elem [] [] = normSq K

theorem network_norm_mixed_seqM (hmul : ∀ x y : R, x * y = y * x) (a b : Arr R) (xa xb : List Nat)
    (ha : a.validB = true) (hb : b.validB = true) (hfa : a.fermi = true) (hfb : b.fermi = true)
    (hadm : ValidP.tdotAdmissibleB a b xa xb = true)
    (hoA : KetLabels a.oddpos) (hoB : KetLabels b.oddpos)
    (hd : (a.oddpos ++ b.oddpos).Pairwise (fun x y => x.1 ≠ y.1)) (mKb m1 m2 : TdotMode) :
    MixedSeqM a b xa xb mKb m1 m2 := by
  have hz1 : ∀ x : R, 0 * x = 0 := AssocLaws.zero_mul
  have hz2 : ∀ x : R, x * 0 = 0 := AssocLaws.mul_zero
  have h := Adm.of ha hb hfa hfb hadm
  have hB := braOf_adm h
  obtain ⟨K, Kb, eK, eKb, T, c, e1, e2, cn, co, cv⟩ :=
    network_norm_mixed_seq hmul a b xa xb ha hb hfa hfb hadm hoA hoB hd
      (LabelAlg.netLabelsB_of_distinct _ _ _ _ (labels_swap hd))
  obtain ⟨Kbm, eKbm, H1⟩ := HalfPair.of_call hz1 hz2 (p := a) (q := b) (AdmW.ofAdm hB)
    (braOf_sym a xa) (braOf_without a b xa xb) eKb mKb
  have hXn := halfS_ndim Kb a b xa xb H1.frX (keys_nodup_of_validB H1.vX)
  rw [hXn] at e2
  obtain ⟨Tm, cm, g1, g2, g3, g4, g5⟩ := tw_cross_any hz1 hz2 a b Kb Kbm T c xa xb ha hb hfa hfb
    hadm H1 e1 e2 cn m1 m2
  exact ⟨K, Kbm, eK, eKbm, Tm, cm, g1, g2, g3, g4.trans co, g5.trans cv⟩

end seqM

end SymmModel.NormNet
