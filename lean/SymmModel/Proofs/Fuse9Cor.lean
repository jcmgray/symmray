/-
  SymmModel.Proofs.Fuse9Cor — when the legs of every group share one direction no axis contributes to
  the sign: `mmAxes_nil` (`mmAxes a groups = []`).  The consequence, equal value views of
  `unfuseAllF (conjF (fuseF a groups))` and `conjF (transposeF a perm)`, is
  `C05.conj_fuse_same_direction` (Props/C05i).
-/
import SymmModel.Proofs.Fuse9Main
namespace SymmModel
namespace FuseP
set_option linter.unusedSectionVars false
open SymmModel.Lazy SymmModel.KoszulP SymmModel.LinalgLemmas

theorem mmRec_nil (idx : List Index) (groups : List (List Nat)) (pos : Nat) : ∀ g : Nat,
    (∀ g', g' < g → multiB groups g' = true → ∀ ix subs exts, idx[pos + g']? = some ix →
      ix.sub = some (subs, exts) → mismatchLegs ix subs = []) →
    mmRec idx groups pos g [] = [] := by
  intro g
  induction g with
  | zero => intro _; rfl
  | succ g ih =>
    intro h
    have ih' := ih (fun g' hg' => h g' (by omega))
    simp only [mmRec]
    split
    · rename_i hm
      cases hq : idx[pos + g]? with
      | none => exact ih'
      | some ix =>
        simp only
        cases hs : ix.sub with
        | none => exact ih'
        | some q =>
          obtain ⟨subs, exts⟩ := q
          simp only
          rw [h g (by omega) hm ix subs exts hq hs]
          exact ih'
    · exact ih'

theorem mismatchLegs_nil (ix : Index) (subs : List Index)
    (h : ∀ t, t < subs.length → (subs.getD t default).dual = ix.dual) : mismatchLegs ix subs = [] := by
  unfold mismatchLegs
  rw [List.filter_eq_nil_iff]
  intro t ht
  rw [h t (List.mem_range.1 ht)]
  simp only [bne_self_eq_false, Bool.false_eq_true, not_false_eq_true]

theorem permuted_newAxis {α : Type} {groups : List (List Nat)} {duals : List Bool} (hok : GroupsOk groups duals.length)
    (l : List α) (d : α) (hl : l.length = duals.length) {ax : Nat} (hax : ax ∈ groups.flatten) :
    (permuted l (calcFuseGroupInfo groups duals).perm).getD
        ((indexOf? (calcFuseGroupInfo groups duals).perm ax).getD 0) d = l.getD ax d := by
  obtain ⟨t, ht, rfl⟩ := List.mem_iff_getElem.1 hax
  rw [indexOf?_perm_flatten hok ht, Option.getD_some]
  have hall : ∀ p ∈ (calcFuseGroupInfo groups duals).perm, p < l.length := by
    intro p hp; rw [hl]; exact (mem_perm hok.adm).1 hp
  rw [permuted_eq_map l d _ hall]
  have h1 : (calcFuseGroupInfo groups duals).perm[(calcFuseGroupInfo groups duals).position + t]?
      = some groups.flatten[t] := by
    rw [perm_eq, axesBefore_range _ _, List.append_assoc, List.getElem?_append_right (by simp),
      List.getElem?_append_left (by simpa using ht)]
    simp only [List.length_range, add_tsub_cancel_left, List.getElem?_eq_getElem ht]
  simp only [List.getD_eq_getElem?_getD, List.getElem?_map, h1, Option.map_some, Option.getD_some]

section
variable {R : Type} [Zero R] [Neg R] [Conj R] [LawfulNegConj R]

theorem mmAxes_nil (a : Arr R) (groups : List (List Nat)) (hok : GroupsOk groups a.ndim)
    (hdir : ∀ g ∈ groups, ∀ ax ∈ g, a.duals.getD ax false = a.duals.getD (g.headD 0) false) :
    mmAxes a groups = [] := by
  have hfld := signAdj_fields a groups
  have hok4 := signAdj_groupsOk (a := a) hok
  have hpos := signAdj_position (a := a) hok
  have hposM : (giM (signAdj a groups) (newGroupsF groups a.duals)).position
      = (calcFuseGroupInfo groups a.duals).position := hpos
  unfold mmAxes
  apply mmRec_nil
  intro g' hg' hm ix subs exts hix hsub
  apply mismatchLegs_nil
  intro t ht
  have hgg : groups[g']? = some groups[g'] := List.getElem?_eq_getElem hg'
  have hm4 : multiB (newGroupsF groups a.duals) g' = true := by rw [multiB_newGroupsF]; exact hm
  obtain ⟨gx, hgx, hlen⟩ := multiB_iff.1 hm4
  have hgx' : gx = groups[g'].map (fun ax => (indexOf? (calcFuseGroupInfo groups a.duals).perm ax).getD 0) := by
    rw [newGroupsF_getElem?, hgg] at hgx
    simpa only [Option.map_some, Option.some.injEq] using hgx.symm
  have hixM : ix = ixM (signAdj a groups) (newGroupsF groups a.duals) g' := by
    have hlt : (calcFuseGroupInfo groups a.duals).position + g'
        < (newIdxM (signAdj a groups) (newGroupsF groups a.duals)).length := getElem?_lt hix
    simp only [ixM, hposM, List.getD_eq_getElem?_getD, hix, Option.getD_some]
  have hs := ixM_sub hok4.adm hgx hlen
  rw [← hixM, hsub] at hs
  simp only [Option.some.injEq, Prod.mk.injEq] at hs
  have hsubs := hs.1
  have hgne : groups[g'] ≠ [] := hok.gne _ (List.getElem_mem hg')
  have hmemF : ∀ ax ∈ groups[g'], ax ∈ groups.flatten :=
    fun ax hax => List.mem_flatten.2 ⟨_, List.getElem_mem hg', hax⟩
  have hal : a.indices.length = a.duals.length := (duals_length a).symm
  have hdual : ix.dual = a.duals.getD (groups[g'].headD 0) false := by
    rw [hixM, ixM_dual hok4.adm hgx hlen, groupDuals_getD _ _ _ _ hgx]
    show ((signAdj a groups).indices.map Index.dual).getD _ false = _
    rw [getD_map_dual, hfld.2.1, hgx']
    have hhead : (groups[g'].map (fun ax => (indexOf? (calcFuseGroupInfo groups a.duals).perm ax).getD 0)).headD 0
        = (indexOf? (calcFuseGroupInfo groups a.duals).perm (groups[g'].headD 0)).getD 0 := by
      cases hq : groups[g'] with
      | nil => exact absurd hq hgne
      | cons x xs => rfl
    rw [hhead, permuted_newAxis (hokD hok) a.indices default hal (hmemF _ (by
      cases hq : groups[g'] with
      | nil => exact absurd hq hgne
      | cons x xs => simp))]
    show _ = (a.indices.map Index.dual).getD _ false
    rw [getD_map_dual]
  rw [hsubs] at ht ⊢
  simp only [List.length_map] at ht
  have hgl : gx.length = groups[g'].length := by rw [hgx', List.length_map]
  have ht' : t < groups[g'].length := by rw [← hgl]; exact ht
  have hleg : ((gx.map (fun ax => (signAdj a groups).indices.getD ax default)).getD t default).dual
      = a.duals.getD (groups[g'][t]) false := by
    have e1 : (gx.map (fun ax => (signAdj a groups).indices.getD ax default)).getD t default
        = (signAdj a groups).indices.getD (gx.getD t 0) default := by
      simp only [List.getD_eq_getElem?_getD, List.getElem?_map, List.getElem?_eq_getElem ht, Option.map_some,
        Option.getD_some]
    have e2 : gx.getD t 0 = (indexOf? (calcFuseGroupInfo groups a.duals).perm groups[g'][t]).getD 0 := by
      rw [hgx']
      simp only [List.getD_eq_getElem?_getD, List.getElem?_map, List.getElem?_eq_getElem ht', Option.map_some,
        Option.getD_some]
    rw [e1, e2, hfld.2.1, permuted_newAxis (hokD hok) a.indices default hal (hmemF _ (List.getElem_mem ht'))]
    show _ = (a.indices.map Index.dual).getD _ false
    rw [getD_map_dual]
  rw [hleg, hdual]
  exact hdir _ (List.getElem_mem hg') _ (List.getElem_mem ht')

end

end FuseP
end SymmModel
