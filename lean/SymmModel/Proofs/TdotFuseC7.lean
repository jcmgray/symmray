/-
  SymmModel.Proofs.TdotFuseC7 — fermionic fuse-free-commute with the contractions in any mode.
  The two halves `lead_fermi_left` and `fuseF_lead` combined with the padding relation between the
  results of a call in fused / auto mode and in blockwise mode; the blockwise form is the case
  `m1 = m2 = blockwise`.
-/
import SymmModel.Proofs.TdotFuseC6

namespace SymmModel.TdotP
open SymmModel SymmModel.GradedP SymmModel.Lazy SymmModel.AssocP SymmModel.RoutesP

variable {R : Type}

theorem pad_elem_big [Zero R] [Neg R] {P Q : Arr R} (hp : Pad P Q) {Wt : List Index}
    (hfr : List.Forall₂ SizeLe P.indices Wt) (s : Sector) (o : List Nat)
    (ho : inBox (Arr.blockShapeD Wt s) o = true) : P.elem s o = Q.elem s o := by
  by_cases hs : s ∈ P.sectors
  · obtain ⟨p, hpm, rfl⟩ := List.mem_map.mp hs
    have h1 := hp.shapeP p hpm
    have h2 := blockShape?_weaken hfr _ _ h1
    apply hp.elem _ hs
    unfold Arr.blockShapeD at ho ⊢
    rw [h2] at ho
    rw [h1]
    exact ho
  · rw [Arr.elem_of_not_mem hs, Arr.elem_of_not_mem (fun h => hs (hp.sub s h))]

/-- a successful call in any mode: the blockwise call succeeds, and the result is a padding of it
    (`Net4P.pad_call` on unpadded operands, read from the call in mode `mode`) -/
theorem call_any [AddCommMonoid R] [Mul R] [Neg R] [SignRing R]
    (hz1 : ∀ x : R, 0 * x = 0) (hz2 : ∀ x : R, x * 0 = 0) (a b : Arr R) (xa xb : List Nat)
    (W : AdmW a b xa xb) (mode : TdotMode) (rm : Arr R)
    (hm : a.tensordotF b (.pair (xa.map Int.ofNat) (xb.map Int.ofNat)) mode = .ok rm) :
    ∃ rb, a.tensordotF b (.pair (xa.map Int.ofNat) (xb.map Int.ofNat)) .blockwise = .ok rb
      ∧ Pad rm rb ∧ InterW a b xa xb rm ∧ InterW a b xa xb rb := by
  -- a call fails in every mode or in none (only the label merge can fail)
  have key : ∀ m, (m = .fused ∨ m = .auto) →
      a.tensordotF b (.pair (xa.map Int.ofNat) (xb.map Int.ofNat)) m = .ok rm →
      ∃ rb, a.tensordotF b (.pair (xa.map Int.ofNat) (xb.map Int.ofNat)) .blockwise = .ok rb := by
    intro m hmode hm'
    obtain ⟨he, hk⟩ := tensordotF_modes_all_w hz1 hz2 a b xa xb W m hmode
    cases hmo : OddposP.mergeOddpos a.parity a.oddpos b.oddpos with
    | error e => rw [(he e hmo).1] at hm'; cases hm'
    | ok r => obtain ⟨_, rb, _, h2, _⟩ := hk r hmo; exact ⟨rb, h2⟩
  obtain ⟨rb, hb⟩ : ∃ rb, a.tensordotF b (.pair (xa.map Int.ofNat) (xb.map Int.ofNat)) .blockwise = .ok rb := by
    cases mode with
    | fused => exact key .fused (Or.inl rfl) hm
    | auto => exact key .auto (Or.inr rfl) hm
    | blockwise => exact ⟨rm, hm⟩
  have pa := Net4P.PadA.refl W.va
  have pb := Net4P.PadA.refl W.vb
  obtain ⟨zm, hzm, pm, Im⟩ := Net4P.pad_call hz1 hz2 pa pb W W rb hb mode
  obtain ⟨zb, hzb, _, Ib⟩ := Net4P.pad_call hz1 hz2 pa pb W W rb hb .blockwise
  obtain rfl : zm = rm := Except.ok.inj (hzm.symm.trans hm)
  obtain rfl : zb = rb := Except.ok.inj (hzb.symm.trans hb)
  exact ⟨zb, hb, pm.pad, Im, Ib⟩

theorem call_any_exists [AddCommMonoid R] [Mul R] [Neg R] [SignRing R]
    (hz1 : ∀ x : R, 0 * x = 0) (hz2 : ∀ x : R, x * 0 = 0) (a b : Arr R) (xa xb : List Nat)
    (W : AdmW a b xa xb) (rb : Arr R)
    (hb : a.tensordotF b (.pair (xa.map Int.ofNat) (xb.map Int.ofNat)) .blockwise = .ok rb)
    (mode : TdotMode) :
    ∃ rm, a.tensordotF b (.pair (xa.map Int.ofNat) (xb.map Int.ofNat)) mode = .ok rm := by
  obtain ⟨zm, hzm, _⟩ := Net4P.pad_call hz1 hz2 (Net4P.PadA.refl W.va) (Net4P.PadA.refl W.vb) W W rb hb mode
  exact ⟨zm, hzm⟩

/-- the leading `k` free legs of the left operand keep their directions in the result (any mode),
    so the C05 fuse sign of the group `[0 … k-1]` is the same function of the leading charges -/
theorem fuseSignT_lead_result [AddCommMonoid R] [Mul R] [Neg R] [SignRing R]
    (hz1 : ∀ x : R, 0 * x = 0) (hz2 : ∀ x : R, x * 0 = 0) {a b : Arr R} {xa xb : List Nat}
    (W : AdmW a b xa xb) (mode : TdotMode) (c : Arr R) (k : Nat)
    (hk1 : 1 ≤ k) (hk : k ≤ a.ndim) (hxa : ∀ x ∈ xa, k ≤ x)
    (hc : a.tensordotF b (.pair (xa.map Int.ofNat) (xb.map Int.ofNat)) mode = .ok c) :
    k ≤ c.ndim ∧ ∀ {T T' : Sector}, T.take k = T'.take k →
      FuseP.fuseSignT a [List.range k] T = FuseP.fuseSignT c [List.range k] T' := by
  obtain ⟨_, _, _, I, _⟩ := call_any hz1 hz2 a b xa xb W mode c hc
  have ean : a.indices.length = a.ndim := rfl
  have ebn : b.indices.length = b.ndim := rfl
  have hfr0 := I.frame
  have hWeq : without a.indices xa ++ without b.indices xb
      = a.indices.take k ++ (permuted a.indices (freeTail a.ndim k xa)
          ++ permuted b.indices (freeAxes b.ndim xb)) := by
    rw [without_eq_permuted_freeAxes, without_eq_permuted_freeAxes, ean, ebn,
      freeAxes_lead a.ndim k xa hk hxa, permuted_append, List.append_assoc,
      ValidP.permuted_range_take]
  have htk : (a.indices.take k).length = k := by rw [List.length_take, ean]; omega
  have hkc : k ≤ c.ndim := by
    show k ≤ c.indices.length
    rw [hfr0.length_eq, hWeq, List.length_append, htk]; omega
  have hdual : ∀ ax, ax < k → (a.indices.getD ax default).dual = (c.indices.getD ax default).dual := by
    intro ax hax
    have := forall₂_getD hfr0 ax (by show ax < c.ndim; omega) default default
    rw [hWeq, getD_append_take _ _ hax (by rw [ean]; exact hk)] at this
    exact this.1.symm
  exact ⟨hkc, fun hT => fuseSignT_lead_congr a c hk1 hk hkc I.sym.symm hdual hT⟩

/-- **fermionic fuse-free-commute with the two contractions in arbitrary modes** (`m1` for the
    plain contraction, `m2` for the contraction of the pre-fused operand; each of blockwise / fused /
    auto). -/
theorem lead_commute_fermi_modes [AddCommMonoid R] [Mul R] [Neg R] [SignRing R]
    (hz1 : ∀ x : R, 0 * x = 0) (hz2 : ∀ x : R, x * 0 = 0) (a b cm : Arr R) (xa xb : List Nat) (k : Nat)
    (e : Bool) (m1 m2 : TdotMode)
    (ha : a.validB = true) (hb : b.validB = true) (hfa : a.fermi = true) (hfb : b.fermi = true)
    (hadm : tdotAdmissibleCommonB a b xa xb = true)
    (hk1 : 1 ≤ k) (hk : k ≤ a.ndim) (hxa : ∀ x ∈ xa, k ≤ x)
    (hcm : a.tensordotF b (.pair (xa.map Int.ofNat) (xb.map Int.ofNat)) m1 = .ok cm) :
    a.fuseF [List.range k] .insert e
        = .ok (FuseP.fusedArrM (FuseP.signAdj a [List.range k]) [List.range k])
    ∧ cm.fuseF [List.range k] .insert e
        = .ok (FuseP.fusedArrM (FuseP.signAdj cm [List.range k]) [List.range k])
    ∧ k ≤ cm.ndim
    ∧ ∃ cPm, (FuseP.fusedArrM (FuseP.signAdj a [List.range k]) [List.range k]).tensordotF b
          (.pair ((xa.map (sh k)).map Int.ofNat) (xb.map Int.ofNat)) m2 = .ok cPm
      ∧ ∀ (c0 c2 : Charge) (i0 d0 i2 d2 : Nat) (S rest : Sector) (O orest shp : List Nat),
        decAx (FuseP.signAdj a [List.range k]) [List.range k] 0 c0 i0 = some (S, O) →
        (FuseP.ixM (FuseP.signAdj a [List.range k]) [List.range k] 0).sizeOf? c0 = some d0 → i0 < d0 →
        decAx (FuseP.signAdj cm [List.range k]) [List.range k] 0 c2 i2 = some (S, O) →
        (FuseP.ixM (FuseP.signAdj cm [List.range k]) [List.range k] 0).sizeOf? c2 = some d2 → i2 < d2 →
        Arr.blockShape? (cm.indices.drop k) rest = some shp → inBox shp orest = true →
        cPm.elem (c0 :: rest) (i0 :: orest)
          = (FuseP.fusedArrM (FuseP.signAdj cm [List.range k]) [List.range k]).elem
              (c2 :: rest) (i2 :: orest) := by
  have W := AdmW.of ha hb hfa hfb hadm
  have hnA := W.nA
  have hnB := W.nB
  have hA := W.ltA
  have hB := W.ltB
  have ean : a.indices.length = a.ndim := rfl
  have ebn : b.indices.length = b.ndim := rfl
  obtain ⟨c, hc, hpad, Im, Ib⟩ := call_any hz1 hz2 a b xa xb W m1 cm hcm
  obtain ⟨cP, W', hcP, hleft⟩ := lead_fermi_left hz1 hz2 a b c xa xb k e ha hb hfa hfb hadm hk1 hk hxa hc
  obtain ⟨cPm, hcPm⟩ := call_any_exists hz1 hz2 _ b _ xb W' cP hcP m2
  obtain ⟨cP', hcP', hpadP, IPm, _⟩ := call_any hz1 hz2 _ b _ xb W' m2 cPm hcPm
  have ecP : cP' = cP := by rw [hcP] at hcP'; exact (Except.ok.inj hcP').symm
  subst ecP
  have hfr0 : List.Forall₂ SizeLe cm.indices (without a.indices xa ++ without b.indices xb) := Im.frame
  have hWeq : without a.indices xa ++ without b.indices xb
      = a.indices.take k ++ (permuted a.indices (freeTail a.ndim k xa)
          ++ permuted b.indices (freeAxes b.ndim xb)) := by
    rw [without_eq_permuted_freeAxes, without_eq_permuted_freeAxes, ean, ebn,
      freeAxes_lead a.ndim k xa hk hxa, permuted_append, List.append_assoc,
      ValidP.permuted_range_take]
  have htk : (a.indices.take k).length = k := by rw [List.length_take, ean]; omega
  obtain ⟨hkc, hsgT⟩ := fuseSignT_lead_result hz1 hz2 W m1 cm k hk1 hk hxa hcm
  have hsg : ∀ T, FuseP.fuseSignT a [List.range k] T = FuseP.fuseSignT cm [List.range k] T :=
    fun T => hsgT rfl
  obtain ⟨hfuseA, _, _⟩ := fuseF_lead a k e ha hfa hk1 hk
  obtain ⟨hfuseC, _, hright⟩ := fuseF_lead cm k e Im.valid Im.fermi hk1 hkc
  refine ⟨hfuseA, hfuseC, hkc, cPm, hcPm, ?_⟩
  intro c0 c2 i0 d0 i2 d2 S rest O orest shp hdec hz hi hdec2 hz2' hi2 hshp hbox
  rw [hright c2 i2 d2 S rest O orest shp hdec2 hz2' hi2 hshp hbox]
  have hT : (without a.indices xa ++ without b.indices xb).drop k
      = permuted a.indices (freeTail a.ndim k xa) ++ permuted b.indices (freeAxes b.ndim xb) := by
    rw [hWeq]; exact List.drop_left' htk
  have hfr : List.Forall₂ SizeLe (cm.indices.drop k)
      (permuted a.indices (freeTail a.ndim k xa) ++ permuted b.indices (freeAxes b.ndim xb)) := by
    rw [← hT]; exact List.forall₂_drop k hfr0
  obtain ⟨Lr, Rs, oLr, oR, shpLr, shpR, rfl, rfl, hLr, hbLr, hR, hbR⟩ := address_split (blockShape?_weaken hfr rest shp hshp) hbox
  obtain ⟨bF, bA, hE⟩ := hleft c0 i0 d0 S Lr Rs O oLr oR shpLr shpR hdec hz hi hLr hbLr hR hbR
  have e1 : c0 :: (Lr ++ Rs) = (c0 :: Lr) ++ Rs := rfl
  have e2 : i0 :: (oLr ++ oR) = (i0 :: oLr) ++ oR := rfl
  have e3 : S ++ (Lr ++ Rs) = (S ++ Lr) ++ Rs := (List.append_assoc _ _ _).symm
  have e4 : O ++ (oLr ++ oR) = (O ++ oLr) ++ oR := (List.append_assoc _ _ _).symm
  rw [e1, e2, e3, e4, pad_elem_big hpadP IPm.frame _ _ bF, hE, pad_elem_big hpad Im.frame _ _ bA, hsg]

/-- **fermionic: fusing the leading free legs of the left operand before the contraction = fusing
    the leading legs of the result afterwards**, at decoded addresses (blockwise mode, weak guard).
    Both fermionic fuse signs are those of C05 (`signAdj`); they coincide because the leading legs
    of operand and result have the same directions and the same charges. -/
theorem lead_commute_fermi [AddCommMonoid R] [Mul R] [Neg R] [SignRing R]
    (hz1 : ∀ x : R, 0 * x = 0) (hz2 : ∀ x : R, x * 0 = 0) (a b c : Arr R) (xa xb : List Nat) (k : Nat)
    (e : Bool)
    (ha : a.validB = true) (hb : b.validB = true) (hfa : a.fermi = true) (hfb : b.fermi = true)
    (hadm : tdotAdmissibleCommonB a b xa xb = true)
    (hk1 : 1 ≤ k) (hk : k ≤ a.ndim) (hxa : ∀ x ∈ xa, k ≤ x)
    (hc : a.tensordotF b (.pair (xa.map Int.ofNat) (xb.map Int.ofNat)) .blockwise = .ok c) :
    a.fuseF [List.range k] .insert e
        = .ok (FuseP.fusedArrM (FuseP.signAdj a [List.range k]) [List.range k])
    ∧ c.fuseF [List.range k] .insert e
        = .ok (FuseP.fusedArrM (FuseP.signAdj c [List.range k]) [List.range k])
    ∧ k ≤ c.ndim
    ∧ ∃ cP, (FuseP.fusedArrM (FuseP.signAdj a [List.range k]) [List.range k]).tensordotF b
          (.pair ((xa.map (sh k)).map Int.ofNat) (xb.map Int.ofNat)) .blockwise = .ok cP
      ∧ ∀ (c0 c2 : Charge) (i0 d0 i2 d2 : Nat) (S rest : Sector) (O orest shp : List Nat),
        decAx (FuseP.signAdj a [List.range k]) [List.range k] 0 c0 i0 = some (S, O) →
        (FuseP.ixM (FuseP.signAdj a [List.range k]) [List.range k] 0).sizeOf? c0 = some d0 → i0 < d0 →
        decAx (FuseP.signAdj c [List.range k]) [List.range k] 0 c2 i2 = some (S, O) →
        (FuseP.ixM (FuseP.signAdj c [List.range k]) [List.range k] 0).sizeOf? c2 = some d2 → i2 < d2 →
        Arr.blockShape? (c.indices.drop k) rest = some shp → inBox shp orest = true →
        cP.elem (c0 :: rest) (i0 :: orest)
          = (FuseP.fusedArrM (FuseP.signAdj c [List.range k]) [List.range k]).elem
              (c2 :: rest) (i2 :: orest) :=
  lead_commute_fermi_modes hz1 hz2 a b c xa xb k e .blockwise .blockwise ha hb hfa hfb hadm hk1 hk hxa hc

end SymmModel.TdotP
