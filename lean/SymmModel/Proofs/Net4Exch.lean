/-
  SymmModel.Proofs.Net4Exch — EXCHANGE of two neighbouring operands of a contraction sequence:
  for three pieces `X, Y, Z` with a (possibly empty) bond between every pair,
  `(X·Z)·Y`, fermionically transposed by an explicit permutation, is `Eqv` to `(X·Y)·Z`.
  Proof: S5 (`swap_eqv`) at the root, S7 (`assoc_eqv`) for `(Z, X, Y)`, S5 for `Z·X`, congruence,
  S6 as an equivalence (`pre_eqv`), congruence and composition of `transposeF`, S4.
-/
import SymmModel.Proofs.Net4Pre
import SymmModel.Proofs.Net4K4
import SymmModel.Proofs.NormNet24

namespace SymmModel
namespace Net4P
open TdotP GradedP RoutesP KoszulP OddposP AssocP Assoc2P Assoc3P Assoc4P Assoc5P
open Lazy (sgnI)

variable {R : Type}

theorem permuted_rotB_axes (nR nL : Nat) (u v : List Nat) (hu : ∀ i ∈ u, i < nL)
    (hv : ∀ i ∈ v, i < nR) :
    permuted (rotB nR nL) (u ++ v.map (nL + ·)) = u.map (nR + ·) ++ v := by
  unfold rotB
  have hlen : ((List.range nL).map (nR + ·)).length = nL := by simp
  rw [permuted_append]
  congr 1
  · rw [permuted_append_of_lt _ _ u (by rw [hlen]; exact hu), permuted_map,
      permuted_range_of_lt nL u hu]
  · have := permuted_append_map_add ((List.range nL).map (nR + ·)) (List.range nR) v
    rw [hlen] at this
    rw [this, permuted_range_of_lt nR v hv]

section
variable [AddCommMonoid R] [Mul R] [Neg R] [SignRing R]

theorem AdmW.comm {a b : Arr R} {x1 x2 y1 y2 : List Nat} (hl : x1.length = y1.length)
    (h : AdmW a b (x1 ++ x2) (y1 ++ y2)) : AdmW a b (x2 ++ x1) (y2 ++ y1) := by
  have hl2 : x2.length = y2.length := by
    have := h.len
    rw [List.length_append, List.length_append] at this
    omega
  have key := AdmW.relist h (π := (List.range x2.length).map (x1.length + ·) ++ List.range x1.length) (by
      rw [List.length_append, List.range_add]
      exact List.perm_append_comm)
  have e1 := Assoc5P.permuted_rotB x1 x2
  have e2 := Assoc5P.permuted_rotB y1 y2
  unfold Assoc5P.rotB at e1 e2
  rw [← hl, ← hl2] at e2
  rw [e1, e2] at key
  exact key

end

/-- the permutation of the exchange: `fX + fZ` the rank of `X·Z`, `xa` the legs of `X·Z` bonded to `Y`
    (`Z`'s listed first), `xa'` the same legs in `Z·X`, `rotB fX fZ` the rotation `X·Z → Z·X`, `nY'` the
    free rank of `Y`, and `rotB nZ' nXY` the rotation at the root -/
def exchP (fX fZ nY' nZ' nXY : Nat) (xa xa' : List Nat) : List Nat :=
  compose
    (blockP (positions (freeAxes (fX + fZ) xa) (permuted (rotB fX fZ) (freeAxes (fX + fZ) xa')))
      (freeAxes (fX + fZ) xa).length nY')
    (rotB nZ' nXY)

section
variable [AddCommMonoid R] [Mul R] [Neg R] [SignRing R] [AssocLaws R]

theorem exchange (hmul : ∀ x y : R, x * y = y * x) (X Y Z : Arr R) (xy xz yx yz zx zy : List Nat)
    (WXY : AdmW X Y xy yx) (WXZ : AdmW X Z xz zx) (WYZ : AdmW Y Z yz zy)
    (mX : Mid X.ndim xy xz) (mY : Mid Y.ndim yx yz) (mZ : Mid Z.ndim zx zy)
    (hd : OddposP.LabelsDistinct (X.oddpos ++ Y.oddpos ++ Z.oddpos)) :
    ∃ XY XZ c1 c : Arr R,
      tdF X Y xy yx = .ok XY
      ∧ tdF XY Z (Assoc2P.axesAB X.ndim Y.ndim xy xz yx yz) (zx ++ zy) = .ok c1
      ∧ tdF X Z xz zx = .ok XZ
      ∧ tdF XZ Y (Assoc2P.axesAB X.ndim Z.ndim xz xy zx zy) (yx ++ yz) = .ok c
      ∧ c1.validB = true ∧ c.validB = true
      ∧ Arr.isPerm (exchP (freeAxes X.ndim xz).length (freeAxes Z.ndim zx).length
            (freeAxes Y.ndim (yz ++ yx)).length (freeAxes Z.ndim (zx ++ zy)).length
            (freeAxes XY.ndim (Assoc2P.axesAB X.ndim Y.ndim xy xz yx yz)).length
            ((positions (freeAxes Z.ndim zx) zy).map ((freeAxes X.ndim xz).length + ·)
              ++ positions (freeAxes X.ndim xz) xy)
            (Assoc2P.axesAB Z.ndim X.ndim zx zy xz xy)) c.ndim = true
      ∧ Eqv (c.transposeF (exchP (freeAxes X.ndim xz).length (freeAxes Z.ndim zx).length
            (freeAxes Y.ndim (yz ++ yx)).length (freeAxes Z.ndim (zx ++ zy)).length
            (freeAxes XY.ndim (Assoc2P.axesAB X.ndim Y.ndim xy xz yx yz)).length
            ((positions (freeAxes Z.ndim zx) zy).map ((freeAxes X.ndim xz).length + ·)
              ++ positions (freeAxes X.ndim xz) xy)
            (Assoc2P.axesAB Z.ndim X.ndim zx zy xz xy))) c1 := by
  have hdXY : OddposP.LabelsDistinct (X.oddpos ++ Y.oddpos) := (List.pairwise_append.1 hd).1
  have hd' : OddposP.LabelsDistinct (X.oddpos ++ (Y.oddpos ++ Z.oddpos)) := by
    rw [← List.append_assoc]; exact hd
  have hdXZ : OddposP.LabelsDistinct (X.oddpos ++ Z.oddpos) :=
    List.Pairwise.sublist ((List.Sublist.refl _).append (List.sublist_append_right _ _)) hd'
  have hdZX : OddposP.LabelsDistinct (Z.oddpos ++ X.oddpos) :=
    OddposP.LabelsDistinct.perm hdXZ List.perm_append_comm
  have hdZXY : OddposP.LabelsDistinct (Z.oddpos ++ X.oddpos ++ Y.oddpos) :=
    OddposP.LabelsDistinct.perm hd (by
      rw [List.append_assoc Z.oddpos]; exact List.perm_append_comm)
  have TXYZ : TriW X Y Z xy xz yx yz zy zx := ⟨WXY, WYZ, mX, mY, mZ.symm, WXZ.con⟩
  have TXZY : TriW X Z Y xz xy zx zy yz yx := ⟨WXZ, admW_swap WYZ, mX.symm, mZ, mY.symm, WXY.con⟩
  have TZXY : TriW Z X Y zx zy xz xy yx yz :=
    ⟨admW_swap WXZ, WXY, mZ, mX.symm, mY, (admW_swap WYZ).con⟩
  obtain ⟨XY, _, eXY, IXY, pXY⟩ := call_pack X Y xy yx WXY hdXY
  obtain ⟨XZ, _, eXZ, IXZ, pXZ⟩ := call_pack X Z xz zx WXZ hdXZ
  obtain ⟨ZX, _, eZX, IZX, pZX⟩ := call_pack Z X zx xz (admW_swap WXZ) hdZX
  have W1 := admW_left_tri_w IXY.toW TXYZ
  have hd1 : OddposP.LabelsDistinct (XY.oddpos ++ Z.oddpos) :=
    OddposP.LabelsDistinct.perm hd (pXY.symm.append_right _)
  obtain ⟨c1, _, ec1, Ic1, _⟩ := call_pack XY Z _ _ W1 hd1
  obtain ⟨d1, ed1, vd1, _, hE1⟩ := swap_eqv hmul W1 hd1 c1 ec1
  obtain ⟨ZX0, XY0, c1', c2', a1, a2, a3, a4, hA⟩ := assoc_eqv Z X Y zx zy xz xy yx yz
    (admW_swap WXZ) WXY (admW_swap WYZ).con mZ.toNodup mX.symm.toNodup mY.toNodup mZ.lt2 mY.lt2
    (Assoc2P.labelRoutes_of_distinct _ _ _ _ _ hdZXY)
  rw [eZX] at a1
  obtain rfl := Except.ok.inj a1
  rw [eXY] at a3
  obtain rfl := Except.ok.inj a3
  have eax : Assoc2P.axesBC X.ndim Y.ndim xz xy yx yz = Assoc2P.axesAB X.ndim Y.ndim xy xz yx yz := rfl
  rw [eax] at a4
  have ed1' := ed1
  unfold tdF at ed1'
  rw [ed1'] at a4
  obtain rfl := Except.ok.inj a4
  obtain ⟨XZ0, eXZ0, vXZ, vXZr, hE2⟩ := swap_eqv hmul (admW_swap WXZ) hdZX ZX eZX
  unfold tdF at eXZ0
  rw [eXZ] at eXZ0
  obtain rfl := Except.ok.inj eXZ0
  -- congruence: (Z·X)·Y against ((X·Z)ᵗ)·Y
  have W2 := admW_left_tri_w IZX.toW TZXY
  obtain ⟨g, eg, hG⟩ := tdotF_congr W2 hE2.symm (Eqv.refl Y) vXZr WXY.vb c1' a2
  -- S6: ((X·Z)ᵗ)·Y against ((X·Z)·Y)ᵗ
  set fX := (freeAxes X.ndim xz).length with hfX
  set fZ := (freeAxes Z.ndim zx).length with hfZ
  have hnXZ : XZ.ndim = fX + fZ := IXZ.ndim
  have hrot2 : (rotB fX fZ).Perm (List.range XZ.ndim) := by
    rw [hnXZ]; exact perm_of_isPerm (rotB_isPerm fX fZ)
  have hrot2' : Arr.isPerm (rotB fX fZ) XZ.ndim = true := by rw [hnXZ]; exact rotB_isPerm fX fZ
  have WN := admW_left_tri_w IXZ.toW TXZY
  have hN : Assoc2P.axesAB X.ndim Z.ndim xz xy zx zy
      = positions (freeAxes X.ndim xz) xy ++ (positions (freeAxes Z.ndim zx) zy).map (fX + ·) := rfl
  rw [hN] at WN
  have WS := AdmW.comm (by rw [mX.symm.pos_len]; exact WXY.len) WN
  have hxa : permuted (rotB fX fZ) (Assoc2P.axesAB Z.ndim X.ndim zx zy xz xy)
      = (positions (freeAxes Z.ndim zx) zy).map (fX + ·) ++ positions (freeAxes X.ndim xz) xy :=
    permuted_rotB_axes fX fZ _ _ mZ.pos_lt mX.symm.pos_lt
  have hpos : positions (rotB fX fZ) ((positions (freeAxes Z.ndim zx) zy).map (fX + ·)
      ++ positions (freeAxes X.ndim xz) xy) = Assoc2P.axesAB Z.ndim X.ndim zx zy xz xy := by
    rw [← hxa]
    apply positions_permuted
    · exact hrot2.nodup_iff.mpr List.nodup_range
    · intro i hi
      have := axesAB_lt mZ mX.symm i hi
      have hl : (rotB fX fZ).length = fX + fZ := by
        have := hrot2.length_eq
        rw [List.length_range, hnXZ] at this
        exact this
      rw [hl]
      omega
  have hT := PreT.canonical (n := XZ.ndim) (p := rotB fX fZ)
    (xa := (positions (freeAxes Z.ndim zx) zy).map (fX + ·) ++ positions (freeAxes X.ndim xz) xy)
    hrot2 WS.nA WS.ltA
  rw [hpos] at hT
  have hdS : OddposP.LabelsDistinct (XZ.oddpos ++ Y.oddpos) :=
    OddposP.LabelsDistinct.perm hd' (((List.perm_append_comm (l₁ := Y.oddpos) (l₂ := Z.oddpos)).append_left
      X.oddpos).trans (by
        rw [← List.append_assoc]; exact pXZ.symm.append_right _))
  obtain ⟨c, _, ec, Ic, _⟩ := call_pack XZ Y _ _ WS hdS
  obtain ⟨g', eg', _, vc, hPB, hE3⟩ := pre_eqv XZ Y (rotB fX fZ) _ _ _ (yz ++ yx) WS hrot2' hT c ec
  have eg'' := eg'
  unfold tdF at eg''
  rw [eg] at eg''
  obtain rfl := Except.ok.inj eg''
  -- the natural listing of (X·Z)·Y
  have ecN : tdF XZ Y (Assoc2P.axesAB X.ndim Z.ndim xz xy zx zy) (yx ++ yz) = .ok c := by
    rw [hN, ← tdotF_axes_comm_w XZ Y _ _ _ _ (by rw [mX.symm.pos_len]; exact WXY.len) WN]
    exact ec
  have hnd1 : d1.ndim = c1'.ndim := hA.ndim
  have e_cd : Eqv (c.transposeF (blockP _ _ _)) d1 := hE3.trans (hG.symm.trans hA.symm)
  have vcB := transposeF_validB c _ vc Ic.fermi hPB
  have hnB := transposeF_ndim c _ vc Ic.fermi hPB
  have hrot1 : Arr.isPerm (rotB (freeAxes Z.ndim (zx ++ zy)).length
      (freeAxes XY.ndim (Assoc2P.axesAB X.ndim Y.ndim xy xz yx yz)).length) d1.ndim = true := by
    obtain ⟨_, _, Cd⟩ := Call.of_ok (admW_swap W1) ed1
    rw [Cd.toInter.ndim]; exact rotB_isPerm _ _
  have hrot1c : Arr.isPerm (rotB (freeAxes Z.ndim (zx ++ zy)).length
      (freeAxes XY.ndim (Assoc2P.axesAB X.ndim Y.ndim xy xz yx yz)).length) c.ndim = true := by
    rw [← hnB, e_cd.ndim]; exact hrot1
  have cg := transposeF_congr e_cd vcB vd1 Ic.fermi (by rw [hnB]; exact hrot1c)
  have cm := transposeF_comp c _ _ vc Ic.fermi hPB hrot1c
  have hPc : Arr.isPerm (exchP fX fZ (freeAxes Y.ndim (yz ++ yx)).length
      (freeAxes Z.ndim (zx ++ zy)).length
      (freeAxes XY.ndim (Assoc2P.axesAB X.ndim Y.ndim xy xz yx yz)).length
      ((positions (freeAxes Z.ndim zx) zy).map (fX + ·) ++ positions (freeAxes X.ndim xz) xy)
      (Assoc2P.axesAB Z.ndim X.ndim zx zy xz xy))
      c.ndim = true := by
    unfold exchP
    rw [← hnXZ]
    exact isPerm_of_perm (compose_perm (perm_of_isPerm hPB)
      (perm_of_isPerm hrot1c))
  refine ⟨XY, XZ, c1, c, eXY, ec1, eXZ, ecN, Ic1.valid, vc, hPc, ?_⟩
  unfold exchP
  rw [← hnXZ]
  exact (cm.trans cg).trans hE1

end

end Net4P
end SymmModel
