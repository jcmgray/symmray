/-
  SymmModel.Proofs.Heap2Binary — content-level meaning of the effect programs with a second operand:
  `Prog.mutsK` (interleaved effects on the target array and on a temporary dict), `binaryK`
  (`BlockBase._binary_blockwise_op(…, inplace=True)`), `syncedK` (`if o.phases: o = o.phase_sync()`).
  Used for `inplace_same_value` of `__iadd__/__isub__/__imul__/__itruediv__/__ipow__` (property C14).
-/
import SymmModel.Proofs.HeapRefine
namespace SymmModel.Heap

/-- `s` is the footprint `runAct_spec` gives -/
theorem Step.wf_disjoint {h h' : Heap} {x y : ObjId} (s : Step (· = x) (· ∈ dictsOf h x) h h') {a : ArrObj}
    {bd : Dict} {pd : Option Dict} (w : WFArr h y a bd pd) (hne : y ≠ x)
    (hd : ∀ d ∈ dictsOf h y, d ∉ dictsOf h x) : WFArr h' y a bd pd := by
  have hdy : dictsOf h y = dictsOfArr a := dictsOf_of_get? w.arr
  refine wf_other_step s w hne (hd _ ?_) ?_
  · rw [hdy]; simp [dictsOfArr]
  · intro p hp
    exact hd _ (by rw [hdy]; simp [dictsOfArr, hp])


/-- value-level meaning of a `Mut` on (target state, temporary dict); the variables are forgotten -/
def Mut.pure : Mut → PState × Dict → PState × Dict
  | .act _ a, s => (a.pure s.1, s.2)
  | .dmut _ f, s => (s.1, f s.2)

def Mut.exec (env : Env) (h : Heap) : Mut → Heap
  | .act t a => runAct a h (envGet env t)
  | .dmut t f => updDict h (envGet env t) f

theorem mutsK_run (l : List Mut) (k : Prog) (h : Heap) (env : Env) :
    (Prog.mutsK l k).run h env = k.run (l.foldl (Mut.exec env) h) env := by
  induction l generalizing h with
  | nil => rfl
  | cons m r ih =>
    cases m with
    | act _ _ | dmut _ _ =>
      simp only [Prog.mutsK, Mut.cmd, Prog.run, runCmd, List.foldl_cons, Mut.exec]; exact ih _

/-- the temporary dict `q` (holding `td`): a dict object the target `x` does not point to -/
structure TmpOK (h : Heap) (x : ObjId) (q : DictId) (td : Dict) : Prop where
  get : h.get? q = some (.dict td)
  nd : q ∉ dictsOf h x

theorem muts_refines {h0 : Heap} {WA WD : ObjId → Prop} (env : Env) {o : List Bool} (t tmp : Nat)
    (ht : o.getD t false = true) (htmp : o.getD tmp false = true) (l : List Mut)
    (hl : ∀ m ∈ l, (∃ a, m = .act t a) ∨ (∃ f, m = .dmut tmp f)) :
    ∀ {h : Heap} {a : ArrObj} {bd : Dict} {pd : Option Dict} {td : Dict}, Inv h0 WA WD h env o →
      WFArr h (envGet env t) a bd pd → TmpOK h (envGet env t) (envGet env tmp) td →
      ∃ a' bd' pd' td', WFArr (l.foldl (Mut.exec env) h) (envGet env t) a' bd' pd' ∧
        TmpOK (l.foldl (Mut.exec env) h) (envGet env t) (envGet env tmp) td' ∧
        ((cont a' bd' pd', (l.foldl (Mut.exec env) h).bufs), td') =
          l.foldl (fun s m => m.pure s) ((cont a bd pd, h.bufs), td) ∧
        Inv h0 WA WD (l.foldl (Mut.exec env) h) env o := by
  induction l with
  | nil => intro h a bd pd td I w q; exact ⟨a, bd, pd, td, w, q, rfl, I⟩
  | cons m r ih =>
    intro h a bd pd td I w q
    have hr : ∀ m' ∈ r, (∃ a, m' = .act t a) ∨ (∃ f, m' = .dmut tmp f) :=
      fun m' h' => hl m' (List.mem_cons_of_mem _ h')
    have hqx : envGet env tmp ≠ envGet env t := by
      intro e; have := q.get; rw [e, w.arr] at this; cases this
    rcases hl m (List.mem_cons_self ..) with ⟨act, rfl⟩ | ⟨f, rfl⟩
    · -- an effect on the target: the temporary dict is not touched
      obtain ⟨a1, bd1, pd1, w1, e1⟩ := runAct_refines act w
      obtain ⟨st, ds⟩ := runAct_spec act h (envGet env t)
      have q1 : TmpOK (runAct act h (envGet env t)) (envGet env t) (envGet env tmp) td :=
        ⟨st.same q.get hqx q.nd, fun hd => (ds _ hd).elim q.nd
          fun h1 => absurd (get?_lt q.get) (Nat.not_lt.mpr h1)⟩
      obtain ⟨a2, bd2, pd2, td2, w2, q2, e2, I2⟩ := ih hr (I.act ht act) w1 q1
      refine ⟨a2, bd2, pd2, td2, w2, q2, ?_, I2⟩
      simp only [List.foldl_cons, Mut.exec]
      rw [e2, e1]; rfl
    · -- an effect on the temporary dict: the target is not touched
      have hdx : dictsOf h (envGet env t) = dictsOfArr a := dictsOf_of_get? w.arr
      have hnb : envGet env tmp ≠ a.blocks := by
        intro e; apply q.nd; rw [hdx, e]; simp [dictsOfArr]
      have hnp : ∀ p, a.phases = some p → envGet env tmp ≠ p := by
        intro p hp e; apply q.nd; rw [hdx, e]; simp [dictsOfArr, hp]
      have w1 : WFArr (updDict h (envGet env tmp) f) (envGet env t) a bd pd := wf_updOther w hqx hnb hnp f
      have q1 : TmpOK (updDict h (envGet env tmp) f) (envGet env t) (envGet env tmp) (f td) := by
        refine ⟨get?_updDict_self q.get f, ?_⟩
        rw [dictsOf_of_get? w1.arr, ← hdx]; exact q.nd
      obtain ⟨a2, bd2, pd2, td2, w2, q2, e2, I2⟩ := ih hr (I.dmut htmp f) w1 q1
      refine ⟨a2, bd2, pd2, td2, w2, q2, ?_, I2⟩
      simp only [List.foldl_cons, Mut.exec]
      rw [e2, updDict_bufs]; rfl


theorem binMuts_pure (t tmp t' tmp' : Nat) (missing : Missing) (xb ob : Dict) :
    (binMuts t tmp missing xb ob).map Mut.pure = (binMuts t' tmp' missing xb ob).map Mut.pure := by
  simp only [binMuts, map_binLoop]
  congr 1
  funext m e
  cases m <;> rfl

theorem foldl_pure_map (l : List Mut) (s : PState × Dict) :
    l.foldl (fun s m => m.pure s) s = (l.map Mut.pure).foldl (fun s f => f s) s := by
  rw [List.foldl_map]

/-- **value-level meaning of `_binary_blockwise_op`**: the new block dict of the left operand and the
    buffers created, as a function of the left operand's state and of the right operand's block dict -/
def binPure (missing : Missing) (s : PState) (ob : Dict) : PState :=
  let r := (binMuts 0 0 missing s.1.blocks ob).foldl (fun s m => m.pure s) (s, ob)
  match missing with
  | .outer => (Act.bUpdate r.2).pure r.1
  | _ => r.1

theorem see_dict {h : Heap} {q : ObjId} {d : Dict} (hq : h.get? q = some (.dict d)) : see h q = .dict d := by
  simp [see, hq]

theorem view_dictAt {h : Heap} {env : Env} {j : Nat} (hj : j < env.length) {d : Dict}
    (hq : h.get? (envGet env j) = some (.dict d)) : View.dictAt (env.map (see h)) j = d := by
  have : (env.map (see h)).getD j Seen.none = see h (envGet env j) := by
    simp [List.getD, envGet, List.getElem?_map, List.getElem?_eq_getElem hj]
  unfold View.dictAt
  rw [this, see_dict hq]; rfl

/-- **`binaryK` computes `binPure`** of the target's content and of the block dict of `other` — whatever
    `other` is (the target itself in `x += x`, an array sharing dicts with it, …): the code works on a
    private copy of `other.blocks` taken before the first write -/
theorem binaryK_refines {h0 : Heap} {WA WD : ObjId → Prop} (t o : Nat) (missing : Missing) (k : Prog) {h : Heap}
    {env : Env} {oo : List Bool} {a ao : ArrObj} {bd ob : Dict} {pd : Option Dict}
    (I : Inv h0 WA WD h env oo) (hto : oo.getD t false = true) (w : WFArr h (envGet env t) a bd pd)
    (ho : h.arrOf (envGet env o) = some ao) (hob : h.get? ao.blocks = some (.dict ob)) :
    ∃ h' a' bd' pd', (binaryK t o env.length missing k).run h env = k.run h' (env ++ [h.size]) ∧
      WFArr h' (envGet env t) a' bd' pd' ∧
      (cont a' bd' pd', h'.bufs) = binPure missing (cont a bd pd, h.bufs) ob ∧
      Inv h0 WA WD h' (env ++ [h.size]) (oo ++ [true]) := by
  have ht : t < env.length := I.len ▸ getD_true_lt hto
  -- `other_blocks = other.blocks.copy()`
  have hcopy : runCmd (.dictCopy o) h env = ((copyDict h ao.blocks).1, env ++ [h.size]) := by
    simp only [runCmd, ho]; rfl
  have I1 : Inv h0 WA WD (copyDict h ao.blocks).1 (env ++ [h.size]) (oo ++ [true]) := by
    have := runCmd_inv (.dictCopy o) rfl I
    rwa [hcopy] at this
  have hto1 : (oo ++ [true]).getD t false = true := by rw [getD_append_left (getD_true_lt hto)]; exact hto
  have htmp1 : (oo ++ [true]).getD env.length false = true := by rw [← I.len]; exact getD_append_len oo true
  have cs := copyDict_spec h ao.blocks
  have hq1 : (copyDict h ao.blocks).1.get? h.size = some (.dict ob) := copyDict_get?_new hob
  have w1 : WFArr (copyDict h ao.blocks).1 (envGet env t) a bd pd := wf_ext cs.1.ext w
  have ht1 : t < (env ++ [h.size]).length := by
    simp only [List.length_append, List.length_cons, List.length_nil]; omega
  have et : envGet (env ++ [h.size]) t = envGet env t := envGet_append_left _ ht
  have etmp : envGet (env ++ [h.size]) env.length = h.size := envGet_append_len env h.size
  have hbufs1 : (copyDict h ao.blocks).1.bufs = h.bufs := rfl
  have q1 : TmpOK (copyDict h ao.blocks).1 (envGet env t) h.size ob := by
    refine ⟨hq1, ?_⟩
    rw [dictsOf_of_get? w1.arr]
    intro hd
    simp only [dictsOfArr, List.mem_cons, Option.mem_toList] at hd
    rcases hd with e | e
    · have := get?_lt w.blk
      rw [← e] at this; exact Nat.lt_irrefl _ this
    · obtain ⟨d, _, hd, _⟩ := w.ph _ e
      exact Nat.lt_irrefl _ (get?_lt hd)
  have hv : View.at ((env ++ [h.size]).map (see (copyDict h ao.blocks).1)) t = cont a bd pd :=
    view_at ht1 (by rw [et]; exact w1)
  have hd : View.dictAt ((env ++ [h.size]).map (see (copyDict h ao.blocks).1)) env.length = ob :=
    view_dictAt (by simp) (by rw [etmp]; exact hq1)
  obtain ⟨a2, bd2, pd2, td2, w2, q2, e2, I2⟩ :=
    muts_refines (env ++ [h.size]) t env.length hto1 htmp1 (binMuts t env.length missing bd ob)
      (binMuts_tgt _ _ _ _ _) I1 (by rw [et]; exact w1) (by rw [et, etmp]; exact q1)
  rw [et] at w2
  rw [et, etmp] at q2
  rw [hbufs1, foldl_pure_map, binMuts_pure t env.length 0 0, ← foldl_pure_map] at e2
  have hrun : (binaryK t o env.length missing k).run h env =
      (binTail t env.length missing k).run
        ((binMuts t env.length missing bd ob).foldl (Mut.exec (env ++ [h.size])) (copyDict h ao.blocks).1)
        (env ++ [h.size]) := by
    rw [binaryK_eq]
    simp only [Prog.run, hcopy, hv, hd]
    rw [mutsK_run]; rfl
  generalize hh2 : (binMuts t env.length missing bd ob).foldl (Mut.exec (env ++ [h.size]))
    (copyDict h ao.blocks).1 = h2 at *
  cases missing with
  | outer =>
    -- `xy_blocks.update(other_blocks)`
    have hd2 : View.dictAt ((env ++ [h.size]).map (see h2)) env.length = td2 :=
      view_dictAt (by simp) (by rw [etmp]; exact q2.get)
    obtain ⟨a3, bd3, pd3, w3, e3⟩ := runAct_refines (.bUpdate td2) w2
    refine ⟨_, a3, bd3, pd3, ?_, w3, ?_, et ▸ I2.act hto1 (.bUpdate td2)⟩
    · rw [hrun]; simp only [binTail, Prog.run, hd2, runCmd, et]
    · rw [e3]; simp only [binPure]; rw [show (cont a bd pd, h.bufs).1.blocks = bd from rfl, ← e2]
  | strict | inner =>
    refine ⟨h2, a2, bd2, pd2, by rw [hrun]; rfl, w2, ?_, I2⟩
    simp only [binPure]; rw [show (cont a bd pd, h.bufs).1.blocks = bd from rfl, ← e2]


/-- value-level meaning of `syncedK`: the block dict the following code sees as `other.blocks`, and the
    buffers created -/
def syncedPure (fermi : Bool) (co : Content) (bufs : Bufs) : Dict × Bufs :=
  if fermi && !(co.phases.getD []).isEmpty then
    ((S.phaseSync.pure (co, bufs)).1.blocks, (S.phaseSync.pure (co, bufs)).2)
  else (co.blocks, bufs)

theorem syncedPure_clean {co : Content} (bufs : Bufs) (h : co.phases.getD [] = []) :
    syncedPure true co bufs = (co.blocks, bufs) := by
  simp [syncedPure, h]

theorem syncedPure_pending {co : Content} (bufs : Bufs) (h : co.phases.getD [] ≠ []) :
    syncedPure true co bufs = ((S.phaseSync.pure (co, bufs)).1.blocks, (S.phaseSync.pure (co, bufs)).2) := by
  have : (co.phases.getD []).isEmpty = false := by
    cases h' : co.phases.getD [] with
    | nil => exact absurd h' h
    | cons _ _ => rfl
  simp [syncedPure, this]

theorem syncedK_refines (src : Nat) (fermi : Bool) (k : Prog) {h : Heap} {env : Env} {ao : ArrObj}
    {bo : Dict} {po : Option Dict} (hs : src < env.length) (wo : WFArr h (envGet env src) ao bo po)
    {x : ObjId} {a : ArrObj} {bd : Dict} {pd : Option Dict} (wx : WFArr h x a bd pd) :
    ∃ h' y ay, (syncedK src env.length fermi k).run h env = k.run h' (env ++ [y]) ∧
      h'.arrOf y = some ay ∧ h'.get? ay.blocks = some (.dict (syncedPure fermi (cont ao bo po) h.bufs).1) ∧
      h'.bufs = (syncedPure fermi (cont ao bo po) h.bufs).2 ∧ WFArr h' x a bd pd ∧
      Step Never Never h h' := by
  have hv : View.at (env.map (see h)) src = cont ao bo po := view_at hs wo
  unfold syncedK
  simp only [Prog.run, hv]
  by_cases hc : (fermi && !((cont ao bo po).phases.getD []).isEmpty) = true
  · rw [if_pos hc]
    simp only [Prog.run, runCmd]
    obtain ⟨ac, bc, pc, wc, ec, hb⟩ := copyArr_refines wo
    have ey : envGet (env ++ [(copyArr h (envGet env src)).2]) env.length = (copyArr h (envGet env src)).2 :=
      envGet_append_len _ _
    -- nothing that existed may be written: the copy is the only owned variable
    obtain ⟨h2, a2, bd2, pd2, r2, w2, e2, I2⟩ := script_refines2 S.phaseSync env.length k
      (h := (copyArr h (envGet env src)).1) (env := env ++ [(copyArr h (envGet env src)).2])
      (o := List.replicate env.length false ++ [true]) (by simp)
      (runCmd_inv (.copy src) rfl (Inv.start_out h env)) (by rw [ey]; exact wc)
    rw [ey] at w2
    rw [ec, hb] at e2
    refine ⟨h2, _, a2, r2, arrOf_eq_some.mpr w2.arr, ?_, ?_,
      wf_other_step I2.step_never wx id id (fun _ _ => id), I2.step_never⟩
    · simp only [syncedPure, hc, if_true]
      rw [← e2]; exact w2.blk
    · simp only [syncedPure, hc, if_true]
      rw [← e2]
  · rw [if_neg hc]
    simp only [Prog.run, runCmd]
    refine ⟨h, _, ao, rfl, arrOf_eq_some.mpr wo.arr, ?_, ?_, wx, Step.refl _ _ _⟩
    · simp only [syncedPure, hc]; exact wo.blk
    · simp only [syncedPure, hc]; rfl

/-! ### the body of `FermionicArray._binary_blockwise_op` after `xy = self if inplace else self.copy()` -/

/-- `xy.phase_sync(inplace=True); if other.phases: other = other.phase_sync();
    BlockBase._binary_blockwise_op(xy, other, fn, inplace=True)`; `other` is variable 1 -/
def bodyF (t n : Nat) (missing : Missing) : Prog :=
  S.phaseSync.prog t [] <| syncedK 1 n true <| binaryK t n (n + 1) missing .done

/-- value of `bodyF`: `cx` = content of the target, `cy` = content of `other` as seen AFTER the
    target has been synchronised -/
def bodyFPure (missing : Missing) (cx cy : Content) (bufs : Bufs) : PState :=
  let s1 := S.phaseSync.pure (cx, bufs)
  let o := syncedPure true cy s1.2
  binPure missing (s1.1, o.2) o.1

/-- `bodyF` computes `bodyFPure`.  `other` is not described by a content given beforehand: the hypothesis
    `HY` asks what `other` looks like in ANY heap `h1` that the synchronisation of the target may have
    produced (the invariant `Inv … h1` is all that is known of it).  When `other` is another object,
    `HY` is answered by framing (`Inv.wf_other`: same content `cy` as before); when `other` IS the
    target (`x ∘= x`), by the target's synchronised content.  One statement serves both. -/
theorem bodyF_refines {h0 : Heap} {WA WD : ObjId → Prop} (t : Nat) (missing : Missing) {h : Heap} {env : Env}
    {oo : List Bool} {a : ArrObj} {bd : Dict} {pd : Option Dict} (I : Inv h0 WA WD h env oo)
    (hto : oo.getD t false = true) (h1n : 1 < env.length) (w : WFArr h (envGet env t) a bd pd) (cy : Content)
    (HY : ∀ h1 a1 b1 p1, Inv h0 WA WD h1 env oo → WFArr h1 (envGet env t) a1 b1 p1 →
      cont a1 b1 p1 = (S.phaseSync.pure (cont a bd pd, h.bufs)).1 →
      ∃ ay bo po, WFArr h1 (envGet env 1) ay bo po ∧ cont ay bo po = cy) :
    ∃ h' e2 a' bd' pd', (bodyF t env.length missing).run h env = (h', env ++ e2) ∧
      WFArr h' (envGet env t) a' bd' pd' ∧
      (cont a' bd' pd', h'.bufs) = bodyFPure missing (cont a bd pd) cy h.bufs := by
  unfold bodyF
  have ht : t < env.length := I.len ▸ getD_true_lt hto
  obtain ⟨h1, a1, b1, p1, r1, w1, e1, I1⟩ := script_refines2 S.phaseSync t
    (syncedK 1 env.length true (binaryK t env.length (env.length + 1) missing .done)) hto I w
  obtain ⟨ay, bo, po, wy, ecy⟩ := HY h1 a1 b1 p1 I1 w1 (by rw [← e1])
  -- the synchronised copy of `other` is a sub-computation that writes nothing that existed
  obtain ⟨h2, y', ay', r2, hy', hyb, hb2, wx2, st⟩ := syncedK_refines 1 true
    (binaryK t env.length (env.length + 1) missing .done) h1n wy w1
  have hlen : (env ++ [y']).length = env.length + 1 := by simp
  have et : envGet (env ++ [y']) t = envGet env t := envGet_append_left _ ht
  have ey : envGet (env ++ [y']) env.length = y' := envGet_append_len _ _
  obtain ⟨h3, a3, b3, p3, r3, w3, e3, _⟩ := binaryK_refines t env.length missing .done
    (h := h2) (env := env ++ [y']) (I1.push st y' false (fun e => nomatch e))
    (by rw [getD_append_left (getD_true_lt hto)]; exact hto)
    (by rw [et]; exact wx2) (by rw [ey]; exact hy') hyb
  rw [et] at w3
  refine ⟨h3, [y', h2.size], a3, b3, p3, ?_, w3, ?_⟩
  · rw [r1, r2, ← hlen, r3]
    simp [Prog.run]
  · rw [e3, hb2, ecy]
    simp only [bodyFPure]
    rw [← e1]

end SymmModel.Heap
