/-
  SymmModel.Proofs.LinalgFermi — what the fermionic reconstructions share: the sign laws `NegLaws`,
  `phase_flip(0)` applied twice, `phase_sync` on aligned blocks, and `Arr.matmulF`
  (`FermionicArray.__matmul__`) of two matrices in closed form.  The products themselves are
  evaluated in Proofs/ReconLabels.lean and after.
-/
import SymmModel.Proofs.LinalgRecon
import SymmModel.Proofs.LinalgSolve
import SymmModel.Proofs.SpecMatmul
import SymmModel.Model.GRat
import Mathlib.Tactic.Ring
import Mathlib.Algebra.Ring.Rat

namespace SymmModel

/-- the three sign laws the fermionic reconstruction needs of the scalars -/
class NegLaws (R : Type) [Zero R] [Add R] [Mul R] [Neg R] : Prop where
  neg_zero : -(0 : R) = 0
  neg_add : ∀ a b : R, -a + -b = -(a + b)
  neg_mul : ∀ a b : R, (-a) * b = -(a * b)

namespace LinalgLemmas

variable {R : Type}

theorem flip_fold_back (odd : Sector → Bool) (ss : List Sector) (hnd : ss.Nodup) :
    ss.foldl (fun ph s =>
      if odd s then
        let np := - (alookup ph s).getD 1
        if np == 1 then aerase ph s else ainsert ph s np
      else ph) ((ss.filter odd).map (fun s => (s, (-1 : Int)))) = [] := by
  induction ss with
  | nil => rfl
  | cons s ss ih =>
    rw [List.nodup_cons] at hnd
    simp only [List.foldl_cons]
    by_cases ho : odd s = true
    · simp only [List.filter_cons, ho, if_true, List.map_cons, alookup, beq_self_eq_true,
        Option.getD_some, Int.neg_neg, aerase]
      exact ih hnd.2
    · simp only [List.filter_cons, ho, Bool.false_eq_true, if_false]
      exact ih hnd.2

theorem phaseFlip0_twice (a : Arr R) (hp : a.phases = []) (hnd : a.sectors.Nodup) :
    ((a.phaseFlip [0]).phaseFlip [0]).phases = [] := by
  obtain ⟨f1, _, _, _, f5, _⟩ := phaseFlip_fields a [0]
  have hs : (a.phaseFlip [0]).sectors = a.sectors := by simp [Arr.sectors, f5]
  have h1 := phaseFlip0_phases a hp hnd
  have := flip_fold_back (fun s => a.sym.parity (s.getD 0 (0, 0))) a.sectors hnd
  rw [← this]
  conv => lhs; unfold Arr.phaseFlip
  simp only [List.isEmpty_cons, Bool.false_eq_true, if_false]
  congr 1
  funext ph s
  simp only [List.filter_cons, List.filter_nil]
  cases a.sym.parity (s.getD 0 (0, 0)) <;> simp

theorem phaseSync_blocks_nil [Neg R] (a : Arr R) (hp : a.phases = []) :
    a.phaseSync.blocks = a.blocks := by
  simp only [Arr.phaseSync, hp, alookup]
  conv => rhs; rw [← List.map_id a.blocks]
  apply List.map_congr_left
  intro p _
  rfl

theorem phaseSync_blocks_map [Neg R] {α : Type} (a : Arr R) (l : List α) (key : α → Sector)
    (f : α → Blk R) (ha : a.blocks = l.map (fun p => (key p, f p))) :
    a.phaseSync.blocks = l.map (fun p =>
      (key p, if alookup a.phases (key p) == some (-1) then (f p).negK else f p)) := by
  simp only [Arr.phaseSync, ha, List.map_map]
  apply List.map_congr_left
  intro p _
  simp only [Function.comp]
  split <;> rfl

/-- the right operand as `__matmul__` prepares it keeps its rank -/
theorem flipSync_ndim [Neg R] (b : Arr R) (d : Bool) :
    (if d then b.phaseFlip [0] else b).phaseSync.ndim = b.ndim := by
  show (if d then b.phaseFlip [0] else b).indices.length = b.indices.length
  split
  · rw [(phaseFlip_fields b [0]).indices]
  · rfl

theorem matmulF_eq_22 [Zero R] [Add R] [Mul R] [Neg R] (a b : Arr R) (ha : a.ndim = 2)
    (j0 j1 : Index) (hb : b.indices = [j0, j1]) :
    Arr.matmulF a b =
      resolveCombinedOddpos a.phaseSync (if j0.dual then b.phaseFlip [0] else b).phaseSync
        (tensordotBlockwise a.phaseSync (if j0.dual then b.phaseFlip [0] else b).phaseSync
          [0] [1] [0] [1]) := by
  have hbn : b.ndim = 2 := by simp [Arr.ndim, hb]
  have h1 : a.phaseSync.ndim = 2 := ha
  have h2 := (flipSync_ndim b j0.dual).trans hbn
  rw [SymmModel.matmulF_eq a b (by omega) (by omega) j0 (by rw [hb]; rfl),
    matmulA_eq _ _ (Or.inr h1) (Or.inr h2), h1, h2]
  rfl

theorem neg_fold [Zero R] [Add R] [Mul R] [Neg R] [NegLaws R] (f g : Nat → R) (l : List Nat)
    (a : R) :
    l.foldl (fun acc t => acc + (- f t) * g t) (-a) = - l.foldl (fun acc t => acc + f t * g t) a := by
  induction l generalizing a with
  | nil => rfl
  | cons t l ih =>
    simp only [List.foldl_cons]
    rw [NegLaws.neg_mul, NegLaws.neg_add, ih]

end LinalgLemmas

instance : NegLaws Int where
  neg_zero := rfl
  neg_add a b := by omega
  neg_mul a b := Int.neg_mul a b

instance : NegLaws GRat where
  neg_zero := by
    show GRat.mk (-0) (-0) = GRat.mk 0 0
    simp
  neg_add a b := by
    show GRat.mk (-a.re + -b.re) (-a.im + -b.im) = GRat.mk (-(a.re + b.re)) (-(a.im + b.im))
    congr 1 <;> ring
  neg_mul a b := by
    show GRat.mk (-a.re * b.re - -a.im * b.im) (-a.re * b.im + -a.im * b.re)
      = GRat.mk (-(a.re * b.re - a.im * b.im)) (-(a.re * b.im + a.im * b.re))
    congr 1 <;> ring

end SymmModel
