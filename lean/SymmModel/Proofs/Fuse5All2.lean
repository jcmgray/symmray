/-
  SymmModel.Proofs.Fuse5All2 — the fused axes of `fuse a groups` for an array with plain indices
  are exactly the multi-axis groups; hence `unfuseAllF (fuseF a groups) = unfuseGroupsF …`.
-/
import SymmModel.Proofs.Fuse5All
namespace SymmModel
namespace FuseP
set_option linter.unusedSectionVars false
open SymmModel.Lazy

theorem getD_plain {l : List Index} (h : ∀ ix ∈ l, ix.sub = none) (k : Nat) : (l.getD k default).sub = none := by
  rw [List.getD_eq_getElem?_getD]
  cases hk : l[k]? with
  | none => rfl
  | some ix => exact h ix (getElem?_mem' hk)

section
variable {R : Type} [Zero R] {a : Arr R} {groups : List (List Nat)}

theorem newIdxM_fused_axes (hok : GroupsOk groups a.ndim) (hplain : ∀ ix ∈ a.indices, ix.sub = none)
    (ax : Nat) (ix : Index) (hix : (newIdxM a groups)[ax]? = some ix) :
    ix.sub.isSome = (decide ((giM a groups).position ≤ ax) && multiB groups (ax - (giM a groups).position)) := by
  have hlt : ax < ndimM a groups := by rw [← newIdxM_length hok.adm]; exact getElem?_lt hix
  have hixd : ix = (newIdxM a groups).getD ax default := by
    rw [List.getD_eq_getElem?_getD, hix]; rfl
  simp only [ndimM] at hlt
  by_cases h1 : ax < (giM a groups).position
  · have : decide ((giM a groups).position ≤ ax) = false := by simp; omega
    rw [this, Bool.false_and, hixd, newIdxM_before hok.adm h1, getD_plain hplain]; rfl
  · have hd : decide ((giM a groups).position ≤ ax) = true := by simp; omega
    rw [hd, Bool.true_and]
    obtain ⟨g, rfl⟩ : ∃ g, ax = (giM a groups).position + g := ⟨ax - (giM a groups).position, by omega⟩
    rw [Nat.add_sub_cancel_left]
    by_cases h2 : g < groups.length
    · have hg : groups[g]? = some groups[g] := List.getElem?_eq_getElem h2
      have hixm : ix = ixM a groups g := hixd
      by_cases hlen : (groups[g]).length = 1
      · rw [hixm, ixM_single hok.adm hg hlen, getD_plain hplain]
        simp only [Option.isSome_none, multiB, hg, hlen, bne_self_eq_false]
      · rw [hixm, ixM_sub hok.adm hg hlen]
        simp only [List.getD_eq_getElem?_getD, Option.isSome_some, multiB, hg, Bool.true_eq, bne_iff_ne, ne_eq,
          hlen,
          not_false_eq_true]
    · obtain ⟨j, rfl⟩ : ∃ j, g = groups.length + j := ⟨g - groups.length, by omega⟩
      have hj : j < (giM a groups).axesAfter.length := by omega
      have := newIdxM_after hok.adm hj
      rw [Nat.add_assoc, ← hixd] at this
      rw [this, getD_plain hplain]
      simp only [multiB]
      rw [List.getElem?_eq_none (by omega)]; rfl

end

section
variable {R : Type} [Zero R] [Neg R] [LawfulNeg R]

theorem fuseF_fused_axes (a : Arr R) (groups : List (List Nat)) (hok : GroupsOk groups a.ndim)
    (hplain : ∀ ix ∈ a.indices, ix.sub = none) :
    (calcFuseGroupInfo groups a.duals).position + groups.length
        ≤ (newIdxM (signAdj a groups) (newGroupsF groups a.duals)).length
    ∧ ∀ ax ix, (newIdxM (signAdj a groups) (newGroupsF groups a.duals))[ax]? = some ix →
        ix.sub.isSome = (decide ((calcFuseGroupInfo groups a.duals).position ≤ ax)
          && multiB groups (ax - (calcFuseGroupInfo groups a.duals).position)) := by
  have hok4 := signAdj_groupsOk (a := a) hok
  have hpos := signAdj_position (a := a) hok
  have hlen : (newGroupsF groups a.duals).length = groups.length := newGroupsF_length _ _
  have hplain4 : ∀ ix ∈ (signAdj a groups).indices, ix.sub = none := by
    intro ix hix; rw [(signAdj_fields a groups).2.1] at hix; exact hplain ix (mem_permuted hix)
  refine ⟨?_, fun ax ix hix => ?_⟩
  · rw [newIdxM_length hok4.adm]; simp only [ndimM, hpos, hlen]; omega
  · rw [newIdxM_fused_axes hok4 hplain4 ax ix hix, hpos]
    exact congrArg (_ && ·) (multiB_newGroupsF groups a.duals _)

theorem unfuseAllF_fuseF_eq (a : Arr R) (groups : List (List Nat)) (e : Bool) (hv : a.validB = true)
    (hf : a.fermi = true) (hok : GroupsOk groups a.ndim) (hplain : ∀ ix ∈ a.indices, ix.sub = none) :
    ∃ y, Arr.fuseF a groups .insert e = .ok y
      ∧ Arr.unfuseAllF y = C05.unfuseGroupsF groups (calcFuseGroupInfo groups a.duals).position y := by
  obtain ⟨hy, hyV, hyf⟩ := fuseF_fusedArrM (a := a) e hv hf hok
  obtain ⟨hn, hax⟩ := fuseF_fused_axes a groups hok hplain
  exact ⟨_, hy, unfuseAllF_eq_groups groups _ _ hyV hyf hn hax⟩

end

end FuseP
end SymmModel
