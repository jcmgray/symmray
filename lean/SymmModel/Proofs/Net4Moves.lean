/-
  SymmModel.Proofs.Net4Moves — three moves between the ORDERINGS of a four-tensor network (K4 bonds):
    `move34`   `((A·B)·C)·D`  ↔  `((A·B)·D)·C`          (exchange with `X = A·B`)
    `moveR2`   `(A·B)·(C·D)`  ↔  `(C·D)·(A·B)`          (S5 at the root, S4)
    `move3c`   `(A·(B·C))·D`  ↔  `(A·D)·(B·C)`          (exchange with `Y = B·C`, star identity, S4)
  each as "`T'` is a fermionic transpose of `T`" (`TEq`).  Together with the five bracketings of every
  ordering (`k4x`) they connect all 24 orderings (Net4Orders).
-/
import SymmModel.Proofs.Net4Exch
import SymmModel.Proofs.Net4Star
import SymmModel.Proofs.Net4Flag

namespace SymmModel
namespace Net4P
open TdotP GradedP RoutesP KoszulP OddposP AssocP Assoc2P Assoc3P Assoc4P Assoc5P
set_option linter.unusedSectionVars false

variable {R : Type}

section
variable [AddCommMonoid R] [Mul R] [Neg R] [SignRing R] [AssocLaws R]

theorem call_ok {X Y Z : Arr R} {xa xb : List Nat} (W : AdmW X Y xa xb)
    (e : tdF X Y xa xb = .ok Z) :
    Z.validB = true ∧ Z.fermi = true := by
  obtain ⟨_, _, C⟩ := Call.of_ok W e
  exact ⟨C.valid, C.fermi⟩

theorem routes_ok {A B C D : Arr R} {ab ac ad ba bc bd ca cb cd da db dc : List Nat}
    (H : K4H A B C D ab ac ad ba bc bd ca cb cd da db dc) :
    ∃ T1 T2 T3 : Arr R,
      routeS1 A B C D ab ac ad ba bc bd ca cb cd da db dc false false false = .ok T1
      ∧ routeS2 A B C D ab ac ad ba bc bd ca cb cd da db dc false false false = .ok T2
      ∧ routeS3 A B C D ab ac ad ba bc bd ca cb cd da db dc false false false = .ok T3
      ∧ Eqv T2 T1 ∧ Eqv T3 T1
      ∧ T1.validB = true ∧ T1.fermi = true ∧ T2.validB = true ∧ T2.fermi = true
      ∧ T3.validB = true ∧ T3.fermi = true := by
  obtain ⟨AB, BC, CD, ABC1, ABC2, BCD1, BCD2, T1, T2, T3, T4, T5, K⟩ := k4x H
  obtain ⟨r1, r2, r3, _, _⟩ := K.routes
  obtain ⟨v1, f1⟩ := call_ok K.X.wT1 K.eT1
  obtain ⟨v2, f2⟩ := call_ok K.X.wT2 K.eT2
  obtain ⟨v3, f3⟩ := call_ok K.X.wT3 K.eT3
  exact ⟨T1, T2, T3, r1, r2, r3, K.q2, K.q3, v1, f1, v2, f2, v3, f3⟩

theorem move34 (hmul : ∀ x y : R, x * y = y * x) {A B C D : Arr R}
    {ab ac ad ba bc bd ca cb cd da db dc : List Nat}
    (H : K4H A B C D ab ac ad ba bc bd ca cb cd da db dc) :
    ∃ T T' : Arr R,
      routeS1 A B C D ab ac ad ba bc bd ca cb cd da db dc false false false = .ok T
      ∧ routeS1 A B D C ab ad ac ba bd bc da db dc ca cb cd false false false = .ok T'
      ∧ T'.validB = true ∧ T'.fermi = true ∧ T.validB = true ∧ TEq T' T := by
  obtain ⟨mA_bc, mA_bd, mA_cd, mA_b_cd, _⟩ := mid3 H.hnA H.WAB.ltA H.WAC.ltA H.WAD.ltA
  obtain ⟨mB_ac, mB_ad, mB_cd, mB_a_cd, _⟩ := mid3 H.hnB H.WAB.ltB H.WBC.ltA H.WBD.ltA
  obtain ⟨mC_ab, mC_ad, mC_bd, _, mC_ab_d⟩ := mid3 H.hnC H.WAC.ltB H.WBC.ltB H.WCD.ltA
  obtain ⟨mD_ab, mD_ac, mD_bc, _, mD_ab_c⟩ := mid3 H.hnD H.WAD.ltB H.WBD.ltB H.WCD.ltB
  have TABC : TriW A B C ab ac ba bc cb ca := ⟨H.WAB, H.WBC, mA_bc, mB_ac, mC_ab.symm, H.WAC.con⟩
  have TABD : TriW A B D ab ad ba bd db da := ⟨H.WAB, H.WBD, mA_bd, mB_ad, mD_ab.symm, H.WAD.con⟩
  have h_ab : OddposP.LabelsDistinct (A.oddpos ++ B.oddpos) :=
    (List.pairwise_append.1 (List.pairwise_append.1 H.hd).1).1
  obtain ⟨AB, _, eAB, IAB, pAB⟩ := call_pack A B ab ba H.WAB h_ab
  have WABc := admW_left_tri_w IAB.toW TABC
  have WABd := admW_left_tri_w IAB.toW TABD
  have mAB : Mid AB.ndim (Assoc2P.axesAB A.ndim B.ndim ab ac ba bc)
      (Assoc2P.axesAB A.ndim B.ndim ab ad ba bd) := by
    rw [IAB.ndim]; exact mid_axesAB mA_b_cd mB_a_cd
  have hdX : OddposP.LabelsDistinct (AB.oddpos ++ C.oddpos ++ D.oddpos) :=
    OddposP.LabelsDistinct.perm H.hd ((pAB.symm.append_right _).append_right _)
  obtain ⟨XY, XZ, c1, c, e1, e2, e3, e4, v1, v, hP, hE⟩ := exchange hmul AB C D _ _ _ _ _ _
    WABc WABd H.WCD mAB mC_ab_d mD_ab_c hdX
  have TABDC : TriW AB D C (Assoc2P.axesAB A.ndim B.ndim ab ad ba bd)
      (Assoc2P.axesAB A.ndim B.ndim ab ac ba bc) (da ++ db) dc cd (ca ++ cb) :=
    ⟨WABd, admW_swap H.WCD, mAB.symm, mD_ab_c, mC_ab_d.symm, WABc.con⟩
  obtain ⟨_, _, CXZ⟩ := Call.of_ok WABd e3
  have Wc := admW_left_tri_w CXZ.toInter.toW TABDC
  obtain ⟨_, fc⟩ := call_ok Wc e4
  rw [IAB.ndim] at e2 e4
  have eAB' : tdF A B ab ba = .ok AB := eAB
  refine ⟨c1, c, ?_, ?_, v, fc, v1, ⟨_, hP, hE⟩⟩
  · unfold routeS1 callS axesABC_D; simp only []
    rw [eAB']; simp only [Except.bind]
    rw [e1]; exact e2
  · unfold routeS1 callS axesABC_D; simp only []
    rw [eAB']; simp only [Except.bind]
    rw [e3]; exact e4

theorem moveR2 (hmul : ∀ x y : R, x * y = y * x) {A B C D : Arr R}
    {ab ac ad ba bc bd ca cb cd da db dc : List Nat}
    (H : K4H A B C D ab ac ad ba bc bd ca cb cd da db dc) :
    ∃ T T' : Arr R,
      routeS3 A B C D ab ac ad ba bc bd ca cb cd da db dc false false false = .ok T
      ∧ routeS3 C D A B cd ca cb dc da db ac ad ab bc bd ba false false false = .ok T'
      ∧ T'.validB = true ∧ T'.fermi = true ∧ T.validB = true ∧ TEq T' T := by
  obtain ⟨mA_bc, mA_bd, mA_cd, mA_b_cd, _⟩ := mid3 H.hnA H.WAB.ltA H.WAC.ltA H.WAD.ltA
  obtain ⟨mB_ac, mB_ad, mB_cd, mB_a_cd, _⟩ := mid3 H.hnB H.WAB.ltB H.WBC.ltA H.WBD.ltA
  obtain ⟨mC_ab, mC_ad, mC_bd, _, mC_ab_d⟩ := mid3 H.hnC H.WAC.ltB H.WBC.ltB H.WCD.ltA
  obtain ⟨mD_ab, mD_ac, mD_bc, _, mD_ab_c⟩ := mid3 H.hnD H.WAD.ltB H.WBD.ltB H.WCD.ltB
  obtain ⟨AB, BC, CD, ABC1, ABC2, BCD1, BCD2, T1, T2, T3, T4, T5, K⟩ := k4x H
  have h_T3 := K.h_T3
  obtain ⟨v3, _⟩ := call_ok K.X.wT3 K.eT3
  obtain ⟨T', eT', vT', _, hE⟩ := swap_eqv hmul K.X.wT3 h_T3 T3 K.eT3
  have WS := admW_swap K.X.wT3
  obtain ⟨_, _, CT'⟩ := Call.of_ok WS eT'
  have fT' := CT'.fermi
  have hrot : Arr.isPerm (rotB (freeAxes CD.ndim (Assoc2P.axesBC C.ndim D.ndim (ca ++ cb) cd dc (da ++ db))).length
      (freeAxes AB.ndim (Assoc2P.axesAB A.ndim B.ndim ab ac ba bc
        ++ Assoc2P.axesAB A.ndim B.ndim ab ad ba bd)).length) T'.ndim = true := by
    rw [CT'.toInter.ndim]; exact rotB_isPerm _ _
  have eq33 : tdF CD AB
        (Assoc2P.axesAB C.ndim D.ndim cd ca dc da ++ Assoc2P.axesAB C.ndim D.ndim cd cb dc db)
        (Assoc2P.axesBC A.ndim B.ndim (ac ++ ad) ab ba (bc ++ bd))
      = tdF CD AB (Assoc2P.axesBC C.ndim D.ndim (ca ++ cb) cd dc (da ++ db))
        (Assoc2P.axesAB A.ndim B.ndim ab ac ba bc ++ Assoc2P.axesAB A.ndim B.ndim ab ad ba bd) := by
    have W' := WS
    unfold Assoc2P.axesAB Assoc2P.axesBC at W' ⊢
    simp only [positions_append, List.map_append, List.append_assoc] at W' ⊢
    refine tdotF_axes_mid_w CD AB _ _ _ _ _ _ _ _ ?_ ?_ ?_ ?_ W'
    · rw [mC_ad.symm.pos_len, mA_bc.pos_len]; exact H.WAC.len.symm
    · rw [mC_bd.symm.pos_len, List.length_map, mB_ac.pos_len]; exact H.WBC.len.symm
    · rw [List.length_map, mD_ac.symm.pos_len, mA_bd.pos_len]; exact H.WAD.len.symm
    · rw [List.length_map, List.length_map, mD_bc.symm.pos_len, mB_ad.pos_len]; exact H.WBD.len.symm
  refine ⟨T3, T', ?_, ?_, vT', fT', v3, ⟨_, hrot, hE⟩⟩
  · exact bind_bind_ok K.eAB K.eCD K.eT3
  · unfold routeS3 callS; simp only []
    rw [K.eCD]; simp only [Except.bind]; rw [K.eAB]
    show tdF CD AB _ _ = _
    rw [eq33]; exact eT'

theorem move3c (hmul : ∀ x y : R, x * y = y * x) {A B C D : Arr R}
    {ab ac ad ba bc bd ca cb cd da db dc : List Nat}
    (H : K4H A B C D ab ac ad ba bc bd ca cb cd da db dc) :
    ∃ T T' : Arr R,
      routeS2 A B C D ab ac ad ba bc bd ca cb cd da db dc false false false = .ok T
      ∧ routeS3 A D B C ad ab ac da db dc ba bd bc ca cd cb false false false = .ok T'
      ∧ T'.validB = true ∧ T'.fermi = true ∧ T.validB = true ∧ TEq T' T := by
  obtain ⟨mA_bc, mA_bd, mA_cd, mA_b_cd, mA_bc_d⟩ := mid3 H.hnA H.WAB.ltA H.WAC.ltA H.WAD.ltA
  have hnB' : (bc ++ ba ++ bd).Nodup :=
    ((List.perm_append_comm (l₁ := ba) (l₂ := bc)).append_right bd).nodup_iff.mp H.hnB
  have hnC' : (cb ++ ca ++ cd).Nodup :=
    ((List.perm_append_comm (l₁ := ca) (l₂ := cb)).append_right cd).nodup_iff.mp H.hnC
  obtain ⟨mB_ca, mB_cd, mB_ad, mB_c_ad, _⟩ := mid3 hnB' H.WBC.ltA H.WAB.ltB H.WBD.ltA
  obtain ⟨mC_ba, mC_bd, mC_ad, mC_b_ad, _⟩ := mid3 hnC' H.WBC.ltB H.WAC.ltB H.WCD.ltA
  obtain ⟨mD_ab, mD_ac, mD_bc, mD_a_bc, _⟩ := mid3 H.hnD H.WAD.ltB H.WBD.ltB H.WCD.ltB
  obtain ⟨AB, BC, CD, ABC1, ABC2, BCD1, BCD2, T1, T2, T3, T4, T5, K⟩ := k4x H
  have hd' : OddposP.LabelsDistinct (A.oddpos ++ (B.oddpos ++ (C.oddpos ++ D.oddpos))) := by
    simpa only [List.append_assoc] using H.hd
  have LD : ∀ {M : List (Int × Bool)}, M.Perm (A.oddpos ++ (B.oddpos ++ (C.oddpos ++ D.oddpos))) →
      OddposP.LabelsDistinct M := fun hp => OddposP.LabelsDistinct.perm hd' hp.symm
  obtain ⟨_, _, CBC⟩ := Call.of_ok H.WBC K.eBC
  have IBC := CBC.toInter
  have mY : Mid BC.ndim (Assoc2P.axesBC B.ndim C.ndim ba bc cb ca)
      (Assoc2P.axesAB B.ndim C.ndim bc bd cb cd) := by
    rw [IBC.ndim]
    exact mid_axesAB (xa1 := bc) (u := ba) (v := bd) (xb1 := cb) (s := ca) (t := cd) mB_c_ad mC_b_ad
  have hdX : OddposP.LabelsDistinct (A.oddpos ++ BC.oddpos ++ D.oddpos) :=
    LD (by simpa only [List.append_assoc] using ((K.X.pBC.append_left A.oddpos).append_right D.oddpos))
  obtain ⟨XY, AD, c1, c, e1, e2, eAD, e4, v1, v, hP, hE⟩ := exchange hmul A BC D (ab ++ ac) ad
    (Assoc2P.axesBC B.ndim C.ndim ba bc cb ca) (Assoc2P.axesAB B.ndim C.ndim bc bd cb cd) da (db ++ dc)
    K.X.waBC H.WAD K.X.wBCd mA_bc_d mY mD_a_bc hdX
  rw [K.eABC2] at e1
  obtain rfl := Except.ok.inj e1
  -- (A·(B·C))·D is route 2
  have star := axes_star A.ndim B.ndim C.ndim ab ac ad ba bc bd ca cb cd mA_bc mA_b_cd mB_ca.symm
    mB_ca mB_c_ad mC_ba
  rw [IBC.ndim, ← star, ← List.append_assoc] at e2
  rw [K.eT2] at e2
  obtain rfl := Except.ok.inj e2
  -- (A·D)·(B·C) is route 3 of the ordering A, D, B, C
  obtain ⟨_, _, CAD⟩ := Call.of_ok H.WAD eAD
  have IAD := CAD.toInter
  have TADBC : TriW A D BC ad (ab ++ ac) da (db ++ dc) (Assoc2P.axesAB B.ndim C.ndim bc bd cb cd)
      (Assoc2P.axesBC B.ndim C.ndim ba bc cb ca) :=
    ⟨H.WAD, admW_swap K.X.wBCd, mA_bc_d.symm, mD_a_bc, mY.symm, K.X.waBC.con⟩
  have Wc := admW_left_tri_w IAD.toW TADBC
  obtain ⟨_, fc⟩ := call_ok Wc e4
  have eq33 : tdF AD BC
        (Assoc2P.axesAB A.ndim D.ndim ad ab da db ++ Assoc2P.axesAB A.ndim D.ndim ad ac da dc)
        (Assoc2P.axesBC B.ndim C.ndim (ba ++ bd) bc cb (ca ++ cd))
      = tdF AD BC (Assoc2P.axesAB A.ndim D.ndim ad (ab ++ ac) da (db ++ dc))
        (Assoc2P.axesBC B.ndim C.ndim ba bc cb ca ++ Assoc2P.axesAB B.ndim C.ndim bc bd cb cd) := by
    have W' := Wc
    unfold Assoc2P.axesAB Assoc2P.axesBC at W' ⊢
    simp only [positions_append, List.map_append, List.append_assoc] at W' ⊢
    refine tdotF_axes_mid_w AD BC _ _ _ _ _ _ _ _ ?_ ?_ ?_ ?_ W'
    · rw [mA_bd.symm.pos_len, mB_ca.pos_len]; exact H.WAB.len
    · rw [mA_cd.symm.pos_len, List.length_map, mC_ba.pos_len]; exact H.WAC.len
    · rw [List.length_map, mD_ab.pos_len, mB_cd.pos_len]; exact H.WBD.len.symm
    · rw [List.length_map, List.length_map, mD_ac.pos_len, mC_bd.pos_len]; exact H.WCD.len.symm
  have hv2 : T2.validB = true := v1
  refine ⟨T2, c, ?_, ?_, v, fc, hv2, ⟨_, hP, hE⟩⟩
  · exact bind_bind_ok K.eBC K.eABC2 K.eT2
  · unfold routeS3 callS; simp only []
    rw [eAD]; simp only [Except.bind]; rw [K.eBC]
    show tdF AD BC _ _ = _
    rw [eq33]; exact e4

end

end Net4P
end SymmModel
