/-
  SymmModel.Proofs.NormNet22 — network form of the norm (property C10), part 22:
  generic steps for a FULL contraction (scalar result) under the weak guard — its rank
  (`ndim_of_call_w`), congruence in the operands (`scalar_congr_both`, `scalar_congr`, from
  `Assoc3P.tdotF_congr`), pre-transposition of the left operand (`scalar_pre`, S6 with an explicitly given
  re-listing of the axes) — and with them: a half contracted in the OTHER operand order against the opposite
  half gives, with the crossed leg pairs, the same scalar (`mixed_full`: `swap_eqv`, S6, congruence).
-/
import SymmModel.Proofs.NormNet21
namespace SymmModel.NormNet
open SymmModel SymmModel.Lazy SymmModel.Norm SymmModel.TdotP SymmModel.GradedP SymmModel.RoutesP
open SymmModel.AssocP SymmModel.Assoc3P
set_option linter.unusedSectionVars false

theorem swapsLoop_nil (q moved : List Nat) : swapsLoop [] q moved = 0 := by
  induction q generalizing moved with
  | nil => rfl
  | cons ax rest ih => simp [swapsLoop, isOdd, ih]

theorem koszul_nil (q : List Nat) : koszul [] (some q) = 1 := by
  show (if (swapsLoop [] q [] % 2 == 1) = true then (-1 : Int) else 1) = 1
  rw [swapsLoop_nil]; rfl

/-- the legs of `q·p` listed in the order of the legs of `p·q`: position of leg `i` of `p·q` in
    `q·p` (`p`'s `m` dangling legs come after `q`'s `k`) -/
def crossAx (m k : Nat) : List Nat := positions (rotAx m k) (List.range (m + k))

theorem rotAx_length (m k : Nat) : (rotAx m k).length = m + k := by
  unfold rotAx; simp; omega

theorem crossAx_perm (m k : Nat) : (crossAx m k).Perm (List.range (m + k)) := by
  have := positions_perm (rotAx m k) (List.range (m + k)) (rotAx_perm m k).symm
    (perm_range_nodup (rotAx_perm m k))
  rw [rotAx_length] at this
  exact this

section mixed
variable {R : Type} [AddCommMonoid R] [Mul R] [Neg R] [SignRing R]

theorem without_nil_of_freeAxes {α : Type} {l : List α} {u : List Nat}
    (h : freeAxes l.length u = []) : without l u = [] := by
  rw [without_eq_permuted_freeAxes, h]; rfl

theorem ndim_of_call_w {a b Z : Arr R} {xa xb : List Nat} (W : AdmW a b xa xb)
    (e : a.tensordotF b (.pair (xa.map Int.ofNat) (xb.map Int.ofNat)) .blockwise = .ok Z) :
    Z.ndim = (freeAxes a.ndim xa).length + (freeAxes b.ndim xb).length := by
  obtain ⟨_, _, C⟩ := Call.of_ok W e
  exact C.toInter.ndim

theorem scalar_congr_both {X X' Y Y' r : Arr R} {u v : List Nat} (W : AdmW X Y u v)
    (E1 : Eqv X X') (E2 : Eqv Y Y') (vX' : X'.validB = true) (vY' : Y'.validB = true)
    (e : X.tensordotF Y (.pair (u.map Int.ofNat) (v.map Int.ofNat)) .blockwise = .ok r)
    (hn : r.ndim = 0) :
    ∃ r', X'.tensordotF Y' (.pair (u.map Int.ofNat) (v.map Int.ofNat)) .blockwise = .ok r'
      ∧ r'.ndim = 0 ∧ r'.oddpos = r.oddpos ∧ r'.elem [] [] = r.elem [] [] := by
  obtain ⟨Z', eZ', hZ⟩ := Assoc3P.tdotF_congr W E1 E2 vX' vY' r e
  have hri : r.indices = [] := List.eq_nil_of_length_eq_zero hn
  exact ⟨Z', eZ', by rw [← hZ.ndim]; exact hn, hZ.oddpos.symm,
    (hZ.elem [] [] (fun _ => by rw [hri]; rfl)).symm⟩

theorem scalar_congr {X X' Y r : Arr R} {u v : List Nat} (W : AdmW X Y u v) (hE : Eqv X X')
    (hv' : X'.validB = true)
    (e : X.tensordotF Y (.pair (u.map Int.ofNat) (v.map Int.ofNat)) .blockwise = .ok r)
    (hn : r.ndim = 0) :
    ∃ r', X'.tensordotF Y (.pair (u.map Int.ofNat) (v.map Int.ofNat)) .blockwise = .ok r'
      ∧ r'.ndim = 0 ∧ r'.oddpos = r.oddpos ∧ r'.elem [] [] = r.elem [] [] :=
  scalar_congr_both W hE (Eqv.refl Y) hv' W.vb e hn

/-- pre-transposition of the left operand of a full contraction (S6): the axes `u'` are any
    re-listing with `permuted p u' = u` -/
theorem scalar_pre {P Y r : Arr R} {u u' v p : List Nat} (W : AdmW P Y u v)
    (hp : p.Perm (List.range P.ndim)) (hu : freeAxes P.ndim u = []) (hv : freeAxes Y.ndim v = [])
    (hn' : u'.Nodup) (hlt' : ∀ i ∈ u', i < P.ndim) (hx : permuted p u' = u)
    (hu' : freeAxes P.ndim u' = [])
    (e : P.tensordotF Y (.pair (u.map Int.ofNat) (v.map Int.ofNat)) .blockwise = .ok r) :
    ∃ c', (P.transposeF p).tensordotF Y (.pair (u'.map Int.ofNat) (v.map Int.ofNat)) .blockwise
          = .ok c'
      ∧ AdmW (P.transposeF p) Y u' v
      ∧ c'.ndim = 0 ∧ c'.oddpos = r.oddpos ∧ c'.elem [] [] = r.elem [] [] := by
  have hisp : Arr.isPerm p P.ndim = true := isPerm_of_perm hp
  have hT : PreT P.ndim p u u' [] :=
    ⟨hp, W.nA, W.ltA, hn', hlt', hx, by rw [hu]; exact List.Perm.refl _, by rw [hu, hu']; rfl⟩
  obtain ⟨c', ec', o1, _, _, _, hel⟩ := Assoc5P.tdotF_pretranspose_w P Y r p u u' [] v W hisp hT e
  have W' := Assoc5P.admW_pre W hisp hT
  have hnd : (P.transposeF p).ndim = P.ndim := hT.lenT P.indices rfl
  have hc'n : c'.ndim = 0 := by
    rw [ndim_of_call_w W' ec', hnd, hu', hv]; rfl
  refine ⟨c', ec', W', hc'n, o1, ?_⟩
  have e1 : without P.indices u = [] := without_nil_of_freeAxes hu
  have e2 : without Y.indices v = [] := without_nil_of_freeAxes hv
  have := hel [] [] [] [] (by rw [hu]; rfl) (by rw [hu]) (by rw [e1, e2]; rfl)
  simp only [TdotP.permuted_nil, List.map_nil, List.append_nil, koszul_nil, sgnI_one] at this
  exact this


/-- **a swapped half against the opposite half.**  `P = p·q`, `P' = q·p`; `Y` contractible with `P`
    over all legs (weak guard), `P·Y = r` a scalar.  Then `P'·Y` with the crossed leg pairs
    succeeds and is a scalar with the same labels and value. -/
theorem mixed_full (hmul : ∀ x y : R, x * y = y * x) (p q P P' Y r : Arr R) (xp xq : List Nat)
    (h : Adm p q xp xq) (hd : (p.oddpos ++ q.oddpos).Pairwise (fun x y => x.1 ≠ y.1))
    (eP : p.tensordotF q (.pair (xp.map Int.ofNat) (xq.map Int.ofNat)) .blockwise = .ok P)
    (eP' : q.tensordotF p (.pair (xq.map Int.ofNat) (xp.map Int.ofNat)) .blockwise = .ok P')
    (hP'v : P'.validB = true)
    (hA : AdmW P Y (List.range P.ndim) (List.range P.ndim)) (hYn : Y.ndim = P.ndim)
    (hr : P.tensordotF Y (allAxes P.ndim) .blockwise = .ok r) :
    ∃ r', P'.tensordotF Y (.pair
          ((crossAx (freeAxes p.ndim xp).length (freeAxes q.ndim xq).length).map Int.ofNat)
          ((List.range P.ndim).map Int.ofNat)) .blockwise = .ok r'
      ∧ r'.ndim = 0 ∧ r'.oddpos = r.oddpos ∧ r'.elem [] [] = r.elem [] [] := by
  have hE := swap_eqv hmul p q P P' xp xq h hd eP eP'
  have hnd := ndim_of_call_w (.ofAdm h) eP
  have hperm : (rotAx (freeAxes p.ndim xp).length (freeAxes q.ndim xq).length).Perm
      (List.range P.ndim) := by rw [hnd]; exact rotAx_perm _ _
  have hcp : (crossAx (freeAxes p.ndim xp).length (freeAxes q.ndim xq).length).Perm
      (List.range P.ndim) := by rw [hnd]; exact crossAx_perm _ _
  have hfree : freeAxes P.ndim (List.range P.ndim) = [] := freeAxes_range_self _
  -- S6 with the rotation, then congruence with the swapped half
  obtain ⟨c', ec', W', n', o', v'⟩ := scalar_pre hA hperm hfree (by rw [hYn]; exact hfree)
    (perm_range_nodup hcp) (perm_range_lt hcp)
    (by
      have := (PreT.canonical hperm List.nodup_range (fun i hi => List.mem_range.mp hi)).hx
      unfold crossAx; rw [← hnd]; exact this)
    (freeAxes_of_perm hcp) hr
  obtain ⟨r', er', n1, o1, v1⟩ := scalar_congr W' hE.symm hP'v ec' n'
  exact ⟨r', er', n1, o1.trans o', v1.trans v'⟩

end mixed

end SymmModel.NormNet
