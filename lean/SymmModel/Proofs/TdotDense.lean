/-
  SymmModel.Proofs.TdotDense — the "equals the dense contraction" form of the blockwise
  contraction (C02): the sum over the *stored* aligned sector pairs equals the sum over *all*
  charge tuples of the contracted indices, because `Arr.elem` is zero on absent sectors.
  Proved for any duplicate-free list `Ks` of tuples that covers the contracted parts of `a`'s
  stored sectors; `contractedTuples`, all tuples of the contracted charge tables, is one.
-/
import SymmModel.Proofs.TdotLemmas
import Mathlib.Data.List.Nodup
import SymmModel.Proofs.SymLemmas

namespace SymmModel
namespace TdotP
variable {R : Type}

/-- the sector with contracted part `K` (on `axes`) and free part `F` (on the other axes) -/
def mergeSec (n : Nat) (axes : List Nat) (K F : Sector) : Sector :=
  mergeIdx ((0, 0) : Charge) n axes (freeAxes n axes) K F

theorem mergeSec_length (n : Nat) (axes : List Nat) (K F : Sector) :
    (mergeSec n axes K F).length = n := mergeIdx_length _ _ _ _ _ _

theorem permuted_mergeSec_axes {n : Nat} {axes : List Nat} {K F : Sector}
    (hn : axes.Nodup) (hr : ∀ x ∈ axes, x < n) (hk : K.length = axes.length) :
    permuted (mergeSec n axes K F) axes = K := permuted_mergeIdx_axes _ hn hr hk

theorem permuted_mergeSec_free {n : Nat} {axes : List Nat} {K F : Sector}
    (hf : F.length = (freeAxes n axes).length) :
    permuted (mergeSec n axes K F) (freeAxes n axes) = F :=
  permuted_mergeIdx_free _ (freeAxes_nodup _ _) mem_freeAxes_lt (fun _ hx => (mem_freeAxes.mp hx).2) hf

theorem mergeSec_permuted {n : Nat} {axes : List Nat} {s : Sector} (hs : s.length = n)
    (hr : ∀ x ∈ axes, x < n) :
    mergeSec n axes (permuted s axes) (permuted s (freeAxes n axes)) = s :=
  mergeIdx_permuted _ hs hr mem_freeAxes_lt
    (fun y hy => (Decidable.em (y ∈ axes)).imp_right (fun h => mem_freeAxes.mpr ⟨hy, h⟩))

theorem sum_filter_of_zero [AddMonoid R] {α : Type} (p : α → Bool) (g : α → R) (l : List α)
    (h : ∀ x ∈ l, p x = false → g x = 0) : ((l.filter p).map g).sum = (l.map g).sum := by
  induction l with
  | nil => rfl
  | cons x xs ih =>
    have ih' := ih (fun y hy => h y (List.mem_cons_of_mem _ hy))
    rw [List.filter_cons]
    cases hp : p x with
    | true => simp [ih']
    | false => simp [ih', h x (by simp) hp]

theorem sum_map_reindex [AddCommMonoid R] {α β : Type} {l : List α} {m : List β} (h : β → α)
    (g : α → R) (hl : l.Nodup) (hm : (m.map h).Nodup) (hmem : ∀ x, x ∈ l ↔ x ∈ m.map h) :
    (l.map g).sum = (m.map (fun y => g (h y))).sum :=
  ((((List.perm_ext_iff_of_nodup hl hm).mpr hmem).map g).sum_eq).trans
    (congrArg List.sum List.map_map)

theorem storedPairs_nodup {a b : Arr R} (l xa xb r : List Nat) (s : Sector)
    (hda : a.sectors.Nodup) (hdb : b.sectors.Nodup) : (storedPairs a b l xa xb r s).Nodup := by
  unfold storedPairs
  rw [List.nodup_flatMap]
  constructor
  · intro sa _
    exact (hdb.filter _).map (fun x y h => by simpa using h)
  · refine List.Pairwise.imp ?_ hda
    intro x y hxy
    simp only [Function.onFun, List.disjoint_left, List.mem_map, not_exists, not_and]
    rintro p ⟨_, _, rfl⟩ z _ h
    exact hxy (by simpa using (congrArg Prod.fst h).symm)

theorem Arr.sector_length {a : Arr R} (hs : a.shapesOk) {s : Sector} (h : s ∈ a.sectors) :
    s.length = a.ndim := by
  obtain ⟨p, hp, rfl⟩ := List.mem_map.mp h
  exact (blockShape?_length (hs p hp)).1

theorem contractPair_eq_zero [AddMonoid R] [Mul R] [Neg R]
    (hz1 : ∀ x : R, 0 * x = 0) (hz2 : ∀ x : R, x * 0 = 0) (a b : Arr R) (xa xb oL oR : List Nat)
    (p : Sector × Sector) (h : p.1 ∉ a.sectors ∨ p.2 ∉ b.sectors) :
    contractPair a b xa xb oL oR p = 0 := by
  unfold contractPair
  apply List.sum_eq_zero
  intro x hx
  obtain ⟨k, _, rfl⟩ := List.mem_map.mp hx
  unfold contractTerm
  rcases h with h | h
  · rw [Arr.elem_of_not_mem h, hz1]
  · rw [Arr.elem_of_not_mem h, hz2]

theorem sum_storedPairs_Ks [AddCommMonoid R] (a b : Arr R) (xa xb : List Nat)
    (hda : allDistinct a.sectors = true) (hdb : allDistinct b.sectors = true)
    (hsa : a.shapesOk) (hsb : b.shapesOk)
    (hxa : xa.Nodup) (hxa' : ∀ x ∈ xa, x < a.ndim) (hxb : xb.Nodup) (hxb' : ∀ x ∈ xb, x < b.ndim)
    (hlen : xa.length = xb.length)
    (Ks : List Sector) (hKn : Ks.Nodup) (hKl : ∀ K ∈ Ks, K.length = xa.length)
    (hKc : ∀ sa ∈ a.sectors, permuted sa xa ∈ Ks)
    (L Rr : Sector) (hL : L.length = (freeAxes a.ndim xa).length)
    (hR : Rr.length = (freeAxes b.ndim xb).length)
    (g : Sector × Sector → R) (hg : ∀ p : Sector × Sector, p.1 ∉ a.sectors ∨ p.2 ∉ b.sectors → g p = 0) :
    ((storedPairs a b (freeAxes a.ndim xa) xa xb (freeAxes b.ndim xb) (L ++ Rr)).map g).sum =
      (Ks.map (fun K => g (mergeSec a.ndim xa K L, mergeSec b.ndim xb K Rr))).sum := by
  -- restrict the sum over `Ks` to the tuples whose two sectors are stored
  let P : Sector → Bool := fun K =>
    a.sectors.contains (mergeSec a.ndim xa K L) && b.sectors.contains (mergeSec b.ndim xb K Rr)
  rw [← sum_filter_of_zero P _ Ks (by
    intro K _ hP
    apply hg
    simp only [P, Bool.and_eq_false_iff, List.contains_eq_mem, decide_eq_false_iff_not] at hP
    exact hP)]
  refine sum_map_reindex (fun K => (mergeSec a.ndim xa K L, mergeSec b.ndim xb K Rr)) _
    (storedPairs_nodup _ xa xb _ _ (allDistinct_iff_nodup.mp hda) (allDistinct_iff_nodup.mp hdb))
    ?_ ?_
  · refine List.Nodup.map_on ?_ (hKn.filter _)
    intro K hK K' hK' h
    have h1 := congrArg Prod.fst h
    simp only at h1
    rw [← permuted_mergeSec_axes hxa hxa' (hKl K (List.mem_filter.mp hK).1) (F := L),
      ← permuted_mergeSec_axes hxa hxa' (hKl K' (List.mem_filter.mp hK').1) (F := L), h1]
  · rintro ⟨sa, sb⟩
    rw [mem_storedPairs, List.mem_map]
    constructor
    · rintro ⟨hA, hB, hm, hs⟩
      have la := Arr.sector_length hsa hA
      have lb := Arr.sector_length hsb hB
      have hl1 : (permuted sa (freeAxes a.ndim xa)).length = L.length := by
        rw [permuted_length _ _ (by rw [la]; exact mem_freeAxes_lt), hL]
      obtain ⟨e1, e2⟩ := List.append_inj hs hl1
      have hsa' : mergeSec a.ndim xa (permuted sa xa) L = sa := by
        rw [← e1]; exact mergeSec_permuted la hxa'
      have hsb' : mergeSec b.ndim xb (permuted sa xa) Rr = sb := by
        rw [← e2, ← hm]; exact mergeSec_permuted lb hxb'
      refine ⟨permuted sa xa, List.mem_filter.mpr ⟨hKc sa hA, ?_⟩, by rw [hsa', hsb']⟩
      simp only [P, hsa', hsb', List.contains_eq_mem, hA, hB, decide_true, Bool.and_self]
    · rintro ⟨K, hK, hp⟩
      obtain ⟨hK1, hK2⟩ := List.mem_filter.mp hK
      simp only [Prod.mk.injEq] at hp
      obtain ⟨rfl, rfl⟩ := hp
      simp only [P, Bool.and_eq_true, List.contains_eq_mem, decide_eq_true_eq] at hK2
      have hKb : K.length = xb.length := (hKl K hK1).trans hlen
      exact ⟨hK2.1, hK2.2,
        by rw [permuted_mergeSec_axes hxa hxa' (hKl K hK1), permuted_mergeSec_axes hxb hxb' hKb],
        by rw [permuted_mergeSec_free hL, permuted_mergeSec_free hR]⟩

/-- `C02.tensordotBlockwise_elem_dense` with a covering list `Ks` in place of
    `contractedTuples a xa`; `Proofs/TdotMore` takes the tuples of sorted charges for it. -/
theorem tensordotBlockwise_elem_dense' [AddCommMonoid R] [Mul R] [Neg R]
    (hz1 : ∀ x : R, 0 * x = 0) (hz2 : ∀ x : R, x * 0 = 0) (a b : Arr R) (xa xb : List Nat)
    (hpa : a.phases = []) (hpb : b.phases = [])
    (hda : allDistinct a.sectors = true) (hdb : allDistinct b.sectors = true)
    (hsa : a.shapesOk) (hsb : b.shapesOk)
    (hxa : xa.Nodup) (hxa' : ∀ x ∈ xa, x < a.ndim) (hxb : xb.Nodup) (hxb' : ∀ x ∈ xb, x < b.ndim)
    (hlen : xa.length = xb.length)
    (Ks : List Sector) (hKn : Ks.Nodup) (hKl : ∀ K ∈ Ks, K.length = xa.length)
    (hKc : ∀ sa ∈ a.sectors, permuted sa xa ∈ Ks)
    (L Rr : Sector) (hL : L.length = (freeAxes a.ndim xa).length)
    (hR : Rr.length = (freeAxes b.ndim xb).length) (o : List Nat)
    (ho : inBox (Arr.blockShapeD (without a.indices xa ++ without b.indices xb) (L ++ Rr)) o = true) :
    (tensordotBlockwise a b (freeAxes a.ndim xa) xa xb (freeAxes b.ndim xb)).elem (L ++ Rr) o =
      (Ks.map (fun K => contractPair a b xa xb (o.take (freeAxes a.ndim xa).length)
          (o.drop (freeAxes a.ndim xa).length)
          (mergeSec a.ndim xa K L, mergeSec b.ndim xb K Rr))).sum := by
  rw [tensordotBlockwise_elem_pairs a b xa xb hpa hpb hda hdb hsa hsb _ o ho]
  exact sum_storedPairs_Ks a b xa xb hda hdb hsa hsb hxa hxa' hxb hxb' hlen Ks hKn hKl hKc L Rr hL hR _
    (contractPair_eq_zero hz1 hz2 _ _ _ _ _ _)

def contractedTuples (a : Arr R) (xa : List Nat) : List Sector :=
  cartesian ((permuted a.indices xa).map Index.charges)

theorem forall₂_permuted {α β : Type} {Q : α → β → Prop} {X : List α} {Y : List β}
    (h : List.Forall₂ Q X Y) (p : List Nat) : List.Forall₂ Q (permuted X p) (permuted Y p) := by
  obtain ⟨hl, hg⟩ := List.forall₂_iff_get.mp h
  induction p with
  | nil => exact List.Forall₂.nil
  | cons j p ih =>
    simp only [permuted, List.filterMap_cons] at ih ⊢
    by_cases hj : j < X.length
    · have hj' : j < Y.length := hl ▸ hj
      rw [List.getElem?_eq_getElem hj, List.getElem?_eq_getElem hj']
      exact List.Forall₂.cons (hg j hj hj') ih
    · rw [List.getElem?_eq_none (by omega), List.getElem?_eq_none (by omega)]
      exact ih

theorem charges_of_blockShape? {ixs : List Index} {s : Sector} {shp : List Nat}
    (h : Arr.blockShape? ixs s = some shp) :
    List.Forall₂ (fun c (ix : Index) => c ∈ ix.charges) s ixs := by
  obtain ⟨h1, h2⟩ := (blockShape?_eq_some_iff _ _ _).mp h
  clear h
  induction ixs generalizing s shp with
  | nil =>
    cases s with
    | nil => exact List.Forall₂.nil
    | cons _ _ => simp at h1
  | cons ix ixs ih =>
    cases s with
    | nil => simp at h1
    | cons c cs =>
      cases shp with
      | nil => simp at h2
      | cons d ds =>
        simp only [List.zipWith_cons_cons, List.map_cons, List.cons.injEq] at h2
        simp only [List.length_cons, Nat.add_right_cancel_iff] at h1
        refine List.Forall₂.cons ?_ (ih h1 h2.2)
        have := alookup_some_mem (l := ix.cm) h2.1
        exact List.mem_map.mpr ⟨(c, d), this, rfl⟩

theorem contractedTuples_nodup (a : Arr R) (xa : List Nat)
    (h : ∀ ix ∈ a.indices, ix.charges.Nodup) : (contractedTuples a xa).Nodup := by
  apply cartesian_nodup
  intro l hl
  obtain ⟨ix, hix, rfl⟩ := List.mem_map.mp hl
  obtain ⟨j, _, hj⟩ := List.mem_filterMap.mp hix
  exact h ix (List.mem_of_getElem? hj)

theorem contractedTuples_length (a : Arr R) (xa : List Nat) (hxa : ∀ x ∈ xa, x < a.ndim) :
    ∀ K ∈ contractedTuples a xa, K.length = xa.length := by
  intro K hK
  have := (mem_cartesian.mp hK).length_eq
  rw [this, List.length_map, permuted_length _ _ hxa]

theorem contractedTuples_cover {a : Arr R} (hs : a.shapesOk) (xa : List Nat) :
    ∀ sa ∈ a.sectors, permuted sa xa ∈ contractedTuples a xa := by
  intro sa hsa
  obtain ⟨p, hp, rfl⟩ := List.mem_map.mp hsa
  rw [contractedTuples, mem_cartesian, List.forall₂_map_right_iff]
  exact forall₂_permuted (charges_of_blockShape? (hs p hp)) xa

end TdotP
end SymmModel
