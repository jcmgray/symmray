/-
  SymmModel.Proofs.NormNet10 — network form of the norm (property C10):
  the decidable label check `netLabelsB` of the four sequential bracketings (the `LabelRoutes`
  hypothesis of S7 for the four operand triples), and its proof for any two label lists with
  pairwise-distinct labels (`LabelAlg.netLabelsB_of_distinct`).
-/
import SymmModel.Proofs.NormNet9
import SymmModel.Props.C04d
namespace SymmModel.NormNet
open SymmModel

open SymmModel.OddposP (mergeOddpos)

section labels

/-- the four label-route conditions of S7 for the operand triples `(K, ā, b̄)`, `(a, b, K̄)`,
    `(ā, b̄, K)`, `(K̄, a, b)`, as a Boolean on the parities and label lists of `a`, `b` -/
def netLabelsB (pA pB : Bool) (oA oB : List (Int × Bool)) : Bool :=
  match mergeOddpos pA oA oB with
  | .ok (out, _) =>
    C04.labelRoutesB (xor pA pB) pA out (Arr.oddposDag oA) (Arr.oddposDag oB)
    && C04.labelRoutesB pA pB oA oB (Arr.oddposDag out)
    && C04.labelRoutesB pA pB (Arr.oddposDag oA) (Arr.oddposDag oB) out
    && C04.labelRoutesB (xor pA pB) pA (Arr.oddposDag out) oA oB
  | .error _ => false

theorem netLabelsB_spec {pA pB : Bool} {oA oB out : List (Int × Bool)} {ph : Int}
    (hm : mergeOddpos pA oA oB = .ok (out, ph)) (h : netLabelsB pA pB oA oB = true) :
    Assoc2P.LabelRoutes (xor pA pB) pA out (Arr.oddposDag oA) (Arr.oddposDag oB)
    ∧ Assoc2P.LabelRoutes pA pB oA oB (Arr.oddposDag out)
    ∧ Assoc2P.LabelRoutes pA pB (Arr.oddposDag oA) (Arr.oddposDag oB) out
    ∧ Assoc2P.LabelRoutes (xor pA pB) pA (Arr.oddposDag out) oA oB := by
  unfold netLabelsB at h
  rw [hm] at h
  simp only [Bool.and_eq_true] at h
  simp only [C04.labelRoutes_iff]
  exact ⟨h.1.1.1, h.1.1.2, h.1.2, h.2⟩

/-- the label check holds for ALL label lists with pairwise-distinct labels (any length, any order,
    kets or bras): each of the four triples is a word next to its conjugate, so every letter is
    paired and `LabelAlg.routes_of_paired` applies -/
theorem _root_.SymmModel.LabelAlg.netLabelsB_of_distinct (pA pB : Bool) (oA oB : List (Int × Bool))
    (hd : OddposP.LabelsDistinct (oA ++ oB)) : netLabelsB pA pB oA oB = true := by
  obtain ⟨out, po, -, m⟩ := OddposP.mergeOddpos_spec pA oA oB hd
  have dA := LabelAlg.oddposDag_perm oA
  have dB := LabelAlg.oddposDag_perm oB
  have dO := (LabelAlg.oddposDag_perm out).trans (po.map LabelAlg.flip)
  have dAB : (Arr.oddposDag oA ++ Arr.oddposDag oB).Perm ((oA ++ oB).map LabelAlg.flip) := by
    rw [List.map_append]; exact dA.append dB
  have route : ∀ (p q : Bool) (la lb lc : List (Int × Bool)),
      (la ++ lb ++ lc).Perm ((oA ++ oB) ++ (oA ++ oB).map LabelAlg.flip) →
      Assoc2P.LabelRoutes p q la lb lc := by
    intro p q la lb lc hw
    obtain ⟨n, pr⟩ := LabelAlg.doubled_word hd hw
    exact LabelAlg.routes_of_paired p q la lb lc n pr
  unfold netLabelsB
  rw [m]
  simp only [Bool.and_eq_true, ← C04.labelRoutes_iff]
  exact ⟨⟨⟨route _ _ _ _ _ (by rw [List.append_assoc]; exact po.append dAB),
    route _ _ _ _ _ ((List.Perm.refl _).append dO)⟩,
    route _ _ _ _ _ ((dAB.append po).trans List.perm_append_comm)⟩,
    route _ _ _ _ _ (by
      rw [List.append_assoc]
      exact (dO.append (List.Perm.refl _)).trans List.perm_append_comm)⟩

end labels

end SymmModel.NormNet
