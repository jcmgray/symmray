/-
  SymmModel.Proofs.Fuse5Conj3 — towards `conj` commutes with `unfuse` (`C05.unfuse_conj_comm`): the
  sub-index table travels through `conj` with its directions flipped (`Index.conj` recurses through
  `sub`), and the pieces and the dict of the unfused conjugate are the conjugated pieces and dict.
-/
import SymmModel.Proofs.Fuse5Conj2
namespace SymmModel
namespace FuseP
open SymmModel.LinalgLemmas SymmModel.Lazy

variable {R : Type} [Zero R] [Neg R] [Conj R] [LawfulNegConj R]

theorem conjK_sliceK (b : Blk R) (starts lens : List Nat) :
    (b.conjK).sliceK starts lens = (b.sliceK starts lens).conjK := by
  unfold Blk.sliceK
  rw [conjK_ofFn]
  exact ofFn_congr (fun i _ => Blk.get_conjK b _)

theorem piecesOf_cj (subs : List Index) (exts : Extents) (p : Nat) (sb : Sector × Blk R) :
    piecesOf (subs.map Index.conj) exts p (cjBlk sb) = (piecesOf subs exts p sb).map cjBlk := by
  simp only [piecesOf, cjBlk, conjK_shape, List.map_map, ← Index.conjList_eq_map, blockShape?_conjList]
  apply List.map_congr_left
  intro q _
  simp only [Function.comp, cjBlk]
  rw [conjK_sliceK, conjK_reshapeK]

theorem adict_cj (l : List (Sector × Blk R)) : adict (l.map cjBlk) = (adict l).map cjBlk :=
  adict_map_val Blk.conjK l

theorem conj_sub (ix : Index) {subs : List Index} {exts : Extents} (h : ix.sub = some (subs, exts)) :
    ix.conj.sub = some (subs.map Index.conj, exts) := by
  obtain ⟨c, d, s⟩ := ix
  simp only [Index.sub] at h
  subst h
  simp only [Index.conj, Index.sub, Index.conjList_eq_map]

theorem replaceWithSeq_map {α β : Type} (f : α → β) (l : List α) (p : Nat) (seq : List α) :
    replaceWithSeq (l.map f) p (seq.map f) = (replaceWithSeq l p seq).map f := by
  simp only [replaceWithSeq, List.append_assoc, List.map_append, List.map_take, List.map_drop]

end FuseP
end SymmModel
