/-
  SymmModel.Proofs.LinalgMore3 — fermionic `eigh` reconstruction, preparations: the sign laws
  `SignLaws`, the sign table `phase_flip` writes, the input of `eighA` after its `phase_sync`.
  The product `ev.multiply_diagonal(w, 1) @ ev.dagger()` is evaluated in Proofs/ReconEigh.lean.
-/
import SymmModel.Proofs.LinalgMore2
import Mathlib.Tactic.Ring
import Mathlib.Algebra.Ring.Rat

namespace SymmModel

/-- sign laws of the scalars used by the fermionic eigh reconstruction -/
class SignLaws (R : Type) [Zero R] [Mul R] [Neg R] : Prop where
  neg_zero : -(0 : R) = 0
  neg_neg : ∀ a : R, - -a = a
  neg_mul : ∀ a b : R, (-a) * b = -(a * b)
  mul_neg : ∀ a b : R, a * (-b) = -(a * b)

instance : SignLaws Int where
  neg_zero := rfl
  neg_neg := Int.neg_neg
  neg_mul := Int.neg_mul
  mul_neg := Int.mul_neg

instance : SignLaws GRat where
  neg_zero := by
    show GRat.mk (-0) (-0) = GRat.mk 0 0
    simp
  neg_neg a := by
    show GRat.mk (- -a.re) (- -a.im) = a
    cases a; simp
  neg_mul a b := by
    show GRat.mk (-a.re * b.re - -a.im * b.im) (-a.re * b.im + -a.im * b.re)
      = GRat.mk (-(a.re * b.re - a.im * b.im)) (-(a.re * b.im + a.im * b.re))
    congr 1 <;> ring
  mul_neg a b := by
    show GRat.mk (a.re * -b.re - a.im * -b.im) (a.re * -b.im + a.im * -b.re)
      = GRat.mk (-(a.re * b.re - a.im * b.im)) (-(a.re * b.im + a.im * b.re))
    congr 1 <;> ring

namespace LinalgLemmas

variable {R : Type}

theorem alookup_flagged (l : List Sector) (P : Sector → Bool) (s : Sector) :
    (alookup ((l.filter P).map (fun s => (s, (-1 : Int)))) s == some (-1)) = (decide (s ∈ l) && P s) := by
  induction l with
  | nil => simp [alookup]
  | cons a l ih =>
    by_cases hP : P a = true
    · simp only [List.filter_cons, hP, if_true, List.map_cons, alookup]
      by_cases e : a = s
      · subst e; simp [hP]
      · have : (a == s) = false := by simp [e]
        simp only [this, Bool.false_eq_true, if_false, ih, List.mem_cons]
        have : ¬ s = a := fun h => e h.symm
        simp [this]
    · simp only [List.filter_cons, hP, Bool.false_eq_true, if_false, ih, List.mem_cons]
      by_cases e : s = a
      · subst e; simp [hP]
      · simp [e]

theorem eighInput_syncIf [Neg R] {a : Arr R} (H : EighInput a) : EighInput (syncIf a) := by
  obtain ⟨f1, f2, f3, f4, f5, f6⟩ := syncIf_fields a
  exact ⟨syncIf_valid a H.hv, by rw [syncIf_ndim]; exact H.h2, by rw [f4, f1]; exact H.hc,
    by rw [f3]; exact H.hopp, by rw [f3]; exact H.hcm⟩

theorem addrOf_syncIf [Neg R] {a : Arr R} (hv : a.validB = true) {s : Sector} {off : List Nat}
    (h : AddrOf a s off) : AddrOf (syncIf a) s off := by
  obtain ⟨_, _, f3, _, _, f6⟩ := syncIf_fields a
  rcases h with h | ⟨b, hm, hbox⟩
  · exact Or.inl (by rw [f6]; exact h)
  · right
    have hs' : s ∈ (syncIf a).sectors := by rw [f6]; exact List.mem_map.mpr ⟨(s, b), hm, rfl⟩
    obtain ⟨⟨s', b'⟩, hm', e⟩ := List.mem_map.mp hs'
    have e' : s' = s := e
    subst e'
    have e1 := Arr.validB_block_shape (syncIf_valid a hv) hm'
    have e2 := Arr.validB_block_shape hv hm
    rw [f3] at e1
    have : b'.shape = b.shape := Option.some.inj (e1.symm.trans e2)
    exact ⟨b', hm', by rw [this]; exact hbox⟩

theorem signed_term [Zero R] [Mul R] [Neg R] [SignLaws R] (σ : Bool) (x w c : R) :
    (x * (if σ then -w else w)) * (if σ then -c else c) = (x * w) * c := by
  cases σ with
  | false => rfl
  | true =>
    simp only [if_true]
    rw [SignLaws.mul_neg, SignLaws.mul_neg, SignLaws.neg_mul, SignLaws.neg_neg]


end LinalgLemmas
end SymmModel
