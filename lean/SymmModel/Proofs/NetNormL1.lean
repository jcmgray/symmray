/-
  SymmModel.Proofs.NetNormL1 — network form of the norm (property C10), ket-bra-first bracketings,
  part 4: list bookkeeping for the hub `(ā·a)·(b̄·b)` (`freeAxes` of a permutation of the first block,
  `positions` under a shift, the axis lists of the routes through `ā·a` in closed form) and the label-free
  piece `X = ā·a` (`Piece`, `piece_of`).
-/
import SymmModel.Proofs.NetNormK3

namespace SymmModel.NormNet
open SymmModel SymmModel.Norm SymmModel.TdotP SymmModel.GradedP SymmModel.RoutesP
open SymmModel.AssocP SymmModel.Assoc3P
open SymmModel.OddposP (mergeOddpos)
set_option linter.unusedSectionVars false

section lists

theorem positions_append_right' (L G x : List Nat) (hx : ∀ e ∈ x, e ∉ L) :
    positions (L ++ G) x = (positions G x).map (L.length + ·) :=
  positions_append_right L G x hx

theorem positions_shift_cancel (G q : List Nat) (b : Nat) :
    positions (G.map (b + ·)) (q.map (b + ·)) = positions G q := by
  have := positions_append_shift [] G q b (by simp)
  simp only [List.nil_append, List.length_nil, Nat.zero_add, List.map_id'] at this
  exact this

theorem positions_range_lt (k : Nat) (x : List Nat) (hx : ∀ i ∈ x, i < k) :
    positions (List.range k) x = x := by
  have := positions_range_append k [] x hx
  rwa [List.append_nil] at this

theorem freeAxes_perm_low (k : Nat) (π : List Nat) (hπ : π.Perm (List.range k)) :
    freeAxes (k + k) π = (List.range k).map (k + ·) := by
  rw [freeAxes_low k k π (perm_range_lt hπ),
    freeAxes_all k π (fun i hi => hπ.mem_iff.mpr (List.mem_range.mpr hi)), List.nil_append]

theorem freeAxes_shift_all (p q : Nat) :
    freeAxes (p + q) ((List.range q).map (p + ·)) = List.range p := by
  rw [AssocP.freeAxes_shift, freeAxes_range_self]
  simp

theorem positions_nil (l : List Nat) : positions l [] = [] := rfl

end lists

section kb
variable {R : Type}

/-- `freeAxes n (freeAxes n xa)` lists the bond legs `xa` in increasing order (a filter of `range n`) -/
theorem sorted_perm {n : Nat} {xa : List Nat} (hn : xa.Nodup) (hlt : ∀ i ∈ xa, i < n) :
    xa.Perm (freeAxes n (freeAxes n xa)) := by
  have h1 := perm_right hn hlt
  have h2 := perm_left (freeAxes_nodup n xa) (fun _ hi => mem_freeAxes_lt _ hi)
  exact (List.perm_append_right_iff _).mp (h1.trans h2.symm)

theorem sorted_len {n : Nat} {xa : List Nat} (hn : xa.Nodup) (hlt : ∀ i ∈ xa, i < n) :
    (freeAxes n (freeAxes n xa)).length = xa.length := (sorted_perm hn hlt).length_eq.symm

/-- the legs of `ā·a` bonded to `b̄`: the positions of `xa` among the sorted bond legs -/
def kbQ (n : Nat) (xa : List Nat) : List Nat := positions (freeAxes n (freeAxes n xa)) xa

theorem kbX_eq (a : Arr R) (xa : List Nat) : kbX a xa = kbQ a.ndim xa := by
  unfold kbX Assoc2P.axesBC kbQ
  rw [positions_nil, List.map_nil, List.append_nil]

theorem kbQ_perm {n : Nat} {xa : List Nat} (hn : xa.Nodup) (hlt : ∀ i ∈ xa, i < n) :
    (kbQ n xa).Perm (List.range xa.length) := by
  have := positions_perm _ xa (sorted_perm hn hlt) (freeAxes_nodup _ _)
  rwa [sorted_len hn hlt] at this

theorem kbQ_lt {n : Nat} {xa : List Nat} (hn : xa.Nodup) (hlt : ∀ i ∈ xa, i < n) :
    ∀ i ∈ kbQ n xa, i < xa.length := perm_range_lt (kbQ_perm hn hlt)

theorem kbQ_nodup {n : Nat} {xa : List Nat} (hn : xa.Nodup) (hlt : ∀ i ∈ xa, i < n) :
    (kbQ n xa).Nodup := perm_range_nodup (kbQ_perm hn hlt)

theorem kbQ_len {n : Nat} {xa : List Nat} (hn : xa.Nodup) (hlt : ∀ i ∈ xa, i < n) :
    (kbQ n xa).length = xa.length := by
  rw [(kbQ_perm hn hlt).length_eq, List.length_range]

/-- the legs of `ā·a` (all of them): first those bonded to `b̄`, then those bonded to `b` -/
def kbP (n : Nat) (xa : List Nat) : List Nat := kbQ n xa ++ (kbQ n xa).map (xa.length + ·)

theorem kbP_perm {n : Nat} {xa : List Nat} (hn : xa.Nodup) (hlt : ∀ i ∈ xa, i < n) :
    (kbP n xa).Perm (List.range (xa.length + xa.length)) := by
  unfold kbP
  rw [List.range_add]
  exact (kbQ_perm hn hlt).append ((kbQ_perm hn hlt).map _)

theorem free_kbQ {n : Nat} {xa : List Nat} (hn : xa.Nodup) (hlt : ∀ i ∈ xa, i < n) :
    freeAxes (xa.length + xa.length) (kbQ n xa) = (List.range xa.length).map (xa.length + ·) :=
  freeAxes_perm_low _ _ (kbQ_perm hn hlt)

theorem free_kbQ_shift {n : Nat} {xa : List Nat} (hn : xa.Nodup) (hlt : ∀ i ∈ xa, i < n) :
    freeAxes (xa.length + xa.length) ((kbQ n xa).map (xa.length + ·)) = List.range xa.length := by
  rw [AssocP.freeAxes_shift, freeAxes_of_perm (kbQ_perm hn hlt)]
  simp

theorem kbU_eq (a b : Arr R) (xa xb : List Nat) :
    kbU a b xa xb = List.range (freeAxes b.ndim xb).length
      ++ (kbQ a.ndim xa).map ((freeAxes b.ndim xb).length + ·) := by
  unfold kbU Assoc2P.axesAB kbQ
  rw [freeAxes_shift_all, positions_self _ List.nodup_range, List.length_range]

theorem axesAB_bXb {m k : Nat} {xb q : List Nat} (hq : q.Perm (List.range k)) :
    Assoc2P.axesAB m (k + k) xb (freeAxes m xb) q (q.map (k + ·))
      = List.range (freeAxes m xb).length ++ q.map ((freeAxes m xb).length + ·) := by
  unfold Assoc2P.axesAB
  rw [positions_self _ (freeAxes_nodup _ _), freeAxes_perm_low k q hq, positions_shift_cancel,
    positions_range_lt k q (perm_range_lt hq)]

theorem axesAB_Xbb {m k : Nat} {xb q : List Nat} (hq : q.Perm (List.range k)) :
    Assoc2P.axesAB (k + k) m q (q.map (k + ·)) xb (freeAxes m xb)
      = q ++ (List.range (freeAxes m xb).length).map (k + ·) := by
  unfold Assoc2P.axesAB
  rw [positions_self _ (freeAxes_nodup _ _), freeAxes_perm_low k q hq, positions_shift_cancel,
    positions_range_lt k q (perm_range_lt hq), List.length_map,
    List.length_range]

theorem axesBC_Xbb {m : Nat} {xb : List Nat} (hn : xb.Nodup) (hlt : ∀ i ∈ xb, i < m) :
    Assoc2P.axesBC m m xb (freeAxes m xb) (freeAxes m xb) xb = kbP m xb := by
  unfold Assoc2P.axesBC kbP kbQ
  rw [sorted_len hn hlt]

end kb

section piece
variable {R : Type} [AddCommMonoid R] [Mul R] [Neg R] [Conj R] [NetLaws R] [AssocLaws R]

/-- `X = ā·a`: the call, its frame, no label, even parity, rank `2·|xa|` -/
structure Piece (a : Arr R) (xa : List Nat) (X : Arr R) : Prop where
  call : (braOf a xa).tensordotF a (.pair ((freeAxes a.ndim xa).map Int.ofNat)
          ((freeAxes a.ndim xa).map Int.ofNat)) .blockwise = .ok X
  inter : ∃ s, Inter (braOf a xa) a (freeAxes a.ndim xa) (freeAxes a.ndim xa) X s
  odd : X.oddpos = []
  par : X.parity = false
  nd : X.ndim = xa.length + xa.length
  adm : AdmW (braOf a xa) a (freeAxes a.ndim xa) (freeAxes a.ndim xa)

theorem piece_of (a : Arr R) (xa : List Nat) (ha : a.validB = true) (hfa : a.fermi = true)
    (hn : xa.Nodup) (hlt : ∀ i ∈ xa, i < a.ndim) (hoA : KetLabels a.oddpos)
    (hdA : a.oddpos.Pairwise (fun x y => x.1 ≠ y.1)) : ∃ X, Piece a xa X := by
  have WAa := admW_bra_self a xa ha hfa
  obtain ⟨sX, mX, qX⟩ := merge_nested (braOf a xa).parity a.oddpos hoA hdA
  obtain ⟨X, eX, IX⟩ := Call.of_merge WAa (out := []) (ph := sX) (by rw [braOf_oddpos a xa]; exact mX)
  have oX := IX.oddpos
  refine ⟨X, eX, ⟨sX, IX.toInter⟩, oX, ?_, ?_, WAa⟩
  · have := (NormOk.of_valid IX.valid IX.fermi).labels
    rw [oX] at this
    rw [← this]; rfl
  · have := IX.ndim
    rw [braOf_ndim, sorted_len hn hlt] at this
    exact this

end piece

end SymmModel.NormNet
