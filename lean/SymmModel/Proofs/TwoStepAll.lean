/-
  SymmModel.Proofs.TwoStepAll — "several pairs at once or one after another" (C04): from the two calls
  of the property theorem to the context `Ctx` of TwoStepMain / TwoStepFinal / TwoStepFrame; what
  `einsumF` leaves unchanged.  Namespace `SymmModel.TwoStepP`.
-/
import SymmModel.Proofs.TwoStepFrame
import SymmModel.Proofs.ValidMore2Einsum

namespace SymmModel
namespace TwoStepP
open TdotP GradedP RoutesP AssocP KoszulP Assoc3P
open Lazy (sgnI)
set_option linter.unusedSectionVars false

variable {R : Type} [AddCommMonoid R] [Mul R] [Neg R] [SignRing R]

theorem two_step_ctx_first {a b c : Arr R} {xa xb ya yb : List Nat}
    (ha : a.validB = true) (hb : b.validB = true) (hfa : a.fermi = true) (hfb : b.fermi = true)
    (g1 : tdotAdmissibleCommonB a b xa xb = true)
    (g2 : tdotAdmissibleCommonB a b (xa ++ ya) (xb ++ yb) = true)
    (h1 : a.tensordotF b (.pair (xa.map Int.ofNat) (xb.map Int.ofNat)) .blockwise = .ok c) :
    ∃ out ph, OddposP.mergeOddpos a.parity a.oddpos b.oddpos = .ok (out, ph) ∧ c.oddpos = out
      ∧ Ctx a b c xa xb ya yb ph := by
  have W1 := AdmW.of ha hb hfa hfb g1
  obtain ⟨out, ph, C⟩ := Call.of_ok W1 h1
  exact ⟨out, ph, C.merge, C.oddpos, W1, AdmW.of ha hb hfa hfb g2, C.toInter⟩

/-- the two calls of the property: the one-step call merges the same labels, hence carries the same sign -/
theorem two_step_ctx {a b c c' : Arr R} {xa xb ya yb : List Nat}
    (ha : a.validB = true) (hb : b.validB = true) (hfa : a.fermi = true) (hfb : b.fermi = true)
    (g1 : tdotAdmissibleCommonB a b xa xb = true)
    (g2 : tdotAdmissibleCommonB a b (xa ++ ya) (xb ++ yb) = true)
    (h1 : a.tensordotF b (.pair (xa.map Int.ofNat) (xb.map Int.ofNat)) .blockwise = .ok c)
    (h3 : a.tensordotF b (.pair ((xa ++ ya).map Int.ofNat) ((xb ++ yb).map Int.ofNat)) .blockwise
      = .ok c') :
    ∃ ph, Ctx a b c xa xb ya yb ph ∧ Inter a b (xa ++ ya) (xb ++ yb) c' ph ∧ c.oddpos = c'.oddpos := by
  obtain ⟨out, ph, hm, o1, C⟩ := two_step_ctx_first ha hb hfa hfb g1 g2 h1
  obtain ⟨out', ph', C'⟩ := Call.of_ok C.W2 h3
  obtain ⟨rfl, rfl⟩ := Prod.mk.inj (Except.ok.inj (hm.symm.trans C'.merge))
  exact ⟨ph, C, C'.toInter, o1.trans C'.oddpos.symm⟩

theorem einsumF_frame' {c e : Arr R} {lhs rhs : List Nat}
    (h : c.einsumF lhs rhs = .ok e) :
    e.oddpos = c.oddpos ∧ e.charge = c.charge ∧ e.sym = c.sym ∧ e.fermi = c.fermi := by
  rw [Lazy.einsumF_eq] at h
  split at h
  · cases h
  · obtain ⟨perm, _, _, rfl⟩ := ValidP.einsumA_ok h
    exact ⟨rfl, rfl, rfl, rfl⟩

end TwoStepP
end SymmModel
