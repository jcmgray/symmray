/-
  SymmModel.Proofs.Fuse8ConjSign — sign bricks for `conj` of a fused fermionic array (the relation
  between `unfuseAllF (conjF (fuseF a groups))` and `conjF (transposeF a perm)`, assembled in
  `Fuse9*`).

  One `unfuseF` step at axis `p` against `conjF`, on the value view, for an in-box address `(K, J)`
  whose collapsed address is `(Kc, Jc)`:
      (unfuseF (conjF x) p).elem K J = s'(K) · ct(Kc) · conj (x.elem Kc Jc)
      (conjF (unfuseF x p)).elem K J = ct(K) · conj (s(K) · x.elem Kc Jc)
  with `s`, `s'` the step signs (`segSign` of the index / of the conjugated index) and `ct` the
  `conjTotSign` (`koszul par none = sgn (tri #odd)` and a global factor that is the same on both
  sides).  `conj_step_sign`: `s · s' = flip(mismatched legs) · rev(segment)`; `tri_collapse`:
  `ct(K) · ct(Kc) = rev(segment)`.  Hence the two sides differ by the flip over the legs whose
  direction differs from the fused index, on every step; the steps are independent
  (`unfuseSign_seg`), which gives the per-sector sign of property C05, part i
  (`C05.conj_fuse_relation`).
-/
import SymmModel.Proofs.Fuse6Sign
import SymmModel.Proofs.Fuse5Conj1
namespace SymmModel
namespace FuseP
set_option linter.unusedSectionVars false
open SymmModel.Lazy SymmModel.KoszulP

/-- the legs whose direction differs from the fused index -/
def mismatchLegs (ix : Index) (subs : List Index) : List Nat :=
  (List.range subs.length).filter (fun t => (subs.getD t default).dual != ix.dual)

theorem conj_step_sign (sym : Sym) (ix : Index) (subs : List Index) (S : Sector) :
    segSign sym ix subs S * segSign sym ix.conj (subs.map Index.conj) S
      = Lazy.flipSign sym (mismatchLegs ix subs) S * revSign (S.map sym.parity) (List.range subs.length) := by
  have hd : ix.conj.dual = !ix.dual := Index.conj_dual ix
  have hsub : ∀ t, ((subs.map Index.conj).getD t default).dual
      = if t < subs.length then !(subs.getD t default).dual else (default : Index).dual := by
    intro t
    by_cases ht : t < subs.length
    · rw [getD_map_conj subs ht, Index.conj_dual]; simp [ht]
    · simp only [List.getD_eq_getElem?_getD, List.length_map, ht, not_false_eq_true, getElem?_neg, Option.getD_none,
        ↓reduceIte]
  unfold segSign mismatchLegs
  rw [hd, List.length_map]
  cases hix : ix.dual with
  | true =>
    simp only [if_true, Bool.not_true, Bool.false_eq_true, if_false, Int.mul_one]
    congr 2
    apply List.filter_congr
    intro t _
    cases (subs.getD t default).dual <;> rfl
  | false =>
    simp only [Bool.false_eq_true, if_false, Bool.not_false, if_true, Int.one_mul]
    congr 2
    apply List.filter_congr
    intro t ht
    rw [hsub t, if_pos (List.mem_range.1 ht)]
    cases (subs.getD t default).dual <;> rfl

/-- collapsing `ks` odd legs into one leg of parity `ks % 2` changes the full-reversal sign by the
    reversal sign of the collapsed legs -/
theorem tri_collapse (kr ks : Nat) : sgn (tri (kr + ks)) * sgn (tri (kr + ks % 2)) = sgn (tri ks) := by
  rw [← sgn_add]
  apply sgn_congr
  rw [tri_mod_two ks, Nat.add_mod, tri_mod_two, tri_mod_two]
  omega

end FuseP
end SymmModel
