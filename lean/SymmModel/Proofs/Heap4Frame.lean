/-
  SymmModel.Proofs.Heap4Frame — the buffer table is append-only: every effect program only appends
  entries to it (property C14).  Together with the identity of objects (`Step`) this lifts the frame
  theorems from "the same objects with the same items" to "the same DENOTATION"
  (`frame_denotation_of_same`, Props/C14d).
-/
import SymmModel.Proofs.Heap2Lemmas
import SymmModel.Proofs.Heap3Sem
namespace SymmModel.Heap

theorem runModify_bufext (m : Mods) (h : Heap) (x : ObjId) (o : ArrObj) : BufExt h (runModify m h x o) := by
  unfold runModify
  exact ((argBlocks_spec h m.blocks).1.trans (argPhases_spec _ o m.phases).1).bufs.trans
    (BufExt.of_eq (rebinds_bufs _ _ _))

theorem onPhases_bufext (h : Heap) (o : ArrObj) (f : Dict → Dict) :
    BufExt h (onPhases h o (fun p => updDict h p f)) := by
  unfold onPhases
  split
  · exact BufExt.of_eq (updDict_bufs _ _ _)
  · exact BufExt.refl _

theorem runAct_bufext (a : Act) (h : Heap) (x : ObjId) : BufExt h (runAct a h x) := by
  unfold runAct
  split
  · exact BufExt.refl _
  · rename_i o _
    cases a with
    | modify m => exact runModify_bufext m h x o
    | setOddpos v => exact BufExt.of_eq (rebindField_bufs _ _ _)
    | bKern k tag args =>
      exact (newBuffer_grows h tag args).bufs.trans (BufExt.of_eq (updDict_bufs _ _ _))
    | bPut _ _ | bPop _ | bUpdate _ => exact BufExt.of_eq (updDict_bufs _ _ _)
    | pSet _ _ | pPop _ | pPopItem | pClear => exact onPhases_bufext h o _
    | pCopyThen f =>
      dsimp only
      unfold onPhases
      split
      · dsimp only
        exact BufExt.of_eq (by rw [rebindField_bufs, updDict_bufs]; rfl)
      · exact BufExt.refl _

theorem runCmd_bufext (c : Cmd) (h : Heap) (env : Env) : BufExt h (runCmd c h env).1 := by
  cases c with
  | copy s => exact (copyArr_spec _ _).1.bufs
  | copyWith s m => exact (copyWithArr_spec _ _ _).1.bufs
  | construct i c es f o => exact (constructArr_spec _ _ _ _ _ _).1.bufs
  | alias s => exact BufExt.refl _
  | dictCopy s => simp only [runCmd]; split <;> exact BufExt.of_eq rfl
  | dictRef s => simp only [runCmd]; split <;> exact BufExt.refl _
  | act t a => exact runAct_bufext _ _ _
  | dmut t f => exact BufExt.of_eq (updDict_bufs _ _ _)
  | shareBlocks t s =>
    simp only [runCmd]; split
    · exact BufExt.of_eq (rebindField_bufs _ _ _)
    · exact BufExt.refl _
  | sharePhases t s =>
    simp only [runCmd]; split
    · split
      · exact BufExt.of_eq (rebindField_bufs _ _ _)
      · exact BufExt.refl _
    · exact BufExt.refl _

theorem prog_bufext (p : Prog) : ∀ (h : Heap) (env : Env), BufExt h (p.run h env).1 := by
  induction p with
  | done => intro h env; exact BufExt.refl _
  | cmd c k ih => intro h env; exact (runCmd_bufext c h env).trans (ih _ _)
  | read f ih => intro h env; exact ih _ _ _

theorem spec_bufext (s : OpSpec) (h : Heap) (operands : List ObjId) : BufExt h (s.run h operands).1 :=
  prog_bufext s.prog h _

theorem runG_bufext (cs : List GCall) : ∀ (h : Heap) (env : Env), BufExt h (runG cs h env).1 := by
  induction cs with
  | nil => intro h env; exact BufExt.refl _
  | cons c r ih => intro h env; exact (spec_bufext c.spec h _).trans (ih _ _)

theorem wf_of_same {h h' : Heap} (hs : ∀ i o, h.get? i = some o → h'.get? i = some o) {y : ObjId} {a : ArrObj}
    {bd : Dict} {pd : Option Dict} (w : WFArr h y a bd pd) : WFArr h' y a bd pd :=
  ⟨hs _ _ w.arr, hs _ _ w.blk,
   fun p hp => let ⟨d, e, hd, hne⟩ := w.ph p hp; ⟨d, e, hs _ _ hd, hne⟩, w.phn⟩

theorem semDict_bufext {V : Type} (I : Nat → List V → V) (d : V) {h h' : Heap} (e : BufExt h h') {l : Dict}
    (hok : DictOK h.bufs.length l) : semDict I d h'.bufs l = semDict I d h.bufs l := by
  obtain ⟨X, hX⟩ := e
  rw [hX]; exact semDict_append I d h.bufs X hok

end SymmModel.Heap
