/-
  SymmModel.Proofs.SpecConj — negation, `FermionicArray.conj` and `dagger` in closed form: the array each builds
  (`conjCore` on the new sign table `conjPhases`; `dagCore`), when the global sign of an odd-parity
  array is added (`conjGlob`), and the two equations `conjF_eq`, `daggerF_eq` that validity and the
  value theorems both start from.
-/
import SymmModel.Model.Fermi

namespace SymmModel.Lazy
open SymmModel

section conj
variable {R : Type} [Zero R] [Neg R]

/-- the driver's `neg` (`-x` on a fermionic or abelian array) -/
def negA (a : Arr R) : Arr R := { a with blocks := a.blocks.map (fun (k, b) => (k, b.negK)) }

variable [Conj R]

/-- the block / index / charge / label part of `FermionicArray.conj` -/
def conjCore (x : Arr R) : Arr R :=
  { x with blocks := x.blocks.map (fun (s, b) => (s, b.conjK)),
           indices := x.indices.map Index.conj,
           charge := x.sym.sign x.charge true,
           oddpos := Arr.oddposDag x.oddpos }

/-- the axes `conj(phase_dual=True)` flips: the bra-like (dual) legs of the input -/
def axsConj (a : Arr R) : List Nat :=
  (((a.indices.map Index.conj).zipIdx.filter (fun p => !p.1.dual)).map (·.2))

def dualOdd (a : Arr R) (s : Sector) : Bool :=
  ((axsConj a).filter (fun ax => (a.parities s).getD ax false)).length % 2 == 1

/-- the pending-sign table `conj` computes before the odd-parity global sign -/
def conjPhases (a : Arr R) (pp pd : Bool) : List (Sector × Int) :=
  if pp || pd then
    a.sectors.foldl (fun ph s =>
      let par := a.parities s
      let p0 := (alookup ph s).getD 1
      let p1 := if pp then p0 * koszul par none else p0
      let p2 := if pd && ((axsConj a).filter (fun ax => par.getD ax false)).length % 2 == 1
                then -p1 else p1
      Arr.setPhase ph s p2) a.phases
  else a.phases

/-- whether `conj` adds the global sign of an odd-parity array -/
def conjGlob (a : Arr R) (pp : Bool) : Bool :=
  pp && a.sym.parity (a.sym.sign a.charge true) && (Arr.oddposDag a.oddpos).length % 2 == 1

omit [Zero R] [Neg R] in
theorem conjF_eq (a : Arr R) (pp pd : Bool) :
    a.conjF pp pd =
      if conjGlob a pp then (conjCore { a with phases := conjPhases a pp pd }).phaseGlobal
      else conjCore { a with phases := conjPhases a pp pd } := rfl

end conj

section dagger
variable {R : Type} [Zero R] [Neg R] [Conj R]

/-- the block / table / index / charge / label part of `FermionicArray.dagger` -/
def dagCore (a : Arr R) : Arr R :=
  { a with blocks := a.blocks.map (fun (s, b) => (s.reverse, (b.conjK).transposeK (Arr.reversedAxes a.ndim))),
           phases := a.blocks.filterMap (fun (s, _) =>
             if a.getPhase s == -1 then some (s.reverse, (-1 : Int)) else none),
           indices := a.indices.reverse.map Index.conj,
           charge := a.sym.sign a.charge true,
           oddpos := Arr.oddposDag a.oddpos }

/-- the legs `dagger(phase_dual=True)` flips -/
def dagAxs (a : Arr R) : List Nat :=
  ((a.indices.reverse.map Index.conj).zipIdx.filter (fun p => !p.1.dual)).map (·.2)

omit [Neg R] in
theorem daggerF_eq (a : Arr R) (pd : Bool) :
    a.daggerF pd =
      if pd then
        (if conjGlob a true then (dagCore a).phaseGlobal else dagCore a).phaseFlip (dagAxs a)
      else (if conjGlob a true then (dagCore a).phaseGlobal else dagCore a) := rfl

end dagger

end SymmModel.Lazy
