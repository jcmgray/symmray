/-
  SymmModel.Proofs.LinalgMore — `eigh` reconstruction (C11b): `(ev · diag w) · ev† = a` for
  abelian arrays (blockwise contraction with the abelian adjoint), under a per-block value contract
  of the kernel (`EighBlock`), and the structural hypotheses `EighInput` it shares with the
  fermionic case (Proofs/ReconEigh.lean).
-/
import SymmModel.Proofs.LinalgFermi
import SymmModel.Proofs.LinalgSolveRecon

namespace SymmModel

variable {R : Type}

/-- VALUE contract of the eigh kernel on ONE square block `b`, `(w, v) = K.eigh b`:
    `Σ_t (v[i,t] · w[t]) · conj v[j,t] = b[i,j]`.  It is a hypothesis on the blocks of the call
    (no kernel over an exact scalar type diagonalises every Hermitian block). -/
def Kernels.EighBlock [Zero R] [Add R] [Mul R] [Conj R] (K : Kernels R) (b : Blk R) : Prop :=
  ∀ m, b.shape = [m, m] → ∀ i j, i < m → j < m →
    (List.range m).foldl (fun acc t =>
      acc + ((K.eigh b).2.get [i, t] * (K.eigh b).1.get [t]) * Conj.conj ((K.eigh b).2.get [j, t])) 0
      = b.get [i, j]

/-- abelian adjoint: `conj` then reversal of the axes (`AbelianArray.H` / `dagger`) -/
def Arr.adjA [Zero R] [Conj R] (a : Arr R) : Arr R := (a.conjA).transposeA (Arr.reversedAxes a.ndim)

namespace LinalgLemmas

theorem conjK_get [Zero R] [Conj R] (hc0 : Conj.conj (0 : R) = 0) (b : Blk R) (i : List Nat) :
    b.conjK.get i = Conj.conj (b.get i) := by
  simp only [Blk.get, Blk.conjK, Blk.map, Array.getD_eq_getD_getElem?, Array.getElem?_map]
  cases b.data[ravel b.shape i]? <;> simp [hc0]

@[simp] theorem conjK_shape [Conj R] (b : Blk R) : b.conjK.shape = b.shape := rfl

theorem conjK_wf [Conj R] (b : Blk R) : b.conjK.wf = b.wf := by
  simp [Blk.wf, Blk.conjK, Blk.map]

theorem transposeK10_shape [Zero R] (b : Blk R) {m n : Nat} (hb : b.shape = [m, n]) :
    (b.transposeK [1, 0]).shape = [n, m] := by
  unfold Blk.transposeK
  rw [hb]; rfl

theorem transposeK10_get [Zero R] (b : Blk R) {m n : Nat} (hb : b.shape = [m, n]) {i j : Nat}
    (hi : i < n) (hj : j < m) : (b.transposeK [1, 0]).get [i, j] = b.get [j, i] := by
  unfold Blk.transposeK
  rw [hb]
  have h3 : permuted [m, n] [1, 0] = [n, m] := rfl
  rw [h3, ofFn_get _ _ ((inBox_pair n m i j).mpr ⟨hi, hj⟩)]
  rfl

theorem diag_of_zero (s : Sym) (d : Bool) (r c : Charge) (hr : s.valid r = true)
    (hc : s.valid c = true) (h : s.combine [s.sign r d, s.sign c (!d)] = s.zero) : r = c := by
  rw [← diag_valid s r d hr, Sym.combine_comm _ (s.sign r (!d))] at h
  exact (signed_pair_cancel s (!d) d hr hc hr h).symm

/-- the structural hypotheses of the eigh reconstruction -/
structure EighInput (a : Arr R) : Prop where
  hv : a.validB = true
  h2 : a.ndim = 2
  hc : a.charge = a.sym.zero
  hopp : (a.indices.getD 1 default).dual = !(a.indices.getD 0 default).dual
  hcm : (a.indices.getD 0 default).cm = (a.indices.getD 1 default).cm

theorem eigh_block {a : Arr R} (H : EighInput a) {s : Sector} {b : Blk R} (hm : (s, b) ∈ a.blocks) :
    ∃ c m, s = [c, c] ∧ b.shape = [m, m] ∧ b.wf = true ∧ a.sym.valid c = true
      ∧ alookup (a.indices.getD 1 default).cm c = some m := by
  obtain ⟨i0, i1, hi⟩ := ndim_two H.h2
  obtain ⟨r, c, m, n, B⟩ := mat_block H.hv hi hm
  have hopp : i1.dual = !i0.dual := by simpa [hi] using H.hopp
  have hcm : i0.cm = i1.cm := by simpa [hi] using H.hcm
  have hrc : r = c := by
    apply diag_of_zero a.sym i0.dual r c B.vr B.vc
    rw [← hopp, B.hcharge, H.hc]
  subst hrc
  have hmn : m = n := by
    have h1 := B.hr; rw [hcm, B.hc] at h1
    exact (Option.some.inj h1).symm
  subst hmn
  exact ⟨r, m, B.hs, B.hshape, B.hwf, B.vr, by simpa [hi] using B.hc⟩

theorem eigh_squares {a : Arr R} (H : EighInput a) :
    ∀ p ∈ a.blocks, p.2.shape.getD 0 0 = p.2.shape.getD 1 0 := by
  intro p hp
  obtain ⟨c, m, _, hs, _⟩ := eigh_block H (s := p.1) (b := p.2) hp
  rw [hs]; rfl

theorem eighCore_eq [Neg R] (K : Kernels R) {a : Arr R} (H : EighInput a) :
    eighCore K a = .ok
      (⟨let ev := a.blocks.map (fun p => (colOf p.1, (K.eigh p.2).1))
        if a.fermi && !(a.indices.getD 1 default).dual then
          ev.map (fun q => if a.sym.parity q.1 then (q.1, q.2.negK) else (q.1, q.2))
        else ev⟩,
       { a with blocks := a.blocks.map (fun p => (p.1, (K.eigh p.2).2)) }) := by
  have hsq : (a.blocks.any (fun (_, b) => b.shape.getD 0 0 != b.shape.getD 1 0)) = false := by
    rw [List.any_eq_false]
    intro p hp
    have := eigh_squares H p hp
    simp only [this, bne_self_eq_false, Bool.false_eq_true, not_false_eq_true]
  unfold eighCore
  rw [adict_of_nodup _ (colKeys_nodup H.hv H.h2 (fun p => K.eigh p.2) (fun q => q.2.1))]
  simp only [H.h2, H.hc, hsq, bne_self_eq_false, Bool.false_eq_true, if_false, List.map_map,
    Function.comp_def]
  rfl

theorem adj_blocks_aux {a : Arr R} (H : EighInput a) (g : Blk R → Blk R) :
    adict (a.blocks.map (fun p => (permuted p.1 [1, 0], g p.2)))
      = a.blocks.map (fun p => ([colOf p.1, colOf p.1], g p.2)) := by
  have he : a.blocks.map (fun p => (permuted p.1 [1, 0], g p.2))
      = a.blocks.map (fun p => ([colOf p.1, colOf p.1], g p.2)) := by
    apply List.map_congr_left
    intro p hp
    obtain ⟨c, m, hs, _⟩ := eigh_block H (s := p.1) (b := p.2) hp
    rw [hs]; rfl
  rw [he]
  apply adict_of_nodup
  rw [List.map_map]
  exact nodup_map_diag (blocks_cols_nodup H.hv H.h2)

theorem adjA_blocks [Zero R] [Conj R] {a : Arr R} (H : EighInput a) (ev : Arr R)
    (fV : Blk R → Blk R) (hev : ev.blocks = a.blocks.map (fun p => (p.1, fV p.2)))
    (hnd : ev.ndim = 2) :
    ev.adjA.blocks = a.blocks.map (fun p =>
      ([colOf p.1, colOf p.1], ((fV p.2).conjK).transposeK [1, 0])) := by
  have hr : Arr.reversedAxes ev.ndim = [1, 0] := by rw [hnd]; rfl
  unfold Arr.adjA
  rw [hr]
  simp only [Arr.transposeA, Arr.conjA, hev, List.map_map, Function.comp_def]
  exact adj_blocks_aux H (fun b => ((fV b).conjK).transposeK [1, 0])

theorem eigh_block_value [Zero R] [Add R] [Mul R] [Conj R] (hc0 : Conj.conj (0 : R) = 0)
    {K : Kernels R} (hK : K.ShapeOk) {b : Blk R} {m : Nat} (hs : b.shape = [m, m])
    (hwf : b.wf = true) (hE : K.EighBlock b) {i j : Nat} (hi : i < m) (hj : j < m) :
    (((K.eigh b).2.mulAxisK (K.eigh b).1 1).tensordotK
        (((K.eigh b).2.conjK).transposeK [1, 0]) [1] [0]).get [i, j] = b.get [i, j] := by
  obtain ⟨_, _, a3, _⟩ := hK.eigh b m hs hwf
  rw [tensordotK_matmul_get _ _ (by rw [mulAxisK_shape]; exact a3)
    (transposeK10_shape _ (by rw [conjK_shape]; exact a3)) hi hj, ← hE m hs i j hi hj]
  apply foldl_ext'
  intro acc t ht
  have ht' := List.mem_range.mp ht
  rw [mulAxisK_get _ _ a3 hi ht', transposeK10_get _ (by rw [conjK_shape]; exact a3) ht' hj,
    conjK_get hc0]

theorem eigh_recon_abelian [Zero R] [Add R] [Mul R] [Neg R] [Conj R] (hc0 : Conj.conj (0 : R) = 0)
    {K : Kernels R} (hK : K.ShapeOk) {a : Arr R} (H : EighInput a) (hf : a.fermi = false)
    (hE : ∀ p ∈ a.blocks, K.EighBlock p.2) :
    ∃ w ev, eighA K a = .ok (w, ev) ∧
      ∀ s off, AddrOf a s off →
        (tensordotBlockwise (multiplyDiagonal ev w 1) ev.adjA [0] [1] [0] [1]).elem s off
          = a.elem s off := by
  have hsync : syncIf a = a := by unfold syncIf; simp [hf]
  have hcore := eighCore_eq K H
  simp only [hf, Bool.false_and, Bool.false_eq_true, if_false] at hcore
  refine ⟨_, _, by rw [eighA_eq_core, hsync]; exact hcore, fun s off ha => ?_⟩
  have hxph := Arr.phases_nil_of_validB H.hv hf
  have hmd := multiplyDiagonal_blocks H.hv H.h2 (fun b => (K.eigh b).2) (fun b => (K.eigh b).1)
    ({ a with blocks := a.blocks.map (fun p => (p.1, (K.eigh p.2).2)) } : Arr R)
    ⟨a.blocks.map (fun p => (colOf p.1, (K.eigh p.2).1))⟩ rfl rfl
  have hadj := adjA_blocks H
    ({ a with blocks := a.blocks.map (fun p => (p.1, (K.eigh p.2).2)) } : Arr R)
    (fun b => (K.eigh b).2) rfl H.h2
  apply elem_of_blocks_map H.hv H.h2 _
    (fun p => ((K.eigh p.2).2.mulAxisK (K.eigh p.2).1 1).tensordotK
      (((K.eigh p.2).2.conjK).transposeK [1, 0]) [1] [0])
    (tdot_blocks_aligned H.hv H.h2 (fun p => (K.eigh p.2).2.mulAxisK (K.eigh p.2).1 1)
      (fun p => ((K.eigh p.2).2.conjK).transposeK [1, 0]) _ _ hmd hadj) hxph hxph _ s off ha
  intro p hp i j hi' hj'
  obtain ⟨c, m, _, hs, hwf, _⟩ := eigh_block H (s := p.1) (b := p.2) hp
  simp only [hs, List.getD_cons_zero, List.getD_cons_succ] at hi' hj'
  exact eigh_block_value hc0 hK hs hwf (hE p hp) hi' hj'

end LinalgLemmas
end SymmModel
