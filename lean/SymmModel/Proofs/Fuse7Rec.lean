/-
  SymmModel.Proofs.Fuse7Rec — `recurseConcat` of the model is the pure nested concatenation `nest`
  over the levels of the groups, when the look-ups succeed.  The levels of the groups are a map over the
  group numbers (`lvFrom_eq_map`) with pairwise distinct axes (`lvDistinct_lvFrom`): that is all the facts of
  Fuse7Nest about level lists need to know about groups.
-/
import SymmModel.Proofs.Fuse7Nest
import SymmModel.Proofs.FuseMultiAll
namespace SymmModel
namespace FuseP
set_option linter.unusedSectionVars false

variable {R : Type} [Zero R]

section Rec
variable (a : Arr R) (groups : List (List Nat))

/-- the extent that the fused charge of `ns` has at group `g` -/
def extM (ns : Sector) (g : Nat) : Extent :=
  (alookup (extsM a groups g) (ns.getD ((giM a groups).position + g) (0, 0))).getD []

def lvlM (ns : Sector) (g : Nat) : Lvl :=
  if multiB groups g then .multi ((giM a groups).position + g) (extM a groups ns g)
  else .single [ns.getD ((giM a groups).position + g) (0, 0)]

/-- levels of the groups `g, g+1, …, g+fuel-1` -/
def lvFrom (ns : Sector) : Nat → Nat → List Lvl
  | _, 0 => []
  | g, f + 1 => lvlM a groups ns g :: lvFrom ns (g + 1) f

def leafM (sub : List (List Sector × Blk R)) (zs : List Sector → List Nat) (key : List Sector) : Blk R :=
  match alookup sub key with
  | some b => b
  | none => Blk.zeros (zs key)

variable {a groups}

theorem leaf_ok (sub : List (List Sector × Blk R)) (zs : List Sector → List Nat)
    (zeroShapeOf : List Sector → Except Err (List Nat)) (key : List Sector)
    (h : zeroShapeOf key = .ok (zs key)) :
    (match alookup sub key with
      | some b => (pure b : Except Err (Blk R))
      | none => do
        let shp ← zeroShapeOf key
        pure (Blk.zeros shp)) = .ok (leafM sub zs key) := by
  unfold leafM
  cases alookup sub key with
  | some b => rfl
  | none => simp only [h, bind, Except.bind]; rfl

theorem lvFrom_eq_map (ns : Sector) : ∀ (f g : Nat),
    lvFrom a groups ns g f = (List.range' g f).map (lvlM a groups ns)
  | 0, _ => rfl
  | f + 1, g => by rw [lvFrom, lvFrom_eq_map ns f (g + 1), List.range'_succ, List.map_cons]

theorem lvFrom_getElem? (ns : Sector) (f g t : Nat) :
    (lvFrom a groups ns g f)[t]? = if t < f then some (lvlM a groups ns (g + t)) else none := by
  rw [lvFrom_eq_map, List.getElem?_map]
  split
  · next h => rw [List.getElem?_range' h]; simp
  · next h => rw [List.getElem?_eq_none (by simpa using h)]; rfl

theorem mem_lvFrom {ns : Sector} {f g : Nat} {l : Lvl} (h : l ∈ lvFrom a groups ns g f) :
    ∃ t, t < f ∧ l = lvlM a groups ns (g + t) := by
  obtain ⟨t, ht⟩ := List.getElem?_of_mem h
  rw [lvFrom_getElem?] at ht
  split at ht
  · next h => exact ⟨t, h, (Option.some.inj ht).symm⟩
  · cases ht

theorem lvlM_multi {ns : Sector} {g ax : Nat} {e : Extent} (h : lvlM a groups ns g = .multi ax e) :
    multiB groups g = true ∧ ax = (giM a groups).position + g ∧ e = extM a groups ns g := by
  unfold lvlM at h
  split at h
  · next hm => cases h; exact ⟨hm, rfl, rfl⟩
  · cases h

theorem lvDistinct_lvFrom (ns : Sector) (f g : Nat) : LvDistinct (lvFrom a groups ns g f) := by
  rw [LvDistinct, lvFrom_eq_map, List.pairwise_map]
  refine List.Pairwise.imp_of_mem ?_ List.pairwise_lt_range'
  intro x y _ _ hxy ax e ax' e' h1 h2
  obtain ⟨_, rfl, _⟩ := lvlM_multi h1
  obtain ⟨_, rfl, _⟩ := lvlM_multi h2
  omega

theorem lvFrom_length (ns : Sector) (f g : Nat) : (lvFrom a groups ns g f).length = f := by
  rw [lvFrom_eq_map]; simp

theorem singlets_not_multiB {g : Nat} (hg : g < groups.length) :
    (giM a groups).singlets.contains g = !multiB groups g := by
  rw [← not_singlet_eq_multi (duals := a.duals) hg, Bool.not_not]

/-- `q` is a possible choice at the level of group `g` -/
def FitsM (a : Arr R) (groups : List (List Nat)) (ns : Sector) (g : Nat) (q : Sector × Nat) : Prop :=
  if multiB groups g then q ∈ extM a groups ns g else q.1 = [ns.getD ((giM a groups).position + g) (0, 0)]

theorem choice_cons {ns : Sector} {g : Nat} {q : Sector × Nat} {rest : List Lvl} {qs : List (Sector × Nat)}
    (hq : FitsM a groups ns g q) (h : Choice rest qs) : Choice (lvlM a groups ns g :: rest) (q :: qs) := by
  unfold FitsM at hq
  unfold lvlM
  by_cases hm : multiB groups g = true
  · rw [if_pos hm] at hq ⊢
    exact ⟨q, qs, rfl, hq, h⟩
  · rw [if_neg hm] at hq ⊢
    exact ⟨q, qs, rfl, hq, h⟩

/-- one level of `recurseConcat`, whatever comes below it (`next`: the leaf at the last group, the
    recursive call otherwise) -/
theorem recurse_step (hok : GroupsAdm groups a.ndim) (sub : List (List Sector × Blk R)) (ns : Sector)
    (zeroShapeOf : List Sector → Except Err (List Nat)) (zs : List Sector → List Nat) {g : Nat}
    (hgl : g < groups.length)
    (hext : multiB groups g = true →
      (alookup (extsM a groups g) (ns.getD ((giM a groups).position + g) (0, 0))).isSome = true)
    (fuel : Nat) (key : List Sector) (rest : List Lvl)
    (hnext : ∀ q, FitsM a groups ns g q →
      (if (g + 1 == groups.length) = true then
        (match alookup sub (key ++ [q.1]) with
          | some b => (pure b : Except Err (Blk R))
          | none => do
            let shp ← zeroShapeOf (key ++ [q.1])
            pure (Blk.zeros shp))
       else recurseConcat (fuseInfoOf a groups) sub ns zeroShapeOf fuel (g + 1) (key ++ [q.1]))
        = .ok (nest (leafM sub zs) rest (key ++ [q.1]))) :
    recurseConcat (fuseInfoOf a groups) sub ns zeroShapeOf (fuel + 1) g key
      = .ok (nest (leafM sub zs) (lvlM a groups ns g :: rest) key) := by
  have hsing : (fuseInfoOf a groups).gi.singlets.contains g = !multiB groups g := singlets_not_multiB hgl
  have hpos : (fuseInfoOf a groups).gi.position = (giM a groups).position := rfl
  have hnum : (fuseInfoOf a groups).gi.numGroups = groups.length := rfl
  rw [recurseConcat]
  simp only [hsing, hpos, hnum]
  unfold FitsM at hnext
  unfold lvlM
  cases hm : multiB groups g with
  | false =>
    simp only [hm, Bool.false_eq_true, if_false] at hnext
    simp only [Bool.not_false, if_true, Bool.false_eq_true, if_false, nest]
    exact hnext ([ns.getD ((giM a groups).position + g) (0, 0)], 0) rfl
  | true =>
    simp only [hm, if_true] at hnext
    simp only [Bool.not_true, Bool.false_eq_true, if_false, if_true, nest]
    obtain ⟨gaxes, hgx, hlen⟩ := multiB_iff.1 hm
    have hix : (fuseInfoOf a groups).newIndices.getD ((giM a groups).position + g) default
        = ixM a groups g := rfl
    rw [hix, ixM_sub hok hgx hlen]
    obtain ⟨e, he⟩ := Option.isSome_iff_exists.1 (hext hm)
    have hee : extM a groups ns g = e := by simp only [extM, he, Option.getD_some]
    rw [hee] at hnext ⊢
    simp only [he, bind, Except.bind, pure, Except.pure]
    rw [mapM_ok_of_forall _ (fun q : Sector × Nat => nest (leafM sub zs) rest (key ++ [q.1])) e]
    intro q hq
    exact hnext q hq

theorem recurse_eq (hok : GroupsAdm groups a.ndim) (sub : List (List Sector × Blk R)) (ns : Sector)
    (zeroShapeOf : List Sector → Except Err (List Nat)) (zs : List Sector → List Nat)
    (hext : ∀ g, g < groups.length → multiB groups g = true →
      (alookup (extsM a groups g) (ns.getD ((giM a groups).position + g) (0, 0))).isSome = true) :
    ∀ (fuel g : Nat) (key : List Sector), g + (fuel + 1) = groups.length →
      (∀ qs, Choice (lvFrom a groups ns g (fuel + 1)) qs →
        zeroShapeOf (key ++ qs.map (·.1)) = .ok (zs (key ++ qs.map (·.1)))) →
      recurseConcat (fuseInfoOf a groups) sub ns zeroShapeOf (fuel + 1) g key
        = .ok (nest (leafM sub zs) (lvFrom a groups ns g (fuel + 1)) key) := by
  intro fuel
  induction fuel with
  | zero =>
    intro g key hg hz
    apply recurse_step hok sub ns zeroShapeOf zs (by omega) (hext g (by omega))
    intro q hq
    rw [if_pos (by simp; omega)]
    exact leaf_ok sub zs zeroShapeOf _ (hz [q] (choice_cons hq rfl))
  | succ fuel ih =>
    intro g key hg hz
    apply recurse_step hok sub ns zeroShapeOf zs (by omega) (hext g (by omega))
    intro q hq
    rw [if_neg (by simp; omega)]
    apply ih (g + 1) _ (by omega)
    intro qs hqs
    have := hz (q :: qs) (choice_cons hq hqs)
    rwa [List.map_cons, List.append_cons] at this

end Rec

end FuseP
end SymmModel
