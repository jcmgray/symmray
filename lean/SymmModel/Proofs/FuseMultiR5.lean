/-
  SymmModel.Proofs.FuseMultiR5 — **the general round trip**: fusing an arbitrary list of groups
  and unfusing every fused axis (from the last to the first) restores every stored block as the
  transposed block under the transposed sector; every other block of the result is zero.
-/
import SymmModel.Proofs.FuseMultiR4
namespace SymmModel
namespace FuseP
set_option linter.unusedSectionVars false

variable {R : Type}

section Multi
variable {a : Arr R} {groups : List (List Nat)} [Zero R]

theorem stage_step (hc : ValidP.Core a) (hok : GroupsOk groups a.ndim) {j : Nat} (hj : j < groups.length)
    {X : Arr R} (h : StageInv a groups j X) :
    ∃ X', stageStep a groups X (groups.length - (j + 1)) = .ok X' ∧ StageInv a groups (j + 1) X' := by
  by_cases hm : multiB groups (groups.length - (j + 1)) = true
  · obtain ⟨X', h1, h2⟩ := stage_multi hc hok hj hm h
    exact ⟨X', by simp only [stageStep, hm, if_true]; exact h1, h2⟩
  · have hm' : multiB groups (groups.length - (j + 1)) = false := by simpa using hm
    obtain ⟨e1, e2, e3, e4⟩ := stage_single (validArr_of_core hc) hok hj hm'
    refine ⟨X, by simp only [stageStep, hm', Bool.false_eq_true, if_false]; rfl, h.core, h.sym,
      by rw [e4]; exact h.idx, ?_, ?_⟩
    · intro sb hsb
      obtain ⟨V, hV, hVs, hVg⟩ := h.here sb hsb
      refine ⟨V, by rw [e1]; exact hV, by rw [e2 sb hsb]; exact hVs, ?_⟩
      intro offs ho
      rw [e3 sb hsb offs ho]; exact hVg offs ho
    · intro K V hl J hJ
      rcases h.only K V hl J hJ with ⟨sb, hsb, offs, ho, hK, hJ'⟩ | h0
      · exact Or.inl ⟨sb, hsb, offs, ho, by rw [e1]; exact hK, by rw [e3 sb hsb offs ho]; exact hJ'⟩
      · exact Or.inr h0

variable (a groups) in
/-- unfuse the groups `g-1, …, 0` (each only if it is a multi-axis group) -/
def unfuseFrom : Nat → Arr R → Except Err (Arr R)
  | 0, x => pure x
  | g + 1, x => do
    let x' ← stageStep a groups x g
    unfuseFrom g x'

theorem unfuseFrom_eq_foldlM (g : Nat) (x : Arr R) :
    unfuseFrom a groups g x = (List.range g).reverse.foldlM (stageStep a groups) x := by
  induction g generalizing x with
  | zero => rfl
  | succ g ih =>
    rw [List.range_succ, List.reverse_append]
    simp only [List.reverse_cons, List.reverse_nil, List.nil_append, List.singleton_append, List.foldlM_cons,
      unfuseFrom]
    cases stageStep a groups x g with
    | error e => rfl
    | ok x' => exact ih x'

theorem stage_iter (hc : ValidP.Core a) (hok : GroupsOk groups a.ndim) (n j : Nat) (hjn : j + n = groups.length)
    {X : Arr R} (h : StageInv a groups j X) :
    ∃ Y, unfuseFrom a groups n X = .ok Y ∧ StageInv a groups groups.length Y := by
  induction n generalizing j X with
  | zero =>
    have : j = groups.length := by omega
    subst this
    exact ⟨X, rfl, h⟩
  | succ n ih =>
    have hj : j < groups.length := by omega
    obtain ⟨X', h1, h2⟩ := stage_step hc hok hj h
    have hg : groups.length - (j + 1) = n := by omega
    rw [hg] at h1
    obtain ⟨Y, h3, h4⟩ := ih (j + 1) (by omega) h2
    exact ⟨Y, by simp only [unfuseFrom, h1, bind, Except.bind]; exact h3, h4⟩


theorem KM_full (hok : GroupsOk groups a.ndim) {sb : Sector × Blk R} (hl : sb.1.length = a.ndim) :
    KM a groups sb groups.length = permuted sb.1 (giM a groups).perm := by
  simp only [KM]
  rw [partG_full, permutedM_eq hok.adm sb.1 (0, 0) hl]
  have hp := nsM_parts hok.adm sb
  have h3 := three_split ((List.range (giM a groups).position).map (fun x => sb.1.getD x (0, 0)))
    ((List.range groups.length).map (fun g => cM (a := a) (groups := groups) sb g))
    ((List.range (giM a groups).axesAfter.length).map (fun j => sb.1.getD ((giM a groups).axesAfter.getD j 0) (0, 0)))
  rw [← hp] at h3
  simp only [List.length_map, List.length_range] at h3
  rw [h3.1, h3.2.2]
  rfl

theorem IM_full (hok : GroupsOk groups a.ndim) (sb : Sector × Blk R) {offs : List Nat} (hl : offs.length = a.ndim) :
    IM a groups sb offs groups.length = permuted offs (giM a groups).perm := by
  simp only [IM, joinI]
  rw [partG_full, permutedM_eq hok.adm offs 0 hl]
  have h3 := three_split ((List.range (giM a groups).position).map (fun x => offs.getD x 0))
    ((List.range groups.length).map (fun g => stM a groups sb g
        + ravel ((groups.getD g []).map (fun ax => sb.2.shape.getD ax 0))
            ((groups.getD g []).map (fun ax => offs.getD ax 0))))
    ((List.range (giM a groups).axesAfter.length).map (fun j => offs.getD ((giM a groups).axesAfter.getD j 0) 0))
  simp only [List.length_map, List.length_range] at h3
  rw [h3.1, h3.2.2]
  rfl

theorem SM_full (hok : GroupsOk groups a.ndim) (sb : Sector × Blk R) (hl : sb.2.shape.length = a.ndim) :
    SM a groups sb groups.length = permuted sb.2.shape (giM a groups).perm := by
  simp only [SM]
  rw [partG_full, permutedM_eq hok.adm sb.2.shape 0 hl,
    take_eq_range_map _ 0 _ (by rw [BshM_length]; simp only [ndimM]; omega),
    drop_eq_range_map _ 0 _ (giM a groups).axesAfter.length (by rw [BshM_length]; rfl)]
  have e1 : ∀ x, x < (giM a groups).position → (BshM a groups sb).getD x 0 = sb.2.shape.getD x 0 := by
    intro x hx
    rw [BshM_getD sb (by simp only [ndimM]; omega), axMulti_before hx]
    exact planOf_newShape_before _ _ _ _ hx
  have e3 : ∀ j, j < (giM a groups).axesAfter.length →
      (BshM a groups sb).getD ((giM a groups).position + groups.length + j) 0
        = sb.2.shape.getD ((giM a groups).axesAfter.getD j 0) 0 := by
    intro j hj
    rw [BshM_getD sb (by simp only [ndimM]; omega), axMulti_after]
    exact planOf_newShape_after _ _ _ _ hj
  rw [range_map_congr e1, range_map_congr e3]
  rfl

theorem idxStage_full (hok : GroupsOk groups a.ndim) :
    idxStage a groups groups.length = permuted a.indices (giM a groups).perm := by
  simp only [idxStage]
  rw [partG_full, perm_eq, permuted_append, permuted_append]
  have h3 := three_split (permuted a.indices (giM a groups).axesBefore) (newMidOf a groups)
    (permuted a.indices (giM a groups).axesAfter)
  rw [permuted_before_length hok.adm, newMidOf_length] at h3
  have hni : newIdxM a groups = permuted a.indices (giM a groups).axesBefore ++ newMidOf a groups
      ++ permuted a.indices (giM a groups).axesAfter := rfl
  rw [hni, h3.1, h3.2.2]
  congr 2
  rw [permuted_eq_map _ default _ hok.lt, List.map_flatten, map_eq_range_map groups []
    (List.map (fun p => a.indices.getD p default))]
  rfl

theorem round_tripM (hc : ValidP.Core a) (hok : GroupsOk groups a.ndim) :
    ∃ Y, unfuseFrom a groups groups.length (fusedArrM a groups) = .ok Y
      ∧ Y.indices = permuted a.indices (giM a groups).perm
      ∧ (∀ sb ∈ a.blocks, alookup Y.blocks (permuted sb.1 (giM a groups).perm)
          = some (sb.2.transposeK (giM a groups).perm))
      ∧ (∀ K V, alookup Y.blocks K = some V →
          (∃ sb ∈ a.blocks, K = permuted sb.1 (giM a groups).perm) ∨ AllZero V) := by
  have hv := validArr_of_core hc
  obtain ⟨Y, hY, hS⟩ := stage_iter hc hok groups.length 0 (by omega) (stage_zero hc hok)
  have hvY := validArr_of_core hS.core
  refine ⟨Y, hY, by rw [hS.idx, idxStage_full hok], ?_, ?_⟩
  · intro sb hsb
    obtain ⟨V, hV, hVs, hVg⟩ := hS.here sb hsb
    have hshape := blockShape?_length (hv.blk sb hsb).2.1
    have hshl : sb.2.shape.length = a.ndim := by rw [hshape.2]; exact (hv.blk sb hsb).1
    rw [KM_full hok (hv.blk sb hsb).1] at hV
    rw [hV]
    refine congrArg some ?_
    have hVwf : V.wf = true := (hvY.blk (_, V) (alookup_some_mem hV)).2.2
    have hTwf : (sb.2.transposeK (giM a groups).perm).wf = true := ofFn_wf _ _
    have hsh : V.shape = (sb.2.transposeK (giM a groups).perm).shape := by
      rw [hVs, SM_full hok sb hshl]; rfl
    apply blk_ext hVwf hTwf hsh
    intro J hJ
    rw [hVs, SM_full hok sb hshl] at hJ
    obtain ⟨offs, hol, hperm, hobox⟩ := exists_unpermute (perm_nodup (hokD hok).adm)
      (by rw [perm_length (hokD hok).adm, duals_length])
      (fun p hp => by rw [← duals_length]; exact (mem_perm (hokD hok).adm).1 hp)
      (fun ax hax => by rw [mem_perm (hokD hok).adm, duals_length]; exact hax) hshl hJ
    have := hVg offs hobox
    rw [IM_full hok sb hol, hperm] at this
    rw [this, ← hperm]
    symm
    apply transposeK_get_permuted sb.2 hshl hol
    · intro ax hax; rw [mem_perm (hokD hok).adm, duals_length]; exact hax
    · intro p hp; rw [← duals_length]; exact (mem_perm (hokD hok).adm).1 hp
    · rw [hperm]; exact hJ
  · intro K V hl
    by_cases hex : ∃ sb ∈ a.blocks, K = permuted sb.1 (giM a groups).perm
    · exact Or.inl hex
    · right
      have hVwf : V.wf = true := (hvY.blk (_, V) (alookup_some_mem hl)).2.2
      apply allZero_of_get hVwf
      intro J hJ
      rcases hS.only K V hl J hJ with ⟨sb, hsb, offs, ho, hK, _⟩ | h0
      · exfalso
        apply hex
        exact ⟨sb, hsb, by rw [hK, KM_full hok (hv.blk sb hsb).1]⟩
      · exact h0

end Multi

end FuseP
end SymmModel
