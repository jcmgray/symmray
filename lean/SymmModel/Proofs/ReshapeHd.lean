/-
  SymmModel.Proofs.ReshapeHd — the element-exact forward statement of the fermionic `reshape` along a
  plan with SEVERAL fuse calls: the plan succeeds, every intermediate array is a valid fermionic
  array, and every call satisfies the one-call statement of Reshape7c (`ElemStepB`; `ElemStep` is the
  same without lengths and box) with respect to the array it is applied to (`ElemChain`).
  Composed over stored intermediate addresses this gives the end-to-end formula `elemChain_value`: the
  product of the fuse signs of the calls.
-/
import SymmModel.Proofs.ReshapeHc
namespace SymmModel.ReshapeH
open SymmModel SymmModel.Reshape SymmModel.C07 SymmModel.Reshape5 SymmModel.ReshapeI ReshapeP FuseP SymmModel.Lazy
set_option linter.unusedSectionVars false

variable {R : Type} [Zero R] [Neg R] [LawfulNeg R]

/-- the one-call statement: every stored element of `y` is the element of `a` at the address obtained
    by splitting the fused axes `P, P+1, …` of `y`, times the fuse sign of the source sector -/
def ElemStep (a y : Arr R) (G : List (List Nat)) (P : Nat) : Prop :=
  ∀ ns B, alookup y.blocks ns = some B → ∀ i, inBox B.shape i = true →
    ∃ segs : List (Sector × List Nat), segs.length = G.length
      ∧ (∀ g gaxes, G[g]? = some gaxes →
          splitAddr (y.indices.getD (P + g) default) (ns.getD (P + g) (0, 0)) (i.getD (P + g) 0) = segs[g]?)
      ∧ ∀ s offs, s.length = a.ndim → offs.length = a.ndim →
          s = ns.take P ++ (segs.map (·.1)).flatten ++ ns.drop (P + G.length) →
          offs = i.take P ++ (segs.map (·.2)).flatten ++ i.drop (P + G.length) →
          y.elem ns i = sgnI (fuseSignT a G s) (a.elem s offs)

/-- the calls of a plan, one after the other: each call returns a valid fermionic array and
    satisfies the one-call statement -/
def ElemChain : Arr R → List (List (List Nat)) → Nat → Arr R → Prop
  | a, [], _, y => y = a
  | a, G :: rest, lb, y => ∃ P y1, CallOk G P lb a.ndim ∧ fuseDispatch a G = .ok y1
      ∧ y1.validB = true ∧ y1.fermi = true ∧ y1.ndim = a.ndim - G.flatten.length + G.length
      ∧ ElemStep a y1 G P ∧ ElemChain y1 rest (P + G.length) y

theorem elemStep_of_box {a y : Arr R} {G : List (List Nat)} {P : Nat} (h : ElemStepB a y G P) :
    ElemStep a y G P := by
  intro ns B hB i hi
  obtain ⟨segs, hsl, hsp, _, _, hval, _⟩ := h ns B hB i hi
  exact ⟨segs, hsl, hsp, fun s offs _ _ hs ho => by rw [hs, ho]; exact hval⟩

theorem elem_step (a : Arr R) (G : List (List Nat)) (P lb : Nat) (hv : a.validB = true)
    (hf : a.fermi = true) (hc : CallOk G P lb a.ndim) :
    ∃ y1, fuseDispatch a G = .ok y1 ∧ y1.validB = true ∧ y1.fermi = true
      ∧ y1.ndim = a.ndim - G.flatten.length + G.length ∧ ElemStepB a y1 G P := by
  obtain ⟨y, hy, hel⟩ := forward_elem_call_box a G P lb hv hf hc
  obtain ⟨y', mids, w, h1, g1, hidx, hml, _⟩ :=
    (fuseOK_F (R := R)).fuse a G P ⟨hv, hf⟩ hc.ne hc.two hc.flat hc.le
  have h1' : fuseDispatch a G = .ok y' := by simp only [fuseDispatch, hf, if_true]; exact h1
  rw [hy] at h1'; injection h1' with h1'; subst h1'
  exact ⟨y, hy, g1.1, g1.2, ndim_fused hidx hml hc.le, hel⟩

theorem fuse_good_F (x : Arr R) (G : List (List Nat)) (P lb : Nat) (y1 : Arr R)
    (hx : x.validB = true ∧ x.fermi = true) (hc : CallOk G P lb x.ndim) (hy : fuseDispatch x G = .ok y1) :
    (y1.validB = true ∧ y1.fermi = true) ∧ y1.ndim = x.ndim - G.flatten.length + G.length := by
  obtain ⟨y', hy', hv', hf', hn', _⟩ := elem_step x G P lb hx.1 hx.2 hc
  rw [hy] at hy'; injection hy' with hy'; subst hy'
  exact ⟨⟨hv', hf'⟩, hn'⟩

theorem elem_call_F (x : Arr R) (G : List (List Nat)) (P lb : Nat) (y1 : Arr R)
    (hx : x.validB = true ∧ x.fermi = true) (hc : CallOk G P lb x.ndim) (hy : fuseDispatch x G = .ok y1) :
    ElemStepB x y1 G P := by
  obtain ⟨y', hy', _, _, _, hel⟩ := elem_step x G P lb hx.1 hx.2 hc
  rw [hy] at hy'; injection hy' with hy'; subst hy'
  exact hel

theorem elem_chain : ∀ (calls : List (List (List Nat))) (a : Arr R) (lb : Nat), a.validB = true →
    a.fermi = true → CallsOk calls lb a.ndim →
    ∃ y, calls.foldlM fuseDispatch a = .ok y ∧ y.validB = true ∧ y.fermi = true ∧ ElemChain a calls lb y := by
  intro calls
  induction calls with
  | nil => intro a lb hv hf _; exact ⟨a, rfl, hv, hf, rfl⟩
  | cons G rest ih =>
    intro a lb hv hf hc
    obtain ⟨P, hc1, hc2⟩ := hc
    obtain ⟨y1, hy1, hv1, hf1, hnd, hel⟩ := elem_step a G P lb hv hf hc1
    rw [← hnd] at hc2
    obtain ⟨y, hy, hvy, hfy, hch⟩ := ih y1 (P + G.length) hv1 hf1 hc2
    exact ⟨y, by rw [List.foldlM_cons, hy1]; exact hy, hvy, hfy, P, y1, hc1, hy1, hv1, hf1, hnd,
      elemStep_of_box hel, hch⟩

/-- an address of the result pulled back through all calls, last call first: at every intermediate
    array the address reached lies in a STORED block; `σ` is the product of the fuse signs -/
def Pulled : Arr R → List (List (List Nat)) → Nat → Arr R → Sector → List Nat → Sector → List Nat → Int → Prop
  | _, [], _, _, ns, i, s, o, σ => s = ns ∧ o = i ∧ σ = 1
  | a, G :: rest, lb, y, ns, i, s, o, σ =>
    ∃ (P : Nat) (y1 : Arr R) (s1 : Sector) (o1 : List Nat) (σ1 : Int) (B1 : Blk R)
      (segs : List (Sector × List Nat)), CallOk G P lb a.ndim ∧ fuseDispatch a G = .ok y1
      ∧ Pulled y1 rest (P + G.length) y ns i s1 o1 σ1
      ∧ alookup y1.blocks s1 = some B1 ∧ inBox B1.shape o1 = true
      ∧ segs.length = G.length
      ∧ (∀ g gaxes, G[g]? = some gaxes →
          splitAddr (y1.indices.getD (P + g) default) (s1.getD (P + g) (0, 0)) (o1.getD (P + g) 0) = segs[g]?)
      ∧ s.length = a.ndim ∧ o.length = a.ndim
      ∧ s = s1.take P ++ (segs.map (·.1)).flatten ++ s1.drop (P + G.length)
      ∧ o = o1.take P ++ (segs.map (·.2)).flatten ++ o1.drop (P + G.length)
      ∧ σ = σ1 * fuseSignT a G s

theorem splitAddr_segs_unique {G : List (List Nat)} {f : Nat → Option (Sector × List Nat)}
    {segs segs' : List (Sector × List Nat)} (h1 : segs.length = G.length) (h2 : segs'.length = G.length)
    (e1 : ∀ g gaxes, G[g]? = some gaxes → f g = segs[g]?)
    (e2 : ∀ g gaxes, G[g]? = some gaxes → f g = segs'[g]?) : segs = segs' := by
  apply List.ext_getElem?
  intro g
  by_cases hg : g < G.length
  · have := List.getElem?_eq_getElem (l := G) hg
    rw [← e1 g _ this, ← e2 g _ this]
  · rw [List.getElem?_eq_none (by omega), List.getElem?_eq_none (by omega)]

theorem pulled_pm : ∀ (calls : List (List (List Nat))) (a y : Arr R) (lb : Nat) ns i s o σ,
    Pulled a calls lb y ns i s o σ → σ = 1 ∨ σ = -1 := by
  intro calls
  induction calls with
  | nil => intro a y lb ns i s o σ hp; exact Or.inl hp.2.2
  | cons G rest ih =>
    intro a y lb ns i s o σ hp
    obtain ⟨P', y1', s1, o1, σ1, B1, segs, _, _, hpr, _, _, _, _, _, _, _, _, hσ⟩ := hp
    rw [hσ]
    exact Lazy.mul_pm (ih y1' y _ ns i s1 o1 σ1 hpr) (fuseSignT_pm a G s)

theorem elemChain_value : ∀ (calls : List (List (List Nat))) (a y : Arr R) (lb : Nat),
    ElemChain a calls lb y → ∀ ns i s o σ, Pulled a calls lb y ns i s o σ →
    y.elem ns i = sgnI σ (a.elem s o) := by
  intro calls
  induction calls with
  | nil =>
    intro a y lb hch ns i s o σ hp
    obtain ⟨rfl, rfl, rfl⟩ := hp
    have : y = a := hch
    subst this
    simp [sgnI]
  | cons G rest ih =>
    intro a y lb hch ns i s o σ hp
    obtain ⟨P, y1, _, hy1, _, _, _, hel, hrest⟩ := hch
    obtain ⟨P', y1', s1, o1, σ1, B1, segs, hc', hy1', hpr, hB1, hin, hsl, hsp, hs, ho, hse, hoe, hσ⟩ := hp
    rw [hy1] at hy1'; injection hy1' with hy1'; subst hy1'
    obtain rfl : P = P' := by rename_i hc _ _ _; exact hc.pos_unique hc'
    have h1 := ih y1 y (P + G.length) hrest ns i s1 o1 σ1 hpr
    obtain ⟨segs', hsl', hsp', hval⟩ := hel s1 B1 hB1 o1 hin
    have hsegs : segs' = segs := splitAddr_segs_unique (f := fun g =>
      splitAddr (y1.indices.getD (P + g) default) (s1.getD (P + g) (0, 0)) (o1.getD (P + g) 0))
      hsl' hsl hsp' hsp
    subst hsegs
    rw [h1, hval s o hs ho hse hoe, hσ,
      sgnI_mul (pulled_pm rest y1 y _ ns i s1 o1 σ1 hpr) (fuseSignT_pm a G s)]

end SymmModel.ReshapeH
