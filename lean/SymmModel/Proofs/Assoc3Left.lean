/-
  SymmModel.Proofs.Assoc3Left — S7 of property C04 under the weak guard (`contractibleCommonB`) on
  all calls.  First what a later call reads from the result of a pair `(A, B)`: shapes and values
  at the axes `Assoc2P.axesAB` (`pair_shape`, `pair_value`; used for `(A, B)` on route `(A·B)·C` and
  for `(B, C)` on route `A·(B·C)`).  Then the expansion of route `(A·B)·C` into the canonical
  three-operand form (`S3`, `W3` of `Assoc2Left`): `sign_left`, `route_left`.
-/
import SymmModel.Proofs.Assoc3Frame

namespace SymmModel
namespace Assoc3P
open TdotP GradedP RoutesP KoszulP AssocP Assoc2P
open Lazy (sgnI)
set_option linter.unusedSectionVars false

variable {R : Type}

/-- the sign bookkeeping of `sign_left`: `a1, a2` (`b1, b2`) are the two Koszul signs of `A`
    (`B`) along the route, `A'`, `B'`, `C'` the canonical ones; `K`, `e` count odd contracted
    charges and ket legs -/
theorem sign_left_arith (a1 a2 b1 b2 A' B' C' : Int) (K1 K2 K3 m e1 e2 e3 : Nat)
    (kA : a1 * a2 = A' * sgn (K1 * K3)) (kB : b1 * b2 = B') :
    a2 * b2 * sgn (K3 * m) * (C' * sgn (K2 * K3)) * sgn (tri (K3 + K2)) * sgn (e3 + e2)
        * (a1 * b1 * sgn (tri K1) * sgn e1)
      = A' * B' * C' * sgn (K3 * m) * sgn (tri (K1 + K3)) * sgn (tri K2) * sgn (e1 + e3 + e2) := by
  have key : sgn (K3 * m) * sgn (K2 * K3) * sgn (tri (K3 + K2)) * sgn (e3 + e2) * sgn (tri K1) * sgn e1
      * sgn (K1 * K3)
      = sgn (K3 * m) * sgn (tri (K1 + K3)) * sgn (tri K2) * sgn (e1 + e3 + e2) := by
    rw [← sgn_add, ← sgn_add, ← sgn_add, ← sgn_add, ← sgn_add, ← sgn_add, ← sgn_add, ← sgn_add, ← sgn_add]
    apply sgn_congr
    have t1 := tri_add K3 K2
    have t2 := tri_add K1 K3
    have e : K2 * K3 = K3 * K2 := Nat.mul_comm _ _
    generalize K3 * m = x1 at *
    generalize K3 * K2 = x2 at *
    generalize K1 * K3 = x3 at *
    omega
  calc a2 * b2 * sgn (K3 * m) * (C' * sgn (K2 * K3)) * sgn (tri (K3 + K2)) * sgn (e3 + e2)
        * (a1 * b1 * sgn (tri K1) * sgn e1)
      = (a1 * a2) * (b1 * b2) * C' * (sgn (K3 * m) * sgn (K2 * K3) * sgn (tri (K3 + K2)) * sgn (e3 + e2)
          * sgn (tri K1) * sgn e1) := by ring
    _ = A' * B' * C' * (sgn (K3 * m) * sgn (K2 * K3) * sgn (tri (K3 + K2)) * sgn (e3 + e2)
          * sgn (tri K1) * sgn e1 * sgn (K1 * K3)) := by rw [kA, kB]; ring
    _ = A' * B' * C' * sgn (K3 * m) * sgn (tri (K1 + K3)) * sgn (tri K2) * sgn (e1 + e3 + e2) := by
        rw [key]; ring

section signL
variable [AddMonoid R] [Mul R] [Neg R] [SignRing R]
variable {A B C AB : Arr R} {xa1 xa3 xb1 xb2 xc2 xc3 : List Nat} {ph : Int}

theorem sign_left (I : Inter A B xa1 xb1 AB ph) (T : TriW A B C xa1 xa3 xb1 xb2 xc2 xc3)
    (sa sb sc : Sector) (hsa : sa.length = A.ndim) (hsb : sb.length = B.ndim)
    (hsc : sc.length = C.ndim)
    (hal2 : permuted sc xc2 = permuted sb xb2) (hal3 : permuted sc xc3 = permuted sa xa3) :
    gradedSign AB C (axesAB A.ndim B.ndim xa1 xa3 xb1 xb2) (xc3 ++ xc2) (permuted sa (freeAxes A.ndim xa1) ++ permuted sb (freeAxes B.ndim xb1)) sc * gradedSign A B xa1 xb1 sa sb
      = S3 A B C xa1 xa3 xb1 xb2 xc2 xc3 (sa, sb, sc) := by
  have hsym := T.hAB.sym
  have hparA : (A.parities sa).length = A.ndim := by unfold Arr.parities; rw [List.length_map, hsa]
  have hparB : (B.parities sb).length = B.ndim := by unfold Arr.parities; rw [List.length_map, hsb]
  have hpA : (permuted (A.parities sa) (freeAxes A.ndim xa1)).length = (freeAxes A.ndim xa1).length :=
    permuted_length _ _ (by rw [hparA]; exact T.mA.flt)
  have hpB : (permuted (B.parities sb) (freeAxes B.ndim xb1)).length = (freeAxes B.ndim xb1).length :=
    permuted_length _ _ (by rw [hparB]; exact T.mB.flt)
  have k1 : koszul (AB.parities (permuted sa (freeAxes A.ndim xa1) ++ permuted sb (freeAxes B.ndim xb1))) (some (freeAxes AB.ndim (axesAB A.ndim B.ndim xa1 xa3 xb1 xb2) ++ (axesAB A.ndim B.ndim xa1 xa3 xb1 xb2)))
      = koszul (permuted (A.parities sa) (freeAxes A.ndim xa1)) (some ((freeAxes (freeAxes A.ndim xa1).length (positions (freeAxes A.ndim xa1) xa3)) ++ (positions (freeAxes A.ndim xa1) xa3)))
        * koszul (permuted (B.parities sb) (freeAxes B.ndim xb1)) (some ((freeAxes (freeAxes B.ndim xb1).length (positions (freeAxes B.ndim xb1) xb2)) ++ (positions (freeAxes B.ndim xb1) xb2)))
        * sgn (oddCount (A.parities sa) xa3 * oddCount (B.parities sb) (freeAxes B.ndim (xb1 ++ xb2))) := by
    rw [AssocP.parities_AB I hsym, I.ndim]
    unfold Assoc2P.axesAB
    rw [freeAxes_two _ _ _ _ T.mA.pos_lt]
    have := koszul_two_cross (permuted (A.parities sa) (freeAxes A.ndim xa1)) (permuted (B.parities sb) (freeAxes B.ndim xb1))
      (freeAxes (freeAxes A.ndim xa1).length (positions (freeAxes A.ndim xa1) xa3)) (positions (freeAxes A.ndim xa1) xa3) (freeAxes (freeAxes B.ndim xb1).length (positions (freeAxes B.ndim xb1) xb2)) (positions (freeAxes B.ndim xb1) xb2) (hpA.symm ▸ perm_left T.mA.pos_nodup T.mA.pos_lt)
      (hpB.symm ▸ perm_left T.mB.pos_nodup T.mB.pos_lt)
    rw [hpA] at this
    rw [this, oddCount_permuted _ _ _ (by rw [hparA]; exact T.mA.flt) T.mA.pos_lt, T.mA.pos_spec,
      oddCount_permuted _ _ _ (by rw [hparB]; exact T.mB.flt) mem_freeAxes_lt,
      T.mB.free_spec]
  have kA := koszul_LL T.mA (A.parities sa) hparA
  rw [koszul_swap_last T.mA] at kA
  have kB := T.mB.koszul_left (B.parities sb) hparB
  have kC : koszul (C.parities sc) (some ((xc3 ++ xc2) ++ freeAxes C.ndim (xc3 ++ xc2)))
      = koszul (C.parities sc) (some (xc2 ++ xc3 ++ (freeAxes C.ndim (xc2 ++ xc3))))
        * sgn (oddCount (C.parities sc) xc2 * oddCount (C.parities sc) xc3) := by
    rw [freeM_comm]; exact koszul_swap_first T.mC _
  have o1 : oddContracted AB (axesAB A.ndim B.ndim xa1 xa3 xb1 xb2) (permuted sa (freeAxes A.ndim xa1) ++ permuted sb (freeAxes B.ndim xb1)) = oddContracted A xa3 sa + oddContracted B xb2 sb := by
    unfold oddContracted
    rw [readAB_ax T.mA T.mB sa sb hsa hsb, List.filter_append, List.length_append, I.sym, hsym]
  have o2 : ketOdd AB (axesAB A.ndim B.ndim xa1 xa3 xb1 xb2) (permuted sa (freeAxes A.ndim xa1) ++ permuted sb (freeAxes B.ndim xb1)) = ketOdd A xa3 sa + ketOdd B xb2 sb := by
    unfold Assoc2P.axesAB
    rw [ketOdd_append, ketOdd_AB_left I T.mA sa sb hsa]
    congr 1
    exact AssocP.ketOdd_AB I hsym T.mB sa sb hsa hsb
  have c1 : oddCount (A.parities sa) xa1 = oddContracted A xa1 sa :=
    oddCount_par A sa xa1 (by rw [hsa]; exact T.mA.lt1)
  have c3 : oddCount (A.parities sa) xa3 = oddContracted A xa3 sa :=
    oddCount_par A sa xa3 (by rw [hsa]; exact T.mA.lt2)
  have d2 : oddCount (C.parities sc) xc2 = oddContracted B xb2 sb := by
    rw [oddCount_par C sc xc2 (by rw [hsc]; exact T.mC.lt1)]
    unfold oddContracted; rw [hal2, T.hBC.sym]
  have d3 : oddCount (C.parities sc) xc3 = oddContracted A xa3 sa := by
    rw [oddCount_par C sc xc3 (by rw [hsc]; exact T.mC.lt2)]
    unfold oddContracted; rw [hal3, ← T.hBC.sym, ← hsym]
  rw [gradedSign_sgn, gradedSign_sgn, k1, kC, o1, o2, d2, d3]
  unfold Assoc2P.S3
  simp only []
  rw [c1] at kA
  rw [c3] at kA ⊢
  exact sign_left_arith _ _ _ _ _ _ _ _ _ _ _ _ _ _ kA kB

end signL

section valueL
variable [AddCommMonoid R] [Mul R] [Neg R] [SignRing R] [AssocLaws R]
variable {A B C AB : Arr R} {xa1 xa3 xb1 xb2 xc2 xc3 : List Nat} {ph : Int}

/-- shape of a stored sector of a result `A·B` (contracted on `xa1`, `xb1`), read at the axes
    `axesAB .. xa1 xa3 xb1 xb2` that carry the legs `xa3` of `A` and `xb2` of `B` -/
theorem pair_shape (I : Inter A B xa1 xb1 AB ph) (hva : A.validB = true) (hvb : B.validB = true)
    (mA : Mid A.ndim xa1 xa3) (mB : Mid B.ndim xb1 xb2)
    {sa sb : Sector} (hA : sa ∈ A.sectors) (hB : sb ∈ B.sectors)
    (hal : permuted sb xb1 = permuted sa xa1) :
    permuted (Arr.blockShapeD AB.indices (permuted sa (freeAxes A.ndim xa1) ++ permuted sb (freeAxes B.ndim xb1))) (axesAB A.ndim B.ndim xa1 xa3 xb1 xb2)
        = permuted (Arr.blockShapeD A.indices sa) xa3 ++ permuted (Arr.blockShapeD B.indices sb) xb2
      ∧ permuted (Arr.blockShapeD (without A.indices xa1 ++ without B.indices xb1) (permuted sa (freeAxes A.ndim xa1) ++ permuted sb (freeAxes B.ndim xb1)))
          (freeAxes AB.ndim (axesAB A.ndim B.ndim xa1 xa3 xb1 xb2))
        = permuted (Arr.blockShapeD A.indices sa) (freeAxes A.ndim (xa1 ++ xa3)) ++ permuted (Arr.blockShapeD B.indices sb) (freeAxes B.ndim (xb1 ++ xb2))
      ∧ (Arr.blockShapeD (without A.indices xa1 ++ without B.indices xb1) (permuted sa (freeAxes A.ndim xa1) ++ permuted sb (freeAxes B.ndim xb1))).length = AB.ndim
      ∧ permuted (Arr.blockShapeD (without A.indices xa1 ++ without B.indices xb1) (permuted sa (freeAxes A.ndim xa1) ++ permuted sb (freeAxes B.ndim xb1))) (axesAB A.ndim B.ndim xa1 xa3 xb1 xb2)
        = permuted (Arr.blockShapeD A.indices sa) xa3 ++ permuted (Arr.blockShapeD B.indices sb) xb2 := by
  have hsa := Arr.shapesOk_of_validB hva
  have hsb := Arr.shapesOk_of_validB hvb
  obtain ⟨shpA, hA1, hA2, hA3, hA4⟩ := shape_of_mem hsa hA
  obtain ⟨shpB, hB1, hB2, hB3, hB4⟩ := shape_of_mem hsb hB
  have eAB : Arr.blockShapeD AB.indices (permuted sa (freeAxes A.ndim xa1) ++ permuted sb (freeAxes B.ndim xb1))
      = permuted shpA (freeAxes A.ndim xa1) ++ permuted shpB (freeAxes B.ndim xb1) := by
    show (Arr.blockShape? AB.indices _).getD [] = _
    rw [I.shape hsa hsb hA hB hal, hA2, hB2]; rfl
  have eU : Arr.blockShapeD (without A.indices xa1 ++ without B.indices xb1)
        (permuted sa (freeAxes A.ndim xa1) ++ permuted sb (freeAxes B.ndim xb1))
      = permuted shpA (freeAxes A.ndim xa1) ++ permuted shpB (freeAxes B.ndim xb1) := by
    show (Arr.blockShape? _ _).getD [] = _
    rw [frame_shape hsa hsb hA hB, hA2, hB2]; rfl
  rw [eAB, eU, hA2, hB2]
  refine ⟨readAB_ax mA mB shpA shpB hA3 hB3, ?_, ?_, readAB_ax mA mB shpA shpB hA3 hB3⟩
  · rw [I.ndim]; exact readAB_free mA mB shpA shpB hA3 hB3
  · rw [I.ndim, List.length_append, permuted_length _ _ (by rw [hA3]; exact mA.flt),
      permuted_length _ _ (by rw [hB3]; exact mB.flt)]

/-- the value of a result `A·B` at the address a later call reads at these axes -/
theorem pair_value (I : Inter A B xa1 xb1 AB ph) (hva : A.validB = true) (hvb : B.validB = true)
    (mA : Mid A.ndim xa1 xa3) (mB : Mid B.ndim xb1 xb2)
    {LA LM : Sector} {oA oM : List Nat}
    (loA : oA.length = (freeAxes A.ndim (xa1 ++ xa3)).length)
    (bA : inBox (Arr.blockShapeD (permuted A.indices (freeAxes A.ndim (xa1 ++ xa3))) LA) oA = true)
    (bM : inBox (Arr.blockShapeD (permuted B.indices (freeAxes B.ndim (xb1 ++ xb2))) LM) oM = true)
    {sa sb : Sector} (hA : sa ∈ A.sectors) (hB : sb ∈ B.sectors)
    (hal : permuted sb xb1 = permuted sa xa1)
    (hLA : permuted sa (freeAxes A.ndim (xa1 ++ xa3)) = LA) (hLM : permuted sb (freeAxes B.ndim (xb1 ++ xb2)) = LM)
    (k32 : List Nat)
    (hk : inBox (permuted (Arr.blockShapeD AB.indices (permuted sa (freeAxes A.ndim xa1) ++ permuted sb (freeAxes B.ndim xb1))) (axesAB A.ndim B.ndim xa1 xa3 xb1 xb2)) k32 = true) :
    AB.elem (permuted sa (freeAxes A.ndim xa1) ++ permuted sb (freeAxes B.ndim xb1)) (mergeIdx 0 AB.ndim (axesAB A.ndim B.ndim xa1 xa3 xb1 xb2) (freeAxes AB.ndim (axesAB A.ndim B.ndim xa1 xa3 xb1 xb2)) k32 (oA ++ oM))
      = sgnI ph (gradedContract A B xa1 xb1 (permuted sa (freeAxes A.ndim xa1) ++ permuted sb (freeAxes B.ndim xb1)) ((mergeIdx 0 AB.ndim (axesAB A.ndim B.ndim xa1 xa3 xb1 xb2) (freeAxes AB.ndim (axesAB A.ndim B.ndim xa1 xa3 xb1 xb2)) k32 (oA ++ oM)).take (freeAxes A.ndim xa1).length)
          ((mergeIdx 0 AB.ndim (axesAB A.ndim B.ndim xa1 xa3 xb1 xb2) (freeAxes AB.ndim (axesAB A.ndim B.ndim xa1 xa3 xb1 xb2)) k32 (oA ++ oM)).drop (freeAxes A.ndim xa1).length)) := by
  have hsa := Arr.shapesOk_of_validB hva
  have hsb := Arr.shapesOk_of_validB hvb
  obtain ⟨s1, s2, s3, s4⟩ := pair_shape I hva hvb mA mB hA hB hal
  obtain ⟨shpA, hA1, hA2, hA3, hA4⟩ := shape_of_mem hsa hA
  obtain ⟨shpB, hB1, hB2, hB3, hB4⟩ := shape_of_mem hsb hB
  have hlen : (mergeIdx 0 AB.ndim (axesAB A.ndim B.ndim xa1 xa3 xb1 xb2) (freeAxes AB.ndim (axesAB A.ndim B.ndim xa1 xa3 xb1 xb2)) k32 (oA ++ oM)).length = AB.ndim := mergeIdx_length _ _ _ _ _ _
  have hsplit : (mergeIdx 0 AB.ndim (axesAB A.ndim B.ndim xa1 xa3 xb1 xb2) (freeAxes AB.ndim (axesAB A.ndim B.ndim xa1 xa3 xb1 xb2)) k32 (oA ++ oM)) = (mergeIdx 0 AB.ndim (axesAB A.ndim B.ndim xa1 xa3 xb1 xb2) (freeAxes AB.ndim (axesAB A.ndim B.ndim xa1 xa3 xb1 xb2)) k32 (oA ++ oM)).take (freeAxes A.ndim xa1).length ++ (mergeIdx 0 AB.ndim (axesAB A.ndim B.ndim xa1 xa3 xb1 xb2) (freeAxes AB.ndim (axesAB A.ndim B.ndim xa1 xa3 xb1 xb2)) k32 (oA ++ oM)).drop (freeAxes A.ndim xa1).length :=
    (List.take_append_drop _ _).symm
  have htl : ((mergeIdx 0 AB.ndim (axesAB A.ndim B.ndim xa1 xa3 xb1 xb2) (freeAxes AB.ndim (axesAB A.ndim B.ndim xa1 xa3 xb1 xb2)) k32 (oA ++ oM)).take (freeAxes A.ndim xa1).length).length = (freeAxes A.ndim xa1).length := by
    rw [List.length_take, hlen, I.ndim]; omega
  conv => lhs; rw [hsplit]
  apply I.elem _ _ _ htl
  rw [← hsplit]
  have := inBox_mergeIdx
    (shape := Arr.blockShapeD (without A.indices xa1 ++ without B.indices xb1) (permuted sa (freeAxes A.ndim xa1) ++ permuted sb (freeAxes B.ndim xb1)))
    (axes := (axesAB A.ndim B.ndim xa1 xa3 xb1 xb2)) (k := k32) (f := oA ++ oM)
    (by rw [s3, I.ndim]; exact axesAB_lt mA mB)
    (by rw [s4, ← s1]; exact hk)
    (by
      rw [s3, s2]
      have hlsA : (permuted (Arr.blockShapeD A.indices sa) (freeAxes A.ndim (xa1 ++ xa3))).length = (freeAxes A.ndim (xa1 ++ xa3)).length :=
        permuted_length _ _ (by intro x hx; rw [hA2, hA3]; exact (mem_freeAxes.mp hx).1)
      rw [inBox_append (by rw [loA, hlsA]), Bool.and_eq_true]
      constructor
      · have := bA
        rw [← hLA, shapeD_free hsa hA _ mem_freeAxes_lt] at this
        exact this
      · have := bM
        rw [← hLM, shapeD_free hsb hB _ mem_freeAxes_lt] at this
        exact this)
  rw [s3] at this
  exact this

/-- the graded contraction of `A·B` with `C` is the label sign of the first call times the canonical
    signed sum (`S3`, `W3`) over the stored sector triples -/
theorem route_left (I : Inter A B xa1 xb1 AB ph) (T : TriW A B C xa1 xa3 xb1 xb2 xc2 xc3)
    {LA LM LC : Sector} {oA oM oC : List Nat}
    (fa : FreeAddr A B C xa1 xa3 xb1 xb2 xc2 xc3 LA LM LC oA oM oC) :
    gradedContract AB C (axesAB A.ndim B.ndim xa1 xa3 xb1 xb2) (xc3 ++ xc2) (LA ++ LM ++ LC) (oA ++ oM) oC
      = sgnI ph (((triplesL A B C AB xa1 xa3 xb1 xb2 xc2 xc3 (LA ++ LM ++ LC)).map
          (fun t => sgnI (S3 A B C xa1 xa3 xb1 xb2 xc2 xc3 t)
            (W3 A B C xa1 xa3 xb1 xb2 xc2 xc3 oA oM oC t))).sum) := by
  have hsa := Arr.shapesOk_of_validB T.hAB.va
  have hsb := Arr.shapesOk_of_validB T.hAB.vb
  have hsc := Arr.shapesOk_of_validB T.hBC.vb
  have hlenAC : xa3.length = xc3.length := commonB_len T.conAC
  let g : Sector × Sector → Sector × Sector → R := fun p q =>
    sgnI (gradedSign AB C (axesAB A.ndim B.ndim xa1 xa3 xb1 xb2) (xc3 ++ xc2) p.1 p.2 * gradedSign A B xa1 xb1 q.1 q.2)
      (((allIdx (permuted (Arr.blockShapeD AB.indices p.1) (axesAB A.ndim B.ndim xa1 xa3 xb1 xb2))).map
        (fun k32 => ((allIdx (permuted (Arr.blockShapeD A.indices q.1) xa1)).map (fun k1 =>
          A.elem q.1 (mergeIdx 0 A.ndim xa1 (freeAxes A.ndim xa1) k1 ((mergeIdx 0 AB.ndim (axesAB A.ndim B.ndim xa1 xa3 xb1 xb2) (freeAxes AB.ndim (axesAB A.ndim B.ndim xa1 xa3 xb1 xb2)) k32 (oA ++ oM)).take (freeAxes A.ndim xa1).length))
            * B.elem q.2 (mergeIdx 0 B.ndim xb1 (freeAxes B.ndim xb1) k1 ((mergeIdx 0 AB.ndim (axesAB A.ndim B.ndim xa1 xa3 xb1 xb2) (freeAxes AB.ndim (axesAB A.ndim B.ndim xa1 xa3 xb1 xb2)) k32 (oA ++ oM)).drop (freeAxes A.ndim xa1).length))
            * C.elem p.2 (mergeIdx 0 C.ndim (xc3 ++ xc2) (freeAxes C.ndim (xc3 ++ xc2)) k32 oC))).sum)).sum)
  unfold gradedContract Assoc2P.triplesL
  -- the nested sum over stored pairs is one sum over the triples (`sum_flat`, arguments in full)
  refine Eq.trans ?_ (sum_flat
    (storedPairs AB C (freeAxes AB.ndim (axesAB A.ndim B.ndim xa1 xa3 xb1 xb2))
      (axesAB A.ndim B.ndim xa1 xa3 xb1 xb2) (xc3 ++ xc2) (freeAxes C.ndim (xc3 ++ xc2)) (LA ++ LM ++ LC))
    (fun p => storedPairs A B (freeAxes A.ndim xa1) xa1 xb1 (freeAxes B.ndim xb1) p.1)
    (fun p q => (q.1, q.2, p.2)) ph g
    (fun t => sgnI (S3 A B C xa1 xa3 xb1 xb2 xc2 xc3 t) (W3 A B C xa1 xa3 xb1 xb2 xc2 xc3 oA oM oC t)) ?_)
  · congr 1
    apply List.map_congr_left
    rintro ⟨sab, sc⟩ hp
    obtain ⟨hsabM, _, _, hs⟩ := mem_storedPairs.mp hp
    obtain ⟨sa, hA, sb, hB, hal, hsab⟩ := I.mem_sectors.mp hsabM
    simp only at hsab hs ⊢
    subst hsab
    obtain ⟨hLA, hLM, _⟩ := left_split I T.mA T.mB fa.lA fa.lM (Arr.sector_length hsa hA)
      (Arr.sector_length hsb hB) hs
    have hcp : contractPair AB C (axesAB A.ndim B.ndim xa1 xa3 xb1 xb2) (xc3 ++ xc2) (oA ++ oM) oC ((permuted sa (freeAxes A.ndim xa1) ++ permuted sb (freeAxes B.ndim xb1)), sc)
        = ((allIdx (permuted (Arr.blockShapeD AB.indices (permuted sa (freeAxes A.ndim xa1) ++ permuted sb (freeAxes B.ndim xb1))) (axesAB A.ndim B.ndim xa1 xa3 xb1 xb2))).map (fun k32 =>
            sgnI ph (((storedPairs A B (freeAxes A.ndim xa1) xa1 xb1 (freeAxes B.ndim xb1) (permuted sa (freeAxes A.ndim xa1) ++ permuted sb (freeAxes B.ndim xb1))).map (fun q =>
              sgnI (gradedSign A B xa1 xb1 q.1 q.2)
                (((allIdx (permuted (Arr.blockShapeD A.indices q.1) xa1)).map (fun k1 =>
                  A.elem q.1 (mergeIdx 0 A.ndim xa1 (freeAxes A.ndim xa1) k1 ((mergeIdx 0 AB.ndim (axesAB A.ndim B.ndim xa1 xa3 xb1 xb2) (freeAxes AB.ndim (axesAB A.ndim B.ndim xa1 xa3 xb1 xb2)) k32 (oA ++ oM)).take (freeAxes A.ndim xa1).length))
                    * B.elem q.2 (mergeIdx 0 B.ndim xb1 (freeAxes B.ndim xb1) k1
                        ((mergeIdx 0 AB.ndim (axesAB A.ndim B.ndim xa1 xa3 xb1 xb2) (freeAxes AB.ndim (axesAB A.ndim B.ndim xa1 xa3 xb1 xb2)) k32 (oA ++ oM)).drop (freeAxes A.ndim xa1).length)))).sum))).sum)
              * C.elem sc (mergeIdx 0 C.ndim (xc3 ++ xc2) (freeAxes C.ndim (xc3 ++ xc2)) k32 oC))).sum := by
      unfold contractPair
      congr 1
      apply List.map_congr_left
      intro k32 hk
      unfold contractTerm
      rw [pair_value I T.hAB.va T.hAB.vb T.mA T.mB fa.loA fa.bA fa.bM hA hB hal hLA hLM k32 (mem_allIdx.mp hk)]
      rfl
    rw [hcp]
    -- the first call's sum goes inside the second call's: `expand` at `μ x c := x * c`; the lists, the
    -- signs and the two summands (the `_`) are read off the goal
    exact expand (· * ·) (fun h x c => sgnI_mul_l h x c) sum_mul _ _ _ _ ph _
      (gradedSign_pm _ _ _ _ _ _) I.pm
      (fun q => gradedSign_pm _ _ _ _ _ _) _ _
  · rintro ⟨sab, sc⟩ hp ⟨sa, sb⟩ hq
    obtain ⟨_, hC, hal23, hs⟩ := mem_storedPairs.mp hp
    obtain ⟨hA, hB, hal, hsab⟩ := mem_storedPairs.mp hq
    simp only at hsab hs hal23 hC ⊢
    subst hsab
    have hlsa := Arr.sector_length hsa hA
    have hlsb := Arr.sector_length hsb hB
    have hlsc := Arr.sector_length hsc hC
    rw [readAB_ax T.mA T.mB sa sb hlsa hlsb, permuted_append] at hal23
    obtain ⟨hal3, hal2⟩ := List.append_inj hal23 (by
      rw [permuted_length _ _ (by rw [hlsc]; exact T.mC.lt2),
        permuted_length _ _ (by rw [hlsa]; exact T.mA.lt2), hlenAC])
    obtain ⟨shpA, hA1, hA2, hA3, hA4⟩ := shape_of_mem hsa hA
    obtain ⟨shpB, hB1, hB2, hB3, hB4⟩ := shape_of_mem hsb hB
    obtain ⟨hbox2, _, _, _⟩ := pair_shape I T.hAB.va T.hAB.vb T.mA T.mB hA hB hal
    show sgnI _ _ = sgnI _ _
    rw [sign_left I T sa sb sc hlsa hlsb hlsc hal2 hal3]
    congr 1
    rw [hbox2, allIdx_append, List.map_map, sum_pairs]
    simp only [Function.comp]
    rw [sum3_rot (allIdx (permuted (Arr.blockShapeD A.indices sa) xa1))
      (allIdx (permuted (Arr.blockShapeD B.indices sb) xb2))
      (allIdx (permuted (Arr.blockShapeD A.indices sa) xa3))
      (fun k1 k2 k3 =>
        A.elem sa (mergeIdx 0 A.ndim xa1 (freeAxes A.ndim xa1) k1 ((mergeIdx 0 AB.ndim (axesAB A.ndim B.ndim xa1 xa3 xb1 xb2) (freeAxes AB.ndim (axesAB A.ndim B.ndim xa1 xa3 xb1 xb2)) (k3 ++ k2) (oA ++ oM)).take (freeAxes A.ndim xa1).length))
          * B.elem sb (mergeIdx 0 B.ndim xb1 (freeAxes B.ndim xb1) k1 ((mergeIdx 0 AB.ndim (axesAB A.ndim B.ndim xa1 xa3 xb1 xb2) (freeAxes AB.ndim (axesAB A.ndim B.ndim xa1 xa3 xb1 xb2)) (k3 ++ k2) (oA ++ oM)).drop (freeAxes A.ndim xa1).length))
          * C.elem sc (mergeIdx 0 C.ndim (xc3 ++ xc2) (freeAxes C.ndim (xc3 ++ xc2)) (k3 ++ k2) oC))]
    unfold Assoc2P.W3
    apply sum_map_congr
    intro k1 hk1
    apply sum_map_congr
    intro k2 hk2
    apply sum_map_congr
    intro k3 hk3
    have hk1l : k1.length = xa1.length := by
      rw [inBox_length (mem_allIdx.mp hk1), permuted_length _ _ (by rw [hA2, hA3]; exact T.mA.lt1)]
    have hk3l : k3.length = xa3.length := by
      rw [inBox_length (mem_allIdx.mp hk3), permuted_length _ _ (by rw [hA2, hA3]; exact T.mA.lt2)]
    have hk2l : k2.length = xb2.length := by
      rw [inBox_length (mem_allIdx.mp hk2), permuted_length _ _ (by rw [hB2, hB3]; exact T.mB.lt2)]
    have haddr : (mergeIdx 0 AB.ndim (axesAB A.ndim B.ndim xa1 xa3 xb1 xb2) (freeAxes AB.ndim (axesAB A.ndim B.ndim xa1 xa3 xb1 xb2)) (k3 ++ k2) (oA ++ oM))
        = mergeIdx 0 (freeAxes A.ndim xa1).length (positions (freeAxes A.ndim xa1) xa3) (freeAxes (freeAxes A.ndim xa1).length (positions (freeAxes A.ndim xa1) xa3)) k3 oA ++ mergeIdx 0 (freeAxes B.ndim xb1).length (positions (freeAxes B.ndim xb1) xb2) (freeAxes (freeAxes B.ndim xb1).length (positions (freeAxes B.ndim xb1) xb2)) k2 oM := by
      rw [I.ndim]
      unfold Assoc2P.axesAB
      exact mergeIdx_two 0 _ _ _ _ k3 k2 oA oM T.mA.pos_nodup T.mA.pos_lt T.mB.pos_nodup T.mB.pos_lt
        (by rw [hk3l, T.mA.pos_len]) (by rw [hk2l, T.mB.pos_len])
        (by rw [fa.loA, T.mA.free_len]) (by rw [fa.loM, T.mB.free_len])
    simp only []
    rw [haddr, List.take_left' (mergeIdx_length _ _ _ _ _ _), List.drop_left' (mergeIdx_length _ _ _ _ _ _),
      T.mA.nest_left 0 k1 k3 oA hk1l hk3l fa.loA,
      T.mB.nest_left 0 k1 k2 oM (by rw [hk1l, T.hAB.len]) hk2l fa.loM,
      mergeIdx_comm T.mC 0 k2 k3 oC (by rw [hk2l, T.hBC.len]) (by rw [hk3l, hlenAC]) fa.loC,
      AssocLaws.mul_assoc]

end valueL

end Assoc3P
end SymmModel
