/-
  SymmModel.Proofs.ReshapeIh — the visited pairs lie inside both shapes; hence `noWinB` (no window
  match anywhere) implies the exact condition `noWinVisB` (no window match at a visited pair).

  The four window conditions (`unfuseMatch target j sub ≠ none`: the sub-sizes `sub` equal the window of
  `target` that starts at `j`):
    `ReshapeH.noWinB target subsizes`        no fused axis, no position `j`            (ReshapeHa)
    `noWinVisB shape target subsizes`        no pair (axis, position) the first loop visits  (ReshapeId)
    `noSelfWinB shape subsizes`              no fused axis, `target = shape`, `j` = the axis itself  (ReshapeIg)
    `Reshape5.selfWin shape subsizes`        the negation of `noSelfWinB`, by recursion  (Reshape7b;
                                             `C07.noSelfWin_iff_selfWin`, Props/C07i)
  `noWinB target` ⇒ `noWinVisB shape target` (`noWinVis_of_noWin`, below); `noWinB shape` ⇒ `noSelfWinB shape`
  (`noSelfWin_of_noWin`, ReshapeIg); `noWinVisB` ⇔ a plan that is returned has no unfuse step
  (`C07.planner_window_exact`, from `planner_vis_nones` and `planner_vis_unfuses`, ReshapeId).
-/
import SymmModel.Proofs.ReshapeIe
namespace SymmModel.ReshapeI
open SymmModel SymmModel.Reshape SymmModel.C07 SymmModel.Reshape5 SymmModel.ReshapeH

theorem visits_bounds (shape newshape : List Nat) (B : List (Option (List Nat))) :
    ∀ (fuel i j : Nat) (p : Nat × Nat), p ∈ visits shape newshape B fuel i j →
      p.1 < shape.length ∧ p.2 < newshape.length := by
  intro fuel
  induction fuel with
  | zero => intro i j p hp; simp [visits] at hp
  | succ fuel ih =>
    intro i j p hp
    have hp' := visits_succ shape newshape B fuel { i := i, j := j } ▸ hp
    cases h1 : shape[i]? with
    | none => simp [h1] at hp'
    | some di =>
      cases h2 : newshape[j]? with
      | none => simp [h1, h2] at hp'
      | some dj =>
        cases hB : B[i]? with
        | none => simp [h1, h2, hB] at hp'
        | some sub =>
          simp only [h1, h2, hB, List.mem_cons] at hp'
          rcases hp' with rfl | hp'
          · exact ⟨(List.getElem?_eq_some_iff.mp h1).1, (List.getElem?_eq_some_iff.mp h2).1⟩
          · cases hR : roundF shape newshape (unfuseMatch newshape j sub) di dj { i := i, j := j } with
            | error e => simp [hR] at hp'
            | ok st1 => rw [hR] at hp'; exact ih _ _ p hp'

theorem noWinVis_of_noWin (shape newshape : List Nat) (subsizes : List (Option (List Nat)))
    (hlen : shape.length = subsizes.length) (h : noWinB newshape subsizes = true) :
    noWinVisB shape newshape subsizes = true := by
  simp only [noWinVisB, List.all_eq_true, Option.isNone_iff_eq_none]
  intro p hp
  obtain ⟨h1, h2⟩ := visits_bounds _ _ _ _ _ _ p hp
  have hm : subsizes.getD p.1 none ∈ subsizes := by
    rw [List.getD_eq_getElem?_getD, List.getElem?_eq_getElem (by omega)]
    exact List.getElem_mem _
  exact noWin_spec h hm h2

end SymmModel.ReshapeI
