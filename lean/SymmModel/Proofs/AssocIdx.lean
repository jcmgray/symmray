/-
  SymmModel.Proofs.AssocIdx — towards S7 of property C04: the (pruned) index tables of results of
  results.  Pruning twice is pruning once (`dropUnused_mid`, for an `Inter`:
  `Inter.indices_left/right`), so both routes return
  `dropUnused (free legs of A ++ free legs of B ++ free legs of C) sectors`; pruning commutes with
  re-indexing (`dropUnused_permuted`).  Then the vocabulary of the chain statement (`IsTriple`), and
  how equal values at every stored sector give equal dense arrays.
-/
import SymmModel.Proofs.AssocLeft

namespace SymmModel
namespace AssocP
open TdotP
open Lazy (sgnI)

variable {R : Type}

/-- entries that were pruned before, to charges that include all charges still present, can be
    replaced by the un-pruned entries -/
theorem dropUnused_congr_pruned (V V' : List Index) (S : List Sector) (hlen : V.length = V'.length)
    (h : ∀ (i : Nat) (ix' : Index), V'[i]? = some ix' → V[i]? = some ix' ∨
      ∃ Q, V[i]? = some (dropTo ix' Q)
        ∧ ∀ c ∈ ix'.charges, c ∈ S.filterMap (fun s => s[i]?) → c ∈ Q) :
    dropUnused V S = dropUnused V' S := by
  apply List.ext_getElem?
  intro i
  rw [dropUnused_getElem?, dropUnused_getElem?]
  by_cases hi : i < V'.length
  · rcases h i _ (List.getElem?_eq_getElem hi) with e | ⟨Q, e, hQ⟩
    · rw [e, List.getElem?_eq_getElem hi]
    · rw [e, List.getElem?_eq_getElem hi]
      simp only [Option.map_some]
      rw [dropTo_dropTo _ hQ]
  · rw [List.getElem?_eq_none (by omega), List.getElem?_eq_none (by omega)]

/-- a block of legs taken from a pruned intermediate result -/
theorem dropUnused_mid (X Y U : List Index) (SS S : List Sector) (free : List Nat)
    (hfree : ∀ i ∈ free, i < U.length)
    (hS : ∀ s ∈ S, ∃ ss ∈ SS, ∀ j f, free[j]? = some f → s[X.length + j]? = ss[f]?) :
    dropUnused (X ++ (permuted (dropUnused U SS) free ++ Y)) S
      = dropUnused (X ++ (permuted U free ++ Y)) S := by
  have hfree' : ∀ i ∈ free, i < (dropUnused U SS).length := by rw [dropUnused_length]; exact hfree
  have hl1 : (permuted (dropUnused U SS) free).length = free.length := permuted_length _ _ hfree'
  have hl2 : (permuted U free).length = free.length := permuted_length _ _ hfree
  apply dropUnused_congr_pruned
  · simp only [List.length_append, hl1, hl2]
  · intro i ix' hix'
    by_cases h1 : i < X.length
    · left
      rw [List.getElem?_append_left h1] at hix' ⊢
      exact hix'
    · rw [List.getElem?_append_right (by omega)] at hix' ⊢
      by_cases h2 : i - X.length < free.length
      · right
        rw [List.getElem?_append_left (by rw [hl2]; exact h2), permuted_getElem? _ _ hfree,
          List.getElem?_eq_getElem h2] at hix'
        simp only [Option.bind_some] at hix'
        refine ⟨SS.filterMap (fun s => s[free[i - X.length]]?), ?_, ?_⟩
        · rw [List.getElem?_append_left (by rw [hl1]; exact h2), permuted_getElem? _ _ hfree',
            List.getElem?_eq_getElem h2]
          simp only [Option.bind_some]
          rw [dropUnused_getElem?, hix']
          rfl
        · intro c _ hc
          obtain ⟨s, hs, hsc⟩ := List.mem_filterMap.mp hc
          obtain ⟨ss, hss, hrel⟩ := hS s hs
          have := hrel (i - X.length) _ (List.getElem?_eq_getElem h2)
          rw [show X.length + (i - X.length) = i by omega, hsc] at this
          exact List.mem_filterMap.mpr ⟨ss, hss, this.symm⟩
      · left
        rw [List.getElem?_append_right (by rw [hl2]; omega), hl2] at hix'
        rw [List.getElem?_append_right (by rw [hl1]; omega), hl1]
        exact hix'

theorem dropUnused_congr_mem (V : List Index) {S S' : List Sector} (h : ∀ s, s ∈ S ↔ s ∈ S') :
    dropUnused V S = dropUnused V S' := by
  rw [dropUnused_eq, dropUnused_eq]
  apply List.map_congr_left
  intro p _
  apply dropTo_congr
  intro c _
  simp only [List.mem_filterMap]
  constructor
  · rintro ⟨s, hs, e⟩; exact ⟨s, (h s).mp hs, e⟩
  · rintro ⟨s, hs, e⟩; exact ⟨s, (h s).mpr hs, e⟩

theorem dropUnused_permuted (U : List Index) (S : List Sector) (π : List Nat)
    (hπ : ∀ i ∈ π, i < U.length) (hS : ∀ s ∈ S, ∀ i ∈ π, i < s.length) :
    permuted (dropUnused U S) π = dropUnused (permuted U π) (S.map (fun s => permuted s π)) := by
  apply List.ext_getElem?
  intro j
  rw [permuted_getElem? _ _ (by rw [dropUnused_length]; exact hπ), dropUnused_getElem?,
    permuted_getElem? _ _ hπ]
  cases hj : π[j]? with
  | none => rfl
  | some f =>
    simp only [Option.bind_some]
    rw [dropUnused_getElem?, List.filterMap_map]
    congr 2
    funext ix
    congr 1
    apply List.filterMap_congr
    intro s hs
    simp only [Function.comp]
    rw [permuted_getElem? _ _ (hS s hs), hj]
    rfl

section inter
variable [AddMonoid R] [Mul R] [Neg R]
variable {P Q Tr : Arr R} {X Y : List Nat} {ph : Int} {U : List Index}

/-- the tables of a call whose LEFT operand has itself tables `dropUnused U P.sectors` (a result):
    pruning twice is pruning once -/
theorem Inter.indices_left (F : Inter P Q X Y Tr ph) (hP : P.shapesOk)
    (hU : P.indices = dropUnused U P.sectors) :
    Tr.indices = dropUnused (permuted U (freeAxes P.ndim X) ++ without Q.indices Y) Tr.sectors := by
  have hfree : ∀ i ∈ freeAxes P.ndim X, i < U.length := by
    intro i hi
    have := (mem_freeAxes.mp hi).1
    rwa [show P.ndim = P.indices.length from rfl, hU, dropUnused_length] at this
  rw [F.indices, without_eq_permuted_freeAxes P.indices, show P.indices.length = P.ndim from rfl, hU]
  have := dropUnused_mid [] (without Q.indices Y) U P.sectors Tr.sectors (freeAxes P.ndim X) hfree (by
    intro s hs
    rw [F.sectors, List.mem_eraseDups, mem_tdKeys] at hs
    obtain ⟨sp, hsp, sq, _, _, rfl⟩ := hs
    refine ⟨sp, hsp, ?_⟩
    intro j f hjf
    have hlt : ∀ x ∈ freeAxes P.ndim X, x < sp.length := by
      intro x hx; rw [Arr.sector_length hP hsp]; exact (mem_freeAxes.mp hx).1
    have hj : j < (freeAxes P.ndim X).length := by
      by_contra hc; rw [List.getElem?_eq_none (by omega)] at hjf; cases hjf
    rw [List.length_nil, Nat.zero_add,
      List.getElem?_append_left (by rw [permuted_length _ _ hlt]; exact hj),
      permuted_getElem? _ _ hlt, hjf]
    rfl)
  rwa [List.nil_append, List.nil_append] at this

theorem Inter.indices_right (F : Inter P Q X Y Tr ph) (hP : P.shapesOk) (hQ : Q.shapesOk)
    (hU : Q.indices = dropUnused U Q.sectors) :
    Tr.indices = dropUnused (without P.indices X ++ permuted U (freeAxes Q.ndim Y)) Tr.sectors := by
  have hlP : (without P.indices X).length = (freeAxes P.ndim X).length := without_length _ _
  have hfree : ∀ i ∈ freeAxes Q.ndim Y, i < U.length := by
    intro i hi
    have := (mem_freeAxes.mp hi).1
    rwa [show Q.ndim = Q.indices.length from rfl, hU, dropUnused_length] at this
  rw [F.indices, without_eq_permuted_freeAxes Q.indices, show Q.indices.length = Q.ndim from rfl, hU]
  have := dropUnused_mid (without P.indices X) [] U Q.sectors Tr.sectors (freeAxes Q.ndim Y) hfree (by
    intro s hs
    rw [F.sectors, List.mem_eraseDups, mem_tdKeys] at hs
    obtain ⟨sp, hsp, sq, hsq, _, rfl⟩ := hs
    refine ⟨sq, hsq, ?_⟩
    intro j f hjf
    have hlt : ∀ x ∈ freeAxes Q.ndim Y, x < sq.length := by
      intro x hx; rw [Arr.sector_length hQ hsq]; exact (mem_freeAxes.mp hx).1
    have hlsp : (permuted sp (freeAxes P.ndim X)).length = (without P.indices X).length := by
      rw [hlP, permuted_length _ _ (by
        intro x hx; rw [Arr.sector_length hP hsp]; exact (mem_freeAxes.mp hx).1)]
    rw [List.getElem?_append_right (by rw [hlsp]; omega), hlsp, Nat.add_sub_cancel_left,
      permuted_getElem? _ _ hlt, hjf]
    rfl)
  rwa [List.append_nil, List.append_nil] at this

end inter

/-- `t = (sa, sb, sc)` is a stored, aligned sector triple with free parts `s` -/
def IsTriple (A B C : Arr R) (xa xb1 xb2 xc : List Nat) (s : Sector)
    (t : Sector × Sector × Sector) : Prop :=
  t.1 ∈ A.sectors ∧ t.2.1 ∈ B.sectors ∧ t.2.2 ∈ C.sectors
    ∧ permuted t.2.1 xb1 = permuted t.1 xa ∧ permuted t.2.2 xc = permuted t.2.1 xb2
    ∧ permuted t.1 (freeAxes A.ndim xa) ++ permuted t.2.1 (freeAxes B.ndim (xb1 ++ xb2))
        ++ permuted t.2.2 (freeAxes C.ndim xc) = s

theorem mem_keys_iff (a b : Arr R) (l xa xb r : List Nat) (s : Sector) :
    s ∈ (tdKeys a.sectors b.sectors l xa xb r).eraseDups ↔ ∃ p, p ∈ storedPairs a b l xa xb r s := by
  rw [List.mem_eraseDups, mem_tdKeys]
  constructor
  · rintro ⟨x, hx, y, hy, h1, h2⟩
    exact ⟨(x, y), mem_storedPairs.mpr ⟨hx, hy, h1.symm, h2.symm⟩⟩
  · rintro ⟨⟨x, y⟩, hp⟩
    obtain ⟨hx, hy, h1, h2⟩ := mem_storedPairs.mp hp
    exact ⟨x, hx, y, hy, h1.symm, h2.symm⟩

theorem inBox_split3 {s1 s2 s3 o : List Nat} (h : inBox (s1 ++ (s2 ++ s3)) o = true) :
    ∃ o1 o2 o3, o = o1 ++ o2 ++ o3 ∧ o1.length = s1.length ∧ o2.length = s2.length
      ∧ o3.length = s3.length
      ∧ inBox s1 o1 = true ∧ inBox s2 o2 = true ∧ inBox s3 o3 = true := by
  have hl := inBox_length h
  simp only [List.length_append] at hl
  have e1 : o = o.take s1.length ++ o.drop s1.length := (List.take_append_drop _ _).symm
  have l1 : (o.take s1.length).length = s1.length := by rw [List.length_take]; omega
  rw [e1, inBox_append l1, Bool.and_eq_true] at h
  obtain ⟨b1, h⟩ := h
  have e2 : o.drop s1.length = (o.drop s1.length).take s2.length ++ (o.drop s1.length).drop s2.length :=
    (List.take_append_drop _ _).symm
  have l2 : ((o.drop s1.length).take s2.length).length = s2.length := by
    rw [List.length_take, List.length_drop]; omega
  rw [e2, inBox_append l2, Bool.and_eq_true] at h
  obtain ⟨b2, b3⟩ := h
  refine ⟨_, _, _, ?_, l1, l2, ?_, b1, b2, b3⟩
  · rw [List.append_assoc, ← e2, ← e1]
  · rw [List.length_drop, List.length_drop]; omega

section dense
variable [Zero R] [Neg R] [Lazy.LawfulNeg R]

theorem toDenseF_eq_of (c1 c2 : Arr R) (hidx : c2.indices = c1.indices)
    (hnd : ∀ ix ∈ c1.indices, (ix.cm.map (·.1)).Nodup)
    (h : ∀ (s : Sector) (o : List Nat),
      (s ∈ c1.sectors → inBox (Arr.blockShapeD c1.indices s) o = true) → c2.elem s o = c1.elem s o) :
    c2.toDenseF = c1.toDenseF := by
  unfold Arr.toDenseF Arr.toDenseA
  have i1 : c1.phaseSync.indices = c1.indices := rfl
  have i2 : c2.phaseSync.indices = c1.indices := hidx
  have s1 : c1.phaseSync.shape = c1.shape := rfl
  have s2 : c2.phaseSync.shape = c1.shape := by unfold Arr.shape; rw [i2]
  rw [i1, i2, s1, s2]
  split
  · rfl
  · congr 1
    apply ofFn_congr
    intro p hp
    have hpl : p.length = c1.indices.length := by
      have := inBox_length hp
      unfold Arr.shape at this
      simpa using this
    cases hloc : Arr.locateAll c1.indices p with
    | none => rfl
    | some so =>
      obtain ⟨sec, off⟩ := so
      simp only [Bool.false_eq_true, if_false]
      rw [Lazy.phaseSync_elem, Lazy.phaseSync_elem]
      apply h
      intro _
      obtain ⟨shp, hshp⟩ := blockShape?_of_locateAll hpl hloc
      rw [Arr.blockShapeD, hshp]
      exact Arr.locateAll_inBox hnd hpl hloc hshp

end dense

end AssocP
end SymmModel
