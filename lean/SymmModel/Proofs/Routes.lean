/-
  SymmModel.Proofs.Routes — towards the route-independence clauses S4–S6 of property C04
  (Props/C04b.lean).
  Specification level: how the graded contraction `GradedP.gradedContract` / `gradedSign`
  (Proofs/Graded.lean) behaves when the contracted axis pairs are listed in another order (S4); the
  Koszul signs of block-diagonal permutations come from the cocycle.
  The structure of a blockwise `tensordot_fermionic` call under the weak guard `AssocP.AdmW`
  (Proofs/AssocWeak.lean): it is the label sort `OddposP.mergeOddpos` followed by `finish` (attach
  labels and label sign) of the core contraction `coreT`, and `CoreFrame` says what the core
  contraction is in terms of the ORIGINAL operands (tables, stored keys in order, block shapes, no
  pending signs, values = graded contraction).  Proofs/AssocFrame.lean packs this as `AssocP.Call`;
  here it is used where two results are compared block by block: two core contractions with the same
  keys and graded values are EQUAL arrays (`coreFrame_unique`), hence S4 for the model
  (`AssocP.tdotF_axes_perm_eq_w`: the IDENTICAL result).
  The documented guard `Adm` implies the weak one (`AdmW.ofAdm`).
  Namespace `SymmModel.RoutesP`, the weak-guard statements in `SymmModel.AssocP`.
  (Routes2: S6, Routes3: S5, Routes4: `assoc_sign_identity`.)
-/
import SymmModel.Proofs.AssocWeak

namespace SymmModel
namespace RoutesP
open TdotP GradedP KoszulP AssocP
set_option linter.unusedSectionVars false

section perm
variable {α : Type}

theorem permuted_perm (l : List α) (π : List Nat) (hπ : π.Perm (List.range l.length)) :
    (permuted l π).Perm l := by
  have h1 : (permuted l π).Perm (permuted l (List.range l.length)) := by
    unfold permuted; exact hπ.filterMap _
  rwa [permuted_range] at h1

theorem mem_lt_of_perm {π : List Nat} {n : Nat} (hπ : π.Perm (List.range n)) : ∀ i ∈ π, i < n :=
  fun _ hi => List.mem_range.mp (hπ.mem_iff.mp hi)

theorem permuted_length_perm (l : List α) (π : List Nat) (hπ : π.Perm (List.range l.length)) :
    (permuted l π).length = l.length := (permuted_perm l π hπ).length_eq

theorem permuted_permuted_ax (z : List α) (ax π : List Nat) (hax : ∀ i ∈ ax, i < z.length) :
    permuted z (permuted ax π) = permuted (permuted z ax) π :=
  (KoszulP.permuted_permuted z ax π hax).symm

theorem freeAxes_congr (n : Nat) {ax ax' : List Nat} (h : ∀ x, x ∈ ax' ↔ x ∈ ax) :
    freeAxes n ax' = freeAxes n ax := by
  unfold freeAxes
  apply List.filter_congr
  intro x _
  have : ax'.contains x = ax.contains x := by
    rw [Bool.eq_iff_iff]; simp [h x]
  rw [this]

theorem allIdx_permuted_perm (B π : List Nat) (hπ : π.Perm (List.range B.length)) :
    (allIdx (permuted B π)).Perm ((allIdx B).map (fun k => permuted k π)) := by
  have hinj : ∀ k ∈ allIdx B, ∀ k' ∈ allIdx B, permuted k π = permuted k' π → k = k' := by
    intro k hk k' hk' e
    exact KoszulP.permuted_injective k k' π B.length hπ (inBox_length (mem_allIdx.mp hk))
      (inBox_length (mem_allIdx.mp hk')) e
  have hnd : ((allIdx B).map (fun k => permuted k π)).Nodup :=
    List.Nodup.map_on hinj (allIdx_nodup B)
  have hsub : ((allIdx B).map (fun k => permuted k π)) ⊆ allIdx (permuted B π) := by
    intro k' hk'
    obtain ⟨k, hk, rfl⟩ := List.mem_map.mp hk'
    exact mem_allIdx.mpr (KoszulP.inBox_permuted B k π B.length hπ rfl (mem_allIdx.mp hk))
  have hsp := List.subperm_of_subset hnd hsub
  refine (hsp.perm_of_length_le ?_).symm
  rw [List.length_map, allIdx_length, allIdx_length, prod_perm (permuted_perm B π hπ)]

end perm

section koszulblocks

theorem isOdd_append_right (P Q : List Bool) (j : Nat) : isOdd (P ++ Q) (P.length + j) = isOdd Q j := by
  unfold isOdd
  rw [List.getD_eq_getElem?_getD, List.getD_eq_getElem?_getD,
    List.getElem?_append_right (by omega)]
  congr 2; omega

theorem isOdd_append_left (P Q : List Bool) (j : Nat) (hj : j < P.length) :
    isOdd (P ++ Q) j = isOdd P j := by
  unfold isOdd
  rw [List.getD_eq_getElem?_getD, List.getD_eq_getElem?_getD, List.getElem?_append_left hj]

theorem invR_gtR_map_add (l : Nat) (L : List Nat) :
    invR gtR (L.map (l + ·)) = invR gtR L := by
  induction L with
  | nil => rfl
  | cons a L ih =>
    simp only [List.map_cons, invR, ih, List.filter_map, List.length_map]
    congr 2
    apply List.filter_congr
    intro b _
    simp [gtR, Function.comp]

theorem crossR_gtR_zero (L M : List Nat) (h : ∀ a ∈ L, ∀ b ∈ M, a ≤ b) : crossR gtR L M = 0 := by
  induction L with
  | nil => rfl
  | cons a L ih =>
    simp only [crossR]
    have : M.filter (gtR a) = [] := by
      rw [List.filter_eq_nil_iff]
      intro b hb
      have := h a (by simp) b hb
      simp [gtR]; omega
    rw [this, ih (fun x hx => h x (List.mem_cons_of_mem _ hx))]
    rfl

theorem koszul_id_block_left (P Q : List Bool) (π : List Nat) (hπ : π.Perm (List.range Q.length)) :
    koszul (P ++ Q) (some (List.range P.length ++ π.map (P.length + ·))) = koszul Q (some π) := by
  have hperm : (List.range P.length ++ π.map (P.length + ·)).Perm (List.range (P.length + Q.length)) := by
    rw [List.range_add]
    exact List.Perm.append_left _ (hπ.map _)
  rw [koszul_eq_sgn_invR _ _ _ hperm, koszul_eq_sgn_invR _ _ _ hπ, List.filter_append, invR_append]
  have e2 : (π.map (P.length + ·)).filter (isOdd (P ++ Q)) = (π.filter (isOdd Q)).map (P.length + ·) := by
    rw [List.filter_map]
    congr 1
    apply List.filter_congr
    intro j _
    exact isOdd_append_right P Q j
  have e1 : invR gtR ((List.range P.length).filter (isOdd (P ++ Q))) = 0 :=
    invR_gtR_sorted _ (List.Pairwise.filter _ List.pairwise_lt_range)
  have e3 : crossR gtR ((List.range P.length).filter (isOdd (P ++ Q)))
      ((π.map (P.length + ·)).filter (isOdd (P ++ Q))) = 0 := by
    apply crossR_gtR_zero
    intro a ha b hb
    have h1 := List.mem_range.mp (List.mem_filter.mp ha).1
    obtain ⟨j, _, rfl⟩ := List.mem_map.mp (List.mem_filter.mp hb).1
    omega
  rw [e1, e3, e2, invR_gtR_map_add]
  simp

theorem koszul_id_block_right (Q P : List Bool) (π : List Nat) (hπ : π.Perm (List.range Q.length)) :
    koszul (Q ++ P) (some (π ++ (List.range P.length).map (Q.length + ·))) = koszul Q (some π) := by
  have hperm : (π ++ (List.range P.length).map (Q.length + ·)).Perm (List.range (Q.length + P.length)) := by
    rw [List.range_add]
    exact List.Perm.append_right _ hπ
  rw [koszul_eq_sgn_invR _ _ _ hperm, koszul_eq_sgn_invR _ _ _ hπ, List.filter_append, invR_append]
  have e1 : π.filter (isOdd (Q ++ P)) = π.filter (isOdd Q) := by
    apply List.filter_congr
    intro j hj
    exact isOdd_append_left Q P j (mem_lt_of_perm hπ j hj)
  have e2 : invR gtR (((List.range P.length).map (Q.length + ·)).filter (isOdd (Q ++ P))) = 0 := by
    apply invR_gtR_sorted
    apply List.Pairwise.filter
    rw [List.pairwise_map]
    exact List.Pairwise.imp (fun {a b} h => by omega) List.pairwise_lt_range
  have e3 : crossR gtR (π.filter (isOdd (Q ++ P)))
      (((List.range P.length).map (Q.length + ·)).filter (isOdd (Q ++ P))) = 0 := by
    apply crossR_gtR_zero
    intro a ha b hb
    have h1 := mem_lt_of_perm hπ a (List.mem_filter.mp ha).1
    obtain ⟨j, _, rfl⟩ := List.mem_map.mp (List.mem_filter.mp hb).1
    omega
  rw [e2, e3, e1]
  simp

end koszulblocks

section relist
variable {α : Type}

theorem permuted_append_map_add (u v : List α) (π : List Nat) :
    permuted (u ++ v) (π.map (u.length + ·)) = permuted v π := by
  unfold permuted
  rw [List.filterMap_map]
  apply List.filterMap_congr
  intro j _
  simp only [Function.comp]
  rw [List.getElem?_append_right (by omega)]
  congr 1; omega

theorem permuted_append_of_lt (u v : List α) (π : List Nat) (h : ∀ i ∈ π, i < u.length) :
    permuted (u ++ v) π = permuted u π := by
  unfold permuted
  apply List.filterMap_congr
  intro j hj
  exact List.getElem?_append_left (h j hj)

theorem koszul_relist_snd (par : List Bool) (n : Nat) (hpar : par.length = n) (u v π : List Nat)
    (hp : (u ++ v).Perm (List.range n)) (hπ : π.Perm (List.range v.length)) :
    koszul par (some (u ++ permuted v π))
      = koszul par (some (u ++ v)) * koszul (permuted par v) (some π) := by
  have hfl : n = u.length + v.length := by
    have := hp.length_eq
    rw [List.length_append, List.length_range] at this
    exact this.symm
  have hq : (List.range u.length ++ π.map (u.length + ·)).Perm (List.range n) := by
    conv => rhs; rw [hfl, List.range_add]
    exact List.Perm.append_left _ (hπ.map _)
  have hc : compose (u ++ v) (List.range u.length ++ π.map (u.length + ·)) = u ++ permuted v π := by
    unfold compose
    rw [permuted_append, ValidP.permuted_range_take, List.take_left' rfl, permuted_append_map_add]
  have hco := koszul_cocycle' par _ _ n hpar hp hq
  rw [hc] at hco
  rw [hco, permuted_append]
  congr 1
  have hl : (permuted par u).length = u.length :=
    permuted_length _ _ (by intro x hx; rw [hpar]; exact mem_lt_of_perm hp x (List.mem_append_left _ hx))
  have hk : (permuted par v).length = v.length :=
    permuted_length _ _ (by intro x hx; rw [hpar]; exact mem_lt_of_perm hp x (List.mem_append_right _ hx))
  have := koszul_id_block_left (permuted par u) (permuted par v) π (by rw [hk]; exact hπ)
  rw [hl] at this
  exact this

theorem koszul_relist_fst (par : List Bool) (n : Nat) (hpar : par.length = n) (u v π : List Nat)
    (hp : (u ++ v).Perm (List.range n)) (hπ : π.Perm (List.range u.length)) :
    koszul par (some (permuted u π ++ v))
      = koszul par (some (u ++ v)) * koszul (permuted par u) (some π) := by
  have hfl : n = u.length + v.length := by
    have := hp.length_eq
    rw [List.length_append, List.length_range] at this
    exact this.symm
  have hq : (π ++ (List.range v.length).map (u.length + ·)).Perm (List.range n) := by
    conv => rhs; rw [hfl, List.range_add]
    exact List.Perm.append_right _ hπ
  have hc : compose (u ++ v) (π ++ (List.range v.length).map (u.length + ·)) = permuted u π ++ v := by
    unfold compose
    rw [permuted_append, permuted_append_of_lt _ _ _ (mem_lt_of_perm hπ), permuted_append_map_add,
      permuted_range]
  have hco := koszul_cocycle' par _ _ n hpar hp hq
  rw [hc] at hco
  rw [hco, permuted_append]
  congr 1
  have hl : (permuted par u).length = u.length :=
    permuted_length _ _ (by intro x hx; rw [hpar]; exact mem_lt_of_perm hp x (List.mem_append_left _ hx))
  have hk : (permuted par v).length = v.length :=
    permuted_length _ _ (by intro x hx; rw [hpar]; exact mem_lt_of_perm hp x (List.mem_append_right _ hx))
  have := koszul_id_block_right (permuted par u) (permuted par v) π (by rw [hl]; exact hπ)
  rw [hl, hk] at this
  exact this

end relist

section axesperm

theorem mergeIdx_relist {α : Type} (d : α) (n : Nat) (ax free π : List Nat) (k f : List α)
    (hn : ax.Nodup) (hπ : π.Perm (List.range ax.length)) (hk : k.length = ax.length) :
    mergeIdx d n (permuted ax π) free (permuted k π) f = mergeIdx d n ax free k f := by
  unfold mergeIdx
  apply List.map_congr_left
  intro y _
  have hπlt : ∀ i ∈ π, i < ax.length := mem_lt_of_perm hπ
  cases h1 : indexOf? (permuted ax π) y with
  | some j' =>
    have h2 := indexOf?_eq_some h1
    rw [permuted_getElem? ax π hπlt] at h2
    cases hpj : π[j']? with
    | none => rw [hpj] at h2; cases h2
    | some i =>
      rw [hpj] at h2
      simp only [Option.bind_some] at h2
      have hi : i < ax.length := by
        by_contra hc; rw [List.getElem?_eq_none (by omega)] at h2; cases h2
      have hy : ax[i] = y := by
        rw [List.getElem?_eq_getElem hi] at h2; exact Option.some.inj h2
      have h3 : indexOf? ax y = some i := by rw [← hy]; exact indexOf?_getElem hn hi
      rw [h3]
      simp only []
      rw [List.getD_eq_getElem?_getD, List.getD_eq_getElem?_getD,
        permuted_getElem? k π (by rw [hk]; exact hπlt), hpj]
      rfl
  | none =>
    have hy : y ∉ permuted ax π := indexOf?_eq_none_iff.mp h1
    have hy' : y ∉ ax := fun h => hy ((permuted_perm ax π hπ).mem_iff.mpr h)
    rw [indexOf?_eq_none_iff.mpr hy']

variable {R : Type}

theorem relist_ok {n : Nat} {ax π : List Nat} (hn : ax.Nodup) (hlt : ∀ i ∈ ax, i < n)
    (hπ : π.Perm (List.range ax.length)) :
    (permuted ax π).Nodup ∧ (∀ i ∈ permuted ax π, i < n) ∧ (permuted ax π).length = ax.length
      ∧ freeAxes n (permuted ax π) = freeAxes n ax := by
  have hp := permuted_perm ax π hπ
  exact ⟨hp.nodup_iff.mpr hn, fun i hi => hlt i (hp.mem_iff.mp hi), hp.length_eq,
    freeAxes_congr n (fun x => hp.mem_iff)⟩

theorem aligned_relist (sa sb : Sector) (xa xb π : List Nat) (hA : ∀ i ∈ xa, i < sa.length)
    (hB : ∀ i ∈ xb, i < sb.length) (hlen : xa.length = xb.length)
    (hπ : π.Perm (List.range xa.length)) :
    (permuted sb (permuted xb π) = permuted sa (permuted xa π)) ↔ (permuted sb xb = permuted sa xa) := by
  rw [permuted_permuted_ax sb xb π hB, permuted_permuted_ax sa xa π hA]
  constructor
  · intro h
    exact KoszulP.permuted_injective _ _ π xa.length hπ
      (by rw [permuted_length _ _ hB, hlen]) (permuted_length _ _ hA) h
  · intro h; rw [h]

theorem storedPairs_relist (a b : Arr R) (xa xb π : List Nat) (hsa : a.shapesOk) (hsb : b.shapesOk)
    (hnA : xa.Nodup) (hA : ∀ i ∈ xa, i < a.ndim) (hnB : xb.Nodup) (hB : ∀ i ∈ xb, i < b.ndim)
    (hlen : xa.length = xb.length) (hπ : π.Perm (List.range xa.length)) (s : Sector) :
    storedPairs a b (freeAxes a.ndim (permuted xa π)) (permuted xa π) (permuted xb π)
        (freeAxes b.ndim (permuted xb π)) s
      = storedPairs a b (freeAxes a.ndim xa) xa xb (freeAxes b.ndim xb) s := by
  rw [(relist_ok hnA hA hπ).2.2.2, (relist_ok hnB hB (hlen ▸ hπ)).2.2.2]
  unfold storedPairs
  apply flatMap_congr_mem
  intro sa hsa'
  congr 1
  apply List.filter_congr
  intro sb hsb'
  have hla := Arr.sector_length hsa hsa'
  have hlb := Arr.sector_length hsb hsb'
  have := aligned_relist sa sb xa xb π (by rw [hla]; exact hA) (by rw [hlb]; exact hB) hlen hπ
  congr 1
  rw [Bool.eq_iff_iff]
  simpa using this

variable [AddCommMonoid R] [Mul R] [Neg R]

theorem contractPair_relist (a b : Arr R) (xa xb π : List Nat) (hsa : a.shapesOk)
    (hnA : xa.Nodup) (hA : ∀ i ∈ xa, i < a.ndim) (hnB : xb.Nodup) (hB : ∀ i ∈ xb, i < b.ndim)
    (hlen : xa.length = xb.length) (hπ : π.Perm (List.range xa.length)) (oL oR : List Nat)
    (sa sb : Sector) (hsa' : sa ∈ a.sectors) :
    contractPair a b (permuted xa π) (permuted xb π) oL oR (sa, sb)
      = contractPair a b xa xb oL oR (sa, sb) := by
  obtain ⟨shp, _, h2, h3, _⟩ := shape_of_mem hsa hsa'
  unfold contractPair
  simp only [h2]
  have hAs : ∀ i ∈ xa, i < shp.length := by rw [h3]; exact hA
  have hBl : (permuted shp xa).length = xa.length := permuted_length _ _ hAs
  rw [permuted_permuted_ax shp xa π hAs]
  have hperm := allIdx_permuted_perm (permuted shp xa) π (by rw [hBl]; exact hπ)
  rw [(hperm.map _).sum_eq, List.map_map]
  congr 1
  apply List.map_congr_left
  intro k hk
  have hkl : k.length = xa.length := by rw [inBox_length (mem_allIdx.mp hk), hBl]
  simp only [Function.comp]
  unfold contractTerm
  rw [(relist_ok hnA hA hπ).2.2.2, (relist_ok hnB hB (hlen ▸ hπ)).2.2.2,
    mergeIdx_relist 0 a.ndim xa _ π k oL hnA hπ hkl,
    mergeIdx_relist 0 b.ndim xb _ π k oR hnB (hlen ▸ hπ) (by rw [hkl, hlen])]

omit [AddCommMonoid R] [Mul R] [Neg R] in
theorem gradedSign_relist (a b : Arr R) (xa xb π : List Nat) (hsym : a.sym = b.sym)
    (hnA : xa.Nodup) (hA : ∀ i ∈ xa, i < a.ndim) (hnB : xb.Nodup) (hB : ∀ i ∈ xb, i < b.ndim)
    (hlen : xa.length = xb.length) (hπ : π.Perm (List.range xa.length))
    (sa sb : Sector) (hla : sa.length = a.ndim) (hlb : sb.length = b.ndim)
    (hal : permuted sb xb = permuted sa xa) :
    gradedSign a b (permuted xa π) (permuted xb π) sa sb = gradedSign a b xa xb sa sb := by
  unfold gradedSign
  have hpa : (a.parities sa).length = a.ndim := by unfold Arr.parities; rw [List.length_map, hla]
  have hpb : (b.parities sb).length = b.ndim := by unfold Arr.parities; rw [List.length_map, hlb]
  rw [(relist_ok hnA hA hπ).2.2.2, (relist_ok hnB hB (hlen ▸ hπ)).2.2.2,
    koszul_relist_snd _ a.ndim hpa _ xa π (perm_left hnA hA) hπ,
    koszul_relist_fst _ b.ndim hpb xb _ π (perm_right hnB hB) (hlen ▸ hπ)]
  have hpar : permuted (b.parities sb) xb = permuted (a.parities sa) xa := by
    unfold Arr.parities
    rw [permuted_map, permuted_map, hal, hsym]
  have hodd : oddContracted a (permuted xa π) sa = oddContracted a xa sa := by
    unfold oddContracted
    rw [permuted_permuted_ax sa xa π (by rw [hla]; exact hA)]
    exact ((permuted_perm (permuted sa xa) π (by
      rw [permuted_length _ _ (by rw [hla]; exact hA)]; exact hπ)).filter _).length_eq
  have hket : ketOdd a (permuted xa π) sa = ketOdd a xa sa := by
    unfold ketOdd
    exact (((permuted_perm xa π hπ).filter _).filter _).length_eq
  rw [hodd, hket, hpar]
  have hk := Lazy.koszul_pm (permuted (a.parities sa) xa) (some π)
  generalize koszul (permuted (a.parities sa) xa) (some π) = t at hk
  rcases hk with rfl | rfl <;> ring

/-- **S4, specification level.**  Re-listing the contracted axis pairs along a permutation `π`
    leaves the graded contraction unchanged. -/
theorem gradedContract_relist (a b : Arr R) (xa xb π : List Nat) (hsym : a.sym = b.sym)
    (hsa : a.shapesOk) (hsb : b.shapesOk)
    (hnA : xa.Nodup) (hA : ∀ i ∈ xa, i < a.ndim) (hnB : xb.Nodup) (hB : ∀ i ∈ xb, i < b.ndim)
    (hlen : xa.length = xb.length) (hπ : π.Perm (List.range xa.length)) (s : Sector)
    (oL oR : List Nat) :
    gradedContract a b (permuted xa π) (permuted xb π) s oL oR = gradedContract a b xa xb s oL oR := by
  unfold gradedContract
  rw [storedPairs_relist a b xa xb π hsa hsb hnA hA hnB hB hlen hπ s]
  congr 1
  apply List.map_congr_left
  rintro ⟨sa, sb⟩ hp
  obtain ⟨m1, m2, m3, _⟩ := mem_storedPairs.mp hp
  rw [gradedSign_relist a b xa xb π hsym hnA hA hnB hB hlen hπ sa sb (Arr.sector_length hsa m1)
      (Arr.sector_length hsb m2) m3,
    contractPair_relist a b xa xb π hsa hnA hA hnB hB hlen hπ oL oR sa sb m1]

end axesperm

section core
variable {R : Type}

theorem blocks_ext_inBox [Zero R] {l l' : List (Sector × Blk R)}
    (hk : l.map (fun p => (p.1, p.2.shape)) = l'.map (fun p => (p.1, p.2.shape)))
    (hn : (akeys l).Nodup) (hw : ∀ p ∈ l, p.2.wf = true) (hw' : ∀ p ∈ l', p.2.wf = true)
    (h : ∀ p ∈ l, ∀ off, inBox p.2.shape off = true →
      Lazy.rawGet l p.1 off = Lazy.rawGet l' p.1 off) : l = l' := by
  induction l generalizing l' with
  | nil => cases l' with
    | nil => rfl
    | cons _ _ => simp at hk
  | cons p t ih =>
    cases l' with
    | nil => simp at hk
    | cons p' t' =>
      obtain ⟨k, b⟩ := p
      obtain ⟨k', b'⟩ := p'
      simp only [List.map_cons, List.cons.injEq, Prod.mk.injEq] at hk
      obtain ⟨⟨rfl, hsh⟩, hkt⟩ := hk
      simp only [akeys, List.map_cons, List.nodup_cons] at hn
      have hb : b = b' := by
        apply blk_ext (hw _ List.mem_cons_self) (hw' _ List.mem_cons_self) hsh
        intro off hoff
        have := h (k, b) List.mem_cons_self off hoff
        simpa [Lazy.rawGet, alookup] using this
      subst hb
      congr 1
      apply ih hkt hn.2 (fun p hp => hw p (List.mem_cons_of_mem _ hp))
        (fun p hp => hw' p (List.mem_cons_of_mem _ hp))
      intro p hp off hoff
      have hne : (k == p.1) = false := by
        have : p.1 ∈ akeys t := List.mem_map.mpr ⟨p, hp, rfl⟩
        cases hkp : k == p.1
        · rfl
        · rw [eq_of_beq hkp] at hn; exact absurd this hn.1
      have := h p (List.mem_cons_of_mem _ hp) off hoff
      simpa [Lazy.rawGet, alookup, hne] using this

theorem accum_wf (add : Blk R → Blk R → Blk R) (hadd : ∀ x y, (add x y).wf = true)
    (ps : List (Sector × Blk R)) (hps : ∀ p ∈ ps, p.2.wf = true) :
    ∀ p ∈ accum add ps, p.2.wf = true := by
  unfold accum
  have key : ∀ (acc : List (Sector × Blk R)), (∀ p ∈ acc, p.2.wf = true) →
      ∀ p ∈ ps.foldl (accStep add) acc, p.2.wf = true := by
    induction ps with
    | nil => intro acc h; exact h
    | cons q ps ih =>
      intro acc hacc
      rw [List.foldl_cons]
      apply ih (fun p hp => hps p (List.mem_cons_of_mem _ hp))
      intro p hp
      unfold accStep at hp
      split at hp
      · rcases List.mem_append.mp hp with h | h
        · exact hacc p h
        · simp only [List.mem_singleton] at h; rw [h]; exact hps q (by simp)
      · rcases mem_ainsert hp with h | h
        · exact hacc p h
        · rw [h]; exact hadd _ _
  exact key [] (by simp)

variable [AddMonoid R] [Mul R] [Neg R] [SignRing R]
open Lazy (sgnI)

theorem tensordotBlockwise_wf (X Y : Arr R) (l xa xb r : List Nat) :
    ∀ p ∈ (tensordotBlockwise X Y l xa xb r).blocks, p.2.wf = true := by
  rw [tensordotBlockwise_blocks]
  apply accum_wf _ (fun x y => ofFn_wf _ _)
  intro p hp
  unfold tdTerms at hp
  obtain ⟨q, _, rfl⟩ := List.mem_map.mp hp
  exact ofFn_wf _ _

/-- the abelian contraction of the prepared operands inside `tensordot_fermionic` -/
def coreT (a b : Arr R) (xa xb : List Nat) : Arr R :=
  let X := (ValidP.tdF34 a b xa xb).1.phaseSync
  let Y := (ValidP.tdF34 a b xa xb).2.phaseSync
  tensordotBlockwise X Y (freeAxes X.ndim ((List.range a.ndim).drop (a.ndim - xa.length)))
    ((List.range a.ndim).drop (a.ndim - xa.length)) (List.range xa.length)
    (freeAxes Y.ndim (List.range xa.length))

/-- attach the merged labels and the label sign -/
def finish (T : Arr R) (r : List (Int × Bool) × Int) : Arr R :=
  { (if r.2 == -1 then T.phaseGlobal else T) with oddpos := r.1 }

omit [AddMonoid R] [Mul R] [SignRing R] in
theorem _root_.SymmModel.AssocP.finish_fields (T : Arr R) (r : List (Int × Bool) × Int) :
    (finish T r).charge = T.charge ∧ (finish T r).sym = T.sym ∧ (finish T r).fermi = T.fermi
      ∧ (finish T r).indices = T.indices ∧ (finish T r).sectors = T.sectors
      ∧ (finish T r).oddpos = r.1 := by
  unfold finish
  split <;> exact ⟨rfl, rfl, rfl, rfl, rfl, rfl⟩

omit [AddMonoid R] [Mul R] [SignRing R] in
theorem _root_.SymmModel.AssocP.finish_blocks (T : Arr R) (r : List (Int × Bool) × Int) :
    (finish T r).blocks = T.blocks := by
  unfold finish
  split <;> rfl

theorem _root_.SymmModel.AssocP.finish_elem (T : Arr R) (r : List (Int × Bool) × Int) (hT : Lazy.SignOk T)
    (s : Sector) (o : List Nat) : (finish T r).elem s o = sgnI r.2 (T.elem s o) := by
  show (if (r.2 == -1) = true then T.phaseGlobal else T).elem s o = _
  by_cases hph : r.2 = -1
  · rw [hph]
    simp only [beq_self_eq_true, if_true]
    rw [Lazy.phaseGlobal_elem _ hT, Lazy.sgnI_neg_one]
  · have : (r.2 == -1) = false := by simpa using hph
    simp only [this, Bool.false_eq_true, if_false]
    unfold sgnI
    rw [if_neg hph]

/-- what the hypotheses `validB`, `fermi`, `tdotAdmissibleB` give -/
structure Adm (a b : Arr R) (xa xb : List Nat) : Prop where
  va : a.validB = true
  vb : b.validB = true
  fa : a.fermi = true
  fb : b.fermi = true
  sym : a.sym = b.sym
  con : ValidP.contractibleB a b xa xb = true
  nA : xa.Nodup
  nB : xb.Nodup
  ltA : ∀ i ∈ xa, i < a.ndim
  ltB : ∀ i ∈ xb, i < b.ndim

omit [AddMonoid R] [Mul R] [Neg R] [SignRing R] in
theorem Adm.of {a b : Arr R} {xa xb : List Nat} (ha : a.validB = true) (hb : b.validB = true)
    (hfa : a.fermi = true) (hfb : b.fermi = true) (hadm : ValidP.tdotAdmissibleB a b xa xb = true) :
    Adm a b xa xb := by
  obtain ⟨hsym, hc, hnA, hnB, hA, hB⟩ := ValidP.tdotAdmissibleB_iff.mp hadm
  exact ⟨ha, hb, hfa, hfb, hsym, hc, hnA, hnB, hA, hB⟩

omit [AddMonoid R] [Mul R] [Neg R] [SignRing R] in
theorem Adm.len {a b : Arr R} {xa xb : List Nat} (h : Adm a b xa xb) : xa.length = xb.length :=
  contractible_len h.con

omit [AddMonoid R] [Mul R] [Neg R] [SignRing R] in
theorem _root_.SymmModel.AssocP.AdmW.ofAdm {a b : Arr R} {xa xb : List Nat} (h : Adm a b xa xb) :
    AdmW a b xa xb :=
  ⟨h.va, h.vb, h.fa, h.fb, h.sym, commonB_of_contractibleB h.va h.ltA h.con, h.nA, h.nB, h.ltA, h.ltB⟩

omit [AddMonoid R] [Mul R] [Neg R] [SignRing R] in
theorem tdKeys_transport (a b X Y : Arr R) (xa xb : List Nat)
    (hsa : a.shapesOk) (hsb : b.shapesOk)
    (hnA : xa.Nodup) (hA : ∀ i ∈ xa, i < a.ndim) (hnB : xb.Nodup) (hB : ∀ i ∈ xb, i < b.ndim)
    (hlen : xa.length = xb.length)
    (hX : X.sectors = a.sectors.map (fun s => permuted s (freeAxes a.ndim xa ++ xa)))
    (hY : Y.sectors = b.sectors.map (fun s => permuted s (xb ++ freeAxes b.ndim xb))) :
    tdKeys X.sectors Y.sectors (freeAxes a.ndim ((List.range a.ndim).drop (a.ndim - xa.length)))
        ((List.range a.ndim).drop (a.ndim - xa.length)) (List.range xa.length)
        (freeAxes b.ndim (List.range xa.length))
      = tdKeys a.sectors b.sectors (freeAxes a.ndim xa) xa xb (freeAxes b.ndim xb) := by
  unfold tdKeys
  rw [hX, hY]
  simp only [List.flatMap_map, List.filter_map, List.map_map]
  apply flatMap_congr_mem
  intro sa hsa'
  have hla := Arr.sector_length hsa hsa'
  have e : ∀ sb ∈ b.sectors,
      ((fun t => permuted t (List.range xa.length) ==
          permuted (permuted sa (freeAxes a.ndim xa ++ xa)) ((List.range a.ndim).drop (a.ndim - xa.length)))
        ∘ fun s => permuted s (xb ++ freeAxes b.ndim xb)) sb
      = (permuted sb xb == permuted sa xa) := by
    intro sb hsb'
    have hlb := Arr.sector_length hsb hsb'
    simp only [Function.comp]
    rw [left_newA hnA hA sa hla, hlen, right_newB hnB hB sb hlb]
  rw [List.filter_congr e]
  apply List.map_congr_left
  intro sb hsb'
  have hlb := Arr.sector_length hsb (List.mem_filter.mp hsb').1
  simp only [Function.comp]
  rw [left_free hnA hA sa hla, hlen, right_free hnB hB sb hlb]

/-- the frame of the core contraction, in terms of the ORIGINAL operands -/
structure CoreFrame (a b : Arr R) (xa xb : List Nat) (T : Arr R) : Prop where
  sym : T.sym = a.sym
  fermi : T.fermi = a.fermi
  charge : T.charge = a.sym.combine [a.charge, b.charge]
  phases : T.phases = []
  oddpos : T.oddpos = a.oddpos
  sectors : T.sectors
    = (tdKeys a.sectors b.sectors (freeAxes a.ndim xa) xa xb (freeAxes b.ndim xb)).eraseDups
  indices : T.indices = dropUnused (without a.indices xa ++ without b.indices xb) T.sectors
  shape : ∀ p ∈ T.blocks,
    p.2.shape = Arr.blockShapeD (without a.indices xa ++ without b.indices xb) p.1
  wf : ∀ p ∈ T.blocks, p.2.wf = true
  elem : ∀ s oL oR, oL.length = (freeAxes a.ndim xa).length →
    inBox (Arr.blockShapeD (without a.indices xa ++ without b.indices xb) s) (oL ++ oR) = true →
    T.elem s (oL ++ oR) = gradedContract a b xa xb s oL oR

/-- `X`, `Y` are what `tensordot_fermionic` hands to the abelian kernel: `a`, `b` in the canonical
    layout, their sector signs multiplying to the graded sign on aligned pairs, frames unchanged.
    Stated for variables `X`, `Y` so that the two consequences below never see the model's
    expression for them. -/
structure Handed (a b : Arr R) (xa xb : List Nat) (X Y : Arr R) (τA τB : Sector → Int) : Prop where
  pX : Prepared a X (freeAxes a.ndim xa ++ xa) τA
  pY : Prepared b Y (xb ++ freeAxes b.ndim xb) τB
  sign : ∀ sa ∈ a.sectors, ∀ sb ∈ b.sectors, permuted sb xb = permuted sa xa →
    τA sa * τB sb = gradedSign a b xa xb sa sb
  sym : X.sym = a.sym
  fermi : X.fermi = a.fermi
  chA : X.charge = a.charge
  chB : Y.charge = b.charge
  oddA : X.oddpos = a.oddpos
  oddB : Y.oddpos = b.oddpos

omit [SignRing R] in
theorem _root_.SymmModel.AssocP.coreFrame_signOk {a b T : Arr R} {xa xb : List Nat} (F : CoreFrame a b xa xb T) :
    Lazy.SignOk T :=
  ⟨by rw [F.sectors]; exact nodup_eraseDups _, by rw [F.phases]; exact Lazy.PhOk.nil⟩

theorem handed {a b : Arr R} {xa xb : List Nat} (h : AdmW a b xa xb) :
    ∃ τA τB, Handed a b xa xb (ValidP.tdF34 a b xa xb).1.phaseSync
      (ValidP.tdF34 a b xa xb).2.phaseSync τA τB := by
  obtain ⟨τA, τB, PX, PY, hsign⟩ :=
    prepared_pair_w a b xa xb h.va h.vb h.fa h.fb h.sym h.con h.nA h.ltA h.nB h.ltB
  have p := ValidP.tdF34_props a b xa xb ((ValidP.validB_iff a).mp h.va)
    ((ValidP.validB_iff b).mp h.vb) h.fa h.fb h.nA h.nB h.ltA h.ltB
  -- with `tdF34 a b xa xb` a variable, `t.1.phaseSync.sym = t.1.sym` etc. are checked at once
  generalize ValidP.tdF34 a b xa xb = t at PX PY p ⊢
  exact ⟨τA, τB, PX, PY, hsign, p.sa, p.fa.trans h.fa.symm, p.ca, p.cb, p.oa, p.ob⟩

section handed
variable {a b X Y : Arr R} {xa xb : List Nat} {τA τB : Sector → Int}

theorem Handed.ndim (H : Handed a b xa xb X Y τA τB) (h : AdmW a b xa xb) :
    X.ndim = a.ndim ∧ Y.ndim = b.ndim := by
  refine ⟨?_, ?_⟩
  · show X.indices.length = _
    rw [H.pX.indices]; exact left_lengths h.nA h.ltA a.indices rfl
  · show Y.indices.length = _
    rw [H.pY.indices]; exact right_lengths h.nB h.ltB b.indices rfl

theorem Handed.call (H : Handed a b xa xb X Y τA τB) (h : AdmW a b xa xb) :
    (do
      let c ← tensordotA X Y
        (.pair (((List.range a.ndim).drop (a.ndim - xa.length)).map Int.ofNat)
               ((List.range xa.length).map Int.ofNat)) .blockwise
      resolveCombinedOddpos X Y c)
      = (OddposP.mergeOddpos a.parity a.oddpos b.oddpos).map
          (finish (tensordotBlockwise X Y
            (freeAxes X.ndim ((List.range a.ndim).drop (a.ndim - xa.length)))
            ((List.range a.ndim).drop (a.ndim - xa.length)) (List.range xa.length)
            (freeAxes Y.ndim (List.range xa.length)))) := by
  obtain ⟨hXn, hYn⟩ := H.ndim h
  have hk : xa.length ≤ a.ndim := by have := freeAxes_length h.nA h.ltA; omega
  have hk' : xb.length ≤ b.ndim := by have := freeAxes_length h.nB h.ltB; omega
  have hlen := h.len
  rw [tensordotA_blockwise', ValidP.parseAxes_nat X.ndim Y.ndim _ _ (by simp; omega)
    (by intro i hi; rw [hXn]; exact List.mem_range.mp (List.mem_of_mem_drop hi))
    (by intro i hi; rw [hYn]; have := List.mem_range.mp hi; omega)]
  simp only [Except.map, bind, Except.bind]
  rw [OddposP.resolveCombinedOddpos_eq]
  have hXpar : X.parity = a.parity := by
    show Sym.parity X.sym X.charge = _
    rw [H.sym, H.chA]; rfl
  rw [hXpar, H.oddA, H.oddB]
  rfl

theorem Handed.frame (H : Handed a b xa xb X Y τA τB) (h : AdmW a b xa xb) :
    CoreFrame a b xa xb (tensordotBlockwise X Y
      (freeAxes X.ndim ((List.range a.ndim).drop (a.ndim - xa.length)))
      ((List.range a.ndim).drop (a.ndim - xa.length)) (List.range xa.length)
      (freeAxes Y.ndim (List.range xa.length))) := by
  obtain ⟨hXn, hYn⟩ := H.ndim h
  obtain ⟨PX, PY, hsign, hXsym, hXf, hXch, hYch, hXodd, _⟩ := H
  obtain ⟨ha, hb, _, _, _, hc, hnA, hnB, hA, hB⟩ := h
  have hlen := commonB_len hc
  have hsa := Arr.shapesOk_of_validB ha
  have hsb := Arr.shapesOk_of_validB hb
  have e1 : without X.indices ((List.range a.ndim).drop (a.ndim - xa.length)) = without a.indices xa := by
    rw [without_eq_permuted_freeAxes, without_eq_permuted_freeAxes]
    have : X.indices.length = a.ndim := hXn
    rw [this, PX.indices]
    exact left_free hnA hA a.indices rfl
  have e2 : without Y.indices (List.range xa.length) = without b.indices xb := by
    rw [without_eq_permuted_freeAxes, without_eq_permuted_freeAxes]
    have : Y.indices.length = b.ndim := hYn
    rw [this, PY.indices, hlen]
    exact right_free hnB hB b.indices rfl
  refine ⟨hXsym, hXf, ?_, PX.phases, hXodd, ?_, ?_, ?_, tensordotBlockwise_wf _ _ _ _ _ _, ?_⟩
  · show X.sym.combine [X.charge, Y.charge] = _
    rw [hXsym, hXch, hYch]
  · rw [tensordotBlockwise_sectors_eq, hXn, hYn,
      tdKeys_transport a b X Y xa xb hsa hsb hnA hA hnB hB hlen PX.sectors PY.sectors]
  · rw [tensordotBlockwise_indices, e1, e2]
  · rintro ⟨s, blk⟩ hp
    have := tensordotBlockwise_block_shape (a := X) (b := Y)
      (xa := (List.range a.ndim).drop (a.ndim - xa.length)) (xb := List.range xa.length)
      PX.shapes PY.shapes (s := s) (blk := blk) (by rw [hXn, hYn] at hp ⊢; exact hp)
    rw [e1, e2] at this
    exact this
  · intro s oL oR hoL ho
    exact prepared_contract a b X Y xa xb τA τB hsa hsb hnA hA hnB hB hlen
      (shapes_match_w hsa hsb hc hA hB) PX PY hsign s oL oR hoL ho

end handed

/-- **structure of the call**: blockwise `tensordot_fermionic` is the label sort followed by
    attaching labels and label sign to the core contraction -/
theorem _root_.SymmModel.AssocP.tensordotF_eq_core_w (a b : Arr R) (xa xb : List Nat)
    (h : AdmW a b xa xb) :
    a.tensordotF b (.pair (xa.map Int.ofNat) (xb.map Int.ofNat)) .blockwise
      = (OddposP.mergeOddpos a.parity a.oddpos b.oddpos).map (finish (coreT a b xa xb)) := by
  obtain ⟨τA, τB, H⟩ := handed h
  rw [ValidP.tensordotF_eq_nat a b xa xb .blockwise h.len h.ltA h.ltB]
  exact H.call h

theorem _root_.SymmModel.AssocP.coreT_frame_w (a b : Arr R) (xa xb : List Nat) (h : AdmW a b xa xb) :
    CoreFrame a b xa xb (coreT a b xa xb) := by
  obtain ⟨τA, τB, H⟩ := handed h
  exact H.frame h

omit [AddMonoid R] [Mul R] [Neg R] [SignRing R] in
/-- the block shape, in the un-pruned result frame, of the key made of the free parts of `sa`, `sb` -/
theorem frame_shape {a b : Arr R} {xa xb : List Nat} (hsa : a.shapesOk) (hsb : b.shapesOk)
    {sa sb : Sector} (hA : sa ∈ a.sectors) (hB : sb ∈ b.sectors) :
    Arr.blockShape? (without a.indices xa ++ without b.indices xb)
        (permuted sa (freeAxes a.ndim xa) ++ permuted sb (freeAxes b.ndim xb))
      = some (permuted (Arr.blockShapeD a.indices sa) (freeAxes a.ndim xa)
          ++ permuted (Arr.blockShapeD b.indices sb) (freeAxes b.ndim xb)) := by
  obtain ⟨shpA, hA1, hA2, _, _⟩ := shape_of_mem hsa hA
  obtain ⟨shpB, hB1, hB2, _, _⟩ := shape_of_mem hsb hB
  rw [without_eq_permuted_freeAxes, without_eq_permuted_freeAxes, hA2, hB2]
  exact blockShape?_append (blockShape?_permuted hA1 _ mem_freeAxes_lt)
    (blockShape?_permuted hB1 _ mem_freeAxes_lt)

omit [AddMonoid R] [Mul R] [Neg R] [SignRing R] in
theorem key_shape_length {a b : Arr R} {xa xb : List Nat} (hsa : a.shapesOk) (hsb : b.shapesOk)
    {s : Sector}
    (hs : s ∈ tdKeys a.sectors b.sectors (freeAxes a.ndim xa) xa xb (freeAxes b.ndim xb)) :
    (Arr.blockShapeD (without a.indices xa ++ without b.indices xb) s).length
      = (freeAxes a.ndim xa).length + (freeAxes b.ndim xb).length := by
  obtain ⟨x, hx, y, hy, _, rfl⟩ := mem_tdKeys.mp hs
  obtain ⟨shpA, _, hA2, hA3, _⟩ := shape_of_mem hsa hx
  obtain ⟨shpB, _, hB2, hB3, _⟩ := shape_of_mem hsb hy
  rw [Arr.blockShapeD, frame_shape hsa hsb hx hy, hA2, hB2]
  show (permuted shpA _ ++ permuted shpB _).length = _
  rw [List.length_append, permuted_length _ _ (by rw [hA3]; exact mem_freeAxes_lt),
    permuted_length _ _ (by rw [hB3]; exact mem_freeAxes_lt)]

theorem coreFrame_unique (a b : Arr R) (xa xb xa' xb' : List Nat) (T T' : Arr R)
    (hsa : a.shapesOk) (hsb : b.shapesOk)
    (F : CoreFrame a b xa xb T) (F' : CoreFrame a b xa' xb' T')
    (h1 : freeAxes a.ndim xa' = freeAxes a.ndim xa) (h2 : freeAxes b.ndim xb' = freeAxes b.ndim xb)
    (hk : tdKeys a.sectors b.sectors (freeAxes a.ndim xa') xa' xb' (freeAxes b.ndim xb')
      = tdKeys a.sectors b.sectors (freeAxes a.ndim xa) xa xb (freeAxes b.ndim xb))
    (hg : ∀ s oL oR, gradedContract a b xa' xb' s oL oR = gradedContract a b xa xb s oL oR) :
    T' = T := by
  have hwA : without a.indices xa' = without a.indices xa := by
    rw [without_eq_permuted_freeAxes, without_eq_permuted_freeAxes]
    show permuted a.indices (freeAxes a.ndim xa') = permuted a.indices (freeAxes a.ndim xa)
    rw [h1]
  have hwB : without b.indices xb' = without b.indices xb := by
    rw [without_eq_permuted_freeAxes, without_eq_permuted_freeAxes]
    show permuted b.indices (freeAxes b.ndim xb') = permuted b.indices (freeAxes b.ndim xb)
    rw [h2]
  have hsec : T'.sectors = T.sectors := by rw [F'.sectors, F.sectors, hk]
  have hskel : ∀ (U : Arr R) (xa0 xb0 : List Nat), CoreFrame a b xa0 xb0 U →
      U.blocks.map (fun p => (p.1, p.2.shape))
        = U.sectors.map (fun s => (s, Arr.blockShapeD (without a.indices xa0 ++ without b.indices xb0) s)) := by
    intro U xa0 xb0 FU
    unfold Arr.sectors
    rw [List.map_map]
    apply List.map_congr_left
    intro p hp
    simp only [Function.comp, FU.shape p hp]
  apply Lazy.arr_ext (by rw [F'.sym, F.sym]) (by rw [F'.fermi, F.fermi])
    (by rw [F'.indices, F.indices, hsec, hwA, hwB]) (by rw [F'.charge, F.charge]) ?_
    (by rw [F'.phases, F.phases]) (by rw [F'.oddpos, F.oddpos])
  apply blocks_ext_inBox
  · rw [hskel T' xa' xb' F', hskel T xa xb F, hsec, hwA, hwB]
  · have : akeys T'.blocks = T'.sectors := rfl
    rw [this, F'.sectors]; exact nodup_eraseDups _
  · exact F'.wf
  · exact F.wf
  · intro p hp off hoff
    rw [← Lazy.elem_eq_rawGet F'.phases, ← Lazy.elem_eq_rawGet F.phases]
    have hkey : p.1 ∈ tdKeys a.sectors b.sectors (freeAxes a.ndim xa') xa' xb' (freeAxes b.ndim xb') := by
      have : p.1 ∈ T'.sectors := List.mem_map.mpr ⟨p, hp, rfl⟩
      rw [F'.sectors] at this
      exact List.mem_eraseDups.mp this
    have hshape := F'.shape p hp
    have hlen := key_shape_length hsa hsb hkey
    rw [hshape] at hoff
    have hol : off.length = (freeAxes a.ndim xa').length + (freeAxes b.ndim xb').length := by
      rw [inBox_length hoff, hlen]
    have hsplit : off = off.take (freeAxes a.ndim xa').length ++ off.drop (freeAxes a.ndim xa').length :=
      (List.take_append_drop _ _).symm
    have htl : (off.take (freeAxes a.ndim xa').length).length = (freeAxes a.ndim xa').length := by
      rw [List.length_take]; omega
    rw [hsplit, F'.elem p.1 _ _ htl (by rw [← hsplit]; exact hoff),
      F.elem p.1 _ _ (by rw [htl, h1]) (by rw [← hsplit, ← hwA, ← hwB]; exact hoff), hg]

end core

section s4
variable {R : Type}

theorem zip_relist_subset {xa xb π : List Nat} (hlen : xa.length = xb.length)
    (hπ : π.Perm (List.range xa.length)) :
    ∀ p ∈ (permuted xa π).zip (permuted xb π), p ∈ xa.zip xb := by
  intro p hp
  have e : permuted (xa.zip xb) π = (permuted xa π).zip (permuted xb π) :=
    permuted_zipWith Prod.mk xa xb π hlen (mem_lt_of_perm hπ)
  exact mem_permuted (e ▸ hp)

theorem commonB_relist {a b : Arr R} {xa xb π : List Nat}
    (hc : contractibleCommonB a b xa xb = true) (hπ : π.Perm (List.range xa.length)) :
    contractibleCommonB a b (permuted xa π) (permuted xb π) = true := by
  have hlen := commonB_len hc
  unfold contractibleCommonB at hc ⊢
  simp only [Bool.and_eq_true, beq_iff_eq, List.all_eq_true] at hc ⊢
  exact ⟨by rw [permuted_length_perm xa π hπ, permuted_length_perm xb π (hlen ▸ hπ), hlen],
    fun p hp => hc.2 p (zip_relist_subset hlen hπ p hp)⟩

variable [AddCommMonoid R] [Mul R] [Neg R] [SignRing R]

theorem tdKeys_relist (a b : Arr R) (xa xb π : List Nat) (hsa : a.shapesOk) (hsb : b.shapesOk)
    (hnA : xa.Nodup) (hA : ∀ i ∈ xa, i < a.ndim) (hnB : xb.Nodup) (hB : ∀ i ∈ xb, i < b.ndim)
    (hlen : xa.length = xb.length) (hπ : π.Perm (List.range xa.length)) :
    tdKeys a.sectors b.sectors (freeAxes a.ndim (permuted xa π)) (permuted xa π) (permuted xb π)
        (freeAxes b.ndim (permuted xb π))
      = tdKeys a.sectors b.sectors (freeAxes a.ndim xa) xa xb (freeAxes b.ndim xb) := by
  rw [(relist_ok hnA hA hπ).2.2.2, (relist_ok hnB hB (hlen ▸ hπ)).2.2.2]
  unfold tdKeys
  apply flatMap_congr_mem
  intro sa hsa'
  congr 1
  apply List.filter_congr
  intro sb hsb'
  have hla := Arr.sector_length hsa hsa'
  have hlb := Arr.sector_length hsb hsb'
  have := aligned_relist sa sb xa xb π (by rw [hla]; exact hA) (by rw [hlb]; exact hB) hlen hπ
  rw [Bool.eq_iff_iff]
  simpa using this

theorem _root_.SymmModel.AssocP.AdmW.relist {a b : Arr R} {xa xb π : List Nat} (h : AdmW a b xa xb)
    (hπ : π.Perm (List.range xa.length)) : AdmW a b (permuted xa π) (permuted xb π) := by
  have hπb : π.Perm (List.range xb.length) := h.len ▸ hπ
  exact ⟨h.va, h.vb, h.fa, h.fb, h.sym, commonB_relist h.con hπ,
    (relist_ok h.nA h.ltA hπ).1, (relist_ok h.nB h.ltB hπb).1,
    (relist_ok h.nA h.ltA hπ).2.1, (relist_ok h.nB h.ltB hπb).2.1⟩

/-- **S4** (blockwise mode, weak guard `AdmW`).  Listing the contracted axis pairs in another order gives
    the IDENTICAL result (same `Except` value: same blocks in the same order, same tables, labels and
    pending signs):
    both calls sort the same labels, and their cores have the same frame. -/
theorem _root_.SymmModel.AssocP.tdotF_axes_perm_eq_w (a b : Arr R) (xa xb π : List Nat)
    (h : AdmW a b xa xb) (hπ : π.Perm (List.range xa.length)) :
    a.tensordotF b (.pair ((permuted xa π).map Int.ofNat) ((permuted xb π).map Int.ofNat)) .blockwise
      = a.tensordotF b (.pair (xa.map Int.ofNat) (xb.map Int.ofNat)) .blockwise := by
  have h' := h.relist hπ
  have hsa := Arr.shapesOk_of_validB h.va
  have hsb := Arr.shapesOk_of_validB h.vb
  rw [tensordotF_eq_core_w a b _ _ h', tensordotF_eq_core_w a b xa xb h,
    coreFrame_unique a b xa xb _ _ _ _ hsa hsb (coreT_frame_w a b xa xb h) (coreT_frame_w a b _ _ h')
      (relist_ok h.nA h.ltA hπ).2.2.2 (relist_ok h.nB h.ltB (h.len ▸ hπ)).2.2.2
      (tdKeys_relist a b xa xb π hsa hsb h.nA h.ltA h.nB h.ltB h.len hπ)
      (fun s oL oR =>
        gradedContract_relist a b xa xb π h.sym hsa hsb h.nA h.ltA h.nB h.ltB h.len hπ s oL oR)]

end s4

end RoutesP
end SymmModel
