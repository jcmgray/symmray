/-
  SymmModel.Proofs.TwoStepFrame — "several pairs at once or one after another" (C04): sector set, index
  tables, leg directions and block shapes of the two-step result against the one-step result.
  Namespace `SymmModel.TwoStepP`.
-/
import SymmModel.Proofs.TwoStepFinal

namespace SymmModel
namespace TwoStepP
open TdotP GradedP RoutesP AssocP KoszulP Assoc3P
open Lazy (sgnI einOrder einOperand transposedElem)
set_option linter.unusedSectionVars false

variable {R : Type} [AddCommMonoid R] [Mul R] [Neg R] [SignRing R]
variable {a b c e : Arr R} {xa xb ya yb : List Nat} {ph : Int}

/-- the two-step result as the abelian einsum of the transposed, synchronised intermediate -/
theorem einsum_form (C : Ctx a b c xa xb ya yb ph)
    (h2 : c.einsumF (tsLhs a.ndim b.ndim xa xb ya yb) (tsRhs a.ndim b.ndim xa xb ya yb) = .ok e) :
    e.indices = permuted c.indices (tsRhs a.ndim b.ndim xa xb ya yb)
    ∧ e.sectors = ((c.sectors.filter (fun s =>
          einKeep (dblFront (tsN a.ndim b.ndim xa xb) ya.length ++ tsRhs a.ndim b.ndim xa xb ya yb)
            (tsRhs a.ndim b.ndim xa xb ya yb) (permuted s (tsOrder a b.ndim xa xb ya yb)))).map
        (fun s => permuted (permuted s (tsOrder a b.ndim xa xb ya yb))
          ((List.range (tsRhs a.ndim b.ndim xa xb ya yb).length).map (2 * ya.length + ·)))).eraseDups := by
  obtain ⟨hlen, hperm, htp⟩ := C.einsum_data
  rw [Lazy.einsumF_eq, if_neg (by simp [hlen]), einsumA_eq _ _ _ _ hperm htp] at h2
  obtain rfl := Except.ok.inj h2
  constructor
  · show permuted (einOperand c _ _).indices _ = _
    rw [C.opIdx, KoszulP.permuted_permuted _ _ _ (C.ordLt _ C.I.ndim)]
    unfold compose
    rw [C.permOrd]
  · show akeys (accum (Blk.zipWith (· + ·)) (einTerms (einOperand c _ _) _ _ _)) = _
    rw [einsumA_sectors, Lazy.einOperand_sectors _ _ (Lazy.Full.of_valid C.I.valid C.I.fermi), C.lhsEq,
      C.ordEq, List.filter_map, List.map_map]
    rfl

theorem two_step_sectors (C : Ctx a b c xa xb ya yb ph) {c' : Arr R}
    (I' : Inter a b (xa ++ ya) (xb ++ yb) c' ph)
    (h2 : c.einsumF (tsLhs a.ndim b.ndim xa xb ya yb) (tsRhs a.ndim b.ndim xa xb ya yb) = .ok e)
    (s : Sector) : s ∈ e.sectors ↔ s ∈ c'.sectors := by
  rw [(einsum_form C h2).2, List.mem_eraseDups, I'.mem_sectors]
  simp only [List.mem_map, List.mem_filter]
  constructor
  · rintro ⟨s0, ⟨hs0, hk⟩, rfl⟩
    obtain ⟨sa, hsa, sb, hsb, halx, rfl⟩ := C.I.mem_sectors.mp hs0
    have haly := (C.keepIff hsa hsb).mp hk
    exact ⟨sa, hsa, sb, hsb, (C.alignIff hsa hsb).mpr ⟨halx, haly⟩, C.keptPart hsa hsb⟩
  · rintro ⟨sa, hsa, sb, hsb, hal, rfl⟩
    have h := (C.alignIff hsa hsb).mp hal
    exact ⟨_, ⟨C.I.mem_sectors.mpr ⟨sa, hsa, sb, hsb, h.1, rfl⟩, (C.keepIff hsa hsb).mpr h.2⟩,
      C.keptPart hsa hsb⟩

theorem Ctx.rhsLt (C : Ctx a b c xa xb ya yb ph) :
    ∀ x ∈ tsRhs a.ndim b.ndim xa xb ya yb, x < c.indices.length := by
  intro x hx
  have := tsRhs_lt a.ndim b.ndim xa xb ya yb x hx
  have := C.I.ndim
  show x < c.ndim
  unfold tsN at *; omega

theorem two_step_shape (C : Ctx a b c xa xb ya yb ph) {c' : Arr R}
    (I' : Inter a b (xa ++ ya) (xb ++ yb) c' ph)
    (h2 : c.einsumF (tsLhs a.ndim b.ndim xa xb ya yb) (tsRhs a.ndim b.ndim xa xb ya yb) = .ok e)
    (s : Sector) (hs : s ∈ c'.sectors) :
    Arr.blockShapeD e.indices s = Arr.blockShapeD c'.indices s
    ∧ Arr.blockShapeD c'.indices s
      = Arr.blockShapeD (without a.indices (xa ++ ya) ++ without b.indices (xb ++ yb)) s := by
  obtain ⟨sa, hsa, sb, hsb, hal, rfl⟩ := I'.mem_sectors.mp hs
  have hsA := Arr.shapesOk_of_validB C.W1.va
  have hsB := Arr.shapesOk_of_validB C.W1.vb
  have h1 := I'.shape hsA hsB hsa hsb hal
  have h0 := blockShape?_permuted (C.I.shape hsA hsB hsa hsb (C.alX hsa hsb hal))
    (tsRhs a.ndim b.ndim xa xb ya yb) C.rhsLt
  obtain ⟨shA, _, eA, lA, _⟩ := shape_of_mem hsA hsa
  obtain ⟨shB, _, eB, lB, _⟩ := shape_of_mem hsB hsb
  rw [permuted_tsRhs C.hA C.hB sa sb (C.lenA hsa hsb) (C.lenB hsa hsb),
    permuted_tsRhs C.hA C.hB _ _ (by rw [eA]; exact lA) (by rw [eB]; exact lB),
    ← (einsum_form C h2).1] at h0
  exact ⟨by rw [Arr.blockShapeD, Arr.blockShapeD, h0, h1],
    by rw [Arr.blockShapeD, Arr.blockShapeD, h1, frame_shape hsA hsB hsa hsb]⟩

theorem Ctx.rhsLen' (C : Ctx a b c xa xb ya yb ph) {c' : Arr R}
    (I' : Inter a b (xa ++ ya) (xb ++ yb) c' ph) :
    (tsRhs a.ndim b.ndim xa xb ya yb).length = c'.ndim := by
  rw [I'.ndim, tsRhs_length_free C.hA C.hB]

theorem two_step_ndim (C : Ctx a b c xa xb ya yb ph) {c' : Arr R}
    (I' : Inter a b (xa ++ ya) (xb ++ yb) c' ph)
    (h2 : c.einsumF (tsLhs a.ndim b.ndim xa xb ya yb) (tsRhs a.ndim b.ndim xa xb ya yb) = .ok e) :
    e.ndim = c'.ndim := by
  show e.indices.length = _
  rw [(einsum_form C h2).1, permuted_length _ _ C.rhsLt, C.rhsLen' I']

/-- leg `j` of the two-step result and leg `j` of the one-step result are prunings of one index `ix`
    (so they have the same direction, and every charge either table keeps has the size `ix` gives it);
    the proof takes for `ix` a leg of an operand, the statement only says that one exists -/
theorem two_step_legs (C : Ctx a b c xa xb ya yb ph) {c' : Arr R}
    (I' : Inter a b (xa ++ ya) (xb ++ yb) c' ph)
    (h2 : c.einsumF (tsLhs a.ndim b.ndim xa xb ya yb) (tsRhs a.ndim b.ndim xa xb ya yb) = .ok e)
    (j : Nat) (hj : j < c'.ndim) :
    ∃ ix : Index, Pruned (e.indices.getD j default) ix ∧ Pruned (c'.indices.getD j default) ix := by
  have hjr : j < (tsRhs a.ndim b.ndim xa xb ya yb).length := by rw [C.rhsLen' I']; exact hj
  have hU : ∀ x ∈ tsRhs a.ndim b.ndim xa xb ya yb,
      x < (without a.indices xa ++ without b.indices xb).length := by
    intro x hx
    have := C.rhsLt x hx
    rwa [C.I.indices, dropUnused_length] at this
  -- both are prunings of leg `j` of the un-pruned frame of the free legs: `e`'s leg is leg
  -- `tsRhs[j]` of the intermediate, which `tsRhs` reads from that frame
  refine ⟨(without a.indices (xa ++ ya) ++ without b.indices (xb ++ yb)).getD j default, ?_, ?_⟩
  · have hp : permuted (without a.indices xa ++ without b.indices xb) (tsRhs a.ndim b.ndim xa xb ya yb)
        = without a.indices (xa ++ ya) ++ without b.indices (xb ++ yb) := by
      rw [without_eq_permuted_freeAxes, without_eq_permuted_freeAxes, without_eq_permuted_freeAxes,
        without_eq_permuted_freeAxes]
      exact permuted_tsRhs C.hA C.hB a.indices b.indices rfl rfl
    have h := dropUnused_getD_pruned (without a.indices xa ++ without b.indices xb) c.sectors _
      (hU _ (getD_mem _ j 0 hjr))
    rw [← C.I.indices, ← getD_permuted_ax _ _ hU j hjr default, hp] at h
    rw [(einsum_form C h2).1, getD_permuted_ax c.indices _ C.rhsLt j hjr default]
    exact h
  · have h := dropUnused_getD_pruned (without a.indices (xa ++ ya) ++ without b.indices (xb ++ yb))
      c'.sectors j (by
        have : j < c'.indices.length := hj
        rwa [I'.indices, dropUnused_length] at this)
    rwa [← I'.indices] at h

end TwoStepP
end SymmModel
