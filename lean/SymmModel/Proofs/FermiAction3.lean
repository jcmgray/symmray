/-
  SymmModel.Proofs.FermiAction3 — the Fock matrix behind the operator array (property C18):
  `scaleInt` on signs is `sgnI`; dense form = D·H, the action matrix D·H·D and its Hermiticity;
  the reduction `symRed` of integer charges and `ChargeMaps` ⇒ nothing discarded; the one-site case
  (`siteSign_one`, `opEntry_one_eq_fock`).
-/
import SymmModel.Proofs.FermiAction2

namespace SymmModel
namespace FermiActP
open FermiOpsP
open Lazy (sgnI)

section fock
variable {α : Type} [AddCommGroup α]

/-- through this the laws of signs in the operator files are those of the `sgnI` family
    (Proofs/LazyLemmas, Proofs/Graded) -/
theorem scaleInt_eq_sgnI {σ : Int} (hσ : σ = 1 ∨ σ = -1) (x : α) : scaleInt σ x = sgnI σ x := by
  rcases hσ with rfl | rfl <;> rfl

theorem scaleInt_scaleInt (σ : Int) (hσ : σ = 1 ∨ σ = -1) (x : α) :
    scaleInt σ (scaleInt σ x) = x := by
  have : Lazy.LawfulNeg α := ⟨neg_neg, neg_zero⟩
  rw [scaleInt_eq_sgnI hσ, scaleInt_eq_sgnI hσ, Lazy.sgnI_sgnI]

theorem siteSign_cases (bases : List (List Word)) (is : List Nat) :
    siteSign bases is = 1 ∨ siteSign bases is = -1 := sgn_cases _


/-- the documented bra `⟨i₁|⟨i₂|…` is `τ(i)` times the proper bra `(|i₁⟩|i₂⟩…)†` -/
theorem vev_bra_proper (bases : List (List Word)) (hd : SitesDisjoint bases) (is : List Nat)
    (w : Word) :
    vev (braOf bases is ++ w) = siteSign bases is * vev (dagWord (ketOf bases is) ++ w) := by
  rw [braOf_eq, ketOf_eq, dagWord_flatten, ← braBlocks_eq_map]
  have r := vev_reverse_blocks (braBlocks bases is) (pairwise_braBlocks bases hd is) [] w
  have l1 : (braBlocks bases is).map List.length = (ketBlocks bases is).map List.length := by
    rw [braBlocks_eq_map, List.map_map]
    congr 1
    funext w; exact dagWord_length w
  rw [l1] at r
  simpa [siteSign] using r

theorem fockMatrixAt_eq (terms : List (α × Word)) (bases : List (List Word)) (is js : List Nat) :
    fockMatrixAt terms bases is js
      = sumA (terms.map (fun ct =>
          scaleInt (vev (dagWord (ketOf bases is) ++ ct.2 ++ ketOf bases js)) ct.1)) := rfl

/-- **dense form = D·H**: the specified element is `τ(i)` times the proper Fock matrix element -/
theorem specAt_eq_DH (terms : List (α × Word)) (bases : List (List Word)) (hd : SitesDisjoint bases)
    (is js : List Nat) (hi : is.length = bases.length)
    (hbox : inBox (bases.map List.length ++ bases.map List.length) (is ++ js) = true) :
    specAt terms bases (is ++ js)
      = scaleInt (siteSign bases is) (fockMatrixAt terms bases is js) := by
  rw [specAt_eq, if_pos hbox, List.take_left' hi, List.drop_left' hi, fockMatrixAt_eq]
  have hσ := siteSign_cases bases is
  have h := scale_sum_cancel (α := α) (siteSign bases is) hσ terms
    (fun ct => vev (dagWord (ketOf bases is) ++ ct.2 ++ ketOf bases js)) (fun ct => vev_cases _)
    (fun ct => ct.1)
  rw [← h, scaleInt_scaleInt _ hσ]
  congr 1
  apply List.map_congr_left
  intro ct _
  simp only [List.append_assoc]
  rw [vev_bra_proper bases hd is]

theorem fockMatrixAt_hermitian (cj : α → α) (hcj : ∀ a b, cj (a + b) = cj a + cj b)
    (terms : List (α × Word)) (bases : List (List Word))
    (hclosed : (terms.map (fun ct => (cj ct.1, dagWord ct.2))).Perm terms) (is js : List Nat) :
    fockMatrixAt terms bases is js = cj (fockMatrixAt terms bases js is) := by
  rw [fockMatrixAt_eq, fockMatrixAt_eq, cj_sumA cj hcj, List.map_map]
  simp only [Function.comp_def, cj_scaleInt cj hcj]
  have e : ∀ ct : α × Word, vev (dagWord (ketOf bases js) ++ ct.2 ++ ketOf bases is)
      = vev (dagWord (ketOf bases is) ++ dagWord ct.2 ++ ketOf bases js) := by
    intro ct
    rw [← vev_dagWord, dagWord_append, dagWord_append, dagWord_dagWord, List.append_assoc]
  simp only [e]
  have := sumA_perm ((hclosed.map (fun ct : α × Word =>
    scaleInt (vev (dagWord (ketOf bases is) ++ ct.2 ++ ketOf bases js)) ct.1)))
  rw [List.map_map] at this
  exact this.symm

/-- the matrix by which the operator array acts on state tensors: `D·H·D`, `D = diag τ` -/
def actMatrix (terms : List (α × Word)) (bases : List (List Word)) (is js : List Nat) : α :=
  scaleInt (siteSign bases is * siteSign bases js) (fockMatrixAt terms bases is js)

/-- the body of `C18.hermitian_action`: Hermitian term sets give a Hermitian action matrix `D·H·D` -/
theorem actMatrix_hermitian (cj : α → α) (hcj : ∀ a b, cj (a + b) = cj a + cj b)
    (terms : List (α × Word)) (bases : List (List Word))
    (hclosed : (terms.map (fun ct => (cj ct.1, dagWord ct.2))).Perm terms) (is js : List Nat) :
    actMatrix terms bases is js = cj (actMatrix terms bases js is) := by
  unfold actMatrix
  rw [cj_scaleInt cj hcj, ← fockMatrixAt_hermitian cj hcj terms bases hclosed is js, Int.mul_comm]

theorem actMatrix_one (terms : List (α × Word)) (b : List Word) (i j : Nat) :
    actMatrix terms [b] [i] [j] = fockMatrixAt terms [b] [i] [j] := by
  unfold actMatrix siteSign
  simp [ketBlocks, pairCount, sumN, sgn, scaleInt]

end fock

/-- the group element carried by integer particle numbers `(x, y)` -/
def symRed : Sym → Int × Int → Charge
  | .Z2, p => (p.1 % 2, 0)
  | .Z4, p => (p.1 % 4, 0)
  | .U1, p => (p.1, 0)
  | .Z2Z2, p => (p.1 % 2, p.2 % 2)
  | .U1U1, p => p

def stateCharge (q1 q2 : Int → Int) (w : Word) : Int × Int := (wordCharge q1 w, wordCharge q2 w)

/-- every index map labels every basis state with the group element of its charges -/
def ChargeMaps (sym : Sym) (q1 q2 : Int → Int) (bases : List (List Word))
    (maps : List (List Charge)) : Prop :=
  maps = bases.map (fun b => b.map (fun w => symRed sym (stateCharge q1 q2 w)))

theorem symRed_eq_red (sym : Sym) (p : Int × Int) : symRed sym p = sym.red p := by
  cases sym <;> simp only [symRed, Sym.red, Sym.mod1, Sym.mod2, Int.emod_zero, Int.emod_one]

theorem symRed_zero (sym : Sym) : symRed sym (0, 0) = sym.zero := by
  rw [symRed_eq_red, Sym.zero_eq]
  simp only [Sym.red, Int.zero_emod]

/-! `symRed` is a homomorphism from `ℤ²` onto the charge group: it turns sums into `combine` and
    negation into `sign · true`. -/

open Sym in
theorem combine_map_symRed (sym : Sym) (X : List (Int × Int)) :
    sym.combine (X.map (symRed sym)) = symRed sym (sum1 X, sum2 X) := by
  induction X with
  | nil => rw [symRed_eq_red]; exact combine_eq sym []
  | cons x X ih =>
    rw [List.map_cons, combine_cons, ih]
    simp only [symRed_eq_red]
    sym_mod

open Sym in
theorem sign_symRed (sym : Sym) (p : Int × Int) :
    sym.sign (symRed sym p) true = symRed sym (-p.1, -p.2) := by
  simp only [symRed_eq_red]
  rw [sign_true sym _ ((valid_iff sym _).mpr (red_red sym p))]
  simp only [red, neg_emod_emod]

open Sym in
theorem sum_map_neg (Y : List (Int × Int)) :
    sum1 (Y.map (fun p => (-p.1, -p.2))) = - sum1 Y ∧ sum2 (Y.map (fun p => (-p.1, -p.2))) = - sum2 Y := by
  induction Y with
  | nil => exact ⟨rfl, rfl⟩
  | cons y Y ih => simp only [List.map_cons, sum1_cons, sum2_cons, ih.1, ih.2]; omega

open Sym in
/-- kets enter with their charge, bras with the opposite one -/
theorem sum_red (sym : Sym) (X Y : List (Int × Int)) :
    sym.combine (X.map (fun p => sym.sign (symRed sym p) false)
        ++ Y.map (fun p => sym.sign (symRed sym p) true))
      = symRed sym (sum1 X - sum1 Y, sum2 X - sum2 Y) := by
  have hX : X.map (fun p => sym.sign (symRed sym p) false) = X.map (symRed sym) :=
    List.map_congr_left fun p _ => sign_false sym _
  have hY : Y.map (fun p => sym.sign (symRed sym p) true)
      = (Y.map (fun p => (-p.1, -p.2))).map (symRed sym) := by
    rw [List.map_map]; exact List.map_congr_left fun p _ => sign_symRed sym p
  rw [hX, hY, ← List.map_append, combine_map_symRed, sum1_append, sum2_append,
    (sum_map_neg Y).1, (sum_map_neg Y).2, ← Int.sub_eq_add_neg, ← Int.sub_eq_add_neg]

theorem wordCharge_flatten1 (q : Int → Int) (f : Word → Int) (Bs : List Word) :
    wordCharge q Bs.flatten = Sym.sum1 (Bs.map (fun w => (wordCharge q w, f w))) := by
  induction Bs with
  | nil => rfl
  | cons B Bs ih => rw [List.flatten_cons, wordCharge_append, ih, List.map_cons, Sym.sum1_cons]

theorem wordCharge_flatten2 (q : Int → Int) (f : Word → Int) (Bs : List Word) :
    wordCharge q Bs.flatten = Sym.sum2 (Bs.map (fun w => (f w, wordCharge q w))) := by
  induction Bs with
  | nil => rfl
  | cons B Bs ih => rw [List.flatten_cons, wordCharge_append, ih, List.map_cons, Sym.sum2_cons]

theorem labelsAt_chargeMaps {sym : Sym} {q1 q2 : Int → Int} {bases : List (List Word)}
    {maps : List (List Charge)} (h : ChargeMaps sym q1 q2 bases maps) (is : List Nat) :
    labelsAt maps is
      = (ketBlocks bases is).map (fun w => symRed sym (stateCharge q1 q2 w)) := by
  unfold ChargeMaps at h
  subst h
  unfold labelsAt ketBlocks
  rw [List.zipWith_map_left, List.map_zipWith]
  congr 1
  funext b i
  have h0 : symRed sym (stateCharge q1 q2 []) = (0, 0) := (symRed_zero sym).trans (Sym.zero_eq sym)
  rw [← h0, List.getD_eq_getElem?_getD, List.getD_eq_getElem?_getD, List.getElem?_map]
  cases b[i]? <;> rfl

theorem zipWith_replicate {β γ δ : Type} (f : β → γ → δ) (l : List β) (x : γ) :
    List.zipWith f l (List.replicate l.length x) = l.map (fun a => f a x) := by
  induction l with
  | nil => rfl
  | cons a l ih => simp [List.replicate_succ, ih]

section nd
variable {α : Type} [Ring α] [DecidableEq α]

/-- **nothing is discarded**: when the index maps are the charge maps of a charge assignment
    `(q₁, q₂)` of the modes for which every term is neutral, the conservation mask of the
    operator array is vacuous — every entry is the specified element. -/
theorem opEntry_eq_specAt (terms : List (α × Word)) (bases : List (List Word)) (sym : Sym)
    (maps : List (List Charge)) (q1 q2 : Int → Int)
    (hcm : ChargeMaps sym q1 q2 bases maps)
    (hn1 : ∀ ct ∈ terms, wordCharge q1 ct.2 = 0) (hn2 : ∀ ct ∈ terms, wordCharge q2 ct.2 = 0)
    (idx : List Nat) :
    opEntry terms bases sym maps idx = specAt terms bases idx := by
  unfold opEntry
  split
  · rfl
  · rename_i hmask
    by_contra hne
    have hne' : specAt terms bases idx ≠ 0 := fun e => hne e.symm
    apply hmask
    have hbox : inBox (bases.map List.length ++ bases.map List.length) idx = true := by
      by_contra hb
      rw [specAt_eq, if_neg hb] at hne'
      exact hne' rfl
    have hlen : idx.length = bases.length + bases.length := by
      have := inBox_length hbox; simpa using this
    have c1 := specAt_charge q1 terms bases hn1 idx hne'
    have c2 := specAt_charge q2 terms bases hn2 idx hne'
    have hmaps : maps.length = bases.length := by rw [hcm]; simp
    have htake : (idx.take bases.length).length = bases.length := by simp; omega
    have hsplit : idx = idx.take bases.length ++ idx.drop bases.length := (List.take_append_drop _ _).symm
    have hlab : labelsAt (maps ++ maps) idx
        = labelsAt maps (idx.take bases.length) ++ labelsAt maps (idx.drop bases.length) := by
      conv => lhs; rw [hsplit]
      unfold labelsAt
      rw [List.zipWith_append (by rw [hmaps, htake])]
    have hkl : ∀ is : List Nat, is.length = bases.length → (ketBlocks bases is).length = bases.length := by
      intro is h; simp [ketBlocks, h]
    have hdl : (idx.drop bases.length).length = bases.length := by simp; omega
    rw [hlab, labelsAt_chargeMaps hcm, labelsAt_chargeMaps hcm]
    unfold Arr.sectorCharge opDuals
    rw [List.zipWith_append (by simp [hkl _ htake])]
    have e1 := zipWith_replicate (fun c d => sym.sign c d)
      ((ketBlocks bases (idx.take bases.length)).map (fun w => symRed sym (stateCharge q1 q2 w))) false
    have e2 := zipWith_replicate (fun c d => sym.sign c d)
      ((ketBlocks bases (idx.drop bases.length)).map (fun w => symRed sym (stateCharge q1 q2 w))) true
    simp only [List.length_map, hkl _ htake, hkl _ hdl] at e1 e2
    rw [e1, e2, List.map_map, List.map_map]
    have := sum_red sym ((ketBlocks bases (idx.take bases.length)).map (stateCharge q1 q2))
      ((ketBlocks bases (idx.drop bases.length)).map (stateCharge q1 q2))
    simp only [List.map_map] at this
    simp only [Function.comp_def]
    simp only [Function.comp_def] at this
    rw [this]
    rw [ketOf_eq, ketOf_eq, wordCharge_flatten1 q1 (wordCharge q2), wordCharge_flatten1 q1 (wordCharge q2)] at c1
    rw [ketOf_eq, ketOf_eq, wordCharge_flatten2 q2 (wordCharge q1), wordCharge_flatten2 q2 (wordCharge q1)] at c2
    unfold stateCharge
    rw [c1, c2, Int.sub_self, Int.sub_self, symRed_zero]
    exact beq_self_eq_true _

end nd

section one
variable {α : Type} [Ring α] [DecidableEq α]

theorem sitesDisjoint_one (b : List Word) : SitesDisjoint [b] := by
  unfold SitesDisjoint; simp

theorem siteSign_one (b : List Word) (i : Nat) : siteSign [b] [i] = 1 := by
  simp [siteSign, ketBlocks, pairCount, sumN, sgn]

theorem opEntry_one_eq_fock (terms : List (α × Word)) (b : List Word) (sym : Sym) (m : List Charge)
    (q1 q2 : Int → Int) (hcm : ChargeMaps sym q1 q2 [b] [m])
    (hn1 : ∀ ct ∈ terms, wordCharge q1 ct.2 = 0) (hn2 : ∀ ct ∈ terms, wordCharge q2 ct.2 = 0)
    (i j : Nat) (hi : i < b.length) (hj : j < b.length) :
    opEntry terms [b] sym [m] [i, j] = fockMatrixAt terms [b] [i] [j] := by
  rw [opEntry_eq_specAt terms [b] sym [m] q1 q2 hcm hn1 hn2]
  have := specAt_eq_DH terms [b] (sitesDisjoint_one b) [i] [j] rfl (by simp [inBox, hi, hj])
  rw [siteSign_one, scaleInt_one] at this
  exact this

end one

end FermiActP
end SymmModel
