/-
  SymmModel.Proofs.FuseMulti3 — arbitrary groups, insert strategy: the regions of the stored
  blocks inside the fused blocks are pairwise disjoint; invariant of the fused blocks (`fusedBlocksM_inv`);
  the fused array `fusedArrM` and the closed form `fuseCore_multi_eq`.
-/
import SymmModel.Proofs.FuseMulti2
namespace SymmModel
namespace FuseP

variable {R : Type}

section Multi
variable {a : Arr R} {groups : List (List Nat)}

variable (a groups) in
/-- start of a stored block along the axis of group `g` -/
def stM (sb : Sector × Blk R) (g : Nat) : Nat := startM a groups sb ((giM a groups).position + g)

theorem stM_of_single (sb : Sector × Blk R) {g : Nat} (hg : g < groups.length) (hm : multiB groups g = false) :
    stM a groups sb g = 0 :=
  startM_of_not_multi sb (by rw [axMulti_mid hg, hm])

theorem singleM (hok : GroupsAdm groups a.ndim) {g : Nat} (hg : g < groups.length) (hm : multiB groups g = false) :
    ∃ ax, groups[g]? = some [ax] ∧ groups.getD g [] = [ax]
      ∧ (∀ sb : Sector × Blk R, cM (a := a) (groups := groups) sb g = sb.1.getD ax (0, 0))
      ∧ (∀ sb : Sector × Blk R, dM (a := a) (groups := groups) sb g = sb.2.shape.getD ax 0)
      ∧ (∀ sb : Sector × Blk R, stM a groups sb g = 0)
      ∧ ixM a groups g = a.indices.getD ax default := by
  have hgg : groups[g]? = some groups[g] := List.getElem?_eq_getElem hg
  have hlen : groups[g].length = 1 := by
    by_contra hne
    rw [multiB_iff.2 ⟨_, hgg, hne⟩] at hm; cases hm
  match hgx : groups[g], hlen with
  | [ax], _ =>
    rw [hgx] at hgg
    refine ⟨ax, hgg, by simp [List.getD_eq_getElem?_getD, hgg], fun sb => cM_single hok hgg rfl sb,
      fun sb => dM_single hok hgg rfl sb, fun sb => ?_, ixM_single hok hgg rfl⟩
    exact stM_of_single sb hg hm

theorem stored_tableM (hv : ValidArr a) (hok : GroupsAdm groups a.ndim) {g : Nat} {gaxes : List Nat}
    (hg : groups[g]? = some gaxes) (hlen : gaxes.length ≠ 1) {sb : Sector × Blk R} (hsb : sb ∈ a.blocks) :
    ∃ e D, alookup (extsM a groups g) (cM (a := a) (groups := groups) sb g) = some e
      ∧ startOf e (ssM (a := a) (groups := groups) sb g)
          = some (stM a groups sb g, dM (a := a) (groups := groups) sb g)
      ∧ (ixM a groups g).sizeOf? (cM (a := a) (groups := groups) sb g) = some D
      ∧ sumN (e.map (·.2)) = D ∧ DM a groups sb g = D := by
  obtain ⟨e, D, st, h1, h2, h3, h4⟩ := stored_in_tableM hv hok hg hlen hsb
  have hgl := getElem?_lt hg
  have hm : multiB groups g = true := multiB_iff.2 ⟨gaxes, hg, hlen⟩
  have : stM a groups sb g = st := by
    simp only [stM, startM, axMulti_mid hgl, hm, if_true, Nat.add_sub_cancel_left, h1, Option.getD_some, h2]
  rw [this]
  exact ⟨e, D, h1, h2, h3, h4, by simp [DM, h3]⟩

theorem startsM_getD (sb : Sector × Blk R) {ax : Nat} (h : ax < ndimM a groups) :
    (startsM a groups sb).getD ax 0 = startM a groups sb ax := by
  simp only [startsM]; exact getD_range_map _ _ _ _ h

theorem BshM_getD (sb : Sector × Blk R) {ax : Nat} (h : ax < ndimM a groups) :
    (BshM a groups sb).getD ax 0 = if axMulti a groups ax then DM a groups sb (ax - (giM a groups).position)
      else (planM a groups sb).newShape.getD ax 0 := by
  simp only [BshM]; exact getD_range_map _ _ _ _ h

theorem axMulti_cases {ax : Nat} (h : axMulti a groups ax = true) :
    ∃ g, g < groups.length ∧ ax = (giM a groups).position + g ∧ multiB groups g = true := by
  simp only [axMulti, Bool.and_eq_true, decide_eq_true_eq] at h
  exact ⟨ax - (giM a groups).position, by omega, by omega, h.2⟩

theorem regionM (hok : GroupsAdm groups a.ndim) (sb : Sector × Blk R) {i : List Nat}
    (hi : inBox (BshM a groups sb) i = true) :
    inRegion (startsM a groups sb) (planM a groups sb).newShape i = true
      ↔ ∀ g, g < groups.length → multiB groups g = true →
          stM a groups sb g ≤ i.getD ((giM a groups).position + g) 0
          ∧ i.getD ((giM a groups).position + g) 0 < stM a groups sb g + dM (a := a) (groups := groups) sb g := by
  have hb := inBox_iff.1 hi
  rw [BshM_length] at hb
  rw [inRegion_iff (n := ndimM a groups) hb.1 (by simp [startsM]) (planM_newShape_length hok sb)]
  constructor
  · intro h g hg hm
    have := h ((giM a groups).position + g) (by simp only [ndimM]; omega)
    rw [startsM_getD sb (by simp only [ndimM]; omega)] at this
    exact this
  · intro h ax hax
    rw [startsM_getD sb hax]
    by_cases hm : axMulti a groups ax = true
    · obtain ⟨g, hg, rfl, hmg⟩ := axMulti_cases hm
      exact h g hg hmg
    · have hm' : axMulti a groups ax = false := by simpa using hm
      have := hb.2 ax hax
      rw [BshM_getD sb hax] at this
      simp only [hm', Bool.false_eq_true, if_false] at this
      rw [startM_of_not_multi sb hm']
      exact ⟨Nat.zero_le _, by rw [Nat.zero_add]; exact this⟩


theorem permM_sector_ext (hv : ValidArr a) (hok : GroupsAdm groups a.ndim) {x y : Sector × Blk R}
    (hx : x ∈ a.blocks) (hy : y ∈ a.blocks)
    (hns : (planM a groups x).newSector = (planM a groups y).newSector)
    (hss : ∀ g, g < groups.length → multiB groups g = true →
      ssM (a := a) (groups := groups) x g = ssM (a := a) (groups := groups) y g) : x.1 = y.1 := by
  apply sector_ext (hv.blk x hx).1 (hv.blk y hy).1 (perm := (giM a groups).perm)
  · intro ax hax; exact (mem_permM hok).2 hax
  · intro ax hax
    rw [perm_eq] at hax
    simp only [List.mem_append] at hax
    rcases hax with (hax | hax) | hax
    · rw [axesBefore_range _ _] at hax
      simp only [List.mem_range] at hax
      have h1 := planOf_newSector_before a.sym a.indices groups x.1 x.2.shape a.duals hax
      have h2 := planOf_newSector_before a.sym a.indices groups y.1 y.2.shape a.duals hax
      have h1' : (planM a groups x).newSector.getD ax (0, 0) = x.1.getD ax (0, 0) := h1
      have h2' : (planM a groups y).newSector.getD ax (0, 0) = y.1.getD ax (0, 0) := h2
      rw [← h1', ← h2', hns]
    · obtain ⟨gaxes, hgm, haxg⟩ := List.mem_flatten.1 hax
      obtain ⟨g, hg, rfl⟩ := List.mem_iff_getElem.1 hgm
      have hgg : groups[g]? = some groups[g] := List.getElem?_eq_getElem hg
      by_cases hlen : groups[g].length = 1
      · have h1 := cM_single (a := a) hok hgg hlen x
        have h2 := cM_single (a := a) hok hgg hlen y
        have hax' : groups[g].headD 0 = ax := by
          match hgx : groups[g], hlen with
          | [ax'], _ => rw [hgx] at haxg; simp at haxg; simp [haxg]
        rw [hax'] at h1 h2
        rw [← h1, ← h2]; simp only [cM, hns]
      · have hm : multiB groups g = true := multiB_iff.2 ⟨_, hgg, hlen⟩
        have := hss g hg hm
        rw [ssM_eq hgg, ssM_eq hgg] at this
        exact List.map_inj_left.1 this ax haxg
    · obtain ⟨j, hj, rfl⟩ := List.mem_iff_getElem.1 hax
      have hjd : (giM a groups).axesAfter.getD j 0 = (giM a groups).axesAfter[j] := by
        simp [List.getD_eq_getElem?_getD, List.getElem?_eq_getElem hj]
      have h1 := planOf_newSector_after a.sym a.indices groups x.1 x.2.shape a.duals hj
      have h2 := planOf_newSector_after a.sym a.indices groups y.1 y.2.shape a.duals hj
      have h1' : (planM a groups x).newSector.getD ((giM a groups).position + groups.length + j) (0, 0)
          = x.1.getD ((giM a groups).axesAfter.getD j 0) (0, 0) := h1
      have h2' : (planM a groups y).newSector.getD ((giM a groups).position + groups.length + j) (0, 0)
          = y.1.getD ((giM a groups).axesAfter.getD j 0) (0, 0) := h2
      rw [← hjd, ← h1', ← h2', hns]

variable [Zero R]

theorem itemsM_disj (hv : ValidArr a) (hok : GroupsAdm groups a.ndim) :
    (a.blocks.map (toItemM a groups)).Pairwise (Disj (shapeOfM a groups)) := by
  rw [List.pairwise_map]
  have hnd : a.blocks.Pairwise (fun x y => x.1 ≠ y.1) := by
    have := hv.nodup
    rwa [List.Nodup, List.pairwise_map] at this
  apply List.Pairwise.imp_of_mem _ hnd
  intro x y hx hy hne hkey i hi hrx hry
  have hkey' : (planM a groups x).newSector = (planM a groups y).newSector := hkey
  have hix : inBox (BshM a groups x) i = true := by
    rw [← shapeOfM_stored hv hok hx]; exact hi
  have hiy : inBox (BshM a groups y) i = true := by
    rw [← shapeOfM_stored hv hok hy, ← hkey']; exact hi
  have hrx' := (regionM hok x hix).1 hrx
  have hry' := (regionM hok y hiy).1 hry
  -- some multi-axis group separates the two sectors
  by_cases hall : ∀ g, g < groups.length → multiB groups g = true →
      ssM (a := a) (groups := groups) x g = ssM (a := a) (groups := groups) y g
  · exact hne (permM_sector_ext hv hok hx hy hkey' hall)
  · simp only [not_forall] at hall
    obtain ⟨g, hg, hm, hss⟩ := hall
    obtain ⟨gaxes, hgg, hlen⟩ := multiB_iff.1 hm
    obtain ⟨e, D, h1, h2, _, _, _⟩ := stored_tableM hv hok hgg hlen hx
    obtain ⟨e', D', h1', h2', _, _, _⟩ := stored_tableM hv hok hgg hlen hy
    have hc : cM (a := a) (groups := groups) x g = cM (a := a) (groups := groups) y g := by
      simp only [cM, hkey']
    rw [← hc, h1] at h1'
    simp only [Option.some.injEq] at h1'; subst h1'
    have hdis := startOf_disjoint h2 h2' hss
    have r1 := hrx' g hg hm
    have r2 := hry' g hg hm
    omega

variable (a groups) in
/-- the blocks of the fused array (insert strategy) -/
def fusedBlocksM : List (Sector × Blk R) := insFold (shapeOfM a groups) (a.blocks.map (toItemM a groups))

theorem fusedBlocksM_inv (hv : ValidArr a) (hok : GroupsAdm groups a.ndim) :
    InsInv (shapeOfM a groups) (a.blocks.map (toItemM a groups)) (fusedBlocksM a groups) :=
  insFold_inv _ _ (itemsM_disj hv hok)

variable (a groups) in
def fusedArrM : Arr R := { a with indices := newIdxM a groups, blocks := fusedBlocksM a groups }

theorem fuseCore_multi_eq (hv : ValidArr a) (hok : GroupsAdm groups a.ndim) :
    fuseCore a groups .insert = .ok (fusedArrM a groups) := by
  unfold fuseCore
  rw [calcFuseBlockInfo_eq hv (fun _ => hok.lt)]
  simp only [bind, Except.bind, fuseInsert_multi_eq hv hok, pure, Except.pure]
  rfl

theorem fusedBlockM_info (hv : ValidArr a) (hok : GroupsAdm groups a.ndim) {ns : Sector} {B : Blk R}
    (h : alookup (fusedBlocksM a groups) ns = some B) :
    ∃ sb0 ∈ a.blocks, (planM a groups sb0).newSector = ns ∧ B.shape = BshM a groups sb0 := by
  have hinv := fusedBlocksM_inv hv hok
  have hk : ns ∈ (a.blocks.map (toItemM a groups)).map (·.1) :=
    (hinv.keys ns).1 (List.mem_map.2 ⟨_, alookup_some_mem h, rfl⟩)
  simp only [List.map_map, List.mem_map, Function.comp] at hk
  obtain ⟨sb0, hsb0, hns⟩ := hk
  have hns' : (planM a groups sb0).newSector = ns := hns
  refine ⟨sb0, hsb0, hns', ?_⟩
  rw [hinv.shape ns B h, ← hns', shapeOfM_stored hv hok hsb0]

theorem fusedBlockM_exists (hv : ValidArr a) (hok : GroupsAdm groups a.ndim) {sb : Sector × Blk R}
    (hsb : sb ∈ a.blocks) :
    ∃ B, alookup (fusedBlocksM a groups) (planM a groups sb).newSector = some B ∧ B.shape = BshM a groups sb := by
  have hinv := fusedBlocksM_inv hv hok
  have hkey : (planM a groups sb).newSector ∈ (fusedBlocksM a groups).map (·.1) := by
    rw [hinv.keys]; simp only [List.map_map]; exact List.mem_map.2 ⟨sb, hsb, rfl⟩
  obtain ⟨B, hB⟩ := Option.isSome_iff_exists.1 (alookup_isSome_iff.2 hkey)
  refine ⟨B, hB, ?_⟩
  rw [hinv.shape _ B hB, shapeOfM_stored hv hok hsb]

end Multi

end FuseP
end SymmModel
