/-
  SymmModel.Proofs.Fuse5Val — the value view of `unfuse` / `unfuseF` as an explicit FUNCTION of the
  value view of the input (`unfVal`): the value of the result at `(K, J)` is read off the input at
  the address with the segment of `K` / `J` at the unfused axis joined back, times the step's sign.
-/
import SymmModel.Proofs.Fuse4Round6
namespace SymmModel
namespace FuseP
open SymmModel.Lazy

variable {R : Type}

/-- value view of an unfuse step at axis `p` from the value view `v` of its input -/
def unfVal [Zero R] [Neg R] (sym : Sym) (ix : Index) (subs : List Index) (exts : Extents) (p : Nat)
    (sgn : Sector → Int) (v : Sector → List Nat → R) (K : Sector) (J : List Nat) : R :=
  match alookup exts (sym.combine (List.zipWith (fun c' (sub : Index) => sym.sign c' (ix.dual != sub.dual))
      ((K.drop p).take subs.length) subs)) with
  | none => 0
  | some e => match startOf e ((K.drop p).take subs.length) with
    | none => 0
    | some (st, _) => match Arr.blockShape? subs ((K.drop p).take subs.length) with
      | none => 0
      | some sub =>
        sgnI (sgn K)
          (v (K.take p ++ [sym.combine (List.zipWith (fun c' (sub : Index) => sym.sign c' (ix.dual != sub.dual))
                ((K.drop p).take subs.length) subs)] ++ K.drop (p + subs.length))
             (J.take p ++ [st + ravel sub ((J.drop p).take subs.length)] ++ J.drop (p + subs.length)))

theorem replace_decompose {ns ss : Sector} {p : Nat} (hp : p < ns.length) :
    ((replaceWithSeq ns p ss).drop p).take ss.length = ss
    ∧ (replaceWithSeq ns p ss).take p = ns.take p
    ∧ (replaceWithSeq ns p ss).drop (p + ss.length) = ns.drop (p + 1) := by
  have hl : (ns.take p).length = p := by rw [List.length_take]; omega
  have h3 := three_split (ns.take p) ss (ns.drop (p + 1))
  rw [hl] at h3
  exact ⟨h3.2.1, h3.1, h3.2.2⟩

section Cert
variable [Zero R] [Neg R] [LawfulNeg R]

/-- from the certificate of an unfuse step to its value function -/
theorem val_of_cert {a y : Arr R} {p : Nat} {ix : Index} {subs : List Index} {exts : Extents}
    (sgn : Sector → Int) (hva : ValidArr a) (hix : a.indices[p]? = some ix) (hsub : ix.sub = some (subs, exts))
    (hyidx : y.indices = replaceWithSeq a.indices p subs)
    (hA : ∀ ns B, (ns, B) ∈ a.blocks → ∀ e ss st d, alookup exts (ns.getD p (0, 0)) = some e →
          startOf e ss = some (st, d) →
          ∃ subshape, Arr.blockShape? subs ss = some subshape ∧ prod subshape = d
            ∧ ∀ J, inBox (replaceWithSeq B.shape p subshape) J = true →
                y.elem (replaceWithSeq ns p ss) J
                  = sgnI (sgn (replaceWithSeq ns p ss))
                      (a.elem ns (J.take p ++ [st + ravel subshape ((J.drop p).take subshape.length)]
                        ++ J.drop (p + subshape.length))))
    (hB : ∀ K, (∀ ns B e ss st d, (ns, B) ∈ a.blocks → alookup exts (ns.getD p (0, 0)) = some e →
            startOf e ss = some (st, d) → K ≠ replaceWithSeq ns p ss) → ∀ J, y.elem K J = 0)
    {K : Sector} {shpK : List Nat} (hK : Arr.blockShape? y.indices K = some shpK) {J : List Nat}
    (hJ : inBox shpK J = true) :
    y.elem K J = unfVal a.sym ix subs exts p sgn a.elem K J := by
  have hw := hva.idx ix (getElem?_mem' hix)
  have hp : p < a.indices.length := getElem?_lt hix
  unfold unfVal
  -- `c0`: the fused charge of the segment of `K`
  generalize hc0 : a.sym.combine (List.zipWith (fun c' (sub : Index) => a.sym.sign c' (ix.dual != sub.dual))
      ((K.drop p).take subs.length) subs) = c0
  -- what a decomposition of `K` looks like
  have hdec : ∀ ns B e ss st d, (ns, B) ∈ a.blocks → alookup exts (ns.getD p (0, 0)) = some e →
      startOf e ss = some (st, d) → K = replaceWithSeq ns p ss →
      (K.drop p).take subs.length = ss ∧ c0 = ns.getD p (0, 0)
      ∧ ns = K.take p ++ [ns.getD p (0, 0)] ++ K.drop (p + subs.length) := by
    intro ns B e ss st d hm he hst hKe
    obtain ⟨hpn, _, _, e', he', hext⟩ := block_at_axis hva hix hsub hm
    rw [he] at he'; simp only [Option.some.injEq] at he'; subst he'
    obtain ⟨hsl, _, hc⟩ := hext.entry ss d (startOf_mem hst)
    obtain ⟨d1, d2, d3⟩ := replace_decompose (ns := ns) (ss := ss) hpn
    rw [← hKe, hsl] at d1 d3
    rw [← hKe] at d2
    refine ⟨d1, by rw [← hc0, d1]; exact hc, ?_⟩
    rw [d2, d3]
    exact list_split_at ns p (0, 0) hpn
  cases he : alookup exts c0 with
  | none =>
    simp only
    apply hB
    intro ns B e ss st d hm he' hst hKe
    obtain ⟨_, h2, _⟩ := hdec ns B e ss st d hm he' hst hKe
    rw [h2, he'] at he; cases he
  | some e =>
    simp only
    cases hst : startOf e ((K.drop p).take subs.length) with
    | none =>
      simp only
      apply hB
      intro ns B e' ss st d hm he' hst' hKe
      obtain ⟨h1, h2, _⟩ := hdec ns B e' ss st d hm he' hst' hKe
      rw [h2, he'] at he; simp only [Option.some.injEq] at he; subst he
      rw [h1, hst'] at hst; cases hst
    | some q =>
      obtain ⟨st, d⟩ := q
      simp only
      obtain ⟨D, _, hext⟩ := wfB_extent hw hsub he
      obtain ⟨hsl, ⟨sub, hbs, hprod⟩, hc⟩ := hext.entry _ d (startOf_mem hst)
      rw [hbs]
      simp only
      have hKl : K.length = y.indices.length := (blockShape?_length hK).1.symm
      rw [hyidx] at hKl
      simp only [replaceWithSeq_split, List.length_append, List.length_take, List.length_drop] at hKl
      have hKsplit := list_split3 K p subs.length
      cases hb : alookup a.blocks (K.take p ++ [c0] ++ K.drop (p + subs.length)) with
      | none =>
        rw [elem_eq (a := a), hb]
        simp only
        rw [sgnI_zero]
        apply hB
        intro ns B e' ss st' d' hm he' hst' hKe
        obtain ⟨_, h2, h3⟩ := hdec ns B e' ss st' d' hm he' hst' hKe
        rw [h2] at hb
        rw [← h3] at hb
        rw [alookup_of_mem_nodup hva.nodup hm] at hb; cases hb
      | some B =>
        have hm := alookup_some_mem hb
        have htl : (K.take p).length = p := by rw [List.length_take]; omega
        have hnsp : (K.take p ++ [c0] ++ K.drop (p + subs.length)).getD p (0, 0) = c0 := by
          have := getD_mid (K.take p) [c0] (K.drop (p + subs.length)) 0 (0, 0) (by simp)
          rw [htl] at this
          simpa only [List.append_assoc, List.cons_append, List.nil_append, List.getD_eq_getElem?_getD, add_zero,
            List.length_cons, List.length_nil, zero_add, zero_lt_one, getElem?_pos, List.getElem_cons_zero,
            Option.getD_some] using this
        have hKrep : K = replaceWithSeq (K.take p ++ [c0] ++ K.drop (p + subs.length)) p
            ((K.drop p).take subs.length) := by
          have h3 := three_split (K.take p) [c0] (K.drop (p + subs.length))
          rw [htl] at h3
          simp only [List.length_cons, List.length_nil, Nat.zero_add] at h3
          rw [replaceWithSeq_split, h3.1, h3.2.2]
          exact hKsplit
        obtain ⟨subshape, g1, _, g3⟩ := hA _ B hm e _ st d (by rw [hnsp]; exact he) hst
        rw [hbs] at g1; simp only [Option.some.injEq] at g1; subst g1
        have hshape : shpK = replaceWithSeq B.shape p sub := by
          have h1 := ValidP.blockShape?_replace p (hva.blk _ hm).2.1 hbs
          rw [← hKrep, ← hyidx, hK] at h1
          simpa only [Option.some.injEq] using h1
        have hsubl : sub.length = subs.length := by
          have := blockShape?_length hbs
          rw [this.2, hsl]
        have := g3 J (by rw [← hshape]; exact hJ)
        rw [← hKrep, hsubl] at this
        exact this

end Cert

end FuseP
end SymmModel
