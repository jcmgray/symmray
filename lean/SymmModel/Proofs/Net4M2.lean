/-
  SymmModel.Proofs.Net4M2 — the five bracketings of a four-tensor network (K4 bonds) with each of the
  three calls in ITS OWN contraction mode (`routeM1 … routeM5`).  That every route succeeds and gives
  a zero-padded copy (`PadA`) of the blockwise result of the same route is `k4_modes` (Net4M9).
-/
import SymmModel.Proofs.TdotChain1
import SymmModel.Proofs.Net4Moves

namespace SymmModel
namespace Net4P
open TdotP GradedP RoutesP KoszulP AssocP Assoc2P Assoc3P Assoc5P

variable {R : Type}

section routes
variable [Zero R] [Add R] [Mul R] [Neg R]
variable (A B C D : Arr R) (ab ac ad ba bc bd ca cb cd da db dc : List Nat)

/-- `((A·B)·C)·D` -/
def routeM1 (m1 m2 m3 : TdotMode) : Except Err (Arr R) :=
  (tdM m1 A B ab ba).bind fun AB =>
  (tdM m2 AB C (Assoc2P.axesAB A.ndim B.ndim ab ac ba bc) (ca ++ cb)).bind fun ABC =>
  tdM m3 ABC D (axesABC_D A B C ab ac ad ba bc bd ca cb cd) ((da ++ db) ++ dc)

/-- `(A·(B·C))·D` -/
def routeM2 (m1 m2 m3 : TdotMode) : Except Err (Arr R) :=
  (tdM m1 B C bc cb).bind fun BC =>
  (tdM m2 A BC (ab ++ ac) (Assoc2P.axesBC B.ndim C.ndim ba bc cb ca)).bind fun ABC =>
  tdM m3 ABC D (axesABC_D A B C ab ac ad ba bc bd ca cb cd) ((da ++ db) ++ dc)

/-- `(A·B)·(C·D)` -/
def routeM3 (m1 m2 m3 : TdotMode) : Except Err (Arr R) :=
  (tdM m1 A B ab ba).bind fun AB =>
  (tdM m2 C D cd dc).bind fun CD =>
  tdM m3 AB CD
    (Assoc2P.axesAB A.ndim B.ndim ab ac ba bc ++ Assoc2P.axesAB A.ndim B.ndim ab ad ba bd)
    (Assoc2P.axesBC C.ndim D.ndim (ca ++ cb) cd dc (da ++ db))

/-- `A·((B·C)·D)` -/
def routeM4 (m1 m2 m3 : TdotMode) : Except Err (Arr R) :=
  (tdM m1 B C bc cb).bind fun BC =>
  (tdM m2 BC D (Assoc2P.axesAB B.ndim C.ndim bc bd cb cd) (db ++ dc)).bind fun BCD =>
  tdM m3 A BCD (ab ++ (ac ++ ad)) (axesBCD_A B C D ba bc bd ca cb cd da db dc)

/-- `A·(B·(C·D))` -/
def routeM5 (m1 m2 m3 : TdotMode) : Except Err (Arr R) :=
  (tdM m1 C D cd dc).bind fun CD =>
  (tdM m2 B CD (bc ++ bd) (Assoc2P.axesBC C.ndim D.ndim cb cd dc db)).bind fun BCD =>
  tdM m3 A BCD (ab ++ (ac ++ ad)) (axesBCD_A B C D ba bc bd ca cb cd da db dc)

theorem routeM_blockwise :
    routeM1 A B C D ab ac ad ba bc bd ca cb cd da db dc .blockwise .blockwise .blockwise
      = routeS1 A B C D ab ac ad ba bc bd ca cb cd da db dc false false false
    ∧ routeM2 A B C D ab ac ad ba bc bd ca cb cd da db dc .blockwise .blockwise .blockwise
      = routeS2 A B C D ab ac ad ba bc bd ca cb cd da db dc false false false
    ∧ routeM3 A B C D ab ac ad ba bc bd ca cb cd da db dc .blockwise .blockwise .blockwise
      = routeS3 A B C D ab ac ad ba bc bd ca cb cd da db dc false false false
    ∧ routeM4 A B C D ab ac ad ba bc bd ca cb cd da db dc .blockwise .blockwise .blockwise
      = routeS4 A B C D ab ac ad ba bc bd ca cb cd da db dc false false false
    ∧ routeM5 A B C D ab ac ad ba bc bd ca cb cd da db dc .blockwise .blockwise .blockwise
      = routeS5 A B C D ab ac ad ba bc bd ca cb cd da db dc false false false :=
  ⟨rfl, rfl, rfl, rfl, rfl⟩

end routes

end Net4P
end SymmModel
