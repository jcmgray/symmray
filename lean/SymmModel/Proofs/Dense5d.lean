/-
  SymmModel.Proofs.Dense5d — single-operand einsum with traced labels at dense level, part 3:
  the main theorem `einsum_dense_main`: `dense (einsum a) = np.einsum (dense a)`.
-/
import SymmModel.Proofs.Dense5c

namespace SymmModel
namespace Dense5
open TdotP DenseP

variable {R : Type}

theorem inBox_of_locateAll {idx : List Index} {p : List Nat} {s : Sector} {off : List Nat}
    (hp : p.length = idx.length) (h : Arr.locateAll idx p = some (s, off)) :
    inBox (idx.map Index.sizeTotal) p = true := by
  obtain ⟨rows, hok, rfl, rfl, rfl, rfl⟩ := (Arr.locateAll_eq_some_iff hp).mp h
  clear hp h
  induction rows with
  | nil => rfl
  | cons r rows ih =>
    have hlt := Arr.locate_lt (hok r (by simp))
    rw [sumN_sortCm] at hlt
    simp only [List.map_cons, inBox_cons]
    exact ⟨hlt, ih fun r' hr' => hok r' (by simp [hr'])⟩

theorem traced_box_eq (a : Arr R) {lhs rhs : List Nat} (hl : lhs.length = a.indices.length) :
    (einTraced lhs rhs).map (einSize a.shape lhs) = (tracedIdx a lhs rhs).map Index.sizeTotal := by
  simp only [tracedIdx, List.map_map]
  apply List.map_congr_left
  intro lab hlab
  obtain ⟨k, h1, h2⟩ := indexOf?_of_mem (mem_einTraced.mp hlab).1
  have hk : k < a.indices.length := by rw [← hl]; exact FuseP.getElem?_lt h2
  simp [einSize, fpos, h1, Arr.shape, List.getD_eq_getElem?_getD, List.getElem?_map,
    List.getElem?_eq_getElem hk]

theorem perm_shape_eq {lhs rhs : List Nat} (hrsub : ∀ q ∈ rhs, q ∈ lhs) (shp : List Nat)
    (hlt : ∀ p ∈ Dense4.einPermOf lhs rhs, p < shp.length) :
    rhs.map (einSize shp lhs) = permuted shp (Dense4.einPermOf lhs rhs) := by
  rw [FuseP.permuted_eq_map shp 0 _ hlt]
  simp only [Dense4.einPermOf, List.map_map]
  apply List.map_congr_left
  intro q hq
  obtain ⟨k, hk1, _⟩ := indexOf?_of_mem (hrsub q hq)
  simp [einSize, hk1]

/-- **einsum, dense form.**  For an equation whose output labels are distinct and occur once on
    the left, whose other labels occur exactly twice, on a valid abelian array without empty charge
    table whose equally-labelled axes have equal charge tables: `to_dense(einsum(a))` and
    `np.einsum(to_dense(a))` have the same shape and the same entries. -/
theorem einsum_dense_main [AddCommMonoid R] [Neg R] (a : Arr R) (lhs rhs : List Nat)
    (hl : lhs.length = a.ndim) (hok : EqOk lhs rhs) (htab : TabOk a lhs)
    (h2 : (einTracedPos lhs rhs).any (fun js => js.length != 2) = false)
    (hv : a.validB = true) (hf : a.fermi = false)
    (hne : a.indices.any (fun ix => ix.cm.isEmpty) = false) :
    ∃ c dA dC, einsumA a lhs rhs = .ok c ∧ c.indices = permuted a.indices (Dense4.einPermOf lhs rhs)
      ∧ Arr.toDenseA a = .ok dA ∧ Arr.toDenseA c = .ok dC
      ∧ dC.shape = (dA.einsumK lhs rhs).shape
      ∧ ∀ q, inBox dC.shape q = true → dC.get q = (dA.einsumK lhs rhs).get q := by
  classical
  have hl' : lhs.length = a.indices.length := hl
  have hperm : einPerm? lhs rhs = .ok (Dense4.einPermOf lhs rhs) := einPerm?_ok lhs rhs hok.rsub
  have hsh := Arr.validB_shapesOk hv
  have hnds := Arr.validB_nodup hv
  have hlens := Arr.validB_length hv
  have hpa : a.phases = [] := Arr.phases_nil_of_validB hv hf
  have hda : allDistinct a.sectors = true := Arr.validB_sectors hv
  have hsa : a.shapesOk := Arr.shapesOk_of_validB hv
  have hlt : ∀ p ∈ Dense4.einPermOf lhs rhs, p < a.indices.length := by
    intro p hp; rw [← hl']; exact Dense4.einPermOf_lt hok.rsub p hp
  obtain ⟨C, hc0, hCi⟩ : ∃ C : Arr R, einsumA a lhs rhs = .ok C
      ∧ C.indices = permuted a.indices (Dense4.einPermOf lhs rhs) :=
    ⟨_, TdotP.einsumA_eq a lhs rhs _ hperm h2, rfl⟩
  have hCne : C.indices.any (fun ix => ix.cm.isEmpty) = false := hCi ▸ Arr.noEmpty_permuted hne _
  have hCsh : C.shape = permuted a.shape (Dense4.einPermOf lhs rhs) := by
    simp only [Arr.shape, hCi, permuted_map]
  obtain ⟨dA, hdA, hsA, -⟩ := Arr.toDenseA_get a hne
  obtain ⟨dC, hdC, hsC, hgC⟩ := Arr.toDenseA_get C hCne
  have hKsh : (dA.einsumK lhs rhs).shape = permuted a.shape (Dense4.einPermOf lhs rhs) := by
    rw [Blk.einsumK_shape, hsA]
    exact perm_shape_eq hok.rsub a.shape (by simpa [Arr.shape] using hlt)
  refine ⟨C, dA, dC, hc0, hCi, hdA, hdC, by rw [hsC, hCsh, hKsh], fun q hq => ?_⟩
  rw [hsC] at hq
  obtain ⟨s', o', hlq, hvC⟩ := hgC q hq
  rw [hvC]
  have hql : q.length = (permuted a.indices (Dense4.einPermOf lhs rhs)).length := by
    rw [inBox_length hq, hCsh, permuted_length _ _ (by simpa [Arr.shape] using hlt),
      permuted_length _ _ hlt]
  rw [hCi] at hlq
  have hQ : Located (permuted a.indices (Dense4.einPermOf lhs rhs)) q s' o' :=
    (located_iff_locateAll hql).mp hlq
  have hs'l : s'.length = rhs.length := by
    rw [hQ.2.1, permuted_length _ _ hlt]; simp [Dense4.einPermOf]
  have ho'l : o'.length = rhs.length := by
    rw [hQ.2.2.1, permuted_length _ _ hlt]; simp [Dense4.einPermOf]
  have hndP : ∀ ix ∈ permuted a.indices (Dense4.einPermOf lhs rhs), (ix.cm.map (·.1)).Nodup :=
    fun ix hix => hsh.1 ix (mem_permuted hix)
  -- `np.einsum` on the dense array: a sum over the traced box, read as a sum of value views of `a`
  -- over the addresses of the traced labels (`sum_locateAll`)
  let G : Option (Sector × List Nat) → R := fun x =>
    match x with
    | some (cs, u) => a.elem (asm (0, 0) lhs rhs s' cs) (asm 0 lhs rhs o' u)
    | none => 0
  have hdense : (dA.einsumK lhs rhs).get q
      = ((allIdx ((tracedIdx a lhs rhs).map Index.sizeTotal)).map
          (fun t => G (Arr.locateAll (tracedIdx a lhs rhs) t))).sum := by
    rw [Blk.einsumK_get dA lhs rhs (by rw [hKsh, ← hCsh]; exact hq), hsA, traced_box_eq a hl']
    apply sum_map_congr
    intro t ht
    rw [mem_allIdx] at ht
    obtain ⟨cs, u, hlt'⟩ := Arr.locateAll_isSome (idx := tracedIdx a lhs rhs) (p := t) ht
    have htl : t.length = (tracedIdx a lhs rhs).length := by simpa using inBox_length ht
    have hT : Located (tracedIdx a lhs rhs) t cs u := (located_iff_locateAll htl).mp hlt'
    have hLa := located_asm a hl' hok htab hQ hT
    have hpl : (asm 0 lhs rhs q t).length = a.indices.length := by simp [hl']
    have hloc := (located_iff_locateAll hpl).mpr hLa
    have hbox : inBox a.shape (asm 0 lhs rhs q t) = true := inBox_of_locateAll hpl hloc
    rw [einIdx_eq_asm, Arr.toDenseA_val hdA hbox hloc, hlt']
  rw [hdense, DenseP.sum_locateAll]
  -- the value view of the block einsum (`einsumA_elem'`): a sum over the stored sectors that pass
  -- the trace test and have kept part `s'`
  have hinbox : ∀ s ∈ a.sectors, einKeep lhs rhs s = true →
      permuted s (Dense4.einPermOf lhs rhs) = s' →
      inBox (rhs.map (einSize (Arr.blockShapeD a.indices s) lhs)) o' = true := by
    intro s hs _ hps
    obtain ⟨b, hb⟩ := Option.isSome_iff_exists.mp (alookup_isSome_iff.mpr hs)
    have hbs := hsh.2 s b hb
    have hbl : b.shape.length = a.indices.length := Arr.blockShape?_shape_length hbs
    have hD : Arr.blockShapeD a.indices s = b.shape := by simp [Arr.blockShapeD, hbs]
    rw [hD, perm_shape_eq hok.rsub b.shape (by rw [hbl]; exact hlt)]
    have := blockShape?_permuted hbs (Dense4.einPermOf lhs rhs) hlt
    rw [hps] at this
    exact Arr.locateAll_inBox hndP hql hlq this
  obtain ⟨c, hc, _, _, hval⟩ := einsumA_elem' a lhs rhs _ hperm h2 hpa hda hsa s' o' hinbox
  rw [hc0] at hc; injection hc with hc; subst hc
  rw [hval]
  -- the two sums agree: the contributing stored sectors `K0` are, through `eOf`, exactly the
  -- charge tuples of the traced tables whose assembled sector is stored; the others contribute `0`
  let K0 := a.sectors.filter (fun s => einKeep lhs rhs s && permuted s (Dense4.einPermOf lhs rhs) == s')
  let h : List (Charge × Nat) → R := fun e =>
    ((allIdx (e.map (·.2))).map (fun u => G (some (e.map (·.1), u)))).sum
  have hK0 : ∀ s ∈ K0, s ∈ a.sectors ∧ einKeep lhs rhs s = true
      ∧ permuted s (Dense4.einPermOf lhs rhs) = s' := by
    intro s hs
    simp only [K0, List.mem_filter, Bool.and_eq_true, beq_iff_eq] at hs
    exact ⟨hs.1, hs.2.1, hs.2.2⟩
  have hasm : ∀ s ∈ K0, asm (0, 0) lhs rhs s' ((eOf a lhs rhs s).map (·.1)) = s := by
    intro s hs
    obtain ⟨hs1, hs2, hs3⟩ := hK0 s hs
    have := asm_of_sector hok h2 (by rw [hlens s hs1, hl]) hs2 ((eOf a lhs rhs s).map (·.1))
      (by simp [eOf, List.map_map, Function.comp_def])
    rw [hs3] at this
    exact this
  have hLnd : (cartesian (tables (tracedIdx a lhs rhs))).Nodup := by
    apply cartesian_nodup
    intro l hlm
    simp only [tables, tracedIdx, List.map_map, List.mem_map] at hlm
    obtain ⟨lab, hlab, rfl⟩ := hlm
    obtain ⟨hfl, _⟩ := fpos_spec (mem_einTraced.mp hlab).1
    have hix : a.indices.getD (fpos lhs lab) default ∈ a.indices := by
      rw [List.getD_eq_getElem?_getD, List.getElem?_eq_getElem (by rw [← hl']; exact hfl)]
      exact List.getElem_mem _
    exact (nodup_keys_sortCm (hsh.1 _ hix)).of_map _
  have hentry : ∀ (s : Sector) (shp : List Nat), Arr.blockShape? a.indices s = some shp →
      ∀ lab ∈ einTraced lhs rhs,
        (s.getD (fpos lhs lab) (0, 0), shp.getD (fpos lhs lab) 0)
          ∈ Index.sortCm (a.indices.getD (fpos lhs lab) default).cm := by
    intro s shp hbs lab hlab
    obtain ⟨hfl, _⟩ := fpos_spec (mem_einTraced.mp hlab).1
    have hfi : fpos lhs lab < a.indices.length := by rw [← hl']; exact hfl
    have hsl : s.length = a.indices.length := (blockShape?_length hbs).1
    obtain ⟨d, hd1, hd2⟩ := blockShape?_getElem hbs (List.getElem?_eq_getElem hfi)
      (List.getElem?_eq_getElem (by rw [hsl]; exact hfi) : s[fpos lhs lab]? = some _)
    rw [mem_sortCm]
    have := alookup_some_mem hd2
    simpa [List.getD_eq_getElem?_getD, List.getElem?_eq_getElem hfi,
      List.getElem?_eq_getElem (by rw [hsl]; exact hfi : fpos lhs lab < s.length), hd1] using this
  have hKsub : ∀ e ∈ K0.map (eOf a lhs rhs), e ∈ cartesian (tables (tracedIdx a lhs rhs)) := by
    intro e he
    obtain ⟨s, hs, rfl⟩ := List.mem_map.mp he
    obtain ⟨hs1, _, _⟩ := hK0 s hs
    obtain ⟨b, hb⟩ := Option.isSome_iff_exists.mp (alookup_isSome_iff.mpr hs1)
    have hbs := hsh.2 s b hb
    rw [mem_cartesian]
    simp only [eOf, tables, tracedIdx, List.map_map, List.forall₂_map_left_iff,
      List.forall₂_map_right_iff, List.forall₂_same]
    intro lab hlab
    have := hentry s b.shape hbs lab hlab
    simpa [Arr.blockShapeD, hbs] using this
  have hKnd : (K0.map (eOf a lhs rhs)).Nodup := by
    refine List.Nodup.map_on ?_ (hnds.filter _)
    intro x hx y hy hxy
    rw [← hasm x hx, ← hasm y hy, hxy]
  -- a charge tuple whose assembled sector is NOT stored contributes `0`: were it stored, it would be
  -- one of `K0` with `eOf` the tuple
  have hzero : ∀ e ∈ cartesian (tables (tracedIdx a lhs rhs)), e ∉ K0.map (eOf a lhs rhs) →
      h e = 0 := by
    intro e he hnot
    have hns : asm (0, 0) lhs rhs s' (e.map (·.1)) ∉ a.sectors := by
      intro hmem
      apply hnot
      refine List.mem_map.mpr ⟨asm (0, 0) lhs rhs s' (e.map (·.1)), ?_, ?_⟩
      · simp only [K0, List.mem_filter, Bool.and_eq_true, beq_iff_eq]
        exact ⟨hmem, keep_asm h2 _ _, permuted_asm (0, 0) hok _ _ hs'l⟩
      · -- `eOf` of the assembled sector is `e`
        obtain ⟨b, hb⟩ := Option.isSome_iff_exists.mp (alookup_isSome_iff.mpr hmem)
        have hbs := hsh.2 _ b hb
        rw [mem_cartesian] at he
        have hel : e.length = (einTraced lhs rhs).length := by
          have := he.length_eq; simpa [tables, tracedIdx] using this
        apply List.ext_getElem (by simp [eOf, hel])
        intro j hj1 hj2
        simp only [eOf, List.length_map] at hj1
        simp only [eOf, List.getElem_map]
        have hlab : (einTraced lhs rhs)[j] ∈ einTraced lhs rhs := List.getElem_mem hj1
        obtain ⟨hfl, hfe⟩ := fpos_spec (mem_einTraced.mp hlab).1
        have hjj : indexOf? (einTraced lhs rhs) lhs[fpos lhs (einTraced lhs rhs)[j]] = some j := by
          rw [hfe]; exact indexOf?_getElem (einTraced_nodup lhs rhs) hj1
        have hat := asm_traced (0, 0) (lhs := lhs) (rhs := rhs) s' (e.map (·.1)) hfl
          (by rw [hfe]; exact (mem_einTraced.mp hlab).2) hjj
        have hfst : (asm (0, 0) lhs rhs s' (e.map (·.1))).getD (fpos lhs (einTraced lhs rhs)[j]) (0, 0)
            = e[j].1 := by
          rw [List.getD_eq_getElem?_getD, hat]
          simp [List.getD_eq_getElem?_getD, List.getElem?_map, List.getElem?_eq_getElem hj2]
        -- the table entry: `e[j]` and the entry of the assembled sector have the same key
        have h1 := hentry _ b.shape hbs _ hlab
        have h2' : e[j] ∈ Index.sortCm (a.indices.getD (fpos lhs (einTraced lhs rhs)[j]) default).cm := by
          have := List.forall₂_iff_get.mp he
          have hg := this.2 j hj2 (by simpa [tables, tracedIdx] using hj1)
          simpa [tables, tracedIdx] using hg
        have hix : a.indices.getD (fpos lhs (einTraced lhs rhs)[j]) default ∈ a.indices := by
          rw [List.getD_eq_getElem?_getD, List.getElem?_eq_getElem (by rw [← hl']; exact hfl)]
          exact List.getElem_mem _
        have hkeys := nodup_keys_sortCm (hsh.1 _ hix)
        rw [hfst] at h1
        have e1 := alookup_of_mem_nodup hkeys h1
        have e2 := alookup_of_mem_nodup hkeys (show (e[j].1, e[j].2) ∈ _ from h2')
        rw [e1] at e2
        have e3 : b.shape.getD (fpos lhs (einTraced lhs rhs)[j]) 0 = e[j].2 := Option.some.inj e2
        rw [hfst]
        simp only [Arr.blockShapeD, hbs, Option.getD_some, e3]
    simp only [h, G]
    apply List.sum_eq_zero
    intro x hx
    obtain ⟨u, _, rfl⟩ := List.mem_map.mp hx
    exact Arr.elem_of_not_mem hns _
  rw [sum_eq_sum_of_support hLnd hKnd hKsub h hzero, List.map_map]
  apply sum_map_congr
  intro s hs
  simp only [Function.comp, h, G]
  rw [hasm s hs, eOf_snd]
  rfl

end Dense5
end SymmModel
