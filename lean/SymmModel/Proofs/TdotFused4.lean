/-
  SymmModel.Proofs.TdotFused4 — `tensordotViaFused`: the operands after `dropMisaligned` satisfy
  `Ctx0`; what the pieces of the control flow (`viaAligned`) are when the non-empty groups cover
  the operand; aligned stored sectors have the same fused bond charge; the case that no sector
  aligns; the mode dispatch of `tensordotA`.  Namespace `SymmModel.TdotP`.
-/
import SymmModel.Proofs.TdotFused3
import SymmModel.Proofs.ValidMore
import SymmModel.Proofs.ValidTdotFused
import SymmModel.Props.C05b

namespace SymmModel
namespace TdotP
variable {R : Type}

/-- `aligned_keys` (TdotFused1, on `subKeys`) in the spelling of `Ctx0.keys`, which reads a sector
    with `getD` -/
theorem aligned_block_keys (a b : Arr R) (xa xb : List Nat) (ha : a.validB = true) (hb : b.validB = true)
    (hA : ∀ x ∈ xa, x < a.ndim) (hB : ∀ x ∈ xb, x < b.ndim) :
    ∀ K, K ∈ (dropMisaligned a b xa xb).1.blocks.map (fun sb => xa.map (fun ax => sb.1.getD ax (0, 0))) ↔
      K ∈ (dropMisaligned a b xa xb).2.blocks.map (fun sb => xb.map (fun ax => sb.1.getD ax (0, 0))) := by
  have hla : ∀ s ∈ a.sectors, s.length = a.ndim := fun s hs =>
    Arr.sector_length (Arr.shapesOk_of_validB ha) hs
  have hlb : ∀ s ∈ b.sectors, s.length = b.ndim := fun s hs =>
    Arr.sector_length (Arr.shapesOk_of_validB hb) hs
  obtain ⟨hsubA, hsubB⟩ := sectors_dropMisaligned_sub a b xa xb
  intro K
  have eA : (dropMisaligned a b xa xb).1.blocks.map (fun sb => xa.map (fun ax => sb.1.getD ax (0, 0)))
      = subKeys (dropMisaligned a b xa xb).1 xa := by
    simp only [subKeys, Arr.sectors, List.map_map]
    apply List.map_congr_left
    intro sb hsb
    have hl : sb.1.length = a.ndim := hla _ (hsubA _ (List.mem_map.mpr ⟨sb, hsb, rfl⟩))
    exact (permuted_eq_map _ _ (by rw [hl]; exact hA) (0, 0)).symm
  have eB : (dropMisaligned a b xa xb).2.blocks.map (fun sb => xb.map (fun ax => sb.1.getD ax (0, 0)))
      = subKeys (dropMisaligned a b xa xb).2 xb := by
    simp only [subKeys, Arr.sectors, List.map_map]
    apply List.map_congr_left
    intro sb hsb
    have hl : sb.1.length = b.ndim := hlb _ (hsubB _ (List.mem_map.mpr ⟨sb, hsb, rfl⟩))
    exact (permuted_eq_map _ _ (by rw [hl]; exact hB) (0, 0)).symm
  rw [eA, eB]
  exact aligned_keys a b xa xb K

theorem ctx0_of_aligned (a b : Arr R) (xa xb : List Nat)
    (ha : a.validB = true) (hb : b.validB = true) (hfa : a.fermi = false) (hfb : b.fermi = false)
    (hsym : a.sym = b.sym) (hnA : xa.Nodup) (hnB : xb.Nodup)
    (hA : ∀ x ∈ xa, x < a.ndim) (hB : ∀ x ∈ xb, x < b.ndim) (hlen : xa.length = xb.length)
    (hcm : (xa.map (fun ax => (dropMisaligned a b xa xb).1.indices.getD ax default)).map Index.cm
      = (xb.map (fun ax => (dropMisaligned a b xa xb).2.indices.getD ax default)).map Index.cm)
    (hdual : (xb.map (fun ax => (dropMisaligned a b xa xb).2.indices.getD ax default)).map Index.dual
      = (xa.map (fun ax => (dropMisaligned a b xa xb).1.indices.getD ax default)).map
          (fun ix => !ix.dual)) :
    Ctx0 (dropMisaligned a b xa xb).1 (dropMisaligned a b xa xb).2 xa xb := by
  obtain ⟨n1, n2⟩ := dropMisaligned_ndim a b xa xb
  obtain ⟨v1, v2⟩ := ValidP.dropMisaligned_valid a b xa xb ((ValidP.validB_iff a).mp ha)
    ((ValidP.validB_iff b).mp hb)
  refine ⟨(ValidP.validB_iff _).mpr v1, (ValidP.validB_iff _).mpr v2, hfa, hfb, hsym, hnA, hnB,
    by rw [n1]; exact hA, by rw [n2]; exact hB, hlen, hcm, hdual, aligned_block_keys a b xa xb ha hb hA hB⟩

theorem ctx0_of_dropMisaligned (a b : Arr R) (xa xb : List Nat)
    (ha : a.validB = true) (hb : b.validB = true) (hfa : a.fermi = false) (hfb : b.fermi = false)
    (hsym : a.sym = b.sym) (hc : ValidP.contractibleB a b xa xb = true)
    (hnA : xa.Nodup) (hnB : xb.Nodup) (hA : ∀ x ∈ xa, x < a.ndim) (hB : ∀ x ∈ xb, x < b.ndim) :
    Ctx0 (dropMisaligned a b xa xb).1 (dropMisaligned a b xa xb).2 xa xb := by
  obtain ⟨hcm, hdual⟩ := aligned_cm_dual a b xa xb ha hb hA hB hc
  have hlen : xa.length = xb.length := by
    unfold ValidP.contractibleB at hc
    simp only [Bool.and_eq_true, beq_iff_eq] at hc
    exact hc.1
  exact ctx0_of_aligned a b xa xb ha hb hfa hfb hsym hnA hnB hA hB hlen hcm hdual

theorem ctx_of_dropMisaligned (a b : Arr R) (xa xb : List Nat)
    (ha : a.validB = true) (hb : b.validB = true) (hfa : a.fermi = false) (hfb : b.fermi = false)
    (hsym : a.sym = b.sym) (hc : ValidP.contractibleB a b xa xb = true)
    (hnA : xa.Nodup) (hnB : xb.Nodup) (hA : ∀ x ∈ xa, x < a.ndim) (hB : ∀ x ∈ xb, x < b.ndim)
    (hneK : xa ≠ []) (hneL : freeAxes a.ndim xa ≠ []) (hneR : freeAxes b.ndim xb ≠ []) :
    FusedCtx (dropMisaligned a b xa xb).1 (dropMisaligned a b xa xb).2 xa xb := by
  obtain ⟨n1, n2⟩ := dropMisaligned_ndim a b xa xb
  have h := ctx0_of_dropMisaligned a b xa xb ha hb hfa hfb hsym hc hnA hnB hA hB
  exact ⟨h.vA, h.vB, h.fA, h.fB, h.sym, h.nA, h.nB, h.rA, h.rB, h.len, hneK, by rw [n1]; exact hneL,
    by rw [n2]; exact hneR, h.cm, h.dual, h.keys⟩

theorem isEmpty_false {α : Type} {l : List α} (h : l ≠ []) : l.isEmpty = false := by
  cases l <;> simp_all

/-- `fuse([g1, g2], expand_empty=False)` as `_tensordot_via_fused` calls it, when the non-empty
    groups cover the operand -/
theorem fuseA_cover [Zero R] {A : Arr R} {g1 g2 : List Nat} {G : List (List Nat)}
    (hG : G = [g1, g2].filter (fun g => !g.isEmpty)) (hv : FuseP.ValidArr A) (hc : Cover A G) :
    fuseA A [g1, g2] .insert false = .ok (FuseP.fusedArrM A G) := by
  rw [C05.fuseA_noexpand, ← hG, if_neg (by simpa using hc.ok.ne)]
  exact FuseP.fuseCore_multi_eq hv hc.ok.adm

theorem groupAxes_eq_second {l xa : List Nat} (hne : xa ≠ []) {G : List (List Nat)}
    (hG : G = [l, xa].filter (fun g => !g.isEmpty)) :
    ValidP.groupAxes l xa = (freeAxes G.length [G.length - 1], [G.length - 1]) := by
  subst hG
  cases l <;> cases xa <;> simp_all [ValidP.groupAxes] <;> decide

theorem groupAxes_eq_first {xb r : List Nat} (hne : xb ≠ []) {G : List (List Nat)}
    (hG : G = [xb, r].filter (fun g => !g.isEmpty)) :
    ValidP.groupAxes xb r = ([0], freeAxes G.length [0]) := by
  subst hG
  cases xb <;> cases r <;> simp_all [ValidP.groupAxes] <;> decide

theorem groupAxes_free_first (l : List Nat) :
    ValidP.groupAxes l [] = (freeAxes (if l = [] then 0 else 1) [], []) := by
  cases l <;> rfl

theorem groupAxes_free_second (r : List Nat) :
    ValidP.groupAxes [] r = ([], freeAxes (if r = [] then 0 else 1) []) := by
  cases r <;> rfl

theorem dec_of_stored {A : Arr R} {G : List (List Nat)} (hv : FuseP.ValidArr A)
    (hok : FuseP.GroupsOk G A.ndim) {g : Nat} {gaxes : List Nat} (hg : G[g]? = some gaxes)
    {sb : Sector × Blk R} (hsb : sb ∈ A.blocks) :
    ∃ i O, decAx A G g (FuseP.cM (a := A) (groups := G) sb g) i = some (permuted sb.1 gaxes, O) := by
  have hlt : ∀ x ∈ gaxes, x < A.indices.length := FuseP.groupM_lt hok.adm hg
  have hsl : sb.1.length = A.indices.length := (hv.blk sb hsb).1
  have hss : FuseP.ssM (a := A) (groups := G) sb g = permuted sb.1 gaxes := by
    rw [FuseP.ssM_eq hg, permuted_eq_map _ _ (by rw [hsl]; exact hlt) (0, 0)]
  by_cases hlen : gaxes.length = 1
  · have hm : FuseP.multiB G g = false := FuseP.multiB_single hg hlen
    refine ⟨0, [0], ?_⟩
    simp only [decAx, hm, Bool.false_eq_true, if_false, Option.some.injEq, Prod.mk.injEq, and_true]
    rw [FuseP.cM_single hok.adm hg hlen]
    match gaxes, hlen, hlt with
    | [ax], _, hlt =>
      have h0 : ax < sb.1.length := by rw [hsl]; exact hlt ax (by simp)
      simp [permuted, List.getElem?_eq_getElem h0, List.getD_eq_getElem?_getD]
  · have hm : FuseP.multiB G g = true := FuseP.multiB_iff.2 ⟨_, hg, hlen⟩
    have hsub := FuseP.ixM_sub (a := A) hok.adm hg hlen
    obtain ⟨e, D, st, h1, h2, _, _⟩ := FuseP.stored_in_tableM hv hok.adm hg hlen hsb
    obtain ⟨_, _, hext⟩ := FuseP.ixM_extent hv hok.adm hg hlen h1
    obtain ⟨_, ⟨shp, hshp, hprod⟩, _⟩ := hext.entry _ _ (FuseP.startOf_mem h2)
    have hpos : 0 < FuseP.dM (a := A) (groups := G) sb g := by
      have hE := FuseP.tableEntries_entryOk hv (fun _ => hok.lt) hg hlen
        (FuseP.ssM (a := A) (groups := G) sb g, FuseP.cM (a := A) (groups := G) sb g,
          FuseP.dM (a := A) (groups := G) sb g)
        (by
          simp only [FuseP.tableEntries, FuseP.blockmapOf, List.map_map, List.mem_map, Function.comp]
          exact ⟨sb, hsb, rfl⟩)
      exact hE.2.2.2
    have hso := FuseP.startOf_splitOffset h2 hpos
    refine ⟨st + 0, unravel shp 0, ?_⟩
    rw [hss] at hshp
    simp only [decAx, hm, if_true, FuseP.splitAddr, hsub, h1, hso, hss, hshp]

namespace Ctx0
variable {A B : Arr R} {xa xb : List Nat} (h : Ctx0 A B xa xb)
include h
variable {GA GB : List (List Nat)} {pA pB : Nat}

theorem bond_charge (hokA : FuseP.GroupsOk GA A.ndim) (hokB : FuseP.GroupsOk GB B.ndim)
    (gA : GA[pA]? = some xa) (gB : GB[pB]? = some xb)
    {sa sb : Sector × Blk R} (hsa : sa ∈ A.blocks) (hsb : sb ∈ B.blocks)
    (hK : permuted sb.1 xb = permuted sa.1 xa) :
    FuseP.cM (a := B) (groups := GB) sb pB = FuseP.cM (a := A) (groups := GA) sa pA := by
  obtain ⟨i, O, hdec⟩ := dec_of_stored h.vaA hokA gA hsa
  have hdecB := h.decAx_bond hokA hokB gA gB (FuseP.cM (a := A) (groups := GA) sa pA) i
  rw [hdec] at hdecB
  exact cM_of_dec h.vaB hokB gB hdecB ((h.vaB.blk sb hsb).1) hK

end Ctx0

theorem Arr.elem_congr [Zero R] [Neg R] {x y : Arr R} (hb : x.blocks = y.blocks)
    (hp : x.phases = y.phases) (s : Sector) (o : List Nat) : x.elem s o = y.elem s o := by
  unfold Arr.elem; rw [hb, hp]

theorem single_group_charge {A : Arr R} {G : List (List Nat)} (hv : FuseP.ValidArr A)
    (hok : FuseP.GroupsOk G A.ndim) {g : Nat} {gaxes : List Nat} (hg : G[g]? = some gaxes)
    (hlen : gaxes.length = 1) {sb : Sector × Blk R} (hsb : sb ∈ A.blocks) :
    [FuseP.cM (a := A) (groups := G) sb g] = permuted sb.1 gaxes := by
  have hlt : ∀ x ∈ gaxes, x < A.indices.length := FuseP.groupM_lt hok.adm hg
  have hsl : sb.1.length = A.indices.length := (hv.blk sb hsb).1
  rw [FuseP.cM_single hok.adm hg hlen]
  match gaxes, hlen, hlt with
  | [ax], _, hlt =>
    have h0 : ax < sb.1.length := by rw [hsl]; exact hlt ax (by simp)
    simp [permuted, List.getElem?_eq_getElem h0, List.getD_eq_getElem?_getD]

theorem tensordotBlockwise_fields [Zero R] [Add R] [Mul R] (x y : Arr R) (l xa xb r : List Nat) :
    (tensordotBlockwise x y l xa xb r).sym = x.sym ∧ (tensordotBlockwise x y l xa xb r).fermi = x.fermi
    ∧ (tensordotBlockwise x y l xa xb r).charge = x.sym.combine [x.charge, y.charge]
    ∧ (tensordotBlockwise x y l xa xb r).phases = x.phases
    ∧ (tensordotBlockwise x y l xa xb r).oddpos = x.oddpos := ⟨rfl, rfl, rfl, rfl, rfl⟩

theorem fusedArrM_fields [Zero R] (A : Arr R) (G : List (List Nat)) :
    (FuseP.fusedArrM A G).sym = A.sym ∧ (FuseP.fusedArrM A G).fermi = A.fermi
    ∧ (FuseP.fusedArrM A G).charge = A.charge ∧ (FuseP.fusedArrM A G).phases = A.phases
    ∧ (FuseP.fusedArrM A G).oddpos = A.oddpos := ⟨rfl, rfl, rfl, rfl, rfl⟩

/-- empty alignment: the fused strategy returns early, with the un-pruned free tables; the
    blockwise result has no block either, so both value views are identically zero -/
theorem viaFused_empty [Zero R] [Add R] [Mul R] [Neg R] (a b : Arr R) (l xa xb r : List Nat)
    (hbl : ((dropMisaligned a b xa xb).1.blocks.isEmpty || (dropMisaligned a b xa xb).2.blocks.isEmpty) = true) :
    tensordotViaFused a b l xa xb r = .ok
        { (dropMisaligned a b xa xb).1 with
          indices := without (dropMisaligned a b xa xb).1.indices xa ++ without (dropMisaligned a b xa xb).2.indices xb,
          charge := a.sym.combine [a.charge, b.charge], blocks := [] }
    ∧ (tensordotBlockwise a b l xa xb r).blocks = []
    ∧ ∀ s o, (tensordotBlockwise a b l xa xb r).elem s o = 0 := by
  have hblocks : (tensordotBlockwise a b l xa xb r).blocks = [] := by
    rw [← tensordotBlockwise_blocks_dropMisaligned, tensordotBlockwise_blocks, tdTerms]
    have : tdPairs (dropMisaligned a b xa xb).1 (dropMisaligned a b xa xb).2 l xa xb r = [] := by
      unfold tdPairs
      rcases Bool.or_eq_true _ _ |>.mp hbl with h | h
      · rw [List.isEmpty_iff.mp h]; rfl
      · rw [List.isEmpty_iff.mp h]; simp
    rw [this]; rfl
  refine ⟨tensordotViaFused_noblocks a b l xa xb r hbl, hblocks, ?_⟩
  · intro s o
    unfold Arr.elem
    rw [hblocks]; rfl

/-- fused mode of `tensordot_abelian`: with the parsed axes, take the complements and run
    `_tensordot_via_fused` -/
theorem tensordotA_fused [Zero R] [Add R] [Mul R] (a b : Arr R) (axes : AxesArg) (xa xb : List Nat)
    (h : parseAxes a.ndim b.ndim axes = .ok (xa, xb)) :
    tensordotA a b axes .fused =
      tensordotViaFused a b (freeAxes a.ndim xa) xa xb (freeAxes b.ndim xb) := by
  rw [← without_range, ← without_range]
  unfold tensordotA
  rw [h]
  rfl

theorem tensordotA_blockwise_ok [Zero R] [Add R] [Mul R] (a b : Arr R) (axes : AxesArg) (xa xb : List Nat)
    (h : parseAxes a.ndim b.ndim axes = .ok (xa, xb)) :
    tensordotA a b axes .blockwise =
      .ok (tensordotBlockwise a b (freeAxes a.ndim xa) xa xb (freeAxes b.ndim xb)) := by
  rw [tensordotA_blockwise', h]; rfl

theorem tensordotA_auto_fused [Zero R] [Add R] [Mul R] (a b : Arr R) (axes : AxesArg) (xa xb : List Nat)
    (h : parseAxes a.ndim b.ndim axes = .ok (xa, xb)) (hne : xa ≠ []) :
    tensordotA a b axes .auto =
      tensordotViaFused a b (freeAxes a.ndim xa) xa xb (freeAxes b.ndim xb) := by
  rw [← without_range, ← without_range]
  unfold tensordotA
  rw [h]
  have : xa.isEmpty = false := by cases xa <;> simp_all
  simp only [bind, Except.bind, this, Bool.false_eq_true, if_false]

theorem tensordotA_auto_outer [Zero R] [Add R] [Mul R] (a b : Arr R) (axes : AxesArg) (xb : List Nat)
    (h : parseAxes a.ndim b.ndim axes = .ok ([], xb)) :
    tensordotA a b axes .auto =
      .ok (tensordotBlockwise a b (freeAxes a.ndim []) [] xb (freeAxes b.ndim xb)) := by
  rw [← without_range, ← without_range]
  unfold tensordotA
  rw [h]
  rfl

end TdotP
end SymmModel
