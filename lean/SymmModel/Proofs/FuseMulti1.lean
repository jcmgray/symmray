/-
  SymmModel.Proofs.FuseMulti1 — fusing an ARBITRARY list of groups: the plan of a stored sector
  read axis by axis (front axes / group axes / back axes), the table facts for every multi-axis
  group, and the shape of the fused block.

  Vocabulary of FuseMulti1–7, FuseMultiU, FuseMultiR1–R5 (namespace `FuseP`).  Suffix `M`: for a list of
  several ("multi") groups at once, as `_fuse_core(*axes_groups)` takes them; `G` (`partG`, `tailG`): lists
  with group positions expanded; `U`: the `unfuse` side; `S`: one stage of the round trip.  Upper case marks
  the quantity read from the FUSED index, lower case the one read from the block plan (`DM` / `dM`).
  The new axis of group number `g` is `(giM a groups).position + g`: all groups are inserted, in order, at the
  first fused axis.
    giM a groups          the group info of `calc_fuse_group_info` (`.position`, `.axesBefore`, `.axesAfter`, `.perm`)
    multiB groups g       group `g` exists and has ≠ 1 axes: it gets a fused index with a table
    planM a groups sb     the block plan `calc_fuse_block_info` records for the stored block `sb`
    newIdxM, ndimM, fusedArrM   indices, rank and array after the fuse (`fusedArrM` in FuseMulti3)
    ssM, cM, dM sb g      sub-sector, fused charge, fused size of `sb` on group `g` (from its plan)
    ixM, extsM a groups g the index at the axis of group `g`, and its extents
    axMulti ax, DM sb g   `ax` is the axis of a multi-axis group; size the fused index gives `cM sb g`   (FuseMulti2)
    BshM sb, shapeOfM ns  shape of the fused block that `sb` lands in / of the block of new sector `ns`
    startM, startsM, stM  where `_fuse_blocks_via_insert` writes `sb` inside that block (per axis / all / per group)
    toItemM sb            the (key, starts, reshaped transposed block) triple that loop inserts
    segM, expandK, expandJ   (sub-charges, sub-offsets) of a fused address on group `g`; the address expanded   (FuseMulti6)
    joinI sb offs         the fused offsets of an original offset vector                                       (FuseMulti7)
    partG L seg pos k j   the list `L` with its last `j` of `k` group positions (from `pos`) replaced by `seg`  (FuseMultiR1)
    segS, segSh, segO, segIx   charges / sizes / offsets / indices of the original on the axes of group `g`     (FuseMultiR2)
    KM, SM, IM, idxStage  sector, shape, offsets, indices after the last `j` groups have been unfused
  Hypotheses: `ValidArr a` (FusePlan: index and block clauses of validity; from `a.validB` by `validArr_of_validB`,
  from `ValidP.Core a` by `validArr_of_core`) and `GroupsAdm groups a.ndim` (from `GroupsOk` by `.adm`); `GroupsOk` is
  asked only where "at least one group, none empty" is used.  The bridges to the validity theorems of C01 —
  `validArr_of_core`, `admissible_of_groupsOk`, `fusedArrM_validB` — are stated in Proofs/ValidFuse2, where
  `fuseAdmissibleB` lives (`ValidP.Core`: Proofs/ValidOps).
-/
import SymmModel.Proofs.FuseLemmas
namespace SymmModel
namespace FuseP

variable {R : Type}

/-- group number `g` exists and is a multi-axis group (gets a new fused index with a table) -/
def multiB (groups : List (List Nat)) (g : Nat) : Bool :=
  match groups[g]? with
  | some gx => gx.length != 1
  | none => false

section Multi
variable (a : Arr R) (groups : List (List Nat))

abbrev giM : FuseGroupInfo := calcFuseGroupInfo groups a.duals
/-- the block plan of a stored block (its entry in `fuseInfoOf a groups .blockmap`) -/
def planM (sb : Sector × Blk R) : BlockPlan :=
  planOf a.sym a.indices groups (giM a groups) sb.1 sb.2.shape
def newIdxM : List Index := (fuseInfoOf a groups).newIndices
/-- number of axes of the fused array -/
def ndimM : Nat := (giM a groups).position + groups.length + (giM a groups).axesAfter.length

variable {a groups}

theorem groupM_lt (hok : GroupsAdm groups a.ndim) {g : Nat} {gaxes : List Nat} (hg : groups[g]? = some gaxes) :
    ∀ ax ∈ gaxes, ax < a.indices.length :=
  fun ax hax => hok.lt ax (List.mem_flatten.2 ⟨gaxes, getElem?_mem' hg, hax⟩)

theorem newIdxM_length (hok : GroupsAdm groups a.ndim) : (newIdxM a groups).length = ndimM a groups := by
  simp only [newIdxM, fuseInfoOf, List.length_append, newMidOf_length, permuted_before_length hok,
    permuted_length _ _ afterM_lt, ndimM]

theorem planM_newSector_length (hok : GroupsAdm groups a.ndim) (sb : Sector × Blk R) :
    (planM a groups sb).newSector.length = ndimM a groups := by
  simp [planM, planOf, ndimM, giM, axesBefore_length _ _]; omega

theorem planM_newShape_length (hok : GroupsAdm groups a.ndim) (sb : Sector × Blk R) :
    (planM a groups sb).newShape.length = ndimM a groups := by
  simp [planM, planOf, ndimM, giM, axesBefore_length _ _]; omega


theorem planOf_newShape_before (sym : Sym) (indices : List Index) (sector : Sector) (shp : List Nat)
    {duals : List Bool} {k : Nat} (hk : k < (calcFuseGroupInfo groups duals).position) :
    (planOf sym indices groups (calcFuseGroupInfo groups duals) sector shp).newShape.getD k 0
      = shp.getD k 0 := by
  simp only [planOf]
  rw [List.append_assoc, getD_before _ _ _ _ (by rw [List.length_map, axesBefore_length _ _]; exact hk)]
  rw [axesBefore_range _ _]
  simp [List.getD_eq_getElem?_getD, List.getElem?_map, List.getElem?_range hk]

theorem planOf_newShape_after (sym : Sym) (indices : List Index) (sector : Sector) (shp : List Nat)
    {duals : List Bool} {k : Nat} (hk : k < (calcFuseGroupInfo groups duals).axesAfter.length) :
    (planOf sym indices groups (calcFuseGroupInfo groups duals) sector shp).newShape.getD
        ((calcFuseGroupInfo groups duals).position + groups.length + k) 0
      = shp.getD ((calcFuseGroupInfo groups duals).axesAfter.getD k 0) 0 := by
  simp only [planOf]
  have hl : (List.map (fun ax => List.getD shp ax 0) (calcFuseGroupInfo groups duals).axesBefore
      ++ List.map (fun x => x.2.1) (List.map (midOf sym indices sector shp (calcFuseGroupInfo groups duals))
          groups.zipIdx)).length = (calcFuseGroupInfo groups duals).position + groups.length := by
    simp [axesBefore_length _ _]
  rw [← hl, getD_after]
  simp [List.getD_eq_getElem?_getD, List.getElem?_map, List.getElem?_eq_getElem hk]

theorem axis_cases (ax : Nat) (h : ax < ndimM a groups) :
    ax < (giM a groups).position
    ∨ (∃ g, g < groups.length ∧ ax = (giM a groups).position + g)
    ∨ (∃ j, j < (giM a groups).axesAfter.length ∧ ax = (giM a groups).position + groups.length + j) := by
  simp only [ndimM] at h
  by_cases h1 : ax < (giM a groups).position
  · exact Or.inl h1
  · by_cases h2 : ax < (giM a groups).position + groups.length
    · exact Or.inr (Or.inl ⟨ax - (giM a groups).position, by omega, by omega⟩)
    · exact Or.inr (Or.inr ⟨ax - (giM a groups).position - groups.length, by omega, by omega⟩)

theorem newIdxM_before (hok : GroupsAdm groups a.ndim) {k : Nat} (hk : k < (giM a groups).position) :
    (newIdxM a groups).getD k default = a.indices.getD k default := by
  simp only [newIdxM, fuseInfoOf]
  rw [List.append_assoc, getD_before _ _ _ _ (by rw [permuted_before_length hok]; exact hk),
    permuted_eq_map _ default _ (beforeM_lt hok.lt), axesBefore_range _ _]
  simp [List.getD_eq_getElem?_getD, List.getElem?_map, List.getElem?_range hk]

theorem newIdxM_after (hok : GroupsAdm groups a.ndim) {j : Nat} (hj : j < (giM a groups).axesAfter.length) :
    (newIdxM a groups).getD ((giM a groups).position + groups.length + j) default
      = a.indices.getD ((giM a groups).axesAfter.getD j 0) default := by
  simp only [newIdxM, fuseInfoOf]
  have hl : (permuted a.indices (giM a groups).axesBefore ++ newMidOf a groups).length
      = (giM a groups).position + groups.length := by
    simp [permuted_before_length hok, newMidOf_length]
  rw [← hl, getD_after, permuted_eq_map _ default _ afterM_lt]
  simp [List.getD_eq_getElem?_getD, List.getElem?_map, List.getElem?_eq_getElem hj]

theorem afterM_getD_mem {j : Nat} (hj : j < (giM a groups).axesAfter.length) :
    (giM a groups).axesAfter.getD j 0 ∈ (giM a groups).axesAfter := by
  simp only [List.getD_eq_getElem?_getD, List.getElem?_eq_getElem hj, Option.getD_some]
  exact List.getElem_mem _


theorem multiB_of_getElem? {g : Nat} {gaxes : List Nat} (hg : groups[g]? = some gaxes) :
    multiB groups g = (gaxes.length != 1) := by
  simp only [multiB, hg]

theorem multiB_single {g : Nat} {gaxes : List Nat} (hg : groups[g]? = some gaxes) (hlen : gaxes.length = 1) :
    multiB groups g = false := by
  simp [multiB_of_getElem? hg, hlen]

theorem multiB_multi {g : Nat} {gaxes : List Nat} (hg : groups[g]? = some gaxes) (hlen : gaxes.length ≠ 1) :
    multiB groups g = true := by
  simp [multiB_of_getElem? hg, hlen]

theorem multiB_iff {g : Nat} : multiB groups g = true ↔ ∃ gaxes, groups[g]? = some gaxes ∧ gaxes.length ≠ 1 := by
  simp only [multiB]
  cases groups[g]? with
  | none => simp
  | some gx => simp

/-- sub-sector, fused charge and fused size of a stored block for group `g` -/
def ssM (sb : Sector × Blk R) (g : Nat) : Sector := (planM a groups sb).subsectors.getD g []
def cM (sb : Sector × Blk R) (g : Nat) : Charge :=
  (planM a groups sb).newSector.getD ((giM a groups).position + g) (0, 0)
def dM (sb : Sector × Blk R) (g : Nat) : Nat :=
  (planM a groups sb).newShape.getD ((giM a groups).position + g) 0

variable (a groups) in
/-- the index at group position `g` -/
def ixM (g : Nat) : Index := (newIdxM a groups).getD ((giM a groups).position + g) default

variable (a groups) in
/-- the extents of the index at group position `g` (empty for a single-axis group) -/
def extsM (g : Nat) : Extents := ((ixM a groups g).sub.map (·.2)).getD []

theorem ssM_eq {g : Nat} {gaxes : List Nat} (hg : groups[g]? = some gaxes) (sb : Sector × Blk R) :
    ssM (a := a) (groups := groups) sb g = gaxes.map (fun ax => sb.1.getD ax (0, 0)) := by
  simp only [ssM, planM]
  rw [planOf_subsectors_getD _ _ _ _ _ hg, midOf_sub]

theorem dM_eq (hok : GroupsAdm groups a.ndim) {g : Nat} {gaxes : List Nat} (hg : groups[g]? = some gaxes)
    (sb : Sector × Blk R) :
    dM (a := a) (groups := groups) sb g = prod (gaxes.map (fun ax => sb.2.shape.getD ax 0)) := by
  simp only [dM, planM]
  rw [planOf_newShape_getD _ _ _ _ _ _ hg, midOf_size]

theorem ixM_multi (hok : GroupsAdm groups a.ndim) {g : Nat} {gaxes : List Nat} (hg : groups[g]? = some gaxes)
    (hlen : gaxes.length ≠ 1) :
    ixM a groups g = fusedIndexOf (tableEntries (blockmapOf a groups) (giM a groups).position g)
      ((giM a groups).groupDuals.getD g false) (gaxes.map (fun ax => a.indices.getD ax default)) :=
  fused_index_sub hok hg hlen

theorem ixM_single (hok : GroupsAdm groups a.ndim) {g : Nat} {gaxes : List Nat} (hg : groups[g]? = some gaxes)
    (hlen : gaxes.length = 1) : ixM a groups g = a.indices.getD (gaxes.headD 0) default := by
  simp only [ixM, newIdxM]
  rw [newIndices_getD_mid hok hg]; simp [hlen]

theorem ixM_sub (hok : GroupsAdm groups a.ndim) {g : Nat} {gaxes : List Nat} (hg : groups[g]? = some gaxes)
    (hlen : gaxes.length ≠ 1) :
    (ixM a groups g).sub = some (gaxes.map (fun ax => a.indices.getD ax default), extsM a groups g) := by
  simp only [extsM]
  rw [ixM_multi hok hg hlen]; rfl

theorem ixM_wf (hv : ValidArr a) (hok : GroupsAdm groups a.ndim) (g : Nat) :
    Index.wfB a.sym (ixM a groups g) = true :=
  fused_index_wf hv hok g

theorem ixM_dual (hok : GroupsAdm groups a.ndim) {g : Nat} {gaxes : List Nat} (hg : groups[g]? = some gaxes)
    (hlen : gaxes.length ≠ 1) : (ixM a groups g).dual = (giM a groups).groupDuals.getD g false := by
  rw [ixM_multi hok hg hlen]; rfl

theorem ixM_extent (hv : ValidArr a) (hok : GroupsAdm groups a.ndim) {g : Nat} {gaxes : List Nat}
    (hg : groups[g]? = some gaxes) (hlen : gaxes.length ≠ 1) {c : Charge} {e : Extent}
    (he : alookup (extsM a groups g) c = some e) :
    ∃ d, alookup (ixM a groups g).cm c = some d
      ∧ ExtentOk a.sym ((giM a groups).groupDuals.getD g false)
          (gaxes.map (fun ax => a.indices.getD ax default)) c d e := by
  have := wfB_extent (ixM_wf hv hok _) (ixM_sub hok hg hlen) he
  rwa [ixM_dual hok hg hlen] at this

theorem stored_in_tableM (hv : ValidArr a) (hok : GroupsAdm groups a.ndim) {g : Nat} {gaxes : List Nat}
    (hg : groups[g]? = some gaxes) (hlen : gaxes.length ≠ 1) {sb : Sector × Blk R} (hsb : sb ∈ a.blocks) :
    ∃ e D st, alookup (extsM a groups g) (cM (a := a) (groups := groups) sb g) = some e
      ∧ startOf e (ssM (a := a) (groups := groups) sb g) = some (st, dM (a := a) (groups := groups) sb g)
      ∧ (ixM a groups g).sizeOf? (cM (a := a) (groups := groups) sb g) = some D
      ∧ sumN (e.map (·.2)) = D := by
  have hE := tableEntries_entryOk hv (fun _ => hok.lt) hg hlen
  have hmem : (ssM (a := a) (groups := groups) sb g, cM (a := a) (groups := groups) sb g,
      dM (a := a) (groups := groups) sb g)
      ∈ tableEntries (blockmapOf a groups) (giM a groups).position g := by
    simp only [tableEntries, blockmapOf, List.map_map, List.mem_map, Function.comp]
    exact ⟨sb, hsb, rfl⟩
  obtain ⟨e, D, h1, h2, h3, h4, h5⟩ := fusedIndexOf_complete _
    (fun x hx y hy hxy => entryOk_functional (hE x hx) (hE y hy) hxy) hmem
  obtain ⟨st, hst⟩ := startOf_of_mem_nodup h3 h2
  refine ⟨e, D, st, ?_, hst, ?_, h5⟩
  · simp only [extsM]; rw [ixM_multi hok hg hlen]; exact h1
  · rw [ixM_multi hok hg hlen]; exact h4

end Multi

end FuseP
end SymmModel
