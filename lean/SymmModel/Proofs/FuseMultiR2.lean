/-
  SymmModel.Proofs.FuseMultiR2 — the general round trip, stage 0: the fused array described in
  "forward" form (every stored element sits at its joined address; nothing else is non-zero).
-/
import SymmModel.Proofs.FuseMultiR1
import SymmModel.Proofs.ValidFuse2
namespace SymmModel
namespace FuseP

variable {R : Type}

section Multi
variable {a : Arr R} {groups : List (List Nat)} [Zero R]


/-! charges, sizes, offsets and indices of the original on the axes of group `g`: what the position of group `g`
    is replaced by when it is unfused -/

variable (groups) in
def segS (sb : Sector × Blk R) (g : Nat) : Sector := (groups.getD g []).map (fun ax => sb.1.getD ax (0, 0))
variable (groups) in
def segSh (sb : Sector × Blk R) (g : Nat) : List Nat := (groups.getD g []).map (fun ax => sb.2.shape.getD ax 0)
variable (groups) in
def segO (offs : List Nat) (g : Nat) : List Nat := (groups.getD g []).map (fun ax => offs.getD ax 0)
variable (a groups) in
def segIx (g : Nat) : List Index := (groups.getD g []).map (fun ax => a.indices.getD ax default)

/-! sector (`KM`), shape (`SM`), offsets (`IM`) and indices (`idxStage`) after the last `j` groups have been unfused -/

variable (a groups) in
def KM (sb : Sector × Blk R) (j : Nat) : Sector :=
  partG (planM a groups sb).newSector (segS groups sb) (giM a groups).position groups.length j
variable (a groups) in
def SM (sb : Sector × Blk R) (j : Nat) : List Nat :=
  partG (BshM a groups sb) (segSh groups sb) (giM a groups).position groups.length j
variable (a groups) in
def IM (sb : Sector × Blk R) (offs : List Nat) (j : Nat) : List Nat :=
  partG (joinI a groups sb offs) (segO groups offs) (giM a groups).position groups.length j
variable (a groups) in
def idxStage (j : Nat) : List Index :=
  partG (newIdxM a groups) (segIx a groups) (giM a groups).position groups.length j

variable (a groups) in
/-- description of the array after the last `j` groups have been unfused -/
structure StageInv (j : Nat) (X : Arr R) : Prop where
  core : ValidP.Core X
  sym : X.sym = a.sym
  idx : X.indices = idxStage a groups j
  here : ∀ sb ∈ a.blocks, ∃ V, alookup X.blocks (KM a groups sb j) = some V ∧ V.shape = SM a groups sb j
    ∧ ∀ offs, inBox sb.2.shape offs = true → V.get (IM a groups sb offs j) = sb.2.get offs
  only : ∀ K V, alookup X.blocks K = some V → ∀ J, inBox V.shape J = true →
    (∃ sb ∈ a.blocks, ∃ offs, inBox sb.2.shape offs = true ∧ K = KM a groups sb j ∧ J = IM a groups sb offs j)
    ∨ V.get J = 0

theorem fused_support (hv : ValidArr a) (hok : GroupsOk groups a.ndim) {ns : Sector} {B : Blk R}
    (hB : alookup (fusedBlocksM a groups) ns = some B) {i : List Nat} (hi : inBox B.shape i = true) :
    (∃ sb ∈ a.blocks, ∃ offs, inBox sb.2.shape offs = true ∧ ns = (planM a groups sb).newSector
      ∧ i = joinI a groups sb offs) ∨ B.get i = 0 := by
  have hinv := fusedBlocksM_inv hv hok.adm
  obtain ⟨sb0, hsb0, hns0, hBs⟩ := fusedBlockM_info hv hok.adm hB
  subst hns0
  have hShape0 := shapeOfM_stored hv hok.adm hsb0
  by_cases hex : ∃ sb ∈ a.blocks, (planM a groups sb).newSector = (planM a groups sb0).newSector
      ∧ inRegion (toItemM a groups sb).2.1 (toItemM a groups sb).2.2.shape i = true
  · left
    obtain ⟨sb, hsb, hnsb, hreg⟩ := hex
    have hBsb := BshM_eq_of_ns hv hok.adm hsb hsb0 hnsb
    have hib' : inBox (BshM a groups sb) i = true := by rw [hBsb, ← hBs]; exact hi
    have hil : i.length = ndimM a groups := by rw [inBox_length hib', BshM_length]
    have hrg := (regionM hok.adm sb hib').1 hreg
    have hshl := hv.shape_length hsb
    let r : Nat → Nat := fun g => i.getD ((giM a groups).position + g) 0 - stM a groups sb g
    let ms : Nat → List Nat := fun g => (groups.getD g []).map (fun ax => sb.2.shape.getD ax 0)
    have hgle : ∀ g, g < groups.length → stM a groups sb g ≤ i.getD ((giM a groups).position + g) 0 := by
      intro g hg
      by_cases hm : multiB groups g = true
      · exact (hrg g hg hm).1
      · have hm' : multiB groups g = false := by simpa using hm
        have hs0 : stM a groups sb g = 0 := stM_of_single sb hg hm'
        omega
    have hrlt : ∀ g, g < groups.length → r g < prod (ms g) := relOffset_lt hok sb hib' hrg
    have hJbox := expanded_inBox hok sb hshl hib' r hrlt
    obtain ⟨offs, hol, hperm, hobox⟩ := exists_unpermute (perm_nodup (hokD hok).adm)
      (by rw [perm_length (hokD hok).adm, duals_length])
      (fun p hp => (mem_permM hok.adm).1 hp) (fun ax hax => (mem_permM hok.adm).2 hax) hshl hJbox
    refine ⟨sb, hsb, offs, hobox, hnsb.symm, ?_⟩
    rw [permutedM_eq hok.adm offs 0 hol] at hperm
    obtain ⟨e1, e2, e3⟩ := parts_inj hperm (by simp) (by simp)
    have hE2 := flatten_map_inj (List.range groups.length) _ _ (by
      intro g _
      simp only [List.length_map, unravel_length]) e2
    apply list_ext_getD 0 (by rw [hil, joinI_length])
    intro ax hax
    rw [hil] at hax
    rcases axis_cases ax hax with h | ⟨g, hg, rfl⟩ | ⟨j, hj, rfl⟩
    · rw [joinI_before sb offs h]; exact (range_map_inj e1 ax h).symm
    · rw [joinI_mid sb offs hg]
      have := hE2 g (List.mem_range.2 hg)
      rw [this, ravel_unravel (hrlt g hg)]
      have := hgle g hg
      simp only [r]; omega
    · rw [joinI_after sb offs hj]; exact (range_map_inj e3 j hj).symm
  · right
    apply hinv.miss _ B hB i (by rw [hShape0, ← hBs]; exact hi)
    intro it hit hkey
    obtain ⟨sb, hsb, rfl⟩ := List.mem_map.1 hit
    cases hreg : inRegion (toItemM a groups sb).2.1 (toItemM a groups sb).2.2.shape i with
    | false => rfl
    | true => exact absurd ⟨sb, hsb, hkey, hreg⟩ hex

theorem stage_zero (hc : ValidP.Core a) (hok : GroupsOk groups a.ndim) :
    StageInv a groups 0 (fusedArrM a groups) := by
  have hv := validArr_of_core hc
  refine ⟨?_, rfl, ?_, ?_, ?_⟩
  · exact ValidP.core_fusedArrM hc (admissible_of_groupsOk hok)
  · simp only [idxStage, partG_zero]; rfl
  · intro sb hsb
    obtain ⟨B, hB, hBs⟩ := fusedBlockM_exists hv hok.adm hsb
    refine ⟨B, by simp only [KM, partG_zero]; exact hB, by simp only [SM, partG_zero]; exact hBs, ?_⟩
    intro offs ho
    obtain ⟨B', h1, h2, _, h4, h5⟩ := fused_ontoM hv hok hsb ho
    rw [hB] at h1; simp only [Option.some.injEq] at h1; subst h1
    obtain ⟨_, hget⟩ := fused_getM hv hok hB h2
    have hshl := hv.shape_length hsb
    have := (hget sb.1 offs (hv.blk sb hsb).1 (by rw [inBox_length ho, hshl]) h4 h5).1
    rw [alookup_of_mem_nodup hv.nodup hsb] at this
    simp only [IM, partG_zero]
    exact this
  · intro K V hl J hJ
    have hl' : alookup (fusedBlocksM a groups) K = some V := hl
    rcases fused_support hv hok hl' hJ with ⟨sb, hsb, offs, ho, hK, hJ'⟩ | h0
    · left
      exact ⟨sb, hsb, offs, ho, by simp only [KM, partG_zero]; exact hK, by simp only [IM, partG_zero]; exact hJ'⟩
    · exact Or.inr h0

end Multi

end FuseP
end SymmModel
