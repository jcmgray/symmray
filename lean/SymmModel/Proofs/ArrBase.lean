/-
  SymmModel.Proofs.ArrBase — what the accessors of Model/Index.lean and Model/Arr.lean do:
  `Index.conj` on the fields; `Arr.blockShape?` (when it returns, lengths, dependence on the
  charge tables only); `Arr.elem` (absent sector, stored block, no pending signs); `Arr.isPerm` of
  the reversal.  Core Lean only.
-/
import SymmModel.Model.Arr
import SymmModel.Proofs.BaseAlist
import SymmModel.Proofs.BaseList

namespace SymmModel

namespace Index

theorem conj_cm (i : Index) : i.conj.cm = i.cm := by
  obtain ⟨cm, d, sub⟩ := i
  cases sub with
  | none => rfl
  | some se => obtain ⟨subs, exts⟩ := se; rfl

theorem conj_dual (i : Index) : i.conj.dual = !i.dual := by
  obtain ⟨cm, d, sub⟩ := i
  cases sub with
  | none => rfl
  | some se => obtain ⟨subs, exts⟩ := se; rfl

theorem conjList_eq_map (l : List Index) : Index.conjList l = l.map Index.conj := by
  induction l with
  | nil => rfl
  | cons i is ih => simp [Index.conjList, ih]

end Index

theorem blockShape?_eq_some_iff (ixs : List Index) (s : Sector) (shp : List Nat) :
    Arr.blockShape? ixs s = some shp ↔
      ixs.length = s.length ∧
      List.zipWith (fun (ix : Index) c => ix.sizeOf? c) ixs s = shp.map some := by
  unfold Arr.blockShape?
  by_cases h : ixs.length = s.length
  · simp [h, mapM_id_eq_some]
  · simp [h]

theorem blockShape?_length {ixs : List Index} {s : Sector} {shp : List Nat}
    (h : Arr.blockShape? ixs s = some shp) : s.length = ixs.length ∧ shp.length = ixs.length := by
  obtain ⟨h1, h2⟩ := (blockShape?_eq_some_iff _ _ _).mp h
  have := congrArg List.length h2
  simp only [List.length_zipWith, List.length_map] at this
  omega

theorem blockShape?_append {ixs ixs' : List Index} {s s' : Sector} {shp shp' : List Nat}
    (h : Arr.blockShape? ixs s = some shp) (h' : Arr.blockShape? ixs' s' = some shp') :
    Arr.blockShape? (ixs ++ ixs') (s ++ s') = some (shp ++ shp') := by
  obtain ⟨h1, h2⟩ := (blockShape?_eq_some_iff _ _ _).mp h
  obtain ⟨h1', h2'⟩ := (blockShape?_eq_some_iff _ _ _).mp h'
  rw [blockShape?_eq_some_iff]
  refine ⟨by simp [h1, h1'], ?_⟩
  rw [List.zipWith_append h1, h2, h2', List.map_append]

theorem blockShape?_append_inv {i1 i2 : List Index} {s1 s2 : Sector} {shp : List Nat}
    (hl : i1.length = s1.length) (h : Arr.blockShape? (i1 ++ i2) (s1 ++ s2) = some shp) :
    ∃ p1 p2, shp = p1 ++ p2 ∧ Arr.blockShape? i1 s1 = some p1 ∧ Arr.blockShape? i2 s2 = some p2 := by
  rw [blockShape?_eq_some_iff] at h
  obtain ⟨h1, h2⟩ := h
  rw [List.zipWith_append hl] at h2
  obtain ⟨p1, p2, rfl, e1, e2⟩ := List.append_eq_map_iff.1 h2
  simp only [List.length_append] at h1
  exact ⟨p1, p2, rfl, (blockShape?_eq_some_iff _ _ _).2 ⟨hl, e1.symm⟩,
    (blockShape?_eq_some_iff _ _ _).2 ⟨by omega, e2.symm⟩⟩

theorem blockShape?_congr {idx idx' : List Index} (h : idx.map Index.cm = idx'.map Index.cm)
    (s : Sector) : Arr.blockShape? idx s = Arr.blockShape? idx' s := by
  have hl : idx.length = idx'.length := by simpa using congrArg List.length h
  have e : List.zipWith (fun (ix : Index) c => ix.sizeOf? c) idx s =
      List.zipWith (fun (ix : Index) c => ix.sizeOf? c) idx' s := by
    have e1 : ∀ l : List Index, List.zipWith (fun (ix : Index) c => ix.sizeOf? c) l s =
        List.zipWith (fun cm c => alookup cm c) (l.map Index.cm) s := by
      intro l; rw [List.zipWith_map_left]; rfl
    rw [e1, e1, h]
  unfold Arr.blockShape?
  rw [hl, e]

theorem blockShape?_conj (idx : List Index) (s : Sector) :
    Arr.blockShape? (idx.map Index.conj) s = Arr.blockShape? idx s :=
  blockShape?_congr (by simp [Function.comp_def, Index.conj_cm]) s

theorem blockShape?_single {ix : Index} {c : Charge} {d : Nat} (h : ix.sizeOf? c = some d) :
    Arr.blockShape? [ix] [c] = some [d] := by
  rw [blockShape?_eq_some_iff]; simp [h]

namespace Arr
variable {R : Type} [Zero R] [Neg R]

theorem elem_none {a : Arr R} {s : Sector} (h : alookup a.blocks s = none) (off : List Nat) :
    a.elem s off = 0 := by
  unfold Arr.elem; rw [h]

theorem elem_of_not_mem {a : Arr R} {s : Sector} (h : s ∉ a.sectors) (off : List Nat) :
    a.elem s off = 0 :=
  elem_none (alookup_eq_none_iff.mpr h) off

theorem elem_of_mem {a : Arr R} (hnd : a.sectors.Nodup) {s : Sector} {b : Blk R}
    (hm : (s, b) ∈ a.blocks) (off : List Nat) :
    a.elem s off = if alookup a.phases s == some (-1) then - b.get off else b.get off := by
  unfold Arr.elem
  rw [alookup_of_mem_nodup hnd hm]

theorem elem_of_phases_nil {a : Arr R} (h : a.phases = []) (s : Sector) (off : List Nat) :
    a.elem s off = match alookup a.blocks s with
      | none => 0
      | some b => b.get off := by
  unfold Arr.elem
  rw [h]
  cases alookup a.blocks s <;> simp [alookup]

omit [Zero R] [Neg R] in
theorem isPerm_reversedAxes (n : Nat) : Arr.isPerm (Arr.reversedAxes n) n = true := by
  simp [Arr.isPerm, Arr.reversedAxes]

end Arr

end SymmModel
