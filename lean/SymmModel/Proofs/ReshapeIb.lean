/-
  SymmModel.Proofs.ReshapeIb — the pull-back of addresses through a plan of fuse calls is a partial
  FUNCTION of the address of the result (`pulled_unique`), and the two cases of the total statement of
  ReshapeIa exclude each other (`zeroAt_pulled_none`).
-/
import SymmModel.Proofs.ReshapeIa
namespace SymmModel.ReshapeI
open SymmModel SymmModel.Reshape SymmModel.C07 SymmModel.Reshape5 SymmModel.ReshapeH ReshapeP FuseP
open SymmModel.Lazy
set_option linter.unusedSectionVars false

variable {R : Type} [Zero R] [Neg R] [LawfulNeg R]

theorem pulled_unique : ∀ (calls : List (List (List Nat))) (a y : Arr R) (lb : Nat) ns i s o σ s' o' σ',
    Pulled a calls lb y ns i s o σ → Pulled a calls lb y ns i s' o' σ' → s = s' ∧ o = o' ∧ σ = σ' := by
  intro calls
  induction calls with
  | nil =>
    intro a y lb ns i s o σ s' o' σ' h h'
    obtain ⟨rfl, rfl, rfl⟩ := h
    obtain ⟨rfl, rfl, rfl⟩ := h'
    exact ⟨rfl, rfl, rfl⟩
  | cons G rest ih =>
    intro a y lb ns i s o σ s' o' σ' h h'
    obtain ⟨P, y1, s1, o1, σ1, B1, segs, hc, hy1, hpr, _, _, hsl, hsp, _, _, hse, hoe, hσ⟩ := h
    obtain ⟨P', y1', s1', o1', σ1', B1', segs', hc', hy1', hpr', _, _, hsl', hsp', _, _, hse', hoe', hσ'⟩ := h'
    rw [hy1] at hy1'; injection hy1' with hy1'; subst hy1'
    obtain rfl : P = P' := hc.pos_unique hc'
    obtain ⟨rfl, rfl, rfl⟩ := ih y1 y _ ns i s1 o1 σ1 s1' o1' σ1' hpr hpr'
    have hsegs : segs = segs' := splitAddr_segs_unique (f := fun g =>
      splitAddr (y1.indices.getD (P + g) default) (s1.getD (P + g) (0, 0)) (o1.getD (P + g) 0))
      hsl hsl' hsp hsp'
    subst hsegs
    subst hse; subst hse'; subst hoe; subst hoe'
    exact ⟨rfl, rfl, by rw [hσ, hσ']⟩

theorem zeroAt_pulled_none : ∀ (calls : List (List (List Nat))) (a y : Arr R) (lb : Nat) ns i,
    ZeroAt a calls lb y ns i → ∀ s o σ, Pulled a calls lb y ns i s o σ → alookup a.blocks s = none := by
  intro calls
  induction calls with
  | nil => intro a y lb ns i hz; exact hz.elim
  | cons G rest ih =>
    intro a y lb ns i hz s o σ hp
    obtain ⟨P, y1, hc, hy1, hz⟩ := hz
    rcases hz with hz | ⟨s', o', σ', hp', hnone⟩
    · obtain ⟨P', y1', s1, o1, σ1, B1, segs, hc', hy1', hpr, hB1, _⟩ := hp
      rw [hy1] at hy1'; injection hy1' with hy1'; subst hy1'
      obtain rfl : P = P' := hc.pos_unique hc'
      have := ih y1 y _ ns i hz s1 o1 σ1 hpr
      rw [this] at hB1; cases hB1
    · obtain ⟨rfl, _, _⟩ := pulled_unique (G :: rest) a y lb ns i s o σ s' o' σ' hp hp'
      exact hnone

theorem zeroAt_excl (calls : List (List (List Nat))) (a y : Arr R) (lb : Nat) ns i
    (hz : ZeroAt a calls lb y ns i) s o σ (hp : Pulled a calls lb y ns i s o σ) : ¬ Stored a s o := by
  intro ⟨b, hb, _⟩
  rw [zeroAt_pulled_none calls a y lb ns i hz s o σ hp] at hb
  cases hb

end SymmModel.ReshapeI
