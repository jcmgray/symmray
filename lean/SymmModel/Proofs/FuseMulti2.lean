/-
  SymmModel.Proofs.FuseMulti2 — fusing an arbitrary list of groups with the insert strategy:
  shape of the fused blocks, the start offsets, `fuseInsert` as an `insFold`, regions.
-/
import SymmModel.Proofs.FuseMulti1
namespace SymmModel
namespace FuseP

variable {R : Type}

theorem blockShape?_pointwise {idx : List Index} {s : Sector} {shp : List Nat}
    (h1 : idx.length = s.length) (h2 : shp.length = s.length)
    (h : ∀ ax, ax < s.length → (idx.getD ax default).sizeOf? (s.getD ax (0, 0)) = some (shp.getD ax 0)) :
    Arr.blockShape? idx s = some shp := by
  rw [blockShape?_eq_some_iff]
  refine ⟨h1, ?_⟩
  apply List.ext_getElem
  · simp [h1, h2]
  · intro k hk1 hk2
    simp only [List.length_zipWith, h1, Nat.min_self] at hk1
    have := h k hk1
    simp only [List.getD_eq_getElem?_getD, List.getElem?_eq_getElem (show k < idx.length by omega),
      List.getElem?_eq_getElem hk1, List.getElem?_eq_getElem (show k < shp.length by omega),
      Option.getD_some] at this
    simp [this]

theorem getD_range_map {α : Type} (f : Nat → α) (n k : Nat) (d : α) (hk : k < n) :
    ((List.range n).map f).getD k d = f k := by
  simp [List.getD_eq_getElem?_getD, List.getElem?_map, List.getElem?_range hk]

section Multi
variable {a : Arr R} {groups : List (List Nat)}

theorem cM_single (hok : GroupsAdm groups a.ndim) {g : Nat} {gaxes : List Nat} (hg : groups[g]? = some gaxes)
    (hlen : gaxes.length = 1) (sb : Sector × Blk R) :
    cM (a := a) (groups := groups) sb g = sb.1.getD (gaxes.headD 0) (0, 0) := by
  simp only [cM, planM]
  rw [planOf_newSector_getD _ _ _ _ _ _ hg, midOf_single _ _ _ _ _ g hlen]

theorem dM_single (hok : GroupsAdm groups a.ndim) {g : Nat} {gaxes : List Nat} (hg : groups[g]? = some gaxes)
    (hlen : gaxes.length = 1) (sb : Sector × Blk R) :
    dM (a := a) (groups := groups) sb g = sb.2.shape.getD (gaxes.headD 0) 0 := by
  simp only [dM, planM]
  rw [planOf_newShape_getD _ _ _ _ _ _ hg, midOf_single _ _ _ _ _ g hlen]

theorem single_head_lt (hok : GroupsAdm groups a.ndim) {g : Nat} {gaxes : List Nat} (hg : groups[g]? = some gaxes)
    (hlen : gaxes.length = 1) : gaxes.headD 0 < a.indices.length := by
  apply groupM_lt hok hg
  match gaxes, hlen with
  | [ax], _ => simp

variable (a groups) in
/-- new axis `ax` carries a freshly fused index -/
def axMulti (ax : Nat) : Bool :=
  decide ((giM a groups).position ≤ ax) && decide (ax < (giM a groups).position + groups.length)
    && multiB groups (ax - (giM a groups).position)

variable (a groups) in
/-- size the index of group `g` gives to the charge a stored sector has there -/
def DM (sb : Sector × Blk R) (g : Nat) : Nat :=
  ((ixM a groups g).sizeOf? (cM (a := a) (groups := groups) sb g)).getD 0

variable (a groups) in
/-- shape of the fused block a stored sector lands in -/
def BshM (sb : Sector × Blk R) : List Nat :=
  (List.range (ndimM a groups)).map (fun ax =>
    if axMulti a groups ax then DM a groups sb (ax - (giM a groups).position)
    else (planM a groups sb).newShape.getD ax 0)

theorem BshM_length (sb : Sector × Blk R) : (BshM a groups sb).length = ndimM a groups := by simp [BshM]

theorem axMulti_before {k : Nat} (hk : k < (giM a groups).position) : axMulti a groups k = false := by
  simp only [axMulti]; have : ¬ ((giM a groups).position ≤ k) := by omega
  simp [this]

theorem axMulti_after {j : Nat} : axMulti a groups ((giM a groups).position + groups.length + j) = false := by
  simp only [axMulti]
  have : ¬ ((giM a groups).position + groups.length + j < (giM a groups).position + groups.length) := by omega
  simp [this]

theorem axMulti_mid {g : Nat} (hg : g < groups.length) :
    axMulti a groups ((giM a groups).position + g) = multiB groups g := by
  simp only [axMulti]
  have h1 : (giM a groups).position ≤ (giM a groups).position + g := by omega
  have h2 : (giM a groups).position + g < (giM a groups).position + groups.length := by omega
  simp [h1, h2]

theorem shape_storedM (hv : ValidArr a) (hok : GroupsAdm groups a.ndim) {sb : Sector × Blk R}
    (hsb : sb ∈ a.blocks) :
    Arr.blockShape? (newIdxM a groups) (planM a groups sb).newSector = some (BshM a groups sb) := by
  have hshp := (hv.blk sb hsb).2.1
  apply blockShape?_pointwise
  · rw [newIdxM_length hok, planM_newSector_length hok]
  · rw [BshM_length, planM_newSector_length hok]
  · intro ax hax
    rw [planM_newSector_length hok] at hax
    simp only [BshM]
    rw [getD_range_map _ _ _ _ hax]
    rcases axis_cases ax hax with h | ⟨g, hg, rfl⟩ | ⟨j, hj, rfl⟩
    · rw [axMulti_before h, newIdxM_before hok h]
      simp only [Bool.false_eq_true, if_false, planM]
      rw [planOf_newSector_before _ _ _ _ _ _ h, planOf_newShape_before _ _ _ _ h]
      have hlt : ax < a.indices.length := by
        have := position_le_length (duals := a.duals) hok.lt; exact Nat.lt_of_lt_of_le h this
      obtain ⟨ix, c, _, _, h3, h4, h5⟩ := blockShape?_get hshp hlt
      rw [h4, h5, h3]
    · rw [axMulti_mid hg]
      have hgg : groups[g]? = some groups[g] := List.getElem?_eq_getElem hg
      by_cases hlen : groups[g].length = 1
      · have hm : multiB groups g = false := multiB_single hgg hlen
        simp only [hm, Bool.false_eq_true, if_false]
        have h1 := ixM_single (a := a) hok hgg hlen
        have h2 := cM_single (a := a) hok hgg hlen sb
        have h3 := dM_single (a := a) hok hgg hlen sb
        simp only [ixM, cM, dM] at h1 h2 h3
        rw [h1, h2, h3]
        obtain ⟨ix, c, _, _, e3, e4, e5⟩ := blockShape?_get hshp (single_head_lt hok hgg hlen)
        rw [e4, e5, e3]
      · have hm : multiB groups g = true := multiB_multi hgg hlen
        simp only [hm, if_true, Nat.add_sub_cancel_left]
        obtain ⟨e, D, st, _, _, h3, _⟩ := stored_in_tableM hv hok hgg hlen hsb
        simp only [DM, h3, Option.getD_some]
        exact h3
    · rw [axMulti_after, newIdxM_after hok hj]
      simp only [Bool.false_eq_true, if_false, planM]
      rw [planOf_newSector_after _ _ _ _ _ _ hj, planOf_newShape_after _ _ _ _ hj]
      obtain ⟨ix, c, _, _, h3, h4, h5⟩ := blockShape?_get hshp (afterM_lt _ (afterM_getD_mem hj))
      rw [h4, h5, h3]


variable (a groups) in
/-- start of the region of a stored block along new axis `ax` -/
def startM (sb : Sector × Blk R) (ax : Nat) : Nat :=
  if axMulti a groups ax then
    ((startOf ((alookup (extsM a groups (ax - (giM a groups).position))
        (cM (a := a) (groups := groups) sb (ax - (giM a groups).position))).getD [])
      (ssM (a := a) (groups := groups) sb (ax - (giM a groups).position))).getD (0, 0)).1
  else 0

theorem startM_of_not_multi (sb : Sector × Blk R) {ax : Nat} (h : axMulti a groups ax = false) :
    startM a groups sb ax = 0 := by
  simp only [startM, h, Bool.false_eq_true, if_false]

variable (a groups) in
/-- the start offsets `_fuse_blocks_via_insert` computes for a stored block -/
def startsM (sb : Sector × Blk R) : List Nat := (List.range (ndimM a groups)).map (startM a groups sb)

variable (a groups) in
/-- what one iteration of `_fuse_blocks_via_insert` inserts: new sector, start offsets, the transposed block
    reshaped to the plan's new shape -/
def toItemM [Zero R] (sb : Sector × Blk R) : Item R :=
  ((planM a groups sb).newSector, startsM a groups sb,
   (sb.2.transposeK (giM a groups).perm).reshapeK (planM a groups sb).newShape)

variable (a groups) in
/-- shape of the block of new sector `ns` in the new index tables (`[]` if it has none) -/
def shapeOfM (ns : Sector) : List Nat := (Arr.blockShape? (newIdxM a groups) ns).getD []

theorem shapeOfM_stored (hv : ValidArr a) (hok : GroupsAdm groups a.ndim) {sb : Sector × Blk R}
    (hsb : sb ∈ a.blocks) : shapeOfM a groups (planM a groups sb).newSector = BshM a groups sb := by
  simp [shapeOfM, shape_storedM hv hok hsb]

theorem BshM_eq_of_ns (hv : ValidArr a) (hok : GroupsAdm groups a.ndim) {sb sb0 : Sector × Blk R}
    (hsb : sb ∈ a.blocks) (hsb0 : sb0 ∈ a.blocks)
    (h : (planM a groups sb).newSector = (planM a groups sb0).newSector) :
    BshM a groups sb = BshM a groups sb0 := by
  rw [← shapeOfM_stored hv hok hsb, h, shapeOfM_stored hv hok hsb0]

theorem mem_singlets {duals : List Bool} {g : Nat} :
    g ∈ (calcFuseGroupInfo groups duals).singlets ↔ ∃ gx, groups[g]? = some gx ∧ gx.length = 1 := by
  simp only [calcFuseGroupInfo, List.mem_map, List.mem_filter, List.mem_zipIdx_iff_getElem?, beq_iff_eq]
  constructor
  · rintro ⟨p, ⟨h1, h2⟩, rfl⟩; exact ⟨p.1, h1, h2⟩
  · rintro ⟨gx, h1, h2⟩; exact ⟨(gx, g), ⟨h1, h2⟩, rfl⟩

theorem not_singlet_eq_multi {duals : List Bool} {g : Nat} (hg : g < groups.length) :
    (!(calcFuseGroupInfo groups duals).singlets.contains g) = multiB groups g := by
  have hgg : groups[g]? = some groups[g] := List.getElem?_eq_getElem hg
  by_cases hlen : groups[g].length = 1
  · have h1 : g ∈ (calcFuseGroupInfo groups duals).singlets := mem_singlets.2 ⟨_, hgg, hlen⟩
    simp [multiB, hgg, hlen, h1]
  · have h1 : g ∉ (calcFuseGroupInfo groups duals).singlets := by
      intro h; obtain ⟨gx, e1, e2⟩ := mem_singlets.1 h
      rw [hgg] at e1; simp only [Option.some.injEq] at e1; subst e1; exact hlen e2
    simp [multiB, hgg, hlen, h1]

theorem alookup_blockmapM (hv : ValidArr a) {sb : Sector × Blk R} (hsb : sb ∈ a.blocks) :
    alookup (blockmapOf a groups) sb.1 = some (planM a groups sb) :=
  alookup_blockmapOf hv hsb

theorem starts_multi (hv : ValidArr a) (hok : GroupsAdm groups a.ndim) {sb : Sector × Blk R}
    (hsb : sb ∈ a.blocks) :
    (List.range (newIdxM a groups).length).mapM (fun ax =>
      if (giM a groups).position ≤ ax && ax < (giM a groups).position + (giM a groups).numGroups
          && !(giM a groups).singlets.contains (ax - (giM a groups).position) then
        match extentStart? ((newIdxM a groups).getD ax default) ((planM a groups sb).newSector.getD ax (0, 0))
                ((planM a groups sb).subsectors.getD (ax - (giM a groups).position) []) with
        | some (st, _) => (pure st : Except Err Nat)
        | none => throw Err.key
      else pure 0)
    = .ok (startsM a groups sb) := by
  rw [newIdxM_length hok]
  apply mapM_ok_of_forall
  intro ax hax
  simp only [List.mem_range] at hax
  rw [numGroups_eq]
  by_cases hc : (giM a groups).position ≤ ax ∧ ax < (giM a groups).position + groups.length
  · obtain ⟨g, rfl⟩ : ∃ g, ax = (giM a groups).position + g := ⟨ax - (giM a groups).position, by omega⟩
    have hg : g < groups.length := by omega
    have hgg : groups[g]? = some groups[g] := List.getElem?_eq_getElem hg
    have h1 : (giM a groups).position ≤ (giM a groups).position + g := by omega
    simp only [h1, hc.2, decide_true, Bool.true_and, Nat.add_sub_cancel_left, not_singlet_eq_multi hg,
      startM, axMulti_mid hg]
    by_cases hm : multiB groups g = true
    · obtain ⟨gx, e1, hlen⟩ := multiB_iff.1 hm
      rw [hgg] at e1; simp only [Option.some.injEq] at e1; subst e1
      obtain ⟨e, D, st, t1, t2, _, _⟩ := stored_in_tableM hv hok hgg hlen hsb
      simp only [hm, if_true]
      have hx := extentStart?_eq (ixM_sub (a := a) hok hgg hlen) t1
        (ssM (a := a) (groups := groups) sb g)
      simp only [ixM, cM, ssM] at hx t1 t2
      rw [hx, t2]
      simp only [ssM, cM, t1, Option.getD_some, t2]
      rfl
    · simp only [hm, Bool.false_eq_true, if_false]; rfl
  · have : ((decide ((giM a groups).position ≤ ax) && decide (ax < (giM a groups).position + groups.length)
        && !(giM a groups).singlets.contains (ax - (giM a groups).position)) = true) = False := by
      simp only [Bool.and_eq_true, decide_eq_true_eq, eq_iff_iff, iff_false]
      intro h; exact hc h.1
    have h2 : axMulti a groups ax = false := by
      simp only [axMulti]
      by_cases hd1 : (giM a groups).position ≤ ax
      · by_cases hd2 : ax < (giM a groups).position + groups.length
        · exact absurd ⟨hd1, hd2⟩ hc
        · simp [hd2]
      · simp [hd1]
    simp only [this, if_false, startM, h2, Bool.false_eq_true]
    rfl

theorem fuseInsert_multi_eq [Zero R] (hv : ValidArr a) (hok : GroupsAdm groups a.ndim) :
    fuseInsert a.blocks (fuseInfoOf a groups)
      = .ok (insFold (shapeOfM a groups) (a.blocks.map (toItemM a groups))) := by
  unfold fuseInsert insFold
  rw [List.foldl_map]
  apply foldlM_ok
  intro acc sb hsb
  obtain ⟨s, b⟩ := sb
  simp only []
  have hfi : (fuseInfoOf a groups).blockmap = blockmapOf a groups := rfl
  have hgi : (fuseInfoOf a groups).gi = giM a groups := rfl
  have hni : (fuseInfoOf a groups).newIndices = newIdxM a groups := rfl
  rw [hfi, alookup_blockmapM hv hsb, hni, hgi]
  simp only [bind, Except.bind, pure, Except.pure]
  have hst := starts_multi hv hok hsb
  simp only [pure, Except.pure] at hst
  erw [hst]
  simp only [insStep, toItemM]
  cases hl : alookup acc (planM a groups (s, b)).newSector with
  | some t => rfl
  | none =>
    simp only [shape_storedM hv hok hsb, shapeOfM, Option.getD_some, Option.getD_none]

end Multi

end FuseP
end SymmModel
