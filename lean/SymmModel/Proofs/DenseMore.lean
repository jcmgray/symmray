/-
  SymmModel.Proofs.DenseMore — property C08 beyond the elementwise operations:

  * reductions: the sum of `g` over the data of the dense array is the sum over the stored blocks
    (`sum_map_toDense`, through the reindexing `sum_locateAll` of Proofs/DenseSum.lean);
  * `squeeze`: the loop of `AbelianArray.squeeze` as "compute a removal mask or raise, then keep
    the unmasked axes" (`squeezeMask`, `squeezed`, `dropMask`), its value view and dense form;
  * `expand_dims` with any charge (`ins`): frame, value view, dense form;
  * `BlockVector` (symmray/block_core.py): `mapV`, `binopV`, `toDenseV`, `reduceV`;
  * `Dense6.blk_eq_of_data`: a block is its shape and its data.
-/
import SymmModel.Proofs.DenseSum

namespace SymmModel
namespace DenseP

section sums
variable {M : Type} [AddCommMonoid M]

theorem foldl_add_eq_sum {α : Type} (l : List α) (f : α → M) (init : M) :
    l.foldl (fun acc x => acc + f x) init = init + (l.map f).sum := by
  induction l generalizing init with
  | nil => simp
  | cons a l ih => simp [ih, add_assoc]

theorem sum_eq_sum_of_support {α : Type} [DecidableEq α] {L K : List α} (hL : L.Nodup)
    (hK : K.Nodup) (hsub : ∀ x ∈ K, x ∈ L) (h : α → M) (h0 : ∀ x ∈ L, x ∉ K → h x = 0) :
    (L.map h).sum = (K.map h).sum := by
  have hp := (List.filter_append_perm (fun x => decide (x ∈ K)) L).map h
  rw [← hp.sum_eq, List.map_append, List.sum_append]
  have hz : ((L.filter (fun x => !decide (x ∈ K))).map h).sum = 0 := by
    rw [sum_map_congr (g := fun _ => (0 : M)) (fun x hx => by
      simp only [List.mem_filter, Bool.not_eq_true', decide_eq_false_iff_not] at hx
      exact h0 x hx.1 hx.2)]
    simp
  rw [hz, add_zero]
  have hperm : (L.filter (fun x => decide (x ∈ K))).Perm K := by
    rw [List.perm_ext_iff_of_nodup (hL.filter _) hK]
    intro x
    simp only [List.mem_filter, decide_eq_true_eq]
    exact ⟨fun hx => hx.2, fun hx => ⟨hsub x hx, hx⟩⟩
  exact (hperm.map h).sum_eq

end sums

section densesum
variable {R M : Type}

/-- **master statement.**  For a function `g` with `g 0 = 0` that does not see the pending
    sign of a stored entry: the sum of `g` over the data of the dense array equals the sum of `g`
    over the data of the stored blocks. -/
theorem sum_map_toDense [Zero R] [Neg R] [AddCommMonoid M] (g : R → M) (hg0 : g 0 = 0) (a : Arr R)
    (hsh : Arr.ShapesOk a)
    (hnd : a.sectors.Nodup) (hwf : ∀ p ∈ a.blocks, p.2.wf = true)
    (hsign : ∀ s b off, alookup a.blocks s = some b → g (a.elem s off) = g (b.get off))
    (d : Blk R) (hd : Arr.toDenseA a = .ok d) :
    (d.data.toList.map g).sum = (a.blocks.map (fun p => (p.2.data.toList.map g).sum)).sum := by
  classical
  have hwfd : d.wf = true := Arr.toDenseA_wf hd
  have hsd := Arr.toDenseA_shape hd
  -- the dense side as a sum over positions of a function of the address
  let G : Option (Sector × List Nat) → M := fun x =>
    match x with
    | some (s, o) => g (a.elem s o)
    | none => 0
  have hL : (d.data.toList.map g).sum
      = ((allIdx (a.indices.map Index.sizeTotal)).map (fun p => G (Arr.locateAll a.indices p))).sum := by
    rw [← allIdx_map_get d hwfd, hsd, List.map_map]
    apply sum_map_congr
    intro p hp
    obtain ⟨sec, off, hl⟩ := Arr.locateAll_isSome (mem_allIdx.mp hp)
    simp only [Function.comp, G, hl, Arr.toDenseA_val hd (mem_allIdx.mp hp) hl]
  rw [hL, sum_locateAll]
  -- per sector: the block's data, or nothing
  let H : Sector → M := fun s =>
    match alookup a.blocks s with
    | some b => (b.data.toList.map g).sum
    | none => 0
  have hinner : ∀ e ∈ cartesian (tables a.indices),
      ((allIdx (e.map (·.2))).map (fun off => G (some (e.map (·.1), off)))).sum = H (e.map (·.1)) := by
    intro e he
    simp only [G, H]
    cases hb : alookup a.blocks (e.map (·.1)) with
    | none =>
      rw [sum_map_congr (g := fun _ => (0 : M)) (fun off _ => by
        rw [Arr.elem]; simp only [hb]; exact hg0)]
      simp
    | some b =>
      have hshape : b.shape = e.map (·.2) := by
        have h1 := hsh.2 _ b hb
        rw [blockShape?_of_mem_cartesian hsh.1 he] at h1
        exact (Option.some.inj h1).symm
      rw [← hshape, sum_map_congr (fun off _ => hsign _ b off hb)]
      have hwfb := hwf (e.map (·.1), b) (alookup_some_mem hb)
      show _ = (b.data.toList.map g).sum
      rw [← allIdx_map_get b hwfb, List.map_map]
      rfl
  rw [sum_map_congr hinner]
  have hS : ((cartesian (tables a.indices)).map (fun e => H (e.map (·.1)))).sum
      = ((cartesian ((tables a.indices).map (List.map (·.1)))).map H).sum := by
    rw [cartesian_map, List.map_map]; rfl
  rw [hS]
  have hSnd : (cartesian ((tables a.indices).map (List.map (·.1)))).Nodup := by
    apply cartesian_nodup
    intro l hl
    simp only [tables, List.map_map, List.mem_map, Function.comp] at hl
    obtain ⟨ix, hix, rfl⟩ := hl
    exact nodup_keys_sortCm (hsh.1 ix hix)
  rw [sum_eq_sum_of_support hSnd hnd (fun s hs => by
      obtain ⟨b, hb⟩ := Option.isSome_iff_exists.mp (alookup_isSome_iff.mpr hs)
      exact mem_cartesian_of_blockShape? (hsh.2 s b hb)) H
    (fun s _ hs => by
      simp only [H]
      rw [alookup_eq_none_iff.mpr hs])]
  simp only [Arr.sectors, List.map_map]
  apply sum_map_congr
  intro p hp
  obtain ⟨s, b⟩ := p
  simp only [Function.comp, H]
  rw [alookup_of_mem_nodup hnd hp]

end densesum

section dagger
variable {R : Type}

theorem shapesOk_conjA [Conj R] {a : Arr R} (h : Arr.ShapesOk a) : Arr.ShapesOk (Arr.conjA a) := by
  refine ⟨fun ix hix => ?_, fun s b hb => ?_⟩
  · simp only [Arr.conjA, List.mem_map] at hix
    obtain ⟨ix0, hix0, rfl⟩ := hix
    rw [Arr.cm_conj]; exact h.1 ix0 hix0
  · have hbl : (Arr.conjA a).blocks = a.blocks.map (fun (s, b) => (s, b.conjK)) := rfl
    rw [hbl, Arr.alookup_mapVals] at hb
    cases hb0 : alookup a.blocks s with
    | none => simp [hb0] at hb
    | some b0 =>
      simp only [hb0, Option.map_some, Option.some.injEq] at hb
      subst hb
      rw [show (Arr.conjA a).indices = a.indices.map Index.conj from rfl,
        blockShape?_congr (Arr.map_cm_conj a.indices)]
      exact h.2 s b0 hb0

theorem validB_wf {a : Arr R} (h : a.validB = true) : ∀ p ∈ a.blocks, p.2.wf = true :=
  fun _ hp => (Arr.validB_block h hp).2.2.2

end dagger

section mask
variable {α : Type}

/-- drop the entries whose mask bit is set (lists of equal length) -/
def dropMask : List Bool → List α → List α
  | b :: m, x :: l => if b then dropMask m l else x :: dropMask m l
  | _, _ => []

/-- the positions (counted from `k`) whose mask bit is clear -/
def keptAxes : List Bool → Nat → List Nat
  | [], _ => []
  | b :: m, k => if b then keptAxes m (k + 1) else k :: keptAxes m (k + 1)

@[simp] theorem dropMask_nil_left (l : List α) : dropMask [] l = [] := by
  cases l <;> rfl

@[simp] theorem dropMask_cons_cons (b : Bool) (m : List Bool) (x : α) (l : List α) :
    dropMask (b :: m) (x :: l) = if b then dropMask m l else x :: dropMask m l := rfl

theorem keptAxes_lt (m : List Bool) (k : Nat) : ∀ q ∈ keptAxes m k, k ≤ q ∧ q < k + m.length := by
  induction m generalizing k with
  | nil => simp [keptAxes]
  | cons b m ih =>
    intro q hq
    simp only [keptAxes] at hq
    split at hq
    · have := ih (k + 1) q hq; simp only [List.length_cons]; omega
    · rcases List.mem_cons.mp hq with rfl | hq
      · simp
      · have := ih (k + 1) q hq; simp only [List.length_cons]; omega

theorem permuted_keptAxes (m : List Bool) (k : Nat) (l : List α) (h : (l.drop k).length = m.length) :
    permuted l (keptAxes m k) = dropMask m (l.drop k) := by
  induction m generalizing k with
  | nil => simp [keptAxes, permuted_nil]
  | cons b m ih =>
    have hk : k < l.length := by simp only [List.length_drop, List.length_cons] at h; omega
    have hd : l.drop k = l[k] :: l.drop (k + 1) := List.drop_eq_getElem_cons hk
    have h' : (l.drop (k + 1)).length = m.length := by
      simp only [List.length_drop, List.length_cons] at h ⊢; omega
    rw [hd, dropMask_cons_cons]
    simp only [keptAxes]
    cases b with
    | true => simpa using ih (k + 1) h'
    | false =>
      simp only [Bool.false_eq_true, if_false]
      rw [permuted_cons l k _ hk, ih (k + 1) h']

theorem permuted_keptAxes_zero (m : List Bool) (l : List α) (h : l.length = m.length) :
    permuted l (keptAxes m 0) = dropMask m l := by
  simpa using permuted_keptAxes m 0 l (by simpa using h)

theorem dropMask_map {β : Type} (f : α → β) (m : List Bool) (l : List α) :
    dropMask m (l.map f) = (dropMask m l).map f := by
  induction m generalizing l with
  | nil => simp
  | cons b m ih =>
    cases l with
    | nil => rfl
    | cons x l => cases b <;> simp [ih]

theorem mem_of_mem_dropMask {m : List Bool} {l : List α} {x : α} (h : x ∈ dropMask m l) : x ∈ l := by
  induction m generalizing l with
  | nil => simp at h
  | cons b m ih =>
    cases l with
    | nil => simp [dropMask] at h
    | cons y l =>
      rw [dropMask_cons_cons] at h
      split at h
      · exact List.mem_cons_of_mem _ (ih h)
      · rcases List.mem_cons.mp h with rfl | h
        · simp
        · exact List.mem_cons_of_mem _ (ih h)

theorem dropMask_inj {m : List Bool} {l l' : List α} (hl : l.length = m.length)
    (hl' : l'.length = m.length) (hm : ∀ i : Nat, m[i]? = some true → l[i]? = l'[i]?)
    (h : dropMask m l = dropMask m l') : l = l' := by
  induction m generalizing l l' with
  | nil =>
    have e1 : l = [] := List.length_eq_zero_iff.mp (by simpa using hl)
    have e2 : l' = [] := List.length_eq_zero_iff.mp (by simpa using hl')
    rw [e1, e2]
  | cons b m ih =>
    cases l with
    | nil => simp at hl
    | cons x l =>
      cases l' with
      | nil => simp at hl'
      | cons y l' =>
        have hrest : ∀ i : Nat, m[i]? = some true → l[i]? = l'[i]? := fun i hi => by
          simpa using hm (i + 1) (by simpa using hi)
        simp only [dropMask_cons_cons] at h
        cases b with
        | true =>
          have hxy : x = y := by simpa using hm 0 (by simp)
          simp only [if_true] at h
          rw [hxy, ih (by simpa using hl) (by simpa using hl') hrest h]
        | false =>
          simp only [Bool.false_eq_true, if_false, List.cons.injEq] at h
          rw [h.1, ih (by simpa using hl) (by simpa using hl') hrest h.2]

def ins (axis : Nat) (x : α) (l : List α) : List α := l.take axis ++ [x] ++ l.drop axis

/-- the mask of an array with `n` further axes and a new axis at `axis` -/
def insMask : Nat → Nat → List Bool
  | 0, n => true :: List.replicate n false
  | axis + 1, n + 1 => false :: insMask axis n
  | _ + 1, 0 => []

@[simp] theorem ins_zero (x : α) (l : List α) : ins 0 x l = x :: l := by simp [ins]
@[simp] theorem ins_succ_cons (axis : Nat) (x y : α) (l : List α) :
    ins (axis + 1) x (y :: l) = y :: ins axis x l := by simp [ins]

theorem dropMask_replicate_false (l : List α) : dropMask (List.replicate l.length false) l = l := by
  induction l with
  | nil => rfl
  | cons x l ih => simp [List.replicate_succ, ih]

theorem dropMask_ins (axis : Nat) (x : α) (l : List α) (h : axis ≤ l.length) :
    dropMask (insMask axis l.length) (ins axis x l) = l := by
  induction axis generalizing l with
  | zero => simp [insMask, dropMask_replicate_false]
  | succ axis ih =>
    cases l with
    | nil => simp at h
    | cons y l => simp [insMask, ih l (by simpa using h)]

theorem length_insMask (axis n : Nat) (h : axis ≤ n) : (insMask axis n).length = n + 1 := by
  induction axis generalizing n with
  | zero => simp [insMask]
  | succ axis ih =>
    cases n with
    | zero => omega
    | succ n => simp [insMask, ih n (by omega)]

theorem length_ins (axis : Nat) (x : α) (l : List α) : (ins axis x l).length = l.length + 1 := by
  simp only [ins, List.length_append, List.length_take, List.length_drop, List.length_singleton]
  omega

theorem ins_at_mask (axis : Nat) (x : α) (l : List α) (h : axis ≤ l.length) (i : Nat)
    (hi : (insMask axis l.length)[i]? = some true) : (ins axis x l)[i]? = some x := by
  induction axis generalizing l i with
  | zero =>
    cases i with
    | zero => simp
    | succ i =>
      simp only [insMask, List.getElem?_cons_succ, List.getElem?_replicate] at hi
      split at hi <;> simp at hi
  | succ axis ih =>
    cases l with
    | nil => simp at h
    | cons y l =>
      cases i with
      | zero => simp [insMask] at hi
      | succ i =>
        simp only [List.length_cons, insMask, List.getElem?_cons_succ] at hi
        simpa using ih l (by simpa using h) i hi

end mask

theorem prod_dropMask (m : List Bool) (shape : List Nat) (hl : shape.length = m.length)
    (h1 : ∀ i : Nat, m[i]? = some true → shape[i]? = some 1) : prod (dropMask m shape) = prod shape := by
  induction m generalizing shape with
  | nil =>
    have e1 : shape = [] := List.length_eq_zero_iff.mp (by simpa using hl)
    rw [e1]; rfl
  | cons b m ih =>
    cases shape with
    | nil => simp at hl
    | cons d ds =>
      have hrest : ∀ i : Nat, m[i]? = some true → ds[i]? = some 1 := fun i hi => by
        simpa using h1 (i + 1) (by simpa using hi)
      have ih' := ih ds (by simpa using hl) hrest
      cases b with
      | true =>
        have hd : d = 1 := by simpa using h1 0 (by simp)
        simp [prod, hd, ih']
      | false => simp [prod, ih']

theorem ravel_dropMask (m : List Bool) (shape off : List Nat) (hl : shape.length = m.length)
    (ho : off.length = m.length) (h1 : ∀ i : Nat, m[i]? = some true → shape[i]? = some 1)
    (h0 : ∀ i : Nat, m[i]? = some true → off[i]? = some 0) :
    ravel (dropMask m shape) (dropMask m off) = ravel shape off := by
  induction m generalizing shape off with
  | nil =>
    have e1 : shape = [] := List.length_eq_zero_iff.mp (by simpa using hl)
    have e2 : off = [] := List.length_eq_zero_iff.mp (by simpa using ho)
    rw [e1, e2]; rfl
  | cons b m ih =>
    cases shape with
    | nil => simp at hl
    | cons d ds =>
      cases off with
      | nil => simp at ho
      | cons o os =>
        have hrest1 : ∀ i : Nat, m[i]? = some true → ds[i]? = some 1 := fun i hi => by
          simpa using h1 (i + 1) (by simpa using hi)
        have hrest0 : ∀ i : Nat, m[i]? = some true → os[i]? = some 0 := fun i hi => by
          simpa using h0 (i + 1) (by simpa using hi)
        have ih' := ih ds os (by simpa using hl) (by simpa using ho) hrest1 hrest0
        cases b with
        | true =>
          have ho0 : o = 0 := by simpa using h0 0 (by simp)
          simp [ravel, ho0, ih']
        | false =>
          simp [ravel, ih', prod_dropMask m ds (by simpa using hl) hrest1]

theorem inBox_dropMask (m : List Bool) {shape p : List Nat} (h : inBox shape p = true) :
    inBox (dropMask m shape) (dropMask m p) = true := by
  induction m generalizing shape p with
  | nil => simp [inBox]
  | cons b m ih =>
    cases shape with
    | nil =>
      cases p with
      | nil => simp [dropMask, inBox]
      | cons q p => simp [inBox] at h
    | cons d ds =>
      cases p with
      | nil => simp [inBox] at h
      | cons q ps =>
        rw [inBox_cons] at h
        cases b with
        | true => simpa using ih h.2
        | false => simpa [inBox_cons] using ⟨h.1, ih h.2⟩

theorem locateAll_dropMask (m : List Bool) {idx : List Index} {p : List Nat} {sec : Sector}
    {off : List Nat} (h : Arr.locateAll idx p = some (sec, off)) (hp : p.length = idx.length) :
    Arr.locateAll (dropMask m idx) (dropMask m p) = some (dropMask m sec, dropMask m off) := by
  obtain ⟨rows, hok, rfl, rfl, rfl, rfl⟩ := (Arr.locateAll_eq_some_iff hp).mp h
  simp only [dropMask_map]
  exact Arr.locateAll_rows fun r hr => hok r (mem_of_mem_dropMask hr)

section squeezeLoop
variable {R : Type}

/-- is the axis selected for removal (before the checks)? -/
def sqSelected (axis : Option (List Nat)) (ix : Index) (ax : Nat) : Bool :=
  match axis with
  | none => ix.sizeTotal == 1
  | some axs => axs.contains ax

/-- the decision of `squeeze` for one axis: removed (`true`), kept (`false`), or `ValueError`
    (selected explicitly although larger than one, or a charge table that is not the single
    identity charge) -/
def sqRemove (zeroC : Charge) (axis : Option (List Nat)) (ix : Index) (ax : Nat) : Except Err Bool :=
  if sqSelected axis ix ax then
    if axis.isSome && decide (ix.sizeTotal > 1) then .error Err.value
    else match ix.cm with
      | [(c, _)] => if c != zeroC then .error Err.value else .ok true
      | _ => .error Err.value
  else .ok false

def sqStep (zeroC : Charge) (axis : Option (List Nat)) (keep : List Nat) (x : Index × Nat) :
    Except Err (List Nat) :=
  match sqRemove zeroC axis x.1 x.2 with
  | .error e => .error e
  | .ok true => .ok keep
  | .ok false => .ok (keep ++ [x.2])

/-- the result of `squeeze` once the kept axes are known -/
def squeezed (a : Arr R) (keep : List Nat) : Arr R :=
  let a' := a.mapBlocks (fun s => permuted s keep) (fun b => b.squeezeK keep)
  { a' with indices := permuted a.indices keep }

/-- the removal mask of `squeeze`, or the error it raises -/
def squeezeMask (a : Arr R) (axis : Option (List Nat)) : Except Err (List Bool) :=
  a.indices.zipIdx.mapM (fun x => sqRemove a.sym.zero axis x.1 x.2)

theorem squeeze_eq_foldlM (a : Arr R) (axis : Option (List Nat)) :
    a.squeeze axis =
      match a.indices.zipIdx.foldlM (sqStep a.sym.zero axis) [] with
      | .error e => .error e
      | .ok keep => .ok (squeezed a keep) := by
  unfold Arr.squeeze
  simp only [bind, Except.bind, pure, Except.pure]
  rw [forIn_except_eq_foldlM _ _ _ (sqStep a.sym.zero axis)]
  · cases List.foldlM (sqStep a.sym.zero axis) [] a.indices.zipIdx <;> rfl
  · intro x keep
    obtain ⟨ix, ax⟩ := x
    simp only [sqStep, sqRemove, sqSelected]
    cases axis with
    | none =>
      simp only [Option.isSome_none, Bool.false_and, Bool.false_eq_true, if_false]
      by_cases h1 : (ix.sizeTotal == 1) = true
      · simp only [h1, if_true]
        rcases hcm : ix.cm with _ | ⟨⟨c, d⟩, _ | ⟨y, l⟩⟩
        · rfl
        · by_cases hc : (c != a.sym.zero) = true
          · simp only [hc, if_true]; rfl
          · simp only [hc]; rfl
        · rfl
      · simp only [h1]; rfl
    | some axs =>
      simp only [Option.isSome_some, Bool.true_and]
      by_cases h1 : axs.contains ax = true
      · simp only [h1, if_true]
        by_cases h2 : ix.sizeTotal > 1
        · simp only [h2, decide_true, if_true]; rfl
        · simp only [h2, decide_false, Bool.false_eq_true, if_false]
          rcases hcm : ix.cm with _ | ⟨⟨c, d⟩, _ | ⟨y, l⟩⟩
          · rfl
          · by_cases hc : (c != a.sym.zero) = true
            · simp only [hc, if_true]; rfl
            · simp only [hc]; rfl
          · rfl
      · simp only [h1, Bool.false_eq_true, if_false]; rfl

theorem foldlM_sqStep (zeroC : Charge) (axis : Option (List Nat)) (idx : List Index) (k : Nat)
    (keep : List Nat) :
    (idx.zipIdx k).foldlM (sqStep zeroC axis) keep =
      match (idx.zipIdx k).mapM (fun x => sqRemove zeroC axis x.1 x.2) with
      | .error e => .error e
      | .ok m => .ok (keep ++ keptAxes m k) := by
  induction idx generalizing k keep with
  | nil => simp [List.mapM_nil, pure, Except.pure, keptAxes]
  | cons ix idx ih =>
    simp only [List.zipIdx_cons, List.foldlM_cons, List.mapM_cons, bind, Except.bind, pure,
      Except.pure, sqStep]
    cases hr : sqRemove zeroC axis ix k with
    | error e => rfl
    | ok b =>
      cases b with
      | true =>
        simp only [ih (k + 1) keep]
        cases List.mapM (fun x => sqRemove zeroC axis x.1 x.2) (idx.zipIdx (k + 1)) with
        | error e => rfl
        | ok m => simp [keptAxes]
      | false =>
        simp only [ih (k + 1) (keep ++ [k])]
        cases List.mapM (fun x => sqRemove zeroC axis x.1 x.2) (idx.zipIdx (k + 1)) with
        | error e => rfl
        | ok m => simp [keptAxes]

theorem squeeze_eq (a : Arr R) (axis : Option (List Nat)) :
    a.squeeze axis =
      match squeezeMask a axis with
      | .error e => .error e
      | .ok m => .ok (squeezed a (keptAxes m 0)) := by
  rw [squeeze_eq_foldlM, squeezeMask]
  have := foldlM_sqStep a.sym.zero axis a.indices 0 []
  rw [this]
  cases List.mapM (fun x => sqRemove a.sym.zero axis x.1 x.2) (a.indices.zipIdx 0) with
  | error e => rfl
  | ok m => simp

theorem mapM_except_error {α β ε : Type} {f : α → Except ε β} {l : List α} {e : ε}
    (h : l.mapM f = .error e) : ∃ x ∈ l, f x = .error e := by
  induction l with
  | nil => simp [List.mapM_nil, pure, Except.pure] at h
  | cons a l ih =>
    rw [List.mapM_cons] at h
    simp only [bind, Except.bind, pure, Except.pure] at h
    cases hfa : f a with
    | error e' =>
      simp only [hfa] at h
      injection h with h; subst h
      exact ⟨a, by simp, hfa⟩
    | ok b =>
      cases hl : l.mapM f with
      | error e' =>
        simp only [hfa, hl] at h
        injection h with h; subst h
        obtain ⟨x, hx, hfx⟩ := ih hl
        exact ⟨x, by simp [hx], hfx⟩
      | ok r' => simp [hfa, hl] at h

theorem mapM_except_isOk {α β ε : Type} {f : α → Except ε β} {l : List α}
    (h : ∀ x ∈ l, ∃ b, f x = .ok b) : ∃ r, l.mapM f = .ok r := by
  induction l with
  | nil => exact ⟨[], rfl⟩
  | cons a l ih =>
    obtain ⟨b, hb⟩ := h a (by simp)
    obtain ⟨r, hr⟩ := ih (fun x hx => h x (by simp [hx]))
    exact ⟨b :: r, by
      rw [List.mapM_cons]; simp only [bind, Except.bind, pure, Except.pure, hb, hr]⟩

theorem squeezeMask_ok {a : Arr R} {axis : Option (List Nat)} {m : List Bool}
    (h : squeezeMask a axis = .ok m) :
    m.length = a.indices.length
    ∧ ∀ (i : Nat) (ix : Index), a.indices[i]? = some ix →
        (m[i]? = some true → sqSelected axis ix i = true ∧ ∃ d, ix.cm = [(a.sym.zero, d)] ∧ d ≤ 1)
        ∧ (m[i]? = some false → sqSelected axis ix i = false) := by
  have hf := mapM_ok_forall₂ _ _ _ h
  have hlen : m.length = a.indices.length := by
    have := hf.length_eq; simpa using this.symm
  refine ⟨hlen, fun i ix hix => ?_⟩
  have hi : i < a.indices.length :=
    (List.getElem?_eq_some_iff.mp hix).1
  have hzi : a.indices.zipIdx[i]? = some (ix, i) := by
    rw [List.getElem?_zipIdx, hix]; simp
  have him : i < m.length := hlen ▸ hi
  have hmi : m[i]? = some m[i] := List.getElem?_eq_getElem him
  have hrel : sqRemove a.sym.zero axis ix i = .ok m[i] := by
    have := List.Forall₂.get hf (i := i) (by simpa using hi) (by omega)
    have h1 : a.indices.zipIdx[i]'(by simpa using hi) = (ix, i) := by
      have := List.getElem?_eq_getElem (l := a.indices.zipIdx) (i := i) (by simpa using hi)
      rw [hzi] at this; exact (Option.some.inj this).symm
    simpa [List.get_eq_getElem, h1] using this
  simp only [sqRemove] at hrel
  constructor
  · intro hm
    rw [hmi] at hm; injection hm with hm
    rw [hm] at hrel
    by_cases hs : sqSelected axis ix i = true
    · refine ⟨hs, ?_⟩
      rw [if_pos hs] at hrel
      split at hrel
      · cases hrel
      · rename_i hbig
        rcases hcm : ix.cm with _ | ⟨⟨c, d⟩, _ | ⟨y, l⟩⟩
        · simp [hcm] at hrel
        · simp only [hcm] at hrel
          split at hrel
          · cases hrel
          · rename_i hc
            have hc' : c = a.sym.zero := by simpa using hc
            subst hc'
            refine ⟨d, rfl, ?_⟩
            have hst : ix.sizeTotal = d := by simp [Index.sizeTotal, hcm, sumN]
            cases axis with
            | none => simp only [sqSelected] at hs; rw [hst] at hs; simp at hs; omega
            | some axs =>
              simp only [Option.isSome_some, Bool.true_and, decide_eq_true_eq] at hbig
              omega
        · simp [hcm] at hrel
    · rw [if_neg hs] at hrel; cases hrel
  · intro hm
    rw [hmi] at hm; injection hm with hm
    rw [hm] at hrel
    by_cases hs : sqSelected axis ix i = true
    · rw [if_pos hs] at hrel
      split at hrel
      · cases hrel
      · rcases hcm : ix.cm with _ | ⟨⟨c, d⟩, _ | ⟨y, l⟩⟩
        · simp [hcm] at hrel
        · simp only [hcm] at hrel
          split at hrel <;> cases hrel
        · simp [hcm] at hrel
    · simpa using hs

end squeezeLoop

section squeezeSem
variable {R : Type}

theorem masked_facts {idx : List Index} {zeroC : Charge} {m : List Bool}
    (hm : m.length = idx.length)
    (hmask : ∀ (i : Nat) (ix : Index), idx[i]? = some ix → m[i]? = some true →
      ∃ d, ix.cm = [(zeroC, d)] ∧ d ≤ 1)
    {t : Sector} {sh : List Nat} (ht : Arr.blockShape? idx t = some sh) (i : Nat)
    (hi : m[i]? = some true) : ∃ d, d ≤ 1 ∧ t[i]? = some zeroC ∧ sh[i]? = some d := by
  have hil : i < m.length :=
    (List.getElem?_eq_some_iff.mp hi).1
  have hii : i < idx.length := hm ▸ hil
  have hix : idx[i]? = some idx[i] := List.getElem?_eq_getElem hii
  have hit : i < t.length := (blockShape?_length ht).1 ▸ hii
  have hti : t[i]? = some t[i] := List.getElem?_eq_getElem hit
  obtain ⟨d0, hcm, hd0⟩ := hmask i _ hix hi
  obtain ⟨d, h1, h2⟩ := blockShape?_getElem ht hix hti
  rw [hcm] at h2
  by_cases e : zeroC = t[i]
  · rw [← e] at h2 hti
    simp only [alookup_cons_self, Option.some.injEq] at h2
    exact ⟨d, by omega, hti, h1⟩
  · rw [alookup_cons_ne e] at h2; simp at h2

theorem inBox_getElem? {shape off : List Nat} (h : inBox shape off = true) {i d : Nat}
    (hd : shape[i]? = some d) : ∃ o, off[i]? = some o ∧ o < d := by
  rw [inBox_iff] at h
  have hi : i < shape.length :=
    (List.getElem?_eq_some_iff.mp hd).1
  have := h.2 i hi
  rw [List.getD_eq_getElem?_getD, List.getD_eq_getElem?_getD, hd,
    List.getElem?_eq_getElem (show i < off.length by omega)] at this
  exact ⟨off[i], List.getElem?_eq_getElem (by omega), by simpa using this⟩

/-- **squeeze, value view.**  Dropping the masked coordinates of a sector of the tables and of
    an offset of its box gives an address of the squeezed array holding the same value. -/
theorem squeezed_elem [Zero R] [Neg R] (a : Arr R) (m : List Bool) (hm : m.length = a.indices.length)
    (hmask : ∀ (i : Nat) (ix : Index), a.indices[i]? = some ix → m[i]? = some true →
      ∃ d, ix.cm = [(a.sym.zero, d)] ∧ d ≤ 1)
    (hab : a.phases = []) (hsh : Arr.ShapesOk a) (hnd : a.sectors.Nodup)
    (s : Sector) (shp off : List Nat) (hshp : Arr.blockShape? a.indices s = some shp)
    (hoff : inBox shp off = true) :
    (squeezed a (keptAxes m 0)).elem (dropMask m s) (dropMask m off) = a.elem s off := by
  have hstored : ∀ t ∈ a.sectors, ∃ sh, Arr.blockShape? a.indices t = some sh := by
    intro t ht
    obtain ⟨b, hb⟩ := Option.isSome_iff_exists.mp (alookup_isSome_iff.mpr ht)
    exact ⟨_, hsh.2 t b hb⟩
  have hperm : ∀ t sh, Arr.blockShape? a.indices t = some sh →
      permuted t (keptAxes m 0) = dropMask m t := fun t sh ht =>
    permuted_keptAxes_zero m t (by rw [(blockShape?_length ht).1, hm])
  have hinj : ∀ t sh t' sh', Arr.blockShape? a.indices t = some sh →
      Arr.blockShape? a.indices t' = some sh' →
      permuted t (keptAxes m 0) = permuted t' (keptAxes m 0) → t = t' := by
    intro t sh t' sh' ht ht' he
    rw [hperm t sh ht, hperm t' sh' ht'] at he
    refine dropMask_inj (by rw [(blockShape?_length ht).1, hm]) (by rw [(blockShape?_length ht').1, hm])
      (fun i hi => ?_) he
    obtain ⟨_, _, h1, _⟩ := masked_facts hm hmask ht i hi
    obtain ⟨_, _, h2, _⟩ := masked_facts hm hmask ht' i hi
    rw [h1, h2]
  have hph : (squeezed a (keptAxes m 0)).phases = [] := by
    simp only [squeezed, Arr.mapBlocks, hab]
    cases a.fermi <;> rfl
  rw [← hperm s shp hshp]
  refine Arr.elem_rekey (fun t => permuted t (keptAxes m 0)) (fun b => b.squeezeK (keptAxes m 0))
    rfl hph hab hnd
    (fun x hx y hy hxy => by
      obtain ⟨shx, hx'⟩ := hstored x hx
      obtain ⟨shy, hy'⟩ := hstored y hy
      exact hinj x shx y shy hx' hy' hxy)
    (fun k hk hkk => by
      obtain ⟨shk, hk'⟩ := hstored k hk
      exact hinj k shk s shp hk' hshp hkk)
    (fun b hb => ?_)
  have hbs : b.shape = shp := by
    have := hsh.2 s b hb; rw [hshp] at this; exact (Option.some.inj this).symm
  have hsl : shp.length = m.length := by rw [Arr.blockShape?_shape_length hshp, hm]
  have hol : off.length = m.length := by rw [inBox_length hoff, hsl]
  simp only [Blk.get, Blk.squeezeK, hbs]
  rw [permuted_keptAxes_zero m shp hsl,
    ravel_dropMask m shp off hsl hol
      (fun i hi => by
        obtain ⟨d, hd, _, h3⟩ := masked_facts hm hmask hshp i hi
        obtain ⟨o, _, ho⟩ := inBox_getElem? hoff h3
        rw [h3]; congr 1; omega)
      (fun i hi => by
        obtain ⟨d, hd, _, h3⟩ := masked_facts hm hmask hshp i hi
        obtain ⟨o, ho1, ho⟩ := inBox_getElem? hoff h3
        rw [ho1]; congr 1; omega)]

/-- **squeeze, dense form.**  The squeezed array's dense form has the masked axes dropped from
    the shape, and its entry at a position with the masked coordinates dropped is the original
    entry. -/
theorem squeezed_toDense [Zero R] [Neg R] (a : Arr R) (m : List Bool) (hm : m.length = a.indices.length)
    (hmask : ∀ (i : Nat) (ix : Index), a.indices[i]? = some ix → m[i]? = some true →
      ∃ d, ix.cm = [(a.sym.zero, d)] ∧ d ≤ 1)
    (hab : a.phases = []) (hsh : Arr.ShapesOk a) (hnd : a.sectors.Nodup)
    (hne : a.indices.any (fun ix => ix.cm.isEmpty) = false) :
    ∃ d d', Arr.toDenseA a = .ok d ∧ Arr.toDenseA (squeezed a (keptAxes m 0)) = .ok d'
      ∧ d.shape = a.shape ∧ d'.shape = dropMask m a.shape
      ∧ ∀ p, inBox a.shape p = true → d'.get (dropMask m p) = d.get p := by
  have hidx : (squeezed a (keptAxes m 0)).indices = dropMask m a.indices := by
    simp only [squeezed]; exact permuted_keptAxes_zero m a.indices hm.symm
  have hshape : (squeezed a (keptAxes m 0)).shape = dropMask m a.shape := by
    simp only [Arr.shape, hidx, dropMask_map]
  rw [← hshape]
  refine Arr.toDense_reindex a _ hne ?_ (dropMask m) (fun p hp => hshape ▸ inBox_dropMask m hp)
    (fun p s off hp hl => ?_)
  · exact hidx ▸ Arr.noEmpty_of_subset (fun _ => mem_of_mem_dropMask) hne
  · have hpl : p.length = a.indices.length := by simpa [Arr.shape] using inBox_length hp
    obtain ⟨shp, hshp, hoff⟩ := Arr.locateAll_blockShape hsh.1 hpl hl
    exact ⟨_, _, hidx ▸ locateAll_dropMask m hl hpl,
      squeezed_elem a m hm hmask hab hsh hnd s shp off hshp hoff⟩

end squeezeSem

section expand
variable {R : Type}

theorem ins_map {α β : Type} (f : α → β) (axis : Nat) (x : α) (l : List α) :
    (ins axis x l).map f = ins axis (f x) (l.map f) := by
  simp [ins, List.map_take, List.map_drop]

theorem mem_ins {α : Type} {axis : Nat} {x y : α} {l : List α} (h : y ∈ ins axis x l) :
    y = x ∨ y ∈ l := by
  simp only [ins, List.mem_append, List.mem_singleton] at h
  rcases h with (h | h) | h
  · exact Or.inr (List.mem_of_mem_take h)
  · exact Or.inl h
  · exact Or.inr (List.mem_of_mem_drop h)

theorem ins_inj {α : Type} {axis : Nat} {x : α} {l l' : List α} (hl : axis ≤ l.length)
    (hll : l'.length = l.length) (h : ins axis x l = ins axis x l') : l = l' := by
  have h1 := dropMask_ins axis x l hl
  have h2 := dropMask_ins axis x l' (by omega)
  rw [hll, ← h, h1] at h2
  exact h2

theorem inBox_ins {shape p : List Nat} (h : inBox shape p = true) (axis : Nat)
    (ha : axis ≤ shape.length) : inBox (ins axis 1 shape) (ins axis 0 p) = true := by
  induction axis generalizing shape p with
  | zero => simp [inBox_cons, h]
  | succ axis ih =>
    cases shape with
    | nil => simp at ha
    | cons d ds =>
      cases p with
      | nil => simp [inBox] at h
      | cons q ps =>
        rw [inBox_cons] at h
        simp only [ins_succ_cons, inBox_cons]
        exact ⟨h.1, ih h.2 (by simpa using ha)⟩

theorem locateAll_ins {idx : List Index} {p : List Nat} {sec : Sector} {off : List Nat}
    (h : Arr.locateAll idx p = some (sec, off)) (hp : p.length = idx.length) (axis : Nat)
    (c : Charge) (dl : Bool) :
    Arr.locateAll (ins axis (Index.mk [(c, 1)] dl none) idx) (ins axis 0 p)
      = some (ins axis c sec, ins axis 0 off) := by
  obtain ⟨rows, hok, rfl, rfl, rfl, rfl⟩ := (Arr.locateAll_eq_some_iff hp).mp h
  have := Arr.locateAll_rows (rows := ins axis (Index.mk [(c, 1)] dl none, 0, c, 0) rows)
    fun r hr => by
      rcases mem_ins hr with rfl | hr
      · rfl
      · exact hok r hr
  simpa only [ins_map] using this

/-- the direction `expand_dims` gives the new index -/
def expandDual (a : Arr R) (axis : Nat) (dual : Option Bool) : Bool :=
  match dual with
  | some d => d
  | none =>
    if axis > 0 then (a.indices.getD (axis - 1) default).dual
    else if axis < a.ndim then (a.indices.getD axis default).dual
    else false

theorem expandDims_frame (a : Arr R) (axis : Nat) (c : Option Charge) (dual : Option Bool) :
    (a.expandDims axis c dual).indices
        = ins axis (Index.mk [(c.getD a.sym.zero, 1)] (expandDual a axis dual) none) a.indices
    ∧ (a.expandDims axis c dual).sym = a.sym
    ∧ (a.expandDims axis c dual).fermi = a.fermi
    ∧ (a.expandDims axis c dual).oddpos = a.oddpos
    ∧ (a.expandDims axis c dual).blocks
        = adict (a.blocks.map (fun (sb : Sector × Blk R) =>
            (ins axis (c.getD a.sym.zero) sb.1, sb.2.expandK axis)))
    ∧ (a.phases = [] → (a.expandDims axis c dual).phases = []) := by
  cases c <;>
  · refine ⟨?_, rfl, rfl, rfl, rfl, fun h => ?_⟩
    · cases dual <;> rfl
    · simp only [Arr.expandDims, Arr.mapBlocks, h]
      cases a.fermi <;> rfl

theorem noEmpty_expandDims {a : Arr R} (hne : a.indices.any (fun ix => ix.cm.isEmpty) = false)
    (axis : Nat) (c : Option Charge) (dual : Option Bool) :
    (a.expandDims axis c dual).indices.any (fun ix => ix.cm.isEmpty) = false := by
  rw [(expandDims_frame a axis c dual).1, List.any_eq_false] at *
  intro ix hix
  rcases mem_ins hix with rfl | hix
  · simp [Index.cm]
  · exact hne ix hix

theorem get_expandK [Zero R] (b : Blk R) (axis : Nat) (off : List Nat) (ha : axis ≤ b.shape.length)
    (ho : off.length = b.shape.length) : (b.expandK axis).get (ins axis 0 off) = b.get off := by
  have hs : (b.expandK axis).shape = ins axis 1 b.shape := rfl
  simp only [Blk.get, hs]
  have hd : (b.expandK axis).data = b.data := rfl
  rw [hd]
  have hm := length_insMask axis b.shape.length ha
  have := ravel_dropMask (insMask axis b.shape.length) (ins axis 1 b.shape) (ins axis 0 off)
    (by rw [length_ins, hm]) (by rw [length_ins, hm, ho])
    (fun i hi => ins_at_mask axis 1 b.shape ha i hi)
    (fun i hi => by
      have := ins_at_mask axis 0 off (by omega) i (by rw [ho]; exact hi)
      exact this)
  rw [dropMask_ins axis 1 b.shape ha] at this
  have h2 := dropMask_ins axis 0 off (by omega)
  rw [ho] at h2
  rw [h2] at this
  rw [this]

/-- **expand_dims with any charge, value view.**  Inserting the new charge into the sector and the
    offset 0 into the offsets gives an address of the expanded array holding the same value. -/
theorem expandDims_elem_any [Zero R] [Neg R] (a : Arr R) (axis : Nat) (c : Option Charge)
    (dual : Option Bool)
    (ha : axis ≤ a.ndim) (hab : a.phases = []) (hnd : a.sectors.Nodup)
    (hlen : ∀ t ∈ a.sectors, t.length = a.ndim)
    (hshape : ∀ t b, alookup a.blocks t = some b → b.shape.length = a.ndim)
    (s : Sector) (hs : s.length = a.ndim) (off : List Nat) (ho : off.length = a.ndim) :
    (a.expandDims axis c dual).elem (ins axis (c.getD a.sym.zero) s) (ins axis 0 off)
      = a.elem s off := by
  obtain ⟨_, _, _, _, hbl, hph⟩ := expandDims_frame a axis c dual
  exact Arr.elem_rekey (fun t => ins axis (c.getD a.sym.zero) t) (fun b => b.expandK axis) hbl
    (hph hab) hab hnd
    (fun x hx y hy hxy => ins_inj (by rw [hlen x hx]; exact ha) (by rw [hlen x hx, hlen y hy]) hxy)
    (fun k hk hkk => ins_inj (by rw [hlen k hk]; exact ha) (by rw [hlen k hk, hs]) hkk)
    (fun b hb => get_expandK b axis off (by rw [hshape s b hb]; exact ha)
      (by rw [ho, hshape s b hb]))

/-- **expand_dims with any charge, dense form.**  The dense form has a size-one axis inserted and
    its entry at a position with coordinate 0 inserted is the original entry — whatever `c` is. -/
theorem expandDims_toDense_any [Zero R] [Neg R] (a : Arr R) (axis : Nat) (c : Option Charge)
    (dual : Option Bool)
    (ha : axis ≤ a.ndim) (hab : a.phases = []) (hsh : Arr.ShapesOk a) (hnd : a.sectors.Nodup)
    (hlen : ∀ t ∈ a.sectors, t.length = a.ndim)
    (hne : a.indices.any (fun ix => ix.cm.isEmpty) = false) :
    ∃ d d', Arr.toDenseA a = .ok d ∧ Arr.toDenseA (a.expandDims axis c dual) = .ok d'
      ∧ d.shape = a.shape ∧ d'.shape = ins axis 1 a.shape
      ∧ ∀ p, inBox a.shape p = true → d'.get (ins axis 0 p) = d.get p := by
  obtain ⟨hidx, _, _, _, _, _⟩ := expandDims_frame a axis c dual
  have hshape : (a.expandDims axis c dual).shape = ins axis 1 a.shape := by
    rw [Arr.shape, hidx, ins_map]; rfl
  rw [← hshape]
  refine Arr.toDense_reindex a _ hne ?_ (ins axis 0)
    (fun p hp => hshape ▸ inBox_ins hp axis (by simpa [Arr.shape, Arr.ndim] using ha))
    (fun p s off hp hl => ?_)
  · exact noEmpty_expandDims hne axis c dual
  · have hpl : p.length = a.indices.length := by simpa [Arr.shape] using inBox_length hp
    obtain ⟨hsl, hol⟩ := Arr.locateAll_length hl hpl
    exact ⟨_, _, hidx ▸ locateAll_ins hl hpl axis _ _,
      expandDims_elem_any a axis c dual ha hab hnd hlen
        (fun t b hb => by simpa [Arr.ndim] using Arr.blockShape?_shape_length (hsh.2 t b hb))
        s hsl off hol⟩

end expand

section squeezeErr
variable {R : Type}

theorem sqRemove_cases (z : Charge) (axis : Option (List Nat)) (ix : Index) (ax : Nat) :
    (sqRemove z axis ix ax = .error Err.value ∧ sqSelected axis ix ax = true
        ∧ ((axis.isSome = true ∧ ix.sizeTotal > 1) ∨ ∀ d, ix.cm ≠ [(z, d)]))
    ∨ (∃ b, sqRemove z axis ix ax = .ok b
        ∧ ¬ (sqSelected axis ix ax = true
          ∧ ((axis.isSome = true ∧ ix.sizeTotal > 1) ∨ ∀ d, ix.cm ≠ [(z, d)]))) := by
  simp only [sqRemove]
  by_cases hs : sqSelected axis ix ax = true
  · rw [if_pos hs]
    by_cases hbig : (axis.isSome && decide (ix.sizeTotal > 1)) = true
    · left
      rw [if_pos hbig]
      simp only [Bool.and_eq_true, decide_eq_true_eq] at hbig
      exact ⟨rfl, hs, Or.inl hbig⟩
    · rw [if_neg hbig]
      have hbig' : ¬ (axis.isSome = true ∧ ix.sizeTotal > 1) := by
        simpa only [Bool.and_eq_true, decide_eq_true_eq] using hbig
      rcases hcm : ix.cm with _ | ⟨⟨c, d⟩, _ | ⟨y, l⟩⟩
      · left; exact ⟨rfl, hs, Or.inr (fun d => by simp)⟩
      · by_cases hc : c = z
        · right
          subst hc
          refine ⟨true, by simp, ?_⟩
          rintro ⟨_, h | h⟩
          · exact hbig' h
          · exact h d rfl
        · left
          have : (c != z) = true := by simpa using hc
          refine ⟨by simp only [this, if_true], hs, Or.inr (fun d' h => ?_)⟩
          simp only [List.cons.injEq, Prod.mk.injEq, and_true] at h
          exact hc h.1
      · left; exact ⟨rfl, hs, Or.inr (fun d => by simp)⟩
  · right
    rw [if_neg hs]
    exact ⟨false, rfl, fun h => hs h.1⟩

end squeezeErr

/-! ## block vectors (`BlockVector`, symmray/block_core.py)

The model has the data type `BVec` but no operations on it; these are the operations of
`BlockVector` written exactly as block_core.py performs them (the binary ones through the
model's `binaryBlockwise`). -/

section bvec
variable {R : Type}

/-- `apply_to_arrays(fn)` / `_do_unary_op(fn)` / scalar arithmetic: `fn` elementwise on every block -/
def mapV (f : R → R) (v : BVec R) : BVec R := ⟨v.blocks.map (fun (k, b) => (k, b.map f))⟩

/-- `_binary_blockwise_op(other, fn, missing)` -/
def binopV [Zero R] (f : R → R → R) (m : Missing) (x y : BVec R) : Except Err (BVec R) :=
  match binaryBlockwise (Blk.zipWith f) m x.blocks y.blocks with
  | .ok bl => .ok ⟨bl⟩
  | .error e => .error e

/-- the blocks in sorted key order (`sorted(self.blocks)`) -/
def sortedV (v : BVec R) : List (Charge × Blk R) := isort (fun a b => Charge.lt a.1 b.1) v.blocks

/-- `BlockVector.to_dense`: concatenate the blocks in sorted key order -/
def toDenseV [Zero R] (v : BVec R) : Blk R := Blk.concatK ((sortedV v).map (·.2)) 0

/-- reduction of one block with an operation `op` with identity `e` (`sum`, `max`, `any`, …) -/
def reduceBlk (op : R → R → R) (e : R) (b : Blk R) : R := b.data.foldl op e

/-- `_do_reduction(fn)`: `fn` of the stack of `fn` of every block -/
def reduceV (op : R → R → R) (e : R) (v : BVec R) : R :=
  (v.blocks.map (fun p => reduceBlk op e p.2)).foldl op e

/-- every block is a well-formed 1-D array -/
def VecOk (v : BVec R) : Prop := ∀ p ∈ v.blocks, p.2.wf = true ∧ ∃ n, p.2.shape = [n]

theorem vecOk_of_all {v : BVec R}
    (h : v.blocks.all (fun p => p.2.wf && p.2.shape.length == 1) = true) : VecOk v := by
  intro p hp
  have := List.all_eq_true.mp h p hp
  simp only [Bool.and_eq_true, beq_iff_eq] at this
  obtain ⟨n, hn⟩ := List.length_eq_one_iff.mp this.2
  exact ⟨this.1, n, hn⟩

theorem sameKeys_of_all {x y : BVec R}
    (h : (x.blocks.all (fun p => (y.blocks.map (·.1)).contains p.1)
        && y.blocks.all (fun p => (x.blocks.map (·.1)).contains p.1)) = true) :
    ∀ k, k ∈ x.blocks.map (·.1) ↔ k ∈ y.blocks.map (·.1) := by
  simp only [Bool.and_eq_true, List.all_eq_true, List.contains_iff_mem] at h
  intro k
  constructor
  · intro hk
    obtain ⟨p, hp, rfl⟩ := List.mem_map.mp hk
    exact h.1 p hp
  · intro hk
    obtain ⟨p, hp, rfl⟩ := List.mem_map.mp hk
    exact h.2 p hp

theorem sameShapes_of_all {x y : BVec R}
    (h : x.blocks.all (fun p => match alookup y.blocks p.1 with
        | some b => p.2.shape == b.shape
        | none => true) = true) :
    ∀ k bx b, alookup x.blocks k = some bx → alookup y.blocks k = some b → bx.shape = b.shape := by
  intro k bx b hx hy
  have := List.all_eq_true.mp h (k, bx) (alookup_some_mem hx)
  simp only [hy, beq_iff_eq] at this
  exact this

theorem isort_perm' {α : Type} (lt : α → α → Bool) (l : List α) : (isort lt l).Perm l :=
  isort_perm lt l

theorem insertSorted_map_key {β γ : Type} (g : Charge × β → Charge × γ) (hg : ∀ p, (g p).1 = p.1)
    (a : Charge × β) (l : List (Charge × β)) :
    insertSorted (fun a b => Charge.lt a.1 b.1) (g a) (l.map g)
      = (insertSorted (fun a b => Charge.lt a.1 b.1) a l).map g := by
  induction l with
  | nil => rfl
  | cons b l ih =>
    simp only [List.map_cons, insertSorted, hg]
    split
    · simp [ih]
    · simp

theorem isort_map_key {β γ : Type} (g : Charge × β → Charge × γ) (hg : ∀ p, (g p).1 = p.1)
    (l : List (Charge × β)) :
    isort (fun a b => Charge.lt a.1 b.1) (l.map g) = (isort (fun a b => Charge.lt a.1 b.1) l).map g := by
  induction l with
  | nil => rfl
  | cons a l ih => simp only [List.map_cons, isort, ih, insertSorted_map_key g hg]

theorem sortedV_mapV (f : R → R) (v : BVec R) :
    sortedV (mapV f v) = (sortedV v).map (fun p => (p.1, p.2.map f)) := by
  simp only [sortedV, mapV]
  exact isort_map_key (fun p => (p.1, p.2.map f)) (fun _ => rfl) v.blocks

theorem range_map_get1 [Zero R] (b : Blk R) (hwf : b.wf = true) {n : Nat} (hs : b.shape = [n]) :
    (List.range n).map (fun o => b.get [o]) = b.data.toList := by
  have := allIdx_map_get b hwf
  rw [hs, allIdx_single, List.map_map] at this
  exact this

theorem range_map_locatePiece {γ : Type} (bs : List (Blk R)) (F : Blk R → Nat → γ) (z : γ) :
    (List.range (sumN (bs.map (fun b => b.shape.getD 0 0)))).map (fun q =>
        match Blk.locatePiece (bs.map (fun b => b.shape.getD 0 0)) q with
        | some (k, o) => (match bs[k]? with
                          | some b => F b o
                          | none => z)
        | none => z)
      = bs.flatMap (fun b => (List.range (b.shape.getD 0 0)).map (fun o => F b o)) := by
  induction bs with
  | nil => simp [sumN]
  | cons b bs ih =>
    simp only [List.map_cons, sumN, List.range_add, List.map_append, List.map_map,
      List.flatMap_cons]
    congr 1
    · apply List.map_congr_left
      intro q hq
      have : q < b.shape.getD 0 0 := List.mem_range.mp hq
      simp only [Blk.locatePiece, this, if_true, List.getElem?_cons_zero]
    · rw [← ih]
      apply List.map_congr_left
      intro q _
      have : ¬ (b.shape.getD 0 0 + q < b.shape.getD 0 0) := by omega
      simp only [Function.comp, Blk.locatePiece, this, if_false, Nat.add_sub_cancel_left]
      cases Blk.locatePiece (bs.map (fun b => b.shape.getD 0 0)) q with
      | none => rfl
      | some ko =>
        obtain ⟨k, o⟩ := ko
        simp only [Option.map_some, List.getElem?_cons_succ]

/-- **data view of `to_dense`.**  For a non-empty vector of well-formed 1-D blocks, the dense
    vector has the total length and its data is the concatenation of the blocks' data in sorted
    key order. -/
theorem toDenseV_data [Zero R] (v : BVec R) (hok : VecOk v) (hne : v.blocks ≠ []) :
    (toDenseV v).shape = [sumN ((sortedV v).map (fun p => p.2.shape.getD 0 0))]
    ∧ (toDenseV v).data.toList = (sortedV v).flatMap (fun p => p.2.data.toList) := by
  have hperm : (sortedV v).Perm v.blocks := isort_perm _ _
  have hok' : ∀ p ∈ sortedV v, p.2.wf = true ∧ ∃ n, p.2.shape = [n] :=
    fun p hp => hok p (hperm.mem_iff.mp hp)
  have hne' : sortedV v ≠ [] := fun h => hne (by
    have := hperm.length_eq; rw [h] at this; exact List.length_eq_zero_iff.mp this.symm)
  unfold toDenseV
  generalize sortedV v = sv at hok' hne'
  cases sv with
  | nil => exact absurd rfl hne'
  | cons p0 rest =>
    obtain ⟨n0, hn0⟩ := (hok' p0 (by simp)).2
    have hsizes : ((p0 :: rest).map (·.2)).map (fun b => b.shape.getD 0 0)
        = (p0 :: rest).map (fun p => p.2.shape.getD 0 0) := by
      rw [List.map_map]; rfl
    have hshape : (p0.2.shape.set 0 (sumN (((p0 :: rest).map (·.2)).map (fun b => b.shape.getD 0 0))))
        = [sumN ((p0 :: rest).map (fun p => p.2.shape.getD 0 0))] := by
      rw [hn0, hsizes]; rfl
    constructor
    · exact hshape
    · have hdata : (Blk.concatK ((p0 :: rest).map (·.2)) 0).data.toList
          = (allIdx [sumN (((p0 :: rest).map (·.2)).map (fun b => b.shape.getD 0 0))]).map (fun i =>
              match Blk.locatePiece (((p0 :: rest).map (·.2)).map (fun b => b.shape.getD 0 0)) (i.getD 0 0) with
              | some (k, o) => (match ((p0 :: rest).map (·.2))[k]? with
                                | some b => b.get (i.set 0 o)
                                | none => 0)
              | none => 0) := by
        simp only [List.map_cons, Blk.concatK, Blk.ofFn, hn0]
        rfl
      rw [hdata, allIdx_single, List.map_map]
      have := range_map_locatePiece ((p0 :: rest).map (·.2)) (fun b o => b.get [o]) (0 : R)
      refine Eq.trans ?_ (this.trans ?_)
      · rfl
      rw [List.flatMap_map]
      apply List.flatMap_congr
      intro p hp
      obtain ⟨hw, n, hn⟩ := hok' p hp
      rw [hn]
      exact range_map_get1 p.2 hw hn

theorem foldl_op_init (op : R → R → R) (e : R) (hassoc : ∀ a b c, op (op a b) c = op a (op b c))
    (hid : ∀ a, op a e = a) (l : List R) (a : R) : l.foldl op a = op a (l.foldl op e) := by
  induction l generalizing a with
  | nil => simp [hid]
  | cons x l ih =>
    simp only [List.foldl_cons]
    rw [ih (op a x), ih (op e x), ← hassoc, ← hassoc, hid]

theorem foldl_op_flatMap {α : Type} (op : R → R → R) (e : R)
    (hassoc : ∀ a b c, op (op a b) c = op a (op b c)) (hid : ∀ a, op a e = a)
    (l : List α) (g : α → List R) :
    (l.flatMap g).foldl op e = (l.map (fun x => (g x).foldl op e)).foldl op e := by
  have key : ∀ a, (l.flatMap g).foldl op a = (l.map (fun x => (g x).foldl op e)).foldl op a := by
    induction l with
    | nil => intro a; rfl
    | cons x l ih =>
      intro a
      simp only [List.flatMap_cons, List.foldl_append, List.map_cons, List.foldl_cons]
      rw [ih, foldl_op_init op e hassoc hid (g x) a]
  exact key e

theorem sortedV_keys_strict (v : BVec R) (hnd : (v.blocks.map (·.1)).Nodup) :
    ((sortedV v).map (·.1)).Pairwise (fun a b => Charge.lt a b = true) :=
  isort_keys_strict v.blocks hnd

/-- the block the result of a binary operation stores for the entry `p` of the left operand -/
def binBlock [Zero R] (f : R → R → R) (y : BVec R) (p : Charge × Blk R) : Charge × Blk R :=
  (p.1, match alookup y.blocks p.1 with
        | some b => Blk.zipWith f p.2 b
        | none => p.2)

theorem data_zipWith1 [Zero R] (f : R → R → R) (a b : Blk R) (ha : a.wf = true) (hb : b.wf = true)
    {n : Nat} (hsa : a.shape = [n]) (hsb : b.shape = [n]) :
    (Blk.zipWith f a b).data.toList = List.zipWith f a.data.toList b.data.toList := by
  rw [← range_map_get1 a ha hsa, ← range_map_get1 b hb hsb]
  simp only [Blk.zipWith, Blk.ofFn, hsa, allIdx_single, List.map_map, List.zipWith_map_left,
    List.zipWith_map_right, List.zipWith_self]
  rfl

theorem zipWith_flatMap_forall₂ {α β : Type} (f : R → R → R) (g1 : α → List R) (g2 : β → List R)
    (h : α → List R) {l1 : List α} {l2 : List β} (rel : α → β → Prop)
    (hrel : List.Forall₂ rel l1 l2)
    (hchunk : ∀ a b, rel a b → a ∈ l1 → b ∈ l2 →
      (g1 a).length = (g2 b).length ∧ List.zipWith f (g1 a) (g2 b) = h a) :
    List.zipWith f (l1.flatMap g1) (l2.flatMap g2) = l1.flatMap h := by
  induction hrel with
  | nil => rfl
  | @cons a b l1' l2' hab _ ih =>
    obtain ⟨hlen, hz⟩ := hchunk a b hab (by simp) (by simp)
    simp only [List.flatMap_cons]
    rw [List.zipWith_append hlen, hz,
      ih (fun a' b' hr hm hm' => hchunk a' b' hr (by simp [hm]) (by simp [hm']))]

end bvec

end DenseP

namespace Dense6
open Arr DenseP

variable {R : Type}

theorem blk_eq_of_data {b c : Blk R} (hs : b.shape = c.shape) (hd : b.data.toList = c.data.toList) :
    b = c := by
  cases b with
  | mk s1 d1 =>
    cases c with
    | mk s2 d2 =>
      simp only at hs hd
      subst hs
      congr 1
      exact Array.toList_inj.mp hd

end Dense6
end SymmModel
