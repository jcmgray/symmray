/-
  SymmModel.Proofs.ValidTdotFused — `tensordot` in fused mode (the default for a non-empty
  contraction): drop misaligned sectors, fuse both operands into matrices, contract block-wise,
  unfuse.  Together with ValidTdotF.lean this gives validity of `tensordot_abelian` and
  `tensordot_fermionic` in EVERY mode (property C01: the operations preserve validity).  The
  control flow of `tensordotViaFused` is taken once here, as two equations (`TdotP.viaAligned`,
  `TdotP.tensordotViaFused_aligned` / `_noblocks`, namespace `TdotP` because the value theorems of
  TdotFused4, 6, 7, 8 read the same equations).
-/
import SymmModel.Proofs.ValidFuseF

namespace SymmModel
namespace ValidP
open Sym

variable {R : Type}

/-- everything `tensordot` needs to know about one operand after a structural step -/
structure SameFields (x a : Arr R) : Prop where
  sym : x.sym = a.sym
  fermi : x.fermi = a.fermi
  charge : x.charge = a.charge
  phases : x.phases = a.phases
  oddpos : x.oddpos = a.oddpos

theorem SameFields.trans {x y z : Arr R} (h1 : SameFields x y) (h2 : SameFields y z) :
    SameFields x z :=
  ⟨h1.sym.trans h2.sym, h1.fermi.trans h2.fermi, h1.charge.trans h2.charge,
    h1.phases.trans h2.phases, h1.oddpos.trans h2.oddpos⟩

theorem dropMisaligned_core (a b : Arr R) (axesA axesB : List Nat) (ha : Core a) (hb : Core b) :
    Core (dropMisaligned a b axesA axesB).1 ∧ Core (dropMisaligned a b axesA axesB).2
    ∧ SameFields (dropMisaligned a b axesA axesB).1 a ∧ SameFields (dropMisaligned a b axesA axesB).2 b
    ∧ (dropMisaligned a b axesA axesB).1.indices.map Index.dual = a.indices.map Index.dual
    ∧ (dropMisaligned a b axesA axesB).2.indices.map Index.dual = b.indices.map Index.dual := by
  unfold dropMisaligned
  exact ⟨core_filter_drop a ha _, core_filter_drop b hb _, ⟨rfl, rfl, rfl, rfl, rfl⟩,
    ⟨rfl, rfl, rfl, rfl, rfl⟩, dropUnused_duals _ _, dropUnused_duals _ _⟩

theorem fuseA_noexpand [Zero R] {a r : Arr R} {groups : List (List Nat)} {mode : FuseMode}
    (h : fuseA a groups mode false = .ok r) :
    ((groups.filter (fun g => !g.isEmpty)).isEmpty = true ∧ r = a)
    ∨ ((groups.filter (fun g => !g.isEmpty)).isEmpty = false
        ∧ fuseCore a (groups.filter (fun g => !g.isEmpty)) mode = .ok r) := by
  unfold fuseA at h
  dsimp only at h
  split at h
  · rename_i he
    rw [pure_bind] at h
    simp only [Bool.false_and, Bool.false_eq_true, if_false, pure, Except.pure,
      Except.ok.injEq] at h
    exact Or.inl ⟨he, h.symm⟩
  · rename_i he
    obtain ⟨xf, hxf, h⟩ := bind_ok h
    simp only [Bool.false_and, Bool.false_eq_true, if_false, pure, Except.pure,
      Except.ok.injEq] at h
    subst h
    exact Or.inr ⟨by simpa using he, hxf⟩

theorem fuseCore_indices [Zero R] {a r : Arr R} {groups : List (List Nat)} {mode : FuseMode}
    (h : fuseCore a groups mode = .ok r) :
    ∃ blockmap, r.indices
      = permuted a.indices (calcFuseGroupInfo groups a.duals).axesBefore
        ++ groups.zipIdx.map (fuseMidIndex a (calcFuseGroupInfo groups a.duals) blockmap)
        ++ permuted a.indices (calcFuseGroupInfo groups a.duals).axesAfter := by
  obtain ⟨fi, _, hfi, _, rfl⟩ := fuseCore_ok h
  obtain ⟨blockmap, _, hfieq⟩ := calcFuseBlockInfo_ok hfi
  exact ⟨blockmap, by rw [hfieq]⟩

theorem axes_before_after_nil (groups : List (List Nat)) (duals : List Bool)
    (hcover : ∀ ax, ax < duals.length → ax ∈ groups.flatten)
    (hlt : ∀ ax ∈ groups.flatten, ax < duals.length) :
    (calcFuseGroupInfo groups duals).axesBefore = []
    ∧ (calcFuseGroupInfo groups duals).axesAfter = [] := by
  have hpos : (calcFuseGroupInfo groups duals).position ≤ duals.length :=
    foldl_min_head_le groups.flatten duals.length hlt
  constructor
  · show List.filter (fun ax => !groups.flatten.contains ax)
      (List.range (calcFuseGroupInfo groups duals).position) = []
    rw [List.filter_eq_nil_iff]
    intro ax hax
    have := List.mem_range.mp hax
    simp only [Bool.not_eq_true, Bool.not_eq_false', List.contains_iff_mem]
    exact hcover ax (by omega)
  · show List.filter (fun ax => !groups.flatten.contains ax)
      (List.filter (fun ax => decide ((calcFuseGroupInfo groups duals).position ≤ ax))
        (List.range duals.length)) = []
    rw [List.filter_eq_nil_iff]
    intro ax hax
    have := List.mem_range.mp (List.mem_filter.mp hax).1
    simp only [Bool.not_eq_true, Bool.not_eq_false', List.contains_iff_mem]
    exact hcover ax this

theorem zipIdx_map_fst {α β : Type} (l : List α) (f : α → β) :
    l.zipIdx.map (fun x => f x.1) = l.map f := by
  apply List.ext_getElem
  · simp
  · intro i h1 h2
    simp

theorem fuseCore_cover_duals [Zero R] {a r : Arr R} {groups : List (List Nat)} {mode : FuseMode}
    (hcover : ∀ ax, ax < a.ndim → ax ∈ groups.flatten)
    (hlt : ∀ ax ∈ groups.flatten, ax < a.ndim)
    (h : fuseCore a groups mode = .ok r) :
    r.indices.map Index.dual = groups.map (fun g => a.duals.getD (g.headD 0) false) := by
  obtain ⟨blockmap, hidx⟩ := fuseCore_indices h
  have hn : a.duals.length = a.ndim := by simp [Arr.duals, Arr.ndim]
  obtain ⟨hb, haf⟩ := axes_before_after_nil groups a.duals (by rw [hn]; exact hcover)
    (by rw [hn]; exact hlt)
  rw [hidx, hb, haf]
  simp only [permuted, List.filterMap_nil, List.nil_append, List.append_nil, List.map_map]
  rw [← zipIdx_map_fst groups (fun g => a.duals.getD (g.headD 0) false)]
  apply List.map_congr_left
  intro x hx
  simp only [Function.comp]
  rw [fuseMidIndex_dual a groups blockmap hx, groupDuals_getD hx]

theorem fuseA_pair_props [Zero R] {a af : Arr R} {g1 g2 : List Nat} (hv : Core a)
    (hperm : (g1 ++ g2).Perm (List.range a.ndim))
    (h : fuseA a [g1, g2] .insert false = .ok af) :
    Core af ∧ SameFields af a
    ∧ af.indices.map Index.dual
        = ([g1, g2].filter (fun g => !g.isEmpty)).map (fun g => a.duals.getD (g.headD 0) false) := by
  have hflat : ([g1, g2].filter (fun g => !g.isEmpty)).flatten = g1 ++ g2 := by
    rw [filter_nonempty_flatten]; simp
  rcases fuseA_noexpand h with ⟨he, rfl⟩ | ⟨_, hcore⟩
  · refine ⟨hv, ⟨rfl, rfl, rfl, rfl, rfl⟩, ?_⟩
    have hnil : [g1, g2].filter (fun g => !g.isEmpty) = [] := by simpa using he
    rw [hnil]
    have : g1 ++ g2 = [] := by rw [← hflat, hnil]; rfl
    rw [this] at hperm
    have hlen := hperm.length_eq
    simp only [List.length_nil, List.length_range] at hlen
    have : af.indices = [] := List.eq_nil_of_length_eq_zero hlen.symm
    rw [this]; rfl
  · have hadm : fuseAdmissibleB ([g1, g2].filter (fun g => !g.isEmpty)) a.ndim = true := by
      unfold fuseAdmissibleB
      rw [hflat]
      simp only [Bool.and_eq_true, allDistinct_iff_nodup, List.all_eq_true, decide_eq_true_eq]
      exact ⟨hperm.nodup_iff.mpr List.nodup_range,
        fun ax hax => List.mem_range.mp (hperm.subset hax)⟩
    obtain ⟨e1, e2, e3, e4, e5⟩ := fuseCore_fields hcore
    refine ⟨fuseCore_insert_core a af _ hv hadm hcore, ⟨e1, e2, e3, e4, e5⟩, ?_⟩
    apply fuseCore_cover_duals _ _ hcore
    · intro ax hax
      rw [hflat]; exact hperm.symm.subset (List.mem_range.mpr hax)
    · intro ax hax
      rw [hflat] at hax; exact List.mem_range.mp (hperm.subset hax)

/-- the axes of the (first, second) group of a fused operand among its non-empty groups: the model's
    `(left, axes_a)` for `a` and `(axes_b, right)` for `b` (one `match`, written twice there) -/
def groupAxes (leftAxes axesA : List Nat) : List Nat × List Nat :=
  match !leftAxes.isEmpty, !axesA.isEmpty with
  | false, false => (([] : List Nat), ([] : List Nat))
  | false, true => ([], [0])
  | true, false => ([0], [])
  | true, true => ([0], [1])

theorem groupAxes_props_second (f : List Nat → Bool) (left axesA : List Nat) :
    let D := ([left, axesA].filter (fun g => !g.isEmpty)).map f
    (groupAxes left axesA).2.Nodup ∧ (∀ i ∈ (groupAxes left axesA).2, i < D.length)
    ∧ (groupAxes left axesA).1 = without (List.range D.length) (groupAxes left axesA).2
    ∧ permuted D (groupAxes left axesA).2 = (if axesA.isEmpty then [] else [f axesA]) := by
  cases left <;> cases axesA <;> simp [groupAxes, permuted] <;> decide

theorem groupAxes_props_first (f : List Nat → Bool) (axesB right : List Nat) :
    let D := ([axesB, right].filter (fun g => !g.isEmpty)).map f
    (groupAxes axesB right).1.Nodup ∧ (∀ i ∈ (groupAxes axesB right).1, i < D.length)
    ∧ (groupAxes axesB right).2 = without (List.range D.length) (groupAxes axesB right).1
    ∧ permuted D (groupAxes axesB right).1 = (if axesB.isEmpty then [] else [f axesB]) := by
  cases axesB <;> cases right <;> simp [groupAxes, permuted] <;> decide

end ValidP

namespace TdotP

/-- the two optional `unfuse` calls at the end of `_tensordot_via_fused` (model text); the right
    leg sits on axis `axR` -/
def unfuseLegs [Zero R] (x : Arr R) (mL mR : Bool) (axR : Nat) : Except Err (Arr R) := do
  let cf ← if mR then unfuseA x axR else pure x
  let cf ← if mL then unfuseA cf 0 else pure cf
  pure cf

theorem unfuseLegs_eq [Zero R] (x : Arr R) (mL mR : Bool) (axR : Nat) :
    unfuseLegs x mL mR axR =
      (if mR then unfuseA x axR else pure x) >>= fun y => if mL then unfuseA y 0 else pure y := by
  unfold unfuseLegs
  cases mR <;> cases mL <;> simp only [Bool.false_eq_true, if_false, if_true, bind_pure]

/-- the fused strategy after the alignment step, both operands with blocks (model text): fuse
    each operand into its (at most two) non-empty groups, multiply blockwise, unfuse the legs that
    were fused -/
def viaAligned [Zero R] [Add R] [Mul R] (A B : Arr R) (l xa xb r : List Nat) : Except Err (Arr R) := do
  let af ← fuseA A [l, xa] .insert false
  let bf ← fuseA B [xb, r] .insert false
  unfuseLegs (tensordotBlockwise af bf (ValidP.groupAxes l xa).1 (ValidP.groupAxes l xa).2
      (ValidP.groupAxes xb r).1 (ValidP.groupAxes xb r).2)
    (!l.isEmpty && l.length != 1) (!r.isEmpty && r.length != 1) (if l.isEmpty then 0 else 1)

/-- **control flow of the fused strategy** when both aligned operands have blocks, for ANY
    (possibly empty) left, contracted and right groups -/
theorem tensordotViaFused_aligned [Zero R] [Add R] [Mul R] (a b : Arr R) (l xa xb r : List Nat)
    (hbl : ((dropMisaligned a b xa xb).1.blocks.isEmpty || (dropMisaligned a b xa xb).2.blocks.isEmpty) = false) :
    tensordotViaFused a b l xa xb r =
      viaAligned (dropMisaligned a b xa xb).1 (dropMisaligned a b xa xb).2 l xa xb r := by
  unfold tensordotViaFused viaAligned unfuseLegs
  simp only [hbl, Bool.false_eq_true, if_false]
  rfl

theorem tensordotViaFused_noblocks [Zero R] [Add R] [Mul R] (a b : Arr R) (l xa xb r : List Nat)
    (hbl : ((dropMisaligned a b xa xb).1.blocks.isEmpty || (dropMisaligned a b xa xb).2.blocks.isEmpty) = true) :
    tensordotViaFused a b l xa xb r = .ok
        { (dropMisaligned a b xa xb).1 with
          indices := without (dropMisaligned a b xa xb).1.indices xa ++ without (dropMisaligned a b xa xb).2.indices xb,
          charge := a.sym.combine [a.charge, b.charge], blocks := [] } := by
  unfold tensordotViaFused
  simp only [hbl, if_true]
  rfl

end TdotP

namespace ValidP

theorem unfuseLegs_core [Zero R] {cf0 r : Arr R} {mL mR : Bool} {axR : Nat} (hcore : Core cf0)
    (h : TdotP.unfuseLegs cf0 mL mR axR = .ok r) : Core r ∧ SameFields r cf0 := by
  have leg : ∀ (m : Bool) (ax : Nat) {x y : Arr R}, Core x →
      (if m then unfuseA x ax else pure x) = .ok y → Core y ∧ SameFields y x := by
    intro m ax x y hx hy
    cases m
    · cases hy; exact ⟨hx, ⟨rfl, rfl, rfl, rfl, rfl⟩⟩
    · obtain ⟨e1, e2, e3, e4, e5⟩ := unfuseA_fields hy
      exact ⟨unfuseA_core x y ax hx hy, ⟨e1, e2, e3, e4, e5⟩⟩
  rw [TdotP.unfuseLegs_eq] at h
  obtain ⟨y, hy, h⟩ := bind_ok h
  obtain ⟨cy, fy⟩ := leg _ _ hcore hy
  obtain ⟨cr, fr⟩ := leg _ _ cy h
  exact ⟨cr, fr.trans fy⟩

theorem tensordotViaFused_core [Zero R] [Add R] [Mul R] (a b r : Arr R) (axesA axesB : List Nat)
    (ha : Core a) (hb : Core b) (hsym : a.sym = b.sym)
    (hd : (permuted b.indices axesB).map Index.dual
      = (permuted a.indices axesA).map (fun ix => !ix.dual))
    (hlen : axesA.length = axesB.length)
    (hnA : axesA.Nodup) (hnB : axesB.Nodup)
    (hA : ∀ i ∈ axesA, i < a.ndim) (hB : ∀ i ∈ axesB, i < b.ndim)
    (h : tensordotViaFused a b (without (List.range a.ndim) axesA) axesA axesB
      (without (List.range b.ndim) axesB) = .ok r) :
    Core r ∧ r.sym = a.sym ∧ r.fermi = a.fermi ∧ r.charge = a.sym.combine [a.charge, b.charge]
      ∧ r.phases = a.phases ∧ r.oddpos = a.oddpos := by
  obtain ⟨ca', cb', fa', fb', da', db'⟩ := dropMisaligned_core a b axesA axesB ha hb
  cases hbl : ((dropMisaligned a b axesA axesB).1.blocks.isEmpty
      || (dropMisaligned a b axesA axesB).2.blocks.isEmpty) with
  | true =>
    rw [TdotP.tensordotViaFused_noblocks a b _ axesA axesB _ hbl] at h
    generalize (dropMisaligned a b axesA axesB).1 = a' at *
    generalize (dropMisaligned a b axesA axesB).2 = b' at *
    cases h
    refine ⟨⟨?_, ?_, by simp, by simp⟩, fa'.sym, fa'.fermi, ?_, fa'.phases, fa'.oddpos⟩
    · intro i hi
      show Index.wfB a'.sym i = true
      rcases List.mem_append.mp hi with h1 | h1
      · exact ca'.idx i (mem_without h1)
      · rw [fa'.sym, hsym, ← fb'.sym]; exact cb'.idx i (mem_without h1)
    · show Sym.valid a'.sym (a.sym.combine [a.charge, b.charge]) = true
      rw [fa'.sym]; exact Sym.combine_valid _ _
    · rfl
  | false =>
    rw [TdotP.tensordotViaFused_aligned a b _ axesA axesB _ hbl] at h
    generalize (dropMisaligned a b axesA axesB).1 = a' at *
    generalize (dropMisaligned a b axesA axesB).2 = b' at *
    have hna' : a'.ndim = a.ndim := by
      have := congrArg List.length da'; simpa [Arr.ndim] using this
    have hnb' : b'.ndim = b.ndim := by
      have := congrArg List.length db'; simpa [Arr.ndim] using this
    unfold TdotP.viaAligned at h
    obtain ⟨af, haf, h⟩ := bind_ok h
    obtain ⟨bf, hbf, h⟩ := bind_ok h
    set left := without (List.range a.ndim) axesA with hleft
    set right := without (List.range b.ndim) axesB with hright
    have hpA : (left ++ axesA).Perm (List.range a'.ndim) := by
      rw [hna']; exact without_append_perm hnA hA
    have hpB : (axesB ++ right).Perm (List.range b'.ndim) := by
      rw [hnb']; exact List.perm_append_comm.trans (without_append_perm hnB hB)
    obtain ⟨caf, faf, daf⟩ := fuseA_pair_props ca' hpA haf
    obtain ⟨cbf, fbf, dbf⟩ := fuseA_pair_props cb' hpB hbf
    obtain ⟨p1, p2, p3, p4⟩ := groupAxes_props_second (fun g => a'.duals.getD (g.headD 0) false) left axesA
    obtain ⟨q1, q2, q3, q4⟩ := groupAxes_props_first (fun g => b'.duals.getD (g.headD 0) false) axesB right
    rw [← daf] at p2 p3 p4
    rw [← dbf] at q2 q3 q4
    simp only [List.length_map] at p2 p3 q2 q3
    have hcf : Core (tensordotBlockwise af bf (groupAxes left axesA).1 (groupAxes left axesA).2
        (groupAxes axesB right).1 (groupAxes axesB right).2) := by
      rw [p3, q3]
      apply tensordotBlockwise_core_of_duals af bf _ _ caf cbf
        (by rw [faf.sym, fbf.sym, fa'.sym, fb'.sym]; exact hsym) _ p1 q1 p2 q2
      -- directions of the fused contracted indices
      have e1 : (permuted af.indices (groupAxes left axesA).2).map (fun ix => !ix.dual)
          = (permuted (af.indices.map Index.dual) (groupAxes left axesA).2).map (fun d => !d) := by
        rw [permuted_map, List.map_map]; rfl
      rw [e1, ← permuted_map, p4, q4]
      cases hxa : axesA with
      | nil =>
        have : axesB = [] := by
          rw [hxa] at hlen; exact List.eq_nil_of_length_eq_zero hlen.symm
        rw [this]; rfl
      | cons i xa =>
        cases hxb : axesB with
        | nil => rw [hxa, hxb] at hlen; simp at hlen
        | cons j xb =>
          simp only [List.isEmpty_cons, Bool.false_eq_true, if_false, List.map_cons, List.map_nil,
            List.headD_cons]
          have hi : i < a.indices.length := hA i (by rw [hxa]; simp)
          have hj : j < b.indices.length := hB j (by rw [hxb]; simp)
          rw [hxa, hxb, permuted_cons _ _ _ hi, permuted_cons _ _ _ hj, List.map_cons,
            List.map_cons] at hd
          have hhead := (List.cons.inj hd).1
          have ea : a'.duals.getD i false = a.indices[i].dual := by
            show (a'.indices.map Index.dual).getD i false = _
            rw [da']; simp [List.getD_eq_getElem?_getD, hi]
          have eb : b'.duals.getD j false = b.indices[j].dual := by
            show (b'.indices.map Index.dual).getD j false = _
            rw [db']; simp [List.getD_eq_getElem?_getD, hj]
          rw [ea, eb, hhead]
    obtain ⟨hr, fr⟩ := unfuseLegs_core hcf h
    refine ⟨hr, ?_, ?_, ?_, ?_, ?_⟩
    · rw [fr.sym]; show af.sym = a.sym; rw [faf.sym, fa'.sym]
    · rw [fr.fermi]; show af.fermi = a.fermi; rw [faf.fermi, fa'.fermi]
    · rw [fr.charge]
      show af.sym.combine [af.charge, bf.charge] = _
      rw [faf.sym, faf.charge, fbf.charge, fa'.sym, fa'.charge, fb'.charge]
    · rw [fr.phases]; show af.phases = a.phases; rw [faf.phases, fa'.phases]
    · rw [fr.oddpos]; show af.oddpos = a.oddpos; rw [faf.oddpos, fa'.oddpos]

theorem tdotASpec_all [Zero R] [Add R] [Mul R] (mode : TdotMode) : TdotASpec R mode := by
  intro a b c axesA axesB ha hb hsym hd hlen hnA hnB hA hB h
  unfold tensordotA at h
  rw [parseAxes_nat a.ndim b.ndim axesA axesB hlen hA hB] at h
  simp only [bind, Except.bind] at h
  have hblock : (pure (tensordotBlockwise a b (without (List.range a.ndim) axesA) axesA axesB
      (without (List.range b.ndim) axesB)) : Except Err (Arr R)) = Except.ok c →
      Core c ∧ c.sym = a.sym ∧ c.fermi = a.fermi ∧ c.charge = a.sym.combine [a.charge, b.charge]
        ∧ c.phases = a.phases ∧ c.oddpos = a.oddpos := by
    intro h'
    simp only [pure, Except.pure, Except.ok.injEq] at h'
    subst h'
    exact ⟨tensordotBlockwise_core_of_duals a b axesA axesB ha hb hsym hd hnA hnB hA hB, rfl, rfl, rfl, rfl, rfl⟩
  have hfused := tensordotViaFused_core a b c axesA axesB ha hb hsym hd hlen hnA hnB hA hB
  cases mode with
  | blockwise => exact hblock h
  | fused => exact hfused h
  | auto =>
    by_cases he : axesA.isEmpty = true
    · simp only [he, if_true] at h; exact hblock h
    · simp only [he] at h; exact hfused h

/-- `tensordot_abelian(a, b, axes, mode)` for abelian operands, every mode -/
theorem tensordotA_valid_all [Zero R] [Add R] [Mul R] (mode : TdotMode) (a b r : Arr R)
    (axesA axesB : List Nat) (ha : Valid a) (hb : Valid b) (hfa : a.fermi = false)
    (hadm : tdotAdmissibleB a b axesA axesB = true)
    (h : tensordotA a b (.pair (axesA.map Int.ofNat) (axesB.map Int.ofNat)) mode = .ok r) :
    Valid r := by
  obtain ⟨hsym, hc, hnA, hnB, hA, hB⟩ := tdotAdmissibleB_iff.mp hadm
  obtain ⟨hlen, hd⟩ := oppositeDualsB_permuted (contractible_opposite hc) hA hB
  obtain ⟨hcore, e1, e2, e3, e4, e5⟩ := tdotASpec_all mode a b r axesA axesB ha.core hb.core hsym hd
    hlen hnA hnB hA hB h
  exact ha.of_abelian hfa hcore e2 e4 e5

/-- `tensordot_fermionic(a, b, axes, mode)`, every mode -/
theorem tensordotF_valid_all [Zero R] [Add R] [Mul R] [Neg R] (mode : TdotMode) (a b r : Arr R)
    (axesA axesB : List Nat) (ha : Valid a) (hb : Valid b)
    (hfa : a.fermi = true) (hfb : b.fermi = true)
    (hadm : tdotAdmissibleB a b axesA axesB = true)
    (h : Arr.tensordotF a b (.pair (axesA.map Int.ofNat) (axesB.map Int.ofNat)) mode = .ok r) :
    Valid r :=
  tensordotF_valid_of_spec mode (tdotASpec_all mode) a b r axesA axesB ha hb hfa hfb hadm h

end ValidP
end SymmModel
