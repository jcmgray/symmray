/-
  SymmModel.Proofs.Reshape5e — the abelian fuse call is a `FuseOK` call.
-/
import SymmModel.Proofs.Reshape5d
import SymmModel.Proofs.Reshape4d

namespace SymmModel
namespace Reshape5
open C07 ReshapeP FuseP
set_option linter.unusedSectionVars false

variable {R : Type} [Zero R] [Neg R] [Lazy.LawfulNeg R]

theorem ind_A : ∀ (x : Arr R) (p : Nat) (y : Arr R), unfuseA x p = .ok y →
    ∃ ix subs exts, x.indices[p]? = some ix ∧ ix.sub = some (subs, exts) := by
  intro x p y h
  obtain ⟨ix, subs, exts, h1, h2, _⟩ := ValidP.unfuseA_indices h
  exact ⟨ix, subs, exts, h1, h2⟩

theorem disp_A : ∀ (x : Arr R) (p : Nat), (x.validB = true ∧ x.fermi = false) →
    unfuseDispatch x p = unfuseA x p := by
  intro x p h
  simp [unfuseDispatch, h.2]

theorem chain_fields {unf : Arr R → Nat → Except Err (Arr R)} {Good : Arr R → Prop}
    {sg : Sym → Index → List Index → Sector → Int} (H : StepOK unf Good sg)
    (hind : ∀ x p y, unf x p = .ok y → ∃ ix subs exts, x.indices[p]? = some ix ∧ ix.sub = some (subs, exts)) :
    ∀ (ps : List Nat) (x z : Arr R), Good x → ps.foldlM unf x = .ok z →
      Good z ∧ z.sym = x.sym ∧ z.fermi = x.fermi ∧ z.charge = x.charge ∧ z.oddpos = x.oddpos := by
  refine chain_induction H hind (P := fun _ x z => Good z ∧ z.sym = x.sym ∧ z.fermi = x.fermi
    ∧ z.charge = x.charge ∧ z.oddpos = x.oddpos) (fun x hx => ⟨hx, rfl, rfl, rfl, rfl⟩) ?_
  intro p ps x y z hx hu _ ⟨gz, a1, a2, a3, a4⟩
  obtain ⟨_, _, _, _, _, _, ys, yf, yc, yo⟩ := step_of_ok H hind hx hu
  exact ⟨gz, a1.trans ys, a2.trans yf, a3.trans yc, a4.trans yo⟩

theorem fuseOK_A : FuseOK (R := R) (fun y G => fuseA y G) unfuseA
    (fun a => a.validB = true ∧ a.fermi = false) where
  fuse := by
    intro y G P ⟨hv, hf⟩ hne h2 hflat hle
    have hok := groupsOk_of_call hne h2 hflat hle
    have hgok : groupsOkB G y.ndim = true := groupsOk_iff.2 hok
    have hva := validArr_of_validB hv
    obtain ⟨hpos, hperm⟩ := groupInfo_run y hok hflat hle
    obtain ⟨y', z, hy', hz, hzi, hst, hex⟩ := C05.unfuse_fuse_blocks y G hv hgok
    rw [hpos] at hz
    rw [hperm] at hzi hst hex
    have hyA : fuseA y G = .ok y' := by
      rw [C05.fuseA_eq_fuseCore y G .insert true y.ndim hgok]; exact hy'
    have hy'v : y'.validB = true := C01.fuseCore_valid y y' G hv hf (fuseAdmissible_of_groupsOk hgok) hy'
    have hyeq : y' = fusedArrM y G := by
      have := fuseCore_multi_eq hva hok.adm
      rw [hy'] at this; exact Except.ok.inj this
    have hy'f : y'.fermi = false := by rw [hyeq]; exact hf
    have hidx := ReshapeP.fuse_indices (x := y) (groups := G) (p := P) hv hok hflat hle hy'
    have hz' : ((List.range G.length).map (fun g => P + g)).reverse.foldlM unfuseA y' = .ok z := by
      rw [← groups_chain unfuseA G P y' h2]; exact hz
    obtain ⟨gz, zs, zf, zc, zo⟩ := chain_fields (stepOK_A (R := R)) ind_A _ y' z ⟨hy'v, hy'f⟩ hz'
    have hzph : z.phases = [] := Arr.phases_nil_of_validB gz.1 gz.2
    have hyph : y.phases = [] := Arr.phases_nil_of_validB hv hf
    have hfld : y'.sym = y.sym ∧ y'.charge = y.charge ∧ y'.oddpos = y.oddpos := by
      rw [hyeq]; exact ⟨rfl, rfl, rfl⟩
    have hpr : ∀ s b, (s, b) ∈ y.blocks → permuted s (List.range y.ndim) = s
        ∧ b.transposeK (List.range y.ndim) = b := by
      intro s b hsb
      have hbk := hva.blk (s, b) hsb
      have hbl : b.shape.length = y.ndim := by rw [Arr.blockShape?_shape_length hbk.2.1]; rfl
      exact ⟨by rw [← hbk.1]; exact permuted_range s, Norm.transposeK_id b hbl hbk.2.2⟩
    have hzy : VEq z y := by
      refine ⟨by rw [zs, hfld.1], by rw [zf, hy'f, hf], by rw [hzi]; exact permuted_range y.indices,
        by rw [zc, hfld.2.1], by rw [zo, hfld.2.2], ?_⟩
      intro K J
      rw [Reshape4.elem_no_phases z hzph, Reshape4.elem_no_phases y hyph]
      cases hyK : alookup y.blocks K with
      | some b =>
        have hm := alookup_some_mem hyK
        obtain ⟨e1, e2⟩ := hpr K b hm
        have := hst K b hm
        rw [e1, e2] at this
        rw [this]
      | none =>
        cases hzK : alookup z.blocks K with
        | none => rfl
        | some V =>
          rcases hex K V hzK with ⟨s, b, hsb, rfl⟩ | hz0
          · rw [(hpr s b hsb).1, alookup_of_mem_nodup hva.nodup hsb] at hyK; cases hyK
          · exact FuseP.get_of_allZero hz0 J
    refine ⟨y', newMidOf y G, z, hyA, ⟨hy'v, hy'f⟩, hidx, newMidOf_length _ _,
      fun i g hg => newMidOf_sub y G h2 i g hg, hz', gz, hzy⟩

end Reshape5
end SymmModel
