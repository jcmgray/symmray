/-
  SymmModel.Proofs.TwoStepFinal — "several pairs at once or one after another" (C04), VALUES: the einsum
  of the intermediate with the canonical labels succeeds and reads, at every address of the un-pruned
  frame of the free legs, the value of the one-step contraction (`two_step_elem`): the element views of
  `einsumF` and `tensordotF`, the per-sector facts of `Ctx` (TwoStepMain), the Fubini core
  `two_step_core` and the sign identity `two_step_sign` put together.  Namespace `SymmModel.TwoStepP`.
-/
import SymmModel.Proofs.TwoStepMain

namespace SymmModel
namespace TwoStepP
open TdotP GradedP RoutesP AssocP KoszulP Assoc3P
open Lazy (sgnI einOrder einOperand transposedElem)

variable {R : Type} [AddCommMonoid R] [Mul R] [Neg R] [SignRing R]

variable {a b c e c' : Arr R} {xa xb ya yb : List Nat} {ph : Int}

theorem Ctx.einsum_data (C : Ctx a b c xa xb ya yb ph) :
    (tsLhs a.ndim b.ndim xa xb ya yb).length = c.ndim
    ∧ einPerm? (permuted (tsLhs a.ndim b.ndim xa xb ya yb)
        (einOrder c (tsLhs a.ndim b.ndim xa xb ya yb) (tsRhs a.ndim b.ndim xa xb ya yb)))
        (tsRhs a.ndim b.ndim xa xb ya yb)
      = .ok ((List.range (tsRhs a.ndim b.ndim xa xb ya yb).length).map (2 * ya.length + ·))
    ∧ (einTracedPos (permuted (tsLhs a.ndim b.ndim xa xb ya yb)
        (einOrder c (tsLhs a.ndim b.ndim xa xb ya yb) (tsRhs a.ndim b.ndim xa xb ya yb)))
        (tsRhs a.ndim b.ndim xa xb ya yb)).any (fun js => js.length != 2) = false := by
  refine ⟨by rw [C.I.ndim]; simp [tsLhs, tsN], ?_, ?_⟩
  · rw [C.lhsEq]
    exact einPerm?_canon (tsRhs_lt _ _ _ _ _ _) (tsRhs_nodup _ _ _ _ _ _)
  · rw [C.lhsEq, einTracedPos_canon (tsRhs_lt _ _ _ _ _ _)]; simp

theorem two_step_einsum_ok (C : Ctx a b c xa xb ya yb ph) :
    ∃ e, c.einsumF (tsLhs a.ndim b.ndim xa xb ya yb) (tsRhs a.ndim b.ndim xa xb ya yb) = .ok e := by
  obtain ⟨hlen, hperm, htp⟩ := C.einsum_data
  rw [Lazy.einsumF_eq, if_neg (by simp [hlen])]
  exact ⟨_, einsumA_eq _ _ _ _ hperm htp⟩

theorem two_step_elem (C : Ctx a b c xa xb ya yb ph) (I' : Inter a b (xa ++ ya) (xb ++ yb) c' ph)
    (h2 : c.einsumF (tsLhs a.ndim b.ndim xa xb ya yb) (tsRhs a.ndim b.ndim xa xb ya yb) = .ok e)
    (s' : Sector) (fL fR : List Nat)
    (hfL : fL.length = (freeAxes a.ndim (xa ++ ya)).length)
    (hbox : inBox (Arr.blockShapeD (without a.indices (xa ++ ya) ++ without b.indices (xb ++ yb)) s')
      (fL ++ fR) = true) :
    e.elem s' (fL ++ fR) = c'.elem s' (fL ++ fR) := by
  have hsA := Arr.shapesOk_of_validB C.W1.va
  have hsB := Arr.shapesOk_of_validB C.W1.vb
  obtain ⟨hlen, hperm, htp⟩ := C.einsum_data
  -- a sector of the intermediate that passes the einsum's filter comes from a stored pair aligned
  -- on all pairs, and its kept part is the output sector of that pair
  have kept : ∀ s ∈ c.sectors,
      einKeep (dblFront (tsN a.ndim b.ndim xa xb) ya.length ++ tsRhs a.ndim b.ndim xa xb ya yb)
        (tsRhs a.ndim b.ndim xa xb ya yb) (permuted s (tsOrder a b.ndim xa xb ya yb)) = true →
      permuted (permuted s (tsOrder a b.ndim xa xb ya yb))
        ((List.range (tsRhs a.ndim b.ndim xa xb ya yb).length).map (2 * ya.length + ·)) = s' →
      ∃ sa ∈ a.sectors, ∃ sb ∈ b.sectors, permuted sb (xb ++ yb) = permuted sa (xa ++ ya)
        ∧ s = permuted sa (freeAxes a.ndim xa) ++ permuted sb (freeAxes b.ndim xb)
        ∧ s' = permuted sa (freeAxes a.ndim (xa ++ ya)) ++ permuted sb (freeAxes b.ndim (xb ++ yb)) := by
    intro s hs hk hp
    obtain ⟨sa, hsa, sb, hsb, halx, rfl⟩ := C.I.mem_sectors.mp hs
    rw [C.keptPart hsa hsb] at hp
    exact ⟨sa, hsa, sb, hsb, (C.alignIff hsa hsb).mpr ⟨halx, (C.keepIff hsa hsb).mp hk⟩, rfl, hp.symm⟩
  obtain ⟨e', he', _, hval⟩ := Lazy.einsumF_elem SignRing.neg_add c _ _ _ C.I.valid C.I.fermi hlen
    hperm htp s' (fL ++ fR) (by
      intro s1 hs1 hk hp
      rw [C.lhsEq] at hk ⊢
      rw [Lazy.einOperand_sectors _ _ (Lazy.Full.of_valid C.I.valid C.I.fermi), C.ordEq] at hs1
      obtain ⟨s, hs, rfl⟩ := List.mem_map.mp hs1
      obtain ⟨sa, hsa, sb, hsb, hal, rfl, rfl⟩ := kept s hs hk hp
      rw [C.outBox hsa hsb hal, ← free_shape hsA hsB hsa hsb]
      exact hbox)
  rw [he'] at h2
  obtain rfl := Except.ok.inj h2
  rw [hval, C.lhsEq, C.ordEq, I'.elem s' fL fR hfL hbox]
  -- every term of the einsum is the contraction over the first pairs at the assembled offset
  refine (sum_map_congr fun s hs => congrArg (sgnI _) (sum_map_congr fun t ht =>
    show _ = sgnI ph (gradedContract a b xa xb s
      (asmSide (freeAxes a.ndim xa) ya (freeAxes a.ndim (xa ++ ya)) t fL)
      (asmSide (freeAxes b.ndim xb) yb (freeAxes b.ndim (xb ++ yb)) t fR)) from ?_)).trans ?_
  · obtain ⟨hsc, hk⟩ := List.mem_filter.mp hs
    simp only [Bool.and_eq_true, beq_iff_eq] at hk
    obtain ⟨sa, hsa, sb, hsb, hal, rfl, rfl⟩ := kept s hsc hk.1 hk.2
    rw [C.tracedBox hsa hsb hal] at ht
    rw [free_shape hsA hsB hsa hsb] at hbox
    exact C.term hsa hsb hal t fL fR (mem_allIdx.mp ht) hfL hbox
  -- Fubini over the box of the remaining pairs, and the stored pairs regrouped
  unfold gradedContract
  refine (two_step_core a b xa xb ya yb _ s' _ _ ph (fun p => gradedSign a b xa xb p.1 p.2) fL fR
    (fun _ => Lazy.koszul_pm _ _) C.I.pm (fun _ => gradedSign_pm _ _ _ _ _ _)
    (List.Nodup.filter _ (allDistinct_iff_nodup.mp (Arr.allDistinct_of_validB C.I.valid)))
    (allDistinct_iff_nodup.mp (Arr.allDistinct_of_validB C.W1.va))
    (allDistinct_iff_nodup.mp (Arr.allDistinct_of_validB C.W1.vb))
    ?_ (fun sa hsa sb hsb h => C.alX hsa hsb h) ?_ ?_ C.hlx).trans ?_
  · intro sa hsa sb hsb halx
    rw [List.mem_filter]
    simp only [Bool.and_eq_true, beq_iff_eq]
    rw [C.keepIff hsa hsb, C.keptPart hsa hsb, C.alignIff hsa hsb]
    constructor
    · rintro ⟨_, h1, h2⟩; exact ⟨⟨halx, h1⟩, h2⟩
    · rintro ⟨⟨_, h1⟩, h2⟩
      exact ⟨C.I.mem_sectors.mpr ⟨sa, hsa, sb, hsb, halx, rfl⟩, h1, h2⟩
  · intro s hs p hp
    obtain ⟨hsa, hsb, halx, rfl⟩ := mem_storedPairs.mp hp
    have hk := (List.mem_filter.mp hs).2
    simp only [Bool.and_eq_true, beq_iff_eq] at hk
    exact C.tracedBox hsa hsb ((C.alignIff hsa hsb).mpr ⟨halx, (C.keepIff hsa hsb).mp hk.1⟩)
  · intro sa hsa i hi
    obtain ⟨shp, _, e2, e3, _⟩ := shape_of_mem hsA hsa
    rw [e2, e3]; exact C.W1.ltA i hi
  -- the signs: Koszul sign of the einsum order times graded sign of the first contraction
  refine congrArg (sgnI ph) (sum_map_congr fun p hp => congrArg (fun z => sgnI z _) ?_)
  obtain ⟨hsa, hsb, hal, _⟩ := mem_storedPairs.mp hp
  show koszul ((permuted p.1 (freeAxes a.ndim xa) ++ permuted p.2 (freeAxes b.ndim xb)).map c.sym.parity)
      (some (tsOrder a b.ndim xa xb ya yb)) * gradedSign a b xa xb p.1 p.2 = _
  rw [C.I.sym]
  exact two_step_sign a b xa xb ya yb p.1 p.2 C.W2.sym C.W2.nA C.W2.ltA C.W2.nB C.W2.ltB C.hlx C.hly
    (C.lenA hsa hsb) (C.lenB hsa hsb) hal

end TwoStepP
end SymmModel
