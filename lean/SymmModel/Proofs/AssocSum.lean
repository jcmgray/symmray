/-
  SymmModel.Proofs.AssocSum — towards S7 of property C04: the scalar laws used by associativity
  and the algebra of nested signed finite sums.
-/
import SymmModel.Proofs.Routes4

namespace SymmModel
namespace AssocP
open TdotP GradedP
open Lazy (sgnI)
set_option linter.unusedSectionVars false

/-- the laws of multiplication that associativity of contraction needs (on top of a commutative
    additive monoid and `SignRing`) -/
class AssocLaws (R : Type) [AddCommMonoid R] [Mul R] : Prop where
  mul_assoc : ∀ x y z : R, x * y * z = x * (y * z)
  left_distrib : ∀ x y z : R, x * (y + z) = x * y + x * z
  right_distrib : ∀ x y z : R, (x + y) * z = x * z + y * z
  zero_mul : ∀ x : R, 0 * x = 0
  mul_zero : ∀ x : R, x * 0 = 0

instance : AssocLaws Int :=
  ⟨Int.mul_assoc, Int.mul_add, Int.add_mul, Int.zero_mul, Int.mul_zero⟩

variable {R : Type} [AddCommMonoid R] [Mul R] [Neg R] [SignRing R] [AssocLaws R]

theorem sum_mul {κ : Type} (l : List κ) (f : κ → R) (y : R) :
    (l.map f).sum * y = (l.map (fun i => f i * y)).sum := by
  induction l with
  | nil => simp [AssocLaws.zero_mul]
  | cons a l ih => simp only [List.map_cons, List.sum_cons, AssocLaws.right_distrib, ih]

theorem mul_sum {κ : Type} (l : List κ) (f : κ → R) (x : R) :
    x * (l.map f).sum = (l.map (fun i => x * f i)).sum := by
  induction l with
  | nil => simp [AssocLaws.mul_zero]
  | cons a l ih => simp only [List.map_cons, List.sum_cons, AssocLaws.left_distrib, ih]

theorem triple_sum {κ₁ κ₂ : Type} (K1 : List κ₁) (K2 : List κ₂) (a : κ₁ → R) (b : κ₁ → κ₂ → R)
    (c : κ₂ → R) :
    (K2.map (fun k2 => (K1.map (fun k1 => a k1 * b k1 k2 * c k2)).sum)).sum
      = (K1.map (fun k1 => (K2.map (fun k2 => a k1 * (b k1 k2 * c k2))).sum)).sum := by
  rw [sum_swap]
  simp only [AssocLaws.mul_assoc]

theorem sum_flat {α β γ : Type} (P : List α) (Q : α → List β) (pr : α → β → γ) (ph : Int)
    (g : α → β → R) (G : γ → R) (hG : ∀ p ∈ P, ∀ q ∈ Q p, g p q = G (pr p q)) :
    (P.map (fun p => sgnI ph ((Q p).map (fun q => g p q)).sum)).sum
      = sgnI ph (((P.flatMap (fun p => (Q p).map (pr p))).map G).sum) := by
  rw [sgnI_sum, sum_map_flatMap]
  congr 2
  apply List.map_congr_left
  intro p hp
  rw [List.map_map]
  congr 1
  apply List.map_congr_left
  intro q hq
  exact hG p hp q hq

end AssocP
end SymmModel
