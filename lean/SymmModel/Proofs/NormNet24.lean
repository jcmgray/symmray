/-
  SymmModel.Proofs.NormNet24 — network form of the norm (property C10), part 24:
  the sequential bracketing with mixed orders `((ā·b̄)·b)·a` (= `K̄·(b·a)` by S7 under the weak guard,
  then the mixed balanced bracketing `(ā·b̄)·(b·a)`).
-/
import SymmModel.Proofs.NormNet23
namespace SymmModel.NormNet
open SymmModel SymmModel.Lazy SymmModel.Norm SymmModel.TdotP SymmModel.GradedP SymmModel.RoutesP
open SymmModel.AssocP SymmModel.Assoc3P

section geom

/-- the crossing positions are the inverse rotation -/
theorem crossAx_eq_rotAx (m k : Nat) : crossAx k m = rotAx m k := by
  unfold crossAx
  have hp : permuted (rotAx k m) (rotAx m k) = List.range (k + m) := by
    have := permuted_rotAx ((List.range m).map (k + ·)) (List.range k)
    rw [List.length_map, List.length_range, List.length_range, range_split] at this
    exact this
  rw [← hp]
  apply positions_permuted
  · exact (rotAx_perm k m).nodup_iff.mpr List.nodup_range
  · intro i hi
    rw [rotAx_length]
    have := (rotAx_perm m k).mem_iff.mp hi
    have := List.mem_range.mp this
    omega

end geom

section seq
variable {R : Type} [AddCommMonoid R] [Mul R] [Neg R] [Conj R] [NetLaws R] [AssocLaws R]

/-- **`((ā·b̄)·b)·a`**: the bra half contracted as `ā·b̄`, then the ket tensors one at a time in the
    order `b`, `a` -/
theorem network_norm_mixed_seq (hmul : ∀ x y : R, x * y = y * x) (a b : Arr R) (xa xb : List Nat)
    (ha : a.validB = true) (hb : b.validB = true) (hfa : a.fermi = true) (hfb : b.fermi = true)
    (hadm : ValidP.tdotAdmissibleB a b xa xb = true)
    (hoA : KetLabels a.oddpos) (hoB : KetLabels b.oddpos)
    (hd : (a.oddpos ++ b.oddpos).Pairwise (fun x y => x.1 ≠ y.1))
    (hlab' : netLabelsB b.parity a.parity b.oddpos a.oddpos = true) :
    ∃ K Kb, a.tensordotF b (.pair (xa.map Int.ofNat) (xb.map Int.ofNat)) .blockwise = .ok K
      ∧ (braOf a xa).tensordotF (braOf b xb) (.pair (xa.map Int.ofNat) (xb.map Int.ofNat)) .blockwise
          = .ok Kb
      ∧ ∃ T c, Kb.tensordotF b (.pair
            (((List.range (freeAxes b.ndim xb).length).map ((freeAxes a.ndim xa).length + ·)).map
              Int.ofNat) ((freeAxes b.ndim xb).map Int.ofNat)) .blockwise = .ok T
        ∧ T.tensordotF a (.pair ((Assoc2P.axesAB Kb.ndim b.ndim
              ((List.range (freeAxes b.ndim xb).length).map ((freeAxes a.ndim xa).length + ·))
              (List.range (freeAxes a.ndim xa).length) (freeAxes b.ndim xb) xb).map Int.ofNat)
            ((freeAxes a.ndim xa ++ xa).map Int.ofNat)) .blockwise = .ok c
        ∧ c.ndim = 0 ∧ c.oddpos = [] ∧ c.elem [] [] = normSq K := by
  have h := Adm.of ha hb hfa hfb hadm
  have hadm' := admB_swap ha hb hfa hfb hadm
  have hd' := labels_swap hd
  have h' := Adm.of hb ha hfb hfa hadm'
  obtain ⟨K, Kb, K', Kb', TN, _, _, ⟨r3, e3, n3, o3, v3⟩, _⟩ :=
    network_norm_mixed hmul a b xa xb ha hb hfa hfb hadm hoA hoB hd
  obtain ⟨K1, Kb1, eK1, eKb1, hobs, hKv, hKf, hKbv, hKbf, _, _, _⟩ :=
    conj_tensordot a b xa xb ha hb hfa hfb hadm hoA hoB hd
  obtain rfl : K1 = K := Except.ok.inj (eK1.symm.trans TN.eK)
  obtain rfl : Kb1 = Kb := Except.ok.inj (eKb1.symm.trans TN.eKb)
  obtain ⟨K2, Kb2, s, s', S'⟩ := net_setup b a xb xa hb ha hfb hfa hadm' hoB hoA hd'
  obtain rfl : K2 = K' := Except.ok.inj (S'.eK.symm.trans TN.eK')
  obtain ⟨hKs, hKc, ph, hm⟩ := tdot_fields h TN.eK
  obtain ⟨_, _, ph', hm'⟩ := tdot_fields h' TN.eK'
  obtain ⟨c1, c2, c3, c4, c5, c6⟩ := conjF_frame K1 true true
  obtain ⟨out, sab, sba, w1, w2, _⟩ := RoutesP.mergeOddpos_swap a.parity b.parity a.oddpos b.oddpos hd
  have hoK : K1.oddpos = K2.oddpos := by
    rw [hm] at w1; rw [hm'] at w2
    rw [(Prod.mk.inj (Except.ok.inj w1)).1, (Prod.mk.inj (Except.ok.inj w2)).1]
  have hKp : K1.parity = xor a.parity b.parity := by
    unfold Arr.parity
    rw [hKs, hKc, Sym.parity_combine_pair, h.sym]
  have hXp : Kb1.parity = xor b.parity a.parity := by
    rw [Bool.xor_comm, ← hKp]
    unfold Arr.parity
    rw [hobs.sym, hobs.charge, c1, c4, Sym.parity_sign]
  have hXo : Kb1.oddpos = Arr.oddposDag K2.oddpos := by rw [hobs.oddpos, c5, hoK]
  have hXs : Kb1.sym = a.sym := by rw [hobs.sym, c1, hKs]
  obtain ⟨S0, hK0⟩ := tdot_indices_pruned h TN.eK
  have hXi : Kb1.indices
      = (dropUnused (without a.indices xa ++ without b.indices xb) S0).map Index.conj := by
    rw [hobs.indices, c3, hK0]
  have fr := frame_of_dropUnused hXi
  have hXn := halfS_ndim Kb1 a b xa xb fr (keys_nodup_of_validB hKbv)
  have hL : Assoc2P.LabelRoutes Kb1.parity b.parity Kb1.oddpos b.oddpos a.oddpos := by
    rw [hXp, hXo]; exact S'.lrS1
  -- the triangle `K̄ – b – a`: `b`'s legs of `K̄` come after `a`'s
  obtain ⟨AB, BC, d1, d2, e1, e2, e3', e4, r1, r7, r9⟩ :=
    assoc_scalar_tri (half_tri_cross hKbv hKbf hXs fr h) hL
      (freeAxes_all _ _ (fun i hi => shift_range_cover (by rwa [hXn] at hi)))
      (freeAxes_all _ _ (all_left xb)) (freeAxes_all _ _ (all_right xa))
  obtain rfl : BC = K2 := Except.ok.inj (e3'.symm.trans TN.eK')
  -- route 2 is the mixed balanced bracketing `(ā·b̄)·(b·a)`
  have hax : (List.range (freeAxes b.ndim xb).length).map ((freeAxes a.ndim xa).length + ·)
      ++ List.range (freeAxes a.ndim xa).length
      = crossAx (freeAxes b.ndim xb).length (freeAxes a.ndim xa).length := by
    rw [crossAx_eq_rotAx]; rfl
  have hn2 : (freeAxes b.ndim xb).length + (freeAxes a.ndim xa).length = K1.ndim := by
    rw [← TN.nd, hXn]; omega
  rw [hax, axesBC_all, hn2] at e4
  obtain rfl : d2 = r3 := Except.ok.inj (e4.symm.trans e3)
  refine ⟨K1, Kb1, TN.eK, TN.eKb, AB, d1, e1, e2, ?_, ?_, ?_⟩
  · unfold Arr.ndim at n3 ⊢; rw [← r7]; exact n3
  · rw [← r1]; exact o3
  · rw [← r9]; exact v3

end seq

end SymmModel.NormNet
