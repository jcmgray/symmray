/-
  SymmModel.Proofs.FuseCommuteH2 — fusing ONE group `g` of FREE legs of the LEFT operand (any
  position, any order, no preliminary transposition) commutes with the contraction (abelian, operands
  not aligned): the contraction of `fuse(a, [g])` with `b` over the renumbered axes
  `xa.map (shiftAxes a g)`, at the address read off a full address `(ML', MO')` of the fused operand,
  is the plain contraction at the address read off the full address `(ML, MO)` of `a` that
  `(ML', MO')` decodes to: `group_geom_full` and locality of the contraction in the left operand
  (`tdot_elem_congr_left`), both in FuseCommuteL.  Namespace `SymmModel.TdotP`.
-/
import SymmModel.Proofs.FuseCommuteH1
import SymmModel.Proofs.FuseCommute4

namespace SymmModel
namespace TdotP
variable {R : Type}

theorem group_commute [AddCommMonoid R] [Mul R] [Neg R]
    (hz1 : ∀ x : R, 0 * x = 0) (hz2 : ∀ x : R, x * 0 = 0) (a b : Arr R) (xa xb g : List Nat)
    (ha : a.validB = true) (hb : b.validB = true) (hfa : a.fermi = false) (hpb : b.phases = [])
    (h : OneOk a g) (hdisj : ∀ x ∈ xa, x ∉ g)
    (hnA : xa.Nodup) (hnB : xb.Nodup) (hA : ∀ x ∈ xa, x < a.ndim) (hB : ∀ x ∈ xb, x < b.ndim)
    (hlen : xa.length = xb.length)
    {ML' ML : Sector} {MO' MO shp' shpA : List Nat}
    (hshp' : Arr.blockShape? (FuseP.fusedArrM a [g]).indices ML' = some shp') (hbox' : inBox shp' MO' = true)
    (hshpA : Arr.blockShape? a.indices ML = some shpA) (hboxA : inBox shpA MO = true)
    (hdec : decAx a [g] 0 (ML'.getD (bondPos a g) (0, 0)) (MO'.getD (bondPos a g) 0)
      = some (permuted ML g, permuted MO g))
    (hfS : permuted ML' (freeAxes (FuseP.fusedArrM a [g]).ndim [bondPos a g]) = permuted ML (freeAxes a.ndim g))
    (hfO : permuted MO' (freeAxes (FuseP.fusedArrM a [g]).ndim [bondPos a g]) = permuted MO (freeAxes a.ndim g))
    {Rs : Sector} {oR shpR : List Nat}
    (hR : Arr.blockShape? (permuted b.indices (freeAxes b.ndim xb)) Rs = some shpR)
    (hbR : inBox shpR oR = true) :
    (tensordotBlockwise (FuseP.fusedArrM a [g]) b
        (freeAxes (FuseP.fusedArrM a [g]).ndim (xa.map (shiftAxes a g))) (xa.map (shiftAxes a g)) xb
        (freeAxes b.ndim xb)).elem
        (permuted ML' (freeAxes (FuseP.fusedArrM a [g]).ndim (xa.map (shiftAxes a g))) ++ Rs)
        (permuted MO' (freeAxes (FuseP.fusedArrM a [g]).ndim (xa.map (shiftAxes a g))) ++ oR)
      = (tensordotBlockwise a b (freeAxes a.ndim xa) xa xb (freeAxes b.ndim xb)).elem
        (permuted ML (freeAxes a.ndim xa) ++ Rs) (permuted MO (freeAxes a.ndim xa) ++ oR) := by
  obtain ⟨G, hLF, hbLF, hL, hbL⟩ :=
    group_geom_full a g xa ha hfa h hdisj hnA hA hshp' hbox' hshpA hboxA hdec hfS hfO
  have hpa : a.phases = [] := Arr.phases_nil_of_validB ha hfa
  have hvF := one_validB ha hfa h
  exact tdot_elem_congr_left hz1 hz2 (FuseP.fusedArrM a [g]) a b (xa.map (shiftAxes a g)) xa xb hpa hpa hpb
    (Arr.allDistinct_of_validB hvF) (Arr.allDistinct_of_validB ha) (Arr.allDistinct_of_validB hb)
    (Arr.shapesOk_of_validB hvF) (Arr.shapesOk_of_validB ha) (Arr.shapesOk_of_validB hb) G.nodupF G.ltF hnA hA
    hnB hB (List.length_map _) hlen G.idxK G.keysF hLF hbLF hL hbL hR hbR G.elem

end TdotP
end SymmModel
