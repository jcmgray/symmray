/-
  SymmModel.Proofs.Dense5a — the position map of `fuse_toDense` (`Dense5.FuseRel`,
  Proofs/Dense3d.lean) is injective and single-valued: a partial bijection (property C08, Props/C08e).
-/
import SymmModel.Proofs.Dense4a

namespace SymmModel
namespace Dense5
open FuseP

variable {R : Type}

theorem locate_inj {cm : List (Charge × Nat)} (hnd : (cm.map (·.1)).Nodup) {p p' : Nat}
    {c : Charge} {o : Nat} (h : Arr.locate cm p = some (c, o)) (h' : Arr.locate cm p' = some (c, o)) :
    p = p' := by
  have e1 := Arr.position_locate hnd h
  have e2 := Arr.position_locate hnd h'
  rw [e1] at e2
  exact Option.some.inj e2

theorem locateAll_inj {idx : List Index} (hnd : ∀ ix ∈ idx, (ix.cm.map (·.1)).Nodup)
    {p p' : List Nat} (hp : p.length = idx.length) (hp' : p'.length = idx.length)
    {s : Sector} {off : List Nat} (h : Arr.locateAll idx p = some (s, off))
    (h' : Arr.locateAll idx p' = some (s, off)) : p = p' := by
  apply List.ext_getElem (hp.trans hp'.symm)
  intro k hk hk'
  have hki : k < idx.length := hp ▸ hk
  have hix : idx.getD k default ∈ idx := by
    rw [List.getD_eq_getElem?_getD, List.getElem?_eq_getElem hki]; exact List.getElem_mem hki
  have := locate_inj (nodup_keys_sortCm (hnd _ hix)) (Arr.locateAll_axis h hp k hki)
    (Arr.locateAll_axis h' hp' k hki)
  simpa [List.getD_eq_getElem?_getD, List.getElem?_eq_getElem hk, List.getElem?_eq_getElem hk']
    using this

theorem map_congr_getElem? {α β : Type} (l : List α) (f1 f2 : α → β)
    (h : ∀ (g : Nat) (x : α), l[g]? = some x → f1 x = f2 x) : l.map f1 = l.map f2 := by
  apply List.map_congr_left
  intro x hx
  obtain ⟨g, hg⟩ := List.mem_iff_getElem?.mp hx
  exact h g x hg

theorem fuseRel_injective (a x : Arr R) (groups : List (List Nat))
    (hok : GroupsOk groups a.ndim) {s1 s2 : Sector} {offs1 offs2 : List Nat} {ns : Sector}
    {i : List Nat} (hs1 : s1.length = a.ndim) (hs2 : s2.length = a.ndim)
    (ho1 : offs1.length = a.ndim) (ho2 : offs2.length = a.ndim)
    (h1 : FuseRel a x groups s1 offs1 ns i) (h2 : FuseRel a x groups s2 offs2 ns i) :
    s1 = s2 ∧ offs1 = offs2 := by
  obtain ⟨m1, g1, k1, j1⟩ := h1
  obtain ⟨m2, g2, k2, j2⟩ := h2
  have hisp := perm_isPerm (hokD (a := a) hok).adm
  rw [duals_length] at hisp
  have hseg : ∀ (g : Nat) (gaxes : List Nat), groups[g]? = some gaxes →
      gaxes.map (fun ax => s1.getD ax (0, 0)) = gaxes.map (fun ax => s2.getD ax (0, 0))
      ∧ gaxes.map (fun ax => offs1.getD ax 0) = gaxes.map (fun ax => offs2.getD ax 0) := by
    intro g gaxes hg
    by_cases hlen : gaxes.length = 1
    · obtain ⟨a1, b1⟩ := g1 g gaxes hg hlen
      obtain ⟨a2, b2⟩ := g2 g gaxes hg hlen
      exact ⟨a1.symm.trans a2, b1.symm.trans b2⟩
    · have e1 := m1 g gaxes hg hlen
      have e2 := m2 g gaxes hg hlen
      rw [e1] at e2
      simp only [Option.some.injEq, Prod.mk.injEq] at e2
      exact e2
  have hK : (groups.map (fun gaxes => gaxes.map (fun ax => s1.getD ax (0, 0))))
      = groups.map (fun gaxes => gaxes.map (fun ax => s2.getD ax (0, 0))) :=
    map_congr_getElem? groups _ _ (fun g x hg => (hseg g x hg).1)
  have hJ : (groups.map (fun gaxes => gaxes.map (fun ax => offs1.getD ax 0)))
      = groups.map (fun gaxes => gaxes.map (fun ax => offs2.getD ax 0)) :=
    map_congr_getElem? groups _ _ (fun g x hg => (hseg g x hg).2)
  rw [hK] at k1
  rw [hJ] at j1
  exact ⟨permuted_inj hisp hs1 hs2 (k1.trans k2.symm), permuted_inj hisp ho1 ho2 (j1.trans j2.symm)⟩

theorem eq_of_three_parts {α : Type} (d : α) {l1 l2 : List α} {n pos m : Nat}
    (h1 : l1.length = n) (h2 : l2.length = n) (ha : l1.take pos = l2.take pos)
    (hmid : ∀ g, g < m → l1.getD (pos + g) d = l2.getD (pos + g) d)
    (hc : l1.drop (pos + m) = l2.drop (pos + m)) : l1 = l2 := by
  apply list_ext_getD d (by rw [h1, h2])
  intro k _
  by_cases hk1 : k < pos
  · have := congrArg (fun l => l.getD k d) ha
    simpa [List.getD_eq_getElem?_getD, List.getElem?_take, hk1] using this
  · by_cases hk2 : k < pos + m
    · have := hmid (k - pos) (by omega)
      rwa [show pos + (k - pos) = k by omega] at this
    · have := congrArg (fun l => l.getD (k - (pos + m)) d) hc
      simp only [List.getD_eq_getElem?_getD, List.getElem?_drop] at this
      rwa [show pos + m + (k - (pos + m)) = k by omega] at this

/-- `hwf`: the fused indices are well formed — they are, for a valid original -/
theorem fuseRel_functional (a x : Arr R) (groups : List (List Nat)) (sym : Sym)
    (hwf : ∀ g gaxes, groups[g]? = some gaxes → gaxes.length ≠ 1 →
      Index.wfB sym (x.indices.getD ((calcFuseGroupInfo groups a.duals).position + g) default) = true)
    {s : Sector} {offs : List Nat} {ns1 ns2 : Sector} {i1 i2 : List Nat} {n : Nat}
    (hl1 : ns1.length = n) (hl2 : ns2.length = n) (hi1 : i1.length = n) (hi2 : i2.length = n)
    (h1 : FuseRel a x groups s offs ns1 i1) (h2 : FuseRel a x groups s offs ns2 i2) :
    ns1 = ns2 ∧ i1 = i2 := by
  obtain ⟨m1, g1, k1, j1⟩ := h1
  obtain ⟨m2, g2, k2, j2⟩ := h2
  generalize hpos : (calcFuseGroupInfo groups a.duals).position = pos at *
  have eK := k1.symm.trans k2
  have eJ := j1.symm.trans j2
  obtain ⟨ka, _, kc⟩ := parts_inj eK (by simp [hl1, hl2]) (by simp [hl1, hl2])
  obtain ⟨ja, _, jc⟩ := parts_inj eJ (by simp [hi1, hi2]) (by simp [hi1, hi2])
  have hmid : ∀ g, g < groups.length →
      ns1.getD (pos + g) (0, 0) = ns2.getD (pos + g) (0, 0) ∧ i1.getD (pos + g) 0 = i2.getD (pos + g) 0 := by
    intro g hg
    have hgg : groups[g]? = some groups[g] := List.getElem?_eq_getElem hg
    by_cases hlen : groups[g].length = 1
    · obtain ⟨a1, b1⟩ := g1 g _ hgg hlen
      obtain ⟨a2, b2⟩ := g2 g _ hgg hlen
      have ea := a1.trans a2.symm
      have eb := b1.trans b2.symm
      simp only [List.cons.injEq, and_true] at ea eb
      exact ⟨ea, eb⟩
    · have e1 := m1 g _ hgg hlen
      have e2 := m2 g _ hgg hlen
      have hw := hwf g _ hgg hlen
      obtain ⟨hj1, subs, exts, shp, hs, _, _, hc1⟩ := joinAddr_splitAddr hw e1
      obtain ⟨hj2, subs', exts', shp', hs', _, _, hc2⟩ := joinAddr_splitAddr hw e2
      rw [hs] at hs'
      simp only [Option.some.injEq, Prod.mk.injEq] at hs'
      obtain ⟨rfl, rfl⟩ := hs'
      have hcc : ns1.getD (pos + g) (0, 0) = ns2.getD (pos + g) (0, 0) := by rw [← hc1, ← hc2]
      rw [hcc] at hj1
      rw [hj1] at hj2
      exact ⟨hcc, by simpa using hj2⟩
  exact ⟨eq_of_three_parts (0, 0) hl1 hl2 ka (fun g hg => (hmid g hg).1) kc,
    eq_of_three_parts 0 hi1 hi2 ja (fun g hg => (hmid g hg).2) jc⟩

end Dense5
end SymmModel
