/-
  SymmModel.Proofs.FuseLemmas — entry point of the lemma development for property C05: the import chain
  FuseBase, FuseAssoc, FuseTable, FusePlan, FuseWf, FuseSpec, FuseAddr, FuseIns, FuseUnfuse, FuseAll, FuseElem,
  FuseConcat (boxes, lists and dictionaries themselves are in BaseBox, BaseList, BaseAlist).  On top of it:
  arbitrary lists of groups (element map, round trip) in FuseMulti1–7, FuseMultiU, FuseMultiR1–R5; insert = concat
  in Fuse7*, Fuse8Link … Fuse8Order.  Beside the chain: FuseOne (the one-group vocabulary; only Props/C05All7
  imports it).
-/
import SymmModel.Proofs.FuseConcat
