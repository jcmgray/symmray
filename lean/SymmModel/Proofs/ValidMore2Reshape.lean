/-
  SymmModel.Proofs.ValidMore2Reshape — `AbelianArray.reshape` / `FermionicArray.reshape` return a
  valid array (property C01).  `reshapeArr` executes the planner's plan as a sequence of `unfuse`, `fuse`
  and `expand_dims` calls; each of them preserves validity, the `fuse` calls under their
  precondition (grouped axes distinct and in range), which is the guard
  `reshapeAdmissibleB` evaluated along the model's own execution of the plan.
-/
import SymmModel.Proofs.ValidFuseF
import SymmModel.Model.Reshape

namespace SymmModel
namespace ValidP
open Sym

variable {R : Type}

theorem unfuseDispatch_valid [Zero R] [Neg R] (x r : Arr R) (ax : Nat) (hv : Valid x)
    (h : unfuseDispatch x ax = .ok r) : Valid r := by
  unfold unfuseDispatch at h
  split at h
  · rename_i hf; exact unfuseF_valid x r ax hv hf h
  · rename_i hf; exact unfuseA_valid x r ax hv (by simpa using hf) h

theorem fuseDispatch_valid [Zero R] [Neg R] (x r : Arr R) (grouping : List (List Nat))
    (hv : Valid x) (hadm : fuseAdmissibleB grouping x.ndim = true)
    (h : fuseDispatch x grouping = .ok r) : Valid r := by
  unfold fuseDispatch at h
  split at h
  · rename_i hf; exact fuseF_valid x r grouping true hv hf hadm h
  · rename_i hf; exact fuseA_valid x r grouping true hv (by simpa using hf) hadm h

theorem expandDispatch_valid (x r : Arr R) (ax : Nat) (hv : Valid x)
    (h : expandDispatch x ax = .ok r) : Valid r := by
  unfold expandDispatch at h
  split at h
  · cases h
  · simp only [pure, Except.pure, Except.ok.injEq] at h
    subst h; exact expandDims_none_valid x ax none hv

/-- every `fuse` call of the plan, as the model executes it, receives admissible groups -/
def fuseStepsAdmissibleB [Zero R] [Neg R] : Arr R → List (List (List Nat)) → Bool
  | _, [] => true
  | x, g :: gs =>
    fuseAdmissibleB g x.ndim &&
    match fuseDispatch x g with
    | .ok x' => fuseStepsAdmissibleB x' gs
    | .error _ => true

def planAdmissibleB [Zero R] [Neg R] (a : Arr R)
    (plan : List Nat × List (List (List Nat)) × List Nat) : Bool :=
  match plan.1.foldlM unfuseDispatch a with
  | .ok x => fuseStepsAdmissibleB x plan.2.1
  | .error _ => true

/-- the guard of `reshape`: the plan the planner returns only issues admissible `fuse` calls -/
def reshapeAdmissibleB [Zero R] [Neg R] (a : Arr R) (newshape : List Int) : Bool :=
  match (do
    let full ← findFullReshape newshape a.size
    let ns ← full.mapM (fun (d : Int) =>
      if d < 0 then (throw Err.notimpl : Except Err Nat) else pure d.toNat)
    calcReshapeArgs a.shape ns a.subsizes) with
  | .ok plan => planAdmissibleB a plan
  | .error _ => true

theorem fuseSteps_valid [Zero R] [Neg R] (gs : List (List (List Nat))) (x r : Arr R)
    (hv : Valid x) (hadm : fuseStepsAdmissibleB x gs = true)
    (h : gs.foldlM fuseDispatch x = .ok r) : Valid r := by
  induction gs generalizing x with
  | nil =>
    simp only [List.foldlM_nil, pure, Except.pure, Except.ok.injEq] at h
    subst h; exact hv
  | cons g gs ih =>
    rw [List.foldlM_cons] at h
    obtain ⟨x', hx', h⟩ := bind_ok h
    simp only [fuseStepsAdmissibleB, Bool.and_eq_true] at hadm
    rw [hx'] at hadm
    exact ih x' (fuseDispatch_valid x x' g hv hadm.1 hx') hadm.2 h

theorem applyPlan_valid [Zero R] [Neg R] (a r : Arr R)
    (plan : List Nat × List (List (List Nat)) × List Nat) (hv : Valid a)
    (hadm : planAdmissibleB a plan = true) (h : applyPlan a plan = .ok r) : Valid r := by
  unfold applyPlan at h
  obtain ⟨x1, hx1, h⟩ := bind_ok h
  obtain ⟨x2, hx2, h⟩ := bind_ok h
  have v1 : Valid x1 :=
    foldlM_ok_inv (fun x : Arr R => Valid x) unfuseDispatch plan.1 a x1 hv
      (fun x ax x' _ hx hs => unfuseDispatch_valid x x' ax hx hs) hx1
  unfold planAdmissibleB at hadm
  rw [hx1] at hadm
  have v2 : Valid x2 := fuseSteps_valid plan.2.1 x1 x2 v1 hadm hx2
  exact foldlM_ok_inv (fun x : Arr R => Valid x) expandDispatch plan.2.2 x2 r v2
    (fun x ax x' _ hx hs => expandDispatch_valid x x' ax hx hs) h

theorem reshapeArr_valid [Zero R] [Neg R] (a r : Arr R) (newshape : List Int) (hv : Valid a)
    (hadm : reshapeAdmissibleB a newshape = true) (h : reshapeArr a newshape = .ok r) :
    Valid r := by
  unfold reshapeArr at h
  obtain ⟨full, hfull, h⟩ := bind_ok h
  obtain ⟨ns, hns, h⟩ := bind_ok h
  obtain ⟨plan, hplan, h⟩ := bind_ok h
  unfold reshapeAdmissibleB at hadm
  simp only [hfull, hns, hplan, bind, Except.bind] at hadm
  exact applyPlan_valid a r plan hv hadm h

end ValidP
end SymmModel
