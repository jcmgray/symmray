/-
  SymmModel.Proofs.Fuse6Fuse2 — the fused axes that `fuseF` creates are those of the original groups
  (`newGroupsF` keeps the group sizes).
-/
import SymmModel.Proofs.Fuse6Fuse
namespace SymmModel
namespace FuseP
open SymmModel.Lazy

theorem multiPL_newGroupsF (groups : List (List Nat)) (duals : List Bool) (pos : Nat) :
    multiPL (newGroupsF groups duals) pos = multiPL groups pos := by
  unfold multiPL
  rw [newGroupsF_length]
  have hf : (List.range groups.length).filter (multiB (newGroupsF groups duals))
      = (List.range groups.length).filter (multiB groups) := by
    apply List.filter_congr
    intro g _
    exact multiB_newGroupsF groups duals g
  rw [hf]
  apply List.map_congr_left
  intro g _
  simp only [List.getD_eq_getElem?_getD, newGroupsF_getElem?]
  cases groups[g]? with
  | none => rfl
  | some gx => simp

end FuseP
end SymmModel
