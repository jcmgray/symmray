/-
  SymmModel.Proofs.Heap3Prov — denotation of `phase_sync` and `_binary_blockwise_op` (property C14), and
  the self-aliased fermionic `x ∘= x` with pending signs: in place and out of place produce block
  dicts with the SAME DENOTATION under every interpretation of the kernels, although the buffer tables
  differ (out of place the pending signs are multiplied in twice, into two copies).
-/
import SymmModel.Proofs.Heap3Sem
import SymmModel.Proofs.Heap2Inplace
namespace SymmModel.Heap

theorem foldl_act_mut (l : List Act) (s : PState) (td : Dict) :
    (l.map (Mut.act 0)).foldl (fun s m => m.pure s) (s, td) = (l.foldl (fun s a => a.pure s) s, td) := by
  induction l generalizing s with
  | nil => rfl
  | cons a r ih => simp only [List.map_cons, List.foldl_cons, Mut.pure]; exact ih _

theorem mem_dict_update {l src : Dict} {e : Key × Val} (h : e ∈ Dict.update l src) : e ∈ l ∨ e ∈ src := by
  induction src generalizing l with
  | nil => exact Or.inl h
  | cons a r ih =>
    simp only [Dict.update, List.foldl_cons] at h ih
    rcases ih h with h1 | h1
    · rcases mem_dict_set h1 with h2 | h2
      · exact Or.inl h2
      · exact Or.inr (by rw [h2]; exact List.mem_cons_self ..)
    · exact Or.inr (List.mem_cons_of_mem _ h1)


/-- what `phase_sync` does for one pending sign besides popping it: a sign −1 of a stored block negates it -/
def psNeg (c : Content) (e : Key × Val) : List SAct :=
  if e.2 == -1 then (match c.blocks.get? e.1 with | some b => [.kern e.1 tNeg [b.toNat]] | none => []) else []

/-- the effects of `phase_sync(inplace=True)` on an array with content `c` -/
def psActs (c : Content) : List SAct := (c.phases.getD []).reverse.flatMap fun e => .ppop :: psNeg c e

theorem mem_psNeg {c : Content} {e : Key × Val} {a : SAct} (h : a ∈ psNeg c e) :
    ∃ b, c.blocks.get? e.1 = some b ∧ a = .kern e.1 tNeg [b.toNat] := by
  unfold psNeg at h
  split at h
  · split at h
    · rename_i b hb; exact ⟨b, hb, List.mem_singleton.mp h⟩
    · cases h
  · cases h

theorem mem_psActs {c : Content} {a : SAct} (h : a ∈ psActs c) :
    a = .ppop ∨ ∃ k b, c.blocks.get? k = some b ∧ a = .kern k tNeg [b.toNat] := by
  obtain ⟨e, _, h⟩ := List.mem_flatMap.mp h
  rcases List.mem_cons.mp h with rfl | h
  · exact Or.inl rfl
  · obtain ⟨b, hb, rfl⟩ := mem_psNeg h; exact Or.inr ⟨_, b, hb, rfl⟩

theorem psNeg_ph (c : Content) (e : Key × Val) (p : Option Dict) : (psNeg c e).foldl SAct.ph p = p :=
  SAct.foldl_ph_of_ne_ppop p _ fun a ha => by obtain ⟨b, _, rfl⟩ := mem_psNeg ha; intro h; cases h

theorem phaseSync_pure_eq (c : Content) (T : Bufs) :
    S.phaseSync.pure (c, T) = ((psActs c).foldl (fun s a => a.mut.pure s) ((c, T), [])).1 := by
  have hmap : (psActs c).map SAct.mut =
      (((c.phases.getD []).reverse.flatMap fun e =>
        Act.pPopItem :: (if e.2 == -1 then
          (match c.blocks.get? e.1 with | some b => [Act.bKern e.1 tNeg [b.toNat]] | none => []) else [])).map
        (Mut.act 0)) := by
    simp only [psActs, psNeg, List.map_flatMap]
    congr 1; funext e
    split
    · split <;> rfl
    · rfl
  have h1 : (psActs c).foldl (fun s a => a.mut.pure s) ((c, T), []) =
      ((psActs c).map SAct.mut).foldl (fun s m => m.pure s) ((c, T), []) := by rw [List.foldl_map]
  rw [h1, hmap, foldl_act_mut]
  simp only [S.phaseSync, Script.pure]
  rfl

theorem psActs_ok {n : Nat} {c : Content} (h : DictOK n c.blocks) : ∀ a ∈ psActs c, a.ok n := by
  intro a ha
  rcases mem_psActs ha with rfl | ⟨k, b, hb, rfl⟩
  · trivial
  · intro a' ha'
    rw [List.mem_singleton.mp ha']; exact h.get? hb

theorem psActs_ph (c : Content) : ((psActs c).foldl SAct.ph c.phases).getD [] = [] := by
  have key : ∀ (Q P : Dict), Q.length = P.length →
      ((Q.flatMap fun e => SAct.ppop :: psNeg c e).foldl SAct.ph (some P)) = some [] := by
    intro Q
    induction Q with
    | nil => intro P hP; simp at hP; simp [List.length_eq_zero_iff.mp hP.symm]
    | cons q r ih =>
      intro P hP
      simp only [List.flatMap_cons, List.cons_append, List.foldl_cons, List.foldl_append, SAct.ph, Option.map_some,
        psNeg_ph]
      apply ih
      simp only [Dict.popItem, List.length_dropLast, ← hP, List.length_cons]; omega
  unfold psActs
  cases hp : c.phases with
  | none => simp
  | some P =>
    simp only [Option.getD_some]
    rw [key P.reverse P (by simp)]; rfl

section sem
variable {V : Type} (I : Nat → List V → V) (d : V)

/-- the denotation of the block dict after `phase_sync`, from the denotation before -/
def psSem (B : Bufs) (c : Content) : SDict V :=
  ((psActs c).foldl (fun s a => (a.toS I d B).run s) (semDict I d B c.blocks, ([] : SDict V))).1

/-- **`phase_sync` at the level of values**: run from any table `B ++ X` extending a table `B` in which
    the array's buffers live, it extends the table, keeps indices / charge / labels, and the denotation of
    the new block dict is `psSem B c` — it does not depend on `X`.  The sign dict is given as the fold of
    the `popitem`s over it; that no sign is left pending is `psActs_ph`. -/
theorem phaseSync_abs (B : Bufs) (c : Content) (X : Bufs) (hok : DictOK B.length c.blocks) :
    Abs I d (B ++ X) c (S.phaseSync.pure (c, B ++ X)) (psSem I d B c) ((psActs c).foldl SAct.ph c.phases) := by
  obtain ⟨D, h5, h6, h7, h8⟩ := sacts_abs I d B (psActs c) (psActs_ok hok) c X []
    (hok.mono (by simp)) (by intro e he; cases he)
  rw [phaseSync_pure_eq]
  refine ⟨D.ext, D.okb, ?_, h5, h6, h7, h8⟩
  have := congrArg Prod.fst D.sem
  simp only at this
  rw [this, semDict_append I d B X hok]
  rfl


section binLoop
variable {α β : Type} {has : Key → Bool} {both : Key × β → List α} {miss : Missing → Key × β → List α}

theorem binLoop_congr {β' : Type} {has' : Key → Bool} {both' : Key × β' → List α}
    {miss' : Missing → Key × β' → List α} (g : Key × β → Key × β') (m : Missing) (xb : List (Key × β))
    (hk : ∀ e, has' (g e).1 = has e.1) (hb : ∀ e, has e.1 = true → both' (g e) = both e)
    (hm : ∀ e, has e.1 = false → miss' m (g e) = miss m e) :
    binLoop has' both' miss' m (xb.map g) = binLoop has both miss m xb := by
  cases m <;> simp only [binLoop, List.takeWhile_map, List.flatMap_map, Function.comp_def, hk]
  · exact flatMap_congr_mem fun e he => hb e (List.all_eq_true.mp List.all_takeWhile e he)
  all_goals
    refine flatMap_congr_mem fun e _ => ?_
    by_cases hh : has e.1 = true
    · rw [if_pos hh, if_pos hh]; exact hb e hh
    · rw [if_neg hh, if_neg hh]; exact hm e (by simpa using hh)

end binLoop

/-- the loop as effects of the sub-language `SAct` -/
def binSActs (m : Missing) (xb ob : Dict) : List SAct :=
  binLoop ob.has (fun e => [.tpop e.1, .kern e.1 tFn [e.2.toNat, (ob.getD e.1 0).toNat]])
    (fun m e => match m with
      | .outer => [.put e.1 e.2.toNat]
      | .inner => [.pop e.1]
      | .strict => [])
    m xb

theorem binMuts_eq (m : Missing) (xb ob : Dict) : binMuts 0 0 m xb ob = (binSActs m xb ob).map SAct.mut := by
  simp only [binMuts, binSActs, map_binLoop]
  congr 1
  funext m e
  cases m <;> rfl

theorem binSActs_ok {n : Nat} {m : Missing} {xb ob : Dict} (hx : DictOK n xb) (ho : DictOK n ob) :
    ∀ a ∈ binSActs m xb ob, a.ok n := by
  intro a ha
  obtain ⟨e, he, ⟨hh, h⟩ | ⟨_, h⟩⟩ := mem_binLoop ha
  · simp only [List.mem_cons, List.not_mem_nil, or_false] at h
    rcases h with rfl | rfl
    · trivial
    · intro a' ha'
      simp only [List.mem_cons, List.not_mem_nil, or_false] at ha'
      rcases ha' with rfl | rfl
      · exact hx e he
      · exact ho.getD hh
  · cases m <;> simp only [List.mem_cons, List.not_mem_nil, or_false] at h
    · subst h; exact hx e he
    · subst h; trivial

theorem binSActs_ph (m : Missing) (xb ob : Dict) (p : Option Dict) : (binSActs m xb ob).foldl SAct.ph p = p := by
  refine SAct.foldl_ph_of_ne_ppop p _ fun a ha => ?_
  obtain ⟨e, _, ⟨_, h⟩ | ⟨_, h⟩⟩ := mem_binLoop ha
  · simp only [List.mem_cons, List.not_mem_nil, or_false] at h
    rcases h with rfl | rfl <;> intro h <;> cases h
  · cases m <;> simp only [List.mem_cons, List.not_mem_nil, or_false] at h
    all_goals subst h; intro h; cases h

/-- the loop on dicts of values -/
def binSSteps (m : Missing) (xs os : SDict V) : List (SStep V) :=
  binLoop (SD.has os) (fun e => [.tpop e.1, .set e.1 (I tFn [e.2, (SD.get? os e.1).getD d])])
    (fun m e => match m with
      | .outer => [.set e.1 e.2]
      | .inner => [.pop e.1]
      | .strict => [])
    m xs

/-- **`_binary_blockwise_op` on dicts of values**: `xs` = left blocks, `os` = right blocks -/
def binSem (m : Missing) (xs os : SDict V) : SDict V :=
  let r := (binSSteps I d m xs os).foldl (fun s a => a.run s) (xs, os)
  match m with
  | .outer => SD.update r.1 r.2
  | _ => r.1

theorem binSActs_toS (T : Bufs) (m : Missing) (xb ob : Dict) :
    (binSActs m xb ob).map (SAct.toS I d T) = binSSteps I d m (semDict I d T xb) (semDict I d T ob) := by
  simp only [binSActs, binSSteps, map_binLoop]
  show _ = binLoop _ _ _ m (xb.map fun e => (e.1, look I d T e.2.toNat))
  refine Eq.symm (binLoop_congr _ m xb (fun e => has_mapV (fun v => look I d T v.toNat) ob e.1) ?_ ?_)
  · intro e hh
    obtain ⟨b, hb, hg⟩ := dict_has_getD hh
    simp only [List.map_cons, List.map_nil, SAct.toS, semDict, get?_mapV, hb, hg, Option.map_some,
      Option.getD_some]
  · intro e _
    cases m <;> rfl

theorem binPure_abs (m : Missing) (c : Content) (T : Bufs) (ob : Dict) (hc : DictOK T.length c.blocks)
    (ho : DictOK T.length ob) :
    Abs I d T c (binPure m (c, T) ob) (binSem I d m (semDict I d T c.blocks) (semDict I d T ob)) c.phases := by
  obtain ⟨D, h5, h6, h7, h8⟩ := sacts_abs I d T (binSActs m c.blocks ob)
    (binSActs_ok hc ho) c [] ob (by simpa using hc) ho
  obtain ⟨Y, hY⟩ := D.ext
  have h2 := D.okb
  have h3 := D.okt
  have h4 := D.sem
  clear D
  simp only [List.append_nil] at hY h2 h3 h4 h5 h6 h7 h8
  rw [binSActs_ph] at h8
  have hfold : (binMuts 0 0 m c.blocks ob).foldl (fun s m => m.pure s) ((c, T), ob) =
      (binSActs m c.blocks ob).foldl (fun s a => a.mut.pure s) ((c, T), ob) := by
    rw [binMuts_eq, List.foldl_map]
  have hsem : (binSActs m c.blocks ob).foldl (fun s a => (a.toS I d T).run s)
      (semDict I d T c.blocks, semDict I d T ob) =
      (binSSteps I d m (semDict I d T c.blocks) (semDict I d T ob)).foldl (fun s a => a.run s)
        (semDict I d T c.blocks, semDict I d T ob) := by
    rw [← binSActs_toS, List.foldl_map]
  rw [hsem] at h4
  generalize hr : (binSActs m c.blocks ob).foldl (fun s a => a.mut.pure s) ((c, T), ob) = r at *
  have hbp : binPure m (c, T) ob = (match m with
      | .outer => (Act.bUpdate r.2).pure r.1
      | _ => r.1) := by
    simp only [binPure]; rw [hfold]; cases m <;> rfl
  cases m with
  | outer =>
    rw [hbp]
    simp only [Act.pure]
    refine ⟨⟨Y, hY⟩, ?_, ?_, h5, h6, h7, h8⟩
    · intro e he
      rcases mem_dict_update he with h1 | h1
      · exact h2 e h1
      · refine Nat.lt_of_lt_of_le (h3 e h1) ?_
        rw [hY]; simp
    · rw [semDict, mapV_update]
      have e1 : mapV (fun v => look I d r.1.2 v.toNat) r.2 = semDict I d T r.2 := by
        rw [hY]; exact semDict_append I d T Y h3
      rw [e1]
      simp only [binSem]
      rw [← h4]; rfl
  | strict | inner =>
    rw [hbp]
    refine ⟨⟨Y, hY⟩, h2, ?_, h5, h6, h7, h8⟩
    simp only [binSem]; rw [← h4]


/-- `bodyFPure m cx cy B` is the value of the body of
    `FermionicArray._binary_blockwise_op` for a left operand with content `cx` and a right operand that
    looks like `cy` after the left one has been synchronised.  For `x ∘= x`, in place `cy` is the
    synchronised `x` itself, out of place it is the untouched `x`: the two results have the same
    denotation under EVERY interpretation of the kernels, and the same indices, charge, signs, labels. -/
theorem bodyF_self_sem (m : Missing) (cx : Content) (B : Bufs) (hok : DictOK B.length cx.blocks) :
    semDict I d (bodyFPure m cx (S.phaseSync.pure (cx, B)).1 B).2
        (bodyFPure m cx (S.phaseSync.pure (cx, B)).1 B).1.blocks =
      semDict I d (bodyFPure m cx cx B).2 (bodyFPure m cx cx B).1.blocks ∧
    (bodyFPure m cx (S.phaseSync.pure (cx, B)).1 B).1.indices = (bodyFPure m cx cx B).1.indices ∧
    (bodyFPure m cx (S.phaseSync.pure (cx, B)).1 B).1.charge = (bodyFPure m cx cx B).1.charge ∧
    (bodyFPure m cx (S.phaseSync.pure (cx, B)).1 B).1.phases = (bodyFPure m cx cx B).1.phases ∧
    (bodyFPure m cx (S.phaseSync.pure (cx, B)).1 B).1.oddpos = (bodyFPure m cx cx B).1.oddpos := by
  by_cases hclean : cx.phases.getD [] = []
  · -- no pending sign: `phase_sync` does nothing, the two runs are literally the same
    rw [phaseSync_pure_clean cx B hclean]
    exact ⟨rfl, rfl, rfl, rfl, rfl⟩
  · -- first synchronisation (of `x` in place / of the copy out of place)
    obtain ⟨⟨Y1, hY1⟩, ok1, sem1, i1, c1, o1, p1⟩ := phaseSync_abs I d B cx [] hok
    simp only [List.append_nil] at hY1 ok1 sem1 i1 c1 o1 p1
    generalize hs1 : S.phaseSync.pure (cx, B) = s1 at *
    have hclean1 : s1.1.phases.getD [] = [] := by rw [p1]; exact psActs_ph cx
    -- second synchronisation (out of place only): of a copy of the untouched `x`
    obtain ⟨⟨Y2, hY2⟩, ok2, sem2, _, _, _, _⟩ := phaseSync_abs I d B cx Y1 hok
    rw [← hY1] at hY2 ok2 sem2
    generalize hs2 : S.phaseSync.pure (cx, s1.2) = s2 at *
    have hI : bodyFPure m cx s1.1 B = binPure m (s1.1, s1.2) s1.1.blocks := by
      simp only [bodyFPure, hs1, syncedPure_clean _ hclean1]
    have hO : bodyFPure m cx cx B = binPure m (s1.1, s2.2) s2.1.blocks := by
      simp only [bodyFPure, hs1, syncedPure_pending _ hclean, hs2]
    have ok1' : DictOK s2.2.length s1.1.blocks := ok1.mono (by rw [hY2]; simp)
    obtain ⟨_, _, semI, iI, cI, oI, pI⟩ := binPure_abs I d m s1.1 s1.2 s1.1.blocks ok1 ok1
    obtain ⟨_, _, semO, iO, cO, oO, pO⟩ := binPure_abs I d m s1.1 s2.2 s2.1.blocks ok1' ok2
    rw [hI, hO]
    refine ⟨?_, by rw [iI, iO], by rw [cI, cO], by rw [pI, pO], by rw [oI, oO]⟩
    rw [semI, semO, sem2, sem1]
    have : semDict I d s2.2 s1.1.blocks = semDict I d s1.2 s1.1.blocks := by
      rw [hY2]; exact semDict_append I d s1.2 Y2 ok1
    rw [this, sem1]

end sem


theorem binaryF_self_runs (m : Missing) {h : Heap} {x : ObjId} {a : ArrObj} {bd : Dict} {pd : Option Dict}
    (wx : WFArr h x a bd pd) :
    ∃ hi ho r e1 e2 ci co, ((Op.binaryF m).prog true).run h [x, x] = (hi, [x, x] ++ e1) ∧
      ((Op.binaryF m).prog false).run h [x, x] = (ho, [x, x, r] ++ e2) ∧
      content hi x = some ci ∧ content ho r = some co ∧
      (ci, hi.bufs) = bodyFPure m (cont a bd pd) (S.phaseSync.pure (cont a bd pd, h.bufs)).1 h.bufs ∧
      (co, ho.bufs) = bodyFPure m (cont a bd pd) (cont a bd pd) h.bufs :=
  binaryF_runs_core m wx _ _ (fun h1 a1 b1 p1 _ w1 e => ⟨a1, b1, p1, w1, e⟩)
    -- out of place nothing that existed may be written, so `other` is the untouched `x`
    (fun h1 I1 => ⟨a, bd, pd, I1.wf_other wx id (fun e => e.elim id id) (fun _ _ e => e.elim id id), rfl⟩)

end SymmModel.Heap
