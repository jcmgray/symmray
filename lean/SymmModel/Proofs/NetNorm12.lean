/-
  SymmModel.Proofs.NetNorm12 — network form of the norm (property C10):
  chains of any length with EVERY contraction call in its own mode (`blockwise`, `fused`, `auto`):
  the left-nested contraction of the ket chain (k-th call in mode `mk k`), of the bra chain (`mb k`)
  and the two final calls.  Joint induction: blockwise pieces (`BraInv`, NetNorm10) and their
  any-mode versions (`ModeInv`: zero-padded copies with the same un-pruned table frame).
-/
import SymmModel.Proofs.NetNorm11
namespace SymmModel.NormNet
open SymmModel SymmModel.Lazy SymmModel.Norm SymmModel.TdotP SymmModel.GradedP SymmModel.RoutesP
open SymmModel.AssocP SymmModel.Assoc3P SymmModel.Assoc4P
set_option linter.unusedSectionVars false

section defs
variable {R : Type} [Zero R] [Add R] [Mul R] [Neg R]

/-- composition of two adjacent segments with the contraction call in mode `m` -/
def compM (m : TdotMode) (S1 S2 : Seg R) : Except Err (Seg R) :=
  (S1.arr.tensordotF S2.arr (.pair (S1.r.map Int.ofNat) (S2.l.map Int.ofNat)) m).map (fun z =>
    ⟨z, positions (freeAxes S1.arr.ndim S1.r) S1.l,
      AssocP.axesAB S1.arr.ndim S2.arr.ndim S1.r S2.l S2.r⟩)

/-- left-nested contraction, the call absorbing the `j`-th further tensor in mode `md (k + j)` -/
def evalLM (md : Nat → TdotMode) : Nat → Seg R → List (Seg R) → Except Err (Seg R)
  | _, S, [] => .ok S
  | k, S, y :: ys =>
    match compM (md k) S y with
    | .ok s => evalLM md (k + 1) s ys
    | .error e => .error e

theorem evalLM_cons_inv {md : Nat → TdotMode} {k : Nat} {S y T : Seg R} {ys : List (Seg R)}
    (h : evalLM md k S (y :: ys) = .ok T) :
    ∃ K, S.arr.tensordotF y.arr (.pair (S.r.map Int.ofNat) (y.l.map Int.ofNat)) (md k) = .ok K
      ∧ evalLM md (k + 1) ⟨K, positions (freeAxes S.arr.ndim S.r) S.l,
          AssocP.axesAB S.arr.ndim y.arr.ndim S.r y.l y.r⟩ ys = .ok T := by
  rw [evalLM, compM] at h
  cases hK : S.arr.tensordotF y.arr (.pair (S.r.map Int.ofNat) (y.l.map Int.ofNat)) (md k) with
  | error e => rw [hK] at h; cases h
  | ok K => rw [hK] at h; exact ⟨K, rfl, h⟩

theorem evalL_cons_inv {S y T : Seg R} {ys : List (Seg R)} (h : evalL S (y :: ys) = .ok T) :
    ∃ K, S.arr.tensordotF y.arr (.pair (S.r.map Int.ofNat) (y.l.map Int.ofNat)) .blockwise = .ok K
      ∧ evalL ⟨K, positions (freeAxes S.arr.ndim S.r) S.l,
          AssocP.axesAB S.arr.ndim y.arr.ndim S.r y.l y.r⟩ ys = .ok T := by
  rw [evalL, Seg.comp, tdF] at h
  cases hK : S.arr.tensordotF y.arr (.pair (S.r.map Int.ofNat) (y.l.map Int.ofNat)) .blockwise with
  | error e => rw [hK] at h; cases h
  | ok K => rw [hK] at h; exact ⟨K, rfl, h⟩

end defs

section step
variable {R : Type} [AddCommMonoid R] [Mul R] [Neg R] [SignRing R]

/-- `Sm` is the any-mode version of the blockwise piece `S` of a chain; `F` their un-pruned table
    frame: a `Half S.arr Sm.arr F` (NormNet17; `ModeInv.half`) of two segments with the same bond
    lists. -/
structure ModeInv (S Sm : Seg R) (F : List Index) : Prop where
  pad : Pad Sm.arr S.arr
  v : S.arr.validB = true
  vm : Sm.arr.validB = true
  f : S.arr.fermi = true
  fm : Sm.arr.fermi = true
  odd : Sm.arr.oddpos = S.arr.oddpos
  chg : Sm.arr.charge = S.arr.charge
  l : Sm.l = S.l
  r : Sm.r = S.r
  fr : List.Forall₂ SizeLe S.arr.indices F
  frm : List.Forall₂ SizeLe Sm.arr.indices F

theorem ModeInv.refl {S : Seg R} {F : List Index} (hv : S.arr.validB = true)
    (hf : S.arr.fermi = true) (hF : List.Forall₂ SizeLe S.arr.indices F) : ModeInv S S F :=
  ⟨Pad.refl hv, hv, hv, hf, hf, rfl, rfl, rfl, rfl, hF, hF⟩

theorem ModeInv.half {S Sm : Seg R} {F : List Index} (H : ModeInv S Sm F) : Half S.arr Sm.arr F :=
  ⟨H.pad, H.v, H.vm, H.f, H.fm, H.odd, H.chg, H.fr, H.frm⟩

theorem step_mode (hz1 : ∀ x : R, 0 * x = 0) (hz2 : ∀ x : R, x * 0 = 0) {S Sm : Seg R} (Y : Arr R)
    (yl : List Nat) {F : List Index} (H : ModeInv S Sm F)
    (W : AdmW S.arr Y S.r yl) (Wm : AdmW Sm.arr Y S.r yl) (K : Arr R)
    (eK : S.arr.tensordotF Y (.pair (S.r.map Int.ofNat) (yl.map Int.ofNat)) .blockwise = .ok K)
    (m : TdotMode) (l' r' : List Nat) :
    ∃ Km, Sm.arr.tensordotF Y (.pair (S.r.map Int.ofNat) (yl.map Int.ofNat)) m = .ok Km
      ∧ ModeInv ⟨K, l', r'⟩ ⟨Km, l', r'⟩ (without F S.r ++ without Y.indices yl)
      ∧ InterW S.arr Y S.r yl K ∧ InterW Sm.arr Y S.r yl Km := by
  obtain ⟨Km, eKm, pKm, IKm⟩ := Net4P.pad_call hz1 hz2 H.half.padA (.refl W.vb) Wm W K eK m
  obtain ⟨_, _, C⟩ := Call.of_ok W eK
  have IK := C.toInter.toW
  exact ⟨Km, eKm, ⟨pKm.pad, IK.valid, IKm.valid, IK.fermi, IKm.fermi, pKm.oddpos, pKm.charge, rfl,
    rfl, frame_mono _ H.fr IK.frame, frame_mono _ H.frm IKm.frame⟩, IK, IKm⟩

end step

section nchainM
variable {R : Type} [AddCommMonoid R] [Mul R] [Neg R] [Conj R] [NetLaws R]

theorem chain_conjM (hz1 : ∀ x : R, 0 * x = 0) (hz2 : ∀ x : R, x * 0 = 0) (mk mb : Nat → TdotMode)
    (ys : List (Seg R)) : ∀ (k : Nat) (S Sb Sm Sbm : Seg R) (F : List Index),
    BraInv S Sb → ModeInv S Sm F → ModeInv Sb Sbm (F.map Index.conj) →
    (∀ ix ∈ F, (ix.cm.map (·.1)).Nodup) →
    linked S ys → linked Sm ys → linked Sb (ys.map braSeg) → linked Sbm (ys.map braSeg) →
    (∀ y ∈ ys, KetLabels y.arr.oddpos) →
    OddposP.LabelsDistinct (S.arr.oddpos ++ flatL ys) →
    ∃ T Tb Tm Tbm F', evalL S ys = .ok T ∧ evalL Sb (ys.map braSeg) = .ok Tb
      ∧ evalLM mk k Sm ys = .ok Tm ∧ evalLM mb k Sbm (ys.map braSeg) = .ok Tbm
      ∧ BraInv T Tb ∧ ModeInv T Tm F' ∧ ModeInv Tb Tbm (F'.map Index.conj)
      ∧ (∀ ix ∈ F', (ix.cm.map (·.1)).Nodup)
      ∧ ((lastD S ys).r = [] → T.r = []) := by
  induction ys with
  | nil =>
    intro k S Sb Sm Sbm F H HM HMb hnF _ _ _ _ _ _
    exact ⟨S, Sb, Sm, Sbm, F, rfl, rfl, rfl, rfl, H, HM, HMb, hnF, fun h => h⟩
  | cons y ys ih =>
    intro k S Sb Sm Sbm F H HM HMb hnF hlink hlinkm hlinkb hlinkbm hket hd
    obtain ⟨lk, hy, hrest⟩ := hlink
    obtain ⟨lkm, _, _⟩ := hlinkm
    obtain ⟨lkb, hyb, hrestb⟩ := hlinkb
    obtain ⟨lkbm, _, _⟩ := hlinkbm
    have hyl : y.l.Nodup := (List.nodup_append.mp hy.nd).1
    have hyr : y.r.Nodup := (List.nodup_append.mp hy.nd).2.1
    have W := H.admW lk hy
    have hndm : Sm.arr.ndim = S.arr.ndim := HM.pad.ndim
    have Wm : AdmW Sm.arr y.arr S.r y.l :=
      ⟨HM.vm, hy.valid, HM.fm, hy.fermi, lkm.sym, by have := lkm.con; rwa [HM.r] at this, H.nr, hyl,
        fun i hi => hndm ▸ H.ltr i hi, hy.ltl⟩
    have hM := mid_of_leafOK hy
    have hd' : OddposP.LabelsDistinct ((S.arr.oddpos ++ y.arr.oddpos) ++ flatL ys) := by
      rw [List.append_assoc]; exact hd
    obtain ⟨K, Kb, eK, econg, c1, c2, Hn, I, hperm⟩ :=
      H.step lk hy (hket y (List.mem_cons_self ..)) (List.pairwise_append.mp hd').1
    have hndb : Sb.arr.ndim = S.arr.ndim := by
      unfold Arr.ndim; rw [H.obs.indices]; exact braOf_ndim S.arr _
    have hndbm : Sbm.arr.ndim = S.arr.ndim := HMb.pad.ndim.trans hndb
    have Wb : AdmW Sb.arr (braOf y.arr (y.l ++ y.r)) S.r y.l :=
      ⟨H.vb, hyb.valid, H.fb, hyb.fermi, lkb.sym, by have := lkb.con; rwa [H.r] at this, H.nr, hyl,
        fun i hi => hndb ▸ H.ltr i hi, hyb.ltl⟩
    have Wbm : AdmW Sbm.arr (braOf y.arr (y.l ++ y.r)) S.r y.l :=
      ⟨HMb.vm, hyb.valid, HMb.fm, hyb.fermi, lkbm.sym,
        by have := lkbm.con; rwa [HMb.r, H.r] at this, H.nr, hyl,
        fun i hi => hndbm ▸ H.ltr i hi, hyb.ltl⟩
    have HMb' : ModeInv (⟨Sb.arr, Sb.l, S.r⟩ : Seg R) ⟨Sbm.arr, Sbm.l, S.r⟩ (F.map Index.conj) :=
      ⟨HMb.pad, HMb.v, HMb.vm, HMb.f, HMb.fm, HMb.odd, HMb.chg, HMb.l, rfl, HMb.fr, HMb.frm⟩
    obtain ⟨Km, eKm, HMn, _, IKm⟩ := step_mode hz1 hz2 y.arr y.l HM W Wm K eK (mk k) []
      (AssocP.axesAB S.arr.ndim y.arr.ndim S.r y.l y.r)
    obtain ⟨Kbm, eKbm, HMbn, IKb, IKbm⟩ := step_mode hz1 hz2 (braOf y.arr (y.l ++ y.r)) y.l HMb'
      Wb Wbm Kb econg (mb k) [] (AssocP.axesAB S.arr.ndim y.arr.ndim S.r y.l y.r)
    have hFc : without (F.map Index.conj) S.r ++ without (braOf y.arr (y.l ++ y.r)).indices y.l
        = (without F S.r ++ without y.arr.indices y.l).map Index.conj := by
      rw [braOf_indices y.arr (y.l ++ y.r), without_map, without_map, List.map_append]
    have HMbn' : ModeInv (⟨Kb, [], AssocP.axesAB S.arr.ndim y.arr.ndim S.r y.l y.r⟩ : Seg R)
        ⟨Kbm, [], AssocP.axesAB S.arr.ndim y.arr.ndim S.r y.l y.r⟩
        ((without F S.r ++ without y.arr.indices y.l).map Index.conj) := by
      have := HMbn; rwa [hFc] at this
    have hnF' : ∀ ix ∈ without F S.r ++ without y.arr.indices y.l, (ix.cm.map (·.1)).Nodup := by
      intro ix hix
      rcases List.mem_append.mp hix with h | h
      · rw [without_eq_permuted_freeAxes] at h; exact hnF ix (mem_permuted h)
      · rw [without_eq_permuted_freeAxes] at h
        exact keys_nodup_of_validB hy.valid ix (mem_permuted h)
    have c3 : compM (mk k) Sm y = .ok ⟨Km, [], AssocP.axesAB S.arr.ndim y.arr.ndim S.r y.l y.r⟩ := by
      unfold compM
      rw [HM.r, eKm, HM.l, H.l, hndm]; rfl
    have c4 : compM (mb k) Sbm (braSeg y)
        = .ok ⟨Kbm, [], AssocP.axesAB S.arr.ndim y.arr.ndim S.r y.l y.r⟩ := by
      unfold compM braSeg
      simp only []
      rw [HMb.r, H.r, eKbm, HMb.l, H.lb, hndbm, braOf_ndim]; rfl
    have hlinks : linked (⟨K, [], AssocP.axesAB S.arr.ndim y.arr.ndim S.r y.l y.r⟩ : Seg R) ys
        ∧ linked (⟨Km, [], AssocP.axesAB S.arr.ndim y.arr.ndim S.r y.l y.r⟩ : Seg R) ys
        ∧ linked (⟨Kb, [], AssocP.axesAB S.arr.ndim y.arr.ndim S.r y.l y.r⟩ : Seg R)
            (ys.map braSeg)
        ∧ linked (⟨Kbm, [], AssocP.axesAB S.arr.ndim y.arr.ndim S.r y.l y.r⟩ : Seg R)
            (ys.map braSeg) := by
      cases ys with
      | nil => exact ⟨trivial, trivial, trivial, trivial⟩
      | cons y' ys' =>
        obtain ⟨lk', hy', hrest'⟩ := hrest
        obtain ⟨lkb', hyb', hrestb'⟩ := hrestb
        have Wy := lk'.admW hy hy'
        have Wyb := braOf_admW Wy (y.l ++ y.r) (y'.l ++ y'.r)
        have hMb : Mid (braOf y.arr (y.l ++ y.r)).ndim y.l y.r := by rw [braOf_ndim]; exact hM
        have W2 := admW_left_chain_w I W Wy hM
        have W2m := admW_left_chain_w IKm Wm Wy hM
        have W2b := admW_left_chain_w IKb Wb Wyb hMb
        have W2bm := admW_left_chain_w IKbm Wbm Wyb hMb
        rw [hndm] at W2m
        rw [hndb, braOf_ndim] at W2b
        rw [hndbm, braOf_ndim] at W2bm
        exact ⟨⟨⟨W2.sym, W2.con⟩, hy', hrest'⟩, ⟨⟨W2m.sym, W2m.con⟩, hy', hrest'⟩,
          ⟨⟨W2b.sym, W2b.con⟩, hyb', hrestb'⟩, ⟨⟨W2bm.sym, W2bm.con⟩, hyb', hrestb'⟩⟩
    have hdn : OddposP.LabelsDistinct (K.oddpos ++ flatL ys) :=
      OddposP.LabelsDistinct.perm hd' (List.Perm.append_right _ hperm).symm
    obtain ⟨T, Tb, Tm, Tbm, F', e1, e2, e3, e4, HT, HMT, HMTb, hnT, hr⟩ :=
      ih (k + 1) _ _ _ _ _ Hn HMn HMbn' hnF' hlinks.1 hlinks.2.1 hlinks.2.2.1 hlinks.2.2.2
        (fun z hz => hket z (List.mem_cons_of_mem _ hz)) hdn
    refine ⟨T, Tb, Tm, Tbm, F', ?_, ?_, ?_, ?_, HT, HMT, HMTb, hnT, ?_⟩
    · simp only [evalL, c1]; exact e1
    · simp only [List.map_cons, evalL, c2]; exact e2
    · simp only [evalLM, c3]; exact e3
    · simp only [List.map_cons, evalLM, c4]; exact e4
    · intro hl
      apply hr
      exact lastD_r_nil _ y ys (fun h => by show AssocP.axesAB _ _ _ _ y.r = []; rw [h]; rfl) hl

/-- the conclusion of `network_norm_chainM` -/
def ChainNormM (S : Seg R) (ys : List (Seg R)) (mk mb : Nat → TdotMode) (m1 m2 : TdotMode) : Prop :=
  ∃ T Tm Tbm, evalL S ys = .ok T ∧ evalLM mk 0 S ys = .ok Tm
    ∧ evalLM mb 0 (braSeg S) (ys.map braSeg) = .ok Tbm
    ∧ (∃ r, Tbm.arr.tensordotF Tm.arr (allAxes T.arr.ndim) m1 = .ok r
        ∧ r.ndim = 0 ∧ r.oddpos = [] ∧ r.elem [] [] = normSq T.arr)
    ∧ (∃ r, Tm.arr.tensordotF Tbm.arr (allAxes T.arr.ndim) m2 = .ok r
        ∧ r.ndim = 0 ∧ r.oddpos = [] ∧ r.elem [] [] = normSq' T.arr)

theorem network_norm_chainM (hz1 : ∀ x : R, 0 * x = 0) (hz2 : ∀ x : R, x * 0 = 0)
    (mk mb : Nat → TdotMode) (m1 m2 : TdotMode)
    (S : Seg R) (ys : List (Seg R)) (hS : LeafOK S) (hl : S.l = [])
    (hlink : linked S ys) (hlast : (lastD S ys).r = [])
    (hketS : KetLabels S.arr.oddpos) (hket : ∀ y ∈ ys, KetLabels y.arr.oddpos)
    (hd : OddposP.LabelsDistinct (S.arr.oddpos ++ flatL ys)) : ChainNormM S ys mk mb m1 m2 := by
  have H0 := BraInv.start hS hl hketS (List.pairwise_append.mp hd).1
  have hbS := braSeg_leafOK hS
  have hlb := braSeg_linked ys S hS hlink
  have M0 : ModeInv S S S.arr.indices :=
    ModeInv.refl hS.valid hS.fermi (forall₂_refl SizeLe.refl _)
  have M0b : ModeInv (braSeg S) (braSeg S) (S.arr.indices.map Index.conj) :=
    ModeInv.refl hbS.valid hbS.fermi (by
      show List.Forall₂ SizeLe (braOf S.arr (S.l ++ S.r)).indices _
      rw [braOf_indices S.arr (S.l ++ S.r)]; exact forall₂_refl SizeLe.refl _)
  obtain ⟨T, Tb, Tm, Tbm, F', e1, e2, e3, e4, HT, HMT, HMTb, hnF, hr⟩ :=
    chain_conjM hz1 hz2 mk mb ys 0 S (braSeg S) S (braSeg S) S.arr.indices H0 M0 M0b
      (keys_nodup_of_validB hS.valid) hlink hlink hlb hlb hket hd
  have hobs := HT.obs_conj (hr hlast)
  obtain ⟨r, r', hnd, q1, q2, q3, q4, g1, g2, g3, g4⟩ :=
    norm_of_obs HT.v HT.f HT.vb HT.fb hobs HT.ket.1 HT.ket.2 HT.dl
  -- the final calls: halves with the opposite frames `F'`, `F'.map Index.conj`
  have hn : T.arr.ndim = F'.length := HMT.fr.length_eq
  have sTb : Tb.arr.sym = T.arr.sym := hobs.sym.trans (conjF_frame T.arr true true).1
  rw [hn] at q1 g1
  refine ⟨T, Tm, Tbm, e1, e3, e4, ?_, ?_⟩
  · rw [hn]
    obtain ⟨rm, e, n, o, v⟩ := full_call_any hz1 hz2 HMTb.half HMT.half sTb (forall₂_opp_conj F')
      hnF r q1 q2 m1
    exact ⟨rm, e, n, o.trans q3, v.trans q4⟩
  · rw [hn]
    rw [← List.length_map (f := Index.conj)] at g1 ⊢
    obtain ⟨rm, e, n, o, v⟩ := full_call_any hz1 hz2 HMT.half HMTb.half sTb.symm
      (forall₂_opp_conj' F') (nodup_keys_conj hnF) r' g1 g2 m2
    exact ⟨rm, e, n, o.trans g3, v.trans g4⟩

end nchainM

end SymmModel.NormNet
