/-
  SymmModel.Proofs.TdotFuseC4 — fusing leading free legs commutes with the *graded* contraction.
  `TdotP.lead_commute` (TdotFuseC3) at the level of the specification `gradedContract` (sign of every sector
  pair included): the Koszul signs do not see the leading block that stays in place, the contracted
  legs are untouched.
-/
import SymmModel.Proofs.TdotFuseC3
import SymmModel.Proofs.Routes

namespace SymmModel.TdotP
open SymmModel SymmModel.GradedP SymmModel.Lazy

variable {R : Type}

theorem getD_cons_drop_shift {α : Type} (c : α) (M : List α) (k x : Nat) (hk1 : 1 ≤ k) (hx : k ≤ x) (d : α) :
    (c :: M.drop k).getD (sh k x) d = M.getD x d := by
  have e : sh k x = (x - k) + 1 := by unfold sh; omega
  rw [e, List.getD_cons_succ, List.getD_eq_getElem?_getD, List.getElem?_drop, List.getD_eq_getElem?_getD]
  congr 2
  omega

theorem tail_perm {n k : Nat} {xa : List Nat} (hk : k ≤ n) (hn : xa.Nodup) (hr : ∀ x ∈ xa, x < n)
    (hxa : ∀ x ∈ xa, k ≤ x) :
    ((freeTail n k xa ++ xa).map (· - k)).Perm (List.range (n - k)) := by
  have h := GradedP.perm_left hn hr
  rw [freeAxes_lead n k xa hk hxa] at h
  have e : n = k + (n - k) := by omega
  have hr2 : List.range n = List.range k ++ (List.range (n - k)).map (k + ·) := by
    conv_lhs => rw [e]
    exact List.range_add
  rw [hr2, List.append_assoc, List.perm_append_left_iff] at h
  have h2 := h.map (· - k)
  rw [List.map_map] at h2
  have e2 : ((· - k) ∘ (k + ·)) = (id : Nat → Nat) := by
    funext j; simp
  rw [e2, List.map_id] at h2
  exact h2

theorem map_sub_add {k : Nat} {l : List Nat} (h : ∀ x ∈ l, k ≤ x) (c : Nat) :
    (l.map (· - k)).map (c + ·) = l.map (fun x => c + (x - k)) := by
  rw [List.map_map]; rfl

theorem gradedSign_lead (F a b : Arr R) (xa xb : List Nat) (k : Nat) (ix0 : Index)
    (hsym : F.sym = a.sym) (hidx : F.indices = ix0 :: a.indices.drop k)
    (hk1 : 1 ≤ k) (hk : k ≤ a.ndim) (hn : xa.Nodup) (hr : ∀ x ∈ xa, x < a.ndim) (hxa : ∀ x ∈ xa, k ≤ x)
    (c0 : Charge) (M : Sector) (hM : M.length = a.ndim) (sb : Sector) :
    gradedSign F b (xa.map (sh k)) xb (c0 :: M.drop k) sb = gradedSign a b xa xb M sb := by
  have ean : a.indices.length = a.ndim := rfl
  have nF : F.ndim = 1 + (a.ndim - k) := by
    show F.indices.length = _
    rw [hidx, List.length_cons, List.length_drop, ean]; omega
  have hπ := tail_perm hk hn hr hxa
  have hQl : ((M.drop k).map a.sym.parity).length = a.ndim - k := by
    rw [List.length_map, List.length_drop, hM]
  have hshift : ∀ l : List Nat, (∀ x ∈ l, k ≤ x) → l.map (sh k) = (l.map (· - k)).map (1 + ·) := by
    intro l hl
    rw [List.map_map]
    apply List.map_congr_left
    intro x hx
    have := hl x hx
    simp only [Function.comp, sh]; omega
  have hback : ∀ l : List Nat, (∀ x ∈ l, k ≤ x) → l = (l.map (· - k)).map (k + ·) := by
    intro l hl
    rw [List.map_map]
    conv_lhs => rw [← List.map_id l]
    apply List.map_congr_left
    intro x hx
    have := hl x hx
    simp only [Function.comp, id]; omega
  have hge : ∀ x ∈ freeTail a.ndim k xa ++ xa, k ≤ x := by
    intro x hx
    rcases List.mem_append.mp hx with h | h
    · exact (mem_freeTail h).1
    · exact hxa x h
  have k1 : koszul (F.parities (c0 :: M.drop k)) (some (freeAxes F.ndim (xa.map (sh k)) ++ xa.map (sh k)))
      = koszul (a.parities M) (some (freeAxes a.ndim xa ++ xa)) := by
    have eA : a.parities M = (M.take k).map a.sym.parity ++ (M.drop k).map a.sym.parity := by
      show M.map _ = _
      rw [← List.map_append, List.take_append_drop]
    have eF : F.parities (c0 :: M.drop k) = [a.sym.parity c0] ++ (M.drop k).map a.sym.parity := by
      show (c0 :: M.drop k).map F.sym.parity = _
      rw [hsym]; rfl
    have lA : ((M.take k).map a.sym.parity).length = k := by
      rw [List.length_map, List.length_take, hM]; omega
    have pA : freeAxes a.ndim xa ++ xa
        = List.range ((M.take k).map a.sym.parity).length
          ++ ((freeTail a.ndim k xa ++ xa).map (· - k)).map (((M.take k).map a.sym.parity).length + ·) := by
      rw [lA, ← hback _ hge, freeAxes_lead a.ndim k xa hk hxa, List.append_assoc]
    have pF : freeAxes F.ndim (xa.map (sh k)) ++ xa.map (sh k)
        = List.range [a.sym.parity c0].length
          ++ ((freeTail a.ndim k xa ++ xa).map (· - k)).map ([a.sym.parity c0].length + ·) := by
      rw [nF, freeAxes_shift a.ndim k xa hk1 hk hxa]
      show 0 :: _ ++ _ = [0] ++ ((freeTail a.ndim k xa ++ xa).map (· - k)).map (1 + ·)
      rw [← hshift _ hge, List.map_append]
      rfl
    rw [eA, eF, pA, pF,
      RoutesP.koszul_id_block_left _ _ _ (by rw [hQl]; exact hπ),
      RoutesP.koszul_id_block_left _ _ _ (by rw [hQl]; exact hπ)]
  have k3 : oddContracted F (xa.map (sh k)) (c0 :: M.drop k) = oddContracted a xa M := by
    unfold oddContracted
    rw [permuted_cons_drop_shift c0 M k hk1 xa hxa, hsym]
  have k4 : ketOdd F (xa.map (sh k)) (c0 :: M.drop k) = ketOdd a xa M := by
    unfold ketOdd
    rw [List.filter_map, List.filter_map, List.length_map, hsym, hidx]
    congr 1
    rw [List.filter_filter, List.filter_filter]
    apply List.filter_congr
    intro x hx
    have hkx := hxa x hx
    simp only [Function.comp]
    rw [getD_cons_drop_shift ix0 a.indices k x hk1 hkx, getD_cons_drop_shift c0 M k x hk1 hkx]
  unfold gradedSign
  rw [k1, k3, k4]

/-- **fusing the leading free legs of the left operand commutes with the graded contraction**:
    `lead_commute` with the sign of every sector pair (the specification `gradedContract` of the
    fermionic `tensordot`), for operands without pending phases. -/
theorem lead_commute_graded [AddCommMonoid R] [Mul R] [Neg R] [SignRing R]
    (hz1 : ∀ x : R, 0 * x = 0) (hz2 : ∀ x : R, x * 0 = 0) (a b : Arr R) (xa xb : List Nat) (k : Nat)
    (ha : a.validB = true) (hb : b.validB = true) (hpa : a.phases = [])
    (hvF : (FuseP.fusedArrM a [List.range k]).validB = true)
    (hnA : xa.Nodup) (hnB : xb.Nodup) (hA : ∀ x ∈ xa, x < a.ndim) (hB : ∀ x ∈ xb, x < b.ndim)
    (hlen : xa.length = xb.length) (hk1 : 1 ≤ k) (hk : k ≤ a.ndim) (hxa : ∀ x ∈ xa, k ≤ x)
    {c0 : Charge} {i0 d : Nat} {S : Sector} {O : List Nat}
    (hdec : decAx a [List.range k] 0 c0 i0 = some (S, O))
    (hz : (FuseP.ixM a [List.range k] 0).sizeOf? c0 = some d) (hi : i0 < d)
    {Lr Rs : Sector} {oLr oR shpLr shpR : List Nat}
    (hLr : Arr.blockShape? (permuted a.indices (freeTail a.ndim k xa)) Lr = some shpLr)
    (hbLr : inBox shpLr oLr = true)
    (hR : Arr.blockShape? (permuted b.indices (freeAxes b.ndim xb)) Rs = some shpR) :
    gradedContract (FuseP.fusedArrM a [List.range k]) b (xa.map (sh k)) xb ((c0 :: Lr) ++ Rs) (i0 :: oLr) oR
      = gradedContract a b xa xb ((S ++ Lr) ++ Rs) (O ++ oLr) oR := by
  obtain ⟨shpS, G⟩ := lead_geom a xa k ha hpa hvF hnA hA hk1 hk hxa hdec hz hi hLr hbLr
  have hsa := Arr.shapesOk_of_validB ha
  have hsb := Arr.shapesOk_of_validB hb
  have hRl := freePart_length hR
  unfold gradedContract
  rw [sum_storedPairs_Ks (FuseP.fusedArrM a [List.range k]) b _ xb
      (Arr.allDistinct_of_validB hvF) (Arr.allDistinct_of_validB hb) (Arr.shapesOk_of_validB hvF) hsb
      G.nodupF G.ltF hnB hB (by rw [List.length_map]; exact hlen) (contractedKeys a xa)
      (contractedKeys_nodup a xa)
      (fun K hK => by rw [List.length_map]; exact contractedKeys_length hsa hA hK) G.keysF
      (c0 :: Lr) Rs (freePart_length G.shapeLF) hRl _
      (fun p hp => by rw [contractPair_eq_zero hz1 hz2 _ _ _ _ _ _ p hp]; exact sgnI_zero _),
    sum_storedPairs_Ks a b xa xb (Arr.allDistinct_of_validB ha)
      (Arr.allDistinct_of_validB hb) hsa hsb hnA hA hnB hB hlen (contractedKeys a xa)
      (contractedKeys_nodup a xa) (fun K hK => contractedKeys_length hsa hA hK)
      (fun sa hs => mem_contractedKeys.mpr ⟨sa, hs, rfl⟩) (S ++ Lr) Rs (freePart_length G.shapeL) hRl _
      (fun p hp => by rw [contractPair_eq_zero hz1 hz2 _ _ _ _ _ _ p hp]; exact sgnI_zero _)]
  apply sum_map_congr
  intro K hK
  obtain ⟨sa, hsa', rfl⟩ := mem_contractedKeys.mp hK
  obtain ⟨shpA, hA1, _, _, _⟩ := GradedP.shape_of_mem hsa hsa'
  have hKshape : Arr.blockShape? (permuted a.indices xa) (permuted sa xa) = some (permuted shpA xa) :=
    blockShape?_permuted hA1 xa (by simpa [show a.indices.length = a.ndim from rfl] using hA)
  obtain ⟨_, t2, _⟩ := merge_lead ((0, 0) : Charge) a.ndim k xa hk1 hk hnA hA hxa (permuted sa xa)
    (contractedKeys_length hsa hA hK) c0 S Lr G.lenS G.lenLr
  have t2' : mergeSec (1 + (a.ndim - k)) (xa.map (sh k)) (permuted sa xa) (c0 :: Lr)
      = c0 :: (mergeSec a.ndim xa (permuted sa xa) (S ++ Lr)).drop k := t2
  -- the Koszul signs do not see the leading block
  have hs : gradedSign (FuseP.fusedArrM a [List.range k]) b (xa.map (sh k)) xb
        (mergeSec (FuseP.fusedArrM a [List.range k]).ndim (xa.map (sh k)) (permuted sa xa) (c0 :: Lr))
        (mergeSec b.ndim xb (permuted sa xa) Rs)
      = gradedSign a b xa xb (mergeSec a.ndim xa (permuted sa xa) (S ++ Lr))
          (mergeSec b.ndim xb (permuted sa xa) Rs) := by
    rw [G.ndimF, t2']
    exact gradedSign_lead (FuseP.fusedArrM a [List.range k]) a b xa xb k _ rfl (lead_newIdx hk1 hk) hk1 hk hnA hA hxa c0 _
      (mergeSec_length _ _ _ _) _
  simp only
  rw [contractPair_congr_left G.nodupF G.ltF hnA hA G.idxK hKshape G.shapeLF G.shapeL
    (fun kk hkk => G.elem hKshape hkk) oR _, hs]

end SymmModel.TdotP
