/-
  SymmModel.Proofs.SpecTdot — the pairing loop of `_tensordot_blockwise` in closed form: the list
  `TdotP.tdPairs` of aligned pairs of stored blocks with their result sectors, and what its members
  are (`TdotP.mem_tdPairs`); validity and the value theorems both read the contraction through it.
  The accumulation of the pairs' products is NOT shared: the value theorems read it as `TdotP.accum` of
  `TdotP.tdTerms`, validity keeps the model's fold as `ValidP.tdBlocks` with its own invariant
  (Proofs/ValidTdot); `TdotP.accum` lives in Proofs/Accum, which depends on Mathlib (for the list sums
  of `accum_get_sum`).
  Also here: `tensordotA_blockwise_of_parse`, what `tensordot_abelian` in block-wise mode returns once
  its axes are parsed.
-/
import SymmModel.Model.Tdot

namespace SymmModel
namespace TdotP
variable {R : Type}

/-- aligned pairs of stored blocks in the order `_tensordot_blockwise` visits them
    (a's blocks outer, b's blocks inner), with the result sector of each pair -/
def tdPairs (a b : Arr R) (l xa xb r : List Nat) : List (Sector × Blk R × Blk R) :=
  a.blocks.flatMap (fun (sa, ba) =>
    (b.blocks.filter (fun (sb, _) => permuted sb xb == permuted sa xa)).map (fun (sb, bb) =>
      (permuted sa l ++ permuted sb r, ba, bb)))

theorem mem_tdPairs {a b : Arr R} {l xa xb r : List Nat} {s : Sector} {ba bb : Blk R} :
    (s, ba, bb) ∈ tdPairs a b l xa xb r ↔
      ∃ sa sb, (sa, ba) ∈ a.blocks ∧ (sb, bb) ∈ b.blocks ∧ permuted sb xb = permuted sa xa ∧
        s = permuted sa l ++ permuted sb r := by
  simp only [tdPairs, List.mem_flatMap, List.mem_map, List.mem_filter, Prod.exists, Prod.mk.injEq,
    beq_iff_eq]
  constructor
  · rintro ⟨sa, ba', hA, sb, bb', ⟨hB, hm⟩, rfl, rfl, rfl⟩
    exact ⟨sa, sb, hA, hB, hm, rfl⟩
  · rintro ⟨sa, sb, hA, hB, hm, rfl⟩
    exact ⟨sa, ba, hA, sb, bb, ⟨hB, hm⟩, rfl, rfl, rfl⟩

end TdotP

/-- `tensordot_abelian(..., mode="blockwise")` on parsed axes: one call of `_tensordot_blockwise`
    with the complements as free axes (the model text) -/
theorem tensordotA_blockwise_of_parse {R : Type} [Zero R] [Add R] [Mul R] (a b : Arr R)
    (axes : AxesArg) (xa xb : List Nat) (h : parseAxes a.ndim b.ndim axes = .ok (xa, xb)) :
    tensordotA a b axes .blockwise = .ok (tensordotBlockwise a b
      (without (List.range a.ndim) xa) xa xb (without (List.range b.ndim) xb)) := by
  unfold tensordotA; rw [h]; rfl

end SymmModel
