/-
  SymmModel.Proofs.SpecTdotF — what `tensordot_fermionic` does before it calls the abelian kernel, in
  closed form: the prepared operands `ValidP.tdF34` and the equation `tensordotF_eq` that every
  theorem about `Arr.tensordotF` (validity, values, lazily tracked signs) starts from.
-/
import SymmModel.Model.Fermi
import SymmModel.Proofs.SpecAxes
import SymmModel.Proofs.BaseList

namespace SymmModel

namespace ValidP
variable {R : Type}

/-- the two operands just before `phase_sync` (copy of the model text, where they are called
    `a3`, `b3`, and `a4`, `b4` after `phase_sync`: hence the name) -/
def tdF34 [Zero R] (a b : Arr R) (axesA axesB : List Nat) : Arr R × Arr R :=
  let leftAxes := without (List.range a.ndim) axesA
  let rightAxes := without (List.range b.ndim) axesB
  let ncon := axesA.length
  let a1 := a.transposeF (leftAxes ++ axesA)
  let b1 := b.transposeF (axesB ++ rightAxes)
  let b2 := b1.phaseTranspose (some ((List.range ncon).reverse ++ (List.range b1.ndim).drop ncon))
  let newAxesA := (List.range a.ndim).drop (a.ndim - ncon)
  let newAxesB := List.range ncon
  if a1.size ≤ b2.size then
    (a1.phaseFlip (newAxesA.filter (fun ax => !(a1.indices.getD ax default).dual)), b2)
  else
    (a1, b2.phaseFlip (newAxesB.filter (fun ax => (b2.indices.getD ax default).dual)))

end ValidP

open ValidP in
theorem tensordotF_eq {R : Type} [Zero R] [Add R] [Mul R] [Neg R] (a b : Arr R) (axes : AxesArg)
    (mode : TdotMode) :
    a.tensordotF b axes mode = (do
      let (axesA, axesB) ← parseAxes a.ndim b.ndim axes
      let c ← tensordotA (tdF34 a b axesA axesB).1.phaseSync (tdF34 a b axesA axesB).2.phaseSync
        (.pair (((List.range a.ndim).drop (a.ndim - axesA.length)).map Int.ofNat)
               ((List.range axesA.length).map Int.ofNat)) mode
      resolveCombinedOddpos (tdF34 a b axesA axesB).1.phaseSync
        (tdF34 a b axesA axesB).2.phaseSync c) := by
  unfold Arr.tensordotF tdF34
  apply bind_congr_ok
  rintro ⟨axesA, axesB⟩ _
  dsimp only

end SymmModel
