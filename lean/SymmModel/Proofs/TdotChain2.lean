/-
  SymmModel.Proofs.TdotChain2 — chains of `n` tensors contracted along an arbitrary bracketing
  with every call in the same mode (any): the result is a zero-padded copy (`Pad`) of the blockwise
  result of the same bracketing, with the same open-bond positions.
-/
import SymmModel.Proofs.TdotChain1
import SymmModel.Proofs.Assoc4Tree

namespace SymmModel
namespace TdotP
open GradedP RoutesP AssocP Assoc3P Assoc4P
variable {R : Type}

/-- `Seg.comp` with the contraction in `mode` -/
def compM [Zero R] [Add R] [Mul R] [Neg R] (mode : TdotMode) (S1 S2 : Seg R) : Except Err (Seg R) :=
  (S1.arr.tensordotF S2.arr (.pair (S1.r.map Int.ofNat) (S2.l.map Int.ofNat)) mode).map (fun z =>
    ⟨z, positions (freeAxes S1.arr.ndim S1.r) S1.l,
      AssocP.axesAB S1.arr.ndim S2.arr.ndim S1.r S2.l S2.r⟩)

/-- `STree.eval` with every contraction in `mode` -/
def evalM [Zero R] [Add R] [Mul R] [Neg R] (mode : TdotMode) : STree R → Except Err (Seg R)
  | .leaf S => .ok S
  | .node a b =>
    match evalM mode a, evalM mode b with
    | .ok s1, .ok s2 => compM mode s1 s2
    | .error e, _ => .error e
    | .ok _, .error e => .error e

theorem compM_blockwise [Zero R] [Add R] [Mul R] [Neg R] (S1 S2 : Seg R) :
    compM .blockwise S1 S2 = S1.comp S2 := rfl

/-- the left open legs of `T` know no more charge sizes than those of the tensor `F`, same directions
    (`SizeLe`, weaker than a pruning) -/
def LeftIfM (T F : Seg R) : Prop :=
  T.l.length = F.l.length ∧ ∀ j, j < F.l.length →
    SizeLe (T.arr.indices.getD (T.l.getD j 0) default) (F.arr.indices.getD (F.l.getD j 0) default)

/-- the same for the right open legs of `T` and the tensor `La` -/
def RightIfM (T La : Seg R) : Prop :=
  T.r.length = La.r.length ∧ ∀ j, j < La.r.length →
    SizeLe (T.arr.indices.getD (T.r.getD j 0) default) (La.arr.indices.getD (La.r.getD j 0) default)

/-- `Tm` (a piece contracted in any mode, from tensor `F` to tensor `La`) is a zero-padded
    copy of the blockwise piece `T` -/
structure PadSeg [Zero R] [Neg R] (F La Tm T : Seg R) : Prop where
  pad : Pad Tm.arr T.arr
  l : Tm.l = T.l
  r : Tm.r = T.r
  valid : Tm.arr.validB = true
  fermi : Tm.arr.fermi = true
  oddpos : Tm.arr.oddpos = T.arr.oddpos
  charge : Tm.arr.charge = T.arr.charge
  left : LeftIfM Tm F
  right : RightIfM Tm La

theorem PadSeg.leaf [Zero R] [Neg R] {S : Seg R} (h : LeafOK S) : PadSeg S S S S :=
  ⟨Pad.refl h.valid, rfl, rfl, h.valid, h.fermi, rfl, rfl,
    ⟨rfl, fun _ _ => SizeLe.refl _⟩, ⟨rfl, fun _ _ => SizeLe.refl _⟩⟩

section step
variable [AddCommMonoid R] [Mul R] [Neg R] [SignRing R] [AssocLaws R]

theorem admW_of_padseg {F1 L1 F2 L2 T1 T2 T1m T2m : Seg R} {labs1 labs2 : List (Int × Bool)}
    (g1 : Good F1 L1 labs1 T1) (g2 : Good F2 L2 labs2 T2)
    (p1 : PadSeg F1 L1 T1m T1) (p2 : PadSeg F2 L2 T2m T2) (lk : Link L1 F2) :
    AdmW T1m.arr T2m.arr T1m.r T2m.l := by
  have W := admW_of_good g1 g2 lk
  have n1 : T1m.arr.ndim = T1.arr.ndim := p1.pad.ndim
  have n2 : T2m.arr.ndim = T2.arr.ndim := p2.pad.ndim
  refine ⟨p1.valid, p2.valid, p1.fermi, p2.fermi, by rw [p1.pad.sym, p2.pad.sym]; exact W.sym, ?_,
    by rw [p1.r]; exact W.nA, by rw [p2.l]; exact W.nB,
    by rw [p1.r, n1]; exact W.ltA, by rw [p2.l, n2]; exact W.ltB⟩
  have c1 : contractibleCommonB T1m.arr F2.arr T1m.r F2.l = true := by
    refine commonB_sizeLe_left (a := L1.arr) (xa := L1.r) p1.right.1 ?_ lk.con
    intro j hj
    refine ⟨p1.right.2 j hj, ?_⟩
    have hjr : j < T1m.r.length := by rw [p1.right.1]; exact hj
    have hlt : T1m.r.getD j 0 < T1m.arr.indices.length := by
      rw [List.getD_eq_getElem?_getD, List.getElem?_eq_getElem hjr]
      have : T1m.r[j] ∈ T1.r := by rw [← p1.r]; exact List.getElem_mem hjr
      have := W.ltA _ this
      show _ < T1m.arr.ndim
      rw [n1]; exact this
    rw [List.getD_eq_getElem?_getD, List.getElem?_eq_getElem hlt]
    exact keys_nodup_of_validB p1.valid _ (List.getElem_mem hlt)
  exact commonB_sizeLe_right (b := F2.arr) (xb := F2.l) p2.left.1 p2.left.2 c1

/-- **one composition step**: composing two pieces contracted in any modes, in any mode, gives a
    zero-padded copy of the blockwise composition of the blockwise pieces -/
theorem compM_pad (hz1 : ∀ x : R, 0 * x = 0) (hz2 : ∀ x : R, x * 0 = 0)
    {F1 L1 F2 L2 T1 T2 T1m T2m T : Seg R} {labs1 labs2 : List (Int × Bool)}
    (g1 : Good F1 L1 labs1 T1) (g2 : Good F2 L2 labs2 T2)
    (p1 : PadSeg F1 L1 T1m T1) (p2 : PadSeg F2 L2 T2m T2) (lk : Link L1 F2)
    (mode : TdotMode) (hT : T1.comp T2 = .ok T) :
    ∃ Tm, compM mode T1m T2m = .ok Tm ∧ PadSeg F1 L2 Tm T := by
  have W := admW_of_good g1 g2 lk
  have Wm := admW_of_padseg g1 g2 p1 p2 lk
  have n1 : T1m.arr.ndim = T1.arr.ndim := p1.pad.ndim
  have n2 : T2m.arr.ndim = T2.arr.ndim := p2.pad.ndim
  unfold Seg.comp at hT
  cases hz : tdF T1.arr T2.arr T1.r T2.l with
  | error err => rw [hz] at hT; cases hT
  | ok Z =>
    rw [hz] at hT
    simp only [Except.map, Except.ok.injEq] at hT
    subst hT
    have hq : T1.arr.tensordotF T2.arr (.pair (T1m.r.map Int.ofNat) (T2m.l.map Int.ofNat)) .blockwise
        = .ok Z := by rw [p1.r, p2.l]; exact hz
    have Wq : AdmW T1.arr T2.arr T1m.r T2m.l := by rw [p1.r, p2.l]; exact W
    obtain ⟨Zm, hZm, pZm, Im⟩ := Net4P.pad_call hz1 hz2 ⟨p1.pad, p1.oddpos, p1.charge⟩
      ⟨p2.pad, p2.oddpos, p2.charge⟩ Wm Wq Z hq mode
    have mid1 : Mid T1m.arr.ndim T1m.r T1m.l := (Mid.of (by rw [p1.l, p1.r]; exact g1.ok.nd) (by
      intro i hi
      rw [n1]
      rcases List.mem_append.mp hi with h | h
      · exact g1.ok.ltl i (by rw [← p1.l]; exact h)
      · exact g1.ok.ltr i (by rw [← p1.r]; exact h))).symm
    have mid2 : Mid T2m.arr.ndim T2m.l T2m.r := Mid.of (by rw [p2.l, p2.r]; exact g2.ok.nd) (by
      intro i hi
      rw [n2]
      rcases List.mem_append.mp hi with h | h
      · exact g2.ok.ltl i (by rw [← p2.l]; exact h)
      · exact g2.ok.ltr i (by rw [← p2.r]; exact h))
    refine ⟨⟨Zm, positions (freeAxes T1m.arr.ndim T1m.r) T1m.l,
      AssocP.axesAB T1m.arr.ndim T2m.arr.ndim T1m.r T2m.l T2m.r⟩, ?_, ⟨pZm.pad, ?_, ?_, Im.valid,
      Im.fermi, pZm.oddpos, pZm.charge, ?_, ?_⟩⟩
    · unfold compM; unfold Net4P.tdM at hZm; rw [hZm]; rfl
    · show positions _ _ = positions _ _
      rw [n1, p1.l, p1.r]
    · show AssocP.axesAB _ _ _ _ _ = AssocP.axesAB _ _ _ _ _
      rw [n1, n2, p1.r, p2.l, p2.r]
    · refine ⟨by show (positions _ _).length = _; rw [mid1.pos_len]; exact p1.left.1, ?_⟩
      intro j hj
      have hj' : j < T1m.l.length := by rw [p1.left.1]; exact hj
      obtain ⟨e2, e3⟩ := Assoc2P.pos_getD mid1 j hj'
      have := Im.leg_left _ e2
      rw [e3] at this
      exact this.trans (p1.left.2 j hj)
    · refine ⟨by show (AssocP.axesAB _ _ _ _ _).length = _; rw [AssocP.axesAB_len mid2]; exact p2.right.1, ?_⟩
      intro j hj
      have hj' : j < T2m.r.length := by rw [p2.right.1]; exact hj
      obtain ⟨e1, e2, e3⟩ := AssocP.axesAB_getD (nA := T1m.arr.ndim) (xa := T1m.r) mid2 j hj'
      have := Im.leg_right _ e2
      rw [e3, ← e1] at this
      exact this.trans (p2.right.2 j hj)

/-- **every bracketing, every call in `mode`**: the contraction along `t` succeeds and is a
    zero-padded copy of the blockwise contraction along `t` -/
theorem tree_pad (hz1 : ∀ x : R, 0 * x = 0) (hz2 : ∀ x : R, x * 0 = 0) (t : STree R) (hok : t.OK)
    (hd : OddposP.LabelsDistinct t.labels) (mode : TdotMode) :
    ∃ Tm T, evalM mode t = .ok Tm ∧ t.eval = .ok T ∧ Good t.first t.last t.labels T
      ∧ PadSeg t.first t.last Tm T := by
  induction t with
  | leaf S => exact ⟨S, S, rfl, rfl, Good.leaf hok, PadSeg.leaf hok⟩
  | node a b iha ihb =>
    obtain ⟨oa, ob, lk⟩ := hok
    have hda : OddposP.LabelsDistinct a.labels :=
      dist_of hd _ (List.Perm.refl _) (List.sublist_append_left _ _)
    have hdb : OddposP.LabelsDistinct b.labels :=
      dist_of hd _ (List.Perm.refl _) (List.sublist_append_right _ _)
    obtain ⟨Tam, Ta, eam, ea, ga, pa⟩ := iha oa hda
    obtain ⟨Tbm, Tb, ebm, eb, gb, pb⟩ := ihb ob hdb
    obtain ⟨T, eT, gT⟩ := comp_good ga gb lk hd
    obtain ⟨Tm, eTm, pT⟩ := compM_pad hz1 hz2 ga gb pa pb lk mode eT
    refine ⟨Tm, T, ?_, ?_, gT, pT⟩
    · show (match evalM mode a, evalM mode b with
        | .ok s1, .ok s2 => compM mode s1 s2
        | .error e, _ => .error e
        | .ok _, .error e => .error e) = _
      rw [eam, ebm]
      exact eTm
    · show (match a.eval, b.eval with
        | .ok s1, .ok s2 => s1.comp s2
        | .error e, _ => .error e
        | .ok _, .error e => .error e) = _
      rw [ea, eb]
      exact eT

end step

end TdotP
end SymmModel
