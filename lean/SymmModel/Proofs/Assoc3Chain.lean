/-
  SymmModel.Proofs.Assoc3Chain — S7 of property C04 as an `Eqv` statement (`assoc_eqv`; for a chain
  `chain_eqv`), and the four-tensor chain (`chain4`), which iterates it with the by-products of a
  call (`call_pack`: validity, labels) and the guards of the next call (`admW_left/right_chain_w`).
-/
import SymmModel.Proofs.Assoc3Eqv
import SymmModel.Proofs.AssocMain

namespace SymmModel
namespace Assoc3P
open TdotP GradedP AssocP
open Lazy (sgnI)

variable {R : Type}

abbrev tdF [Zero R] [Add R] [Mul R] [Neg R] (X Y : Arr R) (xa xb : List Nat) : Except Err (Arr R) :=
  X.tensordotF Y (.pair (xa.map Int.ofNat) (xb.map Int.ofNat)) .blockwise

section
variable [AddCommMonoid R] [Mul R] [Neg R] [SignRing R] [AssocLaws R]

/-- **S7 (chains and triangles, weak guards) as an equivalence of the two results** -/
theorem assoc_eqv (A B C : Arr R) (xa1 xa3 xb1 xb2 xc2 xc3 : List Nat)
    (WAB : AdmW A B xa1 xb1) (WBC : AdmW B C xb2 xc2)
    (h3 : contractibleCommonB A C xa3 xc3 = true)
    (hnA : (xa1 ++ xa3).Nodup) (hnB : (xb1 ++ xb2).Nodup) (hnC : (xc2 ++ xc3).Nodup)
    (hltA : ∀ i ∈ xa3, i < A.ndim) (hltC : ∀ i ∈ xc3, i < C.ndim)
    (hL : Assoc2P.LabelRoutes A.parity B.parity A.oddpos B.oddpos C.oddpos) :
    ∃ AB BC c1 c2 : Arr R,
      A.tensordotF B (.pair (xa1.map Int.ofNat) (xb1.map Int.ofNat)) .blockwise = .ok AB
      ∧ AB.tensordotF C (.pair ((Assoc2P.axesAB A.ndim B.ndim xa1 xa3 xb1 xb2).map Int.ofNat)
          ((xc3 ++ xc2).map Int.ofNat)) .blockwise = .ok c1
      ∧ B.tensordotF C (.pair (xb2.map Int.ofNat) (xc2.map Int.ofNat)) .blockwise = .ok BC
      ∧ A.tensordotF BC (.pair ((xa1 ++ xa3).map Int.ofNat)
          ((Assoc2P.axesBC B.ndim C.ndim xb1 xb2 xc2 xc3).map Int.ofNat)) .blockwise = .ok c2
      ∧ Eqv c2 c1 := by
  obtain ⟨AB, BC, c1, c2, d1, d2, d3, d4, r1, r2, r3, r4, r5, r6, r7, r8, r9⟩ :=
    tdotF_assoc_w A B C xa1 xa3 xb1 xb2 xc2 xc3 WAB.va WAB.vb WBC.vb WAB.fa WAB.fb WBC.fb
      (admW_toB WAB) (admW_toB WBC) h3 hnA hnB hnC hltA hltC hL
  refine ⟨AB, BC, c1, c2, d1, d2, d3, d4, r3, r4, r2, r1, r7, r6, ?_⟩
  intro s o ho
  exact Assoc2P.elem_eq_of_sector A B C c1 c2 xa1 xa3 xb1 xb2 xc2 xc3
    (Arr.shapesOk_of_validB WAB.va) (Arr.shapesOk_of_validB WAB.vb) (Arr.shapesOk_of_validB WBC.vb)
    r8 r5 r6 r9 s o (fun hs => by rw [← r7]; exact ho ((r6 s).mpr hs))

/-- the chain case with the axis lists of C04c -/
theorem chain_eqv (A B C : Arr R) (xa xb1 xb2 xc : List Nat)
    (WAB : AdmW A B xa xb1) (WBC : AdmW B C xb2 xc) (hnB : (xb1 ++ xb2).Nodup)
    (hL : Assoc2P.LabelRoutes A.parity B.parity A.oddpos B.oddpos C.oddpos) :
    ∃ AB BC c1 c2 : Arr R,
      A.tensordotF B (.pair (xa.map Int.ofNat) (xb1.map Int.ofNat)) .blockwise = .ok AB
      ∧ AB.tensordotF C (.pair ((AssocP.axesAB A.ndim B.ndim xa xb1 xb2).map Int.ofNat)
          (xc.map Int.ofNat)) .blockwise = .ok c1
      ∧ B.tensordotF C (.pair (xb2.map Int.ofNat) (xc.map Int.ofNat)) .blockwise = .ok BC
      ∧ A.tensordotF BC (.pair (xa.map Int.ofNat)
          ((AssocP.axesBC B.ndim xb1 xb2).map Int.ofNat)) .blockwise = .ok c2
      ∧ Eqv c2 c1 := by
  have := assoc_eqv A B C xa [] xb1 xb2 xc [] WAB WBC
    (commonB_nil A C) (by rw [List.append_nil]; exact WAB.nA) hnB
    (by rw [List.append_nil]; exact WBC.nB) (by simp) (by simp) hL
  rw [AssocP.axesAB_chain, AssocP.axesBC_chain, List.append_nil, List.nil_append] at this
  exact this

theorem dist_of {L M : List (Int × Bool)} (hL : OddposP.LabelsDistinct L)
    (l : List (Int × Bool)) (hp : l.Perm M) (hs : l.Sublist L) : OddposP.LabelsDistinct M :=
  OddposP.LabelsDistinct.perm (List.Pairwise.sublist hs hL) hp

/-- **A·B·C·D: all five bracketings succeed and agree** (`Eqv`; weak guards, distinct labels). -/
theorem chain4 (A B C D : Arr R) (xa xb1 xb2 xc1 xc2 xd : List Nat)
    (WAB : AdmW A B xa xb1) (WBC : AdmW B C xb2 xc1) (WCD : AdmW C D xc2 xd)
    (hnB : (xb1 ++ xb2).Nodup) (hnC : (xc1 ++ xc2).Nodup)
    (hd : OddposP.LabelsDistinct (A.oddpos ++ B.oddpos ++ C.oddpos ++ D.oddpos)) :
    ∃ AB BC CD ABC1 ABC2 BCD1 BCD2 T1 T2 T3 T4 T5 : Arr R,
      tdF A B xa xb1 = .ok AB ∧ tdF B C xb2 xc1 = .ok BC ∧ tdF C D xc2 xd = .ok CD
      ∧ tdF AB C (AssocP.axesAB A.ndim B.ndim xa xb1 xb2) xc1 = .ok ABC1
      ∧ tdF A BC xa (AssocP.axesBC B.ndim xb1 xb2) = .ok ABC2
      ∧ tdF BC D (AssocP.axesAB B.ndim C.ndim xb2 xc1 xc2) xd = .ok BCD1
      ∧ tdF B CD xb2 (AssocP.axesBC C.ndim xc1 xc2) = .ok BCD2
      ∧ tdF ABC1 D (AssocP.axesAB AB.ndim C.ndim (AssocP.axesAB A.ndim B.ndim xa xb1 xb2) xc1 xc2) xd
          = .ok T1
      ∧ tdF ABC2 D (AssocP.axesAB AB.ndim C.ndim (AssocP.axesAB A.ndim B.ndim xa xb1 xb2) xc1 xc2) xd
          = .ok T2
      ∧ tdF AB CD (AssocP.axesAB A.ndim B.ndim xa xb1 xb2) (AssocP.axesBC C.ndim xc1 xc2) = .ok T3
      ∧ tdF A BCD1 xa (AssocP.axesBC B.ndim xb1 xb2) = .ok T4
      ∧ tdF A BCD2 xa (AssocP.axesBC B.ndim xb1 xb2) = .ok T5
      ∧ Eqv T2 T1 ∧ Eqv T3 T1 ∧ Eqv T4 T1 ∧ Eqv T5 T1 ∧ T1.validB = true := by
  have midB : Mid B.ndim xb1 xb2 := Mid.of hnB (by
    intro i hi
    rcases List.mem_append.mp hi with h | h
    · exact WAB.ltB i h
    · exact WBC.ltA i h)
  have midC : Mid C.ndim xc1 xc2 := Mid.of hnC (by
    intro i hi
    rcases List.mem_append.mp hi with h | h
    · exact WBC.ltB i h
    · exact WCD.ltA i h)
  have e1 : A.oddpos ++ B.oddpos ++ C.oddpos ++ D.oddpos
      = A.oddpos ++ (B.oddpos ++ C.oddpos ++ D.oddpos) := by simp [List.append_assoc]
  have e2 : A.oddpos ++ B.oddpos ++ C.oddpos ++ D.oddpos
      = A.oddpos ++ B.oddpos ++ (C.oddpos ++ D.oddpos) := by simp [List.append_assoc]
  have s_abc : (A.oddpos ++ B.oddpos ++ C.oddpos).Sublist
      (A.oddpos ++ B.oddpos ++ C.oddpos ++ D.oddpos) := List.sublist_append_left _ _
  have s_bcd : (B.oddpos ++ C.oddpos ++ D.oddpos).Sublist
      (A.oddpos ++ B.oddpos ++ C.oddpos ++ D.oddpos) := by rw [e1]; exact List.sublist_append_right _ _
  have h_ab : OddposP.LabelsDistinct (A.oddpos ++ B.oddpos) :=
    dist_of hd _ (List.Perm.refl _) ((List.sublist_append_left _ _).trans s_abc)
  have h_bc : OddposP.LabelsDistinct (B.oddpos ++ C.oddpos) :=
    dist_of hd _ (List.Perm.refl _) ((List.sublist_append_left _ _).trans s_bcd)
  have h_cd : OddposP.LabelsDistinct (C.oddpos ++ D.oddpos) :=
    dist_of hd _ (List.Perm.refl _) (by rw [e2]; exact List.sublist_append_right _ _)
  have h_abc : OddposP.LabelsDistinct (A.oddpos ++ B.oddpos ++ C.oddpos) :=
    dist_of hd _ (List.Perm.refl _) s_abc
  have h_bcd : OddposP.LabelsDistinct (B.oddpos ++ C.oddpos ++ D.oddpos) :=
    dist_of hd _ (List.Perm.refl _) s_bcd
  obtain ⟨AB, phAB, eAB, IAB, pAB⟩ := call_pack A B xa xb1 WAB h_ab
  obtain ⟨BC, phBC, eBC, IBC, pBC⟩ := call_pack B C xb2 xc1 WBC h_bc
  obtain ⟨CD, phCD, eCD, ICD, pCD⟩ := call_pack C D xc2 xd WCD h_cd
  have WABc := admW_left_chain_w IAB.toW WAB WBC midB
  have WaBC := admW_right_chain_w IBC.toW WAB midB
  have WBCd := admW_left_chain_w IBC.toW WBC WCD midC
  have WbCD := admW_right_chain_w ICD.toW WBC midC
  have h_ABc : OddposP.LabelsDistinct (AB.oddpos ++ C.oddpos) :=
    dist_of hd _ (pAB.symm.append_right _) s_abc
  have h_aBC : OddposP.LabelsDistinct (A.oddpos ++ BC.oddpos) :=
    dist_of hd (A.oddpos ++ (B.oddpos ++ C.oddpos)) (pBC.symm.append_left _)
      (by rw [← List.append_assoc]; exact s_abc)
  have h_BCd : OddposP.LabelsDistinct (BC.oddpos ++ D.oddpos) :=
    dist_of hd _ (pBC.symm.append_right _) s_bcd
  have h_bCD : OddposP.LabelsDistinct (B.oddpos ++ CD.oddpos) :=
    dist_of hd (B.oddpos ++ (C.oddpos ++ D.oddpos)) (pCD.symm.append_left _)
      (by rw [← List.append_assoc]; exact s_bcd)
  have h_ABcd : OddposP.LabelsDistinct (AB.oddpos ++ C.oddpos ++ D.oddpos) :=
    dist_of hd _ ((pAB.symm.append_right _).append_right _) (List.Sublist.refl _)
  have h_abCD : OddposP.LabelsDistinct (A.oddpos ++ B.oddpos ++ CD.oddpos) :=
    dist_of hd (A.oddpos ++ B.oddpos ++ (C.oddpos ++ D.oddpos)) (pCD.symm.append_left _)
      (by rw [← e2])
  obtain ⟨ABC1, _, eABC1, IABC1, pABC1⟩ := call_pack AB C _ _ WABc h_ABc
  obtain ⟨ABC2, _, eABC2, IABC2, _⟩ := call_pack A BC _ _ WaBC h_aBC
  obtain ⟨BCD1, _, eBCD1, IBCD1, _⟩ := call_pack BC D _ _ WBCd h_BCd
  obtain ⟨BCD2, _, eBCD2, IBCD2, _⟩ := call_pack B CD _ _ WbCD h_bCD
  obtain ⟨AB', BC', c1, c2, d1, d2, d3, d4, hABC⟩ := chain_eqv A B C xa xb1 xb2 xc1 WAB WBC hnB
    (Assoc2P.labelRoutes_of_distinct _ _ _ _ _ h_abc)
  rw [eAB] at d1
  obtain rfl := Except.ok.inj d1
  rw [eBC] at d3
  obtain rfl := Except.ok.inj d3
  rw [eABC1] at d2
  obtain rfl := Except.ok.inj d2
  rw [eABC2] at d4
  obtain rfl := Except.ok.inj d4
  obtain ⟨BC', CD', c1, c2, d1, d2, d3, d4, hBCD⟩ := chain_eqv B C D xb2 xc1 xc2 xd WBC WCD hnC
    (Assoc2P.labelRoutes_of_distinct _ _ _ _ _ h_bcd)
  rw [eBC] at d1
  obtain rfl := Except.ok.inj d1
  rw [eCD] at d3
  obtain rfl := Except.ok.inj d3
  rw [eBCD1] at d2
  obtain rfl := Except.ok.inj d2
  rw [eBCD2] at d4
  obtain rfl := Except.ok.inj d4
  obtain ⟨X1, CD', T1, T3, d1, eT1, d3, eT3, h31⟩ := chain_eqv AB C D _ xc1 xc2 xd WABc WCD hnC
    (Assoc2P.labelRoutes_of_distinct _ _ _ _ _ h_ABcd)
  rw [eABC1] at d1
  obtain rfl := Except.ok.inj d1
  rw [eCD] at d3
  obtain rfl := Except.ok.inj d3
  obtain ⟨AB', X2, T3', T5, d1, d2, d3, eT5, h53⟩ := chain_eqv A B CD xa xb1 xb2 _ WAB WbCD hnB
    (Assoc2P.labelRoutes_of_distinct _ _ _ _ _ h_abCD)
  rw [eAB] at d1
  obtain rfl := Except.ok.inj d1
  rw [eBCD2] at d3
  obtain rfl := Except.ok.inj d3
  rw [eT3] at d2
  obtain rfl := Except.ok.inj d2
  -- the two remaining bracketings by congruence
  have WT1 := admW_left_chain_w IABC1.toW WABc WCD midC
  obtain ⟨T2, eT2, h12⟩ := tdotF_congr WT1 hABC.symm (Eqv.refl D) IABC2.valid WCD.vb T1 eT1
  have WT5 := admW_right_chain_w IBCD2.toW WAB midB
  obtain ⟨T4, eT4, h54⟩ := tdotF_congr WT5 (Eqv.refl A) hBCD WAB.va IBCD1.valid T5 eT5
  have h_ABC1d : OddposP.LabelsDistinct (ABC1.oddpos ++ D.oddpos) :=
    dist_of hd _ (((pAB.symm.append_right _).trans pABC1.symm).append_right _) (List.Sublist.refl _)
  obtain ⟨T1', _, eT1', IT1, _⟩ := call_pack ABC1 D _ _ WT1 h_ABC1d
  have eT1'' := eT1
  unfold tdF at *
  rw [eT1'] at eT1''
  obtain rfl := Except.ok.inj eT1''
  exact ⟨AB, BC, CD, ABC1, ABC2, BCD1, BCD2, T1', T2, T3, T4, T5, eAB, eBC, eCD, eABC1, eABC2, eBCD1,
    eBCD2, eT1, eT2, eT3, eT4, eT5, h12.symm, h31, h54.symm.trans (h53.trans h31), h53.trans h31,
    IT1.valid⟩

end

end Assoc3P
end SymmModel
