/-
  SymmModel.Proofs.Reshape5g — the forward plan from the shapes alone: the shape is a concatenation
  of runs, the target has one axis per run (the product of the run); runs of several axes have all
  sizes ≥ 2.  The runs are a greedy segmentation (`segsR`), so by `Reshape3.planner_greedy`
  (`planner_runs`, `C07.planner_forward_plan_runs`) the planner returns no unfuse step, no expansion
  and exactly the fuse calls `callsR` (adjacent merged runs in one call, positions in the coordinates
  after the previous calls).
-/
import SymmModel.Proofs.Reshape5f
namespace SymmModel.Reshape5
open SymmModel SymmModel.Reshape SymmModel.C07 SymmModel.Reshape3

/-- a run is kept (one axis) or merged (several axes, all of size ≥ 2) -/
def RunOk (r : List Nat) : Prop := r ≠ [] ∧ (r.length ≠ 1 → ∀ d ∈ r, 2 ≤ d)

instance : DecidablePred RunOk := fun r => by unfold RunOk; infer_instance

/-- the fuse calls: `i` current axis (coordinates after the calls already issued), `cur` pending groups -/
def callsR : List (List Nat) → Nat → List (List Nat) → List (List (List Nat))
  | [], _, cur => if cur.isEmpty then [] else [cur]
  | r :: rs, i, cur =>
    if r.length = 1 then
      if cur.isEmpty then callsR rs (i + 1) []
      else cur :: callsR rs (i - sumN (cur.map List.length) + cur.length + 1) []
    else callsR rs (i + r.length) (cur ++ [List.range' i r.length])

/-- the runs as segments: a kept run is an "o" segment, a merged run a "g" segment; `n` = the next
    free key -/
def segsR : Nat → List (List Nat) → List Seg
  | _, [] => []
  | n, r :: rs => if r.length = 1 then Seg.o (r.headD 0, none) :: segsR n rs
      else Seg.g n (r.map fun d => (d, none)) :: segsR (n + 1) rs

theorem eq_single {r : List Nat} (h : r.length = 1) : ∃ d, r = [d] := by
  cases r with
  | nil => simp at h
  | cons d r => cases r with
    | nil => exact ⟨d, rfl⟩
    | cons _ _ => simp at h

theorem sizes_map_none (r : List Nat) : SymShape.sizes (r.map fun d => ((d, none) : E)) = r := by
  simp [SymShape.sizes, Function.comp_def]

theorem flatE_segsR : ∀ (runs : List (List Nat)) (n : Nat),
    flatE (segsR n runs) = runs.flatten.map fun d => ((d, none) : E)
  | [], _ => rfl
  | r :: rs, n => by
    by_cases h : r.length = 1
    · obtain ⟨d, rfl⟩ := eq_single h
      simp [segsR, Seg.ax, flatE_segsR rs]
    · simp [segsR, h, Seg.ax, flatE_segsR rs]

theorem flatA_segsR : ∀ (runs : List (List Nat)) (n : Nat), flatA (segsR n runs) = runs.map prod
  | [], _ => rfl
  | r :: rs, n => by
    by_cases h : r.length = 1
    · obtain ⟨d, rfl⟩ := eq_single h
      simp [segsR, Seg.outA, Seg.outK, prod, flatA_segsR rs]
    · simp [segsR, h, Seg.outA, Seg.outK, sizes_map_none, flatA_segsR rs]

theorem greedy_segsR : ∀ (runs : List (List Nat)) (n : Nat), (∀ r ∈ runs, RunOk r) → Greedy (segsR n runs)
  | [], _, _ => trivial
  | r :: rs, n, hok => by
    have ih := fun n => greedy_segsR rs n fun r' hr' => hok r' (by simp [hr'])
    obtain ⟨hne, h2⟩ := hok r (by simp)
    by_cases h : r.length = 1
    · obtain ⟨d, rfl⟩ := eq_single h
      exact .cons_o rfl (ih n)
    · simp only [segsR, h, if_false]
      obtain ⟨d0, rest, rfl⟩ := List.exists_cons_of_ne_nil hne
      have hrest : rest ≠ [] := by intro hc; subst hc; simp at h
      have hall := h2 h
      rw [← List.dropLast_append_getLast hrest] at hall ⊢
      rw [List.map_cons, List.map_append]
      exact .cons_g (e0 := (d0, none)) (el := (rest.getLast hrest, none)) (hall d0 (by simp))
        (fun e he => by
          obtain ⟨d, hd, rfl⟩ := List.mem_map.mp he
          exact Nat.le_trans (by omega) (hall d (by simp [hd])))
        (hall _ (by simp)) rfl (ih _)

theorem keyed_segsR : ∀ (runs : List (List Nat)) (nu n : Nat), Keyed nu n (segsR n runs)
  | [], _, _ => trivial
  | r :: rs, nu, n => by
    by_cases h : r.length = 1
    · simp only [segsR, h, if_true]; exact .cons_o (keyed_segsR rs nu n)
    · simp only [segsR, h, if_false]; exact .cons_g (keyed_segsR rs nu _)

theorem og_segsR : ∀ (rs : List (List Nat)) (n : Nat), OG (segsR n rs)
  | [], _ => fun _ h => by simp [segsR] at h
  | r :: rs, n => by
    intro a ha
    by_cases h : r.length = 1 <;> simp only [segsR, h, if_true, if_false] at ha <;>
      rcases List.mem_cons.mp ha with rfl | ha
    · rfl
    · exact og_segsR rs _ a ha
    · rfl
    · exact og_segsR rs _ a ha

theorem gtwo_segsR : ∀ (rs : List (List Nat)) (n : Nat), (∀ r ∈ rs, r ≠ []) → GTwo (segsR n rs)
  | [], _, _ => fun _ _ h => by simp [segsR] at h
  | r :: rs, n, hne => by
    have ih := fun n => gtwo_segsR rs n fun r' hr' => hne r' (by simp [hr'])
    have := List.length_pos_iff.mpr (hne r (by simp))
    by_cases h : r.length = 1 <;> simp only [segsR, h, if_true, if_false] <;> intro k es hm <;>
      rcases List.mem_cons.mp hm with hm | hm
    · cases hm
    · exact ih _ k es hm
    · injection hm with _ hes; subst hes; simp; omega
    · exact ih _ k es hm

theorem callsOf_segsR : ∀ (rs : List (List Nat)) (n i : Nat) (cur : List (List Nat)),
    callsOf i cur (segsR n rs) = callsR rs i cur
  | [], _, _, _ => rfl
  | r :: rs, n, i, cur => by
    by_cases h : r.length = 1
    · simp only [segsR, callsR, h, if_true, callsOf_o, callsOf_segsR rs]
    · simp only [segsR, callsR, h, if_false, callsOf, List.length_map, callsOf_segsR rs]

theorem planner_runs (runs : List (List Nat)) (hok : ∀ r ∈ runs, RunOk r) :
    calcReshapeArgs runs.flatten (runs.map prod) (nones runs.flatten) = .ok ([], callsR runs 0 [], []) := by
  have hnu : ∀ k d subs, Seg.u k d subs ∉ segsR 0 runs := fun k d subs hm => by
    have := og_segsR runs 0 _ hm; simp [Seg.isOG] at this
  have h := planner_greedy_plain (segsR 0 runs) (greedy_segsR runs 0 hok) (keyed_segsR runs 0 0)
    (List.any_eq_false.mpr fun a ha => by
      have := og_segsR runs 0 a ha
      cases a <;> simp [Seg.isOG, Seg.isS] at this ⊢)
  rw [flatE_segsR, flatA_segsR, sizes_map_none, unfAxes_noU 0 hnu, unf_id hnu, callsOf_segsR] at h
  rw [← h]
  simp only [SymShape.subs, nones, List.map_map, Function.comp_def]

example : callsR [[2, 3], [7], [4, 5]] 0 [] = [[[0, 1]], [[2, 3]]]
    ∧ callsR [[2, 3], [4, 5]] 0 [] = [[[0, 1], [2, 3]]] := by decide

end SymmModel.Reshape5
