/-
  SymmModel.Proofs.DecompIso — the array-level isometry statements of C11 for FERMIONIC factors,
  through the library's `dagger()`, `@` and `tensordot` (every mode):
    `Q† · Q`  (`LeftLike`: `q` of `qr`, `u` of `svd`, `u'` of `svd_truncated`)  is, on the bond sector
              `(c, c)` of the block with sector `s = (r, c)`, the Gram matrix of the columns of the
              block times the sign `isoSignL x s` =
                 (−1)^(number of DUAL labels of x) · (−1 if x's row index is dual and r is odd);
    `VH · VH†` (`RightLike`: `vh` of `svd`, `vh'` of `svd_truncated`) is the Gram matrix of the rows times
              `bondSign x c` = −1 iff x's column index is NOT dual and c is odd.
  Proof: C03's graded semantics of `@` / `tensordot` (`DecompP.graded_matmul_and_tensordot`), the
  single sector pair per bond charge (`GramPair`), the value view of `dagger()`
  (`Lazy.daggerF_phOf`), and the nested label merge `NormNet.resolveScan_nested`.
  `LeftLike`, `RightLike` themselves are in Proofs/Recon2Core.lean (an aligned `Pair` is one of each).
-/
import SymmModel.Proofs.DecompGram
import SymmModel.Proofs.DecompTdot

namespace SymmModel
namespace DecompP
set_option linter.unusedSectionVars false
open LinalgLemmas ReconP Recon2P TdotP GradedP RoutesP OddposP
open Lazy (sgnI)

variable {R : Type}

theorem oddposDag_sorted (o : List (Int × Bool)) (hs : o.Pairwise (fun a b => oddLt a b = true)) :
    (Arr.oddposDag o).Pairwise (fun a b => oddLt a b = true) := by
  rw [NormNet.oddposDag_eq_bar, List.pairwise_map, List.pairwise_reverse]
  refine hs.imp ?_
  intro a b hab
  obtain ⟨a1, a2⟩ := a
  obtain ⟨b1, b2⟩ := b
  unfold oddLt at hab ⊢
  simp only [NormNet.bar]
  cases a2 <;> cases b2 <;> simp at hab ⊢ <;> first | exact hab | exact decide_eq_true hab

/-- the label merge of `dagger(q)` with `q`: all labels annihilate, sign `-1` per dual label
    (and the sign for moving an odd number of labels over an odd left operand) -/
theorem merge_nested (pa : Bool) (o : List (Int × Bool)) (hl : SortedLabels o) :
    mergeOddpos pa (Arr.oddposDag o) o
      = .ok ([], (if pa && o.length % 2 == 1 then -1 else 1) * NormNet.nestSign o) := by
  unfold mergeOddpos
  apply NormNet.resolveScan_nested o (oddposDag_sorted o hl.1) hl.2
  simp only [List.length_append, Lazy.oddposDag_length]
  generalize o.length = n
  have : n ≤ (n + n) * (n + n) := by
    calc n ≤ n + n := by omega
      _ ≤ (n + n) * (n + n) := Nat.le_mul_self _
  omega

section dag
variable [Zero R] [Neg R] [Conj R] [Lazy.LawfulNeg R]

theorem daggerF_elem {a : Arr R} (h : Lazy.SignOk a) {s : Sector} {b : Blk R}
    (hm : (s, b) ∈ a.blocks) (off : List Nat) :
    (a.daggerF).elem s.reverse off
      = sgnI (Lazy.dagSign a false s * Lazy.phOf a.phases s)
          (((b.conjK).transposeK (Arr.reversedAxes a.ndim)).get off) := by
  have hs : s ∈ a.sectors := List.mem_map.mpr ⟨(s, b), hm, rfl⟩
  have hl : alookup (a.daggerF).blocks s.reverse
      = some ((b.conjK).transposeK (Arr.reversedAxes a.ndim)) := by
    apply alookup_of_mem_nodup (h.daggerF false).sectors
    rw [Lazy.daggerF_blocks]
    exact List.mem_map.mpr ⟨(s, b), hm, rfl⟩
  rw [Lazy.elem_eq, hl]
  simp only []
  rw [Lazy.daggerF_phOf h false hs]

end dag

/-- sign of `Q† · Q` on the bond sector of the block with sector `s` -/
def isoSignL (x : Arr R) (s : Sector) : Int :=
  NormNet.nestSign x.oddpos
    * (if (x.indices.getD 0 default).dual && x.sym.parity (rowOf s) then -1 else 1)

theorem isoSignL_pm (x : Arr R) (s : Sector) : isoSignL x s = 1 ∨ isoSignL x s = -1 :=
  Lazy.mul_pm (NormNet.nestSign_pm _) (by split <;> simp)

section left
variable [AddCommMonoid R] [Mul R] [Neg R] [SignRing R] [Conj R]
variable {x Q : Arr R} {α : Type} {l : List α} {sec : α → Sector} {fA : α → Blk R}
  {dims : α → Nat × Nat}

theorem LeftLike.gram (hv : x.validB = true) (h2 : x.ndim = 2) (hlab : SortedLabels x.oddpos)
    (P : LeftLike x Q l sec fA dims) :
    ∃ J, Q.indices = [x.indices.getD 0 default, J]
      ∧ Q.daggerF.indices = [J.conj, (x.indices.getD 0 default).conj]
      ∧ Adm Q.daggerF Q [1] [0]
      ∧ GramPair Q.daggerF Q l (fun p => colOf (sec p)) (fun p => rowOf (sec p))
          (fun p => colOf (sec p))
      ∧ mergeOddpos Q.daggerF.parity Q.daggerF.oddpos Q.oddpos
          = .ok ([], (if x.sym.parity (x.sym.sign x.charge true) && x.oddpos.length % 2 == 1
              then -1 else 1) * NormNet.nestSign x.oddpos) := by
  obtain ⟨J, hQi⟩ := P.idx
  have hQv := P.v
  have hQf := P.f
  have hQn : Q.ndim = 2 := by simp [Arr.ndim, hQi]
  obtain ⟨d1, d2, d3, d4, d5⟩ := daggerF_fields Q
  have hAv : Q.daggerF.validB = true :=
    (ValidP.validB_iff _).mpr (ValidP.daggerF_valid _ false ((ValidP.validB_iff _).mp hQv) hQf)
  have hAi : Q.daggerF.indices = [J.conj, (x.indices.getD 0 default).conj] := by rw [d3, hQi]; rfl
  have hAn : Q.daggerF.ndim = 2 := by simp [Arr.ndim, hAi]
  have hrc := items_rc hv h2 P.hin
  have hQs : Q.sectors = l.map sec := by
    simp [Arr.sectors, P.bl, List.map_map, Function.comp_def]
  refine ⟨J, hQi, hAi,
    adm_matrices hAv hQv (d2.trans hQf) hQf d1 hAi hQi (Index.conj_cm _) (Index.conj_dual _),
    ⟨hAn, hQn, ?_, ?_, items_rows hv h2 P.hin P.hsec, items_diag hv h2 P.hin P.hsec⟩, ?_⟩
  · rw [Lazy.daggerF_sectors, hQs, List.map_map]
    apply List.map_congr_left
    intro p hp
    simp only [Function.comp]
    rw [hrc p hp]; rfl
  · rw [hQs]
    exact List.map_congr_left hrc
  · have hpar : Q.daggerF.parity = x.sym.parity (x.sym.sign x.charge true) := by
      show Q.daggerF.sym.parity Q.daggerF.charge = _
      rw [d1, d4, P.sym, P.ch]
    rw [hpar, d5, P.od]
    exact merge_nested _ x.oddpos hlab

/-- **`dagger(Q) · Q` for a left-factor-like array of a fermionic matrix**, through `@` and through
    `tensordot` in every mode: success, no labels, and on the bond sector of every item the signed
    Gram matrix of the columns of its block. -/
theorem gram_left_fermi_items (hz1 : ∀ v : R, 0 * v = 0) (hz2 : ∀ v : R, v * 0 = 0)
    (hc0 : Conj.conj (0 : R) = 0) (hv : x.validB = true) (h2 : x.ndim = 2)
    (hlab : SortedLabels x.oddpos) (P : LeftLike x Q l sec fA dims) :
    (∃ y, Q.daggerF.matmulF Q = .ok y ∧ y.oddpos = []
      ∧ ∀ p ∈ l, ∀ t t', t < (dims p).2 → t' < (dims p).2 →
          y.elem (diagOf (sec p)) [t, t'] = sgnI (isoSignL x (sec p))
            ((List.range (dims p).1).foldl
              (fun acc i => acc + Conj.conj ((fA p).get [i, t]) * (fA p).get [i, t']) 0))
    ∧ ∀ tm, ∃ c, Q.daggerF.tensordotF Q (.pair [1] [0]) tm = .ok c
      ∧ c.oddpos = []
      ∧ ∀ p ∈ l, ∀ t t', t < (dims p).2 → t' < (dims p).2 →
          c.elem (diagOf (sec p)) [t, t'] = sgnI (isoSignL x (sec p))
            ((List.range (dims p).1).foldl
              (fun acc i => acc + Conj.conj ((fA p).get [i, t]) * (fA p).get [i, t']) 0) := by
  obtain ⟨i0, i1, hi⟩ := ndim_two h2
  have hi0 : x.indices.getD 0 default = i0 := by rw [hi]; rfl
  obtain ⟨J, hQi, hAi, hAdm, G, hm⟩ := P.gram hv h2 hlab
  rw [hi0] at hQi hAi
  have hQv := P.v
  have hQn := G.nB
  have hAn := G.nA
  have d1 := (daggerF_fields Q).1
  have hsQ : Lazy.SignOk Q := Lazy.SignOk.of_valid hQv P.f
  have hrc := items_rc hv h2 P.hin
  have hval : ∀ p ∈ l, ∀ t t', t < (dims p).2 → t' < (dims p).2 →
      inBox (Arr.blockShapeD (without Q.daggerF.indices [1] ++ without Q.indices [0])
          (diagOf (sec p))) [t, t'] = true
      ∧ sgnI ((if x.sym.parity (x.sym.sign x.charge true) && x.oddpos.length % 2 == 1
            then -1 else 1) * NormNet.nestSign x.oddpos)
          (gradedContract Q.daggerF Q [1] [0] (diagOf (sec p)) [t] [t'])
        = sgnI (isoSignL x (sec p)) ((List.range (dims p).1).foldl
            (fun acc i => acc + Conj.conj ((fA p).get [i, t]) * (fA p).get [i, t']) 0) := by
    intro p hp t t' ht ht'
    have hs := hrc p hp
    generalize hr : rowOf (sec p) = r at hs
    generalize hc : colOf (sec p) = c at hs
    have l1 := P.hsh p hp
    have hdg : diagOf (sec p) = [c, c] := by simp [diagOf, hc]
    have hQm : (sec p, fA p) ∈ Q.blocks := by rw [P.bl]; exact List.mem_map.mpr ⟨p, hp, rfl⟩
    obtain ⟨e1, e2⟩ := block_table hQv hQi (by rw [← hs]; exact hQm) l1
    have hAsh : Arr.blockShapeD Q.daggerF.indices [c, r] = [(dims p).2, (dims p).1] := by
      unfold Arr.blockShapeD
      rw [hAi, (blockShape?_pair _ _ c r [(dims p).2, (dims p).1]).mpr
        ⟨(dims p).2, (dims p).1, by rw [Index.conj_cm]; exact e2, by rw [Index.conj_cm]; exact e1, rfl⟩]
      rfl
    have hbox : inBox (Arr.blockShapeD (without Q.daggerF.indices [1] ++ without Q.indices [0])
        (diagOf (sec p))) [t, t'] = true := by
      have hidx : without Q.daggerF.indices [1] ++ without Q.indices [0] = [J.conj, J] := by
        rw [hAi, hQi]; rfl
      rw [hidx, hdg]
      exact inBox_diag (by rw [Index.conj_cm]; exact e2) e2 ht ht'
    refine ⟨hbox, ?_⟩
    have hgc := G.gradedContract (p := p) hp (dims p).2 (dims p).1
      (by simp only [hc, hr]; exact hAsh) t t'
    simp only [hc, hr] at hgc
    rw [hdg, hgc]
    have hrev : [c, r] = (sec p).reverse := by rw [hs]; rfl
    have hterm : ∀ i ∈ List.range (dims p).1,
        Q.daggerF.elem [c, r] [t, i] * Q.elem [r, c] [i, t']
          = sgnI (Lazy.dagSign Q false (sec p))
              (Conj.conj ((fA p).get [i, t]) * (fA p).get [i, t']) := by
      intro i hi'
      have hi'' := List.mem_range.mp hi'
      rw [hrev, daggerF_elem hsQ hQm, ← hs, elem_sgn hsQ.sectors hQm, hQn]
      have hrv : Arr.reversedAxes 2 = [1, 0] := rfl
      rw [hrv, transposeK10_get _ (by rw [conjK_shape]; exact l1) ht hi'', conjK_get hc0,
        sgnI_mul_mul (Lazy.mul_pm (Lazy.dagSign_pm _ _ _) (hsQ.phases.phOf (sec p)))
          (hsQ.phases.phOf (sec p)),
        Int.mul_assoc, pm_mul_self (hsQ.phases.phOf (sec p)), Int.mul_one]
    rw [List.map_congr_left hterm, sgnI_sum, sum_map_eq_foldl]
    have hdgs : Lazy.dagSign Q false (sec p)
        = if x.sym.parity (x.sym.sign x.charge true) && x.oddpos.length % 2 == 1 then -1 else 1 := by
      unfold Lazy.dagSign Lazy.conjGlob
      rw [P.sym, P.ch, P.od]
      simp only [Bool.false_eq_true, if_false, Int.one_mul, Bool.true_and, Lazy.oddposDag_length]
    have hgs : (!(Q.daggerF.indices.getD 1 default).dual && Q.daggerF.sym.parity r)
        = ((x.indices.getD 0 default).dual && x.sym.parity (rowOf (sec p))) := by
      rw [hAi, d1, P.sym, hi0, hr]
      show (!i0.conj.dual && x.sym.parity r) = _
      rw [Index.conj_dual]; simp
    rw [hdgs, hgs]
    unfold isoSignL
    -- the sign of `dagger()` occurs twice and cancels
    generalize hσ : (if (x.sym.parity (x.sym.sign x.charge true) && x.oddpos.length % 2 == 1) = true
      then (-1 : Int) else 1) = σ
    generalize hγ : (if ((x.indices.getD 0 default).dual && x.sym.parity (rowOf (sec p))) = true
      then (-1 : Int) else 1) = γ
    have pσ : σ = 1 ∨ σ = -1 := by rw [← hσ]; split <;> simp
    have pγ : γ = 1 ∨ γ = -1 := by rw [← hγ]; split <;> simp
    rw [sgnI_comp pγ pσ, sgnI_comp (Lazy.mul_pm pσ (NormNet.nestSign_pm _)) (Lazy.mul_pm pγ pσ),
      Int.mul_comm γ σ, ← Int.mul_assoc, Int.mul_right_comm σ _ σ, pm_mul_self pσ, Int.one_mul]
  exact entries_of_graded hz1 hz2 hAdm hAn hQn hm (fun p => diagOf (sec p)) (fun p => (dims p).2) _ hval

end left

section right
variable [AddCommMonoid R] [Mul R] [Neg R] [SignRing R] [Conj R]
variable {x V : Arr R} {α : Type} {l : List α} {sec : α → Sector} {fB : α → Blk R}
  {dims : α → Nat × Nat}

theorem RightLike.gram (hv : x.validB = true) (h2 : x.ndim = 2) (P : RightLike x V l sec fB dims) :
    ∃ J, V.indices = [J, x.indices.getD 1 default]
      ∧ V.daggerF.indices = [(x.indices.getD 1 default).conj, J.conj]
      ∧ Adm V V.daggerF [1] [0]
      ∧ GramPair V V.daggerF l (fun p => colOf (sec p)) (fun p => colOf (sec p))
          (fun p => colOf (sec p))
      ∧ mergeOddpos V.parity V.oddpos V.daggerF.oddpos = .ok ([], 1) := by
  obtain ⟨J, hVi⟩ := P.idx
  have hVv := P.v
  have hVf := P.f
  have hVn : V.ndim = 2 := by simp [Arr.ndim, hVi]
  obtain ⟨d1, d2, d3, d4, d5⟩ := daggerF_fields V
  have hBv : V.daggerF.validB = true :=
    (ValidP.validB_iff _).mpr (ValidP.daggerF_valid _ false ((ValidP.validB_iff _).mp hVv) hVf)
  have hBi : V.daggerF.indices = [(x.indices.getD 1 default).conj, J.conj] := by rw [d3, hVi]; rfl
  have hBn : V.daggerF.ndim = 2 := by simp [Arr.ndim, hBi]
  have hVs : V.sectors = l.map (fun p => [colOf (sec p), colOf (sec p)]) := by
    simp [Arr.sectors, P.bl, List.map_map, Function.comp_def, diagOf]
  refine ⟨J, hVi, hBi,
    adm_matrices hVv hBv hVf (d2.trans hVf) d1.symm hVi hBi (Index.conj_cm _).symm
      (by rw [Index.conj_dual, Bool.not_not]),
    ⟨hVn, hBn, hVs, ?_, items_cols hv h2 P.hin P.hsec, items_diag hv h2 P.hin P.hsec⟩, ?_⟩
  · rw [Lazy.daggerF_sectors, hVs, List.map_map]
    rfl
  · rw [d5, P.od]
    cases V.parity <;> rfl

/-- **`V · dagger(V)` for a right-factor-like array of a fermionic matrix**, through `@` and
    through `tensordot` in every mode: success, no labels, and on the bond sector `(c, c)` of every
    item the Gram matrix of the rows of its block times `bondSign x c`. -/
theorem gram_right_fermi_items (hz1 : ∀ v : R, 0 * v = 0) (hz2 : ∀ v : R, v * 0 = 0)
    (hc0 : Conj.conj (0 : R) = 0) (hv : x.validB = true) (h2 : x.ndim = 2)
    (P : RightLike x V l sec fB dims) :
    (∃ y, V.matmulF V.daggerF = .ok y ∧ y.oddpos = []
      ∧ ∀ p ∈ l, ∀ t t', t < (dims p).1 → t' < (dims p).1 →
          y.elem (diagOf (sec p)) [t, t'] = sgnI (bondSign x (colOf (sec p)))
            ((List.range (dims p).2).foldl
              (fun acc j => acc + (fB p).get [t, j] * Conj.conj ((fB p).get [t', j])) 0))
    ∧ ∀ tm, ∃ c, V.tensordotF V.daggerF (.pair [1] [0]) tm = .ok c
      ∧ c.oddpos = []
      ∧ ∀ p ∈ l, ∀ t t', t < (dims p).1 → t' < (dims p).1 →
          c.elem (diagOf (sec p)) [t, t'] = sgnI (bondSign x (colOf (sec p)))
            ((List.range (dims p).2).foldl
              (fun acc j => acc + (fB p).get [t, j] * Conj.conj ((fB p).get [t', j])) 0) := by
  obtain ⟨i0, i1, hi⟩ := ndim_two h2
  have hi1 : x.indices.getD 1 default = i1 := by rw [hi]; rfl
  obtain ⟨J, hVi, hBi, hAdm, G, hm⟩ := P.gram hv h2
  rw [hi1] at hVi hBi
  have hVv := P.v
  have hVf := P.f
  have hVn := G.nA
  have hBn := G.nB
  have d1 := (daggerF_fields V).1
  have hsV : Lazy.SignOk V := Lazy.SignOk.of_valid hVv hVf
  have hval : ∀ p ∈ l, ∀ t t', t < (dims p).1 → t' < (dims p).1 →
      inBox (Arr.blockShapeD (without V.indices [1] ++ without V.daggerF.indices [0])
          (diagOf (sec p))) [t, t'] = true
      ∧ sgnI 1 (gradedContract V V.daggerF [1] [0] (diagOf (sec p)) [t] [t'])
        = sgnI (bondSign x (colOf (sec p))) ((List.range (dims p).2).foldl
            (fun acc j => acc + (fB p).get [t, j] * Conj.conj ((fB p).get [t', j])) 0) := by
    intro p hp t t' ht ht'
    generalize hc : colOf (sec p) = c
    have l3 := P.hsh p hp
    have hdg : diagOf (sec p) = [c, c] := by simp [diagOf, hc]
    have hVm : ([c, c], fB p) ∈ V.blocks := by
      rw [P.bl]; exact List.mem_map.mpr ⟨p, hp, by rw [hdg]⟩
    obtain ⟨e1, e2⟩ := block_table hVv hVi hVm l3
    have hAsh : Arr.blockShapeD V.indices [c, c] = [(dims p).1, (dims p).2] := by
      unfold Arr.blockShapeD
      rw [hVi, (blockShape?_pair _ _ c c [(dims p).1, (dims p).2]).mpr
        ⟨(dims p).1, (dims p).2, e1, e2, rfl⟩]
      rfl
    have hbox : inBox (Arr.blockShapeD (without V.indices [1] ++ without V.daggerF.indices [0])
        (diagOf (sec p))) [t, t'] = true := by
      have hidx : without V.indices [1] ++ without V.daggerF.indices [0] = [J, J.conj] := by
        rw [hVi, hBi]; rfl
      rw [hidx, hdg]
      exact inBox_diag e1 (by rw [Index.conj_cm]; exact e1) ht ht'
    refine ⟨hbox, ?_⟩
    have hgc := G.gradedContract (p := p) hp (dims p).1 (dims p).2
      (by simp only [hc]; exact hAsh) t t'
    simp only [hc] at hgc
    rw [hdg, hgc, Lazy.sgnI_one]
    have hdgs : Lazy.dagSign V false [c, c] = 1 := by
      unfold Lazy.dagSign Lazy.conjGlob
      rw [P.od]
      simp [Arr.oddposDag]
    have hterm : ∀ j ∈ List.range (dims p).2,
        V.elem [c, c] [t, j] * V.daggerF.elem [c, c] [j, t']
          = (fB p).get [t, j] * Conj.conj ((fB p).get [t', j]) := by
      intro j hj'
      have hj'' := List.mem_range.mp hj'
      have hd : V.daggerF.elem [c, c] [j, t']
          = sgnI (Lazy.dagSign V false [c, c] * Lazy.phOf V.phases [c, c])
              ((((fB p).conjK).transposeK (Arr.reversedAxes V.ndim)).get [j, t']) :=
        daggerF_elem hsV hVm [j, t']
      rw [hd, elem_sgn hsV.sectors hVm, hVn, hdgs, Int.one_mul]
      have hrv : Arr.reversedAxes 2 = [1, 0] := rfl
      rw [hrv, transposeK10_get _ (by rw [conjK_shape]; exact l3) hj'' ht', conjK_get hc0,
        sgnI_mul_mul (hsV.phases.phOf _) (hsV.phases.phOf _)]
      rcases hsV.phases.phOf ([c, c] : Sector) with h | h <;> rw [h] <;> simp
    rw [List.map_congr_left hterm, sum_map_eq_foldl]
    congr 1
    unfold bondSign
    rw [hVi, P.sym, hi1]
    rfl
  exact entries_of_graded hz1 hz2 hAdm hVn hBn hm (fun p => diagOf (sec p)) (fun p => (dims p).1) _ hval

end right

end DecompP
end SymmModel
