/-
  SymmModel.Proofs.TwoStepInter — "several pairs at once or one after another" (C04): what is known
  about the intermediate `c = a ·_{xa~xb} b` (sectors, index tables, block shapes, leg directions at
  the positions of the remaining pairs) and about stored sector pairs aligned on all pairs.
  Namespace `SymmModel.TwoStepP`.
-/
import SymmModel.Proofs.TwoStepGeom
import SymmModel.Proofs.TwoStepOrder
import SymmModel.Proofs.Assoc3Frame

namespace SymmModel
namespace TwoStepP
open TdotP GradedP RoutesP AssocP KoszulP Assoc3P
open Lazy (sgnI)
set_option linter.unusedSectionVars false

variable {R : Type}

theorem aligned_split {α : Type} (z z' : List α) (xa ya xb yb : List Nat)
    (hxa : ∀ i ∈ xa, i < z.length) (hxb : ∀ i ∈ xb, i < z'.length) (hlx : xa.length = xb.length) :
    permuted z' (xb ++ yb) = permuted z (xa ++ ya)
      ↔ permuted z' xb = permuted z xa ∧ permuted z' yb = permuted z ya := by
  rw [permuted_append, permuted_append]
  constructor
  · intro h
    exact List.append_inj h (by
      rw [permuted_length _ _ hxb, permuted_length _ _ hxa, hlx])
  · rintro ⟨h1, h2⟩; rw [h1, h2]

section pair
variable {a b : Arr R} {xa xb ya yb : List Nat}

theorem shapes_y (W : AdmW a b (xa ++ ya) (xb ++ yb)) (hlx : xa.length = xb.length)
    {sa sb : Sector} (hsa : sa ∈ a.sectors) (hsb : sb ∈ b.sectors)
    (hal : permuted sb (xb ++ yb) = permuted sa (xa ++ ya)) :
    permuted (Arr.blockShapeD b.indices sb) yb = permuted (Arr.blockShapeD a.indices sa) ya := by
  have hA := Arr.shapesOk_of_validB W.va
  have hB := Arr.shapesOk_of_validB W.vb
  have h := shapes_match_w hA hB W.con W.ltA W.ltB sa hsa sb hsb hal
  obtain ⟨_, _, e1, l1, _⟩ := shape_of_mem hA hsa
  obtain ⟨_, _, e2, l2, _⟩ := shape_of_mem hB hsb
  exact ((aligned_split _ _ xa ya xb yb
    (by rw [e1, l1]; intro i hi; exact W.ltA i (List.mem_append_left _ hi))
    (by rw [e2, l2]; intro i hi; exact W.ltB i (List.mem_append_left _ hi)) hlx).mp h).2

end pair

theorem free_shape {a b : Arr R} (hsA : a.shapesOk) (hsB : b.shapesOk) {sa sb : Sector}
    (hsa : sa ∈ a.sectors) (hsb : sb ∈ b.sectors) (xa xb : List Nat) :
    Arr.blockShapeD (without a.indices xa ++ without b.indices xb)
        (permuted sa (freeAxes a.ndim xa) ++ permuted sb (freeAxes b.ndim xb))
      = permuted (Arr.blockShapeD a.indices sa) (freeAxes a.ndim xa)
        ++ permuted (Arr.blockShapeD b.indices sb) (freeAxes b.ndim xb) := by
  obtain ⟨shpA, hA1, hA2, _, _⟩ := shape_of_mem hsA hsa
  obtain ⟨shpB, hB1, hB2, _, _⟩ := shape_of_mem hsB hsb
  have e := blockShape?_append
    (blockShape?_permuted hA1 (freeAxes a.ndim xa) (fun x hx => (mem_freeAxes.mp hx).1))
    (blockShape?_permuted hB1 (freeAxes b.ndim xb) (fun x hx => (mem_freeAxes.mp hx).1))
  rw [Arr.blockShapeD, without_eq_permuted_freeAxes, without_eq_permuted_freeAxes, hA2, hB2]
  show (Arr.blockShape? (permuted a.indices (freeAxes a.ndim xa) ++ permuted b.indices (freeAxes b.ndim xb))
    (permuted sa (freeAxes a.ndim xa) ++ permuted sb (freeAxes b.ndim xb))).getD [] = _
  rw [e]
  rfl

section duals
variable [AddCommMonoid R] [Mul R] [Neg R] [SignRing R]
variable {a b c : Arr R} {xa xb ya yb : List Nat} {ph : Int}

theorem dual_PA (I : Inter a b xa xb c ph) (hA : Mid a.ndim xa ya) (i : Nat) (hi : i < ya.length) :
    (c.indices.getD ((tsPA a.ndim xa ya).getD i 0) default).dual
      = (a.indices.getD (ya.getD i 0) default).dual := by
  unfold tsPA
  rw [getD_map_of_lt _ _ _ 0 0 hi]
  obtain ⟨h1, h2⟩ := posIn_lt_get (hA.sub _ (getD_mem ya i 0 hi))
  have := (I.leg_left _ h1).1
  rw [this]
  congr 2
  rw [List.getD_eq_getElem?_getD, h2]; rfl

theorem dual_PB (I : Inter a b xa xb c ph) (hB : Mid b.ndim xb yb) (i : Nat) (hi : i < yb.length) :
    (c.indices.getD ((tsPB a.ndim b.ndim xa xb yb).getD i 0) default).dual
      = (b.indices.getD (yb.getD i 0) default).dual := by
  unfold tsPB
  rw [getD_map_of_lt _ _ _ 0 0 hi]
  obtain ⟨h1, h2⟩ := posIn_lt_get (hB.sub _ (getD_mem yb i 0 hi))
  have := (I.leg_right _ h1).1
  rw [this]
  congr 2
  rw [List.getD_eq_getElem?_getD, h2]; rfl

theorem dual_y (W : AdmW a b (xa ++ ya) (xb ++ yb)) (hlx : xa.length = xb.length) (i : Nat)
    (hi : i < ya.length) :
    (b.indices.getD (yb.getD i 0) default).dual = !(a.indices.getD (ya.getD i 0) default).dual := by
  have := (commonB_at W.con (xa.length + i) (by rw [List.length_append]; omega)).2
  have e1 : (xa ++ ya).getD (xa.length + i) 0 = ya.getD i 0 := by
    rw [List.getD_eq_getElem?_getD, List.getD_eq_getElem?_getD,
      List.getElem?_append_right (by omega)]
    congr 2; omega
  have e2 : (xb ++ yb).getD (xa.length + i) 0 = yb.getD i 0 := by
    rw [List.getD_eq_getElem?_getD, List.getD_eq_getElem?_getD,
      List.getElem?_append_right (by omega)]
    congr 2; omega
  rw [e1, e2] at this
  exact this

end duals

end TwoStepP
end SymmModel
