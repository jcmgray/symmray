/-
  SymmModel.Proofs.Net4M9 — each of the five routes with flags and modes (`routeSM1_pad` … `routeSM5_pad`) and all
  together (`k4_flagged_modes`; with all flags off, where the scalars need not commute: `k4_modes`).
-/
import SymmModel.Proofs.Net4M8

namespace SymmModel
namespace Net4P
open TdotP GradedP RoutesP KoszulP AssocP Assoc2P Assoc3P Assoc4P Assoc5P
set_option linter.unusedSectionVars false

variable {R : Type}

section
variable [AddCommMonoid R] [Mul R] [Neg R] [SignRing R] [AssocLaws R]
variable {A B C D : Arr R} {ab ac ad ba bc bd ca cb cd da db dc : List Nat}

/-- what is proved of each route: the plain blockwise left-nested route `r0` gives `T1`; the flagged
    blockwise route `rS` gives some `Uf` that is `Eqv` to `T1`; the route `rSM` with the same flags and
    any modes gives a zero-padded copy `Um` of `Uf`, valid and fermionic -/
def RoutePad (r0 rS rSM : Except Err (Arr R)) : Prop :=
  ∃ T1 Uf Um : Arr R, r0 = .ok T1 ∧ rS = .ok Uf ∧ Eqv Uf T1 ∧ rSM = .ok Um
    ∧ PadA Um Uf ∧ Um.validB = true ∧ Um.fermi = true

theorem routeSM1_pad (hz1 : ∀ x : R, 0 * x = 0) (hz2 : ∀ x : R, x * 0 = 0)
    (H : K4H A B C D ab ac ad ba bc bd ca cb cd da db dc) (f1 f2 f3 : Bool)
    (hmul : (f1 || f2 || f3) = true → ∀ x y : R, x * y = y * x) (m1 m2 m3 : TdotMode) :
    RoutePad (routeS1 A B C D ab ac ad ba bc bd ca cb cd da db dc false false false)
      (routeS1 A B C D ab ac ad ba bc bd ca cb cd da db dc f1 f2 f3)
      (routeSM1 A B C D ab ac ad ba bc bd ca cb cd da db dc f1 f2 f3 m1 m2 m3) := by
  obtain ⟨AB, BC, CD, ABC1, ABC2, BCD1, BCD2, T1, T2, T3, T4, T5, K⟩ := k4x H
  obtain ⟨ABf, ABm, a1, c1, s1, I1⟩ := Sim.step hz1 hz2 f1 (fun h => hmul (by simp [h])) m1
    (Sim.refl H.WAB.va) (Sim.refl H.WAB.vb) H.WAB K.h_ab H.WAB K.eAB
  obtain ⟨W2, W3, -⟩ := H.after_ab I1
  obtain ⟨ABCf, ABCm, a2, c2, s2, I2⟩ := Sim.step hz1 hz2 f2 (fun h => hmul (by simp [h])) m2
    s1 (Sim.refl H.WBC.vb) K.X.wABc K.h_ABc W2 K.eABC1
  obtain ⟨Uf, Um, a3, c3, s3, I3⟩ := Sim.step hz1 hz2 f3 (fun h => hmul (by simp [h])) m3
    s2 (Sim.refl H.WCD.vb) K.X.wT1 K.h_T1 (W3 I2) K.eT1
  exact ⟨T1, Uf, Um, K.routes.1, bind_bind_ok a1 a2 a3, s3.eqv.symm, bind_bind_ok c1 c2 c3, s3.pad,
    I3.valid, I3.fermi⟩

theorem routeSM2_pad (hz1 : ∀ x : R, 0 * x = 0) (hz2 : ∀ x : R, x * 0 = 0)
    (H : K4H A B C D ab ac ad ba bc bd ca cb cd da db dc) (f1 f2 f3 : Bool)
    (hmul : (f1 || f2 || f3) = true → ∀ x y : R, x * y = y * x) (m1 m2 m3 : TdotMode) :
    RoutePad (routeS1 A B C D ab ac ad ba bc bd ca cb cd da db dc false false false)
      (routeS2 A B C D ab ac ad ba bc bd ca cb cd da db dc f1 f2 f3)
      (routeSM2 A B C D ab ac ad ba bc bd ca cb cd da db dc f1 f2 f3 m1 m2 m3) := by
  obtain ⟨AB, BC, CD, ABC1, ABC2, BCD1, BCD2, T1, T2, T3, T4, T5, K⟩ := k4x H
  obtain ⟨BCf, BCm, a1, c1, s1, I1⟩ := Sim.step hz1 hz2 f1 (fun h => hmul (by simp [h])) m1
    (Sim.refl H.WBC.va) (Sim.refl H.WBC.vb) H.WBC K.h_bc H.WBC K.eBC
  obtain ⟨W2, -, W3, -⟩ := H.after_bc I1
  obtain ⟨ABCf, ABCm, a2, c2, s2, I2⟩ := Sim.step hz1 hz2 f2 (fun h => hmul (by simp [h])) m2
    (Sim.refl H.WAB.va) s1 K.X.waBC K.h_aBC W2 K.eABC2
  obtain ⟨Uf, Um, a3, c3, s3, I3⟩ := Sim.step hz1 hz2 f3 (fun h => hmul (by simp [h])) m3
    s2 (Sim.refl H.WCD.vb) K.X.wT2 K.h_T2 (W3 I2) K.eT2
  exact ⟨T1, Uf, Um, K.routes.1, bind_bind_ok a1 a2 a3, s3.eqv.symm.trans K.q2,
    bind_bind_ok c1 c2 c3, s3.pad, I3.valid, I3.fermi⟩

theorem routeSM3_pad (hz1 : ∀ x : R, 0 * x = 0) (hz2 : ∀ x : R, x * 0 = 0)
    (H : K4H A B C D ab ac ad ba bc bd ca cb cd da db dc) (f1 f2 f3 : Bool)
    (hmul : (f1 || f2 || f3) = true → ∀ x y : R, x * y = y * x) (m1 m2 m3 : TdotMode) :
    RoutePad (routeS1 A B C D ab ac ad ba bc bd ca cb cd da db dc false false false)
      (routeS3 A B C D ab ac ad ba bc bd ca cb cd da db dc f1 f2 f3)
      (routeSM3 A B C D ab ac ad ba bc bd ca cb cd da db dc f1 f2 f3 m1 m2 m3) := by
  obtain ⟨AB, BC, CD, ABC1, ABC2, BCD1, BCD2, T1, T2, T3, T4, T5, K⟩ := k4x H
  obtain ⟨ABf, ABm, a1, c1, s1, I1⟩ := Sim.step hz1 hz2 f1 (fun h => hmul (by simp [h])) m1
    (Sim.refl H.WAB.va) (Sim.refl H.WAB.vb) H.WAB K.h_ab H.WAB K.eAB
  obtain ⟨CDf, CDm, a2, c2, s2, I2⟩ := Sim.step hz1 hz2 f2 (fun h => hmul (by simp [h])) m2
    (Sim.refl H.WCD.va) (Sim.refl H.WCD.vb) H.WCD K.h_cd H.WCD K.eCD
  obtain ⟨-, -, W3⟩ := H.after_ab I1
  obtain ⟨Uf, Um, a3, c3, s3, I3⟩ := Sim.step hz1 hz2 f3 (fun h => hmul (by simp [h])) m3
    s1 s2 K.X.wT3 K.h_T3 (W3 I2) K.eT3
  exact ⟨T1, Uf, Um, K.routes.1, bind_bind_ok a1 a2 a3, s3.eqv.symm.trans K.q3,
    bind_bind_ok c1 c2 c3, s3.pad, I3.valid, I3.fermi⟩

theorem routeSM4_pad (hz1 : ∀ x : R, 0 * x = 0) (hz2 : ∀ x : R, x * 0 = 0)
    (H : K4H A B C D ab ac ad ba bc bd ca cb cd da db dc) (f1 f2 f3 : Bool)
    (hmul : (f1 || f2 || f3) = true → ∀ x y : R, x * y = y * x) (m1 m2 m3 : TdotMode) :
    RoutePad (routeS1 A B C D ab ac ad ba bc bd ca cb cd da db dc false false false)
      (routeS4 A B C D ab ac ad ba bc bd ca cb cd da db dc f1 f2 f3)
      (routeSM4 A B C D ab ac ad ba bc bd ca cb cd da db dc f1 f2 f3 m1 m2 m3) := by
  obtain ⟨AB, BC, CD, ABC1, ABC2, BCD1, BCD2, T1, T2, T3, T4, T5, K⟩ := k4x H
  obtain ⟨BCf, BCm, a1, c1, s1, I1⟩ := Sim.step hz1 hz2 f1 (fun h => hmul (by simp [h])) m1
    (Sim.refl H.WBC.va) (Sim.refl H.WBC.vb) H.WBC K.h_bc H.WBC K.eBC
  obtain ⟨-, W2, -, W3⟩ := H.after_bc I1
  obtain ⟨BCDf, BCDm, a2, c2, s2, I2⟩ := Sim.step hz1 hz2 f2 (fun h => hmul (by simp [h])) m2
    s1 (Sim.refl H.WCD.vb) K.X.wBCd K.h_BCd W2 K.eBCD1
  obtain ⟨Uf, Um, a3, c3, s3, I3⟩ := Sim.step hz1 hz2 f3 (fun h => hmul (by simp [h])) m3
    (Sim.refl H.WAB.va) s2 K.X.wT4 K.h_T4 (W3 I2) K.eT4
  exact ⟨T1, Uf, Um, K.routes.1, bind_bind_ok a1 a2 a3, s3.eqv.symm.trans K.q4,
    bind_bind_ok c1 c2 c3, s3.pad, I3.valid, I3.fermi⟩

theorem routeSM5_pad (hz1 : ∀ x : R, 0 * x = 0) (hz2 : ∀ x : R, x * 0 = 0)
    (H : K4H A B C D ab ac ad ba bc bd ca cb cd da db dc) (f1 f2 f3 : Bool)
    (hmul : (f1 || f2 || f3) = true → ∀ x y : R, x * y = y * x) (m1 m2 m3 : TdotMode) :
    RoutePad (routeS1 A B C D ab ac ad ba bc bd ca cb cd da db dc false false false)
      (routeS5 A B C D ab ac ad ba bc bd ca cb cd da db dc f1 f2 f3)
      (routeSM5 A B C D ab ac ad ba bc bd ca cb cd da db dc f1 f2 f3 m1 m2 m3) := by
  obtain ⟨AB, BC, CD, ABC1, ABC2, BCD1, BCD2, T1, T2, T3, T4, T5, K⟩ := k4x H
  obtain ⟨CDf, CDm, a1, c1, s1, I1⟩ := Sim.step hz1 hz2 f1 (fun h => hmul (by simp [h])) m1
    (Sim.refl H.WCD.va) (Sim.refl H.WCD.vb) H.WCD K.h_cd H.WCD K.eCD
  obtain ⟨W2, W3⟩ := H.after_cd I1
  obtain ⟨BCDf, BCDm, a2, c2, s2, I2⟩ := Sim.step hz1 hz2 f2 (fun h => hmul (by simp [h])) m2
    (Sim.refl H.WBC.va) s1 K.X.wbCD K.h_bCD W2 K.eBCD2
  obtain ⟨Uf, Um, a3, c3, s3, I3⟩ := Sim.step hz1 hz2 f3 (fun h => hmul (by simp [h])) m3
    (Sim.refl H.WAB.va) s2 K.X.wT5 K.h_T5 (W3 I2) K.eT5
  exact ⟨T1, Uf, Um, K.routes.1, bind_bind_ok a1 a2 a3, s3.eqv.symm.trans K.q5,
    bind_bind_ok c1 c2 c3, s3.pad, I3.valid, I3.fermi⟩

theorem k4_modes (hz1 : ∀ x : R, 0 * x = 0) (hz2 : ∀ x : R, x * 0 = 0)
    (H : K4H A B C D ab ac ad ba bc bd ca cb cd da db dc) (m : Fin 15 → TdotMode) :
    ∃ T1 T2 T3 T4 T5 U1 U2 U3 U4 U5 : Arr R,
      routeS1 A B C D ab ac ad ba bc bd ca cb cd da db dc false false false = .ok T1
      ∧ routeS2 A B C D ab ac ad ba bc bd ca cb cd da db dc false false false = .ok T2
      ∧ routeS3 A B C D ab ac ad ba bc bd ca cb cd da db dc false false false = .ok T3
      ∧ routeS4 A B C D ab ac ad ba bc bd ca cb cd da db dc false false false = .ok T4
      ∧ routeS5 A B C D ab ac ad ba bc bd ca cb cd da db dc false false false = .ok T5
      ∧ routeM1 A B C D ab ac ad ba bc bd ca cb cd da db dc (m 0) (m 1) (m 2) = .ok U1
      ∧ routeM2 A B C D ab ac ad ba bc bd ca cb cd da db dc (m 3) (m 4) (m 5) = .ok U2
      ∧ routeM3 A B C D ab ac ad ba bc bd ca cb cd da db dc (m 6) (m 7) (m 8) = .ok U3
      ∧ routeM4 A B C D ab ac ad ba bc bd ca cb cd da db dc (m 9) (m 10) (m 11) = .ok U4
      ∧ routeM5 A B C D ab ac ad ba bc bd ca cb cd da db dc (m 12) (m 13) (m 14) = .ok U5
      ∧ PadA U1 T1 ∧ PadA U2 T2 ∧ PadA U3 T3 ∧ PadA U4 T4 ∧ PadA U5 T5
      ∧ (∀ U ∈ [U1, U2, U3, U4, U5], U.validB = true ∧ U.fermi = true) := by
  -- with all flags off `routeSM1 … routeSM5` are `routeM1 … routeM5` by definition (`routeSM_unflagged`)
  obtain ⟨_, T1, U1, _, a1, _, b1, p1, v1, f1⟩ :=
    routeSM1_pad hz1 hz2 H false false false (fun h => nomatch h) (m 0) (m 1) (m 2)
  obtain ⟨_, T2, U2, _, a2, _, b2, p2, v2, f2⟩ :=
    routeSM2_pad hz1 hz2 H false false false (fun h => nomatch h) (m 3) (m 4) (m 5)
  obtain ⟨_, T3, U3, _, a3, _, b3, p3, v3, f3⟩ :=
    routeSM3_pad hz1 hz2 H false false false (fun h => nomatch h) (m 6) (m 7) (m 8)
  obtain ⟨_, T4, U4, _, a4, _, b4, p4, v4, f4⟩ :=
    routeSM4_pad hz1 hz2 H false false false (fun h => nomatch h) (m 9) (m 10) (m 11)
  obtain ⟨_, T5, U5, _, a5, _, b5, p5, v5, f5⟩ :=
    routeSM5_pad hz1 hz2 H false false false (fun h => nomatch h) (m 12) (m 13) (m 14)
  refine ⟨T1, T2, T3, T4, T5, U1, U2, U3, U4, U5, a1, a2, a3, a4, a5, b1, b2, b3, b4, b5, p1, p2, p3,
    p4, p5, ?_⟩
  intro U hU
  simp only [List.mem_cons, List.not_mem_nil, or_false] at hU
  rcases hU with rfl | rfl | rfl | rfl | rfl
  · exact ⟨v1, f1⟩
  · exact ⟨v2, f2⟩
  · exact ⟨v3, f3⟩
  · exact ⟨v4, f4⟩
  · exact ⟨v5, f5⟩

theorem k4_flagged_modes (hmul : ∀ x y : R, x * y = y * x) (hz1 : ∀ x : R, 0 * x = 0)
    (hz2 : ∀ x : R, x * 0 = 0) (H : K4H A B C D ab ac ad ba bc bd ca cb cd da db dc)
    (f : Fin 15 → Bool) (m : Fin 15 → TdotMode) :
    ∃ T1 U1 U2 U3 U4 U5 : Arr R,
      routeS1 A B C D ab ac ad ba bc bd ca cb cd da db dc false false false = .ok T1
      ∧ routeSM1 A B C D ab ac ad ba bc bd ca cb cd da db dc (f 0) (f 1) (f 2) (m 0) (m 1) (m 2) = .ok U1
      ∧ routeSM2 A B C D ab ac ad ba bc bd ca cb cd da db dc (f 3) (f 4) (f 5) (m 3) (m 4) (m 5) = .ok U2
      ∧ routeSM3 A B C D ab ac ad ba bc bd ca cb cd da db dc (f 6) (f 7) (f 8) (m 6) (m 7) (m 8) = .ok U3
      ∧ routeSM4 A B C D ab ac ad ba bc bd ca cb cd da db dc (f 9) (f 10) (f 11) (m 9) (m 10) (m 11)
          = .ok U4
      ∧ routeSM5 A B C D ab ac ad ba bc bd ca cb cd da db dc (f 12) (f 13) (f 14) (m 12) (m 13) (m 14)
          = .ok U5
      ∧ ZeroPad U1 T1 ∧ ZeroPad U2 T1 ∧ ZeroPad U3 T1 ∧ ZeroPad U4 T1 ∧ ZeroPad U5 T1 := by
  obtain ⟨T1, F1, U1, r1, _, e1, c1, p1, v1, g1⟩ := routeSM1_pad hz1 hz2 H (f 0) (f 1) (f 2)
    (fun _ => hmul) (m 0) (m 1) (m 2)
  obtain ⟨T1', F2, U2, r2, _, e2, c2, p2, v2, g2⟩ := routeSM2_pad hz1 hz2 H (f 3) (f 4) (f 5)
    (fun _ => hmul) (m 3) (m 4) (m 5)
  obtain rfl : T1 = T1' := Except.ok.inj (r1.symm.trans r2)
  obtain ⟨T1', F3, U3, r3, _, e3, c3, p3, v3, g3⟩ := routeSM3_pad hz1 hz2 H (f 6) (f 7) (f 8)
    (fun _ => hmul) (m 6) (m 7) (m 8)
  obtain rfl : T1 = T1' := Except.ok.inj (r1.symm.trans r3)
  obtain ⟨T1', F4, U4, r4, _, e4, c4, p4, v4, g4⟩ := routeSM4_pad hz1 hz2 H (f 9) (f 10) (f 11)
    (fun _ => hmul) (m 9) (m 10) (m 11)
  obtain rfl : T1 = T1' := Except.ok.inj (r1.symm.trans r4)
  obtain ⟨T1', F5, U5, r5, _, e5, c5, p5, v5, g5⟩ := routeSM5_pad hz1 hz2 H (f 12) (f 13) (f 14)
    (fun _ => hmul) (m 12) (m 13) (m 14)
  obtain rfl : T1 = T1' := Except.ok.inj (r1.symm.trans r5)
  exact ⟨T1, U1, U2, U3, U4, U5, r1, c1, c2, c3, c4, c5, zeroPad_of p1 v1 g1 e1, zeroPad_of p2 v2 g2 e2,
    zeroPad_of p3 v3 g3 e3, zeroPad_of p4 v4 g4 e4, zeroPad_of p5 v5 g5 e5⟩

end

section
variable [AddCommMonoid R] [Mul R] [Neg R] [SignRing R]

theorem padA_of_zeroPad {U T : Arr R} (z : ZeroPad U T) (vT : T.validB = true) : PadA U T := by
  refine ⟨⟨z.sym, z.ndim, z.dual, allDistinct_iff_nodup.mp (Arr.allDistinct_of_validB z.valid),
    allDistinct_iff_nodup.mp (Arr.allDistinct_of_validB vT), z.sub, Arr.shapesOk_of_validB z.valid,
    Arr.shapesOk_of_validB vT, z.shape, ?_⟩, z.oddpos, z.charge⟩
  intro s hs o ho
  by_cases hq : s ∈ T.sectors
  · exact z.elem s hq o (by rw [← z.shape s hq]; exact ho)
  · rw [z.zero s hq o ho, Arr.elem_of_not_mem hq]

theorem zeroPad_teq {U T T0 : Arr R} (z : ZeroPad U T) (vT : T.validB = true) (fT : T.fermi = true)
    (t : TEq T T0) : ∃ P, Arr.isPerm P U.ndim = true ∧ ZeroPad (U.transposeF P) T0 := by
  obtain ⟨P, hP, e⟩ := t
  have hPU : Arr.isPerm P U.ndim = true := by rw [z.ndim]; exact hP
  have p := padA_transposeF (padA_of_zeroPad z vT) z.valid z.fermi vT fT P hPU
  exact ⟨P, hPU, zeroPad_of p (transposeF_validB U P z.valid z.fermi hPU) z.fermi e⟩

end

end Net4P
end SymmModel
