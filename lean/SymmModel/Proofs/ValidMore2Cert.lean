/-
  SymmModel.Proofs.ValidMore2Cert — the plan CERTIFICATE `C07.Plan.wfB` (the decidable check the
  harness's plan monitor evaluates on real runs) implies the RUNTIME guard `planAdmissibleB` of
  ValidMore2Reshape.lean, hence `AbelianArray.reshape` / `FermionicArray.reshape` return valid
  arrays whenever the planner's plan is certified (property C01).

  Method: simulation.  The symbolic state `st : C07.SymShape` of the certificate is related to
  the actual array `x` by `Sim st x`: same number of axes, and every axis that the symbolic state
  records as fused with `k` sub-sizes is, in `x`, an index with sub-index information of `k`
  sub-indices.  `Sim` is preserved by `unfuse` / `fuse` / `expand_dims` in lock-step with
  `symUnfuse` / `symFuse` / `symExpand`, for abelian and for fermionic arrays, and a successful
  `symFuse st groups` with `st.length = x.ndim` makes `groups` admissible for `x`.

  A plan is run in lock-step on the symbolic shape and on the array (`foldlM_lockstep`,
  `applyPlan_lockstep`: any invariant and any reflexive, transitive relation between the arrays
  that each step maintains); the simulation and the value theorems of Proofs/ReshapeMore.lean
  and Proofs/Reshape3j.lean are instances.
-/
import SymmModel.Proofs.ValidMore2Reshape
import SymmModel.Proofs.ValidTdotFused
import SymmModel.Proofs.C07

namespace SymmModel
open C07

variable {R : Type}

theorem foldlM_lockstep {α : Type} {I : SymShape → Arr R → Prop} {Rel : Arr R → Arr R → Prop}
    (hrefl : ∀ x, Rel x x) (htrans : ∀ {x y z}, Rel x y → Rel y z → Rel x z)
    {fs : SymShape → α → Option SymShape} {f : Arr R → α → Except Err (Arr R)}
    (hstep : ∀ st st' x x' e, I st x → fs st e = some st' → f x e = .ok x' → I st' x' ∧ Rel x x')
    (l : List α) {st st' : SymShape} {x y : Arr R} (hs : I st x)
    (hsym : foldOpt fs l st = some st') (h : l.foldlM f x = .ok y) : I st' y ∧ Rel x y := by
  induction l generalizing x st with
  | nil =>
    simp only [foldOpt, Option.some.injEq] at hsym
    simp only [List.foldlM_nil, pure, Except.pure, Except.ok.injEq] at h
    subst hsym h
    exact ⟨hs, hrefl _⟩
  | cons e l ih =>
    unfold foldOpt at hsym
    split at hsym
    · rename_i st1 hst1
      rw [List.foldlM_cons] at h
      obtain ⟨x1, hx1, h⟩ := bind_ok h
      obtain ⟨hs1, hc1⟩ := hstep st st1 x x1 e hs hst1 hx1
      obtain ⟨hs2, hc2⟩ := ih hs1 hsym h
      exact ⟨hs2, htrans hc1 hc2⟩
    · cases hsym

theorem applyPlan_lockstep [Zero R] [Neg R] {I : SymShape → Arr R → Prop} {Rel : Arr R → Arr R → Prop}
    (hrefl : ∀ x, Rel x x) (htrans : ∀ {x y z}, Rel x y → Rel y z → Rel x z)
    (hU : ∀ st st' x x' ax, I st x → symUnfuse st ax = some st' → unfuseDispatch x ax = .ok x' →
      I st' x' ∧ Rel x x')
    (hF : ∀ st st' x x' g, I st x → symFuse st g = some st' → fuseDispatch x g = .ok x' →
      I st' x' ∧ Rel x x')
    (hE : ∀ st st' x x' ax, I st x → symExpand st ax = some st' → expandDispatch x ax = .ok x' →
      I st' x' ∧ Rel x x')
    {a r : Arr R} {t : List Nat × List (List (List Nat)) × List Nat} {st st' : SymShape} (h0 : I st a)
    (hexec : (Plan.ofTriple t).exec st = some st') (h : applyPlan a t = .ok r) : I st' r ∧ Rel a r := by
  unfold Plan.exec at hexec
  split at hexec
  · cases hexec
  · rename_i s1 h1
    split at hexec
    · cases hexec
    · rename_i s2 h2
      unfold applyPlan at h
      obtain ⟨x1, hx1, h⟩ := bind_ok h
      obtain ⟨x2, hx2, h⟩ := bind_ok h
      obtain ⟨i1, c1⟩ := foldlM_lockstep hrefl htrans hU t.1 h0 h1 hx1
      obtain ⟨i2, c2⟩ := foldlM_lockstep hrefl htrans hF t.2.1 i1 h2 hx2
      obtain ⟨i3, c3⟩ := foldlM_lockstep hrefl htrans hE t.2.2 i2 hexec h
      exact ⟨i3, htrans (htrans c1 c2) c3⟩

end SymmModel

namespace SymmModel
namespace ValidP
open Sym C07

variable {R : Type}

/-- a symbolic axis `(size, sub-sizes?)` is matched by an index: when the symbolic axis is fused
    with sub-sizes `subs`, the index is fused with as many sub-indices -/
def SimRel (e : Nat × Option (List Nat)) (ix : Index) : Prop :=
  ∀ subs, e.2 = some subs →
    ∃ subIdx exts, ix.sub = some (subIdx, exts) ∧ subIdx.length = subs.length

def SimI (st : SymShape) (idx : List Index) : Prop := List.Forall₂ SimRel st idx

def Sim (st : SymShape) (x : Arr R) : Prop := SimI st x.indices

theorem SimI.length_eq {st : SymShape} {idx : List Index} (h : SimI st idx) :
    st.length = idx.length := List.Forall₂.length_eq h

theorem Sim.ndim_eq {st : SymShape} {x : Arr R} (h : Sim st x) : st.length = x.ndim :=
  List.Forall₂.length_eq h

theorem sim_iff (st : SymShape) (x : Arr R) :
    Sim st x ↔ st.length = x.ndim ∧ ∀ (ax sz : Nat) (subs : List Nat),
      st[ax]? = some (sz, some subs) →
      ∃ (ix : Index) (subIdx : List Index) (exts : Extents),
        x.indices[ax]? = some ix ∧ ix.sub = some (subIdx, exts)
        ∧ subIdx.length = subs.length := by
  unfold Sim SimI Arr.ndim
  rw [List.forall₂_iff_get]
  constructor
  · rintro ⟨hl, h⟩
    refine ⟨hl, fun ax sz subs hax => ?_⟩
    obtain ⟨h1, e1⟩ := List.getElem?_eq_some_iff.mp hax
    have h2 : ax < x.indices.length := hl ▸ h1
    obtain ⟨subIdx, exts, q1, q2⟩ := h ax h1 h2 subs (by simp [e1])
    exact ⟨x.indices[ax], subIdx, exts, List.getElem?_eq_getElem h2, q1, q2⟩
  · rintro ⟨hl, h⟩
    refine ⟨hl, fun i h1 h2 subs hs => ?_⟩
    obtain ⟨ix, subIdx, exts, q0, q1, q2⟩ := h i (st[i]).1 subs (by
      rw [List.getElem?_eq_getElem h1]
      simp only [List.get_eq_getElem] at hs
      rw [← hs])
    rw [List.getElem?_eq_getElem h2] at q0
    simp only [Option.some.injEq] at q0
    simp only [List.get_eq_getElem]
    rw [q0]
    exact ⟨subIdx, exts, q1, q2⟩

theorem forall₂_of_length_eq {α β : Type} {Q : α → β → Prop} (hq : ∀ a b, Q a b) :
    ∀ {l : List α} {r : List β}, l.length = r.length → List.Forall₂ Q l r
  | [], [], _ => .nil
  | [], _ :: _, h => by simp at h
  | _ :: _, [], h => by simp at h
  | a :: l, b :: r, h => .cons (hq a b) (forall₂_of_length_eq hq (by simpa using h))

theorem forall₂_map_zipIdx {α β γ : Type} {Q : β → γ → Prop} (f : α → β) (g : α × Nat → γ) :
    ∀ (l : List α) (k : Nat), (∀ a ∈ l, ∀ i, Q (f a) (g (a, i))) →
      List.Forall₂ Q (l.map f) ((l.zipIdx k).map g)
  | [], _, _ => .nil
  | a :: l, k, h => by
    rw [List.zipIdx_cons, List.map_cons, List.map_cons]
    exact .cons (h a (by simp) k)
      (forall₂_map_zipIdx f g l (k + 1) (fun b hb i => h b (by simp [hb]) i))

theorem foldl_min_of_le (l : List Nat) (init : Nat) (h : ∀ x ∈ l, init ≤ x) :
    l.foldl min init = init := by
  induction l with
  | nil => rfl
  | cons a as ih =>
    rw [List.foldl_cons, Nat.min_eq_left (h a (by simp))]
    exact ih (fun x hx => h x (by simp [hx]))

theorem range_split (N p n : Nat) (h : p + n ≤ N) :
    List.range N = List.range p ++ List.range' p n ++ List.range' (p + n) (N - (p + n)) := by
  rw [List.range_eq_range', List.range_eq_range']
  have e1 := List.range'_append (s := 0) (m := p) (n := n) (step := 1)
  have e2 := List.range'_append (s := 0) (m := p + n) (n := N - (p + n)) (step := 1)
  simp only [Nat.one_mul, Nat.zero_add] at e1 e2
  rw [e1, e2]
  congr 1; omega

theorem range'_eq_drop_range (N m : Nat) : List.range' m (N - m) = (List.range N).drop m := by
  apply List.ext_getElem
  · simp
  · intro i h1 h2
    simp

theorem simI_init (idx : List Index) :
    SimI ((idx.map Index.sizeTotal).zip
      (idx.map (fun ix => ix.sub.map (fun s => s.1.map Index.sizeTotal)))) idx := by
  induction idx with
  | nil => exact .nil
  | cons ix rest ih =>
    refine .cons ?_ ih
    intro subs hs
    cases hsub : ix.sub with
    | none => simp [hsub] at hs
    | some s =>
      obtain ⟨subIdx, exts⟩ := s
      refine ⟨subIdx, exts, rfl, ?_⟩
      simp only [hsub, Option.map_some, Option.some.injEq] at hs
      subst hs; simp

theorem sim_init (a : Arr R) : Sim (a.shape.zip a.subsizes) a := simI_init a.indices

theorem simI_unfuse {st st' : SymShape} {idx : List Index} {ax : Nat} {ix : Index}
    {subIdx : List Index} {exts : Extents}
    (hs : SimI st idx) (hu : symUnfuse st ax = some st') (hix : idx[ax]? = some ix)
    (hsub : ix.sub = some (subIdx, exts)) : SimI st' (replaceWithSeq idx ax subIdx) := by
  unfold symUnfuse at hu
  split at hu
  · rename_i d subs hst
    simp only [Option.some.injEq] at hu
    subst hu
    obtain ⟨subIdx', exts', q1, q2⟩ := forall₂_getElem? hs hst hix subs rfl
    rw [hsub] at q1
    simp only [Option.some.injEq, Prod.mk.injEq] at q1
    obtain ⟨rfl, rfl⟩ := q1
    unfold replaceWithSeq
    refine List.rel_append (List.rel_append (List.forall₂_take ax hs) ?_)
      (List.forall₂_drop (ax + 1) hs)
    rw [List.forall₂_map_left_iff]
    exact forall₂_of_length_eq (fun _ _ subs h => by cases h) q2.symm
  · cases hu

theorem unfuseA_indices [Zero R] {a r : Arr R} {axis : Nat} (h : unfuseA a axis = .ok r) :
    ∃ ix subIdx exts, a.indices[axis]? = some ix ∧ ix.sub = some (subIdx, exts)
      ∧ r.indices = replaceWithSeq a.indices axis subIdx := by
  obtain ⟨ix, subIdx, exts, _, hix, hs, _, rfl⟩ := unfuseA_ok h
  exact ⟨ix, subIdx, exts, hix, hs, rfl⟩

theorem unfuseF_indices [Zero R] [Neg R] {a r : Arr R} {axis : Nat}
    (h : Arr.unfuseF a axis = .ok r) :
    ∃ ix subIdx exts, a.indices[axis]? = some ix ∧ ix.sub = some (subIdx, exts)
      ∧ r.indices = replaceWithSeq a.indices axis subIdx ∧ r.fermi = a.fermi := by
  obtain ⟨new, hnew, hr⟩ := unfuseF_ok h
  obtain ⟨ix, subIdx, exts, q1, q2, q3⟩ := unfuseA_indices hnew
  have hf : new.fermi = a.fermi := (unfuseA_fields hnew).2.1
  refine ⟨ix, subIdx, exts, q1, q2, ?_⟩
  rcases hr with rfl | ⟨axesFlip, vperm, rfl⟩
  · exact ⟨q3, hf⟩
  · refine ⟨?_, ?_⟩
    · rw [(phaseTranspose_fields _ _).2, (phaseFlip_fields new _).1]; exact q3
    · rw [(phaseTranspose_fields _ _).1, (phaseFlip_fields new _).2.2.2.2]; exact hf

theorem unfuseDispatch_sim [Zero R] [Neg R] {st st' : SymShape} {x x' : Arr R} {ax : Nat}
    (hs : Sim st x) (hu : symUnfuse st ax = some st') (h : unfuseDispatch x ax = .ok x') :
    Sim st' x' ∧ x'.fermi = x.fermi := by
  unfold unfuseDispatch at h
  split at h
  · obtain ⟨ix, subIdx, exts, q1, q2, q3, q4⟩ := unfuseF_indices h
    exact ⟨by unfold Sim; rw [q3]; exact simI_unfuse hs hu q1 q2, q4⟩
  · obtain ⟨ix, subIdx, exts, q1, q2, q3⟩ := unfuseA_indices h
    exact ⟨by unfold Sim; rw [q3]; exact simI_unfuse hs hu q1 q2, (unfuseA_fields h).2.1⟩

theorem symFuse_some {st st' : SymShape} {groups : List (List Nat)}
    (h : symFuse st groups = some st') :
    ∃ p n, 0 < n ∧ groups.flatten = List.range' p n ∧ groups.all (fun g => !g.isEmpty) = true
      ∧ p + n ≤ st.length
      ∧ st' = st.take p ++ groups.map (symGroup st) ++ st.drop (p + n) := by
  unfold symFuse at h
  simp only at h
  split at h
  · cases h
  · rename_i p tl hflat
    split at h
    · rename_i hc
      simp only [Bool.and_eq_true] at hc
      obtain ⟨⟨hne, hr⟩, hle⟩ := hc
      simp only [Option.some.injEq] at h
      refine ⟨p, groups.flatten.length, ?_, beqNats_iff.mp hr, hne, Nat.le_of_ble_eq_true hle,
        h.symm⟩
      rw [hflat]; simp
    · cases h

theorem fuseAdmissible_of_range' {groups : List (List Nat)} {p n N : Nat}
    (hf : groups.flatten = List.range' p n) (h : p + n ≤ N) :
    fuseAdmissibleB groups N = true := by
  unfold fuseAdmissibleB
  rw [hf]
  simp only [Bool.and_eq_true, allDistinct_iff_nodup, List.all_eq_true, decide_eq_true_eq]
  refine ⟨List.nodup_range', fun ax hax => ?_⟩
  have := (List.mem_range'_1.mp hax).2
  omega

theorem fuseAdmissible_of_symFuse {st st' : SymShape} {groups : List (List Nat)} {N : Nat}
    (h : symFuse st groups = some st') (hN : st.length = N) :
    fuseAdmissibleB groups N = true := by
  obtain ⟨p, n, _, hf, _, hle, _⟩ := symFuse_some h
  exact fuseAdmissible_of_range' hf (hN ▸ hle)

theorem groupInfo_consecutive {groups : List (List Nat)} {duals : List Bool} {p n : Nat}
    (hf : groups.flatten = List.range' p n) (hn : 0 < n) (hle : p + n ≤ duals.length) :
    (calcFuseGroupInfo groups duals).axesBefore = List.range p
    ∧ (calcFuseGroupInfo groups duals).axesAfter
        = List.range' (p + n) (duals.length - (p + n))
    ∧ (calcFuseGroupInfo groups duals).perm = List.range duals.length := by
  have hpos : (calcFuseGroupInfo groups duals).position = p := by
    show groups.flatten.foldl min (groups.flatten.headD 0) = p
    rw [hf]
    obtain ⟨m, rfl⟩ : ∃ m, n = m + 1 := ⟨n - 1, by omega⟩
    rw [List.range'_succ, List.headD_cons, List.foldl_cons, Nat.min_self]
    exact foldl_min_of_le _ _ (fun x hx => by have := (List.mem_range'_1.mp hx).1; omega)
  have hb : (calcFuseGroupInfo groups duals).axesBefore = List.range p := by
    rw [FuseP.axesBefore_range, hpos]
  have ha : (calcFuseGroupInfo groups duals).axesAfter
      = List.range' (p + n) (duals.length - (p + n)) := by
    show List.filter (fun ax => !groups.flatten.contains ax)
      (List.filter (fun ax => decide ((calcFuseGroupInfo groups duals).position ≤ ax))
        (List.range duals.length)) = _
    rw [hpos, hf, range_split duals.length p n hle]
    simp only [List.filter_append]
    have e1 : List.filter (fun ax => decide (p ≤ ax)) (List.range p) = [] := by
      rw [List.filter_eq_nil_iff]
      intro a ha
      have := List.mem_range.mp ha
      simp only [decide_eq_true_eq]; omega
    have e2 : List.filter (fun ax => !(List.range' p n).contains ax)
        (List.filter (fun ax => decide (p ≤ ax)) (List.range' p n)) = [] := by
      rw [List.filter_eq_nil_iff]
      intro a ha
      have := (List.mem_filter.mp ha).1
      simp only [Bool.not_eq_true, Bool.not_eq_false', List.contains_iff_mem]
      exact this
    have e3 : List.filter (fun ax => decide (p ≤ ax))
        (List.range' (p + n) (duals.length - (p + n)))
        = List.range' (p + n) (duals.length - (p + n)) := by
      rw [List.filter_eq_self]
      intro a ha
      have := (List.mem_range'_1.mp ha).1
      simp only [decide_eq_true_eq]; omega
    have e4 : List.filter (fun ax => !(List.range' p n).contains ax)
        (List.range' (p + n) (duals.length - (p + n)))
        = List.range' (p + n) (duals.length - (p + n)) := by
      rw [List.filter_eq_self]
      intro a ha
      have h1 := (List.mem_range'_1.mp ha).1
      simp only [Bool.not_eq_true', ← Bool.not_eq_true, List.contains_iff_mem]
      intro hm
      have := (List.mem_range'_1.mp hm).2
      omega
    rw [e1, e3, e4]
    simp only [List.filter_nil, List.nil_append]
    rw [e2, List.nil_append]
  refine ⟨hb, ha, ?_⟩
  show (calcFuseGroupInfo groups duals).axesBefore ++ groups.flatten
    ++ (calcFuseGroupInfo groups duals).axesAfter = _
  rw [hb, ha, hf, ← range_split duals.length p n hle]

theorem symGroup_rel {st : SymShape} {x : Arr R} (hs : Sim st x) (gi : FuseGroupInfo)
    (blockmap : List (Sector × BlockPlan)) (g : List Nat) (i : Nat)
    (hg : ∀ ax ∈ g, ax < st.length) :
    SimRel (symGroup st g) (fuseMidIndex x gi blockmap (g, i)) := by
  have multi : g.length ≠ 1 →
      SimRel (prod (g.map (fun ax => (st.getD ax (0, none)).1)),
              some (g.map (fun ax => (st.getD ax (0, none)).1)))
        (fuseMidIndex x gi blockmap (g, i)) := by
    intro hl subs hsubs
    simp only [Option.some.injEq] at hsubs
    subst hsubs
    unfold fuseMidIndex
    simp only [beq_iff_eq, hl, if_false]
    generalize accumExtents _ = r
    obtain ⟨c, e⟩ := r
    exact ⟨_, e, rfl, by simp⟩
  match g, hg, multi with
  | [], _, multi => exact multi (by simp)
  | [ax], hg, _ =>
    show SimRel (st.getD ax (0, none)) (fuseMidIndex x gi blockmap ([ax], i))
    unfold fuseMidIndex
    simp only [List.length_cons, List.length_nil, Nat.zero_add, beq_self_eq_true, if_true,
      List.headD_cons]
    exact forall₂_getD hs _ (hg ax (by simp)) _ _
  | a :: b :: rest, _, multi => exact multi (by simp)

theorem fuseCore_sim [Zero R] {st : SymShape} {x r : Arr R} {groups : List (List Nat)}
    {mode : FuseMode} {p n : Nat} (hs : Sim st x) (hf : groups.flatten = List.range' p n)
    (hn : 0 < n) (hle : p + n ≤ st.length) (h : fuseCore x groups mode = .ok r) :
    Sim (st.take p ++ groups.map (symGroup st) ++ st.drop (p + n)) r := by
  obtain ⟨blockmap, hidx⟩ := fuseCore_indices h
  have hlen : x.duals.length = x.indices.length := by simp [Arr.duals]
  have hst : st.length = x.indices.length := hs.length_eq
  obtain ⟨hb, ha, _⟩ := groupInfo_consecutive (duals := x.duals) hf hn (by rw [hlen, ← hst]; exact hle)
  unfold Sim
  rw [hidx, hb, ha, permuted_range_take, hlen, range'_eq_drop_range, permuted_range_drop]
  refine List.rel_append (List.rel_append (List.forall₂_take p hs) ?_)
    (List.forall₂_drop (p + n) hs)
  apply forall₂_map_zipIdx
  intro g hg i
  apply symGroup_rel hs
  intro ax hax
  have : ax ∈ groups.flatten := List.mem_flatten.mpr ⟨g, hg, hax⟩
  rw [hf] at this
  have := (List.mem_range'_1.mp this).2
  omega

theorem groups_ne_nil {groups : List (List Nat)} {p n : Nat}
    (hf : groups.flatten = List.range' p n) (hn : 0 < n) : groups.isEmpty = false := by
  cases groups with
  | nil =>
    have := congrArg List.length hf
    simp at this; omega
  | cons g gs => rfl

theorem fuseA_sim [Zero R] {st : SymShape} {x r : Arr R} {groups : List (List Nat)}
    {p n : Nat} (hs : Sim st x) (hf : groups.flatten = List.range' p n) (hn : 0 < n)
    (hne : groups.all (fun g => !g.isEmpty) = true) (hle : p + n ≤ st.length)
    (h : fuseA x groups = .ok r) :
    Sim (st.take p ++ groups.map (symGroup st) ++ st.drop (p + n)) r ∧ r.fermi = x.fermi := by
  rw [FuseP.fuseA_of_nonempty x groups .insert true hne, groups_ne_nil hf hn] at h
  simp only [Bool.false_eq_true, if_false] at h
  exact ⟨fuseCore_sim hs hf hn hle h, (fuseCore_fields h).2.1⟩

theorem forall₂_eq_symm {α : Type} {l r : List α} (h : List.Forall₂ (fun a b => b = a) l r) :
    r = l := by
  induction h with
  | nil => rfl
  | cons h1 _ ih => rw [h1, ih]

/-- positions in the identity permutation are the axes themselves -/
theorem mapM_indexOf_range {N : Nat} {groups ng : List (List Nat)}
    (h : groups.mapM (fun g => g.mapM (fun ax => match indexOf? (List.range N) ax with
      | some k => (pure k : Except Err Nat)
      | none => throw Err.value)) = .ok ng) : ng = groups := by
  apply forall₂_eq_symm
  refine (mapM_ok_forall₂ _ _ _ h).imp ?_
  intro g g' hg
  apply forall₂_eq_symm
  refine (mapM_ok_forall₂ _ _ _ hg).imp ?_
  intro ax k hk
  split at hk
  · rename_i k' hk'
    simp only [pure, Except.pure, Except.ok.injEq] at hk
    subst hk
    obtain ⟨h1, h2⟩ := indexOf?_some hk'
    rw [List.getElem?_eq_getElem h1, List.getElem_range] at h2
    simpa using h2
  · cases hk

theorem fuseF_sim [Zero R] [Neg R] {st : SymShape} {x r : Arr R} {groups : List (List Nat)}
    {p n : Nat} (hs : Sim st x) (hf : groups.flatten = List.range' p n) (hn : 0 < n)
    (hne : groups.all (fun g => !g.isEmpty) = true) (hle : p + n ≤ st.length)
    (h : Arr.fuseF x groups = .ok r) :
    Sim (st.take p ++ groups.map (symGroup st) ++ st.drop (p + n)) r ∧ r.fermi = x.fermi := by
  have h1 : groups.filter (fun g => !g.isEmpty) = groups :=
    List.filter_eq_self.mpr (by simpa using hne)
  have h2 : (groups.zipIdx.filter (fun p => p.1.isEmpty)) = [] := by
    rw [List.filter_eq_nil_iff]
    intro q hq
    obtain ⟨_, h3, h4⟩ := List.mem_zipIdx hq
    have := (List.all_eq_true.mp hne) q.1 (h4 ▸ List.getElem_mem _)
    simpa using this
  have hlen : x.duals.length = x.indices.length := by simp [Arr.duals]
  have hst : st.length = x.indices.length := hs.length_eq
  obtain ⟨_, _, hperm⟩ := groupInfo_consecutive (duals := x.duals) hf hn
    (by rw [hlen, ← hst]; exact hle)
  rw [hlen] at hperm
  unfold Arr.fuseF at h
  dsimp only at h
  rw [h1, h2, groups_ne_nil hf hn, hperm] at h
  simp only [Bool.false_eq_true, if_false] at h
  obtain ⟨ng, hng, h⟩ := bind_ok h
  obtain ⟨x5, hx5, h⟩ := bind_ok h
  rw [mapM_indexOf_range hng] at hx5 h
  simp only [List.map_nil, List.isEmpty_nil, Bool.not_true, Bool.and_false,
    Bool.false_eq_true, if_false, pure, Except.pure, bind, Except.bind, Except.ok.injEq] at h
  subst h
  have key : ∀ (y : Arr R) (c : Bool) (f : List Nat) (v : Option (List Nat)),
      (if c = true then y.phaseFlip f else (y.phaseFlip f).phaseTranspose v).phaseSync.indices
        = y.indices := by
    intro y c f v
    cases c
    · simp only [Bool.false_eq_true, if_false]
      rw [(phaseSync_fields _).2.2.1, (phaseTranspose_fields _ _).2, (phaseFlip_fields y f).1]
    · simp only [if_true]
      rw [(phaseSync_fields _).2.2.1, (phaseFlip_fields y f).1]
  have keyf : ∀ (y : Arr R) (c : Bool) (f : List Nat) (v : Option (List Nat)),
      (if c = true then y.phaseFlip f else (y.phaseFlip f).phaseTranspose v).phaseSync.fermi
        = y.fermi := by
    intro y c f v
    cases c
    · simp only [Bool.false_eq_true, if_false]
      rw [(phaseSync_fields _).2.1, (phaseTranspose_fields _ _).1, (phaseFlip_fields y f).2.2.2.2]
    · simp only [if_true]
      rw [(phaseSync_fields _).2.1, (phaseFlip_fields y f).2.2.2.2]
  refine ⟨fuseCore_sim ?_ hf hn hle hx5, ?_⟩
  · unfold Sim
    rw [key, (transposeF_fields x _ true).2, permuted_range]
    exact hs
  · rw [(fuseCore_fields hx5).2.1, keyf]
    rfl

theorem fuseDispatch_sim [Zero R] [Neg R] {st st' : SymShape} {x x' : Arr R}
    {groups : List (List Nat)} (hs : Sim st x) (hu : symFuse st groups = some st')
    (h : fuseDispatch x groups = .ok x') : Sim st' x' ∧ x'.fermi = x.fermi := by
  obtain ⟨p, n, hn, hf, hne, hle, rfl⟩ := symFuse_some hu
  unfold fuseDispatch at h
  split at h
  · exact fuseF_sim hs hf hn hne hle h
  · exact fuseA_sim hs hf hn hne hle h

theorem expandDispatch_sim {st st' : SymShape} {x x' : Arr R} {ax : Nat}
    (hs : Sim st x) (hu : symExpand st ax = some st') (h : expandDispatch x ax = .ok x') :
    Sim st' x' ∧ x'.fermi = x.fermi := by
  unfold symExpand at hu
  split at hu
  · simp only [Option.some.injEq] at hu
    subst hu
    unfold expandDispatch at h
    split at h
    · cases h
    · simp only [pure, Except.pure, Except.ok.injEq] at h
      subst h
      refine ⟨?_, rfl⟩
      show SimI _ (x.indices.take ax ++ [_] ++ x.indices.drop ax)
      refine List.rel_append (List.rel_append (List.forall₂_take ax hs) ?_)
        (List.forall₂_drop ax hs)
      exact .cons (fun subs h => by cases h) .nil
  · cases hu

theorem fuseSteps_admissible [Zero R] [Neg R] (gs : List (List (List Nat))) :
    ∀ (st s2 : SymShape) (x : Arr R), Sim st x → foldOpt symFuse gs st = some s2 →
      fuseStepsAdmissibleB x gs = true := by
  induction gs with
  | nil => intro st s2 x _ _; rfl
  | cons g gs ih =>
    intro st s2 x hs h
    unfold foldOpt at h
    split at h
    · rename_i st' hst'
      simp only [fuseStepsAdmissibleB, Bool.and_eq_true]
      refine ⟨fuseAdmissible_of_symFuse hst' hs.ndim_eq, ?_⟩
      cases hd : fuseDispatch x g with
      | error e => rfl
      | ok x' => exact ih st' s2 x' (fuseDispatch_sim hs hst' hd).1 h
    · cases h

/-- THE CERTIFICATE IMPLIES THE RUNTIME GUARD: if the plan passes `Plan.wfB` for the shape and
    sub-sizes of `a`, every `fuse` call the model issues while executing it is admissible.
    (Holds for every array, valid or not, abelian or fermionic.) -/
theorem planAdmissible_of_certificate [Zero R] [Neg R] (a : Arr R)
    (plan : List Nat × List (List (List Nat)) × List Nat) (ns : List Nat)
    (hcert : Plan.wfB a.shape a.subsizes ns (Plan.ofTriple plan) = true) :
    planAdmissibleB a plan = true := by
  obtain ⟨_, r, hr, _⟩ := wfB_iff.mp hcert
  unfold Plan.exec at hr
  split at hr
  · cases hr
  · rename_i s1 h1
    split at hr
    · cases hr
    · rename_i s2 h2
      unfold planAdmissibleB
      cases hx : plan.1.foldlM unfuseDispatch a with
      | error e => rfl
      | ok x1 =>
        have hs1 := (foldlM_lockstep (I := Sim) (Rel := fun _ _ => True) (fs := symUnfuse)
          (f := unfuseDispatch) (fun _ => trivial) (fun _ _ => trivial)
          (fun st st' x x' ax hs hu h => ⟨(unfuseDispatch_sim hs hu h).1, trivial⟩) plan.1
          (sim_init a) h1 hx).1
        exact fuseSteps_admissible plan.2.1 s1 s2 x1 hs1 h2

/-- full simulation: a certified plan that the model executes successfully ends in an array
    matched by the final symbolic state; in particular the result has `ns.length` axes -/
theorem applyPlan_sim_of_certificate [Zero R] [Neg R] (a r : Arr R)
    (plan : List Nat × List (List (List Nat)) × List Nat) (ns : List Nat)
    (hcert : Plan.wfB a.shape a.subsizes ns (Plan.ofTriple plan) = true)
    (h : applyPlan a plan = .ok r) :
    ∃ st', (Plan.ofTriple plan).exec (a.shape.zip a.subsizes) = some st' ∧ Sim st' r
      ∧ SymShape.sizes st' = ns ∧ r.fermi = a.fermi := by
  obtain ⟨_, st', hr, hsz⟩ := wfB_iff.mp hcert
  obtain ⟨hs, hf⟩ := applyPlan_lockstep (I := Sim) (Rel := fun x y => y.fermi = x.fermi)
    (fun _ => rfl) (fun h1 h2 => h2.trans h1)
    (fun _ _ _ _ _ hs hu h => unfuseDispatch_sim hs hu h)
    (fun _ _ _ _ _ hs hu h => fuseDispatch_sim hs hu h)
    (fun _ _ _ _ _ hs hu h => expandDispatch_sim hs hu h) (sim_init a) hr h
  exact ⟨st', hr, hs, hsz, hf⟩

theorem applyPlan_ndim_of_certificate [Zero R] [Neg R] (a r : Arr R)
    (plan : List Nat × List (List (List Nat)) × List Nat) (ns : List Nat)
    (hcert : Plan.wfB a.shape a.subsizes ns (Plan.ofTriple plan) = true)
    (h : applyPlan a plan = .ok r) : r.ndim = ns.length := by
  obtain ⟨st', _, hs, hsz, _⟩ := applyPlan_sim_of_certificate a r plan ns hcert h
  rw [← hs.ndim_eq, ← hsz, sizes_length]

theorem applyPlan_valid_of_certificate [Zero R] [Neg R] (a r : Arr R) (hv : Valid a)
    (plan : List Nat × List (List (List Nat)) × List Nat) (ns : List Nat)
    (hcert : Plan.wfB a.shape a.subsizes ns (Plan.ofTriple plan) = true)
    (h : applyPlan a plan = .ok r) : Valid r :=
  applyPlan_valid a r plan hv (planAdmissible_of_certificate a plan ns hcert) h

/-- the plan that the planner returns for `a.reshape(newshape)` passes the certificate
    (vacuously true when `reshape` raises before executing a plan); recomputes `full`, `ns` and
    `plan` exactly as `reshapeArr` does -/
def reshapeCertifiedB (a : Arr R) (newshape : List Int) : Bool :=
  match (do
    let full ← findFullReshape newshape a.size
    let ns ← full.mapM (fun (d : Int) =>
      if d < 0 then (throw Err.notimpl : Except Err Nat) else pure d.toNat)
    let plan ← calcReshapeArgs a.shape ns a.subsizes
    pure (ns, plan)) with
  | .ok (ns, plan) => Plan.wfB a.shape a.subsizes ns (Plan.ofTriple plan)
  | .error _ => true

theorem reshapeCertifiedB_iff (a : Arr R) (newshape : List Int) :
    reshapeCertifiedB a newshape = true ↔
      ∀ full ns plan, findFullReshape newshape a.size = .ok full →
        full.mapM (fun (d : Int) =>
          if d < 0 then (throw Err.notimpl : Except Err Nat) else pure d.toNat) = .ok ns →
        calcReshapeArgs a.shape ns a.subsizes = .ok plan →
        Plan.wfB a.shape a.subsizes ns (Plan.ofTriple plan) = true := by
  unfold reshapeCertifiedB
  constructor
  · intro h full ns plan hfull hns hplan
    simp only [hfull, hns, hplan, bind, Except.bind] at h
    exact h
  · intro h
    split
    · rename_i ns plan hok
      obtain ⟨full, hfull, hok⟩ := bind_ok hok
      obtain ⟨ns', hns, hok⟩ := bind_ok hok
      obtain ⟨plan', hplan, hok⟩ := bind_ok hok
      cases hok
      exact h full ns plan hfull hns hplan
    · rfl

theorem reshapeAdmissible_of_certified [Zero R] [Neg R] (a : Arr R) (newshape : List Int)
    (hcert : reshapeCertifiedB a newshape = true) : reshapeAdmissibleB a newshape = true := by
  rw [reshapeCertifiedB_iff] at hcert
  unfold reshapeAdmissibleB
  split
  · rename_i plan hok
    obtain ⟨full, hfull, hok⟩ := bind_ok hok
    obtain ⟨ns, hns, hplan⟩ := bind_ok hok
    exact planAdmissible_of_certificate a plan ns (hcert full ns plan hfull hns hplan)
  · rfl

/-- `AbelianArray.reshape` / `FermionicArray.reshape`: a valid array, a certified plan, a
    successful call ⇒ a valid result -/
theorem reshapeArr_valid_of_certificate [Zero R] [Neg R] (a r : Arr R) (newshape : List Int)
    (hv : Valid a) (hcert : reshapeCertifiedB a newshape = true)
    (h : reshapeArr a newshape = .ok r) : Valid r :=
  reshapeArr_valid a r newshape hv (reshapeAdmissible_of_certified a newshape hcert) h

theorem reshapeArr_ndim_of_certificate [Zero R] [Neg R] (a r : Arr R) (newshape : List Int)
    (hcert : reshapeCertifiedB a newshape = true) (h : reshapeArr a newshape = .ok r) :
    r.ndim = newshape.length := by
  rw [reshapeCertifiedB_iff] at hcert
  unfold reshapeArr at h
  obtain ⟨full, hfull, h⟩ := bind_ok h
  obtain ⟨ns, hns, h⟩ := bind_ok h
  obtain ⟨plan, hplan, h⟩ := bind_ok h
  rw [applyPlan_ndim_of_certificate a r plan ns (hcert full ns plan hfull hns hplan) h]
  have e1 : ns.length = full.length := (List.Forall₂.length_eq (mapM_ok_forall₂ _ _ _ hns)).symm
  rw [e1]
  unfold findFullReshape at hfull
  split at hfull
  · simp only [pure, Except.pure, Except.ok.injEq] at hfull
    rw [← hfull]
  · rename_i k hk
    dsimp only at hfull
    split at hfull
    · cases hfull
    · simp only [pure, Except.pure, Except.ok.injEq] at hfull
      rw [← hfull]
      have hk' : k < newshape.length := by
        have : ∀ (l : List Int) (k : Nat), indexOf? l (-1) = some k → k < l.length := by
          intro l
          induction l with
          | nil => intro k h; simp [indexOf?] at h
          | cons x xs ih =>
            intro k h
            simp only [indexOf?] at h
            split at h
            · cases h; simp
            · cases hr : indexOf? xs (-1) with
              | none => rw [hr] at h; cases h
              | some k' =>
                rw [hr] at h
                simp only [Option.map_some, Option.some.injEq] at h
                subst h
                have := ih k' hr
                simp; omega
        exact this newshape k hk
      simp only [List.length_append, List.length_take, List.length_drop, List.length_cons,
        List.length_nil]
      omega

/-! ### the hypotheses are satisfiable -/

/-- `exArr3` (shape `[3, 3, 2]`) with its first two axes fused and a size-one axis appended:
    shape `[9, 2, 1]`, sub-sizes `[[3, 3], -, -]` -/
def exCertArr : Arr Int :=
  match fuseCore exArr3 [[0, 1]] .insert with
  | .ok r => r.expandDims 2 none none
  | .error _ => exArr3

/-- reshaping it to `[3, 3, 2]` unfuses axis 0 and re-fuses axes 2, 3 (the size-one axis is
    absorbed): the plan is certified, `reshape` succeeds, and the result is valid with shape
    `[3, 3, 2]` and a fused last axis -/
example : exCertArr.validB = true ∧ exCertArr.shape = [9, 2, 1]
    ∧ exCertArr.subsizes = [some [3, 3], none, none]
    ∧ calcReshapeArgs exCertArr.shape [3, 3, 2] exCertArr.subsizes = .ok ([0], [[[2, 3]]], [])
    ∧ reshapeCertifiedB exCertArr [3, 3, 2] = true
    ∧ (match reshapeArr exCertArr [3, 3, 2] with
        | .ok r => r.validB && r.shape == [3, 3, 2] && r.subsizes == [none, none, some [2, 1]]
        | .error _ => false) = true := by decide +kernel

/-- the same with `-1` in the requested shape -/
example : reshapeCertifiedB exCertArr [3, -1, 2] = true
    ∧ (match reshapeArr exCertArr [3, -1, 2] with
        | .ok r => r.validB && r.shape == [3, 3, 2]
        | .error _ => false) = true := by decide +kernel

/-- a fermionic array (odd parity, one odd-position label) through the same reshape -/
def exCertArrF : Arr Int :=
  match Arr.fuseF { exArr3 with fermi := true, oddpos := [(7, false)] } [[0, 1]] with
  | .ok r => r.expandDims 2 none none
  | .error _ => exArr3

example : exCertArrF.validB = true ∧ exCertArrF.fermi = true ∧ exCertArrF.shape = [9, 2, 1]
    ∧ reshapeCertifiedB exCertArrF [3, 3, 2] = true
    ∧ (match reshapeArr exCertArrF [3, 3, 2] with
        | .ok r => r.validB && r.fermi && r.shape == [3, 3, 2]
        | .error _ => false) = true := by decide +kernel

/-- the certificate is a real restriction: a plan whose fuse groups are not consecutive is
    rejected although the runtime guard would accept it -/
example : Plan.wfB exArr3.shape exArr3.subsizes [6, 3] (Plan.ofTriple ([], [[[0, 2]]], [])) = false
    ∧ planAdmissibleB exArr3 ([], [[[0, 2]]], []) = true := by decide +kernel

/-- why `Sim` relates only the NUMBER of axes and of sub-indices, not the sizes: `fuse` builds the
    fused index from the stored blocks, so on a sparsely stored (valid) array a certified,
    successful `reshape` to `[9, 2]` returns shape `[2, 2]`.  The statement
    "`reshapeCertifiedB a s` and `reshapeArr a s = .ok r` imply `r.shape = s`" is FALSE of the
    model; what holds is `reshapeArr_ndim_of_certificate`. -/
example :
    let a : Arr Int := { exArr3 with blocks := exArr3.blocks.take 1 }
    a.validB = true ∧ a.shape = [3, 3, 2] ∧ reshapeCertifiedB a [9, 2] = true
    ∧ (match reshapeArr a [9, 2] with
        | .ok r => r.validB && r.shape == [2, 2] && r.ndim == 2
        | .error _ => false) = true := by decide +kernel

end ValidP
end SymmModel
