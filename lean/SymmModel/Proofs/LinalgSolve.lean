/-
  SymmModel.Proofs.LinalgSolve — `eighA` and `solveA`: control flow in closed form and validity
  of the results (C11 structure part).
-/
import SymmModel.Proofs.LinalgFactors

namespace SymmModel
namespace LinalgLemmas

variable {R : Type}

theorem throw_bind' {ε α β : Type} (e : ε) (f : α → Except ε β) :
    ((throw e : Except ε α) >>= f) = .error e := rfl

def syncIf [Neg R] (a : Arr R) : Arr R := if a.fermi && !a.phases.isEmpty then a.phaseSync else a

theorem syncIf_fields [Neg R] (a : Arr R) :
    (syncIf a).sym = a.sym ∧ (syncIf a).fermi = a.fermi ∧ (syncIf a).indices = a.indices
    ∧ (syncIf a).charge = a.charge ∧ (syncIf a).oddpos = a.oddpos
    ∧ (syncIf a).sectors = a.sectors := by
  unfold syncIf
  split
  · exact ⟨rfl, rfl, rfl, rfl, rfl, phaseSync_sectors a⟩
  · exact ⟨rfl, rfl, rfl, rfl, rfl, rfl⟩

theorem syncIf_valid [Neg R] (a : Arr R) (hv : a.validB = true) : (syncIf a).validB = true := by
  unfold syncIf
  split
  · exact phaseSync_valid a hv
  · exact hv

/-- a fermionic array gets synced; an abelian valid one has no pending signs to begin with -/
theorem sync_phases [Neg R] (f : Bool) (b : Arr R) (hv : b.validB = true) (hf : f = b.fermi) :
    (if f && !b.phases.isEmpty then b.phaseSync else b).phases = [] := by
  split
  · rfl
  next h =>
    by_cases hb : b.fermi = true
    · rw [hf] at h
      simp only [hb, Bool.true_and, Bool.not_eq_true', Bool.not_eq_false] at h
      exact List.isEmpty_iff.mp h
    · exact Arr.phases_nil_of_validB hv (by simpa using hb)

theorem syncIf_phases [Neg R] (a : Arr R) (hv : a.validB = true) : (syncIf a).phases = [] :=
  sync_phases a.fermi a hv rfl

theorem syncIf_mem [Neg R] {a : Arr R} {s : Sector} {b' : Blk R} (h : (s, b') ∈ (syncIf a).blocks) :
    ∃ b, (s, b) ∈ a.blocks ∧ (b' = b ∨ b' = b.negK) := by
  unfold syncIf at h
  split at h
  · exact phaseSync_mem h
  · exact ⟨b', h, Or.inl rfl⟩

theorem syncIf_ndim [Neg R] (a : Arr R) : (syncIf a).ndim = a.ndim := by
  simp [Arr.ndim, (syncIf_fields a).2.2.1]

theorem mapBlocks_valid {a : Arr R} (hv : a.validB = true) (f : Sector × Blk R → Blk R)
    (hf : ∀ p ∈ a.blocks, (f p).shape = p.2.shape ∧ (f p).wf = true) :
    ({ a with blocks := a.blocks.map (fun p => (p.1, f p)) } : Arr R).validB = true := by
  obtain ⟨h1, h2, h3, h4, h5⟩ := (validB_iff a).mp hv
  refine (validB_iff _).mpr ⟨h1, h2, ?_, ?_, h5⟩
  · simpa [Arr.sectors, List.map_map, Function.comp_def] using h3
  · intro s b' hm'
    simp only [List.mem_map] at hm'
    obtain ⟨⟨s0, b⟩, hm, e⟩ := hm'
    cases e
    obtain ⟨g1, g2, g3, _⟩ := h4 s0 b hm
    exact ⟨g1, g2, by rw [(hf _ hm).1]; exact g3, (hf _ hm).2⟩

def eighCore [Neg R] (K : Kernels R) (a : Arr R) : Except Err (BVec R × Arr R) :=
  if a.ndim != 2 then .error Err.notimpl else
  if a.charge != a.sym.zero then .error Err.value else
  if a.blocks.any (fun (_, b) => b.shape.getD 0 0 != b.shape.getD 1 0) then .error Err.value else
  .ok (⟨
    let evals := adict ((a.blocks.map (fun (s, b) => (s, K.eigh b))).map
      (fun (s, f) => (s.getD 1 (0, 0), f.1)))
    if a.fermi && !(a.indices.getD 1 default).dual then
      evals.map (fun (c, b) => if a.sym.parity c then (c, b.negK) else (c, b))
    else evals⟩,
    { a with blocks := (a.blocks.map (fun (s, b) => (s, K.eigh b))).map (fun (s, f) => (s, f.2)) })

theorem eighA_eq_core [Neg R] (K : Kernels R) (a : Arr R) : eighA K a = eighCore K (syncIf a) := by
  unfold eighA eighCore syncIf
  simp only [throw_bind']
  rfl

/-- the sign `eigh_fermionic` puts on the eigenvalue blocks of odd charges, as one map -/
theorem evals_signed {β : Type} (flag : Bool) (par : Charge → Bool) (neg : β → β)
    (ev : List (Charge × β)) :
    (if flag then ev.map (fun q => if par q.1 then (q.1, neg q.2) else (q.1, q.2)) else ev)
      = ev.map (fun q => (q.1, if flag && par q.1 then neg q.2 else q.2)) := by
  cases flag
  · simp only [Bool.false_eq_true, if_false, Bool.false_and, List.map_id']
  · simp only [if_true, Bool.true_and]
    apply List.map_congr_left
    intro q _
    split <;> rfl

theorem eighCore_ok [Neg R] {K : Kernels R} {a : Arr R} {w : BVec R} {v : Arr R}
    (hv : a.validB = true) (h : eighCore K a = .ok (w, v)) :
    a.ndim = 2 ∧ a.charge = a.sym.zero
    ∧ (∀ p ∈ a.blocks, p.2.shape.getD 0 0 = p.2.shape.getD 1 0)
    ∧ v = { a with blocks := a.blocks.map (fun p => (p.1, (K.eigh p.2).2)) }
    ∧ w.blocks = a.blocks.map (fun p => (colOf p.1,
        if (a.fermi && !(a.indices.getD 1 default).dual) && a.sym.parity (colOf p.1)
        then (K.eigh p.2).1.negK else (K.eigh p.2).1)) := by
  unfold eighCore at h
  split at h
  · cases h
  next h2 =>
    split at h
    · cases h
    next hc =>
      split at h
      · cases h
      next hsq =>
        have h2' : a.ndim = 2 := by simpa using h2
        have hc' : a.charge = a.sym.zero := by simpa using hc
        have hsq' : ∀ p ∈ a.blocks, p.2.shape.getD 0 0 = p.2.shape.getD 1 0 := by
          intro p hp
          have := hsq
          simp only [List.any_eq_true, not_exists, not_and, Bool.not_eq_true] at this
          have := this p hp
          simpa using this
        have h' := Except.ok.inj h
        have hw := (Prod.mk.inj h').1
        have hvv := (Prod.mk.inj h').2
        rw [adict_of_nodup _ (colKeys_nodup hv h2' (fun p => K.eigh p.2) (fun q => q.2.1))] at hw
        refine ⟨h2', hc', hsq', ?_, ?_⟩
        · rw [← hvv]; simp only [List.map_map, Function.comp_def]
        · rw [← hw]
          simp only []
          rw [evals_signed, List.map_map, List.map_map]
          rfl

theorem eighA_spec [Neg R] {K : Kernels R} (hK : K.ShapeOk) {a : Arr R} (hv : a.validB = true)
    {w : BVec R} {v : Arr R} (h : eighA K a = .ok (w, v)) :
    a.ndim = 2 ∧ a.charge = a.sym.zero
    ∧ v.validB = true
    ∧ v.sym = a.sym ∧ v.fermi = a.fermi ∧ v.indices = a.indices ∧ v.charge = a.charge
    ∧ v.sectors = a.sectors ∧ v.oddpos = a.oddpos ∧ v.phases = []
    ∧ w.blocks.map (·.1) = a.sectors.map (fun s => s.getD 1 (0, 0))
    ∧ (∀ c wb, (c, wb) ∈ w.blocks →
        ∃ m, alookup (a.indices.getD 1 default).cm c = some m ∧ wb.shape = [m] ∧ wb.wf = true) := by
  rw [eighA_eq_core] at h
  have hv' := syncIf_valid a hv
  obtain ⟨f1, f2, f3, f4, f5, f6⟩ := syncIf_fields a
  obtain ⟨h2, hc, hsq, hvv, hw⟩ := eighCore_ok hv' h
  obtain ⟨i0, i1, hi⟩ := ndim_two h2
  have hi1 : a.indices.getD 1 default = i1 := by rw [← f3, hi]; rfl
  have hblk : ∀ p ∈ (syncIf a).blocks, ∃ m, alookup i1.cm (colOf p.1) = some m
      ∧ p.2.shape = [m, m] ∧ p.2.wf = true := by
    intro p hp
    obtain ⟨s, b⟩ := p
    obtain ⟨r, c, m, n, B⟩ := mat_block hv' hi hp
    have := hsq _ hp
    simp only [B.hshape, List.getD_cons_zero, List.getD_cons_succ] at this
    subst this
    exact ⟨m, B.col ▸ B.hc, B.hshape, B.hwf⟩
  have hvalid : v.validB = true := by
    rw [hvv]
    apply mapBlocks_valid hv' (fun p => (K.eigh p.2).2)
    intro p hp
    obtain ⟨m, _, hs, hwf⟩ := hblk p hp
    have := hK.eigh p.2 m hs hwf
    exact ⟨by rw [this.2.2.1, hs], this.2.2.2⟩
  refine ⟨by rw [← syncIf_ndim a]; exact h2, by rw [← f4, ← f1]; exact hc, hvalid,
    by rw [hvv]; exact f1, by rw [hvv]; exact f2, by rw [hvv]; exact f3, by rw [hvv]; exact f4,
    ?_, by rw [hvv]; exact f5, by rw [hvv]; exact syncIf_phases a hv, ?_, ?_⟩
  · rw [hvv, ← f6]; simp [Arr.sectors, List.map_map, Function.comp_def]
  · rw [hw, ← f6]
    simp only [Arr.sectors, List.map_map, Function.comp_def, colOf]
  · intro c wb hm
    rw [hw] at hm
    obtain ⟨p, hp, e⟩ := List.mem_map.mp hm
    obtain ⟨m, hl, hs, hwf⟩ := hblk p hp
    have hE := hK.eigh p.2 m hs hwf
    cases e
    rw [hi1]
    refine ⟨m, hl, ?_, ?_⟩
    · split
      · rw [negK_shape]; exact hE.1
      · exact hE.1
    · split
      · rw [negK_wf]; exact hE.2.1
      · exact hE.2.1

def syncB [Neg R] (a b : Arr R) : Arr R := if a.fermi && !b.phases.isEmpty then b.phaseSync else b

def solveBlocks (K : Kernels R) (a b : Arr R) : List (Sector × Blk R) :=
  a.blocks.filterMap (fun (s, arr) =>
    match alookup b.blocks [s.getD 0 (0, 0)] with
    | some bb => some ([s.getD 1 (0, 0)], K.solve arr bb)
    | none => none)

/-- the result of `solve` before the fermionic flip, with the block dictionary already
    simplified -/
def solveX (K : Kernels R) (a b : Arr R) : Arr R :=
  { b with blocks := solveBlocks K a b,
           indices := [(a.indices.getD 1 default).conj],
           charge := a.sym.combine [b.charge, a.sym.sign a.charge true] }

def solveCore [Neg R] (K : Kernels R) (a b : Arr R) : Except Err (Arr R) :=
  if a.ndim != 2 || b.ndim != 1 then .error Err.notimpl else
  if a.blocks.any (fun (s, arr) => (alookup b.blocks [s.getD 0 (0, 0)]).isSome
      && arr.shape.getD 0 0 != arr.shape.getD 1 0) then .error Err.value else
  .ok (
    let x : Arr R := { b with blocks := adict (solveBlocks K a b),
                              indices := [(a.indices.getD 1 default).conj],
                              charge := a.sym.combine [b.charge, a.sym.sign a.charge true] }
    if a.fermi && (a.indices.getD 1 default).conj.dual then x.phaseFlip [0] else x)

theorem solveA_eq_core [Neg R] (K : Kernels R) (a b : Arr R) :
    solveA K a b = solveCore K (syncIf a) (syncB (syncIf a) b) := by
  unfold solveA solveCore syncIf syncB solveBlocks
  simp only [throw_bind']
  rfl

theorem syncB_fields [Neg R] (a b : Arr R) :
    (syncB a b).sym = b.sym ∧ (syncB a b).fermi = b.fermi ∧ (syncB a b).indices = b.indices
    ∧ (syncB a b).charge = b.charge ∧ (syncB a b).oddpos = b.oddpos := by
  unfold syncB
  split <;> exact ⟨rfl, rfl, rfl, rfl, rfl⟩

theorem syncB_valid [Neg R] (a b : Arr R) (hv : b.validB = true) : (syncB a b).validB = true := by
  unfold syncB
  split
  · exact phaseSync_valid b hv
  · exact hv

theorem syncB_phases [Neg R] (a b : Arr R) (hv : b.validB = true) (hf : a.fermi = b.fermi) :
    (syncB a b).phases = [] :=
  sync_phases a.fermi b hv hf

theorem nodup_filterMap_keys {α β κ : Type} (l : List α) (f : α → Option β) (g : β → κ) (h : α → κ)
    (hnd : (l.map h).Nodup) (hfg : ∀ p q, f p = some q → g q = h p) :
    ((l.filterMap f).map g).Nodup := by
  induction l with
  | nil => simp
  | cons a l ih =>
    rw [List.map_cons, List.nodup_cons] at hnd
    rw [List.filterMap_cons]
    cases hfa : f a with
    | none => exact ih hnd.2
    | some q =>
      simp only [List.map_cons, List.nodup_cons]
      refine ⟨?_, ih hnd.2⟩
      intro hm
      obtain ⟨q', hq', e⟩ := List.mem_map.mp hm
      obtain ⟨p', hp', e'⟩ := List.mem_filterMap.mp hq'
      apply hnd.1
      rw [← hfg a q hfa, ← e, hfg p' q' e']
      exact List.mem_map.mpr ⟨p', hp', rfl⟩

theorem solveBlocks_mem {K : Kernels R} {a b : Arr R} {s' : Sector} {xb : Blk R}
    (h : (s', xb) ∈ solveBlocks K a b) :
    ∃ s arr bb, (s, arr) ∈ a.blocks ∧ alookup b.blocks [s.getD 0 (0, 0)] = some bb
      ∧ s' = [s.getD 1 (0, 0)] ∧ xb = K.solve arr bb := by
  unfold solveBlocks at h
  obtain ⟨⟨s, arr⟩, hm, e⟩ := List.mem_filterMap.mp h
  simp only at e
  split at e
  next bb hbb =>
    have e' := Option.some.inj e
    exact ⟨s, arr, bb, hm, hbb, (Prod.mk.inj e').1.symm, (Prod.mk.inj e').2.symm⟩
  next => cases e

theorem solveBlocks_keys_nodup {K : Kernels R} {a b : Arr R} (hv : a.validB = true)
    (h2 : a.ndim = 2) : ((solveBlocks K a b).map (·.1)).Nodup := by
  have hc := colCharges_nodup hv h2
  have h' := nodup_map_of_inj _ (fun c : Charge => [c]) hc (fun a _ b _ e => (List.cons.inj e).1)
  unfold solveBlocks
  apply nodup_filterMap_keys a.blocks _ (fun q : Sector × Blk R => q.1) (fun p => [p.1.getD 1 (0, 0)])
  · simpa [Arr.sectors, List.map_map, Function.comp_def] using h'
  · intro p q hpq
    obtain ⟨s, arr⟩ := p
    simp only at hpq
    split at hpq
    · have := Option.some.inj hpq
      rw [← this]
    · cases hpq

theorem rowKeyed_nodup {γ : Type} {a : Arr R} (hva : a.validB = true) (h2 : a.ndim = 2) (b : Arr R)
    (G : Sector × Blk R → Blk R → γ) :
    ((a.blocks.filterMap (fun p => (alookup b.blocks [p.1.getD 0 (0, 0)]).map
        (fun bb => ([p.1.getD 0 (0, 0)], G p bb)))).map (·.1)).Nodup := by
  apply nodup_filterMap_keys a.blocks _ (fun q : Sector × γ => q.1) (fun p => [p.1.getD 0 (0, 0)])
  · have := rowCharges_nodup hva h2
    have h' := nodup_map_of_inj _ (fun c : Charge => [c]) this (fun a _ b _ e => (List.cons.inj e).1)
    simpa [Arr.sectors, List.map_map, Function.comp_def] using h'
  · intro p q hpq
    cases hl : alookup b.blocks [p.1.getD 0 (0, 0)] with
    | none => rw [hl] at hpq; cases hpq
    | some bb => rw [hl] at hpq; cases hpq; rfl

theorem solveA_ok_eq [Neg R] {K : Kernels R} {a b x : Arr R} (hva : a.validB = true)
    (h : solveA K a b = .ok x) :
    a.ndim = 2 ∧ b.ndim = 1 ∧
    x = (if (syncIf a).fermi && ((syncIf a).indices.getD 1 default).conj.dual
          then (solveX K (syncIf a) (syncB (syncIf a) b)).phaseFlip [0]
          else solveX K (syncIf a) (syncB (syncIf a) b)) := by
  rw [solveA_eq_core] at h
  have hva' := syncIf_valid a hva
  obtain ⟨g1, g2, g3, g4, g5⟩ := syncB_fields (syncIf a) b
  unfold solveCore at h
  split at h
  · cases h
  next hnd =>
    split at h
    · cases h
    next =>
      simp only [Bool.or_eq_true, bne_iff_ne, ne_eq, not_or, Decidable.not_not] at hnd
      obtain ⟨h2, h1⟩ := hnd
      have h' := Except.ok.inj h
      rw [adict_of_nodup _ (solveBlocks_keys_nodup hva' h2)] at h'
      exact ⟨by rw [← syncIf_ndim a]; exact h2, by simpa [Arr.ndim, g3] using h1, h'.symm⟩

/-- charge arithmetic of `solve`: `c_x = c_b − c_A` is what the column charge needs -/
theorem solve_charge (s : Sym) (d0 d1 : Bool) (r c : Charge)
    (hr : s.valid r = true) (hc : s.valid c = true) :
    s.combine [s.sign c (!d1)]
      = s.combine [s.combine [s.sign r d0],
          s.sign (s.combine [s.sign r d0, s.sign c d1]) true] := by
  have hC := Sym.sign_valid s c d1 hc
  have hC' := Sym.sign_valid s c (!d1) hc
  rw [Sym.combine_singleton s _ (Sym.sign_valid s r d0 hr), Sym.combine_singleton s _ hC']
  -- both sides are inverse to `sign c d1`
  apply combine_left_cancel s hC hC' (Sym.combine_valid s _)
  rw [Sym.combine_comm, diag_valid s c d1 hc,
    ← Sym.combine_assoc s _ _ _,
    Sym.combine_comm s (s.sign c d1), Sym.combine_sign_cancel]

theorem solveX_valid {K : Kernels R} (hK : K.ShapeOk) {a b : Arr R}
    (hva : a.validB = true) (hvb : b.validB = true) (h2 : a.ndim = 2) (h1 : b.ndim = 1)
    (hsym : a.sym = b.sym) (hfer : a.fermi = b.fermi)
    (hdir : (b.indices.getD 0 default).dual = (a.indices.getD 0 default).dual)
    (heven : a.fermi = true → a.parity = false) (hph : b.phases = []) :
    (solveX K a b).validB = true := by
  obtain ⟨i0, i1, hi⟩ := ndim_two h2
  obtain ⟨j, hj⟩ := length_one (show b.indices.length = 1 from h1)
  obtain ⟨_, _, _, hbb, hbf⟩ := (validB_iff b).mp hvb
  have hi1 : a.indices.getD 1 default = i1 := by rw [hi]; rfl
  have hdir' : j.dual = i0.dual := by simpa [hi, hj] using hdir
  have hI : (solveX K a b).indices = [i1.conj] := by simp [solveX, hi]
  have hS : (solveX K a b).sym = a.sym := hsym.symm
  refine (validB_iff _).mpr ⟨?_, ?_, ?_, ?_, ?_⟩
  · rw [hI, hS, wfListB_single]
    exact conj_wfB _ _ (indices_wf hva hi).2
  · rw [hS]; exact Sym.combine_valid _ _
  · exact solveBlocks_keys_nodup hva h2
  · intro s' xb hm
    obtain ⟨s, arr, bb, hsa, hlk, rfl, rfl⟩ := solveBlocks_mem hm
    obtain ⟨r, c, m, n, B⟩ := mat_block hva hi hsa
    have hrow : s.getD 0 (0, 0) = r := by simp [B.hs]
    have hcol : s.getD 1 (0, 0) = c := by simp [B.hs]
    rw [hrow] at hlk
    rw [hcol]
    have hbmem := alookup_some_mem hlk
    obtain ⟨_, gb, _, _⟩ := hbb [r] bb hbmem
    have hbch : a.sym.combine [a.sym.sign r i0.dual] = b.charge := by
      simpa [Arr.isValidSector, Arr.sectorCharge, Arr.duals, hj, hdir', hsym] using gb
    have hsol := hK.solve arr bb m n B.hshape B.hwf
    refine ⟨by simp [Arr.ndim, hI], ?_, ?_, hsol.2⟩
    · simp only [Arr.isValidSector, Arr.sectorCharge, Arr.duals, hI, hS, List.map_cons, List.map_nil,
        List.zipWith_cons_cons, List.zipWith_nil_left, beq_iff_eq, Index.conj_dual]
      show _ = a.sym.combine [b.charge, a.sym.sign a.charge true]
      rw [← hbch, ← B.hcharge]
      exact solve_charge a.sym i0.dual i1.dual r c B.vr B.vc
    · rw [hI, hsol.1]
      exact (blockShape?_single_iff _ c _).mpr ⟨n, by rw [Index.conj_cm]; exact B.hc, rfl⟩
  · unfold fermiOk at hbf ⊢
    have hF : (solveX K a b).fermi = b.fermi := rfl
    have hP : (solveX K a b).phases = [] := hph
    have hO : (solveX K a b).oddpos = b.oddpos := rfl
    rw [hF, hP, hO]
    by_cases hb : b.fermi = true
    · rw [if_pos hb] at hbf ⊢
      simp only [Bool.and_eq_true] at hbf
      simp only [List.map_nil, allDistinct, List.all_nil, Bool.true_and]
      have hpar : (solveX K a b).parity = b.parity := by
        show b.sym.parity (a.sym.combine [b.charge, a.sym.sign a.charge true]) = b.sym.parity b.charge
        rw [← hsym, Sym.parity_combine_pair, Sym.parity_sign]
        have := heven (hfer.trans hb)
        simp only [Arr.parity] at this
        rw [this, Bool.xor_false]
      rw [hpar]; exact hbf.2
    · rw [if_neg hb] at hbf ⊢
      simp only [Bool.and_eq_true] at hbf
      simp only [List.isEmpty_nil, Bool.true_and]
      exact hbf.2

end LinalgLemmas
end SymmModel
