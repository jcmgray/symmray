/-
  SymmModel.Proofs.Fuse6Sign — the sign of an `unfuseF` step only depends on the segment of the
  sector at the unfused axis.
-/
import SymmModel.Proofs.Fuse6Parts
namespace SymmModel
namespace FuseP
set_option linter.unusedSectionVars false
open SymmModel.Lazy SymmModel.KoszulP

variable {R : Type} [Zero R] [Neg R]

/-- the sign of an `unfuseF` step as a function of the segment -/
def segSign (sym : Sym) (ix : Index) (subs : List Index) (S : Sector) : Int :=
  if ix.dual then
    Lazy.flipSign sym ((List.range subs.length).filter (fun t => !(subs.getD t default).dual)) S
      * revSign (S.map sym.parity) (List.range subs.length)
  else 1

theorem segSign_pm (sym : Sym) (ix : Index) (subs : List Index) (S : Sector) :
    segSign sym ix subs S = 1 ∨ segSign sym ix subs S = -1 := by
  unfold segSign
  split
  · exact mul_pm (Lazy.flipSign_pm _ _ _) (revSign_pm _ _)
  · exact Or.inl rfl

theorem getD_range_self (L t : Nat) (ht : t < L) : (List.range L).getD t 0 = t := by
  simp only [List.getD_eq_getElem?_getD, List.getElem?_range ht, Option.getD_some]

theorem unfuseVperm_zero (N p : Nat) : unfuseVperm N 0 p = List.range (N - 1) := by
  unfold unfuseVperm
  have : ∀ ax, (if (decide (p ≤ ax) && decide (ax < p + 0)) = true then p + 0 - (ax - p) - 1 else ax) = ax := by
    intro ax
    split
    · rename_i h; simp at h; omega
    · rfl
  conv_rhs => rw [← List.map_id (List.range (N - 1))]
  apply List.map_congr_left
  intro ax _
  exact this ax

theorem unfuseSign_seg (a : Arr R) (ix : Index) (subs : List Index) (p : Nat) (hp : p < a.ndim)
    {A S X : Sector} (hA : A.length = p) (hS : S.length = subs.length) :
    unfuseSign a ix subs p (A ++ S ++ X) = segSign a.sym ix subs S := by
  have hget : ∀ t, t < (List.range subs.length).length →
      (A ++ S ++ X).getD (p + t) (0, 0) = S.getD ((List.range subs.length).getD t 0) (0, 0) := by
    intro t ht
    simp only [List.length_range] at ht
    rw [getD_range_self _ _ ht, ← hA]
    exact getD_mid A S X t (0, 0) (by omega)
  unfold unfuseSign segSign
  split
  · refine congrArg₂ (· * ·) ?_ ?_
    · exact flipSign_transfer a.sym (A ++ S ++ X) S (List.range subs.length) p subs subs (by simp)
        (fun t ht => by simp only [List.length_range] at ht; rw [getD_range_self _ _ ht]) hget
    · by_cases hL : 0 < subs.length
      · rw [koszul_unfuseVperm _ a.ndim subs.length p hp hL]
        have := oddCount_transfer a.sym (A ++ S ++ X) S (List.range subs.length) p hget
        rw [List.length_range] at this
        exact revSign_congr this
      · have h0 : subs.length = 0 := by omega
        rw [h0, unfuseVperm_zero, koszul_id']
        exact (revSign_of_le_one (by simp [oddCount])).symm
  · rfl

end FuseP
end SymmModel
