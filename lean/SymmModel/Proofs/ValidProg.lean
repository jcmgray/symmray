/-
  SymmModel.Proofs.ValidProg — programs of operations preserve validity (property C01).

  `Op R` lists the operations with their parameters (binary operations carry their second
  operand), `Op.admissible` is the decidable precondition of a call, `Op.apply` the model call,
  `Prog.run` executes a list of operations and stops at the first inadmissible call or model
  error.  A program is a chain on ONE array: the second operand of a binary step is a parameter of
  the step.  `Op.dagger` is `FermionicArray.dagger` (admissible on fermionic arrays only);
  `AbelianArray.dagger` is `conj` followed by `transpose` (symmray/abelian_core.py), two steps.
-/
import SymmModel.Proofs.ValidMisc

namespace SymmModel
namespace ValidP
open Sym

variable {R : Type}

inductive Op (R : Type) where
  | transpose (axes : List Nat) (phase : Bool)
  | conj (phasePerm phaseDual : Bool)
  | dagger (phaseDual : Bool)
  | phaseFlip (axs : List Nat)
  | phaseTranspose (axes : Option (List Nat))
  | phaseSector (sector : Sector)
  | phaseGlobal
  | phaseSync
  | expandDims (axis : Nat) (c : Option Charge) (dual : Option Bool)
  | squeeze (axis : Option (List Nat))
  | syncCharges
  | multiplyDiagonal (v : BVec R) (axis : Nat)
  | dropMisaligned (b : Arr R) (axesA axesB : List Nat)
  | tensordot (b : Arr R) (axesA axesB : List Nat) (mode : TdotMode)
  | matmul (b : Arr R)
  | binary (f : R → R → R) (missing : Missing) (y : Arr R)
  | qrQ (K : Kernels R)
  | qrR (K : Kernels R)
  | svdU (K : Kernels R)
  | svdV (K : Kernels R)
  | eighV (K : Kernels R)
  | fuse (groups : List (List Nat)) (expandEmpty : Bool)
  | unfuse (axis : Nat)
  | unfuseAll

/-- the second operand of a blockwise binary operation fits the first one's tables -/
def fitsB (x y : Arr R) : Bool :=
  allDistinct y.sectors
  && y.blocks.all (fun sb =>
      sb.1.length == x.ndim && x.isValidSector sb.1
      && Arr.blockShape? x.indices sb.1 == some sb.2.shape && sb.2.wf)

def Op.admissible : Op R → Arr R → Bool
  | .transpose axes _, a => Arr.isPerm axes a.ndim
  | .conj _ _, _ => true
  | .dagger _, a => a.fermi
  | .phaseFlip _, a => a.fermi
  | .phaseTranspose _, a => a.fermi
  | .phaseSector s, a => a.fermi && s.length == a.ndim && a.isValidSector s
  | .phaseGlobal, a => a.fermi
  | .phaseSync, _ => true
  | .expandDims _ none _, _ => true
  | .expandDims _ (some c) _, a => a.sym.valid c && (!a.fermi || !a.sym.parity c)
  | .squeeze _, _ => true   -- no condition on the sign table since `_map_blocks` drops stale entries
  | .syncCharges, _ => true
  | .multiplyDiagonal _ _, _ => true
  | .dropMisaligned b _ _, _ => b.validB
  | .tensordot b axesA axesB _, a => b.validB && (a.fermi == b.fermi) && tdotAdmissibleB a b axesA axesB
  | .matmul b, a => b.validB && (a.fermi == b.fermi) && matmulAdmissibleB a b
  | .binary _ _ y, x => fitsB x y
  | .qrQ _, _ => true
  | .qrR _, _ => true
  | .svdU _, _ => true
  | .svdV _, _ => true
  | .eighV _, _ => true
  | .fuse groups _, a => fuseAdmissibleB groups a.ndim
  | .unfuse _, _ => true
  | .unfuseAll, _ => true

/-- the (undecidable) part of the precondition: the LAPACK kernels passed to a decomposition
    return factors of the right shapes -/
def Op.KernelOk : Op R → Prop
  | .qrQ K => QrShapeContract K
  | .qrR K => QrShapeContract K
  | .svdU K => SvdShapeContract K
  | .svdV K => SvdShapeContract K
  | .eighV K => EighShapeContract K
  | _ => True

def Op.apply [Zero R] [Add R] [Mul R] [Neg R] [Conj R] : Op R → Arr R → Except Err (Arr R)
  | .transpose axes phase, a => pure (if a.fermi then a.transposeF axes phase else a.transposeA axes)
  | .conj pp pd, a => pure (if a.fermi then a.conjF pp pd else a.conjA)
  | .dagger pd, a => pure (a.daggerF pd)
  | .phaseFlip axs, a => pure (a.phaseFlip axs)
  | .phaseTranspose axes, a => pure (a.phaseTranspose axes)
  | .phaseSector s, a => pure (a.phaseSector s)
  | .phaseGlobal, a => pure a.phaseGlobal
  | .phaseSync, a => pure a.phaseSync
  | .expandDims axis c dual, a => pure (a.expandDims axis c dual)
  | .squeeze axis, a => a.squeeze axis
  | .syncCharges, a => pure a.syncCharges
  | .multiplyDiagonal v axis, a => pure (SymmModel.multiplyDiagonal a v axis)
  | .dropMisaligned b axesA axesB, a => pure (SymmModel.dropMisaligned a b axesA axesB).1
  | .tensordot b axesA axesB mode, a =>
      if a.fermi then
        Arr.tensordotF a b (.pair (axesA.map Int.ofNat) (axesB.map Int.ofNat)) mode
      else tensordotA a b (.pair (axesA.map Int.ofNat) (axesB.map Int.ofNat)) mode
  | .matmul b, a => if a.fermi then a.matmulF b else matmulA a b
  | .binary f missing y, x => do
      let r ← binaryBlockwise (Blk.zipWith f) missing x.blocks y.blocks
      pure { x with blocks := r }
  | .qrQ K, a => do let (q, _) ← qrA K a; pure q
  | .qrR K, a => do let (_, r) ← qrA K a; pure r
  | .svdU K, a => do let (u, _, _) ← svdA K a; pure u
  | .svdV K, a => do let (_, _, v) ← svdA K a; pure v
  | .eighV K, a => do let (_, v) ← eighA K a; pure v
  | .fuse groups expandEmpty, a =>
      if a.fermi then a.fuseF groups .insert expandEmpty else fuseA a groups .insert expandEmpty
  | .unfuse axis, a => if a.fermi then a.unfuseF axis else unfuseA a axis
  | .unfuseAll, a => if a.fermi then a.unfuseAllF else unfuseAllA a

def Op.step [Zero R] [Add R] [Mul R] [Neg R] [Conj R] (op : Op R) (a : Arr R) : Except Err (Arr R) :=
  if op.admissible a then op.apply a else throw Err.value

abbrev Prog (R : Type) := List (Op R)

def Prog.run [Zero R] [Add R] [Mul R] [Neg R] [Conj R] : Prog R → Arr R → Except Err (Arr R)
  | [], a => pure a
  | op :: rest, a => do
    let a' ← op.step a
    Prog.run rest a'

theorem fitsB_blockOk {x y : Arr R} (h : fitsB x y = true) :
    (y.blocks.map (·.1)).Nodup ∧ ∀ sb ∈ y.blocks, BlockOk x.sym x.indices x.charge sb := by
  unfold fitsB at h
  simp only [Bool.and_eq_true, allDistinct_iff_nodup, List.all_eq_true, beq_iff_eq] at h
  refine ⟨h.1, fun sb hsb => ?_⟩
  obtain ⟨⟨⟨h1, h2⟩, h3⟩, h4⟩ := h.2 sb hsb
  simp only [Arr.isValidSector, Arr.ndim, Arr.duals, beq_iff_eq] at h1 h2
  exact ⟨⟨h1, h2⟩, h3, h4⟩

theorem Op.apply_valid [Zero R] [Add R] [Mul R] [Neg R] [Conj R] (op : Op R) (a r : Arr R)
    (hv : Valid a) (hK : op.KernelOk) (hadm : op.admissible a = true)
    (h : op.apply a = .ok r) : Valid r := by
  cases op with
  | transpose axes phase =>
    cases h
    simp only [Op.admissible] at hadm
    split
    · rename_i hf; exact transposeF_valid a axes phase hv hf hadm
    · rename_i hf; exact transposeA_valid a axes hv (by simpa using hf) hadm
  | conj pp pd =>
    cases h
    split
    · rename_i hf; exact conjF_valid a pp pd hv hf
    · rename_i hf; exact conjA_valid a hv (by simpa using hf)
  | dagger pd =>
    cases h
    exact daggerF_valid a pd hv hadm
  | phaseFlip axs =>
    cases h
    exact phaseFlip_valid a axs hv hadm
  | phaseTranspose axes =>
    cases h
    exact phaseTranspose_valid a axes hv hadm
  | phaseSector s =>
    cases h
    simp only [Op.admissible, Bool.and_eq_true, beq_iff_eq, Arr.isValidSector, Arr.ndim,
      Arr.duals] at hadm
    exact phaseSector_valid a s hv hadm.1.1 ⟨hadm.1.2, hadm.2⟩
  | phaseGlobal =>
    cases h
    exact phaseGlobal_valid a hv hadm
  | phaseSync =>
    cases h
    exact phaseSync_valid a hv
  | expandDims axis c dual =>
    cases h
    cases c with
    | none => exact expandDims_none_valid a axis dual hv
    | some c =>
      simp only [Op.admissible, Bool.and_eq_true, Bool.or_eq_true, Bool.not_eq_true'] at hadm
      exact expandDims_some_valid a axis c dual hv hadm.1 hadm.2
  | squeeze axis =>
    exact squeeze_valid_any_phases a axis r hv h
  | syncCharges =>
    cases h
    exact syncCharges_valid a hv
  | multiplyDiagonal v axis =>
    cases h
    exact multiplyDiagonal_valid a v axis hv
  | dropMisaligned b axesA axesB =>
    cases h
    exact (dropMisaligned_valid a b axesA axesB hv ((validB_iff b).mp hadm)).1
  | tensordot b axesA axesB mode =>
    simp only [Op.admissible, Bool.and_eq_true, beq_iff_eq] at hadm
    simp only [Op.apply] at h
    split at h
    · rename_i hf
      exact tensordotF_valid_all mode a b r axesA axesB hv ((validB_iff b).mp hadm.1.1)
        hf (by rw [← hadm.1.2]; exact hf) hadm.2 h
    · rename_i hf
      exact tensordotA_valid_all mode a b r axesA axesB hv ((validB_iff b).mp hadm.1.1)
        (by simpa using hf) hadm.2 h
  | matmul b =>
    simp only [Op.admissible, Bool.and_eq_true, beq_iff_eq] at hadm
    simp only [Op.apply] at h
    split at h
    · rename_i hf
      exact matmulF_valid a b r hv ((validB_iff b).mp hadm.1.1) hf (by rw [← hadm.1.2]; exact hf)
        hadm.2 h
    · rename_i hf
      exact matmulA_valid a b r hv ((validB_iff b).mp hadm.1.1) (by simpa using hf) hadm.2 h
  | eighV K =>
    obtain ⟨⟨w, v⟩, hwv, h⟩ := bind_ok h
    cases h
    exact eighA_valid K a _ _ hv hK hwv
  | qrQ K =>
    obtain ⟨⟨q, r'⟩, hqr, h⟩ := bind_ok h
    cases h
    exact (qrA_valid K a _ _ hv hK hqr).1
  | qrR K =>
    obtain ⟨⟨q, r'⟩, hqr, h⟩ := bind_ok h
    cases h
    exact (qrA_valid K a _ _ hv hK hqr).2
  | svdU K =>
    obtain ⟨⟨u, s, v⟩, husv, h⟩ := bind_ok h
    cases h
    exact (svdA_valid K a _ _ _ hv hK husv).1
  | svdV K =>
    obtain ⟨⟨u, s, v⟩, husv, h⟩ := bind_ok h
    cases h
    exact (svdA_valid K a _ _ _ hv hK husv).2.1
  | fuse groups expandEmpty =>
    simp only [Op.apply] at h
    split at h
    · rename_i hf; exact fuseF_valid a r groups expandEmpty hv hf hadm h
    · rename_i hf; exact fuseA_valid a r groups expandEmpty hv (by simpa using hf) hadm h
  | unfuse axis =>
    simp only [Op.apply] at h
    split at h
    · rename_i hf; exact unfuseF_valid a r axis hv hf h
    · rename_i hf; exact unfuseA_valid a r axis hv (by simpa using hf) h
  | unfuseAll =>
    simp only [Op.apply] at h
    split at h
    · rename_i hf; exact unfuseAllF_valid a r hv hf h
    · rename_i hf; exact unfuseAllA_valid a r hv (by simpa using hf) h
  | binary f missing y =>
    obtain ⟨blocks, hb, h⟩ := bind_ok h
    cases h
    obtain ⟨h1, h2⟩ := fitsB_blockOk hadm
    exact binaryBlockwise_valid_of_blocks _ (zipWith_shapePreserving f) missing a y.blocks blocks hv h1 h2 hb

theorem Op.step_valid [Zero R] [Add R] [Mul R] [Neg R] [Conj R] (op : Op R) (a r : Arr R)
    (hv : Valid a) (hK : op.KernelOk) (h : op.step a = .ok r) : Valid r := by
  unfold Op.step at h
  split at h
  · rename_i hadm; exact op.apply_valid a r hv hK hadm h
  · cases h

theorem Prog.run_eq_foldlM [Zero R] [Add R] [Mul R] [Neg R] [Conj R] (p : Prog R) (a : Arr R) :
    p.run a = p.foldlM (fun x op => op.step x) a := by
  induction p generalizing a with
  | nil => rfl
  | cons op rest ih => simp only [Prog.run, List.foldlM_cons, ih]

theorem Prog.run_valid [Zero R] [Add R] [Mul R] [Neg R] [Conj R] (p : Prog R) (a r : Arr R)
    (hv : Valid a) (hK : ∀ op ∈ p, op.KernelOk) (h : p.run a = .ok r) : Valid r :=
  foldlM_ok_inv (fun x : Arr R => Valid x) _ p a r hv
    (fun x op x' hop hx hs => op.step_valid x x' hx (hK op hop) hs) (p.run_eq_foldlM a ▸ h)

end ValidP
end SymmModel
