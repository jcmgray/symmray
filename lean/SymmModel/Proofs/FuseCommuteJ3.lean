/-
  SymmModel.Proofs.FuseCommuteJ3 — fermionic two-sided free-leg form with the contractions in any
  mode: `tensordot_fuse_free_commute_fermionic_two_sided_any_mode` is
  `tensordot_fuse_free_commute_fermionic_two_sided` (FuseCommuteJ2, all calls blockwise) with the
  plain call in mode `m1` and the call on the two pre-fused operands in mode `m2`, each carried to its
  blockwise result by `TdotP.call_any` (padding).  The intermediate results stay the blockwise ones.
  Namespace `SymmModel.C06`.
-/
import SymmModel.Proofs.FuseCommuteJ2

namespace SymmModel.C06
open SymmModel SymmModel.TdotP SymmModel.GradedP SymmModel.RoutesP SymmModel.AssocP
open SymmModel.Assoc3P SymmModel.Assoc4P
open SymmModel.Lazy (sgnI)

variable {R : Type}

/-- **fermionic, BOTH operands, ANY mode**: the closed form of
    `tensordot_fuse_free_commute_fermionic_two_sided` with the plain contraction `cm = tensordotF(a, b)`
    in mode `m1` and the contraction of the two pre-fused operands in mode `m2` (each blockwise / fused /
    auto).  The decoders and the two fuse signs are those of the BLOCKWISE intermediate results
    `cP = tensordotF(a, bF)`, `c' = tensordotF(b, a)`. -/
theorem tensordot_fuse_free_commute_fermionic_two_sided_any_mode [AddCommMonoid R] [Mul R] [Neg R] [SignRing R]
    (hz1 : ∀ x : R, 0 * x = 0) (hz2 : ∀ x : R, x * 0 = 0) (hmul : ∀ x y : R, x * y = y * x)
    (a b cm : Arr R) (xa xb : List Nat) (ka kb : Nat) (e : Bool) (m1 m2 : TdotMode)
    (ha : a.validB = true) (hb : b.validB = true) (hfa : a.fermi = true) (hfb : b.fermi = true)
    (hadm : tdotAdmissibleCommonB a b xa xb = true)
    (hd : (a.oddpos ++ b.oddpos).Pairwise (fun x y => x.1 ≠ y.1))
    (hka1 : 1 ≤ ka) (hka : ka ≤ a.ndim) (hxa : ∀ x ∈ xa, ka ≤ x)
    (hkb1 : 1 ≤ kb) (hkb : kb ≤ b.ndim) (hxb : ∀ x ∈ xb, kb ≤ x)
    (hcm : a.tensordotF b (.pair (xa.map Int.ofNat) (xb.map Int.ofNat)) m1 = .ok cm) :
    a.fuseF [List.range ka] .insert e
        = .ok (FuseP.fusedArrM (FuseP.signAdj a [List.range ka]) [List.range ka])
    ∧ b.fuseF [List.range kb] .insert e
        = .ok (FuseP.fusedArrM (FuseP.signAdj b [List.range kb]) [List.range kb])
    ∧ ∃ c' cP cPPm,
      b.tensordotF a (.pair (xb.map Int.ofNat) (xa.map Int.ofNat)) .blockwise = .ok c'
      ∧ a.tensordotF (FuseP.fusedArrM (FuseP.signAdj b [List.range kb]) [List.range kb])
          (.pair (xa.map Int.ofNat) ((xb.map (sh kb)).map Int.ofNat)) .blockwise = .ok cP
      ∧ (FuseP.fusedArrM (FuseP.signAdj a [List.range ka]) [List.range ka]).tensordotF
          (FuseP.fusedArrM (FuseP.signAdj b [List.range kb]) [List.range kb])
          (.pair ((xa.map (sh ka)).map Int.ofNat) ((xb.map (sh kb)).map Int.ofNat)) m2 = .ok cPPm
      ∧ c'.fuseF [List.range kb] .insert e
          = .ok (FuseP.fusedArrM (FuseP.signAdj c' [List.range kb]) [List.range kb])
      ∧ cP.fuseF [List.range ka] .insert e
          = .ok (FuseP.fusedArrM (FuseP.signAdj cP [List.range ka]) [List.range ka])
      ∧ kb ≤ c'.ndim ∧ ka ≤ cP.ndim
      ∧ ∀ (c0a c2a c0b c2b : Charge) (i0a d0a i2a d2a i0b d0b i2b d2b : Nat)
          (Sa Sb restL restR : Sector) (Oa Ob orestL orestR shp1 shp2 : List Nat),
        -- the left fused position
        decAx (FuseP.signAdj a [List.range ka]) [List.range ka] 0 c0a i0a = some (Sa, Oa) →
        (FuseP.ixM (FuseP.signAdj a [List.range ka]) [List.range ka] 0).sizeOf? c0a = some d0a →
        i0a < d0a →
        decAx (FuseP.signAdj cP [List.range ka]) [List.range ka] 0 c2a i2a = some (Sa, Oa) →
        (FuseP.ixM (FuseP.signAdj cP [List.range ka]) [List.range ka] 0).sizeOf? c2a = some d2a →
        i2a < d2a →
        -- the right fused position
        decAx (FuseP.signAdj b [List.range kb]) [List.range kb] 0 c0b i0b = some (Sb, Ob) →
        (FuseP.ixM (FuseP.signAdj b [List.range kb]) [List.range kb] 0).sizeOf? c0b = some d0b →
        i0b < d0b →
        decAx (FuseP.signAdj c' [List.range kb]) [List.range kb] 0 c2b i2b = some (Sb, Ob) →
        (FuseP.ixM (FuseP.signAdj c' [List.range kb]) [List.range kb] 0).sizeOf? c2b = some d2b →
        i2b < d2b →
        -- the rest of the address lies inside the tables of `cP` resp. `c'`
        Arr.blockShape? (cP.indices.drop ka) (restL ++ c0b :: restR) = some shp1 →
        inBox shp1 (orestL ++ i0b :: orestR) = true →
        Arr.blockShape? (c'.indices.drop kb) (restR ++ (Sa ++ restL)) = some shp2 →
        inBox shp2 (orestR ++ (Oa ++ orestL)) = true →
        (Sa ++ restL).length = (freeAxes a.ndim xa).length →
        (Oa ++ orestL).length = (freeAxes a.ndim xa).length →
        restR.length + 1 = (freeAxes (1 + (b.ndim - kb)) (xb.map (sh kb))).length →
        orestR.length = restR.length →
        (Sb ++ restR).length = (freeAxes b.ndim xb).length →
        (Ob ++ orestR).length = (freeAxes b.ndim xb).length →
        -- the addresses lie inside the operands' tables
        inBox (Arr.blockShapeD
            (without (FuseP.fusedArrM (FuseP.signAdj b [List.range kb]) [List.range kb]).indices
                (xb.map (sh kb)) ++ without a.indices xa) ((c0b :: restR) ++ (Sa ++ restL)))
          ((i0b :: orestR) ++ (Oa ++ orestL)) = true →
        inBox (Arr.blockShapeD (without a.indices xa ++ without b.indices xb)
            ((Sa ++ restL) ++ (Sb ++ restR))) ((Oa ++ orestL) ++ (Ob ++ orestR)) = true →
        -- the address of the pre-fused contraction lies inside the tables of the fused operands
        inBox (Arr.blockShapeD
            (without (FuseP.fusedArrM (FuseP.signAdj a [List.range ka]) [List.range ka]).indices
                (xa.map (sh ka))
              ++ without (FuseP.fusedArrM (FuseP.signAdj b [List.range kb]) [List.range kb]).indices
                (xb.map (sh kb))) (c0a :: (restL ++ c0b :: restR)))
          (i0a :: (orestL ++ i0b :: orestR)) = true →
        cPPm.elem (c0a :: (restL ++ c0b :: restR)) (i0a :: (orestL ++ i0b :: orestR))
          = sgnI (FuseP.fuseSignT cP [List.range ka] (Sa ++ (restL ++ c0b :: restR)))
             (sgnI (koszul (((c0b :: restR) ++ (Sa ++ restL)).map a.sym.parity)
                (some ((List.range (Sa ++ restL).length).map ((restR.length + 1) + ·)
                  ++ List.range (restR.length + 1))))
              (sgnI (FuseP.fuseSignT c' [List.range kb] (Sb ++ (restR ++ (Sa ++ restL))))
               (sgnI (koszul (((Sa ++ restL) ++ (Sb ++ restR)).map a.sym.parity)
                  (some ((List.range (Sb ++ restR).length).map ((Sa ++ restL).length + ·)
                    ++ List.range (Sa ++ restL).length)))
                (cm.elem ((Sa ++ restL) ++ (Sb ++ restR)) ((Oa ++ orestL) ++ (Ob ++ orestR)))))) := by
  have W := AdmW.of ha hb hfa hfb hadm
  obtain ⟨c, hc, pc, ic, _⟩ := call_any hz1 hz2 a b xa xb W m1 cm hcm
  obtain ⟨hfA, hfB, c', cP, cPP, hc', hcP, hcPP, hfC', hfCP, hk1', hk2', _, _, hel⟩ :=
    tensordot_fuse_free_commute_fermionic_two_sided hz1 hz2 hmul a b c xa xb ka kb e ha hb hfa hfb hadm hd hka1 hka hxa
      hkb1 hkb hxb hc
  have WR := admW_fuse_lead_right W kb e hkb1 hkb hxb
  have WW := admW_fuse_lead WR ka e hka1 hka hxa
  obtain ⟨cPPm, hcPPm⟩ := call_any_exists hz1 hz2 _ _ _ _ WW cPP hcPP m2
  obtain ⟨rb, hrb, prb, irb, _⟩ := call_any hz1 hz2 _ _ _ _ WW m2 cPPm hcPPm
  rw [hcPP] at hrb
  obtain rfl := Except.ok.inj hrb
  refine ⟨hfA, hfB, c', cP, cPPm, hc', hcP, hcPPm, hfC', hfCP, hk1', hk2', ?_⟩
  intro c0a c2a c0b c2b i0a d0a i2a d2a i0b d0b i2b d2b Sa Sb restL restR Oa Ob orestL orestR shp1 shp2
    a1 a2 a3 a4 a5 a6 b1 b2 b3 b4 b5 b6 hs1 hx1 hs2 hx2 l1 l2 l3 l4 l5 l6 box3 box4 box5
  rw [pad_elem_big prb irb.frame _ _ box5, pad_elem_big pc ic.frame _ _ box4]
  exact (hel c0a c2a c0b c2b i0a d0a i2a d2a i0b d0b i2b d2b Sa Sb restL restR Oa Ob orestL orestR
    shp1 shp2 a1 a2 a3 a4 a5 a6 b1 b2 b3 b4 b5 b6 hs1 hx1 hs2 hx2 l1 l2 l3 l4 l5 l6 box3 box4).2.2

end SymmModel.C06
