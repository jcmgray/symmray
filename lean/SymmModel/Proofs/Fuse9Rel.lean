/-
  SymmModel.Proofs.Fuse9Rel — the relation "`z` is `conjF w` up to the flip over a list of axes" and
  its propagation through one `unfuseF` step on both arrays.
-/
import SymmModel.Proofs.Fuse9Step
import SymmModel.Proofs.Fuse6Box
namespace SymmModel
namespace FuseP
set_option linter.unusedSectionVars false
open SymmModel.Lazy SymmModel.KoszulP SymmModel.LinalgLemmas

variable {R : Type} [Zero R] [Neg R] [Conj R] [LawfulNegConj R]

/-- `z` is `conjF w` on every box, up to the sign `flipSign axes` of the sector -/
structure CRel (axes : List Nat) (z w : Arr R) : Prop where
  zv : z.validB = true
  zf : z.fermi = true
  wv : w.validB = true
  wf : w.fermi = true
  idx : z.indices = w.conjF.indices
  sym : z.sym = w.conjF.sym
  charge : z.charge = w.conjF.charge
  oddpos : z.oddpos = w.conjF.oddpos
  elem : ∀ K shp, Arr.blockShape? z.indices K = some shp → ∀ J, inBox shp J = true →
    z.elem K J = sgnI (Lazy.flipSign w.sym axes K) (w.conjF.elem K J)

theorem CRel.base (y : Arr R) (hv : y.validB = true) (hf : y.fermi = true) : CRel [] y.conjF y :=
  ⟨C01.conjF_valid y true false hv hf, by rw [(conjF_frame y true false).2.1]; exact hf, hv, hf, rfl, rfl, rfl, rfl,
    fun K _ _ J _ => by rw [flipSign_nil, sgnI_one]⟩

theorem flipSign_collapse (sym : Sym) (axes : List Nat) {p L : Nat} {A S X : Sector} (c : Charge)
    (hA : A.length = p) (hS : S.length = L) (hL : 0 < L) (hax : ∀ ax ∈ axes, p < ax) :
    Lazy.flipSign sym axes (A ++ [c] ++ X) = Lazy.flipSign sym (axes.map (fun ax => ax + L - 1)) (A ++ S ++ X) := by
  unfold Lazy.flipSign Lazy.flipOdd
  rw [List.filter_map, List.length_map]
  have : axes.filter (fun ax => sym.parity ((A ++ [c] ++ X).getD ax (0, 0)))
      = axes.filter ((fun ax => sym.parity ((A ++ S ++ X).getD ax (0, 0))) ∘ fun ax => ax + L - 1) := by
    apply List.filter_congr
    intro ax hm
    have hp := hax ax hm
    simp only [Function.comp]
    obtain ⟨j, rfl⟩ : ∃ j, ax = p + 1 + j := ⟨ax - p - 1, by omega⟩
    have e1 : (A ++ [c] ++ X).getD (p + 1 + j) (0, 0) = X.getD j (0, 0) := by
      have := getD_after (A ++ [c]) X j (0, 0)
      simp only [List.length_append, hA, List.length_cons, List.length_nil] at this
      exact this
    have e2 : (A ++ S ++ X).getD (p + 1 + j + L - 1) (0, 0) = X.getD j (0, 0) := by
      have := getD_after (A ++ S) X j (0, 0)
      simp only [List.length_append, hA, hS] at this
      rw [show p + 1 + j + L - 1 = p + L + j by omega]
      exact this
    rw [e1, e2]
  rw [this]

theorem unfuseSign_congr (a b : Arr R) (h1 : a.sym = b.sym) (h2 : a.ndim = b.ndim) (ix : Index)
    (subs : List Index) (p : Nat) : unfuseSign a ix subs p = unfuseSign b ix subs p := by
  funext K
  simp only [unfuseSign, h1, h2]

theorem CRel.step {axes : List Nat} {z w : Arr R} (h : CRel axes z w) {p : Nat} {ix : Index}
    {subs : List Index} {exts : Extents} (hix : w.indices[p]? = some ix) (hsub : ix.sub = some (subs, exts))
    (hL : 0 < subs.length) (hax : ∀ ax ∈ axes, p < ax) :
    ∃ w' z', Arr.unfuseF w p = .ok w' ∧ Arr.unfuseF z p = .ok z'
      ∧ w'.indices = replaceWithSeq w.indices p subs
      ∧ CRel ((mismatchLegs ix subs).map (fun t => p + t) ++ axes.map (fun ax => ax + subs.length - 1)) z' w' := by
  obtain ⟨u, u', hu, hu', huv, huf, hu'v, hu'f, hui, hi', hs', hc', ho', hel⟩ :=
    conj_unfuse_step w h.wv h.wf hix hsub
  have hfw := conjF_frame w true false
  have hixz : z.indices[p]? = some ix.conj := by rw [h.idx, hfw.2.2.1, List.getElem?_map, hix]; rfl
  have hixc : w.conjF.indices[p]? = some ix.conj := by rw [← h.idx]; exact hixz
  have hsubc := conj_sub ix hsub
  have hvc : w.conjF.validB = true := C01.conjF_valid w true false h.wv h.wf
  obtain ⟨z', hz', hzi, hzv⟩ := unfuseF_val z p ix.conj (subs.map Index.conj) exts h.zv hixz hsubc
  obtain ⟨u2, hu2, hu2i, hu2v⟩ := unfuseF_val w.conjF p ix.conj (subs.map Index.conj) exts hvc hixc hsubc
  rw [hu'] at hu2
  simp only [Except.ok.injEq] at hu2
  subst hu2
  obtain ⟨hVz', hfz'⟩ := ValidP.unfuseF_valid' z z' p ((ValidP.validB_iff z).1 h.zv) h.zf hz'
  obtain ⟨fz1, fz2, fz3⟩ := unfuseF_frame z p h.zv hixz hsubc hz'
  obtain ⟨fu1, fu2, fu3⟩ := unfuseF_frame w.conjF p hvc hixc hsubc hu'
  obtain ⟨fw1, _, _⟩ := unfuseF_frame w p h.wv hix hsub hu
  have hzu : z'.indices = u'.indices := by rw [hzi, hu2i, h.idx]
  refine ⟨u, z', hu, hz', hui, ⟨(ValidP.validB_iff z').2 hVz', hfz', huv, huf, by rw [hzu, hi'],
    by rw [fz1, h.sym, ← fu1, hs'], by rw [fz2, h.charge, ← fu2, hc'], by rw [fz3, h.oddpos, ← fu3, ho'], ?_⟩⟩
  intro K shp hK J hJ
  have hKu : Arr.blockShape? u'.indices K = some shp := by rw [← hzu]; exact hK
  rw [flipSign_append, sgnI_mul (Lazy.flipSign_pm _ _ _) (Lazy.flipSign_pm _ _ _), sgnI_comm, fw1,
    ← hel K shp hKu J hJ,
    hzv K shp hK J hJ, hu2v K shp hKu J hJ, h.sym,
    unfuseSign_congr z w.conjF h.sym (by show z.indices.length = _; rw [h.idx]; rfl)]
  obtain ⟨A, S, X, A', S', X', rfl, rfl, hA, hSc, hA', hSc'⟩ :=
    box_parts (getElem?_lt hixz) (by rw [← hzi]; exact hK) hJ
  have hS : S.length = subs.length := by rw [hSc, List.length_map]
  rw [unfVal_parts _ _ _ _ _ _ hA hSc hA' hSc', unfVal_parts _ _ _ _ _ _ hA hSc hA' hSc']
  cases hl : look w.conjF.sym ix.conj (subs.map Index.conj) exts S with
  | none => simp only; rw [sgnI_zero]
  | some q =>
    obtain ⟨st, sub⟩ := q
    simp only
    have hwz : Index.wfB w.conjF.sym ix.conj = true := by
      have := (validArr_of_validB h.zv).idx ix.conj (getElem?_mem' hixz)
      rw [h.sym] at this; exact this
    obtain ⟨IA, IX, hI, hIA⟩ := parts_at hixz
    have hK' : Arr.blockShape? (IA ++ subs.map Index.conj ++ IX) (A ++ S ++ X) = some shp := by
      rw [hzi, hI, replace_parts hIA] at hK; exact hK
    obtain ⟨shp1, hb1, hj1⟩ := collapse_box hwz hsubc (by rw [hA, hIA]) hSc (by rw [hA', hIA]) hSc' hK' hJ hl
    rw [← hI] at hb1
    rw [h.elem _ shp1 hb1 _ hj1, sgnI_comm]
    refine congrArg (sgnI · _) ?_
    rw [hfw.1]
    exact flipSign_collapse w.sym axes _ hA hS hL hax

end FuseP
end SymmModel
