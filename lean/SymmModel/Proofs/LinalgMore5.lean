/-
  SymmModel.Proofs.LinalgMore5 — the truncation error identity of C13:
  ‖b − u[:, :c] · diag(s[:c]) · vh[:c, :]‖² = Σ_{t ≥ c} |s[t]|²  (finite-sum algebra in a
  commutative ring with a conjugation), per block and for the model's truncated factors.
-/
import SymmModel.Proofs.LinalgMore4
import Mathlib.Algebra.BigOperators.Ring.Finset
import Mathlib.Algebra.BigOperators.Intervals

namespace SymmModel
namespace LinalgLemmas

open Finset

variable {R : Type}

theorem ortho_contract [CommRing R] (conj : R →+* R) (n : ℕ) (T : Finset ℕ) (A : ℕ → R)
    (C : ℕ → ℕ → R)
    (hC : ∀ t ∈ T, ∀ t' ∈ T, ∑ j ∈ range n, conj (C t j) * C t' j = if t = t' then 1 else 0) :
    ∑ j ∈ range n, conj (∑ t ∈ T, A t * C t j) * (∑ t' ∈ T, A t' * C t' j)
      = ∑ t ∈ T, conj (A t) * A t := by
  calc ∑ j ∈ range n, conj (∑ t ∈ T, A t * C t j) * (∑ t' ∈ T, A t' * C t' j)
      = ∑ j ∈ range n, ∑ t ∈ T, ∑ t' ∈ T, (conj (A t) * conj (C t j)) * (A t' * C t' j) := by
        apply sum_congr rfl
        intro j _
        rw [map_sum, sum_mul_sum]
        apply sum_congr rfl
        intro t _
        apply sum_congr rfl
        intro t' _
        rw [map_mul]
    _ = ∑ t ∈ T, ∑ t' ∈ T, ∑ j ∈ range n, (conj (A t) * conj (C t j)) * (A t' * C t' j) := by
        rw [sum_comm]
        apply sum_congr rfl
        intro t _
        rw [sum_comm]
    _ = ∑ t ∈ T, ∑ t' ∈ T, (conj (A t) * A t') * (∑ j ∈ range n, conj (C t j) * C t' j) := by
        apply sum_congr rfl
        intro t _
        apply sum_congr rfl
        intro t' _
        rw [mul_sum]
        apply sum_congr rfl
        intro j _
        ring
    _ = ∑ t ∈ T, ∑ t' ∈ T, (if t = t' then conj (A t) * A t' else 0) := by
        apply sum_congr rfl
        intro t ht
        apply sum_congr rfl
        intro t' ht'
        rw [hC t ht t' ht']
        split <;> simp
    _ = ∑ t ∈ T, conj (A t) * A t := by
        apply sum_congr rfl
        intro t ht
        rw [sum_ite_eq, if_pos ht]

/-- **tail identity**: the squared norm of `Σ_{t ∈ T} s_t · u_t ⊗ vh_t` with orthonormal `u_t`
    (columns) and `vh_t` (rows) is `Σ_{t ∈ T} conj(s_t) · s_t` -/
theorem tail_normSq [CommRing R] (conj : R →+* R) (m n : ℕ) (T : Finset ℕ) (u : ℕ → ℕ → R)
    (s : ℕ → R) (vh : ℕ → ℕ → R)
    (hu : ∀ t ∈ T, ∀ t' ∈ T, ∑ i ∈ range m, conj (u i t) * u i t' = if t = t' then 1 else 0)
    (hv : ∀ t ∈ T, ∀ t' ∈ T, ∑ j ∈ range n, conj (vh t j) * vh t' j = if t = t' then 1 else 0) :
    ∑ i ∈ range m, ∑ j ∈ range n,
        conj (∑ t ∈ T, (u i t * s t) * vh t j) * (∑ t' ∈ T, (u i t' * s t') * vh t' j)
      = ∑ t ∈ T, conj (s t) * s t := by
  calc ∑ i ∈ range m, ∑ j ∈ range n,
        conj (∑ t ∈ T, (u i t * s t) * vh t j) * (∑ t' ∈ T, (u i t' * s t') * vh t' j)
      = ∑ i ∈ range m, ∑ t ∈ T, conj (u i t * s t) * (u i t * s t) := by
        apply sum_congr rfl
        intro i _
        exact ortho_contract conj n T (fun t => u i t * s t) vh hv
    _ = ∑ t ∈ T, ∑ i ∈ range m, conj (u i t * s t) * (u i t * s t) := sum_comm
    _ = ∑ t ∈ T, (conj (s t) * s t) * (∑ i ∈ range m, conj (u i t) * u i t) := by
        apply sum_congr rfl
        intro t _
        rw [mul_sum]
        apply sum_congr rfl
        intro i _
        rw [map_mul]; ring
    _ = ∑ t ∈ T, conj (s t) * s t := by
        apply sum_congr rfl
        intro t ht
        rw [hu t ht t ht, if_pos rfl, mul_one]

theorem foldl_eq_sum [AddCommMonoid R] (f : ℕ → R) (k : ℕ) :
    (List.range k).foldl (fun acc t => acc + f t) 0 = ∑ t ∈ range k, f t := by
  induction k with
  | zero => simp
  | succ k ih => rw [List.range_succ, List.foldl_append, ih, sum_range_succ]; rfl

theorem sliceK00_get [Zero R] (b : Blk R) {m c i t : Nat} (hi : i < m) (ht : t < c) :
    (b.sliceK [0, 0] [m, c]).get [i, t] = b.get [i, t] := by
  unfold Blk.sliceK
  rw [ofFn_get _ _ ((inBox_pair m c i t).mpr ⟨hi, ht⟩)]
  simp

theorem sliceK0_get [Zero R] (b : Blk R) {c t : Nat} (ht : t < c) :
    (b.sliceK [0] [c]).get [t] = b.get [t] := by
  unfold Blk.sliceK
  rw [ofFn_get _ _ ((inBox_single c t).mpr ht)]
  simp

end LinalgLemmas

/-- orthonormality of the svd factors of ONE block `b` (`m × n`, `k = min m n`): the columns of
    `u` and the rows of `vh` are orthonormal w.r.t. the conjugation `conj`.  A hypothesis on the
    blocks of the call (no kernel over an exact scalar type achieves it for every block). -/
def Kernels.OrthoBlock [CommRing R] (conj : R →+* R) (K : Kernels R) (b : Blk R) : Prop :=
  ∀ m n, b.shape = [m, n] → ∀ t t', t < min m n → t' < min m n →
    (List.range m).foldl
        (fun acc i => acc + conj ((K.svd b).1.get [i, t]) * (K.svd b).1.get [i, t']) 0
      = (if t = t' then 1 else 0)
    ∧ (List.range n).foldl
        (fun acc j => acc + conj ((K.svd b).2.2.get [t, j]) * (K.svd b).2.2.get [t', j]) 0
      = (if t = t' then 1 else 0)

namespace LinalgLemmas
open Finset

theorem truncation_error_block [CommRing R] (conj : R →+* R) {K : Kernels R}
    (hC : K.SVDContract) {b : Blk R} {m n : Nat} (hs : b.shape = [m, n]) (hwf : b.wf = true)
    (hO : K.OrthoBlock conj b) {c : Nat} (hc : c ≤ min m n)
    (P : Nat → Nat → R)
    (hP : ∀ i j, i < m → j < n → P i j
      = ∑ t ∈ range c, ((K.svd b).1.get [i, t] * (K.svd b).2.1.get [t]) * (K.svd b).2.2.get [t, j]) :
    ∑ i ∈ range m, ∑ j ∈ range n,
        conj (b.get [i, j] - P i j) * (b.get [i, j] - P i j)
      = ∑ t ∈ Ico c (min m n), conj ((K.svd b).2.1.get [t]) * (K.svd b).2.1.get [t] := by
  have hdiff : ∀ i ∈ range m, ∀ j ∈ range n, b.get [i, j] - P i j
      = ∑ t ∈ Ico c (min m n),
          ((K.svd b).1.get [i, t] * (K.svd b).2.1.get [t]) * (K.svd b).2.2.get [t, j] := by
    intro i hi j hj
    have hi' := mem_range.mp hi
    have hj' := mem_range.mp hj
    rw [sum_Ico_eq_sub _ hc, ← foldl_eq_sum, hC b m n hs hwf i j hi' hj', hP i j hi' hj']
  rw [← tail_normSq conj m n (Ico c (min m n)) (fun i t => (K.svd b).1.get [i, t])
    (fun t => (K.svd b).2.1.get [t]) (fun t j => (K.svd b).2.2.get [t, j])]
  · apply sum_congr rfl
    intro i hi
    apply sum_congr rfl
    intro j hj
    rw [hdiff i hi j hj]
  · intro t ht t' ht'
    rw [← foldl_eq_sum]
    exact (hO m n hs t t' (mem_Ico.mp ht).2 (mem_Ico.mp ht').2).1
  · intro t ht t' ht'
    rw [← foldl_eq_sum]
    exact (hO m n hs t t' (mem_Ico.mp ht).2 (mem_Ico.mp ht').2).2

theorem sliced_fold_eq_sum [CommRing R] {K : Kernels R} (hK : K.ShapeOk) {b : Blk R} {m n : Nat}
    (hs : b.shape = [m, n]) (hwf : b.wf = true) (c : Nat) {i j : Nat} (hi : i < m) (hj : j < n) :
    (List.range c).foldl (fun acc t' => acc +
        ((((K.svd b).1).sliceK [0, 0] [((K.svd b).1).shape.getD 0 0, c]).get [i, t']
          * (((K.svd b).2.1).sliceK [0] [c]).get [t'])
        * (((K.svd b).2.2).sliceK [0, 0] [c, ((K.svd b).2.2).shape.getD 1 0]).get [t', j]) 0
      = ∑ t' ∈ range c,
        ((K.svd b).1.get [i, t'] * (K.svd b).2.1.get [t']) * (K.svd b).2.2.get [t', j] := by
  obtain ⟨a1, _, _, _, a5, _⟩ := hK.svd b m n hs hwf
  rw [← foldl_eq_sum]
  apply foldl_ext'
  intro acc t' ht'
  have ht'' := List.mem_range.mp ht'
  rw [a1, a5]
  simp only [List.getD_cons_zero, List.getD_cons_succ]
  rw [sliceK00_get _ hi ht'', sliceK0_get _ ht'', sliceK00_get _ ht'' hj]

/-- **truncation error, per kept sector of the truncated decomposition.**  `x` a valid matrix,
    `counts` aligned with its blocks; `t = ((sec, b), c)` a kept block (`c ≠ 0`).  The product of
    the truncated factors (`s` absorbed to the left) differs from `x` on that sector by an array
    whose squared norm is the discarded squared weight `Σ_{c ≤ t' < min m n} |s[t']|²`. -/
theorem truncation_error_kept [CommRing R] (conj : R →+* R) {K : Kernels R} (hK : K.ShapeOk)
    (hC : K.SVDContract) {x : Arr R} (hv : x.validB = true) (h2 : x.ndim = 2)
    {counts : List Nat} (hlen : counts.length = x.blocks.length)
    {t : (Sector × Blk R) × Nat} (ht : t ∈ kept x counts) {m n : Nat}
    (hs : t.1.2.shape = [m, n]) (hO : K.OrthoBlock conj t.1.2) (hc : t.2 ≤ min m n) :
    let U' := truncU x (fun b => (K.svd b).1) counts
    let S' := truncS x (fun b => (K.svd b).2.1) counts
    let V' := truncV x (fun b => (K.svd b).1) (fun b => (K.svd b).2.2) counts
    let P := tensordotBlockwise (absorbA .left id U' S' V').1 (absorbA .left id U' S' V').2
      [0] [1] [0] [1]
    ∑ i ∈ range m, ∑ j ∈ range n,
        conj (x.elem t.1.1 [i, j] - P.elem t.1.1 [i, j])
          * (x.elem t.1.1 [i, j] - P.elem t.1.1 [i, j])
      = ∑ t' ∈ Ico t.2 (min m n), conj ((K.svd t.1.2).2.1.get [t']) * (K.svd t.1.2).2.1.get [t'] := by
  intro U' S' V' P
  obtain ⟨hb, _, _⟩ := kept_mem hlen ht
  have hwf : t.1.2.wf = true := Arr.validB_block_wf hv hb
  have hA := aligned_trunc (K := K) hv h2 hlen
  have hsh := trunc_itemShape hK hv h2 hlen
  obtain ⟨_, _, p3⟩ := absorb_product hA id
    (fun t => (t.1.2.shape.getD 0 0, t.2, t.1.2.shape.getD 1 0)) hsh .left
    (fun h => by cases h)
  have hUph : (truncU x (fun b => (K.svd b).1) counts).phases = x.phases := rfl
  -- the unsigned entries
  have hkey := truncation_error_block conj hC hs hwf hO hc
    (fun i j => ∑ t' ∈ range t.2,
      ((K.svd t.1.2).1.get [i, t'] * (K.svd t.1.2).2.1.get [t']) * (K.svd t.1.2).2.2.get [t', j])
    (fun i j _ _ => rfl)
  rw [← hkey]
  apply sum_congr rfl
  intro i hi
  apply sum_congr rfl
  intro j hj
  have hi' := mem_range.mp hi
  have hj' := mem_range.mp hj
  have hp := p3 t ht i j (by simpa [hs] using hi') (by simpa [hs] using hj')
  simp only at hp
  rw [hp, sliced_fold_eq_sum hK hs hwf t.2 hi' hj', hUph, elem_sgn (Arr.validB_nodup hv) hb, sgnI_sub]
  unfold Lazy.sgnI
  split
  · rw [map_neg]; ring
  · rfl

end LinalgLemmas
end SymmModel
