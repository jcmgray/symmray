/-
  SymmModel.Proofs.Reshape5b — vocabulary of the multi-group round trip: the fused axes of an index
  list (`fusedPL`), the index list with every fused index replaced by its sub-indices (`expand1`),
  the plan of the way back in terms of them, and: a chain of unfuse steps respects equality of
  value views (`chain_veq`, for every step function satisfying `FuseP.StepOK`).
-/
import SymmModel.Proofs.Reshape5a
import SymmModel.Proofs.ReshapeMore
import SymmModel.Props.C05All4

namespace SymmModel
namespace Reshape5
open C07 ReshapeP FuseP

variable {R : Type}

/-- (axis, number of sub-indices) of the fused indices, left to right; `b` = axis of the first -/
def fusedPL : List Index → Nat → List (Nat × Nat)
  | [], _ => []
  | ix :: r, b => match ix.sub with
    | none => fusedPL r (b + 1)
    | some se => (b, se.1.length) :: fusedPL r (b + 1)

def expand1 (idx : List Index) : List Index :=
  idx.flatMap (fun ix => match ix.sub with
    | none => [ix]
    | some se => se.1)

/-- fused indices have at least one sub-index: `FusedOk` (Reshape5a) of the symbolic shape `symOf idx`
    (`fusedOk_symOf`) -/
def Dep1 (idx : List Index) : Prop := ∀ ix ∈ idx, ∀ se, ix.sub = some se → se.1 ≠ []

def Plain (idx : List Index) : Prop := ∀ ix ∈ idx, ix.sub = none

def symOf (idx : List Index) : SymShape :=
  idx.map (fun ix => (ix.sizeTotal, ix.sub.map (fun s => s.1.map Index.sizeTotal)))

theorem symOf_sizes (y : Arr R) : SymShape.sizes (symOf y.indices) = y.shape := by
  simp [symOf, SymShape.sizes, Arr.shape, List.map_map, Function.comp_def]

theorem symOf_subs (y : Arr R) : SymShape.subs (symOf y.indices) = y.subsizes := by
  simp [symOf, SymShape.subs, Arr.subsizes, List.map_map, Function.comp_def]

theorem tgt_symOf (idx : List Index) : tgt (symOf idx) = (expand1 idx).map Index.sizeTotal := by
  induction idx with
  | nil => rfl
  | cons ix r ih =>
    simp only [symOf, List.map_cons, tgt_cons, expand1, List.flatMap_cons, List.map_append] at ih ⊢
    rw [ih]
    congr 1
    cases ix.sub <;> simp [tgt1]

theorem fusedOk_symOf {idx : List Index} (h : Dep1 idx) : FusedOk (symOf idx) := by
  intro e he subs hs
  simp only [symOf, List.mem_map] at he
  obtain ⟨ix, hix, rfl⟩ := he
  simp only at hs
  cases hsub : ix.sub with
  | none => rw [hsub] at hs; cases hs
  | some se =>
    rw [hsub] at hs
    simp only [Option.map_some, Option.some.injEq] at hs
    subst hs
    have := h ix hix se hsub
    simpa using this

theorem backAxes_symOf : ∀ (idx : List Index) (b off : Nat), Dep1 idx →
    backAxes (symOf idx) (b + off) = l2rAxes (fusedPL idx b) off := by
  intro idx
  induction idx with
  | nil => intro b off _; rfl
  | cons ix r ih =>
    intro b off hd
    have hdr : Dep1 r := fun i hi => hd i (by simp [hi])
    cases hsub : ix.sub with
    | none =>
      simp only [symOf, List.map_cons, hsub, Option.map_none, backAxes, fusedPL]
      have := ih (b + 1) off hdr
      simp only [symOf] at this
      rw [← this]; congr 1; omega
    | some se =>
      have hne := hd ix (by simp) se hsub
      have hl : 1 ≤ se.1.length := List.length_pos_iff.mpr hne
      simp only [symOf, List.map_cons, hsub, Option.map_some, backAxes, fusedPL, l2rAxes,
        List.length_map]
      congr 1
      have := ih (b + 1) (off + se.1.length - 1) hdr
      simp only [symOf] at this
      rw [← this]; congr 1; omega

theorem fusedPL_append : ∀ (A B : List Index) (b : Nat),
    fusedPL (A ++ B) b = fusedPL A b ++ fusedPL B (b + A.length) := by
  intro A
  induction A with
  | nil => intro B b; simp [fusedPL]
  | cons ix A ih =>
    intro B b
    simp only [List.cons_append, fusedPL, List.length_cons]
    cases ix.sub with
    | none => simp only []; rw [ih]; congr 2; omega
    | some se => simp only [List.cons_append]; rw [ih]; congr 3; omega

theorem fusedPL_plain {A : List Index} (h : Plain A) (b : Nat) : fusedPL A b = [] := by
  induction A generalizing b with
  | nil => rfl
  | cons ix A ih =>
    simp only [fusedPL, h ix (by simp)]
    exact ih (fun i hi => h i (by simp [hi])) _

theorem expand1_append (A B : List Index) : expand1 (A ++ B) = expand1 A ++ expand1 B := by
  simp [expand1]

theorem expand1_plain {A : List Index} (h : Plain A) : expand1 A = A := by
  induction A with
  | nil => rfl
  | cons ix A ih =>
    simp only [expand1, List.flatMap_cons, h ix (by simp)]
    have := ih (fun i hi => h i (by simp [hi]))
    simp only [expand1] at this
    rw [this]; rfl

theorem fusedPL_mem : ∀ (idx : List Index) (b : Nat) (pl : Nat × Nat), pl ∈ fusedPL idx b →
    ∃ i ix se, pl.1 = b + i ∧ idx[i]? = some ix ∧ ix.sub = some se ∧ se.1.length = pl.2 := by
  intro idx
  induction idx with
  | nil => intro b pl h; simp [fusedPL] at h
  | cons ix r ih =>
    intro b pl h
    have tail : pl ∈ fusedPL r (b + 1) →
        ∃ i ix' se, pl.1 = b + i ∧ (ix :: r)[i]? = some ix' ∧ ix'.sub = some se ∧ se.1.length = pl.2 := by
      intro h
      obtain ⟨i, ix', se, h1, h2, h3, h4⟩ := ih (b + 1) pl h
      exact ⟨i + 1, ix', se, by omega, by rw [List.getElem?_cons_succ]; exact h2, h3, h4⟩
    simp only [fusedPL] at h
    cases hsub : ix.sub with
    | none => rw [hsub] at h; exact tail h
    | some se =>
      rw [hsub] at h
      rcases List.mem_cons.mp h with rfl | h
      · exact ⟨0, ix, se, rfl, rfl, hsub, rfl⟩
      · exact tail h

theorem fusedPL_sorted : ∀ (idx : List Index) (b : Nat), ((fusedPL idx b).map (·.1)).Pairwise (· < ·) := by
  intro idx
  induction idx with
  | nil => intro b; simp [fusedPL]
  | cons ix r ih =>
    intro b
    simp only [fusedPL]
    cases ix.sub with
    | none => exact ih (b + 1)
    | some se =>
      simp only [List.map_cons, List.pairwise_cons]
      refine ⟨?_, ih (b + 1)⟩
      intro q hq
      obtain ⟨pl, hpl, rfl⟩ := List.mem_map.mp hq
      obtain ⟨i, _, _, h, _⟩ := fusedPL_mem r (b + 1) pl hpl
      omega

theorem fusedPL_fusedAtL (y : Arr R) (hd : Dep1 y.indices) :
    ∀ pl ∈ fusedPL y.indices 0, 0 < pl.2 ∧ FusedAtL y pl.1 pl.2 := by
  intro pl hpl
  obtain ⟨i, ix, se, hi, h1, h2, h3⟩ := fusedPL_mem y.indices 0 pl hpl
  rw [Nat.zero_add] at hi
  rw [← hi] at h1
  have hne := hd ix (List.mem_of_getElem? h1) se h2
  refine ⟨by rw [← h3]; exact List.length_pos_iff.mpr hne, ix, se.1, se.2, h1, h2, h3⟩

/-- **the plan of `y.reshape(target)`** when the target is `y`'s shape with every fused axis
    replaced by its sub-sizes: unfuse the fused axes left to right -/
theorem back_plan_arr_multi (y : Arr R) (hd : Dep1 y.indices) :
    calcReshapeArgs y.shape ((expand1 y.indices).map Index.sizeTotal) y.subsizes
      = .ok (l2rAxes (fusedPL y.indices 0) 0, [], []) := by
  have := back_plan_multi (symOf y.indices) (fusedOk_symOf hd)
  rw [symOf_sizes, symOf_subs, tgt_symOf] at this
  rw [this]
  have := backAxes_symOf y.indices 0 0 hd
  simp only [Nat.add_zero] at this
  rw [this]

section Step
variable [Zero R] [Neg R] [Lazy.LawfulNeg R]
variable {unf : Arr R → Nat → Except Err (Arr R)} {Good : Arr R → Prop}
  {sg : Sym → Index → List Index → Sector → Int}

theorem step_of_ok (H : StepOK unf Good sg)
    (hind : ∀ x p y, unf x p = .ok y → ∃ ix subs exts, x.indices[p]? = some ix ∧ ix.sub = some (subs, exts))
    {x y : Arr R} {p : Nat} (hx : Good x) (hu : unf x p = .ok y) :
    ∃ ix subs exts, x.indices[p]? = some ix ∧ ix.sub = some (subs, exts) ∧ Good y
      ∧ y.sym = x.sym ∧ y.fermi = x.fermi ∧ y.charge = x.charge ∧ y.oddpos = x.oddpos := by
  obtain ⟨ix, subs, exts, hix, hsub⟩ := hind x p y hu
  obtain ⟨y1, h1, gy, _, ys, yf, yc, yo, _⟩ := H.step x p ix subs exts hx hix hsub
  rw [hu] at h1; injection h1 with h1; subst h1
  exact ⟨ix, subs, exts, hix, hsub, gy, ys, yf, yc, yo⟩

theorem chain_induction (H : StepOK unf Good sg)
    (hind : ∀ x p y, unf x p = .ok y → ∃ ix subs exts, x.indices[p]? = some ix ∧ ix.sub = some (subs, exts))
    {P : List Nat → Arr R → Arr R → Prop} (hnil : ∀ x, Good x → P [] x x)
    (hcons : ∀ p ps x y z, Good x → unf x p = .ok y → Good y → P ps y z → P (p :: ps) x z) :
    ∀ (ps : List Nat) (x z : Arr R), Good x → ps.foldlM unf x = .ok z → P ps x z := by
  intro ps
  induction ps with
  | nil =>
    intro x z hx hz
    simp only [List.foldlM_nil, pure, Except.pure, Except.ok.injEq] at hz
    subst hz
    exact hnil x hx
  | cons p ps ih =>
    intro x z hx hz
    rw [List.foldlM_cons] at hz
    obtain ⟨y, hu, hz⟩ := bind_ok hz
    obtain ⟨_, _, _, _, _, gy, _⟩ := step_of_ok H hind hx hu
    exact hcons p ps x y z hx hu gy (ih y z gy hz)

theorem chain_veq (H : StepOK unf Good sg)
    (hind : ∀ x p y, unf x p = .ok y → ∃ ix subs exts, x.indices[p]? = some ix ∧ ix.sub = some (subs, exts)) :
    ∀ (ps : List Nat) (x x' z : Arr R), VEq x x' → Good x → Good x' → ps.foldlM unf x = .ok z →
      ∃ z', ps.foldlM unf x' = .ok z' ∧ Good z ∧ Good z' ∧ VEq z z' := by
  intro ps x x' z h hx hx' hz
  refine chain_induction H hind (P := fun ps x z => ∀ x', VEq x x' → Good x' →
    ∃ z', ps.foldlM unf x' = .ok z' ∧ Good z ∧ Good z' ∧ VEq z z') ?_ ?_ ps x z hx hz x' h hx'
  · exact fun x hx x' h hx' => ⟨x', rfl, hx, hx', h⟩
  · intro p ps x y z hx hu _ ih x' h hx'
    obtain ⟨ix, subs, exts, hix, hsub, _⟩ := step_of_ok H hind hx hu
    obtain ⟨y1, y', h1, h2, _, gy', hv⟩ := step_veq H h hx hx' hix hsub
    rw [hu] at h1; injection h1 with h1; subst h1
    obtain ⟨z', hz', g1, g2, hvz⟩ := ih y' hv gy'
    exact ⟨z', by rw [List.foldlM_cons, h2]; exact hz', g1, g2, hvz⟩

end Step

end Reshape5
end SymmModel
