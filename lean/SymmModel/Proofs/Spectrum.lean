/-
  SymmModel.Proofs.Spectrum — pure linear algebra for C12b (the spectrum of the dense form is the union
  of the block spectra), over a commutative ring: a square matrix that vanishes between positions of
  different labels has as characteristic polynomial the product of those of its diagonal blocks.
  The mathematics is Mathlib's `Matrix.BlockTriangular.charpoly` and `Polynomial.roots_list_prod`,
  cited and not reproved; here only their instantiation to a labelling (`charpoly_of_blockDiag`) and to
  `Matrix.blockDiagonal'` (`toSquareBlock_blockDiagonal'`), both used in `Props/C12b.lean`.
-/
import Mathlib.LinearAlgebra.Matrix.Charpoly.Basic
import Mathlib.LinearAlgebra.Matrix.Charpoly.Coeff
import Mathlib.LinearAlgebra.Matrix.Block
import Mathlib.Algebra.Polynomial.Roots

namespace SymmModel
namespace Spectrum

open Matrix Polynomial Finset

variable {R : Type} [CommRing R]

theorem blockTriangular_of_blockDiag {n α : Type} [LinearOrder α] (M : Matrix n n R) (b : n → α)
    (h : ∀ i j, b i ≠ b j → M i j = 0) : M.BlockTriangular b :=
  fun i j hlt => h i j (ne_of_gt hlt)

/-- The linear order on the labels is there only because Mathlib states the product formula for
    block-triangular matrices; a block-diagonal matrix is triangular for any order, so callers pick one
    freely (`Lex (ℤ × ℤ)` for charges). -/
theorem charpoly_of_blockDiag {n α : Type} [Fintype n] [DecidableEq n] [LinearOrder α]
    (M : Matrix n n R) (b : n → α) (h : ∀ i j, b i ≠ b j → M i j = 0) :
    M.charpoly = ∏ a ∈ image b univ, (M.toSquareBlock b a).charpoly :=
  (blockTriangular_of_blockDiag M b h).charpoly

theorem toSquareBlock_blockDiagonal' {o : Type} [DecidableEq o] {n' : o → Type}
    (M : ∀ i, Matrix (n' i) (n' i) R) (k : o) :
    reindex (Equiv.sigmaSubtype k) (Equiv.sigmaSubtype k)
      ((blockDiagonal' M).toSquareBlock Sigma.fst k) = M k := by
  ext i j
  simp only [reindex_apply, submatrix_apply, toSquareBlock_def, of_apply]
  exact blockDiagonal'_apply_eq M k i j

theorem roots_list_prod_charpoly [IsDomain R] (L : List R[X]) (hL : ∀ p ∈ L, p.Monic) :
    L.prod.roots = (L : Multiset R[X]).bind roots := by
  apply roots_list_prod
  intro h0
  exact (hL 0 h0).ne_zero rfl

end Spectrum
end SymmModel
