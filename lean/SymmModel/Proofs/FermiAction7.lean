/-
  SymmModel.Proofs.FermiAction7 — product law of built operator arrays (property C18):
  `tensordot(G₂, G₁)` over the inner bra/ket legs has, at the address of every pair of basis
  multi-indices, the value of the array of `O₂·O₁` (and its charge and empty label list), for any
  number of sites; the labels enter through the hypothesis `hrev` only (for one site it is
  discharged in `C18.product_law_one'`).
-/
import SymmModel.Proofs.FermiAction6

namespace SymmModel
namespace FermiActP
open FermiOpsP GradedP TdotP
open Lazy (sgnI)

section lawn
variable {R : Type} [Ring R] [DecidableEq R]

theorem mem_zip_axes {n a b : Nat}
    (h : (a, b) ∈ ((List.range (2 * n)).drop n).zip (List.range n)) : a = n + b ∧ b < n := by
  obtain ⟨i, hi, e⟩ := List.mem_iff_getElem.mp h
  simp only [List.length_zip, List.length_drop, List.length_range] at hi
  simp only [List.getElem_zip, List.getElem_drop, List.getElem_range, Prod.mk.injEq] at e
  omega

theorem fdIndices_getD (maps : List (List Charge)) (ds : List Bool) (s : Nat)
    (hs : s < maps.length) (hd : ds.length = maps.length) :
    (fdIndices maps ds).getD s default
      = Index.plain (gsizes (maps.getD s [])) (ds.getD s false) := by
  unfold fdIndices
  rw [List.getD_eq_getElem?_getD, List.getElem?_zipWith]
  rw [List.getElem?_eq_getElem hs, List.getElem?_eq_getElem (by omega)]
  simp [List.getD_eq_getElem?_getD, List.getElem?_eq_getElem hs,
    List.getElem?_eq_getElem (show s < ds.length by omega)]

omit [DecidableEq R] in
theorem ops_admissible_n (t2 t1 : List (R × Word)) (bases : List (List Word)) (sym : Sym)
    (maps : List (List Charge)) (hlen : maps.length = bases.length) :
    ValidP.tdotAdmissibleB (opArray t2 bases sym maps) (opArray t1 bases sym maps)
      ((List.range (2 * bases.length)).drop bases.length) (List.range bases.length) = true := by
  have hn2 := (opArray_take_drop t2 bases sym maps hlen).1
  have hn1 := (opArray_take_drop t1 bases sym maps hlen).1
  unfold ValidP.tdotAdmissibleB ValidP.contractibleB
  simp only [Bool.and_eq_true, decide_eq_true_eq, List.all_eq_true, allDistinct_iff_nodup]
  refine ⟨⟨⟨⟨⟨rfl, ?_, ?_⟩, ?_⟩, ?_⟩, ?_⟩, ?_⟩
  · simp; omega
  · rintro ⟨a, b⟩ hab
    obtain ⟨rfl, hb⟩ := mem_zip_axes hab
    simp only [Bool.and_eq_true, beq_iff_eq, bne_iff_ne, ne_eq]
    rw [opArray_indices t2 bases sym maps hlen, opArray_indices t1 bases sym maps hlen]
    have l1 : (fdIndices maps (List.replicate bases.length false)).length = bases.length := by
      rw [fdIndices_length _ _ (by simp [hlen]), hlen]
    have g2 : ∀ A B : List Index, A.length = bases.length →
        (A ++ B).getD (bases.length + b) default = B.getD b default := by
      intro A B hA
      rw [List.getD_eq_getElem?_getD, List.getElem?_append_right (by omega), hA,
        Nat.add_sub_cancel_left, ← List.getD_eq_getElem?_getD]
    have g1 : ∀ A B : List Index, A.length = bases.length →
        (A ++ B).getD b default = A.getD b default := by
      intro A B hA
      rw [List.getD_eq_getElem?_getD, List.getElem?_append_left (by omega),
        ← List.getD_eq_getElem?_getD]
    rw [g2 _ _ l1, g1 _ _ l1, fdIndices_getD maps _ b (by omega) (by simp [hlen]),
      fdIndices_getD maps _ b (by omega) (by simp [hlen])]
    simp [Index.plain, Index.cm, Index.dual, List.getD_eq_getElem?_getD, hb]
  · exact (List.nodup_range).sublist (List.drop_sublist _ _)
  · exact List.nodup_range
  · intro i hi
    rw [hn2]; exact (mem_drop_range.mp hi).2
  · intro i hi
    rw [hn1]; have := List.mem_range.mp hi; omega

/-- **product law** (any number of sites, complete bases): contracting the built array of `O₂`
    with the built array of `O₁` over the inner bra/ket legs gives, at the address of every pair
    of basis multi-indices, the value of the built array of `O₂·O₁` there — the fixed signs `D`
    cancel (`D² = 1`, `DHD_mul_DH`).  Indices and validity of the result are not part of the
    statement.  The labels enter only through `hrev`; for one site both of its signs are `1`
    (`revSign_singleton`, `siteSign_one`). -/
theorem product_law_n (t2 t1 : List (R × Word)) (bases : List (List Word)) (sym : Sym)
    (maps : List (List Charge)) (hmaps : maps.map List.length = bases.map List.length)
    (hv : ∀ m ∈ maps, ∀ c ∈ m, sym.valid c = true) (hd : SitesDisjoint bases)
    (q1 q2 : Int → Int) (hcm : ChargeMaps sym q1 q2 bases maps)
    (hn1 : ∀ ct ∈ t1, wordCharge q1 ct.2 = 0 ∧ wordCharge q2 ct.2 = 0)
    (hn2 : ∀ ct ∈ t2, wordCharge q1 ct.2 = 0 ∧ wordCharge q2 ct.2 = 0)
    (hrev : ∀ js, inBox (maps.map List.length) js = true →
      revSign sym (labelsAt maps js) = siteSign bases js)
    (M : List Int)
    (hc : CompleteKets M ((allIdx (bases.map List.length)).map (ketOf bases)))
    (ht1 : ∀ ct ∈ t1, ∀ o ∈ ct.2, o.label ∈ M)
    (hb : ∀ b ∈ bases, ∀ w ∈ b, ∀ o ∈ w, o.label ∈ M)
    (c : Arr R)
    (h : (opArray t2 bases sym maps).tensordotF (opArray t1 bases sym maps)
        (.pair (((List.range (2 * bases.length)).drop bases.length).map Int.ofNat)
          ((List.range bases.length).map Int.ofNat)) .blockwise = .ok c) :
    c.oddpos = [] ∧ c.charge = sym.combine [sym.zero, sym.zero]
    ∧ ∀ is js, inBox (bases.map List.length) is = true → inBox (bases.map List.length) js = true →
        c.elem (labelsAt maps is ++ labelsAt maps js) (ranksOf maps is ++ ranksOf maps js)
          = (opArray (mulTerms t2 t1) bases sym maps).elem
              (labelsAt maps is ++ labelsAt maps js) (ranksOf maps is ++ ranksOf maps js) := by
  have hlen : maps.length = bases.length := by
    have := congrArg List.length hmaps; simpa using this
  have hG1 := opArray_valid t1 bases sym maps hmaps hv
  obtain ⟨out, ph, h1, h2, h3, h4⟩ := action_DHD t2 bases sym maps hmaps hv hd q1 q2 hcm
    (fun ct hct => (hn2 ct hct).1) (fun ct hct => (hn2 ct hct).2) hrev
    (opArray t1 bases sym maps) c hG1 rfl (ops_admissible_n t2 t1 bases sym maps hlen) h
  have hodd : (opArray t1 bases sym maps).oddpos = [] := rfl
  rw [hodd] at h1
  have hph : out = [] ∧ ph = 1 := by
    have : OddposP.mergeOddpos false [] [] = .ok ([], 1) := rfl
    rw [this] at h1
    simp only [Except.ok.injEq, Prod.mk.injEq] at h1
    exact ⟨h1.1.symm, h1.2.symm⟩
  obtain ⟨rfl, rfl⟩ := hph
  refine ⟨h2, h3, ?_⟩
  intro is js his hjs
  have hisM : inBox (maps.map List.length) is = true := by rw [hmaps]; exact his
  have hjsM : inBox (maps.map List.length) js = true := by rw [hmaps]; exact hjs
  obtain ⟨i1, i2, i3⟩ := fdOrig_of_index maps is hisM
  obtain ⟨j1, j2, j3⟩ := fdOrig_of_index maps js hjsM
  have hil : is.length = bases.length := by have := inBox_length his; simpa using this
  have hshp : Arr.blockShape? ((opArray t1 bases sym maps).indices.drop bases.length) (labelsAt maps js)
      = some ((fdPos maps (labelsAt maps js)).map List.length) := by
    rw [(opArray_take_drop t1 bases sym maps hlen).2.2]
    exact blockShape_fdIndices maps _ _ (by simp [hlen]) j1
  rw [h4 is _ _ _ his hshp j2, Lazy.sgnI_one]
  have hn21 := mulTerms_neutral q1 t2 t1 (fun ct h => (hn2 ct h).1) (fun ct h => (hn1 ct h).1)
  have hn21' := mulTerms_neutral q2 t2 t1 (fun ct h => (hn2 ct h).2) (fun ct h => (hn1 ct h).2)
  rw [opArray_elem_split (mulTerms t2 t1) bases sym maps hmaps _ _ _ _ i1 j1 i2 j2, i3, j3,
    opEntry_eq_specAt (mulTerms t2 t1) bases sym maps q1 q2 hcm hn21 hn21',
    specAt_eq_DH (mulTerms t2 t1) bases hd is js hil (inBox_append_of his hjs),
    fock_mul M bases _ hc t2 t1 ht1 is js (by
      intro o ho
      rw [ketOf_eq] at ho
      obtain ⟨w, hw, how⟩ := List.mem_flatten.mp ho
      rcases mem_ketBlocks bases js w hw with rfl | ⟨b, hbm, hwb⟩
      · cases how
      · exact hb b hbm w hwb o how)]
  -- the signs: τ(is)τ(ks) · τ(ks) = τ(is)
  rw [scaleInt_eq_sgnI (siteSign_cases bases is), ← sgnI_sum]
  congr 1
  apply List.map_congr_left
  intro ks hks
  have hks' : inBox (bases.map List.length) ks = true := mem_allIdx.mp hks
  have hksM : inBox (maps.map List.length) ks = true := by rw [hmaps]; exact hks'
  obtain ⟨k1, k2, k3⟩ := fdOrig_of_index maps ks hksM
  have hkl : ks.length = bases.length := by have := inBox_length hks'; simpa using this
  rw [opArray_elem_split t1 bases sym maps hmaps _ _ _ _ k1 j1 k2 j2, k3, j3,
    opEntry_eq_specAt t1 bases sym maps q1 q2 hcm (fun ct h => (hn1 ct h).1) (fun ct h => (hn1 ct h).2),
    specAt_eq_DH t1 bases hd ks js hkl (inBox_append_of hks' hjs)]
  exact DHD_mul_DH (siteSign_cases bases is) (siteSign_cases bases ks) _ _

end lawn
end FermiActP
end SymmModel
