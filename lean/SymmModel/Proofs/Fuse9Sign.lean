/-
  SymmModel.Proofs.Fuse9Sign — sign bricks for `conjF` against one `unfuseF` step: the look-ups of
  the step do not see `conj`; parity of the fused charge; the full-reversal sign of a sector and of
  the sector with one segment collapsed.
-/
import SymmModel.Proofs.Fuse8ConjSign
import SymmModel.Proofs.Fuse6Parts
import SymmModel.Proofs.NormNet2
import SymmModel.Proofs.SymLemmas
namespace SymmModel
namespace FuseP
open SymmModel.Lazy SymmModel.KoszulP SymmModel.LinalgLemmas

theorem cmb_conj (sym : Sym) (ix : Index) (subs : List Index) (S : Sector) :
    cmb sym ix.conj (subs.map Index.conj) S = cmb sym ix subs S := by
  unfold cmb
  rw [List.zipWith_map_right]
  congr 2
  funext c' sub
  rw [Index.conj_dual, Index.conj_dual]
  cases ix.dual <;> cases sub.dual <;> rfl

theorem look_conj (sym : Sym) (ix : Index) (subs : List Index) (exts : Extents) (S : Sector) :
    look sym ix.conj (subs.map Index.conj) exts S = look sym ix subs exts S := by
  unfold look
  rw [cmb_conj, ← Index.conjList_eq_map, blockShape?_conjList]

theorem foldr_xor_parity (sym : Sym) (l : List Charge) :
    l.foldr (fun c acc => xor (sym.parity c) acc) false = ((l.filter sym.parity).length % 2 == 1) := by
  induction l with
  | nil => rfl
  | cons c l ih =>
    simp only [List.foldr_cons, ih, List.filter_cons]
    cases hc : sym.parity c
    · simp only [Bool.false_bne, Bool.false_eq_true, ↓reduceIte]
    · simp only [Bool.true_xor, if_true, List.length_cons]
      rcases Nat.mod_two_eq_zero_or_one (l.filter sym.parity).length with h | h
      · have : ((l.filter sym.parity).length + 1) % 2 = 1 := by omega
        simp only [h, Nat.reduceBEq, Bool.not_false, this, BEq.rfl]
      · have : ((l.filter sym.parity).length + 1) % 2 = 0 := by omega
        simp only [h, BEq.rfl, Bool.not_true, this, Nat.reduceBEq]

theorem oddN_zipWith_sign (sym : Sym) (d : Index → Bool) : ∀ (S : Sector) (subs : List Index),
    S.length = subs.length →
    NormNet.oddN sym (List.zipWith (fun c' (sub : Index) => sym.sign c' (d sub)) S subs) = NormNet.oddN sym S := by
  intro S
  induction S with
  | nil => intro subs _; rfl
  | cons c S ih =>
    intro subs hl
    cases subs with
    | nil => simp at hl
    | cons s subs =>
      simp only [List.zipWith_cons_cons, NormNet.oddN, List.filter_cons, Sym.parity_sign]
      have := ih subs (by simpa using hl)
      simp only [NormNet.oddN] at this
      split <;> simp [this]

theorem parity_cmb (sym : Sym) (ix : Index) (subs : List Index) (S : Sector) (hl : S.length = subs.length) :
    sym.parity (cmb sym ix subs S) = (NormNet.oddN sym S % 2 == 1) := by
  unfold cmb
  rw [Sym.parity_combine, foldr_xor_parity]
  have := oddN_zipWith_sign sym (fun sub => ix.dual != sub.dual) S subs hl
  simp only [NormNet.oddN] at this ⊢
  rw [this]

theorem count_isOdd (par : List Bool) :
    ((List.range par.length).filter (isOdd par)).length = (par.filter id).length := by
  have h : par = (List.range par.length).map (fun g => par.getD g false) := by
    have := map_eq_range_map par false id
    simpa only [List.getD_eq_getElem?_getD, List.map_id_fun, id_eq] using this
  conv_rhs => rw [h, List.filter_map, List.length_map]
  rfl

theorem revSign_oddN (sym : Sym) (S : Sector) :
    revSign (S.map sym.parity) (List.range S.length) = sgn (tri (NormNet.oddN sym S)) := by
  unfold revSign
  rw [← tri_eq]
  congr 2
  unfold oddCount
  have := count_isOdd (S.map sym.parity)
  rw [List.length_map] at this
  rw [this, NormNet.oddN_parities]

theorem koszul_collapse (sym : Sym) (ix : Index) (subs : List Index) (A S X : Sector)
    (hl : S.length = subs.length) :
    koszul ((A ++ S ++ X).map sym.parity) none * koszul ((A ++ [cmb sym ix subs S] ++ X).map sym.parity) none
      = revSign (S.map sym.parity) (List.range subs.length) := by
  rw [NormNet.koszul_none_oddN, NormNet.koszul_none_oddN, ← hl, revSign_oddN]
  simp only [NormNet.oddN_append]
  have hc : NormNet.oddN sym [cmb sym ix subs S] = NormNet.oddN sym S % 2 := by
    simp only [NormNet.oddN, List.filter_cons, List.filter_nil, parity_cmb sym ix subs S hl]
    rcases Nat.mod_two_eq_zero_or_one (S.filter sym.parity).length with h | h <;> simp [h]
  rw [hc]
  have := tri_collapse (NormNet.oddN sym A + NormNet.oddN sym X) (NormNet.oddN sym S)
  rw [← this]
  congr 2 <;> congr 1 <;> omega

end FuseP
end SymmModel
