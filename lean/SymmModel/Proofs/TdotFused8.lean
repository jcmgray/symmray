/-
  SymmModel.Proofs.TdotFused8 — the abelian contraction kernel does not look at the fermionic
  fields: `tensordotA` on operands with the kind flag and the labels erased is `tensordotA` on the
  operands themselves, with the flag and the labels of the left operand put back.
  Namespace `SymmModel.TdotP`.
-/
import SymmModel.Proofs.TdotFused7

namespace SymmModel
namespace TdotP
variable {R : Type}

def ab (x : Arr R) : Arr R := { x with fermi := false, oddpos := [] }

def relab (f : Bool) (o : List (Int × Bool)) (x : Arr R) : Arr R := { x with fermi := f, oddpos := o }

theorem relab_ab (x : Arr R) : relab x.fermi x.oddpos (ab x) = x := rfl

theorem ab_elem [Zero R] [Neg R] (x : Arr R) (s : Sector) (o : List Nat) : (ab x).elem s o = x.elem s o := rfl

theorem relab_elem [Zero R] [Neg R] (f : Bool) (l : List (Int × Bool)) (x : Arr R) (s : Sector)
    (o : List Nat) : (relab f l x).elem s o = x.elem s o := rfl

theorem fuseCore_ab [Zero R] (x : Arr R) (G : List (List Nat)) (m : FuseMode) :
    fuseCore (ab x) G m = (fuseCore x G m).map ab := by
  unfold fuseCore
  show (calcFuseBlockInfo x G >>= _) = _
  cases calcFuseBlockInfo x G with
  | error e => rfl
  | ok fi =>
    cases m with
    | insert =>
      show (fuseInsert x.blocks fi >>= _) = Except.map ab (fuseInsert x.blocks fi >>= _)
      cases fuseInsert x.blocks fi <;> rfl
    | concat =>
      show (fuseConcat x.indices x.blocks fi >>= _) = Except.map ab (fuseConcat x.indices x.blocks fi >>= _)
      cases fuseConcat x.indices x.blocks fi <;> rfl

theorem unfuseA_ab [Zero R] (x : Arr R) (axis : Nat) :
    unfuseA (ab x) axis = (unfuseA x axis).map ab := by
  unfold unfuseA
  dsimp only [ab]
  cases x.indices[axis]? with
  | none => rfl
  | some ix =>
    simp only [pure, Except.pure, bind, Except.bind]
    cases ix.sub with
    | none => rfl
    | some se =>
      obtain ⟨subs, exts⟩ := se
      simp only []
      split <;> rfl

theorem dropMisaligned_ab (a b : Arr R) (xa xb : List Nat) :
    dropMisaligned (ab a) (ab b) xa xb =
      (ab (dropMisaligned a b xa xb).1, ab (dropMisaligned a b xa xb).2) := rfl

theorem tensordotBlockwise_ab [Zero R] [Add R] [Mul R] (a b : Arr R) (l xa xb r : List Nat) :
    tensordotBlockwise (ab a) (ab b) l xa xb r = ab (tensordotBlockwise a b l xa xb r) := rfl

theorem fuseA_ab [Zero R] (x : Arr R) (G : List (List Nat)) (m : FuseMode) :
    fuseA (ab x) G m false = (fuseA x G m false).map ab := by
  rw [C05.fuseA_noexpand, C05.fuseA_noexpand]
  split
  · rfl
  · exact fuseCore_ab x _ m

theorem unfuseLegs_ab [Zero R] (x : Arr R) (mL mR : Bool) (axR : Nat) :
    unfuseLegs (ab x) mL mR axR = (unfuseLegs x mL mR axR).map ab := by
  have step : ∀ (m : Bool) (ax : Nat) (y : Arr R),
      (if m then unfuseA (ab y) ax else pure (ab y)) = (if m then unfuseA y ax else pure y).map ab := by
    intro m ax y
    cases m
    · rfl
    · exact unfuseA_ab y ax
  rw [unfuseLegs_eq, unfuseLegs_eq, step]
  cases (if mR = true then unfuseA x axR else pure x) with
  | error e => rfl
  | ok y => exact step mL 0 y

theorem viaAligned_ab [Zero R] [Add R] [Mul R] (a b : Arr R) (l xa xb r : List Nat) :
    viaAligned (ab a) (ab b) l xa xb r = (viaAligned a b l xa xb r).map ab := by
  unfold viaAligned
  rw [fuseA_ab, fuseA_ab]
  cases fuseA a [l, xa] .insert false with
  | error e => rfl
  | ok af =>
    cases fuseA b [xb, r] .insert false with
    | error e => rfl
    | ok bf => exact unfuseLegs_ab (tensordotBlockwise af bf _ _ _ _) _ _ _

theorem tensordotViaFused_ab [Zero R] [Add R] [Mul R] (a b : Arr R) (l xa xb r : List Nat) :
    tensordotViaFused (ab a) (ab b) l xa xb r = (tensordotViaFused a b l xa xb r).map ab := by
  cases hbl : ((dropMisaligned a b xa xb).1.blocks.isEmpty || (dropMisaligned a b xa xb).2.blocks.isEmpty) with
  | true =>
    rw [tensordotViaFused_noblocks (ab a) (ab b) l xa xb r hbl, tensordotViaFused_noblocks a b l xa xb r hbl]
    rfl
  | false =>
    have hbl' : ((dropMisaligned (ab a) (ab b) xa xb).1.blocks.isEmpty
        || (dropMisaligned (ab a) (ab b) xa xb).2.blocks.isEmpty) = false := by
      rw [dropMisaligned_ab]; exact hbl
    rw [tensordotViaFused_aligned (ab a) (ab b) l xa xb r hbl', dropMisaligned_ab,
      tensordotViaFused_aligned a b l xa xb r hbl]
    exact viaAligned_ab _ _ l xa xb r

theorem tensordotA_ab [Zero R] [Add R] [Mul R] (a b : Arr R) (axes : AxesArg) (mode : TdotMode) :
    tensordotA (ab a) (ab b) axes mode = (tensordotA a b axes mode).map ab := by
  unfold tensordotA
  have e1 : (ab a).ndim = a.ndim := rfl
  have e2 : (ab b).ndim = b.ndim := rfl
  rw [e1, e2]
  cases parseAxes a.ndim b.ndim axes with
  | error e => rfl
  | ok x =>
    obtain ⟨xa, xb⟩ := x
    simp only [bind, Except.bind]
    cases mode with
    | fused => exact tensordotViaFused_ab a b _ xa xb _
    | blockwise => rfl
    | auto =>
      cases xa.isEmpty with
      | true => rfl
      | false => exact tensordotViaFused_ab a b _ xa xb _

theorem tensordotViaFused_fields [Zero R] [Add R] [Mul R] {a b c : Arr R} {l xa xb r : List Nat}
    (hc : tensordotViaFused a b l xa xb r = .ok c) : c.fermi = a.fermi ∧ c.oddpos = a.oddpos := by
  cases hbl : ((dropMisaligned a b xa xb).1.blocks.isEmpty || (dropMisaligned a b xa xb).2.blocks.isEmpty) with
  | true =>
    rw [tensordotViaFused_noblocks a b l xa xb r hbl] at hc
    cases hc
    exact ⟨rfl, rfl⟩
  | false =>
    have fuse : ∀ {x y : Arr R} {G : List (List Nat)}, fuseA x G .insert false = .ok y →
        y.fermi = x.fermi ∧ y.oddpos = x.oddpos := by
      intro x y G h
      rcases ValidP.fuseA_noexpand h with ⟨_, rfl⟩ | ⟨_, hc⟩
      · exact ⟨rfl, rfl⟩
      · obtain ⟨_, e2, _, _, e5⟩ := ValidP.fuseCore_fields hc
        exact ⟨e2, e5⟩
    have leg : ∀ (m : Bool) (ax : Nat) {x y : Arr R}, (if m then unfuseA x ax else pure x) = .ok y →
        y.fermi = x.fermi ∧ y.oddpos = x.oddpos := by
      intro m ax x y h
      cases m
      · cases h; exact ⟨rfl, rfl⟩
      · obtain ⟨_, e2, _, _, e5⟩ := ValidP.unfuseA_fields h
        exact ⟨e2, e5⟩
    rw [tensordotViaFused_aligned a b l xa xb r hbl] at hc
    unfold viaAligned at hc
    obtain ⟨af, haf, hc⟩ := bind_ok hc
    obtain ⟨bf, _, hc⟩ := bind_ok hc
    rw [unfuseLegs_eq] at hc
    obtain ⟨y, hy, hc⟩ := bind_ok hc
    obtain ⟨f1, f2⟩ := fuse haf
    obtain ⟨g1, g2⟩ := leg _ _ hy
    obtain ⟨k1, k2⟩ := leg _ _ hc
    exact ⟨k1.trans (g1.trans f1), k2.trans (g2.trans f2)⟩

theorem tensordotA_fields [Zero R] [Add R] [Mul R] {a b c : Arr R} {axes : AxesArg} {mode : TdotMode}
    (h : tensordotA a b axes mode = .ok c) : c.fermi = a.fermi ∧ c.oddpos = a.oddpos := by
  have key : ∀ (l xa xb r : List Nat) (c : Arr R), tensordotViaFused a b l xa xb r = .ok c →
      c.fermi = a.fermi ∧ c.oddpos = a.oddpos := fun _ _ _ _ _ hc => tensordotViaFused_fields hc
  unfold tensordotA at h
  obtain ⟨x, hx, h⟩ := bind_ok h
  obtain ⟨xa, xb⟩ := x
  dsimp only at h
  cases mode with
  | fused => exact key _ _ _ _ c h
  | blockwise =>
    simp only [pure, Except.pure, Except.ok.injEq] at h
    subst h; exact ⟨rfl, rfl⟩
  | auto =>
    dsimp only at h
    split at h
    · exact key _ _ _ _ c h
    · simp only [pure, Except.pure, Except.ok.injEq] at h
      subst h; exact ⟨rfl, rfl⟩

theorem tensordotA_via_ab [Zero R] [Add R] [Mul R] (a b : Arr R) (axes : AxesArg) (mode : TdotMode) :
    tensordotA a b axes mode = (tensordotA (ab a) (ab b) axes mode).map (relab a.fermi a.oddpos) := by
  rw [tensordotA_ab]
  cases h : tensordotA a b axes mode with
  | error e => rfl
  | ok c =>
    obtain ⟨h1, h2⟩ := tensordotA_fields h
    simp only [Except.map]
    congr 1
    show c = relab a.fermi a.oddpos (ab c)
    rw [← h1, ← h2]; rfl

end TdotP
end SymmModel
