/-
  SymmModel.Proofs.FuseOne — the vocabulary of ONE multi-axis group `gaxes` (new sector `nsOf`, sub-sector
  `ssOf`, fused index `fix1`, new indices `newIndices1`) with their lengths.  The development for arbitrary
  lists of groups (FuseMulti*) does not use it: the one-group theorems of C05 are instances of the n-group
  ones.  Only the closing module `Props/C05All7` imports this file.
-/
import SymmModel.Proofs.FuseIns
namespace SymmModel
namespace FuseP

variable {R : Type}

section One
variable (a : Arr R) (gaxes : List Nat)

abbrev gi1 : FuseGroupInfo := calcFuseGroupInfo [gaxes] a.duals

def gdual1 : Bool := (gi1 a gaxes).groupDuals.getD 0 false
def subs1 : List Index := gaxes.map (fun ax => a.indices.getD ax default)
def preOf (s : Sector) : Sector := (gi1 a gaxes).axesBefore.map (fun ax => s.getD ax (0, 0))
def postOf (s : Sector) : Sector := (gi1 a gaxes).axesAfter.map (fun ax => s.getD ax (0, 0))
def ssOf (s : Sector) : Sector := gaxes.map (fun ax => s.getD ax (0, 0))
def cOf (s : Sector) : Charge := fusedCharge a.sym a.indices s (gdual1 a gaxes) gaxes
def shMid (shp : List Nat) : List Nat := gaxes.map (fun ax => shp.getD ax 0)
def nsOf (s : Sector) : Sector := preOf a gaxes s ++ [cOf a gaxes s] ++ postOf a gaxes s

/-- the entries collected for the table of the group -/
def entries1 : List (Sector × Charge × Nat) :=
  a.blocks.map (fun sb => (ssOf gaxes sb.1, cOf a gaxes sb.1, prod (shMid gaxes sb.2.shape)))

def fix1 : Index := fusedIndexOf (entries1 a gaxes) (gdual1 a gaxes) (subs1 a gaxes)

def newIndices1 : List Index :=
  permuted a.indices (gi1 a gaxes).axesBefore ++ [fix1 a gaxes] ++ permuted a.indices (gi1 a gaxes).axesAfter

variable {a gaxes}

theorem preOf_length (hok : GroupsOk [gaxes] a.ndim) (s : Sector) :
    (preOf a gaxes s).length = (gi1 a gaxes).position := by
  simp [preOf, axesBefore_length _ _]

theorem fix1_cm : (fix1 a gaxes).cm = Index.sortCm (accumExtents (sortedEntries (entries1 a gaxes))).1 := rfl

theorem fix1_dual : (fix1 a gaxes).dual = gdual1 a gaxes := rfl

theorem newIndices1_length (hok : GroupsOk [gaxes] a.ndim) :
    (newIndices1 a gaxes).length = (gi1 a gaxes).position + 1 + (gi1 a gaxes).axesAfter.length := by
  simp only [newIndices1, List.length_append, List.length_cons, List.length_nil]
  rw [permuted_length _ _ (beforeM_lt hok.lt), permuted_length _ _ afterM_lt, axesBefore_length _ _]

theorem postOf_length (s : Sector) : (postOf a gaxes s).length = (gi1 a gaxes).axesAfter.length := by
  simp [postOf]

theorem nsOf_length (hok : GroupsOk [gaxes] a.ndim) (s : Sector) :
    (nsOf a gaxes s).length = (newIndices1 a gaxes).length := by
  rw [newIndices1_length hok]
  simp [nsOf, preOf_length hok, postOf_length]; omega

end One

end FuseP
end SymmModel
