/-
  SymmModel.Proofs.NetNormK3 — network form of the norm (property C10), ket-bra-first bracketings,
  part 3: the routes `((b̄·ā)·a)·b`, `(b̄·(ā·a))·b` and `((ā·a)·b̄)·b` of the norm network `{a, b, ā, b̄}`.
  Derivation: `((b̄·ā)·a)·b` is `network_norm_mixed_seq` for `(b, a)`; S7 for the triangle `(b̄, ā, a)`
  (label check `ketBraLabelsB`) and congruence of the full contraction give `(b̄·(ā·a))·b`; `ā·a` has no
  label, so the operands of the first call of `(b̄·(ā·a))·b` can be exchanged (`scal_swap_first`: S5 on
  the inner pair, S6 + congruence at the root), which gives `((ā·a)·b̄)·b`.
-/
import SymmModel.Proofs.NetNormK2

namespace SymmModel.NormNet
open SymmModel SymmModel.Lazy SymmModel.Norm SymmModel.TdotP SymmModel.GradedP SymmModel.RoutesP
open SymmModel.AssocP SymmModel.Assoc3P SymmModel.Assoc4P SymmModel.Assoc5P SymmModel.Net4P
set_option linter.unusedSectionVars false

section main
variable {R : Type} [AddCommMonoid R] [Mul R] [Neg R] [Conj R] [NetLaws R] [AssocLaws R]

theorem admW_bra_self (a : Arr R) (xa : List Nat) (ha : a.validB = true) (hfa : a.fermi = true) :
    AdmW (braOf a xa) a (freeAxes a.ndim xa) (freeAxes a.ndim xa) := by
  refine ⟨braOf_valid a xa ha hfa, ha, braOf_fermi a xa hfa, hfa, braOf_sym a xa, ?_,
    freeAxes_nodup _ _, freeAxes_nodup _ _, ?_, fun i hi => mem_freeAxes_lt i hi⟩
  · refine commonB_of_frames (G := a.indices.map Index.conj)
      (by rw [braOf_indices a xa]; exact forall₂_refl SizeLe.refl _)
      (forall₂_refl SizeLe.refl _) (keys_nodup_of_validB (braOf_valid a xa ha hfa)) rfl
      (fun i hi => by rw [List.length_map]; exact mem_freeAxes_lt i hi)
      (fun i hi => mem_freeAxes_lt i hi) (fun j hj => ?_)
    have hlt : (freeAxes a.ndim xa).getD j 0 < a.indices.length := freeAxes_getD_lt hj
    rw [getD_map_conj a.indices _ hlt, Index.conj_cm]
    exact ⟨opp_conj' _, free_leg_nodup ha hj⟩
  · intro i hi; rw [braOf_ndim]; exact mem_freeAxes_lt i hi

/-- the legs of `(b̄·ā)·a` (and of `b̄·(ā·a)`) contracted with `b` -/
def kbU (a b : Arr R) (xa xb : List Nat) : List Nat :=
  Assoc2P.axesAB ((freeAxes b.ndim xb).length + (freeAxes a.ndim xa).length) a.ndim
    ((List.range (freeAxes a.ndim xa).length).map ((freeAxes b.ndim xb).length + ·))
    (List.range (freeAxes b.ndim xb).length) (freeAxes a.ndim xa) xa

/-- the legs of `ā·a` bonded to `b̄` -/
def kbX (a : Arr R) (xa : List Nat) : List Nat :=
  Assoc2P.axesBC a.ndim a.ndim xa (freeAxes a.ndim xa) (freeAxes a.ndim xa) []

/-- the rotation `b̄·(ā·a) → (ā·a)·b̄` -/
def kbRot (a b : Arr R) (xa xb : List Nat) : List Nat :=
  rotB (freeAxes b.ndim xb).length (freeAxes ((freeAxes a.ndim (freeAxes a.ndim xa)).length
    + (freeAxes a.ndim (freeAxes a.ndim xa)).length) (kbX a xa)).length

/-- the conclusion: the routes that contract `ā` with `a` first -/
def KetBraFirst (a b : Arr R) (xa xb : List Nat) : Prop :=
  ∃ K Kb' T X BX XB,
    a.tensordotF b (.pair (xa.map Int.ofNat) (xb.map Int.ofNat)) .blockwise = .ok K
    -- ((b̄·ā)·a)·b
    ∧ (braOf b xb).tensordotF (braOf a xa) (.pair (xb.map Int.ofNat) (xa.map Int.ofNat)) .blockwise
        = .ok Kb'
    ∧ Kb'.tensordotF a (.pair
          (((List.range (freeAxes a.ndim xa).length).map ((freeAxes b.ndim xb).length + ·)).map
            Int.ofNat) ((freeAxes a.ndim xa).map Int.ofNat)) .blockwise = .ok T
    ∧ (∃ c, T.tensordotF b (.pair ((kbU a b xa xb).map Int.ofNat)
          ((freeAxes b.ndim xb ++ xb).map Int.ofNat)) .blockwise = .ok c
        ∧ c.ndim = 0 ∧ c.oddpos = [] ∧ c.elem [] [] = normSq K)
    -- ā·a : no label left
    ∧ (braOf a xa).tensordotF a (.pair ((freeAxes a.ndim xa).map Int.ofNat)
          ((freeAxes a.ndim xa).map Int.ofNat)) .blockwise = .ok X
    ∧ X.oddpos = []
    -- (b̄·(ā·a))·b
    ∧ (braOf b xb).tensordotF X (.pair (xb.map Int.ofNat) ((kbX a xa).map Int.ofNat)) .blockwise
        = .ok BX
    ∧ (∃ c, BX.tensordotF b (.pair ((kbU a b xa xb).map Int.ofNat)
          ((freeAxes b.ndim xb ++ xb).map Int.ofNat)) .blockwise = .ok c
        ∧ c.ndim = 0 ∧ c.oddpos = [] ∧ c.elem [] [] = normSq K)
    -- ((ā·a)·b̄)·b
    ∧ X.tensordotF (braOf b xb) (.pair ((kbX a xa).map Int.ofNat) (xb.map Int.ofNat)) .blockwise
        = .ok XB
    ∧ (∃ c, XB.tensordotF b (.pair ((positions (kbRot a b xa xb) (kbU a b xa xb)).map Int.ofNat)
          ((freeAxes b.ndim xb ++ xb).map Int.ofNat)) .blockwise = .ok c
        ∧ c.ndim = 0 ∧ c.oddpos = [] ∧ c.elem [] [] = normSq K)

theorem ketbra_first (hmul : ∀ x y : R, x * y = y * x) (a b : Arr R) (xa xb : List Nat)
    (ha : a.validB = true) (hb : b.validB = true) (hfa : a.fermi = true) (hfb : b.fermi = true)
    (hadm : ValidP.tdotAdmissibleB a b xa xb = true)
    (hoA : KetLabels a.oddpos) (hoB : KetLabels b.oddpos)
    (hd : (a.oddpos ++ b.oddpos).Pairwise (fun x y => x.1 ≠ y.1))
    (hlabK : ketBraLabelsB a.parity b.parity a.oddpos b.oddpos = true) :
    KetBraFirst a b xa xb := by
  have h := Adm.of ha hb hfa hfb hadm
  have hadm' := admB_swap ha hb hfa hfb hadm
  have hd' := labels_swap hd
  have h' := Adm.of hb ha hfb hfa hadm'
  have hB := braOf_adm h
  have hB' := braOf_adm h'
  have hdA : a.oddpos.Pairwise (fun x y => x.1 ≠ y.1) := (List.pairwise_append.1 hd).1
  have hdB : b.oddpos.Pairwise (fun x y => x.1 ≠ y.1) := (List.pairwise_append.1 hd).2.1
  obtain ⟨K, _, K', _, TN, _, _, _, _⟩ :=
    network_norm_mixed hmul a b xa xb ha hb hfa hfb hadm hoA hoB hd
  obtain ⟨K'', Kb', eK', eKb', T, c0, eT, ec0, cn, co, cv⟩ :=
    network_norm_mixed_seq hmul b a xb xa hb ha hfb hfa hadm' hoB hoA hd'
      (LabelAlg.netLabelsB_of_distinct _ _ _ _ hd)
  obtain rfl : K' = K'' := by have e := TN.eK'; rw [eK'] at e; exact (Except.ok.inj e).symm
  have cv' : c0.elem [] [] = normSq K := cv.trans TN.val
  obtain ⟨K1, Kb1, eK1, eKb1, hobs, hKv, hKf, hKbv, hKbf, _, _, _⟩ :=
    conj_tensordot b a xb xa hb ha hfb hfa hadm' hoB hoA hd'
  obtain rfl : K' = K1 := by rw [eK'] at eK1; exact Except.ok.inj eK1
  obtain rfl : Kb' = Kb1 := by rw [eKb'] at eKb1; exact Except.ok.inj eKb1
  obtain ⟨q1, _, q3, _, _, _⟩ := conjF_frame K' true true
  obtain ⟨S0, hK0⟩ := tdot_indices_pruned h' eK'
  have hXi : Kb'.indices
      = (dropUnused (without b.indices xb ++ without a.indices xa) S0).map Index.conj := by
    rw [hobs.indices, q3, hK0]
  have fr := frame_of_dropUnused hXi
  have hXn := halfS_ndim Kb' b a xb xa fr (keys_nodup_of_validB hKbv)
  have hXs : Kb'.sym = b.sym := by rw [hobs.sym, q1, (tdot_fields h' eK').1]
  rw [hXn] at ec0
  -- guards: the triangle `(b̄·ā) – a – b`, `a`'s legs of the half come after `b`'s
  have T3 := half_tri_cross hKbv hKbf hXs fr h'
  have WKa := T3.hAB
  obtain ⟨_, _, CT⟩ := Call.of_ok WKa eT
  have WTb := admW_left_tri_w CT.toInter.toW T3
  rw [hXn] at WTb
  have WAa := admW_bra_self a xa ha hfa
  obtain ⟨sX, mX, qX⟩ := merge_nested (braOf a xa).parity a.oddpos hoA hdA
  obtain ⟨X, eX, IX⟩ := Call.of_merge WAa (out := []) (ph := sX) (by rw [braOf_oddpos a xa]; exact mX)
  have oX := IX.oddpos
  have WBA : AdmW (braOf b xb) (braOf a xa) xb xa := AdmW.ofAdm hB'
  have hc3 : contractibleCommonB (braOf b xb) a [] [] = true := by
    simp [contractibleCommonB]
  have hL : Assoc2P.LabelRoutes (braOf b xb).parity (braOf a xa).parity (braOf b xb).oddpos
      (braOf a xa).oddpos a.oddpos := by
    rw [braOf_parity, braOf_parity, braOf_oddpos a xa, braOf_oddpos b xb]
    exact ketBraLabelsB_spec hlabK
  have hnxa : (xa ++ (freeAxes a.ndim xa)).Nodup := (perm_right h.nA h.ltA).nodup_iff.mpr List.nodup_range
  obtain ⟨AB2, X2, c1, c2, a1, a2, a3, a4, hE⟩ := assoc_eqv (braOf b xb) (braOf a xa) a
    xb [] xa (freeAxes a.ndim xa) (freeAxes a.ndim xa) [] WBA WAa hc3 (by rw [List.append_nil]; exact h.nB) hnxa
    (by rw [List.append_nil]; exact freeAxes_nodup _ _) (by intro i hi; cases hi)
    (by intro i hi; cases hi) hL
  obtain rfl : Kb' = AB2 := by rw [eKb'] at a1; exact Except.ok.inj a1
  obtain rfl : X = X2 := by rw [eX] at a3; exact Except.ok.inj a3
  have hsh : Assoc2P.axesAB (braOf b xb).ndim (braOf a xa).ndim xb [] xa (freeAxes a.ndim xa)
      = (List.range (freeAxes a.ndim xa).length).map ((freeAxes b.ndim xb).length + ·) := by
    unfold Assoc2P.axesAB
    rw [braOf_ndim, braOf_ndim, positions_self _ (freeAxes_nodup _ _)]
    rfl
  rw [hsh] at a2
  have a2' : Kb'.tensordotF a (.pair
      (((List.range (freeAxes a.ndim xa).length).map ((freeAxes b.ndim xb).length + ·)).map Int.ofNat) ((freeAxes a.ndim xa).map Int.ofNat)) .blockwise
      = .ok c1 := a2
  obtain rfl : T = c1 := by rw [eT] at a2'; exact Except.ok.inj a2'
  rw [List.append_nil, braOf_ndim] at a4
  have T2 : TriW (braOf b xb) (braOf a xa) a xb [] xa (freeAxes a.ndim xa) (freeAxes a.ndim xa) [] :=
    ⟨WBA, WAa, Mid.of (by rw [List.append_nil]; exact h.nB) (by
        rw [List.append_nil]; intro i hi; rw [braOf_ndim]; exact h.ltB i hi),
      Mid.of hnxa (fun i hi => by
        rw [braOf_ndim]; exact List.mem_range.mp ((perm_right h.nA h.ltA).mem_iff.mp hi)),
      Mid.of (by rw [List.append_nil]; exact freeAxes_nodup _ _) (by
        rw [List.append_nil]; exact fun i hi => mem_freeAxes_lt i hi), hc3⟩
  have WbX := admW_right_tri_w IX.toW T2
  rw [List.append_nil, braOf_ndim] at WbX
  obtain ⟨_, _, CBX⟩ := Call.of_ok WbX a4
  have IBX := CBX.toInter
  obtain ⟨r1, er1, n1, o1, v1⟩ := scalar_congr WTb hE.symm IBX.valid ec0 cn
  have WBXb := admW_congr WTb hE.symm (Eqv.refl b) IBX.valid hb
  -- ((ā·a)·b̄)·b : the operands of the first call of `(b̄·(ā·a))·b` exchanged
  have hdX : OddposP.LabelsDistinct (X.oddpos ++ (braOf b xb).oddpos) := by
    rw [oX, braOf_oddpos b xb]
    exact oddposDag_distinct b.oddpos hdB
  have hfree := ndim_of_call_w WBXb er1
  rw [n1] at hfree
  have hu : freeAxes c2.ndim (kbU a b xa xb) = [] :=
    List.eq_nil_of_length_eq_zero (by unfold kbU; omega)
  have hv : freeAxes b.ndim ((freeAxes b.ndim xb) ++ xb) = [] := freeAxes_all _ _ (all_left xb)
  have hXnd : X.ndim = (freeAxes a.ndim (freeAxes a.ndim xa)).length + (freeAxes a.ndim (freeAxes a.ndim xa)).length := by
    have := IX.ndim; rw [braOf_ndim] at this; exact this
  have hrot : (kbRot a b xa xb).Perm (List.range c2.ndim) := by
    have hnd := IBX.ndim
    rw [braOf_ndim, hXnd] at hnd
    rw [hnd]
    exact perm_of_isPerm (rotB_isPerm _ _)
  have hUp : (kbU a b xa xb).Perm (List.range c2.ndim) := by
    have := perm_left WBXb.nA WBXb.ltA
    change (freeAxes c2.ndim (kbU a b xa xb) ++ kbU a b xa xb).Perm _ at this
    rw [hu] at this
    exact this
  have hp : (positions (kbRot a b xa xb) (kbU a b xa xb)).Perm (List.range c2.ndim) := by
    have hp := positions_perm (kbRot a b xa xb) (kbU a b xa xb) (hUp.trans hrot.symm)
      (hrot.nodup_iff.mpr List.nodup_range)
    rwa [hrot.length_eq, List.length_range] at hp
  have hx : permuted (rotB (freeAxes (braOf b xb).ndim xb).length (freeAxes X.ndim (kbX a xa)).length)
      (positions (kbRot a b xa xb) (kbU a b xa xb)) = kbU a b xa xb := by
    rw [braOf_ndim, hXnd]; exact (PreT.canonical hrot WBXb.nA WBXb.ltA).hx
  obtain ⟨XB, r3, eXB, _, er3, S3, _⟩ := scal_swap_first hmul WbX hdX a4 WBXb hu hv hp hx er1
    ⟨n1, o1.trans co, v1.trans cv'⟩
  exact ⟨K, Kb', T, X, c2, XB, TN.eK, eKb', eT, ⟨c0, ec0, cn, co, cv'⟩, eX, oX, a4,
    ⟨r1, er1, n1, o1.trans co, v1.trans cv'⟩, eXB, ⟨r3, er3, S3⟩⟩

end main

end SymmModel.NormNet
