/-
  SymmModel.Proofs.LinalgDense — value view, dense form and norm of block arrays (C12); the dense
  form is read through the bridge of Proofs/DenseLemmas.lean.
-/
import SymmModel.Proofs.LinalgLemmas
import SymmModel.Proofs.DenseLemmas

namespace SymmModel
namespace LinalgLemmas

variable {R S : Type}

theorem elem_ne_zero_mem [Zero R] [Neg R] {a : Arr R} {s : Sector} {off : List Nat}
    (h : a.elem s off ≠ 0) : s ∈ a.sectors := by
  unfold Arr.elem at h
  cases hl : alookup a.blocks s with
  | none => rw [hl] at h; exact absurd rfl h
  | some b => exact List.mem_map.mpr ⟨(s, b), alookup_some_mem hl, rfl⟩

theorem toDenseA_get [Zero R] [Neg R] {a : Arr R} {d : Blk R} (h : a.toDenseA = .ok d)
    {p : List Nat} (hp : inBox a.shape p = true) :
    d.shape = a.shape ∧
    d.get p = match Arr.locateAll a.indices p with
              | some (sec, off) => a.elem sec off
              | none => 0 := by
  obtain ⟨s, off, hl⟩ := Arr.locateAll_isSome (idx := a.indices) hp
  exact ⟨Arr.toDenseA_shape h, by rw [hl]; exact Arr.toDenseA_val h hp hl⟩

theorem sumAll_map [Zero S] [Add S] (nsq : R → S) (b : Blk R) :
    (b.map nsq).sumAll = (b.data.toList.map nsq).foldl (· + ·) 0 := by
  simp only [Blk.sumAll, Blk.map]
  rw [← Array.foldl_toList, Array.toList_map]

theorem block_normSq [Zero R] [Neg R] [Zero S] [Add S] (nsq : R → S)
    (hneg : ∀ x, nsq (-x) = nsq x) {a : Arr R} (hnd : a.sectors.Nodup) {s : Sector} {b : Blk R}
    (hm : (s, b) ∈ a.blocks) (hwf : b.wf = true) :
    (b.map nsq).sumAll
      = ((allIdx b.shape).map (fun off => nsq (a.elem s off))).foldl (· + ·) 0 := by
  rw [sumAll_map, ← allIdx_map_get b hwf, List.map_map]
  congr 1
  apply List.map_congr_left
  intro off _
  simp only [Function.comp, Arr.elem_of_mem hnd hm]
  split
  · rw [hneg]
  · rfl

theorem foldl_ext' {α β : Type} (f g : α → β → α) (a : α) (l : List β)
    (H : ∀ a : α, ∀ b ∈ l, f a b = g a b) : l.foldl f a = l.foldl g a :=
  List.foldl_ext f g a H

theorem negK_map [Neg R] (nsq : R → S) (hneg : ∀ x, nsq (-x) = nsq x) (b : Blk R) :
    b.negK.map nsq = b.map nsq := by
  simp only [Blk.negK, Blk.map, Array.map_map]
  congr 1
  apply Array.map_congr_left
  intro x _
  exact hneg x

end LinalgLemmas
end SymmModel
