/-
  SymmModel.Proofs.TwoStepGeom — "several pairs at once or one after another" (C04), list geometry:
  where the remaining legs `ya`, `yb` sit in the intermediate `c`, what reading `c`-shaped lists
  (sectors, shapes, index tables, offsets) through `tsRhs` / `tsPA` / `tsPB` gives, and the
  intermediate offset assembled from the output offset and the traced offset.
  `tsPA`, `tsPB`, `tsRhs` (Proofs/TwoStepDefs, written with `posIn`) are the vocabulary of S7 under
  `Mid`: `tsPA = positions (freeAxes na xa) ya`, `tsPB = AssocP.axesAB na nb xa xb yb`
  (`tsPA_eq`, `tsPB_eq`, `tsRhs_eq`).
  Namespace `SymmModel.TwoStepP`.
-/
import SymmModel.Proofs.TwoStepSum

namespace SymmModel
namespace TwoStepP
open TdotP GradedP RoutesP AssocP KoszulP

theorem filterMap_eq_map_getD {x : List Nat} (f : Nat → Option Nat) (h : ∀ y ∈ x, (f y).isSome) :
    x.filterMap f = x.map (fun y => (f y).getD 0) := by
  induction x with
  | nil => rfl
  | cons y ys ih =>
    have hy := h y (by simp)
    cases hf : f y with
    | none => rw [hf] at hy; cases hy
    | some j =>
      rw [List.filterMap_cons, hf, List.map_cons, hf, ih (fun z hz => h z (List.mem_cons_of_mem _ hz))]
      rfl

theorem positions_eq_map (l x : List Nat) (hx : ∀ y ∈ x, y ∈ l) :
    positions l x = x.map (posIn l) := by
  unfold positions posIn
  apply filterMap_eq_map_getD
  intro y hy
  cases h : indexOf? l y with
  | none => exact absurd (hx y hy) (indexOf?_eq_none_iff.mp h)
  | some j => rfl

section mid
variable {na nb : Nat} {xa ya xb yb : List Nat}

theorem tsPA_eq (hA : Mid na xa ya) : tsPA na xa ya = positions (freeAxes na xa) ya := by
  unfold tsPA; rw [positions_eq_map _ _ hA.sub]

theorem tsPB_eq (hB : Mid nb xb yb) :
    tsPB na nb xa xb yb = (positions (freeAxes nb xb) yb).map ((freeAxes na xa).length + ·) := by
  unfold tsPB; rw [positions_eq_map _ _ hB.sub, List.map_map]; rfl

/-- the untraced positions: those of `a`'s remaining free legs, then those of `b`'s -/
theorem tsRhs_eq (hA : Mid na xa ya) (hB : Mid nb xb yb) :
    tsRhs na nb xa xb ya yb
      = freeAxes (freeAxes na xa).length (positions (freeAxes na xa) ya)
        ++ (freeAxes (freeAxes nb xb).length (positions (freeAxes nb xb) yb)).map
            ((freeAxes na xa).length + ·) := by
  unfold tsRhs tsN
  rw [tsPA_eq hA, tsPB_eq hB, List.range_add, List.filter_append, List.filter_map]
  unfold freeAxes
  congr 1
  · apply List.filter_congr
    intro p hp
    have hp' := List.mem_range.mp hp
    have : ((positions ((List.range nb).filter (fun ax => !xb.contains ax)) yb).map
        (((List.range na).filter (fun ax => !xa.contains ax)).length + ·)).contains p = false := by
      rw [List.contains_eq_mem, decide_eq_false_iff_not]
      intro hm
      obtain ⟨q, _, hq⟩ := List.mem_map.mp hm
      omega
    rw [this]; simp
  · congr 1
    apply List.filter_congr
    intro q _
    have h1 : (positions ((List.range na).filter (fun ax => !xa.contains ax)) ya).contains
        (((List.range na).filter (fun ax => !xa.contains ax)).length + q) = false := by
      rw [List.contains_eq_mem, decide_eq_false_iff_not]
      intro hm
      have := hA.pos_lt _ hm
      unfold freeAxes at this
      omega
    simp only [Function.comp, h1, Bool.not_false, Bool.true_and]
    congr 1
    simp only [List.contains_eq_mem, List.mem_map, Nat.add_left_cancel_iff, exists_eq_right]

theorem tsRhs_length_free (hA : Mid na xa ya) (hB : Mid nb xb yb) :
    (tsRhs na nb xa xb ya yb).length
      = (freeAxes na (xa ++ ya)).length + (freeAxes nb (xb ++ yb)).length := by
  rw [tsRhs_eq hA hB, List.length_append, List.length_map, hA.free_len, hB.free_len]

variable {α : Type}

theorem permuted_tsRhs (hA : Mid na xa ya) (hB : Mid nb xb yb) (z z' : List α)
    (hz : z.length = na) (hz' : z'.length = nb) :
    permuted (permuted z (freeAxes na xa) ++ permuted z' (freeAxes nb xb)) (tsRhs na nb xa xb ya yb)
      = permuted z (freeAxes na (xa ++ ya)) ++ permuted z' (freeAxes nb (xb ++ yb)) := by
  have hl : (permuted z (freeAxes na xa)).length = (freeAxes na xa).length :=
    permuted_length _ _ (by rw [hz]; exact hA.flt)
  rw [tsRhs_eq hA hB, permuted_append,
    permuted_append_of_lt _ _ _ (by rw [hl]; intro i hi; exact (mem_freeAxes.mp hi).1),
    ← hl, permuted_append_map_add, hl, hA.read_free z hz, hB.read_free z' hz']

theorem permuted_tsPA (hA : Mid na xa ya) (z : List α) (v : List α) (hz : z.length = na) :
    permuted (permuted z (freeAxes na xa) ++ v) (tsPA na xa ya) = permuted z ya := by
  have hl : (permuted z (freeAxes na xa)).length = (freeAxes na xa).length :=
    permuted_length _ _ (by rw [hz]; exact hA.flt)
  rw [tsPA_eq hA, permuted_append_of_lt _ _ _ (by rw [hl]; exact hA.pos_lt), hA.read_ax z hz]

theorem permuted_tsPB (hB : Mid nb xb yb) (u : List α) (z' : List α) (hu : u.length = (freeAxes na xa).length)
    (hz' : z'.length = nb) :
    permuted (u ++ permuted z' (freeAxes nb xb)) (tsPB na nb xa xb yb) = permuted z' yb := by
  rw [tsPB_eq hB, ← hu, permuted_append_map_add, hB.read_ax z' hz']

end mid

theorem asmSide_eq_map (F y F' t f : List Nat) :
    asmSide F y F' t f = F.map (fun ax => match indexOf? y ax with
      | some i => t.getD i 0
      | none => match indexOf? F' ax with
        | some j => f.getD j 0
        | none => 0) := rfl

theorem permuted_asmSide_y (F y F' t f : List Nat) (P : List Nat) (hP : permuted F P = y)
    (hy : y.Nodup) (ht : t.length = y.length) :
    permuted (asmSide F y F' t f) P = t := by
  rw [asmSide_eq_map, permuted_map, hP]
  apply List.ext_getElem
  · simp [ht]
  · intro i h1 h2
    simp only [List.getElem_map]
    have hi : i < y.length := by simpa using h1
    rw [indexOf?_getElem hy hi]
    simp [List.getD_eq_getElem?_getD, List.getElem?_eq_getElem h2]

theorem permuted_asmSide_free (F y F' t f : List Nat) (Q : List Nat) (hQ : permuted F Q = F')
    (hF' : F'.Nodup) (hd : ∀ ax ∈ F', ax ∉ y) (hf : f.length = F'.length) :
    permuted (asmSide F y F' t f) Q = f := by
  rw [asmSide_eq_map, permuted_map, hQ]
  apply List.ext_getElem
  · simp [hf]
  · intro i h1 h2
    simp only [List.getElem_map]
    have hi : i < F'.length := by simpa using h1
    rw [indexOf?_eq_none_iff.mpr (hd _ (List.getElem_mem hi)), indexOf?_getElem hF' hi]
    simp [List.getD_eq_getElem?_getD, List.getElem?_eq_getElem h2]

section addr
variable {na nb : Nat} {xa ya xb yb : List Nat}

theorem permuted_asm_tsRhs (hA : Mid na xa ya) (hB : Mid nb xb yb) (t fL fR : List Nat)
    (hfL : fL.length = (freeAxes na (xa ++ ya)).length)
    (hfR : fR.length = (freeAxes nb (xb ++ yb)).length) :
    permuted (asmSide (freeAxes na xa) ya (freeAxes na (xa ++ ya)) t fL
        ++ asmSide (freeAxes nb xb) yb (freeAxes nb (xb ++ yb)) t fR) (tsRhs na nb xa xb ya yb)
      = fL ++ fR := by
  rw [tsRhs_eq hA hB, permuted_append,
    permuted_append_of_lt _ _ _ (by
      rw [asmSide_length]; intro i hi; exact (mem_freeAxes.mp hi).1)]
  have e2 := permuted_append_map_add (asmSide (freeAxes na xa) ya (freeAxes na (xa ++ ya)) t fL)
    (asmSide (freeAxes nb xb) yb (freeAxes nb (xb ++ yb)) t fR)
    (freeAxes (freeAxes nb xb).length (positions (freeAxes nb xb) yb))
  rw [asmSide_length] at e2
  rw [e2]
  congr 1
  · exact permuted_asmSide_free _ _ _ _ _ _ hA.free_spec (freeAxes_nodup _ _)
      (fun ax h => fun h' => (mem_freeAxes.mp h).2 (List.mem_append_right _ h')) hfL
  · exact permuted_asmSide_free _ _ _ _ _ _ hB.free_spec (freeAxes_nodup _ _)
      (fun ax h => fun h' => (mem_freeAxes.mp h).2 (List.mem_append_right _ h')) hfR

theorem permuted_asm_tsPA (hA : Mid na xa ya) (t fL : List Nat) (v : List Nat)
    (ht : t.length = ya.length) :
    permuted (asmSide (freeAxes na xa) ya (freeAxes na (xa ++ ya)) t fL ++ v) (tsPA na xa ya) = t := by
  rw [tsPA_eq hA, permuted_append_of_lt _ _ _ (by rw [asmSide_length]; exact hA.pos_lt)]
  exact permuted_asmSide_y _ _ _ _ _ _ hA.pos_spec hA.n2 ht

theorem permuted_asm_tsPB (hB : Mid nb xb yb) (t fR : List Nat) (u : List Nat)
    (hu : u.length = (freeAxes na xa).length) (ht : t.length = yb.length) :
    permuted (u ++ asmSide (freeAxes nb xb) yb (freeAxes nb (xb ++ yb)) t fR)
      (tsPB na nb xa xb yb) = t := by
  rw [tsPB_eq hB, ← hu, permuted_append_map_add]
  exact permuted_asmSide_y _ _ _ _ _ _ hB.pos_spec hB.n2 ht

end addr

theorem permuted_srcIdx (n : Nat) (p i : List Nat) (hp : p.Perm (List.range n)) (hi : i.length = n) :
    permuted (Lazy.srcIdx n p i) p = i := by
  have hnd : p.Nodup := hp.nodup_iff.mpr List.nodup_range
  have hlen : p.length = n := by simpa using hp.length_eq
  have hlt : ∀ x ∈ p, x < (Lazy.srcIdx n p i).length := by
    intro x hx
    simp only [Lazy.srcIdx, List.length_map, List.length_range]
    exact perm_range_mem_lt hp x hx
  rw [permuted_eq_map _ _ hlt 0]
  apply List.ext_getElem
  · simp [hlen, hi]
  · intro k h1 h2
    have hk : k < p.length := by simpa using h1
    have hpk : p[k] < n := perm_range_mem_lt hp _ (List.getElem_mem hk)
    simp only [List.getElem_map, Lazy.srcIdx]
    rw [List.getD_eq_getElem?_getD, List.getElem?_map, List.getElem?_range hpk]
    simp only [Option.map_some, Option.getD_some]
    rw [indexOf?_getElem hnd hk]
    simp [List.getD_eq_getElem?_getD, List.getElem?_eq_getElem h2]

end TwoStepP
end SymmModel
