/-
  SymmModel.Proofs.SpectrumBlock — the global reindexing `Fin N ≃ Σ k, Fin d_k` of the positions
  of an axis (pieces of a charge table are contiguous), under which `C12.toDense_eq_blockDiagonal`
  presents the dense form of a Hermitian-structured array as a `Matrix.blockDiagonal'`.
-/
import SymmModel.Proofs.SpectrumAxis

namespace SymmModel
namespace Spectrum

open Arr

/-- keyed by the piece NUMBER; `SymmModel.startOf` (Proofs/DenseLemmas.lean) is keyed by the charge -/
def startOf : List (Charge × Nat) → Nat → Nat
  | [], _ => 0
  | _ :: _, 0 => 0
  | (_, d) :: rest, k + 1 => d + startOf rest k

def pieceAt : List (Charge × Nat) → Nat → Nat
  | [], _ => 0
  | (_, d) :: rest, p => if p < d then 0 else pieceAt rest (p - d) + 1

theorem locate_startOf (cm : List (Charge × Nat)) (k : Nat) (hk : k < cm.length) (o : Nat)
    (ho : o < cm[k].2) : locate cm (startOf cm k + o) = some (cm[k].1, o) := by
  induction cm generalizing k with
  | nil => simp at hk
  | cons kd rest ih =>
    obtain ⟨c, d⟩ := kd
    cases k with
    | zero =>
      simp only [List.getElem_cons_zero] at ho
      simp [startOf, locate, ho]
    | succ k =>
      simp only [List.getElem_cons_succ] at ho ⊢
      have : ¬ (d + startOf rest k + o < d) := by omega
      simp only [startOf, locate, this, if_false]
      have e : d + startOf rest k + o - d = startOf rest k + o := by omega
      rw [e]
      exact ih k (by simpa using hk) ho

theorem startOf_add_lt (cm : List (Charge × Nat)) (k : Nat) (hk : k < cm.length) (o : Nat)
    (ho : o < cm[k].2) : startOf cm k + o < total cm :=
  locate_lt (locate_startOf cm k hk o ho)

theorem pieceAt_spec (cm : List (Charge × Nat)) (p : Nat) (hp : p < total cm) :
    ∃ hk : pieceAt cm p < cm.length,
      startOf cm (pieceAt cm p) ≤ p ∧ p - startOf cm (pieceAt cm p) < cm[pieceAt cm p].2 := by
  induction cm generalizing p with
  | nil => simp [total, sumN] at hp
  | cons kd rest ih =>
    obtain ⟨c, d⟩ := kd
    by_cases h : p < d
    · simp [pieceAt, h, startOf]
    · have hp' : p - d < total rest := by
        have : total ((c, d) :: rest) = d + total rest := rfl
        omega
      obtain ⟨hk, h1, h2⟩ := ih (p - d) hp'
      refine ⟨by simp [pieceAt, h]; exact hk, ?_, ?_⟩
      · simp only [pieceAt, h, if_false, startOf]; omega
      · simp only [pieceAt, h, if_false, startOf, List.getElem_cons_succ]
        have : p - (d + startOf rest (pieceAt rest (p - d))) = p - d - startOf rest (pieceAt rest (p - d)) := by
          omega
        rw [this]; exact h2

theorem pieceAt_startOf (cm : List (Charge × Nat)) (k : Nat) (hk : k < cm.length) (o : Nat)
    (ho : o < cm[k].2) : pieceAt cm (startOf cm k + o) = k := by
  induction cm generalizing k with
  | nil => simp at hk
  | cons kd rest ih =>
    obtain ⟨c, d⟩ := kd
    cases k with
    | zero =>
      simp only [List.getElem_cons_zero] at ho
      simp [startOf, pieceAt, ho]
    | succ k =>
      simp only [List.getElem_cons_succ] at ho
      have : ¬ (d + startOf rest k + o < d) := by omega
      have e : d + startOf rest k + o - d = startOf rest k + o := by omega
      simp only [startOf, pieceAt, this, if_false, e]
      rw [ih k (by simpa using hk) ho]

def blockEquiv (cm : List (Charge × Nat)) :
    Fin (total cm) ≃ Σ k : Fin cm.length, Fin (cm[k.1].2) where
  toFun p := ⟨⟨pieceAt cm p.1, (pieceAt_spec cm p.1 p.2).1⟩,
    ⟨p.1 - startOf cm (pieceAt cm p.1), (pieceAt_spec cm p.1 p.2).2.2⟩⟩
  invFun x := ⟨startOf cm x.1.1 + x.2.1, startOf_add_lt cm x.1.1 x.1.2 x.2.1 x.2.2⟩
  left_inv p := by
    apply Fin.ext
    have := (pieceAt_spec cm p.1 p.2).2.1
    simp only
    omega
  right_inv x := by
    obtain ⟨⟨k, hk⟩, ⟨o, ho⟩⟩ := x
    have h1 := pieceAt_startOf cm k hk o ho
    simp only
    refine Sigma.ext (Fin.ext h1) ?_
    have hsz : cm[pieceAt cm (startOf cm k + o)].2 = cm[k].2 := by simp only [h1]
    rw [Fin.heq_ext_iff hsz]
    simp only [h1]
    omega

theorem blockEquiv_symm_val (cm : List (Charge × Nat)) (x : Σ k : Fin cm.length, Fin (cm[k.1].2)) :
    ((blockEquiv cm).symm x).1 = startOf cm x.1.1 + x.2.1 := rfl

theorem chargeAt_startOf (cm : List (Charge × Nat)) (k : Nat) (hk : k < cm.length) (o : Nat)
    (ho : o < cm[k].2) : chargeAt cm (startOf cm k + o) = toLex cm[k].1 := by
  simp only [chargeAt, locate_startOf cm k hk o ho, Option.map_some, Option.getD_some]

theorem offsetAt_startOf (cm : List (Charge × Nat)) (k : Nat) (hk : k < cm.length) (o : Nat)
    (ho : o < cm[k].2) : offsetAt cm (startOf cm k + o) = o := by
  simp only [offsetAt, locate_startOf cm k hk o ho, Option.map_some, Option.getD_some]

end Spectrum
end SymmModel
