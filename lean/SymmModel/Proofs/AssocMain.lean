/-
  SymmModel.Proofs.AssocMain — S7 of property C04 for a chain `A–B–C` (no `A–C` legs).  The chain is
  the triangle of `Assoc2P` / `Assoc3P` with an empty third bond: how the vocabulary of the triangle
  statement reads in that of the chain (`axesAB_chain`, `isTriple_chain`, `freeAddr_chain`), and the
  value of the chain on route `(A·B)·C` as a signed sum over stored sector triples (`route_left`, behind
  `C04.route_left_value`) — a statement that assumes nothing about `C`, which is why it is not the
  triangle's `Assoc3P.route_left` at an empty bond; it shares with it the lemmas about the pair
  `(A, B)` (`Assoc3P.pair_shape`, `pair_value`) and `Assoc2P.expand`.
-/
import SymmModel.Proofs.Assoc2Main

namespace SymmModel
namespace AssocP
open TdotP GradedP RoutesP KoszulP
open Lazy (sgnI)

variable {R : Type}

theorem axesAB_chain (nA nB : Nat) (xa xb1 xb2 : List Nat) :
    Assoc2P.axesAB nA nB xa [] xb1 xb2 = axesAB nA nB xa xb1 xb2 := rfl

theorem axesBC_chain (nB nC : Nat) (xb1 xb2 xc : List Nat) :
    Assoc2P.axesBC nB nC xb1 xb2 xc [] = axesBC nB xb1 xb2 := List.append_nil _

theorem isTriple_chain (A B C : Arr R) (xa xb1 xb2 xc : List Nat) (s : Sector)
    (t : Sector × Sector × Sector) :
    Assoc2P.IsTriple A B C xa [] xb1 xb2 xc [] s t ↔ IsTriple A B C xa xb1 xb2 xc s t := by
  unfold Assoc2P.IsTriple IsTriple
  rw [List.append_nil, List.append_nil]
  exact ⟨fun ⟨a, b, c, d, e, _, f⟩ => ⟨a, b, c, d, e, f⟩, fun ⟨a, b, c, d, e, f⟩ => ⟨a, b, c, d, e, rfl, f⟩⟩

theorem freeAddr_chain (A B C : Arr R) (xa xb1 xb2 xc : List Nat) (LA LM LC : Sector)
    (oA oM oC : List Nat) :
    Assoc2P.FreeAddr A B C xa [] xb1 xb2 xc [] LA LM LC oA oM oC
      ↔ FreeAddr A B C xa xb1 xb2 xc LA LM LC oA oM oC := by
  have wA : without A.indices xa = permuted A.indices (freeAxes A.ndim xa) :=
    without_eq_permuted_freeAxes _ _
  have wC : without C.indices xc = permuted C.indices (freeAxes C.ndim xc) :=
    without_eq_permuted_freeAxes _ _
  constructor
  · rintro ⟨lA, lM, loA, loM, loC, bA, bM, bC⟩
    rw [List.append_nil] at lA loA loC bA bC
    exact ⟨lA, lM, loA, loM, loC, wA ▸ bA, bM, wC ▸ bC⟩
  · rintro ⟨lA, lM, loA, loM, loC, bA, bM, bC⟩
    rw [wA] at bA
    rw [wC] at bC
    refine ⟨?_, lM, ?_, loM, ?_, ?_, bM, ?_⟩ <;> rw [List.append_nil] <;> assumption

/-- from the address-by-address clause to "for every stored sector and every offset in its
    block" (and `0 = 0` elsewhere) -/
theorem elem_eq_of_sector [Zero R] [Neg R] (A B C c1 c2 : Arr R) (xa xb1 xb2 xc : List Nat)
    (hsa : A.shapesOk) (hsb : B.shapesOk) (hsc : C.shapesOk)
    (hidx : c1.indices = dropUnused (without A.indices xa
      ++ (permuted B.indices (freeAxes B.ndim (xb1 ++ xb2)) ++ without C.indices xc)) c1.sectors)
    (hsec1 : ∀ s, s ∈ c1.sectors ↔ ∃ t, IsTriple A B C xa xb1 xb2 xc s t)
    (hsec2 : ∀ s, s ∈ c2.sectors ↔ s ∈ c1.sectors)
    (helem : ∀ (LA LM LC : Sector) (oA oM oC : List Nat),
      FreeAddr A B C xa xb1 xb2 xc LA LM LC oA oM oC →
      c2.elem (LA ++ LM ++ LC) (oA ++ oM ++ oC) = c1.elem (LA ++ LM ++ LC) (oA ++ oM ++ oC))
    (s : Sector) (o : List Nat)
    (ho : s ∈ c1.sectors → inBox (Arr.blockShapeD c1.indices s) o = true) :
    c2.elem s o = c1.elem s o := by
  have wA : without A.indices xa = permuted A.indices (freeAxes A.ndim xa) :=
    without_eq_permuted_freeAxes _ _
  have wC : without C.indices xc = permuted C.indices (freeAxes C.ndim xc) :=
    without_eq_permuted_freeAxes _ _
  refine Assoc2P.elem_eq_of_sector A B C c1 c2 xa [] xb1 xb2 xc [] hsa hsb hsc ?_
    (fun s => (hsec1 s).trans (exists_congr fun t => (isTriple_chain A B C xa xb1 xb2 xc s t).symm))
    hsec2 (fun LA LM LC oA oM oC fa => helem LA LM LC oA oM oC ((freeAddr_chain ..).mp fa)) s o ho
  rw [List.append_nil, List.append_nil, ← wA, ← wC]
  exact hidx

section geomL
variable {nA nB : Nat} {xa xb1 xb2 : List Nat} {α : Type}

theorem freeAB (nA nB : Nat) (xa xb1 xb2 : List Nat) :
    freeAxes ((freeAxes nA xa).length + (freeAxes nB xb1).length) (axesAB nA nB xa xb1 xb2)
      = List.range (freeAxes nA xa).length
        ++ (freeAxes (freeAxes nB xb1).length (positions (freeAxes nB xb1) xb2)).map
            ((freeAxes nA xa).length + ·) := by
  unfold axesAB
  exact freeAxes_shift _ _ _

variable {α : Type}

theorem readAB_ax (h : Mid nB xb1 xb2) (u z : List α) (hu : u.length = (freeAxes nA xa).length)
    (hz : z.length = nB) :
    permuted (u ++ permuted z (freeAxes nB xb1)) (axesAB nA nB xa xb1 xb2) = permuted z xb2 := by
  unfold axesAB
  rw [← hu, permuted_append_map_add, h.read_ax z hz]

end geomL

section signL
variable [AddMonoid R] [Mul R] [Neg R]
variable {A B C AB : Arr R} {xa xb1 xb2 xc : List Nat} {ph : Int}

theorem sign_left (I : Inter A B xa xb1 AB ph) (hsym : A.sym = B.sym) (h : Mid B.ndim xb1 xb2)
    (sa sb sc : Sector) (hsa : sa.length = A.ndim) (hsb : sb.length = B.ndim) :
    gradedSign AB C (axesAB A.ndim B.ndim xa xb1 xb2) xc
        (permuted sa (freeAxes A.ndim xa) ++ permuted sb (freeAxes B.ndim xb1)) sc
      * gradedSign A B xa xb1 sa sb
      = S3 A B C xa xb1 xb2 xc (sa, sb, sc) := by
  have hlA : (permuted sa (freeAxes A.ndim xa)).length = (freeAxes A.ndim xa).length :=
    permuted_length _ _ (by intro x hx; rw [hsa]; exact (mem_freeAxes.mp hx).1)
  have hpA : (permuted (A.parities sa) (freeAxes A.ndim xa)).length = (freeAxes A.ndim xa).length :=
    permuted_length _ _ (by
      intro x hx; unfold Arr.parities; rw [List.length_map, hsa]; exact (mem_freeAxes.mp hx).1)
  have hpB : (permuted (B.parities sb) (freeAxes B.ndim xb1)).length = (freeAxes B.ndim xb1).length :=
    permuted_length _ _ (by
      intro x hx; unfold Arr.parities; rw [List.length_map, hsb]; exact (mem_freeAxes.mp hx).1)
  have hparB : (B.parities sb).length = B.ndim := by unfold Arr.parities; rw [List.length_map, hsb]
  have k1 : koszul (AB.parities (permuted sa (freeAxes A.ndim xa) ++ permuted sb (freeAxes B.ndim xb1)))
      (some (freeAxes AB.ndim (axesAB A.ndim B.ndim xa xb1 xb2) ++ axesAB A.ndim B.ndim xa xb1 xb2))
      = koszul (permuted (B.parities sb) (freeAxes B.ndim xb1))
          (some (freeAxes (freeAxes B.ndim xb1).length (positions (freeAxes B.ndim xb1) xb2)
            ++ positions (freeAxes B.ndim xb1) xb2)) := by
    rw [parities_AB I hsym, I.ndim, freeAB]
    have hq := perm_left h.pos_nodup h.pos_lt
    have := koszul_id_block_left (permuted (A.parities sa) (freeAxes A.ndim xa))
      (permuted (B.parities sb) (freeAxes B.ndim xb1))
      (freeAxes (freeAxes B.ndim xb1).length (positions (freeAxes B.ndim xb1) xb2)
        ++ positions (freeAxes B.ndim xb1) xb2) (hpB.symm ▸ hq)
    rw [hpA, List.map_append] at this
    unfold axesAB
    rw [List.append_assoc]
    exact this
  have k2 := h.koszul_left (B.parities sb) hparB
  have o1 : oddContracted AB (axesAB A.ndim B.ndim xa xb1 xb2)
      (permuted sa (freeAxes A.ndim xa) ++ permuted sb (freeAxes B.ndim xb1))
      = oddContracted B xb2 sb := by
    unfold oddContracted
    rw [readAB_ax h _ sb hlA hsb, I.sym, hsym]
  have o2 := ketOdd_AB I hsym h sa sb hsa hsb
  unfold gradedSign S3
  rw [k1, o1, o2, ← k2]
  simp only []
  ring

end signL

section valueL
variable [AddCommMonoid R] [Mul R] [Neg R] [SignRing R] [AssocLaws R]
variable {A B C AB : Arr R} {xa xb1 xb2 xc : List Nat} {ph : Int}


theorem left_split (I : Inter A B xa xb1 AB ph) (hA0 : Mid A.ndim xa []) (h : Mid B.ndim xb1 xb2)
    {LA LM LC X : Sector} (lA : LA.length = (freeAxes A.ndim xa).length)
    (lM : LM.length = (freeAxes B.ndim (xb1 ++ xb2)).length)
    {sa sb : Sector} (hsa : sa.length = A.ndim) (hsb : sb.length = B.ndim)
    (hs : permuted (permuted sa (freeAxes A.ndim xa) ++ permuted sb (freeAxes B.ndim xb1))
        (freeAxes AB.ndim (axesAB A.ndim B.ndim xa xb1 xb2)) ++ X = LA ++ LM ++ LC) :
    permuted sa (freeAxes A.ndim xa) = LA ∧ permuted sb (freeAxes B.ndim (xb1 ++ xb2)) = LM
      ∧ X = LC := by
  have := Assoc2P.left_split (xa3 := []) I hA0 h (by rw [List.append_nil]; exact lA) lM hsa hsb hs
  rwa [List.append_nil] at this

/-- the value of `A·B` at the address the second call reads -/
theorem left_inner (I : Inter A B xa xb1 AB ph) (hAB : Adm A B xa xb1) (h : Mid B.ndim xb1 xb2)
    {LA LM LC : Sector} {oA oM oC : List Nat} (fa : FreeAddr A B C xa xb1 xb2 xc LA LM LC oA oM oC)
    {sa sb : Sector} (hA : sa ∈ A.sectors) (hB : sb ∈ B.sectors)
    (hal : permuted sb xb1 = permuted sa xa)
    (hLA : permuted sa (freeAxes A.ndim xa) = LA)
    (hLM : permuted sb (freeAxes B.ndim (xb1 ++ xb2)) = LM)
    (k2 : List Nat) (hk2 : inBox (permuted (Arr.blockShapeD B.indices sb) xb2) k2 = true) :
    AB.elem (permuted sa (freeAxes A.ndim xa) ++ permuted sb (freeAxes B.ndim xb1))
        (mergeIdx 0 AB.ndim (axesAB A.ndim B.ndim xa xb1 xb2)
          (freeAxes AB.ndim (axesAB A.ndim B.ndim xa xb1 xb2)) k2 (oA ++ oM))
      = sgnI ph (gradedContract A B xa xb1
          (permuted sa (freeAxes A.ndim xa) ++ permuted sb (freeAxes B.ndim xb1)) oA
          (mergeIdx 0 (freeAxes B.ndim xb1).length (positions (freeAxes B.ndim xb1) xb2)
            (freeAxes (freeAxes B.ndim xb1).length (positions (freeAxes B.ndim xb1) xb2)) k2 oM)) := by
  have hsa := Arr.shapesOk_of_validB hAB.va
  have hsb := Arr.shapesOk_of_validB hAB.vb
  obtain ⟨shpB, hB1, hB2, hB3, hB4⟩ := shape_of_mem hsb hB
  have hk2l : k2.length = (positions (freeAxes B.ndim xb1) xb2).length := by
    rw [inBox_length hk2, h.pos_len, permuted_length _ _ (by rw [hB2, hB3]; exact h.lt2)]
  have mA0 : Mid A.ndim xa [] :=
    Mid.of (by rw [List.append_nil]; exact hAB.nA)
      (by intro i hi; rw [List.append_nil] at hi; exact hAB.ltA i hi)
  have hbox := (Assoc3P.pair_shape (xa3 := []) I hAB.va hAB.vb mA0 h hA hB hal).1
  -- the pair lemma at an empty second bond of `A`; its address is `oA ++ _` here
  have key := Assoc3P.pair_value (xa3 := []) I hAB.va hAB.vb mA0 h (LA := LA) (LM := LM)
    (oA := oA) (oM := oM)
    (by rw [List.append_nil]; exact fa.loA)
    (by rw [List.append_nil]; have := fa.bA; rwa [without_eq_permuted_freeAxes] at this)
    fa.bM hA hB hal (by rw [List.append_nil]; exact hLA) hLM k2 (by rw [hbox]; exact hk2)
  rw [axesAB_chain] at key
  have e : mergeIdx 0 AB.ndim (axesAB A.ndim B.ndim xa xb1 xb2)
        (freeAxes AB.ndim (axesAB A.ndim B.ndim xa xb1 xb2)) k2 (oA ++ oM)
      = oA ++ mergeIdx 0 (freeAxes B.ndim xb1).length (positions (freeAxes B.ndim xb1) xb2)
          (freeAxes (freeAxes B.ndim xb1).length (positions (freeAxes B.ndim xb1) xb2)) k2 oM := by
    rw [I.ndim]
    unfold axesAB
    exact mergeIdx_shift 0 _ _ _ k2 oA oM h.pos_nodup h.pos_lt hk2l fa.loA
      (by rw [fa.loM, h.free_len])
  rw [e, List.take_left' fa.loA, List.drop_left' fa.loA] at key
  rw [e]
  exact key

/-- **route `(A·B)·C`**: the graded contraction of the intermediate result with `C` is the
    label sign of the first call times the canonical signed sum over the stored sector triples -/
theorem route_left (I : Inter A B xa xb1 AB ph) (hAB : Adm A B xa xb1) (h : Mid B.ndim xb1 xb2)
    {LA LM LC : Sector} {oA oM oC : List Nat} (fa : FreeAddr A B C xa xb1 xb2 xc LA LM LC oA oM oC) :
    gradedContract AB C (axesAB A.ndim B.ndim xa xb1 xb2) xc (LA ++ LM ++ LC) (oA ++ oM) oC
      = sgnI ph (((triplesL A B C AB xa xb1 xb2 xc (LA ++ LM ++ LC)).map
          (fun t => sgnI (S3 A B C xa xb1 xb2 xc t) (W3 A B C xa xb1 xb2 xc oA oM oC t))).sum) := by
  have mA0 : Mid A.ndim xa [] :=
    Mid.of (by rw [List.append_nil]; exact hAB.nA)
      (by intro i hi; rw [List.append_nil] at hi; exact hAB.ltA i hi)
  have hsa := Arr.shapesOk_of_validB hAB.va
  have hsb := Arr.shapesOk_of_validB hAB.vb
  let oB1 : List Nat → List Nat := fun k2 =>
    mergeIdx 0 (freeAxes B.ndim xb1).length (positions (freeAxes B.ndim xb1) xb2)
      (freeAxes (freeAxes B.ndim xb1).length (positions (freeAxes B.ndim xb1) xb2)) k2 oM
  let g : Sector × Sector → Sector × Sector → R := fun p q =>
    sgnI (gradedSign AB C (axesAB A.ndim B.ndim xa xb1 xb2) xc p.1 p.2 * gradedSign A B xa xb1 q.1 q.2)
      (((allIdx (permuted (Arr.blockShapeD AB.indices p.1) (axesAB A.ndim B.ndim xa xb1 xb2))).map
        (fun k2 => ((allIdx (permuted (Arr.blockShapeD A.indices q.1) xa)).map (fun k1 =>
          A.elem q.1 (mergeIdx 0 A.ndim xa (freeAxes A.ndim xa) k1 oA)
            * B.elem q.2 (mergeIdx 0 B.ndim xb1 (freeAxes B.ndim xb1) k1 (oB1 k2))
            * C.elem p.2 (mergeIdx 0 C.ndim xc (freeAxes C.ndim xc) k2 oC))).sum)).sum)
  have hmem : ∀ p ∈ storedPairs AB C (freeAxes AB.ndim (axesAB A.ndim B.ndim xa xb1 xb2))
        (axesAB A.ndim B.ndim xa xb1 xb2) xc (freeAxes C.ndim xc) (LA ++ LM ++ LC),
      ∀ q ∈ storedPairs A B (freeAxes A.ndim xa) xa xb1 (freeAxes B.ndim xb1) p.1,
      q.1 ∈ A.sectors ∧ q.2 ∈ B.sectors ∧ permuted q.2 xb1 = permuted q.1 xa
        ∧ p.1 = permuted q.1 (freeAxes A.ndim xa) ++ permuted q.2 (freeAxes B.ndim xb1)
        ∧ permuted q.1 (freeAxes A.ndim xa) = LA
        ∧ permuted q.2 (freeAxes B.ndim (xb1 ++ xb2)) = LM := by
    rintro ⟨sab, sc⟩ hp ⟨sa, sb⟩ hq
    obtain ⟨_, _, _, hs⟩ := mem_storedPairs.mp hp
    obtain ⟨hA, hB, hal, hsab⟩ := mem_storedPairs.mp hq
    simp only at hsab hs ⊢
    subst hsab
    obtain ⟨e1, e2, _⟩ := left_split I mA0 h fa.lA fa.lM (Arr.sector_length hsa hA)
      (Arr.sector_length hsb hB) hs
    exact ⟨hA, hB, hal, rfl, e1, e2⟩
  unfold gradedContract triplesL
  -- the nested sum over stored pairs is one sum over the triples (`sum_flat`, arguments in full)
  refine Eq.trans ?_ (sum_flat
    (storedPairs AB C (freeAxes AB.ndim (axesAB A.ndim B.ndim xa xb1 xb2))
      (axesAB A.ndim B.ndim xa xb1 xb2) xc (freeAxes C.ndim xc) (LA ++ LM ++ LC))
    (fun p => storedPairs A B (freeAxes A.ndim xa) xa xb1 (freeAxes B.ndim xb1) p.1)
    (fun p q => (q.1, q.2, p.2)) ph g
    (fun t => sgnI (S3 A B C xa xb1 xb2 xc t) (W3 A B C xa xb1 xb2 xc oA oM oC t)) ?_)
  ·
    congr 1
    apply List.map_congr_left
    rintro ⟨sab, sc⟩ hp
    obtain ⟨hsabM, _, _, hs⟩ := mem_storedPairs.mp hp
    obtain ⟨sa, hA, sb, hB, hal, hsab⟩ := I.mem_sectors.mp hsabM
    simp only at hsab hs ⊢
    subst hsab
    obtain ⟨hLA, hLM, _⟩ := left_split I mA0 h fa.lA fa.lM (Arr.sector_length hsa hA)
      (Arr.sector_length hsb hB) hs
    obtain ⟨shpA, hA1, hA2, hA3, hA4⟩ := shape_of_mem hsa hA
    obtain ⟨shpB, hB1, hB2, hB3, hB4⟩ := shape_of_mem hsb hB
    have hbox2 : permuted (Arr.blockShapeD AB.indices
          (permuted sa (freeAxes A.ndim xa) ++ permuted sb (freeAxes B.ndim xb1)))
          (axesAB A.ndim B.ndim xa xb1 xb2)
        = permuted (Arr.blockShapeD B.indices sb) xb2 :=
      (Assoc3P.pair_shape (xa3 := []) I hAB.va hAB.vb mA0 h hA hB hal).1
    have hcp : contractPair AB C (axesAB A.ndim B.ndim xa xb1 xb2) xc (oA ++ oM) oC
          (permuted sa (freeAxes A.ndim xa) ++ permuted sb (freeAxes B.ndim xb1), sc)
        = ((allIdx (permuted (Arr.blockShapeD AB.indices
              (permuted sa (freeAxes A.ndim xa) ++ permuted sb (freeAxes B.ndim xb1)))
              (axesAB A.ndim B.ndim xa xb1 xb2))).map (fun k2 =>
            sgnI ph (((storedPairs A B (freeAxes A.ndim xa) xa xb1 (freeAxes B.ndim xb1)
                (permuted sa (freeAxes A.ndim xa) ++ permuted sb (freeAxes B.ndim xb1))).map (fun q =>
              sgnI (gradedSign A B xa xb1 q.1 q.2)
                (((allIdx (permuted (Arr.blockShapeD A.indices q.1) xa)).map (fun k1 =>
                  A.elem q.1 (mergeIdx 0 A.ndim xa (freeAxes A.ndim xa) k1 oA)
                    * B.elem q.2 (mergeIdx 0 B.ndim xb1 (freeAxes B.ndim xb1) k1 (oB1 k2)))).sum))).sum)
              * C.elem sc (mergeIdx 0 C.ndim xc (freeAxes C.ndim xc) k2 oC))).sum := by
      unfold contractPair
      congr 1
      apply List.map_congr_left
      intro k2 hk2
      have hk2' : inBox (permuted (Arr.blockShapeD B.indices sb) xb2) k2 = true := by
        rw [← hbox2]; exact mem_allIdx.mp hk2
      unfold contractTerm
      rw [left_inner I hAB h fa hA hB hal hLA hLM k2 hk2']
      rfl
    rw [hcp]
    -- the first call's sum goes inside the second call's: `expand` at `μ x c := x * c`; the lists, the
    -- signs and the two summands (the `_`) are read off the goal
    exact Assoc2P.expand (· * ·) (fun h x c => sgnI_mul_l h x c) sum_mul _ _ _ _ ph _
      (gradedSign_pm _ _ _ _ _ _) I.pm (fun q => gradedSign_pm _ _ _ _ _ _) _ _
  ·
    rintro ⟨sab, sc⟩ hp ⟨sa, sb⟩ hq
    obtain ⟨hA, hB, hal, hsab, hLA, hLM⟩ := hmem _ hp _ hq
    simp only at hA hB hal hsab hLA hLM ⊢
    subst hsab
    obtain ⟨shpA, hA1, hA2, hA3, hA4⟩ := shape_of_mem hsa hA
    obtain ⟨shpB, hB1, hB2, hB3, hB4⟩ := shape_of_mem hsb hB
    have hbox2 : permuted (Arr.blockShapeD AB.indices
          (permuted sa (freeAxes A.ndim xa) ++ permuted sb (freeAxes B.ndim xb1)))
          (axesAB A.ndim B.ndim xa xb1 xb2)
        = permuted (Arr.blockShapeD B.indices sb) xb2 :=
      (Assoc3P.pair_shape (xa3 := []) I hAB.va hAB.vb mA0 h hA hB hal).1
    show sgnI _ _ = sgnI _ _
    rw [sign_left I hAB.sym h sa sb sc (Arr.sector_length hsa hA) (Arr.sector_length hsb hB)]
    congr 1
    rw [triple_sum, hbox2]
    unfold W3
    apply sum_map_congr
    intro k1 hk1
    apply sum_map_congr
    intro k2 hk2
    have hk1l : k1.length = xb1.length := by
      rw [inBox_length (mem_allIdx.mp hk1),
        permuted_length _ _ (by rw [hA2, hA3]; exact hAB.ltA), hAB.len]
    have hk2l : k2.length = xb2.length := by
      rw [inBox_length (mem_allIdx.mp hk2),
        permuted_length _ _ (by rw [hB2, hB3]; exact h.lt2)]
    show _ * (B.elem sb (mergeIdx 0 B.ndim xb1 (freeAxes B.ndim xb1) k1 (oB1 k2)) * _) = _
    rw [show oB1 k2 = mergeIdx 0 (freeAxes B.ndim xb1).length (positions (freeAxes B.ndim xb1) xb2)
      (freeAxes (freeAxes B.ndim xb1).length (positions (freeAxes B.ndim xb1) xb2)) k2 oM from rfl,
      h.nest_left 0 k1 k2 oM hk1l hk2l fa.loM]

end valueL

end AssocP
end SymmModel
