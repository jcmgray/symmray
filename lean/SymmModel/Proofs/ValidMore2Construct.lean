/-
  SymmModel.Proofs.ValidMore2Construct — the constructors of Model/Construct.lean return valid
  arrays (property C01).

  (a) `construct_valid`     guard `constructOkB`   (clause by clause: `construct_valid_of`)
  (b) `fromBlocks_valid`    guard `fromBlocksOkB`
  (c) `fromDense_valid`     guard `fromDenseOkB`
  (d) `fromFillFn_valid`    guard `fromFillFnOkB` + the contract `FillOk` of the fill function

  The block clause `blockOkB` and the label clause `oddposOkB` shared by the guards are the clauses
  `BlockOk` and `SignsOk` of `Valid` (`blockOkB_iff`, `oddposOkB_iff`); (b), (c) and (d) end in
  `construct` and go through `construct_valid_of`.

  Every guard is a decidable `Bool`; each section ends with concrete instances (the constructor
  succeeds and the result passes `validB`, by evaluation) and, clause by clause of the guard,
  theorems exhibiting inputs on which the constructor succeeds but the result is NOT valid (there
  is none for the `Index.wfListB` clause of `fromFillFnOkB`).

  FINDING recorded here (`construct_odd_even_labels_invalid` and its siblings): the model's
  `construct` (Python `oddpos_parse`) only rejects `fermionic ∧ odd charge ∧ no label`; an odd
  array given an even number ≥ 2 of labels, an even array given an odd number of labels, and an
  abelian array given labels are all accepted and fail `validB` ("oddpos-parity" /
  "abelian-with-signs").  Hence the label clause `oddposOkB` is an explicit hypothesis.
-/
import SymmModel.Proofs.ValidLinalg
import SymmModel.Proofs.ValidMore
import SymmModel.Model.Construct

namespace SymmModel
namespace ValidP
open Sym

variable {R : Type}

/-- the charge `construct` gives to the array (copy of the model text) -/
def constructCharge (sym : Sym) (indices : List Index) (charge : Option Charge)
    (blocks : List (Sector × Blk R)) : Charge :=
  match charge with
  | some c => c
  | none => match adict blocks with
    | (s, _) :: _ => Arr.sectorCharge sym (indices.map Index.dual) s
    | [] => sym.zero

/-- the array `construct` returns when it does not throw -/
def constructArr (sym : Sym) (fermi : Bool) (indices : List Index) (charge : Option Charge)
    (blocks : List (Sector × Blk R)) (oddpos : List (Int × Bool)) : Arr R :=
  { sym, fermi, indices, charge := constructCharge sym indices charge blocks,
    blocks := adict blocks, phases := [], oddpos := oddpos }

theorem construct_eq_ite (sym : Sym) (fermi : Bool) (indices : List Index) (charge : Option Charge)
    (blocks : List (Sector × Blk R)) (oddpos : List (Int × Bool)) :
    construct sym fermi indices charge blocks oddpos =
      if (fermi && sym.parity (constructCharge sym indices charge blocks) && oddpos.isEmpty) = true
      then .error Err.value
      else .ok (constructArr sym fermi indices charge blocks oddpos) := by
  unfold construct constructArr constructCharge
  split <;> rfl

theorem construct_ok {sym : Sym} {fermi : Bool} {indices : List Index} {charge : Option Charge}
    {blocks : List (Sector × Blk R)} {oddpos : List (Int × Bool)} {a : Arr R}
    (h : construct sym fermi indices charge blocks oddpos = .ok a) :
    a = constructArr sym fermi indices charge blocks oddpos := by
  rw [construct_eq_ite] at h
  split at h
  · cases h
  · cases h; rfl

/-! ### the first key of `dict(pairs)` is the first key of `pairs` -/

theorem ainsert_head {κ β : Type} [BEq κ] (k : κ) (v : β) (rest : List (κ × β)) (k0 : κ) (v0 : β) :
    ∃ v' rest', ainsert ((k, v) :: rest) k0 v0 = (k, v') :: rest' := by
  simp only [ainsert]
  split
  · exact ⟨_, _, rfl⟩
  · exact ⟨_, _, rfl⟩

theorem foldl_ainsert_head {κ β : Type} [BEq κ] (ps : List (κ × β)) (k : κ) (v : β)
    (rest : List (κ × β)) :
    ∃ v' rest', ps.foldl (fun acc p => ainsert acc p.1 p.2) ((k, v) :: rest) = (k, v') :: rest' := by
  induction ps generalizing v rest with
  | nil => exact ⟨v, rest, rfl⟩
  | cons p ps ih =>
    simp only [List.foldl_cons]
    obtain ⟨v', rest', h⟩ := ainsert_head k v rest p.1 p.2
    rw [h]
    exact ih v' rest'

theorem adict_cons_head {κ β : Type} [BEq κ] (k : κ) (v : β) (ps : List (κ × β)) :
    ∃ v' rest', adict ((k, v) :: ps) = (k, v') :: rest' := by
  unfold adict
  simp only [List.foldl_cons, ainsert]
  exact foldl_ainsert_head ps k v []

theorem constructCharge_none_cons (sym : Sym) (indices : List Index) (s : Sector) (b : Blk R)
    (rest : List (Sector × Blk R)) :
    constructCharge sym indices none ((s, b) :: rest)
      = Arr.sectorCharge sym (indices.map Index.dual) s := by
  obtain ⟨v', rest', h⟩ := adict_cons_head s b rest
  simp only [constructCharge, h]

theorem constructCharge_none_nil (sym : Sym) (indices : List Index) :
    constructCharge sym indices none ([] : List (Sector × Blk R)) = sym.zero := rfl

theorem constructCharge_some (sym : Sym) (indices : List Index) (c : Charge)
    (blocks : List (Sector × Blk R)) : constructCharge sym indices (some c) blocks = c := rfl

/-- the sign bookkeeping a constructor is handed: a fermionic array carries an odd number of
    labels exactly when its charge is odd; an abelian array carries none.  (`construct` itself
    only rejects `fermi ∧ odd ∧ no label`.) -/
def oddposOkB (sym : Sym) (fermi : Bool) (ch : Charge) (oddpos : List (Int × Bool)) : Bool :=
  if fermi then (oddpos.length % 2 == 1) == sym.parity ch else oddpos.isEmpty

def blockOkB (sym : Sym) (indices : List Index) (ch : Charge) (sb : Sector × Blk R) : Bool :=
  sb.1.length == indices.length
  && Arr.blockShape? indices sb.1 == some sb.2.shape
  && sb.2.wf
  && Arr.sectorCharge sym (indices.map Index.dual) sb.1 == ch

/-- the decidable precondition of `construct` (what `AbelianArray.check()` would verify of the
    arguments).  For `charge = none` the clause on sector charges says that all given sectors
    have the signed combination of the first one. -/
def constructOkB (sym : Sym) (fermi : Bool) (indices : List Index) (charge : Option Charge)
    (blocks : List (Sector × Blk R)) (oddpos : List (Int × Bool)) : Bool :=
  Index.wfListB sym indices
  && (match charge with
      | some c => sym.valid c
      | none => true)
  && blocks.all (blockOkB sym indices (constructCharge sym indices charge blocks))
  && oddposOkB sym fermi (constructCharge sym indices charge blocks) oddpos

theorem blockOkB_iff {sym : Sym} {indices : List Index} {ch : Charge} {sb : Sector × Blk R} :
    blockOkB sym indices ch sb = true ↔ BlockOk sym indices ch sb := by
  simp only [blockOkB, Bool.and_eq_true, beq_iff_eq, BlockOk, SecOk]
  constructor
  · rintro ⟨⟨⟨a1, a2⟩, a3⟩, a4⟩; exact ⟨⟨a1, a4⟩, a2, a3⟩
  · rintro ⟨⟨a1, a4⟩, a2, a3⟩; exact ⟨⟨⟨a1, a2⟩, a3⟩, a4⟩

theorem oddposOkB_iff {sym : Sym} {fermi : Bool} {indices : List Index} {ch : Charge}
    {oddpos : List (Int × Bool)} :
    oddposOkB sym fermi ch oddpos = true ↔ SignsOk sym fermi indices ch [] oddpos := by
  cases fermi
  · simp [oddposOkB, signsOk_abelian]
  · simp [oddposOkB, signsOk_fermi, phasesOk_nil]

theorem constructCharge_valid {sym : Sym} {indices : List Index} {charge : Option Charge}
    {blocks : List (Sector × Blk R)} (h : ∀ c, charge = some c → sym.valid c = true) :
    sym.valid (constructCharge sym indices charge blocks) = true := by
  unfold constructCharge
  cases charge with
  | some c => exact h c rfl
  | none =>
    simp only
    split
    · exact Sym.combine_valid _ _
    · exact Sym.combine_valid _ _

/-- **`construct` returns a valid array**, clause by clause -/
theorem construct_valid_of {sym : Sym} {fermi : Bool} {indices : List Index} {charge : Option Charge}
    {blocks : List (Sector × Blk R)} {oddpos : List (Int × Bool)} {a : Arr R}
    (hidx : ∀ i ∈ indices, Index.wfB sym i = true)
    (hchg : ∀ c, charge = some c → sym.valid c = true)
    (hblk : ∀ sb ∈ blocks, BlockOk sym indices (constructCharge sym indices charge blocks) sb)
    (hodd : oddposOkB sym fermi (constructCharge sym indices charge blocks) oddpos = true)
    (h : construct sym fermi indices charge blocks oddpos = .ok a) : Valid a := by
  rw [construct_ok h]
  exact ⟨hidx, constructCharge_valid hchg, adict_keys_nodup _, fun sb hsb => hblk sb (mem_adict hsb),
    oddposOkB_iff.mp hodd⟩

/-- **`construct` returns a valid array** (decidable guard) -/
theorem construct_valid {sym : Sym} {fermi : Bool} {indices : List Index} {charge : Option Charge}
    {blocks : List (Sector × Blk R)} {oddpos : List (Int × Bool)} {a : Arr R}
    (hok : constructOkB sym fermi indices charge blocks oddpos = true)
    (h : construct sym fermi indices charge blocks oddpos = .ok a) : a.validB = true := by
  simp only [constructOkB, Bool.and_eq_true, Index.wfListB_iff, List.all_eq_true, blockOkB_iff] at hok
  obtain ⟨⟨⟨h1, h2⟩, h3⟩, h4⟩ := hok
  exact (validB_iff a).mpr (construct_valid_of h1 (by rintro c rfl; exact h2) h3 h4 h)

section ExamplesA

/-- U1 tables with mixed directions -/
def exIdxU1 : List Index :=
  [Index.mk [((0, 0), 2), ((1, 0), 1)] false none, Index.mk [((0, 0), 1), ((1, 0), 3)] true none]

def exBlocksU1 : List (Sector × Blk Int) :=
  [([(0, 0), (0, 0)], ⟨[2, 1], #[1, 2]⟩), ([(1, 0), (1, 0)], ⟨[1, 3], #[3, 4, 5]⟩)]

/-- Z2 tables with mixed directions -/
def exIdxZ2 : List Index :=
  [Index.mk [((0, 0), 2), ((1, 0), 3)] true none, Index.mk [((0, 0), 1), ((1, 0), 2)] false none]

/-- two odd blocks -/
def exBlocksZ2 : List (Sector × Blk Int) :=
  [([(0, 0), (1, 0)], ⟨[2, 2], #[1, 2, 3, 4]⟩), ([(1, 0), (0, 0)], ⟨[3, 1], #[5, 6, 7]⟩)]

-- abelian U1, inferred charge, two blocks, with a repeated key (the later block wins)
example : constructOkB .U1 false exIdxU1 none (exBlocksU1 ++ [([(0, 0), (0, 0)], ⟨[2, 1], #[7, 8]⟩)]) [] = true := by
  decide
example : ∃ a, construct .U1 false exIdxU1 none (exBlocksU1 ++ [([(0, 0), (0, 0)], ⟨[2, 1], #[7, 8]⟩)]) [] = .ok a
    ∧ a.validB = true ∧ a.sectors = [[(0, 0), (0, 0)], [(1, 0), (1, 0)]] :=
  ⟨_, rfl, by decide, by decide⟩
-- fermionic Z2, odd explicit charge, one label
example : constructOkB .Z2 true exIdxZ2 (some (1, 0)) exBlocksZ2 [(0, false)] = true := by decide
example : ∃ a, construct .Z2 true exIdxZ2 (some (1, 0)) exBlocksZ2 [(0, false)] = .ok a
    ∧ a.validB = true := ⟨_, rfl, by decide⟩
-- fermionic Z2, odd inferred charge, three labels
example : constructOkB .Z2 true exIdxZ2 none exBlocksZ2 [(0, false), (1, true), (2, false)] = true := by
  decide
-- no blocks, no charge: the identity charge
example : constructOkB .U1 true exIdxU1 none ([] : List (Sector × Blk Int)) [] = true := by decide
example (a : Arr Int) (h : construct .Z2 true exIdxZ2 none exBlocksZ2 [(0, false)] = .ok a) :
    a.validB = true := construct_valid (by decide) h

/-- FINDING (model = Python `oddpos_parse`): `construct` only rejects an odd fermionic array with
    NO label; an odd array with an even number ≥ 2 of labels is accepted and is invalid -/
theorem construct_odd_even_labels_invalid :
    ∃ a, construct .Z2 true exIdxZ2 (some (1, 0)) exBlocksZ2 [(0, false), (1, false)] = .ok a
      ∧ a.validB = false ∧ a.invalidReason = "oddpos-parity" := ⟨_, rfl, by decide, by decide⟩

/-- … and an even fermionic array with one label is accepted too -/
theorem construct_even_one_label_invalid :
    ∃ a, construct .Z2 true exIdxZ2 (some (0, 0)) ([] : List (Sector × Blk Int)) [(0, false)] = .ok a
      ∧ a.validB = false := ⟨_, rfl, by decide⟩

/-- an abelian array must not be given labels -/
theorem construct_abelian_labels_invalid :
    ∃ a, construct .U1 false exIdxU1 none exBlocksU1 [(0, false)] = .ok a ∧ a.validB = false :=
  ⟨_, rfl, by decide⟩

/-- `charge = none`: sectors of different signed charge are accepted (charge of the first) -/
theorem construct_mixed_charges_invalid :
    ∃ a, construct .U1 false exIdxU1 none
        (exBlocksU1 ++ [([(1, 0), (0, 0)], ⟨[1, 1], #[9]⟩)]) [] = .ok a
      ∧ a.validB = false ∧ a.invalidReason = "sector-charge" := ⟨_, rfl, by decide, by decide⟩

/-- a block whose shape disagrees with the tables -/
theorem construct_bad_shape_invalid :
    ∃ a, construct .U1 false exIdxU1 none [([(0, 0), (0, 0)], (⟨[2, 2], #[1, 2, 3, 4]⟩ : Blk Int))] []
        = .ok a ∧ a.validB = false := ⟨_, rfl, by decide⟩

/-- a block whose data does not fill its shape -/
theorem construct_bad_data_invalid :
    ∃ a, construct .U1 false exIdxU1 none [([(0, 0), (0, 0)], (⟨[2, 1], #[1]⟩ : Blk Int))] []
        = .ok a ∧ a.validB = false := ⟨_, rfl, by decide⟩

/-- an explicit charge outside the group -/
theorem construct_bad_charge_invalid :
    ∃ a, construct .Z2 false exIdxZ2 (some (2, 0)) ([] : List (Sector × Blk Int)) [] = .ok a
      ∧ a.validB = false := ⟨_, rfl, by decide⟩

/-- an unsorted index table -/
theorem construct_bad_index_invalid :
    ∃ a, construct .U1 false [Index.mk [((1, 0), 1), ((0, 0), 2)] false none] none
        ([] : List (Sector × Blk Int)) [] = .ok a ∧ a.validB = false := ⟨_, rfl, by decide⟩

end ExamplesA


theorem alookup_append_match {κ β : Type} [BEq κ] (l l' : List (κ × β)) (k : κ) :
    alookup (l ++ l') k = match alookup l k with
      | some v => some v
      | none => alookup l' k := by
  induction l with
  | nil => rfl
  | cons p rest ih =>
    obtain ⟨k', v'⟩ := p
    simp only [List.cons_append, alookup]
    split
    · rfl
    · exact ih

/-- the per-axis tables during the loops: `n` tables, distinct keys, entries satisfying `Q` -/
def MInv (n : Nat) (Q : Charge × Nat → Prop) (maps : List (List (Charge × Nat))) : Prop :=
  maps.length = n ∧ ∀ m ∈ maps, (m.map (·.1)).Nodup ∧ ∀ p ∈ m, Q p

/-- recorded sizes are never changed later -/
def MExt (maps maps' : List (List (Charge × Nat))) : Prop :=
  ∀ i c d, alookup (maps.getD i []) c = some d → alookup (maps'.getD i []) c = some d

theorem MExt.refl (maps : List (List (Charge × Nat))) : MExt maps maps := fun _ _ _ h => h
theorem MExt.trans {m1 m2 m3 : List (List (Charge × Nat))} (h1 : MExt m1 m2) (h2 : MExt m2 m3) :
    MExt m1 m3 := fun i c d h => h2 i c d (h1 i c d h)

/-- the sizes of a list of `((charge, size), axis)` entries are recorded in the tables -/
def MRec (maps : List (List (Charge × Nat))) (L : List ((Charge × Nat) × Nat)) : Prop :=
  ∀ x ∈ L, alookup (maps.getD x.2 []) x.1.1 = some x.1.2

theorem MRec.ext {maps maps' : List (List (Charge × Nat))} {L : List ((Charge × Nat) × Nat)}
    (h : MRec maps L) (he : MExt maps maps') : MRec maps' L := fun x hx => he _ _ _ (h x hx)

theorem fb_step_none {n : Nat} {Q : Charge × Nat → Prop} {maps : List (List (Charge × Nat))}
    {c : Charge} {d i : Nat} (hI : MInv n Q maps) (hi : i < n) (hQ : Q (c, d))
    (hnone : alookup (maps.getD i []) c = none) :
    MInv n Q (maps.set i (maps.getD i [] ++ [(c, d)]))
    ∧ MExt maps (maps.set i (maps.getD i [] ++ [(c, d)]))
    ∧ alookup ((maps.set i (maps.getD i [] ++ [(c, d)])).getD i []) c = some d := by
  obtain ⟨hl, hm⟩ := hI
  have hil : i < maps.length := by omega
  have hget : maps.getD i [] = maps[i] := by simp [List.getD_eq_getElem?_getD, hil]
  have hmem : maps[i] ∈ maps := List.getElem_mem hil
  have hself : (maps.set i (maps.getD i [] ++ [(c, d)])).getD i [] = maps.getD i [] ++ [(c, d)] := by
    simp [List.getD_eq_getElem?_getD, hil]
  refine ⟨⟨by simpa using hl, ?_⟩, ?_, ?_⟩
  · intro m hmm
    rcases List.mem_or_eq_of_mem_set hmm with h | h
    · exact hm m h
    · subst h
      rw [hget]
      obtain ⟨h1, h2⟩ := hm _ hmem
      refine ⟨?_, ?_⟩
      · rw [List.map_append]
        refine List.nodup_append.mpr ⟨h1, by simp, ?_⟩
        intro a ha b' hb'
        simp only [List.map_cons, List.map_nil, List.mem_singleton] at hb'
        subst hb'
        intro hab; subst hab
        rw [hget] at hnone
        exact (alookup_eq_none_iff.mp hnone) ha
      · intro p hp
        rcases List.mem_append.mp hp with hp | hp
        · exact h2 p hp
        · simp only [List.mem_singleton] at hp
          subst hp; exact hQ
  · intro j c' d' hj
    by_cases hji : j = i
    · subst hji
      rw [hself, alookup_append_match, hj]
    · have : (maps.set i (maps.getD i [] ++ [(c, d)])).getD j [] = maps.getD j [] := by
        simp [List.getD_eq_getElem?_getD, Ne.symm hji]
      rw [this]; exact hj
  · rw [hself, alookup_append_match, hnone]
    simp [alookup]

/-- the rank `from_blocks` reads off the first sector -/
def fbNdim (blocks : List (Sector × Blk R)) : Nat :=
  match blocks with
  | (s, _) :: _ => s.length
  | [] => 0

/-- what the loops of `from_blocks` establish -/
def FbPost (Q : Charge × Nat → Prop) (blocks : List (Sector × Blk R))
    (maps : List (List (Charge × Nat))) : Prop :=
  MInv (fbNdim blocks) Q maps ∧ ∀ sb ∈ blocks, MRec maps (sb.1.zip sb.2.shape).zipIdx

theorem fromBlocks_inv {sym : Sym} {fermi : Bool} {blocks : List (Sector × Blk R)}
    {duals : List Bool} {charge : Option Charge} {oddpos : List (Int × Bool)} {a : Arr R}
    (Q : Charge × Nat → Prop)
    (hlen : ∀ sb ∈ blocks, sb.1.length = fbNdim blocks)
    (hQ : ∀ sb ∈ blocks, ∀ p ∈ sb.1.zip sb.2.shape, Q p)
    (h : fromBlocks sym fermi blocks duals charge oddpos = .ok a) :
    ∃ maps, blocks ≠ [] ∧ FbPost Q blocks maps ∧ duals.length = fbNdim blocks
      ∧ construct sym fermi (List.zipWith (fun m d => Index.plain m d) maps duals)
          (some (charge.getD sym.zero)) blocks oddpos = .ok a := by
  unfold fromBlocks at h
  cases blocks with
  | nil => simp only [bind, Except.bind, throw, throwThe, MonadExceptOf.throw] at h; cases h
  | cons sb rest =>
    obtain ⟨s, b⟩ := sb
    simp only [bind, Except.bind, pure, Except.pure] at h
    split at h
    · cases h
    · rename_i maps hloop
      have hn : fbNdim ((s, b) :: rest) = s.length := rfl
      have hdl : duals.length = s.length := by
        by_contra hne
        have : (duals.length != s.length) = true := by simpa using hne
        simp only [this, if_true, throw, throwThe, MonadExceptOf.throw] at h
        cases h
      have hc : (duals.length != s.length) = false := by simpa using hdl
      simp only [hc, Bool.false_eq_true, if_false] at h
      refine ⟨maps, by simp, ?_, hdl, h⟩
      rw [hn] at hlen
      unfold FbPost
      rw [hn]
      generalize (s, b) :: rest = bl at hlen hQ hloop ⊢
      generalize s.length = n at hlen hloop ⊢
      have := forIn_yield_inv_mem _
        (fun pre m => MInv n Q m ∧ ∀ sb ∈ pre, MRec m (sb.1.zip sb.2.shape).zipIdx) bl ?_
        [] (List.replicate n []) maps ⟨⟨by simp, ?_⟩, by simp⟩ hloop
      · simpa using this
      · rintro pre x st r hx ⟨hI, hrec⟩ hr
        split at hr
        · cases hr
        · rename_i v hinner
          simp only [Except.ok.injEq] at hr
          refine ⟨v, hr.symm, ?_⟩
          have hJ := forIn_yield_inv_mem _
            (fun pre' m => MInv n Q m ∧ MExt st m ∧ MRec m pre') (x.1.zip x.2.shape).zipIdx ?_
            [] st v ⟨hI, MExt.refl _, by simp [MRec]⟩ hinner
          · simp only [List.nil_append] at hJ
            obtain ⟨j1, j2, j3⟩ := hJ
            refine ⟨j1, ?_⟩
            intro sb hsb
            rcases List.mem_append.mp hsb with hsb | hsb
            · exact (hrec sb hsb).ext j2
            · simp only [List.mem_singleton] at hsb
              subst hsb; exact j3
          · rintro pre' y m r' hy ⟨k1, k2, k3⟩ hr'
            obtain ⟨⟨c, d⟩, i⟩ := y
            have hy' := List.mem_zipIdx_iff_getElem?.mp hy
            simp only at hy'
            have hi : i < n := by
              have h1 := (List.getElem?_eq_some_iff.mp hy').1
              have h2 := hlen x hx
              simp only [List.length_zip] at h1
              omega
            have hq : Q (c, d) := hQ x hx _ (List.mem_of_getElem? hy')
            simp only at hr'
            split at hr'
            · rename_i hnone
              simp only [Except.ok.injEq] at hr'
              obtain ⟨s1, s2, s3⟩ := fb_step_none k1 hi hq hnone
              refine ⟨_, hr'.symm, s1, k2.trans s2, ?_⟩
              intro z hz
              rcases List.mem_append.mp hz with hz | hz
              · exact (k3.ext s2) z hz
              · simp only [List.mem_singleton] at hz
                subst hz; exact s3
            · rename_i d0 hsome
              split at hr'
              · simp only [throw, throwThe, MonadExceptOf.throw] at hr'; cases hr'
              · rename_i hdd
                simp only [Except.ok.injEq] at hr'
                have hd : d = d0 := by simpa using hdd
                subst hd
                refine ⟨_, hr'.symm, k1, k2, ?_⟩
                intro z hz
                rcases List.mem_append.mp hz with hz | hz
                · exact k3 z hz
                · simp only [List.mem_singleton] at hz
                  subst hz; exact hsome
      · intro m hm
        have := List.eq_of_mem_replicate hm
        subst this
        simp

theorem blockShape?_of_getElem {idx : List Index} {s : Sector} {shp : List Nat}
    (hs : s.length = idx.length) (hp : shp.length = idx.length)
    (h : ∀ i (h1 : i < idx.length), idx[i].sizeOf? (s[i]'(by omega)) = some (shp[i]'(by omega))) :
    Arr.blockShape? idx s = some shp := by
  rw [blockShape?_iff]
  refine ⟨idx.zip (s.zip shp), ?_, ?_, ?_, ?_⟩
  · intro t ht
    obtain ⟨i, hi, rfl⟩ := List.getElem_of_mem ht
    simp only [List.length_zip] at hi
    simp only [List.getElem_zip]
    exact h i (by omega)
  · rw [List.map_fst_zip]; simp only [List.length_zip]; omega
  · apply List.ext_getElem
    · simp only [List.length_map, List.length_zip]; omega
    · intro i h1 h2
      simp only [List.getElem_map, List.getElem_zip]
  · apply List.ext_getElem
    · simp only [List.length_map, List.length_zip]; omega
    · intro i h1 h2
      simp only [List.getElem_map, List.getElem_zip]

theorem map_dual_zipWith {α : Type} (g : α → Bool → Index) (hg : ∀ x d, (g x d).dual = d)
    (xs : List α) (duals : List Bool) (h : xs.length = duals.length) :
    (List.zipWith g xs duals).map Index.dual = duals := by
  induction xs generalizing duals with
  | nil => cases duals with
    | nil => rfl
    | cons d ds => simp at h
  | cons m ms ih =>
    cases duals with
    | nil => simp at h
    | cons d ds =>
      simp only [List.zipWith_cons_cons, List.map_cons, hg, List.cons.injEq, true_and]
      exact ih ds (by simpa using h)

/-- the decidable precondition of `from_blocks`: all sectors as long as the first one, made of
    valid charges and conserving the charge w.r.t. `duals`; blocks well formed, of the rank of
    their sector, with positive sizes.  Validity of the total charge is NOT a clause: `from_blocks`
    throws without blocks, and a conserved charge is a `combine`, hence valid (`Sym.combine_valid`).
    `duals.length = rank` is checked by `from_blocks` itself. -/
def fromBlocksOkB (sym : Sym) (fermi : Bool) (blocks : List (Sector × Blk R)) (duals : List Bool)
    (charge : Option Charge) (oddpos : List (Int × Bool)) : Bool :=
  blocks.all (fun sb =>
      sb.1.length == fbNdim blocks
      && sb.1.all sym.valid
      && sb.2.wf
      && sb.2.shape.length == sb.1.length
      && sb.2.shape.all (fun d => decide (0 < d))
      && Arr.sectorCharge sym duals sb.1 == charge.getD sym.zero)
  && oddposOkB sym fermi (charge.getD sym.zero) oddpos

/-- **`from_blocks` returns a valid array** (decidable guard) -/
theorem fromBlocks_valid {sym : Sym} {fermi : Bool} {blocks : List (Sector × Blk R)}
    {duals : List Bool} {charge : Option Charge} {oddpos : List (Int × Bool)} {a : Arr R}
    (hok : fromBlocksOkB sym fermi blocks duals charge oddpos = true)
    (h : fromBlocks sym fermi blocks duals charge oddpos = .ok a) : a.validB = true := by
  simp only [fromBlocksOkB, Bool.and_eq_true, List.all_eq_true, beq_iff_eq, decide_eq_true_eq] at hok
  obtain ⟨hblk, hodd⟩ := hok
  obtain ⟨maps, hne, ⟨⟨hml, hmm⟩, hrec⟩, hdl, hc⟩ :=
    fromBlocks_inv (fun p => 0 < p.2 ∧ sym.valid p.1 = true)
      (fun sb hsb => (hblk sb hsb).1.1.1.1.1)
      (fun sb hsb p hp => by
        obtain ⟨⟨⟨⟨⟨_, a2⟩, _⟩, _⟩, a5⟩, _⟩ := hblk sb hsb
        exact ⟨a5 _ (List.of_mem_zip hp).2, a2 _ (List.of_mem_zip hp).1⟩) h
  refine (validB_iff a).mpr (construct_valid_of ?_ ?_ ?_ hodd hc)
  · intro i hi
    obtain ⟨k, hk, rfl⟩ := List.getElem_of_mem hi
    have hk' : k < maps.length := by simp only [List.length_zipWith] at hk; omega
    simp only [List.getElem_zipWith, Index.plain]
    obtain ⟨m1, m2⟩ := hmm _ (List.getElem_mem hk')
    exact (wfB_none _ _ _).mpr (cmOk_sortCm m1 m2)
  · rintro c hc'; cases hc'
    cases blocks with
    | nil => exact absurd rfl hne
    | cons sb rest =>
      rw [← (hblk sb (by simp)).2]
      exact Sym.combine_valid _ _
  · intro sb hsb
    obtain ⟨⟨⟨⟨⟨a1, a2⟩, a3⟩, a4⟩, a5⟩, a6⟩ := hblk sb hsb
    have hil : (List.zipWith (fun m d => Index.plain m d) maps duals).length = fbNdim blocks := by
      simp only [List.length_zipWith]; omega
    refine ⟨⟨by rw [hil]; exact a1, ?_⟩, ?_, a3⟩
    · show Arr.sectorCharge sym ((List.zipWith (fun m d => Index.plain m d) maps duals).map Index.dual)
        sb.1 = _
      rw [map_dual_zipWith _ (fun _ _ => rfl) _ _ (by omega)]
      exact a6
    · apply blockShape?_of_getElem (by rw [hil]; exact a1) (by rw [hil]; omega)
      intro i hi
      simp only [List.getElem_zipWith, Index.plain, Index.sizeOf?, Index.cm]
      rw [hil] at hi
      have hmem : maps[i]'(by omega) ∈ maps := List.getElem_mem _
      apply alookup_sortCm (hmm _ hmem).1
      have hz : ((sb.1[i]'(by omega), sb.2.shape[i]'(by omega)), i) ∈ (sb.1.zip sb.2.shape).zipIdx := by
        rw [List.mem_zipIdx_iff_getElem?]
        simp only
        rw [List.getElem?_eq_getElem (by simp only [List.length_zip]; omega)]
        simp only [List.getElem_zip]
      have := hrec sb hsb _ hz
      simp only at this
      have hg : maps.getD i [] = maps[i]'(by omega) := by
        simp [List.getD_eq_getElem?_getD, show i < maps.length by omega]
      rw [hg] at this
      exact alookup_some_mem this

section ExamplesB

/-- U1 blocks given with the larger charge first, so the chargemaps get sorted -/
def exFbU1 : List (Sector × Blk Int) :=
  [([(1, 0), (1, 0)], ⟨[1, 3], #[3, 4, 5]⟩), ([(0, 0), (0, 0)], ⟨[2, 1], #[1, 2]⟩),
   ([(-1, 0), (-1, 0)], ⟨[2, 2], #[6, 7, 8, 9]⟩)]

example : fromBlocksOkB .U1 false exFbU1 [false, true] none [] = true := by decide
example : ∃ a, fromBlocks .U1 false exFbU1 [false, true] none [] = .ok a ∧ a.validB = true
    ∧ a.indices.map Index.cm = [[((-1, 0), 2), ((0, 0), 2), ((1, 0), 1)],
                                [((-1, 0), 2), ((0, 0), 1), ((1, 0), 3)]] :=
  ⟨_, rfl, by decide, by decide⟩
-- fermionic Z2, odd charge, one label; the second block repeats the charges of the first axis
example : fromBlocksOkB .Z2 true exBlocksZ2 [true, false] (some (1, 0)) [(5, true)] = true := by decide
example : ∃ a, fromBlocks .Z2 true exBlocksZ2 [true, false] (some (1, 0)) [(5, true)] = .ok a
    ∧ a.validB = true := ⟨_, rfl, by decide⟩
example (a : Arr Int) (h : fromBlocks .Z2 true exBlocksZ2 [true, false] (some (1, 0)) [(5, true)] = .ok a) :
    a.validB = true := fromBlocks_valid (by decide) h
-- inconsistent sizes are rejected by the loops themselves
example : fromBlocks .U1 false
    [([(0, 0), (0, 0)], (⟨[2, 1], #[1, 2]⟩ : Blk Int)), ([(0, 0), (1, 0)], ⟨[3, 1], #[1, 2, 3]⟩)]
    [false, false] none [] = .error Err.value := rfl

/-- a charge label outside the group is accepted (U1 ignores the second component) -/
theorem fromBlocks_bad_label_invalid :
    ∃ a, fromBlocks .U1 false [([(0, 1), (0, 0)], (⟨[2, 1], #[1, 2]⟩ : Blk Int))] [false, true] none []
        = .ok a ∧ a.validB = false ∧ a.invalidReason = "index-table" := ⟨_, rfl, by decide, by decide⟩

/-- an empty block gives a table with a size-zero charge -/
theorem fromBlocks_zero_size_invalid :
    ∃ a, fromBlocks .U1 false [([(0, 0), (0, 0)], (⟨[0, 1], #[]⟩ : Blk Int))] [false, true] none []
        = .ok a ∧ a.validB = false ∧ a.invalidReason = "index-table" := ⟨_, rfl, by decide, by decide⟩

/-- a sector that does not conserve the charge -/
theorem fromBlocks_bad_sector_invalid :
    ∃ a, fromBlocks .U1 false (exFbU1 ++ [([(1, 0), (0, 0)], ⟨[1, 1], #[9]⟩)]) [false, true] none []
        = .ok a ∧ a.validB = false ∧ a.invalidReason = "sector-charge" := ⟨_, rfl, by decide, by decide⟩

/-- a block whose data does not fill its shape -/
theorem fromBlocks_bad_data_invalid :
    ∃ a, fromBlocks .U1 false [([(0, 0), (0, 0)], (⟨[2, 1], #[1]⟩ : Blk Int))] [false, true] none []
        = .ok a ∧ a.validB = false ∧ a.invalidReason = "block-shape" := ⟨_, rfl, by decide, by decide⟩

/-- a block of lower rank than its sector -/
theorem fromBlocks_bad_rank_invalid :
    ∃ a, fromBlocks .U1 false [([(0, 0), (0, 0)], (⟨[2], #[1, 2]⟩ : Blk Int))] [false, true] none []
        = .ok a ∧ a.validB = false := ⟨_, rfl, by decide⟩

/-- a later sector shorter than the first -/
theorem fromBlocks_short_sector_invalid :
    ∃ a, fromBlocks .U1 false
        [([(0, 0), (0, 0)], (⟨[2, 1], #[1, 2]⟩ : Blk Int)), ([(0, 0)], ⟨[2], #[1, 2]⟩)] [false, true] none []
        = .ok a ∧ a.validB = false := ⟨_, rfl, by decide⟩

/-- the label bookkeeping is not checked by `from_blocks` either -/
theorem fromBlocks_odd_even_labels_invalid :
    ∃ a, fromBlocks .Z2 true exBlocksZ2 [true, false] (some (1, 0)) [(5, true), (6, false)] = .ok a
      ∧ a.validB = false ∧ a.invalidReason = "oddpos-parity" := ⟨_, rfl, by decide, by decide⟩

end ExamplesB


theorem chargeGroups_spec (labels : List Charge) :
    ((chargeGroups labels).map (·.1)).Nodup
    ∧ ∀ p ∈ chargeGroups labels, p.1 ∈ labels ∧ 0 < p.2.length := by
  unfold chargeGroups
  apply foldl_inv (fun acc : List (Charge × List Nat) =>
    (acc.map (·.1)).Nodup ∧ ∀ p ∈ acc, p.1 ∈ labels ∧ 0 < p.2.length)
  · simp
  · rintro acc ⟨c, i⟩ hx ⟨h1, h2⟩
    have hc : c ∈ labels := by
      have := List.mem_zipIdx_iff_getElem?.mp hx
      exact List.mem_of_getElem? this
    simp only
    split
    · rename_i hnone
      refine ⟨?_, ?_⟩
      · rw [List.map_append]
        refine List.nodup_append.mpr ⟨h1, by simp, ?_⟩
        intro a ha b' hb'
        simp only [List.map_cons, List.map_nil, List.mem_singleton] at hb'
        subst hb'
        intro hab; subst hab
        exact (alookup_eq_none_iff.mp hnone) ha
      · intro p hp
        rcases List.mem_append.mp hp with hp | hp
        · exact h2 p hp
        · simp only [List.mem_singleton] at hp
          subst hp; exact ⟨hc, by simp⟩
    · rename_i l hl
      refine ⟨ainsert_keys_nodup _ _ h1, ?_⟩
      intro p hp
      rcases (mem_ainsert hp).symm with rfl | hp
      · exact ⟨hc, by simp⟩
      · exact h2 p hp


def DenseGroupsOk (sym : Sym) (g : List (Charge × List Nat)) : Prop :=
  (g.map (·.1)).Nodup ∧ ∀ p ∈ g, sym.valid p.1 = true ∧ 0 < p.2.length

/-- the array `from_dense` assembles from position groups, for any way `F` of filling the blocks -/
theorem dense_construct_valid {sym : Sym} {fermi : Bool} (groups : List (List (Charge × List Nat)))
    (duals : List Bool) (ch : Charge) (oddpos : List (Int × Bool)) (F : Sector → List Nat → R)
    {a : Arr R}
    (hg : ∀ g ∈ groups, DenseGroupsOk sym g) (hl : duals.length = groups.length)
    (hch : sym.valid ch = true) (hodd : oddposOkB sym fermi ch oddpos = true)
    (h : construct sym fermi
          (List.zipWith (fun g d => Index.plain (List.map (fun x => (x.fst, x.snd.length)) g) d)
            groups duals)
          (some ch)
          (List.filterMap
            (fun x =>
              if (Arr.sectorCharge sym duals x == ch) = true then
                some (x, Blk.ofFn
                      (List.map List.length (List.zipWith (fun g c => (alookup g c).getD []) groups x))
                      (F x))
              else none)
            (cartesian (List.map (fun g => List.map (fun x => x.fst) g) groups)))
          oddpos = .ok a) : Valid a := by
  have hkeys : ∀ g : List (Charge × List Nat),
      (g.map (fun x => (x.1, x.2.length))).map (·.1) = g.map (·.1) := by
    intro g; rw [List.map_map]; rfl
  refine construct_valid_of ?_ ?_ ?_ hodd h
  · intro i hi
    obtain ⟨k, hk, rfl⟩ := List.getElem_of_mem hi
    have hk' : k < groups.length := by simp only [List.length_zipWith] at hk; omega
    simp only [List.getElem_zipWith, Index.plain]
    obtain ⟨g1, g2⟩ := hg _ (List.getElem_mem hk')
    refine (wfB_none _ _ _).mpr (cmOk_sortCm (by rw [hkeys]; exact g1) ?_)
    intro p hp
    obtain ⟨q, hq, rfl⟩ := List.mem_map.mp hp
    exact ⟨(g2 q hq).2, (g2 q hq).1⟩
  · rintro c hc; cases hc; exact hch
  · intro sb hsb
    obtain ⟨x, hx, hsome⟩ := List.mem_filterMap.mp hsb
    split at hsome
    · rename_i hcons
      cases hsome
      have hF := mem_cartesian.mp hx
      have hxl : x.length = groups.length := by simpa using hF.length_eq
      have hil : (List.zipWith (fun g d => Index.plain (List.map (fun x => (x.fst, x.snd.length)) g) d)
            groups duals).length = groups.length := by
        simp only [List.length_zipWith]; omega
      refine ⟨⟨by rw [hil]; exact hxl, ?_⟩, ?_, ofFn_wf _ _⟩
      · show Arr.sectorCharge sym (List.map Index.dual (List.zipWith
            (fun g d => Index.plain (List.map (fun x => (x.fst, x.snd.length)) g) d) groups duals)) x = ch
        rw [map_dual_zipWith _ (fun _ _ => rfl) _ _ (by omega)]
        exact eq_of_beq hcons
      · simp only [ofFn_shape]
        apply blockShape?_of_getElem (by rw [hil]; exact hxl)
          (by rw [hil]; simp only [List.length_map, List.length_zipWith]; omega)
        intro i hi
        rw [hil] at hi
        simp only [List.getElem_zipWith, List.getElem_map, Index.plain, Index.sizeOf?, Index.cm]
        have hmem : x[i]'(by omega) ∈ (groups[i]'hi).map (·.1) := by
          have := hF.get (i := i) (by omega) (by simpa using hi)
          simpa using this
        obtain ⟨g1, g2⟩ := hg _ (List.getElem_mem hi)
        obtain ⟨q, hq, hqe⟩ := List.mem_map.mp hmem
        have hlk : alookup (groups[i]'hi) (x[i]'(by omega)) = some q.2 := by
          apply alookup_of_mem_nodup g1
          rw [← hqe]; exact hq
        rw [hlk]
        simp only [Option.getD_some]
        apply alookup_sortCm (by rw [hkeys]; exact g1)
        exact List.mem_map.mpr ⟨q, hq, by rw [← hqe]⟩
    · cases hsome


/-- the decidable precondition of `from_dense` (the dense array itself need not be well formed) -/
def fromDenseOkB (sym : Sym) (fermi : Bool) (maps : List (List Charge))
    (charge : Option Charge) (oddpos : List (Int × Bool)) : Bool :=
  maps.all (fun m => m.all sym.valid)
  && sym.valid (charge.getD sym.zero)
  && oddposOkB sym fermi (charge.getD sym.zero) oddpos

/-- **`from_dense` returns a valid array** (decidable guard; `dense.wf` is not needed) -/
theorem fromDense_valid [Zero R] {sym : Sym} {fermi : Bool} {dense : Blk R}
    {maps : List (List Charge)} {duals : List Bool} {charge : Option Charge}
    {oddpos : List (Int × Bool)} {a : Arr R}
    (hok : fromDenseOkB sym fermi maps charge oddpos = true)
    (h : fromDense sym fermi dense maps duals charge oddpos = .ok a) : a.validB = true := by
  simp only [fromDenseOkB, Bool.and_eq_true, List.all_eq_true] at hok
  obtain ⟨⟨hlbl, hchg⟩, hodd⟩ := hok
  unfold fromDense at h
  obtain ⟨hlen, h⟩ := guard_ok h
  obtain ⟨_, h⟩ := guard_ok h
  simp only [Bool.or_eq_true, bne_iff_ne, ne_eq, not_or, Decidable.not_not] at hlen
  refine (validB_iff a).mpr (dense_construct_valid (List.map chargeGroups maps) duals
    (charge.getD sym.zero) oddpos _ ?_ (by simp only [List.length_map]; omega) hchg hodd h)
  intro g hg
  obtain ⟨m, hm, rfl⟩ := List.mem_map.mp hg
  obtain ⟨s1, s2⟩ := chargeGroups_spec m
  exact ⟨s1, fun p hp => ⟨hlbl m hm _ (s2 p hp).1, (s2 p hp).2⟩⟩

section ExamplesC

def exDense34 : Blk Int := ⟨[3, 4], #[1, 2, 3, 4, 5, 6, 7, 8, 9, 10, 11, 12]⟩
/-- interleaved labels, the larger charge first on the second axis -/
def exMapsU1 : List (List Charge) := [[(0, 0), (1, 0), (0, 0)], [(1, 0), (0, 0), (1, 0), (1, 0)]]

example : fromDenseOkB .U1 false exMapsU1 none [] = true := by decide
example : ∃ a, fromDense .U1 false exDense34 exMapsU1 [false, true] none [] = .ok a
    ∧ a.validB = true
    ∧ a.blocks.map (fun sb => (sb.1, sb.2.shape)) =
        [([(0, 0), (0, 0)], [2, 1]), ([(1, 0), (1, 0)], [1, 3])] :=
  ⟨_, rfl, by decide, by decide⟩
-- fermionic Z2, odd charge, one label
def exDense23 : Blk Int := ⟨[2, 3], #[1, 2, 3, 4, 5, 6]⟩
def exMapsZ2 : List (List Charge) := [[(0, 0), (1, 0)], [(1, 0), (0, 0), (0, 0)]]
example : fromDenseOkB .Z2 true exMapsZ2 (some (1, 0)) [(3, false)] = true := by decide
example : ∃ a, fromDense .Z2 true exDense23 exMapsZ2 [true, false] (some (1, 0)) [(3, false)] = .ok a
    ∧ a.validB = true ∧ a.sectors = [[(0, 0), (1, 0)], [(1, 0), (0, 0)]] :=
  ⟨_, rfl, by decide, by decide⟩
example (a : Arr Int)
    (h : fromDense .Z2 true exDense23 exMapsZ2 [true, false] (some (1, 0)) [(3, false)] = .ok a) :
    a.validB = true := fromDense_valid (by decide) h
-- the dense data need not fill the shape: the blocks are tabulated
example : ∃ a, fromDense .Z2 false (⟨[2, 3], #[1]⟩ : Blk Int) exMapsZ2 [true, false] none [] = .ok a
    ∧ a.validB = true := ⟨_, rfl, by decide⟩

/-- a label outside the group -/
theorem fromDense_bad_label_invalid :
    ∃ a, fromDense .U1 false exDense23 [[(0, 0), (0, 1)], [(0, 0), (0, 0), (0, 0)]] [false, true] none []
        = .ok a ∧ a.validB = false ∧ a.invalidReason = "index-table" := ⟨_, rfl, by decide, by decide⟩

/-- a total charge outside the group: no block matches, the array is empty and invalid -/
theorem fromDense_bad_charge_invalid :
    ∃ a, fromDense .Z2 false exDense23 exMapsZ2 [true, false] (some (2, 0)) [] = .ok a
      ∧ a.validB = false ∧ a.invalidReason = "charge-invalid" := ⟨_, rfl, by decide, by decide⟩

/-- the label bookkeeping is not checked -/
theorem fromDense_odd_even_labels_invalid :
    ∃ a, fromDense .Z2 true exDense23 exMapsZ2 [true, false] (some (1, 0)) [(3, false), (4, true)]
        = .ok a ∧ a.validB = false ∧ a.invalidReason = "oddpos-parity" := ⟨_, rfl, by decide, by decide⟩

theorem fromDense_abelian_labels_invalid :
    ∃ a, fromDense .U1 false exDense34 exMapsU1 [false, true] none [(0, false)] = .ok a
      ∧ a.validB = false := ⟨_, rfl, by decide⟩

end ExamplesC


/-- the contract of the fill function: a well-formed block of the requested shape -/
def FillOk (indices : List Index) (fill : Sector → List Nat → Blk R) : Prop :=
  ∀ s shp, Arr.blockShape? indices s = some shp → (fill s shp).shape = shp ∧ (fill s shp).wf = true

/-- the decidable part of the precondition of `from_fill_fn` -/
def fromFillFnOkB (sym : Sym) (fermi : Bool) (indices : List Index) (charge : Option Charge)
    (oddpos : List (Int × Bool)) : Bool :=
  Index.wfListB sym indices
  && sym.valid (charge.getD sym.zero)
  && oddposOkB sym fermi (charge.getD sym.zero) oddpos

/-- **`from_fill_fn` returns a valid array** (decidable guard plus the fill contract) -/
theorem fromFillFn_valid {sym : Sym} {fermi : Bool} {indices : List Index} {charge : Option Charge}
    {fill : Sector → List Nat → Blk R} {oddpos : List (Int × Bool)} {a : Arr R}
    (hok : fromFillFnOkB sym fermi indices charge oddpos = true) (hfill : FillOk indices fill)
    (h : fromFillFn sym fermi indices charge fill oddpos = .ok a) : a.validB = true := by
  simp only [fromFillFnOkB, Bool.and_eq_true, Index.wfListB_iff] at hok
  obtain ⟨⟨hidx, hchg⟩, hodd⟩ := hok
  rw [validB_iff]
  unfold fromFillFn at h
  obtain ⟨a0, h0, h1⟩ := bind_ok h
  obtain ⟨blocks, hb, h2⟩ := bind_ok h1
  simp only [pure, Except.pure, Except.ok.injEq] at h2
  subst h2
  clear h h1
  have hv0 : Valid a0 :=
    construct_valid_of hidx (by rintro c hc; cases hc; exact hchg) (by simp) hodd h0
  have ha0 := construct_ok h0
  have e2 : a0.indices = indices := by rw [ha0]; rfl
  have hF := mapM_ok_forall₂ _ _ _ hb
  have hcm : ∀ ix ∈ a0.indices, CmOk a0.sym ix.cm := fun ix hix => wfB_cmOk (hv0.idx ix hix)
  have hspec : blocks.map (·.1) = a0.genValidSectors
      ∧ ∀ sb ∈ blocks, sb.1 ∈ a0.genValidSectors
          ∧ ∃ shp, Arr.blockShape? indices sb.1 = some shp ∧ sb.2 = fill sb.1 shp := by
    clear hb
    generalize a0.genValidSectors = secs at hF
    induction hF with
    | nil => simp
    | cons hxy _ ih =>
      rename_i x y xs ys
      obtain ⟨ih1, ih2⟩ := ih
      split at hxy
      · rename_i shp hshp
        simp only [pure, Except.pure, Except.ok.injEq] at hxy
        subst hxy
        refine ⟨by simp [ih1], ?_⟩
        intro sb hsb
        rcases List.mem_cons.mp hsb with rfl | hsb
        · exact ⟨by simp, shp, hshp, rfl⟩
        · obtain ⟨k1, k2⟩ := ih2 sb hsb
          exact ⟨List.mem_cons_of_mem _ k1, k2⟩
      · cases hxy
  obtain ⟨hkeys, hblk⟩ := hspec
  refine ⟨hv0.idx, hv0.chg, ?_, ?_, hv0.sgn⟩
  · show (blocks.map (·.1)).Nodup
    rw [hkeys]
    apply Arr.genValidSectors_nodup_aux
    intro ix hix
    exact sortedCharges_nodup (hcm ix hix).1
  · intro sb hsb
    obtain ⟨hmem, shp, hshp, hfl⟩ := hblk sb hsb
    have hm := (Arr.mem_genValidSectors a0
      (fun ix hix c hc => by
        obtain ⟨p, hp, rfl⟩ := List.mem_map.mp hc
        exact ((hcm ix hix).2 p hp).2) hv0.chg sb.1).mp hmem
    obtain ⟨f1, f2⟩ := hfill sb.1 shp hshp
    refine ⟨⟨hm.1.length_eq, ?_⟩, ?_, by rw [hfl]; exact f2⟩
    · simpa [Arr.isValidSector, Arr.duals] using hm.2
    · show Arr.blockShape? a0.indices sb.1 = some sb.2.shape
      rw [e2, hshp, hfl, f1]

theorem fillOk_ofFn (indices : List Index) (f : Sector → List Nat → R) :
    FillOk indices (fun s shp => Blk.ofFn shp (f s)) := fun _ _ _ => ⟨rfl, ofFn_wf _ _⟩

section ExamplesD

def exFill : Sector → List Nat → Blk Int := fun s shp => Blk.ofFn shp (fun i => (s.length + i.length : Nat))

example : fromFillFnOkB .U1 false exIdxU1 none [] = true := by decide
example : ∃ a, fromFillFn .U1 false exIdxU1 none exFill [] = .ok a ∧ a.validB = true
    ∧ a.sectors = [[(0, 0), (0, 0)], [(1, 0), (1, 0)]] := ⟨_, rfl, by decide, by decide⟩
example : ∃ a, fromFillFn .Z2 true exIdxZ2 (some (1, 0)) exFill [(0, true)] = .ok a ∧ a.validB = true
    ∧ a.sectors = [[(0, 0), (1, 0)], [(1, 0), (0, 0)]] := ⟨_, rfl, by decide, by decide⟩
example (a : Arr Int) (h : fromFillFn .Z2 true exIdxZ2 (some (1, 0)) exFill [(0, true)] = .ok a) :
    a.validB = true := fromFillFn_valid (by decide) (fillOk_ofFn _ _) h

/-- a fill function that ignores the requested shape -/
theorem fromFillFn_bad_fill_invalid :
    ∃ a, fromFillFn .U1 false exIdxU1 none (fun _ _ => (⟨[1], #[0]⟩ : Blk Int)) [] = .ok a
      ∧ a.validB = false ∧ a.invalidReason = "block-shape" := ⟨_, rfl, by decide, by decide⟩

/-- a total charge outside the group -/
theorem fromFillFn_bad_charge_invalid :
    ∃ a, fromFillFn .Z2 false exIdxZ2 (some (3, 0)) exFill [] = .ok a ∧ a.validB = false :=
  ⟨_, rfl, by decide⟩

/-- the label bookkeeping is not checked -/
theorem fromFillFn_odd_even_labels_invalid :
    ∃ a, fromFillFn .Z2 true exIdxZ2 (some (1, 0)) exFill [(0, true), (1, true)] = .ok a
      ∧ a.validB = false ∧ a.invalidReason = "oddpos-parity" := ⟨_, rfl, by decide, by decide⟩

end ExamplesD

end ValidP
end SymmModel
