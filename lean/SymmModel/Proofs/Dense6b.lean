/-
  SymmModel.Proofs.Dense6b — one structural operation commutes with densification (`SOp.step_dense`),
  and the vocabulary of finite programs of them; the statement for programs is
  `SProg_toDense_commutes` (property C08, Props/C08f).

  `SOp` : transpose / conj / squeeze / expand_dims (the structural operations of C08's list);
  `SOp.step` : the model call behind its decidable guard; `SOp.dense` : the numpy call on the dense
  array (a function of the dense array alone); `SProg.run`, `SProg.denseRun` : a list of steps on
  the block array and on the dense array.
-/
import SymmModel.Proofs.Dense6a

namespace SymmModel
namespace Dense6
open Arr DenseP Dense3

variable {R : Type}

/-- the mask `np.squeeze(d, axis)` removes: all size-one axes for `axis = None`, the listed ones
    otherwise -/
def npMask (axis : Option (List Nat)) (shape : List Nat) : List Bool :=
  shape.zipIdx.map (fun x => match axis with
    | none => x.1 == 1
    | some axs => axs.contains x.2)

theorem squeezeMask_eq_npMask (a : Arr R) (axis : Option (List Nat)) (m : List Bool)
    (hm : squeezeMask a axis = .ok m) : m = npMask axis a.shape := by
  obtain ⟨hl, hspec⟩ := squeezeMask_ok hm
  apply List.ext_getElem
  · simp [npMask, Arr.shape, hl]
  · intro i h1 h2
    have hi : i < a.indices.length := by rw [hl] at h1; exact h1
    have hs := hspec i a.indices[i] (List.getElem?_eq_getElem hi)
    have hnp : (npMask axis a.shape)[i] = sqSelected axis a.indices[i] i := by
      simp only [npMask, List.getElem_map, List.getElem_zipIdx, Arr.shape, Nat.zero_add]
      cases axis <;> rfl
    rw [hnp]
    cases hb : m[i] with
    | true => exact ((hs.1 (by rw [List.getElem?_eq_getElem h1, hb])).1).symm
    | false => exact (hs.2 (by rw [List.getElem?_eq_getElem h1, hb])).symm

inductive SOp where
  | transpose (axes : List Nat)
  | conj
  | squeeze (axis : Option (List Nat))
  | expandDims (axis : Nat) (c : Option Charge) (dual : Option Bool)

/-- the decidable guard of a call: a permutation of the axes; an insertion position inside the
    array and a charge of the symmetry -/
def SOp.admissible : SOp → Arr R → Bool
  | .transpose axes, a => isPerm axes a.ndim
  | .conj, _ => true
  | .squeeze _, _ => true
  | .expandDims axis c _, a => decide (axis ≤ a.ndim) && (match c with
      | none => true
      | some c => a.sym.valid c)

/-- the model call (abelian arrays) -/
def SOp.apply [Zero R] [Conj R] : SOp → Arr R → Except Err (Arr R)
  | .transpose axes, a => pure (a.transposeA axes)
  | .conj, a => pure a.conjA
  | .squeeze axis, a => a.squeeze axis
  | .expandDims axis c dual, a => pure (a.expandDims axis c dual)

def SOp.step [Zero R] [Conj R] (op : SOp) (a : Arr R) : Except Err (Arr R) :=
  if op.admissible a then op.apply a else throw Err.value

/-- the numpy call on the dense array: `np.transpose`, `np.conj`, `np.squeeze`, `d[..., None, ...]` -/
def SOp.dense [Zero R] [Conj R] : SOp → Blk R → Blk R
  | .transpose axes, d => d.transposeK axes
  | .conj, d => d.conjK
  | .squeeze axis, d => d.squeezeK (keptAxes (npMask axis d.shape) 0)
  | .expandDims axis _ _, d => d.expandK axis

def SProg.run [Zero R] [Conj R] : List SOp → Arr R → Except Err (Arr R)
  | [], a => pure a
  | op :: rest, a => do
    let a' ← op.step a
    SProg.run rest a'

def SProg.denseRun [Zero R] [Conj R] : List SOp → Blk R → Blk R
  | [], d => d
  | op :: rest, d => SProg.denseRun rest (op.dense d)

/-- the invariant carried along a program -/
def Good (a : Arr R) : Prop :=
  a.validB = true ∧ a.fermi = false ∧ a.indices.any (fun ix => ix.cm.isEmpty) = false

section
variable [Zero R] [Neg R] [Conj R]

theorem SOp.step_dense (h0 : Conj.conj (0 : R) = 0) (op : SOp) (a b : Arr R) (hg : Good a)
    (hb : op.step a = .ok b) (d : Blk R) (hd : toDenseA a = .ok d) :
    Good b ∧ toDenseA b = .ok (op.dense d) := by
  obtain ⟨hv, hf, hne⟩ := hg
  have hds : d.shape = a.shape := toDenseA_shape hd
  unfold SOp.step at hb
  split at hb
  · rename_i hadm
    cases op with
    | transpose axes =>
      simp only [SOp.apply, pure, Except.pure, Except.ok.injEq] at hb
      subst hb
      have hperm : isPerm axes a.ndim = true := hadm
      refine ⟨⟨C01.transposeA_valid a axes hv hf hperm, hf, ?_⟩,
        transposeA_dense a axes hperm hv hf hne d hd⟩
      exact noEmpty_permuted hne axes
    | conj =>
      simp only [SOp.apply, pure, Except.pure, Except.ok.injEq] at hb
      subst hb
      refine ⟨⟨C01.conjA_valid a hv hf, hf, ?_⟩, conjA_dense h0 a hv hf hne d hd⟩
      show (a.indices.map Index.conj).any _ = false
      rw [noEmpty_congr (map_cm_conj a.indices)]; exact hne
    | squeeze axis =>
      simp only [SOp.apply] at hb
      obtain ⟨m, hm, hdense⟩ := squeeze_dense a axis b hb hv hf hne d hd
      have hph : ValidP.phaseKeysInTablesB a = true := by
        have := phases_nil_of_validB hv hf
        simp [ValidP.phaseKeysInTablesB, this]
      obtain ⟨m', hm', hbeq, _, hbi, _, _⟩ := C08.squeeze_mask_spec a axis b hb
      refine ⟨⟨C01.squeeze_valid a axis b hv hph hb, by rw [hbeq]; exact hf, ?_⟩, ?_⟩
      · exact hbi ▸ noEmpty_of_subset (fun _ => mem_of_mem_dropMask) hne
      · rw [hdense]
        show _ = Except.ok (d.squeezeK (keptAxes (npMask axis d.shape) 0))
        rw [hds, ← squeezeMask_eq_npMask a axis m hm]
    | expandDims axis c dual =>
      simp only [SOp.apply, pure, Except.pure, Except.ok.injEq] at hb
      subst hb
      simp only [SOp.admissible, Bool.and_eq_true, decide_eq_true_eq] at hadm
      obtain ⟨ha, hc⟩ := hadm
      obtain ⟨hidx, _, _, hfer, _, _, _⟩ := expandDims_fields a axis c dual
      refine ⟨⟨?_, by rw [hfer]; exact hf, ?_⟩, expandDims_dense a axis c dual ha hv hf hne d hd⟩
      · cases c with
        | none => exact C01.expandDims_none_valid a axis dual hv
        | some c => exact C01.expandDims_some_valid a axis c dual hv hc (Or.inl hf)
      · exact noEmpty_expandDims hne axis c dual
  · cases hb

end

end Dense6
end SymmModel
