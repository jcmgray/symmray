/-
  SymmModel.Proofs.DTypeFlowProg — scalar operands, reductions, densification and `fill_missing_blocks`,
  decompositions, constructors, vectors: uniform operands give uniform results, spectra the real part,
  norms and reductions `d` or its real part (C20b).
-/
import SymmModel.Proofs.DTypeFlowOps
namespace SymmModel.DFlow
open SymmModel DType

instance (d x : DType) : Decidable (Within d x) := inferInstanceAs (Decidable (_ ∨ _))

/-- a scalar operand that cannot change a `d` block: Python int / float, Python complex when `d` is
    complex, a numpy scalar of dtype `d` or its real part -/
def ScalarK.okFor (d : DType) : ScalarK → Bool
  | .pyint => true
  | .pyfloat => true
  | .pycomplex => d.isComplex
  | .np e => decide (Within d e)

theorem scalarResult_within {d x : DType} {s : ScalarK} (hs : s.okFor d = true) (hx : Within d x) :
    Within d (scalarResult x s) := by
  cases s with
  | pyint | pyfloat => exact hx
  | pycomplex =>
    simp only [ScalarK.okFor] at hs
    cases d <;> cases x <;> simp_all [scalarResult, isComplex, Within, realPart, DType.mk, isDouble]
  | np e =>
    simp only [ScalarK.okFor, decide_eq_true_eq] at hs
    exact within_promote hx hs

theorem scalarResult_exact {d : DType} {s : ScalarK} (hs : s.okFor d = true) : scalarResult d s = d := by
  cases s with
  | pyint | pyfloat => rfl
  | pycomplex =>
    simp only [ScalarK.okFor] at hs
    cases d <;> simp_all [scalarResult, isComplex, DType.mk, isDouble]
  | np e =>
    simp only [ScalarK.okFor, decide_eq_true_eq] at hs
    exact promote_within_right hs

def ScalarK.valOK (d : DType) : ScalarK → Prop
  | .pyint => True
  | .pyfloat => True
  | .pycomplex => d.isComplex = true
  | .np e => Within d e

theorem combine_valOK {d : DType} {t s : ScalarK} (ht : t.valOK d) (hs : s.okFor d = true) :
    (t.combine s).valOK d := by
  cases t with
  | np e =>
    simp only [ScalarK.valOK] at ht
    cases s <;> simp only [ScalarK.combine, ScalarK.valOK] <;> exact scalarResult_within hs ht
  | pyint | pyfloat =>
    cases s with
    | np e => simp only [ScalarK.okFor, decide_eq_true_eq] at hs; exact hs
    | pyint | pyfloat => trivial
    | pycomplex => exact hs
  | pycomplex =>
    simp only [ScalarK.valOK] at ht
    cases s with
    | np e =>
      simp only [ScalarK.okFor, decide_eq_true_eq] at hs
      simp only [ScalarK.combine, ScalarK.valOK]
      cases d <;> cases e <;> simp_all [scalarResult, isComplex, Within, realPart, DType.mk, isDouble]
    | pyint | pyfloat | pycomplex => exact ht

theorem scalarD_uni {d : DType} {a : DArr} {s : ScalarK} (h : Uni d a.blocks) (hs : s.okFor d = true) :
    Uni d (a.scalarD s).blocks := by
  intro p hp
  obtain ⟨q, hq, rfl⟩ := List.mem_map.mp hp
  simp only [h q hq]
  exact scalarResult_exact hs

theorem vscalarD_uniW {d : DType} {v : DVec} {s : ScalarK} (h : UniW d v.blocks) (hs : s.okFor d = true) :
    UniW d (v.scalarD s).blocks := by
  intro p hp
  obtain ⟨q, hq, rfl⟩ := List.mem_map.mp hp
  exact scalarResult_within hs (h q hq)

theorem normD_within {d : DType} {l : List DType} {r : ScalarK} (h : ∀ x ∈ l, Within d x)
    (hr : normD l = .ok r) : r.valOK d := by
  cases l with
  | nil => cases hr
  | cons x xs =>
    rw [← pure_ok hr]
    exact foldl_inv (Within d) _ xs _ (within_realPart (h x (by simp)))
      (fun _ y hy hb => within_promote hb (within_realPart (h y (by simp [hy]))))

theorem reduceD_within {d : DType} {l : List DType} {r : ScalarK} (h : ∀ x ∈ l, Within d x)
    (hr : reduceD l = .ok r) : r.valOK d := by
  unfold reduceD at hr
  obtain ⟨e, he, h2⟩ := bind_ok_iff.mp hr
  rw [← pure_ok h2]
  exact concatD_forall (fun _ _ => within_promote) h he

theorem traceD_valOK {d : DType} {a : DArr} {r : ScalarK} (h : Uni d a.blocks) (hr : traceD a = .ok r) :
    r.valOK d := by
  unfold traceD at hr
  split at hr
  · cases hr
  · split at hr
    · cases hr
    · rw [← pure_ok hr]
      refine foldl_inv (ScalarK.valOK d) _ _ _ trivial (fun acc p hp ha => combine_valOK ha ?_)
      simp only [ScalarK.okFor, decide_eq_true_eq]
      exact Or.inl (h p (List.mem_filter.mp hp).1)

theorem toDenseRec_uni {d : DType} {a : DArr} (h : Uni d a.blocks) (hex : a.ex = d) :
    ∀ (idx : List Index) (sec : Sector) (r : DType), a.toDenseRec idx sec = .ok r → r = d := by
  intro idx
  induction idx with
  | nil =>
    intro sec r hr
    simp only [DArr.toDenseRec] at hr
    rw [← pure_ok hr]
    split
    · rename_i e hl; exact uni_alookup h hl
    · exact hex
  | cons ix rest ih =>
    intro sec r hr
    simp only [DArr.toDenseRec] at hr
    obtain ⟨ds, hds, h2⟩ := bind_ok_iff.mp hr
    refine concatD_forall (eq_closed d) ?_ h2
    intro x hx
    obtain ⟨c, _, hc⟩ := mapM_ok_mem _ _ _ hds x hx
    exact ih _ _ hc

theorem exFlags_defaulted {a : DArr} (h : a.exFlags.defaulted = false) : a.blocks ≠ [] := by
  intro hb
  simp [DArr.exFlags, hb] at h

theorem toDenseD_uni {d : DType} {a : DArr} {r : DType × Flags} (h : Uni d a.blocks)
    (hr : a.toDenseD = .ok r) (hdef : r.2.defaulted = false) :
    r.1 = d ∧ r.2.losesImag = false ∧ r.2.narrows = false := by
  unfold DArr.toDenseD at hr
  obtain ⟨e, he, h2⟩ := bind_ok_iff.mp hr
  have := pure_ok h2
  subst this
  exact ⟨toDenseRec_uni h (ex_of_uni h (exFlags_defaulted hdef)) _ _ _ he, rfl, rfl⟩

theorem fillMissingD_uni {d : DType} {a : DArr} (h : Uni d a.blocks)
    (hdef : a.fillMissingD.2.defaulted = false) :
    Uni d a.fillMissingD.1.blocks ∧ a.fillMissingD.2.losesImag = false ∧ a.fillMissingD.2.narrows = false := by
  unfold DArr.fillMissingD at hdef ⊢
  simp only at hdef ⊢
  refine ⟨foldl_inv (Uni d) _ _ a.blocks h (fun acc m hm ha => uni_ainsert ha ?_), ?_, ?_⟩
  · -- a sector `m` is missing, so the flags are those of `a.ex`
    rw [List.isEmpty_eq_false_iff.mpr (List.ne_nil_of_mem hm)] at hdef
    exact ex_of_uni h (exFlags_defaulted hdef)
  · split <;> rfl
  · split <;> rfl

theorem uni_adict_map {κ : Type} [BEq κ] {d : DType} {l : DBlocks} (f : Sector × DType → κ) (h : Uni d l) :
    Uni d (adict (l.map (fun p => (f p, p.2)))) := uni_adict (uni_map_key f h)

theorem realVec_exact {d : DType} {l : DBlocks} (h : Uni d l) :
    Uni d.realPart (adict (l.map (fun p => (p.1.getD 1 ((0, 0) : Charge), p.2.realPart)))) := by
  apply uni_adict
  intro p hp
  obtain ⟨q, hq, rfl⟩ := List.mem_map.mp hp
  simp only [h q hq]

theorem uni_real_to_uniW {κ : Type} {d : DType} {l : List (κ × DType)} (h : Uni d.realPart l) : UniW d l :=
  fun p hp => Or.inr (h p hp)

theorem realVec_uniW {d : DType} {l : DBlocks} (h : Uni d l) :
    UniW d (adict (l.map (fun p => (p.1.getD 1 ((0, 0) : Charge), p.2.realPart)))) :=
  uni_real_to_uniW (realVec_exact h)

theorem qrD_uni {d : DType} {x : DArr} {r : DArr × DArr} (h : Uni d x.blocks) (hr : qrD x = .ok r) :
    Uni d r.1.blocks ∧ Uni d r.2.blocks := by
  unfold qrD at hr
  split at hr
  · cases hr
  · rw [← pure_ok hr]
    exact ⟨h, uni_adict_map _ h⟩

theorem svdD_uni {d : DType} {x : DArr} {r : DArr × DVec × DArr} (h : Uni d x.blocks) (hr : svdD x = .ok r) :
    Uni d r.1.blocks ∧ Uni d.realPart r.2.1.blocks ∧ Uni d r.2.2.blocks := by
  unfold svdD at hr
  obtain ⟨qr, hqr, h2⟩ := bind_ok_iff.mp hr
  rw [← pure_ok h2]
  obtain ⟨h1, h3⟩ := qrD_uni h hqr
  exact ⟨h1, realVec_exact h, h3⟩

theorem eighD_uni {d : DType} {a : DArr} {r : DVec × DArr} (h : Uni d a.blocks) (hr : eighD a = .ok r) :
    Uni d.realPart r.1.blocks ∧ Uni d r.2.blocks := by
  unfold eighD at hr
  split at hr
  · cases hr
  · split at hr
    · cases hr
    · split at hr
      · cases hr
      · rw [← pure_ok hr]
        exact ⟨realVec_exact h, h⟩

theorem solveD_uni {d : DType} {a b r : DArr} (ha : Uni d a.blocks) (hb : Uni d b.blocks)
    (hr : solveD a b = .ok r) : Uni d r.blocks := by
  unfold solveD at hr
  split at hr
  · cases hr
  · rw [← pure_ok hr]
    apply uni_adict
    intro p hp
    obtain ⟨q, hq, hfq⟩ := List.mem_filterMap.mp hp
    split at hfq
    · rename_i bd hl
      injection hfq with hfq
      rw [← hfq]
      simp only [ha q hq, uni_alookup hb hl, C20.promote_self]
    · cases hfq

theorem svdTruncatedD_uni {d : DType} {x : DArr} {counts : List Nat} {ab : Absorb}
    {r : DArr × Option DVec × DArr} (h : Uni d x.blocks) (hr : svdTruncatedD x counts ab = .ok r) :
    Uni d r.1.blocks ∧ (∀ s, r.2.1 = some s → Uni d.realPart s.blocks) ∧ Uni d r.2.2.blocks := by
  unfold svdTruncatedD at hr
  obtain ⟨usv, husv, h2⟩ := bind_ok_iff.mp hr
  obtain ⟨hu, hs, hv⟩ := svdD_uni h husv
  simp only at h2
  generalize huB : usv.1.blocks.filter _ = uB at h2
  generalize hsB : usv.2.1.blocks.filter _ = sB at h2
  generalize hvB : usv.2.2.blocks.filter _ = vB at h2
  have huB' : Uni d uB := by rw [← huB]; exact uni_filter _ hu
  have hsB' : Uni d.realPart sB := by rw [← hsB]; exact uni_filter _ hs
  have hvB' : Uni d vB := by rw [← hvB]; exact uni_filter _ hv
  have hsOf : ∀ (c : Charge), (match alookup sB c with
      | some sd => promote d sd
      | none => d) = d := by
    intro c
    split
    · rename_i sd hl
      rw [uni_alookup hsB' hl]; exact promote_real_right d
    · rfl
  have huAbs : Uni d (uB.map (fun p => (p.1, (fun e => match alookup sB (p.1.getD 1 (0, 0)) with
      | some sd => promote e sd
      | none => e) p.2))) := by
    intro p hp
    obtain ⟨q, hq, rfl⟩ := List.mem_map.mp hp
    simp only [huB' q hq]
    exact hsOf _
  have hvAbs : Uni d (uB.foldl (fun (acc : DBlocks) p =>
      match alookup acc [p.1.getD 1 (0, 0), p.1.getD 1 (0, 0)] with
      | some e => ainsert acc [p.1.getD 1 (0, 0), p.1.getD 1 (0, 0)]
          ((fun e => match alookup sB (p.1.getD 1 (0, 0)) with
            | some sd => promote e sd
            | none => e) e)
      | none => acc) vB) := by
    refine foldl_inv (Uni d) _ uB vB hvB' (fun acc p _ ha => ?_)
    split
    · rename_i e hl
      apply uni_ainsert ha
      rw [uni_alookup ha hl]; exact hsOf _
    · exact ha
  cases ab <;> simp only at h2 <;> rw [← pure_ok h2]
  · exact ⟨huB', (fun s hs' => by injection hs' with hs'; rw [← hs']; exact hsB'), hvB'⟩
  · exact ⟨huAbs, (fun s hs' => by cases hs'), hvB'⟩
  · exact ⟨huB', (fun s hs' => by cases hs'), hvAbs⟩
  · exact ⟨huAbs, (fun s hs' => by cases hs'), hvAbs⟩

theorem ofSkel_uni (r : Arr Unit) (d : DType) : Uni d (ofSkel r d).blocks := by
  intro p hp
  obtain ⟨q, _, rfl⟩ := List.mem_map.mp hp
  rfl

theorem fromFillD_uni {sym : Sym} {fermi : Bool} {indices : List Index} {charge : Option Charge}
    {d : DType} {oddpos : List (Int × Bool)} {r : DArr}
    (hr : fromFillD sym fermi indices charge d oddpos = .ok r) : Uni d r.blocks := by
  unfold fromFillD at hr
  obtain ⟨s, _, h2⟩ := bind_ok_iff.mp hr
  rw [← pure_ok h2]; exact ofSkel_uni s d

theorem fromDenseD_uni {sym : Sym} {fermi : Bool} {shape : List Nat} {d : DType} {maps : List (List Charge)}
    {duals : List Bool} {charge : Option Charge} {oddpos : List (Int × Bool)} {r : DArr}
    (hr : fromDenseD sym fermi shape d maps duals charge oddpos = .ok r) : Uni d r.blocks := by
  unfold fromDenseD at hr
  obtain ⟨s, _, h2⟩ := bind_ok_iff.mp hr
  rw [← pure_ok h2]; exact ofSkel_uni s d

theorem vabsD_uniW {d : DType} {v : DVec} (h : UniW d v.blocks) : UniW d v.absD.blocks := by
  intro p hp
  obtain ⟨q, hq, rfl⟩ := List.mem_map.mp hp
  exact within_realPart (h q hq)

theorem vtoDenseD_within {d : DType} {v : DVec} {r : DType} (h : UniW d v.blocks)
    (hr : v.toDenseD = .ok r) : Within d r := by
  unfold DVec.toDenseD at hr
  refine concatD_forall (fun _ _ => within_promote) ?_ hr
  intro x hx
  obtain ⟨p, hp, rfl⟩ := List.mem_map.mp hx
  exact h p (mem_isort.mp hp)

end SymmModel.DFlow
