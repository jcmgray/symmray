/-
  SymmModel.Proofs.FuseMulti6 — **fuse_elem for arbitrary groups** (insert strategy, block form):
  the entry of a fused block at offsets `i` is the entry of the original block found by
  `splitAddr` on EVERY multi-axis group axis (identity on single-axis groups) and un-permuting.
-/
import SymmModel.Proofs.FuseMulti5
namespace SymmModel
namespace FuseP
set_option linter.unusedSectionVars false

variable {R : Type}

section Multi
variable {a : Arr R} {groups : List (List Nat)}

variable (a groups) in
/-- the segment (sub-charges, sub-offsets) that group `g` contributes to the expanded address -/
def segM (ns : Sector) (i : List Nat) (g : Nat) : Sector × List Nat :=
  if multiB groups g then
    (splitAddr (ixM a groups g) (ns.getD ((giM a groups).position + g) (0, 0))
      (i.getD ((giM a groups).position + g) 0)).getD ([], [])
  else ([ns.getD ((giM a groups).position + g) (0, 0)], [i.getD ((giM a groups).position + g) 0])

variable (a groups) in
/-- new sector with every group position expanded into its sub-charges -/
def expandK (ns : Sector) (i : List Nat) : Sector :=
  ns.take (giM a groups).position
    ++ ((List.range groups.length).map (fun g => (segM a groups ns i g).1)).flatten
    ++ ns.drop ((giM a groups).position + groups.length)

variable (a groups) in
/-- offsets with every group position expanded into its sub-offsets -/
def expandJ (ns : Sector) (i : List Nat) : List Nat :=
  i.take (giM a groups).position
    ++ ((List.range groups.length).map (fun g => (segM a groups ns i g).2)).flatten
    ++ i.drop ((giM a groups).position + groups.length)

theorem expandK_parts (ns : Sector) (i : List Nat) (hl : ns.length = ndimM a groups) :
    expandK a groups ns i
      = (List.range (giM a groups).position).map (fun x => ns.getD x (0, 0))
        ++ ((List.range groups.length).map (fun g => (segM a groups ns i g).1)).flatten
        ++ (List.range (giM a groups).axesAfter.length).map
            (fun j => ns.getD ((giM a groups).position + groups.length + j) (0, 0)) := by
  simp only [expandK]
  rw [take_eq_range_map ns (0, 0) _ (by rw [hl]; simp only [ndimM]; omega),
    drop_eq_range_map ns (0, 0) _ _ (by rw [hl]; rfl)]

theorem expandJ_parts (ns : Sector) (i : List Nat) (hl : i.length = ndimM a groups) :
    expandJ a groups ns i
      = (List.range (giM a groups).position).map (fun x => i.getD x 0)
        ++ ((List.range groups.length).map (fun g => (segM a groups ns i g).2)).flatten
        ++ (List.range (giM a groups).axesAfter.length).map
            (fun j => i.getD ((giM a groups).position + groups.length + j) 0) := by
  simp only [expandJ]
  rw [take_eq_range_map i 0 _ (by rw [hl]; simp only [ndimM]; omega),
    drop_eq_range_map i 0 _ _ (by rw [hl]; rfl)]

theorem parts_inj {α : Type} {A A' M M' C C' : List α} (h : A ++ M ++ C = A' ++ M' ++ C')
    (ha : A.length = A'.length) (hc : C.length = C'.length) : A = A' ∧ M = M' ∧ C = C' := by
  have h1 := List.append_inj' h hc
  have h2 := List.append_inj h1.1 ha
  exact ⟨h2.1, h2.2, h1.2⟩

theorem range_map_inj {α : Type} {n : Nat} {f g : Nat → α} (h : (List.range n).map f = (List.range n).map g) :
    ∀ x, x < n → f x = g x := by
  intro x hx
  exact List.map_inj_left.1 h x (List.mem_range.2 hx)

theorem expandK_of_stored (hok : GroupsOk groups a.ndim) {sb : Sector × Blk R} (hl : sb.1.length = a.ndim)
    {ns : Sector} {i : List Nat} (hns : (planM a groups sb).newSector = ns)
    (hseg : ∀ g, g < groups.length → (segM a groups ns i g).1 = (groups.getD g []).map (fun ax => sb.1.getD ax (0, 0))) :
    permuted sb.1 (giM a groups).perm = expandK a groups ns i := by
  have hp := nsM_parts hok.adm sb
  rw [hns] at hp
  have e1 : ∀ x, x < (giM a groups).position → ns.getD x (0, 0) = sb.1.getD x (0, 0) := by
    intro x hx
    rw [hp, List.append_assoc, getD_before _ _ _ _ (by simpa using hx), getD_range_map _ _ _ _ hx]
  have e3 : ∀ j, j < (giM a groups).axesAfter.length →
      ns.getD ((giM a groups).position + groups.length + j) (0, 0)
        = sb.1.getD ((giM a groups).axesAfter.getD j 0) (0, 0) := by
    intro j hj
    have hlen : ((List.range (giM a groups).position).map (fun x => sb.1.getD x (0, 0))
        ++ (List.range groups.length).map (fun g => cM (a := a) (groups := groups) sb g)).length
        = (giM a groups).position + groups.length := by simp
    rw [hp, ← hlen, getD_after, getD_range_map _ _ _ _ hj]
  rw [permutedM_eq hok.adm sb.1 (0, 0) hl, expandK_parts ns i (by rw [← hns]; exact planM_newSector_length hok.adm sb),
    range_map_congr e1, range_map_congr e3, range_map_congr hseg]

theorem relOffset_lt (hok : GroupsOk groups a.ndim) (sb : Sector × Blk R) {i : List Nat}
    (hib : inBox (BshM a groups sb) i = true)
    (hrg : ∀ g, g < groups.length → multiB groups g = true →
      stM a groups sb g ≤ i.getD ((giM a groups).position + g) 0
      ∧ i.getD ((giM a groups).position + g) 0 < stM a groups sb g + dM (a := a) (groups := groups) sb g) :
    ∀ g, g < groups.length → i.getD ((giM a groups).position + g) 0 - stM a groups sb g
      < prod ((groups.getD g []).map (fun ax => sb.2.shape.getD ax 0)) := by
  intro g hg
  have hgg : groups[g]? = some groups[g] := List.getElem?_eq_getElem hg
  have hgd : groups.getD g [] = groups[g] := by simp [List.getD_eq_getElem?_getD, hgg]
  rw [hgd, ← dM_eq (a := a) hok.adm hgg sb]
  by_cases hm : multiB groups g = true
  · have := hrg g hg hm; omega
  · have hm' : multiB groups g = false := by simpa using hm
    have hax : (giM a groups).position + g < ndimM a groups := by simp only [ndimM]; omega
    have := (inBox_iff.1 hib).2 _ (by rw [BshM_length]; exact hax)
    rw [BshM_getD sb hax, axMulti_mid hg, hm'] at this
    simp only [Bool.false_eq_true, if_false] at this
    have hd' : (planM a groups sb).newShape.getD ((giM a groups).position + g) 0
        = dM (a := a) (groups := groups) sb g := rfl
    rw [hd'] at this
    omega

theorem expanded_inBox (hok : GroupsOk groups a.ndim) (sb : Sector × Blk R) (hshl : sb.2.shape.length = a.ndim)
    {i : List Nat} (hib : inBox (BshM a groups sb) i = true) (r : Nat → Nat)
    (hr : ∀ g, g < groups.length → r g < prod ((groups.getD g []).map (fun ax => sb.2.shape.getD ax 0))) :
    inBox (permuted sb.2.shape (giM a groups).perm)
      ((List.range (giM a groups).position).map (fun x => i.getD x 0)
        ++ ((List.range groups.length).map (fun g =>
              unravel ((groups.getD g []).map (fun ax => sb.2.shape.getD ax 0)) (r g))).flatten
        ++ (List.range (giM a groups).axesAfter.length).map
            (fun j => i.getD ((giM a groups).position + groups.length + j) 0)) = true := by
  have hb := (inBox_iff.1 hib).2
  rw [BshM_length] at hb
  rw [permutedM_eq hok.adm sb.2.shape 0 hshl, inBox_append (by
      rw [List.length_append, List.length_append, List.length_map, List.length_map,
        flatten_map_length_eq (List.range groups.length) _
          (fun g => (groups.getD g []).map (fun ax => sb.2.shape.getD ax 0)) (fun g _ => unravel_length _ _)]),
    inBox_append (by simp)]
  have h1 : inBox ((List.range (giM a groups).position).map (fun x => sb.2.shape.getD x 0))
      ((List.range (giM a groups).position).map (fun x => i.getD x 0)) = true := by
    apply inBox_range_map
    intro x hx
    have hax : x < ndimM a groups := by simp only [ndimM]; omega
    have := hb x hax
    rw [BshM_getD sb hax, axMulti_before hx] at this
    simp only [Bool.false_eq_true, if_false, planM] at this
    rw [planOf_newShape_before _ _ _ _ hx] at this
    exact this
  have h2 : inBox ((List.range groups.length).map
        (fun g => (groups.getD g []).map (fun ax => sb.2.shape.getD ax 0))).flatten
      ((List.range groups.length).map (fun g =>
        unravel ((groups.getD g []).map (fun ax => sb.2.shape.getD ax 0)) (r g))).flatten = true :=
    inBox_flatten_map _ _ _ (fun g hg => unravel_inBox (hr g (List.mem_range.1 hg)))
  have h3 : inBox ((List.range (giM a groups).axesAfter.length).map
        (fun j => sb.2.shape.getD ((giM a groups).axesAfter.getD j 0) 0))
      ((List.range (giM a groups).axesAfter.length).map
        (fun j => i.getD ((giM a groups).position + groups.length + j) 0)) = true := by
    apply inBox_range_map
    intro j hj
    have hax : (giM a groups).position + groups.length + j < ndimM a groups := by simp only [ndimM]; omega
    have := hb _ hax
    rw [BshM_getD sb hax, axMulti_after] at this
    simp only [Bool.false_eq_true, if_false, planM] at this
    rw [planOf_newShape_after _ _ _ _ hj] at this
    exact this
  rw [h1, h2, h3]; rfl

variable [Zero R]

theorem fused_getM (hv : ValidArr a) (hok : GroupsOk groups a.ndim) {ns : Sector} {B : Blk R}
    (hB : alookup (fusedBlocksM a groups) ns = some B) {i : List Nat} (hi : inBox B.shape i = true) :
    (∀ g, g < groups.length → multiB groups g = true →
        splitAddr (ixM a groups g) (ns.getD ((giM a groups).position + g) (0, 0))
          (i.getD ((giM a groups).position + g) 0) = some (segM a groups ns i g))
    ∧ ∀ s offs, s.length = a.ndim → offs.length = a.ndim →
        permuted s (giM a groups).perm = expandK a groups ns i →
        permuted offs (giM a groups).perm = expandJ a groups ns i →
        (B.get i = (match alookup a.blocks s with
          | some b => b.get offs
          | none => 0))
        ∧ (∀ b, alookup a.blocks s = some b →
            inBox (permuted b.shape (giM a groups).perm) (permuted offs (giM a groups).perm) = true) := by
  -- `B` is the insert block of some stored sector `sb0`, known entry by entry from `fusedBlocksM_inv` (`hit` inside the
  -- region of a source block, `miss` outside every region).  On each multi-axis group the coordinate of `i` splits
  -- into a sub-sector and the offsets inside it (`hsplit`, from `split_factsM`): the first conjunct.  For the second,
  -- if the source sector `s` named by the expanded address is stored, its block maps into this fused block with
  -- exactly the sub-sectors found (`hkey`), `i` lies in its region and `hit` gives its entry; if it is not stored,
  -- a region containing `i` would belong to a stored block with key `s`, so `miss` gives 0.
  have hinv := fusedBlocksM_inv hv hok.adm
  obtain ⟨sb0, hsb0, hns0, hBs⟩ := fusedBlockM_info hv hok.adm hB
  subst hns0
  rw [hBs] at hi
  have hib := inBox_iff.1 hi
  rw [BshM_length] at hib
  have hil : i.length = ndimM a groups := hib.1
  have hig : ∀ g, g < groups.length → i.getD ((giM a groups).position + g) 0
      < if multiB groups g then DM a groups sb0 g else dM (a := a) (groups := groups) sb0 g := by
    intro g hg
    have hax : (giM a groups).position + g < ndimM a groups := by simp only [ndimM]; omega
    have := hib.2 _ hax
    rw [BshM_getD sb0 hax, axMulti_mid hg, Nat.add_sub_cancel_left] at this
    exact this
  have hsplit : ∀ g, g < groups.length → multiB groups g = true →
      ∃ e ss r st d shpM, alookup (extsM a groups g) (cM (a := a) (groups := groups) sb0 g) = some e
        ∧ (e.map (·.1)).Nodup
        ∧ segM a groups (planM a groups sb0).newSector i g = (ss, unravel shpM r)
        ∧ splitAddr (ixM a groups g) (cM (a := a) (groups := groups) sb0 g)
            (i.getD ((giM a groups).position + g) 0) = some (ss, unravel shpM r)
        ∧ startOf e ss = some (st, d) ∧ r < d ∧ i.getD ((giM a groups).position + g) 0 = st + r
        ∧ Arr.blockShape? ((groups.getD g []).map (fun ax => a.indices.getD ax default)) ss = some shpM
        ∧ prod shpM = d ∧ ss.length = (groups.getD g []).length
        ∧ a.sym.combine (List.zipWith (fun c' (sub : Index) =>
            a.sym.sign c' ((giM a groups).groupDuals.getD g false != sub.dual)) ss
            ((groups.getD g []).map (fun ax => a.indices.getD ax default)))
            = cM (a := a) (groups := groups) sb0 g := by
    intro g hg hm
    obtain ⟨gaxes, hgg, hlen⟩ := multiB_iff.1 hm
    have hgd : groups.getD g [] = gaxes := by simp [List.getD_eq_getElem?_getD, hgg]
    have ho := hig g hg
    simp only [hm, if_true] at ho
    obtain ⟨e, ss, r, st, d, shpM, h1, h2, h3, h4, h5, h6, h7, h8, h9, h10⟩ :=
      split_factsM hv hok hgg hlen hsb0 ho
    refine ⟨e, ss, r, st, d, shpM, h1, h2, ?_, h3, h4, h5, h6, by rw [hgd]; exact h7, h8,
      by rw [hgd]; exact h9, by rw [hgd]; exact h10⟩
    simp only [segM, hm, if_true]
    have : (planM a groups sb0).newSector.getD ((giM a groups).position + g) (0, 0)
        = cM (a := a) (groups := groups) sb0 g := rfl
    rw [this, h3]; rfl
  refine ⟨?_, ?_⟩
  · intro g hg hm
    obtain ⟨e, ss, r, st, d, shpM, _, _, h3, h4, _⟩ := hsplit g hg hm
    rw [h3]; exact h4
  intro s offs hsl hol hK hJ
  have hseglen : ∀ g, g < groups.length →
      (segM a groups (planM a groups sb0).newSector i g).1.length = (groups.getD g []).length := by
    intro g hg
    by_cases hm : multiB groups g = true
    · obtain ⟨e, ss, r, st, d, shpM, _, _, h3, _, _, _, _, _, _, h9, _⟩ := hsplit g hg hm
      rw [h3]; exact h9
    · have hm' : multiB groups g = false := by simpa using hm
      obtain ⟨ax, _, hgd, _⟩ := singleM (a := a) hok.adm hg hm'
      rw [hgd]
      simp [segM, hm']
  have hkey : ∀ sb ∈ a.blocks, permuted sb.1 (giM a groups).perm = expandK a groups (planM a groups sb0).newSector i →
      (planM a groups sb).newSector = (planM a groups sb0).newSector
      ∧ ∀ g, g < groups.length →
          (segM a groups (planM a groups sb0).newSector i g).1 = (groups.getD g []).map (fun ax => sb.1.getD ax (0, 0)) := by
    intro sb hsb hKsb
    rw [permutedM_eq hok.adm sb.1 (0, 0) (hv.blk sb hsb).1,
      expandK_parts _ i (planM_newSector_length hok.adm sb0)] at hKsb
    obtain ⟨e1, e2, e3⟩ := parts_inj hKsb (by simp) (by simp)
    have hE2 := flatten_map_inj (List.range groups.length) _ _ (by
      intro g hg
      simp only [List.mem_range] at hg
      simp only [List.length_map]
      exact (hseglen g hg).symm) e2
    have hseg : ∀ g, g < groups.length →
        (segM a groups (planM a groups sb0).newSector i g).1 = (groups.getD g []).map (fun ax => sb.1.getD ax (0, 0)) :=
      fun g hg => (hE2 g (List.mem_range.2 hg)).symm
    refine ⟨?_, hseg⟩
    apply list_ext_getD (0, 0) (by rw [planM_newSector_length hok.adm, planM_newSector_length hok.adm])
    intro ax hax
    rw [planM_newSector_length hok.adm] at hax
    rcases axis_cases ax hax with h | ⟨g, hg, rfl⟩ | ⟨j, hj, rfl⟩
    · have h1 : (planM a groups sb).newSector.getD ax (0, 0) = sb.1.getD ax (0, 0) :=
        planOf_newSector_before _ _ _ _ _ _ h
      rw [h1]; exact range_map_inj e1 ax h
    · have hgg : groups[g]? = some groups[g] := List.getElem?_eq_getElem hg
      have hgd : groups.getD g [] = groups[g] := by simp [List.getD_eq_getElem?_getD, hgg]
      by_cases hm : multiB groups g = true
      · obtain ⟨gaxes, hgg', hlen⟩ := multiB_iff.1 hm
        obtain ⟨e, ss, r, st, d, shpM, _, _, h3, _, _, _, _, _, _, _, h10⟩ := hsplit g hg hm
        have hs := hseg g hg
        rw [h3] at hs
        simp only at hs
        have hc := cM_eq_combine (a := a) hok.adm hgg' hlen sb
        rw [ssM_eq hgg'] at hc
        have hgd' : groups.getD g [] = gaxes := by simp [List.getD_eq_getElem?_getD, hgg']
        rw [hgd'] at hs h10
        rw [← hs, h10] at hc
        exact hc
      · have hm' : multiB groups g = false := by simpa using hm
        obtain ⟨ax, _, hgd1, hc, _⟩ := singleM (a := a) hok.adm hg hm'
        have hs := hseg g hg
        simp only [segM, hm', Bool.false_eq_true, if_false, hgd1, List.map_cons, List.map_nil,
          List.cons.injEq, and_true] at hs
        show cM (a := a) (groups := groups) sb g = _
        rw [hc, ← hs]
    · have h1 : (planM a groups sb).newSector.getD ((giM a groups).position + groups.length + j) (0, 0)
          = sb.1.getD ((giM a groups).axesAfter.getD j 0) (0, 0) :=
        planOf_newSector_after _ _ _ _ _ _ hj
      rw [h1]; exact range_map_inj e3 j hj
  by_cases hstored : ∃ sb ∈ a.blocks, sb.1 = s
  · obtain ⟨sb, hsb, rfl⟩ := hstored
    rw [alookup_of_mem_nodup hv.nodup hsb]
    simp only
    suffices hmain : B.get i = sb.2.get offs
        ∧ inBox (permuted sb.2.shape (giM a groups).perm) (permuted offs (giM a groups).perm) = true by
      exact ⟨hmain.1, fun b hb => by simp only [Option.some.injEq] at hb; subst hb; exact hmain.2⟩
    obtain ⟨hnsb, hseg⟩ := hkey sb hsb hK
    have hshape := blockShape?_length (hv.blk sb hsb).2.1
    have hshl : sb.2.shape.length = a.ndim := by rw [hshape.2]; exact (hv.blk sb hsb).1
    have hBsb := BshM_eq_of_ns hv hok.adm hsb hsb0 hnsb
    have hib' : inBox (BshM a groups sb) i = true := by rw [hBsb]; exact hi
    have hst : ∀ g, g < groups.length → multiB groups g = true →
        ∃ r, i.getD ((giM a groups).position + g) 0 = stM a groups sb g + r
          ∧ r < dM (a := a) (groups := groups) sb g
          ∧ (segM a groups (planM a groups sb0).newSector i g).2
              = unravel ((groups.getD g []).map (fun ax => sb.2.shape.getD ax 0)) r := by
      intro g hg hm
      obtain ⟨gaxes, hgg, hlen⟩ := multiB_iff.1 hm
      have hgd : groups.getD g [] = gaxes := by simp [List.getD_eq_getElem?_getD, hgg]
      obtain ⟨e, ss, r, st, d, shpM, h1, _, h3, _, h5, h6, h7, h8, h9, _, _⟩ := hsplit g hg hm
      obtain ⟨e', D', t1, t2, _, _, _⟩ := stored_tableM hv hok.adm hgg hlen hsb
      have hcc : cM (a := a) (groups := groups) sb g = cM (a := a) (groups := groups) sb0 g := by
        simp only [cM, hnsb]
      rw [hcc, h1] at t1
      simp only [Option.some.injEq] at t1; subst t1
      have hs := hseg g hg
      rw [h3, hgd] at hs
      simp only at hs
      rw [ssM_eq hgg, ← hs, h5] at t2
      simp only [Option.some.injEq, Prod.mk.injEq] at t2
      have hM : shpM = gaxes.map (fun ax => sb.2.shape.getD ax 0) := by
        have := blockShape?_map (hv.blk sb hsb).2.1 gaxes (groupM_lt hok.adm hgg)
        rw [← hs] at this
        rw [hgd, this] at h8
        simpa using h8.symm
      refine ⟨r, by rw [← t2.1]; exact h7, by rw [← t2.2]; exact h6, ?_⟩
      rw [h3, hgd, hM]
    have hrg : ∀ g, g < groups.length → multiB groups g = true →
        stM a groups sb g ≤ i.getD ((giM a groups).position + g) 0
        ∧ i.getD ((giM a groups).position + g) 0 < stM a groups sb g + dM (a := a) (groups := groups) sb g :=
      fun g hg hm => by
        obtain ⟨r, h1, h2, _⟩ := hst g hg hm
        omega
    have hreg := (regionM hok.adm sb hib').2 hrg
    have hShape0 := shapeOfM_stored hv hok.adm hsb0
    have hget := hinv.hit _ B (by show alookup _ (planM a groups sb).newSector = _; rw [hnsb]; exact hB) (toItemM a groups sb) (List.mem_map.2 ⟨sb, hsb, rfl⟩) rfl
      i (by show inBox (shapeOfM a groups (planM a groups sb).newSector) i = true; rw [hnsb, hShape0]; exact hi) hreg
    rw [hget]
    let r : Nat → Nat := fun g => i.getD ((giM a groups).position + g) 0 - stM a groups sb g
    let ms : Nat → List Nat := fun g => (groups.getD g []).map (fun ax => sb.2.shape.getD ax 0)
    have hrlt : ∀ g, g < groups.length → r g < prod (ms g) := relOffset_lt hok sb hib' hrg
    have hsegJ : ∀ g, g < groups.length →
        (segM a groups (planM a groups sb0).newSector i g).2 = unravel (ms g) (r g) := by
      intro g hg
      by_cases hm : multiB groups g = true
      · obtain ⟨r', h1, h2, h3⟩ := hst g hg hm
        rw [h3, show r g = r' by simp only [r]; omega]
      · have hm' : multiB groups g = false := by simpa using hm
        obtain ⟨ax, _, hgd, _, _, hs0, _⟩ := singleM (a := a) hok.adm hg hm'
        simp only [segM, hm', Bool.false_eq_true, if_false, r, ms, hs0 sb, Nat.sub_zero, hgd, List.map_cons,
          List.map_nil, unravel_single]
    have hj : List.zipWith (· - ·) i (toItemM a groups sb).2.1
        = (List.range (giM a groups).position).map (fun x => i.getD x 0)
          ++ (List.range groups.length).map (fun g => ravel (ms g) (unravel (ms g) (r g)))
          ++ (List.range (giM a groups).axesAfter.length).map
              (fun j => i.getD ((giM a groups).position + groups.length + j) 0) := by
      have hsl : (startsM a groups sb).length = ndimM a groups := by simp [startsM]
      have hget : ∀ ax, ax < ndimM a groups →
          (List.zipWith (· - ·) i (startsM a groups sb)).getD ax 0 = i.getD ax 0 - startM a groups sb ax :=
        fun ax hax => by rw [getD_zipWith_sub (by rw [hil, hsl]), startsM_getD sb hax]
      show List.zipWith (· - ·) i (startsM a groups sb) = _
      refine eq_three_parts 0 (by simp [hil, hsl, ndimM]) (fun x hx => ?_) (fun g hg => ?_) (fun j hj => ?_)
      · rw [hget x (by simp only [ndimM]; omega)]
        simp [startM, axMulti_before hx]
      · rw [hget _ (by simp only [ndimM]; omega), ravel_unravel (hrlt g hg)]
        rfl
      · rw [hget _ (by simp only [ndimM]; omega)]
        simp [startM, axMulti_after]
    rw [hj]
    have hJ' : permuted offs (giM a groups).perm
        = (List.range (giM a groups).position).map (fun x => i.getD x 0)
          ++ ((List.range groups.length).map (fun g => unravel (ms g) (r g))).flatten
          ++ (List.range (giM a groups).axesAfter.length).map
              (fun j => i.getD ((giM a groups).position + groups.length + j) 0) := by
      rw [hJ, expandJ_parts _ i hil,
        List.map_congr_left (fun g hg => hsegJ g (List.mem_range.1 hg))]
    have hTshape : permuted sb.2.shape (giM a groups).perm
        = (List.range (giM a groups).position).map (fun x => sb.2.shape.getD x 0)
          ++ ((List.range groups.length).map ms).flatten
          ++ (List.range (giM a groups).axesAfter.length).map
              (fun j => sb.2.shape.getD ((giM a groups).axesAfter.getD j 0) 0) :=
      permutedM_eq hok.adm sb.2.shape 0 hshl
    have hsrc : (toItemM a groups sb).2.2.get
          ((List.range (giM a groups).position).map (fun x => i.getD x 0)
          ++ (List.range groups.length).map (fun g => ravel (ms g) (unravel (ms g) (r g)))
          ++ (List.range (giM a groups).axesAfter.length).map
              (fun j => i.getD ((giM a groups).position + groups.length + j) 0))
        = (sb.2.transposeK (giM a groups).perm).get (permuted offs (giM a groups).perm) := by
      rw [hJ']
      simp only [toItemM, Blk.reshapeK, Blk.get]
      have hT : (sb.2.transposeK (giM a groups).perm).shape = permuted sb.2.shape (giM a groups).perm := rfl
      rw [hT, hTshape, nshM_parts hok.adm sb,
        ravel_three (List.range groups.length) ms (fun g => unravel (ms g) (r g)) _ _ _ _ (by simp)
          (fun g _ => unravel_length _ _)]
    rw [hsrc]
    have hbox : inBox (permuted sb.2.shape (giM a groups).perm) (permuted offs (giM a groups).perm) = true := by
      rw [hJ']; exact expanded_inBox hok sb hshl hib' r hrlt
    refine ⟨transposeK_get_permuted sb.2 hshl hol ?_ ?_ hbox, hbox⟩
    · intro ax hax; rw [mem_perm (hokD hok).adm, duals_length]; exact hax
    · intro p hp; rw [← duals_length]; exact (mem_perm (hokD hok).adm).1 hp
  · -- the sector is not stored: the fused entry was never written
    have hnone : alookup a.blocks s = none := by
      rw [alookup_eq_none_iff]
      intro hm
      obtain ⟨sb, hsb, rfl⟩ := List.mem_map.1 hm
      exact hstored ⟨sb, hsb, rfl⟩
    rw [hnone]
    simp only
    refine ⟨?_, fun b hb => by cases hb⟩
    have hbox0 : inBox (shapeOfM a groups (planM a groups sb0).newSector) i = true := by
      rw [shapeOfM_stored hv hok.adm hsb0]; exact hi
    apply hinv.miss _ B hB i hbox0
    intro it hit hkey'
    obtain ⟨sb, hsb, rfl⟩ := List.mem_map.1 hit
    have hnsb : (planM a groups sb).newSector = (planM a groups sb0).newSector := hkey'
    cases hreg : inRegion (toItemM a groups sb).2.1 (toItemM a groups sb).2.2.shape i with
    | false => rfl
    | true =>
      exfalso
      have hBsb := BshM_eq_of_ns hv hok.adm hsb hsb0 hnsb
      have hib' : inBox (BshM a groups sb) i = true := by rw [hBsb]; exact hi
      have hrg := (regionM hok.adm sb hib').1 hreg
      apply hstored
      refine ⟨sb, hsb, ?_⟩
      have hperm : permuted sb.1 (giM a groups).perm = permuted s (giM a groups).perm := by
        rw [hK]
        apply expandK_of_stored hok (hv.blk sb hsb).1 hnsb
        intro g hg
        have hgg : groups[g]? = some groups[g] := List.getElem?_eq_getElem hg
        have hgd : groups.getD g [] = groups[g] := by simp [List.getD_eq_getElem?_getD, hgg]
        by_cases hm : multiB groups g = true
        · obtain ⟨gaxes, hgg', hlen⟩ := multiB_iff.1 hm
          obtain ⟨e, ss, r, st, d, shpM, h1, _, h3, _, h5, h6, h7, _⟩ := hsplit g hg hm
          obtain ⟨e', D', t1, t2, _, _, _⟩ := stored_tableM hv hok.adm hgg' hlen hsb
          have hcc : cM (a := a) (groups := groups) sb g = cM (a := a) (groups := groups) sb0 g := by
            simp only [cM, hnsb]
          rw [hcc, h1] at t1
          simp only [Option.some.injEq] at t1; subst t1
          have hr := hrg g hg hm
          have hsseq : ssM (a := a) (groups := groups) sb g = ss :=
            startOf_eq_of_common t2 h5 (r1 := i.getD ((giM a groups).position + g) 0 - stM a groups sb g)
              (by omega) h6 (by omega)
          rw [h3]
          simp only
          rw [← hsseq, ssM_eq hgg']
          simp [List.getD_eq_getElem?_getD, hgg']
        · have hm' : multiB groups g = false := by simpa using hm
          obtain ⟨ax, _, hgd1, hc, _⟩ := singleM (a := a) hok.adm hg hm'
          have : (planM a groups sb0).newSector.getD ((giM a groups).position + g) (0, 0)
              = cM (a := a) (groups := groups) sb g := by simp only [cM, hnsb]
          simp only [segM, hm', Bool.false_eq_true, if_false, hgd1, this, hc, List.map_cons, List.map_nil]
      apply sector_ext (hv.blk sb hsb).1 hsl (perm := (giM a groups).perm)
      · intro ax hax; rw [mem_perm (hokD hok).adm, duals_length]; exact hax
      · have hlt1 : ∀ p ∈ (giM a groups).perm, p < sb.1.length := by
          intro p hp; rw [(hv.blk sb hsb).1, ← duals_length]; exact (mem_perm (hokD hok).adm).1 hp
        have hlt2 : ∀ p ∈ (giM a groups).perm, p < s.length := by
          intro p hp; rw [hsl, ← duals_length]; exact (mem_perm (hokD hok).adm).1 hp
        rw [permuted_eq_map _ (0, 0) _ hlt1, permuted_eq_map _ (0, 0) _ hlt2] at hperm
        exact fun ax hax => List.map_inj_left.1 hperm ax hax

end Multi

end FuseP
end SymmModel
