/-
  SymmModel.Proofs.FuseCommuteL — why fusing free legs of an operand commutes with the contraction.
  (1) Locality: the blockwise contraction reads an operand only through its elements at the addresses
  merged from a contracted part and the free part of the result address (`tdot_elem_congr_left`,
  `tdot_elem_congr_right`; per sector pair `contractPair_congr_left`, `contractPair_congr_right`).
  (2) The geometry of fusing ONE group `g` of free legs of an operand `X` (`group_geom`): the
  contracted axes renumbered by `shiftAxes X g` are contractible axes of `fuse(X, [g])` with the same
  tables, the fused array stores no new contracted sub-sector, and at merged addresses it holds `X`'s
  elements.  The leading legs (TdotFuseC3 `lead_geom`) and a group anywhere in the left operand
  (FuseCommuteH2) are instances; the right operand (FuseCommuteI1) applies `group_geom_full` to `b` and
  uses the locality in the right operand.  Namespace `SymmModel.TdotP`.
-/
import SymmModel.Proofs.FuseCommuteH1

namespace SymmModel
namespace TdotP
variable {R : Type}

/-- the distinct contracted sub-sectors of the stored sectors of `a`: a list over which the
    contraction over `xa` can be summed -/
def contractedKeys (a : Arr R) (xa : List Nat) : List Sector :=
  (a.sectors.map (fun s => permuted s xa)).eraseDups

theorem contractedKeys_nodup (a : Arr R) (xa : List Nat) : (contractedKeys a xa).Nodup :=
  nodup_eraseDups _

theorem mem_contractedKeys {a : Arr R} {xa : List Nat} {K : Sector} :
    K ∈ contractedKeys a xa ↔ ∃ sa ∈ a.sectors, permuted sa xa = K := by
  unfold contractedKeys
  rw [List.mem_eraseDups, List.mem_map]

theorem contractedKeys_length {a : Arr R} {xa : List Nat} (hsa : a.shapesOk) (hA : ∀ x ∈ xa, x < a.ndim)
    {K : Sector} (hK : K ∈ contractedKeys a xa) : K.length = xa.length := by
  obtain ⟨s, hs, rfl⟩ := mem_contractedKeys.mp hK
  exact permuted_length _ _ (by rw [Arr.sector_length hsa hs]; exact hA)


theorem freePart_length {X : Arr R} {xs : List Nat} {F : Sector} {s : List Nat}
    (h : Arr.blockShape? (permuted X.indices (freeAxes X.ndim xs)) F = some s) :
    F.length = (freeAxes X.ndim xs).length := by
  rw [(blockShape?_length h).1, permuted_length _ _ (by
    intro x hx; exact (mem_freeAxes.mp hx).1)]

theorem freeOffs_length {X : Arr R} {xs : List Nat} {F : Sector} {s o : List Nat}
    (h : Arr.blockShape? (permuted X.indices (freeAxes X.ndim xs)) F = some s) (hb : inBox s o = true) :
    o.length = (freeAxes X.ndim xs).length := by
  rw [inBox_length hb, (blockShape?_length h).2, permuted_length _ _ (by
    intro x hx; exact (mem_freeAxes.mp hx).1)]

theorem freeBox_append {X Y : Arr R} {xx xy : List Nat} {Ls Rs : Sector} {sL oL sR oR : List Nat}
    (hL : Arr.blockShape? (permuted X.indices (freeAxes X.ndim xx)) Ls = some sL) (hbL : inBox sL oL = true)
    (hR : Arr.blockShape? (permuted Y.indices (freeAxes Y.ndim xy)) Rs = some sR) (hbR : inBox sR oR = true) :
    inBox (Arr.blockShapeD (without X.indices xx ++ without Y.indices xy) (Ls ++ Rs)) (oL ++ oR) = true := by
  rw [without_eq_permuted_freeAxes, without_eq_permuted_freeAxes, Arr.blockShapeD,
    show X.indices.length = X.ndim from rfl, show Y.indices.length = Y.ndim from rfl, blockShape?_append hL hR]
  simp only [Option.getD_some]
  rw [inBox_append (inBox_length hbL), hbL, hbR]; rfl


section pair
variable [AddMonoid R] [Mul R] [Neg R]

theorem contractPair_congr_left {a' a b : Arr R} {xa' xa xb : List Nat}
    (hn' : xa'.Nodup) (hlt' : ∀ x ∈ xa', x < a'.ndim) (hn : xa.Nodup) (hlt : ∀ x ∈ xa, x < a.ndim)
    (hidx : permuted a'.indices xa' = permuted a.indices xa)
    {K L' L : Sector} {shpK shpL' shpL oL' oL : List Nat}
    (hK : Arr.blockShape? (permuted a.indices xa) K = some shpK)
    (hL' : Arr.blockShape? (permuted a'.indices (freeAxes a'.ndim xa')) L' = some shpL')
    (hL : Arr.blockShape? (permuted a.indices (freeAxes a.ndim xa)) L = some shpL)
    (hel : ∀ kk, inBox shpK kk = true →
      a'.elem (mergeSec a'.ndim xa' K L') (mergeIdx 0 a'.ndim xa' (freeAxes a'.ndim xa') kk oL')
        = a.elem (mergeSec a.ndim xa K L) (mergeIdx 0 a.ndim xa (freeAxes a.ndim xa) kk oL))
    (oR : List Nat) (sb : Sector) :
    contractPair a' b xa' xb oL' oR (mergeSec a'.ndim xa' K L', sb)
      = contractPair a b xa xb oL oR (mergeSec a.ndim xa K L, sb) := by
  simp only [contractPair]
  rw [contracted_box (A := a') hn' hlt' (by rw [hidx]; exact hK) hL', contracted_box (A := a) hn hlt hK hL]
  apply sum_map_congr
  intro kk hkk
  unfold contractTerm
  rw [hel kk (mem_allIdx.mp hkk)]

theorem contractPair_congr_right {a b' b : Arr R} {xa xb' xb : List Nat} {sa sb' sb : Sector}
    {shpK oR' oR : List Nat}
    (hK : permuted (Arr.blockShapeD a.indices sa) xa = shpK)
    (hel : ∀ kk, inBox shpK kk = true →
      b'.elem sb' (mergeIdx 0 b'.ndim xb' (freeAxes b'.ndim xb') kk oR')
        = b.elem sb (mergeIdx 0 b.ndim xb (freeAxes b.ndim xb) kk oR))
    (oL : List Nat) :
    contractPair a b' xa xb' oL oR' (sa, sb') = contractPair a b xa xb oL oR (sa, sb) := by
  simp only [contractPair]
  rw [hK]
  apply sum_map_congr
  intro kk hkk
  unfold contractTerm
  rw [hel kk (mem_allIdx.mp hkk)]

end pair

section elem
variable [AddCommMonoid R] [Mul R] [Neg R]

theorem tdot_elem_congr_left
    (hz1 : ∀ x : R, 0 * x = 0) (hz2 : ∀ x : R, x * 0 = 0) (a' a b : Arr R) (xa' xa xb : List Nat)
    (hpa' : a'.phases = []) (hpa : a.phases = []) (hpb : b.phases = [])
    (hda' : allDistinct a'.sectors = true) (hda : allDistinct a.sectors = true)
    (hdb : allDistinct b.sectors = true)
    (hsa' : a'.shapesOk) (hsa : a.shapesOk) (hsb : b.shapesOk)
    (hn' : xa'.Nodup) (hlt' : ∀ x ∈ xa', x < a'.ndim) (hn : xa.Nodup) (hlt : ∀ x ∈ xa, x < a.ndim)
    (hnB : xb.Nodup) (hB : ∀ x ∈ xb, x < b.ndim) (hlen' : xa'.length = xa.length)
    (hlen : xa.length = xb.length)
    (hidx : permuted a'.indices xa' = permuted a.indices xa)
    (hkeys : ∀ s' ∈ a'.sectors, permuted s' xa' ∈ contractedKeys a xa)
    {L' L Rs : Sector} {oL' oL oR shpL' shpL shpR : List Nat}
    (hL' : Arr.blockShape? (permuted a'.indices (freeAxes a'.ndim xa')) L' = some shpL')
    (hbL' : inBox shpL' oL' = true)
    (hL : Arr.blockShape? (permuted a.indices (freeAxes a.ndim xa)) L = some shpL)
    (hbL : inBox shpL oL = true)
    (hR : Arr.blockShape? (permuted b.indices (freeAxes b.ndim xb)) Rs = some shpR)
    (hbR : inBox shpR oR = true)
    (hel : ∀ {K : Sector} {shpK kk : List Nat},
      Arr.blockShape? (permuted a.indices xa) K = some shpK → inBox shpK kk = true →
      a'.elem (mergeSec a'.ndim xa' K L') (mergeIdx 0 a'.ndim xa' (freeAxes a'.ndim xa') kk oL')
        = a.elem (mergeSec a.ndim xa K L) (mergeIdx 0 a.ndim xa (freeAxes a.ndim xa) kk oL)) :
    (tensordotBlockwise a' b (freeAxes a'.ndim xa') xa' xb (freeAxes b.ndim xb)).elem (L' ++ Rs) (oL' ++ oR)
      = (tensordotBlockwise a b (freeAxes a.ndim xa) xa xb (freeAxes b.ndim xb)).elem (L ++ Rs) (oL ++ oR) := by
  have hKl : ∀ K ∈ contractedKeys a xa, K.length = xa.length := fun K hK =>
    contractedKeys_length hsa hlt hK
  rw [tensordotBlockwise_elem_dense' hz1 hz2 a' b xa' xb hpa' hpb hda' hdb hsa' hsb hn' hlt' hnB hB
      (hlen'.trans hlen) (contractedKeys a xa) (contractedKeys_nodup a xa)
      (fun K hK => (hKl K hK).trans hlen'.symm) hkeys L' Rs (freePart_length hL') (freePart_length hR) _
      (freeBox_append hL' hbL' hR hbR),
    tensordotBlockwise_elem_dense' hz1 hz2 a b xa xb hpa hpb hda hdb hsa hsb hn hlt hnB hB hlen
      (contractedKeys a xa) (contractedKeys_nodup a xa) hKl
      (fun sa hs => mem_contractedKeys.mpr ⟨sa, hs, rfl⟩) L Rs (freePart_length hL) (freePart_length hR) _
      (freeBox_append hL hbL hR hbR)]
  rw [List.take_left' (freeOffs_length hL' hbL'), List.drop_left' (freeOffs_length hL' hbL'),
    List.take_left' (freeOffs_length hL hbL), List.drop_left' (freeOffs_length hL hbL)]
  apply sum_map_congr
  intro K hK
  obtain ⟨sa, hsa', rfl⟩ := mem_contractedKeys.mp hK
  obtain ⟨shpS, hA1, _, _, _⟩ := GradedP.shape_of_mem hsa hsa'
  exact contractPair_congr_left hn' hlt' hn hlt hidx
    (blockShape?_permuted hA1 xa (by simpa [show a.indices.length = a.ndim from rfl] using hlt)) hL' hL
    (fun kk hkk => hel (blockShape?_permuted hA1 xa
      (by simpa [show a.indices.length = a.ndim from rfl] using hlt)) hkk) oR _

/-- `hel` ranges over the contracted boxes of `a`'s tables. -/
theorem tdot_elem_congr_right
    (hz1 : ∀ x : R, 0 * x = 0) (hz2 : ∀ x : R, x * 0 = 0) (a b' b : Arr R) (xa xb' xb : List Nat)
    (hpa : a.phases = []) (hpb' : b'.phases = []) (hpb : b.phases = [])
    (hda : allDistinct a.sectors = true) (hdb' : allDistinct b'.sectors = true)
    (hdb : allDistinct b.sectors = true)
    (hsa : a.shapesOk) (hsb' : b'.shapesOk) (hsb : b.shapesOk)
    (hnA : xa.Nodup) (hA : ∀ x ∈ xa, x < a.ndim) (hn' : xb'.Nodup) (hlt' : ∀ x ∈ xb', x < b'.ndim)
    (hn : xb.Nodup) (hlt : ∀ x ∈ xb, x < b.ndim) (hlen' : xa.length = xb'.length)
    (hlen : xa.length = xb.length)
    {Ls R' Rr : Sector} {oL oR' oR shpL shpR' shpR : List Nat}
    (hL : Arr.blockShape? (permuted a.indices (freeAxes a.ndim xa)) Ls = some shpL)
    (hbL : inBox shpL oL = true)
    (hR' : Arr.blockShape? (permuted b'.indices (freeAxes b'.ndim xb')) R' = some shpR')
    (hbR' : inBox shpR' oR' = true)
    (hR : Arr.blockShape? (permuted b.indices (freeAxes b.ndim xb)) Rr = some shpR)
    (hbR : inBox shpR oR = true)
    (hel : ∀ {K : Sector} {shpK kk : List Nat},
      Arr.blockShape? (permuted a.indices xa) K = some shpK → inBox shpK kk = true →
      b'.elem (mergeSec b'.ndim xb' K R') (mergeIdx 0 b'.ndim xb' (freeAxes b'.ndim xb') kk oR')
        = b.elem (mergeSec b.ndim xb K Rr) (mergeIdx 0 b.ndim xb (freeAxes b.ndim xb) kk oR)) :
    (tensordotBlockwise a b' (freeAxes a.ndim xa) xa xb' (freeAxes b'.ndim xb')).elem (Ls ++ R') (oL ++ oR')
      = (tensordotBlockwise a b (freeAxes a.ndim xa) xa xb (freeAxes b.ndim xb)).elem (Ls ++ Rr) (oL ++ oR) := by
  have hoLl := freeOffs_length hL hbL
  have hKl : ∀ K ∈ contractedKeys a xa, K.length = xa.length := fun K hK =>
    contractedKeys_length hsa hA hK
  have hKc : ∀ sa ∈ a.sectors, permuted sa xa ∈ contractedKeys a xa := fun sa hs =>
    mem_contractedKeys.mpr ⟨sa, hs, rfl⟩
  rw [tensordotBlockwise_elem_dense' hz1 hz2 a b' xa xb' hpa hpb' hda hdb' hsa hsb' hnA hA hn' hlt' hlen'
      (contractedKeys a xa) (contractedKeys_nodup a xa) hKl hKc Ls R' (freePart_length hL)
      (freePart_length hR') _ (freeBox_append hL hbL hR' hbR'),
    tensordotBlockwise_elem_dense' hz1 hz2 a b xa xb hpa hpb hda hdb hsa hsb hnA hA hn hlt hlen
      (contractedKeys a xa) (contractedKeys_nodup a xa) hKl hKc Ls Rr (freePart_length hL)
      (freePart_length hR) _ (freeBox_append hL hbL hR hbR)]
  rw [List.take_left' hoLl, List.drop_left' hoLl, List.take_left' hoLl, List.drop_left' hoLl]
  apply sum_map_congr
  intro K hK
  obtain ⟨sa, hsa', rfl⟩ := mem_contractedKeys.mp hK
  obtain ⟨shpS, hA1, _, _, _⟩ := GradedP.shape_of_mem hsa hsa'
  have hKshape : Arr.blockShape? (permuted a.indices xa) (permuted sa xa) = some (permuted shpS xa) :=
    blockShape?_permuted hA1 xa (by simpa [show a.indices.length = a.ndim from rfl] using hA)
  exact contractPair_congr_right (contracted_box (A := a) hnA hA hKshape hL) (fun kk hkk => hel hKshape hkk) _

end elem


/-- One operand `X` whose group `g` of free legs is fused, seen from a contraction over the axes `xs`
    (disjoint from `g`), at a free address `(L', oL')` of `fuse(X, [g])` and the free address `(L, oL)`
    of `X` it decodes to: the renumbered axes `xs.map (shiftAxes X g)` are again contractible axes
    carrying the same indices, every stored sector of the fused array has the contracted sub-sector of
    a stored sector of `X`, and the element of the fused array at the address merged from a contracted
    part `(K, kk)` and `(L', oL')` is `X`'s element at the address merged from `(K, kk)` and `(L, oL)`. -/
structure GroupGeom [Zero R] [Neg R] (X : Arr R) (g xs : List Nat) (L' L : Sector) (oL' oL : List Nat) :
    Prop where
  nodupF : (xs.map (shiftAxes X g)).Nodup
  ltF : ∀ x ∈ xs.map (shiftAxes X g), x < (FuseP.fusedArrM X [g]).ndim
  idxK : permuted (FuseP.fusedArrM X [g]).indices (xs.map (shiftAxes X g)) = permuted X.indices xs
  keysF : ∀ sF ∈ (FuseP.fusedArrM X [g]).sectors,
      permuted sF (xs.map (shiftAxes X g)) ∈ contractedKeys X xs
  elem : ∀ {K : Sector} {shpK kk : List Nat},
      Arr.blockShape? (permuted X.indices xs) K = some shpK → inBox shpK kk = true →
      (FuseP.fusedArrM X [g]).elem
          (mergeSec (FuseP.fusedArrM X [g]).ndim (xs.map (shiftAxes X g)) K L')
          (mergeIdx 0 (FuseP.fusedArrM X [g]).ndim (xs.map (shiftAxes X g))
            (freeAxes (FuseP.fusedArrM X [g]).ndim (xs.map (shiftAxes X g))) kk oL')
        = X.elem (mergeSec X.ndim xs K L) (mergeIdx 0 X.ndim xs (freeAxes X.ndim xs) kk oL)

/-- `(M', MO')`, `(M, MO)`: full-length addresses of `fuse(X, [g])` and of `X` of which only the free
    parts (with respect to the contracted axes) are read; `(M', MO')` decodes to `(M, MO)`. -/
theorem group_geom [Zero R] [Neg R] (X : Arr R) (g xs : List Nat)
    (hX : X.validB = true) (hpX : X.phases = []) (hvF : (FuseP.fusedArrM X [g]).validB = true)
    (h : OneOk X g) (hdisj : ∀ x ∈ xs, x ∉ g)
    (hn : xs.Nodup) (hlt : ∀ x ∈ xs, x < X.ndim)
    {M' M : Sector} {MO' MO shpL' : List Nat}
    (hMl' : M'.length = FuseP.ndimM X [g]) (hMOl' : MO'.length = FuseP.ndimM X [g])
    (hMl : M.length = X.ndim) (hMOl : MO.length = X.ndim)
    (hLF : Arr.blockShape? (permuted (FuseP.fusedArrM X [g]).indices
        (freeAxes (FuseP.fusedArrM X [g]).ndim (xs.map (shiftAxes X g))))
      (permuted M' (freeAxes (FuseP.fusedArrM X [g]).ndim (xs.map (shiftAxes X g)))) = some shpL')
    (hbLF : inBox shpL' (permuted MO' (freeAxes (FuseP.fusedArrM X [g]).ndim (xs.map (shiftAxes X g)))) = true)
    (hD : Decodes X g M' M MO' MO) :
    GroupGeom X g xs (permuted M' (freeAxes (FuseP.fusedArrM X [g]).ndim (xs.map (shiftAxes X g))))
      (permuted M (freeAxes X.ndim xs))
      (permuted MO' (freeAxes (FuseP.fusedArrM X [g]).ndim (xs.map (shiftAxes X g))))
      (permuted MO (freeAxes X.ndim xs)) := by
  have hvX := FuseP.validArr_of_validB hX
  have hok := h.groupsOk
  have nF := one_ndim (R := R) h
  have eXn : X.indices.length = X.ndim := rfl
  have eFn : (FuseP.fusedArrM X [g]).indices.length = FuseP.ndimM X [g] := nF
  have hxF : ∀ x ∈ xs, x < X.ndim ∧ x ∉ g := fun x hx => ⟨hlt x hx, hdisj x hx⟩
  have hn' := shiftAxes_map_nodup h hxF hn
  have hlt' : ∀ x ∈ xs.map (shiftAxes X g), x < (FuseP.fusedArrM X [g]).ndim := by
    rw [nF]; exact shiftAxes_map_lt h hxF
  have hKidx : permuted (FuseP.fusedArrM X [g]).indices (xs.map (shiftAxes X g)) = permuted X.indices xs :=
    permuted_shift h default eFn eXn (one_free_indices h) xs hxF
  refine ⟨hn', hlt', hKidx, ?_, ?_⟩
  · intro sF hsF'
    obtain ⟨p, hp, rfl⟩ := List.mem_map.mp hsF'
    have hl : alookup (FuseP.fusedBlocksM X [g]) p.1 = some p.2 :=
      alookup_of_mem (Arr.allDistinct_of_validB hvF) hp
    obtain ⟨sb0, hsb0, hns0, _⟩ := FuseP.fusedBlockM_info hvX hok.adm hl
    have hsl0 : sb0.1.length = X.ndim := (hvX.blk sb0 hsb0).1
    rw [← hns0, permuted_shift h ((0, 0) : Charge) (FuseP.planM_newSector_length hok.adm sb0) hsl0
      (one_newSector_free h sb0 hsl0) xs hxF]
    exact mem_contractedKeys.mpr ⟨_, List.mem_map.mpr ⟨sb0, hsb0, rfl⟩, rfl⟩
  · intro K shpK kk hK hkbox
    have hKlen : K.length = xs.length := by
      rw [(blockShape?_length hK).1, permuted_length _ _ (by simpa [eXn] using hlt)]
    have hkkl : kk.length = xs.length := by
      rw [inBox_length hkbox, (blockShape?_length hK).2, permuted_length _ _ (by simpa [eXn] using hlt)]
    obtain ⟨shpM, hshpM, hboxM⟩ := merge_box (Y := FuseP.fusedArrM X [g]) hn' hlt'
      (show Arr.blockShape? (permuted (FuseP.fusedArrM X [g]).indices (xs.map (shiftAxes X g))) K
        = some shpK by rw [hKidx]; exact hK) hLF hkbox hbLF
    rw [nF] at hshpM hboxM ⊢
    exact one_elem hvX hpX h (show Arr.blockShape? (FuseP.newIdxM X [g]) _ = some shpM from hshpM) hboxM
      (mergeSec_length _ _ _ _) (mergeIdx_length _ _ _ _ _ _)
      (hD.overwrite h hdisj hn hlt hMl' hMOl' hMl hMOl hKlen hkkl)

theorem group_geom_full [Zero R] [Neg R] (X : Arr R) (g xs : List Nat)
    (hX : X.validB = true) (hfX : X.fermi = false) (h : OneOk X g) (hdisj : ∀ x ∈ xs, x ∉ g)
    (hn : xs.Nodup) (hlt : ∀ x ∈ xs, x < X.ndim)
    {M' M : Sector} {MO' MO shp' shpX : List Nat}
    (hshp' : Arr.blockShape? (FuseP.fusedArrM X [g]).indices M' = some shp') (hbox' : inBox shp' MO' = true)
    (hshpX : Arr.blockShape? X.indices M = some shpX) (hboxX : inBox shpX MO = true)
    (hdec : decAx X [g] 0 (M'.getD (FuseP.giM X [g]).position (0, 0)) (MO'.getD (FuseP.giM X [g]).position 0)
      = some (permuted M g, permuted MO g))
    (hfS : permuted M' (freeAxes (FuseP.fusedArrM X [g]).ndim [(FuseP.giM X [g]).position])
      = permuted M (freeAxes X.ndim g))
    (hfO : permuted MO' (freeAxes (FuseP.fusedArrM X [g]).ndim [(FuseP.giM X [g]).position])
      = permuted MO (freeAxes X.ndim g)) :
    GroupGeom X g xs (permuted M' (freeAxes (FuseP.fusedArrM X [g]).ndim (xs.map (shiftAxes X g))))
        (permuted M (freeAxes X.ndim xs))
        (permuted MO' (freeAxes (FuseP.fusedArrM X [g]).ndim (xs.map (shiftAxes X g))))
        (permuted MO (freeAxes X.ndim xs))
    ∧ Arr.blockShape? (permuted (FuseP.fusedArrM X [g]).indices
          (freeAxes (FuseP.fusedArrM X [g]).ndim (xs.map (shiftAxes X g))))
        (permuted M' (freeAxes (FuseP.fusedArrM X [g]).ndim (xs.map (shiftAxes X g))))
        = some (permuted shp' (freeAxes (FuseP.fusedArrM X [g]).ndim (xs.map (shiftAxes X g))))
    ∧ inBox (permuted shp' (freeAxes (FuseP.fusedArrM X [g]).ndim (xs.map (shiftAxes X g))))
        (permuted MO' (freeAxes (FuseP.fusedArrM X [g]).ndim (xs.map (shiftAxes X g)))) = true
    ∧ Arr.blockShape? (permuted X.indices (freeAxes X.ndim xs)) (permuted M (freeAxes X.ndim xs))
        = some (permuted shpX (freeAxes X.ndim xs))
    ∧ inBox (permuted shpX (freeAxes X.ndim xs)) (permuted MO (freeAxes X.ndim xs)) = true := by
  have nF := one_ndim (R := R) h
  have eFn : (FuseP.fusedArrM X [g]).indices.length = FuseP.ndimM X [g] := nF
  have hl' := blockShape?_length hshp'
  have hl := blockShape?_length hshpX
  have hFlt : ∀ x ∈ freeAxes X.ndim xs, x < X.ndim := fun x hx => (mem_freeAxes.mp hx).1
  have hFlt' : ∀ x ∈ freeAxes (FuseP.fusedArrM X [g]).ndim (xs.map (shiftAxes X g)),
      x < (FuseP.fusedArrM X [g]).ndim := fun x hx => (mem_freeAxes.mp hx).1
  have hLF := blockShape?_permuted hshp' _ hFlt'
  have hbLF := inBox_permuted hbox' _ (by intro q hq; rw [hl'.2]; exact hFlt' q hq)
  rw [nF] at hfS hfO
  exact ⟨group_geom X g xs hX (Arr.phases_nil_of_validB hX hfX) (one_validB hX hfX h) h hdisj hn hlt
      (hl'.1.trans eFn) (by rw [inBox_length hbox', hl'.2]; exact eFn) hl.1
      (by rw [inBox_length hboxX, hl.2]; rfl) hLF hbLF ⟨hdec, hfS, hfO⟩,
    hLF, hbLF, blockShape?_permuted hshpX _ hFlt,
    inBox_permuted hboxX _ (by intro q hq; rw [hl.2]; exact hFlt q hq)⟩

end TdotP
end SymmModel
