/-
  SymmModel.Proofs.Fuse4Sign — the list lemmas behind the factorisation of the reversal part of the
  fermionic fuse sign over the dual groups (`koszul_vpermF`, Fuse4Sign2): reversing selected blocks
  of a permutation multiplies its Koszul sign by the product over these blocks of
  `(-1)^(k(k-1)/2)`, `k` = number of odd charges on the block (`koszul_reverse_blocks`), and the
  function tabulated by the virtual permutation `vpermF` reverses exactly the dual groups
  (`map_vfun_blocks`).
-/
import SymmModel.Proofs.Koszul
import SymmModel.Proofs.FuseFermi7
namespace SymmModel
namespace FuseP
open SymmModel.KoszulP

variable {R : Type}

/-- reversal sign of a block of axes: `(-1)^(k(k-1)/2)` for `k` odd entries -/
def revSign (par : List Bool) (g : List Nat) : Int := sgn (oddCount par g * (oddCount par g - 1) / 2)

theorem revSign_pm (par : List Bool) (g : List Nat) : revSign par g = 1 ∨ revSign par g = -1 :=
  sgn_cases _

theorem revSign_congr {par par' : List Bool} {g g' : List Nat} (h : oddCount par g = oddCount par' g') :
    revSign par g = revSign par' g' := by
  unfold revSign; rw [h]

theorem revSign_of_le_one {par : List Bool} {g : List Nat} (h : oddCount par g ≤ 1) : revSign par g = 1 := by
  unfold revSign
  rcases Nat.le_one_iff_eq_zero_or_eq_one.1 h with h | h <;> rw [h] <;> rfl

def revProd (par : List Bool) (sel : List Nat → Bool) : List (List Nat) → Int
  | [] => 1
  | g :: rest => (if sel g then revSign par g else 1) * revProd par sel rest

theorem koszul_reverse_blocks (par : List Bool) (sel : List Nat → Bool) (bl : List (List Nat)) (xs ys : List Nat)
    (n : Nat) (h : (xs ++ bl.flatten ++ ys).Perm (List.range n)) :
    koszul par (some (xs ++ (bl.map (fun g => if sel g then g.reverse else g)).flatten ++ ys))
      = koszul par (some (xs ++ bl.flatten ++ ys)) * revProd par sel bl := by
  induction bl generalizing xs with
  | nil => simp [revProd]
  | cons g rest ih =>
    simp only [List.map_cons, List.flatten_cons, revProd]
    have hperm' : (xs ++ (if sel g then g.reverse else g) ++ rest.flatten ++ ys).Perm (List.range n) := by
      refine List.Perm.trans ?_ h
      simp only [List.flatten_cons, List.append_assoc]
      apply List.Perm.append_left
      apply List.Perm.append_right
      split
      · exact List.reverse_perm g
      · exact List.Perm.refl _
    have h1 := ih (xs ++ (if sel g then g.reverse else g)) hperm'
    have e1 : xs ++ ((if sel g then g.reverse else g)
        ++ (rest.map (fun g => if sel g then g.reverse else g)).flatten) ++ ys
        = xs ++ (if sel g then g.reverse else g)
          ++ (rest.map (fun g => if sel g then g.reverse else g)).flatten ++ ys := by
      simp only [List.append_assoc]
    rw [e1, h1]
    by_cases hs : sel g = true
    · simp only [hs, if_true]
      have h2 := koszul_reverse_block par xs g (rest.flatten ++ ys) n (by
        simpa only [List.append_assoc, List.flatten_cons] using h)
      have e2 : xs ++ g.reverse ++ rest.flatten ++ ys = xs ++ g.reverse ++ (rest.flatten ++ ys) := by
        simp only [List.append_assoc]
      have e3 : xs ++ (g ++ rest.flatten) ++ ys = xs ++ g ++ (rest.flatten ++ ys) := by
        simp only [List.append_assoc]
      rw [e2, h2, e3]
      simp only [revSign, Int.mul_assoc]
    · have hs' : sel g = false := by simpa using hs
      simp only [hs', Bool.false_eq_true, if_false, Int.one_mul]
      simp only [List.append_assoc]

theorem mem_unique_of_nodup_flatten {L : List (List Nat)} (h : L.flatten.Nodup) {g g' : List Nat}
    (hg : g ∈ L) (hg' : g' ∈ L) {ax : Nat} (h1 : ax ∈ g) (h2 : ax ∈ g') : g = g' := by
  induction L with
  | nil => cases hg
  | cons x xs ih =>
    simp only [List.flatten_cons, List.nodup_append] at h
    rcases List.mem_cons.1 hg with e1 | hg1
    · rcases List.mem_cons.1 hg' with e2 | hg2
      · rw [e1, e2]
      · subst e1
        exact absurd rfl (h.2.2 ax h1 ax (List.mem_flatten.2 ⟨g', hg2, h2⟩))
    · rcases List.mem_cons.1 hg' with e2 | hg2
      · subst e2
        exact absurd rfl (h.2.2 ax h2 ax (List.mem_flatten.2 ⟨g, hg1, h1⟩))
      · exact ih h.2.1 hg1 hg2

theorem find?_dual {L : List (List Nat)} (hnd : L.flatten.Nodup) (dual : List Nat → Bool) {g : List Nat}
    (hg : g ∈ L) {ax : Nat} (hax : ax ∈ g) :
    (L.filter dual).find? (fun g' => g'.contains ax) = if dual g then some g else none := by
  split
  · rename_i hd
    cases hf : (L.filter dual).find? (fun g' => g'.contains ax) with
    | none =>
      rw [List.find?_eq_none] at hf
      exact absurd (by simpa using hax) (hf g (List.mem_filter.2 ⟨hg, hd⟩))
    | some g' =>
      have hm := List.mem_of_find?_eq_some hf
      have hc := List.find?_some hf
      simp only [List.contains_eq_mem, decide_eq_true_eq] at hc
      rw [mem_unique_of_nodup_flatten hnd (List.mem_filter.1 hm).1 hg hc hax]
  · rename_i hd
    rw [List.find?_eq_none]
    intro g' hg' hc
    simp only [List.contains_eq_mem, decide_eq_true_eq] at hc
    have := mem_unique_of_nodup_flatten hnd (List.mem_filter.1 hg').1 hg hc hax
    subst this
    exact hd (List.mem_filter.1 hg').2

theorem map_reverse_index {g : List Nat} (hnd : g.Nodup) :
    g.map (fun ax => match indexOf? g ax with
      | some k => g.reverse.getD k ax
      | none => ax) = g.reverse := by
  apply List.ext_getElem (by simp)
  intro k h1 h2
  simp only [List.length_map] at h1
  simp only [List.getElem_map, indexOf?_getElem hnd h1]
  simp only [List.length_reverse] at h2
  simp only [List.getD_eq_getElem?_getD, List.getElem?_eq_getElem (show k < g.reverse.length by simpa using h1),
    List.getElem_reverse, Option.getD_some]

/-- the function tabulated by `vpermF` -/
def vfun (D : List (List Nat)) (ax : Nat) : Nat :=
  match D.find? (fun g => g.contains ax) with
  | some g => match indexOf? g ax with
              | some k => g.reverse.getD k ax
              | none => ax
  | none => ax

theorem vfun_block {L : List (List Nat)} (hnd : L.flatten.Nodup) (dual : List Nat → Bool) {g : List Nat}
    (hg : g ∈ L) : g.map (vfun (L.filter dual)) = if dual g then g.reverse else g := by
  have hgn : g.Nodup := (List.nodup_flatten.1 hnd).1 g hg
  have : g.map (vfun (L.filter dual)) = g.map (fun ax => if dual g then
      (match indexOf? g ax with
        | some k => g.reverse.getD k ax
        | none => ax) else ax) := by
    apply List.map_congr_left
    intro ax hax
    simp only [vfun, find?_dual hnd dual hg hax]
    by_cases hd : dual g = true
    · simp only [hd, if_true]
    · simp only [hd, Bool.false_eq_true, if_false]
  rw [this]
  split
  · exact map_reverse_index hgn
  · simp only [List.map_id_fun', id_eq]

theorem vfun_outside {L : List (List Nat)} (dual : List Nat → Bool) {ax : Nat} (h : ax ∉ L.flatten) :
    vfun (L.filter dual) ax = ax := by
  have : (L.filter dual).find? (fun g => g.contains ax) = none := by
    rw [List.find?_eq_none]
    intro g hg hc
    simp only [List.contains_eq_mem, decide_eq_true_eq] at hc
    exact h (List.mem_flatten.2 ⟨g, (List.mem_filter.1 hg).1, hc⟩)
  simp only [vfun, this]

theorem map_vfun_blocks {L : List (List Nat)} (hnd : L.flatten.Nodup) (dual : List Nat → Bool) (xs ys : List Nat)
    (hx : ∀ x ∈ xs, x ∉ L.flatten) (hy : ∀ y ∈ ys, y ∉ L.flatten) :
    (xs ++ L.flatten ++ ys).map (vfun (L.filter dual))
      = xs ++ (L.map (fun g => if dual g then g.reverse else g)).flatten ++ ys := by
  rw [List.map_append, List.map_append, List.map_flatten]
  congr 1
  · congr 1
    · conv_rhs => rw [← List.map_id xs]
      exact List.map_congr_left (fun x hxm => vfun_outside dual (hx x hxm))
    · congr 1
      apply List.map_congr_left
      intro g hg
      exact vfun_block hnd dual hg
  · conv_rhs => rw [← List.map_id ys]
    exact List.map_congr_left (fun y hym => vfun_outside dual (hy y hym))

end FuseP
end SymmModel
