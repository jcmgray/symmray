/-
  SymmModel.Proofs.Reshape3d — the planner `calc_reshape_args` for all shapes, targets and sub-sizes
  (C07), part d: the squeeze phase on segments, as an equation.  `absorbS` says what the phase does:
  every maximal run of "s" segments joins the group of its left neighbour, a leading run the group of
  its right neighbour, and an "o" neighbour becomes a new group with key `fuse_sizes.length`
  (`Seg.join`); `squeezePhase_eq` says that `squeezePhase` returns the labels of `absorbS` on segments
  that are not all "s" (`squeezePhase_none` otherwise).  What the phase keeps (`SqKeeps`: the
  description `GOk` of `fuse_sizes`, the old axes `flatE`, and, squeezed axes having size one, the
  post-fuse shape `flatK`) is proved for one `join` and carried along `absorbS` by transitivity.
-/
import SymmModel.Proofs.Reshape3c
namespace SymmModel.Reshape3
open SymmModel SymmModel.Reshape SymmModel.C07

/-- "o" or "g": a segment that is there after the squeeze phase -/
def Seg.isOG : Seg → Bool
  | .o _ => true
  | .g _ _ => true
  | _ => false

/-- "o", "s" or "g": a segment that is there after the unfuse phase -/
def Seg.isOSG : Seg → Bool
  | .o _ => true
  | .g _ _ => true
  | .s _ => true
  | _ => false

def Seg.isS : Seg → Bool
  | .s _ => true
  | _ => false

def OG (S : List Seg) : Prop := ∀ a ∈ S, a.isOG = true
def OSG (S : List Seg) : Prop := ∀ a ∈ S, a.isOSG = true

theorem OSG.tail {a : Seg} {S : List Seg} (h : OSG (a :: S)) : OSG S := fun b hb => h b (by simp [hb])

theorem isOG_of_osg_not_s {Y : Seg} (hY : Y.isOSG = true) (hs : ∀ e, Y ≠ Seg.s e) : Y.isOG = true := by
  cases Y <;> simp [Seg.isOSG, Seg.isOG] at hY ⊢
  exact hs _ rfl

/-- the leading run of "s" segments (what the first `while label == "s"` of the squeeze phase steps over) and the rest -/
def spanS : List Seg → List E × List Seg
  | .s e :: r => (e :: (spanS r).1, (spanS r).2)
  | l => ([], l)

theorem spanS_eq : ∀ Q : List Seg, Q = (spanS Q).1.map Seg.s ++ (spanS Q).2
    ∧ ∀ e r, (spanS Q).2 ≠ Seg.s e :: r := by
  intro Q
  induction Q with
  | nil => simp [spanS]
  | cons a Q ih =>
    cases a with
    | s e => simp only [spanS, List.map_cons, List.cons_append]; exact ⟨by rw [← ih.1], ih.2⟩
    | o e => simp [spanS]
    | u k d subs => simp [spanS]
    | g k es => simp [spanS]
    | x => simp [spanS]

theorem flatL_map_s (ses : List E) : flatL (ses.map Seg.s) = List.replicate ses.length Lbl.s := by
  induction ses with
  | nil => rfl
  | cons d r ih => simp [Seg.lbl, ih, List.replicate_succ]

theorem flatE_map_s (ses : List E) : flatE (ses.map Seg.s) = ses := by
  simp [flatE, List.flatMap_map, Seg.ax]

theorem flatK_map_s (ses : List E) : flatK (ses.map Seg.s) = [] :=
  List.flatMap_eq_nil_iff.2 fun _ ha => by obtain ⟨e, _, rfl⟩ := List.mem_map.mp ha; rfl

theorem gKeys_map_s (ses : List E) : gKeys (ses.map Seg.s) = [] :=
  List.filterMap_eq_nil_iff.2 fun _ ha => by obtain ⟨e, _, rfl⟩ := List.mem_map.mp ha; rfl

theorem prod_sizes_ones (ses : List E) (h : ∀ e ∈ ses, e.1 = 1) : prod (SymShape.sizes ses) = 1 := by
  induction ses with
  | nil => rfl
  | cons e r ih =>
    simp only [SymShape.sizes, List.map_cons, prod] at ih ⊢
    rw [h e (by simp), ih (fun e he => h e (by simp [he]))]

theorem GOk.congr {fs : List Nat} {S S' : List Seg} (h : GOk fs S) (hk : gKeys S' = gKeys S)
    (hm : ∀ k es, Seg.g k es ∈ S' → Seg.g k es ∈ S) : GOk fs S' :=
  ⟨fun k es he => h.len k es (hm k es he), by rw [hk]; exact h.nodup⟩

theorem gKeys_mid (A : List Seg) (a : Seg) (B : List Seg) :
    gKeys (A ++ a :: B) = gKeys A ++ a.gKey.toList ++ gKeys B := by
  rw [gKeys_append, gKeys_cons]; simp

theorem GOk.bump_mid {fs : List Nat} {A B : List Seg} {k : Nat} {es es' : List E} (n : Nat)
    (h : GOk fs (A ++ Seg.g k es :: B)) (hl : es'.length = es.length + n) :
    GOk (fs.modify k (· + n)) (A ++ Seg.g k es' :: B) where
  len := by
    intro k' es'' he
    have hold := h.len k es (by simp)
    have hnd := h.nodup
    rw [gKeys_mid, List.append_assoc, List.nodup_append] at hnd
    have other : Seg.g k' es'' ∈ A ++ B → (fs.modify k (· + n))[k']? = some es''.length ∧ 1 ≤ es''.length := by
      intro hm
      have hne : k ≠ k' := by
        rcases List.mem_append.mp hm with hm | hm
        · exact fun e => hnd.2.2 k' (mem_gKeys.mpr ⟨_, hm⟩) k (by simp [Seg.gKey]) e.symm
        · intro e
          have hB := (List.nodup_append.mp hnd.2.1).2.2 k (by simp [Seg.gKey]) k' (mem_gKeys.mpr ⟨_, hm⟩)
          exact hB e
      have : (fs.modify k (· + n))[k']? = fs[k']? := by simp [hne]
      rw [this]
      exact h.len k' es'' (by
        rcases List.mem_append.mp hm with hm | hm
        · simp [hm]
        · simp [hm])
    rcases List.mem_append.mp he with he | he
    · exact other (List.mem_append_left _ he)
    · rcases List.mem_cons.mp he with he | he
      · injection he with h1 h2
        subst h1; subst h2
        exact ⟨by simp [hold.1, hl], by omega⟩
      · exact other (List.mem_append_right _ he)
  nodup := by
    have := h.nodup
    rw [gKeys_mid] at this ⊢
    exact this

theorem GOk.new_mid {fs : List Nat} {A B : List Seg} {e : E}
    (h : GOk fs (A ++ Seg.o e :: B)) : GOk (fs ++ [1]) (A ++ Seg.g fs.length [e] :: B) where
  len := by
    intro k' es'' he
    have old : ∀ k es, Seg.g k es ∈ A ++ Seg.o e :: B → (fs ++ [1])[k]? = some es.length ∧ 1 ≤ es.length := by
      intro k es hm
      obtain ⟨h1, h2⟩ := h.len k es hm
      have hk := (List.getElem?_eq_some_iff.mp h1).1
      exact ⟨by rw [List.getElem?_append_left hk]; exact h1, h2⟩
    rcases List.mem_append.mp he with he | he
    · exact old _ _ (by simp [he])
    · rcases List.mem_cons.mp he with he | he
      · injection he with h1 h2
        subst h1; subst h2
        simp
      · exact old _ _ (by simp [he])
  nodup := by
    have hnd := h.nodup
    rw [gKeys_mid] at hnd ⊢
    simp only [Seg.gKey, Option.toList, List.append_nil] at hnd ⊢
    rw [List.append_assoc, List.singleton_append]
    refine (List.perm_middle.nodup_iff).mpr ?_
    rw [List.nodup_cons]
    refine ⟨?_, hnd⟩
    intro hm
    have : fs.length ∈ gKeys (A ++ Seg.o e :: B) := by
      rw [gKeys_mid]; simpa [Seg.gKey] using hm
    exact Nat.lt_irrefl _ (h.key_lt this)

theorem GOk.lbl_pos {fs : List Nat} {S : List Seg} (hg : GOk fs S) {Y : Seg} (hm : Y ∈ S)
    (hog : Y.isOG = true) : 1 ≤ Y.lbl.length := by
  cases Y with
  | o e => simp [Seg.lbl]
  | g k es => simpa [Seg.lbl] using (hg.len k es hm).2
  | _ => simp [Seg.isOG] at hog

theorem length_le_flatL : ∀ {S : List Seg}, (∀ a ∈ S, 1 ≤ a.lbl.length) → S.length ≤ (flatL S).length
  | [], _ => Nat.le_refl _
  | a :: S, h => by
    have := h a (by simp)
    have := length_le_flatL (S := S) (fun b hb => h b (by simp [hb]))
    simp only [List.length_cons, flatL_cons, List.length_append]; omega

/-- the group that squeezed axes next to the segment join, and `fuse_sizes` once that group exists.
    Both loops of the `if any_singleton:` block choose it the same way from the neighbouring label:
    `if left[0] == "g": g = left` / `elif left == "o": g = f"g{len(fuse_sizes)}"; term[i - 1] = g;
    fuse_sizes[g] = 1` (and likewise from the label to the right of a leading run of "s") -/
def Seg.grp (fs : List Nat) : Seg → Nat × List Nat
  | .g k _ => (k, fs)
  | .o _ => (fs.length, fs ++ [1])
  | _ => (0, fs)

/-- the squeezed axes `l` on the left and `r` on the right join the segment `a`: every one of them
    gets the group's label and `fuse_sizes[g] += 1` (`for j in range(0, i): …` for a leading run `l`,
    the inner `while label == "s": term[i] = g; fuse_sizes[g] += 1; …` for a run `r`) -/
def Seg.join (l r : List E) (fs : List Nat) (a : Seg) : Seg × List Nat :=
  (.g (a.grp fs).1 (l ++ a.ax ++ r), (a.grp fs).2.modify (a.grp fs).1 (· + (l.length + r.length)))

theorem GOk.grp_lt {fs : List Nat} {A B : List Seg} {a : Seg} (h : GOk fs (A ++ a :: B))
    (ha : a.isOG = true) : (a.grp fs).1 < (a.grp fs).2.length := by
  cases a with
  | g k es => exact h.key_lt (by rw [gKeys_mid]; simp [Seg.gKey, Seg.grp])
  | o e => simp [Seg.grp]
  | _ => simp [Seg.isOG] at ha

theorem GOk.join {fs : List Nat} {A B : List Seg} {a : Seg} (l r : List E) (h : GOk fs (A ++ a :: B))
    (ha : a.isOG = true) : GOk (a.join l r fs).2 (A ++ (a.join l r fs).1 :: B) := by
  cases a with
  | g k es => exact h.bump_mid _ (by simp [Seg.ax]; omega)
  | o e => exact h.new_mid.bump_mid _ (by simp [Seg.ax]; omega)
  | _ => simp [Seg.isOG] at ha

theorem join_join (l r l' r' : List E) (fs : List Nat) (a : Seg) :
    (a.join l r fs).1.join l' r' (a.join l r fs).2 = a.join (l' ++ l) (r ++ r') fs := by
  have e : l.length + r.length + (l'.length + r'.length) = l'.length + l.length + (r.length + r'.length) := by
    omega
  simp only [Seg.join, Seg.grp, Seg.ax, modify_add, List.length_append, List.append_assoc, e]

/-- what the squeeze phase keeps when it takes the segments `S` with `fuse_sizes = fs` to `S'`, `fs'` -/
structure SqKeeps (S : List Seg) (fs : List Nat) (S' : List Seg) (fs' : List Nat) : Prop where
  gok : GOk fs S → GOk fs' S'
  flatE : flatE S' = flatE S
  flatK : SOne S → flatK S' = flatK S ∧ SOne S'
  two : GTwo S → GTwo S'

theorem SqKeeps.refl (S : List Seg) (fs : List Nat) : SqKeeps S fs S fs :=
  ⟨id, rfl, fun h => ⟨rfl, h⟩, id⟩

theorem SqKeeps.trans {S S' S'' : List Seg} {fs fs' fs'' : List Nat} (h1 : SqKeeps S fs S' fs')
    (h2 : SqKeeps S' fs' S'' fs'') : SqKeeps S fs S'' fs'' :=
  ⟨fun h => h2.gok (h1.gok h), h2.flatE.trans h1.flatE,
    fun h => ⟨(h2.flatK (h1.flatK h).2).1.trans (h1.flatK h).1, (h2.flatK (h1.flatK h).2).2⟩,
    fun h => h2.two (h1.two h)⟩

theorem SqKeeps.join {A B : List Seg} {a : Seg} (l r : List E) (fs : List Nat) (ha : a.isOG = true)
    (hlr : 1 ≤ l.length + r.length) :
    SqKeeps (A ++ l.map Seg.s ++ a :: (r.map Seg.s ++ B)) fs (A ++ (a.join l r fs).1 :: B)
      (a.join l r fs).2 where
  gok h := by
    refine GOk.join l r (h.congr ?_ ?_) ha
    · simp [gKeys_append, gKeys_cons, gKeys_map_s]
    · intro k es hm
      simp only [List.mem_append, List.mem_cons, List.mem_map] at hm ⊢
      rcases hm with hm | hm | hm
      · exact Or.inl (Or.inl hm)
      · exact Or.inr (Or.inl hm)
      · exact Or.inr (Or.inr (Or.inr hm))
  flatE := by simp [Seg.join, Seg.ax, flatE_map_s]
  flatK h1 := by
    have hl : ∀ e ∈ l, e.1 = 1 := fun e he => h1 e (by simp [he])
    have hr : ∀ e ∈ r, e.1 = 1 := fun e he => h1 e (by simp [he])
    have pl := prod_sizes_ones _ hl
    have pr := prod_sizes_ones _ hr
    simp only [SymShape.sizes] at pl pr
    refine ⟨?_, fun e he => h1 e ?_⟩
    · have : (a.join l r fs).1.outK = a.outK := by
        cases a <;> simp [Seg.isOG] at ha <;>
          simp [Seg.join, Seg.outK, Seg.ax, SymShape.sizes, prod_append, prod, pl, pr]
      simp [flatK_map_s, this]
    · simp only [List.mem_append, List.mem_cons, List.mem_map] at he ⊢
      rcases he with he | he | he
      · exact Or.inl (Or.inl he)
      · cases he
      · exact Or.inr (Or.inr (Or.inr he))
  two h k es hm := by
    simp only [List.mem_append, List.mem_cons] at hm
    rcases hm with hm | hm | hm
    · exact h k es (by simp [hm])
    · injection hm with _ hes
      subst hes
      cases a with
      | g k' es' => have := h k' es' (by simp); simp [Seg.ax]; omega
      | o e => simp [Seg.ax]; omega
      | _ => simp [Seg.isOG] at ha
    · exact h k es (by simp [hm])

/-- the second loop of the squeeze phase ("process rest of term, now preferring grouping into left":
    `while i < len(term)`) behind the segment `a` (an "o" or a group): an "s" segment joins `a`, any
    other segment becomes the new left neighbour -/
def absorbL : Seg → List Seg → List Nat → List Seg × List Nat
  | a, [], fs => ([a], fs)
  | a, .s e :: Q, fs => absorbL (a.join [] [e] fs).1 Q (a.join [] [e] fs).2
  | a, b :: Q, fs => (a :: (absorbL b Q fs).1, (absorbL b Q fs).2)

/-- the squeeze phase (`if any_singleton:` block, "handle squeezes by converting them into fuse
    groups"): a leading run of "s" segments joins the first other segment on its right ("if we have
    squeeze axes on left, we have to group into right"), then `absorbL`.  If all segments are "s" the
    code runs off the end of `term` (`IndexError`); `absorbS` then returns its input -/
def absorbS (fs : List Nat) (S : List Seg) : List Seg × List Nat :=
  match spanS S with
  | (_, []) => (S, fs)
  | ([], a :: Q) => absorbL a Q fs
  | (ses, a :: Q) => absorbL (a.join ses [] fs).1 Q (a.join ses [] fs).2

theorem absorbL_cons (a : Seg) {b : Seg} (Q : List Seg) (fs : List Nat) (hb : b.isOG = true) :
    absorbL a (b :: Q) fs = (a :: (absorbL b Q fs).1, (absorbL b Q fs).2) := by
  cases b with
  | o e => rfl
  | g k es => rfl
  | _ => simp [Seg.isOG] at hb

theorem absorbL_run (Q : List Seg) : ∀ (ses : List E) (a : Seg) (fs : List Nat), ses ≠ [] →
    absorbL a (ses.map Seg.s ++ Q) fs = absorbL (a.join [] ses fs).1 Q (a.join [] ses fs).2 := by
  intro ses
  induction ses with
  | nil => intro a fs h; exact (h rfl).elim
  | cons e ses ih =>
    intro a fs _
    cases ses with
    | nil => rfl
    | cons e' ses =>
      have := ih (a.join [] [e] fs).1 (a.join [] [e] fs).2 (by simp)
      rw [join_join] at this
      exact this

theorem absorbL_keeps : ∀ (Q A : List Seg) (a : Seg) (fs : List Nat), a.isOG = true → OSG Q →
    SqKeeps (A ++ a :: Q) fs (A ++ (absorbL a Q fs).1) (absorbL a Q fs).2 := by
  intro Q
  induction Q with
  | nil => intro A a fs _ _; exact SqKeeps.refl _ _
  | cons b Q ih =>
    intro A a fs ha hQ
    by_cases hb : b.isOG = true
    · rw [absorbL_cons a Q fs hb]
      simpa using ih (A ++ [a]) b fs hb hQ.tail
    · have hbo := hQ b (by simp)
      cases b <;> simp [Seg.isOG, Seg.isOSG] at hb hbo
      rename_i e
      have h1 : SqKeeps (A ++ a :: Seg.s e :: Q) fs (A ++ (a.join [] [e] fs).1 :: Q) (a.join [] [e] fs).2 := by
        simpa using SqKeeps.join (A := A) (B := Q) [] [e] fs ha (by simp)
      exact h1.trans (ih A _ _ rfl hQ.tail)

theorem absorbL_og : ∀ (Q : List Seg) (a : Seg) (fs : List Nat), a.isOG = true → OSG Q →
    OG (absorbL a Q fs).1 := by
  intro Q
  induction Q with
  | nil => intro a fs ha _ b hb; rw [List.mem_singleton.mp hb]; exact ha
  | cons b Q ih =>
    intro a fs ha hQ
    by_cases hb : b.isOG = true
    · rw [absorbL_cons a Q fs hb]
      intro c hc
      rcases List.mem_cons.mp hc with rfl | hc
      · exact ha
      · exact ih b fs hb hQ.tail c hc
    · have hbo := hQ b (by simp)
      cases b <;> simp [Seg.isOG, Seg.isOSG] at hb hbo
      exact ih _ _ rfl hQ.tail

theorem absorbL_id : ∀ (Q : List Seg) (a : Seg) (fs : List Nat), OG Q → absorbL a Q fs = (a :: Q, fs) := by
  intro Q
  induction Q with
  | nil => intro a fs _; rfl
  | cons b Q ih =>
    intro a fs hQ
    rw [absorbL_cons a Q fs (hQ b (by simp)), ih b fs (fun c hc => hQ c (by simp [hc]))]

theorem spanS_lead (ses : List E) {a : Seg} (ha : a.isOG = true) (Q : List Seg) :
    spanS (ses.map Seg.s ++ a :: Q) = (ses, a :: Q) := by
  induction ses with
  | nil =>
    cases a with
    | o e => rfl
    | g k es => rfl
    | _ => simp [Seg.isOG] at ha
  | cons e r ih => simp only [List.map_cons, List.cons_append, spanS, ih]

theorem absorbS_cons {a : Seg} (ha : a.isOG = true) (Q : List Seg) (fs : List Nat) :
    absorbS fs (a :: Q) = absorbL a Q fs := by
  have := spanS_lead [] ha Q
  simp only [List.map_nil, List.nil_append] at this
  simp only [absorbS, this]

theorem absorbS_lead {ses : List E} (hs : ses ≠ []) {a : Seg} (ha : a.isOG = true) (Q : List Seg) (fs : List Nat) :
    absorbS fs (ses.map Seg.s ++ a :: Q) = absorbL (a.join ses [] fs).1 Q (a.join ses [] fs).2 := by
  cases ses with
  | nil => exact (hs rfl).elim
  | cons e r => simp only [absorbS, spanS_lead (e :: r) ha Q]

theorem absorbS_split {S : List Seg} (fs : List Nat) (hO : OSG S) (hne : ∃ a ∈ S, a.isOG = true) :
    ∃ ses a Q, S = ses.map Seg.s ++ a :: Q ∧ a.isOG = true ∧ OSG Q ∧
      absorbS fs S = if ses = [] then absorbL a Q fs
        else absorbL (a.join ses [] fs).1 Q (a.join ses [] fs).2 := by
  obtain ⟨hsp, hnos⟩ := spanS_eq S
  generalize spanS S = p at hsp hnos
  obtain ⟨ses, Q2⟩ := p
  simp only at hsp hnos
  cases Q2 with
  | nil =>
    obtain ⟨a, ha, hog⟩ := hne
    rw [hsp] at ha
    simp only [List.append_nil, List.mem_map] at ha
    obtain ⟨e, _, rfl⟩ := ha
    cases hog
  | cons a Q =>
    have haO : a.isOSG = true := hO a (by rw [hsp]; simp)
    have ha : a.isOG = true := isOG_of_osg_not_s haO (fun e he => hnos e Q (by rw [he]))
    have hQ : OSG Q := fun b hb => hO b (by rw [hsp]; simp [hb])
    refine ⟨ses, a, Q, hsp, ha, hQ, ?_⟩
    rw [hsp]
    by_cases hs : ses = []
    · subst hs; simpa using absorbS_cons ha Q fs
    · rw [if_neg hs]; exact absorbS_lead hs ha Q fs

theorem absorbS_keeps {S : List Seg} (fs : List Nat) (hO : OSG S) (hne : ∃ a ∈ S, a.isOG = true) :
    SqKeeps S fs (absorbS fs S).1 (absorbS fs S).2 := by
  obtain ⟨ses, a, Q, rfl, ha, hQ, he⟩ := absorbS_split fs hO hne
  rw [he]
  by_cases hs : ses = []
  · subst hs
    simpa using absorbL_keeps Q [] a fs ha hQ
  · rw [if_neg hs]
    have h1 : SqKeeps (ses.map Seg.s ++ a :: Q) fs ((a.join ses [] fs).1 :: Q) (a.join ses [] fs).2 := by
      simpa using SqKeeps.join (A := []) (B := Q) ses [] fs ha
        (by have := List.length_pos_iff.mpr hs; omega)
    simpa using h1.trans (absorbL_keeps Q [] _ _ rfl hQ)

theorem absorbS_og {S : List Seg} (fs : List Nat) (hO : OSG S) (hne : ∃ a ∈ S, a.isOG = true) :
    OG (absorbS fs S).1 := by
  obtain ⟨ses, a, Q, rfl, ha, hQ, he⟩ := absorbS_split fs hO hne
  rw [he]
  split
  · exact absorbL_og Q a fs ha hQ
  · exact absorbL_og Q _ _ rfl hQ

theorem absorbS_id {S : List Seg} (fs : List Nat) (hS : OG S) : absorbS fs S = (S, fs) := by
  cases S with
  | nil => rfl
  | cons a Q =>
    have ha := hS a (by simp)
    have hQ : OG Q := fun c hc => hS c (by simp [hc])
    cases a <;> simp [Seg.isOG] at ha <;> simp [absorbS, spanS, absorbL_id _ _ _ hQ]

theorem og_lbl_notS {X : Seg} (h : X.isOG = true) : ∀ l ∈ X.lbl, l.isS = false := by
  intro l hl
  cases X <;> simp [Seg.isOG] at h
  · simp [Seg.lbl] at hl; subst hl; rfl
  · simp only [Seg.lbl] at hl; rw [(List.mem_replicate.mp hl).2]; rfl

theorem head_lbl_notS {fs : List Nat} {S Q : List Seg} (hg : GOk fs S) (hsub : ∀ a ∈ Q, a ∈ S)
    (hO : OSG Q) (hnos : ∀ e r, Q ≠ Seg.s e :: r) (l : Lbl) (T : List Lbl) (hl : flatL Q = l :: T) :
    l.isS = false := by
  cases Q with
  | nil => simp at hl
  | cons Y Q3 =>
    have hYog := isOG_of_osg_not_s (hO Y (by simp)) (fun e he => hnos e Q3 (by rw [he]))
    have hpos := hg.lbl_pos (hsub Y (by simp)) hYog
    rw [flatL_cons] at hl
    cases hYl : Y.lbl with
    | nil => rw [hYl] at hpos; simp at hpos
    | cons l0 rest =>
      rw [hYl] at hl
      injection hl with hl _
      subst hl
      exact og_lbl_notS hYog _ (by rw [hYl]; simp)

theorem join_lbl (l r : List E) (fs : List Nat) (a : Seg) (ha : a.isOG = true) :
    (a.join l r fs).1.lbl = List.replicate l.length (Lbl.g (a.grp fs).1)
      ++ List.replicate a.lbl.length (Lbl.g (a.grp fs).1) ++ List.replicate r.length (Lbl.g (a.grp fs).1) := by
  cases a with
  | g k es => simp [Seg.join, Seg.lbl, Seg.ax, List.replicate_append_replicate, Nat.add_assoc]
  | o e => simp [Seg.join, Seg.lbl, Seg.ax, ← List.replicate_succ, List.replicate_append_replicate]
  | _ => simp [Seg.isOG] at ha

/-- `sqLoop` at the first label of a run of "s" segments behind the segment `a`: the run joins `a`,
    and the loop goes on behind the label that follows the run -/
theorem sqLoop_run (T0 : List Lbl) (a : Seg) (ses : List E) (T2 : List Lbl) (fs : List Nat)
    (g : Option Nat) (fuel : Nat) (ha : a.isOG = true) (hpos : 1 ≤ a.lbl.length)
    (hk : (a.grp fs).1 < (a.grp fs).2.length) (hT2 : ∀ l T2', T2 = l :: T2' → l.isS = false)
    (hne : ses ≠ []) :
    ∃ g', sqLoop (fuel + 1) (T0 ++ a.lbl).length (T0 ++ a.lbl ++ List.replicate ses.length Lbl.s ++ T2) fs g
      = sqLoop fuel ((T0 ++ (a.join [] ses fs).1.lbl).length + 1) (T0 ++ (a.join [] ses fs).1.lbl ++ T2)
          (a.join [] ses fs).2 g' := by
  obtain ⟨m, hm⟩ : ∃ m, ses.length = m + 1 := ⟨ses.length - 1, by have := List.length_pos_iff.mpr hne; omega⟩
  rw [join_lbl _ _ _ _ ha, hm]
  cases a with
  | g k es =>
    simp only [Seg.lbl, Seg.grp, Seg.join, List.length_replicate] at hpos hk ⊢
    refine ⟨some k, ?_⟩
    rw [sqLoop_run_g k m fuel _ T2 fs g (by
      rw [List.getElem?_append_right (by simp; omega), List.getElem?_replicate]; simp; omega) hT2 hk]
    simp [List.replicate_append_replicate, hm, Nat.add_assoc]
  | o e =>
    simp only [Seg.lbl, Seg.grp, Seg.join] at hpos hk ⊢
    refine ⟨some fs.length, ?_⟩
    have := sqLoop_run_o m fuel T0 T2 fs g hT2
    simp only [List.length_append, List.length_cons, List.length_nil, List.append_assoc,
      List.cons_append, List.nil_append] at this ⊢
    rw [this]
    simp [List.replicate_succ, hm, Nat.add_comm 1, Nat.add_assoc]
  | _ => simp [Seg.isOG] at ha

/-- **the second loop of the squeeze phase** on segments: entered `d` labels into the segment `a`
    behind the segments `P`, it returns `absorbL` -/
theorem sqLoop_eq : ∀ (fuel : Nat) (P : List Seg) (a : Seg) (Q : List Seg) (d : Nat) (fs : List Nat)
    (g : Option Nat), a.isOG = true → OSG Q → GOk fs (P ++ a :: Q) → d ≤ a.lbl.length →
    (a.lbl.length - d) + (flatL Q).length + 1 ≤ fuel →
    sqLoop fuel ((flatL P).length + d) (flatL P ++ a.lbl ++ flatL Q) fs g
      = .ok (flatL P ++ flatL (absorbL a Q fs).1, (absorbL a Q fs).2) := by
  intro fuel
  induction fuel with
  | zero => intro P a Q d fs g _ _ _ _ hf; omega
  | succ fuel ih =>
    intro P a Q d fs g ha hQ hg hd hf
    have hpos := hg.lbl_pos (Y := a) (by simp) ha
    by_cases hlt : d < a.lbl.length
    · -- inside `a`
      have hl : (flatL P ++ a.lbl ++ flatL Q)[(flatL P).length + d]? = some a.lbl[d] := by
        rw [List.append_assoc, List.getElem?_append_right (by omega), Nat.add_sub_cancel_left,
          List.getElem?_append_left hlt]
        exact List.getElem?_eq_getElem hlt
      rw [sqLoop_next hl (og_lbl_notS ha _ (List.getElem_mem hlt)), Nat.add_assoc]
      exact ih P a Q (d + 1) fs g ha hQ hg hlt (by omega)
    · have hd' : d = a.lbl.length := by omega
      subst hd'
      cases Q with
      | nil => rw [sqLoop_end (by simp)]; simp [absorbL]
      | cons b Q =>
        by_cases hb : b.isOG = true
        · -- the first label of the next segment
          have hbpos := hg.lbl_pos (Y := b) (by simp) hb
          obtain ⟨l0, rest, hbl⟩ : ∃ l0 rest, b.lbl = l0 :: rest := by
            cases hbl : b.lbl with
            | nil => rw [hbl] at hbpos; simp at hbpos
            | cons l0 rest => exact ⟨l0, rest, rfl⟩
          have hl : (flatL P ++ a.lbl ++ flatL (b :: Q))[(flatL P).length + a.lbl.length]? = some l0 := by
            rw [← List.length_append, List.getElem?_append_right (Nat.le_refl _)]; simp [hbl]
          rw [sqLoop_next hl (og_lbl_notS hb l0 (by rw [hbl]; simp)), absorbL_cons a Q fs hb]
          have := ih (P ++ [a]) b Q 1 fs g hb hQ.tail (by simpa using hg) hbpos
            (by simp only [flatL_cons, List.length_append] at hf; omega)
          simpa [Nat.add_assoc] using this
        · -- a run of "s" segments
          have hbo := hQ b (by simp)
          cases b <;> simp [Seg.isOG, Seg.isOSG] at hb hbo
          rename_i e
          obtain ⟨hsp, hnos⟩ := spanS_eq Q
          generalize spanS Q = p at hsp hnos
          obtain ⟨ses, Q2⟩ := p
          simp only at hsp hnos
          subst hsp
          have hrun : Seg.s e :: (ses.map Seg.s ++ Q2) = (e :: ses).map Seg.s ++ Q2 := rfl
          rw [hrun] at hg hQ hf ⊢
          have hQ2 : OSG Q2 := fun c hc => hQ c (by simp [hc])
          have hT2 : ∀ l T2', flatL Q2 = l :: T2' → l.isS = false :=
            head_lbl_notS hg (fun c hc => by simp [hc]) hQ2 hnos
          obtain ⟨g', hstep⟩ := sqLoop_run (flatL P) a (e :: ses) (flatL Q2) fs g fuel ha hpos
            (hg.grp_lt ha) hT2 (by simp)
          have hg' : GOk (a.join [] (e :: ses) fs).2 (P ++ (a.join [] (e :: ses) fs).1 :: Q2) :=
            (SqKeeps.join (A := P) (B := Q2) [] (e :: ses) fs ha (by simp)).gok (by simpa using hg)
          rw [flatL_append, flatL_map_s, ← List.append_assoc, ← List.length_append, hstep,
            absorbL_run Q2 (e :: ses) a fs (by simp)]
          simp only [flatL_append, flatL_map_s, List.length_append, List.length_replicate] at hf
          cases Q2 with
          | nil =>
            obtain ⟨f, rfl⟩ : ∃ f, fuel = f + 1 := ⟨fuel - 1, by simp at hf; omega⟩
            rw [flatL_nil, List.append_nil, sqLoop_end (by simp)]; simp [absorbL]
          | cons Y Q3 =>
            have hY := isOG_of_osg_not_s (hQ2 Y (by simp)) (fun e he => hnos e Q3 (by rw [he]))
            have := ih (P ++ [(a.join [] (e :: ses) fs).1]) Y Q3 1 _ g' hY hQ2.tail (by simpa using hg')
              (hg'.lbl_pos (Y := Y) (by simp) hY)
              (by simp only [flatL_cons, List.length_append, List.length_cons] at hf; omega)
            simpa [Nat.add_assoc, absorbL_cons _ _ _ hY] using this

/-- **the squeeze phase** (`if any_singleton:` block) on segments that are not all "s" -/
theorem squeezePhase_eq (S : List Seg) (fs : List Nat) (hO : OSG S) (hg : GOk fs S)
    (hne : ∃ a ∈ S, a.isOG = true) :
    squeezePhase (flatL S) fs = .ok (flatL (absorbS fs S).1, (absorbS fs S).2) := by
  obtain ⟨ses, a, Q, rfl, ha, hQ, he⟩ := absorbS_split fs hO hne
  rw [he]
  have hpos := hg.lbl_pos (Y := a) (by simp) ha
  by_cases hs : ses = []
  · subst hs
    obtain ⟨l0, rest, hal⟩ : ∃ l0 rest, a.lbl = l0 :: rest := by
      cases hal : a.lbl with
      | nil => rw [hal] at hpos; simp at hpos
      | cons l0 rest => exact ⟨l0, rest, rfl⟩
    have := sqLoop_eq ((flatL (a :: Q)).length + 1) [] a Q 1 fs none ha hQ (by simpa using hg) hpos
      (by simp)
    simp only [flatL_nil, List.length_nil, Nat.zero_add, List.nil_append, ← flatL_cons] at this
    rw [if_pos rfl, List.map_nil, List.nil_append, flatL_cons, hal, List.cons_append,
      squeezePhase_start (og_lbl_notS ha l0 (by rw [hal]; simp)), ← List.cons_append, ← hal, ← flatL_cons,
      this]
  · obtain ⟨n, hn⟩ : ∃ n, ses.length = n + 1 := ⟨ses.length - 1, by have := List.length_pos_iff.mpr hs; omega⟩
    have hg' : GOk (a.join ses [] fs).2 ([] ++ (a.join ses [] fs).1 :: Q) :=
      (SqKeeps.join (A := []) (B := Q) ses [] fs ha (by simp; omega)).gok (by simpa using hg)
    have := sqLoop_eq ((flatL ((a.join ses [] fs).1 :: Q)).length + 1) [] _ Q (n + 1 + 1) _
      (some (a.grp fs).1) rfl hQ hg' (by rw [join_lbl _ _ _ _ ha]; simp <;> omega) (by simp <;> omega)
    simp only [flatL_nil, List.length_nil, Nat.zero_add, List.nil_append] at this
    have hk := (show GOk fs ([] ++ ses.map Seg.s ++ a :: Q) by simpa using hg).grp_lt ha
    have e3 : (a.join ses [] fs).2 = (a.grp fs).2.modify (a.grp fs).1 (· + (n + 1)) := by
      simp [Seg.join, hn]
    rw [if_neg hs, ← this, flatL_append, flatL_map_s, hn, flatL_cons, flatL_cons, join_lbl _ _ _ _ ha, hn, e3]
    cases a with
    | g k es =>
      obtain ⟨m, hm⟩ : ∃ m, es.length = m + 1 := ⟨es.length - 1, by simp [Seg.lbl] at hpos; omega⟩
      simp only [Seg.lbl, Seg.grp, List.length_replicate, List.length_nil, List.replicate_zero,
        List.append_nil]
      rw [hm, List.replicate_succ (n := m)]
      simp only [List.cons_append, List.append_assoc]
      rw [squeezePhase_lead_g k n _ fs hk]
    | o e =>
      simp only [Seg.lbl, Seg.grp, List.length_cons, List.length_nil, List.replicate_zero,
        List.append_nil, List.replicate_succ (n := 0), List.cons_append, List.nil_append, List.append_assoc]
      rw [squeezePhase_lead_o n _ fs]
    | _ => simp [Seg.isOG] at ha

theorem squeezePhase_none (S : List Seg) (fs : List Nat) (hO : OSG S) (hne : ∀ a ∈ S, a.isOG = false) :
    squeezePhase (flatL S) fs = .error Err.index := by
  have : flatL S = List.replicate S.length Lbl.s := by
    induction S with
    | nil => rfl
    | cons a S ih =>
      have ha := hO a (by simp)
      have ha' := hne a (by simp)
      cases a <;> simp [Seg.isOSG, Seg.isOG] at ha ha'
      simp [Seg.lbl, List.replicate_succ, ih hO.tail (fun b hb => hne b (by simp [hb]))]
  rw [this, squeezePhase_all_s]

end SymmModel.Reshape3
