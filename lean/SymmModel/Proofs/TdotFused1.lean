/-
  SymmModel.Proofs.TdotFused1 — C06, `aligned_fused_tables_match`, generic part:
  the table of a fused index is determined by the SET of sub-sectors it is built from and by the
  charge tables / relative directions of the sub-indices.
-/
import SymmModel.Proofs.TdotMore
import SymmModel.Proofs.FuseMultiAll

namespace SymmModel
namespace TdotP
variable {R : Type}

theorem eq_of_perm_of_pairwise {α : Type} {lt : α → α → Prop}
    (hasym : ∀ a b, lt a b → lt b a → False) :
    ∀ {l1 l2 : List α}, l1.Pairwise lt → l2.Pairwise lt → l1.Perm l2 → l1 = l2
  | [], l2, _, _, hp => by rw [List.nil_perm] at hp; exact hp.symm
  | x :: xs, [], _, _, hp => by simp at hp
  | x :: xs, y :: ys, h1, h2, hp => by
    rw [List.pairwise_cons] at h1 h2
    have hxy : x = y := by
      have hx : x ∈ y :: ys := hp.subset (by simp)
      have hy : y ∈ x :: xs := hp.symm.subset (by simp)
      rcases List.mem_cons.mp hx with e | hx'
      · exact e
      · rcases List.mem_cons.mp hy with e | hy'
        · exact e.symm
        · exact absurd (h1.1 y hy') (fun h => hasym _ _ h (h2.1 x hx'))
    subst hxy
    rw [eq_of_perm_of_pairwise hasym h1.2 h2.2 (List.perm_cons _ |>.mp hp)]

/-- two entry lists whose entries are functions of their keys (by the same function) and that have
    the same key set give the same canonical (sorted, de-duplicated) list -/
theorem sortedEntries_eq {E1 E2 : List (Sector × Charge × Nat)} (P : Sector × Charge × Nat → Prop)
    (hfun : ∀ x y, P x → P y → x.1 = y.1 → x = y)
    (h1 : ∀ x ∈ E1, P x) (h2 : ∀ x ∈ E2, P x)
    (hkeys : ∀ k, k ∈ E1.map (·.1) ↔ k ∈ E2.map (·.1)) :
    FuseP.sortedEntries E1 = FuseP.sortedEntries E2 := by
  have hasym : ∀ a b : Sector × Charge × Nat, sectorLt a.1 b.1 = true → sectorLt b.1 a.1 = true → False := by
    intro a b hab hba
    have := FuseP.sectorLt_trans _ _ _ hab hba
    rw [FuseP.sectorLt_irrefl] at this; cases this
  apply eq_of_perm_of_pairwise hasym (FuseP.sortedEntries_pairwise E1) (FuseP.sortedEntries_pairwise E2)
  have nd : ∀ E : List (Sector × Charge × Nat), (FuseP.sortedEntries E).Nodup :=
    fun E => List.Nodup.of_map _ (FuseP.sortedEntries_nodup E)
  rw [List.perm_ext_iff_of_nodup (nd E1) (nd E2)]
  have key : ∀ (Ea Eb : List (Sector × Charge × Nat)), (∀ x ∈ Ea, P x) → (∀ x ∈ Eb, P x) →
      (∀ k, k ∈ Ea.map (·.1) → k ∈ Eb.map (·.1)) →
      ∀ x, x ∈ FuseP.sortedEntries Ea → x ∈ FuseP.sortedEntries Eb := by
    intro Ea Eb ha hb hk x hx
    have hxa := FuseP.mem_sortedEntries Ea hx
    have hkx : x.1 ∈ (FuseP.sortedEntries Eb).map (·.1) :=
      (FuseP.mem_keys_sortedEntries Eb).2 (hk _ (List.mem_map.2 ⟨x, hxa, rfl⟩))
    obtain ⟨y, hy, hy1⟩ := List.mem_map.1 hkx
    have := hfun y x (hb y (FuseP.mem_sortedEntries Eb hy)) (ha x hxa) hy1
    rw [← this]; exact hy
  intro x
  exact ⟨key E1 E2 h1 h2 (fun k => (hkeys k).1) x, key E2 E1 h2 h1 (fun k => (hkeys k).2) x⟩

theorem entryOk_congr {sym : Sym} {g g' : Bool} {subs subs' : List Index}
    (hcm : subs.map Index.cm = subs'.map Index.cm)
    (hd : subs'.map (fun ix => g' != ix.dual) = subs.map (fun ix => g != ix.dual))
    {x : Sector × Charge × Nat} (h : FuseP.EntryOk sym g subs x) : FuseP.EntryOk sym g' subs' x := by
  obtain ⟨h1, ⟨shp, h2, h3⟩, h4, h5⟩ := h
  have hl : subs.length = subs'.length := by simpa using congrArg List.length hcm
  refine ⟨by omega, ⟨shp, by rw [← blockShape?_congr hcm]; exact h2, h3⟩, ?_, h5⟩
  rw [← h4]
  have e : ∀ (gg : Bool) (l : List Index),
      List.zipWith (fun c' (sub : Index) => sym.sign c' (gg != sub.dual)) x.1 l =
      List.zipWith (fun c' d => sym.sign c' d) x.1 (l.map (fun ix => gg != ix.dual)) := by
    intro gg l; rw [List.zipWith_map_right]
  rw [e, e, hd]

/-- **fused tables match (generic).**  Two valid arrays of the same symmetry, a multi-axis group on
    each, the sub-indices of the groups with equal charge tables and opposite directions, and the
    same SET of stored sub-sectors on the groups: the two fused indices have the same chargemap,
    the same extents (same sub-sectors in the same order with the same sizes) and opposite
    directions. -/
theorem fused_tables_match {A B : Arr R} {GA GB : List (List Nat)} {gA gB : Nat} {xa xb : List Nat}
    (hvA : FuseP.ValidArr A) (hvB : FuseP.ValidArr B) (hsym : A.sym = B.sym)
    (hokA : FuseP.GroupsOk GA A.ndim) (hokB : FuseP.GroupsOk GB B.ndim)
    (hgA : GA[gA]? = some xa) (hgB : GB[gB]? = some xb)
    (hlenA : xa.length ≠ 1) (hlen : xa.length = xb.length)
    (hcm : (xa.map (fun ax => A.indices.getD ax default)).map Index.cm
      = (xb.map (fun ax => B.indices.getD ax default)).map Index.cm)
    (hdual : (xb.map (fun ax => B.indices.getD ax default)).map Index.dual
      = (xa.map (fun ax => A.indices.getD ax default)).map (fun ix => !ix.dual))
    (hkeys : ∀ K, K ∈ A.blocks.map (fun sb => xa.map (fun ax => sb.1.getD ax (0, 0))) ↔
      K ∈ B.blocks.map (fun sb => xb.map (fun ax => sb.1.getD ax (0, 0)))) :
    (FuseP.ixM A GA gA).cm = (FuseP.ixM B GB gB).cm
    ∧ FuseP.extsM A GA gA = FuseP.extsM B GB gB
    ∧ (FuseP.ixM A GA gA).dual = !(FuseP.ixM B GB gB).dual := by
  have hlenB : xb.length ≠ 1 := by omega
  have hxa_ne : xa ≠ [] := hokA.gne xa (FuseP.getElem?_mem' hgA)
  have hxb_ne : xb ≠ [] := hokB.gne xb (FuseP.getElem?_mem' hgB)
  have hgdA : (FuseP.giM A GA).groupDuals.getD gA false = (A.indices.getD (xa.headD 0) default).dual := by
    rw [FuseP.groupDuals_getD _ _ _ _ hgA]
    simp only [Arr.duals, List.getD_eq_getElem?_getD, List.getElem?_map]
    cases A.indices[xa.headD 0]? <;> rfl
  have hgdB : (FuseP.giM B GB).groupDuals.getD gB false = (B.indices.getD (xb.headD 0) default).dual := by
    rw [FuseP.groupDuals_getD _ _ _ _ hgB]
    simp only [Arr.duals, List.getD_eq_getElem?_getD, List.getElem?_map]
    cases B.indices[xb.headD 0]? <;> rfl
  have hgd : (FuseP.giM B GB).groupDuals.getD gB false = !(FuseP.giM A GA).groupDuals.getD gA false := by
    rw [hgdA, hgdB]
    cases xa with
    | nil => exact absurd rfl hxa_ne
    | cons i xa' =>
      cases xb with
      | nil => exact absurd rfl hxb_ne
      | cons j xb' =>
        simp only [List.map_cons, List.cons.injEq] at hdual
        exact hdual.1
  have hE : FuseP.sortedEntries (FuseP.tableEntries (FuseP.blockmapOf A GA) (FuseP.giM A GA).position gA)
      = FuseP.sortedEntries (FuseP.tableEntries (FuseP.blockmapOf B GB) (FuseP.giM B GB).position gB) := by
    apply sortedEntries_eq (FuseP.EntryOk A.sym ((FuseP.giM A GA).groupDuals.getD gA false)
      (xa.map (fun ax => A.indices.getD ax default)))
      (fun x y hx hy h => FuseP.entryOk_functional hx hy h)
      (FuseP.tableEntries_entryOk hvA (fun _ => hokA.lt) hgA hlenA)
    · intro x hx
      have := FuseP.tableEntries_entryOk hvB (fun _ => hokB.lt) hgB hlenB x hx
      rw [← hsym] at this
      refine entryOk_congr hcm.symm ?_ this
      rw [hgd]
      have e1 : (xa.map (fun ax => A.indices.getD ax default)).map
          (fun ix => (FuseP.giM A GA).groupDuals.getD gA false != ix.dual)
          = ((xa.map (fun ax => A.indices.getD ax default)).map Index.dual).map
            (fun d => (FuseP.giM A GA).groupDuals.getD gA false != d) := by simp only [List.map_map, Function.comp_def]
      have e2 : (xb.map (fun ax => B.indices.getD ax default)).map
          (fun ix => (!(FuseP.giM A GA).groupDuals.getD gA false) != ix.dual)
          = ((xb.map (fun ax => B.indices.getD ax default)).map Index.dual).map
            (fun d => (!(FuseP.giM A GA).groupDuals.getD gA false) != d) := by simp only [List.map_map, Function.comp_def]
      rw [e1, e2, hdual]
      simp only [List.map_map]
      apply List.map_congr_left
      intro ax _
      simp only [Function.comp]
      cases (FuseP.giM A GA).groupDuals.getD gA false <;> cases (A.indices.getD ax default).dual <;> rfl
    · intro K
      have eA : (FuseP.tableEntries (FuseP.blockmapOf A GA) (FuseP.giM A GA).position gA).map (·.1)
          = A.blocks.map (fun sb => xa.map (fun ax => sb.1.getD ax (0, 0))) := by
        simp only [FuseP.tableEntries, FuseP.blockmapOf, List.map_map]
        apply List.map_congr_left
        intro sb _
        exact FuseP.ssM_eq (a := A) hgA sb
      have eB : (FuseP.tableEntries (FuseP.blockmapOf B GB) (FuseP.giM B GB).position gB).map (·.1)
          = B.blocks.map (fun sb => xb.map (fun ax => sb.1.getD ax (0, 0))) := by
        simp only [FuseP.tableEntries, FuseP.blockmapOf, List.map_map]
        apply List.map_congr_left
        intro sb _
        exact FuseP.ssM_eq (a := B) hgB sb
      rw [eA, eB]; exact hkeys K
  refine ⟨?_, ?_, ?_⟩
  · rw [FuseP.ixM_multi hokA.adm hgA hlenA, FuseP.ixM_multi hokB.adm hgB hlenB, FuseP.fusedIndexOf_eq,
      FuseP.fusedIndexOf_eq, hE]
    rfl
  · simp only [FuseP.extsM]
    rw [FuseP.ixM_multi hokA.adm hgA hlenA, FuseP.ixM_multi hokB.adm hgB hlenB, FuseP.fusedIndexOf_eq,
      FuseP.fusedIndexOf_eq, hE]
    rfl
  · rw [FuseP.ixM_dual hokA.adm hgA hlenA, FuseP.ixM_dual hokB.adm hgB hlenB, hgd]; simp

theorem dropTo_cm (ix : Index) (S : List Charge) :
    (dropTo ix S).cm = ix.cm.filter (fun p => S.contains p.1) := by
  rw [dropTo_eq_dropCharges]
  obtain ⟨c, d, s⟩ := ix
  simp only [Index.dropCharges, Index.cm, Index.charges]
  apply List.filter_congr
  intro p hp
  have hm : p.1 ∈ c.map (·.1) := List.mem_map.mpr ⟨p, hp, rfl⟩
  rw [Bool.eq_iff_iff]
  simp only [List.contains_eq_mem, decide_eq_false_iff_not, List.mem_filter,
    decide_eq_true_eq, not_and, Bool.not_eq_eq_eq_not, Bool.not_true, Decidable.not_not]
  exact ⟨fun h => h hm, fun h _ => h⟩

theorem dropUnused_getD (ixs : List Index) (S : List Sector) {i : Nat} (hi : i < ixs.length) :
    (dropUnused ixs S).getD i default = dropTo (ixs.getD i default) (S.filterMap (fun s => s[i]?)) := by
  rw [List.getD_eq_getElem?_getD, dropUnused_getElem?, List.getD_eq_getElem?_getD,
    List.getElem?_eq_getElem hi]
  rfl

theorem aligned_keys (a b : Arr R) (xa xb : List Nat) (K : Sector) :
    K ∈ subKeys (dropMisaligned a b xa xb).1 xa ↔ K ∈ subKeys (dropMisaligned a b xa xb).2 xb := by
  constructor
  · intro h
    obtain ⟨s, hs, rfl⟩ := List.mem_map.mp h
    obtain ⟨p, hp, rfl⟩ := List.mem_map.mp hs
    rw [dropMisaligned_fst_blocks] at hp
    obtain ⟨hpa, hc⟩ := List.mem_filter.mp hp
    simp only [List.contains_eq_mem, decide_eq_true_eq] at hc
    obtain ⟨y, hy, hyk⟩ := List.mem_map.mp hc
    refine List.mem_map.mpr ⟨y, mem_sectors_dropMisaligned_snd hy ?_, hyk⟩
    rw [hyk]; exact mem_subKeys_of_mem hpa
  · intro h
    obtain ⟨s, hs, rfl⟩ := List.mem_map.mp h
    obtain ⟨p, hp, rfl⟩ := List.mem_map.mp hs
    rw [dropMisaligned_snd_blocks] at hp
    obtain ⟨hpb, hc⟩ := List.mem_filter.mp hp
    simp only [List.contains_eq_mem, decide_eq_true_eq] at hc
    obtain ⟨x, hx, hxk⟩ := List.mem_map.mp hc
    refine List.mem_map.mpr ⟨x, mem_sectors_dropMisaligned_fst hx ?_, hxk⟩
    rw [hxk]; exact mem_subKeys_of_mem hpb

theorem mem_zip_getElem? {α β : Type} {l1 : List α} {l2 : List β} {p : α × β} (h : p ∈ l1.zip l2) :
    ∃ t : Nat, l1[t]? = some p.1 ∧ l2[t]? = some p.2 := by
  obtain ⟨t, ht⟩ := List.mem_iff_getElem?.mp h
  exact ⟨t, List.getElem?_zip_eq_some.mp ht⟩

theorem sectors_dropMisaligned_sub (a b : Arr R) (xa xb : List Nat) :
    (∀ s ∈ (dropMisaligned a b xa xb).1.sectors, s ∈ a.sectors) ∧
    (∀ s ∈ (dropMisaligned a b xa xb).2.sectors, s ∈ b.sectors) := by
  constructor
  · intro s hs
    rw [Arr.sectors, dropMisaligned_fst_blocks] at hs
    obtain ⟨p, hp, rfl⟩ := List.mem_map.mp hs
    exact List.mem_map.mpr ⟨p, (List.mem_filter.mp hp).1, rfl⟩
  · intro s hs
    rw [Arr.sectors, dropMisaligned_snd_blocks] at hs
    obtain ⟨p, hp, rfl⟩ := List.mem_map.mp hs
    exact List.mem_map.mpr ⟨p, (List.mem_filter.mp hp).1, rfl⟩

theorem index_getD_wf {A : Arr R} (hv : FuseP.ValidArr A) {ax : Nat} (h : ax < A.indices.length) :
    Index.wfB A.sym (A.indices.getD ax default) = true :=
  hv.idx _ (by rw [List.getD_eq_getElem?_getD, List.getElem?_eq_getElem h]; exact List.getElem_mem _)

theorem filter_eq_of_agree {cA cB : List (Charge × Nat)}
    (hA : isSortedStrict Charge.lt (cA.map (·.1)) = true)
    (hB : isSortedStrict Charge.lt (cB.map (·.1)) = true)
    (hag : ∀ c dA dB, alookup cA c = some dA → alookup cB c = some dB → dB = dA) (f : Charge → Bool)
    (hin : ∀ c, f c = true → (∃ d, alookup cA c = some d) ∧ (∃ d, alookup cB c = some d)) :
    cA.filter (fun p => f p.1) = cB.filter (fun p => f p.1) := by
  have ndA : (cA.map (·.1)).Nodup := ValidP.sortedCharges_nodup hA
  have ndB : (cB.map (·.1)).Nodup := ValidP.sortedCharges_nodup hB
  have pwA : cA.Pairwise (fun p q => Charge.lt p.1 q.1 = true) := by
    have := (ValidP.sortedCharges_iff _).mp hA
    rwa [List.pairwise_map] at this
  have pwB : cB.Pairwise (fun p q => Charge.lt p.1 q.1 = true) := by
    have := (ValidP.sortedCharges_iff _).mp hB
    rwa [List.pairwise_map] at this
  have hasym : ∀ p q : Charge × Nat, Charge.lt p.1 q.1 = true → Charge.lt q.1 p.1 = true → False := by
    intro p q h1 h2
    have := Charge.lt_trans h1 h2
    rw [Charge.lt_irrefl] at this; cases this
  apply eq_of_perm_of_pairwise hasym (pwA.filter _) (pwB.filter _)
  rw [List.perm_ext_iff_of_nodup ((List.Nodup.of_map _ ndA).filter _) ((List.Nodup.of_map _ ndB).filter _)]
  rintro ⟨c, d⟩
  simp only [List.mem_filter]
  constructor
  · rintro ⟨hm, hf⟩
    obtain ⟨_, ⟨d', hd'⟩⟩ := hin c hf
    have h1 := alookup_of_mem_nodup ndA hm
    have := hag _ _ _ h1 hd'
    subst this
    exact ⟨alookup_some_mem hd', hf⟩
  · rintro ⟨hm, hf⟩
    obtain ⟨⟨d', hd'⟩, _⟩ := hin c hf
    have h2 := alookup_of_mem_nodup ndB hm
    have := hag _ _ _ hd' h2
    subst this
    exact ⟨alookup_some_mem hd', hf⟩

theorem charge_in_table {a : Arr R} (hs : a.shapesOk) {s : Sector} (hmem : s ∈ a.sectors) {i : Nat}
    (hi : i < a.indices.length) {c : Charge} (hc : s[i]? = some c) :
    ∃ d, alookup (a.indices.getD i default).cm c = some d := by
  obtain ⟨p, hp, rfl⟩ := List.mem_map.mp hmem
  have hsh := hs p hp
  obtain ⟨d, _, hd⟩ := blockShape?_getElem hsh (List.getElem?_eq_getElem hi) hc
  refine ⟨d, ?_⟩
  rw [List.getD_eq_getElem?_getD, List.getElem?_eq_getElem hi]
  exact hd

/-- **after aligning, matched contracted legs have equal charge tables and opposite directions**,
    provided that before aligning they had opposite directions and charge tables that give the
    same size to every charge both list: both tables are pruned to the same set of charges -/
theorem aligned_cm_dual_of (a b : Arr R) (xa xb : List Nat)
    (ha : a.validB = true) (hb : b.validB = true)
    (hxa' : ∀ x ∈ xa, x < a.ndim) (hxb' : ∀ x ∈ xb, x < b.ndim) (hlen : xa.length = xb.length)
    (hzip : ∀ p ∈ xa.zip xb,
      (∀ c dA dB, alookup (a.indices.getD p.1 default).cm c = some dA →
        alookup (b.indices.getD p.2 default).cm c = some dB → dB = dA)
      ∧ (a.indices.getD p.1 default).dual ≠ (b.indices.getD p.2 default).dual) :
    (xa.map (fun ax => (dropMisaligned a b xa xb).1.indices.getD ax default)).map Index.cm
      = (xb.map (fun ax => (dropMisaligned a b xa xb).2.indices.getD ax default)).map Index.cm
    ∧ (xb.map (fun ax => (dropMisaligned a b xa xb).2.indices.getD ax default)).map Index.dual
      = (xa.map (fun ax => (dropMisaligned a b xa xb).1.indices.getD ax default)).map
          (fun ix => !ix.dual) := by
  have hsa := Arr.shapesOk_of_validB ha
  have hsb := Arr.shapesOk_of_validB hb
  have hla : ∀ s ∈ a.sectors, s.length = a.ndim := fun s hs => Arr.sector_length hsa hs
  have hlb : ∀ s ∈ b.sectors, s.length = b.ndim := fun s hs => Arr.sector_length hsb hs
  obtain ⟨hsubA, hsubB⟩ := sectors_dropMisaligned_sub a b xa xb
  rw [dropMisaligned_fst_indices, dropMisaligned_snd_indices]
  simp only [List.map_map]
  constructor
  · apply map_eq_map_of_zip _ _ xa xb hlen
    intro p hp
    obtain ⟨t, ht1, ht2⟩ := mem_zip_getElem? hp
    have hi : p.1 < a.indices.length := hxa' _ (List.mem_of_getElem? ht1)
    have hj : p.2 < b.indices.length := hxb' _ (List.mem_of_getElem? ht2)
    simp only [Function.comp]
    rw [dropUnused_getD _ _ hi, dropUnused_getD _ _ hj, dropTo_cm, dropTo_cm]
    -- the two sets of kept charges coincide
    have hiff : ∀ q : Charge,
        (q ∈ (dropMisaligned a b xa xb).1.sectors.filterMap (fun s => s[p.1]?)) ↔
        (q ∈ (dropMisaligned a b xa xb).2.sectors.filterMap (fun s => s[p.2]?)) := by
      intro q
      simp only [List.mem_filterMap]
      constructor
      · rintro ⟨s, hs, hsc⟩
        have hK : permuted s xa ∈ subKeys (dropMisaligned a b xa xb).1 xa := List.mem_map.mpr ⟨s, hs, rfl⟩
        obtain ⟨s', hs', hk⟩ := List.mem_map.mp ((aligned_keys a b xa xb _).mp hK)
        refine ⟨s', hs', ?_⟩
        have e1 := permuted_getElem?_of s (by rw [hla s (hsubA s hs)]; exact hxa') ht1
        have e2 := permuted_getElem?_of s' (by rw [hlb s' (hsubB s' hs')]; exact hxb') ht2
        rw [← e2, hk, e1]; exact hsc
      · rintro ⟨s', hs', hsc⟩
        have hK : permuted s' xb ∈ subKeys (dropMisaligned a b xa xb).2 xb := List.mem_map.mpr ⟨s', hs', rfl⟩
        obtain ⟨s, hs, hk⟩ := List.mem_map.mp ((aligned_keys a b xa xb _).mpr hK)
        refine ⟨s, hs, ?_⟩
        have e1 := permuted_getElem?_of s (by rw [hla s (hsubA s hs)]; exact hxa') ht1
        have e2 := permuted_getElem?_of s' (by rw [hlb s' (hsubB s' hs')]; exact hxb') ht2
        rw [← e1, hk, e2]; exact hsc
    have hR : (b.indices.getD p.2 default).cm.filter (fun q =>
          ((dropMisaligned a b xa xb).2.sectors.filterMap (fun s => s[p.2]?)).contains q.1)
        = (b.indices.getD p.2 default).cm.filter (fun q =>
          ((dropMisaligned a b xa xb).1.sectors.filterMap (fun s => s[p.1]?)).contains q.1) := by
      apply List.filter_congr
      intro q _
      rw [Bool.eq_iff_iff]
      simp only [List.contains_eq_mem, decide_eq_true_eq]
      exact (hiff q.1).symm
    rw [hR]
    have wfA : Index.wfB a.sym (a.indices.getD p.1 default) = true :=
      index_getD_wf (FuseP.validArr_of_validB ha) hi
    have wfB : Index.wfB b.sym (b.indices.getD p.2 default) = true :=
      index_getD_wf (FuseP.validArr_of_validB hb) hj
    refine filter_eq_of_agree (ValidP.wfB_cmOk wfA).1 (ValidP.wfB_cmOk wfB).1 (hzip p hp).1
      (fun c => ((dropMisaligned a b xa xb).1.sectors.filterMap (fun s => s[p.1]?)).contains c) ?_
    intro c hcS
    simp only [List.contains_eq_mem, decide_eq_true_eq] at hcS
    have hcS' := (hiff c).mp hcS
    obtain ⟨s, hs, hsc⟩ := List.mem_filterMap.mp hcS
    obtain ⟨s', hs', hsc'⟩ := List.mem_filterMap.mp hcS'
    exact ⟨charge_in_table hsa (hsubA s hs) hi hsc, charge_in_table hsb (hsubB s' hs') hj hsc'⟩
  · apply map_eq_map_of_zip _ _ xb xa hlen.symm
    intro p hp
    have hp' : (p.2, p.1) ∈ xa.zip xb := by
      obtain ⟨t, ht1, ht2⟩ := mem_zip_getElem? hp
      exact (List.mem_iff_getElem?.mpr ⟨t, List.getElem?_zip_eq_some.mpr ⟨ht2, ht1⟩⟩)
    obtain ⟨t, ht1, ht2⟩ := mem_zip_getElem? hp
    have hj : p.1 < b.indices.length := hxb' _ (List.mem_of_getElem? ht1)
    have hi : p.2 < a.indices.length := hxa' _ (List.mem_of_getElem? ht2)
    simp only [Function.comp]
    rw [dropUnused_getD _ _ hi, dropUnused_getD _ _ hj, dropTo_dual, dropTo_dual]
    have hne : (a.indices.getD p.2 default).dual ≠ (b.indices.getD p.1 default).dual := (hzip _ hp').2
    revert hne
    cases (a.indices.getD p.2 default).dual <;> cases (b.indices.getD p.1 default).dual <;> simp

/-- the contractible case: the matched legs had equal charge tables before aligning -/
theorem aligned_cm_dual (a b : Arr R) (xa xb : List Nat)
    (ha : a.validB = true) (hb : b.validB = true)
    (hxa' : ∀ x ∈ xa, x < a.ndim) (hxb' : ∀ x ∈ xb, x < b.ndim)
    (hc : ValidP.contractibleB a b xa xb = true) :
    (xa.map (fun ax => (dropMisaligned a b xa xb).1.indices.getD ax default)).map Index.cm
      = (xb.map (fun ax => (dropMisaligned a b xa xb).2.indices.getD ax default)).map Index.cm
    ∧ (xb.map (fun ax => (dropMisaligned a b xa xb).2.indices.getD ax default)).map Index.dual
      = (xa.map (fun ax => (dropMisaligned a b xa xb).1.indices.getD ax default)).map
          (fun ix => !ix.dual) := by
  unfold ValidP.contractibleB at hc
  simp only [Bool.and_eq_true, beq_iff_eq, List.all_eq_true, bne_iff_ne, ne_eq] at hc
  refine aligned_cm_dual_of a b xa xb ha hb hxa' hxb' hc.1 (fun p hp => ⟨?_, (hc.2 p hp).2⟩)
  intro c dA dB h1 h2
  rw [(hc.2 p hp).1] at h1
  exact Option.some.inj (h2.symm.trans h1)

end TdotP
end SymmModel
