/-
  SymmModel.Proofs.Net4M6 — the table `allPats4` of the interleaving patterns of two sorted label
  lists with at most FOUR labels each (251 patterns): a pattern `(ca, cb)` splits the ranks
  `0 … a+b-1` into an increasing list `ca` of length `a` and its complement `cb`.  What the label
  check of the doubled network needs of a pattern is that no rank occurs twice and all ranks lie
  below the total length (`allPats4_ranks`); the check itself holds for all label lists with
  pairwise-distinct labels (`LabelAlg.netLabelsB_of_distinct`).
-/
import SymmModel.Proofs.Assoc5Two

namespace SymmModel
namespace Assoc5P

/-- the increasing sublists of length `k` -/
def subsetsOf : List Int → Nat → List (List Int)
  | _, 0 => [[]]
  | [], _ + 1 => []
  | x :: xs, k + 1 => (subsetsOf xs k).map (x :: ·) ++ subsetsOf xs (k + 1)

/-- the interleaving patterns of a sorted list of `a` labels with a sorted list of `b` labels: the
    ranks `0 … a+b-1` split into an increasing list of length `a` and its complement -/
def pats (a b : Nat) : List (List Int × List Int) :=
  let all : List Int := (List.range (a + b)).map Int.ofNat
  (subsetsOf all a).map (fun ca => (ca, all.filter (fun x => !ca.contains x)))

def allPats4 : List (List Int × List Int) :=
  (List.range 5).flatMap (fun a => (List.range 5).flatMap (fun b => pats a b))

example : allPats4.length = 251 ∧ ([0, 2, 5], [1, 3, 4]) ∈ allPats4 := by decide +kernel

theorem subsetsOf_sublist : ∀ (l : List Int) (k : Nat) (c : List Int), c ∈ subsetsOf l k →
    c.Sublist l ∧ c.length = k
  | l, 0, c, h => by
    have : c = [] := by cases l <;> simpa [subsetsOf] using h
    subst this; exact ⟨List.nil_sublist _, rfl⟩
  | [], _ + 1, c, h => by simp [subsetsOf] at h
  | x :: xs, k + 1, c, h => by
    simp only [subsetsOf, List.mem_append, List.mem_map] at h
    rcases h with ⟨c', hc', rfl⟩ | h
    · obtain ⟨s, e⟩ := subsetsOf_sublist xs k c' hc'
      exact ⟨s.cons_cons x, by simp [e]⟩
    · obtain ⟨s, e⟩ := subsetsOf_sublist xs (k + 1) c h
      exact ⟨s.cons x, e⟩

theorem pats_ranks {a b : Nat} {ca cb : List Int} (hp : (ca, cb) ∈ pats a b) :
    (ca ++ cb).Nodup ∧ ∀ i ∈ ca ++ cb, 0 ≤ i ∧ i < ((ca.length + cb.length : Nat) : Int) := by
  unfold pats at hp
  simp only [List.mem_map, Prod.mk.injEq] at hp
  obtain ⟨c, hc, rfl, rfl⟩ := hp
  obtain ⟨sub, len⟩ := subsetsOf_sublist _ _ _ hc
  generalize hall : (List.range (a + b)).map Int.ofNat = all at sub ⊢
  have nall : all.Nodup := by
    rw [← hall]; exact List.Nodup.map (fun _ _ h => Int.ofNat.inj h) List.nodup_range
  have rall : ∀ i ∈ all, 0 ≤ i ∧ i < ((a + b : Nat) : Int) := by
    intro i hi
    rw [← hall] at hi
    obtain ⟨n, hn, rfl⟩ := List.mem_map.mp hi
    have := List.mem_range.mp hn
    exact ⟨Int.natCast_nonneg n, Int.ofNat_lt.mpr this⟩
  have nc : c.Nodup := nall.sublist sub
  have pm : (all.filter (fun x => c.contains x)).Perm c := by
    rw [List.perm_ext_iff_of_nodup (nall.filter _) nc]
    intro x
    simp only [List.mem_filter, List.contains_iff_mem]
    exact ⟨fun h => h.2, fun h => ⟨sub.subset h, h⟩⟩
  have lall : all.length = a + b := by rw [← hall]; simp
  have lsum : c.length + (all.filter (fun x => !c.contains x)).length = a + b := by
    rw [← pm.length_eq, ← lall]
    have := List.length_eq_length_filter_add (l := all) (fun x => c.contains x)
    simpa using this.symm
  refine ⟨List.nodup_append.mpr ⟨nc, nall.filter _, ?_⟩, ?_⟩
  · intro x hx y hy e
    subst e
    have := (List.mem_filter.mp hy).2
    rw [List.contains_iff_mem.mpr hx] at this
    cases this
  · intro i hi
    rw [lsum]
    rcases List.mem_append.mp hi with h | h
    · exact rall i (sub.subset h)
    · exact rall i (List.mem_filter.mp h).1

theorem allPats4_ranks {ca cb : List Int} (hp : (ca, cb) ∈ allPats4) :
    (ca ++ cb).Nodup ∧ ∀ i ∈ ca ++ cb, 0 ≤ i ∧ i < ((ca.length + cb.length : Nat) : Int) := by
  unfold allPats4 at hp
  simp only [List.mem_flatMap] at hp
  obtain ⟨a, -, b, -, h⟩ := hp
  exact pats_ranks h

end Assoc5P
end SymmModel
