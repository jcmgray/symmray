/-
  SymmModel.Proofs.ValidTdot — `_tensordot_blockwise` returns a valid array (property C01 for the
  contraction kernel): every aligned pair of blocks lands in a charge-conserving sector of the
  shape the tables prescribe (`secOk_contract`), the accumulation keeps the keys distinct
  (`tdBlocks_inv`), and pruning the tables afterwards loses no stored charge.  Of the precondition
  `contractibleB` only the opposite directions of the contracted legs are used (`oppositeDualsB`).
-/
import SymmModel.Proofs.ValidOps
import SymmModel.Proofs.SpecTdot

namespace SymmModel
namespace ValidP
open Sym

variable {R : Type}

/-- the precondition of a contraction: contracted indices have the same charge table and
    opposite directions.  Stronger than what `check_with` asserts in debug mode:
    `BlockIndex.matches` wants tables that do not conflict (`contractibleCommonB` in AssocWeak;
    `C01.matches_not_contractibleB`). -/
def contractibleB (a b : Arr R) (axesA axesB : List Nat) : Bool :=
  axesA.length == axesB.length
  && (axesA.zip axesB).all (fun p =>
      (a.indices.getD p.1 default).cm == (b.indices.getD p.2 default).cm
      && ((a.indices.getD p.1 default).dual != (b.indices.getD p.2 default).dual))

/-- only this part of `contractibleB` is needed for validity -/
def oppositeDualsB (a b : Arr R) (axesA axesB : List Nat) : Bool :=
  axesA.length == axesB.length
  && (axesA.zip axesB).all (fun p =>
      ((a.indices.getD p.1 default).dual != (b.indices.getD p.2 default).dual))

theorem oppositeDualsB_iff {a b : Arr R} {axesA axesB : List Nat} :
    oppositeDualsB a b axesA axesB = true ↔ axesA.length = axesB.length
      ∧ ∀ p ∈ axesA.zip axesB,
          ((a.indices.getD p.1 default).dual != (b.indices.getD p.2 default).dual) = true := by
  unfold oppositeDualsB
  simp only [Bool.and_eq_true, beq_iff_eq, List.all_eq_true]

theorem contractible_opposite {a b : Arr R} {axesA axesB : List Nat}
    (h : contractibleB a b axesA axesB = true) : oppositeDualsB a b axesA axesB = true := by
  unfold contractibleB at h
  unfold oppositeDualsB
  simp only [Bool.and_eq_true, List.all_eq_true] at h ⊢
  exact ⟨h.1, fun p hp => (h.2 p hp).2⟩

theorem opposite_duals_permuted (ia ib : List Index) :
    ∀ (axesA axesB : List Nat), axesA.length = axesB.length →
      (∀ i ∈ axesA, i < ia.length) → (∀ i ∈ axesB, i < ib.length) →
      (∀ p ∈ axesA.zip axesB, ((ia.getD p.1 default).dual != (ib.getD p.2 default).dual) = true) →
      (permuted ib axesB).map Index.dual = (permuted ia axesA).map (fun ix => !ix.dual)
  | [], [], _, _, _, _ => rfl
  | [], _ :: _, h, _, _, _ => by simp at h
  | _ :: _, [], h, _, _, _ => by simp at h
  | i :: axesA, j :: axesB, hl, hA, hB, hd => by
    have hi : i < ia.length := hA i (by simp)
    have hj : j < ib.length := hB j (by simp)
    rw [permuted_cons _ _ _ hi, permuted_cons _ _ _ hj, List.map_cons, List.map_cons]
    have h0 := hd (i, j) (by simp)
    simp only [List.getD_eq_getElem?_getD, List.getElem?_eq_getElem hi, List.getElem?_eq_getElem hj,
      Option.getD_some] at h0
    have ih := opposite_duals_permuted ia ib axesA axesB (by simpa using hl)
      (fun k hk => hA k (by simp [hk])) (fun k hk => hB k (by simp [hk]))
      (fun p hp => hd p (by simp [hp]))
    rw [ih]
    congr 1
    revert h0
    cases ia[i].dual <;> cases ib[j].dual <;> simp

theorem oppositeDualsB_permuted {a b : Arr R} {axesA axesB : List Nat}
    (h : oppositeDualsB a b axesA axesB = true)
    (hA : ∀ i ∈ axesA, i < a.ndim) (hB : ∀ i ∈ axesB, i < b.ndim) :
    axesA.length = axesB.length ∧ (permuted b.indices axesB).map Index.dual
      = (permuted a.indices axesA).map (fun ix => !ix.dual) :=
  have h' := oppositeDualsB_iff.mp h
  ⟨h'.1, opposite_duals_permuted a.indices b.indices axesA axesB h'.1 hA hB h'.2⟩

/-- `(L + K) + (−K + R) = L + R`: the group computation behind charge conservation of a
    contraction -/
theorem combine_contract (s : Sym) (L K Rr : List Charge) :
    s.combine [s.combine [s.combine L, s.combine K],
               s.combine [s.sign (s.combine K) true, s.combine Rr]]
      = s.combine [s.combine L, s.combine Rr] := by
  -- flatten to `[L, K, -K, R]`, regroup as `[L, [[K, -K], [R]]]`, cancel
  rw [← Sym.combine_append, List.cons_append, List.cons_append, List.nil_append, combine_cons,
    show [s.combine K, s.sign (s.combine K) true, s.combine Rr]
      = [s.combine K, s.sign (s.combine K) true] ++ [s.combine Rr] from rfl,
    Sym.combine_append, combine_sign_cancel', combine_combine, Sym.combine_zero_combine]

theorem secOk_contract {sym : Sym} {ia ib : List Index} {cha chb : Charge} {sa sb : Sector}
    {axesA axesB : List Nat}
    (ha : SecOk sym ia cha sa) (hb : SecOk sym ib chb sb)
    (hnA : axesA.Nodup) (hnB : axesB.Nodup)
    (hA : ∀ i ∈ axesA, i < ia.length) (hB : ∀ i ∈ axesB, i < ib.length)
    (hk : permuted sb axesB = permuted sa axesA)
    (hd : (permuted ib axesB).map Index.dual = (permuted ia axesA).map (fun ix => !ix.dual)) :
    SecOk sym (without ia axesA ++ without ib axesB) (sym.combine [cha, chb])
      (permuted sa (without (List.range ia.length) axesA)
        ++ permuted sb (without (List.range ib.length) axesB)) := by
  obtain ⟨Pa, rfl, rfl, hca⟩ := secOk_iff.mp ha
  obtain ⟨Pb, rfl, rfl, hcb⟩ := secOk_iff.mp hb
  simp only [List.length_map] at hA hB ⊢
  set left := without (List.range Pa.length) axesA with hleft
  set right := without (List.range Pb.length) axesB with hright
  refine secOk_iff.mpr ⟨permuted Pa left ++ permuted Pb right, ?_, ?_, ?_⟩
  · rw [List.map_append, ← permuted_map, ← permuted_map,
      without_eq_permuted' (List.map (fun x : Index × Charge => x.1) Pa),
      without_eq_permuted' (List.map (fun x : Index × Charge => x.1) Pb)]
    simp only [List.length_map, hleft, hright]
  · rw [List.map_append, ← permuted_map, ← permuted_map]
  · have hpa : (permuted Pa left ++ permuted Pa axesA).Perm Pa := by
      rw [← permuted_append]
      exact permuted_perm (without_append_perm hnA hA)
    have hpb : (permuted Pb right ++ permuted Pb axesB).Perm Pb := by
      rw [← permuted_append]
      exact permuted_perm (without_append_perm hnB hB)
    have e1 : cha = sym.combine [sym.combine (sgn sym (permuted Pa left)),
                                 sym.combine (sgn sym (permuted Pa axesA))] := by
      rw [← hca, ← Sym.combine_append]
      unfold sgn
      rw [← List.map_append]
      exact (Sym.combine_perm sym (List.Perm.map _ hpa)).symm
    have e2 : chb = sym.combine [sym.combine (sgn sym (permuted Pb axesB)),
                                 sym.combine (sgn sym (permuted Pb right))] := by
      rw [← hcb, ← Sym.combine_append]
      unfold sgn
      rw [← List.map_append]
      exact (Sym.combine_perm sym (List.Perm.map _ (List.perm_append_comm.trans hpb))).symm
    have e3 : sgn sym (permuted Pb axesB)
        = (permuted Pa axesA).map (fun p => sym.sign p.2 (!p.1.dual)) := by
      have hk' : (permuted Pb axesB).map (·.2) = (permuted Pa axesA).map (·.2) := by
        rw [← permuted_map, ← permuted_map]; exact hk
      have hd' : ((permuted Pb axesB).map (·.1)).map Index.dual
          = ((permuted Pa axesA).map (·.1)).map (fun ix => !ix.dual) := by
        rw [← permuted_map (fun x : Index × Charge => x.1) Pb,
          ← permuted_map (fun x : Index × Charge => x.1) Pa]; exact hd
      unfold sgn
      have f1 : (permuted Pb axesB).map (fun p => sym.sign p.2 p.1.dual)
          = List.zipWith (fun c d => sym.sign c d) ((permuted Pb axesB).map (·.2))
              (((permuted Pb axesB).map (·.1)).map Index.dual) := by
        rw [List.map_map, zipWith_map_map]; rfl
      have f2 : (permuted Pa axesA).map (fun p => sym.sign p.2 (!p.1.dual))
          = List.zipWith (fun c d => sym.sign c d) ((permuted Pa axesA).map (·.2))
              (((permuted Pa axesA).map (·.1)).map (fun ix => !ix.dual)) := by
        rw [List.map_map, zipWith_map_map]; rfl
      rw [f1, f2, hk', hd']
    rw [e1, e2, e3, combine_flip, combine_contract]
    unfold sgn
    rw [List.map_append, Sym.combine_append]

/-- the accumulation loop of `tensordotBlockwise` (copy of the model text) -/
def tdBlocks [Zero R] [Add R] [Mul R] (pairs : List (Sector × Blk R × Blk R))
    (axesA axesB : List Nat) : List (Sector × Blk R) :=
  pairs.foldl (fun acc (s, ba, bb) =>
    let t := ba.tensordotK bb axesA axesB
    match alookup acc s with
    | none => acc ++ [(s, t)]
    | some cur => ainsert acc s (Blk.zipWith (· + ·) cur t)) []

theorem tensordotBlockwise_eq [Zero R] [Add R] [Mul R] (a b : Arr R)
    (leftAxes axesA axesB rightAxes : List Nat) :
    tensordotBlockwise a b leftAxes axesA axesB rightAxes =
      { a with indices := dropUnused (without a.indices axesA ++ without b.indices axesB)
                 ((tdBlocks (TdotP.tdPairs a b leftAxes axesA axesB rightAxes) axesA axesB).map (·.1)),
               charge := a.sym.combine [a.charge, b.charge],
               blocks := tdBlocks (TdotP.tdPairs a b leftAxes axesA axesB rightAxes) axesA axesB } := rfl

theorem tdBlocks_inv [Zero R] [Add R] [Mul R] (sym : Sym) (idx : List Index) (ch : Charge)
    (pairs : List (Sector × Blk R × Blk R)) (axesA axesB : List Nat)
    (hp : ∀ x ∈ pairs, BlockOk sym idx ch (x.1, x.2.1.tensordotK x.2.2 axesA axesB)) :
    ((tdBlocks pairs axesA axesB).map (·.1)).Nodup
    ∧ ∀ sb ∈ tdBlocks pairs axesA axesB, BlockOk sym idx ch sb := by
  unfold tdBlocks
  apply foldl_inv (fun acc : List (Sector × Blk R) =>
    (acc.map (·.1)).Nodup ∧ ∀ sb ∈ acc, BlockOk sym idx ch sb)
  · exact ⟨by simp, by simp⟩
  · rintro acc ⟨s, ba, bb⟩ hx ⟨hn, hall⟩
    have hok := hp _ hx
    simp only at hok ⊢
    split
    · rename_i hnone
      exact (blockOk_put (· + ·) hn hall hok).1 hnone
    · rename_i cur hsome
      exact (blockOk_put _ hn hall hok).2 cur hsome

/-- the direction hypothesis as an equation of lists: the form `TdotASpec` (ValidTdotF) asks for,
    the fermionic transposes having put the contracted legs at other positions -/
theorem tensordotBlockwise_core_of_duals [Zero R] [Add R] [Mul R] (a b : Arr R) (axesA axesB : List Nat)
    (ha : Core a) (hb : Core b) (hsym : a.sym = b.sym)
    (hd : (permuted b.indices axesB).map Index.dual
      = (permuted a.indices axesA).map (fun ix => !ix.dual))
    (hnA : axesA.Nodup) (hnB : axesB.Nodup)
    (hA : ∀ i ∈ axesA, i < a.ndim) (hB : ∀ i ∈ axesB, i < b.ndim) :
    Core (tensordotBlockwise a b (without (List.range a.ndim) axesA) axesA axesB
      (without (List.range b.ndim) axesB)) := by
  rw [tensordotBlockwise_eq]
  set left := without (List.range a.ndim) axesA with hleft
  set right := without (List.range b.ndim) axesB with hright
  set idx0 := without a.indices axesA ++ without b.indices axesB with hidx0
  have hpairs : ∀ x ∈ TdotP.tdPairs a b left axesA axesB right,
      BlockOk a.sym idx0 (a.sym.combine [a.charge, b.charge])
        (x.1, x.2.1.tensordotK x.2.2 axesA axesB) := by
    rintro ⟨s, ba, bb⟩ hx
    obtain ⟨sa, sb, hsa, hsb, hk, hs⟩ := TdotP.mem_tdPairs.mp hx
    simp only at hsa hsb hs ⊢
    obtain ⟨a1, a2, _⟩ := ha.blk _ hsa
    obtain ⟨b1, b2, _⟩ := hb.blk _ hsb
    rw [← hsym] at b1
    subst hs
    refine ⟨secOk_contract a1 b1 hnA hnB hA hB hk hd, ?_, ofFn_wf _ _⟩
    have hla : ba.shape.length = a.ndim := (blockShape?_length a2).2
    have hlb : bb.shape.length = b.ndim := (blockShape?_length b2).2
    show Arr.blockShape? idx0 _ = some (permuted ba.shape
        ((List.range ba.shape.length).filter (fun ax => !axesA.contains ax))
      ++ permuted bb.shape ((List.range bb.shape.length).filter (fun ax => !axesB.contains ax)))
    rw [hla, hlb, ← without_range, ← without_range, hidx0, without_eq_permuted' a.indices,
      without_eq_permuted' b.indices]
    exact blockShape?_append (blockShape?_natT (natT_permuted _) a2)
      (blockShape?_natT (natT_permuted _) b2)
  obtain ⟨hn, hall⟩ := tdBlocks_inv a.sym idx0 (a.sym.combine [a.charge, b.charge])
    (TdotP.tdPairs a b left axesA axesB right) axesA axesB hpairs
  refine ⟨?_, Sym.combine_valid _ _, hn, ?_⟩
  · apply dropUnused_wf
    intro i hi
    rcases List.mem_append.mp hi with h | h
    · exact ha.idx i (mem_without h)
    · rw [hsym]; exact hb.idx i (mem_without h)
  · intro sb hsb
    obtain ⟨h1, h2, h3⟩ := hall sb hsb
    refine ⟨secOk_dropUnused _ h1, ?_, h3⟩
    show Arr.blockShape? (dropUnused idx0 _) sb.1 = some sb.2.shape
    rw [dropUnused_blockShape _ _ _ (List.mem_map.mpr ⟨sb, hsb, rfl⟩)]
    exact h2

theorem tensordotBlockwise_core [Zero R] [Add R] [Mul R] (a b : Arr R) (axesA axesB : List Nat)
    (ha : Core a) (hb : Core b) (hsym : a.sym = b.sym)
    (hc : oppositeDualsB a b axesA axesB = true)
    (hnA : axesA.Nodup) (hnB : axesB.Nodup)
    (hA : ∀ i ∈ axesA, i < a.ndim) (hB : ∀ i ∈ axesB, i < b.ndim) :
    Core (tensordotBlockwise a b (without (List.range a.ndim) axesA) axesA axesB
      (without (List.range b.ndim) axesB)) := by
  exact tensordotBlockwise_core_of_duals a b axesA axesB ha hb hsym
    (oppositeDualsB_permuted hc hA hB).2 hnA hnB hA hB

theorem tensordotBlockwise_valid [Zero R] [Add R] [Mul R] (a b : Arr R) (axesA axesB : List Nat)
    (ha : Valid a) (hb : Valid b) (hsym : a.sym = b.sym) (hfa : a.fermi = false)
    (hc : oppositeDualsB a b axesA axesB = true)
    (hnA : axesA.Nodup) (hnB : axesB.Nodup)
    (hA : ∀ i ∈ axesA, i < a.ndim) (hB : ∀ i ∈ axesB, i < b.ndim) :
    Valid (tensordotBlockwise a b (without (List.range a.ndim) axesA) axesA axesB
      (without (List.range b.ndim) axesB)) :=
  ha.of_abelian hfa (tensordotBlockwise_core a b axesA axesB ha.core hb.core hsym hc hnA hnB hA hB)
    rfl rfl rfl

end ValidP
end SymmModel
