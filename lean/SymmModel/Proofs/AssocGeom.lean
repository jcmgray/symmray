/-
  SymmModel.Proofs.AssocGeom — towards S7 of property C04: the list geometry of a chain `A–B–C`.
  Where the legs of the middle operand end up inside the two intermediate results, how nested
  `mergeIdx` addresses compose, and the Koszul identity for the middle operand in the form the
  model produces it.
-/
import SymmModel.Proofs.Routes4

namespace SymmModel
namespace AssocP
open TdotP GradedP RoutesP KoszulP
set_option linter.unusedSectionVars false

section lists
variable {α : Type}

theorem freeAxes_shift (l m : Nat) (p : List Nat) :
    freeAxes (l + m) (p.map (l + ·)) = List.range l ++ (freeAxes m p).map (l + ·) := by
  unfold freeAxes
  rw [List.range_add, List.filter_append, List.filter_map]
  congr 1
  · rw [List.filter_eq_self]
    intro x hx
    have := List.mem_range.mp hx
    simp only [Bool.not_eq_eq_eq_not, Bool.not_true, List.contains_eq_mem, decide_eq_false_iff_not,
      List.mem_map, not_exists, not_and]
    intro y _; omega
  · congr 1
    apply List.filter_congr
    intro x _
    simp only [Function.comp, List.contains_eq_mem, List.mem_map, Nat.add_left_cancel_iff,
      exists_eq_right]

theorem freeAxes_low (l m : Nat) (p : List Nat) (hp : ∀ i ∈ p, i < l) :
    freeAxes (l + m) p = freeAxes l p ++ (List.range m).map (l + ·) := by
  unfold freeAxes
  rw [List.range_add, List.filter_append]
  congr 1
  rw [List.filter_eq_self]
  intro x hx
  obtain ⟨y, _, rfl⟩ := List.mem_map.mp hx
  simp only [Bool.not_eq_eq_eq_not, Bool.not_true, List.contains_eq_mem, decide_eq_false_iff_not]
  intro h; have := hp _ h; omega

theorem permuted_append_id_shift (u v : List α) (q : List Nat) :
    permuted (u ++ v) (List.range u.length ++ q.map (u.length + ·)) = u ++ permuted v q := by
  rw [permuted_append, permuted_append_map_add,
    permuted_append_of_lt u v _ (by intro i hi; exact List.mem_range.mp hi), permuted_range]

theorem permuted_append_low_id (u v : List α) (q : List Nat) (hq : ∀ i ∈ q, i < u.length) :
    permuted (u ++ v) (q ++ (List.range v.length).map (u.length + ·)) = permuted u q ++ v := by
  rw [permuted_append, permuted_append_of_lt u v q hq, permuted_append_map_add, permuted_range]

theorem permuted_positions (z : List α) (F X : List Nat) (hF : ∀ i ∈ F, i < z.length)
    (hX : ∀ y ∈ X, y ∈ F) :
    permuted (permuted z F) (positions F X) = permuted z X := by
  rw [KoszulP.permuted_permuted z F _ hF]
  unfold compose
  rw [(positions_spec F X hX).1]

theorem permuted_free_positions (F X : List Nat) (hF : F.Nodup) :
    permuted F (freeAxes F.length (positions F X)) = F.filter (fun y => !X.contains y) := by
  rw [← without_eq_permuted_freeAxes]
  unfold without
  have e : F.zipIdx.filter (fun p => !(positions F X).contains p.2)
      = F.zipIdx.filter (fun p => !X.contains p.1) := by
    apply List.filter_congr
    rintro ⟨y, i⟩ hmem
    have hi : F[i]? = some y := List.mem_zipIdx_iff_getElem?.mp hmem
    have hil : i < F.length := by
      by_contra hc; rw [List.getElem?_eq_none (by omega)] at hi; cases hi
    have hy : F[i] = y := by rw [List.getElem?_eq_getElem hil] at hi; exact Option.some.inj hi
    simp only
    congr 1
    rw [Bool.eq_iff_iff]
    simp only [List.contains_eq_mem, decide_eq_true_eq]
    constructor
    · intro h
      unfold positions at h
      obtain ⟨x, hx, hxi⟩ := List.mem_filterMap.mp h
      have := indexOf?_eq_some hxi
      rw [hi] at this
      rw [Option.some.inj this]; exact hx
    · intro h
      unfold positions
      refine List.mem_filterMap.mpr ⟨y, h, ?_⟩
      rw [← hy]; exact indexOf?_getElem hF hil
  rw [e]
  have : ∀ (l : List (Nat × Nat)) (p : Nat → Bool),
      (l.filter (fun q => p q.1)).map (·.1) = (l.map (·.1)).filter p := by
    intro l p
    rw [List.filter_map]; rfl
  rw [this F.zipIdx (fun y => !X.contains y), List.zipIdx_map_fst]

theorem permuted_free_positions' (z : List α) (F X : List Nat) (hFz : ∀ i ∈ F, i < z.length)
    (hF : F.Nodup) :
    permuted (permuted z F) (freeAxes F.length (positions F X))
      = permuted z (F.filter (fun y => !X.contains y)) := by
  rw [KoszulP.permuted_permuted z F _ hFz]
  unfold compose
  rw [permuted_free_positions F X hF]

theorem filter_free (n : Nat) (x1 x2 : List Nat) :
    (freeAxes n x1).filter (fun y => !x2.contains y) = freeAxes n (x1 ++ x2) := by
  unfold freeAxes
  rw [List.filter_filter]
  apply List.filter_congr
  intro x _
  simp only [List.contains_append, Bool.not_or, Bool.and_comm]

theorem filter_free' (n : Nat) (x1 x2 : List Nat) :
    (freeAxes n x2).filter (fun y => !x1.contains y) = freeAxes n (x1 ++ x2) := by
  unfold freeAxes
  rw [List.filter_filter]
  apply List.filter_congr
  intro x _
  simp only [List.contains_append, Bool.not_or]

theorem eq_mergeIdx_of_parts (d : α) {n : Nat} {axes : List Nat} {x k f : List α} (hx : x.length = n)
    (hra : ∀ y ∈ axes, y < n) (h1 : permuted x axes = k) (h2 : permuted x (freeAxes n axes) = f) :
    x = mergeIdx d n axes (freeAxes n axes) k f := by
  have := mergeIdx_permuted d hx hra mem_freeAxes_lt (by
    intro y hy
    by_cases h : y ∈ axes
    · exact Or.inl h
    · exact Or.inr (mem_freeAxes.mpr ⟨hy, h⟩))
  rw [h1, h2] at this
  exact this.symm

theorem mergeIdx_shift (d : α) (l m : Nat) (p : List Nat) (k u f : List α)
    (hp : p.Nodup) (hlt : ∀ i ∈ p, i < m) (hk : k.length = p.length) (hu : u.length = l)
    (hf : f.length = (freeAxes m p).length) :
    mergeIdx d (l + m) (p.map (l + ·)) (freeAxes (l + m) (p.map (l + ·))) k (u ++ f)
      = u ++ mergeIdx d m p (freeAxes m p) k f := by
  symm
  apply eq_mergeIdx_of_parts
  · rw [List.length_append, hu, mergeIdx_length]
  · intro y hy
    obtain ⟨z, hz, rfl⟩ := List.mem_map.mp hy
    have := hlt z hz; omega
  · subst hu
    rw [permuted_append_map_add]
    exact permuted_mergeIdx_axes d hp hlt hk
  · subst hu
    rw [freeAxes_shift, permuted_append_id_shift]
    congr 1
    exact permuted_mergeIdx_free d (freeAxes_nodup _ _) mem_freeAxes_lt
      (fun x hx => (mem_freeAxes.mp hx).2) hf

end lists

theorem freeM_comm (nB : Nat) (xb1 xb2 : List Nat) :
    freeAxes nB (xb2 ++ xb1) = freeAxes nB (xb1 ++ xb2) :=
  freeAxes_congr nB (by intro x; simp only [List.mem_append]; exact Or.comm)

/-! ### the middle operand: axes `ax1` contracted first, `ax2` second -/

section middle
variable {α : Type}

structure Mid (n : Nat) (ax1 ax2 : List Nat) : Prop where
  n1 : ax1.Nodup
  n2 : ax2.Nodup
  disj : ∀ x ∈ ax1, x ∉ ax2
  lt1 : ∀ i ∈ ax1, i < n
  lt2 : ∀ i ∈ ax2, i < n

theorem Mid.of {n : Nat} {ax1 ax2 : List Nat} (hn : (ax1 ++ ax2).Nodup) (hlt : ∀ i ∈ ax1 ++ ax2, i < n) :
    Mid n ax1 ax2 :=
  ⟨(List.nodup_append.mp hn).1, (List.nodup_append.mp hn).2.1,
    fun x hx hx' => (List.nodup_append.mp hn).2.2 x hx x hx' rfl,
    fun i hi => hlt i (List.mem_append_left _ hi), fun i hi => hlt i (List.mem_append_right _ hi)⟩

theorem Mid.symm {n : Nat} {ax1 ax2 : List Nat} (h : Mid n ax1 ax2) : Mid n ax2 ax1 :=
  ⟨h.n2, h.n1, fun x hx hx' => h.disj x hx' hx, h.lt2, h.lt1⟩

variable {n : Nat} {ax1 ax2 : List Nat} (h : Mid n ax1 ax2)
include h

theorem Mid.sub : ∀ y ∈ ax2, y ∈ freeAxes n ax1 := fun y hy =>
  mem_freeAxes.mpr ⟨h.lt2 y hy, fun hy' => h.disj y hy' hy⟩

theorem Mid.flt : ∀ i ∈ freeAxes n ax1, i < n := mem_freeAxes_lt

theorem Mid.pos_nodup : (positions (freeAxes n ax1) ax2).Nodup :=
  positions_nodup _ _ h.sub h.n2

theorem Mid.pos_lt : ∀ i ∈ positions (freeAxes n ax1) ax2, i < (freeAxes n ax1).length :=
  (positions_spec _ _ h.sub).2.2

theorem Mid.pos_len : (positions (freeAxes n ax1) ax2).length = ax2.length :=
  (positions_spec _ _ h.sub).2.1

theorem Mid.pos_spec : permuted (freeAxes n ax1) (positions (freeAxes n ax1) ax2) = ax2 :=
  (positions_spec _ _ h.sub).1

theorem Mid.free_spec :
    permuted (freeAxes n ax1) (freeAxes (freeAxes n ax1).length (positions (freeAxes n ax1) ax2))
      = freeAxes n (ax1 ++ ax2) := by
  rw [permuted_free_positions _ _ (freeAxes_nodup _ _), filter_free]

theorem Mid.read_ax (z : List α) (hz : z.length = n) :
    permuted (permuted z (freeAxes n ax1)) (positions (freeAxes n ax1) ax2) = permuted z ax2 :=
  permuted_positions z _ _ (by rw [hz]; exact h.flt) h.sub

theorem Mid.read_free (z : List α) (hz : z.length = n) :
    permuted (permuted z (freeAxes n ax1))
        (freeAxes (freeAxes n ax1).length (positions (freeAxes n ax1) ax2))
      = permuted z (freeAxes n (ax1 ++ ax2)) := by
  rw [permuted_free_positions' z _ _ (by rw [hz]; exact h.flt) (freeAxes_nodup _ _), filter_free]

theorem Mid.free_len :
    (freeAxes (freeAxes n ax1).length (positions (freeAxes n ax1) ax2)).length
      = (freeAxes n (ax1 ++ ax2)).length := by
  have := congrArg List.length h.free_spec
  rw [permuted_length _ _ mem_freeAxes_lt] at this
  exact this

/-- the parts of a nested merge: first `ax1` with `k1`, then inside the remaining axes `ax2`
    with `k2` and the rest with `o` -/
theorem Mid.nest_parts (d : α) (k1 k2 o : List α) (hk1 : k1.length = ax1.length)
    (hk2 : k2.length = ax2.length) (ho : o.length = (freeAxes n (ax1 ++ ax2)).length) :
    let x := mergeIdx d n ax1 (freeAxes n ax1) k1
      (mergeIdx d (freeAxes n ax1).length (positions (freeAxes n ax1) ax2)
        (freeAxes (freeAxes n ax1).length (positions (freeAxes n ax1) ax2)) k2 o)
    x.length = n ∧ permuted x ax1 = k1 ∧ permuted x ax2 = k2
      ∧ permuted x (freeAxes n (ax1 ++ ax2)) = o := by
  intro x
  have hxl : x.length = n := mergeIdx_length _ _ _ _ _ _
  have hF : permuted x (freeAxes n ax1)
      = mergeIdx d (freeAxes n ax1).length (positions (freeAxes n ax1) ax2)
        (freeAxes (freeAxes n ax1).length (positions (freeAxes n ax1) ax2)) k2 o :=
    permuted_mergeIdx_free d (freeAxes_nodup _ _) h.flt (fun y hy => (mem_freeAxes.mp hy).2)
      (mergeIdx_length _ _ _ _ _ _)
  refine ⟨hxl, permuted_mergeIdx_axes d h.n1 h.lt1 hk1, ?_, ?_⟩
  · rw [← h.read_ax x hxl, hF]
    exact permuted_mergeIdx_axes d h.pos_nodup h.pos_lt (by rw [hk2, h.pos_len])
  · rw [← h.read_free x hxl, hF]
    exact permuted_mergeIdx_free d (freeAxes_nodup _ _) mem_freeAxes_lt
      (fun y hy => (mem_freeAxes.mp hy).2) (by rw [ho, h.free_len])

omit h in
theorem eq_merge3 (h : Mid n ax1 ax2) (d : α) {x k1 k2 o : List α} (hx : x.length = n)
    (h1 : permuted x ax1 = k1) (h2 : permuted x ax2 = k2)
    (h3 : permuted x (freeAxes n (ax1 ++ ax2)) = o) :
    x = mergeIdx d n (ax1 ++ ax2) (freeAxes n (ax1 ++ ax2)) (k1 ++ k2) o := by
  apply eq_mergeIdx_of_parts d hx
  · intro y hy
    rcases List.mem_append.mp hy with hy | hy
    · exact h.lt1 y hy
    · exact h.lt2 y hy
  · rw [permuted_append, h1, h2]
  · exact h3

/-- route `(A·B)·C`: the address of `B` -/
theorem Mid.nest_left (d : α) (k1 k2 o : List α) (hk1 : k1.length = ax1.length)
    (hk2 : k2.length = ax2.length) (ho : o.length = (freeAxes n (ax1 ++ ax2)).length) :
    mergeIdx d n ax1 (freeAxes n ax1) k1
      (mergeIdx d (freeAxes n ax1).length (positions (freeAxes n ax1) ax2)
        (freeAxes (freeAxes n ax1).length (positions (freeAxes n ax1) ax2)) k2 o)
      = mergeIdx d n (ax1 ++ ax2) (freeAxes n (ax1 ++ ax2)) (k1 ++ k2) o := by
  obtain ⟨p0, p1, p2, p3⟩ := h.nest_parts d k1 k2 o hk1 hk2 ho
  exact eq_merge3 h d p0 p1 p2 p3

/-- route `A·(B·C)`: the address of `B` -/
theorem Mid.nest_right (d : α) (k1 k2 o : List α) (hk1 : k1.length = ax1.length)
    (hk2 : k2.length = ax2.length) (ho : o.length = (freeAxes n (ax1 ++ ax2)).length) :
    mergeIdx d n ax2 (freeAxes n ax2) k2
      (mergeIdx d (freeAxes n ax2).length (positions (freeAxes n ax2) ax1)
        (freeAxes (freeAxes n ax2).length (positions (freeAxes n ax2) ax1)) k1 o)
      = mergeIdx d n (ax1 ++ ax2) (freeAxes n (ax1 ++ ax2)) (k1 ++ k2) o := by
  have e := freeM_comm n ax1 ax2
  obtain ⟨p0, p1, p2, p3⟩ := h.symm.nest_parts d k2 k1 o hk2 hk1 (by rw [ho, e])
  rw [e] at p3
  exact eq_merge3 h d p0 p2 p1 p3

/-- Koszul identity for the middle operand, route `(A·B)·C` -/
theorem Mid.koszul_left (par : List Bool) (hpar : par.length = n) :
    koszul par (some (ax1 ++ freeAxes n ax1))
        * koszul (permuted par (freeAxes n ax1))
            (some (freeAxes (freeAxes n ax1).length (positions (freeAxes n ax1) ax2)
              ++ positions (freeAxes n ax1) ax2))
      = koszul par (some (ax1 ++ freeAxes n (ax1 ++ ax2) ++ ax2)) := by
  have hq := perm_left h.pos_nodup h.pos_lt
  have := koszul_relist_snd par n hpar ax1 _ _ (perm_right h.n1 h.lt1) hq
  rw [permuted_append, h.free_spec, h.pos_spec] at this
  rw [← this, List.append_assoc]

/-- Koszul identity for the middle operand, route `A·(B·C)` -/
theorem Mid.koszul_right (par : List Bool) (hpar : par.length = n) :
    koszul par (some (freeAxes n ax2 ++ ax2))
        * koszul (permuted par (freeAxes n ax2))
            (some (positions (freeAxes n ax2) ax1
              ++ freeAxes (freeAxes n ax2).length (positions (freeAxes n ax2) ax1)))
      = koszul par (some (ax1 ++ freeAxes n (ax1 ++ ax2) ++ ax2)) := by
  have e := freeM_comm n ax1 ax2
  have hq := perm_right h.symm.pos_nodup h.symm.pos_lt
  have := koszul_relist_fst par n hpar _ ax2 _ (perm_left h.n2 h.lt2) hq
  rw [permuted_append, h.symm.free_spec, h.symm.pos_spec, e] at this
  rw [← this]

end middle

end AssocP
end SymmModel
