/-
  SymmModel.Proofs.TwoStepM1 — "several pairs at once or one after another" (C04/C02), ABELIAN form: an
  abelian array given the fermionic flag (`fz`: same indices, sectors and blocks; one dummy label when its
  charge is odd), so that the lemmas stated under the fermionic guard `AdmW` apply to it; the guard itself
  does not see the difference (`fz_guard`).
  Namespace `SymmModel.TwoStepP`.
-/
import SymmModel.Proofs.TwoStepSum

namespace SymmModel
namespace TwoStepP
open TdotP GradedP RoutesP AssocP KoszulP Assoc3P

variable {R : Type}

/-- the abelian array `a` given the fermionic flag (and one dummy label when its charge is odd) -/
def fz (a : Arr R) : Arr R :=
  { a with fermi := true, oddpos := if a.parity then [((0 : Int), false)] else [] }

theorem fz_valid {a : Arr R} (h : a.validB = true) (hf : a.fermi = false) : (fz a).validB = true := by
  refine Arr.validB_of (a := fz a) (Arr.validB_indices (a := a) h) (Arr.validB_charge (a := a) h)
    (Arr.validB_sectors (a := a) h) (fun p hp => Arr.validB_block (a := a) h hp) ?_
  -- no pending signs; one dummy label exactly when the charge is odd
  have e : (fz a).phases = [] := (Arr.validB_abelian h hf).1
  show (if true = true then _ else _)
  rw [if_pos rfl, e]
  refine ⟨rfl, by simp, ?_⟩
  show (((if a.parity then [((0 : Int), false)] else []).length % 2 == 1)) = a.parity
  cases a.parity <;> rfl

theorem fz_guard (a b : Arr R) (xa xb : List Nat) :
    tdotAdmissibleCommonB (fz a) (fz b) xa xb = tdotAdmissibleCommonB a b xa xb := rfl

end TwoStepP
end SymmModel
