/-
  SymmModel.Proofs.Assoc3Seg — towards chains of `n` tensors: a chain SEGMENT is an array together
  with the positions of its two open bonds; composition of segments is associative up to `Eqv`,
  with EQUAL open-bond positions.  (The induction over bracketing trees: Proofs/Assoc4Tree.lean,
  `Assoc4P.tree_eqv_leftnested`.)
-/
import SymmModel.Proofs.Assoc3Chain

namespace SymmModel
namespace Assoc3P
open TdotP GradedP RoutesP AssocP

variable {R : Type}

/-- a chain segment: the contracted array and the positions of the legs of its left and right
    open bonds -/
structure Seg (R : Type) where
  arr : Arr R
  l : List Nat
  r : List Nat

/-- composing two adjacent segments: contract the right bond of the first with the left bond of
    the second; the open bonds of the result -/
def Seg.comp [Zero R] [Add R] [Mul R] [Neg R] (S1 S2 : Seg R) : Except Err (Seg R) :=
  (tdF S1.arr S2.arr S1.r S2.l).map (fun z =>
    ⟨z, positions (freeAxes S1.arr.ndim S1.r) S1.l,
      AssocP.axesAB S1.arr.ndim S2.arr.ndim S1.r S2.l S2.r⟩)

section
variable [AddCommMonoid R] [Mul R] [Neg R] [SignRing R] [AssocLaws R]

/-- **composition of segments is associative** up to `Eqv` of the arrays, with equal positions of
    the open bonds -/
theorem seg_assoc (S1 S2 S3 : Seg R)
    (W12 : AdmW S1.arr S2.arr S1.r S2.l) (W23 : AdmW S2.arr S3.arr S2.r S3.l)
    (hn1 : (S1.l ++ S1.r).Nodup) (hl1 : ∀ i ∈ S1.l, i < S1.arr.ndim)
    (hn2 : (S2.l ++ S2.r).Nodup)
    (hn3 : (S3.l ++ S3.r).Nodup) (hr3 : ∀ i ∈ S3.r, i < S3.arr.ndim)
    (hd : OddposP.LabelsDistinct (S1.arr.oddpos ++ S2.arr.oddpos ++ S3.arr.oddpos)) :
    ∃ S12 S23 L Rr : Seg R, S1.comp S2 = .ok S12 ∧ S12.comp S3 = .ok L
      ∧ S2.comp S3 = .ok S23 ∧ S1.comp S23 = .ok Rr
      ∧ Eqv Rr.arr L.arr ∧ Rr.l = L.l ∧ Rr.r = L.r := by
  have mid2 : Mid S2.arr.ndim S2.l S2.r := Mid.of hn2 (by
    intro i hi
    rcases List.mem_append.mp hi with h | h
    · exact W12.ltB i h
    · exact W23.ltA i h)
  have mid1 : Mid S1.arr.ndim S1.r S1.l := (Mid.of hn1 (by
    intro i hi
    rcases List.mem_append.mp hi with h | h
    · exact hl1 i h
    · exact W12.ltA i h)).symm
  have mid3 : Mid S3.arr.ndim S3.l S3.r := Mid.of hn3 (by
    intro i hi
    rcases List.mem_append.mp hi with h | h
    · exact W23.ltB i h
    · exact hr3 i h)
  obtain ⟨AB, BC, c1, c2, d1, d2, d3, d4, he⟩ := chain_eqv S1.arr S2.arr S3.arr S1.r S2.l S2.r S3.l
    W12 W23 hn2 (Assoc2P.labelRoutes_of_distinct _ _ _ _ _ hd)
  have h_ab : OddposP.LabelsDistinct (S1.arr.oddpos ++ S2.arr.oddpos) :=
    dist_of hd _ (List.Perm.refl _) (List.sublist_append_left _ _)
  have h_bc : OddposP.LabelsDistinct (S2.arr.oddpos ++ S3.arr.oddpos) :=
    dist_of hd _ (List.Perm.refl _) (by rw [List.append_assoc]; exact List.sublist_append_right _ _)
  obtain ⟨AB', _, eAB, IAB, _⟩ := call_pack S1.arr S2.arr S1.r S2.l W12 h_ab
  obtain ⟨BC', _, eBC, IBC, _⟩ := call_pack S2.arr S3.arr S2.r S3.l W23 h_bc
  rw [eAB] at d1
  obtain rfl := Except.ok.inj d1
  rw [eBC] at d3
  obtain rfl := Except.ok.inj d3
  refine ⟨⟨AB', positions (freeAxes S1.arr.ndim S1.r) S1.l,
      AssocP.axesAB S1.arr.ndim S2.arr.ndim S1.r S2.l S2.r⟩,
    ⟨BC', positions (freeAxes S2.arr.ndim S2.r) S2.l,
      AssocP.axesAB S2.arr.ndim S3.arr.ndim S2.r S3.l S3.r⟩,
    ⟨c1, positions (freeAxes AB'.ndim (AssocP.axesAB S1.arr.ndim S2.arr.ndim S1.r S2.l S2.r))
        (positions (freeAxes S1.arr.ndim S1.r) S1.l),
      AssocP.axesAB AB'.ndim S3.arr.ndim (AssocP.axesAB S1.arr.ndim S2.arr.ndim S1.r S2.l S2.r)
        S3.l S3.r⟩,
    ⟨c2, positions (freeAxes S1.arr.ndim S1.r) S1.l,
      AssocP.axesAB S1.arr.ndim BC'.ndim S1.r (positions (freeAxes S2.arr.ndim S2.r) S2.l)
        (AssocP.axesAB S2.arr.ndim S3.arr.ndim S2.r S3.l S3.r)⟩, ?_, ?_, ?_, ?_, he, ?_, ?_⟩
  · unfold Seg.comp tdF; rw [eAB]; rfl
  · unfold Seg.comp tdF; simp only []; rw [d2]; rfl
  · unfold Seg.comp tdF; rw [eBC]; rfl
  · unfold Seg.comp tdF; simp only []
    have : AssocP.axesBC S2.arr.ndim S2.l S2.r = positions (freeAxes S2.arr.ndim S2.r) S2.l := rfl
    rw [← this, d4]; rfl
  ·
    simp only []
    rw [IAB.ndim]
    unfold AssocP.axesAB
    rw [freeAxes_shift, positions_range_append _ _ _ mid1.pos_lt]
  ·
    simp only []
    rw [IAB.ndim, IBC.ndim]
    unfold AssocP.axesAB
    have hq : ∀ i ∈ positions (freeAxes S3.arr.ndim S3.l) S3.r, i < (freeAxes S3.arr.ndim S3.l).length :=
      mid3.pos_lt
    have e0 : positions (List.range (freeAxes S3.arr.ndim S3.l).length)
        (positions (freeAxes S3.arr.ndim S3.l) S3.r) = positions (freeAxes S3.arr.ndim S3.l) S3.r := by
      have := positions_range_append (freeAxes S3.arr.ndim S3.l).length []
        (positions (freeAxes S3.arr.ndim S3.l) S3.r) hq
      rwa [List.append_nil] at this
    rw [freeAxes_shift, List.length_append, List.length_range, List.length_map, mid2.free_len,
      freeAxes_low _ _ _ mid2.symm.pos_lt,
      positions_append_shift _ _ _ _ mem_freeAxes_lt, e0, List.map_map,
      mid2.symm.free_len, freeM_comm]
    apply List.map_congr_left
    intro x _
    simp only [Function.comp]
    omega

end

end Assoc3P
end SymmModel
