/-
  SymmModel.Proofs.Reshape3b — the first loop of `calc_reshape_args` in terms of segments (`Seg`, Reshape3a), in
  both directions.  Backwards: whatever the loop has done so far is described by a segment list from which all its
  local variables are read off (`MInv`; every iteration, `Reshape.Round`, appends one segment: `mainLoop_inv`).
  Forwards: a segment list that satisfies conditions on the list alone (`Greedy`: the loop takes the first branch
  of its `if`/`elif` chain that applies) is what the loop does on the shapes that list describes (`mainLoop_run`,
  `run_of_greedy`), and the invariant holds with that very list (`minv_of_greedy`).
-/
import SymmModel.Proofs.Reshape3a
namespace SymmModel.Reshape3
open SymmModel SymmModel.Reshape SymmModel.C07

/-- the dict `fuse_sizes` describes the `g` segments: key `k` ↦ number of axes of the run, every
    run non-empty, every key used once -/
structure GOk (fs : List Nat) (S : List Seg) : Prop where
  len : ∀ k es, Seg.g k es ∈ S → fs[k]? = some es.length ∧ 1 ≤ es.length
  nodup : (gKeys S).Nodup

theorem mem_gKeys {S : List Seg} {k : Nat} : k ∈ gKeys S ↔ ∃ es, Seg.g k es ∈ S := by
  simp only [gKeys, List.mem_filterMap]
  constructor
  · rintro ⟨a, ha, hk⟩
    cases a <;> simp [Seg.gKey] at hk
    subst hk; exact ⟨_, ha⟩
  · rintro ⟨es, h⟩; exact ⟨_, h, rfl⟩

theorem GOk.key_lt {fs : List Nat} {S : List Seg} (h : GOk fs S) {k : Nat} (hk : k ∈ gKeys S) :
    k < fs.length := by
  obtain ⟨es, hes⟩ := mem_gKeys.mp hk
  have := (h.len k es hes).1
  exact (List.getElem?_eq_some_iff.mp this).1

def SOne (S : List Seg) : Prop := ∀ e, Seg.s e ∈ S → e.1 = 1
def GTwo (S : List Seg) : Prop := ∀ k es, Seg.g k es ∈ S → 2 ≤ es.length

/-- the invariant of the first loop: the segments `S` account for the local variables of `calc_reshape_args` —
    `term` is their labels, `shape[:i]` with `subsizes[:i]` their old axes, `newshape[:j]` their new axes, `k` the
    number of axes they leave after the fuse phase, `axs_expand` the positions of the `x`, `unfuse_sizes` /
    `fuse_sizes` the `u` / `g` segments in key order; squeezed axes have size one, fuse groups at least two axes,
    and `any_singleton` / `any_fused` are set as soon as there is an `s` / a `g` -/
structure MInv (shape newshape : List Nat) (subsizes : List (Option (List Nat))) (st : RState)
    (S : List Seg) : Prop where
  term : st.term = flatL S
  ax : flatE S = (shape.zip subsizes).take st.i
  ile : st.i ≤ shape.length
  out : flatA S = newshape.take st.j
  jle : st.j ≤ newshape.length
  k : st.k = (flatK S).length
  exp : st.axsExpand = expPosFrom 0 S
  us : st.unfuseSizes = uLens S
  uk : uKeys S = List.range' 0 (uLens S).length
  gok : GOk st.fuseSizes S
  sone : SOne S
  ge2 : GTwo S
  anyS : st.anySingleton = false → ∀ e, Seg.s e ∉ S
  anyF : st.anyFused = false → ∀ k es, Seg.g k es ∉ S

theorem minv_init (shape newshape : List Nat) (subsizes : List (Option (List Nat))) :
    MInv shape newshape subsizes {} [] where
  term := rfl
  ax := by simp
  ile := Nat.zero_le _
  out := by simp
  jle := Nat.zero_le _
  k := rfl
  exp := rfl
  us := rfl
  uk := rfl
  gok := ⟨fun _ _ h => by simp at h, by simp [gKeys]⟩
  sone := fun _ h => by simp at h
  ge2 := fun _ _ h => by simp at h
  anyS := fun _ _ h => by simp at h
  anyF := fun _ _ _ h => by simp at h

theorem drop_take_one {α : Type} {l : List α} {i : Nat} {v : α} (h : l[i]? = some v) :
    (l.drop i).take 1 = [v] := by
  obtain ⟨hi, hv⟩ := List.getElem?_eq_some_iff.mp h
  rw [List.drop_eq_getElem_cons hi, hv]; simp

theorem MInv.push {shape newshape : List Nat} {subsizes : List (Option (List Nat))}
    {st st' : RState} {S : List Seg} (h : MInv shape newshape subsizes st S) (a : Seg) (n m : Nat)
    (hterm : st'.term = st.term ++ a.lbl)
    (hi : st'.i = st.i + n) (hax : a.ax = ((shape.zip subsizes).drop st.i).take n)
    (hile : st'.i ≤ shape.length)
    (hj : st'.j = st.j + m) (hout : a.outA = (newshape.drop st.j).take m)
    (hjle : st'.j ≤ newshape.length)
    (hk : st'.k = st.k + a.outK.length)
    (hexp : st'.axsExpand = st.axsExpand ++ (if a.isX then [st.k] else []))
    (hus : st'.unfuseSizes = st.unfuseSizes ++ a.uLen.toList)
    (huk : a.uKey = a.uLen.map (fun _ => st.unfuseSizes.length))
    (hgok : GOk st'.fuseSizes (S ++ [a]))
    (hsone : ∀ e, a = Seg.s e → e.1 = 1)
    (hge2 : ∀ k es, a = Seg.g k es → 2 ≤ es.length)
    (hanyS : st'.anySingleton = false → st.anySingleton = false ∧ ∀ e, a ≠ Seg.s e)
    (hanyF : st'.anyFused = false → st.anyFused = false ∧ ∀ k es, a ≠ Seg.g k es) :
    MInv shape newshape subsizes st' (S ++ [a]) where
  term := by rw [hterm, h.term]; simp
  ax := by rw [hi, List.take_add, ← h.ax, ← hax]; simp
  ile := hile
  out := by rw [hj, List.take_add, ← h.out, ← hout]; simp
  jle := hjle
  k := by rw [hk, h.k]; simp
  exp := by
    rw [hexp, h.exp, expPosFrom_append, ← h.k]
    congr 1
    cases a <;> simp [Seg.isX, expPosFrom]
  us := by rw [hus, h.us, uLens_append, uLens_cons]; simp [uLens]
  uk := by
    rw [uKeys_append, uLens_append, h.uk, uKeys_cons, uLens_cons, huk, h.us]
    cases a.uLen with
    | none => simp [uKeys, uLens]
    | some v =>
      simp only [Option.map_some, Option.toList, uKeys, uLens, List.filterMap_nil, List.append_nil,
        List.length_append, List.length_cons, List.length_nil]
      rw [List.range'_concat]
      simp
  gok := hgok
  sone := by
    intro e he
    rcases List.mem_append.mp he with he | he
    · exact h.sone e he
    · exact hsone e (List.mem_singleton.mp he).symm
  ge2 := by
    intro k es he
    rcases List.mem_append.mp he with he | he
    · exact h.ge2 k es he
    · exact hge2 k es (List.mem_singleton.mp he).symm
  anyS := by
    intro hs e he
    obtain ⟨h1, h2⟩ := hanyS hs
    rcases List.mem_append.mp he with he | he
    · exact h.anyS h1 e he
    · exact h2 e (List.mem_singleton.mp he).symm
  anyF := by
    intro hs k es he
    obtain ⟨h1, h2⟩ := hanyF hs
    rcases List.mem_append.mp he with he | he
    · exact h.anyF h1 k es he
    · exact h2 k es (List.mem_singleton.mp he).symm

theorem GOk.push_other {fs : List Nat} {S : List Seg} (h : GOk fs S) (a : Seg)
    (ha : ∀ k es, a ≠ Seg.g k es) : GOk fs (S ++ [a]) where
  len := by
    intro k es he
    rcases List.mem_append.mp he with he | he
    · exact h.len k es he
    · exact absurd (List.mem_singleton.mp he).symm (ha k es)
  nodup := by
    rw [gKeys_append, gKeys_cons]
    have : a.gKey = none := by
      cases a <;> simp [Seg.gKey]
      exact ha _ _ rfl
    rw [this]; simpa [gKeys] using h.nodup

theorem GOk.push_new {fs : List Nat} {S : List Seg} (h : GOk fs S) (es : List E) (hes : 1 ≤ es.length) :
    GOk (fs ++ [es.length]) (S ++ [Seg.g fs.length es]) where
  len := by
    intro k es' he
    rcases List.mem_append.mp he with he | he
    · obtain ⟨h1, h2⟩ := h.len k es' he
      have hk := (List.getElem?_eq_some_iff.mp h1).1
      exact ⟨by rw [List.getElem?_append_left hk]; exact h1, h2⟩
    · have := List.mem_singleton.mp he
      injection this with hk he'
      subst hk; subst he'
      exact ⟨by simp, hes⟩
  nodup := by
    rw [gKeys_append, gKeys_cons]
    simp only [Seg.gKey, Option.toList, gKeys, List.filterMap_nil, List.append_nil]
    rw [List.nodup_append]
    refine ⟨h.nodup, by simp, ?_⟩
    intro a ha b hb
    have := h.key_lt ha
    simp at hb; omega

theorem zip_getElem? {shape : List Nat} {subsizes : List (Option (List Nat))} {i di : Nat}
    {sub : Option (List Nat)} (h1 : shape[i]? = some di) (h2 : subsizes[i]? = some sub) :
    (shape.zip subsizes)[i]? = some (di, sub) := by
  simp [List.getElem?_zip_eq_some, h1, h2]

theorem sizes_take_drop_zip {shape : List Nat} {subsizes : List (Option (List Nat))}
    (hlen : shape.length = subsizes.length) (i n : Nat) :
    SymShape.sizes (((shape.zip subsizes).drop i).take n) = (shape.drop i).take n := by
  simp only [SymShape.sizes, List.map_take, List.map_drop]
  rw [List.map_fst_zip (by omega)]

theorem MInv.round {shape newshape : List Nat} {subsizes : List (Option (List Nat))}
    (hlen : shape.length = subsizes.length) {st st1 : RState} {di dj : Nat} {sub : Option (List Nat)}
    {S : List Seg} (hinv : MInv shape newshape subsizes st S)
    (hr : Reads shape newshape subsizes st di dj sub)
    (h : Round shape newshape di dj st (unfuseMatch newshape st.j sub) st1) :
    ∃ a, MInv shape newshape subsizes st1 (S ++ [a]) := by
  have hi := hr.i_lt
  have hj := hr.j_lt
  have hz := zip_getElem? hr.i hr.sub
  generalize hw : unfuseMatch newshape st.j sub = w at h
  cases h with
  | unfuse subs hwin =>
    obtain ⟨rfl, _⟩ := unfuseMatch_eq_some.mp hw
    have hjl : st.j + subs.length ≤ newshape.length := by
      have := congrArg List.length hwin
      simp only [List.length_take, List.length_drop] at this
      omega
    refine ⟨Seg.u st.unfuseSizes.length di subs, hinv.push _ 1 subs.length rfl rfl ?_ (by simp; omega) rfl
      hwin.symm hjl rfl (by simp [Seg.isX]) rfl rfl (hinv.gok.push_other _ (fun _ _ h => by cases h))
      (fun e h => by cases h) (fun _ _ h => by cases h) (fun h => ⟨h, fun e h => by cases h⟩)
      (fun h => ⟨h, fun k es h => by cases h⟩)⟩
    rw [drop_take_one hz]; rfl
  | keep hdd =>
    refine ⟨Seg.o (di, sub), hinv.push _ 1 1 rfl rfl ?_ (by simp; omega) rfl ?_ (by simp; omega) rfl
      (by simp [Seg.isX]) (by simp [Seg.uLen]) rfl (hinv.gok.push_other _ (fun _ _ h => by cases h))
      (fun e h => by cases h) (fun _ _ h => by cases h) (fun h => ⟨h, fun e h => by cases h⟩)
      (fun h => ⟨h, fun k es h => by cases h⟩)⟩
    · rw [drop_take_one hz]; rfl
    · rw [drop_take_one hr.j, hdd]; rfl
  | squeeze _ hd1 =>
    refine ⟨Seg.s (di, sub), hinv.push _ 1 0 rfl rfl ?_ (by simp; omega) rfl rfl (by simp; omega) rfl
      (by simp [Seg.isX]) (by simp [Seg.uLen]) rfl (hinv.gok.push_other _ (fun _ _ h => by cases h))
      (fun e h => by cases h; exact hd1) (fun _ _ h => by cases h) (fun h => by simp at h)
      (fun h => ⟨h, fun k es h => by cases h⟩)⟩
    rw [drop_take_one hz]; rfl
  | expand _ _ hd1 =>
    refine ⟨Seg.x, hinv.push _ 0 1 (by simp [Seg.lbl]) rfl rfl (by simp; omega) rfl ?_ (by simp; omega) rfl
      (by simp [Seg.isX]) (by simp [Seg.uLen]) rfl (hinv.gok.push_other _ (fun _ _ h => by cases h))
      (fun e h => by cases h) (fun _ _ h => by cases h) (fun h => ⟨h, fun e h => by cases h⟩)
      (fun h => ⟨h, fun k es h => by cases h⟩)⟩
    rw [drop_take_one hr.j, hd1]; rfl
  | fuse _ _ hlt n hscan hdd =>
    have hle := hscan.le
    have hn : 1 ≤ n := by
      cases n with
      | zero => simp [prod] at hdd; omega
      | succ n => omega
    have hes : (((shape.zip subsizes).drop st.i).take (n + 1)).length = n + 1 := by
      simp only [List.length_take, List.length_drop, List.length_zip]
      omega
    have hgok := hinv.gok.push_new (((shape.zip subsizes).drop st.i).take (n + 1)) (by omega)
    rw [hes] at hgok
    refine ⟨Seg.g st.fuseSizes.length (((shape.zip subsizes).drop st.i).take (n + 1)),
      hinv.push _ (n + 1) 1 ?_ (by simp; omega) rfl (by simp; omega) rfl ?_ (by simp; omega)
      (by simp [Seg.outK]) (by simp [Seg.isX]) (by simp [Seg.uLen]) rfl hgok
      (fun e h => by cases h) (fun _ _ h => by cases h; omega) (fun h => ⟨h, fun e h => by cases h⟩)
      (fun h => by simp at h)⟩
    · simp only [Seg.lbl, hes]
    · rw [drop_take_one hr.j]
      simp only [Seg.outA, Seg.outK]
      rw [sizes_take_drop_zip hlen, List.drop_eq_getElem_cons hi,
        (List.getElem?_eq_some_iff.mp hr.i).2, List.take_succ_cons]
      simp only [prod]
      rw [hdd]

/-- **the first loop keeps the invariant** and stops with one of the two shapes used up -/
theorem mainLoop_inv {shape newshape : List Nat} {subsizes : List (Option (List Nat))}
    (hlen : shape.length = subsizes.length) :
    ∀ (fuel : Nat) (st st' : RState) (S : List Seg), MInv shape newshape subsizes st S →
      mainLoop shape newshape subsizes fuel st = .ok st' →
      ∃ S', MInv shape newshape subsizes st' S'
        ∧ (shape.length ≤ st'.i ∨ newshape.length ≤ st'.j) := by
  intro fuel st st' S hinv h
  obtain ⟨⟨S', hS'⟩, hend⟩ := mainLoop_induct (P := fun st => ∃ S, MInv shape newshape subsizes st S)
    (fun _ _ _ _ _ hr hround ⟨_, hS⟩ => (hS.round hlen hr hround).elim fun _ ha => ⟨_, ha⟩)
    fuel st st' ⟨S, hinv⟩ h
  exact ⟨S', hS', hend⟩

/-- the local variables after the iteration that the segment `a` describes (the assignments of the five branches
    of the first loop; the keys of `u` / `g` are the dict sizes `len(unfuse_sizes)` / `len(fuse_sizes)`, not the
    keys written in `a`) -/
def after (st : RState) : Seg → RState
  | .o _ => { st with term := st.term ++ [Lbl.o], i := st.i + 1, j := st.j + 1, k := st.k + 1 }
  | .u _ _ subs =>
    { st with term := st.term ++ [Lbl.u st.unfuseSizes.length], unfuseSizes := st.unfuseSizes ++ [subs.length],
              i := st.i + 1, j := st.j + subs.length, k := st.k + subs.length }
  | .s _ => { st with term := st.term ++ [Lbl.s], axsSqueeze := st.axsSqueeze ++ [st.i],
                      anySingleton := true, i := st.i + 1 }
  | .g _ es =>
    { st with term := st.term ++ List.replicate es.length (Lbl.g st.fuseSizes.length),
              fuseSizes := st.fuseSizes ++ [es.length], anyFused := true,
              i := st.i + es.length, j := st.j + 1, k := st.k + 1 }
  | .x => { st with axsExpand := st.axsExpand ++ [st.k], j := st.j + 1 }

/-- the iteration at `st` takes the branch that the segment `a` describes: the reads and the guards of that branch
    with the earlier branches of the `if`/`elif` chain failing -/
def Next (shape newshape : List Nat) (subsizes : List (Option (List Nat))) (st : RState) : Seg → Prop
  | .o e => Reads shape newshape subsizes st e.1 e.1 e.2 ∧ unfuseMatch newshape st.j e.2 = none
  | .u _ d subs => (∃ dj, Reads shape newshape subsizes st d dj (some subs))
      ∧ (newshape.drop st.j).take subs.length = subs
  | .s e => (∃ dj, Reads shape newshape subsizes st e.1 dj e.2 ∧ dj ≠ 1) ∧ e.1 = 1
      ∧ unfuseMatch newshape st.j e.2 = none
  | .g _ es => ∃ di dj sub n, Reads shape newshape subsizes st di dj sub ∧ unfuseMatch newshape st.j sub = none
      ∧ di ≠ 1 ∧ dj ≠ 1 ∧ di < dj ∧ es.length = n + 1 ∧ ScanAt shape dj di (st.i + 1) n
      ∧ di * prod ((shape.drop (st.i + 1)).take n) = dj
  | .x => ∃ di sub, Reads shape newshape subsizes st di 1 sub ∧ di ≠ 1
      ∧ unfuseMatch newshape st.j sub = none

/-- the loop, started at `st`, runs through the iterations that `S` describes -/
def Run (shape newshape : List Nat) (subsizes : List (Option (List Nat))) : RState → List Seg → Prop
  | _, [] => True
  | st, a :: S => Next shape newshape subsizes st a ∧ Run shape newshape subsizes (after st a) S

theorem Next.round {shape newshape : List Nat} {subsizes : List (Option (List Nat))} {st : RState}
    {a : Seg} (h : Next shape newshape subsizes st a) :
    ∃ di dj sub, Reads shape newshape subsizes st di dj sub ∧
      Round shape newshape di dj st (unfuseMatch newshape st.j sub) (after st a) := by
  cases a with
  | o e => exact ⟨_, _, _, h.1, h.2 ▸ .keep rfl⟩
  | u k d subs =>
    obtain ⟨⟨dj, hr⟩, hwin⟩ := h
    exact ⟨_, _, _, hr, by rw [unfuseMatch_eq_some.mpr ⟨rfl, hwin⟩]; exact .unfuse subs hwin⟩
  | s e =>
    obtain ⟨⟨dj, hr, hdj⟩, h1, hw⟩ := h
    exact ⟨_, _, _, hr, hw ▸ .squeeze (by omega) h1⟩
  | g k es =>
    obtain ⟨di, dj, sub, n, hr, hw, h1, h2, hlt, hn, hscan, hprod⟩ := h
    refine ⟨di, dj, sub, hr, ?_⟩
    have hR := Round.fuse (newshape := newshape) (st := st) h1 h2 hlt n hscan hprod
    rw [hw]
    simpa only [after, hn, Nat.add_assoc, Nat.add_comm 1 n] using hR
  | x =>
    obtain ⟨di, sub, hr, h1, hw⟩ := h
    exact ⟨_, _, _, hr, hw ▸ .expand h1 h1 rfl⟩

theorem mainLoop_next {shape newshape : List Nat} {subsizes : List (Option (List Nat))} {st : RState}
    {a : Seg} (h : Next shape newshape subsizes st a) (fuel : Nat) :
    mainLoop shape newshape subsizes (fuel + 1) st = mainLoop shape newshape subsizes fuel (after st a) := by
  obtain ⟨_, _, _, hr, hround⟩ := h.round
  exact mainLoop_round hr hround fuel

theorem mainLoop_run {shape newshape : List Nat} {subsizes : List (Option (List Nat))} :
    ∀ (S : List Seg) (st : RState) (fuel : Nat), Run shape newshape subsizes st S →
      mainLoop shape newshape subsizes (fuel + S.length) st
        = mainLoop shape newshape subsizes fuel (S.foldl after st) := by
  intro S
  induction S with
  | nil => intro st fuel _; rfl
  | cons a S ih =>
    intro st fuel h
    rw [List.length_cons, ← Nat.add_assoc, mainLoop_next h.1, List.foldl_cons]
    exact ih (after st a) fuel h.2

theorem unfuseMatch_drop (ns : List Nat) (j : Nat) (sub : Option (List Nat)) :
    unfuseMatch ns j sub = unfuseMatch (ns.drop j) 0 sub := by
  cases sub <;> simp [unfuseMatch]

theorem reads_at {P : List Seg} {st : RState} (hi : st.i = (flatE P).length) (hj : st.j = (flatA P).length)
    (e : E) (Xr : SymShape) (dj : Nat) (Tr : List Nat) :
    Reads (SymShape.sizes (flatE P ++ e :: Xr)) (flatA P ++ dj :: Tr) (SymShape.subs (flatE P ++ e :: Xr))
      st e.1 dj e.2 :=
  ⟨by simp [SymShape.sizes, hi], by simp [hj], by simp [SymShape.subs, hi]⟩

/-- the branch conditions of the first loop in terms of a segment and the target sizes `T = newshape[j:]` from that
    segment on: no window of the axis' sub-sizes at the head of `T` (the `unfuse` test fails) for `o`, `s`, `g`; a
    squeezed axis has size one and faces a target size that is not one; a fused run starts and ends with sizes ≥ 2
    (so that the inner `while di < dj` runs exactly to its end) -/
def Loc : Seg → List Nat → Prop
  | .o e, T => unfuseMatch T 0 e.2 = none
  | .u _ _ subs, _ => subs ≠ []
  | .s e, T => e.1 = 1 ∧ (∃ dj T', T = dj :: T' ∧ dj ≠ 1) ∧ unfuseMatch T 0 e.2 = none
  | .g _ es, T => ∃ e0 mid el, es = e0 :: (mid ++ [el]) ∧ 2 ≤ e0.1 ∧ (∀ e ∈ mid, 1 ≤ e.1) ∧ 2 ≤ el.1
      ∧ unfuseMatch T 0 e0.2 = none
  | .x, _ => False

/-- `S` is the segmentation the first loop makes of its own input (`shape = sizes (flatE S)`, `newshape = flatA S`):
    every segment satisfies its branch condition `Loc` against the part of the target that is left.  No "x": targets
    that need a new size-one axis are outside.  Built with `Greedy.cons_o`, `cons_u`, `cons_s`, `cons_g`. -/
def Greedy : List Seg → Prop
  | [] => True
  | a :: S => Loc a (flatA (a :: S)) ∧ Greedy S

/-- an axis kept: no window of its sub-sizes at the head of the target (`rfl` for an axis that is not fused) -/
theorem Greedy.cons_o {e : E} {S : List Seg} (hwin : unfuseMatch (flatA (Seg.o e :: S)) 0 e.2 = none)
    (h : Greedy S) : Greedy (Seg.o e :: S) := ⟨hwin, h⟩

/-- a fused axis unfused: it has sub-indices (their sizes are the head of the target by the definition of `flatA`) -/
theorem Greedy.cons_u {k d : Nat} {subs : List Nat} {S : List Seg} (hsubs : subs ≠ []) (h : Greedy S) :
    Greedy (Seg.u k d subs :: S) := ⟨hsubs, h⟩

theorem Greedy.cons_s {e : E} {S : List Seg} {dj : Nat} {T' : List Nat} (hone : e.1 = 1)
    (htgt : flatA S = dj :: T') (hdj : dj ≠ 1) (hwin : unfuseMatch (flatA S) 0 e.2 = none) (h : Greedy S) :
    Greedy (Seg.s e :: S) :=
  ⟨⟨hone, ⟨dj, T', by simpa [Seg.outA, Seg.outK] using htgt, hdj⟩, by simpa [Seg.outA, Seg.outK] using hwin⟩, h⟩

theorem Greedy.cons_g {k : Nat} {e0 el : E} {mid : List E} {S : List Seg} (hfirst : 2 ≤ e0.1)
    (hmid : ∀ e ∈ mid, 1 ≤ e.1) (hlast : 2 ≤ el.1)
    (hwin : unfuseMatch (flatA (Seg.g k (e0 :: (mid ++ [el])) :: S)) 0 e0.2 = none) (h : Greedy S) :
    Greedy (Seg.g k (e0 :: (mid ++ [el])) :: S) := ⟨⟨e0, mid, el, rfl, hfirst, hmid, hlast, hwin⟩, h⟩

theorem after_i (st : RState) (a : Seg) (hx : a.isX = false) : (after st a).i = st.i + a.ax.length := by
  cases a <;> simp [after, Seg.ax, Seg.isX] at hx ⊢
theorem after_j (st : RState) (a : Seg) : (after st a).j = st.j + a.outA.length := by
  cases a <;> simp [after, Seg.outA, Seg.outK]

/-- on the old shape `flatE S` (followed by further old axes `X`, which the loop does not reach because
    `newshape` is used up first) and the target `flatA S`, the loop runs through `S` -/
theorem run_of_greedy : ∀ (S P : List Seg) (X : SymShape) (st : RState),
    st.i = (flatE P).length → st.j = (flatA P).length → Greedy S →
    Run (SymShape.sizes (flatE (P ++ S) ++ X)) (flatA (P ++ S)) (SymShape.subs (flatE (P ++ S) ++ X)) st S := by
  intro S
  induction S with
  | nil => intro P X st _ _ _; trivial
  | cons a S ih =>
    intro P X st hi hj hG
    obtain ⟨hloc, hG⟩ := hG
    have hW : P ++ a :: S = (P ++ [a]) ++ S := by simp
    have hx : a.isX = false := by cases a <;> simp [Loc, Seg.isX] at hloc ⊢
    refine ⟨?_, ?_⟩
    · have hdrop : (flatA (P ++ a :: S)).drop st.j = flatA (a :: S) := by
        rw [flatA_append, hj, List.drop_left' rfl]
      simp only [flatE_append, flatA_append, flatE_cons, flatA_cons, List.append_assoc]
      cases a with
      | x => exact hloc.elim
      | o e =>
        refine ⟨reads_at hi hj e _ e.1 _, ?_⟩
        rw [unfuseMatch_drop, ← flatA_cons, ← flatA_append, hdrop]; exact hloc
      | u k d subs =>
        obtain ⟨m0, mid, rfl⟩ := List.exists_cons_of_ne_nil hloc
        refine ⟨⟨m0, reads_at hi hj (d, some (m0 :: mid)) _ m0 _⟩, ?_⟩
        rw [← flatA_cons, ← flatA_append, hdrop]
        simp [Seg.outA, Seg.outK]
      | s e =>
        obtain ⟨h1, ⟨dj, T', hT, hdj⟩, hw⟩ := hloc
        simp only [flatA_cons, Seg.outA, Seg.outK, List.nil_append] at hT hw hdrop ⊢
        rw [hT]
        refine ⟨⟨dj, reads_at hi hj e _ dj _, hdj⟩, h1, ?_⟩
        rw [unfuseMatch_drop, ← hT, ← flatA_append, flatA_append, hj, List.drop_left' rfl]
        exact hw
      | g k es =>
        obtain ⟨e0, mid, el, rfl, h0, hmid, hl, hw⟩ := hloc
        have hsz : SymShape.sizes (mid ++ [el]) = SymShape.sizes mid ++ [el.1] := by simp [SymShape.sizes]
        have hq : 2 ≤ prod (SymShape.sizes mid ++ [el.1]) :=
          prod_suffix_ge2 (fun d hd => by
            simp only [SymShape.sizes, List.mem_map] at hd
            obtain ⟨e, he, rfl⟩ := hd; exact hmid e he) hl
        have hdj : prod (SymShape.sizes (e0 :: (mid ++ [el]))) = e0.1 * prod (SymShape.sizes mid ++ [el.1]) := by
          rw [← hsz]; rfl
        have h2 : e0.1 * 2 ≤ e0.1 * prod (SymShape.sizes mid ++ [el.1]) := Nat.mul_le_mul_left _ hq
        have hwin : ((SymShape.sizes (flatE P ++ ((e0 :: (mid ++ [el])) ++ (flatE S ++ X)))).drop (st.i + 1)).take
            ((SymShape.sizes mid).length + 1) = SymShape.sizes mid ++ [el.1] := by
          have : SymShape.sizes (flatE P ++ ((e0 :: (mid ++ [el])) ++ (flatE S ++ X)))
              = (SymShape.sizes (flatE P) ++ [e0.1])
                ++ ((SymShape.sizes mid ++ [el.1]) ++ SymShape.sizes (flatE S ++ X)) := by
            simp [SymShape.sizes]
          rw [this, List.drop_left' (by simp [SymShape.sizes, hi]), List.take_left' (by simp)]
        have hscan := scanAt_run (di := e0.1) (SymShape.sizes mid) el.1 (by
            intro d hd; simp only [SymShape.sizes, List.mem_map] at hd
            obtain ⟨e, he, rfl⟩ := hd; exact hmid e he) hl (by omega) hwin
        refine ⟨e0.1, e0.1 * prod (SymShape.sizes mid ++ [el.1]), e0.2, mid.length + 1, ?_, ?_, by omega, by omega,
          by omega, by simp, ?_, ?_⟩
        · have := reads_at hi hj e0 ((mid ++ [el]) ++ (flatE S ++ X)) (e0.1 * prod (SymShape.sizes mid ++ [el.1]))
            (flatA S)
          simpa only [Seg.ax, Seg.outA, Seg.outK, hdj, List.cons_append, List.singleton_append, List.nil_append,
            List.append_assoc] using this
        · rw [unfuseMatch_drop, ← flatA_cons, ← flatA_append, hdrop]; exact hw
        · simpa [SymShape.sizes, Seg.ax] using hscan
        · simp only [Seg.ax]
          rw [show mid.length + 1 = (SymShape.sizes mid).length + 1 by simp [SymShape.sizes], hwin]
    · rw [hW]
      exact ih (P ++ [a]) X (after st a) (by rw [after_i st a hx, hi]; simp)
        (by rw [after_j st a, hj]; simp) hG

/-- the keys written in the `u` and `g` segments are the labels the loop gives them, `f"u{len(unfuse_sizes)}"` and
    `f"g{len(fuse_sizes)}"`; `nu`, `ng`: the present sizes of the two dicts -/
def Keyed : Nat → Nat → List Seg → Prop
  | _, _, [] => True
  | nu, ng, .u k _ _ :: S => k = nu ∧ Keyed (nu + 1) ng S
  | nu, ng, .g k _ :: S => k = ng ∧ Keyed nu (ng + 1) S
  | nu, ng, _ :: S => Keyed nu ng S

theorem Keyed.cons_u {nu ng d : Nat} {subs : List Nat} {S : List Seg} (h : Keyed (nu + 1) ng S) :
    Keyed nu ng (Seg.u nu d subs :: S) := ⟨rfl, h⟩
theorem Keyed.cons_g {nu ng : Nat} {es : List E} {S : List Seg} (h : Keyed nu (ng + 1) S) :
    Keyed nu ng (Seg.g ng es :: S) := ⟨rfl, h⟩
theorem Keyed.cons_o {nu ng : Nat} {e : E} {S : List Seg} (h : Keyed nu ng S) : Keyed nu ng (Seg.o e :: S) := h
theorem Keyed.cons_s {nu ng : Nat} {e : E} {S : List Seg} (h : Keyed nu ng S) : Keyed nu ng (Seg.s e :: S) := h

/-- **the invariant, forwards**: along a greedy, keyed segment list the states `foldl after` satisfy the invariant
    with that very list -/
theorem minv_of_greedy : ∀ (S P : List Seg) (X : SymShape) (st : RState),
    MInv (SymShape.sizes (flatE (P ++ S) ++ X)) (flatA (P ++ S)) (SymShape.subs (flatE (P ++ S) ++ X)) st P →
    Greedy S → Keyed st.unfuseSizes.length st.fuseSizes.length S →
    MInv (SymShape.sizes (flatE (P ++ S) ++ X)) (flatA (P ++ S)) (SymShape.subs (flatE (P ++ S) ++ X))
      (S.foldl after st) (P ++ S) := by
  intro S
  induction S with
  | nil => intro P X st h _ _; simpa using h
  | cons a S ih =>
    intro P X st hinv hG hK
    obtain ⟨hloc, hG⟩ := hG
    have hW : P ++ a :: S = (P ++ [a]) ++ S := by simp
    have hx : a.isX = false := by cases a <;> simp [Loc, Seg.isX] at hloc ⊢
    have hzip : (SymShape.sizes (flatE (P ++ a :: S) ++ X)).zip (SymShape.subs (flatE (P ++ a :: S) ++ X))
        = flatE P ++ (a.ax ++ (flatE S ++ X)) := by
      rw [zip_sizes_subs]; simp
    have hi : st.i = (flatE P).length := by
      have := congrArg List.length hinv.ax
      rw [hzip, List.length_take] at this
      have hle := hinv.ile
      simp only [SymShape.sizes, List.length_map, List.length_append, flatE_append, flatE_cons] at hle this
      omega
    have hj : st.j = (flatA P).length := by
      have := congrArg List.length hinv.out
      rw [List.length_take] at this
      have hle := hinv.jle
      omega
    have hax : a.ax = (((SymShape.sizes (flatE (P ++ a :: S) ++ X)).zip
        (SymShape.subs (flatE (P ++ a :: S) ++ X))).drop st.i).take a.ax.length := by
      rw [hzip, hi, List.drop_left' rfl, List.take_left' rfl]
    have hile : st.i + a.ax.length ≤ (SymShape.sizes (flatE (P ++ a :: S) ++ X)).length := by
      rw [hi]; simp [SymShape.sizes]
    have hout : a.outA = ((flatA (P ++ a :: S)).drop st.j).take a.outA.length := by
      rw [hj, flatA_append, List.drop_left' rfl, flatA_cons, List.take_left' rfl]
    have hjle : st.j + a.outA.length ≤ (flatA (P ++ a :: S)).length := by rw [hj]; simp
    rw [List.foldl_cons, hW]
    cases a with
    | x => exact hloc.elim
    | o e =>
      refine ih (P ++ [Seg.o e]) X _ ?_ hG hK
      rw [← hW]
      exact hinv.push _ 1 1 rfl rfl hax hile rfl hout hjle rfl (by simp [after, Seg.isX]) (by simp [after, Seg.uLen]) rfl
        (hinv.gok.push_other _ (fun _ _ h => by cases h)) (fun e h => by cases h) (fun _ _ h => by cases h)
        (fun h => ⟨h, fun e h => by cases h⟩) (fun h => ⟨h, fun k es h => by cases h⟩)
    | u k d subs =>
      obtain ⟨rfl, hK⟩ := hK
      refine ih (P ++ [Seg.u _ d subs]) X _ ?_ hG (by simpa [after] using hK)
      rw [← hW]
      exact hinv.push _ 1 subs.length rfl rfl hax hile rfl hout hjle rfl (by simp [after, Seg.isX]) rfl rfl
        (hinv.gok.push_other _ (fun _ _ h => by cases h)) (fun e h => by cases h) (fun _ _ h => by cases h)
        (fun h => ⟨h, fun e h => by cases h⟩) (fun h => ⟨h, fun k es h => by cases h⟩)
    | s e =>
      refine ih (P ++ [Seg.s e]) X _ ?_ hG hK
      rw [← hW]
      exact hinv.push _ 1 0 rfl rfl hax hile rfl hout hjle rfl (by simp [after, Seg.isX]) (by simp [after, Seg.uLen]) rfl
        (hinv.gok.push_other _ (fun _ _ h => by cases h)) (fun e h => by cases h; exact hloc.1)
        (fun _ _ h => by cases h) (fun h => by simp [after] at h) (fun h => ⟨h, fun k es h => by cases h⟩)
    | g k es =>
      obtain ⟨rfl, hK⟩ := hK
      obtain ⟨e0, mid, el, rfl, _⟩ := hloc
      refine ih (P ++ [Seg.g _ (e0 :: (mid ++ [el]))]) X _ ?_ hG (by simpa [after] using hK)
      rw [← hW]
      exact hinv.push _ (e0 :: (mid ++ [el])).length 1 rfl rfl hax hile rfl hout hjle rfl (by simp [after, Seg.isX])
        (by simp [after, Seg.uLen]) rfl (hinv.gok.push_new _ (by simp)) (fun e h => by cases h)
        (fun _ _ h => by cases h; simp) (fun h => ⟨h, fun e h => by cases h⟩) (fun h => by simp [after] at h)

end SymmModel.Reshape3
