/-
  SymmModel.Proofs.Reshape3g — the planner `calc_reshape_args` for all shapes, targets and sub-sizes (C07), part g: the input-level
  hypotheses (all sizes positive, equal dense sizes, fused axes as large as the product of their
  sub-sizes) imply that the first loop leaves only size-one dimensions over.
-/
import SymmModel.Proofs.Reshape3f
namespace SymmModel.Reshape3
open SymmModel SymmModel.Reshape SymmModel.C07

/-- every fused axis is as large as the product of its sub-sizes (no sparse fusing) -/
def denseB (shape : List Nat) (subsizes : List (Option (List Nat))) : Bool :=
  (shape.zip subsizes).all (fun p => match p.2 with
    | none => true
    | some subs => Nat.beq p.1 (prod subs))

theorem denseB_nones (shape : List Nat) : denseB shape (nones shape) = true := by
  simp only [denseB, List.all_eq_true]
  intro p hp
  have : p.2 = none := by
    have := (List.of_mem_zip hp).2
    simp only [nones, List.mem_map] at this
    obtain ⟨_, _, h⟩ := this; exact h.symm
  rw [this]

theorem mem_flatE_u {S : List Seg} {k d : Nat} {subs : List Nat} (h : Seg.u k d subs ∈ S) :
    (d, some subs) ∈ flatE S := by
  simp only [flatE, List.mem_flatMap]
  exact ⟨_, h, by simp [Seg.ax]⟩

theorem seg_prod (S : List Seg) (hu : ∀ k d subs, Seg.u k d subs ∈ S → d = prod subs)
    (hs : ∀ e, Seg.s e ∈ S → e.1 = 1) : prod (SymShape.sizes (flatE S)) = prod (flatA S) := by
  induction S with
  | nil => rfl
  | cons a S ih =>
    have ih' := ih (fun k d subs h => hu k d subs (by simp [h])) (fun e h => hs e (by simp [h]))
    rw [flatE_cons, flatA_cons, sizes_append, prod_append, prod_append, ih']
    congr 1
    cases a with
    | o e => simp [Seg.ax, Seg.outA, Seg.outK, SymShape.sizes]
    | u k d subs => simp [Seg.ax, Seg.outA, Seg.outK, SymShape.sizes, prod, hu k d subs (by simp)]
    | s e => simp [Seg.ax, Seg.outA, Seg.outK, SymShape.sizes, prod, hs e (by simp)]
    | g k es => simp [Seg.ax, Seg.outA, Seg.outK, prod]
    | x => simp [Seg.ax, Seg.outA, SymShape.sizes, prod]

theorem prod_eq_one {l : List Nat} (h : prod l = 1) : ∀ d ∈ l, d = 1 := by
  induction l with
  | nil => intro d hd; simp at hd
  | cons a l ih =>
    simp only [prod] at h
    have h1 : a = 1 := Nat.eq_one_of_mul_eq_one_right h
    have h2 : prod l = 1 := Nat.eq_one_of_mul_eq_one_left h
    intro d hd
    rcases List.mem_cons.mp hd with rfl | hd
    · exact h1
    · exact ih h2 d hd

theorem prod_take_drop (l : List Nat) (i : Nat) : prod l = prod (l.take i) * prod (l.drop i) := by
  rw [← prod_append, List.take_append_drop]

theorem trailing_of_prod (shape newshape : List Nat) (subsizes : List (Option (List Nat)))
    (hlen : shape.length = subsizes.length) (hdense : denseB shape subsizes = true)
    (hpos : ∀ d ∈ shape, 0 < d) (hprod : prod shape = prod newshape) :
    ∀ st, mainLoop shape newshape subsizes (shape.length + newshape.length) {} = .ok st →
      (∀ d ∈ shape.drop st.i, d = 1) ∧ (∀ d ∈ newshape.drop st.j, d = 1) := by
  intro st hst
  obtain ⟨S, hinv, hstop⟩ := mainLoop_inv hlen _ _ _ _ (minv_init shape newshape subsizes) hst
  have hu : ∀ k d subs, Seg.u k d subs ∈ S → d = prod subs := by
    intro k d subs hm
    have h1 := mem_flatE_u hm
    rw [hinv.ax] at h1
    have h2 := List.mem_of_mem_take h1
    simp only [denseB, List.all_eq_true] at hdense
    have := hdense _ h2
    simpa using this
  have hp := seg_prod S hu hinv.sone
  rw [hinv.ax, hinv.out] at hp
  have e := sizes_take_drop_zip hlen 0 st.i
  simp only [List.drop_zero] at e
  rw [e] at hp
  have h1 := prod_take_drop shape st.i
  have h2 := prod_take_drop newshape st.j
  have hps : 0 < prod shape := prod_pos hpos
  have hpt : 0 < prod (shape.take st.i) := by
    rcases Nat.eq_zero_or_pos (prod (shape.take st.i)) with h0 | h0
    · rw [h0, Nat.zero_mul] at h1; omega
    · exact h0
  rcases hstop with hs | hs
  · have hd : shape.drop st.i = [] := List.drop_eq_nil_of_le hs
    refine ⟨by rw [hd]; intro d hd'; simp at hd', ?_⟩
    apply prod_eq_one
    rw [hd] at h1
    simp only [prod, Nat.mul_one] at h1
    have : prod (shape.take st.i) * prod (newshape.drop st.j) = prod (shape.take st.i) * 1 := by
      rw [Nat.mul_one]
      conv => rhs; rw [← h1, hprod, h2, ← hp]
    exact Nat.eq_of_mul_eq_mul_left hpt this
  · have hd : newshape.drop st.j = [] := List.drop_eq_nil_of_le hs
    refine ⟨?_, by rw [hd]; intro d hd'; simp at hd'⟩
    apply prod_eq_one
    rw [hd] at h2
    simp only [prod, Nat.mul_one] at h2
    have : prod (shape.take st.i) * prod (shape.drop st.i) = prod (shape.take st.i) * 1 := by
      rw [Nat.mul_one, ← h1, hprod, h2, hp]
    exact Nat.eq_of_mul_eq_mul_left hpt this

/-- **the unbounded planner theorem, input-level form** -/
theorem planner_wf_of_prod (shape newshape : List Nat) (subsizes : List (Option (List Nat)))
    (hlen : shape.length = subsizes.length) (hdense : denseB shape subsizes = true)
    (hpos : ∀ d ∈ shape, 0 < d) (hprod : prod shape = prod newshape)
    (t : List Nat × List (List (List Nat)) × List Nat)
    (h : calcReshapeArgs shape newshape subsizes = .ok t) :
    (Plan.ofTriple t).wfB shape subsizes newshape = true :=
  planner_wf_of_trailing shape newshape subsizes hlen t h
    (trailing_of_prod shape newshape subsizes hlen hdense hpos hprod)

end SymmModel.Reshape3
