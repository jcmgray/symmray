/-
  SymmModel.Proofs.NormNet9 — network form of the norm (property C10), part 9:
  the leg positions of a contracted half against its two tensors, and the axes of the second calls
  of the tensor-by-tensor routes `(X·p)·q` and `p·(q·X)` (`X` the other half of the network).
-/
import SymmModel.Proofs.NormNet8
namespace SymmModel.NormNet
open SymmModel SymmModel.Lazy SymmModel.Norm SymmModel.TdotP SymmModel.GradedP SymmModel.RoutesP
open SymmModel.AssocP

section legs

theorem all_left {n : Nat} (ax : List Nat) : ∀ i, i < n → i ∈ freeAxes n ax ++ ax := by
  intro i hi
  by_cases hx : i ∈ ax
  · exact List.mem_append_right _ hx
  · exact List.mem_append_left _ (mem_freeAxes.mpr ⟨hi, hx⟩)

theorem all_right {n : Nat} (ax : List Nat) : ∀ i, i < n → i ∈ ax ++ freeAxes n ax := by
  intro i hi
  by_cases hx : i ∈ ax
  · exact List.mem_append_left _ hx
  · exact List.mem_append_right _ (mem_freeAxes.mpr ⟨hi, hx⟩)

theorem mid_free_right {n : Nat} {ax : List Nat} (hn : ax.Nodup) (hlt : ∀ i ∈ ax, i < n) :
    Mid n ax (freeAxes n ax) :=
  Mid.of ((perm_right hn hlt).nodup_iff.mpr List.nodup_range) (fun i hi => by
    rcases List.mem_append.mp hi with h1 | h1
    · exact hlt i h1
    · exact mem_freeAxes_lt i h1)

theorem mid_free_left {n : Nat} {ax : List Nat} (hn : ax.Nodup) (hlt : ∀ i ∈ ax, i < n) :
    Mid n (freeAxes n ax) ax := (mid_free_right hn hlt).symm

theorem _root_.SymmModel.AssocP.Mid.nodup_append {n : Nat} {x y : List Nat} (m : Mid n x y) :
    (x ++ y).Nodup :=
  List.nodup_append.mpr ⟨m.n1, m.n2, fun a ha _ hb e => m.disj a ha (e ▸ hb)⟩

/-! The legs of a contracted half of `p·q` are listed as `p`'s `m` dangling legs, then `q`'s `k`. -/

theorem half_range_lt {m k i : Nat} (hi : i ∈ List.range m) : i < m + k :=
  Nat.lt_add_right k (List.mem_range.mp hi)

theorem half_shift_lt {m k i : Nat} (hi : i ∈ (List.range k).map (m + ·)) : i < m + k := by
  obtain ⟨j, hj, rfl⟩ := List.mem_map.mp hi
  exact Nat.add_lt_add_left (List.mem_range.mp hj) m

theorem mid_half (m k : Nat) : Mid (m + k) (List.range m) ((List.range k).map (m + ·)) :=
  Mid.of (by rw [range_split]; exact List.nodup_range) (fun i hi => by
    rcases List.mem_append.mp hi with h1 | h1
    · exact half_range_lt h1
    · exact half_shift_lt h1)

theorem shift_nodup (m k : Nat) : ((List.range k).map (m + ·)).Nodup :=
  List.nodup_range.map (fun a b hab => by omega)

theorem shift_range_cover {m k i : Nat} (hi : i < m + k) :
    i ∈ (List.range k).map (m + ·) ++ List.range m := by
  by_cases h1 : i < m
  · exact List.mem_append_right _ (List.mem_range.mpr h1)
  · exact List.mem_append_left _ (List.mem_map.mpr ⟨i - m, List.mem_range.mpr (by omega), by omega⟩)

theorem axesAB_all (nA nB : Nat) (xa xb : List Nat) :
    Assoc2P.axesAB nA nB xa (freeAxes nA xa) xb (freeAxes nB xb)
      = List.range ((freeAxes nA xa).length + (freeAxes nB xb).length) := by
  unfold Assoc2P.axesAB
  rw [positions_self _ (freeAxes_nodup nA xa), positions_self _ (freeAxes_nodup nB xb), range_split]

end legs

section tw

/-- the axes of `(X·p)` contracted with `q` in `tw_left_w`: the images of `X`'s legs that belong to
    `q`'s dangling legs (the first ones), then the images of `p`'s bond legs -/
def axesTW (np nq : Nat) (xp xq : List Nat) : List Nat :=
  Assoc2P.axesAB ((freeAxes np xp).length + (freeAxes nq xq).length) np
    (List.range (freeAxes np xp).length)
    ((List.range (freeAxes nq xq).length).map ((freeAxes np xp).length + ·))
    (freeAxes np xp) xp

/-- the axes of `(q·X)` contracted with `p` in `tw_right_w`: the images of `q`'s bond legs, then the
    images of `X`'s legs that belong to `p`'s dangling legs -/
def axesTWr (np nq : Nat) (xp xq : List Nat) : List Nat :=
  Assoc2P.axesBC nq ((freeAxes np xp).length + (freeAxes nq xq).length) xq (freeAxes nq xq)
    ((List.range (freeAxes nq xq).length).map ((freeAxes np xp).length + ·))
    (List.range (freeAxes np xp).length)

end tw

end SymmModel.NormNet
