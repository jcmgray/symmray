/-
  SymmModel.Proofs.ValidMisc — `__matmul__` (abelian and fermionic) and `eigh` return valid
  arrays (property C01); `eigh` under the shape contract of its per-block kernel
  (`EighShapeContract`), the only thing assumed of the kernel.
-/
import SymmModel.Proofs.ValidTdotFused
import SymmModel.Proofs.ValidLinalg
import SymmModel.Proofs.SpecMatmul

namespace SymmModel
namespace ValidP

variable {R : Type}

/-- precondition of `a @ b`: same symmetry, last index of `a` and first index of `b` have opposite
    directions (the ranks are checked by `matmulA` / `Arr.matmulF` themselves) -/
def matmulAdmissibleB (a b : Arr R) : Bool :=
  decide (a.sym = b.sym)
  && ((a.indices.getD (a.ndim - 1) default).dual != (b.indices.getD 0 default).dual)

theorem matmulA_core [Zero R] [Add R] [Mul R] (a b c : Arr R) (ha : Core a) (hb : Core b)
    (hadm : matmulAdmissibleB a b = true) (h : matmulA a b = .ok c) :
    Core c ∧ c.sym = a.sym ∧ c.fermi = a.fermi ∧ c.charge = a.sym.combine [a.charge, b.charge]
      ∧ c.phases = a.phases ∧ c.oddpos = a.oddpos := by
  unfold matmulAdmissibleB at hadm
  simp only [Bool.and_eq_true, decide_eq_true_eq] at hadm
  obtain ⟨hsym, hdual⟩ := hadm
  have key : ∀ (na nb : Nat), a.ndim = na → b.ndim = nb → 0 < na → 0 < nb →
      Core (tensordotBlockwise a b (without (List.range na) [na - 1]) [na - 1] [0]
        (without (List.range nb) [0])) := by
    intro na nb h1 h2 h3 h4
    subst h1 h2
    apply tensordotBlockwise_core a b [a.ndim - 1] [0] ha hb hsym
    · unfold oppositeDualsB
      simp only [List.length_cons, List.length_nil, beq_self_eq_true, List.zip_cons_cons,
        List.zip_nil_right, List.all_cons, List.all_nil, Bool.and_true, Bool.true_and]
      exact hdual
    · simp
    · simp
    · intro i hi; simp only [List.mem_singleton] at hi; omega
    · intro i hi; simp only [List.mem_singleton] at hi; omega
  obtain ⟨ra, rb⟩ := matmulA_ok_ranks h
  rw [matmulA_eq a b ra rb, Except.ok.injEq] at h
  subst h
  exact ⟨key a.ndim b.ndim rfl rfl (by omega) (by omega), rfl, rfl, rfl, rfl, rfl⟩

theorem matmulA_valid [Zero R] [Add R] [Mul R] (a b c : Arr R) (ha : Valid a) (hb : Valid b)
    (hfa : a.fermi = false) (hadm : matmulAdmissibleB a b = true) (h : matmulA a b = .ok c) :
    Valid c := by
  obtain ⟨hcore, _, e2, _, e4, e5⟩ := matmulA_core a b c ha.core hb.core hadm h
  exact ha.of_abelian hfa hcore e2 e4 e5

theorem matmulF_valid [Zero R] [Add R] [Mul R] [Neg R] (a b r : Arr R) (ha : Valid a) (hb : Valid b)
    (hfa : a.fermi = true) (hfb : b.fermi = true) (hadm : matmulAdmissibleB a b = true)
    (h : Arr.matmulF a b = .ok r) : Valid r := by
  obtain ⟨ra, rb, ix, hix⟩ := matmulF_ok h
  rw [matmulF_eq a b ra rb ix hix] at h
  obtain ⟨c, hc, h⟩ := bind_ok h
  have hb1v : ∀ b1 : Arr R, b1 = (if ix.dual = true then b.phaseFlip [0] else b) →
      Valid b1 ∧ b1.fermi = true ∧ b1.indices = b.indices ∧ b1.sym = b.sym
        ∧ b1.charge = b.charge ∧ b1.oddpos = b.oddpos := by
    intro b1 hb1
    subst hb1
    split
    · obtain ⟨e1, e2, e3, e4, e5⟩ := phaseFlip_fields b [0]
      exact ⟨phaseFlip_valid b [0] hb hfb, by rw [e5]; exact hfb, e1, e2, e3, e4⟩
    · exact ⟨hb, hfb, rfl, rfl, rfl, rfl⟩
  obtain ⟨vb1, fb1, ib1, sb1, cb1, ob1⟩ := hb1v _ rfl
  generalize (if ix.dual = true then b.phaseFlip [0] else b) = b1 at *
  have va2 := phaseSync_valid a ha
  have vb2 := phaseSync_valid b1 vb1
  have hadm2 : matmulAdmissibleB a.phaseSync b1.phaseSync = true := by
    unfold matmulAdmissibleB at hadm ⊢
    show (decide (a.sym = b1.sym)
      && ((a.indices.getD (a.ndim - 1) default).dual != (b1.indices.getD 0 default).dual)) = true
    rw [sb1, ib1]; exact hadm
  obtain ⟨hcore, e1, e2, e3, e4, e5⟩ :=
    matmulA_core a.phaseSync b1.phaseSync c va2.core vb2.core hadm2 hc
  apply resolveCombinedOddpos_valid a.phaseSync b1.phaseSync c r hcore
    (by rw [e2]; exact hfa) (by rw [e4]; exact phasesOk_nil) _ h
  have hsa := ha.signs hfa
  have hsb := hb.signs hfb
  unfold matmulAdmissibleB at hadm
  simp only [Bool.and_eq_true, decide_eq_true_eq] at hadm
  show c.sym.parity c.charge = xor (a.oddpos.length % 2 == 1) (b1.oddpos.length % 2 == 1)
  rw [e1, e3]
  show a.sym.parity (a.sym.combine [a.charge, b1.charge]) = _
  rw [Sym.parity_combine_pair, cb1, ob1, hsa.2, hsb.2, hadm.1]

/-- shape contract of the per-block `eigh` kernel on a square block: eigenvectors `m × m` -/
def EighShapeContract (K : Kernels R) : Prop :=
  ∀ b : Blk R, b.shape.length = 2 → b.wf = true → b.shape.getD 0 0 = b.shape.getD 1 0 →
    (K.eigh b).2.shape = b.shape ∧ (K.eigh b).2.wf = true

theorem shapeOnly_eighContract [Zero R] : EighShapeContract (Kernels.shapeOnly : Kernels R) := by
  intro b h2 _ hsq
  refine ⟨?_, ofFn_wf _ _⟩
  show [b.shape.getD 0 0, b.shape.getD 0 0] = b.shape
  match hs : b.shape, h2 with
  | [m, n], _ =>
    rw [hs] at hsq
    simp only [List.getD_cons_zero, List.getD_cons_succ] at hsq ⊢
    rw [hsq]

/-- the eigenvector array of `eigh`, abelian or fermionic (`eighA` serves both); nothing is
    claimed here about the eigenvalue vector `w` -/
theorem eighA_valid [Neg R] (K : Kernels R) (a v : Arr R) (w : BVec R) (hv : Valid a)
    (hK : EighShapeContract K) (h : eighA K a = .ok (w, v)) : Valid v := by
  unfold eighA at h
  generalize ha1 : (if (a.fermi && !a.phases.isEmpty) = true then a.phaseSync else a) = a1 at h
  have hv1 : Valid a1 := by
    subst ha1
    split
    · exact phaseSync_valid a hv
    · exact hv
  obtain ⟨hnd, h⟩ := guard_ok h
  obtain ⟨_, h⟩ := guard_ok h
  obtain ⟨hsq, h⟩ := guard_ok h
  simp only [pure, Except.pure, Except.ok.injEq, Prod.mk.injEq] at h
  obtain ⟨_, rfl⟩ := h
  have hnd' : a1.ndim = 2 := by simpa using hnd
  refine ⟨hv1.idx, hv1.chg, ?_, ?_, hv1.sgn⟩
  · show (List.map (fun x : Sector × Blk R => x.1)
      ((a1.blocks.map (fun x : Sector × Blk R => (x.1, K.eigh x.2))).map _)).Nodup
    rw [List.map_map, List.map_map]
    exact hv1.nodup
  · intro sb hsb
    obtain ⟨sf, hsf, rfl⟩ := List.mem_map.mp hsb
    obtain ⟨⟨s, b⟩, h0, rfl⟩ := List.mem_map.mp hsf
    obtain ⟨a1', a2, a3⟩ := hv1.blk (s, b) h0
    have hlen : b.shape.length = 2 := by rw [(blockShape?_length a2).2]; exact hnd'
    have hsq' : b.shape.getD 0 0 = b.shape.getD 1 0 := by
      simp only [List.any_eq_true, not_exists, not_and, Bool.not_eq_true] at hsq
      simpa using hsq (s, b) h0
    obtain ⟨c1, c2⟩ := hK b hlen a3 hsq'
    exact ⟨a1', by simp only [c1]; exact a2, c2⟩

end ValidP
end SymmModel
