/-
  SymmModel.Proofs.FermiAction5 — an operator array with `n` ket and `n` bra legs applied to the
  first `n` legs of a state tensor (property C18, action clause, any number of sites): the graded
  contraction of C03 reduces to a matrix–vector product with the reversal sign of the contracted
  bra charges.
-/
import SymmModel.Proofs.FermiAction4

namespace SymmModel
namespace FermiActP
open FermiOpsP GradedP TdotP
open Lazy (sgnI)

theorem mem_drop_range {n m y : Nat} : y ∈ (List.range m).drop n ↔ n ≤ y ∧ y < m := by
  simp only [List.range_eq_range', List.drop_range', List.mem_range'_1]
  omega

theorem permuted_left {α : Type} {A B : List α} {n : Nat} (hA : A.length = n) :
    permuted (A ++ B) (List.range n) = A := hA ▸ permuted_append_left A B

theorem permuted_right {α : Type} {A B : List α} {n : Nat} (hA : A.length = n) (hB : B.length = n) :
    permuted (A ++ B) ((List.range (2 * n)).drop n) = B := by
  have := permuted_append_right A B
  rwa [hA, hB, ← Nat.two_mul] at this

theorem mergeIdx_left {α : Type} (d : α) (n : Nat) (k oL : List α) (hk : k.length = n)
    (hoL : oL.length = n) :
    mergeIdx d (2 * n) ((List.range (2 * n)).drop n) (List.range n) k oL = oL ++ k := by
  have hx : (oL ++ k).length = 2 * n := by simp [hk, hoL]; omega
  have := mergeIdx_permuted (d := d) (n := 2 * n) (axes := (List.range (2 * n)).drop n)
    (free := List.range n) (x := oL ++ k) hx
    (fun y hy => (mem_drop_range.mp hy).2)
    (fun y hy => by have := List.mem_range.mp hy; omega)
    (fun y hy => by
      by_cases h : y < n
      · right; exact List.mem_range.mpr h
      · left; exact mem_drop_range.mpr ⟨by omega, hy⟩)
  rwa [permuted_right hoL hk, permuted_left hoL] at this

theorem mergeIdx_right {α : Type} (d : α) (n m : Nat) (k oR : List α) (hk : k.length = n)
    (hoR : n + oR.length = m) :
    mergeIdx d m (List.range n) ((List.range m).drop n) k oR = k ++ oR := by
  have hx : (k ++ oR).length = m := by simp [hk, hoR]
  have := mergeIdx_permuted (d := d) (n := m) (axes := List.range n)
    (free := (List.range m).drop n) (x := k ++ oR) hx
    (fun y hy => by have := List.mem_range.mp hy; omega)
    (fun y hy => (mem_drop_range.mp hy).2)
    (fun y hy => by
      by_cases h : y < n
      · left; exact List.mem_range.mpr h
      · right; exact mem_drop_range.mpr ⟨by omega, hy⟩)
  have e2 : permuted (k ++ oR) ((List.range m).drop n) = oR := by
    have := permuted_append_right k oR
    rwa [hk, hoR] at this
  rwa [permuted_left hk, e2] at this

theorem without_drop_range {α : Type} (l : List α) (n : Nat) (h : n ≤ l.length) :
    without l ((List.range l.length).drop n) = l.take n := by
  rw [without_eq_permuted_freeAxes, freeAxes_drop l.length n h, ValidP.permuted_range_take l n]

theorem without_range_prefix {α : Type} (l : List α) (n : Nat) (h : n ≤ l.length) :
    without l (List.range n) = l.drop n := by
  rw [without_eq_permuted_freeAxes, freeAxes_range l.length n h, ValidP.permuted_range_drop l n]

theorem blockShape?_split {ixs : List Index} {s : Sector} {shp : List Nat} (n : Nat)
    (h : Arr.blockShape? ixs s = some shp) :
    Arr.blockShape? (ixs.take n) (s.take n) = some (shp.take n)
    ∧ Arr.blockShape? (ixs.drop n) (s.drop n) = some (shp.drop n) := by
  obtain ⟨h1, h2⟩ := (blockShape?_eq_some_iff _ _ _).mp h
  constructor
  · rw [blockShape?_eq_some_iff]
    refine ⟨by simp [h1], ?_⟩
    rw [← List.take_zipWith, h2, List.map_take]
  · rw [blockShape?_eq_some_iff]
    refine ⟨by simp [h1], ?_⟩
    rw [← List.drop_zipWith, h2, List.map_drop]

section applyn
variable {R : Type} [Ring R]

/-- the sign of reversing the odd charges of a list: `(-1)^(p(p-1)/2)`, `p` odd charges.  It is
    what the graded contraction produces (`gradedSign_op`); the `D` of `D·H·D` is
    `FermiOpsP.siteSign`, and the two agree on `ParityFaithful` labels (`revSign_eq_siteSign`) -/
def revSign (sym : Sym) (J : Sector) : Int :=
  (-1) ^ ((J.filter sym.parity).length * ((J.filter sym.parity).length - 1) / 2)

theorem revSign_pm (sym : Sym) (J : Sector) : revSign sym J = 1 ∨ revSign sym J = -1 := pow_pm _

omit [Ring R] in
/-- the sign of the graded contraction for an operator array: identity layouts, all contracted
    pairs bra-then-ket; what remains is the nesting (reversal) sign of the contracted charges -/
theorem gradedSign_op (G ψ : Arr R) (n : Nat) (hG : G.ndim = 2 * n)
    (hdual : ∀ ax ∈ (List.range (2 * n)).drop n, (G.indices.getD ax default).dual = true)
    (hm : n ≤ ψ.ndim) (sa sb : Sector) (hsa : sa.length = 2 * n) :
    gradedSign G ψ ((List.range (2 * n)).drop n) (List.range n) sa sb
      = revSign G.sym (sa.drop n) := by
  unfold gradedSign
  rw [hG, freeAxes_drop (2 * n) n (by omega), range_split (2 * n) n (by omega),
    freeAxes_range ψ.ndim n hm, range_split ψ.ndim n hm, KoszulP.koszul_id', KoszulP.koszul_id']
  have h1 : oddContracted G ((List.range (2 * n)).drop n) sa
      = ((sa.drop n).filter G.sym.parity).length := by
    unfold oddContracted
    have := ValidP.permuted_range_drop sa n
    rw [hsa] at this
    rw [this]
  have h2 : ketOdd G ((List.range (2 * n)).drop n) sa = 0 := by
    unfold ketOdd
    have : ((List.range (2 * n)).drop n).filter (fun ax => !(G.indices.getD ax default).dual) = [] := by
      rw [List.filter_eq_nil_iff]
      intro ax hax
      rw [hdual ax hax]; simp
    rw [this]; rfl
  rw [h1, h2]
  unfold revSign
  simp

/-- **an array with `n` ket legs then `n` bra legs applied to the first `n` legs of a state.**
    The pending labels merge with a sign `ph`, the charge is the combined one, and the element of
    the result at sector `L ++ Rr`, offsets `oL ++ oR` (`L`, `oL` the `n` ket legs) is `ph` times
    the sum, over the contracted sectors `Jd` and the offsets `k` inside them, of
    `G[L, Jd; oL, k] · ψ[Jd, Rr; k, oR]`, each sector with the sign of reversing its odd charges
    (`revSign`, from `gradedSign_op`).  The sum is `TdotP.sum_storedPairs_Ks`: absent blocks count
    as zero, so it runs over all of `cartesian`. -/
theorem apply_op (G ψ c : Arr R) (n : Nat) (hGn : G.ndim = 2 * n)
    (hdual : ∀ ax ∈ (List.range (2 * n)).drop n, (G.indices.getD ax default).dual = true)
    (hG : G.validB = true) (hψ : ψ.validB = true) (hfG : G.fermi = true) (hfψ : ψ.fermi = true)
    (hadm : ValidP.tdotAdmissibleB G ψ ((List.range (2 * n)).drop n) (List.range n) = true)
    (h : G.tensordotF ψ (.pair (((List.range (2 * n)).drop n).map Int.ofNat)
        ((List.range n).map Int.ofNat)) .blockwise = .ok c) :
    ∃ out ph, OddposP.mergeOddpos G.parity G.oddpos ψ.oddpos = .ok (out, ph) ∧ c.oddpos = out
      ∧ c.charge = G.sym.combine [G.charge, ψ.charge]
      ∧ ∀ (L Rr : Sector) (oL oR shp : List Nat), L.length = n → oL.length = n →
          Arr.blockShape? (G.indices.take n ++ ψ.indices.drop n) (L ++ Rr) = some shp →
          inBox shp (oL ++ oR) = true →
          c.elem (L ++ Rr) (oL ++ oR) = sgnI ph
            (((cartesian ((G.indices.drop n).map Index.cm)).map (fun Jd =>
              sgnI (revSign G.sym (Jd.map (·.1)))
                (((allIdx (Jd.map (·.2))).map (fun k =>
                  G.elem (L ++ Jd.map (·.1)) (oL ++ k)
                    * ψ.elem (Jd.map (·.1) ++ Rr) (k ++ oR))).sum))).sum) := by
  obtain ⟨out, ph, h1, h2, h3, h4⟩ := tensordotF_graded G ψ c _ _ hG hψ hfG hfψ hadm h
  refine ⟨out, ph, h1, h2, h3, ?_⟩
  intro L Rr oL oR shp hL hoL hshp hbox
  obtain ⟨_, hc, hnA, hnB, hA, hB⟩ := ValidP.tdotAdmissibleB_iff.mp hadm
  have hm : n ≤ ψ.ndim := by
    cases n with
    | zero => omega
    | succ n' => have := hB n' (List.mem_range.mpr (by omega)); omega
  have hGnd := Arr.validB_nodup hG
  have hGsorted := Arr.validB_keys_sorted hG
  have hψnd := Arr.validB_nodup hψ
  have hGil : G.indices.length = 2 * n := hGn
  have hψil : ψ.indices.length = ψ.ndim := rfl
  have hibl : (G.indices.drop n).length = n := by simp [hGil]; omega
  have hibnd : ∀ ix ∈ G.indices.drop n, (ix.cm.map (·.1)).Nodup := fun ix hix =>
    nodup_of_pairwise_lt (hGsorted ix (List.mem_of_mem_drop hix))
  have hRr : n + Rr.length = ψ.ndim := by
    have := (blockShape?_length hshp).1
    simp only [List.length_append, List.length_take, List.length_drop, hGil, hψil] at this
    omega
  have hoR : n + oR.length = ψ.ndim := by
    have l1 := inBox_length hbox
    have l2 := Arr.blockShape?_shape_length hshp
    simp only [List.length_append, List.length_take, List.length_drop, hGil, hψil] at l1 l2
    omega
  have hwG : without G.indices ((List.range (2 * n)).drop n) = G.indices.take n := by
    have := without_drop_range G.indices n (by omega)
    rw [hGil] at this; exact this
  have hwψ : without ψ.indices (List.range n) = ψ.indices.drop n :=
    without_range_prefix ψ.indices n (by omega)
  rw [h4 (L ++ Rr) oL oR
    (by rw [hGn, freeAxes_drop (2 * n) n (by omega), List.length_range]; exact hoL)
    (by rw [hwG, hwψ]; unfold Arr.blockShapeD; rw [hshp]; exact hbox)]
  congr 1
  unfold gradedContract
  -- the stored pairs as the tuples `J` of bra charges: `(L ++ J, J ++ Rr)`
  have htab : DenseP.tables (G.indices.drop n) = (G.indices.drop n).map Index.cm :=
    List.map_congr_left fun ix hix => sortCm_of_sorted (by
      have := hGsorted ix (List.mem_of_mem_drop hix)
      rw [List.pairwise_map] at this
      exact this.imp (fun {a b} h => Charge.lt_asymm h))
  have hshJ : ∀ Jd ∈ cartesian ((G.indices.drop n).map Index.cm),
      Arr.blockShape? (G.indices.drop n) (Jd.map (·.1)) = some (Jd.map (·.2)) :=
    fun Jd hJd => DenseP.blockShape?_of_mem_cartesian hibnd (htab ▸ hJd)
  have hfst : ∀ Jd ∈ cartesian ((G.indices.drop n).map Index.cm), (Jd.map (·.1)).length = n :=
    fun Jd hJd => by rw [(blockShape?_length (hshJ Jd hJd)).1, hibl]
  rw [sum_storedPairs_Ks G ψ ((List.range (2 * n)).drop n) (List.range n) (allDistinct_iff_nodup.mpr hGnd) (allDistinct_iff_nodup.mpr hψnd)
    (Arr.shapesOk_of_validB hG) (Arr.shapesOk_of_validB hψ) hnA hA hnB hB (contractible_len hc)
    ((cartesian ((G.indices.drop n).map Index.cm)).map (List.map (·.1)))
    (by
      rw [← cartesian_map, List.map_map]
      exact cartesian_nodup (fun l hl => by
        obtain ⟨ix, hix, rfl⟩ := List.mem_map.mp hl
        exact hibnd ix hix))
    (fun K hK => by
      obtain ⟨Jd, hJd, rfl⟩ := List.mem_map.mp hK
      rw [hfst Jd hJd, List.length_drop, List.length_range]; omega)
    (fun sa hsa => by
      have hGlen := Arr.validB_length hG
      have la := hGlen sa hsa
      rw [hGn] at la
      have e : permuted sa ((List.range (2 * n)).drop n) = sa.drop n := by
        have := ValidP.permuted_range_drop sa n; rwa [la] at this
      rw [e]
      obtain ⟨shp, hshp', _⟩ := shape_of_mem (Arr.shapesOk_of_validB hG) hsa
      rw [← cartesian_map, ← htab]
      exact DenseP.mem_cartesian_of_blockShape? (blockShape?_split n hshp').2)
    L Rr (by rw [hGn, freeAxes_drop (2 * n) n (by omega), List.length_range]; exact hL)
    (by rw [freeAxes_range ψ.ndim n hm]; simp; omega)
    (fun p => sgnI (gradedSign G ψ ((List.range (2 * n)).drop n) (List.range n) p.1 p.2)
      (contractPair G ψ ((List.range (2 * n)).drop n) (List.range n) oL oR p))
    (fun p hp => by
      rw [contractPair_eq_zero zero_mul mul_zero G ψ _ _ oL oR p hp]; exact Lazy.sgnI_zero _),
    List.map_map]
  congr 1
  apply List.map_congr_left
  intro Jd hJd
  have hJ := hfst Jd hJd
  simp only [Function.comp, mergeSec]
  rw [hGn, freeAxes_drop (2 * n) n (by omega), freeAxes_range ψ.ndim n hm,
    mergeIdx_left _ n _ L hJ hL, mergeIdx_right _ n ψ.ndim _ Rr hJ hRr]
  by_cases hsA : L ++ Jd.map (·.1) ∈ G.sectors
  · obtain ⟨shp, hshp', hsh, hshl, _⟩ := shape_of_mem (Arr.shapesOk_of_validB hG) hsA
    have hdr : shp.drop n = Jd.map (·.2) := by
      have := (blockShape?_split n hshp').2
      rw [show (L ++ Jd.map (·.1)).drop n = Jd.map (·.1) by rw [← hL]; exact List.drop_left,
        hshJ Jd hJd] at this
      exact (Option.some.inj this).symm
    have hsl : (shp.take n).length = n := by rw [List.length_take, hshl, hGn]; omega
    rw [← List.take_append_drop n shp, hdr] at hsh
    rw [gradedSign_op G ψ n hGn hdual hm _ _ (by simp [hL, hJ]; omega),
      show (L ++ Jd.map (·.1)).drop n = Jd.map (·.1) by rw [← hL]; exact List.drop_left]
    congr 1
    unfold contractPair
    simp only
    rw [hsh]
    have hds : (Jd.map (·.2)).length = n := by rw [List.length_map, ← hJ, List.length_map]
    rw [permuted_right hsl hds]
    congr 1
    apply List.map_congr_left
    intro k hk
    have hkl : k.length = n := by
      have := inBox_length (mem_allIdx.mp hk)
      rw [hds] at this; exact this
    simp only [contractTerm]
    rw [hGn, freeAxes_drop (2 * n) n (by omega), freeAxes_range ψ.ndim n hm,
      mergeIdx_left 0 n k oL hkl hoL, mergeIdx_right 0 n ψ.ndim k oR hkl hoR]
  · rw [contractPair_eq_zero zero_mul mul_zero G ψ _ _ oL oR _ (Or.inl hsA), Lazy.sgnI_zero,
      List.sum_eq_zero (List.forall_mem_map.mpr fun k _ => by rw [Arr.elem_of_not_mem hsA, zero_mul]),
      Lazy.sgnI_zero]

end applyn

end FermiActP
end SymmModel
