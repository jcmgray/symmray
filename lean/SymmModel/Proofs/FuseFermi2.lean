/-
  SymmModel.Proofs.FuseFermi2 — fermionic fuse: after the transposition the groups are consecutive
  runs of axes in order, so the permutation of the inner `_fuse_core` is the identity.
-/
import SymmModel.Proofs.FuseFermi1
import Mathlib.Data.List.Sort
namespace SymmModel
namespace FuseP

variable {R : Type}

theorem indexOf?_perm_flatten {groups : List (List Nat)} {duals : List Bool} (hok : GroupsOk groups duals.length)
    {t : Nat} (ht : t < groups.flatten.length) :
    indexOf? (calcFuseGroupInfo groups duals).perm groups.flatten[t]
      = some ((calcFuseGroupInfo groups duals).position + t) := by
  have hnd := perm_nodup hok.adm
  have hlen : (calcFuseGroupInfo groups duals).position + t < (calcFuseGroupInfo groups duals).perm.length := by
    rw [perm_eq, axesBefore_range _ _]; simp only [List.length_append, List.length_range]; omega
  have hget : (calcFuseGroupInfo groups duals).perm[(calcFuseGroupInfo groups duals).position + t]
      = groups.flatten[t] := by
    have h1 : (calcFuseGroupInfo groups duals).perm[(calcFuseGroupInfo groups duals).position + t]?
        = some groups.flatten[t] := by
      rw [perm_eq, axesBefore_range _ _, List.append_assoc, List.getElem?_append_right (by simp),
        List.getElem?_append_left (by simpa using ht)]
      simp [List.getElem?_eq_getElem ht]
    rw [List.getElem?_eq_getElem hlen] at h1
    simpa using h1
  rw [← hget]
  exact indexOf?_getElem hnd hlen

theorem newGroupsF_flatten {groups : List (List Nat)} {duals : List Bool} (hok : GroupsOk groups duals.length) :
    (newGroupsF groups duals).flatten
      = (List.range groups.flatten.length).map (fun t => (calcFuseGroupInfo groups duals).position + t) := by
  have h1 : (newGroupsF groups duals).flatten
      = groups.flatten.map (fun ax => (indexOf? (calcFuseGroupInfo groups duals).perm ax).getD 0) := by
    simp only [newGroupsF, List.map_flatten]
  rw [h1]
  apply List.ext_getElem (by simp only [List.length_map, List.length_range])
  intro t h1 h2
  simp only [List.length_map] at h1
  simp only [List.getElem_map, List.getElem_range, indexOf?_perm_flatten hok h1, Option.getD_some]

theorem flatten_le {groups : List (List Nat)} {duals : List Bool} (hok : GroupsOk groups duals.length) :
    (calcFuseGroupInfo groups duals).position + groups.flatten.length
      + (calcFuseGroupInfo groups duals).axesAfter.length = duals.length := by
  have := perm_length hok.adm
  rw [perm_eq, axesBefore_range _ _] at this
  simp only [List.length_append, List.length_range] at this
  exact this

theorem newGroupsF_ok {groups : List (List Nat)} {duals : List Bool} (hok : GroupsOk groups duals.length) :
    GroupsOk (newGroupsF groups duals) duals.length := by
  refine ⟨?_, ?_, ?_, ?_⟩
  · intro h; exact hok.ne (by simpa [newGroupsF] using h)
  · intro g hg
    simp only [newGroupsF, List.mem_map] at hg
    obtain ⟨g0, hg0, rfl⟩ := hg
    intro h; exact hok.gne g0 hg0 (by simpa using h)
  · intro ax hax
    rw [newGroupsF_flatten hok] at hax
    simp only [List.mem_map, List.mem_range] at hax
    obtain ⟨t, ht, rfl⟩ := hax
    have := flatten_le hok; omega
  · rw [newGroupsF_flatten hok]
    apply List.Nodup.map_on _ List.nodup_range
    intro x _ y _ h; omega

theorem newGroupsF_length (groups : List (List Nat)) (duals : List Bool) :
    (newGroupsF groups duals).length = groups.length := by simp [newGroupsF]

theorem newGroupsF_getElem? (groups : List (List Nat)) (duals : List Bool) (g : Nat) :
    (newGroupsF groups duals)[g]?
      = groups[g]?.map (fun gx => gx.map (fun ax => (indexOf? (calcFuseGroupInfo groups duals).perm ax).getD 0)) := by
  simp [newGroupsF]

theorem multiB_newGroupsF (groups : List (List Nat)) (duals : List Bool) (g : Nat) :
    multiB (newGroupsF groups duals) g = multiB groups g := by
  simp only [multiB, newGroupsF_getElem?]
  cases groups[g]? <;> simp

theorem newGroups_plan {groups : List (List Nat)} {duals duals' : List Bool} (hok : GroupsOk groups duals.length)
    (hd : duals'.length = duals.length) :
    (calcFuseGroupInfo (newGroupsF groups duals) duals').position = (calcFuseGroupInfo groups duals).position
    ∧ (calcFuseGroupInfo (newGroupsF groups duals) duals').perm = List.range duals.length
    ∧ (calcFuseGroupInfo (newGroupsF groups duals) duals').axesAfter.length
        = (calcFuseGroupInfo groups duals).axesAfter.length := by
  have hok2 : GroupsOk (newGroupsF groups duals) duals'.length := by rw [hd]; exact newGroupsF_ok hok
  have hpos : (calcFuseGroupInfo (newGroupsF groups duals) duals').position
      = (calcFuseGroupInfo groups duals).position := by
    obtain ⟨h1, h2⟩ := position_spec hok2
    rw [newGroupsF_flatten hok] at h1 h2
    simp only [List.mem_map, List.mem_range] at h1
    obtain ⟨t, _, ht⟩ := h1
    have hne := hok.flatten_ne
    have hl : 0 < groups.flatten.length := List.length_pos_iff.2 hne
    have := h2 ((calcFuseGroupInfo groups duals).position + 0)
      (List.mem_map.2 ⟨0, List.mem_range.2 hl, rfl⟩)
    omega
  have hperm : (calcFuseGroupInfo (newGroupsF groups duals) duals').perm = List.range duals.length := by
    have hp := calcFuseGroupInfo_perm hok2.adm
    rw [hd] at hp
    apply List.Perm.eq_of_pairwise (le := fun x y => x < y) _ _ List.pairwise_lt_range hp
    · intro a b _ _ h1 h2; omega
    · rw [perm_eq, axesBefore_range _ _, hpos, newGroupsF_flatten hok]
      rw [List.pairwise_append, List.pairwise_append]
      refine ⟨⟨List.pairwise_lt_range, ?_, ?_⟩, ?_, ?_⟩
      · rw [List.pairwise_map]
        exact List.pairwise_lt_range.imp (fun h => by omega)
      · intro x hx y hy
        simp only [List.mem_range] at hx
        simp only [List.mem_map, List.mem_range] at hy
        obtain ⟨t, _, rfl⟩ := hy; omega
      · simp only [calcFuseGroupInfo]
        exact (List.pairwise_lt_range.sublist List.filter_sublist).sublist List.filter_sublist
      · intro x hx y hy
        rw [mem_axesAfter] at hy
        rw [hpos, newGroupsF_flatten hok] at hy
        have hyn : ∀ t, t < groups.flatten.length → y ≠ (calcFuseGroupInfo groups duals).position + t := by
          intro t ht he
          exact hy.2.2 (List.mem_map.2 ⟨t, List.mem_range.2 ht, he.symm⟩)
        have hyge : (calcFuseGroupInfo groups duals).position + groups.flatten.length ≤ y := by
          by_contra hlt
          exact hyn (y - (calcFuseGroupInfo groups duals).position) (by omega) (by omega)
        rcases List.mem_append.1 hx with hx | hx
        · simp only [List.mem_range] at hx; omega
        · simp only [List.mem_map, List.mem_range] at hx
          obtain ⟨t, ht, rfl⟩ := hx; omega
  refine ⟨hpos, hperm, ?_⟩
  have h1 := flatten_le hok2
  have h2 := flatten_le hok
  rw [hpos, newGroupsF_flatten hok] at h1
  simp only [List.length_map, List.length_range] at h1
  omega

end FuseP
end SymmModel
