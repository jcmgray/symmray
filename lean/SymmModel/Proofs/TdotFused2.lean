/-
  SymmModel.Proofs.TdotFused2 — an operand fused into groups that cover all its axes (`Cover`; the
  call form of `tensordotViaFused` has at most two): the fused array has one axis per group and
  every element of it is the original's element at the decoded address, zero blocks included
  (`cover_elem`, a case of the element map of `_fuse_core` for arbitrary groups, `multi_elem`).
  Decoding one fused axis (`decAx`), an axis that may be missing because its group is empty
  (`LegDec`, `legIdx`, `legKey`), and the sum over the positions of a fused bond as a sum over its
  sub-sectors and offsets (`sum_decAx`).

  Vocabulary from FuseMulti1–6 (`FuseP`, suffix `M` = fuse into several groups `G` at once):
  `giM A G` the group info of `calc_fuse_group_info` (`.position`, `.axesBefore`, `.axesAfter`,
  `.perm`); `newIdxM A G` / `ndimM A G` / `fusedArrM A G` the indices, rank and array after the
  fuse; for group number `g`: `multiB G g` (more than one axis: gets a table), `ixM A G g` its index,
  `extsM A G g` that index's extents; for a stored block `sb`: `planM A G sb` its block plan,
  `ssM sb g` / `cM sb g` its sub-sector / fused charge on group `g`; `segM A G ns i g` the
  (sub-charges, sub-offsets) group `g` contributes to the expanded address of `(ns, i)`.

  The records that say "the blockwise result up to all-zero blocks and pruned tables", one per
  layer, from the inside outwards (each is proved from the one before it):
  * `AlignedOk A B xa xb c` (TdotFused7) — `c` against the blockwise product of the ALIGNED abelian
    operands (`A`, `B` = the two components of `dropMisaligned`); the conclusion of `Ctx0.fused`.
    Its only reader is `abOk_all_ctx`.
  * `AbRes a b xa xb c`, and `AbOk` = the fused call succeeds with such a `c` (TdotFused7) — the
    same against the operands `a`, `b` of the call themselves, plus "a stored block has the shape
    the operands' free tables give".  `abOk_all` proves it for every call.  The record to use for
    valid abelian operands.
  * `SameView c bw` (TdotFused9) — two arrays only, no operands, no tables: equal fields and rank,
    the sectors of `bw` stored in `c`, the values of `bw` on every stored entry of `c`.  The
    property statements of Props/C06b–d spell out exactly these clauses.
  * `KernelOk X Y xa xb` (TdotFused10) — `AbOk` for operands of ANY kind with synced signs: the
    fused call succeeds, `SameView` with the blockwise result, distinct keys, pruned tables, block
    shapes.  `kernelOk_of_abOk` takes `AbOk` of the abelianised operands (`ab`, TdotFused8) to it;
    `kernelOk_all` (TdotFused10) and `kernelOk_all_w` (TdotFusedW2, weak guard) are the theorems.
    The record to use under `Arr.tensordotF`.
  * `Pad P Q` (TdotFusedS1) — two arrays again, stated on the boxes of the index tables
    (`blockShapeD`), with distinct keys and `shapesOk` on both sides: exactly what the graded
    contraction needs in order not to tell `P` from `Q` (`gradedContract_congr`).  The record to use
    when the result becomes an OPERAND of a further contraction (S7, `call_w` in TdotChain1).
    `Pad.of_frame` builds it from the clauses of `SameView` and a common frame of both tables.
  `C06.OwnBox c s o` (Props/C06c) is not a sixth record but a side condition on an address ("inside
  `c`'s own block for `s`, if it stores one"); it follows from the table box by the `shape` clause
  of `AbRes` / `KernelOk` (`ownBox_of_table`, TdotFused6).
-/
import SymmModel.Proofs.TdotFused1

namespace SymmModel
namespace TdotP
variable {R : Type}

/-- non-empty groups that together list every axis exactly once -/
structure Cover (A : Arr R) (G : List (List Nat)) : Prop where
  ok : FuseP.GroupsOk G A.ndim
  all : ∀ ax, ax < A.ndim → ax ∈ G.flatten

section Cover
variable {A : Arr R} {G : List (List Nat)}

theorem Cover.of_perm (hne : G ≠ []) (hg : ∀ g ∈ G, g ≠ [])
    (hp : G.flatten.Perm (List.range A.ndim)) : Cover A G :=
  ⟨⟨hne, hg, fun _ hax => List.mem_range.mp (hp.subset hax), hp.nodup_iff.mpr List.nodup_range⟩,
    fun _ hax => hp.symm.subset (List.mem_range.mpr hax)⟩

theorem Cover.ndim_pos (h : Cover A G) : 0 < A.ndim := by
  obtain ⟨g, gs, hG⟩ := List.exists_cons_of_ne_nil h.ok.ne
  obtain ⟨x, xs, hg⟩ := List.exists_cons_of_ne_nil (h.ok.gne g (by simp [hG]))
  exact Nat.zero_lt_of_lt (h.ok.lt x (by simp [hG, hg]))

theorem cover_position (h : Cover A G) : (FuseP.giM A G).position = 0 :=
  Nat.eq_zero_of_le_zero ((FuseP.position_spec (FuseP.hokD h.ok)).2 0 (h.all 0 h.ndim_pos))

theorem cover_after (h : Cover A G) : (FuseP.giM A G).axesAfter = [] := by
  rw [List.eq_nil_iff_forall_not_mem]
  intro ax hax
  obtain ⟨h1, _, h3⟩ := FuseP.mem_axesAfter.mp hax
  rw [FuseP.duals_length] at h1
  exact h3 (h.all ax h1)

theorem cover_ndimM (h : Cover A G) : FuseP.ndimM A G = G.length := by
  simp [FuseP.ndimM, cover_position h, cover_after h]

theorem cover_newIdx (h : Cover A G) :
    FuseP.newIdxM A G = (List.range G.length).map (FuseP.ixM A G) := by
  apply List.ext_getElem
  · rw [FuseP.newIdxM_length h.ok.adm, cover_ndimM h]; simp
  · intro g h1 h2
    simp [FuseP.ixM, cover_position h, List.getD_eq_getElem?_getD, List.getElem?_eq_getElem h1]

theorem cover_newSector (h : Cover A G) (sb : Sector × Blk R) :
    (FuseP.planM A G sb).newSector = (List.range G.length).map (FuseP.cM (a := A) (groups := G) sb) := by
  rw [FuseP.nsM_parts h.ok.adm, cover_position h, cover_after h]
  simp

theorem fused_cover_validB [Zero R] (hv : A.validB = true) (hf : A.fermi = false) (hc : Cover A G) :
    (FuseP.fusedArrM A G).validB = true := by
  exact FuseP.fusedArrM_validB hv hf hc.ok.adm

/-- decoding of one axis of the fused array: a single-axis group keeps charge and offset, a
    multi-axis group reads them from the fused index's own table -/
def decAx (A : Arr R) (G : List (List Nat)) (g : Nat) (c : Charge) (i : Nat) : Option (Sector × List Nat) :=
  if FuseP.multiB G g then FuseP.splitAddr (FuseP.ixM A G g) c i else some ([c], [i])

/-- A free group that may be empty, read as an optional axis of the fused array.
    `grp` is the group, a list of axis numbers, possibly `[]`; `p` is its position in the list `G` of
    non-empty groups (the argument `g` of `decAx`).
    `(cs, is)` is the address on that fused axis: `([c], [i])`, or `([], [])` when `grp = []` and the
    axis does not exist.
    `(S, O)` is what the address decodes to: the sub-sector and the sub-offsets on the axes of `grp`
    (both `[]` when `grp = []`). -/
def LegDec (A : Arr R) (G : List (List Nat)) (grp : List Nat) (p : Nat) (cs : Sector) (is : List Nat)
    (S : Sector) (O : List Nat) : Prop :=
  if grp = [] then cs = [] ∧ is = [] ∧ S = [] ∧ O = []
  else ∃ c i d, cs = [c] ∧ is = [i] ∧ decAx A G p c i = some (S, O)
    ∧ (FuseP.ixM A G p).sizeOf? c = some d ∧ i < d

section legdec
variable {A : Arr R} {G : List (List Nat)} {g : List Nat} {p : Nat} {cs : Sector} {is : List Nat}
  {S : Sector} {O : List Nat}

theorem LegDec.of_nil (hg : g = []) (h : LegDec A G g p cs is S O) :
    cs = [] ∧ is = [] ∧ S = [] ∧ O = [] := by
  unfold LegDec at h; rwa [if_pos hg] at h

theorem LegDec.of_ne (hg : g ≠ []) (h : LegDec A G g p cs is S O) :
    ∃ c i d, cs = [c] ∧ is = [i] ∧ decAx A G p c i = some (S, O)
      ∧ (FuseP.ixM A G p).sizeOf? c = some d ∧ i < d := by
  unfold LegDec at h; rwa [if_neg hg] at h

theorem LegDec.nil (hg : g = []) : LegDec A G g p [] [] [] [] := by
  unfold LegDec; rw [if_pos hg]; exact ⟨rfl, rfl, rfl, rfl⟩

theorem LegDec.one (hg : g ≠ []) {c : Charge} {i d : Nat} (hd : decAx A G p c i = some (S, O))
    (hz : (FuseP.ixM A G p).sizeOf? c = some d) (hi : i < d) : LegDec A G g p [c] [i] S O := by
  unfold LegDec; rw [if_neg hg]; exact ⟨c, i, d, rfl, rfl, hd, hz, hi⟩

end legdec

/-- the pruned fused index of an optional leg, as the product `X` has it at axis `ax` -/
def legIdx (A : Arr R) (G : List (List Nat)) (g : List Nat) (p : Nat) (X : Arr R) (ax : Nat) : List Index :=
  if g = [] then [] else [dropTo (FuseP.ixM A G p) (X.sectors.filterMap (fun s => s[ax]?))]

theorem dropUnused_legs (A B : Arr R) (GA GB : List (List Nat)) (gA gB : List Nat) (pA pB : Nat) (X : Arr R) :
    dropUnused ((if gA = [] then [] else [FuseP.ixM A GA pA]) ++ (if gB = [] then [] else [FuseP.ixM B GB pB]))
        X.sectors
      = legIdx A GA gA pA X 0 ++ legIdx B GB gB pB X (if gA = [] then 0 else 1) := by
  rw [dropUnused_eq]
  by_cases hA : gA = [] <;> by_cases hB : gB = [] <;> simp [legIdx, hA, hB, List.zipIdx]

/-- the fused charge of a stored sector on an optional leg -/
def legKey (A : Arr R) (G : List (List Nat)) (g : List Nat) (p : Nat) (sb : Sector × Blk R) : Sector :=
  if g = [] then [] else [FuseP.cM (a := A) (groups := G) sb p]

theorem cM_of_dec (hv : FuseP.ValidArr A) {G : List (List Nat)} (hok : FuseP.GroupsOk G A.ndim) {g : Nat}
    {gaxes : List Nat} (hg : G[g]? = some gaxes) {c : Charge} {i : Nat} {S : Sector} {O : List Nat}
    (hdec : decAx A G g c i = some (S, O)) {sb : Sector × Blk R} (hl : sb.1.length = A.ndim)
    (hS : permuted sb.1 gaxes = S) : FuseP.cM (a := A) (groups := G) sb g = c := by
  have hlt : ∀ x ∈ gaxes, x < sb.1.length := by
    intro x hx; rw [hl]; exact FuseP.groupM_lt hok.adm hg x hx
  have hss : FuseP.ssM (a := A) (groups := G) sb g = S := by
    rw [FuseP.ssM_eq hg, ← hS, permuted_eq_map _ _ hlt (0, 0)]
  by_cases hlen : gaxes.length = 1
  · have hm : FuseP.multiB G g = false := FuseP.multiB_single hg hlen
    simp only [decAx, hm, Bool.false_eq_true, if_false, Option.some.injEq, Prod.mk.injEq] at hdec
    rw [FuseP.cM_single hok.adm hg hlen]
    match gaxes, hlen with
    | [ax], _ =>
      have h0 : ax < sb.1.length := hlt ax (by simp)
      rw [← hdec.1] at hS
      simp only [permuted, List.filterMap_cons, List.getElem?_eq_getElem h0, List.filterMap_nil,
        List.cons.injEq, and_true] at hS
      simp [List.getD_eq_getElem?_getD, List.getElem?_eq_getElem h0, hS]
  · have hm : FuseP.multiB G g = true := FuseP.multiB_iff.2 ⟨_, hg, hlen⟩
    simp only [decAx, hm, if_true] at hdec
    obtain ⟨_, subs, exts, shp, hsub, _, _, hcomb⟩ :=
      FuseP.joinAddr_splitAddr (FuseP.ixM_wf hv hok.adm _) hdec
    rw [FuseP.ixM_sub hok.adm hg hlen] at hsub
    simp only [Option.some.injEq, Prod.mk.injEq] at hsub
    rw [FuseP.cM_eq_combine hok.adm hg hlen, hss, ← hcomb, FuseP.ixM_dual hok.adm hg hlen, hsub.1]

theorem segM_of_dec {G : List (List Nat)} {g : Nat} {ns : Sector} {i : List Nat} {S : Sector}
    {O : List Nat}
    (hdec : decAx A G g (ns.getD ((FuseP.giM A G).position + g) (0, 0))
      (i.getD ((FuseP.giM A G).position + g) 0) = some (S, O)) :
    FuseP.segM A G ns i g = (S, O) := by
  unfold decAx at hdec
  unfold FuseP.segM
  split
  · rename_i hm; rw [if_pos hm] at hdec; rw [hdec]; rfl
  · rename_i hm; rw [if_neg hm] at hdec
    simpa using hdec

section Multi
variable {X : Arr R} {G : List (List Nat)}

/-- **element map of `_fuse_core`, arbitrary groups, every address of the table box.** -/
theorem multi_elem [Zero R] [Neg R] (hv : FuseP.ValidArr X) (hph : X.phases = [])
    (hok : FuseP.GroupsOk G X.ndim) {ns : Sector} {i shp : List Nat}
    (hshp : Arr.blockShape? (FuseP.newIdxM X G) ns = some shp) (hbox : inBox shp i = true)
    {s : Sector} {offs : List Nat} (hs : s.length = X.ndim) (ho : offs.length = X.ndim)
    (hdec : ∀ g gaxes, G[g]? = some gaxes →
      decAx X G g (ns.getD ((FuseP.giM X G).position + g) (0, 0)) (i.getD ((FuseP.giM X G).position + g) 0)
        = some (permuted s gaxes, permuted offs gaxes))
    (hbef : ∀ x, x < (FuseP.giM X G).position →
      ns.getD x (0, 0) = s.getD x (0, 0) ∧ i.getD x 0 = offs.getD x 0)
    (haft : ∀ j, j < (FuseP.giM X G).axesAfter.length →
      ns.getD ((FuseP.giM X G).position + G.length + j) (0, 0)
          = s.getD ((FuseP.giM X G).axesAfter.getD j 0) (0, 0)
      ∧ i.getD ((FuseP.giM X G).position + G.length + j) 0
          = offs.getD ((FuseP.giM X G).axesAfter.getD j 0) 0) :
    (FuseP.fusedArrM X G).elem ns i = X.elem s offs := by
  have hnl : ns.length = FuseP.ndimM X G := by
    rw [(blockShape?_length hshp).1, FuseP.newIdxM_length hok.adm]
  have hil : i.length = FuseP.ndimM X G := by
    rw [inBox_length hbox, (blockShape?_length hshp).2, FuseP.newIdxM_length hok.adm]
  have hlt : ∀ g gaxes, G[g]? = some gaxes → ∀ x ∈ gaxes, x < X.ndim := fun g gaxes hg =>
    FuseP.groupM_lt hok.adm hg
  have hseg : ∀ g, g < G.length →
      FuseP.segM X G ns i g = (permuted s (G.getD g []), permuted offs (G.getD g [])) := by
    intro g hg
    have hgg : G[g]? = some G[g] := List.getElem?_eq_getElem hg
    have : G.getD g [] = G[g] := by simp [List.getD_eq_getElem?_getD, hgg]
    rw [this]
    exact segM_of_dec (hdec g _ hgg)
  have hpm : ∀ {α : Type} (l : List α) (d : α), l.length = X.ndim → ∀ g, g < G.length →
      permuted l (G.getD g []) = (G.getD g []).map (fun ax => l.getD ax d) := by
    intro α l d hl g hg
    have hgg : G[g]? = some G[g] := List.getElem?_eq_getElem hg
    have : G.getD g [] = G[g] := by simp [List.getD_eq_getElem?_getD, hgg]
    rw [this]
    exact permuted_eq_map _ _ (by intro x hx; rw [hl]; exact hlt g _ hgg x hx) d
  have hK : permuted s (FuseP.giM X G).perm = FuseP.expandK X G ns i := by
    rw [FuseP.permutedM_eq hok.adm s (0, 0) hs, FuseP.expandK_parts ns i hnl]
    refine congrArg₂ (· ++ ·) ?_ ?_
    · refine congrArg₂ (· ++ ·) ?_ ?_
      · apply List.map_congr_left
        intro x hx
        exact ((hbef x (List.mem_range.mp hx)).1).symm
      · congr 1
        apply List.map_congr_left
        intro g hg
        have hg' := List.mem_range.mp hg
        rw [hseg g hg', hpm s (0, 0) hs g hg']
    · apply List.map_congr_left
      intro j hj
      exact ((haft j (List.mem_range.mp hj)).1).symm
  have hJ : permuted offs (FuseP.giM X G).perm = FuseP.expandJ X G ns i := by
    rw [FuseP.permutedM_eq hok.adm offs 0 ho, FuseP.expandJ_parts ns i hil]
    refine congrArg₂ (· ++ ·) ?_ ?_
    · refine congrArg₂ (· ++ ·) ?_ ?_
      · apply List.map_congr_left
        intro x hx
        exact ((hbef x (List.mem_range.mp hx)).2).symm
      · congr 1
        apply List.map_congr_left
        intro g hg
        have hg' := List.mem_range.mp hg
        rw [hseg g hg', hpm offs 0 ho g hg']
    · apply List.map_congr_left
      intro j hj
      exact ((haft j (List.mem_range.mp hj)).2).symm
  rw [Arr.elem_of_phases_nil (show (FuseP.fusedArrM X G).phases = [] from hph),
    Arr.elem_of_phases_nil hph]
  show (match alookup (FuseP.fusedBlocksM X G) ns with
    | none => 0
    | some blk => blk.get i) = _
  cases hB : alookup (FuseP.fusedBlocksM X G) ns with
  | some B =>
    simp only []
    obtain ⟨sb0, hsb0, hns0, hBs⟩ := FuseP.fusedBlockM_info hv hok.adm hB
    have hshape := FuseP.shape_storedM hv hok.adm hsb0
    rw [hns0, hshp] at hshape
    have hib : inBox B.shape i = true := by
      rw [hBs, ← Option.some.inj hshape]; exact hbox
    obtain ⟨_, hget⟩ := FuseP.fused_getM hv hok hB hib
    rw [(hget s offs hs ho hK hJ).1]
    cases alookup X.blocks s <;> rfl
  | none =>
    simp only []
    cases hb : alookup X.blocks s with
    | none => rfl
    | some b =>
      exfalso
      have hsb : (s, b) ∈ X.blocks := alookup_some_mem hb
      obtain ⟨B, hB', _⟩ := FuseP.fusedBlockM_exists hv hok.adm hsb
      have hne : (FuseP.planM X G (s, b)).newSector = ns := by
        rw [FuseP.nsM_parts hok.adm,
          FuseP.three_parts ns (0, 0) (FuseP.giM X G).position G.length
            (FuseP.giM X G).axesAfter.length (by rw [hnl]; rfl)]
        refine congrArg₂ (· ++ ·) ?_ ?_
        · refine congrArg₂ (· ++ ·) ?_ ?_
          · apply List.map_congr_left
            intro x hx
            exact ((hbef x (List.mem_range.mp hx)).1).symm
          · apply List.map_congr_left
            intro g hg
            have hg' := List.mem_range.mp hg
            have hgg : G[g]? = some G[g] := List.getElem?_eq_getElem hg'
            exact cM_of_dec hv hok hgg (hdec g _ hgg) (sb := (s, b)) hs rfl
        · apply List.map_congr_left
          intro j hj
          exact ((haft j (List.mem_range.mp hj)).1).symm
      rw [hne, hB] at hB'
      cases hB'

end Multi

/-- **element map of a covering fuse.**  `A` fused into groups that cover all its axes has one
    axis per group; its element at `(cs, is)` (each offset inside the size of its charge) is `A`'s
    element at the address whose part on each group is what that group's axis decodes to — also
    when the fused sector is not stored (both are zero). -/
theorem cover_elem [Zero R] [Neg R]
    (hv : FuseP.ValidArr A) (hph : A.phases = []) (hc : Cover A G)
    {cs : Sector} {is : List Nat} (hcl : cs.length = G.length) (hil : is.length = G.length)
    {s : Sector} {offs : List Nat} (hs : s.length = A.ndim) (ho : offs.length = A.ndim)
    (hdec : ∀ g gaxes, G[g]? = some gaxes →
      decAx A G g (cs.getD g (0, 0)) (is.getD g 0) = some (permuted s gaxes, permuted offs gaxes))
    (hsz : ∀ g, g < G.length →
      ∃ d, (FuseP.ixM A G g).sizeOf? (cs.getD g (0, 0)) = some d ∧ is.getD g 0 < d) :
    (FuseP.fusedArrM A G).elem cs is = A.elem s offs := by
  have hpos := cover_position hc
  -- the table box of `cs`: one size per group
  choose! d hd hlt using hsz
  have hshp : Arr.blockShape? (FuseP.newIdxM A G) cs = some ((List.range G.length).map d) := by
    rw [cover_newIdx hc]
    apply FuseP.blockShape?_pointwise (by simp [hcl]) (by simp [hcl])
    intro g hg
    rw [hcl] at hg
    have := hd g hg
    simp only [List.getD_eq_getElem?_getD] at this ⊢
    simpa [List.getElem?_range hg, hg] using this
  have hbox : inBox ((List.range G.length).map d) is = true :=
    inBox_iff.mpr ⟨by simp [hil], fun g hg => by
      simp only [List.length_map, List.length_range] at hg
      simpa [List.getD_eq_getElem?_getD, hg] using hlt g hg⟩
  refine multi_elem hv hph hc.ok hshp hbox hs ho ?_ ?_ ?_
  · intro g gaxes hg; rw [hpos, Nat.zero_add]; exact hdec g gaxes hg
  · intro x hx; rw [hpos] at hx; cases hx
  · intro j hj; rw [cover_after hc] at hj; cases hj

end Cover

/-- two non-empty groups that together list every axis exactly once -/
structure PairOk (A : Arr R) (g1 g2 : List Nat) : Prop where
  ne1 : g1 ≠ []
  ne2 : g2 ≠ []
  perm : (g1 ++ g2).Perm (List.range A.ndim)

theorem PairOk.cover {A : Arr R} {g1 g2 : List Nat} (h : PairOk A g1 g2) : Cover A [g1, g2] :=
  Cover.of_perm (by simp) (by
    intro g hg
    simp only [List.mem_cons, List.not_mem_nil, or_false] at hg
    rcases hg with rfl | rfl
    · exact h.ne1
    · exact h.ne2) (by simpa using h.perm)

theorem PairOk.groupsOk {A : Arr R} {g1 g2 : List Nat} (h : PairOk A g1 g2) :
    FuseP.GroupsOk [g1, g2] A.ndim := h.cover.ok

theorem pair_elem {A : Arr R} {g1 g2 : List Nat} [Zero R] [Neg R] (hv : FuseP.ValidArr A) (hph : A.phases = []) (hp : PairOk A g1 g2)
    {c1 c2 : Charge} {i1 i2 : Nat} {S1 S2 : Sector} {O1 O2 : List Nat} {d1 d2 : Nat}
    (h1 : decAx A [g1, g2] 0 c1 i1 = some (S1, O1)) (h2 : decAx A [g1, g2] 1 c2 i2 = some (S2, O2))
    (hz1 : (FuseP.ixM A [g1, g2] 0).sizeOf? c1 = some d1) (hi1 : i1 < d1)
    (hz2 : (FuseP.ixM A [g1, g2] 1).sizeOf? c2 = some d2) (hi2 : i2 < d2)
    {s : Sector} {offs : List Nat} (hs : s.length = A.ndim) (ho : offs.length = A.ndim)
    (hs1 : permuted s g1 = S1) (hs2 : permuted s g2 = S2)
    (ho1 : permuted offs g1 = O1) (ho2 : permuted offs g2 = O2) :
    (FuseP.fusedArrM A [g1, g2]).elem [c1, c2] [i1, i2] = A.elem s offs := by
  subst hs1 hs2 ho1 ho2
  refine cover_elem hv hph hp.cover rfl rfl hs ho ?_ ?_
  · intro g gaxes hg
    match g, hg with
    | 0, hg => cases hg; exact h1
    | 1, hg => cases hg; exact h2
  · intro g hg
    match g, hg with
    | 0, _ => exact ⟨d1, hz1, hi1⟩
    | 1, _ => exact ⟨d2, hz2, hi2⟩

theorem sum_splitOffset [AddMonoid R] (ext : Extent) (G : Option (Sector × Nat) → R) :
    ((List.range (sumN (ext.map (·.2)))).map (fun o => G (FuseP.splitOffset ext o))).sum =
      (ext.map (fun sd => ((List.range sd.2).map (fun r => G (some (sd.1, r)))).sum)).sum := by
  induction ext with
  | nil => simp [sumN]
  | cons kd rest ih =>
    obtain ⟨k, d⟩ := kd
    simp only [List.map_cons, sumN, List.sum_cons]
    rw [List.range_add, List.map_append, List.sum_append, List.map_map, ← ih]
    congr 1
    · apply sum_map_congr
      intro q hq
      have : q < d := List.mem_range.mp hq
      simp [FuseP.splitOffset, this]
    · apply sum_map_congr
      intro q _
      have : ¬ (d + q < d) := by omega
      simp [FuseP.splitOffset, this]

theorem cm_extent {sym : Sym} {ix : Index} (hw : Index.wfB sym ix = true) {subs : List Index}
    {exts : Extents} (hs : ix.sub = some (subs, exts)) {c : Charge} {D : Nat} (hcd : (c, D) ∈ ix.cm) :
    ∃ ext, alookup exts c = some ext ∧ FuseP.ExtentOk sym ix.dual subs c D ext := by
  obtain ⟨cm, d, sub⟩ := ix
  simp only [Index.sub] at hs
  subst hs
  rw [ValidP.wfB_some] at hw
  obtain ⟨ext, he, hok⟩ := hw.2.2.2.1 (c, D) hcd
  exact ⟨ext, he, FuseP.extentOk_iff.1 hok⟩

section Bond
variable {A : Arr R} {G : List (List Nat)}

/-- the extent of charge `c` in the table of an index (`[]` if there is none) -/
def extOf (ix : Index) (c : Charge) : Extent :=
  match ix.sub with
  | some (_, exts) => (alookup exts c).getD []
  | none => []

/-- all sub-sectors of the contracted group `g`, in table order: for a single-axis group the
    charges of the index, for a multi-axis group the sub-sectors of every extent -/
def bondKs (A : Arr R) (G : List (List Nat)) (g : Nat) : List Sector :=
  if FuseP.multiB G g then
    (FuseP.ixM A G g).cm.flatMap (fun cd => (extOf (FuseP.ixM A G g) cd.1).map (·.1))
  else (FuseP.ixM A G g).cm.map (fun cd => [cd.1])

/-- **bond sum.**  Summing a function of the decoded address over all (charge, position) of the
    index of group `g` = summing it over all sub-sectors of the group and all offsets in the
    sub-sector's box. -/
theorem sum_decAx [AddMonoid R] (hv : FuseP.ValidArr A) (hok : FuseP.GroupsOk G A.ndim) {g : Nat}
    {gaxes : List Nat} (hg : G[g]? = some gaxes) (H : Sector → List Nat → R) :
    ((FuseP.ixM A G g).cm.map (fun cd => ((List.range cd.2).map (fun k =>
        match decAx A G g cd.1 k with
        | some (K, ok) => H K ok
        | none => 0)).sum)).sum =
      ((bondKs A G g).map (fun K =>
        ((allIdx (Arr.blockShapeD (permuted A.indices gaxes) K)).map (H K)).sum)).sum := by
  have hlt : ∀ x ∈ gaxes, x < A.indices.length := FuseP.groupM_lt hok.adm hg
  by_cases hlen : gaxes.length = 1
  · have hm : FuseP.multiB G g = false := FuseP.multiB_single hg hlen
    have hix := FuseP.ixM_single (a := A) hok.adm hg hlen
    simp only [bondKs, decAx, hm, Bool.false_eq_true, if_false, List.map_map]
    apply sum_map_congr
    rintro ⟨c, D⟩ hcd
    simp only [Function.comp]
    match gaxes, hlen, hlt, hix with
    | [ax], _, hlt, hix =>
      have h0 : ax < A.indices.length := hlt ax (by simp)
      have hnd : ((A.indices.getD ax default).cm.map (·.1)).Nodup :=
        ValidP.sortedCharges_nodup (ValidP.wfB_cmOk (hv.idx _ (by
          rw [List.getD_eq_getElem?_getD, List.getElem?_eq_getElem h0]; exact List.getElem_mem _))).1
      simp only [List.headD_cons] at hix
      rw [hix] at hcd
      have hsz : (A.indices.getD ax default).sizeOf? c = some D := alookup_of_mem_nodup hnd hcd
      have : Arr.blockShapeD (permuted A.indices [ax]) [c] = [D] := by
        simp only [permuted, List.filterMap_cons, List.getElem?_eq_getElem h0, List.filterMap_nil,
          Arr.blockShapeD, Arr.blockShape?_cons, Arr.blockShape?_nil_nil]
        rw [List.getD_eq_getElem?_getD, List.getElem?_eq_getElem h0] at hsz
        simp only [Option.getD_some] at hsz
        rw [hsz]; rfl
      rw [this, allIdx_single, List.map_map]
      rfl
  · have hm : FuseP.multiB G g = true := FuseP.multiB_iff.2 ⟨_, hg, hlen⟩
    have hsub := FuseP.ixM_sub (a := A) hok.adm hg hlen
    have hw := FuseP.ixM_wf hv hok.adm g
    have hsubs : gaxes.map (fun ax => A.indices.getD ax default) = permuted A.indices gaxes :=
      (permuted_eq_map _ _ hlt default).symm
    simp only [bondKs, hm, if_true]
    rw [sum_map_flatMap]
    apply sum_map_congr
    rintro ⟨c, D⟩ hcd
    have hnd : ((FuseP.ixM A G g).cm.map (·.1)).Nodup :=
      ValidP.sortedCharges_nodup (ValidP.wfB_cmOk hw).1
    have hsz : alookup (FuseP.ixM A G g).cm c = some D := alookup_of_mem_nodup hnd hcd
    obtain ⟨ext, he, hext⟩ := cm_extent hw hsub hcd
    have heo : extOf (FuseP.ixM A G g) c = ext := by simp [extOf, hsub, he]
    simp only [heo, List.map_map]
    rw [← hext.total]
    let G' : Option (Sector × Nat) → R := fun x =>
      match x with
      | some (ss, r) =>
        (match Arr.blockShape? (gaxes.map (fun ax => A.indices.getD ax default)) ss with
          | some shp => H ss (unravel shp r)
          | none => 0)
      | none => 0
    have e1 : ∀ k, (match decAx A G g c k with
        | some (K, ok) => H K ok
        | none => 0) = G' (FuseP.splitOffset ext k) := by
      intro k
      simp only [decAx, hm, if_true, FuseP.splitAddr, hsub, he, G']
      cases FuseP.splitOffset ext k with
      | none => rfl
      | some q =>
        obtain ⟨ss, r⟩ := q
        simp only []
        cases Arr.blockShape? (gaxes.map (fun ax => A.indices.getD ax default)) ss <;> rfl
    simp only [e1]
    rw [sum_splitOffset]
    apply sum_map_congr
    rintro ⟨ss, d⟩ hsd
    obtain ⟨_, ⟨shp, hshp, hprod⟩, _⟩ := hext.entry ss d hsd
    simp only [Function.comp, G', hshp]
    rw [← hsubs, Arr.blockShapeD, hshp]
    simp only [Option.getD_some]
    rw [allIdx_eq_map_unravel, List.map_map, hprod]
    rfl

theorem cm_keys_nodup {sym : Sym} {ix : Index} (hw : Index.wfB sym ix = true) :
    (ix.cm.map (·.1)).Nodup := ValidP.sortedCharges_nodup (ValidP.wfB_cmOk hw).1

theorem bondKs_length (hv : FuseP.ValidArr A) (hok : FuseP.GroupsOk G A.ndim) {g : Nat}
    {gaxes : List Nat} (hg : G[g]? = some gaxes) :
    ∀ K ∈ bondKs A G g, K.length = gaxes.length := by
  intro K hK
  by_cases hlen : gaxes.length = 1
  · have hm : FuseP.multiB G g = false := FuseP.multiB_single hg hlen
    simp only [bondKs, hm, Bool.false_eq_true, if_false, List.mem_map] at hK
    obtain ⟨cd, _, rfl⟩ := hK
    simp [hlen]
  · have hm : FuseP.multiB G g = true := FuseP.multiB_iff.2 ⟨_, hg, hlen⟩
    have hsub := FuseP.ixM_sub (a := A) hok.adm hg hlen
    have hw := FuseP.ixM_wf hv hok.adm g
    simp only [bondKs, hm, if_true, List.mem_flatMap, List.mem_map] at hK
    obtain ⟨⟨c, D⟩, hcd, ⟨ss, d⟩, hsd, rfl⟩ := hK
    obtain ⟨ext, he, hext⟩ := cm_extent hw hsub hcd
    have heo : extOf (FuseP.ixM A G g) c = ext := by simp [extOf, hsub, he]
    rw [heo] at hsd
    simpa using (hext.entry ss d hsd).1

theorem bondKs_nodup (hv : FuseP.ValidArr A) (hok : FuseP.GroupsOk G A.ndim) {g : Nat}
    {gaxes : List Nat} (hg : G[g]? = some gaxes) : (bondKs A G g).Nodup := by
  have hlt : ∀ x ∈ gaxes, x < A.indices.length := FuseP.groupM_lt hok.adm hg
  by_cases hlen : gaxes.length = 1
  · have hm : FuseP.multiB G g = false := FuseP.multiB_single hg hlen
    have hix := FuseP.ixM_single (a := A) hok.adm hg hlen
    have hnd : ((FuseP.ixM A G g).cm.map (·.1)).Nodup := by
      rw [hix]; exact cm_keys_nodup (index_getD_wf hv (FuseP.single_head_lt hok.adm hg hlen))
    simp only [bondKs, hm, Bool.false_eq_true, if_false]
    have : (FuseP.ixM A G g).cm.map (fun cd => [cd.1]) =
        ((FuseP.ixM A G g).cm.map (·.1)).map (fun c => [c]) := by rw [List.map_map]; rfl
    rw [this]
    exact hnd.map (fun x y h => by simpa using h)
  · have hm : FuseP.multiB G g = true := FuseP.multiB_iff.2 ⟨_, hg, hlen⟩
    have hsub := FuseP.ixM_sub (a := A) hok.adm hg hlen
    have hw := FuseP.ixM_wf hv hok.adm g
    have hnd := cm_keys_nodup hw
    simp only [bondKs, hm, if_true]
    rw [List.nodup_flatMap]
    constructor
    · rintro ⟨c, D⟩ hcd
      obtain ⟨ext, he, hext⟩ := cm_extent hw hsub hcd
      have heo : extOf (FuseP.ixM A G g) c = ext := by simp [extOf, hsub, he]
      rw [heo]; exact hext.nodup
    · refine List.Pairwise.imp_of_mem ?_ (List.Nodup.of_map _ hnd)
      rintro ⟨c, D⟩ ⟨c', D'⟩ hcd hcd' hne
      simp only [Function.onFun, List.disjoint_left, List.mem_map, not_exists, not_and]
      rintro K ⟨⟨ss, d⟩, hsd, rfl⟩ ⟨ss', d'⟩ hsd' hss
      simp only at hss
      obtain ⟨ext, he, hext⟩ := cm_extent hw hsub hcd
      obtain ⟨ext', he', hext'⟩ := cm_extent hw hsub hcd'
      have heo : extOf (FuseP.ixM A G g) c = ext := by simp [extOf, hsub, he]
      have heo' : extOf (FuseP.ixM A G g) c' = ext' := by simp [extOf, hsub, he']
      rw [heo] at hsd
      rw [heo'] at hsd'
      have h1 := (hext.entry ss d hsd).2.2
      have h2 := (hext'.entry ss' d' hsd').2.2
      rw [hss, h1] at h2
      subst h2
      have e1 := alookup_of_mem_nodup hnd hcd
      have e2 := alookup_of_mem_nodup hnd hcd'
      rw [e1] at e2
      exact hne (by rw [Option.some.inj e2])

theorem bondKs_cover (hv : FuseP.ValidArr A) (hok : FuseP.GroupsOk G A.ndim) {g : Nat}
    {gaxes : List Nat} (hg : G[g]? = some gaxes) :
    ∀ sb ∈ A.blocks, permuted sb.1 gaxes ∈ bondKs A G g := by
  intro sb hsb
  have hlt : ∀ x ∈ gaxes, x < A.indices.length := FuseP.groupM_lt hok.adm hg
  have hsl : sb.1.length = A.indices.length := (hv.blk sb hsb).1
  have hss : FuseP.ssM (a := A) (groups := G) sb g = permuted sb.1 gaxes := by
    rw [FuseP.ssM_eq hg, permuted_eq_map _ _ (by rw [hsl]; exact hlt) (0, 0)]
  by_cases hlen : gaxes.length = 1
  · have hm : FuseP.multiB G g = false := FuseP.multiB_single hg hlen
    have hix := FuseP.ixM_single (a := A) hok.adm hg hlen
    simp only [bondKs, hm, Bool.false_eq_true, if_false, List.mem_map]
    match gaxes, hlen, hlt, hix with
    | [ax], _, hlt, hix =>
      have h0 : ax < A.indices.length := hlt ax (by simp)
      obtain ⟨ix, c, h1, h2, h3, h4, h5⟩ := FuseP.blockShape?_get (hv.blk sb hsb).2.1 h0
      simp only [List.headD_cons] at hix
      refine ⟨(c, sb.2.shape.getD ax 0), ?_, ?_⟩
      · rw [hix, h4]; exact alookup_some_mem h3
      · simp [permuted, h2]
  · have hm : FuseP.multiB G g = true := FuseP.multiB_iff.2 ⟨_, hg, hlen⟩
    have hsub := FuseP.ixM_sub (a := A) hok.adm hg hlen
    obtain ⟨e, D, st, h1, h2, h3, _⟩ := FuseP.stored_in_tableM hv hok.adm hg hlen hsb
    simp only [bondKs, hm, if_true, List.mem_flatMap, List.mem_map]
    refine ⟨(FuseP.cM (a := A) (groups := G) sb g, D), alookup_some_mem h3, ?_⟩
    have heo : extOf (FuseP.ixM A G g) (FuseP.cM (a := A) (groups := G) sb g) = e := by
      simp [extOf, hsub, h1]
    rw [heo, ← hss]
    exact ⟨_, FuseP.startOf_mem h2, rfl⟩

theorem decAx_facts (hv : FuseP.ValidArr A) (hok : FuseP.GroupsOk G A.ndim) {g : Nat}
    {gaxes : List Nat} (hg : G[g]? = some gaxes) {c : Charge} {i : Nat} {S : Sector} {O : List Nat}
    (hdec : decAx A G g c i = some (S, O)) {d : Nat}
    (hsz : (FuseP.ixM A G g).sizeOf? c = some d) (hi : i < d) :
    ∃ shp, Arr.blockShape? (permuted A.indices gaxes) S = some shp ∧ inBox shp O = true := by
  have hlt : ∀ x ∈ gaxes, x < A.indices.length := FuseP.groupM_lt hok.adm hg
  by_cases hlen : gaxes.length = 1
  · have hm : FuseP.multiB G g = false := FuseP.multiB_single hg hlen
    have hix := FuseP.ixM_single (a := A) hok.adm hg hlen
    simp only [decAx, hm, Bool.false_eq_true, if_false, Option.some.injEq, Prod.mk.injEq] at hdec
    obtain ⟨rfl, rfl⟩ := hdec
    match gaxes, hlen, hlt, hix with
    | [ax], _, hlt, hix =>
      have h0 : ax < A.indices.length := hlt ax (by simp)
      simp only [List.headD_cons] at hix
      rw [hix, List.getD_eq_getElem?_getD, List.getElem?_eq_getElem h0] at hsz
      simp only [Option.getD_some] at hsz
      refine ⟨[d], ?_, by simp [inBox, hi]⟩
      simp only [permuted, List.filterMap_cons, List.getElem?_eq_getElem h0, List.filterMap_nil,
        Arr.blockShape?_cons, Arr.blockShape?_nil_nil, hsz]
      rfl
  · have hm : FuseP.multiB G g = true := FuseP.multiB_iff.2 ⟨_, hg, hlen⟩
    simp only [decAx, hm, if_true] at hdec
    obtain ⟨_, subs, exts, shp, hsub, hshp, hbox, _⟩ :=
      FuseP.joinAddr_splitAddr (FuseP.ixM_wf hv hok.adm _) hdec
    rw [FuseP.ixM_sub hok.adm hg hlen] at hsub
    simp only [Option.some.injEq, Prod.mk.injEq] at hsub
    refine ⟨shp, ?_, hbox⟩
    rw [permuted_eq_map _ _ hlt default, hsub.1]; exact hshp

theorem decAx_lengths (hv : FuseP.ValidArr A) (hok : FuseP.GroupsOk G A.ndim) {g : Nat}
    {gaxes : List Nat} (hg : G[g]? = some gaxes) {c : Charge} {i : Nat} {S : Sector} {O : List Nat}
    (hdec : decAx A G g c i = some (S, O)) {d : Nat}
    (hsz : (FuseP.ixM A G g).sizeOf? c = some d) (hi : i < d) :
    S.length = gaxes.length ∧ O.length = gaxes.length := by
  obtain ⟨shp, hshp, hbox⟩ := decAx_facts hv hok hg hdec hsz hi
  have hlt : ∀ x ∈ gaxes, x < A.indices.length := FuseP.groupM_lt hok.adm hg
  exact ⟨by rw [(blockShape?_length hshp).1, permuted_length _ _ hlt],
    by rw [inBox_length hbox, (blockShape?_length hshp).2, permuted_length _ _ hlt]⟩

end Bond

end TdotP
end SymmModel
