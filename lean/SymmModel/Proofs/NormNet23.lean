/-
  SymmModel.Proofs.NormNet23 — network form of the norm (property C10), part 23:
  the four balanced bracketings with the halves in MIXED operand orders:
  `(b̄·ā)·(a·b)`, `(a·b)·(b̄·ā)`, `(ā·b̄)·(b·a)`, `(b·a)·(ā·b̄)`.
-/
import SymmModel.Proofs.NormNet22
namespace SymmModel.NormNet
open SymmModel SymmModel.Norm SymmModel.TdotP SymmModel.RoutesP

set_option linter.unusedSectionVars false

section labels

theorem bra_labels_distinct {oA oB : List (Int × Bool)}
    (hd : (oA ++ oB).Pairwise (fun x y => x.1 ≠ y.1)) :
    (Arr.oddposDag oA ++ Arr.oddposDag oB).Pairwise (fun x y => x.1 ≠ y.1) := by
  refine distinct_of_keys ?_ hd
  simp only [List.map_append]
  exact (keys_dag _).append (keys_dag _)

end labels

section mixed
variable {R : Type} [AddCommMonoid R] [Mul R] [Neg R] [Conj R] [NetLaws R]

/-- the halves `K = a·b`, `Kb = ā·b̄` of the network and `K' = b·a`, `Kb' = b̄·ā` of the operand-swapped network,
    their ranks, and `normSq K' = normSq K` — a RESULT of `network_norm_mixed` -/
structure TwoNets (a b K Kb K' Kb' : Arr R) (xa xb : List Nat) : Prop where
  eK : a.tensordotF b (.pair (xa.map Int.ofNat) (xb.map Int.ofNat)) .blockwise = .ok K
  eKb : (braOf a xa).tensordotF (braOf b xb) (.pair (xa.map Int.ofNat) (xb.map Int.ofNat)) .blockwise
      = .ok Kb
  eK' : b.tensordotF a (.pair (xb.map Int.ofNat) (xa.map Int.ofNat)) .blockwise = .ok K'
  eKb' : (braOf b xb).tensordotF (braOf a xa) (.pair (xb.map Int.ofNat) (xa.map Int.ofNat)) .blockwise
      = .ok Kb'
  nd : Kb.ndim = K.ndim
  nd' : Kb'.ndim = K'.ndim
  ndK : K'.ndim = K.ndim
  val : normSq K' = normSq K

/-- **the mixed operand orders of the halves** (commutative scalars): the four bracketings in which
    one half is contracted in the order `a·b` / `ā·b̄` and the other in the order `b̄·ā` / `b·a`, with the
    crossed leg pairs, all succeed and give `normSq (a·b)`, rank 0, no labels -/
theorem network_norm_mixed (hmul : ∀ x y : R, x * y = y * x) (a b : Arr R) (xa xb : List Nat)
    (ha : a.validB = true) (hb : b.validB = true) (hfa : a.fermi = true) (hfb : b.fermi = true)
    (hadm : ValidP.tdotAdmissibleB a b xa xb = true)
    (hoA : KetLabels a.oddpos) (hoB : KetLabels b.oddpos)
    (hd : (a.oddpos ++ b.oddpos).Pairwise (fun x y => x.1 ≠ y.1)) :
    ∃ K Kb K' Kb', TwoNets a b K Kb K' Kb' xa xb
      -- (b̄·ā)·(a·b)
      ∧ (∃ r, Kb'.tensordotF K (.pair
            ((crossAx (freeAxes a.ndim xa).length (freeAxes b.ndim xb).length).map Int.ofNat)
            ((List.range K.ndim).map Int.ofNat)) .blockwise = .ok r
          ∧ r.ndim = 0 ∧ r.oddpos = [] ∧ r.elem [] [] = normSq K)
      -- (a·b)·(b̄·ā)
      ∧ (∃ r, K.tensordotF Kb' (.pair
            ((crossAx (freeAxes b.ndim xb).length (freeAxes a.ndim xa).length).map Int.ofNat)
            ((List.range K.ndim).map Int.ofNat)) .blockwise = .ok r
          ∧ r.ndim = 0 ∧ r.oddpos = [] ∧ r.elem [] [] = normSq K)
      -- (ā·b̄)·(b·a)
      ∧ (∃ r, Kb.tensordotF K' (.pair
            ((crossAx (freeAxes b.ndim xb).length (freeAxes a.ndim xa).length).map Int.ofNat)
            ((List.range K.ndim).map Int.ofNat)) .blockwise = .ok r
          ∧ r.ndim = 0 ∧ r.oddpos = [] ∧ r.elem [] [] = normSq K)
      -- (b·a)·(ā·b̄)
      ∧ (∃ r, K'.tensordotF Kb (.pair
            ((crossAx (freeAxes a.ndim xa).length (freeAxes b.ndim xb).length).map Int.ofNat)
            ((List.range K.ndim).map Int.ofNat)) .blockwise = .ok r
          ∧ r.ndim = 0 ∧ r.oddpos = [] ∧ r.elem [] [] = normSq K) := by
  have h := Adm.of ha hb hfa hfb hadm
  have hB := braOf_adm h
  have hadm' := admB_swap ha hb hfa hfb hadm
  have hd' := labels_swap hd
  have h' := Adm.of hb ha hfb hfa hadm'
  have hB' := braOf_adm h'
  obtain ⟨K1, Kb1, r, r', H⟩ := network_norm_halves a b xa xb ha hb hfa hfb hadm hoA hoB hd
  obtain ⟨A1, A2⟩ := H.adm
  obtain ⟨eK, eKb, -, hKv, hKf, hKbv, hKbf, hnd, h1, ⟨h2, h3, h4⟩, g1, ⟨g2, g3, g4⟩⟩ := H
  obtain ⟨K2, Kb2, s, s', H'⟩ := network_norm_halves b a xb xa hb ha hfb hfa hadm' hoB hoA hd'
  obtain ⟨A1', A2'⟩ := H'.adm
  obtain ⟨eK', eKb', -, hKv', hKf', hKbv', hKbf', hnd', p1, ⟨p2, p3, p4⟩, q1, ⟨q2, q3, q4⟩⟩ := H'
  have hval : normSq K2 = normSq K1 := normSq_swap hmul a b K1 K2 xa xb h hd eK eK'
  have hn := ndim_of_call_w (.ofAdm h) eK
  have hn' := ndim_of_call_w (.ofAdm h') eK'
  have hKK : K2.ndim = K1.ndim := by rw [hn, hn']; omega
  have hdb := bra_labels_distinct hd
  have hdb' := bra_labels_distinct hd'
  rw [← braOf_oddpos a xa, ← braOf_oddpos b xb] at hdb
  rw [← braOf_oddpos b xb, ← braOf_oddpos a xa] at hdb'
  refine ⟨K1, Kb1, K2, Kb2, ⟨eK, eKb, eK', eKb', hnd, hnd', hKK, hval⟩, ?_, ?_, ?_, ?_⟩
  · -- (b̄·ā)·(a·b): P = Kb, P' = Kb', Y = K
    obtain ⟨r1, e1, n1, o1, v1⟩ := mixed_full hmul (braOf a xa) (braOf b xb) Kb1 Kb2 K1 r xa xb hB hdb
      eKb eKb' hKbv' (by rw [hnd]; exact .ofAdm A1) hnd.symm (by rw [hnd]; exact h1)
    simp only [braOf_ndim] at e1
    rw [hnd] at e1
    exact ⟨r1, e1, n1, o1.trans h3, v1.trans h4⟩
  · -- (a·b)·(b̄·ā): P = K', P' = K, Y = Kb'
    obtain ⟨r1, e1, n1, o1, v1⟩ := mixed_full hmul b a K2 K1 Kb2 s' xb xa h' hd' eK' eK hKv
      (.ofAdm A2') hnd' q1
    rw [hKK] at e1
    exact ⟨r1, e1, n1, o1.trans q3, by rw [v1, q4, normSq'_eq hmul, hval]⟩
  · -- (ā·b̄)·(b·a): P = Kb', P' = Kb, Y = K'
    obtain ⟨r1, e1, n1, o1, v1⟩ := mixed_full hmul (braOf b xb) (braOf a xa) Kb2 Kb1 K2 s xb xa hB' hdb'
      eKb' eKb hKbv (by rw [hnd']; exact .ofAdm A1') hnd'.symm (by rw [hnd']; exact p1)
    simp only [braOf_ndim] at e1
    rw [hnd', hKK] at e1
    exact ⟨r1, e1, n1, o1.trans p3, by rw [v1, p4, hval]⟩
  · -- (b·a)·(ā·b̄): P = K, P' = K', Y = Kb
    obtain ⟨r1, e1, n1, o1, v1⟩ := mixed_full hmul a b K1 K2 Kb1 r' xa xb h hd eK eK' hKv'
      (.ofAdm A2) hnd g1
    exact ⟨r1, e1, n1, o1.trans g3, by rw [v1, g4, normSq'_eq hmul]⟩

end mixed

end SymmModel.NormNet
