/-
  SymmModel.Proofs.ReshapeIe — assembly: (1) the element BIJECTION of the fermionic `reshape` along a
  plan of fuse calls (`ElemBij`: total, onto, injective, functional, the two cases exclusive);
  (2) `reshape` to merge / squeeze targets and the round trips under the EXACT window condition of
  the way out (`noWinVisB`, Proofs/ReshapeId.lean) and the diagonal condition of the way back
  (`noSelfWinB`, Proofs/ReshapeIg.lean).
-/
import SymmModel.Proofs.ReshapeIf
import SymmModel.Proofs.ReshapeIg
namespace SymmModel.ReshapeI
open SymmModel SymmModel.Reshape SymmModel.C07 SymmModel.Reshape3 SymmModel.Reshape5 SymmModel.ReshapeH
open ReshapeP FuseP SymmModel.Lazy
set_option linter.unusedSectionVars false

variable {R : Type} [Zero R] [Neg R] [LawfulNeg R]

/-- `total` at an address whose pull-back is known and stored: the address is not zero-filled
    (`zeroAt_excl`) and the pull-back is the one `total` names (`pulled_unique`) -/
theorem pulled_value {V : Int → R → R} {a y : Arr R} {calls : List (List (List Nat))}
    (htot : ∀ ns i, Stored y ns i →
      (∃ s o σ, Pulled a calls 0 y ns i s o σ ∧ Stored a s o ∧ y.elem ns i = V σ (a.elem s o))
      ∨ (ZeroAt a calls 0 y ns i ∧ y.elem ns i = 0))
    {ns : Sector} {i : List Nat} {s : Sector} {o : List Nat} {σ : Int} (hsy : Stored y ns i)
    (hp : Pulled a calls 0 y ns i s o σ) (hst : Stored a s o) : y.elem ns i = V σ (a.elem s o) := by
  rcases htot ns i hsy with ⟨s', o', σ', hp', _, hval⟩ | ⟨hz, _⟩
  · obtain ⟨rfl, rfl, rfl⟩ := pulled_unique calls a y 0 ns i s o σ s' o' σ' hp hp'
    exact hval
  · exact (zeroAt_excl calls a y 0 ns i hz s o σ hp hst).elim

theorem onto_of_total {V : Int → R → R} {a y : Arr R} {calls : List (List (List Nat))}
    (htot : ∀ ns i, Stored y ns i →
      (∃ s o σ, Pulled a calls 0 y ns i s o σ ∧ Stored a s o ∧ y.elem ns i = V σ (a.elem s o))
      ∨ (ZeroAt a calls 0 y ns i ∧ y.elem ns i = 0))
    (hinto : ∀ s b, alookup a.blocks s = some b →
      ∃ ns B, alookup y.blocks ns = some B ∧ ∀ o, inBox b.shape o = true →
        ∃ i σ, inBox B.shape i = true ∧ Pulled a calls 0 y ns i s o σ) :
    ∀ s o, Stored a s o →
      ∃ ns i σ, Stored y ns i ∧ Pulled a calls 0 y ns i s o σ ∧ y.elem ns i = V σ (a.elem s o) := by
  intro s o ⟨b, hb, ho⟩
  obtain ⟨ns, B, hB, hall⟩ := hinto s b hb
  obtain ⟨i, σ, hi, hp⟩ := hall o ho
  exact ⟨ns, i, σ, ⟨B, hB, hi⟩, hp, pulled_value htot ⟨B, hB, hi⟩ hp ⟨b, hb, ho⟩⟩

/-- the element bijection of a plan of fuse calls -/
structure ElemBij (a : Arr R) (calls : List (List (List Nat))) (y : Arr R) : Prop where
  /-- every stored address of the result: the value of exactly one stored source element (up to the
      product of the fuse signs), or a zero-filled address with value 0 -/
  total : ∀ ns i, Stored y ns i →
    (∃ s o σ, Pulled a calls 0 y ns i s o σ ∧ Stored a s o ∧ y.elem ns i = sgnI σ (a.elem s o))
    ∨ (ZeroAt a calls 0 y ns i ∧ y.elem ns i = 0)
  /-- every stored source element appears -/
  onto : ∀ s o, Stored a s o →
    ∃ ns i σ, Stored y ns i ∧ Pulled a calls 0 y ns i s o σ ∧ y.elem ns i = sgnI σ (a.elem s o)
  /-- … exactly once -/
  inj : ∀ ns i ns' i' s o σ σ', Stored y ns i → Stored y ns' i' → Pulled a calls 0 y ns i s o σ →
    Pulled a calls 0 y ns' i' s o σ' → ns = ns' ∧ i = i'
  /-- the pulled-back address and sign are determined by the address of the result -/
  func : ∀ ns i s o σ s' o' σ', Pulled a calls 0 y ns i s o σ → Pulled a calls 0 y ns i s' o' σ' →
    s = s' ∧ o = o' ∧ σ = σ'
  /-- a zero-filled address has no stored source element -/
  excl : ∀ ns i, ZeroAt a calls 0 y ns i → ∀ s o σ, Pulled a calls 0 y ns i s o σ → ¬ Stored a s o

theorem elemBij_calls (a : Arr R) (calls : List (List (List Nat))) (hv : a.validB = true)
    (hf : a.fermi = true) (hc : CallsOk calls 0 a.ndim) :
    ∃ y, calls.foldlM fuseDispatch a = .ok y ∧ y.validB = true ∧ y.fermi = true ∧ ElemBij a calls y := by
  obtain ⟨y, hy, hvy, hfy, _⟩ := elem_chain calls a 0 hv hf hc
  have htot := total_chain signAct_sgnI fuse_good_F elem_call_F calls a 0 ⟨hv, hf⟩ hc y hy
  exact ⟨y, hy, hvy, hfy, htot,
    onto_of_total htot (into_chain (fun _ h => h.1) fuse_good_F into_call_F calls a 0 ⟨hv, hf⟩ hc y hy),
    pulled_inj (fun _ h => h.1) fuse_good_F calls a y 0 ⟨hv, hf⟩, pulled_unique calls a y 0,
    zeroAt_excl calls a y 0⟩

theorem planner_calls_vis (a : Arr R) (nsN : List Nat) (t : List Nat × List (List (List Nat)) × List Nat)
    (hnw1 : noWinVisB a.shape nsN a.subsizes = true)
    (h3 : calcReshapeArgs a.shape nsN a.subsizes = .ok t) : t.1 = [] ∧ CallsOk t.2.1 0 a.ndim := by
  rw [planner_vis_nones a.shape nsN a.subsizes (shape_subsizes_length a) hnw1] at h3
  have hnd : a.shape.length = a.ndim := by simp [Arr.shape, Arr.ndim]
  exact ⟨planner_no_unfuse a.shape nsN t h3, hnd ▸ calls_of_planner a.shape nsN t h3⟩

theorem reshape_items_calls (a : Arr R) (items : List Item)
    (hshape : a.shape = shapeOf items) (hok : ItemsOk items) (hne : targetOf items ≠ [])
    (hnw1 : noWinVisB a.shape (targetOf items) a.subsizes = true) :
    ∃ t, calcReshapeArgs a.shape (targetOf items) a.subsizes = .ok t ∧ t.1 = [] ∧ t.2.2 = []
      ∧ CallsOk t.2.1 0 a.ndim
      ∧ reshapeArr a ((targetOf items).map Int.ofNat) = t.2.1.foldlM fuseDispatch a := by
  obtain ⟨t, ht, _, hexp⟩ := planner_items_total items hok hne
  have h3 : calcReshapeArgs a.shape (targetOf items) a.subsizes = .ok t := by
    rw [planner_vis_nones a.shape _ a.subsizes (shape_subsizes_length a) hnw1, hshape]; exact ht
  obtain ⟨hu, hc⟩ := planner_calls_vis a _ t hnw1 h3
  refine ⟨t, h3, hu, hexp, hc, ?_⟩
  rw [reshapeArr_eq a _ _ (targetOf items) t (findFullReshape_nat _ _) (mapM_toNat _) h3,
    (Prod.ext hu (Prod.ext rfl hexp) : t = ([], t.2.1, [])), applyPlan_calls]

section Trip
variable {fuse : Arr R → List (List Nat) → Except Err (Arr R)}
  {unf : Arr R → Nat → Except Err (Arr R)} {Good : Arr R → Prop}
  {sg : Sym → Index → List Index → Sector → Int}

theorem reshape_roundtrip_vis_generic (K : Kind fuse unf Good sg)
    (a y : Arr R) (hg : Good a)
    (ns full : List Int) (nsN : List Nat) (t : List Nat × List (List (List Nat)) × List Nat)
    (hnw1 : noWinVisB a.shape nsN a.subsizes = true) (hnw2 : noSelfWinB a.shape a.subsizes = true)
    (h1 : findFullReshape ns a.size = .ok full)
    (h2 : full.mapM (fun (d : Int) => if d < 0 then (throw Err.notimpl : Except Err Nat) else pure d.toNat)
      = .ok nsN)
    (h3 : calcReshapeArgs a.shape nsN a.subsizes = .ok t) (hexp : t.2.2 = [])
    (hy : reshapeArr a ns = .ok y) :
    ∃ z, reshapeArr y (a.shape.map Int.ofNat) = .ok z ∧ Good z ∧ VEq z a := by
  obtain ⟨hu, hc⟩ := planner_calls_vis a nsN t hnw1 h3
  have ht : t = ([], t.2.1, []) := Prod.ext hu (Prod.ext rfl hexp)
  rw [reshapeArr_eq a ns full nsN t h1 h2 h3, ht] at hy
  obtain ⟨y', z, hy', hz, g, hv⟩ := roundtrip_fused_generic K a hg hnw2 t.2.1 hc
  rw [hy] at hy'; injection hy' with hy'; subst hy'
  exact ⟨z, hz, g, hv⟩

theorem reshape_roundtrip_items_vis_generic (K : Kind fuse unf Good sg)
    (a : Arr R) (hg : Good a) (items : List Item)
    (hshape : a.shape = shapeOf items) (hok : ItemsOk items) (hne : targetOf items ≠ [])
    (hnw1 : noWinVisB a.shape (targetOf items) a.subsizes = true) (hnw2 : noSelfWinB a.shape a.subsizes = true) :
    ∃ y z, reshapeArr a ((targetOf items).map Int.ofNat) = .ok y
      ∧ reshapeArr y (a.shape.map Int.ofNat) = .ok z ∧ Good z ∧ VEq z a := by
  obtain ⟨t, _, _, _, hc, hr⟩ := reshape_items_calls a items hshape hok hne hnw1
  obtain ⟨y, z, hy, hz, g, hv⟩ := roundtrip_fused_generic K a hg hnw2 t.2.1 hc
  exact ⟨y, z, by rw [hr, ← applyPlan_calls]; exact hy, hz, g, hv⟩

end Trip

end SymmModel.ReshapeI
