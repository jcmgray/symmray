/-
  SymmModel.Proofs.DecompEigh — fermionic `eigh` reconstruction for an input carrying ANY sorted
  list of labels (dual ones included), through `@` and through `tensordot` in every mode:
      ev.multiply_diagonal(w, 1) · ev.dagger()  =  σ · a,
  `σ = NormNet.nestSign (oddposDag a.oddpos)` = `-1` per NON-dual label of `a` (their number is even
  with the number of dual ones, the charge being zero: `-1` per dual label).  With non-dual labels
  only, `σ = 1` (`ReconP.eigh_recon_fermi_labels`).  Proof by the graded semantics
  (`DecompP.graded_matmul_and_tensordot`, `GramPair`).
-/
import SymmModel.Proofs.DecompIso

namespace SymmModel
namespace DecompP
open LinalgLemmas ReconP Recon2P TdotP GradedP RoutesP OddposP
open Lazy (sgnI)

variable {R : Type}

section eigh
variable [AddCommMonoid R] [Mul R] [Neg R] [SignRing R] [Conj R]

/-- **`eigh` of a fermionic matrix with ANY sorted label list, through `@` and through `tensordot`.**
    `a` an `EighInput` (charge zero, opposite directions, equal charge tables), `w, ev = eigh(a)`
    with `K.EighBlock` on the synced blocks.  Then `(ev · diag(w)) @ ev†` succeeds without labels
    and, at every address of the table box of `a`, has `a`'s element times the sign
    `nestSign (oddposDag a.oddpos)` of the label merge (`+1` when every label is a ket: the case
    of `ReconP.eigh_recon_fermi_labels`), and the same holds for
    `tensordot_fermionic(ev · diag(w), ev†, ([1],[0]), mode)` in every mode. -/
theorem eigh_fermi_any_labels (hz1 : ∀ x : R, 0 * x = 0) (hz2 : ∀ x : R, x * 0 = 0)
    (hc0 : Conj.conj (0 : R) = 0) {K : Kernels R} (hK : K.ShapeOk) {a : Arr R} (H : EighInput a)
    (hf : a.fermi = true) (hlab : SortedLabels a.oddpos)
    (hE : ∀ p ∈ a.phaseSync.blocks, K.EighBlock p.2) :
    ∃ w ev, eighA K a = .ok (w, ev)
      ∧ (∃ y, (multiplyDiagonal ev w 1).matmulF ev.daggerF = .ok y ∧ y.oddpos = []
          ∧ ∀ s i j, inBox (Arr.blockShapeD a.indices s) [i, j] = true →
              y.elem s [i, j]
                = sgnI (NormNet.nestSign (Arr.oddposDag a.oddpos)) (a.elem s [i, j]))
      ∧ ∀ tm, ∃ c, (multiplyDiagonal ev w 1).tensordotF ev.daggerF (.pair [1] [0]) tm = .ok c
          ∧ c.oddpos = [] ∧ c.charge = a.sym.combine [a.charge, a.sym.sign a.charge true]
          ∧ ∀ s i j, inBox (Arr.blockShapeD a.indices s) [i, j] = true →
              c.elem s [i, j]
                = sgnI (NormNet.nestSign (Arr.oddposDag a.oddpos)) (a.elem s [i, j]) := by
  have HA := eighInput_syncIf H
  obtain ⟨f1, f2, f3, f4, f5, f6⟩ := syncIf_fields a
  obtain ⟨i0, i1, hi⟩ := ndim_two HA.h2
  have hia : a.indices = [i0, i1] := by rw [← f3]; exact hi
  have hi1 : (syncIf a).indices.getD 1 default = i1 := by rw [hi]; rfl
  have hAph : (syncIf a).phases = [] := syncIf_phases a H.hv
  have hfA : (syncIf a).fermi = true := f2.trans hf
  have hcm : i0.cm = i1.cm := by
    have := HA.hcm; rw [hi] at this; exact this
  obtain ⟨W, EV, he, hEV, hLb⟩ := eigh_pieces K H hf hi
  have hEVb : EV.blocks = (syncIf a).blocks.map (fun p => (p.1, (K.eigh p.2).2)) := by rw [hEV]
  have hEVp : EV.phases = [] := by rw [hEV]; exact hAph
  have hEVo : EV.oddpos = a.oddpos := by rw [hEV]; exact f5
  have hEVi : EV.indices = [i0, i1] := by rw [hEV]; exact hi
  have hEVn : EV.ndim = 2 := by simp [Arr.ndim, hEVi]
  have hEVs : EV.sym = (syncIf a).sym := by rw [hEV]
  have hEVc : EV.charge = (syncIf a).sym.zero := by rw [hEV]; exact HA.hc
  have hEVf : EV.fermi = true := by rw [hEV]; exact hfA
  obtain ⟨_, _, hEVv, _⟩ := C11.eighA_valid K hK a H.hv W EV he
  have hLv : (multiplyDiagonal EV W 1).validB = true :=
    (ValidP.validB_iff _).mpr (ValidP.multiplyDiagonal_valid EV W 1 ((ValidP.validB_iff EV).mp hEVv))
  have hLi : (multiplyDiagonal EV W 1).indices = [i0, i1] := hEVi
  have hLn : (multiplyDiagonal EV W 1).ndim = 2 := hEVn
  have hLp : (multiplyDiagonal EV W 1).phases = [] := hEVp
  obtain ⟨d1, d2, d3, d4, d5⟩ := daggerF_fields EV
  have hBv : EV.daggerF.validB = true :=
    (ValidP.validB_iff _).mpr (ValidP.daggerF_valid EV false ((ValidP.validB_iff EV).mp hEVv) hEVf)
  have hBi : EV.daggerF.indices = [i1.conj, i0.conj] := by rw [d3, hEVi]; rfl
  have hBn : EV.daggerF.ndim = 2 := by simp [Arr.ndim, hBi]
  have hAdm : Adm (multiplyDiagonal EV W 1) EV.daggerF [1] [0] :=
    adm_matrices hLv hBv hEVf (d2.trans hEVf) d1.symm hLi hBi (Index.conj_cm i1).symm
      (by rw [Index.conj_dual, Bool.not_not])
  have hsL : Lazy.SignOk (multiplyDiagonal EV W 1) := Lazy.SignOk.of_valid hLv hEVf
  have hsE : Lazy.SignOk EV := Lazy.SignOk.of_valid hEVv hEVf
  have hin : ∀ p ∈ (syncIf a).blocks, p.1 ∈ (syncIf a).sectors :=
    fun p hp => List.mem_map.mpr ⟨p, hp, rfl⟩
  have hsec : ((syncIf a).blocks.map (fun p => p.1)).Nodup := Arr.validB_nodup HA.hv
  have hcc : ∀ p ∈ (syncIf a).blocks, p.1 = [colOf p.1, colOf p.1] := by
    intro p hp
    obtain ⟨c, m, hs, _⟩ := eigh_block HA (s := p.1) (b := p.2) hp
    rw [hs]; rfl
  have G : GramPair (multiplyDiagonal EV W 1) EV.daggerF (syncIf a).blocks (fun p => colOf p.1)
      (fun p => colOf p.1) (fun p => colOf p.1) := by
    refine ⟨hLn, hBn, ?_, ?_, items_cols HA.hv HA.h2 hin hsec, items_diag HA.hv HA.h2 hin hsec⟩
    · simp only [Arr.sectors, hLb, List.map_map]
      apply List.map_congr_left
      intro p hp
      exact hcc p hp
    · rw [Lazy.daggerF_sectors]
      simp only [Arr.sectors, hEVb, List.map_map]
      apply List.map_congr_left
      intro p hp
      simp only [Function.comp]
      rw [hcc p hp]; rfl
  have hLpar : (multiplyDiagonal EV W 1).parity = false := by
    show EV.sym.parity EV.charge = false
    rw [hEVc, hEVs]
    exact Sym.parity_zero _
  have hm : mergeOddpos (multiplyDiagonal EV W 1).parity (multiplyDiagonal EV W 1).oddpos
      EV.daggerF.oddpos = .ok ([], 1 * NormNet.nestSign (Arr.oddposDag a.oddpos)) := by
    have hLo : (multiplyDiagonal EV W 1).oddpos = a.oddpos := hEVo
    rw [hLpar, d5, hEVo, hLo]
    have := merge_nested false (Arr.oddposDag a.oddpos)
      ⟨oddposDag_sorted _ hlab.1, NormNet.oddposDag_distinct _ hlab.2⟩
    rw [Lazy.oddposDag_involutive] at this
    rw [this]
    rfl
  have hidx : without (multiplyDiagonal EV W 1).indices [1] ++ without EV.daggerF.indices [0]
      = [i0, i0.conj] := by rw [hLi, hBi]; rfl
  have hbs : ∀ s, Arr.blockShapeD (without (multiplyDiagonal EV W 1).indices [1]
      ++ without EV.daggerF.indices [0]) s = Arr.blockShapeD a.indices s := by
    intro s
    rw [hidx, hia]
    exact blockShapeD_congr_cm _ _ s (by simp [hcm, Index.conj_cm])
  have hval : ∀ s i j, inBox (Arr.blockShapeD a.indices s) [i, j] = true →
      gradedContract (multiplyDiagonal EV W 1) EV.daggerF [1] [0] s [i] [j] = a.elem s [i, j] := by
    intro s i j hbox
    rw [← syncIf_elem SignRing.neg_zero a s [i, j]]
    by_cases hs : s ∈ (syncIf a).sectors
    · obtain ⟨p, hp, e⟩ := List.mem_map.mp hs
      obtain ⟨c, m, hsc, hsh, hwf, _, hlk⟩ := eigh_block HA (s := p.1) (b := p.2) hp
      have e' : s = [c, c] := by rw [← e]; exact hsc
      subst e'
      have hcol : colOf p.1 = c := by rw [hsc]; rfl
      obtain ⟨a1, _, a3, _⟩ := hK.eigh p.2 m hsh hwf
      have hlk0 : alookup i0.cm c = some m := by rw [hcm]; rw [hi1] at hlk; exact hlk
      have hlk1 : alookup i1.cm c = some m := by rw [hi1] at hlk; exact hlk
      have hij : i < m ∧ j < m := by
        have hb : Arr.blockShapeD a.indices [c, c] = [m, m] := by
          unfold Arr.blockShapeD
          rw [hia, (blockShape?_pair _ _ c c [m, m]).mpr ⟨m, m, hlk0, hlk1, rfl⟩]; rfl
        rw [hb] at hbox
        exact (inBox_pair _ _ i j).mp hbox
      have hAsh : Arr.blockShapeD (multiplyDiagonal EV W 1).indices [c, c] = [m, m] := by
        unfold Arr.blockShapeD
        rw [hLi, (blockShape?_pair _ _ c c [m, m]).mpr ⟨m, m, hlk0, hlk1, rfl⟩]; rfl
      have hgc := G.gradedContract (p := p) hp m m (by simp only [hcol]; exact hAsh) i j
      simp only [hcol] at hgc
      rw [hgc]
      have hLm : ([c, c], (K.eigh p.2).2.mulAxisK
          (if (!i1.dual && (syncIf a).sym.parity (colOf p.1)) then (K.eigh p.2).1.negK
            else (K.eigh p.2).1) 1) ∈ (multiplyDiagonal EV W 1).blocks := by
        rw [hLb]; exact List.mem_map.mpr ⟨p, hp, by rw [hsc]⟩
      have hEm : ([c, c], (K.eigh p.2).2) ∈ EV.blocks := by
        rw [hEVb]; exact List.mem_map.mpr ⟨p, hp, by rw [hsc]⟩
      have hdgs : Lazy.dagSign EV false [c, c] = 1 := by
        unfold Lazy.dagSign Lazy.conjGlob
        have : EV.sym.parity (EV.sym.sign EV.charge true) = false := by
          rw [hEVc, hEVs, Sym.sign_zero]; exact Sym.parity_zero _
        simp [this]
      have hgs : (!((multiplyDiagonal EV W 1).indices.getD 1 default).dual
          && (multiplyDiagonal EV W 1).sym.parity c) = (!i1.dual && (syncIf a).sym.parity c) := by
        rw [hLi]
        show (!i1.dual && EV.sym.parity c) = _
        rw [hEVs]
      have hterm : ∀ t ∈ List.range m,
          (multiplyDiagonal EV W 1).elem [c, c] [i, t] * EV.daggerF.elem [c, c] [t, j]
            = sgnI (if (!i1.dual && (syncIf a).sym.parity c) then -1 else 1)
                (((K.eigh p.2).2.get [i, t] * (K.eigh p.2).1.get [t])
                  * Conj.conj ((K.eigh p.2).2.get [j, t])) := by
        intro t ht
        have ht' := List.mem_range.mp ht
        have hd : EV.daggerF.elem [c, c] [t, j]
            = sgnI (Lazy.dagSign EV false [c, c] * Lazy.phOf EV.phases [c, c])
                ((((K.eigh p.2).2.conjK).transposeK (Arr.reversedAxes EV.ndim)).get [t, j]) :=
          daggerF_elem hsE hEm [t, j]
        rw [hd, elem_sgn hsL.sectors hLm, hLp, hEVp, hdgs, hEVn]
        have hph : Lazy.phOf ([] : List (Sector × Int)) [c, c] = 1 := rfl
        rw [hph, Int.one_mul, Lazy.sgnI_one, Lazy.sgnI_one]
        have hrv : Arr.reversedAxes 2 = [1, 0] := rfl
        rw [hrv, transposeK10_get _ (by rw [conjK_shape]; exact a3) ht' hij.2, conjK_get hc0,
          mulAxisK_get _ _ a3 hij.1 ht', hcol]
        cases (!i1.dual && (syncIf a).sym.parity c)
        · simp only [Bool.false_eq_true, if_false, Lazy.sgnI_one]
        · simp only [if_true, Lazy.sgnI_neg_one]
          rw [negK_get SignRing.neg_zero, SignRing.mul_neg, SignRing.neg_mul]
      rw [List.map_congr_left hterm, sgnI_sum, hgs, sum_map_eq_foldl]
      have hEp : K.EighBlock p.2 := hE p (by rw [← syncIf_blocks_fermi a hf]; exact hp)
      rw [hEp m hsh i j hij.1 hij.2]
      have hpe : (syncIf a).elem [c, c] [i, j] = p.2.get [i, j] := by
        rw [Arr.elem_of_mem (Arr.validB_nodup HA.hv) (show ([c, c], p.2) ∈ (syncIf a).blocks by
          rw [← hsc]; exact hp), hAph]
        rfl
      rw [hpe]
      cases (!i1.dual && (syncIf a).sym.parity c) <;> simp [sgnI, SignRing.neg_neg]
    · rw [G.gradedContract_miss s (fun p hp e => hs (by
        rw [← e, ← hcc p hp]; exact hin p hp)) [i] [j]]
      have h1' : alookup (syncIf a).blocks s = none := alookup_eq_none_iff.mpr hs
      simp [Arr.elem, h1']
  obtain ⟨⟨y, hy, hyo, _, hye⟩, hT⟩ := graded_matmul_and_tensordot hz1 hz2 _ _ hAdm hLn hBn _ _ hm
  refine ⟨W, EV, he, ⟨y, hy, hyo, ?_⟩, ?_⟩
  · intro s i j hbox
    rw [hye s i j (by rw [hbs]; exact hbox), hval s i j hbox, Int.one_mul]
  · intro tm
    obtain ⟨c, hc, hco, hcc, hce⟩ := hT tm
    refine ⟨c, hc, hco, ?_, ?_⟩
    · rw [hcc, d4]
      show EV.sym.combine [EV.charge, EV.sym.sign EV.charge true] = _
      rw [hEVs, hEVc, f1, ← H.hc]
    intro s i j hbox
    rw [hce s i j (by rw [hbs]; exact hbox), hval s i j hbox, Int.one_mul]

end eigh

end DecompP
end SymmModel
