/-
  SymmModel.Proofs.TwoStepMain — "several pairs at once or one after another" (C04), VALUES:
  `tensordotF` over `xa ~ xb` followed by the single-array `einsumF` that traces the images of
  `ya ~ yb` gives, at every address, the value of `tensordotF` over `xa ++ ya ~ xb ++ yb`.
  Namespace `SymmModel.TwoStepP`.
-/
import SymmModel.Proofs.TwoStepSec
import SymmModel.Proofs.TwoStepSign

namespace SymmModel
namespace TwoStepP
open TdotP GradedP RoutesP AssocP KoszulP Assoc3P
open Lazy (sgnI einOrder einOperand transposedElem)
set_option linter.unusedSectionVars false

variable {R : Type} [AddCommMonoid R] [Mul R] [Neg R] [SignRing R]

variable {a b c : Arr R} {xa xb ya yb : List Nat} {ph : Int}

/-- what the lemmas on the two-step contraction assume: the weak guard on the first pairs and on all
    pairs, and the intermediate `c` as `Inter` describes it (`ph`: the sign of its label merge) -/
structure Ctx (a b c : Arr R) (xa xb ya yb : List Nat) (ph : Int) : Prop where
  W1 : AdmW a b xa xb
  W2 : AdmW a b (xa ++ ya) (xb ++ yb)
  I : Inter a b xa xb c ph

namespace Ctx
variable (C : Ctx a b c xa xb ya yb ph)
include C

theorem hA : Mid a.ndim xa ya := Mid.of C.W2.nA C.W2.ltA
theorem hB : Mid b.ndim xb yb := Mid.of C.W2.nB C.W2.ltB
theorem hlx : xa.length = xb.length := C.W1.len
theorem hly : ya.length = yb.length := by
  have := C.W2.len; rw [List.length_append, List.length_append] at this; have := C.hlx; omega

theorem ordPerm : (tsOrder a b.ndim xa xb ya yb).Perm (List.range (tsN a.ndim b.ndim xa xb)) :=
  tsOrder_perm a b.ndim xa xb ya yb C.W2.nA C.W2.ltA C.W2.nB C.W2.ltB C.hly

theorem ordEq :
    einOrder c (tsLhs a.ndim b.ndim xa xb ya yb) (tsRhs a.ndim b.ndim xa xb ya yb)
      = tsOrder a b.ndim xa xb ya yb :=
  einOrder_eq_tsOrder a c b.ndim xa xb ya yb C.W2.nA C.W2.ltA C.W2.nB C.W2.ltB C.hly C.I.ndim
    (dual_PA C.I C.hA)
    (fun i hi => by rw [dual_PB C.I C.hB i (C.hly ▸ hi), dual_y C.W2 C.hlx i hi])

theorem lhsEq :
    permuted (tsLhs a.ndim b.ndim xa xb ya yb)
        (einOrder c (tsLhs a.ndim b.ndim xa xb ya yb) (tsRhs a.ndim b.ndim xa xb ya yb))
      = dblFront (tsN a.ndim b.ndim xa xb) ya.length ++ tsRhs a.ndim b.ndim xa xb ya yb := by
  rw [C.ordEq]
  exact permuted_tsLhs_tsOrder a b.ndim xa xb ya yb C.W2.nA C.W2.ltA C.W2.nB C.W2.ltB C.hly

theorem rhsLen : 2 * ya.length + (tsRhs a.ndim b.ndim xa xb ya yb).length = tsN a.ndim b.ndim xa xb :=
  tsRhs_length a b.ndim xa xb ya yb C.W2.nA C.W2.ltA C.W2.nB C.W2.ltB C.hly

theorem ordLt (n : Nat) (hn : n = tsN a.ndim b.ndim xa xb) :
    ∀ i ∈ tsOrder a b.ndim xa xb ya yb, i < n := by
  subst hn; exact perm_range_mem_lt C.ordPerm

theorem ordLen : (tsOrder a b.ndim xa xb ya yb).length = tsN a.ndim b.ndim xa xb := by
  simpa using C.ordPerm.length_eq

theorem permOrd :
    permuted (tsOrder a b.ndim xa xb ya yb)
        ((List.range (tsRhs a.ndim b.ndim xa xb ya yb).length).map (2 * ya.length + ·))
      = tsRhs a.ndim b.ndim xa xb ya yb := by
  have e : (tsOrder a b.ndim xa xb ya yb).length - 2 * ya.length
      = (tsRhs a.ndim b.ndim xa xb ya yb).length := by rw [C.ordLen, ← C.rhsLen]; omega
  rw [← e, permuted_shift_range _ _ (by rw [C.ordLen, ← C.rhsLen]; omega), tsOrder_drop]

theorem opIdx :
    (einOperand c (tsLhs a.ndim b.ndim xa xb ya yb) (tsRhs a.ndim b.ndim xa xb ya yb)).indices
      = permuted c.indices (tsOrder a b.ndim xa xb ya yb) := by
  show (c.transposeF (einOrder c _ _)).indices = _
  rw [(Lazy.transposeF_frame c _).2.2.1, C.ordEq]

variable {sa sb : Sector} (hsa : sa ∈ a.sectors) (hsb : sb ∈ b.sectors)
include hsa hsb

theorem lenA : sa.length = a.ndim :=
  (shape_of_mem (Arr.shapesOk_of_validB C.W1.va) hsa).choose_spec.2.2.2
theorem lenB : sb.length = b.ndim :=
  (shape_of_mem (Arr.shapesOk_of_validB C.W1.vb) hsb).choose_spec.2.2.2

theorem lenS :
    (permuted sa (freeAxes a.ndim xa) ++ permuted sb (freeAxes b.ndim xb)).length
      = tsN a.ndim b.ndim xa xb := by
  rw [List.length_append, permuted_length _ _ (by rw [C.lenA hsa hsb]; exact C.hA.flt),
    permuted_length _ _ (by rw [C.lenB hsa hsb]; exact C.hB.flt)]
  rfl

theorem alignIff : permuted sb (xb ++ yb) = permuted sa (xa ++ ya)
    ↔ permuted sb xb = permuted sa xa ∧ permuted sb yb = permuted sa ya :=
  aligned_split sa sb xa ya xb yb (by rw [C.lenA hsa hsb]; exact C.W1.ltA)
    (by rw [C.lenB hsa hsb]; exact C.W1.ltB) C.hlx

theorem keepIff :
    einKeep (dblFront (tsN a.ndim b.ndim xa xb) ya.length ++ tsRhs a.ndim b.ndim xa xb ya yb)
        (tsRhs a.ndim b.ndim xa xb ya yb)
        (permuted (permuted sa (freeAxes a.ndim xa) ++ permuted sb (freeAxes b.ndim xb))
          (tsOrder a b.ndim xa xb ya yb)) = true
      ↔ permuted sb yb = permuted sa ya := by
  rw [einKeep_tsOrder a b.ndim xa xb ya yb _ C.W2.nA C.W2.ltA C.W2.nB C.W2.ltB C.hly (C.lenS hsa hsb),
    permuted_tsPA C.hA sa _ (C.lenA hsa hsb),
    permuted_tsPB C.hB _ sb (permuted_length _ _ (by rw [C.lenA hsa hsb]; exact C.hA.flt))
      (C.lenB hsa hsb)]
  exact eq_comm

theorem keptPart :
    permuted (permuted (permuted sa (freeAxes a.ndim xa) ++ permuted sb (freeAxes b.ndim xb))
        (tsOrder a b.ndim xa xb ya yb))
        ((List.range (tsRhs a.ndim b.ndim xa xb ya yb).length).map (2 * ya.length + ·))
      = permuted sa (freeAxes a.ndim (xa ++ ya)) ++ permuted sb (freeAxes b.ndim (xb ++ yb)) := by
  rw [KoszulP.permuted_permuted _ _ _ (C.ordLt _ (C.lenS hsa hsb))]
  unfold compose
  rw [C.permOrd, permuted_tsRhs C.hA C.hB sa sb (C.lenA hsa hsb) (C.lenB hsa hsb)]

variable (hal : permuted sb (xb ++ yb) = permuted sa (xa ++ ya))
include hal

theorem alX : permuted sb xb = permuted sa xa := ((C.alignIff hsa hsb).mp hal).1

theorem opShape :
    Arr.blockShapeD
        (einOperand c (tsLhs a.ndim b.ndim xa xb ya yb) (tsRhs a.ndim b.ndim xa xb ya yb)).indices
        (permuted (permuted sa (freeAxes a.ndim xa) ++ permuted sb (freeAxes b.ndim xb))
          (tsOrder a b.ndim xa xb ya yb))
      = dbl (permuted (Arr.blockShapeD a.indices sa) ya) ya.length
        ++ (permuted (Arr.blockShapeD a.indices sa) (freeAxes a.ndim (xa ++ ya))
          ++ permuted (Arr.blockShapeD b.indices sb) (freeAxes b.ndim (xb ++ yb))) := by
  have h := C.I.shape (Arr.shapesOk_of_validB C.W1.va) (Arr.shapesOk_of_validB C.W1.vb) hsa hsb
    (C.alX hsa hsb hal)
  have h' := blockShape?_permuted h (tsOrder a b.ndim xa xb ya yb) (C.ordLt _ C.I.ndim)
  rw [C.opIdx, Arr.blockShapeD, h', (shape_ord C.W2 C.hlx C.hly hsa hsb hal).2.2]
  rfl

theorem tracedBox :
    (einTraced (dblFront (tsN a.ndim b.ndim xa xb) ya.length ++ tsRhs a.ndim b.ndim xa xb ya yb)
        (tsRhs a.ndim b.ndim xa xb ya yb)).map
      (einSize (Arr.blockShapeD
          (einOperand c (tsLhs a.ndim b.ndim xa xb ya yb) (tsRhs a.ndim b.ndim xa xb ya yb)).indices
          (permuted (permuted sa (freeAxes a.ndim xa) ++ permuted sb (freeAxes b.ndim xb))
            (tsOrder a b.ndim xa xb ya yb)))
        (dblFront (tsN a.ndim b.ndim xa xb) ya.length ++ tsRhs a.ndim b.ndim xa xb ya yb))
      = permuted (Arr.blockShapeD a.indices sa) ya := by
  rw [einSize_traced_canon (tsRhs_lt _ _ _ _ _ _), C.opShape hsa hsb hal]
  have hV := (shape_ord C.W2 C.hlx C.hly hsa hsb hal).2.1
  conv => rhs; rw [list_eq_map_getD (permuted (Arr.blockShapeD a.indices sa) ya), hV]
  apply List.map_congr_left
  intro i hi
  have hi := List.mem_range.mp hi
  rw [List.getD_eq_getElem?_getD, List.getElem?_append_left (by rw [dbl_length]; omega),
    ← List.getD_eq_getElem?_getD, dbl_getD _ _ _ (by omega), Nat.mul_div_cancel_left i (by omega)]

theorem outBox :
    (tsRhs a.ndim b.ndim xa xb ya yb).map
      (einSize (Arr.blockShapeD
          (einOperand c (tsLhs a.ndim b.ndim xa xb ya yb) (tsRhs a.ndim b.ndim xa xb ya yb)).indices
          (permuted (permuted sa (freeAxes a.ndim xa) ++ permuted sb (freeAxes b.ndim xb))
            (tsOrder a b.ndim xa xb ya yb)))
        (dblFront (tsN a.ndim b.ndim xa xb) ya.length ++ tsRhs a.ndim b.ndim xa xb ya yb))
      = permuted (Arr.blockShapeD a.indices sa) (freeAxes a.ndim (xa ++ ya))
        ++ permuted (Arr.blockShapeD b.indices sb) (freeAxes b.ndim (xb ++ yb)) := by
  obtain ⟨_, _, eA, lA, _⟩ := shape_of_mem (Arr.shapesOk_of_validB C.W1.va) hsa
  obtain ⟨_, _, eB, lB, _⟩ := shape_of_mem (Arr.shapesOk_of_validB C.W1.vb) hsb
  rw [einSize_rhs_canon_drop (tsRhs_lt _ _ _ _ _ _) (tsRhs_nodup _ _ _ _ _ _) _ (by
      rw [C.opShape hsa hsb hal, List.length_append, dbl_length, tsRhs_length_free C.hA C.hB,
        List.length_append,
        permuted_length _ _ (by rw [eA, lA]; intro x hx; exact (mem_freeAxes.mp hx).1),
        permuted_length _ _ (by rw [eB, lB]; intro x hx; exact (mem_freeAxes.mp hx).1)]),
    C.opShape hsa hsb hal, List.drop_left' (dbl_length _ _)]

theorem term (t fL fR : List Nat)
    (ht : inBox (permuted (Arr.blockShapeD a.indices sa) ya) t = true)
    (hfL : fL.length = (freeAxes a.ndim (xa ++ ya)).length)
    (hbox : inBox (permuted (Arr.blockShapeD a.indices sa) (freeAxes a.ndim (xa ++ ya))
      ++ permuted (Arr.blockShapeD b.indices sb) (freeAxes b.ndim (xb ++ yb))) (fL ++ fR) = true) :
    transposedElem c (tsOrder a b.ndim xa xb ya yb)
        (permuted sa (freeAxes a.ndim xa) ++ permuted sb (freeAxes b.ndim xb))
        (einIdx (dblFront (tsN a.ndim b.ndim xa xb) ya.length ++ tsRhs a.ndim b.ndim xa xb ya yb)
          (tsRhs a.ndim b.ndim xa xb ya yb) (fL ++ fR) t)
      = sgnI ph (gradedContract a b xa xb
          (permuted sa (freeAxes a.ndim xa) ++ permuted sb (freeAxes b.ndim xb))
          (asmSide (freeAxes a.ndim xa) ya (freeAxes a.ndim (xa ++ ya)) t fL)
          (asmSide (freeAxes b.ndim xb) yb (freeAxes b.ndim (xb ++ yb)) t fR)) := by
  have hsA := Arr.shapesOk_of_validB C.W1.va
  have hsB := Arr.shapesOk_of_validB C.W1.vb
  have hZ := (shape_ord C.W2 C.hlx C.hly hsa hsb hal).1
  obtain ⟨htl, hfR, hboxO, hboxM⟩ := asm_inBox C.W2 C.hlx C.hly hsa hsb hal t fL fR ht hfL hbox
  obtain ⟨hml, hmo⟩ := asm_ord a C.W2.nA C.W2.ltA C.W2.nB C.W2.ltB C.hly t fL fR htl hfL hfR
  have hfLR : (fL ++ fR).length = (tsRhs a.ndim b.ndim xa xb ya yb).length := by
    rw [tsRhs_length_free C.hA C.hB, List.length_append, hfL, hfR]
  have hmem : (permuted sa (freeAxes a.ndim xa) ++ permuted sb (freeAxes b.ndim xb)) ∈ c.sectors :=
    C.I.mem_sectors.mpr ⟨sa, hsa, sb, hsb, C.alX hsa hsb hal, rfl⟩
  obtain ⟨p, hp, hp1⟩ := List.mem_map.mp hmem
  have hlk : alookup c.blocks (permuted sa (freeAxes a.ndim xa) ++ permuted sb (freeAxes b.ndim xb))
      = some p.2 := by
    rw [← hp1]
    exact alookup_of_mem (Arr.allDistinct_of_validB C.I.valid) hp
  have hshp : p.2.shape = permuted (Arr.blockShapeD a.indices sa) (freeAxes a.ndim xa)
      ++ permuted (Arr.blockShapeD b.indices sb) (freeAxes b.ndim xb) := by
    have := Arr.shapesOk_of_validB C.I.valid p hp
    rw [hp1, C.I.shape hsA hsB hsa hsb (C.alX hsa hsb hal)] at this
    exact (Option.some.inj this).symm
  -- the einsum offset `t t … ++ fL ++ fR`, read back in the stored order, is the assembled offset
  have hsrc : Lazy.srcIdx (tsN a.ndim b.ndim xa xb) (tsOrder a b.ndim xa xb ya yb)
        (dbl t ya.length ++ (fL ++ fR))
      = asmSide (freeAxes a.ndim xa) ya (freeAxes a.ndim (xa ++ ya)) t fL
        ++ asmSide (freeAxes b.ndim xb) yb (freeAxes b.ndim (xb ++ yb)) t fR := by
    apply KoszulP.permuted_injective _ _ (tsOrder a b.ndim xa xb ya yb) (tsN a.ndim b.ndim xa xb)
      C.ordPerm (by simp [Lazy.srcIdx]) hml
    rw [permuted_srcIdx _ _ _ C.ordPerm (by
      rw [List.length_append, dbl_length, hfLR]; exact C.rhsLen), hmo]
  have hidx : einIdx (dblFront (tsN a.ndim b.ndim xa xb) ya.length ++ tsRhs a.ndim b.ndim xa xb ya yb)
      (tsRhs a.ndim b.ndim xa xb ya yb) (fL ++ fR) t = dbl t ya.length ++ (fL ++ fR) :=
    einIdx_canon (tsRhs_lt _ _ _ _ _ _) (tsRhs_nodup _ _ _ _ _ _) (fL ++ fR) t hfLR
  rw [hidx, Lazy.transposedElem_inBox c _ _ p.2 hlk _ (by rw [hshp]; exact hboxO), hshp, hZ, hsrc]
  exact C.I.elem _ _ _ (asmSide_length _ _ _ _ _) (by
    rw [Arr.blockShapeD, frame_shape hsA hsB hsa hsb]; exact hboxM)

end Ctx

end TwoStepP
end SymmModel
