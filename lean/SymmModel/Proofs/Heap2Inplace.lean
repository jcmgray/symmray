/-
  SymmModel.Proofs.Heap2Inplace — the in-place and the out-of-place runs of the two-operand operations
  (`binaryA`, `binaryF`, `alignAxes`) compared at the level of programs (property C14).
-/
import SymmModel.Proofs.Heap2Binary
namespace SymmModel.Heap

theorem arrOf_ext {h h' : Heap} (e : Ext h h') {y : ObjId} {ay : ArrObj} (hy : h.arrOf y = some ay) :
    h'.arrOf y = some ay := by
  rw [arrOf_eq_some] at hy ⊢
  rw [e.get? (get?_lt hy)]; exact hy

theorem dictsOf_lt {h : Heap} {y : ObjId} {a : ArrObj} {bd : Dict} {pd : Option Dict} (w : WFArr h y a bd pd) :
    ∀ d ∈ dictsOf h y, d < h.size := by
  intro d hd
  rw [dictsOf_of_get? w.arr] at hd
  simp only [dictsOfArr, List.mem_cons, Option.mem_toList] at hd
  rcases hd with rfl | e
  · exact get?_lt w.blk
  · obtain ⟨d', _, hd', _⟩ := w.ph _ e
    exact get?_lt hd'

theorem Inv.start_binary {h : Heap} {x y : ObjId} (hx : x < h.size) :
    Inv h (· = x) (· ∈ dictsOf h x) h [x, y] [true, false] :=
  Inv.start_inplace hx _ _ rfl
    (fun j hj => by cases j with | zero => rfl | succ j => cases j <;> simp [List.getD] at hj)

/-! ### `BlockBase._binary_blockwise_op` (abelian arrays, block vectors) -/

/-- no hypothesis relates `y` to `x`: `y` may be `x` itself or share its dicts -/
theorem binaryA_runs (m : Missing) {h : Heap} {x y : ObjId} {a ay : ArrObj} {bd ob : Dict} {pd : Option Dict}
    (wx : WFArr h x a bd pd) (hy : h.arrOf y = some ay) (hyb : h.get? ay.blocks = some (.dict ob)) :
    ∃ hi ho r q c, ((Op.binaryA m).prog true).run h [x, y] = (hi, [x, y, h.size]) ∧
      ((Op.binaryA m).prog false).run h [x, y] = (ho, [x, y, r, q]) ∧
      content hi x = some c ∧ content ho r = some c ∧ hi.bufs = ho.bufs ∧
      (c, hi.bufs) = binPure m (cont a bd pd, h.bufs) ob := by
  obtain ⟨hi, ai, bi, pi, ri, wi, ei, _⟩ := binaryK_refines 0 1 m .done (env := [x, y])
    (Inv.start_binary (get?_lt wx.arr)) rfl wx hy hyb
  obtain ⟨ac, bc, pc, wc, ec, hbc⟩ := copyArr_refines wx
  have cs := copyArr_spec h x
  obtain ⟨ho, ao, bo, po, ro, wo, eo, _⟩ := binaryK_refines 2 1 m .done (h := (copyArr h x).1)
    (env := [x, y, (copyArr h x).2]) (runCmd_inv (.copy 0) rfl (Inv.start_out h [x, y])) rfl wc
    (arrOf_ext cs.1.ext hy) (by rw [cs.1.ext.get? (get?_lt hyb)]; exact hyb)
  rw [ec, hbc] at eo
  refine ⟨hi, ho, (copyArr h x).2, (copyArr h x).1.size, cont ai bi pi, ?_, ?_, ?_, ?_, ?_, ei⟩
  · simpa [Op.prog, Prog.run] using ri
  · simp only [Op.prog, Bool.false_eq_true, if_false, Prog.run, runCmd, envGet, List.getD_cons_zero,
      List.cons_append, List.nil_append]
    simpa [Prog.run] using ro
  · simpa [envGet] using wi.content
  · have := wo.content
    simp only [envGet, List.getD_cons_succ, List.getD_cons_zero] at this
    rw [this, (Prod.mk.inj (eo.trans ei.symm)).1]
  · exact ((Prod.mk.inj (eo.trans ei.symm)).2).symm

/-! ### `FermionicArray._binary_blockwise_op` -/

theorem binaryF_prog_true (m : Missing) : (Op.binaryF m).prog true = bodyF 0 2 m := rfl
theorem binaryF_prog_false (m : Missing) : (Op.binaryF m).prog false = .cmd (.copy 0) (bodyF 2 3 m) := rfl

/-- the two runs of `binaryF`, given what `other` looks like after the left operand has been synchronised: `cyi`
    in place (where the left operand is `x`), `cyo` out of place (where it is the copy); the invariants say what
    may have been written by then -/
theorem binaryF_runs_core (m : Missing) {h : Heap} {x y : ObjId} {a : ArrObj} {bd : Dict} {pd : Option Dict}
    (wx : WFArr h x a bd pd) (cyi cyo : Content)
    (HYi : ∀ h1 a1 b1 p1, Inv h (· = x) (· ∈ dictsOf h x) h1 [x, y] [true, false] → WFArr h1 x a1 b1 p1 →
      cont a1 b1 p1 = (S.phaseSync.pure (cont a bd pd, h.bufs)).1 →
      ∃ ay bo po, WFArr h1 y ay bo po ∧ cont ay bo po = cyi)
    (HYo : ∀ h1, Inv h Never Never h1 [x, y, (copyArr h x).2] [false, false, true] →
      ∃ ay bo po, WFArr h1 y ay bo po ∧ cont ay bo po = cyo) :
    ∃ hi ho r e1 e2 ci co, ((Op.binaryF m).prog true).run h [x, y] = (hi, [x, y] ++ e1) ∧
      ((Op.binaryF m).prog false).run h [x, y] = (ho, [x, y, r] ++ e2) ∧
      content hi x = some ci ∧ content ho r = some co ∧
      (ci, hi.bufs) = bodyFPure m (cont a bd pd) cyi h.bufs ∧
      (co, ho.bufs) = bodyFPure m (cont a bd pd) cyo h.bufs := by
  obtain ⟨hi, e1, ai, bi, pi, ri, wi, ei⟩ := bodyF_refines 0 m (env := [x, y])
    (Inv.start_binary (get?_lt wx.arr)) rfl (by simp) wx cyi HYi
  obtain ⟨ac, bc, pc, wc, ec, hbc⟩ := copyArr_refines wx
  obtain ⟨ho, e2, ao, bo, po, ro, wo, eo⟩ := bodyF_refines 2 m (h := (copyArr h x).1)
    (env := [x, y, (copyArr h x).2]) (runCmd_inv (.copy 0) rfl (Inv.start_out h [x, y])) rfl (by simp) wc cyo
    (fun h1 _ _ _ I1 _ _ => HYo h1 I1)
  rw [ec, hbc] at eo
  exact ⟨hi, ho, (copyArr h x).2, e1, e2, cont ai bi pi, cont ao bo po, by rw [binaryF_prog_true]; exact ri,
    by rw [binaryF_prog_false]; exact ro, wi.content, wo.content, ei, eo⟩

theorem binaryF_runs (m : Missing) {h : Heap} {x y : ObjId} {a ay : ArrObj} {bd bo : Dict} {pd po : Option Dict}
    (wx : WFArr h x a bd pd) (wy : WFArr h y ay bo po) (hne : y ≠ x)
    (hdis : ∀ d ∈ dictsOf h y, d ∉ dictsOf h x) :
    ∃ hi ho r e1 e2 c, ((Op.binaryF m).prog true).run h [x, y] = (hi, [x, y] ++ e1) ∧
      ((Op.binaryF m).prog false).run h [x, y] = (ho, [x, y, r] ++ e2) ∧
      content hi x = some c ∧ content ho r = some c ∧ hi.bufs = ho.bufs ∧
      (c, hi.bufs) = bodyFPure m (cont a bd pd) (cont ay bo po) h.bufs := by
  have kind : ∀ {q : ObjId} {l : Dict}, h.get? q = some (.dict l) → q ≠ x :=
    fun hq e => by rw [e, wx.arr] at hq; cases hq
  have hdy : dictsOf h y = dictsOfArr ay := dictsOf_of_get? wy.arr
  obtain ⟨hi, ho, r, e1, e2, ci, co, ri, ro, hci, hco, ei, eo⟩ := binaryF_runs_core m wx (cont ay bo po) (cont ay bo po)
    (fun h1 _ _ _ I1 _ _ => ⟨ay, bo, po, I1.wf_other wy hne
      (fun e => e.elim (kind wy.blk) (hdis _ (by rw [hdy]; simp [dictsOfArr])))
      (fun p hp e => e.elim (kind (wy.ph p hp).choose_spec.2.1) (hdis _ (by rw [hdy]; simp [dictsOfArr, hp]))), rfl⟩)
    (fun h1 I1 => ⟨ay, bo, po, I1.wf_other wy id (fun e => e.elim id id) (fun _ _ e => e.elim id id), rfl⟩)
  -- `other` looks the same in both runs: same content, same buffers
  obtain ⟨rfl, hb⟩ := Prod.mk.inj (eo.trans ei.symm)
  exact ⟨hi, ho, r, e1, e2, co, ri, ro, hci, hco, hb.symm, ei⟩

theorem phaseSync_pure_clean (c : Content) (bufs : Bufs) (hc : c.phases.getD [] = []) :
    S.phaseSync.pure (c, bufs) = (c, bufs) := by
  simp [S.phaseSync, Script.pure, hc]

theorem binaryF_runs_self (m : Missing) {h : Heap} {x : ObjId} {a : ArrObj} {bd : Dict} {pd : Option Dict}
    (wx : WFArr h x a bd pd) (hclean : pd.getD [] = []) :
    ∃ hi ho r e1 e2 c, ((Op.binaryF m).prog true).run h [x, x] = (hi, [x, x] ++ e1) ∧
      ((Op.binaryF m).prog false).run h [x, x] = (ho, [x, x, r] ++ e2) ∧
      content hi x = some c ∧ content ho r = some c ∧ hi.bufs = ho.bufs ∧
      (c, hi.bufs) = bodyFPure m (cont a bd pd) (cont a bd pd) h.bufs := by
  obtain ⟨hi, ho, r, e1, e2, ci, co, ri, ro, hci, hco, ei, eo⟩ := binaryF_runs_core m wx (cont a bd pd) (cont a bd pd)
    (fun h1 a1 b1 p1 _ w1 e1 => by
      rw [phaseSync_pure_clean _ _ (by simpa [cont] using hclean)] at e1
      exact ⟨a1, b1, p1, w1, e1⟩)
    (fun h1 I1 => ⟨a, bd, pd, I1.wf_other wx id (fun e => e.elim id id) (fun _ _ e => e.elim id id), rfl⟩)
  obtain ⟨rfl, hb⟩ := Prod.mk.inj (eo.trans ei.symm)
  exact ⟨hi, ho, r, e1, e2, co, ri, ro, hci, hco, hb.symm, ei⟩

/-! ### `drop_misaligned_sectors(a, b, axes_a, axes_b, inplace)` -/

theorem alignAxes_prog (p : AlignP) (ip : Bool) : (Op.alignAxes p).prog ip = alignK 0 1 p ip .done := rfl

/-- the two runs of `drop_misaligned_sectors` as effects on the heap, `ms` being the pair of `modify` /
    `copy_with` arguments computed from the two contents (`b` may be `a` itself) -/
theorem alignAxes_runs (p : AlignP) {h : Heap} {x y : ObjId} {a ay : ArrObj} {bd bo : Dict} {pd po : Option Dict}
    (wx : WFArr h x a bd pd) (wy : WFArr h y ay bo po) {ms : Mods × Mods}
    (hms : alignMods p (cont a bd pd) (cont ay bo po) = ms) :
    ((Op.alignAxes p).prog true).run h [x, y] =
      (runAct (.modify ms.2) (runAct (.modify ms.1) h x) y, [x, y]) ∧
    ((Op.alignAxes p).prog false).run h [x, y] =
      ((copyWithArr (copyWithArr h x ms.1).1 y ms.2).1,
       [x, y, (copyWithArr h x ms.1).2, (copyWithArr (copyWithArr h x ms.1).1 y ms.2).2]) := by
  have hv0 : View.at (([x, y] : Env).map (see h)) 0 = cont a bd pd :=
    view_at (by simp) (by simpa [envGet] using wx)
  have hv1 : View.at (([x, y] : Env).map (see h)) 1 = cont ay bo po :=
    view_at (by simp) (by simpa [envGet] using wy)
  constructor <;> rw [alignAxes_prog]
  · simp only [alignK, Prog.run, hv0, hv1, hms, if_true, runCmd, envGet, List.getD_cons_zero,
      List.getD_cons_succ]
  · simp only [alignK, Prog.run, hv0, hv1, hms, Bool.false_eq_true, if_false, runCmd, envGet,
      List.getD_cons_zero, List.getD_cons_succ, List.cons_append, List.nil_append]

theorem align_runs (p : AlignP) {h : Heap} {x y : ObjId} {a ay : ArrObj} {bd bo : Dict} {pd po : Option Dict}
    (wx : WFArr h x a bd pd) (wy : WFArr h y ay bo po) (hne : y ≠ x)
    (hdis : ∀ d ∈ dictsOf h y, d ∉ dictsOf h x) :
    ∃ hi ho r1 r2 c1 c2, ((Op.alignAxes p).prog true).run h [x, y] = (hi, [x, y]) ∧
      ((Op.alignAxes p).prog false).run h [x, y] = (ho, [x, y, r1, r2]) ∧
      content hi x = some c1 ∧ content hi y = some c2 ∧
      content ho r1 = some c1 ∧ content ho r2 = some c2 ∧ hi.bufs = ho.bufs ∧
      (c1, (modifyP (alignMods p (cont a bd pd) (cont ay bo po)).1 (cont a bd pd, h.bufs)).2) =
        modifyP (alignMods p (cont a bd pd) (cont ay bo po)).1 (cont a bd pd, h.bufs) ∧
      (c2, hi.bufs) = modifyP (alignMods p (cont a bd pd) (cont ay bo po)).2
        (cont ay bo po, (modifyP (alignMods p (cont a bd pd) (cont ay bo po)).1 (cont a bd pd, h.bufs)).2) := by
  generalize hms : alignMods p (cont a bd pd) (cont ay bo po) = ms
  obtain ⟨runI, runO⟩ := alignAxes_runs p wx wy hms
  obtain ⟨a1, b1, p1, w1, e1⟩ := runAct_refines (.modify ms.1) wx
  obtain ⟨st1, ds1⟩ := runAct_spec (.modify ms.1) h x
  have wy1 := st1.wf_disjoint wy hne hdis
  obtain ⟨a2, b2, p2, w2, e2⟩ := runAct_refines (.modify ms.2) wy1
  obtain ⟨st2, _⟩ := runAct_spec (.modify ms.2) (runAct (.modify ms.1) h x) y
  have hylt : y < h.size := get?_lt wy.arr
  have wx2 := st2.wf_disjoint w1 (Ne.symm hne) (by
    intro d hd hd'
    rw [st1.dictsOf_same hylt hne] at hd'
    rcases ds1 d hd with h1 | h1
    · exact hdis d hd' h1
    · exact absurd (dictsOf_lt wy d hd') (Nat.not_lt.mpr h1))
  obtain ⟨ac, bc, pc, wc, ec⟩ := copyWithArr_refines ms.1 wx
  have cs1 := copyWithArr_spec h x ms.1
  have wyc := wf_ext cs1.1.ext wy
  obtain ⟨ad, bdd, pdd, wd, ed⟩ := copyWithArr_refines ms.2 wyc
  have cs2 := copyWithArr_spec (copyWithArr h x ms.1).1 y ms.2
  have wc2 := wf_ext cs2.1.ext wc
  have hb1 : (runAct (.modify ms.1) h x).bufs = (copyWithArr h x ms.1).1.bufs := by
    have := e1.trans ec.symm
    exact (Prod.mk.inj this).2
  have k2 : (cont ad bdd pdd, (copyWithArr (copyWithArr h x ms.1).1 y ms.2).1.bufs) =
      (cont a2 b2 p2, (runAct (.modify ms.2) (runAct (.modify ms.1) h x) y).bufs) := by
    rw [ed, e2, hb1]; rfl
  refine ⟨runAct (.modify ms.2) (runAct (.modify ms.1) h x) y, (copyWithArr (copyWithArr h x ms.1).1 y ms.2).1,
    (copyWithArr h x ms.1).2, (copyWithArr (copyWithArr h x ms.1).1 y ms.2).2,
    cont a1 b1 p1, cont a2 b2 p2, runI, runO, wx2.content, w2.content, ?_, ?_, ?_, ?_, ?_⟩
  · rw [wc2.content, (Prod.mk.inj (ec.trans e1.symm)).1]
  · rw [wd.content, (Prod.mk.inj k2).1]
  · exact ((Prod.mk.inj k2).2).symm
  · have e1' : (cont a1 b1 p1, (runAct (.modify ms.1) h x).bufs) = modifyP ms.1 (cont a bd pd, h.bufs) := e1
    rw [← e1']
  · have e1' : (cont a1 b1 p1, (runAct (.modify ms.1) h x).bufs) = modifyP ms.1 (cont a bd pd, h.bufs) := e1
    rw [← e1']; exact e2

/-- `drop_misaligned_sectors(a, a, …, inplace=True)`: the second `modify` overwrites the first; the
    object ends with the value of the SECOND out-of-place result -/
theorem align_runs_self (p : AlignP) {h : Heap} {x : ObjId} {a : ArrObj} {bd : Dict} {pd : Option Dict}
    (wx : WFArr h x a bd pd) :
    ∃ hi ho r1 r2 c2, ((Op.alignAxes p).prog true).run h [x, x] = (hi, [x, x]) ∧
      ((Op.alignAxes p).prog false).run h [x, x] = (ho, [x, x, r1, r2]) ∧
      content hi x = some c2 ∧ content ho r2 = some c2 ∧ hi.bufs = ho.bufs := by
  generalize hms : alignMods p (cont a bd pd) (cont a bd pd) = ms
  obtain ⟨runI, runO⟩ := alignAxes_runs p wx wx hms
  have hm1 : ms.1.charge = none ∧ ms.1.phases = none ∧ ms.2.charge = none ∧ ms.2.phases = none ∧
      ms.2.indices.isSome ∧ ms.2.blocks.isSome := by
    rw [← hms]; simp [alignMods]
  obtain ⟨a1, b1, p1, w1, e1⟩ := runAct_refines (.modify ms.1) wx
  obtain ⟨a2, b2, p2, w2, e2⟩ := runAct_refines (.modify ms.2) w1
  obtain ⟨ac, bc, pc, wc, ec⟩ := copyWithArr_refines ms.1 wx
  have cs1 := copyWithArr_spec h x ms.1
  have wxc := wf_ext cs1.1.ext wx
  obtain ⟨ad, bdd, pdd, wd, ed⟩ := copyWithArr_refines ms.2 wxc
  have hb1 : (runAct (.modify ms.1) h x).bufs = (copyWithArr h x ms.1).1.bufs :=
    (Prod.mk.inj (e1.trans ec.symm)).2
  have key : (cont a2 b2 p2, (runAct (.modify ms.2) (runAct (.modify ms.1) h x) x).bufs) =
      (cont ad bdd pdd, (copyWithArr (copyWithArr h x ms.1).1 x ms.2).1.bufs) := by
    rw [e2, ed, ← hb1]
    have h1 := (Prod.mk.inj e1).1
    obtain ⟨q1, q2, q3, q4, q5, q6⟩ := hm1
    obtain ⟨i2, hi2⟩ := Option.isSome_iff_exists.mp q5
    obtain ⟨es2, hes2⟩ := Option.isSome_iff_exists.mp q6
    simp only [modifyP, Act.pure, q1, q2, q3, q4, hi2, hes2, Option.getD_some, Option.getD_none] at h1 ⊢
    rw [h1]
    simp [newPd]
  refine ⟨runAct (.modify ms.2) (runAct (.modify ms.1) h x) x, (copyWithArr (copyWithArr h x ms.1).1 x ms.2).1,
    (copyWithArr h x ms.1).2, (copyWithArr (copyWithArr h x ms.1).1 x ms.2).2,
    cont a2 b2 p2, runI, runO, w2.content, ?_, (Prod.mk.inj key).2⟩
  · rw [wd.content, (Prod.mk.inj key).1]

end SymmModel.Heap
