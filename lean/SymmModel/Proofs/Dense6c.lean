/-
  SymmModel.Proofs.Dense6c — reshape at position level for every plan (unfuse calls, fuse calls,
  expand calls) (property C08, Props/C08f).

  Each step of a reshape plan makes the dense form of its result an image of the dense form of its
  argument (`Dense6.Img`, Proofs/DenseLemmas.lean: `img_fuse`, `img_unfuse` through `img_of_addr`,
  `img_expand`); `steps_img` composes them along a plan (`Img.comp`).
-/
import SymmModel.Proofs.Dense6b
import SymmModel.Proofs.Dense5f
import SymmModel.Proofs.Dense4b
import SymmModel.Props.C07g

namespace SymmModel
namespace Dense6
open Arr DenseP Dense3 Dense4 Dense5 FuseP

variable {R : Type}

section
variable [Zero R] [Neg R]

/-- the position relation of one unfuse call -/
def UPosRel (x y : Arr R) (axis : Nat) (P q : List Nat) : Prop :=
  ∃ (ix : Index) (ns : Sector) (i : List Nat) (ss : Sector) (so : List Nat),
    x.indices[axis]? = some ix ∧ locateAll x.indices P = some (ns, i) ∧ ns ∈ x.sectors
    ∧ splitAddr ix (ns.getD axis (0, 0)) (i.getD axis 0) = some (ss, so)
    ∧ locateAll y.indices q = some (replaceWithSeq ns axis ss, replaceWithSeq i axis so)

theorem img_fuse (a x : Arr R) (g : List (List Nat)) (hv : a.validB = true) (hf : a.fermi = false)
    (hne : C08.NoEmpty a) (hg : C05.groupsOkB g a.ndim = true) (hx : fuseCore a g .insert = .ok x)
    (hnex : C08.NoEmpty x) : Img a x (PosRel a x g) := by
  obtain ⟨rfl, hva, hok, ha, hX⟩ := fuse_setup hv hg hf hne hx hnex
  refine img_of_addr ha hX (FuseRelB a (fusedArrM a g) g) _
    (fun hl hs hlP hns ⟨segs, q1, q2, q3, q4⟩ => ⟨_, _, _, _, segs, hl, hs, hlP, hns, q1, q2, q3, q4⟩)
    (fun s offs hst => ?_) (fun ns i hst => fuse_addr_bwd hva hok ha hX ?_ hst)
  · obtain ⟨ns, i, h1, h2, h3⟩ := fuse_addr_fwd hva hok ha hX hst
    exact ⟨ns, i, h1, fuseRelB_of_fuseRel h2, h3⟩
  · obtain ⟨B, hB, _⟩ := hst
    rw [(blockShape?_length (hX.shapes.2 ns B hB)).1]
    exact newIdxM_length hok.adm

theorem img_unfuse (x y : Arr R) (axis : Nat) (ix : Index) (subs : List Index) (exts : Extents)
    (hv : x.validB = true) (hf : x.fermi = false) (hix : x.indices[axis]? = some ix)
    (hsub : ix.sub = some (subs, exts)) (hnex : C08.NoEmpty x) (hy : unfuseA x axis = .ok y)
    (hney : C08.NoEmpty y) : Img x y (UPosRel x y axis) := by
  have hva := validArr_of_validB hv
  have hX : DenseOk x := .of_validB hv hf hnex
  have hY : DenseOk y := .unfuseA hv hf hix hsub hy hney
  exact img_of_addr hX hY (URel ix axis) _
    (fun hl hs hlP _ ⟨ss, so, hsp, hK, hJ⟩ => ⟨ix, _, _, ss, so, hix, hl, hs, hsp, hK ▸ hJ ▸ hlP⟩)
    (fun _ _ => unfuse_addr_fwd hva hix hsub hX hY hy)
    (fun _ _ hst => Or.inr (unfuse_addr_bwd hva hix hsub hX hY (validB_nodup hv) hy hst))

theorem img_expand (a : Arr R) (axis : Nat) (c : Option Charge) (dual : Option Bool)
    (ha : axis ≤ a.ndim) (hv : a.validB = true) (hf : a.fermi = false) (hne : C08.NoEmpty a) :
    Img a (a.expandDims axis c dual) (fun p P => P = ins axis 0 p) := by
  obtain ⟨d, d', e1, e2, s1, s2, hg⟩ := expandDims_toDense_any a axis c dual ha (phases_nil_of_validB hv hf)
    (validB_shapesOk hv) (validB_nodup hv) (validB_length hv) hne
  have hys : (a.expandDims axis c dual).shape = ins axis 1 a.shape := by
    rw [← toDenseA_shape e2, s2]
  refine ⟨d, d', e1, e2, s1, by rw [s2, hys], ?_, ?_⟩
  · intro p hp _
    exact ⟨ins axis 0 p, by rw [hys]; exact inBox_ins hp axis (by simpa [Arr.shape, Arr.ndim] using ha),
      rfl, hg p hp⟩
  · intro P hP
    rw [hys] at hP
    obtain ⟨p, hp, rfl⟩ := inBox_ins_surj axis (by simpa [Arr.shape, Arr.ndim] using ha) hP
    exact Or.inr ⟨p, hp, rfl, hg p hp⟩

/-- one step of a reshape plan -/
inductive PStep where
  | unfuse (ax : Nat)
  | fuse (g : List (List Nat))
  | expand (ax : Nat)

/-- the steps of the plan `(unfuse axes, fuse calls, expand axes)` in execution order -/
def stepsOf (t : List Nat × List (List (List Nat)) × List Nat) : List PStep :=
  t.1.map PStep.unfuse ++ t.2.1.map PStep.fuse ++ t.2.2.map PStep.expand

/-- a step on an abelian array -/
def PStep.apply : PStep → Arr R → Except Err (Arr R)
  | .unfuse ax, a => unfuseA a ax
  | .fuse g, a => fuseCore a g .insert
  | .expand ax, a => pure (a.expandDims ax none none)

def runSteps (steps : List PStep) (a : Arr R) : Except Err (Arr R) :=
  steps.foldlM (fun x st => st.apply x) a

/-- every step is admissible for the array it is applied to, and no intermediate array has an
    empty charge table -/
def StepsOk : List PStep → Arr R → Prop
  | [], _ => True
  | .unfuse ax :: rest, a =>
      (∃ ix subs exts, a.indices[ax]? = some ix ∧ ix.sub = some (subs, exts))
      ∧ ∀ y, unfuseA a ax = .ok y → C08.NoEmpty y ∧ StepsOk rest y
  | .fuse g :: rest, a => C05.groupsOkB g a.ndim = true
      ∧ ∀ x, fuseCore a g .insert = .ok x → C08.NoEmpty x ∧ StepsOk rest x
  | .expand ax :: rest, a => ax ≤ a.ndim ∧ StepsOk rest (a.expandDims ax none none)

def stepRel (st : PStep) (a y : Arr R) (p P : List Nat) : Prop :=
  match st with
  | .unfuse ax => UPosRel a y ax p P
  | .fuse g => PosRel a y g p P
  | .expand ax => P = ins ax 0 p

def stepsRel : List PStep → Arr R → List Nat → List Nat → Prop
  | [], _, p, P => p = P
  | st :: rest, a, p, P => ∃ y P1, st.apply a = .ok y ∧ stepRel st a y p P1 ∧ stepsRel rest y P1 P

theorem steps_img (steps : List PStep) (a : Arr R) (hv : a.validB = true) (hf : a.fermi = false)
    (hne : C08.NoEmpty a) (hok : StepsOk steps a) (y : Arr R) (hy : runSteps steps a = .ok y) :
    y.validB = true ∧ y.fermi = false ∧ Img a y (stepsRel steps a) := by
  induction steps generalizing a with
  | nil =>
    simp only [runSteps, List.foldlM_nil, pure, Except.pure, Except.ok.injEq] at hy
    subst hy
    exact ⟨hv, hf, Img.refl a hne⟩
  | cons st rest ih =>
    simp only [runSteps, List.foldlM_cons, bind, Except.bind] at hy
    cases hx : st.apply a with
    | error e => rw [hx] at hy; cases hy
    | ok x =>
      rw [hx] at hy
      simp only at hy
      have hstep : x.validB = true ∧ x.fermi = false ∧ C08.NoEmpty x ∧ StepsOk rest x
          ∧ Img a x (stepRel st a x) := by
        cases st with
        | unfuse ax =>
          obtain ⟨⟨ix, subs, exts, hix, hsub⟩, hrest⟩ := hok
          have hx' : unfuseA a ax = .ok x := hx
          obtain ⟨hnex, hokx⟩ := hrest x hx'
          obtain ⟨y', hy', U⟩ := unfuseU (validArr_of_validB hv) hix hsub
          rw [hx'] at hy'; injection hy' with hy'; subst hy'
          exact ⟨ValidP.unfuseA_validB a x ax hv hf hx', by rw [U.fermi]; exact hf, hnex, hokx,
            img_unfuse a x ax ix subs exts hv hf hix hsub hne hx' hnex⟩
        | fuse g =>
          obtain ⟨hg, hrest⟩ := hok
          have hx' : fuseCore a g .insert = .ok x := hx
          obtain ⟨hnex, hokx⟩ := hrest x hx'
          obtain ⟨hxv, hxf⟩ := fuseCore_keeps hv hf hg hx'
          exact ⟨hxv, hxf, hnex, hokx, img_fuse a x g hv hf hne hg hx' hnex⟩
        | expand ax =>
          obtain ⟨ha, hokx⟩ := hok
          simp only [PStep.apply, pure, Except.pure, Except.ok.injEq] at hx
          subst hx
          obtain ⟨hidx, _, _, hfer, _, _, _⟩ := expandDims_fields a ax none none
          refine ⟨C01.expandDims_none_valid a ax none hv, by rw [hfer]; exact hf, ?_, hokx,
            img_expand a ax none none ha hv hf hne⟩
          exact noEmpty_expandDims hne ax none none
      obtain ⟨hxv, hxf, hnex, hokx, himg⟩ := hstep
      obtain ⟨hyv, U.fermi, himg'⟩ := ih x hxv hxf hnex hokx hy
      refine ⟨hyv, U.fermi, ?_⟩
      obtain ⟨dA, dY, e1, e2, s1, s2, f, b⟩ := himg.comp himg'
      refine ⟨dA, dY, e1, e2, s1, s2, ?_, ?_⟩
      · intro p hp hnz
        obtain ⟨P, hP, ⟨P1, r1, r2⟩, v⟩ := f p hp hnz
        exact ⟨P, hP, ⟨x, P1, hx, r1, r2⟩, v⟩
      · intro P hP
        rcases b P hP with h0 | ⟨p, hp, ⟨P1, r1, r2⟩, v⟩
        · exact Or.inl h0
        · exact Or.inr ⟨p, hp, ⟨x, P1, hx, r1, r2⟩, v⟩

end

end Dense6
end SymmModel
