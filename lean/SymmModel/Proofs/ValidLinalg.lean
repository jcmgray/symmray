/-
  SymmModel.Proofs.ValidLinalg — the block-wise factorisations `qrA` and `svdA` return valid
  arrays (property C01, linalg item), for every kernel that returns factors of the right shapes.
  The two factors are `leftF`, `rightF` of Proofs/LinalgFactors.lean; their validity is proved there.
-/
import SymmModel.Proofs.ValidOps
import SymmModel.Proofs.LinalgFactors

namespace SymmModel
namespace ValidP

variable {R : Type}

def FacContract (fl fr : Blk R → Blk R) : Prop :=
  ∀ b : Blk R, b.shape.length = 2 → b.wf = true →
    let m := b.shape.getD 0 0
    let n := b.shape.getD 1 0
    (fl b).shape = [m, min m n] ∧ (fl b).wf = true
      ∧ (fr b).shape = [min m n, n] ∧ (fr b).wf = true

theorem fac_block {fl fr : Blk R → Blk R} (hc : FacContract fl fr) {b : Blk R} {m n : Nat}
    (hs : b.shape = [m, n]) (hw : b.wf = true) :
    (fl b).shape = [m, min m n] ∧ (fl b).wf = true
      ∧ (fr b).shape = [min m n, n] ∧ (fr b).wf = true := by
  have := hc b (by rw [hs]; rfl) hw
  simpa [hs] using this

theorem FacContract.facShape {fl fr : Blk R → Blk R} (hc : FacContract fl fr) :
    LinalgLemmas.FacShape fl fr :=
  fun _ _ _ hs hw => fac_block hc hs hw

theorem matrix_sector_injective {x : Arr R} (hv : Valid x) {i0 i1 : Index}
    (hi : x.indices = [i0, i1]) {s s' : Sector} (hs : s ∈ x.blocks.map (·.1))
    (hs' : s' ∈ x.blocks.map (·.1)) (hc : s.getD 1 (0, 0) = s'.getD 1 (0, 0)) : s = s' :=
  (LinalgLemmas.sector_inj ((validB_iff x).mpr hv) (by simp [Arr.ndim, hi]) hs hs').2 hc

/-- shape contract of the per-block QR kernel: for a well-formed matrix block `b : [m, n]`,
    `q : [m, min m n]` and `r : [min m n, n]`, both well formed -/
def QrShapeContract (K : Kernels R) : Prop :=
  ∀ b : Blk R, b.shape.length = 2 → b.wf = true →
    let m := b.shape.getD 0 0
    let n := b.shape.getD 1 0
    (K.qr b).1.shape = [m, min m n] ∧ (K.qr b).1.wf = true
      ∧ (K.qr b).2.shape = [min m n, n] ∧ (K.qr b).2.wf = true

/-- shape contract of the per-block SVD kernel: `u : [m, k]`, `s : [k]`, `vh : [k, n]` with
    `k = min m n`, all well formed -/
def SvdShapeContract (K : Kernels R) : Prop :=
  ∀ b : Blk R, b.shape.length = 2 → b.wf = true →
    let m := b.shape.getD 0 0
    let n := b.shape.getD 1 0
    (K.svd b).1.shape = [m, min m n] ∧ (K.svd b).1.wf = true
      ∧ (K.svd b).2.1.shape = [min m n] ∧ (K.svd b).2.1.wf = true
      ∧ (K.svd b).2.2.shape = [min m n, n] ∧ (K.svd b).2.2.wf = true

/-- non-vacuity: the shape-only kernels satisfy both contracts -/
theorem shapeOnly_qrContract [Zero R] : QrShapeContract (Kernels.shapeOnly : Kernels R) := by
  intro b _ _
  exact ⟨rfl, ofFn_wf _ _, rfl, ofFn_wf _ _⟩

theorem shapeOnly_svdContract [Zero R] : SvdShapeContract (Kernels.shapeOnly : Kernels R) := by
  intro b _ _
  exact ⟨rfl, ofFn_wf _ _, rfl, ofFn_wf _ _, rfl, ofFn_wf _ _⟩

theorem QrShapeContract.fac {K : Kernels R} (hK : QrShapeContract K) :
    FacContract (fun b => (K.qr b).1) (fun b => (K.qr b).2) := hK

theorem SvdShapeContract.fac {K : Kernels R} (hK : SvdShapeContract K) :
    FacContract (fun b => (K.svd b).1) (fun b => (K.svd b).2.2) := by
  intro b h1 h2
  obtain ⟨a1, a2, _, _, a5, a6⟩ := hK b h1 h2
  exact ⟨a1, a2, a5, a6⟩

theorem qrA_ndim {K : Kernels R} {x q r : Arr R} (h : qrA K x = .ok (q, r)) : x.ndim = 2 := by
  by_contra hn
  have hb : (x.ndim != 2) = true := by simpa using hn
  unfold qrA at h
  simp only [hb, if_true] at h
  cases h

theorem svdA_ndim {K : Kernels R} {x u v : Arr R} {s : BVec R} (h : svdA K x = .ok (u, s, v)) :
    x.ndim = 2 := by
  by_contra hn
  have hb : (x.ndim != 2) = true := by simpa using hn
  unfold svdA at h
  simp only [hb, if_true] at h
  cases h

/-- C01 for `qr`: both factors of a valid array are valid (abelian and fermionic); they are the
    left and right factor of `Proofs/LinalgFactors.lean` -/
theorem qrA_valid (K : Kernels R) (x q r : Arr R) (hv : Valid x) (hK : QrShapeContract K)
    (h : qrA K x = .ok (q, r)) : Valid q ∧ Valid r := by
  have hvB := (validB_iff x).mpr hv
  have h2 := qrA_ndim h
  obtain ⟨i0, i1, hi⟩ := LinalgLemmas.ndim_two h2
  rw [LinalgLemmas.qrA_eq K hvB h2] at h
  obtain ⟨rfl, rfl⟩ := Prod.mk.inj (Except.ok.inj h)
  exact ⟨(validB_iff _).mp (LinalgLemmas.leftF_valid hvB h2 hi hK.fac.facShape),
    (validB_iff _).mp (LinalgLemmas.rightF_valid hvB h2 hi hK.fac.facShape)⟩

/-- what is known about the singular-value vector: one 1-D well-formed block of the bond
    size per bond charge -/
structure SvalsOk (bond : Index) (s : BVec R) : Prop where
  nodup : (s.blocks.map (·.1)).Nodup
  keys : (s.blocks.map (·.1)).Perm bond.charges
  blk : ∀ cb ∈ s.blocks, ∃ k, bond.sizeOf? cb.1 = some k ∧ cb.2.shape = [k] ∧ cb.2.wf = true

open LinalgLemmas in
theorem svals_ok (K : Kernels R) (x : Arr R) (hv : x.validB = true) (h2 : x.ndim = 2)
    (hK : SvdShapeContract K) :
    SvalsOk (LinalgLemmas.bondIx x (fun b => (K.svd b).1))
      ⟨x.blocks.map (fun p => (colOf p.1, (K.svd p.2).2.1))⟩ := by
  obtain ⟨i0, i1, hi⟩ := ndim_two h2
  have hnd := bondCm_keys_nodup (L := fun b => (K.svd b).1) hv h2
  have hkeys : (x.blocks.map (fun p => (colOf p.1, (K.svd p.2).2.1))).map (·.1)
      = (LinalgLemmas.bondCm x (fun b => (K.svd b).1)).map (·.1) := by
    simp [LinalgLemmas.bondCm, List.map_map, Function.comp_def]
  rw [bondIx_eq hi]
  refine ⟨by rw [hkeys]; exact hnd, ?_, ?_⟩
  · show List.Perm _ ((Index.sortCm _).map (·.1))
    rw [hkeys]
    exact ((sortCm_perm _).map _).symm
  · intro cb hcb
    obtain ⟨⟨s, b⟩, hm, rfl⟩ := List.mem_map.mp hcb
    obtain ⟨r, c, m, n, B⟩ := mat_block hv hi hm
    obtain ⟨_, _, a3, a4, _, _⟩ := hK b (by rw [B.hshape]; rfl) B.hwf
    refine ⟨min m n, ?_, by simpa [B.hshape] using a3, a4⟩
    have := bondCm_lookup hv h2 hK.fac.facShape hm B
    simpa [Index.sizeOf?, B.col] using this

/-- C01 for `svd`: `u` and `vh` of a valid array are valid, and the singular values are stored
    as one 1-D block per charge of the new bond (`u.indices[1]`) -/
theorem svdA_valid (K : Kernels R) (x u v : Arr R) (s : BVec R) (hv : Valid x)
    (hK : SvdShapeContract K) (h : svdA K x = .ok (u, s, v)) :
    Valid u ∧ Valid v ∧ SvalsOk (u.indices.getD 1 default) s := by
  have hvB := (validB_iff x).mpr hv
  have h2 := svdA_ndim h
  obtain ⟨i0, i1, hi⟩ := LinalgLemmas.ndim_two h2
  rw [LinalgLemmas.svdA_eq K hvB h2] at h
  obtain ⟨rfl, h'⟩ := Prod.mk.inj (Except.ok.inj h)
  obtain ⟨rfl, rfl⟩ := Prod.mk.inj h'
  exact ⟨(validB_iff _).mp (LinalgLemmas.leftF_valid hvB h2 hi hK.fac.facShape),
    (validB_iff _).mp (LinalgLemmas.rightF_valid hvB h2 hi hK.fac.facShape), svals_ok K x hvB h2 hK⟩

/-- `qrA`/`svdA` succeed exactly on matrices, so the theorems above are not vacuous -/
theorem qrA_ok (K : Kernels R) (x : Arr R) (h2 : x.ndim = 2) : ∃ q r, qrA K x = .ok (q, r) := by
  unfold qrA; simp [h2]; exact ⟨_, _, rfl⟩

theorem svdA_ok (K : Kernels R) (x : Arr R) (h2 : x.ndim = 2) :
    ∃ u s v, svdA K x = .ok (u, s, v) := by
  unfold svdA; simp [h2]; exact ⟨_, _, _, rfl⟩

/-! ## the hypotheses are satisfiable: concrete valid matrices -/

/-- U1 matrix, mixed directions, two blocks of different shapes -/
def exU1 : Arr Int :=
  { sym := .U1, fermi := false,
    indices := [Index.mk [((0, 0), 2), ((1, 0), 1)] false none,
                Index.mk [((0, 0), 1), ((1, 0), 3)] true none],
    charge := (0, 0),
    blocks := [([(0, 0), (0, 0)], ⟨[2, 1], #[1, 2]⟩), ([(1, 0), (1, 0)], ⟨[1, 3], #[3, 4, 5]⟩)] }

/-- fermionic Z2 matrix of odd parity with a pending sign; the right factor gets a phase flip
    (`bond.conj.dual = true`) -/
def exZ2f : Arr Int :=
  { sym := .Z2, fermi := true,
    indices := [Index.mk [((0, 0), 2), ((1, 0), 3)] true none,
                Index.mk [((0, 0), 1), ((1, 0), 2)] false none],
    charge := (1, 0),
    blocks := [([(0, 0), (1, 0)], ⟨[2, 2], #[1, 2, 3, 4]⟩), ([(1, 0), (0, 0)], ⟨[3, 1], #[5, 6, 7]⟩)],
    phases := [([(1, 0), (0, 0)], -1)],
    oddpos := [(0, false)] }

example : exU1.validB = true := by decide
example : exZ2f.validB = true := by decide

example (q r : Arr Int) (h : qrA Kernels.shapeOnly exU1 = .ok (q, r)) : Valid q ∧ Valid r :=
  qrA_valid _ _ q r ((validB_iff _).mp (by decide)) shapeOnly_qrContract h

example (q r : Arr Int) (h : qrA Kernels.shapeOnly exZ2f = .ok (q, r)) : Valid q ∧ Valid r :=
  qrA_valid _ _ q r ((validB_iff _).mp (by decide)) shapeOnly_qrContract h

example (u v : Arr Int) (s : BVec Int) (h : svdA Kernels.shapeOnly exZ2f = .ok (u, s, v)) :
    Valid u ∧ Valid v ∧ SvalsOk (u.indices.getD 1 default) s :=
  svdA_valid _ _ u v s ((validB_iff _).mp (by decide)) shapeOnly_svdContract h

/-- independent cross-check by evaluation: the factors the model computes pass `validB`, and the
    fermionic right factor really carries a flipped sign -/
example : ∃ q r, qrA Kernels.shapeOnly exU1 = .ok (q, r) ∧ q.validB = true ∧ r.validB = true :=
  ⟨_, _, rfl, by decide +kernel, by decide +kernel⟩

example : ∃ q r, qrA Kernels.shapeOnly exZ2f = .ok (q, r) ∧ q.validB = true ∧ r.validB = true
    ∧ r.phases = [([(1, 0), (1, 0)], -1)] :=
  ⟨_, _, rfl, by decide +kernel, by decide +kernel, by decide +kernel⟩

example : ∃ u s v, svdA Kernels.shapeOnly exZ2f = .ok (u, s, v) ∧ u.validB = true
    ∧ v.validB = true ∧ s.blocks.map (·.1) = [(1, 0), (0, 0)] :=
  ⟨_, _, _, rfl, by decide +kernel, by decide +kernel, by decide +kernel⟩

end ValidP
end SymmModel
