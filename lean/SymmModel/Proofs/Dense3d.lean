/-
  SymmModel.Proofs.Dense3d — fusing at the level of addresses, forward direction (property C08,
  Props/C08c): every stored entry of the original is a stored entry of the fused array, at the
  address that the fused indices' own tables (`splitAddr`) send back to it (`Dense5.FuseRel`).

  Composition of `fused_ontoM` / `fused_getM` (Proofs/FuseMulti6-7.lean) and the validity of the
  fused array (Proofs/ValidFuse2.lean); `Arr.dense_relocate_stored` carries it to the dense forms
  (`C08.fuse_toDense_partial`).
-/
import SymmModel.Proofs.FuseMultiAll
import SymmModel.Proofs.ValidFuse2
import SymmModel.Proofs.Dense3b

namespace SymmModel

namespace Dense5
open FuseP

variable {R : Type}

/-- the address `(s, offs)` of the original and the address `(ns, i)` of the fused array are tied
    by the fused indices' own tables — the relation of `fuse_toDense` -/
def FuseRel (a x : Arr R) (groups : List (List Nat)) (s : Sector) (offs : List Nat) (ns : Sector)
    (i : List Nat) : Prop :=
  let gi := calcFuseGroupInfo groups a.duals
  (∀ g gaxes, groups[g]? = some gaxes → gaxes.length ≠ 1 →
      splitAddr (x.indices.getD (gi.position + g) default) (ns.getD (gi.position + g) (0, 0))
        (i.getD (gi.position + g) 0)
        = some (gaxes.map (fun ax => s.getD ax (0, 0)), gaxes.map (fun ax => offs.getD ax 0)))
  ∧ (∀ g gaxes, groups[g]? = some gaxes → gaxes.length = 1 →
      [ns.getD (gi.position + g) (0, 0)] = gaxes.map (fun ax => s.getD ax (0, 0))
      ∧ [i.getD (gi.position + g) 0] = gaxes.map (fun ax => offs.getD ax 0))
  ∧ permuted s gi.perm = ns.take gi.position
      ++ (groups.map (fun gaxes => gaxes.map (fun ax => s.getD ax (0, 0)))).flatten
      ++ ns.drop (gi.position + groups.length)
  ∧ permuted offs gi.perm = i.take gi.position
      ++ (groups.map (fun gaxes => gaxes.map (fun ax => offs.getD ax 0))).flatten
      ++ i.drop (gi.position + groups.length)

end Dense5

namespace Dense3
open FuseP Arr Dense5

variable {R : Type}

/-- what both directions of `fuse_toDense` start from -/
theorem fuse_setup [Zero R] [Neg R] {a : Arr R} {groups : List (List Nat)}
    (hv : a.validB = true) (hg : groupsOkB groups a.ndim = true) (hnf : a.fermi = false)
    (hne : a.indices.any (fun ix => ix.cm.isEmpty) = false)
    {x : Arr R} (hx : fuseCore a groups .insert = .ok x)
    (hnex : x.indices.any (fun ix => ix.cm.isEmpty) = false) :
    x = fusedArrM a groups ∧ ValidArr a ∧ GroupsOk groups a.ndim ∧ DenseOk a ∧ DenseOk x := by
  have hva := validArr_of_validB hv
  have hok := groupsOk_iff.1 hg
  have hx' := fuseCore_multi_eq hva hok.adm
  rw [hx] at hx'
  injection hx' with hx'
  have hadm := admissible_of_groupsOk hok
  have hxv : x.validB = true := ValidP.fuseCore_insert_validB a _ groups hv hnf hadm hx
  exact ⟨hx', hva, hok, .of_validB hv hnf hne, .of_validB hxv (by rw [hx']; exact hnf) hnex⟩

theorem fuse_addr_fwd [Zero R] [Neg R] {a : Arr R} {groups : List (List Nat)}
    (hva : ValidArr a) (hok : GroupsOk groups a.ndim) (ha : DenseOk a)
    (hx : DenseOk (fusedArrM a groups)) {s : Sector} {offs : List Nat} (hst : StoredAt a s offs) :
    ∃ ns i, StoredAt (fusedArrM a groups) ns i ∧ FuseRel a (fusedArrM a groups) groups s offs ns i
      ∧ (fusedArrM a groups).elem ns i = a.elem s offs := by
  obtain ⟨b, hb, ho⟩ := hst
  have hsb : (s, b) ∈ a.blocks := alookup_some_mem hb
  have hslen : s.length = a.ndim := (hva.blk (s, b) hsb).1
  have holen : offs.length = a.ndim := by
    rw [inBox_length ho]
    simpa [Arr.ndim] using Arr.blockShape?_shape_length (ha.shapes.2 s b hb)
  obtain ⟨B, h1, h2, h3, h4, h5⟩ := fused_ontoM hva hok hsb ho
  obtain ⟨hs1, hget⟩ := fused_getM hva hok h1 h2
  have hval := (hget s offs hslen holen h4 h5).1
  rw [hb] at hval
  have hsegs : ∀ {β : Type} (f : Sector × List Nat → List β) (d : β) (v : List β),
      (∀ g, g < groups.length → f (segM a groups (planM a groups (s, b)).newSector
        (joinI a groups (s, b) offs) g) = (groups.getD g []).map (fun ax => v.getD ax d)) →
      (List.range groups.length).map (fun g => f (segM a groups (planM a groups (s, b)).newSector
        (joinI a groups (s, b) offs) g)) = groups.map (fun gaxes => gaxes.map (fun ax => v.getD ax d)) := by
    intro β f d v hf
    rw [map_eq_range_map groups [] (fun gaxes => gaxes.map (fun ax => v.getD ax d))]
    exact List.map_congr_left (fun g hgm => hf g (List.mem_range.1 hgm))
  refine ⟨_, _, ⟨B, h1, h2⟩, ⟨?_, ?_, ?_, ?_⟩, ?_⟩
  · intro g gaxes hgg hlen
    have hgl := getElem?_lt hgg
    have hgd : groups.getD g [] = gaxes := by simp [List.getD_eq_getElem?_getD, hgg]
    show splitAddr (ixM a groups g) _ _ = _
    rw [hs1 g hgl (multiB_iff.2 ⟨_, hgg, hlen⟩), h3 g hgl, hgd]
  · intro g gaxes hgg hlen
    have hm : multiB groups g = false := multiB_single hgg hlen
    have hseg := h3 g (getElem?_lt hgg)
    simp only [segM, hm, Bool.false_eq_true, if_false] at hseg
    have hgd : groups.getD g [] = gaxes := by simp [List.getD_eq_getElem?_getD, hgg]
    rw [hgd] at hseg
    simp only [Prod.mk.injEq] at hseg
    exact hseg
  · rw [h4]; simp only [expandK]
    rw [hsegs (·.1) (0, 0) s (fun g hg => by rw [h3 g hg])]
  · rw [h5]; simp only [expandJ]
    rw [hsegs (·.2) 0 offs (fun g hg => by rw [h3 g hg])]
  · rw [hx.elem_eq h1, ha.elem_eq hb]; exact hval

end Dense3
end SymmModel
