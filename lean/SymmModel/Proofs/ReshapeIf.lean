/-
  SymmModel.Proofs.ReshapeIf — the pull-back of addresses through a plan of fuse calls is INJECTIVE on
  stored addresses: two stored addresses of the result with the same pulled-back source address are
  equal (`pulled_inj`).  One call: the fused charge is the signed combination of the sub-charges and
  the fused offset is `joinAddr` of the sub-offsets (`FuseP.joinAddr_splitAddr`), so the split
  address determines the address (`inj_call`).
-/
import SymmModel.Proofs.ReshapeIc
namespace SymmModel.ReshapeI
open SymmModel SymmModel.Reshape SymmModel.C07 SymmModel.Reshape5 SymmModel.ReshapeH ReshapeP FuseP
open SymmModel.Lazy
set_option linter.unusedSectionVars false

theorem length_le_flatten : ∀ (G : List (List Nat)), (∀ g ∈ G, 2 ≤ g.length) → G.length ≤ G.flatten.length := by
  intro G
  induction G with
  | nil => intro _; simp
  | cons g G ih =>
    intro h
    have h1 := h g (by simp)
    have h2 := ih (fun g' hg' => h g' (by simp [hg']))
    simp only [List.length_cons, List.flatten_cons, List.length_append]
    omega

theorem flatten_append_inj {α : Type} : ∀ (L L' : List (List α)) (X X' : List α), L.length = L'.length →
    (∀ g, g < L.length → (L.getD g []).length = (L'.getD g []).length) →
    L.flatten ++ X = L'.flatten ++ X' → L = L' ∧ X = X' := by
  intro L
  induction L with
  | nil =>
    intro L' X X' hl _ h
    have : L' = [] := List.length_eq_zero_iff.mp hl.symm
    subst this
    exact ⟨rfl, by simpa using h⟩
  | cons l L ih =>
    intro L' X X' hl hg h
    cases L' with
    | nil => simp at hl
    | cons l' L' =>
      have h0 : l.length = l'.length := by simpa using hg 0 (by simp)
      simp only [List.flatten_cons, List.append_assoc] at h
      obtain ⟨e1, e2⟩ := List.append_inj h h0
      obtain ⟨e3, e4⟩ := ih L' X X' (by simpa using hl) (fun g hgl => by
        have := hg (g + 1) (by simp; omega)
        simpa using this) e2
      exact ⟨by rw [e1, e3], e4⟩

theorem splice_ext {α : Type} (d : α) (x x' : List α) (P n : Nat) (hl : x.length = x'.length)
    (ht : x.take P = x'.take P) (hd : x.drop (P + n) = x'.drop (P + n))
    (hm : ∀ g, g < n → x.getD (P + g) d = x'.getD (P + g) d) : x = x' := by
  apply List.ext_getElem?
  intro k
  by_cases h1 : k < P
  · have := congrArg (fun l => l[k]?) ht
    simpa [List.getElem?_take_of_lt h1] using this
  · by_cases h2 : k < P + n
    · by_cases h3 : k < x.length
      · have := hm (k - P) (by omega)
        have e : P + (k - P) = k := by omega
        rw [e, List.getD_eq_getElem?_getD, List.getD_eq_getElem?_getD, List.getElem?_eq_getElem h3,
          List.getElem?_eq_getElem (by omega : k < x'.length)] at this
        rw [List.getElem?_eq_getElem h3, List.getElem?_eq_getElem (by omega : k < x'.length)]
        simpa using this
      · rw [List.getElem?_eq_none (by omega), List.getElem?_eq_none (by omega)]
    · have := congrArg (fun l => l[k - (P + n)]?) hd
      simp only [List.getElem?_drop] at this
      have e : P + n + (k - (P + n)) = k := by omega
      rwa [e] at this

variable {R : Type} [Zero R] [Neg R] [LawfulNeg R]

theorem split_facts {sym : Sym} {ix : Index} (hw : Index.wfB sym ix = true) {c : Charge} {o : Nat}
    {ss : Sector} {offs : List Nat} (h : splitAddr ix c o = some (ss, offs)) :
    ss.length = (subsOf ix).length ∧ offs.length = (subsOf ix).length
      ∧ c = sym.combine (List.zipWith (fun c' (sub : Index) => sym.sign c' (ix.dual != sub.dual)) ss (subsOf ix))
      ∧ joinAddr ix c ss offs = some o := by
  obtain ⟨hj, subs, exts, shp, hsub, hbs, hbox, hcomb⟩ := joinAddr_splitAddr hw h
  have hs : subsOf ix = subs := by simp [subsOf, hsub]
  obtain ⟨l1, l2⟩ := FuseP.blockShape?_length hbs
  rw [hs]
  refine ⟨l1.symm, ?_, hcomb.symm, hj⟩
  rw [inBox_length hbox, l2, l1]

theorem inj_call (y1 : Arr R) (hv : y1.validB = true) (G : List (List Nat)) (P : Nat)
    (hle : P + G.length ≤ y1.ndim)
    (s1 s1' : Sector) (o1 o1' : List Nat) (B1 B1' : Blk R)
    (hB : alookup y1.blocks s1 = some B1) (hi : inBox B1.shape o1 = true)
    (hB' : alookup y1.blocks s1' = some B1') (hi' : inBox B1'.shape o1' = true)
    (segs segs' : List (Sector × List Nat)) (hsl : segs.length = G.length) (hsl' : segs'.length = G.length)
    (hsp : ∀ g gaxes, G[g]? = some gaxes →
      splitAddr (y1.indices.getD (P + g) default) (s1.getD (P + g) (0, 0)) (o1.getD (P + g) 0) = segs[g]?)
    (hsp' : ∀ g gaxes, G[g]? = some gaxes →
      splitAddr (y1.indices.getD (P + g) default) (s1'.getD (P + g) (0, 0)) (o1'.getD (P + g) 0) = segs'[g]?)
    (hs : s1.take P ++ (segs.map (·.1)).flatten ++ s1.drop (P + G.length)
        = s1'.take P ++ (segs'.map (·.1)).flatten ++ s1'.drop (P + G.length))
    (ho : o1.take P ++ (segs.map (·.2)).flatten ++ o1.drop (P + G.length)
        = o1'.take P ++ (segs'.map (·.2)).flatten ++ o1'.drop (P + G.length)) :
    s1 = s1' ∧ o1 = o1' := by
  have hva := validArr_of_validB hv
  have hnd : y1.indices.length = y1.ndim := rfl
  have l1 : s1.length = y1.ndim := (hva.blk (s1, B1) (alookup_some_mem hB)).1
  have l1' : s1'.length = y1.ndim := (hva.blk (s1', B1') (alookup_some_mem hB')).1
  have l2 : o1.length = y1.ndim := by
    rw [inBox_length hi]; exact ShapeLen.of_valid hv (s1, B1) (alookup_some_mem hB)
  have l2' : o1'.length = y1.ndim := by
    rw [inBox_length hi']; exact ShapeLen.of_valid hv (s1', B1') (alookup_some_mem hB')
  have hwf : ∀ g, g < G.length → Index.wfB y1.sym (y1.indices.getD (P + g) default) = true := by
    intro g hg
    have hlt : P + g < y1.indices.length := by omega
    rw [List.getD_eq_getElem?_getD, List.getElem?_eq_getElem hlt]
    exact hva.idx _ (List.getElem_mem hlt)
  have hf : ∀ g, g < G.length → ∃ q, segs[g]? = some q
      ∧ splitAddr (y1.indices.getD (P + g) default) (s1.getD (P + g) (0, 0)) (o1.getD (P + g) 0) = some q := by
    intro g hg
    have h1 := hsp g _ (List.getElem?_eq_getElem hg)
    have h2 := List.getElem?_eq_getElem (l := segs) (i := g) (by rw [hsl]; exact hg)
    exact ⟨_, h2, by rw [h1, h2]⟩
  have hf' : ∀ g, g < G.length → ∃ q, segs'[g]? = some q
      ∧ splitAddr (y1.indices.getD (P + g) default) (s1'.getD (P + g) (0, 0)) (o1'.getD (P + g) 0) = some q := by
    intro g hg
    have h1 := hsp' g _ (List.getElem?_eq_getElem hg)
    have h2 := List.getElem?_eq_getElem (l := segs') (i := g) (by rw [hsl']; exact hg)
    exact ⟨_, h2, by rw [h1, h2]⟩
  have hlen1 : ∀ g, g < (segs.map (·.1)).length →
      ((segs.map (·.1)).getD g []).length = ((segs'.map (·.1)).getD g []).length := by
    intro g hg
    have hg' : g < G.length := by simpa only [List.length_map, hsl] using hg
    obtain ⟨q, hq, hsq⟩ := hf g hg'
    obtain ⟨q', hq', hsq'⟩ := hf' g hg'
    simp only [List.getD_eq_getElem?_getD, List.getElem?_map, hq, hq', Option.map_some, Option.getD_some]
    rw [(split_facts (hwf g hg') hsq).1, (split_facts (hwf g hg') hsq').1]
  have hlen2 : ∀ g, g < (segs.map (·.2)).length →
      ((segs.map (·.2)).getD g []).length = ((segs'.map (·.2)).getD g []).length := by
    intro g hg
    have hg' : g < G.length := by simpa only [List.length_map, hsl] using hg
    obtain ⟨q, hq, hsq⟩ := hf g hg'
    obtain ⟨q', hq', hsq'⟩ := hf' g hg'
    simp only [List.getD_eq_getElem?_getD, List.getElem?_map, hq, hq', Option.map_some, Option.getD_some]
    rw [(split_facts (hwf g hg') hsq).2.1, (split_facts (hwf g hg') hsq').2.1]
  have htl : (s1.take P).length = (s1'.take P).length := by simp only [List.length_take, l1, l1']
  have htl2 : (o1.take P).length = (o1'.take P).length := by simp only [List.length_take, l2, l2']
  rw [List.append_assoc, List.append_assoc] at hs ho
  obtain ⟨hst, hs2⟩ := List.append_inj hs htl
  obtain ⟨hot, ho2⟩ := List.append_inj ho htl2
  obtain ⟨hF1, hsd⟩ := flatten_append_inj _ _ _ _ (by simp only [List.length_map, hsl, hsl']) hlen1 hs2
  obtain ⟨hF2, hod⟩ := flatten_append_inj _ _ _ _ (by simp only [List.length_map, hsl, hsl']) hlen2 ho2
  have hsegs : segs = segs' := by
    apply List.ext_getElem?
    intro g
    have e1 := congrArg (fun l => l[g]?) hF1
    have e2 := congrArg (fun l => l[g]?) hF2
    simp only [List.getElem?_map] at e1 e2
    cases hq : segs[g]? with
    | none =>
      cases hq' : segs'[g]? with
      | none => rfl
      | some q' => rw [hq, hq'] at e1; cases e1
    | some q =>
      cases hq' : segs'[g]? with
      | none => rw [hq, hq'] at e1; cases e1
      | some q' =>
        rw [hq, hq'] at e1 e2
        simp only [Option.map_some, Option.some.injEq] at e1 e2
        rw [Prod.ext e1 e2]
  subst hsegs
  have hmid : ∀ g, g < G.length → s1.getD (P + g) (0, 0) = s1'.getD (P + g) (0, 0)
      ∧ o1.getD (P + g) 0 = o1'.getD (P + g) 0 := by
    intro g hg
    obtain ⟨q, hq, hsq⟩ := hf g hg
    obtain ⟨q', hq', hsq'⟩ := hf' g hg
    rw [hq] at hq'; injection hq' with hq'; subst hq'
    obtain ⟨_, _, c1, j1⟩ := split_facts (hwf g hg) hsq
    obtain ⟨_, _, c2, j2⟩ := split_facts (hwf g hg) hsq'
    have hc : s1.getD (P + g) (0, 0) = s1'.getD (P + g) (0, 0) := by rw [c1, c2]
    refine ⟨hc, ?_⟩
    rw [hc, j2] at j1
    injection j1 with j1
    exact j1.symm
  exact ⟨splice_ext (0, 0) s1 s1' P G.length (by rw [l1, l1']) hst hsd (fun g hg => (hmid g hg).1),
    splice_ext 0 o1 o1' P G.length (by rw [l2, l2']) hot hod (fun g hg => (hmid g hg).2)⟩

/-- `Good`: valid fermionic, resp. valid abelian arrays -/
theorem pulled_inj {Good : Arr R → Prop} (hval : ∀ x, Good x → x.validB = true)
    (hstep : ∀ x G P lb y1, Good x → CallOk G P lb x.ndim → fuseDispatch x G = .ok y1 →
      Good y1 ∧ y1.ndim = x.ndim - G.flatten.length + G.length) :
    ∀ (calls : List (List (List Nat))) (a y : Arr R) (lb : Nat),
    Good a → ∀ ns i ns' i' s o σ σ', Stored y ns i → Stored y ns' i' →
    Pulled a calls lb y ns i s o σ → Pulled a calls lb y ns' i' s o σ' → ns = ns' ∧ i = i' := by
  intro calls
  induction calls with
  | nil =>
    intro a y lb _ ns i ns' i' s o σ σ' _ _ h h'
    obtain ⟨rfl, rfl, _⟩ := h
    obtain ⟨rfl, rfl, _⟩ := h'
    exact ⟨rfl, rfl⟩
  | cons G rest ih =>
    intro a y lb hg ns i ns' i' s o σ σ' hst hst' h h'
    obtain ⟨P, y1, s1, o1, σ1, B1, segs, hc, hy1, hpr, hB1, hin, hsl, hsp, _, _, hse, hoe, _⟩ := h
    obtain ⟨P', y1', s1', o1', σ1', B1', segs', hc', hy1', hpr', hB1', hin', hsl', hsp', _, _, hse', hoe', _⟩ := h'
    rw [hy1] at hy1'
    injection hy1' with hy1'; subst hy1'
    obtain rfl : P = P' := hc.pos_unique hc'
    obtain ⟨hg1, hnd⟩ := hstep a G P lb y1 hg hc hy1
    have hle : P + G.length ≤ y1.ndim := by
      have := hc.le
      have h3 : G.length ≤ G.flatten.length := length_le_flatten G hc.two
      omega
    obtain ⟨es, eo⟩ := inj_call y1 (hval y1 hg1) G P hle s1 s1' o1 o1' B1 B1' hB1 hin hB1' hin' segs segs' hsl hsl'
      hsp hsp' (by rw [← hse, ← hse']) (by rw [← hoe, ← hoe'])
    subst es; subst eo
    exact ih y1 y _ hg1 ns i ns' i' s1 o1 σ1 σ1' hst hst' hpr hpr'

end SymmModel.ReshapeI
