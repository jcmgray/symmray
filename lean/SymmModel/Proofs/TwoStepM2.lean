/-
  SymmModel.Proofs.TwoStepM2 — "several pairs at once or one after another" (C04/C02), ABELIAN form: the
  concrete index sets of the trace over the remaining pairs in the intermediate
  (`tsSurv`: the surviving sectors, `tsBox`: the box of the remaining pairs) and the hypotheses of
  `two_step_core` for them (`surv_mem`, `surv_box`, `surv_inBox`).  The per-sector lemmas of `TwoStepSec`
  are stated under the guard `AdmW`, which asks for `fermi = true`; they are used for an abelian array
  through `fz` (TwoStepM1).
  Namespace `SymmModel.TwoStepP`.
-/
import SymmModel.Proofs.TwoStepFinal
import SymmModel.Proofs.TwoStepM1

namespace SymmModel
namespace TwoStepP
open TdotP GradedP RoutesP AssocP KoszulP Assoc3P
set_option linter.unusedSectionVars false

variable {R : Type}

/-- the sectors of the intermediate `c` that survive the trace of the remaining pairs (equal charges at
    the positions `tsPA[i]`, `tsPB[i]`) and whose untraced part is `s'` -/
def tsSurv (c : Arr R) (na nb : Nat) (xa xb ya yb : List Nat) (s' : Sector) : List Sector :=
  c.sectors.filter (fun s => permuted s (tsPA na xa ya) == permuted s (tsPB na nb xa xb yb)
    && permuted s (tsRhs na nb xa xb ya yb) == s')

/-- the box of the remaining pairs in the block `s` of the intermediate: the sizes of its legs `tsPA` -/
def tsBox (a b : Arr R) (xa xb ya : List Nat) (s : Sector) : List Nat :=
  permuted (Arr.blockShapeD (without a.indices xa ++ without b.indices xb) s) (tsPA a.ndim xa ya)

section geom
variable [AddCommMonoid R] [Mul R] [Neg R] [SignRing R]
variable {a b c : Arr R} {xa xb ya yb : List Nat}

/-- the hypothesis `hmem` of `two_step_core` for `tsSurv` -/
theorem surv_mem (W1 : AdmW a b xa xb) (W2 : AdmW a b (xa ++ ya) (xb ++ yb))
    (hc : ∀ s, s ∈ c.sectors ↔ ∃ sa ∈ a.sectors, ∃ sb ∈ b.sectors, permuted sa xa = permuted sb xb ∧
      s = permuted sa (freeAxes a.ndim xa) ++ permuted sb (freeAxes b.ndim xb))
    (s' : Sector) {sa sb : Sector} (hsa : sa ∈ a.sectors) (hsb : sb ∈ b.sectors)
    (halx : permuted sb xb = permuted sa xa) :
    (permuted sa (freeAxes a.ndim xa) ++ permuted sb (freeAxes b.ndim xb))
        ∈ tsSurv c a.ndim b.ndim xa xb ya yb s'
      ↔ (permuted sb (xb ++ yb) = permuted sa (xa ++ ya)
        ∧ permuted sa (freeAxes a.ndim (xa ++ ya)) ++ permuted sb (freeAxes b.ndim (xb ++ yb)) = s') := by
  have hA : Mid a.ndim xa ya := Mid.of W2.nA W2.ltA
  have hB : Mid b.ndim xb yb := Mid.of W2.nB W2.ltB
  have lA : sa.length = a.ndim := (shape_of_mem (Arr.shapesOk_of_validB W1.va) hsa).choose_spec.2.2.2
  have lB : sb.length = b.ndim := (shape_of_mem (Arr.shapesOk_of_validB W1.vb) hsb).choose_spec.2.2.2
  unfold tsSurv
  rw [List.mem_filter]
  simp only [Bool.and_eq_true, beq_iff_eq]
  rw [permuted_tsPA hA sa _ lA,
    permuted_tsPB hB _ sb (permuted_length _ _ (by rw [lA]; exact hA.flt)) lB,
    permuted_tsRhs hA hB sa sb lA lB,
    aligned_split sa sb xa ya xb yb (by rw [lA]; exact W1.ltA) (by rw [lB]; exact W1.ltB) W1.len]
  constructor
  · rintro ⟨_, h1, h2⟩; exact ⟨⟨halx, h1.symm⟩, h2⟩
  · rintro ⟨⟨_, h1⟩, h2⟩
    exact ⟨(hc _).mpr ⟨sa, hsa, sb, hsb, halx.symm, rfl⟩, h1.symm, h2⟩

/-- the hypothesis `hT` of `two_step_core` for `tsBox` -/
theorem surv_box (W2 : AdmW a b (xa ++ ya) (xb ++ yb)) {sa sb : Sector}
    (hsa : sa ∈ a.sectors) (hsb : sb ∈ b.sectors) :
    tsBox a b xa xb ya (permuted sa (freeAxes a.ndim xa) ++ permuted sb (freeAxes b.ndim xb))
      = permuted (Arr.blockShapeD a.indices sa) ya := by
  have hA : Mid a.ndim xa ya := Mid.of W2.nA W2.ltA
  unfold tsBox
  rw [free_shape (Arr.shapesOk_of_validB W2.va) (Arr.shapesOk_of_validB W2.vb) hsa hsb]
  obtain ⟨shpA, _, e2, e3, _⟩ := shape_of_mem (Arr.shapesOk_of_validB W2.va) hsa
  exact permuted_tsPA hA _ _ (by rw [e2, e3])

/-- the hypothesis `hboxI` of `C04.two_step_abelian_sum` (Props/C04k.lean): every assembled address lies in
    the intermediate's table box -/
theorem surv_inBox (W1 : AdmW a b xa xb) (W2 : AdmW a b (xa ++ ya) (xb ++ yb)) {sa sb : Sector}
    (hsa : sa ∈ a.sectors) (hsb : sb ∈ b.sectors)
    (hal : permuted sb (xb ++ yb) = permuted sa (xa ++ ya)) (t fL fR : List Nat)
    (ht : t ∈ allIdx (permuted (Arr.blockShapeD a.indices sa) ya))
    (hfL : fL.length = (freeAxes a.ndim (xa ++ ya)).length)
    (hbox : inBox (Arr.blockShapeD (without a.indices (xa ++ ya) ++ without b.indices (xb ++ yb))
      (permuted sa (freeAxes a.ndim (xa ++ ya)) ++ permuted sb (freeAxes b.ndim (xb ++ yb))))
      (fL ++ fR) = true) :
    inBox (Arr.blockShapeD (without a.indices xa ++ without b.indices xb)
        (permuted sa (freeAxes a.ndim xa) ++ permuted sb (freeAxes b.ndim xb)))
      (asmSide (freeAxes a.ndim xa) ya (freeAxes a.ndim (xa ++ ya)) t fL
        ++ asmSide (freeAxes b.ndim xb) yb (freeAxes b.ndim (xb ++ yb)) t fR) = true := by
  have hly : ya.length = yb.length := by
    have := W2.len; rw [List.length_append, List.length_append] at this; have := W1.len; omega
  rw [free_shape (Arr.shapesOk_of_validB W1.va) (Arr.shapesOk_of_validB W1.vb) hsa hsb] at hbox ⊢
  exact (asm_inBox W2 W1.len hly hsa hsb hal t fL fR (mem_allIdx.mp ht) hfL hbox).2.2.2

end geom

end TwoStepP
end SymmModel
