/-
  SymmModel.Proofs.BlkLemmas — layers L0/L1 of DESIGN §3.6 for the contraction proofs (C02/C06):
  `Blk.tensordotK_get`, an entry of `Blk.tensordotK` is the finite sum over the contracted box.
  `mergeIdx` is the operand multi-index that `Blk.tensordotK` assembles from a contracted and a
  free part, `freeAxes` the axes it does not contract; beside them the get-characterisations of
  `Blk.zipWith`, `Blk.zeros`.  (The box, `Blk.ofFn`, `permuted` and `indexOf?`: `Proofs/BaseBox`,
  `Proofs/BaseList`.)

  Any scalar type `R`; algebraic laws are assumed only where a `foldl (· + ·)` is rewritten as a
  `List.sum` (`[AddMonoid R]`).
-/
import SymmModel.Model.Blk
import SymmModel.Proofs.BaseBox
import SymmModel.Proofs.BaseList
import Mathlib.Algebra.BigOperators.Group.List.Basic

namespace SymmModel
namespace TdotP

theorem allIdx_getElem? {s : List Nat} {n : Nat} (h : n < prod s) :
    (allIdx s)[n]? = some (unravel s n) :=
  SymmModel.allIdx_getElem? h

section lists
variable {α : Type}

theorem permuted_length_le (l : List α) (p : List Nat) : (permuted l p).length ≤ p.length :=
  List.length_filterMap_le _ _

theorem permuted_nil (p : List Nat) : permuted ([] : List α) p = [] := by
  simp [permuted]

end lists

def freeAxes (n : Nat) (axes : List Nat) : List Nat :=
  (List.range n).filter (fun ax => !axes.contains ax)

theorem without_range (n : Nat) (axes : List Nat) : without (List.range n) axes = freeAxes n axes := by
  rw [without_eq_permuted, List.length_range]
  exact permuted_range_of_lt n _ (fun x hx => List.mem_range.mp (List.mem_filter.mp hx).1)

theorem without_eq_permuted_freeAxes {α : Type} (l : List α) (axes : List Nat) :
    without l axes = permuted l (freeAxes l.length axes) := without_eq_permuted l axes

theorem mem_freeAxes {n : Nat} {axes : List Nat} {x : Nat} :
    x ∈ freeAxes n axes ↔ x < n ∧ x ∉ axes := by
  simp [freeAxes, List.mem_filter]

theorem freeAxes_pairwise (n : Nat) (axes : List Nat) : (freeAxes n axes).Pairwise (· < ·) :=
  List.Pairwise.filter _ List.pairwise_lt_range

theorem freeAxes_nodup (n : Nat) (axes : List Nat) : (freeAxes n axes).Nodup :=
  List.Nodup.sublist List.filter_sublist List.nodup_range

/-- the operand multi-index that `Blk.tensordotK` assembles (`idxA`, `idxB` there, with `d = 0`):
    axis `axes[j]` gets `k[j]`, axis `free[j]` gets `f[j]`, any other axis `d` -/
def mergeIdx {α : Type} (d : α) (n : Nat) (axes free : List Nat) (k f : List α) : List α :=
  (List.range n).map (fun ax =>
    match indexOf? axes ax with
    | some j => k.getD j d
    | none => match indexOf? free ax with
              | some j => f.getD j d
              | none => d)

section merge
variable {α : Type} (d : α)

@[simp] theorem mergeIdx_length (n : Nat) (axes free : List Nat) (k f : List α) :
    (mergeIdx d n axes free k f).length = n := by simp [mergeIdx]

theorem permuted_mergeIdx_axes {n : Nat} {axes free : List Nat} {k f : List α}
    (hn : axes.Nodup) (hr : ∀ x ∈ axes, x < n) (hk : k.length = axes.length) :
    permuted (mergeIdx d n axes free k f) axes = k := by
  apply List.ext_getElem?
  intro j
  rw [permuted_getElem? _ _ (by simpa using hr)]
  by_cases hj : j < axes.length
  · have hx : axes[j] < n := hr _ (List.getElem_mem hj)
    simp only [List.getElem?_eq_getElem hj, Option.bind_some, mergeIdx, List.getElem?_map,
      List.getElem?_range hx, Option.map_some, indexOf?_getElem hn hj]
    rw [List.getD_eq_getElem?_getD, List.getElem?_eq_getElem (hk ▸ hj)]
    simp
  · rw [List.getElem?_eq_none (by omega), List.getElem?_eq_none (by omega)]; rfl

theorem permuted_mergeIdx_free {n : Nat} {axes free : List Nat} {k f : List α}
    (hn : free.Nodup) (hr : ∀ x ∈ free, x < n) (hd : ∀ x ∈ free, x ∉ axes)
    (hf : f.length = free.length) :
    permuted (mergeIdx d n axes free k f) free = f := by
  apply List.ext_getElem?
  intro j
  rw [permuted_getElem? _ _ (by simpa using hr)]
  by_cases hj : j < free.length
  · have hx : free[j] < n := hr _ (List.getElem_mem hj)
    have hnone : indexOf? axes free[j] = none := indexOf?_eq_none_iff.mpr (hd _ (List.getElem_mem hj))
    simp only [List.getElem?_eq_getElem hj, Option.bind_some, mergeIdx, List.getElem?_map,
      List.getElem?_range hx, Option.map_some, hnone, indexOf?_getElem hn hj]
    rw [List.getD_eq_getElem?_getD, List.getElem?_eq_getElem (hf ▸ hj)]
    simp
  · rw [List.getElem?_eq_none (by omega), List.getElem?_eq_none (by omega)]; rfl

/-- with `permuted_mergeIdx_axes` / `permuted_mergeIdx_free`: when every axis is contracted or
    free, `mergeIdx` is a bijection (contracted part, free part) ↔ multi-index -/
theorem mergeIdx_permuted {n : Nat} {axes free : List Nat} {x : List α} (hx : x.length = n)
    (hra : ∀ y ∈ axes, y < n) (hrf : ∀ y ∈ free, y < n)
    (hcover : ∀ y, y < n → y ∈ axes ∨ y ∈ free) :
    mergeIdx d n axes free (permuted x axes) (permuted x free) = x := by
  apply List.ext_getElem?
  intro j
  by_cases hj : j < n
  · simp only [mergeIdx, List.getElem?_map, List.getElem?_range hj, Option.map_some]
    rw [List.getElem?_eq_getElem (hx ▸ hj)]
    congr 1
    cases h1 : indexOf? axes j with
    | some i =>
      have := indexOf?_eq_some h1
      simp only [List.getD_eq_getElem?_getD, permuted_getElem? x axes (by intro y hy; rw [hx]; exact hra y hy), this,
        Option.bind_some, List.getElem?_eq_getElem (hx ▸ hj), Option.getD_some]
    | none =>
      have hna : j ∉ axes := indexOf?_eq_none_iff.mp h1
      have hjf : j ∈ free := (hcover j hj).resolve_left hna
      cases h2 : indexOf? free j with
      | some i =>
        have := indexOf?_eq_some h2
        simp only [List.getD_eq_getElem?_getD, permuted_getElem? x free (by intro y hy; rw [hx]; exact hrf y hy), this,
          Option.bind_some, List.getElem?_eq_getElem (hx ▸ hj), Option.getD_some]
      | none => exact absurd hjf (indexOf?_eq_none_iff.mp h2)
  · rw [List.getElem?_eq_none (by simp; omega), List.getElem?_eq_none (by omega)]

end merge

theorem inBox_iff_getElem? {s i : List Nat} :
    inBox s i = true ↔ i.length = s.length ∧ ∀ (j x d : Nat), i[j]? = some x → s[j]? = some d → x < d := by
  induction s generalizing i with
  | nil => cases i <;> simp [inBox]
  | cons d ds ih =>
    cases i with
    | nil => simp [inBox]
    | cons x xs =>
      rw [inBox, Bool.and_eq_true, decide_eq_true_eq, ih]
      constructor
      · rintro ⟨h1, h2, h3⟩
        refine ⟨congrArg (· + 1) h2, fun j y e hy he => ?_⟩
        cases j with
        | zero => cases hy; cases he; exact h1
        | succ j => exact h3 j y e hy he
      · rintro ⟨h1, h2⟩
        exact ⟨h2 0 x d rfl rfl, Nat.succ.inj h1, fun j y e hy he => h2 (j + 1) y e hy he⟩

theorem inBox_mergeIdx {shape axes : List Nat} {k f : List Nat}
    (hr : ∀ x ∈ axes, x < shape.length)
    (hk : inBox (permuted shape axes) k = true)
    (hf : inBox (permuted shape (freeAxes shape.length axes)) f = true) :
    inBox shape (mergeIdx 0 shape.length axes (freeAxes shape.length axes) k f) = true := by
  have hfr : ∀ x ∈ freeAxes shape.length axes, x < shape.length := fun x hx => (mem_freeAxes.mp hx).1
  rw [inBox_iff_getElem?] at hk hf ⊢
  refine ⟨mergeIdx_length _ _ _ _ _ _, ?_⟩
  intro j x d hx hd
  have hj : j < shape.length := by
    by_contra hc; rw [List.getElem?_eq_none (by omega)] at hd; cases hd
  simp only [mergeIdx, List.getElem?_map, List.getElem?_range hj, Option.map_some,
    Option.some.injEq] at hx
  cases h1 : indexOf? axes j with
  | some t =>
    have ht := indexOf?_eq_some h1
    have htl : t < axes.length := by
      by_contra hc; rw [List.getElem?_eq_none (by omega)] at ht; cases ht
    have hkl : t < k.length := by rw [hk.1, permuted_length _ _ hr]; exact htl
    simp only [h1, List.getD_eq_getElem?_getD, List.getElem?_eq_getElem hkl, Option.getD_some] at hx
    subst hx
    apply hk.2 t k[t] d (List.getElem?_eq_getElem hkl)
    rw [permuted_getElem? _ _ hr, ht]; exact hd
  | none =>
    have hjf : j ∈ freeAxes shape.length axes := mem_freeAxes.mpr ⟨hj, indexOf?_eq_none_iff.mp h1⟩
    cases h2 : indexOf? (freeAxes shape.length axes) j with
    | none => exact absurd hjf (indexOf?_eq_none_iff.mp h2)
    | some t =>
      have ht := indexOf?_eq_some h2
      have htl : t < (freeAxes shape.length axes).length := by
        by_contra hc; rw [List.getElem?_eq_none (by omega)] at ht; cases ht
      have hfl : t < f.length := by rw [hf.1, permuted_length _ _ hfr]; exact htl
      simp only [h1, h2, List.getD_eq_getElem?_getD, List.getElem?_eq_getElem hfl,
        Option.getD_some] at hx
      subst hx
      apply hf.2 t f[t] d (List.getElem?_eq_getElem hfl)
      rw [permuted_getElem? _ _ hfr, ht]; exact hd

namespace Blk
open SymmModel.Blk
variable {R : Type}

@[simp] theorem ofFn_shape (s : List Nat) (f : List Nat → R) : (ofFn s f).shape = s := rfl

@[simp] theorem zipWith_shape [Zero R] (f : R → R → R) (a b : Blk R) :
    (zipWith f a b).shape = a.shape := rfl

theorem zipWith_get [Zero R] (f : R → R → R) (a b : Blk R) {i : List Nat}
    (h : inBox a.shape i = true) : (zipWith f a b).get i = f (a.get i) (b.get i) :=
  ofFn_get _ _ h

@[simp] theorem zeros_shape [Zero R] (s : List Nat) : (zeros s : Blk R).shape = s := rfl

theorem zeros_get [Zero R] {s i : List Nat} (h : inBox s i = true) : (zeros s : Blk R).get i = 0 :=
  ofFn_get _ _ h

theorem tensordotK_shape [Zero R] [Add R] [Mul R] (a b : Blk R) (xa xb : List Nat) :
    (a.tensordotK b xa xb).shape =
      permuted a.shape (freeAxes a.shape.length xa) ++ permuted b.shape (freeAxes b.shape.length xb) := rfl

/-- one term of the contraction: contracted multi-index `k`, free parts `iA`, `iB` -/
def tdTerm [Zero R] [Mul R] (a b : Blk R) (xa xb : List Nat) (iA iB k : List Nat) : R :=
  a.get (mergeIdx 0 a.shape.length xa (freeAxes a.shape.length xa) k iA) *
  b.get (mergeIdx 0 b.shape.length xb (freeAxes b.shape.length xb) k iB)

/-- no algebraic laws on `R`: the left fold of `+` from 0, as `Blk.tensordotK` runs it -/
theorem tensordotK_get_foldl [Zero R] [Add R] [Mul R] (a b : Blk R) (xa xb : List Nat) {i : List Nat}
    (h : inBox (a.tensordotK b xa xb).shape i = true) :
    (a.tensordotK b xa xb).get i =
      (allIdx (permuted a.shape xa)).foldl
        (fun acc k => acc + tdTerm a b xa xb (i.take (freeAxes a.shape.length xa).length)
          (i.drop (freeAxes a.shape.length xa).length) k) 0 := by
  rw [tensordotK_shape] at h
  unfold tensordotK
  exact ofFn_get _ _ h

theorem foldl_add_eq_sum {β : Type} [AddMonoid R] (g : β → R) (l : List β) (x : R) :
    l.foldl (fun acc k => acc + g k) x = x + (l.map g).sum := by
  induction l generalizing x with
  | nil => simp
  | cons y ys ih => simp [ih, add_assoc]

theorem tensordotK_get_sum [AddMonoid R] [Mul R] (a b : Blk R) (xa xb : List Nat) {i : List Nat}
    (h : inBox (a.tensordotK b xa xb).shape i = true) :
    (a.tensordotK b xa xb).get i =
      ((allIdx (permuted a.shape xa)).map (fun k =>
        tdTerm a b xa xb (i.take (freeAxes a.shape.length xa).length)
          (i.drop (freeAxes a.shape.length xa).length) k)).sum := by
  rw [tensordotK_get_foldl a b xa xb h, foldl_add_eq_sum, zero_add]

theorem tensordotK_get [AddMonoid R] [Mul R] (a b : Blk R) (xa xb : List Nat)
    {iA iB : List Nat} (hA : iA.length = (freeAxes a.shape.length xa).length)
    (h : inBox (a.tensordotK b xa xb).shape (iA ++ iB) = true) :
    (a.tensordotK b xa xb).get (iA ++ iB) =
      ((allIdx (permuted a.shape xa)).map (fun k => tdTerm a b xa xb iA iB k)).sum := by
  rw [tensordotK_get_sum a b xa xb h, ← hA, List.take_left' rfl, List.drop_left' rfl]

-- the 2×3 · 3×2 matrix product; then `tensordotK_get_sum` on it, entry by entry
example : ((⟨[2, 3], #[1, 2, 3, 4, 5, 6]⟩ : Blk Int).tensordotK ⟨[3, 2], #[1, 0, 0, 1, 2, 2]⟩ [1] [0]).data
    = #[7, 8, 16, 17] := by decide +kernel
example : ∀ i ∈ allIdx [2, 2],
    ((⟨[2, 3], #[1, 2, 3, 4, 5, 6]⟩ : Blk Int).tensordotK ⟨[3, 2], #[1, 0, 0, 1, 2, 2]⟩ [1] [0]).get i =
      ((allIdx [3]).map (fun k => tdTerm (⟨[2, 3], #[1, 2, 3, 4, 5, 6]⟩ : Blk Int)
        ⟨[3, 2], #[1, 0, 0, 1, 2, 2]⟩ [1] [0] (i.take 1) (i.drop 1) k)).sum := by decide +kernel
example : mergeIdx 0 4 [2, 0] [1, 3] [7, 8] [5, 6] = [8, 5, 7, 6] := by decide
example : allIdx [2, 3] = [[0, 0], [0, 1], [0, 2], [1, 0], [1, 1], [1, 2]] := by decide

end Blk
end TdotP
end SymmModel
