/-
  SymmModel.Proofs.NetNorm7 — network form of the norm (property C10):
  THREE-TENSOR CHAINS `a – b – c` (bond 1: `xa`/`xb1`, bond 2: `xb2`/`xc`; legs of ANY direction;
  WEAK guards on both bonds): the bra network built tensor by tensor (`braOf a xa`,
  `braOf b (xb1 ++ xb2)`, `braOf c xc`: dangling bra-like legs flipped, bond legs spared), halves route
  with left-nested halves `((ā·b̄)·c̄)·((a·b)·c) = Σ|K₃|²`: the statement `Chain3` (proved in NetNorm10 as
  two steps of the chain of any length).
-/
import SymmModel.Proofs.NetNorm3
namespace SymmModel.NormNet
open SymmModel SymmModel.Lazy SymmModel.Norm

set_option linter.unusedSectionVars false

section chain
variable {R : Type} [AddMonoid R] [Mul R] [Neg R] [Conj R] [NetLaws R]

/-- the conclusion of `network_norm_chain3`: `K2 = a·b`, `Kb2 = ā·b̄`, `K3 = K2·c`, `Kb3 = Kb2·c̄` -/
def Chain3 (a b c : Arr R) (xa xb1 xb2 xc : List Nat) : Prop :=
  ∃ K2 Kb2 K3 Kb3,
    a.tensordotF b (.pair (xa.map Int.ofNat) (xb1.map Int.ofNat)) .blockwise = .ok K2
    ∧ (braOf a xa).tensordotF (braOf b (xb1 ++ xb2))
        (.pair (xa.map Int.ofNat) (xb1.map Int.ofNat)) .blockwise = .ok Kb2
    ∧ K2.tensordotF c (.pair ((AssocP.axesAB a.ndim b.ndim xa xb1 xb2).map Int.ofNat)
        (xc.map Int.ofNat)) .blockwise = .ok K3
    ∧ Kb2.tensordotF (braOf c xc) (.pair ((AssocP.axesAB a.ndim b.ndim xa xb1 xb2).map Int.ofNat)
        (xc.map Int.ofNat)) .blockwise = .ok Kb3
    ∧ ObsEq Kb2 (braOf K2 (AssocP.axesAB a.ndim b.ndim xa xb1 xb2))
    ∧ ObsEq Kb3 (K3.conjF true true)
    ∧ Kb3.ndim = K3.ndim
    ∧ K3.oddpos.Perm ((a.oddpos ++ b.oddpos) ++ c.oddpos)
    ∧ K3.validB = true ∧ K3.fermi = true ∧ Kb3.validB = true ∧ Kb3.fermi = true
    ∧ (∃ r, Kb3.tensordotF K3 (allAxes K3.ndim) .blockwise = .ok r
        ∧ r.ndim = 0 ∧ r.oddpos = [] ∧ r.elem [] [] = normSq K3)
    ∧ (∃ r, K3.tensordotF Kb3 (allAxes K3.ndim) .blockwise = .ok r
        ∧ r.ndim = 0 ∧ r.oddpos = [] ∧ r.elem [] [] = normSq' K3)

end chain

end SymmModel.NormNet
