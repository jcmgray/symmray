/-
  SymmModel.Proofs.NormNet6 — network form of the norm (property C10), part 6:
  the norm from an observational copy of the conjugate (`norm_of_obs`); the norm of a two-tensor network
  conjugated tensor by tensor, along the routes that contract
  the ket half and the bra half first (bra half left / ket half left), with the axis pairs of the
  final contraction listed in any order.
-/
import SymmModel.Proofs.NormNet5
namespace SymmModel.NormNet
open SymmModel SymmModel.Lazy SymmModel.Norm SymmModel.TdotP SymmModel.GradedP SymmModel.RoutesP
set_option linter.unusedSectionVars false

section norm
variable {R : Type} [AddMonoid R] [Mul R] [Neg R] [Conj R] [NetLaws R]

/-- the guard of `tensordotF_congr` for a call with natural-number axes -/
theorem congr_guard (n m : Nat) (x y : List Nat) (hl : x.length = y.length)
    (hnx : x.Nodup) (hny : y.Nodup) (hx : ∀ i ∈ x, i < n) (hy : ∀ i ∈ y, i < m) :
    ∀ axesA axesB, parseAxes n m (.pair (x.map Int.ofNat) (y.map Int.ofNat)) = .ok (axesA, axesB) →
      Arr.isPerm (without (List.range n) axesA ++ axesA) n = true
      ∧ Arr.isPerm (axesB ++ without (List.range m) axesB) m = true := by
  intro axesA axesB hp
  rw [ValidP.parseAxes_nat n m x y hl hx hy] at hp
  simp only [Except.ok.injEq, Prod.mk.injEq] at hp
  obtain ⟨rfl, rfl⟩ := hp
  rw [without_range, without_range]
  exact ⟨isPerm_of_perm (perm_left hnx hx), isPerm_of_perm (perm_right hny hy)⟩

theorem full_guard (n : Nat) (axesA axesB : List Nat)
    (h : parseAxes n n (allAxes n) = .ok (axesA, axesB)) :
    Arr.isPerm (without (List.range n) axesA ++ axesA) n = true
      ∧ Arr.isPerm (axesB ++ without (List.range n) axesB) n = true :=
  congr_guard n n (List.range n) (List.range n) rfl List.nodup_range List.nodup_range
    (fun _ hi => List.mem_range.mp hi) (fun _ hi => List.mem_range.mp hi) axesA axesB h

/-- **the norm from an observational copy of the conjugate**: `Kb ≈ K.conj(phase_dual=True)`,
    `K` with sorted distinct ket labels: `Kb·K = Σ|K|²` (`normSq K`), `K·Kb` the same sum with the
    factors of each product in the other order (`normSq' K`), no labels left -/
theorem norm_of_obs {K Kb : Arr R} (hKv : K.validB = true) (hKf : K.fermi = true)
    (hKbv : Kb.validB = true) (hKbf : Kb.fermi = true) (hobs : ObsEq Kb (K.conjF true true))
    (hk : ∀ x ∈ K.oddpos, x.2 = false) (hs : K.oddpos.Pairwise (fun x y => oddLt x y = true))
    (hdl : K.oddpos.Pairwise (fun x y => x.1 ≠ y.1)) :
    ∃ r r', Kb.ndim = K.ndim
      ∧ Kb.tensordotF K (allAxes K.ndim) .blockwise = .ok r
      ∧ r.ndim = 0 ∧ r.oddpos = [] ∧ r.elem [] [] = normSq K
      ∧ K.tensordotF Kb (allAxes K.ndim) .blockwise = .ok r'
      ∧ r'.ndim = 0 ∧ r'.oddpos = [] ∧ r'.elem [] [] = normSq' K := by
  have hN := NormOk.of_valid hKv hKf
  have fK : Full K := Full.of_valid hKv hKf
  have fKb : Full Kb := Full.of_valid hKbv hKbf
  have fC : Full (K.conjF true true) := Full.conjF fK true true
  have hnd : Kb.ndim = K.ndim := by
    unfold Arr.ndim; rw [hobs.indices]; exact conjF_ndim K true true
  obtain ⟨r, h1, h2, h3, h4⟩ := norm_left_labels hN true (Or.inl rfl) hk hs hdl
  obtain ⟨r', g1, g2, g3, g4⟩ := norm_right_labels hN true (Or.inl rfl) hk hs hdl
  refine ⟨r, r', hnd, ?_, h2, h3, h4, ?_, g2, g3, g4⟩
  · rw [← h1]
    exact tensordotF_congr hobs (ObsEq.refl K) fKb fC fK fK _ _
      (by rw [hnd]; exact full_guard K.ndim)
  · rw [← g1]
    exact tensordotF_congr (ObsEq.refl K) hobs fK fK fKb fC _ _
      (by rw [hnd]; exact full_guard K.ndim)

/-- the two contracted halves `K = a·b`, `Kb = ā·b̄` of the norm network and their full contractions
    `r = Kb·K`, `r' = K·Kb` — the RESULT of `network_norm_halves`; extended by `NetSetup` (NormNet11),
    which `sequential_of_setup` takes -/
structure Halves (a b K Kb r r' : Arr R) (xa xb : List Nat) : Prop where
  eK : a.tensordotF b (.pair (xa.map Int.ofNat) (xb.map Int.ofNat)) .blockwise = .ok K
  eKb : (braOf a xa).tensordotF (braOf b xb) (.pair (xa.map Int.ofNat) (xb.map Int.ofNat)) .blockwise
      = .ok Kb
  obs : ObsEq Kb (K.conjF true true)
  Kv : K.validB = true
  Kf : K.fermi = true
  Kbv : Kb.validB = true
  Kbf : Kb.fermi = true
  nd : Kb.ndim = K.ndim
  hr : Kb.tensordotF K (allAxes K.ndim) .blockwise = .ok r
  r0 : r.ndim = 0 ∧ r.oddpos = [] ∧ r.elem [] [] = normSq K
  hr' : K.tensordotF Kb (allAxes K.ndim) .blockwise = .ok r'
  r0' : r'.ndim = 0 ∧ r'.oddpos = [] ∧ r'.elem [] [] = normSq' K

/-- **the norm of a two-tensor network, halves first.**  With `K = a·b` and `Kb` the contraction of
    the two bra tensors: `Kb·K` over all legs is `Σ |K|²` (`normSq K`), and `K·Kb` is the same sum
    with the factors of each product in the other order (`normSq' K`); no label remains. -/
theorem network_norm_halves (a b : Arr R) (xa xb : List Nat)
    (ha : a.validB = true) (hb : b.validB = true) (hfa : a.fermi = true) (hfb : b.fermi = true)
    (hadm : ValidP.tdotAdmissibleB a b xa xb = true)
    (hoA : KetLabels a.oddpos) (hoB : KetLabels b.oddpos)
    (hd : (a.oddpos ++ b.oddpos).Pairwise (fun x y => x.1 ≠ y.1)) :
    ∃ K Kb r r', Halves a b K Kb r r' xa xb := by
  obtain ⟨K, Kb, eK, eKb, hobs, hKv, hKf, hKbv, hKbf, hk, hs, hdl⟩ :=
    conj_tensordot a b xa xb ha hb hfa hfb hadm hoA hoB hd
  obtain ⟨r, r', hnd, h1, h2, h3, h4, g1, g2, g3, g4⟩ :=
    norm_of_obs hKv hKf hKbv hKbf hobs hk hs hdl
  exact ⟨K, Kb, r, r', eK, eKb, hobs, hKv, hKf, hKbv, hKbf, hnd, h1, ⟨h2, h3, h4⟩, g1, ⟨g2, g3, g4⟩⟩

end norm

section anyorder
variable {R : Type} [AddCommMonoid R] [Mul R] [Neg R] [Conj R] [NetLaws R]

theorem adm_full {K Kb : Arr R} (hKv : K.validB = true) (hKf : K.fermi = true)
    (hKbv : Kb.validB = true) (hKbf : Kb.fermi = true)
    (hs : Kb.sym = K.sym) (hi : Kb.indices = K.indices.map Index.conj) :
    Adm Kb K (List.range K.ndim) (List.range K.ndim)
      ∧ Adm K Kb (List.range K.ndim) (List.range K.ndim) := by
  have hnd : Kb.ndim = K.ndim := by unfold Arr.ndim; rw [hi, List.length_map]
  have hlt : ∀ i ∈ List.range K.ndim, i < K.ndim := fun i hi => List.mem_range.mp hi
  have hc1 : ValidP.contractibleB Kb K (List.range K.ndim) (List.range K.ndim) = true := by
    unfold ValidP.contractibleB
    simp only [Bool.and_eq_true, beq_iff_eq, List.all_eq_true, true_and]
    intro p hp
    have e : p.1 = p.2 := by
      have := List.mem_iff_getElem.mp hp
      obtain ⟨i, hi, rfl⟩ := this
      simp
    have hp1 : p.1 < K.indices.length := hlt _ (List.of_mem_zip hp).1
    rw [hi, ← e, getD_map_conj _ _ hp1, Index.conj_cm, Index.conj_dual]
    exact ⟨rfl, by cases (K.indices.getD p.1 default).dual <;> rfl⟩
  exact ⟨⟨hKbv, hKv, hKbf, hKf, hs, hc1, List.nodup_range, List.nodup_range,
      fun i hi => hnd ▸ hlt i hi, hlt⟩,
    ⟨hKv, hKbv, hKf, hKbf, hs.symm, contractibleB_swap hc1, List.nodup_range, List.nodup_range, hlt,
      fun i hi => hnd ▸ hlt i hi⟩⟩

theorem Halves.adm {a b K Kb r r' : Arr R} {xa xb : List Nat} (H : Halves a b K Kb r r' xa xb) :
    Adm Kb K (List.range K.ndim) (List.range K.ndim)
      ∧ Adm K Kb (List.range K.ndim) (List.range K.ndim) :=
  adm_full H.Kv H.Kf H.Kbv H.Kbf (H.obs.sym.trans (conjF_frame K true true).1)
    (H.obs.indices.trans (conjF_frame K true true).2.2.1)

theorem allAxes_eq_pair (n : Nat) :
    allAxes n = .pair ((List.range n).map Int.ofNat) ((List.range n).map Int.ofNat) := rfl

/-- the final contraction of `network_norm_halves` with the leg pairs listed in any order `π` -/
theorem network_norm_halves_any_order (a b : Arr R) (xa xb : List Nat)
    (ha : a.validB = true) (hb : b.validB = true) (hfa : a.fermi = true) (hfb : b.fermi = true)
    (hadm : ValidP.tdotAdmissibleB a b xa xb = true)
    (hoA : KetLabels a.oddpos) (hoB : KetLabels b.oddpos)
    (hd : (a.oddpos ++ b.oddpos).Pairwise (fun x y => x.1 ≠ y.1)) :
    ∃ K Kb r r', a.tensordotF b (.pair (xa.map Int.ofNat) (xb.map Int.ofNat)) .blockwise = .ok K
      ∧ (braOf a xa).tensordotF (braOf b xb) (.pair (xa.map Int.ofNat) (xb.map Int.ofNat)) .blockwise
          = .ok Kb
      ∧ r.ndim = 0 ∧ r.oddpos = [] ∧ r.elem [] [] = normSq K
      ∧ r'.ndim = 0 ∧ r'.oddpos = [] ∧ r'.elem [] [] = normSq' K
      ∧ ∀ π : List Nat, π.Perm (List.range K.ndim) →
          Kb.tensordotF K (.pair (π.map Int.ofNat) (π.map Int.ofNat)) .blockwise = .ok r
          ∧ K.tensordotF Kb (.pair (π.map Int.ofNat) (π.map Int.ofNat)) .blockwise = .ok r' := by
  obtain ⟨K', Kb', r, r', H⟩ := network_norm_halves a b xa xb ha hb hfa hfb hadm hoA hoB hd
  obtain ⟨A1, A2⟩ := H.adm
  obtain ⟨eK, eKb, -, -, -, -, -, -, h1, ⟨h2, h3, h4⟩, g1, ⟨g2, g3, g4⟩⟩ := H
  refine ⟨K', Kb', r, r', eK, eKb, h2, h3, h4, g2, g3, g4, ?_⟩
  intro π hπ
  have hπ' : π.Perm (List.range (List.range K'.ndim).length) := by rw [List.length_range]; exact hπ
  have hpm : permuted (List.range K'.ndim) π = π := by
    rw [permuted_eq_map _ _ (by
      intro x hx; rw [List.length_range]; exact List.mem_range.mp (hπ.mem_iff.mp hx)) 0]
    conv_rhs => rw [← List.map_id π]
    apply List.map_congr_left
    intro x hx
    have : x < K'.ndim := List.mem_range.mp (hπ.mem_iff.mp hx)
    simp [List.getD_eq_getElem?_getD, List.getElem?_range this]
  have s1 := AssocP.tdotF_axes_perm_eq_w Kb' K' (List.range K'.ndim) (List.range K'.ndim) π (.ofAdm A1) hπ'
  have s2 := AssocP.tdotF_axes_perm_eq_w K' Kb' (List.range K'.ndim) (List.range K'.ndim) π (.ofAdm A2) hπ'
  rw [hpm] at s1 s2
  rw [allAxes_eq_pair] at h1 g1
  exact ⟨s1.trans h1, s2.trans g1⟩

end anyorder

end SymmModel.NormNet
