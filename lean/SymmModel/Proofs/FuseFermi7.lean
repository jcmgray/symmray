/-
  SymmModel.Proofs.FuseFermi7 — **unfuseF in certificate form**: for any valid fermionic array with
  a fused axis, the value of `unfuseF` at an expanded address is the value of the array at the
  joined address times the explicit sign of the unfuse (flip of the non-dual legs and virtual
  reversal of the new legs when the fused index is dual).
-/
import SymmModel.Proofs.FuseFermi6
namespace SymmModel
namespace FuseP
set_option linter.unusedSectionVars false
open SymmModel.Lazy

variable {R : Type}

section F
variable [Zero R] [Neg R] [LawfulNeg R]

/-- the non-dual legs among the new axes -/
def unfuseFlipAxes (subs : List Index) (axis : Nat) : List Nat :=
  (subs.zipIdx.filter (fun p => !p.1.dual)).map (fun p => axis + p.2)

/-- the virtual permutation reversing the new axes -/
def unfuseVperm (ndim : Nat) (nnew axis : Nat) : List Nat :=
  (List.range (ndim + nnew - 1)).map (fun ax =>
    if axis ≤ ax && ax < axis + nnew then axis + nnew - (ax - axis) - 1 else ax)

/-- the sign `unfuseF` applies to the sector `K` of its result -/
def unfuseSign (a : Arr R) (ix : Index) (subs : List Index) (axis : Nat) (K : Sector) : Int :=
  if ix.dual then
    flipSign a.sym (unfuseFlipAxes subs axis) K
      * koszul (K.map a.sym.parity) (some (unfuseVperm a.ndim subs.length axis))
  else 1

theorem unfuseSign_pm (a : Arr R) (ix : Index) (subs : List Index) (axis : Nat) (K : Sector) :
    unfuseSign a ix subs axis K = 1 ∨ unfuseSign a ix subs axis K = -1 := by
  unfold unfuseSign
  split
  · exact mul_pm (flipSign_pm _ _ _) (koszul_pm _ _)
  · exact Or.inl rfl

theorem unfuseF_eq (a : Arr R) (axis : Nat) {ix : Index} {subs : List Index} {exts : Extents}
    (hix : a.indices[axis]? = some ix) (hsub : ix.sub = some (subs, exts)) {new : Arr R}
    (hnew : unfuseA a.phaseSync axis = .ok new) :
    Arr.unfuseF a axis = .ok (if ix.dual then
      (new.phaseFlip (unfuseFlipAxes subs axis)).phaseTranspose (some (unfuseVperm a.ndim subs.length axis))
      else new) := by
  unfold Arr.unfuseF
  simp only [hix, hnew, bind, Except.bind, pure, Except.pure, hsub]
  split <;> rfl

theorem sync_get (a : Arr R) {ns : Sector} {B' : Blk R} (hB' : alookup a.phaseSync.blocks ns = some B')
    (off : List Nat) : B'.get off = a.elem ns off := by
  rw [← phaseSync_elem a ns off, Arr.elem_of_phases_nil (phaseSync_phases a), hB']

theorem unfuseF_elemM (a : Arr R) (axis : Nat) (ix : Index) (subs : List Index) (exts : Extents)
    (hv : a.validB = true) (hix : a.indices[axis]? = some ix) (hsub : ix.sub = some (subs, exts)) :
    ∃ y, Arr.unfuseF a axis = .ok y ∧ y.indices = replaceWithSeq a.indices axis subs
      ∧ (∀ ns B, (ns, B) ∈ a.blocks → ∀ e ss st d, alookup exts (ns.getD axis (0, 0)) = some e →
          startOf e ss = some (st, d) →
          ∃ subshape, Arr.blockShape? subs ss = some subshape ∧ prod subshape = d
            ∧ ∀ J, inBox (replaceWithSeq B.shape axis subshape) J = true →
                y.elem (replaceWithSeq ns axis ss) J
                  = sgnI (unfuseSign a ix subs axis (replaceWithSeq ns axis ss))
                      (a.elem ns (J.take axis ++ [st + ravel subshape ((J.drop axis).take subshape.length)]
                        ++ J.drop (axis + subshape.length))))
      ∧ (∀ K, (∀ ns B e ss st d, (ns, B) ∈ a.blocks → alookup exts (ns.getD axis (0, 0)) = some e →
            startOf e ss = some (st, d) → K ≠ replaceWithSeq ns axis ss) → ∀ J, y.elem K J = 0) := by
  have hVa := (ValidP.validB_iff a).1 hv
  have hVs := ValidP.phaseSync_valid a hVa
  have hvs : ValidArr a.phaseSync := validArr_of_core hVs.core
  have hixs : a.phaseSync.indices[axis]? = some ix := hix
  obtain ⟨new, hnew, U⟩ := unfuseU hvs hixs hsub
  have hnph' : new.phases = [] := by rw [U.phases]; rfl
  have hnsym' : new.sym = a.sym := by rw [U.sym]; rfl
  have hcore := ValidP.unfuseA_core a.phaseSync new axis hVs.core hnew
  have hso : SignOk new := ⟨hcore.nodup, by rw [hnph']; exact PhOk.nil⟩
  have hso2 := hso.phaseFlip (unfuseFlipAxes subs axis)
  have hval : ∀ K J, (if ix.dual then
      (new.phaseFlip (unfuseFlipAxes subs axis)).phaseTranspose (some (unfuseVperm a.ndim subs.length axis))
      else new).elem K J = sgnI (unfuseSign a ix subs axis K) (new.elem K J) := by
    intro K J
    unfold unfuseSign
    split
    · rw [phaseTranspose_elem _ _ hso2, phaseFlip_elem _ _ hso, hnsym',
        sgnI_mul (flipSign_pm _ _ _) (koszul_pm _ _)]
      have hp : (new.phaseFlip (unfuseFlipAxes subs axis)).parities K = K.map a.sym.parity := by
        simp only [Arr.parities, (ValidP.phaseFlip_fields _ _).2.1, hnsym']
      rw [hp]
      exact sgnI_comm _ _ _
    · simp
  have hidx : (if ix.dual then
      (new.phaseFlip (unfuseFlipAxes subs axis)).phaseTranspose (some (unfuseVperm a.ndim subs.length axis))
      else new).indices = new.indices := by
    split
    · exact (ValidP.phaseFlip_fields _ _).1
    · rfl
  refine ⟨_, unfuseF_eq a axis hix hsub hnew, by rw [hidx, U.indices]; rfl, ?_, ?_⟩
  · intro ns B hm e ss st d he hst
    have hmem : (ns, syncBlk a ns B) ∈ a.phaseSync.blocks := by
      rw [phaseSync_blocks_eq]; exact List.mem_map.2 ⟨(ns, B), hm, rfl⟩
    obtain ⟨subshape, h1, h2, h3, h4⟩ := U.piece (ns, syncBlk a ns B) hmem e ss st d he hst
    refine ⟨subshape, h1, h2, ?_⟩
    intro J hJ
    rw [hval, Arr.elem_of_phases_nil hnph', h3]
    simp only
    have hsh : (syncBlk a ns B).shape = B.shape := by
      simp only [syncBlk]; split <;> rfl
    rw [h4 J (by rw [hsh]; exact hJ)]
    refine congrArg _ ?_
    exact sync_get a (alookup_of_mem_nodup hvs.nodup hmem) _
  · intro K hK J
    rw [hval, Arr.elem_of_phases_nil hnph']
    cases hl : alookup new.blocks K with
    | none => exact sgnI_zero _
    | some V =>
      exfalso
      obtain ⟨nsB, hm, e, ss, st, d, h3, h4, h5, _⟩ := U.only K V hl
      rw [phaseSync_blocks_eq] at hm
      obtain ⟨p, hp, rfl⟩ := List.mem_map.1 hm
      exact hK p.1 p.2 e ss st d hp h3 h4 h5

end F

end FuseP
end SymmModel
