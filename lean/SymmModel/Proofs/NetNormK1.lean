/-
  SymmModel.Proofs.NetNormK1 — network form of the norm (property C10), ket-bra-first bracketings,
  part 1: scalars `Scal c v` and how they are carried along (`Scal.transfer`, `Scal.of_eqv`,
  `Scal.of_pad`); S6, then congruence, on the left operand of a full contraction
  (`scal_pre_congr`, from `scalar_pre` and `scalar_congr` of NormNet22); the operands of the first call
  exchanged under a full second call (`scal_swap_first`).
-/
import SymmModel.Proofs.NetNorm12
import SymmModel.Proofs.Net4Exch

namespace SymmModel.NormNet
open SymmModel SymmModel.TdotP SymmModel.GradedP
open SymmModel.AssocP SymmModel.Assoc3P SymmModel.Assoc4P SymmModel.Assoc5P
open SymmModel.OddposP (mergeOddpos)
set_option linter.unusedSectionVars false

def Scal {R : Type} [Zero R] [Neg R] (c : Arr R) (v : R) : Prop :=
  c.ndim = 0 ∧ c.oddpos = [] ∧ c.elem [] [] = v

/-- the form in which `scalar_pre`, `scalar_congr`, `Net4P.PadA.scalar` state their results -/
theorem Scal.transfer {R : Type} [Zero R] [Neg R] {c c' : Arr R} {v : R} (h : Scal c v)
    (n : c'.ndim = 0) (o : c'.oddpos = c.oddpos) (e : c'.elem [] [] = c.elem [] []) : Scal c' v :=
  ⟨n, o.trans h.2.1, e.trans h.2.2⟩

theorem Scal.of_eqv {R : Type} [Zero R] [Neg R] {c c' : Arr R} {v : R} (hE : Eqv c' c)
    (h : Scal c v) : Scal c' v :=
  have hn : c'.ndim = 0 := hE.ndim.trans h.1
  h.transfer hn hE.oddpos
    (hE.elem [] [] (fun _ => by rw [List.eq_nil_of_length_eq_zero hn]; rfl))

theorem Scal.of_pad {R : Type} [Zero R] [Neg R] {cm c : Arr R} {v : R} (p : Net4P.PadA cm c)
    (h : Scal c v) : Scal cm v :=
  have s := p.scalar h.1
  h.transfer s.1 s.2.1 s.2.2

section gen
variable {R : Type} [AddCommMonoid R] [Mul R] [Neg R] [SignRing R] [AssocLaws R]

theorem scal_pre_congr {P P' Y c : Arr R} {u u' v p : List Nat} {x : R} (W : AdmW P Y u v)
    (hp : p.Perm (List.range P.ndim)) (hu : freeAxes P.ndim u = []) (hv : freeAxes Y.ndim v = [])
    (hU' : u'.Perm (List.range P.ndim)) (hx : permuted p u' = u)
    (hE : Eqv (P.transposeF p) P') (hv' : P'.validB = true)
    (e : tdF P Y u v = .ok c) (S : Scal c x) :
    ∃ c', tdF P' Y u' v = .ok c' ∧ Scal c' x ∧ AdmW P' Y u' v := by
  obtain ⟨c1, e1, W1, n1, o1, v1⟩ := scalar_pre W hp hu hv (perm_range_nodup hU')
    (perm_range_lt hU') hx
    (freeAxes_of_perm hU') e
  obtain ⟨c2, e2, n2, o2, v2⟩ := scalar_congr W1 hE hv' e1 n1
  exact ⟨c2, e2, S.transfer n2 (o2.trans o1) (v2.trans v1),
    admW_congr W1 hE (Eqv.refl Y) hv' W.vb⟩

/-- from the scalar `(P·Q)·Z` the scalar `(Q·P)·Z`, the legs of `Q·P` listed as `U'` with
    `permuted rot U' = U`, `rot` the rotation that moves `P`'s dangling legs behind `Q`'s (S5 as an
    equivalence on the inner pair, then S6 and congruence at the root) -/
theorem scal_swap_first (hmul : ∀ x y : R, x * y = y * x) {P Q Z PQ c : Arr R} {u v U U' V : List Nat}
    {x : R} (W : AdmW P Q u v) (hd : OddposP.LabelsDistinct (Q.oddpos ++ P.oddpos))
    (ePQ : tdF P Q u v = .ok PQ) (W2 : AdmW PQ Z U V)
    (hu : freeAxes PQ.ndim U = []) (hv : freeAxes Z.ndim V = [])
    (hU' : U'.Perm (List.range PQ.ndim))
    (hx : permuted (rotB (freeAxes P.ndim u).length (freeAxes Q.ndim v).length) U' = U)
    (e : tdF PQ Z U V = .ok c) (S : Scal c x) :
    ∃ QP c', tdF Q P v u = .ok QP ∧ QP.validB = true ∧ tdF QP Z U' V = .ok c' ∧ Scal c' x
      ∧ AdmW QP Z U' V := by
  have W' := admW_swap W
  obtain ⟨QP, _, eQP, IQP, _⟩ := call_pack Q P v u W' hd
  obtain ⟨c0, e0, _, _, hE⟩ := Assoc5P.swap_eqv hmul W' hd QP eQP
  obtain rfl : c0 = PQ := Except.ok.inj (e0.symm.trans ePQ)
  obtain ⟨_, _, C⟩ := Call.of_ok W ePQ
  obtain ⟨c', e', S', W3⟩ := scal_pre_congr W2
    (by rw [C.toInter.ndim]; exact perm_of_isPerm (rotB_isPerm _ _)) hu hv hU' hx hE
    IQP.valid e S
  exact ⟨QP, c', eQP, IQP.valid, e', S', W3⟩

end gen

end SymmModel.NormNet
