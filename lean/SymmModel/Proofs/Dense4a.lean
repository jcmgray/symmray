/-
  SymmModel.Proofs.Dense4a — fusing at the level of addresses, backward direction (property C08,
  Props/C08d): every stored entry of the fused array either is `0` or is a stored entry of the
  original, at the address obtained by expanding through the fused indices' own tables
  (`fuse_addr_bwd`).  Together with `Dense3.fuse_addr_fwd` this determines the dense form of the
  fused array (`C08.fuse_toDense`, through `Arr.dense_relocate`).
-/
import SymmModel.Proofs.Dense3d

namespace SymmModel
namespace Dense4
open FuseP Arr

variable {R : Type}

/-- the list `m` with `permuted m perm = l` (for a permutation `perm` of `0 … n-1`) -/
def unperm {α : Type} (perm : List Nat) (n : Nat) (d : α) (l : List α) : List α :=
  (List.range n).map (fun ax => l.getD ((indexOf? perm ax).getD 0) d)

theorem length_unperm {α : Type} (perm : List Nat) (n : Nat) (d : α) (l : List α) :
    (unperm perm n d l).length = n := by simp [unperm]

theorem permuted_unperm {α : Type} {perm : List Nat} {n : Nat} (hnd : perm.Nodup)
    (hpl : perm.length = n) (hlt : ∀ p ∈ perm, p < n) (d : α) (l : List α) (hl : l.length = n) :
    permuted (unperm perm n d l) perm = l := by
  rw [FuseP.permuted_eq_map _ d _ (by simpa [unperm] using hlt)]
  apply List.ext_getElem (by simp [hpl, hl])
  intro t h1 h2
  simp only [List.length_map] at h1
  simp only [List.getElem_map, unperm]
  rw [getD_range_map _ _ _ _ (hlt _ (List.getElem_mem h1)), indexOf?_getElem hnd h1]
  simp [List.getD_eq_getElem?_getD, List.getElem?_eq_getElem h2]

theorem inBox_of_permuted {perm shp offs : List Nat} {n : Nat} (hlt : ∀ p ∈ perm, p < n)
    (hcover : ∀ ax, ax < n → ax ∈ perm) (hs : shp.length = n) (ho : offs.length = n)
    (h : inBox (permuted shp perm) (permuted offs perm) = true) : inBox shp offs = true := by
  rw [inBox_iff]
  refine ⟨by rw [hs, ho], fun ax hax => ?_⟩
  rw [hs] at hax
  obtain ⟨t, _, ht2⟩ := indexOf?_of_mem (hcover ax hax)
  have htl := getElem?_lt ht2
  have hb := (inBox_iff.1 h).2 t (by rw [permuted_length _ _ (by rw [hs]; exact hlt)]; exact htl)
  rw [FuseP.permuted_eq_map shp 0 perm (by rw [hs]; exact hlt),
    FuseP.permuted_eq_map offs 0 perm (by rw [ho]; exact hlt)] at hb
  simpa [List.getD_eq_getElem?_getD, List.getElem?_map, ht2] using hb

section Multi
variable {a : Arr R} {groups : List (List Nat)} [Zero R]

theorem seg_lengths (hv : ValidArr a) (hok : GroupsOk groups a.ndim) {ns : Sector} {B : Blk R}
    (hB : alookup (fusedBlocksM a groups) ns = some B) {i : List Nat} (hi : inBox B.shape i = true)
    (g : Nat) (hg : g < groups.length) :
    (segM a groups ns i g).1.length = (groups.getD g []).length
    ∧ (segM a groups ns i g).2.length = (groups.getD g []).length := by
  have hgg : groups[g]? = some groups[g] := List.getElem?_eq_getElem hg
  have hgd : groups.getD g [] = groups[g] := by simp [List.getD_eq_getElem?_getD, hgg]
  by_cases hm : multiB groups g = true
  · obtain ⟨gaxes, hgg', hlen⟩ := multiB_iff.1 hm
    have hge : groups[g] = gaxes := by rw [hgg] at hgg'; exact Option.some.inj hgg'
    have hsp := (fused_getM hv hok hB hi).1 g hg hm
    rcases hse : segM a groups ns i g with ⟨ss, so⟩
    rw [hse] at hsp
    obtain ⟨_, subs, exts, shp, hsub, hbs, hbox, _⟩ :=
      joinAddr_splitAddr (ixM_wf hv hok.adm _) hsp
    rw [ixM_sub hok.adm hgg' hlen] at hsub
    simp only [Option.some.injEq, Prod.mk.injEq] at hsub
    obtain ⟨rfl, _⟩ := hsub
    have hl := FuseP.blockShape?_length hbs
    simp only [List.length_map] at hl
    rw [hgd, hge]
    exact ⟨hl.1.symm, by rw [inBox_length hbox, hl.2, ← hl.1]⟩
  · have hm' : multiB groups g = false := by simpa using hm
    have hlen : groups[g].length = 1 := by
      by_contra hne; exact hm (multiB_iff.2 ⟨_, hgg, hne⟩)
    rw [hgd, hlen]
    simp [segM, hm']

theorem expand_lengths (hv : ValidArr a) (hok : GroupsOk groups a.ndim) {ns : Sector} {B : Blk R}
    (hB : alookup (fusedBlocksM a groups) ns = some B) {i : List Nat} (hi : inBox B.shape i = true)
    (hnl : ns.length = ndimM a groups) (hil : i.length = ndimM a groups) :
    (expandK a groups ns i).length = a.ndim ∧ (expandJ a groups ns i).length = a.ndim := by
  have hperm := perm_length (hokD (a := a) hok).adm
  rw [perm_eq, axesBefore_range _ _, duals_length] at hperm
  simp only [List.length_append, List.length_range] at hperm
  have hgr : (List.range groups.length).map (fun g => groups.getD g []) = groups :=
    (map_eq_range_map groups [] id).symm.trans (by simp)
  have h1 := flatten_map_length_eq (List.range groups.length)
    (fun g => (segM a groups ns i g).1) (fun g => groups.getD g [])
    (fun g hg => (seg_lengths hv hok hB hi g (List.mem_range.1 hg)).1)
  have h2 := flatten_map_length_eq (List.range groups.length)
    (fun g => (segM a groups ns i g).2) (fun g => groups.getD g [])
    (fun g hg => (seg_lengths hv hok hB hi g (List.mem_range.1 hg)).2)
  rw [hgr] at h1 h2
  constructor
  · rw [expandK_parts ns i hnl]
    simp only [List.length_append, List.length_map, List.length_range]
    rw [h1]; omega
  · rw [expandJ_parts ns i hil]
    simp only [List.length_append, List.length_map, List.length_range]
    rw [h2]; omega

end Multi

/-- `Dense5.FuseRel` with the per-group segments only asserted to exist, not computed from
    `(s, offs)` — weaker (nothing is said of the segments' lengths), and what the backward half
    of `fuse_toDense` and `Dense5.PosRel` state; same argument order as `FuseRel`, which implies
    it (`fuseRelB_of_fuseRel`) -/
def FuseRelB (a x : Arr R) (groups : List (List Nat)) (s : Sector) (offs : List Nat) (ns : Sector)
    (i : List Nat) : Prop :=
  let gi := calcFuseGroupInfo groups a.duals
  ∃ segs : List (Sector × List Nat), segs.length = groups.length
    ∧ (∀ g gaxes, groups[g]? = some gaxes →
        (gaxes.length = 1 →
          segs[g]? = some ([ns.getD (gi.position + g) (0, 0)], [i.getD (gi.position + g) 0]))
        ∧ (gaxes.length ≠ 1 →
            splitAddr (x.indices.getD (gi.position + g) default) (ns.getD (gi.position + g) (0, 0))
              (i.getD (gi.position + g) 0) = segs[g]?))
    ∧ permuted s gi.perm = ns.take gi.position ++ (segs.map (·.1)).flatten
        ++ ns.drop (gi.position + groups.length)
    ∧ permuted offs gi.perm = i.take gi.position ++ (segs.map (·.2)).flatten
        ++ i.drop (gi.position + groups.length)

/-- the segments are those of the original address -/
theorem fuseRelB_of_fuseRel {a x : Arr R} {groups : List (List Nat)} {s : Sector}
    {offs : List Nat} {ns : Sector} {i : List Nat} (h : Dense5.FuseRel a x groups s offs ns i) :
    FuseRelB a x groups s offs ns i := by
  obtain ⟨m, g1, k, j⟩ := h
  refine ⟨groups.map (fun gaxes =>
    (gaxes.map (fun ax => s.getD ax (0, 0)), gaxes.map (fun ax => offs.getD ax 0))),
    by simp, ?_, ?_, ?_⟩
  · intro g gaxes hg
    have hseg : (groups.map (fun gaxes => (gaxes.map (fun ax => s.getD ax (0, 0)),
        gaxes.map (fun ax => offs.getD ax 0))))[g]?
        = some (gaxes.map (fun ax => s.getD ax (0, 0)), gaxes.map (fun ax => offs.getD ax 0)) := by
      simp [List.getElem?_map, hg]
    constructor
    · intro hlen
      obtain ⟨e1, e2⟩ := g1 g gaxes hg hlen
      rw [hseg, e1, e2]
    · intro hlen
      rw [hseg]; exact m g gaxes hg hlen
  · rw [k]; simp [List.map_map, Function.comp_def]
  · rw [j]; simp [List.map_map, Function.comp_def]

theorem fuse_addr_bwd [Zero R] [Neg R] {a : Arr R} {groups : List (List Nat)}
    (hva : ValidArr a) (hok : GroupsOk groups a.ndim) (ha : DenseOk a)
    (hx : DenseOk (fusedArrM a groups)) {ns : Sector} {i : List Nat}
    (hnl : ns.length = ndimM a groups)
    (hst : StoredAt (fusedArrM a groups) ns i) :
    (fusedArrM a groups).elem ns i = 0 ∨
    ∃ s offs, StoredAt a s offs ∧ FuseRelB a (fusedArrM a groups) groups s offs ns i
      ∧ a.elem s offs = (fusedArrM a groups).elem ns i := by
  obtain ⟨B, hB, hi⟩ := hst
  have hB' : alookup (fusedBlocksM a groups) ns = some B := hB
  have hil : i.length = ndimM a groups := by
    rw [inBox_length hi, Arr.blockShape?_shape_length (hx.shapes.2 ns B hB)]
    exact newIdxM_length hok.adm
  obtain ⟨hKl, hJl⟩ := expand_lengths hva hok hB' hi hnl hil
  have hpnd := perm_nodup (hokD (a := a) hok).adm
  have hpl : (giM a groups).perm.length = a.ndim := by
    rw [perm_length (hokD hok).adm, duals_length]
  have hplt : ∀ q ∈ (giM a groups).perm, q < a.ndim := by
    intro q hq; rw [← duals_length]; exact (mem_perm (hokD hok).adm).1 hq
  have hcover : ∀ ax, ax < a.ndim → ax ∈ (giM a groups).perm := by
    intro ax hax; exact (mem_perm (hokD hok).adm).2 (by rw [duals_length]; exact hax)
  let s := unperm (giM a groups).perm a.ndim ((0, 0) : Charge) (expandK a groups ns i)
  let offs := unperm (giM a groups).perm a.ndim (0 : Nat) (expandJ a groups ns i)
  have hK : permuted s (giM a groups).perm = expandK a groups ns i :=
    permuted_unperm hpnd hpl hplt _ _ hKl
  have hJ : permuted offs (giM a groups).perm = expandJ a groups ns i :=
    permuted_unperm hpnd hpl hplt _ _ hJl
  obtain ⟨hs1, hget⟩ := fused_getM hva hok hB' hi
  obtain ⟨hval, hbox⟩ := hget s offs (length_unperm _ _ _ _) (length_unperm _ _ _ _) hK hJ
  rw [hx.elem_eq hB, hval]
  cases hb : alookup a.blocks s with
  | none => exact Or.inl rfl
  | some b =>
    have hbl : b.shape.length = a.ndim := by
      simpa [Arr.ndim] using Arr.blockShape?_shape_length (ha.shapes.2 s b hb)
    refine Or.inr ⟨s, offs, ⟨b, hb, inBox_of_permuted hplt hcover hbl (length_unperm _ _ _ _) (hbox b hb)⟩,
      ⟨(List.range groups.length).map (segM a groups ns i), by simp, ?_, ?_, ?_⟩, ha.elem_eq hb _⟩
    · intro g gaxes hgg
      have hgl := getElem?_lt hgg
      have hseg : ((List.range groups.length).map (segM a groups ns i))[g]?
          = some (segM a groups ns i g) := by
        simp [List.getElem?_map, List.getElem?_range hgl]
      constructor
      · intro hlen
        have hm : multiB groups g = false := multiB_single hgg hlen
        rw [hseg]; simp only [segM, hm, Bool.false_eq_true, if_false]
      · intro hlen
        rw [hseg]
        exact hs1 g hgl (multiB_iff.2 ⟨_, hgg, hlen⟩)
    · rw [hK]; simp only [expandK, List.map_map]; rfl
    · rw [hJ]; simp only [expandJ, List.map_map]; rfl

end Dense4
end SymmModel
