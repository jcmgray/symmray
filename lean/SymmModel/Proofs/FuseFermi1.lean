/-
  SymmModel.Proofs.FuseFermi1 — fermionic fuse, structure: under the guard (no empty group)
  `fuseF a groups` is `fuseCore` of the sign-adjusted, synchronised, transposed array over the
  positions the groups have after the transposition.
-/
import SymmModel.Proofs.FuseMultiAll
import SymmModel.Model.Fermi
namespace SymmModel
namespace FuseP

variable {R : Type}

/-- positions of the grouped axes after the transposition by `perm` -/
def newGroupsF (groups : List (List Nat)) (duals : List Bool) : List (List Nat) :=
  groups.map (fun g => g.map (fun ax => ((indexOf? (calcFuseGroupInfo groups duals).perm ax).getD 0)))

/-- the groups (in transposed positions) whose first axis is dual -/
def dualGroupsF [Zero R] (a : Arr R) (groups : List (List Nat)) : List (List Nat) :=
  (newGroupsF groups a.duals).filter (fun g =>
    ((a.transposeF (calcFuseGroupInfo groups a.duals).perm).indices.getD (g.headD 0) default).dual)

/-- the non-dual legs of the dual groups -/
def axesFlipF [Zero R] (a : Arr R) (groups : List (List Nat)) : List Nat :=
  (dualGroupsF a groups).flatMap (fun g => g.filter (fun ax =>
    !((a.transposeF (calcFuseGroupInfo groups a.duals).perm).indices.getD ax default).dual))

/-- the virtual permutation reversing every dual group -/
def vpermF [Zero R] (a : Arr R) (groups : List (List Nat)) : List Nat :=
  (List.range ((a.transposeF (calcFuseGroupInfo groups a.duals).perm).phaseFlip (axesFlipF a groups)).ndim).map
    (fun ax =>
      match (dualGroupsF a groups).find? (fun g => g.contains ax) with
      | some g => match indexOf? g ax with
                  | some k => g.reverse.getD k ax
                  | none => ax
      | none => ax)

/-- the operand of `_fuse_core` inside `FermionicArray.fuse` -/
def signAdj [Zero R] [Neg R] (a : Arr R) (groups : List (List Nat)) : Arr R :=
  (if (dualGroupsF a groups).isEmpty then
      (a.transposeF (calcFuseGroupInfo groups a.duals).perm).phaseFlip (axesFlipF a groups)
    else ((a.transposeF (calcFuseGroupInfo groups a.duals).perm).phaseFlip (axesFlipF a groups)).phaseTranspose
      (some (vpermF a groups))).phaseSync

theorem filter_nonempty_self {groups : List (List Nat)} {n : Nat} (hok : GroupsOk groups n) :
    groups.filter (fun g => !g.isEmpty) = groups := by
  rw [List.filter_eq_self]
  intro g hg
  have := hok.gne g hg
  cases g with
  | nil => exact absurd rfl this
  | cons x xs => rfl

theorem expand_nil {groups : List (List Nat)} {n : Nat} (hok : GroupsOk groups n) :
    (groups.zipIdx.filter (fun p => p.1.isEmpty)).map (·.2) = [] := by
  rw [List.map_eq_nil_iff, List.filter_eq_nil_iff]
  intro p hp
  have hm := List.mem_zipIdx hp
  have : p.1 ∈ groups := by rw [hm.2.2]; exact List.getElem_mem _
  have := hok.gne p.1 this
  cases hp1 : p.1 with
  | nil => exact absurd hp1 this
  | cons x xs => simp

theorem fuseF_eq [Zero R] [Neg R] (a : Arr R) (groups : List (List Nat)) (mode : FuseMode) (e : Bool)
    (hok : GroupsOk groups a.ndim) :
    Arr.fuseF a groups mode e = fuseCore (signAdj a groups) (newGroupsF groups a.duals) mode := by
  have hok' : GroupsOk groups a.duals.length := by rw [duals_length]; exact hok
  have hne : groups.isEmpty = false := by
    cases hgr : groups with
    | nil => exact absurd hgr hok.ne
    | cons x xs => rfl
  unfold Arr.fuseF
  simp only [filter_nonempty_self hok, expand_nil hok, hne, Bool.false_eq_true, if_false, List.isEmpty_nil,
    Bool.not_true, Bool.and_false]
  have hmap : groups.mapM (fun g => g.mapM (fun ax =>
      match indexOf? (calcFuseGroupInfo groups a.duals).perm ax with
      | some k => (pure k : Except Err Nat)
      | none => throw Err.value)) = .ok (newGroupsF groups a.duals) := by
    apply mapM_ok_of_forall
    intro g hg
    apply mapM_ok_of_forall
    intro ax hax
    have hm : ax ∈ (calcFuseGroupInfo groups a.duals).perm := by
      rw [mem_perm hok'.adm]; exact hok'.lt ax (List.mem_flatten.2 ⟨g, hg, hax⟩)
    obtain ⟨k, hk, _⟩ := indexOf?_of_mem hm
    simp only [hk, Option.getD_some]; rfl
  erw [hmap]
  simp only [bind, Except.bind, pure, Except.pure]
  split
  · rename_i err heq
    rw [← heq]; rfl
  · rename_i v heq
    rw [← heq]; rfl

end FuseP
end SymmModel
