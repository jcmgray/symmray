/-
  SymmModel.Proofs.Reshape7c — element-exact forward statement of the fermionic `reshape` for one
  fuse call with SEVERAL groups of consecutive axes: every stored element of the result is the
  element of the input at the address obtained by splitting every fused axis, times the fuse sign
  (no transposition sign: the permutation is the identity).  The statement carries what is needed to
  compose calls over zero-filled parts of fused blocks: the split address `(s, offs)` has the right
  lengths, and IF the input stores the sector `s` then `offs` lies in the box of that block
  (`fuseF_elem_box`, `forward_elem_call_box`).  When the input does not store `s` the value is 0
  (`Arr.elem`).  In the other direction, every address of a stored source block is the split address of an
  address of the block it is fused into (`block_into_M`, for abelian arrays and for the sign-adjusted
  fermionic operand alike).
  Namespace `ReshapeI`: the element-by-element files ReshapeIa–Ih build on this one.
-/
import SymmModel.Proofs.Reshape7b
namespace SymmModel.ReshapeI
open SymmModel SymmModel.Reshape SymmModel.C07 SymmModel.Reshape5 ReshapeP FuseP SymmModel.Lazy
set_option linter.unusedSectionVars false

variable {R : Type} [Zero R] [Neg R] [LawfulNeg R]

theorem applyPlan_calls (a : Arr R) (calls : List (List (List Nat))) :
    applyPlan a ([], calls, []) = calls.foldlM fuseDispatch a := by
  simp only [applyPlan, List.foldlM_nil, bind, Except.bind, pure, Except.pure]
  cases calls.foldlM fuseDispatch a <;> rfl

theorem call_plan (a : Arr R) (G : List (List Nat)) (P lb : Nat) (hc : CallOk G P lb a.ndim) :
    GroupsOk G a.ndim ∧ (calcFuseGroupInfo G a.duals).position = P
      ∧ (calcFuseGroupInfo G a.duals).perm = List.range a.ndim := by
  have hok := groupsOk_of_call hc.ne hc.two hc.flat hc.le
  have hgok : C05.groupsOkB G a.ndim = true := groupsOk_iff.2 hok
  have hdl := FuseP.duals_length a
  obtain ⟨hb, _, hperm⟩ := ValidP.groupInfo_consecutive (groups := G) (duals := a.duals)
    (p := P) (n := G.flatten.length) hc.flat (flatten_pos hc.ne hc.two) (by rw [hdl]; exact hc.le)
  rw [hdl] at hperm
  have hpos : (calcFuseGroupInfo G a.duals).position = P := by
    obtain ⟨_, _, _, _, _, hb', _⟩ := C05.calcFuseGroupInfo_perm G a.duals (by rw [hdl]; exact hgok)
    have := congrArg List.length (hb'.symm.trans hb)
    simpa using this
  exact ⟨hok, hpos, hperm⟩

/-- the other facts about the sign-adjusted operand (size, groups, position): `signAdj_ndim`, `signAdj_groupsOk`,
    `signAdj_position` (FuseFermi3) -/
theorem signAdj_frame (a : Arr R) (G : List (List Nat)) (hv : a.validB = true) (hf : a.fermi = true)
    (hok : GroupsOk G a.ndim) :
    ValidArr (signAdj a G) ∧ TrOk a (calcFuseGroupInfo G a.duals).perm := by
  refine ⟨validArr_of_core (signAdj_valid a G hv hf hok).core, (Full.of_valid hv hf).trOk ?_⟩
  have := perm_isPerm (hokD hok).adm; rwa [duals_length] at this

theorem expandK_eq (a : Arr R) (G : List (List Nat)) (P : Nat) (hpos : (giM a G).position = P)
    (ns : Sector) (i : List Nat) :
    expandK a G ns i = ns.take P ++ (((List.range G.length).map (segM a G ns i)).map (·.1)).flatten
      ++ ns.drop (P + G.length) := by
  simp only [expandK, hpos, List.map_map]
  rfl

theorem expandJ_eq (a : Arr R) (G : List (List Nat)) (P : Nat) (hpos : (giM a G).position = P)
    (ns : Sector) (i : List Nat) :
    expandJ a G ns i = i.take P ++ (((List.range G.length).map (segM a G ns i)).map (·.2)).flatten
      ++ i.drop (P + G.length) := by
  simp only [expandJ, hpos, List.map_map]
  rfl

/-- `H`: the groups the array `x` is fused by (`G` itself, or its fermionic rearrangement), `G`: the groups of the call -/
theorem segs_split (x : Arr R) (H G : List (List Nat)) (P : Nat)
    (hpos : (giM x H).position = P) (ns : Sector) (i : List Nat)
    (h1 : ∀ g, g < G.length → multiB G g = true →
      splitAddr (ixM x H g) (ns.getD ((giM x H).position + g) (0, 0)) (i.getD ((giM x H).position + g) 0)
        = some (segM x H ns i g)) :
    ∀ g gaxes, G[g]? = some gaxes → gaxes.length ≠ 1 →
      splitAddr ((fusedArrM x H).indices.getD (P + g) default) (ns.getD (P + g) (0, 0)) (i.getD (P + g) 0)
        = ((List.range G.length).map (segM x H ns i))[g]? := by
  intro g gaxes hgg hl1
  have hgl := getElem?_lt hgg
  have hm : multiB G g = true := multiB_iff.2 ⟨_, hgg, hl1⟩
  rw [List.getElem?_map, List.getElem?_range hgl]
  have := h1 g hgl hm
  rw [hpos] at this
  show splitAddr ((newIdxM x H).getD _ default) _ _ = _
  have hix : (newIdxM x H).getD (P + g) default = ixM x H g := by
    simp only [ixM]; rw [hpos]
  rw [hix]; exact this

theorem block_into_M (x : Arr R) (H G : List (List Nat)) (P : Nat) (hva : ValidArr x)
    (hok : GroupsOk H x.ndim) (hpos : (giM x H).position = P) (hperm : (giM x H).perm = List.range x.ndim)
    (hlen : H.length = G.length) (htwo : ∀ g ∈ G, 2 ≤ g.length)
    (hget : ∀ {ns : Sector} {B : Blk R} {i : List Nat},
      alookup (fusedArrM x H).blocks ns = some B → inBox B.shape i = true →
      ∀ g, g < G.length → multiB G g = true →
        splitAddr (ixM x H g) (ns.getD ((giM x H).position + g) (0, 0))
          (i.getD ((giM x H).position + g) 0) = some (segM x H ns i g))
    (s : Sector) (b : Blk R) (hmem : (s, b) ∈ x.blocks) (hsl : s.length = x.ndim)
    (hbl : b.shape.length = x.ndim) (B : Blk R)
    (hB : alookup (fusedArrM x H).blocks (planM x H (s, b)).newSector = some B) :
    ∀ offs, inBox b.shape offs = true →
      ∃ i, ∃ segs : List (Sector × List Nat), inBox B.shape i = true
        ∧ segs.length = G.length
        ∧ (∀ g gaxes, G[g]? = some gaxes →
            splitAddr ((fusedArrM x H).indices.getD (P + g) default)
              ((planM x H (s, b)).newSector.getD (P + g) (0, 0)) (i.getD (P + g) 0) = segs[g]?)
        ∧ s = (planM x H (s, b)).newSector.take P ++ (segs.map (·.1)).flatten
              ++ (planM x H (s, b)).newSector.drop (P + G.length)
        ∧ offs = i.take P ++ (segs.map (·.2)).flatten ++ i.drop (P + G.length) := by
  intro offs ho
  have hol : offs.length = x.ndim := by rw [inBox_length ho, hbl]
  have e1 : permuted s (List.range x.ndim) = s := Reshape4.permuted_range_of_length hsl
  have e3 : permuted offs (List.range x.ndim) = offs := Reshape4.permuted_range_of_length hol
  obtain ⟨B', hB', hiB, _, hK, hJ⟩ := fused_ontoM hva hok (sb := (s, b)) hmem (offs := offs) ho
  have hBB : B' = B := by
    have : alookup (fusedArrM x H).blocks (planM x H (s, b)).newSector = some B' := hB'
    rw [hB] at this; injection this with this; exact this.symm
  subst hBB
  rw [hperm] at hK hJ
  simp only [e1] at hK
  rw [e3] at hJ
  refine ⟨_, (List.range G.length).map (segM x H _ _), hiB, by simp,
    fun g gaxes hg => segs_split x H G P hpos _ _ (hget hB hiB) g gaxes hg
      (by have := htwo gaxes (List.mem_of_getElem? hg); omega), ?_, ?_⟩
  · rw [← hlen, ← expandK_eq x H P hpos]; exact hK
  · rw [← hlen, ← expandJ_eq x H P hpos]; exact hJ

/-- `C05.fuseF_elem` with lengths and the box of the source block -/
theorem fuseF_elem_box (a : Arr R) (groups : List (List Nat)) (e : Bool)
    (hv : a.validB = true) (hf : a.fermi = true) (hg : C05.groupsOkB groups a.ndim = true) :
    let gi := calcFuseGroupInfo groups a.duals
    ∃ x, Arr.fuseF a groups .insert e = .ok x ∧
      ∀ ns B, alookup x.blocks ns = some B → ∀ i, inBox B.shape i = true →
        ∃ segs : List (Sector × List Nat), segs.length = groups.length
          ∧ (∀ g gaxes, groups[g]? = some gaxes → gaxes.length ≠ 1 →
                  splitAddr (x.indices.getD (gi.position + g) default) (ns.getD (gi.position + g) (0, 0))
                    (i.getD (gi.position + g) 0) = segs[g]?)
          ∧ (ns.take gi.position ++ (segs.map (·.1)).flatten ++ ns.drop (gi.position + groups.length)).length
              = a.ndim
          ∧ (i.take gi.position ++ (segs.map (·.2)).flatten ++ i.drop (gi.position + groups.length)).length
              = a.ndim
          ∧ ∀ s offs, s.length = a.ndim → offs.length = a.ndim →
              permuted s gi.perm = ns.take gi.position ++ (segs.map (·.1)).flatten
                ++ ns.drop (gi.position + groups.length) →
              permuted offs gi.perm = i.take gi.position ++ (segs.map (·.2)).flatten
                ++ i.drop (gi.position + groups.length) →
              x.elem ns i = sgnI (fuseSignF a groups s) (a.elem s offs)
              ∧ ∀ b, alookup a.blocks s = some b →
                  inBox (permuted b.shape gi.perm) (permuted offs gi.perm) = true := by
  have hok := groupsOk_iff.1 hg
  obtain ⟨h0, hM⟩ := fuseF_elemM a groups e hv hf hok
  obtain ⟨_, hT⟩ := fuseF_elemT a groups e hv hf hok
  have hfld := signAdj_fields a groups
  have hnd4 := signAdj_ndim (a := a) hok
  have hpos := signAdj_position (a := a) hok
  have hlen : (newGroupsF groups a.duals).length = groups.length := newGroupsF_length _ _
  have hfull := Full.of_valid hv hf
  have htr := (signAdj_frame a groups hv hf hok).2
  refine ⟨_, h0, ?_⟩
  intro ns B hB i hi
  obtain ⟨h1, hKl, hJl, _, hbx⟩ := hT ns B hB i hi
  have eK := expandK_eq (signAdj a groups) (newGroupsF groups a.duals) _ hpos ns i
  have eJ := expandJ_eq (signAdj a groups) (newGroupsF groups a.duals) _ hpos ns i
  rw [hlen] at eK eJ
  refine ⟨(List.range groups.length).map (segM (signAdj a groups) (newGroupsF groups a.duals) ns i), by simp,
    segs_split _ _ groups _ hpos ns i (fun g hg hm => by rw [hpos]; exact h1 g hg hm),
    by rw [← eK]; exact hKl, by rw [← eJ]; exact hJl, ?_⟩
  intro s offs hs ho hK hJ
  refine ⟨hM ns B hB i hi s offs hs ho (by rw [hK, eK]) (by rw [hJ, eJ]), ?_⟩
  intro b hb
  obtain ⟨b4, hb4, hsh⟩ := signAdj_block (groups := groups) htr hb
  have := hbx b4 (by rw [eK, ← hK]; exact hb4)
  rw [hsh, eJ, ← hJ] at this
  exact this

/-- the one-call statement: every stored element of `y` is the element of `a` at the address obtained
    by splitting the fused axes `P, P+1, …` of `y`, with the fuse sign of the source sector applied by
    `V` (`sgnI` for fermionic arrays, nothing for abelian ones); the split address has `a.ndim`
    components and lies in the box of the source block when `a` stores the source sector -/
def ElemStepV (V : Int → R → R) (a y : Arr R) (G : List (List Nat)) (P : Nat) : Prop :=
  ∀ ns B, alookup y.blocks ns = some B → ∀ i, inBox B.shape i = true →
    ∃ segs : List (Sector × List Nat), segs.length = G.length
      ∧ (∀ g gaxes, G[g]? = some gaxes →
          splitAddr (y.indices.getD (P + g) default) (ns.getD (P + g) (0, 0)) (i.getD (P + g) 0) = segs[g]?)
      ∧ (ns.take P ++ (segs.map (·.1)).flatten ++ ns.drop (P + G.length)).length = a.ndim
      ∧ (i.take P ++ (segs.map (·.2)).flatten ++ i.drop (P + G.length)).length = a.ndim
      ∧ y.elem ns i = V (fuseSignT a G (ns.take P ++ (segs.map (·.1)).flatten ++ ns.drop (P + G.length)))
          (a.elem (ns.take P ++ (segs.map (·.1)).flatten ++ ns.drop (P + G.length))
            (i.take P ++ (segs.map (·.2)).flatten ++ i.drop (P + G.length)))
      ∧ ∀ b, alookup a.blocks (ns.take P ++ (segs.map (·.1)).flatten ++ ns.drop (P + G.length)) = some b →
          inBox b.shape (i.take P ++ (segs.map (·.2)).flatten ++ i.drop (P + G.length)) = true

abbrev ElemStepB (a y : Arr R) (G : List (List Nat)) (P : Nat) : Prop := ElemStepV sgnI a y G P

theorem forward_elem_call_box (a : Arr R) (G : List (List Nat)) (P lb : Nat)
    (hv : a.validB = true) (hf : a.fermi = true) (hc : CallOk G P lb a.ndim) :
    ∃ y, fuseDispatch a G = .ok y ∧ ElemStepB a y G P := by
  obtain ⟨hok, hpos, hperm⟩ := call_plan a G P lb hc
  obtain ⟨y, hy, hel⟩ := fuseF_elem_box a G true hv hf (groupsOk_iff.2 hok)
  rw [hpos, hperm] at hel
  refine ⟨y, by simp only [fuseDispatch, hf, if_true]; exact hy, ?_⟩
  intro ns B hB i hi
  obtain ⟨segs, hsl, hseg, hKl, hJl, hval⟩ := hel ns B hB i hi
  refine ⟨segs, hsl, ?_, hKl, hJl, ?_⟩
  · intro g gaxes hg
    have h2 := hc.two gaxes (List.mem_of_getElem? hg)
    exact hseg g gaxes hg (by omega)
  · have e1 := Reshape4.permuted_range_of_length hKl
    have e2 := Reshape4.permuted_range_of_length hJl
    obtain ⟨h1, h2⟩ := hval _ _ hKl hJl e1 e2
    constructor
    · rw [h1]
      congr 1
      unfold fuseSignF
      rw [hperm, e1, KoszulP.koszul_id', Int.mul_one]
    · intro b hb
      have := h2 b hb
      rw [e2] at this
      have hbl : b.shape.length = a.ndim := ShapeLen.of_valid hv (_, b) (alookup_some_mem hb)
      rw [Reshape4.permuted_range_of_length hbl] at this
      exact this

end SymmModel.ReshapeI
