/-
  SymmModel.Proofs.TdotFused6 — unfusing the product of the fused operands: one `unfuse` step in
  "decode" form, pruned indices (`SizeLe`), one optional stage (`stage`), a rank-1 / rank-2
  product taken through its stages (`stage_rank1`, `stage_rank2`: the cases of `stage_legs`),
  and the product of the pipeline with its optional legs (`stage_legs`; an empty free
  group has no axis, `LegDec` of TdotFused2): values, stored sectors and index tables of the result,
  the record `Unfused`.  Namespace `SymmModel.TdotP`.
-/
import SymmModel.Proofs.TdotFused5
import SymmModel.Proofs.SizeLe

namespace SymmModel
namespace TdotP
variable {R : Type}

/-- `C05.unfuse_elem` in decode form: `V`'s entry at `J` is `B`'s entry at the position `i` of the
    fused axis that `splitAddr` decodes to `(ss, J's segment)` -/
theorem unfuse_step [Zero R] (x : Arr R) (axis : Nat) (ix : Index) (subs : List Index)
    (exts : Extents) (hv : x.validB = true) (hix : x.indices[axis]? = some ix)
    (hsub : ix.sub = some (subs, exts)) :
    ∃ y, unfuseA x axis = .ok y ∧ y.indices = replaceWithSeq x.indices axis subs
      ∧ (∀ ns B, (ns, B) ∈ x.blocks → ∀ e ss st d, alookup exts (ns.getD axis (0, 0)) = some e →
          FuseP.startOf e ss = some (st, d) →
          ∃ V, alookup y.blocks (replaceWithSeq ns axis ss) = some V)
      ∧ (∀ K V, alookup y.blocks K = some V →
          ∃ ns B ss subshape, (ns, B) ∈ x.blocks ∧ K = replaceWithSeq ns axis ss
            ∧ Arr.blockShape? subs ss = some subshape
            ∧ V.shape = replaceWithSeq B.shape axis subshape
            ∧ ∀ J, inBox V.shape J = true →
                ∃ i, FuseP.splitAddr ix (ns.getD axis (0, 0)) i
                      = some (ss, (J.drop axis).take subshape.length)
                  ∧ V.get J = B.get (J.take axis ++ [i] ++ J.drop (axis + subshape.length))) := by
  obtain ⟨y, h1, h2, hA, hB⟩ := C05.unfuse_elem x axis ix subs exts hv hix hsub
  refine ⟨y, h1, h2, ?_, ?_⟩
  · intro ns B hm e ss st d he hst
    obtain ⟨subshape, _, _, e3, _⟩ := hA ns B hm e ss st d he hst
    exact ⟨_, e3⟩
  · intro K V hl
    obtain ⟨ns, B, e, ss, st, d, hm, he, hst, rfl, rfl⟩ := hB K V hl
    obtain ⟨subshape, e1, _, _, e4, e5⟩ := hA ns B hm e ss st d he hst
    refine ⟨ns, B, ss, subshape, hm, rfl, e1, ?_, ?_⟩
    · rw [e1]; exact e4
    · intro J hJ
      rw [e1] at hJ ⊢
      simp only [Option.getD_some] at hJ ⊢
      rw [e4] at hJ
      obtain ⟨hj, hg⟩ := e5 J hJ
      exact ⟨_, FuseP.splitAddr_joinAddr hj, hg⟩

theorem stored_rank1 {x : Arr R} (hs : x.shapesOk) {ix : Index}
    (hidx : x.indices = [dropTo ix (x.sectors.filterMap (fun s => s[0]?))])
    {ns : Sector} {Bx : Blk R} (hm : (ns, Bx) ∈ x.blocks) :
    ∃ c d, ns = [c] ∧ c ∈ x.sectors.filterMap (fun s => s[0]?)
      ∧ ix.sizeOf? c = some d ∧ Bx.shape = [d] := by
  have hsh := hs (ns, Bx) hm
  have hsec : ns ∈ x.sectors := List.mem_map.mpr ⟨_, hm, rfl⟩
  rw [hidx] at hsh
  obtain ⟨c, rfl⟩ := List.length_eq_one_iff.mp (blockShape?_length hsh).1
  have hc : c ∈ x.sectors.filterMap (fun s => s[0]?) := List.mem_filterMap.mpr ⟨_, hsec, rfl⟩
  simp only [Arr.blockShape?_cons, Arr.blockShape?_nil_nil, ValidP.dropTo_sizeOf _ _ hc] at hsh
  cases hz : ix.sizeOf? c with
  | none => simp [hz] at hsh
  | some d =>
    simp only [hz, Option.bind_some, Option.map_some, Option.some.injEq] at hsh
    exact ⟨c, d, rfl, hc, hz, hsh.symm⟩

theorem stored_rank2 {x : Arr R} (hs : x.shapesOk) {ixL ixR : Index}
    (hidx : x.indices = [dropTo ixL (x.sectors.filterMap (fun s => s[0]?)),
      dropTo ixR (x.sectors.filterMap (fun s => s[1]?))])
    {ns : Sector} {Bx : Blk R} (hm : (ns, Bx) ∈ x.blocks) :
    ∃ cL cR dL dR, ns = [cL, cR] ∧ cL ∈ x.sectors.filterMap (fun s => s[0]?)
      ∧ cR ∈ x.sectors.filterMap (fun s => s[1]?)
      ∧ ixL.sizeOf? cL = some dL ∧ ixR.sizeOf? cR = some dR ∧ Bx.shape = [dL, dR] := by
  have hsh := hs (ns, Bx) hm
  have hsec : ns ∈ x.sectors := List.mem_map.mpr ⟨_, hm, rfl⟩
  rw [hidx] at hsh
  obtain ⟨cL, cR, rfl⟩ := List.length_eq_two.mp (blockShape?_length hsh).1
  have hcL : cL ∈ x.sectors.filterMap (fun s => s[0]?) := List.mem_filterMap.mpr ⟨_, hsec, rfl⟩
  have hcR : cR ∈ x.sectors.filterMap (fun s => s[1]?) := List.mem_filterMap.mpr ⟨_, hsec, rfl⟩
  simp only [Arr.blockShape?_cons, Arr.blockShape?_nil_nil, ValidP.dropTo_sizeOf _ _ hcL,
    ValidP.dropTo_sizeOf _ _ hcR] at hsh
  cases hzL : ixL.sizeOf? cL with
  | none => simp [hzL] at hsh
  | some dL =>
    cases hzR : ixR.sizeOf? cR with
    | none => simp [hzL, hzR] at hsh
    | some dR =>
      simp only [hzL, hzR, Option.bind_some, Option.map_some, Option.some.injEq] at hsh
      exact ⟨cL, cR, dL, dR, rfl, hcL, hcR, hzL, hzR, hsh.symm⟩

theorem dropTo_sub (ix : Index) (S : List Charge) {subs : List Index} {exts : Extents}
    (h : ix.sub = some (subs, exts)) :
    (dropTo ix S).sub = some (subs, exts.filter (fun p =>
      !(ix.charges.filter (fun c => !S.contains c)).contains p.1)) := by
  rw [dropTo_eq_dropCharges]
  obtain ⟨c, d, s⟩ := ix
  simp only [Index.sub] at h
  subst h
  rfl

theorem dropTo_splitAddr (ix : Index) (S : List Charge) {c : Charge} (hc : c ∈ S) (i : Nat) :
    FuseP.splitAddr (dropTo ix S) c i = FuseP.splitAddr ix c i := by
  cases hs : ix.sub with
  | none =>
    have : (dropTo ix S).sub = none := by
      rw [dropTo_eq_dropCharges]
      obtain ⟨cm, d, s⟩ := ix
      simp only [Index.sub] at hs
      subst hs; rfl
    simp [FuseP.splitAddr, hs, this]
  | some se =>
    obtain ⟨subs, exts⟩ := se
    simp only [FuseP.splitAddr, dropTo_sub ix S hs, hs]
    rw [alookup_filter_key exts
      (fun k => !(ix.charges.filter (fun c => !S.contains c)).contains k) c]
    have : (!(ix.charges.filter (fun c => !S.contains c)).contains c) = true := by
      simp [hc]
    rw [if_pos this]

/-- decoder of one axis of an array: identity, or `splitAddr` of the axis' index -/
def decIx (m : Bool) (ix : Index) (c : Charge) (i : Nat) : Option (Sector × List Nat) :=
  if m then FuseP.splitAddr ix c i else some ([c], [i])

/-- being a segment of the charge `c`: a sub-sector listed in the extent of `c`, or `[c]` itself -/
def SegOf (m : Bool) (ix : Index) (c : Charge) (seg : Sector) : Prop :=
  if m then ∃ subs exts e st d, ix.sub = some (subs, exts) ∧ alookup exts c = some e
      ∧ FuseP.startOf e seg = some (st, d)
  else seg = [c]

/-- one stage (`if m then unfuse(axis p) else keep`), for a valid abelian array whose index at `p`
    is fused when `m` holds, in the form of `unfuse_step`; the decoded position lies in `Bx`'s box -/
theorem stage [Zero R] (x : Arr R) (p : Nat) (m : Bool) (ix : Index) (hv : x.validB = true)
    (hf : x.fermi = false) (hix : x.indices[p]? = some ix) (hm : m = true → ix.sub.isSome = true) :
    ∃ y, (if m then unfuseA x p else pure x) = .ok y ∧ y.validB = true ∧ y.fermi = false
      ∧ y.sym = x.sym ∧ y.charge = x.charge ∧ y.phases = x.phases ∧ y.oddpos = x.oddpos
      ∧ y.indices = x.indices.take p ++
          (if m then (ix.sub.map (·.1)).getD [] else [ix]) ++ x.indices.drop (p + 1)
      ∧ (∀ K V, alookup y.blocks K = some V →
          ∃ ns Bx seg n, (ns, Bx) ∈ x.blocks ∧ K = ns.take p ++ seg ++ ns.drop (p + 1)
            ∧ seg.length = n
            ∧ V.shape.length = Bx.shape.length - 1 + n
            ∧ ∀ J, inBox V.shape J = true →
                ∃ i, decIx m ix (ns.getD p (0, 0)) i = some (seg, (J.drop p).take n)
                  ∧ V.get J = Bx.get (J.take p ++ [i] ++ J.drop (p + n))
                  ∧ inBox Bx.shape (J.take p ++ [i] ++ J.drop (p + n)) = true)
      ∧ (∀ ns Bx, (ns, Bx) ∈ x.blocks → ∀ seg, SegOf m ix (ns.getD p (0, 0)) seg →
          (ns.take p ++ seg ++ ns.drop (p + 1)) ∈ y.sectors) := by
  have hva := FuseP.validArr_of_validB hv
  have hpl : p < x.indices.length := FuseP.getElem?_lt hix
  cases m with
  | false =>
    refine ⟨x, rfl, hv, hf, rfl, rfl, rfl, rfl, ?_, ?_, ?_⟩
    · simp only [Bool.false_eq_true, if_false]
      have : x.indices = x.indices.take p ++ [ix] ++ x.indices.drop (p + 1) := by
        conv_lhs => rw [← List.take_append_drop p x.indices]
        rw [List.append_assoc]
        congr 1
        rw [List.drop_eq_getElem_cons hpl]
        have := List.getElem?_eq_getElem hpl
        rw [hix] at this
        simp [Option.some.inj this]
      exact this
    · intro K V hl
      have hm' : (K, V) ∈ x.blocks := alookup_some_mem hl
      have hKl : K.length = x.indices.length := (hva.blk _ hm').1
      have hVl : V.shape.length = x.indices.length := by
        have := FuseP.blockShape?_length (hva.blk _ hm').2.1
        simp only at this hKl
        omega
      have hpK : p < K.length := by omega
      refine ⟨K, V, [K.getD p (0, 0)], 1, hm', ?_, rfl, by omega, ?_⟩
      · conv_lhs => rw [← List.take_append_drop p K]
        rw [List.append_assoc]
        congr 1
        rw [List.drop_eq_getElem_cons hpK]
        simp [List.getD_eq_getElem?_getD, List.getElem?_eq_getElem hpK]
      · intro J hJ
        have hJl : J.length = V.shape.length := inBox_length hJ
        have hpJ : p < J.length := by omega
        have hsplit : J.take p ++ [J.getD p 0] ++ J.drop (p + 1) = J := by
          conv_rhs => rw [← List.take_append_drop p J]
          rw [List.append_assoc]
          congr 1
          rw [List.drop_eq_getElem_cons hpJ]
          simp [List.getD_eq_getElem?_getD, List.getElem?_eq_getElem hpJ]
        refine ⟨J.getD p 0, ?_, by rw [hsplit], by rw [hsplit]; exact hJ⟩
        simp only [decIx, Bool.false_eq_true, if_false, Option.some.injEq, Prod.mk.injEq, true_and]
        rw [List.drop_eq_getElem_cons hpJ, List.take_succ_cons, List.take_zero]
        simp [List.getD_eq_getElem?_getD, List.getElem?_eq_getElem hpJ]
    · intro ns Bx hm' seg hseg
      simp only [SegOf, Bool.false_eq_true, if_false] at hseg
      subst hseg
      have hKl : ns.length = x.indices.length := (hva.blk _ hm').1
      have hpK : p < ns.length := by omega
      have : ns.take p ++ [ns.getD p (0, 0)] ++ ns.drop (p + 1) = ns := by
        conv_rhs => rw [← List.take_append_drop p ns]
        rw [List.append_assoc]
        congr 1
        rw [List.drop_eq_getElem_cons hpK]
        simp [List.getD_eq_getElem?_getD, List.getElem?_eq_getElem hpK]
      rw [this]
      exact List.mem_map.mpr ⟨_, hm', rfl⟩
  | true =>
    obtain ⟨se, hse⟩ := Option.isSome_iff_exists.mp (hm rfl)
    obtain ⟨subs, exts⟩ := se
    obtain ⟨y, h1, h2, hF, hBk⟩ := unfuse_step x p ix subs exts hv hix hse
    obtain ⟨e1, e2, e3, e4, e5⟩ := ValidP.unfuseA_fields h1
    refine ⟨y, by simpa using h1, ValidP.unfuseA_validB x y p hv hf h1, by rw [e2]; exact hf, e1, e3,
      e4, e5, ?_, ?_, ?_⟩
    · rw [h2, hse]; rfl
    · intro K V hl
      obtain ⟨ns, B, ss, subshape, hmem, hK, hshp, hVs, hget⟩ := hBk K V hl
      obtain ⟨hpn, hnl, hBl, e, he, hok⟩ := FuseP.block_at_axis hva hix hse hmem
      simp only at hpn hnl hBl he hok
      have hssl : ss.length = subshape.length := by
        have := FuseP.blockShape?_length hshp; omega
      refine ⟨ns, B, ss, subshape.length, hmem, hK, hssl, ?_, ?_⟩
      · rw [hVs, FuseP.replaceWithSeq_split]
        simp only [List.length_append, List.length_take, List.length_drop]
        omega
      · intro J hJ
        obtain ⟨i, hsp, hg⟩ := hget J hJ
        refine ⟨i, by simpa [decIx] using hsp, hg, ?_⟩
        -- the joined position lies in the box of `B`
        have hi : i < B.shape.getD p 0 := by
          simp only [FuseP.splitAddr, hse, he] at hsp
          cases hso : FuseP.splitOffset e i with
          | none => simp [hso] at hsp
          | some q =>
            obtain ⟨ss', r⟩ := q
            obtain ⟨st, d, hst, hr, hio⟩ := FuseP.splitOffset_startOf hok.nodup hso
            have := FuseP.startOf_bound hst
            rw [hok.total] at this
            omega
        rw [hVs, FuseP.replaceWithSeq_split] at hJ
        have hJl := inBox_length hJ
        simp only [List.length_append, List.length_take, List.length_drop] at hJl
        have hpB : p < B.shape.length := by omega
        have hJsplit : J = J.take p ++ (J.drop p).take subshape.length ++ J.drop (p + subshape.length) := by
          rw [List.append_assoc, ← List.drop_drop, List.take_append_drop, List.take_append_drop]
        have htl : (J.take p).length = (B.shape.take p).length := by
          simp only [List.length_take]; omega
        have hsl : ((J.drop p).take subshape.length).length = subshape.length := by
          simp only [List.length_take, List.length_drop]; omega
        rw [hJsplit, inBox_append (by rw [List.length_append, htl, hsl, List.length_append]),
          inBox_append htl] at hJ
        simp only [Bool.and_eq_true] at hJ
        obtain ⟨⟨hJ1, _⟩, hJ3⟩ := hJ
        have hBsplit : B.shape = B.shape.take p ++ [B.shape.getD p 0] ++ B.shape.drop (p + 1) := by
          conv_lhs => rw [← List.take_append_drop p B.shape]
          rw [List.append_assoc]
          congr 1
          rw [List.drop_eq_getElem_cons hpB]
          simp [List.getD_eq_getElem?_getD, List.getElem?_eq_getElem hpB]
        rw [hBsplit, inBox_append (by simp [htl]), inBox_append htl, hJ1, hJ3]
        have hi' := hi
        rw [List.getD_eq_getElem?_getD] at hi'
        simp [inBox, hi']
    · intro ns Bx hmem seg hseg
      simp only [SegOf, if_true] at hseg
      obtain ⟨subs', exts', e, st, d, hs', he, hst⟩ := hseg
      rw [hse] at hs'
      simp only [Option.some.injEq, Prod.mk.injEq] at hs'
      obtain ⟨rfl, rfl⟩ := hs'
      obtain ⟨V, hV⟩ := hF ns Bx hmem e seg st d he hst
      rw [FuseP.replaceWithSeq_split] at hV
      exact List.mem_map.mpr ⟨_, alookup_some_mem hV, rfl⟩

theorem multiB_eq {G : List (List Nat)} {g : Nat} {gaxes : List Nat} (hg : G[g]? = some gaxes) :
    FuseP.multiB G g = (gaxes.length != 1) := by simp [FuseP.multiB, hg]

theorem decIx_dropTo {A : Arr R} {G : List (List Nat)} {g : Nat} {gaxes : List Nat}
    (hg : G[g]? = some gaxes) (S : List Charge) {c : Charge} (hc : c ∈ S) (i : Nat) :
    decIx (gaxes.length != 1) (dropTo (FuseP.ixM A G g) S) c i = decAx A G g c i := by
  unfold decIx decAx
  rw [multiB_eq hg]
  cases (gaxes.length != 1)
  · rfl
  · simp only [if_true]; exact dropTo_splitAddr _ _ hc i

theorem segOf_stored {A : Arr R} {G : List (List Nat)} (hv : FuseP.ValidArr A)
    (hok : FuseP.GroupsOk G A.ndim) {g : Nat} {gaxes : List Nat} (hg : G[g]? = some gaxes)
    {sb : Sector × Blk R} (hsb : sb ∈ A.blocks) (S : List Charge)
    (hc : FuseP.cM (a := A) (groups := G) sb g ∈ S) :
    SegOf (gaxes.length != 1) (dropTo (FuseP.ixM A G g) S) (FuseP.cM (a := A) (groups := G) sb g)
      (permuted sb.1 gaxes) := by
  unfold SegOf
  by_cases hlen : gaxes.length = 1
  · have : (gaxes.length != 1) = false := by simp [hlen]
    rw [this]
    simp only [Bool.false_eq_true, if_false]
    exact (single_group_charge hv hok hg hlen hsb).symm
  · have : (gaxes.length != 1) = true := by simpa using hlen
    rw [this]
    simp only [if_true]
    have hlt : ∀ x ∈ gaxes, x < A.indices.length := FuseP.groupM_lt hok.adm hg
    have hsl : sb.1.length = A.indices.length := (hv.blk sb hsb).1
    have hss : FuseP.ssM (a := A) (groups := G) sb g = permuted sb.1 gaxes := by
      rw [FuseP.ssM_eq hg, permuted_eq_map _ _ (by rw [hsl]; exact hlt) (0, 0)]
    obtain ⟨e, D, st, h1, h2, _, _⟩ := FuseP.stored_in_tableM hv hok.adm hg hlen hsb
    refine ⟨_, _, e, st, _, dropTo_sub _ S (FuseP.ixM_sub hok.adm hg hlen), ?_, by rw [← hss]; exact h2⟩
    rw [alookup_filter_key (FuseP.extsM A G g)
      (fun k => !((FuseP.ixM A G g).charges.filter (fun c => !S.contains c)).contains k)]
    have : (!((FuseP.ixM A G g).charges.filter (fun c => !S.contains c)).contains
        (FuseP.cM (a := A) (groups := G) sb g)) = true := by simp [hc]
    rw [if_pos this]; exact h1

theorem dropTo_sizeLe (ix : Index) (S : List Charge) : SizeLe (dropTo ix S) ix := by
  refine ⟨dropTo_dual ix S, ?_⟩
  intro c d h
  simp only [Index.sizeOf?, dropTo_cm] at h ⊢
  rw [alookup_filter_key ix.cm (fun k => S.contains k) c] at h
  split at h
  · exact h
  · cases h

theorem forall₂_refl {α : Type} {r : α → α → Prop} (hr : ∀ x, r x x) (l : List α) :
    List.Forall₂ r l l := by
  induction l with
  | nil => exact .nil
  | cons x xs ih => exact .cons (hr x) ih

theorem forall₂_append {α β : Type} {r : α → β → Prop} {l1 l2 : List α} {m1 m2 : List β}
    (h1 : List.Forall₂ r l1 m1) (h2 : List.Forall₂ r l2 m2) : List.Forall₂ r (l1 ++ l2) (m1 ++ m2) := by
  induction h1 with
  | nil => exact h2
  | cons hx _ ih => exact .cons hx ih

theorem leg_sizeLe {A : Arr R} {G : List (List Nat)} {g : Nat} {gaxes : List Nat}
    (hok : FuseP.GroupsOk G A.ndim) (hg : G[g]? = some gaxes) (S : List Charge) :
    List.Forall₂ SizeLe
      (if (gaxes.length != 1) = true then
          ((dropTo (FuseP.ixM A G g) S).sub.map (·.1)).getD []
        else [dropTo (FuseP.ixM A G g) S])
      (permuted A.indices gaxes) := by
  have hlt : ∀ x ∈ gaxes, x < A.indices.length := FuseP.groupM_lt hok.adm hg
  by_cases hm : (gaxes.length != 1) = true
  · rw [if_pos hm, dropTo_sub _ _ (FuseP.ixM_sub hok.adm hg (by simpa using hm))]
    simp only [Option.map_some, Option.getD_some]
    rw [permuted_eq_map _ _ hlt default]
    exact forall₂_refl SizeLe.refl _
  · rw [if_neg hm]
    have hl : gaxes.length = 1 := by simpa using hm
    rw [FuseP.ixM_single hok.adm hg hl, permuted_eq_map _ _ hlt default]
    match gaxes, hl with
    | [x], _ => exact .cons (dropTo_sizeLe _ _) .nil

theorem stage_rank1 [Zero R] [Neg R] {A : Arr R} {G : List (List Nat)} {g : Nat} {gaxes : List Nat}
    (hvA : FuseP.ValidArr A) (hok : FuseP.GroupsOk G A.ndim) (hg : G[g]? = some gaxes)
    (X T : Arr R) (hvX : X.validB = true) (hfX : X.fermi = false) (hpX : X.phases = [])
    (hidx : X.indices = [dropTo (FuseP.ixM A G g) (X.sectors.filterMap (fun s => s[0]?))])
    (hcore : ∀ {c : Charge} {i d : Nat} {S : Sector} {O : List Nat},
      decAx A G g c i = some (S, O) → (FuseP.ixM A G g).sizeOf? c = some d → i < d →
      X.elem [c] [i] = T.elem S O) :
    ∃ c, (if (gaxes.length != 1) = true then unfuseA X 0 else pure X) = .ok c
      ∧ c.validB = true ∧ c.fermi = false
      ∧ c.sym = X.sym ∧ c.charge = X.charge ∧ c.phases = X.phases ∧ c.oddpos = X.oddpos
      ∧ List.Forall₂ SizeLe c.indices (permuted A.indices gaxes)
      ∧ (∀ K V, alookup c.blocks K = some V → ∀ J, inBox V.shape J = true → V.get J = T.elem K J)
      ∧ (∀ sb ∈ A.blocks, [FuseP.cM (a := A) (groups := G) sb g] ∈ X.sectors →
          permuted sb.1 gaxes ∈ c.sectors) := by
  have hdX : allDistinct X.sectors = true := Arr.allDistinct_of_validB hvX
  have hblock : ∀ {ns : Sector} {Bx : Blk R}, (ns, Bx) ∈ X.blocks →
      ∃ c d, ns = [c] ∧ c ∈ X.sectors.filterMap (fun s => s[0]?)
        ∧ (FuseP.ixM A G g).sizeOf? c = some d ∧ Bx.shape = [d] :=
    fun hm => stored_rank1 (Arr.shapesOk_of_validB hvX) hidx hm
  generalize hS0 : X.sectors.filterMap (fun s => s[0]?) = S0 at hidx hblock
  have hix0 : X.indices[0]? = some (dropTo (FuseP.ixM A G g) S0) := by
    rw [hidx]; rfl
  have hm0 : (gaxes.length != 1) = true → (dropTo (FuseP.ixM A G g) S0).sub.isSome = true := by
    intro hm
    rw [dropTo_sub _ _ (FuseP.ixM_sub hok.adm hg (by simpa using hm))]; rfl
  obtain ⟨c, hc_ok, hcv, hcf, hc1, hc2, hc3, hc4, hcidx, hback, hfwd⟩ :=
    stage X 0 (gaxes.length != 1) _ hvX hfX hix0 hm0
  have hci : c.indices =
      (if (gaxes.length != 1) = true then ((dropTo (FuseP.ixM A G g) S0).sub.map (·.1)).getD []
        else [dropTo (FuseP.ixM A G g) S0]) := by
    rw [hcidx, hidx]
    simp only [List.take_zero, List.drop_succ_cons, List.drop_zero, List.nil_append, List.append_nil]
  refine ⟨c, hc_ok, hcv, hcf, hc1, hc2, hc3, hc4, by rw [hci]; exact leg_sizeLe hok hg S0, ?_, ?_⟩
  · intro K V hl J hJ
    obtain ⟨ns, Bx, seg, n, hmem, hK, hseg, _, hget⟩ := hback K V hl
    obtain ⟨c0, d, rfl, hc0, hz, hBxs⟩ := hblock hmem
    simp only [List.take_zero, List.nil_append, List.drop_succ_cons, List.append_nil,
      List.drop_nil] at hK
    subst hK
    obtain ⟨i, hdec, hgt, hbox⟩ := hget J hJ
    simp only [List.take_zero, List.nil_append, Nat.zero_add, List.drop_zero, List.getD_cons_zero,
      List.singleton_append] at hdec hgt hbox
    -- the block of `X` is a vector, so `J` is one segment
    rw [hBxs] at hbox
    have hlen := inBox_length hbox
    simp only [List.length_cons, List.length_nil] at hlen
    have hrest : J.drop n = [] := by
      apply List.eq_nil_of_length_eq_zero; omega
    rw [hrest] at hbox hgt
    simp only [inBox, Bool.and_eq_true, decide_eq_true_eq, and_true] at hbox
    have hJ' : J.take n = J := by
      have := List.take_append_drop n J
      rw [hrest, List.append_nil] at this; exact this
    rw [hJ', decIx_dropTo hg S0 hc0] at hdec
    rw [hgt, ← hcore hdec hz hbox]
    exact (Arr.elem_of_mem_plain hdX hpX hmem [i]).symm
  · intro sb hsb hsec
    obtain ⟨⟨ns, Bx⟩, hmem, hnse⟩ := List.mem_map.mp hsec
    simp only at hnse
    subst hnse
    have hc0 : FuseP.cM (a := A) (groups := G) sb g ∈ S0 := by
      rw [← hS0]; exact List.mem_filterMap.mpr ⟨_, hsec, rfl⟩
    have h2 := hfwd _ Bx hmem (permuted sb.1 gaxes) (by simpa using segOf_stored hvA hok hg hsb S0 hc0)
    simpa using h2

/-- `stage_rank1` for a rank-2 array `X` over the pruned fused indices `ixM A GA gA`, `ixM B GB gB`:
    right axis first, then left axis (`unfuseLegs` with the right leg on axis 1) -/
theorem stage_rank2 [Zero R] [Neg R] {A B : Arr R} {GA GB : List (List Nat)} {gA gB : Nat}
    {axA axB : List Nat}
    (hvA : FuseP.ValidArr A) (hokA : FuseP.GroupsOk GA A.ndim) (hgA : GA[gA]? = some axA)
    (hvB : FuseP.ValidArr B) (hokB : FuseP.GroupsOk GB B.ndim) (hgB : GB[gB]? = some axB)
    (X T : Arr R) (hvX : X.validB = true) (hfX : X.fermi = false) (hpX : X.phases = [])
    (hidx : X.indices = [dropTo (FuseP.ixM A GA gA) (X.sectors.filterMap (fun s => s[0]?)),
      dropTo (FuseP.ixM B GB gB) (X.sectors.filterMap (fun s => s[1]?))])
    (hcore : ∀ {cL cR : Charge} {iL iR dL dR : Nat} {Ls Rs : Sector} {oL oR : List Nat},
      decAx A GA gA cL iL = some (Ls, oL) → decAx B GB gB cR iR = some (Rs, oR) →
      (FuseP.ixM A GA gA).sizeOf? cL = some dL → iL < dL →
      (FuseP.ixM B GB gB).sizeOf? cR = some dR → iR < dR →
      X.elem [cL, cR] [iL, iR] = T.elem (Ls ++ Rs) (oL ++ oR)) :
    ∃ c, unfuseLegs X (axA.length != 1) (axB.length != 1) 1 = .ok c
      ∧ c.validB = true ∧ c.fermi = false
      ∧ c.sym = X.sym ∧ c.charge = X.charge ∧ c.phases = X.phases ∧ c.oddpos = X.oddpos
      ∧ List.Forall₂ SizeLe c.indices (permuted A.indices axA ++ permuted B.indices axB)
      ∧ (∀ K V, alookup c.blocks K = some V → ∀ J, inBox V.shape J = true → V.get J = T.elem K J)
      ∧ (∀ sa ∈ A.blocks, ∀ sb ∈ B.blocks,
          [FuseP.cM (a := A) (groups := GA) sa gA, FuseP.cM (a := B) (groups := GB) sb gB] ∈ X.sectors →
          permuted sa.1 axA ++ permuted sb.1 axB ∈ c.sectors) := by
  have hdX : allDistinct X.sectors = true := Arr.allDistinct_of_validB hvX
  have hblock : ∀ {ns : Sector} {Bx : Blk R}, (ns, Bx) ∈ X.blocks →
      ∃ cL cR dL dR, ns = [cL, cR] ∧ cL ∈ X.sectors.filterMap (fun s => s[0]?)
        ∧ cR ∈ X.sectors.filterMap (fun s => s[1]?)
        ∧ (FuseP.ixM A GA gA).sizeOf? cL = some dL ∧ (FuseP.ixM B GB gB).sizeOf? cR = some dR
        ∧ Bx.shape = [dL, dR] :=
    fun hm => stored_rank2 (Arr.shapesOk_of_validB hvX) hidx hm
  generalize hS0 : X.sectors.filterMap (fun s => s[0]?) = S0 at hidx hblock
  generalize hS1 : X.sectors.filterMap (fun s => s[1]?) = S1 at hidx hblock
  have hix1 : X.indices[1]? = some (dropTo (FuseP.ixM B GB gB) S1) := by
    rw [hidx]; rfl
  have hm1 : (axB.length != 1) = true → (dropTo (FuseP.ixM B GB gB) S1).sub.isSome = true := by
    intro hm
    rw [dropTo_sub _ _ (FuseP.ixM_sub hokB.adm hgB (by simpa using hm))]; rfl
  obtain ⟨y, hy_ok, hyv, hyf, hy1, hy2, hy3, hy4, hyidx, hback1, hfwd1⟩ :=
    stage X 1 (axB.length != 1) _ hvX hfX hix1 hm1
  have hix0 : y.indices[0]? = some (dropTo (FuseP.ixM A GA gA) S0) := by
    rw [hyidx, hidx]
    simp only [List.take_succ_cons, List.take_zero, List.cons_append, List.nil_append,
      List.getElem?_cons_zero]
  have hm0 : (axA.length != 1) = true → (dropTo (FuseP.ixM A GA gA) S0).sub.isSome = true := by
    intro hm
    rw [dropTo_sub _ _ (FuseP.ixM_sub hokA.adm hgA (by simpa using hm))]; rfl
  obtain ⟨c, hc_ok, hcv, hcf, hc1, hc2, hc3, hc4, hcidx, hback2, hfwd2⟩ :=
    stage y 0 (axA.length != 1) _ hyv hyf hix0 hm0
  have hdy : allDistinct y.sectors = true := Arr.allDistinct_of_validB hyv
  have hci : c.indices =
      (if (axA.length != 1) = true then ((dropTo (FuseP.ixM A GA gA) S0).sub.map (·.1)).getD []
        else [dropTo (FuseP.ixM A GA gA) S0]) ++
      (if (axB.length != 1) = true then ((dropTo (FuseP.ixM B GB gB) S1).sub.map (·.1)).getD []
        else [dropTo (FuseP.ixM B GB gB) S1]) := by
    rw [hcidx, hyidx, hidx]
    simp only [List.take_succ_cons, List.take_zero, List.drop_succ_cons, List.drop_zero, List.drop_nil,
      List.nil_append, List.append_nil, List.cons_append]
  refine ⟨c, ?_, hcv, hcf, hc1.trans hy1, hc2.trans hy2, hc3.trans hy3, hc4.trans hy4, ?_, ?_, ?_⟩
  · rw [unfuseLegs_eq, hy_ok]
    exact hc_ok
  · rw [hci]
    exact forall₂_append (leg_sizeLe hokA hgA S0) (leg_sizeLe hokB hgB S1)
  · intro K2 V2 hl2 J2 hJ2
    obtain ⟨ns', By, segL, nL, hmem', hK2, hsegL, _, hget2⟩ := hback2 K2 V2 hl2
    have hly : alookup y.blocks ns' = some By := alookup_of_mem hdy hmem'
    obtain ⟨ns, Bx, segR, nR, hmem, hns', hsegR, _, hget1⟩ := hback1 ns' By hly
    obtain ⟨cL, cR, dL, dR, rfl, hcL, hcR, hzL, hzR, hBxs⟩ := hblock hmem
    simp only [List.take_succ_cons, List.take_zero, List.drop_succ_cons, List.drop_nil,
      List.append_nil, List.singleton_append] at hns'
    subst hns'
    simp only [List.take_zero, List.nil_append, List.drop_succ_cons, List.drop_zero] at hK2
    subst hK2
    obtain ⟨iL, hdecL, hg2, hbox2⟩ := hget2 J2 hJ2
    simp only [List.take_zero, List.nil_append, Nat.zero_add, List.drop_zero, List.getD_cons_zero,
      List.singleton_append] at hdecL hg2 hbox2
    obtain ⟨iR, hdecR, hg1, hbox1⟩ := hget1 _ hbox2
    simp only [List.take_succ_cons, List.take_zero, List.drop_succ_cons, List.drop_zero,
      List.getD_cons_succ, List.getD_cons_zero, List.cons_append,
      List.nil_append] at hdecR hg1 hbox1
    -- the block of `X` is a matrix, so nothing is left of `J2` after the two segments
    have edrop : List.drop (1 + nR) (iL :: List.drop nL J2) = (J2.drop nL).drop nR := by
      rw [Nat.add_comm, List.drop_succ_cons]
    rw [edrop] at hbox1 hg1
    rw [hBxs] at hbox1
    have hl := inBox_length hbox1
    simp only [List.length_cons, List.length_nil] at hl
    have hrest : (J2.drop nL).drop nR = [] := by
      apply List.eq_nil_of_length_eq_zero; omega
    rw [hrest] at hbox1 hg1
    simp only [inBox, Bool.and_eq_true, decide_eq_true_eq, and_true] at hbox1
    have hoR : (J2.drop nL).take nR = J2.drop nL := by
      have := List.take_append_drop nR (J2.drop nL)
      rw [hrest, List.append_nil] at this; exact this
    rw [hoR] at hdecR
    rw [decIx_dropTo hgA S0 hcL] at hdecL
    rw [decIx_dropTo hgB S1 hcR] at hdecR
    have hcr := hcore hdecL hdecR hzL hbox1.1 hzR hbox1.2
    rw [List.take_append_drop] at hcr
    rw [hg2, hg1, ← hcr]
    exact (Arr.elem_of_mem_plain hdX hpX hmem [iL, iR]).symm
  · intro sa hsa sb hsb hsec
    obtain ⟨⟨ns, Bx⟩, hmem, hnse⟩ := List.mem_map.mp hsec
    simp only at hnse
    subst hnse
    have hcL : FuseP.cM (a := A) (groups := GA) sa gA ∈ S0 := by
      rw [← hS0]; exact List.mem_filterMap.mpr ⟨_, hsec, rfl⟩
    have hcR : FuseP.cM (a := B) (groups := GB) sb gB ∈ S1 := by
      rw [← hS1]; exact List.mem_filterMap.mpr ⟨_, hsec, rfl⟩
    have h1 := hfwd1 _ Bx hmem (permuted sb.1 axB)
      (by simpa using segOf_stored hvB hokB hgB hsb S1 hcR)
    simp only [List.take_succ_cons, List.take_zero, List.drop_succ_cons, List.drop_nil,
      List.append_nil, List.singleton_append] at h1
    obtain ⟨⟨ns', By⟩, hmem', hns'⟩ := List.mem_map.mp h1
    simp only at hns'
    subst hns'
    have h2 := hfwd2 _ By hmem' (permuted sa.1 axA)
      (by simpa using segOf_stored hvA hokA hgA hsa S0 hcL)
    simpa using h2

theorem forall₂_trans {α : Type} {r : α → α → Prop} (ht : ∀ x y z, r x y → r y z → r x z) :
    ∀ {l1 l2 l3 : List α}, List.Forall₂ r l1 l2 → List.Forall₂ r l2 l3 → List.Forall₂ r l1 l3
  | _, _, _, .nil, .nil => .nil
  | _, _, _, .cons h1 t1, .cons h2 t2 => .cons (ht _ _ _ h1 h2) (forall₂_trans ht t1 t2)

theorem blockShape?_weaken {idx idx' : List Index} (h : List.Forall₂ SizeLe idx idx') :
    ∀ (s : Sector) (shp : List Nat), Arr.blockShape? idx s = some shp →
      Arr.blockShape? idx' s = some shp := by
  induction h with
  | nil => intro s shp hs; exact hs
  | @cons ix ix' idx idx' hx _ ih =>
    intro s shp hs
    cases s with
    | nil =>
      have := (blockShape?_length hs).1
      simp at this
    | cons c s =>
      rw [Arr.blockShape?_cons] at hs ⊢
      cases hz : ix.sizeOf? c with
      | none => rw [hz] at hs; cases hs
      | some d =>
        rw [hz] at hs
        rw [hx.2 c d hz]
        simp only [Option.bind_some] at hs ⊢
        cases hr : Arr.blockShape? idx s with
        | none => rw [hr] at hs; cases hs
        | some t =>
          rw [hr] at hs
          rw [ih s t hr]
          exact hs

theorem permuted_dropUnused_sizeLe (idx : List Index) (S : List Sector) (p : List Nat)
    (hp : ∀ x ∈ p, x < idx.length) :
    List.Forall₂ SizeLe (permuted (dropUnused idx S) p) (permuted idx p) := by
  rw [permuted_eq_map _ _ (by rw [dropUnused_length]; exact hp) default, permuted_eq_map _ _ hp default]
  induction p with
  | nil => exact .nil
  | cons x xs ih =>
    refine .cons ?_ (ih (fun y hy => hp y (List.mem_cons_of_mem _ hy)))
    show SizeLe ((dropUnused idx S).getD x default) (idx.getD x default)
    rw [dropUnused_getD _ _ (hp x List.mem_cons_self)]
    exact dropTo_sizeLe _ _

theorem ownBox_of_table {c : Arr R} {idx : List Index}
    (hshape : ∀ K V, alookup c.blocks K = some V → Arr.blockShape? idx K = some V.shape)
    (s : Sector) (o : List Nat) (ho : inBox (Arr.blockShapeD idx s) o = true) :
    ∀ V, alookup c.blocks s = some V → inBox V.shape o = true := by
  intro V hl
  have := hshape s V hl
  unfold Arr.blockShapeD at ho
  rw [this] at ho
  exact ho

/-- agreement at EVERY sector key; no condition on `o` when `rm` does not store `s`: both elements
    are `0` -/
theorem elem_everywhere [Zero R] [Neg R] {rm rb : Arr R}
    (hsec : ∀ s ∈ rb.sectors, s ∈ rm.sectors)
    (hel : ∀ K V, alookup rm.blocks K = some V → ∀ J, inBox V.shape J = true → rm.elem K J = rb.elem K J)
    (s : Sector) (o : List Nat) (hbox : ∀ V, alookup rm.blocks s = some V → inBox V.shape o = true) :
    rm.elem s o = rb.elem s o := by
  cases hl : alookup rm.blocks s with
  | some V => exact hel s V hl o (hbox V hl)
  | none =>
    have hns : s ∉ rm.sectors := alookup_eq_none_iff.mp hl
    rw [Arr.elem_of_not_mem hns, Arr.elem_of_not_mem (fun h => hns (hsec s h))]

/-- what the unfuse stages make of the product `X` of the two fused operands: a valid abelian `c`
    with the fields of `X`, tables that are prunings of the operands' free tables, the target `T`'s
    element on every stored entry, and a stored sector for every pair of stored blocks whose fused
    key `X` stores -/
structure Unfused [Zero R] [Neg R] (A B : Arr R) (GA GB : List (List Nat)) (pL pR : Nat) (L Rr : List Nat)
    (X T c : Arr R) : Prop where
  valid : c.validB = true
  fermi : c.fermi = false
  sym : c.sym = X.sym
  charge : c.charge = X.charge
  phases : c.phases = X.phases
  oddpos : c.oddpos = X.oddpos
  frame : List.Forall₂ SizeLe c.indices (permuted A.indices L ++ permuted B.indices Rr)
  val : ∀ K V, alookup c.blocks K = some V → ∀ J, inBox V.shape J = true → V.get J = T.elem K J
  sec : ∀ sa ∈ A.blocks, ∀ sb ∈ B.blocks,
    legKey A GA L pL sa ++ legKey B GB Rr pR sb ∈ X.sectors →
    permuted sa.1 L ++ permuted sb.1 Rr ∈ c.sectors

/-- `stage_rank1`, `stage_rank2` and the rank-0 case under one statement (the four cases of the
    model's two `if`s on the free groups) -/
theorem stage_legs [Zero R] [Neg R] {A B : Arr R} {GA GB : List (List Nat)} {pL pR : Nat} {L Rr : List Nat}
    (hvA : FuseP.ValidArr A) (hokA : L ≠ [] → FuseP.GroupsOk GA A.ndim) (hgA : L ≠ [] → GA[pL]? = some L)
    (hvB : FuseP.ValidArr B) (hokB : Rr ≠ [] → FuseP.GroupsOk GB B.ndim) (hgB : Rr ≠ [] → GB[pR]? = some Rr)
    (X T : Arr R) (hvX : X.validB = true) (hfX : X.fermi = false) (hpX : X.phases = [])
    (hidx : X.indices = legIdx A GA L pL X 0 ++ legIdx B GB Rr pR X (if L = [] then 0 else 1))
    (hcore : ∀ {cL cR : Sector} {iL iR : List Nat} {Ls Rs : Sector} {oL oR : List Nat},
      LegDec A GA L pL cL iL Ls oL → LegDec B GB Rr pR cR iR Rs oR →
      X.elem (cL ++ cR) (iL ++ iR) = T.elem (Ls ++ Rs) (oL ++ oR)) :
    ∃ c, unfuseLegs X (!L.isEmpty && L.length != 1) (!Rr.isEmpty && Rr.length != 1)
          (if L.isEmpty then 0 else 1) = .ok c
      ∧ Unfused A B GA GB pL pR L Rr X T c := by
  have hdX : allDistinct X.sectors = true := Arr.allDistinct_of_validB hvX
  by_cases hL : L = []
  · by_cases hR : Rr = []
    · -- rank 0: nothing to unfuse
      subst hL hR
      have hi0 : X.indices = [] := by simpa [legIdx] using hidx
      refine ⟨X, by simp [unfuseLegs, pure, Except.pure, bind, Except.bind], hvX, hfX, rfl, rfl, rfl, rfl,
        by rw [hi0]; exact .nil, ?_, ?_⟩
      · intro K V hl J hJ
        have hmem : (K, V) ∈ X.blocks := alookup_some_mem hl
        have hsh := Arr.shapesOk_of_validB hvX (K, V) hmem
        rw [hi0] at hsh
        obtain ⟨hKl, hVl⟩ := blockShape?_length hsh
        obtain rfl : K = [] := List.eq_nil_of_length_eq_zero (by simpa using hKl)
        obtain rfl : J = [] := List.eq_nil_of_length_eq_zero (by rw [inBox_length hJ]; simpa using hVl)
        have := hcore (cL := []) (cR := []) (iL := []) (iR := []) (Ls := []) (Rs := []) (oL := []) (oR := [])
          (LegDec.nil rfl) (LegDec.nil rfl)
        simp only [List.append_nil] at this
        rw [← this]
        exact (Arr.elem_of_mem_plain hdX hpX hmem []).symm
      · intro sa _ sb _ h
        simpa [legKey, permuted] using h
    · -- only the right leg
      subst hL
      have hg := hgB hR
      have hi1 : X.indices = [dropTo (FuseP.ixM B GB pR) (X.sectors.filterMap (fun s => s[0]?))] := by
        simpa [legIdx, hR] using hidx
      obtain ⟨c, hc_ok, hcv, hcf, h1, h2, h3, h4, hleg, hval, hsec⟩ :=
        stage_rank1 hvB (hokB hR) hg X T hvX hfX hpX hi1 (fun {c i d S O} hd hz hi => by
          have := hcore (cL := []) (iL := []) (Ls := []) (oL := []) (cR := [c]) (iR := [i]) (Rs := S) (oR := O)
            (LegDec.nil rfl) (LegDec.one hR hd hz hi)
          simpa using this)
      refine ⟨c, ?_, hcv, hcf, h1, h2, h3, h4, by simpa [permuted] using hleg, hval, ?_⟩
      · rw [unfuseLegs_eq]
        simpa [isEmpty_false hR] using hc_ok
      · intro sa _ sb hsb h
        simpa [permuted] using hsec sb hsb (by simpa [legKey, hR] using h)
  · by_cases hR : Rr = []
    · -- only the left leg
      subst hR
      have hg := hgA hL
      have hi1 : X.indices = [dropTo (FuseP.ixM A GA pL) (X.sectors.filterMap (fun s => s[0]?))] := by
        simpa [legIdx, hL] using hidx
      obtain ⟨c, hc_ok, hcv, hcf, h1, h2, h3, h4, hleg, hval, hsec⟩ :=
        stage_rank1 hvA (hokA hL) hg X T hvX hfX hpX hi1 (fun {c i d S O} hd hz hi => by
          have := hcore (cR := []) (iR := []) (Rs := []) (oR := []) (cL := [c]) (iL := [i]) (Ls := S) (oL := O)
            (LegDec.one hL hd hz hi) (LegDec.nil rfl)
          simpa using this)
      refine ⟨c, ?_, hcv, hcf, h1, h2, h3, h4, by simpa [permuted] using hleg, hval, ?_⟩
      · rw [unfuseLegs_eq]
        simpa [isEmpty_false hL] using hc_ok
      · intro sa hsa sb _ h
        simpa [permuted] using hsec sa hsa (by simpa [legKey, hL] using h)
    · -- both legs
      have hi2 : X.indices = [dropTo (FuseP.ixM A GA pL) (X.sectors.filterMap (fun s => s[0]?)),
          dropTo (FuseP.ixM B GB pR) (X.sectors.filterMap (fun s => s[1]?))] := by
        simpa [legIdx, hL, hR] using hidx
      obtain ⟨c, hc_ok, hcv, hcf, h1, h2, h3, h4, hleg, hval, hsec⟩ :=
        stage_rank2 hvA (hokA hL) (hgA hL) hvB (hokB hR) (hgB hR) X T hvX hfX hpX hi2
          (fun {cL cR iL iR dL dR Ls Rs oL oR} hdL hdR hzL hiL hzR hiR => by
            have := hcore (cL := [cL]) (iL := [iL]) (cR := [cR]) (iR := [iR]) (Ls := Ls) (Rs := Rs)
              (oL := oL) (oR := oR)
              (LegDec.one hL hdL hzL hiL)
              (LegDec.one hR hdR hzR hiR)
            simpa using this)
      refine ⟨c, ?_, hcv, hcf, h1, h2, h3, h4, hleg, hval, ?_⟩
      · simpa [isEmpty_false hL, isEmpty_false hR] using hc_ok
      · intro sa hsa sb hsb h
        exact hsec sa hsa sb hsb (by simpa [legKey, hL, hR] using h)

end TdotP
end SymmModel
