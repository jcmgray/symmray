/-
  SymmModel.Proofs.LinalgMore4 — absorbing the singular values into the factors
  (`svd_truncated`, symmray/linalg.py:369-385) and the array-level form of C13's
  "the three absorb options give the same product".

  Imports Props/C13 for one scalar identity, `C13.absorb_same_product`
  (`(u·r)·(r·v) = (u·s)·v` when `r·r = s`); `absorbed_entry` lifts it to the blocks.

  From here on the pending sign of a sector applied to a value is written `sgnI (phOf ph s) v`
  (Proofs/LazyLemmas); `sgnI_phOf` below is the bridge to the written-out look-up of `Arr.elem`
  and of `C11.pend`.
-/
import SymmModel.Proofs.LinalgMore3
import SymmModel.Proofs.LinalgTrunc
import SymmModel.Proofs.LazyLemmas
import SymmModel.Props.C13

namespace SymmModel

variable {R : Type}

/-- the `absorb` argument: `-1`/"left", `1`/"right", `0`/"both" -/
inductive Absorb where
  | left | right | both
  deriving DecidableEq, Repr

/-- update `d[k] = f(d[k])` on an insertion-ordered dict (no-op where Python raises `KeyError`;
    the callers guard) -/
def aupdate {κ β : Type} [BEq κ] (d : List (κ × β)) (k : κ) (f : β → β) : List (κ × β) :=
  match alookup d k with
  | some v => ainsert d k (f v)
  | none => d

/-- one pass of the loop `for c0, c1 in U.sectors:` (linalg.py:369-385) on the two block
    dictionaries `(U.blocks, VH.blocks)`; `sqrtK` is the backend's elementwise `sqrt` -/
def absorbStep [Zero R] [Mul R] (mode : Absorb) (sqrtK : Blk R → Blk R) (sv : BVec R)
    (st : List (Sector × Blk R) × List (Sector × Blk R)) (sec : Sector) :
    List (Sector × Blk R) × List (Sector × Blk R) :=
  let c1 := sec.getD 1 (0, 0)
  match alookup sv.blocks c1 with
  | none => st
  | some sb =>
    match mode with
    | .left => (aupdate st.1 sec (fun ub => ub.mulAxisK sb 1), st.2)
    | .right => (st.1, aupdate st.2 [c1, c1] (fun vb => vb.mulAxisK sb 0))
    | .both =>
      let r := sqrtK sb
      (aupdate st.1 sec (fun ub => ub.mulAxisK r 1), aupdate st.2 [c1, c1] (fun vb => vb.mulAxisK r 0))

/-- `U, VH` after absorbing `s` (`absorb ≠ None`) -/
def absorbA [Zero R] [Mul R] (mode : Absorb) (sqrtK : Blk R → Blk R) (u : Arr R) (sv : BVec R)
    (vh : Arr R) : Arr R × Arr R :=
  let st := u.sectors.foldl (absorbStep mode sqrtK sv) (u.blocks, vh.blocks)
  ({ u with blocks := st.1 }, { vh with blocks := st.2 })

namespace LinalgLemmas

section Upd
variable {α κ β : Type} [BEq κ] [LawfulBEq κ]

theorem alookup_append_right (l1 l2 : List (κ × β)) (k : κ) (h : k ∉ l1.map (·.1)) :
    alookup (l1 ++ l2) k = alookup l2 k := by
  induction l1 with
  | nil => rfl
  | cons p l ih =>
    obtain ⟨k1, v1⟩ := p
    simp only [List.map_cons, List.mem_cons, not_or] at h
    have : (k1 == k) = false := by simp; exact fun e => h.1 e.symm
    simp only [List.cons_append, alookup, this, Bool.false_eq_true, if_false, ih h.2]

theorem ainsert_append_right (l1 l2 : List (κ × β)) (k : κ) (v : β) (h : k ∉ l1.map (·.1)) :
    ainsert (l1 ++ l2) k v = l1 ++ ainsert l2 k v := by
  induction l1 with
  | nil => rfl
  | cons p l ih =>
    obtain ⟨k1, v1⟩ := p
    simp only [List.map_cons, List.mem_cons, not_or] at h
    have : (k1 == k) = false := by simp; exact fun e => h.1 e.symm
    simp only [List.cons_append, ainsert, this, Bool.false_eq_true, if_false, ih h.2]

theorem fold_update_aux (key : α → κ) (val : α → β) (F : α → β → β) (pre suf : List α)
    (hnd : ((pre ++ suf).map key).Nodup) :
    suf.foldl (fun acc p => aupdate acc (key p) (F p))
        (pre.map (fun p => (key p, F p (val p))) ++ suf.map (fun p => (key p, val p)))
      = (pre ++ suf).map (fun p => (key p, F p (val p))) := by
  induction suf generalizing pre with
  | nil => simp
  | cons p suf ih =>
    have hk : key p ∉ (pre.map (fun p => (key p, F p (val p)))).map (·.1) := by
      rw [List.map_map]
      intro hm
      rw [List.map_append, List.map_cons] at hnd
      exact (List.nodup_append.mp hnd).2.2 _ hm _ List.mem_cons_self rfl
    simp only [List.foldl_cons, List.map_cons]
    have hl : alookup (pre.map (fun p => (key p, F p (val p))) ++ (key p, val p) ::
        suf.map (fun p => (key p, val p))) (key p) = some (val p) := by
      rw [alookup_append_right _ _ _ hk]; simp [alookup]
    have hstep : aupdate (pre.map (fun p => (key p, F p (val p))) ++ (key p, val p) ::
        suf.map (fun p => (key p, val p))) (key p) (F p)
        = (pre ++ [p]).map (fun p => (key p, F p (val p))) ++ suf.map (fun p => (key p, val p)) := by
      unfold aupdate
      rw [hl]
      simp only
      rw [ainsert_append_right _ _ _ _ hk]
      simp [ainsert]
    rw [hstep, ih (pre ++ [p]) (by simpa using hnd)]
    simp

theorem fold_update_all (key : α → κ) (val : α → β) (F : α → β → β) (l : List α)
    (hnd : (l.map key).Nodup) :
    l.foldl (fun acc p => aupdate acc (key p) (F p)) (l.map (fun p => (key p, val p)))
      = l.map (fun p => (key p, F p (val p))) := by
  have := fold_update_aux key val F [] l (by simpa using hnd)
  simpa using this

theorem foldl_pair {σ τ ι : Type} (f1 : σ → ι → σ) (f2 : τ → ι → τ) (l : List ι) (a : σ) (b : τ) :
    l.foldl (fun st p => (f1 st.1 p, f2 st.2 p)) (a, b) = (l.foldl f1 a, l.foldl f2 b) := by
  induction l generalizing a b with
  | nil => rfl
  | cons p l ih => simp only [List.foldl_cons, ih]

theorem foldl_id {σ ι : Type} (l : List ι) (a : σ) : l.foldl (fun acc _ => acc) a = a := by
  induction l with
  | nil => rfl
  | cons p l ih => simp [ih]

end Upd

open Lazy (sgnI phOf)

theorem sgnI_phOf [Neg R] (ph : List (Sector × Int)) (s : Sector) (v : R) :
    sgnI (phOf ph s) v = if alookup ph s == some (-1) then -v else v := by
  simp only [sgnI, Lazy.lookup_neg_one_iff, beq_iff_eq]

theorem elem_sgn [Zero R] [Neg R] {a : Arr R} (hnd : a.sectors.Nodup) {s : Sector} {b : Blk R}
    (hm : (s, b) ∈ a.blocks) (off : List Nat) :
    a.elem s off = sgnI (phOf a.phases s) (b.get off) :=
  (Arr.elem_of_mem hnd hm off).trans (sgnI_phOf _ _ _).symm

theorem sgnI_sub [Ring R] (σ : Int) (v w : R) : sgnI σ v - sgnI σ w = sgnI σ (v - w) := by
  unfold sgnI
  split
  · exact (neg_sub' v w).symm
  · rfl

/-- `u`, `s`, `vh` store, for every item `p` of `l` (a stored block of the decomposed matrix, or
    a kept block after truncation), a block at `sec p`, at the column charge of `sec p` and at
    the diagonal sector of that column charge -/
structure Aligned {α : Type} (l : List α) (sec : α → Sector) (ub sb vb : α → Blk R)
    (u : Arr R) (sv : BVec R) (vh : Arr R) : Prop where
  hlen : ∀ p ∈ l, (sec p).length = 2
  hsec : (l.map sec).Nodup
  hcol : (l.map (fun p => colOf (sec p))).Nodup
  hu : u.blocks = l.map (fun p => (sec p, ub p))
  hs : sv.blocks = l.map (fun p => (colOf (sec p), sb p))
  hv : vh.blocks = l.map (fun p => ([colOf (sec p), colOf (sec p)], vb p))

def absU [Zero R] [Mul R] (mode : Absorb) (sqrtK : Blk R → Blk R) (ub sb : Blk R) : Blk R :=
  match mode with
  | .left => ub.mulAxisK sb 1
  | .right => ub
  | .both => ub.mulAxisK (sqrtK sb) 1

def absV [Zero R] [Mul R] (mode : Absorb) (sqrtK : Blk R → Blk R) (vb sb : Blk R) : Blk R :=
  match mode with
  | .left => vb
  | .right => vb.mulAxisK sb 0
  | .both => vb.mulAxisK (sqrtK sb) 0

theorem aupdate_id {κ β : Type} [BEq κ] [LawfulBEq κ] (d : List (κ × β)) (k : κ) :
    aupdate d k (fun v => v) = d := by
  unfold aupdate
  cases h : alookup d k with
  | none => rfl
  | some v =>
    simp only
    induction d with
    | nil => simp [alookup] at h
    | cons p d ih =>
      obtain ⟨k1, v1⟩ := p
      simp only [alookup] at h
      by_cases e : (k1 == k) = true
      · simp only [e, if_true, Option.some.injEq] at h
        simp only [ainsert, e, if_true, h]
      · simp only [e, Bool.false_eq_true, if_false] at h
        simp only [ainsert, e, Bool.false_eq_true, if_false, ih h]

theorem absorbA_eq [Zero R] [Mul R] {α : Type} {l : List α} {sec : α → Sector}
    {ub sb vb : α → Blk R} {u : Arr R} {sv : BVec R} {vh : Arr R}
    (A : Aligned l sec ub sb vb u sv vh) (mode : Absorb) (sqrtK : Blk R → Blk R) :
    absorbA mode sqrtK u sv vh
      = ({ u with blocks := l.map (fun p => (sec p, absU mode sqrtK (ub p) (sb p))) },
         { vh with blocks := l.map (fun p =>
             ([colOf (sec p), colOf (sec p)], absV mode sqrtK (vb p) (sb p))) }) := by
  have hdiag : (l.map (fun p => [colOf (sec p), colOf (sec p)])).Nodup := by
    have h' := nodup_map_of_inj _ (fun c : Charge => [c, c]) A.hcol
      (fun a _ b _ e => (List.cons.inj e).1)
    simpa [List.map_map, Function.comp_def] using h'
  have hskeys : (sv.blocks.map (·.1)).Nodup := by
    rw [A.hs, List.map_map]; exact A.hcol
  have hstep : ∀ st, ∀ p ∈ l, absorbStep mode sqrtK sv st (sec p)
      = (aupdate st.1 (sec p) (fun b => absU mode sqrtK b (sb p)),
         aupdate st.2 [colOf (sec p), colOf (sec p)] (fun b => absV mode sqrtK b (sb p))) := by
    intro st p hp
    have hl : alookup sv.blocks (colOf (sec p)) = some (sb p) := by
      apply alookup_of_mem_nodup hskeys
      rw [A.hs]; exact List.mem_map.mpr ⟨p, hp, rfl⟩
    unfold absorbStep
    simp only [colOf] at hl ⊢
    rw [hl]
    cases mode with
    | left => simp only [absU, absV, aupdate_id]
    | right => simp only [absU, absV, aupdate_id]
    | both => simp only [absU, absV]
  have hfold : u.sectors.foldl (absorbStep mode sqrtK sv) (u.blocks, vh.blocks)
      = (l.map (fun p => (sec p, absU mode sqrtK (ub p) (sb p))),
         l.map (fun p => ([colOf (sec p), colOf (sec p)], absV mode sqrtK (vb p) (sb p)))) := by
    have hs : u.sectors = l.map sec := by
      simp [Arr.sectors, A.hu, List.map_map, Function.comp_def]
    rw [hs, List.foldl_map,
      foldl_ext' _ (fun st p => (aupdate st.1 (sec p) (fun b => absU mode sqrtK b (sb p)),
         aupdate st.2 [colOf (sec p), colOf (sec p)] (fun b => absV mode sqrtK b (sb p)))) _ l hstep,
      foldl_pair (fun acc p => aupdate acc (sec p) (fun b => absU mode sqrtK b (sb p)))
        (fun acc p => aupdate acc [colOf (sec p), colOf (sec p)] (fun b => absV mode sqrtK b (sb p))),
      A.hu, A.hv,
      fold_update_all sec ub (fun p b => absU mode sqrtK b (sb p)) l A.hsec,
      fold_update_all (fun p => [colOf (sec p), colOf (sec p)]) vb
        (fun p b => absV mode sqrtK b (sb p)) l hdiag]
  unfold absorbA
  simp only [hfold]

def ItemShape (ub sb vb : Blk R) (m k n : Nat) : Prop :=
  ub.shape = [m, k] ∧ sb.shape = [k] ∧ vb.shape = [k, n]

theorem mulAxisK0_get [Zero R] [Mul R] (b v : Blk R) {k n : Nat} (hb : b.shape = [k, n])
    {t j : Nat} (ht : t < k) (hj : j < n) :
    (b.mulAxisK v 0).get [t, j] = b.get [t, j] * v.get [t] := by
  unfold Blk.mulAxisK
  rw [hb, ofFn_get _ _ ((inBox_pair k n t j).mpr ⟨ht, hj⟩)]
  rfl

theorem absorbed_entry [CommRing R] (mode : Absorb) (sqrtK : Blk R → Blk R) {ub sb vb : Blk R}
    {m k n : Nat} (hsh : ItemShape ub sb vb m k n)
    (hsq : mode = .both → (sqrtK sb).shape = [k]
      ∧ ∀ t, t < k → (sqrtK sb).get [t] * (sqrtK sb).get [t] = sb.get [t])
    {i j : Nat} (hi : i < m) (hj : j < n) :
    ((absU mode sqrtK ub sb).tensordotK (absV mode sqrtK vb sb) [1] [0]).get [i, j]
      = (List.range k).foldl (fun acc t => acc + (ub.get [i, t] * sb.get [t]) * vb.get [t, j]) 0 := by
  obtain ⟨h1, h2, h3⟩ := hsh
  cases mode with
  | left =>
    simp only [absU, absV]
    rw [tensordotK_matmul_get _ _ (by rw [mulAxisK_shape]; exact h1) h3 hi hj]
    apply foldl_ext'
    intro acc t ht
    rw [mulAxisK_get _ _ h1 hi (List.mem_range.mp ht)]
  | right =>
    simp only [absU, absV]
    rw [tensordotK_matmul_get _ _ h1 (by rw [mulAxisK_shape]; exact h3) hi hj]
    apply foldl_ext'
    intro acc t ht
    rw [mulAxisK0_get _ _ h3 (List.mem_range.mp ht) hj]
    ring
  | both =>
    simp only [absU, absV]
    rw [tensordotK_matmul_get _ _ (by rw [mulAxisK_shape]; exact h1)
      (by rw [mulAxisK_shape]; exact h3) hi hj]
    apply foldl_ext'
    intro acc t ht
    have ht' := List.mem_range.mp ht
    rw [mulAxisK_get _ _ h1 hi ht', mulAxisK0_get _ _ h3 ht' hj]
    have := (C13.absorb_same_product (ub.get [i, t]) ((sqrtK sb).get [t]) (sb.get [t])
      (vb.get [t, j]) ((hsq rfl).2 t ht')).1
    rw [← this]
    ring

/-- **array level.**  For factors aligned with the items `l`, whatever the absorb mode the
    blockwise product of the absorbed factors stores, at every item's sector and every offset of
    its `m × n` box, the entry `Σ_t (u[i,t] · s[t]) · vh[t,j]` — the same for the three modes —
    and it has the same sectors, and the same pending signs, so the same value view. -/
theorem absorb_product [CommRing R] {α : Type} {l : List α} {sec : α → Sector}
    {ub sb vb : α → Blk R} {u : Arr R} {sv : BVec R} {vh : Arr R}
    (A : Aligned l sec ub sb vb u sv vh) (sqrtK : Blk R → Blk R)
    (dims : α → Nat × Nat × Nat)
    (hsh : ∀ p ∈ l, ItemShape (ub p) (sb p) (vb p) (dims p).1 (dims p).2.1 (dims p).2.2)
    (mode : Absorb)
    (hsq : mode = .both → ∀ p ∈ l, (sqrtK (sb p)).shape = [(dims p).2.1]
      ∧ ∀ t, t < (dims p).2.1 → (sqrtK (sb p)).get [t] * (sqrtK (sb p)).get [t] = (sb p).get [t]) :
    let P := tensordotBlockwise (absorbA mode sqrtK u sv vh).1 (absorbA mode sqrtK u sv vh).2
      [0] [1] [0] [1]
    P.phases = u.phases ∧ P.sectors = l.map sec ∧
    ∀ p ∈ l, ∀ i j, i < (dims p).1 → j < (dims p).2.2 →
      P.elem (sec p) [i, j]
        = sgnI (phOf u.phases (sec p)) ((List.range (dims p).2.1).foldl
            (fun acc t => acc + ((ub p).get [i, t] * (sb p).get [t]) * (vb p).get [t, j]) 0) := by
  intro P
  have hP : P.blocks = l.map (fun p => (sec p,
      (absU mode sqrtK (ub p) (sb p)).tensordotK (absV mode sqrtK (vb p) (sb p)) [1] [0])) := by
    show (tensordotBlockwise _ _ [0] [1] [0] [1]).blocks = _
    rw [absorbA_eq A mode sqrtK]
    exact tdot_blocks_items l sec A.hlen A.hsec A.hcol _ _ _ _ rfl rfl
  have hph : P.phases = u.phases := by
    show (tensordotBlockwise _ _ [0] [1] [0] [1]).phases = _
    rw [absorbA_eq A mode sqrtK]; rfl
  refine ⟨hph, by simp [Arr.sectors, hP, List.map_map, Function.comp_def], ?_⟩
  intro p hp i j hi hj
  have hnd : (P.blocks.map (·.1)).Nodup := by
    rw [hP, List.map_map]; exact A.hsec
  rw [elem_sgn hnd (by rw [hP]; exact List.mem_map.mpr ⟨p, hp, rfl⟩), hph,
    absorbed_entry mode sqrtK (hsh p hp) (fun hm => hsq hm p hp) hi hj]

theorem absorb_agree_items [CommRing R] {α : Type} {l : List α} {sec : α → Sector}
    {ub sb vb : α → Blk R} {u : Arr R} {sv : BVec R} {vh : Arr R}
    (A : Aligned l sec ub sb vb u sv vh) (sqrtK : Blk R → Blk R)
    (dims : α → Nat × Nat × Nat)
    (hsh : ∀ p ∈ l, ItemShape (ub p) (sb p) (vb p) (dims p).1 (dims p).2.1 (dims p).2.2)
    (hsq : ∀ p ∈ l, (sqrtK (sb p)).shape = [(dims p).2.1]
      ∧ ∀ t, t < (dims p).2.1 → (sqrtK (sb p)).get [t] * (sqrtK (sb p)).get [t] = (sb p).get [t])
    (m1 m2 : Absorb) :
    let P1 := tensordotBlockwise (absorbA m1 sqrtK u sv vh).1 (absorbA m1 sqrtK u sv vh).2 [0] [1] [0] [1]
    let P2 := tensordotBlockwise (absorbA m2 sqrtK u sv vh).1 (absorbA m2 sqrtK u sv vh).2 [0] [1] [0] [1]
    P1.sectors = P2.sectors ∧ P1.phases = P2.phases ∧
    ∀ s off, (s ∉ l.map sec ∨ ∃ p ∈ l, s = sec p ∧ inBox [(dims p).1, (dims p).2.2] off = true) →
      P1.elem s off = P2.elem s off := by
  intro P1 P2
  obtain ⟨a1, a2, a3⟩ := absorb_product A sqrtK dims hsh m1 (fun _ => hsq)
  obtain ⟨b1, b2, b3⟩ := absorb_product A sqrtK dims hsh m2 (fun _ => hsq)
  refine ⟨a2.trans b2.symm, a1.trans b1.symm, ?_⟩
  intro s off h
  rcases h with h | ⟨p, hp, rfl, hbox⟩
  · have h1 : alookup P1.blocks s = none := by
      rw [alookup_eq_none_iff]; show s ∉ P1.sectors; rw [a2]; exact h
    have h2 : alookup P2.blocks s = none := by
      rw [alookup_eq_none_iff]; show s ∉ P2.sectors; rw [b2]; exact h
    simp only [Arr.elem, h1, h2]
  · obtain ⟨i, j, rfl, hij⟩ := inBox_pair_elim hbox
    rw [a3 p hp i j hij.1 hij.2, b3 p hp i j hij.1 hij.2]

theorem aligned_svd {K : Kernels R} {x : Arr R} (hv : x.validB = true) (h2 : x.ndim = 2) :
    Aligned x.blocks (fun p => p.1) (fun p => (K.svd p.2).1) (fun p => (K.svd p.2).2.1)
      (fun p => (K.svd p.2).2.2)
      (leftF x (fun b => (K.svd b).1)) ⟨x.blocks.map (fun p => (colOf p.1, (K.svd p.2).2.1))⟩
      (rightF x (fun b => (K.svd b).1) (fun b => (K.svd b).2.2)) := by
  refine ⟨?_, Arr.validB_nodup hv, ?_, rfl, rfl, rightF_fields.blocks⟩
  · exact fun p hp => (Arr.validB_block_len hv hp).trans h2
  · exact blocks_cols_nodup hv h2

theorem svd_itemShape {K : Kernels R} (hK : K.ShapeOk) {x : Arr R} (hv : x.validB = true)
    (h2 : x.ndim = 2) : ∀ p ∈ x.blocks,
    ItemShape (K.svd p.2).1 (K.svd p.2).2.1 (K.svd p.2).2.2 (p.2.shape.getD 0 0)
      (min (p.2.shape.getD 0 0) (p.2.shape.getD 1 0)) (p.2.shape.getD 1 0) := by
  obtain ⟨i0, i1, hi⟩ := ndim_two h2
  intro p hp
  obtain ⟨r, c, m, n, B⟩ := mat_block hv hi (s := p.1) (b := p.2) hp
  obtain ⟨a1, _, a3, _, a5, _⟩ := hK.svd p.2 m n B.hshape B.hwf
  simp only [B.hshape, List.getD_cons_zero, List.getD_cons_succ]
  exact ⟨a1, a3, a5⟩

theorem aligned_trunc [Zero R] {K : Kernels R} {x : Arr R} (hv : x.validB = true) (h2 : x.ndim = 2)
    {counts : List Nat} (hlen : counts.length = x.blocks.length) :
    Aligned (kept x counts) (fun t => t.1.1)
      (fun t => ((K.svd t.1.2).1).sliceK [0, 0] [((K.svd t.1.2).1).shape.getD 0 0, t.2])
      (fun t => ((K.svd t.1.2).2.1).sliceK [0] [t.2])
      (fun t => ((K.svd t.1.2).2.2).sliceK [0, 0] [t.2, ((K.svd t.1.2).2.2).shape.getD 1 0])
      (truncU x (fun b => (K.svd b).1) counts) (truncS x (fun b => (K.svd b).2.1) counts)
      (truncV x (fun b => (K.svd b).1) (fun b => (K.svd b).2.2) counts) := by
  refine ⟨?_, ?_, ?_, rfl, rfl, rfl⟩
  · exact fun t ht => (Arr.validB_block_len hv (kept_mem hlen ht).1).trans h2
  · have e : (kept x counts).map (fun t => t.1.1) = ((kept x counts).map (·.1)).map (·.1) := by
      rw [List.map_map]; rfl
    rw [e]
    exact (Arr.validB_nodup hv).sublist ((kept_sublist hlen).map _)
  · have hk := keptCm_keys_nodup (counts := counts) hv h2 hlen
    simpa [keptCm, List.map_map, Function.comp_def] using hk

theorem addrOf_kept {x : Arr R} (hv : x.validB = true) (h2 : x.ndim = 2) {counts : List Nat}
    (hlen : counts.length = x.blocks.length) {s : Sector} {off : List Nat} (ha : AddrOf x s off) :
    s ∉ (kept x counts).map (fun t => t.1.1) ∨ ∃ t ∈ kept x counts, s = t.1.1
      ∧ inBox [t.1.2.shape.getD 0 0, t.1.2.shape.getD 1 0] off = true := by
  by_cases hk : s ∈ (kept x counts).map (fun t => t.1.1)
  · obtain ⟨t, ht, rfl⟩ := List.mem_map.mp hk
    refine Or.inr ⟨t, ht, rfl, ?_⟩
    rcases ha with h | ⟨b, hm, hbox⟩
    · exact absurd (List.mem_map.mpr ⟨t.1, (kept_mem hlen ht).1, rfl⟩) h
    · -- the stored block at the sector of `t` is the block of `t`
      have hb : b = t.1.2 := by
        have h1 := alookup_of_mem_nodup (Arr.validB_nodup hv) hm
        have h2' := alookup_of_mem_nodup (Arr.validB_nodup hv) (kept_mem hlen ht).1
        rw [h1] at h2'
        exact Option.some.inj h2'
      subst hb
      obtain ⟨i0, i1, hi⟩ := ndim_two h2
      obtain ⟨r, c, m, n, B⟩ := mat_block hv hi hm
      simpa [B.hshape] using hbox
  · exact Or.inl hk

theorem trunc_itemShape [Zero R] {K : Kernels R} (hK : K.ShapeOk) {x : Arr R}
    (hv : x.validB = true) (h2 : x.ndim = 2) {counts : List Nat}
    (hlen : counts.length = x.blocks.length) : ∀ t ∈ kept x counts,
    ItemShape (((K.svd t.1.2).1).sliceK [0, 0] [((K.svd t.1.2).1).shape.getD 0 0, t.2])
      (((K.svd t.1.2).2.1).sliceK [0] [t.2])
      (((K.svd t.1.2).2.2).sliceK [0, 0] [t.2, ((K.svd t.1.2).2.2).shape.getD 1 0])
      (t.1.2.shape.getD 0 0) t.2 (t.1.2.shape.getD 1 0) := by
  obtain ⟨i0, i1, hi⟩ := ndim_two h2
  intro t ht
  obtain ⟨r, c, m, n, B⟩ := mat_block hv hi (s := t.1.1) (b := t.1.2) (kept_mem hlen ht).1
  obtain ⟨a1, _, a3, _, a5, _⟩ := hK.svd t.1.2 m n B.hshape B.hwf
  simp only [ItemShape, sliceK_shape, a1, a5, B.hshape, List.getD_cons_zero, List.getD_cons_succ,
    and_self]

end LinalgLemmas
end SymmModel
