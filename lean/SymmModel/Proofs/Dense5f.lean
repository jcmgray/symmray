/-
  SymmModel.Proofs.Dense5f — what reshape at position level for plans with several fuse calls
  (property C08, `calls_toDense` in Props/C08e) is stated in: the position relations of `fuse_toDense`
  composed along the calls (`PosRel`, `PlanRel`), and the plan `([], calls, [])` as the run of the calls.
-/
import SymmModel.Proofs.Dense5a
import SymmModel.Props.C08
import SymmModel.Props.C05
import SymmModel.Props.C01
import SymmModel.Model.Reshape

namespace SymmModel
namespace Dense5
open FuseP Dense4 Arr

variable {R : Type}

/-- the position relation of one fuse call (the relation of the backward half of
    `C08.fuse_toDense`; the forward half implies it): `p` is a position of a stored sector of `a`,
    `P` a position of a stored sector of `x`, and the address of `P`, expanded by the segments the
    fused indices' own tables give (`splitAddr`), is the permuted address of `p` -/
def PosRel (a x : Arr R) (groups : List (List Nat)) (p P : List Nat) : Prop :=
  let gi := calcFuseGroupInfo groups a.duals
  ∃ (s : Sector) (offs : List Nat) (ns : Sector) (i : List Nat) (segs : List (Sector × List Nat)),
    locateAll a.indices p = some (s, offs) ∧ s ∈ a.sectors
    ∧ locateAll x.indices P = some (ns, i) ∧ ns ∈ x.sectors
    ∧ segs.length = groups.length
    ∧ (∀ g gaxes, groups[g]? = some gaxes →
        (gaxes.length = 1 →
          segs[g]? = some ([ns.getD (gi.position + g) (0, 0)], [i.getD (gi.position + g) 0]))
        ∧ (gaxes.length ≠ 1 →
            splitAddr (x.indices.getD (gi.position + g) default)
              (ns.getD (gi.position + g) (0, 0)) (i.getD (gi.position + g) 0) = segs[g]?))
    ∧ permuted s gi.perm = ns.take gi.position ++ (segs.map (·.1)).flatten
        ++ ns.drop (gi.position + groups.length)
    ∧ permuted offs gi.perm = i.take gi.position ++ (segs.map (·.2)).flatten
        ++ i.drop (gi.position + groups.length)

theorem posRel_of_fuseRel {a x : Arr R} {groups : List (List Nat)} {p P : List Nat} {s : Sector}
    {offs : List Nat} {ns : Sector} {i : List Nat} (hp : locateAll a.indices p = some (s, offs))
    (hs : s ∈ a.sectors) (hP : locateAll x.indices P = some (ns, i)) (hns : ns ∈ x.sectors)
    (h : FuseRel a x groups s offs ns i) : PosRel a x groups p P := by
  obtain ⟨segs, q1, q2, q3, q4⟩ := fuseRelB_of_fuseRel h
  exact ⟨s, offs, ns, i, segs, hp, hs, hP, hns, q1, q2, q3, q4⟩

/-- every fuse call of the plan is admissible and produces an array without empty charge table -/
def CallsOk [Zero R] : List (List (List Nat)) → Arr R → Prop
  | [], _ => True
  | g :: rest, a => C05.groupsOkB g a.ndim = true
      ∧ ∀ x, fuseCore a g .insert = .ok x → C08.NoEmpty x ∧ CallsOk rest x

/-- the composed position relation along the calls -/
def PlanRel [Zero R] : List (List (List Nat)) → Arr R → List Nat → List Nat → Prop
  | [], _, p, P => p = P
  | g :: rest, a, p, P =>
    ∃ x P1, fuseCore a g .insert = .ok x ∧ PosRel a x g p P1 ∧ PlanRel rest x P1 P

def runCalls [Zero R] (calls : List (List (List Nat))) (a : Arr R) : Except Err (Arr R) :=
  calls.foldlM (fun x g => fuseCore x g .insert) a

theorem fuseCore_keeps [Zero R] {a x : Arr R} {g : List (List Nat)} (hv : a.validB = true)
    (hf : a.fermi = false) (hg : C05.groupsOkB g a.ndim = true)
    (hx : fuseCore a g .insert = .ok x) : x.validB = true ∧ x.fermi = false := by
  have hadm := FuseP.admissible_of_groupsOk (FuseP.groupsOk_iff.1 hg)
  refine ⟨ValidP.fuseCore_insert_validB a x g hv hf hadm hx, ?_⟩
  have hx' := fuseCore_multi_eq (validArr_of_validB hv) (groupsOk_iff.1 hg).adm
  rw [hx] at hx'; injection hx' with hx'; subst hx'; exact hf

theorem applyPlan_calls [Zero R] [Neg R] (calls : List (List (List Nat))) (a : Arr R)
    (hv : a.validB = true) (hf : a.fermi = false) (hok : CallsOk calls a) :
    applyPlan a ([], calls, []) = runCalls calls a := by
  have key : ∀ (cs : List (List (List Nat))) (b : Arr R), b.validB = true → b.fermi = false →
      CallsOk cs b → cs.foldlM fuseDispatch b = runCalls cs b := by
    intro cs
    induction cs with
    | nil => intro b _ _ _; rfl
    | cons g rest ih =>
      intro b hbv hbf hbok
      obtain ⟨hg, hrest⟩ := hbok
      simp only [runCalls, List.foldlM_cons, bind, Except.bind, fuseDispatch, hbf,
        Bool.false_eq_true, if_false]
      rw [C05.fuseA_eq_fuseCore b g .insert true b.ndim hg]
      cases hx : fuseCore b g .insert with
      | error e => rfl
      | ok x =>
        simp only
        obtain ⟨hxv, hxf⟩ := fuseCore_keeps hbv hbf hg hx
        exact ih x hxv hxf (hrest x hx).2
  simp only [applyPlan, List.foldlM_nil, bind, Except.bind, pure, Except.pure]
  rw [key calls a hv hf hok]
  cases runCalls calls a <;> rfl

/-- `CallsOk` by running the calls (a decidable sufficient condition) -/
def callsOkB [Zero R] : List (List (List Nat)) → Arr R → Bool
  | [], _ => true
  | g :: rest, a => FuseP.groupsOkB g a.ndim
      && (match fuseCore a g .insert with
          | .ok x => !(x.indices.any (fun ix => ix.cm.isEmpty)) && callsOkB rest x
          | .error _ => true)

theorem callsOk_of_B [Zero R] (calls : List (List (List Nat))) (a : Arr R)
    (h : callsOkB calls a = true) : CallsOk calls a := by
  induction calls generalizing a with
  | nil => trivial
  | cons g rest ih =>
    simp only [callsOkB, Bool.and_eq_true] at h
    refine ⟨h.1, fun x hx => ?_⟩
    have h2 := h.2
    rw [hx] at h2
    simp only [Bool.and_eq_true, Bool.not_eq_true'] at h2
    exact ⟨h2.1, ih x h2.2⟩

end Dense5
end SymmModel
