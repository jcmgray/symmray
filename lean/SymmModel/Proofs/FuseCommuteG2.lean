/-
  SymmModel.Proofs.FuseCommuteG2 — the two facts that put the fermionic fuse of ONE arbitrary group
  under `GradedP.contract_transport`: the layout of `_fuse_core` (`lay_one : Lay …`: the contracted
  axes `g` sit at the positions `newG X g` after the re-indexing by `perm`, the free axes keep their
  order), and the operand of `_fuse_core` inside the fermionic fuse is a re-indexed, sign-twisted,
  synchronised copy of the array (`prepared_signAdj : GradedP.Prepared …`).
  Namespace `SymmModel.TdotP`.
-/
import SymmModel.Proofs.FuseCommuteG1

namespace SymmModel
namespace TdotP
open SymmModel.KoszulP SymmModel.Lazy SymmModel.GradedP SymmModel.RoutesP SymmModel.AssocP
variable {R : Type}

theorem lay_one {X : Arr R} {g : List Nat} (h : OneOk X g) :
    Lay X.ndim g (FuseP.giM X [g]).perm (newG X g) := by
  refine ⟨one_perm_perm h, h.nd, h.lt, ?_, newG_lt h, fun z hz => permuted_perm_newG h z hz,
    fun z hz => permuted_perm_free h z hz⟩
  unfold newG
  exact (List.nodup_range).map_on (by intro x _ y _ e; omega)

section transport
variable [AddMonoid R] [Mul R] [Neg R] [SignRing R]

theorem prepared_signAdj (a : Arr R) {g : List Nat} (hv : a.validB = true) (hf : a.fermi = true)
    (h : OneOk a g) :
    Prepared a (FuseP.signAdj a [g]) (FuseP.giM a [g]).perm (FuseP.fuseSignF a [g]) := by
  have hok := h.groupsOk
  have hfull := Lazy.Full.of_valid hv hf
  have hisp : Arr.isPerm (calcFuseGroupInfo [g] a.duals).perm a.ndim = true := by
    have := FuseP.perm_isPerm (FuseP.hokD hok).adm; rwa [FuseP.duals_length] at this
  have htr := hfull.trOk hisp
  obtain ⟨f1, f2, _, _, _, _⟩ := FuseP.signAdj_fields a [g]
  have hVB := (ValidP.validB_iff _).mpr (FuseP.signAdj_valid a [g] hv hf hok)
  have hsa := Arr.shapesOk_of_validB hv
  refine ⟨f1, ?_, f2, Arr.allDistinct_of_validB hVB, Arr.shapesOk_of_validB hVB, ?_, ?_⟩
  · rw [signAdj_sectors]; exact Lazy.transposeF_sectors htr
  · intro s
    exact Lazy.mul_pm (FuseP.fuseSignT_pm _ _ _) (Lazy.koszul_pm _ _)
  · intro s hs off hoff
    obtain ⟨shp, h1, h2, h3, h4⟩ := shape_of_mem hsa hs
    have ho : off.length = a.ndim := by rw [inBox_length hoff, h2, h3]
    rw [FuseP.signAdj_elem, FuseP.transposeF_elem_orig htr (Lazy.ShapeLen.of_valid hv) h4 ho]
    · unfold FuseP.fuseSignF
      rw [Lazy.sgnI_mul (FuseP.fuseSignT_pm _ _ _) (Lazy.koszul_pm _ _)]
    · intro b hb
      have hmem := alookup_some_mem hb
      have hshape := hsa (s, b) hmem
      simp only at hshape
      rw [h1] at hshape
      have hbs : b.shape = shp := (Option.some.inj hshape).symm
      rw [hbs]
      rw [h2] at hoff
      exact KoszulP.inBox_permuted shp off _ a.ndim (one_perm_perm h) h3 hoff

end transport

end TdotP
end SymmModel
