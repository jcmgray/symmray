/-
  SymmModel.Proofs.Dense6a — the structural operations as equalities of dense BLOCKS (property
  C08, Props/C08f): `toDenseA (op a) = .ok (kernel (toDenseA a))` with numpy's kernels
  `transposeK`, `conjK`, `squeezeK`, `expandK` of Model/Blk.lean.
-/
import SymmModel.Props.C08b
import SymmModel.Props.C01
import SymmModel.Proofs.Dense3a
import SymmModel.Proofs.Dense3b
import SymmModel.Proofs.FuseMultiR1

namespace SymmModel
namespace Dense6
open Arr DenseP Dense3

variable {R : Type}

theorem data_of_reindex [Zero R] {d d' : Blk R} (hd : d.wf = true) (hd' : d'.wf = true)
    (φ : List Nat → List Nat) (hbox : allIdx d'.shape = (allIdx d.shape).map φ)
    (hg : ∀ p, inBox d.shape p = true → d'.get (φ p) = d.get p) :
    d'.data.toList = d.data.toList := by
  rw [← allIdx_map_get d' hd', ← allIdx_map_get d hd, hbox, List.map_map]
  exact List.map_congr_left (fun p hp => hg p (mem_allIdx.mp hp))

theorem allIdx_ins (axis : Nat) (shape : List Nat) (ha : axis ≤ shape.length) :
    allIdx (ins axis 1 shape) = (allIdx shape).map (ins axis 0) := by
  induction axis generalizing shape with
  | zero => simp [allIdx]
  | succ axis ih =>
    cases shape with
    | nil => simp at ha
    | cons d ds =>
      simp only [ins_succ_cons, allIdx, List.map_flatMap, List.map_map]
      rw [ih ds (by simpa using ha)]
      simp only [List.map_map]
      rfl

theorem allIdx_dropMask (m : List Bool) (shape : List Nat)
    (h : List.Forall₂ (fun (b : Bool) (d : Nat) => b = true → d = 1) m shape) :
    allIdx (dropMask m shape) = (allIdx shape).map (dropMask m) := by
  induction h with
  | nil => simp [allIdx]
  | @cons b d m shape hbd _ ih =>
    cases b with
    | true =>
      have hd : d = 1 := hbd rfl
      subst hd
      simp only [dropMask_cons_cons, if_true, allIdx, List.range_one, List.flatMap_cons,
        List.flatMap_nil, List.append_nil, List.map_map]
      rw [ih]
      rfl
    | false =>
      simp only [dropMask_cons_cons, Bool.false_eq_true, if_false, allIdx, List.map_flatMap,
        List.map_map]
      rw [ih]
      simp only [List.map_map]
      rfl

section ops
variable [Zero R] [Neg R]

theorem transposeA_dense (a : Arr R) (axes : List Nat) (hperm : isPerm axes a.ndim = true)
    (hv : a.validB = true) (hf : a.fermi = false) (hne : C08.NoEmpty a) (d : Blk R)
    (hd : toDenseA a = .ok d) : toDenseA (transposeA a axes) = .ok (d.transposeK axes) := by
  obtain ⟨d0, d', e1, e2, s1, s2, hg⟩ := C08.transposeA_toDense a axes hperm (phases_nil_of_validB hv hf) hne
    (validB_shapesOk hv) (validB_nodup hv) (validB_length hv)
  rw [hd] at e1; injection e1 with e1; subst e1
  rw [e2]
  congr 1
  have hdl : d.shape.length = a.ndim := by rw [s1]; simp [Arr.shape, Arr.ndim]
  have hperm' : isPerm axes d.shape.length = true := by rw [hdl]; exact hperm
  have hlt := isPerm_lt hperm'
  apply blk_ext (toDenseA_wf e2) (by unfold Blk.transposeK; exact ofFn_wf _ _)
  · rw [s2, ← s1]; rfl
  · intro q hq
    rw [s2, ← s1] at hq
    -- every position of the transposed box is a permuted position
    obtain ⟨p, _, hpq, hp⟩ := FuseP.exists_unpermute (n := d.shape.length)
      ((perm_of_isPerm hperm').symm.nodup_iff.mp List.nodup_range) (isPerm_spec hperm').1 hlt
      (fun ax hax => (isPerm_spec hperm').2 ax hax) rfl hq
    subst hpq
    rw [hg p (by rw [← s1]; exact hp), Blk.get_transposeK d axes hperm' hp]

theorem conjA_dense [Conj R] (h0 : Conj.conj (0 : R) = 0) (a : Arr R) (hv : a.validB = true)
    (hf : a.fermi = false) (hne : C08.NoEmpty a) (d : Blk R) (hd : toDenseA a = .ok d) :
    toDenseA (conjA a) = .ok d.conjK := by
  obtain ⟨d0, d', e1, e2, s1, s2, hg⟩ := C08.conj_toDense h0 a (phases_nil_of_validB hv hf) hne
  rw [hd] at e1; injection e1 with e1; subst e1
  rw [e2]
  congr 1
  have hwd := toDenseA_wf hd
  apply blk_ext (toDenseA_wf e2) (by simpa [Blk.conjK, Blk.map, Blk.wf] using hwd)
  · rw [s2, ← s1]; rfl
  · intro q hq
    rw [s2] at hq
    rw [hg q hq]
    exact (get_map_inBox Conj.conj d hwd (by rw [s1]; exact hq)).symm

/-- `expand_dims` (any charge): the dense form is the dense form with a size-one axis inserted,
    `d[..., None, ...]` — the same flat data -/
theorem expandDims_dense (a : Arr R) (axis : Nat) (c : Option Charge) (dual : Option Bool)
    (ha : axis ≤ a.ndim) (hv : a.validB = true) (hf : a.fermi = false) (hne : C08.NoEmpty a)
    (d : Blk R) (hd : toDenseA a = .ok d) :
    toDenseA (a.expandDims axis c dual) = .ok (d.expandK axis) := by
  obtain ⟨d0, d', e1, e2, s1, s2, hg⟩ := expandDims_toDense_any a axis c dual ha (phases_nil_of_validB hv hf)
    (validB_shapesOk hv) (validB_nodup hv) (validB_length hv) hne
  rw [hd] at e1; injection e1 with e1; subst e1
  rw [e2]
  congr 1
  have hal : axis ≤ d.shape.length := by rw [s1]; simpa [Arr.shape, Arr.ndim] using ha
  apply blk_eq_of_data
  · rw [s2, ← s1]; rfl
  · show d'.data.toList = d.data.toList
    apply data_of_reindex (toDenseA_wf hd) (toDenseA_wf e2) (ins axis 0)
    · rw [s2, ← s1]; exact allIdx_ins axis d.shape hal
    · intro p hp; exact hg p (by rw [← s1]; exact hp)

/-- `squeeze`: the dense form is the dense form with the removed size-one axes dropped,
    `np.squeeze` — the same flat data -/
theorem squeeze_dense (a : Arr R) (axis : Option (List Nat)) (a' : Arr R)
    (h : a.squeeze axis = .ok a') (hv : a.validB = true) (hf : a.fermi = false)
    (hne : C08.NoEmpty a) (d : Blk R) (hd : toDenseA a = .ok d) :
    ∃ m, squeezeMask a axis = .ok m ∧ toDenseA a' = .ok (d.squeezeK (keptAxes m 0)) := by
  obtain ⟨m, d0, d', hm, e1, e2, s1, s2, hg⟩ := C08.squeeze_toDense a axis a' h (phases_nil_of_validB hv hf)
    (validB_shapesOk hv) (validB_nodup hv) hne
  rw [hd] at e1; injection e1 with e1; subst e1
  obtain ⟨m', hm', _, hml, _, _, hspec⟩ := C08.squeeze_mask_spec a axis a' h
  rw [hm] at hm'; injection hm' with hm'; subst hm'
  refine ⟨m, hm, ?_⟩
  rw [e2]
  congr 1
  have hsl : d.shape.length = m.length := by rw [s1, hml]; simp [Arr.shape, Arr.ndim]
  have hone : List.Forall₂ (fun (b : Bool) (dd : Nat) => b = true → dd = 1) m d.shape := by
    rw [List.forall₂_iff_get]
    refine ⟨hsl.symm, fun i hi1 hi2 hb => ?_⟩
    simp only [List.get_eq_getElem] at hb ⊢
    have hi3 : i < a.indices.length := by rw [hml] at hi1; exact hi1
    obtain ⟨_, dd, hcm, hle⟩ := (hspec i a.indices[i] (List.getElem?_eq_getElem hi3)).1
      (by rw [List.getElem?_eq_getElem hi1, hb])
    have hpos := validB_pos a hv a.indices[i] (List.getElem_mem hi3) (a.sym.zero, dd)
      (by rw [hcm]; simp)
    have hdd : dd = 1 := by simp only at hpos; omega
    have : d.shape[i] = (a.indices[i]).sizeTotal := by
      simp [s1, Arr.shape]
    rw [this, Index.sizeTotal, hcm, hdd]
    rfl
  apply blk_eq_of_data
  · show d'.shape = permuted d.shape (keptAxes m 0)
    rw [s2, ← s1, permuted_keptAxes_zero m d.shape hsl]
  · show d'.data.toList = d.data.toList
    apply data_of_reindex (toDenseA_wf hd) (toDenseA_wf e2) (dropMask m)
    · rw [s2, ← s1]; exact allIdx_dropMask m d.shape hone
    · intro p hp; exact hg p (by rw [← s1]; exact hp)

end ops

end Dense6
end SymmModel
