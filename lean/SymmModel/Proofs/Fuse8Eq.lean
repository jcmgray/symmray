/-
  SymmModel.Proofs.Fuse8Eq — both strategies agree, several groups: block by block.
-/
import SymmModel.Proofs.Fuse8Region
namespace SymmModel
namespace FuseP
set_option linter.unusedSectionVars false

variable {R : Type} [Zero R]

section
variable {a : Arr R} {groups : List (List Nat)}

theorem choice_size (hv : ValidArr a) (hok : GroupsAdm groups a.ndim) {sb0 : Sector × Blk R} (hsb0 : sb0 ∈ a.blocks)
    {qs : List (Sector × Nat)} (hqs : Choice (lvFrom a groups (planM a groups sb0).newSector 0 groups.length) qs)
    {g : Nat} (hg : g < groups.length) (hm : multiB groups g = true) :
    ∃ st, startOf (extM a groups (planM a groups sb0).newSector g) (qs.getD g ([], 0)).1
      = some (st, (qs.getD g ([], 0)).2) := by
  obtain ⟨gaxes, hgx, hlen⟩ := multiB_iff.1 hm
  have hmem := choice_mem _ qs hqs g _ _ (by rw [lvFrom_getElem?, if_pos hg, Nat.zero_add, lvlM, if_pos hm])
  exact startOf_of_mem_nodup (ext_facts hv hok hgx hlen hsb0).1 hmem

theorem insert_eq_concat_multi (hv : ValidArr a) (hok : GroupsAdm groups a.ndim) (ns : Sector) :
    (alookup (fusedBlocksM a groups) ns = none ∧ alookup (concatBlocksM a groups) ns = none)
    ∨ ∃ B C, alookup (fusedBlocksM a groups) ns = some B ∧ alookup (concatBlocksM a groups) ns = some C
        ∧ B = C := by
  -- A sector that no stored block maps to is absent from both dictionaries.  Otherwise the insert block `B` is known
  -- entry by entry (`fusedBlocksM_inv`: inside the region of a source block its entry, `hit`; outside every region
  -- zero, `miss`), and the concat block is `nest` over the levels `lvFrom`, with leaves from the sub-dictionary or
  -- blocks of zeros (`hcl`).  `nest_spec` reads `nest` entry by entry once the levels fit the fused shape (`hlv`) and
  -- the leaves have the piece shapes (`hleaf`); `region_link` says that the leaf an address `i` chooses (`decQ`) is
  -- the source block whose region contains `i`, read at the same offset.  Hence equal entries everywhere (`blk_ext`).
  have hI := fusedBlocksM_inv hv hok
  have hG := groupedM_inv hv hok
  have hcl : ∀ ns, alookup (concatBlocksM a groups) ns
      = (alookup (groupedM a groups) ns).map (fun sub =>
          nest (leafM sub (zsM a groups ns)) (lvFrom a groups ns 0 groups.length) []) := by
    intro ns
    exact alookup_map_val (fun k v => nest (leafM v (zsM a groups k)) (lvFrom a groups k 0 groups.length) []) _ ns
  by_cases hk : ns ∈ a.blocks.map (fun sb => (planM a groups sb).newSector)
  · right
    obtain ⟨sb0, hsb0, rfl⟩ := List.mem_map.1 hk
    obtain ⟨B, hB, hBs⟩ := fusedBlockM_exists hv hok hsb0
    have hkG : (planM a groups sb0).newSector ∈ (groupedM a groups).map (·.1) := by
      rw [hG.keys]; simp only [List.map_map]; exact List.mem_map.2 ⟨sb0, hsb0, rfl⟩
    obtain ⟨sub, hsub⟩ := Option.isSome_iff_exists.1 (alookup_isSome_iff.2 hkG)
    refine ⟨B, _, hB, by rw [hcl, hsub]; rfl, ?_⟩
    have hbl : (BshM a groups sb0).length = ndimM a groups := BshM_length sb0
    have hsh : shapeOfM a groups (planM a groups sb0).newSector = BshM a groups sb0 := by
      simp only [shapeOfM, shape_storedM hv hok hsb0, Option.getD_some]
    have hsubmem : ∀ key b, alookup sub key = some b → ∃ sb ∈ a.blocks,
        (planM a groups sb).newSector = (planM a groups sb0).newSector ∧ (planM a groups sb).subsectors = key
        ∧ b = (sb.2.transposeK (giM a groups).perm).reshapeK (planM a groups sb).newShape := by
      intro key b hl
      have := (hG.sub _ sub hsub key b).1 hl
      obtain ⟨sb, hsb, he⟩ := List.mem_map.1 this
      simp only [toGItemM, Prod.mk.injEq] at he
      exact ⟨sb, hsb, he.1, he.2.1, he.2.2.symm⟩
    have hlv : LvOk (lvFrom a groups (planM a groups sb0).newSector 0 groups.length) (BshM a groups sb0) := by
      refine lvOk_of _ _ (lvDistinct_lvFrom _ _ _) fun ax e he => ?_
      obtain ⟨g, hg, hl⟩ := mem_lvFrom he
      obtain ⟨hm, rfl, rfl⟩ := lvlM_multi hl.symm
      rw [Nat.zero_add] at hm ⊢
      obtain ⟨gaxes, hgx, hlen⟩ := multiB_iff.1 hm
      obtain ⟨_, _, h3, h4⟩ := ext_facts hv hok hgx hlen hsb0
      refine ⟨by rw [hbl]; simp only [ndimM]; omega, ?_, h4⟩
      rw [BshM_getD sb0 (by simp only [ndimM]; omega), axMulti_mid hg, hm, h3]
      simp only [↓reduceIte, Nat.add_sub_cancel_left]
    have hleaf : ∀ qs, Choice (lvFrom a groups (planM a groups sb0).newSector 0 groups.length) qs →
        (leafM sub (zsM a groups (planM a groups sb0).newSector) ([] ++ qs.map (·.1))).shape
          = pieceShape (lvFrom a groups (planM a groups sb0).newSector 0 groups.length) (BshM a groups sb0) qs := by
      intro qs hqs
      have hql : qs.length = groups.length := (choice_length _ _ hqs).trans (lvFrom_length _ _ _)
      rw [pieceShape_full _ _ _ hbl hql, List.nil_append]
      unfold leafM
      cases hl : alookup sub (qs.map (·.1)) with
      | some b =>
        obtain ⟨sb, hsb, hns, hss, rfl⟩ := hsubmem _ b hl
        show (planM a groups sb).newShape = _
        apply list_ext_getD 0 (by rw [planM_newShape_length hok]; simp)
        intro k hk
        rw [planM_newShape_length hok] at hk
        rw [getD_range_map _ _ _ _ hk]
        by_cases hma : axMulti a groups k = true
        · obtain ⟨g, hg, rfl, hm⟩ := axMulti_cases hma
          simp only [hma, if_true, Nat.add_sub_cancel_left]
          obtain ⟨gaxes, hgx, hlen⟩ := multiB_iff.1 hm
          obtain ⟨_, h2, _, _⟩ := ext_facts hv hok hgx hlen hsb
          obtain ⟨st, hst⟩ := choice_size hv hok hsb0 hqs hg hm
          have hssg : ssM (a := a) (groups := groups) sb g = (qs.getD g ([], 0)).1 := by
            simp only [ssM]; rw [hss, getD_map_fst]
          rw [hns, hssg, hst] at h2
          simp only [Option.some.injEq, Prod.mk.injEq] at h2
          exact h2.2.symm
        · have hma' : axMulti a groups k = false := by simpa using hma
          simp only [hma', Bool.false_eq_true, if_false]
          rw [← BshM_eq_of_ns hv hok hsb hsb0 hns, BshM_getD sb hk]
          simp only [hma', Bool.false_eq_true, if_false]
      | none =>
        show zsM a groups (planM a groups sb0).newSector (qs.map (·.1)) = _
        simp only [zsM]
        apply List.map_congr_left
        intro ax hax
        simp only [List.mem_range] at hax
        by_cases hma : axMulti a groups ax = true
        · obtain ⟨g, hg, rfl, hm⟩ := axMulti_cases hma
          simp only [hma, if_true, Nat.add_sub_cancel_left]
          obtain ⟨st, hst⟩ := choice_size hv hok hsb0 hqs hg hm
          rw [getD_map_fst, hst]
          rfl
        · have hma' : axMulti a groups ax = false := by simpa using hma
          simp only [hma', Bool.false_eq_true, if_false, hsh]
    obtain ⟨hCs, hCget⟩ := nest_spec (leafM sub (zsM a groups (planM a groups sb0).newSector))
      (lvFrom a groups (planM a groups sb0).newSector 0 groups.length) [] (BshM a groups sb0) hlv hleaf
    have hleafwf : ∀ k, (leafM sub (zsM a groups (planM a groups sb0).newSector) k).wf = true := by
      intro k
      unfold leafM
      cases hl : alookup sub k with
      | some b =>
        obtain ⟨sb, hsb, _, _, rfl⟩ := hsubmem _ b hl
        exact srcM_wf hv hok hsb
      | none => exact ofFn_wf _ _
    apply blk_ext (insFold_wf _ _ _ (alookup_some_mem hB)) (nest_wf _ hleafwf _ _ _ hlv) (by rw [hBs, hCs])
    intro i hi
    rw [hBs] at hi
    obtain ⟨_, _, hget⟩ := hCget i hi
    rw [hget, List.nil_append]
    have hiS : inBox (shapeOfM a groups (planM a groups sb0).newSector) i = true := by rw [hsh]; exact hi
    unfold leafM
    cases hl : alookup sub ((decQ (lvFrom a groups (planM a groups sb0).newSector 0 groups.length) i).map (·.1)) with
    | some b =>
      obtain ⟨sb, hsb, hns, hss, rfl⟩ := hsubmem _ b hl
      have hi' : inBox (BshM a groups sb) i = true := by rw [BshM_eq_of_ns hv hok hsb hsb0 hns]; exact hi
      obtain ⟨_, l2, l3⟩ := region_link hv hok hsb hi'
      rw [hns] at l2 l3
      have hreg := l2.2 hss
      have hoff := l3 hreg
      have := hI.hit _ B hB (toItemM a groups sb) (List.mem_map.2 ⟨sb, hsb, rfl⟩) hns i hiS hreg
      rw [this]
      show ((sb.2.transposeK (giM a groups).perm).reshapeK (planM a groups sb).newShape).get
          (List.zipWith (· - ·) i (startsM a groups sb)) = _
      rw [hoff]
    | none =>
      show B.get i = (Blk.zeros _ : Blk R).get _
      rw [zeros_get]
      apply hI.miss _ B hB i hiS
      intro it hit hkey
      obtain ⟨sb, hsb, rfl⟩ := List.mem_map.1 hit
      have hns : (planM a groups sb).newSector = (planM a groups sb0).newSector := hkey
      have hi' : inBox (BshM a groups sb) i = true := by rw [BshM_eq_of_ns hv hok hsb hsb0 hns]; exact hi
      obtain ⟨_, l2, _⟩ := region_link hv hok hsb hi'
      rw [hns] at l2
      cases hreg : inRegion (toItemM a groups sb).2.1 (toItemM a groups sb).2.2.shape i with
      | false => rfl
      | true =>
        exfalso
        have hss := l2.1 hreg
        have hin : ((planM a groups sb0).newSector,
            (decQ (lvFrom a groups (planM a groups sb0).newSector 0 groups.length) i).map (·.1),
            (sb.2.transposeK (giM a groups).perm).reshapeK (planM a groups sb).newShape)
            ∈ a.blocks.map (toGItemM a groups) := by
          refine List.mem_map.2 ⟨sb, hsb, ?_⟩
          simp only [toGItemM, hns, hss]
        have := (hG.sub _ sub hsub _ _).2 hin
        rw [hl] at this; cases this
  · left
    constructor
    · rw [alookup_eq_none_iff, hI.keys, List.map_map]; exact hk
    · rw [hcl]
      have : alookup (groupedM a groups) ns = none := by
        rw [alookup_eq_none_iff, hG.keys, List.map_map]; exact hk
      rw [this]; rfl

end

end FuseP
end SymmModel
