/-
  SymmModel.Proofs.TwoStepN1 — the abelian einsum data (`einTraced`, `einTracedPos`, `einKeep`, `einPerm?`,
  `einSize`, `einIdx`) of the two-step labels `gLhs N PA PB -> gRhs N PA PB` in their NON-canonical position
  (traced pairs anywhere among the legs), for positions with `PA` strictly increasing and every `PA` entry
  below every `PB` entry (separator `K`).  Namespace `SymmModel.TwoStepP`.
-/
import SymmModel.Proofs.TwoStepOrder2

namespace SymmModel
namespace TwoStepP
open TdotP GradedP Lazy
set_option linter.unusedSectionVars false

theorem sorted_ext {l1 l2 : List Nat} (h1 : l1.Pairwise (· < ·)) (h2 : l2.Pairwise (· < ·))
    (h : ∀ x, x ∈ l1 ↔ x ∈ l2) : l1 = l2 :=
  List.Perm.eq_of_pairwise (le := (· < ·)) (fun _ _ _ _ hab hba => absurd hab (Nat.lt_asymm hba)) h1 h2
    ((List.perm_ext_iff_of_nodup (h1.imp Nat.ne_of_lt) (h2.imp Nat.ne_of_lt)).2 h)

theorem eraseDups_append_sub : ∀ (X Y : List Nat), X.Nodup → (∀ y ∈ Y, y ∈ X) → (X ++ Y).eraseDups = X
  | [], Y, _, h => by
    cases Y with
    | nil => simp
    | cons y _ => have := h y (by simp); simp at this
  | x :: X, Y, hn, h => by
    rw [List.nodup_cons] at hn
    rw [List.cons_append, List.eraseDups_cons, List.filter_append]
    have e1 : X.filter (fun b => !b == x) = X := by
      rw [List.filter_eq_self]; intro z hz
      have : z ≠ x := fun e => hn.1 (e ▸ hz)
      simp [this]
    rw [e1, eraseDups_append_sub X _ hn.2]
    intro y hy
    obtain ⟨hy1, hy2⟩ := List.mem_filter.mp hy
    have := h y hy1
    rw [List.mem_cons] at this
    rcases this with e | e
    · subst e; simp at hy2
    · exact e

theorem indexOf?_first {l : List Nat} {x j : Nat} (h : indexOf? l x = some j) :
    ∀ i, i < j → l[i]? ≠ some x := by
  induction l generalizing j with
  | nil => simp [indexOf?] at h
  | cons y ys ih =>
    simp only [indexOf?] at h
    by_cases hy : (y == x) = true
    · simp only [hy, if_true, Option.some.injEq] at h
      subst h; intro i hi; omega
    · simp only [hy, Bool.false_eq_true, if_false] at h
      cases hq : indexOf? ys x with
      | none => simp [hq] at h
      | some j' =>
        simp only [hq, Option.map_some, Option.some.injEq] at h
        subst h
        intro i hi
        cases i with
        | zero =>
          intro e
          simp only [List.getElem?_cons_zero, Option.some.injEq] at e
          exact hy (by simp [e])
        | succ i =>
          simp only [List.getElem?_cons_succ]
          exact ih hq i (by omega)

theorem indexOf?_eq_first {l : List Nat} {x k : Nat} (hk : l[k]? = some x)
    (hf : ∀ j, j < k → l[j]? ≠ some x) : indexOf? l x = some k := by
  obtain ⟨j, hj, hj'⟩ := indexOf?_of_mem (List.mem_of_getElem? hk)
  rcases Nat.lt_trichotomy j k with h | h | h
  · exact absurd hj' (hf j h)
  · rw [hj, h]
  · exact absurd hk (indexOf?_first hj k h)

section geo
variable {N m : Nat} {PA PB : List Nat} (g : Geo N m PA PB)
include g

theorem lab_cases {p : Nat} (hp : p < N) :
    (∃ i, i < m ∧ p = PA.getD i 0) ∨ (∃ i, i < m ∧ p = PB.getD i 0) ∨ p ∈ gRhs N PA PB := by
  by_cases hA : p ∈ PA
  · left
    obtain ⟨i, hi, rfl⟩ := List.getElem_of_mem hA
    exact ⟨i, g.lenA ▸ hi, by simp [List.getD_eq_getElem?_getD, hi]⟩
  · by_cases hB : p ∈ PB
    · right; left
      obtain ⟨i, hi, rfl⟩ := List.getElem_of_mem hB
      exact ⟨i, g.lenB ▸ hi, by simp [List.getD_eq_getElem?_getD, hi]⟩
    · right; right
      exact mem_gRhs.2 ⟨hp, hA, hB⟩

theorem getA_inj {i j : Nat} (hi : i < m) (hj : j < m) (h : PA.getD i 0 = PA.getD j 0) : i = j := by
  have h1 := (g.getA hi).2
  rw [h, (g.getA hj).2] at h1
  exact (Option.some.inj h1).symm

theorem getB_inj {i j : Nat} (hi : i < m) (hj : j < m) (h : PB.getD i 0 = PB.getD j 0) : i = j := by
  have h1 := (g.getB hi).2
  rw [h, (g.getB hj).2] at h1
  exact (Option.some.inj h1).symm

theorem getAB_ne {i j : Nat} (hi : i < m) (hj : j < m) : PA.getD i 0 ≠ PB.getD j 0 := fun h =>
  (List.disjoint_of_nodup_append g.nd) (g.getA hi).1 (h ▸ (g.getB hj).1)

theorem lab_eq_iff {p i : Nat} (hp : p < N) (hi : i < m) :
    lab N PA PB p = N + i ↔ (p = PA.getD i 0 ∨ p = PB.getD i 0) := by
  constructor
  · intro h
    rcases lab_cases g hp with ⟨j, hj, rfl⟩ | ⟨j, hj, rfl⟩ | hr
    · rw [labA g hj] at h
      have : j = i := by omega
      subst this; exact Or.inl rfl
    · rw [labB g hj] at h
      have : j = i := by omega
      subst this; exact Or.inr rfl
    · rw [labR hr] at h; omega
  · rintro (rfl | rfl)
    · exact labA g hi
    · exact labB g hi

theorem lab_not_rhs {p : Nat} (hp : p < N) : lab N PA PB p ∈ gRhs N PA PB ↔ p ∈ gRhs N PA PB := by
  constructor
  · intro h
    rcases lab_cases g hp with ⟨j, hj, rfl⟩ | ⟨j, hj, rfl⟩ | hr
    · rw [labA g hj] at h; exact absurd h (not_mem_gRhs_ge (by omega))
    · rw [labB g hj] at h; exact absurd h (not_mem_gRhs_ge (by omega))
    · exact hr
  · intro h; rw [labR h]; exact h

theorem idx_rhs {p : Nat} (h : p ∈ gRhs N PA PB) : indexOf? (gLhs N PA PB) p = some p := by
  have hp := (mem_gRhs.1 h).1
  apply indexOf?_eq_first
  · rw [gLhs_getElem? N PA PB hp, labR h]
  · intro j hj
    rw [gLhs_getElem? N PA PB (by omega)]
    intro e
    have e := Option.some.inj e
    rcases lab_cases g (show j < N by omega) with ⟨i, hi, rfl⟩ | ⟨i, hi, rfl⟩ | hr
    · rw [labA g hi] at e; omega
    · rw [labB g hi] at e; omega
    · rw [labR hr] at e; omega

variable {K : Nat} (hK1 : ∀ p ∈ PA, p < K) (hK2 : ∀ q ∈ PB, K ≤ q)
include hK1 hK2

/-- first position of a traced label: the `PA` leg -/
theorem idx_A {i : Nat} (hi : i < m) : indexOf? (gLhs N PA PB) (N + i) = some (PA.getD i 0) := by
  have hp := g.ltA (g.getA hi).1
  apply indexOf?_eq_first
  · rw [gLhs_getElem? N PA PB hp, labA g hi]
  · intro j hj
    rw [gLhs_getElem? N PA PB (by omega)]
    intro e
    have e := Option.some.inj e
    rcases (lab_eq_iff g (show j < N by omega) hi).1 e with rfl | rfl
    · omega
    · have := hK1 _ (g.getA hi).1
      have := hK2 _ (g.getB hi).1
      omega

theorem einSize_rhs (shape : List Nat) (hs : shape.length = N) :
    (gRhs N PA PB).map (einSize shape (gLhs N PA PB)) = permuted shape (gRhs N PA PB) := by
  rw [permuted_eq_map shape _ (fun x hx => by rw [hs]; exact (mem_gRhs.1 hx).1) 0]
  apply List.map_congr_left
  intro p hp
  unfold einSize
  rw [idx_rhs g hp]

theorem einPerm?_g : einPerm? (gLhs N PA PB) (gRhs N PA PB) = .ok (gRhs N PA PB) := by
  unfold einPerm?
  rw [mapM_ok_of_forall _ (fun q => q)]
  · rw [List.map_id']
  · intro q hq
    rw [idx_rhs g hq]; rfl

variable (hinc : PA.Pairwise (· < ·)) (hKN : K ≤ N)
include hinc hKN

/-- `einTraced` lists the traced labels in the order of their first appearance: with `PA` increasing and
    below `PB` that is the order of the pairs -/
theorem einTraced_g : einTraced (gLhs N PA PB) (gRhs N PA PB) = (List.range m).map (N + ·) := by
  unfold einTraced
  rw [gLhs_eq_lab, List.filter_map]
  have hN : N = K + (N - K) := by omega
  have hsplit : List.range N = List.range K ++ (List.range (N - K)).map (K + ·) := by
    conv => lhs; rw [hN]
    exact List.range_add
  rw [hsplit, List.filter_append, List.map_append]
  have h1 : (List.range K).filter ((fun q => !(gRhs N PA PB).contains q) ∘ lab N PA PB) = PA := by
    apply sorted_ext (List.Pairwise.filter _ List.pairwise_lt_range) hinc
    intro x
    rw [List.mem_filter, List.mem_range]
    simp only [Function.comp, Bool.not_eq_eq_eq_not, Bool.not_true, List.contains_eq_mem,
      decide_eq_false_iff_not]
    constructor
    · rintro ⟨hx, hnr⟩
      have hxN : x < N := by omega
      rw [lab_not_rhs g hxN] at hnr
      rcases lab_cases g hxN with ⟨i, hi, rfl⟩ | ⟨i, hi, rfl⟩ | hr
      · exact (g.getA hi).1
      · have := hK2 _ (g.getB hi).1; omega
      · exact absurd hr hnr
    · intro hx
      refine ⟨hK1 x hx, ?_⟩
      rw [lab_not_rhs g (g.ltA hx)]
      exact fun h => (mem_gRhs.1 h).2.1 hx
  rw [h1]
  have h2 : PA.map (lab N PA PB) = (List.range m).map (N + ·) := by
    apply List.ext_getElem
    · simp [g.lenA]
    · intro i h1 h2
      have hi : i < m := by simpa using h2
      simp only [List.getElem_map, List.getElem_range]
      have hiA : i < PA.length := g.lenA ▸ hi
      have e : PA[i] = PA.getD i 0 := by simp [List.getD_eq_getElem?_getD, hiA]
      rw [e, labA g hi]
  rw [h2]
  apply eraseDups_append_sub
  · exact nodup_range_add N m
  · intro y hy
    obtain ⟨p, hp, rfl⟩ := List.mem_map.1 hy
    obtain ⟨hp1, hp2⟩ := List.mem_filter.1 hp
    obtain ⟨d, hd, rfl⟩ := List.mem_map.1 hp1
    have hd := List.mem_range.1 hd
    have hpN : K + d < N := by omega
    simp only [Function.comp, Bool.not_eq_eq_eq_not, Bool.not_true, List.contains_eq_mem,
      decide_eq_false_iff_not] at hp2
    rw [lab_not_rhs g hpN] at hp2
    rcases lab_cases g hpN with ⟨i, hi, e⟩ | ⟨i, hi, e⟩ | hr
    · have := hK1 _ (g.getA hi).1; omega
    · rw [e, labB g hi]
      exact List.mem_map.2 ⟨i, List.mem_range.2 hi, rfl⟩
    · exact absurd hr hp2

omit hinc hKN in
theorem zipIdx_gLhs : (gLhs N PA PB).zipIdx = (List.range N).map (fun p => (lab N PA PB p, p)) := by
  rw [gLhs_eq_lab]
  apply List.ext_getElem
  · simp
  · intro i h1 h2
    simp

theorem einTracedPos_g :
    einTracedPos (gLhs N PA PB) (gRhs N PA PB)
      = (List.range m).map (fun i => [PA.getD i 0, PB.getD i 0]) := by
  unfold einTracedPos
  rw [einTraced_g g hK1 hK2 hinc hKN, List.map_map]
  apply List.map_congr_left
  intro i hi
  have hi := List.mem_range.1 hi
  simp only [Function.comp]
  rw [zipIdx_gLhs g hK1 hK2, List.filter_map, List.map_map]
  have hid : ((fun p : Nat × Nat => p.2) ∘ fun p => (lab N PA PB p, p)) = id := rfl
  rw [hid, List.map_id]
  apply sorted_ext (List.Pairwise.filter _ List.pairwise_lt_range)
  · have := hK1 _ (g.getA hi).1
    have := hK2 _ (g.getB hi).1
    simp only [List.pairwise_cons, List.mem_cons, List.not_mem_nil, or_false, forall_eq,
      false_imp_iff, implies_true, List.Pairwise.nil, and_true]
    omega
  · intro x
    rw [List.mem_filter, List.mem_range]
    simp only [Function.comp, beq_iff_eq, List.mem_cons, List.not_mem_nil, or_false]
    constructor
    · rintro ⟨hx, e⟩; exact (lab_eq_iff g hx hi).1 e
    · intro h
      have hx : x < N := by
        rcases h with rfl | rfl
        · exact g.ltA (g.getA hi).1
        · exact g.ltB (g.getB hi).1
      exact ⟨hx, (lab_eq_iff g hx hi).2 h⟩

theorem einTracedPos_len2 :
    (einTracedPos (gLhs N PA PB) (gRhs N PA PB)).any (fun js => js.length != 2) = false := by
  rw [einTracedPos_g g hK1 hK2 hinc hKN, List.any_map]
  rw [List.any_eq_false]
  intro i _
  simp

theorem einKeep_g (s : Sector) (hs : s.length = N) :
    einKeep (gLhs N PA PB) (gRhs N PA PB) s = (permuted s PA == permuted s PB) := by
  unfold einKeep
  rw [einTracedPos_g g hK1 hK2 hinc hKN, List.all_map, Bool.eq_iff_iff, List.all_eq_true, beq_iff_eq,
    permuted_eq_iff s (fun x hx => by rw [hs]; exact g.ltA hx) (fun x hx => by rw [hs]; exact g.ltB hx)
      g.lenA g.lenB]
  constructor
  · intro h i hi
    exact beq_iff_eq.mp (h i (List.mem_range.2 hi))
  · intro h i hi
    exact beq_iff_eq.mpr (h i (List.mem_range.1 hi))

theorem einSize_traced (shape : List Nat) (hs : shape.length = N) :
    (einTraced (gLhs N PA PB) (gRhs N PA PB)).map (einSize shape (gLhs N PA PB)) = permuted shape PA := by
  rw [einTraced_g g hK1 hK2 hinc hKN, List.map_map,
    permuted_eq_map shape _ (fun x hx => by rw [hs]; exact g.ltA hx) 0]
  apply List.ext_getElem
  · simp [g.lenA]
  · intro i h1 h2
    have hi : i < m := by simpa using h1
    simp only [List.getElem_map, List.getElem_range, Function.comp]
    unfold einSize
    rw [idx_A g hK1 hK2 hi]
    have hiA : i < PA.length := g.lenA ▸ hi
    have e : PA[i] = PA.getD i 0 := by simp [List.getD_eq_getElem?_getD, hiA]
    rw [e]

theorem einIdx_g (Z o t : List Nat) (hZ : Z.length = N)
    (hA : permuted Z PA = t) (hB : permuted Z PB = t) (hR : permuted Z (gRhs N PA PB) = o) :
    einIdx (gLhs N PA PB) (gRhs N PA PB) o t = Z := by
  unfold einIdx
  rw [einTraced_g g hK1 hK2 hinc hKN]
  apply List.ext_getElem?
  intro p
  by_cases hp : p < N
  · rw [List.getElem?_map, gLhs_getElem? N PA PB hp, Option.map_some]
    have hZp : Z[p]? = some (Z.getD p 0) := by simp [List.getD_eq_getElem?_getD, hZ, hp]
    rw [hZp]
    congr 1
    have h1 : ∀ i, indexOf? (gRhs N PA PB) (N + i) = none := fun i =>
      indexOf?_eq_none_iff.2 (not_mem_gRhs_ge (Nat.le_add_right _ _))
    rcases lab_cases g hp with ⟨i, hi, rfl⟩ | ⟨i, hi, rfl⟩ | hr
    · rw [labA g hi]
      simp only [h1, indexOf?_range_add N hi]
      rw [← hA, getD_permuted_ax Z PA (fun x hx => by rw [hZ]; exact g.ltA hx) i
        (by rw [g.lenA]; exact hi) 0]
    · rw [labB g hi]
      simp only [h1, indexOf?_range_add N hi]
      rw [← hB, getD_permuted_ax Z PB (fun x hx => by rw [hZ]; exact g.ltB hx) i
        (by rw [g.lenB]; exact hi) 0]
    · rw [labR hr]
      obtain ⟨j, hj, hj'⟩ := indexOf?_of_mem hr
      simp only [hj]
      have := permuted_getElem? Z (gRhs N PA PB)
        (fun x hx => by rw [hZ]; exact (mem_gRhs.1 hx).1) j
      rw [hR, hj', Option.bind_some, hZp] at this
      simp [List.getD_eq_getElem?_getD, this]
  · rw [List.getElem?_eq_none (by simp [gLhs_length]; omega), List.getElem?_eq_none (by omega)]

end geo

end TwoStepP
end SymmModel
