/-
  SymmModel.Proofs.Dense6d — `reshape` runs the steps of its plan (abelian arrays); Boolean form of
  `StepsOk`.
-/
import SymmModel.Proofs.Dense6c

namespace SymmModel
namespace Dense6
open Dense3 Dense5 FuseP

variable {R : Type} [Zero R] [Neg R]

/-- a step with Python's method resolution (as `applyPlan` performs it) -/
def PStep.dispatch : PStep → Arr R → Except Err (Arr R)
  | .unfuse ax, x => unfuseDispatch x ax
  | .fuse g, x => fuseDispatch x g
  | .expand ax, x => expandDispatch x ax

theorem applyPlan_eq_dispatch (a : Arr R) (t : List Nat × List (List (List Nat)) × List Nat) :
    applyPlan a t = (stepsOf t).foldlM (fun x st => st.dispatch x) a := by
  obtain ⟨us, fs, es⟩ := t
  have e1 : (fun (x : Arr R) (y : Nat) => (PStep.unfuse y).dispatch x) = unfuseDispatch := rfl
  have e2 : (fun (x : Arr R) (y : List (List Nat)) => (PStep.fuse y).dispatch x) = fuseDispatch := rfl
  have e3 : (fun (x : Arr R) (y : Nat) => (PStep.expand y).dispatch x) = expandDispatch := rfl
  simp only [applyPlan, stepsOf, List.foldlM_append, List.foldlM_map, bind, Except.bind]
  rw [e1, e2, e3]
  cases List.foldlM unfuseDispatch a us <;> rfl

theorem dispatch_eq_run (steps : List PStep) (a : Arr R) (hv : a.validB = true)
    (hf : a.fermi = false) (hok : StepsOk steps a) :
    steps.foldlM (fun x st => st.dispatch x) a = runSteps steps a := by
  induction steps generalizing a with
  | nil => rfl
  | cons st rest ih =>
    simp only [runSteps, List.foldlM_cons, bind, Except.bind]
    have hsame : st.dispatch a = st.apply a := by
      cases st with
      | unfuse ax => simp [PStep.dispatch, PStep.apply, unfuseDispatch, hf]
      | fuse g =>
        obtain ⟨hg, _⟩ := hok
        simp only [PStep.dispatch, PStep.apply, fuseDispatch, hf, Bool.false_eq_true, if_false]
        exact C05.fuseA_eq_fuseCore a g .insert true a.ndim hg
      | expand ax =>
        obtain ⟨ha, _⟩ := hok
        simp only [PStep.dispatch, PStep.apply, expandDispatch]
        rw [if_neg (by omega)]
    rw [hsame]
    cases hx : st.apply a with
    | error e => rfl
    | ok x =>
      simp only
      have hnext : x.validB = true ∧ x.fermi = false ∧ StepsOk rest x := by
        cases st with
        | unfuse ax =>
          obtain ⟨⟨ix, subs, exts, hix, hsub⟩, hrest⟩ := hok
          have hx' : unfuseA a ax = .ok x := hx
          obtain ⟨y', hy', U⟩ := unfuseU (validArr_of_validB hv) hix hsub
          rw [hx'] at hy'; injection hy' with hy'; subst hy'
          exact ⟨ValidP.unfuseA_validB a x ax hv hf hx', by rw [U.fermi]; exact hf, (hrest x hx').2⟩
        | fuse g =>
          obtain ⟨hg, hrest⟩ := hok
          have hx' : fuseCore a g .insert = .ok x := hx
          obtain ⟨hxv, hxf⟩ := fuseCore_keeps hv hf hg hx'
          exact ⟨hxv, hxf, (hrest x hx').2⟩
        | expand ax =>
          obtain ⟨ha, hokx⟩ := hok
          simp only [PStep.apply, pure, Except.pure, Except.ok.injEq] at hx
          subst hx
          obtain ⟨_, _, _, hfer, _, _, _⟩ := expandDims_fields a ax none none
          exact ⟨C01.expandDims_none_valid a ax none hv, by rw [hfer]; exact hf, hokx⟩
      exact ih x hnext.1 hnext.2.1 hnext.2.2

/-- `StepsOk` by running the steps (a decidable sufficient condition) -/
def stepsOkB : List PStep → Arr R → Bool
  | [], _ => true
  | .unfuse ax :: rest, a =>
      (match a.indices[ax]? with
        | some ix => ix.sub.isSome
        | none => false)
      && (match unfuseA a ax with
          | .ok y => !(y.indices.any (fun ix => ix.cm.isEmpty)) && stepsOkB rest y
          | .error _ => true)
  | .fuse g :: rest, a => FuseP.groupsOkB g a.ndim
      && (match fuseCore a g .insert with
          | .ok x => !(x.indices.any (fun ix => ix.cm.isEmpty)) && stepsOkB rest x
          | .error _ => true)
  | .expand ax :: rest, a => decide (ax ≤ a.ndim) && stepsOkB rest (a.expandDims ax none none)

omit [Neg R] in
theorem stepsOk_of_B (steps : List PStep) (a : Arr R) (h : stepsOkB steps a = true) :
    StepsOk steps a := by
  induction steps generalizing a with
  | nil => trivial
  | cons st rest ih =>
    cases st with
    | unfuse ax =>
      simp only [stepsOkB, Bool.and_eq_true] at h
      obtain ⟨h1, h2⟩ := h
      refine ⟨?_, fun y hy => ?_⟩
      · cases hix : a.indices[ax]? with
        | none => simp [hix] at h1
        | some ix =>
          simp only [hix] at h1
          obtain ⟨se, hse⟩ := Option.isSome_iff_exists.mp h1
          exact ⟨ix, se.1, se.2, rfl, hse⟩
      · rw [hy] at h2
        simp only [Bool.and_eq_true, Bool.not_eq_true'] at h2
        exact ⟨h2.1, ih y h2.2⟩
    | fuse g =>
      simp only [stepsOkB, Bool.and_eq_true] at h
      refine ⟨h.1, fun x hx => ?_⟩
      have h2 := h.2
      rw [hx] at h2
      simp only [Bool.and_eq_true, Bool.not_eq_true'] at h2
      exact ⟨h2.1, ih x h2.2⟩
    | expand ax =>
      simp only [stepsOkB, Bool.and_eq_true, decide_eq_true_eq] at h
      exact ⟨h.1, ih _ h.2⟩

end Dense6
end SymmModel
