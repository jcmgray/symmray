/-
  SymmModel.Proofs.BaseExcept — reading a computation in `Except` that returned: a bind returned at both steps
  (`bind_ok_iff`, `bind_ok`), continuations compared at the value produced (`bind_congr_ok`), `mapM` with
  steps that all return, an invariant along `foldlM`.  Core Lean only; imported by BaseList.
-/

namespace SymmModel

theorem bind_ok_iff {ε α β : Type} {x : Except ε α} {f : α → Except ε β} {b : β} :
    (x >>= f) = .ok b ↔ ∃ a, x = .ok a ∧ f a = .ok b := by
  cases x with
  | error e =>
    constructor
    · intro h; cases h
    · rintro ⟨a, h, _⟩; cases h
  | ok a =>
    constructor
    · intro h; exact ⟨a, rfl, h⟩
    · rintro ⟨a', h, hf⟩; cases h; exact hf

theorem bind_ok {ε α β : Type} {x : Except ε α} {f : α → Except ε β} {b : β}
    (h : x >>= f = .ok b) : ∃ a, x = .ok a ∧ f a = .ok b :=
  bind_ok_iff.mp h

/-- stated with the continuations as variables, so that no `rfl` has to compare two unfolded models -/
theorem bind_congr_ok {ε α β : Type} {x : Except ε α} {f g : α → Except ε β}
    (h : ∀ v, x = .ok v → f v = g v) : x >>= f = x >>= g := by
  cases x with
  | error e => rfl
  | ok v => exact h v rfl

theorem mapM_ok_of_forall {ε α β : Type} (f : α → Except ε β) (g : α → β) (l : List α)
    (h : ∀ a ∈ l, f a = .ok (g a)) : l.mapM f = .ok (l.map g) := by
  induction l with
  | nil => rfl
  | cons a l ih =>
    rw [List.mapM_cons, h a (by simp), ih (fun x hx => h x (List.mem_cons_of_mem _ hx))]
    rfl

theorem foldlM_ok_inv {α β ε : Type} (P : β → Prop) (f : β → α → Except ε β) (l : List α) (b r : β)
    (hb : P b) (hf : ∀ b x b', x ∈ l → P b → f b x = .ok b' → P b')
    (h : l.foldlM f b = .ok r) : P r := by
  induction l generalizing b with
  | nil => simp only [List.foldlM_nil] at h; cases h; exact hb
  | cons x xs ih =>
    rw [List.foldlM_cons] at h
    cases hx : f b x with
    | error e => rw [hx] at h; cases h
    | ok b' =>
      rw [hx] at h
      exact ih b' (hf b x b' (by simp) hb hx) (fun b y b'' hy => hf b y b'' (by simp [hy])) h

end SymmModel
