/-
  SymmModel.Proofs.FuseMultiU — `unfuseA` in certificate form: for ANY array whose index at
  `axis` is a well-formed fused index, the blocks of `unfuse x axis` are exactly the slices of the
  blocks of `x` along the extents of the table, and their entries are the entries of `x` at the
  joined offsets.  A multi-index of a piece is handled in its three parts `A ++ S ++ T` (before the axis, the
  sub-indices of the axis, after: `inBox_parts`, `pieceU_get_parts`); the statements about `J.take p`,
  `(J.drop p).take n`, `J.drop (p + n)` follow through `exists_box_parts`.
-/
import SymmModel.Proofs.FuseMulti7
namespace SymmModel
namespace FuseP
set_option linter.unusedSectionVars false

variable {R : Type}

theorem zipWith_add_set {i : List Nat} {n p st : Nat} (hl : i.length = n) :
    List.zipWith (· + ·) i ((List.replicate n 0).set p st) = i.set p (i.getD p 0 + st) := by
  apply List.ext_getElem?
  intro k
  simp only [List.getElem?_zipWith, List.getElem?_set, List.getElem?_replicate, List.length_replicate]
  by_cases hk : k < n
  · have hk' : k < i.length := by omega
    rw [List.getElem?_eq_getElem hk']
    by_cases hpk : p = k
    · subst hpk
      simp [hk, hk', List.getD_eq_getElem?_getD]
    · simp [hpk, hk]
  · have hk' : ¬ k < i.length := by omega
    rw [List.getElem?_eq_none (Nat.le_of_not_lt hk')]
    by_cases hpk : p = k
    · subst hpk; simp [hk']
    · simp [hpk]

theorem replaceWithSeq_split {α : Type} (l : List α) (p : Nat) (seq : List α) :
    replaceWithSeq l p seq = l.take p ++ seq ++ l.drop (p + 1) := rfl

theorem wfB_cm_extent {sym : Sym} {ix : Index} (hw : Index.wfB sym ix = true) {subs : List Index}
    {exts : Extents} (hs : ix.sub = some (subs, exts)) {c : Charge} {D : Nat} (hc : ix.sizeOf? c = some D) :
    ∃ e, alookup exts c = some e ∧ ExtentOk sym ix.dual subs c D e := by
  obtain ⟨_, _, h3, _⟩ := Index.wfB_sub hw hs
  obtain ⟨e, he, hok⟩ := h3 (c, D) (alookup_some_mem hc)
  exact ⟨e, he, extentOk_iff.1 hok⟩

section U
variable [Zero R] {x : Arr R} {p : Nat} {ix : Index} {subs : List Index} {exts : Extents}

theorem block_at_axis (hv : ValidArr x) (hix : x.indices[p]? = some ix) (hsub : ix.sub = some (subs, exts))
    {nsB : Sector × Blk R} (h : nsB ∈ x.blocks) :
    p < nsB.1.length ∧ nsB.1.length = x.indices.length ∧ nsB.2.shape.length = x.indices.length
      ∧ ∃ e, alookup exts (nsB.1.getD p (0, 0)) = some e
          ∧ ExtentOk x.sym ix.dual subs (nsB.1.getD p (0, 0)) (nsB.2.shape.getD p 0) e := by
  have hb := hv.blk nsB h
  have hl := blockShape?_length hb.2.1
  have hp : p < x.indices.length := getElem?_lt hix
  obtain ⟨ix', c, h1, h2, h3, h4, h5⟩ := blockShape?_get hb.2.1 hp
  rw [hix] at h1; simp only [Option.some.injEq] at h1; subst h1
  have hw := hv.idx ix (getElem?_mem' hix)
  obtain ⟨e, he, hok⟩ := wfB_cm_extent hw hsub h3
  refine ⟨by omega, hl.1.symm, by omega, e, by rw [h5]; exact he, by rw [h5]; exact hok⟩

theorem inBox_parts {Bsh sub A S T : List Nat} {p : Nat} (hp : p < Bsh.length) (hA : A.length = p)
    (hS : S.length = sub.length) (hJ : inBox (replaceWithSeq Bsh p sub) (A ++ S ++ T) = true) :
    A.length = (Bsh.take p).length ∧ inBox (Bsh.take p) A = true ∧ inBox sub S = true
      ∧ inBox (Bsh.drop (p + 1)) T = true := by
  have htl : A.length = (Bsh.take p).length := by rw [hA, List.length_take]; omega
  rw [replaceWithSeq_split, inBox_append (by rw [List.length_append, htl, hS, List.length_append]),
    inBox_append htl] at hJ
  simp only [Bool.and_eq_true] at hJ
  exact ⟨htl, hJ.1.1, hJ.1.2, hJ.2⟩

theorem three_split {α : Type} (A S T : List α) :
    (A ++ S ++ T).take A.length = A ∧ ((A ++ S ++ T).drop A.length).take S.length = S
      ∧ (A ++ S ++ T).drop (A.length + S.length) = T := by
  refine ⟨?_, ?_, ?_⟩
  · rw [List.append_assoc, List.take_left']; rfl
  · rw [List.append_assoc, List.drop_left' rfl, List.take_left' rfl]
  · have : A.length + S.length = (A ++ S).length := by simp
    rw [this, List.drop_left' rfl]

theorem list_split3 {α : Type} (J : List α) (p n : Nat) :
    J = J.take p ++ (J.drop p).take n ++ J.drop (p + n) := by
  rw [List.append_assoc, ← List.drop_drop, List.take_append_drop, List.take_append_drop]

theorem exists_parts {α : Type} (K : List α) (p L : Nat) (h : p + L ≤ K.length) :
    ∃ A S X, K = A ++ S ++ X ∧ A.length = p ∧ S.length = L := by
  refine ⟨K.take p, (K.drop p).take L, K.drop (p + L), list_split3 K p L, ?_, ?_⟩
  · rw [List.length_take]; omega
  · rw [List.length_take, List.length_drop]; omega

theorem exists_box_parts {Bsh sub J : List Nat} {p : Nat} (hp : p < Bsh.length)
    (hJ : inBox (replaceWithSeq Bsh p sub) J = true) :
    ∃ A S T, J = A ++ S ++ T ∧ A.length = p ∧ S.length = sub.length := by
  have hJl := inBox_length hJ
  simp only [replaceWithSeq_split, List.length_append, List.length_take, List.length_drop] at hJl
  exact exists_parts J p sub.length (by omega)

theorem inBox_replace_parts {Bsh sub J : List Nat} {p : Nat} (hp : p < Bsh.length)
    (hJ : inBox (replaceWithSeq Bsh p sub) J = true) :
    (J.take p).length = (Bsh.take p).length
      ∧ inBox (Bsh.take p) (J.take p) = true ∧ inBox sub ((J.drop p).take sub.length) = true
      ∧ inBox (Bsh.drop (p + 1)) (J.drop (p + sub.length)) = true := by
  obtain ⟨A, S, T, rfl, rfl, hS⟩ := exists_box_parts hp hJ
  rw [← hS, (three_split A S T).1, (three_split A S T).2.1, (three_split A S T).2.2]
  exact inBox_parts hp rfl hS hJ

/-- one piece of `unfuse` -/
def pieceU (B : Blk R) (p st d : Nat) (subshape : List Nat) : Blk R :=
  (B.sliceK ((List.replicate B.shape.length 0).set p st) (B.shape.set p d)).reshapeK
    (replaceWithSeq B.shape p subshape)

theorem pieceU_get_parts (B : Blk R) {p st d : Nat} {subshape : List Nat} (hp : p < B.shape.length)
    (hd : prod subshape = d) (hb : st + d ≤ B.shape.getD p 0) {A S T : List Nat}
    (hA : A.length = p) (hS : S.length = subshape.length)
    (hJ : inBox (replaceWithSeq B.shape p subshape) (A ++ S ++ T) = true) :
    (pieceU B p st d subshape).get (A ++ S ++ T) = B.get (A ++ [st + ravel subshape S] ++ T) := by
  obtain ⟨htl, hJ1, hJ2, hJ3⟩ := inBox_parts hp hA hS hJ
  have hr : ravel subshape S < prod subshape := ravel_lt hJ2
  have hlens : B.shape.set p d = B.shape.take p ++ [d] ++ B.shape.drop (p + 1) := set_split_at _ _ _ hp
  have hIbox : inBox (B.shape.set p d) (A ++ [ravel subshape S] ++ T) = true := by
    rw [hlens, inBox_append (by simp [htl]), inBox_append htl, hJ1, hJ3]
    simp only [inBox, Bool.and_true, Bool.true_and, decide_eq_true_eq]
    omega
  have hrav : ravel (replaceWithSeq B.shape p subshape) (A ++ S ++ T)
      = ravel (B.shape.set p d) (A ++ [ravel subshape S] ++ T) := by
    rw [hlens, ← hd, replaceWithSeq_split]
    have := ravel_group (A := B.shape.take p) (M := subshape) (C := B.shape.drop (p + 1)) (ia := A) (ic := T)
      (r := ravel subshape S) htl hr
    rw [unravel_ravel hJ2] at this
    exact this.symm
  show (Blk.reshapeK _ _).get (A ++ S ++ T) = _
  rw [reshapeK_get, hrav]
  show (B.sliceK ((List.replicate B.shape.length 0).set p st) (B.shape.set p d)).get (A ++ [ravel subshape S] ++ T) = _
  rw [sliceK_get _ _ _ hIbox]
  refine congrArg _ ?_
  have hIl : (A ++ [ravel subshape S] ++ T).length = B.shape.length := by simpa using inBox_length hIbox
  have hgetp : (A ++ [ravel subshape S] ++ T).getD p 0 = ravel subshape S := by
    have := getD_mid A [ravel subshape S] T 0 0 (by simp)
    rw [hA] at this
    simpa using this
  rw [zipWith_add_set hIl, hgetp]
  have := set_mid A T (ravel subshape S) (ravel subshape S + st)
  rw [hA] at this
  rw [this, Nat.add_comm]

theorem pieceU_get (B : Blk R) {p st d : Nat} {subshape : List Nat} (hp : p < B.shape.length)
    (hd : prod subshape = d) (hb : st + d ≤ B.shape.getD p 0) {J : List Nat}
    (hJ : inBox (replaceWithSeq B.shape p subshape) J = true) :
    (pieceU B p st d subshape).get J
      = B.get (J.take p ++ [st + ravel subshape ((J.drop p).take subshape.length)]
          ++ J.drop (p + subshape.length)) := by
  obtain ⟨A, S, T, rfl, rfl, hS⟩ := exists_box_parts hp hJ
  rw [pieceU_get_parts B hp hd hb rfl hS hJ, ← hS, (three_split A S T).1, (three_split A S T).2.1,
    (three_split A S T).2.2]

theorem mem_piecesU (hv : ValidArr x) (hix : x.indices[p]? = some ix) (hsub : ix.sub = some (subs, exts))
    {K : Sector} {V : Blk R} :
    (K, V) ∈ x.blocks.flatMap (piecesOf subs exts p)
    ↔ ∃ nsB ∈ x.blocks, ∃ e ss st d, alookup exts (nsB.1.getD p (0, 0)) = some e ∧ startOf e ss = some (st, d)
        ∧ K = replaceWithSeq nsB.1 p ss
        ∧ V = pieceU nsB.2 p st d ((Arr.blockShape? subs ss).getD []) := by
  simp only [List.mem_flatMap, piecesOf, List.mem_map]
  constructor
  · rintro ⟨nsB, hnsB, q, hq, heq⟩
    obtain ⟨_, _, _, e, he, hok⟩ := block_at_axis hv hix hsub hnsB
    rw [he] at hq
    simp only [Option.getD_some] at hq
    obtain ⟨⟨ss, d⟩, st⟩ := q
    have hst := (mem_zip_offsets hok.nodup).1 hq
    simp only [Prod.mk.injEq] at heq
    exact ⟨nsB, hnsB, e, ss, st, d, he, hst, heq.1.symm, heq.2.symm⟩
  · rintro ⟨nsB, hnsB, e, ss, st, d, he, hst, rfl, rfl⟩
    obtain ⟨_, _, _, e', he', hok⟩ := block_at_axis hv hix hsub hnsB
    rw [he] at he'; simp only [Option.some.injEq] at he'; subst he'
    refine ⟨nsB, hnsB, ((ss, d), st), ?_, rfl⟩
    simp only [he, Option.getD_some]
    exact (mem_zip_offsets hok.nodup).2 hst

theorem keyU_inj (hv : ValidArr x) (hix : x.indices[p]? = some ix) (hsub : ix.sub = some (subs, exts))
    {n1 n2 : Sector × Blk R} (h1 : n1 ∈ x.blocks) (h2 : n2 ∈ x.blocks)
    {e1 e2 : Extent} {s1 s2 : Sector} {st1 d1 st2 d2 : Nat}
    (he1 : alookup exts (n1.1.getD p (0, 0)) = some e1) (hs1 : startOf e1 s1 = some (st1, d1))
    (he2 : alookup exts (n2.1.getD p (0, 0)) = some e2) (hs2 : startOf e2 s2 = some (st2, d2))
    (hk : replaceWithSeq n1.1 p s1 = replaceWithSeq n2.1 p s2) : n1 = n2 ∧ s1 = s2 := by
  obtain ⟨hp1, hl1, _, e1', he1', hok1⟩ := block_at_axis hv hix hsub h1
  obtain ⟨hp2, hl2, _, e2', he2', hok2⟩ := block_at_axis hv hix hsub h2
  rw [he1] at he1'; simp only [Option.some.injEq] at he1'; subst he1'
  rw [he2] at he2'; simp only [Option.some.injEq] at he2'; subst he2'
  obtain ⟨hsl1, _, hc1⟩ := hok1.entry s1 d1 (startOf_mem hs1)
  obtain ⟨hsl2, _, hc2⟩ := hok2.entry s2 d2 (startOf_mem hs2)
  simp only [replaceWithSeq_split, List.append_assoc] at hk
  have ha := List.append_inj hk (by simp only [List.length_take]; omega)
  have hb := List.append_inj ha.2 (by rw [hsl1, hsl2])
  have hss : s1 = s2 := hb.1
  subst hss
  have hcc : n1.1.getD p (0, 0) = n2.1.getD p (0, 0) := by rw [← hc1, ← hc2]
  have hns : n1.1 = n2.1 := by
    rw [list_split_at n1.1 p (0, 0) hp1, list_split_at n2.1 p (0, 0) hp2, ha.1, hb.2, hcc]
  refine ⟨?_, rfl⟩
  have l1 := alookup_of_mem_nodup hv.nodup h1
  have l2 := alookup_of_mem_nodup hv.nodup h2
  rw [hns, l2] at l1
  simp only [Option.some.injEq] at l1
  exact Prod.ext hns l1.symm

variable (x p subs exts) in
/-- what `unfuseA x p` returns when the index at `p` is fused from `subs` with extents `exts`: the frame
    with the index replaced by its sub-indices; for every stored block and every sub-sector `ss` in
    the extent of its charge at `p` the piece cut out at `[st, st + d)` and reshaped, read entry by
    entry (`piece`); and no other block (`only`) -/
structure UnfuseU (y : Arr R) : Prop where
  indices : y.indices = replaceWithSeq x.indices p subs
  sym : y.sym = x.sym
  fermi : y.fermi = x.fermi
  charge : y.charge = x.charge
  phases : y.phases = x.phases
  oddpos : y.oddpos = x.oddpos
  piece : ∀ nsB ∈ x.blocks, ∀ e ss st d, alookup exts (nsB.1.getD p (0, 0)) = some e →
    startOf e ss = some (st, d) →
    ∃ subshape, Arr.blockShape? subs ss = some subshape ∧ prod subshape = d
      ∧ alookup y.blocks (replaceWithSeq nsB.1 p ss) = some (pieceU nsB.2 p st d subshape)
      ∧ ∀ J, inBox (replaceWithSeq nsB.2.shape p subshape) J = true →
          (pieceU nsB.2 p st d subshape).get J
            = nsB.2.get (J.take p ++ [st + ravel subshape ((J.drop p).take subshape.length)]
                ++ J.drop (p + subshape.length))
  only : ∀ K V, alookup y.blocks K = some V →
    ∃ nsB ∈ x.blocks, ∃ e ss st d, alookup exts (nsB.1.getD p (0, 0)) = some e
      ∧ startOf e ss = some (st, d) ∧ K = replaceWithSeq nsB.1 p ss
      ∧ V = pieceU nsB.2 p st d ((Arr.blockShape? subs ss).getD [])

theorem unfuseU (hv : ValidArr x) (hix : x.indices[p]? = some ix) (hsub : ix.sub = some (subs, exts)) :
    ∃ y, unfuseA x p = .ok y ∧ UnfuseU x p subs exts y := by
  have hy := unfuseA_eq x p ix subs exts hix hsub (by
    intro sb hsb
    obtain ⟨_, _, _, e, he, hok⟩ := block_at_axis hv hix hsub hsb
    refine ⟨e, he, ?_⟩
    intro q hq
    obtain ⟨_, ⟨shp, hshp, _⟩, _⟩ := hok.entry q.1 q.2 hq
    exact ⟨shp, hshp⟩)
  refine ⟨_, hy, rfl, rfl, rfl, rfl, rfl, rfl, ?_, ?_⟩
  · intro nsB hnsB e ss st d he hst
    obtain ⟨hp, _, hBl, e', he', hok⟩ := block_at_axis hv hix hsub hnsB
    rw [he] at he'; simp only [Option.some.injEq] at he'; subst he'
    obtain ⟨_, ⟨subshape, hshp, hprod⟩, _⟩ := hok.entry ss d (startOf_mem hst)
    have hpB : p < nsB.2.shape.length := by omega
    refine ⟨subshape, hshp, hprod, ?_, ?_⟩
    · apply alookup_adict_unique
      · rw [mem_piecesU hv hix hsub]
        exact ⟨nsB, hnsB, e, ss, st, d, he, hst, rfl, by rw [hshp]; rfl⟩
      · intro V' hV'
        rw [mem_piecesU hv hix hsub] at hV'
        obtain ⟨n2, hn2, e2, s2, st2, d2, he2, hs2, hk, rfl⟩ := hV'
        obtain ⟨rfl, rfl⟩ := keyU_inj hv hix hsub hnsB hn2 he hst he2 hs2 hk
        rw [he] at he2; simp only [Option.some.injEq] at he2; subst he2
        rw [hst] at hs2
        simp only [Option.some.injEq, Prod.mk.injEq] at hs2
        obtain ⟨rfl, rfl⟩ := hs2
        rw [hshp]; rfl
    · intro J hJ
      apply pieceU_get nsB.2 hpB hprod _ hJ
      have := startOf_bound hst
      rw [hok.total] at this
      exact this
  · intro K V hl
    have := mem_adict (alookup_some_mem hl)
    exact (mem_piecesU hv hix hsub).1 this

end U

end FuseP
end SymmModel
