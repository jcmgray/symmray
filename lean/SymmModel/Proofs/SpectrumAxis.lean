/-
  SymmModel.Proofs.SpectrumAxis — positions along one axis of the dense form, grouped by charge:
  for a charge table with distinct charges, the positions whose charge is `c` are in bijection
  with the offsets `Fin d_c` (`Arr.locate` / `Arr.position`).  Hence the characteristic polynomial
  of a matrix that is block diagonal w.r.t. the charges of its positions (`charpoly_of_table`).
-/
import SymmModel.Proofs.Spectrum
import SymmModel.Proofs.DenseLemmas

namespace SymmModel
namespace Spectrum

open Arr

def total (cm : List (Charge × Nat)) : Nat := sumN (cm.map (·.2))

/-- the charge `locate` assigns to position `p`, in `Lex (ℤ × ℤ)` because `charpoly_of_blockDiag` wants
    linearly ordered labels; `(0, 0)` for a position outside the table -/
def chargeAt (cm : List (Charge × Nat)) (p : Nat) : Lex (Int × Int) :=
  toLex (((locate cm p).map (·.1)).getD (0, 0))

def offsetAt (cm : List (Charge × Nat)) (p : Nat) : Nat := ((locate cm p).map (·.2)).getD 0

theorem locate_eq_of_lt {cm : List (Charge × Nat)} {p : Nat} (h : p < total cm) :
    locate cm p = some ((ofLex (chargeAt cm p) : Int × Int), offsetAt cm p) := by
  obtain ⟨c, o, hl⟩ := locate_isSome (cm := cm) (p := p) h
  simp [chargeAt, offsetAt, hl]

theorem size_unique {cm : List (Charge × Nat)} (hnd : (cm.map (·.1)).Nodup) {c : Charge}
    {d d' : Nat} (h : (c, d) ∈ cm) (h' : (c, d') ∈ cm) : d = d' := by
  have := List.inj_on_of_nodup_map hnd h h' rfl
  exact (Prod.mk.inj this).2

def axisEquiv (cm : List (Charge × Nat)) (hnd : (cm.map (·.1)).Nodup) (c : Charge) (d : Nat)
    (hm : (c, d) ∈ cm) :
    {p : Fin (total cm) // chargeAt cm p.1 = toLex c} ≃ Fin d where
  toFun p := ⟨offsetAt cm p.1.1, by
    have hl := locate_eq_of_lt p.1.2
    obtain ⟨d', hm', ho⟩ := locate_spec hl
    have hc : (ofLex (chargeAt cm p.1.1) : Int × Int) = c := by rw [p.2]; rfl
    rw [hc] at hm'
    rw [size_unique hnd hm hm']; exact ho⟩
  invFun o := ⟨⟨((position cm c o.1).getD 0), by
      obtain ⟨q, hq⟩ := position_isSome hnd hm o.2
      rw [hq]; exact locate_lt (locate_position hq)⟩, by
      obtain ⟨q, hq⟩ := position_isSome hnd hm o.2
      simp only [hq, Option.getD_some, chargeAt, locate_position hq, Option.map_some]⟩
  left_inv p := by
    have hl := locate_eq_of_lt p.1.2
    have hc : (ofLex (chargeAt cm p.1.1) : Int × Int) = c := by rw [p.2]; rfl
    rw [hc] at hl
    have := position_locate hnd hl
    apply Subtype.ext
    apply Fin.ext
    simp only [this, Option.getD_some]
  right_inv o := by
    obtain ⟨q, hq⟩ := position_isSome hnd hm o.2
    apply Fin.ext
    simp only [hq, Option.getD_some, offsetAt, locate_position hq, Option.map_some]

theorem locate_axisEquiv_symm (cm : List (Charge × Nat)) (hnd : (cm.map (·.1)).Nodup) (c : Charge)
    (d : Nat) (hm : (c, d) ∈ cm) (o : Fin d) :
    locate cm ((axisEquiv cm hnd c d hm).symm o).1.1 = some (c, o.1) := by
  obtain ⟨q, hq⟩ := position_isSome hnd hm o.2
  show locate cm ((position cm c o.1).getD 0) = _
  rw [hq]; exact locate_position hq

theorem image_chargeAt (cm : List (Charge × Nat)) (hnd : (cm.map (·.1)).Nodup)
    (hpos : ∀ c d, (c, d) ∈ cm → 0 < d) :
    Finset.image (fun p : Fin (total cm) => chargeAt cm p.1) Finset.univ
      = (cm.map (fun cd => (toLex cd.1 : Lex (Int × Int)))).toFinset := by
  ext x
  simp only [Finset.mem_image, Finset.mem_univ, true_and, List.mem_toFinset, List.mem_map]
  constructor
  · rintro ⟨p, rfl⟩
    have hl := locate_eq_of_lt p.2
    obtain ⟨d, hm, _⟩ := locate_spec hl
    exact ⟨_, hm, rfl⟩
  · rintro ⟨⟨c, d⟩, hm, rfl⟩
    obtain ⟨q, hq⟩ := position_isSome hnd hm (hpos c d hm)
    refine ⟨⟨q, locate_lt (locate_position hq)⟩, ?_⟩
    simp only [chargeAt, locate_position hq, Option.map_some, Option.getD_some]

open Matrix in
/-- C12b instantiates this twice for the dense form of a rank-2 array: with `B c d` the stored sector
    `[c, c]` (`C12.eigh_charpoly`, eigenvalues) and with the Gram block of column charge `c`
    (`C12.gram_charpoly`, squared singular values). -/
theorem charpoly_of_table {R : Type} [CommRing R] (cm : List (Charge × Nat))
    (hnd : (cm.map (·.1)).Nodup) (hpos : ∀ c d, (c, d) ∈ cm → 0 < d)
    (M : Matrix (Fin (total cm)) (Fin (total cm)) R)
    (B : (c : Charge) → (d : Nat) → Matrix (Fin d) (Fin d) R)
    (hoff : ∀ p q : Fin (total cm), chargeAt cm p.1 ≠ chargeAt cm q.1 → M p q = 0)
    (hblk : ∀ c d (hm : (c, d) ∈ cm) (P P' : {p : Fin (total cm) // chargeAt cm p.1 = toLex c}),
      M P.1 P'.1 = B c d (axisEquiv cm hnd c d hm P) (axisEquiv cm hnd c d hm P')) :
    M.charpoly = (cm.map (fun cd => (B cd.1 cd.2).charpoly)).prod := by
  have hblock : ∀ c d (hm : (c, d) ∈ cm),
      reindex (axisEquiv cm hnd c d hm) (axisEquiv cm hnd c d hm)
        (M.toSquareBlock (fun p => chargeAt cm p.1) (toLex c)) = B c d := by
    intro c d hm
    ext o o'
    have := hblk c d hm ((axisEquiv cm hnd c d hm).symm o) ((axisEquiv cm hnd c d hm).symm o')
    simp only [Equiv.apply_symm_apply] at this
    exact this
  have hlex : (cm.map (fun cd => (toLex cd.1 : Lex (Int × Int)))).Nodup := by
    have := hnd.map (f := fun c => (toLex c : Lex (Int × Int))) toLex.injective
    rwa [List.map_map] at this
  rw [charpoly_of_blockDiag M (fun p => chargeAt cm p.1) hoff, image_chargeAt cm hnd hpos,
    List.prod_toFinset _ hlex, List.map_map]
  congr 1
  apply List.map_congr_left
  intro cd hcd
  simp only [Function.comp]
  rw [← hblock cd.1 cd.2 hcd, charpoly_reindex]

end Spectrum
end SymmModel
