/-
  SymmModel.Proofs.Assoc5Two — ket label lists with given names (`ket`), reading a strictly increasing
  list as an order embedding (`emb_getD`), and the label check `netLabelsB` of the norm network for
  at most two sorted ket labels per tensor.
-/
import SymmModel.Proofs.Assoc5Labels

namespace SymmModel
namespace Assoc5P
open OddposP NormNet

/-- ket labels with the given names -/
def ket (l : List Int) : List (Int × Bool) := l.map (fun x => (x, false))

theorem emb_getD (G : List Int) (hG : G.Pairwise (· < ·)) :
    Emb (fun i => G.getD i.toNat 0) (fun i => 0 ≤ i ∧ i < G.length) := by
  intro x y hx hy
  have hi : x.toNat < G.length := by omega
  have hj : y.toNat < G.length := by omega
  simp only [List.getD_eq_getElem?_getD, List.getElem?_eq_getElem hi, List.getElem?_eq_getElem hj,
    Option.getD_some]
  have mono := List.pairwise_iff_getElem.mp hG
  have key : ∀ i j (hi : i < G.length) (hj : j < G.length), G[i] < G[j] ↔ i < j := by
    intro i j hi hj
    refine ⟨fun h => ?_, mono _ _ hi hj⟩
    by_contra hn
    rcases Nat.lt_or_eq_of_le (Nat.le_of_not_lt hn) with h' | h'
    · have := mono _ _ hj hi h'; omega
    · subst h'; omega
  have k1 := key _ _ hi hj
  have k2 := key _ _ hj hi
  constructor <;> constructor <;> intro h' <;> omega

/-- the label check of the norm network for at most two sorted ket labels per tensor: a case of
    `LabelAlg.netLabelsB_of_distinct` -/
theorem netLabelsB_two (oA oB : List (Int × Bool)) (hA : KetLabels oA) (hB : KetLabels oB)
    (lA : oA.length ≤ 2) (lB : oB.length ≤ 2)
    (hd : (oA ++ oB).Pairwise (fun x y => x.1 ≠ y.1)) (pA pB : Bool) :
    netLabelsB pA pB oA oB = true :=
  LabelAlg.netLabelsB_of_distinct pA pB oA oB hd

end Assoc5P
end SymmModel
