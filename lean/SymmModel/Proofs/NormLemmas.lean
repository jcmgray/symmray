/-
  SymmModel.Proofs.NormLemmas — the norm clause of property C10 for ONE array,
  `tensordot (conj x) x = Σ |x|²`, up to the label resolution.
  A contraction over all axes, paired in order, is the abelian blockwise contraction of two prepared
  operands — left operand with its ket-like legs flipped, right operand virtually reversed — followed by
  the label resolution (`tensordotF_full`; the two transpositions are by the identity,
  `transposeF_id_obsEq`).  For operands with one skeleton that abelian contraction is a diagonal double sum
  (`tensordot_diag`, from `C02.tensordot_scalar`).  Per sector the signs of `conj`, of the flips and of the
  reversal multiply to the global sign of `conj`, times the parity sign of the array in the order
  `(x, conj x)` (`norm_sector_sign_left/right`, hence `norm_abelian_left/right`).  The label resolution and
  the composed statements are in Proofs/NormNetLabels.lean.
  Used throughout the region from here: `NormLaws` (the laws of `+ * - conj` the norm identity uses, weaker
  than a ring), `normSq` / `normSq'` (`Σ conj(v)·v` and `Σ v·conj(v)` over the value view: the right-hand side
  of every network theorem), `NormOk` (what the norm theorem uses about a valid fermionic array, with
  `NormOk.of_valid`), `fullT A B n` (the full blockwise contraction of two rank-`n` operands, before the label
  resolution), `allAxes`, `conjGlob_valid`, `Lazy.skel_of_valid`.
-/
import SymmModel.Proofs.LazyLemmas
import SymmModel.Props.C02
import SymmModel.Proofs.Oddpos
import Mathlib.Tactic.Ring
namespace SymmModel.Norm
open SymmModel SymmModel.Lazy
set_option linter.unusedSectionVars false

theorem shape_conj (idx : List Index) :
    (idx.map Index.conj).map Index.sizeTotal = idx.map Index.sizeTotal := by
  rw [List.map_map]
  apply List.map_congr_left
  intro i _
  simp [Function.comp, Index.sizeTotal, Index.conj_cm]

section
variable {R : Type} [Zero R] [Neg R]

theorem srcIdx_id (n : Nat) (i : List Nat) (h : i.length = n) : srcIdx n (List.range n) i = i := by
  unfold srcIdx
  apply List.ext_getElem (by simp [h])
  intro k h1 h2
  simp only [List.length_map, List.length_range] at h1
  simp only [List.getElem_map, List.getElem_range, indexOf?_range n k h1]
  rw [List.getD_eq_getElem?_getD, List.getElem?_eq_getElem (by omega)]; rfl

theorem transposeK_id (b : Blk R) {n : Nat} (hn : b.shape.length = n) (hw : b.wf = true) :
    b.transposeK (List.range n) = b := by
  have hs : permuted b.shape (List.range n) = b.shape := by rw [← hn]; exact permuted_range _
  apply Blk.ext_get
  · rw [transposeK_shape, hs]
  · exact ofFn_wf _ _
  · exact hw
  · intro off
    rw [get_eq_boxIdx hw off, transposeK_get, hs]
    cases hb : boxIdx b.shape off with
    | none => rfl
    | some i =>
      simp only
      rw [hn, srcIdx_id n i (by rw [inBox_length (boxIdx_some hb).1, hn])]

theorem isPerm_range (n : Nat) : Arr.isPerm (List.range n) n = true := by
  unfold Arr.isPerm; simp

theorem transposeF_id_obsEq [LawfulNeg R] {a : Arr R} (h : Full a) (hs : ShapeLen a) :
    ObsEq (a.transposeF (List.range a.ndim)) a := by
  have ht : TrOk a (List.range a.ndim) := h.trOk (isPerm_range a.ndim)
  obtain ⟨t1, t2, t3, t4, t5⟩ := transposeF_frame a (List.range a.ndim)
  have hb : (a.transposeF (List.range a.ndim)).blocks = a.blocks := by
    rw [transposeF_blocks ht]
    conv_rhs => rw [← List.map_id a.blocks]
    apply List.map_congr_left
    rintro ⟨s, b⟩ hp
    have hsl : s.length = a.ndim := h.len s (List.mem_map_of_mem (f := (·.1)) hp)
    simp only [id]
    rw [transposeK_id b (hs _ hp) (h.wf _ hp)]
    congr 1
    rw [← hsl]; exact permuted_range s
  refine obsEq_of_blocks_phOf t1 t2 ?_ t4 t5 hb ?_
  · rw [t3]; exact permuted_range a.indices
  · intro s hsm
    have hsm' : s ∈ a.sectors := by unfold Arr.sectors at hsm ⊢; rw [hb] at hsm; exact hsm
    have := transposeF_phOf ht hsm'
    have e : permuted s (List.range a.ndim) = s := by rw [← h.len s hsm']; exact permuted_range s
    rw [e] at this
    rw [this, KoszulP.koszul_id', Int.one_mul]


theorem without_range_self (n : Nat) : without (List.range n) (List.range n) = [] := by
  rw [TdotP.without_range]
  unfold TdotP.freeAxes
  rw [List.filter_eq_nil_iff]
  intro x hx
  simp [List.mem_range.mp hx]

theorem freeAxes_range_self (n : Nat) : TdotP.freeAxes n (List.range n) = [] := by
  rw [← TdotP.without_range]; exact without_range_self n

theorem phaseTranspose_size (b : Arr R) (axes : Option (List Nat)) :
    (b.phaseTranspose axes).size = b.size := rfl

/-- for a contraction over all axes (paired in order) the sign preparation of `tensordot` is:
    flip the ket-like legs of the left operand, reverse all legs of the right operand virtually,
    synchronise both (the two transpositions are by the identity) -/
theorem tdF34_sync_full [LawfulNeg R] {a b : Arr R} (fa : Full a) (sa : ShapeLen a) (fb : Full b)
    (sb : ShapeLen b) (hn : b.ndim = a.ndim) (hsz : a.size ≤ b.size) :
    (ValidP.tdF34 a b (List.range a.ndim) (List.range a.ndim)).1.phaseSync
        = (a.phaseFlip ((List.range a.ndim).filter
            (fun ax => !(a.indices.getD ax default).dual))).phaseSync
      ∧ (ValidP.tdF34 a b (List.range a.ndim) (List.range a.ndim)).2.phaseSync
        = (b.phaseTranspose (some (List.range a.ndim).reverse)).phaseSync := by
  have A1 := transposeF_id_obsEq fa sa
  have B1 := transposeF_id_obsEq fb sb
  have FA1 := fa.transposeF (isPerm_range a.ndim)
  have FB1 := fb.transposeF (isPerm_range b.ndim)
  rw [hn] at B1 FB1
  unfold ValidP.tdF34
  simp only [hn, without_range_self, List.nil_append, List.append_nil, List.length_range,
    Nat.sub_self, List.drop_zero]
  generalize a.transposeF (List.range a.ndim) = a1 at *
  generalize b.transposeF (List.range a.ndim) = b1 at *
  have hb1 : b1.ndim = a.ndim := by rw [B1.ndim, hn]
  have hd : (List.range b1.ndim).drop a.ndim = [] := by rw [hb1]; simp
  rw [hd, List.append_nil]
  have hc : a1.size ≤ (b1.phaseTranspose (some (List.range a.ndim).reverse)).size := by
    rw [phaseTranspose_size, A1.size, B1.size]; exact hsz
  rw [if_pos hc, A1.indices]
  exact ⟨canon (phaseFlip_congr A1 FA1.sign fa.sign _) (FA1.phaseFlip _) (fa.phaseFlip _),
    canon (phaseTranspose_congr B1 FB1.sign fb.sign _) (FB1.phaseTranspose _) (fb.phaseTranspose _)⟩


/-- all `n` axes of both operands, paired in order -/
def allAxes (n : Nat) : AxesArg := .pair ((List.range n).map Int.ofNat) ((List.range n).map Int.ofNat)

theorem parseAxes_all (n : Nat) : parseAxes n n (allAxes n) = .ok (List.range n, List.range n) :=
  ValidP.parseAxes_nat n n _ _ rfl (fun _ h => List.mem_range.mp h) (fun _ h => List.mem_range.mp h)

/-- the left operand of the abelian contraction -/
def prepL (a : Arr R) : Arr R :=
  (a.phaseFlip ((List.range a.ndim).filter (fun ax => !(a.indices.getD ax default).dual))).phaseSync

/-- the right operand of the abelian contraction -/
def prepR (b : Arr R) : Arr R := (b.phaseTranspose (some (List.range b.ndim).reverse)).phaseSync

theorem prepL_ndim (a : Arr R) : (prepL a).ndim = a.ndim := by
  unfold prepL Arr.ndim
  show (a.phaseFlip _).indices.length = _
  rw [(phaseFlip_frame a _).2.2.1]

theorem prepR_ndim (b : Arr R) : (prepR b).ndim = b.ndim := rfl

theorem tensordotF_full [Add R] [Mul R] [LawfulNeg R] {a b : Arr R} (fa : Full a) (sa : ShapeLen a)
    (fb : Full b) (sb : ShapeLen b) (hn : b.ndim = a.ndim) (hsz : a.size ≤ b.size) :
    a.tensordotF b (allAxes a.ndim) .blockwise
      = resolveCombinedOddpos (prepL a) (prepR b)
          (tensordotBlockwise (prepL a) (prepR b) [] (List.range a.ndim) (List.range a.ndim) []) := by
  have ok_bind : ∀ {α β : Type} (v : α) (f : α → Except Err β), (Except.ok v >>= f) = f v :=
    fun _ _ => rfl
  rw [tensordotF_eq, hn, parseAxes_all, ok_bind]
  obtain ⟨e0, e2⟩ := tdF34_sync_full fa sa fb sb hn hsz
  simp only [e0, e2, List.length_range, Nat.sub_self, List.drop_zero]
  have e1 : (b.phaseTranspose (some (List.range a.ndim).reverse)).phaseSync = prepR b := by
    unfold prepR; rw [hn]
  rw [e1]
  change (tensordotA (prepL a) (prepR b) (allAxes a.ndim) .blockwise >>= _) = _
  rw [TdotP.tensordotA_blockwise', prepL_ndim, prepR_ndim, hn, parseAxes_all]
  simp only [Except.map, freeAxes_range_self]
  rfl

end
section diag

theorem mem_allIdx_length {s k : List Nat} (h : k ∈ allIdx s) : k.length = s.length :=
  inBox_length (mem_allIdx.mp h)

theorem mergeIdx_id (n : Nat) (free : List Nat) (k f : List Nat) (h : k.length = n) :
    TdotP.mergeIdx 0 n (List.range n) free k f = k := by
  have hk := srcIdx_id n k h
  unfold srcIdx at hk
  conv_rhs => rw [← hk]
  unfold TdotP.mergeIdx
  apply List.map_congr_left
  intro ax hax
  rw [indexOf?_range n ax (List.mem_range.mp hax)]

theorem filter_beq_of_nodup {α : Type} [BEq α] [LawfulBEq α] {l : List α} (hn : l.Nodup) {a : α}
    (ha : a ∈ l) : l.filter (fun b => b == a) = [a] := by
  induction l with
  | nil => simp at ha
  | cons x xs ih =>
    rw [List.nodup_cons] at hn
    by_cases hx : x = a
    · subst hx
      have : xs.filter (fun b => b == x) = [] := by
        rw [List.filter_eq_nil_iff]; intro y hy hyx
        exact hn.1 (by rw [← eq_of_beq hyx]; exact hy)
      simp [this]
    · have hx' : (x == a) = false := by simpa using hx
      rcases List.mem_cons.mp ha with h | h
      · exact absurd h.symm hx
      · simp [hx', ih hn.2 h]

variable {R : Type} [AddMonoid R] [Mul R] [Neg R]

theorem alignedPairs_diag {A B : Arr R} {n : Nat} (hS : B.sectors = A.sectors)
    (hnd : A.sectors.Nodup) (hl : ∀ s ∈ A.sectors, s.length = n) :
    TdotP.alignedPairs A B (List.range n) (List.range n) = A.sectors.map (fun s => (s, s)) := by
  unfold TdotP.alignedPairs
  have hm : ∀ l : List Sector, l.map (fun s => (s, s)) = l.flatMap (fun s => [(s, s)]) := by
    intro l; induction l with
    | nil => rfl
    | cons x xs ih => simp [ih]
  rw [hS, hm]
  apply flatMap_congr_mem
  intro sa hsa
  have e : A.sectors.filter (fun sb => permuted sb (List.range n) == permuted sa (List.range n))
      = A.sectors.filter (fun sb => sb == sa) := by
    apply List.filter_congr
    intro sb hsb
    have h1 : permuted sb (List.range n) = sb := by rw [← hl sb hsb]; exact permuted_range sb
    have h2 : permuted sa (List.range n) = sa := by rw [← hl sa hsa]; exact permuted_range sa
    rw [h1, h2]
  rw [e, filter_beq_of_nodup hnd hsa]; rfl

theorem tensordot_diag {A B : Arr R} {n : Nat} (hpa : A.phases = []) (hpb : B.phases = [])
    (hna : A.ndim = n) (hnb : B.ndim = n) (hS : B.sectors = A.sectors) (hnd : A.sectors.Nodup)
    (hl : ∀ s ∈ A.sectors, s.length = n) (hsa : A.shapesOk) (hsb : B.shapesOk) :
    (tensordotBlockwise A B [] (List.range n) (List.range n) []).elem [] []
      = (A.sectors.map (fun s =>
          ((allIdx (Arr.blockShapeD A.indices s)).map (fun k => A.elem s k * B.elem s k)).sum)).sum := by
  have hda : allDistinct A.sectors = true := allDistinct_iff_nodup.mpr hnd
  have hdb : allDistinct B.sectors = true := by rw [hS]; exact hda
  have := (C02.tensordot_scalar A B (List.range n) (List.range n) hpa hpb hda hdb hsa hsb
    (by rw [hna]; exact freeAxes_range_self n) (by rw [hnb]; exact freeAxes_range_self n)).2
  rw [this, alignedPairs_diag hS hnd hl, List.map_map]
  refine congrArg List.sum (List.map_congr_left ?_)
  intro s hs
  simp only [Function.comp, TdotP.contractPair]
  have hshp : (Arr.blockShapeD A.indices s).length = n := by
    obtain ⟨p, hp, rfl⟩ := List.mem_map.mp hs
    unfold Arr.blockShapeD
    rw [hsa p hp]
    simp only [Option.getD_some]
    rw [(blockShape?_length (hsa p hp)).2]; exact hna
  have e : permuted (Arr.blockShapeD A.indices s) (List.range n) = Arr.blockShapeD A.indices s := by
    rw [← hshp]; exact permuted_range _
  rw [e]
  refine congrArg List.sum (List.map_congr_left ?_)
  intro k hk
  have hkl : k.length = n := by rw [mem_allIdx_length hk, hshp]
  unfold TdotP.contractTerm
  rw [hna, hnb, mergeIdx_id n _ k [] hkl]

end diag

/-- the laws of `+`, `*`, `-`, `conj` the norm identity uses (no commutativity, no
    distributivity of `*` over `+`) -/
class NormLaws (R : Type) [AddMonoid R] [Mul R] [Neg R] [Conj R] : Prop extends LawfulNegConj R where
  neg_mul : ∀ x y : R, (-x) * y = -(x * y)
  mul_neg : ∀ x y : R, x * (-y) = -(x * y)
  neg_add : ∀ x y : R, -(x + y) = -x + -y

scoped instance : Conj Int := Lazy.instConjInt

instance : NormLaws Int where
  neg_mul := Int.neg_mul
  mul_neg := Int.mul_neg
  neg_add := fun _ _ => Int.neg_add

section laws
variable {R : Type} [AddMonoid R] [Mul R] [Neg R] [Conj R] [NormLaws R]

theorem sgnI_mul_sgnI {σ τ : Int} (hσ : σ = 1 ∨ σ = -1) (hτ : τ = 1 ∨ τ = -1) (x y : R) :
    sgnI σ x * sgnI τ y = sgnI (σ * τ) (x * y) := by
  rcases hσ with rfl | rfl <;> rcases hτ with rfl | rfl <;>
    simp [NormLaws.neg_mul, NormLaws.mul_neg, LawfulNeg.neg_neg]

theorem sum_sgnI {α : Type} (σ : Int) (f : α → R) (l : List α) :
    (l.map (fun x => sgnI σ (f x))).sum = sgnI σ ((l.map f).sum) :=
  Lazy.sgnI_map_sum NormLaws.neg_add σ f l

end laws

/-- the laws hold for the driver's scalar type (additive structure: `C02.addCommMonoidGRat`) -/
theorem normLaws_GRat :
    @NormLaws GRat C02.addCommMonoidGRat.toAddMonoid GRat.instMul GRat.instNeg GRat.instConj :=
  @NormLaws.mk GRat C02.addCommMonoidGRat.toAddMonoid _ _ _
    (inferInstanceAs (LawfulNegConj GRat))
    (fun x y => LawfulMulNeg.neg_mul x y)
    (fun x y => by
      apply GRat.ext'
      · show x.re * (-y.re) - x.im * (-y.im) = -(x.re * y.re - x.im * y.im); ring
      · show x.re * (-y.im) + x.im * (-y.re) = -(x.re * y.im + x.im * y.re); ring)
    (fun x y => by
      apply GRat.ext'
      · show -(x.re + y.re) = -x.re + -y.re; ring
      · show -(x.im + y.im) = -x.im + -y.im; ring)

section flips

theorem zipIdx_eq_map_range {α : Type} [Inhabited α] (l : List α) :
    l.zipIdx = (List.range l.length).map (fun i => (l.getD i default, i)) := by
  apply List.ext_getElem (by simp)
  intro i h1 h2
  simp only [List.length_zipIdx] at h1
  simp [List.getD_eq_getElem?_getD, List.getElem?_eq_getElem h1]

variable {R : Type}

theorem flipOdd_filter (sym : Sym) (idx : List Index) (P : Index → Bool) (s : Sector) :
    flipOdd sym ((List.range idx.length).filter (fun ax => P (idx.getD ax default))) s
      = ((idx.zipIdx.filter (fun p => P p.1 && (s.map sym.parity).getD p.2 false)).length % 2 == 1) := by
  have hq : (fun ax => sym.parity (s.getD ax (0, 0))) = (fun ax => (s.map sym.parity).getD ax false) := by
    funext ax
    simp only [List.getD_eq_getElem?_getD, List.getElem?_map]
    cases s[ax]? with
    | none => simp [Sym.parity_zero_charge]
    | some c => simp
  unfold flipOdd
  rw [hq, List.filter_filter, zipIdx_eq_map_range idx, List.filter_map, List.length_map]
  congr 3
  apply List.filter_congr
  intro x _
  simp [Function.comp, Bool.and_comm]

variable [Zero R] [Neg R] [Conj R]

/-- the ket-like legs of `conj x` are the bra-like legs of `x` -/
theorem flipOdd_conj_left (x : Arr R) (pd : Bool) (s : Sector) :
    flipOdd (x.conjF true pd).sym
      ((List.range (x.conjF true pd).ndim).filter
        (fun ax => !((x.conjF true pd).indices.getD ax default).dual)) s
      = dualOdd x s := by
  obtain ⟨h1, _, h3, _, _, _⟩ := conjF_frame x true pd
  unfold Arr.ndim
  rw [flipOdd_filter _ _ (fun i => !i.dual), h1, h3]
  unfold dualOdd axsConj Arr.parities
  rw [count_sel (x.indices.map Index.conj) (fun i => !i.dual)]

theorem flipOdd_right (x : Arr R) (pp pd : Bool) (s : Sector) :
    flipOdd x.sym ((List.range x.ndim).filter (fun ax => !(x.indices.getD ax default).dual)) s
      = dualOdd (x.conjF pp pd) s := by
  unfold Arr.ndim
  rw [flipOdd_filter _ _ (fun i => !i.dual), dualOdd_conj]; rfl

theorem dualOdd_allKet {x : Arr R} (hk : ∀ ix ∈ x.indices, ix.dual = false) (s : Sector) :
    dualOdd x s = false := by
  rw [dualOdd_eq]
  have : x.indices.zipIdx.filter (fun p => p.1.dual && (x.parities s).getD p.2 false) = [] := by
    rw [List.filter_eq_nil_iff]
    intro p hp
    rw [zipIdx_eq_map_range] at hp
    obtain ⟨i, hi, rfl⟩ := List.mem_map.mp hp
    have hi' := List.mem_range.mp hi
    have : x.indices.getD i default ∈ x.indices := by
      rw [List.getD_eq_getElem?_getD, List.getElem?_eq_getElem hi']
      exact List.getElem_mem hi'
    have hd := hk _ this
    simp only [hd, Bool.false_and]
    exact Bool.false_ne_true
  rw [this]; rfl

end flips
section signs
variable {R : Type} [Zero R] [Neg R] [Conj R]

/-- the legs `tensordot` flips on its left operand (ket-like contracted legs) -/
def flipAxes (a : Arr R) : List Nat :=
  (List.range a.ndim).filter (fun ax => !(a.indices.getD ax default).dual)

theorem koszul_rev_eq_none {x : Arr R} {s : Sector} (hl : s.length = x.ndim) :
    koszul (x.parities s) (some (List.range x.ndim).reverse) = koszul (x.parities s) none := by
  rw [koszul_none_eq_reverse (x.parities s)]
  unfold Arr.parities; rw [List.length_map, hl]

/-- **sector sign, order `(conj x, x)`**: the flip of the ket-like legs of `conj x`, the signs
    `conj` put on the sector (global, dual-leg, reversal) and the virtual reversal of `x`
    multiply to the global sign alone — when `phase_dual` is used or every leg is ket-like -/
theorem norm_sector_sign_left {x : Arr R} (pd : Bool)
    (hd : pd = true ∨ ∀ ix ∈ x.indices, ix.dual = false) {s : Sector} (hl : s.length = x.ndim) :
    flipSign (x.conjF true pd).sym (flipAxes (x.conjF true pd)) s
      * (conjTotSign x true pd s * koszul (x.parities s) (some (List.range x.ndim).reverse))
      = if conjGlob x true then -1 else 1 := by
  unfold flipSign flipAxes
  rw [flipOdd_conj_left, koszul_rev_eq_none hl]
  unfold conjTotSign conjSign
  simp only [if_true]
  rcases hd with rfl | hk
  · rcases koszul_pm (x.parities s) none with hk1 | hk1 <;> rw [hk1] <;>
      cases dualOdd x s <;> cases conjGlob x true <;> simp
  · rw [dualOdd_allKet hk]
    rcases koszul_pm (x.parities s) none with hk1 | hk1 <;> rw [hk1] <;>
      cases pd <;> cases conjGlob x true <;> simp

/-- **sector sign, order `(x, conj x)`**: here the flips and the dual-leg signs together touch
    every odd charge once, which gives the parity sign of the array -/
theorem norm_sector_sign_right {x : Arr R} (pd : Bool)
    (hd : pd = true ∨ ∀ ix ∈ x.indices, ix.dual = false) {s : Sector} (hl : s.length = x.ndim)
    (hv : x.isValidSector s = true) :
    flipSign x.sym (flipAxes x) s
      * (koszul ((x.conjF true pd).parities s) (some (List.range (x.conjF true pd).ndim).reverse)
          * conjTotSign x true pd s)
      = (if x.parity then -1 else 1) * (if conjGlob x true then -1 else 1) := by
  have hpar : (x.conjF true pd).parities s = x.parities s := by
    unfold Arr.parities; rw [(conjF_frame x true pd).1]
  unfold flipSign flipAxes
  rw [flipOdd_right x true pd, conjF_ndim, hpar, koszul_rev_eq_none hl, ← dualOdd_xor true pd hl hv]
  unfold conjTotSign conjSign
  simp only [if_true]
  rcases hd with rfl | hk
  · rcases koszul_pm (x.parities s) none with hk1 | hk1 <;> rw [hk1] <;>
      cases dualOdd (x.conjF true true) s <;> cases dualOdd x s <;> cases conjGlob x true <;> simp
  · rw [dualOdd_allKet hk]
    rcases koszul_pm (x.parities s) none with hk1 | hk1 <;> rw [hk1] <;>
      cases pd <;> cases dualOdd (x.conjF true _) s <;> cases conjGlob x true <;> simp

omit [Conj R] in
theorem prepL_elem [LawfulNeg R] (a : Arr R) (h : SignOk a) (s : Sector) (k : List Nat) :
    (prepL a).elem s k = sgnI (flipSign a.sym (flipAxes a) s) (a.elem s k) := by
  unfold prepL
  rw [phaseSync_elem, phaseFlip_elem a _ h]; rfl

omit [Conj R] in
theorem prepR_elem [LawfulNeg R] (b : Arr R) (h : SignOk b) (s : Sector) (k : List Nat) :
    (prepR b).elem s k
      = sgnI (koszul (b.parities s) (some (List.range b.ndim).reverse)) (b.elem s k) := by
  unfold prepR
  rw [phaseSync_elem, phaseTranspose_elem b _ h]

end signs
section abelian
variable {R : Type}

theorem _root_.SymmModel.Lazy.skel_of_valid {a : Arr R} (hv : a.validB = true) :
    skel a = a.sectors.map (fun s => (s, Arr.blockShapeD a.indices s)) := by
  unfold skel Arr.sectors
  rw [List.map_map]
  refine List.map_congr_left fun p hp => ?_
  simp only [Function.comp, Arr.blockShapeD, (Arr.validB_block hv hp).2.2.1]
  rfl

theorem shapesOk_of_skel {x y : Arr R} (hsk : skel y = skel x)
    (hidx : ∀ s, Arr.blockShape? y.indices s = Arr.blockShape? x.indices s) (h : x.shapesOk) :
    y.shapesOk := by
  intro p hp
  have hm : (p.1, p.2.shape) ∈ skel y := List.mem_map_of_mem (f := fun p => (p.1, p.2.shape)) hp
  rw [hsk] at hm
  obtain ⟨q, hq, he⟩ := List.mem_map.mp hm
  simp only [Prod.mk.injEq] at he
  rw [hidx, ← he.1, ← he.2]
  exact h q hq

variable [AddMonoid R] [Mul R] [Neg R] [Conj R]

/-- `Σ_s Σ_o conj(v) · v`, `v = x.elem s o` — the squared norm of the value view -/
def normSq (x : Arr R) : R :=
  (x.sectors.map (fun s =>
    ((allIdx (Arr.blockShapeD x.indices s)).map
      (fun o => Conj.conj (x.elem s o) * x.elem s o)).sum)).sum

/-- the same with the factors in the other order (equal to `normSq` when `*` commutes) -/
def normSq' (x : Arr R) : R :=
  (x.sectors.map (fun s =>
    ((allIdx (Arr.blockShapeD x.indices s)).map
      (fun o => x.elem s o * Conj.conj (x.elem s o))).sum)).sum

theorem normSq'_eq (hc : ∀ a b : R, a * b = b * a) (x : Arr R) : normSq' x = normSq x := by
  unfold normSq normSq'; simp only [hc]

theorem skel_prepL (a : Arr R) [LawfulNeg R] : skel (prepL a) = skel a := by
  unfold prepL
  rw [(phaseSync_obsEq _).skel]
  unfold skel; rw [phaseFlip_blocks]

theorem skel_prepR (b : Arr R) [LawfulNeg R] : skel (prepR b) = skel b := by
  unfold prepR
  rw [(phaseSync_obsEq _).skel]; rfl

theorem sectors_of_skel {x y : Arr R} (h : skel y = skel x) : y.sectors = x.sectors := by
  rw [← skel_sectors, h, skel_sectors]

theorem blockShapeD_conj (x : Arr R) (pd : Bool) (s : Sector) :
    Arr.blockShapeD (x.conjF true pd).indices s = Arr.blockShapeD x.indices s := by
  unfold Arr.blockShapeD
  rw [(conjF_frame x true pd).2.2.1, blockShape?_conj]

theorem prepL_indices (a : Arr R) : (prepL a).indices = a.indices := by
  unfold prepL
  show (a.phaseFlip _).indices = _
  rw [(phaseFlip_frame a _).2.2.1]

theorem norm_abelian_left [NormLaws R] {x : Arr R} (pd : Bool) (hf : Full x) (hsh : x.shapesOk)
    (hd : pd = true ∨ ∀ ix ∈ x.indices, ix.dual = false) :
    (tensordotBlockwise (prepL (x.conjF true pd)) (prepR x) [] (List.range x.ndim)
        (List.range x.ndim) []).elem [] []
      = sgnI (if conjGlob x true then -1 else 1) (normSq x) := by
  have hc : SignOk (x.conjF true pd) := hf.sign.conjF true pd
  have hskL : skel (prepL (x.conjF true pd)) = skel x := by
    rw [skel_prepL, (conjF_frame x true pd).2.2.2.2.2]
  have hsL : (prepL (x.conjF true pd)).sectors = x.sectors := sectors_of_skel hskL
  have hsR : (prepR x).sectors = x.sectors := sectors_of_skel (skel_prepR x)
  have hshL : (prepL (x.conjF true pd)).shapesOk :=
    shapesOk_of_skel hskL (fun s => by
      rw [prepL_indices, (conjF_frame x true pd).2.2.1, blockShape?_conj]) hsh
  have hshR : (prepR x).shapesOk := shapesOk_of_skel (skel_prepR x) (fun _ => rfl) hsh
  rw [tensordot_diag (A := prepL (x.conjF true pd)) (B := prepR x) (n := x.ndim) rfl rfl
    (by rw [prepL_ndim, conjF_ndim]) rfl (by rw [hsR, hsL]) (by rw [hsL]; exact hf.sign.sectors)
    (by rw [hsL]; exact hf.len) hshL hshR, hsL]
  unfold normSq
  rw [← sum_sgnI]
  refine congrArg List.sum (List.map_congr_left ?_)
  intro s hs
  rw [prepL_indices, blockShapeD_conj, ← sum_sgnI]
  refine congrArg List.sum (List.map_congr_left ?_)
  intro k _
  rw [prepL_elem _ hc, prepR_elem _ hf.sign, conjF_elem x true pd hf.sign,
    ← sgnI_mul (flipSign_pm _ _ _) (conjTotSign_pm _ _ _ _),
    sgnI_mul_sgnI (mul_pm (flipSign_pm _ _ _) (conjTotSign_pm _ _ _ _)) (koszul_pm _ _),
    Int.mul_assoc, norm_sector_sign_left pd hd (hf.len s hs)]


theorem norm_abelian_right [NormLaws R] {x : Arr R} (pd : Bool) (hf : Full x) (hv : SecValid x)
    (hsh : x.shapesOk) (hd : pd = true ∨ ∀ ix ∈ x.indices, ix.dual = false) :
    (tensordotBlockwise (prepL x) (prepR (x.conjF true pd)) [] (List.range x.ndim)
        (List.range x.ndim) []).elem [] []
      = sgnI ((if x.parity then -1 else 1) * (if conjGlob x true then -1 else 1)) (normSq' x) := by
  have hc : SignOk (x.conjF true pd) := hf.sign.conjF true pd
  have hskR : skel (prepR (x.conjF true pd)) = skel x := by
    rw [skel_prepR, (conjF_frame x true pd).2.2.2.2.2]
  have hsR : (prepR (x.conjF true pd)).sectors = x.sectors := sectors_of_skel hskR
  have hsL : (prepL x).sectors = x.sectors := sectors_of_skel (skel_prepL x)
  have hshR : (prepR (x.conjF true pd)).shapesOk :=
    shapesOk_of_skel hskR (fun s => by
      show Arr.blockShape? (x.conjF true pd).indices s = _
      rw [(conjF_frame x true pd).2.2.1, blockShape?_conj]) hsh
  have hshL : (prepL x).shapesOk :=
    shapesOk_of_skel (skel_prepL x) (fun s => by rw [prepL_indices]) hsh
  rw [tensordot_diag (A := prepL x) (B := prepR (x.conjF true pd)) (n := x.ndim) rfl rfl
    (prepL_ndim x) (by rw [prepR_ndim, conjF_ndim]) (by rw [hsR, hsL])
    (by rw [hsL]; exact hf.sign.sectors) (by rw [hsL]; exact hf.len) hshL hshR, hsL]
  unfold normSq'
  rw [← sum_sgnI]
  refine congrArg List.sum (List.map_congr_left ?_)
  intro s hs
  rw [prepL_indices, ← sum_sgnI]
  refine congrArg List.sum (List.map_congr_left ?_)
  intro k _
  have hpm : (if x.parity then (-1 : Int) else 1) * (if conjGlob x true then -1 else 1) = 1
      ∨ (if x.parity then (-1 : Int) else 1) * (if conjGlob x true then -1 else 1) = -1 :=
    mul_pm (by split <;> simp) (by split <;> simp)
  rw [prepL_elem _ hf.sign, prepR_elem _ hc, conjF_elem x true pd hf.sign,
    ← sgnI_mul (koszul_pm _ _) (conjTotSign_pm _ _ _ _),
    sgnI_mul_sgnI (flipSign_pm _ _ _) (mul_pm (koszul_pm _ _) (conjTotSign_pm _ _ _ _)),
    norm_sector_sign_right pd hd (hf.len s hs) (hv s hs)]

end abelian

section compose
variable {R : Type} [Zero R] [Neg R]

/-- everything the norm theorem uses about a valid fermionic array -/
structure NormOk (x : Arr R) : Prop where
  full : Full x
  shapeLen : ShapeLen x
  secValid : SecValid x
  shapes : x.shapesOk
  labels : (x.oddpos.length % 2 == 1) = x.parity

theorem NormOk.of_valid {x : Arr R} (h : x.validB = true) (hf : x.fermi = true) : NormOk x :=
  ⟨Full.of_valid h hf, ShapeLen.of_valid h, SecValid.of_valid h,
    TdotP.Arr.shapesOk_of_validB h, Arr.validB_labels h hf⟩

variable [Conj R]

theorem conjGlob_valid {x : Arr R} (hl : (x.oddpos.length % 2 == 1) = x.parity) :
    conjGlob x true = x.parity := by
  unfold conjGlob
  rw [Sym.parity_sign, Lazy.oddposDag_length, hl]
  show (true && x.parity && x.parity) = x.parity
  cases x.parity <;> rfl

theorem Full.conjF {x : Arr R} (h : Full x) (pp pd : Bool) : Full (x.conjF pp pd) := by
  refine ⟨h.sign.conjF pp pd, h.len.of_same (conjF_sectors x pp pd) (conjF_ndim x pp pd), ?_⟩
  intro p hp
  rw [conjF_blocks] at hp
  obtain ⟨q, hq, rfl⟩ := List.mem_map.mp hp
  have := h.wf q hq
  simpa [Blk.wf, Blk.conjK, Blk.map] using this

theorem ShapeLen.conjF {x : Arr R} (h : ShapeLen x) (pp pd : Bool) : ShapeLen (x.conjF pp pd) := by
  intro p hp
  rw [conjF_blocks] at hp
  obtain ⟨q, hq, rfl⟩ := List.mem_map.mp hp
  rw [conjF_ndim]
  exact h q hq

theorem conjF_size (x : Arr R) (pp pd : Bool) : (x.conjF pp pd).size = x.size := by
  unfold Arr.size Arr.shape
  rw [(conjF_frame x pp pd).2.2.1, shape_conj]

theorem conjF_parity (x : Arr R) (pp pd : Bool) : (x.conjF pp pd).parity = x.parity := by
  unfold Arr.parity
  rw [(conjF_frame x pp pd).1, (conjF_frame x pp pd).2.2.2.1, Sym.parity_sign]

omit [Conj R] in
theorem prepL_oddpos (a : Arr R) : (prepL a).oddpos = a.oddpos := by
  unfold prepL
  show (a.phaseFlip _).oddpos = _
  rw [(phaseFlip_frame a _).2.2.2.2.1]

omit [Conj R] in
theorem prepL_parity (a : Arr R) : (prepL a).parity = a.parity := by
  unfold prepL Arr.parity
  show (a.phaseFlip _).sym.parity (a.phaseFlip _).charge = _
  rw [(phaseFlip_frame a _).1, (phaseFlip_frame a _).2.2.2.1]

omit [Zero R] [Neg R] [Conj R] in
theorem without_range_length {α : Type} (l : List α) : without l (List.range l.length) = [] := by
  rw [TdotP.without_eq_permuted_freeAxes, freeAxes_range_self]; rfl

end compose

section compose2
variable {R : Type} [AddMonoid R] [Mul R] [Neg R] [Conj R]

/-- the full blockwise contraction of two operands of rank `n` -/
def fullT (A B : Arr R) (n : Nat) : Arr R :=
  tensordotBlockwise A B [] (List.range n) (List.range n) []

theorem fullT_indices {A B : Arr R} {n : Nat} (ha : A.ndim = n) (hb : B.ndim = n) :
    (fullT A B n).indices = [] := by
  show dropUnused (without A.indices (List.range n) ++ without B.indices (List.range n)) _ = []
  have e1 : without A.indices (List.range n) = [] := by
    rw [← ha]; exact without_range_length A.indices
  have e2 : without B.indices (List.range n) = [] := by
    rw [← hb]; exact without_range_length B.indices
  rw [e1, e2]; rfl

theorem fullT_signOk {A B : Arr R} {n : Nat} (hp : A.phases = []) : SignOk (fullT A B n) :=
  ⟨allDistinct_iff_nodup.mp (C02.tensordotBlockwise_sectors_distinct A B _ _ _ _),
   by show PhOk A.phases; rw [hp]; exact PhOk.nil⟩

end compose2
end SymmModel.Norm
