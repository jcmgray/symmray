/-
  SymmModel.Proofs.FuseCommuteI3 — the renumbering `shiftAxes X g` of the axes outside a fused group
  is strictly increasing ("the other legs keep their order").  Namespace `SymmModel.TdotP`.
-/
import SymmModel.Proofs.FuseCommuteI2

namespace SymmModel
namespace TdotP
variable {R : Type}

theorem idxOf_lt_of_lt {L : List Nat} (hs : L.Pairwise (· < ·)) {x y : Nat} (hx : x ∈ L) (hy : y ∈ L)
    (h : x < y) : L.idxOf x < L.idxOf y := by
  have hix := List.idxOf_lt_length_of_mem hx
  have hiy := List.idxOf_lt_length_of_mem hy
  have e1 : L[L.idxOf x]? = some x := by rw [List.getElem?_eq_getElem hix, List.getElem_idxOf hix]
  have e2 : L[L.idxOf y]? = some y := by rw [List.getElem?_eq_getElem hiy, List.getElem_idxOf hiy]
  by_contra hn
  rcases Nat.lt_or_eq_of_le (Nat.le_of_not_lt hn) with hlt | heq
  · have := List.pairwise_iff_getElem.mp hs _ _ hiy hix hlt
    rw [List.getElem_idxOf hiy, List.getElem_idxOf hix] at this
    omega
  · rw [heq, e1] at e2
    have := Option.some.inj e2
    omega

theorem shiftAxes_strictMono {X : Arr R} {g : List Nat} (h : OneOk X g) {x y : Nat}
    (hx : x < X.ndim ∧ x ∉ g) (hy : y < X.ndim ∧ y ∉ g) (hxy : x < y) :
    shiftAxes X g x < shiftAxes X g y := by
  have hi := idxOf_lt_of_lt (freeAxes_pairwise X.ndim g) (mem_freeAxes.mpr hx) (mem_freeAxes.mpr hy) hxy
  have hjy : (freeAxes X.ndim g).idxOf y
      < (freeAxes (FuseP.ndimM X [g]) [(FuseP.giM X [g]).position]).length := by
    rw [one_free_length h]; exact List.idxOf_lt_length_of_mem (mem_freeAxes.mpr hy)
  unfold shiftAxes
  rw [List.getD_eq_getElem?_getD, List.getD_eq_getElem?_getD,
    List.getElem?_eq_getElem (Nat.lt_trans hi hjy), List.getElem?_eq_getElem hjy]
  simp only [Option.getD_some]
  exact List.pairwise_iff_getElem.mp (freeAxes_pairwise _ _) _ _ _ _ hi

theorem shiftAxes_of_lt_pos {X : Arr R} {g : List Nat} (h : OneOk X g) {x : Nat}
    (hx : x < (FuseP.giM X [g]).position) : shiftAxes X g x = x := by
  have hp := one_pos_lt h
  have hxg : x ∉ g := fun hm => by have := one_pos_le h x hm; omega
  have hidx : (freeAxes X.ndim g).idxOf x = x := by
    rw [one_free h, List.idxOf_append_of_mem (List.mem_range.mpr hx)]
    have := (List.nodup_range (n := (FuseP.giM X [g]).position)).idxOf_getElem x (by simpa using hx)
    simpa using this
  unfold shiftAxes
  rw [hidx, one_ndimM h, freeAxes_succ_mid, List.getD_eq_getElem?_getD,
    List.getElem?_append_left (by simpa using hx)]
  simp [hx]

theorem shiftAxes_of_pos_lt {X : Arr R} {g : List Nat} (h : OneOk X g) {x : Nat}
    (hx : x < X.ndim ∧ x ∉ g) (hpx : (FuseP.giM X [g]).position < x) :
    (FuseP.giM X [g]).position < shiftAxes X g x := by
  have hne := shiftAxes_ne_pos h hx
  by_contra hn
  have hlt : shiftAxes X g x < (FuseP.giM X [g]).position := by omega
  have e := shiftAxes_of_lt_pos h hlt
  have hp := one_pos_lt h
  have hs : shiftAxes X g x < X.ndim ∧ shiftAxes X g x ∉ g :=
    ⟨by omega, fun hm => by have := one_pos_le h _ hm; omega⟩
  have := shiftAxes_inj h hs hx e
  omega

end TdotP
end SymmModel
