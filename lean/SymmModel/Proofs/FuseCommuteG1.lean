/-
  SymmModel.Proofs.FuseCommuteG1 — C06, first clause, fermionic, ARBITRARY contracted groups (any
  positions, any order): the layout `before ++ group ++ after` of `_fuse_core`, the fermionic fuse
  sign of one arbitrary group in terms of the ORIGINAL sector, and the sign identity
    gradedSign A B xa xb sa sb = bondSign · fuseSignF A [xa] sa · fuseSignF B [xb] sb
  (`fuse_signs_compatible`; `fuseSignF` contains the Koszul sign of the fuse's transposition,
  which cancels against the Koszul signs of the contraction).  Namespace `SymmModel.TdotP`.
-/
import SymmModel.Proofs.FuseCommuteF7

namespace SymmModel
namespace TdotP
open SymmModel.KoszulP SymmModel.Lazy SymmModel.GradedP SymmModel.RoutesP SymmModel.AssocP
variable {R : Type}
set_option linter.unusedSectionVars false

/-- positions of the group `g` after the transposition of `_fuse_core` -/
def newG (X : Arr R) (g : List Nat) : List Nat :=
  (List.range g.length).map (fun t => (FuseP.giM X [g]).position + t)

section layout
variable {X : Arr R} {g : List Nat}

theorem one_lengths (h : OneOk X g) :
    (FuseP.giM X [g]).position + g.length + (FuseP.giM X [g]).axesAfter.length = X.ndim := by
  have := FuseP.flatten_le (FuseP.hokD h.groupsOk)
  rw [FuseP.duals_length] at this
  simpa using this

theorem one_newGroupsF (h : OneOk X g) : FuseP.newGroupsF [g] X.duals = [newG X g] := by
  have hok := FuseP.hokD h.groupsOk
  have e : FuseP.newGroupsF [g] X.duals = [(FuseP.newGroupsF [g] X.duals).flatten] := by
    simp [FuseP.newGroupsF]
  rw [e, FuseP.newGroupsF_flatten hok]
  simp [newG]

theorem adj_newG [Zero R] [Neg R] (h : AdjOk X g) : newG X g = g :=
  List.head_eq_of_cons_eq ((one_newGroupsF h.one).symm.trans (adj_newGroupsF h))

theorem newG_length : (newG X g).length = g.length := by simp [newG]

theorem newG_lt (h : OneOk X g) : ∀ x ∈ newG X g, x < X.ndim := by
  intro x hx
  obtain ⟨t, ht, rfl⟩ := List.mem_map.mp hx
  have := List.mem_range.mp ht
  have := one_lengths h
  omega

theorem permuted_perm_parts (h : OneOk X g) {α : Type} (z : List α) (hz : z.length = X.ndim) :
    permuted z (FuseP.giM X [g]).perm
      = (permuted z (List.range (FuseP.giM X [g]).position) ++ permuted z g)
        ++ permuted z (FuseP.giM X [g]).axesAfter
    ∧ (permuted z (List.range (FuseP.giM X [g]).position)).length = (FuseP.giM X [g]).position
    ∧ (permuted z g).length = g.length
    ∧ (permuted z (FuseP.giM X [g]).axesAfter).length = (FuseP.giM X [g]).axesAfter.length := by
  have hl := one_lengths h
  refine ⟨by rw [one_perm h, permuted_append, permuted_append], ?_, ?_, ?_⟩
  · rw [permuted_length _ _ (by intro x hx; have := List.mem_range.mp hx; omega), List.length_range]
  · rw [permuted_length _ _ (by intro x hx; rw [hz]; exact h.lt x hx)]
  · rw [permuted_length _ _ (by intro x hx; rw [hz]; exact FuseP.afterM_lt x hx)]

theorem permuted_perm_newG (h : OneOk X g) {α : Type} (z : List α) (hz : z.length = X.ndim) :
    permuted (permuted z (FuseP.giM X [g]).perm) (newG X g) = permuted z g := by
  obtain ⟨e, l1, l2, _⟩ := permuted_perm_parts h z hz
  rw [e]
  generalize permuted z (List.range (FuseP.giM X [g]).position) = u at l1 ⊢
  generalize permuted z g = v at l2 ⊢
  generalize permuted z (FuseP.giM X [g]).axesAfter = w
  unfold newG
  have hf : (fun t => (FuseP.giM X [g]).position + t) = (fun t => u.length + t) := by
    funext t; rw [l1]
  have hr : List.range g.length = List.range v.length := by rw [l2]
  rw [hf, hr, permuted_append_of_lt (u ++ v) w _ (by
    intro i hi
    obtain ⟨t, ht, rfl⟩ := List.mem_map.mp hi
    have := List.mem_range.mp ht
    rw [List.length_append]; omega), permuted_append_map_add]
  exact permuted_range v

theorem freeAxes_newG (h : OneOk X g) :
    freeAxes X.ndim (newG X g)
      = List.range (FuseP.giM X [g]).position
        ++ (List.range (FuseP.giM X [g]).axesAfter.length).map
            (fun j => (FuseP.giM X [g]).position + g.length + j) := by
  have hl := one_lengths h
  have hn : X.ndim = (FuseP.giM X [g]).position + (g.length + (FuseP.giM X [g]).axesAfter.length) := by omega
  unfold newG
  rw [hn, AssocP.freeAxes_shift, GradedP.freeAxes_range _ _ (by omega),
    GradedP.drop_range_eq_map _ _ (by omega), List.map_map]
  refine congrArg₂ (· ++ ·) rfl ?_
  have : g.length + (FuseP.giM X [g]).axesAfter.length - g.length = (FuseP.giM X [g]).axesAfter.length := by omega
  rw [this]
  apply List.map_congr_left
  intro j _
  simp only [Function.comp]; omega

theorem permuted_perm_free (h : OneOk X g) {α : Type} (z : List α) (hz : z.length = X.ndim) :
    permuted (permuted z (FuseP.giM X [g]).perm) (freeAxes X.ndim (newG X g))
      = permuted z (freeAxes X.ndim g) := by
  obtain ⟨e, l1, l2, l3⟩ := permuted_perm_parts h z hz
  rw [freeAxes_newG h, one_free h, permuted_append (l := z), e]
  generalize permuted z (List.range (FuseP.giM X [g]).position) = u at l1 ⊢
  generalize permuted z g = v at l2 ⊢
  generalize permuted z (FuseP.giM X [g]).axesAfter = w at l3 ⊢
  rw [permuted_append]
  refine congrArg₂ (· ++ ·) ?_ ?_
  · have hr : List.range (FuseP.giM X [g]).position = List.range u.length := by rw [l1]
    rw [hr, permuted_append_of_lt (u ++ v) w _ (by
      intro i hi; have := List.mem_range.mp hi; rw [List.length_append]; omega),
      permuted_append_of_lt u v _ (by intro i hi; exact List.mem_range.mp hi)]
    exact permuted_range u
  · have hf : (fun j => (FuseP.giM X [g]).position + g.length + j) = (fun j => (u ++ v).length + j) := by
      funext j; rw [List.length_append, l1, l2]
    have hr : List.range (FuseP.giM X [g]).axesAfter.length = List.range w.length := by rw [l3]
    rw [hf, hr, permuted_append_map_add]
    exact permuted_range w

theorem getD_perm_newG (h : OneOk X g) {α : Type} (z : List α) (hz : z.length = X.ndim) (j : Nat)
    (hj : j < g.length) (d : α) :
    (permuted z (FuseP.giM X [g]).perm).getD ((FuseP.giM X [g]).position + j) d = z.getD (g.getD j 0) d := by
  have h1 := congrArg (fun l => l.getD j d) (permuted_perm_newG h z hz)
  have hpl : (permuted z (FuseP.giM X [g]).perm).length = X.ndim := by
    rw [permuted_length _ _ (by
      intro x hx; rw [hz]
      exact (perm_range_mem_lt (one_perm_perm h) x hx)), (one_perm_perm h).length_eq, List.length_range]
  rw [getD_permuted_ax _ _ (by rw [hpl]; exact newG_lt h) j (by rw [newG_length]; exact hj),
    getD_permuted_ax z g (by rw [hz]; exact h.lt) j hj] at h1
  have e : (newG X g).getD j 0 = (FuseP.giM X [g]).position + j := by
    unfold newG
    rw [List.getD_eq_getElem?_getD, List.getElem?_map, List.getElem?_range hj]
    rfl
  rw [e] at h1
  exact h1

end layout

section sign
variable [Zero R] [Neg R] {X : Arr R} {g : List Nat}

theorem one_trIndices (X : Arr R) (g : List Nat) :
    (X.transposeF (calcFuseGroupInfo [g] X.duals).perm).indices
      = permuted X.indices (FuseP.giM X [g]).perm :=
  (Lazy.transposeF_frame X _).2.2.1

theorem newG_headD (h : OneOk X g) : (newG X g).headD 0 = (FuseP.giM X [g]).position := by
  have := h.ne
  unfold newG
  cases hg : g with
  | nil => exact absurd hg this
  | cons x xs => simp [List.range_succ_eq_map]

theorem one_dualSel (h : OneOk X g) :
    FuseP.dualSel X [g] (newG X g) = (X.indices.getD (g.headD 0) default).dual := by
  unfold FuseP.dualSel
  rw [one_trIndices, newG_headD h]
  have hk : 0 < g.length := by
    have := h.ne
    cases g with
    | nil => exact absurd rfl this
    | cons x xs => simp
  have := getD_perm_newG h X.indices rfl 0 hk default
  rw [Nat.add_zero] at this
  rw [this]
  refine congrArg (fun i => (X.indices.getD i default).dual) ?_
  cases g with
  | nil => simp at hk
  | cons x xs => rfl

theorem one_fuseSignT (h : OneOk X g) (s : Sector) (hs : s.length = X.ndim) :
    FuseP.fuseSignT X [g] (permuted s (FuseP.giM X [g]).perm)
      = if (X.indices.getD (g.headD 0) default).dual
        then sgn (ketOdd X g s) * sgn (oddContracted X g s * (oddContracted X g s - 1) / 2)
        else 1 := by
  have hsel := one_dualSel h
  rw [FuseP.fuseSignT_groups X [g] h.groupsOk, FuseP.dualGroupsF_eq, one_newGroupsF h]
  simp only [List.filter_cons, List.filter_nil, hsel]
  split
  · simp only [List.map_cons, List.map_nil, List.foldr_cons, List.foldr_nil, mul_one]
    rw [FuseP.groupSign_eq X [g] _ _ (one_trIndices X g)]
    refine congrArg₂ (· * ·) ?_ ?_
    · -- the flipped legs
      refine congrArg sgn ?_
      unfold ketOdd newG
      conv_rhs => rw [list_eq_map_getD g]
      apply count_two_maps
      intro j hj
      constructor
      · rw [getD_perm_newG h X.indices rfl j hj]
      · rw [getD_perm_newG h s hs j hj]
    · -- the reversal sign
      unfold FuseP.revSign
      have hpl : (permuted s (FuseP.giM X [g]).perm).length = X.ndim := by
        rw [permuted_length _ _ (by
          intro x hx; rw [hs]
          exact (perm_range_mem_lt (one_perm_perm h) x hx)), (one_perm_perm h).length_eq, List.length_range]
      have : oddCount ((permuted s (FuseP.giM X [g]).perm).map X.sym.parity) (newG X g)
          = oddContracted X g s := by
        rw [oddCount_parities X.sym _ _ (by rw [hpl]; exact newG_lt h), permuted_perm_newG h s hs]
        rfl
      rw [this]
  · rfl

theorem one_fuseSignF (h : OneOk X g) (s : Sector) (hs : s.length = X.ndim) :
    FuseP.fuseSignF X [g] s
      = (if (X.indices.getD (g.headD 0) default).dual
          then sgn (ketOdd X g s) * sgn (oddContracted X g s * (oddContracted X g s - 1) / 2)
          else 1)
        * koszul (X.parities s) (some (FuseP.giM X [g]).perm) := by
  unfold FuseP.fuseSignF
  rw [one_fuseSignT h s hs]

theorem adj_fuseSignF (h : AdjOk X g) (s : Sector) (hs : s.length = X.ndim) :
    FuseP.fuseSignF X [g] s = FuseP.fuseSignT X [g] s := by
  have hp : (calcFuseGroupInfo [g] X.duals).perm = List.range X.ndim := h.idp
  unfold FuseP.fuseSignF
  rw [hp, koszul_id', Int.mul_one, ← hs, permuted_range]

end sign

theorem fuse_signs_compatible [Zero R] [Neg R] (A B : Arr R) {xa xb : List Nat} (hA : OneOk A xa)
    (hB : OneOk B xb) (hsym : A.sym = B.sym) (hlen : xa.length = xb.length)
    (hdual : (xb.map (fun ax => B.indices.getD ax default)).map Index.dual
      = (xa.map (fun ax => A.indices.getD ax default)).map (fun ix => !ix.dual))
    (sa sb : Sector) (hla : sa.length = A.ndim) (hlb : sb.length = B.ndim)
    (hK : permuted sb xb = permuted sa xa) :
    gradedSign A B xa xb sa sb
      = bondSign A.sym (A.indices.getD (xa.headD 0) default).dual (FuseP.giM A [xa]).position
          (FuseP.giM B [xb]).position (permuted sa (freeAxes A.ndim xa)) (permuted sb (freeAxes B.ndim xb))
          (oddContracted A xa sa)
        * FuseP.fuseSignF A [xa] sa * FuseP.fuseSignF B [xb] sb := by
  have hlA : ∀ i ∈ xa, i < sa.length := by intro i hi; rw [hla]; exact hA.lt i hi
  have hlB : ∀ i ∈ xb, i < sb.length := by intro i hi; rw [hlb]; exact hB.lt i hi
  have hPA := one_pos_lt hA
  have hPB := one_pos_lt hB
  have hAr : ∀ i ∈ List.range (FuseP.giM A [xa]).position, i < sa.length := by
    intro i hi; have := List.mem_range.mp hi; omega
  have hBr : ∀ i ∈ List.range (FuseP.giM B [xb]).position, i < sb.length := by
    intro i hi; have := List.mem_range.mp hi; omega
  have hAa : ∀ i ∈ (FuseP.giM A [xa]).axesAfter, i < sa.length := by
    intro i hi; rw [hla]; exact FuseP.afterM_lt i hi
  have hkk := ketOdd_add A B xa xb sa sb hsym hlen hlA hlB hK hdual
  have hdB : (B.indices.getD (xb.headD 0) default).dual = !(A.indices.getD (xa.headD 0) default).dual := by
    have hxa := hA.ne
    have hxb := hB.ne
    match xa, xb, hxa, hxb, hdual with
    | i :: _, j :: _, _, _, hdual =>
      simp only [List.map_cons, List.cons.injEq] at hdual
      exact hdual.1
  have hmB : oddContracted B xb sb = oddContracted A xa sa := by
    rw [oddContracted_eq, oddContracted_eq, hK, hsym]
  -- the Koszul sign of bringing each contracted group to the seam (`koszul_left_one`,
  -- `koszul_right_one`) is the transposition sign inside that operand's fuse sign (`one_fuseSignF`);
  -- what is left are powers of `-1` in the odd counts, and `ketOdd_add` (`ketOdd A + ketOdd B = m`) closes it
  unfold gradedSign
  rw [koszul_left_one hA, koszul_right_one hB, one_fuseSignF hA sa hla, one_fuseSignF hB sb hlb, hdB, hmB,
    ← sgn_eq_pow, ← sgn_eq_pow,
    oddCount_arr A sa xa hlA, oddCount_arr A sa _ hAa, oddCount_arr B sb _ hBr,
    oddCount_arr B sb xb hlB, hK, ← hsym, ← oddContracted_eq A xa sa]
  have eL : (permuted sa (freeAxes A.ndim xa)).drop (FuseP.giM A [xa]).position
      = permuted sa (FuseP.giM A [xa]).axesAfter := by
    rw [one_free hA, permuted_append]
    exact List.drop_left' (by rw [permuted_length _ _ hAr, List.length_range])
  have eR : (permuted sb (freeAxes B.ndim xb)).take (FuseP.giM B [xb]).position
      = permuted sb (List.range (FuseP.giM B [xb]).position) := by
    rw [one_free hB, permuted_append]
    exact List.take_left' (by rw [permuted_length _ _ hBr, List.length_range])
  unfold bondSign
  rw [eL, eR]
  generalize oddContracted A xa sa = m at hkk ⊢
  generalize ketOdd A xa sa = kA at hkk ⊢
  generalize ketOdd B xb sb = kB at hkk ⊢
  generalize sgn (m * oddIn A.sym (permuted sa (FuseP.giM A [xa]).axesAfter)) = u
  generalize sgn (oddIn A.sym (permuted sb (List.range (FuseP.giM B [xb]).position)) * m) = v
  generalize sgn (m * (m - 1) / 2) = t
  generalize koszul (A.parities sa) (some (FuseP.giM A [xa]).perm) = ka
  generalize koszul (B.parities sb) (some (FuseP.giM B [xb]).perm) = kb
  cases (A.indices.getD (xa.headD 0) default).dual
  · simp only [Bool.false_eq_true, if_false, Bool.not_false, if_true]
    have hs : sgn m * sgn kB = sgn kA := by
      rw [← hkk, sgn_add, Int.mul_assoc, sgn_mul_self, Int.mul_one]
    rw [← hs]; ring
  · simp only [if_true, Bool.not_true, Bool.false_eq_true, if_false]
    ring

end TdotP
end SymmModel
