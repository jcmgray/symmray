/-
  SymmModel.Proofs.Assoc5Labels — the label scan `resolveScan` only depends on the ORDER TYPE of the
  labels: it commutes with every relabelling that is an order embedding on the labels present.
  Consequence: when the label check `labelRoutesB` or `netLabelsB` holds on a label list, it holds
  on the image of the list under such a relabelling (`labelRoutesB_relab`, `netLabelsB_relab`).
-/
import SymmModel.Proofs.NormNet15

namespace SymmModel
namespace Assoc5P
open OddposP

/-- relabel by `f`, keep dualness -/
def relab (f : Int → Int) (a : Int × Bool) : Int × Bool := (f a.1, a.2)

/-- `f` is an order embedding on the labels satisfying `P` -/
def Emb (f : Int → Int) (P : Int → Prop) : Prop :=
  ∀ x y, P x → P y → ((f x = f y ↔ x = y) ∧ (f x < f y ↔ x < y))

theorem oddLt_relab {f : Int → Int} {P : Int → Prop} (hf : Emb f P) (a b : Int × Bool)
    (ha : P a.1) (hb : P b.1) : oddLt (relab f a) (relab f b) = oddLt a b := by
  obtain ⟨_, h1⟩ := hf a.1 b.1 ha hb
  obtain ⟨_, h2⟩ := hf b.1 a.1 hb ha
  unfold oddLt relab
  simp only []
  cases a.2 <;> cases b.2 <;> simp [h1, h2, GT.gt]

/-- the entries seen after the cursor has stepped back -/
theorem mem_back {α : Type} (pre X : List α) (x : α) :
    x ∈ pre.tail ++ (pre.head?.toList ++ X) ↔ x ∈ pre ++ X := by
  cases pre with
  | nil => rfl
  | cons p pre' => exact List.perm_middle.mem_iff

theorem map_back {α β : Type} (g : α → β) (pre X : List α) :
    (pre.map g).head?.toList ++ X.map g = (pre.head?.toList ++ X).map g := by
  cases pre <;> rfl

theorem resolveScan_relab {f : Int → Int} {P : Int → Prop} (hf : Emb f P) :
    ∀ (fuel : Nat) (pre post : List (Int × Bool)) (ph : Int),
      (∀ a ∈ pre ++ post, P a.1) →
      resolveScan fuel (pre.map (relab f)) (post.map (relab f)) ph
        = (resolveScan fuel pre post ph).map (fun r => (r.1.map (relab f), r.2)) := by
  intro fuel
  induction fuel with
  | zero => intro pre post ph _; rw [resolveScan_zero, resolveScan_zero]; rfl
  | succ fuel ih =>
    intro pre post ph hP
    match post, hP with
    | [], _ => rw [List.map_nil, resolveScan_nil, resolveScan_nil, ← List.map_reverse]; rfl
    | [a], _ =>
      rw [List.map_cons, List.map_nil, resolveScan_single, resolveScan_single, ← List.map_cons,
        ← List.map_reverse]
      rfl
    | a :: b :: rest, hP =>
      have ha : P a.1 := hP a (by simp)
      have hb : P b.1 := hP b (by simp)
      -- the two tests of a step give the same answers on the relabelled pair
      have heq : ((relab f a).1 == (relab f b).1) = (a.1 == b.1) := by
        rw [Bool.eq_iff_iff]
        simp only [beq_iff_eq, relab]
        exact (hf a.1 b.1 ha hb).1
      have hlt := oddLt_relab hf b a hb ha
      have hPback : ∀ X : List (Int × Bool), (∀ x ∈ X, x ∈ a :: b :: rest) →
          ∀ x ∈ pre.tail ++ (pre.head?.toList ++ X), P x.1 := by
        intro X hX x hx
        rcases List.mem_append.mp ((mem_back pre X x).mp hx) with h | h
        · exact hP x (List.mem_append_left _ h)
        · exact hP x (List.mem_append_right _ (hX x h))
      rw [List.map_cons, List.map_cons]
      cases h1 : a.1 == b.1 with
      | false =>
        cases h2 : oddLt b a with
        | false =>
          rw [resolveScan_fwd _ _ _ _ _ _ (heq.trans h1) (hlt.trans h2),
            resolveScan_fwd _ _ _ _ _ _ h1 h2, ← List.map_cons, ← List.map_cons]
          exact ih (a :: pre) (b :: rest) ph (fun x hx => hP x (List.perm_middle.mem_iff.mpr hx))
        | true =>
          rw [resolveScan_swap _ _ _ _ _ _ (heq.trans h1) (hlt.trans h2),
            resolveScan_swap _ _ _ _ _ _ h1 h2, ← List.map_tail, ← List.map_cons, ← List.map_cons,
            map_back]
          exact ih _ _ _ (hPback _ (fun x hx => (List.Perm.swap a b rest).mem_iff.mp hx))
      | true =>
        cases h2 : a.2 != b.2 with
        | false =>
          rw [resolveScan_clash _ _ _ _ _ _ (heq.trans h1) h2, resolveScan_clash _ _ _ _ _ _ h1 h2]
          rfl
        | true =>
          rw [resolveScan_annihilate _ _ _ _ _ _ (heq.trans h1) h2,
            resolveScan_annihilate _ _ _ _ _ _ h1 h2, ← List.map_tail, map_back]
          exact ih _ _ _ (hPback _ (fun x hx => List.mem_cons_of_mem _ (List.mem_cons_of_mem _ hx)))

theorem mergeOddpos_relab {f : Int → Int} {P : Int → Prop} (hf : Emb f P) (pa : Bool)
    (la lb : List (Int × Bool)) (hP : ∀ a ∈ la ++ lb, P a.1) :
    mergeOddpos pa (la.map (relab f)) (lb.map (relab f))
      = (mergeOddpos pa la lb).map (fun r => (r.1.map (relab f), r.2)) := by
  unfold mergeOddpos
  have := resolveScan_relab hf ((la ++ lb).length * (la ++ lb).length + 2 * (la ++ lb).length + 4) []
    (la ++ lb) (if pa && lb.length % 2 == 1 then -1 else 1) (by simpa using hP)
  simpa [List.map_append] using this

theorem oddposDag_relab (f : Int → Int) (l : List (Int × Bool)) :
    Arr.oddposDag (l.map (relab f)) = (Arr.oddposDag l).map (relab f) := by
  unfold Arr.oddposDag
  rw [← List.map_reverse, List.map_map, List.map_map]
  rfl

theorem labelRoutesB_relab {f : Int → Int} {P : Int → Prop} (hf : Emb f P) (pa pb : Bool)
    (la lb lc : List (Int × Bool)) (hP : ∀ a ∈ la ++ lb ++ lc, P a.1)
    (h : C04.labelRoutesB pa pb la lb lc = true) :
    C04.labelRoutesB pa pb (la.map (relab f)) (lb.map (relab f)) (lc.map (relab f)) = true := by
  have hPab : ∀ a ∈ la ++ lb, P a.1 := fun a ha => hP a (List.mem_append_left _ ha)
  have hPbc : ∀ a ∈ lb ++ lc, P a.1 := fun a ha =>
    hP a (List.append_assoc la lb lc ▸ List.mem_append_right la ha)
  unfold C04.labelRoutesB at h ⊢
  rw [mergeOddpos_relab hf pa la lb hPab, mergeOddpos_relab hf pb lb lc hPbc]
  cases m1 : mergeOddpos pa la lb with
  | error e => simp [m1] at h
  | ok r1 =>
    cases m3 : mergeOddpos pb lb lc with
    | error e => simp [m1, m3] at h
    | ok r3 =>
      obtain ⟨lab, sab⟩ := r1
      obtain ⟨lbc, sbc⟩ := r3
      simp only [m1, m3] at h
      simp only [Except.map]
      have hPabc : ∀ a ∈ lab ++ lc, P a.1 := by
        intro a ha
        rcases List.mem_append.mp ha with h' | h'
        · exact hPab a (List.mem_append.mpr (LabelAlg.mergeOddpos_mem m1 a h'))
        · exact hP a (List.mem_append_right _ h')
      have hPabc' : ∀ a ∈ la ++ lbc, P a.1 := by
        intro a ha
        rcases List.mem_append.mp ha with h' | h'
        · exact hPab a (List.mem_append_left _ h')
        · exact hPbc a (List.mem_append.mpr (LabelAlg.mergeOddpos_mem m3 a h'))
      rw [mergeOddpos_relab hf _ lab lc hPabc, mergeOddpos_relab hf pa la lbc hPabc']
      cases m2 : mergeOddpos (xor pa pb) lab lc with
      | error e => simp [m2] at h
      | ok r2 =>
        cases m4 : mergeOddpos pa la lbc with
        | error e => simp [m2, m4] at h
        | ok r4 =>
          obtain ⟨o1, s1⟩ := r2
          obtain ⟨o2, s2⟩ := r4
          simp only [m2, m4, Bool.and_eq_true, Bool.or_eq_true, beq_iff_eq] at h
          simp only [Except.map, Bool.and_eq_true, Bool.or_eq_true, beq_iff_eq]
          obtain ⟨⟨⟨⟨⟨e, hs⟩, q1⟩, q2⟩, q3⟩, q4⟩ := h
          exact ⟨⟨⟨⟨⟨by rw [e], hs⟩, q1⟩, q2⟩, q3⟩, q4⟩

theorem netLabelsB_relab {f : Int → Int} {P : Int → Prop} (hf : Emb f P) (pA pB : Bool)
    (oA oB : List (Int × Bool)) (hP : ∀ a ∈ oA ++ oB, P a.1)
    (h : NormNet.netLabelsB pA pB oA oB = true) :
    NormNet.netLabelsB pA pB (oA.map (relab f)) (oB.map (relab f)) = true := by
  unfold NormNet.netLabelsB at h ⊢
  rw [mergeOddpos_relab hf pA oA oB hP]
  cases m : mergeOddpos pA oA oB with
  | error e => simp [m] at h
  | ok r =>
    obtain ⟨out, s⟩ := r
    simp only [m, Bool.and_eq_true] at h
    simp only [Except.map, Bool.and_eq_true, oddposDag_relab]
    have hout : ∀ a ∈ out, P a.1 := fun a ha => hP a (List.mem_append.mpr (LabelAlg.mergeOddpos_mem m a ha))
    have hdag : ∀ (l : List (Int × Bool)), (∀ a ∈ l, P a.1) → ∀ a ∈ Arr.oddposDag l, P a.1 := by
      intro l hl a ha
      unfold Arr.oddposDag at ha
      obtain ⟨b, hb, rfl⟩ := List.mem_map.mp ha
      exact hl b (List.mem_reverse.mp hb)
    have hA : ∀ a ∈ oA, P a.1 := fun a ha => hP a (List.mem_append_left _ ha)
    have hB : ∀ a ∈ oB, P a.1 := fun a ha => hP a (List.mem_append_right _ ha)
    have mem3 : ∀ (x y z : List (Int × Bool)), (∀ a ∈ x, P a.1) → (∀ a ∈ y, P a.1) →
        (∀ a ∈ z, P a.1) → ∀ a ∈ x ++ y ++ z, P a.1 := by
      intro x y z hx hy hz a ha
      rcases List.mem_append.mp ha with h' | h'
      · rcases List.mem_append.mp h' with h'' | h''
        · exact hx a h''
        · exact hy a h''
      · exact hz a h'
    exact ⟨⟨⟨labelRoutesB_relab hf _ _ _ _ _ (mem3 _ _ _ hout (hdag _ hA) (hdag _ hB)) h.1.1.1,
      labelRoutesB_relab hf _ _ _ _ _ (mem3 _ _ _ hA hB (hdag _ hout)) h.1.1.2⟩,
      labelRoutesB_relab hf _ _ _ _ _ (mem3 _ _ _ (hdag _ hA) (hdag _ hB) hout) h.1.2⟩,
      labelRoutesB_relab hf _ _ _ _ _ (mem3 _ _ _ (hdag _ hout) hA hB) h.2⟩

end Assoc5P
end SymmModel
