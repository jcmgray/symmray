/-
  SymmModel.Proofs.NetNorm11 — network form of the norm (property C10):
  chains of any length, the ket half and the bra half each along ANY bracketing tree
  (`C04.chain_bracketing`: every bracketing is `SegEqv` to the left-nested contraction; congruence
  `full_congr` of the final contraction): `(bra chain along tb)·(ket chain along t) = Σ|K|²`; and the
  three-tensor chain written out: the ket half as `(a·b)·c` or `a·(b·c)`, the bra half as `(ā·b̄)·c̄` or
  `ā·(b̄·c̄)`, both operand orders of the final call — eight routes (`chain_both`, `full_congr`).
-/
import SymmModel.Proofs.NetNorm10
import SymmModel.Props.C04f
namespace SymmModel.NormNet
open SymmModel SymmModel.Lazy SymmModel.Norm
open SymmModel.AssocP SymmModel.Assoc3P SymmModel.Assoc4P
set_option linter.unusedSectionVars false

section brackets
variable {R : Type} [AddCommMonoid R] [Mul R] [Neg R] [Conj R] [NetLaws R] [AssocLaws R]

theorem keys_flatL_bra (ys : List (Seg R)) :
    ((flatL (ys.map braSeg)).map (·.1)).Perm ((flatL ys).map (·.1)) := by
  induction ys with
  | nil => exact List.Perm.refl _
  | cons y ys ih =>
    show (((braOf y.arr (y.l ++ y.r)).oddpos ++ flatL (ys.map braSeg)).map (·.1)).Perm
      ((y.arr.oddpos ++ flatL ys).map (·.1))
    rw [List.map_append, List.map_append, braOf_oddpos y.arr (y.l ++ y.r)]
    exact (keys_dag _).append ih

theorem bra_chain_distinct (S : Seg R) (ys : List (Seg R))
    (hd : OddposP.LabelsDistinct (S.arr.oddpos ++ flatL ys)) :
    OddposP.LabelsDistinct ((braSeg S).arr.oddpos ++ flatL (ys.map braSeg)) := by
  refine distinct_of_keys ?_ hd
  show (((braOf S.arr (S.l ++ S.r)).oddpos ++ flatL (ys.map braSeg)).map (·.1)).Perm _
  rw [List.map_append, List.map_append, braOf_oddpos S.arr (S.l ++ S.r)]
  exact (keys_dag _).append (keys_flatL_bra ys)

/-- the conclusion of `network_norm_chain_bracketings` -/
def ChainNormB (S : Seg R) (ys : List (Seg R)) (t tb : STree R) : Prop :=
  ∃ T Tb T' Tb', evalL S ys = .ok T ∧ evalL (braSeg S) (ys.map braSeg) = .ok Tb
    ∧ t.eval = .ok T' ∧ tb.eval = .ok Tb'
    ∧ Eqv T'.arr T.arr ∧ Eqv Tb'.arr Tb.arr ∧ ObsEq Tb.arr (T.arr.conjF true true)
    ∧ (∃ r, Tb'.arr.tensordotF T'.arr (allAxes T.arr.ndim) .blockwise = .ok r
        ∧ r.ndim = 0 ∧ r.oddpos = [] ∧ r.elem [] [] = normSq T.arr)
    ∧ (∃ r, T'.arr.tensordotF Tb'.arr (allAxes T.arr.ndim) .blockwise = .ok r
        ∧ r.ndim = 0 ∧ r.oddpos = [] ∧ r.elem [] [] = normSq' T.arr)

theorem network_norm_chain_bracketings (S : Seg R) (ys : List (Seg R)) (t tb : STree R)
    (ht1 : t.first = S) (ht2 : t.rest = ys)
    (hb1 : tb.first = braSeg S) (hb2 : tb.rest = ys.map braSeg)
    (hS : LeafOK S) (hl : S.l = [])
    (hlink : linked S ys) (hlast : (lastD S ys).r = [])
    (hketS : KetLabels S.arr.oddpos) (hket : ∀ y ∈ ys, KetLabels y.arr.oddpos)
    (hd : OddposP.LabelsDistinct (S.arr.oddpos ++ flatL ys)) : ChainNormB S ys t tb := by
  obtain ⟨T, Tb, e1, e2, hobs, vT, fT, vTb, fTb, hp, hnd, ⟨r, q1, q2, q3, q4⟩,
    ⟨r', g1, g2, g3, g4⟩⟩ := network_norm_chain S ys hS hl hlink hlast hketS hket hd
  have hok : t.OK := (C04.ok_iff_leaves t).mpr ⟨ht1 ▸ hS, by rw [ht1, ht2]; exact hlink⟩
  have hdt : t.labels.Pairwise (fun x y => x.1 ≠ y.1) := by
    rw [STree.labels_eq, ht1, ht2]; exact hd
  obtain ⟨T', TL, f1, f2, hE, gT', _⟩ := C04.chain_bracketing t hok hdt
  rw [ht1, ht2, e1] at f2
  obtain rfl := Except.ok.inj f2
  have hokb : tb.OK := (C04.ok_iff_leaves tb).mpr
    ⟨hb1 ▸ braSeg_leafOK hS, by rw [hb1, hb2]; exact braSeg_linked ys S hS hlink⟩
  have hdb : tb.labels.Pairwise (fun x y => x.1 ≠ y.1) := by
    rw [STree.labels_eq, hb1, hb2]; exact bra_chain_distinct S ys hd
  obtain ⟨Tb', TLb, h1, h2, hEb, gTb', _⟩ := C04.chain_bracketing tb hokb hdb
  rw [hb1, hb2, e2] at h2
  obtain rfl := Except.ok.inj h2
  obtain ⟨A1, A2⟩ := adm_full vT fT vTb fTb
    (hobs.sym.trans (conjF_frame T.arr true true).1)
    (hobs.indices.trans (conjF_frame T.arr true true).2.2.1)
  obtain ⟨r1, a1, a2, a3, a4⟩ := full_congr T.arr.ndim (AdmW.ofAdm A1) hEb.1 hE.1 gTb'.ok.valid
    gT'.ok.valid q1 q2
  obtain ⟨r2, b1, b2, b3, b4⟩ := full_congr T.arr.ndim (AdmW.ofAdm A2) hE.1 hEb.1 gT'.ok.valid
    gTb'.ok.valid g1 g2
  exact ⟨T, Tb, T', Tb', e1, e2, f1, h1, hE.1, hEb.1, hobs, ⟨r1, a1, a2, a3.trans q3, a4.trans q4⟩,
    ⟨r2, b1, b2, b3.trans g3, b4.trans g4⟩⟩

theorem bra_labels_distinct3 {oA oB oC : List (Int × Bool)}
    (hd : ((oA ++ oB) ++ oC).Pairwise (fun x y => x.1 ≠ y.1)) :
    ((Arr.oddposDag oA ++ Arr.oddposDag oB) ++ Arr.oddposDag oC).Pairwise (fun x y => x.1 ≠ y.1) := by
  refine distinct_of_keys ?_ hd
  simp only [List.map_append]
  exact ((keys_dag _).append (keys_dag _)).append (keys_dag _)

/-- the conclusion of `network_norm_chain3_routes` -/
def Chain3Routes (a b c : Arr R) (xa xb1 xb2 xc : List Nat) : Prop :=
  ∃ K2 Kb2 K3 Kb3 BC BCb K3r Kb3r,
    a.tensordotF b (.pair (xa.map Int.ofNat) (xb1.map Int.ofNat)) .blockwise = .ok K2
    ∧ (braOf a xa).tensordotF (braOf b (xb1 ++ xb2))
        (.pair (xa.map Int.ofNat) (xb1.map Int.ofNat)) .blockwise = .ok Kb2
    ∧ K2.tensordotF c (.pair ((AssocP.axesAB a.ndim b.ndim xa xb1 xb2).map Int.ofNat)
        (xc.map Int.ofNat)) .blockwise = .ok K3
    ∧ Kb2.tensordotF (braOf c xc) (.pair ((AssocP.axesAB a.ndim b.ndim xa xb1 xb2).map Int.ofNat)
        (xc.map Int.ofNat)) .blockwise = .ok Kb3
    ∧ b.tensordotF c (.pair (xb2.map Int.ofNat) (xc.map Int.ofNat)) .blockwise = .ok BC
    ∧ a.tensordotF BC (.pair (xa.map Int.ofNat)
        ((AssocP.axesBC b.ndim xb1 xb2).map Int.ofNat)) .blockwise = .ok K3r
    ∧ (braOf b (xb1 ++ xb2)).tensordotF (braOf c xc)
        (.pair (xb2.map Int.ofNat) (xc.map Int.ofNat)) .blockwise = .ok BCb
    ∧ (braOf a xa).tensordotF BCb (.pair (xa.map Int.ofNat)
        ((AssocP.axesBC b.ndim xb1 xb2).map Int.ofNat)) .blockwise = .ok Kb3r
    ∧ Eqv K3r K3 ∧ Eqv Kb3r Kb3
    -- the eight routes
    ∧ ∀ X Y : Arr R, (X = Kb3 ∨ X = Kb3r) → (Y = K3 ∨ Y = K3r) →
        (∃ r, X.tensordotF Y (allAxes K3.ndim) .blockwise = .ok r
          ∧ r.ndim = 0 ∧ r.oddpos = [] ∧ r.elem [] [] = normSq K3)
        ∧ (∃ r, Y.tensordotF X (allAxes K3.ndim) .blockwise = .ok r
          ∧ r.ndim = 0 ∧ r.oddpos = [] ∧ r.elem [] [] = normSq' K3)

theorem network_norm_chain3_routes (a b c : Arr R) (xa xb1 xb2 xc : List Nat)
    (ha : a.validB = true) (hb : b.validB = true) (hc : c.validB = true)
    (hfa : a.fermi = true) (hfb : b.fermi = true) (hfc : c.fermi = true)
    (hadm1 : tdotAdmissibleCommonB a b xa xb1 = true)
    (hadm2 : tdotAdmissibleCommonB b c xb2 xc = true)
    (hnd : (xb1 ++ xb2).Nodup)
    (hoA : KetLabels a.oddpos) (hoB : KetLabels b.oddpos) (hoC : KetLabels c.oddpos)
    (hd : ((a.oddpos ++ b.oddpos) ++ c.oddpos).Pairwise (fun x y => x.1 ≠ y.1)) :
    Chain3Routes a b c xa xb1 xb2 xc := by
  obtain ⟨K2, Kb2, K3, Kb3, eK2, eKb2, eK3, eKb3, hobs1, hobs2, hnd3, hperm, hK3v, hK3f, hKb3v,
    hKb3f, ⟨r, e1, n1, o1, v1⟩, ⟨r', e2, n2, o2, v2⟩⟩ :=
    network_norm_chain3 a b c xa xb1 xb2 xc ha hb hc hfa hfb hfc hadm1 hadm2 hnd hoA hoB hoC hd
  have W1 := AdmW.of ha hb hfa hfb hadm1
  have Wbc := AdmW.of hb hc hfb hfc hadm2
  obtain ⟨AB, BC, c1, K3r, f1, f2, f3, f4, hE, vK3r⟩ := chain_both a b c xa xb1 xb2 xc W1 Wbc hnd hd
  obtain rfl : AB = K2 := by rw [eK2] at f1; exact (Except.ok.inj f1).symm
  obtain rfl : c1 = K3 := by rw [eK3] at f2; exact (Except.ok.inj f2).symm
  have hdb : OddposP.LabelsDistinct ((braOf a xa).oddpos ++ (braOf b (xb1 ++ xb2)).oddpos
      ++ (braOf c xc).oddpos) := by
    rw [braOf_oddpos a xa, braOf_oddpos b (xb1 ++ xb2),
      braOf_oddpos c xc]
    exact bra_labels_distinct3 hd
  obtain ⟨ABb, BCb, c1b, Kb3r, g1, g2, g3, g4, hEb, vKb3r⟩ :=
    chain_both (braOf a xa) (braOf b (xb1 ++ xb2)) (braOf c xc) xa xb1 xb2 xc
      (braOf_admW W1 xa (xb1 ++ xb2)) (braOf_admW Wbc (xb1 ++ xb2) xc) hnd hdb
  simp only [braOf_ndim] at g2 g4
  obtain rfl : ABb = Kb2 := by rw [eKb2] at g1; exact (Except.ok.inj g1).symm
  obtain rfl : c1b = Kb3 := by rw [eKb3] at g2; exact (Except.ok.inj g2).symm
  obtain ⟨A1, A2⟩ := adm_full hK3v hK3f hKb3v hKb3f
    (hobs2.sym.trans (conjF_frame c1 true true).1)
    (hobs2.indices.trans (conjF_frame c1 true true).2.2.1)
  refine ⟨AB, ABb, c1, c1b, BC, BCb, K3r, Kb3r, eK2, eKb2, eK3, eKb3, f3, f4, g3, g4, hE, hEb, ?_⟩
  intro X Y hX hY
  have EX : Eqv X c1b ∧ X.validB = true := by
    rcases hX with rfl | rfl
    · exact ⟨Eqv.refl _, hKb3v⟩
    · exact ⟨hEb, vKb3r⟩
  have EY : Eqv Y c1 ∧ Y.validB = true := by
    rcases hY with rfl | rfl
    · exact ⟨Eqv.refl _, hK3v⟩
    · exact ⟨hE, vK3r⟩
  constructor
  · obtain ⟨r1, q1, q2, q3, q4⟩ := full_congr c1.ndim (AdmW.ofAdm A1) EX.1 EY.1 EX.2 EY.2 e1 n1
    exact ⟨r1, q1, q2, q3.trans o1, q4.trans v1⟩
  · obtain ⟨r1, q1, q2, q3, q4⟩ := full_congr c1.ndim (AdmW.ofAdm A2) EY.1 EX.1 EY.2 EX.2 e2 n2
    exact ⟨r1, q1, q2, q3.trans o2, q4.trans v2⟩

end brackets

end SymmModel.NormNet
