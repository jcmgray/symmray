/-
  SymmModel.Proofs.TdotLemmas — structure of `tensordotBlockwise` / `dropMisaligned`
  (layers L4/L5 of DESIGN §3.6 for C02 and C06).  Namespace `SymmModel.TdotP`; only
  `SymmModel.Arr.shapesOk` and `SymmModel.Arr.blockShapeD` are root-level (for dot notation).

  Contents: the pairing loop as `accum` over `tdTerms`; result sectors; `dropMisaligned`
  (what it keeps, idempotence); aligning first does not change
  the blockwise contraction (blocks and index tables); block shapes from index tables
  (`blockShape?` under `permuted`/`++`); the value of the result at block level
  (`tensordotBlockwise_get`) and at address level (`tensordotBlockwise_elem_pairs`); full
  contraction; `parseAxes` / `tensordotA` in blockwise mode.
-/
import SymmModel.Model.Tdot
import SymmModel.Model.Valid
import SymmModel.Proofs.ValidBase
import SymmModel.Proofs.Accum
import SymmModel.Proofs.SpecAxes
import SymmModel.Proofs.SpecTdot
import SymmModel.Proofs.DropUnused
import SymmModel.Proofs.ArrBase

namespace SymmModel
namespace TdotP
variable {R : Type}

instance : LawfulBEq Sector := inferInstance

/-- the `(result sector, tensordot of the pair)` list that is accumulated -/
def tdTerms [Zero R] [Add R] [Mul R] (a b : Arr R) (l xa xb r : List Nat) : List (Sector × Blk R) :=
  (tdPairs a b l xa xb r).map (fun p => (p.1, p.2.1.tensordotK p.2.2 xa xb))

theorem tensordotBlockwise_blocks [Zero R] [Add R] [Mul R] (a b : Arr R) (l xa xb r : List Nat) :
    (tensordotBlockwise a b l xa xb r).blocks =
      accum (Blk.zipWith (· + ·)) (tdTerms a b l xa xb r) := by
  unfold tensordotBlockwise tdTerms accum
  rw [List.foldl_map]
  show List.foldl _ [] (tdPairs a b l xa xb r) = _
  congr 1
  funext acc x
  obtain ⟨s, ba, bb⟩ := x
  simp only [accStep]
  cases alookup acc s <;> rfl

theorem tensordotBlockwise_charge' [Zero R] [Add R] [Mul R] (a b : Arr R) (l xa xb r : List Nat) :
    (tensordotBlockwise a b l xa xb r).charge = a.sym.combine [a.charge, b.charge] := rfl

theorem tensordotBlockwise_indices [Zero R] [Add R] [Mul R] (a b : Arr R) (l xa xb r : List Nat) :
    (tensordotBlockwise a b l xa xb r).indices =
      dropUnused (without a.indices xa ++ without b.indices xb)
        (tensordotBlockwise a b l xa xb r).sectors := rfl

/-- result sectors of the aligned pairs, in visiting order (with repetitions) -/
def tdKeys (sa sb : List Sector) (l xa xb r : List Nat) : List Sector :=
  sa.flatMap (fun s => (sb.filter (fun t => permuted t xb == permuted s xa)).map
    (fun t => permuted s l ++ permuted t r))

theorem akeys_tdTerms [Zero R] [Add R] [Mul R] (a b : Arr R) (l xa xb r : List Nat) :
    akeys (tdTerms a b l xa xb r) = tdKeys a.sectors b.sectors l xa xb r := by
  simp only [akeys, tdTerms, tdPairs, tdKeys, Arr.sectors, List.map_map, List.map_flatMap,
    List.flatMap_map, List.filter_map]
  rfl

theorem mem_tdKeys {sa sb : List Sector} {l xa xb r : List Nat} {s : Sector} :
    s ∈ tdKeys sa sb l xa xb r ↔
      ∃ x ∈ sa, ∃ y ∈ sb, permuted x xa = permuted y xb ∧ s = permuted x l ++ permuted y r := by
  simp only [tdKeys, List.mem_flatMap, List.mem_map, List.mem_filter, beq_iff_eq]
  constructor
  · rintro ⟨x, hx, y, ⟨hy, hm⟩, rfl⟩; exact ⟨x, hx, y, hy, hm.symm, rfl⟩
  · rintro ⟨x, hx, y, hy, hm, rfl⟩; exact ⟨x, hx, y, ⟨hy, hm.symm⟩, rfl⟩

theorem tensordotBlockwise_sectors_eq [Zero R] [Add R] [Mul R] (a b : Arr R) (l xa xb r : List Nat) :
    (tensordotBlockwise a b l xa xb r).sectors = (tdKeys a.sectors b.sectors l xa xb r).eraseDups := by
  rw [Arr.sectors, tensordotBlockwise_blocks]
  exact (akeys_accum _ _).trans (by rw [akeys_tdTerms])

theorem flatMap_filter_of_nil {α β : Type} (p : α → Bool) (f : α → List β) (l : List α)
    (h : ∀ x ∈ l, p x = false → f x = []) : (l.filter p).flatMap f = l.flatMap f := by
  induction l with
  | nil => rfl
  | cons x xs ih =>
    have ih' := ih (fun y hy => h y (List.mem_cons_of_mem _ hy))
    rw [List.filter_cons]
    cases hp : p x with
    | true => simp [ih']
    | false => simp [ih', h x (by simp) hp]

/-- contracted parts of the stored sectors -/
def subKeys (a : Arr R) (axes : List Nat) : List Sector := a.sectors.map (fun s => permuted s axes)

theorem mem_subKeys_of_mem {a : Arr R} {axes : List Nat} {p : Sector × Blk R} (h : p ∈ a.blocks) :
    permuted p.1 axes ∈ subKeys a axes :=
  List.mem_map.mpr ⟨p.1, List.mem_map.mpr ⟨p, h, rfl⟩, rfl⟩

theorem Arr.ext' {x y : Arr R} (h1 : x.sym = y.sym) (h2 : x.fermi = y.fermi) (h3 : x.indices = y.indices)
    (h4 : x.charge = y.charge) (h5 : x.blocks = y.blocks) (h6 : x.phases = y.phases)
    (h7 : x.oddpos = y.oddpos) : x = y := by
  cases x; cases y; simp_all

/-- `dropMisaligned` treats its operands alike: the list of admitted contracted parts is taken from
    the first operand's keys, but only membership in it matters -/
theorem dropMisaligned_swap (a b : Arr R) (xa xb : List Nat) :
    dropMisaligned b a xb xa = ((dropMisaligned a b xa xb).2, (dropMisaligned a b xa xb).1) := by
  have hal : ∀ k : Sector,
      ((subKeys b xb).filter (fun k => (subKeys a xa).contains k)).contains k =
        ((subKeys a xa).filter (fun k => (subKeys b xb).contains k)).contains k := by
    intro k
    rw [Bool.eq_iff_iff, List.contains_iff_mem, List.contains_iff_mem, List.mem_filter,
      List.mem_filter, List.contains_iff_mem, List.contains_iff_mem]
    exact and_comm
  have h1 : (dropMisaligned b a xb xa).1.blocks = (dropMisaligned a b xa xb).2.blocks :=
    List.filter_congr (fun _ _ => hal _)
  have h2 : (dropMisaligned b a xb xa).2.blocks = (dropMisaligned a b xa xb).1.blocks :=
    List.filter_congr (fun _ _ => hal _)
  apply Prod.ext
  · refine Arr.ext' rfl rfl ?_ rfl h1 rfl rfl
    show dropUnused b.indices ((dropMisaligned b a xb xa).1.blocks.map (·.1)) =
      dropUnused b.indices ((dropMisaligned a b xa xb).2.blocks.map (·.1))
    rw [h1]
  · refine Arr.ext' rfl rfl ?_ rfl h2 rfl rfl
    show dropUnused a.indices ((dropMisaligned b a xb xa).2.blocks.map (·.1)) =
      dropUnused a.indices ((dropMisaligned a b xa xb).1.blocks.map (·.1))
    rw [h2]

theorem dropMisaligned_snd (a b : Arr R) (xa xb : List Nat) :
    (dropMisaligned a b xa xb).2 = (dropMisaligned b a xb xa).1 :=
  (congrArg Prod.fst (dropMisaligned_swap a b xa xb)).symm

theorem dropMisaligned_fst (a b : Arr R) (xa xb : List Nat) :
    (dropMisaligned a b xa xb).1 = (dropMisaligned b a xb xa).2 :=
  (congrArg Prod.snd (dropMisaligned_swap a b xa xb)).symm

theorem dropMisaligned_fst_blocks (a b : Arr R) (xa xb : List Nat) :
    (dropMisaligned a b xa xb).1.blocks =
      a.blocks.filter (fun p => (subKeys b xb).contains (permuted p.1 xa)) := by
  show a.blocks.filter _ = _
  apply List.filter_congr
  intro p hp
  have := mem_subKeys_of_mem (axes := xa) hp
  simp only [subKeys] at this ⊢
  simp [List.contains_eq_mem, List.mem_filter, this]

theorem dropMisaligned_snd_blocks (a b : Arr R) (xa xb : List Nat) :
    (dropMisaligned a b xa xb).2.blocks =
      b.blocks.filter (fun p => (subKeys a xa).contains (permuted p.1 xb)) := by
  rw [dropMisaligned_snd]
  exact dropMisaligned_fst_blocks b a xb xa

theorem dropMisaligned_fst_indices (a b : Arr R) (xa xb : List Nat) :
    (dropMisaligned a b xa xb).1.indices = dropUnused a.indices (dropMisaligned a b xa xb).1.sectors := rfl

theorem dropMisaligned_snd_indices (a b : Arr R) (xa xb : List Nat) :
    (dropMisaligned a b xa xb).2.indices = dropUnused b.indices (dropMisaligned a b xa xb).2.sectors := rfl

theorem tdPairs_dropMisaligned (a b : Arr R) (l xa xb r : List Nat) :
    tdPairs (dropMisaligned a b xa xb).1 (dropMisaligned a b xa xb).2 l xa xb r =
      tdPairs a b l xa xb r := by
  unfold tdPairs
  rw [dropMisaligned_fst_blocks, dropMisaligned_snd_blocks]
  rw [flatMap_filter_of_nil]
  · apply flatMap_congr_mem
    rintro ⟨sa, ba⟩ hpa
    simp only [List.filter_filter]
    congr 1
    apply List.filter_congr
    rintro ⟨sb, bb⟩ _
    by_cases hm : permuted sb xb = permuted sa xa
    · have := mem_subKeys_of_mem (axes := xa) hpa
      simp [hm, this]
    · simp [hm]
  · rintro ⟨sa, ba⟩ _ hnot
    simp only [List.map_eq_nil_iff, List.filter_eq_nil_iff, List.mem_filter, beq_iff_eq, and_imp,
      Prod.forall]
    intro sb bb hpb _ hm
    have := mem_subKeys_of_mem (axes := xb) hpb
    simp only [hm] at this
    simp [this] at hnot

theorem mem_freeAxes_lt {n : Nat} {axes : List Nat} : ∀ x ∈ freeAxes n axes, x < n :=
  fun _ hx => (mem_freeAxes.mp hx).1

theorem without_getElem? {α : Type} (X : List α) (axes : List Nat) (i : Nat) :
    (without X axes)[i]? = (freeAxes X.length axes)[i]?.bind (fun j => X[j]?) := by
  rw [without_eq_permuted_freeAxes, permuted_getElem? _ _ mem_freeAxes_lt]

theorem without_length {α : Type} (X : List α) (axes : List Nat) :
    (without X axes).length = (freeAxes X.length axes).length := by
  rw [without_eq_permuted_freeAxes, permuted_length _ _ mem_freeAxes_lt]

theorem mem_sectors_dropMisaligned_fst {a b : Arr R} {xa xb : List Nat} {x : Sector}
    (hx : x ∈ a.sectors) (hk : permuted x xa ∈ subKeys b xb) :
    x ∈ (dropMisaligned a b xa xb).1.sectors := by
  obtain ⟨p, hp, rfl⟩ := List.mem_map.mp hx
  rw [Arr.sectors, dropMisaligned_fst_blocks]
  exact List.mem_map.mpr ⟨p, List.mem_filter.mpr ⟨hp, by simpa using hk⟩, rfl⟩

theorem mem_sectors_dropMisaligned_snd {a b : Arr R} {xa xb : List Nat} {y : Sector}
    (hy : y ∈ b.sectors) (hk : permuted y xb ∈ subKeys a xa) :
    y ∈ (dropMisaligned a b xa xb).2.sectors := by
  rw [dropMisaligned_snd]
  exact mem_sectors_dropMisaligned_fst hy hk

theorem tensordotBlockwise_blocks_dropMisaligned [Zero R] [Add R] [Mul R] (a b : Arr R)
    (l xa xb r : List Nat) :
    (tensordotBlockwise (dropMisaligned a b xa xb).1 (dropMisaligned a b xa xb).2 l xa xb r).blocks =
      (tensordotBlockwise a b l xa xb r).blocks := by
  rw [tensordotBlockwise_blocks, tensordotBlockwise_blocks, tdTerms, tdTerms, tdPairs_dropMisaligned]

theorem dropUnused_append (X Y : List Index) (K : List Sector) :
    dropUnused (X ++ Y) K = dropUnused X K ++ dropUnused Y (K.map (List.drop X.length)) := by
  apply List.ext_getElem?
  intro i
  rw [dropUnused_getElem?]
  by_cases hi : i < X.length
  · rw [List.getElem?_append_left hi,
      List.getElem?_append_left (by rw [dropUnused_length]; exact hi), dropUnused_getElem?]
  · have hi' : X.length ≤ i := Nat.le_of_not_lt hi
    rw [List.getElem?_append_right hi',
      List.getElem?_append_right (by rw [dropUnused_length]; exact hi'), dropUnused_length,
      dropUnused_getElem?, List.filterMap_map]
    have e : (fun s : Sector => s[i]?) = (fun s => s[i - X.length]?) ∘ List.drop X.length := by
      funext s
      rw [Function.comp, List.getElem?_drop, Nat.add_sub_cancel' hi']
    rw [e]

theorem dropUnused_without_dropUnused (A : List Index) (S K : List Sector) (axes : List Nat)
    (h : ∀ k ∈ K, ∃ x ∈ S, x.length = A.length ∧
      ∀ i, i < (freeAxes A.length axes).length → k[i]? = (permuted x (freeAxes A.length axes))[i]?) :
    dropUnused (without (dropUnused A S) axes) K = dropUnused (without A axes) K := by
  apply List.ext_getElem?
  intro i
  rw [dropUnused_getElem?, dropUnused_getElem?, without_getElem?, without_getElem?, dropUnused_length]
  cases hj : (freeAxes A.length axes)[i]? with
  | none => rfl
  | some j =>
    rw [Option.bind_some, Option.bind_some, dropUnused_getElem?]
    cases A[j]? with
    | none => rfl
    | some ix =>
      rw [Option.map_some, Option.map_some, Option.map_some, dropTo_dropTo]
      intro c _ hc
      obtain ⟨k, hk, hkc⟩ := List.mem_filterMap.mp hc
      obtain ⟨x, hx, hxl, hag⟩ := h k hk
      refine List.mem_filterMap.mpr ⟨x, hx, ?_⟩
      have hi : i < (freeAxes A.length axes).length := (List.getElem?_eq_some_iff.mp hj).1
      rw [hag i hi, permuted_getElem? _ _ (by rw [hxl]; exact mem_freeAxes_lt), hj] at hkc
      exact hkc

theorem tensordotBlockwise_indices_dropMisaligned [Zero R] [Add R] [Mul R] (a b : Arr R)
    (xa xb : List Nat)
    (hla : ∀ s ∈ a.sectors, s.length = a.ndim) (hlb : ∀ s ∈ b.sectors, s.length = b.ndim) :
    (tensordotBlockwise (dropMisaligned a b xa xb).1 (dropMisaligned a b xa xb).2
        (freeAxes a.ndim xa) xa xb (freeAxes b.ndim xb)).indices =
      (tensordotBlockwise a b (freeAxes a.ndim xa) xa xb (freeAxes b.ndim xb)).indices := by
  have hblocks := tensordotBlockwise_blocks_dropMisaligned a b (freeAxes a.ndim xa) xa xb
    (freeAxes b.ndim xb)
  rw [tensordotBlockwise_indices, tensordotBlockwise_indices, Arr.sectors, hblocks, ← Arr.sectors,
    dropMisaligned_fst_indices, dropMisaligned_snd_indices, dropUnused_append, dropUnused_append,
    without_length, without_length, dropUnused_length]
  have hkey : ∀ s ∈ (tensordotBlockwise a b (freeAxes a.ndim xa) xa xb (freeAxes b.ndim xb)).sectors,
      ∃ x ∈ (dropMisaligned a b xa xb).1.sectors, ∃ y ∈ (dropMisaligned a b xa xb).2.sectors,
        x.length = a.ndim ∧ y.length = b.ndim ∧
        s = permuted x (freeAxes a.ndim xa) ++ permuted y (freeAxes b.ndim xb) := by
    intro s hs
    rw [tensordotBlockwise_sectors_eq, List.mem_eraseDups] at hs
    obtain ⟨x, hx, y, hy, hm, rfl⟩ := mem_tdKeys.mp hs
    exact ⟨x, mem_sectors_dropMisaligned_fst hx (hm ▸ List.mem_map.mpr ⟨y, hy, rfl⟩),
      y, mem_sectors_dropMisaligned_snd hy (hm ▸ List.mem_map.mpr ⟨x, hx, rfl⟩),
      hla x hx, hlb y hy, rfl⟩
  refine congrArg₂ (· ++ ·) ?_ ?_
  · apply dropUnused_without_dropUnused
    intro s hs
    obtain ⟨x, hx, y, _, hxl, _, rfl⟩ := hkey s hs
    refine ⟨x, hx, hxl, fun i hi => List.getElem?_append_left ?_⟩
    rw [permuted_length _ _ (by rw [hxl]; exact mem_freeAxes_lt)]
    exact hi
  · apply dropUnused_without_dropUnused
    intro s hs
    obtain ⟨s', hs', rfl⟩ := List.mem_map.mp hs
    obtain ⟨x, _, y, hy, hxl, hyl, rfl⟩ := hkey s' hs'
    refine ⟨y, hy, hyl, fun i _ => congrArg (fun l : Sector => l[i]?) (List.drop_left' ?_)⟩
    exact permuted_length x _ (by rw [hxl]; exact mem_freeAxes_lt)

/-- C06 `align_irrelevant` -/
theorem tensordotBlockwise_dropMisaligned [Zero R] [Add R] [Mul R] (a b : Arr R) (xa xb : List Nat)
    (hla : ∀ s ∈ a.sectors, s.length = a.ndim) (hlb : ∀ s ∈ b.sectors, s.length = b.ndim) :
    tensordotBlockwise (dropMisaligned a b xa xb).1 (dropMisaligned a b xa xb).2
        (freeAxes a.ndim xa) xa xb (freeAxes b.ndim xb) =
      tensordotBlockwise a b (freeAxes a.ndim xa) xa xb (freeAxes b.ndim xb) :=
  Arr.ext' rfl rfl (tensordotBlockwise_indices_dropMisaligned a b xa xb hla hlb) rfl
    (tensordotBlockwise_blocks_dropMisaligned a b _ xa xb _) rfl rfl

theorem dropUnused_dropUnused (ixs : List Index) (S : List Sector) :
    dropUnused (dropUnused ixs S) S = dropUnused ixs S := by
  apply List.ext_getElem?
  intro i
  rw [dropUnused_getElem?, dropUnused_getElem?]
  cases ixs[i]? with
  | none => rfl
  | some ix => simp only [Option.map_some]; rw [dropTo_dropTo]; intro c _ h; exact h

theorem dropMisaligned_eq_self {a b : Arr R} {xa xb : List Nat}
    (ha : ∀ p ∈ a.blocks, permuted p.1 xa ∈ subKeys b xb)
    (hb : ∀ p ∈ b.blocks, permuted p.1 xb ∈ subKeys a xa)
    (hia : dropUnused a.indices a.sectors = a.indices)
    (hib : dropUnused b.indices b.sectors = b.indices) :
    dropMisaligned a b xa xb = (a, b) := by
  have fst : ∀ {a b : Arr R} {xa xb : List Nat}, (∀ p ∈ a.blocks, permuted p.1 xa ∈ subKeys b xb) →
      dropUnused a.indices a.sectors = a.indices → (dropMisaligned a b xa xb).1 = a := by
    intro a b xa xb ha hia
    have h1 : (dropMisaligned a b xa xb).1.blocks = a.blocks := by
      rw [dropMisaligned_fst_blocks, List.filter_eq_self]
      intro p hp
      simpa using ha p hp
    refine Arr.ext' rfl rfl ?_ rfl h1 rfl rfl
    rw [dropMisaligned_fst_indices, Arr.sectors, h1]
    exact hia
  exact Prod.ext (fst ha hia) ((dropMisaligned_snd a b xa xb).trans (fst hb hib))

theorem dropMisaligned_idem (a b : Arr R) (xa xb : List Nat) :
    dropMisaligned (dropMisaligned a b xa xb).1 (dropMisaligned a b xa xb).2 xa xb =
      dropMisaligned a b xa xb := by
  -- every kept block has its partner among the kept blocks of the other operand
  have key : ∀ (a b : Arr R) (xa xb : List Nat), ∀ p ∈ (dropMisaligned a b xa xb).1.blocks,
      permuted p.1 xa ∈ subKeys (dropMisaligned a b xa xb).2 xb := by
    intro a b xa xb p hp
    rw [dropMisaligned_fst_blocks] at hp
    obtain ⟨hp1, hp2⟩ := List.mem_filter.mp hp
    obtain ⟨y, hy, hyk⟩ := List.mem_map.mp (List.contains_iff_mem.mp hp2)
    rw [← hyk]
    exact List.mem_map.mpr ⟨y, mem_sectors_dropMisaligned_snd hy (hyk ▸ mem_subKeys_of_mem hp1), rfl⟩
  apply dropMisaligned_eq_self
  · exact key a b xa xb
  · intro p hp
    rw [dropMisaligned_snd] at hp
    rw [dropMisaligned_fst a b xa xb]
    exact key b a xb xa p hp
  · rw [dropMisaligned_fst_indices]
    exact dropUnused_dropUnused _ _
  · rw [dropMisaligned_snd_indices]
    exact dropUnused_dropUnused _ _

theorem permuted_zipWith {α β γ : Type} (f : α → β → γ) (X : List α) (Y : List β) (p : List Nat)
    (hl : X.length = Y.length) (hp : ∀ x ∈ p, x < X.length) :
    permuted (List.zipWith f X Y) p = List.zipWith f (permuted X p) (permuted Y p) := by
  apply List.ext_getElem?
  intro j
  rw [permuted_getElem? _ _ (by simpa [← hl] using hp), List.getElem?_zipWith,
    permuted_getElem? _ _ hp, permuted_getElem? _ _ (by simpa [← hl] using hp)]
  cases p[j]? with
  | none => rfl
  | some x => simp only [Option.bind_some, List.getElem?_zipWith]

theorem blockShape?_permuted {ixs : List Index} {s : Sector} {shp : List Nat}
    (h : Arr.blockShape? ixs s = some shp) (p : List Nat) (hp : ∀ x ∈ p, x < ixs.length) :
    Arr.blockShape? (permuted ixs p) (permuted s p) = some (permuted shp p) := by
  obtain ⟨hl1, hl2⟩ := blockShape?_length h
  obtain ⟨h1, h2⟩ := (blockShape?_eq_some_iff _ _ _).mp h
  rw [blockShape?_eq_some_iff]
  refine ⟨?_, ?_⟩
  · rw [permuted_length _ _ hp, permuted_length _ _ (by simpa [hl1] using hp)]
  · rw [← permuted_zipWith _ _ _ _ h1 hp, h2, permuted_map]

/-- block shape as a total function (`[]` where `blockShape?` fails) -/
def _root_.SymmModel.Arr.blockShapeD (ixs : List Index) (s : Sector) : List Nat := (Arr.blockShape? ixs s).getD []

/-- the shapes of all stored blocks are the ones the index tables prescribe (a clause of
    `Arr.validB`) -/
def _root_.SymmModel.Arr.shapesOk (a : Arr R) : Prop := ∀ p ∈ a.blocks, Arr.blockShape? a.indices p.1 = some p.2.shape

theorem Arr.shapesOk_of_validB {a : Arr R} (h : a.validB = true) : a.shapesOk :=
  fun _ hp => (SymmModel.Arr.validB_block h hp).2.2.1

theorem Arr.allDistinct_of_validB {a : Arr R} (h : a.validB = true) : allDistinct a.sectors = true :=
  SymmModel.Arr.validB_sectors h

/-- the stored block pairs that contribute to result sector `s`, in visiting order -/
def pairsAt (a b : Arr R) (l xa xb r : List Nat) (s : Sector) :
    List ((Sector × Blk R) × (Sector × Blk R)) :=
  a.blocks.flatMap (fun pa =>
    (b.blocks.filter (fun pb => permuted pb.1 xb == permuted pa.1 xa &&
        permuted pa.1 l ++ permuted pb.1 r == s)).map (fun pb => (pa, pb)))

theorem filter_tdTerms [Zero R] [Add R] [Mul R] (a b : Arr R) (l xa xb r : List Nat) (s : Sector) :
    (tdTerms a b l xa xb r).filter (fun p => p.1 == s) =
      (pairsAt a b l xa xb r s).map (fun q =>
        (permuted q.1.1 l ++ permuted q.2.1 r, q.1.2.tensordotK q.2.2 xa xb)) := by
  unfold tdTerms tdPairs pairsAt
  rw [List.filter_map, List.filter_flatMap, List.map_flatMap, List.map_flatMap]
  apply flatMap_congr_mem
  rintro ⟨sa, ba⟩ _
  simp only [List.filter_map, List.filter_filter, List.map_map]
  congr 1
  apply List.filter_congr
  rintro ⟨sb, bb⟩ _
  simp only [Function.comp]
  rw [Bool.and_comm]

theorem mem_pairsAt {a b : Arr R} {l xa xb r : List Nat} {s : Sector}
    {q : (Sector × Blk R) × (Sector × Blk R)} :
    q ∈ pairsAt a b l xa xb r s ↔ q.1 ∈ a.blocks ∧ q.2 ∈ b.blocks ∧
      permuted q.2.1 xb = permuted q.1.1 xa ∧ permuted q.1.1 l ++ permuted q.2.1 r = s := by
  obtain ⟨pa, pb⟩ := q
  simp only [pairsAt, List.mem_flatMap, List.mem_map, List.mem_filter, Bool.and_eq_true, beq_iff_eq,
    Prod.mk.injEq]
  constructor
  · rintro ⟨pa', hA, pb', ⟨hB, hm, hs⟩, rfl, rfl⟩; exact ⟨hA, hB, hm, hs⟩
  · rintro ⟨hA, hB, hm, hs⟩; exact ⟨pa, hA, pb, ⟨hB, hm, hs⟩, rfl, rfl⟩

theorem tensordotBlockwise_get [AddMonoid R] [Mul R] (a b : Arr R) (l xa xb r : List Nat)
    (s : Sector) (o : List Nat)
    (ho : ∀ q ∈ pairsAt a b l xa xb r s, inBox (q.1.2.tensordotK q.2.2 xa xb).shape o = true) :
    (match alookup (tensordotBlockwise a b l xa xb r).blocks s with
      | none => 0
      | some blk => blk.get o) =
    ((pairsAt a b l xa xb r s).map (fun q => (q.1.2.tensordotK q.2.2 xa xb).get o)).sum := by
  have hf := filter_tdTerms a b l xa xb r s
  rw [tensordotBlockwise_blocks]
  refine (accum_get_sum _ s o ?_).trans ?_
  · intro p hp
    rw [hf] at hp
    obtain ⟨q, hq, rfl⟩ := List.mem_map.mp hp
    exact ho q hq
  · rw [hf, List.map_map, Function.comp_def]

/-- the stored sector pairs `(sa, sb)` that contribute to result sector `s`: equal contracted
    parts, and `s` is a's free part followed by b's free part.  In visiting order. -/
def storedPairs (a b : Arr R) (l xa xb r : List Nat) (s : Sector) : List (Sector × Sector) :=
  a.sectors.flatMap (fun sa =>
    (b.sectors.filter (fun sb => permuted sb xb == permuted sa xa &&
        permuted sa l ++ permuted sb r == s)).map (fun sb => (sa, sb)))

theorem map_pairsAt (a b : Arr R) (l xa xb r : List Nat) (s : Sector) :
    (pairsAt a b l xa xb r s).map (fun q => (q.1.1, q.2.1)) = storedPairs a b l xa xb r s := by
  simp only [pairsAt, storedPairs, Arr.sectors, List.map_flatMap, List.flatMap_map, List.map_map,
    List.filter_map]
  rfl

theorem mem_storedPairs {a b : Arr R} {l xa xb r : List Nat} {s sa sb : Sector} :
    (sa, sb) ∈ storedPairs a b l xa xb r s ↔ sa ∈ a.sectors ∧ sb ∈ b.sectors ∧
      permuted sb xb = permuted sa xa ∧ permuted sa l ++ permuted sb r = s := by
  simp only [storedPairs, List.mem_flatMap, List.mem_map, List.mem_filter, Bool.and_eq_true,
    beq_iff_eq, Prod.mk.injEq]
  constructor
  · rintro ⟨sa', hA, sb', ⟨hB, hm, hs⟩, rfl, rfl⟩; exact ⟨hA, hB, hm, hs⟩
  · rintro ⟨hA, hB, hm, hs⟩; exact ⟨sa, hA, sb, ⟨hB, hm, hs⟩, rfl, rfl⟩

theorem Arr.elem_of_mem_plain [Zero R] [Neg R] {x : Arr R} (hd : allDistinct x.sectors = true)
    (h : x.phases = []) {p : Sector × Blk R} (hp : p ∈ x.blocks) (o : List Nat) :
    x.elem p.1 o = p.2.get o := by
  rw [Arr.elem_of_phases_nil h, alookup_of_mem (l := x.blocks) hd (k := p.1) (v := p.2) hp]

/-- one term of the contraction at the level of addresses: sectors `sa`, `sb`, contracted offset
    `k`, free offsets `oL`, `oR` -/
def contractTerm [Zero R] [Neg R] [Mul R] (a b : Arr R) (xa xb : List Nat) (sa sb : Sector)
    (oL oR k : List Nat) : R :=
  a.elem sa (mergeIdx 0 a.ndim xa (freeAxes a.ndim xa) k oL) *
  b.elem sb (mergeIdx 0 b.ndim xb (freeAxes b.ndim xb) k oR)

/-- the contraction of one stored sector pair: sum over the box of the contracted sizes -/
def contractPair [AddMonoid R] [Neg R] [Mul R] (a b : Arr R) (xa xb : List Nat) (oL oR : List Nat)
    (p : Sector × Sector) : R :=
  ((allIdx (permuted (Arr.blockShapeD a.indices p.1) xa)).map
    (fun k => contractTerm a b xa xb p.1 p.2 oL oR k)).sum

theorem tensordotK_shape_of_pair [Zero R] [Add R] [Mul R] {a b : Arr R} {xa xb : List Nat}
    (hsa : a.shapesOk) (hsb : b.shapesOk) {pa pb : Sector × Blk R}
    (hA : pa ∈ a.blocks) (hB : pb ∈ b.blocks) :
    (pa.2.tensordotK pb.2 xa xb).shape =
      Arr.blockShapeD (without a.indices xa ++ without b.indices xb)
        (permuted pa.1 (freeAxes a.ndim xa) ++ permuted pb.1 (freeAxes b.ndim xb)) := by
  have h1 := hsa pa hA
  have h2 := hsb pb hB
  have l1 := (blockShape?_length h1).2
  have l2 := (blockShape?_length h2).2
  have ea : a.ndim = a.indices.length := rfl
  have eb : b.ndim = b.indices.length := rfl
  rw [Blk.tensordotK_shape, l1, l2, without_eq_permuted_freeAxes, without_eq_permuted_freeAxes,
    Arr.blockShapeD, ea, eb,
    blockShape?_append (blockShape?_permuted h1 _ mem_freeAxes_lt) (blockShape?_permuted h2 _ mem_freeAxes_lt)]
  rfl

/-- `C02.tensordotBlockwise_elem` (Props/C02): the element of the blockwise contraction at `(s, o)`
    — `o` in the box the result index tables give to `s` — is the sum over `storedPairs` of the dense
    contraction `Σ_k a[sa, merge k oL] * b[sb, merge k oR]` over the contracted box -/
theorem tensordotBlockwise_elem_pairs [AddMonoid R] [Mul R] [Neg R] (a b : Arr R) (xa xb : List Nat)
    (hpa : a.phases = []) (hpb : b.phases = [])
    (hda : allDistinct a.sectors = true) (hdb : allDistinct b.sectors = true)
    (hsa : a.shapesOk) (hsb : b.shapesOk) (s : Sector) (o : List Nat)
    (ho : inBox (Arr.blockShapeD (without a.indices xa ++ without b.indices xb) s) o = true) :
    (tensordotBlockwise a b (freeAxes a.ndim xa) xa xb (freeAxes b.ndim xb)).elem s o =
      ((storedPairs a b (freeAxes a.ndim xa) xa xb (freeAxes b.ndim xb) s).map
        (contractPair a b xa xb (o.take (freeAxes a.ndim xa).length)
          (o.drop (freeAxes a.ndim xa).length))).sum := by
  have hshape : ∀ q ∈ pairsAt a b (freeAxes a.ndim xa) xa xb (freeAxes b.ndim xb) s,
      (q.1.2.tensordotK q.2.2 xa xb).shape =
        Arr.blockShapeD (without a.indices xa ++ without b.indices xb) s := by
    intro q hq
    obtain ⟨hA, hB, _, hs⟩ := mem_pairsAt.mp hq
    rw [tensordotK_shape_of_pair hsa hsb hA hB, hs]
  rw [Arr.elem_of_phases_nil (show (tensordotBlockwise a b _ xa xb _).phases = [] from hpa)]
  refine (tensordotBlockwise_get a b _ xa xb _ s o (fun q hq => by rw [hshape q hq]; exact ho)).trans ?_
  rw [← map_pairsAt, List.map_map]
  refine congrArg List.sum (List.map_congr_left fun q hq => ?_)
  obtain ⟨hA, hB, _, _⟩ := mem_pairsAt.mp hq
  have l1 := (blockShape?_length (hsa _ hA)).2
  have l2 := (blockShape?_length (hsb _ hB)).2
  rw [Blk.tensordotK_get_sum _ _ xa xb (by rw [hshape q hq]; exact ho)]
  have e : Arr.blockShapeD a.indices q.1.1 = q.1.2.shape := by
    rw [Arr.blockShapeD, hsa _ hA]; rfl
  have ea : a.ndim = a.indices.length := rfl
  have eb : b.ndim = b.indices.length := rfl
  simp only [Function.comp, contractPair, contractTerm, Blk.tdTerm, Arr.elem_of_mem_plain hda hpa hA,
    Arr.elem_of_mem_plain hdb hpb hB, e, l1, l2, ea, eb]

/-- all aligned stored sector pairs (equal contracted parts), in visiting order -/
def alignedPairs (a b : Arr R) (xa xb : List Nat) : List (Sector × Sector) :=
  a.sectors.flatMap (fun sa =>
    (b.sectors.filter (fun sb => permuted sb xb == permuted sa xa)).map (fun sb => (sa, sb)))

theorem storedPairs_nil_nil (a b : Arr R) (xa xb : List Nat) :
    storedPairs a b [] xa xb [] [] = alignedPairs a b xa xb := by
  unfold storedPairs alignedPairs
  apply flatMap_congr_mem
  intro sa _
  congr 1
  apply List.filter_congr
  intro sb _
  simp [permuted]

theorem tdKeys_nil_nil (sa sb : List Sector) (xa xb : List Nat) :
    ∀ s ∈ tdKeys sa sb [] xa xb [], s = [] := by
  intro s hs
  obtain ⟨x, _, y, _, _, rfl⟩ := mem_tdKeys.mp hs
  simp [permuted]

theorem tdKeys_eq_map_alignedPairs (a b : Arr R) (l xa xb r : List Nat) :
    tdKeys a.sectors b.sectors l xa xb r =
      (alignedPairs a b xa xb).map (fun p => permuted p.1 l ++ permuted p.2 r) := by
  simp only [tdKeys, alignedPairs, List.map_flatMap, List.map_map]
  rfl

theorem eraseDups_of_all_eq {α : Type} [BEq α] [LawfulBEq α] (c : α) (l : List α)
    (h : ∀ x ∈ l, x = c) : l.eraseDups = if l.isEmpty then [] else [c] := by
  cases l with
  | nil => rfl
  | cons x xs =>
    have hx : x = c := h x (by simp)
    subst hx
    rw [List.eraseDups_cons]
    have : xs.filter (fun b => !b == x) = [] := by
      rw [List.filter_eq_nil_iff]
      intro y hy
      simp [h y (List.mem_cons_of_mem _ hy)]
    rw [this]; rfl

theorem tensordotBlockwise_sectors_scalar [Zero R] [Add R] [Mul R] (a b : Arr R) (xa xb : List Nat) :
    (tensordotBlockwise a b [] xa xb []).sectors =
      if (alignedPairs a b xa xb).isEmpty then [] else [[]] := by
  rw [tensordotBlockwise_sectors_eq, eraseDups_of_all_eq [] _ (tdKeys_nil_nil _ _ xa xb),
    tdKeys_eq_map_alignedPairs]
  simp

theorem parseAxes_int (na nb n : Nat) :
    parseAxes na nb (.int n) = .ok ((List.range na).drop (na - n), List.range n) := rfl

/-- blockwise mode of `tensordot_abelian`: parse (and normalise) the axes, take the complements as
    free axes, run `_tensordot_blockwise` -/
theorem tensordotA_blockwise' [Zero R] [Add R] [Mul R] (a b : Arr R) (axes : AxesArg) :
    tensordotA a b axes .blockwise =
      (parseAxes a.ndim b.ndim axes).map (fun x =>
        tensordotBlockwise a b (freeAxes a.ndim x.1) x.1 x.2 (freeAxes b.ndim x.2)) := by
  unfold tensordotA
  cases h : parseAxes a.ndim b.ndim axes with
  | error e => rfl
  | ok x =>
    obtain ⟨xa, xb⟩ := x
    simp only [Except.map, without_range]
    rfl

theorem dropMisaligned_ndim (a b : Arr R) (xa xb : List Nat) :
    (dropMisaligned a b xa xb).1.ndim = a.ndim ∧ (dropMisaligned a b xa xb).2.ndim = b.ndim := by
  have fst : ∀ (a b : Arr R) (xa xb : List Nat), (dropMisaligned a b xa xb).1.ndim = a.ndim :=
    fun a b xa xb => dropUnused_length a.indices _
  exact ⟨fst a b xa xb, (congrArg Arr.ndim (dropMisaligned_snd a b xa xb)).trans (fst b a xb xa)⟩

theorem dropMisaligned_sectors_length {a b : Arr R} {xa xb : List Nat}
    (hla : ∀ s ∈ a.sectors, s.length = a.ndim) (hlb : ∀ s ∈ b.sectors, s.length = b.ndim) :
    (∀ s ∈ (dropMisaligned a b xa xb).1.sectors, s.length = (dropMisaligned a b xa xb).1.ndim) ∧
    (∀ s ∈ (dropMisaligned a b xa xb).2.sectors, s.length = (dropMisaligned a b xa xb).2.ndim) := by
  have fst : ∀ {a b : Arr R} {xa xb : List Nat}, (∀ s ∈ a.sectors, s.length = a.ndim) →
      ∀ s ∈ (dropMisaligned a b xa xb).1.sectors, s.length = (dropMisaligned a b xa xb).1.ndim := by
    intro a b xa xb hla s hs
    rw [(dropMisaligned_ndim a b xa xb).1]
    apply hla
    rw [Arr.sectors, dropMisaligned_fst_blocks] at hs
    obtain ⟨p, hp, rfl⟩ := List.mem_map.mp hs
    exact List.mem_map.mpr ⟨p, (List.mem_filter.mp hp).1, rfl⟩
  refine ⟨fst hla, ?_⟩
  rw [dropMisaligned_snd]
  exact fst hlb

/-- aligning first does not change `tensordot(..., mode="blockwise")`, whatever the axes argument -/
theorem tensordotA_blockwise_dropMisaligned [Zero R] [Add R] [Mul R] (a b : Arr R) (axes : AxesArg)
    (hla : ∀ s ∈ a.sectors, s.length = a.ndim) (hlb : ∀ s ∈ b.sectors, s.length = b.ndim) :
    (parseAxes a.ndim b.ndim axes).bind (fun x =>
        tensordotA (dropMisaligned a b x.1 x.2).1 (dropMisaligned a b x.1 x.2).2 axes .blockwise) =
      tensordotA a b axes .blockwise := by
  rw [tensordotA_blockwise']
  cases h : parseAxes a.ndim b.ndim axes with
  | error e => rfl
  | ok x =>
    obtain ⟨xa, xb⟩ := x
    obtain ⟨n1, n2⟩ := dropMisaligned_ndim a b xa xb
    simp only [Except.bind, Except.map]
    rw [tensordotA_blockwise', n1, n2, h]
    simp only [Except.map]
    rw [tensordotBlockwise_dropMisaligned a b xa xb hla hlb]

end TdotP
end SymmModel
