/-
  SymmModel.Proofs.TdotFuseC2 — one group of axes (`OneOk`: the hypothesis of the one-group statements
  of the Proofs/FuseCommute* modules), and the case used for free legs: fusing
  the LEADING axes `0 … k-1` of an array into one index (all other axes untouched): structure of
  the fused array (its element map is `lead_elem`, TdotFuseC3).
-/
import SymmModel.Proofs.TdotFuseC1

namespace SymmModel
namespace TdotP
variable {R : Type}

/-- a non-empty group of pairwise distinct axes of `X` -/
structure OneOk (X : Arr R) (g : List Nat) : Prop where
  ne : g ≠ []
  nd : g.Nodup
  lt : ∀ x ∈ g, x < X.ndim

theorem OneOk.groupsOk {X : Arr R} {g : List Nat} (h : OneOk X g) : FuseP.GroupsOk [g] X.ndim := by
  refine ⟨by simp, ?_, ?_, ?_⟩
  · intro g' hg'
    simp only [List.mem_cons, List.not_mem_nil, or_false] at hg'
    rw [hg']; exact h.ne
  · intro ax hax
    simp only [List.flatten_cons, List.flatten_nil, List.append_nil] at hax
    exact h.lt ax hax
  · simp only [List.flatten_cons, List.flatten_nil, List.append_nil]
    exact h.nd

section Lead
variable {X : Arr R} {k : Nat}

theorem lead_oneOk (h1 : 1 ≤ k) (h2 : k ≤ X.ndim) : OneOk X (List.range k) :=
  ⟨fun e => by have := congrArg List.length e; simp at this; omega, List.nodup_range,
    fun x hx => Nat.lt_of_lt_of_le (List.mem_range.mp hx) h2⟩

theorem lead_groupsOk (h1 : 1 ≤ k) (h2 : k ≤ X.ndim) : FuseP.GroupsOk [List.range k] X.ndim :=
  (lead_oneOk h1 h2).groupsOk

theorem lead_position (h1 : 1 ≤ k) (h2 : k ≤ X.ndim) : (FuseP.giM X [List.range k]).position = 0 := by
  have hok := FuseP.hokD (lead_groupsOk (X := X) h1 h2)
  exact Nat.eq_zero_of_le_zero ((FuseP.position_spec hok).2 0 (by simp; omega))

theorem filter_not_range (n k : Nat) (h : k ≤ n) :
    (List.range n).filter (fun ax => !(List.range k).contains ax) = (List.range n).drop k := by
  have e : List.range n = List.range k ++ (List.range n).drop k := by
    conv_lhs => rw [← List.take_append_drop k (List.range n)]
    rw [List.take_range, Nat.min_eq_left h]
  conv_lhs => rw [e]
  rw [List.filter_append]
  have h1 : (List.range k).filter (fun ax => !(List.range k).contains ax) = [] := by
    rw [List.filter_eq_nil_iff]; intro a ha; simp [List.mem_range.mp ha]
  have h2 : ((List.range n).drop k).filter (fun ax => !(List.range k).contains ax) = (List.range n).drop k := by
    rw [List.filter_eq_self]
    intro a ha
    obtain ⟨i, hi, rfl⟩ := List.mem_iff_getElem.mp ha
    simp
  rw [h1, h2, List.nil_append]

theorem lead_after (h1 : 1 ≤ k) (h2 : k ≤ X.ndim) :
    (FuseP.giM X [List.range k]).axesAfter = (List.range X.ndim).drop k := by
  have hp := lead_position (X := X) h1 h2
  have hd := FuseP.duals_length X
  simp only [FuseP.giM, calcFuseGroupInfo] at hp ⊢
  rw [hp, hd]
  simp only [List.flatten_cons, List.flatten_nil, List.append_nil, Nat.zero_le, decide_true]
  rw [List.filter_eq_self.mpr (fun _ _ => rfl)]
  exact filter_not_range X.ndim k h2

theorem lead_before (h1 : 1 ≤ k) (h2 : k ≤ X.ndim) : (FuseP.giM X [List.range k]).axesBefore = [] := by
  rw [FuseP.axesBefore_range _ _, lead_position h1 h2]; rfl

theorem lead_perm (h1 : 1 ≤ k) (h2 : k ≤ X.ndim) :
    (FuseP.giM X [List.range k]).perm = List.range X.ndim := by
  rw [FuseP.perm_eq, lead_before h1 h2, lead_after h1 h2]
  simp only [List.flatten_cons, List.flatten_nil, List.append_nil, List.nil_append]
  conv_rhs => rw [← List.take_append_drop k (List.range X.ndim)]
  rw [List.take_range, Nat.min_eq_left h2]

theorem lead_ndimM (h1 : 1 ≤ k) (h2 : k ≤ X.ndim) : FuseP.ndimM X [List.range k] = 1 + (X.ndim - k) := by
  simp [FuseP.ndimM, lead_position h1 h2, lead_after h1 h2]

theorem lead_after_getD (h1 : 1 ≤ k) (h2 : k ≤ X.ndim) (j : Nat) (hj : j < X.ndim - k) :
    (FuseP.giM X [List.range k]).axesAfter.getD j 0 = k + j := by
  rw [lead_after h1 h2, List.getD_eq_getElem?_getD, List.getElem?_drop,
    List.getElem?_range (by omega)]
  rfl

theorem lead_newIdx (h1 : 1 ≤ k) (h2 : k ≤ X.ndim) :
    FuseP.newIdxM X [List.range k] = FuseP.ixM X [List.range k] 0 :: X.indices.drop k := by
  have hok := lead_groupsOk (X := X) h1 h2
  have hpos := lead_position (X := X) h1 h2
  have hl : (FuseP.newIdxM X [List.range k]).length = 0 + 1 + (X.ndim - k) := by
    rw [FuseP.newIdxM_length hok.adm, lead_ndimM h1 h2]
  rw [FuseP.three_parts _ default 0 1 (X.ndim - k) hl]
  simp only [List.range_zero, List.map_nil, List.nil_append, List.range_one, List.map_cons, Nat.zero_add,
    List.singleton_append]
  refine congrArg₂ List.cons ?_ ?_
  · simp only [FuseP.ixM, hpos, Nat.zero_add]
  · have hdl : X.indices.length = k + (X.ndim - k) := by show X.ndim = _; omega
    rw [FuseP.drop_eq_range_map X.indices default k (X.ndim - k) hdl]
    apply List.map_congr_left
    intro j hj
    have hj' : j < X.ndim - k := List.mem_range.mp hj
    have hja : j < (FuseP.giM X [List.range k]).axesAfter.length := by
      rw [lead_after h1 h2]; simp; omega
    have := FuseP.newIdxM_after hok.adm hja
    rw [hpos] at this
    simp only [List.length_cons, List.length_nil, Nat.zero_add] at this
    rw [this, lead_after_getD h1 h2 j hj']

end Lead

end TdotP
end SymmModel
