/-
  SymmModel.Proofs.FuseCommute3 — an operand whose group `g` (anywhere, any order) was fused into
  one leg, seen by the contraction lemmas: the fused array is valid, and its element at the merged
  address `(merge [c] L, merge [k] oL)` (fused axis ↦ `(c, k)`, free part `(L, oL)`) is the
  original's element at `(merge K L, merge ok oL)` where `(K, ok)` is what the fused index's own
  table decodes `(c, k)` to.  Namespace `SymmModel.TdotP`.
-/
import SymmModel.Proofs.FuseCommute2

namespace SymmModel
namespace TdotP
variable {R : Type}

theorem merge_box {Y : Arr R} {ya : List Nat} (hn : ya.Nodup) (hr : ∀ x ∈ ya, x < Y.ndim)
    {K L : Sector} {shpK shpL kk oL : List Nat}
    (hK : Arr.blockShape? (permuted Y.indices ya) K = some shpK)
    (hL : Arr.blockShape? (permuted Y.indices (freeAxes Y.ndim ya)) L = some shpL)
    (hbK : inBox shpK kk = true) (hbL : inBox shpL oL = true) :
    ∃ shp, Arr.blockShape? Y.indices (mergeSec Y.ndim ya K L) = some shp
      ∧ inBox shp (mergeIdx 0 Y.ndim ya (freeAxes Y.ndim ya) kk oL) = true := by
  have ean : Y.indices.length = Y.ndim := rfl
  have hKlen : K.length = ya.length := by
    rw [(blockShape?_length hK).1, permuted_length _ _ (by simpa [ean] using hr)]
  have hLlen : L.length = (freeAxes Y.ndim ya).length := by
    rw [(blockShape?_length hL).1, permuted_length _ _ (by simpa [ean] using mem_freeAxes_lt)]
  have pA : permuted (mergeSec Y.ndim ya K L) ya = K := permuted_mergeSec_axes hn hr hKlen
  have pF : permuted (mergeSec Y.ndim ya K L) (freeAxes Y.ndim ya) = L := permuted_mergeSec_free hLlen
  have hSch : List.Forall₂ (fun c (ix : Index) => c ∈ ix.charges) (mergeSec Y.ndim ya K L) Y.indices := by
    apply forall₂_of_parts (n := Y.ndim) (xa := ya) (l := freeAxes Y.ndim ya)
      (mergeSec_length _ _ _ _) ean hr mem_freeAxes_lt
    · intro y hy
      by_cases hm : y ∈ ya
      · exact Or.inl hm
      · exact Or.inr (mem_freeAxes.mpr ⟨hy, hm⟩)
    · rw [pA]; exact charges_of_blockShape? hK
    · rw [pF]; exact charges_of_blockShape? hL
  obtain ⟨shpM, hshpM⟩ := blockShape?_of_charges hSch
  have hMl : shpM.length = Y.ndim := (blockShape?_length hshpM).2
  have hMk : permuted shpM ya = shpK := by
    have := blockShape?_permuted hshpM ya (by simpa [ean] using hr)
    rw [pA, hK] at this
    exact (Option.some.inj this).symm
  have hMf : permuted shpM (freeAxes Y.ndim ya) = shpL := by
    have := blockShape?_permuted hshpM (freeAxes Y.ndim ya) (by simpa [ean] using mem_freeAxes_lt)
    rw [pF, hL] at this
    exact (Option.some.inj this).symm
  refine ⟨shpM, hshpM, ?_⟩
  have := inBox_mergeIdx (shape := shpM) (axes := ya) (k := kk) (f := oL)
    (by intro x hx; rw [hMl]; exact hr x hx) (by rw [hMk]; exact hbK)
    (by rw [hMl, hMf]; exact hbL)
  rwa [hMl] at this

section One
variable {X : Arr R} {g : List Nat}

theorem one_validB [Zero R] (hv : X.validB = true) (hf : X.fermi = false) (h : OneOk X g) :
    (FuseP.fusedArrM X [g]).validB = true := by
  exact FuseP.fusedArrM_validB hv hf h.groupsOk.adm

theorem one_ndim [Zero R] (h : OneOk X g) : (FuseP.fusedArrM X [g]).ndim = FuseP.ndimM X [g] :=
  FuseP.newIdxM_length h.groupsOk.adm

theorem one_pos_lt_ndimM (h : OneOk X g) : (FuseP.giM X [g]).position < FuseP.ndimM X [g] := by
  rw [one_ndimM h]; omega

theorem one_free_length (h : OneOk X g) :
    (freeAxes (FuseP.ndimM X [g]) [(FuseP.giM X [g]).position]).length = (freeAxes X.ndim g).length := by
  rw [one_ndimM h, freeAxes_succ_mid, one_free h]
  simp

theorem one_fused_index (h : OneOk X g) :
    permuted (FuseP.newIdxM X [g]) [(FuseP.giM X [g]).position] = [FuseP.ixM X [g] 0] := by
  rw [permuted_eq_map _ _ (by
    intro x hx
    simp only [List.mem_cons, List.not_mem_nil, or_false] at hx
    rw [hx, FuseP.newIdxM_length h.groupsOk.adm]; exact one_pos_lt_ndimM h) default]
  rfl

theorem one_merge_elem [Zero R] [Neg R] (hv : X.validB = true) (hf : X.fermi = false) (h : OneOk X g)
    {c : Charge} {D k : Nat} {K : Sector} {ok : List Nat}
    (hsz : (FuseP.ixM X [g] 0).sizeOf? c = some D) (hk : k < D)
    (hdec : decAx X [g] 0 c k = some (K, ok))
    {Ls : Sector} {oL shpL : List Nat}
    (hshpL : Arr.blockShape? (permuted X.indices (freeAxes X.ndim g)) Ls = some shpL)
    (hboxL : inBox shpL oL = true) :
    (FuseP.fusedArrM X [g]).elem
        (mergeSec (FuseP.fusedArrM X [g]).ndim [(FuseP.giM X [g]).position] [c] Ls)
        (mergeIdx 0 (FuseP.fusedArrM X [g]).ndim [(FuseP.giM X [g]).position]
          (freeAxes (FuseP.fusedArrM X [g]).ndim [(FuseP.giM X [g]).position]) [k] oL)
      = X.elem (mergeSec X.ndim g K Ls) (mergeIdx 0 X.ndim g (freeAxes X.ndim g) ok oL) := by
  have hva := FuseP.validArr_of_validB hv
  have hph : X.phases = [] := Arr.phases_nil_of_validB hv hf
  have hok := h.groupsOk
  have ean : X.indices.length = X.ndim := rfl
  have e0 : ([g] : List (List Nat))[0]? = some g := rfl
  have nF := one_ndim h
  have hpl := one_pos_lt_ndimM h
  obtain ⟨shpK, hshpK, hboxK⟩ := decAx_facts hva hok e0 hdec hsz hk
  have hKlen : K.length = g.length := by
    rw [(blockShape?_length hshpK).1, permuted_length _ _ (by simpa [ean] using h.lt)]
  have hoklen : ok.length = g.length := by
    rw [inBox_length hboxK, (blockShape?_length hshpK).2, permuted_length _ _ (by simpa [ean] using h.lt)]
  have hLlen : Ls.length = (freeAxes X.ndim g).length := by
    rw [(blockShape?_length hshpL).1, permuted_length _ _ (by simpa [ean] using mem_freeAxes_lt)]
  have hoLlen : oL.length = (freeAxes X.ndim g).length := by
    rw [inBox_length hboxL, (blockShape?_length hshpL).2,
      permuted_length _ _ (by simpa [ean] using mem_freeAxes_lt)]
  have hnd1 : ([(FuseP.giM X [g]).position] : List Nat).Nodup := by simp
  have hr1 : ∀ x ∈ ([(FuseP.giM X [g]).position] : List Nat), x < (FuseP.fusedArrM X [g]).ndim := by
    intro x hx
    simp only [List.mem_cons, List.not_mem_nil, or_false] at hx
    rw [hx, nF]; exact hpl
  have hKf : Arr.blockShape? (permuted (FuseP.fusedArrM X [g]).indices [(FuseP.giM X [g]).position]) [c]
      = some [D] := by
    show Arr.blockShape? (permuted (FuseP.newIdxM X [g]) _) [c] = _
    rw [one_fused_index h]
    simp only [Arr.blockShape?_cons, Arr.blockShape?_nil_nil, hsz]
    rfl
  have hLf : Arr.blockShape? (permuted (FuseP.fusedArrM X [g]).indices
      (freeAxes (FuseP.fusedArrM X [g]).ndim [(FuseP.giM X [g]).position])) Ls = some shpL := by
    rw [nF]
    show Arr.blockShape? (permuted (FuseP.newIdxM X [g]) _) Ls = _
    rw [one_free_indices h]; exact hshpL
  obtain ⟨shpF, hshpF, hboxF⟩ := merge_box (Y := FuseP.fusedArrM X [g]) hnd1 hr1 hKf hLf
    (show inBox [D] [k] = true by simp [inBox, hk]) hboxL
  have hLlenF : Ls.length = (freeAxes (FuseP.fusedArrM X [g]).ndim [(FuseP.giM X [g]).position]).length := by
    rw [nF, one_free_length h]; exact hLlen
  have hoLlenF : oL.length = (freeAxes (FuseP.fusedArrM X [g]).ndim [(FuseP.giM X [g]).position]).length := by
    rw [nF, one_free_length h]; exact hoLlen
  have hc1 : permuted (mergeSec (FuseP.fusedArrM X [g]).ndim [(FuseP.giM X [g]).position] [c] Ls)
      [(FuseP.giM X [g]).position] = [c] := permuted_mergeSec_axes hnd1 hr1 rfl
  have hk1 : permuted (mergeIdx 0 (FuseP.fusedArrM X [g]).ndim [(FuseP.giM X [g]).position]
      (freeAxes (FuseP.fusedArrM X [g]).ndim [(FuseP.giM X [g]).position]) [k] oL)
      [(FuseP.giM X [g]).position] = [k] := permuted_mergeIdx_axes _ hnd1 hr1 rfl
  rw [permuted_eq_map _ _ (by intro x hx; rw [mergeSec_length]; exact hr1 x hx) ((0, 0) : Charge)] at hc1
  rw [permuted_eq_map _ _ (by intro x hx; rw [mergeIdx_length]; exact hr1 x hx) (0 : Nat)] at hk1
  simp only [List.map_cons, List.map_nil, List.cons.injEq, and_true] at hc1 hk1
  refine one_elem hva hph h (ns := mergeSec (FuseP.fusedArrM X [g]).ndim [(FuseP.giM X [g]).position] [c] Ls)
    (show Arr.blockShape? (FuseP.newIdxM X [g]) _ = some shpF from hshpF) hboxF
    (mergeSec_length _ _ _ _) (mergeIdx_length _ _ _ _ _ _) ⟨?_, ?_, ?_⟩
  · rw [hc1, hk1, permuted_mergeSec_axes h.nd h.lt hKlen, permuted_mergeIdx_axes _ h.nd h.lt hoklen]
    exact hdec
  · rw [← nF, permuted_mergeSec_free hLlenF, permuted_mergeSec_free hLlen]
  · rw [← nF, permuted_mergeIdx_free _ (freeAxes_nodup _ _) mem_freeAxes_lt
        (fun _ hx => (mem_freeAxes.mp hx).2) hoLlenF,
      permuted_mergeIdx_free _ (freeAxes_nodup _ _) mem_freeAxes_lt
        (fun _ hx => (mem_freeAxes.mp hx).2) hoLlen]

end One

end TdotP
end SymmModel
