/-
  SymmModel.Proofs.SparseLemmas — for `Props/C08g` and `Props/C08h` (C08, sparsity management): the
  loops of `Arr.fillMissing`, `Arr.dropMissing`, `Arr.allclose`, `Arr.setParams` (`Model/Sparse`) in
  closed form.  `fill_missing_blocks` appends `newBlocks`, a zero block per absent listed sector;
  `drop_missing_blocks` is a filter; the three loops of `allclose` are the per-sector test `secClose`,
  which for blocks shaped by common index tables (`Shaped`) is equality of the value views;
  `set_params` is `dict.update`, described by its lookups and its key order.  `Good` holds the
  clauses of `Arr.validB` that these need.
-/
import SymmModel.Model.Sparse
import SymmModel.Proofs.LazyLemmas
import SymmModel.Proofs.DenseLemmas

namespace SymmModel.SparseP
open SymmModel Arr
set_option linter.unusedSectionVars false
set_option linter.unusedSimpArgs false

section alist
variable {κ β : Type} [BEq κ] [LawfulBEq κ]

theorem ainsert_same {l : List (κ × β)} {k : κ} {v : β} (h : alookup l k = some v) :
    ainsert l k v = l := by
  induction l with
  | nil => simp [alookup] at h
  | cons p l ih =>
    obtain ⟨k1, v1⟩ := p
    rw [alookup_cons] at h
    rw [Lazy.ainsert_cons]
    by_cases e : (k1 == k) = true
    · simp only [e, if_true, Option.some.injEq] at h ⊢
      rw [h]
    · simp only [e, if_false, Bool.false_eq_true] at h ⊢
      rw [ih h]

theorem alookup_filter_val {l : List (κ × β)} (hnd : (l.map (·.1)).Nodup) (P : κ × β → Bool) (k : κ) :
    alookup (l.filter P) k = (alookup l k).bind (fun v => if P (k, v) then some v else none) := by
  induction l with
  | nil => simp [alookup]
  | cons p l ih =>
    obtain ⟨k1, v1⟩ := p
    simp only [List.map_cons, List.nodup_cons] at hnd
    by_cases e : k1 = k
    · subst e
      have hnone : alookup l k1 = none := alookup_eq_none_iff.mpr hnd.1
      by_cases hp : P (k1, v1) = true
      · simp [List.filter_cons, hp]
      · have hp' : P (k1, v1) = false := by simpa using hp
        simp only [List.filter_cons, hp', Bool.false_eq_true, if_false, alookup_cons_self,
          Option.bind_some]
        rw [ih hnd.2, hnone]; rfl
    · by_cases hp : P (k1, v1) = true
      · simp only [List.filter_cons, hp, if_true, alookup_cons_ne e]
        exact ih hnd.2
      · have hp' : P (k1, v1) = false := by simpa using hp
        simp only [List.filter_cons, hp', Bool.false_eq_true, if_false, alookup_cons_ne e]
        exact ih hnd.2

theorem keys_filter_sublist (l : List (κ × β)) (P : κ × β → Bool) :
    ((l.filter P).map (·.1)).Sublist (l.map (·.1)) :=
  (List.filter_sublist (l := l)).map _

theorem nodup_keys_filter {l : List (κ × β)} (hnd : (l.map (·.1)).Nodup) (P : κ × β → Bool) :
    ((l.filter P).map (·.1)).Nodup :=
  (keys_filter_sublist l P).nodup hnd

theorem allDistinct_of_nodup {α : Type} [BEq α] [LawfulBEq α] {l : List α} (h : l.Nodup) :
    allDistinct l = true := by
  induction l with
  | nil => rfl
  | cons a l ih =>
    rw [List.nodup_cons] at h
    simp only [allDistinct, Bool.and_eq_true, Bool.not_eq_true', List.contains_eq_mem,
      decide_eq_false_iff_not]
    exact ⟨h.1, ih h.2⟩

end alist

section blk
variable {R : Type} [Zero R]

theorem isZero_zeros [BEq R] [LawfulBEq R] (s : List Nat) : (Blk.zeros s : Blk R).isZero = true := by
  simp only [Blk.isZero, Blk.zeros, Blk.ofFn, Array.all_eq_true]
  intro i hi
  simp

theorem shape_zeros (s : List Nat) : (Blk.zeros s : Blk R).shape = s := rfl

theorem wf_zeros (s : List Nat) : (Blk.zeros s : Blk R).wf = true := ofFn_wf s _

/-- no `inBox` hypothesis: outside the data `Blk.get` returns the default, which is 0 too -/
theorem get_of_isZero [BEq R] [LawfulBEq R] {b : Blk R} (h : b.isZero = true) (i : List Nat) :
    b.get i = 0 := by
  simp only [Blk.isZero, Array.all_eq_true] at h
  simp only [Blk.get]
  rw [Array.getD_eq_getD_getElem?]
  cases hv : b.data[ravel b.shape i]? with
  | none => rfl
  | some v =>
    obtain ⟨hlt, rfl⟩ := Array.getElem?_eq_some_iff.mp hv
    simpa using h _ hlt

theorem isZero_of_get [BEq R] [LawfulBEq R] {b : Blk R} (hw : b.wf = true)
    (h : ∀ i, inBox b.shape i = true → b.get i = 0) : b.isZero = true := by
  simp only [Blk.isZero, Array.all_eq_true]
  intro i hi
  simp only [Blk.wf, beq_iff_eq] at hw
  have hlt : i < prod b.shape := hw ▸ hi
  have := h (unravel b.shape i) (unravel_inBox (s := b.shape) (n := i) hlt)
  simp only [Blk.get, ravel_unravel (s := b.shape) (n := i) hlt] at this
  have h2 : b.data.getD i 0 = b.data[i] := by simp [Array.getD, hi]
  rw [h2] at this
  simp [this]

theorem blkClose_iff [BEq R] [LawfulBEq R] (x y : Blk R) : blkClose x y = true ↔ x = y := by
  obtain ⟨s, d⟩ := x
  obtain ⟨s', d'⟩ := y
  simp [blkClose]

end blk

section fill
variable {R : Type} [Zero R]

theorem ok_bind {ε α β : Type} (x : α) (f : α → Except ε β) : (Except.ok x >>= f) = f x := rfl

theorem fillStep_present {idx : List Index} {bl : List (Sector × Blk R)} {s : Sector}
    (h : (alookup bl s).isSome = true) : fillStep idx bl s = .ok bl := by
  simp [fillStep, h]

theorem fillStep_absent {idx : List Index} {bl : List (Sector × Blk R)} {s : Sector} {shp : List Nat}
    (h : alookup bl s = none) (hs : blockShape? idx s = some shp) :
    fillStep idx bl s = .ok (bl ++ [(s, Blk.zeros shp)]) := by
  have hn : s ∉ bl.map (·.1) := alookup_eq_none_iff.mp h
  simp [fillStep, h, hs, ainsert_of_not_mem _ _ _ hn]

/-- the zero blocks appended for the sectors of `L` that are not among `keys`, in the order of `L` -/
def newBlocks (idx : List Index) (keys : List Sector) (L : List Sector) : List (Sector × Blk R) :=
  (L.filter (fun s => !keys.contains s)).map (fun s => (s, Blk.zeros ((blockShape? idx s).getD [])))

theorem newBlocks_zero {idx : List Index} {keys L : List Sector} {p : Sector × Blk R}
    (h : p ∈ newBlocks idx keys L) :
    p.1 ∈ L ∧ p.1 ∉ keys ∧ p.2 = Blk.zeros ((blockShape? idx p.1).getD []) := by
  simp only [newBlocks, List.mem_map, List.mem_filter, Bool.not_eq_true', List.contains_eq_mem,
    decide_eq_false_iff_not] at h
  obtain ⟨s, ⟨h1, h2⟩, rfl⟩ := h
  exact ⟨h1, h2, rfl⟩

theorem newBlocks_keys (idx : List Index) (keys L : List Sector) :
    (newBlocks (R := R) idx keys L).map (·.1) = L.filter (fun s => !keys.contains s) := by
  simp [newBlocks, List.map_map, Function.comp_def]

theorem newBlocks_cons_mem {idx : List Index} {keys : List Sector} {s : Sector} (L : List Sector)
    (h : s ∈ keys) : newBlocks (R := R) idx keys (s :: L) = newBlocks idx keys L := by
  unfold newBlocks
  rw [List.filter_cons_of_neg (by simpa using h)]

theorem newBlocks_cons_not_mem {idx : List Index} {keys : List Sector} {s : Sector} (L : List Sector)
    {shp : List Nat} (h : s ∉ keys) (hs : blockShape? idx s = some shp) :
    newBlocks (R := R) idx keys (s :: L) = (s, Blk.zeros shp) :: newBlocks idx keys L := by
  unfold newBlocks
  rw [List.filter_cons_of_pos (by simpa using h), List.map_cons, hs]; rfl

theorem newBlocks_snoc_key {idx : List Index} {keys : List Sector} {s : Sector} {L : List Sector}
    (h : s ∉ L) : newBlocks (R := R) idx (keys ++ [s]) L = newBlocks idx keys L := by
  unfold newBlocks
  congr 1
  apply List.filter_congr
  intro t ht
  have hts : t ≠ s := fun e => h (e ▸ ht)
  simp [hts]

/-- the loop of `fill_missing_blocks`: stored blocks first (untouched), then a zero block for every
    listed sector that was absent, in the order of the list -/
theorem fill_fold (idx : List Index) : ∀ (L : List Sector) (bl : List (Sector × Blk R)), L.Nodup →
    (∀ s ∈ L, (blockShape? idx s).isSome = true) →
    L.foldlM (fillStep idx) bl = .ok (bl ++ newBlocks idx (bl.map (·.1)) L) := by
  intro L
  induction L with
  | nil => intro bl _ _; simp [newBlocks]; rfl
  | cons s L ih =>
    intro bl hnd hsh
    rw [List.nodup_cons] at hnd
    rw [List.foldlM_cons]
    by_cases hm : s ∈ bl.map (·.1)
    · rw [fillStep_present (alookup_isSome_iff.mpr hm), ok_bind,
        ih bl hnd.2 (fun t ht => hsh t (List.mem_cons_of_mem _ ht)), newBlocks_cons_mem L hm]
    · obtain ⟨shp, hshp⟩ := Option.isSome_iff_exists.mp (hsh s List.mem_cons_self)
      rw [fillStep_absent (alookup_eq_none_iff.mpr hm) hshp, ok_bind,
        ih _ hnd.2 (fun t ht => hsh t (List.mem_cons_of_mem _ ht)),
        newBlocks_cons_not_mem L hm hshp]
      have : List.map (fun (x : Sector × Blk R) => x.1) (bl ++ [(s, Blk.zeros shp)])
          = bl.map (·.1) ++ [s] := by simp
      rw [this, newBlocks_snoc_key hnd.1]
      simp

/-- needs none of `fill_fold`'s hypotheses, only that the loop returns: a lookup is unchanged, or
    was absent and is a zero block now -/
theorem fill_fold_lookup (idx : List Index) : ∀ (L : List Sector) (bl bl' : List (Sector × Blk R)),
    L.foldlM (fillStep idx) bl = .ok bl' →
    ∀ s, alookup bl' s = alookup bl s
      ∨ (alookup bl s = none ∧ ∃ shp, alookup bl' s = some (Blk.zeros shp)) := by
  intro L
  induction L with
  | nil =>
    intro bl bl' h s
    have : bl = bl' := by simpa [pure, Except.pure] using h
    subst this; exact Or.inl rfl
  | cons t L ih =>
    intro bl bl' h s
    rw [List.foldlM_cons] at h
    unfold fillStep at h
    split at h
    next hp => rw [ok_bind] at h; exact ih bl bl' h s
    next hp =>
      split at h
      next => cases h
      next shp hshp =>
        rw [ok_bind] at h
        have hnone : alookup bl t = none := by
          cases hx : alookup bl t with
          | none => rfl
          | some v => simp [hx] at hp
        rcases ih _ bl' h s with h1 | ⟨h1, shp', h2⟩
        · rw [alookup_ainsert] at h1
          by_cases e : t = s
          · subst e
            simp only [beq_self_eq_true, if_true] at h1
            exact Or.inr ⟨hnone, shp, h1⟩
          · have : (t == s) = false := by simpa using e
            simp only [this, Bool.false_eq_true, if_false] at h1
            exact Or.inl h1
        · rw [alookup_ainsert] at h1
          by_cases e : t = s
          · subst e; simp at h1
          · have : (t == s) = false := by simpa using e
            simp only [this, Bool.false_eq_true, if_false] at h1
            exact Or.inr ⟨h1, shp', h2⟩

theorem fill_fold_present (idx : List Index) : ∀ (L : List Sector) (bl bl' : List (Sector × Blk R)),
    L.foldlM (fillStep idx) bl = .ok bl' →
    (∀ s ∈ L, (alookup bl' s).isSome = true)
      ∧ (∀ s, (alookup bl s).isSome = true → (alookup bl' s).isSome = true) := by
  intro L bl bl' h
  have hmono : ∀ s, (alookup bl s).isSome = true → (alookup bl' s).isSome = true := by
    intro s hs
    rcases fill_fold_lookup idx L bl bl' h s with h1 | ⟨h1, _⟩
    · rw [h1]; exact hs
    · rw [h1] at hs; cases hs
  refine ⟨?_, hmono⟩
  clear hmono
  induction L generalizing bl with
  | nil => intro s hs; cases hs
  | cons t L ih =>
    rw [List.foldlM_cons] at h
    cases hstep : fillStep idx bl t with
    | error e => rw [hstep] at h; cases h
    | ok bl1 =>
      rw [hstep, ok_bind] at h
      intro s hs
      rcases List.mem_cons.mp hs with rfl | hs
      · have h1 : (alookup bl1 s).isSome = true := by
          unfold fillStep at hstep
          split at hstep
          next hp => cases hstep; exact hp
          next hp =>
            split at hstep
            next => cases hstep
            next shp _ => cases hstep; rw [alookup_ainsert]; simp
        rcases fill_fold_lookup idx L bl1 bl' h s with h2 | ⟨h2, _⟩
        · rw [h2]; exact h1
        · rw [h2] at h1; cases h1
      · exact ih bl1 h s hs

theorem fill_fold_noop (idx : List Index) : ∀ (L : List Sector) (bl : List (Sector × Blk R)),
    (∀ s ∈ L, (alookup bl s).isSome = true) → L.foldlM (fillStep idx) bl = .ok bl := by
  intro L
  induction L with
  | nil => intro bl _; rfl
  | cons t L ih =>
    intro bl h
    rw [List.foldlM_cons, fillStep_present (h t List.mem_cons_self), ok_bind]
    exact ih bl (fun s hs => h s (List.mem_cons_of_mem _ hs))

theorem fillMissing_ok_iff {a a' : Arr R} :
    a.fillMissing = .ok a' ↔
      ∃ bl, a.genValidSectors.foldlM (fillStep a.indices) a.blocks = .ok bl
        ∧ a' = { a with blocks := bl } := by
  unfold fillMissing
  cases h : a.genValidSectors.foldlM (fillStep a.indices) a.blocks with
  | error e => simp [Except.map]
  | ok bl =>
    simp only [Except.map, Except.ok.injEq]
    constructor
    · intro h'; exact ⟨bl, rfl, h'.symm⟩
    · rintro ⟨bl', h1, h2⟩; cases h1; exact h2.symm

end fill

section shapes

theorem blockShape?_isSome_of_forall₂ {idx : List Index} {s : Sector}
    (h : List.Forall₂ (fun c (ix : Index) => c ∈ ix.charges) s idx) :
    (blockShape? idx s).isSome = true := by
  induction h with
  | nil => rfl
  | @cons c ix s idx hc _ ih =>
    rw [blockShape?_cons]
    have h1 : (ix.sizeOf? c).isSome = true := by
      unfold Index.sizeOf?
      exact alookup_isSome_iff.mpr hc
    obtain ⟨d, hd⟩ := Option.isSome_iff_exists.mp h1
    obtain ⟨shp, hshp⟩ := Option.isSome_iff_exists.mp ih
    simp [hd, hshp]

end shapes

section good
variable {R : Type}

/-- the part of `Arr.validB` that the sparsity lemmas use (`Good.of_valid`); it says nothing of
    sub-index information, pending signs or labels -/
structure Good (a : Arr R) : Prop where
  keys : ∀ ix ∈ a.indices, (ix.cm.map (·.1)).Nodup
  cvalid : ∀ ix ∈ a.indices, ∀ c ∈ ix.charges, a.sym.valid c = true
  chvalid : a.sym.valid a.charge = true
  nodup : a.sectors.Nodup
  stored : ∀ p ∈ a.blocks, p.1.length = a.ndim ∧ a.isValidSector p.1 = true
    ∧ blockShape? a.indices p.1 = some p.2.shape ∧ p.2.wf = true

theorem cvalid_of_wfB {sym : Sym} {ix : Index} (h : Index.wfB sym ix = true) :
    ∀ c ∈ ix.charges, sym.valid c = true := by
  intro c hc
  obtain ⟨cd, hcd, rfl⟩ := List.mem_map.mp hc
  exact ((Index.wfB_cm h).2 cd hcd).2

theorem Good.of_valid {a : Arr R} (h : a.validB = true) : Good a := by
  exact ⟨(validB_shapesOk h).1,
    fun ix hix => cvalid_of_wfB (wfB_of_wfListB (validB_indices h) ix hix), validB_charge h,
    validB_nodup h, fun p hp => validB_block h hp⟩

theorem Good.gen_nodup {a : Arr R} (g : Good a) : a.genValidSectors.Nodup :=
  Arr.genValidSectors_nodup_aux a g.keys

theorem Good.mem_gen {a : Arr R} (g : Good a) (s : Sector) :
    s ∈ a.genValidSectors ↔
      List.Forall₂ (fun c (ix : Index) => c ∈ ix.charges) s a.indices ∧ a.isValidSector s = true :=
  Arr.mem_genValidSectors a g.cvalid g.chvalid s

theorem Good.gen_shape {a : Arr R} (g : Good a) {s : Sector} (h : s ∈ a.genValidSectors) :
    (blockShape? a.indices s).isSome = true :=
  blockShape?_isSome_of_forall₂ ((g.mem_gen s).mp h).1

theorem Good.stored_mem_gen {a : Arr R} (g : Good a) {s : Sector} (h : s ∈ a.sectors) :
    s ∈ a.genValidSectors := by
  obtain ⟨p, hp, rfl⟩ := List.mem_map.mp h
  obtain ⟨_, h2, h3, _⟩ := g.stored p hp
  exact (g.mem_gen p.1).mpr ⟨forall₂_of_blockShape? h3, h2⟩

theorem validB_with_blocks {a : Arr R} (h : a.validB = true) (bl : List (Sector × Blk R))
    (hd : (bl.map (·.1)).Nodup)
    (hb : ∀ p ∈ bl, p.1.length = a.ndim ∧ a.isValidSector p.1 = true
      ∧ blockShape? a.indices p.1 = some p.2.shape ∧ p.2.wf = true) :
    ({ a with blocks := bl } : Arr R).validB = true :=
  validB_of (a := { a with blocks := bl }) (validB_indices (a := a) h) (validB_charge (a := a) h)
    (allDistinct_of_nodup hd) hb (validB_sgn (a := a) h)

end good

section elem
variable {R : Type} [Zero R] [Neg R]

theorem elem_congr_lookup {a b : Arr R} (hp : a.phases = b.phases) (s : Sector)
    (hl : alookup a.blocks s = alookup b.blocks s) (off : List Nat) : a.elem s off = b.elem s off := by
  unfold Arr.elem
  rw [hl, hp]

theorem elem_zero_of_lookup_zero [Lazy.LawfulNeg R] {a : Arr R} {s : Sector} {b : Blk R}
    (hl : alookup a.blocks s = some b) (hz : ∀ off, b.get off = 0) (off : List Nat) :
    a.elem s off = 0 := by
  rw [Lazy.elem_eq, hl]
  simp only [hz off]
  exact Lazy.sgnI_zero _

theorem fillMissing_elem [Lazy.LawfulNeg R] {a a' : Arr R} (h : a.fillMissing = .ok a')
    (s : Sector) (off : List Nat) : a'.elem s off = a.elem s off := by
  obtain ⟨bl, hf, rfl⟩ := fillMissing_ok_iff.mp h
  rcases fill_fold_lookup a.indices _ _ _ hf s with h1 | ⟨h1, shp, h2⟩
  · exact elem_congr_lookup (a := ({ a with blocks := bl } : Arr R)) (b := a) rfl s h1 off
  · rw [Arr.elem_none h1]
    exact elem_zero_of_lookup_zero (a := ({ a with blocks := bl } : Arr R)) h2 (zeros_get shp) off

end elem

section drop
variable {R : Type} [Zero R] [BEq R]

theorem dropStep_eq_filter : ∀ (bl : List (Sector × Blk R)), (bl.map (·.1)).Nodup → ∀ k : Sector,
    dropStep bl k = bl.filter (fun p => !(p.1 == k && p.2.isZero)) := by
  intro bl
  induction bl with
  | nil => intro _ k; rfl
  | cons q bl ih =>
    intro hnd k
    obtain ⟨k0, v0⟩ := q
    simp only [List.map_cons, List.nodup_cons] at hnd
    by_cases e : k0 = k
    · subst e
      have hrest : bl.filter (fun p => !(p.1 == k0 && p.2.isZero)) = bl := by
        apply List.filter_eq_self.mpr
        intro p hp
        have : p.1 ≠ k0 := fun e => hnd.1 (e ▸ List.mem_map_of_mem (f := (·.1)) hp)
        simp [this]
      unfold dropStep
      simp only [alookup_cons_self, List.filter_cons, beq_self_eq_true, Bool.true_and]
      by_cases hz : v0.isZero = true
      · simp only [hz, if_true, Lazy.aerase_cons, beq_self_eq_true, Bool.not_true,
          Bool.false_eq_true, if_false]
        exact hrest.symm
      · have hz' : v0.isZero = false := by simpa using hz
        simp only [hz', Bool.false_eq_true, if_false, Bool.not_false, if_true]
        rw [hrest]
    · have hne : (k0 == k) = false := by simpa using e
      have hstep : dropStep ((k0, v0) :: bl) k = (k0, v0) :: dropStep bl k := by
        unfold dropStep
        rw [alookup_cons_ne e]
        cases alookup bl k with
        | none => rfl
        | some b =>
          simp only [Lazy.aerase_cons, hne, Bool.false_eq_true, if_false]
          split <;> rfl
      rw [hstep, ih hnd.2 k]
      simp [List.filter_cons, hne]

theorem drop_fold : ∀ (K : List Sector) (bl : List (Sector × Blk R)), (bl.map (·.1)).Nodup →
    K.foldl dropStep bl = bl.filter (fun p => !(K.contains p.1 && p.2.isZero)) := by
  intro K
  induction K with
  | nil => intro bl _; simp
  | cons k K ih =>
    intro bl hnd
    rw [List.foldl_cons, dropStep_eq_filter bl hnd k, ih _ (nodup_keys_filter hnd _), List.filter_filter]
    apply List.filter_congr
    intro p _
    by_cases e : p.1 = k
    · subst e; simp; cases p.2.isZero <;> simp
    · have h1 : (p.1 == k) = false := by simpa using e
      have h2 : (k == p.1) = false := by simpa using fun e' => e e'.symm
      simp [List.contains_cons, h1, h2, e]

theorem dropMissing_blocks {a : Arr R} (hnd : a.sectors.Nodup) :
    a.dropMissing.blocks = a.blocks.filter (fun p => !p.2.isZero) := by
  unfold dropMissing
  simp only
  rw [drop_fold _ _ hnd]
  apply List.filter_congr
  intro p hp
  have hmem : p.1 ∈ a.sectors := List.mem_map_of_mem (f := (·.1)) hp
  simp [hmem]

theorem dropMissing_eq {a : Arr R} (hnd : a.sectors.Nodup) :
    a.dropMissing = { a with blocks := a.blocks.filter (fun p => !p.2.isZero) } := by
  have := dropMissing_blocks hnd
  unfold dropMissing at this ⊢
  simp only at this
  rw [this]

theorem dropMissing_elem [LawfulBEq R] [Neg R] [Lazy.LawfulNeg R] {a : Arr R} (hnd : a.sectors.Nodup)
    (s : Sector) (off : List Nat) : a.dropMissing.elem s off = a.elem s off := by
  rw [dropMissing_eq hnd]
  have hl := alookup_filter_val (l := a.blocks) hnd (fun p => !p.2.isZero) s
  cases hx : alookup a.blocks s with
  | none =>
    rw [hx] at hl
    rw [Arr.elem_none hx]
    exact Arr.elem_none (a := ({ a with blocks := a.blocks.filter (fun p => !p.2.isZero) } : Arr R)) hl off
  | some b =>
    rw [hx] at hl
    simp only [Option.bind_some] at hl
    by_cases hz : b.isZero = true
    · simp only [hz, Bool.not_true, Bool.false_eq_true, if_false] at hl
      rw [elem_zero_of_lookup_zero hx (get_of_isZero hz)]
      exact Arr.elem_none (a := ({ a with blocks := a.blocks.filter (fun p => !p.2.isZero) } : Arr R)) hl off
    · have hz' : b.isZero = false := by simpa using hz
      simp only [hz', Bool.not_false, if_true] at hl
      exact elem_congr_lookup
        (a := ({ a with blocks := a.blocks.filter (fun p => !p.2.isZero) } : Arr R)) (b := a)
        rfl s (hl.trans hx.symm) off

end drop

section close
variable {R : Type} [Zero R] [BEq R]

/-- what `allclose` asks of one sector -/
def secClose (a b : Arr R) (s : Sector) : Bool :=
  match alookup a.blocks s, alookup b.blocks s with
  | some x, some y => blkClose x y
  | some x, none => x.isZero
  | none, some y => y.isZero
  | none, none => true

theorem mem_sectors_of_some {a : Arr R} {s : Sector} {x : Blk R} (h : alookup a.blocks s = some x) :
    s ∈ a.sectors := alookup_isSome_iff.mp (by rw [h]; rfl)

theorem not_mem_sectors_of_none {a : Arr R} {s : Sector} (h : alookup a.blocks s = none) :
    s ∉ a.sectors := alookup_eq_none_iff.mp h

theorem some_of_mem_sectors {a : Arr R} {s : Sector} (h : s ∈ a.sectors) :
    ∃ x, alookup a.blocks s = some x :=
  Option.isSome_iff_exists.mp (alookup_isSome_iff.mpr h)

theorem allcloseA_iff_sec (a b : Arr R) : allcloseA a b = true ↔ ∀ s, secClose a b s = true := by
  unfold allcloseA
  simp only [Bool.and_eq_true, List.all_eq_true, List.mem_filter, List.contains_eq_mem,
    decide_eq_true_eq, Bool.not_eq_true', decide_eq_false_iff_not]
  constructor
  · rintro ⟨⟨h1, h2⟩, h3⟩ s
    unfold secClose
    cases hx : alookup a.blocks s with
    | none =>
      cases hy : alookup b.blocks s with
      | none => rfl
      | some y =>
        have := h3 s ⟨mem_sectors_of_some hy, not_mem_sectors_of_none hx⟩
        rw [hy] at this; exact this
    | some x =>
      cases hy : alookup b.blocks s with
      | none =>
        have := h2 s ⟨mem_sectors_of_some hx, not_mem_sectors_of_none hy⟩
        rw [hx] at this; exact this
      | some y =>
        have := h1 s ⟨mem_sectors_of_some hx, mem_sectors_of_some hy⟩
        rw [hx, hy] at this; exact this
  · intro H
    refine ⟨⟨fun s hs => ?_, fun s hs => ?_⟩, fun s hs => ?_⟩
    · obtain ⟨x, hx⟩ := some_of_mem_sectors hs.1
      obtain ⟨y, hy⟩ := some_of_mem_sectors hs.2
      have := H s
      unfold secClose at this
      rw [hx, hy] at this ⊢
      exact this
    · obtain ⟨x, hx⟩ := some_of_mem_sectors hs.1
      have hy : alookup b.blocks s = none := alookup_eq_none_iff.mpr hs.2
      have := H s
      unfold secClose at this
      rw [hx, hy] at this
      rw [hx]; exact this
    · obtain ⟨y, hy⟩ := some_of_mem_sectors hs.1
      have hx : alookup a.blocks s = none := alookup_eq_none_iff.mpr hs.2
      have := H s
      unfold secClose at this
      rw [hx, hy] at this
      rw [hy]; exact this

def Shaped (idx : List Index) (bl : List (Sector × Blk R)) : Prop :=
  ∀ p ∈ bl, blockShape? idx p.1 = some p.2.shape ∧ p.2.wf = true

variable [LawfulBEq R] [Neg R]

theorem secClose_iff_elem {a b : Arr R} (hpa : a.phases = []) (hpb : b.phases = [])
    {idx : List Index} (hsa : Shaped idx a.blocks) (hsb : Shaped idx b.blocks) (s : Sector) :
    secClose a b s = true ↔ ∀ off, a.elem s off = b.elem s off := by
  unfold secClose
  simp only [Arr.elem_of_phases_nil hpa, Arr.elem_of_phases_nil hpb]
  cases hx : alookup a.blocks s with
  | none =>
    cases hy : alookup b.blocks s with
    | none => simp
    | some y =>
      have hy' := hsb _ (alookup_some_mem hy)
      simp only
      constructor
      · intro h off; exact (get_of_isZero h off).symm
      · intro h; exact isZero_of_get hy'.2 (fun i _ => (h i).symm)
  | some x =>
    have hx' := hsa _ (alookup_some_mem hx)
    cases hy : alookup b.blocks s with
    | none =>
      simp only
      constructor
      · intro h off; exact get_of_isZero h off
      · intro h; exact isZero_of_get hx'.2 (fun i _ => h i)
    | some y =>
      have hy' := hsb _ (alookup_some_mem hy)
      simp only
      rw [blkClose_iff]
      constructor
      · intro h off; rw [h]
      · intro h
        have hsh : x.shape = y.shape := by
          have := hx'.1.symm.trans hy'.1
          exact Option.some.inj this
        exact Lazy.Blk.ext_get hsh hx'.2 hy'.2 h

theorem allcloseA_iff_elem {a b : Arr R} (hpa : a.phases = []) (hpb : b.phases = [])
    {idx : List Index} (hsa : Shaped idx a.blocks) (hsb : Shaped idx b.blocks) :
    allcloseA a b = true ↔ ∀ s off, a.elem s off = b.elem s off := by
  rw [allcloseA_iff_sec]
  exact forall_congr' (fun s => secClose_iff_elem hpa hpb hsa hsb s)

theorem shaped_phaseSync {idx : List Index} {a : Arr R} (h : Shaped idx a.blocks) :
    Shaped idx a.phaseSync.blocks := by
  intro p hp
  rw [Lazy.phaseSync_blocks_eq] at hp
  obtain ⟨q, hq, rfl⟩ := List.mem_map.mp hp
  obtain ⟨h1, h2⟩ := h q hq
  simp only [Lazy.syncBlk]
  split
  · refine ⟨h1, ?_⟩
    simpa [Blk.negK, Blk.map, Blk.wf] using h2
  · exact ⟨h1, h2⟩

theorem allcloseF_iff_elem [Lazy.LawfulNeg R] {a b : Arr R} {idx : List Index}
    (hsa : Shaped idx a.blocks) (hsb : Shaped idx b.blocks) :
    allcloseF a b = true ↔ ∀ s off, a.elem s off = b.elem s off := by
  unfold allcloseF
  rw [allcloseA_iff_elem (Lazy.phaseSync_phases a) (Lazy.phaseSync_phases b)
    (shaped_phaseSync hsa) (shaped_phaseSync hsb)]
  simp only [Lazy.phaseSync_elem]

theorem Good.shaped {a : Arr R} (g : Good a) : Shaped a.indices a.blocks :=
  fun p hp => ⟨(g.stored p hp).2.2.1, (g.stored p hp).2.2.2⟩

end close

section params
variable {R : Type}

theorem setParams_noop : ∀ (ps bl : List (Sector × Blk R)),
    (∀ p ∈ ps, alookup bl p.1 = some p.2) → ps.foldl (fun bl p => ainsert bl p.1 p.2) bl = bl := by
  intro ps
  induction ps with
  | nil => intro bl _; rfl
  | cons p ps ih =>
    intro bl h
    rw [List.foldl_cons, ainsert_same (h p List.mem_cons_self)]
    exact ih bl (fun q hq => h q (List.mem_cons_of_mem _ hq))

/-- `dict.update`: the last given value of a key wins, other keys keep their value -/
theorem setParams_lookup : ∀ (ps bl : List (Sector × Blk R)) (k : Sector),
    alookup (ps.foldl (fun bl p => ainsert bl p.1 p.2) bl) k
      = (alookup ps.reverse k).or (alookup bl k) := by
  intro ps
  induction ps with
  | nil => intro bl k; simp [alookup]
  | cons p ps ih =>
    intro bl k
    obtain ⟨k1, v1⟩ := p
    rw [List.foldl_cons, ih, alookup_ainsert, List.reverse_cons, alookup_append]
    cases alookup ps.reverse k with
    | some v => simp
    | none =>
      by_cases e : k1 = k
      · subst e; simp
      · have : (k1 == k) = false := by simpa using e
        simp [this, alookup_cons_ne e]

/-- `dict.update` keeps the existing keys in place and appends the new ones -/
theorem setParams_keys : ∀ (ps bl : List (Sector × Blk R)),
    ∃ extra, (ps.foldl (fun bl p => ainsert bl p.1 p.2) bl).map (·.1) = bl.map (·.1) ++ extra
      ∧ ∀ k ∈ extra, k ∈ ps.map (·.1) ∧ k ∉ bl.map (·.1) := by
  intro ps
  induction ps with
  | nil => intro bl; exact ⟨[], by simp, by simp⟩
  | cons p ps ih =>
    intro bl
    obtain ⟨k1, v1⟩ := p
    rw [List.foldl_cons]
    obtain ⟨extra, h1, h2⟩ := ih (ainsert bl k1 v1)
    rcases keys_ainsert bl k1 v1 with ⟨hm, hk⟩ | ⟨hm, hk⟩
    · refine ⟨extra, by rw [h1, hk], fun k hk' => ?_⟩
      obtain ⟨q1, q2⟩ := h2 k hk'
      rw [hk] at q2
      exact ⟨List.mem_cons_of_mem _ q1, q2⟩
    · refine ⟨k1 :: extra, by rw [h1, hk]; simp, fun k hk' => ?_⟩
      rcases List.mem_cons.mp hk' with rfl | hk'
      · exact ⟨by simp, hm⟩
      · obtain ⟨q1, q2⟩ := h2 k hk'
        rw [hk] at q2
        exact ⟨List.mem_cons_of_mem _ q1, fun hmem => q2 (List.mem_append_left _ hmem)⟩

end params

end SymmModel.SparseP
