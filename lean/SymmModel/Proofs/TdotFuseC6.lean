/-
  SymmModel.Proofs.TdotFuseC6 — fermionic: the two halves of "fusing the leading free legs before the
  contraction = fusing the leading legs of the result afterwards".
  `fuseF_lead`: the fermionic fuse of the leading legs of ANY valid array at decoded addresses
  (`signAdj_lead`, `lead_elem`).  `lead_fermi_left`: the contraction of the pre-fused operand in terms
  of the plain blockwise result — `lead_commute_graded` (the graded contraction does not see the fusion
  of the leading free legs), `gradedContract_twist` (the fuse sign of the operand factors out of the
  contraction) and the refinement of `tensordotF` by the graded contraction (`coreT_frame_w`).
-/
import SymmModel.Proofs.TdotFuseC5
import SymmModel.Proofs.TdotChain1
import SymmModel.Proofs.ValidFuseF
import SymmModel.Proofs.Assoc2Right

namespace SymmModel.TdotP
open SymmModel SymmModel.GradedP SymmModel.Lazy SymmModel.AssocP SymmModel.RoutesP

variable {R : Type}

theorem getD_append_take {α : Type} (l m : List α) {k ax : Nat} (hax : ax < k) (hk : k ≤ l.length) (d : α) :
    (l.take k ++ m).getD ax d = l.getD ax d := by
  rw [List.getD_eq_getElem?_getD, List.getD_eq_getElem?_getD,
    List.getElem?_append_left (by rw [List.length_take]; omega), List.getElem?_take]
  simp [hax]

/-- **the fermionic fuse of the leading legs at decoded addresses**: `fuseF(Z, [0 … k-1])` succeeds
    and its element at `(c2 :: rest, i2 :: orest)` is the fuse sign (C05) times the element of `Z`
    at the decoded address -/
theorem fuseF_lead [Zero R] [Neg R] [LawfulNeg R] (Z : Arr R) (k : Nat) (e : Bool)
    (hv : Z.validB = true) (hf : Z.fermi = true) (hk1 : 1 ≤ k) (hk : k ≤ Z.ndim) :
    Z.fuseF [List.range k] .insert e
        = .ok (FuseP.fusedArrM (FuseP.signAdj Z [List.range k]) [List.range k])
    ∧ (FuseP.fusedArrM (FuseP.signAdj Z [List.range k]) [List.range k]).validB = true
    ∧ ∀ (c2 : Charge) (i2 d2 : Nat) (S rest : Sector) (O orest shp : List Nat),
        decAx (FuseP.signAdj Z [List.range k]) [List.range k] 0 c2 i2 = some (S, O) →
        (FuseP.ixM (FuseP.signAdj Z [List.range k]) [List.range k] 0).sizeOf? c2 = some d2 → i2 < d2 →
        Arr.blockShape? (Z.indices.drop k) rest = some shp → inBox shp orest = true →
        (FuseP.fusedArrM (FuseP.signAdj Z [List.range k]) [List.range k]).elem (c2 :: rest) (i2 :: orest)
          = sgnI (FuseP.fuseSignT Z [List.range k] (S ++ rest)) (Z.elem (S ++ rest) (O ++ orest)) := by
  have hok := lead_groupsOk (X := Z) hk1 hk
  have hfuse := (FuseP.fuseF_elemT Z [List.range k] e hv hf hok).1
  rw [lead_newGroupsF Z hk1 hk] at hfuse
  have hadmF := FuseP.admissible_of_groupsOk hok
  have hvP : (FuseP.fusedArrM (FuseP.signAdj Z [List.range k]) [List.range k]).validB = true :=
    (ValidP.validB_iff _).mpr
      (ValidP.fuseF_valid Z _ _ e ((ValidP.validB_iff Z).mp hv) hf hadmF hfuse)
  obtain ⟨yI, yS, ySec, yPh, yV, yF, yCh, yOd, yE⟩ := signAdj_lead Z hv hf hk1 hk
  refine ⟨hfuse, hvP, ?_⟩
  intro c2 i2 d2 S rest O orest shp hdec2 hz2' hi2 hshp hbox
  have hkY : k ≤ (FuseP.signAdj Z [List.range k]).ndim := by
    show k ≤ (FuseP.signAdj Z [List.range k]).indices.length
    rw [yI]; exact hk
  rw [lead_elem (FuseP.validArr_of_validB yV) yPh hk1 hkY hdec2 hz2' hi2 (by rw [yI]; exact hshp) hbox, yE]

theorem fuse_lead_fields [Zero R] [Neg R] [LawfulNeg R] (a : Arr R) {k : Nat} (hv : a.validB = true)
    (hf : a.fermi = true) (h1 : 1 ≤ k) (h2 : k ≤ a.ndim) :
    (FuseP.fusedArrM (FuseP.signAdj a [List.range k]) [List.range k]).oddpos = a.oddpos
    ∧ (FuseP.fusedArrM (FuseP.signAdj a [List.range k]) [List.range k]).sym = a.sym
    ∧ (FuseP.fusedArrM (FuseP.signAdj a [List.range k]) [List.range k]).fermi = true
    ∧ (FuseP.fusedArrM (FuseP.signAdj a [List.range k]) [List.range k]).charge = a.charge
    ∧ (FuseP.fusedArrM (FuseP.signAdj a [List.range k]) [List.range k]).ndim = 1 + (a.ndim - k)
    ∧ (FuseP.fusedArrM (FuseP.signAdj a [List.range k]) [List.range k]).indices
        = FuseP.ixM (FuseP.signAdj a [List.range k]) [List.range k] 0 :: a.indices.drop k := by
  obtain ⟨xI, xS, _, _, _, xF, xCh, xOd, _⟩ := signAdj_lead a hv hf h1 h2
  obtain ⟨fS, fF, fC, _, fO⟩ := fusedArrM_fields (FuseP.signAdj a [List.range k]) [List.range k]
  -- `X` stands for `signAdj a [0 … k-1]`: nothing below looks inside it
  generalize FuseP.signAdj a [List.range k] = X at *
  have hkX : k ≤ X.ndim := by unfold Arr.ndim; rw [xI]; exact h2
  have iP : (FuseP.fusedArrM X [List.range k]).indices
      = FuseP.ixM X [List.range k] 0 :: a.indices.drop k := by
    rw [← xI]; exact lead_newIdx h1 hkX
  refine ⟨fO.trans xOd, fS.trans xS, fF.trans (xF.trans hf), fC.trans xCh, ?_, iP⟩
  unfold Arr.ndim
  rw [iP, List.length_cons, List.length_drop]
  omega

theorem admW_fuse_lead [AddCommMonoid R] [Mul R] [Neg R] [SignRing R] {a b : Arr R} {xa xb : List Nat}
    (W : AdmW a b xa xb) (k : Nat) (e : Bool) (hk1 : 1 ≤ k) (hk : k ≤ a.ndim) (hxa : ∀ x ∈ xa, k ≤ x) :
    AdmW (FuseP.fusedArrM (FuseP.signAdj a [List.range k]) [List.range k]) b (xa.map (sh k)) xb := by
  obtain ⟨_, hvP, _⟩ := fuseF_lead a k e W.va W.fa hk1 hk
  obtain ⟨_, fS, fF, _, nP, iP⟩ := fuse_lead_fields a W.va W.fa hk1 hk
  have hnA' : (xa.map (sh k)).Nodup := by
    refine W.nA.map_on ?_
    intro x hx y hy e
    have := hxa x hx; have := hxa y hy
    unfold sh at e; omega
  have hA' : ∀ x ∈ xa.map (sh k),
      x < (FuseP.fusedArrM (FuseP.signAdj a [List.range k]) [List.range k]).ndim := by
    intro y hy
    obtain ⟨x, hx, rfl⟩ := List.mem_map.mp hy
    have := W.ltA x hx; have := hxa x hx
    rw [nP]; unfold sh; omega
  refine ⟨hvP, W.vb, fF, W.fb, fS.trans W.sym, ?_, hnA', W.nB, hA', W.ltB⟩
  have hcon := W.con
  unfold contractibleCommonB at hcon ⊢
  rw [Bool.and_eq_true, List.all_eq_true] at hcon ⊢
  refine ⟨by simp only [beq_iff_eq, List.length_map]; exact commonB_len W.con, ?_⟩
  intro p hp
  rw [List.zip_map_left] at hp
  obtain ⟨q, hq, rfl⟩ := List.mem_map.mp hp
  have hqa : q.1 ∈ xa := (List.of_mem_zip hq).1
  have h0 := hcon.2 q hq
  simp only [Prod.map_fst, Prod.map_snd, id]
  rw [iP, getD_cons_drop_shift _ a.indices k q.1 hk1 (hxa _ hqa)]
  exact h0

theorem lead_fermi_left [AddCommMonoid R] [Mul R] [Neg R] [SignRing R]
    (hz1 : ∀ x : R, 0 * x = 0) (hz2 : ∀ x : R, x * 0 = 0) (a b c : Arr R) (xa xb : List Nat) (k : Nat)
    (e : Bool)
    (ha : a.validB = true) (hb : b.validB = true) (hfa : a.fermi = true) (hfb : b.fermi = true)
    (hadm : tdotAdmissibleCommonB a b xa xb = true)
    (hk1 : 1 ≤ k) (hk : k ≤ a.ndim) (hxa : ∀ x ∈ xa, k ≤ x)
    (hc : a.tensordotF b (.pair (xa.map Int.ofNat) (xb.map Int.ofNat)) .blockwise = .ok c) :
    ∃ cP, AdmW (FuseP.fusedArrM (FuseP.signAdj a [List.range k]) [List.range k]) b (xa.map (sh k)) xb
      ∧ (FuseP.fusedArrM (FuseP.signAdj a [List.range k]) [List.range k]).tensordotF b
          (.pair ((xa.map (sh k)).map Int.ofNat) (xb.map Int.ofNat)) .blockwise = .ok cP
      ∧ ∀ (c0 : Charge) (i0 d0 : Nat) (S Lr Rs : Sector) (O oLr oR shpLr shpR : List Nat),
        decAx (FuseP.signAdj a [List.range k]) [List.range k] 0 c0 i0 = some (S, O) →
        (FuseP.ixM (FuseP.signAdj a [List.range k]) [List.range k] 0).sizeOf? c0 = some d0 → i0 < d0 →
        Arr.blockShape? (permuted a.indices (freeTail a.ndim k xa)) Lr = some shpLr →
        inBox shpLr oLr = true →
        Arr.blockShape? (permuted b.indices (freeAxes b.ndim xb)) Rs = some shpR →
        inBox shpR oR = true →
        inBox (Arr.blockShapeD (without (FuseP.fusedArrM (FuseP.signAdj a [List.range k])
            [List.range k]).indices (xa.map (sh k)) ++ without b.indices xb) ((c0 :: Lr) ++ Rs))
          ((i0 :: oLr) ++ oR) = true
        ∧ inBox (Arr.blockShapeD (without a.indices xa ++ without b.indices xb) ((S ++ Lr) ++ Rs))
            ((O ++ oLr) ++ oR) = true
        ∧ cP.elem ((c0 :: Lr) ++ Rs) ((i0 :: oLr) ++ oR)
          = sgnI (FuseP.fuseSignT a [List.range k] ((S ++ Lr) ++ Rs))
              (c.elem ((S ++ Lr) ++ Rs) ((O ++ oLr) ++ oR)) := by
  have W := AdmW.of ha hb hfa hfb hadm
  have hnA := W.nA
  have hnB := W.nB
  have hA := W.ltA
  have hB := W.ltB
  have hlen := commonB_len W.con
  obtain ⟨out, ph, C⟩ := Call.of_ok W hc
  obtain ⟨_, hvP, _⟩ := fuseF_lead a k e ha hfa hk1 hk
  have W' := admW_fuse_lead W k e hk1 hk hxa
  obtain ⟨fO, fS, _, fC, _, _⟩ := fuse_lead_fields a ha hfa hk1 hk
  obtain ⟨xI, xS, xSec, xPh, xV, xF, xCh, xOd, xE⟩ := signAdj_lead a ha hfa hk1 hk
  generalize FuseP.signAdj a [List.range k] = X at *
  have hXn : X.ndim = a.ndim := by unfold Arr.ndim; rw [xI]
  have hkX : k ≤ X.ndim := by rw [hXn]; exact hk
  have hAX : ∀ x ∈ xa, x < X.ndim := by rw [hXn]; exact hA
  have hPpar : (FuseP.fusedArrM X [List.range k]).parity = a.parity := by
    unfold Arr.parity
    rw [fS, fC]
  obtain ⟨cP, hcP, C'⟩ := Call.of_merge W' (by rw [hPpar, fO]; exact C.merge)
  refine ⟨cP, W', hcP, ?_⟩
  intro c0 i0 d0 S Lr Rs O oLr oR shpLr shpR hdec hz hi hLr hbLr hR hbR
  have hLrX : Arr.blockShape? (permuted X.indices (freeTail X.ndim k xa)) Lr = some shpLr := by
    rw [xI, hXn]; exact hLr
  obtain ⟨_, G⟩ := lead_geom X xa k xV xPh hvP hnA hAX hk1 hkX hxa hdec hz hi hLrX hbLr
  have bF := freeBox_append G.shapeLF G.boxLF hR hbR
  have bA := freeBox_append G.shapeL G.boxL hR hbR
  have lA := freeOffs_length G.shapeL G.boxL
  have hSl := G.lenS
  rw [xI] at bA
  rw [hXn] at lA
  refine ⟨bF, bA, ?_⟩
  rw [C'.elem _ _ _ (freeOffs_length G.shapeLF G.boxLF) bF,
    lead_commute_graded hz1 hz2 X b xa xb k xV hb xPh hvP hnA hnB hAX hB hlen hk1 hkX hxa hdec hz hi
      hLrX hbLr hR,
    C.elem _ _ _ lA bA]
  have hσ : ∀ p ∈ storedPairs a b (freeAxes a.ndim xa) xa xb (freeAxes b.ndim xb) ((S ++ Lr) ++ Rs),
      FuseP.fuseSignT a [List.range k] p.1 = FuseP.fuseSignT a [List.range k] ((S ++ Lr) ++ Rs) := by
    rintro ⟨sa, sb⟩ hp
    obtain ⟨hA1, _, _, hs⟩ := mem_storedPairs.mp hp
    have hsl := Arr.sector_length (Arr.shapesOk_of_validB ha) hA1
    rw [freeAxes_lead a.ndim k xa hk hxa, permuted_append, ValidP.permuted_range_take,
      List.append_assoc, List.append_assoc] at hs
    have hl : (sa.take k).length = S.length := by rw [List.length_take, hsl, hSl]; omega
    have hS := (List.append_inj hs hl).1
    apply fuseSignT_lead_congr a a hk1 hk hk rfl (fun _ _ => rfl)
    show sa.take k = ((S ++ Lr) ++ Rs).take k
    rw [List.append_assoc, List.take_left' hSl]
    exact hS
  rw [gradedContract_twist X a b xa xb (FuseP.fuseSignT a [List.range k])
    (FuseP.fuseSignT_pm a [List.range k]) xI xS xSec xE _ _ hσ]
  exact FuseP.sgnI_comm _ _ _

end SymmModel.TdotP
