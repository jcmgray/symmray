/-
  SymmModel.Proofs.TdotFused7 — "fused strategy = blockwise" (C06 `tensordotFused_obs_eq_blockwise`,
  Props/C06b; C06 `tensordotFused_obs_eq_blockwise_all`, Props/C06d) for every shape of the three
  groups of `tensordotViaFused` on abelian operands: `Ctx0.fused` on the aligned operands, hence
  `AbOk` / `abOk_all` (both aligned operands keep a block; otherwise `viaFused_empty`, TdotFused4),
  and its readings for particular shapes.  Namespace `SymmModel.TdotP`.

  How the proof follows `symmray.abelian_core._tensordot_via_fused`:
  * `drop_misaligned_sectors`, then the early return when an operand has no block left:
    `tensordotViaFused_noblocks`; otherwise the rest of the function is `viaAligned`
    (`tensordotViaFused_aligned`, ValidTdotFused) — ONE equation for possibly empty `left_axes`,
    `axes_a`, `right_axes`.  Which of them are empty is inspected only in the layer under `LegDec`
    and `stage_legs` (one operand at a time: `left_elem`, `right_elem`, `left_side`, `right_side`,
    `outer_side`, `stage_legs`) and in `Ctx0.fused` for `axes_a`; nothing above `Ctx0.fused` splits.
  * `fuse(a, left_axes, axes_a, expand_empty=False)`: empty groups are dropped, the non-empty ones
    list every axis once (`Cover`, TdotFused2: the fused array has one axis per group and its
    elements are the original's at the decoded addresses, `cover_elem`).  A free group that may be
    missing is an optional leg: `LegDec` decodes a list of at most one (charge, offset).
  * the two dictionaries that pick `((0,), (1,))`, `((), (0,))`, … are `ValidP.groupAxes`; on covering
    groups they are "all axes but the bond" and "the bond" (`groupAxes_eq_second`, `groupAxes_eq_first`).
  * `_tensordot_blockwise(af, bf, …)` along the fused bond: `bond_elem` (TdotFused3, any ranks);
    the bond tables of `af` and `bf` coincide after the alignment, so the double sum over the fused
    bond is the blockwise double sum of the originals (`Ctx0.core`, TdotFused5).  With nothing
    contracted the product is an outer product (`tensordot_outer'`).
  * `unfuse(cf, cf.ndim - 1)` / `unfuse(cf, 0)` for groups of more than one axis: `unfuseLegs`,
    followed through `stage_legs` (TdotFused6): values, stored sectors and index tables.
  The result stores every sector of the blockwise result with the blockwise values; sectors it
  stores in addition (other sub-sectors of an unfused charge) hold all-zero blocks, and its index
  tables are prunings of the operands' free tables (`AlignedOk`).  How `AlignedOk`, `AbRes`,
  `SameView`, `KernelOk` and `Pad` follow from one another: head of TdotFused2.
-/
import SymmModel.Proofs.TdotFused6

namespace SymmModel
namespace TdotP
variable {R : Type}

theorem list_len2' {α : Type} {l : List α} (h : l.length = 2) : ∃ x y, l = [x, y] := by
  match l, h with
  | [x, y], _ => exact ⟨x, y, rfl⟩

theorem freeAxes_0_nil : freeAxes 0 [] = [] := by decide

/-- `c` is the blockwise product of the aligned operands `A`, `B` up to all-zero blocks and the
    pruning of the index tables -/
structure AlignedOk [Zero R] [Add R] [Mul R] [Neg R] (A B : Arr R) (xa xb : List Nat) (c : Arr R) : Prop where
  valid : c.validB = true
  sym : c.sym = A.sym
  fermi : c.fermi = false
  charge : c.charge = A.sym.combine [A.charge, B.charge]
  phases : c.phases = []
  oddpos : c.oddpos = A.oddpos
  rank : c.indices.length = (freeAxes A.ndim xa).length + (freeAxes B.ndim xb).length
  val : ∀ K V, alookup c.blocks K = some V → ∀ J, inBox V.shape J = true →
    V.get J = (tensordotBlockwise A B (freeAxes A.ndim xa) xa xb (freeAxes B.ndim xb)).elem K J
  sec : ∀ s ∈ (tensordotBlockwise A B (freeAxes A.ndim xa) xa xb (freeAxes B.ndim xb)).sectors,
    s ∈ c.sectors
  frame : List.Forall₂ SizeLe c.indices
    (permuted A.indices (freeAxes A.ndim xa) ++ permuted B.indices (freeAxes B.ndim xb))

theorem permuted_map_range_init {α : Type} (f : Nat → α) (n : Nat) :
    permuted ((List.range (n + 1)).map f) (freeAxes (n + 1) [n]) = (List.range n).map f := by
  rw [freeAxes_last, List.range_succ, List.map_append, List.map_cons, List.map_nil]
  have := permuted_snoc_init ((List.range n).map f) (f n)
  rwa [List.length_map, List.length_range] at this

theorem permuted_map_range_tail {α : Type} (f : Nat → α) (m : Nat) :
    permuted ((List.range (m + 1)).map f) (freeAxes (m + 1) [0]) = (List.range m).map (fun i => f (i + 1)) := by
  rw [freeAxes_first, List.range_succ_eq_map, List.map_cons, List.map_map]
  have := permuted_cons_tail (f 0) ((List.range m).map (f ∘ Nat.succ))
  rw [List.length_map, List.length_range] at this
  exact this

theorem Ctx0.fused_contract [AddCommMonoid R] [Mul R] [Neg R]
    (hz1 : ∀ x : R, 0 * x = 0) (hz2 : ∀ x : R, x * 0 = 0) {A B : Arr R} {xa xb : List Nat}
    (h : Ctx0 A B xa xb) (hne : xa ≠ []) :
    ∃ c, viaAligned A B (freeAxes A.ndim xa) xa xb (freeAxes B.ndim xb) = .ok c
      ∧ AlignedOk A B xa xb c := by
  have hneb := h.neB hne
  obtain ⟨GA, hGA⟩ : ∃ G, G = [freeAxes A.ndim xa, xa].filter (fun g => !g.isEmpty) := ⟨_, rfl⟩
  obtain ⟨GB, hGB⟩ : ∃ G, G = [xb, freeAxes B.ndim xb].filter (fun g => !g.isEmpty) := ⟨_, rfl⟩
  obtain ⟨hcA, hgKA, hgLA, hiA⟩ := left_side h.nA h.rA hne hGA
  obtain ⟨hcB, hgKB, hgRB, hiB⟩ := right_side h.nB h.rB hneb hGB
  have hvaf := fused_cover_validB h.vA h.fA hcA
  have hvbf := fused_cover_validB h.vB h.fB hcB
  have hnA : (FuseP.fusedArrM A GA).ndim = GA.length :=
    (FuseP.newIdxM_length hcA.ok.adm).trans (cover_ndimM hcA)
  have hnB : (FuseP.fusedArrM B GB).ndim = GB.length :=
    (FuseP.newIdxM_length hcB.ok.adm).trans (cover_ndimM hcB)
  have hpl : (if freeAxes A.ndim xa = [] then ([] : List Index) else [FuseP.ixM A GA 0]).length
      = GA.length - 1 := by
    have := congrArg List.length hiA
    rw [FuseP.newIdxM_length hcA.ok.adm, cover_ndimM hcA] at this
    simp only [List.length_append, List.length_cons, List.length_nil] at this
    omega
  obtain ⟨X, hX⟩ : ∃ X, X = tensordotBlockwise (FuseP.fusedArrM A GA) (FuseP.fusedArrM B GB)
      (freeAxes (FuseP.fusedArrM A GA).ndim [GA.length - 1]) [GA.length - 1] [0]
      (freeAxes (FuseP.fusedArrM B GB).ndim [0]) := ⟨_, rfl⟩
  have bm := h.bond_match hcA.ok hcB.ok hgKA hgKB
  have hvX : X.validB = true := by
    have := bond_validB (FuseP.fusedArrM A GA) (FuseP.fusedArrM B GB) _ _ _ _ hiA hiB hvaf hvbf h.sym h.fA bm.2.2
    rw [hpl] at this
    rw [hX]; exact this
  -- the fields of the product, through the field lemmas (no unfolding of the product itself)
  obtain ⟨t1, t2, t3, t4, t5⟩ := tensordotBlockwise_fields (FuseP.fusedArrM A GA) (FuseP.fusedArrM B GB)
    (freeAxes (FuseP.fusedArrM A GA).ndim [GA.length - 1]) [GA.length - 1] [0]
    (freeAxes (FuseP.fusedArrM B GB).ndim [0])
  obtain ⟨u1, u2, u3, u4, u5⟩ := fusedArrM_fields A GA
  obtain ⟨_, _, w3, _, _⟩ := fusedArrM_fields B GB
  rw [← hX] at t1 t2 t3 t4 t5
  have hfX : X.fermi = false := (t2.trans u2).trans h.fA
  have hpX : X.phases = [] := (t4.trans u4).trans h.phA
  have hidxX : X.indices = legIdx A GA (freeAxes A.ndim xa) 0 X 0
      ++ legIdx B GB (freeAxes B.ndim xb) 1 X (if freeAxes A.ndim xa = [] then 0 else 1) := by
    have := bond_indices (FuseP.fusedArrM A GA) (FuseP.fusedArrM B GB) _ _ _ _ hiA hiB
      (freeAxes (FuseP.fusedArrM A GA).ndim [GA.length - 1]) (freeAxes (FuseP.fusedArrM B GB).ndim [0])
    rw [hpl, ← hX] at this
    rw [this]; exact dropUnused_legs A B GA GB _ _ 0 1 X
  obtain ⟨c, hc_ok, U⟩ :=
    stage_legs h.vaA (fun _ => hcA.ok) hgLA h.vaB (fun _ => hcB.ok) hgRB X
      (tensordotBlockwise A B (freeAxes A.ndim xa) xa xb (freeAxes B.ndim xb)) hvX hfX hpX hidxX
      (fun hdL hdR => by rw [hX]; exact h.core hz1 hz2 hne hGA hGB hdL hdR)
  have ean : A.indices.length = A.ndim := rfl
  have ebn : B.indices.length = B.ndim := rfl
  refine ⟨c, ?_,
    { valid := U.valid, sym := U.sym.trans (t1.trans u1), fermi := U.fermi,
      charge := by rw [U.charge, t3, u1, u3, w3], phases := U.phases.trans hpX,
      oddpos := U.oddpos.trans (t5.trans u5), rank := ?_, val := U.val, sec := ?_, frame := U.frame }⟩
  · -- control flow
    unfold viaAligned
    rw [fuseA_cover hGA h.vaA hcA, fuseA_cover hGB h.vaB hcB, groupAxes_eq_second hne hGA, groupAxes_eq_first hneb hGB]
    simp only [bind, Except.bind]
    have := hc_ok
    rw [hX, hnA, hnB] at this
    exact this
  · -- rank
    rw [U.frame.length_eq, List.length_append,
      permuted_length _ _ (by simpa [ean] using mem_freeAxes_lt),
      permuted_length _ _ (by simpa [ebn] using mem_freeAxes_lt)]
  · -- stored sectors
    intro s hs
    rw [tensordotBlockwise_sectors_eq, List.mem_eraseDups, mem_tdKeys] at hs
    obtain ⟨x, hx, y', hy', hxy, rfl⟩ := hs
    obtain ⟨sa, hsa, rfl⟩ := List.mem_map.mp hx
    obtain ⟨sb, hsb, rfl⟩ := List.mem_map.mp hy'
    refine U.sec sa hsa sb hsb ?_
    rw [hX, tensordotBlockwise_sectors_eq, List.mem_eraseDups, mem_tdKeys]
    obtain ⟨Ba, hBa, _⟩ := FuseP.fusedBlockM_exists h.vaA hcA.ok.adm hsa
    obtain ⟨Bb, hBb, _⟩ := FuseP.fusedBlockM_exists h.vaB hcB.ok.adm hsb
    rw [cover_newSector hcA] at hBa
    rw [cover_newSector hcB] at hBb
    refine ⟨_, List.mem_map.mpr ⟨_, alookup_some_mem hBa, rfl⟩, _, List.mem_map.mpr ⟨_, alookup_some_mem hBb, rfl⟩,
      ?_, ?_⟩
    · have hlA : GA.length - 1 < GA.length :=
        Nat.sub_lt (List.length_pos_of_ne_nil hcA.ok.ne) Nat.one_pos
      have hlB : 0 < GB.length := List.length_pos_of_ne_nil hcB.ok.ne
      simp only [permuted, List.filterMap_cons, List.filterMap_nil, List.getElem?_map,
        List.getElem?_range hlA, List.getElem?_range hlB, Option.map_some]
      rw [h.bond_charge hcA.ok hcB.ok hgKA hgKB hsa hsb hxy.symm]
    · have eA : GA.length = (if freeAxes A.ndim xa = [] then 0 else 1) + 1 := by
        rw [hGA]; by_cases hL0 : freeAxes A.ndim xa = [] <;> simp [hL0, isEmpty_false hne, isEmpty_false]
      have eB : GB.length = (if freeAxes B.ndim xb = [] then 0 else 1) + 1 := by
        rw [hGB]; by_cases hR0 : freeAxes B.ndim xb = [] <;> simp [hR0, isEmpty_false hneb, isEmpty_false]
      rw [hnA, hnB, eA, eB, Nat.add_sub_cancel, permuted_map_range_init, permuted_map_range_tail]
      by_cases hL0 : freeAxes A.ndim xa = [] <;> by_cases hR0 : freeAxes B.ndim xb = [] <;>
        simp [legKey, hL0, hR0]

theorem Ctx0.fused_outer [AddCommMonoid R] [Mul R] [Neg R]
    (hz1 : ∀ x : R, 0 * x = 0) (hz2 : ∀ x : R, x * 0 = 0) {A B : Arr R} (h : Ctx0 A B [] []) :
    ∃ c, viaAligned A B (freeAxes A.ndim []) [] [] (freeAxes B.ndim []) = .ok c
      ∧ AlignedOk A B [] [] c := by
  obtain ⟨GA, hGA⟩ : ∃ G, G = if freeAxes A.ndim [] = [] then [] else [freeAxes A.ndim []] := ⟨_, rfl⟩
  obtain ⟨GB, hGB⟩ : ∃ G, G = if freeAxes B.ndim [] = [] then [] else [freeAxes B.ndim []] := ⟨_, rfl⟩
  obtain ⟨AF, hfA, SA⟩ := outer_side h.vA h.fA hGA
  obtain ⟨BF, hfB, SB⟩ := outer_side h.vB h.fB hGB
  have hvaf := SA.valid
  have hvbf := SB.valid
  have hiA := SA.indices
  have hiB := SB.indices
  have hnAF : AF.ndim = if freeAxes A.ndim [] = [] then 0 else 1 := by
    show AF.indices.length = _
    rw [hiA]; by_cases h0 : freeAxes A.ndim [] = [] <;> simp [h0]
  have hnBF : BF.ndim = if freeAxes B.ndim [] = [] then 0 else 1 := by
    show BF.indices.length = _
    rw [hiB]; by_cases h0 : freeAxes B.ndim [] = [] <;> simp [h0]
  obtain ⟨X, hX⟩ : ∃ X, X = tensordotBlockwise AF BF (freeAxes AF.ndim []) [] [] (freeAxes BF.ndim []) :=
    ⟨_, rfl⟩
  have hpAF : AF.phases = [] := SA.phases.trans h.phA
  have hpBF : BF.phases = [] := SB.phases.trans h.phB
  have hvX : X.validB = true := by
    have := ValidP.tensordotBlockwise_valid AF BF [] [] ((ValidP.validB_iff _).mp hvaf)
      ((ValidP.validB_iff _).mp hvbf) (by rw [SA.sym, SB.sym]; exact h.sym) (SA.fermi.trans h.fA)
      (by unfold ValidP.oppositeDualsB; simp) (by simp) (by simp) (by simp) (by simp)
    rw [without_range, without_range] at this
    rw [hX]; exact (ValidP.validB_iff _).mpr this
  obtain ⟨t1, t2, t3, t4, t5⟩ := tensordotBlockwise_fields AF BF (freeAxes AF.ndim []) [] []
    (freeAxes BF.ndim [])
  rw [← hX] at t1 t2 t3 t4 t5
  have hfX : X.fermi = false := (t2.trans SA.fermi).trans h.fA
  have hpX : X.phases = [] := t4.trans hpAF
  have hidxX : X.indices = legIdx A GA (freeAxes A.ndim []) 0 X 0
      ++ legIdx B GB (freeAxes B.ndim []) 0 X (if freeAxes A.ndim [] = [] then 0 else 1) := by
    have : X.indices = dropUnused (AF.indices ++ BF.indices) X.sectors := by
      rw [hX, tensordotBlockwise_indices, without_nil, without_nil]
    rw [this, hiA, hiB]; exact dropUnused_legs A B GA GB _ _ 0 0 X
  have hcore : ∀ {cL cR : Sector} {iL iR : List Nat} {Ls Rs : Sector} {oL oR : List Nat},
      LegDec A GA (freeAxes A.ndim []) 0 cL iL Ls oL → LegDec B GB (freeAxes B.ndim []) 0 cR iR Rs oR →
      X.elem (cL ++ cR) (iL ++ iR) =
        (tensordotBlockwise A B (freeAxes A.ndim []) [] [] (freeAxes B.ndim [])).elem (Ls ++ Rs) (oL ++ oR) := by
    intro cL cR iL iR Ls Rs oL oR hdL hdR
    obtain ⟨eA, lcA, liA, lSA, lOA, shpA, hshpA, hboxA⟩ := SA.elem hdL
    obtain ⟨eB, lcB, liB, lSB, lOB, shpB, hshpB, hboxB⟩ := SB.elem hdR
    obtain ⟨sA, hsA, hbA⟩ := hdL.box
    obtain ⟨sB, hsB, hbB⟩ := hdR.box
    rw [← hiA] at hsA
    rw [← hiB] at hsB
    rw [hX, tensordot_outer' hz1 hz2 AF BF hpAF hpBF (Arr.allDistinct_of_validB hvaf)
      (Arr.allDistinct_of_validB hvbf) (Arr.shapesOk_of_validB hvaf) (Arr.shapesOk_of_validB hvbf)
      cL cR iL iR lcA lcB liA liB (by
        rw [Arr.blockShapeD, blockShape?_append hsA hsB]
        simp only [Option.getD_some]
        rw [inBox_append (inBox_length hbA), hbA, hbB]; rfl),
      eA, eB,
      tensordot_outer' hz1 hz2 A B h.phA h.phB (Arr.allDistinct_of_validB h.vA)
      (Arr.allDistinct_of_validB h.vB) (Arr.shapesOk_of_validB h.vA) (Arr.shapesOk_of_validB h.vB)
      Ls Rs oL oR lSA lSB lOA lOB (by
        rw [Arr.blockShapeD, blockShape?_append hshpA hshpB]
        simp only [Option.getD_some]
        rw [inBox_append (inBox_length hboxA), hboxA, hboxB]; rfl)]
  obtain ⟨c, hc_ok, U⟩ :=
    stage_legs h.vaA (fun hL => (SA.groups hL).1) (fun hL => (SA.groups hL).2) h.vaB
      (fun hR => (SB.groups hR).1) (fun hR => (SB.groups hR).2) X
      (tensordotBlockwise A B (freeAxes A.ndim []) [] [] (freeAxes B.ndim [])) hvX hfX hpX hidxX hcore
  have ean : A.indices.length = A.ndim := rfl
  have ebn : B.indices.length = B.ndim := rfl
  refine ⟨c, ?_,
    { valid := U.valid, sym := U.sym.trans (t1.trans SA.sym), fermi := U.fermi,
      charge := by rw [U.charge, t3, SA.sym, SA.charge, SB.charge], phases := U.phases.trans hpX,
      oddpos := U.oddpos.trans (t5.trans SA.oddpos), rank := ?_, val := U.val, sec := ?_,
      frame := U.frame }⟩
  · -- control flow
    have eGA : [freeAxes A.ndim [], []].filter (fun g => !g.isEmpty) = GA := by
      rw [hGA]; by_cases h0 : freeAxes A.ndim [] = [] <;> simp [h0, isEmpty_false]
    have eGB : [[], freeAxes B.ndim []].filter (fun g => !g.isEmpty) = GB := by
      rw [hGB]; by_cases h0 : freeAxes B.ndim [] = [] <;> simp [h0, isEmpty_false]
    have eL : ValidP.groupAxes (freeAxes A.ndim []) [] = (freeAxes AF.ndim [], []) := by
      rw [hnAF]; exact groupAxes_free_first _
    have eR : ValidP.groupAxes [] (freeAxes B.ndim []) = ([], freeAxes BF.ndim []) := by
      rw [hnBF]; exact groupAxes_free_second _
    unfold viaAligned
    rw [C05.fuseA_noexpand, C05.fuseA_noexpand, eGA, eGB, hfA, hfB, eL, eR]
    simp only [bind, Except.bind]
    rw [← hX]; exact hc_ok
  · -- rank
    rw [U.frame.length_eq, List.length_append,
      permuted_length _ _ (by simpa [ean] using mem_freeAxes_lt),
      permuted_length _ _ (by simpa [ebn] using mem_freeAxes_lt)]
  · -- stored sectors
    intro s hs
    rw [tensordotBlockwise_sectors_eq, List.mem_eraseDups, mem_tdKeys] at hs
    obtain ⟨x, hx, y', hy', _, rfl⟩ := hs
    obtain ⟨sa, hsa, rfl⟩ := List.mem_map.mp hx
    obtain ⟨sb, hsb, rfl⟩ := List.mem_map.mp hy'
    refine U.sec sa hsa sb hsb ?_
    rw [hX, tensordotBlockwise_sectors_eq, List.mem_eraseDups, mem_tdKeys]
    -- (not `rfl`: the kernel would first compare the two keys)
    refine ⟨_, SA.stored sa hsa, _, SB.stored sb hsb, (SymmModel.permuted_nil _).trans (SymmModel.permuted_nil _).symm, ?_⟩
    have lA : (legKey A GA (freeAxes A.ndim []) 0 sa).length = AF.ndim := by
      rw [hnAF]; by_cases h0 : freeAxes A.ndim [] = [] <;> simp [legKey, h0]
    have lB : (legKey B GB (freeAxes B.ndim []) 0 sb).length = BF.ndim := by
      rw [hnBF]; by_cases h0 : freeAxes B.ndim [] = [] <;> simp [legKey, h0]
    rw [freeAxes_nil AF.ndim, freeAxes_nil BF.ndim, ← lA, ← lB, permuted_range, permuted_range]

theorem Ctx0.fused [AddCommMonoid R] [Mul R] [Neg R]
    (hz1 : ∀ x : R, 0 * x = 0) (hz2 : ∀ x : R, x * 0 = 0) {A B : Arr R} {xa xb : List Nat}
    (h : Ctx0 A B xa xb) :
    ∃ c, viaAligned A B (freeAxes A.ndim xa) xa xb (freeAxes B.ndim xb) = .ok c
      ∧ AlignedOk A B xa xb c := by
  by_cases hK : xa = []
  · have hKb : xb = [] := by
      have := h.len
      rw [hK] at this
      exact List.eq_nil_of_length_eq_zero this.symm
    subst hK hKb
    exact h.fused_outer hz1 hz2
  · exact h.fused_contract hz1 hz2 hK

/-- the product of the two fused vectors -/
def cfVV [Zero R] [Add R] [Mul R] (A B : Arr R) (xa xb : List Nat) : Arr R :=
  tensordotBlockwise (FuseP.fusedArrM A [xa]) (FuseP.fusedArrM B [xb]) [] [0] [0] []

/-- full contraction, aligned operands: `Ctx0.fused` read when both free groups are empty -/
theorem Ctx0.scalar [AddCommMonoid R] [Mul R] [Neg R]
    (hz1 : ∀ x : R, 0 * x = 0) (hz2 : ∀ x : R, x * 0 = 0) {A B : Arr R} {xa xb : List Nat}
    (h : Ctx0 A B xa xb) (hneK : xa ≠ []) (hL : freeAxes A.ndim xa = []) (hR : freeAxes B.ndim xb = []) :
    (cfVV A B xa xb).validB = true
      ∧ (cfVV A B xa xb).sym = A.sym ∧ (cfVV A B xa xb).fermi = false
      ∧ (cfVV A B xa xb).charge = A.sym.combine [A.charge, B.charge]
      ∧ (cfVV A B xa xb).phases = [] ∧ (cfVV A B xa xb).oddpos = A.oddpos
      ∧ (cfVV A B xa xb).indices = []
      ∧ (∀ K V, alookup (cfVV A B xa xb).blocks K = some V → ∀ J, inBox V.shape J = true →
          V.get J = (tensordotBlockwise A B (freeAxes A.ndim xa) xa xb (freeAxes B.ndim xb)).elem K J)
      ∧ (∀ s ∈ (tensordotBlockwise A B (freeAxes A.ndim xa) xa xb (freeAxes B.ndim xb)).sectors,
          s ∈ (cfVV A B xa xb).sectors) := by
  have hneKb := h.neB hneK
  obtain ⟨c, hc, K⟩ := h.fused hz1 hz2
  have cA : Cover A [xa] := by simpa [hL, isEmpty_false hneK] using cover_left h.nA h.rA hneK
  have cB : Cover B [xb] := by simpa [hR, isEmpty_false hneKb] using cover_right h.nB h.rB hneKb
  have hfA := FuseP.fuseCore_multi_eq h.vaA cA.ok.adm
  have hfB := FuseP.fuseCore_multi_eq h.vaB cB.ok.adm
  have e : viaAligned A B (freeAxes A.ndim xa) xa xb (freeAxes B.ndim xb) = .ok (cfVV A B xa xb) := by
    rw [hL, hR]
    simp [viaAligned, C05.fuseA_noexpand, unfuseLegs, ValidP.groupAxes, isEmpty_false hneK,
      isEmpty_false hneKb, hfA, hfB, bind, Except.bind, pure, Except.pure, cfVV]
  rw [e] at hc
  obtain rfl := Except.ok.inj hc
  exact ⟨K.valid, K.sym, K.fermi, K.charge, K.phases, K.oddpos,
    List.eq_nil_of_length_eq_zero (by rw [K.rank, hL, hR]; rfl), K.val, K.sec⟩

/-- `Ctx0.core` when all three groups are non-empty: the fused operands are matrices -/
theorem fused_core [AddCommMonoid R] [Mul R] [Neg R]
    (hz1 : ∀ x : R, 0 * x = 0) (hz2 : ∀ x : R, x * 0 = 0) {A B : Arr R} {xa xb : List Nat}
    (h : FusedCtx A B xa xb) {cL cR : Charge} {iL iR dL dR : Nat} {Ls Rs : Sector} {oL oR : List Nat}
    (hdL : decAx A [freeAxes A.ndim xa, xa] 0 cL iL = some (Ls, oL))
    (hdR : decAx B [xb, freeAxes B.ndim xb] 1 cR iR = some (Rs, oR))
    (hzL : (FuseP.ixM A [freeAxes A.ndim xa, xa] 0).sizeOf? cL = some dL) (hiL : iL < dL)
    (hzR : (FuseP.ixM B [xb, freeAxes B.ndim xb] 1).sizeOf? cR = some dR) (hiR : iR < dR) :
    (tensordotBlockwise (FuseP.fusedArrM A [freeAxes A.ndim xa, xa])
        (FuseP.fusedArrM B [xb, freeAxes B.ndim xb]) [0] [1] [0] [1]).elem [cL, cR] [iL, iR] =
      (tensordotBlockwise A B (freeAxes A.ndim xa) xa xb (freeAxes B.ndim xb)).elem (Ls ++ Rs) (oL ++ oR) := by
  have hGA : [freeAxes A.ndim xa, xa] = [freeAxes A.ndim xa, xa].filter (fun g => !g.isEmpty) := by
    simp [isEmpty_false h.neL, isEmpty_false h.neK]
  have hGB : [xb, freeAxes B.ndim xb] = [xb, freeAxes B.ndim xb].filter (fun g => !g.isEmpty) := by
    simp [isEmpty_false h.neR, isEmpty_false h.neKb]
  have := h.toCtx0.core hz1 hz2 h.neK hGA hGB (cL := [cL]) (iL := [iL]) (cR := [cR]) (iR := [iR])
    (LegDec.one h.neL hdL hzL hiL)
    (LegDec.one h.neR hdR hzR hiR)
  have eA : (FuseP.fusedArrM A [freeAxes A.ndim xa, xa]).ndim = 2 :=
    (FuseP.newIdxM_length h.pairA.groupsOk.adm).trans (cover_ndimM h.pairA.cover)
  have eB : (FuseP.fusedArrM B [xb, freeAxes B.ndim xb]).ndim = 2 :=
    (FuseP.newIdxM_length h.pairB.groupsOk.adm).trans (cover_ndimM h.pairB.cover)
  rw [eA, eB] at this
  exact this

theorem tensordotBlockwise_rank [Zero R] [Add R] [Mul R] (a b : Arr R) (xa xb : List Nat) :
    (tensordotBlockwise a b (freeAxes a.ndim xa) xa xb (freeAxes b.ndim xb)).indices.length =
      (freeAxes a.ndim xa).length + (freeAxes b.ndim xb).length := by
  rw [tensordotBlockwise_indices, dropUnused_length, List.length_append, without_length, without_length]
  rfl

/-- `c` is the blockwise product of the abelian operands `a`, `b` along `(xa, xb)` up to all-zero
    blocks and pruned tables -/
structure AbRes [Zero R] [Add R] [Mul R] [Neg R] (a b : Arr R) (xa xb : List Nat) (c : Arr R) : Prop where
  valid : c.validB = true
  sym : c.sym = a.sym
  fermi : c.fermi = a.fermi
  charge : c.charge = a.sym.combine [a.charge, b.charge]
  phases : c.phases = a.phases
  oddpos : c.oddpos = a.oddpos
  rank : c.indices.length =
    (tensordotBlockwise a b (freeAxes a.ndim xa) xa xb (freeAxes b.ndim xb)).indices.length
  sec : ∀ s ∈ (tensordotBlockwise a b (freeAxes a.ndim xa) xa xb (freeAxes b.ndim xb)).sectors,
    s ∈ c.sectors
  val : ∀ K V, alookup c.blocks K = some V → ∀ J, inBox V.shape J = true →
    c.elem K J = (tensordotBlockwise a b (freeAxes a.ndim xa) xa xb (freeAxes b.ndim xb)).elem K J
  frame : List.Forall₂ SizeLe c.indices (without a.indices xa ++ without b.indices xb)
  shape : ∀ K V, alookup c.blocks K = some V →
    Arr.blockShape? (without a.indices xa ++ without b.indices xb) K = some V.shape

/-- **fused = blockwise** on the abelian operands `a`, `b` along `(xa, xb)` -/
def AbOk [Zero R] [Add R] [Mul R] [Neg R] (a b : Arr R) (xa xb : List Nat) : Prop :=
  ∃ c, tensordotViaFused a b (freeAxes a.ndim xa) xa xb (freeAxes b.ndim xb) = .ok c ∧ AbRes a b xa xb c

/-- the result on the aligned operands `a' b' = dropMisaligned a b` (`AlignedOk`) read against `a`,
    `b` themselves -/
theorem abOk_all_ctx [AddCommMonoid R] [Mul R] [Neg R]
    (hz1 : ∀ x : R, 0 * x = 0) (hz2 : ∀ x : R, x * 0 = 0) (a b : Arr R) (xa xb : List Nat)
    (ha : a.validB = true) (hfa : a.fermi = false)
    (h : Ctx0 (dropMisaligned a b xa xb).1 (dropMisaligned a b xa xb).2 xa xb)
    (hbl : ((dropMisaligned a b xa xb).1.blocks.isEmpty || (dropMisaligned a b xa xb).2.blocks.isEmpty) = false) :
    AbOk a b xa xb := by
  obtain ⟨n1, n2⟩ := dropMisaligned_ndim a b xa xb
  obtain ⟨c, hc, K⟩ := h.fused hz1 hz2
  rw [n1, n2] at hc
  have hval := K.val
  have hsec := K.sec
  have hrank := K.rank
  have hframe := K.frame
  rw [n1, n2] at hval hsec hrank hframe
  have hblk := tensordotBlockwise_blocks_dropMisaligned a b (freeAxes a.ndim xa) xa xb (freeAxes b.ndim xb)
  have hpa : a.phases = [] := Arr.phases_nil_of_validB ha hfa
  have hfr : List.Forall₂ SizeLe c.indices (without a.indices xa ++ without b.indices xb) := by
    rw [without_eq_permuted_freeAxes, without_eq_permuted_freeAxes]
    refine forall₂_trans (r := SizeLe) (fun _ _ _ h1 h2 => SizeLe.trans h1 h2) hframe (forall₂_append ?_ ?_)
    · exact permuted_dropUnused_sizeLe a.indices _ _ (fun x hx => (mem_freeAxes.mp hx).1)
    · exact permuted_dropUnused_sizeLe b.indices _ _ (fun x hx => (mem_freeAxes.mp hx).1)
  refine ⟨c, (tensordotViaFused_aligned a b _ xa xb _ hbl).trans hc, K.valid, K.sym, K.fermi.trans hfa.symm,
    K.charge, K.phases.trans hpa.symm, K.oddpos, ?_, ?_, ?_, hfr, ?_⟩
  · rw [hrank, tensordotBlockwise_rank]
  · intro s hs
    apply hsec
    rw [Arr.sectors, hblk]; exact hs
  · intro k V hl J hJ
    rw [Arr.elem_of_phases_nil K.phases, hl]
    show V.get J = _
    rw [hval k V hl J hJ]
    exact Arr.elem_congr hblk rfl k J
  · intro k V hl
    exact blockShape?_weaken hfr k _ (Arr.shapesOk_of_validB K.valid (k, V) (alookup_some_mem hl))

/-- fused = blockwise for every shape of the three groups, when both aligned operands keep a block
    (otherwise `viaFused_empty`, TdotFused4); behind C06 `tensordotFused_obs_eq_blockwise` (Props/C06b)
    and `tensordotFused_obs_eq_blockwise_all` (Props/C06d) -/
theorem abOk_all [AddCommMonoid R] [Mul R] [Neg R]
    (hz1 : ∀ x : R, 0 * x = 0) (hz2 : ∀ x : R, x * 0 = 0) (a b : Arr R) (xa xb : List Nat)
    (ha : a.validB = true) (hb : b.validB = true) (hfa : a.fermi = false) (hfb : b.fermi = false)
    (hsym : a.sym = b.sym) (hc : ValidP.contractibleB a b xa xb = true)
    (hnA : xa.Nodup) (hnB : xb.Nodup) (hA : ∀ x ∈ xa, x < a.ndim) (hB : ∀ x ∈ xb, x < b.ndim)
    (hbl : ((dropMisaligned a b xa xb).1.blocks.isEmpty || (dropMisaligned a b xa xb).2.blocks.isEmpty) = false) :
    AbOk a b xa xb :=
  abOk_all_ctx hz1 hz2 a b xa xb ha hfa
    (ctx0_of_dropMisaligned a b xa xb ha hb hfa hfb hsym hc hnA hnB hA hB) hbl

/-- `abOk_all` for the matrix × matrix shape, as value views: the same element at every address of
    the (aligned) result tables — so any additional stored block is identically zero on its box -/
theorem viaFused_matrix [AddCommMonoid R] [Mul R] [Neg R]
    (hz1 : ∀ x : R, 0 * x = 0) (hz2 : ∀ x : R, x * 0 = 0) (a b : Arr R) (xa xb : List Nat)
    (ha : a.validB = true) (hb : b.validB = true) (hfa : a.fermi = false) (hfb : b.fermi = false)
    (hsym : a.sym = b.sym) (hc : ValidP.contractibleB a b xa xb = true)
    (hnA : xa.Nodup) (hnB : xb.Nodup) (hA : ∀ x ∈ xa, x < a.ndim) (hB : ∀ x ∈ xb, x < b.ndim)
    (hneK : xa ≠ []) (hl1 : (freeAxes a.ndim xa).length = 1) (hr1 : (freeAxes b.ndim xb).length = 1)
    (hbl : ((dropMisaligned a b xa xb).1.blocks.isEmpty || (dropMisaligned a b xa xb).2.blocks.isEmpty) = false) :
    ∃ c, tensordotViaFused a b (freeAxes a.ndim xa) xa xb (freeAxes b.ndim xb) = .ok c
      ∧ c.sym = a.sym ∧ c.fermi = a.fermi ∧ c.charge = a.sym.combine [a.charge, b.charge]
      ∧ c.phases = a.phases ∧ c.oddpos = a.oddpos ∧ c.indices.length = 2
      ∧ (∀ s ∈ (tensordotBlockwise a b (freeAxes a.ndim xa) xa xb (freeAxes b.ndim xb)).sectors,
          s ∈ c.sectors)
      ∧ (∀ s o shp, Arr.blockShape? (without (dropMisaligned a b xa xb).1.indices xa ++
            without (dropMisaligned a b xa xb).2.indices xb) s = some shp → inBox shp o = true →
          c.elem s o =
            (tensordotBlockwise a b (freeAxes a.ndim xa) xa xb (freeAxes b.ndim xb)).elem s o) := by
  obtain ⟨n1, n2⟩ := dropMisaligned_ndim a b xa xb
  obtain ⟨c, h0, K⟩ := abOk_all hz1 hz2 a b xa xb ha hb hfa hfb hsym hc hnA hnB hA hB hbl
  refine ⟨c, h0, K.sym, K.fermi, K.charge, K.phases, K.oddpos,
    by rw [K.rank, tensordotBlockwise_rank, hl1, hr1], K.sec, ?_⟩
  intro s o shp hshp hbox
  -- the aligned tables are prunings of the operands' tables
  have hw : List.Forall₂ SizeLe
      (without (dropMisaligned a b xa xb).1.indices xa ++ without (dropMisaligned a b xa xb).2.indices xb)
      (without a.indices xa ++ without b.indices xb) := by
    rw [without_eq_permuted_freeAxes, without_eq_permuted_freeAxes, without_eq_permuted_freeAxes a.indices,
      without_eq_permuted_freeAxes b.indices]
    have e1 : (dropMisaligned a b xa xb).1.indices.length = a.indices.length := n1
    have e2 : (dropMisaligned a b xa xb).2.indices.length = b.indices.length := n2
    rw [e1, e2]
    exact forall₂_append
      (permuted_dropUnused_sizeLe a.indices _ _ (fun x hx => (mem_freeAxes.mp hx).1))
      (permuted_dropUnused_sizeLe b.indices _ _ (fun x hx => (mem_freeAxes.mp hx).1))
  exact elem_everywhere K.sec K.val s o (ownBox_of_table K.shape s o
    (by rw [Arr.blockShapeD, blockShape?_weaken hw s shp hshp]; exact hbox))

end TdotP
end SymmModel
