/-
  SymmModel.Proofs.SpecMulDiag — the blocks of `multiply_diagonal` in closed form: the equation
  `multiplyDiagonal_blocks` (a `filterMap` over the stored blocks, keyed by the charge on `axis`) that
  validity, the value theorems, the reconstruction theorems and the heap refinement start from, and
  its form `multiplyDiagonal_items` for an array and a vector listed over one common list.
-/
import SymmModel.Model.Tdot
import SymmModel.Proofs.BaseAlist
import SymmModel.Proofs.BaseList

namespace SymmModel
variable {R : Type} [Zero R] [Mul R]

theorem multiplyDiagonal_blocks (a : Arr R) (v : BVec R) (axis : Nat) :
    (multiplyDiagonal a v axis).blocks
      = a.blocks.filterMap (fun p => (alookup v.blocks (p.1.getD axis (0, 0))).map
          (fun vb => (p.1, p.2.mulAxisK vb axis))) := by
  unfold multiplyDiagonal
  simp only
  congr 1
  funext ⟨s, b⟩
  simp only
  cases alookup v.blocks (s.getD axis (0, 0)) <;> rfl

theorem multiplyDiagonal_items {α : Type} {l : List α} (key : α → Sector)
    (f sb : α → Blk R) (axis : Nat) (a : Arr R) (sv : BVec R)
    (ha : a.blocks = l.map (fun p => (key p, f p)))
    (hs : sv.blocks = l.map (fun p => ((key p).getD axis (0, 0), sb p)))
    (hnd : (l.map (fun p => (key p).getD axis (0, 0))).Nodup) :
    (multiplyDiagonal a sv axis).blocks = l.map (fun p => (key p, (f p).mulAxisK (sb p) axis)) := by
  have hskeys : (sv.blocks.map (·.1)).Nodup := by
    rw [hs, List.map_map]; exact hnd
  rw [multiplyDiagonal_blocks, ha, List.filterMap_map]
  apply filterMap_eq_map_of_forall
  intro p hp
  have hl : alookup sv.blocks ((key p).getD axis (0, 0)) = some (sb p) := by
    apply alookup_of_mem_nodup hskeys
    rw [hs]; exact List.mem_map.mpr ⟨p, hp, rfl⟩
  simp only [Function.comp]
  rw [hl]
  rfl

end SymmModel
