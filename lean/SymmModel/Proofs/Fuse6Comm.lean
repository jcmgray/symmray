/-
  SymmModel.Proofs.Fuse6Comm — two unfuse steps on different axes commute, as functions on value
  views: `unfVal` at `p` after `unfVal` at `q` (`p < q`) is `unfVal` at the shifted `q` after `unfVal`
  at `p`, provided each step's sign only depends on its own segment.
-/
import SymmModel.Proofs.Fuse6Parts
namespace SymmModel
namespace FuseP
set_option linter.unusedSectionVars false
open SymmModel.Lazy

variable {R : Type} [Zero R] [Neg R] [LawfulNeg R]

theorem unfVal_comm (sym : Sym) (ixP ixQ : Index) (subsP subsQ : List Index) (extsP extsQ : Extents)
    (sP sP1 sQ sQ2 : Sector → Int) (v : Sector → List Nat → R)
    {p m : Nat} {A S M T C : Sector} {A' S' M' T' C' : List Nat}
    (hA : A.length = p) (hS : S.length = subsP.length) (hM : M.length = m) (hT : T.length = subsQ.length)
    (hA' : A'.length = p) (hS' : S'.length = subsP.length) (hM' : M'.length = m) (hT' : T'.length = subsQ.length)
    (h1 : sP1 (A ++ S ++ M ++ T ++ C) = sP (A ++ S ++ M ++ [cmb sym ixQ subsQ T] ++ C))
    (h2 : sQ2 (A ++ S ++ M ++ T ++ C) = sQ (A ++ [cmb sym ixP subsP S] ++ M ++ T ++ C)) :
    unfVal sym ixP subsP extsP p sP1 (unfVal sym ixQ subsQ extsQ (p + 1 + m) sQ v)
        (A ++ S ++ M ++ T ++ C) (A' ++ S' ++ M' ++ T' ++ C')
      = unfVal sym ixQ subsQ extsQ (p + subsP.length + m) sQ2 (unfVal sym ixP subsP extsP p sP v)
        (A ++ S ++ M ++ T ++ C) (A' ++ S' ++ M' ++ T' ++ C') := by
  have eK : A ++ S ++ M ++ T ++ C = A ++ S ++ (M ++ T ++ C) := by simp only [List.append_assoc]
  have eJ : A' ++ S' ++ M' ++ T' ++ C' = A' ++ S' ++ (M' ++ T' ++ C') := by simp only [List.append_assoc]
  have hAQ : (A ++ S ++ M).length = p + subsP.length + m := by simp only [List.length_append, hA, hS, hM]
  have hAQ' : (A' ++ S' ++ M').length = p + subsP.length + m := by simp only [List.length_append, hA', hS', hM']
  have lhs := unfVal_parts sym ixP subsP extsP sP1 (unfVal sym ixQ subsQ extsQ (p + 1 + m) sQ v)
    (A := A) (S := S) (X := M ++ T ++ C) (A' := A') (S' := S') (X' := M' ++ T' ++ C') hA hS hA' hS'
  have rhs := unfVal_parts sym ixQ subsQ extsQ sQ2 (unfVal sym ixP subsP extsP p sP v)
    (A := A ++ S ++ M) (S := T) (X := C) (A' := A' ++ S' ++ M') (S' := T') (X' := C') hAQ hT hAQ' hT'
  rw [← eK, ← eJ] at lhs
  rw [lhs, rhs]
  have innerQ : ∀ o : Nat, unfVal sym ixQ subsQ extsQ (p + 1 + m) sQ v
      (A ++ [cmb sym ixP subsP S] ++ (M ++ T ++ C)) (A' ++ [o] ++ (M' ++ T' ++ C'))
      = match look sym ixQ subsQ extsQ T with
        | none => 0
        | some (st, sub) => sgnI (sQ (A ++ [cmb sym ixP subsP S] ++ M ++ T ++ C))
            (v (A ++ [cmb sym ixP subsP S] ++ M ++ [cmb sym ixQ subsQ T] ++ C)
              (A' ++ [o] ++ M' ++ [st + ravel sub T'] ++ C')) := by
    intro o
    have e1 : A ++ [cmb sym ixP subsP S] ++ (M ++ T ++ C) = (A ++ [cmb sym ixP subsP S] ++ M) ++ T ++ C := by
      simp only [List.append_assoc]
    have e2 : A' ++ [o] ++ (M' ++ T' ++ C') = (A' ++ [o] ++ M') ++ T' ++ C' := by simp only [List.append_assoc]
    rw [e1, e2]
    exact unfVal_parts sym ixQ subsQ extsQ sQ v (by simp only [List.length_append, List.length_cons, List.length_nil, hA, hM]) hT (by simp only [List.length_append, List.length_cons, List.length_nil, hA', hM']) hT'
  have innerP : ∀ o : Nat, unfVal sym ixP subsP extsP p sP v
      (A ++ S ++ M ++ [cmb sym ixQ subsQ T] ++ C) (A' ++ S' ++ M' ++ [o] ++ C')
      = match look sym ixP subsP extsP S with
        | none => 0
        | some (st, sub) => sgnI (sP (A ++ S ++ M ++ [cmb sym ixQ subsQ T] ++ C))
            (v (A ++ [cmb sym ixP subsP S] ++ M ++ [cmb sym ixQ subsQ T] ++ C)
              (A' ++ [st + ravel sub S'] ++ M' ++ [o] ++ C')) := by
    intro o
    have e1 : A ++ S ++ M ++ [cmb sym ixQ subsQ T] ++ C = A ++ S ++ (M ++ [cmb sym ixQ subsQ T] ++ C) := by
      simp only [List.append_assoc]
    have e2 : A' ++ S' ++ M' ++ [o] ++ C' = A' ++ S' ++ (M' ++ [o] ++ C') := by simp only [List.append_assoc]
    have e3 : ∀ o' : Nat, A' ++ [o'] ++ M' ++ [o] ++ C' = A' ++ [o'] ++ (M' ++ [o] ++ C') := by
      intro o'; simp only [List.append_assoc]
    have e4 : A ++ [cmb sym ixP subsP S] ++ M ++ [cmb sym ixQ subsQ T] ++ C
        = A ++ [cmb sym ixP subsP S] ++ (M ++ [cmb sym ixQ subsQ T] ++ C) := by simp only [List.append_assoc]
    simp only [e3, e4]
    rw [e1, e2]
    exact unfVal_parts sym ixP subsP extsP sP v hA hS hA' hS'
  cases hP : look sym ixP subsP extsP S with
  | none =>
    simp only
    cases hQ : look sym ixQ subsQ extsQ T with
    | none => rfl
    | some q =>
      obtain ⟨stQ, subQ⟩ := q
      simp only
      rw [innerP, hP]
      simp only
      exact (sgnI_zero _).symm
  | some q =>
    obtain ⟨stP, subP⟩ := q
    simp only
    rw [innerQ]
    cases hQ : look sym ixQ subsQ extsQ T with
    | none => simp only; exact sgnI_zero _
    | some q =>
      obtain ⟨stQ, subQ⟩ := q
      simp only
      rw [innerP, hP]
      simp only
      rw [h1, h2]
      exact sgnI_comm _ _ _

end FuseP
end SymmModel
