/-
  SymmModel.Proofs.ArrPerm — `Arr.isPerm` (the guard of every transposition) says exactly "a permutation of
  `range n`".  Needs the `Subperm` lemmas of Mathlib's `Data.List.Perm.Basic`, hence not in ArrBase.
-/
import SymmModel.Model.Arr
import Mathlib.Data.List.Perm.Basic

namespace SymmModel

theorem isPerm_spec {axes : List Nat} {n : Nat} (h : Arr.isPerm axes n = true) :
    axes.length = n ∧ ∀ i, i < n → i ∈ axes := by
  simp only [Arr.isPerm, Bool.and_eq_true, beq_iff_eq, List.all_eq_true, List.mem_range,
    List.contains_iff_mem] at h
  exact h

theorem perm_of_isPerm {axes : List Nat} {n : Nat} (h : Arr.isPerm axes n = true) :
    axes.Perm (List.range n) := by
  obtain ⟨hl, hm⟩ := isPerm_spec h
  refine ((List.subperm_of_subset List.nodup_range ?_).perm_of_length_le (by simp [hl])).symm
  intro i hi
  exact hm i (List.mem_range.mp hi)

theorem isPerm_of_perm {axes : List Nat} {n : Nat} (h : axes.Perm (List.range n)) :
    Arr.isPerm axes n = true := by
  unfold Arr.isPerm
  simp only [Bool.and_eq_true, beq_iff_eq, List.all_eq_true, List.mem_range,
    List.contains_iff_mem]
  exact ⟨by simpa using h.length_eq, fun i hi => h.symm.subset (List.mem_range.mpr hi)⟩

theorem isPerm_lt {axes : List Nat} {n : Nat} (h : Arr.isPerm axes n = true) :
    ∀ q ∈ axes, q < n := fun _ hq =>
  List.mem_range.mp ((perm_of_isPerm h).subset hq)

end SymmModel
