/-
  SymmModel.Proofs.DecompTrunc — the truncated factors `u'`, `vh'` of `svd_truncated`
  (`LinalgLemmas.truncU`, `truncV`, the closed form of `applyCounts`) as left- / right-factor-like
  arrays over the kept items (the two halves of `Recon3P.truncFactors_pair`), so the fermionic
  isometry theorems of Proofs/DecompIso.lean apply to them; and the Gram sums of the kept columns
  of `u` / rows of `vh` of one block under `K.OrthoBlock`.
-/
import SymmModel.Proofs.DecompIso

namespace SymmModel
namespace DecompP
open LinalgLemmas ReconP Recon2P

variable {R : Type} [Zero R] {x : Arr R} {L Rt : Blk R → Blk R} {counts : List Nat}

theorem leftLike_truncU (hv : x.validB = true) (h2 : x.ndim = 2) (hf : x.fermi = true)
    (hL : FacShape L Rt) (hlen : counts.length = x.blocks.length) :
    LeftLike x (truncU x L counts) (kept x counts) (fun t => t.1.1)
      (fun t => (L t.1.2).sliceK [0, 0] [(L t.1.2).shape.getD 0 0, t.2])
      (fun t => ((L t.1.2).shape.getD 0 0, t.2)) :=
  (Recon3P.truncFactors_pair hv h2 hf hL hlen).left

theorem rightLike_truncV (hv : x.validB = true) (h2 : x.ndim = 2) (hf : x.fermi = true)
    (hL : FacShape L Rt) (hlen : counts.length = x.blocks.length) :
    RightLike x (truncV x L Rt counts) (kept x counts) (fun t => t.1.1)
      (fun t => (Rt t.1.2).sliceK [0, 0] [t.2, (Rt t.1.2).shape.getD 1 0])
      (fun t => (t.2, (Rt t.1.2).shape.getD 1 0)) :=
  (Recon3P.truncFactors_pair hv h2 hf hL hlen).right

section gram
variable {R : Type} [CommRing R] [Conj R] {K : Kernels R} {b : Blk R} {m n : Nat}

/-- the row clause of `K.OrthoBlock` with the conjugate on the second factor, as it comes out of
    `vh · vh†` -/
theorem ortho_rows_comm (conj : R →+* R) (hcj : ∀ v : R, Conj.conj v = conj v)
    (hs : b.shape = [m, n]) (hO : K.OrthoBlock conj b) {t t' : Nat} (ht : t < min m n)
    (ht' : t' < min m n) :
    (List.range n).foldl (fun acc j =>
        acc + (K.svd b).2.2.get [t, j] * Conj.conj ((K.svd b).2.2.get [t', j])) 0
      = (if t = t' then 1 else 0) := by
  have e : (fun acc j => acc + (K.svd b).2.2.get [t, j] * Conj.conj ((K.svd b).2.2.get [t', j]))
      = (fun acc j => acc + conj ((K.svd b).2.2.get [t', j]) * (K.svd b).2.2.get [t, j]) := by
    funext acc j
    rw [hcj, mul_comm]
  rw [e, (hO m n hs t' t ht' ht).2]
  exact if_congr eq_comm rfl rfl

theorem trunc_cols_gram (conj : R →+* R) (hcj : ∀ v : R, Conj.conj v = conj v) (hK : K.ShapeOk)
    (hs : b.shape = [m, n]) (hwf : b.wf = true) (hO : K.OrthoBlock conj b) {c : Nat}
    (hc : c ≤ min m n) {t t' : Nat} (ht : t < c) (ht' : t' < c) :
    (List.range ((K.svd b).1.shape.getD 0 0)).foldl (fun acc i =>
        acc + Conj.conj ((((K.svd b).1).sliceK [0, 0] [(K.svd b).1.shape.getD 0 0, c]).get [i, t])
          * (((K.svd b).1).sliceK [0, 0] [(K.svd b).1.shape.getD 0 0, c]).get [i, t']) 0
      = (if t = t' then 1 else 0) := by
  obtain ⟨l1, _, _, _⟩ := C11.facShape_svd hK b m n hs hwf
  simp only [l1, List.getD_cons_zero]
  rw [← (hO m n hs t t' (by omega) (by omega)).1]
  apply foldl_ext'
  intro acc i hi'
  have hi'' := List.mem_range.mp hi'
  rw [sliceK00_get _ hi'' ht, sliceK00_get _ hi'' ht', hcj]

theorem trunc_rows_gram (conj : R →+* R) (hcj : ∀ v : R, Conj.conj v = conj v) (hK : K.ShapeOk)
    (hs : b.shape = [m, n]) (hwf : b.wf = true) (hO : K.OrthoBlock conj b) {c : Nat}
    (hc : c ≤ min m n) {t t' : Nat} (ht : t < c) (ht' : t' < c) :
    (List.range ((K.svd b).2.2.shape.getD 1 0)).foldl (fun acc j =>
        acc + (((K.svd b).2.2).sliceK [0, 0] [c, (K.svd b).2.2.shape.getD 1 0]).get [t, j]
          * Conj.conj ((((K.svd b).2.2).sliceK [0, 0] [c, (K.svd b).2.2.shape.getD 1 0]).get [t', j])) 0
      = (if t = t' then 1 else 0) := by
  obtain ⟨_, _, l3, _⟩ := C11.facShape_svd hK b m n hs hwf
  simp only [l3, List.getD_cons_zero, List.getD_cons_succ]
  rw [← ortho_rows_comm conj hcj hs hO (show t < min m n by omega) (show t' < min m n by omega)]
  apply foldl_ext'
  intro acc j hj'
  have hj'' := List.mem_range.mp hj'
  rw [sliceK00_get _ ht hj'', sliceK00_get _ ht' hj'']

end gram

end DecompP
end SymmModel
