/-
  SymmModel.Proofs.AssocLeft — vocabulary of S7 (associativity) of property C04 for a chain `A–B–C`:
  the axes of the second calls (`axesAB`, `axesBC`), the canonical three-operand form (`S3`, `W3`,
  `triplesL`), the addresses of the final result (`FreeAddr`), and where the legs, parities and ket
  legs of `B` sit inside the intermediate result `A·B`.
-/
import SymmModel.Proofs.AssocFrame
import SymmModel.Proofs.AssocGeom
import SymmModel.Proofs.AssocSum

namespace SymmModel
namespace AssocP
open TdotP GradedP RoutesP
open Lazy (sgnI)

variable {R : Type}

/-- axes of `A·B` contracted with `C` on route `(A·B)·C` -/
def axesAB (nA nB : Nat) (xa xb1 xb2 : List Nat) : List Nat :=
  (positions (freeAxes nB xb1) xb2).map ((freeAxes nA xa).length + ·)

/-- axes of `B·C` contracted with `A` on route `A·(B·C)` -/
def axesBC (nB : Nat) (xb1 xb2 : List Nat) : List Nat := positions (freeAxes nB xb2) xb1

/-- the sign of a stored sector triple in the three-operand graded contraction -/
def S3 (A B C : Arr R) (xa xb1 xb2 xc : List Nat) (t : Sector × Sector × Sector) : Int :=
  koszul (A.parities t.1) (some (freeAxes A.ndim xa ++ xa))
    * koszul (B.parities t.2.1) (some (xb1 ++ freeAxes B.ndim (xb1 ++ xb2) ++ xb2))
    * koszul (C.parities t.2.2) (some (xc ++ freeAxes C.ndim xc))
    * (-1) ^ (oddContracted A xa t.1 * (oddContracted A xa t.1 - 1) / 2)
    * (-1) ^ (oddContracted B xb2 t.2.1 * (oddContracted B xb2 t.2.1 - 1) / 2)
    * (-1) ^ ketOdd A xa t.1 * (-1) ^ ketOdd B xb2 t.2.1

/-- the plain three-operand contraction of a stored sector triple at the free offsets -/
def W3 [AddMonoid R] [Mul R] [Neg R] (A B C : Arr R) (xa xb1 xb2 xc : List Nat) (oA oM oC : List Nat)
    (t : Sector × Sector × Sector) : R :=
  ((allIdx (permuted (Arr.blockShapeD A.indices t.1) xa)).map (fun k1 =>
    ((allIdx (permuted (Arr.blockShapeD B.indices t.2.1) xb2)).map (fun k2 =>
      A.elem t.1 (mergeIdx 0 A.ndim xa (freeAxes A.ndim xa) k1 oA)
        * (B.elem t.2.1 (mergeIdx 0 B.ndim (xb1 ++ xb2) (freeAxes B.ndim (xb1 ++ xb2)) (k1 ++ k2) oM)
          * C.elem t.2.2 (mergeIdx 0 C.ndim xc (freeAxes C.ndim xc) k2 oC)))).sum)).sum

/-- the stored sector triples of route `(A·B)·C`, in visiting order -/
def triplesL (A B C AB : Arr R) (xa xb1 xb2 xc : List Nat) (s : Sector) :
    List (Sector × Sector × Sector) :=
  (storedPairs AB C (freeAxes AB.ndim (axesAB A.ndim B.ndim xa xb1 xb2))
      (axesAB A.ndim B.ndim xa xb1 xb2) xc (freeAxes C.ndim xc) s).flatMap (fun p =>
    (storedPairs A B (freeAxes A.ndim xa) xa xb1 (freeAxes B.ndim xb1) p.1).map
      (fun q => (q.1, q.2, p.2)))

section geomL
variable {nA nB : Nat} {xa xb1 xb2 : List Nat}

theorem axesAB_len (h : Mid nB xb1 xb2) : (axesAB nA nB xa xb1 xb2).length = xb2.length := by
  unfold axesAB; rw [List.length_map, h.pos_len]

theorem axesAB_getD (h : Mid nB xb1 xb2) (j : Nat) (hj : j < xb2.length) :
    (axesAB nA nB xa xb1 xb2).getD j 0
        = (freeAxes nA xa).length + (positions (freeAxes nB xb1) xb2).getD j 0
      ∧ (positions (freeAxes nB xb1) xb2).getD j 0 < (freeAxes nB xb1).length
      ∧ (freeAxes nB xb1).getD ((positions (freeAxes nB xb1) xb2).getD j 0) 0 = xb2.getD j 0 := by
  have hjp : j < (positions (freeAxes nB xb1) xb2).length := by rw [h.pos_len]; exact hj
  refine ⟨?_, ?_, ?_⟩
  · unfold axesAB
    simp [List.getD_eq_getElem?_getD, List.getElem?_map, List.getElem?_eq_getElem hjp]
  · rw [List.getD_eq_getElem?_getD, List.getElem?_eq_getElem hjp]
    exact h.pos_lt _ (List.getElem_mem hjp)
  · rw [← getD_permuted_ax (freeAxes nB xb1) _ h.pos_lt j hjp 0, h.pos_spec]

theorem axesAB_nodup (h : Mid nB xb1 xb2) : (axesAB nA nB xa xb1 xb2).Nodup := by
  unfold axesAB
  exact h.pos_nodup.map (fun x y hxy => by omega)

theorem axesAB_lt (h : Mid nB xb1 xb2) :
    ∀ i ∈ axesAB nA nB xa xb1 xb2, i < (freeAxes nA xa).length + (freeAxes nB xb1).length := by
  intro i hi
  unfold axesAB at hi
  obtain ⟨p, hp, rfl⟩ := List.mem_map.mp hi
  have := h.pos_lt p hp
  omega

end geomL

section signL
variable [AddMonoid R] [Mul R] [Neg R]
variable {A B C AB : Arr R} {xa xb1 xb2 xc : List Nat} {ph : Int}

theorem parities_AB (I : Inter A B xa xb1 AB ph) (hsym : A.sym = B.sym) (sa sb : Sector) :
    AB.parities (permuted sa (freeAxes A.ndim xa) ++ permuted sb (freeAxes B.ndim xb1))
      = permuted (A.parities sa) (freeAxes A.ndim xa) ++ permuted (B.parities sb) (freeAxes B.ndim xb1) := by
  unfold Arr.parities
  rw [I.sym, List.map_append, ← permuted_map, ← permuted_map, hsym]

theorem ketOdd_AB (I : Inter A B xa xb1 AB ph) (hsym : A.sym = B.sym) (h : Mid B.ndim xb1 xb2)
    (sa sb : Sector) (hsa : sa.length = A.ndim) (hsb : sb.length = B.ndim) :
    ketOdd AB (axesAB A.ndim B.ndim xa xb1 xb2)
        (permuted sa (freeAxes A.ndim xa) ++ permuted sb (freeAxes B.ndim xb1))
      = ketOdd B xb2 sb := by
  unfold ketOdd
  have hl := axesAB_len (nA := A.ndim) (xa := xa) h
  have eL : axesAB A.ndim B.ndim xa xb1 xb2
      = (List.range xb2.length).map (fun j => (axesAB A.ndim B.ndim xa xb1 xb2).getD j 0) := by
    have := list_eq_map_getD (axesAB A.ndim B.ndim xa xb1 xb2)
    rwa [hl] at this
  have eR := list_eq_map_getD xb2
  rw [eL]
  conv => rhs; rw [eR]
  apply count_two_maps
  intro j hj
  obtain ⟨e1, e2, e3⟩ := axesAB_getD (nA := A.ndim) (xa := xa) h j hj
  have hp := I.leg_right _ e2
  rw [e3] at hp
  have hjp : j < (List.range xb2.length).length := by simpa using hj
  rw [e1, hp.1, I.sym, hsym]
  refine ⟨rfl, ?_⟩
  have hlen : (permuted sa (freeAxes A.ndim xa)).length = (freeAxes A.ndim xa).length :=
    permuted_length _ _ (by intro x hx; rw [hsa]; exact (mem_freeAxes.mp hx).1)
  rw [List.getD_eq_getElem?_getD, List.getElem?_append_right (by rw [hlen]; omega), hlen,
    Nat.add_sub_cancel_left, ← List.getD_eq_getElem?_getD,
    getD_permuted_ax sb _ (by rw [hsb]; exact h.flt) _ e2, e3]

end signL

/-- the free address `(LA ++ LM ++ LC, oA ++ oM ++ oC)` of the final result: lengths and boxes in
    terms of the ORIGINAL operands' index tables -/
structure FreeAddr (A B C : Arr R) (xa xb1 xb2 xc : List Nat) (LA LM LC : Sector)
    (oA oM oC : List Nat) : Prop where
  lA : LA.length = (freeAxes A.ndim xa).length
  lM : LM.length = (freeAxes B.ndim (xb1 ++ xb2)).length
  loA : oA.length = (freeAxes A.ndim xa).length
  loM : oM.length = (freeAxes B.ndim (xb1 ++ xb2)).length
  loC : oC.length = (freeAxes C.ndim xc).length
  bA : inBox (Arr.blockShapeD (without A.indices xa) LA) oA = true
  bM : inBox (Arr.blockShapeD (permuted B.indices (freeAxes B.ndim (xb1 ++ xb2))) LM) oM = true
  bC : inBox (Arr.blockShapeD (without C.indices xc) LC) oC = true

theorem shapeD_free {a : Arr R} (hs : a.shapesOk) {sa : Sector} (hA : sa ∈ a.sectors) (F : List Nat)
    (hF : ∀ i ∈ F, i < a.ndim) :
    Arr.blockShapeD (permuted a.indices F) (permuted sa F)
      = permuted (Arr.blockShapeD a.indices sa) F := by
  obtain ⟨shp, h1, h2, _, _⟩ := shape_of_mem hs hA
  rw [h2, Arr.blockShapeD, blockShape?_permuted h1 _ hF]
  rfl

end AssocP
end SymmModel
