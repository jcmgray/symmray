/-
  SymmModel.Proofs.DecompIsoA — the ABELIAN array-level Gram statements of Proofs/Recon3Iso.lean
  (`Q† · Q`, `VH · VH†` with the blockwise contraction) through `tensordot_abelian` in EVERY mode
  (`DecompP.tensordotA_matrices_table`).
-/
import SymmModel.Proofs.DecompTdot

namespace SymmModel
namespace DecompP
open LinalgLemmas ReconP Recon2P Recon3P TdotP

variable {R : Type}

theorem adjA_valid2 [Zero R] [Conj R] {e : Arr R} (hv : e.validB = true) (hf : e.fermi = false) {i0 i1 : Index}
    (hi : e.indices = [i0, i1]) :
    e.adjA.validB = true ∧ e.adjA.indices = [i1.conj, i0.conj] ∧ e.adjA.fermi = false
      ∧ e.adjA.sym = e.sym := by
  have hn : e.ndim = 2 := by simp [Arr.ndim, hi]
  refine ⟨?_, ?_, hf, rfl⟩
  · apply (ValidP.validB_iff _).mpr
    unfold Arr.adjA
    apply ValidP.transposeA_valid _ _ (ValidP.conjA_valid e ((ValidP.validB_iff e).mp hv) hf) hf
    show Arr.isPerm (Arr.reversedAxes e.ndim) (e.indices.map Index.conj).length = true
    rw [hn, hi]; rfl
  · show permuted (e.indices.map Index.conj) (Arr.reversedAxes e.ndim) = _
    rw [hn, hi]; rfl

section array
variable [CommRing R] [Conj R] {x : Arr R} {L Rt : Blk R → Blk R}

theorem gram_left_array_modes (conj : R →+* R) (hcj : ∀ v : R, Conj.conj v = conj v)
    (hv : x.validB = true) (h2 : x.ndim = 2) (hf : x.fermi = false) (hL : FacShape L Rt)
    (tm : TdotMode) :
    ∃ c, tensordotA (leftF x L).adjA (leftF x L) (.pair [1] [0]) tm = .ok c
      ∧ ∀ s b, (s, b) ∈ x.blocks → ∀ m n, b.shape = [m, n] → ∀ t t', t < min m n → t' < min m n →
          c.elem (diagOf s) [t, t']
            = (List.range m).foldl
                (fun acc i => acc + conj ((L b).get [i, t]) * (L b).get [i, t']) 0 := by
  obtain ⟨i0, i1, hi⟩ := ndim_two h2
  have hi0 : x.indices.getD 0 default = i0 := by rw [hi]; rfl
  have hQv : (leftF x L).validB = true := leftF_valid hv h2 hi hL
  have hQf : (leftF x L).fermi = false := hf
  have hQi : (leftF x L).indices = [i0, bondIx x L] := by
    show [x.indices.getD 0 default, bondIx x L] = _
    rw [hi0]
  obtain ⟨hAv, hAi, hAf, hAs⟩ := adjA_valid2 hQv hQf hQi
  obtain ⟨c, h1, h4⟩ := tensordotA_matrices_table zero_mul mul_zero hAv hQv hAf hQf hAs hAi hQi
    (Index.conj_cm i0) (Index.conj_dual i0) tm
  obtain ⟨_, _, g3⟩ := gram_left_array conj hcj hv h2 hf hL
  refine ⟨c, h1, ?_⟩
  intro s b hmem m n hs t t' ht ht'
  obtain ⟨r, c', m', n', B⟩ := mat_block hv hi hmem
  have hmm : m' = m := by
    have := B.hshape; rw [hs] at this; exact (List.cons.inj this).1.symm
  have hnn : n' = n := by
    have := B.hshape; rw [hs] at this; exact (List.cons.inj (List.cons.inj this).2).1.symm
  subst hmm hnn
  obtain ⟨l1, _, _, _⟩ := hL b m' n' hs B.hwf
  have hcol : colOf s = c' := B.col
  have hdg : diagOf s = [c', c'] := by simp [diagOf, hcol]
  have hQm : (s, L b) ∈ (leftF x L).blocks := List.mem_map.mpr ⟨(s, b), hmem, rfl⟩
  have hQsh := Arr.validB_block_shape hQv hQm
  rw [hQi, B.hs, l1] at hQsh
  obtain ⟨m0, k0, e1, e2, e3⟩ := (blockShape?_pair _ _ r c' _).mp hQsh
  have hk0 : k0 = min m' n' := (List.cons.inj (List.cons.inj e3).2).1.symm
  subst hk0
  have hbox : inBox (Arr.blockShapeD [(bondIx x L).conj, bondIx x L] (diagOf s)) [t, t']
      = true := by
    rw [hdg]
    exact inBox_diag (by rw [Index.conj_cm]; exact e2) e2 ht ht'
  rw [h4 _ _ hbox]
  exact g3 s b hmem m' n' hs t t' ht ht'

theorem gram_right_array_modes (conj : R →+* R) (hcj : ∀ v : R, Conj.conj v = conj v)
    (hv : x.validB = true) (h2 : x.ndim = 2) (hf : x.fermi = false) (hL : FacShape L Rt)
    (tm : TdotMode) :
    ∃ c, tensordotA (rightF x L Rt) (rightF x L Rt).adjA (.pair [1] [0]) tm = .ok c
      ∧ ∀ s b, (s, b) ∈ x.blocks → ∀ m n, b.shape = [m, n] → ∀ t t', t < min m n → t' < min m n →
          c.elem (diagOf s) [t, t']
            = (List.range n).foldl
                (fun acc j => acc + conj ((Rt b).get [t', j]) * (Rt b).get [t, j]) 0 := by
  obtain ⟨i0, i1, hi⟩ := ndim_two h2
  have hi1 : x.indices.getD 1 default = i1 := by rw [hi]; rfl
  obtain ⟨f1, f2, f3, f4, f5, f6⟩ := rightF_fields (x := x) (L := L) (Rt := Rt)
  have hVv : (rightF x L Rt).validB = true := rightF_valid hv h2 hi hL
  have hVf : (rightF x L Rt).fermi = false := f2.trans hf
  have hVi : (rightF x L Rt).indices = [(bondIx x L).conj, i1] := by rw [f3, hi1]
  obtain ⟨hBv, hBi, hBf, hBs⟩ := adjA_valid2 hVv hVf hVi
  obtain ⟨c, h1, h4⟩ := tensordotA_matrices_table zero_mul mul_zero hVv hBv hVf hBf hBs.symm hVi hBi
    (Index.conj_cm i1).symm (by rw [Index.conj_dual, Bool.not_not]) tm
  obtain ⟨_, _, g3⟩ := gram_right_array conj hcj hv h2 hf hL
  refine ⟨c, h1, ?_⟩
  intro s b hmem m n hs t t' ht ht'
  obtain ⟨r, c', m', n', B⟩ := mat_block hv hi hmem
  have hmm : m' = m := by
    have := B.hshape; rw [hs] at this; exact (List.cons.inj this).1.symm
  have hnn : n' = n := by
    have := B.hshape; rw [hs] at this; exact (List.cons.inj (List.cons.inj this).2).1.symm
  subst hmm hnn
  obtain ⟨_, _, l3, _⟩ := hL b m' n' hs B.hwf
  have hcol : colOf s = c' := B.col
  have hdg : diagOf s = [c', c'] := by simp [diagOf, hcol]
  have hVm : ([c', c'], Rt b) ∈ (rightF x L Rt).blocks := by
    rw [f5]; exact List.mem_map.mpr ⟨(s, b), hmem, by simp [hcol]⟩
  have hVsh := Arr.validB_block_shape hVv hVm
  rw [hVi, l3] at hVsh
  obtain ⟨k0, n0, e1, e2, e3⟩ := (blockShape?_pair _ _ c' c' _).mp hVsh
  have hk0 : k0 = min m' n' := (List.cons.inj e3).1.symm
  subst hk0
  have hbox : inBox (Arr.blockShapeD [(bondIx x L).conj, (bondIx x L).conj.conj] (diagOf s))
      [t, t'] = true := by
    rw [hdg]
    exact inBox_diag e1 (by rw [Index.conj_cm]; exact e1) ht ht'
  rw [h4 _ _ hbox]
  exact g3 s b hmem m' n' hs t t' ht ht'

end array

end DecompP
end SymmModel
