/-
  SymmModel.Proofs.ReshapeHa — `noWinB`: no fused axis' sub-sizes equal a window of the requested
  shape.  (That the planner then treats the input as if it had no fused axes is
  `ReshapeI.planner_vis_nones` with `ReshapeI.noWinVis_of_noWin`.)
-/
import SymmModel.Proofs.Reshape7c
namespace SymmModel.ReshapeH
open SymmModel SymmModel.Reshape SymmModel.C07

def noWinB (newshape : List Nat) (subsizes : List (Option (List Nat))) : Bool :=
  subsizes.all (fun sub => (List.range newshape.length).all (fun j => (unfuseMatch newshape j sub).isNone))

theorem noWin_spec {newshape : List Nat} {subsizes : List (Option (List Nat))}
    (h : noWinB newshape subsizes = true) {sub : Option (List Nat)} (hs : sub ∈ subsizes) {j : Nat}
    (hj : j < newshape.length) : unfuseMatch newshape j sub = none := by
  simp only [noWinB, List.all_eq_true, List.mem_range, Option.isNone_iff_eq_none] at h
  exact h sub hs j hj

theorem noWin_unfused {R : Type} (a : Arr R) (hnf : ∀ ix ∈ a.indices, ix.sub = none) (ns : List Nat) :
    noWinB ns a.subsizes = true := by
  rw [ReshapeP.subsizes_nones a hnf, noWinB, List.all_eq_true]
  intro sub hs
  obtain ⟨d, _, rfl⟩ := List.mem_map.mp hs
  simp [unfuseMatch]

end SymmModel.ReshapeH
