/-
  SymmModel.Proofs.Reshape3a — the planner `calc_reshape_args` for all shapes, targets and sub-sizes (C07), part a.

  Vocabulary.  The loop invariant of `calc_reshape_args` is a list of *segments* `Seg`, one per
  decision the first loop takes:
    `o e`          old axis `e` kept as it is                     (label "o")
    `u k d subs`   old fused axis of size `d`, to be unfused into `subs`  (label f"u{k}")
    `s e`          old axis `e` (of size one) squeezed            (label "s")
    `g k es`       run of old axes `es` fused into one new axis   (label f"g{k}", repeated)
    `x`            a new size-one axis (an entry of `axs_expand`)
  `flatL` is the label list `term`, `flatE` the symbolic shape (old axes, in order), `flatK` the
  post-fuse / pre-expand shape, `flatA` the final shape and `expPosFrom` the expansion positions.

  This file: the definitions, the expand phase and the unfuse phase.
-/
import SymmModel.Proofs.C07
namespace SymmModel.Reshape3
open SymmModel SymmModel.Reshape SymmModel.C07

/-- one old axis: its size and, if it is a fused axis, the sizes of its sub-indices (`shape[i]`, `subsizes[i]`) -/
abbrev E := Nat × Option (List Nat)

/-- one decision of the first loop (see the head of this file) -/
inductive Seg where
  | o (e : E)
  | u (k : Nat) (d : Nat) (subs : List Nat)
  | s (e : E)
  | g (k : Nat) (es : List E)
  | x
  deriving Repr

/-- the labels the decision appends to `term` -/
def Seg.lbl : Seg → List Lbl
  | .o _ => [Lbl.o]
  | .u k _ _ => [Lbl.u k]
  | .s _ => [Lbl.s]
  | .g k es => List.replicate es.length (Lbl.g k)
  | .x => []

/-- the old axes the decision consumes (`i` advances by their number) -/
def Seg.ax : Seg → SymShape
  | .o e => [e]
  | .u _ d subs => [(d, some subs)]
  | .s e => [e]
  | .g _ es => es
  | .x => []

/-- the axes a segment contributes to the post-fuse / pre-expand shape -/
def Seg.outK : Seg → List Nat
  | .o e => [e.1]
  | .u _ _ subs => subs
  | .s _ => []
  | .g _ es => [prod (SymShape.sizes es)]
  | .x => []

/-- the axes a segment contributes to the final shape -/
def Seg.outA : Seg → List Nat
  | .x => [1]
  | sg => sg.outK

/-- `term`, the old axes consumed, the post-fuse / pre-expand shape (`k` counts it) and the part of `newshape`
    produced (`j` counts it), for the decisions `S` -/
def flatL (S : List Seg) : List Lbl := S.flatMap Seg.lbl
def flatE (S : List Seg) : SymShape := S.flatMap Seg.ax
def flatK (S : List Seg) : List Nat := S.flatMap Seg.outK
def flatA (S : List Seg) : List Nat := S.flatMap Seg.outA

/-- the positions (in the post-fuse shape) of the expansions, `c` = axes before `S` -/
def expPosFrom : Nat → List Seg → List Nat
  | _, [] => []
  | c, .x :: r => c :: expPosFrom c r
  | c, sg :: r => expPosFrom (c + sg.outK.length) r

def Seg.isX : Seg → Bool
  | .x => true
  | _ => false

def Seg.uKey : Seg → Option Nat
  | .u k _ _ => some k
  | _ => none
def Seg.uLen : Seg → Option Nat
  | .u _ _ subs => some subs.length
  | _ => none
def Seg.gKey : Seg → Option Nat
  | .g k _ => some k
  | _ => none

/-- the keys of `unfuse_sizes`, its values, and the keys of `fuse_sizes`, in insertion order -/
def uKeys (S : List Seg) : List Nat := S.filterMap Seg.uKey
def uLens (S : List Seg) : List Nat := S.filterMap Seg.uLen
def gKeys (S : List Seg) : List Nat := S.filterMap Seg.gKey

theorem flatMap_filter_eq {α β : Type} (p : α → Bool) (f : α → List β)
    (h : ∀ a, p a = false → f a = []) (l : List α) : (l.filter p).flatMap f = l.flatMap f := by
  induction l with
  | nil => rfl
  | cons a l ih =>
    rw [List.filter_cons]
    cases hp : p a
    · simp [ih, h a hp]
    · simp [ih]

theorem filterMap_filter_eq {α β : Type} (p : α → Bool) (f : α → Option β)
    (h : ∀ a, p a = false → f a = none) (l : List α) : (l.filter p).filterMap f = l.filterMap f := by
  induction l with
  | nil => rfl
  | cons a l ih =>
    rw [List.filter_cons]
    cases hp : p a
    · simp [ih, h a hp]
    · simp [List.filterMap_cons, ih]

@[simp] theorem flatL_nil : flatL [] = [] := rfl
@[simp] theorem flatE_nil : flatE [] = [] := rfl
@[simp] theorem flatK_nil : flatK [] = [] := rfl
@[simp] theorem flatA_nil : flatA [] = [] := rfl
@[simp] theorem flatL_append (A B : List Seg) : flatL (A ++ B) = flatL A ++ flatL B := by
  simp [flatL]
@[simp] theorem flatE_append (A B : List Seg) : flatE (A ++ B) = flatE A ++ flatE B := by
  simp [flatE]
@[simp] theorem flatK_append (A B : List Seg) : flatK (A ++ B) = flatK A ++ flatK B := by
  simp [flatK]
@[simp] theorem flatA_append (A B : List Seg) : flatA (A ++ B) = flatA A ++ flatA B := by
  simp [flatA]
@[simp] theorem flatL_cons (a : Seg) (B : List Seg) : flatL (a :: B) = a.lbl ++ flatL B := by
  simp [flatL]
@[simp] theorem flatE_cons (a : Seg) (B : List Seg) : flatE (a :: B) = a.ax ++ flatE B := by
  simp [flatE]
@[simp] theorem flatK_cons (a : Seg) (B : List Seg) : flatK (a :: B) = a.outK ++ flatK B := by
  simp [flatK]
@[simp] theorem flatA_cons (a : Seg) (B : List Seg) : flatA (a :: B) = a.outA ++ flatA B := by
  simp [flatA]
@[simp] theorem uKeys_append (A B : List Seg) : uKeys (A ++ B) = uKeys A ++ uKeys B := by
  simp [uKeys]
@[simp] theorem uLens_append (A B : List Seg) : uLens (A ++ B) = uLens A ++ uLens B := by
  simp [uLens]
@[simp] theorem gKeys_append (A B : List Seg) : gKeys (A ++ B) = gKeys A ++ gKeys B := by
  simp [gKeys]

theorem uKeys_cons (a : Seg) (S : List Seg) : uKeys (a :: S) = a.uKey.toList ++ uKeys S := by
  simp only [uKeys, List.filterMap_cons]; cases a.uKey <;> rfl
theorem uLens_cons (a : Seg) (S : List Seg) : uLens (a :: S) = a.uLen.toList ++ uLens S := by
  simp only [uLens, List.filterMap_cons]; cases a.uLen <;> rfl
theorem gKeys_cons (a : Seg) (S : List Seg) : gKeys (a :: S) = a.gKey.toList ++ gKeys S := by
  simp only [gKeys, List.filterMap_cons]; cases a.gKey <;> rfl

theorem expPosFrom_append : ∀ (A B : List Seg) (c : Nat),
    expPosFrom c (A ++ B) = expPosFrom c A ++ expPosFrom (c + (flatK A).length) B := by
  intro A
  induction A with
  | nil => intro B c; simp [expPosFrom]
  | cons a A ih =>
    intro B c
    cases a <;> simp [expPosFrom, ih, Seg.outK, Nat.add_assoc, Nat.add_comm]

theorem lbl_length_ax (a : Seg) : a.lbl.length = a.ax.length := by
  cases a <;> simp [Seg.lbl, Seg.ax]

theorem flatL_length (S : List Seg) : (flatL S).length = (flatE S).length := by
  induction S with
  | nil => rfl
  | cons a S ih => simp [ih, lbl_length_ax]

theorem foldOpt_append {α β : Type} (f : β → α → Option β) (l1 l2 : List α) (b : β) :
    foldOpt f (l1 ++ l2) b = match foldOpt f l1 b with
      | some b' => foldOpt f l2 b'
      | none => none := by
  induction l1 generalizing b with
  | nil => simp [foldOpt]
  | cons a l1 ih =>
    simp only [List.cons_append, foldOpt]
    cases f b a with
    | none => rfl
    | some b1 => exact ih b1

theorem sizes_split {X : SymShape} {A B : List Nat} (h : SymShape.sizes X = A ++ B) :
    ∃ X1 X2, X = X1 ++ X2 ∧ SymShape.sizes X1 = A ∧ SymShape.sizes X2 = B := by
  refine ⟨X.take A.length, X.drop A.length, (List.take_append_drop _ _).symm, ?_, ?_⟩
  · have : SymShape.sizes (X.take A.length) = (SymShape.sizes X).take A.length := by
      simp [SymShape.sizes, List.map_take]
    rw [this, h]; simp
  · have : SymShape.sizes (X.drop A.length) = (SymShape.sizes X).drop A.length := by
      simp [SymShape.sizes, List.map_drop]
    rw [this, h]; simp

/-- executing the expansions (largest position first) on the post-fuse shape inserts the
    size-one axes of the `x` segments at their places -/
theorem expand_phase : ∀ (S : List Seg) (pre X : SymShape),
    SymShape.sizes X = flatK S →
    ∃ Y, foldOpt symExpand (expPosFrom pre.length S).reverse (pre ++ X) = some (pre ++ Y)
      ∧ SymShape.sizes Y = flatA S := by
  intro S
  induction S with
  | nil =>
    intro pre X h
    refine ⟨X, by simp [expPosFrom, foldOpt], ?_⟩
    simpa using h
  | cons a S ih =>
    intro pre X h
    by_cases hx : a.isX = true
    · cases a <;> simp [Seg.isX] at hx
      simp only [flatK_cons, Seg.outK, List.nil_append] at h
      obtain ⟨Y, hY, hs⟩ := ih pre X h
      refine ⟨(1, none) :: Y, ?_, ?_⟩
      · simp only [expPosFrom, List.reverse_cons]
        rw [foldOpt_append, hY]
        simp only [foldOpt, symExpand]
        simp
      · simp [SymShape.sizes, Seg.outA] at hs ⊢
        exact hs
    · rw [flatK_cons] at h
      obtain ⟨X1, X2, rfl, h1, h2⟩ := sizes_split h
      obtain ⟨Y, hY, hs⟩ := ih (pre ++ X1) X2 h2
      have hl : X1.length = a.outK.length := by rw [← h1, sizes_length]
      refine ⟨X1 ++ Y, ?_, ?_⟩
      · have e : expPosFrom pre.length (a :: S) = expPosFrom (pre ++ X1).length S := by
          cases a <;> simp [Seg.isX] at hx <;> simp [expPosFrom, hl]
        rw [e, ← List.append_assoc, hY, List.append_assoc]
      · rw [sizes_append, h1, hs, flatA_cons]
        cases a <;> simp [Seg.isX] at hx <;> rfl

/-- the segments after the unfuse phase -/
def Seg.unf : Seg → List Seg
  | .u _ _ subs => subs.map (fun d => Seg.o (d, none))
  | sg => [sg]

def unf (S : List Seg) : List Seg := S.flatMap Seg.unf

theorem unf_cons (a : Seg) (S : List Seg) : unf (a :: S) = a.unf ++ unf S := by simp [unf]

theorem flatL_map_o (subs : List Nat) :
    flatL (subs.map (fun d => Seg.o (d, none))) = List.replicate subs.length Lbl.o := by
  induction subs with
  | nil => rfl
  | cons d r ih => simp [Seg.lbl, ih, List.replicate_succ]

theorem flatE_map_o (subs : List Nat) :
    flatE (subs.map (fun d => Seg.o (d, none))) = subs.map (fun d => (d, none)) := by
  induction subs with
  | nil => rfl
  | cons d r ih => simp [Seg.ax, ih]

theorem flatK_map_o (subs : List Nat) :
    flatK (subs.map (fun d => Seg.o (d, none))) = subs := by
  induction subs with
  | nil => rfl
  | cons d r ih => simp [Seg.outK, ih]

theorem flatK_unf (S : List Seg) : flatK (unf S) = flatK S := by
  induction S with
  | nil => rfl
  | cons a S ih =>
    rw [unf_cons, flatK_append, ih, flatK_cons]
    cases a <;> simp [Seg.unf, Seg.outK, flatK_map_o]

theorem gKeys_unf (S : List Seg) : gKeys (unf S) = gKeys S := by
  induction S with
  | nil => rfl
  | cons a S ih =>
    rw [unf_cons, gKeys_append, ih]
    have hnil : gKeys [] = [] := rfl
    have hmap : ∀ subs : List Nat, gKeys (subs.map (fun d => Seg.o (d, none))) = [] := fun subs =>
      List.filterMap_eq_nil_iff.2 fun _ ha => by obtain ⟨d, _, rfl⟩ := List.mem_map.mp ha; rfl
    cases a <;> simp [Seg.unf, gKeys_cons, Seg.gKey, hnil, hmap]

theorem mem_unf {S : List Seg} {a : Seg} (h : a ∈ unf S) :
    a ∈ S ∨ ∃ d, a = Seg.o (d, none) := by
  simp only [unf, List.mem_flatMap] at h
  obtain ⟨b, hb, hab⟩ := h
  cases b <;> simp [Seg.unf] at hab
  · left; rw [hab]; exact hb
  · right; obtain ⟨d, _, rfl⟩ := hab; exact ⟨d, rfl⟩
  · left; rw [hab]; exact hb
  · left; rw [hab]; exact hb
  · left; rw [hab]; exact hb

theorem indexOf?_append_of_not_mem {pre : List Lbl} {l : Lbl} {rest : List Lbl}
    (hpre : ∀ a ∈ pre, (a == l) = false) :
    indexOf? (pre ++ l :: rest) l = some pre.length := by
  induction pre with
  | nil =>
    have : (l == l) = true := by
      cases l <;> simp [BEq.beq, Lbl.beq]
    simp [indexOf?, this]
  | cons a pre ih =>
    have ha : (a == l) = false := hpre a (by simp)
    simp only [List.cons_append, indexOf?, ha, Bool.false_eq_true, if_false]
    rw [ih (fun b hb => hpre b (by simp [hb]))]
    simp

/-- the axes the unfuse phase records ("first we handle unfusings": `ax = term.index(label);
    axs_unfuse.append(ax); term = term[:ax] + ["o"] * s + term[ax + 1:]`, so later positions shift by
    the sub-indices already expanded); `c` = the number of labels before `S` -/
def unfAxes : Nat → List Seg → List Nat
  | _, [] => []
  | c, .u _ _ subs :: r => c :: unfAxes (c + subs.length) r
  | c, a :: r => unfAxes (c + a.lbl.length) r

theorem Seg.not_u {a : Seg} (hu : a.uKey = none) :
    a.uLen = none ∧ a.unf = [a] ∧ (∀ l ∈ a.lbl, ∀ j, (l == Lbl.u j) = false) ∧
      ∀ c S, unfAxes c (a :: S) = unfAxes (c + a.lbl.length) S := by
  cases a with
  | u k d subs => cases hu
  | o e => exact ⟨rfl, rfl, fun l hl j => by rw [List.mem_singleton.mp hl]; rfl, fun _ _ => rfl⟩
  | s e => exact ⟨rfl, rfl, fun l hl j => by rw [List.mem_singleton.mp hl]; rfl, fun _ _ => rfl⟩
  | g k es => exact ⟨rfl, rfl, fun l hl j => by rw [(List.mem_replicate.mp hl).2]; rfl, fun _ _ => rfl⟩
  | x => exact ⟨rfl, rfl, fun l hl _ => (nomatch hl), fun _ _ => rfl⟩

/-- the unfuse phase replaces every `u` label by `"o"`s, left to right, and the recorded axes
    unfuse exactly those axes of the symbolic shape -/
theorem unfuse_phase : ∀ (S : List Seg) (k : Nat) (pre : List Lbl) (preE : SymShape) (axs : List Nat),
    uKeys S = List.range' k (uLens S).length →
    (∀ a ∈ pre, ∀ j, (a == Lbl.u j) = false) → pre.length = preE.length →
    (∀ sg ∈ S, sg.isX = false) →
    unfusePhase (uLens S) k (pre ++ flatL S) axs = .ok (pre ++ flatL (unf S), axs ++ unfAxes pre.length S)
      ∧ foldOpt symUnfuse (unfAxes pre.length S) (preE ++ flatE S) = some (preE ++ flatE (unf S)) := by
  intro S
  induction S with
  | nil =>
    intro k pre preE axs _ _ _ _
    exact ⟨by simp [uLens, unfusePhase, unf, unfAxes, pure, Except.pure], by simp [foldOpt, unf, unfAxes]⟩
  | cons a S ih =>
    intro k pre preE axs hk hpre hlen hx
    have hxS : ∀ sg ∈ S, sg.isX = false := fun sg h => hx sg (by simp [h])
    by_cases hu : a.uKey = none
    · -- not a "u": the labels of `a` are passed over
      obtain ⟨hl, hunf, hlbl, hax⟩ := Seg.not_u hu
      have hkS : uKeys S = List.range' k (uLens S).length := by
        simpa [uKeys_cons, uLens_cons, hu, hl] using hk
      obtain ⟨h1, h2⟩ := ih k (pre ++ a.lbl) (preE ++ a.ax) axs hkS
        (fun l hl' i => (List.mem_append.mp hl').elim (fun h => hpre l h i) (fun h => hlbl l h i))
        (by simp [hlen, lbl_length_ax]) hxS
      rw [List.length_append] at h1 h2
      refine ⟨?_, ?_⟩
      · rw [show uLens (a :: S) = uLens S by simp [uLens_cons, hl]]
        simpa [unf_cons, hunf, hax, flatL_cons] using h1
      · simpa [unf_cons, hunf, hax, flatE_cons] using h2
    · cases a with
      | u j d subs =>
        have hk' : j = k ∧ uKeys S = List.range' (k + 1) (uLens S).length := by
          simp only [uKeys_cons, uLens_cons, Seg.uKey, Seg.uLen, Option.toList, List.cons_append,
            List.nil_append, List.length_cons, List.range'_succ, List.cons.injEq] at hk
          exact hk
        obtain ⟨rfl, hkS⟩ := hk'
        have hidx : indexOf? (pre ++ flatL (Seg.u j d subs :: S)) (Lbl.u j) = some pre.length := by
          rw [flatL_cons]
          exact indexOf?_append_of_not_mem (fun a ha => hpre a ha j)
        obtain ⟨h1, h2⟩ := ih (j + 1) (pre ++ List.replicate subs.length Lbl.o)
          (preE ++ subs.map (fun d => (d, none))) (axs ++ [pre.length]) hkS
          (by
            intro a ha i
            rcases List.mem_append.mp ha with ha | ha
            · exact hpre a ha i
            · rw [(List.mem_replicate.mp ha).2]; rfl)
          (by simp [hlen]) hxS
        refine ⟨?_, ?_⟩
        · have e1 : uLens (Seg.u j d subs :: S) = subs.length :: uLens S := by
            simp [uLens, Seg.uLen]
          rw [e1]
          simp only [unfusePhase, hidx]
          have e2 : (pre ++ flatL (Seg.u j d subs :: S)).take pre.length = pre := by
            simp
          have e3 : (pre ++ flatL (Seg.u j d subs :: S)).drop (pre.length + 1) = flatL S := by
            rw [flatL_cons]; simp [Seg.lbl, List.drop_append]
          rw [e2, e3, h1]
          simp [unf_cons, Seg.unf, flatL_map_o, unfAxes]
        · simp only [unfAxes, foldOpt]
          have e4 : symUnfuse (preE ++ flatE (Seg.u j d subs :: S)) pre.length
              = some (preE ++ subs.map (fun d => (d, none)) ++ flatE S) := by
            unfold symUnfuse
            rw [flatE_cons]
            simp [Seg.ax, hlen, List.drop_append]
          rw [e4]
          simp only []
          rw [show pre.length + subs.length = (pre ++ List.replicate subs.length Lbl.o).length by simp, h2]
          simp [unf_cons, Seg.unf, flatE_map_o]
      | _ => exact absurd rfl hu

end SymmModel.Reshape3
