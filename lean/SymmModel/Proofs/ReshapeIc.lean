/-
  SymmModel.Proofs.ReshapeIc — the other direction of the element statement, in block form, for a plan
  of several fuse calls.  `IntoStep`: one call puts every stored block `(s, b)` of the input as a whole
  into ONE stored block of the result — every address of `b` is the split address of an address of that
  block (in particular "fuse stores the sector a stored source sector combines to").  `FromStep`: every
  stored block of the result contains a whole stored block of the input (the "only if" half).
  `into_chain` / `from_chain`: composed over the calls (`Pulled`), for every kind of array whose fuse
  calls keep validity.  `block_into_F`: the fermionic call.
-/
import SymmModel.Proofs.ReshapeIb
namespace SymmModel.ReshapeI
open SymmModel SymmModel.Reshape SymmModel.C07 SymmModel.Reshape5 SymmModel.ReshapeH ReshapeP FuseP
open SymmModel.Lazy
set_option linter.unusedSectionVars false

variable {R : Type} [Zero R] [Neg R] [LawfulNeg R]

/-- one call, block form: every stored block `(s, b)` of `a` lies in one stored block of `y` -/
def IntoStep (a y : Arr R) (G : List (List Nat)) (P : Nat) : Prop :=
  ∀ s b, alookup a.blocks s = some b →
    ∃ ns B, alookup y.blocks ns = some B ∧ ∀ offs, inBox b.shape offs = true →
      ∃ i, ∃ segs : List (Sector × List Nat), inBox B.shape i = true
        ∧ segs.length = G.length
        ∧ (∀ g gaxes, G[g]? = some gaxes →
            splitAddr (y.indices.getD (P + g) default) (ns.getD (P + g) (0, 0)) (i.getD (P + g) 0) = segs[g]?)
        ∧ s = ns.take P ++ (segs.map (·.1)).flatten ++ ns.drop (P + G.length)
        ∧ offs = i.take P ++ (segs.map (·.2)).flatten ++ i.drop (P + G.length)

/-- one call, the "only if" half: every stored block of `y` contains a whole stored block of `a` -/
def FromStep (a y : Arr R) (G : List (List Nat)) (P : Nat) : Prop :=
  ∀ ns B, alookup y.blocks ns = some B →
    ∃ s b, alookup a.blocks s = some b ∧ ∀ offs, inBox b.shape offs = true →
      ∃ i, ∃ segs : List (Sector × List Nat), inBox B.shape i = true
        ∧ segs.length = G.length
        ∧ (∀ g gaxes, G[g]? = some gaxes →
            splitAddr (y.indices.getD (P + g) default) (ns.getD (P + g) (0, 0)) (i.getD (P + g) 0) = segs[g]?)
        ∧ s = ns.take P ++ (segs.map (·.1)).flatten ++ ns.drop (P + G.length)
        ∧ offs = i.take P ++ (segs.map (·.2)).flatten ++ i.drop (P + G.length)

theorem pulled_cons {a y y1 : Arr R} {G : List (List Nat)} {rest : List (List (List Nat))} {P lb : Nat}
    (hv : a.validB = true) (hc : CallOk G P lb a.ndim) (hy1 : fuseDispatch a G = .ok y1)
    {ns s s1 : Sector} {i o o1 : List Nat} {σ1 : Int} {b B1 : Blk R} {segs : List (Sector × List Nat)}
    (hpr : Pulled y1 rest (P + G.length) y ns i s1 o1 σ1)
    (hB1 : alookup y1.blocks s1 = some B1) (hin : inBox B1.shape o1 = true) (hsl : segs.length = G.length)
    (hsp : ∀ g gaxes, G[g]? = some gaxes →
      splitAddr (y1.indices.getD (P + g) default) (s1.getD (P + g) (0, 0)) (o1.getD (P + g) 0) = segs[g]?)
    (hb : alookup a.blocks s = some b) (ho : inBox b.shape o = true)
    (hs : s = s1.take P ++ (segs.map (·.1)).flatten ++ s1.drop (P + G.length))
    (hoe : o = o1.take P ++ (segs.map (·.2)).flatten ++ o1.drop (P + G.length)) :
    Pulled a (G :: rest) lb y ns i s o (σ1 * fuseSignT a G s) := by
  have hsl' : s.length = a.ndim := ((validArr_of_validB hv).blk (s, b) (alookup_some_mem hb)).1
  have hbl : b.shape.length = a.ndim := ShapeLen.of_valid hv (s, b) (alookup_some_mem hb)
  have hol : o.length = a.ndim := by rw [inBox_length ho, hbl]
  exact ⟨P, y1, s1, o1, σ1, B1, segs, hc, hy1, hpr, hB1, hin, hsl, hsp, hsl', hol, hs, hoe, rfl⟩

section Chain
variable {Good : Arr R → Prop} (hval : ∀ x, Good x → x.validB = true)
  (hstep : ∀ x G P lb y1, Good x → CallOk G P lb x.ndim → fuseDispatch x G = .ok y1 →
    Good y1 ∧ y1.ndim = x.ndim - G.flatten.length + G.length)
include hval hstep

theorem into_chain
    (hinto : ∀ x G P lb y1, Good x → CallOk G P lb x.ndim → fuseDispatch x G = .ok y1 → IntoStep x y1 G P) :
    ∀ (calls : List (List (List Nat))) (a : Arr R) (lb : Nat), Good a → CallsOk calls lb a.ndim →
    ∀ y, calls.foldlM fuseDispatch a = .ok y → ∀ s b, alookup a.blocks s = some b →
    ∃ ns B, alookup y.blocks ns = some B ∧ ∀ o, inBox b.shape o = true →
      ∃ i σ, inBox B.shape i = true ∧ Pulled a calls lb y ns i s o σ := by
  intro calls
  induction calls with
  | nil =>
    intro a lb _ _ y hy s b hb
    simp only [List.foldlM_nil, pure, Except.pure] at hy
    injection hy with hy; subst hy
    exact ⟨s, b, hb, fun o ho => ⟨o, 1, ho, rfl, rfl, rfl⟩⟩
  | cons G rest ih =>
    intro a lb hg hc y hy s b hb
    obtain ⟨P, hc1, hc2⟩ := hc
    rw [List.foldlM_cons] at hy
    cases hy1 : fuseDispatch a G with
    | error e => rw [hy1] at hy; cases hy
    | ok y1 =>
      rw [hy1] at hy
      obtain ⟨hg1, hnd⟩ := hstep a G P lb y1 hg hc1 hy1
      rw [← hnd] at hc2
      obtain ⟨s1, B1, hB1, hall1⟩ := hinto a G P lb y1 hg hc1 hy1 s b hb
      obtain ⟨ns, B, hB, hall⟩ := ih y1 (P + G.length) hg1 hc2 y hy s1 B1 hB1
      refine ⟨ns, B, hB, fun o ho => ?_⟩
      obtain ⟨o1, segs, hin, hsl, hsp, hs, hoe⟩ := hall1 o ho
      obtain ⟨i, σ1, hi, hpr⟩ := hall o1 hin
      exact ⟨i, _, hi, pulled_cons (hval a hg) hc1 hy1 hpr hB1 hin hsl hsp hb ho hs hoe⟩

/-- consequence: a stored block of a fused array is never entirely zero-filled (unless the source block it
    comes from has a zero extent) -/
theorem from_chain
    (hfrom : ∀ x G P lb y1, Good x → CallOk G P lb x.ndim → fuseDispatch x G = .ok y1 → FromStep x y1 G P) :
    ∀ (calls : List (List (List Nat))) (a : Arr R) (lb : Nat), Good a → CallsOk calls lb a.ndim →
    ∀ y, calls.foldlM fuseDispatch a = .ok y → ∀ ns B, alookup y.blocks ns = some B →
    ∃ s b, alookup a.blocks s = some b ∧ ∀ o, inBox b.shape o = true →
      ∃ i σ, inBox B.shape i = true ∧ Pulled a calls lb y ns i s o σ := by
  intro calls
  induction calls with
  | nil =>
    intro a lb _ _ y hy ns B hB
    simp only [List.foldlM_nil, pure, Except.pure] at hy
    injection hy with hy; subst hy
    exact ⟨ns, B, hB, fun o ho => ⟨o, 1, ho, rfl, rfl, rfl⟩⟩
  | cons G rest ih =>
    intro a lb hg hc y hy ns B hB
    obtain ⟨P, hc1, hc2⟩ := hc
    rw [List.foldlM_cons] at hy
    cases hy1 : fuseDispatch a G with
    | error e => rw [hy1] at hy; cases hy
    | ok y1 =>
      rw [hy1] at hy
      obtain ⟨hg1, hnd⟩ := hstep a G P lb y1 hg hc1 hy1
      rw [← hnd] at hc2
      obtain ⟨s1, B1, hB1, hall⟩ := ih y1 (P + G.length) hg1 hc2 y hy ns B hB
      obtain ⟨s, b, hb, hall1⟩ := hfrom a G P lb y1 hg hc1 hy1 s1 B1 hB1
      refine ⟨s, b, hb, fun o ho => ?_⟩
      obtain ⟨o1, segs, hin, hsl, hsp, hs, hoe⟩ := hall1 o ho
      obtain ⟨i, σ1, hi, hpr⟩ := hall o1 hin
      exact ⟨i, _, hi, pulled_cons (hval a hg) hc1 hy1 hpr hB1 hin hsl hsp hb ho hs hoe⟩

end Chain

theorem block_into_F (a : Arr R) (G : List (List Nat)) (P lb : Nat)
    (hv : a.validB = true) (hf : a.fermi = true) (hc : CallOk G P lb a.ndim)
    (s : Sector) (b : Blk R) (hbs : alookup a.blocks s = some b) :
    fuseDispatch a G = .ok (fusedArrM (signAdj a G) (newGroupsF G a.duals))
    ∧ ∃ b4 B, (s, b4) ∈ (signAdj a G).blocks
      ∧ alookup (fusedArrM (signAdj a G) (newGroupsF G a.duals)).blocks
          (planM (signAdj a G) (newGroupsF G a.duals) (s, b4)).newSector = some B
      ∧ ∀ offs, inBox b.shape offs = true →
        ∃ i, ∃ segs : List (Sector × List Nat), inBox B.shape i = true ∧ segs.length = G.length
          ∧ (∀ g gaxes, G[g]? = some gaxes →
              splitAddr ((fusedArrM (signAdj a G) (newGroupsF G a.duals)).indices.getD (P + g) default)
                ((planM (signAdj a G) (newGroupsF G a.duals) (s, b4)).newSector.getD (P + g) (0, 0))
                (i.getD (P + g) 0) = segs[g]?)
          ∧ s = (planM (signAdj a G) (newGroupsF G a.duals) (s, b4)).newSector.take P
                ++ (segs.map (·.1)).flatten
                ++ (planM (signAdj a G) (newGroupsF G a.duals) (s, b4)).newSector.drop (P + G.length)
          ∧ offs = i.take P ++ (segs.map (·.2)).flatten ++ i.drop (P + G.length) := by
  obtain ⟨hok, hpos0, hperm⟩ := call_plan a G P lb hc
  have hdl := FuseP.duals_length a
  obtain ⟨h0, hT⟩ := fuseF_elemT a G true hv hf hok
  obtain ⟨hva4, htr⟩ := signAdj_frame a G hv hf hok
  have hnd4 := signAdj_ndim (a := a) hok
  have hok4 := signAdj_groupsOk (a := a) hok
  obtain ⟨hpos, hperm4, _⟩ := newGroups_plan (hokD hok) (signAdj_duals_length (a := a) hok)
  rw [hdl] at hperm4
  have hlen : (newGroupsF G a.duals).length = G.length := newGroupsF_length _ _
  have hsl : s.length = a.ndim := ((validArr_of_validB hv).blk (s, b) (alookup_some_mem hbs)).1
  have hbl : b.shape.length = a.ndim := ShapeLen.of_valid hv (s, b) (alookup_some_mem hbs)
  obtain ⟨b4, hb4, hsh⟩ := signAdj_block (groups := G) htr hbs
  rw [hperm] at hb4 hsh
  have e1 : permuted s (List.range a.ndim) = s := Reshape4.permuted_range_of_length hsl
  have e2 : permuted b.shape (List.range a.ndim) = b.shape := Reshape4.permuted_range_of_length hbl
  rw [e1] at hb4
  rw [e2] at hsh
  obtain ⟨B, hB, _⟩ := fusedBlockM_exists hva4 hok4.adm (alookup_some_mem hb4)
  have hposP : (giM (signAdj a G) (newGroupsF G a.duals)).position = P := by rw [hpos, hpos0]
  refine ⟨by simp only [fuseDispatch, hf, if_true]; exact h0, b4, B, alookup_some_mem hb4, hB, ?_⟩
  rw [← hsh]
  exact block_into_M (signAdj a G) (newGroupsF G a.duals) G P hva4 hok4 hposP (by rw [hperm4, hnd4]) hlen hc.two
    (fun hB' hi g hg hm => by rw [hpos]; exact (hT _ _ hB' _ hi).1 g hg hm) s b4 (alookup_some_mem hb4)
    (by rw [hsl, hnd4]) (by rw [hsh, hbl, hnd4]) B hB

theorem into_call_F (x : Arr R) (G : List (List Nat)) (P lb : Nat) (y1 : Arr R)
    (hx : x.validB = true ∧ x.fermi = true) (hc : CallOk G P lb x.ndim) (hy : fuseDispatch x G = .ok y1) :
    IntoStep x y1 G P := by
  intro s b hbs
  obtain ⟨hy', _, B, _, hB, hall⟩ := block_into_F x G P lb hx.1 hx.2 hc s b hbs
  rw [hy] at hy'; injection hy' with hy'; subst hy'
  exact ⟨_, B, hB, hall⟩

end SymmModel.ReshapeI
