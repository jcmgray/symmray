/-
  SymmModel.Proofs.FuseCommuteF7 — `AdjOk` only depends on the rank: the aligned operands
  (`dropMisaligned`) of a pair whose contracted legs are adjacent and in order have the same
  property.  Namespace `SymmModel.TdotP`.
-/
import SymmModel.Proofs.FuseCommuteF6

namespace SymmModel
namespace TdotP
open SymmModel.KoszulP SymmModel.Lazy SymmModel.GradedP SymmModel.RoutesP SymmModel.AssocP
variable {R : Type}

theorem perm_len (G : List (List Nat)) {d d' : List Bool} (h : d.length = d'.length) :
    (calcFuseGroupInfo G d).perm = (calcFuseGroupInfo G d').perm := by
  unfold calcFuseGroupInfo
  simp only [h]

theorem adjOk_of_ndim {X A : Arr R} {g : List Nat} (hn : X.ndim = A.ndim) (h : AdjOk A g) : AdjOk X g := by
  refine ⟨⟨h.one.ne, h.one.nd, by rw [hn]; exact h.one.lt⟩, ?_⟩
  show (calcFuseGroupInfo [g] X.duals).perm = _
  rw [perm_len [g] (show X.duals.length = A.duals.length by
    rw [FuseP.duals_length, FuseP.duals_length, hn]), hn]
  exact h.idp

end TdotP
end SymmModel
