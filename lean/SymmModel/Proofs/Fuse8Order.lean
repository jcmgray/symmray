/-
  SymmModel.Proofs.Fuse8Order — both strategies build their dict in the same order (first appearance
  of the new sector), so block-by-block equality is equality of the dicts.
-/
import SymmModel.Proofs.Fuse8Eq
namespace SymmModel
namespace FuseP
set_option linter.unusedSectionVars false

variable {R : Type} [Zero R]

/-- insertion order of keys -/
def addKey (ks : List Sector) (k : Sector) : List Sector := if k ∈ ks then ks else ks ++ [k]

theorem ainsert_keys {β : Type} (l : List (Sector × β)) (k : Sector) (v : β) :
    (ainsert l k v).map (·.1) = addKey (l.map (·.1)) k :=
  SymmModel.ainsert_keys l k v

theorem insFold_keys (shapeOf : Sector → List Nat) (items : List (Item R)) (acc : List (Sector × Blk R)) :
    (items.foldl (insStep shapeOf) acc).map (·.1) = (items.map (·.1)).foldl addKey (acc.map (·.1)) := by
  induction items generalizing acc with
  | nil => rfl
  | cons it items ih =>
    simp only [List.foldl_cons, List.map_cons]
    rw [ih, insStep, ainsert_keys]

theorem grpFold_keys (items : List (GItem R)) (acc : List (Sector × List (List Sector × Blk R))) :
    (items.foldl grpStep acc).map (·.1) = (items.map (·.1)).foldl addKey (acc.map (·.1)) := by
  induction items generalizing acc with
  | nil => rfl
  | cons it items ih =>
    simp only [List.foldl_cons, List.map_cons]
    rw [ih, grpStep, ainsert_keys]

theorem dict_ext {β : Type} {l1 l2 : List (Sector × β)} (hk : l1.map (·.1) = l2.map (·.1))
    (hnd : (l1.map (·.1)).Nodup) (h : ∀ k, alookup l1 k = alookup l2 k) : l1 = l2 := by
  have hlen : l1.length = l2.length := by simpa using congrArg List.length hk
  apply List.ext_getElem hlen
  intro j h1 h2
  have hkj : l1[j].1 = l2[j].1 := by
    have e1 : (l1.map (·.1))[j]? = some l1[j].1 := by simp [List.getElem?_eq_getElem h1]
    have e2 : (l2.map (·.1))[j]? = some l2[j].1 := by simp [List.getElem?_eq_getElem h2]
    rw [hk, e2] at e1
    simpa only [Option.some.injEq] using e1.symm
  have a1 : alookup l1 l1[j].1 = some l1[j].2 := alookup_of_mem_nodup hnd (List.getElem_mem h1)
  have a2 : alookup l2 l2[j].1 = some l2[j].2 :=
    alookup_of_mem_nodup (by rw [← hk]; exact hnd) (List.getElem_mem h2)
  rw [h, hkj, a2] at a1
  simp only [Option.some.injEq] at a1
  exact Prod.ext hkj a1.symm

section
variable {a : Arr R} {groups : List (List Nat)}

theorem concatBlocksM_eq (hv : ValidArr a) (hok : GroupsAdm groups a.ndim) :
    concatBlocksM a groups = fusedBlocksM a groups := by
  have hI := fusedBlocksM_inv hv hok
  have hkeys : (concatBlocksM a groups).map (·.1) = (fusedBlocksM a groups).map (·.1) := by
    have h1 : (concatBlocksM a groups).map (·.1) = (groupedM a groups).map (·.1) := by
      simp only [concatBlocksM, List.map_map, List.map_inj_left, Function.comp, implies_true]
    rw [h1]
    unfold groupedM grpFold fusedBlocksM insFold
    rw [grpFold_keys, insFold_keys, List.map_map, List.map_map]
    rfl
  apply dict_ext hkeys (by rw [hkeys]; exact hI.nodup)
  intro ns
  rcases insert_eq_concat_multi hv hok ns with ⟨h1, h2⟩ | ⟨B, C, h1, h2, rfl⟩
  · rw [h1, h2]
  · rw [h1, h2]

/-- the concat strategy returns the array of the insert strategy, dict order included -/
theorem fuseCore_concat_multi_eq (hv : ValidArr a) (hok : GroupsAdm groups a.ndim) (hne : groups ≠ []) :
    fuseCore a groups .concat = .ok (fusedArrM a groups) := by
  unfold fuseCore
  rw [calcFuseBlockInfo_eq hv (fun _ => hok.lt)]
  simp only [bind, Except.bind, fuseConcat_multi_eq hv hok hne, pure, Except.pure, concatBlocksM_eq hv hok]
  rfl

end

end FuseP
end SymmModel
