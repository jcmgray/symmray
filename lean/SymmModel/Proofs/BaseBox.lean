/-
  SymmModel.Proofs.BaseBox — the index box of a shape: `inBox`, `prod`, `ravel`/`unravel`, `allIdx`, and the
  tabulated block `Blk.ofFn`.  Everything about `allIdx` comes from `allIdx_eq_map_unravel`.  Core Lean only,
  so that any proof module may import it.
-/
import SymmModel.Model.Blk
import SymmModel.Proofs.BaseList

namespace SymmModel

theorem inBox_cons {d : Nat} {ds : List Nat} {i : Nat} {is : List Nat} :
    inBox (d :: ds) (i :: is) = true ↔ i < d ∧ inBox ds is = true := by
  simp [inBox]

theorem inBox_length {s i : List Nat} (h : inBox s i = true) : i.length = s.length := by
  induction s generalizing i with
  | nil => cases i <;> simp_all [inBox]
  | cons d ds ih =>
    cases i with
    | nil => simp [inBox] at h
    | cons x xs => simp only [inBox_cons] at h; simp [ih h.2]

theorem inBox_iff {s i : List Nat} :
    inBox s i = true ↔ i.length = s.length ∧ ∀ k, k < s.length → i.getD k 0 < s.getD k 0 := by
  induction s generalizing i with
  | nil => cases i <;> simp [inBox]
  | cons d ds ih =>
    cases i with
    | nil => simp [inBox]
    | cons x xs =>
      rw [inBox_cons, ih, List.length_cons, List.length_cons, Nat.forall_lt_succ_left]
      simp only [List.getD_cons_zero, List.getD_cons_succ, Nat.add_right_cancel_iff, and_left_comm]

theorem inBox_append_take_drop (ds es k : List Nat) :
    inBox (ds ++ es) k = (inBox ds (k.take ds.length) && inBox es (k.drop ds.length)) := by
  induction ds generalizing k with
  | nil => simp [inBox]
  | cons d ds ih =>
    cases k with
    | nil => simp [inBox]
    | cons j k =>
      simp only [List.cons_append, inBox, List.length_cons, List.take_succ_cons, List.drop_succ_cons]
      rw [ih k, Bool.and_assoc]

theorem inBox_append {s1 s2 i1 i2 : List Nat} (h : i1.length = s1.length) :
    inBox (s1 ++ s2) (i1 ++ i2) = (inBox s1 i1 && inBox s2 i2) := by
  rw [inBox_append_take_drop, List.take_left' h, List.drop_left' h]

theorem inBox_split {s1 s2 o : List Nat} (h : inBox (s1 ++ s2) o = true) :
    ∃ o1 o2, o = o1 ++ o2 ∧ o1.length = s1.length ∧ o2.length = s2.length := by
  have hl := inBox_length h
  rw [List.length_append] at hl
  exact ⟨o.take s1.length, o.drop s1.length, (List.take_append_drop _ _).symm,
    by rw [List.length_take, hl]; exact Nat.min_eq_left (Nat.le_add_right _ _),
    by rw [List.length_drop, hl, Nat.add_sub_cancel_left]⟩

theorem prod_append (a b : List Nat) : prod (a ++ b) = prod a * prod b := by
  induction a with
  | nil => simp [prod]
  | cons x xs ih => simp [prod, ih, Nat.mul_assoc]

theorem sumN_append (a b : List Nat) : sumN (a ++ b) = sumN a + sumN b := by
  induction a with
  | nil => simp [sumN]
  | cons x xs ih => simp [sumN, ih, Nat.add_assoc]

theorem prod_pos {s : List Nat} (h : ∀ d ∈ s, 0 < d) : 0 < prod s := by
  induction s with
  | nil => simp [prod]
  | cons d ds ih =>
    simp only [prod]
    exact Nat.mul_pos (h d (by simp)) (ih (fun x hx => h x (by simp [hx])))

theorem prod_perm {l l' : List Nat} (h : l.Perm l') : prod l = prod l' := by
  induction h with
  | nil => rfl
  | cons x _ ih => simp only [prod, ih]
  | swap x y l => simp only [prod]; rw [← Nat.mul_assoc, ← Nat.mul_assoc, Nat.mul_comm y x]
  | trans _ _ ih1 ih2 => exact ih1.trans ih2

theorem sumN_perm {l1 l2 : List Nat} (h : l1.Perm l2) : sumN l1 = sumN l2 := by
  induction h with
  | nil => rfl
  | cons x _ ih => simp [sumN, ih]
  | swap x y l => simp only [sumN]; omega
  | trans _ _ ih1 ih2 => exact ih1.trans ih2

theorem ravel_lt {s i : List Nat} (h : inBox s i = true) : ravel s i < prod s := by
  induction s generalizing i with
  | nil => cases i <;> simp_all [inBox, ravel, prod]
  | cons d ds ih =>
    cases i with
    | nil => simp [inBox] at h
    | cons x xs =>
      simp only [inBox_cons] at h
      simp only [ravel, prod]
      have := ih h.2
      calc x * prod ds + ravel ds xs < x * prod ds + prod ds := by omega
        _ = (x + 1) * prod ds := by rw [Nat.add_mul]; simp
        _ ≤ d * prod ds := Nat.mul_le_mul_right _ h.1

theorem unravel_inBox {s : List Nat} {n : Nat} (h : n < prod s) : inBox s (unravel s n) = true := by
  induction s generalizing n with
  | nil => simp [unravel, inBox]
  | cons d ds ih =>
    simp only [prod] at h
    have hp : 0 < prod ds := by
      rcases Nat.eq_zero_or_pos (prod ds) with h0 | h0
      · rw [h0] at h; simp at h
      · exact h0
    simp only [unravel, inBox_cons]
    exact ⟨(Nat.div_lt_iff_lt_mul hp).mpr h, ih (Nat.mod_lt _ hp)⟩

theorem ravel_unravel {s : List Nat} {n : Nat} (h : n < prod s) : ravel s (unravel s n) = n := by
  induction s generalizing n with
  | nil => simp [prod] at h; simp [ravel, h]
  | cons d ds ih =>
    simp only [prod] at h
    have hp : 0 < prod ds := by
      rcases Nat.eq_zero_or_pos (prod ds) with h0 | h0
      · rw [h0] at h; simp at h
      · exact h0
    simp only [unravel, ravel]
    rw [ih (Nat.mod_lt _ hp)]
    exact Nat.div_add_mod' n (prod ds)

theorem unravel_ravel {s i : List Nat} (h : inBox s i = true) : unravel s (ravel s i) = i := by
  induction s generalizing i with
  | nil => cases i <;> simp_all [inBox, unravel]
  | cons d ds ih =>
    cases i with
    | nil => simp [inBox] at h
    | cons x xs =>
      simp only [inBox_cons] at h
      have hr := ravel_lt h.2
      simp only [ravel, unravel]
      rw [Nat.mul_comm x, Nat.mul_add_div (by omega), Nat.mul_add_mod, Nat.div_eq_of_lt hr,
        Nat.mod_eq_of_lt hr, ih h.2]
      simp

/-! ### `allIdx` lists the box in C order -/

theorem allIdx_eq_map_unravel (s : List Nat) : allIdx s = (List.range (prod s)).map (unravel s) := by
  induction s with
  | nil => rfl
  | cons d ds ih =>
    simp only [allIdx, prod]
    rw [ih]
    induction d with
    | zero => simp
    | succ d ihd =>
      rw [List.range_succ, List.flatMap_append, ihd, List.flatMap_singleton,
        Nat.succ_mul, List.range_add, List.map_append, List.map_map, List.map_map]
      congr 1
      apply List.map_congr_left
      intro r hr
      have hr' : r < prod ds := List.mem_range.mp hr
      have hpos : 0 < prod ds := by omega
      simp only [Function.comp, unravel]
      rw [Nat.mul_comm d, Nat.mul_add_div hpos, Nat.mul_add_mod, Nat.div_eq_of_lt hr',
        Nat.mod_eq_of_lt hr']
      simp

theorem allIdx_length (s : List Nat) : (allIdx s).length = prod s := by
  simp [allIdx_eq_map_unravel]

theorem allIdx_map_ravel (s : List Nat) : (allIdx s).map (ravel s) = List.range (prod s) := by
  rw [allIdx_eq_map_unravel, List.map_map]
  conv => rhs; rw [← List.map_id (List.range (prod s))]
  exact List.map_congr_left (fun n hn => ravel_unravel (List.mem_range.mp hn))

theorem mem_allIdx {s i : List Nat} : i ∈ allIdx s ↔ inBox s i = true := by
  rw [allIdx_eq_map_unravel, List.mem_map]
  constructor
  · rintro ⟨n, hn, rfl⟩
    exact unravel_inBox (List.mem_range.mp hn)
  · intro h
    exact ⟨ravel s i, List.mem_range.mpr (ravel_lt h), unravel_ravel h⟩

theorem allIdx_getElem? {s : List Nat} {n : Nat} (h : n < prod s) :
    (allIdx s)[n]? = some (unravel s n) := by
  rw [allIdx_eq_map_unravel, List.getElem?_map, List.getElem?_range h]; rfl

theorem allIdx_getElem?_ravel {s i : List Nat} (h : inBox s i = true) :
    (allIdx s)[ravel s i]? = some i := by
  rw [allIdx_getElem? (ravel_lt h), unravel_ravel h]

theorem allIdx_single (d : Nat) : allIdx [d] = (List.range d).map (fun k => [k]) := by
  rw [allIdx_eq_map_unravel]
  simp [prod, unravel]

theorem allIdx_nodup (s : List Nat) : (allIdx s).Nodup := by
  rw [allIdx_eq_map_unravel, List.Nodup, List.pairwise_map]
  refine List.Pairwise.imp_of_mem ?_ (List.nodup_range (n := prod s))
  intro a b ha hb hab heq
  apply hab
  rw [← ravel_unravel (List.mem_range.mp ha), ← ravel_unravel (List.mem_range.mp hb), heq]

variable {R : Type}

theorem ofFn_wf (s : List Nat) (f : List Nat → R) : (Blk.ofFn s f).wf = true := by
  simp [Blk.wf, Blk.ofFn, allIdx_length]

theorem ofFn_get [Zero R] (s : List Nat) (f : List Nat → R) {i : List Nat} (h : inBox s i = true) :
    (Blk.ofFn s f).get i = f i := by
  simp only [Blk.get, Blk.ofFn, Array.getD_eq_getD_getElem?, List.getElem?_toArray,
    List.getElem?_map, allIdx_getElem?_ravel h, Option.map_some, Option.getD_some]

theorem ofFn_congr {s : List Nat} {f g : List Nat → R}
    (h : ∀ i, inBox s i = true → f i = g i) : Blk.ofFn s f = Blk.ofFn s g := by
  simp only [Blk.ofFn]
  congr 2
  exact List.map_congr_left (fun i hi => h i (mem_allIdx.1 hi))

theorem range_map_getD [Zero R] (a : Array R) :
    (List.range a.size).map (fun k => a.getD k 0) = a.toList := by
  apply List.ext_getElem
  · simp
  · intro k h1 h2
    simp only [List.length_map, List.length_range] at h1
    simp [Array.getD_eq_getD_getElem?, h1]

theorem allIdx_map_get [Zero R] (b : Blk R) (h : b.wf = true) :
    (allIdx b.shape).map b.get = b.data.toList := by
  have hsz : b.data.size = prod b.shape := by simpa [Blk.wf] using h
  have : (allIdx b.shape).map b.get
      = ((allIdx b.shape).map (ravel b.shape)).map (fun i => b.data.getD i 0) := by
    rw [List.map_map]; rfl
  rw [this, allIdx_map_ravel, ← hsz, range_map_getD]

theorem ofFn_get_self [Zero R] (b : Blk R) (h : b.wf = true) : Blk.ofFn b.shape b.get = b := by
  simp only [Blk.ofFn, allIdx_map_get b h]

theorem blk_ext [Zero R] {b c : Blk R} (hb : b.wf = true) (hc : c.wf = true) (hs : b.shape = c.shape)
    (hg : ∀ i, inBox b.shape i = true → b.get i = c.get i) : b = c := by
  rw [← ofFn_get_self b hb, ← ofFn_get_self c hc, ← hs]
  exact ofFn_congr hg

theorem zeros_get [Zero R] (s i : List Nat) : (Blk.zeros s : Blk R).get i = 0 := by
  simp only [Blk.get, Blk.zeros, Blk.ofFn]
  rw [Array.getD_eq_getD_getElem?]
  cases h : (List.map (fun _ => (0 : R)) (allIdx s)).toArray[ravel s i]? with
  | none => rfl
  | some v =>
    simp only [List.getElem?_toArray, List.getElem?_map, Option.map_eq_some_iff] at h
    obtain ⟨_, _, rfl⟩ := h
    rfl

theorem inBox_permuted {s i : List Nat} (h : inBox s i = true) (axes : List Nat)
    (hax : ∀ q ∈ axes, q < s.length) : inBox (permuted s axes) (permuted i axes) = true := by
  rw [inBox_iff] at h ⊢
  have hax' : ∀ q ∈ axes, q < i.length := fun q hq => h.1 ▸ hax q hq
  refine ⟨by rw [permuted_length _ _ hax, permuted_length _ _ hax'], fun k hk => ?_⟩
  rw [permuted_length _ _ hax] at hk
  rw [getD_permuted _ _ hax' k hk, getD_permuted _ _ hax k hk]
  exact h.2 _ (hax _ (List.getElem_mem hk))

/-- `np.transpose` with axes that are in range and cover every axis: the entry of the transposed block
    at the permuted multi-index is the entry of the block at the multi-index -/
theorem transposeK_get_permuted [Zero R] (b : Blk R) {perm offs : List Nat} {n : Nat}
    (hn : b.shape.length = n) (ho : offs.length = n) (hcover : ∀ ax, ax < n → ax ∈ perm)
    (hlt : ∀ p ∈ perm, p < n)
    (hbox : inBox (permuted b.shape perm) (permuted offs perm) = true) :
    (b.transposeK perm).get (permuted offs perm) = b.get offs := by
  unfold Blk.transposeK
  rw [ofFn_get _ _ hbox]
  refine congrArg _ ?_
  rw [permuted_eq_map offs perm (by rw [ho]; exact hlt) 0]
  apply List.ext_getElem
  · simp [hn, ho]
  · intro ax h1 h2
    simp only [List.length_map, List.length_range] at h1
    simp only [List.getElem_map, List.getElem_range]
    obtain ⟨k, hk1, hk2⟩ := indexOf?_of_mem (hcover ax (by omega))
    simp only [hk1]
    simp [List.getD_eq_getElem?_getD, List.getElem?_map, hk2, List.getElem?_eq_getElem h2]

end SymmModel
