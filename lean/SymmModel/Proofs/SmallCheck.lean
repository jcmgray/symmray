/-
  SymmModel.Proofs.SmallCheck — for `Props/C01d` (C01, the debug-mode audit): `BlockIndex.matches`
  (`RIndex.matchesE` of `Model/Check`) is symmetric, sub-index information and raised errors included,
  under the recursive dict invariant `dictInvB` (distinct keys in every chargemap, extents table and
  extent), which the raw image of a well-formed index has; and the negative axes `check_with`
  accepts, `pyIdx` against `TdotP.normAxis`.
-/
import SymmModel.Proofs.CheckLemmas
import SymmModel.Proofs.TdotLemmas
import Mathlib.Data.List.Perm.Subperm

namespace SymmModel.SmallCheck
open SymmModel Check ValidP CheckP

section dict
variable {κ β : Type} [BEq κ] [LawfulBEq κ]

variable [BEq β] [LawfulBEq β]

/-- the pigeonhole step: equal lengths, distinct keys, every entry of `da` found in `db` ⇒ every
    entry of `db` found in `da` -/
theorem dictEq_imp {da db : List (κ × β)} (ha : (da.map (·.1)).Nodup)
    (h : dictEq da db = true) : dictEq db da = true := by
  unfold dictEq at h ⊢
  simp only [Bool.and_eq_true, beq_iff_eq, List.all_eq_true] at h ⊢
  obtain ⟨hl, hall⟩ := h
  have hsub : da ⊆ db := fun p hp => alookup_some_mem (hall p hp)
  have hnd : da.Nodup := List.Nodup.of_map _ ha
  have hperm : da.Perm db := (hnd.subperm hsub).perm_of_length_le (by omega)
  refine ⟨hl.symm, fun p hp => ?_⟩
  exact alookup_of_mem_nodup ha (hperm.symm.subset hp)

theorem dictEq_symm {da db : List (κ × β)} (ha : (da.map (·.1)).Nodup) (hb : (db.map (·.1)).Nodup) :
    dictEq da db = dictEq db da := by
  rw [Bool.eq_iff_iff]
  exact ⟨dictEq_imp ha, dictEq_imp hb⟩

end dict

mutual
  /-- every chargemap, every extents table and every extent is a dict: distinct keys, recursively
      through the sub-indices.  `Model/Check` keeps the raw dicts as plain lists; this is the part
      of being a Python dict that its types do not enforce. -/
  def dictInvB : RIndex → Bool
    | .mk cm _ none => allDistinct (cm.map (·.1))
    | .mk cm _ (some (subs, exts)) =>
      allDistinct (cm.map (·.1)) && dictInvListB subs && allDistinct (exts.map (·.1))
      && exts.all (fun e => allDistinct (e.2.map (·.1)))
  def dictInvListB : List RIndex → Bool
    | [] => true
    | i :: is => dictInvB i && dictInvListB is
end

theorem dictInvB_cm (cm : List (Charge × Int)) (d : Bool) (s : Option (List RIndex × RExtents))
    (h : dictInvB (.mk cm d s) = true) : (cm.map (·.1)).Nodup := by
  cases s with
  | none => rw [dictInvB] at h; exact allDistinct_iff_nodup.mp h
  | some se =>
    obtain ⟨subs, exts⟩ := se
    rw [dictInvB] at h
    simp only [Bool.and_eq_true] at h
    exact allDistinct_iff_nodup.mp h.1.1.1

theorem dictInvB_some {cm : List (Charge × Int)} {d : Bool} {subs : List RIndex} {exts : RExtents}
    (h : dictInvB (.mk cm d (some (subs, exts))) = true) :
    dictInvListB subs = true ∧ (exts.map (·.1)).Nodup
      ∧ ∀ e ∈ exts, (e.2.map (·.1)).Nodup := by
  rw [dictInvB] at h
  simp only [Bool.and_eq_true, List.all_eq_true] at h
  exact ⟨h.1.1.2, allDistinct_iff_nodup.mp h.1.2, fun e he => allDistinct_iff_nodup.mp (h.2 e he)⟩

theorem dictInvListB_iff (l : List RIndex) : dictInvListB l = true ↔ ∀ i ∈ l, dictInvB i = true := by
  induction l with
  | nil => simp [dictInvListB]
  | cons i is ih => simp [dictInvListB, ih]

abbrev neInt : Int → Int → Bool := fun x y => x != y
abbrev neExt : RExtent → RExtent → Bool := fun x y => !dictEq x y

theorem matchesE_some (cm1 cm2 : List (Charge × Int)) (d1 d2 : Bool) (l1 l2 : List RIndex)
    (e1 e2 : RExtents) :
    RIndex.matchesE (.mk cm1 d1 (some (l1, e1))) (.mk cm2 d2 (some (l2, e2)))
      = if !dictsDontConflict neInt cm1 cm2 then .ok false
        else if !(d1 != d2) then .ok false
        else match RIndex.matchesAll l1 l2 with
          | .ok true => .ok (dictsDontConflict neExt e1 e2)
          | r => r := by
  rw [RIndex.matchesE]
  rfl

theorem matchesE_none_some (cm1 cm2 : List (Charge × Int)) (d1 d2 : Bool) (s2 : List RIndex × RExtents) :
    RIndex.matchesE (.mk cm1 d1 none) (.mk cm2 d2 (some s2))
      = if !dictsDontConflict neInt cm1 cm2 then .ok false
        else if !(d1 != d2) then .ok false else .error Err.attr := by
  rw [RIndex.matchesE]

theorem matchesE_some_none (cm1 cm2 : List (Charge × Int)) (d1 d2 : Bool) (s1 : List RIndex × RExtents) :
    RIndex.matchesE (.mk cm1 d1 (some s1)) (.mk cm2 d2 none)
      = if !dictsDontConflict neInt cm1 cm2 then .ok false
        else if !(d1 != d2) then .ok false else .error Err.attr := by
  rw [RIndex.matchesE]

theorem matchesE_none_none (cm1 cm2 : List (Charge × Int)) (d1 d2 : Bool) :
    RIndex.matchesE (.mk cm1 d1 none) (.mk cm2 d2 none)
      = if !dictsDontConflict neInt cm1 cm2 then .ok false
        else if !(d1 != d2) then .ok false else .ok true := by
  rw [RIndex.matchesE]

theorem bne_comm_bool (d1 d2 : Bool) : (d1 != d2) = (d2 != d1) := by cases d1 <;> cases d2 <;> rfl

theorem ddc_cm_symm {cm1 cm2 : List (Charge × Int)} (h1 : (cm1.map (·.1)).Nodup)
    (h2 : (cm2.map (·.1)).Nodup) :
    dictsDontConflict neInt cm1 cm2 = dictsDontConflict neInt cm2 cm1 :=
  ddc_symm_gen neInt h1 h2 (fun _ va vb _ _ => by
    show (!(va == vb)) = (!(vb == va))
    rw [BEq.comm])

theorem ddc_ext_symm {e1 e2 : RExtents} (h1 : (e1.map (·.1)).Nodup) (h2 : (e2.map (·.1)).Nodup)
    (k1 : ∀ e ∈ e1, (e.2.map (·.1)).Nodup) (k2 : ∀ e ∈ e2, (e.2.map (·.1)).Nodup) :
    dictsDontConflict neExt e1 e2 = dictsDontConflict neExt e2 e1 :=
  ddc_symm_gen neExt h1 h2 (fun k va vb ha hb => by
    show (!dictEq va vb) = (!dictEq vb va)
    rw [dictEq_symm (k1 _ (alookup_some_mem ha)) (k2 _ (alookup_some_mem hb))])

mutual
  theorem matchesE_symm : ∀ (a b : RIndex), dictInvB a = true → dictInvB b = true →
      RIndex.matchesE a b = RIndex.matchesE b a
    | .mk cm1 d1 none, .mk cm2 d2 none, ha, hb => by
      rw [matchesE_none_none, matchesE_none_none,
        ddc_cm_symm (dictInvB_cm _ _ _ ha) (dictInvB_cm _ _ _ hb), bne_comm_bool d1 d2]
    | .mk cm1 d1 none, .mk cm2 d2 (some s2), ha, hb => by
      rw [matchesE_none_some, matchesE_some_none,
        ddc_cm_symm (dictInvB_cm _ _ _ ha) (dictInvB_cm _ _ _ hb), bne_comm_bool d1 d2]
    | .mk cm1 d1 (some s1), .mk cm2 d2 none, ha, hb => by
      rw [matchesE_none_some, matchesE_some_none,
        ddc_cm_symm (dictInvB_cm _ _ _ ha) (dictInvB_cm _ _ _ hb), bne_comm_bool d1 d2]
    | .mk cm1 d1 (some (l1, e1)), .mk cm2 d2 (some (l2, e2)), ha, hb => by
      obtain ⟨a1, a2, a3⟩ := dictInvB_some ha
      obtain ⟨b1, b2, b3⟩ := dictInvB_some hb
      rw [matchesE_some, matchesE_some,
        ddc_cm_symm (dictInvB_cm _ _ _ ha) (dictInvB_cm _ _ _ hb), bne_comm_bool d1 d2,
        matchesAll_symm l1 l2 a1 b1, ddc_ext_symm a2 b2 a3 b3]
  theorem matchesAll_symm : ∀ (l1 l2 : List RIndex), dictInvListB l1 = true → dictInvListB l2 = true →
      RIndex.matchesAll l1 l2 = RIndex.matchesAll l2 l1
    | [], [], _, _ => rfl
    | [], _ :: _, _, _ => by rw [RIndex.matchesAll, RIndex.matchesAll]
    | _ :: _, [], _, _ => by rw [RIndex.matchesAll, RIndex.matchesAll]
    | i :: is, j :: js, h1, h2 => by
      rw [dictInvListB, Bool.and_eq_true] at h1 h2
      rw [RIndex.matchesAll, RIndex.matchesAll, matchesE_symm i j h1.1 h2.1,
        matchesAll_symm is js h1.2 h2.2]
end

theorem extentsToRaw_keys (exts : Extents) : (extentsToRaw exts).map (·.1) = exts.map (·.1) := by
  simp [extentsToRaw, List.map_map, Function.comp_def]

theorem extent_nodup_of_wf {sym : Sym} {cm : List (Charge × Nat)} {d : Bool} {subs : List Index}
    {exts : Extents} (h3 : (exts.map (·.1)).Nodup)
    (h4 : ∀ p ∈ cm, ∃ ext, alookup exts p.1 = some ext ∧ extentOk sym d subs p.1 p.2 ext = true)
    (h5 : ∀ e ∈ exts, (alookup cm e.1).isSome = true) :
    ∀ e ∈ exts, (e.2.map (·.1)).Nodup := by
  intro e he
  obtain ⟨sz, hsz⟩ := Option.isSome_iff_exists.mp (h5 e he)
  obtain ⟨ext, hl, hok⟩ := h4 (e.1, sz) (alookup_some_mem hsz)
  have : alookup exts e.1 = some e.2 := alookup_of_mem_nodup h3 he
  simp only at hl
  rw [this] at hl
  cases hl
  unfold extentOk at hok
  simp only [Bool.and_eq_true] at hok
  exact allDistinct_iff_nodup.mp hok.1.2

mutual
  theorem dictInv_of_wfB (sym : Sym) : ∀ ix : Index, Index.wfB sym ix = true →
      dictInvB (indexToRaw ix) = true
    | .mk cm d none, h => by
      rw [indexToRaw, dictInvB, cmToRaw_keys]
      exact allDistinct_iff_nodup.mpr (sortedCharges_nodup ((wfB_none sym cm d).mp h).1)
    | .mk cm d (some (subs, exts)), h => by
      obtain ⟨h1, h2, h3, h4, h5⟩ := (wfB_some sym cm d subs exts).mp h
      rw [indexToRaw, dictInvB]
      simp only [Bool.and_eq_true, List.all_eq_true]
      refine ⟨⟨⟨?_, dictInvList_of_wfListB sym subs h2⟩, ?_⟩, ?_⟩
      · rw [cmToRaw_keys]; exact allDistinct_iff_nodup.mpr (sortedCharges_nodup h1.1)
      · rw [extentsToRaw_keys]; exact allDistinct_iff_nodup.mpr h3
      · intro e he
        unfold extentsToRaw at he
        obtain ⟨e0, he0, rfl⟩ := List.mem_map.mp he
        have := extent_nodup_of_wf h3 h4 h5 e0 he0
        rw [allDistinct_iff_nodup]
        simpa [List.map_map, Function.comp_def] using this
  theorem dictInvList_of_wfListB (sym : Sym) : ∀ l : List Index, Index.wfListB sym l = true →
      dictInvListB (indexListToRaw l) = true
    | [], _ => by rw [indexListToRaw, dictInvListB]
    | i :: is, h => by
      rw [Index.wfListB, Bool.and_eq_true] at h
      rw [indexListToRaw, dictInvListB, dictInv_of_wfB sym i h.1, dictInvList_of_wfListB sym is h.2]
      rfl
end

theorem normAxis_nat (n k : Nat) (h : k < n) : TdotP.normAxis n (k : Int) = k := by
  unfold TdotP.normAxis
  rw [Int.emod_eq_of_lt (by omega) (by omega)]
  simp

/-- `check_with` reads `self.indices[x]`, `tensordot` first reduces `x % ndim` (`TdotP.normAxis`):
    for `-len ≤ x < len` both reach the same element -/
theorem pyIdx_norm {α : Type} (l : List α) (x : Int) (h1 : -(l.length : Int) ≤ x)
    (h2 : x < (l.length : Int)) : pyIdx l x = l[TdotP.normAxis l.length x]? := by
  unfold pyIdx TdotP.normAxis
  by_cases hx : 0 ≤ x
  · rw [if_pos hx, Int.emod_eq_of_lt hx h2]
  · rw [if_neg hx, if_pos (by omega)]
    have : x % (l.length : Int) = (l.length : Int) + x := by
      rw [← Int.add_emod_right, Int.emod_eq_of_lt (by omega) (by omega)]
      omega
    rw [this]

end SymmModel.SmallCheck
