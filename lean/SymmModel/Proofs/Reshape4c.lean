/-
  SymmModel.Proofs.Reshape4c — the exact round trip of `reshape` for one merged run of adjacent axes:
  `reshape` there is `fuse((p,…,p+n-1))` with the identity transposition, `reshape` back is
  `unfuse(p)` (`reshape_back_single`); for fermionic arrays `C05.unfuseF_fuseF` says that the signs
  cancel.
-/
import SymmModel.Proofs.Reshape4b
import SymmModel.Props.C05d
import SymmModel.Proofs.NormLemmas

namespace SymmModel
namespace Reshape4
open C07 ReshapeP

variable {R : Type}

/-- `z` is `a` again: same kind, indices, symmetry, charge, labels; every stored sector of `a` is
    stored with the same block shape and — pending signs included — the same values; every
    additional stored block has value zero -/
structure Restored [Zero R] [Neg R] (a z : Arr R) : Prop where
  valid : z.validB = true
  fermi : z.fermi = a.fermi
  indices : z.indices = a.indices
  sym : z.sym = a.sym
  charge : z.charge = a.charge
  oddpos : z.oddpos = a.oddpos
  stored : ∀ s b, (s, b) ∈ a.blocks → ∃ V, alookup z.blocks s = some V ∧ V.shape = b.shape
    ∧ ∀ J, inBox V.shape J = true → z.elem s J = a.elem s J
  extra : ∀ K V, alookup z.blocks K = some V → (∀ s b, (s, b) ∈ a.blocks → K ≠ s) →
    ∀ J, inBox V.shape J = true → z.elem K J = 0

theorem symFuse_single (st : SymShape) (p n : Nat) (hn : 1 ≤ n) (hle : p + n ≤ st.length) :
    symFuse st [List.range' p n]
      = some (st.take p ++ [symGroup st (List.range' p n)] ++ st.drop (p + n)) := by
  obtain ⟨m, rfl⟩ : ∃ m, n = m + 1 := ⟨n - 1, by omega⟩
  unfold symFuse
  simp only [List.flatten_cons, List.flatten_nil, List.append_nil]
  rw [List.range'_succ]
  simp only [List.all_cons, List.all_nil, List.isEmpty_cons, Bool.not_false, Bool.and_true,
    Bool.true_and, List.length_cons, List.length_range']
  rw [← List.range'_succ, beqNats_refl]
  have : Nat.ble (p + (m + 1)) st.length = true := Nat.ble_eq_true_of_le hle
  simp [this]

theorem groupsOk_single (p n N : Nat) (hn : 1 ≤ n) (hle : p + n ≤ N) :
    FuseP.groupsOkB [List.range' p n] N = true := by
  rw [FuseP.groupsOk_iff]
  refine groupsOk_of_flat (P := p) (by simp) ?_ (by simp) (by simpa using hle)
  intro g hg hc
  have := congrArg List.length (List.mem_singleton.mp hg ▸ hc)
  simp at this; omega

theorem groupInfo_single (a : Arr R) (p n : Nat) (hn : 1 ≤ n) (hle : p + n ≤ a.ndim) :
    (calcFuseGroupInfo [List.range' p n] a.duals).position = p
      ∧ (calcFuseGroupInfo [List.range' p n] a.duals).perm = List.range a.ndim :=
  groupInfo_run a (FuseP.groupsOk_iff.1 (groupsOk_single p n a.ndim hn hle)) (by simp) (by simpa using hle)

theorem permuted_range_of_length {α : Type} {l : List α} {n : Nat} (h : l.length = n) :
    permuted l (List.range n) = l := h ▸ permuted_range l

theorem applyPlan_single_fuse [Zero R] [Neg R] (a : Arr R) (groups : List (List Nat)) :
    applyPlan a ([], [groups], []) = fuseDispatch a groups := by
  simp only [applyPlan, List.foldlM_cons, List.foldlM_nil, bind, Except.bind, pure, Except.pure]
  cases fuseDispatch a groups <;> rfl

/-- unfusing the groups of a fuse call with one multi-axis group is one unfuse step -/
theorem foldlM_single_group {f : Arr R → Nat → Except Err (Arr R)} {g : List Nat} {P : Nat} {y z : Arr R}
    (hg : 2 ≤ g.length)
    (h : (List.range [g].length).reverse.foldlM
      (fun x k => if FuseP.multiB [g] k then f x (P + k) else pure x) y = .ok z) :
    f y P = .ok z := by
  have hm : FuseP.multiB [g] 0 = true := FuseP.multiB_iff.2 ⟨_, rfl, by omega⟩
  have e0 : (List.range [g].length).reverse = [0] := rfl
  rw [e0] at h
  simp only [List.foldlM_cons, List.foldlM_nil, hm, if_true, Nat.add_zero, bind, Except.bind,
    pure, Except.pure] at h
  cases hu : f y P with
  | error e => rw [hu] at h; cases h
  | ok v => rw [hu] at h; exact h

theorem reshape_back_single [Zero R] [Neg R] (a y : Arr R) (p n : Nat) (hn : 2 ≤ n)
    (hle : p + n ≤ a.ndim) (hnf : ∀ ix ∈ a.indices, ix.sub = none)
    (hyd : fuseDispatch a [List.range' p n] = .ok y) {ix : Index} {subIdx : List Index} {exts : Extents}
    (hix : y.indices[p]? = some ix) (hsub : ix.sub = some (subIdx, exts))
    (hidx : a.indices = replaceWithSeq y.indices p subIdx) :
    y.fermi = a.fermi ∧ reshapeArr y (a.shape.map Int.ofNat) = unfuseDispatch y p := by
  have hsim := ValidP.sim_init a
  have hsl : (a.shape.zip a.subsizes).length = a.ndim := by
    rw [← ValidP.Sim.ndim_eq hsim]
  have hsf := symFuse_single (a.shape.zip a.subsizes) p n (by omega) (by rw [hsl]; exact hle)
  obtain ⟨hsy, hyf⟩ := ValidP.fuseDispatch_sim hsim hsf hyd
  have hynd : y.ndim = p + 1 + (a.ndim - (p + n)) := by
    rw [← ValidP.Sim.ndim_eq hsy]
    simp only [List.length_append, List.length_take, List.length_drop, List.length_cons,
      List.length_nil, hsl, Nat.min_eq_left (by omega : p ≤ a.ndim)]
  -- `y` has fewer axes than `a`, so the fused axis has at least one sub-index
  have hsn : subIdx ≠ [] := by
    intro hc
    have h1 := congrArg List.length hidx
    rw [hc] at h1
    have hp := (List.getElem?_eq_some_iff.mp hix).1
    simp only [replaceWithSeq, List.append_nil, List.length_append, List.length_take,
      List.length_drop] at h1
    have : a.indices.length = a.ndim := rfl
    have : y.indices.length = y.ndim := rfl
    omega
  exact ⟨hyf, reshape_back_eq y a p ix subIdx exts hix hsub hsn hidx hnf⟩

theorem roundtrip_fermionic_single [Zero R] [Neg R] [Lazy.LawfulNeg R] (a : Arr R) (p n : Nat)
    (hv : a.validB = true) (hf : a.fermi = true) (hnf : ∀ ix ∈ a.indices, ix.sub = none)
    (hn : 2 ≤ n) (hle : p + n ≤ a.ndim) :
    ∃ y z, applyPlan a ([], [[List.range' p n]], []) = .ok y
      ∧ reshapeArr y (a.shape.map Int.ofNat) = .ok z ∧ Restored a z := by
  have hgok := groupsOk_single p n a.ndim (by omega) hle
  obtain ⟨y, z, hy, hz, hzv, hzf, hzi, hzs, hzc, hzo, hst, hex⟩ :=
    C05.unfuseF_fuseF a [List.range' p n] true hv hf hgok
  obtain ⟨hpos, hperm⟩ := groupInfo_single a p n (by omega) hle
  rw [hpos] at hz
  rw [hperm] at hzi hst hex
  have hyd : fuseDispatch a [List.range' p n] = .ok y := by
    simp only [fuseDispatch, hf, if_true]; exact hy
  have hzu : Arr.unfuseF y p = .ok z := foldlM_single_group (by simpa using hn) hz
  obtain ⟨ix, subIdx, exts, hix, hsub, hzidx, _⟩ := ValidP.unfuseF_indices hzu
  -- the identity transposition changes nothing that can be observed
  have hfull := Lazy.Full.of_valid hv hf
  have hobs := Norm.transposeF_id_obsEq hfull (Lazy.ShapeLen.of_valid hv)
  have hzia : z.indices = a.indices := by rw [hzi]; exact hobs.indices
  obtain ⟨hyf, hback⟩ := reshape_back_single a y p n hn hle hnf hyd hix hsub (by rw [← hzia, hzidx])
  refine ⟨y, z, by rw [applyPlan_single_fuse, hyd], ?_, hzv, by rw [hzf, hf], hzia, hzs, hzc, hzo, ?_, ?_⟩
  · rw [hback]
    simp only [unfuseDispatch, hyf, hf, if_true]
    exact hzu
  · intro s b hsb
    have e1 := permuted_range_of_length (hfull.len s (List.mem_map_of_mem (f := (·.1)) hsb))
    have e2 := permuted_range_of_length (Lazy.ShapeLen.of_valid hv _ hsb)
    obtain ⟨V, hV, hVs, hVe⟩ := hst s b hsb
    rw [e1] at hV hVe
    rw [e2] at hVs
    exact ⟨V, hV, hVs, fun J hJ => (hVe J hJ).trans (hobs.elem s J)⟩
  · intro K V hl hK J hJ
    refine (hex K V hl (fun s b hsb => ?_) J hJ).1
    rw [permuted_range_of_length (hfull.len s (List.mem_map_of_mem (f := (·.1)) hsb))]
    exact hK s b hsb

end Reshape4
end SymmModel
