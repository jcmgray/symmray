/-
  SymmModel.Proofs.Dense5b — single-operand einsum with traced labels at dense level, part 1:
  the assembly of an operand index / sector / offset list from the output part and the traced
  part (`asm`), how it reads at kept and traced axes, and the assembly of addresses (`located_asm`
  over `TdotP.Located`); that a contributing stored sector is such an assembly is Proofs/Dense5c.lean.
-/
import SymmModel.Proofs.Dense5a
import SymmModel.Proofs.TdotMore
import SymmModel.Proofs.Dense4c

namespace SymmModel
namespace Dense5
open TdotP

variable {R : Type}

/-- the operand list assembled from the output list `i` and the traced list `t`
    (`einIdx` for an arbitrary element type) -/
def asm {α : Type} (d : α) (lhs rhs : List Nat) (i t : List α) : List α :=
  lhs.map (fun q =>
    match indexOf? rhs q with
    | some j => i.getD j d
    | none => match indexOf? (einTraced lhs rhs) q with
              | some j => t.getD j d
              | none => d)

theorem einIdx_eq_asm (lhs rhs : List Nat) (i t : List Nat) : einIdx lhs rhs i t = asm 0 lhs rhs i t := rfl

@[simp] theorem length_asm {α : Type} (d : α) (lhs rhs : List Nat) (i t : List α) :
    (asm d lhs rhs i t).length = lhs.length := by simp [asm]

/-- first position of a label -/
def fpos (lhs : List Nat) (lab : Nat) : Nat := (indexOf? lhs lab).getD 0

/-- the hypotheses on an einsum equation `lhs -> rhs`: output labels distinct, each occurring
    exactly once on the left; every other label of `lhs` is traced -/
structure EqOk (lhs rhs : List Nat) : Prop where
  rnd : rhs.Nodup
  rsub : ∀ q ∈ rhs, q ∈ lhs
  once : ∀ (k : Nat) (hk : k < lhs.length), lhs[k] ∈ rhs → indexOf? lhs lhs[k] = some k

theorem indexOf?_spec {l : List Nat} {a k : Nat} (h : indexOf? l a = some k) : l[k]? = some a :=
  indexOf?_eq_some h

theorem mem_einTraced {lhs rhs : List Nat} {q : Nat} : q ∈ einTraced lhs rhs ↔ q ∈ lhs ∧ q ∉ rhs := by
  simp [einTraced, List.mem_eraseDups, List.mem_filter]

theorem einTraced_nodup (lhs rhs : List Nat) : (einTraced lhs rhs).Nodup := by
  unfold einTraced; exact nodup_eraseDups _

theorem asm_kept {α : Type} (d : α) {lhs rhs : List Nat} (i t : List α) {k j : Nat}
    (hk : k < lhs.length) (hj : indexOf? rhs lhs[k] = some j) :
    (asm d lhs rhs i t)[k]? = some (i.getD j d) := by
  simp [asm, List.getElem?_map, List.getElem?_eq_getElem hk, hj]

theorem asm_traced {α : Type} (d : α) {lhs rhs : List Nat} (i t : List α) {k j : Nat}
    (hk : k < lhs.length) (hr : lhs[k] ∉ rhs) (hj : indexOf? (einTraced lhs rhs) lhs[k] = some j) :
    (asm d lhs rhs i t)[k]? = some (t.getD j d) := by
  simp [asm, List.getElem?_map, List.getElem?_eq_getElem hk, indexOf?_eq_none_iff.mpr hr, hj]

theorem axis_cases {lhs rhs : List Nat} {k : Nat} (hk : k < lhs.length) :
    (∃ j, indexOf? rhs lhs[k] = some j ∧ rhs[j]? = some lhs[k])
    ∨ (lhs[k] ∉ rhs ∧ ∃ j, indexOf? (einTraced lhs rhs) lhs[k] = some j
        ∧ (einTraced lhs rhs)[j]? = some lhs[k]) := by
  by_cases h : lhs[k] ∈ rhs
  · left
    obtain ⟨j, h1, h2⟩ := indexOf?_of_mem h
    exact ⟨j, h1, h2⟩
  · right
    refine ⟨h, ?_⟩
    obtain ⟨j, h1, h2⟩ := indexOf?_of_mem (mem_einTraced.mpr ⟨List.getElem_mem hk, h⟩)
    exact ⟨j, h1, h2⟩

theorem einPermOf_getElem? {lhs rhs : List Nat} {j : Nat} {lab : Nat} (h : rhs[j]? = some lab) :
    (Dense4.einPermOf lhs rhs)[j]? = some (fpos lhs lab) := by
  simp [Dense4.einPermOf, List.getElem?_map, h, fpos]

theorem permuted_asm {α : Type} (d : α) {lhs rhs : List Nat} (hok : EqOk lhs rhs) (i t : List α)
    (hi : i.length = rhs.length) :
    permuted (asm d lhs rhs i t) (Dense4.einPermOf lhs rhs) = i := by
  have hlt := Dense4.einPermOf_lt hok.rsub
  apply List.ext_getElem?
  intro j
  rw [permuted_getElem? _ _ (by simpa using hlt)]
  by_cases hj : j < rhs.length
  · have hr : rhs[j]? = some rhs[j] := List.getElem?_eq_getElem hj
    rw [einPermOf_getElem? hr]
    simp only [Option.bind_some]
    obtain ⟨k, hk1, hk2⟩ := indexOf?_of_mem (hok.rsub _ (List.getElem_mem hj))
    have hkl := FuseP.getElem?_lt hk2
    have hkk : lhs[k] = rhs[j] := by
      rw [List.getElem?_eq_getElem hkl] at hk2; exact Option.some.inj hk2
    have hjj : indexOf? rhs lhs[k] = some j := by
      rw [hkk]; exact indexOf?_getElem hok.rnd hj
    simp only [fpos, hk1, Option.getD_some]
    rw [asm_kept d i t hkl hjj]
    simp [List.getD_eq_getElem?_getD, List.getElem?_eq_getElem (by rw [hi]; exact hj : j < i.length)]
  · rw [List.getElem?_eq_none (by simp [Dense4.einPermOf]; omega)]
    rw [List.getElem?_eq_none (by omega)]
    rfl

/-- the index of every traced label (the index at its first position) -/
def tracedIdx (a : Arr R) (lhs rhs : List Nat) : List Index :=
  (einTraced lhs rhs).map (fun lab => a.indices.getD (fpos lhs lab) default)

/-- axes carrying the same label have the same (sorted) charge table -/
def TabOk (a : Arr R) (lhs : List Nat) : Prop :=
  ∀ (k k' : Nat) (hk : k < lhs.length) (hk' : k' < lhs.length), lhs[k] = lhs[k'] →
    Index.sortCm (a.indices.getD k default).cm = Index.sortCm (a.indices.getD k' default).cm

theorem fpos_spec {lhs : List Nat} {lab : Nat} (h : lab ∈ lhs) :
    ∃ hk : fpos lhs lab < lhs.length, lhs[fpos lhs lab] = lab := by
  obtain ⟨k, h1, h2⟩ := indexOf?_of_mem h
  have hkl := FuseP.getElem?_lt h2
  refine ⟨by simp [fpos, h1, hkl], ?_⟩
  simp only [fpos, h1, Option.getD_some]
  rw [List.getElem?_eq_getElem hkl] at h2
  exact Option.some.inj h2

theorem located_asm (a : Arr R) {lhs rhs : List Nat} (hl : lhs.length = a.indices.length)
    (hok : EqOk lhs rhs) (htab : TabOk a lhs) {q t : List Nat} {s' cs : Sector} {o' u : List Nat}
    (h1 : Located (permuted a.indices (Dense4.einPermOf lhs rhs)) q s' o')
    (h2 : Located (tracedIdx a lhs rhs) t cs u) :
    Located a.indices (asm 0 lhs rhs q t) (asm (0, 0) lhs rhs s' cs) (asm 0 lhs rhs o' u) := by
  have hlt : ∀ p ∈ Dense4.einPermOf lhs rhs, p < a.indices.length := by
    intro p hp; rw [← hl]; exact Dense4.einPermOf_lt hok.rsub p hp
  have hpl : (permuted a.indices (Dense4.einPermOf lhs rhs)).length = rhs.length := by
    rw [permuted_length _ _ hlt]; simp [Dense4.einPermOf]
  obtain ⟨q1, q2, q3, q4⟩ := h1
  obtain ⟨t1, t2, t3, t4⟩ := h2
  rw [hpl] at q1 q2 q3
  have hTl : (tracedIdx a lhs rhs).length = (einTraced lhs rhs).length := by simp [tracedIdx]
  rw [hTl] at t1 t2 t3
  refine ⟨by simp [hl], by simp [hl], by simp [hl], ?_⟩
  intro k ix p0 c o hix hp0 hc ho
  have hk : k < lhs.length := by rw [hl]; exact FuseP.getElem?_lt hix
  have hixd : a.indices.getD k default = ix := by simp [List.getD_eq_getElem?_getD, hix]
  rcases axis_cases (rhs := rhs) hk with ⟨j, hj1, hj2⟩ | ⟨hnr, j, hj1, hj2⟩
  · have hjl := FuseP.getElem?_lt hj2
    rw [asm_kept 0 q t hk hj1] at hp0
    rw [asm_kept (0, 0) s' cs hk hj1] at hc
    rw [asm_kept 0 o' u hk hj1] at ho
    simp only [Option.some.injEq] at hp0 hc ho
    subst hp0; subst hc; subst ho
    have hmem : lhs[k] ∈ rhs := List.mem_of_getElem? hj2
    have hfp : fpos lhs lhs[k] = k := by simp [fpos, hok.once k hk hmem]
    refine q4 j ix _ _ _ ?_ ?_ ?_ ?_
    · rw [permuted_getElem? _ _ hlt, einPermOf_getElem? hj2, hfp]; exact hix
    · simp [List.getD_eq_getElem?_getD, List.getElem?_eq_getElem (by rw [q1]; exact hjl : j < q.length)]
    · simp [List.getD_eq_getElem?_getD, List.getElem?_eq_getElem (by rw [q2]; exact hjl : j < s'.length)]
    · simp [List.getD_eq_getElem?_getD, List.getElem?_eq_getElem (by rw [q3]; exact hjl : j < o'.length)]
  · have hjl := FuseP.getElem?_lt hj2
    rw [asm_traced 0 q t hk hnr hj1] at hp0
    rw [asm_traced (0, 0) s' cs hk hnr hj1] at hc
    rw [asm_traced 0 o' u hk hnr hj1] at ho
    simp only [Option.some.injEq] at hp0 hc ho
    subst hp0; subst hc; subst ho
    obtain ⟨hfl, hfe⟩ := fpos_spec (List.getElem_mem hk : lhs[k] ∈ lhs)
    have htabk := htab k (fpos lhs lhs[k]) hk hfl hfe.symm
    rw [hixd] at htabk
    rw [htabk]
    refine t4 j _ _ _ _ ?_ ?_ ?_ ?_
    · simp [tracedIdx, List.getElem?_map, hj2]
    · simp [List.getD_eq_getElem?_getD, List.getElem?_eq_getElem (by rw [t1]; exact hjl : j < t.length)]
    · simp [List.getD_eq_getElem?_getD, List.getElem?_eq_getElem (by rw [t2]; exact hjl : j < cs.length)]
    · simp [List.getD_eq_getElem?_getD, List.getElem?_eq_getElem (by rw [t3]; exact hjl : j < u.length)]


end Dense5
end SymmModel
